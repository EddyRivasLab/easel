import EaselModel.Alphabet.CtorLemmas
import EaselModel.Alphabet.RevcompLemmas
import EaselModel.Alphabet.ScoreLemmas
import EaselModel.Alphabet.CustomLemmas
import EaselModel.Alphabet.CatLemmas
import EaselModel.Alphabet.SqLemmas
import EaselModel.Alphabet.DealignLemmas
import EaselModel.Alphabet.CustomDegen
import EaselModel.Alphabet.DegenLemmas
import EaselModel.Alphabet.ScVecLemmas
import EaselModel.Alphabet.GuessLemmas
import EaselModel.Alphabet.TypeLemmas
import EaselModel.Alphabet.SqTableLemmas
import EaselModel.Alphabet.ValidateLemmas
import EaselModel.Alphabet.HistoryLemmas
import EaselModel.Alphabet.SqResidueLemmas
import EaselModel.Alphabet.IntScoreLemmas
import EaselModel.Alphabet.MsaGuessLemmas
import EaselModel.Alphabet.SetterLemmas
import EaselModel.Alphabet.GuessCutoffLemmas
import EaselModel.Alphabet.SqCopyLemmas
import EaselModel.Alphabet.FetchLemmas
import EaselModel.Alphabet.ObjLemmas
import EaselModel.Alphabet.CaseLemmas
import EaselModel.Alphabet.ChecksumLemmas
import EaselModel.Alphabet.CopyReuseLemmas
import EaselModel.Alphabet.TableLemmas
/-! # C08 — property theorems (the loop and table lemmas they rest on are in Alphabet/*.lean)

`G.dna`, `G.rna`, `G.amino`, `G.coins`, `G.dice` are the tables dumped from the code under check on this run
(`Generated/Alphabets.lean`); `Iupac.*` is the hand-written statement of the IUPAC codes. Table theorems are closed by
`decide` over the whole table. The conversion theorems hold for EVERY alphabet (standard or custom) satisfying the stated
well-formedness predicate and EVERY byte string — no bound on the length. -/
namespace EaselModel.Props.C08
open EaselModel.Alphabet EaselModel.Alphabet.Alphabet EaselModel.Alphabet.Iupac
namespace G
export EaselModel.Generated.Alphabets (dna rna amino coins dice c_SENTINEL c_ILLEGAL c_IGNORED c_EOL c_EOD
  c_eslRNA c_eslDNA c_eslAMINO c_eslCOINS c_eslDICE c_eslNONSTANDARD dna_symlen rna_symlen amino_symlen)
end G

/-- the hand model of `create_dna()` … `create_dice()` (CreateCustom + SetEquiv + SetCaseInsensitive + SetDegeneracy +
    set_complementarity) reproduces every field of the dumped tables (for the two toy alphabets every field except the
    `type` tag, which no conversion reads and which the hand model of `create_dice()` sets to eslCOINS) -/
theorem ctor_reproduces_tables :
    createDna = some G.dna ∧ createRna = some G.rna ∧ createAmino = some G.amino ∧
    createCoins.map (fun a => { a with type := 0 }) = some { G.coins with type := 0 } ∧
    createDice.map (fun a => { a with type := 0 }) = some { G.dice with type := 0 } :=
  ⟨createDna_regenerated, createRna_regenerated, createAmino_regenerated, by decide +kernel, by decide +kernel⟩

theorem constants_agree :
    G.c_SENTINEL = SENTINEL ∧ G.c_ILLEGAL = ILLEGAL ∧ G.c_IGNORED = IGNORED ∧ G.c_EOL = EOL ∧ G.c_EOD = EOD ∧
    G.c_eslRNA = eslRNA ∧ G.c_eslDNA = eslDNA ∧ G.c_eslAMINO = eslAMINO ∧ G.c_eslNONSTANDARD = eslNONSTANDARD ∧
    G.dna_symlen = G.dna.Kp ∧ G.rna_symlen = G.rna.Kp ∧ G.amino_symlen = G.amino.Kp := by decide

/-- symbol strings and the order convention: K canonical residues, gap at K, degeneracies, any at Kp-3, nonresidue at
    Kp-2, missing at Kp-1; canonical residues denote themselves, `any` all of them, gap/nonresidue/missing nothing -/
theorem symbol_order :
    OrderOK .dna G.dna ∧ OrderOK .rna G.rna ∧ OrderOK .amino G.amino ∧ OrderOK .coins G.coins ∧ OrderOK .dice G.dice := by
  decide +kernel

/-- every one of the 128 input characters is read as its canonical (upper-case, synonym-free) symbol, or is illegal -/
theorem inmap_canonical :
    InmapCanonical .dna G.dna ∧ InmapCanonical .rna G.rna ∧ InmapCanonical .amino G.amino ∧
    InmapCanonical .coins G.coins ∧ InmapCanonical .dice G.dice := by
  have key : ∀ (k : Kind) (a : Alphabet), (a.inmap.length = 128 ∧ ∀ p ∈ a.inmap.zipIdx,
      p.1 = match canonOf k (Char.ofNat p.2) with
        | some s => (symbols k).idxOf s
        | none => ILLEGAL) → InmapCanonical k a :=
    fun _ _ h => (forall_getD_of_zipIdx ILLEGAL h.1 h.2 :)
  exact ⟨key _ _ (by decide +kernel), key _ _ (by decide +kernel), key _ _ (by decide +kernel), key _ _ (by decide +kernel),
    key _ _ (by decide +kernel)⟩

/-- each symbol denotes exactly its documented (IUPAC) set of canonical residues -/
theorem degen_is_iupac :
    DegenIsIupac .dna G.dna ∧ DegenIsIupac .rna G.rna ∧ DegenIsIupac .amino G.amino ∧
    DegenIsIupac .coins G.coins ∧ DegenIsIupac .dice G.dice := by decide +kernel

theorem ndegen_is_card :
    NdegenIsCard .dna G.dna ∧ NdegenIsCard .rna G.rna ∧ NdegenIsCard .amino G.amino ∧
    NdegenIsCard .coins G.coins ∧ NdegenIsCard .dice G.dice := by decide +kernel

/-- the complement table is an involution on the codes (nucleic alphabets); the others have none -/
theorem complement_involutive :
    HasInvolutiveComplement G.dna ∧ HasInvolutiveComplement G.rna ∧
    G.amino.complement = none ∧ G.coins.complement = none ∧ G.dice.complement = none := by decide +kernel

/-- complementing a symbol complements its set: `y ∈ set (comp x)` iff the Watson-Crick partner of `y` is in `set x`;
    gap, nonresidue, missing and `any` are fixed -/
theorem complement_complements_set :
    ComplementComplementsSet .dna G.dna ∧ ComplementComplementsSet .rna G.rna := by decide +kernel

/-- the standard alphabets satisfy the hypotheses of the general theorems below (non-vacuity of `WF`, `WFDegen`) -/
theorem std_wf :
    (G.dna.WF ∧ G.rna.WF ∧ G.amino.WF ∧ G.coins.WF ∧ G.dice.WF) ∧
    (G.dna.WFDegen ∧ G.rna.WFDegen ∧ G.amino.WFDegen ∧ G.coins.WFDegen ∧ G.dice.WFDegen) := by decide +kernel

/-- `esl_abc_Digitize` yields sentinel, the code of every non-ignored character in order (case/synonyms resolved by the
    input map; a character outside the alphabet — including any byte ≥ 0x80 — becomes the `any` code), sentinel; and the
    status is `eslOK` iff every character belongs to the alphabet. No hypothesis on the alphabet. -/
theorem digitize_spec (a : Alphabet) (seq : List Nat) :
    a.digitize seq =
      (if seq.all a.charOK then .ok else .einval, SENTINEL :: seq.filterMap a.code ++ [SENTINEL]) :=
  digitize_eq_spec a seq

/-- invalid input is reported exactly when some character is outside the alphabet -/
theorem digitize_status (a : Alphabet) (seq : List Nat) :
    ((a.digitize seq).1 = .einval ↔ ∃ c ∈ seq, a.charOK c = false) ∧
    ((a.digitize seq).1 = .ok ↔ ∀ c ∈ seq, a.charOK c = true) := by
  rw [digitize_eq_spec]; unfold digitizeSpec
  cases h : seq.all a.charOK <;> simp [← List.all_eq_true, h]
  simpa using h

/-- the output is sentinel-delimited: every inner code is a valid code `< Kp`, hence no inner byte is a sentinel -/
theorem digitize_sentinels (a : Alphabet) (h : 3 ≤ a.Kp) (hk : a.Kp ≤ 250) (seq : List Nat) :
    (a.digitize seq).2 = mkDsq (seq.filterMap a.code) ∧
    ∀ x ∈ seq.filterMap a.code, x < a.Kp ∧ x ≠ SENTINEL := by
  rw [digitize_eq_spec]
  refine ⟨rfl, fun x hx => ?_⟩
  have := filterMap_code_lt a h seq x hx
  exact ⟨this, by unfold SENTINEL; omega⟩

/-- `esl_abc_Textize` of a digital sequence of valid codes spells each code with its symbol; no out-of-bounds read -/
theorem textize_spec (a : Alphabet) (codes : List Nat) (hc : ∀ x ∈ codes, x < a.sym.length) :
    a.textize (mkDsq codes) codes.length = some (codes.map a.symAt) :=
  textize_mkDsq a codes hc

/-- digitise ∘ textise ∘ digitise = digitise, with status `eslOK` on the second digitisation -/
theorem digitize_textize_digitize (a : Alphabet) (h : a.WF) (seq : List Nat) :
    ∃ t, a.textize (a.digitize seq).2 (seq.filterMap a.code).length = some t ∧
      a.digitize t = (.ok, (a.digitize seq).2) := by
  have hkp : 3 ≤ a.Kp := by have := h.1; omega
  have hlt := filterMap_code_lt a hkp seq
  refine ⟨(seq.filterMap a.code).map a.symAt, ?_, ?_⟩
  · rw [digitize_eq_spec]
    exact textize_mkDsq a _ (fun x hx => by rw [h.2.2.1]; exact hlt x hx)
  · rw [digitize_textized a h _ hlt, digitize_eq_spec]; rfl

/-- textising a digitised string gives the canonical upper-case spelling of every character (`N`/`X` for a character
    outside the alphabet), for the three biosequence alphabets and the two toy alphabets, for every 8-bit string -/
theorem textize_canonical_spelling (seq : List Nat) (hb : ∀ c ∈ seq, c < 256) :
    G.dna.textize (G.dna.digitize seq).2 seq.length = some (seq.map (spell .dna)) ∧
    G.rna.textize (G.rna.digitize seq).2 seq.length = some (seq.map (spell .rna)) ∧
    G.amino.textize (G.amino.digitize seq).2 seq.length = some (seq.map (spell .amino)) ∧
    G.coins.textize (G.coins.digitize seq).2 seq.length = some (seq.map (spell .coins)) ∧
    G.dice.textize (G.dice.digitize seq).2 seq.length = some (seq.map (spell .dice)) := by
  obtain ⟨i1, i2, i3, i4, i5⟩ := inmap_canonical
  obtain ⟨o1, o2, o3, o4, o5⟩ := symbol_order
  exact ⟨textize_digitize_canonical _ _ i1 o1 seq, textize_digitize_canonical _ _ i2 o2 seq, textize_digitize_canonical _ _ i3 o3 seq,
    textize_digitize_canonical _ _ i4 o4 seq, textize_digitize_canonical _ _ i5 o5 seq⟩

/-- `esl_abc_revcomp` (the in-place pairwise swap loop + odd middle element) = reverse the residues and complement each;
    sentinels untouched; no out-of-bounds read for valid codes -/
theorem revcomp_spec (a : Alphabet) (comp : List Nat) (hc : a.complement = some comp) (codes : List Nat)
    (hv : ∀ x ∈ codes, x < comp.length) :
    a.revcomp (mkDsq codes) codes.length = .ok (some (mkDsq (codes.reverse.map (compAt comp)))) :=
  revcomp_window a comp hc SENTINEL codes [SENTINEL] hv

/-- reverse-complementing twice is the identity, for every digital sequence of valid codes and every alphabet whose
    complement table is an involution (also for a prefix `n ≤ L`) -/
theorem revcomp_involutive (a : Alphabet) (comp : List Nat) (hc : a.complement = some comp) (hw : a.WFComp comp)
    (codes : List Nat) (hv : ∀ x ∈ codes, x < a.Kp) (n : Nat) (hn : n ≤ codes.length) :
    ∃ d', a.revcomp (mkDsq codes) n = .ok (some d') ∧ a.revcomp d' n = .ok (some (mkDsq codes)) := by
  -- the array is `sentinel, the first n codes, the rest`: `esl_abc_revcomp` works on the middle part only
  have hW : (codes.take n).length = n := List.length_take_of_le hn
  have hin : ∀ x ∈ codes.take n, x < a.Kp := fun x hx => hv x (List.mem_of_mem_take hx)
  have e : mkDsq codes = SENTINEL :: (codes.take n ++ (codes.drop n ++ [SENTINEL])) := by
    rw [← List.append_assoc, List.take_append_drop]; rfl
  have h1 := revcomp_window a comp hc SENTINEL (codes.take n) (codes.drop n ++ [SENTINEL]) (fun x hx => by rw [hw.1]; exact hin x hx)
  have h2 := revcomp_window_twice a comp hc hw SENTINEL (codes.take n) (codes.drop n ++ [SENTINEL]) hin
  rw [hW] at h1 h2
  exact ⟨_, e ▸ h1, e ▸ h2⟩

/-- `esl_abc_dsqcat_noalloc` with an input map whose entries are codes ≤ 127, ILLEGAL or IGNORED: keeps the old residues,
    appends the code of every non-ignored byte (`inmap[0]` for an illegal or 8-bit byte), terminates with a sentinel, returns
    `eslEINVAL` iff some byte was illegal, and never raises the eslEINCONCEIVABLE exception -/
theorem dsqcat_spec (inmap : List Nat) (h : InmapClean inmap) (codes s : List Nat) :
    dsqcatNoalloc inmap (mkDsq codes) codes.length s =
      .ok (if s.all (catOK inmap) then .ok else .einval, mkDsq (codes ++ s.filterMap (catCode inmap)),
           codes.length + (s.filterMap (catCode inmap)).length) :=
  dsqcatNoalloc_spec inmap h codes s

/-- with the input map a sequence reader derives from an alphabet (`inmap[0] := unknown`), appending a NUL-free line is
    exactly digitising it: same codes as `esl_abc_Digitize`, same status -/
theorem dsqcat_appends_digitization (a : Alphabet)
    (hclean : ∀ c, c < 128 → a.inmapAt c < a.Kp ∨ a.inmapAt c = ILLEGAL ∨ a.inmapAt c = IGNORED)
    (hKp : a.Kp ≤ 128) (hlen : a.inmap.length = 128) (codes s : List Nat) (hnul : ∀ c ∈ s, c ≠ 0) :
    dsqcatNoalloc (a.inmap.set 0 a.unknown) (mkDsq codes) codes.length s =
      .ok ((a.digitize s).1, mkDsq (codes ++ s.filterMap a.code), codes.length + (s.filterMap a.code).length) :=
  dsqcat_is_digitize a hclean hKp hlen codes s hnul

/-- the hypotheses of `dsqcat_appends_digitization` hold for the built-in alphabets -/
theorem std_inmap_clean :
    ∀ a ∈ [G.dna, G.rna, G.amino, G.coins, G.dice], a.Kp ≤ 128 ∧ a.inmap.length = 128 ∧
      ∀ c, c < 128 → a.inmapAt c < a.Kp ∨ a.inmapAt c = ILLEGAL ∨ a.inmapAt c = IGNORED := by
  have h : ∀ a ∈ [G.dna, G.rna, G.amino, G.coins, G.dice], a.Kp ≤ 128 ∧ a.inmap.length = 128 ∧
      ∀ x ∈ a.inmap, x < a.Kp ∨ x = ILLEGAL ∨ x = IGNORED := by decide +kernel
  intro a ha
  obtain ⟨h1, h2, h3⟩ := h a ha
  exact ⟨h1, h2, (forall_getD_of_zipIdx ILLEGAL h2 fun p hp => h3 p.1 (List.mem_of_getElem? (List.mem_zipIdx_iff_getElem?.mp hp)) :)⟩

/-- the hand-written `switch` of text-mode `esl_sq_ReverseComplement` agrees, character by character, with the digital
    complement tables of the DNA and RNA alphabets -/
theorem sq_text_complement_table :
    (∀ comp ∈ G.dna.complement, Sq.TextCompOK G.dna comp) ∧ (∀ comp ∈ G.rna.complement, Sq.TextCompOK G.rna comp) := by
  decide +kernel

/-- … hence for every text sequence over characters the switch knows, reverse-complementing in text mode and digitising
    gives the digital sequence whose codes are the reversed complemented codes (= `esl_abc_revcomp`, `revcomp_spec`) -/
theorem sq_text_revcomp_agrees (a : Alphabet) (comp : List Nat) (h : Sq.TextCompOK a comp) (s : List Nat)
    (hs : ∀ c ∈ s, c < 128 ∧ (Sq.compChar c).isSome = true) :
    (Sq.revcompText s).1 = .ok ∧
    a.digitize (Sq.revcompText s).2 = (.ok, mkDsq ((s.filterMap a.code).reverse.map (compAt comp))) :=
  Sq.text_revcomp_digitize a comp h s hs

/-- `esl_abc_CDealign`: the in-place compaction of an annotation string against a digital reference leaves exactly the
    characters aligned to non-gap, non-missing reference positions (`keptOf`), and reports their number -/
theorem cdealign_spec (a : Alphabet) (s refs : List Nat) (hs : SENTINEL ∉ refs) (hl : refs.length ≤ s.length) :
    a.cDealign s (mkDsq refs) = some (keptOf a refs s, (keptOf a refs s).length) :=
  cDealign_spec a s refs hs hl

/-- `esl_abc_XDealign`: the same for a digital sequence, sentinels restored -/
theorem xdealign_spec (a : Alphabet) (xs refs : List Nat) (hs : SENTINEL ∉ refs) (hl : refs.length ≤ xs.length) :
    a.xDealign (mkDsq xs) (mkDsq refs) = some (mkDsq (keptOf a refs xs), (keptOf a refs xs).length) :=
  xDealign_spec a xs refs hs hl

/-- `esl_alphabet_CreateCustom` on distinct non-NUL 7-bit symbols (`1 ≤ K`, `K+4 ≤ Kp`) succeeds and gives a well-formed
    alphabet with exactly that symbol string and no complement table -/
theorem custom_create_wf (syms : List Nat) (K : Nat) (hnd : syms.Nodup) (hascii : ∀ s ∈ syms, s < 128)
    (hK : 1 ≤ K) (hKp : K + 4 ≤ syms.length) (h250 : syms.length ≤ 250) :
    ∃ a, createCustom syms K syms.length = some a ∧ a.WF ∧ a.K = K ∧ a.Kp = syms.length ∧ a.sym = syms ∧
      a.complement = none :=
  createCustom_wf syms K hnd hascii hK hKp h250

/-- every custom alphabet (CreateCustom followed by any SetEquiv / SetCaseInsensitive / SetDegeneracy calls, and
    SetIgnored calls that spare the alphabet's own symbols) is well-formed -/
theorem custom_alphabets_wf (a : Alphabet) (h : Built a) : a.WF := built_wf a h

/-- … hence digitising is faithful for every custom alphabet and every string: digitise ∘ textise ∘ digitise = digitise -/
theorem custom_digitize_textize_digitize (a : Alphabet) (h : Built a) (seq : List Nat) :
    ∃ t, a.textize (a.digitize seq).2 (seq.filterMap a.code).length = some t ∧
      a.digitize t = (.ok, (a.digitize seq).2) :=
  digitize_textize_digitize a (built_wf a h) seq

/-- the degeneracy tables of a freshly created custom alphabet are well-formed (so `avg_score_is_mean`,
    `count_splits_equally` … apply to it): a canonical residue denotes itself, `any` (code Kp−3) all K residues -/
theorem custom_create_wfdegen (syms : List Nat) (K : Nat) (a : Alphabet) (hK : 1 ≤ K) (hKp : K + 4 ≤ syms.length)
    (h : createCustom syms K syms.length = some a) :
    a.WFDegen ∧ (∀ x, x < K → a.degenSet x = [x]) ∧ a.degenSet (syms.length - 3) = List.range K :=
  createCustom_wfdegen syms K a hK hKp h

/-- the input-map operations never disturb the degeneracy tables -/
theorem custom_inmap_ops_keep_degen (a : Alphabet) (h : a.WFDegen) (sym c : Nat) (chars : List Nat) :
    (a.setEquiv sym c).2.WFDegen ∧ a.setCaseInsensitive.2.WFDegen ∧ (a.setIgnored chars).WFDegen :=
  ⟨setEquiv_wfdegen a h sym c, setCaseInsensitive_wfdegen a h, setIgnored_wfdegen a h chars⟩

/-- `esl_alphabet_SetDegeneracy(a, c, ds)` that returns eslOK, lists pairwise distinct residues and none that is already
    a member keeps `ndegen[x]` = size of the set of row `x` for every symbol (the C code adds one to `ndegen` per listed
    character without looking at the row, so a repeated or already present residue breaks the equality — the averaging
    theorems then no longer apply; `create_dna/rna/amino` satisfy the hypothesis: `std_wf`) -/
theorem setdegeneracy_keeps_ndegen (a : Alphabet) (h : a.WFDegen) (c : Nat) (ds : List Nat)
    (hok : (a.setDegeneracy c ds).1 = .ok) (hnd : (ds.filterMap a.strchrSym).Nodup)
    (hfresh : ∀ x, a.strchrSym c = some x → ∀ y ∈ ds.filterMap a.strchrSym, (a.degen.getD x []).getD y 0 = 0) :
    (a.setDegeneracy c ds).2.WFDegen :=
  setDegeneracy_wfdegen a h c ds hnd hfresh

/-- `esl_abc_{F,D}AvgScVec`: exactly the degenerate slots `K < x ≤ Kp-3` are filled, each with the mean of the canonical
    scores over the set of `x`; canonical scores, gap, nonresidue and missing slots are untouched; no out-of-bounds access -/
theorem avg_scvec_spec (a : Alphabet) (h : a.WFDegen) (hK : a.K + 4 ≤ a.Kp) (sc : List ℚ) (hl : sc.length = a.Kp) :
    ∃ r, a.avgScVec sc = some r ∧ r.length = a.Kp ∧
      ∀ x, r.getD x 0 = if a.K < x ∧ x + 3 ≤ a.Kp
        then ((a.degenSet x).map fun i => sc.getD i 0).sum / ((a.degenSet x).length : ℚ) else sc.getD x 0 :=
  scVec_fill 0 a hK sc hl _ _ fun x cur hres hx hcl hag => by
    rw [avgScore_mean a h x hx hres cur (by omega)]
    congr 3
    exact List.map_congr_left fun i hi => hag i (degenSet_lt a x i hi)

/-- `esl_abc_GuessAlphabet` (model): eslOK iff a type was assigned, the type is unknown/RNA/DNA/amino, and a composition
    of ten residues or fewer is never classified -/
theorem guess_alphabet_basic (ct : List Int) :
    (((Guess.guessAlphabet ct).1 = true ↔ (Guess.guessAlphabet ct).2 ≠ 0) ∧ (Guess.guessAlphabet ct).2 ≤ 3) ∧
    (Guess.total ct ≤ 10 → Guess.guessAlphabet ct = (false, 0)) :=
  ⟨Guess.guess_status ct, Guess.guess_small ct⟩


/-! ## `esl_abc_GuessAlphabet` / `esl_sq_GuessAlphabet`: what an answer guarantees

`Guess.guessZ` is the classifier with the tests `d <= 0.02*n` written `50*d ≤ n`; the driver runs it next to the
`Float` model on every generated composition (counts up to 2^33, exact 2 % boundaries) and both against the code.
`Guess.Counts ct`: every counter is in `[0, 2^31)` (the C code reads counters through an `int`). Letter numbers:
A=0 C=2 G=6 N=13 T=19 U=20 X=23; `Guess.aaonly` = EFIJLOPQZ, `Guess.allcanon` = ACG, `Guess.aacanon` = DHKMRSVWY. -/

/-- never an answer on ten residues or fewer — for arbitrary (even negative) counters -/
theorem guess_never_on_small (ct : List Int) (h : Guess.total ct ≤ 10) :
    Guess.guessZ ct = 0 ∧ Guess.guessAlphabet ct = (false, 0) :=
  ⟨Guess.guessZ_small ct h, Guess.guess_small ct h⟩

/-- answer DNA ⇒ > 10 residues and (all-N special case with > 2000 residues, or: no amino-only letter, ≥ 98 % ACGTN, all of
    A, C, G, T occur) -/
theorem guess_dna_guarantee (ct : List Int) (h : Guess.Counts ct) (hg : Guess.guessZ ct = 2) :
    Guess.total ct > 10 ∧
    ((Guess.total ct > 2000 ∧ ct.getD 13 0 = Guess.total ct) ∨
     (Guess.sumOf ct Guess.aaonly = 0 ∧
      50 * (Guess.total ct - (ct.getD 0 0 + ct.getD 2 0 + ct.getD 6 0 + ct.getD 19 0 + ct.getD 13 0)) ≤ Guess.total ct ∧
      ct.getD 0 0 > 0 ∧ ct.getD 2 0 > 0 ∧ ct.getD 6 0 > 0 ∧ ct.getD 19 0 > 0)) := by
  rcases Guess.guessZ_cases ct h with ⟨_, e⟩ | ⟨c1, ⟨c2, _⟩ | ⟨_, ⟨_, e⟩ | ⟨c3, ⟨⟨d1, d2⟩, _⟩ | ⟨_, _, e⟩ | ⟨_, _, e⟩⟩⟩⟩
  · omega
  · exact ⟨c1, Or.inl c2⟩
  · omega
  · exact ⟨c1, Or.inr ⟨c3, by rw [Guess.sumOf_allcanon] at d1; omega, Guess.seen4 ct 19 d2⟩⟩
  · omega
  · omega

/-- answer RNA ⇒ > 10 residues, no amino-only letter, ≥ 98 % ACGUN, all of A, C, G, U occur -/
theorem guess_rna_guarantee (ct : List Int) (h : Guess.Counts ct) (hg : Guess.guessZ ct = 1) :
    Guess.total ct > 10 ∧ Guess.sumOf ct Guess.aaonly = 0 ∧
    50 * (Guess.total ct - (ct.getD 0 0 + ct.getD 2 0 + ct.getD 6 0 + ct.getD 20 0 + ct.getD 13 0)) ≤ Guess.total ct ∧
    ct.getD 0 0 > 0 ∧ ct.getD 2 0 > 0 ∧ ct.getD 6 0 > 0 ∧ ct.getD 20 0 > 0 := by
  rcases Guess.guessZ_cases ct h with ⟨_, e⟩ | ⟨c1, ⟨_, e⟩ | ⟨_, ⟨_, e⟩ | ⟨c3, ⟨_, e⟩ | ⟨_, ⟨d1, d2⟩, _⟩ | ⟨_, _, e⟩⟩⟩⟩
  · omega
  · omega
  · omega
  · omega
  · exact ⟨c1, c3, by rw [Guess.sumOf_allcanon] at d1; omega, Guess.seen4 ct 20 d2⟩
  · omega

/-- answer amino ⇒ > 10 residues and (an amino-only letter occurs, or: ≥ 98 % of the residues are ACG, DHKMRSVWY, N, T, X;
    DHKMRSVWY outnumber ACG; at least 15 different letters occur) -/
theorem guess_amino_guarantee (ct : List Int) (h : Guess.Counts ct) (hg : Guess.guessZ ct = 3) :
    Guess.total ct > 10 ∧
    (Guess.sumOf ct Guess.aaonly > 0 ∨
     (50 * (Guess.total ct - (Guess.sumOf ct Guess.allcanon + Guess.sumOf ct Guess.aacanon + ct.getD 13 0 + ct.getD 19 0 +
        ct.getD 23 0)) ≤ Guess.total ct ∧
      Guess.sumOf ct Guess.aacanon > Guess.sumOf ct Guess.allcanon ∧
      Guess.seen ct Guess.aaonly + Guess.seen ct Guess.allcanon + Guess.seen ct Guess.aacanon + Guess.seen ct [13] +
        Guess.seen ct [19] ≥ 15)) :=
  have := (Guess.guessZ_amino_iff ct h).mp hg
  ⟨this.1, Or.inl this.2.2⟩

/-- **observation (dead rule)**: on counts, the answer is amino iff an amino-only letter (EFIJLOPQZ) occurs in a sample of
    more than 10 residues that is not the all-N special case. The third documented rule (≥ 98 % amino-acid letters, ≥ 15
    different residues) is unreachable: without an amino-only letter at most 3+9+1+1 = 14 different letters are counted. -/
theorem guess_amino_iff_giveaway (ct : List Int) (h : Guess.Counts ct) :
    Guess.guessZ ct = 3 ↔ Guess.total ct > 10 ∧ ¬ (Guess.total ct > 2000 ∧ ct.getD 13 0 = Guess.total ct) ∧
      Guess.sumOf ct Guess.aaonly > 0 :=
  Guess.guessZ_amino_iff ct h

/-- the only answers are unknown/RNA/DNA/amino, and an amino-only letter decides for amino (documented "giveaway") -/
theorem guess_aaonly_decides (ct : List Int) (h : Guess.Counts ct) (hn : Guess.total ct > 10)
    (hN : ¬ (Guess.total ct > 2000 ∧ ct.getD 13 0 = Guess.total ct)) (hp : Guess.sumOf ct Guess.aaonly > 0) :
    Guess.guessZ ct = 3 ∧ ∀ ct', Guess.guessZ ct' ≤ 3 :=
  ⟨(Guess.guessZ_amino_iff ct h).mpr ⟨hn, hN, hp⟩, Guess.guessZ_le⟩

/-- the counting loop of `esl_sq_GuessAlphabet` on a sequence with at most 10000 letters: counter `l` = number of
    occurrences of letter `l` in either case (other bytes, also 8-bit ones, are skipped), and the counters satisfy `Counts`
    (so the three guarantees apply to `esl_sq_GuessAlphabet`) -/
theorem sq_guess_counts (seq : List Nat) (hb : ∀ c ∈ seq, c < 256) (hn : Guess.nLetters seq ≤ 10000) :
    (∀ l, l < 26 → (Guess.sqCount seq (List.replicate 26 0) 0).getD l 0 = ((seq.filter fun c => Guess.isLetter c l).length : Int)) ∧
    Guess.Counts (Guess.sqCount seq (List.replicate 26 0) 0) :=
  ⟨fun l hl => by
      have := (Guess.sqCount_all seq hb).1 l hl
      rwa [Guess.takeLetters_all 10001 seq (by omega)] at this,
   (Guess.sqCount_all seq hb).2⟩

example : Guess.Counts [30, 0, 25, 0, 0, 0, 28, 0, 0, 0, 0, 0, 0, 1, 0, 0, 0, 0, 0, 27, 0, 0, 0, 0, 0, 0] :=
  Guess.counts_of_all _ (by decide)
example : Guess.guessZ [30, 0, 25, 0, 0, 0, 28, 0, 0, 0, 0, 0, 0, 1, 0, 0, 0, 0, 0, 27, 0, 0, 0, 0, 0, 0] = 2 := by decide
example : Guess.guessZ [30, 0, 25, 0, 0, 0, 28, 0, 0, 0, 0, 0, 0, 1, 0, 0, 0, 0, 0, 0, 27, 0, 0, 0, 0, 0] = 1 := by decide
example : Guess.guessZ [30, 0, 25, 0, 1, 0, 28, 0, 0, 0, 0, 0, 0, 1, 0, 0, 0, 0, 0, 27, 0, 0, 0, 0, 0, 0] = 3 := by decide
example : Guess.guessZ [5, 0, 3, 9, 0, 0, 4, 9, 0, 0, 9, 0, 9, 2, 0, 0, 0, 9, 9, 3, 0, 9, 9, 1, 9, 0] = 0 := by decide
example : Guess.guessZ [49, 0, 49, 3, 0, 0, 49, 0, 0, 0, 0, 0, 0, 0, 0, 0, 0, 0, 0, 0, 0, 0, 0, 0, 0, 0] = 0 := by decide
example : Guess.sqGuessZ (str "acgtACGTacgtN") = 2 := by decide

/-- round trip over the enumerated types: `EncodeType (DecodeType t) = t` for unknown, RNA, DNA, amino, coins, dice, custom;
    other codes have no name (eslEINVAL exception, NULL) -/
theorem type_roundtrip :
    (∀ t ∈ [(0 : Int), 1, 2, 3, 4, 5, 6], (AbcType.decodeType t).map AbcType.encodeType = some t.toNat) ∧
    (∀ t : Int, t < 0 ∨ t > 6 → AbcType.decodeType t = none) :=
  ⟨by decide, AbcType.decode_none⟩

/-- unknown strings ⇒ eslUNKNOWN, exactly: the answer is eslUNKNOWN iff the string equals none of the six names up to case -/
theorem type_unknown_strings (s : List Nat) :
    AbcType.encodeType s = AbcType.eslUNKNOWN ↔ ∀ p ∈ AbcType.names, AbcType.strcaseEq s p.1 = false := by
  unfold AbcType.encodeType
  cases h : AbcType.names.find? (fun p => AbcType.strcaseEq s p.1) with
  | none =>
    simp only [true_iff]
    intro p hp
    have := List.find?_eq_none.mp h p hp
    simpa using this
  | some p =>
    have hm := List.mem_of_find?_eq_some h
    have hs := List.find?_some h
    simp only []
    constructor
    · intro e; exact absurd e (AbcType.names_nonzero p hm).1
    · intro hall; rw [hall p hm] at hs; cases hs

/-- any other answer is the code whose name the string spells (up to case) -/
theorem type_encode_sound (s : List Nat) (h : AbcType.encodeType s ≠ AbcType.eslUNKNOWN) :
    ∃ name, AbcType.decodeType (AbcType.encodeType s) = some name ∧ AbcType.strcaseEq s name = true := by
  unfold AbcType.encodeType at h ⊢
  cases hf : AbcType.names.find? (fun p => AbcType.strcaseEq s p.1) with
  | none => rw [hf] at h; exact absurd rfl h
  | some p =>
    have hm := List.mem_of_find?_eq_some hf
    have hs := List.find?_some hf
    simp only [] at hs ⊢
    obtain ⟨_, h2⟩ := AbcType.names_nonzero p hm
    cases hd : AbcType.decodeType p.2 with
    | none => rw [hd] at h2; cases h2
    | some name =>
      rw [hd] at h2
      simp only [Option.map_some, Option.some.injEq] at h2
      exact ⟨name, rfl, AbcType.strcaseEq_trans s p.1 name hs h2⟩

/-- `esl_abc_EncodeTypeMem` (its own `toupper` loop, `esl_memstrcmp_case`) answers as `esl_abc_EncodeType` (`strcasecmp`) -/
theorem type_mem_agrees (s : List Nat) : AbcType.encodeTypeMem s = AbcType.encodeType s := by
  unfold AbcType.encodeTypeMem AbcType.encodeType
  have : (fun p : List Nat × Nat => AbcType.memstrcmpCase s p.1) = (fun p => AbcType.strcaseEq s p.1) :=
    funext fun p => AbcType.memstrcmpCase_eq s p.1
  rw [this]

/-- `esl_abc_ValidateType(t) = eslOK` iff `1 ≤ t ≤ eslNONSTANDARD` iff `t` has a name and is not eslUNKNOWN -/
theorem type_validate (t : Int) :
    (AbcType.validateType t = true ↔ 1 ≤ t ∧ t ≤ 6) ∧
    (AbcType.validateType t = true ↔ t ≠ 0 ∧ (AbcType.decodeType t).isSome = true) :=
  ⟨AbcType.validateType_iff t, by
    rw [AbcType.validateType_iff]
    constructor
    · intro h
      exact ⟨by omega, AbcType.decode_isSome t (by omega) h.2⟩
    · intro ⟨h0, hs⟩
      by_cases hr : t < 0 ∨ t > 6
      · rw [AbcType.decode_none t hr] at hs; cases hs
      · omega⟩

/-- the model of Decode/Encode/ValidateType answers, for the codes 0..8, what the code under check answered on this run -/
theorem type_tables_regenerated :
    (List.range 9).map (fun t : Nat => AbcType.decodeType (Int.ofNat t)) = Generated.AlphabetsAux.decodeType ∧
    (List.range 9).map (fun t : Nat => match AbcType.decodeType (Int.ofNat t) with | some s => AbcType.encodeType s | none => 999)
      = Generated.AlphabetsAux.encodeOfDecode ∧
    (List.range 9).map (fun t : Nat => AbcType.validateType (Int.ofNat t)) = Generated.AlphabetsAux.validType ∧
    Generated.AlphabetsAux.c_eslUNKNOWN = AbcType.eslUNKNOWN := by
  decide

example : AbcType.encodeType (str "AmInO") = 3 ∧ AbcType.encodeType (str "protein") = 0 ∧ AbcType.encodeTypeMem (str "Rna") = 1 := by
  decide

/-- the hand-written `switch` of text-mode `esl_sq_ReverseComplement` as read off the code on this run (the function is
    called on all 256 one-byte sequences) is the model's `Sq.compChar`: same case/default decision and same output byte -/
theorem sq_text_switch_regenerated :
    Generated.AlphabetsAux.textRevcomp.length = 256 ∧
    ∀ c, c < 256 → Sq.compChar c = Sq.compCharG c ∧
      (Generated.AlphabetsAux.textRevcomp.getD c (0, 0)).1 = (Sq.compChar c).getD 78 :=
  Sq.compChar_regenerated

/-- for EVERY symbol of the DNA and of the RNA alphabet (canonical, gap, all degenerate IUPAC codes, any, `*`, `~`), in
    upper and in lower case: Textize, complement with the text-mode switch, Digitize = the digital complement; the
    switch preserves case -/
theorem sq_text_revcomp_every_symbol :
    (∀ comp ∈ G.dna.complement, Sq.TextCompSymbols G.dna comp) ∧ (∀ comp ∈ G.rna.complement, Sq.TextCompSymbols G.rna comp) := by
  decide +kernel

/-- the switch has a case for every character the DNA / RNA input map accepts except the synonym `I`/`i` (inosine, read
    as A by the digital alphabets; text mode answers `N` + eslEINVAL) -/
theorem sq_text_switch_covers_alphabet :
    ∀ a ∈ [G.dna, G.rna], ∀ c, c < 128 → a.cIsValid c = true → (Sq.compChar c).isSome = true ∨ c = 73 ∨ c = 105 := by
  decide +kernel

/-- `esl_abc_ValidateSeq(a, seq, L, errbuf)` returns eslOK iff no byte is bad (with an alphabet: not `esl_abc_CIsValid`,
    which excludes ignored characters and bytes ≥ 0x80; without one: not 7-bit); otherwise eslEINVAL, and the message is
    "invalid char C at pos P" for one bad byte or "N invalid chars (including C at pos P)" for N > 1, with N the number of
    bad bytes, C the first of them and P its 1-based position -/
theorem validateseq_spec (a : Option Alphabet) (seq : List Nat) :
    (validateSeqMsg a seq =
      let nbad := (seq.filter (isBad a)).length
      let p := firstBad a seq
      if nbad = 0 then (.ok, [])
      else if nbad = 1 then (.einval, str "invalid char " ++ [seq.getD p 0] ++ str s!" at pos {p+1}")
      else (.einval, str s!"{nbad} invalid chars (including " ++ [seq.getD p 0] ++ str s!" at pos {p+1})")) ∧
    ((validateSeqMsg a seq).1 = .ok ↔ ∀ c ∈ seq, isBad a c = false) :=
  ⟨validateSeqMsg_spec a seq, validateSeq_ok_iff a seq⟩

/-- `esl_sq_Digitize`: eslOK iff every character is valid for `esl_abc_ValidateSeq`; then the digital sequence has exactly
    one code per character (`sq->n` stays right: ignored characters are rejected by the validation, none is dropped) and
    the second-stage `esl_abc_Digitize` cannot fail; otherwise eslEINVAL and the sequence is left in text mode -/
theorem sq_digitize_spec (a : Alphabet) (seq : List Nat) :
    Sq.sqDigitize a seq = (if seq.all a.cIsValid then .ok (mkDsq (seq.map a.inmapAt)) else .error .einval) ∧
    Sq.validateSeq a seq = (validateSeqMsg (some a) seq).1 :=
  ⟨sqDigitize_spec a seq, sqValidateSeq_eq a seq⟩

/-- `esl_abc_ConvertDegen2X` (and `esl_sq_ConvertDegen2X`): every degenerate code becomes `any`, all other codes and the
    sentinels stay; the map is idempotent and keeps codes valid -/
theorem convert_degen2x_spec (a : Alphabet) (h : a.K + 4 ≤ a.Kp) (codes : List Nat) (hs : SENTINEL ∉ codes) :
    a.convertDegen2X (mkDsq codes) = some (mkDsq (codes.map fun x => if a.xIsDegenerate x then a.unknown else x)) ∧
    ∀ x, (let f := fun x => if a.xIsDegenerate x then a.unknown else x
          f (f x) = f x ∧ (a.xIsDegenerate x = false → f x = x) ∧ (x < a.Kp → f x < a.Kp)) :=
  ⟨convertDegen2X_spec a codes hs, degen2X_idem a h⟩

/-- `esl_abc_{F,D}ExpectScVec`: exactly the degenerate slots `K < x ≤ Kp-3` are filled, each with the `p`-weighted mean of
    the canonical scores over the set of `x`; all other slots untouched; no out-of-bounds access -/
theorem expect_scvec_spec (a : Alphabet) (h : a.WFDegen) (hK : a.K + 4 ≤ a.Kp) (sc p : List ℚ) (hl : sc.length = a.Kp)
    (hp : a.K ≤ p.length) :
    ∃ r, a.expectScVec sc p = some r ∧ r.length = a.Kp ∧
      ∀ x, r.getD x 0 = if a.K < x ∧ x + 3 ≤ a.Kp
        then ((a.degenSet x).map fun i => sc.getD i 0 * p.getD i 0).sum / ((a.degenSet x).map fun i => p.getD i 0).sum
        else sc.getD x 0 :=
  scVec_fill 0 a hK sc hl _ _ fun x cur hres hx hcl hag => by
    rw [expectScore_weighted a h x hx hres cur p (by omega) hp]
    congr 3
    exact List.map_congr_left fun i hi => by rw [hag i (degenSet_lt a x i hi)]

example : G.dna.convertDegen2X (mkDsq [0, 5, 4, 15, 16, 11]) = some (mkDsq [0, 15, 4, 15, 16, 15]) := by decide +kernel
example : (validateSeqMsg (some G.dna) (str "AC!G?")).1 = .einval := by decide +kernel
example : Sq.sqDigitize G.dna (str "acgn") = .ok (mkDsq [0, 1, 2, 15]) := by decide +kernel

/-- **`WF` is preserved by EVERY history** of `SetEquiv / SetCaseInsensitive / SetDegeneracy / SetIgnored` calls (any
    arguments, statuses not checked between calls) on a `CreateCustom` alphabet over distinct 7-bit symbols, provided no
    `SetIgnored` names a symbol; sizes and symbol string never change; one status per call -/
theorem custom_history_wf (syms : List Nat) (K : Nat) (hnd : syms.Nodup) (hascii : ∀ s ∈ syms, s < 128)
    (hK : 1 ≤ K) (hKp : K + 4 ≤ syms.length) (h250 : syms.length ≤ 250) (a : Alphabet)
    (h : createCustom syms K syms.length = some a) (hist : List Call) (hs : ∀ c ∈ hist, c.spares syms) :
    (a.run hist).2.WF ∧ (a.run hist).2.K = K ∧ (a.run hist).2.Kp = syms.length ∧ (a.run hist).2.sym = syms ∧
    (a.run hist).1.length = hist.length := by
  obtain ⟨a', h1, hw, e1, e2, e3, _⟩ := createCustom_wf syms K hnd hascii hK hKp h250
  rw [h] at h1; cases h1
  obtain ⟨r1, r2, r3, r4⟩ := run_fields hist a
  exact ⟨run_wf hist a hw (fun c hc => by rw [e3]; exact hs c hc), r1.trans e1, r2.trans e2, r3.trans e3, r4⟩

/-- … and after every history (no side condition at all) the order convention still holds: canonical residues denote
    themselves, `any` all `K` residues — `SetDegeneracy` can only ever touch the rows `K < x < Kp-3` -/
theorem custom_history_order (syms : List Nat) (K : Nat) (a : Alphabet) (hK : 1 ≤ K) (hKp : K + 4 ≤ syms.length)
    (h : createCustom syms K syms.length = some a) (hist : List Call) :
    (∀ x, x < K → (a.run hist).2.degenSet x = [x] ∧ (a.run hist).2.ndegen.getD x 0 = 1) ∧
    (a.run hist).2.degenSet (syms.length - 3) = List.range K ∧ (a.run hist).2.ndegen.getD (syms.length - 3) 0 = K :=
  run_order syms K a hK hKp h hist

/-- documented statuses: CreateCustom fails (NULL) iff the string length is not Kp, Kp < K+4 or K = 0; SetEquiv is eslOK iff
    the new character is not yet a symbol and the target is one (else eslEINVAL, alphabet unchanged) -/
theorem custom_create_setequiv_status (a : Alphabet) (syms : List Nat) (K Kp sym c : Nat) (hs : sym ≠ 0) (hc : c ≠ 0) :
    (createCustom syms K Kp = none ↔ syms.length ≠ Kp ∨ Kp < K + 4 ∨ K = 0) ∧
    ((a.setEquiv sym c).1 = .ok ↔ sym ∉ a.sym ∧ c ∈ a.sym) ∧
    ((a.setEquiv sym c).1 ≠ .ok → (a.setEquiv sym c).1 = .einval ∧ (a.setEquiv sym c).2 = a) ∧
    ((a.setEquiv sym c).1 = .ok → (a.setEquiv sym c).2 = { a with inmap := a.inmap.set sym (a.sym.idxOf c) }) :=
  ⟨createCustom_none_iff syms K Kp, setEquiv_status a sym c hs hc⟩

/-- SetDegeneracy is eslOK iff the symbol is one of the degenerate symbols `K < x < Kp-3` (not canonical, gap, `any`,
    nonresidue, missing or foreign) and every listed residue is a canonical symbol, else eslEINVAL;
    SetCaseInsensitive raises eslECORRUPT at a letter iff both cases are valid and map to different codes -/
theorem custom_setdegeneracy_caseins_status (a : Alphabet) (c : Nat) (ds : List Nat) (lc : Nat) :
    ((a.setDegeneracy c ds).1 = .ok ↔
      ∃ x, a.strchrSym c = some x ∧ a.K < x ∧ x + 3 < a.Kp ∧ ∀ d ∈ ds, ∃ y, a.strchrSym d = some y ∧ y < a.K) ∧
    ((a.setDegeneracy c ds).1 = .ok ∨ (a.setDegeneracy c ds).1 = .einval) ∧
    (a.caseStep lc = none ↔ a.cIsValid lc = true ∧ a.cIsValid (toUpper lc) = true ∧ a.inmapAt (toUpper lc) ≠ a.inmapAt lc) ∧
    (a.setCaseInsensitive.1 = .ok ∨ a.setCaseInsensitive.1 = .ecorrupt) :=
  ⟨(setDegeneracy_status a c ds).1, (setDegeneracy_status a c ds).2, caseStep_none_iff a lc, caseLoop_status _ a⟩


/-- `esl_sq_CreateDigital` + `esl_sq_XAddResidue` per code + the terminating sentinel = `sentinel, codes, sentinel` with
    `n = |codes|`; with the allocation size in the model (`esl_sq_Grow`: 256 cells, doubled on demand), no store is ever
    outside the allocation. Text mode (`esl_sq_Create` + `esl_sq_CAddResidue` + NUL) likewise. -/
theorem sq_add_residue_spec (codes bytes : List Nat) (hs : SENTINEL ∉ codes) (hb : 0 ∉ bytes) :
    (∃ g, (Sq.addAll Sq.xAddResidue Sq.createDigital codes).bind (fun g => Sq.xAddResidue g SENTINEL) = some g ∧
      g.buf = mkDsq codes ∧ g.n = codes.length ∧ g.n + 2 ≤ g.salloc) ∧
    (∃ g, (Sq.addAll Sq.cAddResidue Sq.createText bytes).bind (fun g => Sq.cAddResidue g 0) = some g ∧
      g.buf = bytes ++ [0] ∧ g.n = bytes.length ∧ g.n + 1 ≤ g.salloc) := by
  constructor
  · obtain ⟨g, g1, g2, g3, g4⟩ := Sq.xAdd_go codes hs Sq.createDigital [] rfl rfl (by decide)
    obtain ⟨r1, r2⟩ := Sq.sqGrow_room true g.salloc g.n (by omega) (by simpa using g4)
    simp only [if_true] at r1
    refine ⟨{ buf := g.buf.take (g.n + 1) ++ [SENTINEL], n := g.n, salloc := Sq.sqGrow true g.salloc g.n }, ?_, ?_, by simpa using g3, r1⟩
    · rw [g1]; simp only [Option.bind_some]
      unfold Sq.xAddResidue; simp only []; rw [if_pos (by omega)]; simp
    · simp only []; rw [g2]; simp [mkDsq]
  · obtain ⟨g, g1, g2, g3, g4, g5⟩ := Sq.cAdd_go bytes hb Sq.createText [] rfl rfl (by decide) (by decide)
    obtain ⟨r1, r2⟩ := Sq.sqGrow_room false g.salloc g.n g5 (by simpa using g4)
    simp only [Bool.false_eq_true, if_false] at r1
    refine ⟨{ buf := g.buf.take g.n ++ [0], n := g.n, salloc := Sq.sqGrow false g.salloc g.n }, ?_, ?_, by simpa using g3, r1⟩
    · rw [g1]; simp only [Option.bind_some]
      unfold Sq.cAddResidue; simp only []; rw [if_pos (by omega)]; simp
    · simp only []; rw [g2]; simp

/-- `esl_sq_CountResidues` (digital mode, `K`-long vector, valid codes, range inside the sequence): counter `y` grows by the
    sum over the positions `start … start+L-1` of the position's share for `y` — 1 for the residue itself, `1/|set|` for
    each member of a degenerate code's set, 0 for gap, nonresidue, missing; no access outside `f[0..K-1]` -/
theorem sq_count_residues_spec (a : Alphabet) (h : a.WFDegen) (codes : List Nat) (hv : ∀ x ∈ codes, x < a.Kp)
    (start L : Nat) (hs : 1 ≤ start) (hr : start + L ≤ codes.length + 1) (f : List ℚ) (hf : f.length = a.K) (y : Nat) :
    ∃ f', Sq.countResidues a (mkDsq codes) codes.length start L f = some (some f') ∧ f'.length = a.K ∧
      f'.getD y 0 = f.getD y 0 + (((codes.drop (start - 1)).take L).map fun x => Sq.share a x y).sum := by
  obtain ⟨o, rfl⟩ : ∃ o, start = o + 1 := ⟨start - 1, by omega⟩
  have hW : ((codes.drop o).take L).length = L := by rw [List.length_take, List.length_drop]; omega
  obtain ⟨f', g1, g2, g3⟩ := Sq.countResLoop_run a h (mkDsq codes) y ((codes.drop o).take L) (o + 1) f
    ((codes.drop o).drop L ++ [SENTINEL])
    (by rw [mkDsq_drop_succ codes o (by omega), ← List.append_assoc, List.take_append_drop])
    (fun x hx => hv x (List.mem_of_mem_drop (List.mem_of_mem_take hx))) hf
  rw [hW] at g1
  refine ⟨f', ?_, g2, by rw [g3, Nat.add_sub_cancel]⟩
  unfold Sq.countResidues
  rw [if_neg (by omega)]
  simp only [Int.toNat_natCast]
  rw [g1]

/-- `esl_sq_Checksum`: on 7-bit text the text-mode checksum is the same function of the bytes as the digital-mode checksum
    is of the codes (the two modes differ only through the values summed; bytes ≥ 0x80 are sign-extended in text mode) -/
theorem sq_checksum_ascii (bytes : List Nat) (h : ∀ c ∈ bytes, c < 128) :
    Sq.checksumText bytes = Sq.checksumDigital bytes :=
  congrArg Sq.ckFinal (List.foldl_ext _ _ 0 fun v c hc => congrArg (Sq.ckStep v) (Sq.charToU32_ascii c (h c hc)))

example : Sq.countResidues G.dna (mkDsq [0, 5, 4, 15]) 4 1 4 ([0, 0, 0, 0] : List ℚ) = some (some [7/4, 1/4, 3/4, 1/4]) := by
  decide +kernel
example : Sq.countResidues G.dna (mkDsq [0, 5, 4, 15]) 4 2 4 ([0, 0, 0, 0] : List ℚ) = none := by decide +kernel

/-- on counts in `[0, 2^31)` the answer of `esl_abc_GuessAlphabet` is EXACTLY this decision list of the 26
    letter counts (sums `sumOf` and numbers of occurring letters `seen` over the documented letter classes; 0 = unknown,
    1 = RNA, 2 = DNA, 3 = amino) -/
theorem guess_spec (ct : List Int) (h : Guess.Counts ct) : Guess.guessZ ct =
    if Guess.total ct ≤ 10 then 0
    else if Guess.total ct > 2000 ∧ ct.getD 13 0 = Guess.total ct then 2
    else if Guess.sumOf ct Guess.aaonly > 0 then 3
    else if 50 * (Guess.total ct - (Guess.sumOf ct Guess.allcanon + ct.getD 19 0 + ct.getD 13 0)) ≤ Guess.total ct ∧
        Guess.seen ct Guess.allcanon + Guess.seen ct [19] = 4 then 2
    else if 50 * (Guess.total ct - (Guess.sumOf ct Guess.allcanon + ct.getD 20 0 + ct.getD 13 0)) ≤ Guess.total ct ∧
        Guess.seen ct Guess.allcanon + Guess.seen ct [20] = 4 then 1
    else if 50 * (Guess.total ct - (Guess.sumOf ct Guess.aaonly + Guess.sumOf ct Guess.allcanon + Guess.sumOf ct Guess.aacanon +
          ct.getD 13 0 + ct.getD 19 0 + ct.getD 23 0)) ≤ Guess.total ct ∧
        Guess.sumOf ct Guess.aacanon > Guess.sumOf ct Guess.allcanon ∧
        Guess.seen ct Guess.aaonly + Guess.seen ct Guess.allcanon + Guess.seen ct Guess.aacanon + Guess.seen ct [13] +
          Guess.seen ct [19] ≥ 15 then 3
    else 0 :=
  Guess.guessZ_eq ct h

/-- **`esl_msa_GuessAlphabet` on a text-mode alignment** (any rows, any bytes, any classifier `g` of a composition): the vote
    over the per-row answers if it decides; otherwise the answer for the composition of the rows laid end to end, counted
    by the loop of `esl_sq_GuessAlphabet` (same 10000-letter cutoff). The model's bounds-checked counter store never fails:
    the answer is never a fault (the `'['` = `'A'+26` store to `ct[26]` was repaired in 9b7e276). -/
theorem msa_guess_spec (g : List Int → Nat) (rows : List (List Nat)) :
    Guess.msaGuess g rows = some (
      let t := Guess.msaVote (rows.map fun r => g (Guess.sqCount r (List.replicate 26 0) 0))
      if t ≠ 0 then (true, t)
      else (decide (g (Guess.sqCount rows.flatten (List.replicate 26 0) 0) ≠ 0),
            g (Guess.sqCount rows.flatten (List.replicate 26 0) 0))) := by
  unfold Guess.msaGuess
  simp only []
  split
  · rfl
  · rw [Guess.msaPool_spec rows _ 0 (by simp) (by omega)]; rfl

/-- the vote: amino iff some row is amino and none nucleic; DNA iff some row is DNA and none amino (RNA rows are outvoted);
    RNA iff some row is RNA and none DNA or amino; undecided iff no row is classified or amino and nucleic rows both occur -/
theorem msa_vote_spec (types : List Nat) :
    (Guess.msaVote types = 3 ↔ 3 ∈ types ∧ 2 ∉ types ∧ 1 ∉ types) ∧
    (Guess.msaVote types = 2 ↔ 2 ∈ types ∧ 3 ∉ types) ∧
    (Guess.msaVote types = 1 ↔ 1 ∈ types ∧ 2 ∉ types ∧ 3 ∉ types) ∧
    (Guess.msaVote types = 0 ↔ (3 ∉ types ∧ 2 ∉ types ∧ 1 ∉ types) ∨ (3 ∈ types ∧ (2 ∈ types ∨ 1 ∈ types))) := by
  -- membership is a positive count; what remains is arithmetic on the three counts
  simp only [← Guess.filter_pos_iff, Guess.msaVote]
  generalize (types.filter (· == 3)).length = n3
  generalize (types.filter (· == 2)).length = n2
  generalize (types.filter (· == 1)).length = n1
  repeat' split
  all_goals omega

example : Guess.msaGuess Guess.guessZ [str "AC[GT-", str "ACGGT-"] = some (false, 0) ∧
    Guess.msaGuess Guess.guessZ [str "AC[GTAC", str "ACGGTTA"] = some (true, 2) := by decide +kernel
example : Guess.msaGuess Guess.guessZ [str "ACGUACGUACGU", str "ACGTACGTACGT", str "NNNN--------"] = some (true, 2) := by
  decide +kernel
/-- **observation**: the documentation says an alignment with an amino row and a nucleic row is indeterminate (eslUNKNOWN); in
    the code an undecided vote always falls through to the pooled second pass, which here answers amino -/
example : Guess.msaVote [Guess.guessZ (Guess.sqCount (str "ACGUACGUACGU") (List.replicate 26 0) 0),
      Guess.guessZ (Guess.sqCount (str "ACDEFGHIKLMN") (List.replicate 26 0) 0)] = 0 ∧
    Guess.msaGuess Guess.guessZ [str "ACGUACGUACGU", str "ACDEFGHIKLMN"] = some (true, 3) := by decide +kernel

/-- **`esl_msa_GuessAlphabet`, both forms**: `strict = false` is `msa_guess_spec` above (an undecided vote always falls
    through to the pooled pass); `strict = true` is what the header documents — rows called amino AND rows called nucleic ⇒
    indeterminate; the pooled pass only when NO row was classified. The driver runs the form the tree has (next theorem). -/
theorem msa_guess_both_forms (strict : Bool) (g : List Int → Nat) (rows : List (List Nat)) :
    Guess.msaGuessV strict g rows = some (
      let types := rows.map fun r => g (Guess.sqCount r (List.replicate 26 0) 0)
      let t := Guess.msaVote types
      if t ≠ 0 then (true, t)
      else if strict && types.any (· != 0) then (false, 0)
      else (decide (g (Guess.sqCount rows.flatten (List.replicate 26 0) 0) ≠ 0),
            g (Guess.sqCount rows.flatten (List.replicate 26 0) 0))) ∧
    Guess.msaGuessV false g rows = Guess.msaGuess g rows := by
  constructor
  · unfold Guess.msaGuessV
    simp only []
    split
    · rfl
    · split
      · rfl
      · rw [Guess.msaPool_spec rows _ 0 (by simp) (by omega)]; rfl
  · unfold Guess.msaGuessV Guess.msaGuess; simp

/-- which form the tree has is regenerated on every run: `msaMixedProbe` = the code's answer on `ACGUACGUACGU` / `ACDEFGHIKLMN`
    (eslAMINO = 3: falls through; eslUNKNOWN = 0: documented behaviour); the model run in that form gives the same answer — any
    third behaviour fails this proof -/
theorem msa_mixed_probe_regenerated :
    (Guess.msaGuessV (Generated.AlphabetsAux.msaMixedProbe == 0) Guess.guessZ [str "ACGUACGUACGU", str "ACDEFGHIKLMN"]).map (·.2) =
      some Generated.AlphabetsAux.msaMixedProbe := by decide +kernel

example : Guess.msaGuessV true Guess.guessZ [str "ACGUACGUACGU", str "ACDEFGHIKLMN"] = some (false, 0) ∧
    Guess.msaGuessV true Guess.guessZ [str "ACGU", str "ACGU", str "ACGU"] = some (true, 1) ∧
    Guess.msaGuessV true Guess.guessZ [str "ACGUACGUACGU", str "ACGTACGTACGT"] = some (true, 2) := by decide +kernel

/-- **the counting loop of `esl_sq_GuessAlphabet` (= the per-row loop and, by `msa_guess_spec`, the pooled loop of
    `esl_msa_GuessAlphabet`) on EVERY 8-bit string** — no bound on the number of letters: counter `l` = occurrences (either
    case) of letter `l` in the shortest prefix holding 10001 letters (`Guess.takeLetters`: the loop breaks after counting the
    10001st letter), and the counters satisfy `Counts`; so `guess_spec` and the three guarantees apply to every sequence.
    Discharges the `≤ 10000 letters` hypothesis of `sq_guess_counts`. -/
theorem sq_guess_counts_all (seq : List Nat) (hb : ∀ c ∈ seq, c < 256) :
    (∀ l, l < 26 → (Guess.sqCount seq (List.replicate 26 0) 0).getD l 0 =
      (((Guess.takeLetters 10001 seq).filter fun c => Guess.isLetter c l).length : Int)) ∧
    Guess.Counts (Guess.sqCount seq (List.replicate 26 0) 0) ∧
    (∃ rest, seq = Guess.takeLetters 10001 seq ++ rest) ∧ Guess.nLetters (Guess.takeLetters 10001 seq) ≤ 10001 ∧
    (Guess.nLetters seq ≤ 10000 → Guess.takeLetters 10001 seq = seq) :=
  ⟨(Guess.sqCount_all seq hb).1, (Guess.sqCount_all seq hb).2, Guess.takeLetters_prefix 10001 seq,
   Guess.nLetters_takeLetters 10001 seq, fun h => Guess.takeLetters_all 10001 seq (by omega)⟩

example : Guess.takeLetters 3 (str "a-c.GT") = str "a-c.G" := by decide

/-- the closing `if (result < 0) return (int)(result - 0.5); else return (int)(result + 0.5);` over ℚ is rounding to the
    nearest integer with ties away from zero (`RoundHalfAway m n`: `m ∈ [n-1/2, n+1/2)` for `m ≥ 0`, `m ∈ (n-1/2, n+1/2]` for
    `m < 0`); that integer is unique, lies within 1/2 of `m`, has the larger magnitude in a tie, and the rounding is odd -/
theorem round_half_away (m : ℚ) :
    RoundHalfAway m (roundHalfQ m) ∧ (∀ n, RoundHalfAway m n → n = roundHalfQ m) ∧
    |((roundHalfQ m : Int) : ℚ) - m| ≤ 1/2 ∧ (|((roundHalfQ m : Int) : ℚ) - m| = 1/2 → |m| < |((roundHalfQ m : Int) : ℚ)|) ∧
    roundHalfQ (-m) = - roundHalfQ m :=
  ⟨roundHalfQ_spec m, fun n hn => roundHalfAway_unique m n _ hn (roundHalfQ_spec m),
   (roundHalfAway_abs m _ (roundHalfQ_spec m)).1, (roundHalfAway_abs m _ (roundHalfQ_spec m)).2, roundHalfQ_neg m⟩

/-- `esl_abc_IAvgScore(a, x, sc)` = the exact mean of the integer scores over the set of `x`,
    rounded half away from zero; gap, nonresidue, missing and invalid codes score 0 -/
theorem iavg_score_rounding (a : Alphabet) (h : a.WFDegen) (x : Nat) (sc : List Int) (hsc : a.K ≤ sc.length) :
    (x < a.Kp → a.xIsResidue x = true → iAvgScore ℚ a x sc =
      some (roundHalfQ (((a.degenSet x).map fun i => ((sc.getD i 0 : Int) : ℚ)).sum / ((a.degenSet x).length : ℚ)))) ∧
    (a.xIsResidue x = false → iAvgScore ℚ a x sc = some 0) :=
  ⟨fun hx hres => iAvgScore_round a h x hx hres sc hsc, fun hres => iAvgScore_nonresidue a x hres sc⟩

/-- `esl_abc_IExpectScore(a, x, sc, p)` = the `p`-weighted mean over the set, rounded half away from zero -/
theorem iexpect_score_rounding (a : Alphabet) (h : a.WFDegen) (x : Nat) (hx : x < a.Kp) (hres : a.xIsResidue x = true)
    (sc : List Int) (p : List ℚ) (hsc : a.K ≤ sc.length) (hp : a.K ≤ p.length) :
    iExpectScore a x sc p =
      some (roundHalfQ (((a.degenSet x).map fun i => ((sc.getD i 0 : Int) : ℚ) * p.getD i 0).sum /
        ((a.degenSet x).map fun i => p.getD i 0).sum)) :=
  iExpectScore_round a h x hx hres sc p hsc hp

/-- `esl_abc_IAvgScVec` / `esl_abc_IExpectScVec` on a `Kp`-long `int` vector: exactly the degenerate slots `K < x ≤ Kp-3`
    are filled, each with the rounded (weighted) mean of the canonical scores; every other slot keeps its value; no
    out-of-bounds access -/
theorem iscvec_spec (a : Alphabet) (h : a.WFDegen) (hK : a.K + 4 ≤ a.Kp) (sc : List Int) (hl : sc.length = a.Kp)
    (p : List ℚ) (hp : a.K ≤ p.length) :
    (∃ r, iAvgScVec ℚ a sc = some r ∧ r.length = a.Kp ∧
      ∀ x, r.getD x 0 = if a.K < x ∧ x + 3 ≤ a.Kp
        then roundHalfQ (((a.degenSet x).map fun i => ((sc.getD i 0 : Int) : ℚ)).sum / ((a.degenSet x).length : ℚ))
        else sc.getD x 0) ∧
    (∃ r, iExpectScVec a sc p = some r ∧ r.length = a.Kp ∧
      ∀ x, r.getD x 0 = if a.K < x ∧ x + 3 ≤ a.Kp
        then roundHalfQ (((a.degenSet x).map fun i => ((sc.getD i 0 : Int) : ℚ) * p.getD i 0).sum /
          ((a.degenSet x).map fun i => p.getD i 0).sum)
        else sc.getD x 0) :=
  ⟨scVec_fill 0 a hK sc hl _ _ fun x cur hres hx hcl hag => by
      rw [iAvgScore_round a h x hx hres cur (by omega)]
      congr 4
      exact List.map_congr_left fun i hi => by rw [hag i (degenSet_lt a x i hi)],
   scVec_fill 0 a hK sc hl _ _ fun x cur hres hx hcl hag => by
      rw [iExpectScore_round a h x hx hres cur p (by omega) hp]
      congr 4
      exact List.map_congr_left fun i hi => by rw [hag i (degenSet_lt a x i hi)]⟩

/-- ties go away from zero in both directions: DNA `R` = {A, G} with scores 1, 2 → 3/2 → 2, with −1, −2 → −3/2 → −2 -/
example : roundHalfQ (3/2) = 2 := roundHalfQ_eq _ 2 (by unfold RoundHalfAway; norm_num)
example : roundHalfQ (-3/2) = -2 := roundHalfQ_eq _ (-2) (by unfold RoundHalfAway; norm_num)
example : roundHalfQ (1/2) = 1 := roundHalfQ_eq _ 1 (by unfold RoundHalfAway; norm_num)
example : roundHalfQ (-1/2) = -1 := roundHalfQ_eq _ (-1) (by unfold RoundHalfAway; norm_num)
example : roundHalfQ (7/3) = 2 := roundHalfQ_eq _ 2 (by unfold RoundHalfAway; norm_num)

/-- the routines themselves on the dumped DNA table: `R` = {A, G} with 1, 2 → 2; with −1, −2 → −2; the vector filler -/
example : iAvgScore ℚ G.dna 5 [1, 0, 2, 0] = some 2 ∧ iAvgScore ℚ G.dna 5 [-1, 0, -2, 0] = some (-2) ∧
    iAvgScore ℚ G.dna 4 [1, 0, 2, 0] = some 0 := by decide +kernel
example : iAvgScVec ℚ G.dna [1, 0, 2, 0, 9, 0, 0, 0, 0, 0, 0, 0, 0, 0, 0, 0, 7, 8] =
    some [1, 0, 2, 0, 9, 2, 0, 1, 1, 1, 1, 0, 1, 1, 1, 1, 7, 8] := by decide +kernel

/-- **text-mode `esl_sq_CountResidues`** (after fix 10c7a99) for EVERY byte string: eslERANGE iff `start < 0` or
    `start+L > n`; inside the range no out-of-bounds access, and counter `y` grows by the sum over the bytes
    `start … start+L-1` of `shareC` — the share of the byte's code if the byte is a character of the alphabet, 0 for any other
    byte (7-bit junk, bytes ≥ 0x80); and for a sequence of valid characters that is the digital-mode count of the
    digitised sequence, position by position -/
theorem sq_count_residues_text_spec (a : Alphabet) (h : a.WFDegen) (seq : List Nat) (f : List ℚ) (hf : f.length = a.K) (y : Nat) :
    (∀ start L : Nat, start + L ≤ seq.length →
      ∃ f', Sq.countResiduesText a seq start L f = some (some f') ∧ f'.length = a.K ∧
        f'.getD y 0 = f.getD y 0 + (((seq.drop start).take L).map fun c => Sq.shareC a c y).sum) ∧
    (∀ start L : Int, Sq.countResiduesText a seq start L f = none ↔ start < 0 ∨ start + L > (seq.length : Int)) ∧
    ((∀ c ∈ seq, a.cIsValid c = true) →
      seq.map (fun c => Sq.shareC a c y) = (seq.map a.inmapAt).map fun x => Sq.share a x y) := by
  refine ⟨fun start L hr => ?_, fun start L => (Sq.countResiduesText_range a seq start L f).1, fun hv => ?_⟩
  · have hW : ((seq.drop start).take L).length = L := by rw [List.length_take, List.length_drop]; omega
    obtain ⟨f', g1, g2, g3⟩ := Sq.countResTextLoop_run a h seq y ((seq.drop start).take L) start f ((seq.drop start).drop L)
      (List.take_append_drop _ _).symm hf
    rw [hW] at g1
    refine ⟨f', ?_, g2, g3⟩
    unfold Sq.countResiduesText
    rw [if_neg (by omega)]
    simp only [Int.toNat_natCast]
    rw [g1]
  · rw [List.map_map]
    apply List.map_congr_left
    intro c hc
    unfold Sq.shareC
    rw [if_pos (hv c hc)]; rfl

example : Sq.countResiduesText G.dna (str "Ar-n") 0 4 ([0, 0, 0, 0] : List ℚ) = some (some [7/4, 1/4, 3/4, 1/4]) := by
  decide +kernel
example : Sq.countResiduesText G.dna [33, 233, 65] 0 3 ([0, 0, 0, 0] : List ℚ) = some (some [1, 0, 0, 0]) := by decide +kernel
example : Sq.countResiduesText G.dna (str "ACGT") 1 4 ([0, 0, 0, 0] : List ℚ) = none := by decide +kernel

/-- **`esl_abc_TextizeN(a, dsq + off, L, buf)`** on a digital sequence of valid codes, every `off ≤ n+1` (either sentinel
    included) and every `L`: the window is spelled up to its first sentinel; a window holding a sentinel gets a NUL there and
    nothing after it; a window inside the residues gets exactly `L` symbols and no NUL; a window reaching the closing sentinel
    gets the remaining residues and a NUL. No out-of-bounds read. -/
theorem textizen_spec (a : Alphabet) (codes : List Nat) (hs : SENTINEL ∉ codes) (hv : ∀ x ∈ codes, x < a.sym.length)
    (off L : Nat) (hoff : off ≤ codes.length + 1) :
    a.textizeN (mkDsq codes) off L 0 [] =
      some ((((((mkDsq codes).drop off).take L).takeWhile (· ≠ SENTINEL)).map a.symAt) ++
        (if SENTINEL ∈ ((mkDsq codes).drop off).take L then [0] else [])) ∧
    (1 ≤ off → off + L ≤ codes.length + 1 →
      a.textizeN (mkDsq codes) off L 0 [] = some (((codes.drop (off - 1)).take L).map a.symAt)) ∧
    (1 ≤ off → codes.length + 1 < off + L →
      a.textizeN (mkDsq codes) off L 0 [] = some ((codes.drop (off - 1)).map a.symAt ++ [0])) := by
  rcases off with _ | o
  · exact ⟨(textizeN_upto_sentinel a (mkDsq codes) 0 [] (codes ++ [SENTINEL]) rfl (fun x hx => by cases hx) L).1,
      fun h => by omega, fun h => by omega⟩
  · have := textizeN_upto_sentinel a (mkDsq codes) (o + 1) (codes.drop o) [] (mkDsq_drop_succ codes o (by omega))
      (fun x hx => ⟨fun e => hs (e ▸ List.mem_of_mem_drop hx), hv x (List.mem_of_mem_drop hx)⟩) L
    rw [List.length_drop] at this
    exact ⟨this.1, fun _ h => this.2.1 (by omega), fun _ h => this.2.2 (by omega)⟩

example : G.dna.textizeN (mkDsq [0, 1, 2, 3]) 2 2 0 [] = some (str "CG") ∧
    G.dna.textizeN (mkDsq [0, 1, 2, 3]) 3 5 0 [] = some (str "GT" ++ [0]) ∧
    G.dna.textizeN (mkDsq [0, 1, 2, 3]) 0 3 0 [] = some [0] ∧ G.dna.textizeN (mkDsq [0, 1, 2, 3]) 5 1 0 [] = some [0] := by
  decide +kernel

/-- `esl_abc_dsqrlen` = number of residue codes (canonical or degenerate; not gap, nonresidue, missing);
    `esl_abc_dsqdup` copies the whole array with both sentinels whether or not the length is given, and maps NULL to NULL -/
theorem dsqrlen_dsqdup_spec (a : Alphabet) (codes : List Nat) (hs : SENTINEL ∉ codes) :
    a.dsqrlen (mkDsq codes) = some (codes.filter a.xIsResidue).length ∧
    dsqdup (some (mkDsq codes)) none = some (some (mkDsq codes)) ∧
    dsqdup (some (mkDsq codes)) (some codes.length) = some (some (mkDsq codes)) ∧ (∀ L, dsqdup none L = some none) := by
  have hlen : (mkDsq codes).length = codes.length + 2 := by simp [mkDsq]
  have hc : dsqcpy (mkDsq codes) codes.length = some (mkDsq codes) := by
    unfold dsqcpy; rw [if_pos (by omega), List.take_of_length_le (by omega)]
  refine ⟨?_, ?_, ?_, fun L => rfl⟩
  · unfold dsqrlen
    rw [dsqlen_mkDsq codes hs]
    simp only [Option.bind_eq_bind, Option.bind_some]
    have : ((mkDsq codes).drop 1).take codes.length = codes := by
      show ((SENTINEL :: (codes ++ [SENTINEL])).drop 1).take codes.length = codes
      simp
    rw [this]
  · unfold dsqdup; simp only [dsqlen_mkDsq codes hs, Option.bind_eq_bind, Option.bind_some, hc]
  · unfold dsqdup; simp only [Option.bind_eq_bind, Option.bind_some, hc]

/-- `esl_abc_{F,D}Count` on the codes that are not degenerate: a canonical residue or the gap adds the whole weight to its own
    counter (the gap needs a vector of `K+1` counters: with `K` counters the store is out of bounds); nonresidue and missing
    data change nothing -/
theorem count_nondegenerate_codes (a : Alphabet) (hK : a.K + 4 ≤ a.Kp) (ct : List ℚ) (wt : ℚ) (x : Nat) :
    (x ≤ a.K → x < ct.length → a.count ct x wt = some (ct.set x (ct.getD x 0 + wt))) ∧
    (x ≤ a.K → ct.length ≤ x → a.count ct x wt = none) ∧
    ((x = a.Kp - 2 ∨ x = a.Kp - 1) → a.count ct x wt = some ct) := by
  refine ⟨fun hx hl => ?_, fun hx hl => ?_, fun hx => ?_⟩
  · have c1 : (a.xIsCanonical x || a.xIsGap x) = true := by
      simp only [xIsCanonical, xIsGap, Bool.or_eq_true, decide_eq_true_eq]; omega
    unfold count
    simp only [c1, if_true, getElem?_eq_some_getD ct x 0 hl, Option.bind_eq_bind, Option.bind_some, sn_add]
  · have c1 : (a.xIsCanonical x || a.xIsGap x) = true := by
      simp only [xIsCanonical, xIsGap, Bool.or_eq_true, decide_eq_true_eq]; omega
    unfold count
    simp only [c1, if_true, List.getElem?_eq_none hl, Option.bind_eq_bind, Option.bind_none]
  · have c1 : (a.xIsCanonical x || a.xIsGap x) = false := by
      simp only [xIsCanonical, xIsGap, Bool.or_eq_false_iff, decide_eq_false_iff_not]; omega
    have c2 : (a.xIsMissing x || a.xIsNonresidue x) = true := by
      simp only [xIsMissing, xIsNonresidue, Bool.or_eq_true, decide_eq_true_eq]; omega
    unfold count
    simp only [c1, c2, Bool.false_eq_true, if_false, if_true]

/-- **`esl_sq_Copy`, all four mode combinations** (with the validation pre-pass of fix 6b1a313): text → digital is eslOK iff
    every character is a character of the alphabet (ignored characters and bytes ≥ 0x80 refused, as in `esl_sq_Digitize`);
    then the copy holds one code per character and `n` = text length = digital length; otherwise eslEINVAL and an emptied
    `dst`. Text → text copies; digital → text spells each code; digital → digital copies when the alphabet types agree, else
    the eslEINCOMPAT exception. Every eslOK copy passes the length test of `esl_sq_Validate` (`Copied.consistent`). -/
theorem sq_copy_spec (a : Alphabet) (hKp : a.Kp ≤ 250) (txt codes : List Nat) (hs : SENTINEL ∉ codes)
    (hv : ∀ x ∈ codes, x < a.sym.length) (sameType : Bool) :
    (Sq.sqCopy true a (.inl txt) true sameType = some (.ok (
       if txt.all a.cIsValid then (.ok, { n := txt.length, buf := mkDsq (txt.map a.inmapAt) }) else (.einval, Sq.reused true))) ∧
     (txt.all a.cIsValid = true → ({ n := txt.length, buf := mkDsq (txt.map a.inmapAt) } : Sq.Copied).consistent true = true)) ∧
    Sq.sqCopy true a (.inl txt) false true = some (.ok (.ok, { n := txt.length, buf := txt })) ∧
    Sq.sqCopy true a (.inr (mkDsq codes, codes.length)) false true = some (.ok (.ok, { n := codes.length, buf := codes.map a.symAt })) ∧
    Sq.sqCopy true a (.inr (mkDsq codes, codes.length)) true true = some (.ok (.ok, { n := codes.length, buf := mkDsq codes })) ∧
    Sq.sqCopy true a (.inr (mkDsq codes, codes.length)) true false = some (.error .eincompat) ∧
    ({ n := codes.length, buf := mkDsq codes } : Sq.Copied).consistent true = true ∧
    ({ n := codes.length, buf := codes.map a.symAt } : Sq.Copied).consistent false = true :=
  ⟨⟨(Sq.sqCopy_text_digital a hKp txt sameType).1, (Sq.sqCopy_text_digital a hKp txt sameType).2.1⟩,
   Sq.sqCopy_others a txt codes hs hv true⟩

/-- why the pre-pass is needed (the defect repaired in 6b1a313): without it, a text with a character the alphabet ignores is
    copied with eslOK and `n` = 10 although only 8 codes were written — the object fails `esl_sq_Validate`; with it: eslEINVAL -/
example :
    Sq.sqCopy false (G.dna.setIgnored (str " \t")) (.inl (str "AC GT ACGT")) true true =
      some (.ok (.ok, { n := 10, buf := mkDsq [0, 1, 2, 3, 0, 1, 2, 3] })) ∧
    ({ n := 10, buf := mkDsq [0, 1, 2, 3, 0, 1, 2, 3] } : Sq.Copied).consistent true = false ∧
    Sq.sqCopy true (G.dna.setIgnored (str " \t")) (.inl (str "AC GT ACGT")) true true = some (.ok (.einval, Sq.reused true)) ∧
    Sq.sqCopy true (G.dna.setIgnored (str " \t")) (.inl (str "ACGTACGT")) true true =
      some (.ok (.ok, { n := 8, buf := mkDsq [0, 1, 2, 3, 0, 1, 2, 3] })) := by
  decide +kernel

/-- **fetching a sequence from an alignment commutes with digitising**, for every alphabet that reads exactly the gap
    characters "-_.~" as gap / missing data (`Sq.GapCharsOK`: true of the five built-in alphabets), every aligned row of
    characters of the alphabet and every SS line of the same length: text mode (`esl_strdealign` against "-_.~") keeps the row
    without those columns; digital mode (`esl_abc_XDealign` / `esl_abc_CDealign` against gap and missing-data codes) keeps
    the codes of exactly the same columns; digitising the text result gives the digital result — same `n`, same SS line;
    the nonresidue `*` is kept in both modes -/
theorem fetch_from_msa_modes_agree (a : Alphabet) (hg : Sq.GapCharsOK a) (hKp : a.Kp ≤ 250) (row ss : List Nat)
    (hv : ∀ c ∈ row, a.cIsValid c = true) (hss : ss.length = row.length) :
    Sq.fetchText row (some ss) =
      some { seq := Sq.keptText row row, ss := some (Sq.keptText row ss), n := (Sq.keptText row row).length } ∧
    Sq.fetchDigital a (mkDsq (row.map a.inmapAt)) (some ss) =
      some { seq := mkDsq ((Sq.keptText row row).map a.inmapAt), ss := some (Sq.keptText row ss),
             n := (Sq.keptText row row).length } ∧
    a.digitize (Sq.keptText row row) = (.ok, mkDsq ((Sq.keptText row row).map a.inmapAt)) :=
  Sq.fetch_modes_agree a hg hKp row ss hv hss

/-- `esl_strdealign` alone, for any two strings: exactly the columns without a gap character are kept (no bound on bytes) -/
theorem strdealign_spec (s aseq : List Nat) (hl : aseq.length ≤ s.length) :
    Sq.strdealign s aseq = some (Sq.keptText aseq s, (Sq.keptText aseq s).length) :=
  Sq.strdealign_spec s aseq hl

theorem std_gapchars_ok :
    Sq.GapCharsOK G.dna ∧ Sq.GapCharsOK G.rna ∧ Sq.GapCharsOK G.amino ∧ Sq.GapCharsOK G.coins ∧ Sq.GapCharsOK G.dice := by
  have key : ∀ a : Alphabet, (a.inmap.length = 128 ∧
      ∀ p ∈ a.inmap.zipIdx, ((p.1 = a.K ∨ p.1 + 1 = a.Kp) ↔ p.2 ∈ Sq.gapchars)) → Sq.GapCharsOK a :=
    fun _ h => (forall_getD_of_zipIdx ILLEGAL h.1 h.2 :)
  exact ⟨key _ (by decide +kernel), key _ (by decide +kernel), key _ (by decide +kernel), key _ (by decide +kernel),
    key _ (by decide +kernel)⟩

example : Sq.fetchText (str "A-c.*~G_") (some (str "<.>.,.:.")) = some { seq := str "Ac*G", ss := some (str "<>,:"), n := 4 } ∧
    Sq.fetchDigital G.dna (mkDsq [0, 4, 1, 4, 16, 17, 2, 4]) (some (str "<.>.,.:.")) =
      some { seq := mkDsq [0, 1, 16, 2], ss := some (str "<>,:"), n := 4 } := by decide +kernel

/-- **the ss buffer of a reused `ESL_SQ` across `esl_sq_GetFromMSA` calls** (`Sq.getAlloc`: `esl_sq_GrowTo` + first allocation +
    `strcpy`; a NULL `sq->ss` is allocated with `salloc` cells since fix 4807e60 — `exact = false`, what the driver mirrors):
    NO history of calls — any widths, SS line present or absent in any call, text (`extra = 1`) or digital (`extra = 2`) mode —
    copies past the buffer. Before the fix the buffer had the exact SS-line length (`exact = true`): the `example` below is that
    overflow (10 columns, then 100, both with an SS line). -/
theorem get_from_msa_ss_buffer_safe (extra : Nat) (hist : List (Nat × Bool)) (st : Sq.SsAlloc) (h : Sq.SsInv st) :
    (Sq.getAllocRun false extra st hist).isSome = true :=
  Sq.getAllocRun_safe extra hist st h

example : Sq.SsInv { salloc := 256, ssCap := none } := Or.inl rfl
example : Sq.getAllocRun true 1 { salloc := 256, ssCap := none } [(10, true), (100, true)] = none ∧
    Sq.getAllocRun true 2 { salloc := 256, ssCap := none } [(10, true), (100, true)] = none ∧
    Sq.getAllocRun true 1 { salloc := 256, ssCap := none } [(10, true), (300, true), (20, false), (300, true)] =
      some { salloc := 301, ssCap := some 301 } ∧
    Sq.getAllocRun false 1 { salloc := 256, ssCap := none } [(10, true), (100, true)] = some { salloc := 256, ssCap := some 256 } := by
  decide

/-- the character-class macros `esl_abc_CIs*` on all 256 (signed) chars and `esl_abc_XIs*` on all 256 codes, and
    `esl_abc_XGet{Gap,Unknown,Nonresidue,Missing}`, as evaluated by the code under check on this run for the five built-in
    alphabets, are the model's `cClass` / `xClass` / `gap … missing` (these classes decide what text-mode
    `esl_sq_CountResidues`, `esl_abc_ValidateSeq`, `esl_sq_Digitize`, `dsqrlen`, the dealigners and the counters skip) -/
theorem char_classes_regenerated :
    ((List.range 256).map G.dna.cClass = Generated.AlphabetsAux.cClass_dna ∧ (List.range 256).map G.dna.xClass = Generated.AlphabetsAux.xClass_dna ∧
      [G.dna.gap, G.dna.unknown, G.dna.nonresidue, G.dna.missing] = Generated.AlphabetsAux.xGet_dna) ∧
    ((List.range 256).map G.rna.cClass = Generated.AlphabetsAux.cClass_rna ∧ (List.range 256).map G.rna.xClass = Generated.AlphabetsAux.xClass_rna ∧
      [G.rna.gap, G.rna.unknown, G.rna.nonresidue, G.rna.missing] = Generated.AlphabetsAux.xGet_rna) ∧
    ((List.range 256).map G.amino.cClass = Generated.AlphabetsAux.cClass_amino ∧ (List.range 256).map G.amino.xClass = Generated.AlphabetsAux.xClass_amino ∧
      [G.amino.gap, G.amino.unknown, G.amino.nonresidue, G.amino.missing] = Generated.AlphabetsAux.xGet_amino) ∧
    ((List.range 256).map G.coins.cClass = Generated.AlphabetsAux.cClass_coins ∧ (List.range 256).map G.coins.xClass = Generated.AlphabetsAux.xClass_coins ∧
      [G.coins.gap, G.coins.unknown, G.coins.nonresidue, G.coins.missing] = Generated.AlphabetsAux.xGet_coins) ∧
    ((List.range 256).map G.dice.cClass = Generated.AlphabetsAux.cClass_dice ∧ (List.range 256).map G.dice.xClass = Generated.AlphabetsAux.xClass_dice ∧
      [G.dice.gap, G.dice.unknown, G.dice.nonresidue, G.dice.missing] = Generated.AlphabetsAux.xGet_dice) := by
  rw [map_cClass_range G.dna (by decide +kernel), map_cClass_range G.rna (by decide +kernel),
    map_cClass_range G.amino (by decide +kernel), map_cClass_range G.coins (by decide +kernel),
    map_cClass_range G.dice (by decide +kernel)]
  decide +kernel

/-- the letter classes and thresholds of `esl_abc_GuessAlphabet` read off the code: on 3 × 26 probe compositions (a DNA, an RNA
    and an empty background plus a few copies of one letter) and 12 threshold probes (10 / 11 residues, all-N 2000 / 2001, 2 % of
    100 and of 101, a missing canonical residue, U next to T) the code under check answered on this run what the integer model
    answers; with the DNA background the answer is amino exactly for the letters of `Guess.aaonly` (EFIJLOPQZ) -/
theorem guess_probe_regenerated :
    (List.range 78).map (fun i => Guess.guessZ (Guess.probe i)) ++ Guess.thresholdProbes.map Guess.guessZ =
      Generated.AlphabetsAux.guessProbe ∧
    (∀ l, l < 26 → (Generated.AlphabetsAux.guessProbe.getD l 0 = 3 ↔ l ∈ Guess.aaonly)) ∧
    Guess.thresholdProbes.map Guess.guessZ = [0, 2, 0, 2, 2, 0, 2, 0, 0, 2, 0, 1] := by
  decide +kernel

/-- **rejected calls**: a rejected `SetEquiv` changes nothing (`custom_create_setequiv_status`); a rejected `SetDegeneracy`
    either changes nothing (the symbol is not a degenerate symbol `K < x < Kp-3`) or — the loop over `ds` stops at the first
    character `d` that is not a canonical residue symbol — leaves the alphabet exactly as the ACCEPTED call with the prefix of
    `ds` before `d` leaves it; a rejected `SetCaseInsensitive` (eslECORRUPT) leaves it as the accepted loop over the letters
    before the offending one, whose two cases are valid with different codes. (The C code does not roll back; mirrored.) -/
theorem custom_rejected_calls (a : Alphabet) (c : Nat) (ds : List Nat) :
    ((a.setDegeneracy c ds).1 ≠ .ok →
      (a.setDegeneracy c ds).2 = a ∨
      ∃ pre d post, ds = pre ++ d :: post ∧ (∀ e ∈ pre, a.canonSym e) ∧ ¬ a.canonSym d ∧
        (a.setDegeneracy c pre).1 = .ok ∧ (a.setDegeneracy c ds).2 = (a.setDegeneracy c pre).2) ∧
    (a.setCaseInsensitive.1 ≠ .ok →
      ∃ pre lc post, (List.range 26).map (· + 97) = pre ++ lc :: post ∧ (a.caseLoop pre).1 = .ok ∧
        (a.caseLoop pre).2.caseStep lc = none ∧ a.setCaseInsensitive.2 = (a.caseLoop pre).2) :=
  ⟨setDegeneracy_rejected a c ds, caseLoop_rejected _ a⟩

/-- **postcondition of an accepted `SetDegeneracy(a, c, ds)`**: row `x` (the code of `c`, `K < x < Kp-3`) flags exactly its
    old members and the residues listed in `ds`; `ndegen[x]` grew by `|ds|`; all other rows and counts, the input map, the
    symbols and the sizes are unchanged -/
theorem custom_setdegeneracy_post (a : Alphabet) (h : a.WFDegen) (c : Nat) (ds : List Nat) (hok : (a.setDegeneracy c ds).1 = .ok) :
    ∃ x, a.strchrSym c = some x ∧ a.K < x ∧ x + 3 < a.Kp ∧
      (∀ y, (((a.setDegeneracy c ds).2.degen.getD x []).getD y 0 ≠ 0 ↔
        ((a.degen.getD x []).getD y 0 ≠ 0 ∨ y ∈ ds.filterMap a.strchrSym))) ∧
      (a.setDegeneracy c ds).2.ndegen.getD x 0 = a.ndegen.getD x 0 + ds.length ∧
      (∀ x', x' ≠ x → (a.setDegeneracy c ds).2.degen.getD x' [] = a.degen.getD x' [] ∧
        (a.setDegeneracy c ds).2.ndegen.getD x' 0 = a.ndegen.getD x' 0) ∧
      (a.setDegeneracy c ds).2.inmap = a.inmap ∧ (a.setDegeneracy c ds).2.sym = a.sym ∧
      (a.setDegeneracy c ds).2.K = a.K ∧ (a.setDegeneracy c ds).2.Kp = a.Kp :=
  setDegeneracy_post a h c ds hok

/-- **postcondition of `SetIgnored(a, chars)`**: exactly the listed 7-bit characters map to `eslDSQ_IGNORED` (so digitising
    skips them), every other entry of the input map and every other table is unchanged;
    **of an accepted `SetCaseInsensitive(a)`**: for all 26 letters both cases are valid or both invalid and valid pairs share
    their code; every character that was valid keeps its code; nothing but letters changes -/
theorem custom_ignored_caseins_post (a : Alphabet) (hl : a.inmap.length = 128) (hk : a.Kp ≤ 250) (chars : List Nat) :
    ((∀ c, c < 128 → (a.setIgnored chars).inmapAt c = if c ∈ chars then IGNORED else a.inmapAt c) ∧
     (∀ c, c < 128 → c ∈ chars → (a.setIgnored chars).code c = none) ∧
     (a.setIgnored chars).sym = a.sym ∧ (a.setIgnored chars).degen = a.degen ∧ (a.setIgnored chars).ndegen = a.ndegen) ∧
    (a.setCaseInsensitive.1 = .ok →
      (∀ lc, 97 ≤ lc → lc ≤ 122 → a.setCaseInsensitive.2.cIsValid lc = a.setCaseInsensitive.2.cIsValid (lc - 32) ∧
        (a.setCaseInsensitive.2.cIsValid lc = true →
          a.setCaseInsensitive.2.inmapAt lc = a.setCaseInsensitive.2.inmapAt (lc - 32))) ∧
      (∀ c, a.cIsValid c = true → a.setCaseInsensitive.2.inmapAt c = a.inmapAt c) ∧
      (∀ c, ¬ (97 ≤ c ∧ c ≤ 122) → ¬ (65 ≤ c ∧ c ≤ 90) → a.setCaseInsensitive.2.inmapAt c = a.inmapAt c)) :=
  ⟨⟨(setIgnored_post a hl chars).1, fun c hc hm => setIgnored_code a hl hk chars c hc hm, rfl, rfl, rfl⟩,
   fun hok => setCaseInsensitive_post a hl hok⟩

example : G.dna.inmap.length = 128 ∧ G.dna.Kp ≤ 250 ∧ G.dna.setCaseInsensitive.1 = .ok ∧ G.amino.WFDegen :=
  ⟨std_wf.1.1.2.2.2.1, std_wf.1.1.2.1, by decide +kernel, std_wf.2.2.2.1⟩

/-- non-vacuity: on the demo alphabet "ACGT-N*~" with K=4 there is no degenerate symbol, so take "ACGT-RYN*~": `R` := "AG!" is
    rejected at `!` and leaves `R` = {A, G} exactly as `R` := "AG" does; `SetCaseInsensitive` after `a`→C is eslECORRUPT -/
example :
    let a := (createCustom (str "ACGT-RYN*~") 4 10).getD G.dna
    (a.setDegeneracy (ch 'R') (str "AG!")).1 = .einval ∧
    (a.setDegeneracy (ch 'R') (str "AG!")).2 = (a.setDegeneracy (ch 'R') (str "AG")).2 ∧
    (a.setDegeneracy (ch 'R') (str "AG")).1 = .ok ∧ (a.setDegeneracy (ch 'R') (str "AG")).2.degenSet 5 = [0, 2] ∧
    ((a.setEquiv (ch 'a') (ch 'C')).2.setCaseInsensitive).1 = .ecorrupt ∧
    ((a.setIgnored (str " \t")).digitize (str "A C\tG")) = (.ok, mkDsq [0, 1, 2]) := by decide +kernel

/-- **`esl_sq_Grow(sq, &nsafe)`** for ANY `n` (the "keep doubling" loop, not only "one cell short"; `n+2 ≤ 2^64`) and any
    `salloc ≥ 1`: `nsafe ≥ 1`; the new allocation is exactly `n + nsafe` cells (text) / `n + 1 + nsafe` (digital) — the `nsafe`
    cells the caller may write next, the NUL / sentinel counted as a residue, lie inside it —; it never shrinks, is the old
    size doubled `k` times, and is unchanged when there already was room -/
theorem sq_grow_covers (digital : Bool) (salloc n : Nat) (h1 : 1 ≤ salloc) (hn : n + 2 ≤ 2 ^ 64) :
    1 ≤ (Sq.sqGrowN digital salloc n).1 ∧
    ((Sq.sqGrowN digital salloc n).2 : Int) = n + (if digital then 1 else 0) + (Sq.sqGrowN digital salloc n).1 ∧
    salloc ≤ (Sq.sqGrowN digital salloc n).2 ∧ (∃ k, (Sq.sqGrowN digital salloc n).2 = salloc * 2 ^ k) ∧
    (n + (if digital then 2 else 1) ≤ salloc → (Sq.sqGrowN digital salloc n).2 = salloc) ∧
    (Sq.sqGrowN digital salloc n).2 = Sq.sqGrow digital salloc n :=
  ⟨(Sq.sqGrowN_spec digital salloc n h1 hn).1, (Sq.sqGrowN_spec digital salloc n h1 hn).2.1, (Sq.sqGrowN_spec digital salloc n h1 hn).2.2.1,
   (Sq.sqGrowN_spec digital salloc n h1 hn).2.2.2.1, (Sq.sqGrowN_spec digital salloc n h1 hn).2.2.2.2, Sq.sqGrowN_snd digital salloc n⟩

/-- **`esl_sq_GrowTo(sq, n)`**: the allocation afterwards holds `n` residues + NUL (text) / + both sentinels (digital), never
    shrinks, and is either unchanged or exactly that size -/
theorem sq_growto_covers (digital : Bool) (salloc n : Nat) :
    n + (if digital then 2 else 1) ≤ Sq.sqGrowTo digital salloc n ∧ salloc ≤ Sq.sqGrowTo digital salloc n ∧
    (Sq.sqGrowTo digital salloc n = salloc ∨ Sq.sqGrowTo digital salloc n = n + (if digital then 2 else 1)) :=
  Sq.sqGrowTo_spec digital salloc n

example : Sq.sqGrowN false 256 256 = (256, 512) ∧ Sq.sqGrowN true 256 255 = (256, 512) ∧ Sq.sqGrowN true 256 254 = (1, 256) ∧
    Sq.sqGrowN false 4 100 = (28, 128) ∧ Sq.sqGrowTo true 256 255 = 257 ∧ Sq.sqGrowTo false 256 255 = 256 := by decide

/-- `Sq.SqObj.Inv` (room for the residues and their terminators, every markup buffer of `salloc` cells, markup strings as long
    as the sequence) holds for what `esl_sq_CreateFrom` / `esl_sq_CreateDigitalFrom` build and is kept by Grow and GrowTo,
    which change nothing but the allocation (sequence and ALL markup buffers together) -/
theorem sq_object_grow_keeps_invariant (o : Sq.SqObj) (h : o.Inv) (hn : o.n + 2 ≤ 2 ^ 64) (k : Nat) :
    (o.grow.2.Inv ∧ 1 ≤ o.grow.1 ∧ (o.grow.2.salloc : Int) = o.n + (if o.digital then 1 else 0) + o.grow.1 ∧
      o.grow.2 = { o with salloc := o.grow.2.salloc, mcap := o.grow.2.salloc }) ∧
    ((o.growTo k).Inv ∧ k + (if o.digital then 2 else 1) ≤ (o.growTo k).salloc ∧
      o.growTo k = { o with salloc := (o.growTo k).salloc, mcap := (o.growTo k).salloc }) :=
  ⟨Sq.SqObj.grow_inv o h hn, Sq.SqObj.growTo_inv o h k⟩

/-- **appending a residue the way the sequence readers do** (`esl_sq_Grow`, store the residue and one character in EVERY markup
    buffer, `n++`, `esl_sq_Grow`, terminate everything), in either mode, at any length (`n + 3 ≤ 2^64`): both stores and both
    terminators are inside the allocations Grow left, the invariant is kept, exactly one residue and one markup character were
    appended, the allocation never shrinks — "after Grow the allocation covers what the caller will write" at object level -/
theorem sq_object_append_spec (o : Sq.SqObj) (h : o.Inv) (hn : o.n + 3 ≤ 2 ^ 64) (r m : Nat) :
    ∃ ns o', Sq.SqObj.append o r m = some (ns, o') ∧ o'.Inv ∧ o'.res = o.res ++ [r] ∧ o'.ss = o.ss.map (· ++ [m]) ∧
      o'.xr = o.xr.map (· ++ [m]) ∧ o'.digital = o.digital ∧ o.salloc ≤ o'.salloc :=
  Sq.SqObj.append_spec o h hn r m

/-- **`esl_sq_Digitize` / `esl_sq_Textize` on an object with `ss` and `xr` markup**: Digitize leaves a digital object alone,
    rejects text with a character outside the alphabet (eslEINVAL, object untouched), and on valid text gives one code per
    character with `salloc` raised to `n+2` when `esl_sq_CreateFrom`'s `n+1` was one short; Textize spells valid codes; in both
    the markup strings, `start`, `end` are unchanged and the `memmove` shifting EVERY markup buffer by one cell stays inside
    its allocation (the model's bounds check never fires: `≠ none`); the invariant is kept -/
theorem sq_object_digitize_textize (a : Alphabet) (o : Sq.SqObj) (h : o.Inv) :
    ((o.digital = true → Sq.SqObj.digitize a o = some (.ok, o)) ∧
     (o.digital = false → o.res.all a.cIsValid = false → Sq.SqObj.digitize a o = some (.einval, o)) ∧
     (o.digital = false → o.res.all a.cIsValid = true →
       Sq.SqObj.digitize a o = some (.ok, o.digitized a) ∧ (o.digitized a).Inv)) ∧
    (o.digital = true → (∀ x ∈ o.res, x < a.sym.length) →
      Sq.SqObj.textize a o = some (.ok, { o with digital := false, res := o.res.map a.symAt }) ∧
      ({ o with digital := false, res := o.res.map a.symAt } : Sq.SqObj).Inv) :=
  ⟨Sq.SqObj.digitize_spec a o h, fun hd hv => Sq.SqObj.textize_spec a o h hd hv⟩

/-- **Digitize then Textize on an object**: for a well-formed alphabet and valid text the round trip gives the canonical spelling
    of every character, the SAME `ss` / `xr` markup, `start`, `end`, and an allocation raised to at least `n+2` -/
theorem sq_object_roundtrip (a : Alphabet) (hw : a.WF) (o : Sq.SqObj) (h : o.Inv) (hd : o.digital = false)
    (hv : o.res.all a.cIsValid = true) :
    (Sq.SqObj.digitize a o).bind (fun r => Sq.SqObj.textize a r.2) =
      some (.ok, { o with res := o.res.map (fun c => a.symAt (a.inmapAt c)), salloc := o.dsz, mcap := o.dsz }) := by
  obtain ⟨e1, i1⟩ := (Sq.SqObj.digitize_spec a o h).2.2 hd hv
  rw [e1, Option.bind_some]
  have hcodes : ∀ x ∈ (o.digitized a).res, x < a.sym.length := by
    intro x hx
    have hx' : x ∈ o.res.map a.inmapAt := hx
    obtain ⟨c, hc, rfl⟩ := List.mem_map.mp hx'
    rw [hw.2.2.1]
    exact ((cIsValid_iff a c).mp (List.all_eq_true.mp hv c hc)).2
  rw [(Sq.SqObj.textize_spec a (o.digitized a) i1 rfl hcodes).1]
  simp [Sq.SqObj.digitized, hd, List.map_map, Function.comp_def]

example :
    let o : Sq.SqObj := { digital := false, res := str "acgu", salloc := 5, mcap := 5, ss := some (str "<..>"), xr := [str "1234"], start := 1, stop := 4 }
    (Sq.SqObj.digitize G.dna o).bind (fun r => Sq.SqObj.textize G.dna r.2) =
      some (.ok, { o with res := str "ACGT", salloc := 6, mcap := 6 }) := by decide +kernel

/-- **`esl_sq_ReverseComplement` and the markup**: in text mode (always; eslEINVAL when a non-nucleic character became `N`) and
    in digital mode with a complement table, the sequence becomes its reverse complement (same length), `ss` is NULL, ALL extra
    residue markup is dropped (`nxr = 0`: c71354f), `start`/`end` are swapped, the allocation is unchanged; a digital alphabet
    without complement answers eslEINCOMPAT and the object, markup included, is untouched -/
theorem sq_revcomp_markup (a : Alphabet) (o : Sq.SqObj) (h : o.Inv) :
    (o.digital = false → ∃ st, (st = .ok ∨ st = .einval) ∧
      Sq.SqObj.revcomp a o = some (st, { o with res := (Sq.revcompText o.res).2, ss := none, xr := [], start := o.stop, stop := o.start }) ∧
      (Sq.revcompText o.res).2.length = o.n ∧
      ({ o with res := (Sq.revcompText o.res).2, ss := none, xr := [], start := o.stop, stop := o.start } : Sq.SqObj).Inv) ∧
    (o.digital = true → a.complement = none → Sq.SqObj.revcomp a o = some (.eincompat, o)) ∧
    (o.digital = true → ∀ comp, a.complement = some comp → (∀ x ∈ o.res, x < comp.length) →
      Sq.SqObj.revcomp a o = some (.ok, { o with res := o.res.reverse.map (compAt comp), ss := none, xr := [], start := o.stop, stop := o.start }) ∧
      ({ o with res := o.res.reverse.map (compAt comp), ss := none, xr := [], start := o.stop, stop := o.start } : Sq.SqObj).Inv) :=
  Sq.SqObj.revcomp_markup a o h

/-- **`esl_sq_Copy` into a fresh object, all four mode combinations, markup included** (text → digital copies the extra residue
    markup whether or not there is an `ss` line since fix cdfb777): an eslOK copy holds the
    converted residues, the SAME `ss` and `xr` strings, `start`, `end`, an allocation of `max(256, n+1 | n+2)` cells for the
    sequence and for every markup buffer (every `strcpy` fits) and satisfies the invariant; text → digital of text with a
    character outside the alphabet answers eslEINVAL and leaves the emptied destination of `esl_sq_Reuse` -/
theorem sq_object_copy_spec (a : Alphabet) (o : Sq.SqObj) (h : o.Inv) (toDigital : Bool) :
    let salloc := Sq.sqGrowTo toDigital Sq.eslSQ_SEQCHUNK o.n
    (o.digital = false → toDigital = false →
      Sq.SqObj.copyTo a o toDigital = some (.ok, { o with salloc := salloc, mcap := salloc })) ∧
    (o.digital = true → toDigital = true →
      Sq.SqObj.copyTo a o toDigital = some (.ok, { o with salloc := salloc, mcap := salloc })) ∧
    (o.digital = false → toDigital = true → o.res.all a.cIsValid = true →
      Sq.SqObj.copyTo a o toDigital = some (.ok, { o with digital := true, res := o.res.map a.inmapAt, salloc := salloc, mcap := salloc })) ∧
    (o.digital = false → toDigital = true → o.res.all a.cIsValid = false →
      Sq.SqObj.copyTo a o toDigital = some (.einval, Sq.SqObj.reusedDst true salloc o.ss.isSome)) ∧
    (o.digital = true → toDigital = false → (∀ x ∈ o.res, x < a.sym.length) →
      Sq.SqObj.copyTo a o toDigital = some (.ok, { o with digital := false, res := o.res.map a.symAt, salloc := salloc, mcap := salloc })) ∧
    (∀ o', (o.digital = true → toDigital = false → ∀ x ∈ o.res, x < a.sym.length) →
      Sq.SqObj.copyTo a o toDigital = some (.ok, o') → o'.Inv ∧ o'.ss = o.ss ∧ o'.xr = o.xr ∧ o'.n = o.n ∧
      o'.start = o.start ∧ o'.stop = o.stop ∧ o'.digital = toDigital) :=
  Sq.SqObj.copyTo_spec a o h toDigital

/-- non-vacuity: `esl_sq_CreateFrom("ACGT", ss "<..>")` + two markup lines satisfies the invariant; Digitize raises `salloc` 5 → 6
    and keeps all markup; ReverseComplement drops it and swaps the coordinates; the copy to digital mode keeps it -/
example :
    let o : Sq.SqObj := { digital := false, res := str "ACGT", salloc := 5, mcap := 5, ss := some (str "<..>"),
                          xr := [str "1234", str "abcd"], start := 1, stop := 4 }
    Sq.mkObj false false (str "ACGT") (some (str "<..>")) [str "1234", str "abcd"] = some o ∧
    Sq.SqObj.digitize G.dna o = some (.ok, { o with digital := true, res := [0, 1, 2, 3], salloc := 6, mcap := 6 }) ∧
    Sq.SqObj.revcomp G.dna o = some (.ok, { o with res := str "ACGT", ss := none, xr := [], start := 4, stop := 1 }) ∧
    Sq.SqObj.revcomp G.amino { o with digital := true, res := [0, 1, 2, 3], salloc := 6, mcap := 6 } =
      some (.eincompat, { o with digital := true, res := [0, 1, 2, 3], salloc := 6, mcap := 6 }) ∧
    Sq.SqObj.copyTo G.dna { o with ss := none } true =
      some (.ok, { o with digital := true, res := [0, 1, 2, 3], salloc := 256, mcap := 256, ss := none }) := by decide +kernel
example : (Sq.mkObj false false (str "ACGT") (some (str "<..>")) [str "1234"]).all (fun o => decide (o.salloc = 5 ∧ o.mcap = 5)) = true := by
  decide
example (o : Sq.SqObj) (h : Sq.mkObj true false [0, 1, 2] (some (str "<.>")) [] = some o) : o.Inv :=
  Sq.SqObj.mkObj_inv true [0, 1, 2] (some (str "<.>")) [] (by decide) (by decide) o h

/-- **`esl_abc_CreateDsq` / `esl_abc_dsqlen`**: `CreateDsq` allocates `strlen(seq)+2` codes and calls `Digitize`: the digitised array
    never has more than `|seq| + 2` cells (ignored characters only shorten it), and `esl_abc_dsqlen` of the result is the number
    of non-ignored characters — for every alphabet and every string -/
theorem createdsq_allocation_dsqlen (a : Alphabet) (h : 3 ≤ a.Kp) (hk : a.Kp ≤ 250) (seq : List Nat) :
    (a.digitize seq).2.length ≤ seq.length + 2 ∧ dsqlen (a.digitize seq).2 = some (seq.filterMap a.code).length := by
  have hd := (digitize_sentinels a h hk seq)
  rw [hd.1]
  refine ⟨?_, dsqlen_mkDsq _ (fun hm => (hd.2 _ hm).2 rfl)⟩
  simp only [mkDsq, List.length_cons, List.length_append, List.length_nil]
  have := List.length_filterMap_le a.code seq
  omega

example : dsqlen (G.dna.digitize (str "AC GT")).2 = some 5 ∧ dsqlen ((G.dna.setIgnored [32]).digitize (str "AC GT")).2 = some 4 := by
  decide +kernel

/-- **`esl_sq_Copy(src, dst)` into ANY consistent destination (repaired form `fixed = true`)**: whatever `dst` held before — a longer or
    shorter sequence, an `ss` line or none, any number of `xr` lines, straight after `esl_sq_Reuse` or not — and whatever the answer
    (eslOK, or eslEINVAL for text → digital with a character outside the alphabet), `dst` is left a consistent object of its own mode:
    allocation never shrunk and = GrowTo(`src->n`), every markup buffer of that size, markup strings as long as the sequence; after
    eslOK it has EXACTLY the source's `ss` / `xr` strings (none if the source has none), `n`, `start`, `end`. `esl_sq_Reuse` and the
    constructors keep / establish the invariant; into a fresh destination this is `sq_object_copy_spec`'s `copyTo` (both forms). -/
theorem sq_copy_reused_destination (a : Alphabet) (o dst : Sq.SqObj) (h : o.Inv) (hd : dst.Inv)
    (hcodes : o.digital = true → dst.digital = false → ∀ x ∈ o.res, x < a.sym.length) (st : Status) (o' : Sq.SqObj)
    (e : Sq.SqObj.copyInto true a o dst = some (st, o')) :
    (o'.Inv ∧ o'.digital = dst.digital ∧ dst.salloc ≤ o'.salloc ∧ o'.salloc = Sq.sqGrowTo dst.digital dst.salloc o.n ∧
      (st = .ok ∨ st = .einval) ∧
      (st = .ok → o'.ss = o.ss ∧ o'.xr = o.xr ∧ o'.n = o.n ∧ o'.start = o.start ∧ o'.stop = o.stop) ∧
      (st ≠ .ok → o'.n = 0 ∧ o'.xr = [] ∧ o.digital = false ∧ dst.digital = true ∧ o.res.all a.cIsValid = false)) ∧
    dst.reuse.Inv ∧ (∀ m, (Sq.SqObj.fresh m).Inv) ∧
    (∀ f m, Sq.SqObj.copyInto f a o (Sq.SqObj.fresh m) = Sq.SqObj.copyTo a o m) :=
  ⟨Sq.SqObj.copyInto_fixed_spec a o dst h hcodes st o' e, Sq.SqObj.reuse_inv dst hd, Sq.SqObj.fresh_inv,
   fun f m => Sq.SqObj.copyInto_fresh f a o m⟩

/-- the two sources of the regenerated probe: "ACGTACGT" with an SS line, then "ACG" without -/
def reuseSrc1 : Sq.SqObj := { digital := false, res := str "ACGTACGT", salloc := 9, mcap := 9, ss := some (str "<<....>>"), xr := [], start := 1, stop := 8 }
def reuseSrc2 : Sq.SqObj := { digital := false, res := str "ACG", salloc := 4, mcap := 4, ss := none, xr := [], start := 1, stop := 3 }

/-- which form the tree has is regenerated every run (`sqCopyReusedProbe` = 1: the destination keeps a stale `ss`; 0: released): the model
    in that form answers what the code answered. In the STALE form the copy is NOT a consistent object — 3 residues under the previous
    sequence's 8-character structure line (`esl_sq_Validate` fails): the defect of patch `C08-sqcopy-reused-dst-stale-markup` -/
theorem sq_copy_reused_probe_regenerated :
    ((Sq.SqObj.copyInto (Generated.AlphabetsAux.sqCopyReusedProbe == 0) G.dna reuseSrc1 (Sq.SqObj.fresh false)).bind fun r =>
      (Sq.SqObj.copyInto (Generated.AlphabetsAux.sqCopyReusedProbe == 0) G.dna reuseSrc2 r.2).map fun r2 => r2.2.ss.isSome) =
      some (Generated.AlphabetsAux.sqCopyReusedProbe == 1) ∧
    ((Sq.SqObj.copyInto false G.dna reuseSrc1 (Sq.SqObj.fresh false)).bind fun r =>
      (Sq.SqObj.copyInto false G.dna reuseSrc2 r.2).map fun r2 => (r2.2.n, r2.2.ss)) = some (3, some (str "<<....>>")) ∧
    ((Sq.SqObj.copyInto true G.dna reuseSrc1 (Sq.SqObj.fresh false)).bind fun r =>
      (Sq.SqObj.copyInto true G.dna reuseSrc2 r.2).map fun r2 => (r2.2.n, r2.2.ss)) = some (3, none) := by decide +kernel

example : reuseSrc1.Inv ∧ reuseSrc2.Inv :=
  ⟨⟨by decide, rfl, fun s hs => by cases hs; rfl, fun s hs => (by cases hs)⟩, ⟨by decide, rfl, fun s hs => (by cases hs), fun s hs => (by cases hs)⟩⟩

/-- `esl_alphabet_CreateCustom("ACGT-N*~", 4, 8)` -/
def demoCustomBase : Alphabet := (createCustom (str "ACGT-N*~") 4 8).getD G.dna

/-- **built-in alphabets, regenerated tables**: for ALL 26 letters the upper-case and the lower-case ENTRY of the input map
    are equal (same code, or both `eslDSQ_ILLEGAL`) — no built-in constructor leaves a symbol or synonym whose two cases map
    differently; hence each table is `CaseInsensitive` in the sense used for custom alphabets -/
theorem std_case_insensitive :
    (∀ a ∈ [G.dna, G.rna, G.amino, G.coins, G.dice], a.sameCaseEntries = true) ∧
    (∀ a ∈ [G.dna, G.rna, G.amino, G.coins, G.dice], a.CaseInsensitive) := by
  have h : ∀ a ∈ [G.dna, G.rna, G.amino, G.coins, G.dice], a.sameCaseEntries = true :=
    fun a ha => sameCaseEntries_of_slices a ((by decide +kernel :
      ∀ a ∈ [G.dna, G.rna, G.amino, G.coins, G.dice], (a.inmap.drop 97).take 26 = (a.inmap.drop 65).take 26) a ha)
  exact ⟨h, fun a ha => caseInsensitive_of_entries a (h a ha)⟩

/-- **custom alphabets, every history**: whatever calls came first (`pre`, any statuses), once `SetCaseInsensitive` returns eslOK
    the input map reads both cases of every letter alike — this covers every mapping, symbol or synonym, present when it ran —,
    and it still does after ANY further calls that do not name a letter as a new synonym or ignored character (the documented
    order: synonyms first, `SetCaseInsensitive` last); a later letter synonym does break it (`later_letter_synonym_breaks`) -/
theorem custom_history_case_insensitive (a : Alphabet) (pre post : List Call) (hl : (a.run pre).2.inmap.length = 128)
    (hok : (a.run pre).2.setCaseInsensitive.1 = .ok) (hpost : ∀ c ∈ post, c.keepsCase) :
    (a.run (pre ++ Call.caseins :: post)).2.CaseInsensitive ∧
    (∃ b : Alphabet, b.CaseInsensitive ∧ ¬ (b.setEquiv 98 65).2.CaseInsensitive) :=
  ⟨history_case_insensitive a pre post hl hok hpost, later_letter_synonym_breaks⟩

example : (demoCustomBase.run [.equiv 49 45, .equiv 110 78]).2.inmap.length = 128 ∧
    (demoCustomBase.run [.equiv 49 45, .equiv 110 78]).2.setCaseInsensitive.1 = .ok ∧
    (∀ c ∈ [Call.degen 78 [65], .ignored [32, 9], .equiv 38 126, .caseins], c.keepsCase) := by
  refine ⟨by decide +kernel, by decide +kernel, ?_⟩
  intro c hc
  simp only [List.mem_cons, List.not_mem_nil, or_false] at hc
  rcases hc with rfl | rfl | rfl | rfl <;> simp [Call.keepsCase]

/-- **custom alphabets, every history: `ndegen[x]` = size of the set of `x` and every row has exactly `K` flags (a subset of the
    canonical residues)** after CreateCustom and ANY history of calls in any order with any statuses, provided each
    `SetDegeneracy` lists pairwise distinct residues not yet in the set (`cleanRun`: checked at the moment of the call; a
    rejected call leaves the effect of its accepted prefix, also clean) — so the averaging / counting theorems apply -/
theorem custom_history_wfdegen (syms : List Nat) (K : Nat) (a : Alphabet) (hK : 1 ≤ K) (hKp : K + 4 ≤ syms.length)
    (h : createCustom syms K syms.length = some a) (hist : List Call) (hc : cleanRun a hist) :
    (a.run hist).2.WFDegen ∧
    ∀ x, x < (a.run hist).2.Kp → ((a.run hist).2.degen.getD x []).length = (a.run hist).2.K ∧
      (a.run hist).2.ndegen.getD x 0 = ((a.run hist).2.degenSet x).length := by
  have hw := run_wfdegen hist a (createCustom_wfdegen syms K a hK hKp h).1 hc
  exact ⟨hw, hw.2.2⟩

example : cleanRun (createCustom (str "ACGT-RYN*~") 4 10 |>.getD G.dna)
    [.degen 82 (str "AG"), .equiv 117 84, .degen 89 (str "CT!"), .caseins, .degen 65 (str "C"), .ignored [32]] := by
  decide +kernel

/-- **`esl_sq_Checksum`'s value** (the model is the exact `uint32_t` computation, compared with the code on every generated
    sequence): each step `val += x; val += val << 10; val ^= val >> 6` is a bijection of the state for a fixed residue and
    injective in the residue, the final mixing is a bijection — so the checksum tells apart ANY two sequences that differ in
    exactly one residue, in digital mode and in text mode (bytes ≥ 0x80 are sign-extended there) -/
theorem sq_checksum_detects_substitution (pre post : List Nat) (x y : Nat) (hx : x < 256) (hy : y < 256) (hne : x ≠ y) :
    Sq.checksumDigital (pre ++ x :: post) ≠ Sq.checksumDigital (pre ++ y :: post) ∧
    Sq.checksumText (pre ++ x :: post) ≠ Sq.checksumText (pre ++ y :: post) :=
  ⟨fun e => hne (Sq.ofNat_inj_byte x y hx hy (Sq.ck_substitution (fun x => UInt32.ofNat x) pre post x y e)),
   fun e => hne (Sq.charToU32_inj x y hx hy (Sq.ck_substitution Sq.charToU32 pre post x y e))⟩

/-- the state maps themselves: injective in the state, injective in the residue, final mixing injective -/
theorem sq_checksum_steps_injective (v w b c : UInt32) :
    (Sq.ckStep v b = Sq.ckStep w b → v = w) ∧ (Sq.ckStep v b = Sq.ckStep v c → b = c) ∧ (Sq.ckFinal v = Sq.ckFinal w → v = w) :=
  ⟨Sq.ckStep_inj_left v w b, Sq.ckStep_inj_right v b c, Sq.ckFinal_inj v w⟩

example : Sq.checksumDigital [] = 0 ∧ Sq.checksumText (str "ACGT") = Sq.checksumDigital (str "ACGT") ∧
    Sq.checksumDigital [0, 1, 2, 3] ≠ Sq.checksumDigital [0, 1, 2, 2] ∧ Sq.checksumText [65, 200] ≠ Sq.checksumDigital [65, 200] := by
  decide

/-! ## degenerate scores and counts (over ℚ: the code as a rational function; IEEE rounding is L0, compared bit-exactly
      against the real code by the correspondence run) -/

/-- `esl_abc_{F,D}AvgScore(a, x, sc)` = the mean of `sc` over the set of canonical residues `x` stands for
    (for a canonical `x` the set is `{x}`: its own score; for `any` all `K` residues) -/
theorem avg_score_is_mean (a : Alphabet) (h : a.WFDegen) (x : Nat) (hx : x < a.Kp) (hres : a.xIsResidue x = true)
    (sc : List ℚ) (hsc : a.K ≤ sc.length) :
    a.avgScore x sc = some (((a.degenSet x).map fun i => sc.getD i 0).sum / ((a.degenSet x).length : ℚ)) :=
  avgScore_mean a h x hx hres sc hsc

/-- gap, nonresidue, missing and invalid codes score 0 -/
theorem avg_score_nonresidue (a : Alphabet) (x : Nat) (hres : a.xIsResidue x = false) (sc : List ℚ) :
    a.avgScore x sc = some 0 := avgScore_nonresidue a x hres sc

/-- `esl_abc_{F,D}ExpectScore` = the `p`-weighted average over the set -/
theorem expect_score_is_weighted_mean (a : Alphabet) (h : a.WFDegen) (x : Nat) (hx : x < a.Kp)
    (hres : a.xIsResidue x = true) (sc p : List ℚ) (hsc : a.K ≤ sc.length) (hp : a.K ≤ p.length) :
    a.expectScore x sc p = some (((a.degenSet x).map fun i => sc.getD i 0 * p.getD i 0).sum /
      ((a.degenSet x).map fun i => p.getD i 0).sum) :=
  expectScore_weighted a h x hx hres sc p hsc hp

/-- `esl_abc_{F,D}Count` of a degenerate code splits `wt` equally: each member of the set gets `wt/|set|`, every other
    counter is unchanged, and the shares sum to `wt` -/
theorem count_splits_equally (a : Alphabet) (h : a.WFDegen) (x : Nat) (hx : x < a.Kp) (hdeg : a.xIsDegenerate x = true)
    (ct : List ℚ) (hct : a.K ≤ ct.length) (wt : ℚ) :
    ∃ ct', a.count ct x wt = some ct' ∧ ct'.length = ct.length ∧
      (∀ y, ct'.getD y 0 = ct.getD y 0 + (if y ∈ a.degenSet x then wt / ((a.degenSet x).length : ℚ) else 0)) ∧
      ((a.degenSet x).length ≠ 0 → ((a.degenSet x).map fun _ => wt / ((a.degenSet x).length : ℚ)).sum = wt) :=
  count_equal_split a h x hx hdeg ct hct wt

/-- `esl_abc_Match(abc, x, y, p)` for two residue codes at least one of which is degenerate: the probability that residues
    drawn from `p` restricted to the two sets are identical, Σ_{i ∈ S(x)∩S(y)} p_i² / (Σ_{S(x)} p_i · Σ_{S(y)} p_i)
    (`flagSum`/`flagSum2` = sums over the flagged entries of the `degen` rows) -/
theorem match_formula (a : Alphabet) (h : a.WFDegen) (x y : Nat) (hx : x < a.Kp) (hy : y < a.Kp)
    (hrx : a.xIsResidue x = true) (hry : a.xIsResidue y = true) (hnc : (a.xIsCanonical x && a.xIsCanonical y) = false)
    (p : List ℚ) (hp : a.K ≤ p.length) :
    a.matchProb x y (some p) =
      some (flagSum2 (a.degen.getD x []) (a.degen.getD y []) (fun j => p.getD j 0 * p.getD j 0) 0 a.K /
        (flagSum (a.degen.getD x []) (fun j => p.getD j 0) 0 a.K * flagSum (a.degen.getD y []) (fun j => p.getD j 0) 0 a.K)) :=
  matchProb_formula a h x y hx hy hrx hry hnc p hp

/-- `esl_abc_Match(abc, x, y, NULL)` (uniform background) for two residue codes at least one of which is degenerate:
    |S(x) ∩ S(y)| / (|S(x)| · |S(y)|) — the probability that residues drawn uniformly from the two sets are identical -/
theorem match_uniform (a : Alphabet) (h : a.WFDegen) (hK : 1 ≤ a.K) (x y : Nat) (hx : x < a.Kp) (hy : y < a.Kp)
    (hrx : a.xIsResidue x = true) (hry : a.xIsResidue y = true) (hnc : (a.xIsCanonical x && a.xIsCanonical y) = false) :
    a.matchProb x y (none : Option (List ℚ)) =
      some (((a.commonSet x y).length : ℚ) / (((a.degenSet x).length : ℚ) * ((a.degenSet y).length : ℚ))) :=
  matchProb_uniform a h hK x y hx hy hrx hry hnc

/-- DNA: R = {A,G} against N = {A,C,G,T}: 2 / (2·4); R against Y = {C,T}: 0 -/
example : G.dna.commonSet 5 15 = [0, 2] ∧ G.dna.commonSet 5 6 = [] ∧ G.dna.matchProb 5 15 (none : Option (List ℚ)) = some (1/4) := by
  decide +kernel

/-- canonical pairs match iff equal; anything involving a gap, nonresidue, missing or invalid code scores 0 -/
theorem match_easy_cases (a : Alphabet) (x y : Nat) (p : Option (List ℚ)) :
    ((a.xIsCanonical x && a.xIsCanonical y) = true → a.matchProb x y p = some (if x = y then 1 else 0)) ∧
    ((a.xIsCanonical x && a.xIsCanonical y) = false → (a.xIsResidue x = false ∨ a.xIsResidue y = false) →
      a.matchProb x y p = some 0) := by
  refine ⟨fun h => ?_, fun h1 h2 => ?_⟩
  · unfold matchProb; rw [if_pos h]; by_cases e : x = y <;> simp [e]
  · unfold matchProb
    rw [if_neg (by simp [h1])]
    rcases h2 with h2 | h2 <;> simp [h2]

/-- the degeneracy set read off the dumped table is the IUPAC set (as residue indices): ties `degenSet` above to
    `degen_is_iupac` — e.g. DNA `R` ↦ [A, G] = [0, 2], `N` ↦ [0,1,2,3]; amino `B` ↦ [D, N] = [2, 11] -/
theorem degen_set_examples :
    G.dna.degenSet 5 = [0, 2] ∧ G.dna.degenSet 15 = [0, 1, 2, 3] ∧ G.dna.degenSet 4 = [] ∧ G.amino.degenSet 21 = [2, 11] ∧
    G.amino.degenSet 22 = [7, 9] ∧ G.amino.degenSet 23 = [3, 13] ∧ G.amino.degenSet 24 = [8] ∧ G.amino.degenSet 25 = [1] := by
  decide +kernel

/-- the custom alphabet of the unit test `utest_SetEquiv`: "ACGT-N*~" + three synonyms + case-insensitivity -/
def demoCustom : Alphabet :=
  (((((createCustom (str "ACGT-N*~") 4 8).getD G.dna).setEquiv (ch 'a') (ch 'A')).2.setEquiv (ch '1') (ch '-')).2.setEquiv
    (ch '&') (ch '~')).2.setCaseInsensitive.2
example : Built demoCustom := by
  have h0 : createCustom (str "ACGT-N*~") 4 8 = some ((createCustom (str "ACGT-N*~") 4 8).getD G.dna) := by decide +kernel
  exact Built.caseins _ (Built.equiv _ (Built.equiv _ (Built.equiv _
    (Built.create (str "ACGT-N*~") 4 (by decide) (by decide) (by decide) (by decide) (by decide) _ h0) _ _) _ _) _ _)
example : (demoCustom.run [.equiv 50 65, .degen 78 [65], .caseins, .ignored [32, 9], .degen 65 [67], .equiv 65 67]).1 =
    [.ok, .einval, .ok, .ok, .einval, .einval] := by decide +kernel
example : demoCustom.digitize (str "a1&") = (.ok, [255, 0, 4, 7, 255]) := by decide +kernel
example : G.dna.WFDegen ∧ G.dna.xIsResidue 5 = true ∧ G.dna.xIsDegenerate 5 = true := ⟨std_wf.2.1, by decide, by decide⟩
example : G.dna.WF := std_wf.1.1
example : G.dna.WFComp [3, 2, 1, 0, 4, 6, 5, 8, 7, 9, 10, 14, 13, 12, 11, 15, 16, 17] := by decide +kernel
example : G.dna.digitize (str "acgu nX-.") = (.einval, [255, 0, 1, 2, 3, 15, 15, 15, 4, 4, 255]) := by decide +kernel
example : G.dna.revcomp (mkDsq [0, 5, 15, 3, 3]) 5 = .ok (some (mkDsq [0, 0, 15, 6, 3])) := by rfl

end EaselModel.Props.C08
