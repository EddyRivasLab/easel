import EaselModel.Random.Lemmas
import EaselModel.Random.Choose
import EaselModel.Random.Deal64Fuel
import EaselModel.Random.Deal64AbsField
import EaselModel.Random.GaussThm
import EaselModel.Random.SamplersLen
import EaselModel.Random.Replay
import EaselModel.Random.Dump
import EaselModel.Generated.RandTables
import EaselModel.Random.Consts
import EaselModel.Random.UniPosTerm
import EaselModel.Random.RollSpec
import EaselModel.Random.SamplersTerm
/-! # C09 — property theorems

Every theorem quantifies over all seeds / all stream positions / all states; none is bounded. -/
namespace EaselModel.Props.C09
open EaselModel.MTP EaselModel.Random

/-- MT19937: after `esl_randomness_Create(seed)` the `k` first outputs are the tempered words `624, 625, …` of the
    reference recurrence `x(k+624) = x(k+397) ⊕ twist(upper x(k) | lower x(k+1))`, `x(0)=seed`, `x(z+1)=69069·x(z)`,
    across any number of table refills. -/
theorem mt19937_stream (seed : UInt32) (k : Nat) :
    ((Rng.create .mersenne seed).draws k).1 = (List.range k).map (fun i => temper32 (ref P32 seed (624 + i))) := by
  rw [Rng.draws_mersenne _ rfl]
  exact stream_eq_spec P32 seed k

/-- MT19937-64 with the reference seeding routine `x(z) = 6364136223846793005·(x(z-1) ⊕ x(z-1)≫62) + z`. -/
theorem mt19937_64_stream (seed : UInt64) (k : Nat) :
    ((Rng64.create seed).draws k).1 = (List.range k).map (fun i => temper64 (ref P64 seed (312 + i))) := by
  rw [Rng64.draws_eq]
  exact stream_eq_spec P64 seed k

/-- the legacy fast generator is the a=69069, c=1 linear congruential sequence -/
theorem fast_stream (seed : UInt32) (k : Nat) :
    ((Rng.create .fast seed).draws k).1 =
      (List.range k).map (fun i => lcg (Rng.create .fast seed).x (i+1)) :=
  Rng.draws_fast _ rfl k

/-- re-initialising any generator (whatever its history) with a seed replays the stream of a fresh generator -/
theorem reinit_replays (r : Rng) (seed : UInt32) (k : Nat) :
    ((r.initWith seed).draws k).1 = ((Rng.create r.kind seed).draws k).1 := by
  cases hk : r.kind with
  | mersenne =>
    rw [Rng.draws_mersenne _ (by simp [Rng.initWith, hk]), Rng.draws_mersenne _ (by simp [Rng.create, Rng.initWith])]
    simp [Rng.initWith, Rng.create, hk]
  | fast =>
    rw [Rng.draws_fast _ (by simp [Rng.initWith, hk]), Rng.draws_fast _ (by simp [Rng.create, Rng.initWith])]
    simp [Rng.initWith, Rng.create, hk]

theorem reinit_reports_seed (r : Rng) (seed : UInt32) : (r.initWith seed).seed = seed := by
  unfold Rng.initWith; split <;> rfl

/-- seed 0 selects a non-zero seed, whatever the clock and pid are -/
theorem seed0_nonzero32 (env : UInt32 × UInt32 × UInt32) : effSeed32 0 env ≠ 0 := by
  simp only [effSeed32, arbitrarySeed32, ↓reduceIte]
  split <;> simp_all

theorem seed0_nonzero64 (env : UInt32 × UInt32 × UInt32) : effSeed64 0 env ≠ 0 := by
  simp only [effSeed64, arbitrarySeed64, ↓reduceIte]
  split <;> simp_all

/-! the replacement `seed == 0 ? 42` is live (a clock/pid combination whose mix is 0), and so is the LCG's `x == 0 ? 42` -/
example : mix3 1901478223 4242 1234 = 0 ∧ arbitrarySeed32 1901478223 4242 1234 = 42 := by decide
example : mix3 1240482182 87654321 12345678 = 0 ∧ (Rng.create .fast 1240482182).x = 42 := by decide

theorem nonzero_seed_kept (seed : UInt32) (h : seed ≠ 0) (env) : effSeed32 seed env = seed := by
  simp [effSeed32, h]

/-- a roll of `n` lies in `0..n-1` -/
theorem roll_lt (r : Rng) (n fuel v : Nat) (r' : Rng) (h : r.roll n fuel = some (v, r')) : v < n := by
  rw [Rng.roll_eq] at h
  obtain ⟨i, _, _, hv, _⟩ := Src.firstAcc_some fuel r h
  exact rollWord_lt _ _ _ hv

/-- unbiased rejection mapping (32 bit): for `0 < n < 2^32` and every `v < n`, the raw words mapped to `v` are exactly
    the interval `[v·f, (v+1)·f)`, `f = ⌊(2^32−1)/n⌋` — the same number `f` of words for every `v` — and every such
    interval lies inside the 32-bit range; all other words are rejected. -/
theorem roll_unbiased32 (n : Nat) (hn : 0 < n) (hn' : n < 2^32) (v : Nat) (hv : v < n) (x : Nat) :
    (rollWord n x = some v ↔ v * ((2^32-1)/n) ≤ x ∧ x < (v+1) * ((2^32-1)/n)) ∧ (v+1) * ((2^32-1)/n) ≤ 2^32-1 :=
  ⟨roll_preimage_gen (2^32-1) n hn (by omega) v hv x, roll_intervals_fit _ n hn v hv⟩

theorem roll_unbiased64 (n : Nat) (hn : 0 < n) (hn' : n < 2^64) (v : Nat) (hv : v < n) (x : Nat) :
    (rollWord64 n x = some v ↔ v * ((2^64-1)/n) ≤ x ∧ x < (v+1) * ((2^64-1)/n)) ∧ (v+1) * ((2^64-1)/n) ≤ 2^64-1 :=
  ⟨roll_preimage_gen (2^64-1) n hn (by omega) v hv x, roll_intervals_fit _ n hn v hv⟩

/-- `esl_random` = x/2^32 ∈ [0,1) -/
theorem random_unit (r : Rng) : (r.randomNum).1 < 2^32 := by
  simp only [Rng.randomNum]; exact UInt32.toNat_lt _

/-- `esl_rand64_double` = k/2^53 with k < 2^53 ([0,1)); `_closed` = k/(2^53−1) with k ≤ 2^53−1 ([0,1]);
    `_open` = (2k'+1)/2^53 with 0 < 2k'+1 < 2^53 ((0,1)) -/
theorem rand64_double_ranges (x : UInt64) :
    dblNum x < 2^53 ∧ dblNum x ≤ 2^53 - 1 ∧ 0 < dblOpenNum x ∧ dblOpenNum x < 2^53 := by
  have h1 := shr11_lt x
  have h2 := shr12_lt x
  simp only [dblNum, dblOpenNum]
  omega

/-- `esl_rand64_int64` = `x >> 1` ∈ `0..2^63-1` (a non-negative `int64_t`) for every raw word -/
theorem rand64_int64_range (x : UInt64) : (x >>> 1).toNat < 2 ^ 63 := shr_lt x 1 (by decide)

/-- a deal of `m` from `n` (exact-arithmetic acceptance test) is exactly `m` strictly increasing values in `0..n-1`,
    for every generator state, i.e. every seed and history -/
theorem deal_spec (r : Rng) (m n : Nat) (h : m ≤ n) :
    let out := (r.deal m n).1
    out.length = m ∧ (∀ a ∈ out, a < n) ∧ out.Pairwise (· < ·) := by
  let _ : Oracles ℚ := constOracles
  rw [Rng.deal_eq_dealF]
  exact dealF_spec (F := ℚ) (fieldDealFact n) Rng.next m n h (Nat.le_refl n) r

/-- the same for the loop as C computes it — the test `(double)(n-j) * esl_random() < (double)(m-i)` evaluated with the carrier's own
    `mul` and `<` (binary64 in the driver; the exact-arithmetic test above agrees with it only while `(n-j)·x < 2^53`) — over an
    abstract floating-point carrier, assuming the single fact `DealFact`: `(double) a * esl_random() < (double) a` for `1 ≤ a ≤ B` -/
theorem deal_spec_abstract {F : Type} [VOps F] {B : Nat} (hf : DealFact F B) {σ : Type} (next : σ → UInt32 × σ)
    (m n : Nat) (h : m ≤ n) (hnB : n ≤ B) (s : σ) :
    let out := (dealF (F := F) next m n s).1
    out.length = m ∧ (∀ a ∈ out, a < n) ∧ out.Pairwise (· < ·) := dealF_spec hf next m n h hnB s

example (B : ℕ) : DealFact ℝ B := fieldDealFact B

/-- instantiated at the executable model (`Float`) on the 32-bit generator (either kind, any state): `esl_rnd_Deal(m, n)` for
    `m ≤ n ≤ 2^31` is `m` strictly increasing values in `0..n-1`, given only `DealFact Float (2^31)` (evaluated on binary64 each run) -/
theorem deal_spec_binary64 (hf : DealFact Float (2^31)) (r : Rng) (m n : Nat) (h : m ≤ n) (hn : n ≤ 2^31) :
    let out := (dealF (F := Float) Rng.next m n r).1
    out.length = m ∧ (∀ a ∈ out, a < n) ∧ out.Pairwise (· < ·) := deal_spec_abstract hf Rng.next m n h hn r

/-- a categorical choice returns an index of non-zero probability — for any floating type in which `x + 0 = x`
    and for any roll that is not below `0/norm` (true of `esl_random ∈ [0,1)`); the loop mirrors `esl_rnd_DChoose` -/
theorem dchoose_nonzero {F : Type} [FOps F] (hadd : ∀ x : F, FOps.add x FOps.zero = x) (roll : F) (p : List F)
    (hroll : FOps.lt roll (FOps.div FOps.zero (p.foldl FOps.add FOps.zero)) = false)
    (r : Nat) (h : dchoose roll p = some r) : ∃ q, p[r]? = some q ∧ q ≠ FOps.zero := by
  obtain ⟨_, q, hq, hne⟩ := chooseGo_nonzero hadd roll _ p FOps.zero 0 hroll r h
  exact ⟨q, by simpa using hq, hne⟩

/-- `esl_rnd_DChoose` / `FChoose` never reach `esl_fatal("unreached code was reached")`: the loop's final running sum is bit for
    bit `norm`, so the last test is `roll < norm/norm`; when that holds an index is returned — any floating type, no law assumed -/
theorem dchoose_never_fatal {F : Type} [FOps F] (roll : F) (p : List F) (hp : p ≠ [])
    (h1 : FOps.lt roll (FOps.div (p.foldl FOps.add FOps.zero) (p.foldl FOps.add FOps.zero)) = true) :
    ∃ r, dchoose roll p = some r := dchoose_returns roll p hp h1

/-- `esl_rnd_DChooseCDF` / `FChooseCDF` (`last = cdf[N-1]`): the returned index has non-zero probability mass — `cdf[r]` differs
    from `cdf[r-1]` (from 0 when `r = 0`) — and `esl_fatal` is never reached when `roll < cdf[N-1]/cdf[N-1]`; any floating type -/
theorem dchoosecdf_nonzero {F : Type} [FOps F] (roll last : F) (cdf : List F)
    (hroll : FOps.lt roll (FOps.div FOps.zero last) = false) (r : Nat) (h : dchooseCDFgo roll last cdf 0 = some r) :
    ∃ c, cdf[r]? = some c ∧ (r = 0 → c ≠ FOps.zero) ∧ (∀ c', 0 < r → cdf[r - 1]? = some c' → c ≠ c') :=
  dchooseCDF_nonzero roll last cdf hroll r h

theorem dchoosecdf_never_fatal {F : Type} [FOps F] (roll last : F) (cdf : List F) (hl : cdf.getLast? = some last)
    (h1 : FOps.lt roll (FOps.div last last) = true) : ∃ r, dchooseCDFgo roll last cdf 0 = some r :=
  dchooseCDF_returns roll last cdf 0 hl h1

/-! non-vacuity -/
example : (0 : Nat) < 6 ∧ 6 < 2^32 ∧ 3 < 6 := by decide
example : rollWord 6 2147483648 = some 3 := by decide

/-! ## `esl_rand64_Deal` (Vitter's method D) and `vitter_a` (method A)

For every `1 ≤ m ≤ n` and every generator state the deal is exactly `m` strictly increasing values in `[0,n)`.
Proved over ANY ordered field with floor, for ARBITRARY `exp`/`log` oracles satisfying only `0 ≤ exp x`,
`x ≤ 0 → exp x ≤ 1`, `0 ≤ u ≤ 1 → log u ≤ 0`, for any source of raw 64-bit words (any generator state), any fuel.
Everything else the proof uses is a test the code performs (`S < qu1`, `Vprime <= 1.`, `quot > U`, and the clamp
`if (S >= n) S = n-1` of fix ba43348 — without the clamp an accepted `Vprime == 1.0` makes the last dealt value `n`;
binary64 witness m=2, n=27, regression case `deal64-vprime-one`). -/
theorem rand64_deal_spec {F : Type} [Field F] [LinearOrder F] [IsStrictOrderedRing F] [FloorRing F] [Oracles F]
    (ok : OracleOK F) {σ : Type} (next : σ → UInt64 × σ) (fuel : ℕ) (m n : ℤ) (hm : 1 ≤ m) (hmn : m ≤ n)
    (s : σ) (out : List ℤ) (v : Option F) (s' : σ) (h : deal64Core next fuel m n s = some (out, v, s')) :
    DealOK out m (n - 1) ∧ (∀ x, v = some x → 0 ≤ x ∧ x ≤ 1) :=
  deal64Core_spec ok next fuel m n hm hmn s out v s' h

/-- the same over `ℝ` with the real `exp` and `log`, on the MT19937-64 generator: for every generator state -/
theorem rand64_deal_spec_real (r : Rng64) (fuel : ℕ) (m n : ℤ) (hm : 1 ≤ m) (hmn : m ≤ n)
    (out : List ℤ) (v : Option ℝ) (r' : Rng64) (h : deal64Core (F := ℝ) Rng64.next fuel m n r = some (out, v, r')) :
    DealOK out m (n - 1) :=
  (deal64Core_spec realOracleOK Rng64.next fuel m n hm hmn r out v r' h).1

/-- the clamp is live: whenever the oracle returns exactly 1 for the first `exp(minv·log u)`, `floor(n·Vprime) = n` and a deal
    of 1 from `n` is `n-1` (without the clamp it was the out-of-range `n`) -/
theorem rand64_deal_vprime_one_clamped {F : Type} [Field F] [LinearOrder F] [IsStrictOrderedRing F] [FloorRing F]
    [Oracles F] {σ : Type} (next : σ → UInt64 × σ) (fuel : ℕ) (n : ℤ) (s : σ)
    (h1 : Oracles.exp ((1 / ((1 : ℤ) : F)) * Oracles.log (VOps.dbl (next s).1 : F)) = 1) :
    ⌊(n : F) * 1⌋ = n ∧ deal64Core (F := F) next fuel 1 n s = some ([n - 1], some 1, (next s).2) :=
  deal64Core_one_vprime_one next fuel n s h1

/-- termination with fuel: an answer obtained with some fuel is the answer for every larger fuel (each rejection loop
    returns its first accepted draw); for every numeric vocabulary, in particular binary64 -/
theorem rand64_deal_first_accepted {σ F : Type} [VOps F] (next : σ → UInt64 × σ) (f f' : Nat) (hf : f ≤ f') (m n : Int)
    (s : σ) (r : List Int × Option F × σ) (h : deal64Core next f m n s = some r) : deal64Core next f' m n s = some r :=
  deal64Core_mono next f f' hf m n s r h

/-! non-vacuity: oracles satisfying the three facts exist over `ℚ`-like fields (`exp ≡ 1`, `log ≡ 0`), they also satisfy the
    hypothesis of the counter-example; and `ℝ` with the real functions satisfies the three facts (`realOracleOK`). -/
example : @OracleOK ℚ _ _ _ _ ⟨fun _ => 1, fun _ => 0⟩ :=
  @OracleOK.mk ℚ _ _ _ _ ⟨fun _ => 1, fun _ => 0⟩ (fun _ => zero_le_one) (fun _ _ => le_refl _) (fun _ _ _ => le_refl _)
example : OracleOK ℝ := realOracleOK

/-! ### The same over an ABSTRACT floating-point carrier (no field law assumed)

`F` is any type, `add sub mul div neg exp log floor round < <=` are arbitrary functions on it.  `FloatFacts F B`
(`Random/Deal64Abs.lean`) lists what is assumed of them: sign/monotonicity facts of single rounded operations, exactness of
integers of magnitude `≤ B`, the sign facts of `exp`/`log`, NaN propagation through `*` — each valid for IEEE binary64 with
`B = 2^53` for all operands including `±0`, `±inf`, NaN — and NO real-number identity (`(-X)/n + 1 = Vprime`, associativity, …).
Everything else is a test the code performs (`S < qu1`, `Vprime <= 1.`, `quot > U`, `if (S >= n) S = n-1`). -/
theorem rand64_deal_spec_abstract {F : Type} [VOps F] {B : Int} (ff : FloatFacts F B) {σ : Type} (next : σ → UInt64 × σ)
    (fuel : Nat) (m n : Int) (hm : 1 ≤ m) (hmn : m ≤ n) (hnB : n ≤ B) (s : σ) (out : List Int) (v : Option F) (s' : σ)
    (h : deal64Core next fuel m n s = some (out, v, s')) :
    (out.length : Int) = m ∧ out.Pairwise (· < ·) ∧ ∀ a ∈ out, 0 ≤ a ∧ a < n := by
  obtain ⟨h1, h2, h3⟩ := (deal64Core_abs ff next fuel m n hm hmn hnB s out v s' h).1
  exact ⟨h1, h2, fun a ha => ⟨(h3 a ha).1, by have := (h3 a ha).2; omega⟩⟩

/-- `vitter_a` (method A) terminates for EVERY generator state — no probability involved: each skip loop runs at most `n - m`
    times, because the integer-valued double `top` reaches exactly 0 and then `quot ≤ 0 < U`; fuel `n - m + 1` always suffices.
    (Method D's two rejection loops are genuinely probabilistic: they keep their fuel, see `rand64_deal_first_accepted`.) -/
theorem vitter_a_terminates {F : Type} [VOps F] {B : Int} (ff : FloatFacts F B) {σ : Type} (next : σ → UInt64 × σ)
    (fuel : Nat) (m n j : Int) (acc : List Int) (s : σ) (hm : 1 ≤ m) (hmn : m ≤ n) (hnB : n ≤ B) (hfuel : n - m < fuel) :
    (vitterA (F := F) next fuel m n j acc s).isSome :=
  vaLoop_terminates ff next fuel m.toNat m j n _ _ acc s hm hmn hnB rfl rfl (by omega) hfuel

/-- `esl_rand64_Deal(m, n)` with `n ≤ 13·m` terminates for EVERY generator state: the method-D loop is not entered (`n > threshold`
    fails at once), the sample comes from `vitter_a` (method A) or, for `m = 1`, from the final `floor(n·Vprime)` step; fuel `n-m+1`
    suffices.  (For `n > 13·m` method D's floating-point rejection loops keep their fuel.) -/
theorem rand64_deal_small_terminates {F : Type} [VOps F] {B : Int} (ff : FloatFacts F B) {σ : Type} (next : σ → UInt64 × σ)
    (fuel : Nat) (m n : Int) (hm : 1 ≤ m) (hmn : m ≤ n) (hsmall : n ≤ 13 * m) (hnB : n ≤ B) (hfuel : n - m < fuel) (s : σ) :
    (deal64Core (F := F) next fuel m n s).isSome :=
  deal64Core_small_terminates ff next fuel m n hm hmn hsmall hnB hfuel s

example : (1 : Int) ≤ 5 ∧ (5 : Int) ≤ 52 ∧ (52 : Int) ≤ 13 * 5 ∧ (52 : Int) ≤ 2 ^ 53 := by decide

/-- the `int64_t` skeleton of `esl_rand64_Deal` (kept in `Int` by the model) never leaves the `int64_t` range: for `1 ≤ m ≤ n ≤ 2^53`
    every value `m, n, j, qu1, threshold` take in any pass of the method-D loop, and every dealt value, is below `2^57` in magnitude
    (`threshold = 13·m'`, `1 ≤ m' ≤ n' ≤ n`, `1 ≤ qu1 ≤ n`, `-1 ≤ j < n`), so every sum or difference of two of them that the C code
    forms stays inside `int64_t`: no wrap-around is reachable and the `Int` model computes what the `int64_t` code computes -/
theorem rand64_deal_int64_in_range {F : Type} [VOps F] (ff : FloatFacts F (2 ^ 53)) {σ : Type} (next : σ → UInt64 × σ) (fuel k : Nat)
    (m n : Int) (hm : 1 ≤ m) (hmn : m ≤ n) (hnB : n ≤ 2 ^ 53) (w : UInt64) (s : σ) (st : D64St F) (s' : σ)
    (h : d64Main next fuel k (d64Init m n w) s = some (st, s')) :
    (∀ x ∈ [st.m, st.n, st.j, st.qu1, st.threshold], -(2 : Int) ^ 57 < x ∧ x < 2 ^ 57) ∧ (∀ a ∈ st.acc, 0 ≤ a ∧ a < n) ∧
    st.threshold = 13 * st.m ∧ st.qu1 ≤ st.n := by
  obtain ⟨h1, h2, h3, h4, h5, hq, hth, h8, h9⟩ := d64_state_in_range ff next fuel k m n hm hmn hnB w s st s' h
  refine ⟨?_, h9, hth, by omega⟩
  intro x hx
  simp only [List.mem_cons, List.not_mem_nil, or_false] at hx
  rcases hx with rfl | rfl | rfl | rfl | rfl <;> omega

/-- and every skip accepted by the method-D loop is `0 ≤ S < qu1 ≤ n` (so `n - S - 1`, `qu1 - S`, `j + S + 1`, `-S` are in range too) -/
theorem rand64_deal_skip_in_range {F : Type} [VOps F] {B : Int} (ff : FloatFacts F B) {σ : Type} (next : σ → UInt64 × σ) (fuel : Nat)
    (m0 n0 : Int) (hn0 : n0 ≤ B) (st : D64St F) (hinv : StInvA B m0 n0 st) (hm2 : 2 ≤ st.m) (s : σ) (S : Int) (V1 : F) (s1 : σ)
    (hacc : d64Accept next st.ctx st.V s fuel = some (S, V1, s1)) : 0 ≤ S ∧ S < st.qu1 ∧ st.qu1 ≤ n0 :=
  d64_skip_in_range ff next fuel m0 n0 hn0 st hinv hm2 s S V1 s1 hacc

/-- non-vacuity of `StInvA`: the initial state of every call with `1 ≤ m ≤ n ≤ B` satisfies it (here over `ℝ`) -/
example (w : UInt64) : StInvA (2 ^ 53) 5 100 (d64Init 5 100 w : D64St ℝ) :=
  d64Init_inv (realFloatFacts _) 5 100 (by decide) (by decide) (by decide) w

/-- instantiated at the EXECUTABLE model the driver runs against the C code (`Float` = binary64, libm `exp`/`log`): whatever
    `esl_rand64_Deal`'s model returns for `1 ≤ m ≤ n ≤ 2^53` on the MT19937-64 generator in any state is `m` strictly increasing
    values in `[0,n)` — the only thing not proved in Lean is `FloatFacts Float (2^53)` itself (`Float` is opaque to the kernel);
    that list is what the plug-in evaluates on binary64 at every run -/
theorem rand64_deal_spec_binary64 (ff : FloatFacts Float (2^53)) (r : Rng64) (fuel m n : Nat) (hm : 1 ≤ m) (hmn : m ≤ n)
    (hnB : n ≤ 2^53) (out : List Int) (r' : Rng64) (h : r.deal64 m n fuel = some (out, r')) :
    (out.length : Int) = m ∧ out.Pairwise (· < ·) ∧ ∀ a ∈ out, 0 ≤ a ∧ a < n := by
  unfold Rng64.deal64 at h
  cases hc : deal64Core (F := Float) Rng64.next fuel (m : Int) (n : Int) r with
  | none => rw [hc] at h; cases h
  | some q =>
    obtain ⟨o, v, r2⟩ := q
    rw [hc] at h
    simp only [Option.some.injEq, Prod.mk.injEq] at h
    obtain ⟨h1, _⟩ := h
    subst h1
    exact rand64_deal_spec_abstract ff Rng64.next fuel m n (by omega) (by omega) (by exact_mod_cast hnB) r o v r2 hc

/-- the code BEFORE fix ba43348 (final step without the clamp), on any carrier: when the first `Vprime` is a value `v` with
    `floor(n·v) = n` — in binary64 that is `v = 1.0`, which the acceptance test `Vprime <= 1.` lets through — the deal of 1
    from `n` is `[n]`, outside `0..n-1` -/
theorem rand64_deal_prefix_out_of_range {F : Type} [VOps F] {σ : Type} (next : σ → UInt64 × σ) (fuel : Nat) (n : Int) (s : σ)
    (h1 : VOps.floorI (VOps.mul (VOps.ofInt n) (VOps.powU (VOps.div VOps.one (VOps.ofInt 1)) (VOps.dbl (next s).1 : F))) = n) :
    deal64PreFix (F := F) next fuel 1 n s = some ([n], (next s).2) ∧ ¬ DealOKz [n] 1 (n - 1) :=
  deal64PreFix_out_of_range next fuel n s h1

/-- … and such a carrier exists among those satisfying ALL of `FloatFacts` (so the clamp is necessary for
    `rand64_deal_spec_abstract`, not implied by the other facts): `ℚ` with `exp ≡ 1`, `log ≡ 0`, any bound, any generator state -/
theorem rand64_deal_prefix_defect_carrier (B : ℤ) {σ : Type} (next : σ → UInt64 × σ) (fuel : ℕ) (n : ℤ) (s : σ) :
    letI : Oracles ℚ := constOracles
    FloatFacts ℚ B ∧ deal64PreFix (F := ℚ) next fuel 1 n s = some ([n], (next s).2) ∧ ¬ DealOKz [n] 1 (n - 1) :=
  prefix_defect_on_a_carrier B next fuel n s

/-! non-vacuity of `FloatFacts`: every ordered field with floor and sign-correct oracles, any bound; in particular `ℝ` -/
example (B : ℤ) : FloatFacts ℝ B := realFloatFacts B
example : (1 : Int) ≤ 2 ∧ (2 : Int) ≤ 27 ∧ (27 : Int) ≤ 2^53 := by decide

/-! ## The derived samplers of esl_random.c (`Random/Samplers.lean`, driven bit for bit through the `Float` instance) -/

/-- `esl_rnd_UniformPositive` (numerator model): the first non-zero draw, `0 < x < 2^32`, i.e. the double lies in (0,1) -/
theorem uniformPositive_pos (r : Rng) (fuel x : Nat) (r' : Rng) (h : r.uniformPositive fuel = some (x, r')) :
    0 < x ∧ x < 2^32 := by
  rw [Rng.uniformPositive_eq] at h
  obtain ⟨i, _, _, hv, _⟩ := Src.firstAcc_some fuel r h
  split at hv
  · cases hv
  · cases hv; exact ⟨Nat.pos_of_ne_zero ‹_›, UInt32.toNat_lt _⟩

/-- the same on the real-valued model: `esl_rnd_UniformPositive ∈ (0,1)` for every source state -/
theorem uniform_positive_unit {σ : Type} (next : σ → UInt32 × σ) (s : σ) (f : ℕ) (u : ℝ) (s' : σ)
    (h : uniPos next s f = .ok (u, s')) : 0 < u ∧ u < 1 := uniPos_unit next s f u s' h

/-- `esl_rnd_Gaussian` never reads its tables `a[32] d[31] t[31] h[31]` out of bounds: for every generator state, any mean and
    standard deviation, any tables of the declared sizes, all fuels (over `ℝ`; the tail index reaches exactly 31 for the
    smallest uniform deviate 2^-32) -/
theorem gaussian_in_bounds {σ : Type} (next : σ → UInt32 × σ) (fu fuel : ℕ) (T : GaussTables ℝ) (hT : TablesOK T)
    (mean sd : ℝ) (s : σ) : gaussian next fu fuel T mean sd s ≠ .fault :=
  gaussian_no_fault next fu fuel T hT mean sd s

/-- the tables regenerated from the working tree have the declared sizes -/
theorem gauss_table_sizes : EaselModel.Generated.RandTables.gaussSizes = [32, 31, 31, 31] := by decide

/-- `esl_rnd_Gamma(a) > 0` for every `a > 0` (all four regimes), every generator state, all fuels — over `ℝ` ONLY, from the accept
    tests the loops perform (`X > 0` in `gamma_ahrens`) and `0 < U < 1` for positive uniform deviates.
    `_real_partial`: the full statement (binary64) is FALSE: for small `a`, `gamma_fraction`'s `X = pow(V, 1./a)` underflows to 0.0
    and is accepted (`q = exp(-0.) = 1 > U`): `esl_randomness_Create(42)`, `esl_rnd_Gamma(r, 0.001)` returns exactly `0.0` at the
    3rd call (≈ 30 % of all calls); regression case `gamma-underflow` (model and code agree bit for bit on it).  What holds in
    binary64 is `≥ 0`. -/
theorem gamma_positive_real_partial {σ : Type} (next : σ → UInt32 × σ) (fu fuel : ℕ) (a : ℝ) (ha : 0 < a) (s : σ) (x : ℝ) (s' : σ)
    (h : gamma next fu fuel a s = .ok (x, s')) : 0 < x := gamma_pos next fu fuel a ha s x s' h

/-- `esl_rnd_Dirichlet`: `K` components, each `> 0`, summing to 1 — in exact arithmetic over `ℝ` ONLY (before rounding).
    `_real_partial`: FALSE in binary64 for small `alpha`: when every component's Gamma deviate underflows to 0.0 (see above) the
    normalisation is `0./0.`: `esl_randomness_Create(42)`, 40 × `esl_rnd_Gamma(r, 0.001)`, then the 2nd
    `esl_rnd_Dirichlet(r, {0.001, 0.001}, 2, p)` returns `p = {NaN, NaN}`; regression case `dirichlet-underflow`.
    (Dirichlet/Gamma are not among the derived draws the property statement lists.) -/
theorem dirichlet_simplex_real_partial {σ : Type} (next : σ → UInt32 × σ) (fu fuel : ℕ) (alpha : List ℝ) (hK : alpha ≠ [])
    (hal : ∀ a ∈ alpha, 0 < a) (s : σ) (p : List ℝ) (s' : σ) (h : dirichlet next fu fuel alpha s = .ok (p, s')) :
    p.length = alpha.length ∧ (∀ x ∈ p, 0 < x) ∧ p.sum = 1 :=
  EaselModel.Random.dirichlet_simplex next fu fuel alpha hK hal s p s' h

/-- `esl_rnd_mem` writes exactly `n` bytes -/
theorem mem_bytes {σ : Type} (next : σ → UInt32 × σ) (fu n : Nat) (s : σ) (bs : List Nat) (s' : σ)
    (h : rndMem next fu n [] s = .ok (bs, s')) : bs.length = n ∧ ∀ b ∈ bs, b < 256 := by
  have := rndMem_spec next fu n [] s bs s' (by simp) h
  simpa using this

/-- `esl_rnd_floatstring` writes between 1 and 19 characters before the NUL: it fits the documented 20-byte buffer -/
theorem floatstring_fits {σ : Type} (next : σ → UInt32 × σ) (fu : Nat) (s : σ) (cs : List Char) (s' : σ)
    (h : floatString next fu s = .ok (cs, s')) : 1 ≤ cs.length ∧ cs.length ≤ 19 := floatString_len next fu s cs s' h

/-- replay: after `esl_randomness_Init(r, seed)` on a generator of ANY history and either kind, every derived sampler returns
    exactly what it returns on a fresh generator of that seed (same value or same non-termination), and the two generators
    stay stream-equivalent — for any numeric vocabulary, in particular binary64 -/
theorem samplers_replay {F : Type} [SOps F] (r : Rng) (seed : UInt32) (fu fuel : Nat) (T : GaussTables F) (mean sd a : F)
    (alpha : List F) (n : Nat) :
    let r1 := r.initWith seed
    let r2 := Rng.create r.kind seed
    RelS Rng.SameStream (gaussian Rng.next fu fuel T mean sd r1) (gaussian Rng.next fu fuel T mean sd r2) ∧
    RelS Rng.SameStream (gamma Rng.next fu fuel a r1) (gamma Rng.next fu fuel a r2) ∧
    RelS Rng.SameStream (dirichlet Rng.next fu fuel alpha r1) (dirichlet Rng.next fu fuel alpha r2) ∧
    RelS Rng.SameStream (uniPos (F := F) Rng.next r1 fu) (uniPos Rng.next r2 fu) ∧
    RelS Rng.SameStream (rndMem Rng.next fu n [] r1) (rndMem Rng.next fu n [] r2) ∧
    RelS Rng.SameStream (floatString Rng.next fu r1) (floatString Rng.next fu r2) :=
  let h := Rng.initWith_sameStream r seed
  let b := Rng.sameStream_bisim
  ⟨gaussian_rel b fu fuel T mean sd _ _ h, gamma_rel b fu fuel a _ _ h, dirichlet_rel b fu fuel alpha _ _ h,
   uniPos_rel b fu _ _ h, rndMem_rel b fu n [] _ _ h, floatString_rel b fu _ _ h⟩

/-- the generator constants of the working tree — PROBED from the compiled `mersenne_twister`, `mersenne_fill_table`,
    `mersenne_seed_table`, `knuth`, `esl_rand64`, `mt64_fill_table`, `mt64_seed_table` on every run (`translate/rand_tables.py`:
    independent of how the source spells them; the prober also validates that the C refill / seeding / tempering ARE the MT
    recurrence with these values) — are the published MT19937 (n=624, m=397, a=0x9908B0DF, upper/lower masks, seeding
    multiplier 69069), LCG (a=69069, c=1) and MT19937-64 (n=312, m=156, a=0xB5026F5AA96619E9, masks, seeding multiplier
    6364136223846793005, shift 62) constants -/
theorem mt_constants_published :
    EaselModel.Generated.RandTables.mt32Consts = [624, 397, 0x9908B0DF, 0x80000000, 0x7FFFFFFF, 69069] ∧
    EaselModel.Generated.RandTables.lcgConsts = [69069, 1] ∧
    EaselModel.Generated.RandTables.mt64Consts =
      [312, 156, 0xB5026F5AA96619E9, 0xFFFFFFFF80000000, 0x7FFFFFFF, 6364136223846793005, 62] := by decide

/-- and the hand model is written with exactly the regenerated values: `P32/twist32/temper32`, `P64/twist64/temper64` and the
    LCG step of `Rng.next` are the MT / LCG with the probed `N, M, A`, masks, seeding constants, and the probed tempering
    (images of all 32 resp. 64 basis words) — no generator constant is taken on trust from the model source -/
theorem model_constants_regenerated :
    (P32.N = c32 0 ∧ P32.M = c32 1 ∧
     (∀ a b c, twist32 a b c = twistOf32 (UInt32.ofNat (c32 2)) (UInt32.ofNat (c32 3)) (UInt32.ofNat (c32 4)) a b c) ∧
     (∀ z x, P32.seedf z x = UInt32.ofNat (c32 5) * x) ∧
     (List.range 32).map (fun i => (temper32 ((1 : UInt32) <<< UInt32.ofNat i)).toNat) = EaselModel.Generated.RandTables.mt32TemperBasis) ∧
    (P64.N = c64 0 ∧ P64.M = c64 1 ∧
     (∀ a b c, twist64 a b c = twistOf64 (UInt64.ofNat (c64 2)) (UInt64.ofNat (c64 3)) (UInt64.ofNat (c64 4)) a b c) ∧
     (∀ z x, P64.seedf z x = UInt64.ofNat (c64 5) * (x ^^^ (x >>> UInt64.ofNat (c64 6))) + UInt64.ofNat (z + 1)) ∧
     (List.range 64).map (fun i => (temper64 ((1 : UInt64) <<< UInt64.ofNat i)).toNat) = EaselModel.Generated.RandTables.mt64TemperBasis) ∧
    (∀ r : Rng, r.kind = .fast → (r.next).1 = r.x * UInt32.ofNat (EaselModel.Generated.RandTables.lcgConsts.getD 0 0)
                                               + UInt32.ofNat (EaselModel.Generated.RandTables.lcgConsts.getD 1 0)) :=
  ⟨⟨model_uses_generated32.1, model_uses_generated32.2.1, model_uses_generated32.2.2.1, model_uses_generated32.2.2.2.1,
    model_uses_generated32.2.2.2.2.1⟩,
   ⟨model_uses_generated64.1, model_uses_generated64.2.1, model_uses_generated64.2.2.1, model_uses_generated64.2.2.2.1,
    model_uses_generated64.2.2.2.2.1⟩,
   fun r h => (model_uses_generated_lcg r h).1⟩

/-- the tempering functions of the model are XOR-linear and fix 0 — the same two facts the prober checks of the compiled C
    tempering on every run — so agreement on the 32 (64) basis words (`model_constants_regenerated`) is agreement everywhere -/
theorem temper_linear (a b : UInt32) (c d : UInt64) :
    temper32 (a ^^^ b) = temper32 a ^^^ temper32 b ∧ temper32 0 = 0 ∧
    temper64 (c ^^^ d) = temper64 c ^^^ temper64 d ∧ temper64 0 = 0 :=
  ⟨temper32_xor a b, temper32_zero, temper64_xor c d, temper64_zero⟩

/-! ## Seed 0 through Create / CreateFast / CreateTimeseeded / Init (both generators), `esl_rand64_Init`, and the Dump functions -/

/-- `esl_randomness_Create(0)`, `_CreateFast(0)`, `_CreateTimeseeded()`: whatever `time()`, `getpid()`, `clock()` answer, the
    seed reported by `GetSeed` is non-zero and the generator IS the generator created with that seed (same whole state, hence
    same stream of every derived draw); `CreateTimeseeded` is `Create(0)` -/
theorem seed0_create_replays (k : Kind) (env : Env) :
    (Rng.createEnv k 0 env).seed ≠ 0 ∧ Rng.createEnv k 0 env = Rng.create k (Rng.createEnv k 0 env).seed ∧
    Rng.createTimeseeded env = Rng.createEnv .mersenne 0 env := by
  have hs : (Rng.createEnv k 0 env).seed = effSeed32 0 env := reinit_reports_seed _ _
  exact ⟨by rw [hs]; exact seed0_nonzero32 env, by rw [hs]; rfl, rfl⟩

/-- `esl_randomness_Init(r, 0)` on a generator of any history: non-zero reported seed, stream = the stream of that seed -/
theorem seed0_init_replays (r : Rng) (env : Env) (k : Nat) :
    (r.initEnv 0 env).seed ≠ 0 ∧
    ((r.initEnv 0 env).draws k).1 = ((Rng.create r.kind (r.initEnv 0 env).seed).draws k).1 := by
  have hs : (r.initEnv 0 env).seed = effSeed32 0 env := reinit_reports_seed _ _
  exact ⟨by rw [hs]; exact seed0_nonzero32 env, by rw [hs]; exact reinit_replays r _ k⟩

/-- the 64-bit generator: `esl_rand64_Init(rng, seed)` on any history replaces the whole state by that of
    `esl_rand64_Create(seed)` (replay), seed 0 selects a non-zero seed that is reported back, non-zero seeds are kept -/
theorem rand64_init_replays (r : Rng64) (seed : UInt64) (env : Env) :
    r.initEnv seed env = Rng64.create (r.initEnv seed env).seed ∧ (r.initEnv 0 env).seed ≠ 0 ∧
    (seed ≠ 0 → (r.initEnv seed env).seed = seed) :=
  ⟨rfl, seed0_nonzero64 env, fun h => by simp [Rng64.initEnv, Rng64.initWith, Rng64.create, effSeed64, h]⟩

/-- `esl_randomness_Dump` / `esl_rand64_Dump` read only inside the state table, for every seed, either kind, after any number
    of draws — in particular with the table exactly used up (`mti == 624`, the state of fix 6211f3f) -/
theorem dump_in_bounds (kind : Kind) (seed : UInt32) (seed64 : UInt64) (k : Nat) :
    ((Rng.create kind seed).draws k).2.dump.isSome ∧ ((Rng64.create seed64).draws k).2.dump.isSome :=
  ⟨Rng.dump_isSome _ (Rng.wf_initWith_draws _ seed k),
   Rng64.dump_isSome _ (Rng64.wf_draws _ (Rng64.onStream_create seed64).wf k)⟩

/-- and after a re-initialisation of any well-formed state -/
theorem dump_in_bounds_reinit (r : Rng) (seed : UInt32) (k : Nat) : ((r.initWith seed).draws k).2.dump.isSome :=
  Rng.dump_isSome _ (Rng.wf_initWith_draws r seed k)

/-- counter-example kept from before fix 6211f3f: the unguarded read `mt[mti]` is out of bounds after Create + 624 draws,
    for every seed -/
theorem dump_prefix_out_of_bounds (seed : UInt32) : ((Rng.create .mersenne seed).draws 624).2.dumpCurPreFix = none := by
  have h0 : (Rng.create .mersenne seed).st.mti = 0 := by simp [Rng.create, Rng.initWith, init]
  obtain ⟨a, b⟩ := Rng.mti_draws (Rng.create .mersenne seed) (Rng.initWith_kind _ seed) 624 (by omega)
  have hw : ((Rng.create .mersenne seed).draws 624).2.WF := Rng.wf_initWith_draws _ seed 624
  exact Rng.dumpCurPreFix_fault _ (hw b).1 (by rw [a, h0])

/-! non-vacuity of the sampler hypotheses -/
example : TablesOK ⟨Array.replicate 32 0, Array.replicate 31 0, Array.replicate 31 0, Array.replicate 31 0⟩ :=
  ⟨by simp, by simp, by simp, by simp⟩
example : (0:ℝ) < 0.5 ∧ ([0.5, 2] : List ℝ) ≠ [] := ⟨by norm_num, by simp⟩

/-! ## The rejection loops of `esl_rnd_Roll`, `esl_rand64_Roll`, `esl_rnd_UniformPositive` terminate for EVERY seed

Not a probability-1 statement and not a computation over seeds.  A rejected raw word of a roll has its top bit set (for every `n`);
the top bit of the tempered output is the XOR of four state bits; the refill recurrence, read bit by bit, makes every state bit
sequence a solution of ONE linear recurrence `ψ(E) s = 0` over GF(2) with `ψ(1) = 1` (the top bit of the twist constant) and
`deg ψ ≤ 19998` (`Random/LinRec.lean`) — so the top output bit cannot be 1 at 19999 consecutive positions.  For a general word
stream the loops do not terminate (they keep their fuel in the model); for these generators fuel 19999 (Mersenne Twisters),
`2^31 + 1` (LCG: `x ↦ 69069x+1` iterated `2^31` times is `x ↦ x + 2^31`), 624 / 2 (UniformPositive) always suffices. -/

/-- MT19937 / MT19937-64, every seed, every stream position `k`: one of the next 19999 outputs has its top bit clear -/
theorem mt_top_bit_clear_within (seed : UInt32) (seed64 : UInt64) (k : Nat) :
    (∃ i, i ≤ 19998 ∧ (temper32 (ref P32 seed (624 + k + i))).toNat < 2 ^ 31) ∧
    (∃ i, i ≤ 19998 ∧ (temper64 (ref P64 seed64 (312 + k + i))).toNat < 2 ^ 63) :=
  ⟨mt32_top_clear_within seed (624 + k), mt64_top_clear_within seed64 (312 + k)⟩

/-- such a word is accepted by every roll: the rejected words of `esl_rnd_Roll(n)` / `esl_rand64_Roll(n)` all have the top bit set -/
theorem roll_accepts_top_clear (n x : Nat) (hn : 0 < n) :
    (n < 2 ^ 32 → x < 2 ^ 31 → ∃ v, rollWord n x = some v) ∧ (n < 2 ^ 64 → x < 2 ^ 63 → ∃ v, rollWord64 n x = some v) :=
  ⟨fun h hx => rollWord_small n x hn h hx, fun h hx => rollWord64_small n x hn h hx⟩

/-- `esl_rnd_Roll` on the Mersenne Twister: after `esl_randomness_Init(r, seed)` on a generator of any history and ANY seed, and
    any number `k` of draws, a roll of any `0 < n < 2^32` returns (a value `< n`) within 19999 draws -/
theorem roll_terminates_mt19937 (r0 : Rng) (hk : r0.kind = .mersenne) (seed : UInt32) (k n : Nat) (hn : 0 < n) (hn' : n < 2 ^ 32)
    (fuel : Nat) (hf : 19999 ≤ fuel) : ∃ v r', ((r0.initWith seed).draws k).2.roll n fuel = some (v, r') ∧ v < n := by
  have hs := Rng.onStream_initWith_draws r0 hk seed k
  obtain ⟨v, r', h⟩ := Rng.roll_terminates_onStream _ seed _ hs n hn hn' fuel hf
  exact ⟨v, r', h, roll_lt _ n fuel v r' h⟩

/-- the same for every state on the stream of a seed, and a roll / a positive uniform leaves the generator on that stream (further
    on), so the statement covers histories that interleave draws, rolls and `UniformPositive` calls in any order -/
theorem roll_terminates_on_stream (r : Rng) (seed : UInt32) (k : Nat) (h : r.OnStream seed k) (n : Nat) (hn : 0 < n) (hn' : n < 2 ^ 32)
    (fuel : Nat) (hf : 19999 ≤ fuel) :
    ∃ v r' k', r.roll n fuel = some (v, r') ∧ v < n ∧ k < k' ∧ r'.OnStream seed k' := by
  obtain ⟨v, r', hr⟩ := Rng.roll_terminates_onStream r seed k h n hn hn' fuel hf
  obtain ⟨k', h1, _, h3⟩ := Rng.onStream_roll seed n fuel r k v r' h hr
  exact ⟨v, r', k', hr, roll_lt _ n fuel v r' hr, h1, h3⟩

/-- **`esl_rnd_Roll` as a total function of the reference stream.**  For every seed, every history `Init(seed)` + `k` draws and every
    `0 < n < 2^32` there is a FIRST accepted word among the next 19999 outputs `out32 seed k j = temper(x(624+k+j))` of the MT19937
    reference sequence; the roll returns the rejection map of exactly that word and leaves the generator exactly `i+1` draws
    further, for every fuel `≥ 19999` — "the unbiased rejection mapping of the raw integers", with no fuel caveat -/
theorem roll_is_first_accepted_word (r0 : Rng) (hk : r0.kind = .mersenne) (seed : UInt32) (k n : Nat) (hn : 0 < n) (hn' : n < 2 ^ 32) :
    ∃ i v, i ≤ 19998 ∧ (∀ j, j < i → rollWord n (out32 seed k j) = none) ∧ rollWord n (out32 seed k i) = some v ∧
      ∀ fuel, 19999 ≤ fuel →
        ((r0.initWith seed).draws k).2.roll n fuel = some (v, (((r0.initWith seed).draws k).2.draws (i + 1)).2) := by
  obtain ⟨i, v, hi, hrej, hv⟩ := first_accepted32 seed k n hn hn'
  have hs := Rng.onStream_initWith_draws r0 hk seed k
  exact ⟨i, v, hi, hrej, hv, fun fuel hf => hs.roll_first n v i hrej hv fuel (by omega)⟩

/-- the same for `esl_rand64_Roll` on MT19937-64, every seed, every `0 < n < 2^64` -/
theorem roll64_is_first_accepted_word (seed : UInt64) (k n : Nat) (hn : 0 < n) (hn' : n < 2 ^ 64) :
    ∃ i v, i ≤ 19998 ∧ (∀ j, j < i → rollWord64 n (out64 seed k j) = none) ∧ rollWord64 n (out64 seed k i) = some v ∧
      ∀ fuel, 19999 ≤ fuel →
        ((Rng64.create seed).draws k).2.roll n fuel = some (v, (((Rng64.create seed).draws k).2.draws (i + 1)).2) := by
  obtain ⟨i, v, hi, hrej, hv⟩ := first_accepted64 seed k n hn hn'
  have hs := Rng64.onStream_create_draws seed k
  exact ⟨i, v, hi, hrej, hv, fun fuel hf => hs.roll_first n v i hrej hv fuel (by omega)⟩

/-- the states the termination theorems quantify over are closed under the API: `Init(seed)` puts a Mersenne generator of any
    history on the stream of `seed` at position 0; a raw draw / `esl_random`, a deal, a roll and a positive uniform leave it on that
    stream, further on -/
theorem on_stream_closed (r : Rng) (seed : UInt32) (k : Nat) (h : r.OnStream seed k) :
    (r.next).2.OnStream seed (k + 1) ∧ (∀ m n, ∃ k', k ≤ k' ∧ (r.deal m n).2.OnStream seed k') ∧
    (∀ n fuel v r', r.roll n fuel = some (v, r') → ∃ k', k < k' ∧ r'.OnStream seed k') ∧
    (∀ fuel x r', r.uniformPositive fuel = some (x, r') → ∃ k', k < k' ∧ r'.OnStream seed k') ∧
    (∀ seed', (r.initWith seed').OnStream seed' 0) :=
  ⟨Rng.onStream_next r seed k h, fun m n => Rng.onStream_deal seed r k h m n,
   fun n fuel v r' hr => let ⟨k', a, _, c⟩ := Rng.onStream_roll seed n fuel r k v r' h hr; ⟨k', a, c⟩,
   fun fuel x r' hr => let ⟨k', a, _, c⟩ := Rng.onStream_uniformPositive seed fuel r k x r' h hr; ⟨k', a, c⟩,
   fun seed' => Rng.onStream_initWith r h.1 seed'⟩

/-- `esl_rnd_Roll` on the legacy LCG, every state: within `2^31 + 1` draws -/
theorem roll_terminates_fast (r : Rng) (hk : r.kind = .fast) (n : Nat) (hn : 0 < n) (hn' : n < 2 ^ 32) (fuel : Nat)
    (hf : 2 ^ 31 + 1 ≤ fuel) : ∃ v r', r.roll n fuel = some (v, r') ∧ v < n := by
  obtain ⟨v, r', h⟩ := Rng.roll_terminates_fast r hk n hn hn' fuel hf
  exact ⟨v, r', h, roll_lt _ n fuel v r' h⟩

/-- `esl_rand64_Roll`: after `esl_rand64_Create/Init(seed)` for ANY seed and any number of draws, within 19999 draws -/
theorem roll64_terminates (seed : UInt64) (k n : Nat) (hn : 0 < n) (hn' : n < 2 ^ 64) (fuel : Nat) (hf : 19999 ≤ fuel) :
    ∃ v r' k', ((Rng64.create seed).draws k).2.roll n fuel = some (v, r') ∧ v < n ∧ r'.OnStream seed k' := by
  have hs := Rng64.onStream_create_draws seed k
  obtain ⟨v, r', h⟩ := Rng64.roll_terminates_onStream _ seed _ hs n hn hn' fuel hf
  obtain ⟨k', _, _, h3⟩ := Rng64.onStream_roll seed n fuel _ _ v r' hs h
  exact ⟨v, r', k', h, Rng64.roll_lt n fuel _ v r' h, h3⟩

/-- `esl_rnd_UniformPositive`: for every NON-ZERO seed (the seeds the library uses: 0 is replaced, `seed0_nonzero32`) and any
    history of draws, at most 623 zero draws are rejected (a table of 624 zero words is a fixed point of the refill but is not
    reachable from `mt[1] = 69069·seed ≠ 0`); on the LCG at most one -/
theorem uniformPositive_terminates (r0 : Rng) (seed : UInt32) (hs : seed ≠ 0) (k fuel : Nat) (hf : 624 ≤ fuel) :
    ∃ x r', ((r0.initWith seed).draws k).2.uniformPositive fuel = some (x, r') ∧ 0 < x ∧ x < 2 ^ 32 := by
  cases hk : r0.kind with
  | mersenne =>
    have hst := Rng.onStream_initWith_draws r0 hk seed k
    obtain ⟨x, r', h⟩ := Rng.uniPos_terminates_onStream _ seed hs _ hst fuel hf
    exact ⟨x, r', h, uniformPositive_pos _ fuel x r' h⟩
  | fast =>
    have hkk := (Rng.draws_kind _ k).trans ((Rng.initWith_kind r0 seed).trans hk)
    obtain ⟨x, r', h⟩ := Rng.uniPos_terminates_fast _ hkk fuel (by omega)
    exact ⟨x, r', h, uniformPositive_pos _ fuel x r' h⟩

/-- `esl_rnd_UniformPositive` as a total function of the MT19937 stream of a non-zero seed: it returns the FIRST non-zero one of the next
    624 outputs (as `x/2^32 ∈ (0,1)`) and leaves the generator exactly that many draws further, for every fuel `≥ 624` -/
theorem uniformPositive_is_first_nonzero_word (r0 : Rng) (hk : r0.kind = .mersenne) (seed : UInt32) (hs : seed ≠ 0) (k : Nat) :
    ∃ i, i < 624 ∧ (∀ j, j < i → out32 seed k j = 0) ∧ out32 seed k i ≠ 0 ∧
      ∀ fuel, 624 ≤ fuel → ((r0.initWith seed).draws k).2.uniformPositive fuel
          = some (out32 seed k i, (((r0.initWith seed).draws k).2.draws (i + 1)).2) := by
  obtain ⟨i, hi, hz, hne⟩ := first_nonzero32 seed hs k
  have hst := Rng.onStream_initWith_draws r0 hk seed k
  exact ⟨i, hi, hz, hne, fun fuel hf => hst.uniPos_first i hz hne fuel (by omega)⟩

/-- `esl_rnd_mem` and `esl_rnd_floatstring` (compositions of rolls) always return on the Mersenne Twister, for EVERY seed and history:
    with fuel `≥ 19999` the model answers `.ok` — never `nofuel`, never `fault` — with exactly `n` bytes resp. 1..19 characters -/
theorem mem_floatstring_total (r0 : Rng) (hk : r0.kind = .mersenne) (seed : UInt32) (k n fu : Nat) (hf : 19999 ≤ fu) :
    (∃ bs r', rndMem Rng.next fu n [] ((r0.initWith seed).draws k).2 = .ok (bs, r') ∧ bs.length = n ∧ ∀ b ∈ bs, b < 256) ∧
    (∃ cs r', floatString Rng.next fu ((r0.initWith seed).draws k).2 = .ok (cs, r') ∧ 1 ≤ cs.length ∧ cs.length ≤ 19) := by
  have hs := Rng.onStream_initWith_draws r0 hk seed k
  obtain ⟨bs, r1, _, h1, _⟩ := rndMem_tot seed fu hf n [] _ _ hs
  obtain ⟨cs, r2, _, h2, _⟩ := floatString_tot seed fu hf _ _ hs
  exact ⟨⟨bs, r1, h1, mem_bytes Rng.next fu n _ bs r1 h1⟩, ⟨cs, r2, h2, floatstring_fits Rng.next fu _ cs r2 h2⟩⟩

/-- `esl_rnd_UniformPositive` on any numeric carrier, `esl_rnd_Gamma(a)` when the code's own test `a == floor(a) && a < 12` selects
    `gamma_integer`, and `esl_rnd_Dirichlet` on such `alpha` (e.g. `alpha = NULL`): always return, for every NON-ZERO seed and history
    (their only loop is `UniformPositive`); the other Gamma regimes (Ahrens, fraction) and Gaussian have floating-point acceptance
    tests and keep fuel -/
theorem gamma_integer_dirichlet_total {F : Type} [SOps F] (r0 : Rng) (hk : r0.kind = .mersenne) (seed : UInt32) (hs : seed ≠ 0)
    (k fu fuel : Nat) (hf : 624 ≤ fu) (a : F) (ha : (SOps.beq a (SOps.floor a) && SOps.lt a (SOps.ofNat 12)) = true) (alpha : List F)
    (hal : ∀ b ∈ alpha, (SOps.beq b (SOps.floor b) && SOps.lt b (SOps.ofNat 12)) = true) :
    (∃ u r', uniPos (F := F) Rng.next ((r0.initWith seed).draws k).2 fu = .ok (u, r')) ∧
    (∃ x r', gamma Rng.next fu fuel a ((r0.initWith seed).draws k).2 = .ok (x, r')) ∧
    (∃ p r', dirichlet Rng.next fu fuel alpha ((r0.initWith seed).draws k).2 = .ok (p, r')) := by
  have hst := Rng.onStream_initWith_draws r0 hk seed k
  obtain ⟨u, r1, _, h1, _⟩ := uniPos_tot (F := F) seed hs _ _ hst fu hf
  obtain ⟨x, r2, _, h2, _⟩ := gamma_integer_branch_tot seed hs fu fuel hf a ha _ _ hst
  obtain ⟨p, r3, _, h3, _⟩ := dirichlet_integer_tot seed hs fu fuel hf alpha hal _ _ hst
  exact ⟨⟨u, r1, h1⟩, ⟨x, r2, h2⟩, ⟨p, r3, h3⟩⟩

/-! non-vacuity: the hypotheses are satisfiable (`n = 6`, `seed = 42`), and the bound is about a real phenomenon: the all-zero
    table IS a fixed point of the refill (it is only unreachable), so no bound can hold for an arbitrary table content -/
example : (0 : Nat) < 6 ∧ 6 < 2 ^ 32 ∧ (42 : UInt32) ≠ 0 ∧ (19999 : Nat) ≤ 1000000 := by decide
example : twist32 0 0 0 = 0 ∧ temper32 0 = 0 := by decide
example : (Rng.create .mersenne 42).OnStream 42 0 := Rng.onStream_initWith _ rfl 42
example : (Rng64.create 42).OnStream 42 0 := Rng64.onStream_create 42
/-- the `gamma_integer` test holds of `a = 1` (the `alpha = NULL` case of Dirichlet) over `ℝ` -/
example : (SOps.beq (1 : ℝ) (SOps.floor (1 : ℝ)) && SOps.lt (1 : ℝ) (SOps.ofNat 12)) = true := by
  simp [SOps.beq, SOps.floor, SOps.lt, SOps.ofNat]

end EaselModel.Props.C09
