import EaselModel.Msafile.AfaLemmas
import EaselModel.Msafile.A2mLemmas
import EaselModel.Msafile.ClustalLemmas
import EaselModel.Msafile.PsiblastLemmas
import EaselModel.Msafile.PhylipLemmas
import EaselModel.Msafile.SelexLemmas
import EaselModel.Msafile.StockholmLemmas
import EaselModel.Msafile.StoGrowth
import EaselModel.Msafile.StoNum
import EaselModel.Msafile.OpenByName
import EaselModel.Msafile.GzSuffix
import EaselModel.Msafile.OpenGz
import EaselModel.Msafile.AbcTables
import EaselModel.Msafile.GuessLemmas
import EaselModel.Msafile.ConfigFacts
import EaselModel.Msafile.StrLit
import EaselModel.Msafile.OpenedGood
/-! # C01 — alignment input is total (the lemmas are in `Msafile/*Lemmas.lean`, the table facts in `Msafile/ConfigFacts.lean`)

Full statement (properties.jsonl): for every byte string, in each of the ten formats or with autodetection, text or digital
(supplied or guessed alphabet): every call returns a documented normal outcome (ok / eof / eformat with a message /
format-or-alphabet undetermined); never a crash, out-of-object access, UB, leak or internal exception; every alignment
returned with success is well formed.

The theorems below cover all ten formats (aligned FASTA, A2M, Clustal, Clustal-like, PSI-BLAST, PHYLIP interleaved and
sequential, SELEX, Stockholm and Pfam), declared format or format autodetection (section "Autodetection" below:
`esl_msafile_GuessFileFormat`, `msafile_check_selex`, `esl_msafile_phylip_CheckFileFormat`), text mode and digital mode
with a supplied or guessed alphabet (`esl_msafile_GuessAlphabet`), for EVERY byte string (no size bound).  Leaks and
allocation failure are outside the model. `Good r` is: `ok m ⇒ m.wellFormed`, `eof`, `eformat msg ⇒ msg ≠ ""`; `fault`
(out-of-bounds access of the bounds-checked model) and `exc` (ESL_EXCEPTION) are NOT good. -/
namespace EaselModel.Props.C01
open EaselModel.Msafile

def afaConfigs : List Cfg := [afaCfg none, afaCfg (some abcAmino), afaCfg (some abcDna), afaCfg (some abcRna)]

/-- the four reader configurations the check drives are valid: the input map emits only storable symbols and cannot
    trigger `ESL_EXCEPTION` inside `esl_strmapcat` / `esl_abc_dsqcat` (`Msafile/ConfigFacts.lean`) -/
theorem afaConfigs_valid : ∀ cfg ∈ afaConfigs, cfg.valid :=
  forall_stdConfigs fun _ h => afaCfg_valid h.ok

/-- **AFA, every byte string, text and digital**: one `esl_msafile_Read` returns ok with a well-formed alignment, eof, or
    eformat with a non-empty message. -/
theorem afa_total (cfg : Cfg) (hc : cfg ∈ afaConfigs) (src : Bytes) : Good (afaRead cfg (splitLines src)).1 :=
  afaRead_good cfg (afaConfigs_valid cfg hc) (splitLines src)

/-- … in particular the model never makes an out-of-bounds access and never raises an internal exception -/
theorem afa_no_fault (cfg : Cfg) (hc : cfg ∈ afaConfigs) (src : Bytes) :
    (afaRead cfg (splitLines src)).1 ≠ .fault ∧ (afaRead cfg (splitLines src)).1 ≠ .exc :=
  (afa_total cfg hc src).no_fault

/-- … a format error always carries a message -/
theorem afa_eformat_has_message (cfg : Cfg) (hc : cfg ∈ afaConfigs) (src : Bytes) (msg : String)
    (h : (afaRead cfg (splitLines src)).1 = .eformat msg) : msg ≠ "" :=
  (afa_total cfg hc src).msg_ne h

/-- … an alignment returned with eslOK is well formed: ≥ 1 sequence, every row of length `alen` (text rows NUL-free,
    digital rows sentinel-delimited with codes `< Kp`), default weights, and nothing is left unread -/
theorem afa_ok_wellformed (cfg : Cfg) (hc : cfg ∈ afaConfigs) (src : Bytes) (m : Msa)
    (h : (afaRead cfg (splitLines src)).1 = .ok m) :
    m.wellFormed = true ∧ (afaRead cfg (splitLines src)).2 = [] :=
  ⟨(afa_total cfg hc src).wf h, (afaRead_ok_consumes cfg _ m h).1⟩

/-- reading alignments until the end: the second `esl_msafile_Read` after a success returns eslEOF (AFA holds one alignment) -/
theorem afa_read_all_total (cfg : Cfg) (hc : cfg ∈ afaConfigs) (src : Bytes) :
    Good (afaRead cfg (splitLines src)).1 ∧
    (∀ m, (afaRead cfg (splitLines src)).1 = .ok m → (afaRead cfg (afaRead cfg (splitLines src)).2).1 = .eof) :=
  ⟨afa_total cfg hc src, fun m h => (afaRead_ok_consumes cfg _ m h).2⟩

/-- the abstract line reader partitions the input: bodies and terminators concatenate to the input, terminators are
    LF, CRLF or (last line) empty, and no body contains an LF -/
theorem lines_partition (src : Bytes) :
    ((splitLinesT src []).flatMap fun l => l.1 ++ l.2) = src ∧
    (∀ l ∈ splitLinesT src [], l.2 = [10] ∨ l.2 = [13, 10] ∨ l.2 = []) ∧
    (∀ l ∈ splitLinesT src [], (10 : UInt8) ∉ l.1) :=
  ⟨by simpa using splitLinesT_flat src [], splitLinesT_term src [], splitLinesT_body src [] (by simp)⟩

/-- `esl_strmapcat` with a valid text input map never stores a NUL (so `strlen(row)` is the number of stored symbols) -/
theorem strmapcat_length (dest : Option Bytes) (src : Bytes)
    (hd : ∀ d, dest = some d → d.all (· != 0) = true) :
    ∀ d', (strmapcat (afaInmap none) dest src).2 = some d' → d'.all (· != 0) = true :=
  strmapcat_no_nul _ (afaCfg_valid abcOk_none).emits dest src hd

/-- `esl_abc_dsqcat` appends only valid alphabet codes, whatever the input bytes (NUL, ≥ 0x80, control characters …) -/
theorem dsqcat_codes_valid (a : Abc) (ha : a = abcAmino ∨ a = abcDna ∨ a = abcRna) (src : Bytes) :
    ((mapLoop (afaInmap (some a)) src .ok []).2.reverse).all (fun x => decide (x.toNat < a.kp)) = true := by
  have hv : (afaCfg (some a)).valid := afaCfg_valid (abcOk_some (wf_std ha))
  exact mapLoop_reverse_all _ _ hv.emits src

/-! ## non-vacuity: concrete inputs on which the theorems speak about each kind of outcome -/

/-- ">a d\nAC-GT\n>b\nAC\nGTT\n" -/
def exGood : Bytes := [62,97,32,100,10,65,67,45,71,84,10,62,98,10,65,67,10,71,84,84,10]
/-- ">a\nACGT\n>b\nAC\n" (ragged) -/
def exRagged : Bytes := [62,97,10,65,67,71,84,10,62,98,10,65,67,10]

example : (afaRead (afaCfg none) (splitLines exGood)).1 matches .ok _ := by rw [afaCfg_text]; decide +kernel
example : (afaRead (afaCfg (some abcDna)) (splitLines exGood)).1 matches .ok _ := by decide +kernel
example : (afaRead (afaCfg (some abcDna)) (splitLines exRagged)).1 matches .eformat _ := by decide +kernel
example : (afaRead (afaCfg none) (splitLines [12])).1 matches .eformat _ := by rw [afaCfg_text]; decide +kernel     -- "\f" (DESIGN §7 item 5): a format error, nothing is read past the line
example : (afaRead (afaCfg none) (splitLines [])).1 matches .eof := by rw [afaCfg_text]; decide +kernel
example : afaCfg (some abcAmino) ∈ afaConfigs := by simp [afaConfigs]

/-! ## A2M (`esl_msafile_a2m_Read` + `a2m_padding_text` / `a2m_padding_digital`) -/

def a2mConfigs : List Cfg := [a2mCfg none, a2mCfg (some abcAmino), a2mCfg (some abcDna), a2mCfg (some abcRna)]

/-- the four A2M configurations are valid: the input map of `esl_msafile_a2m_SetInmap` emits only storable symbols and
    cannot trigger `ESL_EXCEPTION`; and (`A2mValid`) it stores a residue for exactly the bytes the `csflag` loop flags
    (NUL excepted, which the loop rejects), and the padding symbol (`'.'` / the gap code) is storable -/
theorem a2mConfigs_valid : ∀ cfg ∈ a2mConfigs, cfg.valid ∧ A2mValid cfg :=
  forall_stdConfigs fun _ h => ⟨a2mCfg_valid h.ok, a2mCfg_a2mValid h.ok⟩

/-- **A2M, every byte string, text and digital**: one `esl_msafile_Read` returns ok with a well-formed alignment, eof, or
    eformat with a non-empty message. -/
theorem a2m_total (cfg : Cfg) (hc : cfg ∈ a2mConfigs) (src : Bytes) : Good (a2mRead cfg (splitLines src)).1 :=
  a2mRead_good cfg (a2mConfigs_valid cfg hc).1 (a2mConfigs_valid cfg hc).2 (splitLines src)

/-- … in particular no access outside `csflag[]`, `this_nins[]`, `nins[]`, the old and the new rows (reader and padding
    functions), no read of a never-written cell, and no internal exception -/
theorem a2m_no_fault (cfg : Cfg) (hc : cfg ∈ a2mConfigs) (src : Bytes) :
    (a2mRead cfg (splitLines src)).1 ≠ .fault ∧ (a2mRead cfg (splitLines src)).1 ≠ .exc :=
  (a2m_total cfg hc src).no_fault

theorem a2m_eformat_has_message (cfg : Cfg) (hc : cfg ∈ a2mConfigs) (src : Bytes) (msg : String)
    (h : (a2mRead cfg (splitLines src)).1 = .eformat msg) : msg ≠ "" :=
  (a2m_total cfg hc src).msg_ne h

/-- … an alignment returned with eslOK is well formed (rows of length `alen` = consensus + insert columns, `rf` of length
    `alen`, default weights), and nothing is left unread -/
theorem a2m_ok_wellformed (cfg : Cfg) (hc : cfg ∈ a2mConfigs) (src : Bytes) (m : Msa)
    (h : (a2mRead cfg (splitLines src)).1 = .ok m) :
    m.wellFormed = true ∧ (a2mRead cfg (splitLines src)).2 = [] :=
  ⟨(a2m_total cfg hc src).wf h, (a2mRead_ok_consumes cfg _ m h).1⟩

theorem a2m_read_all_total (cfg : Cfg) (hc : cfg ∈ a2mConfigs) (src : Bytes) :
    Good (a2mRead cfg (splitLines src)).1 ∧
    (∀ m, (a2mRead cfg (splitLines src)).1 = .ok m → (a2mRead cfg (a2mRead cfg (splitLines src)).2).1 = .eof) :=
  ⟨a2m_total cfg hc src, fun m h => (a2mRead_ok_consumes cfg _ m h).2⟩

/-- ">a\nAc\n>b d\na\nA.\n" -/
def exA2m : Bytes := [62,97,10,65,99,10,62,98,32,100,10,97,10,65,46,10]
/-- ">a\nAA\n>b\nA\n" (different number of consensus columns) -/
def exA2mBad : Bytes := [62,97,10,65,65,10,62,98,10,65,10]
/-- ">a\nAA\n>b\noA\nA\n" and ">a\nao\n": an `'o'`, which the input map ignores, must not be flagged by the `csflag` loop
    (else `a2m_padding_text` reads past the row, resp. a row shorter than `alen` is returned with eslOK) -/
def exA2mLowerO : Bytes := [62,97,10,65,65,10,62,98,10,111,65,10,65,10]
def exA2mLowerO2 : Bytes := [62,97,10,97,111,10]
/-- ">a\n\0\0\nA\n": NUL bytes on a sequence line are a format error (the padding phase would read `csflag` cells never written) -/
def exA2mNul : Bytes := [62,97,10,0,0,10,65,10]

example : (a2mRead (a2mCfg none) (splitLines exA2m)).1 matches .ok _ := by rw [a2mCfg_text]; decide +kernel
example : (a2mRead (a2mCfg (some abcDna)) (splitLines exA2m)).1 matches .ok _ := by decide +kernel
example : (a2mRead (a2mCfg (some abcDna)) (splitLines exA2mBad)).1 matches .eformat _ := by decide +kernel
example : (a2mRead (a2mCfg none) (splitLines exA2mLowerO)).1 matches .ok _ := by rw [a2mCfg_text]; decide +kernel
example : (a2mRead (a2mCfg (some abcAmino)) (splitLines exA2mLowerO2)).1 matches .ok _ := by decide +kernel
example : (a2mRead (a2mCfg none) (splitLines exA2mNul)).1 matches .eformat _ := by rw [a2mCfg_text]; decide +kernel
example : (a2mRead (a2mCfg none) (splitLines [])).1 matches .eof := by rw [a2mCfg_text]; decide +kernel
example : a2mCfg (some abcRna) ∈ a2mConfigs := by simp [a2mConfigs]


/-! ## Clustal / Clustal-like and PSI-BLAST -/

def clustalConfigs : List Cfg := [clustalCfg none, clustalCfg (some abcAmino), clustalCfg (some abcDna), clustalCfg (some abcRna)]
def psiblastConfigs : List Cfg := [psiblastCfg none, psiblastCfg (some abcAmino), psiblastCfg (some abcDna), psiblastCfg (some abcRna)]

theorem clustalConfigs_valid : ∀ cfg ∈ clustalConfigs, cfg.valid :=
  forall_stdConfigs fun _ h => clustalCfg_valid h.ok

theorem psiblastConfigs_valid : ∀ cfg ∈ psiblastConfigs, cfg.valid :=
  forall_stdConfigs fun _ h => psiblastCfg_valid h.ok

/-- **Clustal (`like = false`) and Clustal-like (`like = true`), every byte string, text and digital**: one `esl_msafile_Read`
    returns ok with a well-formed alignment, eof, or eformat with a non-empty message; never an out-of-bounds access
    (`msa->sqname[idx]`, `msa->aseq[idx]`/`msa->ax[idx]`, the name and sequence fields of the line) or an internal exception. -/
theorem clustal_total (like : Bool) (cfg : Cfg) (hc : cfg ∈ clustalConfigs) (src : Bytes) :
    Good (clustalRead like cfg (splitLines src)).1 :=
  clustalRead_good like cfg (clustalConfigs_valid cfg hc) (splitLines src)

theorem clustal_no_fault (like : Bool) (cfg : Cfg) (hc : cfg ∈ clustalConfigs) (src : Bytes) :
    (clustalRead like cfg (splitLines src)).1 ≠ .fault ∧ (clustalRead like cfg (splitLines src)).1 ≠ .exc :=
  (clustal_total like cfg hc src).no_fault

/-- **PSI-BLAST, every byte string, text and digital** (the returned alignment carries an RF line of length `alen`) -/
theorem psiblast_total (cfg : Cfg) (hc : cfg ∈ psiblastConfigs) (src : Bytes) :
    Good (psiblastRead cfg (splitLines src)).1 :=
  psiblastRead_good cfg (psiblastConfigs_valid cfg hc) (splitLines src)

theorem psiblast_no_fault (cfg : Cfg) (hc : cfg ∈ psiblastConfigs) (src : Bytes) :
    (psiblastRead cfg (splitLines src)).1 ≠ .fault ∧ (psiblastRead cfg (splitLines src)).1 ≠ .exc :=
  (psiblast_total cfg hc src).no_fault

/-- … an alignment returned with eslOK is well formed and nothing is left unread; the next read returns eslEOF -/
theorem clustal_ok_wellformed (like : Bool) (cfg : Cfg) (hc : cfg ∈ clustalConfigs) (src : Bytes) (m : Msa)
    (h : (clustalRead like cfg (splitLines src)).1 = .ok m) :
    m.wellFormed = true ∧ (clustalRead like cfg (splitLines src)).2 = [] ∧
      (clustalRead like cfg (clustalRead like cfg (splitLines src)).2).1 = .eof :=
  ⟨(clustal_total like cfg hc src).wf h, clustalRead_ok_consumes like cfg _ m h⟩

theorem psiblast_ok_wellformed (cfg : Cfg) (hc : cfg ∈ psiblastConfigs) (src : Bytes) (m : Msa)
    (h : (psiblastRead cfg (splitLines src)).1 = .ok m) :
    m.wellFormed = true ∧ (psiblastRead cfg (splitLines src)).2 = [] ∧
      (psiblastRead cfg (psiblastRead cfg (splitLines src)).2).1 = .eof :=
  ⟨(psiblast_total cfg hc src).wf h, psiblastRead_ok_consumes cfg _ m h⟩

/-- "CLUSTAL alignment\n\na AC\nb GT\n  **\n\na A\nb G\n\n" : two blocks -/
def exClustal : Bytes := [67,76,85,83,84,65,76,32,97,108,105,103,110,109,101,110,116,10,10,
  97,32,65,67,10, 98,32,71,84,10, 32,32,42,42,10, 10, 97,32,65,10, 98,32,71,10, 10]
/-- the same with a third row `c T` added to the second block only (a block with more rows than the first must be a format error, not a read past `sqname[]`) -/
def exClustalExtraRow : Bytes := [67,76,85,83,84,65,76,32,97,108,105,103,110,109,101,110,116,10,10,
  97,32,65,67,10, 98,32,71,84,10, 32,32,42,42,10, 10, 97,32,65,10, 98,32,71,10, 99,32,84,10, 10]
/-- "a ACg\nb A-g\n\na T\nb T\n" : two PSI-BLAST blocks, third column lower case -/
def exPsi : Bytes := [97,32,65,67,103,10, 98,32,65,45,103,10, 10, 97,32,84,10, 98,32,84,10]
/-- "a AC\nb Ac\n" : case conflict in column 2 -/
def exPsiCase : Bytes := [97,32,65,67,10, 98,32,65,99,10]

example : (clustalRead false (clustalCfg none) (splitLines exClustal)).1 matches .ok _ := by rw [clustalCfg_text]; decide +kernel
example : (clustalRead true (clustalCfg (some abcDna)) (splitLines exClustal)).1 matches .ok _ := by decide +kernel
example : (clustalRead false (clustalCfg none) (splitLines exClustalExtraRow)).1 matches .eformat _ := by rw [clustalCfg_text]; decide +kernel
example : (clustalRead false (clustalCfg none) (splitLines exPsi)).1 matches .eformat _ := by rw [clustalCfg_text]; decide +kernel       -- no header
example : (clustalRead false (clustalCfg none) (splitLines [])).1 matches .eof := by rw [clustalCfg_text]; decide +kernel
example : (psiblastRead (psiblastCfg none) (splitLines exPsi)).1 matches .ok _ := by rw [psiblastCfg_text]; decide +kernel
example : (psiblastRead (psiblastCfg (some abcDna)) (splitLines exPsi)).1 matches .ok _ := by decide +kernel
example : (psiblastRead (psiblastCfg none) (splitLines exPsiCase)).1 matches .eformat _ := by rw [psiblastCfg_text]; decide +kernel
example : (psiblastRead (psiblastCfg none) (splitLines [10, 32, 10])).1 matches .eof := by rw [psiblastCfg_text]; decide +kernel
example : clustalCfg (some abcAmino) ∈ clustalConfigs := by simp [clustalConfigs]
example : psiblastCfg (some abcRna) ∈ psiblastConfigs := by simp [psiblastConfigs]


/-! ## PHYLIP (interleaved `phylip`, sequential `phylips`), declared format

`esl_msafile_phylip_SetInmap`, `esl_msafile_phylip_Read`, `phylip_interleaved_Read`, `phylip_sequential_Read`,
`phylip_rectify_input_name`, `esl_mem_strtoi32`, with the default name width (`fmtd.namewidth = 0` ⇒ 10).
`phylipRead sequential cfg lines` is one `esl_msafile_Read`; its second component is what is left for the next read
(a PHYLIP file may hold several alignments: the header line of the next one is pushed back by `esl_msafile_PutLine`).
Not covered in this section: name widths other than the default (they come with autodetection, section "Autodetection"
below); allocation failure. -/

def phylipConfigs : List Cfg := [phylipCfg none, phylipCfg (some abcAmino), phylipCfg (some abcDna), phylipCfg (some abcRna)]

theorem phylipConfigs_valid : ∀ cfg ∈ phylipConfigs, cfg.valid :=
  forall_stdConfigs fun _ h => phylipCfg_valid h.ok

/-- **PHYLIP, both variants, every byte string, text and digital**: one `esl_msafile_Read` returns ok with a well-formed
    alignment, eof, or eformat with a non-empty message.  Stated for every list of lines, hence also for every
    continuation point inside a file holding several alignments. -/
theorem phylip_total (sequential : Bool) (cfg : Cfg) (hc : cfg ∈ phylipConfigs) (lines : List Bytes) :
    Good (phylipRead sequential cfg lines).1 :=
  phylipRead_good sequential cfg (phylipConfigs_valid cfg hc) lines

theorem phylip_total_bytes (sequential : Bool) (cfg : Cfg) (hc : cfg ∈ phylipConfigs) (src : Bytes) :
    Good (phylipRead sequential cfg (splitLines src)).1 :=
  phylip_total sequential cfg hc (splitLines src)

/-- … the accesses to `msa->sqname[idx]`, `msa->aseq[idx]`, `msa->ax[idx]` (arrays of the header's `nseq` entries) stay in
    bounds, the `*cat` helpers are always called with the true length of the stored row, no NULL name or row is
    returned, and no `ESL_EXCEPTION` is raised -/
theorem phylip_no_fault (sequential : Bool) (cfg : Cfg) (hc : cfg ∈ phylipConfigs) (lines : List Bytes) :
    (phylipRead sequential cfg lines).1 ≠ .fault ∧ (phylipRead sequential cfg lines).1 ≠ .exc :=
  (phylip_total sequential cfg hc lines).no_fault

theorem phylip_eformat_has_message (sequential : Bool) (cfg : Cfg) (hc : cfg ∈ phylipConfigs) (lines : List Bytes) (msg : String)
    (h : (phylipRead sequential cfg lines).1 = .eformat msg) : msg ≠ "" :=
  (phylip_total sequential cfg hc lines).msg_ne h

/-- … an alignment returned with eslOK is well formed: ≥ 1 sequence, every row of length `alen` (text rows NUL-free,
    digital rows sentinel-delimited with codes `< Kp`), default weights; and what is left for the next read is a suffix
    of the lines offered (nothing invented; the pushed-back line is the last line read) -/
theorem phylip_ok_wellformed (sequential : Bool) (cfg : Cfg) (hc : cfg ∈ phylipConfigs) (lines : List Bytes) (m : Msa)
    (h : (phylipRead sequential cfg lines).1 = .ok m) :
    m.wellFormed = true ∧ (phylipRead sequential cfg lines).2 <:+ lines :=
  ⟨(phylip_total sequential cfg hc lines).wf h, phylipRead_rest_suffix sequential cfg lines⟩

/-- reading a whole file alignment by alignment (what the harness and `readAll` do): the first read and the read that follows it are good
    (`phylip_total` holds for every list of lines, hence for every later read as well) -/
theorem phylip_read_all_total (sequential : Bool) (cfg : Cfg) (hc : cfg ∈ phylipConfigs) (src : Bytes) :
    Good (phylipRead sequential cfg (splitLines src)).1 ∧
    Good (phylipRead sequential cfg (phylipRead sequential cfg (splitLines src)).2).1 :=
  ⟨phylip_total sequential cfg hc _, phylip_total sequential cfg hc _⟩

/-- `esl_abc_dsqcat` with the PHYLIP input map appends only valid alphabet codes, whatever the input bytes -/
theorem phylip_dsqcat_codes_valid (a : Abc) (ha : a = abcAmino ∨ a = abcDna ∨ a = abcRna) (src : Bytes) :
    ((mapLoop (phylipInmap (some a)) src .ok []).2.reverse).all (fun x => decide (x.toNat < a.kp)) = true := by
  have hv : (phylipCfg (some a)).valid := phylipCfg_valid (abcOk_some (wf_std ha))
  exact mapLoop_reverse_all _ _ hv.emits src

/-! ### non-vacuity and witnesses -/

/-- " 2 4\nseq1      AC\nseq2      A-\n\nGT\n-T\n" : two interleaved blocks -/
def exPhyI : Bytes := str " 2 4\nseq1      AC\nseq2      A-\n\nGT\n-T\n"
/-- "2 4\nseq1      AC\nGT\nseq2      A-\n-T\n" : sequential, records spanning lines -/
def exPhyS : Bytes := str "2 4\nseq1      AC\nGT\nseq2      A-\n-T\n"
/-- two alignments in one file -/
def exPhy2 : Bytes := str "1 2\na b       AC\n 1 3\nc         ACG\n"

/-- the bytes of `exPhyI`, read off once: the parser looks at them many times, and a literal still to be decoded is decoded each time -/
theorem exPhyI_bytes : exPhyI = [32, 50, 32, 52, 10, 115, 101, 113, 49, 32, 32, 32, 32, 32, 32, 65, 67, 10, 115, 101, 113, 50, 32, 32, 32, 32, 32, 32, 65, 45, 10, 10, 71, 84, 10, 45, 84, 10] := by
  rw [exPhyI, str_ofList]; decide +kernel
example : (phylipRead false (phylipCfg none) (splitLines exPhyI)).1 matches .ok _ := by rw [phylipCfg_text, exPhyI_bytes]; decide +kernel
example : (phylipRead false (phylipCfg (some abcDna)) (splitLines exPhyI)).1 matches .ok _ := by rw [exPhyI_bytes]; decide +kernel
example : (phylipRead true (phylipCfg (some abcRna)) (splitLines exPhyS)).1 matches .ok _ := by decide +kernel
example : (phylipRead true (phylipCfg none) (splitLines exPhyI)).1 matches .eformat _ := by rw [phylipCfg_text, exPhyI_bytes]; decide +kernel        -- wrong variant
example : (phylipRead false (phylipCfg none) (splitLines [])).1 matches .eof := by rw [phylipCfg_text]; decide +kernel
example : (phylipRead false (phylipCfg none) (splitLines (str "0 4\nx         ACGT\n"))).1 matches .eformat _ := by rw [phylipCfg_text]; decide +kernel   -- nseq < 1: a format error, not an exception
example : (phylipRead false (phylipCfg none) (splitLines (str "+1 4\nx         ACGT\n"))).1 matches .eformat _ := by rw [phylipCfg_text]; decide +kernel  -- '+' is not a sign
example : (phylipRead false (phylipCfg none) (splitLines (str "0x1 04\nx         ACGT\n"))).1 matches .ok _ := by rw [phylipCfg_text]; decide +kernel     -- hex / octal header
example : (phylipRead false (phylipCfg none) (splitLines (str "2147483648 4\n"))).1 matches .eformat _ := by rw [phylipCfg_text]; decide +kernel        -- eslERANGE
/-- the second alignment is left for the next read: the pushed-back header line and what follows it -/
theorem exPhy2_rest : (phylipRead false (phylipCfg none) (splitLines exPhy2)).2 = [str " 1 3", str "c         ACG"] := by
  rw [phylipCfg_text, exPhy2, str_ofList, str_ofList, str_ofList]; decide +kernel
example : (phylipRead false (phylipCfg none) (splitLines exPhy2)).2 = [str " 1 3", str "c         ACG"] := exPhy2_rest
example : (phylipRead false (phylipCfg none) (phylipRead false (phylipCfg none) (splitLines exPhy2)).2).1 matches .ok _ := by
  rw [exPhy2_rest, phylipCfg_text]; decide +kernel
/-- digital mode ignores all ten digits, '9' included, as text mode does -/
example : (phylipRead false (phylipCfg (some abcDna)) (splitLines (str "1 4\nx         AC8GT\n"))).1 matches .ok _ := by decide +kernel
example : (phylipRead false (phylipCfg (some abcDna)) (splitLines (str "1 4\nx         AC9GT\n"))).1 matches .ok _ := by decide +kernel
example : (phylipRead false (phylipCfg none) (splitLines (str "1 4\nx         AC9GT\n"))).1 matches .ok _ := by rw [phylipCfg_text]; decide +kernel
example : phylipCfg (some abcAmino) ∈ phylipConfigs := by simp [phylipConfigs]


/-! ## SELEX (`esl_msafile_selex_Read`)

Model `Msafile/Selex.lean`, lemmas `Msafile/SelexLemmas.lean`.  Beyond `Cfg.valid` the SELEX reader needs the finite table
condition `Cfg.selexOk`: its input map IGNOREs no character (otherwise `selex_append_block` throws "unexpected
inconsistency appending a sequence") and the gap code used for padding is a symbol of the alphabet. -/

def selexConfigs : List Cfg := [selexCfg none, selexCfg (some abcAmino), selexCfg (some abcDna), selexCfg (some abcRna)]

theorem selexConfigs_valid : ∀ cfg ∈ selexConfigs, cfg.valid ∧ cfg.selexOk = true :=
  forall_stdConfigs fun _ h => ⟨selexCfg_valid h.ok, selexCfg_ok h.ok⟩

/-- **SELEX, every byte string, text and digital**: one `esl_msafile_Read` returns ok with a well-formed alignment, eof, or
    eformat with a non-empty message. -/
theorem selex_total (cfg : Cfg) (hc : cfg ∈ selexConfigs) (src : Bytes) : Good (selexRead cfg (splitLines src)).1 :=
  selexRead_good cfg (selexConfigs_valid cfg hc).1 (selexConfigs_valid cfg hc).2 (splitLines src)

/-- … the model never makes an out-of-bounds access (block arrays, `b->ltype[idx]`, `msa->sqname[seqi]`, `msa->ss[seqi-1]`,
    the reallocated rows) or a NULL dereference, and never raises an internal exception -/
theorem selex_no_fault (cfg : Cfg) (hc : cfg ∈ selexConfigs) (src : Bytes) :
    (selexRead cfg (splitLines src)).1 ≠ .fault ∧ (selexRead cfg (splitLines src)).1 ≠ .exc :=
  (selex_total cfg hc src).no_fault

/-- … a format error always carries a message -/
theorem selex_eformat_has_message (cfg : Cfg) (hc : cfg ∈ selexConfigs) (src : Bytes) (msg : String)
    (h : (selexRead cfg (splitLines src)).1 = .eformat msg) : msg ≠ "" :=
  (selex_total cfg hc src).msg_ne h

/-- … an alignment returned with eslOK is well formed: ≥ 1 sequence, every row of length `alen` (text rows NUL-free,
    digital rows sentinel-delimited with codes `< Kp`), default weights, and `rf`, `mm`, `ss_cons`, every `ss[i]` and
    `sa[i]` that is present of length `alen` -/
theorem selex_ok_wellformed (cfg : Cfg) (hc : cfg ∈ selexConfigs) (src : Bytes) (m : Msa)
    (h : (selexRead cfg (splitLines src)).1 = .ok m) : m.wellFormed = true :=
  (selex_total cfg hc src).wf h

/-- … and nothing is left unread: the second `esl_msafile_Read` after a success returns eslEOF (a SELEX file holds one alignment) -/
theorem selex_read_all_total (cfg : Cfg) (hc : cfg ∈ selexConfigs) (src : Bytes) :
    Good (selexRead cfg (splitLines src)).1 ∧
    (∀ m, (selexRead cfg (splitLines src)).1 = .ok m →
      (selexRead cfg (splitLines src)).2 = [] ∧ (selexRead cfg (selexRead cfg (splitLines src)).2).1 = .eof) :=
  ⟨selex_total cfg hc src, fun m h => selexRead_ok_consumes cfg _ m h⟩

/-- `esl_strmapcat_noalloc` / `esl_abc_dsqcat_noalloc` with the SELEX input map store exactly one symbol per input byte
    (so `alen == msa->alen + nleft + ntext` and the exception behind it is unreachable) -/
theorem selex_cat_length (cfg : Cfg) (hc : cfg ∈ selexConfigs) (src : Bytes) :
    (mapLoop cfg.inmap src .ok []).2.length = src.length := by
  have hv := selexConfigs_valid cfg hc
  have hs := hv.2
  unfold Cfg.selexOk at hs
  rw [Bool.and_eq_true] at hs
  have := mapLoop_length cfg.inmap hs.1 src .ok [] (mapLoop_noExc cfg.inmap hv.1.noExc src .ok [] (by simp))
  simpa using this

/-! ## non-vacuity -/

/-- "#=RF xx.\n#=MM ..m\ns1 AC-\n#=SS <.>\ns2  CG\n\ns1 A\ns2 CC\n" : two blocks, ragged edges, annotation -/
def exSelex : Bytes :=
  [35,61,82,70,32,120,120,46,10, 35,61,77,77,32,46,46,109,10, 115,49,32,65,67,45,10, 35,61,83,83,32,60,46,62,10,
   115,50,32,32,67,71,10, 10, 35,61,82,70,32,120,10, 35,61,77,77,32,46,10, 115,49,32,65,10, 35,61,83,83,32,60,10, 115,50,32,67,67,10]
/-- "#=SS <>\ns1 AC\n": `#=SS` before any sequence -/
def exSelexBadSS : Bytes := [35,61,83,83,32,60,62,10, 115,49,32,65,67,10]
/-- "s1 AC\n\ns1 AC\ns2 AC\n": a later block with more lines -/
def exSelexMore : Bytes := [115,49,32,65,67,10, 10, 115,49,32,65,67,10, 115,50,32,65,67,10]

example : (selexRead (selexCfg none) (splitLines exSelex)).1 matches .ok _ := by rw [selexCfg_text]; decide +kernel
example : (selexRead (selexCfg (some abcDna)) (splitLines exSelex)).1 matches .ok _ := by decide +kernel
example : (selexRead (selexCfg none) (splitLines exSelexBadSS)).1 matches .eformat _ := by rw [selexCfg_text]; decide +kernel
example : (selexRead (selexCfg none) (splitLines exSelexMore)).1 matches .eformat _ := by rw [selexCfg_text]; decide +kernel
example : (selexRead (selexCfg none) (splitLines [12, 10])).1 matches .eformat _ := by rw [selexCfg_text]; decide +kernel      -- "\f\n": a block without any text
example : (selexRead (selexCfg none) (splitLines [35, 32, 99, 10, 10])).1 matches .eof := by rw [selexCfg_text]; decide +kernel   -- only a comment
example : selexCfg (some abcAmino) ∈ selexConfigs := by simp [selexConfigs]


/-! ## Stockholm / Pfam

`stockholmRead` (Msafile/Stockholm.lean) is `esl_msafile_stockholm_Read` with `ESL_STOCKHOLM_PARSEDATA`, the six line
parsers, `stockholm_get_seqidx/gc_tagidx/gr_tagidx` and the `esl_msa.c` helpers they call, statement by statement; every
data-dependent array access is bounds-checked against the allocation the C code computes (`sqalloc`, `salloc`, `balloc`,
`ngc`, `ngr`, `alloc_ncomment`, `alloc_ngf`), failure = `.fault`; `ESL_EXCEPTION` = `.exc`.  Pfam is the same reader.
The theorems hold for EVERY list of lines, hence every byte string, text mode and the three digital alphabets.
The reader configuration must satisfy `Cfg.valid` AND ignore no input character (`InMap.noIgnore`): with an ignored
character `stockholm_parse_sq` raises its "implementation assumes that no symbols are ignored in inmap" exception.

The proof rests on the block invariant `StoInv` (Msafile/StockholmInv.lean): with `lens` = all the lengths the parse data
keeps (`sqlen[]`, the five consensus lengths, `sslen/salen/pplen[]`, `ogc_len[]`, `ogr_len[][]`), every length is 0,
`alen` or `alen + alen_b` (`CountInv.tri`); in the first block the number of non-zero lengths is `bi`; in later blocks it
is `npb`, and the number of lengths still equal to `alen` is `npb - bi` — so that at the end of a block with `bi == npb`
nothing is left at `alen`.  The guards `sslen[i] != alen`, `ogc_len[t] != alen`, `ogr_len[t][i] != alen` are what makes a
line move a length from `alen` to `alen + alen_b` (`CountInv.step` needs `LensRel alen (alen+n) …`): weakened to `>`,
a tag renamed between blocks would take a 0 to `n` and `tri` fails. -/

def stoConfigs : List Cfg :=
  [stockholmCfg none, stockholmCfg (some abcAmino), stockholmCfg (some abcDna), stockholmCfg (some abcRna)]

theorem stoConfigs_valid : ∀ cfg ∈ stoConfigs, cfg.valid ∧ cfg.inmap.noIgnore = true :=
  forall_stdConfigs fun _ h => ⟨stockholmCfg_valid h.ok, stockholmCfg_noIgnore h.ok⟩

/-- **Stockholm / Pfam, every byte string, text and digital**: one `esl_msafile_Read` returns ok with a well-formed
    alignment, eof, or eformat with a non-empty message -/
theorem stockholm_total (cfg : Cfg) (hc : cfg ∈ stoConfigs) (src : Bytes) : Good (stockholmRead cfg (splitLines src)).1 :=
  stockholmRead_good cfg (stoConfigs_valid cfg hc).1 (stoConfigs_valid cfg hc).2 (splitLines src)

/-- … and so does every later `esl_msafile_Read` on the same input (a Stockholm file may hold several alignments):
    whatever lines are left, the next read is again total -/
theorem stockholm_total_rest (cfg : Cfg) (hc : cfg ∈ stoConfigs) (lines : List Bytes) :
    Good (stockholmRead cfg lines).1 ∧ Good (stockholmRead cfg (stockholmRead cfg lines).2).1 :=
  ⟨stockholmRead_good cfg (stoConfigs_valid cfg hc).1 (stoConfigs_valid cfg hc).2 lines,
   stockholmRead_good cfg (stoConfigs_valid cfg hc).1 (stoConfigs_valid cfg hc).2 _⟩

/-- … the model never makes an out-of-bounds access / NULL dereference and never raises an internal exception -/
theorem stockholm_no_fault (cfg : Cfg) (hc : cfg ∈ stoConfigs) (src : Bytes) :
    (stockholmRead cfg (splitLines src)).1 ≠ .fault ∧ (stockholmRead cfg (splitLines src)).1 ≠ .exc :=
  (stockholm_total cfg hc src).no_fault

/-- … a format error always carries a message -/
theorem stockholm_eformat_has_message (cfg : Cfg) (hc : cfg ∈ stoConfigs) (src : Bytes) (msg : String)
    (h : (stockholmRead cfg (splitLines src)).1 = .eformat msg) : msg ≠ "" :=
  (stockholm_total cfg hc src).msg_ne h

/-- … an alignment returned with eslOK is well formed: ≥ 1 sequence, every row of length `alen`, weights all set or all
    default, and EVERY per-column / per-residue annotation (SS_cons SA_cons PP_cons RF MM, SS SA PP, every unparsed
    #=GC tag, every unparsed #=GR tag of every sequence) absent or of length exactly `alen` -/
theorem stockholm_ok_wellformed (cfg : Cfg) (hc : cfg ∈ stoConfigs) (src : Bytes) (m : Msa)
    (h : (stockholmRead cfg (splitLines src)).1 = .ok m) : m.wellFormed = true :=
  (stockholm_total cfg hc src).wf h

/-! non-vacuity: the Stockholm theorems speak about each kind of outcome -/

/-- "# STOCKHOLM 1.0\n#=GS a WT 2\na AC\n#=GR a XX ..\n#=GC YY xy\n\na GT\n#=GR a XX <>\n#=GC YY zz\n//\n" -/
def exSto : Bytes :=
  [35,32,83,84,79,67,75,72,79,76,77,32,49,46,48,10, 35,61,71,83,32,97,32,87,84,32,50,10, 97,32,65,67,10,
   35,61,71,82,32,97,32,88,88,32,46,46,10, 35,61,71,67,32,89,89,32,120,121,10, 10, 97,32,71,84,10,
   35,61,71,82,32,97,32,88,88,32,60,62,10, 35,61,71,67,32,89,89,32,122,122,10, 47,47,10]
/-- the same with the #=GC tag of the second block renamed (YY -> ZZ): rejected, thanks to `ogc_len[tagidx] != alen` -/
def exStoRenamed : Bytes :=
  [35,32,83,84,79,67,75,72,79,76,77,32,49,46,48,10, 97,32,65,67,10, 35,61,71,67,32,89,89,32,120,121,10, 10, 97,32,71,84,10,
   35,61,71,67,32,90,90,32,122,122,10, 47,47,10]

example : (stockholmRead (stockholmCfg none) (splitLines exSto)).1 matches .ok _ := by rw [stockholmCfg_text]; decide +kernel
example : (stockholmRead (stockholmCfg (some abcDna)) (splitLines exSto)).1 matches .ok _ := by decide +kernel
example : (stockholmRead (stockholmCfg none) (splitLines exStoRenamed)).1 matches .eformat _ := by rw [stockholmCfg_text]; decide +kernel
example : (stockholmRead (stockholmCfg none) (splitLines [])).1 matches .eof := by rw [stockholmCfg_text]; decide +kernel
example : (stockholmRead (stockholmCfg none) (splitLines [35,32,83,84,79,67,75,72,79,76,77,32,49,46,48,10,97,32,65,10])).1 matches .eformat _ := by
  rw [stockholmCfg_text]; decide +kernel     -- no "//"
example : stockholmCfg (some abcRna) ∈ stoConfigs := by simp [stoConfigs]


/-! ### growth of the per-sequence arrays (`Msafile/StoGrowth.lean`)

`stockholm_get_seqidx` is the only place where `esl_msa_Expand` + `stockholm_parsedata_ExpandSeq` run (17th, 33rd, 65th …
name).  Pointwise statement of the growth bookkeeping, for EVERY state and name: the slots `0 .. salloc-1` of `sqlen`, of
every allocated `sslen/salen/pplen` and of EVERY `ogr_len[tag]` keep their value, the new slots are 0, no tag row appears
or disappears, the consensus lengths and `ogc_len` are untouched.  (The reader's invariant is preserved by the same step:
`expandAll_inv`, used by `stockholm_total`.) -/

theorem sto_growth_keeps_lens (st st' : StoSt) (name : Bytes) (idx : Nat) (h : getSeqIdx st name = .ok (st', idx)) :
    ∃ k, GrownBy k 0 st.sqlen st'.sqlen ∧ st'.ogrLen.length = st.ogrLen.length ∧
      (∀ (t : Nat) (row : List Nat), st.ogrLen[t]? = some row → ∃ row', st'.ogrLen[t]? = some row' ∧ GrownBy k 0 row row') ∧
      (∀ (j : Nat) (lns : List Nat), st.perLen[j]? = some (some lns) → ∃ lns', st'.perLen[j]? = some (some lns') ∧ GrownBy k 0 lns lns') ∧
      st'.consLen = st.consLen ∧ st'.ogcLen = st.ogcLen :=
  getSeqIdx_keeps_lens st st' name idx h

/-- a recorded `#=GR <seq> <tag>` length survives the arrival of any later sequence name -/
theorem sto_growth_keeps_ogr_slot (st st' : StoSt) (name : Bytes) (idx t z len : Nat) (row : List Nat)
    (h : getSeqIdx st name = .ok (st', idx)) (hr : st.ogrLen[t]? = some row) (hz : row[z]? = some len) :
    ∃ row', st'.ogrLen[t]? = some row' ∧ row'[z]? = some len :=
  getSeqIdx_keeps_ogr_slot st st' name idx t z len row h hr hz

/-- `stockholm_parsedata_ExpandSeq` alone, per unparsed tag -/
theorem sto_expandseq_ogr (st : StoSt) (t : Nat) (row : List Nat) (h : st.ogrLen[t]? = some row) :
    ∃ row', (pdExpandSeq st).ogrLen[t]? = some row' ∧ GrownBy (st.sqalloc - st.salloc) 0 row row' :=
  (pdExpandSeq_ogrLen st t).2 row h

/-! non-vacuity: a full MSA (16 names, one unparsed #=GR tag with a recorded length 5 for sequence 0) meets a 17th name:
    the arrays double, slot 0 still holds 5, slots 16..31 are 0 -/
def exFullSt : StoSt :=
  { names := (List.range 16).map (fun i => [UInt8.ofNat (97 + i)]), nseq := 16, grTags := [[84]],
    gr := [List.replicate 16 none], ogrLen := [5 :: List.replicate 15 0] }

example : (match getSeqIdx exFullSt [122] with
    | .ok (st', idx) => idx == 16 && st'.sqalloc == 32 && st'.salloc == 32 && st'.ogrLen == [5 :: List.replicate 31 0] &&
        st'.sqlen.length == 32
    | .error _ => false) = true := by decide +kernel

/-- 17 sequences `a`..`q`, two blocks, `#=GR a T` in both blocks (recorded before the 17th name arrives), names introduced
    by the block itself: accepted -/
def exSto17 : Bytes :=
  [35,32,83,84,79,67,75,72,79,76,77,32,49,46,48,10,97,32,65,10,35,61,71,82,32,97,32,84,32,46,10,98,32,65,10,99,32,65,10,100,32,65,10,101,32,65,10,102,32,65,10,103,32,65,10,104,32,65,10,105,32,65,10,106,32,65,10,107,32,65,10,108,32,65,10,109,32,65,10,110,32,65,10,111,32,65,10,112,32,65,10,113,32,65,10,10,97,32,67,10,35,61,71,82,32,97,32,84,32,42,10,98,32,67,10,99,32,67,10,100,32,67,10,101,32,67,10,102,32,67,10,103,32,67,10,104,32,67,10,105,32,67,10,106,32,67,10,107,32,67,10,108,32,67,10,109,32,67,10,110,32,67,10,111,32,67,10,112,32,67,10,113,32,67,10,47,47,10]

theorem exSto17_read : (match (stockholmRead (stockholmCfg none) (splitLines exSto17)).1 with
    | .ok m => m.nseq == 17 && m.alen == 2 && m.gr == [([84], some [46, 42] :: List.replicate 16 none)]
    | _ => false) = true := by rw [stockholmCfg_text]; decide +kernel
example : (stockholmRead (stockholmCfg none) (splitLines exSto17)).1 matches .ok _ := by
  have h := exSto17_read
  split at h
  · rfl
  · cases h
example : (match (stockholmRead (stockholmCfg none) (splitLines exSto17)).1 with
    | .ok m => m.nseq == 17 && m.alen == 2 && m.gr == [([84], some [46, 42] :: List.replicate 16 none)]
    | _ => false) = true := exSto17_read


/-! ### the numeric payload: `#=GS <seq> WT <w>` weights and `#=GF GA|NC|TC` cut-offs (`Msafile/StoNum.lean`)

`stockholmReadV` = `stockholmRead` + the VALUES `esl_memtod` / `esl_memtof` store (`strtodBits`: glibc `strtod` on the
longest valid prefix of the token — decimal and hexadecimal syntax correctly rounded by exact integer arithmetic,
infinities exact, NaN canonical; `f64ToF32`: the second rounding of `(float) strtod()`).  It is the reader the driver
runs and the harness is compared with, bit for bit.  It is `stockholmRead` up to the payload (`stockholmV_erase`), so
totality, fault-freedom, the message and well-formedness transfer. -/

theorem stockholmV_erase (cfg : Cfg) (lines : List Bytes) :
    ∃ ns, stockholmReadV cfg lines = (patchRes ns (stockholmRead cfg lines).1, (stockholmRead cfg lines).2) :=
  stockholmReadV_erase cfg lines

theorem stockholmV_total (cfg : Cfg) (hc : cfg ∈ stoConfigs) (src : Bytes) : Good (stockholmReadV cfg (splitLines src)).1 :=
  stockholmReadV_good cfg _ (stockholm_total cfg hc src)

theorem stockholmV_total_rest (cfg : Cfg) (hc : cfg ∈ stoConfigs) (lines : List Bytes) :
    Good (stockholmReadV cfg lines).1 ∧ Good (stockholmReadV cfg (stockholmReadV cfg lines).2).1 :=
  ⟨stockholmReadV_good cfg _ (stockholm_total_rest cfg hc lines).1,
   stockholmReadV_good cfg _ (by rw [stockholmReadV_rest]; exact (stockholm_total_rest cfg hc lines).2)⟩

/-- the alignment the value-carrying reader returns is `stockholmRead`'s with `wgt` / `cutoff` patched, and well formed -/
theorem stockholmV_ok_wellformed (cfg : Cfg) (hc : cfg ∈ stoConfigs) (src : Bytes) (m : Msa)
    (h : (stockholmReadV cfg (splitLines src)).1 = .ok m) :
    m.wellFormed = true ∧ ∃ m0 ns, (stockholmRead cfg (splitLines src)).1 = .ok m0 ∧ m = patchMsa ns m0 :=
  ⟨(stockholmV_total cfg hc src).wf h, stockholmReadV_ok cfg _ m h⟩

/-- non-vacuity: "#=GS a WT 2" of `exSto` is read as 2.0; a file with `WT 0.42`, `GA 25.0 1e-3`, `TC 0x1p4` -/
example : (match (stockholmReadV (stockholmCfg none) (splitLines exSto)).1 with
    | .ok m => m.wgt == [Wgt.val 0x4000000000000000] && m.hasw
    | _ => false) = true := by rw [stockholmCfg_text]; decide +kernel

/-- "# STOCKHOLM 1.0\n#=GF GA 25.0 1e-3\n#=GF TC 0x1p4\n#=GS a WT 0.42\na AC\n//\n" -/
def exStoNum : Bytes :=
  [35,32,83,84,79,67,75,72,79,76,77,32,49,46,48,10, 35,61,71,70,32,71,65,32,50,53,46,48,32,49,101,45,51,10,
   35,61,71,70,32,84,67,32,48,120,49,112,52,10, 35,61,71,83,32,97,32,87,84,32,48,46,52,50,10, 97,32,65,67,10, 47,47,10]

example : (match (stockholmReadV (stockholmCfg none) (splitLines exStoNum)).1 with
    | .ok m => m.wgt == [Wgt.val 0x3fdae147ae147ae1] &&
        m.cutoff == [some 0x41800000, none, some 0x41c80000, some 0x3a83126f, none, none]
    | _ => false) = true := by rw [stockholmCfg_text]; decide +kernel

/-! ## Autodetection: the open path `msafile_OpenBuffer`

Model `Msafile/Guess.lean` (`openModel` = what `msafile_OpenBuffer` decides: declared or autodetected format, text mode,
supplied or guessed alphabet, then the per-format `SetInmap`), lemmas `Msafile/GuessLemmas.lean`.
`openBytes fsel asel fname src` answers `ok ⟨format, alphabet type, fmtd.namewidth⟩`, `enoformat`, `enoalphabet` (or `fault`:
a bounds-checked access of a guesser failed).  `Opened.cfg` is the reader configuration the open path produces,
`Opened.read` one `esl_msafile_Read` of the resolved reader (PHYLIP: with the autodetected name width). -/

/-- whatever format and alphabet the open path resolves to, the reader configuration it builds (`esl_alphabet_Create(type)` +
    the format's `SetInmap`) is valid: 10 formats × {text, RNA, DNA, amino} -/
theorem cfgOf_valid (fmt : Fmt) (abc : Option AbcType) : (cfgOf fmt (abc.map abcOfType)).valid := Msafile.cfgOf_valid fmt abc

theorem opened_cfg_valid (o : Opened) : o.cfg.valid := o.cfg_valid

/-- **every read of an opened file is total**: whatever the open path resolved (format, alphabet, name width) and whatever
    lines are offered, the resolved reader returns ok with a well-formed alignment, eof, or eformat with a message -/
theorem opened_read_good (o : Opened) (lines : List Bytes) : Good (o.read lines).1 := o.read_good lines

theorem read_phylip_text (nw : Nat) : Opened.read ⟨.phylip, none, nw⟩ = phylipReadW nw false (phylipCfg none) := rfl

/-- … and so is every read with the numeric payload of Stockholm weights / cut-offs carried along (`Opened.readV`, the
    reader the driver runs) -/
theorem opened_readV_good (o : Opened) (lines : List Bytes) : Good (o.readV lines).1 :=
  Opened.readV_good o lines (opened_read_good o lines)

/-- (1) **the guessers never fault**: format autodetection (its own rules, `msafile_check_selex`, the three PHYLIP deep
    checks) and alphabet guessing (all formats, every name width), for every file name and every list of lines -/
theorem guess_no_fault (fname : Option Bytes) (fmt : Fmt) (namewidth : Nat) (lines : List Bytes) :
    guessFormat fname lines ≠ .fault ∧ phyCheckFileFormat lines ≠ .fault ∧ checkSeqUnknown lines ≠ .fault ∧
    guessAlphabet fmt namewidth lines ≠ .fault :=
  ⟨guessFormat_no_fault fname lines, phyCheckFileFormat_no_fault lines, checkSeqUnknown_no_fault lines,
   guessAlphabet_no_fault fmt namewidth lines⟩

/-- (2) **opening is total, any selection**: for every byte string, file name, format selection and alphabet selection the
    open path answers ok / enoformat / enoalphabet; and when it answers ok, the configuration it built is valid and
    EVERY subsequent `esl_msafile_Read` (on whatever is left of the input) has a good outcome -/
theorem open_total (fsel : FmtSel) (asel : AbcSel) (fname : Option Bytes) (src : Bytes) :
    ((∃ o, openBytes fsel asel fname src = .ok o) ∨ openBytes fsel asel fname src = .enoformat ∨
      openBytes fsel asel fname src = .enoalphabet) ∧
    (∀ o, openBytes fsel asel fname src = .ok o → o.cfg.valid ∧ ∀ lines, Good (o.read lines).1) :=
  ⟨OpenRes.of_ne_fault (openModel_no_fault fsel asel fname (splitLines src)), fun o _ => ⟨opened_cfg_valid o, opened_read_good o⟩⟩

/-- (2') **… also when the caller hands `esl_msafile_Open*` an `ESL_MSAFILE_FMTDATA`** (a PHYLIP name width `nw0`, any value): the
    open path answers ok / enoformat / enoalphabet, never faults, and every read of the opened file is good -/
theorem open_total_fmtd (nw0 : Nat) (fsel : FmtSel) (asel : AbcSel) (fname : Option Bytes) (src : Bytes) :
    ((∃ o, openModelW nw0 fsel asel fname (splitLines src) = .ok o) ∨ openModelW nw0 fsel asel fname (splitLines src) = .enoformat ∨
      openModelW nw0 fsel asel fname (splitLines src) = .enoalphabet) ∧
    (∀ o, openModelW nw0 fsel asel fname (splitLines src) = .ok o → o.cfg.valid ∧ ∀ lines, Good (o.read lines).1) :=
  ⟨OpenRes.of_ne_fault (openModelW_no_fault nw0 fsel asel fname (splitLines src)), fun o _ => ⟨opened_cfg_valid o, opened_read_good o⟩⟩

theorem exAbCd_bytes : str " 2 4\nab  ACGT\ncd  ACGT\n"
    = [32, 50, 32, 52, 10, 97, 98, 32, 32, 65, 67, 71, 84, 10, 99, 100, 32, 32, 65, 67, 71, 84, 10] := by
  rw [str_ofList]; decide +kernel
/-- non-vacuity: a PHYLIP file with 4-character names, declared format, name width 4 supplied by the caller: read with it
    (with the default width 10 the same bytes are a format error) -/
example : openModelW 4 (.decl .phylip) .text none (splitLines (str " 2 4\nab  ACGT\ncd  ACGT\n")) = .ok ⟨.phylip, none, 4⟩ := by rw [exAbCd_bytes]; decide +kernel
example : ((Opened.read ⟨.phylip, none, 4⟩ (splitLines (str " 2 4\nab  ACGT\ncd  ACGT\n"))).1 matches .ok _) = true := by
  rw [read_phylip_text, phylipCfg_text, exAbCd_bytes]; decide +kernel
example : ((Opened.read ⟨.phylip, none, 0⟩ (splitLines (str " 2 4\nab  ACGT\ncd  ACGT\n"))).1 matches .eformat _) = true := by
  rw [read_phylip_text, phylipCfg_text, exAbCd_bytes]; decide +kernel

/-- (2) **format autodetection with alphabet guessing is total** (the instance the property names) -/
theorem auto_total (fname : Option Bytes) (src : Bytes) :
    ((∃ o, openBytes .auto .guess fname src = .ok o) ∨ openBytes .auto .guess fname src = .enoformat ∨
      openBytes .auto .guess fname src = .enoalphabet) ∧
    (∀ o, openBytes .auto .guess fname src = .ok o →
      o.cfg.valid ∧ Good (o.read (splitLines src)).1 ∧ Good (o.read (o.read (splitLines src)).2).1) := by
  have h := open_total .auto .guess fname src
  exact ⟨h.1, fun o ho => ⟨(h.2 o ho).1, (h.2 o ho).2 _, (h.2 o ho).2 _⟩⟩

/-- a status the caller did not ask for cannot come back: eslENOFORMAT only under autodetection, eslENOALPHABET only under
    alphabet guessing; a declared format in text mode or with a supplied alphabet always opens -/
theorem open_status_documented (fsel : FmtSel) (asel : AbcSel) (fname : Option Bytes) (src : Bytes) :
    (openBytes fsel asel fname src = .enoformat → fsel = .auto) ∧
    (openBytes fsel asel fname src = .enoalphabet → asel = .guess) :=
  ⟨openModel_enoformat_auto fsel asel fname _, openModel_enoalphabet_guess fsel asel fname _⟩

/-! ### non-vacuity and witnesses

`rw [str_ofList]` (Msafile/StrLit.lean) reads a `str "…"` literal off as its characters before the kernel evaluates; it is used on
the open path, where that is the cheaper evaluation; the PHYLIP reader vectors above (`exPhyI_bytes`, `exPhy2_rest` apart) evaluate cheaper with the literal left alone. -/

/-- Stockholm by its first line; 12 residues with all of A, C, G, U: RNA -/
example : openBytes .auto .guess none (str "# STOCKHOLM 1.0\nseq1 ACGUACGUACGU\n//\n") = .ok ⟨.stockholm, some .rna, 0⟩ := by rw [str_ofList]; decide +kernel
/-- … a ".pfam" suffix turns it into Pfam; 10 residues are too few to guess from -/
example : openBytes .auto .guess (some (str "dir.x/f.pfam")) (str "# STOCKHOLM 1.0\nseq1 ACGUACGUAC\n//\n") = .enoalphabet := by rw [str_ofList, str_ofList]; decide +kernel
example : openBytes .auto .text (some (str "dir.x/f.pfam")) (str "# STOCKHOLM 1.0\nseq1 ACGUACGUAC\n//\n") = .ok ⟨.pfam, none, 0⟩ := by rw [str_ofList, str_ofList]; decide +kernel
/-- '>' is aligned FASTA unless the file is called ".a2m"; one amino-only letter (E) decides for amino -/
example : openBytes .auto .guess none (str ">a\nACGTACGTACGE\n") = .ok ⟨.afa, some .amino, 0⟩ := by rw [str_ofList]; decide +kernel
example : openBytes .auto .guess (some (str "x.a2m")) (str ">a\nACGTACGTACGT\n") = .ok ⟨.a2m, some .dna, 0⟩ := by rw [str_ofList, str_ofList]; decide +kernel
/-- SELEX by `msafile_check_selex`, PSI-BLAST only through the ".pb" suffix -/
example : openBytes .auto .text none (str "a ACGT\nb ACGT\n") = .ok ⟨.selex, none, 0⟩ := by rw [str_ofList]; decide +kernel
example : openBytes .auto .text (some (str "f.pb")) (str "a ACGT\nb ACGT\n") = .ok ⟨.psiblast, none, 0⟩ := by rw [str_ofList, str_ofList]; decide +kernel
example : openBytes .auto .text none (str "a ACGT\nb ACG\n") = .enoformat := by rw [str_ofList]; decide +kernel            -- ragged block: not SELEX
theorem exSeq12_bytes : str "2 4\nseq1   ACGT\nseq2   ACGT\n"
    = [50, 32, 52, 10, 115, 101, 113, 49, 32, 32, 32, 65, 67, 71, 84, 10, 115, 101, 113, 50, 32, 32, 32, 65, 67, 71, 84, 10] := by
  rw [str_ofList]; decide +kernel
/-- PHYLIP: one block = interleaved, strict name width 10 … -/
example : openBytes .auto .text none (str " 2 4\nseq1      ACGT\nseq2      ACGT\n") = .ok ⟨.phylip, none, 10⟩ := by rw [str_ofList]; decide +kernel
/-- … name width deduced from the header's `alen` and the column codes (4 here: the blanks behind the name are not part of
    it), and used by the reader -/
example : openBytes .auto .text none (str "2 4\nseq1   ACGT\nseq2   ACGT\n") = .ok ⟨.phylip, none, 4⟩ := by rw [exSeq12_bytes]; decide +kernel
example : ((⟨.phylip, none, 4⟩ : Opened).read (splitLines (str "2 4\nseq1   ACGT\nseq2   ACGT\n"))).1 matches .ok _ := by
  rw [read_phylip_text, phylipCfg_text, exSeq12_bytes]; decide +kernel
example : ((⟨.phylip, none, 0⟩ : Opened).read (splitLines (str "2 4\nseq1   ACGT\nseq2   ACGT\n"))).1 matches .eformat _ := by
  rw [read_phylip_text, phylipCfg_text, exSeq12_bytes]; decide +kernel
/-- … sequential with two lines per sequence: `phylip_check_sequential_unknown` finds width 11 -/
example : openBytes .auto .text none (str "2 4\nAAAAAAAAAA AC\nGT\nCCCCCCCCCC GT\nAC\n") = .ok ⟨.phylips, none, 11⟩ := by rw [str_ofList]; decide +kernel
example : checkSeqUnknown (splitLines (str "2 4\nAAAAAAAAAA AC\nGT\nCCCCCCCCCC GT\nAC\n")) = .ok 11 := by rw [str_ofList]; decide +kernel
/-- … a file consistent with both variants (2 interleaved blocks of name width 2, or 2 sequences of 2 lines with name
    width 5) is refused: eslEAMBIGUOUS -/
example : openBytes .auto .text none (str "2 4\nab   AC\nGT\ncd   AC\nGT\n") = .enoformat := by rw [str_ofList]; decide +kernel
example : checkInterleaved (splitLines (str "2 4\nab   AC\nGT\ncd   AC\nGT\n")) = some (2, 2) ∧
    checkSeqUnknown (splitLines (str "2 4\nab   AC\nGT\ncd   AC\nGT\n")) = .ok 5 := by rw [str_ofList]; decide +kernel
/-- "1 2\nname AC\n\f": the last line is shorter than the name width; the "is there a name" test looks at line 1 (`firstns`), not at it -/
example : openBytes .auto .text none [49, 32, 50, 10, 110, 97, 109, 101, 32, 65, 67, 10, 12] = .ok ⟨.phylips, none, 5⟩ := by decide +kernel
/-- nothing, or nothing but blank lines: no format -/
example : openBytes .auto .guess none [] = .enoformat := by decide +kernel
example : openBytes .auto .guess none (str " \n\t\n") = .enoformat := by rw [str_ofList]; decide +kernel
example : openBytes (.decl .clustal) .guess none [] = .enoalphabet := by decide +kernel
/-- the suffix table looks at the last suffix, or at the one before ".gz" -/
example : fmtBySuffix (some (str "a.b/c.sto.gz")) = some .stockholm ∧ fmtBySuffix (some (str "a.sto/c")) = none ∧
    fmtBySuffix (some (str "c.phys")) = some .phylips ∧ fmtBySuffix (some (str "c.PHY")) = none := by rw [str_ofList, str_ofList, str_ofList, str_ofList]; decide +kernel


/-! ## `esl_msafile_Open` by name (`Msafile/OpenByName.lean`): the paths before `msafile_OpenBuffer`

Whatever the file system answers for the name (`PathKind`: found nowhere — working directory and `$env` list —, a directory,
or a regular file with any path and any content): the call ends with `eslENOTFOUND` and `afp` in an error state carrying a
non-empty message, exactly when the name is no regular file; otherwise with the open-buffer outcome, which never faults and
whose every later read (numeric payload included) is good. -/
theorem open_by_name_total (nw0 : Nat) (fsel : FmtSel) (asel : AbcSel) (pk : PathKind) :
    (∃ msg, openByName nw0 fsel asel pk = .enotfound msg ∧ msg ≠ "" ∧ ∀ p c, pk ≠ .file p c) ∨
    (∃ r p c, openByName nw0 fsel asel pk = .opened r ∧ pk = .file p c ∧ r ≠ .fault ∧
      ((∃ o, r = .ok o) ∨ r = .enoformat ∨ r = .enoalphabet) ∧
      ∀ o, r = .ok o → o.cfg.valid ∧ ∀ lines, Good (o.readV lines).1) := by
  cases pk with
  | missing => exact Or.inl ⟨_, rfl, (by decide), fun p c h => (by cases h)⟩
  | directory => exact Or.inl ⟨_, rfl, (by decide), fun p c h => (by cases h)⟩
  | file p c =>
    refine Or.inr ⟨_, p, c, rfl, rfl, openModelW_no_fault nw0 fsel asel (some p) (splitLines c), (open_total_fmtd nw0 fsel asel (some p) c).1,
      fun o _ => ⟨opened_cfg_valid o, opened_readV_good o⟩⟩

/-- non-vacuity: the three kinds of answer -/
example : openByName 0 .auto .text .missing matches .enotfound _ := by decide
example : openByName 0 (.decl .afa) .guess .directory matches .enotfound _ := by decide
example : openByName 0 .auto .text (.file (str "d/x.sto") (str "# STOCKHOLM 1.0\na AC\n//\n")) = .opened (.ok ⟨.stockholm, none, 0⟩) := by
  rw [str_ofList, str_ofList]; decide +kernel
example : openByName 0 .auto .text (.file (str "x.dat") (str "\n")) = .opened .enoformat := by rw [str_ofList, str_ofList]; decide +kernel

/-! ## the `.gz` branch of the suffix rule (`Msafile/GzSuffix.lean`)

A name ending in `.gz` is classified by the suffix before `.gz`, one level only; the name reaches `msafile_OpenBuffer` through
that hint alone, so `x.sfx.gz` opens exactly as `x.sfx` for EVERY content, format selection, alphabet selection and name width. -/
theorem open_gz_name (nw0 : Nat) (fsel : FmtSel) (asel : AbcSel) (f : Bytes) (src : Bytes) (h : fileExtension f 0 ≠ some bGz) :
    openModelW nw0 fsel asel (some (f ++ bGz)) (splitLines src) = openModelW nw0 fsel asel (some f) (splitLines src) :=
  openModelW_gz nw0 fsel asel f (splitLines src) h

theorem suffix_gz_one_level (f : Bytes) :
    fmtBySuffix (some (f ++ bGz)) = suffixFmt (fileExtension f 0) ∧ fmtBySuffix (some (f ++ bGz ++ bGz)) = none :=
  ⟨fmtBySuffix_gz f, fmtBySuffix_gz_gz f⟩

/-- non-vacuity: Stockholm text in `x.pfam.gz` opens as Pfam, in `x.pfam.gz.gz` and in `x.gz` as Stockholm; the hypothesis
    of `open_gz_name` holds for `x.pfam` and fails for `x.gz` -/
example : openModelW 0 .auto .text (some (str "x.pfam.gz")) (splitLines (str "# STOCKHOLM 1.0\na AC\n//\n")) = .ok ⟨.pfam, none, 0⟩ := by
  rw [str_ofList, str_ofList]; decide +kernel
example : openModelW 0 .auto .text (some (str "x.pfam.gz.gz")) (splitLines (str "# STOCKHOLM 1.0\na AC\n//\n")) = .ok ⟨.stockholm, none, 0⟩ := by
  rw [str_ofList, str_ofList]; decide +kernel
example : fileExtension (str "x.pfam") 0 ≠ some bGz ∧ fileExtension (str "x.gz") 0 = some bGz := by rw [str_ofList, str_ofList]; decide +kernel

/-! ## `esl_msafile_Open` on a `.gz` name (`Msafile/OpenGz.lean`): `gzip -dc` as a parameter

Whatever the command does — fails (eslFAIL, `afp` in an error state with a non-empty message) or delivers any bytes: the call is
total, never faults, every later read is good; and a compressed file opens exactly as the plain file of the name without `.gz`. -/
theorem open_gz_total (nw0 : Nat) (fsel : FmtSel) (asel : AbcSel) (path : Bytes) (g : GzKind) :
    (∃ msg, openGz nw0 fsel asel path g = .efail msg ∧ msg ≠ "") ∨
    (∃ r, openGz nw0 fsel asel path g = .opened r ∧ r ≠ .fault ∧ ((∃ o, r = .ok o) ∨ r = .enoformat ∨ r = .enoalphabet) ∧
      ∀ o, r = .ok o → o.cfg.valid ∧ ∀ lines, Good (o.readV lines).1) := by
  cases g with
  | failed => exact Or.inl ⟨_, rfl, (by decide)⟩
  | bytes u =>
    exact Or.inr ⟨_, rfl, openModelW_no_fault nw0 fsel asel (some path) (splitLines u), (open_total_fmtd nw0 fsel asel (some path) u).1,
      fun o _ => ⟨opened_cfg_valid o, opened_readV_good o⟩⟩

theorem open_gz_as_plain (nw0 : Nat) (fsel : FmtSel) (asel : AbcSel) (f unz : Bytes) (h : fileExtension f 0 ≠ some bGz) :
    openGz nw0 fsel asel (f ++ bGz) (.bytes unz) = .opened (openModelW nw0 fsel asel (some f) (splitLines unz)) :=
  openGz_as_plain nw0 fsel asel f unz h

example : openGz 0 .auto .text (str "x.pfam.gz") (.bytes (str "# STOCKHOLM 1.0\na AC\n//\n")) = .opened (.ok ⟨.pfam, none, 0⟩) := by rw [str_ofList, str_ofList]; decide +kernel
example : openGz 0 .auto .text (str "x.pfam.gz") .failed matches .efail _ := by decide

end EaselModel.Props.C01
