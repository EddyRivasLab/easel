import EaselModel.Sqio.Geometry
import EaselModel.Sqio.Tracker
import EaselModel.Sqio.AfetchMain
import EaselModel.Sqio.EchoSpec
import EaselModel.Sqio.FetchSpec
import EaselModel.Sqio.FetchWhole
import EaselModel.Sqio.GeomBridge
import EaselModel.Sqio.TrackBytes
import EaselModel.Sqio.TrackReader
import EaselModel.Sqio.TrackHeader
import EaselModel.Sqio.TrackIndex
/-! # C07 — fetching by key, number or coordinates returns what a sequential scan returns

Property theorems only (proofs are glue on the files imported above: `Geometry`, `Tracker`, `GeomBridge` and the `Track*` files
for (1), (2), `FetchSpec`, `FetchWhole`, `EchoSpec` for (3), `AfetchMain` for (5)).
Model: `Sqio/Fetch.lean` (`findSubseq` = `esl_ssi_FindSubseq`, `fetchSubseq` = `sqascii_FetchSubseq`), `Sqio/Model.lean`.

Full statement (DESIGN §5 C07): (1) if after a scan `bpl>0 ∧ rpl>0` then every non-final data line of every record has exactly
`rpl` residues and `bpl` bytes [and every final line at most that]; (2) under that geometry, positioning at the returned `doff`
and skipping `start − actual_start` residues lands on residue `start` in each addressing case; (3) `FetchSubseq key s e =
(scan key)[s..e]`; (4) absent key ⇒ `eslENOTFOUND`, `start,end ∉ 1..L` ⇒ error.
Proved here: (2) for every layout satisfying the geometry (`lands_on_start_line`, `lands_on_start_residue`), (4) on the model, and
(1) in full (`bplrpl_sound`; that a last, only or unterminated line which does not fit the widths the other lines set turns
fast addressing off is evaluated on six shapes: `bplrpl_*_invalidates`, `bplrpl_witnesses_invalidate`);
(3) whole-record fetch through `sqascii_Echo` (what `esl-sfetch` prints for a key): `echo_eq_scan_bytes` /
`echo_of_scanned_record` — the bytes `roff..eoff` of the record the sequential scan found, for every block size; the subsequence
clause of (3): `fetchSubseq_eq_scan_slice_brute` (no fast-subseq flag: unconditional), `fetchSubseq_eq_scan_slice_line` /
`_residue` (under the line geometry the index promises; `_line_tracked` / `_residue_tracked` conclude that geometry from the tracker's
verdict), `fetchSubseq_end_out_of_range`; all for every read-block size, FASTA.
(5) esl-afetch: `afetch_*` below (model `Sqio/AfetchModel.lean`, over the C06 index model and a Stockholm database as bytes). -/
namespace EaselModel.Props.C07
open EaselModel.Sqio EaselModel.Sqio.Geometry EaselModel.Sqio.Tracker

/-- (4a) a key that is neither a primary key nor an alias: `eslENOTFOUND`, for every requested start -/
theorem findSubseq_absent (s : Ssi) (key : Bytes) (start : Int) (h : s.findName key = none) :
    findSubseq s key start = .error .enotfound := by
  simp [findSubseq, h]

/-- (4b) a start outside `1..L` is `eslERANGE` (`start = 0` included: the test is `requested_start < 1`), never an offset -/
theorem findSubseq_out_of_range (s : Ssi) (key : Bytes) (start : Int) (e : SsiEntry) (h : s.findName key = some e)
    (hr : start < 1 ∨ start > e.len) : findSubseq s key start = .error .erange := by
  simp only [findSubseq, h]
  have : (decide (start < 1) || decide (start > e.len)) = true := by
    rcases hr with h1 | h1 <;> simp [h1]
  simp [this]

/-- (4c) `sqascii_FetchSubseq` of an absent key returns `eslENOTFOUND` and no data, whatever the file and the coordinates -/
theorem fetchSubseq_absent (a : Ascii) (s : Ssi) (sq : Sq) (key : Bytes) (start end_ : Int) (h : s.findName key = none) :
    (fetchSubseq a s sq key start end_).2.2 = .enotfound := by
  simp [fetchSubseq, findSubseq_absent s key start h]

/-- (4d) `sqascii_FetchSubseq` with `start ∉ 1..L` returns `eslERANGE` -/
theorem fetchSubseq_start_out_of_range (a : Ascii) (s : Ssi) (sq : Sq) (key : Bytes) (start end_ : Int) (e : SsiEntry)
    (h : s.findName key = some e) (hr : start < 1 ∨ start > e.len) :
    (fetchSubseq a s sq key start end_).2.2 = .erange := by
  simp [fetchSubseq, findSubseq_out_of_range s key start e h hr]

/-- the three addressing cases of `esl_ssi_FindSubseq` for an in-range start: (data offset, actual_start) -/
theorem findSubseq_cases (s : Ssi) (key : Bytes) (start : Int) (e : SsiEntry) (h : s.findName key = some e)
    (h1 : 1 ≤ start) (h2 : start ≤ e.len) (hb : s.bpl ≠ 0) (hr : s.rpl ≠ 0) :
    findSubseq s key start = .ok (
      if e.doff = 0 ∨ s.fast = false then (e.roff, e.doff, e.len, 1)
      else if s.bpl = s.rpl + 1 then (e.roff, e.doff + (start - 1) / s.rpl * s.bpl + (start - 1) % s.rpl, e.len, start)
      else (e.roff, e.doff + (start - 1) / s.rpl * s.bpl, e.len, 1 + (start - 1) / s.rpl * s.rpl)) := by
  rw [FetchSpec.findSubseq_in_range s key start e h h1 h2]
  have hz : ¬(s.rpl = 0 ∨ s.bpl = 0) := by simp [hr, hb]
  simp only [hz, if_false]
  split
  · rfl
  · split <;> rfl

/-- (2, line addressing) `start ≥ 1`, `r > 0`; the record's data begins with `l = (start−1)/r` complete lines of `b` bytes and
    `r` residues. Seeking to `doff + l*b` and skipping `start − actual_start` residues (`actual_start = 1 + l*r`) delivers the
    residues from residue `start` on: "lands on residue `start`". `p` is the residue class of the input map. -/
theorem lands_on_start_line {α : Type} (p : α → Bool) (b r start : Nat) (lines : List (List α)) (rest : List α)
    (_hs : 1 ≤ start) (_hr : 0 < r) (hl : lines.length = (start - 1) / r) (h : FullLines p b r lines) :
    (dropRes p (start - (1 + lines.length * r)) ((lines.flatten ++ rest).drop (lines.length * b))).filter p
      = ((lines.flatten ++ rest).filter p).drop (start - 1) := by
  rw [line_addressing p b r lines rest _ h, filter_dropRes]
  congr 1
  have := Nat.div_add_mod (start - 1) r
  have h2 : lines.length * r = r * ((start - 1) / r) := by rw [hl, Nat.mul_comm]
  omega

/-- (2, residue addressing) moreover the line holding residue `start` begins with at least `(start−1) % r` residues and nothing
    else before them: seeking to `doff + l*b + (start−1)%r` and skipping nothing (`actual_start = start`) lands on residue `start`. -/
theorem lands_on_start_residue {α : Type} (p : α → Bool) (b r start : Nat) (lines : List (List α)) (res tail : List α)
    (_hs : 1 ≤ start) (_hr : 0 < r) (hl : lines.length = (start - 1) / r) (h : FullLines p b r lines)
    (hres : ∀ x ∈ res, p x = true) (hj : (start - 1) % r ≤ res.length) :
    ((lines.flatten ++ (res ++ tail)).drop (lines.length * b + (start - 1) % r)).filter p
      = ((lines.flatten ++ (res ++ tail)).filter p).drop (start - 1) := by
  rw [residue_addressing p b r lines res tail _ h hres hj, filter_dropRes]
  congr 1
  have := Nat.div_add_mod (start - 1) r
  have h2 : lines.length * r = r * ((start - 1) / r) := by rw [hl, Nat.mul_comm]
  omega

/-- (2, no addressing) `actual_start = 1`, offset `doff`: skipping `start − 1` residues from the start of the data -/
theorem lands_on_start_none {α : Type} (p : α → Bool) (start : Nat) (data : List α) :
    (dropRes p (start - 1) data).filter p = (data.filter p).drop (start - 1) := filter_dropRes p _ _

/-- **(1) Soundness of the line-geometry tracker, in full.** `recs`: any file as the scan sees it — per
    record its terminated data lines (bytes incl. the newline, residues) and possibly an unterminated last stretch (record ending at
    EOF or at the EOD character). If the scan ends with `rpl = p > 0` and `bpl = q > 0` (what `esl-sfetch --index` / `easel index`
    test before setting `eslSSI_FASTSUBSEQ`), then EVERY record has the geometry `(q, p)`: every line that is followed by another
    line of its record has exactly `q` bytes and `p` residues, and no line at all — last, only, unterminated — has more than `p`
    residues or more ignored bytes than a full line (`q − p − 1`; so with `q = p + 1` residue `i` of a line is its byte `i`). -/
theorem bplrpl_sound (recs : List Rec) (hw : ∀ rc ∈ recs, rc.WF) (p q : Int) (hp : 0 < p) (hq : 0 < q)
    (hr : (scanFile recs).rpl = p) (hb : (scanFile recs).bpl = q) : ∀ rc ∈ recs, Geom q p rc :=
  tracker_sound recs hw p q hp hq hr hb

/-- `scanFile` is the event-by-event run of the tracker model (`Track.onEol` / `Track.onStop` of `Sqio/Model.lean`, the functions the
    executable model of `seebuf` calls) -/
theorem scanFile_is_run (recs : List Rec) : scanFile recs = run {} (recs.flatMap Rec.events) := scanFile_eq_run recs

/-- **the objects of `bplrpl_sound` are what `seebuf` computes.** `Sqio/Fold.lean` (`seebuf_fold`) shows that `seebuf`, however the
    file is cut into read blocks, leaves the tracker that folding `stepByte` over the bytes leaves; on a byte of sequence data `stepByte`
    succeeds and updates the tracker by `trkByte` (first statement); and folding `trkByte` over the data bytes of a record — terminated
    lines `segs`, each a stretch without end-of-line bytes followed by one, then an unterminated `rest` — from the state `header_*`
    leaves is `scanRec` on the record's line counts `recOf` (second statement): the per-record step of `scanFile`. -/
theorem tracker_over_bytes_is_tracker_over_counts (inmap : Bytes) :
    (inmap.size = 128 → ∀ (s : Fold.SS) (c : UInt8), BodySpec.isData inmap c = true →
      (Fold.stepByte inmap s c).2 = .ok ∧ (Fold.stepByte inmap s c).1.trk = TrackBytes.trkByte inmap s.trk c) ∧
    (∀ (segs : List (List UInt8)) (rest : List UInt8), (∀ l ∈ segs, TrackBytes.Terminated inmap l) →
      (∀ c ∈ rest, BodySpec.code inmap c ≠ Tables.dsqEol) → ∀ t : Track,
      (segs.flatten ++ rest).foldl (TrackBytes.trkByte inmap) (Tracker.step t Ev.hdr)
        = scanRec t (GeomBridge.recOf (BodySpec.isRes inmap) segs rest)) :=
  ⟨fun hm s c hd => TrackBytes.stepByte_trk inmap hm s c hd,
   fun segs rest hs hr t => TrackBytes.fold_record inmap segs rest hs hr t⟩

/-- **the reader loop of `create_ssi_index`, for EVERY read-block size, computes the per-record step of `scanFile`.** `scanLoop false`
    is the body loop of `sqascii_ReadInfo` (`loadbuf` / `seebuf` until the record's data end). From any well-formed block-mode handle
    standing behind a record's header, the tracker just reset by `header_*` (`a.trk = step t hdr`), whatever the block size and
    wherever the blocks cut the lines, the loop leaves `scanRec t` of the line counts of the record's data bytes — the bytes from the
    cursor up to the first byte that is not sequence data, cut at their newlines (`TrackReader.recOfData`). Composes
    `DataScan.scanLoop_info` (C04: the loop = the byte fold over the file), `TrackReader.scanBytes_trk` (the byte fold stops at the
    first non-data byte), `TrackReader.splitEol_spec` and `TrackBytes.fold_record`. `bplrpl_sound`'s `scanFile` folds exactly this `scanRec` over the
    records; the header's part is `header_resets_only_prv_cur`, the induction over the records `index_scan_tracker`. -/
theorem readInfo_body_tracker (a : Ascii) (sq : Sq) (t : Track) (fuel : Nat) (h : Refine.WF a) (ht : a.trk = Tracker.step t Ev.hdr)
    (hm : a.inmap.size = 128) (hfuel : (DataScan.fileFrom a).length + 1 < fuel)
    (hst : (DataScan.dataFold a (DataScan.fileFrom a).length).2.2 ≠ .eformat) :
    (scanLoop false fuel a sq).1.trk
      = scanRec t (TrackReader.recOfData a.inmap ((DataScan.fileFrom a).takeWhile (BodySpec.isData a.inmap))) :=
  TrackReader.infoBody_trk a sq t fuel h ht hm hfuel hst

/-- `header_fasta`, when it succeeds, resets `prv*` / `cur*` and changes NOTHING else of the tracker (`loadmem`, `loadbuf`, `nextchar` and
    the header loops never touch it): the widths and the two maxima survive from record to record -/
theorem header_resets_only_prv_cur (a : Ascii) (sq : Sq) (h : (headerFasta a sq).2.2 = .ok) :
    (headerFasta a sq).1.trk = Tracker.step a.trk Ev.hdr :=
  TrackHeader.headerFasta_trk a sq h

/-- **one `sqascii_ReadInfo` of `create_ssi_index` = one step of `scanFile`, for EVERY read-block size.** From a ready FASTA handle
    standing in front of a record (`ReadSpec.Ready`: any block size, cursor on a byte), a successful `ReadInfo` — header, counting loop
    over as many read blocks as it takes, end of record — leaves the tracker `scanRec (tracker before) (line counts of the record's data
    bytes)`; the data bytes are the file bytes behind the header line (`headerL` = the header parser of `C04.read_all_eq_parseFasta`)
    up to the first byte that is not sequence data. So the index-building scan computes `scanFile` of the records' line counts, and
    `bplrpl_sound` is a statement about the `bpl`, `rpl` that `create_ssi_index` reads off the handle (the induction over the records is
    `index_scan_tracker`; that last read is left to the differential run). -/
theorem readInfo_tracker_step (a : Ascii) (sq : Sq) (R : ReadSpec.Ready a sq) (hl : Sim.Live a) (hok : (readInfo a sq).2.2 = .ok) :
    (readInfo a sq).1.trk =
      scanRec a.trk (TrackReader.recOfData a.inmap
        (((HeaderSpec.headerL a.file.size sq (DataScan.fileFrom a)).2.2).takeWhile (BodySpec.isData a.inmap))) :=
  TrackHeader.readInfo_trk a sq R hl hok

/-- **the whole index-building scan = `scanFile`, for EVERY read-block size.** `buildIndexLoop` is the `ReadInfo` loop of
    `create_ssi_index`; from any ready FASTA handle, when it ends at EOF the widths `rpl`, `bpl` and the two maxima in the handle are
    those of the fold of `scanRec` over `countsL` = the line counts of the records on the remaining file bytes (induction over the
    records with `readInfo_tracker_step`; a `ReadInfo` answering EOF leaves them untouched). -/
theorem index_scan_tracker (fuel : Nat) (a : Ascii) (s : Ssi) (a' : Ascii) (s' : Ssi) (R : ReadSpec.Ready a ({} : Sq))
    (h : buildIndexLoop fuel a s = some (a', s')) :
    TrackIndex.core a'.trk
      = TrackIndex.core ((TrackIndex.countsL a.inmap a.file.size fuel (DataScan.fileFrom a)).foldl scanRec a.trk) :=
  TrackIndex.buildIndex_trk fuel a s a' s' R h

/-- **(1) END TO END: the index-building scan is sound (FASTA, every read-block size).** A fresh handle, the `ReadInfo` loop of
    `create_ssi_index` run to EOF: if the handle then holds `rpl = p > 0` and `bpl = q > 0` — the very test `esl-sfetch --index` /
    `easel index` make before `esl_newssi_SetSubseq` — then EVERY record the scan went over has the line geometry `(q, p)`:
    `bplrpl_sound` composed with the reader loop, the header parser and the byte fold of `seebuf`. (What remains tied only by the
    differential run: that `recOfData` of a record's bytes in `countsL` and the `segs`/`rest` of `fetchSubseq_eq_scan_slice_*_tracked`
    name the same bytes — `recOfData_lines` — and that the tool stores the two numbers it read.) -/
theorem index_scan_sound (fuel : Nat) (a : Ascii) (s : Ssi) (a' : Ascii) (s' : Ssi) (R : ReadSpec.Ready a ({} : Sq)) (h0 : a.trk = {})
    (h : buildIndexLoop fuel a s = some (a', s')) (p q : Int) (hp : 0 < p) (hq : 0 < q) (hr : a'.trk.rpl = p) (hb : a'.trk.bpl = q) :
    ∀ rc ∈ TrackIndex.countsL a.inmap a.file.size fuel (DataScan.fileFrom a), Geom q p rc :=
  TrackIndex.buildIndex_sound fuel a s a' s' R h0 h p q hp hq hr hb

/-- non-vacuity: the model's index-building scan of `>a\nACGT\nACGT\nAC\n` with read blocks of 2 bytes ends with rpl = 4, bpl = 5 -/
example : (buildIndexLoop 8 (ParseFasta.openFasta FetchSpec.demoA 2 0) {}).map (fun r => (r.1.trk.rpl, r.1.trk.bpl)) = some (4, 5) := by
  rw [ParseFasta.openFasta, inmapFasta_text]
  decide +kernel

/-- the data bytes of a record really are terminated lines followed by an unterminated rest, and `recOfData` counts exactly them -/
theorem recOfData_lines (inmap : Bytes) (d : List UInt8) :
    d = (TrackReader.splitEol inmap d []).1.flatten ++ (TrackReader.splitEol inmap d []).2 ∧
    (∀ l ∈ (TrackReader.splitEol inmap d []).1, TrackBytes.Terminated inmap l) ∧
    (∀ c ∈ (TrackReader.splitEol inmap d []).2, BodySpec.code inmap c ≠ Tables.dsqEol) ∧
    TrackReader.recOfData inmap d
      = GeomBridge.recOf (BodySpec.isRes inmap) (TrackReader.splitEol inmap d []).1 (TrackReader.splitEol inmap d []).2 := by
  obtain ⟨s1, s2, s3⟩ := TrackReader.splitEol_spec inmap d [] (by simp)
  exact ⟨by simpa using s1, s2, s3, rfl⟩

/-- non-vacuity: `ACGT\nAC\nA` (bytes of a FASTA record's data) is the lines (5, 4), (3, 2) and the unterminated rest (1, 1) -/
example : TrackReader.recOfData (inmapFasta 0) [65, 67, 71, 84, 10, 65, 67, 10, 65] = ⟨[(5, 4), (3, 2)], some (1, 1)⟩ := by
  rw [inmapFasta_text]
  decide +kernel

/-- **(the "neither" case) line-based formats are always fetched by brute force.** EMBL / UniProt / GenBank / DDBJ map the newline to
    "ignored", so their data scanner produces no end-of-line event (only `header_*` resets and the tail update of `seebuf`): the tracker
    keeps rpl = bpl = −1 whatever the file, `esl-sfetch --index` never sets `eslSSI_FASTSUBSEQ`, and `esl_ssi_FindSubseq` answers
    `(doff, actual_start = 1)` — the case `fetchSubseq_eq_scan_slice_brute` covers unconditionally. -/
theorem linebased_never_fast (evs : List Ev) (h : ∀ e ∈ evs, e = Ev.hdr ∨ ∃ b r, e = Ev.stop b r) :
    (run {} evs).rpl = -1 ∧ (run {} evs).bpl = -1 :=
  no_eol_no_geometry evs h

/-- non-vacuity: `>A\nACGT\nACGT\nAC\n>B\nACG` (last line unterminated) ends with rpl = 4, bpl = 5 and both records are well-formed -/
example : (scanFile [⟨[(5, 4), (5, 4), (3, 2)], none⟩, ⟨[], some (3, 3)⟩]).rpl = 4 ∧
          (scanFile [⟨[(5, 4), (5, 4), (3, 2)], none⟩, ⟨[], some (3, 3)⟩]).bpl = 5 ∧
          (∀ rc ∈ [(⟨[(5, 4), (5, 4), (3, 2)], none⟩ : Rec), ⟨[], some (3, 3)⟩], rc.WF) := by
  refine ⟨by decide, by decide, ?_⟩
  intro rc h
  simp only [List.mem_cons, List.not_mem_nil, or_false] at h
  rcases h with rfl | rfl <;> (constructor <;> simp <;> omega)

/-- six files with a line that does not fit the widths the others set: each ends with rpl = bpl = 0 (fast subsequence addressing off) -/
theorem bplrpl_witnesses_invalidate :
    (scanFile [⟨[(5, 4), (3, 2)], none⟩, ⟨[(7, 6)], none⟩]).rpl = 0 ∧          -- >A ACGT/AC  >B ACGTAC : single line longer than rpl
    (scanFile [⟨[(3, 2), (5, 4)], none⟩]).rpl = 0 ∧                           -- >A AC/ACGT : longer line where rpl is initialised
    (scanFile [⟨[(5, 4), (5, 4)], some (6, 6)⟩]).rpl = 0 ∧                    -- unterminated longer last line
    (scanFile [⟨[(5, 4), (5, 3)], none⟩]).rpl = 0 ∧                           -- >A ACGT/"A CG" : blank in the last line, bpl = rpl + 1
    (scanFile [⟨[(5, 4), (3, 2)], some (4, 4)⟩]).rpl = 0 ∧                    -- unterminated line after a short line
    (scanFile [⟨[(7, 6)], none⟩, ⟨[(5, 4), (3, 2)], none⟩]).rpl = 0 := by     -- longer single line BEFORE rpl is set
  decide

/-- (witness `>A\nACGT\nAC\n>B\nACGTAC\n`) the single line of record B has 6 residues where record A set rpl = 4, bpl = 5: both
    are invalidated -/
theorem bplrpl_single_line_invalidates :
    (run {} (events [[(5, 4), (3, 2)], [(7, 6)]])).rpl = 0 ∧ (run {} (events [[(5, 4), (3, 2)], [(7, 6)]])).bpl = 0 := by decide

/-- (witness `>A\nAC\nACGT\n`) the line at whose end rpl is initialised is longer than rpl: invalidated -/
theorem bplrpl_at_init_invalidates :
    (run {} (events [[(3, 2), (5, 4)]])).rpl = 0 ∧ (run {} (events [[(3, 2), (5, 4)]])).bpl = 0 := by decide

/-- (witness `>A\nACGT\nACGT\nACGTAC`, no final newline) an unterminated longer last line invalidates -/
theorem bplrpl_unterminated_invalidates :
    (run {} ([Ev.hdr, Ev.eol 5 4, Ev.eol 5 4, Ev.stop 6 6])).rpl = 0 ∧ (run {} ([Ev.hdr, Ev.eol 5 4, Ev.eol 5 4, Ev.stop 6 6])).bpl = 0 := by decide

/-- a clean three-line record ends with rpl = 4, bpl = 5 -/
example : (run {} ([Ev.hdr] ++ [Ev.eol 5 4, Ev.eol 5 4] ++ [Ev.eol 3 2])).rpl = 4 ∧
          (run {} ([Ev.hdr] ++ [Ev.eol 5 4, Ev.eol 5 4] ++ [Ev.eol 3 2])).bpl = 5 := by decide

/-- non-vacuity of `lands_on_start_line`: two complete lines `AC␣\n`-like (b = 3, r = 2), start = 5 -/
example : FullLines (fun c : Nat => c != 0) 3 2 [[1, 1, 0], [1, 1, 0]] ∧ [[1, 1, 0], [1, 1, 0]].length = (5 - 1) / 2 := by
  refine ⟨⟨?_, ?_⟩, by decide⟩ <;> (intro ln h; simp at h; rcases h with rfl | rfl <;> decide)

section echo
open EaselModel.Sqio.EchoSpec

/-- **`sqascii_Echo` = the bytes `roff..eoff` of the file, for EVERY read-block size `B ≥ 1`**: from any block-mode handle on the file
    (wherever its cursor stands), with `0 ≤ roff ≤ eoff < size`, `Echo` returns `eslOK` and exactly `file[roff..eoff]` — buffer by buffer
    through `loadbuf`, last buffer cut at `eoff` — and leaves the handle positioned at `roff` with line number and `L` restored. -/
theorem echo_eq_scan_bytes (a : Ascii) (sq : Sq) (hb : a.linebased = false) (hr : a.recording ≠ 1) (hB : 1 ≤ a.B)
    (h0 : 0 ≤ sq.roff) (h1 : sq.roff ≤ sq.eoff) (h2 : sq.eoff < (a.file.size : Int)) :
    (echo a sq).2.1 = .ok ∧
    (echo a sq).2.2 = a.file.extract sq.roff.toNat (sq.eoff.toNat + 1) ∧
    Refine.WF (echo a sq).1 ∧ Refine.pos (echo a sq).1 = sq.roff ∧ (echo a sq).1.bpos = 0 ∧ 0 < (echo a sq).1.nc ∧
    (echo a sq).1.file = a.file ∧ (echo a sq).1.B = a.B ∧
    (echo a sq).1.linenumber = a.linenumber ∧ (echo a sq).1.L = a.L :=
  EchoSpec.echo_eq_scan_bytes a sq hb hr hB h0 h1 h2

/-- offsets never set (`-1`): `eslEINVAL`, nothing written -/
theorem echo_unset_offsets (a : Ascii) (sq : Sq) (h : sq.roff = -1 ∨ sq.eoff = -1) :
    (echo a sq).2.1 = .einval ∧ (echo a sq).2.2 = #[] := EchoSpec.echo_unset_offsets a sq h

/-- **FETCH (whole record) = SCAN**: every record `s` that the sequential scan of a FASTA file yields (`parseFasta`, which by
    `C04.read_all_eq_parseFasta` is what `sqascii_Read` returns for every block size) has `0 ≤ roff ≤ eoff < size`, and `Echo` of it —
    through a handle with ANY block size — is exactly the byte range of that record in the file. -/
theorem echo_of_scanned_record (bytes : Bytes) (abc : Nat) (s : Sq) (hs : s ∈ (ParseFasta.parseFasta abc bytes).1)
    (a : Ascii) (hf : a.file = bytes) (hb : a.linebased = false) (hr : a.recording ≠ 1) (hB : 1 ≤ a.B) :
    (0 ≤ s.roff ∧ s.roff ≤ s.eoff ∧ s.eoff < (bytes.size : Int)) ∧
    (echo a s).2.1 = .ok ∧ (echo a s).2.2 = bytes.extract s.roff.toNat (s.eoff.toNat + 1) :=
  ⟨FetchSpec.scanned_record_offsets bytes abc s hs, EchoSpec.echo_of_scanned_record bytes abc s hs a hf hb hr hB⟩

/-- the same for a record read with block size `B₁` and echoed with any other block size -/
theorem echo_of_read_record (bytes : Bytes) (abc B1 : Nat) (hB1 : 1 ≤ B1) (habc : abc ∈ [0, 1, 2, 3]) (s : Sq)
    (hs : s ∈ (ParseFasta.readAllM (bytes.size + 2) (ParseFasta.openFasta bytes B1 abc) (freshSq abc)).1)
    (a : Ascii) (hf : a.file = bytes) (hb : a.linebased = false) (hr : a.recording ≠ 1) (hB : 1 ≤ a.B) :
    (echo a s).2.1 = .ok ∧ (echo a s).2.2 = bytes.extract s.roff.toNat (s.eoff.toNat + 1) :=
  EchoSpec.echo_of_read_record bytes abc B1 hB1 habc s hs a hf hb hr hB

/-- non-vacuity: `>a\nAC\n>b\nG\n` with B = 2: the second record is bytes 6..10 -/
example : (echo { file := demoFile, B := 2 } { roff := 6, eoff := 10 }).2 = (.ok, #[62, 98, 10, 71, 10]) := by decide +kernel
example : (ParseFasta.parseFasta 0 demoFile).1.map (fun s => (s.roff, s.eoff)) = [(0, 5), (6, 10)] := by
  rw [ParseFasta.parseFasta, inmapFasta_text]
  decide +kernel

end echo

/-! ## (3) subsequence fetch: `sqascii_FetchSubseq key start..end` = residues `start..end` of the scanned record, for every block size

`s` is a record of the sequential scan (`parseFasta abc bytes`, which by `C04.read_all_eq_parseFasta` is what `sqascii_Read` returns for
every block size); `e` the index entry stored for it (`roff`, `doff`, `L`, as `create_ssi_index` stores them); `a` ANY block-mode handle on
the file (any `B ≥ 1`, cursor anywhere); `sq` a reused `ESL_SQ` of the right mode. The fetched object then holds exactly
`s.seq[start..end]`, coordinates `start..end`, `L`, the description, `source = key`, `name = key/start-end`. -/
section fetchsub
open EaselModel.Sqio.FetchSpec EaselModel.Sqio.ParseFasta EaselModel.Sqio.BodySpec

/-- **(3, brute force) the index does not promise a line geometry (`eslSSI_FASTSUBSEQ` off): FETCH = slice of SCAN, unconditionally** -/
theorem fetchSubseq_eq_scan_slice_brute (bytes : Bytes) (abc : Nat) (habc : abc ∈ [0, 1, 2, 3]) (s : Sq) (hs : s ∈ (parseFasta abc bytes).1)
    (ssi : Ssi) (key : Bytes) (e : SsiEntry) (he : ssi.findName key = some e) (her : e.roff = s.roff) (hed : e.doff = s.doff)
    (hel : e.len = s.L) (hfast : ssi.fast = false) (start end_ : Int)
    (a : Ascii) (hf : a.file = bytes) (hb : a.linebased = false) (hr : a.recording ≠ 1) (hB : 1 ≤ a.B)
    (hi : a.inmap = inmapFasta abc) (hfmt : a.fmt = 1) (heof : a.eofIsOk = true)
    (sq : Sq) (hdig : sq.digital = (abc != 0)) (hsabc : sq.abc = abc) (hseq : sq.seq = #[]) (hna : 2 ≤ sq.nalloc) (hda : 2 ≤ sq.dalloc)
    (h1 : 1 ≤ start) (h2 : start ≤ end_) (h3 : end_ ≤ s.L) :
    (fetchSubseq a ssi sq key start end_).2.2 = .ok ∧
    (fetchSubseq a ssi sq key start end_).2.1.seq = s.seq.extract (start - 1).toNat end_.toNat ∧
    (fetchSubseq a ssi sq key start end_).2.1.start = start ∧ (fetchSubseq a ssi sq key start end_).2.1.end_ = end_ ∧
    (fetchSubseq a ssi sq key start end_).2.1.L = s.L ∧ (fetchSubseq a ssi sq key start end_).2.1.desc = s.desc ∧
    (fetchSubseq a ssi sq key start end_).2.1.source = key ∧
    (fetchSubseq a ssi sq key start end_).2.1.name = key ++ #[47] ++ decBytes start ++ #[45] ++ decBytes end_ := by
  have hfs := findSubseq_brute ssi key start e he hfast h1 (by omega)
  rw [her, hed, hel, ← Int.add_zero s.doff] at hfs
  exact fetchSubseq_of_lands bytes abc habc s hs ssi key start end_ 0 1 hfs a hf hb hr hB hi hfmt heof sq hdig hsabc hseq hna hda
    h1 h2 h3 (Int.le_refl 0) (Lands.zero _ _ _)

/-- non-vacuity of `fetchSubseq_eq_scan_slice_brute`: its hypotheses hold for the record of `demoA` -/
example : (fetchSubseq hA { prim := #[demoEntry] } {} #[97] 3 7).2.1.seq =
    ((parseFasta 0 demoA).1.head (by decide +kernel)).seq.extract 2 7 := by
  obtain ⟨s, hs, hv⟩ := List.map_eq_singleton_iff.mp demoA_scan
  simp only [Prod.mk.injEq] at hv
  exact (fetchSubseq_eq_scan_slice_brute demoA 0 (by decide) _ (List.head_mem _) { prim := #[demoEntry] } #[97] demoEntry (by rfl)
    (by simp only [hs, List.head_cons, hv.1]; rfl) (by simp only [hs, List.head_cons, hv.2.1]; rfl)
    (by simp only [hs, List.head_cons, hv.2.2.1]; rfl) rfl 3 7 hA rfl rfl (by decide) (by decide) rfl rfl rfl {} rfl rfl rfl
    (by decide) (by decide) (by decide) (by decide) (by simp only [hs, List.head_cons, hv.2.2.1]; decide)).2.1

/-- **(3, line addressing)** `bpl = b ≠ rpl + 1`: if the record's data really begins with `(start−1)/r` complete lines of `b` bytes and `r`
    residues (all of them data bytes) — what `bpl, rpl > 0` is meant to promise — FETCH = slice of SCAN -/
theorem fetchSubseq_eq_scan_slice_line (bytes : Bytes) (abc : Nat) (habc : abc ∈ [0, 1, 2, 3]) (s : Sq) (hs : s ∈ (parseFasta abc bytes).1)
    (ssi : Ssi) (key : Bytes) (e : SsiEntry) (he : ssi.findName key = some e) (her : e.roff = s.roff) (hed : e.doff = s.doff)
    (hel : e.len = s.L) (hfast : ssi.fast = true) (b r : Nat) (hbpl : ssi.bpl = (b : Int)) (hrpl : ssi.rpl = (r : Int))
    (hr0 : 0 < r) (hb0 : 0 < b) (hne : b ≠ r + 1) (start end_ : Int)
    (a : Ascii) (hf : a.file = bytes) (hb : a.linebased = false) (hr : a.recording ≠ 1) (hB : 1 ≤ a.B)
    (hi : a.inmap = inmapFasta abc) (hfmt : a.fmt = 1) (heof : a.eofIsOk = true)
    (sq : Sq) (hdig : sq.digital = (abc != 0)) (hsabc : sq.abc = abc) (hseq : sq.seq = #[]) (hna : 2 ≤ sq.nalloc) (hda : 2 ≤ sq.dalloc)
    (h1 : 1 ≤ start) (h2 : start ≤ end_) (h3 : end_ ≤ s.L)
    (lines : List (List UInt8)) (tail : List UInt8) (hgeo : bytes.toList.drop s.doff.toNat = lines.flatten ++ tail)
    (hfull : Geometry.FullLines (isRes (inmapFasta abc)) b r lines)
    (hdat : ∀ c ∈ lines.flatten, isData (inmapFasta abc) c = true) (hl : lines.length = (start.toNat - 1) / r) :
    (fetchSubseq a ssi sq key start end_).2.2 = .ok ∧
    (fetchSubseq a ssi sq key start end_).2.1.seq = s.seq.extract (start - 1).toNat end_.toNat ∧
    (fetchSubseq a ssi sq key start end_).2.1.start = start ∧ (fetchSubseq a ssi sq key start end_).2.1.end_ = end_ ∧
    (fetchSubseq a ssi sq key start end_).2.1.L = s.L ∧ (fetchSubseq a ssi sq key start end_).2.1.desc = s.desc ∧
    (fetchSubseq a ssi sq key start end_).2.1.source = key ∧
    (fetchSubseq a ssi sq key start end_).2.1.name = key ++ #[47] ++ decBytes start ++ #[45] ++ decBytes end_ := by
  have r3 := (record_shape bytes abc s hs).doff_pos
  have hfs := findSubseq_line ssi key start e he hfast (by rw [hed]; omega) (by rw [hrpl]; omega) (by rw [hbpl]; omega)
    (by rw [hbpl, hrpl]; omega) h1 (by rw [hel]; omega)
  rw [her, hed, hel, hbpl, hrpl] at hfs
  obtain ⟨g0, gl⟩ := lands_line (inmapFasta abc) _ start h1 b r lines tail hgeo hfull hdat hl
  exact fetchSubseq_of_lands bytes abc habc s hs ssi key start end_ _ _ hfs a hf hb hr hB hi hfmt heof sq hdig hsabc hseq hna hda
    h1 h2 h3 g0 gl

/-- **(3, residue addressing)** `bpl = rpl + 1`: moreover the line holding residue `start` begins with more than `(start−1) % r` residues
    and nothing else before them -/
theorem fetchSubseq_eq_scan_slice_residue (bytes : Bytes) (abc : Nat) (habc : abc ∈ [0, 1, 2, 3]) (s : Sq) (hs : s ∈ (parseFasta abc bytes).1)
    (ssi : Ssi) (key : Bytes) (e : SsiEntry) (he : ssi.findName key = some e) (her : e.roff = s.roff) (hed : e.doff = s.doff)
    (hel : e.len = s.L) (hfast : ssi.fast = true) (r : Nat) (hbpl : ssi.bpl = ((r + 1 : Nat) : Int)) (hrpl : ssi.rpl = (r : Int))
    (hr0 : 0 < r) (start end_ : Int)
    (a : Ascii) (hf : a.file = bytes) (hb : a.linebased = false) (hr : a.recording ≠ 1) (hB : 1 ≤ a.B)
    (hi : a.inmap = inmapFasta abc) (hfmt : a.fmt = 1) (heof : a.eofIsOk = true)
    (sq : Sq) (hdig : sq.digital = (abc != 0)) (hsabc : sq.abc = abc) (hseq : sq.seq = #[]) (hna : 2 ≤ sq.nalloc) (hda : 2 ≤ sq.dalloc)
    (h1 : 1 ≤ start) (h2 : start ≤ end_) (h3 : end_ ≤ s.L)
    (lines : List (List UInt8)) (res tail : List UInt8) (hgeo : bytes.toList.drop s.doff.toNat = lines.flatten ++ (res ++ tail))
    (hfull : Geometry.FullLines (isRes (inmapFasta abc)) (r + 1) r lines)
    (hdat : ∀ c ∈ lines.flatten, isData (inmapFasta abc) c = true) (hres : ∀ c ∈ res, isRes (inmapFasta abc) c = true)
    (hj : (start.toNat - 1) % r ≤ res.length) (hl : lines.length = (start.toNat - 1) / r) :
    (fetchSubseq a ssi sq key start end_).2.2 = .ok ∧
    (fetchSubseq a ssi sq key start end_).2.1.seq = s.seq.extract (start - 1).toNat end_.toNat ∧
    (fetchSubseq a ssi sq key start end_).2.1.start = start ∧ (fetchSubseq a ssi sq key start end_).2.1.end_ = end_ ∧
    (fetchSubseq a ssi sq key start end_).2.1.L = s.L ∧ (fetchSubseq a ssi sq key start end_).2.1.desc = s.desc ∧
    (fetchSubseq a ssi sq key start end_).2.1.source = key ∧
    (fetchSubseq a ssi sq key start end_).2.1.name = key ++ #[47] ++ decBytes start ++ #[45] ++ decBytes end_ := by
  have r3 := (record_shape bytes abc s hs).doff_pos
  have hfs := findSubseq_residue ssi key start e he hfast (by rw [hed]; omega) (by rw [hrpl]; omega) (by rw [hbpl]; omega)
    (by rw [hbpl, hrpl]; omega) h1 (by rw [hel]; omega)
  rw [her, hed, hel, hbpl, hrpl, Int.add_assoc] at hfs
  obtain ⟨g0, gl⟩ := lands_residue (inmapFasta abc) _ start h1 r lines res tail hgeo hfull hdat hres hj hl
  exact fetchSubseq_of_lands bytes abc habc s hs ssi key start end_ _ _ hfs a hf hb hr hB hi hfmt heof sq hdig hsabc hseq hna hda
    h1 h2 h3 g0 gl

/-- (4e) `end < start` or `end > L`: `eslERANGE`, never data -/
theorem fetchSubseq_end_out_of_range (a : Ascii) (ssi : Ssi) (sq : Sq) (key : Bytes) (start end_ roff doff len actualStart : Int)
    (hfs : findSubseq ssi key start = .ok (roff, doff, len, actualStart)) (he0 : end_ ≠ 0)
    (h : start > end_ ∨ (0 < len ∧ end_ > len)) :
    (fetchSubseq a ssi sq key start end_).2.2 = .erange :=
  FetchSpec.fetchSubseq_erange a ssi sq key start end_ roff doff len actualStart hfs he0 h

open EaselModel.Sqio.SpecFasta in
/-- **(3, whole record) FETCH = SCAN: `sqascii_Position(roff)` + `sqascii_Read` — what `esl_sqio_Fetch`, `PositionByKey` / `ByNumber` + `Read`
    and `esl-sfetch`'s whole-record path do — returns the record the sequential scan yields, for every block size**: for every record `s`
    of the scan, every block-mode handle on the file (any `B ≥ 1`, cursor anywhere) and every reused `ESL_SQ` of the right mode, positioning
    at `s.roff` succeeds, the read succeeds and returns `s`: name, description, residues, `roff` / `hoff` / `doff` / `eoff`, `L` (`toRecord`). -/
theorem fetch_eq_scan (bytes : Bytes) (abc : Nat) (habc : abc ∈ [0, 1, 2, 3]) (s : Sq) (hs : s ∈ (parseFasta abc bytes).1)
    (a : Ascii) (hf : a.file = bytes) (hb : a.linebased = false) (hr : a.recording ≠ 1) (hB : 1 ≤ a.B)
    (hi : a.inmap = inmapFasta abc) (hfmt : a.fmt = 1) (heof : a.eofIsOk = true)
    (sq : Sq) (hdig : sq.digital = (abc != 0)) (hsabc : sq.abc = abc) (hseq : sq.seq = #[]) (hna : 2 ≤ sq.nalloc) (hda : 2 ≤ sq.dalloc) :
    (position a s.roff.toNat).2 = .ok ∧
    (read (position a s.roff.toNat).1 sq).2.2 = .ok ∧
    toRecord (read (position a s.roff.toNat).1 sq).2.1 = toRecord s :=
  FetchWhole.fetch_eq_scan bytes abc habc s hs a hf hb hr hB hi hfmt heof sq hdig hsabc hseq hna hda

/-- what the scan says about every record it returns: offsets inside the file, the header re-parses at `roff`, the residues are the
    residues of the data bytes at `doff`, `L` is their number -/
theorem scanned_record_shape (bytes : Bytes) (abc : Nat) (s : Sq) (hs : s ∈ (parseFasta abc bytes).1) :
    0 ≤ s.roff ∧ s.roff < (bytes.size : Int) ∧ 0 < s.doff ∧ s.doff ≤ (bytes.size : Int) ∧ s.L = (s.seq.size : Int) :=
  let h := FetchSpec.record_shape bytes abc s hs
  ⟨h.roff_nonneg, h.roff_lt, h.doff_pos, h.doff_le, h.len⟩

/-- **(3, fetch to the end) `end = 0`** is `end = L`: `sqascii_FetchSubseq(key, start, 0)` is literally the call with `end = L`, the
    length the index stored — same handle, same `ESL_SQ`, same status, name `key/start-L` — for every file, index, key and start -/
theorem fetchSubseq_end_zero (a : Ascii) (ssi : Ssi) (sq : Sq) (key : Bytes) (start roff doff len actualStart : Int)
    (hfs : findSubseq ssi key start = .ok (roff, doff, len, actualStart)) :
    fetchSubseq a ssi sq key start 0 = fetchSubseq a ssi sq key start len :=
  FetchMore.fetchSubseq_end_zero a ssi sq key start roff doff len actualStart hfs

/-- … so FETCH `start..0` = residues `start..L` of the SCAN (stated for the brute-force index; the line / residue cases compose the same
    way with `fetchSubseq_eq_scan_slice_line` / `_residue`) -/
theorem fetchSubseq_to_end_eq_scan_suffix (bytes : Bytes) (abc : Nat) (habc : abc ∈ [0, 1, 2, 3]) (s : Sq) (hs : s ∈ (parseFasta abc bytes).1)
    (ssi : Ssi) (key : Bytes) (e : SsiEntry) (he : ssi.findName key = some e) (her : e.roff = s.roff) (hed : e.doff = s.doff)
    (hel : e.len = s.L) (hfast : ssi.fast = false) (start : Int)
    (a : Ascii) (hf : a.file = bytes) (hb : a.linebased = false) (hr : a.recording ≠ 1) (hB : 1 ≤ a.B)
    (hi : a.inmap = inmapFasta abc) (hfmt : a.fmt = 1) (heof : a.eofIsOk = true)
    (sq : Sq) (hdig : sq.digital = (abc != 0)) (hsabc : sq.abc = abc) (hseq : sq.seq = #[]) (hna : 2 ≤ sq.nalloc) (hda : 2 ≤ sq.dalloc)
    (h1 : 1 ≤ start) (h2 : start ≤ s.L) :
    (fetchSubseq a ssi sq key start 0).2.2 = .ok ∧
    (fetchSubseq a ssi sq key start 0).2.1.seq = s.seq.extract (start - 1).toNat s.L.toNat ∧
    (fetchSubseq a ssi sq key start 0).2.1.start = start ∧ (fetchSubseq a ssi sq key start 0).2.1.end_ = s.L ∧
    (fetchSubseq a ssi sq key start 0).2.1.name = key ++ #[47] ++ decBytes start ++ #[45] ++ decBytes s.L := by
  have hfs := FetchSpec.findSubseq_brute ssi key start e he hfast h1 (by omega)
  rw [FetchMore.fetchSubseq_end_zero a ssi sq key start _ _ _ _ hfs, hel]
  obtain ⟨r1, r2, r3, r4, _, _, _, r8⟩ :=
    fetchSubseq_eq_scan_slice_brute bytes abc habc s hs ssi key e he her hed hel hfast start s.L a hf hb hr hB hi hfmt heof sq hdig hsabc
      hseq hna hda h1 h2 (Int.le_refl _)
  exact ⟨r1, r2, r3, r4, r8⟩

/-- **(3, FetchInfo) FETCHINFO = the info of the scanned record, for every block size**: `sqascii_Position(roff)` + `sqascii_ReadInfo`
    (what `esl_sqio_FetchInfo` does) succeeds and returns the name, description, the four offsets and the length `L` of the record the
    sequential scan yields — `L` being the number of residues `Read` delivers -/
theorem fetchInfo_eq_scan (bytes : Bytes) (abc : Nat) (habc : abc ∈ [0, 1, 2, 3]) (s : Sq) (hs : s ∈ (parseFasta abc bytes).1)
    (a : Ascii) (hf : a.file = bytes) (hb : a.linebased = false) (hr : a.recording ≠ 1) (hB : 1 ≤ a.B)
    (hi : a.inmap = inmapFasta abc) (hfmt : a.fmt = 1) (heof : a.eofIsOk = true)
    (sq : Sq) (hdig : sq.digital = (abc != 0)) (hsabc : sq.abc = abc) (hseq : sq.seq = #[]) (hna : 2 ≤ sq.nalloc) (hda : 2 ≤ sq.dalloc)
    (hsa : 2 ≤ sq.salloc) :
    (position a s.roff.toNat).2 = .ok ∧
    (readInfo (position a s.roff.toNat).1 sq).2.2 = .ok ∧
    (readInfo (position a s.roff.toNat).1 sq).2.1.name.toList = s.name.toList ∧
    (readInfo (position a s.roff.toNat).1 sq).2.1.desc.toList = s.desc.toList ∧
    (readInfo (position a s.roff.toNat).1 sq).2.1.roff = s.roff ∧ (readInfo (position a s.roff.toNat).1 sq).2.1.hoff = s.hoff ∧
    (readInfo (position a s.roff.toNat).1 sq).2.1.doff = s.doff ∧ (readInfo (position a s.roff.toNat).1 sq).2.1.eoff = s.eoff ∧
    (readInfo (position a s.roff.toNat).1 sq).2.1.L = s.L ∧ s.L = (s.seq.size : Int) :=
  FetchWhole.fetchInfo_eq_scan bytes abc habc s hs a hf hb hr hB hi hfmt heof sq hdig hsabc hseq hna hda hsa

open EaselModel.Sqio.SpecFasta in
/-- **(3, by number) FETCH BY NUMBER = SCAN**: `esl_ssi_FindNumber(n)` is the `n`-th primary key in index order
    (`findNumber_index_order`); when that entry carries the record offset of the scanned record `s`, `sqascii_PositionByNumber(n)` +
    `sqascii_Read` returns `s`, for every block size -/
theorem fetch_by_number_eq_scan (bytes : Bytes) (abc : Nat) (habc : abc ∈ [0, 1, 2, 3]) (s : Sq) (hs : s ∈ (parseFasta abc bytes).1)
    (ssi : Ssi) (n : Nat) (e : SsiEntry) (hn : findNumber ssi n = some e) (her : e.roff = s.roff)
    (a : Ascii) (hf : a.file = bytes) (hb : a.linebased = false) (hr : a.recording ≠ 1) (hB : 1 ≤ a.B)
    (hi : a.inmap = inmapFasta abc) (hfmt : a.fmt = 1) (heof : a.eofIsOk = true)
    (sq : Sq) (hdig : sq.digital = (abc != 0)) (hsabc : sq.abc = abc) (hseq : sq.seq = #[]) (hna : 2 ≤ sq.nalloc) (hda : 2 ≤ sq.dalloc) :
    e ∈ ssi.prim.toList ∧ (positionByNumber a ssi n).2 = .ok ∧
    (read (positionByNumber a ssi n).1 sq).2.2 = .ok ∧
    toRecord (read (positionByNumber a ssi n).1 sq).2.1 = toRecord s :=
  FetchMore.fetch_by_number_eq_scan bytes abc habc s hs ssi n e hn her a hf hb hr hB hi hfmt heof sq hdig hsabc hseq hna hda

/-- index order: the entries `FindNumber` enumerates are exactly the primary keys (a permutation), in non-decreasing byte-wise key
    order; a number `≥ nprimary` is `eslENOTFOUND` and leaves the handle untouched -/
theorem findNumber_index_order (ssi : Ssi) :
    (sortedPrim ssi).Perm ssi.prim.toList ∧ (sortedPrim ssi).Pairwise (fun x y => x.key.toList ≤ y.key.toList) ∧
    (∀ n, findNumber ssi n = (sortedPrim ssi)[n]?) ∧
    (∀ (a : Ascii) (n : Nat), ssi.prim.size ≤ n → positionByNumber a ssi n = (a, .enotfound)) :=
  ⟨FetchMore.sortedPrim_perm ssi, FetchMore.sortedPrim_sorted ssi, fun _ => rfl,
   fun a n h => FetchMore.positionByNumber_out_of_range a ssi n h⟩

/-- non-vacuity: the keys `b`, `a` (in file order) are enumerated as `a`, `b`; number 2 is absent -/
example : ((List.range 3).map fun n => (findNumber { prim := #[⟨#[98], 10, 13, 4⟩, ⟨#[97], 0, 3, 4⟩] } n).map (·.roff))
    = [some 0, some 10, none] := by
  have h : ¬ (([98] : List UInt8) ≤ [97]) := by decide
  simp [findNumber, sortedPrim, List.mergeSort, keyLe, List.range, List.range.loop, h]

/-- **(3, whole record, every size)** the size of what `Echo` writes is `eoff − roff + 1`, for every record size and every block
    size (in particular records of `k·4096 − 1`, `k·4096`, `k·4096 + 1` bytes read with `B = 4096`) -/
theorem echo_size (a : Ascii) (sq : Sq) (hb : a.linebased = false) (hr : a.recording ≠ 1) (hB : 1 ≤ a.B)
    (h0 : 0 ≤ sq.roff) (h1 : sq.roff ≤ sq.eoff) (h2 : sq.eoff < (a.file.size : Int)) :
    ((echo a sq).2.2.size : Int) = sq.eoff - sq.roff + 1 := by
  rw [(EchoSpec.echo_eq_scan_bytes a sq hb hr hB h0 h1 h2).2.1, Array.size_extract]
  omega

theorem scanned_data_prefix (bytes : Bytes) (abc : Nat) (s : Sq) (hs : s ∈ (parseFasta abc bytes).1) (data : List UInt8)
    (hdata : (bytes.toList.drop s.doff.toNat).takeWhile (isData (inmapFasta abc)) = data) :
    s.L = ((data.filter (isRes (inmapFasta abc))).length : Int) ∧
    ∀ pre post : List UInt8, data = pre ++ post →
      bytes.toList.drop s.doff.toNat = pre ++ (post ++ (bytes.toList.drop s.doff.toNat).dropWhile (isData (inmapFasta abc))) ∧
      ∀ c ∈ pre, isData (inmapFasta abc) c = true := by
  have R := FetchSpec.record_shape bytes abc s hs
  refine ⟨by rw [R.len, R.seq, BodySpec.resOf_size, hdata], fun pre post hpp => ⟨?_, fun c hc => ?_⟩⟩
  · rw [← List.append_assoc, ← hpp, ← hdata]
    exact (List.takeWhile_append_dropWhile (p := isData (inmapFasta abc)) (l := bytes.toList.drop s.doff.toNat)).symm
  · exact mem_takeWhile_imp (hdata ▸ hpp ▸ List.mem_append_left post hc)

/-- **(1) ⇒ (3): the tracker's verdict IS the geometry hypothesis of the line-addressing theorem.** `recs`: the file as the
    tracker counts it (one `Rec` per record); the scan ends with `rpl = r > 0`, `bpl = b > 0`, `b ≠ r + 1` — what `esl-sfetch --index`
    then stores with `eslSSI_FASTSUBSEQ`; `s`: a record of the sequential scan whose data (the bytes from `s.doff` up to the next
    record or the end of the file) are the terminated lines `segs` followed by the unterminated `rest`, counted as the member
    `recOf … segs rest` of `recs`. Then FETCH `start..end` = residues `start..end` of the SCAN, for every block size — the geometry
    is not assumed but concluded from the tracker (`bplrpl_sound` + `GeomBridge.bridge_line`).
    Not composed here: `recs := countsL …`, the counts the byte-level `seebuf` loop of `create_ssi_index` accumulates
    (`index_scan_sound`, `recOfData_lines`); that the tool stores the two numbers it read is tied by the differential run. -/
theorem fetchSubseq_eq_scan_slice_line_tracked (bytes : Bytes) (abc : Nat) (habc : abc ∈ [0, 1, 2, 3]) (s : Sq) (hs : s ∈ (parseFasta abc bytes).1)
    (recs : List Rec) (hw : ∀ rc ∈ recs, rc.WF) (b r : Nat) (hr0 : 0 < r) (hb0 : 0 < b) (hne : b ≠ r + 1)
    (htr : (scanFile recs).rpl = (r : Int)) (htb : (scanFile recs).bpl = (b : Int))
    (segs : List (List UInt8)) (rest : List UInt8)
    (hdata : (bytes.toList.drop s.doff.toNat).takeWhile (isData (inmapFasta abc)) = segs.flatten ++ rest)
    (hmem : GeomBridge.recOf (isRes (inmapFasta abc)) segs rest ∈ recs)
    (ssi : Ssi) (key : Bytes) (e : SsiEntry) (he : ssi.findName key = some e) (her : e.roff = s.roff) (hed : e.doff = s.doff)
    (hel : e.len = s.L) (hfast : ssi.fast = true) (hbpl : ssi.bpl = (b : Int)) (hrpl : ssi.rpl = (r : Int)) (start end_ : Int)
    (a : Ascii) (hf : a.file = bytes) (hb : a.linebased = false) (hr : a.recording ≠ 1) (hB : 1 ≤ a.B)
    (hi : a.inmap = inmapFasta abc) (hfmt : a.fmt = 1) (heof : a.eofIsOk = true)
    (sq : Sq) (hdig : sq.digital = (abc != 0)) (hsabc : sq.abc = abc) (hseq : sq.seq = #[]) (hna : 2 ≤ sq.nalloc) (hda : 2 ≤ sq.dalloc)
    (h1 : 1 ≤ start) (h2 : start ≤ end_) (h3 : end_ ≤ s.L) :
    (fetchSubseq a ssi sq key start end_).2.2 = .ok ∧
    (fetchSubseq a ssi sq key start end_).2.1.seq = s.seq.extract (start - 1).toNat end_.toNat ∧
    (fetchSubseq a ssi sq key start end_).2.1.start = start ∧ (fetchSubseq a ssi sq key start end_).2.1.end_ = end_ ∧
    (fetchSubseq a ssi sq key start end_).2.1.L = s.L ∧ (fetchSubseq a ssi sq key start end_).2.1.desc = s.desc ∧
    (fetchSubseq a ssi sq key start end_).2.1.source = key ∧
    (fetchSubseq a ssi sq key start end_).2.1.name = key ++ #[47] ++ decBytes start ++ #[45] ++ decBytes end_ := by
  have hg := bplrpl_sound recs hw r b (by omega) (by omega) htr htb _ hmem
  obtain ⟨hL, hpre⟩ := scanned_data_prefix bytes abc s hs _ hdata
  obtain ⟨k1, k2, k3⟩ := GeomBridge.bridge_line (isRes (inmapFasta abc)) segs rest b r hr0 hg start.toNat (by omega) (by omega)
  obtain ⟨hgeo, hdat⟩ := hpre _ _ k3
  exact fetchSubseq_eq_scan_slice_line bytes abc habc s hs ssi key e he her hed hel hfast b r hbpl hrpl hr0 hb0 hne start end_ a hf hb hr hB hi
    hfmt heof sq hdig hsabc hseq hna hda h1 h2 h3 _ _ hgeo k1 hdat k2

/-- non-vacuity of `fetchSubseq_eq_scan_slice_line_tracked`: the file `>a\nACGT \nACGT \nAC\n` (`FetchSpec.demoB`): its one record is
    counted as three lines (6, 4), (6, 4), (3, 2); the tracker ends with rpl = 4, bpl = 6 ≠ rpl + 1; the data cut into lines -/
example : GeomBridge.recOf (isRes (inmapFasta 0)) [[65, 67, 71, 84, 32, 10], [65, 67, 71, 84, 32, 10], [65, 67, 10]] []
            = ⟨[(6, 4), (6, 4), (3, 2)], none⟩ ∧
          (scanFile [⟨[(6, 4), (6, 4), (3, 2)], none⟩]).rpl = 4 ∧ (scanFile [⟨[(6, 4), (6, 4), (3, 2)], none⟩]).bpl = 6 ∧
          (FetchSpec.demoB.toList.drop 3).takeWhile (isData (inmapFasta 0))
            = [[65, 67, 71, 84, 32, 10], [65, 67, 71, 84, 32, 10], [65, 67, 10]].flatten ++ [] := by
  rw [inmapFasta_text]
  exact ⟨by decide +kernel, by decide, by decide, by decide +kernel⟩

/-- **(1) ⇒ (3), residue addressing** (`bpl = rpl + 1`): the same with the tracker's verdict `rpl = r`, `bpl = r + 1`; every terminated
    line of the record ends with its newline (a non-residue byte). The tracker's bound on ignored bytes (`≤ bpl − rpl − 1 = 0` on every
    line, last / unterminated lines included) is what makes "residue `i` of a line is its byte `i`" true on the line holding `start`. -/
theorem fetchSubseq_eq_scan_slice_residue_tracked (bytes : Bytes) (abc : Nat) (habc : abc ∈ [0, 1, 2, 3]) (s : Sq) (hs : s ∈ (parseFasta abc bytes).1)
    (recs : List Rec) (hw : ∀ rc ∈ recs, rc.WF) (r : Nat) (hr0 : 0 < r)
    (htr : (scanFile recs).rpl = (r : Int)) (htb : (scanFile recs).bpl = (r : Int) + 1)
    (segs : List (List UInt8)) (rest : List UInt8)
    (hdata : (bytes.toList.drop s.doff.toNat).takeWhile (isData (inmapFasta abc)) = segs.flatten ++ rest)
    (hterm : ∀ l ∈ segs, ∃ body e, l = body ++ [e] ∧ isRes (inmapFasta abc) e = false)
    (hmem : GeomBridge.recOf (isRes (inmapFasta abc)) segs rest ∈ recs)
    (ssi : Ssi) (key : Bytes) (e : SsiEntry) (he : ssi.findName key = some e) (her : e.roff = s.roff) (hed : e.doff = s.doff)
    (hel : e.len = s.L) (hfast : ssi.fast = true) (hbpl : ssi.bpl = ((r + 1 : Nat) : Int)) (hrpl : ssi.rpl = (r : Int)) (start end_ : Int)
    (a : Ascii) (hf : a.file = bytes) (hb : a.linebased = false) (hr : a.recording ≠ 1) (hB : 1 ≤ a.B)
    (hi : a.inmap = inmapFasta abc) (hfmt : a.fmt = 1) (heof : a.eofIsOk = true)
    (sq : Sq) (hdig : sq.digital = (abc != 0)) (hsabc : sq.abc = abc) (hseq : sq.seq = #[]) (hna : 2 ≤ sq.nalloc) (hda : 2 ≤ sq.dalloc)
    (h1 : 1 ≤ start) (h2 : start ≤ end_) (h3 : end_ ≤ s.L) :
    (fetchSubseq a ssi sq key start end_).2.2 = .ok ∧
    (fetchSubseq a ssi sq key start end_).2.1.seq = s.seq.extract (start - 1).toNat end_.toNat ∧
    (fetchSubseq a ssi sq key start end_).2.1.start = start ∧ (fetchSubseq a ssi sq key start end_).2.1.end_ = end_ ∧
    (fetchSubseq a ssi sq key start end_).2.1.L = s.L ∧ (fetchSubseq a ssi sq key start end_).2.1.desc = s.desc ∧
    (fetchSubseq a ssi sq key start end_).2.1.source = key ∧
    (fetchSubseq a ssi sq key start end_).2.1.name = key ++ #[47] ++ decBytes start ++ #[45] ++ decBytes end_ := by
  have hg := bplrpl_sound recs hw r ((r : Int) + 1) (by omega) (by omega) htr htb _ hmem
  obtain ⟨hL, hpre⟩ := scanned_data_prefix bytes abc s hs _ hdata
  obtain ⟨res, tail, k1, k2, k3, k4, k5⟩ :=
    GeomBridge.bridge_residue (isRes (inmapFasta abc)) segs rest r hr0 hg hterm start.toNat (by omega) (by omega)
  obtain ⟨hgeo, hdat⟩ := hpre _ _ k3
  rw [List.append_assoc res] at hgeo
  exact fetchSubseq_eq_scan_slice_residue bytes abc habc s hs ssi key e he her hed hel hfast r hbpl hrpl hr0 start end_ a hf hb hr hB hi
    hfmt heof sq hdig hsabc hseq hna hda h1 h2 h3 _ res _ hgeo k1 hdat k4 k5 k2

/-- non-vacuity of `fetchSubseq_eq_scan_slice_residue_tracked`: the file `>a\nACGT\nACGT\nAC\n` (`FetchSpec.demoA`) -/
example : GeomBridge.recOf (isRes (inmapFasta 0)) [[65, 67, 71, 84, 10], [65, 67, 71, 84, 10], [65, 67, 10]] []
            = ⟨[(5, 4), (5, 4), (3, 2)], none⟩ ∧
          (scanFile [⟨[(5, 4), (5, 4), (3, 2)], none⟩]).rpl = 4 ∧ (scanFile [⟨[(5, 4), (5, 4), (3, 2)], none⟩]).bpl = 4 + 1 ∧
          (FetchSpec.demoA.toList.drop 3).takeWhile (isData (inmapFasta 0))
            = [[65, 67, 71, 84, 10], [65, 67, 71, 84, 10], [65, 67, 10]].flatten ++ [] ∧
          (∀ l ∈ [[65, 67, 71, 84, 10], [65, 67, 71, 84, 10], [(65 : UInt8), 67, 10]],
            ∃ body e, l = body ++ [e] ∧ isRes (inmapFasta 0) e = false) := by
  rw [inmapFasta_text]
  refine ⟨by decide +kernel, by decide, by decide, by decide +kernel, ?_⟩
  intro l hl
  simp only [List.mem_cons, List.not_mem_nil, or_false] at hl
  rcases hl with rfl | rfl | rfl
  · exact ⟨[65, 67, 71, 84], 10, rfl, by decide +kernel⟩
  · exact ⟨[65, 67, 71, 84], 10, rfl, by decide +kernel⟩
  · exact ⟨[65, 67], 10, rfl, by decide +kernel⟩

end fetchsub

/-! ## (5) esl-afetch: fetching a named alignment from a multi-alignment Stockholm file

`Afetch.createIndex` = `create_ssi_index()` of `miniapps/esl-afetch.c` (scan with `esl_msafile_Read`, `msa->offset`, name as primary key,
accession as alias, `esl_newssi_Write`), `Afetch.onefetch` = `esl_msafile_PositionByKey` + `regurgitate_one_stockholm_entry`,
`Afetch.seqFetch` = the specification (text of the first alignment a sequential pass finds under that name or accession);
the database is `dbBytes rs trail`: the bytes of any list `rs` of well-formed records (`SRec.WF`: any skipped lines, header, body lines the
parser continues on, terminator indented by any blanks/TABs, LF or CR LF line ends), followed by any skipped lines. -/
section afetch
open EaselModel.Afetch EaselModel.Msafile

/-- (5a) the indexing scan stores, for every alignment, the offset at which its `esl_msafile_Read` began (just behind the previous
    terminator line), its name and its accession — for every database of well-formed records -/
theorem afetch_scan_offsets (rs : List SRec) (trail : List TLine) (h : ∀ r ∈ rs, r.WF)
    (ht : ∀ l ∈ trail, leadLine l.1 = true ∧ LineWF l) :
    scanDb (dbBytes rs trail) = some ((entries 0 rs).map (·.1)) :=
  scanDb_records rs trail h ht

/-- (5b) `esl-afetch --index` succeeds iff all names and accessions TOGETHER are pairwise distinct — no name twice, no accession
    twice, no accession that is also a name — otherwise `esl_newssi_Write` reports the duplicate and the tool ends
    without an index -/
theorem afetch_index_built_iff (fname : Msafile.Bytes) (rs : List SRec) (trail : List TLine) (h : DbOk fname rs trail) :
    (createIndex fname (dbBytes rs trail)).isSome = true ↔ (rs.map SRec.name ++ rs.filterMap SRec.acc).Nodup :=
  createIndex_isSome_iff fname rs trail h

/-- (5c) FETCH = SCAN.  For every database of well-formed records and the index the tool itself built for it, fetching by name or
    by accession returns exactly the text of the alignment a sequential scan finds under that key (every line once, LF-terminated,
    skipped lines in front of its header included, nothing of the next alignment), and an absent key is `not found`.
    No side condition on the keys: an index exists only when all names and accessions are distinct (`afetch_index_built_iff`:
    `esl_newssi_Write` also rejects an accession that equals a name). -/
theorem afetch_eq_scan (fname : Msafile.Bytes) (rs : List SRec) (trail : List TLine) (h : DbOk fname rs trail) (ssi : Msafile.Bytes)
    (hc : createIndex fname (dbBytes rs trail) = some ssi) (key : Msafile.Bytes) :
    onefetch (dbBytes rs trail) ssi key = match seqFetch rs key with | some t => .ok t | none => .notfound :=
  onefetch_eq_seqFetch fname rs trail h ssi hc key

/-- (5d) absent key ⇒ not found, never other data -/
theorem afetch_absent_notfound (fname : Msafile.Bytes) (rs : List SRec) (trail : List TLine) (h : DbOk fname rs trail) (ssi : Msafile.Bytes)
    (hc : createIndex fname (dbBytes rs trail) = some ssi) (key : Msafile.Bytes)
    (hk : ∀ r ∈ rs, r.name ≠ key ∧ r.acc ≠ some key) :
    onefetch (dbBytes rs trail) ssi key = .notfound := by
  rw [onefetch_eq_seqFetch fname rs trail h ssi hc key]
  have : seqFetch rs key = none := by
    unfold seqFetch
    rw [Option.map_eq_none_iff, List.find?_eq_none]
    intro e he
    obtain ⟨r, hr, hn, ha⟩ := entries_mem rs 0 e he
    have := hk r hr
    simp only [Bool.or_eq_true, beq_iff_eq, not_or]
    exact ⟨by rw [hn]; exact this.1, by rw [ha]; exact this.2⟩
  rw [this]

/-- (5e) the only clause of `SRec.WF` that is about the fetch path (`noStop`) is implied by the others when the tool skips exactly
    what the parser skips (`skipKind = 1`, the tree's; `Generated/AfetchSrc.lean` is re-derived from the source
    on every run) -/
theorem afetch_noStop_of_parser_skip (hk : EaselModel.Generated.AfetchSrc.skipKind = 1) (b : Msafile.Bytes) (h : bodyLineOk b = true) :
    regurgStop b = false :=
  noStop_of_parser_skip hk b h

/-- … and NOT with an `isspace()` skip (`skipKind = 2`): the sequence line `"\f//x ACGU"` is an ordinary line for the
    parser and would end the copy of the fetch -/
theorem regurg_stops_early_witness : EaselModel.Generated.AfetchSrc.skipKind = 2 →
    bodyLineOk [12, 47, 47, 120, 32, 65, 67, 71, 85] = true ∧ regurgStop [12, 47, 47, 120, 32, 65, 67, 71, 85] = true := by
  decide

/-! non-vacuity: a two-alignment database (blank line in front, accession, terminator indented and CR LF-terminated) -/
def exA : SRec :=
  { lead := [([], [10])], hdr := ([35, 32, 83, 84, 79, 67, 75, 72, 79, 76, 77, 32, 49, 46, 48], [10]),
    body := [([35, 61, 71, 70, 32, 73, 68, 32, 111, 110, 101], [10]), ([35, 61, 71, 70, 32, 65, 67, 32, 80, 70, 49], [13, 10]),
             ([115, 49, 32, 65, 67, 71, 85], [10])],
    term := ([32, 32, 47, 47], [13, 10]) }
def exB : SRec :=
  { lead := [], hdr := ([35, 32, 83, 84, 79, 67, 75, 72, 79, 76, 77, 32, 49, 46, 48], [10]),
    body := [([35, 61, 71, 70, 32, 73, 68, 32, 116, 119, 111], [10]), ([115, 49, 32, 65, 67, 71, 85], [10])],
    term := ([47, 47], [10]) }

instance (l : TLine) : Decidable (LineWF l) := by unfold LineWF; infer_instance
instance (k : Msafile.Bytes) : Decidable (KeyOk k) := by unfold KeyOk EaselModel.Ssi.KeyChars; infer_instance

theorem exA_wf : exA.WF := by constructor <;> decide
theorem exB_wf : exB.WF := by constructor <;> decide

example : DbOk [100, 98] [exA, exB] [([35, 32, 99], [10])] := by
  refine ⟨?_, by decide, by decide, ?_, by decide, by decide⟩
  · intro r hr; simp only [List.mem_cons, List.not_mem_nil, or_false] at hr; rcases hr with rfl | rfl; exact exA_wf; exact exB_wf
  · intro r hr
    simp only [List.mem_cons, List.not_mem_nil, or_false] at hr
    rcases hr with rfl | rfl
    · refine ⟨by decide, ?_⟩
      intro a ha
      have e : exA.acc = some [80, 70, 49] := by decide
      rw [e] at ha; cases ha; decide
    · refine ⟨by decide, ?_⟩
      intro a ha
      have e : exB.acc = none := by decide
      rw [e] at ha; cases ha

example : exA.name = [111, 110, 101] ∧ exA.acc = some [80, 70, 49] ∧ exB.name = [116, 119, 111] ∧ exB.acc = none := by decide
example : ([exA, exB].map SRec.name ++ [exA, exB].filterMap SRec.acc).Nodup := by decide
/-- the scan finds `exA` under its accession, with the blank line in front and the indented terminator, LF-normalised -/
example : seqFetch [exA, exB] [80, 70, 49] = some (linesText exA.lines) ∧ seqFetch [exA, exB] [80, 70] = none := by decide
/-- the entries the indexing scan records for that database: offsets 0 and 56, names, the one accession -/
example : (entries 0 [exA, exB]).map (·.1) = [⟨0, [111, 110, 101], some [80, 70, 49]⟩, ⟨56, [116, 119, 111], none⟩] := by decide

end afetch

end EaselModel.Props.C07
