import EaselModel.Getopts.Total
import EaselModel.Getopts.Abbrev
import EaselModel.Getopts.Ranges
import EaselModel.Getopts.RealOrder
import EaselModel.Getopts.Tokens
import EaselModel.Getopts.WfCheck
import EaselModel.Getopts.AllocHist
import EaselModel.Getopts.IllFormed
import EaselModel.Getopts.HelpLemmas
import EaselModel.Getopts.RoundLemmas
import EaselModel.Getopts.EmptyArg
import EaselModel.Getopts.RealRoundLemmas
import EaselModel.Getopts.DumpText
/-! # C14 — option processing resolves every configuration by the documented rules

Property theorems about the executable model `EaselModel.Getopts` of `esl_getopts.c` (tied to the working tree by
the differential run of `harness/h_getopts.c`), for every well-formed option table (`WF`) and every sequence of
sources.  Proofs here are glue on the named lemmas of `EaselModel/Getopts/`.  The sections follow the clauses
(a)–(f) of the statement in properties.jsonl; after them come the allocation layer of `set_option`, tables that are
not well formed, the texts produced from a table or a configuration (`DisplayHelp`, `SpoofCmdline`, `Dump`), `strtod`
rounding and the real ranges on the rounded values.  The clause "plus/minus-prefixed booleans" has no counterpart in
this version of the code; `plus_word_is_argument` states what the code does.

Not proved here (checked by the differential run only): that the decimal `strtod`/`strtol` models agree with glibc;
the full `strtod` syntax: acceptance is characterised for the whole modelled grammar, exponent included (`real_argument_syntax_iff`); the VALUE is proved for plain decimal literals (no exponent) and for integer syntax; the value of exponent forms is covered by examples and the differential run. -/
namespace EaselModel.Props.C14
open EaselModel.Getopts

/-! ## (a) sources are sequences of settings; the last one wins -/

theorem sources_are_setting_sequences_env (g : G) (env : Str → Option Str) :
    processEnvironment g env = runEvs g (envEvents env 0 g.opts) := processEnvironment_eq g env

theorem sources_are_setting_sequences_cfg (g : G) (content : Str) :
    processConfigfile g content = runCfg (byCfgfile + g.nfiles) g ((fileLines content).filterMap (cfgItem g.opts)) :=
  processConfigfile_eq g content

theorem sources_are_setting_sequences_cmdline (g : G) (argv : List Str) :
    processCmdline g argv = runCmd (fun g' => .done g' .ok false) { g with argv := argv, optind := 1 }
      (parseCmd g.opts 1 (argv.drop 1) false) := processCmdline_eq g argv

/-- a spoofed command line of plain words separated by single blanks is processed exactly like that argv -/
theorem spoof_is_cmdline_of_its_words (g : G) (ws : List Str) (hs : g.spoofed = false) (hw : ∀ w ∈ ws, SpoofWord w) :
    processSpoof g (joinSp ws) = processCmdline { g with spoofed := true } ws := processSpoof_words g ws hs hw

/-- config-file lines: `name arg` sets option `name` to `arg`; `name` alone switches a boolean on, is a usage error
    for an option that takes an argument, and is a usage error when `name` is not (exactly) an option of the table -/
theorem cfg_line_name_arg {opts : List Opt} {name arg : Str} {i : Nat} (hn : Plain wsDelim name) (ha : Plain wsDelim arg)
    (hq : arg.head? ≠ some '"') (hdash : name.head? = some '-') (hi : optidxExactly opts name = some i)
    (ht : (opts.getD i default).type ≠ 0) :
    cfgItem opts (name ++ ' ' :: (arg ++ ['\n'])) = some (.set i (some arg)) := cfgItem_name_arg hn ha hq hdash hi

theorem cfg_line_flag {opts : List Opt} {name : Str} {i : Nat} (hn : Plain wsDelim name) (hdash : name.head? = some '-')
    (hi : optidxExactly opts name = some i) (ht : (opts.getD i default).type = 0) :
    cfgItem opts (name ++ ['\n']) = some (.set i none) := cfgItem_flag hn hdash hi ht

theorem cfg_line_missing_argument {opts : List Opt} {name : Str} {i : Nat} (hn : Plain wsDelim name) (hdash : name.head? = some '-')
    (hi : optidxExactly opts name = some i) (ht : (opts.getD i default).type ≠ 0) :
    cfgItem opts (name ++ ['\n']) = some .usage := cfgItem_missing_arg hn hdash hi ht

theorem cfg_line_unknown_option {opts : List Opt} {name : Str} (hn : Plain wsDelim name) (hdash : name.head? = some '-')
    (hi : optidxExactly opts name = none) : cfgItem opts (name ++ ['\n']) = some .usage := cfgItem_unknown hn hdash hi

/-- a config file written as one correctly spelled setting per line (exact option name; an argument iff the option
    takes one) is parsed into exactly those settings, in order — with `sources_are_setting_sequences_cfg` and
    `cfgfile_success_is_history`: processing it is the history of those settings -/
theorem cfgfile_is_its_settings (opts : List Opt) (es : List CfgEntry) (h : ∀ e ∈ es, e.Good opts) :
    (fileLines (es.flatMap (fun e => e.line ++ ['\n']))).filterMap (cfgItem opts) = es.map (fun e => CfgItem.set e.i e.arg) :=
  cfgfile_items opts es h

/-- the documented command-line forms: `--name=value`, `--name value`, `--flag`, `-Wvalue`, `-W value`, and
    concatenated booleans `-abc` = `-a -b -c` (each is the `set_option` call one expects) -/
theorem long_option_eq_form {opts : List Opt} {name v : Str} {i : Nat} (k : Nat) (next : Option Str) (hne : '=' ∉ name)
    (hi : optidxAbbrev opts name = .found i) (ht : (opts.getD i default).type ≠ 0) :
    parseLong opts k (name ++ '=' :: v) next = ([.set i (some v) (k + 1)], some false) := parseLong_eq_form k next hne hi ht

theorem long_option_sep_form {opts : List Opt} {name v : Str} {i : Nat} (k : Nat) (hne : '=' ∉ name)
    (hi : optidxAbbrev opts name = .found i) (ht : (opts.getD i default).type ≠ 0)
    (hv : (isStringy (opts.getD i default).type && startsWithDash v) = false) :
    parseLong opts k name (some v) = ([.set i (some v) (k + 2)], some true) := parseLong_sep_form k hne hi ht hv

theorem long_flag_form {opts : List Opt} {name : Str} {i : Nat} (k : Nat) (next : Option Str) (hne : '=' ∉ name)
    (hi : optidxAbbrev opts name = .found i) (ht : (opts.getD i default).type = 0) :
    parseLong opts k name next = ([.set i none (k + 1)], some false) := parseLong_flag k next hne hi ht

theorem short_option_attached_form {opts : List Opt} {c : Char} {v : Str} {i : Nat} (k : Nat) (next : Option Str)
    (hf : findShort opts c = some i) (ht : (opts.getD i default).type ≠ 0) (hv : v ≠ []) :
    parseStd opts k (c :: v) next = ([.set i (some v) (k + 1)], some false) := parseStd_attached k next hf ht hv

theorem short_option_sep_form {opts : List Opt} {c : Char} {v : Str} {i : Nat} (k : Nat)
    (hf : findShort opts c = some i) (ht : (opts.getD i default).type ≠ 0)
    (hv : (isStringy (opts.getD i default).type && startsWithDash v) = false) :
    parseStd opts k [c] (some v) = ([.set i (some v) (k + 2)], some true) := parseStd_sep k hf ht hv

theorem concatenated_short_flags {opts : List Opt} {c : Char} {cs : Str} {i : Nat} (k : Nat) (next : Option Str)
    (hf : findShort opts c = some i) (ht : (opts.getD i default).type = 0) (hcs : cs ≠ []) :
    parseStd opts k (c :: cs) next = (.set i none (k + 1) :: (parseStd opts k cs next).1, (parseStd opts k cs next).2) :=
  parseStd_cluster_flag k next hf ht hcs

/-- a run of settings that succeeds is a history in the sense of `runSets` -/
theorem successful_run_is_history (es : List Ev) (g g' : G) (m : Bool) (h : runEvs g es = .done g' .ok m) :
    runSets g es = some g' := runEvs_ok_runSets es g g' m h

/-- a config file processed successfully is the history of its settings (file counter advanced afterwards) -/
theorem successful_cfgfile_is_history (src : Nat) (is : List CfgItem) (g g' : G) (m : Bool) (h : runCfg src g is = .done g' .ok m) :
    ∃ g0, runSets g (cfgEvs src is) = some g0 ∧ g' = { g0 with nfiles := g0.nfiles + 1 } := runCfg_ok_runSets src is g g' m h

/-- a command line processed successfully is the history of its settings (`optind` recorded afterwards) -/
theorem successful_cmdline_is_history (is : List CmdItem) (g g' : G) (m : Bool)
    (h : runCmd (fun g' => .done g' .ok false) g is = .done g' .ok m) :
    ∃ g0, runSets g (cmdEvs is) = some g0 ∧ g'.val = g0.val ∧ g'.setby = g0.setby ∧ g'.opts = g0.opts :=
  runCmd_ok_runSets is g g' m h

/-- composed: a command line / config file / environment that is processed successfully is a `set_option` history over
    the settings parsed from it, so `last_setter_wins`, `untouched_keeps_state`, `toggle_switches_others_off` apply to
    it; since they hold for an arbitrary initial object, they apply to every source of a sequence in turn -/
theorem cmdline_success_is_history (g g' : G) (argv : List Str) (m : Bool) (h : processCmdline g argv = .done g' .ok m) :
    ∃ g0, runSets { g with argv := argv, optind := 1 } (cmdEvs (parseCmd g.opts 1 (argv.drop 1) false)) = some g0 ∧
      g'.val = g0.val ∧ g'.setby = g0.setby ∧ g'.opts = g0.opts := by
  rw [processCmdline_eq] at h
  exact runCmd_ok_runSets _ _ g' m h

theorem cfgfile_success_is_history (g g' : G) (content : Str) (m : Bool) (h : processConfigfile g content = .done g' .ok m) :
    ∃ g0, runSets g (cfgEvs (byCfgfile + g.nfiles) ((fileLines content).filterMap (cfgItem g.opts))) = some g0 ∧
      g' = { g0 with nfiles := g0.nfiles + 1 } := by
  rw [processConfigfile_eq] at h
  exact runCfg_ok_runSets _ _ g g' m h

theorem environment_success_is_history (g g' : G) (env : Str → Option Str) (m : Bool) (h : processEnvironment g env = .done g' .ok m) :
    runSets g (envEvents env 0 g.opts) = some g' := by
  rw [processEnvironment_eq] at h
  exact runEvs_ok_runSets _ g g' m h

/-- the settings parsed from any source refer to options of the table: the index hypothesis of the history theorems
    below is discharged for real sources -/
theorem parsed_settings_are_in_table (opts : List Opt) :
    (∀ (ws : List Str) (k : Nat), ∀ e ∈ cmdEvs (parseCmd opts k ws false), e.i < opts.length) ∧
    (∀ (src : Nat) (lines : List Str), ∀ e ∈ cfgEvs src (lines.filterMap (cfgItem opts)), e.i < opts.length) ∧
    (∀ (env : Str → Option Str), ∀ e ∈ envEvents env 0 opts, e.i < opts.length) :=
  ⟨fun ws k => cmdline_events_in_table opts ws k, fun src lines => cfgfile_events_in_table opts src lines,
   fun env => env_events_in_table env opts⟩

/-- (a) for a real command line, with no side hypotheses left: if it is processed successfully and `e` is the last of its
    settings that touches option `e.i`, then afterwards that option holds `e`'s value and names the command line as setter -/
theorem cmdline_last_setter_wins (g g' : G) (argv : List Str) (m : Bool) (hinv : Inv g)
    (h : processCmdline g argv = .done g' .ok m) (pre post : List Ev) (e : Ev)
    (hsplit : cmdEvs (parseCmd g.opts 1 (argv.drop 1) false) = pre ++ e :: post)
    (hlast : ∀ e' ∈ post, touches g.opts e' e.i = false) :
    g'.valOf e.i = newVal (g.opt e.i) e.arg ∧ g'.setter e.i = e.src := by
  obtain ⟨g0, h1, hv, hs, _⟩ := cmdline_success_is_history g g' argv m h
  have hin := cmdline_events_in_table g.opts (argv.drop 1) 1
  rw [hsplit] at h1 hin
  have := runSets_last_set pre post e { g with argv := argv, optind := 1 } g0 ⟨hinv.hv, hinv.hs⟩ hin h1 hlast
  unfold G.valOf G.setter
  rw [hv, hs]
  exact this

/-- … and an option that none of its settings touches keeps the value and setter it had before the command line -/
theorem cmdline_untouched_keeps_state (g g' : G) (argv : List Str) (m : Bool) (hinv : Inv g)
    (h : processCmdline g argv = .done g' .ok m) (j : Nat)
    (ht : ∀ e ∈ cmdEvs (parseCmd g.opts 1 (argv.drop 1) false), touches g.opts e j = false) :
    g'.valOf j = g.valOf j ∧ g'.setter j = g.setter j := by
  obtain ⟨g0, h1, hv, hs, _⟩ := cmdline_success_is_history g g' argv m h
  have hin := cmdline_events_in_table g.opts (argv.drop 1) 1
  obtain ⟨a, b, _, _⟩ := runSets_untouched _ { g with argv := argv, optind := 1 } g0 j ⟨hinv.hv, hinv.hs⟩ hin h1 ht
  unfold G.valOf G.setter
  rw [hv, hs]
  exact ⟨a, b⟩

theorem last_setter_wins (pre post : List Ev) (e : Ev) (g g' : G) (hinv : Inv g)
    (hi : ∀ e' ∈ pre ++ e :: post, e'.i < g.opts.length)
    (h : runSets g (pre ++ e :: post) = some g') (hlast : ∀ e' ∈ post, touches g.opts e' e.i = false) :
    g'.valOf e.i = newVal (g.opt e.i) e.arg ∧ g'.setter e.i = e.src :=
  runSets_last_set pre post e g g' hinv hi h hlast

theorem untouched_keeps_state (es : List Ev) (g g' : G) (j : Nat) (hinv : Inv g) (hi : ∀ e ∈ es, e.i < g.opts.length)
    (h : runSets g es = some g') (ht : ∀ e ∈ es, touches g.opts e j = false) :
    g'.valOf j = g.valOf j ∧ g'.setter j = g.setter j :=
  let ⟨a, b, _, _⟩ := runSets_untouched es g g' j hinv hi h ht; ⟨a, b⟩

theorem fresh_object_all_default {opts : List Opt} {g : G} (h : create opts = some g) :
    g.opts = opts ∧ Inv g ∧ g.spoofed = false ∧ g.nfiles = 0 ∧
    ∀ i, i < opts.length → g.setter i = byDefault ∧ isDefault g i = true ∧
      g.valOf i = (match (g.opt i).defval with | some d => Val.str d | none => Val.null) := create_spec h

/-- `esl_getopts_Reuse` = back to the freshly created object: histories start over -/
theorem reuse_restores_defaults {opts : List Opt} {g0 g : G} (h : create opts = some g0) (hg : g.opts = opts) : reuse g = g0 :=
  reuse_eq_create h hg

theorem same_source_twice_is_usage_error {g g1 : G} {i src : Nat} {arg arg' : Option Str} {m : Bool} (hinv : Inv g)
    (hi : i < g.opts.length) (h : setOption g i arg src = .done g1 .ok m) :
    setOption g1 i arg' src = .done g1 .esyntax true := same_source_twice hinv hi h

theorem set_after_toggle_by_same_source_is_usage_error {g g1 : G} {i j src : Nat} {arg arg' : Option Str} {m : Bool}
    (hinv : Inv g) (hi : i < g.opts.length) (h : setOption g i arg src = .done g1 .ok m) (hj : j ≠ i)
    (hmem : j ∈ listIdx g.opts (g.opt i).toggle) (hon : (g.valOf j).isNull = false) :
    setOption g1 j arg' src = .done g1 .esyntax true := set_after_toggle_same_source hinv hi h hj hmem hon

/-! ## (b) toggle groups -/

/-- a successful `set_option(i, arg, src)`: option `i` gets the value and `src`; every *other* member of `i`'s toggle
    list that was on is switched off and records `src`; every other option is untouched; no message -/
theorem set_option_spec {g g' : G} {i src : Nat} {arg : Option Str} {m : Bool} (hinv : Inv g) (hi : i < g.opts.length)
    (h : setOption g i arg src = .done g' .ok m) :
    m = false ∧ Inv g' ∧ SameFrame g g' ∧ g.setter i ≠ src ∧ verifyTypeRange (g.opt i) arg src = .good ∧
    ∀ j, (g'.valOf j, g'.setter j) = setSpec g i arg src j :=
  let ⟨a, b⟩ := setOption_ok hinv hi h; ⟨a, b.inv, b.frame, b.fresh, b.good, b.spec⟩

/-- an element of a toggle / required / incompatible list denotes the option of exactly that name (no earlier row
    may have a name that merely starts with it), and a comma-separated list is read back name by name: under these
    two conditions `listIdx` — used in (b) and in `verifyConfig_ok_iff_consistent` — is the list of the named options -/
theorem optlist_element_denotes_named_option {opts : List Opt} {i : Nat} {o : Opt} (hi : opts[i]? = some o)
    (hfirst : ∀ (j : Nat) (o' : Opt), j < i → opts[j]? = some o' → o.name.isPrefixOf o'.name = false) :
    optlistResolve opts o.name = some i := optlistResolve_named hi hfirst

theorem optlist_reads_back_names (names : List Str) (h : ∀ n ∈ names, ',' ∉ n ∧ n ≠ []) :
    optlistElems (some (joinComma names)) = names := optlistElems_joinComma names h

theorem toggle_switches_others_off (pre post : List Ev) (e : Ev) (j : Nat) (g g' : G) (hinv : Inv g)
    (hi : ∀ e' ∈ pre ++ e :: post, e'.i < g.opts.length)
    (h : runSets g (pre ++ e :: post) = some g') (hj : j ≠ e.i) (hmem : j ∈ listIdx g.opts (g.opt e.i).toggle)
    (hlast : ∀ e' ∈ post, touches g.opts e' j = false) :
    isOn g' j = false ∧
    ∃ g1, runSets g pre = some g1 ∧ (if isOn g1 j then g'.setter j = e.src else g'.setter j = g1.setter j) :=
  runSets_toggled pre post e j g g' hinv hi h hj hmem hlast

/-! ## (c) abbreviated long options -/

theorem abbrev_full_name_resolves {opts : List Opt} {key : Str} {e : Nat} {o : Opt} (he : opts[e]? = some o)
    (hname : o.name = key) (hfirst : ∀ j o', j < e → opts[j]? = some o' → o'.name ≠ key) :
    optidxAbbrev opts key = .found e := abbrev_exact he hname hfirst

theorem abbrev_resolves_iff_unique {opts : List Opt} {key : Str} (hne : ∀ o' ∈ opts, o'.name ≠ key) (u : Nat) :
    optidxAbbrev opts key = .found u ↔
    ∃ o, opts[u]? = some o ∧ isAbbr key o = true ∧ ∀ (j : Nat) (o' : Opt), opts[j]? = some o' → isAbbr key o' = true → j = u :=
  abbrev_resolves_iff hne u

theorem abbrev_ambiguous_iff_two {opts : List Opt} {key : Str} (hne : ∀ o' ∈ opts, o'.name ≠ key) :
    optidxAbbrev opts key = .ambiguous ↔
    ∃ (i j : Nat) (a b : Opt), i < j ∧ opts[i]? = some a ∧ opts[j]? = some b ∧ isAbbr key a = true ∧ isAbbr key b = true :=
  abbrev_ambiguous_iff hne

theorem abbrev_unknown_iff {opts : List Opt} {key : Str} :
    optidxAbbrev opts key = .notfound ↔ ∀ o ∈ opts, isAbbr key o = false := abbrev_notfound_iff

/-! ## (d) end of options, arguments -/

theorem dashdash_ends_options (g : G) (k : Nat) (rest : List Str) :
    cmdLoop g k (['-', '-'] :: rest) false = .done { g with optind := k + 1 } .ok false := cmdLoop_dashdash g k rest

theorem first_nonoption_ends_options (g : G) (k : Nat) (w : Str) (rest : List Str) (h : isArgWord w = true) :
    cmdLoop g k (w :: rest) false = .done { g with optind := k } .ok false := cmdLoop_argword g k w rest h

/-- the clause "plus/minus-prefixed booleans set and unset" of the statement has no counterpart in this version of the
    code: a word beginning with `+` ends the options like any other non-option word -/
theorem plus_word_is_argument (g : G) (k : Nat) (r : Str) (rest : List Str) :
    cmdLoop g k (('+' :: r) :: rest) false = .done { g with optind := k } .ok false :=
  cmdLoop_argword g k _ rest (plus_is_argword r)

/-- a successfully processed command line stops at the end of argv, at the first non-option word (no leading `-`,
    or `-` alone), or immediately after a `--`; `optind` is that position and `argv` is kept -/
theorem options_end_where_documented (g g' : G) (argv : List Str) (m : Bool) (h : processCmdline g argv = .done g' .ok m) :
    g'.argv = argv ∧ StopsAt 1 (argv.drop 1) g'.optind := processCmdline_stops g g' argv m h

theorem args_returned_in_order (g : G) (pre rest : List Str) (hargv : g.argv = pre ++ rest) (hk : g.optind = pre.length) (n : Nat) :
    getArg g ((n : Int) + 1) = rest[n]? ∧ argNumber g = rest.length := getArg_of_split g pre rest hargv hk n

/-- (d) **remaining arguments are returned in order**: after a successful `esl_opt_ProcessCmdline`, `GetArg(1), GetArg(2), …`
    are exactly the words of `argv` from the position where the options ended (see `options_end_where_documented`),
    and `ArgNumber` is their count -/
theorem remaining_args_in_order (g g' : G) (argv : List Str) (m : Bool) (h : processCmdline g argv = .done g' .ok m) (n : Nat) :
    getArg g' ((n : Int) + 1) = (argv.drop g'.optind)[n]? := by
  rw [getArg_drop, (processCmdline_stops g g' argv m h).1]

theorem getArg_is_argv_from_optind (g : G) (n : Nat) :
    getArg g ((n : Int) + 1) = if g.optind + n < g.argc then g.argv[g.optind + n]? else none := getArg_spec g n

/-! ## (e) usage errors, never a crash -/

theorem cmdline_ends_cleanly (g : G) (argv : List Str) (hinv : Inv g) (hw : WF g.opts) : Good g (processCmdline g argv) :=
  processCmdline_good g argv hinv hw

theorem spoof_ends_cleanly (g : G) (s : Str) (hinv : Inv g) (hw : WF g.opts) (hs : g.spoofed = false) : Good g (processSpoof g s) :=
  processSpoof_good g s hinv hw hs

theorem environment_ends_cleanly (g : G) (env : Str → Option Str) (hinv : Inv g) (hw : WF g.opts) : Good g (processEnvironment g env) :=
  processEnvironment_good g env hinv hw

theorem configfile_ends_cleanly (g : G) (content : Str) (hinv : Inv g) (hw : WF g.opts) : Good g (processConfigfile g content) :=
  processConfigfile_good g content hinv hw

/-- **every history of API calls ends cleanly** (statement's "never accepted silently and never a crash", over all
    sequences of sources in any order) -/
theorem every_history_ends_cleanly (ss : List Src) (g : G) (hinv : Inv g) (hw : WF g.opts) :
    ∃ outs g', runAll g ss = some (outs, g') ∧ outs.length = ss.length ∧ Inv g' ∧ g'.opts = g.opts ∧
      ∀ o ∈ outs, Clean o.1 o.2 ∨ o = (.einval, true) := runAll_clean ss g hinv hw

/-- exactly when a setting succeeds: not yet set by this source, right type, in range, and no toggle partner that is
    on was set or toggled by the same source; in every other case: usage error with a message -/
theorem setting_succeeds_iff {g : G} {i src : Nat} {arg : Option Str} (hinv : Inv g)
    (hw : WFOpt g.opts (g.opt i)) (harg : arg.isSome ∨ (g.opt i).type ≠ 3) :
    ((∃ g', setOption g i arg src = .done g' .ok false) ↔
      (g.setter i ≠ src ∧ verifyTypeRange (g.opt i) arg src = .good ∧ ¬ Conflict g i src (listIdx g.opts (g.opt i).toggle))) ∧
    ((∃ g', setOption g i arg src = .done g' .esyntax true) ↔
      ¬ (g.setter i ≠ src ∧ verifyTypeRange (g.opt i) arg src = .good ∧ ¬ Conflict g i src (listIdx g.opts (g.opt i).toggle))) :=
  setOption_ok_iff hw harg

/-- "a value of the wrong type", integers: accepted iff blanks, optional sign, at least one digit, blanks -/
theorem integer_argument_syntax (s : Str) : isInteger s = true ↔ IntSyntax s := isInteger_iff s

/-- "a value of the wrong type", reals: whatever is accepted as a real (in the modelled decimal grammar) consists of
    blanks, optional sign, digits with an optional point (at least one digit), optional exponent, blanks -/
theorem real_argument_syntax (s : Str) (h : isReal s = true) : RealSyntax s := isReal_sound s h

/-- … and conversely everything of that shape is accepted: an exact characterisation -/
theorem real_argument_syntax_iff (s : Str) : isReal s = true ↔ RealSyntax s := isReal_iff s

/-- "a value of the wrong type", characters: accepted iff at most one character (then the range is consulted) -/
theorem char_argument_syntax (o : Opt) (v : Str) (src : Nat) (ht : o.type = 3) :
    verifyTypeRange o (some v) src = .good ↔ (v.length ≤ 1 ∧ charRangeOk v o.range = true) := by
  unfold verifyTypeRange
  have h0 : (src == byDefault && (some v).isNone) = false := by simp
  simp only [h0, Bool.false_eq_true, ↓reduceIte, ht]
  by_cases hl : v.length > 1
  · simp [hl]
  · cases hr : charRangeOk v o.range <;> simp [hl, hr] <;> omega

/-- the hypothesis `WF` of the theorems is computable (`wfB`), and so is the stricter class of tables following the
    documented conventions (`wfStrictB`: distinct `-c`/`--word` names, list elements resolving to exactly the named
    options, toggle lists naming only boolean/string options, valid defaults); the driver evaluates `wfStrictB` on every
    table of the correspondence run, so the generator provably stays inside the hypothesis -/
theorem wf_is_computable (opts : List Opt) : wfB opts = true ↔ WF opts := wfB_iff opts

theorem strict_tables_are_wf {opts : List Opt} (h : wfStrictB opts = true) : WF opts := wfStrictB_wf h

/-- from `esl_getopts_Create` on: for a table passing the computable check, every sequence of sources ends cleanly -/
theorem created_object_every_history_clean {opts : List Opt} {g : G} (hc : create opts = some g) (hw : wfB opts = true) (ss : List Src) :
    ∃ outs g', runAll g ss = some (outs, g') ∧ outs.length = ss.length ∧ Inv g' ∧ g'.opts = opts ∧
      ∀ o ∈ outs, Clean o.1 o.2 ∨ o = (.einval, true) := by
  obtain ⟨ho, hinv, _⟩ := create_spec hc
  obtain ⟨outs, g', h1, h2, h3, h4, h5⟩ := runAll_clean ss g hinv (by rw [ho]; exact (wfB_iff opts).mp hw)
  exact ⟨outs, g', h1, h2, h3, h4.trans ho, h5⟩

/-- already set by this source, wrong type, out of range: usage error with a message, object untouched -/
theorem rejected_setting_changes_nothing {g : G} {i src : Nat} {arg : Option Str}
    (h : g.setter i = src ∨ verifyTypeRange (g.opt i) arg src = .bad) : setOption g i arg src = .done g .esyntax true :=
  setOption_rejected h

theorem unknown_long_option (g : G) (k : Nat) (r : Str) (tl : List Str) (hr : r ≠ [])
    (h : optidxAbbrev g.opts (splitEq ('-' :: '-' :: r)).1 = .notfound) :
    cmdLoop g k (('-' :: '-' :: r) :: tl) false = .done { g with optind := k } .esyntax true := by
  rw [cmdLoop_long g k r tl hr]
  simp [longOpt, h, afterStep]

theorem ambiguous_long_option (g : G) (k : Nat) (r : Str) (tl : List Str) (hr : r ≠ [])
    (h : optidxAbbrev g.opts (splitEq ('-' :: '-' :: r)).1 = .ambiguous) :
    cmdLoop g k (('-' :: '-' :: r) :: tl) false = .done { g with optind := k } .esyntax true := by
  rw [cmdLoop_long g k r tl hr]
  simp [longOpt, h, afterStep]

/-- `--flag=value` for an option that takes no argument -/
theorem argument_to_flag (g : G) (k i : Nat) (r a : Str) (tl : List Str) (hr : r ≠ [])
    (h : optidxAbbrev g.opts (splitEq ('-' :: '-' :: r)).1 = .found i) (ha : (splitEq ('-' :: '-' :: r)).2 = some a)
    (ht : (g.opt i).type = 0) :
    cmdLoop g k (('-' :: '-' :: r) :: tl) false = .done { g with optind := k + 1 } .esyntax true := by
  rw [cmdLoop_long g k r tl hr]
  simp [longOpt, h, ha, ht, afterStep]

/-- a long option that takes an argument, at the end of the command line, without `=value` -/
theorem missing_argument_long (g : G) (k i : Nat) (r : Str) (hr : r ≠ [])
    (h : optidxAbbrev g.opts (splitEq ('-' :: '-' :: r)).1 = .found i) (ha : (splitEq ('-' :: '-' :: r)).2 = none)
    (ht : (g.opt i).type ≠ 0) :
    cmdLoop g k [('-' :: '-' :: r)] false = .done { g with optind := k + 1 } .esyntax true := by
  rw [cmdLoop_long g k r [] hr]
  simp [longOpt, h, ha, ht, afterStep]

/-- an option character that is no single-character option — in particular a `-` inside a cluster (fix: DESIGN §7
    item 2) — is a usage error; options set earlier in the same cluster stay set (documented: processing is in order) -/
theorem unknown_short_option (g : G) (c : Char) (cs : Str) (next : Option Str) (h : findShort g.opts c = none) :
    stdLoop g (c :: cs) next = .stop g .esyntax true 1 := by
  simp [stdLoop, h]

/-- "outside its declared range", two-sided integer range `lo<[=]n<[=]hi` (`lo` an integer literal): accepted iff
    between the bounds, inclusive or exclusive as the `=` signs say -/
theorem int_range_two_sided (v lo hi : Str) (geq leq : Bool) (hlo : IntLit lo) (hhi : leq = false → hi.head? ≠ some '=') :
    intRangeOk v (some (twoSided 'n' lo geq leq hi)) =
      ((if geq then decide (atoi v ≥ atoi lo) else decide (atoi v > atoi lo)) &&
       (if leq then decide (atoi v ≤ atoi hi) else decide (atoi v < atoi hi))) := intRangeOk_twoSided v lo hi geq leq hlo hhi

theorem int_range_lower (v a : Str) (incl : Bool) (h : incl = false → a.head? ≠ some '=') :
    intRangeOk v (some ('n' :: '>' :: ((if incl then ['='] else []) ++ a))) =
      (if incl then decide (atoi v ≥ atoi a) else decide (atoi v > atoi a)) := intRangeOk_lower v a incl h

theorem int_range_upper (v b : Str) (incl : Bool) (h : incl = false → b.head? ≠ some '=') :
    intRangeOk v (some ('n' :: '<' :: ((if incl then ['='] else []) ++ b))) =
      (if incl then decide (atoi v ≤ atoi b) else decide (atoi v < atoi b)) := intRangeOk_upper v b incl h

/-- the documented two-sided range form is parsed as intended for every marker (`n`, `x`, `c`) -/
theorem range_string_two_sided (c : Char) (lo hi : Str) (geq leq : Bool) (hc : c ∉ lo) (hc1 : c ≠ '<') (hc2 : c ≠ '=')
    (hhi : leq = false → hi.head? ≠ some '=') :
    parseRange (twoSided c lo geq leq hi) c =
      some { lower := some (twoSided c lo geq leq hi), geq := geq, upper := some hi, leq := leq } :=
  parseRange_twoSided c lo hi geq leq hc hc1 hc2 hhi

/-- real-valued ranges: the comparison is the order of the rationals that the decimal spellings denote
    (`Dec.value`); the lower bound of a two-sided range is what `atof` reads at the start of the range string -/
theorem real_range_two_sided (v lo hi : Str) (geq leq : Bool) (hc : 'x' ∉ lo) (hhi : leq = false → hi.head? ≠ some '=') :
    realRangeOk v (some (twoSided 'x' lo geq leq hi)) = true ↔
      ((if geq then (atof (twoSided 'x' lo geq leq hi)).value ≤ (atof v).value
                else (atof (twoSided 'x' lo geq leq hi)).value < (atof v).value) ∧
       (if leq then (atof v).value ≤ (atof hi).value else (atof v).value < (atof hi).value)) :=
  realRangeOk_twoSided_iff v lo hi geq leq hc hhi

/-- … and when the lower bound is written as a plain decimal literal (as in all documented examples) it is that
    literal's value -/
theorem real_range_two_sided_literal (v lo hi : Str) (geq leq : Bool) {neg : Bool} {ip fp : Str} {dot : Bool}
    (hlo : RealLit lo neg ip fp dot) (hhi : leq = false → hi.head? ≠ some '=') :
    realRangeOk v (some (twoSided 'x' lo geq leq hi)) = true ↔
      ((if geq then (atof lo).value ≤ (atof v).value else (atof lo).value < (atof v).value) ∧
       (if leq then (atof v).value ≤ (atof hi).value else (atof v).value < (atof hi).value)) :=
  realRangeOk_twoSided_lit v lo hi geq leq hlo hhi

/-- a plain decimal literal (optional `-`, digits, optional `.` digits) is accepted as a real argument and denotes the
    expected rational -/
theorem plain_decimal_is_real {s : Str} {neg : Bool} {ip fp : Str} {dot : Bool} (h : RealLit s neg ip fp dot) :
    isReal s = true ∧
    (atof s).value = (if neg then -1 else 1) * (digitsVal (ip ++ fp) : ℚ) * (10 : ℚ) ^ (-(fp.length : Int)) :=
  ⟨isReal_lit h, value_of_lit h⟩

theorem real_range_lower (v a : Str) (incl : Bool) (h : incl = false → a.head? ≠ some '=') :
    realRangeOk v (some ('x' :: '>' :: ((if incl then ['='] else []) ++ a))) = true ↔
      (if incl then (atof a).value ≤ (atof v).value else (atof a).value < (atof v).value) := realRangeOk_lower_iff v a incl h

theorem real_range_upper (v b : Str) (incl : Bool) (h : incl = false → b.head? ≠ some '=') :
    realRangeOk v (some ('x' :: '<' :: ((if incl then ['='] else []) ++ b))) = true ↔
      (if incl then (atof v).value ≤ (atof b).value else (atof v).value < (atof b).value) := realRangeOk_upper_iff v b incl h

theorem char_range_two_sided (v lo hi : Str) (geq leq : Bool) (hc : 'c' ∉ lo) (hne : lo ≠ []) (hhi : leq = false → hi.head? ≠ some '=') :
    charRangeOk v (some (twoSided 'c' lo geq leq hi)) =
      ((if geq then decide ((v.getD 0 '\x00').toNat ≥ (lo.getD 0 '\x00').toNat) else decide ((v.getD 0 '\x00').toNat > (lo.getD 0 '\x00').toNat)) &&
       (if leq then decide ((v.getD 0 '\x00').toNat ≤ (hi.getD 0 '\x00').toNat) else decide ((v.getD 0 '\x00').toNat < (hi.getD 0 '\x00').toNat))) :=
  charRangeOk_twoSided v lo hi geq leq hc hne hhi

theorem verifyConfig_ok_iff_consistent (g : G) (hw : WF g.opts) :
    (verifyConfig g = (.ok, false) ∧ ∀ j, j < g.opts.length → g.isSetOn j = true → ReqOk g j ∧ IncOk g j) ∨
    (verifyConfig g = (.esyntax, true) ∧ ∃ j, j < g.opts.length ∧ g.isSetOn j = true ∧ (¬ ReqOk g j ∨ ¬ IncOk g j)) :=
  verifyConfig_spec g hw

/-! ## (f) queries -/

theorem isUsed_iff (g : G) (i : Nat) : isUsed g i = (!isDefault g i && isOn g i) := isUsed_eq g i

theorem isDefault_of_default_setter (g : G) (i : Nat) (h : g.setter i = byDefault) : isDefault g i = true :=
  isDefault_of_setter g i h

theorem not_default_has_setter (g : G) (i : Nat) (h : isDefault g i = false) : g.setter i ≠ byDefault :=
  setter_of_not_default g i h

/-! ## non-vacuity: a concrete well-formed table and concrete runs -/

def s (x : String) : Str := x.toList

/-- The kernel reads the characters of a literal off directly (`"ab"` is `String.ofList ['a', 'b']` to it); decoding a
    literal through `String.toList` takes it time quadratic in the length. -/
theorem s_ofList (l : List Char) : s (String.ofList l) = l := String.toList_ofList

/-- `-a`, `-b`/`--no-b` toggle group, `-n` integer in `0<=n<10`, `--lown` requires `-a`, `--hin` incompatible with `--no-b`,
    `--multi`/`--mul` share a prefix -/
def demo : List Opt := [
  { name := s "-a", type := 0 },
  { name := s "-b", type := 0, toggle := some (s "-b,--no-b") },
  { name := s "--no-b", type := 0, defval := some (s "TRUE"), toggle := some (s "-b,--no-b") },
  { name := s "-n", type := 1, defval := some (s "0"), range := some (s "0<=n<10") },
  { name := s "--lown", type := 1, defval := some (s "42"), range := some (s "n>0"), required := some (s "-a") },
  { name := s "--hin", type := 1, defval := some (s "-1"), range := some (s "n<0"), incompat := some (s "--no-b") },
  { name := s "--multi", type := 4 },
  { name := s "--mul", type := 0 } ]

/-- the table with its 19 literals read off once (`s_ofList`); the evaluations below start from this form -/
theorem demo_eq : demo = [
  { name := ['-', 'a'], type := 0 },
  { name := ['-', 'b'], type := 0, toggle := some ['-', 'b', ',', '-', '-', 'n', 'o', '-', 'b'] },
  { name := ['-', '-', 'n', 'o', '-', 'b'], type := 0, defval := some ['T', 'R', 'U', 'E'], toggle := some ['-', 'b', ',', '-', '-', 'n', 'o', '-', 'b'] },
  { name := ['-', 'n'], type := 1, defval := some ['0'], range := some ['0', '<', '=', 'n', '<', '1', '0'] },
  { name := ['-', '-', 'l', 'o', 'w', 'n'], type := 1, defval := some ['4', '2'], range := some ['n', '>', '0'], required := some ['-', 'a'] },
  { name := ['-', '-', 'h', 'i', 'n'], type := 1, defval := some ['-', '1'], range := some ['n', '<', '0'], incompat := some ['-', '-', 'n', 'o', '-', 'b'] },
  { name := ['-', '-', 'm', 'u', 'l', 't', 'i'], type := 4 },
  { name := ['-', '-', 'm', 'u', 'l'], type := 0 } ] := by
  unfold demo; repeat rw [s_ofList]

def demoG : G := (create demo).getD default

/-- `create demo`, evaluated once for the runs below -/
theorem create_demo : create demo = some { opts := demo, val := demo.map defaultVal, setby := demo.map fun _ => byDefault } := by
  rw [demo_eq]; decide +kernel

theorem demoG_eq : demoG = { opts := demo, val := demo.map defaultVal, setby := demo.map fun _ => byDefault } := by
  rw [demoG, create_demo]; rfl

example : create demo = some demoG := by rw [demoG_eq]; exact create_demo
example : wfStrictB demo = true := by rw [demo_eq]; decide +kernel
example : Inv demoG := by rw [demoG_eq]; exact ⟨List.length_map _, List.length_map _⟩

theorem wfB_demo : wfB demo = true := by rw [demo_eq]; decide +kernel

theorem demo_wf : WF demo := (wfB_iff demo).mp wfB_demo

/-- `--mul` and `--multi` both start with `--mu`: ambiguous; `--mul` is an exact name, `--mult` a prefix of one name only -/
example : optidxAbbrev demo (s "--mu") = .ambiguous := by rw [demo_eq]; decide +kernel
example : optidxAbbrev demo (s "--mul") = .found 7 := by rw [demo_eq]; decide +kernel
example : optidxAbbrev demo (s "--mult") = .found 6 := by rw [demo_eq]; decide +kernel
example : optidxAbbrev demo (s "--zzz") = .notfound := by rw [demo_eq]; decide +kernel

/-- cluster `-ab`, value `-n9`, then `--`, then two arguments one of which looks like an option -/
def run1 : G := match processCmdline demoG [s "prog", s "-ab", s "-n9", s "--", s "-x", s "+y"] with
  | .done g .ok false => g
  | _ => default
/-- the run evaluated once; the examples below read their components off the result -/
theorem run1_eq : run1 =
    { opts := demo, val := [.one, .one, .null, .str (s "9"), .str (s "42"), .str (s "-1"), .null, .null], setby := [1, 1, 1, 1, 0, 0, 0, 0],
      argv := [s "prog", s "-ab", s "-n9", s "--", s "-x", s "+y"], optind := 4 } := by rw [run1, demoG_eq, demo_eq]; decide +kernel
example : (run1.optind, run1.valOf 0, run1.valOf 1, run1.valOf 2, run1.setter 2) = (4, .one, .one, .null, 1) := by rw [run1_eq]; decide +kernel
example : (run1.valOf 3, getArg run1 1, getArg run1 2, getArg run1 3) = (.str (s "9"), some (s "-x"), some (s "+y"), none) := by rw [run1_eq]; decide +kernel

/-- range and type errors, unmet requirement, violated incompatibility -/
example : (match processCmdline demoG [s "prog", s "-n", s "10"] with | .done g st m => (st, m, g.valOf 3) | .fault => default)
    = (.esyntax, true, .str (s "0")) := by rw [demoG_eq, demo_eq]; decide +kernel
example : (match processCmdline demoG [s "prog", s "-n", s "x"] with | .done _ st m => (st, m) | .fault => default) = (.esyntax, true) := by rw [demoG_eq, demo_eq]; decide +kernel
example : (match processCmdline demoG [s "prog", s "--lown", s "5"] with | .done g _ _ => verifyConfig g | .fault => default) = (.esyntax, true) := by rw [demoG_eq, demo_eq]; decide +kernel
example : (match processCmdline demoG [s "prog", s "--lown", s "5", s "-a"] with | .done g _ _ => verifyConfig g | .fault => default) = (.ok, false) := by rw [demoG_eq, demo_eq]; decide +kernel
example : (match processCmdline demoG [s "prog", s "--hin=-3"] with | .done g _ _ => verifyConfig g | .fault => default) = (.ok, false) := by rw [demoG_eq, demo_eq]; decide +kernel
/-- `-a-`: the `-` inside the cluster is not an option: a usage error, and `--lown` (row 4) keeps its default -/
example : (match processCmdline demoG [s "prog", s "-a-"] with | .done g st m => (st, m, g.valOf 0, g.valOf 4) | .fault => default)
    = (.esyntax, true, .one, .str (s "42")) := by rw [demoG_eq, demo_eq]; decide +kernel
/-- config file then command line: the later source wins, the toggle partner is switched off and records the setter -/
def run2 : G := match processConfigfile demoG (s "-b\n-n 3 # comment\n") with
  | .done g .ok false => (match processCmdline g [s "prog", s "--no-b", s "-n", s "7"] with
      | .done g' .ok false => g'
      | _ => default)
  | _ => default
theorem run2_eq : run2 =
    { opts := demo, val := [.null, .null, .str (s "TRUE"), .str (s "7"), .str (s "42"), .str (s "-1"), .null, .null], setby := [0, 1, 1, 1, 0, 0, 0, 0],
      argv := [s "prog", s "--no-b", s "-n", s "7"], optind := 4, nfiles := 1 } := by rw [run2, demoG_eq, demo_eq]; decide +kernel
example : (run2.valOf 1, run2.setter 1, run2.valOf 2, run2.setter 2) = (.null, 1, .str (s "TRUE"), 1) := by rw [run2_eq]; decide +kernel
example : (run2.valOf 3, run2.setter 3, run2.nfiles) = (.str (s "7"), 1, 1) := by rw [run2_eq]; decide +kernel
/-- a config-file line naming an argument-taking option without argument (fix 8d4fde4) -/
example : (match processConfigfile demoG (s "-n\n") with | .done g st m => (st, m, g.nfiles) | .fault => default) = (.esyntax, true, 0) := by rw [demoG_eq, demo_eq]; decide +kernel

/-- histories: config file 1 sets `-b` (setter 3), the command line then sets `--no-b` (setter 1): `--no-b` is the last
    call touching both options; instances of `last_setter_wins` and `toggle_switches_others_off` -/
def hist : List Ev := [⟨1, none, 3⟩, ⟨3, some (s "5"), 3⟩, ⟨2, none, 1⟩]
def histG : G := (runSets demoG hist).getD default
theorem hist_run : runSets demoG hist =
    some { opts := demo, val := [.null, .null, .str (s "TRUE"), .str (s "5"), .str (s "42"), .str (s "-1"), .null, .null],
           setby := [0, 1, 1, 3, 0, 0, 0, 0] } := by rw [demoG_eq, demo_eq]; decide +kernel
theorem histG_eq : histG =
    { opts := demo, val := [.null, .null, .str (s "TRUE"), .str (s "5"), .str (s "42"), .str (s "-1"), .null, .null],
      setby := [0, 1, 1, 3, 0, 0, 0, 0] } := by rw [histG, hist_run]; rfl
example : runSets demoG hist = some histG := by rw [histG_eq]; exact hist_run
example : ∀ e' ∈ ([] : List Ev), touches demoG.opts e' 2 = false := by rw [demoG_eq]; decide +kernel
example : (histG.valOf 2, histG.setter 2) = (newVal (demoG.opt 2) none, 1) := by rw [histG_eq, demoG_eq]; decide +kernel
example : 1 ∈ listIdx demoG.opts (demoG.opt 2).toggle ∧ isOn histG 1 = false ∧ histG.setter 1 = 1 := by rw [histG_eq, demoG_eq, demo_eq]; decide +kernel
example : touches demoG.opts ⟨2, none, 1⟩ 3 = false ∧ (histG.valOf 3, histG.setter 3) = (.str (s "5"), 3) := by rw [histG_eq, demoG_eq, demo_eq]; decide +kernel
/-- a toggle conflict: `-b` and `--no-b` from the same source -/
example : Conflict ((runSets demoG [⟨1, none, 1⟩]).getD default) 2 1 (listIdx demo (demoG.opt 2).toggle) :=
  ⟨1, by rw [demoG_eq, demo_eq]; decide +kernel⟩
example : (match setOption ((runSets demoG [⟨1, none, 1⟩]).getD default) 2 none 1 with | .done _ st m => (st, m) | .fault => (.ok, false))
    = (.esyntax, true) := by rw [demoG_eq, demo_eq]; decide +kernel
example : CfgEntry.Good demo ⟨3, s "-n", some (s "7")⟩ ∧ CfgEntry.Good demo ⟨0, s "-a", none⟩ :=
  ⟨⟨⟨by decide, by decide⟩, by decide, by decide, ⟨⟨by decide, by decide⟩, by decide, by decide⟩⟩,
   ⟨⟨by decide, by decide⟩, by decide, by decide, by decide⟩⟩
/-- command-line forms on the demo table -/
example : parseCmd demo 1 [s "-ab", s "-n9", s "--lown=5", s "--hin", s "-3", s "--", s "x"] false =
    [.set 0 none 2, .set 1 none 2, .set 3 (some (s "9")) 3, .set 4 (some (s "5")) 4, .set 5 (some (s "-3")) 6, .stop .ok false 7] := by rw [demo_eq]; decide +kernel
/-- spoofed command line = argv of its words; config-file line forms -/
example : SpoofWord (s "--lown=5") ∧ SpoofWord (s "-a") ∧ joinSp [s "prog", s "-a", s "--lown=5"] = s "prog -a --lown=5" := by
  refine ⟨⟨⟨by decide, by decide⟩, by decide⟩, ⟨⟨by decide, by decide⟩, by decide⟩, by decide⟩
example : cfgItem demo (s "-n 7\n") = some (.set 3 (some (s "7"))) ∧ cfgItem demo (s "-a\n") = some (.set 0 none) ∧
    cfgItem demo (s "-n\n") = some .usage ∧ cfgItem demo (s "--mu\n") = some .usage := by rw [demo_eq]; decide +kernel
/-- `every_history_ends_cleanly` on a concrete history (bad value, then config file, then `--` handling) -/
example : (runAll demoG [.cmdline [s "prog", s "-n", s "99"], .cfg (s "-b\n-n 3\n"), .cmdline [s "prog", s "--no-b", s "--", s "-a"]]).map (·.1)
    = some [(.esyntax, true), (.ok, false), (.ok, false)] := by rw [demoG_eq, demo_eq]; decide +kernel

/-- documented range strings -/
example : RealLit (s "-1.5") true (s "1") (s "5") true := ⟨by decide, by decide, by decide, by decide, by decide⟩
example : RealLit (s "0") false (s "0") [] false := ⟨by decide, by decide, by decide, by decide, by decide⟩
example : twoSided 'n' (s "0") true false (s "10") = s "0<=n<10" := by decide +kernel
example : IntLit (s "-100") := ⟨true, s "100", by decide, by decide, by decide⟩
example : intRangeOk (s "9") (some (s "0<=n<10")) = true ∧ intRangeOk (s "10") (some (s "0<=n<10")) = false ∧
    intRangeOk (s "-1") (some (s "0<=n<10")) = false := by decide +kernel
example : realRangeOk (s "0.5") (some (s "0<x<1")) = true ∧ realRangeOk (s "1") (some (s "0<x<1")) = false ∧
    realRangeOk (s "1e-3") (some (s "0<x<1")) = true ∧ realRangeOk (s "0.0") (some (s "0<x<1")) = false := by decide +kernel
example : charRangeOk (s "y") (some (s "a<=c<=z")) = true ∧ charRangeOk (s "A") (some (s "a<=c<=z")) = false := by decide +kernel

/-! ## the allocation layer: config-file values live in blocks that are reused (`do_alloc`, `valloc[]`)

The byte-level object `GC` of `Alloc.lean` is what the driver runs.  These theorems say that erasing its allocation
layer gives the abstract model all other theorems are about — so "the value is the one the last source gave" holds for
the *stored bytes* whatever the lengths of the values successive config files gave — that no block is overrun or read
without terminator, and what `valloc` is. -/

/-- the store step of `set_option`, either mode, any previous content of the cell: nothing is overrun, the invariant
    is kept, the stored C string is exactly the argument, and `valloc` is `max(old, strlen+1)` for a copied
    config-file argument and `0` for every pointer assignment -/
theorem alloc_store_exact {c : GC} (hinv : InvC c) (i : Nat) (arg : Option Str) (da : Bool)
    (hnf : da = true → ∀ a, arg = some a → NulFree a) :
    ∃ c1, storeC c i arg da = some c1 ∧ InvC c1 ∧
      c1.abs = { c.abs with val := c.abs.val.set i (newVal (c.opt i) arg) } ∧
      c1.setby = c.setby ∧ c1.opts = c.opts ∧
      (i < c.val.length → c1.vallocOf i = storeValloc (c.opt i) (c.vallocOf i) arg da) := storeC_spec hinv i arg da hnf

theorem alloc_set_option_refines {c : GC} (hinv : InvC c) (i : Nat) (arg : Option Str) (src : Nat) (da : Bool)
    (hnf : da = true → ∀ a, arg = some a → NulFree a) :
    (setOptionC c i arg src da).abs = setOption c.abs i arg src ∧ (setOptionC c i arg src da).Inv :=
  setOptionC_abs hinv i arg src da hnf

theorem alloc_valloc_after_set {c c' : GC} (hinv : InvC c) {i : Nat} (hi : i < c.val.length) {arg : Option Str} {src : Nat} {da : Bool}
    {st : Status} {m : Bool} (hnf : da = true → ∀ a, arg = some a → NulFree a)
    (h : setOptionC c i arg src da = .done c' st m) (hgood : verifyTypeRange (c.opt i) arg src = .good) (hs : c.setter i ≠ src) :
    c'.vallocOf i = storeValloc (c.opt i) (c.vallocOf i) arg da := setOptionC_ok_valloc hinv hi hnf h hgood hs

/-- every source, run on the byte-level object, is the abstract source on the erased object -/
theorem alloc_source_refines {c : GC} (h : InvC c) (s : Src) (hs : SrcText s) :
    (applySrcC c s).abs = applySrc c.abs s ∧ (applySrcC c s).Inv := applySrcC_abs h s hs

/-- a config file without NUL bytes hands only C strings to `set_option` -/
theorem alloc_cfg_text_args (opts : List Opt) (content : Str) (h : NulFree content) :
    CfgArgsOk ((fileLines content).filterMap (cfgItem opts)) := cfgArgsOk_of_text opts content h

theorem alloc_history_refines (ss : List Src) (c : GC) (hinv : InvC c) (htxt : ∀ s ∈ ss, SrcText s) :
    (runAllC c ss).map (fun r => (r.1, r.2.abs)) = runAll c.abs ss ∧
    ∀ outs c', runAllC c ss = some (outs, c') → InvC c' := runAllC_abs ss c hinv htxt

/-- from `esl_getopts_Create` on, for every table passing the computable check and every history of sources (config
    files being texts): the byte-level run never crashes, returns the statuses of the abstract run, ends in an object
    whose erasure is the abstract result, and every stored value can be read back (no getter leaves its block) -/
theorem alloc_created_history {opts : List Opt} {c : GC} (hc : createC opts = some c) (hw : wfB opts = true) (ss : List Src)
    (htxt : ∀ s ∈ ss, SrcText s) :
    ∃ outs c', runAllC c ss = some (outs, c') ∧ runAll c.abs ss = some (outs, c'.abs) ∧ InvC c' ∧ c'.readable = true ∧
      ∀ o ∈ outs, Clean o.1 o.2 ∨ o = (.einval, true) := by
  have hca : create opts = some c.abs := by rw [← createC_abs, hc]; rfl
  obtain ⟨outs, g', h1, _, _, _, h5⟩ := created_object_every_history_clean hca hw ss
  obtain ⟨ha, hi⟩ := runAllC_abs ss c (createC_inv hc) htxt
  rw [h1] at ha
  cases hr : runAllC c ss with
  | none => rw [hr] at ha; cases ha
  | some r =>
    rw [hr] at ha
    simp only [Option.map_some, Option.some.injEq, Prod.mk.injEq] at ha
    have hinv' := hi r.1 r.2 (by rw [hr])
    exact ⟨r.1, r.2, rfl, by rw [h1, ← ha.1, ← ha.2], hinv', hinv'.readable, by rw [ha.1]; exact h5⟩

/-- `esl_getopts_Reuse` frees every block: the object is the freshly created one, so a history after `Reuse` is a
    history on a fresh object -/
theorem alloc_reuse_is_fresh {opts : List Opt} {c0 c : GC} (hc : createC opts = some c0) (ho : c.opts = opts) : reuseC c = c0 := by
  rcases reuseC_eq_createC c with h | h
  · rw [ho, hc] at h; exact (Option.some.inj h).symm
  · rw [ho, hc] at h; cases h


/-- … so any history of sources after `Reuse` is that history on a fresh object, statuses and final bytes alike -/
theorem history_after_reuse_is_history_on_fresh_object {opts : List Opt} {c0 c : GC} (hc : createC opts = some c0) (ho : c.opts = opts)
    (ss : List Src) : runAllC (reuseC c) ss = runAllC c0 ss := by rw [alloc_reuse_is_fresh hc ho]

/-- the allocation layer on the demo table: two config files give `-n` a longer, then a shorter value; the block (4 bytes)
    is reused, the stored string is exactly the second value, the tail of the first survives beyond the terminator -/
def allocDemo : Option GC := (createC demo).bind fun c =>
  match processConfigfileC c (s "-n 007\n") with
  | .done c1 .ok false => (match processConfigfileC c1 (s "-n 3\n") with
      | .done c2 .ok false => some c2
      | _ => none)
  | _ => none
theorem allocDemo_eq : allocDemo =
    some { opts := demo, val := [.null, .null, .stat (s "TRUE"), .heap ['3', NUL, '7', NUL], .stat (s "42"), .stat (s "-1"), .null, .null],
           setby := [0, 0, 0, 4, 0, 0, 0, 0], valloc := [0, 0, 0, 4, 0, 0, 0, 0], nfiles := 2 } := by rw [allocDemo, demo_eq]; decide +kernel
example : (allocDemo.map fun c => (c.valOf 3, c.vallocOf 3, (c.valOf 3).abs, c.setter 3, c.readable)) =
    some (.heap ['3', NUL, '7', NUL], 4, .str (s "3"), 4, true) := by rw [allocDemo_eq]; decide +kernel
example : NulFree (s "-n 007\n") := by unfold NulFree; decide
example : SrcText (.cfg (s "-n 3\n")) ∧ SrcText (.cmdline [s "prog"]) := ⟨by show NulFree _; unfold NulFree; decide, trivial⟩
example : (createC demo).isSome = true ∧ wfB demo = true := ⟨by rw [demo_eq]; decide +kernel, wfB_demo⟩
/-- then the command line sets `-n`: the block is freed (`valloc = 0`), the value points into `argv` -/
example : (allocDemo.bind fun c => match processCmdlineC c [s "prog", s "-n", s "5"] with
    | .done c' .ok false => some (c'.valOf 3, c'.vallocOf 3) | _ => none) = some (.stat (s "5"), 0) := by rw [allocDemo_eq, demo_eq]; decide +kernel

/-! ## option tables that are not well formed: the documented error, never a crash -/

/-- `esl_getopts_Create` on ANY table: NULL (`eslEINVAL`) iff a name lacks its `-` or a default fails its own
    type/range check; otherwise the all-default object -/
theorem create_on_any_table (opts : List Opt) :
    (create opts = none ↔ (∃ o ∈ opts, o.name.head? ≠ some '-') ∨ (∃ o ∈ opts, verifyTypeRange o o.defval byDefault ≠ .good)) ∧
    (∀ g, create opts = some g → g.opts = opts ∧ g.val = opts.map defaultVal ∧ g.setby = opts.map (fun _ => byDefault) ∧
      g.nfiles = 0 ∧ g.spoofed = false ∧ g.optind = 1 ∧ g.argv = []) := create_any_table opts

/-- the default check — the only code `Create` runs on table content — cannot reach `strlen(NULL)` -/
theorem create_never_crashes (o : Opt) : verifyTypeRange o o.defval byDefault ≠ .fault := verify_default_never_faults o

/-- duplicate names, unknown names in toggle/required/incompatible lists, ranges on string options: not looked at by `Create` -/
theorem create_does_not_check_lists (opts : List Opt) (h1 : ∀ o ∈ opts, o.name.head? = some '-') (h2 : ∀ o ∈ opts, o.defval = none) :
    (create opts).isSome = true := create_accepts_unchecked_defects opts h1 h2

/-- … they are reported as `eslEINVAL` when the list is walked: by `set_option` -/
theorem unknown_name_in_toggle_list (g : G) (i src : Nat) (e : Str) (es : List Str) (h : optlistResolve g.opts e = none) :
    toggleLoop g i src (e :: es) = .done g .einval false := unknown_toggle_name_is_einval g i src e es h

/-- … and by `esl_opt_VerifyConfig` -/
theorem unknown_name_in_required_list (g : G) (e : Str) (es : List Str) (h : optlistResolve g.opts e = none) :
    reqLoop g (e :: es) = some (.einval, false) ∧ ∀ i, incLoop g i (e :: es) = some (.einval, false) :=
  unknown_required_name_is_einval g e es h

/-- on any table `set_option` has a single crash site (`strlen(NULL)`: character option, no argument) and no source reaches it -/
theorem set_option_crash_site_unreachable (g : G) (i : Nat) (arg : Option Str) (src : Nat) (h : arg.isSome ∨ (g.opt i).type ≠ 3) :
    setOption g i arg src ≠ .fault := set_option_any_table_no_fault g i arg src h

/-- ill-formed tables: two options named `-a`, a toggle list naming `--zz`, a range on a string option — accepted by
    `Create`; an integer default `x`, a malformed range `=n<5` (fix 843fbc5), a name without `-` — refused -/
def illT : List Opt := [{ name := s "-a", type := 0, toggle := some (s "--zz") }, { name := s "-a", type := 4, range := some (s "s<3") }]
example : (create illT).isSome = true ∧ (∀ o ∈ illT, o.name.head? = some '-') ∧ (∀ o ∈ illT, o.defval = none) := by decide +kernel
example : create [{ name := s "-n", type := 1, defval := some (s "x") }] = none ∧
    create [{ name := s "-n", type := 1, defval := some (s "3"), range := some (s "=n<5") }] = none ∧
    create [{ name := s "n", type := 0 }] = none ∧ create [{ name := s "-t", type := 9, defval := some (s "v") }] = none := by decide +kernel
example : (match (create illT).map (fun g => processCmdline g [s "prog", s "-a"]) with | some (.done _ st m) => some (st, m) | _ => none)
    = some (.einval, false) := by decide +kernel
example : optlistResolve illT (s "--zz") = none := by decide +kernel

/-! ## `esl_opt_DisplayHelp`, `esl_opt_SpoofCmdline`, integers as `esl_opt_GetInteger` returns them -/

theorem displayHelp_fails_iff (rows : List HelpRow) (docgroup indent textwidth : Nat) :
    displayHelp rows docgroup indent textwidth = none ↔
      textwidth < indent + maxOf HelpRow.optWidth (rows.filter (·.selected docgroup)) + maxOf HelpRow.w2 (rows.filter (·.selected docgroup)) :=
  displayHelp_none_iff rows docgroup indent textwidth

/-- one line per option of the docgroup in table order, common column for ` :`, defaults / ranges shown for all lines
    or none, every line at most `textwidth + 2` characters -/
theorem displayHelp_output_documented (rows : List HelpRow) (docgroup indent textwidth : Nat) (lines : List Str)
    (h : displayHelp rows docgroup indent textwidth = some lines) :
    lines.length = (rows.filter (·.selected docgroup)).length ∧
    (∀ l ∈ lines, l.length ≤ textwidth + 2) ∧
    ∃ showDef showRange, ∀ k (hk : k < (rows.filter (·.selected docgroup)).length),
      lines[k]? = some (helpLine indent (maxOf HelpRow.optWidth (rows.filter (·.selected docgroup))) showDef showRange
                          ((rows.filter (·.selected docgroup))[k])) ∧
      (helpLine indent (maxOf HelpRow.optWidth (rows.filter (·.selected docgroup))) showDef showRange
          ((rows.filter (·.selected docgroup))[k])).take (indent + maxOf HelpRow.optWidth (rows.filter (·.selected docgroup)) + 2) =
        spaces indent ++ (((rows.filter (·.selected docgroup))[k]).name ++ argTag ((rows.filter (·.selected docgroup))[k]).type) ++
          spaces (maxOf HelpRow.optWidth (rows.filter (·.selected docgroup)) -
                    (((rows.filter (·.selected docgroup))[k]).name ++ argTag ((rows.filter (·.selected docgroup))[k]).type).length) ++ [' ', ':'] :=
  displayHelp_documented rows docgroup indent textwidth lines h

theorem spoofed_cmdline_lists_set_and_on_options (g : G) (i : Nat) (ws : List Str) (h : spoofOptWords g i = some ws) :
    ws ≠ [] ↔ (g.setter i ≠ byDefault ∧ isOn g i = true) := spoofOptWords_listed_iff g i ws h

theorem spoofCmdline_never_crashes (g : G) (hargv : g.argv ≠ []) (hval : ∀ i, (g.opt i).type ≠ 0 → g.valOf i ≠ .one) :
    (spoofCmdline g).isSome = true := spoofCmdline_total g hargv hval

theorem accepted_integer_satisfies_range_as_getter_returns_it {g g' : G} {i src : Nat} {v : Str} {m : Bool} (hinv : Inv g)
    (hi : i < g.opts.length) (ht : (g.opt i).type = 1) (h : setOption g i (some v) src = .done g' .ok m) :
    g'.valOf i = .str v ∧ getInteger g' i = atoi v ∧ isInteger v = true ∧ intRangeOk v (g.opt i).range = true :=
  accepted_integer_read_consistently hinv hi ht h

/-- help for a two-row table at four widths: everything (26), defaults only (25, and 19, the last width at which it fits), too narrow (18) -/
def helpRows : List HelpRow := [⟨s "-n", 1, some (s "count"), some (s "3"), some (s "n>0"), 1⟩, ⟨s "--all", 0, some (s "everything"), none, none, 2⟩]
theorem helpRows_eq : helpRows = [⟨['-', 'n'], 1, some ['c', 'o', 'u', 'n', 't'], some ['3'], some ['n', '>', '0'], 1⟩,
    ⟨['-', '-', 'a', 'l', 'l'], 0, some ['e', 'v', 'e', 'r', 'y', 't', 'h', 'i', 'n', 'g'], none, none, 2⟩] := by
  unfold helpRows; repeat rw [s_ofList]
example : displayHelp helpRows 0 2 26 = some [s "  -n <n> : count  [3]  (n>0)", s "  --all  : everything"] := by
  rw [helpRows_eq]; repeat rw [s_ofList]
  decide +kernel
example : displayHelp helpRows 0 2 25 = some [s "  -n <n> : count  [3]", s "  --all  : everything"] := by
  rw [helpRows_eq]; repeat rw [s_ofList]
  decide +kernel
example : displayHelp helpRows 0 2 19 = some [s "  -n <n> : count  [3]", s "  --all  : everything"] := by
  rw [helpRows_eq]; repeat rw [s_ofList]
  decide +kernel
example : displayHelp helpRows 0 2 18 = none ∧ displayHelp helpRows 2 2 18 = some [s "  --all : everything"] := by
  rw [helpRows_eq]; repeat rw [s_ofList]
  decide +kernel
/-- the separator is not counted: a line of 21 characters for `textwidth = 19` (the bound `textwidth + 2` is attained) -/
example : (s "  --all  : everything").length = 21 := by rw [s_ofList]; decide +kernel
/-- `prog -b x`: `--no-b` was toggled off by `-b` and is not listed (fix af97bd9); integers beyond `int` -/
example : ((match processCmdline demoG [s "prog", s "-b", s "-n", s "7", s "x"] with | .done g .ok _ => spoofCmdline g | _ => none)) =
    some (s "prog -b -n 7 x ") := by rw [demoG_eq, demo_eq]; decide +kernel
example : atoi (s "4294967301") = 5 ∧ atoi (s "2147483648") = -2147483648 ∧ atoi (s "9223372036854775808") = -1 ∧
    intRangeOk (s "4294967296") (some (s "n>0")) = false ∧ intRangeOk (s "4294967301") (some (s "n>0")) = true := by decide +kernel

/-! ## `strtod`: decimal → binary64 -/

/-- the significand the conversion delivers is a nearest integer to the scaled value (`|q·d − n| ≤ d/2`; ties go to
    the even neighbour by `roundDiv`'s last branch) -/
theorem strtod_rounds_to_nearest (n d : Nat) (hd : 0 < d) :
    2 * n ≤ 2 * (roundDiv n d * d) + d ∧ 2 * (roundDiv n d * d) ≤ 2 * n + d := roundDiv_nearest n d hd

/-- **exact on every decimal whose value is a binary64 number**: if `N/D = q₀·2^(s₀−1126)` with `q₀ < 2^53` and
    `s₀ ≥ 52` (at most 53 significant bits, nothing below `2^−1074`), the conversion returns that value -/
theorem strtod_exact_on_representable (N D q0 s0 : Nat) (hD : 0 < D) (hq : q0 < 2 ^ 53) (hs : 52 ≤ s0)
    (h : N * 2 ^ SCALE = q0 * 2 ^ s0 * D) : (toDbl N D).1 * 2 ^ (toDbl N D).2 = q0 * 2 ^ s0 := toDbl_exact N D q0 s0 hD hq hs h

/-- at a fixed scale (within one binade, or in the subnormal range) rounding is monotone: a larger value never gets a
    smaller significand — so a range test on the rounded values never orders two arguments against their true order -/
theorem strtod_rounding_monotone_in_binade (n n' d : Nat) (hd : 0 < d) (h : n ≤ n') : roundDiv n d ≤ roundDiv n' d :=
  roundDiv_mono n n' d hd h

/-- 0.5 = 2^1125·2^−1126 is representable; 0.1 is not (its nearest double is 0x3fb999999999999a); a tie goes to even -/
example : (5 : Nat) * 2 ^ SCALE = 1 * 2 ^ 1125 * 10 ∧ (1 : Nat) < 2 ^ 53 ∧ 52 ≤ 1125 := by
  refine ⟨?_, by decide, by decide⟩
  have : SCALE = 1125 + 1 := rfl
  rw [this, Nat.pow_succ]; ring
example : hex16 (atofBits (s "0.5")) = "3fe0000000000000" ∧ hex16 (atofBits (s "0.1")) = "3fb999999999999a" ∧
    hex16 (atofBits (s "9007199254740993")) = "4340000000000000" ∧ hex16 (atofBits (s "1e309")) = "7ff0000000000000" ∧
    hex16 (atofBits (s "4.9e-324")) = "0000000000000001" := by decide +kernel

/-- **`strtod` is monotone**: `N/D ≤ N'/D'` implies double(`N/D`) ≤ double(`N'/D'`) — across binades, through the
    subnormal range and at the carry into the next binade -/
theorem strtod_monotone (N D N' D' : Nat) (hD : 0 < D) (hD' : 0 < D') (h : N * D' ≤ N' * D) :
    (toDbl N D).1 * 2 ^ (toDbl N D).2 ≤ (toDbl N' D').1 * 2 ^ (toDbl N' D').2 := toDbl_mono N D N' D' hD hD' h

/-- monotonicity of the real range test as the C code performs it (on the rounded doubles), for arguments of any
    number of digits: a lower bound that accepts `x` accepts every `y ≥ x` -/
theorem real_range_test_monotone (lo x y : Nat × Nat) (hx : 0 < x.2) (hy : 0 < y.2) (hxy : x.1 * y.2 ≤ y.1 * x.2)
    (h : dblLe lo x = true) : dblLe lo y = true := dblLe_mono_right lo x y hx hy hxy h

/-- an inclusive bound never rejects a value that really is inside: exact `lo ≤ x` implies the test on doubles accepts -/
theorem inclusive_real_bound_accepts_every_true_member (lo x : Nat × Nat) (hl : 0 < lo.2) (hx : 0 < x.2)
    (h : lo.1 * x.2 ≤ x.1 * lo.2) : dblLe lo x = true := dblLe_of_le lo x hl hx h

/-- 1/10 ≤ 3/10 as fractions; the converse direction can fail by rounding: 0.1 and 0.1000000000000000055 are one double -/
example : (0 : Nat) < 10 ∧ (1 : Nat) * 10 ≤ 3 * 10 := by decide +kernel
example : atofBits (s "0.1") = atofBits (s "0.1000000000000000055") := by decide +kernel

/-- `esl_getopts_CreateDefaultApp` hands the object back exactly when the command line parses, the configuration
    verifies, `-h` is off and the argument count is the required one; in every other case it ends the program
    (`exit(0)` after the help page, `exit(1)` otherwise) -/
theorem defaultApp_returns_iff (opts : List Opt) (nargs : Int) (argv : List Str) (g : G) :
    createDefaultApp opts nargs argv = some (.returned g) ↔
      ∃ g0 m i, create opts = some g0 ∧ processCmdline g0 argv = .done g .ok m ∧ (verifyConfig g).1 = .ok ∧
        optidxExactly opts ['-', 'h'] = some i ∧ (g.opt i).type = 0 ∧ (g.valOf i).isNull = true ∧
        (nargs = -1 ∨ argNumber g = nargs) := createDefaultApp_returns_iff opts nargs argv g

def appT : List Opt := [{ name := s "-h", type := 0 }, { name := s "-n", type := 1, defval := some (s "0"), range := some (s "0<=n<10") }]
example : createDefaultApp appT 1 [s "prog", s "-n", s "3", s "file"] ≠ none ∧ createDefaultApp appT 1 [s "prog", s "-h"] = some .exitHelp ∧
    createDefaultApp appT 1 [s "prog"] = some .exitNargs ∧ createDefaultApp appT 1 [s "prog", s "-n", s "10", s "file"] = some .exitParse ∧
    (match createDefaultApp appT (-1) [s "prog", s "a", s "b"] with | some (.returned g) => argNumber g | _ => 0) = 2 := by decide +kernel

/-! ## `--name=` : an empty attached value -/

theorem flag_with_empty_value_is_usage_error {opts : List Opt} {name : Str} {i : Nat} (k : Nat) (next : Option Str) (hne : '=' ∉ name)
    (hi : optidxAbbrev opts name = .found i) (ht : (opts.getD i default).type = 0) :
    parseLong opts k (name ++ ['=']) next = ([.stop .esyntax true (k + 1)], none) := parseLong_flag_empty_value k next hne hi ht

theorem empty_attached_value_is_the_argument {opts : List Opt} {name : Str} {i : Nat} (k : Nat) (next : Option Str) (hne : '=' ∉ name)
    (hi : optidxAbbrev opts name = .found i) (ht : (opts.getD i default).type ≠ 0) :
    parseLong opts k (name ++ ['=']) next = ([.set i (some []) (k + 1)], some false) := parseLong_empty_value k next hne hi ht

/-- the word after `--name=` is not swallowed: it is parsed as the next element of the command line -/
theorem empty_attached_value_consumes_nothing {opts : List Opt} {r : Str} {i : Nat} (k : Nat) (tl : List Str) (hr : r ≠ []) (hne : '=' ∉ r)
    (hi : optidxAbbrev opts ('-' :: '-' :: r) = .found i) (ht : (opts.getD i default).type ≠ 0) :
    parseCmd opts k (('-' :: '-' :: r ++ ['=']) :: tl) false = .set i (some []) (k + 1) :: parseCmd opts (k + 1) tl false :=
  parseCmd_empty_value k tl hr hne hi ht

theorem empty_value_rejected_by_numeric_types (o : Opt) (src : Nat) (hs : src ≠ byDefault) (ht : o.type = 1 ∨ o.type = 2) :
    verifyTypeRange o (some []) src = .bad := empty_value_not_a_number o src hs ht

theorem empty_value_stored_by_string_types (o : Opt) (src : Nat) (ht : o.type = 4 ∨ o.type = 5 ∨ o.type = 6) (hr : o.range = none) :
    verifyTypeRange o (some []) src = .good ∧ newVal o (some []) = .str [] := empty_value_is_a_string o src ht hr

theorem empty_value_char_is_terminator (o : Opt) (src : Nat) (ht : o.type = 3) :
    verifyTypeRange o (some []) src = (if charRangeOk [] o.range then .good else .bad) := empty_value_char o src ht

/-- on the demo table: `--multi= x` stores "" and leaves `x` as the first argument; `--mul=` (a flag) and `--lown=` (an
    integer) are usage errors -/
example : (match processCmdline demoG [s "prog", s "--multi=", s "x"] with | .done g st _ => some (st, g.valOf 6, getArg g 1, argNumber g) | .fault => none)
    = some (.ok, .str [], some (s "x"), 1) := by rw [demoG_eq, demo_eq]; decide +kernel
example : (match processCmdline demoG [s "prog", s "--mul=", s "x"] with | .done _ st m => some (st, m) | .fault => none) = some (.esyntax, true) ∧
    (match processCmdline demoG [s "prog", s "--lown=", s "5"] with | .done g st m => some (st, m, g.valOf 4) | .fault => none)
      = some (.esyntax, true, .str (s "42")) := by rw [demoG_eq, demo_eq]; decide +kernel
example : '=' ∉ s "--multi" ∧ optidxAbbrev demo (s "--multi") = .found 6 ∧ (demo.getD 6 default).type ≠ 0 := by rw [demo_eq]; decide +kernel

/-! ## real ranges on the values the C code compares: the doubles -/

theorem real_range_two_sided_on_doubles (v lo hi : Str) (geq leq : Bool) (hc : 'x' ∉ lo) (hhi : leq = false → hi.head? ≠ some '=') :
    realRangeOkD v (some (twoSided 'x' lo geq leq hi)) =
      ((if geq then Dec.dle (atof (twoSided 'x' lo geq leq hi)) (atof v) else Dec.dlt (atof (twoSided 'x' lo geq leq hi)) (atof v)) &&
       (if leq then Dec.dle (atof v) (atof hi) else Dec.dlt (atof v) (atof hi))) := realRangeOkD_twoSided v lo hi geq leq hc hhi

theorem real_range_two_sided_literal_on_doubles (v lo hi : Str) (geq leq : Bool) {neg : Bool} {ip fp : Str} {dot : Bool}
    (hlo : RealLit lo neg ip fp dot) (hhi : leq = false → hi.head? ≠ some '=') :
    realRangeOkD v (some (twoSided 'x' lo geq leq hi)) =
      ((if geq then Dec.dle (atof lo) (atof v) else Dec.dlt (atof lo) (atof v)) &&
       (if leq then Dec.dle (atof v) (atof hi) else Dec.dlt (atof v) (atof hi))) := realRangeOkD_twoSided_lit v lo hi geq leq hlo hhi

theorem real_range_lower_on_doubles (v a : Str) (incl : Bool) (h : incl = false → a.head? ≠ some '=') :
    realRangeOkD v (some ('x' :: '>' :: ((if incl then ['='] else []) ++ a))) =
      (if incl then Dec.dle (atof a) (atof v) else Dec.dlt (atof a) (atof v)) := realRangeOkD_lower v a incl h

theorem real_range_upper_on_doubles (v b : Str) (incl : Bool) (h : incl = false → b.head? ≠ some '=') :
    realRangeOkD v (some ('x' :: '<' :: ((if incl then ['='] else []) ++ b))) =
      (if incl then Dec.dle (atof v) (atof b) else Dec.dlt (atof v) (atof b)) := realRangeOkD_upper v b incl h

theorem rounding_never_reorders_magnitudes (a b : Dec) (ha : a.mant ≠ 0) (hb : b.mant ≠ 0) (ha1 : ¬ a.exp > 5000) (ha2 : ¬ a.exp < -5000)
    (hb1 : ¬ b.exp > 5000) (hb2 : ¬ b.exp < -5000) (h : a.frac.1 * b.frac.2 ≤ b.frac.1 * a.frac.2) : a.dmag ≤ b.dmag :=
  dmag_mono a b ha hb ha1 ha2 hb1 hb2 h

theorem lower_bound_on_doubles_is_monotone (lo x y : Dec) (hxn : x.neg = false) (hyn : y.neg = false) (h : x.dmag ≤ y.dmag)
    (hacc : Dec.dle lo x = true) : Dec.dle lo y = true := dle_mono_right lo x y hxn hyn h hacc

/-- where exact decimals and doubles part: `0.1000000000000000055` is above 0.1 as a decimal but the same double, so
    `x>0.1` refuses it (as the C code does) while the exact-decimal test would accept; `x>=0.1` accepts it either way -/
example : realRangeOkD (s "0.1000000000000000055") (some (s "x>0.1")) = false ∧ realRangeOk (s "0.1000000000000000055") (some (s "x>0.1")) = true ∧
    realRangeOkD (s "0.1000000000000000055") (some (s "x>=0.1")) = true ∧
    realRangeOkD (s "0.99999999999999999999") (some (s "0<x<1")) = false ∧ realRangeOkD (s "1e400") (some (s "x<=1.7e308")) = false ∧ realRangeOkD (s "1e400") (some (s "x<=1.8e308")) = true := by decide +kernel

/-! ## `esl_getopts_Dump` -/

theorem dump_tells_setters_apart (k : Nat) : setterText k = "(default) ".toList ↔ k = byDefault := setterText_default_iff k

theorem dump_boolean_setting_is_IsOn (g : G) (i : Nat) (ht : (g.opt i).type = 0) :
    settingText g i = some (if isOn g i then "on".toList else "off".toList) := settingText_boolean g i ht

theorem dump_never_crashes (g : G) (hval : ∀ i, (g.opt i).type ≠ 0 → g.valOf i ≠ .one) : (dumpText g).isSome = true :=
  dumpText_total g hval

example : (match processCmdline demoG [s "prog", s "-b", s "f"] with
    | .done g .ok _ => (dumpText g).map (fun t =>
        (s "argv[0]:                prog\nargument  1 (argv[ 2]): f\n\n      Option      Setting    Set by\n------------ ------------ ---------\n-a           off          (default) \n-b           on           cmdline   \n").isPrefixOf t)
    | _ => none) = some true := by
  rw [s_ofList, s_ofList, s_ofList, s_ofList, demoG_eq, demo_eq]
  decide +kernel

end EaselModel.Props.C14
