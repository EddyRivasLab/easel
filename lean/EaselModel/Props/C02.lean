import EaselModel.Sqio.NoFault
import EaselModel.Sqio.DriverLogic
import EaselModel.Sqio.Totality
import EaselModel.Sqio.BlockSpec
import EaselModel.Sqio.WindowSpec
import EaselModel.Sqio.WindowTotal
import EaselModel.Sqio.EmblTotal
import EaselModel.Sqio.EmblTotalAll
import EaselModel.Sqio.MsaSeqMode
import EaselModel.Sqio.MsaSeqWindow
import EaselModel.Sqio.MsaSeqBlock
import EaselModel.Sqio.MsaSeqAll
import EaselModel.Sqio.EmblInfoTotal
/-! # C02 — sequence-file input is total: any bytes give a normal outcome

Property theorems only; the proofs are one-line uses of `Sqio/Totality.lean`, `WindowTotal.lean`, `BlockSpec.lean`, `EmblTotal*.lean`,
`MsaSeq*.lean` (and `Refine.lean`, `NoFault.lean` for the primitives).
Model: `Sqio/Model.lean`; every `buf[i]` goes through `Ascii.bufGet` (`none` = outside the buffer = `Status.fault`), every
store into the `ESL_SQ` checks the allocation the C code made; so "never touches memory outside its objects" is
"`Status.fault` is not an outcome".

Full statement (DESIGN §5 C02): for every byte string, format selection, text/digital mode, read call and block size `B`, the
outcome is `ok rec | eof | eformat` (message + line number), `fault`/exception unreachable, every returned record well formed.
Proved here for every byte string and every `B ≥ 1` (block mode, FASTA-family input maps): the block loader keeps its window
inside the file and inside `mem` (`loadbuf_total`), `nextchar` — the only primitive of the header parsers — never faults and
never skips or repeats a byte (`nextchar_total`), `seebuf` — the residue scanner of all five read calls — never faults on a map of 128 entries (the
model rejects a byte ≥ 0x80 before it is used as an index) and never leaves the buffer (`seebuf_total`), and the two input maps that
`seebuf` and the digital `addbuf` use classify every symbol consistently (`inmaps_agree`, re-checked against the regenerated
tables on every run); and, composed through `header_fasta` / `seebuf` / `addbuf` / `end_fasta`: `sqascii_Read`, `ReadInfo`, `ReadSequence` and the
whole-sequence `ReadBlock` are total for EVERY byte string (`read_total`, `readInfo_total`, `readSequence_total`, `read_all_total`,
`readBlock_total`): status `eslOK` / `eslEOF` / `eslEFORMAT` (with a message), never `fault`, every record well formed; `read_nres` and
the forward `ReadWindow` are total for EVERY byte string too — illegal bytes included — (`read_nres_total_any`, `readWindow_total`):
`eslOK` / `eslEOD` / `eslEOF` / `eslEFORMAT` with a message, no exception, never `fault`. NOT proved (tied by the differential run +
sanitizer build + record monitor): reverse-strand windows of the unaligned formats on malformed data, long-target `ReadBlock`, daemon /
hmmpgmd and the guessers of the unaligned formats. Alignment files read as sequences: the `msa_*` theorems below. EMBL / UniProt / GenBank / DDBJ: `sqascii_Read`, `ReadSequence` and `ReadInfo` are total for every byte string (`read_linebased_total`,
`readSequence_linebased_total`, `readInfo_linebased_total`). 
The hypotheses on the handle. `WF` (block mode) / `LWF` (line mode): the buffer is a window of the file, nothing recorded. `Pre` stands
beside `WF`, not under it: block mode with the memory buffer used up, as after open or `Position`; `loadbuf` turns it into `WF`
(`loadbuf_total`). Above `WF`, each adding to the one before: `Cur` = `WF`, a sane tracker, the cursor on a byte or at the end of the
file; `HReady a map` = `Cur`, FASTA format, `eofIsOk`, the input map facts, `MapOk` against `map`; `Ready a sq` holds the fields of
`HReady a (mapOf a sq)` and `2 ≤ sq.nalloc`, `2 ≤ sq.dalloc` (two structures that repeat six fields, not an extension). `HOk` = `HReady` without the cursor condition and without `MapOk` (between two windows the cursor may
stand at the end of the buffer): `Ready → HReady → Cur → WF` and `HReady → HOk → WF`. In `readBlock_total` the map is the alphabet's when the slots are digital, else the
handle's own; the last argument `false` of `readBlock` is `long_target`. -/
namespace EaselModel.Props.C02
open EaselModel.Sqio EaselModel.Sqio.Refine EaselModel.Sqio.NoFault

/-- after open / Position (nothing buffered): one `fread`; the handle is well formed, the cursor is at the file position, and
    the status is `eslEOF` exactly at the end of the file — for every file, position and `B ≥ 1` -/
theorem loadbuf_total (a : Ascii) (h : Pre a) :
    WF (loadbuf a).1 ∧ (loadbuf a).1.bpos = 0 ∧ (loadbuf a).1.file = a.file ∧ (loadbuf a).1.B = a.B ∧ pos (loadbuf a).1 = a.fpos ∧
    ((loadbuf a).2 = .ok ∧ 0 < (loadbuf a).1.nc ∧ a.fpos < a.file.size ∨
     (loadbuf a).2 = .eof ∧ (loadbuf a).1.nc = 0 ∧ a.fpos = a.file.size) := loadbuf_wf a h

/-- `nextchar` never faults: it returns `eslOK` with the next byte of the *file* (block boundaries are invisible), or `eslEOF`
    exactly when the cursor was on the last byte; the handle stays well formed. For every `B ≥ 1`. -/
theorem nextchar_total (a : Ascii) (c : UInt8) (h : WF a) (hb : a.bpos < a.nc) :
    WF (nextchar a c).1 ∧ (nextchar a c).1.file = a.file ∧ (nextchar a c).1.B = a.B ∧
    (((nextchar a c).2.1 = .ok ∧ (nextchar a c).1.bpos < (nextchar a c).1.nc ∧ pos (nextchar a c).1 = pos a + 1 ∧
        a.file[(pos a + 1).toNat]? = some (nextchar a c).2.2) ∨
     ((nextchar a c).2.1 = .eof ∧ (nextchar a c).2.2 = c ∧ pos a + 1 = a.file.size ∧ (nextchar a c).1.nc = 0 ∧
        (nextchar a c).1.bpos = 0 ∧ pos (nextchar a c).1 = pos a + 1)) := nextchar_refines a c h hb

/-- in particular `fault` is not an outcome of `nextchar` -/
theorem nextchar_no_fault (a : Ascii) (c : UInt8) (h : WF a) (hb : a.bpos < a.nc) : (nextchar a c).2.1 ≠ .fault := by
  rcases (nextchar_refines a c h hb).2.2.2 with h1 | h1 <;> simp [h1.1]

/-- `seebuf` (any residue limit): never a fault, the reported end position lies inside the buffer, the handle stays well formed;
    only bookkeeping (line geometry, line number, error flag) changes -/
theorem seebuf_total (a : Ascii) (h : WF a) (hm : a.inmap.size = 128) (maxn : Option Nat) :
    (seebuf a maxn).2.st ≠ .fault ∧ a.bpos ≤ (seebuf a maxn).2.endpos ∧ (seebuf a maxn).2.endpos ≤ a.nc ∧
    WF (seebuf a maxn).1 ∧ (seebuf a maxn).1.bpos = a.bpos ∧ (seebuf a maxn).1.nc = a.nc ∧ (seebuf a maxn).1.boff = a.boff ∧
    (seebuf a maxn).1.file = a.file := seebuf_safe a h hm maxn

/-- the input maps `seebuf` (file map) and digital `addbuf` (alphabet map) agree on what a residue is, for DNA, RNA and amino;
    and the file maps have 128 entries (so every validated byte is a valid index) -/
theorem inmaps_agree :
    ∀ abc ∈ [1, 2, 3], ∀ c : Fin 128,
      ((inmapFasta abc).getD c.val 0 ≤ 127 → (abcInmap abc).getD c.val 255 ≤ 127) ∧
      (((inmapFasta abc).getD c.val 0 = Tables.dsqIgnored ∨ (inmapFasta abc).getD c.val 0 = Tables.dsqEol) → (abcInmap abc).getD c.val 0 > 127) ∧
      (inmapFasta abc).size = 128 := tables_residue_class_agree

/-- non-vacuity: the state right after opening a 5-byte file with B = 2 satisfies `Pre`, and after `loadbuf` the cursor is on a byte -/
example : Pre { file := #[62, 97, 10, 65, 10], B := 2 } := ⟨rfl, by decide, by decide, by decide, by decide⟩
example : (loadbuf { file := #[62, 97, 10, 65, 10], B := 2 }).2 = .ok ∧ (loadbuf { file := #[62, 97, 10, 65, 10], B := 2 }).1.nc = 2 := by decide


/-! ## Totality at the level of the reading calls — corollaries of the closed forms (`Sqio/ReadSpec.lean`, `Sqio/Totality.lean`) -/

open EaselModel.Sqio.ReadSpec EaselModel.Sqio.Totality in
/-- **`sqascii_Read` (FASTA) is total, as a theorem about the call**: from every ready handle — any file bytes, any cursor position, any
    block size `B ≥ 1`, text or digital — the outcome is `eslOK`, `eslEOF` or `eslEFORMAT`; in particular never `fault` (no `buf[i]`
    outside the buffer, no store outside an allocation of the `ESL_SQ`, through `loadbuf` / `nextchar` / `header_fasta` / `seebuf` /
    `addbuf` / `end_fasta` composed); `eslEFORMAT` comes with a message; on `eslOK` the record is well formed (non-empty name, strings and
    residues inside their allocations with room for the terminator, `start = 1`, `end = W = L = n`, `C = 0`, `0 ≤ roff < hoff ≤ doff ≤
    eoff + 1`), at least one byte was consumed, and the handle is ready for the next call. -/
theorem read_total (a : Ascii) (sq : Sq) (R : Ready a sq) :
    ((read a sq).2.2 = .ok ∨ (read a sq).2.2 = .eof ∨ (read a sq).2.2 = .eformat) ∧
    ((read a sq).2.2 = .eformat → (read a sq).1.haveErr = true) ∧
    ((read a sq).2.2 = .ok → WellFormed (read a sq).2.1 ∧ Ready (read a sq).1 (read a sq).2.1.reuse ∧
       (DataScan.fileFrom (read a sq).1).length < (DataScan.fileFrom a).length) := Totality.read_total a sq R

open EaselModel.Sqio.ReadSpec in
theorem read_no_fault (a : Ascii) (sq : Sq) (R : Ready a sq) : (read a sq).2.2 ≠ .fault := by
  rcases (Totality.read_total a sq R).1 with h | h | h <;> rw [h] <;> decide

open EaselModel.Sqio.ReadSpec in
/-- the info-only call: `eslOK` / `eslEOF` / `eslEFORMAT` (with a message), never `fault` -/
theorem readInfo_total (a : Ascii) (sq : Sq) (R : Ready a sq) (hsa : 2 ≤ sq.salloc) :
    ((readInfo a sq).2.2 = .ok ∨ (readInfo a sq).2.2 = .eof ∨ (readInfo a sq).2.2 = .eformat) ∧
    ((readInfo a sq).2.2 = .eformat → (readInfo a sq).1.haveErr = true) := Totality.readInfo_total a sq R hsa

open EaselModel.Sqio.ReadSpec in
/-- the sequence-only call: `eslOK` / `eslEOF` / `eslEFORMAT` (with a message), never `fault` -/
theorem readSequence_total (a : Ascii) (sq : Sq) (R : Ready a sq) :
    ((readSequence a sq).2.2 = .ok ∨ (readSequence a sq).2.2 = .eof ∨ (readSequence a sq).2.2 = .eformat) ∧
    ((readSequence a sq).2.2 = .eformat → (readSequence a sq).1.haveErr = true) := Totality.readSequence_total a sq R

open EaselModel.Sqio.ParseFasta EaselModel.Sqio.Totality in
/-- **The whole FASTA reader is total, for EVERY byte string and EVERY block size `B ≥ 1`** (text, DNA, RNA, amino): opening the file
    and reading records until the first non-`eslOK` status ends within `size + 2` calls with `eslEOF` or `eslEFORMAT` — never `fault` —
    and every record returned on the way is well formed. -/
theorem read_all_total (bytes : Bytes) (B abc : Nat) (hB : 1 ≤ B) (habc : abc ∈ [0, 1, 2, 3]) :
    ((readAllM (bytes.size + 2) (openFasta bytes B abc) (freshSq abc)).2 = .eof ∨
     (readAllM (bytes.size + 2) (openFasta bytes B abc) (freshSq abc)).2 = .eformat) ∧
    ∀ s ∈ (readAllM (bytes.size + 2) (openFasta bytes B abc) (freshSq abc)).1, WellFormed s :=
  Totality.read_all_total bytes B abc hB habc

open EaselModel.Sqio.ParseFasta EaselModel.Sqio.ReadSpec in
/-- non-vacuity of `Ready`: every file, every `B ≥ 1`, every mode, right after open -/
example (bytes : Bytes) (B abc : Nat) (hB : 1 ≤ B) (habc : abc ∈ [0, 1, 2, 3]) : Ready (openFasta bytes B abc) (freshSq abc).reuse :=
  (openFasta_ready bytes B abc hB habc).1

/-- a malformed file (`>` `\n` `A`: a record without a name) with B = 1 in text mode: the closed form says `eslEFORMAT` -/
example : (ParseFasta.parseFasta 0 #[62, 10, 65]).2 = Status.eformat ∧ (ParseFasta.parseFasta 0 #[62, 10, 65]).1.length = 0 := by
  decide +kernel


open EaselModel.Sqio.BlockSpec in
/-- **`sqascii_ReadBlock` (whole-sequence mode) is total for every byte string and every block size**: from a ready handle and a block
    of reused slots it never faults (no access outside a buffer or an allocation, in any of the `sqascii_Read` calls it makes), and it
    reports the block as complete -/
theorem readBlock_total (dig : Bool) (abc : Nat) (a : Ascii) (b : Block) (maxRes maxSeq : Int) (maxInit : Bool)
    (H : HReady a (if dig then abcInmap abc else a.inmap)) (hls : b.listSize ≤ b.list.size)
    (hslot : ∀ j, j < blockMaxSeq b maxSeq → SlotOk dig abc (b.list.getD j {})) :
    (readBlock a b maxRes maxSeq maxInit false).2.2 ≠ .fault ∧ (readBlock a b maxRes maxSeq maxInit false).2.1.complete = true := by
  obtain ⟨_, _, _, h4, h5, _⟩ := BlockSpec.readBlock_short_spec dig abc a b maxRes maxSeq maxInit H hls hslot
  exact ⟨h5, h4⟩

open EaselModel.Sqio.BodySpec EaselModel.Sqio.WindowSpec in
/-- **`read_nres(sqfp, sq, 0, W)` — the residue reader of `ReadWindow` — on clean data, for every block size**: status `eslOK` or
    `eslEOD`, never `fault`; the handle stays well formed (the cursor inside the file and the buffer) -/
theorem read_nres_total (a : Ascii) (sq : Sq) (W : Nat) (hW : 1 ≤ W) (w : Refine.WF a) (tok : Fold.Track.Ok a.trk) (hm : a.inmap.size = 128)
    (heof : a.eofIsOk = true) (hmap : MapOk a.inmap (mapOf a sq)) (hclean : Clean a.inmap (DataScan.fileFrom a))
    (hcap : sq.seq.size + W + (if sq.digital then 2 else 1) ≤ sq.salloc) :
    ((readNres a sq 0 W).2.2.1 = .ok ∨ (readNres a sq 0 W).2.2.1 = .eod) ∧ Refine.WF (readNres a sq 0 W).1 := by
  obtain ⟨o, _⟩ := WindowSpec.readNres_zero_out a sq W w tok hm hmap hcap
  refine ⟨?_, o.wf⟩
  rw [(o.done heof hclean).st]
  split
  · exact Or.inr rfl
  · exact Or.inl rfl


open EaselModel.Sqio.BodySpec EaselModel.Sqio.Cursor in
/-- **`read_nres(sqfp, sq, 0, W)` is total for EVERY byte string, every block size, every `W`**: whatever bytes follow the cursor —
    illegal symbols, bytes ≥ 0x80, a truncated record — the status is `eslOK`, `eslEOD` or `eslEFORMAT` (then a message was written),
    never `fault` (no access outside the buffer, no store outside the `W` residues of room), no exception; the handle stays well formed;
    at most `W` residues are appended and nothing else of the `ESL_SQ` changes. -/
theorem read_nres_total_any (a : Ascii) (sq : Sq) (W : Nat) (w : Refine.WF a) (tok : Fold.Track.Ok a.trk) (hm : a.inmap.size = 128)
    (hmap : MapOk a.inmap (mapOf a sq)) (hcap : sq.seq.size + W + (if sq.digital then 2 else 1) ≤ sq.salloc) :
    ((readNres a sq 0 W).2.2.1 = .ok ∨ (readNres a sq 0 W).2.2.1 = .eod ∨ (readNres a sq 0 W).2.2.1 = .eformat) ∧
    ((readNres a sq 0 W).2.2.1 = .eformat → (readNres a sq 0 W).1.haveErr = true) ∧
    Refine.WF (readNres a sq 0 W).1 ∧ stat (readNres a sq 0 W).1 = stat a ∧ (readNres a sq 0 W).1.exc = a.exc ∧
    (∃ d : Bytes, (readNres a sq 0 W).2.1 = { sq with seq := sq.seq ++ d } ∧ d.size ≤ W) ∧ (readNres a sq 0 W).2.2.2 ≤ W := by
  obtain ⟨t1, t2, _, t4, t5, t6, _, _, _, t10, _, t12⟩ := WindowTotal.readNres_zero_total a sq W w tok hm hmap hcap
  exact ⟨t1, t2, t4, t5, t6, t10, t12⟩

open EaselModel.Sqio.BodySpec EaselModel.Sqio.ReadSpec EaselModel.Sqio.WindowSeries in
/-- **forward `sqascii_ReadWindow` is total for EVERY byte string and every block size**: the first call on a record (from a ready handle,
    `ESL_SQ` as after `esl_sq_Reuse`) and every later call (`sq->start ≠ 0`, whatever residues the window holds) return `eslOK`,
    `eslEOD`, `eslEOF` or `eslEFORMAT` — the latter with a message —, raise no exception and never fault, for every context `C ≥ 0` and
    width `W ≥ 1`. -/
theorem readWindow_total (a : Ascii) (sq : Sq) (C W : Int) (hC : 0 ≤ C) (hW : 1 ≤ W)
    (h : (sq.start = 0 ∧ sq.seq = #[] ∧ Ready a sq) ∨ (sq.start ≠ 0 ∧ HOk a ∧ MapOk a.inmap (mapOf a sq))) :
    ((readWindow a sq C W).2.2 = .ok ∨ (readWindow a sq C W).2.2 = .eod ∨ (readWindow a sq C W).2.2 = .eof ∨
      (readWindow a sq C W).2.2 = .eformat) ∧
    ((readWindow a sq C W).2.2 = .eformat → (readWindow a sq C W).1.haveErr = true) ∧ (readWindow a sq C W).1.exc = a.exc :=
  have t := WindowTotal.readWindow_fwd_total a sq C W hC hW h
  ⟨t.st, t.err, t.exc⟩

open EaselModel.Sqio.ParseFasta in
/-- non-vacuity on the executable model: `>a\nAC1GT\n` (`1` is illegal), B = 2: a window of 3 residues reports `eslEFORMAT` with a
    message and no exception; a window of 2 succeeds with `AC` -/
example :
    (readWindow (openFasta #[62, 97, 10, 65, 67, 49, 71, 84, 10] 2 0) (freshSq 0).reuse 0 3).2.2 = Status.eformat ∧
    (readWindow (openFasta #[62, 97, 10, 65, 67, 49, 71, 84, 10] 2 0) (freshSq 0).reuse 0 3).1.haveErr = true ∧
    (readWindow (openFasta #[62, 97, 10, 65, 67, 49, 71, 84, 10] 2 0) (freshSq 0).reuse 0 2).2.2 = Status.ok ∧
    (readWindow (openFasta #[62, 97, 10, 65, 67, 49, 71, 84, 10] 2 0) (freshSq 0).reuse 0 2).2.1.seq = #[65, 67] := by
  rw [openFasta, inmapFasta_text]; decide +kernel


open EaselModel.Sqio.BodySpec EaselModel.Sqio.LineSpec EaselModel.Sqio.EmblAll in
/-- **`sqascii_Read` on the line-based formats (EMBL / UniProt / GenBank / DDBJ) is total for EVERY byte string and every block size**: from
    any line-mode handle (`LWF`: what `esl_sqfile_Open` yields and every call preserves) the outcome is `eslOK`, `eslEOF` or `eslEFORMAT`
    — the latter with a message —, no exception, never `fault`: `skipLinesWhile` / `emblScan` / `genbankScan` never run away (every
    iteration consumes a line of the file), `strtok` / the `LOCUS` / `VERSION` / `DEFINITION` column accesses stay inside the line (the
    `nc ≥ 12` tests before `buf + 12` is used), the residue loop reads only `line[0..nc)` and stores inside the allocation `esl_sq_GrowTo` made, `end_embl` looks at
    the line start only; the handle stays a line-mode handle on the same file. No hypothesis on the bytes, on `B`, or on the `ESL_SQ`'s
    allocations. -/
theorem read_linebased_total (a : Ascii) (sq : Sq) (w : LWF a) (hf : LineFmt a) (tok : Fold.Track.Ok a.trk) (hm : a.inmap.size = 128)
    (hmap : MapOk a.inmap (mapOf a sq)) :
    ((read a sq).2.2 = .ok ∨ (read a sq).2.2 = .eof ∨ (read a sq).2.2 = .eformat) ∧
    ((read a sq).2.2 = .eformat → (read a sq).1.haveErr = true) ∧ (read a sq).1.exc = a.exc ∧ LWF (read a sq).1 ∧
    (read a sq).1.fmt = a.fmt ∧ (read a sq).1.file = a.file ∧ (read a sq).1.inmap = a.inmap :=
  EmblTotal.read_linebased_total a sq w hf tok hm hmap


open EaselModel.Sqio.BodySpec EaselModel.Sqio.LineSpec EaselModel.Sqio.EmblAll in
/-- **`sqascii_ReadSequence` on the line-based formats (EMBL / UniProt / GenBank / DDBJ) is total for EVERY byte string and every block
    size**: `skip_header` (the header scanners with nothing stored) + the residue loop + the record end: `eslOK`, `eslEOF` or
    `eslEFORMAT` with a message, no exception, never `fault`; the handle stays a line-mode handle on the same file. No hypothesis on the
    bytes, on `B`, or on the `ESL_SQ`'s allocations. -/
theorem readSequence_linebased_total (a : Ascii) (sq : Sq) (w : LWF a) (hf : LineFmt a) (tok : Fold.Track.Ok a.trk) (hm : a.inmap.size = 128)
    (hmap : MapOk a.inmap (mapOf a sq)) :
    ((readSequence a sq).2.2 = .ok ∨ (readSequence a sq).2.2 = .eof ∨ (readSequence a sq).2.2 = .eformat) ∧
    ((readSequence a sq).2.2 = .eformat → (readSequence a sq).1.haveErr = true) ∧ (readSequence a sq).1.exc = a.exc ∧ LWF (readSequence a sq).1 ∧
    (readSequence a sq).1.fmt = a.fmt ∧ (readSequence a sq).1.file = a.file ∧ (readSequence a sq).1.inmap = a.inmap :=
  EmblTotal.readSequence_linebased_total a sq w hf tok hm hmap

open EaselModel.Sqio.BodySpec EaselModel.Sqio.LineSpec EaselModel.Sqio.EmblAll in
/-- **`sqascii_ReadInfo` on the line-based formats (EMBL / UniProt / GenBank / DDBJ) is total for EVERY byte string and every block
    size**: `parse_header` + the residue loop without storing (`seebuf` only) + the record end + the info-only coordinates:
    `eslOK`, `eslEOF` or `eslEFORMAT` with a message, no exception, never `fault` (the loop never runs away: every pass consumes a line;
    the terminator store of the info record fits: header parsers and loop never touch the residue allocation); the handle stays a
    line-mode handle on the same file. The only hypothesis on the `ESL_SQ`: the two bytes every `esl_sq_Create*` allocates. -/
theorem readInfo_linebased_total (a : Ascii) (sq : Sq) (w : LWF a) (hf : LineFmt a) (tok : Fold.Track.Ok a.trk) (hm : a.inmap.size = 128)
    (hsa : 2 ≤ sq.salloc) :
    ((readInfo a sq).2.2 = .ok ∨ (readInfo a sq).2.2 = .eof ∨ (readInfo a sq).2.2 = .eformat) ∧
    ((readInfo a sq).2.2 = .eformat → (readInfo a sq).1.haveErr = true) ∧ (readInfo a sq).1.exc = a.exc ∧ LWF (readInfo a sq).1 ∧
    (readInfo a sq).1.fmt = a.fmt ∧ (readInfo a sq).1.file = a.file ∧ (readInfo a sq).1.inmap = a.inmap :=
  EmblTotal.readInfo_linebased_total a sq w hf tok hm hsa

open EaselModel.Sqio.BodySpec EaselModel.Sqio.EmblAll in
/-- **The whole reader of the line-based formats is total, for EVERY byte string and EVERY block size `B ≥ 1`**: from `esl_sqfile_Open` on
    (`openLine` = the handle open yields for EMBL / UniProt / GenBank / DDBJ), reading records with `sqascii_Read` until the first
    non-`eslOK` status ends within `size + 2` calls with `eslEOF` or `eslEFORMAT` — never `fault`; every successful call consumes at least
    one line of the file. -/
theorem read_all_linebased_total (file : Bytes) (B abc fmt : Nat) (eofOk : Bool) (inmap0 inmap1 : Bytes) (hB : 1 ≤ B)
    (hf : fmt = 2 ∨ fmt = 3 ∨ fmt = 4 ∨ fmt = 5) (hm : inmap1.size = 128) (sq : Sq)
    (hmap : MapOk inmap1 (if sq.digital then abcInmap sq.abc else inmap1)) :
    (ParseFasta.readAllM (file.size + 2) (openLine file B abc fmt eofOk inmap0 inmap1) sq).2 = .eof ∨
    (ParseFasta.readAllM (file.size + 2) (openLine file B abc fmt eofOk inmap0 inmap1) sq).2 = .eformat :=
  EmblTotalAll.read_all_linebased_open_total file B abc fmt eofOk inmap0 inmap1 hB hf hm sq hmap


/-! ## Alignment files read sequentially as sequences

Model `Sqio/MsaSeq.lean`: the `esl_sqio_IsAlignment` branches of `sqascii_Read` / `ReadInfo` / `ReadSequence` / `ReadWindow` /
`ReadBlock`, `esl_sq_FetchFromMSA` and the dealigning, on top of the C01 models of `msafile_OpenBuffer` (declared format or
autodetection) and of the ten alignment readers (imported, not re-modelled). Lemmas `Sqio/MsaSeqLemmas.lean`, `Sqio/MsaSeqMode.lean`.
Everything below holds for EVERY byte string: the bytes only enter through `Opened.read`, whose outcome is good for every list of lines
(C01 `opened_read_good`). `Inv` = the alignment held by the handle (if any) is one the reader returned; it holds after open and every
call keeps it, so the statements hold after every history of calls. `ModeOk o` = the reader delivers alignments in the handle's mode
(digital iff an alphabet was set, with that alphabet's `Kp`) is a theorem for every opened file (`msa_mode_ok`), so no statement below
carries a hypothesis on the reader. -/

open EaselModel.Sqio.MsaSeq EaselModel.Msafile in
/-- **opening an alignment file as a sequence file is total** (declared alignment format, or autodetection that found no unaligned
    format), for every byte string, file name and alphabet: `eslOK` with a handle that satisfies the invariant (`idx = 0`, no exception
    pending, the alphabet handed to `esl_msafile_SetDigital`), or `eslEFORMAT`; never a fault. -/
theorem msa_open_total (file : Sqio.Bytes) (fname : LBytes) (fsel : FmtSel) (abc : Nat) :
    (((openMsa file fname fsel abc).2 = .ok ∧ (openMsa file fname fsel abc).1.isSome = true) ∨
     ((openMsa file fname fsel abc).2 = .eformat ∧ (openMsa file fname fsel abc).1 = none)) ∧
    (∀ h, (openMsa file fname fsel abc).1 = some h → Inv h ∧ h.idx = 0 ∧ h.exc = false ∧ h.o.abc = abcTypeOf abc) :=
  ⟨openMsa_total file fname fsel abc, fun h ho => openMsa_inv file fname fsel abc h ho⟩

open EaselModel.Sqio.MsaSeq EaselModel.Msafile in
/-- **`esl_sq_FetchFromMSA` is total on every alignment a reader can return**: `eslEOD` exactly when `which` is not a row; otherwise a
    well-formed record in the alignment's mode - name / description inside their allocations, residue array of exactly the reported
    length with room for the terminator, `start = 1`, `end = W = L = n`, `C = 0`, at most `alen` residues, text residues never NUL and
    never a gap character, digital codes `< Kp` and never a sentinel. Never a fault. -/
theorem msa_fetch_total (abc : Option AbcType) (m : Msa) (which : Int) (hw : m.wellFormed = true) (hd : m.digital = abc.isSome) :
    (((which ≥ (m.nseq : Int) ∨ which < 0) ∧ fetchFromMSA abc m which = (none, .eod)) ∨
     (0 ≤ which ∧ which < (m.nseq : Int) ∧ ∃ t, fetchFromMSA abc m which = (some t, .ok) ∧ RowWF m.kp t ∧ t.digital = m.digital ∧
        t.n ≤ m.alen)) := fetchFromMSA_total abc m which hw hd

open EaselModel.Sqio.MsaSeq EaselModel.Msafile in
/-- **`sqascii_Read` (= `sqascii_ReadSequence`) on an alignment file is total, for every byte string and every history**: `eslOK` with
    a well-formed record of the handle's mode (at most `alen` residues of the alignment now held), `eslEOF`, or `eslEFORMAT` with a
    message; never a fault, no exception; the invariant and `0 ≤ idx` are kept. -/
theorem msa_read_total (h : MsaH) (sq : Sq) (hi : Inv h) (hidx : 0 ≤ h.idx) (hsq : sq.digital = h.o.abc.isSome) :
    Inv (MsaSeq.read h sq).1 ∧ (MsaSeq.read h sq).1.o = h.o ∧ (MsaSeq.read h sq).1.exc = h.exc ∧ 0 ≤ (MsaSeq.read h sq).1.idx ∧
    (((MsaSeq.read h sq).2.2 = .ok ∧ (MsaSeq.read h sq).2.1.digital = sq.digital ∧
        ∃ m, (MsaSeq.read h sq).1.msa = some m ∧ RowWF m.kp (MsaSeq.read h sq).2.1 ∧ (MsaSeq.read h sq).2.1.n ≤ m.alen) ∨
     (MsaSeq.read h sq).2.2 = .eof ∨ ((MsaSeq.read h sq).2.2 = .eformat ∧ (MsaSeq.read h sq).1.haveErr = true)) :=
  MsaSeq.read_total h sq hi (modeOk_every h.o) hidx hsq

open EaselModel.Sqio.MsaSeq EaselModel.Msafile in
theorem msa_readSequence_total (h : MsaH) (sq : Sq) (hi : Inv h) (hidx : 0 ≤ h.idx) (hsq : sq.digital = h.o.abc.isSome) :
    (MsaSeq.readSequence h sq).2.2 = .ok ∨ (MsaSeq.readSequence h sq).2.2 = .eof ∨
    ((MsaSeq.readSequence h sq).2.2 = .eformat ∧ (MsaSeq.readSequence h sq).1.haveErr = true) := by
  rcases (MsaSeq.read_total h sq hi (modeOk_every h.o) hidx hsq).2.2.2.2 with h1 | h1 | h1
  · exact Or.inl h1.1
  · exact Or.inr (Or.inl h1)
  · exact Or.inr (Or.inr h1)

open EaselModel.Sqio.MsaSeq EaselModel.Msafile in
/-- **`sqascii_ReadInfo` on an alignment file is total**: `eslOK` with a well-formed info record (no residues, `start = end = C = W = 0`,
    `L ≥ 0`, strings inside their allocations), `eslEOF`, or `eslEFORMAT` with a message; never a fault, no exception. -/
theorem msa_readInfo_total (h : MsaH) (sq : Sq) (hi : Inv h) (hidx : 0 ≤ h.idx) (hsq : sq.digital = h.o.abc.isSome) :
    Inv (MsaSeq.readInfo h sq).1 ∧ (MsaSeq.readInfo h sq).1.o = h.o ∧ (MsaSeq.readInfo h sq).1.exc = h.exc ∧ 0 ≤ (MsaSeq.readInfo h sq).1.idx ∧
    (((MsaSeq.readInfo h sq).2.2 = .ok ∧ InfoWF (MsaSeq.readInfo h sq).2.1) ∨
     (MsaSeq.readInfo h sq).2.2 = .eof ∨ ((MsaSeq.readInfo h sq).2.2 = .eformat ∧ (MsaSeq.readInfo h sq).1.haveErr = true)) :=
  MsaSeq.readInfo_total h sq hi (modeOk_every h.o) hidx hsq

open EaselModel.Sqio.MsaSeq EaselModel.Msafile in
/-- **every alignment reader delivers alignments in the handle's mode** (digital iff an alphabet was set, with that alphabet's `Kp`) - all
    ten formats, every alphabet selection, every PHYLIP name width, every list of lines: each reader returns `eslOK` only through its
    finishing function, which builds the alignment with `digital := cfg.digital, kp := cfg.kp` (Stockholm / Pfam: no helper
    function of the reader model ever fails with "eslOK", `stoStep_ok` in `Sqio/MsaSeqSto.lean`; PHYLIP: only `phyDone`, `FromDone.mode` in
    `Msafile/PhylipLemmas.lean`; aligned FASTA, A2M, Clustal, Clustal-like, PSI-BLAST, SELEX: their steps never answer `eslOK`, the
    `…Read_mode` lemmas of `Msafile/ReadMode.lean`; all read at the opened file's configuration in `Sqio/MsaSeqMode.lean`). This discharges
    the mode hypothesis of the lemmas in `Sqio/MsaSeqLemmas.lean`: the theorems of this section carry NO hypothesis on the reader or on
    the bytes. -/
theorem msa_mode_ok (o : Opened) : ModeOk o := modeOk_every o

open EaselModel.Sqio.MsaSeq EaselModel.Msafile in
/-- **an alignment file read as sequences, end to end, for EVERY byte string** - the property's statement for this path: whatever the
    bytes, the file name, the format selection (one of the ten alignment formats or autodetection) and the mode (text, DNA, RNA, amino;
    `callerSq abc` = the `ESL_SQ` made by `esl_sq_Create*`), `esl_sqfile_Open*` answers `eslOK` or `eslEFORMAT`; after `eslOK`, any number
    `n` of `esl_sqio_Read` calls (`readN`: the caller's loop with `esl_sq_Reuse`) ends with `eslOK` (all `n` succeeded), `eslEOF`, or
    `eslEFORMAT` with a message - never a fault, never an exception. No hypothesis beyond `abc ∈ {0,1,2,3}`. -/
theorem msa_file_read_total (file : Sqio.Bytes) (fname : LBytes) (fsel : FmtSel) (abc n : Nat) (habc : abc ≤ 3) :
    (((openMsa file fname fsel abc).2 = .ok ∧ (openMsa file fname fsel abc).1.isSome = true) ∨
     ((openMsa file fname fsel abc).2 = .eformat ∧ (openMsa file fname fsel abc).1 = none)) ∧
    ∀ h, (openMsa file fname fsel abc).1 = some h →
      (readN n h (callerSq abc)).1.exc = false ∧
      ((readN n h (callerSq abc)).2 = .ok ∨ (readN n h (callerSq abc)).2 = .eof ∨
       ((readN n h (callerSq abc)).2 = .eformat ∧ (readN n h (callerSq abc)).1.haveErr = true)) :=
  file_read_total file fname fsel abc n habc

open EaselModel.Sqio.MsaSeq EaselModel.Msafile in
/-- … so for a Stockholm file (the alignment format the property names) the totality of `sqascii_Read` holds without any hypothesis on
    the reader: from open on, for every byte string, alphabet and history -/
theorem msa_read_total_stockholm (h : MsaH) (sq : Sq) (hf : h.o.fmt = .stockholm ∨ h.o.fmt = .pfam) (hi : Inv h) (hidx : 0 ≤ h.idx)
    (hsq : sq.digital = h.o.abc.isSome) :
    Inv (MsaSeq.read h sq).1 ∧ 0 ≤ (MsaSeq.read h sq).1.idx ∧ (MsaSeq.read h sq).1.exc = h.exc ∧
    (((MsaSeq.read h sq).2.2 = .ok ∧ ∃ m, (MsaSeq.read h sq).1.msa = some m ∧ RowWF m.kp (MsaSeq.read h sq).2.1) ∨
     (MsaSeq.read h sq).2.2 = .eof ∨ ((MsaSeq.read h sq).2.2 = .eformat ∧ (MsaSeq.read h sq).1.haveErr = true)) := by
  obtain ⟨r1, _, r3, r4, r5⟩ := MsaSeq.read_total h sq hi (modeOk_every h.o) hidx hsq
  refine ⟨r1, r4, r3, ?_⟩
  rcases r5 with ⟨a, _, m, b, c, _⟩ | a | a
  · exact Or.inl ⟨a, m, b, c⟩
  · exact Or.inr (Or.inl a)
  · exact Or.inr (Or.inr a)

open EaselModel.Sqio.MsaSeq in
/-- **forward windows over an alignment row** (`sqascii_ReadWindow`, alignment branch, `W > 0`): from a fresh `ESL_SQ` or one holding the
    previous window, context `0 ≤ C' ≤ C`, `0 ≤ W' ≤ W` new residues starting right after the previous window (`start + C' = end0 + 1`,
    `end = end0 + W'`), `n = C' + W'`, the slice `start..end` inside `1..L`; `W' = 0` - the `eslEOD` answer - exactly when the previous
    window ended at `L`; the state after a window is again a forward state (so the windows tile `1..L` exactly once). -/
theorem msa_fwd_window_coords (n0 start0 end0 L C W : Int) (hL : 0 ≤ L) (hC : 0 ≤ C) (hW : 1 ≤ W) (hs : FwdState n0 start0 end0 L) :
    0 ≤ (fwdCoords n0 end0 L C W).1 ∧ (fwdCoords n0 end0 L C W).1 ≤ C ∧
    (fwdCoords n0 end0 L C W).2.1 + (fwdCoords n0 end0 L C W).1 = end0 + 1 ∧
    (fwdCoords n0 end0 L C W).2.2.2.1 = (fwdCoords n0 end0 L C W).1 + (fwdCoords n0 end0 L C W).2.2.2.2 ∧
    0 ≤ (fwdCoords n0 end0 L C W).2.2.2.2 ∧ (fwdCoords n0 end0 L C W).2.2.2.2 ≤ W ∧
    ((fwdCoords n0 end0 L C W).2.2.2.2 = 0 ↔ end0 = L) ∧
    1 ≤ (fwdCoords n0 end0 L C W).2.1 ∧
    (fwdCoords n0 end0 L C W).2.1 + (fwdCoords n0 end0 L C W).2.2.2.1 = (fwdCoords n0 end0 L C W).2.2.1 + 1 ∧
    (fwdCoords n0 end0 L C W).2.2.1 ≤ L ∧
    (fwdCoords n0 end0 L C W).2.2.1 = end0 + (fwdCoords n0 end0 L C W).2.2.2.2 ∧
    ((fwdCoords n0 end0 L C W).2.2.2.2 ≠ 0 →
      FwdState (fwdCoords n0 end0 L C W).2.2.2.1 (fwdCoords n0 end0 L C W).2.1 (fwdCoords n0 end0 L C W).2.2.1 L) :=
  fwdCoords_spec n0 start0 end0 L C W hL hC hW hs

open EaselModel.Sqio.MsaSeq in
/-- **reverse-strand windows over an alignment row** (`W < 0`): context `0 ≤ C' ≤ C` from the previous window,
    `0 ≤ W' ≤ |W|` new residues going down from `end0 - 1` (from `L` on the first window), `n = C' + W'`, the slice inside `1..L`;
    `W' = 0` - `eslEOD` - exactly when the strand is finished; after the swap of `esl_sq_ReverseComplement` the state is again a reverse
    state (so the windows tile `L..1` exactly once). -/
theorem msa_rev_window_coords (n0 start0 end0 L C W : Int) (hL : 0 ≤ L) (hC : 0 ≤ C) (hW : W ≤ -1) (hs : RevState n0 start0 end0 L) :
    0 ≤ (revCoords n0 start0 end0 L C W).1 ∧ (revCoords n0 start0 end0 L C W).1 ≤ C ∧
    (start0 = 0 → (revCoords n0 start0 end0 L C W).2.2.1 = L) ∧
    (start0 ≠ 0 → (revCoords n0 start0 end0 L C W).2.2.1 - (revCoords n0 start0 end0 L C W).1 = end0 - 1) ∧
    (revCoords n0 start0 end0 L C W).2.2.2.1 = (revCoords n0 start0 end0 L C W).1 + (revCoords n0 start0 end0 L C W).2.2.2.2 ∧
    0 ≤ (revCoords n0 start0 end0 L C W).2.2.2.2 ∧ (revCoords n0 start0 end0 L C W).2.2.2.2 ≤ -W ∧
    ((revCoords n0 start0 end0 L C W).2.2.2.2 = 0 ↔ (start0 = 0 ∧ L = 0) ∨ (start0 ≠ 0 ∧ end0 = 1)) ∧
    1 ≤ (revCoords n0 start0 end0 L C W).2.1 ∧
    (revCoords n0 start0 end0 L C W).2.1 + (revCoords n0 start0 end0 L C W).2.2.2.1 = (revCoords n0 start0 end0 L C W).2.2.1 + 1 ∧
    (revCoords n0 start0 end0 L C W).2.2.1 ≤ L ∧
    ((revCoords n0 start0 end0 L C W).2.2.2.2 ≠ 0 →
      RevState (revCoords n0 start0 end0 L C W).2.2.2.1 (revCoords n0 start0 end0 L C W).2.2.1 (revCoords n0 start0 end0 L C W).2.1 L) :=
  revCoords_spec n0 start0 end0 L C W hL hC hW hs

open EaselModel.Sqio.MsaSeq EaselModel.Msafile in
/-- **`sqascii_ReadWindow` on an alignment file is total, for every byte string, both strands, from every consistent window state**: the
    caller's `ESL_SQ` is fresh (after `esl_sq_Reuse` / `eslEOD`) or holds the previous window of the row being read (`FwdState` /
    `RevState`; on the reverse strand `sq->L` is the row's length, as the forward `eslEOD` left it; a digital reverse strand needs an
    alphabet with a complement: DNA or RNA). Then the call answers `eslOK` with a well-formed window (`n = C' + W'`, `0 ≤ C' ≤ C`,
    `1 ≤ W' ≤ |W|`, strings and residues inside their allocations) AND a state the next call accepts (so the statement holds along
    every series of windows), `eslEOD` with an empty record carrying `L ≥ 0`, `eslEOF`, `eslEFORMAT` with a message, or - reverse strand
    of a text-mode sequence holding a symbol that is not nucleic - `eslEINVAL` with a message. Never a fault (the slice copied from the
    row lies inside it; every digital code is inside the complement table), no exception, handle invariant kept. -/
theorem msa_readWindow_total (h : MsaH) (sq : Sq) (C W : Int) (hi : Inv h) (hsq : sq.digital = h.o.abc.isSome)
    (hC : 0 ≤ C) (hW0 : W ≠ 0) (hidx : 0 ≤ (adjIdx h sq W).idx)
    (hcomp : W < 0 → sq.digital = true → (sq.abc = 1 ∧ h.o.abc = some .dna) ∨ (sq.abc = 2 ∧ h.o.abc = some .rna))
    (hstate : ∀ t, (nextRow (adjIdx h sq W)).2.1 = some t →
        (0 < W → FwdState sq.n sq.start sq.end_ t.L) ∧ (W < 0 → RevState sq.n sq.start sq.end_ sq.L ∧ sq.L = t.L)) :
    Inv (MsaSeq.readWindow h sq C W).1 ∧ (MsaSeq.readWindow h sq C W).1.o = h.o ∧ (MsaSeq.readWindow h sq C W).1.exc = h.exc ∧
    (((MsaSeq.readWindow h sq C W).2.2 = .ok ∧ (MsaSeq.readWindow h sq C W).2.1.digital = sq.digital ∧
        (∃ c w, WinWF c w (MsaSeq.readWindow h sq C W).2.1 ∧ 0 ≤ c ∧ c ≤ C ∧ 1 ≤ w ∧ (0 < W → w ≤ W) ∧ (W < 0 → w ≤ -W)) ∧
        (∃ t, (nextRow (adjIdx h sq W)).2.1 = some t ∧
          (0 < W → FwdState (MsaSeq.readWindow h sq C W).2.1.n (MsaSeq.readWindow h sq C W).2.1.start (MsaSeq.readWindow h sq C W).2.1.end_ t.L) ∧
          (W < 0 → RevState (MsaSeq.readWindow h sq C W).2.1.n (MsaSeq.readWindow h sq C W).2.1.start (MsaSeq.readWindow h sq C W).2.1.end_
                      (MsaSeq.readWindow h sq C W).2.1.L ∧ (MsaSeq.readWindow h sq C W).2.1.L = t.L))) ∨
     ((MsaSeq.readWindow h sq C W).2.2 = .eod ∧ (MsaSeq.readWindow h sq C W).2.1.seq = #[] ∧ (MsaSeq.readWindow h sq C W).2.1.start = 0 ∧
        (MsaSeq.readWindow h sq C W).2.1.end_ = 0 ∧ 0 ≤ (MsaSeq.readWindow h sq C W).2.1.L) ∨
     (MsaSeq.readWindow h sq C W).2.2 = .eof ∨
     ((MsaSeq.readWindow h sq C W).2.2 = .eformat ∧ (MsaSeq.readWindow h sq C W).1.haveErr = true) ∨
     (W < 0 ∧ sq.digital = false ∧ (MsaSeq.readWindow h sq C W).2.2 = .einval ∧ (MsaSeq.readWindow h sq C W).1.haveErr = true)) :=
  MsaSeq.readWindow_total h sq C W hi (modeOk_every h.o) hsq hC hW0 hidx hcomp hstate

open EaselModel.Sqio.MsaSeq EaselModel.Msafile in
/-- non-vacuity of the window hypotheses on the executable model (`# STOCKHOLM 1.0\ns1 ACGU-ACGUAC\n//\n`, RNA): the fresh `ESL_SQ` is a
    forward state; the first window of 4 holds `ACGU`; after `eslEOD` the first reverse window `C=0 W=-3` holds residues `10..8`
    reverse-complemented (`G U A` = codes 2 3 0) with no context and 3 new residues (the state of `msa_rev_window_old_illformed`) -/
example :
    let file : Sqio.Bytes := (str "# STOCKHOLM 1.0\ns1 ACGU-ACGUAC\n//\n").toArray
    ∃ h, (openMsa file (str "t.sto") (.decl .stockholm) 2).1 = some h ∧
      (MsaSeq.readWindow h (freshSq 2) 0 4).2.2 = .ok ∧ (MsaSeq.readWindow h (freshSq 2) 0 4).2.1.seq = #[0, 1, 2, 3] ∧
      (let r1 := MsaSeq.readWindow h (freshSq 2) 0 100
       let r2 := MsaSeq.readWindow r1.1 r1.2.1 0 100
       let r3 := MsaSeq.readWindow r2.1 r2.2.1 0 (-3)
       r2.2.2 = .eod ∧ r3.2.2 = .ok ∧ r3.2.1.seq = #[2, 3, 0] ∧ r3.2.1.start = 10 ∧ r3.2.1.end_ = 8 ∧ r3.2.1.C = 0 ∧ r3.2.1.W = 3) := by
  decide +kernel

open EaselModel.Sqio.MsaSeq EaselModel.Msafile in
/-- **`sqascii_ReadBlock` (whole-sequence mode) on an alignment file is total, for every byte string**: from a handle satisfying the
    invariant and a block whose slots are `ESL_SQ`s of the handle's mode (`esl_sq_CreateBlock` / `esl_sq_CreateDigitalBlock`): `eslOK`
    with a complete block, `eslEOF` (nothing could be read), or `eslEFORMAT` with a message - never a fault, no exception, in any of the
    `sqascii_Read` calls it makes; slots and handle invariant are kept (so the statement holds for every series of blocks). -/
theorem msa_readBlock_total (h : MsaH) (b : Block) (maxSeq : Int) (hi : Inv h) (hidx : 0 ≤ h.idx)
    (hs : SlotsOk h.o b.list) (hls : b.listSize ≤ b.list.size) :
    Inv (MsaSeq.readBlock h b maxSeq).1 ∧ (MsaSeq.readBlock h b maxSeq).1.o = h.o ∧ (MsaSeq.readBlock h b maxSeq).1.exc = h.exc ∧
    0 ≤ (MsaSeq.readBlock h b maxSeq).1.idx ∧ SlotsOk h.o (MsaSeq.readBlock h b maxSeq).2.1.list ∧
    (((MsaSeq.readBlock h b maxSeq).2.2 = .ok ∧ (MsaSeq.readBlock h b maxSeq).2.1.complete = true) ∨ (MsaSeq.readBlock h b maxSeq).2.2 = .eof ∨
     ((MsaSeq.readBlock h b maxSeq).2.2 = .eformat ∧ (MsaSeq.readBlock h b maxSeq).1.haveErr = true)) :=
  MsaSeq.readBlock_total h b maxSeq hi (modeOk_every h.o) hidx hs hls

open EaselModel.Sqio.MsaSeq EaselModel.Msafile in
/-- **`esl_sqfile_GuessAlphabet` on an alignment file is total** (it hands the file to `esl_msafile_GuessAlphabet`, which looks at the
    lines not yet read and keeps the read position): an alphabet type or `eslENOALPHABET`, never a fault - for every handle, i.e. every
    format, name width and remaining input -/
theorem msa_guessAlphabet_total (h : MsaH) :
    (∃ t, guessAlphabet h.o.fmt h.o.namewidth h.lines = .ok t) ∨ guessAlphabet h.o.fmt h.o.namewidth h.lines = .fail :=
  MsaSeq.guessAlphabet_total h

open EaselModel.Sqio.MsaSeq EaselModel.Msafile in
/-- non-vacuity: a block of two fresh RNA slots over the two-row Stockholm file: both rows come back dealigned, the block is complete -/
example :
    let file : Sqio.Bytes := (str "# STOCKHOLM 1.0\ns1 AC-GU\ns2 -CCC-\n//\n").toArray
    ∃ h, (openMsa file (str "t.sto") (.decl .stockholm) 2).1 = some h ∧
      (MsaSeq.readBlock h { listSize := 2, list := #[freshSq 2, freshSq 2] } (-1)).2.2 = .ok ∧
      (MsaSeq.readBlock h { listSize := 2, list := #[freshSq 2, freshSq 2] } (-1)).2.1.count = 2 ∧
      ((MsaSeq.readBlock h { listSize := 2, list := #[freshSq 2, freshSq 2] } (-1)).2.1.list.map (·.seq)) = #[#[0, 1, 2, 3], #[1, 1, 1]] := by
  decide +kernel

open EaselModel.Sqio.MsaSeq in
example : FwdState (freshSq 2).n (freshSq 2).start (freshSq 2).end_ 10 ∧ RevState (freshSq 2).n (freshSq 2).start (freshSq 2).end_ 10 :=
  ⟨Or.inl ⟨rfl, rfl, rfl⟩, Or.inl ⟨rfl, rfl, rfl⟩⟩

open EaselModel.Sqio.MsaSeq in
/-- the arithmetic `revCoordsOld` (`C = MIN(n, end + C − 1)`, `start = MAX(1, end + W − C − 1)`) on the fresh state after `eslEOD`
    with `L = 10`, `C = 0`, `W = -3`: context `-1`, 4 residues, "5 new" - and what the code (`revCoords`) computes there: residues
    `8..10`, no context, 3 new -/
theorem msa_rev_window_old_illformed :
    revCoordsOld 0 0 0 10 0 (-3) = (-1, 7, 10, 4, 5) ∧ revCoords 0 0 0 10 0 (-3) = (0, 8, 10, 3, 3) :=
  ⟨revCoordsOld_illformed, revCoords_witness⟩

open EaselModel.Sqio.MsaSeq EaselModel.Msafile in
/-- non-vacuity on the executable model: the Stockholm file `# STOCKHOLM 1.0\ns1 AC-GU\n//\n` opened as RNA: the handle satisfies the
    hypotheses, the first `sqascii_Read` returns `ACGU` dealigned (codes 0 1 2 3), the second `eslEOF` -/
example :
    let file : Sqio.Bytes := (str "# STOCKHOLM 1.0\ns1 AC-GU\n//\n").toArray
    ∃ h, (openMsa file (str "t.sto") (.decl .stockholm) 2).1 = some h ∧ 0 ≤ h.idx ∧
      (MsaSeq.read h (freshSq 2)).2.2 = .ok ∧ (MsaSeq.read h (freshSq 2)).2.1.seq = #[0, 1, 2, 3] ∧
      (MsaSeq.read (MsaSeq.read h (freshSq 2)).1 (freshSq 2)).2.2 = .eof := by
  decide +kernel

open EaselModel.Sqio.BodySpec EaselModel.Sqio.EmblAll EaselModel.Sqio.EmblTotalAll in
/-- **every history of whole-record calls on a line-based file is total**: from `esl_sqfile_Open` on (`openLine`), for EVERY
    byte string, every block size `B ≥ 1` and EVERY list `cs` of calls (`false` = `sqascii_Read`, `true` = `sqascii_ReadSequence`, each on
    the reused `ESL_SQ`, stopping at the first status that is not `eslOK`): the series ends with `eslOK` (all succeeded), `eslEOF`, or
    `eslEFORMAT` with a message - never a fault, no exception. -/
theorem linebased_history_total (file : Sqio.Bytes) (B abc fmt : Nat) (eofOk : Bool) (inmap0 inmap1 : Sqio.Bytes) (hB : 1 ≤ B)
    (hf : fmt = 2 ∨ fmt = 3 ∨ fmt = 4 ∨ fmt = 5) (hm : inmap1.size = 128) (sq : Sq)
    (hmap : MapOk inmap1 (if sq.digital then abcInmap sq.abc else inmap1)) (cs : List Bool) :
    ((runCalls cs (openLine file B abc fmt eofOk inmap0 inmap1) sq).2 = .ok ∨
     (runCalls cs (openLine file B abc fmt eofOk inmap0 inmap1) sq).2 = .eof ∨
     (runCalls cs (openLine file B abc fmt eofOk inmap0 inmap1) sq).2 = .eformat) ∧
    ((runCalls cs (openLine file B abc fmt eofOk inmap0 inmap1) sq).2 = .eformat →
      (runCalls cs (openLine file B abc fmt eofOk inmap0 inmap1) sq).1.haveErr = true) ∧
    (runCalls cs (openLine file B abc fmt eofOk inmap0 inmap1) sq).1.exc = false :=
  runCalls_open_total file B abc fmt eofOk inmap0 inmap1 hB hf hm sq hmap cs

end EaselModel.Props.C02
