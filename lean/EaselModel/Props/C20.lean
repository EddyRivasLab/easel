import EaselModel.Simd.Lemmas
import EaselModel.Simd.LogExpLemmas
import EaselModel.Simd.RealLanes
import EaselModel.Vec.Real
import EaselModel.Vec.XReal
import EaselModel.Vec.Rounded
import EaselModel.Vec.Kahan
import EaselModel.Vec.Mat
import EaselModel.Vec.GenOrder
import EaselModel.Vec.CompareReal
import EaselModel.Vec.GenFloat
import EaselModel.Vec.GenReal
import EaselModel.Vec.GenRet
/-! # C20 — vector and SIMD numeric kernels compute their definition for every input

Property theorems only (proofs are glue on the lemmas of `Simd/Lemmas.lean`, `Simd/LogExpLemmas.lean`, `Vec/Real.lean`, `Vec/XReal.lean`).

* Part A (`Gen.*` = the helper inlines of esl_sse.h / esl_avx.h / esl_avx512.h, REGENERATED from the working tree on every
  run by translate/simd2lean.py; intrinsics = the reviewed table `Simd/Intrinsics.lean`): every helper equals the scalar
  loop over its lanes, for EVERY lane pattern.  Integer lanes are arbitrary `BitVec`s; float lanes are an arbitrary type with
  arbitrary operations `O` (so the statements hold in particular for IEEE-754 binary32 including NaN, as far as the
  intrinsic table defines it); the reductions are "= the scalar left-to-right loop" under associativity+commutativity of
  the operation (true of real addition / of max on a NaN-free order; float addition is not associative, so for binary32 the
  statement that holds is a fixed shuffle tree; it is checked bit-for-bit by the differential run and bounded by a monitor).
* Part B (`Gen.esl_sse_logf_lane`, `Gen.esl_sse_expf_lane` regenerated from esl_sse.c): documented special values for all
  2^32 bit patterns, for ANY float arithmetic `L`.  NOT a theorem (measured, see evidence): "within a few ulp of libm
  elsewhere" — the comment after `expf_nan` below keeps the unproved part of the statement visible.
* Part C (hand model `Vec/Model.lean`, tied by the differential run): the routines over ℝ / any linear order.
* Part D (`Vec.Gen.*` = the routines of esl_vectorops.c / esl_matrixops.c REGENERATED by translate/vec2lean.py; lemmas in
  `Vec/GenLemmas.lean` … `Vec/GenRet.lean`): the regenerated routines are the hand model of part C for every element type, so part
  C's theorems hold of the code as translated; integer routines exact over ℤ while representable. -/
namespace EaselModel.Props.C20
open EaselModel.Simd EaselModel.Simd.Gen EaselModel.Simd.Spec EaselModel.Vec

theorem sse_hmax_epu8 (a : Vector (BitVec 8) 16) : (esl_sse_hmax_epu8 a).toNat = hmaxU a := Simd.sse_hmax_epu8 a
theorem sse_hmax_epi8 (a : Vector (BitVec 8) 16) : (esl_sse_hmax_epi8 a).toInt = hmaxS a := Simd.sse_hmax_epi8 a
theorem sse_hmax_epi16 (a : Vector (BitVec 16) 8) : (esl_sse_hmax_epi16 a).toInt = hmaxS a := Simd.sse_hmax_epi16 a
theorem avx_hmax_epu8 (a : Vector (BitVec 8) 32) : (esl_avx_hmax_epu8 a).toNat = hmaxU a := Simd.avx_hmax_epu8 a
theorem avx_hmax_epi8 (a : Vector (BitVec 8) 32) : (esl_avx_hmax_epi8 a).toInt = hmaxS a := Simd.avx_hmax_epi8 a
theorem avx_hmax_epi16 (a : Vector (BitVec 16) 16) : (esl_avx_hmax_epi16 a).toInt = hmaxS a := Simd.avx_hmax_epi16 a
theorem avx512_hmax_epu8 (a : Vector (BitVec 8) 64) : (esl_avx512_hmax_epu8 a).toNat = hmaxU a := Simd.avx512_hmax_epu8 a
theorem avx512_hmax_epi8 (a : Vector (BitVec 8) 64) : (esl_avx512_hmax_epi8 a).toInt = hmaxS a := Simd.avx512_hmax_epi8 a
theorem avx512_hmax_epi16 (a : Vector (BitVec 16) 32) : (esl_avx512_hmax_epi16 a).toInt = hmaxS a := Simd.avx512_hmax_epi16 a

/-- what `hmaxU` / `hmaxS` (the scalar loops) are: an upper bound of every lane that is attained by a lane -/
theorem hmaxU_spec {w n : Nat} (a : Vector (BitVec w) n) :
    (∀ i : Fin n, a[i].toNat ≤ hmaxU a) ∧ (0 < n → ∃ i : Fin n, hmaxU a = a[i].toNat) := Simd.hmaxU_spec a
theorem hmaxS_spec {w n : Nat} (a : Vector (BitVec w) n) :
    (∀ i : Fin n, a[i].toInt ≤ hmaxS a) ∧ (0 < n → ∃ i : Fin n, hmaxS a = a[i].toInt) := Simd.hmaxS_spec a

example : hmaxU (Vector.ofFn (n := 16) fun i => BitVec.ofNat 8 (if i.val = 13 then 255 else i.val)) = 255 := by decide
example : hmaxS (Vector.ofFn (n := 8) fun i => BitVec.ofNat 16 (if i.val = 5 then 0x8001 else 0x8000)) = -32767 := by decide

section
variable {α : Type} (O : F32Ops α)
theorem sse_hsum_ps (hc : ∀ x y, O.add x y = O.add y x) (ha : ∀ x y z, O.add (O.add x y) z = O.add x (O.add y z)) (a : Vector α 4) :
    esl_sse_hsum_ps O a = foldLanes O.add O.zero a := Simd.sse_hsum_ps O hc ha a
theorem avx_hsum_ps (hc : ∀ x y, O.add x y = O.add y x) (ha : ∀ x y z, O.add (O.add x y) z = O.add x (O.add y z)) (a : Vector α 8) :
    esl_avx_hsum_ps O a = foldLanes O.add O.zero a := Simd.avx_hsum_ps O hc ha a
theorem avx512_hsum_ps (hc : ∀ x y, O.add x y = O.add y x) (ha : ∀ x y z, O.add (O.add x y) z = O.add x (O.add y z)) (a : Vector α 16) :
    esl_avx512_hsum_ps O a = foldLanes O.add O.zero a := Simd.avx512_hsum_ps O hc ha a
theorem sse_hmax_ps (hc : ∀ x y, O.max x y = O.max y x) (ha : ∀ x y z, O.max (O.max x y) z = O.max x (O.max y z)) (a : Vector α 4) :
    esl_sse_hmax_ps O a = foldLanes O.max O.zero a := Simd.sse_hmax_ps O hc ha a
theorem sse_hmin_ps (hc : ∀ x y, O.min x y = O.min y x) (ha : ∀ x y z, O.min (O.min x y) z = O.min x (O.min y z)) (a : Vector α 4) :
    esl_sse_hmin_ps O a = foldLanes O.min O.zero a := Simd.sse_hmin_ps O hc ha a
end

/-- lanes read as reals (exact `+`, NaN-free order): the horizontal sum is the sum of the lanes, hmax/hmin the max/min -/
theorem sse_hsum_ps_real (a : Vector ℝ 4) : esl_sse_hsum_ps realOps a = (List.ofFn fun i : Fin 4 => a[i]).sum := Simd.sse_hsum_ps_real a
theorem avx_hsum_ps_real (a : Vector ℝ 8) : esl_avx_hsum_ps realOps a = (List.ofFn fun i : Fin 8 => a[i]).sum := Simd.avx_hsum_ps_real a
theorem avx512_hsum_ps_real (a : Vector ℝ 16) : esl_avx512_hsum_ps realOps a = (List.ofFn fun i : Fin 16 => a[i]).sum := Simd.avx512_hsum_ps_real a
theorem sse_hmax_ps_real (a : Vector ℝ 4) : esl_sse_hmax_ps realOps a = max (max (max a[0] a[1]) a[2]) a[3] := Simd.sse_hmax_ps_real a
theorem sse_hmin_ps_real (a : Vector ℝ 4) : esl_sse_hmin_ps realOps a = min (min (min a[0] a[1]) a[2]) a[3] := Simd.sse_hmin_ps_real a

/-- non-vacuity of the AC hypotheses: integers with `+`, `max`, `min` -/
def intOps : F32Ops Int := { add := (· + ·), max := max, min := min, gt := fun a b => decide (a > b), zero := 0, ones := -1, msb := fun a => decide (a < 0) }
example : esl_sse_hsum_ps intOps #v[1, 2, 3, 4] = 10 := by
  rw [sse_hsum_ps intOps (fun x y => Int.add_comm x y) (fun x y z => Int.add_assoc x y z)]; decide
example : esl_avx512_hsum_ps intOps (Vector.ofFn fun i => (i.val : Int)) = 120 := by
  rw [avx512_hsum_ps intOps (fun x y => Int.add_comm x y) (fun x y z => Int.add_assoc x y z)]; decide

theorem sse_any_gt_epu8 (a b : Vector (BitVec 8) 16) : esl_sse_any_gt_epu8 a b = anyGtU a b := Simd.sse_any_gt_epu8 a b
theorem sse_any_gt_epi16 (a b : Vector (BitVec 16) 8) : esl_sse_any_gt_epi16 a b = anyGtS a b := Simd.sse_any_gt_epi16 a b
theorem avx_any_gt_epi16 (a b : Vector (BitVec 16) 16) : esl_avx_any_gt_epi16 a b = anyGtS a b := Simd.avx_any_gt_epi16 a b
theorem sse_any_gt_ps {α : Type} (O : F32Ops α) (h1 : O.msb O.ones = true) (h0 : O.msb O.zero = false) (a b : Vector α 4) :
    esl_sse_any_gt_ps O a b = anyGtF O a b := Simd.sse_any_gt_ps O h1 h0 a b
example : intOps.msb intOps.ones = true ∧ intOps.msb intOps.zero = false := by decide
example : F32.ops.msb F32.ops.ones = true ∧ F32.ops.msb F32.ops.zero = false := by decide

section
variable {α : Type} (O : F32Ops α)
theorem sse_select_ps (a b mask : Vector α 4) :
    esl_sse_select_ps O a b mask = select O.zero (fun z => O.msb (lane mask O.zero z)) a b := Simd.sse_select_ps O a b mask
theorem sse_rightshiftz_float (a : Vector α 4) : esl_sse_rightshiftz_float O a = shiftRight O.zero a := Simd.sse_rightshiftz_float O a
theorem sse_leftshiftz_float (a : Vector α 4) : esl_sse_leftshiftz_float O a = shiftLeft O.zero a := Simd.sse_leftshiftz_float O a
theorem avx_rightshiftz_float (a : Vector α 8) : esl_avx_rightshiftz_float O a = shiftRight O.zero a := Simd.avx_rightshiftz_float O a
theorem avx_leftshiftz_float (a : Vector α 8) : esl_avx_leftshiftz_float O a = shiftLeft O.zero a := Simd.avx_leftshiftz_float O a
theorem avx512_rightshiftz_float (a : Vector α 16) : esl_avx512_rightshiftz_float O a = shiftRight O.zero a := Simd.avx512_rightshiftz_float O a
theorem avx512_leftshiftz_float (a : Vector α 16) : esl_avx512_leftshiftz_float O a = shiftLeft O.zero a := Simd.avx512_leftshiftz_float O a
theorem sse_rightshift_ps (a b : Vector α 4) : esl_sse_rightshift_ps O a b = shiftRight (lane b O.zero 0) a := Simd.sse_rightshift_ps O a b
theorem sse_leftshift_ps (a b : Vector α 4) : esl_sse_leftshift_ps O a b = shiftLeft (lane b O.zero 0) a := Simd.sse_leftshift_ps O a b
end
/-- `{ a0 .. a14 a15 }`, mask `{ -inf, 0 .. 0 }`  ↦  `{ -inf, a0 .. a14 }` (stated for any mask: lanes are OR-ed) -/
theorem sse_rightshift_int8 (a m : Vector (BitVec 8) 16) : esl_sse_rightshift_int8 a m = or_si (shiftRight 0 a) m := Simd.sse_rightshift_int8 a m
theorem sse_rightshift_int16 (a m : Vector (BitVec 16) 8) : esl_sse_rightshift_int16 a m = or_si (shiftRight 0 a) m := Simd.sse_rightshift_int16 a m
theorem avx_rightshift_int8 (a m : Vector (BitVec 8) 32) : esl_avx_rightshift_int8 a m = or_si (shiftRight 0 a) m := Simd.avx_rightshift_int8 a m
theorem avx_rightshift_int16 (a m : Vector (BitVec 16) 16) : esl_avx_rightshift_int16 a m = or_si (shiftRight 0 a) m := Simd.avx_rightshift_int16 a m
theorem avx512_rightshift_int8 (a m : Vector (BitVec 8) 64) : esl_avx512_rightshift_int8 a m = or_si (shiftRight 0 a) m := Simd.avx512_rightshift_int8 a m
theorem avx512_rightshift_int16 (a m : Vector (BitVec 16) 32) : esl_avx512_rightshift_int16 a m = or_si (shiftRight 0 a) m := Simd.avx512_rightshift_int16 a m

/-- with the documented mask `{ -inf, 0, …, 0 }` the integer right shifts fill lane 0 with `-inf`: `{ -inf, a0 … a(n-2) }` -/
theorem rightshift_fill {w n : Nat} (a : Vector (BitVec w) n) (fill : BitVec w) :
    or_si (shiftRight 0 a) (Vector.ofFn fun i => if i.val = 0 then fill else 0) = shiftRight fill a := Simd.rightshift_fill a fill

/-- sign bit set (negative numbers, -0, -inf, negative-signed NaN) ↦ the all-ones pattern, a NaN -/
theorem logf_negative (L : Lane32Ops) (x : UInt32) (h : 2 ^ 31 ≤ x.toNat) : esl_sse_logf_lane L x = 0xFFFFFFFF := Simd.logf_negative L x h
/-- +0 and positive subnormals (biased exponent 0) ↦ -inf -/
theorem logf_zero_subnormal (L : Lane32Ops) (x : UInt32) (h : x.toNat < 2 ^ 23) : esl_sse_logf_lane L x = 0xff800000 := Simd.logf_zero_subnormal L x h
/-- +inf ↦ +inf, positive NaN ↦ itself -/
theorem logf_inf_nan (L : Lane32Ops) (x : UInt32) (hs : x.toNat < 2 ^ 31) (he : x.toNat / 2 ^ 23 % 256 = 255) :
    esl_sse_logf_lane L x = x := Simd.logf_inf_nan L x hs he
example : (2 : Nat) ^ 31 ≤ (0x80000000 : UInt32).toNat := by decide                       -- -0
example : (0x007fffff : UInt32).toNat < 2 ^ 23 := by decide                                 -- largest subnormal
example : (0x7f800000 : UInt32).toNat < 2 ^ 31 ∧ (0x7f800000 : UInt32).toNat / 2 ^ 23 % 256 = 255 := by decide  -- +inf

theorem expf_underflow (L : Lane32Ops) (x : UInt32) (h : L.le x expf_minlogf = true) : esl_sse_expf_lane L x = 0 := Simd.expf_underflow L x h
theorem expf_overflow (L : Lane32Ops) (x : UInt32) (h : L.gt x expf_maxlogf = true) (h2 : L.le x expf_minlogf = false) :
    esl_sse_expf_lane L x = 0x7f800000 := Simd.expf_overflow L x h h2
theorem expf_cutoffs_in_window :
    0x42af5dc3 ≤ expf_maxlogf.toNat ∧ expf_maxlogf.toNat ≤ 0x42b22000 ∧
    0xc2af5dc3 ≤ expf_minlogf.toNat ∧ expf_minlogf.toNat ≤ 0xc2b0c0a5 := Simd.expf_cutoffs_in_window
theorem expf_nan (L : Lane32Ops) (x : UInt32)
    (hsub : ∀ a b, isNaN32 a = true → isNaN32 (L.sub_ps a b) = true)
    (haddL : ∀ a b, isNaN32 a = true → isNaN32 (L.add_ps a b) = true)
    (haddR : ∀ a b, isNaN32 b = true → isNaN32 (L.add_ps a b) = true)
    (hmulL : ∀ a b, isNaN32 a = true → isNaN32 (L.mul_ps a b) = true)
    (hx : isNaN32 x = true) (hgt : L.gt x expf_maxlogf = false) (hle : L.le x expf_minlogf = false) :
    isNaN32 (esl_sse_expf_lane L x) = true := Simd.expf_nan L x hsub haddL haddR hmulL hx hgt hle

/-- non-vacuity of the `expf` hypotheses: an arithmetic record that propagates NaNs and whose comparisons are false on NaN -/
def nanOps : Lane32Ops :=
  { add_ps := fun a b => if isNaN32 a then a else b, sub_ps := fun a _ => a, mul_ps := fun a _ => a,
    cvtepi32_ps := id, cvttps_epi32 := id,
    lt := fun a b => !isNaN32 a && !isNaN32 b && decide (a.toNat < b.toNat),
    gt := fun a b => !isNaN32 a && !isNaN32 b && decide (a.toNat > b.toNat),
    le := fun a b => !isNaN32 a && !isNaN32 b && decide (a.toNat ≤ b.toNat) }
example : isNaN32 0x7fc00000 = true ∧ nanOps.gt 0x7fc00000 expf_maxlogf = false ∧ nanOps.le 0x7fc00000 expf_minlogf = false := by decide
example : isNaN32 (esl_sse_expf_lane nanOps 0x7fc00000) = true :=
  expf_nan nanOps 0x7fc00000 (fun a _ h => h) (fun a b h => by simp [nanOps, h]) (fun a b h => by simp only [nanOps]; split <;> simp_all)
    (fun a _ h => h) (by decide) (by decide) (by decide)
example : nanOps.gt 0xc2b0c0a6 expf_maxlogf = true ∧ nanOps.le 0xc2b0c0a6 expf_minlogf = false := by decide   -- (toy order on patterns)
example : nanOps.le 0x00000000 expf_minlogf = true := by decide

/- FULL STATEMENT of part B not proved (kept visible): for every normal positive `x`, `|esl_sse_logf x - logf x| ≤ few ulp`, and for
   every `minlogf < x ≤ maxlogf`, `|esl_sse_expf x - expf x| ≤ few ulp` (0 accepted where the true result is subnormal). libm and IEEE
   rounding are opaque to the kernel; this part is MEASURED: quick tier on a stratified sample, thorough tier on all 2^32
   patterns × 4 lane positions (evidence field `exhaustive_logf_expf`, `exhaustive: true`). The theorems above are therefore the
   `_partial` form of the property's first sentence: special values proved, ordinary-range accuracy measured. -/

/-- Kahan summation = the exact sum over ℝ -/
theorem sum_eq_real (v : List ℝ) : Vec.sum v = v.sum := Vec.sum_eq_real v
theorem dot_eq_real (v w : List ℝ) : dot v w = (List.zipWith (· * ·) v w).sum := Vec.dot_eq_real v w
section
variable {α : Type} [LinearOrder α] [VOrd α] [LawfulVOrd α]
theorem vmax_spec (v : List α) (h : v ≠ []) : ∃ m, vmax v = some m ∧ m ∈ v ∧ ∀ x ∈ v, x ≤ m := Vec.vmax_spec v h
theorem vmin_spec (v : List α) (h : v ≠ []) : ∃ m, vmin v = some m ∧ m ∈ v ∧ ∀ x ∈ v, m ≤ x := Vec.vmin_spec v h
/-- the FIRST index attaining the maximum -/
theorem argmax_spec (v : List α) (h : v ≠ []) :
    ∃ m, v[argmax v]? = some m ∧ (∀ x ∈ v, x ≤ m) ∧ (∀ (j : Nat) (y : α), j < argmax v → v[j]? = some y → y < m) := Vec.argmax_spec v h
theorem argmin_spec (v : List α) (h : v ≠ []) :
    ∃ m, v[argmin v]? = some m ∧ (∀ x ∈ v, m ≤ x) ∧ (∀ (j : Nat) (y : α), j < argmin v → v[j]? = some y → m < y) := Vec.argmin_spec v h
theorem argmax_nil : argmax ([] : List α) = 0 := rfl
theorem sortIncreasing_spec (v : List α) : (sortIncreasing v).Perm v ∧ (sortIncreasing v).Pairwise (· ≤ ·) := Vec.sortIncreasing_spec v
theorem sortDecreasing_spec (v : List α) : (sortDecreasing v).Perm v ∧ (sortDecreasing v).Pairwise (· ≥ ·) := Vec.sortDecreasing_spec v
end
example : argmax ([1, 3, 3, 2] : List Int) = 1 := by decide
example : argmin ([2, 1, 1] : List Int) = 1 := by decide

theorem norm_of_sum_ne_zero (v : List ℝ) (h : v.sum ≠ 0) : norm v = v.map (· / v.sum) ∧ (norm v).sum = 1 := Vec.norm_of_sum_ne_zero v h
theorem norm_of_sum_zero (v : List ℝ) (h : v.sum = 0) :
    norm v = List.replicate v.length (1 / (v.length : ℝ)) ∧ (v ≠ [] → (norm v).sum = 1) := Vec.norm_of_sum_zero v h
example : ([1, 2, 3] : List ℝ).sum ≠ 0 := by norm_num
example : ([1, -1] : List ℝ).sum = 0 := by norm_num
theorem entropy_eq (p : List ℝ) : entropy p = (p.map fun x => if 0 < x then -(x * Real.logb 2 x) else 0).sum := Vec.entropy_eq p
theorem cdf_spec (v : List ℝ) (h : v ≠ []) : cdf v = some ((List.range v.length).map fun i => (v.take (i + 1)).sum) := Vec.cdf_spec v h
theorem validate_spec (v : List ℝ) (tol : ℝ) (h : v ≠ []) :
    validate v tol = true ↔ (∀ x ∈ v, 0 ≤ x ∧ x ≤ 1) ∧ |v.sum - 1| ≤ tol := Vec.validate_spec v tol h

/-! ## C. log space (extended reals `XR`: -inf, reals, +inf, NaN; the same `logSum` that runs against the C code; the window
    constant of the routine is a parameter: 500 for the double routines, 50 for the float ones) -/
/-- window of `esl_vec_DLogSum` / `esl_vec_FLogSum` -/
def winD : Window := ⟨500, by norm_num⟩
def winF : Window := ⟨50, by norm_num⟩

/-- every entry `-inf` ↦ `-inf`, as the code does (`log 0 + -inf`) -/
theorem logSum_all_ninf [Window] (v : List XR) (hne : v ≠ []) (hv : ∀ x ∈ v, x = XR.ninf) : logSum v = some XR.ninf :=
  Vec.logSum_all_ninf v hne hv
/-- `DLogSum = log Σ exp` over the finite entries, within `n·e^{-500}` (the terms below `max - 500` that the code drops), for
    entries that are `-inf` or any reals — in particular entries hundreds of log units apart -/
theorem logSum_spec (v : List XR) (hv : ∀ x ∈ v, x.isLogP) (hfin : finites v ≠ []) :
    ∃ r : ℝ, @logSum XR (@instVInfXR winD) v = some (XR.fin r) ∧
      |r - Real.log ((finites v).map Real.exp).sum| ≤ v.length * Real.exp (-500) := @Vec.logSum_spec winD v hv hfin
/-- the float routine (window 50): within `n·e^{-50}` -/
theorem logSum_spec_F (v : List XR) (hv : ∀ x ∈ v, x.isLogP) (hfin : finites v ≠ []) :
    ∃ r : ℝ, @logSum XR (@instVInfXR winF) v = some (XR.fin r) ∧
      |r - Real.log ((finites v).map Real.exp).sum| ≤ v.length * Real.exp (-50) := @Vec.logSum_spec winF v hv hfin
theorem logSum_of_max_pinf [Window] (v : List XR) (h : vmax v = some XR.pinf) : logSum v = some XR.pinf := Vec.logSum_of_max_pinf v h
example : (∀ x ∈ [XR.fin (-1000), XR.ninf, XR.fin (-1600)], x.isLogP) ∧ finites [XR.fin (-1000), XR.ninf, XR.fin (-1600)] ≠ [] := by
  constructor
  · intro x hx; simp at hx; rcases hx with h | h | h <;> subst h <;> trivial
  · simp [finites]

/-- `LogNorm` = exact softmax over the reals (`-inf ↦ 0`), summing to 1 -/
theorem logNorm_spec [Window] (v : List XR) (hv : ∀ x ∈ v, x.isLogP) (hfin : finites v ≠ []) :
    logNorm v = some ((softmax v).map XR.fin) ∧ (softmax v).sum = 1 := Vec.logNorm_spec v hv hfin
/-- `RelEntropy`: `+inf` (early return) iff some `p_i > 0` has `q_i = 0`, else `Σ_{p_i>0} p_i log2 (p_i/q_i)` -/
theorem relEntropyGo_spec (p q : List ℝ) (kl : ℝ) :
    relEntropyGo p q kl = if (∃ ab ∈ List.zip p q, 0 < ab.1 ∧ ab.2 = 0) then none else some (kl + (klTerms p q).sum) :=
  Vec.relEntropyGo_spec p q kl

/-- base-2 analogue of `logSum_spec` -/
theorem log2Sum_spec (v : List XR) (hv : ∀ x ∈ v, x.isLogP) (hfin : finites v ≠ []) :
    ∃ r : ℝ, @log2Sum XR (@instVInfXR winD) v = some (XR.fin r) ∧
      |r - Real.logb 2 ((finites v).map fun a => (2 : ℝ) ^ a).sum| ≤ v.length * (2 : ℝ) ^ (-500 : ℝ) / Real.log 2 := @Vec.log2Sum_spec winD v hv hfin
theorem log2Sum_spec_F (v : List XR) (hv : ∀ x ∈ v, x.isLogP) (hfin : finites v ≠ []) :
    ∃ r : ℝ, @log2Sum XR (@instVInfXR winF) v = some (XR.fin r) ∧
      |r - Real.logb 2 ((finites v).map fun a => (2 : ℝ) ^ a).sum| ≤ v.length * (2 : ℝ) ^ (-50 : ℝ) / Real.log 2 := @Vec.log2Sum_spec winF v hv hfin
theorem isum_eq (v : List Int) : isum v = v.sum := Vec.isum_eq v
theorem idot_eq (v w : List Int) : idot v w = (List.zipWith (· * ·) v w).sum := Vec.idot_eq v w

/-! ## C. rounding error (standard model of floating-point arithmetic: `|fl x - x| ≤ u|x|` after every operation; that IEEE
    binary64/32 satisfy it away from overflow/underflow is the trusted fact) -/
/-- `Dot`, evaluated with rounding after every multiplication and addition, is within `((1+u)^(2n) - 1)·Σ|x_i y_i|` of the exact
    dot product (n = length): the "within rounding error" clause for the plain accumulation loops.  (For `Sum` see `kahan_rounding` below; the
    monitor additionally measures `|result - exact| ≤ 3u·Σ|x_i|` on every generated vector.) -/
theorem dot_rounding [Rnd] (v w : List RR) :
    |(dot v w).val - exactDot v w| ≤ ((1 + Rnd.u) ^ (2 * min v.length w.length) - 1) * absDot v w := Vec.dot_rounding v w
/-- **Kahan's compensated summation** (`esl_vec_{D,F}Sum`), with rounding after each of the four operations of the loop body, is
    within `(7u + 19·n·u²)·Σ|x_i|` of the exact sum when `u ≤ 1/64` and `n·u ≤ 1` (binary64: n ≤ 9·10^15): the first-order error
    does not grow with the length — the "compensated summation within rounding error of the exact sum" clause. -/
theorem kahan_rounding [Rnd] (v : List RR) (hu : Rnd.u ≤ 1 / 64) (hn : (v.length : ℝ) * Rnd.u ≤ 1) :
    |(Vec.sum v).val - exactSum v| ≤ (7 * Rnd.u + 19 * v.length * Rnd.u ^ 2) * absSum v := Vec.kahan_rounding v hu hn
/-- non-vacuity: exact arithmetic is a rounding with `u = 0`; so is "round then perturb by at most u" for any u -/
example : Rnd := { fl := id, u := 0, u_nonneg := le_refl _, err := fun x => by simp }

/-! ## C. matrices (esl_matrixops.c): the row pointers `A[i] = A[0] + i*N` tile the `M*N` block exactly — every `A[i][j]` with
    `i < M, j < N` is inside the block, distinct cells are distinct, and every cell of the block is some `A[i][j]`; the flat
    routines (`Set/Scale/Copy/Max`) are the vector routines on the block -/
theorem mat_cell_in_block (M N i j : Nat) (hi : i < M) (hj : j < N) : Mat.cell M N i j = some (i * N + j) := Mat.cell_some M N i j hi hj
theorem mat_cell_inj (N i j i' j' : Nat) (hj : j < N) (hj' : j' < N) (h : i * N + j = i' * N + j') : i = i' ∧ j = j' :=
  Mat.cell_inj N i j i' j' hj hj' h
theorem mat_cell_surj (M N k : Nat) (hk : k < M * N) : ∃ i j, i < M ∧ j < N ∧ Mat.cell M N i j = some k := Mat.cell_surj M N k hk

/-! ## D. the routines of esl_vectorops.c / esl_matrixops.c as REGENERATED from the working tree (`Vec.Gen.*`,
    translate/vec2lean.py): bounds-checked array loops in the `Option` monad (`none` = fault: out-of-bounds access or signed
    overflow).  `int` = `Int32`, `int64_t` = `Int64` with their whole ranges; `v.size` is the `n` argument. -/
section generated
open EaselModel.Vec.Gen

/-- the `int` comparator handed to `qsort` is the three-way comparison of the integer values on ALL of `int` — in particular for
    entries further apart than 2^31, where the idiom `return x1 - x2` is wrong -/
theorem gen_cmp_int (a b : Int32) :
    (qsort_IIncreasing a b < 0 ↔ a.toInt < b.toInt) ∧ (qsort_IIncreasing a b = 0 ↔ a = b) ∧ (0 < qsort_IIncreasing a b ↔ b.toInt < a.toInt) := by
  simpa only [Int32.lt_iff_toInt_lt] using Vec.cmp_incr_spec a b
theorem gen_cmp_int_decr (a b : Int32) :
    (qsort_IDecreasing a b < 0 ↔ b.toInt < a.toInt) ∧ (qsort_IDecreasing a b = 0 ↔ a = b) ∧ (0 < qsort_IDecreasing a b ↔ a.toInt < b.toInt) := by
  simpa only [Int32.lt_iff_toInt_lt] using Vec.cmp_decr_spec a b
theorem gen_cmp_int64 (a b : Int64) :
    (qsort_LIncreasing a b < 0 ↔ a.toInt < b.toInt) ∧ (qsort_LIncreasing a b = 0 ↔ a = b) ∧ (0 < qsort_LIncreasing a b ↔ b.toInt < a.toInt) := by
  have h : qsort_LIncreasing a b = qsort_IIncreasing a b := rfl
  rw [h]; simpa only [Int64.lt_iff_toInt_lt] using Vec.cmp_incr_spec a b
theorem gen_cmp_int64_decr (a b : Int64) :
    (qsort_LDecreasing a b < 0 ↔ b.toInt < a.toInt) ∧ (qsort_LDecreasing a b = 0 ↔ a = b) ∧ (0 < qsort_LDecreasing a b ↔ a.toInt < b.toInt) := by
  have h : qsort_LDecreasing a b = qsort_IDecreasing a b := rfl
  rw [h]; simpa only [Int64.lt_iff_toInt_lt] using Vec.cmp_decr_spec a b

/-- why the comparators must be the three-way `if`: the idiom `return x1 - x2;` (gcc semantics: wrap-around at the element width, then
    truncation to `int`) is the difference of the values only inside a 2^31-wide window; outside it the sign is wrong (`int`) or the
    result is 0 for different entries (`int64_t`).  A tree whose comparators are written that way is translated to exactly these terms,
    and `gen_cmp_int` … `gen_LSortDecreasing` no longer check. -/
theorem cmp_sub_idiom_window (a b : Int32) (c d : Int64) (h : -2147483648 ≤ a.toInt - b.toInt ∧ a.toInt - b.toInt ≤ 2147483647)
    (h' : -2147483648 ≤ c.toInt - d.toInt ∧ c.toInt - d.toInt ≤ 2147483647) :
    Vec.CWrap.toCInt (Vec.CWrap.wsub a b) = a.toInt - b.toInt ∧ Vec.CWrap.toCInt (Vec.CWrap.wsub c d) = c.toInt - d.toInt :=
  ⟨Vec.sub_idiom_window_int a b h, Vec.sub_idiom_window_int64 c d h'⟩
theorem cmp_sub_idiom_wrong :
    (∃ a b : Int32, a < b ∧ 0 < Vec.CWrap.toCInt (Vec.CWrap.wsub a b)) ∧ (∃ a b : Int64, a < b ∧ Vec.CWrap.toCInt (Vec.CWrap.wsub a b) = 0) :=
  ⟨Vec.sub_idiom_wrong_int, Vec.sub_idiom_wrong_int64⟩
example : -2147483648 ≤ (5 : Int32).toInt - (7 : Int32).toInt ∧ (5 : Int32).toInt - (7 : Int32).toInt ≤ 2147483647 := by decide

/-- `esl_vec_{I,L,D,F}Sort{Increasing,Decreasing}`: an ordered permutation, for every vector (`ℝ` for the floating routines) -/
theorem gen_ISortIncreasing (v : Array Int32) :
    ∃ w, esl_vec_ISortIncreasing v v.size = some w ∧ w.toList.Perm v.toList ∧ w.toList.Pairwise (· ≤ ·) := Vec.gen_sortIncreasing v
theorem gen_ISortDecreasing (v : Array Int32) :
    ∃ w, esl_vec_ISortDecreasing v v.size = some w ∧ w.toList.Perm v.toList ∧ w.toList.Pairwise (· ≥ ·) := Vec.gen_sortDecreasing v
theorem gen_LSortIncreasing (v : Array Int64) :
    ∃ w, esl_vec_LSortIncreasing v v.size = some w ∧ w.toList.Perm v.toList ∧ w.toList.Pairwise (· ≤ ·) := Vec.gen_sortIncreasing v
theorem gen_LSortDecreasing (v : Array Int64) :
    ∃ w, esl_vec_LSortDecreasing v v.size = some w ∧ w.toList.Perm v.toList ∧ w.toList.Pairwise (· ≥ ·) := Vec.gen_sortDecreasing v
theorem gen_DSortIncreasing (v : Array ℝ) :
    ∃ w, esl_vec_DSortIncreasing v v.size = some w ∧ w.toList.Perm v.toList ∧ w.toList.Pairwise (· ≤ ·) := Vec.gen_sortIncreasing v
theorem gen_DSortDecreasing (v : Array ℝ) :
    ∃ w, esl_vec_DSortDecreasing v v.size = some w ∧ w.toList.Perm v.toList ∧ w.toList.Pairwise (· ≥ ·) := Vec.gen_sortDecreasing v
theorem gen_FSortIncreasing (v : Array ℝ) :
    ∃ w, esl_vec_FSortIncreasing v v.size = some w ∧ w.toList.Perm v.toList ∧ w.toList.Pairwise (· ≤ ·) := Vec.gen_sortIncreasing v
theorem gen_FSortDecreasing (v : Array ℝ) :
    ∃ w, esl_vec_FSortDecreasing v v.size = some w ∧ w.toList.Perm v.toList ∧ w.toList.Pairwise (· ≥ ·) := Vec.gen_sortDecreasing v
example : (2147483647 : Int32) ≥ (-2147483648 : Int32) := by decide

/-- `Max` / `Min`: for every element type the generated loop IS `vmax` / `vmin` of the list of cells (so it faults exactly on the
    empty vector); on a linear order that is a member of the vector bounding every entry -/
theorem gen_max_eq {α : Type} [CElem α] (v : Array α) :
    esl_vec_IMax v v.size = vmax v.toList ∧ esl_vec_LMax v v.size = vmax v.toList ∧ esl_vec_DMax v v.size = vmax v.toList ∧
      esl_vec_FMax v v.size = vmax v.toList := ⟨Vec.gen_max v, Vec.gen_max v, Vec.gen_max v, Vec.gen_max v⟩
theorem gen_min_eq {α : Type} [CElem α] (v : Array α) :
    esl_vec_IMin v v.size = vmin v.toList ∧ esl_vec_LMin v v.size = vmin v.toList ∧ esl_vec_DMin v v.size = vmin v.toList ∧
      esl_vec_FMin v v.size = vmin v.toList := ⟨Vec.gen_min v, Vec.gen_min v, Vec.gen_min v, Vec.gen_min v⟩
theorem gen_IMax (v : Array Int32) (h : v.size ≠ 0) : ∃ m, esl_vec_IMax v v.size = some m ∧ m ∈ v.toList ∧ ∀ x ∈ v.toList, x ≤ m :=
  Vec.gen_max_spec v h
theorem gen_IMin (v : Array Int32) (h : v.size ≠ 0) : ∃ m, esl_vec_IMin v v.size = some m ∧ m ∈ v.toList ∧ ∀ x ∈ v.toList, m ≤ x :=
  Vec.gen_min_spec v h
theorem gen_LMax (v : Array Int64) (h : v.size ≠ 0) : ∃ m, esl_vec_LMax v v.size = some m ∧ m ∈ v.toList ∧ ∀ x ∈ v.toList, x ≤ m :=
  Vec.gen_max_spec v h
theorem gen_LMin (v : Array Int64) (h : v.size ≠ 0) : ∃ m, esl_vec_LMin v v.size = some m ∧ m ∈ v.toList ∧ ∀ x ∈ v.toList, m ≤ x :=
  Vec.gen_min_spec v h
theorem gen_max_empty {α : Type} [CElem α] : esl_vec_IMax (#[] : Array α) 0 = none := Vec.gen_max #[]
example : (#[1, 2] : Array Int32).size ≠ 0 := by decide

/-- `esl_vec_{I,L}Sum` is wrap-free: if every partial sum is representable the result is the mathematical sum; otherwise the
    routine's behaviour is undefined in C (the model's `none`; UBSan aborts the C side) -/
theorem gen_ISum_exact (v : Array Int32)
    (h : ∀ k, k ≤ v.size → -2147483648 ≤ ((v.toList.take k).map Int32.toInt).sum ∧ ((v.toList.take k).map Int32.toInt).sum ≤ 2147483647) :
    ∃ r, esl_vec_ISum v v.size = some r ∧ r.toInt = (v.toList.map Int32.toInt).sum := Vec.gen_isum_exact v h
theorem gen_LSum_exact (v : Array Int64)
    (h : ∀ k, k ≤ v.size → -9223372036854775808 ≤ ((v.toList.take k).map Int64.toInt).sum ∧ ((v.toList.take k).map Int64.toInt).sum ≤ 9223372036854775807) :
    ∃ r, esl_vec_LSum v v.size = some r ∧ r.toInt = (v.toList.map Int64.toInt).sum := Vec.gen_isum_exact v h
theorem gen_ISum_overflow (v : Array Int32) (k : Nat) (hk : k ≤ v.size)
    (hbad : ¬(-2147483648 ≤ ((v.toList.take k).map Int32.toInt).sum ∧ ((v.toList.take k).map Int32.toInt).sum ≤ 2147483647)) :
    esl_vec_ISum v v.size = none := Vec.gen_isum_overflow v k hk hbad
example : esl_vec_ISum (#[2147483647, -2147483648, 2147483647] : Array Int32) 3 = some 2147483646 := by decide
example : esl_vec_ISum (#[2147483647, 1] : Array Int32) 2 = none := by decide

/-- `esl_vec_{D,F}Sum` as regenerated is the Kahan recurrence `Vec.sum` (to which `sum_eq_real` and `kahan_rounding` apply) -/
theorem gen_DSum {α : Type} [VNum α] (v : Array α) :
    esl_vec_DSum v v.size = some (Vec.sum v.toList) ∧ esl_vec_FSum v v.size = some (Vec.sum v.toList) := ⟨Vec.gen_dsum v, Vec.gen_dsum v⟩
theorem gen_DSum_real (v : Array ℝ) : esl_vec_DSum v v.size = some v.toList.sum := by rw [Vec.gen_dsum, Vec.sum_eq_real]

/-- `ArgMax` / `ArgMin`: for every element type the generated loop (which re-reads `vec[best]`) returns `argmax` / `argmin` of the list
    of cells and never faults; on `int` / `int64_t` that is the FIRST index attaining the extremum -/
theorem gen_argmax_eq {α : Type} [CElem α] (v : Array α) :
    esl_vec_IArgMax v v.size = some (argmax v.toList : Nat) ∧ esl_vec_LArgMax v v.size = some (argmax v.toList : Nat) ∧
    esl_vec_DArgMax v v.size = some (argmax v.toList : Nat) ∧ esl_vec_FArgMax v v.size = some (argmax v.toList : Nat) :=
  ⟨Vec.gen_argmax v, Vec.gen_argmax v, Vec.gen_argmax v, Vec.gen_argmax v⟩
theorem gen_argmin_eq {α : Type} [CElem α] (v : Array α) :
    esl_vec_IArgMin v v.size = some (argmin v.toList : Nat) ∧ esl_vec_LArgMin v v.size = some (argmin v.toList : Nat) ∧
    esl_vec_DArgMin v v.size = some (argmin v.toList : Nat) ∧ esl_vec_FArgMin v v.size = some (argmin v.toList : Nat) :=
  ⟨Vec.gen_argmin v, Vec.gen_argmin v, Vec.gen_argmin v, Vec.gen_argmin v⟩
theorem gen_IArgMax (v : Array Int32) (h : v.size ≠ 0) :
    ∃ (i : Nat) (m : Int32), esl_vec_IArgMax v v.size = some (i : Int) ∧ v.toList[i]? = some m ∧ (∀ x ∈ v.toList, x ≤ m) ∧
      (∀ (j : Nat) (y : Int32), j < i → v.toList[j]? = some y → y < m) :=
  Vec.gen_argmax_first v h
theorem gen_IArgMin (v : Array Int32) (h : v.size ≠ 0) :
    ∃ (i : Nat) (m : Int32), esl_vec_IArgMin v v.size = some (i : Int) ∧ v.toList[i]? = some m ∧ (∀ x ∈ v.toList, m ≤ x) ∧
      (∀ (j : Nat) (y : Int32), j < i → v.toList[j]? = some y → m < y) :=
  Vec.gen_argmin_first v h
theorem gen_LArgMax (v : Array Int64) (h : v.size ≠ 0) :
    ∃ (i : Nat) (m : Int64), esl_vec_LArgMax v v.size = some (i : Int) ∧ v.toList[i]? = some m ∧ (∀ x ∈ v.toList, x ≤ m) ∧
      (∀ (j : Nat) (y : Int64), j < i → v.toList[j]? = some y → y < m) :=
  Vec.gen_argmax_first v h
theorem gen_LArgMin (v : Array Int64) (h : v.size ≠ 0) :
    ∃ (i : Nat) (m : Int64), esl_vec_LArgMin v v.size = some (i : Int) ∧ v.toList[i]? = some m ∧ (∀ x ∈ v.toList, m ≤ x) ∧
      (∀ (j : Nat) (y : Int64), j < i → v.toList[j]? = some y → m < y) :=
  Vec.gen_argmin_first v h
example : esl_vec_IArgMax (#[-2147483648, 2147483647, 2147483647, 0] : Array Int32) 4 = some 1 := by decide
example : esl_vec_LArgMin (#[4294967296, 0, -4294967296, -4294967296] : Array Int64) 4 = some 2 := by decide

/-- `esl_vec_{I,L}Dot` is wrap-free when every product and every partial sum is representable -/
theorem gen_IDot_exact (v w : Array Int32) (hsz : v.size = w.size)
    (hp : ∀ p ∈ v.toList.zip w.toList, -2147483648 ≤ p.1.toInt * p.2.toInt ∧ p.1.toInt * p.2.toInt ≤ 2147483647)
    (h : ∀ k, k ≤ v.size → -2147483648 ≤ (((v.toList.zip w.toList).take k).map fun p => p.1.toInt * p.2.toInt).sum ∧
      (((v.toList.zip w.toList).take k).map fun p => p.1.toInt * p.2.toInt).sum ≤ 2147483647) :
    ∃ r, esl_vec_IDot v w v.size = some r ∧ r.toInt = ((v.toList.zip w.toList).map fun p => p.1.toInt * p.2.toInt).sum :=
  Vec.gen_idot_exact v w hsz hp h
theorem gen_LDot_exact (v w : Array Int64) (hsz : v.size = w.size)
    (hp : ∀ p ∈ v.toList.zip w.toList, -9223372036854775808 ≤ p.1.toInt * p.2.toInt ∧ p.1.toInt * p.2.toInt ≤ 9223372036854775807)
    (h : ∀ k, k ≤ v.size → -9223372036854775808 ≤ (((v.toList.zip w.toList).take k).map fun p => p.1.toInt * p.2.toInt).sum ∧
      (((v.toList.zip w.toList).take k).map fun p => p.1.toInt * p.2.toInt).sum ≤ 9223372036854775807) :
    ∃ r, esl_vec_LDot v w v.size = some r ∧ r.toInt = ((v.toList.zip w.toList).map fun p => p.1.toInt * p.2.toInt).sum :=
  Vec.gen_idot_exact v w hsz hp h
example : esl_vec_IDot (#[65536, 65536] : Array Int32) (#[32767, -32767] : Array Int32) 2 = some 0 := by decide
example : esl_vec_IDot (#[65536] : Array Int32) (#[32768] : Array Int32) 1 = none := by decide
/-- `esl_vec_{D,F}Dot` as regenerated is `Vec.dot` (to which `dot_eq_real` and `dot_rounding` apply) -/
theorem gen_DDot {α : Type} [VNum α] (v w : Array α) (h : v.size = w.size) :
    esl_vec_DDot v w v.size = some (dot v.toList w.toList) ∧ esl_vec_FDot v w v.size = some (dot v.toList w.toList) :=
  ⟨Vec.gen_ddot v w h, Vec.gen_ddot v w h⟩

/-- `Reverse` into separate storage and in place (`rev == vec`): the reversed vector, never a fault; reversing twice is the identity.
    The same C text for `double`, `float`, `int`, `int64_t`, `char`. -/
theorem gen_Reverse {α : Type} [CElem α] (v rev : Array α) (hr : rev.size = v.size) :
    (∃ r, esl_vec_IReverse v rev v.size = some r ∧ r.toList = v.toList.reverse) ∧
    (∃ r, esl_vec_LReverse v rev v.size = some r ∧ r.toList = v.toList.reverse) ∧
    (∃ r, esl_vec_DReverse v rev v.size = some r ∧ r.toList = v.toList.reverse) ∧
    (∃ r, esl_vec_FReverse v rev v.size = some r ∧ r.toList = v.toList.reverse) ∧
    (∃ r, esl_vec_CReverse v rev v.size = some r ∧ r.toList = v.toList.reverse) :=
  ⟨Vec.gen_reverse v rev hr, Vec.gen_reverse v rev hr, Vec.gen_reverse v rev hr, Vec.gen_reverse v rev hr, Vec.gen_reverse v rev hr⟩
theorem gen_Reverse_inplace {α : Type} [CElem α] (v : Array α) :
    (∃ r, esl_vec_IReverse_inplace v v.size = some r ∧ r.toList = v.toList.reverse) ∧
    (∃ r, esl_vec_LReverse_inplace v v.size = some r ∧ r.toList = v.toList.reverse) ∧
    (∃ r, esl_vec_DReverse_inplace v v.size = some r ∧ r.toList = v.toList.reverse) ∧
    (∃ r, esl_vec_FReverse_inplace v v.size = some r ∧ r.toList = v.toList.reverse) ∧
    (∃ r, esl_vec_CReverse_inplace v v.size = some r ∧ r.toList = v.toList.reverse) :=
  ⟨Vec.gen_reverse_inplace v, Vec.gen_reverse_inplace v, Vec.gen_reverse_inplace v, Vec.gen_reverse_inplace v, Vec.gen_reverse_inplace v⟩
theorem gen_Reverse_involution {α : Type} [CElem α] (v : Array α) :
    ∃ r, esl_vec_IReverse_inplace v v.size = some r ∧ r.size = v.size ∧ esl_vec_IReverse_inplace r r.size = some v :=
  Vec.gen_reverse_involution v

/-- element-wise routines as regenerated = the list functions of the hand model (`Set`, `Copy`: any element type; the arithmetic ones:
    any floating type, in particular ℝ) -/
theorem gen_Set {α : Type} [CElem α] (v : Array α) (c : α) :
    (∃ r, esl_vec_ISet v v.size c = some r ∧ r.toList = v.toList.map fun _ => c) ∧ (∃ r, esl_vec_LSet v v.size c = some r ∧ r.toList = v.toList.map fun _ => c) ∧
    (∃ r, esl_vec_DSet v v.size c = some r ∧ r.toList = v.toList.map fun _ => c) ∧ (∃ r, esl_vec_FSet v v.size c = some r ∧ r.toList = v.toList.map fun _ => c) :=
  ⟨Vec.gen_set v c, Vec.gen_set v c, Vec.gen_set v c, Vec.gen_set v c⟩
theorem gen_Copy {α : Type} [CElem α] (src dest : Array α) (hd : dest.size = src.size) :
    (∃ r, esl_vec_ICopy src src.size dest = some r ∧ r.toList = src.toList) ∧ (∃ r, esl_vec_LCopy src src.size dest = some r ∧ r.toList = src.toList) ∧
    (∃ r, esl_vec_DCopy src src.size dest = some r ∧ r.toList = src.toList) ∧ (∃ r, esl_vec_FCopy src src.size dest = some r ∧ r.toList = src.toList) ∧
    (∃ r, esl_vec_WCopy src src.size dest = some r ∧ r.toList = src.toList) ∧ (∃ r, esl_vec_BCopy src src.size dest = some r ∧ r.toList = src.toList) :=
  ⟨Vec.gen_copy src dest hd, Vec.gen_copy src dest hd, Vec.gen_copy src dest hd, Vec.gen_copy src dest hd, Vec.gen_copy src dest hd, Vec.gen_copy src dest hd⟩
theorem gen_Scale {α : Type} [VNum α] (v : Array α) (s : α) :
    (∃ r, esl_vec_DScale v v.size s = some r ∧ r.toList = scale v.toList s) ∧ (∃ r, esl_vec_FScale v v.size s = some r ∧ r.toList = scale v.toList s) :=
  ⟨Vec.gen_scale v s, Vec.gen_scale v s⟩
theorem gen_Increment {α : Type} [VNum α] (v : Array α) (x : α) :
    (∃ r, esl_vec_DIncrement v v.size x = some r ∧ r.toList = increment v.toList x) ∧
    (∃ r, esl_vec_FIncrement v v.size x = some r ∧ r.toList = increment v.toList x) := ⟨Vec.gen_increment v x, Vec.gen_increment v x⟩
theorem gen_Add {α : Type} [VNum α] (v w : Array α) (hw : w.size = v.size) :
    (∃ r, esl_vec_DAdd v w v.size = some r ∧ r.toList = add v.toList w.toList) ∧ (∃ r, esl_vec_FAdd v w v.size = some r ∧ r.toList = add v.toList w.toList) :=
  ⟨Vec.gen_add v w hw, Vec.gen_add v w hw⟩
theorem gen_AddScaled {α : Type} [VNum α] (v w : Array α) (c : α) (hw : w.size = v.size) :
    (∃ r, esl_vec_DAddScaled v w c v.size = some r ∧ r.toList = addScaled v.toList w.toList c) ∧
    (∃ r, esl_vec_FAddScaled v w c v.size = some r ∧ r.toList = addScaled v.toList w.toList c) := ⟨Vec.gen_addScaled v w c hw, Vec.gen_addScaled v w c hw⟩
example : (#[1, 2] : Array Int32).size = (#[5, 6] : Array Int32).size := rfl

/-- esl_matrixops.c: `esl_mat_{D,F,I}{Set,Scale,Copy,Max}` and `esl_mat_{W,B}Copy` are the vector routines on the flat `M*N` block `A[0]` -/
theorem gen_mat_flat {α : Type} [CElem α] (A B : Array α) (M N : Int) (c : α) :
    esl_mat_ISet A M N c = esl_vec_ISet A (M * N) c ∧ esl_mat_IScale A M N c = esl_vec_IScale A (M * N) c ∧
    esl_mat_ICopy A M N B = esl_vec_ICopy A (M * N) B ∧ esl_mat_IMax A M N = esl_vec_IMax A (M * N) ∧
    esl_mat_DSet A M N c = esl_vec_DSet A (M * N) c ∧ esl_mat_DScale A M N c = esl_vec_DScale A (M * N) c ∧
    esl_mat_DCopy A M N B = esl_vec_DCopy A (M * N) B ∧ esl_mat_DMax A M N = esl_vec_DMax A (M * N) ∧
    esl_mat_FSet A M N c = esl_vec_FSet A (M * N) c ∧ esl_mat_FScale A M N c = esl_vec_FScale A (M * N) c ∧
    esl_mat_FCopy A M N B = esl_vec_FCopy A (M * N) B ∧ esl_mat_FMax A M N = esl_vec_FMax A (M * N) ∧
    esl_mat_WCopy A M N B = esl_vec_WCopy A (M * N) B ∧ esl_mat_BCopy A M N B = esl_vec_BCopy A (M * N) B := Vec.gen_mat_flat A B M N c

/-- `esl_vec_{I,L}Compare`: `eslOK` (0) exactly when the two vectors are equal, `eslFAIL` (1) otherwise; full 32 / 64-bit equality of
    every cell (a difference only in the sign bit or only above bit 31 is a difference), never a fault -/
theorem gen_ICompare (v w : Array Int32) (h : v.size = w.size) :
    (v = w → esl_vec_ICompare v w v.size = some 0) ∧ (v ≠ w → esl_vec_ICompare v w v.size = some 1) :=
  Vec.gen_icompare (fun a b => by simp [CElem.eq]) v w h
theorem gen_LCompare (v w : Array Int64) (h : v.size = w.size) :
    (v = w → esl_vec_LCompare v w v.size = some 0) ∧ (v ≠ w → esl_vec_LCompare v w v.size = some 1) :=
  Vec.gen_icompare (fun a b => by simp [CElem.eq]) v w h
example : esl_vec_LCompare (#[0, 4294967296] : Array Int64) (#[0, 0] : Array Int64) 2 = some 1 := by decide
example : esl_vec_ICompare (#[-2147483648] : Array Int32) (#[0] : Array Int32) 1 = some 1 := by decide

/-- `esl_vec_{D,F}Compare` as regenerated is the element-wise test `vcompare` built on the model of `esl_{D,F}Compare_old` (easel.c),
    for any floating type; never a fault -/
theorem gen_DCompare {α : Type} [VCmp α] (v w : Array α) (h : v.size = w.size) (tol : α) :
    esl_vec_DCompare v w v.size tol = some (if vcompare v.toList w.toList tol then 0 else 1) ∧
    esl_vec_FCompare v w v.size tol = some (if vcompare v.toList w.toList tol then 0 else 1) := ⟨Vec.gen_dcompare v w h tol, Vec.gen_dcompare v w h tol⟩
/-- … and over the reals: `eslOK` iff every cognate pair is equal, or one is 0 and the other within `tol`, or the relative difference
    `2|a-b|/|a+b|` is at most `tol` (`closeR`); reflexive; symmetric; `tol = 0` is exact equality -/
theorem gen_DCompare_real (v w : Array ℝ) (h : v.size = w.size) (tol : ℝ) :
    esl_vec_DCompare v w v.size tol = some 0 ↔ ∀ p ∈ v.toList.zip w.toList, Vec.closeR p.1 p.2 tol := by
  rw [Vec.gen_dcompare v w h tol, ← Vec.vcompare_real]
  cases vcompare v.toList w.toList tol <;> simp
theorem compare_real_refl (v : Array ℝ) (tol : ℝ) : esl_vec_DCompare v v v.size tol = some 0 := by
  rw [Vec.gen_dcompare v v rfl tol, Vec.vcompare_self]; rfl
theorem compare_real_symm (a b tol : ℝ) : Vec.closeR a b tol → Vec.closeR b a tol := Vec.closeR_symm a b tol
theorem compare_real_tol_zero (a b : ℝ) : Vec.closeR a b 0 ↔ a = b := Vec.closeR_zero a b
/-- behaviour of the scalar test that its documentation does not spell out (kept visible): two infinities compare equal whatever
    their signs, two NaNs compare equal -/
theorem compareOld_inf_nan {α : Type} [VCmp α] (a b tol : α) :
    (VCmp.isInf a = true → VCmp.isInf b = true → compareOld a b tol = true) ∧
    (VCmp.isInf a = false → VCmp.isNaN a = true → VCmp.isNaN b = true → compareOld a b tol = true) := by
  constructor
  · intro ha hb; simp [compareOld, ha, hb]
  · intro h0 ha hb; simp [compareOld, h0, ha, hb]
example : (#[1, 2] : Array ℝ).size = (#[1, 2] : Array ℝ).size := rfl

/-- `Swap`: the two vectors are exchanged, never a fault (the same C text for the four element types) -/
theorem gen_Swap {α : Type} [CElem α] (v w : Array α) (h : w.size = v.size) :
    (∃ r, esl_vec_ISwap v w v.size = some r ∧ r.1 = w ∧ r.2 = v) ∧ (∃ r, esl_vec_LSwap v w v.size = some r ∧ r.1 = w ∧ r.2 = v) ∧
    (∃ r, esl_vec_DSwap v w v.size = some r ∧ r.1 = w ∧ r.2 = v) ∧ (∃ r, esl_vec_FSwap v w v.size = some r ∧ r.1 = w ∧ r.2 = v) :=
  ⟨Vec.gen_swap v w h, Vec.gen_swap v w h, Vec.gen_swap v w h, Vec.gen_swap v w h⟩

/-- the integer element-wise routines are exact over ℤ as long as every result (and, for `AddScaled`, every product) is representable;
    otherwise the C behaviour is undefined (signed overflow; the model's `none`, UBSan abort) -/
theorem gen_IScale_exact (v : Array Int32) (s : Int32) (h : ∀ x ∈ v.toList, -2147483648 ≤ x.toInt * s.toInt ∧ x.toInt * s.toInt ≤ 2147483647) :
    ∃ r, esl_vec_IScale v v.size s = some r ∧ r.toList.map Int32.toInt = v.toList.map fun x => x.toInt * s.toInt := Vec.gen_iscale_exact v s h
theorem gen_LScale_exact (v : Array Int64) (s : Int64)
    (h : ∀ x ∈ v.toList, -9223372036854775808 ≤ x.toInt * s.toInt ∧ x.toInt * s.toInt ≤ 9223372036854775807) :
    ∃ r, esl_vec_LScale v v.size s = some r ∧ r.toList.map Int64.toInt = v.toList.map fun x => x.toInt * s.toInt := Vec.gen_iscale_exact v s h
theorem gen_IIncrement_exact (v : Array Int32) (x : Int32) (h : ∀ y ∈ v.toList, -2147483648 ≤ y.toInt + x.toInt ∧ y.toInt + x.toInt ≤ 2147483647) :
    ∃ r, esl_vec_IIncrement v v.size x = some r ∧ r.toList.map Int32.toInt = v.toList.map fun y => y.toInt + x.toInt := Vec.gen_iincrement_exact v x h
theorem gen_LIncrement_exact (v : Array Int64) (x : Int64)
    (h : ∀ y ∈ v.toList, -9223372036854775808 ≤ y.toInt + x.toInt ∧ y.toInt + x.toInt ≤ 9223372036854775807) :
    ∃ r, esl_vec_LIncrement v v.size x = some r ∧ r.toList.map Int64.toInt = v.toList.map fun y => y.toInt + x.toInt := Vec.gen_iincrement_exact v x h
theorem gen_IAdd_exact (v w : Array Int32) (hw : w.size = v.size)
    (h : ∀ p ∈ v.toList.zip w.toList, -2147483648 ≤ p.1.toInt + p.2.toInt ∧ p.1.toInt + p.2.toInt ≤ 2147483647) :
    ∃ r, esl_vec_IAdd v w v.size = some r ∧ r.toList.map Int32.toInt = List.zipWith (fun x y => x.toInt + y.toInt) v.toList w.toList :=
  Vec.gen_iadd_exact v w hw h
theorem gen_LAdd_exact (v w : Array Int64) (hw : w.size = v.size)
    (h : ∀ p ∈ v.toList.zip w.toList, -9223372036854775808 ≤ p.1.toInt + p.2.toInt ∧ p.1.toInt + p.2.toInt ≤ 9223372036854775807) :
    ∃ r, esl_vec_LAdd v w v.size = some r ∧ r.toList.map Int64.toInt = List.zipWith (fun x y => x.toInt + y.toInt) v.toList w.toList :=
  Vec.gen_iadd_exact v w hw h
theorem gen_IAddScaled_exact (v w : Array Int32) (c : Int32) (hw : w.size = v.size)
    (hm : ∀ y ∈ w.toList, -2147483648 ≤ y.toInt * c.toInt ∧ y.toInt * c.toInt ≤ 2147483647)
    (h : ∀ p ∈ v.toList.zip w.toList, -2147483648 ≤ p.1.toInt + p.2.toInt * c.toInt ∧ p.1.toInt + p.2.toInt * c.toInt ≤ 2147483647) :
    ∃ r, esl_vec_IAddScaled v w c v.size = some r ∧
      r.toList.map Int32.toInt = List.zipWith (fun x y => x.toInt + y.toInt * c.toInt) v.toList w.toList := Vec.gen_iaddScaled_exact v w c hw hm h
theorem gen_LAddScaled_exact (v w : Array Int64) (c : Int64) (hw : w.size = v.size)
    (hm : ∀ y ∈ w.toList, -9223372036854775808 ≤ y.toInt * c.toInt ∧ y.toInt * c.toInt ≤ 9223372036854775807)
    (h : ∀ p ∈ v.toList.zip w.toList, -9223372036854775808 ≤ p.1.toInt + p.2.toInt * c.toInt ∧ p.1.toInt + p.2.toInt * c.toInt ≤ 9223372036854775807) :
    ∃ r, esl_vec_LAddScaled v w c v.size = some r ∧
      r.toList.map Int64.toInt = List.zipWith (fun x y => x.toInt + y.toInt * c.toInt) v.toList w.toList := Vec.gen_iaddScaled_exact v w c hw hm h
example : esl_vec_IScale (#[1073741823, -1073741824] : Array Int32) 2 2 = some #[2147483646, -2147483648] := by decide
example : esl_vec_IScale (#[1073741824] : Array Int32) 1 2 = none := by decide
example : esl_vec_IAddScaled (#[2147483647, -2147483648] : Array Int32) (#[1, -1] : Array Int32) (-1) 2 = some #[2147483646, -2147483647] := by decide
example : esl_vec_IIncrement (#[2147483647] : Array Int32) 1 1 = none := by decide

/-- esl_matrixops.c: `esl_mat_{D,F,I}Compare` are the vector comparisons on the flat `M*N` block -/
theorem gen_mat_Compare_flat {α : Type} [VCmp α] (A B : Array α) (M N : Int) (tol : α) :
    esl_mat_DCompare A B M N tol = esl_vec_DCompare A B (M * N) tol ∧ esl_mat_FCompare A B M N tol = esl_vec_FCompare A B (M * N) tol ∧
    esl_mat_ICompare A B M N = esl_vec_ICompare A B (M * N) :=
  ⟨(Vec.gen_mat_compare_flat A B M N tol).1, (Vec.gen_mat_compare_flat A B M N tol).2, Vec.gen_mat_icompare_flat A B M N⟩

/-! ### the probability / log-space routines over `double`, as REGENERATED from esl_vectorops.c on every run -/
/-- for every element type with the floating-point operations: the regenerated `esl_vec_D{Exp,Exp2,Log,Log2,Entropy,Norm,LogSum,Log2Sum,
    LogNorm,Log2Norm}` compute the functions of the hand model (to which the real-number theorems of parts B and C apply).  In `gen_DNorm`,
    `gen_DLogSum`, `gen_DLogNorm` below, `hu`, `hw` spell the two places where the hand model uses a class operation for a C sub-expression:
    `1. / (double) n` and `x > max - 500.` -/
theorem gen_DExpLog {α : Type} [VInf α] (v : Array α) :
    (∃ r, esl_vec_DExp v v.size = some r ∧ r.toList = vexp v.toList) ∧ (∃ r, esl_vec_DExp2 v v.size = some r ∧ r.toList = vexp2 v.toList) ∧
    (∃ r, esl_vec_DLog v v.size = some r ∧ r.toList = vlog v.toList) ∧ (∃ r, esl_vec_DLog2 v v.size = some r ∧ r.toList = vlog2 v.toList) :=
  ⟨Vec.gen_DExp v, Vec.gen_DExp2 v, Vec.gen_DLog v, Vec.gen_DLog2 v⟩
theorem gen_DEntropy {α : Type} [VNum α] (v : Array α) : esl_vec_DEntropy v v.size = some (entropy v.toList) := Vec.gen_DEntropy v
theorem gen_DNorm {α : Type} [VNum α] (hu : ∀ n : Nat, (VNum.uniform n : α) = VNum.ofNat 1 / VNum.ofNat n) (v : Array α) :
    ∃ r, esl_vec_DNorm v v.size = some r ∧ r.toList = norm v.toList := Vec.gen_DNorm hu v
theorem gen_DLogSum {α : Type} [VInf α] (hw : ∀ m x : α, VInf.inWindow m x = VOrd.lt (m - VNum.ofNat 500) x) (v : Array α) :
    esl_vec_DLogSum v v.size = logSum v.toList ∧ esl_vec_DLog2Sum v v.size = log2Sum v.toList := ⟨Vec.gen_DLogSum hw v, Vec.gen_DLog2Sum hw v⟩
theorem gen_DLogNorm {α : Type} [VInf α] (hu : ∀ n : Nat, (VNum.uniform n : α) = VNum.ofNat 1 / VNum.ofNat n)
    (hw : ∀ m x : α, VInf.inWindow m x = VOrd.lt (m - VNum.ofNat 500) x) (v : Array α) :
    (esl_vec_DLogNorm v v.size).map Array.toList = logNorm v.toList ∧ (esl_vec_DLog2Norm v v.size).map Array.toList = log2Norm v.toList :=
  ⟨Vec.gen_DLogNorm hu hw v, Vec.gen_DLog2Norm hu hw v⟩

/-! the two hypotheses hold at the real / extended-real instances: `Vec.real_uniform`, `Vec.xr_uniform`, `Vec.xr_window` -/
theorem real_uniform (n : Nat) : (VNum.uniform n : ℝ) = VNum.ofNat 1 / VNum.ofNat n := Vec.real_uniform n
section atWinD
attribute [local instance] winD
theorem xr_uniform (n : Nat) : (VNum.uniform n : XR) = VNum.ofNat 1 / VNum.ofNat n := Vec.xr_uniform n
theorem xr_window (m x : XR) : VInf.inWindow m x = VOrd.lt (m - VNum.ofNat 500) x :=
  Vec.xr_window 500 (by show (500 : ℝ) = ((500 : ℕ) : ℝ); norm_num) m x

/-- the regenerated code meets the real-number specifications: `DNorm` sums to 1, `DEntropy` is `-Σ p log2 p`, `DLogSum` is `log Σ exp`
    within `n e^-500` with `-inf` entries, `DLogNorm` is the softmax -/
theorem gen_DNorm_real (v : Array ℝ) (h : v.toList.sum ≠ 0) :
    ∃ r, esl_vec_DNorm v v.size = some r ∧ r.toList = v.toList.map (· / v.toList.sum) ∧ r.toList.sum = 1 := by
  obtain ⟨r, hr, hl⟩ := Vec.gen_DNorm real_uniform v
  have := Vec.norm_of_sum_ne_zero v.toList h
  exact ⟨r, hr, by rw [hl, this.1], by rw [hl]; exact this.2⟩
theorem gen_DEntropy_real (v : Array ℝ) :
    esl_vec_DEntropy v v.size = some ((v.toList.map fun x => if 0 < x then -(x * Real.logb 2 x) else 0).sum) := by
  rw [Vec.gen_DEntropy, Vec.entropy_eq]
theorem gen_DLogSum_spec (v : Array XR) (hv : ∀ x ∈ v.toList, x.isLogP) (hfin : finites v.toList ≠ []) :
    ∃ r : ℝ, esl_vec_DLogSum v v.size = some (XR.fin r) ∧
      |r - Real.log ((finites v.toList).map Real.exp).sum| ≤ v.toList.length * Real.exp (-500) := by
  rw [Vec.gen_DLogSum xr_window v]; exact Vec.logSum_spec v.toList hv hfin
theorem gen_DLog2Sum_spec (v : Array XR) (hv : ∀ x ∈ v.toList, x.isLogP) (hfin : finites v.toList ≠ []) :
    ∃ r : ℝ, esl_vec_DLog2Sum v v.size = some (XR.fin r) ∧
      |r - Real.logb 2 ((finites v.toList).map fun a => (2 : ℝ) ^ a).sum| ≤ v.toList.length * (2 : ℝ) ^ (-500 : ℝ) / Real.log 2 := by
  rw [Vec.gen_DLog2Sum xr_window v]; exact Vec.log2Sum_spec v.toList hv hfin
/-- all entries `-inf` (and the vector non-empty): the regenerated `DLogSum` returns `-inf`, no NaN from `inf - inf` -/
theorem gen_DLogSum_all_ninf (v : Array XR) (hne : v.toList ≠ []) (hv : ∀ x ∈ v.toList, x = XR.ninf) : esl_vec_DLogSum v v.size = some XR.ninf := by
  rw [Vec.gen_DLogSum xr_window v]; exact Vec.logSum_all_ninf v.toList hne hv
theorem gen_DLogNorm_spec (v : Array XR) (hv : ∀ x ∈ v.toList, x.isLogP) (hfin : finites v.toList ≠ []) :
    (esl_vec_DLogNorm v v.size).map Array.toList = some ((softmax v.toList).map XR.fin) ∧ (softmax v.toList).sum = 1 := by
  rw [Vec.gen_DLogNorm xr_uniform xr_window v]; exact Vec.logNorm_spec v.toList hv hfin
end atWinD
example : (#[1, 2, 3] : Array ℝ).toList.sum ≠ 0 := by norm_num

/-- `esl_vec_{D,F}CDF` as regenerated, over ℝ: output cell `k` is the sum of the first `k+1` inputs — into separate storage and in
    place (`cdf == p`); `n = 0` is outside the routine's domain (it reads `p[0]`: the model faults, as ASan would) -/
theorem gen_DCDF_real (p c : Array ℝ) (hc : c.size = p.size) (h : p.size ≠ 0) :
    (∃ r, esl_vec_DCDF p p.size c = some r ∧ r.size = p.size ∧ ∀ k, k < p.size → r[k]? = some ((p.toList.take (k + 1)).sum)) ∧
    (∃ r, esl_vec_FCDF p p.size c = some r ∧ r.size = p.size ∧ ∀ k, k < p.size → r[k]? = some ((p.toList.take (k + 1)).sum)) :=
  ⟨Vec.gen_dcdf_real p c hc h, Vec.gen_dcdf_real p c hc h⟩
theorem gen_DCDF_inplace_real (p : Array ℝ) (h : p.size ≠ 0) :
    (∃ r, esl_vec_DCDF_inplace p p.size = some r ∧ r.size = p.size ∧ ∀ k, k < p.size → r[k]? = some ((p.toList.take (k + 1)).sum)) ∧
    (∃ r, esl_vec_FCDF_inplace p p.size = some r ∧ r.size = p.size ∧ ∀ k, k < p.size → r[k]? = some ((p.toList.take (k + 1)).sum)) :=
  ⟨Vec.gen_dcdf_inplace_real p h, Vec.gen_dcdf_inplace_real p h⟩
theorem gen_DCDF_empty (c : Array ℝ) : esl_vec_DCDF (#[] : Array ℝ) 0 c = none := rfl
example : (#[0.5, 0.5] : Array ℝ).size ≠ 0 := by decide

/-! ### esl_matrixops.c: what each arithmetic / comparing routine returns on an `M × N` matrix (flat block of `M*N` cells) -/
/-- `esl_mat_{D,F}Scale` multiply every cell by the scalar; `esl_mat_{D,F}Max` return the maximum cell (fault on an empty block, as the
    vector routine); `esl_mat_{D,F}Set` store the value in every cell — never a fault when the block has `M*N` cells -/
theorem gen_mat_spec {α : Type} [VNum α] (A : Array α) (M N : Int) (h : (A.size : Int) = M * N) (s : α) :
    (∃ r, esl_mat_DScale A M N s = some r ∧ r.toList = scale A.toList s) ∧ (∃ r, esl_mat_FScale A M N s = some r ∧ r.toList = scale A.toList s) ∧
    esl_mat_DMax A M N = vmax A.toList ∧ esl_mat_FMax A M N = vmax A.toList ∧
    (∃ r, esl_mat_DSet A M N s = some r ∧ r.toList = A.toList.map fun _ => s) ∧ (∃ r, esl_mat_FSet A M N s = some r ∧ r.toList = A.toList.map fun _ => s) := by
  obtain ⟨_, _, _, _, dSet, dScale, _, dMax, fSet, fScale, _, fMax, _, _⟩ := Vec.gen_mat_flat A A M N s
  refine ⟨?_, ?_, ?_, ?_, ?_, ?_⟩
  · rw [dScale, ← h]; exact (gen_Scale A s).1
  · rw [fScale, ← h]; exact (gen_Scale A s).2
  · rw [dMax, ← h, Vec.max_DI]; exact Vec.gen_max A
  · rw [fMax, ← h, Vec.max_FI]; exact Vec.gen_max A
  · rw [dSet, ← h]; exact (gen_Set A s).2.2.1
  · rw [fSet, ← h]; exact (gen_Set A s).2.2.2
/-- `esl_mat_IScale` is exact over ℤ while every product is representable; `esl_mat_IMax` is the maximum; `esl_mat_ICompare` answers
    `eslOK` (0) exactly for equal matrices and `eslFAIL` (1) otherwise -/
theorem gen_mat_int_spec (A B : Array Int32) (M N : Int) (h : (A.size : Int) = M * N) (hB : A.size = B.size) (s : Int32)
    (hs : ∀ x ∈ A.toList, -2147483648 ≤ x.toInt * s.toInt ∧ x.toInt * s.toInt ≤ 2147483647) :
    (∃ r, esl_mat_IScale A M N s = some r ∧ r.toList.map Int32.toInt = A.toList.map fun x => x.toInt * s.toInt) ∧
    esl_mat_IMax A M N = vmax A.toList ∧
    (A = B → esl_mat_ICompare A B M N = some 0) ∧ (A ≠ B → esl_mat_ICompare A B M N = some 1) := by
  obtain ⟨_, iScale, _, iMax, _⟩ := Vec.gen_mat_flat A A M N s
  refine ⟨?_, ?_, ?_, ?_⟩
  · rw [iScale, ← h]; exact gen_IScale_exact A s hs
  · rw [iMax, ← h]; exact Vec.gen_max A
  · intro e; rw [Vec.gen_mat_icompare_flat A B M N, ← h]; exact (gen_ICompare A B hB).1 e
  · intro e; rw [Vec.gen_mat_icompare_flat A B M N, ← h]; exact (gen_ICompare A B hB).2 e
example : ((#[1, 2, 3, 4, 5, 6] : Array Int32).size : Int) = 2 * 3 := by decide

/-! ### the probability / log-space routines over `float`, as REGENERATED from esl_vectorops.c on every run

The translation keeps the C text's two precisions apart: binary32 cells `α`, and the sub-expressions C's usual arithmetic conversions evaluate
in `double` (`sum != 0.0`, `1. / (float) n`, `vec[i] > 0.`, `vec[i] > max - 50.`, `-1.*denom`) at a second type `ω` (`VMix.widen` exact,
`VMix.narrow` = the one rounding).  The driver runs exactly these definitions at `VMix Float32 Float` against the C functions, bit for bit.
The theorems read them over exact arithmetic, where the two types coincide and both conversions are the identity (`VMix.same`). -/
section genF
attribute [local instance] VMix.same
/-- where the `float` routine's C text is the `double` routine's (up to the libm suffix and a promoted comparison), the two regenerated
    definitions are the same function: `FExp`, `FExp2`, `FLog`, `FLog2`, and — dividing each cell by the Kahan sum, `1/n` cells when the
    sum is zero — `FNorm`; `FEntropy` -/
theorem gen_F_eq_D {α : Type} [VInf α] (v : Array α) (n : Int) :
    esl_vec_FExp v n = esl_vec_DExp v n ∧ esl_vec_FExp2 v n = esl_vec_DExp2 v n ∧ esl_vec_FLog v n = esl_vec_DLog v n ∧
    esl_vec_FLog2 v n = esl_vec_DLog2 v n ∧ esl_vec_FNorm v n = esl_vec_DNorm v n ∧ esl_vec_FEntropy v n = esl_vec_DEntropy v n :=
  ⟨rfl, rfl, rfl, rfl, rfl, rfl⟩
/-- the regenerated `esl_vec_FNorm` performs the DIVISION `vec[i] / sum` on every cell (sum ≠ 0), resp. stores `1/n` (sum = 0) -/
theorem gen_FNorm {α : Type} [VNum α] (hu : ∀ n : Nat, (VNum.uniform n : α) = VNum.ofNat 1 / VNum.ofNat n) (v : Array α) :
    ∃ r, esl_vec_FNorm v v.size = some r ∧ r.toList = norm v.toList ∧
      (VNum.eq (Vec.sum v.toList) (VNum.ofNat 0 : α) = false → r.toList = v.toList.map (· / Vec.sum v.toList)) := by
  obtain ⟨r, hr, hl⟩ := Vec.gen_DNorm hu v
  refine ⟨r, by rw [Vec.norm_FD]; exact hr, hl, fun hz => ?_⟩
  rw [hl]; simp [Vec.norm, hz]
/-- … and so does `esl_vec_DNorm` -/
theorem gen_DNorm_divides {α : Type} [VNum α] (hu : ∀ n : Nat, (VNum.uniform n : α) = VNum.ofNat 1 / VNum.ofNat n) (v : Array α)
    (hz : VNum.eq (Vec.sum v.toList) (VNum.ofNat 0 : α) = false) :
    ∃ r, esl_vec_DNorm v v.size = some r ∧ r.toList = v.toList.map (· / Vec.sum v.toList) := by
  obtain ⟨r, hr, hl⟩ := Vec.gen_DNorm hu v
  exact ⟨r, hr, by rw [hl]; simp [Vec.norm, hz]⟩
theorem gen_FLogSum {α : Type} [VInf α] (hw : ∀ m x : α, VInf.inWindow m x = VOrd.lt (m - VNum.ofNat 50) x) (v : Array α) :
    esl_vec_FLogSum v v.size = logSum v.toList ∧ esl_vec_FLog2Sum v v.size = log2Sum v.toList := ⟨Vec.gen_FLogSum hw v, Vec.gen_FLog2Sum hw v⟩
theorem gen_FLogNorm {α : Type} [VInf α] (hu : ∀ n : Nat, (VNum.uniform n : α) = VNum.ofNat 1 / VNum.ofNat n)
    (hw : ∀ m x : α, VInf.inWindow m x = VOrd.lt (m - VNum.ofNat 50) x) (v : Array α) :
    (esl_vec_FLogNorm v v.size).map Array.toList = logNorm v.toList ∧ (esl_vec_FLog2Norm v v.size).map Array.toList = log2Norm v.toList :=
  ⟨Vec.gen_FLogNorm hu hw v, Vec.gen_FLog2Norm hu hw v⟩

/-- over the reals: `FNorm` divides every cell by the sum and the result sums to 1; `FEntropy` is `-Σ p log2 p` -/
theorem gen_FNorm_real (v : Array ℝ) (h : v.toList.sum ≠ 0) :
    ∃ r, esl_vec_FNorm v v.size = some r ∧ r.toList = v.toList.map (· / v.toList.sum) ∧ r.toList.sum = 1 := by
  rw [Vec.norm_FD]; exact gen_DNorm_real v h
theorem gen_FEntropy_real (v : Array ℝ) :
    esl_vec_FEntropy v v.size = some ((v.toList.map fun x => if 0 < x then -(x * Real.logb 2 x) else 0).sum) := by
  rw [Vec.entropy_FD]; exact gen_DEntropy_real v
section atWinF
attribute [local instance] winF
theorem xr_uniform_F (n : Nat) : (VNum.uniform n : XR) = VNum.ofNat 1 / VNum.ofNat n := Vec.xr_uniform n
theorem xr_window_F (m x : XR) : VInf.inWindow m x = VOrd.lt (m - VNum.ofNat 50) x :=
  Vec.xr_window 50 (by show (50 : ℝ) = ((50 : ℕ) : ℝ); norm_num) m x
/-- `esl_vec_FLogSum` as regenerated is `log Σ exp` within `n e^-50` (the `float` window), `-inf` entries allowed; all `-inf` ↦ `-inf` -/
theorem gen_FLogSum_spec (v : Array XR) (hv : ∀ x ∈ v.toList, x.isLogP) (hfin : finites v.toList ≠ []) :
    ∃ r : ℝ, esl_vec_FLogSum v v.size = some (XR.fin r) ∧
      |r - Real.log ((finites v.toList).map Real.exp).sum| ≤ v.toList.length * Real.exp (-50) := by
  rw [Vec.gen_FLogSum xr_window_F v]; exact Vec.logSum_spec v.toList hv hfin
theorem gen_FLog2Sum_spec (v : Array XR) (hv : ∀ x ∈ v.toList, x.isLogP) (hfin : finites v.toList ≠ []) :
    ∃ r : ℝ, esl_vec_FLog2Sum v v.size = some (XR.fin r) ∧
      |r - Real.logb 2 ((finites v.toList).map fun a => (2 : ℝ) ^ a).sum| ≤ v.toList.length * (2 : ℝ) ^ (-50 : ℝ) / Real.log 2 := by
  rw [Vec.gen_FLog2Sum xr_window_F v]; exact Vec.log2Sum_spec v.toList hv hfin
theorem gen_FLogSum_all_ninf (v : Array XR) (hne : v.toList ≠ []) (hv : ∀ x ∈ v.toList, x = XR.ninf) : esl_vec_FLogSum v v.size = some XR.ninf := by
  rw [Vec.gen_FLogSum xr_window_F v]; exact Vec.logSum_all_ninf v.toList hne hv
/-- `esl_vec_FLogNorm` as regenerated is the softmax, which sums to 1 -/
theorem gen_FLogNorm_spec (v : Array XR) (hv : ∀ x ∈ v.toList, x.isLogP) (hfin : finites v.toList ≠ []) :
    (esl_vec_FLogNorm v v.size).map Array.toList = some ((softmax v.toList).map XR.fin) ∧ (softmax v.toList).sum = 1 := by
  rw [Vec.gen_FLogNorm xr_uniform_F xr_window_F v]; exact Vec.logNorm_spec v.toList hv hfin
end atWinF
/-- `esl_vec_{D,F}RelEntropy` as regenerated (a loop with an early `return eslINFINITY`): the hand model's `relEntropyGo` for every
    element type — `eslINFINITY` as soon as a cell with `p[i] > 0` meets `q[i] == 0`, otherwise `kl += p[i] * log2(p[i]/q[i])` over the
    cells with `p[i] > 0`; never a fault on vectors of equal length.  `hk` spells the C expression the hand model abbreviates. -/
theorem gen_RelEntropy {α : Type} [VInf α] (hk : ∀ kl x y : α, VNum.klAdd kl x y = kl + x * VNum.log2 (x / y)) (p q : Array α) (h : p.size = q.size) :
    esl_vec_DRelEntropy p q p.size = some ((relEntropyGo p.toList q.toList (VNum.ofNat 0)).getD VInf.inf) ∧
    esl_vec_FRelEntropy p q p.size = some ((relEntropyGo p.toList q.toList (VNum.ofNat 0)).getD VInf.inf) :=
  ⟨Vec.gen_DRelEntropy hk p q h, Vec.gen_FRelEntropy hk p q h⟩
/-- the reals have no infinity: read `eslINFINITY` as an arbitrary token `I` (the other operations are the real ones).  Then the
    regenerated routines return `I` exactly when some `p[i] > 0` has `q[i] = 0`, and `Σ_{p[i]>0} p[i] log2(p[i]/q[i])` otherwise. -/
noncomputable def realWithInf (I : ℝ) : VInf ℝ :=
  { (inferInstance : VNum ℝ) with
    inf := I, neg := fun x => -x, exp := Real.exp, log := Real.log, exp2 := fun x => (2 : ℝ) ^ x, inWindow := fun m x => decide (m - 500 < x) }
theorem gen_RelEntropy_real (I : ℝ) (p q : Array ℝ) (h : p.size = q.size) :
    @esl_vec_DRelEntropy ℝ _ (realWithInf I) p q p.size =
      some (if (∃ ab ∈ List.zip p.toList q.toList, 0 < ab.1 ∧ ab.2 = 0) then I else (klTerms p.toList q.toList).sum) ∧
    @esl_vec_FRelEntropy ℝ _ (realWithInf I) ℝ (VMix.same ℝ) _ p q p.size =
      some (if (∃ ab ∈ List.zip p.toList q.toList, 0 < ab.1 ∧ ab.2 = 0) then I else (klTerms p.toList q.toList).sum) := by
  have hk : ∀ kl x y : ℝ, @VNum.klAdd ℝ (realWithInf I).toVNum kl x y = kl + x * @VNum.log2 ℝ (realWithInf I).toVNum (x / y) := fun _ _ _ => rfl
  have e1 := @Vec.gen_DRelEntropy ℝ (realWithInf I) hk p q h
  have e2 := @Vec.gen_FRelEntropy ℝ (realWithInf I) hk p q h
  have sp := Vec.relEntropyGo_spec p.toList q.toList 0
  have z : (@VNum.ofNat ℝ (realWithInf I).toVNum 0) = (0 : ℝ) := by show ((0 : ℕ) : ℝ) = 0; simp
  refine ⟨e1.trans ?_, e2.trans ?_⟩
  · rw [z]; show some ((relEntropyGo p.toList q.toList 0).getD I) = _
    rw [sp]; split <;> simp
  · rw [z]; show some ((relEntropyGo p.toList q.toList 0).getD I) = _
    rw [sp]; split <;> simp
example : (#[0.5, 0.5] : Array ℝ).size = (#[0.25, 0.75] : Array ℝ).size := rfl
/-- `esl_vec_{D,F}Validate` as regenerated (the statement macros `ESL_FAIL` / `ESL_XFAIL` with their `return` / `goto ERROR` followed; the
    text written to `errbuf` is outside the model): the hand model's `validate` for every element type.  `hn`, `ho` spell the two C
    expressions the hand model abbreviates: `!isfinite(x) || x < 0.0 || x > 1.0` and `fabs(sum - 1.0) > tol`. -/
theorem gen_Validate {α : Type} [VNum α] [VFin α]
    (hn : ∀ x : α, VNum.notProb x = (!(VFin.isFinite x) || VOrd.lt x (VNum.ofNat 0) || VOrd.lt (VNum.ofNat 1) x))
    (ho : ∀ s tol : α, VNum.offOne s tol = VOrd.lt tol (VFin.abs (s - VNum.ofNat 1))) (v : Array α) (tol : α) :
    esl_vec_DValidate v v.size tol = some (if validate v.toList tol then 0 else 1) ∧
    esl_vec_FValidate v v.size tol = some (if validate v.toList tol then 0 else 1) := ⟨Vec.gen_DValidate hn ho v tol, Vec.gen_FValidate hn ho v tol⟩
/-- every real is finite, `fabs` is the absolute value -/
noncomputable def realFin : VFin ℝ := ⟨fun _ => true, fun x => |x|⟩
/-- the two hypotheses of `gen_Validate` / `gen_LogValidate` at the reals -/
theorem realFin_notProb (x : ℝ) :
    VNum.notProb x = (!(@VFin.isFinite ℝ realFin x) || VOrd.lt x (VNum.ofNat 0) || VOrd.lt (VNum.ofNat 1) x) := by
  show decide (x < 0 ∨ x > 1) = (!true || decide (x < ((0 : ℕ) : ℝ)) || decide (((1 : ℕ) : ℝ) < x)); simp
theorem realFin_offOne (s tol : ℝ) : VNum.offOne s tol = VOrd.lt tol (@VFin.abs ℝ realFin (s - VNum.ofNat 1)) := by
  show decide (|s - 1| > tol) = decide (tol < |s - ((1 : ℕ) : ℝ)|); simp
/-- over the reals, on a non-empty vector: `eslOK` (0) exactly when every cell is in
    `[0,1]` and `|Σ - 1| ≤ tol`; `esl_vec_DValidate` answers 0 or 1 on every vector, never a fault.  (The empty vector, `eslOK`, and the
    same for `esl_vec_FValidate` follow from `gen_Validate` with `Vec.validate_nil`; they are not part of this statement.) -/
theorem gen_Validate_real (v : Array ℝ) (tol : ℝ) :
    (v.toList ≠ [] → (@esl_vec_DValidate ℝ _ realFin v v.size tol = some 0 ↔ (∀ x ∈ v.toList, 0 ≤ x ∧ x ≤ 1) ∧ |v.toList.sum - 1| ≤ tol) ∧
      (@esl_vec_FValidate ℝ _ realFin ℝ (VMix.same ℝ) _ realFin v v.size tol = some 0 ↔ (∀ x ∈ v.toList, 0 ≤ x ∧ x ≤ 1) ∧ |v.toList.sum - 1| ≤ tol)) ∧
    (@esl_vec_DValidate ℝ _ realFin v v.size tol = some 0 ∨ @esl_vec_DValidate ℝ _ realFin v v.size tol = some 1) := by
  have e1 := @Vec.gen_DValidate ℝ _ realFin realFin_notProb realFin_offOne v tol
  have e2 := @Vec.gen_FValidate ℝ _ realFin realFin_notProb realFin_offOne v tol
  refine ⟨fun hne => ⟨?_, ?_⟩, ?_⟩
  · rw [e1, ← Vec.validate_spec v.toList tol hne]; cases validate v.toList tol <;> simp
  · rw [e2, ← Vec.validate_spec v.toList tol hne]; cases validate v.toList tol <;> simp
  · rw [e1]; cases validate v.toList tol <;> simp
example : (#[0.5, 0.5] : Array ℝ).toList ≠ [] := by simp
/-- `esl_vec_{D,F}LogValidate`, `esl_vec_{D,F}Log2Validate` as regenerated (ESL_ALLOC of a scratch copy, Copy, Exp / Exp2, Validate, the
    status passed on through `goto ERROR`): the hand model's `logValidate` / `log2Validate` for every element type; never a fault -/
theorem gen_LogValidate {α : Type} [VInf α] [VFin α]
    (hn : ∀ x : α, VNum.notProb x = (!(VFin.isFinite x) || VOrd.lt x (VNum.ofNat 0) || VOrd.lt (VNum.ofNat 1) x))
    (ho : ∀ s tol : α, VNum.offOne s tol = VOrd.lt tol (VFin.abs (s - VNum.ofNat 1))) (v : Array α) (tol : α) :
    (esl_vec_DLogValidate v v.size tol = some (if logValidate v.toList tol then 0 else 1) ∧
     esl_vec_DLog2Validate v v.size tol = some (if log2Validate v.toList tol then 0 else 1)) ∧
    (esl_vec_FLogValidate v v.size tol = some (if logValidate v.toList tol then 0 else 1) ∧
     esl_vec_FLog2Validate v v.size tol = some (if log2Validate v.toList tol then 0 else 1)) :=
  ⟨Vec.gen_DLogValidate hn ho v tol, Vec.gen_FLogValidate hn ho v tol⟩
/-- over the reals: `esl_vec_DLogValidate` answers `eslOK` exactly when every `exp(v[i])` lies in `[0,1]` and `|Σ exp(v[i]) - 1| ≤ tol` -/
theorem gen_LogValidate_real (v : Array ℝ) (tol : ℝ) (hne : v.toList ≠ []) :
    @esl_vec_DLogValidate ℝ _ (realWithInf 0) realFin v v.size tol = some 0 ↔
      (∀ y ∈ v.toList.map Real.exp, 0 ≤ y ∧ y ≤ 1) ∧ |(v.toList.map Real.exp).sum - 1| ≤ tol := by
  have e := (@Vec.gen_DLogValidate ℝ (realWithInf 0) realFin realFin_notProb realFin_offOne v tol).1
  have lv : @logValidate ℝ (realWithInf 0) v.toList tol = validate (v.toList.map Real.exp) tol := by
    unfold logValidate
    have : v.toList.isEmpty = false := by rw [List.isEmpty_eq_false_iff]; exact hne
    rw [this]; rfl
  refine (show _ = _ from e) ▸ ?_
  rw [lv, ← Vec.validate_spec (v.toList.map Real.exp) tol (by simpa using hne)]
  cases validate (v.toList.map Real.exp) tol <;> simp
/-- the conversion routines as regenerated: cell by cell C's implicit conversion — `(float) d` (`VMix.narrow`, the one rounding),
    `(double) f` (`VMix.widen`, exact), `(T) i` for an `int` cell — never a fault when `dst` has room; and converting `float → double → float`
    gives the vector back whenever every binary32 value is representable in the wide type (`narrow (widen x) = x`) -/
theorem gen_D2F {α ω : Type} [CElem α] [VMix α ω] [VNum ω] (src : Array ω) (dst : Array α) (hd : dst.size = src.size) :
    ∃ r, esl_vec_D2F src src.size dst = some r ∧ r.toList = src.toList.map VMix.narrow := Vec.gen_D2F src dst hd
theorem gen_F2D {α ω : Type} [CElem α] [VMix α ω] [VNum ω] (src : Array α) (dst : Array ω) (hd : dst.size = src.size) :
    ∃ r, esl_vec_F2D src src.size dst = some r ∧ r.toList = src.toList.map VMix.widen := Vec.gen_F2D src dst hd
theorem gen_I2F {α ι : Type} [CElem α] [VInt α ι] (src : Array ι) (dst : Array α) (hd : dst.size = src.size) :
    (∃ r, esl_vec_I2F src src.size dst = some r ∧ r.toList = src.toList.map VInt.ofInt) ∧
    (∃ r, esl_vec_I2D src src.size dst = some r ∧ r.toList = src.toList.map VInt.ofInt) := Vec.gen_I2F src dst hd
theorem gen_F2D_D2F_roundtrip {α ω : Type} [CElem α] [VMix α ω] [VNum ω] (hex : ∀ x : α, VMix.narrow (VMix.widen x : ω) = x)
    (v f : Array α) (d : Array ω) (hd : d.size = v.size) (hf : f.size = v.size) :
    ∃ r, esl_vec_F2D v v.size d = some r ∧ esl_vec_D2F r r.size f = some v := by
  obtain ⟨r, hr, hl⟩ := Vec.gen_F2D v d hd
  have hs : r.size = v.size := by have := congrArg List.length hl; simpa using this
  obtain ⟨r', hr', hl'⟩ := Vec.gen_D2F r f (by omega)
  refine ⟨r, hr, ?_⟩
  rw [hr']; congr 1
  apply Array.toList_inj.mp
  rw [hl', hl, List.map_map]
  have : (VMix.narrow ∘ (VMix.widen : α → ω)) = id := by funext x; exact hex x
  rw [this, List.map_id]
example : ∀ x : ℝ, (@VMix.narrow ℝ ℝ (VMix.same ℝ) (@VMix.widen ℝ ℝ (VMix.same ℝ) x)) = x := fun _ => rfl
example : (#[1, 2, 3] : Array ℝ).toList.sum ≠ 0 := by norm_num
example : VNum.eq (Vec.sum [(1 : ℝ), 2]) (VNum.ofNat 0 : ℝ) = false := by
  rw [Vec.sum_eq_real]; show decide ((1 : ℝ) + (2 + 0) = ((0 : ℕ) : ℝ)) = false; norm_num
end genF

end generated

end EaselModel.Props.C20
