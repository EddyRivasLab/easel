import EaselModel.Dist.ExpThm
import EaselModel.Dist.GumbelThm
import EaselModel.Dist.WeiThm
import EaselModel.Dist.GevThm
import EaselModel.Dist.SpecialFamThm
import EaselModel.Dist.NormalThm
import EaselModel.Dist.MixGen
import EaselModel.Dist.MixLogGen
import EaselModel.Dist.IntegralThm
import EaselModel.Dist.BisectTerm
import EaselModel.Dist.BisectGen
import EaselModel.Dist.BisectCarrier
import EaselModel.Dist.Edge
import EaselModel.Dist.GamSxpThm
import EaselModel.Dist.SampleThm
import EaselModel.Dist.QuantileThm
import EaselModel.Dist.GevDist
import EaselModel.Dist.MixgevLog
import EaselModel.Dist.InvRight
import EaselModel.Dist.InvTotal
import EaselModel.Dist.GamSampleGen
import EaselModel.Dist.Limits
import EaselModel.Dist.SeriesConv
import EaselModel.Dist.EdgeAtMu
/-! # C10 — each distribution's pdf, cdf, survival, log and inverse functions agree

Full statement (properties.jsonl): for every supported continuous distribution and all valid parameters and arguments
inside the documented dynamic range the functions agree with the closed-form definition and with each other: cdf is
non-decreasing from 0 to 1, cdf + survival = 1, the log versions equal the logarithms, the inverse cdf (and inverse
survival) inverts the cdf, the pdf is the derivative of the cdf; outside the support the density is 0 and the cdf is 0
or 1; a sample drawn with a generator equals the inverse cdf of the uniform deviate that generator yields.

Layers (DESIGN §3.4).  **L2**: the textbook closed forms (`Dist/Spec.lean`) satisfy the laws.  **L1**: the C code *as a
real function* — `EaselModel.Dist.Gen.esl_*`, regenerated from the working tree by `translate/c2lean.py` on every run,
instantiated at `ℝ` — equals the textbook form within an explicit ε, across its `eslSMALLX1` branch switches.
**Edge**: out-of-support values exactly, for every carrier.  **L0** (binary64 rounding of those real functions) is NOT
proved here: it is supported by the bit-exact run of the same definitions at `Float` against the C functions and by the
50-digit monitors of `props/c10.py`.

Statements, their glue and the non-vacuity examples; the lemmas live in `EaselModel/Dist/*.lean`. -/
noncomputable section
namespace EaselModel.Props.C10
open Real EaselModel.Dist EaselModel.Dist.Gen EaselModel.Dist.Spec

/-! ## Exponential -/

/-- L2: the exponential cdf is non-decreasing, stays in `[0,1)`, is `0` below `μ` and tends to `1`. -/
theorem exp_cdf_monotone_0_to_1 {μ l : ℝ} (hl : 0 < l) :
    Monotone (expCdf μ l) ∧ (∀ x, 0 ≤ expCdf μ l x ∧ expCdf μ l x < 1) ∧ (∀ x, x < μ → expCdf μ l x = 0) ∧
      Filter.Tendsto (expCdf μ l) Filter.atTop (nhds 1) :=
  ⟨ExpThm.expCdf_mono hl.le, fun x => ⟨ExpThm.expCdf_nonneg hl.le x, ExpThm.expCdf_lt_one μ l x⟩,
    fun _ h => ExpThm.expCdf_below h, ExpThm.expCdf_tendsto_one hl⟩

/-- L2: cdf + survival = 1; both inverses invert on the support; pdf is the derivative of the cdf away from `μ`. -/
theorem exp_textbook_laws {μ l : ℝ} (hl : l ≠ 0) :
    (∀ x, expCdf μ l x + expSurv μ l x = 1) ∧ (∀ x, μ ≤ x → expInvCdf μ l (expCdf μ l x) = x) ∧
      (∀ x, μ ≤ x → expInvSurv μ l (expSurv μ l x) = x) ∧ (∀ x, x ≠ μ → HasDerivAt (expCdf μ l) (expPdf μ l x) x) :=
  ⟨ExpThm.expCdf_add_expSurv μ l, fun _ h => ExpThm.expInvCdf_expCdf hl h, fun _ h => ExpThm.expInvSurv_expSurv hl h,
    fun _ h => (lt_or_gt_of_ne h).elim ExpThm.expCdf_hasDerivAt_below ExpThm.expCdf_hasDerivAt⟩

/-- L1: `esl_exp_pdf`, `esl_exp_surv`, `esl_exp_invcdf`, `esl_exp_invsurv` ARE the textbook functions; `esl_exp_cdf` is
    within `2.5e-17` of the textbook cdf for every `x` (the `y < eslSMALLX1` branch returns `y` for `1 - e^{-y}`). -/
theorem exp_code_eq_textbook {μ l : ℝ} (hl : 0 ≤ l) (x : ℝ) :
    esl_exp_pdf x μ l = expPdf μ l x ∧ esl_exp_surv x μ l = expSurv μ l x ∧ esl_exp_invcdf x μ l = expInvCdf μ l x ∧
      esl_exp_invsurv x μ l = expInvSurv μ l x ∧ |esl_exp_cdf x μ l - expCdf μ l x| ≤ 2.5e-17 :=
  ⟨ExpThm.code_pdf x μ l, ExpThm.code_surv x μ l, ExpThm.code_invcdf x, ExpThm.code_invsurv x, ExpThm.code_cdf hl x⟩

/-- L1: the code's own cdf and survival add up to 1 within `2.5e-17`, for every argument. -/
theorem exp_code_cdf_add_surv {μ l : ℝ} (hl : 0 ≤ l) (x : ℝ) : |esl_exp_cdf x μ l + esl_exp_surv x μ l - 1| ≤ 2.5e-17 :=
  ExpThm.code_cdf_add_surv hl x

/-- L1: the log versions are the logarithms: exactly for `logsurv` (all `x`) and `logpdf` (finite `l`), within `1e-8`
    for `logcdf` on `x > μ` (branches `log y`, `-e^{-y}`, `log(1 - e^{-y})`). -/
theorem exp_code_logs {μ l x : ℝ} (hl : 0 < l) (hfin : l ≠ (Num.inf : ℝ)) :
    (μ ≤ x → esl_exp_logsurv x μ l = log (expSurv μ l x)) ∧ (x < μ → esl_exp_logsurv x μ l = log (expSurv μ l x)) ∧
      (μ ≤ x → esl_exp_logpdf x μ l = log (expPdf μ l x)) ∧ (μ < x → |esl_exp_logcdf x μ l - log (expCdf μ l x)| ≤ 1e-8) :=
  ⟨ExpThm.code_logsurv, ExpThm.code_logsurv_below, ExpThm.code_logpdf hl hfin, ExpThm.code_logcdf hl⟩

/-- Edge, every carrier: below `μ` density `0`, cdf `0`, survival `1`, log versions `-inf`, `-inf`, `0`. -/
theorem exp_outside_support {α : Type} [Add α] [Sub α] [Mul α] [Div α] [Neg α] [OfScientific α] [LT α] [LE α]
    [DecidableLT α] [DecidableLE α] [Num α] {x mu l : α} (h : x < mu) :
    esl_exp_pdf x mu l = 0.0 ∧ esl_exp_cdf x mu l = 0.0 ∧ esl_exp_surv x mu l = 1.0 ∧ esl_exp_logpdf x mu l = -Num.inf ∧
      esl_exp_logcdf x mu l = -Num.inf ∧ esl_exp_logsurv x mu l = 0.0 :=
  ⟨Edge.exp_pdf_below h, Edge.exp_cdf_below h, Edge.exp_surv_below h, Edge.exp_logpdf_below h, Edge.exp_logcdf_below h,
    Edge.exp_logsurv_below h⟩

-- non-vacuity: the hypotheses are satisfiable and the small-x branch is really taken
example : |esl_exp_cdf (1e-9 : ℝ) 0 1 + esl_exp_surv (1e-9 : ℝ) 0 1 - 1| ≤ 2.5e-17 := exp_code_cdf_add_surv (by norm_num) _
example : esl_exp_cdf (1e-9 : ℝ) 0 1 = 1e-9 := by
  unfold esl_exp_cdf; norm_num

/-! ## Gumbel -/

/-- L2: the Gumbel cdf is non-decreasing, strictly inside `(0,1)`, with limits `0` and `1`. -/
theorem gumbel_cdf_monotone_0_to_1 {μ l : ℝ} (hl : 0 < l) :
    Monotone (gumbelCdf μ l) ∧ (∀ x, 0 < gumbelCdf μ l x ∧ gumbelCdf μ l x < 1) ∧
      Filter.Tendsto (gumbelCdf μ l) Filter.atBot (nhds 0) ∧ Filter.Tendsto (gumbelCdf μ l) Filter.atTop (nhds 1) :=
  ⟨GumbelThm.gumbelCdf_mono hl.le, fun x => ⟨GumbelThm.gumbelCdf_pos μ l x, GumbelThm.gumbelCdf_lt_one μ l x⟩,
    GumbelThm.gumbelCdf_tendsto_zero hl, GumbelThm.gumbelCdf_tendsto_one hl⟩

/-- L2: cdf + survival = 1, both inverses invert everywhere, the pdf is the derivative of the cdf everywhere. -/
theorem gumbel_textbook_laws {μ l : ℝ} (hl : l ≠ 0) (x : ℝ) :
    gumbelCdf μ l x + gumbelSurv μ l x = 1 ∧ gumbelInvCdf μ l (gumbelCdf μ l x) = x ∧
      gumbelInvSurv μ l (gumbelSurv μ l x) = x ∧ HasDerivAt (gumbelCdf μ l) (gumbelPdf μ l x) x :=
  ⟨GumbelThm.gumbelCdf_add_surv μ l x, GumbelThm.gumbelInvCdf_cdf hl x, GumbelThm.gumbelInvSurv_surv hl x,
    GumbelThm.gumbelCdf_hasDerivAt μ l x⟩

/-- L1: `esl_gumbel_{pdf,cdf,logcdf,logpdf,invcdf}` ARE the textbook functions (resp. their logarithms). -/
theorem gumbel_code_eq_textbook {l : ℝ} (hl : 0 < l) (x μ : ℝ) :
    esl_gumbel_pdf x μ l = gumbelPdf μ l x ∧ esl_gumbel_cdf x μ l = gumbelCdf μ l x ∧
      esl_gumbel_logcdf x μ l = log (gumbelCdf μ l x) ∧ esl_gumbel_logpdf x μ l = log (gumbelPdf μ l x) ∧
      esl_gumbel_invcdf x μ l = gumbelInvCdf μ l x :=
  ⟨GumbelThm.code_pdf x μ l, GumbelThm.code_cdf x μ l, GumbelThm.code_logcdf x μ l, GumbelThm.code_logpdf hl x μ,
    GumbelThm.code_invcdf x μ l⟩

/-- L1: the two-way switch of `esl_gumbel_surv` and the three-way switch of `esl_gumbel_logsurv` at `eslSMALLX1`:
    within `2.5e-17` of `1 - cdf`, resp. `1e-8` of `log (1 - cdf)`, for every argument. -/
theorem gumbel_code_surv_switches (x μ l : ℝ) :
    |esl_gumbel_surv x μ l - gumbelSurv μ l x| ≤ 2.5e-17 ∧ |esl_gumbel_logsurv x μ l - log (gumbelSurv μ l x)| ≤ 1e-8 :=
  ⟨GumbelThm.code_surv x μ l, GumbelThm.code_logsurv x μ l⟩

/-- L1: repaired `esl_gumbel_invsurv` (`log p` below `eslSMALLX1`, `log(-log(1-p))` above) is within `1e-8 / l` of the
    textbook inverse survival for every `p > 0` (DESIGN §7 item 4; the former `(p^p - 1)/p` was an L0 defect). -/
theorem gumbel_code_invsurv {p μ l : ℝ} (hl : 0 < l) (hp : 0 < p) :
    |esl_gumbel_invsurv p μ l - gumbelInvSurv μ l p| ≤ 1e-8 / l := GumbelThm.code_invsurv hl hp

example : |esl_gumbel_invsurv (1e-12 : ℝ) (-20) 0.7 - gumbelInvSurv (-20) 0.7 1e-12| ≤ 1e-8 / 0.7 :=
  gumbel_code_invsurv (by norm_num) (by norm_num)

/-! ## Weibull -/

/-- L2: cdf non-decreasing in `[0,1)`, cdf + surv = 1, the inverse inverts on the support, the pdf is the derivative of
    the cdf on the interior of the support. -/
theorem wei_textbook_laws {μ l τ : ℝ} (hl : 0 < l) (hτ : 0 < τ) :
    Monotone (weiCdf μ l τ) ∧ (∀ x, 0 ≤ weiCdf μ l τ x ∧ weiCdf μ l τ x < 1) ∧ (∀ x, weiCdf μ l τ x + weiSurv μ l τ x = 1) ∧
      (∀ x, μ < x → weiInvCdf μ l τ (weiCdf μ l τ x) = x) ∧ (∀ x, μ < x → HasDerivAt (weiCdf μ l τ) (weiPdf μ l τ x) x) :=
  ⟨WeiThm.weiCdf_mono hl hτ.le, fun x => ⟨WeiThm.weiCdf_nonneg μ l τ x, WeiThm.weiCdf_lt_one μ l τ x⟩,
    WeiThm.weiCdf_add_weiSurv μ l τ, fun _ h => WeiThm.weiInvCdf_weiCdf hl (ne_of_gt hτ) h, fun _ h => WeiThm.weiCdf_hasDerivAt hl h⟩

/-- L1 (repaired guard, DESIGN §7 item 12): `esl_wei_cdf` within `2.5e-17` of the textbook cdf for EVERY argument — in
    particular at `y = 1`, where the old guard `|τ log y| < eslSMALLX1` returned `1.0` for `1 - 1/e`; survival, log
    survival, the inverse, the density and the log density are exact; cdf + surv = 1 within `2.5e-17`; `logcdf` within
    `1e-8` of `log cdf`. -/
theorem wei_code_eq_textbook (x μ l τ : ℝ) :
    |esl_wei_cdf x μ l τ - weiCdf μ l τ x| ≤ 2.5e-17 ∧ esl_wei_surv x μ l τ = weiSurv μ l τ x ∧
      esl_wei_logsurv x μ l τ = log (weiSurv μ l τ x) ∧ esl_wei_invcdf x μ l τ = weiInvCdf μ l τ x ∧
      |esl_wei_cdf x μ l τ + esl_wei_surv x μ l τ - 1| ≤ 2.5e-17 ∧ (μ < x → |esl_wei_logcdf x μ l τ - log (weiCdf μ l τ x)| ≤ 1e-8) ∧
      (x ≠ μ → esl_wei_pdf x μ l τ = weiPdf μ l τ x) ∧ (0 < l → 0 < τ → μ < x → esl_wei_logpdf x μ l τ = log (weiPdf μ l τ x)) :=
  ⟨WeiThm.code_cdf x μ l τ, WeiThm.code_surv x μ l τ, WeiThm.code_logsurv x μ l τ, WeiThm.code_invcdf x μ l τ,
    WeiThm.code_cdf_add_surv x μ l τ, WeiThm.code_logcdf l τ, WeiThm.code_pdf l τ, WeiThm.code_logpdf⟩

/-- the failing input of DESIGN §7 item 12: `esl_wei_cdf(1, 0, 1, 0.7)` is within `2.5e-17` of `1 - e⁻¹` -/
example : |esl_wei_cdf (1 : ℝ) 0 1 0.7 - (1 - exp (-1))| ≤ 2.5e-17 := by
  have h := (wei_code_eq_textbook 1 0 1 0.7).1
  have e : weiCdf 0 1 0.7 1 = 1 - exp (-1) := by simp [weiCdf, weiZ]
  rwa [e] at h

/-- Edge, every carrier: at and below `μ` cdf `0`, surv `1`, `logcdf = -inf`, `logsurv = 0`; below `μ` density `0`. -/
theorem wei_outside_support {α : Type} [Add α] [Sub α] [Mul α] [Div α] [Neg α] [OfScientific α] [LT α] [LE α]
    [DecidableLT α] [DecidableLE α] [Num α] {x mu l t : α} :
    (x ≤ mu → esl_wei_cdf x mu l t = 0.0 ∧ esl_wei_surv x mu l t = 1.0 ∧ esl_wei_logcdf x mu l t = -Num.inf ∧
      esl_wei_logsurv x mu l t = 0.0) ∧ (x < mu → esl_wei_pdf x mu l t = 0.0 ∧ esl_wei_logpdf x mu l t = -Num.inf) :=
  ⟨fun h => ⟨Edge.wei_cdf_below h, Edge.wei_surv_below h, Edge.wei_logcdf_below h, Edge.wei_logsurv_below h⟩,
    fun h => ⟨Edge.wei_pdf_below h, Edge.wei_logpdf_below h⟩⟩

/-! ## Generalised extreme value -/

/-- L2: the GEV cdf (either sign of `α`) is non-decreasing within `[0,1]` across both ends of its support; cdf + surv = 1;
    on the support (`1 + α l (x-μ) > 0`) the inverse inverts and the pdf is the derivative of the cdf. -/
theorem gev_textbook_laws {μ l α : ℝ} (hl : 0 < l) (hα : α ≠ 0) :
    Monotone (gevCdf μ l α) ∧ (∀ x, 0 ≤ gevCdf μ l α x ∧ gevCdf μ l α x ≤ 1) ∧ (∀ x, gevCdf μ l α x + gevSurv μ l α x = 1) ∧
      (∀ x, 0 < gevArg μ l α x → gevInvCdf μ l α (gevCdf μ l α x) = x) ∧
      (∀ x, 0 < gevArg μ l α x → HasDerivAt (gevCdf μ l α) (gevPdf μ l α x) x) :=
  ⟨GevThm.gevCdf_mono hl hα, fun x => ⟨GevThm.gevCdf_nonneg μ l α x, GevThm.gevCdf_le_one μ l α x⟩,
    GevThm.gevCdf_add_gevSurv μ l α, fun _ => GevThm.gevInvCdf_gevCdf (ne_of_gt hl) hα, fun _ => GevThm.gevCdf_hasDerivAt hα⟩

/-- L1, GEV branch (`¬ |α y| < 1e-12`): `esl_gev_cdf` and `esl_gev_pdf` ARE the textbook functions including both
    out-of-support sides; on the support `logcdf`, `logpdf` are their logarithms; `esl_gev_surv` is within `2.3e-16`
    of `1 - cdf` (switch at `-½ log DBL_EPSILON`); the inverse is the textbook inverse when `¬ |α| < 1e-12`. -/
theorem gev_code_eq_textbook {x μ l α : ℝ} (hl : 0 < l) (hg : ¬ |l * (x - μ) * α| < 1e-12) :
    esl_gev_cdf x μ l α = gevCdf μ l α x ∧ esl_gev_pdf x μ l α = gevPdf μ l α x ∧
      (0 < gevArg μ l α x → esl_gev_logcdf x μ l α = log (gevCdf μ l α x) ∧ esl_gev_logpdf x μ l α = log (gevPdf μ l α x)) ∧
      |esl_gev_surv x μ l α - gevSurv μ l α x| ≤ 2.3e-16 ∧ (¬ |α| < 1e-12 → ∀ p, esl_gev_invcdf p μ l α = gevInvCdf μ l α p) :=
  ⟨GevThm.code_cdf hl hg, GevThm.code_pdf hg, fun h => ⟨GevThm.code_logcdf hg h, GevThm.code_logpdf hl hg h⟩,
    GevThm.code_surv hl hg, fun h _ => GevThm.code_invcdf h⟩

/-- L1, GEV branch, on the support: the three-way switch of `esl_gev_logsurv` (`-lya1` beyond `-½ log DBL_EPSILON`,
    `-exp(-e^{-lya1})` below `-2.9`, the plain formula between) stays within `3e-8` of `log (1 - cdf)`. -/
theorem gev_code_logsurv {x μ l α : ℝ} (hg : ¬ |l * (x - μ) * α| < 1e-12) (hx : 0 < gevArg μ l α x) :
    |esl_gev_logsurv x μ l α - log (gevSurv μ l α x)| ≤ 3e-8 := GevThm.code_logsurv hg hx

example : |esl_gev_logsurv (30 : ℝ) 0 1 0.5 - log (gevSurv 0 1 0.5 30)| ≤ 3e-8 :=
  gev_code_logsurv (by norm_num [abs_of_pos]) (by unfold gevArg; norm_num)

/-- L1, Gumbel branch (`|α y| < 1e-12`, resp. `|α| < 1e-12` for the inverse): the code is literally the Gumbel code, to
    which the `gumbel_code_*` theorems apply; `surv`/`logsurv` have their own switches there and stay within `2.3e-16`
    resp. `3e-8` of the Gumbel survival.
    (The distance `|Gumbel(y) − GEV_α(y)|` of every one of these functions to the GEV with
    the actual `α` is bounded in `gev_gumbel_branch_distance`.) -/
theorem gev_gumbel_branch_is_gumbel_code {x μ l α : ℝ} :
    (|l * (x - μ) * α| < 1e-12 → esl_gev_cdf x μ l α = esl_gumbel_cdf x μ l ∧ esl_gev_logcdf x μ l α = esl_gumbel_logcdf x μ l ∧
      esl_gev_pdf x μ l α = esl_gumbel_pdf x μ l ∧ esl_gev_logpdf x μ l α = esl_gumbel_logpdf x μ l) ∧
    (|α| < 1e-12 → esl_gev_invcdf x μ l α = esl_gumbel_invcdf x μ l) ∧
    (|l * (x - μ) * α| < 1e-12 → |esl_gev_surv x μ l α - gumbelSurv μ l x| ≤ 2.3e-16 ∧
      |esl_gev_logsurv x μ l α - log (gumbelSurv μ l x)| ≤ 3e-8) :=
  ⟨fun h => ⟨GevThm.gumbel_branch_cdf h, GevThm.gumbel_branch_logcdf h, GevThm.gumbel_branch_pdf h, GevThm.gumbel_branch_logpdf h⟩,
    GevThm.gumbel_branch_invcdf, fun h => ⟨GevThm.gumbel_branch_surv h, GevThm.gumbel_branch_logsurv h⟩⟩

/-- Edge, every carrier, outside the support (`1 + α y ≤ 0`, GEV branch): Fréchet side (`x < μ`) density `0`, cdf `0`,
    surv `1`, `logcdf = -inf`, **`logsurv = 0`** (repaired, DESIGN §7 item 13); Weibull side cdf `1`, surv `0`,
    `logcdf = 0`, `logsurv = -inf`. -/
theorem gev_outside_support {α : Type} [Add α] [Sub α] [Mul α] [Div α] [Neg α] [OfScientific α] [LT α] [LE α]
    [DecidableLT α] [DecidableLE α] [Num α] {x mu l a : α}
    (hg : ¬ Num.fabs (l * (x - mu) * a) < 1.0e-12) (h : 1.0 + a * (l * (x - mu)) ≤ 0.0) :
    esl_gev_pdf x mu l a = 0.0 ∧ esl_gev_logpdf x mu l a = -Num.inf ∧
    (x < mu → esl_gev_cdf x mu l a = 0.0 ∧ esl_gev_surv x mu l a = 1.0 ∧ esl_gev_logcdf x mu l a = -Num.inf ∧
      esl_gev_logsurv x mu l a = 0.0) ∧
    (¬ x < mu → esl_gev_cdf x mu l a = 1.0 ∧ esl_gev_surv x mu l a = 0.0 ∧ esl_gev_logcdf x mu l a = 0.0 ∧
      esl_gev_logsurv x mu l a = -Num.inf) :=
  ⟨Edge.gev_pdf_out hg h, Edge.gev_logpdf_out hg h,
    fun hx => ⟨Edge.gev_cdf_frechet hg h hx, Edge.gev_surv_frechet hg h hx, Edge.gev_logcdf_frechet hg h hx, Edge.gev_logsurv_frechet hg h hx⟩,
    fun hx => ⟨Edge.gev_cdf_weibull hg h hx, Edge.gev_surv_weibull hg h hx, Edge.gev_logcdf_weibull hg h hx, Edge.gev_logsurv_weibull hg h hx⟩⟩

/-- non-vacuity at the failing input of DESIGN §7 item 13, `esl_gev_logsurv(-10, 0, 1, 0.5)` (over `ℝ`): the hypotheses hold -/
example : esl_gev_logsurv (-10 : ℝ) 0 1 0.5 = 0.0 :=
  (gev_outside_support (x := (-10 : ℝ)) (mu := 0) (l := 1) (a := 0.5) (by simp; norm_num) (by norm_num)).2.2.1
    (by norm_num) |>.2.2.2

/-! ## Families on the special functions: gamma, stretched exponential, normal, log-normal

`esl_stats_LogGamma` / `esl_stats_IncompleteGamma` enter as the hand model of `Dist/Special.lean` read over `ℝ`
(`realIncGamma`, `some (P,Q)` where the C function returns `eslOK`); `erfc` is the complementary error function.
`gam_laws_partial` / `sxp_laws_partial` are the laws that hold of the code's own outputs whatever the special functions do;
the FULL laws are proved for the textbook forms built on the incomplete gamma function defined as an
integral (`gam_sxp_textbook_laws`), and `gam_sxp_code_vs_textbook` identifies the translated code with them up to the
two special-function discrepancies, unconditionally.  What stays `_partial` (L0, monitored against mpmath): the SIZE of
`esl_stats_LogGamma − log Γ` and of `esl_stats_IncompleteGamma − (P, Q)` (the series / continued fraction is not proved
to converge to the integral), and the bisection inverse's distance from the true quantile (`bisection_inverses_accuracy`
bounds it relative to the code's own cdf). -/

/-- gamma: cdf + surv = 1 exactly wherever `IncompleteGamma` converges (it forms `Q = 1 - P` or `P = 1 - Q`), the log
    versions are the logarithms of the plain versions, `pdf = exp logpdf` on the interior of the support (repaired: the
    code tested `x < 0` instead of `x < μ`), and at `x = μ`, `τ = 1` the density is `λ` (repaired: was NaN). -/
theorem gam_laws_partial {x μ l τ : ℝ} :
    ((0 < l * (x - μ) → (realIncGamma τ (l * (x - μ))).isSome) → esl_gam_cdf x μ l τ + esl_gam_surv x μ l τ = 1) ∧
      (0 < l * (x - μ) → esl_gam_logcdf x μ l τ = log (esl_gam_cdf x μ l τ)) ∧
      esl_gam_logsurv x μ l τ = log (esl_gam_surv x μ l τ) ∧
      (0 < l * (x - μ) → esl_gam_pdf x μ l τ = exp (esl_gam_logpdf x μ l τ)) ∧
      (esl_gam_pdf μ μ l 1 = l ∧ esl_gam_logpdf μ μ l 1 = log l) :=
  ⟨SpecialFamThm.gam_cdf_add_surv, SpecialFamThm.gam_logcdf, SpecialFamThm.gam_logsurv, SpecialFamThm.gam_pdf_eq_exp_logpdf,
    SpecialFamThm.gam_pdf_at_mu_tau1 μ l⟩

/-- The convergence hypothesis of `gam_laws_partial` / `sxp_laws_partial` DISCHARGED on the series branch, for the
    property's shape range.  `esl_stats_IncompleteGamma(a, x)` (hand model of the C algorithm read over `ℝ`) sums
    `Σ_n x^n / (a (a+1) ⋯ (a+n))` for `x ≤ a + 1` and stops when the last term is below `1e-7` of the sum (≤ 9999 terms): for
    `0 < a ≤ 20` and `0 ≤ x ≤ a + 1` the loop returns within 45 terms (the `k`-th term relative to the sum is at most
    `Π_{j≤k} x/(a+j)`; every factor is `≤ 1`, from `j = 22` on `≤ 1/2`), so the function yields `some (P, Q)`.  Hence, with NO
    hypothesis on the special functions: `esl_gam_cdf + esl_gam_surv = 1` for `τ ≤ 20` wherever `λ(x−μ) ≤ τ + 1` (including
    everything at and below the support edge), and `esl_sxp_cdf + esl_sxp_surv = 1` for `τ ≥ 1/20` wherever
    `(λ(x−μ))^τ ≤ 1/τ + 1`.  Still conditional (named hypothesis `(realIncGamma a x).isSome`): the continued-fraction branch
    `x > a + 1`, and shapes above 20. -/
theorem incomplete_gamma_series_converges {a y x μ l τ : ℝ} :
    (0 < a → a ≤ 20 → 0 ≤ y → y ≤ a + 1 → (realIncGamma a y).isSome) ∧
    (0 < τ → τ ≤ 20 → l * (x - μ) ≤ τ + 1 → esl_gam_cdf x μ l τ + esl_gam_surv x μ l τ = 1) ∧
    (0 < τ → 1 / τ ≤ 20 → (μ < x → exp (τ * log (l * (x - μ))) ≤ 1 / τ + 1) →
      esl_sxp_cdf x μ l τ + esl_sxp_surv x μ l τ = 1) :=
  ⟨fun ha ha20 hy0 hy => SeriesConv.realIncGamma_isSome_series ha ha20 hy0 hy,
    fun hτ hτ20 hy => SeriesConv.gam_cdf_add_surv_series hτ hτ20 hy,
    fun hτ hτ20 hy => SeriesConv.sxp_cdf_add_surv_series hτ hτ20 hy⟩

/-- non-vacuity: `Gamma(τ = 2)` at `y = 1 ≤ τ + 1`, inside the support -/
example : esl_gam_cdf (1 : ℝ) 0 1 2 + esl_gam_surv (1 : ℝ) 0 1 2 = 1 :=
  (incomplete_gamma_series_converges (a := 1) (y := 1) (x := 1) (μ := 0) (l := 1) (τ := 2)).2.1 (by norm_num) (by norm_num) (by norm_num)

/-- stretched exponential: cdf + surv = 1 wherever `IncompleteGamma` converges; log versions are the logarithms. -/
theorem sxp_laws_partial {x μ l τ : ℝ} (hl : 0 < l) (hτ : 0 < τ) :
    ((μ < x → (realIncGamma (1 / τ) (exp (τ * log (l * (x - μ))))).isSome) → esl_sxp_cdf x μ l τ + esl_sxp_surv x μ l τ = 1) ∧
      (μ < x → esl_sxp_logcdf x μ l τ = log (esl_sxp_cdf x μ l τ)) ∧ esl_sxp_logsurv x μ l τ = log (esl_sxp_surv x μ l τ) ∧
      (μ ≤ x → esl_sxp_logpdf x μ l τ = log (esl_sxp_pdf x μ l τ)) :=
  ⟨SpecialFamThm.sxp_cdf_add_surv, SpecialFamThm.sxp_logcdf, SpecialFamThm.sxp_logsurv, SpecialFamThm.sxp_logpdf hl hτ⟩

/-- normal (and log-normal log density).  `erfc` over `ℝ` is the complementary error function
    `(2/√π) ∫_t^∞ e^{-x²} dx` built on Mathlib's Gaussian integral (`Dist/ErfcGauss.lean`; Mathlib 4.33 has no `erfc`);
    `erfc (-t) = 2 - erfc t` and `erfc` antitone are proved for it.
    L2, textbook `Φ(x) = ½ erfc(−(x−μ)/(σ√2))`: non-decreasing, within `[0,1]`, limits `0` and `1`, cdf + surv = 1, the
    density `e^{−z²/2}/(σ√(2π))` is its derivative everywhere and integrates to cdf differences.
    L1: `esl_normal_cdf`, `esl_normal_surv` ARE the textbook functions (so cdf + surv = 1 exactly), `esl_normal_pdf`
    equals the textbook density up to the factor `√(π / eslCONST_PI)` with `|eslCONST_PI − π| ≤ 1e-20`,
    `logpdf = log pdf`; log-normal: `logpdf = log pdf` on `x > 0`.
    What stays L0 (monitored, `1e-9` relative against mpmath): that `esl_stats_erfc` — Sun's rational approximation,
    hand model `erfcSun`, bit-exact at `Float` — agrees with the mathematical `erfc`. -/
theorem normal_laws {μ σ : ℝ} (hσ : 0 < σ) :
    (Monotone (NormalThm.normalCdf μ σ) ∧ (∀ x, 0 ≤ NormalThm.normalCdf μ σ x ∧ NormalThm.normalCdf μ σ x ≤ 1) ∧
      Filter.Tendsto (NormalThm.normalCdf μ σ) Filter.atBot (nhds 0) ∧ Filter.Tendsto (NormalThm.normalCdf μ σ) Filter.atTop (nhds 1) ∧
      (∀ x, NormalThm.normalCdf μ σ x + NormalThm.normalSurv μ σ x = 1) ∧
      (∀ x, HasDerivAt (NormalThm.normalCdf μ σ) (NormalThm.normalPdf μ σ x) x) ∧
      (∀ a b, a ≤ b → ∫ x in a..b, NormalThm.normalPdf μ σ x = NormalThm.normalCdf μ σ b - NormalThm.normalCdf μ σ a)) ∧
    (∀ x, esl_normal_cdf x μ σ = NormalThm.normalCdf μ σ x ∧ esl_normal_surv x μ σ = NormalThm.normalSurv μ σ x ∧
      esl_normal_cdf x μ σ + esl_normal_surv x μ σ = 1 ∧
      esl_normal_pdf x μ σ * √(2 * 3.14159265358979323846264338328) = NormalThm.normalPdf μ σ x * √(2 * π) ∧
      esl_normal_logpdf x μ σ = log (esl_normal_pdf x μ σ)) ∧
    |(3.14159265358979323846264338328 : ℝ) - π| ≤ 1e-20 ∧
    (∀ x, 0 < x → esl_lognormal_logpdf x μ σ = log (esl_lognormal_pdf x μ σ)) :=
  ⟨⟨NormalThm.normalCdf_mono hσ, NormalThm.normalCdf_range μ σ, NormalThm.normalCdf_tendsto_zero hσ,
      NormalThm.normalCdf_tendsto_one hσ, NormalThm.normalCdf_add_surv μ σ, NormalThm.normalCdf_hasDerivAt (ne_of_gt hσ),
      fun _ _ hab => NormalThm.normal_integral_pdf hσ hab⟩,
    fun x => ⟨NormalThm.code_cdf x μ σ, NormalThm.code_surv x μ σ,
      by rw [NormalThm.code_cdf, NormalThm.code_surv]; exact NormalThm.normalCdf_add_surv μ σ x,
      NormalThm.code_pdf x μ σ, SpecialFamThm.normal_logpdf hσ⟩,
    NormalThm.pi_literal, fun _ hx => SpecialFamThm.lognormal_logpdf hx hσ⟩

/-- log-normal (`X = e^N`; the library has only its density): the textbook cdf `Φ((ln x − μ)/σ)` is non-decreasing on
    `x > 0`, the textbook density `φ((ln x − μ)/σ)/(σ x)` is its derivative there and integrates to cdf differences;
    `esl_lognormal_pdf` is that density up to the factor `√(π / eslCONST_PI)`. -/
theorem lognormal_laws {μ σ : ℝ} (hσ : 0 < σ) :
    MonotoneOn (NormalThm.lognormalCdf μ σ) (Set.Ioi 0) ∧
    (∀ x, 0 < x → HasDerivAt (NormalThm.lognormalCdf μ σ) (NormalThm.lognormalPdf μ σ x) x) ∧
    (∀ a b, 0 < a → a ≤ b → ∫ x in a..b, NormalThm.lognormalPdf μ σ x = NormalThm.lognormalCdf μ σ b - NormalThm.lognormalCdf μ σ a) ∧
    (∀ x, 0 < x → esl_lognormal_pdf x μ σ * √(2 * 3.14159265358979323846264338328) = NormalThm.lognormalPdf μ σ x * √(2 * π)) :=
  ⟨NormalThm.lognormalCdf_mono_on hσ, fun _ hx => NormalThm.lognormalCdf_hasDerivAt (ne_of_gt hσ) hx,
    fun _ _ ha hab => NormalThm.lognormal_integral_pdf hσ ha hab, fun _ hx => NormalThm.code_lognormal_pdf hx⟩

/-- gamma and stretched exponential: on the interior of the support the translated densities ARE the closed forms up to
    the `esl_stats_LogGamma` symbol — `pdf · e^{LogGamma τ} = λ^τ (x−μ)^{τ−1} e^{−λ(x−μ)}` (textbook density × `Γ(τ)`), resp.
    `pdf · e^{LogGamma(1/τ)} = λ τ e^{−(λ(x−μ))^τ}` — and the cdfs are `P(τ, λ(x−μ))`, resp. `P(1/τ, (λ(x−μ))^τ)` of the
    `esl_stats_IncompleteGamma` model.  (That `LogGamma ≈ log Γ` and `P ≈` the regularised incomplete gamma function is L0.) -/
theorem gam_sxp_closed_forms {x μ l τ : ℝ} (hl : 0 < l) (hx : μ < x) :
    esl_gam_pdf x μ l τ * exp (Num.logGamma τ) = l ^ τ * (x - μ) ^ (τ - 1) * exp (-(l * (x - μ))) ∧
    esl_sxp_pdf x μ l τ * exp (Num.logGamma (1 / τ)) = l * τ * exp (-(l * (x - μ)) ^ τ) ∧
    esl_gam_cdf x μ l τ = Num.incGammaP τ (l * (x - μ)) ∧
    esl_sxp_cdf x μ l τ = Num.incGammaP (1 / τ) ((l * (x - μ)) ^ τ) :=
  ⟨SpecialFamThm.gam_pdf_closed hl hx, SpecialFamThm.sxp_pdf_closed hl hx,
    (SpecialFamThm.gam_cdf_closed (mul_pos hl (sub_pos.mpr hx))).1, (SpecialFamThm.sxp_cdf_closed hl hx).1⟩

/-- gamma and stretched exponential, L2 at full strength, relative to the incomplete gamma function DEFINED AS AN INTEGRAL
    over Mathlib's Gamma kernel (`IncGammaInt.P a x = (∫_0^x e^{-t} t^{a-1} dt)/Γ(a)`, `Q` the upper integral; proved there:
    `P + Q = 1`, monotone, limits, `HasDerivAt`): textbook cdf `P(τ, λ(x−μ))`, resp. `P(1/τ, (λ(x−μ))^τ)`, is non-decreasing,
    within `[0,1]`, `0` up to `μ`, tends to 1, cdf + surv = 1, the density `λ^τ (x−μ)^{τ−1} e^{−λ(x−μ)}/Γ(τ)`, resp.
    `λ τ e^{−(λ(x−μ))^τ}/Γ(1/τ)`, is its derivative on `x > μ` and integrates to cdf differences.  No hypothesis on any
    special function. -/
theorem gam_sxp_textbook_laws {μ l τ : ℝ} (hl : 0 < l) (hτ : 0 < τ) :
    (Monotone (GamSxpThm.gamCdf μ l τ) ∧ (∀ x, 0 ≤ GamSxpThm.gamCdf μ l τ x ∧ GamSxpThm.gamCdf μ l τ x ≤ 1) ∧
      (∀ x, x ≤ μ → GamSxpThm.gamCdf μ l τ x = 0) ∧ Filter.Tendsto (GamSxpThm.gamCdf μ l τ) Filter.atTop (nhds 1) ∧
      (∀ x, GamSxpThm.gamCdf μ l τ x + GamSxpThm.gamSurv μ l τ x = 1) ∧
      (∀ x, μ < x → HasDerivAt (GamSxpThm.gamCdf μ l τ) (GamSxpThm.gamPdf μ l τ x) x) ∧
      (∀ a b, μ < a → a ≤ b → ∫ x in a..b, GamSxpThm.gamPdf μ l τ x = GamSxpThm.gamCdf μ l τ b - GamSxpThm.gamCdf μ l τ a)) ∧
    (Monotone (GamSxpThm.sxpCdf μ l τ) ∧ (∀ x, 0 ≤ GamSxpThm.sxpCdf μ l τ x ∧ GamSxpThm.sxpCdf μ l τ x ≤ 1) ∧
      (∀ x, x ≤ μ → GamSxpThm.sxpCdf μ l τ x = 0) ∧ Filter.Tendsto (GamSxpThm.sxpCdf μ l τ) Filter.atTop (nhds 1) ∧
      (∀ x, GamSxpThm.sxpCdf μ l τ x + GamSxpThm.sxpSurv μ l τ x = 1) ∧
      (∀ x, μ < x → HasDerivAt (GamSxpThm.sxpCdf μ l τ) (GamSxpThm.sxpPdf μ l τ x) x) ∧
      (∀ a b, μ < a → a ≤ b → ∫ x in a..b, GamSxpThm.sxpPdf μ l τ x = GamSxpThm.sxpCdf μ l τ b - GamSxpThm.sxpCdf μ l τ a)) :=
  ⟨⟨(QuantileThm.gam_edged hl hτ).mono, GamSxpThm.gamCdf_range hl hτ μ, (QuantileThm.gam_edged hl hτ).zero,
      GamSxpThm.gamCdf_tendsto_one hl hτ μ, GamSxpThm.gamCdf_add_surv hl hτ μ, fun _ h => GamSxpThm.gamCdf_hasDerivAt hl hτ h,
      fun _ _ ha hab => GamSxpThm.gam_integral_pdf hl hτ ha hab⟩,
    ⟨(QuantileThm.sxp_edged hl hτ).mono, GamSxpThm.sxpCdf_range hl hτ μ, (QuantileThm.sxp_edged hl hτ).zero,
      GamSxpThm.sxpCdf_tendsto_one hl hτ μ, GamSxpThm.sxpCdf_add_surv hl hτ μ, fun _ h => GamSxpThm.sxpCdf_hasDerivAt hl hτ h,
      fun _ _ ha hab => GamSxpThm.sxp_integral_pdf hl hτ ha hab⟩⟩

/-- gamma and stretched exponential, "the inverse cdf inverts the cdf" at L2: the textbook cdf is strictly increasing on
    `[μ, ∞)`; every `p ∈ (0,1)` has EXACTLY ONE quantile `q > μ`; and the bracketing + bisection ALGORITHM of `esl_gam_invcdf` /
    `esl_sxp_invcdf` (`Bisect.invcdfGam` / `Bisect.invcdfRight`, which the translated functions are instances of —
    `bisection_inverses_generated`), run on the textbook cdf, terminates for all sufficiently large fuel and returns a
    value within `1e-6·(r − μ)` of that quantile (six digits of the offset from `μ`, the stop rule of the C code).
    (What is not proved: the same with the code's cdf — the `esl_stats_IncompleteGamma` algorithm — in place of the textbook
    one; `bisection_inverses_accuracy` bounds the result relative to the code's own cdf, `gam_sxp_code_vs_textbook` says
    how the two cdfs differ.) -/
theorem gam_sxp_inverse_laws {μ l τ p : ℝ} (hl : 0 < l) (hτ : 0 < τ) (hp0 : 0 < p) (hp1 : p < 1) :
    ((∀ s t, μ ≤ s → s < t → GamSxpThm.gamCdf μ l τ s < GamSxpThm.gamCdf μ l τ t) ∧
      (∃! q, μ < q ∧ GamSxpThm.gamCdf μ l τ q = p) ∧
      ∃ q, (μ < q ∧ GamSxpThm.gamCdf μ l τ q = p) ∧ ∃ N : Nat, ∀ fuel, N ≤ fuel →
        ∃ r, Bisect.invcdfGam fuel (GamSxpThm.gamCdf μ l τ) p μ l τ = some r ∧ |r - q| ≤ 1e-6 * (r - μ)) ∧
    ((∀ s t, μ ≤ s → s < t → GamSxpThm.sxpCdf μ l τ s < GamSxpThm.sxpCdf μ l τ t) ∧
      (∃! q, μ < q ∧ GamSxpThm.sxpCdf μ l τ q = p) ∧
      ∃ q, (μ < q ∧ GamSxpThm.sxpCdf μ l τ q = p) ∧ ∃ N : Nat, ∀ fuel, N ≤ fuel →
        ∃ r, Bisect.invcdfRight fuel (GamSxpThm.sxpCdf μ l τ) p μ = some r ∧ |r - q| ≤ 1e-6 * (r - μ)) :=
  have G := QuantileThm.gam_edged (μ := μ) hl hτ
  have S := QuantileThm.sxp_edged (μ := μ) hl hτ
  ⟨⟨G.strict, G.unique hp0 hp1, G.gam_inverts (div_pos hτ hl) hp0 hp1⟩, S.strict, S.unique hp0 hp1, S.right_inverts hp0 hp1⟩

example : ∃! q, (0 : ℝ) < q ∧ GamSxpThm.gamCdf 0 1 2 q = 1 / 2 :=
  (gam_sxp_inverse_laws (μ := 0) (l := 1) (τ := 2) (p := 1 / 2) (by norm_num) (by norm_num) (by norm_num) (by norm_num)).1.2.1

/-- gamma and stretched exponential, L1, UNCONDITIONAL: on `x > μ` the translated density is the textbook density times
    `e^{log Γ(a) − esl_stats_LogGamma(a)}` and the translated cdf / survival differ from the textbook ones exactly by
    `esl_stats_IncompleteGamma(a, y) − (P a y, Q a y)` (`a = τ, y = λ(x−μ)`, resp. `a = 1/τ, y = (λ(x−μ))^τ`): the two
    special-function discrepancies are the only way the code can differ from the textbook. -/
theorem gam_sxp_code_vs_textbook {x μ l τ : ℝ} (hl : 0 < l) (hτ : 0 < τ) (hx : μ < x) :
    (esl_gam_pdf x μ l τ = GamSxpThm.gamPdf μ l τ x * exp (log (Gamma τ) - Num.logGamma τ) ∧
      esl_gam_cdf x μ l τ - GamSxpThm.gamCdf μ l τ x = Num.incGammaP τ (l * (x - μ)) - IncGammaInt.P τ (l * (x - μ)) ∧
      esl_gam_surv x μ l τ - GamSxpThm.gamSurv μ l τ x = Num.incGammaQ τ (l * (x - μ)) - IncGammaInt.Q τ (l * (x - μ))) ∧
    (esl_sxp_pdf x μ l τ = GamSxpThm.sxpPdf μ l τ x * exp (log (Gamma (1 / τ)) - Num.logGamma (1 / τ)) ∧
      esl_sxp_cdf x μ l τ - GamSxpThm.sxpCdf μ l τ x =
        Num.incGammaP (1 / τ) ((l * (x - μ)) ^ τ) - IncGammaInt.P (1 / τ) ((l * (x - μ)) ^ τ) ∧
      esl_sxp_surv x μ l τ - GamSxpThm.sxpSurv μ l τ x =
        Num.incGammaQ (1 / τ) ((l * (x - μ)) ^ τ) - IncGammaInt.Q (1 / τ) ((l * (x - μ)) ^ τ)) :=
  ⟨GamSxpThm.gam_code_vs_textbook hl hτ hx, GamSxpThm.sxp_code_vs_textbook hl hτ hx⟩

/-- …with explicit tolerances: `|LogGamma − log Γ| ≤ ε` and `|IncompleteGamma − (P, Q)| ≤ δ` at the arguments used give
    density within relative `e^ε − 1`, cdf and survival within `δ`, and the code's cdf + surv within `2δ` of 1.
    (`ε`, `δ` are parameters: the hypotheses are satisfiable for every instance, e.g. with the discrepancies themselves;
    the monitors measure `ε ≈ 1e-9`, `δ ≈ 1e-7` against mpmath.) -/
theorem gam_sxp_code_close {x μ l τ ε δ : ℝ} (hl : 0 < l) (hτ : 0 < τ) (hx : μ < x) :
    (|Num.logGamma τ - log (Gamma τ)| ≤ ε → |Num.incGammaP τ (l * (x - μ)) - IncGammaInt.P τ (l * (x - μ))| ≤ δ →
      |Num.incGammaQ τ (l * (x - μ)) - IncGammaInt.Q τ (l * (x - μ))| ≤ δ →
      |esl_gam_pdf x μ l τ - GamSxpThm.gamPdf μ l τ x| ≤ (exp ε - 1) * GamSxpThm.gamPdf μ l τ x ∧
      |esl_gam_cdf x μ l τ - GamSxpThm.gamCdf μ l τ x| ≤ δ ∧ |esl_gam_surv x μ l τ - GamSxpThm.gamSurv μ l τ x| ≤ δ ∧
      |esl_gam_cdf x μ l τ + esl_gam_surv x μ l τ - 1| ≤ 2 * δ) ∧
    (|Num.logGamma (1 / τ) - log (Gamma (1 / τ))| ≤ ε →
      |Num.incGammaP (1 / τ) ((l * (x - μ)) ^ τ) - IncGammaInt.P (1 / τ) ((l * (x - μ)) ^ τ)| ≤ δ →
      |Num.incGammaQ (1 / τ) ((l * (x - μ)) ^ τ) - IncGammaInt.Q (1 / τ) ((l * (x - μ)) ^ τ)| ≤ δ →
      |esl_sxp_pdf x μ l τ - GamSxpThm.sxpPdf μ l τ x| ≤ (exp ε - 1) * GamSxpThm.sxpPdf μ l τ x ∧
      |esl_sxp_cdf x μ l τ - GamSxpThm.sxpCdf μ l τ x| ≤ δ ∧ |esl_sxp_surv x μ l τ - GamSxpThm.sxpSurv μ l τ x| ≤ δ ∧
      |esl_sxp_cdf x μ l τ + esl_sxp_surv x μ l τ - 1| ≤ 2 * δ) :=
  ⟨GamSxpThm.gam_code_close hl hτ hx, GamSxpThm.sxp_code_close hl hτ hx⟩

-- non-vacuity: the tolerance hypotheses hold with the discrepancies themselves
example : |esl_gam_cdf (3 : ℝ) 0 1 2 - GamSxpThm.gamCdf 0 1 2 3| ≤
    max |Num.incGammaP (2 : ℝ) (1 * (3 - 0)) - IncGammaInt.P 2 (1 * (3 - 0))| |Num.incGammaQ (2 : ℝ) (1 * (3 - 0)) - IncGammaInt.Q 2 (1 * (3 - 0))| :=
  ((gam_sxp_code_close (x := 3) (μ := 0) (l := 1) (τ := 2) (ε := |Num.logGamma (2 : ℝ) - log (Gamma 2)|) (by norm_num) (by norm_num)
    (by norm_num)).1 le_rfl (le_max_left _ _) (le_max_right _ _)).2.1

/-- `esl_stats_IncompleteGamma` (hand model read over `ℝ`), the facts that need no analysis: it fails (C: `eslERANGE`) for
    `a ≤ 0` or `x < 0`; a result `(P, Q)` implies `a > 0`, `x ≥ 0`, `P + Q = 1`, and it is `P` that is formed as `1 − Q` on
    the continued-fraction branch `x > a + 1`, `Q` as `1 − P` on the series branch. -/
theorem incomplete_gamma_structure {a x : ℝ} :
    ((a ≤ 0 ∨ x < 0) → realIncGamma a x = none) ∧
    (∀ P Q, realIncGamma a x = some (P, Q) → 0 < a ∧ 0 ≤ x ∧ P + Q = 1 ∧ (a + 1 < x → P = 1 - Q) ∧ (¬ a + 1 < x → Q = 1 - P)) :=
  ⟨SpecialFamThm.realIncGamma_range_error, fun _ _ h => SpecialFamThm.realIncGamma_branches h⟩

/-- Edge, every carrier: gamma below the support (`λ(x-μ) < 0`, resp. `≤ 0`), stretched exponential below `μ`, log-normal
    at `0`: density `0`, cdf `0`, surv `1`, log versions `-inf`, `-inf`, `0`. -/
theorem gam_sxp_outside_support {α : Type} [Add α] [Sub α] [Mul α] [Div α] [Neg α] [OfScientific α] [LT α] [LE α]
    [DecidableLT α] [DecidableLE α] [Num α] {x mu l t : α} :
    (l * (x - mu) < 0.0 → esl_gam_pdf x mu l t = 0.0 ∧ esl_gam_logpdf x mu l t = -Num.inf) ∧
    (l * (x - mu) ≤ 0.0 → esl_gam_cdf x mu l t = 0.0 ∧ esl_gam_surv x mu l t = 1.0 ∧ esl_gam_logcdf x mu l t = -Num.inf ∧
      esl_gam_logsurv x mu l t = 0.0) ∧
    (x < mu → esl_sxp_pdf x mu l t = 0.0 ∧ esl_sxp_logpdf x mu l t = -Num.inf) ∧
    (x ≤ mu → esl_sxp_cdf x mu l t = 0.0 ∧ esl_sxp_surv x mu l t = 1.0 ∧ esl_sxp_logcdf x mu l t = -Num.inf ∧
      esl_sxp_logsurv x mu l t = 0.0) ∧
    (Num.eqb x 0.0 = true → esl_lognormal_pdf x mu l = 0.0 ∧ esl_lognormal_logpdf x mu l = -Num.inf) :=
  ⟨fun h => ⟨Edge.gam_pdf_below h, Edge.gam_logpdf_below h⟩,
    fun h => ⟨Edge.gam_cdf_below h, Edge.gam_surv_below h, Edge.gam_logcdf_below h, Edge.gam_logsurv_below h⟩,
    fun h => ⟨Edge.sxp_pdf_below h, Edge.sxp_logpdf_below h⟩,
    fun h => ⟨Edge.sxp_cdf_below h, Edge.sxp_surv_below h, Edge.sxp_logcdf_below h, Edge.sxp_logsurv_below h⟩,
    fun h => ⟨Edge.lognormal_pdf_zero h, Edge.lognormal_logpdf_zero h⟩⟩

/-! ## Mixtures (`esl_hxp_*`, `esl_mixgev_*`, TRANSLATED: counted loops = finite sums over the components)

`MixGen.hxpCdf h x = Σ_{k<K} q_k · expCdf μ λ_k x` etc. are the textbook mixtures; `HxpOK` / `MixgevOK` say: coefficients
`≥ 0`, rates/scales `> 0` (GEV shapes `≠ 0`) for the `K` components in use.  `hxpQ` / `mixgevQ` is `Σ q_k` (1 when
normalised; the code never normalises). -/

/-- hyperexponential, L2 + L1: the textbook mixture cdf is non-decreasing from `0` (below `μ`) to `Σq`, cdf + surv = `Σq`;
    the translated code's cdf is within `2.5e-17·Σq` of it for every argument, survival and density are exact, the
    code's own cdf + surv is within `2.5e-17·Σq` of `Σq` (exactly 1 below `μ`), and `cdf μ = 0`. -/
theorem hxp_mixture_laws {h : ESL_HYPEREXP ℝ} (ok : MixGen.HxpOK h) :
    (Monotone (MixGen.hxpCdf h) ∧ (∀ x, x < h.mu → MixGen.hxpCdf h x = 0) ∧
      (∀ x, 0 ≤ MixGen.hxpCdf h x ∧ MixGen.hxpCdf h x ≤ MixGen.hxpQ h) ∧
      Filter.Tendsto (MixGen.hxpCdf h) Filter.atTop (nhds (MixGen.hxpQ h)) ∧
      (∀ x, MixGen.hxpCdf h x + MixGen.hxpSurv h x = MixGen.hxpQ h)) ∧
    (∀ x, |esl_hxp_cdf x h - MixGen.hxpCdf h x| ≤ 2.5e-17 * MixGen.hxpQ h ∧
      esl_hxp_surv x h = (if x < h.mu then 1 else MixGen.hxpSurv h x) ∧ esl_hxp_pdf x h = MixGen.hxpPdf h x) ∧
    (∀ x, (x < h.mu → esl_hxp_cdf x h + esl_hxp_surv x h = 1) ∧
      (h.mu ≤ x → |esl_hxp_cdf x h + esl_hxp_surv x h - MixGen.hxpQ h| ≤ 2.5e-17 * MixGen.hxpQ h)) ∧
    esl_hxp_cdf h.mu h = 0 :=
  ⟨MixGen.hxp_textbook_laws ok, MixGen.hxp_code_eq_textbook ok, MixGen.hxp_cdf_add_surv ok, MixGen.hxp_cdf_at_mu h⟩

/-- a two-component hyperexponential satisfying `HxpOK` -/
example : MixGen.HxpOK ({ mu := 0, K := 2, q := [0.25, 0.75], lambda := [1, 2], wrk := [0, 0] } : ESL_HYPEREXP ℝ) := by
  intro k hk
  have : k = 0 ∨ k = 1 := by simp only at hk; omega
  rcases this with rfl | rfl <;> simp [MixGen.hq, MixGen.hl] <;> norm_num

/-- mixture of GEVs: the textbook mixture cdf is non-decreasing within `[0, Σq]`, cdf + surv = `Σq`; at every `x` outside
    the components' `|α y| < 1e-12` Gumbel slivers the translated cdf and density ARE the textbook mixture, the
    survival is within `2.3e-16·Σq` of it and cdf + surv within `2.3e-16·Σq` of `Σq`. -/
theorem mixgev_mixture_laws {g : ESL_MIXGEV ℝ} (ok : MixGen.MixgevOK g) :
    (Monotone (MixGen.mixgevCdf g) ∧ (∀ x, 0 ≤ MixGen.mixgevCdf g x ∧ MixGen.mixgevCdf g x ≤ MixGen.mixgevQ g) ∧
      (∀ x, MixGen.mixgevCdf g x + MixGen.mixgevSurv g x = MixGen.mixgevQ g)) ∧
    (∀ x, MixGen.GevBranch g x → esl_mixgev_cdf x g = MixGen.mixgevCdf g x ∧ esl_mixgev_pdf x g = MixGen.mixgevPdf g x ∧
      |esl_mixgev_surv x g - MixGen.mixgevSurv g x| ≤ 2.3e-16 * MixGen.mixgevQ g ∧
      |esl_mixgev_cdf x g + esl_mixgev_surv x g - MixGen.mixgevQ g| ≤ 2.3e-16 * MixGen.mixgevQ g) :=
  ⟨MixGen.mixgev_textbook_laws ok, fun _ hb => MixGen.mixgev_code_eq_textbook ok hb⟩

/-- mixture of GEVs at EVERY argument (no `GevBranch` hypothesis; `y_k = λ_k (x − μ_k)`, `|y_k| ≤ 1e11`): a component inside
    its `|α y| < 1e-12` Gumbel sliver contributes its Gumbel-vs-GEV distance, one outside contributes nothing — the translated
    mixture cdf is within `Σ_k q_k·4e-12·|y_k|·e^{-y_k}` of the textbook mixture cdf, the survival within that plus `2.3e-16·Σq`. -/
theorem mixgev_code_close_everywhere {g : ESL_MIXGEV ℝ} (ok : MixGen.MixgevOK g) {x : ℝ} (hy : ∀ k < g.K, |MixgevAll.yk g x k| ≤ 1e11) :
    |esl_mixgev_cdf x g - MixGen.mixgevCdf g x| ≤
      ∑ k ∈ Finset.range g.K, MixGen.gq g k * (4e-12 * |MixgevAll.yk g x k| * exp (-(MixgevAll.yk g x k))) ∧
    |esl_mixgev_surv x g - MixGen.mixgevSurv g x| ≤ 2.3e-16 * MixGen.mixgevQ g +
      ∑ k ∈ Finset.range g.K, MixGen.gq g k * (4e-12 * |MixgevAll.yk g x k| * exp (-(MixgevAll.yk g x k))) :=
  MixgevAll.mixgev_close_everywhere ok hy

/-- mixtures at full strength, for EVERY number of components `K`: the mixture density is the derivative of the mixture
    cdf at every point that is not a support boundary of a component — hyperexponential: every `x ≠ μ`; GEV mixture:
    every `x` with `1 + α_k λ_k (x − μ_k) ≠ 0` for all `k` (outside a component's support its cdf is locally constant and
    its density `0`) — and for normalised coefficients (`Σ q = 1`): cdf + surv = 1, cdf within `[0,1]`, and the
    hyperexponential cdf tends to 1. -/
theorem mixture_full_laws :
    (∀ h : ESL_HYPEREXP ℝ, (∀ x, x ≠ h.mu → HasDerivAt (MixGen.hxpCdf h) (MixGen.hxpPdf h x) x) ∧
      (MixGen.HxpOK h → MixGen.hxpQ h = 1 → Monotone (MixGen.hxpCdf h) ∧
        (∀ x, MixGen.hxpCdf h x + MixGen.hxpSurv h x = 1) ∧ (∀ x, 0 ≤ MixGen.hxpCdf h x ∧ MixGen.hxpCdf h x ≤ 1) ∧
        Filter.Tendsto (MixGen.hxpCdf h) Filter.atTop (nhds 1))) ∧
    (∀ g : ESL_MIXGEV ℝ, MixGen.MixgevOK g →
      (∀ x, (∀ k < g.K, gevArg (MixGen.gm g k) (MixGen.gl g k) (MixGen.ga g k) x ≠ 0) →
        HasDerivAt (MixGen.mixgevCdf g) (MixGen.mixgevPdf g x) x) ∧
      (MixGen.mixgevQ g = 1 → Monotone (MixGen.mixgevCdf g) ∧ (∀ x, MixGen.mixgevCdf g x + MixGen.mixgevSurv g x = 1) ∧
        (∀ x, 0 ≤ MixGen.mixgevCdf g x ∧ MixGen.mixgevCdf g x ≤ 1))) :=
  ⟨fun h => ⟨fun _ hx => MixDeriv.hxp_hasDerivAt_ne h hx, fun ok hQ => by
      obtain ⟨h1, _, h3, h4, h5⟩ := MixGen.hxp_textbook_laws ok
      rw [hQ] at h3 h4 h5
      exact ⟨h1, h5, h3, h4⟩⟩,
    fun g ok => ⟨fun _ hx => MixDeriv.mixgev_hasDerivAt ok hx, fun hQ => by
      obtain ⟨h1, h2, h3⟩ := MixGen.mixgev_textbook_laws ok
      rw [hQ] at h2 h3
      exact ⟨h1, h3, h2⟩⟩⟩

/-- a normalised three-component hyperexponential satisfies the hypotheses (`K = 3`, `Σ q = 1`) -/
theorem hxp3_ok : MixGen.HxpOK ({ mu := 1, K := 3, q := [0.25, 0.25, 0.5], lambda := [1, 2, 3], wrk := [0, 0, 0] } : ESL_HYPEREXP ℝ) ∧
    MixGen.hxpQ ({ mu := 1, K := 3, q := [0.25, 0.25, 0.5], lambda := [1, 2, 3], wrk := [0, 0, 0] } : ESL_HYPEREXP ℝ) = 1 := by
  constructor
  · intro k hk
    have : k = 0 ∨ k = 1 ∨ k = 2 := by simp only at hk; omega
    rcases this with rfl | rfl | rfl <;> simp [MixGen.hq, MixGen.hl] <;> norm_num
  · simp [MixGen.hxpQ, MixGen.hq, Finset.sum_range_succ]; norm_num

example : MixGen.HxpOK ({ mu := 1, K := 3, q := [0.25, 0.25, 0.5], lambda := [1, 2, 3], wrk := [0, 0, 0] } : ESL_HYPEREXP ℝ) ∧
    MixGen.hxpQ ({ mu := 1, K := 3, q := [0.25, 0.25, 0.5], lambda := [1, 2, 3], wrk := [0, 0, 0] } : ESL_HYPEREXP ℝ) = 1 := hxp3_ok

/-- hyperexponential, "the inverse cdf inverts the cdf" at L2, every `K`: rates `> 0`, coefficients `≥ 0`, at least one
    `> 0` ⇒ the textbook mixture cdf is strictly increasing on `[μ, ∞)`, every `p ∈ (0, Σq)` has exactly one quantile `q > μ`,
    and the bracketing + bisection algorithm of `esl_hxp_invcdf` (`Bisect.invcdfRightLim`, which the translated function is an
    instance of) run on the textbook cdf returns, for all sufficiently large fuel, within `1e-6·(r − μ)` of that quantile.
    (For `p ≥ Σq` see `bisection_bracket_returns_at_infinity`.) -/
theorem hxp_inverse_laws {h : ESL_HYPEREXP ℝ} (ok : MixGen.HxpOK h) (hsome : ∃ k < h.K, 0 < MixGen.hq h k) {p : ℝ}
    (hp0 : 0 < p) (hp1 : p < MixGen.hxpQ h) :
    (∀ s t, h.mu ≤ s → s < t → MixGen.hxpCdf h s < MixGen.hxpCdf h t) ∧ (∃! q, h.mu < q ∧ MixGen.hxpCdf h q = p) ∧
    ∃ q, (h.mu < q ∧ MixGen.hxpCdf h q = p) ∧ ∃ N : Nat, ∀ fuel, N ≤ fuel →
      ∃ r, Bisect.invcdfRightLim fuel (MixGen.hxpCdf h) p h.mu = some r ∧ |r - q| ≤ 1e-6 * (r - h.mu) :=
  have E := HxpQuantile.hxp_edged ok hsome
  ⟨E.strict, E.unique hp0 hp1, by simpa only [BisectTerm.invcdfRightLim_real] using E.right_inverts hp0 hp1⟩

/-- `esl_vec_DMax` / `esl_vec_DMin` (translated) return an entry of `vec[0..n-1]` that bounds all of them — so the left
    bracket of `esl_mixgev_invcdf` starts at the smallest component location. -/
theorem vec_extremes (vec : List ℝ) {n : ℕ} (hn : 1 ≤ n) :
    ((∀ i < n, vec.getD i 0 ≤ esl_vec_DMax vec n) ∧ ∃ i < n, esl_vec_DMax vec n = vec.getD i 0) ∧
    ((∀ i < n, esl_vec_DMin vec n ≤ vec.getD i 0) ∧ ∃ i < n, esl_vec_DMin vec n = vec.getD i 0) :=
  MixGen.vec_dmax_dmin vec hn

/-- mixture log versions: the translated `esl_vec_DLogSum` IS `log Σ exp v_i` whenever all entries lie in its 500-window
    below the maximum (what it drops otherwise is below `e^{-500}` of the largest term); and for positive coefficients
    whose stored log-terms `log q_k + log f_k(x)` lie within 500 of each other, `esl_hxp_logsurv = log esl_hxp_surv` and
    `esl_hxp_logpdf = log esl_hxp_pdf` exactly on `x ≥ μ` (through the loop that fills `h->wrk`).
    `esl_hxp_logcdf` is within `1e-8` of `log` of the textbook mixture cdf on `x > μ` (log-sum-exp is 1-Lipschitz
    in the sup norm, so the components' `1e-8` is inherited, not accumulated).
    `_partial`: only spreads inside the window; what the code drops outside it is bounded in `mixture_log_versions` below.
    The log versions of the GEV mixture: `mixgev_log_versions` below. -/
theorem mixture_log_versions_partial :
    (∀ (vec : List ℝ) (n : ℕ), 1 ≤ n → esl_vec_DMax vec n ≠ (Num.inf : ℝ) → (∀ i < n, esl_vec_DMax vec n - 500 < vec.getD i 0) →
      esl_vec_DLogSum vec n = log (∑ i ∈ Finset.range n, exp (vec.getD i 0))) ∧
    (∀ (h : ESL_HYPEREXP ℝ) (x : ℝ), h.mu ≤ x → 1 ≤ h.K → h.K ≤ h.wrk.length → (∀ k < h.K, 0 < MixGen.hq h k) →
      (∀ k < h.K, MixLogGen.entry h (fun l => esl_exp_logsurv x h.mu l) k ≠ (Num.inf : ℝ)) →
      (∀ i < h.K, ∀ j < h.K, MixLogGen.entry h (fun l => esl_exp_logsurv x h.mu l) j - 500 <
        MixLogGen.entry h (fun l => esl_exp_logsurv x h.mu l) i) →
      esl_hxp_logsurv x h = log (esl_hxp_surv x h)) ∧
    (∀ (h : ESL_HYPEREXP ℝ) (x : ℝ), h.mu ≤ x → 1 ≤ h.K → h.K ≤ h.wrk.length →
      (∀ k < h.K, 0 < MixGen.hq h k ∧ 0 < MixGen.hl h k ∧ MixGen.hl h k ≠ (Num.inf : ℝ)) →
      (∀ k < h.K, MixLogGen.entry h (fun l => esl_exp_logpdf x h.mu l) k ≠ (Num.inf : ℝ)) →
      (∀ i < h.K, ∀ j < h.K, MixLogGen.entry h (fun l => esl_exp_logpdf x h.mu l) j - 500 <
        MixLogGen.entry h (fun l => esl_exp_logpdf x h.mu l) i) →
      esl_hxp_logpdf x h = log (esl_hxp_pdf x h)) ∧
    (∀ (h : ESL_HYPEREXP ℝ) (x : ℝ), h.mu < x → 1 ≤ h.K → h.K ≤ h.wrk.length → (∀ k < h.K, 0 < MixGen.hq h k ∧ 0 < MixGen.hl h k) →
      (∀ k < h.K, MixLogGen.entry h (fun l => esl_exp_logcdf x h.mu l) k ≠ (Num.inf : ℝ)) →
      (∀ i < h.K, ∀ j < h.K, MixLogGen.entry h (fun l => esl_exp_logcdf x h.mu l) j - 500 <
        MixLogGen.entry h (fun l => esl_exp_logcdf x h.mu l) i) →
      |esl_hxp_logcdf x h - log (MixGen.hxpCdf h x)| ≤ 1e-8) :=
  ⟨fun vec _ hn hfin hwin => MixGen.vec_dlogsum vec hn hfin hwin,
    fun _ _ hx hK hw hpos hfin hwin => (MixLogGen.hxp_logsurv hx hK hw hpos hfin).eq hwin,
    fun _ _ hx hK hw hpos hfin hwin => (MixLogGen.hxp_logpdf hx hK hw hpos hfin).eq hwin,
    fun _ _ hx hK hw hpos hfin hwin => MixGen.abs_le_of_window (MixLogClose.hxp_logcdf hx hK hw hpos hfin) hwin⟩

/-- Mixture log versions with NO window hypothesis.
    `esl_vec_DLogSum` (translated) adds `exp (v_i − max)` only for entries inside the 500-window below the maximum; for
    EVERY vector (`n ≥ 1`, maximum not the infinity symbol) the result lies below `log Σ_{i<n} exp v_i` by at most
    `n · e^{-500}` (`≈ n · 7e-218`: far below one ulp of any representable result).  Consequently, for positive coefficients
    and EVERY spread of the rates, on `x ≥ μ`: `log esl_hxp_surv − K e^{-500} ≤ esl_hxp_logsurv ≤ log esl_hxp_surv`, and the
    same for `esl_hxp_logpdf` (finite rates); `esl_hxp_logcdf` within `1e-8 + K e^{-500}` of `log` of the textbook mixture cdf on `x > μ`;
    for the GEV mixture (`MixgevLog.Inside g x`, as in `mixgev_log_versions`, but WITHOUT
    its window hypothesis): `logcdf`, `logpdf` within `K e^{-500}` below the logarithm of the textbook mixture, `logsurv` within
    `3e-8 + K e^{-500}`. -/
theorem mixture_log_versions :
    (∀ (vec : List ℝ) (n : ℕ), 1 ≤ n → esl_vec_DMax vec n ≠ (Num.inf : ℝ) →
      esl_vec_DLogSum vec n ≤ log (∑ i ∈ Finset.range n, exp (vec.getD i 0)) ∧
      log (∑ i ∈ Finset.range n, exp (vec.getD i 0)) ≤ esl_vec_DLogSum vec n + n * exp (-500)) ∧
    (∀ (h : ESL_HYPEREXP ℝ) (x : ℝ), h.mu ≤ x → 1 ≤ h.K → h.K ≤ h.wrk.length → (∀ k < h.K, 0 < MixGen.hq h k) →
      (∀ k < h.K, MixLogGen.entry h (fun l => esl_exp_logsurv x h.mu l) k ≠ (Num.inf : ℝ)) →
      esl_hxp_logsurv x h ≤ log (esl_hxp_surv x h) ∧ log (esl_hxp_surv x h) ≤ esl_hxp_logsurv x h + h.K * exp (-500)) ∧
    (∀ (h : ESL_HYPEREXP ℝ) (x : ℝ), h.mu ≤ x → 1 ≤ h.K → h.K ≤ h.wrk.length →
      (∀ k < h.K, 0 < MixGen.hq h k ∧ 0 < MixGen.hl h k ∧ MixGen.hl h k ≠ (Num.inf : ℝ)) →
      (∀ k < h.K, MixLogGen.entry h (fun l => esl_exp_logpdf x h.mu l) k ≠ (Num.inf : ℝ)) →
      esl_hxp_logpdf x h ≤ log (esl_hxp_pdf x h) ∧ log (esl_hxp_pdf x h) ≤ esl_hxp_logpdf x h + h.K * exp (-500)) ∧
    (∀ (h : ESL_HYPEREXP ℝ) (x : ℝ), h.mu < x → 1 ≤ h.K → h.K ≤ h.wrk.length → (∀ k < h.K, 0 < MixGen.hq h k ∧ 0 < MixGen.hl h k) →
      (∀ k < h.K, MixLogGen.entry h (fun l => esl_exp_logcdf x h.mu l) k ≠ (Num.inf : ℝ)) →
      |esl_hxp_logcdf x h - log (MixGen.hxpCdf h x)| ≤ 1e-8 + h.K * exp (-500)) ∧
    (∀ (g : ESL_MIXGEV ℝ) (x : ℝ), MixgevLog.Inside g x →
      ((∀ k < g.K, MixgevLog.entryG g (fun k => esl_gev_logcdf x (MixGen.gm g k) (MixGen.gl g k) (MixGen.ga g k)) k ≠ (Num.inf : ℝ)) →
        esl_mixgev_logcdf x g ≤ log (MixGen.mixgevCdf g x) ∧ log (MixGen.mixgevCdf g x) ≤ esl_mixgev_logcdf x g + g.K * exp (-500)) ∧
      ((∀ k < g.K, MixgevLog.entryG g (fun k => esl_gev_logpdf x (MixGen.gm g k) (MixGen.gl g k) (MixGen.ga g k)) k ≠ (Num.inf : ℝ)) →
        esl_mixgev_logpdf x g ≤ log (MixGen.mixgevPdf g x) ∧ log (MixGen.mixgevPdf g x) ≤ esl_mixgev_logpdf x g + g.K * exp (-500)) ∧
      ((∀ k < g.K, MixgevLog.entryG g (fun k => esl_gev_logsurv x (MixGen.gm g k) (MixGen.gl g k) (MixGen.ga g k)) k ≠ (Num.inf : ℝ)) →
        |esl_mixgev_logsurv x g - log (MixGen.mixgevSurv g x)| ≤ 3e-8 + g.K * exp (-500))) :=
  ⟨fun vec _ hn hfin => (MixGen.dlogsum_lost vec hn hfin).all,
    fun _ _ hx hK hw hpos hfin => (MixLogGen.hxp_logsurv hx hK hw hpos hfin).all,
    fun _ _ hx hK hw hpos hfin => (MixLogGen.hxp_logpdf hx hK hw hpos hfin).all,
    fun _ _ hx hK hw hpos hfin => MixGen.abs_le_all (MixLogClose.hxp_logcdf hx hK hw hpos hfin),
    fun _ _ hi => ⟨fun hfin => (MixgevLog.mixgev_logcdf hi hfin).all, fun hfin => (MixgevLog.mixgev_logpdf hi hfin).all,
      fun hfin => MixGen.abs_le_all (MixgevLog.mixgev_logsurv hi hfin)⟩⟩

/-- non-vacuity: an entry 600 below the maximum is OUTSIDE the window (`mixture_log_versions_partial` does not apply), the
    bound above does; `c` is any real number other than the opaque infinity symbol -/
example : ∃ c : ℝ, esl_vec_DLogSum [c, c - 600] 2 ≤ log (∑ i ∈ Finset.range 2, exp (([c, c - 600] : List ℝ).getD i 0)) ∧
    ¬ (esl_vec_DMax [c, c - 600] 2 - 500 < ([c, c - 600] : List ℝ).getD 1 0) := by
  have key : ∀ c : ℝ, esl_vec_DMax [c, c - 600] 2 = c := by
    intro c
    obtain ⟨⟨hmax, j, hj, hjm⟩, _⟩ := MixGen.vec_dmax_dmin [c, c - 600] (n := 2) (by norm_num)
    have h0 := hmax 0 (by norm_num)
    have : j = 0 ∨ j = 1 := by omega
    rcases this with rfl | rfl
    · simpa using hjm
    · simp at hjm h0; linarith
  obtain ⟨c, hc⟩ : ∃ c : ℝ, c ≠ (Num.inf : ℝ) := by
    by_cases h : (0 : ℝ) = Num.inf
    · exact ⟨1, by rw [← h]; norm_num⟩
    · exact ⟨0, h⟩
  refine ⟨c, (mixture_log_versions.1 [c, c - 600] 2 (by norm_num) (by rw [key]; exact hc)).1, ?_⟩
  rw [key]; simp; linarith

/-- log versions of the GEV mixture (TRANSLATED loops + `esl_vec_DLogSum`; `MixgevLog.Inside g x`: `K ≥ 1`, the scratch
    vector has `K` slots, coefficients and scales positive, every component in its GEV branch and `x` inside every support;
    the stored log-terms finite and within the 500-window): `esl_mixgev_logcdf = log cdf` and `esl_mixgev_logpdf = log pdf`
    of the textbook mixture exactly, `esl_mixgev_logsurv` within `3e-8` of `log surv` (the components' switch error is
    inherited, not accumulated).  `esl_mixgev_logsurv`'s loop differs from the other two (`wrk[k] = log q[k]; wrk[k] += …`,
    no `q == 0` test): the theorem needs the `K` slots for its read-back. -/
theorem mixgev_log_versions {g : ESL_MIXGEV ℝ} {x : ℝ} (hi : MixgevLog.Inside g x) :
    ((∀ k < g.K, MixgevLog.entryG g (fun k => esl_gev_logcdf x (MixGen.gm g k) (MixGen.gl g k) (MixGen.ga g k)) k ≠ (Num.inf : ℝ)) →
      (∀ i < g.K, ∀ j < g.K, MixgevLog.entryG g (fun k => esl_gev_logcdf x (MixGen.gm g k) (MixGen.gl g k) (MixGen.ga g k)) j - 500 <
        MixgevLog.entryG g (fun k => esl_gev_logcdf x (MixGen.gm g k) (MixGen.gl g k) (MixGen.ga g k)) i) →
      esl_mixgev_logcdf x g = log (MixGen.mixgevCdf g x)) ∧
    ((∀ k < g.K, MixgevLog.entryG g (fun k => esl_gev_logpdf x (MixGen.gm g k) (MixGen.gl g k) (MixGen.ga g k)) k ≠ (Num.inf : ℝ)) →
      (∀ i < g.K, ∀ j < g.K, MixgevLog.entryG g (fun k => esl_gev_logpdf x (MixGen.gm g k) (MixGen.gl g k) (MixGen.ga g k)) j - 500 <
        MixgevLog.entryG g (fun k => esl_gev_logpdf x (MixGen.gm g k) (MixGen.gl g k) (MixGen.ga g k)) i) →
      esl_mixgev_logpdf x g = log (MixGen.mixgevPdf g x)) ∧
    ((∀ k < g.K, MixgevLog.entryG g (fun k => esl_gev_logsurv x (MixGen.gm g k) (MixGen.gl g k) (MixGen.ga g k)) k ≠ (Num.inf : ℝ)) →
      (∀ i < g.K, ∀ j < g.K, MixgevLog.entryG g (fun k => esl_gev_logsurv x (MixGen.gm g k) (MixGen.gl g k) (MixGen.ga g k)) j - 500 <
        MixgevLog.entryG g (fun k => esl_gev_logsurv x (MixGen.gm g k) (MixGen.gl g k) (MixGen.ga g k)) i) →
      |esl_mixgev_logsurv x g - log (MixGen.mixgevSurv g x)| ≤ 3e-8) :=
  ⟨fun hfin hwin => (MixgevLog.mixgev_logcdf hi hfin).eq hwin, fun hfin hwin => (MixgevLog.mixgev_logpdf hi hfin).eq hwin,
    fun hfin hwin => MixGen.abs_le_of_window (MixgevLog.mixgev_logsurv hi hfin) hwin⟩

/-- `Inside` is satisfiable: one Fréchet-type component (`α = 0.5`) at `x = 1` -/
example : MixgevLog.Inside ({ K := 1, q := [1], mu := [0], lambda := [1], alpha := [0.5], wrk := [0] } : ESL_MIXGEV ℝ) 1 where
  K1 := le_refl 1
  wrk := le_refl 1
  pos := fun k hk => by
    have : k = 0 := by simp only at hk; omega
    subst this; simp [MixGen.gq, MixGen.gl]
  branch := fun k hk => by
    have : k = 0 := by simp only at hk; omega
    subst this; simp [MixGen.gl, MixGen.gm, MixGen.ga]; norm_num
  supp := fun k hk => by
    have : k = 0 := by simp only at hk; omega
    subst this; simp [MixGen.gl, MixGen.gm, MixGen.ga, gevArg]; norm_num

/-! ## Gumbel-vs-GEV distance inside the Gumbel branch -/

/-- For `α ≠ 0` with `|α y| < 1e-12` the code evaluates the Gumbel `log cdf = -e^{-y}`; the GEV with that `α` has
    exponent `s = log(1+αy)/α` with `|s - y| ≤ 2e-12·|y|`, and its `log cdf` differs from the returned value by at most
    `4e-12·|y|·e^{-y}`, i.e. relative `4e-12·|y|` (`|y| ≤ 1e11`); the cdf by the same amount (exp is 1-Lipschitz on `(-∞,0]`)
    and the survival by that plus the `2.3e-16` of its own switch; the log density (GEV: `log λ − (1+α)s − e^{-s}`)
    by at most `2e-12·|y| + 4e-12·|y|·e^{-y} + 2e-12`, the density by the corresponding relative amount; `logsurv` by `3e-8` (its own three-way switch) plus `7e-12·|y|`
    (`|log(1−e^{−a}) − log(1−e^{−b})| ≤ |a−b|/min(a,b)`).  With this all eight x-functions are bounded against the
    GEV with the actual `α` inside the Gumbel branch. -/
theorem gev_gumbel_branch_distance {x μ l α : ℝ} (hα : α ≠ 0) (hg : |l * (x - μ) * α| < 1e-12) :
    |log (1 + α * (l * (x - μ))) / α - l * (x - μ)| ≤ 2e-12 * |l * (x - μ)| ∧
      (|l * (x - μ)| ≤ 1e11 →
        |esl_gev_logcdf x μ l α - log (gevCdf μ l α x)| ≤ 4e-12 * |l * (x - μ)| * exp (-(l * (x - μ))) ∧
        |esl_gev_cdf x μ l α - gevCdf μ l α x| ≤ 4e-12 * |l * (x - μ)| * exp (-(l * (x - μ))) ∧
        |esl_gev_surv x μ l α - gevSurv μ l α x| ≤ 2.3e-16 + 4e-12 * |l * (x - μ)| * exp (-(l * (x - μ))) ∧
        |esl_gev_logsurv x μ l α - log (gevSurv μ l α x)| ≤ 3e-8 + 7e-12 * |l * (x - μ)| ∧
        (0 < l → |esl_gev_logpdf x μ l α - log (gevPdf μ l α x)| ≤
            2e-12 * |l * (x - μ)| + 4e-12 * |l * (x - μ)| * exp (-(l * (x - μ))) + 2e-12 ∧
          |esl_gev_pdf x μ l α - gevPdf μ l α x| ≤
            (exp (2e-12 * |l * (x - μ)| + 4e-12 * |l * (x - μ)| * exp (-(l * (x - μ))) + 2e-12) - 1) * gevPdf μ l α x)) :=
  ⟨GevThm.gumbel_branch_exponent hα hg, fun hy => ⟨GevThm.gumbel_branch_logcdf_dist hα hg hy,
    GevDist.gumbel_branch_cdf_dist hα hg hy, GevDist.gumbel_branch_surv_dist hα hg hy, GevDist.gumbel_branch_logsurv_dist hα hg hy,
    fun hl => ⟨GevDist.gumbel_branch_logpdf_dist hl hα hg hy, GevDist.gumbel_branch_pdf_dist hl hα hg hy⟩⟩⟩

example : |esl_gev_logcdf (2 : ℝ) 0 1 1e-13 - log (gevCdf 0 1 1e-13 2)| ≤ 4e-12 * |(1 : ℝ) * (2 - 0)| * exp (-((1 : ℝ) * (2 - 0))) :=
  ((gev_gumbel_branch_distance (by norm_num) (by norm_num [abs_of_pos])).2 (by norm_num [abs_of_pos])).1

/-! ## Bracketing + bisection inverses (`esl_sxp_invcdf`, `esl_gam_invcdf`, `esl_hxp_invcdf`, `esl_mixgev_invcdf`)

The four functions are TRANSLATED from the working tree on every run (each `do … while` becomes a helper
recursing on a fuel argument, `none` = fuel exhausted = the C loop would still be running; the driver executes these
generated functions against the C code).  `bisection_inverses_generated` identifies them, for every carrier, with the
generic loops of `Dist/Bisect.lean`; the theorems below are proved once on the generic loops (`Dist/BisectTerm.lean`)
and stated on the generated functions. -/

/-- the translated inverses ARE the generic bracketing + bisection at their own (translated) cdf -/
theorem bisection_inverses_generated {α : Type} [Add α] [Sub α] [Mul α] [Div α] [Neg α] [OfScientific α] [LT α] [LE α]
    [DecidableLT α] [DecidableLE α] [Num α] (fuel : Nat) (p mu l t : α) (h : ESL_HYPEREXP α) (mg : ESL_MIXGEV α) :
    esl_sxp_invcdf fuel p mu l t = Bisect.invcdfRight fuel (fun x => esl_sxp_cdf x mu l t) p mu ∧
    esl_gam_invcdf fuel p mu l t = Bisect.invcdfGam fuel (fun x => esl_gam_cdf x mu l t) p mu l t ∧
    esl_hxp_invcdf fuel p h = Bisect.invcdfRightLim fuel (fun x => esl_hxp_cdf x h) p h.mu ∧
    esl_mixgev_invcdf fuel p mg = Bisect.invcdfMix fuel (fun x => esl_mixgev_cdf x mg) p (esl_vec_DMin mg.mu mg.K) :=
  ⟨BisectGen.sxp_invcdf fuel p mu l t, BisectGen.gam_invcdf fuel p mu l t, BisectGen.hxp_invcdf fuel p h,
    BisectGen.mixgev_invcdf fuel p mg⟩

/-- Bracket invariant: whatever the cdf does, a returned value `r` lies inside a bracket `[a, b]` with
    `cdf a ≤ p ≤ cdf b` (right of `μ` for the one-sided families) — every iteration keeps `cdf x1 ≤ p ≤ cdf x2`. -/
theorem bisection_inverses_bracket {p μ l τ r : ℝ} (hp : 0 ≤ p) (fuel : Nat) :
    (esl_sxp_invcdf fuel p μ l τ = some r →
      ∃ a b, μ ≤ a ∧ a ≤ r ∧ r ≤ b ∧ esl_sxp_cdf a μ l τ ≤ p ∧ p ≤ esl_sxp_cdf b μ l τ) ∧
    (0 ≤ τ / l → esl_gam_invcdf fuel p μ l τ = some r →
      ∃ a b, μ ≤ a ∧ a ≤ r ∧ r ≤ b ∧ esl_gam_cdf a μ l τ ≤ p ∧ p ≤ esl_gam_cdf b μ l τ) ∧
    (∀ h : ESL_HYPEREXP ℝ, esl_hxp_invcdf fuel p h = some r →
      ∃ a b, h.mu ≤ a ∧ a ≤ r ∧ r ≤ b ∧ esl_hxp_cdf a h ≤ p ∧ p ≤ esl_hxp_cdf b h) ∧
    (∀ mg : ESL_MIXGEV ℝ, esl_mixgev_invcdf fuel p mg = some r →
      ∃ a b, a ≤ r ∧ r ≤ b ∧ esl_mixgev_cdf a mg ≤ p ∧ p ≤ esl_mixgev_cdf b mg) :=
  ⟨fun h => (InvTotal.sxp_invcdf_final hp h).elim fun _ hf => hf.brackets,
    fun hlt h => (InvTotal.gam_invcdf_final hp hlt h).elim fun _ hf => hf.brackets,
    fun _ h => (InvTotal.hxp_invcdf_final hp h).elim fun _ hf => hf.brackets,
    fun mg h => BisectTerm.invcdfMix_brackets (cdf := fun x => esl_mixgev_cdf x mg) (BisectGen.mixgev_invcdf fuel p mg ▸ h)⟩

/-- Accuracy on exit: the returned `r` is the midpoint of a final bracket no wider than the stop rule, so the point `q`
    where the cdf crosses `p` (`cdf < p` left of it, `> p` right of it — no monotonicity needed beyond that) satisfies
    `|r − q| ≤ 1e-6 · (r − μ)` (six digits of the offset from `μ`) for `sxp`, `gam`, `hxp`, and
    `|r − q| ≤ 1.01e-6 · (|r| + 1e-9)` for `mixgev`. -/
theorem bisection_inverses_accuracy {p μ l τ r q : ℝ} (hp : 0 ≤ p) (fuel : Nat) :
    (esl_sxp_invcdf fuel p μ l τ = some r → (∀ x, x < q → esl_sxp_cdf x μ l τ < p) → (∀ x, q < x → p < esl_sxp_cdf x μ l τ) →
      |r - q| ≤ 1e-6 * (r - μ)) ∧
    (0 ≤ τ / l → esl_gam_invcdf fuel p μ l τ = some r → (∀ x, x < q → esl_gam_cdf x μ l τ < p) →
      (∀ x, q < x → p < esl_gam_cdf x μ l τ) → |r - q| ≤ 1e-6 * (r - μ)) ∧
    (∀ h : ESL_HYPEREXP ℝ, esl_hxp_invcdf fuel p h = some r → (∀ x, x < q → esl_hxp_cdf x h < p) →
      (∀ x, q < x → p < esl_hxp_cdf x h) → |r - q| ≤ 1e-6 * (r - h.mu)) ∧
    (∀ mg : ESL_MIXGEV ℝ, esl_mixgev_invcdf fuel p mg = some r → (∀ x, x < q → esl_mixgev_cdf x mg < p) →
      (∀ x, q < x → p < esl_mixgev_cdf x mg) → |r - q| ≤ 1.01e-6 * (|r| + 1e-9)) :=
  ⟨fun h hlo hhi => (InvTotal.sxp_invcdf_final hp h).elim fun _ hf => BisectTerm.final_accuracy hf hlo hhi,
    fun hlt h hlo hhi => (InvTotal.gam_invcdf_final hp hlt h).elim fun _ hf => BisectTerm.final_accuracy hf hlo hhi,
    fun _ h hlo hhi => (InvTotal.hxp_invcdf_final hp h).elim fun _ hf => BisectTerm.final_accuracy hf hlo hhi,
    fun _ h hlo hhi => (InvTotal.mixgev_invcdf_final h).elim fun _ hx => hx.elim fun _ hf => BisectTerm.finalMix_accuracy hf hlo hhi⟩

/-- Termination with an explicit iteration bound (the defect class of 7f8f7fd / 3a05169: three of these loops never
    returned).  For `sxp`/`gam`/`hxp`: if the cdf is still below `p` on `[μ, μ+δ]` and at least `p` from `X` on, every
    loop returns within `fuel` iterations once `fuel > N1, N2`, `3^(N1+1)` (gamma: `2^(N1+1)·τ/λ`) reaches `X − μ` and
    `2^N2 ≥ reach / (1e-6 δ)`.  **Without the first hypothesis (`p = 0`, or `p` attained at `μ`) the real-number bisection
    never stops** — the stop rule is relative to `x1 + x2 − 2μ` — and the C code then relies on its binary64
    no-progress `break`.  For `mixgev` (absolute floor `1e-15` in the stop rule) only the two bracketing points are needed.
    In binary64 `δ ≥ 2^-1074`, reach `≤ 2^1024`: `fuel = 5000` (the driver's) covers every input. -/
theorem bisection_inverses_terminate {p μ l τ δ X : ℝ} {N1 N2 fuel : Nat} (hδ : 0 < δ) (hf1 : N1 + 1 ≤ fuel) (hf2 : N2 + 1 ≤ fuel) :
    ((∀ x, x ≤ μ + δ → esl_sxp_cdf x μ l τ < p) → (∀ x, X ≤ x → p ≤ esl_sxp_cdf x μ l τ) → X ≤ μ + 3 ^ (N1 + 1) →
      (3 : ℝ) ^ (N1 + 1) ≤ 1e-6 * δ * 2 ^ N2 → (esl_sxp_invcdf fuel p μ l τ).isSome) ∧
    (0 ≤ τ / l → (∀ x, x ≤ μ + δ → esl_gam_cdf x μ l τ < p) → (∀ x, X ≤ x → p ≤ esl_gam_cdf x μ l τ) →
      X ≤ μ + 2 ^ (N1 + 1) * (τ / l) → (2 : ℝ) ^ (N1 + 1) * (τ / l) ≤ 1e-6 * δ * 2 ^ N2 → (esl_gam_invcdf fuel p μ l τ).isSome) ∧
    (∀ h : ESL_HYPEREXP ℝ, (∀ x, x ≤ h.mu + δ → esl_hxp_cdf x h < p) → (∀ x, X ≤ x → p ≤ esl_hxp_cdf x h) →
      X ≤ h.mu + 3 ^ (N1 + 1) → (3 : ℝ) ^ (N1 + 1) ≤ 1e-6 * δ * 2 ^ N2 → (esl_hxp_invcdf fuel p h).isSome) ∧
    (∀ (mg : ESL_MIXGEV ℝ) (XL : ℝ) (N0 : Nat), N0 + 1 ≤ fuel → (∀ x, x ≤ XL → esl_mixgev_cdf x mg ≤ p) →
      (∀ x, X ≤ x → p ≤ esl_mixgev_cdf x mg) → esl_vec_DMin mg.mu mg.K - 3 ^ (N0 + 1) ≤ XL →
      X ≤ esl_vec_DMin mg.mu mg.K + 3 ^ (N1 + 1) - 1 → (3 : ℝ) ^ (N1 + 1) * 3 ^ (N0 + 1) ≤ 1e-15 * 2 ^ N2 →
      (esl_mixgev_invcdf fuel p mg).isSome) :=
  ⟨fun hlow hX h1 h2 => BisectGen.sxp_invcdf fuel p μ l τ ▸
      (BisectTerm.invcdfRight_stops hδ hlow hX h1 h2).elim fun _ hr => Option.isSome_of_eq_some (hr fuel hf1 hf2),
    fun hlt hlow hX h1 h2 => BisectGen.gam_invcdf fuel p μ l τ ▸
      (BisectTerm.invcdfGam_stops hδ hlt hlow hX h1 h2).elim fun _ hr => Option.isSome_of_eq_some (hr fuel hf1 hf2),
    fun hx hlow hX h1 h2 => InvTotal.hxp_invcdf_real fuel p hx ▸
      (BisectTerm.invcdfRight_stops hδ hlow hX h1 h2).elim fun _ hr => Option.isSome_of_eq_some (hr fuel hf1 hf2),
    fun mg XL N0 hf0 hL hR h0 h1 h2 => BisectGen.mixgev_invcdf fuel p mg ▸
      (BisectTerm.invcdfMix_stops hL hR h0 h1 h2).elim fun _ hr => Option.isSome_of_eq_some (hr fuel hf0 hf1 hf2)⟩

/-- The ℝ READING of `esl_hxp_invcdf` still hangs above the supremum (former known finding
    `C10:mixture_invcdf:p-above-cdf-max`, repaired in 55bbf88): over `ℝ` the repaired loop's second test
    `x2 < eslINFINITY` is always true (`Num.ltInf ≡ true`: every real number is below +infinity), so when `p` lies above
    every value the translated mixture cdf takes, the real-number function returns for NO fuel.  This is a statement about
    the ℝ instance ONLY — it says why the termination theorem above needs "`p ≤ cdf x` from some `X` on" — and no
    longer describes the C function: in binary64 the tripling bracket reaches `+inf` after ≤ 647 passes and the loop
    stops there (`bisection_bracket_returns_at_infinity` below). -/
theorem bisection_inverses_real_reading_hangs_above_sup {p : ℝ} (h : ESL_HYPEREXP ℝ) (hsup : ∀ x, esl_hxp_cdf x h < p) (fuel : Nat) :
    esl_hxp_invcdf fuel p h = none :=
  InvTotal.hxp_invcdf_real fuel p h ▸ BisectTerm.invcdfRight_never (cdf := fun x => esl_hxp_cdf x h) hsup fuel

/-- **The repaired bracketing loop returns** (55bbf88), for EVERY carrier, cdf and `p`.  Carrier facts used, as
    hypotheses: (R) the tripling sequence `x2 ← x2 + 2·(x2 − x1)` started by the C code leaves `< eslINFINITY` after
    `k + 1 ≤ fuel` passes (`BisectCarrier.reachInf … = some k` computes that `k`); (A) at the point reached,
    `x2 ≤ (x1 + x2)/2` (binary64: `(μ + inf)/2 = inf`).
    1. under (R) the right bracketing loop of `esl_hxp_invcdf` and of `esl_mixgev_invcdf` (`Bisect.bracketRightLim` at
       their translated cdf, see `bisection_inverses_generated`) returns a point `r` of the tripling sequence after at
       most `k + 1` passes, with `¬ cdf r < p` or `r` not below `eslINFINITY`;
    2. under (R) + (A), for the input class of the repaired defect (`cdf < p` everywhere) the TRANSLATED `esl_hxp_invcdf`
       returns `(μ + x2)/2` at that point (binary64: `+inf`) — exactly where its ℝ reading never returns.
    Binary64 satisfies (R) with `k ≤ 646` and (A) whenever `|μ| < 2^53` (from `2^53` on `μ + 1. == μ`: the bracket has
    width 0, never moves, (R) fails and the C loop does not end either — far outside the property's location range
    `±10^3`): evaluated by the driver at `Float` and compared with the C loop on
    every run (`bracketlim` op, monitor `bracketlim`); a kernel-checked instance on a 4-point saturating carrier is in
    `Dist/BisectCarrier.lean`. -/
theorem bisection_bracket_returns_at_infinity {α : Type} [Add α] [Sub α] [Mul α] [Div α] [Neg α] [OfScientific α] [LT α] [LE α]
    [DecidableLT α] [DecidableLE α] [Num α] :
    (∀ (cdf : α → α) (p x1 x2 : α) (fuel k : Nat), k < fuel → Num.ltInf (BisectCarrier.tripled x1 (k + 1) x2) = false →
      ∃ j r, j ≤ k ∧ r = BisectCarrier.tripled x1 (j + 1) x2 ∧ Bisect.bracketRightLim cdf p x1 fuel x2 = some r ∧
        (¬ cdf r < p ∨ Num.ltInf r = false)) ∧
    (∀ (p : α) (h : ESL_HYPEREXP α) (fuel k : Nat), (∀ x, esl_hxp_cdf x h < p) →
      BisectCarrier.reachInf h.mu (fuel + 1) (h.mu + 1.0) = some k →
      BisectCarrier.tripled h.mu (k + 1) (h.mu + 1.0) ≤ (h.mu + BisectCarrier.tripled h.mu (k + 1) (h.mu + 1.0)) / 2.0 →
      esl_hxp_invcdf (fuel + 1) p h = some ((h.mu + BisectCarrier.tripled h.mu (k + 1) (h.mu + 1.0)) / 2.0)) :=
  ⟨fun cdf p x1 x2 fuel k hk hinf => BisectCarrier.bracketRightLim_returns cdf p x1 fuel k x2 hk hinf,
    fun p h fuel k hsup hreach habs =>
      (BisectGen.hxp_invcdf (fuel + 1) p h).trans (BisectCarrier.invcdfRightLim_above_sup _ p h.mu hsup hreach habs)⟩

/-- over `ℝ` hypothesis (R) is unsatisfiable — which is the whole point: `reachInf` never finds a real number that is
    not below +infinity -/
example (x1 x2 : ℝ) (fuel : Nat) : BisectCarrier.reachInf x1 fuel x2 = none := by
  induction fuel generalizing x2 with
  | zero => rfl
  | succ n ih => simp [BisectCarrier.reachInf, ih]

/-- the hypothesis is satisfiable: a one-component "mixture" with coefficient `0.5` never reaches `p = 1` -/
example (fuel : Nat) : esl_hxp_invcdf fuel 1 ({ mu := 0, K := 1, q := [0.5], lambda := [1], wrk := [0] } : ESL_HYPEREXP ℝ) = none := by
  have ok : MixGen.HxpOK ({ mu := 0, K := 1, q := [0.5], lambda := [1], wrk := [0] } : ESL_HYPEREXP ℝ) := by
    intro k hk
    have : k = 0 := by simp only at hk; omega
    subst this; simp [MixGen.hq, MixGen.hl]; norm_num
  apply bisection_inverses_real_reading_hangs_above_sup
  intro x
  have h1 := (MixGen.hxp_code_eq_textbook ok x).1
  have h2 := ((MixGen.hxp_textbook_laws ok).2.2.1 x).2
  have hQ : MixGen.hxpQ ({ mu := 0, K := 1, q := [0.5], lambda := [1], wrk := [0] } : ESL_HYPEREXP ℝ) = 0.5 := by
    simp [MixGen.hxpQ, MixGen.hq]
  rw [hQ] at h1 h2
  rw [abs_le] at h1
  norm_num at h1 h2 ⊢
  linarith [h1.2]

/-- The generic loops on a genuine cdf (uniform on `[0,1]`, `μ = 0`, `p = 1/2`): the hypotheses of the termination and
    accuracy theorems are satisfiable, 25 iterations per loop suffice, and the result is within `1e-6 · r` of `1/2`. -/
example : (Bisect.invcdfRight 25 (fun x : ℝ => max 0 (min x 1)) (1 / 2) 0).isSome :=
  (BisectTerm.invcdfRight_stops (δ := 1 / 4) (X := 1 / 2) (N1 := 0) (N2 := 24) (by norm_num)
    (fun x hx => max_lt (by norm_num) (lt_of_le_of_lt (min_le_left _ _) (by linarith)))
    (fun x hx => le_max_of_le_right (le_min hx (by norm_num))) (by norm_num) (by norm_num)).elim
    fun _ hr => Option.isSome_of_eq_some (hr 25 (by norm_num) (by norm_num))

example {r : ℝ} (h : Bisect.invcdfRight 25 (fun x : ℝ => max 0 (min x 1)) (1 / 2) 0 = some r) : |r - 1 / 2| ≤ 1e-6 * (r - 0) := by
  obtain ⟨x2, hf⟩ := BisectTerm.invcdfRight_final (cdf := fun x : ℝ => max 0 (min x 1)) (by norm_num) h
  exact BisectTerm.final_accuracy hf (fun x hx => max_lt (by norm_num) (lt_of_le_of_lt (min_le_left _ _) hx))
    (fun x hx => lt_max_of_lt_right (lt_min hx (by norm_num)))

/-- …and the bisection over `ℝ` really does not stop when `p` is attained at the support edge: with `p = 0` on the
    uniform cdf every iteration continues (the bracket `[0, x2]` keeps relative width 1), whatever the fuel. -/
example : ∀ (n : Nat) (x2 : ℝ), 0 < x2 → x2 ≤ 1 → Bisect.bisect (fun x : ℝ => max 0 (min x 1)) 0 0 n 0 x2 = none := by
  intro n
  induction n with
  | zero => intro x2 _ _; rfl
  | succ n ih =>
    intro x2 h0 h1
    have hm : (0 : ℝ) < max 0 (min ((0 + x2) / 2) 1) := lt_max_of_lt_right (lt_min (by linarith) (by norm_num))
    simp only [Bisect.bisect, lit_two, BisectTerm.lit_tol]
    have e1 : (0 + x2) / 2 - 0 = x2 / 2 := by ring
    have e2 : 0 + (0 + x2) / 2 - 2 * 0 = x2 / 2 := by ring
    rw [if_neg (not_or.mpr ⟨not_le.mpr (by linarith), not_le.mpr (by linarith)⟩), if_pos hm, if_pos (by
      rw [e1, e2, div_self (by linarith)]; norm_num)]
    exact ih _ (by linarith) (by linarith)

/-! ## The bisection inverses as TOTAL functions over `ℝ` — the fuel argument disappears

`BisectTotal.fuelRight reach δ`, `fuelGam reach δ s`, `fuelMix left right` are explicit numbers of loop passes
(`⌈log₃ reach⌉` resp. `⌈log₂ (reach/s)⌉` bracketing passes; `⌈log₂ (width / (1e-6 δ))⌉` bisection passes — the bracket
halves, and the code's stop rule `(x2−x1)/(x1+x2−2μ) ≤ 1e-6` holds as soon as the width is below `1e-6 δ`).  From that fuel
on the translated function returns ONE value, independent of the fuel: `none` (= "still running") cannot occur. -/

/-- generic form (`Bisect.invcdfRight / invcdfGam / invcdfMix`, which the translated functions ARE —
    `bisection_inverses_generated`): the cdf in use may be ANY function within `ε` of a monotone reference `F`
    (it need not be monotone itself — `esl_exp_cdf` over `ℝ` drops by `1.25e-17` at its `eslSMALLX1` switch);
    `F (μ+δ) < p − ε` and `p + ε ≤ F X` ⇒ one value `r` for every `fuel ≥ fuelRight (X−μ) δ`, the midpoint of a final
    bracket `[a, b] ⊂ [μ, ∞)` with `b − a ≤ 1e-6 (a + b − 2μ)`, `F a ≤ p + ε`, `p − ε ≤ F b`.  The `mixgev` loop
    (absolute floor in the stop rule) needs only two bracketing points of the cdf itself. -/
theorem bisection_total_generic {cdf F : ℝ → ℝ} {μ l t p ε δ X : ℝ} (hclose : ∀ x, |cdf x - F x| ≤ ε) (hF : Monotone F)
    (h0 : cdf μ ≤ p) (hδ : 0 < δ) (hlow : F (μ + δ) < p - ε) (hX : p + ε ≤ F X) :
    (∃ r, (∀ fuel, BisectTotal.fuelRight (X - μ) δ ≤ fuel → Bisect.invcdfRight fuel cdf p μ = some r) ∧
      BisectTotal.Result F p μ ε r) ∧
    (0 < t / l → ∃ r, (∀ fuel, BisectTotal.fuelGam (X - μ) δ (t / l) ≤ fuel → Bisect.invcdfGam fuel cdf p μ l t = some r) ∧
      BisectTotal.Result F p μ ε r) ∧
    (∀ (g : ℝ → ℝ) (m XL XR : ℝ), (∀ x, x ≤ XL → g x ≤ p) → (∀ x, XR ≤ x → p ≤ g x) →
      ∃ r, (∀ fuel, BisectTotal.fuelMix (m - XL) (XR - m) ≤ fuel → Bisect.invcdfMix fuel g p m = some r) ∧
        ∃ x1 x2, BisectTerm.FinalMix g p x1 x2 r) :=
  ⟨BisectTotal.invcdfRight_total hclose hF h0 hδ hlow hX, fun hs => BisectTotal.invcdfGam_total hclose hF h0 hs hδ hlow hX,
    fun _ _ _ _ hL hR => BisectTotal.invcdfMix_total hL hR⟩

/-- non-vacuity (uniform cdf on `[0,1]`, `p = 1/2`, `ε = 0`, `δ = 1/4`, `X = 1/2`): one value for every fuel from
    `fuelRight (1/2) (1/4)` on -/
example : ∃ r, (∀ fuel, BisectTotal.fuelRight (1 / 2 - 0) (1 / 4) ≤ fuel →
    Bisect.invcdfRight fuel (fun x : ℝ => max 0 (min x 1)) (1 / 2) 0 = some r) ∧
    BisectTotal.Result (fun x : ℝ => max 0 (min x 1)) (1 / 2) 0 0 r :=
  (bisection_total_generic (l := 1) (t := 1) (cdf := fun x : ℝ => max 0 (min x 1)) (F := fun x : ℝ => max 0 (min x 1)) (ε := 0)
    (fun x => by simp) (fun a b hab => max_le_max le_rfl (min_le_min hab le_rfl)) (by norm_num) (by norm_num : (0 : ℝ) < 1 / 4)
    (by norm_num) (by norm_num)).1

/-- The driver's fuel is enough: a bracket that fits binary64 — reach `X − μ ≤ 2^1024` (above the largest finite double),
    edge distance `δ ≥ 2^-1074` (the smallest positive double) — needs at most `2123` passes per loop, below
    `Bisect.defaultFuel = 5000` with which the driver runs the translated inverses against the C code; so (by
    `bisection_total_generic`) on every such bracket the real-number reading of `esl_sxp_invcdf` / `esl_hxp_invcdf` at the
    driver's fuel is a value, never `none`.  Likewise `esl_mixgev_invcdf`: bracketing points within `2^1024` of `min μ_k` need
    at most `2107` passes per loop (no edge distance enters); `esl_gam_invcdf` with starting reach `τ/λ ∈ [2^-1074, 2^1024]`: at most `2122`. -/
theorem bisection_fuel_covers_binary64 {reach δ : ℝ} (h0 : 0 < reach) (hr : reach ≤ 2 ^ 1024) (hδ : 1 ≤ δ * 2 ^ 1074) :
    (BisectTotal.fuelRight reach δ ≤ 2123 ∧ BisectTotal.fuelRight reach δ ≤ Bisect.defaultFuel) ∧
    (∀ right : ℝ, 0 ≤ right → right + 1 ≤ 2 ^ 1024 →
      BisectTotal.fuelMix reach right ≤ 2107 ∧ BisectTotal.fuelMix reach right ≤ Bisect.defaultFuel) ∧
    (∀ s : ℝ, 1 ≤ s * 2 ^ 1074 → s ≤ 2 ^ 1024 →
      BisectTotal.fuelGam reach δ s ≤ 2122 ∧ BisectTotal.fuelGam reach δ s ≤ Bisect.defaultFuel) :=
  ⟨BisectTotal.fuelRight_le h0 hr hδ, fun _ hr0 hr1 => BisectTotal.fuelMix_le h0 hr hr0 hr1,
    fun _ hs1 hs2 => BisectTotal.fuelGam_le h0 hr hδ hs1 hs2⟩

example : BisectTotal.fuelRight 1 1 ≤ Bisect.defaultFuel :=
  (bisection_fuel_covers_binary64 (reach := 1) (δ := 1) (by norm_num) (one_le_pow₀ (by norm_num)) (by
    rw [one_mul]; exact one_le_pow₀ (by norm_num))).1.2

/-- **`esl_hxp_invcdf` is total and accurate** (TRANSLATED function on its TRANSLATED cdf, every `K`, unconditional):
    rates `> 0`, coefficients `≥ 0` with one `> 0`, `ε = 2.5e-17·Σq < p < Σq − ε`.  With `d`, `q₋`, `q₊` the (unique)
    textbook quantiles of `(p−ε)/2`, `p−ε`, `p+ε`: for EVERY `fuel ≥ fuelRight (q₊−μ) (d−μ)` the function returns the same
    `r`, and `q₋ − 1e-6 (r−μ) ≤ r ≤ q₊ + 1e-6 (r−μ)` — six digits of the offset from `μ` around a quantile band whose
    width is the code-vs-textbook distance of the cdf. -/
theorem hxp_invcdf_total {h : ESL_HYPEREXP ℝ} (ok : MixGen.HxpOK h) (hsome : ∃ k < h.K, 0 < MixGen.hq h k) {p : ℝ}
    (hp0 : InvTotal.hxpEps h < p) (hp1 : p + InvTotal.hxpEps h < MixGen.hxpQ h) :
    ∃ d qlo qhi r, (h.mu < d ∧ MixGen.hxpCdf h d = (p - InvTotal.hxpEps h) / 2) ∧
      (h.mu < qlo ∧ MixGen.hxpCdf h qlo = p - InvTotal.hxpEps h) ∧ (h.mu < qhi ∧ MixGen.hxpCdf h qhi = p + InvTotal.hxpEps h) ∧
      (∀ fuel, BisectTotal.fuelRight (qhi - h.mu) (d - h.mu) ≤ fuel → esl_hxp_invcdf fuel p h = some r) ∧
      qlo - 1e-6 * (r - h.mu) ≤ r ∧ r ≤ qhi + 1e-6 * (r - h.mu) ∧ h.mu ≤ r :=
  InvTotal.hxp_invcdf_total ok hsome hp0 hp1

/-- …and at the DRIVER's fuel: whenever those textbook quantiles fit binary64 (`q₊ − μ ≤ 2^1024`, `d − μ ≥ 2^-1074`) the
    real-number reading of the translated `esl_hxp_invcdf` run with `Bisect.defaultFuel` (what the driver executes at `Float`
    against the C function) IS that value `r` — never `none`. -/
theorem hxp_invcdf_at_driver_fuel {h : ESL_HYPEREXP ℝ} (ok : MixGen.HxpOK h) (hsome : ∃ k < h.K, 0 < MixGen.hq h k) {p : ℝ}
    (hp0 : InvTotal.hxpEps h < p) (hp1 : p + InvTotal.hxpEps h < MixGen.hxpQ h) :
    ∃ d qlo qhi r, (h.mu < d ∧ MixGen.hxpCdf h d = (p - InvTotal.hxpEps h) / 2) ∧
      (h.mu < qlo ∧ MixGen.hxpCdf h qlo = p - InvTotal.hxpEps h) ∧ (h.mu < qhi ∧ MixGen.hxpCdf h qhi = p + InvTotal.hxpEps h) ∧
      (qhi - h.mu ≤ 2 ^ 1024 → 1 ≤ (d - h.mu) * 2 ^ 1074 → esl_hxp_invcdf Bisect.defaultFuel p h = some r) ∧
      qlo - 1e-6 * (r - h.mu) ≤ r ∧ r ≤ qhi + 1e-6 * (r - h.mu) := by
  obtain ⟨d, qlo, qhi, r, hd, hlo, hhi, hr, b1, b2, _⟩ := hxp_invcdf_total ok hsome hp0 hp1
  exact ⟨d, qlo, qhi, r, hd, hlo, hhi,
    fun h1 h2 => hr _ (bisection_fuel_covers_binary64 (by linarith [hhi.1]) h1 h2).1.2, b1, b2⟩

/-- non-vacuity: the normalised three-component hyperexponential above at `p = 1/2` -/
example : ∃ d qhi r : ℝ, ∀ fuel, BisectTotal.fuelRight (qhi - 1) (d - 1) ≤ fuel →
    esl_hxp_invcdf fuel (1 / 2) ({ mu := 1, K := 3, q := [0.25, 0.25, 0.5], lambda := [1, 2, 3], wrk := [0, 0, 0] } : ESL_HYPEREXP ℝ) = some r := by
  obtain ⟨d, _, qhi, r, _, _, _, hr, _⟩ := hxp_invcdf_total (p := 1 / 2) hxp3_ok.1 ⟨0, by simp, by simp [MixGen.hq]; norm_num⟩
    (by rw [InvTotal.hxpEps, hxp3_ok.2]; norm_num) (by rw [InvTotal.hxpEps, hxp3_ok.2]; norm_num)
  exact ⟨d, qhi, r, hr⟩

/-- `esl_sxp_invcdf` / `esl_gam_invcdf` total and accurate (TRANSLATED functions on their TRANSLATED cdfs).
    `_partial`: conditional on ONE named special-function fact each, `InvTotal.IncGammaPWithin a ε` — the `P` computed by the
    algorithm of `esl_stats_IncompleteGamma` (hand model read over `ℝ`) at shape `a` (`1/τ` resp. `τ`) is within `ε` of the
    regularised incomplete gamma INTEGRAL for every `y > 0`; that fact is not proved (series / continued fraction
    convergence), it is listed in the evidence assumptions and monitored (`ε ≈ 1e-7`).  Everything else — existence and
    uniqueness of the textbook quantiles, termination with the explicit fuel, the six-digit band — is proved. -/
theorem sxp_gam_invcdf_total_partial {μ l τ p ε : ℝ} (hl : 0 < l) (hτ : 0 < τ) (hp0 : ε < p) (hp1 : p + ε < 1) :
    (InvTotal.IncGammaPWithin (1 / τ) ε → ∃ d qlo qhi r, (μ < d ∧ GamSxpThm.sxpCdf μ l τ d = (p - ε) / 2) ∧
      (μ < qlo ∧ GamSxpThm.sxpCdf μ l τ qlo = p - ε) ∧ (μ < qhi ∧ GamSxpThm.sxpCdf μ l τ qhi = p + ε) ∧
      (∀ fuel, BisectTotal.fuelRight (qhi - μ) (d - μ) ≤ fuel → esl_sxp_invcdf fuel p μ l τ = some r) ∧
      qlo - 1e-6 * (r - μ) ≤ r ∧ r ≤ qhi + 1e-6 * (r - μ) ∧ μ ≤ r) ∧
    (InvTotal.IncGammaPWithin τ ε → ∃ d qlo qhi r, (μ < d ∧ GamSxpThm.gamCdf μ l τ d = (p - ε) / 2) ∧
      (μ < qlo ∧ GamSxpThm.gamCdf μ l τ qlo = p - ε) ∧ (μ < qhi ∧ GamSxpThm.gamCdf μ l τ qhi = p + ε) ∧
      (∀ fuel, BisectTotal.fuelGam (qhi - μ) (d - μ) (τ / l) ≤ fuel → esl_gam_invcdf fuel p μ l τ = some r) ∧
      qlo - 1e-6 * (r - μ) ≤ r ∧ r ≤ qhi + 1e-6 * (r - μ) ∧ μ ≤ r) :=
  ⟨fun hIG => InvTotal.sxp_invcdf_total hl hτ hIG hp0 hp1, fun hIG => InvTotal.gam_invcdf_total hl hτ hIG hp0 hp1⟩

/-- `esl_mixgev_invcdf` total (TRANSLATED function on its TRANSLATED cdf), for EVERY parameter structure and `p`: given a
    point left of which the cdf is `≤ p` and one right of which it is `≥ p`, one value for every
    `fuel ≥ fuelMix (min μ_k − XL) (XR − min μ_k)`, the midpoint of a final bracket obeying the C stop rule. -/
theorem mixgev_invcdf_total (mg : ESL_MIXGEV ℝ) {p XL XR : ℝ} (hL : ∀ x, x ≤ XL → esl_mixgev_cdf x mg ≤ p)
    (hR : ∀ x, XR ≤ x → p ≤ esl_mixgev_cdf x mg) :
    ∃ r, (∀ fuel, BisectTotal.fuelMix (esl_vec_DMin mg.mu mg.K - XL) (XR - esl_vec_DMin mg.mu mg.K) ≤ fuel →
        esl_mixgev_invcdf fuel p mg = some r) ∧
      ∃ a b, a ≤ b ∧ r = (a + b) / 2 ∧ esl_mixgev_cdf a mg ≤ p ∧ p ≤ esl_mixgev_cdf b mg ∧ b - a ≤ 1e-6 * ((|a| + |b|) + 1e-9) :=
  InvTotal.mixgev_invcdf_total mg hL hR

/-- non-vacuity of the `mixgev` hypotheses on the generic loop (uniform cdf, `p = 1/2`, `m = 0`) -/
example : ∃ r, ∀ fuel, BisectTotal.fuelMix (0 - 0) (1 - 0) ≤ fuel →
    Bisect.invcdfMix fuel (fun x : ℝ => max 0 (min x 1)) (1 / 2) 0 = some r := by
  obtain ⟨r, hr, _⟩ := BisectTotal.invcdfMix_total (cdf := fun x : ℝ => max 0 (min x 1)) (p := 1 / 2) (m := 0) (XL := 0) (XR := 1)
    (fun x hx => max_le (by norm_num) ((min_le_left _ _).trans (by linarith)))
    (fun x hx => le_max_of_le_right (le_min (by linarith) (by norm_num)))
  exact ⟨r, hr⟩

/-! ## "non-decreasing FROM 0 TO 1": the limits of the Weibull, GEV and GEV-mixture cdf -/

/-- Weibull: `0` at and below `μ`, `→ 1` at `+∞`.  GEV, either sign of `α`: `→ 0` at `−∞` and `→ 1` at `+∞` (on its bounded
    side the value `0` resp. `1` is attained beyond the support bound).  GEV mixture, EVERY number of components:
    `→ 0` at `−∞`, `→ Σq` at `+∞`.  (Exponential, Gumbel, normal, gamma, stretched exponential, hyperexponential: in their
    own theorems above.)  With the monotonicity already proved, every textbook cdf of the library runs from 0 to 1 (`Σq`). -/
theorem cdf_limits_wei_gev_mixgev {μ l τ α : ℝ} (hl : 0 < l) (hτ : 0 < τ) (hα : α ≠ 0) :
    ((∀ x, x ≤ μ → weiCdf μ l τ x = 0) ∧ Filter.Tendsto (weiCdf μ l τ) Filter.atTop (nhds 1)) ∧
    (Filter.Tendsto (gevCdf μ l α) Filter.atBot (nhds 0) ∧ Filter.Tendsto (gevCdf μ l α) Filter.atTop (nhds 1)) ∧
    (∀ g : ESL_MIXGEV ℝ, MixGen.MixgevOK g → Filter.Tendsto (MixGen.mixgevCdf g) Filter.atBot (nhds 0) ∧
      Filter.Tendsto (MixGen.mixgevCdf g) Filter.atTop (nhds (MixGen.mixgevQ g))) :=
  ⟨⟨fun x hx => by simp [weiCdf, hx], Limits.weiCdf_tendsto_one hl hτ⟩,
    ⟨Limits.gevCdf_tendsto_zero hl hα, Limits.gevCdf_tendsto_one hl hα⟩, fun _ ok => Limits.mixgevCdf_tendsto ok⟩

/-- GEV mixture, "the inverse cdf inverts the cdf" at L2, every `K`: for `p ∈ (0, Σq)` the bracketing + bisection ALGORITHM of
    `esl_mixgev_invcdf` (`Bisect.invcdfMix`, which the translated function is an instance of) run on the textbook mixture
    cdf from any starting point `m` is TOTAL — bracketing points `XL`, `XR` exist by the limits, the fuel bound is the
    explicit `fuelMix (m − XL) (XR − m)`, ONE value `r` for all larger fuels — and `r` is the midpoint of a final bracket
    `[a, b]` with `cdf a ≤ p ≤ cdf b` and `b − a ≤ 1e-6 (|a| + |b| + 1e-9)`.  (The mixture cdf need not be strictly
    increasing — components have different supports — so "the" quantile is the bracket, not a point.) -/
theorem mixgev_inverse_laws {g : ESL_MIXGEV ℝ} (ok : MixGen.MixgevOK g) {p : ℝ} (hp0 : 0 < p) (hp1 : p < MixGen.mixgevQ g) (m : ℝ) :
    ∃ XL XR r, (∀ x, x ≤ XL → MixGen.mixgevCdf g x ≤ p) ∧ (∀ x, XR ≤ x → p ≤ MixGen.mixgevCdf g x) ∧
      (∀ fuel, BisectTotal.fuelMix (m - XL) (XR - m) ≤ fuel → Bisect.invcdfMix fuel (MixGen.mixgevCdf g) p m = some r) ∧
      ∃ a b, a ≤ b ∧ r = (a + b) / 2 ∧ MixGen.mixgevCdf g a ≤ p ∧ p ≤ MixGen.mixgevCdf g b ∧ b - a ≤ 1e-6 * ((|a| + |b|) + 1e-9) :=
  Limits.mixgev_bisection_total ok hp0 hp1 m

/-- a two-component GEV mixture (Fréchet-type + Weibull-type, `Σq = 1`) satisfies the hypotheses -/
theorem mixgev2_ok : MixGen.MixgevOK ({ K := 2, q := [0.5, 0.5], mu := [0, 1], lambda := [1, 2], alpha := [0.5, -0.5], wrk := [0, 0] } : ESL_MIXGEV ℝ) ∧
    MixGen.mixgevQ ({ K := 2, q := [0.5, 0.5], mu := [0, 1], lambda := [1, 2], alpha := [0.5, -0.5], wrk := [0, 0] } : ESL_MIXGEV ℝ) = 1 := by
  constructor
  · intro k hk
    have : k = 0 ∨ k = 1 := by simp only at hk; omega
    rcases this with rfl | rfl <;> simp [MixGen.gq, MixGen.gl, MixGen.ga] <;> norm_num
  · simp [MixGen.mixgevQ, MixGen.gq, Finset.sum_range_succ]; norm_num

/-- non-vacuity: a Fréchet-type and a Weibull-type component, `Σq = 1`, `p = 1/2` -/
example : ∃ r, ∃ N : Nat, ∀ fuel, N ≤ fuel → Bisect.invcdfMix fuel
    (MixGen.mixgevCdf ({ K := 2, q := [0.5, 0.5], mu := [0, 1], lambda := [1, 2], alpha := [0.5, -0.5], wrk := [0, 0] } : ESL_MIXGEV ℝ))
    (1 / 2) 0 = some r := by
  obtain ⟨XL, XR, r, _, _, hr, _⟩ := mixgev_inverse_laws mixgev2_ok.1 (p := 1 / 2) (by norm_num) (by rw [mixgev2_ok.2]; norm_num) 0
  exact ⟨r, _, hr⟩

/-- **The translated `esl_mixgev_invcdf` is total, unconditionally** (on its own translated cdf): admissible parameters
    (`q_k ≥ 0`, `λ_k > 0`, `α_k ≠ 0`), every `K`, every `p ∈ (0, Σq)`.  Bracketing points exist — the textbook mixture has the
    limits `0` and `Σq`, and far enough out every component is outside its `|α y| < 1e-12` Gumbel sliver, where the translated
    cdf IS the textbook mixture — so for every `fuel ≥ fuelMix (min μ_k − XL) (XR − min μ_k)` the function returns ONE value
    `r`, the midpoint of a final bracket `[a, b]` of the code's own cdf, `cdf a ≤ p ≤ cdf b`, `b − a ≤ 1e-6 (|a|+|b|+1e-9)`. -/
theorem mixgev_invcdf_total_unconditional {g : ESL_MIXGEV ℝ} (ok : MixGen.MixgevOK g) {p : ℝ} (hp0 : 0 < p) (hp1 : p < MixGen.mixgevQ g) :
    ∃ XL XR r, (∀ x, x ≤ XL → esl_mixgev_cdf x g ≤ p) ∧ (∀ x, XR ≤ x → p ≤ esl_mixgev_cdf x g) ∧
      (∀ fuel, BisectTotal.fuelMix (esl_vec_DMin g.mu g.K - XL) (XR - esl_vec_DMin g.mu g.K) ≤ fuel →
        esl_mixgev_invcdf fuel p g = some r) ∧
      ∃ a b, a ≤ b ∧ r = (a + b) / 2 ∧ esl_mixgev_cdf a g ≤ p ∧ p ≤ esl_mixgev_cdf b g ∧ b - a ≤ 1e-6 * ((|a| + |b|) + 1e-9) :=
  Limits.mixgev_invcdf_total_all ok hp0 hp1

/-- non-vacuity: the two-component GEV mixture (Fréchet-type + Weibull-type) at `p = 1/2` -/
example : ∃ r, ∃ N : Nat, ∀ fuel, N ≤ fuel → esl_mixgev_invcdf fuel (1 / 2)
    ({ K := 2, q := [0.5, 0.5], mu := [0, 1], lambda := [1, 2], alpha := [0.5, -0.5], wrk := [0, 0] } : ESL_MIXGEV ℝ) = some r := by
  obtain ⟨XL, XR, r, _, _, hr, _⟩ := mixgev_invcdf_total_unconditional mixgev2_ok.1 (p := 1 / 2) (by norm_num) (by rw [mixgev2_ok.2]; norm_num)
  exact ⟨r, _, hr⟩

/-! ## Exact values AT the support edge `x == μ` (gamma, Weibull, stretched exponential) -/

/-- Over `ℝ`, at `x = μ` exactly, for every `λ` and shape: `esl_gam_pdf` and `esl_wei_pdf` return `+inf` / `λ` / `0` and their
    log versions `+inf` / `log λ` / `-inf` for `τ < 1` / `τ = 1` / `τ > 1` (the right-hand limits of the density; `eslINFINITY` is
    the opaque symbol `Num.inf`), with `logpdf = log pdf` where the density is finite and positive (`τ = 1`, `λ > 0`);
    `esl_sxp_pdf = λτ / e^{LogGamma(1/τ)}` (finite for every shape) with `logpdf = log pdf` exactly for `λ, τ > 0`; the gamma
    distribution functions there are `cdf = 0`, `surv = 1`, `logcdf = -inf`, `logsurv = 0` (Weibull / sxp: `wei_outside_support`,
    `gam_sxp_outside_support` at `x ≤ μ`).  The same values are DOCUMENTED expectations of the correspondence run
    (`edge-at-mu-exact`: 1190 operations compared bit-for-bit with the C functions, incl. `τ = 1 ± 1 ulp` and `μ − 1 ulp`). -/
theorem support_edge_values (μ l τ : ℝ) :
    ((τ < 1 → esl_gam_pdf μ μ l τ = Num.inf ∧ esl_gam_logpdf μ μ l τ = Num.inf) ∧
      (1 < τ → esl_gam_pdf μ μ l τ = 0 ∧ esl_gam_logpdf μ μ l τ = -Num.inf) ∧
      (τ = 1 → esl_gam_pdf μ μ l τ = l ∧ esl_gam_logpdf μ μ l τ = log l ∧ (0 < l → esl_gam_logpdf μ μ l τ = log (esl_gam_pdf μ μ l τ))) ∧
      (esl_gam_cdf μ μ l τ = 0 ∧ esl_gam_surv μ μ l τ = 1 ∧ esl_gam_logcdf μ μ l τ = -Num.inf ∧ esl_gam_logsurv μ μ l τ = 0)) ∧
    ((τ < 1 → esl_wei_pdf μ μ l τ = Num.inf ∧ esl_wei_logpdf μ μ l τ = Num.inf) ∧
      (1 < τ → esl_wei_pdf μ μ l τ = 0 ∧ esl_wei_logpdf μ μ l τ = -Num.inf) ∧
      (τ = 1 → esl_wei_pdf μ μ l τ = l ∧ esl_wei_logpdf μ μ l τ = log l ∧ (0 < l → esl_wei_logpdf μ μ l τ = log (esl_wei_pdf μ μ l τ)))) ∧
    (0 < l → 0 < τ → esl_sxp_pdf μ μ l τ = l * τ / exp (Num.logGamma (1 / τ)) ∧
      esl_sxp_logpdf μ μ l τ = log l + log τ - Num.logGamma (1 / τ) ∧
      esl_sxp_logpdf μ μ l τ = log (esl_sxp_pdf μ μ l τ) ∧ 0 < esl_sxp_pdf μ μ l τ) :=
  ⟨EdgeAtMu.gam_at_mu μ l τ, EdgeAtMu.wei_at_mu μ l τ, fun hl hτ => EdgeAtMu.sxp_at_mu hl hτ⟩

/-- …and those edge values are the RIGHT-HAND LIMITS of the textbook density (Weibull, `λ > 0`): as `x ↓ μ` the density
    `weiPdf μ λ τ` tends to `+∞` for `0 < τ < 1`, to `λ = esl_wei_pdf(μ)` for `τ = 1`, to `0 = esl_wei_pdf(μ)` for `τ > 1` — the
    `x == mu` branch of the code continues the density from the right (for `τ < 1` it returns the infinity symbol where the
    density is unbounded). -/
theorem wei_edge_is_density_limit {μ l τ : ℝ} (hl : 0 < l) :
    (0 < τ → τ < 1 → Filter.Tendsto (weiPdf μ l τ) (nhdsWithin μ (Set.Ioi μ)) Filter.atTop ∧ esl_wei_pdf μ μ l τ = Num.inf) ∧
    (Filter.Tendsto (weiPdf μ l 1) (nhdsWithin μ (Set.Ioi μ)) (nhds (esl_wei_pdf μ μ l 1)) ∧ esl_wei_pdf μ μ l 1 = l) ∧
    (1 < τ → Filter.Tendsto (weiPdf μ l τ) (nhdsWithin μ (Set.Ioi μ)) (nhds (esl_wei_pdf μ μ l τ)) ∧ esl_wei_pdf μ μ l τ = 0) := by
  refine ⟨fun h0 h1 => ⟨EdgeLimits.weiPdf_edge_top hl h0 h1, ((EdgeAtMu.wei_at_mu μ l τ).1 h1).1⟩, ?_, fun h1 => ?_⟩
  · have e := ((EdgeAtMu.wei_at_mu μ l 1).2.2 rfl).1
    exact ⟨by rw [e]; exact EdgeLimits.weiPdf_edge_one hl, e⟩
  · have e := ((EdgeAtMu.wei_at_mu μ l τ).2.1 h1).1
    exact ⟨by rw [e]; exact EdgeLimits.weiPdf_edge_zero hl h1, e⟩

/-- every carrier (so also binary64): what the `x == mu` branch of the translated densities returns, under exactly the tests
    the C code makes (`y < 0` resp. `x < mu` false, `x == mu` true, then `tau < 1`, `tau > 1`, `tau == 1` in that order) -/
theorem support_edge_branches {α : Type} [Add α] [Sub α] [Mul α] [Div α] [Neg α] [OfScientific α] [LT α] [LE α]
    [DecidableLT α] [DecidableLE α] [Num α] {x mu l t : α} (he : Num.eqb x mu = true) :
    (¬ l * (x - mu) < 0.0 →
      (t < 1.0 → esl_gam_pdf x mu l t = Num.inf ∧ esl_gam_logpdf x mu l t = Num.inf) ∧
      (¬ t < 1.0 → 1.0 < t → esl_gam_pdf x mu l t = 0.0 ∧ esl_gam_logpdf x mu l t = -Num.inf) ∧
      (¬ t < 1.0 → ¬ 1.0 < t → Num.eqb t 1.0 = true → esl_gam_pdf x mu l t = l ∧ esl_gam_logpdf x mu l t = Num.log l)) ∧
    (¬ x < mu →
      ((t < 1.0 → esl_wei_pdf x mu l t = Num.inf ∧ esl_wei_logpdf x mu l t = Num.inf) ∧
      (¬ t < 1.0 → 1.0 < t → esl_wei_pdf x mu l t = 0.0 ∧ esl_wei_logpdf x mu l t = -Num.inf) ∧
      (¬ t < 1.0 → ¬ 1.0 < t → Num.eqb t 1.0 = true → esl_wei_pdf x mu l t = l ∧ esl_wei_logpdf x mu l t = Num.log l)) ∧
      esl_sxp_pdf x mu l t = (l * t) / Num.exp (Num.logGamma (1.0 / t)) ∧
      esl_sxp_logpdf x mu l t = (Num.log l + Num.log t) - Num.logGamma (1.0 / t)) :=
  ⟨fun hy => EdgeAtMu.gam_pdf_edge hy he, fun hx => ⟨EdgeAtMu.wei_pdf_edge hx he, EdgeAtMu.sxp_pdf_edge hx he⟩⟩

/-- non-vacuity: the `τ = 1` branch over `ℝ` -/
example : esl_wei_logpdf (3 : ℝ) 3 2 1 = log (esl_wei_pdf (3 : ℝ) 3 2 1) :=
  ((support_edge_values 3 2 1).2.1.2.2 rfl).2.2 (by norm_num)

/-! ## The pdf integrates to cdf differences -/

/-- Fundamental theorem of calculus on the proved derivatives, for the four closed-form families and both mixtures:
    `∫_a^b pdf = cdf b − cdf a` — Gumbel for all `a b`; exponential and Weibull for `μ < a ≤ b` (the Weibull density is
    unbounded at `μ` when `τ < 1`, the exponential cdf has a kink at `μ`); GEV for `[a, b]` inside the support; the
    hyperexponential for `μ < a ≤ b`; the GEV mixture inside every component's support.  (A non-negative derivative is
    automatically integrable, so no separate integrability hypothesis is needed.)
    The gamma, stretched-exponential and normal families have theirs for the TEXTBOOK forms in `gam_sxp_textbook_laws` and
    `normal_laws` (the code's gamma / stretched-exponential cdf is the hand-modelled incomplete-gamma *algorithm*, not an
    integral). -/
theorem pdf_integrates_to_cdf_differences (μ l τ α a b : ℝ) (hab : a ≤ b) :
    (∫ x in a..b, gumbelPdf μ l x = gumbelCdf μ l b - gumbelCdf μ l a) ∧
    (μ < a → ∫ x in a..b, expPdf μ l x = expCdf μ l b - expCdf μ l a) ∧
    (0 < l → 0 ≤ τ → μ < a → ∫ x in a..b, weiPdf μ l τ x = weiCdf μ l τ b - weiCdf μ l τ a) ∧
    (0 ≤ l → α ≠ 0 → 0 < gevArg μ l α a → 0 < gevArg μ l α b → ∫ x in a..b, gevPdf μ l α x = gevCdf μ l α b - gevCdf μ l α a) ∧
    (∀ h : ESL_HYPEREXP ℝ, MixGen.HxpOK h → h.mu < a → ∫ x in a..b, MixGen.hxpPdf h x = MixGen.hxpCdf h b - MixGen.hxpCdf h a) ∧
    (∀ g : ESL_MIXGEV ℝ, MixGen.MixgevOK g →
      (∀ k < g.K, 0 < gevArg (MixGen.gm g k) (MixGen.gl g k) (MixGen.ga g k) a ∧ 0 < gevArg (MixGen.gm g k) (MixGen.gl g k) (MixGen.ga g k) b) →
      ∫ x in a..b, MixGen.mixgevPdf g x = MixGen.mixgevCdf g b - MixGen.mixgevCdf g a) :=
  ⟨IntegralThm.gumbel_integral_pdf μ l a b, fun ha => IntegralThm.exp_integral_pdf ha hab,
    fun hl hτ ha => IntegralThm.wei_integral_pdf hl hτ ha hab, fun hl hα ha hb => IntegralThm.gev_integral_pdf hl hα hab ha hb,
    fun _ ok ha => IntegralThm.hxp_integral_pdf ok ha hab, fun _ ok hs => IntegralThm.mixgev_integral_pdf ok hab hs⟩

example : ∫ x in (1 : ℝ)..2, weiPdf 0 1 0.5 x = weiCdf 0 1 0.5 2 - weiCdf 0 1 0.5 1 :=
  (pdf_integrates_to_cdf_differences 0 1 0.5 0 1 2 (by norm_num)).2.2.1 (by norm_num) (by norm_num) (by norm_num)
example : ∫ x in (-1 : ℝ)..3, gevPdf 0 1 0.5 x = gevCdf 0 1 0.5 3 - gevCdf 0 1 0.5 (-1) :=
  (pdf_integrates_to_cdf_differences 0 1 0 0.5 (-1) 3 (by norm_num)).2.2.2.1 (by norm_num) (by norm_num)
    (by unfold gevArg; norm_num) (by unfold gevArg; norm_num)

/-! ## Generic API (`esl_<d>_generic_<f>(x, void *params)`, used by the histogram module) -/

/-- every translated generic-API wrapper forwards to the scalar function with `params[0..]` (the mixtures: with the
    structure itself), for every carrier -/
theorem generic_api_forwards {α : Type} [Add α] [Sub α] [Mul α] [Div α] [Neg α] [OfScientific α] [LT α] [LE α]
    [DecidableLT α] [DecidableLE α] [Num α] (x : α) (v : List α) (h : ESL_HYPEREXP α) (g : ESL_MIXGEV α) (fuel : Nat) :
    let a := v.getD 0 0.0; let b := v.getD 1 0.0; let c := v.getD 2 0.0
    (esl_exp_generic_pdf x v = esl_exp_pdf x a b ∧ esl_exp_generic_cdf x v = esl_exp_cdf x a b ∧
      esl_exp_generic_surv x v = esl_exp_surv x a b ∧ esl_exp_generic_invcdf x v = esl_exp_invcdf x a b) ∧
    (esl_gumbel_generic_pdf x v = esl_gumbel_pdf x a b ∧ esl_gumbel_generic_cdf x v = esl_gumbel_cdf x a b ∧
      esl_gumbel_generic_surv x v = esl_gumbel_surv x a b ∧ esl_gumbel_generic_invcdf x v = esl_gumbel_invcdf x a b) ∧
    (esl_gev_generic_pdf x v = esl_gev_pdf x a b c ∧ esl_gev_generic_cdf x v = esl_gev_cdf x a b c ∧
      esl_gev_generic_surv x v = esl_gev_surv x a b c ∧ esl_gev_generic_invcdf x v = esl_gev_invcdf x a b c) ∧
    (esl_wei_generic_pdf x v = esl_wei_pdf x a b c ∧ esl_wei_generic_cdf x v = esl_wei_cdf x a b c ∧
      esl_wei_generic_surv x v = esl_wei_surv x a b c ∧ esl_wei_generic_invcdf x v = esl_wei_invcdf x a b c) ∧
    (esl_sxp_generic_pdf x v = esl_sxp_pdf x a b c ∧ esl_sxp_generic_cdf x v = esl_sxp_cdf x a b c ∧
      esl_sxp_generic_surv x v = esl_sxp_surv x a b c ∧ esl_sxp_generic_invcdf fuel x v = esl_sxp_invcdf fuel x a b c) ∧
    (esl_gam_generic_pdf x v = esl_gam_pdf x a b c ∧ esl_gam_generic_cdf x v = esl_gam_cdf x a b c ∧
      esl_gam_generic_surv x v = esl_gam_surv x a b c ∧ esl_gam_generic_invcdf fuel x v = esl_gam_invcdf fuel x a b c) ∧
    (esl_normal_generic_pdf x v = esl_normal_pdf x a b ∧ esl_normal_generic_cdf x v = esl_normal_cdf x a b ∧
      esl_normal_generic_surv x v = esl_normal_surv x a b) ∧
    (esl_hxp_generic_pdf x h = esl_hxp_pdf x h ∧ esl_hxp_generic_cdf x h = esl_hxp_cdf x h ∧
      esl_hxp_generic_surv x h = esl_hxp_surv x h ∧ esl_hxp_generic_invcdf fuel x h = esl_hxp_invcdf fuel x h) ∧
    (esl_mixgev_generic_pdf x g = esl_mixgev_pdf x g ∧ esl_mixgev_generic_cdf x g = esl_mixgev_cdf x g ∧
      esl_mixgev_generic_surv x g = esl_mixgev_surv x g ∧ esl_mixgev_generic_invcdf fuel x g = esl_mixgev_invcdf fuel x g) :=
  ⟨⟨rfl, rfl, rfl, rfl⟩, ⟨rfl, rfl, rfl, rfl⟩, ⟨rfl, rfl, rfl, rfl⟩, ⟨rfl, rfl, rfl, rfl⟩, ⟨rfl, rfl, rfl, rfl⟩,
    ⟨rfl, rfl, rfl, rfl⟩, ⟨rfl, rfl, rfl⟩, ⟨rfl, rfl, rfl, rfl⟩, ⟨rfl, rfl, rfl, rfl⟩⟩

/-! ## Sampling -/

/-- `Sample = inverse cdf ∘ positive uniform deviate`, every carrier (`esl_exp_Sample` uses `log u` for `log (1-u)`, i.e.
    the inverse *survival* of the deviate — `u` and `1-u` are both uniform deviates; either reading is accepted). -/
theorem sample_is_inverse_of_deviate {α : Type} [Add α] [Sub α] [Mul α] [Div α] [Neg α] [OfScientific α] [LT α] [LE α]
    [DecidableLT α] [DecidableLE α] [Num α] (u mu l a : α) :
    (esl_exp_Sample u mu l = esl_exp_invsurv u mu l ∨ esl_exp_Sample u mu l = esl_exp_invcdf u mu l) ∧
      esl_gumbel_Sample u mu l = esl_gumbel_invcdf u mu l ∧
      esl_gev_Sample u mu l a = esl_gev_invcdf u mu l a ∧ esl_wei_Sample u mu l a = esl_wei_invcdf u mu l a :=
  ⟨by first | exact Or.inl rfl | exact Or.inr rfl, rfl, rfl, rfl⟩

/-- the other direction of "the inverse cdf inverts the cdf", and what it means for the inversion samplers: for `p ∈ (0,1)`
    `cdf (invcdf p) = p` (exponential also `surv (invsurv p) = p`; Gumbel; Weibull, `τ ≠ 0`; GEV, `α ≠ 0`), so the
    (translated) sample made from a deviate `u ∈ (0,1)` sits exactly where the textbook cdf equals `u` (exponential: where
    the survival equals `u` — the sampler takes `log u`): the pointwise identity behind inverse-transform sampling (nothing is
    said about distributions). -/
theorem inverse_right_and_samples {μ l t p : ℝ} (hl : 0 < l) (hp0 : 0 < p) (hp1 : p < 1) :
    (expCdf μ l (expInvCdf μ l p) = p ∧ expSurv μ l (expInvSurv μ l p) = p ∧ gumbelCdf μ l (gumbelInvCdf μ l p) = p ∧
      (t ≠ 0 → weiCdf μ l t (weiInvCdf μ l t p) = p) ∧ (t ≠ 0 → gevCdf μ l t (gevInvCdf μ l t p) = p)) ∧
    (expSurv μ l (esl_exp_Sample p μ l) = p ∧ gumbelCdf μ l (esl_gumbel_Sample p μ l) = p ∧
      (t ≠ 0 → weiCdf μ l t (esl_wei_Sample p μ l t) = p) ∧ (¬ |t| < 1e-12 → gevCdf μ l t (esl_gev_Sample p μ l t) = p)) :=
  ⟨⟨InvRight.exp_cdf_invcdf hl hp0 hp1, InvRight.exp_surv_invsurv hl hp0 hp1, InvRight.gumbel_cdf_invcdf hl.ne' hp0 hp1,
      fun ht => InvRight.wei_cdf_invcdf hl ht hp0 hp1, fun ht => InvRight.gev_cdf_invcdf hl ht hp0 hp1⟩,
    InvRight.samples_at_deviate hl hp0 hp1⟩

/-- the mixture samplers (TRANSLATED; `k` = the component `esl_rnd_DChoose` yields, `u` = the positive
    uniform deviate): the sample is the chosen component's inverse survival (hyperexponential; see above for `log u`
    vs `log (1-u)`) resp. inverse cdf (GEV mixture) of the deviate, every carrier -/
theorem mixture_sample_is_component_inverse {α : Type} [Add α] [Sub α] [Mul α] [Div α] [Neg α] [OfScientific α] [LT α] [LE α]
    [DecidableLT α] [DecidableLE α] [Num α] (u : α) (h : ESL_HYPEREXP α) (g : ESL_MIXGEV α) (k : Nat) :
    esl_hxp_Sample u h k = esl_exp_invsurv u h.mu (h.lambda.getD k 0.0) ∧
    esl_mixgev_Sample u g k = esl_gev_invcdf u (g.mu.getD k 0.0) (g.lambda.getD k 0.0) (g.alpha.getD k 0.0) :=
  ⟨rfl, rfl⟩

/-- which primitive variate the transformed samplers draw (the arguments they hand to `esl_rnd_Gamma` / `esl_rnd_Gaussian`,
    translated with the function): the stretched exponential draws a Gamma variate of shape `1/τ`, the log-normal a
    standard Gaussian `(0, 1)` — the variates `transformed_samples` is stated for.  (`esl_gam_Sample`'s shape `τ` is compared
    against the C call by the `gamsample` operation.) -/
theorem sampler_primitive_arguments {α : Type} [Add α] [Sub α] [Mul α] [Div α] [Neg α] [OfScientific α] [LT α] [LE α]
    [DecidableLT α] [DecidableLE α] [Num α] (mu l t : α) :
    esl_sxp_Sample_draw mu l t = [1.0 / t] ∧ esl_lognormal_Sample_draw mu l = [0.0, 1.0] := ⟨rfl, rfl⟩

/-- the samplers that do NOT go by inversion (TRANSLATED resp. hand-modelled; the argument is the primitive
    variate the generator yields): the transformation lands where the family's cdf equals the primitive family's cdf at
    that variate, so the sample is distributed by the family whenever the primitive variate is distributed by its own.
    * `esl_sxp_Sample t` (`t` = Gamma(1/τ) variate) `= μ + t^{1/τ}/λ > μ`, textbook `F_sxp(Sample t) = P(1/τ, t)`, and for the
      code's own cdfs `esl_sxp_cdf (Sample t) = esl_gam_cdf t 0 1 (1/τ)`;
    * `esl_lognormal_Sample g` (`g` = standard Gaussian variate) `= e^{μ+σg} > 0`, textbook `F_lognormal(Sample g) = Φ(g)`;
    * `esl_gam_Sample` (`Mix.gamSample`, the redraw loop over the stream of Gamma(τ) variates — the TRANSLATED
      function is proved equal to it, `gam_sample_generated`): the result is
      `μ + t/λ` for a variate `t` of the stream, never `μ` itself, and `F_gam(μ + t/λ) = P(τ, t)`. -/
theorem transformed_samples {μ l τ : ℝ} (hl : 0 < l) (hτ : 0 < τ) :
    (∀ t, 0 < t → esl_sxp_Sample t μ l τ = μ + 1 / l * t ^ (1 / τ) ∧ μ < esl_sxp_Sample t μ l τ ∧
      GamSxpThm.sxpCdf μ l τ (esl_sxp_Sample t μ l τ) = IncGammaInt.P (1 / τ) t ∧
      esl_sxp_cdf (esl_sxp_Sample t μ l τ) μ l τ = esl_gam_cdf t 0 1 (1 / τ)) ∧
    (∀ g, esl_lognormal_Sample g μ l = exp (μ + l * g) ∧ 0 < esl_lognormal_Sample g μ l ∧
      NormalThm.lognormalCdf μ l (esl_lognormal_Sample g μ l) = NormalThm.normalCdf 0 1 g) ∧
    (∀ ts x, Mix.gamSample μ l ts = some x → x ≠ μ ∧ ∃ t ∈ ts, x = μ + t / l) ∧
    (∀ t, 0 < t → GamSxpThm.gamCdf μ l τ (μ + t / l) = IncGammaInt.P τ t) :=
  ⟨fun _ ht => ⟨SampleThm.sxp_sample_eq ht, (SampleThm.sxp_sample_cdf ht hl hτ).2.1, (SampleThm.sxp_sample_cdf ht hl hτ).1,
      (SampleThm.sxp_sample_cdf ht hl hτ).2.2⟩,
    fun _ => SampleThm.lognormal_sample_cdf hl, fun ts x h => SampleThm.gam_sample_spec ts x h,
    fun _ ht => SampleThm.gam_sample_cdf ht hl⟩

/-- the redraw really happens: a first variate of `0` is skipped -/
example : Mix.gamSample (3 : ℝ) 2 [0, 4] = some (3 + 4 / 2) := by
  simp [Mix.gamSample]

/-- `esl_gam_Sample` is TRANSLATED from the working tree (its redraw loop draws inside a `do … while`: the
    generator parameter becomes the stream `u : Nat → α` of Gamma(τ) variates, iteration `i` reads `u i`; `none` = the first
    `fuel` variates are all absorbed, the C loop would draw again).  For EVERY carrier the generated function is the redraw
    loop `Mix.gamSample` (the hand-written specification of the loop) on the first `fuel` variates, and it hands `τ` to
    `esl_rnd_Gamma`; over `ℝ` a returned `x` is `μ + u i / λ ≠ μ` for the FIRST index `i` that is not absorbed, and `none`
    occurs exactly when all `fuel` variates are absorbed. -/
theorem gam_sample_generated {α : Type} [Add α] [Sub α] [Mul α] [Div α] [Neg α] [OfScientific α] [LT α] [LE α]
    [DecidableLT α] [DecidableLE α] [Num α] (fuel : Nat) (u : Nat → α) (mu l t : α) (v : Nat → ℝ) (μ lam τ : ℝ) :
    esl_gam_Sample fuel u mu l t = Mix.gamSample mu l ((List.range fuel).map u) ∧ esl_gam_Sample_draw mu l t = [t] ∧
    (∀ x, esl_gam_Sample fuel v μ lam τ = some x →
      ∃ i, i < fuel ∧ x = μ + v i / lam ∧ x ≠ μ ∧ ∀ j, j < i → μ + v j / lam = μ) ∧
    (esl_gam_Sample fuel v μ lam τ = none ↔ ∀ i, i < fuel → μ + v i / lam = μ) :=
  ⟨GamSampleGen.gam_sample_eq fuel u mu l t, rfl, (GamSampleGen.gam_sample_real fuel v).1, (GamSampleGen.gam_sample_real fuel v).2⟩

/-- the redraw really happens on the generated function: a first variate of `0` is skipped -/
example : esl_gam_Sample 2 (fun i => if i = 0 then (0 : ℝ) else 4) 3 2 1 = some (3 + 4 / 2) := by
  rw [(gam_sample_generated (α := ℝ) 2 (fun i => if i = 0 then (0 : ℝ) else 4) 3 2 1 (fun _ => 0) 0 1 1).1]
  simp [Mix.gamSample, List.range_succ]

end EaselModel.Props.C10
