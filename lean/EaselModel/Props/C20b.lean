import EaselModel.Props.C20
/-! # C20: extrema of `double` / `float` vectors on ties and near-ties

`esl_vec_{D,F}ArgMax`, `ArgMin`, `Max`, `Min` AS REGENERATED from esl_vectorops.c (`Generated/VectorOps.lean`), read at the element type the
routine declares: every comparison is the order of that type itself (no narrower intermediate), so
* the index returned is the FIRST index attaining the extremum — an exact tie never moves it to a later cell;
* a cell that is strictly larger (smaller) than every other cell wins however small the margin (one unit in the last place of the type,
  or magnitudes beyond the range of a narrower type);
* `Max` / `Min` return a cell of the vector that bounds all cells.
Stated for every linearly ordered element type whose `<` the routine's comparison implements (`LawfulVOrd`: ℝ for the theorems, and
`Float` / `Float32` on non-NaN data in the bit-exact differential run). -/
namespace EaselModel.Props.C20b
open EaselModel EaselModel.Vec EaselModel.Vec.Gen

section
variable {α : Type} [CElem α] [LinearOrder α] [LawfulVOrd α]

/-- `esl_vec_DArgMax` and `esl_vec_FArgMax`: the first index attaining the maximum -/
theorem gen_DArgMax_first (v : Array α) (h : v.size ≠ 0) :
    ∃ (i : Nat) (m : α), esl_vec_DArgMax v v.size = some (i : Int) ∧ esl_vec_FArgMax v v.size = some (i : Int) ∧ v.toList[i]? = some m ∧
      (∀ x ∈ v.toList, x ≤ m) ∧ (∀ (j : Nat) (y : α), j < i → v.toList[j]? = some y → y < m) := by
  obtain ⟨i, m, h0, h1⟩ := Vec.gen_argmax_first v h
  exact ⟨i, m, h0, h0, h1⟩
/-- `esl_vec_DArgMin` and `esl_vec_FArgMin`: the first index attaining the minimum -/
theorem gen_DArgMin_first (v : Array α) (h : v.size ≠ 0) :
    ∃ (i : Nat) (m : α), esl_vec_DArgMin v v.size = some (i : Int) ∧ esl_vec_FArgMin v v.size = some (i : Int) ∧ v.toList[i]? = some m ∧
      (∀ x ∈ v.toList, m ≤ x) ∧ (∀ (j : Nat) (y : α), j < i → v.toList[j]? = some y → m < y) := by
  obtain ⟨i, m, h0, h1⟩ := Vec.gen_argmin_first v h
  exact ⟨i, m, h0, h0, h1⟩

/-- exact tie: of two equal cells the later one is never the answer -/
theorem gen_DArgMax_tie (v : Array α) (i j : Nat) (hij : i < j) (hj : j < v.size) (e : v[i]'(by omega) = v[j]) :
    esl_vec_DArgMax v v.size ≠ some (j : Int) ∧ esl_vec_FArgMax v v.size ≠ some (j : Int) := by
  obtain ⟨k, m, hd, hf, hk, _, hfirst⟩ := gen_DArgMax_first v (by omega)
  have key : some (k : Int) ≠ some (j : Int) := fun c => by
    obtain rfl : k = j := by exact_mod_cast Option.some.inj c
    exact Vec.first_ne_tie v k m hk hfirst i hij hj e
  exact ⟨hd ▸ key, hf ▸ key⟩
theorem gen_DArgMin_tie (v : Array α) (i j : Nat) (hij : i < j) (hj : j < v.size) (e : v[i]'(by omega) = v[j]) :
    esl_vec_DArgMin v v.size ≠ some (j : Int) ∧ esl_vec_FArgMin v v.size ≠ some (j : Int) := by
  obtain ⟨k, m, hd, hf, hk, _, hfirst⟩ := gen_DArgMin_first v (by omega)
  have key : some (k : Int) ≠ some (j : Int) := fun c => by
    obtain rfl : k = j := by exact_mod_cast Option.some.inj c
    exact Vec.first_ne_tie (α := αᵒᵈ) v k m hk hfirst i hij hj e
  exact ⟨hd ▸ key, hf ▸ key⟩

/-- near-tie: a cell strictly above every other cell is the answer, whatever the margin -/
theorem gen_DArgMax_strict (v : Array α) (k : Nat) (hk : k < v.size) (hs : ∀ j (hj : j < v.size), j ≠ k → v[j] < v[k]) :
    esl_vec_DArgMax v v.size = some (k : Int) ∧ esl_vec_FArgMax v v.size = some (k : Int) := by
  obtain ⟨i, m, hd, hf, hi, hmax, _⟩ := gen_DArgMax_first v (by omega)
  obtain rfl := Vec.strict_is_bound v i m hi hmax k hk hs
  exact ⟨hd, hf⟩
theorem gen_DArgMin_strict (v : Array α) (k : Nat) (hk : k < v.size) (hs : ∀ j (hj : j < v.size), j ≠ k → v[k] < v[j]) :
    esl_vec_DArgMin v v.size = some (k : Int) ∧ esl_vec_FArgMin v v.size = some (k : Int) := by
  obtain ⟨i, m, hd, hf, hi, hmin, _⟩ := gen_DArgMin_first v (by omega)
  obtain rfl := Vec.strict_is_bound (α := αᵒᵈ) v i m hi hmin k hk hs
  exact ⟨hd, hf⟩

/-- `esl_vec_{D,F}Max` / `Min`: a cell of the vector that bounds every cell -/
theorem gen_DMax_spec (v : Array α) (h : v.size ≠ 0) :
    ∃ m, esl_vec_DMax v v.size = some m ∧ esl_vec_FMax v v.size = some m ∧ m ∈ v.toList ∧ ∀ x ∈ v.toList, x ≤ m := by
  obtain ⟨m, h0, h1⟩ := Vec.gen_max_spec v h
  exact ⟨m, h0, h0, h1⟩
theorem gen_DMin_spec (v : Array α) (h : v.size ≠ 0) :
    ∃ m, esl_vec_DMin v v.size = some m ∧ esl_vec_FMin v v.size = some m ∧ m ∈ v.toList ∧ ∀ x ∈ v.toList, m ≤ x := by
  obtain ⟨m, h0, h1⟩ := Vec.gen_min_spec v h
  exact ⟨m, h0, h0, h1⟩
end

/-! non-vacuity at the reals: an exact tie, and a margin of 1e-300 at magnitude 1e300 -/
example : (#[(1 : ℝ), 3, 3, 2] : Array ℝ).size ≠ 0 := by decide
example : esl_vec_DArgMax (#[(1 : ℝ), 3, 3, 2] : Array ℝ) 4 ≠ some 2 :=
  (gen_DArgMax_tie (#[(1 : ℝ), 3, 3, 2] : Array ℝ) 1 2 (by decide) (by decide) rfl).1
example : ∃ m, esl_vec_DMax (#[(1 : ℝ), 3, 3, 2] : Array ℝ) 4 = some m ∧ ∀ x ∈ [(1 : ℝ), 3, 3, 2], x ≤ m := by
  obtain ⟨m, h1, _, _, h3⟩ := gen_DMax_spec (#[(1 : ℝ), 3, 3, 2] : Array ℝ) (by decide)
  exact ⟨m, h1, h3⟩

end EaselModel.Props.C20b
