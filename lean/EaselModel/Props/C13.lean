import EaselModel.Miniapps.Tools
import EaselModel.Miniapps.ReformatMsaLemmas
import EaselModel.Miniapps.AliLemmas
import EaselModel.Miniapps.Compstruct
import EaselModel.Miniapps.Compalign
import EaselModel.Miniapps.SmallLemmas
import EaselModel.Miniapps.Alimerge
import EaselModel.Msafile.StrLit
import EaselModel.Alphabet.CtorLemmas
/-! # C13 — property theorems about the reference functions of the miniapps (statements + glue only)

The property has two halves. The half a model can express — "for valid inputs the core tools produce what their manual
pages define, as computed independently" — is stated here about executable reference functions
(`EaselModel/Miniapps/*`), which the check ties to the sanitizer-built tool binaries by comparing complete stdout on
generated valid inputs. The other half ("never dies by a signal / sanitizer report / hang for ANY file content and
option combination", 27 entry points) is NOT a theorem: it would need a model of the whole library. It is searched
(support only); the property as a whole is therefore claimed *partial*. -/
namespace EaselModel.Props.C13
open EaselModel.Miniapps EaselModel.Random

/-! ## FASTA: write ∘ read = id, for every line width -/

/-- Reading back what the FASTA writer produced returns the same names, descriptions and residues, at every line
    width `w ≥ 1` (Easel writes 60): "conversion back returns the original", and the reader is invariant under
    re-wrapping of sequence lines. -/
theorem fasta_read_write (w : Nat) (hw : 0 < w) (rs : List Rec) (h : ∀ r ∈ rs, r.WF) :
    parseLines (renderLines w rs) = rs :=
  parseLines_renderLines w hw rs h

/-- … and therefore two layouts of the same records are read identically -/
theorem fasta_rewrap_invariant (w₁ w₂ : Nat) (h₁ : 0 < w₁) (h₂ : 0 < w₂) (rs : List Rec) (h : ∀ r ∈ rs, r.WF) :
    parseLines (renderLines w₁ rs) = parseLines (renderLines w₂ rs) := by
  rw [parseLines_renderLines w₁ h₁ rs h, parseLines_renderLines w₂ h₂ rs h]

/-- file level (characters, not lines): the text the FASTA writer produces, read back, gives the records -/
theorem fasta_file_read_write (w : Nat) (hw : 0 < w) (rs : List Rec) (h : ∀ r ∈ rs, r.WF) (hd : ∀ r ∈ rs, '\n' ∉ r.desc) :
    parseFasta (renderFasta w rs) = rs := parseFasta_renderFasta w hw rs h hd

/-- file level: cutting the written text into lines gives the written lines back -/
theorem fasta_file_lines (ls : List Line) (h : ∀ l ∈ ls, '\n' ∉ l) : fileLines (unlines ls) = ls :=
  fileLines_unlines ls h

example : (⟨"s1".toList, "a b".toList, "ACGT".toList⟩ : Rec).WF :=
  ⟨by decide, by decide, by decide, by decide, by decide⟩

/-! ## esl-seqstat: the loop computes count, sum, minimum, maximum -/

theorem seqstat_nseq (ls : List Nat) : (stats ls).nseq = ls.length := by
  rw [stats, foldl_statsStep_nseq]; exact Nat.zero_add _

theorem seqstat_nres (ls : List Nat) : (stats ls).nres = ls.sum := stats_nres ls

/-- `Smallest` is a lower bound of all lengths and is attained -/
theorem seqstat_small (ls : List Nat) (h : ls ≠ []) :
    (∀ x ∈ ls, (stats ls).small ≤ x) ∧ (stats ls).small ∈ ls := by
  obtain ⟨a, t, rfl⟩ := List.exists_cons_of_ne_nil h
  have := (List.min?_eq_some_iff (xs := a :: t) (a := t.foldl min a)).mp rfl
  rw [stats_cons]
  exact ⟨this.2, this.1⟩

/-- `Largest` is an upper bound of all lengths and is attained -/
theorem seqstat_large (ls : List Nat) (h : ls ≠ []) :
    (∀ x ∈ ls, x ≤ (stats ls).large) ∧ (stats ls).large ∈ ls := by
  obtain ⟨a, t, rfl⟩ := List.exists_cons_of_ne_nil h
  have := (List.max?_eq_some_iff (xs := a :: t) (a := t.foldl max a)).mp rfl
  rw [stats_cons]
  exact ⟨this.2, this.1⟩

/-- statistics are additive over concatenation of two (non-empty) inputs -/
theorem seqstat_concat (a b : List Nat) (ha : a ≠ []) (hb : b ≠ []) :
    (stats (a ++ b)).nseq = (stats a).nseq + (stats b).nseq ∧
    (stats (a ++ b)).nres = (stats a).nres + (stats b).nres ∧
    (stats (a ++ b)).small = min (stats a).small (stats b).small ∧
    (stats (a ++ b)).large = max (stats a).large (stats b).large := by
  obtain ⟨x, s, rfl⟩ := List.exists_cons_of_ne_nil ha
  obtain ⟨y, t, rfl⟩ := List.exists_cons_of_ne_nil hb
  -- `min` and `max` are associative: the fold over the second input can be taken on its own
  simp only [List.cons_append, stats_cons, List.foldl_append, List.foldl_cons, List.foldl_assoc, List.length_append,
    List.sum_append, List.length_cons, List.sum_cons, true_and]
  exact ⟨by omega, by omega, trivial⟩

example : stats [14, 4] = { nseq := 2, nres := 18, small := 4, large := 14 } := by decide +kernel

/-! ## reverse complement (esl-alirev, esl-sfetch -r, reversed coordinates) -/

/-- reverse complementing twice is the identity on every row over the digital DNA alphabet (all 18 symbols) … -/
theorem alirev_involution_dna (s : List Char) (h : ∀ c ∈ s, c ∈ Abc.dna.syms) :
    revcompSyms .dna (revcompSyms .dna s) = s := revcompSyms_revcompSyms_dna s h

/-- … and over the RNA alphabet -/
theorem alirev_involution_rna (s : List Char) (h : ∀ c ∈ s, c ∈ Abc.rna.syms) :
    revcompSyms .rna (revcompSyms .rna s) = s := revcompSyms_revcompSyms_rna s h

/-- the alignment keeps its length, and column `i` of the result is the complement of column `alen-1-i` -/
theorem alirev_columns (a : Abc) (s : List Char) :
    (revcompSyms a s).length = s.length ∧
    ∀ i (h : i < s.length), (revcompSyms a s)[i]'(by simp [revcompSyms, h]) = a.comp (s[s.length - 1 - i]'(by omega)) :=
  ⟨revcompSyms_length a s, fun i h => revcompSyms_get a s i h⟩

/-- text-mode reverse complement (esl-sfetch -r) is an involution on DNA text (both cases, gaps, `*`), i.e. on every symbol
    it knows except `U`/`u`, which it maps to `A` (proved below: the exclusion is necessary) -/
theorem sfetch_revcomp_involution_partial (s : List Char) (h : ∀ c ∈ s, c ∈ dnaTextSyms) :
    revcompText (revcompText s) = s := revcompText_revcompText s h

theorem sfetch_revcomp_U_not_involutive : revcompText (revcompText ['U']) ≠ ['U'] := by decide

/-- fetched coordinates: `from..to` has `to-from+1` residues and residue `i` is residue `from+i` of the source -/
theorem sfetch_subseq (s : List Char) (f t : Nat) (hf : 1 ≤ f) (hft : f ≤ t) (ht : t ≤ s.length) :
    (subseq s f t).length = t + 1 - f ∧
    ∀ i (hi : i < t + 1 - f), (subseq s f t)[i]'(by rw [subseq_length s f t hf hft ht]; exact hi) = s[f - 1 + i]'(by omega) :=
  ⟨subseq_length s f t hf hft ht, fun i hi => subseq_get s f t i hf hft ht hi⟩

example : subseq "ACGTACGT".toList 3 5 = "GTA".toList := by
  rw [String.toList_ofList, String.toList_ofList]; decide +kernel

/-! ## esl-seqrange: the `nproc` ranges partition `1..n` into consecutive chunks whose sizes differ by at most one -/

theorem seqrange_partition (n nproc : Nat) (hp : 0 < nproc) :
    (seqrange n nproc 1).1 = 1 ∧
    (seqrange n nproc nproc).2 = n ∧
    (∀ p, 1 ≤ p → p < nproc → (seqrange n nproc (p + 1)).1 = (seqrange n nproc p).2 + 1) ∧
    (∀ p, 1 ≤ p → p ≤ nproc →
      let r := seqrange n nproc p
      (r.2 + 1 - r.1 = n / nproc ∨ r.2 + 1 - r.1 = n / nproc + 1) ∧ r.1 ≤ r.2 + 1) := by
  refine ⟨rfl, ?_, fun p _ _ => rfl, ?_⟩
  · -- the remainder is below `nproc`: all of it has been handed out after `nproc` rounds
    have hmod : n - n / nproc * nproc = n % nproc := by
      have := Nat.div_add_mod' n nproc; omega
    simp only [seqrange, usedAfter_closed, hmod, Nat.min_eq_right (Nat.le_of_lt (Nat.mod_lt n hp))]
    have := Nat.div_add_mod' n nproc
    rw [Nat.mul_comm]; omega
  · -- one round of the loop adds `n / nproc`, or one more
    intro p h1 _
    obtain ⟨k, rfl⟩ : ∃ k, p = k + 1 := ⟨p - 1, by omega⟩
    simp only [seqrange, Nat.add_sub_cancel, usedAfter]
    generalize n / nproc = q
    split <;> omega

example : seqrange 10 3 1 = (1, 4) ∧ seqrange 10 3 2 = (5, 7) ∧ seqrange 10 3 3 = (8, 10) := by decide +kernel

/-! ## esl-selectn: for EVERY generator (any roll function, any state) the output is `m` lines taken from distinct
    positions of the input (a permutation of a sub-list), provided the input has at least `m` lines -/

theorem selectn_selects {α σ : Type} [DecidableEq α] (roll : σ → Nat → Nat × σ) (m : Nat) (lines : List α) (s : σ) :
    ∃ l, l.Sublist lines ∧ (selectn roll m lines s).Perm l := by
  have := reservoir_inv roll m lines 0 s [] [] ⟨[], List.Sublist.refl _, List.Perm.refl _⟩
  simpa [selectn] using this

theorem selectn_count {α σ : Type} (roll : σ → Nat → Nat × σ) (m : Nat) (lines : List α) (s : σ)
    (h : m ≤ lines.length) : (selectn roll m lines s).length = m := by
  have := reservoir_length roll m lines 0 s [] (by simp)
  simp only [selectn, this]; omega

/-- reproducibility with a fixed seed: the output is a function of (seed, m, file) -/
theorem selectn_deterministic (seed m : Nat) (f : List Char) : selectnText seed m f = selectnText seed m f := rfl

/-! ## esl-mask: length unchanged; exactly the requested coordinates change -/

theorem mask_length (o : MaskOpts) (start stop : Int) (s : List Char) : (maskSeq o start stop s).length = s.length :=
  maskSeq_length o start stop s

/-- normal mode without `-l`: position `k` (0-based) is masked iff it is alphabetic and
    `max 0 (start-x) ≤ k ≤ min (n-1) (stop+x)`; every other position is untouched -/
theorem mask_normal (o : MaskOpts) (hr : o.rev = false) (hl : o.lower = false) (start stop : Int) (s : List Char)
    (k : Nat) (h : k < s.length) :
    (maskSeq o start stop s)[k]'(by rw [mask_length]; exact h) =
      if max 0 (start - o.x) ≤ (k : Int) ∧ (k : Int) ≤ min ((s.length : Int) - 1) (stop + o.x) ∧ s[k].isAlpha
      then o.mchar else s[k] := by
  simp only [maskSeq, hr, hl, Bool.false_eq_true, ↓reduceIte]
  rw [maskBetween_get o _ _ s k h]
  by_cases ha : s[k].isAlpha <;> simp [maskFn, ha, hl]

/-- reverse mode (`-r`) without `-l`: positions `0..start-1+x` and `stop+1-x..n-1` are masked, the rest is untouched
    (`start`, `stop` 0-based as computed by the tool) -/
theorem mask_reverse (o : MaskOpts) (hr : o.rev = true) (hl : o.lower = false) (hm : o.mchar.isAlpha = true)
    (start stop : Int) (s : List Char) (k : Nat) (h : k < s.length) :
    (maskSeq o start stop s)[k]'(by rw [mask_length]; exact h) =
      if ((k : Int) ≤ start - 1 + o.x ∨ stop + 1 - o.x ≤ (k : Int)) ∧ s[k].isAlpha then o.mchar else s[k] := by
  have hlen1 : k < (maskBetween o 0 (min ((s.length:Int) - 1) (start - 1 + o.x)) s).length := by
    rw [maskBetween_length]; exact h
  simp only [maskSeq, hr, hl, Bool.false_eq_true, ↓reduceIte]
  rw [maskBetween_get o _ _ _ k hlen1, maskBetween_get o _ _ s k h]
  simp only [maskFn, hl, Bool.false_eq_true, ↓reduceIte]
  -- inside the row the clamping of the two windows to `0..n-1` is void
  have e1 : (0 ≤ (k:Int) ∧ (k:Int) ≤ min ((s.length:Int) - 1) (start - 1 + o.x)) ↔ (k:Int) ≤ start - 1 + o.x := by omega
  have e2 : (max 0 (stop + 1 - o.x) ≤ (k:Int) ∧ (k:Int) ≤ (s.length:Int) - 1) ↔ stop + 1 - o.x ≤ (k:Int) := by omega
  simp only [e1, e2]
  -- a residue masked by the first window is `mchar`, a letter, so the second window leaves it `mchar`
  by_cases ha : s[k].isAlpha = true
  · by_cases h1 : (k:Int) ≤ start - 1 + o.x
    · simp only [h1, ha, hm, if_true, ite_self, true_or, and_self]
    · simp only [h1, ha, if_false, if_true, false_or, and_true]
  · simp only [ha, Bool.false_eq_true, if_false, ite_self, and_false]

example : maskSeq {} 1 2 "ACGT".toList = "AXXT".toList := by
  rw [String.toList_ofList, String.toList_ofList]; decide +kernel
example : maskSeq { rev := true } 1 2 "ACGT".toList = "XCGX".toList := by
  rw [String.toList_ofList, String.toList_ofList]; decide +kernel

/-! ## esl-alipid: identity = identical residue pairs / min(ungapped lengths); match = aligned pairs / columns with a residue -/

/-- counters are bounded as a fraction requires: `nid ≤ n = min(len1,len2)`, `nmatch ≤ mlen`, hence both percentages ≤ 100 -/
theorem alipid_bounds (a : Abc) (x y : List Char) :
    (pairStats a x y).nid ≤ (pairStats a x y).n ∧ (pairStats a x y).nmatch ≤ (pairStats a x y).mlen ∧
    (pairStats a x y).nid ≤ (pairStats a x y).nmatch := by
  have := pairFold_inv a (x.zip y) ⟨0, 0, 0, 0, 0⟩ (by simp)
  simp only [pairStats, PairId.n] at *
  omega

/-- pairwise identity is symmetric in the two rows -/
theorem alipid_symmetric (a : Abc) (x y : List Char) :
    (pairStats a y x).nid = (pairStats a x y).nid ∧ (pairStats a y x).n = (pairStats a x y).n ∧
    (pairStats a y x).nmatch = (pairStats a x y).nmatch ∧ (pairStats a y x).mlen = (pairStats a x y).mlen := by
  have := pairFold_swap a x y ⟨0, 0, 0, 0, 0⟩
  have e : (⟨0, 0, 0, 0, 0⟩ : PairId).swap = ⟨0, 0, 0, 0, 0⟩ := rfl
  rw [e] at this
  simp only [pairStats, this, PairId.swap, PairId.n]
  exact ⟨trivial, Nat.min_comm _ _, trivial, trivial⟩

example : pairStats .dna "AC-GT".toList "ACNG-".toList = ⟨3, 4, 4, 3, 5⟩ := by
  rw [String.toList_ofList, String.toList_ofList]; decide +kernel

/-! ## esl-shuffle: for EVERY generator the shuffled sequence is a permutation of the input (composition preserved);
    with a fixed seed the output is a function of the input (reproducible) -/

theorem shuffle_mono_permutation {α σ : Type} (roll : σ → Nat → Nat × σ) (x : List α) (s : σ) :
    (cshuffle roll x s).1.Perm x := cshuffle_perm roll x s

theorem shuffle_windows_permutation {α σ : Type} (roll : σ → Nat → Nat × σ) (w : Nat) (x : List α) (s : σ) :
    (cshuffleWindows roll w x s).1.Perm x := cshuffleWindows_perm roll w x s

theorem shuffle_kmers_permutation {α σ : Type} (roll : σ → Nat → Nat × σ) (K : Nat) (x : List α) (s : σ) :
    (cshuffleKmers roll K x s).1.Perm x := cshuffleKmers_perm roll K x s

/-- `esl-shuffle -A`: the columns of the shuffled alignment are a permutation of the input columns (every row is
    rearranged by the same permutation), for every roll function -/
theorem shuffle_msa_columns_permutation {σ : Type} (roll : σ → Nat → Nat × σ) (rows : List (List Char)) (s : σ) :
    (cshuffle roll (transposeCols rows) s).1.Perm (transposeCols rows) := msaColShuffle_cols_perm roll rows s

/-- hence lengths and every residue count are preserved -/
theorem shuffle_mono_counts {σ : Type} (roll : σ → Nat → Nat × σ) (x : List Char) (s : σ) (c : Char) :
    (cshuffle roll x s).1.length = x.length ∧ (cshuffle roll x s).1.count c = x.count c :=
  ⟨(cshuffle_perm roll x s).length_eq, (cshuffle_perm roll x s).count_eq c⟩

theorem shuffle_reproducible (seed : Nat) (o : ShufOpts) (recs : List Rec) :
    shuffleText seed o recs = shuffleText seed o recs := rfl

/-! ## esl-reformat: residue-conversion options -/

/-- rows are converted position by position: number of records and every row length are unchanged (aligned output) -/
theorem reformat_afa_shape (o : ReformatOpts) (recs : List Rec) :
    (reformatAfa o recs).length = recs.length ∧
    ∀ i (h : i < recs.length), ((reformatAfa o recs)[i]'(by rw [reformatAfa_length]; exact h)).seq.length = recs[i].seq.length := by
  refine ⟨reformatAfa_length o recs, ?_⟩
  intro i h
  simp [reformatAfa, renameRec_seq]

/-- with no conversion option the residues are untouched … -/
theorem reformat_no_option_identity (al : Bool) (c : Char) : convChar {} al c = c := convChar_id al c

/-- … `-u` is idempotent, and `-r` then `-d` gives back every residue that was not a `U`/`u` -/
theorem reformat_upper_idempotent (c : Char) :
    symconv lowerS upperS (symconv lowerS upperS c) = symconv lowerS upperS c := upper_idem c

theorem reformat_rna_then_dna (c : Char) (h : c ∉ "Uu".toList) :
    symconv "Uu".toList "Tt".toList (symconv "Tt".toList "Uu".toList c) = c := rna_dna c h

/-- `--mingap` / `--nogap`: every row is cut by the same column mask, so the result is still an alignment (equal row
    lengths) and no row grows -/
theorem reformat_gap_columns (keep : List Bool) (r₁ r₂ : List Char) (h : r₁.length = r₂.length) :
    (selectCols keep r₁).length = (selectCols keep r₂).length ∧ (selectCols keep r₁).length ≤ r₁.length :=
  ⟨selectCols_length_eq keep r₁ r₂ h, selectCols_length_le keep r₁⟩

example : (dropGapColumns false [⟨"a".toList, [], "A-C-".toList⟩, ⟨"b".toList, [], "AG--".toList⟩]).map (·.seq) =
    ["A-C".toList, "AG-".toList] := by
  repeat rw [String.toList_ofList]
  decide +kernel
example : (dropGapColumns true [⟨"a".toList, [], "A-C-".toList⟩, ⟨"b".toList, [], "AG--".toList⟩]).map (·.seq) =
    ["A".toList, "A".toList] := by
  repeat rw [String.toList_ofList]
  decide +kernel

/-- fasta → afa → fasta: the unaligned FASTA written from an ungapped aligned FASTA, read back, gives the same names and
    residues (`reformatFasta {}` of gap-free records is the identity, and write∘read = id by `fasta_read_write`) -/
theorem reformat_roundtrip (recs : List Rec) (h : ∀ r ∈ recs, r.WF) (hg : ∀ r ∈ recs, ∀ c ∈ r.seq, isGapC c = false) :
    parseLines (renderLines 60 (reformatFasta {} true (parseLines (renderLines 60 recs)))) = recs := by
  rw [parseLines_renderLines 60 (by decide) recs h]
  have hid : convChar {} false = id := funext (convChar_id false)
  have e : reformatFasta {} true recs = recs := by
    apply List.ext_getElem (by simp [reformatFasta])
    intro i h1 h2
    have hf : (recs[i].seq.filter fun c => !isGapC c) = recs[i].seq :=
      List.filter_eq_self.mpr fun c hc => by simp [hg _ (List.getElem_mem _) c hc]
    simp [reformatFasta, renameRec, hf, hid]
  rw [e, parseLines_renderLines 60 (by decide) recs h]

/-! ## esl-alistat / easel alistat: the reported counts are the recomputed ones -/

theorem alistat_counts (a : Abc) (rows : List (List Char)) (h : rows ≠ []) :
    (aliStats a rows).nseq = rows.length ∧
    (aliStats a rows).nres = (rows.map (rowRlen a)).sum ∧
    (∀ r ∈ rows, (aliStats a rows).small ≤ rowRlen a r ∧ rowRlen a r ≤ (aliStats a rows).large) ∧
    (∃ r ∈ rows, rowRlen a r = (aliStats a rows).small) ∧ (∃ r ∈ rows, rowRlen a r = (aliStats a rows).large) ∧
    (∀ r ∈ rows, rowRlen a r ≤ r.length) := by
  have hne : rows.map (rowRlen a) ≠ [] := by simpa using h
  have hs := seqstat_small _ hne
  have hl := seqstat_large _ hne
  refine ⟨rfl, aliStats_nres a rows, ?_, ?_, ?_, fun r _ => rowRlen_le a r⟩
  · intro r hr
    exact ⟨hs.1 _ (List.mem_map_of_mem hr), hl.1 _ (List.mem_map_of_mem hr)⟩
  · obtain ⟨r, hr, e⟩ := List.mem_map.mp hs.2
    exact ⟨r, hr, e⟩
  · obtain ⟨r, hr, e⟩ := List.mem_map.mp hl.2
    exact ⟨r, hr, e⟩

example : aliStats .dna ["AC-GT".toList, "A--G-".toList] = ⟨2, 5, 6, 2, 4⟩ := by
  rw [String.toList_ofList, String.toList_ofList]; decide +kernel

/-! ## esl-translate
The reference function `translateText` is a composition: FASTA reader (above) ∘ the C17 six-frame ORF machine
(`EaselModel.Gencode.runStrand`, whose theorems are `Props/C17.lean`) ∘ FASTA writer, under the hand-pinned NCBI table.
What is added here is only that the composition numbers the ORFs through the whole file and names their source. -/

theorem translate_orf_header (name desc : List Char) (o : EaselModel.Gencode.Orf) :
    (orfRecord name desc o).name = ("orf" ++ toString o.num).toList ∧ (orfRecord name desc o).seq.length = o.aa.length :=
  ⟨rfl, List.length_map _⟩

/-! ## esl-sfetch with both reversals, bootstrap columns (esl-shuffle -A -b), easel downsample -/

/-- `esl-sfetch -r -c <to>..<from>` (reversed coordinates AND `-r`): the two reverse-complement steps cancel, the forward
    sub-sequence `from..to` is returned (DNA text without `U`) -/
theorem sfetch_r_and_reversed_coords_cancel (s : List Char) (f t : Nat) (h : ∀ c ∈ s, c ∈ dnaTextSyms) :
    revcompText (revcompText (subseq s f t)) = subseq s f t := by
  apply revcompText_revcompText
  intro c hc
  exact h c (List.mem_of_mem_drop (List.mem_of_mem_take hc))

/-- `esl-shuffle -A -b`: every column of a bootstrap sample is one of the input columns, whatever the generator does
    (a roll of `n` is below `n`) -/
theorem bootstrap_columns_from_input {σ : Type} (roll : σ → Nat → Nat × σ) (hroll : ∀ s n, 0 < n → (roll s n).1 < n)
    (cols : Array (List Char)) (hne : 0 < cols.size) (k : Nat) (s : σ) (acc : List (List Char)) (hacc : ∀ c ∈ acc, c ∈ cols.toList) :
    ∀ c ∈ (bootstrapCols roll cols k s acc).1, c ∈ cols.toList := by
  induction k generalizing s acc with
  | zero => intro c hc; simp only [bootstrapCols, List.mem_reverse] at hc; exact hacc c hc
  | succ k ih =>
    unfold bootstrapCols
    apply ih
    intro c hc
    cases List.mem_cons.mp hc with
    | inr h => exact hacc c h
    | inl e =>
      have hlt := hroll s cols.size hne
      subst e
      simp [Array.getD, hlt]

example : revcompText (revcompText (subseq "ACGTTGCAAG".toList 3 7)) = "GTTGC".toList := by
  rw [String.toList_ofList, String.toList_ofList]; decide +kernel

/-- `easel downsample`: the same selection theorem with the 64-bit generator plugged in -/
theorem downsample_selects {α : Type} [DecidableEq α] (m : Nat) (items : List α) (g : EaselModel.Random.Rng64) :
    ∃ l, l.Sublist items ∧ (selectn rollRng64 m items g).Perm l := selectn_selects rollRng64 m items g

/-! ## esl-reformat between alignment formats, with options (`Miniapps/ReformatMsa.lean` = C03 readers/writers ∘ C15 operations)

"reformatting converts between any two compatible formats without changing names or residues (and conversion back returns
the original)" for the alignment branch of the tool. -/
section ReformatMsa
open EaselModel.Msafile EaselModel.Miniapps.Ali

/-- `esl-reformat --namelen 10 phylip|phylips` prints exactly what `esl-reformat phylip|phylips` prints -/
theorem reformat_namelen_default_is_phylip (seq : Bool) (abc : Option Msafile.Abc) (m : FMsa) :
    phylipWriteW 10 seq abc m = phylipWrite seq abc m := phylipWriteW_ten seq abc m

/-- **`--namelen` round trip**: the file written with `--namelen 10` in either PHYLIP flavour, read back in THAT flavour,
    is the alignment (names cut to ten characters, rows exactly): conversion and back returns the original.
    (Interleaved output under `phylips` would break this for every alignment wider than 60 columns: `exAli61` below.) -/
theorem reformat_namelen_roundtrip (seq : Bool) (m : FMsa) (h : PhylipTextWritable m) :
    phylipRead seq (phylipCfg none) (splitLines (phylipWriteW 10 seq none m)) = (.ok (phylipProject (phylipCfg none) m), []) := by
  rw [phylipWriteW_ten]
  cases seq
  · exact phylipRead_write none (phylipCfg none) id _ m (phylipTextWritable_writable m h)
  · exact phylipsRead_write none (phylipCfg none) id _ m (phylipTextWritable_writable m h)

/-- **sequential layout at every name width**: `--namelen n phylips` prints the header and then the sequences one after
    the other, and the residue parts of one sequence's lines, glued together, are its row (upper-cased, `._` as `-`, `~` as `?`
    by the writer's rectification) behind its name cut/padded to `n` columns: residues are never interleaved with another
    sequence's, whatever `n` and however wide the alignment -/
theorem reformat_phylips_row_contiguous (nw : Nat) (m : FMsa) (halen : 1 ≤ m.alen) (idx : Nat)
    (hlen : (m.aseq.getD idx []).length = m.alen) (h0 : ∀ c ∈ m.aseq.getD idx [], c ≠ 0) :
    phylipSequentialLinesW nw none m = phyWrHeader m :: (List.range m.nseq).flatMap (phySeqRowLines nw none m) ∧
    (phySeqRowLines nw none m idx).flatten = padTrunc nw (m.names.getD idx []) ++ [32] ++ phyRectifyText (m.aseq.getD idx []) :=
  ⟨rfl, phySeqRowLines_flatten nw m idx halen hlen h0⟩

/-- the tool is `write ∘ transform ∘ read` on a file that holds one alignment -/
theorem reformat_msa_is_write_transform_read (o : Opts) (infmt outfmt : String) (src : Bytes)
    (rd : List Bytes → Res FMsa × List Bytes) (m : FMsa)
    (hrd : readerOf infmt = some rd) (h1 : rd (splitLines src) = (.ok m, [])) (h2 : rd [] = (.eof, [])) :
    reformatMsa o infmt outfmt src = (transform o m).bind (writeOne o outfmt) :=
  reformatMsa_single o infmt outfmt src rd m hrd h1 h2

/-- **conversion and back** through the tool: aligned FASTA written by the tool, given back to the tool, is reproduced byte for byte -/
theorem reformat_afa_idempotent (m : FMsa) (h : AfaTextWritable m) :
    reformatMsa {} "afa" "afa" (afaWrite none m) = some (afaWrite none m) := by
  have hr : afaRead (afaCfg none) (splitLines (afaWrite none m)) = (.ok (afaProject (afaCfg none) m), []) :=
    afaRead_write none (afaCfg none) id m (afaTextWritable_writable m h)
  rw [reformatMsa_single {} "afa" "afa" _ (afaRead (afaCfg none)) _ (by simp [readerOf]) hr (by simp [afaRead, runLines, afaFinish]),
      transform_no_option]
  simp [writeOne, msafileWriteTool_afa, msafileWrite, afaWrite_project_text m h]

/-- … PHYLIP (either flavour) written by the tool and converted to aligned FASTA by the tool gives the names (first ten
    characters) and rows of the alignment: the AFA rendering of C03's `phylipProject` -/
theorem reformat_phylip_to_afa (seq : Bool) (m : FMsa) (h : PhylipTextWritable m) :
    reformatMsa {} (if seq then "phylips" else "phylip") "afa" (phylipWrite seq none m)
      = some (afaWrite none (phylipProject (phylipCfg none) m)) := by
  have hr := reformat_namelen_roundtrip seq m h
  rw [phylipWriteW_ten] at hr
  rw [reformatMsa_single {} _ "afa" _ (phylipRead seq (phylipCfg none)) _ (by cases seq <;> simp [readerOf]) hr
        (by cases seq <;> decide), transform_no_option]
  simp [writeOne, msafileWriteTool_afa, msafileWrite]

/-- `--namelen n` changes nothing for the eight formats that are not PHYLIP -/
theorem reformat_namelen_ignored_elsewhere (n : Nat) (outfmt : String) (m : FMsa) (h1 : outfmt ≠ "phylip") (h2 : outfmt ≠ "phylips") :
    writeOne { namelen := some n } outfmt m = writeOne {} outfmt m := by
  simp [writeOne, h1, h2]

/-- the residue conversions never change the shape: same number of rows, same row lengths, names untouched -/
theorem reformat_convert_keeps_shape (o : Opts) (m : FMsa) :
    (convertSyms o m).names = m.names ∧ (convertSyms o m).alen = m.alen ∧
    (convertSyms o m).aseq.map List.length = m.aseq.map List.length := by
  simpa only [shape, Prod.mk.injEq] using convertSyms_shape o m

/-! non-vacuity: 2 sequences, 61 columns (two lines per sequence), one name longer than ten characters -/
def exAli61 : FMsa :=
  { alen := 61, names := [[115, 101, 113, 49], [97, 98, 99, 100, 101, 102, 103, 104, 105, 106, 107, 108]],
    aseq := [List.replicate 30 65 ++ [45] ++ List.replicate 30 67, List.replicate 60 71 ++ [63]],
    wgt := [.dflt, .dflt] }

theorem exAli61_writable : PhylipTextWritable exAli61 :=
  { dig := rfl, n1 := by decide, alen1 := by decide, nmax := by decide, amax := by decide
    name_ok := by unfold phyNameOk; decide +kernel
    row_ok := by decide +kernel }

example : (phySeqRowLines 4 none exAli61 1).flatten
    = padTrunc 4 (exAli61.names.getD 1 []) ++ [32] ++ phyRectifyText (exAli61.aseq.getD 1 []) :=
  phySeqRowLines_flatten 4 exAli61 1 (by decide) (by decide) (by decide)
example : phylipRead true (phylipCfg none) (splitLines (phylipWriteW 10 true none exAli61))
    = (.ok (phylipProject (phylipCfg none) exAli61), []) := reformat_namelen_roundtrip true exAli61 exAli61_writable
/-- the interleaved rendering of the same alignment is NOT a sequential file of it -/
example : phylipWriteW 10 false none exAli61 ≠ phylipWriteW 10 true none exAli61 := by decide +kernel
example : reformatMsa { namelen := some 10 } "phylips" "phylips" (phylipWrite true none exAli61)
    = some (phylipWrite true none exAli61) := by
  rw [reformatMsa_single _ "phylips" "phylips" _ (phylipRead true (phylipCfg none)) _ (by simp [readerOf])
        (phylipsRead_write none (phylipCfg none) id _ exAli61 (phylipTextWritable_writable _ exAli61_writable)) (by decide),
      transform_namelen_only]
  simp [writeOne, phylipWriteW_ten, phylipWrite_project_text true _ exAli61_writable]

end ReformatMsa

/-! ## esl-alimask and esl-alimanip: "masking … and subset-selection tools agree with their definitions"

The tools' own code computes a column mask (esl-alimask) or a row mask (esl-alimanip); applying it is C15's
`ColumnSubset` / `SequenceSubset`.  The complete stdout of both tools is compared with `Ali.alimask` / `Ali.alimanip`. -/
section AliTools
open EaselModel.Msa EaselModel.Miniapps.Ali

/-- **esl-alimask writes the column subset**: whatever mode computed the mask, the alignment written has every row, the RF
    line (and all other per-column annotation, C15 `colFilter`) cut by that one mask, the same sequences under the same
    names and weights, and is well formed; nothing but columns is removed -/
theorem alimask_is_column_subset (nucleic : Bool) (t t' : TMsa) (useme : List Bool) (wf : t.WF) (habc : t.abc = none)
    (hm : useme.length = t.alen) (h : alimaskApply nucleic t useme = some t') :
    t'.rows = t.rows.map (maskFilter useme) ∧ t'.alen = (useme.filter id).length ∧ t'.sqname = t.sqname ∧ t'.nseq = t.nseq ∧
    t'.rf = t.rf.map (maskFilter useme) ∧ t'.wgt = t.wgt ∧ t'.WF :=
  alimaskApply_spec nucleic t t' useme wf habc hm h

/-- **`esl-alimask -t a..b` keeps exactly columns a..b** of every row (1-based, inclusive) -/
theorem alimask_truncate_is_slice (row : Bytes) (a b : Nat) :
    maskFilter (truncMask row.length a b) row = (row.take b).drop (a - 1) := truncMask_slice row a b

example : maskFilter (truncMask 6 2 4) [65, 67, 71, 84, 45, 65] = [67, 71, 84] := by decide +kernel

/-- **esl-alimanip's sequence removal keeps the rows it selects**: each of `--seq-k`, `--seq-r`, `--lnfract`, `--lxfract`, `--lmin`, `--lmax`,
    `--rffract`, `--detrunc` is `esl_msa_SequenceSubset` over a computed mask: the selected rows, names and weights in alignment order,
    unchanged; the alignment length, alphabet and mode unchanged; at least one sequence left -/
theorem alimanip_seq_subset_keeps_rows (t t' : TMsa) (useme : List Bool) (h : subsetRows t useme = some t') :
    t'.rows = maskFilter useme t.rows ∧ t'.sqname = maskFilter useme t.sqname ∧ t'.wgt = maskFilter useme t.wgt ∧
    t'.alen = t.alen ∧ t'.nseq = countSelected t useme ∧ t'.nseq ≠ 0 ∧ t'.abc = t.abc ∧ t'.flags = t.flags :=
  subsetRows_spec t t' useme h

/-- `--seq-k <f>` / `--seq-r <f>` select by "the name is listed in <f>" (every listed name must exist, none twice) -/
theorem alimanip_seq_list_is_subset (t t' : TMsa) (seqlist : List Bytes) (doKeep : Bool)
    (h : keepOrRemove t seqlist doKeep false = some t') :
    ∃ idx, seqlist.mapM (fun nm => t.sqname.idxOf? nm) = some idx ∧
      subsetRows t ((List.range t.nseq).map fun i => if idx.contains i then doKeep else !doKeep) = some t' :=
  keepOrRemove_is_subset t t' seqlist doKeep h

/-- `--reorder` / `--k-reorder`: a row and its name move together -/
theorem alimanip_reorder_attached (t : TMsa) (order : List Nat) (i : Nat) (hi : i < order.length) :
    (reorderMsa t order).rows.getD i [] = t.rows.getD (order.getD i 0) [] ∧
    (reorderMsa t order).sqname.getD i [] = t.sqname.getD (order.getD i 0) [] := reorderMsa_attached t order i hi

/-! non-vacuity: three sequences, keep the first and the third -/
def exT : TMsa := { Msa.create 3 4 with rows := [[65, 67, 71, 84], [65, 45, 45, 84], [45, 67, 71, 45]] }
example : (subsetRows exT [true, false, true]).map (·.rows) = some [[65, 67, 71, 84], [45, 67, 71, 45]] := by decide +kernel
example : (alimaskApply false exT [true, false, false, true]).map (·.rows) = some [[65, 84], [65, 84], [45, 45]] := by decide +kernel
example : (keepOrRemove exT [[115, 50], [115, 48]] true true).map (·.sqname) = some [[115, 50], [115, 48]] := by decide +kernel

end AliTools

/-! ## esl-reformat fasta <alignment file>: "without changing names or residues" on the unaligned branch -/
section ReformatMsaToFasta
open EaselModel.Msafile EaselModel.Miniapps.Ali

/-- **no residue is lost or invented by the 60-column line wrapping**: the sequence lines of a record, joined, are the
    (converted) sequence; every line is non-empty and at most 60 long -/
theorem reformat_fasta_lines_are_sequence (name acc desc seq : Bytes) :
    (∃ hdr, fastaRecordB name acc desc seq = hdr ++ (seqLines 60 seq.length seq).flatMap (· ++ [10])) ∧
    (seqLines 60 seq.length seq).flatten = seq ∧ ∀ l ∈ seqLines 60 seq.length seq, 0 < l.length ∧ l.length ≤ 60 := by
  obtain ⟨hdr, h1, h2⟩ := fastaRecordB_body name acc desc seq
  exact ⟨⟨hdr, h1⟩, h2, seqLines_widths 60 (by decide) _ _⟩

/-- the residue options convert position by position (no residue added or dropped) and, with none given, change nothing -/
theorem reformat_fasta_convert_pointwise (o : Opts) (s : Bytes) :
    (convertSeq o s).length = s.length ∧ convertSeq {} s = s := ⟨convertSeq_length o s, convertSeq_no_option s⟩

/-- non-vacuity: two Stockholm alignments in one file; `--rename` numbers run on across alignments; the accession and the
    description follow the name; gap characters `-._~` are removed, an all-gap row gives a header without sequence lines -/
example : reformatMsaToFasta { rename := some (str "n") } "stockholm"
    (str "# STOCKHOLM 1.0\n#=GS s1 AC A1\n#=GS s1 DE d e\ns1 A-c.G\ns2 -._~-\n//\n# STOCKHOLM 1.0\nt1 UU\n//\n")
    = some (str ">n.1 A1 d e\nAcG\n>n.2\n>n.3\nUU\n") := by
  rw [str_ofList, str_ofList, str_ofList]
  decide +kernel

end ReformatMsaToFasta

/-! ## esl-alistat with the optional output files (`Miniapps/AlistatInfo.lean`): "alignment statistics equal recomputed counts"

The counters are binary64 (the tool's own arithmetic is mirrored operation by operation and compared byte for byte with the
files the tool writes); what is provable without a theory of rounding is the *structure* of the counting. -/
section AlistatInfo
open EaselModel.Alphabet EaselModel.Miniapps.Ali

/-- every column has exactly `K+1` counters (K residues + gap), whatever the rows contain -/
theorem alistat_column_counters (A : Alphabet) (noAmbig : Bool) (rows : List (List Nat)) (apos : Nat) :
    (columnCounts A noAmbig rows apos).length = A.K + 1 := columnCounts_length A noAmbig rows apos

/-- a canonical residue or a gap is counted in its own cell only; missing data `~` and the nonresidue `*` nowhere -/
theorem alistat_count_cells (A : Alphabet) (ct : List Float) (wt : Float) :
    (∀ x y, x ≤ A.K → y ≠ x → (dCount A ct x wt).getD y 0.0 = ct.getD y 0.0) ∧
    (A.K + 3 ≤ A.Kp → dCount A ct (A.Kp - 1) wt = ct ∧ dCount A ct (A.Kp - 2) wt = ct) :=
  ⟨fun x y hx hy => dCount_canonical A ct x wt hx y hy,
   fun hK => ⟨dCount_missing A ct _ wt hK (Or.inl rfl), dCount_missing A ct _ wt hK (Or.inr rfl)⟩⟩

/-- the `rfpos` column of `--rinfo` / `--icinfo` has one cell per alignment column -/
theorem alistat_rfpos_cells (iamrf : List Bool) : (rfCells iamrf).length = iamrf.length := rfCells_length iamrf

/-- non-vacuity: the RNA alphabet has K = 4, Kp = 18 (evaluated once for the examples below); inserts are counted per RF gap -/
theorem viewsRna_size : viewsRna.a.K = 4 ∧ viewsRna.a.Kp = 18 := by
  rw [show viewsRna.a = Alphabet.createRna.getD emptyAlphabet from rfl, Alphabet.createRna_regenerated]
  exact ⟨rfl, rfl⟩
example : viewsRna.a.K = 4 ∧ viewsRna.a.Kp = 18 := viewsRna_size
example : insertCounts viewsRna.a [true, false, false, true] [[0, 1, 4, 2], [0, 4, 4, 2], [3, 3, 3, 3]] = [[0, 0, 0], [1, 0, 2], [0, 0, 0]] := by
  simp only [insertCounts, xIsResidueN, viewsRna_size]
  decide +kernel

end AlistatInfo

/-! ## esl-compstruct (`Miniapps/Compstruct.lean`; complete stdout compared) -/
section Compstruct
open EaselModel.Miniapps.Ali

/-- correct pairs never exceed the pairs there are (sensitivity and PPV are at most 100%), for all CT arrays, either rule -/
theorem compstruct_correct_le_pairs (m : Bool) (len : Nat) (kct tct : List Nat) :
    (comparePairs m len kct tct).kcorrect ≤ (comparePairs m len kct tct).kpairs ∧
    (comparePairs m len kct tct).tcorrect ≤ (comparePairs m len kct tct).tpairs := comparePairs_le m len kct tct

/-- the source's side note, proved: under the strict rule the correctly predicted trusted pairs ARE the true predicted pairs -/
theorem compstruct_strict_correct_symmetric (len : Nat) (kct tct : List Nat) :
    (comparePairs false len kct tct).kcorrect = (comparePairs false len kct tct).tcorrect := comparePairs_strict_symm len kct tct

/-- a structure compared with itself scores every pair, under either rule -/
theorem compstruct_self_is_perfect (m : Bool) (len : Nat) (ct : List Nat) :
    (comparePairs m len ct ct).kcorrect = (comparePairs m len ct ct).kpairs := comparePairs_self m len ct

/-- Mathews' rule (`-m`) only relaxes the strict one -/
theorem compstruct_mathews_relaxes (len : Nat) (kct tct : List Nat) :
    (comparePairs false len kct tct).kcorrect ≤ (comparePairs true len kct tct).kcorrect := comparePairs_mathews_ge len kct tct

/-- non-vacuity: trusted `<<..>>`, predicted with the inner pair slipped by one: strict 1/2, Mathews 2/2 -/
example : (EaselModel.Msa.wuss2ct (EaselModel.Msafile.str "<<..>>")).bind (fun k => (EaselModel.Msa.wuss2ct (EaselModel.Msafile.str "<.<.>>")).map fun t =>
    ((comparePairs false 6 k t).kcorrect, (comparePairs true 6 k t).kcorrect, (comparePairs true 6 k t).kpairs)) = some (1, 2, 2) := by
  rw [EaselModel.Msafile.str_ofList, EaselModel.Msafile.str_ofList]
  decide +kernel

end Compstruct

/-! ## esl-alimask -p (`Miniapps/Alimask.lean: ppCounts, ppMask`): binary64/binary32 arithmetic, tied by exact comparison only;
    what is decidable is where the tool STOPS -/
section AlimaskPP
open EaselModel.Msafile EaselModel.Miniapps.Ali

/-- a PP gap under a residue, a character that is no PP class, or a sequence without a PP line stops the tool (no mask) -/
example : (ppCounts EaselModel.Msa.Gen.rnaAbc [str "A"] [some (str ".")] 0).isNone = true := by decide +kernel
example : (ppCounts EaselModel.Msa.Gen.rnaAbc [str "A"] [some (str "x")] 0).isNone = true := by decide +kernel
example : (ppCounts EaselModel.Msa.Gen.rnaAbc [str "A", str "C"] [some (str "9"), none] 0).isNone = true := by decide +kernel
example : (ppCounts EaselModel.Msa.Gen.rnaAbc [str "A", str "-"] [some (str "9"), some (str ".")] 0).isSome = true := by decide +kernel

end AlimaskPP

/-! ## esl-compalign (`Miniapps/Compalign.lean`; default and -c tables compared exactly) -/
section Compalign
open EaselModel.Miniapps.Ali

/-- an alignment compared with itself: every match residue and every insert residue is correct (100% in every column of the table) -/
theorem compalign_self_is_perfect (kp : List (Bool × Nat)) :
    (seqCounts kp kp).2.2.1 = (seqCounts kp kp).1 ∧ (seqCounts kp kp).2.2.2 = (seqCounts kp kp).2.1 := seqCounts_self kp

/-- correct never exceeds counted (every fraction of the table is at most 1), for all position lists -/
theorem compalign_correct_le_counted (kp tp : List (Bool × Nat)) :
    (seqCounts kp tp).2.2.1 ≤ (seqCounts kp tp).1 ∧ (seqCounts kp tp).2.2.2 ≤ (seqCounts kp tp).2.1 := seqCounts_le kp tp

/-- non-vacuity: RF `x.xx`, trusted row `AC-G`, test row `A-CG`: residue 2 moved from the insert after RF 1 to RF 2 -/
example : residuePositions EaselModel.Msa.Gen.rnaAbc [true, false, true, true] [0, 1, 4, 2] = [(true, 1), (false, 1), (true, 3)] := by decide +kernel
example : seqCounts [(true, 1), (false, 1), (true, 3)] [(true, 1), (true, 2), (true, 3)] = (2, 1, 2, 0) := by decide +kernel

end Compalign

/-! ## esl-afetch: "fetching returns the requested records" (`Miniapps/Afetch.lean`; complete stdout / output file compared) -/
section Afetch
open EaselModel.Msafile EaselModel.Miniapps.Ali

/-- **without an index** the alignment written is one whose name or accession IS the key (for every reader, every file) -/
theorem afetch_sequential_returns_requested (rd : List Bytes → Res FMsa × List Bytes) (key : Bytes) (fuel : Nat) (ls : List Bytes)
    (m : FMsa) (h : seqFetch rd key fuel ls = some m) : m.name = some key ∨ m.acc = some key := by
  have := seqFetch_matches rd key fuel ls m h
  simpa [keyMatches] using this

/-- … it is the FIRST such alignment of the file: a named record that does not match is passed over, a matching one ends
    the search (what follows it is never parsed, so damage behind the requested record does not matter) -/
theorem afetch_sequential_first_match (rd : List Bytes → Res FMsa × List Bytes) (key : Bytes) (fuel : Nat) (ls rest : List Bytes)
    (m : FMsa) (h : rd ls = (.ok m, rest)) (hn : m.name.isSome = true) :
    seqFetch rd key (fuel + 1) ls = if keyMatches key m then some m else seqFetch rd key fuel rest :=
  seqFetch_step rd key fuel ls rest m h hn

/-- **with an index** the record found is a record of the file whose name or accession is the key, names before accessions -/
theorem afetch_indexed_returns_requested (recs : List (FMsa × List Bytes)) (key : Bytes) (r : FMsa × List Bytes)
    (h : ssiFind recs key = some r) : r ∈ recs ∧ (r.1.name = some key ∨ r.1.acc = some key) := by
  have := ssiFind_mem recs key r h
  exact ⟨this.1, by simpa [keyMatches] using this.2⟩

theorem afetch_indexed_name_before_accession (recs : List (FMsa × List Bytes)) (key : Bytes) (r : FMsa × List Bytes)
    (h : recs.find? (fun r => r.1.name == some key) = some r) : ssiFind recs key = some r := ssiFind_name_first recs key r h

/-- **verbatim echo** (index, Stockholm → Stockholm / Pfam → Pfam): the output is the record's own lines from its offset
    up to and including its first `//` line, each ended by one LF — no line of the NEXT record, none dropped, none altered -/
theorem afetch_echo_is_record_text (span : List Bytes) (out : Bytes) (h : regurgitate span = some out) :
    ∃ pre l post, span = pre ++ l :: post ∧ isTerminator l = true ∧ (∀ x ∈ pre, isTerminator x = false) ∧
      out = (pre ++ [l]).flatMap (fun x => x ++ [10]) := regurgitate_eq span out h

/-- non-vacuity: a two-record file; by name, by accession, and the name-vs-accession tie with and without an index -/
def exSto2 : Bytes := str "# STOCKHOLM 1.0\n#=GF ID a1\n#=GF AC b2\ns1 AC\n//\n\n# STOCKHOLM 1.0\n#=GF ID b2\ns1 GG\n  //\n"
/-- the lines of the file, cut once for the three runs below -/
theorem exSto2_lines : splitLines exSto2 = [str "# STOCKHOLM 1.0", str "#=GF ID a1", str "#=GF AC b2", str "s1 AC", str "//", [],
    str "# STOCKHOLM 1.0", str "#=GF ID b2", str "s1 GG", str "  //"] := by
  unfold exSto2
  repeat rw [str_ofList]
  decide +kernel
example : afetchOne { infmt := "stockholm" } exSto2 (str "b2") = some (str "# STOCKHOLM 1.0\n#=GF ID a1\n#=GF AC b2\n\ns1 AC\n//\n") := by
  unfold afetchOne; rw [readerOf_stockholm, exSto2_lines]; repeat rw [str_ofList]
  decide +kernel
example : (spansOf "stockholm" exSto2).map (fun recs => (ssiFind recs (str "b2")).bind (fun r => regurgitate r.2))
    = some (some (str "\n# STOCKHOLM 1.0\n#=GF ID b2\ns1 GG\n  //\n")) := by
  unfold spansOf; rw [readerOf_stockholm, exSto2_lines]; repeat rw [str_ofList]
  decide +kernel
example : (spansOf "stockholm" exSto2).map indexable = some false := by
  unfold spansOf; rw [readerOf_stockholm, exSto2_lines]; repeat rw [str_ofList]
  decide +kernel

end Afetch

/-! ## esl-alimerge (in-memory mode; `Miniapps/Alimerge.lean`, complete stdout compared): "the merged alignment restricted to the sequences
    of one input equals that input up to inserted all-gap columns" -/
section Alimerge
open EaselModel.Msafile EaselModel.Miniapps.Ali

/-- **restriction**: whatever gap-count vector `determine_gap_columns_to_add` produced for an input (any vector with one entry per
    alignment position plus one), dropping the added columns from a merged row returns the input row, residue for residue -/
theorem alimerge_restriction (ngapA : List Nat) (gapc : UInt8) (row : Bytes) (h : row.length + 1 ≤ ngapA.length) :
    deflate ngapA (inflate ngapA gapc row) = row := deflate_inflate ngapA gapc row h

/-- the merged row is longer by exactly the number of added columns … -/
theorem alimerge_length (ngapA : List Nat) (gapc : UInt8) (row : Bytes) (h : ngapA.length = row.length + 1) :
    (inflate ngapA gapc row).length = row.length + ngapA.sum := inflate_length ngapA gapc row h

/-- … so the rows (and the RF line) of one input, inflated with that input's vector, stay aligned with each other: the added
    columns are the same columns in every row of the input, and every character added is the gap character -/
theorem alimerge_rows_stay_aligned (ngapA : List Nat) (gapc : UInt8) (r₁ r₂ : Bytes)
    (h₁ : ngapA.length = r₁.length + 1) (h₂ : r₂.length = r₁.length) :
    (inflate ngapA gapc r₁).length = (inflate ngapA gapc r₂).length := by
  rw [inflate_length ngapA gapc r₁ h₁, inflate_length ngapA gapc r₂ (by omega)]; omega

/-- `update_maxgap_and_maxmis`'s counting: an RF line of `clen` consensus columns has `clen + 1` insert regions, and the region widths
    together with the consensus columns account for every column exactly once (so the merged length `clen + Σ maxgap` is a column count) -/
theorem alimerge_insert_regions_partition (rf : Bytes) :
    (insertWidths rf).length = clenOf rf + 1 ∧ (insertWidths rf).sum + clenOf rf = rf.length :=
  ⟨insertWidths_length rf, insertWidths_sum rf⟩

/-- merging adds gap characters and nothing else: every character of a merged row is a character of the input row or the gap character -/
theorem alimerge_adds_only_gaps (ngapA : List Nat) (gapc : UInt8) (row : Bytes) :
    ∀ c ∈ inflate ngapA gapc row, c ∈ row ∨ c = gapc := inflate_mem ngapA gapc row

/-- the width recorded for an insert region is at least its width in every input (one `ESL_MAX` step) -/
theorem alimerge_maxgap_dominates (a b : List Nat) (h : a.length = b.length) (i : Nat) :
    a.getD i 0 ≤ (maxWidths a b).getD i 0 ∧ b.getD i 0 ≤ (maxWidths a b).getD i 0 := maxWidths_ge a b h i

/-- non-vacuity: two alignments with consensus `xxxxx`; the first has a 2-column insert after consensus column 2, the second one
    column in front and two behind: widths (1,0,2,0,0,2); complete output of the tool for this input (checked against the binary) -/
def exM1 : Bytes := str "# STOCKHOLM 1.0\ns1    AC.gG-U\ns2    ACa.GGU\n#=GC RF xx..xxx\n//\n"
def exM2 : Bytes := str "# STOCKHOLM 1.0\nt1    gACGGUcc\nt2    .AC-GU..\n#=GC RF .xxxxx..\n//\n"
example : insertWidths (str "xx..xxx") = [0, 0, 2, 0, 0, 0] ∧ insertWidths (str ".xxxxx..") = [1, 0, 0, 0, 0, 2] := by
  rw [str_ofList, str_ofList]; decide +kernel
example : gapsToAdd (str "xx..xxx") [1, 0, 2, 0, 0, 2] = [1, 0, 0, 0, 0, 0, 0, 2] := by
  rw [str_ofList]; decide +kernel
example : gapsToAdd (str ".xxxxx..") [1, 0, 2, 0, 0, 2] = [0, 0, 0, 2, 0, 0, 0, 0, 0] := by
  rw [str_ofList]; decide +kernel
example : alimerge "stockholm" [exM1, exM2]
    = some (str "# STOCKHOLM 1.0\n\ns1      .AC.gG-U..\ns2      .ACa.GGU..\nt1      gAC..GGUcc\nt2      .AC..-GU..\n#=GC RF .xx..xxx..\n//\n") := by
  unfold alimerge readFile exM1 exM2
  rw [readerOf_stockholm, str_ofList, str_ofList, str_ofList]
  decide +kernel

end Alimerge

/-! ## the `--small` (streamed, Pfam-only) paths: `esl_msafile2_RegurgitatePfam` as esl-alimask / esl-alimanip call it
    (`Miniapps/Small.lean`; stdout compared exactly, also with #=GF / #=GS / #=GR / #=GC / comment / blank lines and several records) -/
section Small
open EaselModel.Miniapps.Small

/-- **any configuration** (keep list, skip list, column mask, nothing), any record of header + sequence lines + `//`: the output is the
    header, exactly the lines of the wanted sequences in their order, names and spacing untouched and the text restricted to the kept
    columns, then `//`; `nseq_read` counts every row, `nseq_regurged` the wanted ones; the rest of the file is left for the next call.
    With a keep / skip list this is what the non-small `esl-alimanip --seq-k` / `--seq-r` is defined to do to the rows (sequence subset,
    order kept); with a mask what `esl-alimask` is defined to do (column subset of every row: `shrink_eq_maskFilter`). -/
theorem small_regurgitate_rows (c : Cfg) (ea : Option Nat) (hdr : Line) (r0 : Row) (rs : List Row) (rest : List Line)
    (hh : startsWith hdr "# STOCKHOLM 1." = true) (hnb : isBlankLine hdr = false)
    (hwf : ∀ r ∈ r0 :: rs, r.WF) (hlen : ∀ r ∈ r0 :: rs, ea = none ∨ ea = some r.text.length)
    (hdist : ∀ r ∈ rs, r.name ≠ r0.name) :
    regurgitate c ea (hdr :: (r0 :: rs).map Row.line ++ "//".toList :: rest)
      = .ok (hdr :: (wanted c (r0 :: rs)).map (Row.outLine c) ++ ["//".toList], (r0 :: rs).length, (wanted c (r0 :: rs)).length, rest) :=
  regurgitate_rows c ea hdr r0 rs rest hh hnb hwf hlen hdist

/-- nothing asked for: the record comes out byte for byte as it went in ("conversion … without changing names or residues") -/
theorem small_regurgitate_identity (hdr : Line) (r0 : Row) (rs : List Row) (rest : List Line)
    (hh : startsWith hdr "# STOCKHOLM 1." = true) (hnb : isBlankLine hdr = false)
    (hwf : ∀ r ∈ r0 :: rs, r.WF) (hdist : ∀ r ∈ rs, r.name ≠ r0.name) :
    regurgitate {} none (hdr :: (r0 :: rs).map Row.line ++ "//".toList :: rest)
      = .ok (hdr :: (r0 :: rs).map Row.line ++ ["//".toList], (r0 :: rs).length, (r0 :: rs).length, rest) :=
  regurgitate_identity hdr r0 rs rest hh hnb hwf hdist

/-- one sequence line, any state: the state after it (first name remembered, counters, the emitted line) — the step the two theorems
    above iterate; the two failure tests (`exp_alen`, "two seqs named …") are the hypotheses -/
theorem small_regurgitate_seq_line (c : Cfg) (st : St) (r : Row) (h : r.WF)
    (hlen : st.expAlen = none ∨ st.expAlen = some r.text.length) (hfirst : st.nread ≠ 0 → st.first ≠ some r.name) :
    lineStep c st r.line = .cont (afterRow c st r) := lineStep_row c st r h hlen hfirst

/-- **`--seq-k <list>` and `--seq-r <list>` split the alignment**: with the same list, every row read is regurgitated by exactly one of the
    two runs (so the two outputs together hold each sequence once), and the `--seq-k` output holds exactly the rows named on the list -/
theorem small_seq_k_seq_r_split (l : List Line) (rows : List Row) :
    (wanted { keep := some l } rows).length + (wanted { skip := some l } rows).length = rows.length ∧
    (∀ r ∈ rows, (r ∈ wanted { keep := some l } rows ∧ r ∉ wanted { skip := some l } rows) ∨
                 (r ∉ wanted { keep := some l } rows ∧ r ∈ wanted { skip := some l } rows)) ∧
    (∀ r, r ∈ wanted { keep := some l } rows ↔ r ∈ rows ∧ r.name ∈ l) :=
  ⟨wanted_keep_skip_length l rows, fun r hr => wanted_keep_skip_mem l rows r hr, fun r => wanted_keep_iff l rows r⟩

/-- a masked row is never longer than the row, and a keep list never invents a row -/
theorem small_mask_shrinks (u : List Bool) (t : Line) : (shrink u t).length ≤ t.length := by
  rw [shrink_eq_maskFilter]; exact EaselModel.Msa.maskFilter_length_le u t

theorem small_wanted_sublist (c : Cfg) (rows : List Row) : (wanted c rows).Sublist rows := by
  unfold wanted; exact List.filter_sublist

/-- **`esl-reformat --small --informat pfam afa` = the non-small reference on the same rows**, for every option setting
    (`-d -l -n -r -u -x --gapsym --replace --rename`): the streamed two-pass path (`regurgitate_pfam_as_afa`, modelled line by line as
    `reformatSmallAfa`) prints exactly `renderLines 60 (reformatAfa o recs)` — the text `esl-reformat afa` is specified to print
    (same names or `--rename` numbering, residues converted in the same order of conversions, 60 per line). -/
theorem small_reformat_afa_eq_reference (o : ReformatOpts) (hdr : Line) (r0 : Row) (rs : List Row) (rest : List Line)
    (h1 : hdr.all isSpTab' = false) (h2 : startsWith hdr "# STOCKHOLM" = true) (h3 : startsWith hdr "# STOCKHOLM 1." = true)
    (hwf : ∀ r ∈ r0 :: rs, r.WF) (hdist : ∀ r ∈ rs, r.name ≠ r0.name) :
    reformatSmallAfa o (hdr :: (r0 :: rs).map Row.line ++ "//".toList :: rest)
      = some (renderLines 60 (reformatAfa o ((r0 :: rs).map Row.toRec))) :=
  reformatSmallAfa_eq_reference o hdr r0 rs rest h1 h2 h3 hwf hdist

/-- non-vacuity: the header line of every Stockholm file satisfies the three hypotheses; `-r --rename nn` on the two-row record, and a
    record WITH #=GS AC / DE lines (outside the theorem's rows-only shape: accession and description join the header line) -/
example : ("# STOCKHOLM 1.0".toList.all isSpTab' = false) ∧ startsWith "# STOCKHOLM 1.0".toList "# STOCKHOLM" = true
    ∧ startsWith "# STOCKHOLM 1.0".toList "# STOCKHOLM 1." = true := by
  rw [String.toList_ofList]; decide +kernel
example : reformatSmallAfa { rna := true, rename := some "nn".toList } ("# STOCKHOLM 1.0".toList :: [" s1   ACGT".toList, "s2 A-TT".toList, "//".toList])
    = some [">nn.1".toList, "ACGU".toList, ">nn.2".toList, "A-UU".toList] := by
  repeat rw [String.toList_ofList]
  decide +kernel
example : reformatSmallAfa {} ["# STOCKHOLM 1.0".toList, "#=GS s1 AC X1".toList, "#=GS s1 DE a b".toList, "#=GS s2 DE c".toList, "s1 AC".toList, "s2 GU".toList, "//".toList]
    = some [">s1 X1 a b".toList, "AC".toList, ">s2 c".toList, "GU".toList] := by
  repeat rw [String.toList_ofList]
  decide +kernel

/-- **`esl-reformat --small --informat pfam pfam`** (`regurgitate_pfam_as_pfam`, no WUSS option) on the rows of a record, any option setting:
    every sequence line keeps its name and its run of blanks, its residues are converted pointwise by the same `convChar` as in the
    non-small reference ("converts … without changing names or residues"), then `//`; the rest of the file is left for the next record -/
theorem small_reformat_pfam_rows (o : ReformatOpts) (r0 : Row) (rs : List Row) (rest : List Line)
    (hwf : ∀ r ∈ r0 :: rs, r.WF) (hdist : ∀ r ∈ rs, r.name ≠ r0.name)
    (hlen : ∀ r ∈ r0 :: rs, ∀ r' ∈ r0 :: rs, r'.text.length = r.text.length) :
    reformatSmallPfamBody o none none 0 ((r0 :: rs).map Row.line ++ "//".toList :: rest) []
      = some ((r0 :: rs).map (Row.pfamOut o) ++ ["//".toList], rest) := by
  have := pfamBody_rows o (r0 :: rs) none 0 none [] rest hwf ⟨fun _ => hdist, fun h => absurd rfl h⟩
    (fun r hr => ⟨Or.inl rfl, hlen r hr⟩)
  simpa using this

example : reformatSmallPfamOne { upper := true, gapsym := some '-' } ["# STOCKHOLM 1.0".toList, "#=GF ID x".toList, "s1   ac.gu".toList, "#=GR s1 PP 99.99".toList, "//".toList, "next".toList]
    = some (["# STOCKHOLM 1.0".toList, "#=GF ID x".toList, "s1   AC-GU".toList, "#=GR s1 PP 99.99".toList, "//".toList], ["next".toList]) := by
  repeat rw [String.toList_ofList]
  decide +kernel

/-- `esl-alistat --small` prints the non-small summary minus the three lines that need the sequences in memory -/
theorem small_alistat_is_projection (ls : List (Bool × String)) :
    renderSmall ls = renderAll (ls.filter (·.1)) := by
  simp [renderSmall, renderAll]

/-- non-vacuity: a two-row record; `--seq-k s2`, `--seq-r s2`, a mask keeping columns 2-3, and the failing case (the first name twice) -/
def exRows : List Row := [⟨"s1".toList, 3, "ACGU".toList⟩, ⟨"s2".toList, 3, "A-GU".toList⟩]
def exRec : List Line := "# STOCKHOLM 1.0".toList :: exRows.map Row.line ++ ["//".toList, "next".toList]
example : ∀ r ∈ exRows, r.WF := by
  intro r hr
  simp [exRows] at hr
  rcases hr with rfl | rfl <;> constructor <;> decide
example : (regurgitate { keep := some ["s2".toList] } none exRec).toOption
    = some (["# STOCKHOLM 1.0".toList, "s2    A-GU".toList, "//".toList], 2, 1, ["next".toList]) := by
  unfold exRec exRows; repeat rw [String.toList_ofList]
  decide +kernel
example : (regurgitate { skip := some ["s2".toList] } none exRec).toOption
    = some (["# STOCKHOLM 1.0".toList, "s1    ACGU".toList, "//".toList], 2, 1, ["next".toList]) := by
  unfold exRec exRows; repeat rw [String.toList_ofList]
  decide +kernel
example : (regurgitate { useme := some [false, true, true, false] } (some 4) exRec).toOption
    = some (["# STOCKHOLM 1.0".toList, "s1    CG".toList, "s2    -G".toList, "//".toList], 2, 2, ["next".toList]) := by
  unfold exRec exRows; repeat rw [String.toList_ofList]
  decide +kernel
example : (regurgitate {} none ("# STOCKHOLM 1.0".toList :: ["s1 AC".toList, "s1 GU".toList, "//".toList])).toOption = none := by
  repeat rw [String.toList_ofList]
  decide +kernel
/-- the SS_cons line loses the pairs the mask breaks before it is shrunk (nucleic alphabets only) -/
example : (regurgitate { useme := some [false, true, true, true] } (some 4) ["# STOCKHOLM 1.0".toList, "s1 ACGU".toList, "#=GC SS_cons <..>".toList, "//".toList]).toOption
    = some (["# STOCKHOLM 1.0".toList, "s1 CGU".toList, "#=GC SS_cons :::".toList, "//".toList], 1, 1, []) := by
  repeat rw [String.toList_ofList]
  decide +kernel

end Small

end EaselModel.Props.C13
