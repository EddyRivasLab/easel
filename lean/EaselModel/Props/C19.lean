import EaselModel.Containers.KeyhashLemmas
import EaselModel.Containers.KeyhashBounds
import EaselModel.Containers.KeyhashInt32
import EaselModel.Containers.KeyhashReuse
import EaselModel.Containers.KeyhashGrowthVariant
import EaselModel.Containers.KeyhashApiLemmas
import EaselModel.Containers.KeyhashFixedLemmas
import EaselModel.Containers.HeapLemmas
import EaselModel.Containers.HeapHistory
import EaselModel.Containers.RedBlackLemmas
import EaselModel.Containers.RedBlackPtrLemmas
import EaselModel.Containers.RedBlackPtrInsert
import EaselModel.Containers.RedBlackPtrHistory
import EaselModel.Containers.RedBlackPtrPool
import EaselModel.Containers.StackLemmas
import EaselModel.Containers.StackHistory
import EaselModel.Containers.StackThreadsLemmas
import EaselModel.Containers.StackThreadsTerm
import EaselModel.Containers.QuicksortPure
/-! # C19 — key tables, heaps, trees, stacks and index sorts behave as their abstract types

Statements + glue only; the lemmas live in the files of `EaselModel/Containers/` imported above. Every theorem quantifies over all
histories / inputs / generator states; none is bounded. In all models `none` (resp. `.fault`, `.nofuel`) is the outcome
"out-of-bounds access, `esl_fatal`, or a loop that does not end": a conclusion `… = some …` therefore also says that
these do not happen. -/
namespace EaselModel.Props.C19
open EaselModel.Containers

/-! ## Key hash, the code before the repair 491f68d (`Keyhash.lean`: stored keys compared with `esl_memstrcmp` / `strcmp` and
re-hashed as C strings)

Full statement (properties.jsonl): for every history and every initial table size the key hash behaves as the
insertion-ordered map from *arbitrary* byte strings to 0,1,2,… .  For THIS version of the code that statement is false
when a key stored by explicit length contains a NUL byte (`keyhash_embedded_nul_counterexample`; it was the finding
`C19:keyhash:embedded-nul`, repaired in the tree: next section).  Proved here, and kept as regression theorems: the statement for
NUL-free keys (`_partial`), for every hash function into `[0, size)`, every initial `hashsize/kalloc/salloc > 0` (a power of
two is not needed), across every growth, `Reuse`, `Clone`. -/
section Keyhash
open Keyhash

/-- the key hash refines the insertion-ordered list of distinct keys: same outputs for every history
    (`stored dup idx` / `found idx` / `notfound` / `key k` / `num n`), and it faults exactly when the abstract type
    is undefined (`Get` of an index that was never assigned). -/
theorem keyhash_refines_partial (H : Key → Nat → Nat) (hH : HashOK H) (size kalloc salloc : Nat)
    (h1 : 0 < size) (h2 : 0 < kalloc) (h3 : 0 < salloc) (ops : List Op) (hnul : ∀ op ∈ ops, op.NulFree) :
    run H (create size kalloc salloc) ops = specRun [] ops :=
  run_spec hH ops _ [] (inv_create H size kalloc salloc h1 h2 h3) hnul

/-- no out-of-bounds access, no endless chain walk, whatever the history (histories without `Get`, whose index
    precondition is the caller's; with `Get`s of assigned indices the same follows from `keyhash_refines_partial`) -/
theorem keyhash_never_faults_partial (H : Key → Nat → Nat) (hH : HashOK H) (size kalloc salloc : Nat)
    (h1 : 0 < size) (h2 : 0 < kalloc) (h3 : 0 < salloc) (ops : List Op) (hnul : ∀ op ∈ ops, op.NulFree)
    (hget : ∀ op ∈ ops, ∀ i, op ≠ .get i) :
    (run H (create size kalloc salloc) ops).isSome = true := by
  rw [keyhash_refines_partial H hH size kalloc salloc h1 h2 h3 ops hnul]
  exact specRun_isSome_of_no_get ops [] hget

/-- FULL statement for the C-string API (`n = -1`: `storeStr`, `lookupStr`; any argument bytes, read up to the first NUL):
    no hypothesis on the keys is needed — the restriction only concerns keys passed by explicit length -/
theorem keyhash_refines_cstrings (H : Key → Nat → Nat) (hH : HashOK H) (size kalloc salloc : Nat)
    (h1 : 0 < size) (h2 : 0 < kalloc) (h3 : 0 < salloc) (ops : List Op)
    (hstr : ∀ op ∈ ops, ∀ k, op ≠ .store k ∧ op ≠ .lookup k) :
    run H (create size kalloc salloc) ops = specRun [] ops := by
  apply keyhash_refines_partial H hH size kalloc salloc h1 h2 h3 ops
  intro op hop
  cases op with
  | store k => exact absurd rfl (hstr _ hop k).1
  | lookup k => exact absurd rfl (hstr _ hop k).2
  | _ => trivial

/-- THE COMPLETE PUBLIC API IN ONE HISTORY: `Store`/`Lookup` with `n = -1` on arbitrary bytes (read up to the first NUL),
    `Store` by explicit length of NUL-free keys, `Lookup` by explicit length of ARBITRARY bytes (embedded NULs included),
    `Get`, `GetNumber`, `Reuse`, `Clone`, mixed in any order. The embedded-NUL finding affects exactly one kind of call:
    a `Store` by explicit length whose key contains a NUL (and whatever follows it in that history); everything else
    refines the insertion-ordered map. -/
theorem keyhash_refines_mixed (H : Key → Nat → Nat) (hH : HashOK H) (size kalloc salloc : Nat)
    (h1 : 0 < size) (h2 : 0 < kalloc) (h3 : 0 < salloc) (ops : List Op) (hst : ∀ op ∈ ops, op.StoreNulFree) :
    run H (create size kalloc salloc) ops = specRun [] ops :=
  run_spec_mixed hH ops _ [] (inv_create H size kalloc salloc h1 h2 h3) hst

/-- … and the first offending `Store` itself still ANSWERS as the abstract type does (new key, next index) whenever it
    returns; its damage is to the state: the arena then holds a string that reads back as a proper prefix of the key
    (`keyhash_embedded_nul_counterexample` shows the next answers going wrong) -/
theorem keyhash_nul_store_answer (H : Key → Nat → Nat) (hH : HashOK H) (kh : KH) (keys : List Key) (hi : Inv H kh keys)
    (key : Key) (h0 : (0 : UInt8) ∈ key) (r : KH × Status × Nat) (hr : store H kh key = some r) :
    key ∉ keys ∧ r.2 = (.ok, keys.length) := store_nul_answer hi hH key h0 r hr

/-- the `n = -1` code paths AS WRITTEN — `jenkins_hash`'s string loop, `strlen`, the `strcmp` chain walk of `Lookup` — are
    the buffer paths applied to the bytes before the first NUL (so `storeStr`/`lookupStr` above are the C-string calls) -/
theorem keyhash_string_paths (kh : KH) (k : Key) :
    lookupStrC jenkinsStr kh k = lookup jenkins kh (cstrOf k) ∧
    storeStrC jenkinsStr jenkins kh k = store jenkins kh (cstrOf k) ∧
    (∀ sz, jenkinsStr k sz = jenkins (cstrOf k) sz) ∧ strlen k = (cstrOf k).length ∧
    (∀ m pos, strcmpAt k m pos = memstrcmpAt (cstrOf k) m pos) :=
  ⟨lookupStrC_jenkins kh k, storeStrC_jenkins kh k, jenkinsStr_eq k, strlen_eq k, strcmpAt_eq k⟩

/-- `esl_keyhash_Dump` (and with it `GetNumber`, `Sizeof`, which only read fields) on every reachable table: all its chain
    walks end, no index is out of bounds; it reports the abstract key count and arena use Σ(len+1) -/
theorem keyhash_dump (H : Key → Nat → Nat) (kh : KH) (keys : List Key) (hi : Inv H kh keys) :
    ∃ d, dump kh = some d ∧ d.nkeys = keys.length ∧ d.hashsize = kh.hashsize ∧
      d.sn = (keys.map (fun k => k.length + 1)).sum := dump_spec hi

-- non-vacuity: a mixed history with a by-length lookup of a NUL-containing key, in a table of 3 slots (not a power of two)
example : run jenkins (create 3 1 1)
    [.store [0x61, 0x62], .storeStr [0x61, 0x62, 0, 9], .lookup [0x61, 0, 0x62], .lookup [0x61, 0x62, 0], .lookupStr [0x61, 0x62, 0, 7],
     .store [1], .store [2], .store [3], .store [4], .store [5], .store [6], .store [7], .store [8], .store [9], .lookup [9], .number]
    = some [.stored false 0, .stored true 0, .notfound, .notfound, .found 0,
            .stored false 1, .stored false 2, .stored false 3, .stored false 4, .stored false 5, .stored false 6, .stored false 7,
            .stored false 8, .stored false 9, .found 9, .num 10] := by decide +kernel
example : Op.StoreNulFree (.lookup [0x61, 0, 0x62]) := trivial
example : (dump (create 3 1 1)).map (fun d => (d.nempty, d.maxkeys, d.minkeys)) = some (3, 0, 0) := by decide +kernel

/-- the two APIs agree on NUL-free keys -/
theorem keyhash_cstr_of_nulfree (k : Key) (h : (0 : UInt8) ∉ k) : cstrOf k = k := cstrOf_eq_self k h

/-- … in particular with Jenkins' one-at-a-time hash as written in `jenkins_hash` (signed `char` arithmetic) -/
theorem keyhash_refines_jenkins_partial (size kalloc salloc : Nat) (h1 : 0 < size) (h2 : 0 < kalloc) (h3 : 0 < salloc)
    (ops : List Op) (hnul : ∀ op ∈ ops, op.NulFree) :
    run jenkins (create size kalloc salloc) ops = specRun [] ops :=
  keyhash_refines_partial jenkins jenkins_ok size kalloc salloc h1 h2 h3 ops hnul

/-- what the abstract type answers, spelled out: new key ↦ next index, known key ↦ duplicate + original index -/
theorem spec_store (keys : List Key) (k : Key) :
    specStep keys (.store k) =
      if k ∈ keys then some (keys, .stored true (keys.idxOf k)) else some (keys ++ [k], .stored false keys.length) := rfl

theorem spec_lookup (keys : List Key) (k : Key) :
    specStep keys (.lookup k) = if k ∈ keys then some (keys, .found (keys.idxOf k)) else some (keys, .notfound) := rfl

theorem spec_get (keys : List Key) (i : Nat) : specStep keys (.get i) = (keys[i]?).map fun k => (keys, .key k) := rfl

/-- per-operation form on any state related to an abstract key list by the invariant (which `create` establishes and
    every operation preserves, including the 8-fold `key_upsize`, `Reuse`, `Clone`) -/
theorem keyhash_ops_partial (H : Key → Nat → Nat) (hH : HashOK H) (kh : KH) (keys : List Key) (hi : Inv H kh keys)
    (key : Key) (h0 : (0 : UInt8) ∉ key) :
    (key ∈ keys → store H kh key = some (kh, .edup, keys.idxOf key)) ∧
    (key ∉ keys → ∃ kh', store H kh key = some (kh', .ok, keys.length) ∧ Inv H kh' (keys ++ [key])) ∧
    lookup H kh key = some (if key ∈ keys then (.ok, keys.idxOf key) else (.enotfound, 0)) ∧
    (∀ i, get kh i = keys[i]?) ∧ Inv H (reuse kh) [] ∧ Inv H (clone kh) keys :=
  ⟨(store_spec hi hH key h0).1, (store_spec hi hH key h0).2, lookup_spec hi hH key, get_spec hi, reuse_inv hi, clone_inv hi⟩

/-- the table growth alone: `key_upsize` succeeds and keeps the abstract content -/
theorem keyhash_upsize (H : Key → Nat → Nat) (hH : HashOK H) (kh : KH) (keys : List Key) (hi : Inv H kh keys) :
    ∃ kh', upsize H kh = some kh' ∧ Inv H kh' keys := upsize_spec hi hH

/-- the model computes in `Nat`; the C fields are `int` / `uint32_t`. For every history during which the table never
    holds more than `2^30-1` keys nor more than `2^30-1` arena bytes (Σ (length+1)) — a condition on the ABSTRACT content —
    every reachable state has `salloc, kalloc, hashsize ≤ 2^31-1` and `nkeys, sn ≤ 2^30-1`: none of `kalloc *= 2`,
    `salloc *= 2`, `sn += n+1`, `hashsize << 3`, `3*hashsize` can overflow, so the `Nat` model is the C arithmetic there. -/
theorem keyhash_fields_in_range_partial (H : Key → Nat → Nat) (hH : HashOK H) (size kalloc salloc : Nat)
    (h1 : 0 < size) (h2 : 0 < kalloc) (h3 : 0 < salloc) (hle : salloc ≤ M31 ∧ kalloc ≤ M31 ∧ size ≤ M31)
    (ops : List Op) (hnul : ∀ op ∈ ops, op.NulFree) (hfit : FitsRun [] ops)
    (kh' : KH) (h : finalKh H (create size kalloc salloc) ops = some kh') :
    Within kh' ∧ kh'.nkeys ≤ B30 ∧ kh'.smem.size ≤ B30 :=
  run_within hH ops _ [] (inv_create H size kalloc salloc h1 h2 h3) hnul hle hfit kh' h

example : FitsRun [] [.store [1, 2], .lookup [3], .reuse] := by
  simp [FitsRun, Fits, specStep, B30]

theorem jenkins_in_range : HashOK jenkins := jenkins_ok

/-- counter-example to the full statement at the witness of the former finding: `"a\0b"` stored by length (n=3) twice
    gets two indices and is not found afterwards (for Jenkins, and for any other hash: here also the constant one) -/
theorem keyhash_embedded_nul_counterexample :
    run jenkins (create 2 1 1) [.store [0x61, 0, 0x62], .store [0x61, 0, 0x62], .lookup [0x61, 0, 0x62]]
        = some [.stored false 0, .stored false 1, .notfound] ∧
    specRun [] [.store [0x61, 0, 0x62], .store [0x61, 0, 0x62], .lookup [0x61, 0, 0x62]]
        = some [.stored false 0, .stored true 0, .found 0] ∧
    run (fun _ _ => 0) (create 2 1 1) [.store [0x61, 0, 0x62], .store [0x61, 0, 0x62], .lookup [0x61, 0, 0x62]]
        = some [.stored false 0, .stored false 1, .notfound] := by
  exact ⟨by decide +kernel, by decide +kernel, by decide +kernel⟩

-- non-vacuity: a NUL-free history through a tiny table that grows (1 → 8 slots at the 4th key), with a duplicate,
-- an absent key, Reuse and Clone
example : run jenkins (create 1 1 1)
    [.store [1], .store [2], .store [1], .store [3], .store [4], .lookup [3], .lookup [9], .get 3, .clone, .store [4], .reuse, .store [4], .number]
    = some [.stored false 0, .stored false 1, .stored true 0, .stored false 2, .stored false 3, .found 2, .notfound, .key [4], .done,
            .stored true 3, .done, .stored false 0, .num 1] := by decide +kernel
example : Op.NulFree (.store [1, 2]) := by simp [Op.NulFree]
example : run jenkins (create 1 1 1) [.storeStr [7, 0, 9], .lookupStr [7], .lookupStr [7, 0, 1], .storeStr [7], .get 0]
    = some [.stored false 0, .found 0, .found 0, .stored true 0, .key [7]] := by decide +kernel
example : HashOK (fun _ _ => 0) := fun _ _ h => h
end Keyhash

/-! ## Key hash after the repair of `C19:keyhash:embedded-nul` (`KeyhashFixed.lean`: stored keys delimited by their
offsets — `key_length()`, `key_matches()` — in `Store`, `Lookup` and the re-hash of `key_upsize`)

Which variant the working tree contains is regenerated on every run (`KeyhashVariant.repaired`); the driver runs the matching
model against the code. For the repaired code the FULL statement of the property holds: no hypothesis on the key bytes. -/
section KeyhashRepaired
open Keyhash

/-- FULL STATEMENT: for ANY hash function into `[0, size)`, any initial sizes `> 0`, ANY history over ARBITRARY byte strings
    (embedded NULs, stored by length or as C strings, in any mixture) the table answers exactly as the insertion-ordered list
    of distinct keys — new key ↦ next index, known key ↦ duplicate + original index, lookup ↦ index / not found, `Get i` ↦ the
    i-th key, `Reuse`, `Clone` — across every 8-fold growth and both reallocations, with no out-of-bounds access and no
    endless chain walk (`none`), and it is undefined exactly where the abstract type is (`Get` of an unassigned index). -/
theorem keyhash_refines (H : Key → Nat → Nat) (hH : HashOK H) (size kalloc salloc : Nat)
    (h1 : 0 < size) (h2 : 0 < kalloc) (h3 : 0 < salloc) (ops : List Op) :
    runF H (create size kalloc salloc) ops = specRun [] ops :=
  runF_spec hH ops _ [] (invF_create H size kalloc salloc h1 h2 h3)

theorem keyhash_never_faults (H : Key → Nat → Nat) (hH : HashOK H) (size kalloc salloc : Nat)
    (h1 : 0 < size) (h2 : 0 < kalloc) (h3 : 0 < salloc) (ops : List Op) (hget : ∀ op ∈ ops, ∀ i, op ≠ .get i) :
    (runF H (create size kalloc salloc) ops).isSome = true := by
  rw [keyhash_refines H hH size kalloc salloc h1 h2 h3 ops]
  exact specRun_isSome_of_no_get ops [] hget

theorem keyhash_refines_jenkins (size kalloc salloc : Nat) (h1 : 0 < size) (h2 : 0 < kalloc) (h3 : 0 < salloc) (ops : List Op) :
    runF jenkins (create size kalloc salloc) ops = specRun [] ops :=
  keyhash_refines jenkins jenkins_ok size kalloc salloc h1 h2 h3 ops

/-- per operation, on any state related to an abstract key list by the invariant `InvF` (arena = the keys, each followed
    by one NUL; `key_offset[i]` = where key `i` starts; chains = buckets) — ANY key bytes -/
theorem keyhash_ops (H : Key → Nat → Nat) (hH : HashOK H) (kh : KH) (keys : List Key) (hi : InvF H kh keys) (key : Key) :
    (key ∈ keys → storeF H kh key = some (kh, .edup, keys.idxOf key)) ∧
    (key ∉ keys → ∃ kh', storeF H kh key = some (kh', .ok, keys.length) ∧ InvF H kh' (keys ++ [key])) ∧
    lookupF H kh key = some (if key ∈ keys then (.ok, keys.idxOf key) else (.enotfound, 0)) ∧
    (∀ i, getF kh i = keys[i]?) ∧ InvF H (reuse kh) [] ∧ InvF H (clone kh) keys ∧
    (∃ kh', upsizeF H kh = some kh' ∧ InvF H kh' keys) := by
  refine ⟨(storeF_spec_full hi hH key).1, fun hm => ?_, lookupF_spec hi hH key, getF_spec hi, reuse_invF hi, clone_invF hi,
    upsizeF_spec hi hH⟩
  obtain ⟨kh', a, b, _⟩ := (storeF_spec_full hi hH key).2 hm
  exact ⟨kh', a, b⟩

/-- `key_length(kh, i)` is the length of key `i`, `key_matches` is equality of byte strings, and the bytes `key_upsize`
    re-hashes are the key — on every reachable table -/
theorem keyhash_key_length (H : Key → Nat → Nat) (kh : KH) (keys : List Key) (hi : InvF H kh keys) (i : Nat) (k : Key)
    (hk : keys[i]? = some k) :
    keyLen kh i = some (offOf keys i, (k.length : Int)) ∧ (∀ key, keyMatches kh i key = some (decide (key = k))) ∧
    keyBytes kh i = some k ∧ offOf keys i + k.length + 1 ≤ kh.smem.size := by
  refine ⟨keyLen_inv hi.arenaOK i k hk, keyMatches_inv hi.arenaOK i k hk, keyBytes_inv hi.arenaOK i k hk, ?_⟩
  have := offOf_bound keys i k hk
  have hsz : kh.smem.size = (flat keys).length := by rw [← hi.arena]; simp
  omega

/-- `esl_keyhash_Get(kh, i)` for an assigned index, read as a C string by a caller who does not know the length: the read
    stays inside the key's own `length + 1` arena bytes and yields the key up to its first NUL (the whole key iff NUL-free);
    an index that was never assigned is outside the function's contract (`none`) -/
theorem keyhash_get_cstring (H : Key → Nat → Nat) (kh : KH) (keys : List Key) (hi : InvF H kh keys) (i : Nat) :
    get kh i = (keys[i]?).map cstrOf := get_cstr_spec hi i

/-- the `n = -1` calls of the repaired code as written (string hash loop, `n = strlen(key)`, then the buffer code) are the
    buffer calls on the bytes before the first NUL -/
theorem keyhash_string_paths_repaired (kh : KH) (k : Key) :
    lookupStrCF jenkinsStr kh k = lookupF jenkins kh (cstrOf k) ∧
    storeStrCF jenkinsStr jenkins kh k = storeF jenkins kh (cstrOf k) :=
  ⟨lookupStrCF_eq jenkins jenkinsStr jenkinsStr_eq kh k, storeStrCF_eq jenkins jenkinsStr jenkinsStr_eq kh k⟩

theorem keyhash_dump_repaired (H : Key → Nat → Nat) (kh : KH) (keys : List Key) (hi : InvF H kh keys) :
    ∃ d, dump kh = some d ∧ d.nkeys = keys.length ∧ d.hashsize = kh.hashsize ∧
      d.sn = (keys.map (fun k => k.length + 1)).sum := dumpF_spec hi

/-- no `int` / `uint32_t` overflow while the ABSTRACT content stays below 2^30 keys / arena bytes — any key bytes -/
theorem keyhash_fields_in_range (H : Key → Nat → Nat) (hH : HashOK H) (size kalloc salloc : Nat)
    (h1 : 0 < size) (h2 : 0 < kalloc) (h3 : 0 < salloc) (hle : salloc ≤ M31 ∧ kalloc ≤ M31 ∧ size ≤ M31)
    (ops : List Op) (hfit : FitsRun [] ops) (kh' : KH) (h : finalKhF H (create size kalloc salloc) ops = some kh') :
    Within kh' ∧ kh'.nkeys ≤ B30 ∧ kh'.smem.size ≤ B30 :=
  runF_within hH ops _ [] (invF_create H size kalloc salloc h1 h2 h3) hle hfit kh' h

/-- the witness of the former finding, on the repaired code: `"a\0b"` stored by length twice is one key, found again (also
    after the growth 2 → 16 slots re-hashed it), distinct from `"a"` and from `"a\0c"`; its C-string view is `"a"` -/
theorem keyhash_embedded_nul_repaired :
    runF jenkins (create 2 1 1)
      [.store [0x61, 0, 0x62], .store [0x61, 0, 0x62], .lookup [0x61, 0, 0x62], .lookupStr [0x61], .store [0x61, 0, 0x63], .store [0x61],
       .store [1], .store [2], .store [3], .store [4], .lookup [0x61, 0, 0x62], .lookup [0x61, 0, 0x63], .lookupStr [0x61, 0, 0x62], .get 0]
    = some [.stored false 0, .stored true 0, .found 0, .notfound, .stored false 1, .stored false 2,
            .stored false 3, .stored false 4, .stored false 5, .stored false 6, .found 0, .found 1, .found 2, .key [0x61, 0, 0x62]] ∧
    (finalKhF jenkins (create 2 1 1) [.store [0x61, 0, 0x62], .store [1], .store [2], .store [3], .store [4], .store [5], .store [6]]).map
      (fun kh => (kh.hashsize, get kh 0)) = some (16, some [0x61]) := by
  exact ⟨by decide +kernel, by decide +kernel⟩

example : InvF jenkins (create 3 1 1) [] := invF_create _ _ _ _ (by decide) (by decide) (by decide)
end KeyhashRepaired

/-! ## Integer heap -/
section HeapS
open Heap

/-- `esl_heap_IInsert` on a valid heap: no fault, still a valid heap (heap order, `n ≤ nalloc`), multiset + the value -/
theorem heap_insert (h : Heap.Heap) (v : Int) (hi : Heap.Inv h) :
    ∃ h', insert h v = some h' ∧ Heap.Inv h' ∧ h'.isMax = h.isMax ∧ h'.data.toList.Perm (v :: h.data.toList) :=
  insert_spec h v hi

/-- `esl_heap_IExtractTop` on a non-empty valid heap: returns an element no other element is better than (the minimum,
    resp. maximum), removes exactly it, leaves a valid heap; on an empty heap: `eslEOD`, value 0 -/
theorem heap_extract (h : Heap.Heap) (hi : Heap.Inv h) :
    (h.data.size = 0 → extractTop h = some (h, false, 0)) ∧
    (0 < h.data.size → ∃ h' v, extractTop h = some (h', true, v) ∧ Heap.Inv h' ∧ h'.isMax = h.isMax ∧
        (v :: h'.data.toList).Perm h.data.toList ∧ (∀ x ∈ h.data.toList, ¬ better h.isMax x v = true)) :=
  ⟨extractTop_empty h, extractTop_spec h hi⟩

/-- `esl_heap_IExtractTop(hp, NULL)` (delete the top value without retrieving it): on a non-empty valid heap it deletes
    exactly a best element; on an empty heap it returns `eslEOD` and leaves the heap alone (no store through NULL) -/
theorem heap_extract_null (h : Heap.Heap) (hi : Heap.Inv h) :
    (h.data.size = 0 → extractTopNull h = some (h, false)) ∧
    (0 < h.data.size → ∃ h' v, extractTopNull h = some (h', true) ∧ Heap.Inv h' ∧ h'.isMax = h.isMax ∧
      (v :: h'.data.toList).Perm h.data.toList ∧ (∀ x ∈ h.data.toList, ¬ better h.isMax x v = true)) := by
  constructor
  · intro he
    simp [extractTopNull, extractTop_empty h he]
  · intro hne
    obtain ⟨h', v, h1, h2, h3, h4, h5⟩ := extractTop_spec h hi hne
    exact ⟨h', v, by simp [extractTopNull, h1], h2, h3, h4, h5⟩

/-- regression: the code before the fix (`*opt_val = 0` with `opt_val == NULL` in the empty-heap branch) faults -/
theorem heap_extract_null_unguarded_faults (isMax : Bool) : extractTopNullUnguarded (create isMax) = none := by
  simp [extractTopNullUnguarded, create]

/-- FOR EVERY HISTORY (any interleaving of insertions, extractions with or without a result pointer, peeks, counts,
    reuse), min and max heaps: no fault, and every answer is the one of the abstract priority queue (the multiset kept as
    a best-first sorted list: extraction returns its head, i.e. the minimum resp. maximum of what is currently inside) -/
theorem heap_history (isMax : Bool) (ops : List HOp) : runH (create isMax) ops = some (specRunH isMax [] ops) :=
  heap_history_refines isMax ops

/-- extracting everything yields the sorted multiset of what was inserted (min-heap: ascending, max-heap: descending),
    for every input list (duplicates, sorted, reverse sorted, …) -/
theorem heap_sorts (isMax : Bool) (vs : List Int) :
    ∃ h l, insertAll (create isMax) vs = some h ∧ drain h.data.size h = some l ∧ l.Perm vs ∧
      (if isMax then l.Pairwise (· ≥ ·) else l.Pairwise (· ≤ ·)) := by
  obtain ⟨h, l, h1, h2, h3, h4⟩ := heapsort_spec isMax vs
  refine ⟨h, l, h1, h2, h3, ?_⟩
  cases isMax
  · simpa using (sortedBy_min l).mp h4
  · simpa using (sortedBy_max l).mp h4

/-- DUPLICATE VALUES are kept with their multiplicity: `n` insertions of the same value come out as `n` copies
    (and mixed with other values each multiplicity is preserved: `l.Perm vs` in `heap_sorts`, the multiset in `heap_history`) -/
theorem heap_duplicates (isMax : Bool) (v : Int) (n : Nat) :
    ∃ h l, insertAll (create isMax) (List.replicate n v) = some h ∧ drain h.data.size h = some l ∧ l = List.replicate n v := by
  obtain ⟨h, l, h1, h2, h3, _⟩ := heapsort_spec isMax (List.replicate n v)
  exact ⟨h, l, h1, h2, List.perm_replicate.mp h3⟩

/-- … from any valid heap state (any interleaving of inserts and extractions before) -/
theorem heap_drain (h : Heap.Heap) (hi : Heap.Inv h) :
    ∃ l, drain h.data.size h = some l ∧ l.Perm h.data.toList ∧ SortedBy h.isMax l := drain_spec h hi

/-- the `int nalloc` of a heap is the initial 128 or at most twice the largest element count: no overflow of
    `nalloc*2` as long as the heap holds fewer than 2^30 elements -/
theorem heap_nalloc_in_range (h h' : Heap.Heap) (v : Int) (B : Nat) (hi : insert h v = some h')
    (hs : h.data.size ≤ B) (hn : h.nalloc ≤ max 128 (2 * B)) : h'.nalloc ≤ max 128 (2 * B) :=
  Heap.insert_nalloc_le h h' v B hi hs hn

/-- `heap_grow` (the doubling reallocation) preserves the heap: same cells, same order, same direction, the invariant
    holds with the doubled `nalloc`, and the cell the pending insertion writes (`idata[n]`) is inside the new allocation;
    `IInsert` on a full heap is exactly `heap_grow` followed by the insertion, and `nalloc` changes at no other time -/
theorem heap_grow (h : Heap.Heap) (hi : Heap.Inv h) :
    Heap.Inv (grow h) ∧ (grow h).data = h.data ∧ (grow h).isMax = h.isMax ∧ (grow h).nalloc = 2 * h.nalloc ∧
      h.data.size < (grow h).nalloc ∧
    (∀ v, h.data.size = h.nalloc → insert h v = insert (grow h) v) ∧
    (∀ v h', insert h v = some h' → h'.nalloc = if h.data.size = h.nalloc then 2 * h.nalloc else h.nalloc) := by
  obtain ⟨a, b, c, d, e⟩ := grow_inv h hi
  exact ⟨a, b, c, d, e, fun v hf => insert_full_eq h v hi hf, fun v h' hh => insert_nalloc h h' v hh⟩

/-- `esl_heap_Validate` accepts exactly the heap-ordered arrays -/
theorem heap_validate (h : Heap.Heap) :
    validate h = true ↔ (∀ i, 0 < i → i < h.data.size → ¬ better h.isMax (h.data[i]!) (h.data[parent i]!) = true) :=
  validate_iff h

example : Heap.Inv (create true) := inv_create true
example : (insertAll (create false) [5, 3, 8, 1, 9, 2, 3]).bind (fun h => drain h.data.size h) = some [1, 2, 3, 3, 5, 8, 9] := by
  decide +kernel
end HeapS


/-! ### at the bound: the `int` / `uint32_t` arithmetic of `esl_keyhash_Store` and `key_upsize` as C computes it

`keyhash_fields_in_range` excludes overflow BELOW `2^30 - 1` keys / arena bytes. Here the growth code is modelled in the C
types (`Keyhash.growC`, `doubleC`: `int`; `upsize_*`: `uint32_t`), for both variants of the code: `g = false` is the unguarded
doubling (`kh->salloc *= 2`, the code before 6d58328), `g = true` the one guarded by `if (kh->salloc > INT_MAX/2) ESL_XEXCEPTION(eslEMEM, …)`
(the tree's: `keyhash_growth_in_tree`). -/
section KeyhashAtBound
open Keyhash

/-- the arena growth loop, every start value `0 < salloc ≤ INT_MAX` and every need: EITHER a doubling `salloc·2^k ≤ INT_MAX`
    covers the need — then the loop ends at the least such doubling, no overflow, exactly where the `Nat` model ends — OR the loop
    reaches the last representable doubling (still `< need`) and executes `salloc *= 2` there: signed `int` overflow in the unguarded
    code (undefined behaviour; NOT the documented `eslEMEM`), `eslEMEM` with `salloc` unchanged in the guarded code -/
theorem keyhash_at_bound (g : Bool) (need s : Nat) (h0 : 0 < s) (h1 : s ≤ INT_MAX) :
    (∃ k, growC g need 32 s = .ok (s * 2 ^ k) ∧ growTo need 32 s = some (s * 2 ^ k) ∧ need ≤ s * 2 ^ k ∧ s * 2 ^ k ≤ INT_MAX ∧
      ∀ j, j < k → s * 2 ^ j < need) ∨
    (∃ k, growC g need 32 s = (if g then .emem (s * 2 ^ k) else .overflow (s * 2 ^ k)) ∧ s * 2 ^ k < need ∧
      s * 2 ^ k ≤ INT_MAX ∧ INT_MAX < s * 2 ^ (k + 1)) := by
  have hbig : INT_MAX < s * 2 ^ 32 := by
    have : 2 ^ 32 ≤ s * 2 ^ 32 := Nat.le_mul_of_pos_left _ h0
    simp only [INT_MAX]; omega
  rcases growC_char g need 32 s h0 h1 hbig with ⟨k, e1, e2, e3, e4⟩ | h
  · exact Or.inl ⟨k, e1, growC_ok_model g need 32 s _ e1, e2, e3, e4⟩
  · exact Or.inr h

/-- no overflow and no throw whenever some representable doubling covers the need (for the default table, `salloc` =
    2048·2^k: whenever the arena needs at most `2^30` bytes) -/
theorem keyhash_below_bound (g : Bool) (need s : Nat) (h0 : 0 < s) (h1 : s ≤ INT_MAX)
    (hfit : ∃ k, need ≤ s * 2 ^ k ∧ s * 2 ^ k ≤ INT_MAX) :
    ∃ r, growC g need 32 s = .ok r ∧ growTo need 32 s = some r ∧ need ≤ r ∧ r ≤ INT_MAX := growC_ok_of_fits g need s h0 h1 hfit

/-- THE DEFECT AT THE BOUND (reachable with ~3 GiB; repaired in the tree by 6d58328):
    the default table (`salloc` 2048) asked for one byte more than `2^30` arena bytes doubles 19 times and then executes
    `kh->salloc *= 2` with `salloc = 2^30` — signed overflow; the guarded code throws `eslEMEM` there -/
theorem keyhash_at_bound_default :
    growC false (2 ^ 30 + 1) 32 2048 = .overflow (2 ^ 30) ∧ growC true (2 ^ 30 + 1) 32 2048 = .emem (2 ^ 30) ∧
    growC false (2 ^ 30) 32 2048 = .ok (2 ^ 30) ∧ growC true (2 ^ 30) 32 2048 = .ok (2 ^ 30) := by decide +kernel

/-- the index arrays (`kalloc *= 2` when `nkeys == kalloc`): exact up to `kalloc = 2^30 - 1`; from `2^30` on signed overflow
    unguarded / `eslEMEM` guarded (needs 2^30 keys, i.e. ≥ 9 GiB: out of reach of the differential run, stated only) -/
theorem keyhash_kalloc_at_bound (g : Bool) (kalloc : Nat) :
    (kalloc * 2 ≤ INT_MAX → doubleC g kalloc = .ok (kalloc * 2)) ∧
    (INT_MAX < kalloc * 2 → doubleC g kalloc = if g then .emem kalloc else .overflow kalloc) := doubleC_char g kalloc

/-- `uint32_t` side: below the growth stop `3*hashsize` and `hashsize << 3` do not wrap (the `Nat` model's test and new size
    are the C ones; the new size stays `< 2^31`, so the `int` loop counter of `key_upsize` reaches it); at `hashsize ≥ 2^28`
    `key_upsize` returns `eslOK` without growing ("quasi-success"), so a wrapped comparison there changes nothing: the table
    keeps working with longer chains, which `keyhash_refines` covers (it holds for ANY table size) -/
theorem keyhash_hashsize_at_bound (h : UInt32) (hh : h.toNat < 2 ^ 28) (H : Key → Nat → Nat) (kh : KH) :
    (3 * h).toNat = 3 * h.toNat ∧ (h <<< 3).toNat = 8 * h.toNat ∧ 8 * h.toNat < 2 ^ 31 ∧
    (2 ^ 28 ≤ kh.hashsize → upsize H kh = some kh) :=
  ⟨upsize_trigger_exact h hh, (upsize_shift_exact h hh).1, (upsize_shift_exact h hh).2, upsize_stops H kh⟩


/-- THE TREE'S CODE: `Keyhash.growthGuarded` is regenerated from the working tree's `esl_keyhash_Store` on every run (`true` since
    6d58328: each doubling is preceded by `if (… > INT_MAX / 2) ESL_XEXCEPTION(eslEMEM, …)`). For the variant in the tree, every
    start value and every need: the arena loop ends at the least covering doubling exactly as the `Nat` model, or — no
    representable doubling covers the need — it stops at the last representable one with `eslEMEM` and `salloc` unchanged (guarded
    tree) / with a signed overflow (a tree without the guard); the same for the index arrays -/
theorem keyhash_growth_in_tree (need s : Nat) (h0 : 0 < s) (h1 : s ≤ INT_MAX) (kalloc : Nat) :
    ((∃ k, growC growthGuarded need 32 s = .ok (s * 2 ^ k) ∧ growTo need 32 s = some (s * 2 ^ k) ∧ need ≤ s * 2 ^ k ∧
        s * 2 ^ k ≤ INT_MAX ∧ ∀ j, j < k → s * 2 ^ j < need) ∨
     (∃ k, growC growthGuarded need 32 s = (if growthGuarded then .emem (s * 2 ^ k) else .overflow (s * 2 ^ k)) ∧ s * 2 ^ k < need ∧
        s * 2 ^ k ≤ INT_MAX ∧ INT_MAX < s * 2 ^ (k + 1))) ∧
    (kalloc * 2 ≤ INT_MAX → doubleC growthGuarded kalloc = .ok (kalloc * 2)) ∧
    (INT_MAX < kalloc * 2 → doubleC growthGuarded kalloc = if growthGuarded then .emem kalloc else .overflow kalloc) ∧
    (growthGuarded = true → ∀ r, growC growthGuarded need 32 s ≠ .overflow r ∧ doubleC growthGuarded kalloc ≠ .overflow r) :=
  ⟨keyhash_at_bound growthGuarded need s h0 h1, (doubleC_char growthGuarded kalloc).1, (doubleC_char growthGuarded kalloc).2,
    fun hg r => by rw [hg]; exact ⟨growC_guarded_no_overflow need 32 s r, doubleC_guarded_no_overflow kalloc r⟩⟩

/-- the guarded code (the one in the tree) never executes an overflowing doubling, for any start value, need and fuel: the
    outcome is a covering `salloc` or the documented `eslEMEM` -/
theorem keyhash_growth_guarded_never_overflows (need fuel s kalloc r : Nat) :
    growC true need fuel s ≠ .overflow r ∧ doubleC true kalloc ≠ .overflow r :=
  ⟨growC_guarded_no_overflow need fuel s r, doubleC_guarded_no_overflow kalloc r⟩

-- non-vacuity of `keyhash_below_bound`'s hypothesis: need 5000 from 2048 is covered by 2048·2^2
example : ∃ k, 5000 ≤ 2048 * 2 ^ k ∧ 2048 * 2 ^ k ≤ INT_MAX := ⟨2, by decide, by decide⟩
end KeyhashAtBound


/-! ### `esl_keyhash_Reuse` empties EVERY slot, at any fill -/
section KeyhashReuse
open Keyhash

/-- for ANY table state (any fill: 0 keys, fewer than hashsize/4, more than 3·hashsize; any stale content of `nxt[]`,
    `key_offset[]`, the arena): after `esl_keyhash_Reuse` the table has its `hashsize` slots, EVERY one is `-1`, `nkeys = 0`,
    `sn = 0`; a direct walk over `hashtable[]` (`slotStats`, the driver/harness op `kh_slots`) finds no used slot, no chained
    record, no pointer outside `[0,nkeys)`, no cycle -/
theorem keyhash_reuse_empties_every_slot (kh : KH) :
    (reuse kh).hashtable.size = kh.hashsize ∧ (reuse kh).hashsize = kh.hashsize ∧ (reuse kh).nkeys = 0 ∧
    (reuse kh).smem.size = 0 ∧ (∀ i, i < kh.hashsize → (reuse kh).hashtable[i]? = some none) ∧
    slotStats (reuse kh) = SlotStats.zero :=
  ⟨(reuse_slots_empty kh).1, (reuse_slots_empty kh).2.1, (reuse_slots_empty kh).2.2.1, (reuse_slots_empty kh).2.2.2.1,
    (reuse_slots_empty kh).2.2.2.2, reuse_slotStats kh⟩

/-- … hence after `Reuse` a lookup of any key (any bytes, embedded NULs included, any hash function into the table) answers
    `eslENOTFOUND` at once, reading no record: whatever `nxt[]` and the arena still hold cannot be found again and no chain walk
    can run on. (What the re-stored keys then get — 0, 1, 2, … — is `keyhash_refines`, whose histories contain `Reuse`.) -/
theorem keyhash_reuse_lookup_immediate (H : Key → Nat → Nat) (hH : HashOK H) (kh : KH) (h0 : 0 < kh.hashsize) (key : Key) :
    lookupF H (reuse kh) key = some (.enotfound, 0) := reuse_lookup_notfound H hH kh h0 key

-- non-vacuity: a 4-slot table whose slot 2 is occupied (a stale chain head) is clean after Reuse
example : slotStats (reuse { (create 4 2 8) with hashtable := #[none, none, some 0, none], nkeys := 1, nxt := #[none, none] }) = SlotStats.zero := by decide +kernel
example : slotStats { (create 4 2 8) with hashtable := #[none, none, some 0, none], nkeys := 0, nxt := #[some 0, none] } = ⟨1, 0, 0, 1⟩ := by decide +kernel
end KeyhashReuse

/-! ## Red-black tree (insertion with recolouring and the four rotations as coded; keys: any integers) -/
section RB
open RedBlack RedBlack.Tree

/-- after every insertion: never `esl_fatal`; BST order (in-order keys strictly increasing); root black; no red node
    with a red child; equal black height on all paths; the key is present; nothing else changes; a duplicate is
    refused (`NULL`) and leaves the tree untouched -/
theorem rb_insert (t : Tree Int) (k : Int) (h : WF t) :
    ∃ t' b, Tree.insert t k = some (t', b) ∧ WF t' ∧ (b = false ↔ k ∈ toList t) ∧ (k ∈ toList t → t' = t) ∧
      (∀ x, x ∈ toList t' ↔ x = k ∨ x ∈ toList t) := insert_spec t k h

/-- for every insertion history from the empty tree: invariants hold and every inserted distinct key is present -/
theorem rb_history (ks : List Int) : ∃ t, insertAll .nil ks = some t ∧ WF t ∧ ∀ x, x ∈ toList t ↔ x ∈ ks :=
  insertAll_spec ks

/-- the invariant, unfolded: sorted in-order list, and `Balanced t black n` (root black, no red-red, black height n) -/
theorem rb_wf_iff (t : Tree Int) : WF t ↔ ((toList t).Pairwise (· < ·) ∧ ∃ n, Balanced t .black n) := Iff.rfl

/-- balance: the height is at most 2·log2(size+1) -/
theorem rb_height (t : Tree Int) (h : WF t) : 2 ^ ((height t + 1) / 2) ≤ size t + 1 := WF.height_le h

theorem rb_lookup (t : Tree Int) (h : WF t) (k : Int) : lookup k t = true ↔ k ∈ toList t := lookup_iff t h.1 k

/-- `convert_to_sorted_linked`: from `head` along `small` the keys come in strictly descending order and are exactly the
    inserted distinct keys (so from `tail` along `large`: ascending) -/
theorem rb_sorted_linked (ks : List Int) :
    ∃ t, insertAll .nil ks = some t ∧ (toLinkedDesc t []).Pairwise (· > ·) ∧ ∀ x, x ∈ toLinkedDesc t [] ↔ x ∈ ks :=
  insertAll_linked ks

theorem rb_linked_is_reverse_inorder (t : Tree Int) : toLinkedDesc t [] = (toList t).reverse := by
  simpa using toLinkedDesc_eq t []

example : WF (.nil : Tree Int) := wf_nil
-- a non-trivial tree satisfying the hypothesis of `rb_insert`
example : ∃ t, insertAll (.nil : Tree Int) [1, 2, 3] = some t ∧ WF t ∧ toList t = [1, 2, 3] := by
  obtain ⟨t, h1, h2, _⟩ := rb_history [1, 2, 3]
  have h : (insertAll (.nil : Tree Int) [1, 2, 3]).map toList = some [1, 2, 3] := by decide +kernel
  rw [h1] at h
  exact ⟨t, h1, h2, by simpa using h⟩
example : (insertAll (.nil : Tree Int) [5, 3, 8, 1, 4, 7, 9, 2, 6, 3]).map toList = some [1, 2, 3, 4, 5, 6, 7, 8, 9] := by decide +kernel
/-- lookup after ANY insertion history (duplicates, any order) finds exactly the inserted keys: the tree refines the
    sorted association list / set of the distinct inserted keys -/
theorem rb_lookup_history (ks : List Int) :
    ∃ t, insertAll .nil ks = some t ∧ (∀ k, lookup k t = true ↔ k ∈ ks) ∧ (toList t).Pairwise (· < ·) := by
  obtain ⟨t, h1, h2, h3⟩ := insertAll_spec ks
  exact ⟨t, h1, fun k => (lookup_iff t h2.1 k).trans (h3 k), h2.1⟩

/-- FOR EVERY HISTORY of insertions and lookups (duplicates, any order, lookups of absent keys in between): no `esl_fatal`,
    `insert` answers "inserted" exactly for new keys (NULL for duplicates), `lookup` finds exactly the keys inserted so far -/
theorem rb_ops_history (ops : List RedBlack.RbOp) : RedBlack.runRb .nil ops = some (RedBlack.specRunRb [] ops) :=
  RedBlack.runRb_spec ops .nil [] wf_nil (fun x => by simp [toList])

example : RedBlack.runRb .nil [.insert 5, .lookup 5, .lookup 3, .insert 3, .insert 5, .lookup 3]
    = some [true, true, false, true, false, true] := by decide +kernel
end RB

/-! ## Red-black tree, pointer level (`RedBlackPtr`): the records, their `small`/`large`/`parent` pointers, the node pool -/
section RBPtr
open RedBlackPtr

/-- `esl_red_black_doublekey_pool_Create(number)` followed by `number` takes from the free list: the `number` records of
    the block, pairwise DISTINCT, none of them in use before, then the free list is `NULL` — no record is handed out twice -/
theorem rb_pool_never_twice (st : Store) (number : Nat) (hn : 0 < number) :
    (poolCreate st number).2 = some st.size ∧
    ∃ l, takeN (poolCreate st number).1 number (poolCreate st number).2 = some (l, none) ∧
      l = List.range' st.size number ∧ l.Nodup ∧ l.length = number ∧ ∀ x ∈ l, st.size ≤ x := pool_take_all st number hn

/-- the pointer loop of `esl_red_black_doublekey_lookup` on any tree laid out in the store (`Repr`): it terminates without
    touching anything outside the store, answers as the lookup on the abstract tree, and the record it returns is a record
    of the tree carrying that key -/
theorem rb_ptr_lookup (st : Store) (t : Shape) (p : Ptr) (key : Int) (fuel : Nat) (h : Repr st t p) (hf : t.height ≤ fuel) :
    ∃ r, RedBlackPtr.lookup st key fuel p = some r ∧ r.isSome = RedBlack.Tree.lookup key (absTree st t) ∧
      (∀ i, r = some i → i ∈ t.ids ∧ ∃ nd, rd st i = some nd ∧ nd.key = key) := lookup_repr key fuel h hf

/-- `esl_red_black_doublekey_convert_to_sorted_linked` on ANY tree laid out in the store over distinct records (no balance
    or order assumption): it returns `eslOK`; `head` is the last, `tail` the first record in in-order; walking from `tail`
    along `large` visits exactly the in-order sequence of records, walking from `head` along `small` its reverse;
    consecutive records point at each other (`a.large = b ∧ b.small = a`: prev/next are inverse), both ends are
    NULL-terminated; keys, colours, parents and every record outside the tree are untouched, and the keys along the list
    are the in-order keys of the tree (ascending whenever the tree was a search tree) -/
theorem rb_convert_doubly_linked (st : Store) (t : Shape) (root : Nat) (hrep : Repr st t (some root)) (hnd : t.ids.Nodup) :
    ∃ st' head tail, convert st (some root) = some (some (st', some head, some tail)) ∧
      t.ids.getLast? = some head ∧ t.ids.head? = some tail ∧
      follow st' (·.large) (st'.size + 1) (some tail) = t.ids ∧
      follow st' (·.small) (st'.size + 1) (some head) = t.ids.reverse ∧
      Linked st' t.ids ∧ smallOf st' tail = some none ∧ largeOf st' head = some none ∧
      SameData st st' ∧ (∀ j, j ∉ t.ids → rd st' j = rd st j) ∧
      t.ids.filterMap (fun i => (rd st' i).map (·.key)) = RedBlack.Tree.toList (absTree st t) := convert_spec hrep hnd

/-- … and the library's own checker `esl_red_black_doublekey_linked_list_test(&head, &tail)` (both walks, the order tests,
    the back-pointer tests, the two counts) returns `eslOK` on the result whenever the tree was a search tree -/
theorem rb_convert_passes_list_test (st : Store) (t : Shape) (root : Nat) (hrep : Repr st t (some root)) (hnd : t.ids.Nodup)
    (hbst : (RedBlack.Tree.toList (absTree st t)).Pairwise (· < ·)) :
    ∃ st' head tail, convert st (some root) = some (some (st', some head, some tail)) ∧
      linkedListTest st' (some head) (some tail) = some .ok := convert_then_test hrep hnd hbst

/-- a NULL tree is refused with `eslFAIL` -/
theorem rb_convert_null (st : Store) : convert st none = some none := rfl

-- non-vacuity: a three-record tree (root 0 with key 5, small child 1 with key 3, large child 2 with key 8)
example : Repr (#[⟨5, .black, none, some 1, some 2⟩, ⟨3, .red, some 0, none, none⟩, ⟨8, .red, some 0, none, none⟩] : Store)
    (.node (.node .nil 1 .nil) 0 (.node .nil 2 .nil)) (some 0) := by
  refine ⟨rfl, _, rfl, ⟨rfl, _, rfl, rfl, rfl⟩, ⟨rfl, _, rfl, rfl, rfl⟩⟩
example : (convert (#[⟨5, .black, none, some 1, some 2⟩, ⟨3, .red, some 0, none, none⟩, ⟨8, .red, some 0, none, none⟩] : Store) (some 0)).map
    (fun r => r.map fun (st, h, t) => (h, t, follow st (·.large) 4 t, follow st (·.small) 4 h))
    = some (some (some 2, some 1, [1, 0, 2], [2, 0, 1])) := by decide +kernel
/-- the descent loop of `esl_red_black_doublekey_insert` on any tree laid out in the store: it ends inside the tree; it answers
    "an equal key exists" exactly when the lookup on the abstract tree finds the key; otherwise it stops at a record of the
    tree whose child pointer on the key's side is `NULL` (there the new record is attached) -/
theorem rb_ptr_descend (st : Store) (key : Int) (a : Shape) (i : Nat) (b : Shape) (fuel : Nat)
    (h : Repr st (.node a i b) (some i)) (hf : (Shape.node a i b).height ≤ fuel) :
    ∃ r, descend st key fuel i = some r ∧ (r = none ↔ RedBlack.Tree.lookup key (absTree st (.node a i b)) = true) ∧
      (∀ p, r = some p → p ∈ (Shape.node a i b).ids ∧ ∃ nd, rd st p = some nd ∧ key ≠ nd.key ∧
        (if key > nd.key then nd.large = none else nd.small = none)) := descend_repr key fuel h hf

/-- DUPLICATE KEY, exactly as the C function answers it: `insert(tree, node)` with a key the tree already holds returns
    `NULL`; no record of the tree is written (same shape, colours, keys, pointers; the caller's root stays valid); the only
    write is the reset of the offered record itself (red, no children), which the caller still owns (and may give back to
    its pool: `rb_pool_never_twice`) -/
theorem rb_ptr_insert_duplicate (st : Store) (a : Shape) (root : Nat) (b : Shape) (node : Nat) (nn : Node)
    (hrep : Repr st (.node a root b) (some root)) (hnd : (Shape.node a root b).ids.Nodup)
    (hnode : node ∉ (Shape.node a root b).ids) (hr : rd st node = some nn)
    (hdup : RedBlack.Tree.lookup nn.key (absTree st (.node a root b)) = true) :
    ∃ st', insert st (some root) node = some (st', none) ∧ (∀ j, j ≠ node → rd st' j = rd st j) ∧
      rd st' node = some { nn with color := .red, small := none, large := none } ∧
      Repr st' (.node a root b) (some root) ∧ absTree st' (.node a root b) = absTree st (.node a root b) :=
  insert_duplicate hrep hnd hnode hr hdup

/-- NEW KEY, BLACK PARENT (the path of `insert` that needs no rebalancing): for a key the tree does not hold the descent ends
    at a record `p` of the tree with a `NULL` child pointer on the key's side; if `p` is black, `insert` returns the unchanged
    root, the store lays out the tree with the record hung there (`attachShape`), exactly the records `node` (red leaf whose
    parent is `p`) and `p` (one new child pointer) were written. With a red `p` the function goes on into `rebalance`: that path,
    and the whole function, is `rb_ptr_insert_refines` below. -/
theorem rb_ptr_insert_black_parent (st : Store) (a : Shape) (root : Nat) (b : Shape) (node : Nat) (nn : Node)
    (hrep : Repr st (.node a root b) (some root)) (hnd : (Shape.node a root b).ids.Nodup)
    (hnode : node ∉ (Shape.node a root b).ids) (hr : rd st node = some nn)
    (hnew : RedBlack.Tree.lookup nn.key (absTree st (.node a root b)) = false) :
    ∃ p pn, p ∈ (Shape.node a root b).ids ∧ rd st p = some pn ∧ nn.key ≠ pn.key ∧
      (if nn.key > pn.key then pn.large = none else pn.small = none) ∧
      (pn.color = .black → ∃ st', insert st (some root) node = some (st', some root) ∧
        Repr st' (attachShape st nn.key node (.node a root b)) (some root) ∧
        (∀ j, j ≠ p → j ≠ node → rd st' j = rd st j) ∧
        rd st' node = some { nn with color := .red, small := none, large := none, parent := some p } ∧
        rd st' p = some (if nn.key > pn.key then { pn with large := some node } else { pn with small := some node })) :=
  insert_black_parent hrep hnd hnode hr hnew

-- non-vacuity: key 4 offered to the tree {5(black): 3(black), 8(black)} goes under the black 3 as its large child
example : (insert (#[⟨5, .black, none, some 1, some 2⟩, ⟨3, .black, some 0, none, none⟩, ⟨8, .black, some 0, none, none⟩,
      ⟨4, .black, none, some 7, some 9⟩] : Store) (some 0) 3).map (fun r => (r.2, r.1.toList.map (fun nd => (nd.key, nd.small, nd.large))))
    = some (some 0, [(5, some 1, some 2), (3, none, some 3), (8, none, none), (4, none, none)]) := by decide +kernel

/-- REUSE OF A REFUSED RECORD (the node-reuse path after c81655a): a record given back to the pool's free list after `insert`
    returned `NULL` is the next one taken, and taking it restores the free list as it was -/
theorem rb_pool_give_take (st : Store) (pool : Ptr) (n : Nat) (nd : Node) (hr : rd st n = some nd) :
    ∃ st', poolGive st pool n = some (st', some n) ∧ poolTake st' (some n) = some (n, pool) ∧
      (∀ j, j ≠ n → rd st' j = rd st j) ∧ rd st' n = some { nd with large := pool } := poolGive_take hr

/-- the first record becomes the black root -/
theorem rb_ptr_insert_first (st : Store) (node : Nat) (nn : Node) (hr : rd st node = some nn) :
    ∃ st', insert st none node = some (st', some node) ∧ (∀ j, j ≠ node → rd st' j = rd st j) ∧
      rd st' node = some { nn with color := .black, small := none, large := none } := insert_empty hr

-- non-vacuity: offering a fourth record with key 3 to the three-record tree {5, 3, 8} is refused, the tree is untouched
example : (insert (#[⟨5, .black, none, some 1, some 2⟩, ⟨3, .red, some 0, none, none⟩, ⟨8, .red, some 0, none, none⟩,
      ⟨3, .black, none, some 7, some 9⟩] : Store) (some 0) 3).map (fun r => (r.2, (r.1.toList.take 3).map (fun nd => (nd.key, nd.small, nd.large))))
    = some (none, [(5, some 1, some 2), (3, none, none), (8, none, none)]) := by decide +kernel
end RBPtr


/-! ### the pointer-level insert WITH `rebalance` refines the inductive-tree insert — every path, every history

`ReprP st t p par`: pointer `p` is the root of a tree of shape `t` laid out in the store, `small`/`large` AND `parent`
pointers (`par` = the root record's `parent`). `absTree st t` = its keys and colours. -/
section RBPtrRefine
open RedBlackPtr

/-- ONE CALL, ALL CASES (duplicate, black parent, red parent → `rebalance`: recolouring with its recursion up the `parent`
    pointers, the four rotations incl. the root / great-grandparent relinking): for ANY tree laid out in the store over
    distinct records (no order or balance assumption) and any offered record outside it,
    `esl_red_black_doublekey_insert(tree, node)`
    * fails (`esl_fatal` / NULL dereference / endless loop) exactly when `Tree.insert` on the abstract tree answers `none`;
    * for a key already present returns `NULL`, writes no record but the offered one, the abstract tree is unchanged;
    * otherwise returns the root of a tree laid out — child and parent pointers — over exactly the old records plus the new
      one (a permutation: none lost, none twice) whose keys and colours are those `Tree.insert` computes (to which
      `rb_insert` applies: ordered, balanced, key added); no record outside the tree and the offered one is written. -/
theorem rb_ptr_insert_refines (st : Store) (t : Shape) (root node : Nat) (nn : Node)
    (hrep : ReprP st t (some root) none) (hnd : t.ids.Nodup) (hnode : node ∉ t.ids) (hr : rd st node = some nn) :
    (RedBlack.Tree.insert (absTree st t) nn.key = none → insert st (some root) node = none) ∧
    (∀ T', RedBlack.Tree.insert (absTree st t) nn.key = some (T', false) →
      T' = absTree st t ∧ ∃ st', insert st (some root) node = some (st', none) ∧ (∀ j, j ≠ node → rd st' j = rd st j)) ∧
    (∀ T', RedBlack.Tree.insert (absTree st t) nn.key = some (T', true) →
      ∃ st' root' t', insert st (some root) node = some (st', some root') ∧ ReprP st' t' (some root') none ∧
        absTree st' t' = T' ∧ t'.ids.Perm (node :: t.ids) ∧ (∀ j, j ∉ node :: t.ids → rd st' j = rd st j)) := by
  obtain ⟨h1, h2, h3⟩ := insert_refines_insert hrep hnd hnode hr
  refine ⟨h1, fun T' hT => ?_, h3⟩
  obtain ⟨e, st', a, b, _⟩ := h2 T' hT
  exact ⟨e, st', a, b⟩

/-- `rebalance` itself (entered through `fixup`: what `insert` and the recolouring branch do with a freshly red record `n`):
    for every path `fs` from `n` up to the root, every colouring and every store, it computes what the unwinding of
    `Tree.ins` (`upPath` = one `Tree.up` per ancestor) answers — same failure set, same tree, same records -/
theorem rb_ptr_rebalance_refines (fuel : Nat) (fs : List Frame) (st : Store) (s : Shape) (n : Nat) (par root : Ptr) (tree : Nat)
    (nn : Node) (hf : fs.length ≤ 2 * fuel) (hfoc : ReprP st s (some n) par) (hctx : ReprCtx st fs (some n) par root)
    (hroot : root = some tree) (hnd : (s.ids ++ pathIds fs).Nodup) (hn : rd st n = some nn) (hred : nn.color = .red) :
    SimGoal fuel st tree n (upPath st fs (.check (absTree st s))) (s.ids ++ pathIds fs) :=
  fixup_sim fuel fs st s n par root tree nn hf hfoc hctx hroot hnd hn hred

/-- on a well-formed tree the pointer-level insert never fails, and the tree it lays out is again well-formed (ordered,
    root black, no red-red, equal black heights) and holds exactly the old keys plus the new one -/
theorem rb_ptr_insert_wf (st : Store) (t : Shape) (root node : Nat) (nn : Node)
    (hrep : ReprP st t (some root) none) (hnd : t.ids.Nodup) (hnode : node ∉ t.ids) (hr : rd st node = some nn)
    (hwf : RedBlack.Tree.WF (absTree st t)) :
    (nn.key ∈ RedBlack.Tree.toList (absTree st t) → ∃ st', insert st (some root) node = some (st', none)) ∧
    (nn.key ∉ RedBlack.Tree.toList (absTree st t) →
      ∃ st' root' t', insert st (some root) node = some (st', some root') ∧ ReprP st' t' (some root') none ∧
        t'.ids.Perm (node :: t.ids) ∧ RedBlack.Tree.WF (absTree st' t') ∧
        ∀ x, x ∈ RedBlack.Tree.toList (absTree st' t') ↔ x = nn.key ∨ x ∈ RedBlack.Tree.toList (absTree st t)) := by
  obtain ⟨T1, b, hins, hwf1, hb, _, hmem⟩ := RedBlack.Tree.insert_spec (absTree st t) nn.key hwf
  obtain ⟨_, h2, h3⟩ := insert_refines_insert hrep hnd hnode hr
  constructor
  · intro hk
    have : b = false := hb.mpr hk
    subst this
    obtain ⟨_, st', h, _⟩ := h2 T1 hins
    exact ⟨st', h⟩
  · intro hk
    have : b = true := by cases b with
      | false => exact absurd (hb.mp rfl) hk
      | true => rfl
    subst this
    obtain ⟨st', root', t', k1, k2, k3, k4, _⟩ := h3 T1 hins
    exact ⟨st', root', t', k1, k2, k4, k3 ▸ hwf1, k3 ▸ hmem⟩

/-- EVERY HISTORY from the empty tree, on the pointers: offering any distinct fresh records (as `_Create` / the pool hand
    them out: `parent == NULL`) in any order, with any keys (duplicates are refused and skipped), never fails; the final
    store lays out — `small`, `large` and `parent` pointers — over distinct records taken from the offered ones exactly the
    tree `Tree.insertAll` computes from the keys: ordered, balanced, holding every offered key; nothing else is written -/
theorem rb_ptr_history (st : Store) (nodes : List Nat) (hnodes : nodes.Nodup)
    (hread : ∀ n ∈ nodes, ∃ nd, rd st n = some nd ∧ nd.parent = none) :
    ∃ st' tree' t', insertAllPtr st none nodes = some (st', tree') ∧ ReprP st' t' tree' none ∧ t'.ids.Nodup ∧
      RedBlack.Tree.insertAll .nil (keysOf st nodes) = some (absTree st' t') ∧ RedBlack.Tree.WF (absTree st' t') ∧
      (∀ x, x ∈ RedBlack.Tree.toList (absTree st' t') ↔ x ∈ keysOf st nodes) ∧
      (∀ j ∈ t'.ids, j ∈ nodes) ∧ (∀ j, j ∉ nodes → rd st' j = rd st j) := by
  obtain ⟨st', tree', t', h1, h2, h3, h4, h5, h6, h7⟩ :=
    insertAllPtr_refines nodes st none .nil rfl List.nodup_nil RedBlack.Tree.wf_nil hnodes (fun _ _ h => by cases h) hread
  obtain ⟨T, e1, _, e3⟩ := RedBlack.Tree.insertAll_spec (keysOf st nodes)
  have h4' : RedBlack.Tree.insertAll .nil (keysOf st nodes) = some (absTree st' t') := h4
  have : T = absTree st' t' := by rw [e1] at h4'; exact Option.some.inj h4'
  refine ⟨st', tree', t', h1, h2, h3, h4, h5, this ▸ e3, fun j hj => ?_, fun j hj => h7 j (fun h => by cases h) hj⟩
  rcases h6 j hj with h | h
  · cases h
  · exact h

/-- … and the tree built by any such history converts to a doubly linked list that passes the library's own list test -/
theorem rb_ptr_history_converts (st : Store) (nodes : List Nat) (hnodes : nodes.Nodup) (hne : nodes ≠ [])
    (hread : ∀ n ∈ nodes, ∃ nd, rd st n = some nd ∧ nd.parent = none) :
    ∃ st' root st'' head tail, insertAllPtr st none nodes = some (st', some root) ∧
      convert st' (some root) = some (some (st'', some head, some tail)) ∧
      linkedListTest st'' (some head) (some tail) = some .ok := by
  obtain ⟨st', tree', t', h1, h2, h3, _, h5, h6, _, _⟩ := rb_ptr_history st nodes hnodes hread
  cases nodes with
  | nil => exact absurd rfl hne
  | cons n ns =>
    cases t' with
    | nil =>
      exfalso
      have hx : ∃ x, x ∈ keysOf st (n :: ns) := by
        simp only [keysOf, List.map_cons]; exact ⟨_, List.mem_cons_self⟩
      obtain ⟨x, hx⟩ := hx
      have := (h6 x).mpr hx
      simp [absTree, RedBlack.Tree.toList] at this
    | node a r b =>
      have hr : tree' = some r := h2.1
      subst hr
      obtain ⟨st'', head, tail, c1, c2⟩ := convert_then_test h2.toRepr h3 h5.1
      exact ⟨st', r, st'', head, tail, h1, c1, c2⟩


/-- END TO END through the pool, for EVERY key list `ks` (any length ≥ 0, any integers, duplicates allowed) and any store:
    `esl_red_black_doublekey_pool_Create(|ks|)`, the caller's `node->key = k` on the block's records, then
    `tree = insert(tree, node)` for each: no call fails, and the store lays out — child and parent pointers, distinct records —
    exactly `Tree.insertAll .nil ks`: ordered, balanced, holding precisely the keys of `ks`; records that existed before the
    block was created are untouched. (No hypothesis: the statement is its own non-vacuity.) -/
theorem rb_ptr_pool_history (st : Store) (ks : List Int) :
    ∃ st' tree' t', insertAllPtr (setKeys (poolCreate st ks.length).1 (List.range' st.size ks.length) ks) none
        (List.range' st.size ks.length) = some (st', tree') ∧ ReprP st' t' tree' none ∧ t'.ids.Nodup ∧
      RedBlack.Tree.insertAll .nil ks = some (absTree st' t') ∧ RedBlack.Tree.WF (absTree st' t') ∧
      (∀ x, x ∈ RedBlack.Tree.toList (absTree st' t') ↔ x ∈ ks) ∧ (∀ j, j < st.size → rd st' j = rd st j) :=
  pool_history st ks

-- non-vacuity: three fresh records with keys 1, 2, 3 offered in ascending order: the third insert finds a RED parent
-- (record 1 under the black root 0), `rebalance` rotates (node large of parent, parent large of grandparent) and record 1
-- becomes the root with children 0 and 2, parent pointers included
example : (insertAllPtr (#[⟨1, .red, none, none, none⟩, ⟨2, .red, none, none, none⟩, ⟨3, .red, none, none, none⟩] : Store)
      none [0, 1, 2]).map (fun r => (r.2, r.1.toList.map (fun nd => (nd.parent, nd.small, nd.large))))
    = some (some 1, [(some 1, none, none), (none, some 0, some 2), (some 1, none, none)]) := by decide +kernel
example : (insertAllPtr (#[⟨1, .red, none, none, none⟩, ⟨2, .red, none, none, none⟩, ⟨3, .red, none, none, none⟩] : Store)
      none [0, 1, 2]).map (fun r => r.1.toList.map (fun nd => decide (nd.color = .red)))
    = some [true, false, true] := by decide +kernel
example : ReprP (#[⟨1, .red, some 1, none, none⟩, ⟨2, .black, none, some 0, some 2⟩, ⟨3, .red, some 1, none, none⟩] : Store)
    (.node (.node .nil 0 .nil) 1 (.node .nil 2 .nil)) (some 1) none :=
  ⟨rfl, _, rfl, rfl, ⟨rfl, _, rfl, rfl, rfl, rfl⟩, ⟨rfl, _, rfl, rfl, rfl, rfl⟩⟩
end RBPtrRefine


/-! ### pointer histories WITH the node pool and give-back -/
section RBPtrPool
open RedBlackPtr

/-- the caller's loop `node = pool; pool = pool->large; node->key = k; ret = insert(tree, node); if (ret == NULL) { node->large =
    pool; pool = node; } else tree = ret;` for ANY well-formed tree laid out in the store, ANY free list (`FreeList`: a `large`-chain
    of distinct unlinked records) disjoint from it and ANY key list no longer than the free list: never fails; the store then lays
    out exactly `Tree.insertAll` of the keys; the free list is again a chain of unlinked records; tree records ++ free records
    are a PERMUTATION of what they were — no record lost, none both in the tree and in the pool, none handed out twice (a refused
    record is the next one taken); no other record is written -/
theorem rb_ptr_pool_giveback (ks : List Int) (st : Store) (tree pool : Ptr) (t : Shape) (l : List Nat)
    (hrep : ReprP st t tree none) (hnd : (t.ids ++ l).Nodup) (hwf : RedBlack.Tree.WF (absTree st t)) (hfree : FreeList st pool l)
    (hlen : ks.length ≤ l.length) :
    ∃ st' tree' pool' t' l', insertPool st tree pool ks = some (st', tree', pool') ∧ ReprP st' t' tree' none ∧
      FreeList st' pool' l' ∧ (t'.ids ++ l').Perm (t.ids ++ l) ∧
      RedBlack.Tree.insertAll (absTree st t) ks = some (absTree st' t') ∧ RedBlack.Tree.WF (absTree st' t') ∧
      (∀ j, j ∉ t.ids ++ l → rd st' j = rd st j) := insertPool_refines ks st tree pool t l hrep hnd hwf hfree hlen

/-- … from a fresh block, for EVERY key list, no hypothesis (its own non-vacuity): `pool_Create(|ks|)` then the loop above -/
theorem rb_ptr_pool_giveback_history (st : Store) (ks : List Int) :
    ∃ st' tree' pool' t' l', insertPool (poolCreate st ks.length).1 none (poolCreate st ks.length).2 ks = some (st', tree', pool') ∧
      ReprP st' t' tree' none ∧ FreeList st' pool' l' ∧ (t'.ids ++ l').Perm (List.range' st.size ks.length) ∧
      RedBlack.Tree.insertAll .nil ks = some (absTree st' t') ∧ RedBlack.Tree.WF (absTree st' t') ∧
      (∀ j, j < st.size → rd st' j = rd st j) := pool_giveback_history st ks

-- keys 5, 5, 3 from a block of three: the second 5 is refused, its record (1) is given back and carries the 3; record 2 stays free
example : (insertPool (poolCreate #[] 3).1 none (poolCreate #[] 3).2 [5, 5, 3]).map (fun r => r.2) = some (some 0, some 2) := by decide +kernel
example : (insertPool (poolCreate #[] 3).1 none (poolCreate #[] 3).2 [5, 5, 3]).map
    (fun r => r.1.toList.map (fun nd => (nd.key, nd.parent, nd.large))) =
    some [(5, none, none), (3, some 0, none), (0, none, none)] := by decide +kernel
end RBPtrPool

/-! ## Stacks (int / char / pointer stacks share the code shape; one model) -/
section StackS
open Stack

/-- Push never faults (reallocation by doubling keeps `n ≤ nalloc`), and Pop returns the last pushed element and
    restores the previous content; Pop on an empty stack is `eslEOD` -/
theorem stack_push_pop {α : Type} (s : Stack.Stack α) (x : α) (h : Stack.Inv s) :
    ∃ s', push s x = some s' ∧ Stack.Inv s' ∧ pop s' = ({ s' with data := s.data }, some x) := by
  obtain ⟨s', h1, h2, h3⟩ := push_spec s x h
  exact ⟨s', h1, h2, pop_push s s' x h3⟩

theorem stack_pop_empty {α : Type} (s : Stack.Stack α) (h : s.data.size = 0) : pop s = (s, none) := pop_empty s h

/-- LIFO for whole histories: after pushing `xs`, popping everything returns `xs` reversed followed by what was there -/
theorem stack_lifo {α : Type} (s : Stack.Stack α) (xs : List α) (h : Stack.Inv s) :
    ∃ s', pushAll s xs = some s' ∧ Stack.Inv s' ∧ popAll s' = xs.reverse ++ popAll s := by
  obtain ⟨s', h1, h2, h3⟩ := pushAll_spec s xs h
  exact ⟨s', h1, h2, popAll_pushAll s s' xs h3⟩

/-- `popAll` is the sequence of values successive `Pop`s return -/
theorem stack_popAll_unfold {α : Type} (s s' : Stack.Stack α) (x : α) (h : pop s = (s', some x)) :
    popAll s = x :: popAll s' := popAll_cons_of_pop s x s' h

/-- DiscardTopN removes the `n` newest elements (all of them if `n ≥` count); what is left pops as before -/
theorem stack_discardTopN {α : Type} (s : Stack.Stack α) (n : Nat) :
    (discardTopN s n).data.toList = s.data.toList.take (s.data.size - n) := discardTopN_toList s n

/-- DiscardSelected never faults and keeps exactly the elements not selected, in their order -/
theorem stack_discardSelected {α : Type} (s : Stack.Stack α) (discard : α → Bool) :
    ∃ s', discardSelected s discard = some s' ∧ s'.nalloc = s.nalloc ∧
      s'.data.toList = s.data.toList.filter (fun x => !discard x) := discardSelected_spec s discard

/-- Shuffle keeps the multiset, for every state of the generator (`Rng` is the C09 model of `esl_random`) -/
theorem stack_shuffle {α : Type} (rollFuel : Nat) (r r' : EaselModel.Random.Rng) (s s' : Stack.Stack α)
    (h : shuffle rollFuel r s = some (s', r')) : s'.data.toList.Perm s.data.toList ∧ s'.nalloc = s.nalloc :=
  shuffle_perm rollFuel r r' s s' h

/-- FOR EVERY HISTORY without shuffle (push, pop, DiscardTopN, DiscardSelected with any predicate, Reuse, count) from any
    valid stack: no fault, and every answer is the one of the abstract LIFO list -/
theorem stack_history {α : Type} (rollFuel : Nat) (s : Stack.Stack α) (hi : Stack.Inv s) (ops : List (SOp α))
    (hns : ∀ op ∈ ops, op.isShuffle = false) : runS rollFuel s ops = some (specRunS s.data.toList ops) :=
  stack_history_refines rollFuel s hi ops hns

/-- histories with shuffles (generators in arbitrary states) mixed with pushes, selective discards, reuse, counts: whenever
    the run returns, the content is a permutation of what the abstract list predicts, and all answers agree -/
theorem stack_history_shuffles {α : Type} (rollFuel : Nat) (s : Stack.Stack α) (hi : Stack.Inv s) (l : List α)
    (hp : s.data.toList.Perm l) (ops : List (SOp α)) (hof : ∀ op ∈ ops, op.orderFree = true) :
    (∀ s', finalS rollFuel s ops = some s' → s'.data.toList.Perm (specFinalS l ops) ∧ Stack.Inv s') ∧
    (∀ outs, runS rollFuel s ops = some outs → outs = specRunS l ops) :=
  ⟨fun s' h => stack_history_multiset rollFuel s hi l hp ops hof s' h,
   fun outs h => stack_history_multiset_outputs rollFuel s hi l hp ops hof outs h⟩

/-- the mutex mode (`esl_stack_UseMutex`, `UseCond`, `ReleaseCond`) is MODELLED AS ATOMIC OPERATIONS (each public function
    runs between lock and unlock; not proved about the pthread calls): then for any two threads' operation sequences and
    any interleaving the scheduler produces, every answer is the LIFO list's answer on that interleaving -/
theorem stack_threads_atomic {α : Type} (rollFuel : Nat) (s : Stack.Stack α) (hi : Stack.Inv s) (a b l : List (SOp α))
    (hl : Interleave a b l) (ha : ∀ op ∈ a, op.isShuffle = false) (hb : ∀ op ∈ b, op.isShuffle = false) :
    runS rollFuel s l = some (specRunS s.data.toList l) := threads_atomic rollFuel s hi a b l hl ha hb

example : Interleave [SOp.push 1, SOp.pop] [SOp.push (2 : Nat)] [.push 1, .push 2, .pop] :=
  .left _ (.right _ (.left _ .nil))

/-- the only way an operation does not return on a valid stack is the Roll loop of a shuffle running out of fuel -/
theorem stack_no_fault {α : Type} (rollFuel : Nat) (s : Stack.Stack α) (hi : Stack.Inv s) (op : SOp α) :
    stepS rollFuel s op = none ↔ ∃ r, op = .shuffle r ∧ shuffle rollFuel r s = none := stepS_none_iff rollFuel s hi op

/-- the `int nalloc` of a stack is the initial 128 or at most twice the largest element count -/
theorem stack_nalloc_in_range {α : Type} (s s' : Stack.Stack α) (x : α) (B : Nat) (h : push s x = some s')
    (hs : s.data.size ≤ B) (hn : s.nalloc ≤ max 128 (2 * B)) : s'.nalloc ≤ max 128 (2 * B) :=
  Stack.push_nalloc_le s s' x B h hs hn

/-- Convert2String gives the pushed characters in push order (C string: up to the first NUL, if one was pushed) -/
theorem stack_convert2String (s : Stack.Stack UInt8) (h : (0 : UInt8) ∉ s.data.toList) :
    convert2String s = s.data.toList := convert2String_eq s h

example : Stack.Inv (create : Stack.Stack Int) := inv_create
-- the hypothesis of `stack_shuffle` is satisfiable (here with the LCG generator, which the kernel can run)
example : (shuffle 100 (EaselModel.Random.Rng.create .fast 7) ({ data := #[1, 2, 3, 4], nalloc := 128 } : Stack.Stack Nat)).map (·.1.data)
    = some #[3, 4, 1, 2] := by decide +kernel
-- discards on a concrete stack
example : (discardSelected ({ data := #[1, 2, 3, 4, 5], nalloc := 128 } : Stack.Stack Nat) (fun x => x % 2 == 0)).map (·.data)
    = some #[1, 3, 5] := by decide +kernel
example : (pushAll (create : Stack.Stack Nat) [1, 2, 3]).map popAll = some [3, 2, 1] := by decide +kernel
end StackS

/-! ## Stacks used for communication between threads (`esl_stack_UseMutex`, `esl_stack_UseCond`, `esl_stack_ReleaseCond`)

`StackThreads`: an interleaving transition system. Threads run programs of `Push x` / `Pop` / "pop until eslEOD" /
`ReleaseCond`; the scheduler picks `acquire t` (the thread gets the mutex), `body t` (it runs its critical section up to the
`pthread_mutex_unlock` — or up to the `pthread_cond_wait` of a `Pop` that finds the stack empty while `do_cond` is set, which
gives the mutex up and sleeps), `wake t` (a sleeper wakes: signal, broadcast or spurious; it must re-acquire the mutex and
re-test). The theorems quantify over EVERY schedule (`acts`), any number of threads, any programs, any starting content. -/
section StackThreadsS
open StackThreads

/-- NO ITEM IS LOST OR DUPLICATED, whatever the interleaving of pushers and poppers: at every reachable state the starting
    content plus everything pushed so far is (as a multiset) what is still on the stack plus everything popped so far; what
    has been pushed plus what the programs still have to push is what the programs push in total; so once every thread has
    finished, stack ∪ popped = start ∪ all pushes. The run never hits an out-of-bounds access (`Stack.Inv` is kept). -/
theorem stack_threads_conservation {α : Type} (s : Stack.Stack α) (hi : Stack.Inv s) (progs : List (List (TOp α)))
    (acts : List Act) (st' : TS α) (h : runSched (initial s progs) acts = some st') :
    (s.data.toList ++ st'.pushed).Perm (st'.stack.data.toList ++ st'.popped) ∧
    (st'.pushed ++ pending st'.threads).Perm (progs.flatMap pushesOf) ∧ Stack.Inv st'.stack ∧
    (finished st' → (st'.stack.data.toList ++ st'.popped).Perm (s.data.toList ++ progs.flatMap pushesOf)) := by
  have hw := runSched_wf acts (wf_initial s hi progs) h
  refine ⟨hw.cons, hw.pend, hw.inv, fun hf => ?_⟩
  have hp := hw.pend
  rw [pending_finished st' hf, List.append_nil] at hp
  exact hw.cons.symm.trans (List.Perm.append_left _ hp)

/-- a `Pop` returns `eslEOD` only after `esl_stack_ReleaseCond`: while `do_cond` is still set no thread has ever been
    answered `eslEOD` (a `Pop` on the empty stack waits instead) -/
theorem stack_threads_eod_only_after_release {α : Type} (s : Stack.Stack α) (hi : Stack.Inv s) (progs : List (List (TOp α)))
    (acts : List Act) (st' : TS α) (h : runSched (initial s progs) acts = some st') (hd : st'.doCond = true) :
    ∀ th ∈ st'.threads, TOut.eod ∉ th.outs :=
  (runSched_wf acts (wf_initial s hi progs) h).eod hd

/-- mutual exclusion, and no deadlock from the locking discipline: exactly the owner of the mutex is inside a critical
    section; and as long as some thread has calls left, some action is enabled (the holder can always finish its critical
    section — `Push` never faults —, a free mutex can be taken, a sleeper can be woken) -/
theorem stack_threads_mutex_progress {α : Type} (s : Stack.Stack α) (hi : Stack.Inv s) (progs : List (List (TOp α)))
    (acts : List Act) (st' : TS α) (h : runSched (initial s progs) acts = some st') :
    (∀ (t : Nat) (th : Thread α), st'.threads[t]? = some th → (th.phase = .holding ↔ st'.lock = some t)) ∧
    (∀ (t : Nat) (th : Thread α), st'.threads[t]? = some th → th.prog ≠ [] → ∃ a, (fire st' a).isSome = true) := by
  have hw := runSched_wf acts (wf_initial s hi progs) h
  exact ⟨hw.excl, fun t th hth hp => progress st' hw t th hth hp⟩

/-- A WAITING `Pop` RETURNS AN ITEM PUSHED LATER, OR `eslEOD` AFTER `ReleaseCond`: from any reachable state in which thread `t`
    sleeps in `pthread_cond_wait`, the mutex is free, and an item has arrived or `do_cond` has been cleared, the three steps
    "wake up, re-acquire the mutex, run the critical section" are all enabled and the call returns — one more answer, the
    thread is back between calls, the mutex is free again; it does not go back to sleep -/
theorem stack_threads_waiting_pop_completes {α : Type} (s : Stack.Stack α) (hi : Stack.Inv s) (progs : List (List (TOp α)))
    (acts : List Act) (st : TS α) (h : runSched (initial s progs) acts = some st) (t : Nat) (th : Thread α)
    (hth : st.threads[t]? = some th) (hph : th.phase = .waiting) (hlock : st.lock = none)
    (hready : st.doCond = false ∨ 0 < st.stack.data.size) :
    ∃ st' th', runSched st [.wake t, .acquire t, .body t] = some st' ∧ st'.threads[t]? = some th' ∧
      th'.phase = .start ∧ th'.outs.length = th.outs.length + 1 ∧ st'.lock = none :=
  waiting_pop_completes st (runSched_wf acts (wf_initial s hi progs) h) t th hth hph hlock hready

/-- AFTER `esl_stack_ReleaseCond` EVERY THREAD CAN RUN TO COMPLETION: from every reachable state in which `do_cond` is clear there
    is a schedule after which all threads have finished all their calls (pushers, poppers, workers that pop until `eslEOD`,
    sleepers in `pthread_cond_wait`) — and then, by `stack_threads_conservation`, what was popped plus what is left on the stack
    is exactly the starting content plus everything the programs push. Nobody is left waiting for ever. -/
theorem stack_threads_completes_after_release {α : Type} (s : Stack.Stack α) (hi : Stack.Inv s) (progs : List (List (TOp α)))
    (acts : List Act) (st : TS α) (h : runSched (initial s progs) acts = some st) (hd : st.doCond = false) :
    ∃ acts' st', runSched st acts' = some st' ∧ finished st' ∧
      (st'.stack.data.toList ++ st'.popped).Perm (s.data.toList ++ progs.flatMap pushesOf) := by
  obtain ⟨acts', st', h1, h2⟩ := completes_after_release (mu st) st (Nat.le_refl _) (runSched_wf acts (wf_initial s hi progs) h) hd
  have h3 : runSched (initial s progs) (acts ++ acts') = some st' := by rw [runSched_append, h]; exact h1
  exact ⟨acts', st', h1, h2, (stack_threads_conservation s hi progs (acts ++ acts') st' h3).2.2.2 h2⟩

/-- THE ONLY WAY TO GET STUCK: in every reachable state either all threads have finished, or an action that makes real progress
    is enabled (a critical section, taking the free mutex, waking a sleeper that will not go straight back to sleep), or
    every unfinished thread sleeps in `pthread_cond_wait` on an EMPTY stack with `do_cond` still set and the mutex free —
    the situation the documented idiom resolves by `esl_stack_ReleaseCond`, after which every sleeper can return
    (`stack_threads_waiting_pop_completes`). There is no other deadlock. -/
theorem stack_threads_stuck_only_when_all_asleep {α : Type} (s : Stack.Stack α) (hi : Stack.Inv s) (progs : List (List (TOp α)))
    (acts : List Act) (st : TS α) (h : runSched (initial s progs) acts = some st) :
    finished st ∨ (∃ a, (fire st a).isSome = true ∧ Useful st a) ∨
    ((∀ (t : Nat) (th : Thread α), st.threads[t]? = some th → th.prog ≠ [] → th.phase = .waiting) ∧ st.lock = none ∧
      st.doCond = true ∧ st.stack.data.size = 0) :=
  stuck_only_when_all_asleep st (runSched_wf acts (wf_initial s hi progs) h)

-- a waiting `Pop` returns an item pushed LATER by another thread …
example : (runSched (initial (Stack.create : Stack.Stack Nat) [[.pop], [.push 7]])
      [.acquire 0, .body 0, .acquire 1, .body 1, .wake 0, .acquire 0, .body 0]).map (fun st => st.threads.map (·.outs))
    = some [[.val 7], [.done]] := by decide +kernel
-- … after the first `body 0` thread 0 sleeps in `pthread_cond_wait` and the mutex is free
example : (runSched (initial (Stack.create : Stack.Stack Nat) [[.pop], [.push 7]]) [.acquire 0, .body 0]).map
      (fun st => (st.threads.map (·.phase), st.lock)) = some ([.waiting, .start], none) := by decide +kernel
-- … or `eslEOD` after `ReleaseCond` (a second `ReleaseCond` is refused with `eslESYS`)
example : (runSched (initial (Stack.create : Stack.Stack Nat) [[.pop], [.release, .release]])
      [.acquire 0, .body 0, .acquire 1, .body 1, .wake 0, .acquire 0, .body 0, .acquire 1, .body 1]).map (fun st => st.threads.map (·.outs))
    = some [[.eod], [.done, .esys]] := by decide +kernel
-- a spurious wake-up changes nothing: the popper re-tests and sleeps again
example : (runSched (initial (Stack.create : Stack.Stack Nat) [[.pop], [.push 7]]) [.acquire 0, .body 0, .wake 0, .acquire 0, .body 0]).map
      (fun st => (st.threads.map (·.phase), st.threads.map (·.outs))) = some ([.waiting, .start], [[], []]) := by decide +kernel
-- an action that is not enabled (a second thread taking the held mutex) is refused
example : (runSched (initial (Stack.create : Stack.Stack Nat) [[.pop], [.push 7]]) [.acquire 0, .acquire 1]).isNone = true := by decide +kernel
end StackThreadsS

/-! ## Index quicksort (`esl_quicksort` with the guard `if (n > 1)`, `partition` as written incl. the no-op first swap) -/
section QS
open Quicksort

/-- for any total preorder comparison callback, every `n ≥ 0`, fuel ≥ n (termination: the recursion depth and every loop
    are bounded by `n`): no out-of-bounds access, and the result is a permutation of `0..n-1` that orders the data -/
theorem quicksort_sorts (cmp : Nat → Nat → Int) (hc : TotalPreorder cmp) (n : Nat) (fuel : Nat) (hf : n ≤ fuel) :
    ∃ ord, quicksort cmp n fuel = .ok ord ∧ ord.size = n ∧ ord.toList.Perm (List.range n) ∧
      ∀ i j, i < j → j < n → cmp (ord[i]!) (ord[j]!) ≤ 0 := quicksort_spec cmp hc n fuel hf

/-- regression: without the guard (`partition(0,-1)` entered for `n = 0`, the code before the fix) the model faults:
    `sorted_at[-1]` is read -/
theorem quicksort_unguarded_n0_faults (cmp : Nat → Nat → Int) (fuel : Nat) : quicksortUnguarded cmp 0 (fuel + 1) = .fault :=
  quicksort_zero_faults cmp fuel

-- non-vacuity: comparing by a data array with ties is a total preorder
example : TotalPreorder (fun a b => ((a / 2 : Nat) : Int) - (b / 2 : Nat)) :=
  ⟨fun a b => by omega, fun a b c h1 h2 => by omega⟩
end QS

end EaselModel.Props.C19
