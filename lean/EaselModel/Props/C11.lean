import EaselModel.Stats.HistRat
import EaselModel.Stats.HistQuery
import EaselModel.Stats.HistCens
import EaselModel.Stats.HistMass
import EaselModel.Stats.FitReal
import EaselModel.Stats.GumbelConcave
import EaselModel.Stats.MinLemmas
import EaselModel.Stats.MinReal
import EaselModel.Stats.MinCounter
import EaselModel.Stats.MinTrace
import EaselModel.Stats.MinDescent
import EaselModel.Stats.WeibullReal
import EaselModel.Stats.BinnedReal
import EaselModel.Stats.GevReal
import EaselModel.Stats.GammaReal
import EaselModel.Stats.Format
import EaselModel.Stats.ExpTailReal
import EaselModel.Stats.TevdReal
import EaselModel.Stats.ExpBinnedReal
import EaselModel.Stats.HistExpectReal
import EaselModel.Stats.HistPlotRat
/-! # C11 — property theorems (statements + glue only; lemmas live in `EaselModel/Stats/*`)

Histogram half. `Hist` is the line-by-line model of `esl_histogram.c` (`EaselModel/Stats/Histogram.lean`), run bit-for-bit
against the C code over `Float` on every check; the theorems below are about the same definitions over `ℚ`
(exact arithmetic). Float placement of a value within rounding distance of a bin edge is layer L0 — not a theorem. -/
namespace EaselModel.Props.C11
open EaselModel.Stats

/-- `esl_histogram_Score2Bin` (exact arithmetic, `w > 0`): eslOK exactly when the value is finite and the bin number fits
    an `int` — then the bin is THE bin `b` with `bmin + b·w < x ≤ bmin + (b+1)·w`; otherwise eslERANGE with `*ret_b = 0`
    (never an overflowing conversion). -/
theorem score2bin_interval (h : Hist ℚ) (hw : 0 < h.w) (x : ℚ) :
    let b := ⌈(x - h.bmin) / h.w - 1⌉
    (h.score2bin x = (.ok, b) ∧ inBin h.bmin h.w b x ∧ |x| ≤ dblMaxQ ∧ -2147483648 ≤ b ∧ b ≤ 2147483647) ∨
    (h.score2bin x = (.erange, 0) ∧ (¬ |x| ≤ dblMaxQ ∨ b < -2147483648 ∨ 2147483647 < b)) :=
  score2bin_q h hw x

/-- the half-open bins partition the line: a value lies in exactly one of them -/
theorem bins_partition {bmin w : ℚ} (hw : 0 < w) {i j : Int} {x : ℚ} (hi : inBin bmin w i x) (hj : inBin bmin w j x) : i = j :=
  inBin_unique hw hi hj

/-- memory safety and `int` safety of `esl_histogram_Add`, for EVERY numeric class (so also for binary64):
    from a well-formed histogram `Add` never reads or writes outside `obs[0..nb-1]` / `x[0..nalloc-1]` and never overflows an
    `int` (the model's `.fault` outcome is unreachable); the result is well-formed again. -/
theorem add_never_faults {α : Type} [Num α] (h : Hist α) (hwf : h.WF) (hidx : IdxOK h) (v : α) :
    ∃ st h', h.add v = .val (st, h') ∧ h'.WF := by
  obtain ⟨st, h', e, wf', _⟩ := add_spec h hwf hidx v
  exact ⟨st, h', e, wf'⟩

/-- one `Add` on a histogram that accounts for the values `vs`: refused (status ≠ OK: not finite, bin number beyond `int`,
    histogram finished) and then no count, bound or counter changes — or accepted, and then the histogram accounts for
    `v :: vs`: exactly the bin whose interval contains `v` gained one, whatever re-indexing the growth needed. -/
theorem add_counts_once (h : Hist ℚ) (vs : List ℚ) (acc : Accounts h vs) (v : ℚ) :
    ∃ st h', h.add v = .val (st, h') ∧
      ((st = .ok ∧ Accounts h' (v :: vs)) ∨ (st ≠ .ok ∧ Accounts h' vs ∧ SameData h h')) :=
  add_accounts h vs acc v

/-- **Every value exactly once, however often the histogram grew.** After `Create`/`CreateFull(bmin,bmax,w)` with `w > 0` and ANY
    sequence of `Add` calls `xs`: no fault; the bin grid is the original one (`w` unchanged, `bmin` moved down by a whole number
    of widths, so every boundary `bmin + i·w` is an original boundary); and for EVERY integer `i` the count of bin `i`
    (0 if the bin does not exist) is the number of accepted values in `(bmin + i·w, bmin + (i+1)·w]`; the counts sum to `n`. -/
theorem histogram_accounts (bmin bmax w : ℚ) (hw : 0 < w) (h0 : Hist ℚ)
    (hc : Hist.create bmin bmax w = .val (some h0) ∨ Hist.createFull bmin bmax w = .val (some h0)) (xs : List ℚ) :
    ∃ h vs, Hist.addMany h0 [] xs = .val (h, vs) ∧ Accounts h vs ∧ h.w = w ∧ (∃ k : Nat, h.bmin = bmin - (k : ℚ) * w) ∧
      (∀ i : Int, obsAt h.obs i = vs.countP (fun x => decide (inBin h.bmin h.w i x))) ∧
      total h.obs = h.n ∧ h.n = vs.length := by
  obtain ⟨a0, e1, e2, _⟩ := create_accounts bmin bmax w hw h0 hc
  obtain ⟨h, vs, e, a, ew, ⟨k, eb⟩, _⟩ := addMany_accounts xs h0 [] a0
  exact ⟨h, vs, e, a, by rw [ew, e1], ⟨k, by rw [eb, e1, e2]⟩, a.counts, by rw [a.tot, a.n], a.n⟩

/-- `imin/imax/xmin/xmax/n` are what they say (consequence of `Accounts`): no count outside `imin..imax`, both ends occupied,
    `xmin`/`xmax` are accepted values bounding all accepted values. -/
theorem bookkeeping_true (h : Hist ℚ) (vs : List ℚ) (acc : Accounts h vs) (hne : vs ≠ []) :
    (∀ i : Int, (i < h.imin ∨ h.imax < i) → obsAt h.obs i = 0) ∧ 0 < obsAt h.obs h.imin ∧ 0 < obsAt h.obs h.imax ∧
    h.xmin ∈ vs ∧ h.xmax ∈ vs ∧ (∀ v ∈ vs, h.xmin ≤ v ∧ v ≤ h.xmax) ∧ h.n = vs.length :=
  ⟨fun i hi => hi.elim (acc.below i) (acc.above i), (acc.occ hne).1, (acc.occ hne).2, (acc.xmem hne).1, (acc.xmem hne).2, acc.xlo, acc.n⟩

/-! ### rank and tail queries vs the sorted raw data
`SortedFlagOK h` ("the `is_sorted` flag tells the truth") holds after `Create` and after every `Add` (the flag is cleared),
and is re-established by every query (they sort first). -/

theorem sorted_flag_sound (h : Hist ℚ) :
    (h.isSorted = false → SortedFlagOK h) ∧ (h.isFull = true → SortedFlagOK h → SortedFlagOK h.sort) := by
  constructor
  · intro hf hc; rw [hf] at hc; cases hc
  · intro hf hs _; exact (sort_spec h hf hs).1

/-- `esl_histogram_GetTail(phi)`: `*ret_z` is the number of raw values `≤ phi`, the returned vector is the sorted raw data `> phi`
    (strictly), `*ret_n = n - *ret_z`; no fault (the binary search stays inside `x[0..n-1]` and terminates), histogram finished. -/
theorem tail_query_agrees (h : Hist ℚ) (vs : List ℚ) (acc : Accounts h vs) (hf : h.isFull = true) (hs : SortedFlagOK h) (phi : ℚ) :
    ∃ h' mid, h.getTail phi = .val (.ok, h', mid) ∧ mid = vs.countP (fun x => decide (x ≤ phi)) ∧
      h'.x.toList.Pairwise (· ≤ ·) ∧ h'.x.toList.Perm vs ∧
      (∀ x ∈ h'.x.toList.take mid, x ≤ phi) ∧ (∀ x ∈ h'.x.toList.drop mid, phi < x) ∧ h'.isDone = true ∧ h'.obs = h.obs :=
  getTail_spec h vs acc hf hs phi

/-- **end to end**: `CreateFull(bmin,bmax,w)` with `w > 0`, ANY sequence of `Add` calls (accepted or refused, any growth), then
    `GetTail(phi)`: `*ret_z` = number of accepted values `≤ phi`, and the returned vector is the sorted accepted values `> phi`. -/
theorem collect_then_tail (bmin bmax w : ℚ) (hw : 0 < w) (h0 : Hist ℚ) (hc : Hist.createFull bmin bmax w = .val (some h0)) (xs : List ℚ) (phi : ℚ) :
    ∃ h vs h' mid, Hist.addMany h0 [] xs = .val (h, vs) ∧ h.getTail phi = .val (.ok, h', mid) ∧
      mid = vs.countP (fun x => decide (x ≤ phi)) ∧ h'.x.toList.Pairwise (· ≤ ·) ∧ h'.x.toList.Perm vs ∧
      (∀ x ∈ h'.x.toList.drop mid, phi < x) ∧ (∀ x ∈ h'.x.toList.take mid, x ≤ phi) :=
  collected_tail bmin bmax w hw h0 hc xs phi

/-- `esl_histogram_GetRank(rank)`: eslEINVAL outside `1..n`, otherwise element `n - rank` of the sorted raw data. -/
theorem rank_query_agrees (h : Hist ℚ) (vs : List ℚ) (acc : Accounts h vs) (hf : h.isFull = true) (hs : SortedFlagOK h) (r : Int) :
    (¬ (1 ≤ r ∧ r ≤ vs.length) → ∃ v, h.getRank r = .val (.einval, h, v)) ∧
    (1 ≤ r ∧ r ≤ vs.length → ∃ h' v, h.getRank r = .val (.ok, h', v) ∧ h'.x.toList.Pairwise (· ≤ ·) ∧ h'.x.toList.Perm vs ∧
        ∃ hi : (vs.length - r.toNat) < h'.x.toList.length, v = h'.x.toList[vs.length - r.toNat] ∧ h'.obs = h.obs) :=
  getRank_spec h vs acc hf hs r

/-- `esl_histogram_GetTailByMass(pmass)`: the last `⌊n·pmass⌋` sorted raw values (`0 ≤ pmass ≤ 1`), eslEINVAL otherwise. -/
theorem tailmass_query_agrees (h : Hist ℚ) (vs : List ℚ) (acc : Accounts h vs) (hf : h.isFull = true) (hs : SortedFlagOK h) (p : ℚ) :
    (¬ (0 ≤ p ∧ p ≤ 1) → (h.getTailByMass p).1 = .einval) ∧
    (0 ≤ p ∧ p ≤ 1 → ∃ h' k, h.getTailByMass p = (.ok, h', k) ∧ h'.x.toList.Pairwise (· ≤ ·) ∧ h'.x.toList.Perm vs ∧
        (k : ℚ) ≤ vs.length * p ∧ (vs.length : ℚ) * p < k + 1 ∧ k ≤ vs.length ∧ h'.isDone = true) :=
  getTailByMass_spec h vs acc hf hs p

/-- `esl_histogram_SetTail(phi)` (after commits fd84f7f, 2487976, 9b72a6e): the threshold actually used is the bin boundary
    `bmin + k·w ∈ (phi - w, phi]`, `cmin = max(k,0)`, and the censoring agrees with the raw data: `z` = number of accepted values
    `≤` that threshold, `No = n - z`, `Nc = n`; no read outside the bins. -/
theorem settail_agrees_with_raw_data (h : Hist ℚ) (vs : List ℚ) (acc : Accounts h vs) (phi : ℚ) (hfin : |phi| ≤ dblMaxQ)
    (hr : -2147483648 ≤ ⌈(phi - h.bmin) / h.w - 1⌉ ∧ ⌈(phi - h.bmin) / h.w - 1⌉ < 2147483647) :
    ∃ h' mass k, h.setTail phi = .val (.ok, h', mass) ∧ h'.phi = h.bmin + (k : Int) * h.w ∧ h'.phi ≤ phi ∧ phi - h'.phi < h.w ∧
      h'.cmin = max k 0 ∧ h'.z = vs.countP (fun x => decide (x ≤ h'.phi)) ∧ h'.no = vs.length - h'.z ∧ h'.nc = vs.length ∧
      h'.obs = h.obs ∧ h'.isDone = true ∧ h'.datasetIs = .virtualCensored :=
  setTail_spec h vs acc phi hfin hr

/-- `esl_histogram_SetTailByMass(pmass)`, `0 < pmass ≤ 1`, non-empty data: the cutoff is the lower bound of a bin `b ∈ imin..imax`;
    `No` = number of accepted values above it, `≥ pmass·n`; `z = n - No` = number of accepted values `≤` it; and `b` is the highest
    satisfactory bin (the values above bin `b` alone fall short of the requested mass). -/
theorem settailbymass_agrees_with_raw_data (h : Hist ℚ) (vs : List ℚ) (acc : Accounts h vs) (hne : vs ≠ []) (p : ℚ) (hp0 : 0 < p) (hp1 : p ≤ 1) :
    ∃ h' mass b, h.setTailByMass p = .val (.ok, h', mass) ∧ h.imin ≤ b ∧ b ≤ h.imax ∧ h'.cmin = b ∧ h'.phi = h.bmin + (b : ℚ) * h.w ∧
      h'.no = vs.countP (fun x => decide (h'.phi < x)) ∧ h'.z = vs.countP (fun x => decide (x ≤ h'.phi)) ∧
      p * vs.length ≤ h'.no ∧ (vs.countP (fun x => decide (h.bmin + ((b : ℚ) + 1) * h.w < x)) : ℚ) < p * vs.length ∧
      h'.nc = vs.length ∧ h'.obs = h.obs ∧ h'.isDone = true :=
  setTailByMass_spec h vs acc hne p hp0 hp1

/-- `esl_histogram_DeclareCensoring(z, phi)`: eslEINVAL iff `phi` exceeds some observed value; else `Nc = n + z`, `No = n`. -/
theorem declare_censoring_agrees (h : Hist ℚ) (vs : List ℚ) (acc : Accounts h vs) (hne : vs ≠ []) (z : Int) (hz : 0 ≤ z) (phi : ℚ) :
    ((∃ v ∈ vs, v < phi) → h.declareCensoring z phi = (.einval, h)) ∧
    ((∀ v ∈ vs, phi ≤ v) → ∃ h', h.declareCensoring z phi = (.ok, h') ∧ h'.z = z.toNat ∧ h'.nc = vs.length + z.toNat ∧
        h'.no = vs.length ∧ h'.phi = phi ∧ h'.isDone = true ∧ h'.datasetIs = .trueCensored ∧ h'.obs = h.obs ∧ h'.cmin = h.imin) :=
  declareCensoring_spec h vs acc hne z hz phi

/-- non-vacuity: `Create(0, 10, 1)` succeeds over ℚ (so `histogram_accounts` has instances) -/
example : ∃ h : Hist ℚ, Hist.create (0 : ℚ) 10 1 = .val (some h) := by
  have hq : ((10 : ℚ) - 0) / 1 = ((10 : Int) : ℚ) := by norm_num
  have hfin : Num.isFinite (((10 : Int) : ℚ)) = true := by
    rw [isFinite_q]; exact small_le_dblMaxQ _ (by norm_num)
  unfold Hist.create
  simp only [hq, hfin, toInt_intCast]
  exact ⟨_, rfl⟩

/-! ### Expected counts, goodness of fit, plot tables, rounding declaration (model `HistExpect.lean`, compared with the C code on every run) -/

/-- `esl_histogram_SetExpect`, every cdf and numeric class: fills exactly `expect[0..nb-1]`; `emin` stays, or (from the sentinel `-1`) becomes
    a bin in `0..nb-1`; the histogram is finished and nothing else changes. -/
theorem set_expect_fills_all_bins {α : Type} [Num α] (h : Hist α) (e : Expect α) (cdf : α → α) (hnb : 0 ≤ h.nb) :
    ∃ ex, (h.setExpect e cdf).2.expect = some ex ∧ (ex.size : Int) = h.nb ∧
      ((h.setExpect e cdf).2.emin = e.emin ∨ (e.emin = -1 ∧ 0 ≤ (h.setExpect e cdf).2.emin ∧ (h.setExpect e cdf).2.emin < h.nb)) ∧
      (h.setExpect e cdf).1 = { h with isDone := true } :=
  setExpect_spec h e cdf hnb

/-- **`esl_histogram_SetExpectedTail` never leaves `emin` outside `0..nb`** (the defect repaired in 7d2bcba: a `base_val` outside the binned
    range made `esl_vec_DSet(expect, emin, 0.)` and the fill loop write outside `expect[]`), every `base_val` / mass / cdf / numeric class:
    eslERANGE and nothing changed, or eslOK with `0 ≤ emin ≤ nb`, `expect[]` exactly `nb` long, zero below `emin`, `is_tailfit` and `is_done` set. -/
theorem expected_tail_emin_in_range {α : Type} [Num α] (h : Hist α) (e : Expect α) (baseVal pmass : α) (cdf : α → α) (hnb : 0 ≤ h.nb) :
    let r := h.setExpectedTail e baseVal pmass cdf
    (r.1 = .erange ∧ r.2.1 = h ∧ r.2.2 = e) ∨
    (r.1 = .ok ∧ 0 ≤ r.2.2.emin ∧ r.2.2.emin ≤ h.nb ∧ r.2.2.isTailfit = true ∧ r.2.1 = { h with isDone := true } ∧
      ∃ ex, r.2.2.expect = some ex ∧ (ex.size : Int) = h.nb ∧ ∀ i : Nat, (i : Int) < r.2.2.emin → ex[i]? = some Num.zero) :=
  setExpectedTail_spec h e baseVal pmass cdf hnb

/-- **The expected counts account for the law's mass** (ℝ, any cdf): after `SetExpect` the entries of `expect[]` add up to `Nc·(F(UBound(nb-1)) -
    F(LBound(0)))`; after an accepted `SetExpectedTail` to `pmass·Nc·(F(UBound(nb-1)) - F(LBound(emin)))` — adjacent bins share their boundary, so no
    expected mass is lost or counted twice. (`UBound(nb-1) = LBound(nb)`.) -/
theorem expected_counts_account_for_the_mass (h : Hist ℝ) (e : Expect ℝ) (baseVal pmass : ℝ) (cdf : ℝ → ℝ) (hnb : 0 ≤ h.nb) :
    (∃ ex, (h.setExpect e cdf).2.expect = some ex ∧ ex.toList.sum = (h.nc : ℝ) * (cdf (h.lbound h.nb) - cdf (h.lbound 0))) ∧
    ((h.setExpectedTail e baseVal pmass cdf).1 = .ok →
      ∃ ex, (h.setExpectedTail e baseVal pmass cdf).2.2.expect = some ex ∧
        ex.toList.sum = pmass * (h.nc : ℝ) * (cdf (h.lbound h.nb) - cdf (h.lbound (h.setExpectedTail e baseVal pmass cdf).2.2.emin))) :=
  ⟨setExpect_total h e cdf hnb, setExpectedTail_total h e baseVal pmass cdf hnb⟩

/-- **`esl_histogram_Goodness` is memory-safe.** Every numeric class: on a well-formed histogram with `cmin ≥ 0` and `expect[]` as long as
    `obs[]`, the only way to the model's `.fault` (read outside `obs[]`/`expect[]`, write outside the `2·nb+1` re-bins, division by zero in
    `minc`) is the bin-number formula `2·(int) pow(nobs, 0.4) ≤ 0` for some `nobs ≥ 1`; in exact arithmetic that cannot happen. -/
theorem goodness_never_faults :
    (∀ {α : Type} [Num α] (h : Hist α), h.WF → IdxOK h → 0 ≤ h.cmin → ∀ (e : Expect α), (∀ ex, e.expect = some ex → (ex.size : Int) = h.nb) →
      ∀ nfitted : Int, h.goodness e nfitted = .fault → ∃ nobs : Nat, 0 < nobs ∧ 2 * Num.toInt (Num.pow (Num.ofInt (nobs : Int)) (0.4 : α)) ≤ 0) ∧
    (∀ (h : Hist ℝ), h.WF → IdxOK h → 0 ≤ h.cmin → ∀ (e : Expect ℝ), (∀ ex, e.expect = some ex → (ex.size : Int) = h.nb) →
      ∀ nfitted : Int, h.goodness e nfitted ≠ .fault) :=
  ⟨fun h hwf hidx hc e hex nf hf => goodness_fault_only_from_pow h hwf hidx hc e hex nf hf,
   fun h hwf hidx hc e hex nf => goodness_no_fault_real h hwf hidx hc e hex nf⟩

/-- **`esl_histogram_Goodness` accounts for every count in the range it evaluates** (every numeric class): the observed counts of its re-bins
    add up to `Σ obs[bbase..imax]`, `bbase = max(cmin, emin if is_tailfit)`; eslOK ⇒ `*ret_nbins` is the number of re-bins and at least one
    degree of freedom is left (`nbins - nfitted - 1 > 0`). -/
theorem goodness_accounts_for_its_counts {α : Type} [Num α] (h : Hist α) (e : Expect α) (nfitted : Int) (g : Goodness α) (bins : List (Nat × α))
    (hg : h.goodness e nfitted = .val (g, bins)) (hne : bins ≠ []) :
    goodnessCount h.obs (h.imax + 1 - goodnessBase h e).toNat (goodnessBase h e) 0 = .val (binsObs bins) ∧
    (g.st = .ok → g.nbins = bins.length ∧ 0 < g.nbins - nfitted - 1) :=
  goodness_accounts h e nfitted g bins hg hne

/-- **…and that range is the raw data above its threshold** (ℚ, any history of accepted values): `Σ obs[b..imax]`, the `nobs` of `Goodness`'s first
    loop for a first evaluated bin `0 ≤ b ≤ imax+1` (so, by `goodness_accounts_for_its_counts`, the total of its re-bins), is the number of accepted
    values above `LBound(b)`. -/
theorem goodness_range_is_the_raw_data_above_its_threshold (h : Hist ℚ) (vs : List ℚ) (acc : Accounts h vs) (b : Int) (hb0 : 0 ≤ b) (hb1 : b ≤ h.imax + 1) :
    goodnessCount h.obs (h.imax + 1 - b).toNat b 0 = .val (vs.countP (fun x => decide (h.bmin + b * h.w < x))) :=
  goodnessCount_raw h vs acc b hb0 hb1

/-- non-vacuity of `goodness_never_faults` / `goodness_accounts_for_its_counts`: a histogram over ℝ with one value in one bin and expectation 1
    satisfies the hypotheses, and `esl_histogram_Goodness` gets as far as a non-empty re-binning holding that value -/
example : (h1.WF ∧ IdxOK h1 ∧ 0 ≤ h1.cmin ∧ (∀ ex, e1.expect = some ex → (ex.size : Int) = h1.nb)) ∧
    ∃ g bins, h1.goodness e1 0 = .val (g, bins) ∧ bins ≠ [] ∧ binsObs bins = 1 := ⟨h1_wf, goodness_example⟩

/-- **`esl_histogram_Plot` accounts for the data** (ℚ, any history of accepted values `vs`): no read outside `obs[]`; one row per bin
    `imin..imax`, each with the number of accepted values in that bin's interval; the printed counts add up to `n`. -/
theorem plot_accounts_for_data (h : Hist ℚ) (vs : List ℚ) (acc : Accounts h vs) :
    ∃ rows, h.plotObserved = .val rows ∧ rows.length = (h.imax + 1 - h.imin).toNat ∧ (rows.map (fun r => r.2)).sum = vs.length ∧
      ∀ r ∈ rows, h.imin ≤ r.1 ∧ r.1 ≤ h.imax ∧ r.2 = vs.countP (fun x => decide (inBin h.bmin h.w r.1 x)) :=
  plotObserved_accounts h vs acc

/-- **`esl_histogram_PlotSurvival` accounts for the data**, the empty histogram included (e843eeb): no read outside `obs[]`; nothing printed
    for an empty histogram; the last cumulative count printed is `n`. -/
theorem plot_survival_accounts_for_data (h : Hist ℚ) (vs : List ℚ) (acc : Accounts h vs) :
    ∃ first rows, h.plotSurvival = .val (first, rows) ∧ (vs = [] → first = false ∧ rows = []) ∧
      (first = true → 1 < vs.countP (fun x => decide (inBin h.bmin h.w h.imax x))) ∧ ∀ l ∈ rows.getLast?, l.2 = vs.length :=
  plotSurvival_accounts h vs acc

/-- `esl_histogram_PlotQQ` (observed part), every numeric class: on a well-formed histogram with `0 ≤ cmin ≤ nb` and `emin ≤ nb` (guaranteed by
    `expected_tail_emin_in_range`) it reads only inside `obs[]` and prints one row per bin `bbase..imax-1`. -/
theorem plot_qq_in_bounds {α : Type} [Num α] (h : Hist α) (hwf : h.WF) (hidx : IdxOK h) (hc : 0 ≤ h.cmin) (hcn : h.cmin ≤ h.nb) (e : Expect α)
    (he : e.emin ≤ h.nb) : ∃ rows, h.plotQQ e = .val rows ∧ rows.length = (h.imax - goodnessBase h e).toNat :=
  plotQQ_ok h hwf hidx hc hcn e he

/-- `esl_histogram_DeclareRounding` changes nothing but the flag -/
theorem declare_rounding_keeps_the_data (h : Hist ℚ) (vs : List ℚ) (acc : Accounts h vs) :
    Accounts h.declareRounding vs ∧ h.declareRounding.obs = h.obs ∧ h.declareRounding.isRounded = true :=
  declareRounding_accounts h vs acc

/-! ## Fits (the same model definitions read over ℝ)

Full statement of the property for the fits: *every* fitting routine returns a documented failure status or finite
parameters that maximise its log-likelihood. Proved below: exponential (global maximiser, unique in λ), Gumbel complete /
censored / fixed-λ (μ exact maximiser for the returned λ; λ stationary for the concave profile likelihood within the Newton
tolerance, hence (μ,λ) the global maximiser up to `n·10⁻⁵·|λ'-λ|`; termination). NOT proved (`partial`): binary64 rounding (L0);
the conjugate-gradient fits (Weibull, stretched exponential, truncated Gumbel, GEV) and the gamma generalized-Newton fit,
which are only monitored on the implementation's output. The log-normal `sigma` uses the `n-1` variance (not the ML `n`). -/

/-- `esl_exp_FitComplete` on non-empty data returns eslOK, `mu` = the smallest observation, `lambda = 1/(mean - mu)`. -/
theorem exp_fit_closed_form (xs : Array ℝ) (hn : 0 < xs.size) :
    ∃ mu : ℝ, expFitComplete xs = .res .ok #[mu, 1 / ((xs.toList.map (fun x => x - mu)).sum / xs.size)] ∧
      mu ∈ xs.toList ∧ ∀ x ∈ xs.toList, mu ≤ x :=
  expFitComplete_eq xs hn

/-- that pair is THE maximiser of the exponential log-likelihood `n log λ - λ Σ(xᵢ-μ)` over all admissible `μ' ≤ min xᵢ`, `λ' > 0`
    (data with two distinct values: `Σ(xᵢ - min) > 0`); `λ` is the unique maximiser at `μ = min xᵢ`. -/
theorem exp_fit_is_maximiser (xs : List ℝ) (mu : ℝ) (hmu : ∀ x ∈ xs, mu ≤ x) (hS : 0 < (xs.map (fun x => x - mu)).sum)
    (hn : 0 < xs.length) (mu' lam' : ℝ) (hmu' : mu' ≤ mu) (hl : 0 < lam') :
    llExp xs mu' lam' ≤ llExp xs mu (1 / ((xs.map (fun x => x - mu)).sum / xs.length)) ∧
    (llExp xs mu lam' = llExp xs mu (1 / ((xs.map (fun x => x - mu)).sum / xs.length)) → lam' = 1 / ((xs.map (fun x => x - mu)).sum / xs.length)) :=
  exp_fit_maximises xs mu hmu hS hn mu' lam' hmu' hl

example : (∀ x ∈ [(1 : ℝ), 3], (1 : ℝ) ≤ x) ∧ 0 < (([(1 : ℝ), 3]).map (fun x => x - 1)).sum := by
  constructor
  · intro x hx; simp at hx; rcases hx with rfl | rfl <;> norm_num
  · norm_num

/-- Gumbel, complete (`z = 0`) or left-censored data: for ANY `λ > 0` the location Lawless 4.1.5/4.2.3 computes is the exact
    maximiser of the log-likelihood in `μ`. -/
theorem gumbel_mu_is_maximiser (xs : List ℝ) (z phi lam : ℝ) (hn : 0 < xs.length) (hl : 0 < lam) (hS : 0 < gS xs z phi lam) (mu' : ℝ) :
    llGumbel xs z phi mu' lam ≤ llGumbel xs z phi (-(Real.log (gS xs z phi lam / xs.length)) / lam) lam :=
  gumbel_mu_maximises xs z phi lam hn hl hS mu'

example : 0 < gS [(0 : ℝ), 1] 0 0 1 := by
  unfold gS
  simp only [List.map_cons, List.map_nil, List.sum_cons, List.sum_nil, zero_mul, add_zero]
  positivity

/-- `lawless416` / `lawless422` (as coded) IS the derivative in `λ` of the profile log-likelihood, per sample. -/
theorem lawless_is_derivative (xs : List ℝ) (z phi lam : ℝ) (hn : 0 < xs.length) (hl : 0 < lam) (hS : 0 < gS xs z phi lam) :
    HasDerivAt (fun l => llGumbelProfile xs z phi l) (xs.length * lawlessF xs z phi lam) lam ∧
    llGumbelProfile xs z phi lam = llGumbel xs z phi (-(Real.log (gS xs z phi lam / xs.length)) / lam) lam :=
  ⟨lawless_is_profile_derivative xs z phi lam hn hl hS, llGumbelProfile_eq xs z phi lam hn hl hS⟩

/-- `esl_gumbel_FitComplete` = eslOK ⇒ `|∂profile/∂λ| < n·10⁻⁵` at the returned `λ` and `μ` is the exact `μ`-maximiser for it. -/
theorem gumbel_complete_fit_stationary (xs : Array ℝ) (mu lam : ℝ) (h : gumbelFitComplete xs = .res .ok #[mu, lam]) :
    |lawlessF xs.toList 0 0 lam| < (1e-5 : ℝ) ∧ mu = -(Real.log (gS xs.toList 0 0 lam / xs.size)) / lam :=
  gumbelFitComplete_ok xs mu lam h

/-- the same for `esl_gumbel_FitCensored` (`z` values censored at `phi`). -/
theorem gumbel_censored_fit_stationary (xs : Array ℝ) (z : Int) (phi mu lam : ℝ) (h : gumbelFitCensored xs z phi = .res .ok #[mu, lam]) :
    |lawlessF xs.toList z phi lam| < (1e-5 : ℝ) ∧ mu = -(Real.log (gS xs.toList z phi lam / xs.size)) / lam :=
  gumbelFitCensored_ok xs z phi mu lam h

/-- The Gumbel profile log-likelihood lies below each of its tangents (it is concave in `λ`). -/
theorem gumbel_profile_concave (xs : List ℝ) (z phi lam lam' : ℝ) (hz : 0 ≤ z) (hn : 0 < xs.length) (hl : 0 < lam) (hl' : 0 < lam')
    (hS : 0 < gS xs z phi lam) (hS' : 0 < gS xs z phi lam') :
    llGumbelProfile xs z phi lam' ≤ llGumbelProfile xs z phi lam + xs.length * lawlessF xs z phi lam * (lam' - lam) :=
  profile_below_tangent xs z phi lam lam' hz hn hl hl' hS hS'

/-- **Gumbel complete-data fit = global likelihood maximiser up to the Newton tolerance.** If `esl_gumbel_FitComplete` returns eslOK
    with `(μ, λ)`, `λ > 0`, then for EVERY `μ'` and EVERY `λ' > 0`:  `logL(μ', λ') ≤ logL(μ, λ) + n·10⁻⁵·|λ' - λ|`. -/
theorem gumbel_complete_fit_near_optimal (xs : Array ℝ) (mu lam : ℝ) (h : gumbelFitComplete xs = .res .ok #[mu, lam]) (hl : 0 < lam)
    (mu' lam' : ℝ) (hl' : 0 < lam') :
    llGumbel xs.toList 0 0 mu' lam' ≤ llGumbel xs.toList 0 0 mu lam + xs.size * (1e-5 : ℝ) * |lam' - lam| :=
  gumbelFitComplete_near_optimal xs mu lam h hl mu' lam' hl'

/-- the same for censored data (`z ≥ 0` values censored at `phi`). -/
theorem gumbel_censored_fit_near_optimal (xs : Array ℝ) (z : Int) (hz : 0 ≤ z) (phi mu lam : ℝ)
    (h : gumbelFitCensored xs z phi = .res .ok #[mu, lam]) (hl : 0 < lam) (mu' lam' : ℝ) (hl' : 0 < lam') :
    llGumbel xs.toList z phi mu' lam' ≤ llGumbel xs.toList z phi mu lam + xs.size * (1e-5 : ℝ) * |lam' - lam| :=
  gumbelFitCensored_near_optimal xs z hz phi mu lam h hl mu' lam' hl'

/-- `esl_gumbel_FitCompleteLoc` / `FitCensoredLoc` return exactly that `μ`-maximiser for the caller's `λ`. -/
theorem gumbel_loc_fits_closed_form (xs : Array ℝ) (z : Int) (phi lam : ℝ) (hn : 1 < xs.size) :
    gumbelFitCompleteLoc xs lam = .res .ok #[-(Real.log (gS xs.toList 0 0 lam / xs.size)) / lam] ∧
    gumbelFitCensoredLoc xs z phi lam = .res .ok #[-(Real.log (gS xs.toList z phi lam / xs.size)) / lam] :=
  ⟨gumbelFitCompleteLoc_eq xs lam hn, gumbelFitCensoredLoc_eq xs z phi lam hn⟩

/-- `esl_lognormal_FitComplete` over ℝ (its Kahan summation is the plain sum): `mu` = mean of `log xᵢ` — which for ANY `σ` is the exact
    maximiser of the log-normal log-likelihood in `μ` (`lognormal_mu_is_maximiser`) — and `sigma² = Σ(log xᵢ - mu)²/(n-1)`, the
    unbiased variance: `√(n/(n-1))` times the likelihood maximiser `Σ(…)²/n`, by the routine's design (not the ML estimate). -/
theorem lognormal_fit_closed_form (xs : Array ℝ) :
    lognormalFitComplete xs = .res .ok #[(xs.toList.map Real.log).sum / xs.size,
      Real.sqrt ((xs.toList.map (fun x => (Real.log x - (xs.toList.map Real.log).sum / xs.size) * (Real.log x - (xs.toList.map Real.log).sum / xs.size))).sum / ((xs.size : ℝ) - 1))] :=
  lognormalFitComplete_eq xs

theorem lognormal_mu_is_maximiser (a : List ℝ) (hn : 0 < a.length) (mu' : ℝ) :
    (a.map (fun x => (x - a.sum / a.length) * (x - a.sum / a.length))).sum ≤ (a.map (fun x => (x - mu') * (x - mu'))).sum :=
  mean_minimises_squares a hn mu'

/-- termination: Newton (100) and bisection (100) are capped in the code and total in the model; the one uncapped loop
    (`while (fx > 0.) right *= 2.`) ends within 2200 rounds whenever `right > 0` and `right·2²¹⁹⁹ > 1000` (every positive binary64),
    and both fits refuse `right ≤ 0` (`FitCensored` since b44f0f8, `FitComplete` since 6f20587) — the model's `.hang` outcome is unreachable. -/
theorem gumbel_fits_terminate (f : ℝ → ℝ × ℝ) (variance : ℝ) (b : Bool)
    (hr : b = true ∨ 0 < piConst / Num.sqrt ((6.0 : ℝ) * variance))
    (hbig : 0 < piConst / Num.sqrt ((6.0 : ℝ) * variance) → 1000 < piConst / Num.sqrt ((6.0 : ℝ) * variance) * 2 ^ 2199) :
    gumbelLambda f variance b ≠ .fault :=
  gumbelLambda_no_hang f variance b hr hbig

/-! ## The conjugate-gradient fits (model `Minimizer.lean` + `FitCG.lean`, compared with the C code on every run)

(Also modelled and compared: the gamma generalized-Newton fits and the count-histogram fits.) For these routines the property is claimed as: always a documented status, the location is the smallest observation, and a
return of eslOK means the optimiser's stopping rule held. That the point reached is the global likelihood maximiser is NOT a
theorem (monitored on the implementation: local pattern search + recovery on exact quantile grids). -/

/-- `esl_min_ConjugateGradientDescent`, for EVERY objective, gradient, configuration, start point and numeric class: the outcome is a
    status in {eslOK, eslENOHALT, eslERANGE, eslENORESULT}; eslOK ⇒ the stopping rule held (zero start gradient, or
    `esl_DCompare(fx, oldfx, cg_rtol, cg_atol)`, or a zero conjugate direction) and `fx` is finite; failures carry no "converged" claim. -/
theorem cg_return_means_stopping_rule {α : Type} [Num α] (cfg : MinCfg α) (f : Array α → α) (df : Option (Array α → Array α)) (x0 : Array α) :
    CGPost cfg (cgd cfg f df x0) :=
  cgd_post cfg f df x0

/-- termination: the main loop (`max_iterations`) and `bracket()` (`brack_maxiter`) are capped in the code and total in the model; the one
    uncapped loop is `brent()`'s `while (1)`: the model's `.hang` outcome arises ONLY from a line search exceeding 4·10⁸ passes
    (never observed; the C side is watched by a timer). Since bad2f4e a non-finite interval ends that loop at once. -/
theorem cg_hangs_only_in_brent {α : Type} [Num α] (cfg : MinCfg α) (f : Array α → α) (df : Option (Array α → Array α)) (x0 : Array α)
    (h : (cgd cfg f df x0).1 = .hang) : ∃ (fline : α → α) (a b : α), brentCG cfg fline a b = none :=
  cgd_hang cfg f df x0 h

/-- `esl_wei_FitComplete` and `esl_sxp_FitComplete`: documented status, `mu = esl_vec_DMin(x)`, eslOK ⇒ stopping rule. -/
theorem weibull_sxp_fit_post {α : Type} [Num α] (xs : Array α) (st : St) (ps : Array α) :
    (weiFitComplete xs = .res st ps →
      (st = .ok ∨ st = .enohalt ∨ st = .erange ∨ st = .enoresult) ∧ ps.getD 0 Num.zero = vmin xs ∧ ps.size = 3 ∧
      (st = .ok → (weiCG xs).2.2 = .converged ∨ (weiCG xs).2.2 = .zeroDirection ∨ (weiCG xs).2.2 = .zeroGradient)) ∧
    (sxpFitComplete xs = .res st ps →
      (st = .ok ∨ st = .enohalt ∨ st = .erange ∨ st = .enoresult) ∧ ps.getD 0 Num.zero = vmin xs ∧ ps.size = 3 ∧
      (st = .ok → (sxpCG xs).2.2 = .converged ∨ (sxpCG xs).2.2 = .zeroDirection ∨ (sxpCG xs).2.2 = .zeroGradient)) :=
  ⟨weiFit_post xs st ps, sxpFit_post xs st ps⟩

/-- `esl_gumbel_FitTruncated`: status in {eslOK, eslEINVAL (n ≤ 1), eslENORESULT (all values equal, or no convergence), eslERANGE};
    every failure returns `(0, 0)`; eslOK ⇒ stopping rule. -/
theorem truncated_gumbel_fit_post {α : Type} [Num α] (xs : Array α) (phi : α) (st : St) (ps : Array α)
    (h : gumbelFitTruncated xs phi = .res st ps) :
    (st = .ok ∨ st = .einval ∨ st = .enoresult ∨ st = .erange) ∧ ps.size = 2 ∧ (st ≠ .ok → ps = #[Num.zero, Num.zero]) ∧
    (st = .ok → (tevdCG xs phi).2 = .converged ∨ (tevdCG xs phi).2 = .zeroDirection ∨ (tevdCG xs phi).2 = .zeroGradient) :=
  gumbelFitTruncated_post xs phi st ps h

/-- `esl_wei_FitCompleteBinned`: documented status, documented location (`phi` after `SetExpectedTail` (`is_tailfit`), else `xmin`, or
    `LBound(imin)` for rounded data). -/
theorem weibull_binned_fit_post {α : Type} [Num α] (h : Hist α) (tailfit : Bool) (st : St) (ps : Array α) (hr : weiFitCompleteBinned h tailfit = .res st ps) :
    (st = .ok ∨ st = .enohalt ∨ st = .erange ∨ st = .enoresult) ∧ ps.size = 3 ∧
    ps.getD 0 Num.zero = (if tailfit then h.phi else if h.isRounded then h.lbound h.imin else h.xmin) :=
  weiFitBinned_post h tailfit st ps hr

/-- `esl_gam_FitCompleteBinned` (moments of the bin midpoints, then ≤100 bracketing and ≤100 bisection steps on `tau_function`): total;
    status in {eslOK, eslEINVAL, eslENOHALT}. -/
theorem gamma_binned_fit_post {α : Type} [Num α] (h : Hist α) (st : St) (ps : Array α) (hr : gamFitCompleteBinned h = .res st ps) :
    (st = .ok ∨ st = .einval ∨ st = .enohalt) ∧ ps.size = 3 :=
  gamFitBinned_post h st ps hr

/-- the gamma fits (`esl_gam_FitComplete`, `esl_gam_FitCountHistogram` via `gam_fitting_engine`, generalized Newton): at most 100 rounds
    (total), status in {eslOK, eslENOHALT, eslERANGE}; eslOK ⇒ `(lambda, tau) = (tau/xbar, tau)` and both stopping tests
    `esl_DCompare(old_tau, tau, 1e-6, 1e-6)`, `esl_DCompare(old_fx, fx, 1e-6, 1e-6)` held. -/
theorem gamma_engine_post {α : Type} [Num α] (xbar logxbar : α) (st : St) (ps : Array α) (h : gamFittingEngine xbar logxbar = .res st ps) :
    (st = .ok ∨ st = .enohalt ∨ st = .erange) ∧ ps.size = 2 ∧
    (st = .ok → ∃ tau oldtau fx oldfx : α, ps = #[tau / xbar, tau] ∧ dcompare oldtau tau (1e-6 : α) (1e-6 : α) = true ∧
        dcompare oldfx fx (1e-6 : α) (1e-6 : α) = true) :=
  gamFittingEngine_post xbar logxbar st ps h


/-! ## The solvers themselves: `esl_rootfinder.c` and the line searches of `esl_minimizer.c` (models `Rootfinder.lean`, `Minimizer.lean`;
driven bit-for-bit against the C functions — including the static `bracket()` and `brent()` — on shared objective families) -/

/-- `esl_root_Bisection`, every function, configuration and numeric class (binary64 included): total — at most `max_iter - R->iter` rounds —
    with status eslOK, eslEINVAL (`f(xl)·f(xr) ≥ 0`; `*ret_x = 0`, counter untouched) or eslENOHALT (`*ret_x = 0`, `R->iter = max_iter + 1`). -/
theorem bisection_total_documented_status {α : Type} [Num α] (cfg : RootCfg α) (f : α → α) (iter0 : Int) (xl xr : α) :
    let r := rootBisection cfg f iter0 xl xr
    r.st = .ok ∨ (r.st = .einval ∧ r.x = Num.zero ∧ r.iter = iter0 ∧ Num.geb (f xl * f xr) Num.zero = true) ∨
    (r.st = .enohalt ∧ r.x = Num.zero ∧ r.iter = iter0 + (cfg.maxIter - iter0).toNat + 1) :=
  rootBisection_status cfg f iter0 xl xr

/-- **Bisection keeps the root bracketed and halves the bracket** (ℝ; any function, continuous or not). From `xl < xr`: eslEINVAL iff
    `f(xl)·f(xr) ≥ 0`; otherwise the final `R->xl < R->xr` lie inside `[xl, xr]`, still satisfy `f(R->xl)·f(R->xr) < 0`, and after `j` narrowing
    steps `(R->xr - R->xl)·2^j = xr - xl`; eslOK ⇒ `*ret_x` is the midpoint of that bracket and the stopping rule held; eslENOHALT ⇒ all
    `max_iter - iter` rounds were used. -/
theorem bisection_keeps_root_bracketed (cfg : RootCfg ℝ) (f : ℝ → ℝ) (iter0 : Int) (xl xr : ℝ) (hlt : xl < xr) :
    let r := rootBisection cfg f iter0 xl xr
    (0 ≤ f xl * f xr ∧ r.st = .einval) ∨
    (f xl * f xr < 0 ∧ f r.xl * f r.xr < 0 ∧ xl ≤ r.xl ∧ r.xr ≤ xr ∧ r.xl < r.xr ∧
      ∃ j : Nat, j ≤ (cfg.maxIter - iter0).toNat ∧ (r.xr - r.xl) * 2 ^ j = xr - xl ∧ r.iter = iter0 + j + 1 ∧
        ((r.st = .ok ∧ r.x = (r.xl + r.xr) / 2 ∧ (f r.x = 0 ∨ r.xr - r.xl < bisTol cfg r.xl r.xr r.x ∨ |f r.x| < cfg.residTol)) ∨
         (r.st = .enohalt ∧ j = (cfg.maxIter - iter0).toNat ∧ r.x = 0))) := by
  by_cases h : 0 ≤ f xl * f xr
  · exact Or.inl ⟨h, rootBisection_einval cfg f iter0 xl xr h⟩
  · rw [rootBisection_of_sign_change cfg f iter0 xl xr (not_le.1 h)]
    exact Or.inr ⟨not_le.1 h, bisectionLoop_spec cfg f _ iter0 xl xr hlt (not_le.1 h)⟩

example : (-1 : ℝ) < 1 ∧ (fun x : ℝ => x) (-1) * (fun x : ℝ => x) 1 < 0 := by norm_num

/-- `esl_root_NewtonRaphson`, every function, configuration and numeric class: total (at most `max_iter - R->iter` steps); eslOK exactly through
    the stopping rule (`f(x) == 0`, or `|x - x0|` below the step threshold, or `|f(x)| < residual_tol`), otherwise eslENOHALT. -/
theorem newton_root_total_documented_status {α : Type} [Num α] (cfg : RootCfg α) (fdf : α → α × α) (iter0 : Int) (x0 guess : α) :
    let r := rootNewton cfg fdf iter0 x0 guess
    (r.st = .ok ∧ (Num.eqb (fdf r.x).1 Num.zero = true ∨
        (Num.ltb (Num.abs (r.x - r.xl)) (newtonTol cfg r.x) || Num.ltb (Num.abs (fdf r.x).1) cfg.residTol) = true)) ∨
    (r.st = .enohalt ∧ r.iter = iter0 + (cfg.maxIter - iter0).toNat + 1) :=
  rootNewton_status cfg fdf iter0 x0 guess

/-- **Bisection succeeds wherever the root lies** (ℝ, any function; the repair 8354c02 removed the implicit "root must be positive" condition):
    `abs_tolerance > 0`, `rel_tolerance ≥ 0`, `xl < xr` with a sign change, and enough rounds left that `xr - xl < abs_tolerance·2^k`
    (`k + 1 ≤ max_iter - R->iter`; 100 rounds and 1e-12 cover every bracket narrower than 6·10¹⁷) ⇒ eslOK, `*ret_x` is the midpoint of a
    sub-bracket of `[xl, xr]` across which `f` still changes sign. -/
theorem bisection_converges (cfg : RootCfg ℝ) (f : ℝ → ℝ) (iter0 : Int) (xl xr : ℝ) (k : Nat) (ha : 0 < cfg.absTol) (hr : 0 ≤ cfg.relTol)
    (hlt : xl < xr) (hs : f xl * f xr < 0) (hk : (cfg.maxIter - iter0).toNat = k + 1) (hw : xr - xl < cfg.absTol * 2 ^ k) :
    let r := rootBisection cfg f iter0 xl xr
    r.st = .ok ∧ r.x = (r.xl + r.xr) / 2 ∧ xl ≤ r.xl ∧ r.xr ≤ xr ∧ r.xl < r.xr ∧ f r.xl * f r.xr < 0 := by
  rw [rootBisection_of_sign_change cfg f iter0 xl xr hs, hk]
  have hok := bisectionLoop_converges cfg f ha hr k iter0 xl xr (f xl) (f xr) hw
  obtain ⟨a, b, c, d, j, _, _, _, hcase⟩ := bisectionLoop_spec cfg f (k + 1) iter0 xl xr hlt hs
  rcases hcase with ⟨_, hx, _⟩ | ⟨he, _, _⟩
  · exact ⟨hok, hx, b, c, d, a⟩
  · rw [hok] at he; cases he

example : (0 : ℝ) < (RootCfg.default : RootCfg ℝ).absTol ∧ (0 : ℝ) ≤ (RootCfg.default : RootCfg ℝ).relTol := by
  constructor <;> (simp only [RootCfg.default]; norm_num)

/-- regression theorem for 8354c02, exact arithmetic: `x² - 2` on `[-3,-1]` converges exactly as on `[1,3]` (mirror-image roots) -/
theorem bisection_negative_root_regression :
    (rootBisection (RootCfg.default : RootCfg ℚ) sq2 0 (-3) (-1)).st = .ok ∧
    (rootBisection (RootCfg.default : RootCfg ℚ) sq2 0 1 3).st = .ok ∧
    (rootBisection (RootCfg.default : RootCfg ℚ) sq2 0 (-3) (-1)).x = -(rootBisection (RootCfg.default : RootCfg ℚ) sq2 0 1 3).x :=
  bisection_negative_root_converges

/-- **`bracket()` post-condition** (ℝ; any line function `t ↦ f(ori + t·d)`, any non-zero first step, any `brack_maxiter`): a returned triplet has
    `a < b < c`, carries the function values at those abscissae, `f(b) ≤ f(a)`, `f(b) ≤ f(c)`, and `f(b) ≤ f(0)` — the middle point is never
    worse than the point the line search starts from. (No result ⇒ eslENORESULT after `brack_maxiter + 1` rounds; total by the cap.) -/
theorem bracket_postcondition (cfg : MinCfg ℝ) (fline : ℝ → ℝ) (firststep : ℝ) (hfs : firststep ≠ 0) (b : Bracket ℝ)
    (h : bracketCG cfg fline (fline 0) firststep = some b) :
    b.ax < b.bx ∧ b.bx < b.cx ∧ (b.fa = fline b.ax ∧ b.fb = fline b.bx ∧ b.fc = fline b.cx) ∧
    b.fb ≤ b.fa ∧ b.fb ≤ b.fc ∧ b.fb ≤ fline 0 :=
  bracketCG_spec cfg fline firststep hfs b h

/-- **`brent()` descends from ITS start point** (ℝ; any line function, any interval and tolerances): the returned `fx` is the line function at the
    returned abscissa and `fx ≤ f(a + c·(b-a))`, the golden-section point the search starts from. That point is not `bracket()`'s `bx`. -/
theorem brent_descends_from_its_start (cfg : MinCfg ℝ) (fline : ℝ → ℝ) (a b x fx : ℝ) (h : brentCG cfg fline a b = some (x, fx)) :
    fx = fline x ∧ fx ≤ fline (a + goldC * (b - a)) :=
  brentCG_descent cfg fline a b x fx h

/-- what happens on NaN/∞ input (the non-termination repaired in bad2f4e), every numeric class: a non-finite interval midpoint or start point
    ends `brent()` at once with `fx = +inf` (which `esl_min_ConjugateGradientDescent` turns into eslERANGE). -/
theorem brent_nonfinite_interval_exits {α : Type} [Num α] (cfg : MinCfg α) (fline : α → α) (a b : α)
    (h : Num.isFinite ((0.5 : α) * (a + b)) = false ∨ Num.isFinite (a + goldC * (b - a)) = false) :
    brentCG cfg fline a b = some (a + goldC * (b - a), Num.one / Num.zero) :=
  brent_nonfinite_exit cfg fline a b h

/-- **`*opt_fx` is the objective at the returned point**: whenever `esl_min_ConjugateGradientDescent` answers eslOK or eslENOHALT, `fx = f(x)`
    — every objective, gradient, configuration, start point, and every numeric class in which `1/0` tests non-finite (binary64) or in which
    nothing is non-finite (ℝ, ℚ). (`max_iterations < 1`: `f(x0)` since 6da6a89; before, an uninitialised stack slot.) -/
theorem cg_value_is_objective_at_result {α : Type} [Num α] (hinf : InfOK α) (cfg : MinCfg α) (f : Array α → α)
    (df : Option (Array α → Array α)) (x0 : Array α) (st : St) (x : Array α) (fx : α)
    (h : (cgd cfg f df x0).1 = .res st x fx) (hst : st = .ok ∨ st = .enohalt) : fx = f x :=
  cgd_value hinf cfg f df x0 st x fx h hst

example : InfOK ℝ := infOK_r

/-- **DESCENT IS NOT A PROPERTY OF THE CODE.** Exact arithmetic, default configuration: started at the global minimiser `0` of the needle
    `f(0) = 0, f(x) = 1 + 2x (x > 0), 1 - x (x < 0)`, `esl_min_ConjugateGradientDescent` returns eslOK with `fx > f(x0)`. What IS proved:
    `bracket_postcondition` (`f(bx) ≤ f(start)`) and `brent_descends_from_its_start`; the gap is that `brent()` restarts from the golden-section
    point of `[ax, cx]` instead of `bx`. Reproduced bit-for-bit by the C code (corpus `cgd-not-a-descent-method`). -/
theorem cg_is_not_a_descent_method : cgWorse (cgd (MinCfg.null : MinCfg ℚ) needle1 none #[0]).1 (needle1 #[0]) = true :=
  cgd_needle_worse_than_start


/-- the driver prints — and the check compares with the C code's `ESL_MIN_DAT` table (`niter`, `fx[]`, `brack_n[]`, `brent_n[]`, `nfunc[]`) —
    the statistics of `cgdT`; dropping the statistics gives exactly `cgd`, the function all theorems here are about. Every numeric class. -/
theorem cg_statistics_are_of_the_proved_run {α : Type} [Num α] (cfg : MinCfg α) (f : Array α → α) (df : Option (Array α → Array α)) (x0 : Array α) :
    (cgdT cfg f df x0).1 = cgd cfg f df x0 :=
  cgdT_fst cfg f df x0

/-- **termination within `max_iterations`**, every objective / gradient / configuration / start / numeric class: the table has at most
    `max_iterations` completed rows and every `bracket()` call used at most `brack_maxiter` extension rounds (`brent()`: see
    `cg_hangs_only_in_brent`); with `cg_return_means_stopping_rule`: the status is eslENOHALT exactly when the rows ran out. -/
theorem cg_terminates_within_max_iterations {α : Type} [Num α] (cfg : MinCfg α) (f : Array α → α) (df : Option (Array α → Array α)) (x0 : Array α) :
    (cgdT cfg f df x0).2.rows.length ≤ cfg.maxIter ∧ ∀ r ∈ (cgdT cfg f df x0).2.rows, r.brackN ≤ cfg.brackMaxIter :=
  cgdT_bounds cfg f df x0

/-- **Monotone descent, as far as it is true.** Full statement wanted: `*opt_fx ≤ f(x₀)` for every run. That is false
    (`cg_is_not_a_descent_method`). Proved (ℝ, every objective, gradient, configuration, start): on eslOK / eslENOHALT either
    `*opt_fx ≤ f(x₀)`, or the run contains a line search in which `brent()` returned a value strictly above the `f(bx)` that `bracket()`
    had just found on the same line (`bx` is never worse than the line's origin: `bracket_postcondition`). So the one and only way to
    lose ground is `brent()` restarting from the golden-section point of `[ax, cx]` instead of from `bx`. The C side's `fx[]` trace is
    compared with the model's on every run and the number of non-monotone traces is reported in the evidence. -/
theorem cg_descends_unless_brent_loses_the_bracket_point (cfg : MinCfg ℝ) (f : Array ℝ → ℝ) (df : Option (Array ℝ → Array ℝ)) (x0 : Array ℝ)
    (st : St) (x : Array ℝ) (fx : ℝ) (h : (cgd cfg f df x0).1 = .res st x fx) (hst : st = .ok ∨ st = .enohalt) :
    fx ≤ f x0 ∨ BrentLostBracketPoint cfg :=
  cgd_descent cfg f df x0 st x fx h hst

/-- non-vacuity: `max_iterations = 0` on `f(x) = x₀·x₀` (numeric gradient non-zero at 1) returns eslENOHALT with `fx = f(x₀)` -/
example : (cgd ({ (MinCfg.null : MinCfg ℝ) with maxIter := 0 }) (fun x => x.getD 0 0 * x.getD 0 0) (some (fun x => #[2 * x.getD 0 0])) #[1]).1
    = .res .enohalt #[1] 1 := by
  have h : ¬ ((1.0 : ℝ) = 0) := by norm_num
  simp [cgd, cgLoop, negGradient, allZero, Num.isFinite, h]

/-! ### The Weibull and gamma likelihoods (what the conjugate-gradient / generalized-Newton fits optimise)

Full statement of the property for these fits: the returned `(λ, τ)` maximise the log-likelihood. Proved: what the objective is, its
derivatives, positivity of the returned parameters, and that stationarity ⇒ GLOBAL maximum for the Weibull (concavity in `(τ, τ log λ)`),
with an explicit bound on the shortfall in terms of the derivatives at the returned point. NOT proved (`_partial`): that the optimiser's
stopping rule (`esl_DCompare(fx, oldfx, 1e-5, 1e-10)`) makes those derivatives small — it tests the decrease of `f`, not the gradient. -/

/-- `wei_func` (the objective `esl_wei_FitComplete` hands to the optimiser) over ℝ: minus the Weibull log-likelihood, in `w = log λ` and
    `τ = exp v`, of the samples above `mu` (samples equal to `mu` are skipped when `τ ≠ 1`: the code's convention since 935fded). -/
theorem weibull_objective_is_neg_loglik (xs : Array ℝ) (mu w v : ℝ) (hmu : ∀ x ∈ xs.toList, mu ≤ x) (hv : Real.exp v ≠ 1) :
    weiFunc xs mu #[w, v] = -(llWei ((xs.toList.filter (fun x => decide (x ≠ mu))).map (fun x => Real.log (x - mu))) w (Real.exp v)) :=
  weiFunc_eq xs mu w v hmu hv

example : (∀ x ∈ (#[(1 : ℝ), 2, 4] : Array ℝ).toList, (1 : ℝ) ≤ x) ∧ Real.exp (1 : ℝ) ≠ 1 := by
  constructor
  · intro x hx; simp at hx; rcases hx with rfl | rfl | rfl <;> norm_num
  · intro h; have := Real.add_one_le_exp (1 : ℝ); linarith

/-- the partial derivatives of the Weibull log-likelihood in `log λ` and in `τ` (`HasDerivAt`, any data) -/
theorem weibull_loglik_derivatives (ls : List ℝ) (w tau : ℝ) (ht : 0 < tau) :
    HasDerivAt (fun w => llWei ls w tau) (llWeiDw ls w tau) w ∧ HasDerivAt (fun t => llWei ls w t) (llWeiDtau ls w tau) tau :=
  ⟨llWei_hasDerivAt_w ls w tau, llWei_hasDerivAt_tau ls w tau ht⟩

/-- **Weibull: the distance of ANY point from the global maximum is bounded by its derivatives** (concavity in `(τ, θ = τ log λ)`): for
    every data set, every `(w, τ)`, `τ > 0`, and every competitor `(w', τ')`, `τ' > 0`:
    `logL(w', τ') ≤ logL(w, τ) + (∂τ - w·∂w/τ)(τ' - τ) + (∂w/τ)(τ'w' - τw)`. -/
theorem weibull_fit_optimality_certificate (ls : List ℝ) (w tau w' tau' : ℝ) (ht : 0 < tau) (ht' : 0 < tau') :
    llWei ls w' tau' ≤ llWei ls w tau + (llWeiDtau ls w tau - w * (llWeiDw ls w tau / tau)) * (tau' - tau)
      + (llWeiDw ls w tau / tau) * (tau' * w' - tau * w) :=
  llWei_near_optimal ls w tau w' tau' ht ht'

/-- **Weibull: a stationary point is THE global maximum** — whatever the data, the likelihood has no other local maxima, saddle points
    or plateaus for the optimiser to stop at. (That the conjugate-gradient result IS stationary is the part not proved: `_partial`.) -/
theorem weibull_stationary_is_global_maximiser_partial (ls : List ℝ) (w tau : ℝ) (ht : 0 < tau) (hw : llWeiDw ls w tau = 0)
    (hτ : llWeiDtau ls w tau = 0) (w' tau' : ℝ) (ht' : 0 < tau') : llWei ls w' tau' ≤ llWei ls w tau :=
  llWei_stationary_is_max ls w tau ht hw hτ w' tau' ht'

/-- **…and it is the ONLY maximiser** (at least one sample above `mu`): every other admissible `(w', τ')` has a strictly smaller log-likelihood. -/
theorem weibull_stationary_point_is_unique_maximiser_partial (ls : List ℝ) (hls : ls ≠ []) (w tau : ℝ) (ht : 0 < tau) (hw : llWeiDw ls w tau = 0)
    (hτ : llWeiDtau ls w tau = 0) (w' tau' : ℝ) (ht' : 0 < tau') (hne : tau' ≠ tau ∨ w' ≠ w) : llWei ls w' tau' < llWei ls w tau :=
  llWei_stationary_unique ls hls w tau ht hw hτ w' tau' ht' hne

/-- the reparameterisation the code relies on: whatever the optimiser returns, `esl_wei_FitComplete` and `esl_sxp_FitComplete` hand back
    `mu` = the smallest observation, `lambda = exp(p[0]) > 0` and `tau = exp(p[1]) > 0` (ℝ) -/
theorem weibull_sxp_fit_parameters_positive (xs : Array ℝ) (st : St) (ps : Array ℝ)
    (h : weiFitComplete xs = .res st ps ∨ sxpFitComplete xs = .res st ps) :
    ps.size = 3 ∧ ps.getD 0 0 = vmin xs ∧ 0 < ps.getD 1 0 ∧ 0 < ps.getD 2 0 := by
  rcases h with h | h
  · exact fit2Result_pos (weiCG xs).1 (weiCG xs).2 st ps h
  · exact fit2Result_pos (sxpCG xs).1 (sxpCG xs).2 st ps h

/-- gamma (`esl_gam_FitComplete`, `gam_fitting_engine`): for EVERY shape `τ > 0` the rate `λ = τ/x̄` the engine returns (`gamma_engine_post`)
    is THE maximiser in `λ` of the log-likelihood, and `gam_nll(τ)`, whose decrease the engine monitors, is minus that profile
    log-likelihood per sample. (`lg` stands for `logΓ(τ)`, a constant in `λ`.) Stationarity in `τ` involves the digamma function, which the
    code approximates by its own series (`esl_stats_Psi`): not proved. -/
theorem gamma_rate_is_maximiser (xbar logxbar lg tau lam : ℝ) (hx : 0 < xbar) (ht : 0 < tau) (hl : 0 < lam) :
    (llGam1 xbar logxbar lg lam tau ≤ llGam1 xbar logxbar lg (tau / xbar) tau ∧
      (llGam1 xbar logxbar lg lam tau = llGam1 xbar logxbar lg (tau / xbar) tau → lam = tau / xbar)) ∧
    gamNll xbar logxbar tau = some (-(llGam1 xbar logxbar (logGamma tau) (tau / xbar) tau)) :=
  ⟨gamma_rate_max xbar logxbar lg tau lam hx ht hl, gamNll_is_profile xbar logxbar tau hx ht⟩

/-- **`tevd_grad` IS the gradient of `tevd_func`** (`esl_gumbel_FitTruncated` — the one fit that gives the optimiser an analytic gradient). ℝ, any data,
    in the regime where neither routine takes a numerical shortcut (`λ(φ-μ) ≤ 50`; `|exp(-y)| ≥ 5e-9` and `|exp(-exp(-y))| ≥ 5e-9` in
    `esl_gumbel_surv/logsurv`): the objective is the truncated-Gumbel negative log-likelihood `tevdNll` in `(μ, w = log λ)`, and the two numbers
    `tevd_grad` returns are its partial derivatives. (Inside the shortcut branches the code uses asymptotic forms: not claimed.) -/
theorem truncated_gumbel_gradient_is_derivative (xs : Array ℝ) (phi mu w : ℝ)
    (h0 : ¬ (50 : ℝ) < Real.exp w * (phi - mu))
    (h1 : ¬ |-(Real.exp (-(Real.exp w * (phi - mu))))| < (5e-9 : ℝ))
    (h2 : ¬ |Real.exp (-(Real.exp (-(Real.exp w * (phi - mu)))))| < (5e-9 : ℝ)) :
    tevdFunc xs phi #[mu, w] = tevdNll xs.toList phi mu w ∧
    ∃ gm gw, tevdGrad xs phi #[mu, w] = #[gm, gw] ∧
      HasDerivAt (fun m => tevdNll xs.toList phi m w) gm mu ∧ HasDerivAt (fun v => tevdNll xs.toList phi mu v) gw w :=
  ⟨tevdFunc_eq xs phi mu w h1 h2, _, _, tevdGrad_eq xs phi mu w h0 h1, tevdNll_hasDerivAt_mu xs.toList phi mu w, tevdNll_hasDerivAt_w xs.toList phi mu w⟩

/-- non-vacuity: `φ = μ = 0`, `λ = 1` lies in that regime -/
example : ¬ (50 : ℝ) < Real.exp 0 * ((0 : ℝ) - 0) ∧ ¬ |-(Real.exp (-(Real.exp 0 * ((0 : ℝ) - 0))))| < (5e-9 : ℝ) ∧
    ¬ |Real.exp (-(Real.exp (-(Real.exp 0 * ((0 : ℝ) - 0)))))| < (5e-9 : ℝ) := tevd_regime_example

/-- **`esl_exp_FitCompleteBinned` returns THE maximiser of the binned exponential likelihood** (a binned-histogram variant of the property, at
    full strength over ℝ). Complete or virtually censored histogram whose evaluated bins `cmin..imax` lie inside `obs[]`, `w > 0`: eslOK, the
    documented `μ` (`xmin`; `LBound(imin)` for rounded data; `phi` for a tail), `λ = (1/w)(log(S + N·w) - log S)` with `S = Σ nᵢ(aᵢ-μ)`, `N = Σ nᵢ`,
    and for EVERY `λ' > 0` the binned log-likelihood `Σ nᵢ log(e^{-λ'(aᵢ-μ)} - e^{-λ'(aᵢ+w-μ)}) = -λ'S + N log(1 - e^{-λ'w})` is not larger than at `λ`. -/
theorem exp_binned_fit_is_maximiser (h : Hist ℝ) (hds : h.datasetIs ≠ .trueCensored) (hc : 0 ≤ h.cmin) (hcn : h.cmin ≤ h.obs.size)
    (hi : h.imax < h.obs.size) (hw : 0 < h.w) :
    let mu := match h.datasetIs with | .complete => if h.isRounded then h.lbound h.imin else h.xmin | _ => h.phi
    let k := (h.imax - h.cmin + 1).toNat
    let S := wsum h.obs (fun j => h.lbound j - mu) k h.cmin
    let N := wsum h.obs (fun _ => 1) k h.cmin
    expFitCompleteBinned h = .res .ok #[mu, 1 / h.w * (Real.log (S + N * h.w) - Real.log S)] ∧
    (0 < S → 0 < N → ∀ lam' : ℝ, 0 < lam' → llExpBinned S N h.w lam' ≤ llExpBinned S N h.w (1 / h.w * (Real.log (S + N * h.w) - Real.log S))) :=
  expFitCompleteBinned_max h hds hc hcn hi hw

/-- the closed form IS the per-bin likelihood: `log(e^{-λ(a-μ)} - e^{-λ(a+δ-μ)}) = -λ(a-μ) + log(1 - e^{-λδ})` (`λ, δ > 0`) -/
theorem exp_binned_loglik_closed_form (a mu delta lam : ℝ) (hl : 0 < lam) (hd : 0 < delta) :
    Real.log (Real.exp (-lam * (a - mu)) - Real.exp (-lam * (a + delta - mu))) = -lam * (a - mu) + Real.log (1 - Real.exp (-lam * delta)) :=
  log_bin_prob a mu delta lam hl hd

/-- over ℝ, `esl_vec_DMin` is the smallest observation (non-empty data) -/
theorem cg_fit_location_is_minimum (xs : Array ℝ) (hn : 0 < xs.size) : vmin xs ∈ xs.toList ∧ ∀ x ∈ xs.toList, vmin xs ≤ x :=
  minOf_first_spec xs hn

/-- `sxp_complete_func` (the objective `esl_sxp_FitComplete` hands to the optimiser) over ℝ, data `≥ mu`: minus the stretched-exponential
    log-likelihood `n(log λ + log τ - logΓ(1/τ)) - Σ (λ(xᵢ-μ))^τ` of ALL `n` samples, in `w = p[0] = log λ`, `τ = exp p[1]`, with the code's own
    `esl_stats_LogGamma` as `logΓ` (samples equal to `mu` contribute the normaliser only). -/
theorem sxp_objective_is_neg_loglik (xs : Array ℝ) (mu w v : ℝ) (hmu : ∀ x ∈ xs.toList, mu ≤ x) :
    sxpFunc xs mu #[w, v] = -(llSxp (logGamma (1 / Real.exp v)) (xs.size : ℝ)
        ((xs.toList.filter (fun x => decide (x ≠ mu))).map (fun x => Real.log (x - mu))) w (Real.exp v)) :=
  sxpFunc_eq xs mu w v hmu

example : ∀ x ∈ (#[(1 : ℝ), 2, 4] : Array ℝ).toList, (1 : ℝ) ≤ x := by
  intro x hx; simp at hx; rcases hx with rfl | rfl | rfl <;> norm_num

/-- **Stretched exponential, shape in `λ`** (any data, any shape `τ`, any normaliser): `llSxpDw` is `∂/∂ log λ` of the log-likelihood; the
    log-likelihood lies below each of its tangents in `log λ` (concave), so the shortfall in `λ` of ANY point is bounded by the derivative
    there; a rate where the derivative vanishes is a global maximiser in `λ`, and the only one when a sample lies above `μ` and `τ ≠ 0`. -/
theorem sxp_rate_is_maximiser (lg n : ℝ) (ls : List ℝ) (w tau : ℝ) :
    HasDerivAt (fun w => llSxp lg n ls w tau) (llSxpDw n ls w tau) w ∧
    (∀ w' : ℝ, llSxp lg n ls w' tau ≤ llSxp lg n ls w tau + llSxpDw n ls w tau * (w' - w)) ∧
    (llSxpDw n ls w tau = 0 → ∀ w' : ℝ, llSxp lg n ls w' tau ≤ llSxp lg n ls w tau) ∧
    (llSxpDw n ls w tau = 0 → ls ≠ [] → tau ≠ 0 → ∀ w' : ℝ, w' ≠ w → llSxp lg n ls w' tau < llSxp lg n ls w tau) :=
  ⟨llSxp_hasDerivAt_w lg n ls w tau, fun w' => llSxp_below_tangent_w lg n ls w tau w', fun hst w' => llSxp_rate_max lg n ls w tau hst w',
   fun hst hls ht w' hw => llSxp_rate_unique lg n ls hls w tau ht hst w' hw⟩

/-- **…and that rate in closed form**: `λ^τ = n / (τ Σ (xᵢ-μ)^τ)` (`n > 0`, `τ > 0`, a sample above `μ`) is the stationary — hence, by
    `sxp_rate_is_maximiser`, THE maximising — rate for the shape `τ`. -/
theorem sxp_rate_closed_form (n : ℝ) (ls : List ℝ) (tau : ℝ) (hn : 0 < n) (ht : 0 < tau)
    (hS : 0 < (ls.map (fun l => Real.exp (tau * l))).sum) :
    llSxpDw n ls (Real.log (n / (tau * (ls.map (fun l => Real.exp (tau * l))).sum)) / tau) tau = 0 :=
  llSxp_rate_closed_form n ls tau hn ht hS

example : (0 : ℝ) < 2 ∧ (0 : ℝ) < 1 ∧ 0 < (([(0 : ℝ), 1]).map (fun l => Real.exp (1 * l))).sum := by
  refine ⟨by norm_num, by norm_num, ?_⟩
  simp only [List.map_cons, List.map_nil, List.sum_cons, List.sum_nil]
  have := Real.exp_pos (1 * 0); have := Real.exp_pos (1 * 1); linarith

/-- **`wei_binned_func` (objective of `esl_wei_FitCompleteBinned`) = `-Σ_b obs[b]·log(F(ub_b) - F(max(lb_b, μ)))`** over ℝ, `F = esl_wei_cdf`
    at `(μ, λ = e^w, τ = e^v)`: minus the multinomial log-likelihood of the binned counts, for any histogram, bin list, `μ`, `w`, `v`, provided
    every occupied bin has positive probability (otherwise the code answers `eslINFINITY`). -/
theorem weibull_binned_objective_is_neg_loglik (h : Hist ℝ) (bins : List (Int × Nat)) (mu w v : ℝ)
    (hpos : ∀ ic ∈ bins, ic.2 ≠ 0 → 0 < weiBinProb h mu (Real.exp w) (Real.exp v) ic.1) :
    weiBinnedFunc h bins mu #[w, v] = -(llWeiBinned h bins mu (Real.exp w) (Real.exp v)) :=
  weiBinnedFunc_eq h bins mu w v hpos

/-- non-vacuity: a bin list without occupied bins satisfies the hypothesis for every histogram (and the objective is then `0`) -/
example (h : Hist ℝ) : ∀ ic ∈ [((3 : Int), (0 : Nat))], ic.2 ≠ 0 → 0 < weiBinProb h 0 (Real.exp 0) (Real.exp 0) ic.1 := by
  intro ic hic h0; simp at hic; subst hic; exact absurd rfl h0

/-- `esl_wei_cdf` over ℝ is the Weibull distribution function: `0` at and below `μ`; above, `1 - exp(-(λ(x-μ))^τ)` (written with
    `(λ(x-μ))^τ = exp(τ(log λ + log(x-μ)))`) outside the small-argument branch, and the first-order term `(λ(x-μ))^τ` inside it. -/
theorem weibull_cdf_is_distribution_function (x mu w tau : ℝ) :
    weiCdf x mu (Real.exp w) tau =
      if x ≤ mu then 0
      else if Real.exp (tau * (w + Real.log (x - mu))) < 5e-9 then Real.exp (tau * (w + Real.log (x - mu)))
      else 1 - Real.exp (-(Real.exp (tau * (w + Real.log (x - mu))))) :=
  weiCdf_r x mu w tau


/-- `esl_gev_FitComplete` / `esl_gev_FitCensored` (`cens = some (z, phi)`), every data set and numeric class (binary64 with libm's `log1p`
    included): unless `brent()` hangs, the status is one of eslOK / eslENOHALT / eslERANGE / eslENORESULT, three parameters come back, and
    eslOK means the conjugate-gradient stopping rule held. -/
theorem gev_fit_post {α : Type} [Num α] [Log1p α] (xs : Array α) (cens : Option (Int × α)) (st : St) (ps : Array α)
    (h : gevFittingEngine xs cens = .res st ps) :
    (st = .ok ∨ st = .enohalt ∨ st = .erange ∨ st = .enoresult) ∧ ps.size = 3 ∧
    (st = .ok → (gevCG xs cens).2 = .converged ∨ (gevCG xs cens).2 = .zeroDirection ∨ (gevCG xs cens).2 = .zeroGradient) :=
  gevFit_post xs cens st ps h

/-- **`gev_func` is minus the GEV log-likelihood** (ℝ, `log1p x = log(1+x)`; complete data, every sample in the main branch of
    `esl_gev_logpdf`: `|αλ(x-μ)| ≥ 1e-12` and `1 + αλ(x-μ) > 0`): `Σ [log λ - (1+1/α)·log(1+αy) - exp(-log(1+αy)/α)]`, `y = λ(x-μ)`, `λ = e^w`. -/
theorem gev_objective_is_neg_loglik (xs : Array ℝ) (mu w a : ℝ) (h : ∀ x ∈ xs.toList, GevMain x mu w a) :
    gevFunc xs none #[mu, w, a] = gevNll xs.toList mu w a :=
  gevFunc_eq xs mu w a h

/-- **`gev_gradient` IS the gradient of `gev_func`** (ℝ; complete data, every sample in the main branch, `α ≠ 0`): the three components the
    code computes are the partial derivatives (`HasDerivAt`) of the objective in `μ`, in `w = log λ` and in `α`. -/
theorem gev_gradient_is_derivative (xs : Array ℝ) (mu w a : ℝ) (ha : a ≠ 0) (h : ∀ x ∈ xs.toList, GevMain x mu w a) :
    ∃ g0 g1 g2 : ℝ, gevGrad xs none #[mu, w, a] = #[g0, g1, g2] ∧
      HasDerivAt (fun m => gevNll xs.toList m w a) g0 mu ∧ HasDerivAt (fun v => gevNll xs.toList mu v a) g1 w ∧
      HasDerivAt (fun b => gevNll xs.toList mu w b) g2 a :=
  ⟨_, _, _, gevGrad_eq xs mu w a h, gevNll_hasDerivAt_mu xs.toList mu w a ha (fun x hx => (h x hx).2),
    gevNll_hasDerivAt_w xs.toList mu w a ha (fun x hx => (h x hx).2), gevNll_hasDerivAt_a xs.toList mu w a ha (fun x hx => (h x hx).2)⟩

/-- non-vacuity: `x = 1`, `μ = 0`, `λ = 1`, `α = 1` lies in the main branch (`αy = 1`, `1 + αy = 2`) -/
example : ∀ x ∈ (#[(1 : ℝ)] : Array ℝ).toList, GevMain x 0 0 1 := by
  intro x hx; simp at hx; subst hx
  unfold GevMain gevU
  simp only [Real.exp_zero]
  constructor
  · norm_num
  · norm_num


/-- `esl_sxp_FitCompleteBinned`, every histogram state and numeric class: documented status, three parameters, documented location (`phi`
    after `SetExpectedTail` (`is_tailfit`), else `xmin`, or `LBound(imin)` for rounded data). -/
theorem sxp_binned_fit_post {α : Type} [Num α] (h : Hist α) (tailfit : Bool) (st : St) (ps : Array α) (hr : sxpFitCompleteBinned h tailfit = .res st ps) :
    (st = .ok ∨ st = .enohalt ∨ st = .erange ∨ st = .enoresult) ∧ ps.size = 3 ∧
    ps.getD 0 Num.zero = (if tailfit then h.phi else if h.isRounded then h.lbound h.imin else h.xmin) :=
  sxpFitBinned_post h tailfit st ps hr

/-- **`sxp_complete_binned_func` = `-Σ_b obs[b]·log(F(ub_b) - F(max(lb_b, μ)))`** over ℝ, `F = esl_sxp_cdf` at `(μ, λ = e^w, τ = e^v)`: minus the
    multinomial log-likelihood of the binned counts, provided no occupied bin has probability exactly `0` (then the code answers `eslINFINITY`). -/
theorem sxp_binned_objective_is_neg_loglik (h : Hist ℝ) (bins : List (Int × Nat)) (mu w v : ℝ)
    (hpos : ∀ ic ∈ bins, ic.2 ≠ 0 → sxpBinProb h mu (Real.exp w) (Real.exp v) ic.1 ≠ 0) :
    sxpBinnedFunc h bins mu #[w, v] = -(llSxpBinned h bins mu (Real.exp w) (Real.exp v)) :=
  sxpBinnedFunc_eq h bins mu w v hpos

example (h : Hist ℝ) : ∀ ic ∈ [((3 : Int), (0 : Nat))], ic.2 ≠ 0 → sxpBinProb h 0 (Real.exp 0) (Real.exp 0) ic.1 ≠ 0 := by
  intro ic hic h0; simp at hic; subst hic; exact absurd rfl h0


/-- **Gamma: the likelihood equation in `τ`** (true Γ = Mathlib's `Real.Gamma`, `ψ = Γ'/Γ`): the profile log-likelihood `τ ↦ logL(λ = τ/x̄, τ)` per
    sample has derivative `log τ - log x̄ - ψ(τ) + mean log(x-μ)`, and for a fixed rate `λ` the derivative in `τ` is `log λ - ψ(τ) + mean log(x-μ)`. -/
theorem gamma_shape_likelihood_equation (xbar logxbar lam tau : ℝ) (hx : 0 < xbar) (ht : 0 < tau) :
    HasDerivAt (fun t => llGam1 xbar logxbar (Real.log (Real.Gamma t)) (t / xbar) t) (Real.log tau - Real.log xbar - digammaR tau + logxbar) tau ∧
    HasDerivAt (fun t => llGam1 xbar logxbar (Real.log (Real.Gamma t)) lam t) (Real.log lam - digammaR tau + logxbar) tau :=
  ⟨gamma_profile_hasDerivAt xbar logxbar tau hx ht, gamma_loglik_hasDerivAt_tau xbar logxbar lam tau ht⟩

example : (0 : ℝ) < 2 ∧ (0 : ℝ) < 1 := by norm_num

/-- **`gam_fitting_engine`'s iteration stops moving exactly at a root of its likelihood equation**: the update the model computes,
    `τ' = 1/(1/τ + g/d)` with `g = mean log(x-μ) - log x̄ + log τ - Ψ(τ)` and `d = τ - τ²Ψ'(τ) ≠ 0` (`Ψ`, `Ψ'` = whatever `esl_stats_Psi` /
    `esl_stats_Trigamma` return), satisfies `τ' = τ ↔ g = 0`. With `Ψ = ψ` that is `gamma_shape_likelihood_equation`'s derivative `= 0`;
    that the code's series equals `ψ` is NOT proved (`_partial`). -/
theorem gamma_engine_fixed_point_is_stationary_partial (xbar logxbar tau psi tg : ℝ) (hd : tau - tau * tau * tg ≠ 0) :
    (Num.one : ℝ) / (Num.one / tau + (logxbar - Num.log xbar + Num.log tau - psi) / (tau - tau * tau * tg)) = tau ↔
      logxbar - Real.log xbar + Real.log tau - psi = 0 := by
  rw [gamma_update_is_newton]; exact gamma_update_fixed_point tau _ _ hd

example : (2 : ℝ) - 2 * 2 * 1 ≠ 0 := by norm_num

/-- **`gev_func` on censored data** (`esl_gev_FitCensored`: `z` values censored at `φ`; ℝ, samples and `φ` in the main branch): the complete-data
    negative log-likelihood minus `z·log F(φ)` with `log F(φ) = -(1 + αλ(φ-μ))^(-1/α)`. -/
theorem gev_censored_objective_is_neg_loglik (xs : Array ℝ) (z : Int) (phi mu w a : ℝ) (h : ∀ x ∈ xs.toList, GevMain x mu w a)
    (hphi : GevMain phi mu w a) :
    gevFunc xs (some (z, phi)) #[mu, w, a] = gevNll xs.toList mu w a - (z : ℝ) * -Real.exp (-Real.log (gevU phi mu w a) / a) :=
  gevFunc_censored_eq xs z phi mu w a h hphi

/-- **Stretched exponential: the likelihood equation in `τ`** (true Γ = Mathlib's `Real.Gamma`, `ψ = Γ'/Γ`, any data, `τ > 0`): the derivative in `τ`
    of `n(log λ + log τ - logΓ(1/τ)) - Σ (λ(xᵢ-μ))^τ` is `n(1/τ + ψ(1/τ)/τ²) - Σ log(λ(xᵢ-μ))·(λ(xᵢ-μ))^τ`. (The code's `esl_stats_LogGamma` in place
    of `logΓ` is what `sxp_objective_is_neg_loglik` is about; that it approximates `logΓ` is not proved.) -/
theorem sxp_shape_likelihood_equation (n : ℝ) (ls : List ℝ) (w tau : ℝ) (ht : 0 < tau) :
    HasDerivAt (fun t => llSxp (Real.log (Real.Gamma (1 / t))) n ls w t) (llSxpDtau n ls w tau) tau :=
  llSxp_hasDerivAt_tau n ls w tau ht

example : (0 : ℝ) < 1 := by norm_num

/-- the reparameterisation `λ = exp(w)`: whatever the optimiser returns (any status), the GEV fits hand back a positive scale (ℝ) -/
theorem gev_fit_scale_positive (xs : Array ℝ) (cens : Option (Int × ℝ)) (st : St) (ps : Array ℝ) (h : gevFittingEngine xs cens = .res st ps) :
    0 < ps.getD 1 0 :=
  gevFit_scale_pos xs cens st ps h

/-- **`gev_gradient` IS the gradient of `gev_func` on censored data too** (`esl_gev_FitCensored`; ℝ, samples and `φ` in the main branch, `α ≠ 0`):
    objective `gevNll - z·log F(φ)` (`gev_censored_objective_is_neg_loglik`), and the three components the code computes are its partial
    derivatives in `μ`, `w = log λ`, `α`. -/
theorem gev_censored_gradient_is_derivative (xs : Array ℝ) (z : Int) (phi mu w a : ℝ) (ha : a ≠ 0) (h : ∀ x ∈ xs.toList, GevMain x mu w a)
    (hphi : GevMain phi mu w a) :
    ∃ g0 g1 g2 : ℝ, gevGrad xs (some (z, phi)) #[mu, w, a] = #[g0, g1, g2] ∧
      HasDerivAt (fun m => gevNll xs.toList m w a - (z : ℝ) * gevLogF phi m w a) g0 mu ∧
      HasDerivAt (fun v => gevNll xs.toList mu v a - (z : ℝ) * gevLogF phi mu v a) g1 w ∧
      HasDerivAt (fun b => gevNll xs.toList mu w b - (z : ℝ) * gevLogF phi mu w b) g2 a := by
  have hp : ∀ x ∈ xs.toList, 0 < gevU x mu w a := fun x hx => (h x hx).2
  refine ⟨_, _, _, gevGrad_censored_eq xs z phi mu w a h hphi, ?_, ?_, ?_⟩
  · exact ((gevNll_hasDerivAt_mu xs.toList mu w a ha hp).sub ((gevLogF_hasDerivAt_mu phi mu w a ha hphi.2).const_mul (z : ℝ))).congr_deriv (by ring)
  · exact ((gevNll_hasDerivAt_w xs.toList mu w a ha hp).sub ((gevLogF_hasDerivAt_w phi mu w a ha hphi.2).const_mul (z : ℝ))).congr_deriv (by ring)
  · exact ((gevNll_hasDerivAt_a xs.toList mu w a ha hp).sub ((gevLogF_hasDerivAt_a phi mu w a ha hphi.2).const_mul (z : ℝ))).congr_deriv (by ring)

/-- the `"%f"` model behind the byte-exact tie of `esl_histogram_Plot`'s text (`Stats/Format.lean`) rounds the exact binary value half-even to six
    decimals: `2⁻⁷ = 0.0078125 ↦ 0.007812` (tie, even), `3·2⁻⁷ = 0.0234375 ↦ 0.023438` (tie, odd), `2⁻¹⁰ = 0.0009765625 ↦ 0.000977`, `-2.5`;
    NaN/∞ are not bin bounds -/
theorem plot_number_format_rounds_half_even :
    fmtFBits 0x3f80000000000000 = some "0.007812" ∧ fmtFBits 0x3f98000000000000 = some "0.023438" ∧ fmtFBits 0x3f50000000000000 = some "0.000977" ∧
    fmtFBits 0xc004000000000000 = some "-2.500000" ∧ fmtFBits 0x7ff0000000000000 = none := by decide


/-- **`esl_histogram_SetTail(phi)` followed by `esl_exp_FitCompleteBinned` is the maximum-likelihood fit of exactly the accepted values above the
    threshold** — whatever was added before, however the histogram grew, with occupied bins below the threshold or not. `SetTail` succeeds with the
    bin boundary `φ' ∈ (phi - w, phi]`; if `φ'` is not above every occupied bin, the fit on the resulting histogram (the exact histogram read over ℝ,
    `Hist.toR`) answers eslOK, location `φ'`, `λ = (1/w)(log(S + N·w) - log S)` with `N` = the NUMBER OF ACCEPTED VALUES `> φ'` (the bins below
    `cmin` contribute nothing) and `S = Σ_{b ≥ cmin} obs[b]·(LBound(b) - φ')`; that `λ` maximises `-λ'S + N log(1 - e^{-λ'w})` over all `λ' > 0`. -/
theorem exp_tail_fit_is_ml_of_the_raw_tail (h : Hist ℚ) (vs : List ℚ) (acc : Accounts h vs) (phi : ℚ) (hfin : |phi| ≤ dblMaxQ)
    (hr : -2147483648 ≤ ⌈(phi - h.bmin) / h.w - 1⌉ ∧ ⌈(phi - h.bmin) / h.w - 1⌉ < 2147483647) :
    ∃ h' mass, h.setTail phi = .val (.ok, h', mass) ∧ h'.phi ≤ phi ∧ phi - h'.phi < h.w ∧
      (h'.cmin ≤ h.imax + 1 →
        let hR := h'.toR
        let k := (hR.imax - hR.cmin + 1).toNat
        let S := wsum hR.obs (fun j => hR.lbound j - hR.phi) k hR.cmin
        let N : ℝ := ((vs.countP (fun x => decide (h'.phi < x)) : Nat) : ℝ)
        expFitCompleteBinned hR = .res .ok #[((h'.phi : ℚ) : ℝ), 1 / hR.w * (Real.log (S + N * hR.w) - Real.log S)] ∧
        (0 < S → 0 < N → ∀ lam' : ℝ, 0 < lam' →
          llExpBinned S N hR.w lam' ≤ llExpBinned S N hR.w (1 / hR.w * (Real.log (S + N * hR.w) - Real.log S)))) :=
  exp_tail_fit_of_raw_data h vs acc phi hfin hr

/-- the count behind it, for any cutoff bin `0 ≤ b ≤ imax+1` of any history: `Σ obs[b..imax]` (the `N` of the closed form) is the number of accepted
    values above `LBound(b)` -/
theorem exp_tail_counts_only_the_tail (h : Hist ℚ) (vs : List ℚ) (acc : Accounts h vs) (b : Int) (hb0 : 0 ≤ b) (hb1 : b ≤ h.imax + 1) :
    wsum h.obs (fun _ => 1) (h.imax - b + 1).toNat b = ((vs.countP (fun x => decide (h.bmin + b * h.w < x)) : Nat) : ℝ) :=
  -- `hb0` is not needed: bins below 0 count as empty
  have _ := hb0
  exp_tail_N_counts_raw h vs acc b hb1

/-- **…and for a tail declared by mass** (`esl_histogram_SetTailByMass(pmass)`, `0 < pmass ≤ 1`, non-empty data, any history): the threshold is the
    lower bound `φ'` of an occupied-range bin; the exponential fit answers eslOK, location `φ'`, `λ = (1/w)(log(S + N·w) - log S)` with
    `N = No` = the number of accepted values `> φ'` (`≥ pmass·n`), and `λ` maximises the binned likelihood of exactly those values. -/
theorem exp_tail_fit_by_mass_is_ml_of_the_raw_tail (h : Hist ℚ) (vs : List ℚ) (acc : Accounts h vs) (hne : vs ≠ []) (p : ℚ) (hp0 : 0 < p) (hp1 : p ≤ 1) :
    ∃ h' mass, h.setTailByMass p = .val (.ok, h', mass) ∧ h'.no = vs.countP (fun x => decide (h'.phi < x)) ∧ p * vs.length ≤ h'.no ∧
      (let hR := h'.toR
       let k := (hR.imax - hR.cmin + 1).toNat
       let S := wsum hR.obs (fun j => hR.lbound j - hR.phi) k hR.cmin
       let N : ℝ := ((h'.no : Nat) : ℝ)
       expFitCompleteBinned hR = .res .ok #[((h'.phi : ℚ) : ℝ), 1 / hR.w * (Real.log (S + N * hR.w) - Real.log S)] ∧
       (0 < S → 0 < N → ∀ lam' : ℝ, 0 < lam' →
         llExpBinned S N hR.w lam' ≤ llExpBinned S N hR.w (1 / hR.w * (Real.log (S + N * hR.w) - Real.log S)))) :=
  exp_tail_fit_by_mass_of_raw_data h vs acc hne p hp0 hp1

end EaselModel.Props.C11
