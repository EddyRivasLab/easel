import EaselModel.Buffer.Open
import EaselModel.Buffer.Partition
import EaselModel.Buffer.ReadFetch
import EaselModel.Buffer.TokenOps
import EaselModel.Buffer.KeepLines
import EaselModel.Buffer.History
import EaselModel.Buffer.AllLines
import EaselModel.Buffer.Quiet
import EaselModel.Buffer.TotalHist
import EaselModel.Buffer.MemExact
import EaselModel.Buffer.Stable
import EaselModel.Buffer.Pinned
import EaselModel.Buffer.HistoryX
import EaselModel.Buffer.Retired
import EaselModel.Buffer.MemRealLemmas
import EaselModel.Buffer.MemRealStart
import EaselModel.Buffer.OpenFileLemmas
/-! # C05 — the input buffer behaves as a byte array with a cursor in every mode and history

Property theorems only; the lemmas are in `EaselModel/Buffer/*`. `Buf` is the model of `ESL_BUFFER`
(`EaselModel/Buffer/Model.lean`, mirrored from `esl_buffer.c` and tied to it by the differential run of every check);
`Abs = (src, cursor)` is the specification (`EaselModel/Buffer/Spec.lean`). None of the theorems bounds the input, the
page size (any `pagesize ≥ 1`) or the number of steps. -/
namespace EaselModel.Props.C05
open EaselModel.Buffer

/-- Every opener (string, stream, pipe, paged file, slurped file, mmap), every page size ≥ 1, every input: the initial
    window is well formed, satisfies the page guarantee, and denotes `(src, 0)`. -/
theorem open_wf (mode : Mode) (ps : Nat) (src : Bytes) (hps : 0 < ps) :
    WF (openBuf mode ps src) ∧ PG (openBuf mode ps src) ∧ (openBuf mode ps src).abs = ⟨src, 0⟩ :=
  openBuf_wf mode ps src hps

/-- `buffer_refill` preserves the window invariant, never faults, does not move the cursor of the abstract state, and
    answers `eslEOF` only when nothing is loaded behind the cursor and nothing is left in the stream. -/
theorem refill_wf (b : Buf) (nmin : Nat) (h : WF b) :
    WF (refill b nmin).2 ∧ (refill b nmin).2.abs = b.abs ∧
    ((refill b nmin).1 = .ok ∨ (refill b nmin).1 = .eof) ∧
    ((refill b nmin).1 = .eof → (refill b nmin).2.abs.suffix = []) := by
  have p := refill_post b nmin h
  refine ⟨p.wf, abs_of_frame p.frame, p.status, fun he => ?_⟩
  obtain ⟨h1, h2⟩ := p.eof_imp he
  show (refill b nmin).2.src.drop ((refill b nmin).2.base + (refill b nmin).2.pos) = []
  rw [p.wf.suffix_win, h2]
  have : (refill b nmin).2.win = [] := by
    apply List.eq_nil_of_length_eq_zero; rw [win_length]; omega
  rw [this]; rfl

/-- One call of `buffer_refill` restores the page guarantee `n - pos ≥ nmin + pagesize` (or exhausts the stream)
    whenever `nmin` bytes were loaded before the call. -/
theorem refill_guarantee (b : Buf) (nmin : Nat) (h : WF b) (hn : nmin ≤ b.n - b.pos) :
    nmin + (refill b nmin).2.pagesize ≤ (refill b nmin).2.n - (refill b nmin).2.pos ∨ (refill b nmin).2.rest = [] :=
  (refill_post b nmin h).guarantee hn

/-- `esl_buffer_GetLine` refines `specGetLine`: same status, same line bytes, same new cursor — for every mode, every
    page size, lines of any length (longer than the page, CR at a page edge, no final newline …); the window
    invariant and the page guarantee hold again afterwards and no memory access is out of bounds (`St.fault` is not
    the status, since `specGetLine` never yields it). `Loaded b` (an exhausted window means an exhausted stream; it follows from
    the page guarantee, `PG.loaded`) is what lets the line operations answer `eslEOF` at the end of the window. -/
theorem getLine_refines (b : Buf) (h : WF b) (hl : Loaded b) :
    WF (getLine b).2 ∧
    ((getLine b).1.st, (getLine b).1.bytes, (getLine b).2.abs) = specGetLine b.abs ∧
    (getLine b).1.n = (getLine b).1.bytes.length ∧ PG (getLine b).2 :=
  EaselModel.Buffer.getLine_refines b h hl

/-- `esl_buffer_FetchLine` / `FetchLineAsStr`: the same refinement (the copy is taken before the window may move);
    the `AsStr` variant reports the NUL terminator. -/
theorem fetchLine_refines (b : Buf) (asStr : Bool) (h : WF b) (hl : Loaded b) :
    WF (fetchLine b asStr).2 ∧
    ((fetchLine b asStr).1.st, (fetchLine b asStr).1.bytes, (fetchLine b asStr).2.abs) = specGetLine b.abs ∧
    (fetchLine b asStr).1.n = (fetchLine b asStr).1.bytes.length ∧ PG (fetchLine b asStr).2 ∧
    ((fetchLine b asStr).1.st = .ok → (fetchLine b asStr).1.z = asStr) :=
  EaselModel.Buffer.fetchLine_refines b asStr h hl

/-- `esl_buffer_Read` refines `specRead` for every byte count, page size and mode: `eslEOF` exactly when fewer than
    `k` bytes remain (cursor unchanged), otherwise exactly the next `k` bytes. -/
theorem read_refines (b : Buf) (k : Nat) (h : WF b) :
    WF (read b k).2 ∧
    ((read b k).1.st, (read b k).1.bytes, (read b k).2.abs) = specRead b.abs k ∧
    (read b k).1.n = (read b k).1.bytes.length ∧ PG (read b k).2 :=
  EaselModel.Buffer.read_refines b k h

/-- `esl_buffer_GetToken` refines `specToken sep`: separators skipped, `eslEOF` at end of input, `eslEOL` on LF/CRLF
    (also when the CR is the last loaded byte), else the token and the separators after it — every mode, every
    page size ≥ 1, every separator set (NUL always counts as a separator, as `strchr` makes it). The returned
    pointer is read after the last refill: the anchor set at the token start kept the token in the window. -/
theorem getToken_refines (b : Buf) (sep : Bytes) (h : WF b) :
    WF (getToken b sep).2 ∧
    ((getToken b sep).1.st, (getToken b sep).1.bytes, (getToken b sep).2.abs) = specToken b.abs sep ∧
    (getToken b sep).1.n = (getToken b sep).1.bytes.length ∧ PG (getToken b sep).2 :=
  EaselModel.Buffer.getToken_refines b sep h

/-- `esl_buffer_FetchToken` / `FetchTokenAsStr`: the same refinement. -/
theorem fetchToken_refines (b : Buf) (sep : Bytes) (asStr : Bool) (h : WF b) :
    WF (fetchToken b sep asStr).2 ∧
    ((fetchToken b sep asStr).1.st, (fetchToken b sep asStr).1.bytes, (fetchToken b sep asStr).2.abs) = specToken b.abs sep ∧
    (fetchToken b sep asStr).1.n = (fetchToken b sep asStr).1.bytes.length ∧ PG (fetchToken b sep asStr).2 ∧
    ((fetchToken b sep asStr).1.st = .ok → (fetchToken b sep asStr).1.z = asStr) :=
  EaselModel.Buffer.fetchToken_refines b sep asStr h

/-- Lines and their terminators partition the input exactly; bodies are LF-free; terminators are LF, CRLF, or (only
    for the last line) nothing; a body never ends in CR when the terminator is a bare LF: lines are the maximal runs
    between LF/CRLF terminators. `specLines` iterates `specLine`, the function `GetLine` computes (`getLine_refines`). -/
theorem lines_partition (src : Bytes) :
    (specLines src).flatMap (fun l => l.body ++ l.term) = src ∧
    (∀ l ∈ specLines src, LF ∉ l.body ∧ (l.term = [LF] ∨ l.term = [CR, LF] ∨ l.term = [])) ∧
    (∀ l ∈ specLines src, l.term = [LF] → l.body.getLast? ≠ some CR) ∧
    (∀ i, i + 1 < (specLines src).length → ∀ l, (specLines src)[i]? = some l → l.term ≠ []) :=
  EaselModel.Buffer.lines_partition src

/-- The line operations leave the anchor (in input coordinates) and its count as they found them — exactly: an anchor at
    or before the cursor is kept (`brkAnchor b = absAnchor b`, every history inside the API contract); an anchor AHEAD of
    the cursor (accepted by `esl_buffer_SetAnchor`, or left behind by an in-window rewind) is replaced by the call's own
    bracket `SetAnchor(cursor) … RaiseAnchor(cursor)` and is gone afterwards (`brkAnchor b = none`). `AnchOK`: a set anchor
    has a positive count; `NoFpNoAnchor`: no anchor without a stream; `KeepX A` / `KeepA`: input, page size, mode, stream and —
    while an anchor is set — its count are kept, and the anchor afterwards is `A` / the same. -/
theorem getLine_keeps_anchor (b : Buf) (h : WF b) (ha : AnchOK b) (hn : NoFpNoAnchor b) :
    KeepX b.brkAnchor b (getLine b).2 ∧ AnchOK (getLine b).2 ∧
    ((∀ a, b.anchor = some a → a ≤ b.pos) → KeepA b (getLine b).2) :=
  ⟨(getLine_keepX b h ha hn).1, (getLine_keepX b h ha hn).2, fun hle => (getLine_keep b h ha hn hle).1⟩

/-- `buffer_countline` = `esl_memnewline` of the whole rest of the input, independent of how the input is paged. -/
theorem countline_pagesize_independent (b : Buf) (h : WF b) (hlt : b.pos < b.n) :
    (countline b).1 = .ok ∧
    ((countline b).2.2.1, (countline b).2.2.2 - (countline b).2.2.1) = memnewline b.abs.suffix := by
  obtain ⟨_, _, _, c4⟩ := countline_spec b h
  obtain ⟨d1, d2, d3, _⟩ := c4 hlt
  refine ⟨d1, ?_⟩
  show _ = memnewline (b.src.drop (b.base + b.pos))
  rw [d2, d3]; simp

/-- **Refinement of whole histories** (the property at full strength, except pointer stability under stable anchors).
    For every input `src`, every opener, every page size `ps ≥ 1`, and every history of the 14 public operations
    (get/fetch line, get/fetch token, binary read, raw get/set, offset query and move, setting/raising plain and stable
    anchors, nested and re-set anchors, rewinds) that respects the API contract `ValidHist P` (anchors are set at the
    cursor or between the active anchor and the cursor; `SetOffset` targets a byte of the input ahead of the cursor or
    at/after the active anchor; `Set` stays within one guaranteed page `P ≤ ps` of the cursor): the sequence of
    (status, returned bytes, offset afterwards) observed on the model of `esl_buffer.c` equals that of the abstract
    specification "bytes + cursor" (`specStep`: `specLine`, `specTok`, `specRead` on the suffix at the cursor).
    In particular every reported offset is the true offset. -/
theorem history_spec (mode : Mode) (ps : Nat) (src : Bytes) (hps : 0 < ps) (P : Nat) (hP : P ≤ ps)
    (ops : List Op) (hv : ValidHist P (AState.init src) ops) :
    obsRun { b := openBuf mode ps src } ops = specRun (AState.init src) ops :=
  EaselModel.Buffer.history_spec mode ps src hps P hP ops hv

/-- **Mode and page-size independence**: two openings of the same bytes, in any two of the six modes and with any two
    page sizes, give identical results (statuses, lines, tokens, byte counts, EOL/EOF outcomes, offsets) on every
    valid history. -/
theorem history_mode_independent (src : Bytes) (m₁ m₂ : Mode) (ps₁ ps₂ P : Nat) (h₁ : 0 < ps₁) (h₂ : 0 < ps₂)
    (hP₁ : P ≤ ps₁) (hP₂ : P ≤ ps₂) (ops : List Op) (hv : ValidHist P (AState.init src) ops) :
    obsRun { b := openBuf m₁ ps₁ src } ops = obsRun { b := openBuf m₂ ps₂ src } ops :=
  EaselModel.Buffer.history_mode_independent src m₁ m₂ ps₁ ps₂ P h₁ h₂ hP₁ hP₂ ops hv

/-- Along every valid history no operation ends in `fault` (out-of-bounds access, cursor outside the window,
    loop out of fuel) nor in an internal error: the statuses are `eslOK`, `eslEOF`, `eslEOL` only. -/
theorem history_no_fault (mode : Mode) (ps : Nat) (src : Bytes) (hps : 0 < ps) (P : Nat) (hP : P ≤ ps)
    (ops : List Op) (hv : ValidHist P (AState.init src) ops) :
    ∀ o ∈ obsRun { b := openBuf mode ps src } ops, o.st = .ok ∨ o.st = .eof ∨ o.st = .eol :=
  EaselModel.Buffer.history_no_fault mode ps src hps P hP ops hv

/-- **Re-reading under an anchor**: in any state reached by a valid history (`R P a s`), while an anchor is set at
    offset `A`, every `SetOffset o` with `A ≤ o ≤ length of the input` (the very end included) succeeds and the bytes then read at `o` are the
    bytes of the input at `o` — in every mode, also when the stream has long moved on. -/
theorem reread_under_anchor (P : Nat) (a : AState) (s : Sess) (r : R P a s) (A o k : Nat)
    (hA : a.anchor = some A) (hle : A ≤ o) (hlt : o ≤ a.src.length) :
    Valid P a (.setOffset o) ∧
    obsOf (.setOffset o) (s.step (.setOffset o)).1 (s.step (.setOffset o)).2 = ⟨.ok, [], o⟩ ∧
    (let s' := (s.step (.setOffset o)).2
     ((s'.step (.read k)).1.st, (s'.step (.read k)).1.bytes) =
       ((specRead ⟨a.src, o⟩ k).1, (specRead ⟨a.src, o⟩ k).2.1)) :=
  EaselModel.Buffer.reread_under_anchor P a s r A o k hA hle hlt

/-- What `esl_buffer_Get` exposes in any state reached by a valid history: a non-empty prefix of the rest of the input,
    at least one guaranteed page of it unless the input ends first (how much more is window policy; that is why
    `obsOf` compares only status and offset for `Get`). -/
theorem get_prefix (P : Nat) (a : AState) (s : Sess) (r : R P a s) (hlt : a.cur < a.src.length) :
    (get s.b).1.st = .ok ∧ (get s.b).1.bytes = a.abs.suffix.take (get s.b).1.n ∧ 0 < (get s.b).1.n ∧
    min P (a.src.length - a.cur) ≤ (get s.b).1.n :=
  EaselModel.Buffer.get_prefix r hlt

/-- **Reading a whole input line by line** (`while (esl_buffer_GetLine(..) == eslOK)`, with any mix of `GetLine`,
    `FetchLine`, `FetchLineAsStr`): on every opener, every page size ≥ 1 and every input, the lines returned until the
    first non-OK status are exactly the bodies of `specLines src`. This is the abstract line reader that the models of
    the alignment and sequence-file parsers (C01, C02, C04 …) are built on. -/
theorem readLines_eq_specLines (mode : Mode) (ps : Nat) (src : Bytes) (hps : 0 < ps) (pick : Nat → Op)
    (hpick : ∀ i, isLineOp (pick i)) :
    readLines pick (src.length + 1) { b := openBuf mode ps src } = (specLines src).map (·.body) :=
  EaselModel.Buffer.readLines_eq_specLines mode ps src hps pick hpick

/-- In the modes that hold the whole input (string, slurped file, mmap, short pipe) `Get` exposes all the rest of it. -/
theorem get_all_in_memory (P : Nat) (a : AState) (s : Sess) (r : R P a s) (hf : s.b.hasfp = false)
    (hlt : a.cur < a.src.length) :
    (get s.b).1.st = .ok ∧ (get s.b).1.bytes = a.abs.suffix ∧ (get s.b).1.n = a.src.length - a.cur :=
  EaselModel.Buffer.get_all_in_memory r hf hlt

/-- One step: any of the 14 operations, from any state related to a specification state, within the contract,
    yields the specification's observation and a related state again (anchor bookkeeping included). -/
theorem step_simulates (P : Nat) (op : Op) : SimStep P op := sim_all P op

/-- the model IS the repaired code (fix 188d0b6): `pinned b` is the C field `bf->stable` -/
theorem stable_repair_in_model : BufConsts.stableRetire = true ∧ ∀ b : Buf, pinned b = b.stab :=
  ⟨by decide, fun b => by unfold pinned; rw [show BufConsts.stableRetire = true by decide]; exact Bool.true_and _⟩

/-- **FULL STATEMENT** (true since fix 188d0b6; it was false of the code before, see `stable_ptr_valid_fails_at`): while a stable
    anchor is in force (`bf->stable` set) NO `buffer_refill` moves or frees a byte that was handed out — for every window,
    every `nmin`, however little room is left, no other hypothesis: the bytes loaded before are still there at the same place
    (`b.mem` is a prefix of the new window, `base` unchanged), the flag stays set, and `memgen` (bumped by every
    memmove/realloc/free of handed-out bytes) is unchanged. -/
theorem stable_ptr_valid (b : Buf) (nmin : Nat) (hs : b.stab = true) :
    (refill b nmin).2.memgen = b.memgen ∧ (refill b nmin).2.stab = b.stab ∧ (refill b nmin).2.base = b.base ∧
      b.mem <+: (refill b nmin).2.mem :=
  (refill_pinned b nmin ((stable_repair_in_model.2 b).trans hs)).2

/-- the price of the repair is bounded: under a stable anchor the allocation at least doubles when it grows (so the retired
    blocks, each at most half of its successor, sum to less than the live block) and never exceeds twice the need -/
theorem stable_growth_bounded (b : Buf) (hs : b.stab = true) :
    (grow b).balloc ≤ max b.balloc (2 * (b.n + b.pagesize)) ∧ b.n + b.pagesize ≤ max b.balloc (grow b).balloc ∧
      (b.balloc < (grow b).balloc → 2 * b.balloc ≤ (grow b).balloc) :=
  grow_pinned_bound b ((stable_repair_in_model.2 b).trans hs)

-- non-vacuity: a state under a stable anchor that has to grow (2-byte window of a 4-byte stream, page 2, no room behind it)
example : stableWitness.stab = true ∧ stableWitness.n + stableWitness.pagesize > stableWitness.balloc := by decide

/-- **One operation under a stable anchor.** From any state in which an anchor is set, `bf->stable` is set (repaired tree) and
    the memory generation is `g` (`I true g b`; no well-formedness or contract hypothesis), every one of the 14 operations
    other than `SetStableAnchor` itself, with any argument, ends with the memory generation still `g` and the flag still
    set — unless it raised the last anchor (`I false g`: the conclusion is conditional on an anchor still being set). -/
theorem stable_ptr_valid_step (g : Nat) (b : Buf) (lp : Option Nat) (op : Op) (h : I true g b)
    (h1 : ∀ o, op ≠ .setStableAnchor o) : I false g (opRun b lp op).2 :=
  pinned_step b lp op h h1

/-- **The property's clause, for every history**: "pointers handed out under a stable anchor stay valid until it is
    raised". After a successful `SetStableAnchor` on a stream (`stable_anchor_establishes`), along EVERY history of the
    other 13 operations — any arguments, inside or outside the API contract, any page size, any amount of data read — as long
    as an anchor is still set after each operation (`Anchored`: it has not been raised yet), no byte that was handed out has been
    moved or freed (`memgen = g`) and the protection is still in force. -/
theorem stable_ptr_valid_history (g : Nat) (ops : List Op) (s : Sess) (h : I true g s.b)
    (hno : ∀ op ∈ ops, ∀ o, op ≠ .setStableAnchor o) (ha : Anchored s ops) :
    (runS s ops).b.memgen = g ∧ pinned (runS s ops).b = true ∧ (runS s ops).b.anchor ≠ none :=
  let r := pinned_history ops s h hno ha (Or.inl rfl)
  ⟨r.2.1, r.2.2, r.1⟩

/-- the hypothesis of `stable_ptr_valid_history` is what a successful `SetStableAnchor` on a stream leaves (repaired tree) -/
theorem stable_anchor_establishes (b : Buf) (o : Nat) (hf : b.hasfp = true)
    (hok : (setStableAnchor b o).1 = .ok) : I true (setStableAnchor b o).2.memgen (setStableAnchor b o).2 :=
  setStableAnchor_I b o stable_repair_in_model.1 hf hok

-- non-vacuity: stream "ab\ncd\nef\n", page 2, stable anchor at 0, then Get, GetLine, GetLine, GetToken (the window has to grow
-- three times): the hypotheses hold, and so does the conclusion by evaluation
example : Anchored { b := (setStableAnchor (openBuf .stream 2 [97, 98, 10, 99, 100, 10, 101, 102, 10]) 0).2 } [.get, .getLine, .getLine, .getToken [32]] := by
  refine ⟨?_, ?_, ?_, ?_, trivial⟩ <;> decide
example :
    (runS { b := (setStableAnchor (openBuf .stream 2 [97, 98, 10, 99, 100, 10, 101, 102, 10]) 0).2 } [.get, .getLine, .getLine, .getToken [32]]).b.memgen
      = (setStableAnchor (openBuf .stream 2 [97, 98, 10, 99, 100, 10, 101, 102, 10]) 0).2.memgen ∧
    (runS { b := (setStableAnchor (openBuf .stream 2 [97, 98, 10, 99, 100, 10, 101, 102, 10]) 0).2 } [.get, .getLine, .getLine, .getToken [32]]).b.balloc = 16 := by decide

/-! ### the blocks behind the window: `bf->mem` and `bf->retired` as allocator state (Buffer/Retired.lean)

`refillH b nmin h` is what `buffer_refill` called in state `b` does to the allocator (same conditions, same order as `refill`):
free the retired blocks when no stable anchor holds, then either retire the block (under `bf->stable`) or realloc it. -/

/-- **While `bf->stable` is set a refill frees nothing**: the freed list is unchanged and every block that was `bf->mem` or on
    `bf->retired` before still is — so every pointer handed out since the stable anchor was set points into a live allocation
    (the memory-safety half of the clause; `stable_ptr_valid` is the "same bytes at the same place" half). -/
theorem retired_never_freed_under_stable (b : Buf) (nmin : Nat) (h : Heap) (hs : b.stab = true) :
    (refillH b nmin h).freed = h.freed ∧
    ∀ x, x ∈ h.live :: h.retired → x ∈ (refillH b nmin h).live :: (refillH b nmin h).retired :=
  refillH_pinned b nmin h ((stable_repair_in_model.2 b).trans hs)

/-- **Every block is freed exactly once**: after ANY sequence of `buffer_refill` calls, each in ANY state (a superset of what the
    14 operations can issue along any history), followed by `esl_buffer_Close`: no block is freed twice and every block ever
    allocated — in particular every block that went through `bf->retired` — has been freed. -/
theorem retired_freed_exactly_once (cs : List (Buf × Nat)) :
    (closeH (runH cs Heap.init)).Nodup ∧ ∀ x, x ∈ closeH (runH cs Heap.init) ↔ x < (runH cs Heap.init).next :=
  close_frees_exactly_once cs

-- the witness state (stable anchor, no room): the block is retired, not freed; the same state without the flag: realloc;
-- after the anchor is gone the next refill that reads frees the retired block (and, the window being full, reallocs the live one)
example : refillH stableWitness 1 Heap.init = ⟨1, [0], [], 2⟩ ∧
    refillH { stableWitness with stab := false } 1 Heap.init = ⟨1, [], [0], 2⟩ ∧
    refillH { (refill stableWitness 1).2 with stab := false, pos := 4 } 1 ⟨1, [0], [], 2⟩ = ⟨2, [], [0, 1], 3⟩ := by decide

/-- With or without `bf->stable`: under an anchor at the window start a refill neither moves nor reallocates the window as long
    as the next page fits behind the loaded bytes. (Without the flag and without that room it does: `stable_ptr_valid_fails_at`,
    `stable_ptr_valid_iff`.) -/
theorem stable_ptr_valid_partial (b : Buf) (nmin : Nat) (ha : b.anchor = some 0) (hroom : b.n + b.pagesize ≤ b.balloc) :
    (refill b nmin).2.memgen = b.memgen :=
  refill_stable_room b nmin ha hroom

/-- **Pointer stability where it does hold.** Once nothing can be read any more (`Quiet`: the whole
    input is in memory — string, slurped file, mmap, short pipe — or the stream has reported end-of-file, e.g. any
    input shorter than a page), no operation other than `SetStableAnchor` itself (which rebases the window once, by
    design) and a `SetOffset` that repositions an unanchored FILE moves or reallocates the window: pointers handed
    out stay valid, with or without a stable anchor, and the state stays quiet. -/
theorem stable_ptr_valid_quiet (b : Buf) (lp : Option Nat) (op : Op) (q : Quiet b)
    (h1 : ∀ o, op ≠ .setStableAnchor o) (h2 : ∀ o, op = .setOffset o → ¬ (b.mode = .file ∧ b.anchor = none)) :
    (opRun b lp op).2.memgen = b.memgen ∧ Quiet (opRun b lp op).2 :=
  quiet_step b lp op q h1 h2

/-- the openers that are quiet from the start -/
theorem open_quiet (mode : Mode) (ps : Nat) (src : Bytes)
    (h : mode = .string ∨ mode = .mmap ∨ mode = .allfile ∨ src.length < ps) : Quiet (openBuf mode ps src) :=
  EaselModel.Buffer.open_quiet mode ps src h

/-- The witness of the repaired defect (fix 188d0b6): stable anchor at offset 0 of the stream "abcd" read with page size 2, no
    room for the next page. `refill0`, the `buffer_refill` before the fix, reallocates the window on the refill that `GetLine`
    issues; `refill` keeps the pointers on the same state. -/
theorem stable_ptr_valid_fails_at :
    stableWitness.anchor = some 0 ∧ (refill0 stableWitness 1).2.memgen ≠ stableWitness.memgen ∧
      (refill stableWitness 1).2.memgen = stableWitness.memgen := by decide

/-- the repaired `buffer_refill` differs from the old one only under `bf->stable` -/
theorem refill_without_flag (b : Buf) (nmin : Nat) (hnp : b.stab = false) : refill b nmin = refill0 b nmin :=
  refill_eq_refill0 b nmin hnp

-- non-vacuity: the hypotheses of the theorems are met by the state every opener produces
example : WF (openBuf .stream 3 [97, 13, 10, 98]) ∧ Loaded (openBuf .stream 3 [97, 13, 10, 98]) :=
  let h := open_wf .stream 3 [97, 13, 10, 98] (by decide)
  ⟨h.1, h.2.1.loaded h.1⟩
example : (getLine (openBuf .stream 3 [97, 13, 10, 98])).1.bytes = [97] := by decide
example : (openBuf .stream 2 [97, 98, 99, 100]).pos < (openBuf .stream 2 [97, 98, 99, 100]).n := by decide
example : (getToken (openBuf .stream 3 [32, 32, 13, 10, 98, 10]) [32]).1.st = .eol := by decide
example : (specLines [97, 13, 10, 98]).map (·.body) = [[97], [98]] := by decide
-- a history inside the contract: anchor, read a line, rewind to the anchor, read it again, raise
example : ValidHist 1 (AState.init [97, 13, 10, 98]) [.setAnchor 0, .getLine, .setOffset 0, .getLine, .raiseAnchor 0] :=
  ⟨⟨Nat.le_refl _, Or.inl rfl⟩, trivial, ⟨by decide, Or.inr ⟨0, rfl, Nat.le_refl _⟩⟩, trivial, trivial, trivial⟩
example : (obsRun { b := openBuf .stream 1 [97, 13, 10, 98] } [.setAnchor 0, .getLine, .setOffset 0, .getLine, .raiseAnchor 0]).map (·.bytes)
    = [[], [97], [], [97], []] := by decide
example : isLineOp ((fun i => if i % 2 = 0 then Op.getLine else Op.fetchLineStr) 3) := Or.inr (Or.inr rfl)
example : readLines (fun _ => .getLine) 5 { b := openBuf .stream 1 [97, 13, 10, 98] } = [[97], [98]] := by decide
-- rewinding to an anchor that sits at the very end of the input (empty input) is inside the contract
example : ValidHist 1 (AState.init []) [.setAnchor 0, .getLine, .setOffset 0, .raiseAnchor 0] :=
  ⟨⟨Nat.le_refl _, Or.inl rfl⟩, trivial, ⟨Or.inr ⟨rfl, by decide⟩, Or.inl (Nat.le_refl _)⟩, trivial, trivial⟩
example : Quiet (openBuf .stream 8 [97, 10, 98]) := open_quiet .stream 8 [97, 10, 98] (Or.inr (Or.inr (Or.inr (by decide))))
example : ∃ b : Buf, b.anchor = some 0 ∧ b.n + b.pagesize ≤ b.balloc :=
  ⟨{ (openBuf .stream 2 [97]) with anchor := some 0, balloc := 8 }, by decide⟩

/-! ## Every history: the caller contract of `history_spec` is discharged

`CallerOk` (EaselModel/Buffer/Safe.lean) is the ONE thing still asked of the caller: `esl_buffer_Set(p, nused)` stays within
the bytes the preceding `Get*` call exposed — undefined by the documentation, unchecked by the code. Everything else has an
outcome defined by the code and proved here: `Total` (EaselModel/Buffer/Total.lean) lists what an operation may do: the
specification step, or one of the documented `eslEINVAL` outcomes with the state after it. This includes
anchors set AHEAD of the cursor and in-window rewinds to before the active anchor (b86a62d made the code cope with them;
the window invariant `WF` and the simulation relation `R` do not assume anchor ≤ cursor; the specification says what
happens to such an anchor: `aBrk`). -/

/-- **One step, no contract**: from any state reached so far, any of the 14 operations with any argument (`CallerOk` only
    excludes the undefined `Set`) either simulates the specification step or answers `eslEINVAL` as `Total` describes, and
    the simulation relation holds again (so the next operation is covered too). -/
theorem step_total (P : Nat) (op : Op) (a : AState) (s : Sess) (r : R P a s) (hs : CallerOk s op) :
    ∃ a', Total a op (obsOf op (s.step op).1 (s.step op).2) a' ∧ R P a' (s.step op).2 :=
  EaselModel.Buffer.step_total P op a s r hs

/-- **Every history of the 14 operations on which the code defines the outcome**: every opener, every page size ≥ 1, every
    input, every argument of every call; the only hypothesis is `CallerOkRun` (no `Set` beyond the exposed bytes; that
    clause is necessary, see `unsafe_set_beyond_window`). -/
theorem history_total (mode : Mode) (ps : Nat) (src : Bytes) (hps : 0 < ps) (ops : List Op)
    (hs : CallerOkRun { b := openBuf mode ps src } ops) : TotalRun (AState.init src) { b := openBuf mode ps src } ops :=
  EaselModel.Buffer.history_total mode ps src hps ops hs

/-- … and no operation of such a history faults or ends in an internal error: `eslOK`, `eslEOF`, `eslEOL`, `eslEINVAL` only. -/
theorem history_total_no_fault (mode : Mode) (ps : Nat) (src : Bytes) (hps : 0 < ps) (ops : List Op)
    (hs : CallerOkRun { b := openBuf mode ps src } ops) :
    ∀ o ∈ obsRun { b := openBuf mode ps src } ops, o.st = .ok ∨ o.st = .eof ∨ o.st = .eol ∨ o.st = .einval :=
  EaselModel.Buffer.history_total_no_fault mode ps src hps ops hs

/-- A history without `Set` needs no hypothesis at all. -/
theorem history_total_no_set (mode : Mode) (ps : Nat) (src : Bytes) (hps : 0 < ps) (ops : List Op)
    (hns : ∀ op ∈ ops, ∀ k, op ≠ .set k) :
    TotalRun (AState.init src) { b := openBuf mode ps src } ops ∧
    ∀ o ∈ obsRun { b := openBuf mode ps src } ops, o.st = .ok ∨ o.st = .eof ∨ o.st = .eol ∨ o.st = .einval :=
  have h := callerOkRun_of_no_set ops hns { b := openBuf mode ps src }
  ⟨EaselModel.Buffer.history_total mode ps src hps ops h, EaselModel.Buffer.history_total_no_fault mode ps src hps ops h⟩

/-- The error outcomes of `Total` occur only outside the API contract (inside it: `step_simulates`). -/
theorem error_only_outside_contract (P : Nat) (a a' : AState) (op : Op) (o : Obs) (h : Total a op o a') (he : o.st = .einval) :
    ¬ Valid P a op :=
  h.error_outside he

/-- `CallerOk` asks nothing beyond the API contract. -/
theorem contract_implies_callerOk (P : Nat) (a : AState) (s : Sess) (r : R P a s) (op : Op) (hv : Valid P a op) : CallerOk s op :=
  valid_safe r op hv

/-- `CallerOk` is decidable, by the test the driver and the harness apply before every `tryset` operation. -/
theorem callerOk_decidable (s : Sess) (op : Op) : callerOkB s op = true ↔ CallerOk s op := callerOkB_iff s op

/-- In the specification an anchor ahead of the cursor survives exactly until the next line/token call brackets the
    cursor: the bracket changes nothing when the anchor is at or before its offset, and removes it otherwise. -/
theorem spec_bracket (a : AState) (t : Nat) :
    ((∀ A, a.anchor = some A → A ≤ t) → aBrk a t = a) ∧
    (∀ A, a.anchor = some A → t < A → (aBrk a t).anchor = none) := by
  refine ⟨aBrk_of_le a t, fun A hA hlt => ?_⟩
  unfold aBrk; rw [hA]; simp only []; rw [if_neg (by omega)]

/-! ### the clause of `CallerOk`, and regression histories for the repairs 4515997 and b86a62d (compared exactly with the
real code on every run) -/

def srcW : Bytes := [97, 98, 10, 99, 100, 10, 101, 102, 10, 103, 104, 10]    -- "ab\ncd\nef\ngh\n"

/-- `Set(p, nused)` beyond the loaded bytes (a caller error by the documentation of `esl_buffer_Set`) is necessary: the
    stream answers `eslEINCONCEIVABLE`, the cursor stays outside the window and the next `Read` copies from beyond it. -/
theorem unsafe_set_beyond_window :
    callerOkRunB { b := openBuf .stream 2 srcW } [.get, .set 5] = false ∧
    (obsRun { b := openBuf .stream 2 srcW } [.get, .set 5, .read 1]).map (·.st) = [.ok, .einconceivable, .fault] := by decide

/-- REGRESSION (4515997): `SetOffset` beyond the end in a whole-input mode used to answer `eslOK` and leave the cursor
    outside the buffer (the next `GetLine` read out of bounds); now it is the documented `eslEINVAL`, nothing changes
    (`Total.beyond_end_whole`). -/
theorem fixed_setoffset_beyond_end_in_memory :
    callerOkRunB { b := openBuf .string 4 [97, 98] } [.setOffset 3, .getLine] = true ∧
    (obsRun { b := openBuf .string 4 [97, 98] } [.setOffset 3, .getLine]).map (fun o => (o.st, o.bytes, o.off))
      = [(.einval, [], 0), (.ok, [97, 98], 2)] := by decide

/-- REGRESSION (b86a62d): an anchor inside the window but ahead of the cursor; the next shifting refill used to move the
    cursor to a negative position (`St.fault` in the model of the old code, heap-buffer-overflow in the code). Now
    everything from `min(anchor, pos)` on is kept and the reads are the specification's. Such histories are
    inside `history_total` (instances of the theorem). -/
theorem fixed_anchor_ahead_of_cursor :
    callerOkRunB { b := openBuf .stream 2 srcW } [.setAnchor 2, .read 1, .get, .getLine] = true ∧
    (obsRun { b := openBuf .stream 2 srcW } [.setAnchor 2, .read 1, .get, .getLine]).map (fun o => (o.st, o.bytes, o.off))
      = [(.ok, [], 0), (.ok, [97], 1), (.ok, [], 1), (.ok, [98], 3)] ∧
    (specRun (AState.init srcW) [.setAnchor 2, .read 1, .get, .getLine]).map (fun o => (o.st, o.bytes, o.off))
      = [(.ok, [], 0), (.ok, [97], 1), (.ok, [], 1), (.ok, [98], 3)] ∧
    (obsRun { b := openBuf .stream 2 srcW } [.setStableAnchor 2, .get, .getLine]).map (fun o => (o.st, o.bytes, o.off))
      = [(.ok, [], 0), (.ok, [], 0), (.ok, [97, 98], 3)] := by decide

/-- REGRESSION (b86a62d): rewinding inside the window to a byte before the active anchor, then a multi-page `Read`. -/
theorem fixed_rewind_before_anchor :
    callerOkRunB { b := openBuf .stream 2 srcW } [.setAnchor 0, .read 3, .raiseAnchor 0, .setAnchor 3, .setOffset 2, .read 6] = true ∧
    (obsRun { b := openBuf .stream 2 srcW } [.setAnchor 0, .read 3, .raiseAnchor 0, .setAnchor 3, .setOffset 2, .read 6]).map
        (fun o => (o.st, o.bytes, o.off))
      = [(.ok, [], 0), (.ok, [97, 98, 10], 3), (.ok, [], 3), (.ok, [], 3), (.ok, [], 2), (.ok, [10, 99, 100, 10, 101, 102], 8)] := by
  decide

-- non-vacuity of `history_total`: a history far outside the contract, with each documented outcome
example : callerOkRunB { b := openBuf .stream 2 srcW } [.read 6, .setOffset 1, .setAnchor 2, .setOffset 40, .setOffset 3, .getLine] = true := by decide
example : (obsRun { b := openBuf .stream 2 srcW } [.read 6, .setOffset 1, .setAnchor 2, .setOffset 40, .setOffset 3, .getLine]).map (fun o => (o.st, o.off))
    = [(.ok, 6), (.einval, 6), (.einval, 6), (.einval, 12), (.einval, 12), (.eof, 12)] := by decide
-- the fseeko branch: beyond the end of an unanchored FILE the cursor is left at the requested offset; rewinding from there works
example : (obsRun { b := openBuf .file 2 srcW } [.setOffset 14, .getLine, .read 0, .setOffset 3, .getLine]).map (fun o => (o.st, o.bytes, o.off))
    = [(.einval, [], 14), (.eof, [], 14), (.ok, [], 14), (.ok, [], 3), (.ok, [99, 100], 6)] := by decide
example : CallerOkRun { b := openBuf .file 2 srcW } [.setOffset 14, .getLine, .read 0, .setOffset 3, .getLine] :=
  (callerOkRunB_iff _ _).mp (by decide)
-- non-vacuity of `CallerOk`: a `Get`/`Set` pair inside it that is NOT inside the API contract `Valid 2` (the stream happens to
-- have 4 bytes loaded), and the anchor-ahead / rewind-before-anchor histories (outside `Valid`, inside `CallerOkRun`)
example : CallerOkRun { b := openBuf .string 2 srcW } [.get, .set 7, .getLine] := (callerOkRunB_iff _ _).mp (by decide)
example : validB 2 (specStep (AState.init srcW) .get).2 (.set 7) = false := by decide
example : CallerOkRun { b := openBuf .stream 4 srcW } [.setAnchor 3, .getLine, .setAnchor 3, .setOffset 1, .getToken [32], .raiseAnchor 3] :=
  (callerOkRunB_iff _ _).mp (by decide)
example : (obsRun { b := openBuf .stream 4 srcW } [.setAnchor 3, .getLine, .setAnchor 3, .setOffset 1, .getToken [32], .raiseAnchor 3]).map
    (fun o => (o.st, o.bytes, o.off)) = [(.ok, [], 0), (.ok, [97, 98], 3), (.ok, [], 3), (.ok, [], 1), (.ok, [98], 2), (.ok, [], 2)] := by decide
example : (aBrk { src := srcW, cur := 1, anchor := some 2, nanchor := 1 } 1).anchor = none ∧
    (aBrk { src := srcW, cur := 3, anchor := some 2, nanchor := 1 } 3).anchor = some 2 := by decide

/-! ### the whole-input modes: an equation for every history -/

/-- **Whole-input modes (string, slurped file, mmap, short pipe), EVERY history, no API contract.** The observations are
    those of `memRun`: the specification "bytes + cursor" made total — anchors are the documented no-ops, `SetOffset` goes
    anywhere up to the end of the input and answers `eslEINVAL` beyond it (leaving everything as it was). Here the relation
    `Total` of `history_total` collapses to a function of the input bytes and the history. -/
theorem history_memory_exact (mode : Mode) (ps : Nat) (src : Bytes) (hps : 0 < ps) (hm : wholeInput mode ps src) (ops : List Op)
    (hs : CallerOkRun { b := openBuf mode ps src } ops) :
    obsRun { b := openBuf mode ps src } ops = memRun (AState.init src) ops :=
  EaselModel.Buffer.history_memory_exact mode ps src hps hm ops hs

/-- … hence any two whole-input openings of the same bytes agree on every history, whatever the arguments. -/
theorem history_memory_mode_independent (src : Bytes) (m₁ m₂ : Mode) (ps₁ ps₂ : Nat) (h₁ : 0 < ps₁) (h₂ : 0 < ps₂)
    (hm₁ : wholeInput m₁ ps₁ src) (hm₂ : wholeInput m₂ ps₂ src) (ops : List Op)
    (hs₁ : CallerOkRun { b := openBuf m₁ ps₁ src } ops) (hs₂ : CallerOkRun { b := openBuf m₂ ps₂ src } ops) :
    obsRun { b := openBuf m₁ ps₁ src } ops = obsRun { b := openBuf m₂ ps₂ src } ops := by
  rw [EaselModel.Buffer.history_memory_exact m₁ ps₁ src h₁ hm₁ ops hs₁, EaselModel.Buffer.history_memory_exact m₂ ps₂ src h₂ hm₂ ops hs₂]

-- non-vacuity: a history far outside the contract on a string and on a short pipe
example : wholeInput .cmdpipe 64 srcW ∧ wholeInput .string 1 srcW := ⟨Or.inr (Or.inr (Or.inr ⟨rfl, by decide⟩)), Or.inl rfl⟩
example : CallerOkRun { b := openBuf .cmdpipe 64 srcW } [.setOffset 40, .setAnchor 7, .setOffset 7, .getLine, .raiseAnchor 3, .setOffset 12, .getLine, .get, .set 0] :=
  (callerOkRunB_iff _ _).mp (by decide)
example : (memRun (AState.init srcW) [.setOffset 40, .setAnchor 7, .setOffset 7, .getLine, .raiseAnchor 3, .setOffset 12, .getLine]).map
    (fun o => (o.st, o.bytes, o.off)) = [(.einval, [], 0), (.ok, [], 0), (.ok, [], 7), (.ok, [102], 9), (.ok, [], 9), (.ok, [], 12), (.eof, [], 12)] := by decide

/-! ## Outside the contract, yet deterministic -/

/-- **`SetOffset` beyond the end of the input, ahead of the cursor, on a paged buffer that cannot `fseeko`** (stream, pipe, FILE
    with an anchor set) is outside `Valid`, but its outcome does not depend on the page size or on what is loaded: from every
    state reached so far it answers `eslEINVAL`, returns nothing, leaves the cursor at `max cur |src|` (the stream has been read
    to its end) and the anchors as they were; the simulation continues from the specification state with the cursor moved
    there — so `history_spec`'s conclusion extends to histories that contain such calls. (Whole-input modes: `eslEINVAL`,
    nothing changes — `history_memory_exact`; unanchored FILE: the cursor is left at the requested offset — `Total.beyond_end_seek`.) -/
theorem setoffset_beyond_end_deterministic (P o : Nat) (a : AState) (s : Sess) (r : R P a s) (hm : ¬ memMode s.b.mode)
    (hnf : ¬ (s.b.mode = .file ∧ s.b.anchor = none)) (hlen : a.src.length < o) (hcur : a.cur < o) :
    obsOf (.setOffset o) (s.step (.setOffset o)).1 (s.step (.setOffset o)).2 = ⟨.einval, [], max a.cur a.src.length⟩ ∧
    R P { a with cur := max a.cur a.src.length, lastp := none } (s.step (.setOffset o)).2 :=
  step_beyond_end_deterministic P o a s r hm hnf hlen hcur

-- instances on the three paged openers, page sizes 1 and 4: the same answer, then end-of-file
example : ∀ m ∈ [Mode.stream, Mode.cmdpipe, Mode.file], ∀ ps ∈ [1, 4],
    (obsRun { b := openBuf m ps [97, 98, 10, 99, 100, 10, 101, 102, 10, 103] } [.read 1, .setAnchor 1, .setOffset 40, .getLine, .getOffset]).map
      (fun o => (o.st, o.bytes, o.off)) = [(.ok, [97], 1), (.ok, [], 1), (.einval, [], 10), (.eof, [], 10), (.ok, [], 10)] := by decide

/-- **`history_spec` beyond the API contract** (streams and pipes read in pages): for every input, every page size, and every
    history in the LARGER class `ValidHistX` — the contract `Valid`, or a `SetOffset` beyond the end of the input ahead of the
    cursor, any number of times, anywhere in the history — the (status, bytes, offset) sequence of the model equals the
    extended deterministic specification `specRunX` (such a call: `eslEINVAL`, cursor at the end of the input, anchors kept). -/
theorem history_spec_x (mode : Mode) (hm : mode = .stream ∨ mode = .cmdpipe) (ps : Nat) (src : Bytes) (hps : 0 < ps) (P : Nat) (hP : P ≤ ps)
    (hopen : (openBuf mode ps src).mode = mode ∧ (openBuf mode ps src).hasfp = true)
    (ops : List Op) (hv : ValidHistX P (AState.init src) ops) :
    obsRun { b := openBuf mode ps src } ops = specRunX (AState.init src) ops :=
  history_refines_x P mode hm ops _ _ (open_R mode ps src hps P hP) hopen hv

/-- … hence page-size independence on streams for that larger class of histories -/
theorem history_x_pagesize_independent (src : Bytes) (ps₁ ps₂ P : Nat) (h₁ : 0 < ps₁) (h₂ : 0 < ps₂) (hP₁ : P ≤ ps₁) (hP₂ : P ≤ ps₂)
    (ops : List Op) (hv : ValidHistX P (AState.init src) ops) :
    obsRun { b := openBuf .stream ps₁ src } ops = obsRun { b := openBuf .stream ps₂ src } ops := by
  rw [history_spec_x .stream (Or.inl rfl) ps₁ src h₁ P hP₁ ⟨rfl, rfl⟩ ops hv,
      history_spec_x .stream (Or.inl rfl) ps₂ src h₂ P hP₂ ⟨rfl, rfl⟩ ops hv]

/-- **The same on EVERY paged opener, FILE included**: for every input, page size and opener whose buffer reads in
    pages (stream, pipe with at least a page of output, paged FILE), and every history in `ValidHistXA` — the contract, or a
    `SetOffset` beyond the end of the input ahead of the cursor WHILE AN ANCHOR IS SET (then a FILE cannot `fseeko` and
    fast-forwards like a stream) — the observations equal the extended deterministic specification `specRunX`. -/
theorem history_spec_xa (mode : Mode) (ps : Nat) (src : Bytes) (hps : 0 < ps) (P : Nat) (hP : P ≤ ps)
    (hopen : (openBuf mode ps src).hasfp = true) (ops : List Op) (hv : ValidHistXA P (AState.init src) ops) :
    obsRun { b := openBuf mode ps src } ops = specRunX (AState.init src) ops :=
  history_refines_xa P ops _ _ (open_R mode ps src hps P hP) hopen hv

/-- … hence mode and page-size independence across the paged openers for that class of histories -/
theorem history_xa_mode_independent (src : Bytes) (m₁ m₂ : Mode) (ps₁ ps₂ P : Nat) (h₁ : 0 < ps₁) (h₂ : 0 < ps₂) (hP₁ : P ≤ ps₁) (hP₂ : P ≤ ps₂)
    (ho₁ : (openBuf m₁ ps₁ src).hasfp = true) (ho₂ : (openBuf m₂ ps₂ src).hasfp = true)
    (ops : List Op) (hv : ValidHistXA P (AState.init src) ops) :
    obsRun { b := openBuf m₁ ps₁ src } ops = obsRun { b := openBuf m₂ ps₂ src } ops := by
  rw [history_spec_xa m₁ ps₁ src h₁ P hP₁ ho₁ ops hv, history_spec_xa m₂ ps₂ src h₂ P hP₂ ho₂ ops hv]

-- non-vacuity: a FILE read in pages of 2, the record anchored, SetOffset far beyond the end, then on
example : (openBuf .file 2 [97, 98, 10, 99]).hasfp = true ∧
    ValidHistXA 1 (AState.init [97, 98, 10, 99]) [.setAnchor 0, .read 1, .setOffset 40, .getLine, .setOffset 0, .getLine, .raiseAnchor 0] := by
  refine ⟨rfl, Or.inr ⟨Nat.le_refl _, Or.inl rfl⟩, Or.inr trivial, Or.inl (by decide), Or.inr trivial,
    Or.inr ⟨Or.inl (by decide), Or.inr ⟨0, by decide, Nat.le_refl _⟩⟩, Or.inr trivial, Or.inr trivial, trivial⟩
example : (obsRun { b := openBuf .file 2 [97, 98, 10, 99] } [.setAnchor 0, .read 1, .setOffset 40, .getLine, .setOffset 0, .getLine, .raiseAnchor 0]).map
    (fun o => (o.st, o.bytes, o.off)) = [(.ok, [], 0), (.ok, [97], 1), (.einval, [], 4), (.eof, [], 4), (.ok, [], 0), (.ok, [97, 98], 3), (.ok, [], 3)] := by decide

/-- the mode and the stream handle of a buffer never change after it is opened (any operation, any arguments, any state) -/
theorem mode_fixed (s : Sess) (op : Op) : (s.step op).2.b.mode = s.b.mode ∧ (s.step op).2.b.hasfp = s.b.hasfp :=
  step_mode s op s.b.mode s.b.hasfp ⟨rfl, rfl⟩

-- non-vacuity: a history of the larger class that is NOT in the contract, and its extended specification
example : ValidHistX 1 (AState.init [97, 98, 10, 99]) [.read 1, .setOffset 40, .getLine, .setOffset 41, .getOffset] ∧
    ¬ ValidHist 1 (AState.init [97, 98, 10, 99]) [.read 1, .setOffset 40, .getLine, .setOffset 41, .getOffset] := by
  refine ⟨⟨Or.inr trivial, Or.inl (by decide), Or.inr trivial, Or.inl (by decide), Or.inr trivial, trivial⟩, ?_⟩
  rintro ⟨_, ⟨h | ⟨h, _⟩, _⟩, _⟩ <;> revert h <;> decide
example : (specRunX (AState.init [97, 98, 10, 99]) [.read 1, .setOffset 40, .getLine, .setOffset 41, .getOffset]).map (fun o => (o.st, o.bytes, o.off))
    = [(.ok, [97], 1), (.einval, [], 4), (.eof, [], 4), (.einval, [], 4), (.ok, [], 4)] := by decide

/-! ## Stable anchors, exactly -/

/-- **Regression theorem about the code before fix 188d0b6, and about an anchor at the window start that is NOT stable today**
    (`b.stab = false`: there `refill = refill0`, the old `buffer_refill`): such a refill keeps every pointer handed out valid
    if and only if it reads nothing (no stream, stream at EOF, enough loaded) or the next page fits behind the loaded bytes,
    `n + pagesize ≤ balloc`. Before the fix this was all that held under a STABLE anchor too (`stable_ptr_valid_fails_at`). -/
theorem stable_ptr_valid_iff (b : Buf) (nmin : Nat) (hnp : b.stab = false) (hp : b.pos ≤ b.n) (ha : b.anchor = some 0) :
    (refill0 b nmin).2.memgen = b.memgen ↔
      (b.hasfp = false ∨ b.eof = true ∨ nmin + b.pagesize ≤ b.n - b.pos ∨ b.n + b.pagesize ≤ b.balloc) := by
  rw [← refill_eq_refill0 b nmin hnp]
  exact refill_stable_iff b nmin (pinned_of_not_stab hnp) hp ha

/-- **Plain anchors never promise pointer validity**: a refill that has to shift under a plain anchor `a > 0` keeps the
    bytes from the anchor on but moves them, so pointers handed out since the anchor was set dangle. -/
theorem plain_anchor_no_promise (b : Buf) (nmin a : Nat) (hst : b.stab = false) (hf : b.hasfp = true) (he : b.eof = false) (ha : b.anchor = some a)
    (ha0 : 0 < a) (hap : a ≤ b.pos) (hpn : b.pos < b.n) (hneed : b.n - b.pos < nmin + b.pagesize)
    (hfull : b.balloc - b.n < b.pagesize) : (refill b nmin).2.memgen ≠ b.memgen :=
  plain_anchor_moves b nmin a (pinned_of_not_stab hst) hf he ha ha0 hap hpn hneed hfull

-- non-vacuity: both sides of the iff occur, and the hypotheses of `plain_anchor_no_promise` are met in a reachable state
example : ({ stableWitness with stab := false } : Buf).stab = false ∧ ({ stableWitness with stab := false } : Buf).anchor = some 0 ∧
    (refill0 { stableWitness with stab := false } 1).2.memgen ≠ stableWitness.memgen := by decide
example : stableWitness.pos ≤ stableWitness.n ∧ stableWitness.anchor = some 0 ∧
    ¬ (stableWitness.hasfp = false ∨ stableWitness.eof = true ∨ 1 + stableWitness.pagesize ≤ stableWitness.n - stableWitness.pos ∨
       stableWitness.n + stableWitness.pagesize ≤ stableWitness.balloc) := by decide
example : ({ stableWitness with balloc := 8 } : Buf).n + ({ stableWitness with balloc := 8 } : Buf).pagesize ≤ ({ stableWitness with balloc := 8 } : Buf).balloc := by decide
example : plainWitness.stab = false ∧ plainWitness.hasfp = true ∧ plainWitness.eof = false ∧ plainWitness.anchor = some 1 ∧ 1 ≤ plainWitness.pos ∧
    plainWitness.pos < plainWitness.n ∧ plainWitness.n - plainWitness.pos < 0 + plainWitness.pagesize ∧
    plainWitness.balloc - plainWitness.n < plainWitness.pagesize := by decide
example : (refill plainWitness 0).2.memgen ≠ plainWitness.memgen := by decide

/-! ## The string/number helpers of `esl_mem.c` that every parser applies to buffer lines

Model `EaselModel/Buffer/Mem.lean` (loops and index expressions of the C code, every access bounds-checked, signed
overflow = fault), specification `EaselModel/Buffer/MemSpec.lean`. Every theorem is for every byte string (bytes ≥ 0x80 and
embedded NULs included), every base, no bound on lengths. "`= some …`" includes "never faults". -/

/-- **`esl_mem_strtoi32`** satisfies the specification `Mem.StrtoiSpec` (see there: EINVAL / EFORMAT / ERANGE / OK each
    characterised by an iff on the independent parse, `nc` and `val` in every case, never a fault). -/
theorem strtoi32_spec (p : Bytes) (base : Int) : Mem.StrtoiSpec Mem.i32min Mem.i32max p base (Mem.strtoi32 p base) :=
  Mem.strtoi_spec (by decide) (by decide) p base

/-- **`esl_mem_strtoi64`**: the same specification with the bounds of `int64_t`. -/
theorem strtoi64_spec (p : Bytes) (base : Int) : Mem.StrtoiSpec Mem.i64min Mem.i64max p base (Mem.strtoi64 p base) :=
  Mem.strtoi_spec (by decide) (by decide) p base

/-- The same code for any integer type `[lo, hi]` that holds the digit values −36 … 35 (`esl_mem_strtoi` on any `int`). -/
theorem strtoi_spec_any_width (lo hi : Int) (hlo : lo ≤ -36) (hhi : 35 ≤ hi) (p : Bytes) (base : Int) :
    Mem.StrtoiSpec lo hi p base (Mem.strtoi lo hi p base) :=
  Mem.strtoi_spec hlo hhi p base

/-- The answer in closed form: the model equals the specification function `Mem.specRes` (structural recursion only). -/
theorem strtoi_eq_specRes (lo hi : Int) (hlo : lo ≤ -36) (hhi : 35 ≤ hi) (p : Bytes) (base : Int) :
    Mem.strtoi lo hi p base = Mem.specRes lo hi p base :=
  Mem.strtoi_eq_spec hlo hhi p base

/-- **`esl_memspn`** = length of the longest prefix of bytes in the C-string set (the terminating NUL is a member, the way
    `strchr` sees it; the set ends at its first NUL). -/
theorem memspn_spec (p set : Bytes) : Mem.memspn p set = some (p.takeWhile (Mem.inSet set)).length :=
  Mem.memspn_eq p set

/-- **`esl_memcspn`** = length of the longest prefix of bytes not in the set. -/
theorem memcspn_spec (p set : Bytes) : Mem.memcspn p set = some (p.takeWhile (fun c => !Mem.inSet set c)).length :=
  Mem.memcspn_eq p set

/-- **`esl_memtok`** answers `Mem.tokSpec`: with `S = tokSplit delim p` (leading delimiters, maximal delimiter-free run,
    the delimiters after it, remainder — cut by `takeWhile`/`dropWhile`): `eslEOL`, token NULL/0, `*p`/`*n` untouched if the
    token is empty; else `eslOK`, token = `(|skipped|, |tok|)`, `*p` advanced by `|skipped|+|tok|+|trail|`, `*n = |rest|`. -/
theorem memtok_spec (p delim : Bytes) : Mem.memtok p delim = some (Mem.tokSpec delim p) :=
  Mem.memtok_eq p delim

/-- the four pieces are the input in order; the pieces have the stated classes; the token is maximal; the remainder starts
    with a non-delimiter; the token pointer/length and the advanced `*p` denote `tok` and `rest` -/
theorem memtok_split_meaning (p delim : Bytes) :
    (Mem.tokSplit delim p).skipped ++ (Mem.tokSplit delim p).tok ++ (Mem.tokSplit delim p).trail ++ (Mem.tokSplit delim p).rest = p ∧
    (∀ c ∈ (Mem.tokSplit delim p).skipped, Mem.inSet delim c = true) ∧
    (∀ c ∈ (Mem.tokSplit delim p).tok, Mem.inSet delim c = false) ∧
    (∀ c ∈ (Mem.tokSplit delim p).trail, Mem.inSet delim c = true) ∧
    (∀ c, ((Mem.tokSplit delim p).trail ++ (Mem.tokSplit delim p).rest).head? = some c → Mem.inSet delim c = true) ∧
    (∀ c, (Mem.tokSplit delim p).rest.head? = some c → Mem.inSet delim c = false) ∧
    (p.drop (Mem.tokSplit delim p).skipped.length).take (Mem.tokSplit delim p).tok.length = (Mem.tokSplit delim p).tok ∧
    p.drop ((Mem.tokSplit delim p).skipped.length + (Mem.tokSplit delim p).tok.length + (Mem.tokSplit delim p).trail.length)
      = (Mem.tokSplit delim p).rest :=
  ⟨Mem.tokSplit_concat delim p, (Mem.tokSplit_classes delim p).1, (Mem.tokSplit_classes delim p).2.1,
   (Mem.tokSplit_classes delim p).2.2.1, (Mem.tokSplit_classes delim p).2.2.2.1, (Mem.tokSplit_classes delim p).2.2.2.2,
   (Mem.tokSplit_slices delim p).1, (Mem.tokSplit_slices delim p).2⟩

/-- **`esl_memtok` returns `eslEOL` iff only delimiters remain.** -/
theorem memtok_eol_iff (p delim : Bytes) :
    (Mem.memtok p delim).map (·.st) = some .eol ↔ ∀ c ∈ p, Mem.inSet delim c = true := by
  rw [Mem.memtok_eq, ← Mem.tokSplit_tok_nil_iff]
  unfold Mem.tokSpec
  by_cases h : (Mem.tokSplit delim p).tok = [] <;> simp [h]

/-- **`esl_memstrcmp(p, n, s)`** on non-NULL arguments is TRUE iff the `n` bytes equal the C string `s` (so: FALSE whenever
    the line contains a NUL). NULL conventions: `(NULL, 0, NULL)` TRUE; `(NULL, 0, s)` TRUE iff `s` is empty; `(p, n, NULL)` FALSE. -/
theorem memstrcmp_spec (p s : Bytes) :
    Mem.memstrcmp (some p) (some s) = some (decide (p = Mem.cstr s)) ∧
    Mem.memstrcmp none none = some true ∧ Mem.memstrcmp none (some s) = some (decide (Mem.cstr s = [])) ∧
    Mem.memstrcmp (some p) none = some false := by
  refine ⟨?_, (Mem.memstrcmpF_null id p s).1, (Mem.memstrcmpF_null id p s).2.1, (Mem.memstrcmpF_null id p s).2.2⟩
  have := Mem.memstrcmpF_some id p s
  simp only [List.map_id] at this; exact this

/-- **`esl_memstrpfx`** is TRUE iff the C string `s` is a prefix of the line; FALSE if either pointer is NULL. -/
theorem memstrpfx_spec (p s : Bytes) :
    Mem.memstrpfx (some p) (some s) = some (decide (Mem.cstr s <+: p)) ∧
    Mem.memstrpfx none (some s) = some false ∧ Mem.memstrpfx (some p) none = some false := by
  refine ⟨?_, rfl, rfl⟩
  have := Mem.memstrpfxF_some id p s
  simp only [List.map_id] at this; exact this

/-- **`esl_memstrcmp_case` / `esl_memstrpfx_case`**: the same after `toupper` (C locale: only `a`–`z` change) on both sides. -/
theorem memstr_case_spec (p s : Bytes) :
    Mem.memstrcmp_case (some p) (some s) = some (decide (p.map Mem.toupperB = (Mem.cstr s).map Mem.toupperB)) ∧
    Mem.memstrpfx_case (some p) (some s) = some (decide ((Mem.cstr s).map Mem.toupperB <+: p.map Mem.toupperB)) :=
  ⟨Mem.memstrcmpF_some _ p s, Mem.memstrpfxF_some _ p s⟩

/-- **`esl_memstrcontains`** is TRUE iff the line is not empty and the C string occurs in it. (On an empty line the code
    answers FALSE even for the empty string, which every `strstr` finds.) FALSE if either pointer is NULL. -/
theorem memstrcontains_spec (p s : Bytes) :
    Mem.memstrcontains (some p) (some s) = some (decide (p ≠ [] ∧ Mem.cstr s <:+: p)) ∧
    Mem.memstrcontains none (some s) = some false ∧ Mem.memstrcontains (some p) none = some false :=
  ⟨Mem.memstrcontains_some p s, rfl, rfl⟩

/-- **`esl_memstrdup` / `esl_memstrcpy`** produce the bytes followed by a terminating NUL in a block of `n+1` bytes
    (no write outside it); `esl_memstrdup(NULL, …)` yields NULL. -/
theorem memstrdup_spec (p : Bytes) :
    Mem.memstrdup (some p) = some (some (p ++ [0])) ∧ Mem.memstrdup none = some none ∧ Mem.memstrcpy p = some (p ++ [0]) :=
  ⟨Mem.memstrdup_some p, rfl, Mem.memstrcpy_eq p⟩

/-- **`esl_mem_IsReal`** never reads outside the line, and accepts exactly `Mem.isRealSpec`: blanks, an optional sign, a
    blank-free body with at most one `.`, at most one `e`/`E`, no `.` after the `e`/`E` and at least one digit, blanks.
    This is a statement about the code, weaker than its header ("convertible … by the rules of atof()"): bytes of the body
    that are neither digit, `.`, `e`, `E` are passed over (witnesses below). -/
theorem memIsReal_spec (p : Bytes) : Mem.memIsReal (some p) = some (Mem.isRealSpec p) ∧ Mem.memIsReal none = some false :=
  ⟨Mem.memIsReal_eq p, rfl⟩

theorem memIsReal_no_fault (p : Option Bytes) : Mem.memIsReal p ≠ none :=
  Mem.memIsReal_ne_none p

/-- **`esl_mem_IsReal` after fix C05-mem-isreal-garbage** (model `Mem.memIsRealL`, selected by the constant
    `MemConsts.isRealStart`): for every byte string it answers `isRealSpecL p = isRealSpec p && startsNum (…)` — what it
    accepted before, provided a number STARTS right after the blanks and one optional sign (a digit, or `.` and a digit:
    exactly when `strtod`/`atof` convert a non-empty decimal prefix); NULL is FALSE; it never reads outside the `n` bytes. -/
theorem memIsRealL_spec (p : Bytes) : Mem.memIsRealL (some p) = some (Mem.isRealSpecL p) ∧ Mem.memIsRealL none = some false :=
  ⟨Mem.memIsRealL_eq p, rfl⟩

theorem memIsRealL_no_fault (p : Option Bytes) : Mem.memIsRealL p ≠ none :=
  Mem.memIsRealL_ne_none p

/-- soundness against the header ("TRUE iff convertible by the rules of atof()"), which the old code lacked: whatever the
    repaired function accepts has a number right after the blanks and the sign; and the repair only removes answers -/
theorem memIsRealL_sound (p : Bytes) (h : Mem.memIsRealL (some p) = some true) :
    Mem.startsNum (Mem.stripSign (p.dropWhile Mem.isspaceB)) = true ∧ Mem.memIsReal (some p) = some true :=
  ⟨Mem.memIsRealL_true_starts p h, Mem.memIsRealL_le p h⟩

-- "abc1", "--1", "e5", ".e1" are refused; "1x" and "25.00;" (Pfam) are accepted — trailing bytes as with atof(); " -.5e3 " is accepted
example : Mem.memIsRealL (some [97, 98, 99, 49]) = some false := by rw [Mem.memIsRealL_eq]; decide
example : Mem.memIsRealL (some [45, 45, 49]) = some false := by rw [Mem.memIsRealL_eq]; decide
example : Mem.memIsRealL (some [101, 53]) = some false := by rw [Mem.memIsRealL_eq]; decide
example : Mem.memIsRealL (some [46, 101, 49]) = some false := by rw [Mem.memIsRealL_eq]; decide
example : Mem.memIsRealL (some [49, 120]) = some true := by rw [Mem.memIsRealL_eq]; decide
example : Mem.memIsRealL (some [50, 53, 46, 48, 48, 59]) = some true := by rw [Mem.memIsRealL_eq]; decide
example : Mem.memIsRealL (some [32, 45, 46, 53, 101, 51, 32]) = some true := by rw [Mem.memIsRealL_eq]; decide

-- accepted although not numbers: "1x", "abc1", "--1"; "1e-5" is accepted only through the same accident; "1.2.3" is refused
example : Mem.memIsReal (some [49, 120]) = some true := by rw [Mem.memIsReal_eq]; decide
example : Mem.memIsReal (some [97, 98, 99, 49]) = some true := by rw [Mem.memIsReal_eq]; decide
example : Mem.memIsReal (some [45, 45, 49]) = some true := by rw [Mem.memIsReal_eq]; decide
example : Mem.memIsReal (some [49, 101, 45, 53]) = some true := by rw [Mem.memIsReal_eq]; decide
example : Mem.memIsReal (some [49, 46, 50, 46, 51]) = some false := by rw [Mem.memIsReal_eq]; decide
example : Mem.memIsReal (some [32, 45, 49, 46, 53, 101, 51, 32]) = some true := by rw [Mem.memIsReal_eq]; decide

-- non-vacuity: the width hypotheses hold for the three C types, and concrete instances on each branch
example : Mem.i32min ≤ -36 ∧ 35 ≤ Mem.i32max ∧ Mem.i64min ≤ -36 ∧ 35 ≤ Mem.i64max := by decide
-- "2147483647" / "2147483648" / "-2147483648" / "-21474836499" in base 10
example : Mem.strtoi32 [50,49,52,55,52,56,51,54,52,55] 10 = ⟨.ok, some 10, some 2147483647⟩ := by
  rw [Mem.strtoi32, Mem.strtoi_eq_spec (by decide) (by decide)]; decide
example : Mem.strtoi32 [50,49,52,55,52,56,51,54,52,56] 10 = ⟨.erange, some 10, some 2147483647⟩ := by
  rw [Mem.strtoi32, Mem.strtoi_eq_spec (by decide) (by decide)]; decide
example : Mem.strtoi32 [45,50,49,52,55,52,56,51,54,52,56] 10 = ⟨.ok, some 11, some (-2147483648)⟩ := by
  rw [Mem.strtoi32, Mem.strtoi_eq_spec (by decide) (by decide)]; decide
example : Mem.strtoi32 [45,50,49,52,55,52,56,51,54,52,57,57] 10 = ⟨.erange, some 11, some (-2147483648)⟩ := by
  rw [Mem.strtoi32, Mem.strtoi_eq_spec (by decide) (by decide)]; decide
-- " -0x1fz" base 0; "0x" base 0 (prefix without digit: EFORMAT); "0" base 0 (octal zero); "0X1" base 16 (capital X is no prefix); base 37
example : Mem.strtoi32 [32,45,48,120,49,102,122] 0 = ⟨.ok, some 6, some (-31)⟩ := by
  rw [Mem.strtoi32, Mem.strtoi_eq_spec (by decide) (by decide)]; decide
example : Mem.strtoi32 [48,120] 0 = ⟨.eformat, some 0, some 0⟩ := by
  rw [Mem.strtoi32, Mem.strtoi_eq_spec (by decide) (by decide)]; decide
example : Mem.strtoi32 [48] 0 = ⟨.ok, some 1, some 0⟩ := by
  rw [Mem.strtoi32, Mem.strtoi_eq_spec (by decide) (by decide)]; decide
example : Mem.strtoi32 [48,88,49] 16 = ⟨.ok, some 1, some 0⟩ := by
  rw [Mem.strtoi32, Mem.strtoi_eq_spec (by decide) (by decide)]; decide
example : Mem.strtoi32 [49] 37 = ⟨.einval, none, none⟩ := by
  rw [Mem.strtoi32, Mem.strtoi_eq_spec (by decide) (by decide)]; decide
-- "9223372036854775808" overflows int64 at its last digit
example : Mem.strtoi64 [57,50,50,51,51,55,50,48,51,54,56,53,52,55,55,53,56,48,56] 10 = ⟨.erange, some 19, some 9223372036854775807⟩ := by
  rw [Mem.strtoi64, Mem.strtoi_eq_spec (by decide) (by decide)]; decide
-- " ab  c" with delimiter " ": token "ab" at 1, two trailing blanks skipped, 1 byte left; "  " → EOL; NUL is always a delimiter
example : Mem.memtok [32,97,98,32,32,99] [32] = some ⟨.ok, some (1, 2), 5, 1⟩ := by rw [Mem.memtok_eq]; decide
example : Mem.memtok [32,32] [32] = some ⟨.eol, none, 0, 2⟩ := by rw [Mem.memtok_eq]; decide
example : Mem.memspn [0,32,97] [32] = some 2 ∧ Mem.memcspn [97,98,0,99] [120] = some 2 := by
  rw [Mem.memspn_eq, Mem.memcspn_eq]; decide
-- "ab" vs "ab", "ab\0c"; "a\0" never equals; contains on the empty line is FALSE even for ""
example : Mem.memstrcmp (some [97,98]) (some [97,98,0,99]) = some true ∧ Mem.memstrcmp (some [97,0]) (some [97]) = some false := by
  rw [(memstrcmp_spec _ _).1, (memstrcmp_spec _ _).1]; decide
example : Mem.memstrcontains (some []) (some []) = some false ∧ Mem.memstrcontains (some [120,97,98]) (some [97,98]) = some true := by
  rw [(memstrcontains_spec _ _).1, (memstrcontains_spec _ _).1]; decide

/-! ## Opening and closing: `esl_buffer_Open`, `OpenFile`, `OpenPipe`, `Close`, the `AsStr` results

The operating system is a parameter of every statement: `fs` (finite map path → contents of the readable regular files),
`env` (`getenv`), `gunzip` (what `gzip -dc` writes for a file content, and whether it exits 0), `cfg` (`st_blksize`,
`_POSIX_VERSION`, the verification hooks), `stdin`. `openAny usesPath` is `esl_buffer_Open` with the `.gz` test on
`filename` (`usesPath = false`, the code before the repair: theorem (6)) or on `path` (`usesPath = true`, the repaired code);
`OpenConsts.gzTestUsesPath`, regenerated on every run, says which one the tree has. -/
section Open
open EaselModel.Buffer.OpenFile

/-- **(1) The search.** `esl_buffer_Open` finds a file iff it exists under the name given (current directory) or in one of
    the directories listed in the variable; the path it settles on is the FIRST of the candidates `filename, d₁/filename,
    d₂/filename, …` (in the order of the list) that exists. -/
theorem open_finds_iff (fs : FS) (env : Env) (filename : CStr) (envvar : Option CStr) :
    ((findPath fs env filename envvar).1.isSome = true ↔
        (fileExists fs filename = true ∨ ∃ d ∈ listedDirs env envvar, fileExists fs (envPath d filename) = true)) ∧
    (findPath fs env filename envvar).1 = (candidates env filename envvar).find? (fun p => fileExists fs p) ∧
    (fileExists fs filename = true → (findPath fs env filename envvar).1 = some filename) := by
  refine ⟨?_, findPath_eq_find fs env filename envvar, findPath_cwd fs env filename envvar⟩
  rw [findPath_isSome_iff]
  simp only [candidates, List.mem_cons, List.mem_map]
  constructor
  · rintro ⟨p, hp | ⟨d, hd, hp⟩, hx⟩
    · rw [hp] at hx; exact Or.inl hx
    · rw [← hp] at hx; exact Or.inr ⟨d, hd, hx⟩
  · rintro (hx | ⟨d, hd, hx⟩)
    · exact ⟨filename, Or.inl rfl, hx⟩
    · exact ⟨_, Or.inr ⟨d, hd, rfl⟩, hx⟩

/-- … and when none of them exists: `eslENOTFOUND`, and the buffer handed back is in the UNSET state (no memory, no
    stream, no file name) with an error message. -/
theorem open_not_found (usesPath : Bool) (cfg : Cfg) (fs : FS) (env : Env) (gunzip : Bytes → Bytes × Bool) (stdin : Bytes)
    (filename : CStr) (envvar : Option CStr) (hd : filename ≠ dash)
    (h : ∀ p ∈ candidates env filename envvar, fileExists fs p = false) :
    (openAny usesPath cfg fs env gunzip stdin filename envvar).st = .enotfound ∧
    (openAny usesPath cfg fs env gunzip stdin filename envvar).c =
      some { mode_is := .unset, mem := false, fp := false, filename := none, cmdline := false, pagesize := 4096, errmsg := true } ∧
    (openAny usesPath cfg fs env gunzip stdin filename envvar).b = none := by
  have hn : (findPath fs env filename envvar).1 = none := by
    rw [findPath_eq_find, List.find?_eq_none]
    intro p hp; simp [h p hp]
  exact openAny_not_found usesPath cfg fs env gunzip stdin filename envvar hd hn

/-- … and when `p` is the first existing candidate, Open is `OpenPipe(p, "gzip -dc %s")` or `OpenFile(p)` as the `.gz`
    test decides (status, buffer handed back, initial window) — or the out-of-bounds read of theorem (6). -/
theorem open_uses_first (usesPath : Bool) (cfg : Cfg) (fs : FS) (env : Env) (gunzip : Bytes → Bytes × Bool) (stdin : Bytes)
    (filename : CStr) (envvar : Option CStr) (hd : filename ≠ dash) (p : CStr)
    (h : (candidates env filename envvar).find? (fun p => fileExists fs p) = some p) :
    let r := openAny usesPath cfg fs env gunzip stdin filename envvar
    let d : OpenOut := match gzTest usesPath filename p with
      | none => { st := .fault }
      | some true => openPipe cfg fs gunzip (some p)
      | some false => openFile cfg fs p
    r.st = d.st ∧ r.c = d.c ∧ r.b = d.b :=
  openAny_found usesPath cfg fs env gunzip stdin filename envvar hd p (by rw [findPath_eq_find]; exact h)

/-- the directory list is the value of the variable cut at every `:` — empty pieces included, nothing normalised -/
theorem splitColon_spec (s : CStr) :
    (∀ d ∈ splitColon s, COLON ∉ d) ∧ List.intercalate [COLON] (splitColon s) = s :=
  EaselModel.Buffer.OpenFile.splitColon_spec s

/-- **(2) Mode choice of `esl_buffer_OpenFile`** (no forcing hook): with `fstat`, a file of at most 4194304 bytes
    (`eslBUFFER_SLURPSIZE`) is slurped (`eslBUFFER_ALLFILE`; an empty file has `mem = NULL`), a larger one is memory
    mapped; without `fstat` it is read page by page (`eslBUFFER_FILE`). The window is the existing `openBuf` of that mode. -/
theorem openFile_mode_spec (cfg : Cfg) (fs : FS) (f : CStr) (src : Bytes) (h : fsRead fs f = some src) (hf : cfg.force = none) :
    (cfg.posix = true →
      (openFile cfg fs f).st = .ok ∧
      (openFile cfg fs f).b = some (openBuf (if src.length ≤ 4194304 then Mode.allfile else Mode.mmap) (filePs cfg) src, src) ∧
      (openFile cfg fs f).c = some { mode_is := (if src.length ≤ 4194304 then ModeIs.allfile else ModeIs.mmap),
                                     mem := decide (0 < src.length), filename := some f, pagesize := filePs cfg }) ∧
    (cfg.posix = false →
      (openFile cfg fs f).st = .ok ∧ (openFile cfg fs f).b = some (openBuf .file (filePs cfg) src, src)) :=
  ⟨openFile_posix cfg fs f src h hf, openFile_noposix cfg fs f src h⟩

/-- the page size of `esl_buffer_OpenFile`: `st_blksize` clamped to [512, 4194304] (4096 without `fstat`), unless the hook overrides -/
theorem openFile_pagesize_clamp (cfg : Cfg) :
    filePs cfg = (if cfg.hookPs > 0 then cfg.hookPs else if cfg.posix then max 512 (min cfg.blksize 4194304) else 4096) ∧
    0 < filePs cfg := by
  refine ⟨?_, filePs_pos cfg⟩
  unfold filePs
  rw [clampPs_eq, pageSize_val]

theorem openFile_not_found (cfg : Cfg) (fs : FS) (f : CStr) (h : fsRead fs f = none) :
    (openFile cfg fs f).st = .enotfound ∧ (openFile cfg fs f).c = some (unsetErr 4096) ∧ (openFile cfg fs f).b = none := by
  rw [EaselModel.Buffer.OpenFile.openFile_not_found cfg fs f h]
  exact ⟨rfl, rfl, rfl⟩

/-- `esl_buffer_OpenPipe(filename, cmdfmt)`: `eslENOTFOUND` if the file does not exist; else the command's output `out`
    through the pipe opener — unless the first read is short AND the command exited non-zero: `eslFAIL`. A failure behind
    a full first page goes unnoticed (as the documentation says). -/
theorem openPipe_spec (cfg : Cfg) (fs : FS) (run : Bytes → Bytes × Bool) (f : CStr) :
    (fsRead fs f = none → (openPipe cfg fs run (some f)).st = .enotfound ∧
        (openPipe cfg fs run (some f)).c = some (unsetErr (createPs cfg)) ∧ (openPipe cfg fs run (some f)).b = none) ∧
    (∀ input, fsRead fs f = some input →
      ((run input).1.length < createPs cfg ∧ (run input).2 = false →
          (openPipe cfg fs run (some f)).st = .fail ∧ (openPipe cfg fs run (some f)).c = some (unsetErr (createPs cfg)) ∧
          (openPipe cfg fs run (some f)).b = none) ∧
      (¬ ((run input).1.length < createPs cfg ∧ (run input).2 = false) →
          (openPipe cfg fs run (some f)).st = .ok ∧
          (openPipe cfg fs run (some f)).b = some (openBuf .cmdpipe (createPs cfg) (run input).1, (run input).1))) := by
  refine ⟨fun h => ?_, fun input h => ?_⟩
  · rw [openPipe_not_found cfg fs run f h]; exact ⟨rfl, rfl, rfl⟩
  · obtain ⟨h1, h2⟩ := openPipe_found cfg fs run f input h
    exact ⟨h1, fun hn => ⟨(h2 hn).1, (h2 hn).2.1⟩⟩

/-- **(3) Whatever path and mode Open chooses**, the buffer it hands back on the bytes `src` behaves on every valid history
    exactly as the specification "bytes + cursor" on `src` — and therefore exactly as the string opener
    (`esl_buffer_OpenMem`) on the same bytes, with any page size. -/
theorem open_semantics_mode_independent (usesPath : Bool) (cfg : Cfg) (fs : FS) (env : Env) (gunzip : Bytes → Bytes × Bool)
    (stdin : Bytes) (filename : CStr) (envvar : Option CStr) (b : Buf) (src : Bytes)
    (h : (openAny usesPath cfg fs env gunzip stdin filename envvar).b = some (b, src))
    (P : Nat) (hP : P ≤ b.pagesize) (ps' : Nat) (hps' : 0 < ps') (hP' : P ≤ ps')
    (ops : List Op) (hv : ValidHist P (AState.init src) ops) :
    obsRun { b := b } ops = specRun (AState.init src) ops ∧
    obsRun { b := b } ops = obsRun { b := openBuf .string ps' src } ops := by
  have h1 := openAny_semantics usesPath cfg fs env gunzip stdin filename envvar b src h P hP ops hv
  exact ⟨h1, by rw [h1, EaselModel.Buffer.history_spec .string ps' src hps' P hP' ops hv]⟩

/-- … where `src` is the content of the file at the path found, or — when the `.gz` test holds — what `gzip -dc` writes
    for that content. -/
theorem open_gz_semantics (usesPath : Bool) (cfg : Cfg) (fs : FS) (env : Env) (gunzip : Bytes → Bytes × Bool) (stdin : Bytes)
    (filename : CStr) (envvar : Option CStr) (hd : filename ≠ dash) (b : Buf) (src : Bytes)
    (h : (openAny usesPath cfg fs env gunzip stdin filename envvar).b = some (b, src)) :
    ∃ p raw, (candidates env filename envvar).find? (fun p => fileExists fs p) = some p ∧ fsRead fs p = some raw ∧
      ((gzTest usesPath filename p = some true ∧ src = (gunzip raw).1) ∨
       (gzTest usesPath filename p = some false ∧ src = raw)) := by
  obtain ⟨p, raw, h1, h2, h3⟩ := openAny_src usesPath cfg fs env gunzip stdin filename envvar hd b src h
  exact ⟨p, raw, by rw [← findPath_eq_find]; exact h1, h2, h3⟩

/-- **(4) `esl_buffer_Close` releases every resource exactly once.** For every outcome of `esl_buffer_Open` other than
    the out-of-bounds read — success in any mode, `eslENOTFOUND`/`eslFAIL` with an UNSET buffer, an exception with NULL —
    the actions of Open followed by those of `Close(*ret_bf)` acquire and release each resource (the ESL_BUFFER, the
    malloc'ed or mmap'ed memory, the FILE* from fopen or popen, filename, cmdline, the temporaries `cmd`, `path`,
    `dirlist`) exactly once, release nothing they did not acquire, and leave nothing. -/
theorem close_releases_exactly_once (usesPath : Bool) (cfg : Cfg) (fs : FS) (env : Env) (gunzip : Bytes → Bytes × Bool)
    (stdin : Bytes) (filename : CStr) (envvar : Option CStr)
    (hst : (openAny usesPath cfg fs env gunzip stdin filename envvar).st ≠ .fault) :
    balanced ((openAny usesPath cfg fs env gunzip stdin filename envvar).trace ++
              closeOpt (openAny usesPath cfg fs env gunzip stdin filename envvar).c) = true :=
  (balanced_iff _).mpr (openAny_close usesPath cfg fs env gunzip stdin filename envvar hst)

/-- the same for each opener called directly (hooks and forced modes included; `OpenMem`/`OpenStream` leave the caller's
    memory / stream alone) -/
theorem openers_release_exactly_once (cfg : Cfg) (fs : FS) (run : Bytes → Bytes × Bool) (f : CStr) (fo : Option CStr) (src : Bytes) :
    balanced ((openFile cfg fs f).trace ++ closeOpt (openFile cfg fs f).c) = true ∧
    balanced ((openPipe cfg fs run fo).trace ++ closeOpt (openPipe cfg fs run fo).c) = true ∧
    balanced ((openStream cfg src).trace ++ closeOpt (openStream cfg src).c) = true ∧
    balanced ((openMem cfg src).trace ++ closeOpt (openMem cfg src).c) = true :=
  ⟨(balanced_iff _).mpr (openFile_close cfg fs f).1, (balanced_iff _).mpr (openPipe_close cfg fs run fo).1,
   (balanced_iff _).mpr (openStream_close cfg src), (balanced_iff _).mpr (openMem_close cfg src)⟩

/-- **(5) The strings of `FetchLineAsStr` / `FetchTokenAsStr`**: status and new cursor as the specification says; on
    `eslOK` the allocation holds the line (token) followed by one NUL — `n + 1` bytes, the last one 0, the first `n` the
    line — and `*opt_n = n`; otherwise NULL and 0. -/
theorem asStr_nul_terminated (b : Buf) (sep : Bytes) (h : WF b) (hl : Loaded b) :
    (((fetchLineAsStr b).1, (fetchLineAsStr b).2.2.2.abs) = ((specGetLine b.abs).1, (specGetLine b.abs).2.2) ∧
     ((fetchLineAsStr b).1 = .ok →
        (fetchLineAsStr b).2.1 = some ((specGetLine b.abs).2.1 ++ [0]) ∧
        (fetchLineAsStr b).2.2.1 = (specGetLine b.abs).2.1.length) ∧
     ((fetchLineAsStr b).1 ≠ .ok → (fetchLineAsStr b).2.1 = none ∧ (fetchLineAsStr b).2.2.1 = 0)) ∧
    (((fetchTokenAsStr b sep).1, (fetchTokenAsStr b sep).2.2.2.abs) = ((specToken b.abs sep).1, (specToken b.abs sep).2.2) ∧
     ((fetchTokenAsStr b sep).1 = .ok →
        (fetchTokenAsStr b sep).2.1 = some ((specToken b.abs sep).2.1 ++ [0]) ∧
        (fetchTokenAsStr b sep).2.2.1 = (specToken b.abs sep).2.1.length) ∧
     ((fetchTokenAsStr b sep).1 ≠ .ok → (fetchTokenAsStr b sep).2.1 = none ∧ (fetchTokenAsStr b sep).2.2.1 = 0)) ∧
    (∀ l : Bytes, (l ++ [(0 : UInt8)]).length = l.length + 1 ∧ (l ++ [(0 : UInt8)])[l.length]? = some 0 ∧
        (l ++ [(0 : UInt8)]).take l.length = l ∧ (l ++ [(0 : UInt8)]).getLast? = some 0) :=
  ⟨fetchLineAsStr_spec b h hl, fetchTokenAsStr_spec b sep h, asStrAlloc_spec⟩

/-- `strlen(result) = n` iff the line (token) has no embedded NUL; in every case `strlen` stops inside the allocation -/
theorem asStr_strlen_iff (l : Bytes) :
    (strlenIn (l ++ [0]) = some l.length ↔ (0 : UInt8) ∉ l) ∧
    (∃ k, strlenIn (l ++ [0]) = some k ∧ k ≤ l.length ∧ (l ++ [(0 : UInt8)])[k]? = some 0) :=
  ⟨strlen_asStr_iff l, strlen_asStr_le l⟩

/-- **(6) The `.gz` test of the code before the repair, `strcmp(filename + strlen(path) - 3, ".gz")`.** Found in the current
    directory (`path = filename`) Open never reads out of bounds with either test, and the test is the documented one (the
    name ends in `.gz`). -/
theorem open_cwd_never_faults (usesPath : Bool) (cfg : Cfg) (fs : FS) (env : Env) (gunzip : Bytes → Bytes × Bool) (stdin : Bytes)
    (filename : CStr) (envvar : Option CStr) (h : fileExists fs filename = true) :
    (openAny usesPath cfg fs env gunzip stdin filename envvar).st ≠ .fault ∧
    gzTest usesPath filename filename = some (decide (3 < filename.length ∧ filename.drop (filename.length - 3) = dotGz)) := by
  refine ⟨fun hf => ?_, gzTest_self usesPath filename⟩
  obtain ⟨_, p, hp, hg⟩ := (openAny_fault_iff usesPath cfg fs env gunzip stdin filename envvar).mp hf
  rw [findPath_cwd fs env filename envvar h] at hp
  cases hp
  exact gzTest_cwd_ne_none usesPath filename hg

/-- Found through the directory list, in directory `d` (so `path = d/filename`): Open reads out of bounds — behind the
    terminator of `filename` — exactly when `d` is 3 bytes or longer. In general: iff `strlen(path) - 3 > strlen(filename)`. -/
theorem open_gz_fault_iff (cfg : Cfg) (fs : FS) (env : Env) (gunzip : Bytes → Bytes × Bool) (stdin : Bytes)
    (filename : CStr) (envvar : Option CStr) :
    ((openAny false cfg fs env gunzip stdin filename envvar).st = .fault ↔
      filename ≠ dash ∧ ∃ p, (candidates env filename envvar).find? (fun p => fileExists fs p) = some p ∧
        3 < p.length ∧ filename.length < p.length - 3) ∧
    (∀ d, filename ≠ dash → (candidates env filename envvar).find? (fun p => fileExists fs p) = some (envPath d filename) →
      ((openAny false cfg fs env gunzip stdin filename envvar).st = .fault ↔ 3 ≤ d.length)) := by
  have key := openAny_fault_iff false cfg fs env gunzip stdin filename envvar
  rw [findPath_eq_find] at key
  refine ⟨?_, fun d hd hf => ?_⟩
  · rw [key]
    constructor
    · rintro ⟨hd, p, hp, hg⟩; exact ⟨hd, p, hp, (gzTest_none_iff filename p).mp hg⟩
    · rintro ⟨hd, p, hp, hg⟩; exact ⟨hd, p, hp, (gzTest_none_iff filename p).mpr hg⟩
  · rw [key]
    constructor
    · rintro ⟨_, p, hp, hg⟩
      rw [hf] at hp; cases hp
      rw [gzTest_env] at hg
      by_cases h3 : 3 ≤ d.length
      · exact h3
      · rw [if_neg h3] at hg; simp at hg
    · intro h3
      exact ⟨hd, envPath d filename, hf, by rw [gzTest_env, if_pos h3]⟩

def gzWitnessFS : FS := [([100, 105, 114, 47, 97, 46, 103, 122], [31, 139, 8, 0])]      -- "dir/a.gz"
def gzWitnessEnv : Env := [([80], [100, 105, 114])]                                      -- P=dir

/-- the witness of the finding `C05:open:gz-suffix-indexes-filename` (the test on `filename`): `esl_buffer_Open("a.gz", "P")` with `P=dir`
    and the file `dir/a.gz`: `n = 8`, the read starts at `filename[5]` of the 5-byte object `"a.gz\0"` -/
theorem open_gz_fault_witness :
    (openAny false {} gzWitnessFS gzWitnessEnv (fun _ => ([], false)) [] [97, 46, 103, 122] (some [80])).st = .fault := by
  decide

/-- … and when it does not fault (directory names of at most 2 bytes) the test answers "not gzip" whatever the name: a
    `.gz` file found through the directory list is never decompressed; it is opened as a plain file. -/
theorem open_gz_env_never_recognised (d filename : CStr) :
    gzTest false filename (envPath d filename) = (if 3 ≤ d.length then none else some false) ∧
    gzTest false filename (envPath d filename) ≠ some true := by
  refine ⟨gzTest_env d filename, ?_⟩
  rw [gzTest_env]; split <;> simp

/-- With the repaired test (`strcmp(path + n - 3, ".gz")`) Open never reads out of bounds … -/
theorem open_fixed_never_faults (cfg : Cfg) (fs : FS) (env : Env) (gunzip : Bytes → Bytes × Bool) (stdin : Bytes)
    (filename : CStr) (envvar : Option CStr) :
    (openAny true cfg fs env gunzip stdin filename envvar).st ≠ .fault := by
  intro hf
  obtain ⟨_, p, _, hg⟩ := (openAny_fault_iff true cfg fs env gunzip stdin filename envvar).mp hf
  exact gzTest_fixed_ne_none filename p hg

/-- … and the test is the documented one wherever the file was found: the path (equivalently the name) ends in `.gz`. -/
theorem open_fixed_gz_iff_suffix (filename path : CStr) :
    gzTest true filename path = some (decide (3 < path.length ∧ path.drop (path.length - 3) = dotGz)) :=
  gzTest_fixed filename path

-- non-vacuity
private def exFS : FS := [([102], [97, 10]), ([97, 47, 103], [98, 10]), ([98, 47, 103], [99, 10]), ([122, 46, 103, 122], [1, 2])]
private def exEnv : Env := [([80], [120, 58, 58, 97, 58, 98])]                            -- P=x::a:b
private def exGunzip : Bytes → Bytes × Bool := fun raw => if raw = [1, 2] then ([104, 105, 10], true) else ([], false)
-- cwd; second-but-first-existing listed directory (x, "" do not have it; a wins over b); nowhere; .gz in cwd through the pipe
example : (findPath exFS exEnv [102] (some [80])).1 = some [102] := by decide
example : splitColon [120, 58, 58, 97, 58, 98] = [[120], [], [97], [98]] := by decide
example : (findPath exFS exEnv [103] (some [80])).1 = some [97, 47, 103] := by decide
example : ∀ p ∈ candidates exEnv [113] (some [80]), fileExists exFS p = false := by decide
example : (openAny false {} exFS exEnv exGunzip [] [113] (some [80])).st = .enotfound := by decide
example : (openAny false {} exFS exEnv exGunzip [] [103] none).st = .enotfound := by decide
example : ((openAny false {} exFS exEnv exGunzip [] [103] (some [80])).b.map (·.2)) = some [98, 10] := by decide
example : ((openAny false {} exFS exEnv exGunzip [] [122, 46, 103, 122] none).b.map (·.2)) = some [104, 105, 10] := by decide
example : ((openAny false { hookPs := 2 } exFS exEnv exGunzip [] [122, 46, 103, 122] none).b.map (·.1.mode)) = some Mode.cmdpipe := by decide
example : (openAny false {} exFS exEnv (fun _ => ([], false)) [] [122, 46, 103, 122] none).st = .fail := by decide
example : ((openAny false {} exFS exEnv exGunzip [5, 10] dash none).b.map (·.1.mode)) = some Mode.stream := by decide
example : fsRead exFS [102] = some [97, 10] ∧ ({} : Cfg).force = none ∧ ({} : Cfg).posix = true := by decide
example : filePs { blksize := 100 } = 512 ∧ filePs { blksize := 65536 } = 65536 ∧ filePs { blksize := 8388608 } = 4194304 ∧
    filePs { blksize := 100, hookPs := 3 } = 3 ∧ filePs { posix := false, blksize := 100 } = 4096 := by decide
example : chooseMode true 4194304 = .allfile ∧ chooseMode true 4194305 = .mmap ∧ chooseMode true 0 = .allfile ∧
    chooseMode false (-1) = .file := by decide
example : (openFile { force := some .mmap } [([102], [])] [102]).st = .esys ∧
    balanced (openFile { force := some .mmap } [([102], [])] [102]).trace = true := by decide
example : balanced [.acq .bf, .acq .mem, .rel .bf] = false ∧ balanced [.acq .bf, .rel .bf, .rel .bf] = false ∧
    balanced [.rel .mem] = false := by decide
example : (openAny false {} exFS exEnv exGunzip [] [103] (some [80])).st ≠ .fault := by decide
example : strlenIn ([97, 0, 98] ++ [0]) = some 1 ∧ strlenIn ([97, 98] ++ [0]) = some 2 := by decide
example : gzTest false [97, 46, 103, 122] (envPath [100] [97, 46, 103, 122]) = some false ∧
    gzTest true [97, 46, 103, 122] (envPath [100, 105, 114] [97, 46, 103, 122]) = some true ∧
    gzTest false [46, 103, 122] [46, 103, 122] = some false := by decide
end Open

end EaselModel.Props.C05
