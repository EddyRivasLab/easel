import EaselModel.Ssi.Reader
import EaselModel.Ssi.History
import EaselModel.Ssi.Auto
import EaselModel.Ssi.Robust
import EaselModel.Ssi.Trunc
import EaselModel.Ssi.Chains
import EaselModel.Ssi.Offsets
/-! # C06 — property theorems (statements + glue only; lemmas live in Ssi/*.lean)

`ns : NewSsi` is the model of the `ESL_NEWSSI` under construction, `ns.WF` says it is what the `esl_newssi_Add*`
calls build in memory from non-empty NUL-free keys, names and numbers in range (Ssi/Writer.lean), `ns.write` is
`esl_newssi_Write` (status, index file left on disk), `Ssi.open` is `esl_ssi_Open` on the file's bytes.
All theorems are for every such index: no bound on the number of files, keys, aliases or on key length
other than the generous `WF` limits (names/keys < 64 KB, < 2^40 keys). -/
namespace EaselModel.Props.C06
open EaselModel.Ssi

/-- `esl_fread_u16/u32/u64/i64/offset ∘ esl_fwrite_…` is the identity on every value of the width
    (offsets and lengths are 64-bit patterns: the whole 63-bit range and beyond). -/
theorem codec_roundtrip (k n : Nat) (hk : k = 2 ∨ k = 4 ∨ k = 8) (hn : n < 256 ^ k) : ntoh (hton k n) = n := by
  rw [ntoh_hton k n hk, Nat.mod_eq_of_lt hn]

example : ntoh (enc64 (2^63 - 1)) = 2^63 - 1 := codec_roundtrip 8 _ (by simp) (by decide)

/-- the bytes written are the big-endian digits, exactly 2/4/8 of them -/
theorem codec_bigendian (k n : Nat) (hk : k = 2 ∨ k = 4 ∨ k = 8) :
    hton k n = (leBytes k n).reverse ∧ (hton k n).length = k :=
  ⟨hton_eq_be k n hk, hton_length k n hk⟩

/-- THIS binary search (left/right/mid arithmetic, `left >= right` exit, `mid == 0` guard) over any non-empty
    strictly `strcmp`-sorted record array returns the index of `key` if it is stored and `eslENOTFOUND` otherwise:
    one-key arrays, probes below the first / above the last key, keys that are prefixes of each other included. -/
theorem bsearch_correct (rdName : Nat → Except St Bytes) (keys : List Bytes) (key : Bytes)
    (hr : ReadsKeys rdName keys) (hs : StrictSorted keys) (hne : 0 < keys.length) :
    (∃ j, ∃ h : j < keys.length, keys[j] = key ∧ bsearchLoop rdName key 0 (keys.length - 1) = .ok j) ∨
    (key ∉ keys ∧ bsearchLoop rdName key 0 (keys.length - 1) = .error .enotfound) :=
  bsearchLoop_correct rdName keys key hr hs hne

example : StrictSorted [[97], [97, 98], [98]] := by unfold StrictSorted; decide

/-- `Write` succeeds iff ALL keys are distinct — no primary key twice, no alias twice, no alias that is also a
    primary key (`ns.Distinct`, see `write_ok_iff_distinct` for the plain `Nodup` form); then the file on disk is the
    image (header, file records, sorted fixed-width key records). Otherwise it returns `eslEDUP` and no index file is
    left behind. (The cross-class case is `cross_duplicate()`'s merge pass.) -/
theorem write_spec (ns : NewSsi) (h : ns.WF) (cur : Option Bytes) [Decidable ns.Distinct] :
    ((ns.write cur).2.1, (ns.write cur).2.2) =
      if ns.Distinct then (none, some ns.image) else (some .edup, none) :=
  write_eq ns h cur

/-- writing the index succeeds iff all keys — primary keys and aliases together — are distinct -/
theorem write_ok_iff_distinct (ns : NewSsi) (h : ns.WF) (cur : Option Bytes) :
    (ns.write cur).2.1 = none ↔ (ns.pkeys.map (·.key) ++ ns.skeys.map (·.key)).Nodup := by
  rw [← ns.distinct_iff_nodup]
  refine ⟨fun hn => Classical.byContradiction fun hd => ?_, fun hd => by rw [write_of_distinct ns h cur hd]⟩
  rw [write_of_dup ns h cur hd] at hn; cases hn

/-- a duplicate (within a class or across the classes) is reported as `eslEDUP` and leaves no index file -/
theorem write_dup_no_file (ns : NewSsi) (h : ns.WF) (cur : Option Bytes)
    (hdup : ¬ (ns.pkeys.map (·.key) ++ ns.skeys.map (·.key)).Nodup) :
    (ns.write cur).2.1 = some .edup ∧ (ns.write cur).2.2 = none := by
  rw [write_of_dup ns h cur fun hd => hdup (ns.distinct_iff_nodup.mp hd)]; exact ⟨rfl, rfl⟩

/-- "trying to `_Write()` the `ESL_NEWSSI` more than once": the second call returns `eslEINVAL` and touches nothing — the
    index file is what the first call left (the image, or no file after `eslEDUP`) -/
theorem write_twice (ns : NewSsi) (h : ns.WF) (cur : Option Bytes) :
    ((ns.write cur).1.write (ns.write cur).2.2).2 = (some .einval, (ns.write cur).2.2) := by
  have h1 := slen_pos_of_aliases ns h
  unfold NewSsi.write
  simp only [h1, ↓reduceIte, h.notWritten, Bool.false_eq_true]
  cases ns.writeBytes <;> simp [h1]

/-- whenever `Write` leaves a file, the keys were distinct and the file is the image -/
theorem written_file (ns : NewSsi) (h : ns.WF) (cur : Option Bytes) (bytes : Bytes) (hw : (ns.write cur).2.2 = some bytes) :
    ns.Distinct ∧ bytes = ns.image :=
  EaselModel.Ssi.written_file ns h cur bytes hw

theorem written_opens (ns : NewSsi) (h : ns.WF) (cur : Option Bytes) (bytes : Bytes) (hw : (ns.write cur).2.2 = some bytes) :
    ns.Distinct ∧ bytes = ns.image ∧ Ssi.open bytes.toArray = .ok ns.opened :=
  EaselModel.Ssi.written_opens ns h cur bytes hw

/-- reopening the written index succeeds and reports the counts and the record geometry -/
theorem open_written (ns : NewSsi) (h : ns.WF) (cur : Option Bytes) (bytes : Bytes) (hw : (ns.write cur).2.2 = some bytes) :
    Ssi.open bytes.toArray = .ok ns.opened ∧ ns.opened.nfiles = ns.files.length ∧
      ns.opened.nprimary = ns.pkeys.length ∧ ns.opened.nsecondary = ns.skeys.length :=
  ⟨(written_opens ns h cur bytes hw).2.2, rfl, rfl, rfl⟩

/-- `esl_ssi_Open`'s documented failures, for ANY file contents: shorter than the magic/flags/offset-size words, or a
    wrong magic number → `eslEFORMAT`; an offset size other than 4 or 8 → `eslERANGE` -/
theorem open_rejects (d : Array UInt8) :
    (d.size < 12 → Ssi.open d = .error .eformat) ∧
    (∀ magic flags offsz, readFields d 0 [4, 4, 4] = some [magic, flags, offsz] →
      (magic ≠ V30MAGIC ∧ magic ≠ V30SWAP → Ssi.open d = .error .eformat) ∧
      ((magic = V30MAGIC ∨ magic = V30SWAP) → offsz ≠ 4 ∧ offsz ≠ 8 → Ssi.open d = .error .erange)) :=
  ⟨open_short d, fun magic flags offsz h =>
    ⟨open_bad_magic d magic flags offsz h, open_bad_offsz d magic flags offsz h⟩⟩

/-- `FindName` returns exactly the stored `(fh, roff, doff, L)` for every stored primary key -/
theorem findName_stored (ns : NewSsi) (h : ns.WF) (cur : Option Bytes) (bytes : Bytes) (hw : (ns.write cur).2.2 = some bytes)
    (k : PKey) (hk : k ∈ ns.pkeys) :
    (Ssi.open bytes.toArray).bind (·.findName k.key) = .ok ⟨k.fnum, k.roff, k.doff, k.len⟩ := by
  obtain ⟨hd, -, ho⟩ := written_opens ns h cur bytes hw
  exact findName_primary_of_open h hd ho k hk

/-- `FindName` of an alias returns the record of the primary key it was registered for, for EVERY alias of a written
    index. Hypothesis: the target is a registered primary key (`AddAlias`'s documented precondition — without it the real
    recursion need not terminate). -/
theorem findName_alias (ns : NewSsi) (h : ns.WF) (cur : Option Bytes) (bytes : Bytes)
    (hw : (ns.write cur).2.2 = some bytes)
    (a : SKey) (ha : a ∈ ns.skeys) (k : PKey) (hk : k ∈ ns.pkeys) (hak : a.pkey = k.key) :
    (Ssi.open bytes.toArray).bind (·.findName a.key) = .ok ⟨k.fnum, k.roff, k.doff, k.len⟩ := by
  obtain ⟨hd, -, ho⟩ := written_opens ns h cur bytes hw
  exact findName_alias_of_open h hd ho a ha k hk hak

/-- every other string is reported as `eslENOTFOUND` -/
theorem findName_absent (ns : NewSsi) (h : ns.WF) (cur : Option Bytes) (bytes : Bytes) (hw : (ns.write cur).2.2 = some bytes)
    (key : Bytes) (hp : ∀ k ∈ ns.pkeys, k.key ≠ key) (hs : ∀ a ∈ ns.skeys, a.key ≠ key) :
    (Ssi.open bytes.toArray).bind (·.findName key) = .error .enotfound := by
  obtain ⟨hd, -, ho⟩ := written_opens ns h cur bytes hw
  exact findName_absent_of_open h hd ho key hp hs

/-- `FindNumber` enumerates the primary keys in bytewise (`strcmp`) sorted order: there is a strictly increasing
    rearrangement of the stored keys whose `i`-th element is what `FindNumber i` returns (record and key field);
    numbers outside `0..nprimary-1` are `eslENOTFOUND`. -/
theorem findNumber_sorted (ns : NewSsi) (h : ns.WF) (cur : Option Bytes) (bytes : Bytes) (hw : (ns.write cur).2.2 = some bytes) :
    ∃ sorted : List PKey, sorted.Perm ns.pkeys ∧ StrictSorted (sorted.map (·.key)) ∧
      (∀ i (hi : i < sorted.length),
        (Ssi.open bytes.toArray).bind (·.findNumber (i : Int)) =
          .ok (⟨sorted[i].fnum, sorted[i].roff, sorted[i].doff, sorted[i].len⟩, strncpy ns.plen sorted[i].key)
        ∧ cstr (strncpy ns.plen sorted[i].key) = sorted[i].key) ∧
      (∀ i : Int, (i < 0 ∨ i ≥ ns.pkeys.length) → -(2:Int)^63 ≤ i →
        (Ssi.open bytes.toArray).bind (·.findNumber i) = .error .enotfound) := by
  obtain ⟨hd, -, ho⟩ := written_opens ns h cur bytes hw
  rw [ho]
  refine ⟨sortPKeys ns.pkeys, sortPKeys_perm ns.pkeys, pkeys_strict h hd, ?_, ?_⟩
  · intro i hi
    have hk := h.pkey _ (sortP_mem h (List.getElem_mem hi))
    exact ⟨findNumber_image h i hi, cstr_strncpy _ _ hk.2.1 hk.2.2.1⟩
  · intro i hi hi2
    exact findNumber_out_of_range h i hi hi2

/-- `FileInfo` reports each file's name (directory stripped, as `AddFile` stored it), format, and the line geometry
    set by `SetSubseq` (flag `eslSSI_FASTSUBSEQ` iff both are positive); other handles are `eslEINVAL`. -/
theorem fileInfo_spec (ns : NewSsi) (h : ns.WF) (cur : Option Bytes) (bytes : Bytes) (hw : (ns.write cur).2.2 = some bytes)
    (fh : Nat) :
    (Ssi.open bytes.toArray).bind (·.fileInfo fh) =
      if hfh : fh < ns.files.length then
        .ok { name := strncpy ns.flen ns.files[fh].name, format := ns.files[fh].fmt,
              flags := if ns.files[fh].bpl > 0 ∧ ns.files[fh].rpl > 0 then 1 else 0,
              bpl := ns.files[fh].bpl, rpl := ns.files[fh].rpl }
      else .error .einval := by
  obtain ⟨-, -, ho⟩ := written_opens ns h cur bytes hw
  rw [ho]
  by_cases hfh : fh < ns.files.length
  · simp only [hfh, ↓reduceDIte]
    exact fileInfo_image fh hfh
  · simp only [hfh, ↓reduceDIte]
    exact fileInfo_bad fh (by omega)

/-- `FindSubseq` of a stored primary key (file handle registered, `1 ≤ start ≤ L`): the documented four outcomes
    (`subseqSpec`): data offset unknown or no line geometry → start of data, residue 1; `bpl = rpl+1` → the exact byte
    of residue `start`; otherwise the start of the line holding it. (`start < 1`, 0 included, is `eslERANGE`: `findSubseq_erange`.) -/
theorem findSubseq_spec (ns : NewSsi) (h : ns.WF) (cur : Option Bytes) (bytes : Bytes) (hw : (ns.write cur).2.2 = some bytes)
    (k : PKey) (hk : k ∈ ns.pkeys) (hfh : k.fnum < ns.files.length) (start : Nat) (h1 : 1 ≤ start) (h2 : start ≤ k.len)
    (hL : k.len < 2^63) :
    (Ssi.open bytes.toArray).bind (·.findSubseq k.key (start : Int)) = .ok (subseqSpec k ns.files[k.fnum] start) := by
  obtain ⟨hd, -, ho⟩ := written_opens ns h cur bytes hw
  rw [ho]
  exact findSubseq_primary h hd k hk hfh start h1 h2 hL

/-- a requested start outside `1..L` (0 and negative values included) is `eslERANGE` -/
theorem findSubseq_erange (ns : NewSsi) (h : ns.WF) (cur : Option Bytes) (bytes : Bytes) (hw : (ns.write cur).2.2 = some bytes)
    (k : PKey) (hk : k ∈ ns.pkeys) (start : Int) (hr : start < 1 ∨ start > (k.len : Int)) (hL : k.len < 2^63) :
    (Ssi.open bytes.toArray).bind (·.findSubseq k.key start) = .error .erange := by
  obtain ⟨hd, -, ho⟩ := written_opens ns h cur bytes hw
  rw [ho]
  exact findSubseq_range h hd k hk start hr hL

/-- `FindSubseq` through an ALIAS: the same documented outcome, computed from the record of the alias's target key and
    the line geometry of the target's file -/
theorem findSubseq_alias (ns : NewSsi) (h : ns.WF) (cur : Option Bytes) (bytes : Bytes) (hw : (ns.write cur).2.2 = some bytes)
    (a : SKey) (ha : a ∈ ns.skeys) (k : PKey) (hk : k ∈ ns.pkeys) (hak : a.pkey = k.key)
    (hfh : k.fnum < ns.files.length) (hL : k.len < 2^63) :
    (∀ start : Nat, 1 ≤ start → start ≤ k.len →
      (Ssi.open bytes.toArray).bind (·.findSubseq a.key (start : Int)) = .ok (subseqSpec k ns.files[k.fnum] start)) ∧
    (∀ start : Int, (start < 1 ∨ start > (k.len : Int)) →
      (Ssi.open bytes.toArray).bind (·.findSubseq a.key start) = .error .erange) := by
  obtain ⟨hd, -, ho⟩ := written_opens ns h cur bytes hw
  rw [ho]
  have hfind : ns.opened.findName a.key = .ok (hitOf k) := EaselModel.Ssi.findName_alias h hd a ha k hk hak (FUEL - 2)
  exact ⟨fun start h1 h2 => findSubseq_of_hit a.key k hfind hfh start h1 h2 hL,
         fun start hr => findSubseq_range_of_hit a.key k hfind start hr hL⟩

/-- `FindSubseq` of a string that is neither a key nor an alias: `eslENOTFOUND`, whatever the requested start -/
theorem findSubseq_absent (ns : NewSsi) (h : ns.WF) (cur : Option Bytes) (bytes : Bytes) (hw : (ns.write cur).2.2 = some bytes)
    (key : Bytes) (hp : ∀ k ∈ ns.pkeys, k.key ≠ key) (hs : ∀ a ∈ ns.skeys, a.key ≠ key) (start : Int) :
    (Ssi.open bytes.toArray).bind (·.findSubseq key start) = .error .enotfound := by
  obtain ⟨hd, -, ho⟩ := written_opens ns h cur bytes hw
  rw [ho]
  exact findSubseq_of_error _ key start _ (EaselModel.Ssi.findName_absent h hd key hp hs (FUEL - 1))

/-- `esl_ssi_Open` on ANY byte string succeeds or fails with `eslEFORMAT` / `eslERANGE` (the documented statuses) and
    never reads outside the file; on success it holds `nfiles ≥ 1` file records. -/
theorem open_any_bytes (d : Array UInt8) :
    (∀ e, Ssi.open d = .error e → e = .eformat ∨ e = .erange) ∧
    (∀ s, Ssi.open d = .ok s → s.data = d ∧ 0 < s.nfiles ∧ s.files.length = s.nfiles ∧ (s.offsz = 4 ∨ s.offsz = 8)) :=
  open_status d

/-- **only for those, on any index**: THIS binary search on ANY record array — unsorted, with unreadable records —
    returns an index only if that record holds exactly the probe key, and that index is below `maxidx`;
    otherwise `eslENOTFOUND` or the failure of one of its own reads. It never returns another key's record. -/
theorem bsearch_any_array (rdName : Nat → Except St Bytes) (key : Bytes) (n : Nat) :
    (∀ j, bsearchLoop rdName key 0 (n - 1) = .ok j → rdName j = .ok key ∧ j ≤ n - 1) ∧
    (∀ e, bsearchLoop rdName key 0 (n - 1) = .error e → e = .enotfound ∨ ∃ m, m ≤ n - 1 ∧ rdName m = .error e) := by
  constructor
  · intro j h
    have := bsearchLoop_sound rdName key 0 (n - 1) j h
    exact ⟨this.1, by omega⟩
  · intro e h
    rcases bsearchLoop_error rdName key 0 (n - 1) e h with h1 | ⟨m, hm, hr⟩
    · exact .inl h1
    · exact .inr ⟨m, by omega, hr⟩

/-- `esl_ssi_FindName` on ANY opened byte string (truncated, corrupted, key sections not sorted): an `eslOK` answer
    carries the numbers of a stored primary record whose key field is exactly the probe, or of one reached from the probe
    through stored alias records (`Ssi.Resolves`) — absent or that key's record, never another key's. Every other answer
    is `eslENOTFOUND` or `eslEFORMAT` (or `nohalt`: the alias recursion did not end); no read leaves a buffer
    (key and name buffers carry their own terminator). -/
theorem findName_any_index (s : Ssi) (key : Bytes) :
    (∀ hit, s.findName key = .ok hit → s.Resolves key hit) ∧
    (∀ e, s.findName key = .error e → e = .enotfound ∨ e = .eformat ∨ e = .nohalt) :=
  ⟨fun hit h => findName_sound s FUEL key hit h, fun e h => findName_status s FUEL key e h⟩

/-- **documented status set, no fault**: when no stored alias names another stored alias (`Ssi.NoAliasChain`: true of
    every index `Write` produces, `written_index_no_alias_chain`, and readable off the bytes) `FindName` on an index that
    is otherwise arbitrary (truncated anywhere, unsorted, counts, widths and offsets inconsistent, key fields without
    terminator) ends with `eslOK`, `eslENOTFOUND` or `eslEFORMAT`. -/
theorem findName_no_fault (s : Ssi) (hc : s.NoAliasChain) (key : Bytes) :
    (∃ hit, s.findName key = .ok hit) ∨ s.findName key = .error .enotfound ∨ s.findName key = .error .eformat := by
  cases hf : s.findName key with
  | ok hit => exact .inl ⟨hit, rfl⟩
  | error e =>
    right
    have h1 := findName_status s FUEL key e hf
    have h3 := findName_halts s hc (FUEL - 2) key
    rcases h1 with rfl | rfl | rfl
    · exact .inl rfl
    · exact .inr rfl
    · exact absurd hf h3

/-- non-vacuity of `findName_no_fault`: the condition holds for EVERY index `Write` produces from keys whose alias
    targets are registered -/
theorem written_index_no_alias_chain (ns : NewSsi) (h : ns.WF) (cur : Option Bytes) (bytes : Bytes)
    (hw : (ns.write cur).2.2 = some bytes) (htg : ∀ a ∈ ns.skeys, ∃ k ∈ ns.pkeys, a.pkey = k.key) :
    ∃ s, Ssi.open bytes.toArray = .ok s ∧ s.NoAliasChain := by
  obtain ⟨hd, -, ho⟩ := written_opens ns h cur bytes hw
  exact ⟨ns.opened, ho, image_noAliasChain h hd htg⟩

/-- `esl_ssi_FindNumber` on ANY index, for every `int64_t`: `eslENOTFOUND` exactly outside `0..nprimary-1`; inside,
    the record in that slot or `eslEFORMAT` when the file ends first -/
theorem findNumber_any_index (s : Ssi) (i : Int) (hlo : -(2:Int)^63 ≤ i) (hhi : i < (2:Int)^63) (hn : s.nprimary < 2^63) :
    (s.findNumber i = .error .enotfound ↔ (i < 0 ∨ (s.nprimary : Int) ≤ i)) ∧
    (∀ e, s.findNumber i = .error e → e = .enotfound ∨ e = .eformat) :=
  findNumber_status s i hlo hhi hn

/-- `esl_ssi_FileInfo` for EVERY handle of ANY index that `Open` accepted: a record below `nfiles`, `eslEINVAL` otherwise -/
theorem fileInfo_any_index (d : Array UInt8) (s : Ssi) (h : Ssi.open d = .ok s) (fh : Nat) :
    (fh < s.nfiles → ∃ f, s.fileInfo fh = .ok f ∧ s.files[fh]? = some f) ∧
    (s.nfiles ≤ fh → s.fileInfo fh = .error .einval) :=
  fileInfo_total d s h fh

/-- `esl_ssi_FindSubseq` on ANY byte string that `Open` accepted: `eslOK`, `FindName`'s status, `eslERANGE`,
    `eslEFORMAT` (the file handle stored with the key is not a file of the index) or `eslEINVAL` (fast-subseq flag with
    `rpl = 0` or `bpl = 0`) — it never indexes outside the per-file arrays and never divides by zero -/
theorem findSubseq_any_index (d : Array UInt8) (s : Ssi) (ho : Ssi.open d = .ok s) (key : Bytes) (start : Int) (e : St)
    (h : s.findSubseq key start = .error e) :
    (s.findName key = .error e) ∨ e = .erange ∨ e = .eformat ∨ e = .einval :=
  findSubseq_status s ((open_status d).2 s ho).2.2.1 key start e h

/-- **a TRUNCATED index never answers with a wrong record.** Cut the file `Write` produced after ANY number of bytes: if
    `Open` still accepts it and `FindName` answers `eslOK` for some string, the numbers are exactly those stored for that
    string — its own record when it is a primary key, its target's when it is an alias. (Every other answer is
    `eslENOTFOUND` / `eslEFORMAT`: `findName_no_fault`.) -/
theorem truncated_index_never_wrong (ns : NewSsi) (h : ns.WF) (cur : Option Bytes) (bytes : Bytes)
    (hw : (ns.write cur).2.2 = some bytes) (htg : ∀ a ∈ ns.skeys, ∃ k ∈ ns.pkeys, a.pkey = k.key)
    (n : Nat) (s' : Ssi) (ho : Ssi.open (bytes.take n).toArray = .ok s') (key : Bytes) (hit : Hit)
    (hf : s'.findName key = .ok hit) :
    ∃ k ∈ ns.pkeys, hit = ⟨k.fnum, k.roff, k.doff, k.len⟩ ∧ (k.key = key ∨ ∃ a ∈ ns.skeys, a.key = key ∧ a.pkey = k.key) := by
  obtain ⟨hd, hb, -⟩ := written_opens ns h cur bytes hw
  rw [hb] at ho
  have g := (trunc_geometry h n s' ho).1
  exact resolves_image h hd htg key hit (g.resolves key hit (findName_sound s' FUEL key hit hf))

/-- ... and enumerates / describes nothing wrong either: on the file cut after ANY `n` bytes (if `Open` still accepts it)
    every `eslOK` answer of `FindNumber` is the answer the intact index gives for that number (`findNumber_sorted`), and
    `FileInfo` answers exactly like the intact index for every handle (`fileInfo_spec`) -/
theorem truncated_index_same_answers (ns : NewSsi) (h : ns.WF) (cur : Option Bytes) (bytes : Bytes)
    (hw : (ns.write cur).2.2 = some bytes) (n : Nat) (s' : Ssi) (ho : Ssi.open (bytes.take n).toArray = .ok s') :
    (∀ i r, s'.findNumber i = .ok r → (Ssi.open bytes.toArray).bind (·.findNumber i) = .ok r) ∧
    (∀ fh, s'.fileInfo fh = (Ssi.open bytes.toArray).bind (·.fileInfo fh)) := by
  obtain ⟨-, hb, hopen⟩ := written_opens ns h cur bytes hw
  rw [hopen]
  rw [hb] at ho
  exact ⟨fun i r hr => (trunc_geometry h n s' ho).1.findNumber i r hr, fun fh => trunc_fileInfo h n s' ho fh⟩

/-- one call of `esl_ssi_FindName` either answers without recursion (`Ssi.direct`: primary hit, `eslENOTFOUND`,
    `eslEFORMAT`) or calls itself on the string stored with the alias record it found (`Ssi.next`) -/
theorem findName_one_level (s : Ssi) (fuel : Nat) (key : Bytes) :
    s.findNameAux (fuel + 1) key = match s.next key with
      | some k' => s.findNameAux fuel k'
      | none => s.direct key :=
  findNameAux_step s fuel key

/-- **recursion depth on a chain**: if the path `key, next key, next (next key), …` ends at its `d`-th link `last`, the
    C recursion is exactly `d` levels deep and `FindName key` answers what the non-recursive lookup of `last` answers — for
    any index bytes, sorted or not. (`d < 100000`: the model's fuel; a chain of `d` links needs `d` distinct alias records.) -/
theorem findName_chain_depth (s : Ssi) (d : Nat) (key last : Bytes) (hl : s.link key d = some last)
    (he : s.next last = none) (hd : d < FUEL) :
    s.findName key = s.direct last ∧ (∀ fuel, fuel ≤ d → s.findNameAux fuel key = .error .nohalt) :=
  ⟨(findName_depth s d key last hl he).1 FUEL hd, (findName_depth s d key last hl he).2⟩

/-- **a cycle never returns**: if after `n ≥ 1` links the path is back at `key` (an alias naming itself, two aliases
    naming each other, …), `esl_ssi_FindName key` recurses without end — no recursion depth suffices (stack overflow in
    C; the model's `nohalt` for EVERY fuel). Such files are the only ones the damaged-index stream does not run. -/
theorem findName_cycle_never_returns (s : Ssi) (key : Bytes) (n : Nat) (hpos : 0 < n) (hc : s.link key n = some key)
    (fuel : Nat) : s.findNameAux fuel key = .error .nohalt :=
  findName_diverges s key (cycle_never_ends s key n hpos hc) fuel

/-- the smallest cycle: no primary keys, one alias record `a → a` (4 bytes `a\0a\0`) -/
def exLoop : Ssi :=
  { data := #[97, 0, 97, 0], flags := 0, offsz := 8, nfiles := 1, nprimary := 0, nsecondary := 1, flen := 1, plen := 2, slen := 2,
    frecsize := 17, precsize := 28, srecsize := 4, foffset := 0, poffset := 0, soffset := 0, files := [] }

theorem exLoop_probe (key : Bytes) : exLoop.next key = if strcmp [97] key = .eq then some [97] else none := by
  have hr : rdNameAt #[97, 0, 97, 0] 2 0 4 0 = .ok [97] := by rfl
  have hl : bsearchLoop (rdNameAt #[97, 0, 97, 0] 2 0 4) key 0 0 =
      if strcmp [97] key = .eq then .ok 0 else .error .enotfound := by
    rw [bsearchLoop]
    simp only [Nat.add_zero, Nat.zero_div, hr]
    cases strcmp [97] key <;> rfl
  have hp : bsearch exLoop.data key exLoop.plen exLoop.poffset exLoop.precsize exLoop.nprimary = .error .enotfound := by
    unfold bsearch; rfl
  unfold Ssi.next
  rw [hp]
  simp only []
  by_cases hc : strcmp [97] key = .eq
  · have hb : bsearch exLoop.data key exLoop.slen exLoop.soffset exLoop.srecsize exLoop.nsecondary = .ok 2 := by
      simp only [bsearch, exLoop, Nat.sub_self, hl, if_pos hc]
      rfl
    rw [hb, if_pos hc]
    rfl
  · have hb : bsearch exLoop.data key exLoop.slen exLoop.soffset exLoop.srecsize exLoop.nsecondary = .error .enotfound := by
      simp only [bsearch, exLoop, Nat.sub_self, hl, if_neg hc]
      rfl
    rw [hb, if_neg hc]
    rfl

theorem exLoop_next : exLoop.next [97] = some [97] := by
  rw [exLoop_probe]; rfl

/-- non-vacuity of `findName_cycle_never_returns` -/
example (fuel : Nat) : exLoop.findNameAux fuel [97] = .error .nohalt :=
  findName_cycle_never_returns exLoop [97] 1 (by decide) (by simp [Ssi.link, exLoop_next]) fuel

/-- non-vacuity of `findName_chain_depth` (`d = 0`: a string that is nowhere in the index; depths 1–3 are run against
    the real code by the damaged-index stream) -/
example : exLoop.findName [98] = exLoop.direct [98] ∧ exLoop.link [98] 0 = some [98] := by
  have hn : exLoop.next [98] = none := by rw [exLoop_probe]; rfl
  exact ⟨(findName_chain_depth exLoop 0 [98] [98] rfl hn (by decide)).1, rfl⟩

/-- Header offsets over the whole 64-bit range: when `poffset` points at or beyond the end of the file — which every value
    ≥ 2^63 does (a negative `off_t`: `fseeko` refuses it, the model reads beyond the end) — `FindName` of ANY string and
    `FindNumber` of every valid number answer `eslEFORMAT` (an index with ≥ 1 primary key); with `soffset` beyond the end, so
    does every probe that is not a primary key. Never a record, never a fault. -/
theorem offsets_beyond_file (s : Ssi) (hp : 0 < s.plen) :
    (0 < s.nprimary → s.data.size ≤ s.poffset →
        (∀ key, s.findName key = .error .eformat) ∧ (∀ i : Nat, i < s.nprimary → s.findNumber (i : Int) = .error .eformat)) ∧
    (0 < s.nsecondary → 0 < s.slen → s.data.size ≤ s.soffset →
        ∀ key, bsearch s.data key s.plen s.poffset s.precsize s.nprimary = .error .enotfound →
          s.findName key = .error .eformat) :=
  ⟨fun hn hb => ⟨fun key => findName_poffset_beyond s hn hp hb (FUEL - 1) key,
                 fun i hi => findNumber_poffset_beyond s hp hb i hi⟩,
   fun hn hl hb key hnp => findName_soffset_beyond s hn hl hb (FUEL - 1) key hnp⟩

/-- non-vacuity: one primary record, `poffset = 2^63` -/
example : ({ exLoop with nprimary := 1, poffset := 2^63 } : Ssi).findName [97] = .error .eformat :=
  ((offsets_beyond_file _ (by decide)).1 (by decide) (by decide)).1 [97]

/-- `AddFile` never looks at the names already registered ("Caller should make sure that the same file isn't registered
    twice; this function doesn't check"): below the limit of 32767 files it ALWAYS succeeds, hands out the next handle,
    appends one record holding the name without its directory, and widens `flen` to the FULL name's length + 1.
    Registering the same name twice therefore gives two handles and two identical records (`fileInfo_spec` reports both). -/
theorem addFile_never_checks_names (ns : NewSsi) (name : Bytes) (fmt : Nat) :
    ns.addFile name fmt =
      if ns.files.length ≥ 32767 then .error .erange
      else .ok ({ ns with flen := if name.length + 1 > ns.flen then name.length + 1 else ns.flen,
                          files := ns.files ++ [{ name := fileTail name, fmt := fmt, bpl := 0, rpl := 0 }] },
                ns.files.length) := rfl

example : ((({} : NewSsi).addFile [102] 1).toOption.bind (fun r => (r.1.addFile [102] 1).toOption)).map (fun r => (r.2, r.1.files.length))
    = some (1, 2) := by decide

/-- The bytes of the index (and the status, duplicates included) are the same whether the keys were sorted in
    memory or spilled to the tmp files, sorted bytewise as lines and re-parsed. -/
theorem internal_eq_external (ns : NewSsi) (h : ns.WF) (hx : ns.ExtOK) : ns.toExternal.writeBytes = ns.writeBytes :=
  writeBytes_toExternal ns h hx

/-- For EVERY history of `AddFile/SetSubseq/AddKey/AddAlias` calls with arguments in range (`Op.Valid`: NUL-free
    names, non-empty keys over bytes above TAB/newline, 64-bit numbers), with `max_ram` changed at any points of the
    history (so the switch to the external sort happens anywhere, or never): `Write` returns the status and leaves the
    file that `Write` returns for the in-memory logical content `logical ops`, and that content is well-formed —
    so every theorem above applies to what the history wrote. -/
theorem history_write (ops : List Op) (hv : ∀ op ∈ ops, op.Valid) (hf : (logical ops).files ≠ [])
    (hn : ops.length < 2^40) (cur : Option Bytes) :
    (logical ops).WF ∧ ((run ops).write cur).2 = ((logical ops).write cur).2 :=
  run_write_eq_logical ops hv hf hn cur

/-- THE AUTOMATIC SWITCH. A successful `AddKey`/`AddAlias` leaves the index in external (on-disk) mode iff it already
    was, or `current_newssi_size` — ⌊(78 + (16+flen)·nfiles + (26+plen)·nprimary + (slen+plen)·nsecondary) / 2^20⌋ MB,
    from the counts and field widths before the call — had reached `max_ram` (2048 by default; any value, also ≤ 0,
    when the public field was assigned). `history_write` quantifies over every history and therefore over every
    point at which this trigger fires, by itself at ≥ 2 GB or through a lowered `max_ram`. -/
theorem auto_switch_trigger (ns ns' : NewSsi) :
    (∀ key fh r d l, ns.addKey key fh r d l = .ok ns' →
        ns'.external = (ns.external || decide ((ns.currentSize : Int) ≥ ns.maxRam))) ∧
    (∀ a k, ns.addAlias a k = .ok ns' →
        ns'.external = (ns.external || decide ((ns.currentSize : Int) ≥ ns.maxRam))) ∧
    ns.currentSize = (78 + (16 + ns.flen) * ns.files.length + (26 + ns.plen) * ns.nprimary
                        + (ns.slen + ns.plen) * ns.nsecondary) / 1048576 :=
  ⟨fun key fh r d l h => addKey_external ns ns' key fh r d l h, fun a k h => addAlias_external ns ns' a k h,
   currentSize_eq ns⟩

/-- the switch is one-way: no call brings an external index back into memory -/
theorem external_is_permanent (ns : NewSsi) (ops : List Op) (h : ns.external = true) :
    (ops.foldl step ns).external = true := by
  induction ops generalizing ns with
  | nil => exact h
  | cons op ops ih => exact ih _ (step_external_mono ns op h)

/-- with the default 2048 MB the trigger fires by itself: 9.5 million 200-byte keys are enough, 9.4 million are not -/
example : ({ plen := 201, nprimary := 9500000 } : NewSsi).maybeExternal.external = true := by decide
example : ({ plen := 201, nprimary := 9400000 } : NewSsi).maybeExternal.external = false := by decide

/-- end to end: after any valid history (external switch anywhere), `Write` succeeds iff all keys (primary keys and
    aliases together) are distinct; and on the bytes it wrote every stored primary key is found with its stored record and every string that
    is neither a key nor an alias is `eslENOTFOUND`. -/
theorem history_index_correct (ops : List Op) (hv : ∀ op ∈ ops, op.Valid) (hf : (logical ops).files ≠ [])
    (hn : ops.length < 2^40) (cur : Option Bytes) :
    (((run ops).write cur).2.1 = none ↔
        ((logical ops).pkeys.map (·.key) ++ (logical ops).skeys.map (·.key)).Nodup) ∧
    (((run ops).write cur).2.1 ≠ none → ((run ops).write cur).2 = (some .edup, none)) ∧
    (∀ bytes, ((run ops).write cur).2.2 = some bytes →
      (∀ k ∈ (logical ops).pkeys,
        (Ssi.open bytes.toArray).bind (·.findName k.key) = .ok ⟨k.fnum, k.roff, k.doff, k.len⟩) ∧
      (∀ key, (∀ k ∈ (logical ops).pkeys, k.key ≠ key) → (∀ a ∈ (logical ops).skeys, a.key ≠ key) →
        (Ssi.open bytes.toArray).bind (·.findName key) = .error .enotfound)) := by
  obtain ⟨hwf, heq⟩ := run_write_eq_logical ops hv hf hn cur
  have h1 : ((run ops).write cur).2.1 = ((logical ops).write cur).2.1 := by rw [heq]
  have h2 : ((run ops).write cur).2.2 = ((logical ops).write cur).2.2 := by rw [heq]
  refine ⟨?_, ?_, ?_⟩
  · rw [h1]; exact write_ok_iff_distinct _ hwf cur
  · intro hne
    rw [h1] at hne
    have hd : ¬ ((logical ops).pkeys.map (·.key) ++ (logical ops).skeys.map (·.key)).Nodup :=
      fun hd => hne ((write_ok_iff_distinct _ hwf cur).mpr hd)
    have := write_dup_no_file _ hwf cur hd
    rw [heq]
    exact Prod.ext this.1 this.2
  · intro bytes hb
    rw [h2] at hb
    exact ⟨fun k hk => findName_stored _ hwf cur bytes hb k hk,
           fun key hp hs => findName_absent _ hwf cur bytes hb key hp hs⟩

/-- after any valid history: every alias whose target is a registered primary key is found with the target's record -/
theorem history_alias (ops : List Op) (hv : ∀ op ∈ ops, op.Valid) (hf : (logical ops).files ≠ [])
    (hn : ops.length < 2^40) (cur : Option Bytes) (bytes : Bytes) (hw : ((run ops).write cur).2.2 = some bytes)
    (a : SKey) (ha : a ∈ (logical ops).skeys) (k : PKey) (hk : k ∈ (logical ops).pkeys) (hak : a.pkey = k.key) :
    (Ssi.open bytes.toArray).bind (·.findName a.key) = .ok ⟨k.fnum, k.roff, k.doff, k.len⟩ := by
  obtain ⟨hwf, heq⟩ := run_write_eq_logical ops hv hf hn cur
  rw [heq] at hw
  exact findName_alias _ hwf cur bytes hw a ha k hk hak

/-- after any valid history: `FindNumber` enumerates the logical content's primary keys in `strcmp` order, and
    `FileInfo` reports the registered files -/
theorem history_enumeration (ops : List Op) (hv : ∀ op ∈ ops, op.Valid) (hf : (logical ops).files ≠ [])
    (hn : ops.length < 2^40) (cur : Option Bytes) (bytes : Bytes) (hw : ((run ops).write cur).2.2 = some bytes) :
    (∃ sorted : List PKey, sorted.Perm (logical ops).pkeys ∧ StrictSorted (sorted.map (·.key)) ∧
      ∀ i (hi : i < sorted.length),
        (Ssi.open bytes.toArray).bind (·.findNumber (i : Int)) =
          .ok (⟨sorted[i].fnum, sorted[i].roff, sorted[i].doff, sorted[i].len⟩, strncpy (logical ops).plen sorted[i].key)
        ∧ cstr (strncpy (logical ops).plen sorted[i].key) = sorted[i].key) ∧
    (∀ fh (hfh : fh < (logical ops).files.length),
      (Ssi.open bytes.toArray).bind (·.fileInfo fh) =
        .ok { name := strncpy (logical ops).flen (logical ops).files[fh].name, format := (logical ops).files[fh].fmt,
              flags := if (logical ops).files[fh].bpl > 0 ∧ (logical ops).files[fh].rpl > 0 then 1 else 0,
              bpl := (logical ops).files[fh].bpl, rpl := (logical ops).files[fh].rpl }) := by
  obtain ⟨hwf, heq⟩ := run_write_eq_logical ops hv hf hn cur
  rw [heq] at hw
  obtain ⟨sorted, h1, h2, h3, _⟩ := findNumber_sorted _ hwf cur bytes hw
  refine ⟨⟨sorted, h1, h2, h3⟩, ?_⟩
  intro fh hfh
  have := fileInfo_spec _ hwf cur bytes hw fh
  simpa [hfh] using this

/-- a concrete history: one file, keys `a`, `ab`, `b` (a prefix chain), alias `z → ab`, switch to the external sort
    after the first key -/
def exOps : List Op :=
  [.addFile [100, 47, 102] 1, .addKey [97, 98] 0 (2^63 - 1) 4294967296 7, .setMaxRam 0, .addKey [97] 0 1 2 3,
   .addKey [98] 0 4 5 6, .addAlias [122] [97, 98]]

example : ∀ op ∈ exOps, op.Valid := by
  intro op hop
  simp only [exOps, List.mem_cons, List.not_mem_nil, or_false] at hop
  rcases hop with rfl | rfl | rfl | rfl | rfl | rfl <;> simp [Op.Valid, KeyChars]

example : (run exOps).external = true ∧ (logical exOps).external = false := by decide
example : (logical exOps).files ≠ [] := by decide
example : (logical exOps).pkeys.map (·.key) = [[97, 98], [97], [98]] := by decide
example : ((logical exOps).pkeys.map (·.key) ++ (logical exOps).skeys.map (·.key)).Nodup := by decide

/-- an index with a cross-class duplicate: primary keys `k1`, `k2` and the alias `k2 → k1` -/
def exCross : NewSsi :=
  { files := [{ name := [102], fmt := 1, bpl := 0, rpl := 0 }], flen := 2,
    pkeys := [⟨[107, 49], 0, 1, 2, 3⟩, ⟨[107, 50], 0, 4, 5, 6⟩], plen := 3, nprimary := 2,
    skeys := [⟨[107, 50], [107, 49]⟩], slen := 3, nsecondary := 1 }

theorem exCross_wf : exCross.WF := by
  constructor <;> decide

example : exCross.ExtOK := by
  constructor <;> simp [exCross, KeyChars, NoDelim, isDelim]

/-- each class on its own has distinct keys: only the merge pass can see this duplicate -/
example : (exCross.pkeys.map (·.key)).Nodup ∧ (exCross.skeys.map (·.key)).Nodup := by decide

/-- an alias equal to a primary key (each class by itself duplicate-free) is reported as `eslEDUP`, in memory and through
    the external sort, and no index file is left. -/
theorem cross_class_duplicate_rejected :
    (∃ a ∈ exCross.skeys, ∃ k ∈ exCross.pkeys, a.key = k.key) ∧
    (exCross.write (some [])).2 = (some .edup, none) ∧
    (exCross.toExternal.write (some [])).2 = (some .edup, none) := by
  refine ⟨⟨⟨[107, 50], [107, 49]⟩, by decide, ⟨[107, 50], 0, 4, 5, 6⟩, by decide, rfl⟩, ?_, ?_⟩
  · exact write_of_dup exCross exCross_wf (some []) (by rw [NewSsi.distinct_iff_nodup]; decide)
  · rw [write_toExternal exCross exCross_wf (by constructor <;> simp [exCross, KeyChars, NoDelim, isDelim])]
    exact write_of_dup exCross exCross_wf (some []) (by rw [NewSsi.distinct_iff_nodup]; decide)

/-- a two-key index cut in the middle of its last primary record (130 of its 154 bytes): non-vacuity of
    `truncated_index_never_wrong` — `Open` still accepts it (cut inside the file section, at 95, it does not); with
    `n ≥ 154` the hypothesis `hf` is `findName_stored` -/
def exTrunc : NewSsi :=
  { files := [{ name := [102], fmt := 1, bpl := 0, rpl := 0 }], flen := 2,
    pkeys := [⟨[107, 49], 0, 1, 2, 3⟩, ⟨[107, 50], 0, 4, 5, 6⟩], plen := 3, nprimary := 2 }

example : exTrunc.WF := by constructor <;> decide
example : (match Ssi.open (exTrunc.image.take 130).toArray with | .ok s => s.nprimary == 2 | .error _ => false) = true := by
  decide +kernel
example : (match Ssi.open (exTrunc.image.take 95).toArray with | .ok _ => false | .error e => e == .eformat) = true := by
  decide +kernel

end EaselModel.Props.C06
