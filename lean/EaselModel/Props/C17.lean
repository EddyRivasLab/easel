import EaselModel.Generated.Gencode
import EaselModel.Generated.Alphabets
import EaselModel.Gencode.NcbiTables
import EaselModel.Gencode.TranslationSpec
import EaselModel.Gencode.ThreeFrames
import EaselModel.Gencode.OrfDeclarative
import EaselModel.Gencode.OrfOrder
import EaselModel.Gencode.TableFacts
import EaselModel.Gencode.Extras
import EaselModel.Gencode.ReadTotal
import EaselModel.Gencode.WriteTotal
import EaselModel.Gencode.ReadCode
import EaselModel.Gencode.ReadComplete
import EaselModel.Alphabet.Iupac
import EaselModel.Gencode.WholeLemmas
import EaselModel.Gencode.SixFrames
import EaselModel.Gencode.MainLoops
import EaselModel.Gencode.HistoryLemmas
/-! # C17 — property theorems (statements + glue only; lemmas live in Gencode/*.lean)

`T.tables` = every row of `esl_transl_tables[]` dumped from the code under check on this run; `Ncbi.pinned` = the
hand-pinned NCBI tables; `A.dna`, `A.amino` = the alphabets dumped from the code (C08). -/
namespace EaselModel.Props.C17
open EaselModel.Alphabet EaselModel.Gencode

/-- every built-in table, written in NCBI column order (TCAG), is one of the pinned NCBI tables under the same id, and
    every pinned table is offered (the order of the rows in the C array is immaterial): same 64 amino acids / stops, same
    64 start flags — `decide` over all 18 × 128 entries -/
theorem tables_pinned :
    (∀ t ∈ T.tables, (t.id, Ncbi.aasLine t.basic, Ncbi.startsLine t.init) ∈
        Ncbi.pinned.map (fun p => (p.1, p.2.1.toList, p.2.2.toList))) ∧
    (∀ p ∈ Ncbi.pinned.map (fun p => (p.1, p.2.1.toList, p.2.2.toList)),
        p ∈ T.tables.map (fun t => (t.id, Ncbi.aasLine t.basic, Ncbi.startsLine t.init))) := Facts.tables_pinned

/-- `esl_gencode_Set(id)` finds exactly the pinned ids, each once -/
theorem table_ids :
    (T.tables.map (·.id)).Nodup ∧ (∀ id ∈ T.tables.map (·.id), id ∈ Ncbi.pinned.map (·.1)) ∧
    (∀ id ∈ Ncbi.pinned.map (·.1), id ∈ T.tables.map (·.id)) ∧
    Ncbi.pinned.map (·.1) = [1, 2, 3, 4, 5, 6, 9, 10, 11, 12, 13, 14, 16, 21, 22, 23, 24, 25] ∧
    (∀ t ∈ T.tables, setTable T.tables t.id = some (codeOf t)) ∧ (setTable T.tables 1).isSome = true := Facts.table_ids

/-- under each of the three initiator settings every table is a well-formed code in which no initiator codon is a stop
    codon, every entry is an amino acid or the stop code, and the dumped alphabets satisfy the hypotheses below -/
theorem no_initiator_stop :
    NtOK A.dna ∧ A.dna.Kp = 18 ∧ A.amino.unknown = 26 ∧ A.amino.K = 20 ∧
    ∀ t ∈ T.tables, ∀ g ∈ settings (codeOf t), CodeOK g ∧
      ∀ c, c < 64 → (g.basic.getD c 99 < 20 ∨ g.basic.getD c 99 = A.amino.nonresidue) ∧
        (g.isInit.getD c 0 ≠ 0 → g.basic.getD c 99 ≠ A.amino.nonresidue) := Facts.no_initiator_stop

/-- the nucleotide degeneracy rows the translation loop reads are the IUPAC sets: a canonical base stands for itself,
    a degenerate symbol for its documented set (as indices into ACGT), gap / `*` / `~` for nothing -/
theorem expand_is_iupac :
    ∀ a, a < 18 → flags (A.dna.degen.getD a []) =
      (Iupac.denotes .dna ((Iupac.symbols .dna).getD a ' ')).map fun ch => (Iupac.canonical .dna).idxOf ch :=
  Facts.expand_is_iupac

/-- writing any built-in table (under any of the three initiator settings, with or without the Easel comment line) in
    NCBI text form and reading it back gives the same table: same 64 amino acids / stops, same 64 initiator flags
    (the id and description are not part of the NCBI form: `esl_gencode_Read` leaves −1 and ""). The new object starts
    as table 1, as `esl_gencode_Create` makes it. An instance of `Gencode.read_write`, which holds for every complete genetic
    code. -/
theorem read_write_roundtrip :
    ∀ g1 ∈ (setTable T.tables 1).toList, ∀ t ∈ T.tables, ∀ g ∈ settings (codeOf t), ∀ cm ∈ [true, false],
      (write A.dna A.amino g cm).bind (read A.dna A.amino g1) =
        some { translTable := -1, desc := "", basic := g.basic, isInit := g.isInit } := Facts.read_write_roundtrip

/-- genetic-code objects over the RNA alphabet behave like those over DNA: the RNA alphabet satisfies the hypotheses of the
    general theorems, its degeneracy rows are the IUPAC sets (U for T), "only AUG" marks the same codon, and the NCBI
    column ↦ codon map used by Read/Write is the same (T is read as U) -/
theorem rna_objects_ok :
    NtOK A.rna ∧ A.rna.Kp = 18 ∧
    (∀ a, a < 18 → flags (A.rna.degen.getD a []) =
      (Iupac.denotes .rna ((Iupac.symbols .rna).getD a ' ')).map fun ch => (Iupac.canonical .rna).idxOf ch) ∧
    (∀ g, (setInitiatorOnlyAUG A.rna g).isInit = (setInitiatorOnlyAUG A.dna g).isInit) ∧
    (∀ x, x < 64 → ncbiCodon A.rna x = ncbiCodon A.dna x) := Facts.rna_objects_ok

/-- the model of the triple loop of `esl_gencode_GetTranslation` equals the specification -/
theorem translation_spec (nt aa : Alphabet) (g : Gencode) (hn : NtOK nt) (hg : CodeOK g) (a b c : Nat)
    (ha : a < nt.Kp) (hb : b < nt.Kp) (hc : c < nt.Kp) :
    getTranslation nt aa g a b c = some (specTranslation nt aa g a b c) :=
  getTranslation_eq_spec nt aa g hn hg a b c ha hb hc

/-- a canonical codon translates to that table's entry; a degenerate codon translates to the amino acid (or stop) shared
    by ALL canonical codons it stands for, and to `unknown` (X) as soon as two of them disagree -/
theorem translation_shared (nt aa : Alphabet) (g : Gencode) (hn : NtOK nt) (hg : CodeOK g) (a b c : Nat)
    (ha : a < nt.Kp) (hb : b < nt.Kp) (hc : c < nt.Kp) :
    (allCanonical nt a b c = true → getTranslation nt aa g a b c = some (Int.ofNat (g.basic.getD (16 * a + 4 * b + c) 0))) ∧
    (allCanonical nt a b c = false → ∀ x : Nat, expand nt a b c ≠ [] → (∀ k ∈ expand nt a b c, g.basic.getD k 0 = x) →
        getTranslation nt aa g a b c = some (Int.ofNat x)) ∧
    (allCanonical nt a b c = false → (∃ k1 ∈ expand nt a b c, ∃ k2 ∈ expand nt a b c, g.basic.getD k1 0 ≠ g.basic.getD k2 0) →
        getTranslation nt aa g a b c = some (Int.ofNat aa.unknown)) := by
  rw [getTranslation_eq_spec nt aa g hn hg a b c ha hb hc]
  obtain ⟨s1, s2, s3⟩ := specTranslation_shared nt aa g a b c
  exact ⟨fun h => by rw [s1 h], fun h x hne hall => by rw [s2 h x hne hall], fun h hex => by rw [s3 h hex]⟩

/-- a codon counts as an initiator iff ALL canonical codons it stands for are initiators of the table (and it stands
    for at least one) -/
theorem initiator_spec (nt : Alphabet) (g : Gencode) (hn : NtOK nt) (hg : CodeOK g) (a b c : Nat)
    (ha : a < nt.Kp) (hb : b < nt.Kp) (hc : c < nt.Kp) :
    ∃ r, isInitiator nt g a b c = some r ∧ (r ≠ 0 ↔ specInitiator nt g a b c = true) :=
  isInitiator_eq_spec nt g hn hg a b c ha hb hc

/-- the two initiator policies: "any" marks exactly the sense codons; "only AUG" marks exactly ATG = codon 14 -/
theorem initiator_settings (g : Gencode) :
    (setInitiatorAny A.amino g).basic = g.basic ∧ (setInitiatorOnlyAUG A.dna g).basic = g.basic ∧
    (∀ c, c < g.basic.length → ((setInitiatorAny A.amino g).isInit.getD c 0 ≠ 0 ↔ g.basic.getD c 99 < 20)) ∧
    (∀ c, c < 64 → ((setInitiatorOnlyAUG A.dna g).isInit.getD c 0 ≠ 0 ↔ c = 14)) := by
  refine ⟨rfl, rfl, fun c hc => ?_, ?_⟩
  · simp only [setInitiatorAny, List.getD_eq_getElem?_getD, List.getElem?_map, List.getElem?_eq_getElem hc,
      Option.map_some, Option.getD_some, Alphabet.xIsCanonical]
    have hK : A.amino.K = 20 := by decide
    by_cases h : g.basic[c] < 20 <;> simp [h, hK]
  · have : (setInitiatorOnlyAUG A.dna g).isInit = (List.replicate 64 0).set 14 1 := by
      simp only [setInitiatorOnlyAUG]
      have : 16 * A.dna.inmapAt 65 + 4 * A.dna.inmapAt 84 + A.dna.inmapAt 71 = 14 := by decide
      rw [this]
    rw [this]
    decide

/-- every split of a strand into windows (first window ≥ 2 residues; esl-translate requires ≥ 3) leaves the machine in
    the same final state, hence yields the same ORF list, as a single window: the state carried between
    `esl_gencode_ProcessPiece` calls is exactly what the loop needs -/
theorem window_split_invariant (nt aa : Alphabet) (g : Gencode) (cfg : Cfg) (w : Work) (isRev : Bool) (d : List Nat)
    (k : Nat) (ks : List Nat) (hk : 2 ≤ k) (hs : (k :: ks).sum = d.length) :
    runStrand nt aa g cfg w isRev d (k :: ks) = runStrand nt aa g cfg w isRev d [d.length] :=
  runStrand_split nt aa g cfg w isRev d k ks hk hs

/-- **six-frame translation reports exactly the ORFs of each reading frame.** For ANY table, every DNA sequence of valid
    codes (canonical and degenerate), every minimum length, either strand (`isRev`), every initiator option and EVERY split
    into windows: the machine does not fault, and for each of the three frames of the strand the ORF records it emits
    (coordinates + residues, newest first, in front of whatever the output block held before) are those of
    `frameOrfs`, the sequential one-frame ORF finder `fstep` (open at an initiator — first residue M when initiators are
    required —, close at a stop with end coordinate just before it, keep if ≥ minlen, flush at the end of the strand with
    the end coordinate of the frame's last complete codon) run over that frame's codons, each translated by
    `codonAa`/`specInitiator` (the specification of `translation_spec`/`initiator_spec`). Coordinates are 1-based source
    coordinates: ascending from 1 on the top strand, descending from L on the reverse strand (`dirOf`, frame labels 4–6). -/
theorem orf_stream_eq_spec (nt aa : Alphabet) (g : Gencode) (cfg : Cfg) (hn : NtOK nt) (hg : CodeOK g) (w0 : Work)
    (isRev : Bool) (d : List Nat) (hv : ∀ x ∈ d, x < nt.Kp) (k : Nat) (ks : List Nat) (hk : 2 ≤ k)
    (hs : (k :: ks).sum = d.length) :
    ∃ w', runStrand nt aa g cfg w0 isRev d (k :: ks) = some w' ∧
      ∀ f, f < 3 → recsOf w'.c.out (f + 1 + labelOff isRev) =
        frameOrfs nt aa g cfg (dirOf isRev) (if isRev then (d.length : Int) else 1) d f ++
          recsOf w0.c.out (f + 1 + labelOff isRev) :=
  runStrand_spec nt aa g cfg hn hg w0 isRev d hv k ks hk hs

/-- the per-frame ORF list in declarative form (see `declFrame`, `splitStops`, `segOrf`): **maximal stop-free stretches,
    cut down to start at their first initiator**, of at least the minimum length. With the default "any sense codon
    initiates" setting every non-degenerate codon of a stop-free stretch is an initiator, so the ORF is the whole stretch
    (minus leading codons whose degenerate expansion contains a stop); with `-m`/`-M` it is the initiator-to-stop stretch. -/
theorem orf_frame_declarative (nt aa : Alphabet) (g : Gencode) (cfg : Cfg) (hn : NtOK nt) (hT : TableOK aa g)
    (dir p0 : Int) (d : List Nat) (k : Nat) :
    frameOrfs nt aa g cfg dir p0 d k =
      (declFrame aa cfg dir
        (p0 + (((itemsFrom nt aa g dir p0 d).length + (k + 3 - (itemsFrom nt aa g dir p0 d).length % 3) % 3 : Nat) : Int) * dir - dir)
        (sub k 0 (itemsFrom nt aa g dir p0 d))).reverse :=
  frameOrfs_declarative nt aa g cfg hn hT dir p0 d k

/-- numbering and order of the records: those a strand adds to the output block are numbered consecutively from
    `orfcount + 1` in emission order ("orf1", "orf2", …, continuing over strands and sequences), and their end coordinates
    advance strictly in reading direction. Together with `orf_stream_eq_spec` this determines the output list: the
    three per-frame lists merged by end coordinate. -/
theorem orf_numbering_and_order (nt aa : Alphabet) (g : Gencode) (cfg : Cfg) (hn : NtOK nt) (hg : CodeOK g) (w0 : Work)
    (isRev : Bool) (d : List Nat) (hv : ∀ x ∈ d, x < nt.Kp) (k : Nat) (ks : List Nat) (hk : 2 ≤ k)
    (hs : (k :: ks).sum = d.length) :
    ∃ w' news, runStrand nt aa g cfg w0 isRev d (k :: ks) = some w' ∧
      w'.c.out.map numStop = news ++ w0.c.out.map numStop ∧ w'.c.orfcount = w0.c.orfcount + news.length ∧
      ∃ ub, Chain (dirOf isRev) w0.c.orfcount ub news :=
  runStrand_order nt aa g cfg hn hg w0 isRev d hv k ks hk hs

/-- every built-in table under every initiator setting satisfies the hypothesis `TableOK` of `orf_frame_declarative`
    (no initiator codon is a stop; M and X are not the stop code) -/
theorem builtin_tables_ok : ∀ t ∈ T.tables, ∀ g ∈ settings (codeOf t), TableOK A.amino g := Facts.builtin_tables_ok

/-- the tree's table 1 is the standard genetic code, stated by amino acid (`Facts.standardByAminoAcid`: "A ↦ GCA GCC GCG GCT", …,
    "* ↦ TAA TAG TGA"): for each of the 20 amino acids and the stop, the codons translated to it are exactly the listed ones -/
theorem standard_code_by_amino_acid :
    ∀ std ∈ (T.tables.find? (fun t => t.id = 1)).toList, ∀ p ∈ Facts.standardByAminoAcid,
      Facts.codonsOf std p.1 = Facts.words p.2 := Facts.standard_code_by_amino_acid

/-- every table of the tree differs from its table 1 in EXACTLY the codons the NCBI documentation lists for it
    (`Facts.documented`: 2: AGA AGG stop, ATA Met, TGA Trp; 3: ATA Met, CTN Thr, TGA Trp; 4: TGA Trp; 5: AGA AGG Ser, ATA Met,
    TGA Trp; 6: TAA TAG Gln; 9: AAA Asn, AGA AGG Ser, TGA Trp; 10: TGA Cys; 11: none; 12: CTG Ser; 13: AGA AGG Gly, ATA Met,
    TGA Trp; 14: AAA Asn, AGA AGG Ser, TAA Tyr, TGA Trp; 16: TAG Leu; 21: AAA Asn, AGA AGG Ser, ATA Met, TGA Trp; 22: TAG Leu,
    TCA stop; 23: TTA stop; 24: AGA Ser, AGG Lys, TGA Trp; 25: TGA Gly) and has EXACTLY the documented initiation codons;
    all 18 documented tables are offered. This rendering was typed independently of `Ncbi.pinned` and has another shape
    (differences, not 64-letter strings): changing a table entry in the C source and the pinned string in the same wrong
    way does not get past it. -/
theorem tables_differ_as_documented :
    ∀ std ∈ (T.tables.find? (fun t => t.id = 1)).toList,
      (∀ t ∈ T.tables, (t.id, Facts.diffFrom std t, Facts.startsOf t) ∈
        Facts.documented.map (fun d => (d.1, Facts.diffWords d.2.1, Facts.words d.2.2))) ∧
      (∀ d ∈ Facts.documented, d.1 ∈ T.tables.map (·.id)) ∧ T.tables.length = Facts.documented.length ∧
      (T.tables.find? (fun t => t.id = 1)).isSome = true := Facts.tables_differ_as_documented

/-- TOTALITY OF THE COLUMN LOOP OF `esl_gencode_Read`: with every array access of the C code checked (the five line buffers,
    `inmap[]` of both alphabets, `aa_seen[20]`, `codon_seen[64]`, `basic[64]`, `is_initiator[64]`), for ANY five 64-byte
    tokens the loop never reads or writes out of bounds and computes exactly what the model `readColumns` (hence `read`)
    computes: the outcome of `esl_gencode_Read` on any byte string is `eslOK` with a table or `eslEFORMAT`, never a fault.
    (The line splitting and the five anchored regular expressions before the loop work on the parser's own NUL-terminated
    line; their model `matchLine` is total by construction and tied by the differential run on damaged files.) -/
theorem read_never_faults (nt aa : Alphabet) (hK : nt.K = 4) (hin : nt.inmap.length = 128) (hia : aa.inmap.length = 128)
    (aas mline b1 b2 b3 : List Nat) (h1 : aas.length = 64) (h2 : mline.length = 64) (h3 : b1.length = 64)
    (h4 : b2.length = 64) (h5 : b3.length = 64) (basic ini : List Nat) (hb : basic.length = 64) (hi : ini.length = 64) :
    readColumnsO nt aa aas mline b1 b2 b3 64 (basic, ini, List.replicate 64 0, List.replicate 20 0, 0) =
      some (readColumns nt aa aas mline b1 b2 b3 64 basic ini (List.replicate 64 0) (List.replicate 20 0) 0) :=
  readColumnsO_total nt aa hK hin hia aas mline b1 b2 b3 h1 h2 h3 h4 h5 64 basic ini _ _ 0 (Nat.le_refl _) hb hi
    (by simp) (by simp)

/-- the dumped alphabets and every built-in table satisfy the hypotheses of `read_never_faults` -/
theorem read_never_faults_hyps :
    A.dna.K = 4 ∧ A.rna.K = 4 ∧ A.dna.inmap.length = 128 ∧ A.rna.inmap.length = 128 ∧ A.amino.inmap.length = 128 ∧
    ∀ t ∈ T.tables, t.basic.length = 64 ∧ t.init.length = 64 := by decide +kernel

/-- WHAT `esl_gencode_Read` ACCEPTS IS A GENETIC-CODE TABLE — for ANY bytes of the file (valid, damaged, binary) and whatever
    the new object was initialised with: if the answer is `eslOK` then both arrays have 64 entries, EVERY one of the 64 codons
    has been assigned by a column of the file (nothing of the initial table 1 survives) to one of the 20 amino acids or the
    stop code (`Kp − 2` = `*`), every initiator flag is 0 or 1, the id is −1 and the description empty. -/
theorem read_ok_is_code (nt aa : Alphabet) (init : Gencode) (hi : CodeOK init) (buf : List Nat) (g : Gencode)
    (h : read nt aa init buf = some g) :
    CodeOK g ∧ g.translTable = -1 ∧ g.desc = "" ∧
    ∀ c, c < 64 → (g.basic.getD c 99 < aa.K ∨ g.basic.getD c 99 + 2 = aa.Kp) ∧ g.isInit.getD c 9 ≤ 1 := by
  obtain ⟨a, b, c, d, e⟩ := EaselModel.Gencode.read_ok_is_code nt aa init hi.1 hi.2 buf g h
  exact ⟨⟨a, b⟩, c, d, e⟩

/-- … AND IT ENCODES ALL 20 AMINO ACIDS AND HAS A STOP CODON: for any bytes of the file, in an accepted table every amino-acid
    code `x < 20` is the translation of some codon and some codon translates to the stop code. The C code tests this per COLUMN
    of the file; the proof shows that no column can have overwritten another (64 columns onto 64 codons that are all seen:
    every codon is assigned exactly once), so what the columns announced is what the table holds. With `read_ok_is_code`:
    `esl_gencode_Read` answers `eslOK` only for genuine genetic codes — complete, every entry an amino acid or stop. -/
theorem read_ok_is_complete (nt aa : Alphabet) (hK : nt.K = 4) (hKa : aa.K = 20) (init : Gencode) (hi : CodeOK init)
    (buf : List Nat) (g : Gencode) (h : read nt aa init buf = some g) :
    (∀ x, x < 20 → ∃ c, c < 64 ∧ g.basic.getD c 99 = x) ∧ (∃ c, c < 64 ∧ g.basic.getD c 99 + 2 = aa.Kp) :=
  EaselModel.Gencode.read_ok_is_complete nt aa hK hKa init hi.1 buf g h

/-- TOTALITY OF `esl_gencode_Write`: on a well-formed code object (64 entries in both arrays, every translation an index into
    `aa_abc->sym`, a nucleotide alphabet that digitizes T (U), C, A, G to 0..3) it reads only inside its arrays and produces
    the text, with or without the comment line; every built-in table under every initiator setting, over DNA and RNA,
    is such an object (second part, `decide`) -/
theorem write_never_faults (nt aa : Alphabet) (g : Gencode) (cm : Bool) (hg : CodeOK g)
    (hb : ∀ b ∈ g.basic, b < aa.sym.length) (hn : ∀ c ∈ order, nt.inmapAt c < 4) : (write nt aa g cm).isSome = true :=
  write_isSome nt aa g cm hg.1 hg.2 hb hn

theorem write_never_faults_hyps :
    (∀ nt ∈ [A.dna, A.rna], ∀ c ∈ order, nt.inmapAt c < 4) ∧
    ∀ t ∈ T.tables, ∀ g ∈ settings (codeOf t), CodeOK g ∧ ∀ b ∈ g.basic, b < A.amino.sym.length := by decide +kernel

/-- BOUNDS OF `esl_gencode_DecodeDigicodon` FOR EVERY C `int` (division truncating toward zero): the three reads of
    `nt_abc->sym[]` stay inside the `Kp + 1` bytes of the symbol string exactly when `0 ≤ d` and `d / 16 ≤ Kp`
    (its documented domain `0..63` is inside); every negative `d` reads before the array -/
theorem decode_digicodon_bounds (nt : Alphabet) (h3 : 3 ≤ nt.sym.length) (d : Int) :
    (decodeDigicodon nt d).isSome = true ↔ 0 ≤ d ∧ d / 16 ≤ nt.sym.length := decodeDigicodon_isSome nt h3 d

/-- on its domain `DecodeDigicodon` is the inverse of the codon index `16x + 4y + z`: the three letters it stores digitize
    back to `d` (DNA and RNA alphabets), and they are canonical nucleotides -/
theorem decode_digicodon_inverse :
    ∀ nt ∈ [A.dna, A.rna], ∀ d, d < 64 → ∃ a b c, decodeDigicodon nt (d : Nat) = some [a, b, c] ∧
      16 * nt.inmapAt a + 4 * nt.inmapAt b + nt.inmapAt c = d ∧ nt.inmapAt a < 4 ∧ nt.inmapAt b < 4 ∧ nt.inmapAt c < 4 := by
  intro nt hnt d hd
  have key : ∀ nt ∈ [A.dna, A.rna], ∀ d ∈ List.range 64,
      (match decodeDigicodon nt (d : Nat) with
       | some [a, b, c] => decide (16 * nt.inmapAt a + 4 * nt.inmapAt b + nt.inmapAt c = d ∧ nt.inmapAt a < 4 ∧ nt.inmapAt b < 4 ∧ nt.inmapAt c < 4)
       | _ => false) = true := by decide +kernel
  have := key nt hnt d (List.mem_range.mpr hd)
  split at this
  · rename_i a b c heq
    exact ⟨a, b, c, heq, by simpa using this⟩
  · cases this

/-- BOUNDS OF `esl_gencode_GetTranslation` / `esl_gencode_IsInitiator`: for three codes `< Kp` they never fault
    (`translation_spec`, `initiator_spec`); a first code `≥ Kp` (e.g. the sentinel 255) is read as an index into `degen[]`
    at once: out of bounds. Their contract is "three valid digital residues"; the ORF machine only passes such
    (`orf_stream_eq_spec`: hypothesis `∀ x ∈ d, x < nt.Kp`, which `esl_abc_Digitize` guarantees — C08). -/
theorem translation_out_of_alphabet_faults (nt aa : Alphabet) (g : Gencode) (a b c : Nat) (ha : nt.degen.length ≤ a)
    (hk : nt.K ≤ a) : getTranslation nt aa g a b c = none ∧ isInitiator nt g a b c = none :=
  out_of_alphabet_faults nt aa g a b c ha hk

example : (T.tables.head?.map fun t => (getTranslation A.dna A.amino (codeOf t) 255 0 0, getTranslation A.dna A.amino (codeOf t) 4 255 255)) =
    some (none, some (-1)) := by decide +kernel

/-- `esl_gencode_Compare` answers `eslOK` exactly for equal codes: same alphabet types, (if asked) same id and description,
    same 64 translations and same 64 initiator flags -/
theorem compare_spec (n1 a1 n2 a2 : Nat) (g1 g2 : Gencode) (md : Bool) (h1 : CodeOK g1) (h2 : CodeOK g2) :
    ∃ r, compare n1 a1 n2 a2 g1 g2 md = some r ∧
      (r = true ↔ (n1 = n2 ∧ a1 = a2 ∧ (md = true → g1.translTable = g2.translTable ∧ g1.desc = g2.desc) ∧
        g1.basic = g2.basic ∧ g1.isInit = g2.isInit)) :=
  EaselModel.Gencode.compare_spec n1 a1 n2 a2 g1 g2 md h1.1 h2.1 h1.2 h2.2

/-- WINDOWS SHORTER THAN A CODON: a window of 0, 1 or 2 residues (e.g. a first window of 2) leaves the machine untouched;
    a later window that brings ONE new residue after its 2-residue context processes exactly one codon. Together with
    `window_split_invariant` (any split whose first window has ≥ 2 residues, later windows of any size ≥ 0 … 1, 2, 3, …):
    windows smaller than a codon are handled like any other. -/
theorem short_windows (nt aa : Alphabet) (g : Gencode) (cfg : Cfg) (w : Work) :
    (∀ d : List Nat, d.length < 3 → processPiece nt aa g cfg w d = some w) ∧
    (∀ a b c : Nat, processPiece nt aa g cfg w [a, b, c] = pieceStep nt aa g cfg w a b c) :=
  ⟨fun d h => processPiece_short nt aa g cfg w d h, fun a b c => processPiece_one nt aa g cfg w a b c⟩

/-- `esl_gencode_ProcessOrf`: a record is emitted exactly when the frame is inside an ORF of AT LEAST `minlen` residues (an ORF
    of exactly `minlen` is reported, one of `minlen − 1` is not); it is numbered `orfcount + 1` (its name is "orf<number>"),
    labelled frame `f + 1` on the top strand and `f + 4` on the reverse strand, starts where the ORF was opened, ends one
    residue before the current position in reading direction and carries the residues in reading order; in every case the
    frame is reset, and position, frame counter and strand are untouched -/
theorem process_orf_spec (cfg : Cfg) (w : Core) :
    ((w.getF.inOrf = true ∧ cfg.minlen ≤ (w.getF.rev.length : Int)) → (processOrf cfg w).out =
        { num := w.orfcount + 1, start := w.getF.start, stop := if w.isRev then w.apos + 1 else w.apos - 1,
          frame := w.frame + 1 + (if w.isRev then 3 else 0), aa := w.getF.rev.reverse } :: w.out ∧
      (processOrf cfg w).orfcount = w.orfcount + 1) ∧
    (¬ (w.getF.inOrf = true ∧ cfg.minlen ≤ (w.getF.rev.length : Int)) →
      (processOrf cfg w).out = w.out ∧ (processOrf cfg w).orfcount = w.orfcount) ∧
    (processOrf cfg w).getF = { rev := [], start := 0, inOrf := false } ∧
    (processOrf cfg w).apos = w.apos ∧ (processOrf cfg w).frame = w.frame ∧ (processOrf cfg w).isRev = w.isRev :=
  processOrf_spec cfg w

-- the minimum-length boundary on a whole sequence: ATG AAA TAA has the 2-residue ORF "MK": reported with minlen 2, not with 3;
-- with a first window of only 2 residues and every later window of 1 residue the result is the same
example : (T.tables.head?.map fun t =>
    let g := setInitiatorAny A.amino (codeOf t)
    let d := [0,3,2,0,0,0,3,0,0]
    ((runStrand A.dna A.amino g ⟨false, 2⟩ {} false d [9]).map fun w => recsOf w.c.out 1,
     (runStrand A.dna A.amino g ⟨false, 3⟩ {} false d [9]).map fun w => recsOf w.c.out 1,
     (runStrand A.dna A.amino g ⟨false, 2⟩ {} false d [2, 1, 1, 1, 1, 1, 1, 1]).map fun w => recsOf w.c.out 1)) =
    some (some [⟨1, 6, [10, 8]⟩], some [], some [⟨1, 6, [10, 8]⟩]) := by decide +kernel
example : (decodeDigicodon A.dna 14, decodeDigicodon A.dna 303, decodeDigicodon A.dna 304, decodeDigicodon A.dna (-1)) =
    (some [65, 84, 71], some [0, 84, 84], none, none) := by decide +kernel

/-- `esl_gencode_GetTranslation` IS TOTAL ON EXACTLY THESE INPUTS, WITH THIS RESULT — for ANY table, any alphabet and ANY three
    codes (every value an `ESL_DSQ` can hold: residues, gap, nonresidue `*`, missing data `~`, codes ≥ Kp, the sentinel 255),
    in the order in which the C loop dereferences `degen[]`: three canonical residues ⇒ the table entry; else a first code ≥ Kp
    ⇒ read outside `degen[]`; else a first code that stands for no residue (gap / `*` / `~`) ⇒ −1 at once (stored in an
    `ESL_DSQ`: 255), the two other codes are never looked at; else the same for the second, then for the third code; else the
    specification `specTranslation` (shared amino acid, X, or −1 for an empty third code). -/
theorem translation_total (nt aa : Alphabet) (g : Gencode) (hn : NtOK nt) (hg : CodeOK g) (a b c : Nat) :
    getTranslation nt aa g a b c =
      if allCanonical nt a b c = true then some (Int.ofNat (g.basic.getD (16 * a + 4 * b + c) 0))
      else if nt.Kp ≤ a then none else if rowEmpty nt a = true then some (-1)
      else if nt.Kp ≤ b then none else if rowEmpty nt b = true then some (-1)
      else if nt.Kp ≤ c then none else some (specTranslation nt aa g a b c) :=
  getTranslation_total nt aa g hn hg a b c

/-- the same for `esl_gencode_IsInitiator`: FALSE as soon as a code stands for no residue; a read outside `degen[]` exactly
    when a code ≥ Kp is reached before that (for three codes < Kp: `initiator_spec`) -/
theorem initiator_total (nt : Alphabet) (g : Gencode) (hn : NtOK nt) (hg : CodeOK g) (a b c : Nat)
    (hcan : allCanonical nt a b c = false) :
    (nt.Kp ≤ a → isInitiator nt g a b c = none) ∧
    (a < nt.Kp → rowEmpty nt a = true → isInitiator nt g a b c = some 0) ∧
    (a < nt.Kp → rowEmpty nt a = false → nt.Kp ≤ b → isInitiator nt g a b c = none) ∧
    (a < nt.Kp → rowEmpty nt a = false → b < nt.Kp → rowEmpty nt b = true → isInitiator nt g a b c = some 0) ∧
    (a < nt.Kp → rowEmpty nt a = false → b < nt.Kp → rowEmpty nt b = false → nt.Kp ≤ c → isInitiator nt g a b c = none) :=
  isInitiator_total nt g hn hg a b c hcan

/-- in the dumped DNA and RNA alphabets the codes that stand for no residue are exactly gap (4), nonresidue `*` (16) and
    missing data `~` (17); Kp = 18: of the 32 five-bit codes, 18..31 are outside the alphabet -/
theorem empty_rows :
    ∀ nt ∈ [A.dna, A.rna], nt.Kp = 18 ∧ ∀ a, a < 18 → (rowEmpty nt a = true ↔ (a = 4 ∨ a = 16 ∨ a = 17)) := by decide +kernel

-- 5³ = 125 of the 32³ five-bit triplets × the first table: the theorem's right-hand side computed on the regenerated tables agrees with the
-- model on a sample reaching every branch (A, gap, N, 18, 31 in each position)
example : (T.tables.head?.map fun t => ([0, 4, 15, 18, 31].flatMap fun a => [0, 4, 15, 18, 31].flatMap fun b => [0, 4, 15, 18, 31].map fun c =>
    getTranslation A.dna A.amino (codeOf t) a b c)) =
  some [some 8, some (-1), some 26, none, none,  some (-1), some (-1), some (-1), some (-1), some (-1),
        some 26, some (-1), some 26, none, none,  none, none, none, none, none,  none, none, none, none, none,
        some (-1), some (-1), some (-1), some (-1), some (-1),  some (-1), some (-1), some (-1), some (-1), some (-1),
        some (-1), some (-1), some (-1), some (-1), some (-1),  some (-1), some (-1), some (-1), some (-1), some (-1),
        some (-1), some (-1), some (-1), some (-1), some (-1),
        some 26, some (-1), some 26, none, none,  some (-1), some (-1), some (-1), some (-1), some (-1),
        some 26, some (-1), some 26, none, none,  none, none, none, none, none,  none, none, none, none, none,
        none, none, none, none, none,  none, none, none, none, none,  none, none, none, none, none,  none, none, none, none, none,
        none, none, none, none, none,
        none, none, none, none, none,  none, none, none, none, none,  none, none, none, none, none,  none, none, none, none, none,
        none, none, none, none, none] := by decide +kernel

/-- `esl_gencode_DumpAltCodeTable` AS A FUNCTION OF `esl_transl_tables[]`: for ANY table array the text is the two header lines
    followed by one line `"%3d %s"` (id right-aligned in three columns, blank, description) per row, in array order, each
    terminated by a newline; for the rows of the tree (regenerated): ids are 1..99 and print as `"  d"` / `" dd"`, no
    description contains a newline — one line per offered table, and by `table_ids` the ids listed are exactly those
    `esl_gencode_Set` accepts -/
theorem alt_code_table_spec :
    (∀ tabs : List RawTable, dumpAltCodeTable tabs = String.join ((dumpLines tabs).map (· ++ "\n"))) ∧
    (∀ tabs : List RawTable, dumpLines tabs =
      ["id  description", "--- -----------------------------------"] ++ tabs.map fun t => pad3 t.id ++ " " ++ t.desc) ∧
    (∀ t ∈ T.tables, 0 < t.id ∧ t.id < 100 ∧ pad3 t.id = (if t.id < 10 then "  " else " ") ++ toString t.id ∧
      (t.desc.toList.all fun ch => ch ≠ '\n') = true) :=
  ⟨dump_eq_lines, fun _ => rfl, dump_rows_wellformed⟩

/-- THE REVERSE STRAND, WINDOWS DELIVERED IN REVERSE ORDER: `esl_sqio_ReadWindow` with a negative window size walks the TOP strand
    from its 3' end towards its 5' end; the `i`-th window is the reverse complement of the `k_i` residues ending `done` residues
    before the end plus (after the first window) the 2 residues to their right. For every sequence and every list of window sizes
    (first ≥ 2, sum = L) these are exactly the windows of the reverse-complemented sequence read front to back — so
    `window_split_invariant` / `orf_stream_eq_spec` with `isRev = true` apply to what the windowed reader delivers. -/
theorem reverse_strand_windows (nt : Alphabet) (d : List Nat) (k : Nat) (ks : List Nat) (hk : 2 ≤ k)
    (hs : (k :: ks).sum = d.length) : topSlices nt d 0 (k :: ks) = windows [] (revcomp nt d) (k :: ks) :=
  topSlices_windows nt d k ks hk hs

/-- `esl-translate -W` = `esl-translate`: for every sequence of at least one codon, every window size other than 1 (the program
    uses 4092; 0 stands for "unbounded"), every genetic code and EVERY option combination `esl_gencode_WorkstateCreate` reads
    (`--watson`, `--crick`, `-m`, `-M`, `-l`), the windowed main loop `do_by_windows` (top strand front to back, then the reverse
    strand from the 3' end of the top strand) leaves the work state — emitted ORFs, their numbering, the three frames — exactly
    where the full-length loop `do_by_sequences` leaves it -/
theorem windowed_eq_full_length (nt aa : Alphabet) (g : Gencode) (o : Opts) (W : Nat) (hW : W ≠ 1) (w : Work) (d : List Nat)
    (hL : 3 ≤ d.length) :
    byWindows nt aa g (workstateCreate o) W w d = bySequence nt aa g (workstateCreate o) w d :=
  byWindows_eq_bySequence nt aa g (workstateCreate o) W hW w d hL

/-- `esl_gencode_WorkstateCreate` under ALL option combinations: `--crick` switches the top strand off, `--watson` the reverse
    strand (both together: nothing is translated, any sequence leaves the work state untouched), `-m` or `-M` make the first
    residue of every ORF an M, `-l` is the minimum length; and the genetic code `esl-translate` sets up for `-c <id>` is one of
    the three initiator settings of that table (`-m`: only AUG, `-M`: the table's own, neither: any sense codon), to which
    `no_initiator_stop` / `builtin_tables_ok` apply -/
theorem workstate_options (o : Opts) :
    ((workstateCreate o).doWatson = !o.crick) ∧ ((workstateCreate o).doCrick = !o.watson) ∧
    ((workstateCreate o).usingInit = (o.optm || o.optM)) ∧ (workstateCreate o).minlen = o.l ∧
    (o.watson = true → o.crick = true → ∀ nt aa g w d, bySequence nt aa g (workstateCreate o) w d = some w) ∧
    (∀ t ∈ T.tables, ∃ g ∈ settings (codeOf t), codeForOpts A.dna A.amino T.tables t.id o = some g ∧
      g = (if o.optm = true then setInitiatorOnlyAUG A.dna (codeOf t) else if o.optM = true then codeOf t
           else setInitiatorAny A.amino (codeOf t))) := by
  refine ⟨by unfold workstateCreate; cases o.crick <;> rfl, by unfold workstateCreate; cases o.watson <;> rfl,
    by unfold workstateCreate; cases o.optm <;> cases o.optM <;> rfl, rfl, fun hw hc nt aa g w d => ?_, fun t ht => ?_⟩
  · unfold bySequence workstateCreate
    by_cases h : d.length < 3 <;> simp [h, hw, hc]
  · have hset := Facts.table_ids.2.2.2.2.1 t ht
    unfold codeForOpts
    rw [hset]
    cases o.optm <;> cases o.optM <;> simp [settings]

/-- **SIX-FRAME TRANSLATION OF A WHOLE SEQUENCE** (`esl-translate`'s full-length main loop `do_by_sequences`; by
    `windowed_eq_full_length` also the `-W` loop). For ANY table, every DNA sequence of at least one codon over valid codes,
    EVERY combination of `--watson`, `--crick`, `-m`, `-M`, `-l <n>` and whatever the output block already holds: the loop does
    not fault, and afterwards the records labelled frame 1, 2, 3 are those of the one-frame ORF finder `frameOrfs` over the
    sequence read forward from coordinate 1 (none with `--crick`), the records labelled frame 4, 5, 6 are those of the finder
    over the reverse complement read from coordinate L downwards (none with `--watson`), each list in front of what the block
    held under that label; no record carries any other label. (`frameOrfs` is stated declaratively by `orf_frame_declarative`;
    numbering and order of the records: `orf_numbering_and_order`, strand by strand.) -/
theorem six_frame_translation (nt aa : Alphabet) (g : Gencode) (o : Opts) (hn : NtOK nt) (hg : CodeOK g)
    (hc : ∀ x, x < nt.Kp → (nt.complement.getD []).getD x 255 < nt.Kp) (w0 : Work) (d : List Nat)
    (hv : ∀ x ∈ d, x < nt.Kp) (hL : 3 ≤ d.length) :
    ∃ w', bySequence nt aa g (workstateCreate o) w0 d = some w' ∧
      (∀ f, f < 3 → recsOf w'.c.out (f + 1) =
        (if o.crick = true then [] else frameOrfs nt aa g (workstateCreate o).cfg 1 1 d f) ++ recsOf w0.c.out (f + 1)) ∧
      (∀ f, f < 3 → recsOf w'.c.out (f + 4) =
        (if o.watson = true then [] else frameOrfs nt aa g (workstateCreate o).cfg (-1) (d.length : Int) (revcomp nt d) f) ++
          recsOf w0.c.out (f + 4)) ∧
      (∀ lbl, (lbl = 0 ∨ 7 ≤ lbl) → recsOf w'.c.out lbl = recsOf w0.c.out lbl) :=
  bySequence_spec nt aa g o hn hg hc w0 d hv hL

/-- the dumped DNA and RNA alphabets satisfy the complement hypothesis of `six_frame_translation`: the complement of a valid code
    is a valid code (and complementing twice is the identity) -/
theorem complement_closed :
    ∀ nt ∈ [A.dna, A.rna], ∀ x, x < nt.Kp → (nt.complement.getD []).getD x 255 < nt.Kp ∧
      (nt.complement.getD []).getD ((nt.complement.getD []).getD x 255) 255 = x := by decide +kernel

/-- SEQUENCES SHORTER THAN A CODON (0, 1, 2 residues) are ignored by both main loops: `do_by_sequences` skips them; in
    `do_by_windows` the `ProcessEnd` calls at `eslEOD` run on an idle machine (no frame inside an ORF — the state
    `WorkstateCreate` makes and every completed strand leaves), emit nothing, and leave it idle -/
theorem short_sequences_ignored (nt aa : Alphabet) (g : Gencode) (o : Opts) (W : Nat) (w : Work) (d : List Nat)
    (hL : d.length < 3) (hf : w.c.frame < 3) (hi : Idle w.c) :
    bySequence nt aa g (workstateCreate o) w d = some w ∧
    ∃ w', byWindows nt aa g (workstateCreate o) W w d = some w' ∧ w'.c.out = w.c.out ∧ w'.c.orfcount = w.c.orfcount ∧
      Idle w'.c ∧ w'.c.frame < 3 :=
  short_sequence_noop nt aa g (workstateCreate o) W w d hL hf hi

/-- every completed strand leaves the machine idle with its frame counter in range (the hypotheses of `short_sequences_ignored`
    hold between sequences) -/
theorem strand_leaves_idle (nt aa : Alphabet) (g : Gencode) (cfg : Cfg) (hn : NtOK nt) (hg : CodeOK g) (w0 : Work)
    (isRev : Bool) (d : List Nat) (hv : ∀ x ∈ d, x < nt.Kp) :
    ∃ w', runStrand nt aa g cfg w0 isRev d [d.length] = some w' ∧ Idle w'.c ∧ w'.c.frame < 3 := by
  obtain ⟨w', e, hc⟩ := runStrand_core nt aa g cfg hn hg w0 isRev d hv
  exact ⟨w', e, hc ▸ strandCore_idle nt aa g cfg _ d (startCore_frame ..)⟩

/-- A WHOLE FILE, NUMBERING: over all sequences of the file and both strands (whatever the options) the main loop does not fault and
    the records it adds are numbered `orfcount + 1, orfcount + 2, …` in emission order without gap or repeat — from a fresh work
    state: orf1, orf2, …, orf<n> with n the final counter (`Numbered`: newest first `n0 + len, …, n0 + 1`) -/
theorem file_numbering (nt aa : Alphabet) (g : Gencode) (o : Opts) (hn : NtOK nt) (hg : CodeOK g)
    (hc : ∀ x, x < nt.Kp → (nt.complement.getD []).getD x 255 < nt.Kp) (seqs : List (List Nat)) (w0 : Work)
    (hv : ∀ d ∈ seqs, ∀ x ∈ d, x < nt.Kp) :
    ∃ w' news, translateFile (bySequence nt aa g (workstateCreate o)) w0 seqs = some w' ∧
      w'.c.out.map (·.num) = news ++ w0.c.out.map (·.num) ∧ w'.c.orfcount = w0.c.orfcount + news.length ∧
      Numbered w0.c.orfcount news :=
  let ⟨w', e, news, h⟩ := translateFile_numbering nt aa g (workstateCreate o) hn hg hc seqs w0 hv
  ⟨w', news, e, h⟩

/-- A WHOLE FILE, `-W`: for every file of valid sequences of ANY lengths (shorter than a codon included), every window size other
    than 1, every genetic code and option combination, starting from the fresh work state: `esl-translate -W` ends with the same
    ORF records in the same order under the same numbers as `esl-translate` -/
theorem windowed_file_eq_full_length (nt aa : Alphabet) (g : Gencode) (o : Opts) (W : Nat) (hW : W ≠ 1) (hn : NtOK nt)
    (hg : CodeOK g) (hc : ∀ x, x < nt.Kp → (nt.complement.getD []).getD x 255 < nt.Kp) (seqs : List (List Nat))
    (hv : ∀ d ∈ seqs, ∀ x ∈ d, x < nt.Kp) :
    ∃ r r', translateFile (byWindows nt aa g (workstateCreate o) W) {} seqs = some r ∧
      translateFile (bySequence nt aa g (workstateCreate o)) {} seqs = some r' ∧ r.c.out = r'.c.out ∧ r.c.orfcount = r'.c.orfcount :=
  windowed_file nt aa g (workstateCreate o) W hW hn hg hc seqs {} {} ⟨rfl, rfl⟩ ⟨rfl, rfl, rfl⟩ (by decide) ⟨rfl, rfl, rfl⟩
    (by decide) hv

-- non-vacuity: a file of three sequences (one shorter than a codon) through both loops, window size 4
example : (T.tables.head?.map fun t =>
    let o : Opts := ⟨false, false, false, true, 1⟩
    let g := codeOf t
    let seqs := [[0,3,2,0,0,0,3,0,0,1], [0,3], [1,3,2,1,1,1,3,2,0,0]]
    ((translateFile (byWindows A.dna A.amino g (workstateCreate o) 4) {} seqs).map fun w => w.c.out.map (·.num),
     (translateFile (bySequence A.dna A.amino g (workstateCreate o)) {} seqs).map fun w => w.c.out.map (·.num))) =
    some (some [3, 2, 1], some [3, 2, 1]) := by decide +kernel

example : Idle ({} : Work).c ∧ ({} : Work).c.frame < 3 := ⟨⟨rfl, rfl, rfl⟩, by decide⟩

-- non-vacuity: ATGAAATAAC, standard code, default options, minlen 1: frame 1 has MK (1..6); the reverse complement GTTATTTCAT
-- holds no stop in frame 4: VIS (10..2); six ORFs in all (NN 5..10, EI 3..8, LFH 9..1, YF 8..3)
example : (T.tables.head?.map fun t =>
    let o : Opts := ⟨false, false, false, false, 1⟩
    let g := setInitiatorAny A.amino (codeOf t)
    let d := [0,3,2,0,0,0,3,0,0,1]
    (bySequence A.dna A.amino g (workstateCreate o) {} d).map fun w => (recsOf w.c.out 1, recsOf w.c.out 4, w.c.orfcount)) =
    some (some ([⟨1, 6, [10, 8]⟩], [⟨10, 2, [17, 7, 15]⟩], 6)) := by decide +kernel

-- non-vacuity: GGATGAAATAAC (12 nt), windows 5+4+3 from the 3' end: the slices of the top strand, reverse complemented
example : topSlices A.dna [2,2,0,3,2,0,0,0,3,0,0,1] 0 [5, 4, 3] =
    [[2,3,3,0,3], [0,3,3,3,1,0], [1,0,3,1,1]] ∧
    windows [] (revcomp A.dna [2,2,0,3,2,0,0,0,3,0,0,1]) [5, 4, 3] = [[2,3,3,0,3], [0,3,3,3,1,0], [1,0,3,1,1]] := by decide +kernel

/-- THE TEXT PRINTED FOR A RECORD (`esl_gencode_ProcessOrf` without an ORF block → `esl_sqio_Write(…, eslSQFILE_FASTA)`, what
    `esl-translate` prints): the line `>orf<n> source=<name> coords=<start>..<end> length=<n> frame=<f> desc=<desc>`, then residue
    lines which, newlines removed, are exactly the record's residues as amino-acid symbols in order, in ⌈n/60⌉ newline-terminated
    lines; the second part: no symbol of the dumped amino alphabet (nor the filler `?`) is a newline, for any code -/
theorem printed_record_spec (source desc : String) (o : Orf) :
    (∃ lines, fastaOrf A.amino source desc o = strBytes (">" ++ orfName o ++ " " ++ orfDesc source desc o ++ "\n") ++ lines ∧
      lines.filter (· ≠ 10) = o.aa.map (fun x => A.amino.sym.getD x 63) ∧ lines.count 10 = (o.aa.length + 59) / 60) ∧
    (∀ s ∈ A.amino.sym, s ≠ 10) := by
  have hsym : ∀ s ∈ A.amino.sym, s ≠ 10 := by decide +kernel
  refine ⟨fastaOrf_spec A.amino source desc o (fun x _ => ?_), hsym⟩
  rw [List.getD_eq_getElem?_getD]
  cases h : A.amino.sym[x]? with
  | none => simp
  | some s => exact hsym s (List.mem_of_getElem? h)

-- a 61-residue record: two residue lines, 60 + 1
example : ((fastaOrf A.amino "s" "" ⟨1, 1, 183, 1, List.replicate 61 8⟩).count 10,
    ((fastaOrf A.amino "s" "" ⟨1, 1, 183, 1, List.replicate 61 8⟩).reverse.take 3)) = (3, [10, 75, 10]) := by decide +kernel

/-- AFTER ANY HISTORY, `esl_gencode_Set(id)` LEAVES EXACTLY TABLE `id`. `Set` is modelled as the code does it — on the existing
    object, field by field, the two arrays by the loop `for (c = 0; c < 64; c++)` — and a history is any list of `Set(id)` (known
    or unknown ids), `SetInitiatorAny`, `SetInitiatorOnlyAUG` and `Read` of arbitrary bytes (the new object replaces the old one
    when Read succeeds). For ANY table array with 64-entry rows, any alphabets, any well-formed start object and ANY history:
    a final `Set(id)` with a known id gives the object `setTable` gives on fresh memory (nothing of an earlier table, policy
    setter or file survives: id, description, 64 translations, 64 initiator flags), with an unknown id it leaves the object
    as the history left it (`eslENOTFOUND`). -/
theorem set_after_any_history (nt aa : Alphabet) (tabs : List RawTable)
    (htabs : ∀ t ∈ tabs, t.basic.length = 64 ∧ t.init.length = 64)
    (hatg : 16 * nt.inmapAt 65 + 4 * nt.inmapAt 84 + nt.inmapAt 71 < 64) (ops : List HOp) (g0 : Gencode) (hg : CodeOK g0) (id : Int) :
    (hrun nt aa tabs g0 (ops ++ [.set id])).1 =
      match setTable tabs id with
      | some g' => g'
      | none => (hrun nt aa tabs g0 ops).1 :=
  set_after_history nt aa tabs htabs hatg ops g0 hg id

/-- … for the tables of the tree, over DNA and RNA: after any history, `Set(t)` leaves `codeOf t` — re-selecting the SAME table
    after a policy setter restores its own initiator flags — and a policy setter after that gives the corresponding one of the
    three `settings` of the table (to which `no_initiator_stop`, `builtin_tables_ok`, `read_write_roundtrip` apply); every
    object a history can produce is well formed -/
theorem set_resets_builtin (ops : List HOp) (g0 : Gencode) (hg : CodeOK g0) :
    ∀ nt ∈ [A.dna, A.rna], ∀ t ∈ T.tables,
      (hrun nt A.amino T.tables g0 (ops ++ [.set t.id])).1 = codeOf t ∧
      (hrun nt A.amino T.tables g0 (ops ++ [.set t.id, .any])).1 = setInitiatorAny A.amino (codeOf t) ∧
      (hrun nt A.amino T.tables g0 (ops ++ [.set t.id, .aug])).1 = setInitiatorOnlyAUG A.dna (codeOf t) ∧
      (hrun nt A.amino T.tables g0 (ops ++ [.set t.id, .aug, .set t.id])).1 = codeOf t ∧
      CodeOK (hrun nt A.amino T.tables g0 ops).1 := by
  intro nt hnt t ht
  have htabs : ∀ t ∈ T.tables, t.basic.length = 64 ∧ t.init.length = 64 := read_never_faults_hyps.2.2.2.2.2
  have hatg : 16 * nt.inmapAt 65 + 4 * nt.inmapAt 84 + nt.inmapAt 71 < 64 := by
    have : ∀ nt ∈ [A.dna, A.rna], 16 * nt.inmapAt 65 + 4 * nt.inmapAt 84 + nt.inmapAt 71 < 64 := by decide +kernel
    exact this nt hnt
  have hset := Facts.table_ids.2.2.2.2.1 t ht
  have haug : setInitiatorOnlyAUG nt (codeOf t) = setInitiatorOnlyAUG A.dna (codeOf t) := by
    have := Facts.rna_objects_ok.2.2.2.1 (codeOf t)
    simp only [List.mem_cons, List.not_mem_nil, or_false] at hnt
    rcases hnt with rfl | rfl
    · rfl
    · simp only [setInitiatorOnlyAUG] at this ⊢; rw [this]
  obtain ⟨h1, h2, h3, h4⟩ := set_then_policy_after_history nt A.amino T.tables htabs hatg ops g0 hg t.id (codeOf t) hset
  exact ⟨h1, h2, h3.trans haug, h4, hrun_codeOK nt A.amino T.tables htabs hatg ops g0 hg⟩

/-- the policy setters overwrite ALL 64 flags from the translations alone: their result does not depend on the flags the object
    had (so the order and repetition of policy setters does not matter, only the last one counts) -/
theorem policy_setters_overwrite (nt aa : Alphabet) (g : Gencode) (flags : List Nat) :
    setInitiatorAny aa { g with isInit := flags } = setInitiatorAny aa g ∧
    setInitiatorOnlyAUG nt { g with isInit := flags } = setInitiatorOnlyAUG nt g ∧
    setInitiatorAny aa (setInitiatorOnlyAUG nt g) = setInitiatorAny aa g ∧
    setInitiatorOnlyAUG nt (setInitiatorAny aa g) = setInitiatorOnlyAUG nt g := ⟨rfl, rfl, rfl, rfl⟩

-- non-vacuity: table 1, any, Set(4), only-AUG, Set(7) (unknown: untouched), Set(4) again: the object is table 4 with its own 8 initiators
example : (T.tables.find? (fun t => t.id = 4)).map (fun t4 =>
    ((setTable T.tables 1).map fun g1 =>
      let r := hrun A.dna A.amino T.tables g1 [.any, .set 4, .aug, .set 7, .set 4]
      (decide (r.1 = codeOf t4), r.2.map (·.2), r.2.map fun x => (x.1.translTable, (x.1.isInit.filter (· ≠ 0)).length)))) =
    some (some (true, [true, true, true, false, true], [(1, 61), (4, 8), (4, 1), (4, 1), (4, 8)])) := by decide +kernel

-- ATGAAATAAATGCCCTAGG in the standard code, any-initiator, minlen 0, top strand, windows 4+5+10:
-- frame 1: MK (1..6), MP (10..15); frame 2: * K * M P * → "" ; the finder and the machine agree
example : (T.tables.head?.map fun t =>
    let g := setInitiatorAny A.amino (codeOf t)
    let d := [0,3,2,0,0,0,3,0,0,0,3,2,1,1,1,3,0,2,2]
    ((runStrand A.dna A.amino g ⟨false, 0⟩ {} false d [4, 5, 10]).map fun w => recsOf w.c.out 1,
     frameOrfs A.dna A.amino g ⟨false, 0⟩ 1 1 d 0)) =
    some (some [⟨10, 15, [10, 12]⟩, ⟨1, 6, [10, 8]⟩], [⟨10, 15, [10, 12]⟩, ⟨1, 6, [10, 8]⟩]) := by decide +kernel
example : NtOK A.dna := by decide +kernel
example : ∃ t ∈ T.tables, CodeOK (codeOf t) := ⟨_, List.mem_cons_self .., by decide⟩
-- GGR = Gly, TAR = stop, ATH = Ile, MGR = Arg (AGA, AGG, CGA, CGG), NNN = X (unknown), A-A stands for no codon: −1
example : (T.tables.head?.map fun t => [specTranslation A.dna A.amino (codeOf t) 2 2 5, specTranslation A.dna A.amino (codeOf t) 3 0 5,
    specTranslation A.dna A.amino (codeOf t) 0 3 11, specTranslation A.dna A.amino (codeOf t) 7 2 5,
    specTranslation A.dna A.amino (codeOf t) 15 15 15, specTranslation A.dna A.amino (codeOf t) 0 4 0]) =
    some [5, 27, 7, 14, 26, -1] := by decide +kernel

end EaselModel.Props.C17
