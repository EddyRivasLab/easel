import EaselModel.Sqio.Windows
import EaselModel.Sqio.Tracker
import EaselModel.Sqio.DriverLogic
import EaselModel.Sqio.Agree
import EaselModel.Sqio.Refine
import EaselModel.Sqio.Sim
import EaselModel.Sqio.Fold
import EaselModel.Sqio.ReadInfo
import EaselModel.Sqio.ParseFasta
import EaselModel.Sqio.Totality
import EaselModel.Sqio.SpecFasta
import EaselModel.Sqio.WindowSeries
import EaselModel.Sqio.BlockSpec
import EaselModel.Sqio.RoundTrip
import EaselModel.Sqio.LineSpec
import EaselModel.Sqio.RevWindowSpec
import EaselModel.Sqio.EmblSpec
import EaselModel.Sqio.EmblAll
import EaselModel.Sqio.FileWindows
import EaselModel.Sqio.EmblWin
import EaselModel.Sqio.RevWindowGeo
import EaselModel.Sqio.TrackerExact
import EaselModel.Sqio.PositionAny
import EaselModel.Sqio.TrackerChunks
import EaselModel.Sqio.SpecSuffix
import EaselModel.Sqio.PositionCalls
/-! # C04 — all ways of reading a sequence file agree with each other and with the file

The property theorems; all but a few short derivations are proved in `Sqio/`.
Model: `Sqio/Model.lean` — `loadmem loadbuf nextchar seebuf addbuf skipbuf read_nres header_fasta skip_fasta end_fasta
sqascii_Read ReadInfo ReadSequence ReadWindow Position WriteFasta`, read-block size `B` a parameter.

Full statement (DESIGN §5 C04): block-size independence of the block reader (= `parseFasta`), field-by-field agreement of
Read / ReadInfo / ReadSequence, true byte offsets, forward windows tile with context `min(C,·)` and 1-based contiguous
coordinates, reverse strand = reverse complement tiled the same way, independence of line layout, `read (WriteFasta r) = r`.
Proved here for every byte string and every read-block size `B ≥ 1` (FASTA): reading with `sqascii_Read` until the first non-OK
status returns exactly the records and final status of the declarative parser `specFasta` (`read_all_eq_specFasta`; name,
description, residues, true `roff` / `hoff` / `doff` / `eoff`, `L`), hence is block-size independent; `Read`, `ReadInfo`,
`ReadSequence` agree field by field (`read_readInfo_readSequence_agree`); the forward `ReadWindow` series delivers the residues of
`Read` (`windows_eq_read`, `windows_concat_eq_read`, `file_windows_eq_specFasta`); reverse-strand windows are the reverse complement of
the slice of the scanned record (`rev_*_window_eq_revcomp_slice*`) on a schedule that tiles `1..L` (`fwd_windows_tile`,
`rev_windows_tile`); whole-sequence `ReadBlock` (`readBlock_short_eq_read`); write + re-read, text and digital
(`write_read_roundtrip*`); the line-based formats: `Read`, `ReadInfo`, `ReadSequence`, forward `ReadWindow` and whole-sequence
`ReadBlock` are block-size independent (`read_all_linebased_*`, `readWindow_readBlock_linebased_*`; not the reverse-strand windows,
not long-target blocks). Tied by the exact differential run + monitors only: long-target `ReadBlock`, a declarative
parser (Read = spec) and cross-call agreement for the line-based formats, daemon / hmmpgmd, gzip / stdin sources. -/
namespace EaselModel.Props.C04
open EaselModel.Sqio EaselModel.Sqio.Windows

/-- the first forward window of a record holds residues `1..nres` with no context -/
theorem fwd_first_window (nres : Int) (h : 0 ≤ nres) : Inv (fwdFirst nres) nres := fwdFirst_inv nres h

/-- **Forward windows tile.** For every requested context `C ≥ 0` and every number `nres` of newly read residues: the next
    window's context is the `min C n` residues preceding position `d+1` (`d` = residues delivered so far), its new part is exactly
    residues `d+1 .. d+nres`, coordinates are 1-based and the window holds exactly `start..end`. By induction this holds along
    every window series, for every `(C, W)` sequence (`C`, `W` may change between calls). -/
theorem fwd_windows_tile (w : Win) (C d nres : Int) (hC : 0 ≤ C) (hn : 0 ≤ nres) (h : Inv w d) :
    let w' := fwdNext w C d nres
    Inv w' (d + nres) ∧ w'.C = min C w.n ∧ w'.start + w'.C = d + 1 ∧ w'.end_ = d + nres :=
  fwdNext_tiles w C d nres hC hn h

/-- **Reverse windows, first**: `[start..end]` is the top `min W L` residues of the sequence -/
theorem rev_first_window (L W : Int) (hL : 1 ≤ L) (hW : 1 ≤ W) :
    let r := revInit L W
    r.2 = L ∧ 1 ≤ r.1 ∧ r.1 ≤ L ∧ r.2 - r.1 + 1 = min W L := revInit_spec L W hL hW

/-- **Reverse windows tile downwards**: context = the `min C (L − prevLow + 1)` lowest residues of the previous window, new part
    `[start .. prevLow−1]` non-empty, at most `W`, exactly `W` unless residue 1 is reached (then the next call reports end of data,
    `sq->end == 1`). -/
theorem rev_windows_tile (L C W prevLow : Int) (hC : 0 ≤ C) (hW : 1 ≤ W) (hlo : 2 ≤ prevLow) (hhi : prevLow ≤ L) :
    let r := revNext L C W prevLow
    r.1 = min C (L - prevLow + 1) ∧ r.2.1 = prevLow + r.1 - 1 ∧ r.2.1 ≤ L ∧ 1 ≤ r.2.2.1 ∧
    r.2.2.2 = prevLow - r.2.2.1 ∧ 1 ≤ r.2.2.2 ∧ r.2.2.2 ≤ W ∧ (r.2.2.1 > 1 → r.2.2.2 = W) :=
  revNext_tiles L C W prevLow hC hW hlo hhi

/-- the reverse-strand reader positions with the same three-way arithmetic as `esl_ssi_FindSubseq`; when it knows no line geometry
    (`bpl` or `rpl` unset, −1, or invalidated, 0) it seeks to the start of the record's data and skips residues one by one (the test
    `bpl <= 0 || rpl <= 0` in `sqascii_ReadWindow`: −1 is never used as a line length) -/
theorem rev_offset_brute_force (bpl rpl start : Int) (h : bpl ≤ 0 ∨ rpl ≤ 0) : subseqOffset bpl rpl start = (0, 1) :=
  RevWindowSpec.subseqOffset_brute bpl rpl start h

/-- **Read vs ReadInfo, step 1**: storing the residues of a buffer (`addbuf`, done by Read / ReadSequence / ReadWindow and not by
    ReadInfo) changes nothing of the file handle except the buffer position -/
theorem addbuf_moves_only_bpos (a : Ascii) (sq : Sq) (n : Nat) : ∃ b, (addbuf a sq n).1 = { a with bpos := b } :=
  Agree.addbuf_handle a sq n

/-- **Read vs ReadInfo, step 2**: the next `loadbuf` does not depend on the buffer position (block mode), so the storing and the
    counting scan see the same next block, offsets and end of data. (The loop-level and call-level statements are
    `residue_loop_closed_form` and `read_readInfo_readSequence_agree` below.) -/
theorem loadbuf_ignores_bpos (a : Ascii) (b : Nat) (hb : a.linebased = false) :
    loadbuf { a with bpos := b } = loadbuf a := Agree.loadbuf_bpos a b hb

/-- **Block-size independence of the byte stream** (the refinement "bytes + cursor" for the primitive every header parser is
    written with): for every `B ≥ 1`, `nextchar` delivers `file[pos+1]` and moves the cursor by one, or reports EOF exactly at the
    end of the file; where the block boundaries fall is invisible. (The corollary for whole records is `read_all_eq_specFasta` /
    `read_all_block_size_independent` below.) -/
theorem nextchar_block_size_independent (a : Ascii) (c : UInt8) (h : Refine.WF a) (hb : a.bpos < a.nc) :
    ((nextchar a c).2.1 = .ok ∧ Refine.pos (nextchar a c).1 = Refine.pos a + 1 ∧
        a.file[(Refine.pos a + 1).toNat]? = some (nextchar a c).2.2) ∨
    ((nextchar a c).2.1 = .eof ∧ Refine.pos a + 1 = a.file.size) := by
  rcases (Refine.nextchar_refines a c h hb).2.2.2 with h1 | h1
  · exact Or.inl ⟨h1.1, h1.2.2.1, h1.2.2.2⟩
  · exact Or.inr ⟨h1.1, h1.2.2.1⟩

/-- **Write + re-read, residue level**: the data lines `esl_sqascii_WriteFasta` writes (60 residues per line), with the newlines
    taken out again, are exactly the residues - for every sequence not containing a newline byte, of any length.
    (The whole statement — the reader returns name, description and residues of what the writer wrote — is `write_read_roundtrip` below.) -/
theorem writeFasta_keeps_residues (res : List UInt8) (hnl : ∀ x ∈ res, x ≠ chNl) :
    (chunk60 res (res.length + 1)).filter (fun x => x != chNl) = res :=
  Spec.chunk60_filter (res.length + 1) res (Nat.lt_succ_self _) hnl

/-- **Block-size independence starts at open / Position**: same file, same `FILE*` position, nothing buffered, any two block sizes
    ⇒ after the first `loadbuf` the handles are similar (same absolute cursor, same bookkeeping) and the status is the same. -/
theorem open_block_size_independent (a1 a2 : Ascii) (h1 : Refine.Pre a1) (h2 : Refine.Pre a2)
    (hp : Sim.payload a1 = Sim.payload a2) (hf : a1.fpos = a2.fpos) :
    (loadbuf a1).2 = (loadbuf a2).2 ∧ Sim.Sim (loadbuf a1).1 (loadbuf a2).1 := Sim.loadbuf_sim a1 a2 h1 h2 hp hf

/-- **`header_fasta` is block-size independent** (every file, every pair of block sizes `B₁, B₂ ≥ 1`): from similar handles at the
    start of a record it returns the same status and the same `ESL_SQ` (name, description, `roff`, `hoff`, `doff`) and leaves similar
    handles — i.e. the same absolute position, line number and line-geometry state. Proved by a simulation through `nextchar` and
    every `while (status == eslOK && p(c)) status = nextchar(...)` loop of the parser. -/
theorem header_fasta_block_size_independent (a1 a2 : Ascii) (sq : Sq) (h : Sim.Sim a1 a2) (l1 : Sim.Live a1) (l2 : Sim.Live a2) :
    (headerFasta a1 sq).2 = (headerFasta a2 sq).2 ∧ Sim.Sim (headerFasta a1 sq).1 (headerFasta a2 sq).1 :=
  Sim.headerFasta_sim a1 a2 sq h l1 l2

/-- **`seebuf` is a byte-by-byte fold** over the bytes of the buffer (status, residue count, stop position, line number and the
    bytes/residues-per-line tracker): its batched bookkeeping (`lasteol`, `nres2`) equals the one-byte-at-a-time bookkeeping. -/
theorem seebuf_is_byte_fold (a : Ascii) (maxn : Option Nat) (hr : ∀ i, i < a.nc → ∃ x, a.bufGet i = some x) (hok : Fold.Track.Ok a.trk) :
    let mx := match maxn with | none => a.nc | some m => m
    let f := Fold.scanBytes a.inmap mx (Fold.bufList a a.bpos) ⟨a.trk, a.linenumber, 0⟩ a.bpos
    (seebuf a maxn).2.st = f.2.2 ∧ (seebuf a maxn).2.endpos = f.2.1 ∧ (seebuf a maxn).2.nres = f.1.nres ∧
    (seebuf a maxn).1.linenumber = f.1.ln ∧
    ((seebuf a maxn).2.st ≠ .eformat → (seebuf a maxn).2.st ≠ .fault → (seebuf a maxn).1.trk = f.1.trk) :=
  Fold.seebuf_fold a maxn hr hok

/-- **Where a buffer ends is invisible to the data scan**: folding over `l₁ ++ l₂` is folding over `l₁` and, unless that stopped or
    reached the residue limit, continuing over `l₂` with the state reached. (Composed with the buffer loop of `sqascii_Read` in
    `residue_loop_closed_form` / `read_all_block_size_independent` below.) -/
theorem buffer_cut_invisible (inmap : Bytes) (maxn : Nat) (l1 l2 : List UInt8) (s : Fold.SS) (k : Nat) :
    Fold.scanBytes inmap maxn (l1 ++ l2) s k =
      (if (Fold.scanBytes inmap maxn l1 s k).2.2 = .ok ∧ (Fold.scanBytes inmap maxn l1 s k).2.1 = k + l1.length then
         Fold.scanBytes inmap maxn l2 (Fold.scanBytes inmap maxn l1 s k).1 (k + l1.length)
       else Fold.scanBytes inmap maxn l1 s k) := Fold.scanBytes_append inmap maxn l1 l2 s k

/-- **The residue-counting loop of `sqascii_ReadInfo` is a fold over the file bytes from the cursor on** — for every block size:
    status (`eslEOD` at the next record / `eslEOF` at the end of the file / `eslEFORMAT` at an illegal byte), `sq->eoff`, and — unless
    an illegal byte was met — the residue count added to `L`, the line number and the line-geometry tracker are those of
    `DataScan.dataFold`, which does not mention `B`; at `eslEOD` the stop position is the fold's, inside the buffer. -/
theorem readinfo_loop_is_file_fold (fuel : Nat) (a : Ascii) (sq : Sq) (M : Nat) (h : Refine.WF a) (hok : Fold.Track.Ok a.trk)
    (hm : a.inmap.size = 128) (hM : (DataScan.fileFrom a).length ≤ M)
    (hfuel : (DataScan.fileFrom a).length + (if a.bpos < a.nc then 0 else 1) < fuel) :
    (scanLoop false fuel a sq).2.2.1 = DataScan.finalSt (DataScan.dataFold a M).2.2 ∧
    (scanLoop false fuel a sq).2.1 = { sq with eoff := Refine.pos a + ((DataScan.dataFold a M).2.1 : Int) - 1 } ∧
    ((DataScan.dataFold a M).2.2 ≠ .eformat →
       Refine.WF (scanLoop false fuel a sq).1 ∧
       Sim.payload (scanLoop false fuel a sq).1 =
         Sim.payload { a with L := a.L + ((DataScan.dataFold a M).1.nres : Int), linenumber := (DataScan.dataFold a M).1.ln,
                              trk := (DataScan.dataFold a M).1.trk } ∧
       ((DataScan.dataFold a M).2.2 = .eod →
          (scanLoop false fuel a sq).1.boff + ((scanLoop false fuel a sq).2.2.2 : Int) = Refine.pos a + ((DataScan.dataFold a M).2.1 : Int) ∧
          (scanLoop false fuel a sq).2.2.2 < (scanLoop false fuel a sq).1.nc) ∧
       ((DataScan.dataFold a M).2.2 = .ok →
          Sim.AtEof (scanLoop false fuel a sq).1 ∧ Refine.pos (scanLoop false fuel a sq).1 = (a.file.size : Int))) :=
  DataScan.scanLoop_info fuel a sq M h hok hm hM hfuel

/-- **`sqascii_ReadInfo` on a FASTA file is block-size independent — the whole call** (every file, every pair of block sizes
    `B₁, B₂ ≥ 1`): from similar handles it returns the same status and the same `ESL_SQ` (name, description, offsets, `L`), and when
    it succeeds the handles are similar again (same absolute position, line number, tracker), so the next call starts from similar
    handles. Composition of `header_fasta_block_size_independent`, `readinfo_loop_is_file_fold`, `end_fasta` and the final bookkeeping. -/
theorem readInfo_block_size_independent (a1 a2 : Ascii) (sq : Sq) (h : Sim.Sim a1 a2) (hf : a1.fmt = 1) (hm : a1.inmap.size = 128) :
    (readInfo a1 sq).2 = (readInfo a2 sq).2 ∧
    ((readInfo a1 sq).2.2 = .ok → Sim.Sim (readInfo a1 sq).1 (readInfo a2 sq).1) :=
  DataScan.readInfo_sim a1 a2 sq h hf hm

/-- the same from open: two handles on one FASTA file, nothing buffered, any two block sizes ⇒ the first `ReadInfo` agrees -/
theorem readInfo_after_open_block_size_independent (a1 a2 : Ascii) (sq : Sq) (h1 : Refine.Pre a1) (h2 : Refine.Pre a2)
    (hp : Sim.payload a1 = Sim.payload a2) (hf : a1.fpos = a2.fpos) (hfmt : a1.fmt = 1) (hm : a1.inmap.size = 128) :
    (readInfo (loadbuf a1).1 sq).2 = (readInfo (loadbuf a2).1 sq).2 := by
  have hr := Frame.loadbuf_payload a1
  have e1 : (loadbuf a1).1.fmt = a1.fmt := congrArg (fun p => p.2.2.2.2.2.2.1) hr
  have e2 : (loadbuf a1).1.inmap = a1.inmap := congrArg (fun p => p.2.2.2.2.1) hr
  exact (DataScan.readInfo_sim _ _ sq (Sim.loadbuf_sim a1 a2 h1 h2 hp hf).2 (e1.trans hfmt) (by rw [e2]; exact hm)).1

/-- non-vacuity of the hypotheses of `readInfo_block_size_independent`: `>a\nAC\n` as a text-mode FASTA file opened with B = 2 and B = 5 -/
example : Sim.Sim (loadbuf { file := #[62, 97, 10, 65, 67, 10], B := 2, inmap := inmapFasta 0, fmt := 1 }).1
                  (loadbuf { file := #[62, 97, 10, 65, 67, 10], B := 5, inmap := inmapFasta 0, fmt := 1 }).1 ∧
    (loadbuf { file := #[62, 97, 10, 65, 67, 10], B := 2, inmap := inmapFasta 0, fmt := 1 }).1.fmt = 1 ∧
    (loadbuf { file := #[62, 97, 10, 65, 67, 10], B := 2, inmap := inmapFasta 0, fmt := 1 }).1.inmap.size = 128 := by
  refine ⟨(Sim.loadbuf_sim { file := #[62, 97, 10, 65, 67, 10], B := 2, inmap := inmapFasta 0, fmt := 1 }
      { file := #[62, 97, 10, 65, 67, 10], B := 5, inmap := inmapFasta 0, fmt := 1 }
      ⟨rfl, by decide, by decide, by decide, by decide⟩ ⟨rfl, by decide, by decide, by decide, by decide⟩ rfl rfl).2, ?_, ?_⟩ <;>
    (rw [inmapFasta_text]; decide +kernel)

/-- non-vacuity of the simulation: the same 6-byte file opened with B = 2 and with B = 5 -/
example : Sim.Sim (loadbuf { file := #[62, 97, 10, 65, 67, 10], B := 2 }).1 (loadbuf { file := #[62, 97, 10, 65, 67, 10], B := 5 }).1 :=
  (Sim.loadbuf_sim { file := #[62, 97, 10, 65, 67, 10], B := 2 } { file := #[62, 97, 10, 65, 67, 10], B := 5 }
    ⟨rfl, by decide, by decide, by decide, by decide⟩ ⟨rfl, by decide, by decide, by decide, by decide⟩ rfl rfl).2

/-- non-vacuity: windows of W = 5, C = 2 over a 12-residue sequence: 1..5, 4..10, 9..12 (as the real reader returns) -/
example : fwdNext (fwdFirst 5) 2 5 5 = ⟨4, 10, 2, 7⟩ ∧ fwdNext ⟨4, 10, 2, 7⟩ 2 10 2 = ⟨9, 12, 2, 4⟩ := by decide
example : revInit 12 5 = (8, 12) ∧ revNext 12 2 5 8 = (2, 9, 3, 5) ∧ revNext 12 2 5 3 = (2, 4, 1, 2) := by decide


/-! ## Whole-reader refinement: `sqascii_Read` = the closed form `recL` / `parseFasta`, for every block size

`ReadSpec.recL inmap N sq l` is what one `sqascii_Read` returns when the cursor stands on the list `l` of remaining bytes of a FASTA
file of `N` bytes, written with `dropWhile` / `takeWhile` / `filter` only (`HeaderSpec.headerL`, `ReadSpec.bodyL`); it mentions neither
a buffer nor the block size. `ParseFasta.parseFasta` iterates it over the file. -/

open EaselModel.Sqio.Cursor EaselModel.Sqio.BodySpec EaselModel.Sqio.HeaderSpec EaselModel.Sqio.ReadSpec EaselModel.Sqio.ParseFasta in
/-- **The residue loop in closed form, for every `B ≥ 1`.** The `do { seebuf; [GrowTo; addbuf;] … } while (loadbuf == eslOK)`
    loop shared by `sqascii_Read`, `ReadSequence` (`store = true`) and `ReadInfo` (`store = false`), run from a handle whose cursor stands
    on the remaining file bytes `l`, consumes exactly `d = l.takeWhile isData`; ends with `eslEOF` when nothing follows, `eslEOD` on an
    end-of-data byte, `eslEFORMAT` (with a message) on any other byte; appends exactly the residues of `d` (`filter isRes`, mapped) when
    storing; sets `eoff` to the offset of the last consumed byte and `L += #residues`; never faults. -/
theorem residue_loop_closed_form (store : Bool) (fuel : Nat) (a : Ascii) (sq : Sq) (h : Cur a) (hm : a.inmap.size = 128)
    (hmap : store = true → MapOk a.inmap (mapOf a sq)) (hf : (DataScan.fileFrom a).length + 1 < fuel)
    (d r : List UInt8) (hd : d = (DataScan.fileFrom a).takeWhile (isData a.inmap)) (hr : r = (DataScan.fileFrom a).dropWhile (isData a.inmap)) :
    (r = [] → (scanLoop store fuel a sq).2.2.1 = .eof ∧
       (scanLoop store fuel a sq).2.1 = { stored store a.inmap (mapOf a sq) sq d with eoff := Refine.pos a + (d.length : Int) - 1 } ∧
       Cur (scanLoop store fuel a sq).1 ∧ DataScan.fileFrom (scanLoop store fuel a sq).1 = [] ∧
       stat (scanLoop store fuel a sq).1 = stat a ∧ (scanLoop store fuel a sq).1.L = a.L + (nresOf a.inmap d : Int)) ∧
    (∀ c t, r = c :: t → isEod a.inmap c = true → (scanLoop store fuel a sq).2.2.1 = .eod ∧
       (scanLoop store fuel a sq).2.1 = { stored store a.inmap (mapOf a sq) sq d with eoff := Refine.pos a + (d.length : Int) - 1 } ∧
       (∃ b, Refine.WF { (scanLoop store fuel a sq).1 with bpos := b }) ∧ Fold.Track.Ok (scanLoop store fuel a sq).1.trk ∧
       stat (scanLoop store fuel a sq).1 = stat a ∧ (scanLoop store fuel a sq).1.L = a.L + (nresOf a.inmap d : Int) ∧
       (scanLoop store fuel a sq).1.boff + ((scanLoop store fuel a sq).2.2.2 : Int) = Refine.pos a + (d.length : Int) ∧
       (scanLoop store fuel a sq).2.2.2 < (scanLoop store fuel a sq).1.nc) ∧
    (∀ c t, r = c :: t → isEod a.inmap c = false → (scanLoop store fuel a sq).2.2.1 = .eformat ∧
       (scanLoop store fuel a sq).1.haveErr = true) :=
  scanLoop_spec store fuel a sq h hm hmap hf d r hd hr

open EaselModel.Sqio.Cursor EaselModel.Sqio.HeaderSpec in
/-- **`header_fasta` in closed form, for every `B ≥ 1`**: status, name, description, `roff` / `hoff` / `doff`, allocation growth
    are those of `headerL` — a composition of `dropWhile` / `takeWhile` on the remaining file bytes, offsets being
    `file size − bytes remaining` — and the cursor is left on the bytes `headerL` says. -/
theorem header_fasta_closed_form (a : Ascii) (sq : Sq) (h : Cur a) (hl : Sim.Live a) (hn : 2 ≤ sq.nalloc) (hd : 2 ≤ sq.dalloc) :
    (headerFasta a sq).2 = ((headerL a.file.size sq (DataScan.fileFrom a)).2.1, (headerL a.file.size sq (DataScan.fileFrom a)).1) ∧
    ((headerL a.file.size sq (DataScan.fileFrom a)).1 = .ok → Cur (headerFasta a sq).1 ∧
       DataScan.fileFrom (headerFasta a sq).1 = (headerL a.file.size sq (DataScan.fileFrom a)).2.2 ∧ stat (headerFasta a sq).1 = stat a) ∧
    ((headerL a.file.size sq (DataScan.fileFrom a)).1 = .eformat → (headerFasta a sq).1.haveErr = true) ∧
    ((headerL a.file.size sq (DataScan.fileFrom a)).1 = .eof → Cur (headerFasta a sq).1 ∧ DataScan.fileFrom (headerFasta a sq).1 = [] ∧
       stat (headerFasta a sq).1 = stat a) :=
  headerFasta_spec a sq h hl hn hd

open EaselModel.Sqio.Cursor EaselModel.Sqio.ReadSpec in
/-- **One `sqascii_Read` = `recL` on the remaining file bytes, for every `B ≥ 1`**: same status; on `eslOK` the same `ESL_SQ`
    (every field) and the cursor on the bytes that `recL` leaves; `eslEFORMAT` comes with a message. -/
theorem read_one_record_closed_form (a : Ascii) (sq : Sq) (R : Ready a sq) :
    (read a sq).2.2 = (recL a.inmap a.file.size sq (DataScan.fileFrom a)).1 ∧
    ((recL a.inmap a.file.size sq (DataScan.fileFrom a)).1 = .ok →
      (read a sq).2.1 = (recL a.inmap a.file.size sq (DataScan.fileFrom a)).2.1 ∧ Cur (read a sq).1 ∧
      DataScan.fileFrom (read a sq).1 = (recL a.inmap a.file.size sq (DataScan.fileFrom a)).2.2 ∧ stat (read a sq).1 = stat a) ∧
    ((recL a.inmap a.file.size sq (DataScan.fileFrom a)).1 = .eformat → (read a sq).1.haveErr = true) ∧
    ((recL a.inmap a.file.size sq (DataScan.fileFrom a)).1 = .eof → Cur (read a sq).1 ∧ DataScan.fileFrom (read a sq).1 = [] ∧
      stat (read a sq).1 = stat a) :=
  read_spec a sq R

open EaselModel.Sqio.ParseFasta in
/-- the handle the theorems start from is the one `esl_sqfile_Open` / `OpenDigital` yields (the driver's `openModel`, which is run
    against the real `esl_sqfile_Open*` on every case) -/
theorem open_is_openFasta (bytes : Bytes) (B abc : Nat) (hne : 0 < bytes.size) (hB : 1 ≤ B) :
    openModel bytes "fa" 1 abc B = some (openFasta bytes B abc, .ok) := openModel_fasta bytes B abc hne hB

open EaselModel.Sqio.ParseFasta in
/-- **The whole-reader refinement: `Read` loop = `parseFasta` for EVERY byte string and EVERY block size `B ≥ 1`.**
    Reading all records (`while (esl_sqio_Read(sqfp, sq) == eslOK) { …; esl_sq_Reuse(sq); }`) from open on returns exactly the records
    — every `ESL_SQ` field: name, description, residues, `roff` / `hoff` / `doff` / `eoff`, `L`, coordinates, allocations — and the final
    status (`eslEOF` / `eslEFORMAT`) of `parseFasta abc bytes`, a function of the bytes alone. Text mode (`abc = 0`) and DNA / RNA /
    amino digital mode. -/
theorem read_all_eq_parseFasta (bytes : Bytes) (B abc : Nat) (hB : 1 ≤ B) (habc : abc ∈ [0, 1, 2, 3]) :
    readAllM (bytes.size + 2) (openFasta bytes B abc) (freshSq abc) = parseFasta abc bytes :=
  ParseFasta.read_all_eq_parseFasta bytes B abc hB habc

open EaselModel.Sqio.ParseFasta in
/-- **Block-size independence of the whole reader**: any two block sizes give the same
    records and the same final status, for every byte string. -/
theorem read_all_block_size_independent (bytes : Bytes) (B1 B2 abc : Nat) (h1 : 1 ≤ B1) (h2 : 1 ≤ B2) (habc : abc ∈ [0, 1, 2, 3]) :
    readAllM (bytes.size + 2) (openFasta bytes B1 abc) (freshSq abc) = readAllM (bytes.size + 2) (openFasta bytes B2 abc) (freshSq abc) :=
  ParseFasta.read_all_block_size_independent bytes B1 B2 abc h1 h2 habc

open EaselModel.Sqio.ParseFasta EaselModel.Sqio.SpecFasta in
/-- **The whole reader = the declarative parser `specFasta`, for EVERY byte string and EVERY block size `B ≥ 1`.** `specFasta abc bytes`
    (`Sqio/SpecFasta.lean`, 30 lines: `dropWhile` / `takeWhile` / `filter` on the list of file bytes, offsets = `size − bytes remaining`)
    returns `List Record × Status`; a `Record` is name, description, residues, `roff`, `hoff`, `doff`, `eoff`, `L`. Reading with
    `sqascii_Read` from `esl_sqfile_Open` on until the first non-`eslOK` status returns exactly these records and this final status. -/
theorem read_all_eq_specFasta (bytes : Bytes) (B abc : Nat) (hB : 1 ≤ B) (habc : abc ∈ [0, 1, 2, 3]) :
    ((readAllM (bytes.size + 2) (openFasta bytes B abc) (freshSq abc)).1.map toRecord,
     (readAllM (bytes.size + 2) (openFasta bytes B abc) (freshSq abc)).2) = specFasta abc bytes.toList :=
  SpecFasta.read_all_eq_specFasta bytes B abc hB habc

open EaselModel.Sqio.SpecFasta in
/-- sanity of `specFasta` on a CRLF file with a blank-led header and an empty record (`" >a  d1\r\nAC GT\r\nAC\r\n\r\n>b\r\n>c x\r\nacgtn*\r\n"`,
    text mode): three records, the offsets are the true byte positions (`hoff` on the `\r`, `doff` on the first data byte, `eoff` on the
    last `\n` before the next `>`) -/
example :
    let r := specFasta 0 [32, 62, 97, 32, 32, 100, 49, 13, 10, 65, 67, 32, 71, 84, 13, 10, 65, 67, 13, 10, 13, 10, 62, 98, 13, 10, 62, 99,
                          32, 120, 13, 10, 97, 99, 103, 116, 110, 42, 13, 10]
    r.1.map (·.name) = [[97], [98], [99]] ∧ r.1.map (·.desc) = [[100, 49], [], [120]] ∧
    r.1.map (·.seq) = [[65, 67, 71, 84, 65, 67], [], [97, 99, 103, 116, 110, 42]] ∧
    r.1.map (·.roff) = [1, 22, 26] ∧ r.1.map (·.hoff) = [7, 24, 30] ∧ r.1.map (·.doff) = [9, 26, 32] ∧ r.1.map (·.eoff) = [21, 25, 39] ∧
    r.1.map (·.L) = [6, 0, 6] ∧ r.2 = Status.eof := by
  rw [specFasta, inmapFasta_text]; decide +kernel

open EaselModel.Sqio.Cursor EaselModel.Sqio.ReadSpec EaselModel.Sqio.InfoSeqSpec in
/-- **`sqascii_ReadInfo` = `infoL` on the remaining file bytes, for every `B ≥ 1`** (the closed form of the info-only call) -/
theorem readInfo_closed_form (a : Ascii) (sq : Sq) (R : Ready a sq) (hsa : 2 ≤ sq.salloc) :
    (readInfo a sq).2.2 = (infoL a.inmap a.file.size sq (DataScan.fileFrom a)).1 ∧
    ((infoL a.inmap a.file.size sq (DataScan.fileFrom a)).1 = .ok →
      (readInfo a sq).2.1 = (infoL a.inmap a.file.size sq (DataScan.fileFrom a)).2.1 ∧ Cur (readInfo a sq).1 ∧
      DataScan.fileFrom (readInfo a sq).1 = (infoL a.inmap a.file.size sq (DataScan.fileFrom a)).2.2 ∧ stat (readInfo a sq).1 = stat a) ∧
    ((infoL a.inmap a.file.size sq (DataScan.fileFrom a)).1 = .eformat → (readInfo a sq).1.haveErr = true) ∧
    ((infoL a.inmap a.file.size sq (DataScan.fileFrom a)).1 = .eof → Cur (readInfo a sq).1 ∧ DataScan.fileFrom (readInfo a sq).1 = [] ∧
      stat (readInfo a sq).1 = stat a) :=
  readInfo_spec a sq R hsa

open EaselModel.Sqio.Cursor EaselModel.Sqio.ReadSpec EaselModel.Sqio.InfoSeqSpec in
/-- **`sqascii_ReadSequence` = `seqL` on the remaining file bytes, for every `B ≥ 1`** (`skip_fasta` + the residue loop) -/
theorem readSequence_closed_form (a : Ascii) (sq : Sq) (R : Ready a sq) :
    (readSequence a sq).2.2 = (seqL a.inmap a.file.size sq (DataScan.fileFrom a)).1 ∧
    ((seqL a.inmap a.file.size sq (DataScan.fileFrom a)).1 = .ok →
      (readSequence a sq).2.1 = (seqL a.inmap a.file.size sq (DataScan.fileFrom a)).2.1 ∧ Cur (readSequence a sq).1 ∧
      DataScan.fileFrom (readSequence a sq).1 = (seqL a.inmap a.file.size sq (DataScan.fileFrom a)).2.2 ∧ stat (readSequence a sq).1 = stat a) ∧
    ((seqL a.inmap a.file.size sq (DataScan.fileFrom a)).1 = .eformat → (readSequence a sq).1.haveErr = true) ∧
    ((seqL a.inmap a.file.size sq (DataScan.fileFrom a)).1 = .eof → Cur (readSequence a sq).1 ∧ DataScan.fileFrom (readSequence a sq).1 = [] ∧
      stat (readSequence a sq).1 = stat a) :=
  readSequence_spec a sq R

open EaselModel.Sqio.ReadSpec in
/-- **`Read`, `ReadInfo`, `ReadSequence` agree field by field, for every file, cursor position and block size**:
    whenever the whole-record read succeeds from a ready handle, the info-only and the sequence-only read
    succeed, all three stop on the same file byte, `ReadInfo` reports the same name, description, `roff` / `hoff` / `doff` / `eoff` and
    `L` = the number of residues `Read` stored, and `ReadSequence` the same residues, `roff` / `doff` / `eoff`, `L` and coordinates. -/
theorem read_readInfo_readSequence_agree (a : Ascii) (sq : Sq) (R : Ready a sq) (hs : sq.seq = #[]) (hsa : 2 ≤ sq.salloc)
    (hok : (read a sq).2.2 = .ok) :
    (readInfo a sq).2.2 = .ok ∧ (readSequence a sq).2.2 = .ok ∧
    DataScan.fileFrom (readInfo a sq).1 = DataScan.fileFrom (read a sq).1 ∧
    DataScan.fileFrom (readSequence a sq).1 = DataScan.fileFrom (read a sq).1 ∧
    (readInfo a sq).2.1.name = (read a sq).2.1.name ∧ (readInfo a sq).2.1.desc = (read a sq).2.1.desc ∧
    (readInfo a sq).2.1.roff = (read a sq).2.1.roff ∧ (readInfo a sq).2.1.hoff = (read a sq).2.1.hoff ∧
    (readInfo a sq).2.1.doff = (read a sq).2.1.doff ∧ (readInfo a sq).2.1.eoff = (read a sq).2.1.eoff ∧
    (readInfo a sq).2.1.L = (read a sq).2.1.L ∧ (readInfo a sq).2.1.L = ((read a sq).2.1.seq.size : Int) ∧
    (readSequence a sq).2.1.seq = (read a sq).2.1.seq ∧ (readSequence a sq).2.1.roff = (read a sq).2.1.roff ∧
    (readSequence a sq).2.1.doff = (read a sq).2.1.doff ∧ (readSequence a sq).2.1.eoff = (read a sq).2.1.eoff ∧
    (readSequence a sq).2.1.L = (read a sq).2.1.L ∧ (readSequence a sq).2.1.start = (read a sq).2.1.start ∧
    (readSequence a sq).2.1.end_ = (read a sq).2.1.end_ :=
  Totality.three_calls_agree a sq R hs hsa hok

open EaselModel.Sqio.ParseFasta EaselModel.Sqio.ReadSpec in
/-- non-vacuity of `Ready`: the handle right after opening any file with any `B ≥ 1` in any of the four modes is ready -/
example (bytes : Bytes) (B abc : Nat) (hB : 1 ≤ B) (habc : abc ∈ [0, 1, 2, 3]) : Ready (openFasta bytes B abc) (freshSq abc).reuse :=
  (openFasta_ready bytes B abc hB habc).1

open EaselModel.Sqio.ParseFasta in
/-- non-vacuity / sanity of the closed form: `>a b c\nAC\nG T\n>x\n` (text mode) parses into two records — name `a`, description
    `b c`, residues `ACGT`, `roff = 0`, `hoff = 6`, `doff = 7`, `eoff = 13`, `L = 4`; then name `x`, empty, `roff = 14`, `doff = 17`, `eoff = 16` -/
example :
    let r := parseFasta 0 #[62, 97, 32, 98, 32, 99, 10, 65, 67, 10, 71, 32, 84, 10, 62, 120, 10]
    r.1.map (·.name) = [#[97], #[120]] ∧ r.1.map (·.desc) = [#[98, 32, 99], #[]] ∧ r.1.map (·.seq) = [#[65, 67, 71, 84], #[]] ∧
    r.1.map (·.roff) = [0, 14] ∧ r.1.map (·.hoff) = [6, 16] ∧ r.1.map (·.doff) = [7, 17] ∧ r.1.map (·.eoff) = [13, 16] ∧
    r.1.map (·.L) = [4, 0] ∧ r.2 = Status.eof := by
  rw [parseFasta, inmapFasta_text]; decide +kernel


/-! ## Forward windows deliver the residues of `Read`: `sqascii_ReadWindow` = the declarative window series, for every block size

`WindowSpec.readNres_zero_out` with `Out.done`: `read_nres(sqfp, sq, 0, W)` in closed form on the remaining file bytes (`splitRes`: the shortest prefix
holding `W` residues), for every `B ≥ 1` — through `seebuf(maxn)`, `addbuf`, `loadbuf` at every block boundary, a window ending exactly at
a block end included. `WindowSeries.windows_eq_read` composes it with `header_fasta`, the context slide (`memmove`), `end_fasta`. -/

open EaselModel.Sqio.Cursor EaselModel.Sqio.ReadSpec EaselModel.Sqio.WindowSeries EaselModel.Sqio.WinSpecPure in
/-- **`ReadWindow` series = `specWindows` of the residues `Read` returns.** For every file, cursor position, block size `B ≥ 1`, text or
    digital mode and every request stream `(C_k ≥ 0, W_k ≥ 1)` (context and width may change from call to call): if the whole-record read
    succeeds with residues `R`, the loop `while (esl_sqio_ReadWindow(sqfp, C_k, W_k, sq) == eslOK)` on the same handle returns exactly
    the declarative windows of `R` (`Sqio/WinSpecPure.lean`: context = the `min C_k (previous window size)` preceding residues, `min W_k
    (residues left)` new ones, `start = d − c + 1`, `end = d + w`, residues `R[start..end]`; `F` = any loop bound ≥ `|R| + 2`), then `eslEOD` with `L = |R|` and an empty
    window, reports the same name / accession / description / `roff` / `hoff` / `doff` (`hdrOf`: also mode and string allocations), and
    leaves the cursor on the byte where `Read` leaves it (so the next record starts identically for both: `windows_then_ready`). -/
theorem windows_eq_read (a : Ascii) (sq : Sq) (R : Ready a sq) (hs : sq.seq = #[]) (hst : sq.start = 0)
    (hok : (read a sq).2.2 = .ok) (req : Nat → Int × Int) (hreq : ∀ k, 0 ≤ (req k).1 ∧ 1 ≤ (req k).2)
    (F : Nat) (hF : (read a sq).2.1.seq.size + 2 ≤ F) :
    (readWindowsM req F 0 a sq).1.map toWin =
      specWindows (read a sq).2.1.seq req F 0 0 0 ∧
    (readWindowsM req F 0 a sq).2.2.2 = .eod ∧
    (readWindowsM req F 0 a sq).2.2.1.seq = #[] ∧
    (readWindowsM req F 0 a sq).2.2.1.L = (read a sq).2.1.L ∧
    (readWindowsM req F 0 a sq).2.2.1.start = 0 ∧
    hdrOf (readWindowsM req F 0 a sq).2.2.1 = hdrOf (read a sq).2.1 ∧
    Cur (readWindowsM req F 0 a sq).2.1 ∧
    DataScan.fileFrom (readWindowsM req F 0 a sq).2.1 = DataScan.fileFrom (read a sq).1 ∧
    stat (readWindowsM req F 0 a sq).2.1 = stat a :=
  WindowSeries.windows_eq_read a sq R hs hst hok req hreq F hF

open EaselModel.Sqio.ReadSpec EaselModel.Sqio.WindowSeries in
/-- **the window loop composes over the records of a file**: after the `eslEOD` that ends a record's window series, the handle and the
    `ESL_SQ` are ready for the next record exactly as after `sqascii_Read` + `esl_sq_Reuse` — `Ready` again, cursor on the same byte,
    `start = 0`, no residues — so `windows_eq_read` applies to the next record, and so on through the file -/
theorem windows_then_ready (a : Ascii) (sq : Sq) (R : Ready a sq) (hs : sq.seq = #[]) (hst : sq.start = 0)
    (hok : (read a sq).2.2 = .ok) (req : Nat → Int × Int) (hreq : ∀ k, 0 ≤ (req k).1 ∧ 1 ≤ (req k).2)
    (F : Nat) (hF : (read a sq).2.1.seq.size + 2 ≤ F) :
    Ready (readWindowsM req F 0 a sq).2.1 (readWindowsM req F 0 a sq).2.2.1 ∧
    (readWindowsM req F 0 a sq).2.2.1.seq = #[] ∧
    (readWindowsM req F 0 a sq).2.2.1.start = 0 ∧
    DataScan.fileFrom (readWindowsM req F 0 a sq).2.1 = DataScan.fileFrom (read a sq).1 :=
  WindowSeries.windows_then_ready a sq R hs hst hok req hreq F hF

open EaselModel.Sqio.ReadSpec EaselModel.Sqio.WindowSeries EaselModel.Sqio.WinSpecPure in
/-- **`windows_concat_eq_read`**: the new (non-context) parts of the windows, concatenated in call order, are exactly the residue array
    of the whole-record read — `ReadWindow` and `Read` deliver the same residues, for every block size and window geometry. -/
theorem windows_concat_eq_read (a : Ascii) (sq : Sq) (R : Ready a sq) (hs : sq.seq = #[]) (hst : sq.start = 0)
    (hok : (read a sq).2.2 = .ok) (req : Nat → Int × Int) (hreq : ∀ k, 0 ≤ (req k).1 ∧ 1 ≤ (req k).2) :
    ((readWindowsM req ((read a sq).2.1.seq.size + 2) 0 a sq).1.map toWin).foldl (fun acc x => acc ++ newPart x) #[] =
      (read a sq).2.1.seq :=
  WindowSeries.windows_concat_eq_read a sq R hs hst hok req hreq

open EaselModel.Sqio.ReadSpec EaselModel.Sqio.WindowSeries EaselModel.Sqio.WinSpecPure in
/-- every window is `[start .. end]` (1-based, inside `1..L`) and holds exactly `C + W = end − start + 1` residues -/
theorem windows_coords (a : Ascii) (sq : Sq) (R : Ready a sq) (hs : sq.seq = #[]) (hst : sq.start = 0)
    (hok : (read a sq).2.2 = .ok) (req : Nat → Int × Int) (hreq : ∀ k, 0 ≤ (req k).1 ∧ 1 ≤ (req k).2) :
    ∀ x ∈ (readWindowsM req ((read a sq).2.1.seq.size + 2) 0 a sq).1.map toWin,
      x.end_ - x.start + 1 = x.C + x.W ∧ (x.seq.size : Int) = x.C + x.W ∧ 1 ≤ x.start ∧
      x.end_ ≤ ((read a sq).2.1.seq.size : Int) ∧ 0 ≤ x.C :=
  WindowSeries.windows_coords a sq R hs hst hok req hreq

open EaselModel.Sqio.Cursor EaselModel.Sqio.BodySpec EaselModel.Sqio.WindowSpec in
/-- **`read_nres(sqfp, sq, 0, W)` in closed form, for every `B ≥ 1`** (the residue reader of `ReadWindow` / `FetchSubseq`): on clean data
    (the record's data ends at the end of the file or at `>`), from any well-formed handle — the cursor may even stand at the very end of a
    block — it appends exactly the residues of `splitRes … W` (the shortest prefix of the remaining bytes holding `W` residues, or all
    data bytes if fewer), reports their number, `eslEOD` iff there is none, and leaves the cursor right behind the bytes consumed. -/
theorem read_nres_closed_form (a : Ascii) (sq : Sq) (W : Nat) (hW : 1 ≤ W) (w : Refine.WF a) (tok : Fold.Track.Ok a.trk) (hm : a.inmap.size = 128)
    (heof : a.eofIsOk = true) (hmap : MapOk a.inmap (mapOf a sq)) (hclean : Clean a.inmap (DataScan.fileFrom a))
    (hcap : sq.seq.size + W + (if sq.digital then 2 else 1) ≤ sq.salloc) :
    (readNres a sq 0 W).2.1 = { sq with seq := sq.seq ++ resOf a.inmap (mapOf a sq) (splitRes a.inmap (DataScan.fileFrom a) W).1 } ∧
    (readNres a sq 0 W).2.2.2 = nresOf a.inmap (splitRes a.inmap (DataScan.fileFrom a) W).1 ∧
    (readNres a sq 0 W).2.2.1 = (if nresOf a.inmap (splitRes a.inmap (DataScan.fileFrom a) W).1 = 0 then .eod else .ok) ∧
    Refine.WF (readNres a sq 0 W).1 ∧ DataScan.fileFrom (readNres a sq 0 W).1 = (splitRes a.inmap (DataScan.fileFrom a) W).2 ∧
    stat (readNres a sq 0 W).1 = stat a := by
  obtain ⟨o, kp⟩ := WindowSpec.readNres_zero_out a sq W w tok hm hmap hcap
  have d := o.done heof hclean
  exact ⟨d.sq_eq, by rw [d.act, Nat.zero_add], by rw [d.st, Nat.zero_add], o.wf, d.ff, keep_stat kp⟩

open EaselModel.Sqio.ParseFasta EaselModel.Sqio.WindowSeries EaselModel.Sqio.WinSpecPure in
/-- non-vacuity, on the executable model: `>a\nAC\nGT\n>b\n` opened with B = 2 (text mode), windows requested with `C = 1, W = 3`:
    `[1..3] = ACG` (no context), then `[3..4] = GT` with one residue of context, then `eslEOD` with `L = 4` — and the whole-record read of
    the same handle returns `ACGT` -/
example :
    let a := openFasta #[62, 97, 10, 65, 67, 10, 71, 84, 10, 62, 98, 10] 2 0
    let r := readWindowsM (fun _ => (1, 3)) 6 0 a (freshSq 0).reuse
    r.1.map toWin = [⟨1, 3, 0, 3, #[65, 67, 71]⟩, ⟨3, 4, 1, 1, #[71, 84]⟩] ∧ r.2.2.2 = Status.eod ∧ r.2.2.1.L = 4 ∧
    (read a (freshSq 0).reuse).2.1.seq = #[65, 67, 71, 84] ∧ (read a (freshSq 0).reuse).2.2 = Status.ok := by
  rw [ParseFasta.openFasta, inmapFasta_text]; decide +kernel


open EaselModel.Sqio.ParseFasta EaselModel.Sqio.SpecFasta EaselModel.Sqio.FileWindows EaselModel.Sqio.WinSpecPure in
/-- **Windows over a whole file = the declarative windows of the declarative records, from `esl_sqfile_Open` on.** For every byte string
    whose records all parse (`specFasta` ends with `eslEOF`), every mode, every read-block size `B ≥ 1` and every request stream
    `(C_k ≥ 0, W_k ≥ 1)` (restarted at every record): the client loop "for each record: `while (esl_sqio_ReadWindow(...) == eslOK)`, until
    `eslEOF`" (`readFileWindowsM`) returns, record by record, exactly `specWindows` of the residues of the records of `specFasta` — the
    same residues, tiling, context and coordinates that `Read` + slicing would give — and ends with `eslEOF`. -/
theorem file_windows_eq_specFasta (bytes : Bytes) (B abc : Nat) (hB : 1 ≤ B) (habc : abc ∈ [0, 1, 2, 3])
    (req : Nat → Int × Int) (hreq : ∀ k, 0 ≤ (req k).1 ∧ 1 ≤ (req k).2) (hclean : (specFasta abc bytes.toList).2 = .eof) :
    (readFileWindowsM req (bytes.size + 2) (openFasta bytes B abc) (freshSq abc).reuse).1.map (fun ws => ws.map toWin) =
      (specFasta abc bytes.toList).1.map (fun r => specWindows r.seq.toArray req (bytes.size + 2) 0 0 0) ∧
    (readFileWindowsM req (bytes.size + 2) (openFasta bytes B abc) (freshSq abc).reuse).2 = .eof :=
  FileWindows.file_windows_from_open bytes B abc hB habc req hreq hclean

open EaselModel.Sqio.BlockSpec EaselModel.Sqio.SpecFasta in
/-- **`ReadBlock` (not `long_target`) delivers the records of `Read`, for every block size `B ≥ 1`.** From a ready handle and a block whose
    slots are as `esl_sq_Reuse` leaves them (each slot with its own allocations): slot `k` holds — name, description, residues, `roff` /
    `hoff` / `doff` / `eoff`, `L` — the `k`-th record of `specBlock` (records of the declarative `specOne` while fewer than `max_sequences`
    records and fewer than `MAX_RESIDUE_COUNT` residues were taken), `count` says how many, these records are a prefix of what a `Read`
    loop yields from the same cursor (`specAll` = the loop of `specFasta`); the status is `eslOK` when at least one record was read,
    else the reader's `eslEOF` / `eslEFORMAT`; never `fault`. -/
theorem readBlock_short_eq_read (dig : Bool) (abc : Nat) (a : Ascii) (b : Block) (maxRes maxSeq : Int) (maxInit : Bool)
    (H : HReady a (if dig then abcInmap abc else a.inmap)) (hls : b.listSize ≤ b.list.size)
    (hslot : ∀ j, j < blockMaxSeq b maxSeq → SlotOk dig abc (b.list.getD j {})) :
    (readBlock a b maxRes maxSeq maxInit false).2.2 =
      (if (specBlock a.inmap (if dig then abcInmap abc else a.inmap) a.file.size (fuelOf a) 0 0 (blockMaxSeq b maxSeq) .ok (DataScan.fileFrom a)).2.1 == .eof &&
          (specBlock a.inmap (if dig then abcInmap abc else a.inmap) a.file.size (fuelOf a) 0 0 (blockMaxSeq b maxSeq) .ok (DataScan.fileFrom a)).1.length > 0
       then .ok
       else (specBlock a.inmap (if dig then abcInmap abc else a.inmap) a.file.size (fuelOf a) 0 0 (blockMaxSeq b maxSeq) .ok (DataScan.fileFrom a)).2.1) ∧
    (readBlock a b maxRes maxSeq maxInit false).2.1.count =
      (specBlock a.inmap (if dig then abcInmap abc else a.inmap) a.file.size (fuelOf a) 0 0 (blockMaxSeq b maxSeq) .ok (DataScan.fileFrom a)).1.length ∧
    (∀ k r, (specBlock a.inmap (if dig then abcInmap abc else a.inmap) a.file.size (fuelOf a) 0 0 (blockMaxSeq b maxSeq) .ok (DataScan.fileFrom a)).1[k]? = some r →
      toRecord ((readBlock a b maxRes maxSeq maxInit false).2.1.list.getD k {}) = r) ∧
    (readBlock a b maxRes maxSeq maxInit false).2.1.complete = true ∧
    (readBlock a b maxRes maxSeq maxInit false).2.2 ≠ .fault ∧
    (specBlock a.inmap (if dig then abcInmap abc else a.inmap) a.file.size (fuelOf a) 0 0 (blockMaxSeq b maxSeq) .ok (DataScan.fileFrom a)).1 <+:
      (specAll a.inmap (if dig then abcInmap abc else a.inmap) a.file.size (fuelOf a) (DataScan.fileFrom a)).1 :=
  BlockSpec.readBlock_short_spec dig abc a b maxRes maxSeq maxInit H hls hslot

open EaselModel.Sqio.ParseFasta EaselModel.Sqio.SpecFasta in
/-- non-vacuity, on the executable model: `>a\nAC\nGT\n>b\nG\n>c\nT\n` (B = 3, text mode), a block of two slots: two records (`a` =
    `ACGT`, `b` = `G`), status `eslOK`; the next call delivers `c` -/
example :
    let a := openFasta #[62, 97, 10, 65, 67, 10, 71, 84, 10, 62, 98, 10, 71, 10, 62, 99, 10, 84, 10] 3 0
    let b : Block := { listSize := 2, list := #[freshSq 0, freshSq 0] }
    let r := readBlock a b (-1) (-1) false false
    r.2.2 = Status.ok ∧ r.2.1.count = 2 ∧ (r.2.1.list.toList.map (fun s => (toRecord s).name)) = [[97], [98]] ∧
    (r.2.1.list.toList.map (fun s => (toRecord s).seq)) = [[65, 67, 71, 84], [71]] := by
  rw [ParseFasta.openFasta, inmapFasta_text]; decide +kernel


open EaselModel.Sqio.RoundTrip EaselModel.Sqio.SpecFasta in
/-- **Writing records out as FASTA and re-reading reproduces them (text mode), for every block size.** For every list of writable records
    (`Good`: non-empty name without white space; description without end-of-line / ctrl-A bytes, not starting with a blank; residues the
    FASTA input map accepts): the text `allText rs` (= the concatenation of what `esl_sqascii_WriteFasta` writes, `writeFasta_is_fastaText`)
    is parsed by `specFasta 0` — which by `read_all_eq_specFasta` is what `sqascii_Read` returns for every `B ≥ 1` — into exactly these
    names, descriptions and residues (`expected`: plus the offsets of the 60-column layout and `L`), followed by `eslEOF`. -/
theorem write_read_roundtrip (rs : List (List UInt8 × List UInt8 × List UInt8)) (hg : ∀ r ∈ rs, Good (inmapFasta 0) r) :
    specFasta 0 (allText rs) = (expected (inmapFasta 0) (allText rs).length rs, .eof) ∧
    (expected (inmapFasta 0) (allText rs).length rs).map (fun x => (x.name, x.desc, x.seq)) = rs := by
  exact ⟨specFasta_allText rs hg, expected_fields_text rs hg _⟩

open EaselModel.Sqio.RoundTrip EaselModel.Sqio.SpecFasta EaselModel.Sqio.HeaderSpec in
/-- **Write + re-read in digital mode (DNA / RNA / amino), for every block size**: records whose residues are codes of the alphabet other
    than the gap code are written as symbols (`textize`, what `esl_sqascii_WriteFasta` prints: `writeFasta_is_fastaText_digital`) and
    `specFasta abc` — the reader in the same digital mode, for every `B ≥ 1` — returns the same names, descriptions and CODES. (The gap
    code is excluded because the reader does not accept `-` as a residue; a record that came from a FASTA file never holds one.) -/
theorem write_read_roundtrip_digital (abc : Nat) (habc : abc ∈ [1, 2, 3]) (rs : List (List UInt8 × List UInt8 × List UInt8))
    (hn : ∀ r ∈ rs, r.1 ≠ [] ∧ (∀ c ∈ r.1, isSpace c = false) ∧ (∀ c ∈ r.2.1, pDesc c = true) ∧
      (∀ c t, r.2.1 = c :: t → isBlankTab c = false) ∧ ∀ x ∈ r.2.2, CodeOk abc x) :
    specFasta abc (allText (rs.map fun r => (r.1, r.2.1, textize abc r.2.2))) =
      (expected (abcInmap abc) (allText (rs.map fun r => (r.1, r.2.1, textize abc r.2.2))).length
         (rs.map fun r => (r.1, r.2.1, textize abc r.2.2)), .eof) ∧
    (expected (abcInmap abc) (allText (rs.map fun r => (r.1, r.2.1, textize abc r.2.2))).length
       (rs.map fun r => (r.1, r.2.1, textize abc r.2.2))).map (fun x => (x.name, x.desc, x.seq)) = rs :=
  RoundTrip.specFasta_allText_digital abc habc rs hn

open EaselModel.Sqio.RoundTrip in
theorem writeFasta_is_fastaText_digital (sq : Sq) (hd : sq.digital = true) (ha : cstr sq.acc = #[]) (hn : cstr sq.name = sq.name)
    (hds : cstr sq.desc = sq.desc) : writeFasta sq = fastaText sq.name.toList sq.desc.toList (textize sq.abc sq.seq.toList) :=
  RoundTrip.writeFasta_digital sq hd ha hn hds

open EaselModel.Sqio.RoundTrip in
/-- `allText` is made of what the model of `esl_sqascii_WriteFasta` writes (text mode, no accession, strings without NUL) -/
theorem writeFasta_is_fastaText (sq : Sq) (hd : sq.digital = false) (ha : cstr sq.acc = #[]) (hn : cstr sq.name = sq.name)
    (hds : cstr sq.desc = sq.desc) : writeFasta sq = fastaText sq.name.toList sq.desc.toList sq.seq.toList :=
  RoundTrip.writeFasta_text sq hd ha hn hds

open EaselModel.Sqio.RoundTrip EaselModel.Sqio.SpecFasta in
/-- non-vacuity: two writable records (`a` / `x y` / 61 residues — two data lines — and `b` / no description / no residues) -/
example : Good (inmapFasta 0) ([97], [120, 32, 121], List.replicate 61 65) ∧ Good (inmapFasta 0) ([98], [], []) := by
  rw [inmapFasta_text]
  refine ⟨⟨by decide, by decide, by decide, ?_, ?_⟩, ⟨by decide, by decide, by decide, ?_, by decide⟩⟩
  · intro c t h; have := (List.cons.inj h).1; rw [← this]; decide
  · intro c hc
    have : c = 65 := by simpa using List.eq_of_mem_replicate hc
    subst this; decide +kernel
  · intro c t h; cases h


open EaselModel.Sqio.ParseFasta EaselModel.Sqio.RevWindowSpec in
/-- **First reverse-strand window = reverse complement of the top `min W L` residues of the scanned record, for every block size.**
    `s` is a record of the sequential scan; `sq` is as the forward pass left it at `eslEOD` (`start = end = 0`, `L`, `doff` of the record);
    `a` any block-mode handle on the file that holds no line geometry (`bpl ≤ 0 ∨ rpl ≤ 0`: unset or invalidated; the reader then seeks
    to the data's start and skips residues one by one, `rev_offset_brute_force`). The call returns `esl_sq_ReverseComplement` (`revOf` = `revcomp` of the slice, with its
    status: `eslEINVAL` for a text residue without complement, `eslEINCOMPAT` for an alphabet without one) of `s.seq[start..L]`,
    `start = max 1 (L − W + 1)`, coordinates swapped. -/
theorem rev_first_window_eq_revcomp_slice (bytes : Bytes) (abc : Nat) (habc : abc ∈ [0, 1, 2, 3]) (s : Sq) (hs : s ∈ (parseFasta abc bytes).1)
    (a : Ascii) (hf : a.file = bytes) (hb : a.linebased = false) (hr : a.recording ≠ 1) (hB : 1 ≤ a.B)
    (hi : a.inmap = inmapFasta abc) (heof : a.eofIsOk = true) (hgeo : a.trk.bpl ≤ 0 ∨ a.trk.rpl ≤ 0)
    (sq : Sq) (hdig : sq.digital = (abc != 0)) (hsabc : sq.abc = abc) (hdoff : sq.doff = s.doff)
    (hL : sq.L = s.L) (hL1 : 1 ≤ s.L) (hst : sq.start = 0) (hen : sq.end_ = 0) (C W : Int) (hW : 1 ≤ W) :
    (readWindow a sq C (-W)).2.1 =
      (revOf { sq with start := (revInit sq.L W).1, end_ := (revInit sq.L W).2, C := 0, W := (revInit sq.L W).2 - (revInit sq.L W).1 + 1 } s.seq).1 ∧
    (readWindow a sq C (-W)).2.2 =
      (revOf { sq with start := (revInit sq.L W).1, end_ := (revInit sq.L W).2, C := 0, W := (revInit sq.L W).2 - (revInit sq.L W).1 + 1 } s.seq).2.1 :=
  RevWindowSpec.rev_first_window_brute bytes abc habc s hs a hf hb hr hB hi heof hgeo sq hdig hsabc hdoff hL hL1 hst hen C W hW

open EaselModel.Sqio.ParseFasta EaselModel.Sqio.RevWindowSpec in
/-- **Later reverse-strand windows**: `sq` holds the previous window (`end_` = its lower coordinate, `2 ≤ end_ ≤ L`); the call returns the
    reverse complement of `s.seq[start .. end_ + c − 1]` with the schedule `revNext` (`c = min C (L − end_ + 1)` residues of context; by
    `rev_windows_tile` these windows tile `1..L` downwards) -/
theorem rev_next_window_eq_revcomp_slice (bytes : Bytes) (abc : Nat) (habc : abc ∈ [0, 1, 2, 3]) (s : Sq) (hs : s ∈ (parseFasta abc bytes).1)
    (a : Ascii) (hf : a.file = bytes) (hb : a.linebased = false) (hr : a.recording ≠ 1) (hB : 1 ≤ a.B)
    (hi : a.inmap = inmapFasta abc) (heof : a.eofIsOk = true) (hgeo : a.trk.bpl ≤ 0 ∨ a.trk.rpl ≤ 0)
    (sq : Sq) (hdig : sq.digital = (abc != 0)) (hsabc : sq.abc = abc) (hdoff : sq.doff = s.doff)
    (hL : sq.L = s.L) (hst : sq.start ≠ 0) (hlo : 2 ≤ sq.end_) (hhi : sq.end_ ≤ s.L) (C W : Int) (hC : 0 ≤ C) (hW : 1 ≤ W) :
    (readWindow a sq C (-W)).2.1 =
      (revOf { sq with C := (revNext sq.L C W sq.end_).1, end_ := (revNext sq.L C W sq.end_).2.1,
                       start := (revNext sq.L C W sq.end_).2.2.1, W := (revNext sq.L C W sq.end_).2.2.2 } s.seq).1 ∧
    (readWindow a sq C (-W)).2.2 =
      (revOf { sq with C := (revNext sq.L C W sq.end_).1, end_ := (revNext sq.L C W sq.end_).2.1,
                       start := (revNext sq.L C W sq.end_).2.2.1, W := (revNext sq.L C W sq.end_).2.2.2 } s.seq).2.1 :=
  RevWindowSpec.rev_next_window_brute bytes abc habc s hs a hf hb hr hB hi heof hgeo sq hdig hsabc hdoff hL hst hlo hhi C W hC hW

open EaselModel.Sqio.ParseFasta EaselModel.Sqio.RevWindowSpec EaselModel.Sqio.BodySpec in
/-- **Reverse windows when the handle holds a line geometry (`bpl, rpl > 0`), line addressing (`bpl ≠ rpl + 1`)**: `revTail a sq` is the
    reverse-strand call after the schedule (`revInit` / `revNext`) has set `start`, `end`, `C`, `W` (`readWindow_rev_first` / `_next` are the
    equations; `RevWindowGeo.rev_first_window_line` … the composed forms). If the record's data really begins with `(start−1)/r` complete
    lines of `b` bytes and `r` residues — what `bpl, rpl > 0` promises (`tracker_iff` below) — the window is `esl_sq_ReverseComplement` of `s.seq[start..end]`, for every block size. -/
theorem rev_window_eq_revcomp_slice_line (bytes : Bytes) (abc : Nat) (habc : abc ∈ [0, 1, 2, 3]) (s : Sq) (hs : s ∈ (parseFasta abc bytes).1)
    (a : Ascii) (hf : a.file = bytes) (hb : a.linebased = false) (hr : a.recording ≠ 1) (hB : 1 ≤ a.B)
    (hi : a.inmap = inmapFasta abc) (heof : a.eofIsOk = true)
    (b r : Nat) (hbpl : a.trk.bpl = (b : Int)) (hrpl : a.trk.rpl = (r : Int)) (hr0 : 0 < r) (hb0 : 0 < b) (hne : b ≠ r + 1)
    (sq : Sq) (hdig : sq.digital = (abc != 0)) (hsabc : sq.abc = abc) (hdoff : sq.doff = s.doff)
    (h1 : 1 ≤ sq.start) (h2 : sq.start ≤ sq.end_) (h3 : sq.end_ ≤ s.L) (hcw : sq.C + sq.W = sq.end_ - sq.start + 1)
    (lines : List (List UInt8)) (tail : List UInt8) (hgeo : bytes.toList.drop s.doff.toNat = lines.flatten ++ tail)
    (hfull : Geometry.FullLines (isRes (inmapFasta abc)) b r lines)
    (hdat : ∀ c ∈ lines.flatten, isData (inmapFasta abc) c = true) (hl : lines.length = (sq.start.toNat - 1) / r) :
    (revTail a sq).2.1 = (revOf sq s.seq).1 ∧ (revTail a sq).2.2 = (revOf sq s.seq).2.1 :=
  RevWindowGeo.revTail_line bytes abc habc s hs a hf hb hr hB hi heof b r hbpl hrpl hr0 hb0 hne sq hdig hsabc hdoff h1 h2 h3 hcw lines tail
    hgeo hfull hdat hl

open EaselModel.Sqio.ParseFasta EaselModel.Sqio.RevWindowSpec EaselModel.Sqio.BodySpec in
/-- the same under residue addressing (`bpl = rpl + 1`): moreover the line holding residue `start` begins with more than `(start−1) % r`
    residues and nothing else before them -/
theorem rev_window_eq_revcomp_slice_residue (bytes : Bytes) (abc : Nat) (habc : abc ∈ [0, 1, 2, 3]) (s : Sq) (hs : s ∈ (parseFasta abc bytes).1)
    (a : Ascii) (hf : a.file = bytes) (hb : a.linebased = false) (hr : a.recording ≠ 1) (hB : 1 ≤ a.B)
    (hi : a.inmap = inmapFasta abc) (heof : a.eofIsOk = true)
    (r : Nat) (hbpl : a.trk.bpl = ((r + 1 : Nat) : Int)) (hrpl : a.trk.rpl = (r : Int)) (hr0 : 0 < r)
    (sq : Sq) (hdig : sq.digital = (abc != 0)) (hsabc : sq.abc = abc) (hdoff : sq.doff = s.doff)
    (h1 : 1 ≤ sq.start) (h2 : sq.start ≤ sq.end_) (h3 : sq.end_ ≤ s.L) (hcw : sq.C + sq.W = sq.end_ - sq.start + 1)
    (lines : List (List UInt8)) (res tail : List UInt8) (hgeo : bytes.toList.drop s.doff.toNat = lines.flatten ++ (res ++ tail))
    (hfull : Geometry.FullLines (isRes (inmapFasta abc)) (r + 1) r lines)
    (hdat : ∀ c ∈ lines.flatten, isData (inmapFasta abc) c = true) (hres : ∀ c ∈ res, isRes (inmapFasta abc) c = true)
    (hj : (sq.start.toNat - 1) % r ≤ res.length) (hl : lines.length = (sq.start.toNat - 1) / r) :
    (revTail a sq).2.1 = (revOf sq s.seq).1 ∧ (revTail a sq).2.2 = (revOf sq s.seq).2.1 :=
  RevWindowGeo.revTail_residue bytes abc habc s hs a hf hb hr hB hi heof r hbpl hrpl hr0 sq hdig hsabc hdoff h1 h2 h3 hcw lines res tail
    hgeo hfull hdat hres hj hl

open EaselModel.Sqio.ParseFasta in
/-- non-vacuity on the executable model: `>a\nACGTAC\n` (text mode, B = 2): forward pass to `eslEOD`, then reverse windows of 4 with
    `C = 0`: `GTAC` (revcomp of residues 3..6, coordinates 6..3), then `GT` (revcomp of `AC`, coordinates 2..1) -/
example :
    let a := openFasta #[62, 97, 10, 65, 67, 71, 84, 65, 67, 10] 2 0
    let r1 := readWindow a (freshSq 0).reuse 0 100
    let r2 := readWindow r1.1 r1.2.1 0 100
    let r3 := readWindow r2.1 r2.2.1 0 (-4)
    let r4 := readWindow r3.1 r3.2.1 0 (-4)
    r2.2.2 = Status.eod ∧ r3.2.2 = Status.ok ∧ r3.2.1.seq = #[71, 84, 65, 67] ∧ r3.2.1.start = 6 ∧ r3.2.1.end_ = 3 ∧
    r4.2.2 = Status.ok ∧ r4.2.1.seq = #[71, 84] ∧ r4.2.1.start = 2 ∧ r4.2.1.end_ = 1 := by
  rw [ParseFasta.openFasta, inmapFasta_text]; decide +kernel

/-! ## The line-based formats (EMBL / UniProt / GenBank / DDBJ): the line loader is block-size independent -/

open EaselModel.Sqio.LineSpec in
/-- **`loadbuf` in line mode delivers the next line of the FILE, for every read-block size `B ≥ 1`** (the `memchr` / `while (nlp == NULL)`
    loop that glues a line together from as many `fread` blocks as it takes): the line buffer is `nextLine rest` — the bytes of the file
    behind the current line up to and including the first `\n`, or all that is left —, `boff` is the true offset of its first byte,
    `nc` its length, the status is `eslEOF` exactly when nothing is left, never `fault`; `B` does not occur. -/
theorem loadbuf_line_closed_form (a : Ascii) (h : LWF a) :
    LWF (loadbuf a).1 ∧ keepL (loadbuf a).1 = keepL a ∧
    (loadbuf a).1.line.toList = (nextLine (a.file.toList.drop (a.boff.toNat + a.nc))).1 ∧
    (loadbuf a).1.nc = (nextLine (a.file.toList.drop (a.boff.toNat + a.nc))).1.length ∧
    (loadbuf a).1.boff = a.boff + a.nc ∧ (loadbuf a).1.bpos = 0 ∧
    (loadbuf a).2 = (if a.file.toList.drop (a.boff.toNat + a.nc) = [] then .eof else .ok) ∧
    a.file.toList.drop ((loadbuf a).1.boff.toNat + (loadbuf a).1.nc) = (nextLine (a.file.toList.drop (a.boff.toNat + a.nc))).2 :=
  have n := LineSpec.loadbuf_line a h
  ⟨n.wf, n.keep, n.line, n.nc, n.boff, n.bpos, n.st, n.rest⟩

open EaselModel.Sqio.LineSpec in
/-- two line-mode handles on one file with any two block sizes, standing on the same line: after `loadbuf` they stand on the same next
    line (same bytes, same offset, same status) — the simulation that every reader of the line-based formats preserves, since these
    readers touch the handle only through `loadbuf`, the line buffer, `nc` and `boff` -/
theorem loadbuf_line_block_size_independent {a1 a2 : Ascii} (h : LSim a1 a2) :
    LSim (loadbuf a1).1 (loadbuf a2).1 ∧ (loadbuf a1).2 = (loadbuf a2).2 := LineSpec.loadbuf_lsim h

open EaselModel.Sqio.LineSpec in
/-- the handle `esl_sqfile_Open` yields for a line-based format satisfies the invariant and stands on the first line, for every `B ≥ 1` -/
theorem open_line_based (file : Bytes) (B abc fmt : Nat) (eofOk : Bool) (inmap : Bytes) (hB : 1 ≤ B) :
    LWF (loadbuf { file := file, B := B, abc := abc, fmt := fmt, eofIsOk := eofOk, linebased := true, inmap := inmap }).1 ∧
    (loadbuf { file := file, B := B, abc := abc, fmt := fmt, eofIsOk := eofOk, linebased := true, inmap := inmap }).1.line.toList =
      (nextLine file.toList).1 ∧
    (loadbuf { file := file, B := B, abc := abc, fmt := fmt, eofIsOk := eofOk, linebased := true, inmap := inmap }).1.boff = 0 ∧
    (loadbuf { file := file, B := B, abc := abc, fmt := fmt, eofIsOk := eofOk, linebased := true, inmap := inmap }).2 =
      (if file.toList = [] then .eof else .ok) := LineSpec.open_line file B abc fmt eofOk inmap hB


/-! ## EMBL / UniProt / GenBank / DDBJ: the record readers are block-size independent (`Sqio/EmblSpec.lean`)

By simulation: the readers of the line-based formats touch the handle only through `loadbuf` (one line per call), the line buffer, `nc`
and `boff`; two handles on the same line (`LSim`, any two block sizes) therefore stay on the same line through `skipLinesWhile`,
`emblScan` / `genbankScan` (`ID` / `AC` / `DE` / `SQ`, `LOCUS` / `VERSION` / `DEFINITION` / `ORIGIN` lines), the residue loop (`seebuf` /
`addbuf` read `line[i]`), `end_embl` / `end_genbank`. -/

open EaselModel.Sqio.LineSpec EaselModel.Sqio.EmblSpec in
/-- **`header_embl` / `skip_embl` return the same status and the same `ESL_SQ` for any two block sizes** (`parse = false`: `skip_embl`) -/
theorem header_embl_block_size_independent (parse : Bool) (a1 a2 : Ascii) (sq : Sq) (h : LSim a1 a2) :
    (headerEmbl parse a1 sq).2.2 = (headerEmbl parse a2 sq).2.2 ∧ (headerEmbl parse a1 sq).2.1 = (headerEmbl parse a2 sq).2.1 ∧
    LSim (headerEmbl parse a1 sq).1 (headerEmbl parse a2 sq).1 := EmblSpec.headerEmbl_block_size_independent parse a1 a2 sq h

open EaselModel.Sqio.LineSpec EaselModel.Sqio.EmblSpec in
/-- the same for `header_genbank` / `skip_genbank` -/
theorem header_genbank_block_size_independent (parse : Bool) (a1 a2 : Ascii) (sq : Sq) (h : LSim a1 a2) :
    (headerGenbank parse a1 sq).2.2 = (headerGenbank parse a2 sq).2.2 ∧
    (headerGenbank parse a1 sq).2.1 = (headerGenbank parse a2 sq).2.1 ∧
    LSim (headerGenbank parse a1 sq).1 (headerGenbank parse a2 sq).1 := EmblSpec.headerGenbank_block_size_independent parse a1 a2 sq h

open EaselModel.Sqio.LineSpec EaselModel.Sqio.EmblSpec in
/-- **`sqascii_Read` on an EMBL / UniProt / GenBank / DDBJ file is block-size independent — the whole call, every record field**: from two
    handles on the same line with any two block sizes `B₁, B₂ ≥ 1`, same status, same `ESL_SQ` (name, accession, description, residues,
    `roff` / `hoff` / `doff` / `eoff`, `L`, coordinates, allocations), and the handles are on the same line again — so the statement
    iterates over all records of the file; `open_line_based_sim` starts it at `esl_sqfile_Open`. -/
theorem read_linebased_block_size_independent (a1 a2 : Ascii) (sq : Sq) (h : LSim a1 a2)
    (hf : a1.fmt = 2 ∨ a1.fmt = 3 ∨ a1.fmt = 4 ∨ a1.fmt = 5) :
    (read a1 sq).2.2 = (read a2 sq).2.2 ∧ (read a1 sq).2.1 = (read a2 sq).2.1 ∧ LSim (read a1 sq).1 (read a2 sq).1 :=
  EmblSpec.read_embl_block_size_independent a1 a2 sq h hf

open EaselModel.Sqio.LineSpec EaselModel.Sqio.EmblSpec in
/-- two handles opened on the same line-based file with block sizes `B₁, B₂ ≥ 1` stand on the same first line, same open status -/
theorem open_line_based_sim (file : Bytes) (B1 B2 abc fmt : Nat) (eofOk : Bool) (inmap : Bytes) (h1 : 1 ≤ B1) (h2 : 1 ≤ B2) :
    LSim (loadbuf { file := file, B := B1, abc := abc, fmt := fmt, eofIsOk := eofOk, linebased := true, inmap := inmap }).1
      (loadbuf { file := file, B := B2, abc := abc, fmt := fmt, eofIsOk := eofOk, linebased := true, inmap := inmap }).1 ∧
    (loadbuf { file := file, B := B1, abc := abc, fmt := fmt, eofIsOk := eofOk, linebased := true, inmap := inmap }).2 =
      (loadbuf { file := file, B := B2, abc := abc, fmt := fmt, eofIsOk := eofOk, linebased := true, inmap := inmap }).2 :=
  EmblSpec.open_lsim file B1 B2 abc fmt eofOk inmap h1 h2


open EaselModel.Sqio.EmblAll in
/-- **The whole reader of the line-based formats is block-size independent, from `esl_sqfile_Open` on**: for any two block sizes
    `B₁, B₂ ≥ 1`, reading every record of an EMBL / UniProt / GenBank / DDBJ file with `sqascii_Read` (`openLine` = the handle
    `esl_sqfile_Open` / `OpenDigital` yields for a line format) gives the same records — every `ESL_SQ` field — and the same final status. -/
theorem read_all_linebased_block_size_independent (file : Bytes) (B1 B2 abc fmt : Nat) (eofOk : Bool) (inmap0 inmap1 : Bytes)
    (h1 : 1 ≤ B1) (h2 : 1 ≤ B2) (hf : fmt = 2 ∨ fmt = 3 ∨ fmt = 4 ∨ fmt = 5) (fuel : Nat) (sq : Sq) :
    ParseFasta.readAllM fuel (openLine file B1 abc fmt eofOk inmap0 inmap1) sq =
      ParseFasta.readAllM fuel (openLine file B2 abc fmt eofOk inmap0 inmap1) sq :=
  EmblAll.read_all_linebased_open file B1 B2 abc fmt eofOk inmap0 inmap1 h1 h2 hf fuel sq

open EaselModel.Sqio.LineSpec EaselModel.Sqio.EmblAll in
/-- `sqascii_ReadInfo` and `sqascii_ReadSequence` on the line-based formats: same status, same `ESL_SQ`, same line afterwards, for any two
    block sizes -/
theorem readInfo_readSequence_linebased_block_size_independent (a1 a2 : Ascii) (sq : Sq) (h : LSim a1 a2) (hf : LineFmt a1) :
    ((readInfo a1 sq).2.2 = (readInfo a2 sq).2.2 ∧ (readInfo a1 sq).2.1 = (readInfo a2 sq).2.1 ∧ LSim (readInfo a1 sq).1 (readInfo a2 sq).1) ∧
    ((readSequence a1 sq).2.2 = (readSequence a2 sq).2.2 ∧ (readSequence a1 sq).2.1 = (readSequence a2 sq).2.1 ∧
      LSim (readSequence a1 sq).1 (readSequence a2 sq).1) :=
  ⟨EmblAll.readInfo_block_size_independent a1 a2 sq h hf, EmblAll.readSequence_block_size_independent a1 a2 sq h hf⟩


open EaselModel.Sqio.LineSpec EaselModel.Sqio.EmblAll in
/-- **forward `ReadWindow` and whole-sequence `ReadBlock` on the line-based formats are block-size independent** (first and later window
    calls, any `C`, `W ≥ 0`; `read_nres` with any `nskip`): same status, same `ESL_SQ` / block, same line afterwards, for any two block sizes —
    with `read_linebased_block_size_independent` and `readInfo_readSequence_linebased_block_size_independent` this covers the five read
    calls of the property for EMBL / UniProt / GenBank / DDBJ (reverse-strand windows and long-target blocks excepted) -/
theorem readWindow_readBlock_linebased_block_size_independent (a1 a2 : Ascii) (h : LSim a1 a2) (hf : LineFmt a1) :
    (∀ (sq : Sq) (C W : Int), 0 ≤ W →
      (readWindow a1 sq C W).2.2 = (readWindow a2 sq C W).2.2 ∧ (readWindow a1 sq C W).2.1 = (readWindow a2 sq C W).2.1 ∧
      LSim (readWindow a1 sq C W).1 (readWindow a2 sq C W).1) ∧
    (∀ (b : Block) (maxRes maxSeq : Int) (maxInit : Bool),
      (readBlock a1 b maxRes maxSeq maxInit false).2 = (readBlock a2 b maxRes maxSeq maxInit false).2 ∧
      LSim (readBlock a1 b maxRes maxSeq maxInit false).1 (readBlock a2 b maxRes maxSeq maxInit false).1) :=
  ⟨fun sq C W hW => EmblWin.readWindow_fwd_linebased_block_size_independent a1 a2 sq C W h hf hW,
   fun b maxRes maxSeq maxInit => EmblWin.readBlock_short_linebased_block_size_independent a1 a2 b maxRes maxSeq maxInit h hf⟩

/-! ## The line-geometry tracker of `seebuf` (`seebuf_linegeometry()`, which checks every line, a record's last, only or unterminated one
included): the EXACT predicate `bpl, rpl > 0` guarantees

The reverse-window theorems `rev_window_eq_revcomp_slice_line` / `_residue` assume the geometry that `bpl, rpl > 0` is meant to promise.
Here that promise is a theorem, and an `iff`: for every scan of whole records from a fresh handle — a record is `header_*` followed by its
data lines, each seen to its end by `Track.onEol b r` (terminated: `b` bytes with the newline, `r` residues) or, for an unterminated last
line, by `Track.onStop b r` — `bpl` and `rpl` are BOTH positive at the end exactly when the file has the constant geometry. -/
section tracker
open EaselModel.Sqio.TrackerExact

/-- **`rpl = p > 0 ∧ bpl = w > 0` after the scan ⇔ (some line is followed by another line of its record) ∧ (every line that is followed
    by another line of its record has exactly `w` bytes and `p` residues) ∧ (EVERY line — last, only or unterminated line of a record
    included — has at most `p` residues and at most `w − p − 1` ignored bytes besides its newline).** No exceptions: a one-line record, the line at
    which `rpl` is initialised, an unterminated last line, a blank in a last line under `bpl = rpl + 1` are all covered. -/
theorem tracker_iff (recs : List (List Line)) (hok : ∀ rec ∈ recs, ∀ l ∈ rec, l.Ok)
    (hterm : ∀ rec ∈ recs, ∀ l ∈ rec.dropLast, l.eol = true) (p w : Int) (hp : 0 < p) (hw : 0 < w) :
    ((runFile {} recs).rpl = p ∧ (runFile {} recs).bpl = w) ↔
      (∃ rec ∈ recs, ∃ l, l ∈ rec.dropLast) ∧
      (∀ rec ∈ recs, ∀ l ∈ rec.dropLast, l.b = w ∧ l.r = p) ∧
      (∀ rec ∈ recs, ∀ l ∈ rec, l.r ≤ p ∧ l.x ≤ w - p - 1) :=
  TrackerExact.tracker_iff recs hok hterm p w hp hw

/-- **`rpl = bpl = −1` (unset) after the scan ⇔ no line of the file is followed by another line of its record** (every record has at
    most one data line): with `tracker_iff` the three outcomes — unset, a positive geometry, invalidated — are each characterised. -/
theorem tracker_unset_iff (recs : List (List Line)) (hok : ∀ rec ∈ recs, ∀ l ∈ rec, l.Ok)
    (hterm : ∀ rec ∈ recs, ∀ l ∈ rec.dropLast, l.eol = true) :
    ((runFile {} recs).rpl = -1 ∧ (runFile {} recs).bpl = -1) ↔ ∀ rec ∈ recs, rec.dropLast = [] :=
  TrackerExact.tracker_unset_iff recs hok hterm

/-- **Soundness, as the reverse-window / FetchSubseq arithmetic uses it**: with `rpl = p > 0` and `bpl = w > 0` after the scan, in every
    record the lines in front of any line are full lines (`w` bytes, `p` residues: `Geometry.FullLines`), and no line holds more than `p`
    residues — so residue `start` of a record lies on its line `(start − 1) / p`, at byte `((start − 1) / p) · w` + a position within that
    line; under `w = p + 1` (residue addressing) no line has any ignored byte, so residue `i` of a line is its byte `i`. -/
theorem tracker_sound (recs : List (List Line)) (hok : ∀ rec ∈ recs, ∀ l ∈ rec, l.Ok)
    (hterm : ∀ rec ∈ recs, ∀ l ∈ rec.dropLast, l.eol = true) (p w : Int) (hp : 0 < p) (hw : 0 < w)
    (h : (runFile {} recs).rpl = p ∧ (runFile {} recs).bpl = w) :
    (∀ rec ∈ recs, ∀ l ∈ rec.dropLast, l.b = w ∧ l.r = p) ∧ (∀ rec ∈ recs, ∀ l ∈ rec, l.r ≤ p) ∧
    (w = p + 1 → ∀ rec ∈ recs, ∀ l ∈ rec, l.x = 0) := by
  obtain ⟨_, h2, h3⟩ := (TrackerExact.tracker_iff recs hok hterm p w hp hw).mp h
  refine ⟨h2, fun rec hrec l hl => (h3 rec hrec l hl).1, fun hwp rec hrec l hl => ?_⟩
  have a := (h3 rec hrec l hl).2
  have b := (hok rec hrec l hl).2.2
  omega

/-- four files with a last or only line that does not fit the widths: `>A\nACGT\nAC\n>B\nACGTAC\n` (one-line record longer than `rpl`),
    `>A\nAC\nACGT\n` (longer line where `rpl` is initialised), `>A\nACGT\nACGTA` (longer unterminated last line),
    `>A\nACGT\nA CG\n` (blank in a last line under `bpl = rpl + 1`): the tracker ends invalidated (0, 0) on each -/
theorem tracker_rejects_former_exceptions :
    ((runFile {} [[⟨5, 4, true⟩, ⟨3, 2, true⟩], [⟨7, 6, true⟩]]).rpl = 0 ∧ (runFile {} [[⟨5, 4, true⟩, ⟨3, 2, true⟩], [⟨7, 6, true⟩]]).bpl = 0) ∧
    ((runFile {} [[⟨3, 2, true⟩, ⟨5, 4, true⟩]]).rpl = 0 ∧ (runFile {} [[⟨3, 2, true⟩, ⟨5, 4, true⟩]]).bpl = 0) ∧
    ((runFile {} [[⟨5, 4, true⟩, ⟨5, 5, false⟩]]).rpl = 0 ∧ (runFile {} [[⟨5, 4, true⟩, ⟨5, 5, false⟩]]).bpl = 0) ∧
    ((runFile {} [[⟨5, 4, true⟩, ⟨5, 3, true⟩]]).rpl = 0 ∧ (runFile {} [[⟨5, 4, true⟩, ⟨5, 3, true⟩]]).bpl = 0) := by decide

/-- non-vacuity: the clean file `>A\nACGT\nACGT\nAC\n>B\nACGT\nA` (last line unterminated): rpl = 4, bpl = 5 -/
example : (runFile {} [[⟨5, 4, true⟩, ⟨5, 4, true⟩, ⟨3, 2, true⟩], [⟨5, 4, true⟩, ⟨1, 1, false⟩]]).rpl = 4 ∧
    (runFile {} [[⟨5, 4, true⟩, ⟨5, 4, true⟩, ⟨3, 2, true⟩], [⟨5, 4, true⟩, ⟨1, 1, false⟩]]).bpl = 5 := by decide

/-- **The tracker does not notice where `seebuf` stops inside a line.** `seebuf` is called buffer by buffer and window by window, so a
    line reaches the tracker in pieces: any number of `Track.onStop` (the tail of a call that ends inside the line; `piece`), then the
    call that completes it. From any point inside a line (`InLine`: counters known, previous line of the record `prev`), any pieces
    `cs` followed by the rest `l` of the line leave the tracker in EXACTLY the state the whole line in one piece leaves it in — so
    `tracker_iff`, stated for lines seen in one piece, holds for every read-block size and every window width. -/
theorem tracker_ignores_where_seebuf_stops (cs : List (Int × Int)) (t : Track) (prev : Option Line) (l : Line)
    (h : TrackerChunks.InLine t prev) (hpn : ∀ q, prev = some q → 0 ≤ q.r ∧ 0 ≤ q.b)
    (hcs : ∀ c ∈ cs, 1 ≤ c.1 ∧ 0 ≤ c.2 ∧ c.2 ≤ c.1) (hb : 0 ≤ l.b) (hr : 0 ≤ l.r) (hx : 0 ≤ l.x) :
    line (cs.foldl TrackerChunks.piece t) l = line t ⟨(cs.map Prod.fst).sum + l.b, (cs.map Prod.snd).sum + l.r, l.eol⟩ :=
  TrackerChunks.chunked_line cs l hr hx t (by have := h.cb; omega) (by have := h.cr; omega) hcs

/-- non-vacuity: right after `header_fasta` the tracker is inside (at the start of) a line with no previous line; the line `ACGT\n` seen
    as `AC` | `G` | `T\n` leaves the state of `ACGT\n` seen at once -/
example : TrackerChunks.InLine (hdr {}) none ∧
    line ([(2, 2), (1, 1)].foldl TrackerChunks.piece (hdr {})) ⟨2, 1, true⟩ = line (hdr {}) ⟨5, 4, true⟩ := by
  refine ⟨⟨by decide, by decide, by decide, ⟨rfl, rfl⟩⟩, by decide⟩

end tracker

section position
open EaselModel.Sqio.ParseFasta EaselModel.Sqio.SpecFasta

/-- **Position at a record's offset, then Read = that record, for every block size**: for every record `s` of the sequential scan, every
    block-mode FASTA handle on the file (any `B ≥ 1`, cursor anywhere) and every reused `ESL_SQ` of the right mode:
    `esl_sqfile_Position(sqfp, s.roff)` succeeds and the next `esl_sqio_Read` returns `s` (name, description, residues, the four offsets, `L`). -/
theorem position_then_read_eq_record (bytes : Bytes) (abc : Nat) (habc : abc ∈ [0, 1, 2, 3]) (s : Sq) (hs : s ∈ (parseFasta abc bytes).1)
    (a : Ascii) (hf : a.file = bytes) (hb : a.linebased = false) (hr : a.recording ≠ 1) (hB : 1 ≤ a.B)
    (hi : a.inmap = inmapFasta abc) (hfmt : a.fmt = 1) (heof : a.eofIsOk = true)
    (sq : Sq) (hdig : sq.digital = (abc != 0)) (hsabc : sq.abc = abc) (hseq : sq.seq = #[]) (hna : 2 ≤ sq.nalloc) (hda : 2 ≤ sq.dalloc) :
    (position a s.roff.toNat).2 = .ok ∧
    (read (position a s.roff.toNat).1 sq).2.2 = .ok ∧
    toRecord (read (position a s.roff.toNat).1 sq).2.1 = toRecord s :=
  FetchWhole.fetch_eq_scan bytes abc habc s hs a hf hb hr hB hi hfmt heof sq hdig hsabc hseq hna hda

/-- **Rewind agreement**: `esl_sqfile_Position(sqfp, 0)` on any block-mode FASTA handle on a non-empty file (any block size, cursor
    anywhere), then the read loop, returns exactly the records and the final status of a fresh sequential scan (`parseFasta`, hence
    `specFasta` by `read_all_eq_specFasta`). -/
theorem rewind_then_read_all_eq_parseFasta (bytes : Bytes) (abc : Nat) (habc : abc ∈ [0, 1, 2, 3]) (hne : 0 < bytes.size)
    (a : Ascii) (hf : a.file = bytes) (hb : a.linebased = false) (hr : a.recording ≠ 1) (hB : 1 ≤ a.B)
    (hi : a.inmap = inmapFasta abc) (hfmt : a.fmt = 1) (heof : a.eofIsOk = true) :
    (position a 0).2 = .ok ∧
    readAllM (bytes.size + 2) (position a 0).1 (freshSq abc) = parseFasta abc bytes :=
  PositionAny.rewind_read_all bytes abc habc hne a hf hb hr hB hi hfmt heof

/-- non-vacuity: the hypotheses are plain conditions on the handle's flags — a block-mode FASTA handle on `>a\nAC\n>b\nG\n` with `B = 3`,
    whatever its buffer and cursor -/
example :
    let a : Ascii := { file := #[62, 97, 10, 65, 67, 10, 62, 98, 10, 71, 10], B := 3, fmt := 1, eofIsOk := true, inmap := inmapFasta 0 }
    a.file = #[62, 97, 10, 65, 67, 10, 62, 98, 10, 71, 10] ∧ a.linebased = false ∧ a.recording ≠ 1 ∧ 1 ≤ a.B ∧
    a.inmap = inmapFasta 0 ∧ a.fmt = 1 ∧ a.eofIsOk = true := ⟨rfl, rfl, by decide, by decide, rfl, rfl, rfl⟩

/-- **The handle after `esl_sqfile_Position(off)` is a ready handle on the bytes from `off`, for every offset inside the file and every
    block size** — so every theorem of this file stated "from every ready handle" (`read_one_record_closed_form`,
    `read_readInfo_readSequence_agree`, `windows_eq_read`, `windows_concat_eq_read`, `readBlock_short_eq_read`, …) holds after any
    `Position`: `ReadInfo`, `ReadSequence`, the forward window series and whole-sequence `ReadBlock` agree with `Read` there too. -/
theorem position_yields_ready_handle (bytes : Bytes) (abc : Nat) (habc : abc ∈ [0, 1, 2, 3]) (off : Nat) (hoff : off < bytes.size)
    (a : Ascii) (hf : a.file = bytes) (hb : a.linebased = false) (hr : a.recording ≠ 1) (hB : 1 ≤ a.B)
    (hi : a.inmap = inmapFasta abc) (hfmt : a.fmt = 1) (heof : a.eofIsOk = true)
    (sq : Sq) (hdig : sq.digital = (abc != 0)) (hsabc : sq.abc = abc) (hna : 2 ≤ sq.nalloc) (hda : 2 ≤ sq.dalloc) :
    (position a off).2 = .ok ∧ ReadSpec.Ready (position a off).1 sq ∧
    DataScan.fileFrom (position a off).1 = bytes.toList.drop off ∧ (position a off).1.B = a.B :=
  have h := FetchWhole.position_ready bytes abc habc off hoff a hf hb hr hB hi hfmt heof sq hdig hsabc hna hda
  ⟨h.1, h.2.1, h.2.2.1, h.2.2.2.1⟩

/-- **Position anywhere, then the read loop = the declarative parser on the rest of the file**: for EVERY offset inside the file,
    every block size and every fuel, the records (name, description, residues, `roff` / `hoff` / `doff` / `eoff` counted from the start
    of the file, `L`) and the final status are `specAll` (the parser behind `specFasta`) on `bytes.drop off`. `off = 0`: `specFasta`. -/
theorem position_then_read_all_eq_spec (bytes : Bytes) (abc : Nat) (habc : abc ∈ [0, 1, 2, 3]) (off : Nat) (hoff : off < bytes.size)
    (a : Ascii) (hf : a.file = bytes) (hb : a.linebased = false) (hr : a.recording ≠ 1) (hB : 1 ≤ a.B)
    (hi : a.inmap = inmapFasta abc) (hfmt : a.fmt = 1) (heof : a.eofIsOk = true) (fuel : Nat) :
    (position a off).2 = .ok ∧
    ((readAllM fuel (position a off).1 (freshSq abc)).1.map toRecord, (readAllM fuel (position a off).1 (freshSq abc)).2) =
      specAll (inmapFasta abc) (PositionAny.mapOfMode abc) bytes.size fuel (bytes.toList.drop off) :=
  PositionAny.position_read_all bytes abc habc off hoff a hf hb hr hB hi hfmt heof fuel

/-- **Position at the `roff` of the k-th record of the sequential scan, then the read loop = the records k, k+1, … of that scan and its
    final status, for every block size.** `specFasta abc bytes = (pre ++ r :: post, st)` is what the sequential scan returns
    (`read_all_eq_specFasta`); `pre` are the `k` records in front of `r`. -/
theorem position_at_record_then_read_all_eq_scan_tail (bytes : Bytes) (abc : Nat) (habc : abc ∈ [0, 1, 2, 3])
    (pre : List Record) (r : Record) (post : List Record) (st : Status)
    (hscan : specFasta abc bytes.toList = (pre ++ r :: post, st))
    (a : Ascii) (hf : a.file = bytes) (hb : a.linebased = false) (hr : a.recording ≠ 1) (hB : 1 ≤ a.B)
    (hi : a.inmap = inmapFasta abc) (hfmt : a.fmt = 1) (heof : a.eofIsOk = true) :
    (position a r.roff.toNat).2 = .ok ∧
    ((readAllM (bytes.size + 2 - pre.length) (position a r.roff.toNat).1 (freshSq abc)).1.map toRecord,
     (readAllM (bytes.size + 2 - pre.length) (position a r.roff.toNat).1 (freshSq abc)).2) = (r :: post, st) :=
  SpecSuffix.position_at_record_read_all bytes abc habc pre r post st hscan a hf hb hr hB hi hfmt heof

/-- non-vacuity: the scan of `>a\nAC\n>b\nG\n` (text mode) has two records, at offsets 0 and 6, and ends with `eslEOF`: `pre` = the first,
    `r` = the second, `post = []` -/
example :
    let sc := specFasta 0 [62, 97, 10, 65, 67, 10, 62, 98, 10, 71, 10]
    sc.1.map (·.roff) = [0, 6] ∧ sc.1.map (·.seq) = [[65, 67], [71]] ∧ sc.2 = .eof := by
  rw [specFasta, inmapFasta_text]; decide +kernel

/-- **`ReadInfo` and `ReadSequence` after Position at a scanned record return that record**, for every block size: both
    succeed; `ReadInfo` reports the record's name, description, `roff` / `hoff` / `doff` / `eoff` and `L`; `ReadSequence` its residues,
    `roff` / `doff` / `eoff` and `L` — with `position_then_read_eq_record`: all three record calls agree with the scan after a Position. -/
theorem position_then_readInfo_readSequence_eq_record (bytes : Bytes) (abc : Nat) (habc : abc ∈ [0, 1, 2, 3]) (s : Sq)
    (hs : s ∈ (parseFasta abc bytes).1)
    (a : Ascii) (hf : a.file = bytes) (hb : a.linebased = false) (hr : a.recording ≠ 1) (hB : 1 ≤ a.B)
    (hi : a.inmap = inmapFasta abc) (hfmt : a.fmt = 1) (heof : a.eofIsOk = true)
    (sq : Sq) (hdig : sq.digital = (abc != 0)) (hsabc : sq.abc = abc) (hseq : sq.seq = #[]) (hna : 2 ≤ sq.nalloc) (hda : 2 ≤ sq.dalloc)
    (hsa : 2 ≤ sq.salloc) :
    let p := (position a s.roff.toNat).1
    (readInfo p sq).2.2 = .ok ∧ (readSequence p sq).2.2 = .ok ∧
    (readInfo p sq).2.1.name.toList = s.name.toList ∧ (readInfo p sq).2.1.desc.toList = s.desc.toList ∧
    (readInfo p sq).2.1.roff = s.roff ∧ (readInfo p sq).2.1.hoff = s.hoff ∧ (readInfo p sq).2.1.doff = s.doff ∧
    (readInfo p sq).2.1.eoff = s.eoff ∧ (readInfo p sq).2.1.L = s.L ∧
    (readSequence p sq).2.1.seq = s.seq ∧ (readSequence p sq).2.1.roff = s.roff ∧ (readSequence p sq).2.1.doff = s.doff ∧
    (readSequence p sq).2.1.eoff = s.eoff ∧ (readSequence p sq).2.1.L = s.L :=
  FetchWhole.position_info_seq bytes abc habc s hs a hf hb hr hB hi hfmt heof sq hdig hsabc hseq hna hda hsa

open EaselModel.Sqio.WindowSeries EaselModel.Sqio.WinSpecPure in
/-- **The forward `ReadWindow` series after Position at a scanned record = the declarative windows of that record**, for every
    block size and every request stream `(C_k ≥ 0, W_k ≥ 1)` (in particular `C > W`): `specWindows s.seq req`, then `eslEOD` with `L = s.L`. -/
theorem position_then_windows_eq_record_windows (bytes : Bytes) (abc : Nat) (habc : abc ∈ [0, 1, 2, 3]) (s : Sq)
    (hs : s ∈ (parseFasta abc bytes).1)
    (a : Ascii) (hf : a.file = bytes) (hb : a.linebased = false) (hr : a.recording ≠ 1) (hB : 1 ≤ a.B)
    (hi : a.inmap = inmapFasta abc) (hfmt : a.fmt = 1) (heof : a.eofIsOk = true)
    (sq : Sq) (hdig : sq.digital = (abc != 0)) (hsabc : sq.abc = abc) (hseq : sq.seq = #[]) (hna : 2 ≤ sq.nalloc) (hda : 2 ≤ sq.dalloc)
    (hst : sq.start = 0) (req : Nat → Int × Int) (hreq : ∀ k, 0 ≤ (req k).1 ∧ 1 ≤ (req k).2) (F : Nat) (hF : s.seq.size + 2 ≤ F) :
    let p := (position a s.roff.toNat).1
    (readWindowsM req F 0 p sq).1.map toWin = specWindows s.seq req F 0 0 0 ∧
    (readWindowsM req F 0 p sq).2.2.2 = .eod ∧ (readWindowsM req F 0 p sq).2.2.1.L = s.L :=
  PositionCalls.position_windows bytes abc habc s hs a hf hb hr hB hi hfmt heof sq hdig hsabc hseq hna hda hst req hreq F hF

end position

end EaselModel.Props.C04
