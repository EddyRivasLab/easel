import EaselModel.WorkQueue.Lemmas
import EaselModel.WorkQueue.FullApi
import EaselModel.Dsqdata.CodecLemmas
import EaselModel.Dsqdata.LoaderLemmas
import EaselModel.Dsqdata.InPlace
import EaselModel.Dsqdata.RoundTrip
import EaselModel.Dsqdata.Meta
import EaselModel.Threads.Lemmas
import EaselModel.Pipeline.WakeSteps
import EaselModel.Dsqdata.FormatLemmas
import EaselModel.Dsqdata.SmemLemmas
import EaselModel.Dsqdata.PackMem
import EaselModel.Pipeline.Locks
import EaselModel.Pipeline.Fatal
import EaselModel.Pipeline.Liveness
import EaselModel.Pipeline.FairWitness
import EaselModel.Dsqdata.ShortRead
import EaselModel.Dsqdata.CutLemmas
import EaselModel.Dsqdata.CutIndex
/-! # C12 — property theorems (statements + glue only; lemmas live in WorkQueue/, Dsqdata/, Threads/, Pipeline/)

Work queue (`esl_workqueue.c`): every theorem is about *all* states reachable from `esl_workqueue_Create(size)` by
*any* interleaving of one reader thread, any number of worker threads, and `esl_workqueue_Init` calls that may come from
a controller thread even while the reader already sleeps on the empty queue, one step per mutex-protected region,
spurious wake-ups allowed (`Reachable`), under the caller's contract `Admissible` (a block is handed to `Init`
once; at most `size` blocks are handed in; `Reset` is not called while a worker sleeps in `WorkerUpdate`). -/
namespace EaselModel.Props.C12
open EaselModel.WorkQueue

/-- **Conservation.** The multiset {reader queue} ∪ {worker queue} ∪ {blocks held by threads} is exactly the
    multiset of blocks handed in through `esl_workqueue_Init` - nothing is lost, nothing is duplicated. -/
theorem wq_conservation {size : Nat} (hs : 0 < size) {s : Sys} (h : Reachable size s) :
    s.allBlocks.Perm s.inited :=
  (reachable_inv hs h).cons

/-- every block is in exactly one place (one queue slot or one thread's hands) -/
theorem wq_exclusive {size : Nat} (hs : 0 < size) {s : Sys} (h : Reachable size s) : s.allBlocks.Nodup :=
  ((reachable_inv hs h).cons.nodup_iff).mpr (reachable_inv hs h).nodup

/-- **FIFO on each side** (history variables): the blocks enqueued for the workers are, in order, the blocks the
    workers have dequeued followed by the current queue contents; same for the reader side (where `Remove`
    withdraws the most recently enqueued block). Hence the i-th dequeue returns the i-th enqueued block:
    every hand-in is handed out exactly once, in order. -/
theorem wq_fifo {size : Nat} (hs : 0 < size) {s : Sys} (h : Reachable size s) :
    s.wEnq = s.wDeq ++ s.wBlocks ∧ s.rEnq = s.rDeq ++ s.rBlocks :=
  ⟨(reachable_inv hs h).fifoW, (reachable_inv hs h).fifoR⟩

theorem wq_fifo_prefix {size : Nat} (hs : 0 < size) {s : Sys} (h : Reachable size s) :
    s.wDeq <+: s.wEnq ∧ s.rDeq <+: s.rEnq :=
  ⟨⟨_, (reachable_inv hs h).fifoW.symm⟩, ⟨_, (reachable_inv hs h).fifoR.symm⟩⟩

/-- **Counters stay in range**: both counts within `[0, size]`, both heads are valid indices, every queued
    pointer is non-NULL, and `pendingWorkers` is exactly the number of workers asleep on the condition variable. -/
theorem wq_counters {size : Nat} (hs : 0 < size) {s : Sys} (h : Reachable size s) :
    s.rq.cnt ≤ s.size ∧ s.wq.cnt ≤ s.size ∧ s.rq.head < s.size ∧ s.wq.head < s.size ∧
    s.rq.slots.length = s.size ∧ s.wq.slots.length = s.size ∧
    s.pending = (s.wWait.length : Int) ∧
    s.rq.contents s.size = s.rBlocks.map some ∧ s.wq.contents s.size = s.wBlocks.map some :=
  let i := reachable_inv hs h
  ⟨i.rwf.cnt, i.wwf.cnt, i.rwf.head, i.wwf.head, i.rwf.len, i.wwf.len, i.pend, i.rsome, i.wsome⟩

/-- **No lost wake-up (workers).** A worker asleep on `workerQueueCond` that has not been signalled since it went
    to sleep implies the worker queue is empty. -/
theorem wq_no_lost_wakeup_worker {size : Nat} (hs : 0 < size) {s : Sys} (h : Reachable size s) (w : Nat)
    (hw : s.workerAsleepUnsignalled w) : s.wq.cnt = 0 :=
  (reachable_inv hs h).nlwW (w, false) hw rfl

/-- **No lost wake-up (reader).** -/
theorem wq_no_lost_wakeup_reader {size : Nat} (hs : 0 < size) {s : Sys} (h : Reachable size s)
    (hw : s.rWait = some false) : s.rq.cnt = 0 :=
  (reachable_inv hs h).nlwR hw

/-- a woken worker whose queue is non-empty leaves `WorkerUpdate` with the head block (no thread waits while a
    block it is entitled to is available: by the previous theorem it has been signalled, and its wake step succeeds) -/
theorem wq_wake_delivers {size : Nat} (hs : 0 < size) {s : Sys} (h : Reachable size s) (w : Nat) (sg : Bool)
    (hw : (w, sg) ∈ s.wWait) (hc : s.wq.cnt ≠ 0) :
    ∃ s' b bs, step s (.workerWake w) = .ok s' ∧ s.wBlocks = b :: bs ∧ s'.wBlocks = bs ∧
      s'.got = (w, some b) :: s.got ∧ (w, b) ∈ s'.held :=
  wake_delivers s w sg (reachable_inv hs h) hw hc

/-- **Reset** moves all queued blocks back to the reader's list in order: worker queue empty afterwards, reader queue =
    old reader contents followed by the old worker contents, `pendingWorkers = 0` (`ha` is not used) -/
theorem wq_reset_spec {size : Nat} (hs : 0 < size) {s s' : Sys} (h : Reachable size s) (ha : Admissible s .reset)
    (hst : step s .reset = .ok s') : s'.wBlocks = [] ∧ s'.rBlocks = s.rBlocks ++ s.wBlocks ∧ s'.pending = 0 :=
  reset_spec s s' (reachable_inv hs h) hst

/-- the "queue overflow" exception (which would leave the mutex locked) is unreachable -/
theorem wq_no_overflow {size : Nat} (hs : 0 < size) {s : Sys} (h : Reachable size s) (l : Label)
    (ha : Admissible s l) : step s l ≠ .overflow :=
  step_no_overflow s l (reachable_inv hs h) ha

/-- list form used by the trace validator: every admissible schedule that runs to completion ends in a reachable state -/
theorem wq_run_reachable {size : Nat} (ls : List Label) (s' : Sys)
    (ha : AdmissibleRun (Sys.create size) ls) (hr : run (Sys.create size) ls = some s') : Reachable size s' :=
  run_reachable _ ls s' Reachable.create ha hr

/-! ### the FULL API: `esl_workqueue_Reset` at any moment (no contract on `Reset`)

`ReachableFull size s`: `s` is reached from `esl_workqueue_Create(size)` by any history of `Init` (each block once, at most `size`
blocks - the only contract left), `Remove`, `Reset`, `Complete`, `ReaderUpdate` / `WorkerUpdate` with every NULL / non-NULL
combination of `in` and `out`, and wake-ups, in any interleaving - `Reset` also while workers sleep and blocks are queued. -/

/-- **State conservation for every history of the full API.** Blocks are conserved and each is in exactly one place, both queues are
    FIFO (history variables), counters and heads stay in range, no NULL is queued, and the counters add up:
    `readerQueueCnt + workerQueueCnt + blocks in threads' hands = blocks handed in`. (What a `Reset` with sleeping workers does
    break is `pendingWorkers` = number of sleepers: `wq_reset_while_pending_loses_wakeup`.) -/
theorem wq_full_api_conservation {size : Nat} (hs : 0 < size) {s : Sys} (h : ReachableFull size s) :
    s.allBlocks.Perm s.inited ∧ s.allBlocks.Nodup ∧
    s.wEnq = s.wDeq ++ s.wBlocks ∧ s.rEnq = s.rDeq ++ s.rBlocks ∧
    s.rq.cnt ≤ s.size ∧ s.wq.cnt ≤ s.size ∧ s.rq.head < s.size ∧ s.wq.head < s.size ∧
    s.rq.contents s.size = s.rBlocks.map some ∧ s.wq.contents s.size = s.wBlocks.map some ∧
    s.rq.cnt + s.wq.cnt + s.held.length = s.inited.length :=
  let i := reachableFull_blocks hs h
  ⟨i.cons, (i.cons.nodup_iff).mpr i.nodup, i.w.fifo, i.r.fifo, i.r.wf.cnt, i.w.wf.cnt, i.r.wf.head, i.w.wf.head, i.r.allSome, i.w.allSome, i.count⟩

/-- the "queue overflow" exception is unreachable under the full API as well -/
theorem wq_full_api_no_overflow {size : Nat} (hs : 0 < size) {s : Sys} (h : ReachableFull size s) (l : Label)
    (ha : AdmissibleCore s l) : step s l ≠ .overflow :=
  blocks_no_overflow s l (reachableFull_blocks hs h) ha

/-- **`Reset` in every state** (blocks still queued on either side, the reader ring wrapped, workers asleep): the worker queue is
    empty afterwards, the reader queue is its old contents followed by the old worker-queue contents in order, nobody's holdings
    change; `pendingWorkers` is zeroed while the sleepers stay asleep. -/
theorem wq_reset_every_state {size : Nat} (hs : 0 < size) {s s' : Sys} (h : ReachableFull size s) (hst : step s .reset = .ok s') :
    s'.wBlocks = [] ∧ s'.rBlocks = s.rBlocks ++ s.wBlocks ∧ s'.pending = 0 ∧ s'.wWait = s.wWait ∧ s'.held = s.held :=
  reset_blocks s s' (reachableFull_blocks hs h) hst

/-- the contract-abiding histories are histories of the full API -/
theorem wq_reachable_full {size : Nat} {s : Sys} (h : Reachable size s) : ReachableFull size s := by
  induction h with
  | create => exact .create
  | @step s1 s2 l _ ha hst ih =>
    exact .step ih ha.core hst

/-- non-vacuity: size 2, worker 7 asleep, block 1 with the workers, block 2 with the reader: `Reset` while 7 sleeps (not admissible
    under the contract) - the state is reachable under the full API, the blocks are back in the reader's queue -/
example : ∃ s, run (Sys.create 2) [.init 1, .init 2, .readerUpdate none true, .workerUpdate 7 none true, .readerUpdate (some 1) true,
      .reset] = some s ∧ s.rBlocks = [1] ∧ s.wBlocks = [] ∧ s.wWait ≠ [] ∧ s.pending = 0 := by
  refine ⟨_, rfl, ?_, ?_, ?_, ?_⟩ <;> decide

/-! ## non-vacuity; why the contract on `Reset` is needed; what the unrepaired `Remove` loses -/

/-- a concrete non-trivial reachable state: 2 blocks, one worker asleep then served, one block in flight -/
def demoRun : List Label :=
  [.init 1, .init 2, .workerUpdate 7 none true, .readerUpdate none true, .readerUpdate (some 1) true,
   .workerWake 7, .workerUpdate 7 (some 1) true]

example : (run (Sys.create 2) demoRun).isSome = true := by decide
example : AdmissibleRun (Sys.create 2) demoRun := by decide
example : ∃ s, run (Sys.create 2) demoRun = some s ∧ s.wWait = [(7, false)] ∧ s.held = [(0, 2)] ∧ s.rBlocks = [1] := by
  refine ⟨_, rfl, ?_, ?_, ?_⟩ <;> decide

/-- **Why `Reset` must not run while a worker sleeps**: `pendingWorkers = 0` is stored although worker 7 is still
    in the wait set, so the next `ReaderUpdate` does not broadcast - the worker stays asleep, unsignalled, with a
    block in its queue (a lost wake-up). -/
theorem wq_reset_while_pending_loses_wakeup :
    ∃ s, run (Sys.create 2) [.init 1, .workerUpdate 7 none true, .reset, .readerUpdate none true,
                             .readerUpdate (some 1) false] = some s
      ∧ s.workerAsleepUnsignalled 7 ∧ s.wq.cnt = 1 := by
  refine ⟨_, rfl, ?_, ?_⟩ <;> decide

/-- **DESIGN §7 item 1**: with the unrepaired index `(head + cnt) % size`, `Remove` on a non-full queue reads a
    NULL slot and still decrements the count - the last block is lost (conservation fails). -/
theorem wq_unrepaired_remove_loses_block :
    let r := ((Ring.empty 4).push 4 (some 1)).push 4 (some 2)
    r.get ((r.head + r.cnt) % 4) = none ∧ (r.popLast 4).1 = some 2 := by decide

/-! ## dsqdata packet codec (`dsqdata_pack5/pack2/unpack5/unpack2/unpack_chunk`)

Digital sequences are lists of residue codes; every code `≤ 30` (31 is the in-packet end marker; the protein
alphabet uses 0..28, the nucleic one 0..17). Length 0 is included everywhere (`d = []`). -/
open EaselModel.Dsqdata

/-- **5-bit round trip**: unpacking a packed sequence - followed by whatever packets come next in the chunk -
    returns the sequence and consumes exactly its packets -/
theorem codec_unpack5_pack5 (d : List UInt8) (hd : ∀ x ∈ d, x ≤ 30) (tail : List UInt32) :
    unpack5 (pack5 d ++ tail) = some (d, (pack5 d).length) :=
  unpack5_pack5 d hd tail

/-- **mixed 2-bit/5-bit round trip** -/
theorem codec_unpack2_pack2 (d : List UInt8) (hd : ∀ x ∈ d, x ≤ 30) (tail : List UInt32) :
    unpack2 (pack2 d ++ tail) = some (d, (pack2 d).length) :=
  unpack2_pack2 d hd tail

/-- an all-5-bit (protein) packing is also read correctly by the mixed unpacker (claimed in the C comments) -/
theorem codec_unpack2_pack5 (d : List UInt8) (hd : ∀ x ∈ d, x ≤ 30) (tail : List UInt32) :
    unpack2 (pack5 d ++ tail) = some (d, (pack5 d).length) :=
  unpack2_pack5 d hd tail

/-- **packet count**: `P = max(1, ⌈n/6⌉)` for 5-bit packing, `1 ≤ P ≤ max(1, ⌈n/6⌉)` for mixed packing
    (the bound `esl_dsqdata_Write`/`chunk_Create` size their buffers with) -/
theorem codec_packet_count (d : List UInt8) :
    (pack5 d).length = max 1 ((d.length + 5) / 6) ∧
    1 ≤ (pack2 d).length ∧ (pack2 d).length ≤ max 1 ((d.length + 5) / 6) :=
  ⟨pack5_length d, pack2_length_le d⟩

/-- **EOD bit** is set on the last packet of a packed sequence and on no other -/
theorem codec_eod_last (d : List UInt8) (hd : ∀ x ∈ d, x ≤ 30) :
    (∀ i (hi : i < (pack5 d).length), (((pack5 d)[i] &&& EOD) != 0) = decide (i + 1 = (pack5 d).length)) ∧
    (∀ i (hi : i < (pack2 d).length), (((pack2 d)[i] &&& EOD) != 0) = decide (i + 1 = (pack2 d).length)) :=
  ⟨fun i hi => pack5_eod_last d hd i hi, fun i hi => pack2_eod_last d hd i hi⟩

/-- **chunk round trip**: `dsqdata_unpack_chunk` on the concatenation of the packed sequences of a chunk returns
    exactly those sequences, in order (both packings; empty sequences and empty chunks included) -/
theorem codec_unpack_chunk (ds : List (List UInt8)) (hd : ∀ d ∈ ds, ∀ x ∈ d, x ≤ 30) :
    unpackChunk true (ds.flatMap pack5) = some ds ∧ unpackChunk false (ds.flatMap pack2) = some ds :=
  ⟨unpackChunk_pack5 ds hd, unpackChunk_pack2 ds hd⟩

/-- **Metadata round trip**: from the bytes `esl_dsqdata_Write` stores for the sequences of a chunk (`name\\0 acc\\0
    desc\\0` + 4-byte taxonomy id each), the metadata loop of `dsqdata_unpack_chunk` recovers every sequence's own name,
    accession, description and taxonomy id, in order - for every list of records whose strings are C strings. -/
theorem codec_metadata_round_trip (rs : List MetaRec) (h : ∀ r ∈ rs, r.Wf) (tail : List UInt8) :
    parseMeta rs.length (rs.flatMap encodeMeta ++ tail) = some rs :=
  parseMeta_encode rs h tail

/-- **Packing in place never overwrites an unread residue** (`esl_dsqdata_Write` packs into `sq->dsq` itself).
    Packet `j` goes to bytes `4j … 4j+3`; residue `i` lives in byte `i`. When packet `j` is stored, the residues read so
    far (`segs` mirrors the packers' loops: one entry per packet, same length as the packet list) are either all of
    them, or at least `6 (j+1) ≥ 4j + 4` - so every byte the packet covers has been read.
    (The C comment's "`4P ≤ n` or `n = 0`" is not literally true - `n = 1` gives `P = 1` - which is why the buffer
    must hold at least one packet: `ESL_DASSERT1(sq->salloc >= 4)`.) -/
theorem codec_pack_in_place (d : List UInt8) :
    (segs5 d).length = (pack5Loop d).length ∧ (segs2 d none).length = (pack2Loop d none).length ∧
    (∀ j, j < (segs5 d).length → ((segs5 d).take (j + 1)).sum = d.length ∨ 4 * j + 4 ≤ ((segs5 d).take (j + 1)).sum) ∧
    (∀ j, j < (segs2 d none).length → ((segs2 d none).take (j + 1)).sum = d.length ∨ 4 * j + 4 ≤ ((segs2 d none).take (j + 1)).sum) := by
  have p5 := packs_pack5Loop false True d
  have p2 := packs_pack2Loop True d none (fun _ => cacheOK_none d)
  refine ⟨p5.segs_length, p2.segs_length, fun j hj => ?_, fun j hj => ?_⟩
  · rcases goodSegs_prefix _ _ p5.good j hj with h | h
    · exact Or.inl h
    · exact Or.inr (by omega)
  · rcases goodSegs_prefix _ _ p2.good j hj with h | h
    · exact Or.inl h
    · exact Or.inr (by omega)

/-- **`codec_pack_smem`: packing in place at BYTE level is the functional packer** (`esl_dsqdata_Write` calls
    `dsqdata_pack5/2(sq->dsq, sq->n, (uint32_t *) sq->dsq, &P)`). `packMem` runs the packers on the byte buffer itself - residue `i`
    read from byte `i` of the CURRENT contents, packet `j` stored into bytes `4j … 4j+3` of the same buffer, every store
    bounds-checked. For every sequence `d` (any codes, `n = 0` included) in a buffer of at least 4 bytes (`dsq[0 … n+1]` plus
    whatever slack `salloc` leaves): no store leaves the buffer, no residue is overwritten before it is read, and the first `4·P`
    bytes are exactly the packets `pack5 d` / `pack2 d` in native byte order, `P` their number. -/
theorem codec_pack_smem (amino : Bool) (d slack : List UInt8) (h4 : 4 ≤ (dsqBuffer d slack).length) :
    ∃ mem', packMem amino (dsqBuffer d slack) d.length = some (mem', (pk amino d).length) ∧
      mem'.take (4 * (pk amino d).length) = (pk amino d).flatMap enc32 ∧ mem'.length = (dsqBuffer d slack).length :=
  packMem_correct amino d slack h4

/-- the 4-byte minimum is needed (`ESL_DASSERT1(sq->salloc >= 4)`): a one-residue sequence in a 3-byte buffer stores outside it -/
example : packMem true (dsqBuffer [7] []) 1 = none := by decide +kernel
example : (packMem false (dsqBuffer [0, 1, 2, 3, 0, 1, 2, 3, 0, 1, 2, 3, 0, 1, 2, 15] []) 16).map (·.2) = some 2 := by decide +kernel

/-- **Unpacking in place never overwrites an unread packet** (`dsqdata_unpack_chunk` unpacks inside `smem`, the packed
    data having been read to its end: `psq = smem + U - 4·maxpacket`). For ANY packet contents (`packetResidues` is what
    `dsqdata_unpack5` / `unpack2` emit for a packet - `unpack_head_eod`, `unpack_head_more`), every chunk with at most
    `maxpacket` packets and `maxseq` sequences, and `U ≥ {6|15}·maxpacket + maxseq + 1` as `dsqdata_chunk_Create`
    allocates: when packet `p` is about to be read, all bytes written so far lie below its first byte, and at the end
    everything written fits `smem`. -/
theorem codec_unpack_in_place (mode5 : Bool) (ps : List UInt32) (maxpacket maxseq U : Nat)
    (hpn : ps.length ≤ maxpacket) (hN : eodCount ps ≤ maxseq) (hU : per mode5 * maxpacket + maxseq + 1 ≤ U) :
    (∀ p, p < ps.length → writeFront mode5 (ps.take p) 1 ≤ (U - 4 * maxpacket) + 4 * p) ∧
    writeFront mode5 ps 1 ≤ U :=
  unpack_in_place_safe mode5 ps maxpacket maxseq U hpn hN hU

/-- **`dsqdata_chunk_Create`'s buffer layout**: `U = {6|15}·maxpacket + maxseq + 1` rounded up to a multiple of 4 satisfies the
    hypothesis of `codec_unpack_in_place`; `psq = smem + U - 4·maxpacket` is 4-byte aligned (given `malloc`'s alignment of
    `smem`), lies at least one byte above `smem[0]`, and exactly `maxpacket` packets fit between it and the end of the buffer. -/
theorem codec_chunk_layout (mode5 : Bool) (maxpacket maxseq : Nat) :
    per mode5 * maxpacket + maxseq + 1 ≤ chunkU mode5 maxpacket maxseq ∧
    chunkPsqOff mode5 maxpacket maxseq + 4 * maxpacket = chunkU mode5 maxpacket maxseq ∧
    chunkPsqOff mode5 maxpacket maxseq % 4 = 0 ∧ 1 ≤ chunkPsqOff mode5 maxpacket maxseq :=
  ⟨(chunkU_ge mode5 maxpacket maxseq).1, chunk_layout mode5 maxpacket maxseq⟩

/-- **`codec_unpack_smem`: unpacking in place at BYTE level is the functional unpacker.** `unpackChunkMem` runs
    `dsqdata_unpack_chunk`'s sequence loop (with `dsqdata_unpack5` / `_unpack2` inside) on the byte buffer itself: packets are
    read from `smem + psqOff + 4·pos`, residues and sentinels are stored into the same buffer from byte 1 upwards, every access
    bounds-checked. In the buffer `dsqdata_chunk_Create` makes for `(maxpacket, maxseq)`, whatever it held before (`fill`), with
    the `pn ≤ maxpacket` packets of ANY chunk of `N ≤ maxseq` sequences that the functional `unpackChunk` accepts placed where the
    loader `fread`s them: no access leaves the buffer, no unread packet is overwritten, and afterwards `smem[0 …]` is the leading
    sentinel followed by every sequence and its sentinel, `(dsq[i] - smem, L[i])` = `segsOf 0 ds`. -/
theorem codec_unpack_smem (mode5 : Bool) (ps : List UInt32) (maxpacket maxseq : Nat) (fill : UInt8) (ds : List (List UInt8))
    (hpn : ps.length ≤ maxpacket) (hN : eodCount ps ≤ maxseq) (hds : unpackChunk mode5 ps = some ds) :
    ∃ mem', unpackChunkMem mode5 (loadedSmem mode5 maxpacket maxseq ps fill) (chunkPsqOff mode5 maxpacket maxseq) ps.length
        = some (mem', segsOf 0 ds) ∧
      mem'.length = chunkU mode5 maxpacket maxseq ∧ mem'.take (smemLayout ds).length = smemLayout ds :=
  unpackChunkMem_correct mode5 ps maxpacket maxseq fill ds hpn hN hds

/-- … in particular for the packets of any sequences that were packed (`pack5` for protein, `pack2` otherwise; codes ≤ 30,
    empty sequences included) and fit the limits: pack → loader's buffer → unpack in place returns the sequences, byte for byte. -/
theorem codec_pack_unpack_smem (amino : Bool) (ds : List (List UInt8)) (maxpacket maxseq : Nat) (fill : UInt8)
    (hd : ∀ d ∈ ds, ∀ x ∈ d, x ≤ 30) (hpn : (ds.flatMap (pk amino)).length ≤ maxpacket) (hN : ds.length ≤ maxseq) :
    ∃ mem', unpackChunkMem amino (loadedSmem amino maxpacket maxseq (ds.flatMap (pk amino)) fill)
        (chunkPsqOff amino maxpacket maxseq) (ds.flatMap (pk amino)).length = some (mem', segsOf 0 ds) ∧
      mem'.length = chunkU amino maxpacket maxseq ∧ mem'.take (smemLayout ds).length = smemLayout ds :=
  unpackChunkMem_packed amino ds maxpacket maxseq fill hd hpn hN

/-- non-vacuity: two DNA sequences (15 canonical residues = one full 2-bit packet; one degenerate residue), limits exactly met -/
example : (unpackChunkMem false (loadedSmem false 2 2 ([[0, 1, 2, 3, 0, 1, 2, 3, 0, 1, 2, 3, 0, 1, 2], [15]].flatMap (pk false)) 7)
      (chunkPsqOff false 2 2) 2).map (fun r => (r.1.take 19, r.2))
    = some (smemLayout [[0, 1, 2, 3, 0, 1, 2, 3, 0, 1, 2, 3, 0, 1, 2], [15]], [(0, 15), (16, 1)]) := by decide +kernel
/-- the limits are needed: one packet more than the buffer was made for, and the loader's `fread` lands outside / the unpacker faults -/
example : chunkPsqOff false 1 1 + 4 * 2 > chunkU false 1 1 := by decide

example : (∀ x ∈ [0, 1, 2, 3, 15, 30, 0, (7 : UInt8)], x ≤ 30) := by decide
example : unpack2 (pack2 [0, 1, 2, 3, 15, 30, 0, 7]) = some ([0, 1, 2, 3, 15, 30, 0, 7], 2) := by decide +kernel
/-- the hypothesis `≤ 30` is needed: code 31 is read back as the end marker -/
example : unpack5 (pack5 [1, 31, 2]) = some ([1], 1) := by decide +kernel

/-! ## dsqdata loader arithmetic (`dsqdata_loader_thread`: index carry-over and the `nload` computation) -/

/-- **`nload` is the largest prefix whose packets fit** (`1 ≤ nload`): under the loader's running assumption that the
    first record fits, the binary search returns `n` with record `n-1` fitting and record `n` (if any) not fitting;
    no out-of-bounds index (`some`). With strictly increasing ends (`chooseNload_max`): record `k` fits iff `k < n`; here
    `hinc` is not used. -/
theorem loader_nload_largest_prefix (idx : List Rec) (psqLast maxpacket : Int) (hne : idx ≠ [])
    (hinc : EndsIncreasing idx) (hfirst : (idx[0]'(List.length_pos_iff.mpr hne)).psqEnd - psqLast ≤ maxpacket) :
    ∃ n, chooseNload idx psqLast maxpacket = some n ∧ 1 ≤ n ∧ n ≤ idx.length ∧
      (∀ (h : n - 1 < idx.length), (idx[n-1]).psqEnd - psqLast ≤ maxpacket) ∧
      (∀ (h : n < idx.length), (idx[n]).psqEnd - psqLast > maxpacket) :=
  chooseNload_spec idx psqLast maxpacket hne hfirst

/-- **The loader cuts the database into maximal contiguous chunks and never faults**, for every database
    (`ps` = packets per sequence, `ms` = metadata bytes per sequence, index as `esl_dsqdata_Write` writes it), every
    `maxseq ≥ 1` and every `maxpacket`, under the writer's guarantee that one sequence fits a chunk (`p ≤ maxpacket`):
    chunk `j` starts where chunk `j-1` ended, all sequences are covered, `1 ≤ N ≤ maxseq`, `pn ≤ maxpacket` is the
    packet sum of its sequences, and a chunk stops short of `maxseq` only if the next sequence does not fit. -/
theorem loader_chunks_partition (ps ms : List Nat) (maxseq : Nat) (maxpacket : Int) (hlen : ps.length = ms.length)
    (hps : ∀ p ∈ ps, 1 ≤ p ∧ (p : Int) ≤ maxpacket) (hms : 1 ≤ maxseq) :
    ∃ cs, loaderChunks maxseq maxpacket (ps.length + 1) (LState.init (indexOf (ps.zip ms) 0 0)) = some cs ∧
      (cs.map (·.n)).sum = ps.length ∧
      (∀ j (hj : j < cs.length), (cs[j]).i0 = ((cs.take j).map (·.n)).sum) ∧
      (∀ c ∈ cs, 1 ≤ c.n ∧ c.n ≤ maxseq ∧ c.i0 + c.n ≤ ps.length ∧ 0 ≤ c.pn ∧ c.pn ≤ maxpacket ∧
        c.pn = (((ps.drop c.i0).take c.n).sum : Nat) ∧ c.nmeta = (((ms.drop c.i0).take c.n).sum : Nat)) ∧
      (∀ c ∈ cs, c.n < maxseq → c.i0 + c.n < ps.length → c.pn + (ps.getD (c.i0 + c.n) 0 : Nat) > maxpacket) :=
  loaderChunks_spec ps ms maxseq maxpacket hlen hps hms

/-- **Write → index → loader → unpacker reproduces the database.** For every database `ds` (residue codes ≤ 30, empty
    sequences and the empty database included), either packing, every metadata size list, every `maxseq ≥ 1` and every
    `maxpacket` that holds the longest packed sequence (the writer's guarantee): the loader cuts the index into chunks
    without fault; the packets it reads for chunk `c` (the `pn` packets following those of all earlier sequences)
    unpack - by `dsqdata_unpack_chunk` - to exactly the stored sequences `i0 … i0+N-1`; and the chunks in order tile the
    database, so the concatenation of the chunks in chunk order (which `pipe_order` shows is the order `Read` hands them
    out, each once) is the list of stored sequences. -/
theorem dsq_chunks_are_the_database (amino : Bool) (ds : List (List UInt8)) (ms : List Nat) (maxseq : Nat) (maxpacket : Int)
    (hlen : ds.length = ms.length) (hd : ∀ d ∈ ds, ∀ x ∈ d, x ≤ 30) (hms : 1 ≤ maxseq)
    (hfit : ∀ d ∈ ds, ((pk amino d).length : Int) ≤ maxpacket) :
    let ps := ds.map fun d => (pk amino d).length
    ∃ cs, loaderChunks maxseq maxpacket (ds.length + 1) (LState.init (indexOf (ps.zip ms) 0 0)) = some cs ∧
      (∀ c ∈ cs, unpackChunk amino (((ds.flatMap (pk amino)).drop (pre ps c.i0)).take c.pn.toNat)
                  = some ((ds.drop c.i0).take c.n)) ∧
      (cs.map fun c => (ds.drop c.i0).take c.n).flatten = ds :=
  chunks_unpack_to_database amino ds ms maxseq maxpacket hlen hd hms hfit

/-- the guarantee is needed: a sequence with more packets than a chunk holds makes the loader overrun its buffer -/
example : loaderChunks 4 10 3 (LState.init (indexOf ([3, 11].zip [5, 5]) 0 0)) = none := by decide


/-! ## the on-disk format at byte level: `esl_dsqdata_Write` → four files → `esl_dsqdata_Open` → loader `fread`s → unpacker

`writeDb tag alphatype fname fmt db` are the BYTES of the stub, `.dsqi`, `.dsqm`, `.dsqs` files `esl_dsqdata_Write` produces
for the records `db` (`tag` = the random `uniquetag`), `openDb` is `esl_dsqdata_Open`'s validation of four byte strings,
`readDb maxseq maxpacket` runs `dsqdata_loader_thread`'s main loop (three `fread`s per chunk) and `dsqdata_unpack_chunk`
over the opened bytes. `SeqRec.Wf`: name/accession/description are C strings (no NUL), the taxonomy id fits an
`int32_t`, residue codes ≤ 30. -/
section bytes
open EaselModel.Dsqdata

/-- **`Open (Write db) = ok` with the stated counts**, for every database the writer accepts (protein, DNA or RNA; every
    sequence shorter than `6 · eslDSQDATA_CHUNK_MAXPACKET`), every tag, with or without a caller-supplied alphabet of the
    right type: the header fields read back are the tag, the alphabet type, the maximum lengths, `nseq`, `nres`
    (`writtenHeader`), 5-bit mode iff protein, and the three data files are positioned behind their headers. -/
theorem dsq_open_written (tag alphatype : Nat) (fname fmt : List UInt8) (db : List SeqRec)
    (hty : alphatype = 1 ∨ alphatype = 2 ∨ alphatype = 3) (hlen : ∀ r ∈ db, r.dsq.length < 6 * MAXPACKET)
    (expect : Option Nat) (hexp : expect = none ∨ expect = some alphatype) :
    ∃ f, writeDb tag alphatype fname fmt db = .ok f ∧
      openDb expect f = .ok (writtenHeader tag alphatype (alphatype == 3) db) ∧
      (writtenHeader tag alphatype (alphatype == 3) db).nseq = db.length % 2 ^ 64 ∧
      (writtenHeader tag alphatype (alphatype == 3) db).nres = (db.map fun r => r.dsq.length).sum % 2 ^ 64 :=
  let ⟨f, h1, h2⟩ := openDb_writeDb tag alphatype fname fmt db hty hlen expect hexp
  ⟨f, h1, h2, rfl, rfl⟩

/-- **Bytes → database, end to end.** For EVERY database of well-formed records, every tag, every `chunk_maxseq ≥ 1` and
    every `chunk_maxpacket` that holds the longest packed sequence: the files written by `esl_dsqdata_Write` are accepted by
    `esl_dsqdata_Open`, and the byte-level loader + unpacker run to the end of data without fault or short read and deliver
    chunks `out` such that
    * the concatenation of the chunks' records, in chunk order, is exactly `db` - every record once, with its own name,
      accession, description, taxonomy id (all four bytes, e.g. ids ≥ 0x80) and residues;
    * chunk `j` starts at record `i0 = Σ_{k<j} N_k`, holds `1 ≤ N ≤ maxseq` records, `pn ≤ maxpacket` packets (`Tiles`).
    (`2^63`: the index stores positions as `int64_t`.) The number of unpackers and consumers does not enter: by `pipe_order`
    the chunks are handed out in this order whatever the schedule - see `dsq_threaded_read_is_database`. -/
theorem dsq_bytes_round_trip (tag alphatype : Nat) (fname fmt : List UInt8) (db : List SeqRec) (maxseq : Nat) (maxpacket : Int)
    (hty : alphatype = 1 ∨ alphatype = 2 ∨ alphatype = 3) (hwf : ∀ r ∈ db, r.Wf)
    (hlen : ∀ r ∈ db, r.dsq.length < 6 * MAXPACKET) (hms : 1 ≤ maxseq)
    (hfit : ∀ r ∈ db, ((pk (alphatype == 3) r.dsq).length : Int) ≤ maxpacket)
    (h1 : (db.map fun r => (pk (alphatype == 3) r.dsq).length).sum < 2 ^ 63)
    (h2 : (db.map fun r => (encodeMeta (metaOf r)).length).sum < 2 ^ 63)
    (expect : Option Nat) (hexp : expect = none ∨ expect = some alphatype) :
    ∃ f o out, writeDb tag alphatype fname fmt db = .ok f ∧ openDb expect f = .ok o ∧
      readDb maxseq maxpacket o = some out ∧ out.flatMap (·.2) = db ∧
      Tiles (alphatype == 3) db maxseq maxpacket 0 out := by
  obtain ⟨f, hw, ho⟩ := openDb_writeDb tag alphatype fname fmt db hty hlen expect hexp
  obtain ⟨out, hr, ht, hdb, _⟩ := written_read tag alphatype db maxseq maxpacket hwf hms hfit h1 h2
  exact ⟨f, _, out, hw, ho, hr, hdb, ht⟩

/-- **… and every chunk unpacks IN PLACE.** Each chunk `c` the byte-level loader delivers for the written database (`Tiles`, from
    `dsq_bytes_round_trip`), placed in the buffer `dsqdata_chunk_Create` makes for the reader's `(chunk_maxpacket, chunk_maxseq)` -
    whatever a recycled buffer still holds (`fill`) - is unpacked by the byte-level `dsqdata_unpack_chunk` without leaving the
    buffer or overwriting an unread packet, to exactly the residues of its records: `smem` = sentinel, sequence, sentinel, … -/
theorem dsq_chunks_unpack_in_place (amino : Bool) (db : List SeqRec) (maxseq : Nat) (maxpacket : Int) (hwf : ∀ r ∈ db, r.Wf)
    (fill : UInt8) (out : List (BChunk × List SeqRec)) (ht : Tiles amino db maxseq maxpacket 0 out) :
    ∀ c ∈ out, ∃ mem', unpackChunkMem amino (loadedSmem amino maxpacket.toNat maxseq c.1.psq fill)
          (chunkPsqOff amino maxpacket.toNat maxseq) c.1.pn = some (mem', segsOf 0 (c.2.map (·.dsq))) ∧
        mem'.take (smemLayout (c.2.map (·.dsq))).length = smemLayout (c.2.map (·.dsq)) :=
  tiles_unpack_in_place amino db maxseq maxpacket hwf fill out 0 ht

/-- with the library's own limits (`eslDSQDATA_CHUNK_MAXSEQ`, `eslDSQDATA_CHUNK_MAXPACKET`) the hypothesis "`maxpacket` holds
    the longest packed sequence" is the writer's guarantee `L < 6 · eslDSQDATA_CHUNK_MAXPACKET` -/
theorem dsq_bytes_round_trip_defaults (tag alphatype : Nat) (fname fmt : List UInt8) (db : List SeqRec)
    (hty : alphatype = 1 ∨ alphatype = 2 ∨ alphatype = 3) (hwf : ∀ r ∈ db, r.Wf)
    (hlen : ∀ r ∈ db, r.dsq.length < 6 * MAXPACKET)
    (h1 : (db.map fun r => (pk (alphatype == 3) r.dsq).length).sum < 2 ^ 63)
    (h2 : (db.map fun r => (encodeMeta (metaOf r)).length).sum < 2 ^ 63) :
    ∃ f o out, writeDb tag alphatype fname fmt db = .ok f ∧ openDb none f = .ok o ∧
      readDb MAXSEQ MAXPACKET o = some out ∧ out.flatMap (·.2) = db := by
  obtain ⟨f, o, out, a, b, c, d, _⟩ := dsq_bytes_round_trip tag alphatype fname fmt db MAXSEQ (MAXPACKET : Nat) hty hwf hlen
    (by decide) (fun r hr => pk_fits_maxpacket _ r.dsq (hlen r hr)) h1 h2 none (Or.inl rfl)
  exact ⟨f, o, out, a, b, c, d⟩

/-- **A corrupted magic or tag is answered `eslEFORMAT`.** In the files written for any database, replace the magic `m` and/or
    the tag `t` at the head of ONE of the three data files (every 8-byte string is `le32 m ++ le32 t` for some `m`, `t`):
    `esl_dsqdata_Open` returns the documented `eslEFORMAT` - "index file has bad tag" (18), "index file has bad magic" (19),
    "metadata file has bad magic/tag" (24/25), "sequence file has bad magic/tag" (28/29) - except that the byteswapped magic
    in the index file is the `eslEUNIMPLEMENTED` exception ("cannot yet read data in different byte orders"). -/
theorem dsq_open_corrupt_header (tag alphatype : Nat) (fname fmt : List UInt8) (db : List SeqRec) (f : Files)
    (hty : alphatype = 1 ∨ alphatype = 2 ∨ alphatype = 3) (hw : writeDb tag alphatype fname fmt db = .ok f)
    (expect : Option Nat) (hexp : expect = none ∨ expect = some alphatype) (m t : Nat) :
    (t % 4294967296 ≠ tag % 4294967296 → openDb expect (patchIdx f m t) = .eformat 18) ∧
    (t % 4294967296 = tag % 4294967296 → m % 4294967296 = MAGIC_SWAP → openDb expect (patchIdx f m t) = .eunimplemented) ∧
    (t % 4294967296 = tag % 4294967296 → m % 4294967296 ≠ MAGIC_SWAP → m % 4294967296 ≠ MAGIC →
        openDb expect (patchIdx f m t) = .eformat 19) ∧
    (m % 4294967296 ≠ MAGIC → openDb expect (patchMdat f m t) = .eformat 24) ∧
    (m % 4294967296 = MAGIC → t % 4294967296 ≠ tag % 4294967296 → openDb expect (patchMdat f m t) = .eformat 25) ∧
    (m % 4294967296 ≠ MAGIC → openDb expect (patchSeq f m t) = .eformat 28) ∧
    (m % 4294967296 = MAGIC → t % 4294967296 ≠ tag % 4294967296 → openDb expect (patchSeq f m t) = .eformat 29) :=
  open_corrupt tag alphatype fname fmt db f hty hw expect hexp m t

/-- the tag line of the stub file round-trips through `fprintf` / `fgets`+`strtok`+`strtoul`, whatever follows it -/
theorem dsq_stub_tag (tag : Nat) (rest : List UInt8) : parseStub (stubLine1 tag ++ rest) = .ok (tag % 4294967296) :=
  parseStub_stubLine1 tag rest


/-- **`open_rejects`: wrong alphabet type, foreign stub.** On the files written for any database of alphabet type `alphatype`
    (with `dsq_open_corrupt_header` for the magic / tag of the three data files this covers every check `esl_dsqdata_Open` makes):
    a caller whose alphabet has another type gets `eslEFORMAT` (20, "data files use a different alphabet"); with the type field
    of the index header overwritten by `a`, a caller with the right alphabet gets the same refusal and a caller without one
    gets `eslEFORMAT` (21, "invalid alphabet type") when `a` is 0 (`eslUNKNOWN`) or above 6; a stub file whose tag line carries
    another tag than the index file gets `eslEFORMAT` (18, "index file has bad tag"), whatever follows the tag line. -/
theorem open_rejects (tag alphatype : Nat) (fname fmt : List UInt8) (db : List SeqRec) (f : Files)
    (hty : alphatype = 1 ∨ alphatype = 2 ∨ alphatype = 3) (hw : writeDb tag alphatype fname fmt db = .ok f) :
    (∀ t, t ≠ alphatype → openDb (some t) f = .eformat 20) ∧
    (∀ a, a % 4294967296 ≠ alphatype → openDb (some alphatype) (patchType f a) = .eformat 20) ∧
    (∀ a, a % 4294967296 = 0 ∨ a % 4294967296 > 6 → openDb none (patchType f a) = .eformat 21) ∧
    (∀ t rest expect, t % 4294967296 ≠ tag % 4294967296 → openDb expect (patchStub f t rest) = .eformat 18) :=
  open_rejects_lemma tag alphatype fname fmt db f hty hw

/-- non-vacuity: a DNA database of two records (a taxonomy id with a byte ≥ 0x80, an empty sequence), one record per chunk -/
def demoDb : List SeqRec := [⟨[115, 49], [65], [100, 32, 101], 9734, [0, 1, 2, 3, 15, 0]⟩, ⟨[115, 50], [], [], 4294967295, []⟩]
example : ∀ r ∈ demoDb, r.Wf := by
  intro r hr
  simp only [demoDb, List.mem_cons, List.not_mem_nil, or_false] at hr
  rcases hr with rfl | rfl <;> (unfold SeqRec.Wf; decide)
example : (match writeDb 305419896 2 [] [] demoDb with
    | .ok f => (match openDb none f with
      | .ok o => (readDb 1 4 o).map (fun out => (out.map fun c => (c.1.i0, c.1.n, c.1.pn), out.flatMap (·.2)))
      | _ => none)
    | _ => none) = some ([(0, 1, 1), (1, 1, 1)], demoDb) := by decide +kernel

/-- a wrong alphabet is refused: caller expects `t`, the files say otherwise -/
example : openDb (some 3) (match writeDb 7 2 [] [] [] with | .ok f => f | _ => ⟨[], [], [], []⟩) = .eformat 20 := by decide +kernel

/-- `open_rejects`, concretely: the type field of a DNA database overwritten by 0 / by 7, and a stub with another tag -/
example : openDb none (patchType (match writeDb 7 2 [] [] demoDb with | .ok f => f | _ => ⟨[], [], [], []⟩) 0) = .eformat 21 := by decide +kernel
example : openDb none (patchType (match writeDb 7 2 [] [] demoDb with | .ok f => f | _ => ⟨[], [], [], []⟩) 7) = .eformat 21 := by decide +kernel
example : openDb none (patchStub (match writeDb 7 2 [] [] demoDb with | .ok f => f | _ => ⟨[], [], [], []⟩) 8 [65, 10]) = .eformat 18 := by decide +kernel

end bytes

/-! ## esl_threads start rendezvous (`AddThread`, `WaitForStart`, `Started`), every schedule, any number of workers -/
section threads
open EaselModel.Threads

/-- **Barrier.** No worker returns from `esl_threads_Started` before every created worker has arrived and the
    master has given the go signal. -/
theorem th_barrier {s : Threads.Sys} (h : Threads.Reachable s) (w : Nat) (hw : w ∈ s.passed) :
    s.master = .released ∧ s.notStarted = [] := by
  have i := Threads.reachable_inv h
  have hr : s.master = .released := by
    apply Classical.byContradiction; intro hn
    have := (i.pre hn).2; rw [this] at hw; simp at hw
  exact ⟨hr, (i.post hr).2⟩

/-- until the release, `startThread` counts exactly the workers blocked at the gate; every worker is in one place -/
theorem th_counter {s : Threads.Sys} (h : Threads.Reachable s) :
    s.notStarted.length + s.wWait.length + s.passed.length = s.count ∧
    (s.master ≠ .released → s.startThread = s.wWait.length) ∧ (s.master = .released → s.startThread = 0) :=
  let i := Threads.reachable_inv h
  ⟨i.part, fun hn => (i.pre hn).1, fun hr => (i.post hr).1⟩

/-- **No lost wake-up (master).** A master asleep in `WaitForStart` without a broadcast since it went to sleep
    implies some worker has not arrived yet (and will broadcast when it does). -/
theorem th_no_lost_wakeup_master {s : Threads.Sys} (h : Threads.Reachable s) (hm : s.master = .waiting false) :
    s.notStarted ≠ [] := by
  have i := Threads.reachable_inv h
  have hlt := i.nlwM hm
  have hp := i.pre (by rw [hm]; simp)
  have := i.part
  intro hn; rw [hn, hp.2] at this; simp at this; omega

/-- **No lost wake-up (workers)** and nobody waits forever: after the release every sleeping worker has been
    signalled, and its wake step returns from `Started`; once all workers have arrived, the master's wake step
    releases; a worker that has not arrived can always arrive. -/
theorem th_progress {s : Threads.Sys} (h : Threads.Reachable s) :
    (s.master = .released → ∀ w sg, (w, sg) ∈ s.wWait → sg = true ∧ ∃ s', Threads.step s (.workerWake w) = some s' ∧ w ∈ s'.passed) ∧
    (∀ sg, s.master = .waiting sg → s.notStarted = [] → ∃ s', Threads.step s .masterWake = some s' ∧ s'.master = .released) ∧
    (∀ w ∈ s.notStarted, (Threads.step s (.arrive w)).isSome) := by
  have i := Threads.reachable_inv h
  refine ⟨fun hr w sg hw => ⟨i.nlwW hr _ hw, Threads.wake_passes s i hr w sg hw⟩,
          fun sg hm hn => Threads.master_releases s i sg hm hn, fun w hw => by simp [Threads.step, hw]⟩

/-- non-vacuity: 3 workers, the first arrives before the last one is even created -/
example : ∃ s, Threads.run Threads.Sys.create [.add, .add, .arrive 0, .add, .masterWait, .arrive 2, .workerWake 0, .arrive 1,
      .masterWake, .workerWake 1, .workerWake 0] = some s ∧ s.passed = [0, 1] ∧ s.wWait = [(2, true)] ∧ s.master = .released := by
  refine ⟨_, rfl, ?_, ?_, ?_⟩ <;> decide
end threads

/-! ## dsqdata reader pipeline (loader, `U` unpackers, any number of consumers), every schedule

`Pipeline.Reachable U T C s`: `s` is reachable from `esl_dsqdata_Open` on a database of `T` chunks with `U`
unpackers by any interleaving of loader / unpacker / consumer steps (one per mutex-protected region, spurious
wake-ups allowed, any number of consumers calling `Read` and `Recycle` in any order). -/
section pipeline
open EaselModel.Pipeline

/-- **Order, exactly once.** The chunks returned by `esl_dsqdata_Read`, in the order of the consumer-shared counter
    `nchunk`, are chunk 0, 1, 2, … - each exactly once, none skipped - whatever the schedule. -/
theorem pipe_order {U T C : Nat} (hU : 0 < U) {s : Pipeline.Sys} (h : Pipeline.Reachable U T C s) :
    s.returned = List.range s.nchunk ∧ s.nchunk ≤ s.T :=
  let i := Pipeline.reachable_inv hU h
  ⟨i.ret, Nat.le_trans i.bounds.1 i.bounds.2⟩

/-- **EOF only after everything.** A consumer is told `eslEOF` only when all `T` chunks have been returned. -/
theorem pipe_eof_after_all {U T C : Nat} (hU : 0 < U) {s : Pipeline.Sys} (h : Pipeline.Reachable U T C s)
    (he : s.eofs ≠ []) : s.returned = List.range s.T := by
  have i := Pipeline.reachable_inv hU h
  rw [i.ret, i.eof he]

/-- chunk numbers inside the pipeline: each lane `u` carries, oldest first, strictly increasing numbers `≡ u (mod U)`
    from `[nchunk, nchunkL)`, and every number of that interval is in its lane (nothing lost inside the pipeline) -/
theorem pipe_lanes {U T C : Nat} (hU : 0 < U) {s : Pipeline.Sys} (h : Pipeline.Reachable U T C s) :
    (∀ u < s.U, (s.lane u).ks.Pairwise (· < ·) ∧ ∀ k ∈ (s.lane u).ks, k % s.U = u ∧ s.nchunk ≤ k ∧ k < s.nchunkL) ∧
    (∀ k, s.nchunk ≤ k → k < s.nchunkL → k ∈ (s.lane (k % s.U)).ks) ∧ s.nchunkL ≤ s.T :=
  let i := Pipeline.reachable_inv hU h
  ⟨fun u hu => ⟨i.sorted u hu, i.range u hu⟩, i.complete, i.bounds.2⟩

/-- **No deadlock.** In every reachable state some thread can take a step that is not a wait: the loader, an
    unpacker, a consumer holding a chunk (`Recycle` never blocks), or a consumer calling `Read` (it returns a chunk or
    EOF at once). In particular the pipeline never blocks forever as long as consumers keep calling Read and Recycle,
    and when everything has finished `Read` answers EOF immediately (`readBlocked = false`). -/
theorem pipe_no_deadlock {U T C : Nat} (hU : 0 < U) {s : Pipeline.Sys} (h : Pipeline.Reachable U T C s) :
    Pipeline.loaderBlocked s = false ∨ (∃ u < s.U, Pipeline.unpBlocked s u = false) ∨ s.cheld ≠ [] ∨
      Pipeline.readBlocked s = false :=
  let i := Pipeline.reachable_inv2 hU h
  Pipeline.no_deadlock s i.1 i.2 (by rw [Pipeline.reachable_limit h]; omega)

/-- **No lost wake-up.** Whatever the schedule: a loader / unpacker / consumer that is asleep on its condition variable
    and has not been signalled since it went to sleep is still rightly waiting - the condition it waits for is false
    (`…Blocked = true`). Hence whenever a sleeper could proceed it has a signal pending, and together with
    `pipe_no_deadlock` no thread waits for ever while it could make progress. -/
theorem pipe_no_lost_wakeup {U T C : Nat} (hU : 0 < U) {s : Pipeline.Sys} (h : Pipeline.Reachable U T C s) :
    (s.lwait = some false → Pipeline.loaderBlocked s = true) ∧
    (∀ u < s.U, (s.lane u).uwait = some false → Pipeline.unpBlocked s u = true) ∧
    (s.reader.isSome = true → s.rsig = false → Pipeline.readBlocked s = true) :=
  let w := Pipeline.reachable_winv hU h
  ⟨w.lw, w.uw, w.rw⟩

/-- **EOF reaches every consumer.** In any reachable state in which all `T` chunks have been returned and the unpacker
    serving the lane of the next `Read` has exited, `esl_dsqdata_Read` by any consumer `c` returns EOF immediately, as
    often as it is called (with `pipe_no_deadlock` / `pipe_no_lost_wakeup`: the pipeline gets there). -/
theorem pipe_eof_delivered {U T C : Nat} (hU : 0 < U) {s : Pipeline.Sys} (h : Pipeline.Reachable U T C s)
    (hn : s.nchunk = s.T) (hd : (s.lane (s.nchunk % s.U)).upc = .done) (hr : s.reader = none) (c : Nat) :
    Pipeline.step s (.read c) = some { s with reader := none, eofs := c :: s.eofs } :=
  let i := Pipeline.reachable_inv2 hU h
  Pipeline.read_eof_at_end s i.1 i.2 hn hd hr c

/-- **Buffers are conserved and all destroyed at exit.** Chunk buffers created = live + destroyed; every live buffer
    is in exactly one place (a lane, the recycling stack, a consumer's hands, the loader's hands), `nalloc` counts
    them; when the loader thread has exited every buffer it created has been destroyed and none is left anywhere. -/
theorem pipe_buffers {U T C : Nat} (hU : 0 < U) {s : Pipeline.Sys} (h : Pipeline.Reachable U T C s) :
    s.live = s.nalloc ∧ s.nextBuf = s.nalloc + s.freed ∧
    (s.lpc = .done → s.freed = s.nextBuf ∧ s.recycling = [] ∧ s.cheld = [] ∧ s.nalloc = 0) := by
  have i := (Pipeline.reachable_inv2 hU h).2
  refine ⟨i.count, i.created, fun hd => ?_⟩
  have hn := Pipeline.reachable_done h hd
  have := Pipeline.loader_exit_clean s i hd hn
  exact ⟨this.1, this.2.1, this.2.2, hn⟩

/-- non-vacuity: 3 chunks through 2 unpackers, two consumers; chunk 0 and 1 returned in order -/
example : ∃ s, Pipeline.run (Pipeline.Sys.create 2 3 2)
    [.loader, .loader, .loader, .unpacker 0, .loader, .loader, .loader, .unpacker 1, .unpacker 0, .read 7, .unpacker 1, .read 8, .recycle 7 0 0]
      = some s ∧ s.returned = [0, 1] ∧ s.cheld = [(8, (1, 1))] ∧ s.recycling = [0] := by
  refine ⟨_, rfl, ?_, ?_, ?_⟩ <;> decide

/-- **The threaded reader delivers the database, from bytes, for every schedule.** Let `out` be the chunks of the byte-level
    read (`dsq_bytes_round_trip`) and `s` any state the pipeline model reaches - any number `U ≥ 1` of unpackers, any number of
    consumers, any interleaving - on a database of `out.length` chunks. Then the chunks `esl_dsqdata_Read` has handed out so
    far are, in `nchunk` order, the first `s.nchunk` chunks - their records are a prefix of `db` - and once any consumer has
    been told `eslEOF` they are all of them: the concatenation of their records is exactly `db`. -/
theorem dsq_threaded_read_is_database {U C : Nat} (hU : 0 < U) (amino : Bool) (db : List Dsqdata.SeqRec) (maxseq : Nat)
    (maxpacket : Int) (out : List (Dsqdata.BChunk × List Dsqdata.SeqRec)) (ht : Dsqdata.Tiles amino db maxseq maxpacket 0 out)
    {s : Pipeline.Sys} (h : Pipeline.Reachable U out.length C s) :
    (s.returned.flatMap fun k => (out.getD k Dsqdata.noChunk).2) = (out.take s.nchunk).flatMap (·.2) ∧
    (s.eofs ≠ [] → (s.returned.flatMap fun k => (out.getD k Dsqdata.noChunk).2) = db) := by
  have hT := Pipeline.reachable_T h
  have hord := pipe_order hU h
  refine ⟨?_, fun he => ?_⟩
  · rw [hord.1]; exact Dsqdata.range_flatMap_take out _ s.nchunk (by rw [← hT]; exact hord.2)
  · rw [pipe_eof_after_all hU h he, hT, Dsqdata.range_flatMap_take out _ out.length (Nat.le_refl _), List.take_length]
    simpa using Dsqdata.tiles_flatten_db amino db maxseq maxpacket out 0 ht

/-- **`read_written_database`: Write → four files → Open → threaded Read, for every database, every chunk limits, every
    schedule.** For every database `db` of well-formed records (any number incl. 0, lengths incl. 0, every residue code the
    packers accept (≤ 30), names / accessions / descriptions any NUL-free bytes, any 32-bit taxonomy id), every tag, every
    `chunk_maxseq ≥ 1` and `chunk_maxpacket` that holds the longest packed sequence (the documented minimum), every number of
    unpackers `U ≥ 1` and of consumers: `esl_dsqdata_Write` produces the four byte strings `f`; `esl_dsqdata_Open` accepts
    them; the byte-level loader and unpacker deliver chunks `out` whose records, chunk by chunk, are `db` in order (`Tiles`:
    chunk `j` starts at record `Σ_{k<j} N_k`, `1 ≤ N ≤ maxseq`, `pn ≤ maxpacket`), the loader then meets end of data; and in
    EVERY state `s` the pipeline reaches under ANY interleaving, what `esl_dsqdata_Read` has handed out so far is the records of
    the first `s.nchunk` chunks - a prefix of `db`, each record once with its own metadata - and as soon as any consumer has
    been told `eslEOF` it is exactly `db`. -/
theorem read_written_database {U C : Nat} (hU : 0 < U) (tag alphatype : Nat) (fname fmt : List UInt8) (db : List Dsqdata.SeqRec)
    (maxseq : Nat) (maxpacket : Int) (hty : alphatype = 1 ∨ alphatype = 2 ∨ alphatype = 3) (hwf : ∀ r ∈ db, r.Wf)
    (hlen : ∀ r ∈ db, r.dsq.length < 6 * Dsqdata.MAXPACKET) (hms : 1 ≤ maxseq)
    (hfit : ∀ r ∈ db, ((Dsqdata.pk (alphatype == 3) r.dsq).length : Int) ≤ maxpacket)
    (h1 : (db.map fun r => (Dsqdata.pk (alphatype == 3) r.dsq).length).sum < 2 ^ 63)
    (h2 : (db.map fun r => (Dsqdata.encodeMeta (Dsqdata.metaOf r)).length).sum < 2 ^ 63)
    (expect : Option Nat) (hexp : expect = none ∨ expect = some alphatype) :
    ∃ f o out, Dsqdata.writeDb tag alphatype fname fmt db = .ok f ∧ Dsqdata.openDb expect f = .ok o ∧
      Dsqdata.readDb maxseq maxpacket o = some out ∧ out.flatMap (·.2) = db ∧
      Dsqdata.Tiles (alphatype == 3) db maxseq maxpacket 0 out ∧
      ∀ s : Pipeline.Sys, Pipeline.Reachable U out.length C s →
        (s.returned.flatMap fun k => (out.getD k Dsqdata.noChunk).2) = (out.take s.nchunk).flatMap (·.2) ∧
        (∃ rest, db = ((out.take s.nchunk).flatMap (·.2)) ++ rest) ∧
        (s.eofs ≠ [] → (s.returned.flatMap fun k => (out.getD k Dsqdata.noChunk).2) = db) := by
  obtain ⟨f, o, out, a, b, c, d, e⟩ := dsq_bytes_round_trip tag alphatype fname fmt db maxseq maxpacket hty hwf hlen hms hfit h1 h2
    expect hexp
  refine ⟨f, o, out, a, b, c, d, e, fun s hs => ?_⟩
  have t := dsq_threaded_read_is_database hU (alphatype == 3) db maxseq maxpacket out e hs
  refine ⟨t.1, ⟨(out.drop s.nchunk).flatMap (·.2), ?_⟩, t.2⟩
  rw [← List.flatMap_append, List.take_append_drop]; exact d.symm

/-- non-vacuity of `read_written_database`: the two-record DNA database `demoDb` (a taxonomy id with high bytes, an empty
    sequence), one record per chunk, satisfies every hypothesis -/
example : (∀ r ∈ demoDb, r.dsq.length < 6 * Dsqdata.MAXPACKET) ∧ (∀ r ∈ demoDb, ((Dsqdata.pk ((2 : Nat) == 3) r.dsq).length : Int) ≤ 4) ∧
    (demoDb.map fun r => (Dsqdata.pk ((2 : Nat) == 3) r.dsq).length).sum < 2 ^ 63 ∧
    (demoDb.map fun r => (Dsqdata.encodeMeta (Dsqdata.metaOf r)).length).sum < 2 ^ 63 := by
  refine ⟨?_, ?_, by decide +kernel, by decide +kernel⟩
  · intro r hr
    simp only [demoDb, List.mem_cons, List.not_mem_nil, or_false] at hr
    rcases hr with rfl | rfl <;> decide
  · intro r hr
    simp only [demoDb, List.mem_cons, List.not_mem_nil, or_false] at hr
    rcases hr with rfl | rfl <;> decide +kernel

/-! ### ownership and lock discipline (what stands in for data-race freedom in the interleaving model) -/

/-- **`chunk_ownership_exclusive`.** In every state the pipeline reaches, under any interleaving: every chunk buffer `b` has
    at most one owner among {the loader, `inbox[u]`, unpacker `u`, `outbox[u]`, consumer `c`, the recycling stack}
    (`Sys.owners` lists them by name); a buffer that has not been created yet has none; and the buffers that have an owner are
    exactly the created-and-not-yet-destroyed ones (`live = nalloc`, `nextBuf = nalloc + freed`). So a chunk's contents - touched
    outside any mutex only by the thread that holds it - never have two parties. -/
theorem chunk_ownership_exclusive {U T C : Nat} (hU : 0 < U) {s : Pipeline.Sys} (h : Pipeline.Reachable U T C s) (b : Nat) :
    (s.owners b).length ≤ 1 ∧ (s.nextBuf ≤ b → s.owners b = []) ∧ s.live = s.nalloc ∧ s.nextBuf = s.nalloc + s.freed := by
  have o := Pipeline.reachable_own hU h
  have i := Pipeline.reachable_inv hU h
  have i2 := (Pipeline.reachable_inv2 hU h).2
  have hl := Pipeline.owners_length s b i.len
  refine ⟨by rw [hl]; exact o.excl b, fun hb => ?_, i2.count, i2.created⟩
  have := o.fresh b hb
  rw [← hl] at this
  exact List.eq_nil_of_length_eq_zero this

/-- **`pipe_lock_discipline`.** For every step `l` the pipeline takes from a reachable state `s`: a shared field of
    `ESL_DSQDATA` (`inbox[u]`/`inbox_eod[u]`, `outbox[u]`/`outbox_eod[u]`, `nchunk`, `recycling`) changes only if the critical
    section the step models holds the mutex guarding it (`Pipeline.held s l` - the harness checks on every observed region that
    the executing thread really holds it); thread-private variables (the loader's program counter / chunk in hand / counters,
    unpacker `u`'s program counter / chunk in hand) change only in steps of their own thread. Both hold of every step from
    every state: `hU` and `h` are not used. -/
theorem pipe_lock_discipline {U T C : Nat} (hU : 0 < U) {s s' : Pipeline.Sys} (h : Pipeline.Reachable U T C s) (l : Pipeline.Label)
    (hs : Pipeline.step s l = some s') :
    Pipeline.Frame s s' (Pipeline.held s l) ∧
    (l ≠ .loader → s'.lpc = s.lpc ∧ s'.nchunkL = s.nchunkL ∧ s'.nalloc = s.nalloc) ∧
    (∀ u, l ≠ .unpacker u → (s'.lane u).upc = (s.lane u).upc) :=
  ⟨Pipeline.step_frame s s' l hs, Pipeline.step_private s s' l hs⟩

/-- **`pipe_wait_conditions_guarded` (reads).** The conditions of the `while (…) pthread_cond_wait(…)` loops - loader: "no buffer on
    the recycling stack" / "`inbox[u]` still full"; unpacker: "`inbox[u]` empty and not EOD" / "`outbox[u]` still full"; `Read`:
    "`outbox[u]` empty and not EOD" with `u = nchunk % n_unpackers` - are functions of the acting thread's private variables and
    of the shared fields guarded by the mutexes the step holds: two states that agree on those (`AgreeOn (held s l)`) but differ
    arbitrarily in every other shared field give the same held set and the same condition (the locality theorems below extend this to
    every read of a step). -/
theorem pipe_wait_conditions_guarded (s t : Pipeline.Sys) (l : Pipeline.Label) (h : Pipeline.AgreeOn (Pipeline.held s l) s t) :
    Pipeline.held t l = Pipeline.held s l ∧
    (l = .loader → Pipeline.loaderBlocked t = Pipeline.loaderBlocked s) ∧
    (∀ u, l = .unpacker u → Pipeline.unpBlocked t u = Pipeline.unpBlocked s u) ∧
    ((∃ c, l = .read c) ∨ l = .readWake → Pipeline.readBlocked t = Pipeline.readBlocked s) :=
  Pipeline.wait_condition_guarded s t l h

/-- **`pipe_lane_local` (reads and writes).** A step neither reads nor writes any box of a lane other than the one its critical
    section works on (`Pipeline.actsOn s l`: the lane of `inbox_mutex[u]` / `outbox_mutex[u]` it holds; none for thread-local steps
    and for the recycling stack): overwriting the WHOLE lane `v` - `inbox[v]`, `inbox_eod[v]`, `outbox[v]`, `outbox_eod[v]`, even
    unpacker `v`'s private state - with arbitrary contents `a` before the step gives the same result as overwriting it after the
    step. So what another thread does to lane `v` under lane `v`'s mutexes can neither influence nor be disturbed by the step.
    `hv` is not used: beyond the last lane both sides are `step s l`. -/
theorem pipe_lane_local (s : Pipeline.Sys) (l : Pipeline.Label) (v : Nat) (a : Pipeline.Lane) (hv : v < s.lanes.length)
    (h : Pipeline.actsOn s l ≠ some v) :
    Pipeline.step (s.setLane v a) l = (Pipeline.step s l).map (·.setLane v a) :=
  Pipeline.step_lane_local s l v a h

/-- **`pipe_recycling_nchunk_local` (reads and writes).** The recycling stack is read and written only by steps holding
    `recycling_mutex`, the consumer-shared counter `nchunk` only by steps holding `nchunk_mutex`: every other step commutes with
    an arbitrary change of the field (for `nchunk`: while no consumer sleeps inside `Read` - a sleeping consumer keeps
    `nchunk_mutex`, so nobody else can change the counter then; the model's `pthread_cond_signal(&outbox_cv[u])` consults it only
    to locate that sleeper). With `pipe_lane_local`, `pipe_wait_conditions_guarded`, the write frame of `pipe_lock_discipline`
    and `pipe_half_lane_local` this is the read side of the lock discipline. -/
theorem pipe_recycling_nchunk_local (s : Pipeline.Sys) (l : Pipeline.Label) :
    (∀ R, Pipeline.Mutex.recycling ∉ Pipeline.held s l →
        Pipeline.step (s.setRecycling R) l = (Pipeline.step s l).map (·.setRecycling R)) ∧
    (∀ n, Pipeline.Mutex.nchunk ∉ Pipeline.held s l → s.reader = none →
        Pipeline.step (s.setNchunk n) l = (Pipeline.step s l).map (·.setNchunk n)) :=
  ⟨fun R h => Pipeline.step_recycling_local s l R h, fun n h hr => Pipeline.step_nchunk_local s l n h hr⟩

/-- **`pipe_half_lane_local` (reads and writes).** Inside the lane `u` its critical section works on, a step that holds
    `inbox_mutex[u]` only (loader putting a chunk / setting EOD, unpacker taking a chunk) neither reads nor writes `outbox[u]` /
    `outbox_eod[u]`, and a step that holds `outbox_mutex[u]` only (unpacker delivering, `Read`) neither reads nor writes
    `inbox[u]` / `inbox_eod[u]`: it commutes with an arbitrary change of the half it does not hold. Together with
    `pipe_lane_local` (other lanes), `pipe_recycling_nchunk_local` and the write frame: EVERY access of a step to a shared field
    of `ESL_DSQDATA` - read or write - is to a field guarded by a mutex the step holds. (`hu` and `ha` are not used.) -/
theorem pipe_half_lane_local (s : Pipeline.Sys) (l : Pipeline.Label) (u : Nat) (hu : u < s.lanes.length)
    (ha : Pipeline.actsOn s l = some u) :
    (∀ ob oe, Pipeline.Mutex.outbox u ∉ Pipeline.held s l →
        Pipeline.step (s.pokeOut u ob oe) l = (Pipeline.step s l).map (·.pokeOut u ob oe)) ∧
    (∀ ib ie, Pipeline.Mutex.inbox u ∉ Pipeline.held s l →
        Pipeline.step (s.pokeIn u ib ie) l = (Pipeline.step s l).map (·.pokeIn u ib ie)) :=
  Pipeline.step_half_lane_local s l u

/-- non-vacuity: with 2 unpackers the loader's put of chunk 0 works on lane 0, so lane 1 may hold anything -/
example : ∃ s, Pipeline.run (Pipeline.Sys.create 2 3 2) [.loader, .loader] = some s ∧ Pipeline.actsOn s .loader = some 0 ∧
    1 < s.lanes.length := ⟨_, rfl, by decide, by decide⟩

/-- non-vacuity of `pipe_lock_discipline`: the loader's third step (putting chunk 0 into inbox 0) holds exactly `inbox_mutex[0]`,
    a consumer's `Read` holds `nchunk_mutex` and the outbox mutex of the lane it reads, creating a chunk holds nothing -/
example : Pipeline.held (Pipeline.Sys.create 2 3 2) .loader = [] ∧
    (∃ s, Pipeline.run (Pipeline.Sys.create 2 3 2) [.loader, .loader] = some s ∧ Pipeline.held s .loader = [.inbox 0]) ∧
    Pipeline.held (Pipeline.Sys.create 2 3 2) (.read 7) = [.nchunk, .outbox 0] := by
  refine ⟨by decide, ⟨_, rfl, by decide⟩, by decide⟩

/-- non-vacuity: after the 13-step run of the example under `pipe_buffers`, plus two loader steps, buffer 0 is on the recycling stack, buffer 1 with consumer 8, buffer 2
    in the loader's hands, buffer 3 does not exist yet -/
example : ∃ s, Pipeline.run (Pipeline.Sys.create 2 3 2)
    [.loader, .loader, .loader, .unpacker 0, .loader, .loader, .loader, .unpacker 1, .unpacker 0, .read 7, .unpacker 1, .read 8, .recycle 7 0 0, .loader, .loader]
      = some s ∧ s.owners 0 = [.recycling] ∧ s.owners 1 = [.consumer 8] ∧ s.owners 2 = [.loader] ∧ s.owners 3 = [] := by
  refine ⟨_, rfl, ?_, ?_, ?_, ?_⟩ <;> decide

/-! ### progress: a variant function, and liveness under weak fairness (strengthens `pipe_no_deadlock`) -/

/-- **The variant.** `Pipeline.phi` (the loader's remaining program - 6 per chunk still to load plus its cleanup phase -, per lane the
    unpacker's remaining work, 2 per chunk not yet returned by `Read`, 1 per chunk in a consumer's hands) never increases, and every
    step that is not a wait - the stepping thread was not blocked, a `Read` that returns a chunk, a `Recycle` - strictly decreases
    it. Hence from a state `s` at most `phi s` non-wait steps can ever happen, whatever the schedule. -/
theorem pipe_variant {U T C : Nat} (hU : 0 < U) {s s' : Pipeline.Sys} (h : Pipeline.Reachable U T C s) (l : Pipeline.Label)
    (hs : Pipeline.step s l = some s') :
    Pipeline.phi s' ≤ Pipeline.phi s ∧ (Pipeline.isProgress s l = true → Pipeline.phi s' < Pipeline.phi s) :=
  Pipeline.step_phi s s' l (Pipeline.reachable_inv hU h) hs

/-- **A wait is a stutter.** A step that is not progress (a blocked thread going to sleep or back to sleep after a spurious wake-up,
    a `Read` that sleeps or answers EOF) changes nothing that decides whether any thread can make progress. -/
theorem pipe_wait_is_stutter {U T C : Nat} (hU : 0 < U) {s s' : Pipeline.Sys} (h : Pipeline.Reachable U T C s) (l : Pipeline.Label)
    (hs : Pipeline.step s l = some s') (hp : Pipeline.isProgress s l = false) (t : Pipeline.Thread) :
    Pipeline.canProgress s' t = Pipeline.canProgress s t :=
  Pipeline.quiet_canProgress (Pipeline.step_quiet s s' l (Pipeline.reachable_inv hU h) hs hp) t

/-- **Progress is always possible until `Read` can answer the final EOF**: in every reachable state either all `T` chunks have been
    returned and `Read` answers `eslEOF` at once, or some thread - the loader, an unpacker, a consumer calling `Read` (it gets a
    chunk), a consumer recycling - has a step that is not a wait. -/
theorem pipe_progress_enabled {U T C : Nat} (hU : 0 < U) {s : Pipeline.Sys} (h : Pipeline.Reachable U T C s) :
    (s.nchunk = s.T ∧ Pipeline.readBlocked s = false) ∨ ∃ t, Pipeline.canProgress s t = true := by
  by_cases hg : Pipeline.Goal s
  · exact Or.inl hg
  · have i := Pipeline.reachable_inv2 hU h
    exact Or.inr (Pipeline.progress_enabled s i.1 i.2 (by rw [Pipeline.reachable_limit h]; omega) hg)

/-- **Liveness under weak fairness.** Take ANY infinite execution of the pipeline from a reachable state (`Pipeline.Exec`: a state and a
    label for every step index, each step a transition - any number `U ≥ 1` of unpackers, any number of consumers, spurious wake-ups,
    any interleaving) that is weakly fair (`Pipeline.WeaklyFair`: a thread - loader, unpacker `u`, "a consumer calls `Read`", "a consumer
    recycles" - that can make progress from some point on for ever does take a step). Then some state of it has every chunk returned
    by `esl_dsqdata_Read` (`nchunk = T`; by `pipe_order` these were chunks `0 … T-1`, each once, in order) and `Read` answers
    `eslEOF` at once (and by `pipe_eof_delivered` to every consumer that asks). No thread waits for ever. -/
theorem pipe_liveness_weak_fairness {U T C : Nat} (hU : 0 < U) (e : Pipeline.Exec U T C) (hf : Pipeline.WeaklyFair e) :
    ∃ j, (e.st j).nchunk = T ∧ Pipeline.readBlocked (e.st j) = false ∧ (e.st j).returned = List.range T := by
  obtain ⟨j, h1, h2⟩ := Pipeline.fair_reaches_eof hU e hf
  exact ⟨j, h1, h2, by rw [(pipe_order hU (e.reach j)).1, h1]⟩

/-- **The hypotheses of the liveness theorem are satisfiable**: a weakly fair infinite execution exists (`Pipeline.demoExec`: one chunk
    through one unpacker to one consumer - 15 steps - then `Read` answering EOF for ever); more generally any finite schedule that
    runs the pipeline to its quiescent end, followed by `Read` calls for ever, is one (`Pipeline.execOf_fair`). -/
theorem pipe_fair_execution_exists : ∃ e : Pipeline.Exec 1 1 1, Pipeline.WeaklyFair e ∧ (e.st 15).nchunk = 1 :=
  ⟨Pipeline.demoExec, Pipeline.demoExec_fair, by decide⟩

/-- non-vacuity of the variant: 3 chunks, 2 unpackers, 2 consumers start at `phi = 39`; the run of the example further up (13 steps,
    all of them progress) has brought it down by 13 -/
example : Pipeline.phi (Pipeline.Sys.create 2 3 2) = 39 := by decide
example : ∃ s, Pipeline.run (Pipeline.Sys.create 2 3 2)
    [.loader, .loader, .loader, .unpacker 0, .loader, .loader, .loader, .unpacker 1, .unpacker 0, .read 7, .unpacker 1, .read 8, .recycle 7 0 0]
      = some s ∧ Pipeline.phi s = 26 := by
  refine ⟨_, rfl, ?_⟩; decide

/-! ### a database whose `.dsqs` / `.dsqm` was cut short behind the header: the loader's fatal branch

`Pipeline.FReachable U T C F x`: the pipeline on a database whose index announces `T` chunks while the data of chunk number `F` is
missing (`F ≥ T`: nothing is missing): any interleaving as before, except that the loader's `fread` of chunk `F` comes back short →
`ESL_XEXCEPTION` → `esl_fatal` → `exit(1)` (`x.aborted`: the process, with every unpacker and consumer in it, has ended). -/

/-- **Up to the fatal error the pipeline behaves as on the intact database**: its state is a state the intact pipeline reaches, so
    order / exactly-once, lane discipline, ownership exclusivity, lock discipline and buffer conservation (all theorems above) hold
    in every state before - and at - the moment the process ends. -/
theorem pipe_cut_safety {U T C F : Nat} {x : Pipeline.FSys} (h : Pipeline.FReachable U T C F x) :
    Pipeline.Reachable U T C x.s ∧ x.failAt = F :=
  Pipeline.freachable_base h

/-- **A cut database is never passed off as a complete one.** With the data of chunk `F < T` missing, under every schedule: what
    `esl_dsqdata_Read` has handed out is chunks `0 … nchunk-1` in order with `nchunk ≤ F` (only chunks that were read completely),
    no consumer is ever told `eslEOF`, and the loader never reaches its clean-exit path. -/
theorem pipe_cut_never_eof {U T C F : Nat} (hU : 0 < U) (hF : F < T) {x : Pipeline.FSys} (h : Pipeline.FReachable U T C F x) :
    x.s.returned = List.range x.s.nchunk ∧ x.s.nchunk ≤ F ∧ x.s.eofs = [] ∧ x.s.lpc ≠ .done := by
  obtain ⟨hb, hf⟩ := Pipeline.freachable_base h
  have i := Pipeline.reachable_inv hU hb
  have j := Pipeline.freachable_cutInv hF h
  rw [hf] at j
  have hn : x.s.nchunk ≤ F := Nat.le_trans i.bounds.1 j.nl
  refine ⟨i.ret, hn, ?_, ?_⟩
  · apply Classical.byContradiction
    intro he
    have := i.eof he
    have hT := Pipeline.reachable_T hb
    omega
  · intro hd
    have := j.past
    rw [hd] at this
    simp [Pipeline.LPc.past] at this

/-- **No consumer is left waiting for ever (no deadlock), also on a cut database.** In every state reached, either the process has
    ended with the loader's fatal error, or some thread can take a step that is not a wait - exactly as in `pipe_no_deadlock` - and a
    step is enabled in the cut pipeline exactly when it is in the intact one (the abort takes the place of the loader's `fread` step,
    which is never a wait). So a consumer blocked in `esl_dsqdata_Read` always gets an answer: a chunk, `eslEOF`, or the end of
    the process by `esl_fatal`. -/
theorem pipe_cut_no_deadlock {U T C F : Nat} (hU : 0 < U) {x : Pipeline.FSys} (h : Pipeline.FReachable U T C F x) :
    x.aborted = true ∨
      ((Pipeline.loaderBlocked x.s = false ∨ (∃ u < x.s.U, Pipeline.unpBlocked x.s u = false) ∨ x.s.cheld ≠ [] ∨
          Pipeline.readBlocked x.s = false) ∧
       ∀ l, (Pipeline.fstep x l).isSome = (Pipeline.step x.s l).isSome) := by
  cases ha : x.aborted with
  | true => exact Or.inl rfl
  | false => exact Or.inr ⟨pipe_no_deadlock hU (Pipeline.freachable_base h).1, fun l => Pipeline.fstep_isSome x l ha⟩

/-- after the abort nobody moves: `exit(1)` has ended every thread -/
theorem pipe_cut_abort_final (x : Pipeline.FSys) (ha : x.aborted = true) (l : Pipeline.Label) : Pipeline.fstep x l = none := by
  simp [Pipeline.fstep, ha]

/-- non-vacuity: 3 chunks announced, the data of chunk 1 missing, 2 unpackers: chunk 0 is delivered, then the loader's `fread` of
    chunk 1 ends the process; nobody was told EOF. -/
example : ∃ x, Pipeline.frun ⟨Pipeline.Sys.create 2 3 2, 1, false⟩
    [.loader, .loader, .loader, .unpacker 0, .unpacker 0, .read 7, .loader, .loader] = some x ∧
      x.aborted = true ∧ x.s.returned = [0] ∧ x.s.eofs = [] := by
  refine ⟨_, rfl, ?_, ?_, ?_⟩ <;> decide

/-- the byte-level loader with its outcomes kept apart (`loaderIterX`, `loaderRunX`) is the loader of `read_written_database`:
    `loaderChunksB` answers exactly when the run ends with end of data, with the same chunks; a short `fread` of packets or
    metadata is the fatal outcome, never a chunk and never end of data. -/
theorem dsq_loader_outcomes (maxseq : Nat) (maxpacket : Int) (fuel : Nat) (st : Dsqdata.BState) :
    Dsqdata.loaderChunksB maxseq maxpacket fuel st =
      if (Dsqdata.loaderRunX maxseq maxpacket fuel st).2 = .eof then some (Dsqdata.loaderRunX maxseq maxpacket fuel st).1 else none :=
  Dsqdata.loaderRunX_B maxseq maxpacket fuel st

/-- **A written database with `.dsqs` or `.dsqm` cut short behind the header, at ANY byte.** Same hypotheses as
    `dsq_bytes_round_trip`; `out` = the chunks of the intact database. `esl_dsqdata_Open` has read the headers (`o`); of the packet file
    (resp. the metadata file) only the first `m` bytes behind the header exist. Then the byte-level loader (`loaderRunX`: its main
    loop with the outcomes kept apart) either does exactly what it does on the intact files - all chunks, then end of data: the cut
    was behind the last byte - or loads a PREFIX of the intact database's chunks, byte for byte the same chunks, and then stops in
    its fatal short-read branch (`expected w, got g`, `g < w`). It never delivers a wrong or partial chunk, never faults, and never
    reports end of data early: with `pipe_cut_never_eof` / `pipe_cut_no_deadlock` (`F` = the length of that prefix) no consumer is
    handed a damaged record, told EOF, or left waiting. -/
theorem dsq_cut_data_files (tag alphatype : Nat) (fname fmt : List UInt8) (db : List Dsqdata.SeqRec) (maxseq : Nat) (maxpacket : Int)
    (hty : alphatype = 1 ∨ alphatype = 2 ∨ alphatype = 3) (hwf : ∀ r ∈ db, r.Wf)
    (hlen : ∀ r ∈ db, r.dsq.length < 6 * Dsqdata.MAXPACKET) (hms : 1 ≤ maxseq)
    (hfit : ∀ r ∈ db, ((Dsqdata.pk (alphatype == 3) r.dsq).length : Int) ≤ maxpacket)
    (h1 : (db.map fun r => (Dsqdata.pk (alphatype == 3) r.dsq).length).sum < 2 ^ 63)
    (h2 : (db.map fun r => (Dsqdata.encodeMeta (Dsqdata.metaOf r)).length).sum < 2 ^ 63)
    (expect : Option Nat) (hexp : expect = none ∨ expect = some alphatype) (m : Nat) :
    ∃ f o out, Dsqdata.writeDb tag alphatype fname fmt db = .ok f ∧ Dsqdata.openDb expect f = .ok o ∧
      Dsqdata.readDb maxseq maxpacket o = some out ∧ out.flatMap (·.2) = db ∧
      Dsqdata.loaderRunX maxseq maxpacket (o.ifp.length / 16 + 2) (Dsqdata.BState.init o) = (out.map (·.1), .eof) ∧
      (Dsqdata.loaderRunX maxseq maxpacket (o.ifp.length / 16 + 2) { Dsqdata.BState.init o with sfp := o.sfp.take m } = (out.map (·.1), .eof) ∨
        ∃ k w g, (Dsqdata.loaderRunX maxseq maxpacket (o.ifp.length / 16 + 2) { Dsqdata.BState.init o with sfp := o.sfp.take m }).1
                    = (out.map (·.1)).take k ∧
          (Dsqdata.loaderRunX maxseq maxpacket (o.ifp.length / 16 + 2) { Dsqdata.BState.init o with sfp := o.sfp.take m }).2
                    = .fatalPackets w g ∧ g < w) ∧
      (Dsqdata.loaderRunX maxseq maxpacket (o.ifp.length / 16 + 2) { Dsqdata.BState.init o with mfp := o.mfp.take m } = (out.map (·.1), .eof) ∨
        ∃ k w g, (Dsqdata.loaderRunX maxseq maxpacket (o.ifp.length / 16 + 2) { Dsqdata.BState.init o with mfp := o.mfp.take m }).1
                    = (out.map (·.1)).take k ∧
          (Dsqdata.loaderRunX maxseq maxpacket (o.ifp.length / 16 + 2) { Dsqdata.BState.init o with mfp := o.mfp.take m }).2
                    = .fatalMeta w g ∧ g < w) := by
  obtain ⟨f, hw, ho⟩ := Dsqdata.openDb_writeDb tag alphatype fname fmt db hty hlen expect hexp
  obtain ⟨out, hr, _, hdb, hrun⟩ := Dsqdata.written_read tag alphatype db maxseq maxpacket hwf hms hfit h1 h2
  exact ⟨f, _, out, hw, ho, hr, hdb, hrun, (Dsqdata.cut_of_run hrun m).1, (Dsqdata.cut_of_run hrun m).2⟩

/-- **… from the cut FILES.** The same, starting at the bytes on disk: in the four files written for `db`, cut `.dsqs` (resp. `.dsqm`)
    `m` bytes behind its 8-byte header. `esl_dsqdata_Open` accepts the files (the headers are intact) and the loader then delivers the
    intact database's chunks `out` - all of them followed by end of data, or a prefix of them followed by its fatal short-read error. -/
theorem dsq_cut_files (tag alphatype : Nat) (fname fmt : List UInt8) (db : List Dsqdata.SeqRec) (maxseq : Nat) (maxpacket : Int)
    (hty : alphatype = 1 ∨ alphatype = 2 ∨ alphatype = 3) (hwf : ∀ r ∈ db, r.Wf)
    (hlen : ∀ r ∈ db, r.dsq.length < 6 * Dsqdata.MAXPACKET) (hms : 1 ≤ maxseq)
    (hfit : ∀ r ∈ db, ((Dsqdata.pk (alphatype == 3) r.dsq).length : Int) ≤ maxpacket)
    (h1 : (db.map fun r => (Dsqdata.pk (alphatype == 3) r.dsq).length).sum < 2 ^ 63)
    (h2 : (db.map fun r => (Dsqdata.encodeMeta (Dsqdata.metaOf r)).length).sum < 2 ^ 63)
    (expect : Option Nat) (hexp : expect = none ∨ expect = some alphatype) (m : Nat) :
    ∃ (f : Dsqdata.Files) (out : List (Dsqdata.BChunk × List Dsqdata.SeqRec)) (os om : Dsqdata.Opened),
      Dsqdata.writeDb tag alphatype fname fmt db = .ok f ∧ out.flatMap (·.2) = db ∧
      Dsqdata.openDb expect { f with seq := f.seq.take (8 + m) } = .ok os ∧
      (Dsqdata.loaderRunX maxseq maxpacket (os.ifp.length / 16 + 2) (Dsqdata.BState.init os) = (out.map (·.1), .eof) ∨
        ∃ k w g, (Dsqdata.loaderRunX maxseq maxpacket (os.ifp.length / 16 + 2) (Dsqdata.BState.init os)).1 = (out.map (·.1)).take k ∧
          (Dsqdata.loaderRunX maxseq maxpacket (os.ifp.length / 16 + 2) (Dsqdata.BState.init os)).2 = .fatalPackets w g ∧ g < w) ∧
      Dsqdata.openDb expect { f with mdat := f.mdat.take (8 + m) } = .ok om ∧
      (Dsqdata.loaderRunX maxseq maxpacket (om.ifp.length / 16 + 2) (Dsqdata.BState.init om) = (out.map (·.1), .eof) ∨
        ∃ k w g, (Dsqdata.loaderRunX maxseq maxpacket (om.ifp.length / 16 + 2) (Dsqdata.BState.init om)).1 = (out.map (·.1)).take k ∧
          (Dsqdata.loaderRunX maxseq maxpacket (om.ifp.length / 16 + 2) (Dsqdata.BState.init om)).2 = .fatalMeta w g ∧ g < w) := by
  obtain ⟨f, hw, hos, hom⟩ := Dsqdata.openDb_cut tag alphatype fname fmt db hty hlen expect hexp m
  obtain ⟨out, _, _, hdb, hrun⟩ := Dsqdata.written_read tag alphatype db maxseq maxpacket hwf hms hfit h1 h2
  exact ⟨f, out, _, _, hw, hdb, hos, (Dsqdata.cut_of_run hrun m).1, hom, (Dsqdata.cut_of_run hrun m).2⟩

/-- **The loader's end-of-data check (`i0 != dd->nseq`, fix 78cbf46) passes on every written database**: with the check in the model
    (`readDbX`) the read of what `esl_dsqdata_Write` wrote still ends with end of data - the count of sequences in the chunks is the
    index header's `nseq` - for every database of fewer than `2^64` records under the hypotheses of `read_written_database`. (A `.dsqi`
    cut behind its header fails the check: `dsq_cut_index_never_eof` below; the loader's fatal branch is tied by the `dsqcut` runs.) -/
theorem dsq_written_passes_nseq_check (tag alphatype : Nat) (db : List Dsqdata.SeqRec) (maxseq : Nat) (maxpacket : Int)
    (hwf : ∀ r ∈ db, r.Wf) (hms : 1 ≤ maxseq)
    (hfit : ∀ r ∈ db, ((Dsqdata.pk (alphatype == 3) r.dsq).length : Int) ≤ maxpacket)
    (h1 : (db.map fun r => (Dsqdata.pk (alphatype == 3) r.dsq).length).sum < 2 ^ 63)
    (h2 : (db.map fun r => (Dsqdata.encodeMeta (Dsqdata.metaOf r)).length).sum < 2 ^ 63) (hn : db.length < 2 ^ 64) :
    (Dsqdata.readDbX maxseq maxpacket (Dsqdata.writtenHeader tag alphatype (alphatype == 3) db)).2 = .eof :=
  Dsqdata.readDbX_written tag alphatype db maxseq maxpacket hwf hms hfit h1 h2 hn

/-- **A cut `.dsqi` ends in the loader's fatal error - never in `eslEOF`** (the repaired loader, 78cbf46). For ANY opened
    database `o` whose index file, behind its header, holds fewer complete 16-byte records than the header's `nseq` - whatever the
    other two files contain, whatever the chunk limits: the read (`readDbX`: the loader's main loop and its end-of-data check) does
    not end with end of data. Every sequence the loader loads was read as a complete index record (`loaderRunX_loaded_le`), so the
    count it compares with `nseq` at end of data falls short: `fatalIndex` - unless a short read of packets / metadata stopped it
    before. With `pipe_cut_never_eof` / `pipe_cut_no_deadlock`: no consumer is told EOF on a truncated index, and none waits for ever. -/
theorem dsq_cut_index_never_eof (maxseq : Nat) (maxpacket : Int) (o : Dsqdata.Opened) (h : o.ifp.length / 16 < o.nseq) :
    (Dsqdata.readDbX maxseq maxpacket o).2 ≠ .eof :=
  Dsqdata.cut_index_not_eof maxseq maxpacket o h

/-- … in particular the index written for `db` (fewer than `2^64` records) cut `m` bytes behind its header with `m / 16 < db.length`:
    at least one index record is incomplete or missing -/
theorem dsq_cut_written_index (tag alphatype : Nat) (db : List Dsqdata.SeqRec) (maxseq : Nat) (maxpacket : Int) (m : Nat)
    (hn : db.length < 2 ^ 64) (hm : m / 16 < db.length) :
    (Dsqdata.readDbX maxseq maxpacket
      { Dsqdata.writtenHeader tag alphatype (alphatype == 3) db with
          ifp := (Dsqdata.writtenHeader tag alphatype (alphatype == 3) db).ifp.take m }).2 ≠ .eof := by
  apply Dsqdata.cut_index_not_eof
  have h1 : ((Dsqdata.writtenHeader tag alphatype (alphatype == 3) db).ifp.take m).length ≤ m := by
    rw [List.length_take]; exact Nat.min_le_left _ _
  have h2 : (Dsqdata.writtenHeader tag alphatype (alphatype == 3) db).nseq = db.length := by
    simp only [Dsqdata.writtenHeader]; exact Nat.mod_eq_of_lt hn
  show ((Dsqdata.writtenHeader tag alphatype (alphatype == 3) db).ifp.take m).length / 16 < (Dsqdata.writtenHeader tag alphatype (alphatype == 3) db).nseq
  rw [h2]
  exact Nat.lt_of_le_of_lt (Nat.div_le_div_right h1) hm

/-- **… from the cut FILE.** In the four files `esl_dsqdata_Write` produces for `db`, cut `.dsqi` `m` bytes behind its 52-byte header so
    that at least one index record is incomplete or missing (`m / 16 < db.length`). `esl_dsqdata_Open` accepts the files - the header,
    `nseq` included, is intact - and the read never ends with end of data, for every chunk limit. -/
theorem dsq_cut_index_files (tag alphatype : Nat) (fname fmt : List UInt8) (db : List Dsqdata.SeqRec) (maxseq : Nat) (maxpacket : Int)
    (hty : alphatype = 1 ∨ alphatype = 2 ∨ alphatype = 3) (hlen : ∀ r ∈ db, r.dsq.length < 6 * Dsqdata.MAXPACKET)
    (expect : Option Nat) (hexp : expect = none ∨ expect = some alphatype) (m : Nat) (hn : db.length < 2 ^ 64) (hm : m / 16 < db.length) :
    ∃ (f : Dsqdata.Files) (o : Dsqdata.Opened), Dsqdata.writeDb tag alphatype fname fmt db = .ok f ∧
      Dsqdata.openDb expect { f with idx := f.idx.take (52 + m) } = .ok o ∧ (Dsqdata.readDbX maxseq maxpacket o).2 ≠ .eof := by
  obtain ⟨f, hw, ho⟩ := Dsqdata.openDb_cut_idx tag alphatype fname fmt db hty hlen expect hexp m
  exact ⟨f, _, hw, ho, dsq_cut_written_index tag alphatype db maxseq maxpacket m hn hm⟩

/-- non-vacuity of `dsq_cut_index_files`: `demoDb` with the second index record missing ends in `fatalIndex 2 1` after the first chunk -/
example : (match Dsqdata.openDb none (match Dsqdata.writeDb 7 2 [] [] demoDb with
      | .ok f => { f with idx := f.idx.take (52 + 16) } | _ => ⟨[], [], [], []⟩) with
    | .ok o => ((Dsqdata.readDbX 1 4 o).2, (Dsqdata.readDbX 1 4 o).1.length)
    | _ => (.fault, 0)) = (.fatalIndex 2 1, 1) := by decide +kernel

/-- non-vacuity: `demoDb` (2 records, one per chunk): `.dsqs` cut 3 bytes behind its header - the first chunk's packets are
    incomplete - ends in the fatal branch with no chunk delivered; cut behind everything, both chunks and end of data -/
example : (match Dsqdata.openDb none (match Dsqdata.writeDb 7 2 [] [] demoDb with | .ok f => f | _ => ⟨[], [], [], []⟩) with
    | .ok o => ((Dsqdata.loaderRunX 1 4 5 { Dsqdata.BState.init o with sfp := o.sfp.take 3 }).2.isFatal,
                (Dsqdata.loaderRunX 1 4 5 { Dsqdata.BState.init o with sfp := o.sfp.take 3 }).1.length,
                (Dsqdata.loaderRunX 1 4 5 { Dsqdata.BState.init o with sfp := o.sfp.take 1000 }).2,
                (Dsqdata.loaderRunX 1 4 5 { Dsqdata.BState.init o with sfp := o.sfp.take 1000 }).1.length)
    | _ => (false, 0, .fault, 0)) = (true, 0, .eof, 2) := by decide +kernel
end pipeline

end EaselModel.Props.C12
