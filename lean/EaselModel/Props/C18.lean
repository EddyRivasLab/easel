import EaselModel.Shuffle.Lemmas
import EaselModel.Shuffle.LemmasRev
import EaselModel.Shuffle.LemmasMsa
import EaselModel.Shuffle.LemmasKmer
import EaselModel.Shuffle.LemmasMarkov1
import EaselModel.Shuffle.LemmasDP
import EaselModel.Shuffle.LemmasBEST
import EaselModel.Shuffle.LemmasQrna
import EaselModel.Shuffle.LemmasVShuffle
import EaselModel.Shuffle.LemmasRetry
import EaselModel.Shuffle.LemmasSample
import EaselModel.Shuffle.LemmasUniform
import EaselModel.Shuffle.LemmasTermination
import EaselModel.Shuffle.LemmasProgress
import EaselModel.Shuffle.LawfulRat
import EaselModel.Shuffle.MarkovRat
import EaselModel.Shuffle.IeeeCarrier
import EaselModel.Shuffle.MarkovIeee
/-! # C18 — property theorems (the statements and their last steps; the lemmas are in Shuffle/*.lean)

Every theorem quantifies over every input and every generator state `r : Rng` (hence every seed and every history of
the generator). Determinism is by construction: every routine is a function of its input and `r`, and returns the
advanced generator state. `Array.Perm a b` is `List.Perm a.toList b.toList`: the same multiset of entries. -/
namespace EaselModel.Props.C18
open EaselModel.Random EaselModel.Shuffle

/-- `esl_rsq_CShuffle` (and `esl_vec_{D,F,I,L}Shuffle`): same length, same residue counts -/
theorem cShuffle_perm {α : Type} (s : Array α) (r : Rng) :
    (cShuffle s r).1.size = s.size ∧ (cShuffle s r).1.Perm s := by
  have h := (fyLoop_permOn 0 s.size s r).perm
  exact ⟨h.size_eq, h⟩

/-- `esl_rsq_XShuffle(r, dsq, L, shuffled)` on the whole array `dsq[0..L+1]`: length kept, both sentinels (everything
    outside `1..L`) untouched, residues `1..L` permuted -/
theorem xShuffle_spec (dsq : Bytes) (L : Nat) (h : L + 2 ≤ dsq.size) (r : Rng) :
    RegionPerm 1 (1 + L) dsq (xShuffle dsq L r).1 :=
  (fyLoop_permOn 1 L dsq r).regionPerm (by omega)

/-! ## window shuffles: same residue counts inside every window -/
/-- `esl_rsq_CShuffleWindows(r, s, w, shuffled)`, `w ≥ 1`: window `k` = positions `[k·w, min(L,(k+1)·w))` -/
theorem cShuffleWindows_spec {α : Type} (s : Array α) (w : Nat) (hw : 0 < w) (r : Rng) :
    WinPerm w 0 s.size s (cShuffleWindows s w r).1 :=
  winOuter_winPerm cWinD w 0 s.size cWinD_le hw s s.size r

/-- `esl_rsq_XShuffleWindows(r, dsq, L, w, shuffled)`: window `k` = array positions `[1+k·w, min(1+L, 1+(k+1)·w))`;
    sentinels untouched -/
theorem xShuffleWindows_spec (dsq : Bytes) (L w : Nat) (hw : 0 < w) (h : L + 2 ≤ dsq.size) (r : Rng) :
    WinPerm w 1 L dsq (xShuffleWindows dsq L w r).1 :=
  winOuter_winPerm xWinD w 1 L xWinD_le hw dsq L r

/-! ## reversal = mirror image, in place or not -/
/-- `esl_rsq_CReverse(s, rev)` with separate storage `rev` (any previous content) -/
theorem cReverse_spec {α : Type} [Inhabited α] (s rev : Array α) (h : s.size ≤ rev.size) :
    ((reverse false s rev 0 s.size).extract 0 s.size).toList = s.toList.reverse := by
  have := reverse_toList false s rev 0 s.size (by omega) (by omega) (by simp)
  simpa using this

/-- `esl_rsq_CReverse(s, s)`: in place -/
theorem cReverse_inplace_spec {α : Type} [Inhabited α] (s : Array α) :
    (reverse true s s 0 s.size).toList = s.toList.reverse := by
  have h1 := reverse_toList true s s 0 s.size (by omega) (by omega) (by simp)
  have h2 := (reverse_spec true s s 0 s.size (by omega) (by omega) (by simp)).1
  generalize reverse true s s 0 s.size = R at h1 h2
  have e : R.extract 0 (0 + s.size) = R := by rw [Nat.zero_add, ← h2]; simp
  rw [e] at h1
  simpa using h1

/-- `esl_rsq_XReverse(dsq, L, rev)`: residues `1..L` mirrored (in place or not); the C code then sets both sentinels -/
theorem xReverse_spec (al : Bool) (dsq rev : Bytes) (L : Nat) (h : L + 2 ≤ dsq.size) (h' : L + 2 ≤ rev.size)
    (hal : al = true → rev = dsq) :
    ((reverse al dsq rev 1 L).extract 1 (1 + L)).toList = ((dsq.extract 1 (1 + L)).toList).reverse :=
  reverse_toList al dsq rev 1 L (by omega) (by omega) hal

/-- in place = out of place, on the residues -/
theorem reverse_inplace_eq {α : Type} [Inhabited α] (src dst : Array α) (base L : Nat)
    (hsrc : base + L ≤ src.size) (hdst : base + L ≤ dst.size) :
    (reverse true src src base L).extract base (base + L) = (reverse false src dst base L).extract base (base + L) := by
  apply Array.toList_inj.mp
  rw [reverse_toList true src src base L hsrc hsrc (by simp), reverse_toList false src dst base L hsrc hdst (by simp)]

/-! ## in place = separate output storage
`Out.inPlace`: `shuffled == s`; `Out.separate d`: other storage of the input's size with ANY previous content `d`. The
routines copy the input into separate storage first and work there (`Out.load`); the result — output and generator state —
does not depend on `d` and equals the in-place result. (`reverse_inplace_eq`, `vShuffle_inplace_eq` are the alias-aware
cases where input cells are read after output cells were written; DP shuffle and Markov resamplers read the whole input
before they write; bootstrap cannot be called in place.) -/
theorem shuffle_inplace_eq_separate {α : Type} (s d : Array α) (h : d.size = s.size) (r : Rng) :
    cShuffleOut s (.separate d) r = cShuffleOut s .inPlace r ∧ cShuffleOut s .inPlace r = cShuffle s r := by
  simp [cShuffleOut, cShuffle, Out.load_separate s d h]

theorem xShuffle_inplace_eq_separate (dsq d : Bytes) (L : Nat) (h : d.size = dsq.size) (r : Rng) :
    xShuffleOut dsq L (.separate d) r = xShuffleOut dsq L .inPlace r ∧ xShuffleOut dsq L .inPlace r = xShuffle dsq L r := by
  simp [xShuffleOut, Out.load_separate dsq d h]

/-- k-mer shuffles (the seeded change C18-a broke exactly this for fewer than two words) -/
theorem shuffleKmers_inplace_eq_separate {α : Type} (base : Nat) (a d : Array α) (L K : Nat) (h : d.size = a.size) (r : Rng) :
    shuffleKmersOut base a L K (.separate d) r = shuffleKmersOut base a L K .inPlace r ∧
      shuffleKmersOut base a L K .inPlace r = shuffleKmers base a L K r := by
  simp [shuffleKmersOut, Out.load_separate a d h]

theorem shuffleWindows_inplace_eq_separate {α : Type} (s d : Array α) (w : Nat) (h : d.size = s.size) (r : Rng) :
    cShuffleWindowsOut s w (.separate d) r = cShuffleWindowsOut s w .inPlace r ∧
      cShuffleWindowsOut s w .inPlace r = cShuffleWindows s w r := by
  simp [cShuffleWindowsOut, cShuffleWindows, Out.load_separate s d h]

theorem xShuffleWindows_inplace_eq_separate (dsq d : Bytes) (L w : Nat) (h : d.size = dsq.size) (r : Rng) :
    xShuffleWindowsOut dsq L w (.separate d) r = xShuffleWindowsOut dsq L w .inPlace r ∧
      xShuffleWindowsOut dsq L w .inPlace r = xShuffleWindows dsq L w r := by
  simp [xShuffleWindowsOut, Out.load_separate dsq d h]

/-- `esl_msashuffle_Shuffle(r, msa, shuf)` with `shuf` a different alignment of the same shape = `shuf == msa` -/
theorem msaShuffle_inplace_eq_separate {α : Type} (base : Nat) (rows shuf : Array (Array α)) (alen : Nat)
    (hsz : shuf.size = rows.size) (hrow : ∀ i (h : i < rows.size), (shuf[i]'(hsz ▸ h)).size = rows[i].size) (r : Rng) :
    msaShuffleOut base rows alen (some shuf) r = msaShuffleOut base rows alen none r := by
  simp only [msaShuffleOut]
  congr 1
  apply Array.ext (by simp)
  intro i h1 h2
  simp only [Array.getElem_mapIdx]
  have hi : i < rows.size := h2
  have : shuf.getD i #[] = shuf[i]'(hsz ▸ hi) := by
    rw [Array.getD_eq_getD_getElem?, Array.getElem?_eq_getElem (hsz ▸ hi)]; rfl
  rw [this]
  exact Out.load_separate _ _ (hrow i hi)

/-- `esl_msashuffle_{C,X}QRNA(r, abc, x, y, xs, ys)`: `xs == x` or not, `ys == y` or not, independently — all four calls compute
    the result of the fully in-place call (to which `qrna_keeps_classes` / `qrna_class_perm` apply) -/
theorem qrna_inplace_eq_separate (isGap : UInt8 → Bool) (x y : Bytes) (ox oy : Out UInt8) (base L : Nat) (r : Rng)
    (hx : ∀ d, ox = .separate d → d.size = x.size) (hy : ∀ d, oy = .separate d → d.size = y.size) :
    qrnaOut isGap x y ox oy base L r = qrna isGap x y base L r := by
  have ex : ox.load x = x := by
    cases ox with
    | inPlace => rfl
    | separate d => exact Out.load_separate x d (hx d rfl)
  have ey : oy.load y = y := by
    cases oy with
    | inPlace => rfl
    | separate d => exact Out.load_separate y d (hy d rfl)
  rw [qrnaOut, ex, ey, qrnaOn_self]

/-- the whole call `esl_msashuffle_{C,X}QRNA`: `eslEINVAL` exactly when the two lengths differ, `eslEMEM` exactly for two
    zero-length sequences (Easel's zero-size-allocation exception), the generator untouched on both error paths, otherwise
    `eslOK` with the result of `qrnaOut` (to which `qrna_inplace_eq_separate`, `qrna_keeps_classes`, `qrna_class_perm` apply) -/
theorem qrna_status (isGap : UInt8 → Bool) (x y : Bytes) (ox oy : Out UInt8) (base : Nat) (r : Rng) :
    ((qrnaCall isGap x y ox oy base r).1 = .einval ↔ x.size - 2 * base ≠ y.size - 2 * base) ∧
    ((qrnaCall isGap x y ox oy base r).1 = .emem ↔ x.size - 2 * base = y.size - 2 * base ∧ x.size - 2 * base = 0) ∧
    ((qrnaCall isGap x y ox oy base r).1 = .einval ∨ (qrnaCall isGap x y ox oy base r).1 = .emem → (qrnaCall isGap x y ox oy base r).2 = r) ∧
    (x.size - 2 * base = y.size - 2 * base → x.size - 2 * base ≠ 0 →
      qrnaCall isGap x y ox oy base r =
        (.ok (qrnaOut isGap x y ox oy base (x.size - 2 * base) r).1.1 (qrnaOut isGap x y ox oy base (x.size - 2 * base) r).1.2,
         (qrnaOut isGap x y ox oy base (x.size - 2 * base) r).2)) := by
  unfold qrnaCall
  simp only []
  generalize x.size - 2 * base = Lx
  generalize y.size - 2 * base = Ly
  by_cases h1 : Lx = Ly
  · subst h1
    by_cases h2 : Lx = 0
    · subst h2; simp
    · simp [h2]
  · simp [h1]

/-- `esl_msashuffle_Shuffle` (`base = 0` text, `base = 1` digital): the output columns are the input columns, each exactly
    once (a permutation of the list of columns, entries of a column kept together); other columns (the digital
    sentinels), the number of rows and the row lengths are untouched -/
theorem msaShuffle_spec {α : Type} (base alen : Nat) (rows : Array (Array α))
    (hlen : ∀ k (hk : k < rows.size), base + alen ≤ rows[k].size) (r : Rng) :
    RowsInv base alen rows (msaShuffle base rows alen r).1 :=
  fy_multiSwap_spec base alen rows hlen r

/-- `esl_msashuffle_PermuteSequenceOrder`: `arrays` are the per-sequence arrays (aseq/ax, sqname, wgt, sqacc, sqdesc, ss,
    sa, pp, sqlen, …, gs[tag], gr[tag]); "column" `i` is the record of sequence `i` across all of them. The output
    records are a permutation of the input records: every row keeps its name, weight and annotation. -/
theorem permuteSeqOrder_spec {α : Type} (nseq : Nat) (arrays : Array (Array α))
    (hlen : ∀ k (hk : k < arrays.size), nseq ≤ arrays[k].size) (r : Rng) :
    RowsInv 0 nseq arrays (permuteSeqOrder arrays nseq r).1 :=
  fy_multiSwap_spec 0 nseq arrays (by simpa using hlen) r

/-- the name index that `esl_msashuffle_PermuteSequenceOrder` rebuilds at the end (`esl_keyhash_Reuse` + `Store` of every
    `sqname[i]` in the new order, status ignored): for pairwise different names — `names` is the `sqname` array before the call,
    the array after it is the plain shuffle of it on the drawn rolls (`msaShuffle_via_rolls`) — the names stay pairwise
    different and looking up the name of NEW row `i` answers `i`, for every generator state. (With a duplicated name the
    second `Store` is refused and every later name gets a number one too small; the model and the differential run follow
    the code there, the theorem does not apply.) -/
theorem permuteSeqOrder_index_spec {κ : Type} [BEq κ] [LawfulBEq κ] (names : Array κ) (nseq : Nat)
    (hn : names.toList.Nodup) (r : Rng) :
    let names' := (fyRolls aswap 0 nseq names (fyDraw nseq r)).toList
    names'.Nodup ∧ ∀ (i : Nat) (hi : i < names'.length), indexLookup (rebuildIndex names') names'[i] = some i := by
  intro names'
  have hp : names'.Perm names.toList := (fyRolls_perm 0 nseq names (fyDraw nseq r)).toList
  have hnd : names'.Nodup := hp.nodup_iff.2 hn
  exact ⟨hnd, fun i hi => indexLookup_rebuild names' hnd i hi⟩

/-- `esl_msashuffle_Bootstrap` samples columns with replacement through `Roll(alen)`: output column `p` IS input column
    `i_p`, where `i_0 … i_{alen-1}` are the `alen` in-range rolls the generator delivers -/
theorem bootstrap_exact (base alen : Nat) (msa boot : Array Bytes) (hsz : boot.size = msa.size)
    (hm : ∀ k (hk : k < msa.size), base + alen ≤ msa[k].size)
    (hb : ∀ k (hk : k < boot.size), base + alen ≤ boot[k].size) (r : Rng) :
    ∃ cols : List Nat, cols.length = alen ∧ (∀ i ∈ cols, i < alen) ∧
      ∀ p, p < alen → column (bootstrap base alen msa boot r).1 (base + p) = column msa (base + cols.getD p 0) := by
  refine ⟨sampleDraw alen alen r, ?_, ?_, fun p hp => ?_⟩
  · by_cases h0 : alen = 0
    · subst h0; rfl
    · exact (sampleDraw_lt alen (by omega) alen r).1
  · by_cases h0 : alen = 0
    · subst h0; intro i hi; simp [sampleDraw] at hi
    · exact (sampleDraw_lt alen (by omega) alen r).2
  · have := bootLoop_exact base alen msa hm alen 0 boot r (by omega) hsz hb (base + p)
    unfold bootstrap
    rw [this, if_pos (by omega)]
    simp

/-- `esl_msashuffle_Bootstrap`: every output column is one of the input columns -/
theorem bootstrap_only_input_columns (base alen : Nat) (msa boot : Array Bytes) (hsz : boot.size = msa.size)
    (hm : ∀ k (hk : k < msa.size), base + alen ≤ msa[k].size)
    (hb : ∀ k (hk : k < boot.size), base + alen ≤ boot[k].size) (r : Rng) :
    ∀ p, p < alen → ∃ col, col < alen ∧ column (bootstrap base alen msa boot r).1 (base + p) = column msa (base + col) := by
  obtain ⟨cols, hlen, hlt, hcol⟩ := bootstrap_exact base alen msa boot hsz hm hb r
  intro p hp
  refine ⟨cols.getD p 0, hlt _ ?_, hcol p hp⟩
  rw [List.getD_eq_getElem?_getD, List.getElem?_eq_getElem (by omega)]
  exact List.getElem_mem _



/-- `esl_msashuffle_VShuffle` (digital; `msa` rows are the arrays `ax[i][0..alen+1]`, `gap` = the alphabet's gap code `K`),
    called with `shuf` = `msa` (in place) or a clone of it: every column `1..alen` of the result has the same multiset of
    symbols as the input column and the same gap positions; sentinel columns, row count and row lengths are untouched.
    The result does not depend on `inplace`'s reading path (both read the still-unmodified column). -/
theorem vShuffle_spec (gap : UInt8) (inplace : Bool) (alen : Nat) (msa : Array Bytes)
    (hrows : ∀ i (h : i < msa.size), alen + 2 ≤ msa[i].size) (r : Rng) :
    VInv gap msa (alen + 1) (vShuffle gap inplace alen msa msa r).1 :=
  vShuffleLoop_inv gap inplace msa alen hrows alen 1 msa r (Nat.le_refl _) (by omega)
    ⟨rfl, fun _ _ => rfl, fun c h1 h2 => by omega, fun _ _ => rfl⟩

/-- `esl_msashuffle_VShuffle(rng, msa, msa)` (in place) computes exactly what it computes into a clone -/
theorem vShuffle_inplace_eq (gap : UInt8) (alen : Nat) (msa : Array Bytes)
    (hrows : ∀ i (h : i < msa.size), alen + 2 ≤ msa[i].size) (r : Rng) :
    vShuffle gap true alen msa msa r = vShuffle gap false alen msa msa r :=
  vShuffleLoop_inplace_eq gap msa alen hrows alen 1 msa r (Nat.le_refl _) (by omega)
    ⟨rfl, fun _ _ => rfl, fun c h1 h2 => by omega, fun _ _ => rfl⟩

/-- `esl_msashuffle_CQRNA` (`base = 0`, `isGap c` = `c` is one of the alphabet's gap characters) and
    `esl_msashuffle_XQRNA` (`base = 1`, `isGap c` = `c == abc->K`), for `x`, `y` of equal length: lengths kept; every
    column keeps its class `(isGap x[i], isGap y[i])` — so every gap stays where it was; the multiset of columns
    `(x[i], y[i])` is the input's (hence also the multiset inside each class); positions outside the `L` columns untouched -/
theorem qrna_keeps_classes (isGap : UInt8 → Bool) (x y : Bytes) (base L : Nat) (hfit : base + L ≤ x.size) (hy : y.size = x.size) (r : Rng) :
    QInv isGap x y base L (qrna isGap x y base L r).1.1 (qrna isGap x y base L r).1.2 :=
  qrna_spec isGap x y base L hfit hy r

/-- per-class form: for each of the classes, the columns of that class are a permutation of the input's columns of that class -/
theorem qrna_class_perm (isGap : UInt8 → Bool) (x y : Bytes) (base L : Nat) (hfit : base + L ≤ x.size) (hy : y.size = x.size) (r : Rng)
    (gx gy : Bool) :
    ((((qrna isGap x y base L r).1.1).zip ((qrna isGap x y base L r).1.2)).toList.filter (fun c => isGap c.1 == gx && isGap c.2 == gy)).Perm
      ((x.zip y).toList.filter (fun c => isGap c.1 == gx && isGap c.2 == gy)) :=
  ((qrna_spec isGap x y base L hfit hy r).zip.toList).filter _


/-! ## the retry loops return the first accepted draw -/
/-- `esl_rnd_Roll(r, n)` (as used by every shuffler): the value is the image `x / (UINT32_MAX / n)` of the first raw word
    `x` of the stream that the rejection test accepts, every earlier word was rejected, and the generator has advanced by
    exactly the words examined. (Second disjunct: none of the first `rollFuel = 10^6` words is accepted — the C loop
    would keep drawing; the model then answers `(0, r)`. From a state on the stream of a seed it does not occur: C09's
    `roll_terminates_on_stream` finds an accepted word among the next 19,999.) -/
theorem roll_returns_first_accepted (r : Rng) (n : Nat) :
    (∃ k, k < rollFuel ∧ rollWord n (rngWord r k).toNat = some (roll r n).1 ∧ (roll r n).2 = rngAfter r (k+1) ∧
        ∀ j, j < k → rollWord n (rngWord r j).toNat = none) ∨
    ((∀ j, j < rollFuel → rollWord n (rngWord r j).toNat = none) ∧ roll r n = (0, r)) := by
  have h := Rng_roll_first_accepted n rollFuel r
  unfold roll
  cases hr : r.roll n rollFuel with
  | some p =>
    obtain ⟨v, r'⟩ := p
    rw [hr] at h
    exact Or.inl h
  | none =>
    rw [hr] at h
    exact Or.inr ⟨h, rfl⟩

/-- the `while (!is_eulerian)` loop of the DP shuffle: the edge ordering it leaves is the one produced by the first pass
    of last-edge selection that the code's connectivity test accepts (all earlier passes were rejected, their swaps and
    rolls are kept, exactly as in the C loop); `none` iff none of the first `fuel` passes is accepted -/
theorem dpFind_returns_first_accepted (K sf fuel : Nat) (E : Edges) (r : Rng) :
    match dpFind K sf fuel E r with
    | some s => ∃ k, k < fuel ∧ s = dpAttempt K sf (E, r) (k+1) ∧ dpAccepted K sf s.1 = true ∧
                  ∀ j, j < k → dpAccepted K sf (dpAttempt K sf (E, r) (j+1)).1 = false
    | none => ∀ j, j < fuel → dpAccepted K sf (dpAttempt K sf (E, r) (j+1)).1 = false :=
  dpFind_first_accepted K sf fuel E r

/-! ## uniformity: Fisher–Yates as coded is a bijection from in-range roll vectors onto arrangements

`ValidRolls n rs`: `rs` has `n-1` entries, the first `< n`, the next `< n-1`, …, the last `< 2` — the `n!` possible outcomes of
the loop's calls `Roll(n), Roll(n-1), …, Roll(2)`. Each value of a roll has the same number of raw generator words
(`C09.roll_unbiased32`), so under a uniform word stream the `n!` vectors are equally likely; by the theorems below they
are in one-to-one correspondence with the `n!` arrangements. Permutation-preservation alone (`cShuffle_perm`) cannot see
a loop with a wrong range (`Roll(n-1)`: never a fixed point; swap partner `n` instead of `n-1`; `Roll(L)` at every step):
such loops still permute but are not bijective on rolls. -/

/-- `esl_rsq_CShuffle` / `esl_vec_{D,F,I,L}Shuffle` compute `cShuffleRolls` on the roll vector the generator delivers, and that
    vector is always in range -/
theorem cShuffle_via_rolls {α : Type} (s : Array α) (r : Rng) :
    (cShuffle s r).1 = cShuffleRolls s (fyDraw s.size r) ∧ ValidRolls s.size (fyDraw s.size r) ∧
      (fyDraw s.size r).length = s.size - 1 :=
  ⟨fyLoop_eq_fyRolls _ 0 s.size s r, fyDraw_valid s.size r, validRolls_length _ _ (fyDraw_valid s.size r)⟩

/-- **bijection**: for an array of distinct entries and every arrangement `t` of it there is exactly one in-range roll
    vector that makes the loop of `esl_rsq_CShuffle` produce `t` -/
theorem cShuffle_bijective_on_rolls {α : Type} (s t : Array α) (hs : s.toList.Nodup) (ht : t.Perm s) :
    ∃ rs, (ValidRolls s.size rs ∧ cShuffleRolls s rs = t) ∧
      ∀ rs', ValidRolls s.size rs' → cShuffleRolls s rs' = t → rs' = rs :=
  fyRolls_bijective 0 s.size s t (by omega) hs ht (fun p hp => by
    have h1 : s.size ≤ p := by omega
    rw [Array.getElem?_eq_none h1, Array.getElem?_eq_none (by rw [ht.size_eq]; exact h1)])

/-- for ANY array (repeated entries allowed) the output is the input read through the arrangement of the index array
    `0,1,…,L-1` produced by the same rolls — to which the bijection applies (`Array.range` has distinct entries) -/
theorem cShuffle_natural {α : Type} [Inhabited α] (s : Array α) (rs : List Nat) :
    cShuffleRolls s rs = (cShuffleRolls (Array.range s.size) rs).map (fun k => s[k]!) := by
  have := fyRolls_natural 0 s.size s rs
  simpa [cShuffleRolls] using this

/-- `esl_rsq_XShuffle` computes `xShuffleRolls` on the in-range roll vector the generator delivers -/
theorem xShuffle_via_rolls (dsq : Bytes) (L : Nat) (r : Rng) :
    (xShuffle dsq L r).1 = xShuffleRolls dsq L (fyDraw L r) ∧ ValidRolls L (fyDraw L r) :=
  ⟨fyLoop_eq_fyRolls _ 1 L dsq r, fyDraw_valid L r⟩

/-- **bijection, digital**: on the index array `0..n-1` (`n ≥ L+2`), for every arrangement `t` that fixes everything outside
    positions `1..L` exactly one in-range roll vector makes the loop of `esl_rsq_XShuffle` produce `t`; any `dsq` is read
    through that arrangement (`xShuffle_natural`) -/
theorem xShuffle_bijective_on_rolls (n L : Nat) (hL : L + 2 ≤ n) (t : Array Nat) (ht : t.Perm (Array.range n))
    (hout : ∀ p, (p < 1 ∨ 1 + L ≤ p) → t[p]? = (Array.range n)[p]?) :
    ∃ rs, (ValidRolls L rs ∧ fyRolls aswap 1 L (Array.range n) rs = t) ∧
      ∀ rs', ValidRolls L rs' → fyRolls aswap 1 L (Array.range n) rs' = t → rs' = rs :=
  fyRolls_bijective 1 L (Array.range n) t (by simp; omega) (by simpa using List.nodup_range) ht hout

theorem xShuffle_natural (dsq : Bytes) (L : Nat) (rs : List Nat) :
    xShuffleRolls dsq L rs = (fyRolls aswap 1 L (Array.range dsq.size) rs).map (fun k => dsq[k]!) :=
  fyRolls_natural 1 L dsq rs

/-- `esl_msashuffle_Shuffle` (and `esl_msashuffle_PermuteSequenceOrder` with `base = 0`, rows = per-sequence arrays): every
    row is rearranged by the one plain shuffle that the drawn roll vector defines — the column (record) permutation is the
    bijective image of the rolls -/
theorem msaShuffle_via_rolls {α : Type} (base alen : Nat) (rows : Array (Array α)) (r : Rng) :
    (msaShuffle base rows alen r).1 = rows.map (fun row => fyRolls aswap base alen row (fyDraw alen r)) ∧
      ValidRolls alen (fyDraw alen r) := by
  refine ⟨?_, fyDraw_valid alen r⟩
  rw [← fyRolls_multiSwap]
  exact fyLoop_eq_fyRolls _ base alen rows r

/-- one window of `esl_rsq_XShuffleWindows` (and of `esl_rsq_CShuffleWindows` once it draws `Roll(j-i+1)`): the inner loop
    over the `m+1` positions `i..i+m` IS the Fisher–Yates loop on them, on the in-range rolls the generator delivers -/
theorem shuffleWindow_via_rolls {α : Type} (i m : Nat) (a : Array α) (r : Rng) :
    (winInner 1 i m a r).1 = fyRolls aswap i (m+1) a (fyDraw (m+1) r) ∧ ValidRolls (m+1) (fyDraw (m+1) r) := by
  rw [winInner_one_eq_fyLoop]
  exact ⟨fyLoop_eq_fyRolls _ i (m+1) a r, fyDraw_valid (m+1) r⟩

/-- … hence bijective per window: for distinct entries every arrangement of the window `[i, i+m]` that leaves the rest
    alone is produced by exactly one in-range roll vector -/
theorem xShuffleWindows_window_bijective_on_rolls {α : Type} (i m : Nat) (a t : Array α) (hfit : i + (m + 1) ≤ a.size)
    (hnd : a.toList.Nodup) (ht : t.Perm a) (hout : ∀ p, (p < i ∨ i + (m + 1) ≤ p) → t[p]? = a[p]?) :
    ∃ rs, (ValidRolls (m+1) rs ∧ fyRolls aswap i (m+1) a rs = t) ∧
      ∀ rs', ValidRolls (m+1) rs' → fyRolls aswap i (m+1) a rs' = t → rs' = rs :=
  fyRolls_bijective i (m+1) a t hfit hnd ht hout

/-- **`esl_rsq_CShuffleWindows` as it stands is NOT a uniform shuffle of each window** (proved counterexample; the residue
    counts per window, i.e. the C18 statement, hold all the same — `cShuffleWindows_spec`): it draws `Roll(j-i)`, so a
    window of two residues is swapped for EVERY generator state — `esl-shuffle -w 2` prints the same sequence for every
    seed. (`cWinD` is read from the working tree on every run; the hypothesis holds on the pinned tree and stops holding
    when the call becomes `Roll(j-i+1)`, after which `shuffleWindow_via_rolls` applies to the text version too.) -/
theorem cShuffleWindows_pair_always_swapped {α : Type} (h : cWinD = 0) (a b : α) (r : Rng) :
    (cShuffleWindows #[a, b] 2 r).1 = #[b, a] := by
  unfold cShuffleWindows
  rw [h]
  have e : (roll r 1).1 = 0 := by have := roll_lt r 1 (by omega); omega
  simp [winOuter, winInner, e, Array.swapIfInBounds]

/-- `esl_rsq_{C,X}ShuffleKmers` (`base = 0` / `1`): the array of the `W = L / K` words of the output is the plain shuffle
    (`cShuffleRolls`) of the array of the input's words on the in-range roll vector the generator delivers — so the
    bijection `cShuffle_bijective_on_rolls` applies to the words: when the input's `K`-mers are distinct, every arrangement
    of them is produced by exactly one roll vector -/
theorem shuffleKmers_via_rolls {α : Type} (base : Nat) (a : Array α) (L K : Nat) (hfit : base + L ≤ a.size) (r : Rng) :
    chunks K (base + L % K) (L / K) (shuffleKmers base a L K r).1 =
      cShuffleRolls (chunks K (base + L % K) (L / K) a) (fyDraw (L / K) r) ∧ ValidRolls (L / K) (fyDraw (L / K) r) := by
  refine ⟨?_, fyDraw_valid _ r⟩
  have hdm : K * (L / K) + L % K = L := Nat.div_add_mod L K
  have hfit' : base + L % K + (L / K) * K ≤ a.size := by rw [Nat.mul_comm]; omega
  unfold shuffleKmers cShuffleRolls
  simp only []
  rw [fyLoop_eq_fyRolls, fyRolls_blockSwap_chunks K (base + L % K) (L / K) (L / K) (Nat.le_refl _) a _ hfit' (fyDraw_valid _ r)]
  simp [chunks]

/-- **counting form**: there are exactly `n!` in-range roll vectors (`allRolls n` lists each once); `esl_rsq_CShuffle`'s loop
    maps them to pairwise different arrangements of `0..n-1`, and every arrangement occurs: the `n!` equally likely roll
    vectors hit each of the `n!` arrangements exactly once -/
theorem cShuffle_counts (n : Nat) :
    (allRolls n).length = fact n ∧ (allRolls n).Nodup ∧ (∀ rs, rs ∈ allRolls n ↔ ValidRolls n rs) ∧
    ((allRolls n).map (cShuffleRolls (Array.range n))).Nodup ∧
    ∀ t : Array Nat, t.Perm (Array.range n) ↔ t ∈ (allRolls n).map (cShuffleRolls (Array.range n)) := by
  have hnd : (Array.range n).toList.Nodup := by simpa using List.nodup_range
  refine ⟨allRolls_length n, allRolls_nodup n, mem_allRolls n, ?_, fun t => ⟨fun ht => ?_, fun ht => ?_⟩⟩
  · rw [List.Nodup, List.pairwise_map]
    refine List.Pairwise.imp_of_mem ?_ (allRolls_nodup n)
    intro rs rs' h1 h2 hne e
    apply hne
    have v1 := (mem_allRolls n rs).1 h1
    have v2 := (mem_allRolls n rs').1 h2
    have hp : (cShuffleRolls (Array.range n) rs').Perm (Array.range n) := fyRolls_perm 0 _ _ _
    obtain ⟨rs0, _, hu⟩ := cShuffle_bijective_on_rolls (Array.range n) _ hnd hp
    simp only [Array.size_range] at hu
    rw [hu rs v1 e, hu rs' v2 rfl]
  · obtain ⟨rs0, ⟨hv, he⟩, _⟩ := cShuffle_bijective_on_rolls (Array.range n) t hnd ht
    simp only [Array.size_range] at hv
    exact List.mem_map.2 ⟨rs0, (mem_allRolls n rs0).2 hv, he⟩
  · obtain ⟨rs, _, rfl⟩ := List.mem_map.1 ht
    exact fyRolls_perm 0 _ _ _

/-- every Fisher–Yates instance of the library is the skeleton `fyLoop` with some swap action (`esl_vec_*Shuffle`, the
    per-vertex edge shuffle of step 5 of the DP shuffle, the per-column `esl_rsq_XShuffle` of `esl_msashuffle_VShuffle`, …):
    it computes `fyRolls` on the in-range roll vector the generator delivers -/
theorem fisherYates_via_rolls {σ : Type} (sw : σ → Nat → Nat → σ) (base n : Nat) (s : σ) (r : Rng) :
    (fyLoop sw base n s r).1 = fyRolls sw base n s (fyDraw n r) ∧ ValidRolls n (fyDraw n r) :=
  ⟨fyLoop_eq_fyRolls sw base n s r, fyDraw_valid n r⟩

/-- … and with the array swap it is a bijection from in-range roll vectors onto the arrangements of positions
    `[base, base+n)` (distinct entries; everything outside untouched) -/
theorem fisherYates_bijective_on_rolls {α : Type} (base n : Nat) (a t : Array α) (hfit : base + n ≤ a.size)
    (hnd : a.toList.Nodup) (ht : t.Perm a) (hout : ∀ p, (p < base ∨ base + n ≤ p) → t[p]? = a[p]?) :
    ∃ rs, (ValidRolls n rs ∧ fyRolls aswap base n a rs = t) ∧
      ∀ rs', ValidRolls n rs' → fyRolls aswap base n a rs' = t → rs' = rs :=
  fyRolls_bijective base n a t hfit hnd ht hout

/-- `esl_vec_{D,F,I,L}Shuffle64`: the same loop on the rolls of the 64-bit generator, always in range — the bijection
    `cShuffle_bijective_on_rolls` applies unchanged -/
theorem vecShuffle64_via_rolls {α : Type} (v : Array α) (r : Rng64) :
    (vecShuffle64 v r).1 = cShuffleRolls v (fyDraw64 v.size r) ∧ ValidRolls v.size (fyDraw64 v.size r) :=
  ⟨fyLoop64_eq_fyRolls _ 0 v.size v r, fyDraw64_valid v.size r⟩

/-- `esl_rsq_Sample` samples uniformly from the class: the output is `c[i₁] … c[i_L]` for the `L` in-range rolls
    `i_k = Roll(n)` the generator delivers, where the table `c` lists every 7-bit member of the class exactly once -/
theorem rsqSample_uniform (flag L : Nat) (cls : Nat → Bool) (h : sampleClass flag = some cls) (r : Rng) :
    ∃ rolls : List Nat, rolls.length = L ∧ (∀ i ∈ rolls, i < (sampleTable cls).size) ∧
      (rsqSample flag L r).1 = some (rolls.map (fun i => (sampleTable cls).getD i 0)).toArray ∧
      (sampleTable cls).toList.Nodup ∧ ∀ x, x ∈ sampleTable cls ↔ x < 128 ∧ cls x = true := by
  obtain ⟨h1, h2⟩ := sampleDraw_lt (sampleTable cls).size (sampleTable_nonempty flag cls h) L r
  refine ⟨sampleDraw (sampleTable cls).size L r, h1, h2, ?_, sampleTable_nodup cls, sampleTable_iff cls⟩
  simp only [rsqSample, h]
  rw [sampleLoop_eq]
  simp

/-- `esl_rsq_xIID(r, NULL, K, L, dsq)`: the residues ARE the `L` rolls `Roll(K)` -/
theorem iidUniform_exact (K L : Nat) (r : Rng) : (iidUniform K L r #[]).1 = (sampleDraw K L r).toArray := by
  rw [iidUniform_eq]; simp

/-! ## the two probabilistically terminating loops -/
/-- `esl_rnd_Roll(r, n)` for every `int n > 0`: the rejected raw words are exactly the top interval `[n·f, 2^32)` with
    `f = (2^32-1)/n`; it has at most `n` and fewer than `2^31` of the `2^32` words: every draw is accepted with
    probability `> 1/2` -/
theorem roll_rejects_less_than_half (n : Nat) (hn : 0 < n) (hn' : n < 2^31) :
    (∀ x, rollWord n x = none ↔ n * ((2^32-1)/n) ≤ x) ∧ n * ((2^32-1)/n) ≤ 2^32 - 1 ∧
      2^32 - n * ((2^32-1)/n) ≤ n ∧ 2^32 - n * ((2^32-1)/n) < 2^31 := by
  obtain ⟨h1, h2, h3⟩ := reject_count_gen (2^32-1) n hn (by omega)
  exact ⟨fun x => rollWord_none_iff n x hn (by omega), h3, by omega, by omega⟩

/-- `esl_rand64_Roll`: at most half of the `2^64` words are rejected, and at most `n` -/
theorem roll64_rejects_at_most_half (n : Nat) (hn : 0 < n) (hn' : n < 2^64) :
    (∀ x, rollWord64 n x = none ↔ n * ((2^64-1)/n) ≤ x) ∧
      2^64 - n * ((2^64-1)/n) ≤ n ∧ 2 * (2^64 - n * ((2^64-1)/n)) ≤ 2^64 := by
  obtain ⟨h1, h2, h3⟩ := reject_count_gen (2^64-1) n hn (by omega)
  exact ⟨fun x => rollWord64_none_iff n x hn hn', by omega, by omega⟩

/-- the fuel of the model's rejection loop is exhausted only by `fuel` consecutive raw words that all lie in the rejection
    interval (probability `< 2^-fuel` under a uniform stream, by the previous theorem) -/
theorem roll_fuel_exhausted_only_by_rejected_run (r : Rng) (n fuel : Nat) (hn : 0 < n) (hn' : n < 2^31)
    (h : r.roll n fuel = none) : ∀ j, j < fuel → n * ((2^32-1)/n) ≤ (rngWord r j).toNat := by
  have := Rng_roll_first_accepted n fuel r
  rw [h] at this
  intro j hj
  exact (rollWord_none_iff n _ hn (by omega)).1 (this j hj)

/-- one pass of last-edge selection (step 2 of the DP shuffle) computes `dpSelectLastRolls` on the in-range roll vector the
    generator delivers -/
theorem dpSelectLast_via_rolls (sf K : Nat) (E : Edges) (r : Rng) :
    (dpSelectLast sf (List.range K) E r).1 = dpSelectLastRolls sf (List.range K) E (dpDrawLast sf (List.range K) E r) ∧
      DpValidRolls sf (List.range K) E (dpDrawLast sf (List.range K) E r) :=
  dpSelectLast_eq_rolls sf (List.range K) E r

/-- **the `while (!is_eulerian)` loop can always succeed**: for every valid non-empty input and every edge ordering `E` that
    a pass can start from (the edge lists built from the input, each list permuted) there exists an in-range roll vector
    for which the code's own connectivity test accepts the selected last edges (witness: for each vertex the successor of
    its last occurrence in the input — the original sequence's own last edges) -/
theorem exists_accepting_rolls (K : Nat) (codes : List Nat) (hK : ∀ c ∈ codes, c < K) (hne : codes ≠ [])
    (E : Edges) (hp : PermEdges E (dpBuild K codes)) :
    ∃ rs, DpValidRolls (codes.getLastD 0) (List.range K) E rs ∧
      dpAccepted K (codes.getLastD 0) (dpSelectLastRolls (codes.getLastD 0) (List.range K) E rs) = true :=
  exists_accepting_rolls' K codes hK hne E hp

/-- … in particular at the start of every pass `k` of the retry loop, whatever the generator did before: each pass is
    accepted with positive probability (finitely many in-range rolls, each value of positive probability) -/
theorem dpRetry_every_pass_can_accept (K : Nat) (codes : List Nat) (hK : ∀ c ∈ codes, c < K) (hne : codes ≠ [])
    (r : Rng) (k : Nat) :
    ∃ rs, DpValidRolls (codes.getLastD 0) (List.range K) (dpAttempt K (codes.getLastD 0) (dpBuild K codes, r) k).1 rs ∧
      dpAccepted K (codes.getLastD 0)
        (dpSelectLastRolls (codes.getLastD 0) (List.range K) (dpAttempt K (codes.getLastD 0) (dpBuild K codes, r) k).1 rs) = true :=
  exists_accepting_rolls' K codes hK hne _ (dpAttempt_perm K _ (dpBuild K codes, r) k)

/-! ## progress of the two unbounded loops, on the raw word stream

`rollOn n ws` is `esl_rnd_Roll`'s `do { u = word / factor; } while (u >= n);` reading its raw 32-bit words from the finite list
`ws` (`none` = every word so far was rejected, the loop is still running). The generator is deterministic, so "it
terminates" is a statement about MT19937: for every state on the stream of a seed C09 proves it (`roll_terminates_on_stream`,
within 19,999 words); for an arbitrary state of the generator it is not proved. What is proved here, for every `n` an `int` can hold:
partial correctness (`roll_returns_spec`), that the model on the C09 generator is this loop on the words the generator
delivers (`roll_on_generator_words`), and progress: after ANY finite run of rejected words more than half of all possible
next words make it return (`roll_progress`), so it runs forever only on a stream that stays inside the rejection interval
forever. -/

/-- the model's rejection loop on generator state `r` with fuel `k` = `rollOn` on the first `k` words `r` delivers; the
    generator advances by exactly the words read -/
theorem roll_on_generator_words (n fuel : Nat) (r : Rng) :
    r.roll n fuel = (rollOn n (rngWords r fuel)).map (fun p => (p.1, rngAfter r (fuel - p.2.length))) :=
  Rng_roll_eq_rollOn n fuel r

/-- **if `esl_rnd_Roll` returns, the result satisfies its spec**: `v < n`, `v = x / (UINT32_MAX / n)` for the first accepted
    word `x`, every earlier word was rejected, and exactly the words up to `x` were consumed -/
theorem roll_returns_spec (n : Nat) (ws : List Nat) (v : Nat) (rest : List Nat) (h : rollOn n ws = some (v, rest)) :
    ∃ pre x, ws = pre ++ x :: rest ∧ (∀ y ∈ pre, rollWord n y = none) ∧ rollWord n x = some v ∧
      v < n ∧ v = x / ((2^32 - 1) / n) :=
  rollOn_spec n ws v rest h

/-- **progress**: for every `int n > 0` and every finite history `ws` of raw words on which the loop is still running there
    EXISTS a continuation on which it returns — one more word suffices, any of the `n·f > 2^31` words below `n·f` (e.g. `0`) -/
theorem roll_progress (n : Nat) (hn : 0 < n) (hn' : n < 2^31) (ws : List Nat) (h : rollOn n ws = none) :
    (∀ w, w < n * ((2^32-1)/n) → ∃ v, rollOn n (ws ++ [w]) = some (v, []) ∧ v < n) ∧
      2^31 < n * ((2^32-1)/n) ∧ n * ((2^32-1)/n) ≤ 2^32 - 1 := by
  obtain ⟨_, h2, _, h4⟩ := roll_rejects_less_than_half n hn hn'
  exact ⟨fun w hw => rollOn_progress n hn (by omega) ws h w hw, by omega, h2⟩

/-- … and every value `v < n` is reachable from every such history by one more 32-bit word (`v·f`) -/
theorem roll_reaches_every_value (n : Nat) (hn : 0 < n) (hn' : n < 2^32) (ws : List Nat) (h : rollOn n ws = none)
    (v : Nat) (hv : v < n) :
    v * ((2^32-1)/n) < 2^32 ∧ rollOn n (ws ++ [v * ((2^32-1)/n)]) = some (v, []) :=
  ⟨mul_factor_lt n v hv, rollOn_reach n hn hn' ws h v hv []⟩

/-- the word-stream existential realised on generator states: from EVERY state of the Mersenne Twister (a table of 624 words)
    the state that differs from it only in the ONE table word tempered next (`Rng.pokeRaw`, the harness's `poke` hook; set to
    `0`, and `temper(0) = 0`) makes `esl_rnd_Roll(r, n)` return at its first draw, for every `n > 0` -/
theorem roll_returns_from_poked_state (r : Rng) (hk : r.kind = .mersenne) (hs : r.st.mt.size = 624) (n fuel : Nat) (hn : 0 < n) :
    ∃ r', (r.pokeRaw 0).roll n (fuel+1) = some (0, r') :=
  roll_returns_after_poke r hk hs n fuel hn

/-- `esl_rand64_Roll` (used by `esl_vec_*Shuffle64`): the model's loop is `rollOn64` on the generator's 64-bit words; a returned
    value is in range; after any finite run of rejected words every next word below `n·f` — at least half of all words —
    makes it return -/
theorem roll64_progress (n : Nat) (hn : 0 < n) (hn' : n < 2^64) :
    (∀ fuel (r : Rng64), r.roll n fuel = (rollOn64 n (rng64Words r fuel)).map (fun p => (p.1, rng64After r (fuel - p.2.length)))) ∧
    (∀ ws v rest, rollOn64 n ws = some (v, rest) → v < n) ∧
    (∀ ws, rollOn64 n ws = none → ∀ w, w < n * ((2^64-1)/n) → ∃ v, rollOn64 n (ws ++ [w]) = some (v, []) ∧ v < n) ∧
    2^64 ≤ 2 * (n * ((2^64-1)/n)) := by
  obtain ⟨_, h2, h3⟩ := reject_count_gen (2^64-1) n hn (by omega)
  exact ⟨Rng64_roll_eq_rollOn64 n, rollOn64_lt n, fun ws h w hw => rollOn64_progress n hn hn' ws h w hw, by omega⟩

/-- **the `while (!is_eulerian)` retry, on raw words**: for every valid non-empty input (each vertex with fewer than `2^32`
    edges) and every edge ordering a pass can start from there is a finite list of 32-bit words on which the pass — reading
    every roll through the rejection loop — consumes the list and selects last edges that the code's own connectivity test
    accepts (witness: the input's own last edges, word `pos·f` for roll `pos`) -/
theorem dpRetry_accepting_words_exist (K : Nat) (codes : List Nat) (hK : ∀ c ∈ codes, c < K) (hne : codes ≠ [])
    (E : Edges) (hp : PermEdges E (dpBuild K codes)) (hb : ∀ v, (elist E v).length < 2^32) :
    ∃ ws E', (∀ w ∈ ws, w < 2^32) ∧ dpSelectLastOn (codes.getLastD 0) (List.range K) E ws = some (E', []) ∧
      dpAccepted K (codes.getLastD 0) E' = true := by
  obtain ⟨rs, hv, hacc⟩ := exists_accepting_rolls' K codes hK hne E hp
  obtain ⟨h1, h2, _⟩ := dpSelectLastOn_words (codes.getLastD 0) (List.range K) E rs [] hb hv
  exact ⟨_, _, h2, by simpa using h1, hacc⟩

/-- a pass on a word list, when it returns, has computed `dpSelectLastRolls` on an in-range roll vector — the same function
    of the rolls as the pass on the generator (`dpSelectLast_via_rolls`) -/
theorem dpPass_on_words_via_rolls (sf : Nat) (xs : List Nat) (E : Edges) (ws : List Nat) (E' : Edges) (rest : List Nat)
    (h : dpSelectLastOn sf xs E ws = some (E', rest)) :
    ∃ rs, DpValidRolls sf xs E rs ∧ E' = dpSelectLastRolls sf xs E rs :=
  dpSelectLastOn_eq_rolls sf xs E ws E' rest h

/-- `esl_vec_{D,F,I,L}Shuffle64` (generator `ESL_RAND64`): same length, same multiset, for every generator state -/
theorem vecShuffle64_perm {α : Type} (v : Array α) (r : Rng64) :
    (vecShuffle64 v r).1.size = v.size ∧ (vecShuffle64 v r).1.Perm v := by
  have h := (fyRolls_permOn 0 v.size v _ (fyDraw64_valid v.size r)).perm
  rw [← fyLoop64_eq_fyRolls] at h
  exact ⟨h.size_eq, h⟩

/-- `esl_rsq_Sample(rng, allowed_chars, L, &s)`: an invalid flag is `eslEINVAL`; otherwise exactly `L` characters, each a
    7-bit code belonging to the requested `<ctype.h>` class (C locale) -/
theorem rsqSample_spec (flag L : Nat) (r : Rng) :
    match sampleClass flag with
    | none => (rsqSample flag L r).1 = none
    | some cls => ∃ out, (rsqSample flag L r).1 = some out ∧ out.size = L ∧ ∀ x ∈ out, x < 128 ∧ cls x = true := by
  cases h : sampleClass flag with
  | none => simp [rsqSample, h]
  | some cls =>
    obtain ⟨rolls, h1, h2, h3, _, h5⟩ := rsqSample_uniform flag L cls h r
    refine ⟨_, h3, by simp [h1], fun x hx => (h5 x).1 ?_⟩
    simp only [List.mem_toArray, List.mem_map] at hx
    obtain ⟨i, hi, rfl⟩ := hx
    rw [Array.getD_eq_getD_getElem?, Array.getElem?_eq_getElem (h2 i hi)]
    exact Array.getElem_mem _

/-- `esl_rsq_CShuffleKmers(r, s, K, shuffled)`: with `W = L / K` words and `P = L % K` leftover residues, the output's words
    (`K`-mers starting at `P`) are a permutation of the input's consecutive `K`-mers, the leftover prefix `[0,P)` is
    unchanged, length kept -/
theorem cShuffleKmers_spec {α : Type} (s : Array α) (K : Nat) (r : Rng) :
    KmerInv K (s.size % K) (s.size / K) s (shuffleKmers 0 s s.size K r).1 := by
  simpa using shuffleKmers_inv 0 s s.size K (by omega) r

/-- `esl_rsq_XShuffleKmers(r, dsq, L, K, shuffled)` on the array `dsq[0..L+1]`: words start at `1 + P`; sentinel `dsq[0]`,
    the leftover residues `dsq[1..P]` and `dsq[L+1]` are unchanged (the statement that failed before fix fb16019) -/
theorem xShuffleKmers_spec (dsq : Bytes) (L K : Nat) (h : L + 2 ≤ dsq.size) (r : Rng) :
    KmerInv K (1 + L % K) (L / K) dsq (shuffleKmers 1 dsq L K r).1 :=
  shuffleKmers_inv 1 dsq L K (by omega) r


/-! ## doublet-preserving shuffle (Altschul–Erickson)

Full statement of the property: *for every input and seed* the DP shuffle keeps the ordered-pair counts and the first and
last residue: `shuffleDP_spec`, one walk over the routine (`Shuffle.shuffleDPcore_spec`). Its two halves, each stated for itself:
(i) `shuffleDP_ok` — if the routine returns `eslOK` (its two final "reality checks" `x == sf`, `pos == len` passed) the
output has the input's length, first residue, last residue and exactly the input's multiset of ordered adjacent pairs;
(ii) `shuffleDP_checks_never_fire` — the Altschul–Erickson/BEST argument: once the code's connectivity test has accepted
the last-edge graph, the walk ends on `s_f` having used every edge, so the checks cannot fire (`eslEINCONCEIVABLE` is
unreachable). The only residue is the `while (!is_eulerian)` retry loop, modelled with fuel (`nohalt`): it ends with
probability 1, not for every stream. -/
theorem shuffleDP_ok (K : Nat) (codes : List Nat) (hK : ∀ c ∈ codes, c < K) (hlen : 2 < codes.length) (r : Rng)
    (out : Array Nat) (h : (shuffleDPcore K codes r).1 = .ok out) :
    out.size = codes.length ∧ out.toList.head? = codes.head? ∧ out.toList.getLast? = codes.getLast? ∧
      (adjPairs out.toList).Perm (adjPairs codes) :=
  shuffleDPcore_ok K codes hK hlen r out (shuffleDPcore K codes r).2 (by rw [← h])

/-- `esl_rsq_CShuffleDP`: on `eslOK`, either the input has length `≤ 2` and is copied, or the (upper-cased) output keeps
    length, first and last residue and the ordered-pair multiset of the case-folded input -/
theorem cShuffleDP_ok (s : Bytes) (r : Rng) (out : Bytes) (h : (cShuffleDP s r).1 = .ok out) :
    (s.size ≤ 2 ∧ out = s) ∨
    ∃ codes, out = ofCodesText codes ∧ codes.size = s.size ∧ codes.toList.head? = (textCodes s).head? ∧
      codes.toList.getLast? = (textCodes s).getLast? ∧ (adjPairs codes.toList).Perm (adjPairs (textCodes s)) := by
  unfold cShuffleDP at h
  split at h
  · simp at h
  · rename_i halpha
    split at h
    · rename_i h2; simp only [SeqResult.ok.injEq] at h; exact Or.inl ⟨h2, h.symm⟩
    · rename_i h2
      obtain ⟨codes, h1, h3⟩ := ofDP_ok _ _ out h
      have hK := textCodes_lt s halpha
      obtain ⟨a1, a2, a3, a4⟩ := shuffleDPcore_ok 26 (textCodes s) hK (by simp [textCodes]; omega) r codes _ h1
      exact Or.inr ⟨codes, h3, by simpa [textCodes] using a1, a2, a3, a4⟩

/-- `esl_rsq_XShuffleDP` -/
theorem xShuffleDP_ok (dsq : Bytes) (L K : Nat) (hL : L + 2 ≤ dsq.size) (r : Rng) (out : Bytes) (h : (xShuffleDP dsq L K r).1 = .ok out) :
    (L ≤ 2 ∧ out = dsq) ∨
    ∃ codes, out = ofCodesDigital codes ∧ codes.size = L ∧ codes.toList.head? = (digitalCodes dsq L).head? ∧
      codes.toList.getLast? = (digitalCodes dsq L).getLast? ∧ (adjPairs codes.toList).Perm (adjPairs (digitalCodes dsq L)) := by
  have hlen := digitalCodes_length dsq L hL
  unfold xShuffleDP at h
  split at h
  · simp at h
  · rename_i hval
    split at h
    · rename_i h2; simp only [SeqResult.ok.injEq] at h; exact Or.inl ⟨h2, h.symm⟩
    · rename_i h2
      obtain ⟨codes, h1, h3⟩ := ofDP_ok _ _ out h
      have hK := digitalCodes_lt dsq L K hval
      obtain ⟨a1, a2, a3, a4⟩ := shuffleDPcore_ok K (digitalCodes dsq L) hK (by omega) r codes _ h1
      exact Or.inr ⟨codes, h3, by omega, a2, a3, a4⟩


/-- the reality checks never fire: for every input longer than 2 over vertices `< K` and every generator state the core
    returns `ok` — or `nohalt` when the retry loop exhausted its fuel (the C code would go on drawing) -/
theorem shuffleDP_checks_never_fire (K : Nat) (codes : List Nat) (hK : ∀ c ∈ codes, c < K) (hlen : 2 < codes.length) (r : Rng) :
    (∃ out r', shuffleDPcore K codes r = (.ok out, r')) ∨ shuffleDPcore K codes r = (.nohalt, r) :=
  shuffleDPcore_total K codes hK hlen r

/-- **DP shuffle, full form**: for every valid input and every generator state, unless the retry loop ran out of fuel, the
    output has the input's length, first and last residue and ordered-pair multiset -/
theorem shuffleDP_spec (K : Nat) (codes : List Nat) (hK : ∀ c ∈ codes, c < K) (hlen : 2 < codes.length) (r : Rng) :
    shuffleDPcore K codes r = (.nohalt, r) ∨
    ∃ out r', shuffleDPcore K codes r = (.ok out, r') ∧ out.size = codes.length ∧ out.toList.head? = codes.head? ∧
      out.toList.getLast? = codes.getLast? ∧ (adjPairs out.toList).Perm (adjPairs codes) :=
  shuffleDPcore_spec K codes hK hlen r

/-- `esl_rsq_CShuffleDP` never returns `eslEINCONCEIVABLE`; it returns `eslEINVAL` exactly for non-alphabetic input -/
theorem cShuffleDP_status (s : Bytes) (r : Rng) :
    (cShuffleDP s r).1 ≠ .einconceivable ∧ (cShuffleDP s r).1 ≠ .fatal ∧
      ((cShuffleDP s r).1 = .einval ↔ s.any (fun c => !isAlpha c) = true) := by
  unfold cShuffleDP
  split
  · rename_i h; simp [h]
  · rename_i halpha
    split
    · simp [halpha]
    · rename_i h2
      have hK := textCodes_lt s halpha
      rcases shuffleDPcore_total 26 (textCodes s) hK (by simp [textCodes]; omega) r with ⟨out, r', h⟩ | h
      · rw [h]; simp [ofDP, halpha]
      · rw [h]; simp [ofDP, halpha]

/-- `esl_rsq_XShuffleDP` never returns `eslEINCONCEIVABLE`; `eslEINVAL` exactly when a residue code is `≥ K` -/
theorem xShuffleDP_status (dsq : Bytes) (L K : Nat) (hL : L + 2 ≤ dsq.size) (r : Rng) :
    (xShuffleDP dsq L K r).1 ≠ .einconceivable ∧ (xShuffleDP dsq L K r).1 ≠ .fatal ∧
      ((xShuffleDP dsq L K r).1 = .einval ↔ (digitalCodes dsq L).any (fun c => c ≥ K) = true) := by
  have hlen := digitalCodes_length dsq L hL
  unfold xShuffleDP
  split
  · rename_i h; simp [h]
  · rename_i hval
    split
    · simp [hval]
    · rename_i h2
      have hK := digitalCodes_lt dsq L K hval
      rcases shuffleDPcore_total K (digitalCodes dsq L) hK (by omega) r with ⟨out, r', h⟩ | h
      · rw [h]; simp [ofDP, hval]
      · rw [h]; simp [ofDP, hval]

/-- the walk of step (6) consumes each edge of the edge ordering at most once (unconditionally) -/
theorem dpWalk_edges_once (E : Edges) (K c0 : Nat) (hlt : ∀ v y, y ∈ elist E v → y < K) (hc0 : c0 < K)
    (hfirst : 0 < (elist E c0).length) (fuel : Nat) :
    let res := dpWalk E fuel c0 (Array.replicate K 0) #[]
    (adjPairs (res.1.toList ++ [res.2.1])).Perm (usedEdges E res.2.2 K) ∧ (usedEdges E res.2.2 K).Sublist (edgePairs E K) := by
  obtain ⟨w0, hstart⟩ := dpWalk_start E K c0 hc0 hfirst
  have hw := (dpWalk_run E K c0 hlt fuel c0 (Array.replicate K 0) #[] w0 hstart).1
  exact ⟨hw.pairs, usedEdges_sublist _ _ _⟩

/-! ## i.i.d. generation and Markov resampling (`α` = any lawful number type; the driver runs `α = Float`) -/
section numeric
variable {α : Type} [CNum α] [LawfulCNum α]

/-- `esl_rsq_IID / fIID / xIID / xfIID`, and `esl_rsq_SampleDirty` with a caller-provided probability vector (`Kp` entries):
    `L` symbols, every one of non-zero probability -/
theorem iid_support (p : List α) (L : Nat) (r : Rng) (out : Array Nat) (h : (iidLoop p L r #[]).1 = some out) :
    out.size = L ∧ ∀ k ∈ out, ∃ q, p[k]? = some q ∧ q ≠ CNum.zero := by
  have := iidLoop_support p L r #[] out h (by simp)
  simpa using this


/-- `esl_rsq_SampleDirty`: whatever vector `p` is used (provided by the caller or sampled), if it is zero at the gap code
    `K`, the nonresidue code `Kp-2` and the missing-data code `Kp-1`, none of these three symbols is ever emitted -/
theorem sampleDirty_never_gap (p : List α) (K Kp L : Nat) (r : Rng) (out : Array Nat)
    (h0 : p[K]? = some CNum.zero) (h1 : p[Kp - 2]? = some CNum.zero) (h2 : p[Kp - 1]? = some CNum.zero)
    (h : (iidLoop p L r #[]).1 = some out) : out.size = L ∧ ∀ k ∈ out, k ≠ K ∧ k ≠ Kp - 2 ∧ k ≠ Kp - 1 := by
  obtain ⟨hs, hk⟩ := iid_support p L r out h
  refine ⟨hs, fun k hkm => ?_⟩
  obtain ⟨q, hq1, hq2⟩ := hk k hkm
  refine ⟨?_, ?_, ?_⟩ <;> (intro e; subst e; simp_all)

/-- `esl_rsq_xIID(r, NULL, K, L, dsq)`: uniform residues `< K` -/
theorem iid_uniform (K L : Nat) (hK : 0 < K) (r : Rng) :
    (iidUniform K L r #[]).1.size = L ∧ ∀ k ∈ (iidUniform K L r #[]).1, k < K := by
  obtain ⟨h1, h2⟩ := sampleDraw_lt K hK L r
  rw [iidUniform_eq]
  exact ⟨by simp [h1], fun k hk => h2 k (by simpa using hk)⟩

/-- `esl_rsq_CMarkov0`: same length, only residues (case-folded) that occur in the input -/
theorem cMarkov0_spec (s : Bytes) (r : Rng) (out : Bytes) (h : (cMarkov0 α s r).1 = .ok out) :
    ∃ codes, out = ofCodesText codes ∧ codes.size = s.size ∧ ∀ k ∈ codes, k ∈ textCodes s := by
  unfold cMarkov0 at h
  split at h
  · simp at h
  · obtain ⟨codes, h1, h2⟩ := ofOpt_ok _ _ out h
    obtain ⟨h3, h4⟩ := markov0_support 26 (textCodes s) r codes h1
    exact ⟨codes, h2, by simpa [textCodes] using h3, h4⟩

/-- `esl_rsq_XMarkov0` -/
theorem xMarkov0_spec (dsq : Bytes) (L K : Nat) (hL : L + 2 ≤ dsq.size) (r : Rng) (out : Bytes) (h : (xMarkov0 α dsq L K r).1 = .ok out) :
    ∃ codes, out = ofCodesDigital codes ∧ codes.size = L ∧ ∀ k ∈ codes, k ∈ digitalCodes dsq L := by
  unfold xMarkov0 at h
  split at h
  · simp at h
  · obtain ⟨codes, h1, h2⟩ := ofOpt_ok _ _ out h
    obtain ⟨h3, h4⟩ := markov0_support K (digitalCodes dsq L) r codes h1
    refine ⟨codes, h2, ?_, h4⟩
    rw [h3, digitalCodes_length dsq L hL]

/-- `esl_rsq_CMarkov1`: inputs of length `≤ 2` are copied; otherwise same length, the first residue occurs in the input and
    every adjacent pair of the output is an adjacent pair of the input read circularly -/
theorem cMarkov1_spec (s : Bytes) (r : Rng) (out : Bytes) (h : (cMarkov1 α s r).1 = .ok out) :
    (s.size ≤ 2 ∧ out = s) ∨
    ∃ codes, out = ofCodesText codes ∧ codes.size = s.size ∧ (∀ pr ∈ adjPairs codes.toList, pr ∈ circPairs (textCodes s)) ∧
      ∃ x, codes.toList.head? = some x ∧ x ∈ textCodes s := by
  unfold cMarkov1 at h
  split at h
  · simp at h
  · split at h
    · rename_i h2; simp only [SeqResult.ok.injEq] at h; exact Or.inl ⟨h2, h.symm⟩
    · rename_i h2
      obtain ⟨codes, h1, h3⟩ := ofOpt_ok _ _ out h
      obtain ⟨h4, h5, h6⟩ := markov1_support 26 (textCodes s) (by simp [textCodes]; omega) r codes h1
      exact Or.inr ⟨codes, h3, by simpa [textCodes] using h4, h5, h6⟩

/-- `esl_rsq_XMarkov1` -/
theorem xMarkov1_spec (dsq : Bytes) (L K : Nat) (hL : L + 2 ≤ dsq.size) (r : Rng) (out : Bytes) (h : (xMarkov1 α dsq L K r).1 = .ok out) :
    (L ≤ 2 ∧ out = dsq) ∨
    ∃ codes, out = ofCodesDigital codes ∧ codes.size = L ∧ (∀ pr ∈ adjPairs codes.toList, pr ∈ circPairs (digitalCodes dsq L)) ∧
      ∃ x, codes.toList.head? = some x ∧ x ∈ digitalCodes dsq L := by
  have hlen := digitalCodes_length dsq L hL
  unfold xMarkov1 at h
  split at h
  · simp at h
  · split at h
    · rename_i h2; simp only [SeqResult.ok.injEq] at h; exact Or.inl ⟨h2, h.symm⟩
    · rename_i h2
      obtain ⟨codes, h1, h3⟩ := ofOpt_ok _ _ out h
      obtain ⟨h4, h5, h6⟩ := markov1_support K (digitalCodes dsq L) (by omega) r codes h1
      exact Or.inr ⟨codes, h3, by omega, h5, h6⟩
end numeric


/-! ## `esl_fatal("unreached code was reached")` is unreachable (exact arithmetic)

`esl_rnd_DChoose` ends in `esl_fatal` when its scan falls off the vector; the theorems above only speak about runs that
return `eslOK`. Read over ℚ (the proved instance of `LawfulCNum`), for EVERY input and EVERY generator state the Markov
resamplers return `eslEINVAL` (exactly on invalid residues) or `eslOK`, never the fatal branch. For `Markov1` this is the
content of the circularisation `p[x][i0] += 1.0` (`utest_markov1_bug`): a residue that occurs only at the end of the input still
has an outgoing pair, so the chain can never move to a row of zeros. The count matrix is characterised exactly on the
way (`markov1_counts_exact`: entry `(x,y)` = number of circular adjacent pairs `(x,y)`). binary64 needs one more IEEE fact
for this (`norm / norm = 1.0` for a finite positive `norm`; the two loops of `DChoose` add the same numbers in the same
order); the differential run has never seen the fatal branch (it would be a `fault` line). -/

/-- `esl_rnd_DChoose` over ℚ: roll in `[0,1)`, non-negative entries, positive sum ⇒ it returns an index in range whose
    entry is positive -/
theorem dchoose_returns (u : ℚ) (hu0 : 0 ≤ u) (hu1 : u < 1) (p : List ℚ) (hp : ∀ q ∈ p, 0 ≤ q) (hs : 0 < p.sum) :
    ∃ k, dchoose u p = some k ∧ k < p.length ∧ ∃ q, p[k]? = some q ∧ 0 < q :=
  dchoose_total u hu0 hu1 p hp hs

/-- **the chooser is the inverse CDF** (exact arithmetic): `esl_rnd_DChoose` returns `k` only for a roll in
    `[ (p₀+…+p_{k-1})/Σp , (p₀+…+p_k)/Σp )`, an interval of length `p_k/Σp` — under a uniform roll, `k` has probability `p_k/Σp`
    (with `dchoose_returns`: the brackets partition `[0,1)`, every roll is in exactly one) -/
theorem dchoose_inverse_cdf (u : ℚ) (hu0 : 0 ≤ u) (p : List ℚ) (hs : 0 < p.sum) (k : Nat) (h : dchoose u p = some k) :
    (p.take k).sum / p.sum ≤ u ∧ u < (p.take (k+1)).sum / p.sum :=
  dchoose_bracket u hu0 p hs k h

/-- the emission vector of `esl_rsq_{C,X}Markov0` is exactly the input's residue frequencies `count(k) / L` -/
theorem markov0_frequencies_exact (K : Nat) (codes : List Nat) (hne : codes ≠ []) (k : Nat) :
    (markov0P (α := ℚ) K codes)[k]? = if k < K then some ((codes.count k : ℚ) / (codes.length : ℚ)) else none := by
  rw [(ratCounts _).markov0P_eq K codes hne (Nat.le_refl _), List.map_map, List.getElem?_map]
  split
  · rename_i hk; rw [List.getElem?_range hk]; rfl
  · rename_i hk; rw [List.getElem?_eq_none (by simpa using hk)]; rfl

/-- the conditional row `p[x]` of `esl_rsq_{C,X}Markov1` for a residue `x` of the input is exactly
    `count of circular pairs (x,y) / count of circular pairs (x,·)` -/
theorem markov1_conditional_exact (K c0 : Nat) (rest : List Nat) (hK : ∀ c ∈ c0 :: rest, c < K) (x : Nat) (hx : x ∈ c0 :: rest) :
    (((markov1P (c0 :: rest).length (markov1Counts (α := ℚ) K (c0 :: rest))).1)[x]!).toList =
      (rowL K (c0 :: rest) x).map (fun v => v / (rowL K (c0 :: rest) x).sum) ∧ 0 < (rowL K (c0 :: rest) x).sum := by
  have hS := List.sum_pos_iff_exists_pos_nat.mpr (rowN_pos K (c0 :: rest) hK x hx)
  rw [rowL_sum, rowL_eq, List.map_map]
  exact ⟨(ratCounts _).markov1P_row K c0 rest (Nat.le_refl _) x (hK x hx) hS, by exact_mod_cast hS⟩

/-- `esl_rsq_IID / fIID / xIID / xfIID` (and `esl_rsq_SampleDirty` with a provided vector) over ℚ never fall through -/
theorem iid_never_fatal (p : List ℚ) (hp : ∀ q ∈ p, 0 ≤ q) (hs : 0 < p.sum) (L : Nat) (r : Rng) :
    ∃ out, (iidLoop p L r #[]).1 = some out :=
  iidLoop_total p hp hs L r #[]

/-- over ANY number type (binary64 included): if the vector's sum divided by itself is `1` and every `esl_random()` value is
    `< 1` — the IEEE facts L5 that the op `fplaws` checks on every executed call — the i.i.d. loops never reach `esl_fatal`:
    the scan's last running sum IS the norm (same numbers, same order). No ordering law is used. -/
theorem iid_never_fatal_any_number_type {α : Type} [CNum α] (p : List α) (hp : p ≠ [])
    (hself : CNum.div (p.foldl CNum.add CNum.zero) (p.foldl CNum.add CNum.zero) = CNum.one)
    (hu : ∀ x : Nat, x < 4294967296 → CNum.lt (CNum.div (CNum.ofNat x) (CNum.ofNat 4294967296) : α) CNum.one = true)
    (L : Nat) (r : Rng) : ∃ out, (iidLoop p L r #[]).1 = some out :=
  iidLoop_total_abs p hp hself hu L r #[]

/-- exact first-order counts: entry `(x, y)` is the number of occurrences of `(x, y)` among the circular adjacent pairs -/
theorem markov1_counts_exact (K c0 : Nat) (rest : List Nat) (x y : Nat) :
    ent (markov1Counts (α := ℚ) K (c0 :: rest)) x y =
      if x < K ∧ y < K then some (((circPairs (c0 :: rest)).count (x, y) : Nat) : ℚ) else none :=
  (ratCounts _).markov1Counts_ofNat K c0 rest (Nat.le_refl _) x y

theorem cMarkov0_einval_or_ok (s : Bytes) (r : Rng) :
    ((cMarkov0 ℚ s r).1 = .einval ∧ s.any (fun c => !isAlpha c) = true) ∨
    (¬ (s.any (fun c => !isAlpha c) = true) ∧ ∃ out, (cMarkov0 ℚ s r).1 = .ok out) := by
  unfold cMarkov0
  exact einval_or_ok fun h => ofOpt_isOk _ _ (markov0_total 26 (textCodes s) (textCodes_lt s h) r)

theorem xMarkov0_einval_or_ok (dsq : Bytes) (L K : Nat) (r : Rng) :
    ((xMarkov0 ℚ dsq L K r).1 = .einval ∧ (digitalCodes dsq L).any (fun c => c ≥ K) = true) ∨
    (¬ ((digitalCodes dsq L).any (fun c => c ≥ K) = true) ∧ ∃ out, (xMarkov0 ℚ dsq L K r).1 = .ok out) := by
  unfold xMarkov0
  exact einval_or_ok fun h => ofOpt_isOk _ _ (markov0_total K (digitalCodes dsq L) (digitalCodes_lt dsq L K h) r)

/-- **`esl_rsq_CMarkov1` never reaches `esl_fatal`** (the `markov1_bug` family, for every input) -/
theorem cMarkov1_einval_or_ok (s : Bytes) (r : Rng) :
    ((cMarkov1 ℚ s r).1 = .einval ∧ s.any (fun c => !isAlpha c) = true) ∨
    (¬ (s.any (fun c => !isAlpha c) = true) ∧ ∃ out, (cMarkov1 ℚ s r).1 = .ok out) := by
  unfold cMarkov1
  refine einval_or_ok fun h => ?_
  split
  · exact ⟨_, rfl⟩
  · exact ofOpt_isOk _ _ (markov1_total 26 (textCodes s) (textCodes_lt s h) (by simp [textCodes]; omega) r)

theorem xMarkov1_einval_or_ok (dsq : Bytes) (L K : Nat) (hL : L + 2 ≤ dsq.size) (r : Rng) :
    ((xMarkov1 ℚ dsq L K r).1 = .einval ∧ (digitalCodes dsq L).any (fun c => c ≥ K) = true) ∨
    (¬ ((digitalCodes dsq L).any (fun c => c ≥ K) = true) ∧ ∃ out, (xMarkov1 ℚ dsq L K r).1 = .ok out) := by
  have hlen := digitalCodes_length dsq L hL
  unfold xMarkov1
  refine einval_or_ok fun h => ?_
  split
  · exact ⟨_, rfl⟩
  · exact ofOpt_isOk _ _ (markov1_total K (digitalCodes dsq L) (digitalCodes_lt dsq L K h) (by omega) r)

/-- the vector that `esl_rsq_SampleDirty` samples when the caller provides none (binary64 model, executed by the driver)
    has `Kp` entries and is exactly `0.0` at the gap, nonresidue and missing-data codes: the hypotheses of
    `sampleDirty_never_gap` hold for it by construction -/
theorem sampleDirty_sampled_vector_zeros (K Kp : Nat) (h : K + 3 ≤ Kp) (r : Rng) :
    (dirtyP K Kp r).1.size = Kp ∧ (dirtyP K Kp r).1[K]? = some 0.0 ∧ (dirtyP K Kp r).1[Kp - 2]? = some 0.0 ∧
      (dirtyP K Kp r).1[Kp - 1]? = some 0.0 :=
  dirtyP_zeros K Kp h r

/-! ## the binary64 facts L1–L5 over an IEEE-754 carrier

`LawfulCNum`'s fields are stated so that each holds for EVERY binary64 value (`a + 0.0 = a` would fail at `-0.0`), and
they are PROVED — not trusted — for `Ieee ρ`: NaN, ±inf, ±0 and the non-zero representable rationals, operations = the exact
result delivered through ANY monotone idempotent rounding `ρ` whose representable numbers include the 33-bit integers and the
fractions `k/2^32`, special values by the tables of IEEE 754 §6 (`IeeeCarrier.lean`). So every support theorem of the section
`numeric` holds verbatim for `α = Ieee ρ`, and the "never `esl_fatal`" theorem holds for it without any hypothesis on the
arithmetic. What is left to trust about C `double` / Lean `Float` is that they ARE such a carrier (round-to-nearest-even on 53-bit
significands) — one statement; the op `fplaws` still evaluates the five facts on every executed value, in C and in Lean. -/

/-- **L1–L4** for every value of the carrier, signed zeros / infinities / NaN included, for every monotone rounding -/
theorem ieee_carrier_lawful (ρ : Rounding) : LawfulCNum (Ieee ρ) := ieee_lawful ρ

/-- **L5**: `norm / norm = 1.0` for every finite non-zero `norm`, and `esl_random() = x / 2^32 < 1.0` for every 32-bit `x` -/
theorem ieee_L5 (ρ : Rounding) :
    (∀ (a : Ieee ρ) (q : ℚ), a.1 = .fin q → CNum.div a a = (CNum.one : Ieee ρ)) ∧
    (∀ x : Nat, x < 4294967296 → CNum.lt (CNum.div (CNum.ofNat x) (CNum.ofNat 4294967296) : Ieee ρ) CNum.one = true) :=
  ⟨ieee_div_self ρ, ieee_random_lt_one ρ⟩

/-- i.i.d. generation in ROUNDED arithmetic: `L` symbols, each of non-zero probability (an instance of `iid_support`; `-0.0` is
    not `CNum.zero`, but an entry `-0.0` is never chosen either: `iid_support_ieee_negzero`) -/
theorem iid_support_ieee (ρ : Rounding) (p : List (Ieee ρ)) (L : Nat) (r : Rng) (out : Array Nat)
    (h : (iidLoop p L r #[]).1 = some out) : out.size = L ∧ ∀ k ∈ out, ∃ q, p[k]? = some q ∧ q ≠ CNum.zero :=
  iid_support p L r out h

/-- … at full strength for binary64's two zeros: no emitted symbol has probability `+0.0` OR `-0.0` (`p[k] == 0.0` in C) -/
theorem iid_support_ieee_negzero (ρ : Rounding) (p : List (Ieee ρ)) (L : Nat) (r : Rng) (out : Array Nat)
    (h : (iidLoop p L r #[]).1 = some out) : out.size = L ∧ ∀ k ∈ out, ∃ q, p[k]? = some q ∧ ¬ IsZero ρ q := by
  have := iidLoop_support_notZ (IsZero ρ) (ieee_add_zero_cmp ρ) p
    (fun x => LawfulCNum.not_lt_zero_div x 4294967296 _) L r #[] out h (by simp)
  simpa using this

/-- **never `esl_fatal`, in rounded arithmetic**: whatever the rounding, if the vector's computed sum is a finite non-zero value,
    `esl_rsq_IID / fIID / xIID / xfIID` return — entries of any sign and zeros are allowed as long as the computed sum is finite and
    non-zero (a NaN entry makes the sum NaN) -/
theorem iid_never_fatal_ieee (ρ : Rounding) (p : List (Ieee ρ)) (hp : p ≠ []) (q : ℚ)
    (hnorm : (p.foldl CNum.add CNum.zero).1 = .fin q) (L : Nat) (r : Rng) : ∃ out, (iidLoop p L r #[]).1 = some out :=
  iidLoop_total_abs p hp (ieee_div_self ρ _ q hnorm) (ieee_random_lt_one ρ) L r #[]

/-- **`esl_rsq_{C,X}Markov0` never reach `esl_fatal` in ROUNDED arithmetic** (any monotone rounding, every input of at most `2^32`
    residues, every generator state): the counts are exact integers, `count/L` is `+0.0` or in `[2^-32, 1]`, the running sums stay
    finite and turn positive at the first non-zero entry, so `norm/norm = 1.0 > esl_random()`. `eslEINVAL` exactly on invalid input. -/
theorem cMarkov0_einval_or_ok_ieee (ρ : Rounding) (s : Bytes) (hs : s.size ≤ 4294967296) (r : Rng) :
    ((cMarkov0 (Ieee ρ) s r).1 = .einval ∧ s.any (fun c => !isAlpha c) = true) ∨
    (¬ (s.any (fun c => !isAlpha c) = true) ∧ ∃ out, (cMarkov0 (Ieee ρ) s r).1 = .ok out) := by
  unfold cMarkov0
  exact einval_or_ok fun h => ofOpt_isOk _ _
    ((ieeeCounts ρ).markov0_total 26 (textCodes s) (textCodes_lt s h) (by simpa [textCodes] using hs) (by norm_num) r)

theorem xMarkov0_einval_or_ok_ieee (ρ : Rounding) (dsq : Bytes) (L K : Nat) (hL : L ≤ 4294967296) (hK : K ≤ 4294967296) (r : Rng) :
    ((xMarkov0 (Ieee ρ) dsq L K r).1 = .einval ∧ (digitalCodes dsq L).any (fun c => c ≥ K) = true) ∨
    (¬ ((digitalCodes dsq L).any (fun c => c ≥ K) = true) ∧ ∃ out, (xMarkov0 (Ieee ρ) dsq L K r).1 = .ok out) := by
  unfold xMarkov0
  exact einval_or_ok fun h => ofOpt_isOk _ _
    ((ieeeCounts ρ).markov0_total K (digitalCodes dsq L) (digitalCodes_lt dsq L K h) (by simp [digitalCodes]; omega) hK r)

/-- **`esl_rsq_{C,X}Markov1` never reach `esl_fatal` in ROUNDED arithmetic** — the `markov1_bug` family closed for binary64-like
    arithmetic, not only over ℚ: the circularised counts are exact integers, every residue of the input has a circular successor, so
    its row sum `p0[x]` is an exact positive integer `≤ L`, its conditional row has entries in `{+0.0} ∪ [2^-32, 1]` with a positive one,
    the computed `norm` is finite and positive, and the residue `DChoose` returns is again a residue of the input -/
theorem cMarkov1_einval_or_ok_ieee (ρ : Rounding) (s : Bytes) (hs : s.size ≤ 4294967296) (r : Rng) :
    ((cMarkov1 (Ieee ρ) s r).1 = .einval ∧ s.any (fun c => !isAlpha c) = true) ∨
    (¬ (s.any (fun c => !isAlpha c) = true) ∧ ∃ out, (cMarkov1 (Ieee ρ) s r).1 = .ok out) := by
  unfold cMarkov1
  refine einval_or_ok fun h => ?_
  split
  · exact ⟨_, rfl⟩
  · exact ofOpt_isOk _ _ ((ieeeCounts ρ).markov1_total 26 (textCodes s) (textCodes_lt s h) (by simp [textCodes]; omega)
      (by simpa [textCodes] using hs) (by norm_num) r)

theorem xMarkov1_einval_or_ok_ieee (ρ : Rounding) (dsq : Bytes) (L K : Nat) (hL : L + 2 ≤ dsq.size) (hLb : L ≤ 4294967296)
    (hKb : K ≤ 4294967296) (r : Rng) :
    ((xMarkov1 (Ieee ρ) dsq L K r).1 = .einval ∧ (digitalCodes dsq L).any (fun c => c ≥ K) = true) ∨
    (¬ ((digitalCodes dsq L).any (fun c => c ≥ K) = true) ∧ ∃ out, (xMarkov1 (Ieee ρ) dsq L K r).1 = .ok out) := by
  have hlen := digitalCodes_length dsq L hL
  unfold xMarkov1
  refine einval_or_ok fun h => ?_
  split
  · exact ⟨_, rfl⟩
  · exact ofOpt_isOk _ _
      ((ieeeCounts ρ).markov1_total K (digitalCodes dsq L) (digitalCodes_lt dsq L K h) (by omega) (by omega) hKb r)

/-- the count matrix in rounded arithmetic holds the exact integers (entry = number of circular adjacent pairs) -/
theorem markov1_counts_exact_ieee (ρ : Rounding) (K c0 : Nat) (rest : List Nat) (hlen : (c0 :: rest).length ≤ 4294967296) (x y : Nat) :
    ent (markov1Counts (α := Ieee ρ) K (c0 :: rest)) x y =
      if x < K ∧ y < K then some (CNum.ofNat ((circPairs (c0 :: rest)).count (x, y))) else none :=
  (ieeeCounts ρ).markov1Counts_ofNat K c0 rest hlen x y

/-- i.i.d. generation from a probability-like vector in ROUNDED arithmetic (at most `2^32` entries, each `+0.0` or in `(0,1]`, one
    positive; the computed sum need not be `1.0`): `esl_rsq_IID / fIID / xIID / xfIID` return, and emit only symbols of non-zero probability -/
theorem iid_complete_ieee (ρ : Rounding) (p : List (Ieee ρ)) (hlen : p.length ≤ 4294967296) (hent : ∀ q ∈ p, Sm 1 q.1)
    (hpos : ∃ q ∈ p, Pos q.1) (L : Nat) (r : Rng) :
    ∃ out, (iidLoop p L r #[]).1 = some out ∧ out.size = L ∧ ∀ k ∈ out, ∃ q, p[k]? = some q ∧ ¬ IsZero ρ q := by
  obtain ⟨out, h⟩ := iidLoop_total_ieee ρ p hlen hent hpos L r #[]
  exact ⟨out, h, iid_support_ieee_negzero ρ p L r out h⟩

/-- hypotheses of `iid_complete_ieee` on a concrete vector under a lossy rounding: `[1/3, +0.0, 1/3]` -/
example : Sm 1 (CNum.div (CNum.ofNat 1) (CNum.ofNat 3) : Ieee gridRounding).1 ∧ Pos (CNum.div (CNum.ofNat 1) (CNum.ofNat 3) : Ieee gridRounding).1 ∧
    Sm 1 (CNum.zero : Ieee gridRounding).1 :=
  ⟨(ratio_ieee gridRounding 1 3 (by norm_num) (by norm_num) (by norm_num)).1,
   (ratio_ieee gridRounding 1 3 (by norm_num) (by norm_num) (by norm_num)).2 (by norm_num), Or.inl rfl⟩

/-- **order-1 Markov resampling, complete statement in rounded arithmetic**: for every alphabetic text of at most `2^32` characters,
    every generator state and every monotone rounding, `esl_rsq_CMarkov1` returns `eslOK`, and the output is the input itself
    (length `≤ 2`) or has the input's length, starts with a residue of the input and contains only adjacent pairs of the input read circularly -/
theorem cMarkov1_complete_ieee (ρ : Rounding) (s : Bytes) (hs : s.size ≤ 4294967296) (hal : ¬ (s.any (fun c => !isAlpha c) = true)) (r : Rng) :
    ∃ out, (cMarkov1 (Ieee ρ) s r).1 = .ok out ∧
      ((s.size ≤ 2 ∧ out = s) ∨
       ∃ codes, out = ofCodesText codes ∧ codes.size = s.size ∧ (∀ pr ∈ adjPairs codes.toList, pr ∈ circPairs (textCodes s)) ∧
         ∃ x, codes.toList.head? = some x ∧ x ∈ textCodes s) := by
  rcases cMarkov1_einval_or_ok_ieee ρ s hs r with ⟨_, h⟩ | ⟨_, out, h⟩
  · exact absurd h hal
  · exact ⟨out, h, cMarkov1_spec s r out h⟩

theorem xMarkov1_complete_ieee (ρ : Rounding) (dsq : Bytes) (L K : Nat) (hL : L + 2 ≤ dsq.size) (hLb : L ≤ 4294967296) (hKb : K ≤ 4294967296)
    (hval : ¬ ((digitalCodes dsq L).any (fun c => c ≥ K) = true)) (r : Rng) :
    ∃ out, (xMarkov1 (Ieee ρ) dsq L K r).1 = .ok out ∧
      ((L ≤ 2 ∧ out = dsq) ∨
       ∃ codes, out = ofCodesDigital codes ∧ codes.size = L ∧ (∀ pr ∈ adjPairs codes.toList, pr ∈ circPairs (digitalCodes dsq L)) ∧
         ∃ x, codes.toList.head? = some x ∧ x ∈ digitalCodes dsq L) := by
  rcases xMarkov1_einval_or_ok_ieee ρ dsq L K hL hLb hKb r with ⟨_, h⟩ | ⟨_, out, h⟩
  · exact absurd h hval
  · exact ⟨out, h, xMarkov1_spec dsq L K hL r out h⟩

/-- order-0, same form: `eslOK`, same length, only residues of the input -/
theorem cMarkov0_complete_ieee (ρ : Rounding) (s : Bytes) (hs : s.size ≤ 4294967296) (hal : ¬ (s.any (fun c => !isAlpha c) = true)) (r : Rng) :
    ∃ out, (cMarkov0 (Ieee ρ) s r).1 = .ok out ∧
      ∃ codes, out = ofCodesText codes ∧ codes.size = s.size ∧ ∀ k ∈ codes, k ∈ textCodes s := by
  rcases cMarkov0_einval_or_ok_ieee ρ s hs r with ⟨_, h⟩ | ⟨_, out, h⟩
  · exact absurd h hal
  · exact ⟨out, h, cMarkov0_spec s r out h⟩

theorem xMarkov0_complete_ieee (ρ : Rounding) (dsq : Bytes) (L K : Nat) (hL : L + 2 ≤ dsq.size) (hLb : L ≤ 4294967296) (hKb : K ≤ 4294967296)
    (hval : ¬ ((digitalCodes dsq L).any (fun c => c ≥ K) = true)) (r : Rng) :
    ∃ out, (xMarkov0 (Ieee ρ) dsq L K r).1 = .ok out ∧
      ∃ codes, out = ofCodesDigital codes ∧ codes.size = L ∧ ∀ k ∈ codes, k ∈ digitalCodes dsq L := by
  rcases xMarkov0_einval_or_ok_ieee ρ dsq L K hLb hKb r with ⟨_, h⟩ | ⟨_, out, h⟩
  · exact absurd h hval
  · exact ⟨out, h, xMarkov0_spec dsq L K hL r out h⟩

/-- non-vacuity: an alphabetic text, a valid digital sequence -/
example : ¬ ((#[65, 66, 67, 65] : Bytes).any (fun c => !isAlpha c) = true) := by decide +kernel
example : ¬ ((digitalCodes (#[255, 0, 1, 2, 255] : Bytes) 3).any (fun c => c ≥ 4) = true) := by decide +kernel
/-- non-vacuity of the size hypotheses -/
example : (#[65, 66, 65] : Bytes).size ≤ 4294967296 := by decide

/-- non-vacuity: a rounding that really rounds (half up to multiples of `2^-32`, overflow above `2^32`); `1/3` is not representable;
    a sum in it; the chooser on `[1/3, 1/3, 1/3]` (computed sum `4294967295/4294967296`, not `1`) with roll `1/2` -/
example : Rounding := gridRounding
example : (CNum.div (CNum.ofNat 1) (CNum.ofNat 3) : Ieee gridRounding).1 = .fin (1431655765 / 4294967296) := by decide +kernel
example : (([CNum.ofNat 1, CNum.ofNat 3] : List (Ieee gridRounding)).foldl CNum.add CNum.zero).1 = .fin 4 := by decide +kernel
example : let t : Ieee gridRounding := CNum.div (CNum.ofNat 1) (CNum.ofNat 3)
    ([t, t, t].foldl CNum.add CNum.zero).1 = .fin (4294967295 / 4294967296) ∧
    dchoose (CNum.div (CNum.ofNat 1) (CNum.ofNat 2)) [t, t, t] = some 1 := by decide +kernel
/-- not a law of binary64: `-0.0 + 0.0` is `+0.0`, not `-0.0` (so `a + 0.0 = a` is not a law), while the comparison form holds -/
example : Raw.add exactRounding (.zero true) (.zero false) = .zero false ∧ Raw.zero true ≠ Raw.zero false := by decide

/-! ## roll exactly `0.0`
`esl_random() = 0.0` (raw generator word 0) sits on the boundary of the scan's strict `<`: leading entries of probability zero must be
skipped. The differential run forces this roll at EVERY draw of IID / Markov-0 / Markov-1 (`poke raw=0 n=620`, cases `zero-roll-*`)
and the plug-in's monitor demands exactly the output these theorems describe. -/

/-- over ℚ: non-negative entries, positive sum, roll `0` ⇒ the chooser returns the FIRST positive entry -/
theorem dchoose_zero_roll_first_positive (p : List ℚ) (hp : ∀ q ∈ p, 0 ≤ q) (hs : 0 < p.sum) :
    ∃ k, dchoose (0 : ℚ) p = some k ∧ (∀ j, j < k → ∀ q, p[j]? = some q → q = 0) ∧ ∃ q, p[k]? = some q ∧ 0 < q := by
  obtain ⟨k, hk, _, q, hq1, hq2⟩ := dchoose_total (0 : ℚ) (le_refl _) (by norm_num) p hp hs
  obtain ⟨hlo, _⟩ := dchoose_bracket (0 : ℚ) (le_refl _) p hs k hk
  refine ⟨k, hk, ?_, q, hq1, hq2⟩
  have h0 : (p.take k).sum ≤ 0 := by
    by_contra hc
    have : 0 < (p.take k).sum / p.sum := div_pos (not_le.mp hc) hs
    linarith
  exact sum_take_zero_all_zero p k hp h0

/-- in rounded arithmetic: the value of `esl_random()` for the raw word 0 is `+0.0`; leading `+0.0` / `-0.0` entries are skipped and
    the first finite entry whose computed quotient by `norm` is positive is returned -/
theorem dchoose_zero_roll_first_positive_ieee (ρ : Rounding) (zs : List (Ieee ρ)) (pk : Ieee ρ) (rest : List (Ieee ρ)) (s : ℚ)
    (hz : ∀ z ∈ zs, IsZero ρ z) (hpk : pk.1 = .fin s)
    (hlt : CNum.lt (CNum.zero : Ieee ρ) (CNum.div pk ((zs ++ pk :: rest).foldl CNum.add CNum.zero)) = true) :
    dchoose (CNum.div (CNum.ofNat 0) (CNum.ofNat 4294967296) : Ieee ρ) (zs ++ pk :: rest) = some zs.length := by
  rw [random_zero_ieee]
  unfold dchoose
  have := dchooseGo_zero_roll_ieee ρ _ zs pk rest CNum.zero 0 s ⟨false, rfl⟩ hz hpk hlt
  simpa using this

/-- non-vacuity: `[0, 0, 1/4, 3/4]` over ℚ; `[+0, -0, 1/3, 1/3]` under the lossy `gridRounding` (roll 0 selects index 2) -/
example : (∀ q ∈ ([0, 0, 1/4, 3/4] : List ℚ), 0 ≤ q) ∧ 0 < ([0, 0, 1/4, 3/4] : List ℚ).sum ∧ dchoose (0 : ℚ) [0, 0, 1/4, 3/4] = some 2 := by
  refine ⟨?_, by norm_num, by decide +kernel⟩
  intro q hq; simp at hq; rcases hq with h | h | h <;> rw [h] <;> norm_num
example : let t : Ieee gridRounding := CNum.div (CNum.ofNat 1) (CNum.ofNat 3)
    let nz : Ieee gridRounding := ⟨.zero true, trivial⟩
    t.1 = .fin (1431655765 / 4294967296) ∧ IsZero gridRounding nz ∧
    CNum.lt (CNum.zero : Ieee gridRounding) (CNum.div t (([CNum.zero, nz] ++ t :: [t]).foldl CNum.add CNum.zero)) = true ∧
    dchoose (CNum.div (CNum.ofNat 0) (CNum.ofNat 4294967296) : Ieee gridRounding) ([CNum.zero, nz] ++ t :: [t]) = some 2 :=
  ⟨by decide +kernel, ⟨true, rfl⟩, by decide +kernel, by decide +kernel⟩

/-- non-vacuity: the rationals are a lawful number type, so the theorems above apply to the code read in exact arithmetic -/
example : LawfulCNum ℚ := inferInstance

/-! non-vacuity: concrete instances of the hypotheses -/
example : (3 : Nat) + 2 ≤ (#[255, 1, 2, 3, 255] : Bytes).size := by decide
example : ∀ k (hk : k < (#[#[1, 2, 3], #[4, 5, 6]] : Array Bytes).size), 0 + 3 ≤ (#[#[1, 2, 3], #[4, 5, 6]] : Array Bytes)[k].size := by decide
/-- a run of the DP shuffle that returns `ok` (legacy LCG generator, seed 1): hypotheses of `shuffleDP_ok` are satisfiable -/
example : (shuffleDPcore 3 [0,1,2,0,1,0] (Rng.create .fast 1)).1 = .ok #[0, 1, 0, 1, 2, 0] := by decide +kernel
example : (∀ c ∈ [0,1,2,0,1,0], c < 3) ∧ 2 < [0,1,2,0,1,0].length := by decide
example : (reverse false (#[1, 2, 3] : Array Nat) #[0, 0, 0] 0 3) = #[3, 2, 1] := by decide
example : (reverse true (#[1, 2, 3, 4] : Array Nat) #[1, 2, 3, 4] 0 4) = #[4, 3, 2, 1] := by decide

/-- hypotheses of the bijection theorems are satisfiable: distinct entries, a target arrangement, the frame condition -/
example : (#[0,1,2] : Array Nat).toList.Nodup ∧ (#[2,0,1] : Array Nat).toList.Perm (#[0,1,2] : Array Nat).toList := by decide
example : ∃ rs, ValidRolls 3 rs ∧ cShuffleRolls (#[0,1,2] : Array Nat) rs = #[2,0,1] := ⟨[1,0], by simp [ValidRolls], by decide⟩
example : (#[0,2,1,3] : Array Nat).toList.Perm (Array.range 4).toList ∧
    ∀ p, (p < 1 ∨ 1 + 2 ≤ p) → (#[0,2,1,3] : Array Nat)[p]? = (Array.range 4)[p]? := by
  refine ⟨by decide, fun p hp => ?_⟩
  rcases hp with hp | hp
  · have : p = 0 := by omega
    subst this; rfl
  · by_cases h3 : p = 3
    · subst h3; rfl
    · rw [Array.getElem?_eq_none (by simp; omega), Array.getElem?_eq_none (by simp; omega)]
example : sampleClass 5 = some isDigitB ∧ (sampleTable isDigitB).size = 10 := ⟨rfl, by decide⟩
/-- the six in-range roll vectors of a 3-element shuffle give the six arrangements -/
example : ([[0,0],[0,1],[1,0],[1,1],[2,0],[2,1]].map (cShuffleRolls #[0,1,2])).Nodup ∧
    cShuffleRolls #[10,20,30] [0,0] = #[20,30,10] := by decide
example : cWinD = 0 ∨ cWinD = 1 := by decide
example : fact 4 = 24 ∧ (allRolls 4).length = 24 ∧ [3,1,0] ∈ allRolls 4 := by decide
example : ValidRolls 3 [2,1] ∧ ¬ ValidRolls 3 [3,0] ∧ ¬ ValidRolls 3 [0,2] := by simp [ValidRolls]
/-- a biased variant (`Roll(n)` with the same `n` at every step: roll vectors from `{0,1,2}²` for three elements, 9 vectors
    onto 6 arrangements) is not injective on its rolls — the kind of loop the bijection theorem excludes -/
example : cShuffleRolls #[0,1,2] [0,2] = cShuffleRolls #[0,1,2] [1,0] := by decide
/-- the rejection interval of `Roll(3)`: only the word `2^32-1` is rejected -/
example : rollWord 3 (2^32-1) = none ∧ rollWord 3 (2^32-2) = some 2 := by decide
/-- input `0 1 2 1 2 0` over 3 vertices (edge lists `0:[1] 1:[2,2] 2:[1,0]`, `sf = 0`): selecting `2→1` is rejected by the
    connectivity test (the retry loop is live), selecting `2→0` is accepted -/
example : dpAccepted 3 0 (dpSelectLastRolls 0 (List.range 3) (dpBuild 3 [0,1,2,1,2,0]) [0, 0]) = false ∧
    dpAccepted 3 0 (dpSelectLastRolls 0 (List.range 3) (dpBuild 3 [0,1,2,1,2,0]) [0, 1]) = true := by decide
example : ∃ rs, DpValidRolls 0 (List.range 3) (dpBuild 3 [0,1,2,1,2,0]) rs ∧
    dpAccepted 3 0 (dpSelectLastRolls 0 (List.range 3) (dpBuild 3 [0,1,2,1,2,0]) rs) = true :=
  exists_accepting_rolls 3 [0,1,2,1,2,0] (by decide) (by decide) _ (PermEdges.refl _)

/-- `Roll(3)` on a word stream: two rejected words (only `2^32-1` is rejected), then `5` is accepted with value `0`;
    a still-running history; the hypotheses of `dpRetry_accepting_words_exist` on a concrete input -/
example : rollOn 3 [2^32-1, 2^32-1, 5, 7] = some (0, [7]) ∧ rollOn 3 [2^32-1, 2^32-1] = none := by decide
example : ∃ ws E', (∀ w ∈ ws, w < 2^32) ∧ dpSelectLastOn 0 (List.range 3) (dpBuild 3 [0,1,2,1,2,0]) ws = some (E', []) ∧
    dpAccepted 3 0 E' = true :=
  dpRetry_accepting_words_exist 3 [0,1,2,1,2,0] (by decide) (by decide) _ (PermEdges.refl _) (by
    intro v
    by_cases h : v < 3
    · have : v = 0 ∨ v = 1 ∨ v = 2 := by omega
      rcases this with e | e | e <;> subst e <;> decide
    · have : (dpBuild 3 [0,1,2,1,2,0])[v]! = #[] := by
        rw [getElem!_neg]; · rfl
        · simpa [dpBuild] using h
      simp [elist, this])

/-- the rebuilt index on distinct names, and what the code does with a duplicated one (`b` gets number 1 although it is row 2) -/
example : rebuildIndex ["a", "b", "c"] = ["a", "b", "c"] ∧ indexLookup (rebuildIndex ["a", "a", "b"]) "b" = some 1 := by decide

example : (cShuffleOut (#[1, 2, 3] : Array Nat) (.separate #[9, 9, 9]) (Rng.create .fast 1)).1 =
    (cShuffleOut (#[1, 2, 3] : Array Nat) .inPlace (Rng.create .fast 1)).1 := by decide +kernel

/-- hypotheses of `roll_returns_from_poked_state`: a seeded Mersenne Twister is such a state (624 table words for every seed) -/
example : (Rng.create .mersenne 42).kind = .mersenne ∧ (Rng.create .mersenne 42).st.mt.size = 624 := by
  obtain ⟨_, hsize, _⟩ := MTP.init_inv P32 42
  exact ⟨rfl, hsize⟩

/-- hypotheses of `dchoose_returns` / `iid_never_fatal` on a concrete vector; the markov1_bug input `AAAAAAAAAB` has the pair
    `(B, A)` only through the circularisation -/
example : (∀ q ∈ ([0, 1/4, 3/4, 0] : List ℚ), 0 ≤ q) ∧ 0 < ([0, 1/4, 3/4, 0] : List ℚ).sum := by
  constructor
  · intro q hq; simp at hq; rcases hq with h | h | h | h <;> rw [h] <;> norm_num
  · norm_num
example : (1, 0) ∈ circPairs [0,0,0,0,0,0,0,0,0,1] ∧ (1, 0) ∉ adjPairs [0,0,0,0,0,0,0,0,0,1] := by decide

/-- the hypotheses of `iid_never_fatal_any_number_type` hold for the rationals (vector `[1/2, 1/2]`) -/
example : ∃ out, (iidLoop ([1/2, 1/2] : List ℚ) 3 (Rng.create .fast 1) #[]).1 = some out :=
  iid_never_fatal_any_number_type _ (by simp)
    (by show ((0 : ℚ) + 1/2 + 1/2) / ((0 : ℚ) + 1/2 + 1/2) = 1; norm_num)
    (fun x hx => by
      show decide (((x : ℚ)) / ((4294967296 : Nat) : ℚ) < 1) = true
      rw [decide_eq_true_iff, div_lt_one (by positivity)]
      exact_mod_cast hx) 3 _

/-- hypotheses of `dchoose_inverse_cdf` (the roll `1/2` on `[1/4, 3/4]` selects index 1: `1/4 ≤ 1/2 < 1`), of
    `qrna_inplace_eq_separate` / `msaShuffle_inplace_eq_separate` (separate storage of the input's size) and of `markov1_conditional_exact` -/
example : dchoose (1/2 : ℚ) [1/4, 3/4] = some 1 ∧ 0 < ([1/4, 3/4] : List ℚ).sum := by
  constructor
  · decide +kernel
  · norm_num
example : ∀ d, (Out.separate (#[1, 2] : Bytes)) = .separate d → d.size = (#[3, 4] : Bytes).size := by
  intro d h; cases h; rfl
example : (#[#[9, 9], #[9, 9]] : Array Bytes).size = (#[#[1, 2], #[3, 4]] : Array Bytes).size := rfl
example : (∀ c ∈ [0, 1, 0], c < 2) ∧ 1 ∈ [0, 1, 0] := by decide

/-- how small the per-pass acceptance of the `while (!is_eulerian)` loop gets on sorted runs: for `A⁴B` exactly 1 of the 4 in-range
    last-edge rolls is accepted, for `A³B³C` exactly 1 of the 9 roll vectors — in general 1 of (product of the run lengths), so
    the expected number of passes of `esl_rsq_{C,X}ShuffleDP` on `A^1250 C^1250 G^1250 T^1250` is about `2·10⁹`
    (termination with probability 1 holds, `dpRetry_every_pass_can_accept`; the running time is another matter) -/
example : ((List.range 4).filter (fun pos =>
    dpAccepted 2 1 (dpSelectLastRolls 1 (List.range 2) (dpBuild 2 [0,0,0,0,1]) [pos]))) = [3] := by decide
example : ((List.range 3).flatMap (fun p0 => (List.range 3).map (fun p1 => (p0, p1)))).filter (fun pr =>
    dpAccepted 3 2 (dpSelectLastRolls 2 (List.range 3) (dpBuild 3 [0,0,0,1,1,1,2]) [pr.1, pr.2])) = [(2, 2)] := by decide

end EaselModel.Props.C18
