import EaselModel.Weights.Lemmas
import EaselModel.Weights.Linkage
import EaselModel.Weights.PB
import EaselModel.Weights.Sort
import EaselModel.Weights.Blosum
import EaselModel.Weights.PBCounts
import EaselModel.Weights.PBPerm
import EaselModel.Weights.GSC
import EaselModel.Weights.BlosumPerm
import EaselModel.Weights.FindMin
import EaselModel.Weights.GSCPerm
import EaselModel.Weights.TreeLemmas
import EaselModel.Weights.DistanceLemmas
import EaselModel.Weights.EngineLemmas
import EaselModel.Weights.PrefLemmas
import EaselModel.Weights.ConsLemmas
import EaselModel.Weights.SampleLemmas
import EaselModel.Weights.Transfer
import EaselModel.Weights.TieRule
import EaselModel.Weights.TreeOpsLemmas
import EaselModel.Weights.FloatCarrier
import EaselModel.Weights.PathMetric
/-! # C16 — sequence weights, identity filtering and clustering follow their definitions

  Theorems about the `ℚ` instance of the executable model `EaselModel.Weights` (the `Float` instance of the same
  definitions is what the driver runs bit-exactly against the C code). `Mode` = text (isalpha / toupper) or digital
  (esl_abc_XIsResidue / exact code); every statement holds for both.  Specs: `nidSpec` (identical residue pairs),
  `lenSpec` (ungapped length), `pidSpec`, `Reach` (connectivity in the link graph), `pbTerms` (the 1/(r·c) terms).

  Coverage of the statement of C16 (properties.jsonl):
  * PB, BLOSUM, GSC weights ≥ 0 and Σ = N ............ `pb_nonneg` `pb_sum` `blosum_sum_nonneg` `gsc_sum_nonneg`
  * identical sequences ⇒ identical weights ........... `pb_identical_rows` `blosum_identical_rows`;
      GSC: FALSE for the code, `gsc_identical_rows_fails_at` (known finding); `gsc_identical_rows_tie_free` when no UPGMA
      pass ties
  * PB = per-column 1/(r·c) formula / residue count ... `pb_formula` + `pb_counts_digital` `pb_counts_text`
  * BLOSUM = one over cluster size (scaled N/#clusters)  `blosum_formula`
  * relisting permutes the weights .................... `pb_relisting_digital` `pb_relisting_text` `blosum_relisting`;
      GSC with tie-free pairwise distances: FALSE for the code, `gsc_relisting_fails_at` (known finding); TRUE and proved
      under the hypothesis that is actually needed, "no tie for the minimum in any UPGMA pass": `gsc_relisting_tie_free`
  * pairwise identity ................................. `pairId_spec` `pairId_symm` `pairId_self` `pairId_empty`
      `pairId_unaligned` `pairId_range` `pairIdMx_spec`
  * identity filtering: independent and maximal ....... `idFilter_independent_maximal` `idFilterText_spec`
      `idFilterDigital_spec` (+ `quicksort_permutation`)
  * single linkage = connected components, sizes/count  `singleLinkage_components` `singleLinkage_assignment`
      `singleLinkage_numbering` `singleLinkage_sizes` `msaSingleLinkage_components`
  All over exact rationals (L1); binary64 rounding of the results is outside the theorems (L0). -/
namespace EaselModel.Props.C16
open EaselModel.Weights

/-- esl_dst_{C,X}PairId on aligned sequences: identical residue pairs / shorter ungapped length (0 if that is 0),
    with the counts returned in `opt_nid`, `opt_n` -/
theorem pairId_spec (m : Mode) (a b : Row) (h : a.length = b.length) :
    pairId (α := ℚ) m a b = some (pidSpec m a b, nidSpec m a b, min (lenSpec m a) (lenSpec m b)) :=
  pairId_aligned m a b h

example : pairId (α := ℚ) Mode.text [65, 67, 45, 97] [97, 71, 45, 65] = some (2/3, 2, 3) := by decide +kernel

/-- sequences of different length: eslEINVAL -/
theorem pairId_unaligned (m : Mode) (a b : Row) (h : a.length ≠ b.length) : pairId (α := ℚ) m a b = none :=
  pairId_unaligned' m a b h

theorem pairId_symm (m : Mode) (a b : Row) : pid (α := ℚ) m a b = pid m b a := pid_comm m a b

/-- 1 on equal sequences with at least one residue -/
theorem pairId_self (m : Mode) (a : Row) (h : 0 < lenSpec m a) : pid (α := ℚ) m a a = 1 := by
  rw [pid_eq m a a rfl, pidSpec, nidSpec_self, Nat.min_self, if_neg (by omega)]
  have : ((lenSpec m a : ℕ) : ℚ) ≠ 0 := by exact_mod_cast (by omega : lenSpec m a ≠ 0)
  exact div_self this

/-- 0 when either sequence has no residue -/
theorem pairId_empty (m : Mode) (a b : Row) (hl : a.length = b.length) (h : lenSpec m a = 0 ∨ lenSpec m b = 0) :
    pid (α := ℚ) m a b = 0 := by
  rw [pid_eq m a b hl, pidSpec, if_pos (by omega)]

theorem pairId_range (m : Mode) (a b : Row) (hl : a.length = b.length) :
    0 ≤ pid (α := ℚ) m a b ∧ pid (α := ℚ) m a b ≤ 1 := by
  rw [pid_eq m a b hl]; exact ⟨pidSpec_nonneg m a b, pidSpec_le_one m a b⟩

/-- esl_cluster_SingleLinkage with any symmetric link function on n vertices: the clusters partition 0..n-1, none is
    empty, and each cluster is exactly the connected component of each of its members -/
theorem singleLinkage_components (link : Nat → Nat → Bool) (hsym : ∀ x y, link x y = link y x) (n : Nat) :
    (singleLinkage link n).flatten.Perm (List.range n) ∧
    (∀ cl ∈ singleLinkage link n, cl ≠ []) ∧
    (∀ cl ∈ singleLinkage link n, ∀ u ∈ cl, ∀ w, w < n → (w ∈ cl ↔ Reach link n u w)) := by
  have inv := singleLinkage_inv hsym n
  exact ⟨by simpa using inv.perm, inv.ne, inv.comp⟩

/-- the assignment array: equal cluster numbers iff connected -/
theorem singleLinkage_assignment (link : Nat → Nat → Bool) (hsym : ∀ x y, link x y = link y x) (n u w : Nat)
    (hu : u < n) (hw : w < n) :
    clusterIndex (singleLinkage link n) u = clusterIndex (singleLinkage link n) w ↔ Reach link n u w :=
  assignment_eq_iff hsym n u w hu hw

/-- cluster numbers are exactly 0..nc-1 (`*ret_C` = number of components) -/
theorem singleLinkage_numbering (link : Nat → Nat → Bool) (hsym : ∀ x y, link x y = link y x) (n : Nat) :
    (∀ u, u < n → clusterIndex (singleLinkage link n) u < (singleLinkage link n).length) ∧
    (∀ k, k < (singleLinkage link n).length → ∃ u, u < n ∧ clusterIndex (singleLinkage link n) u = k) :=
  ⟨fun _ hu => (singleLinkage_isPartition hsym n).index_lt hu, fun _ hk => (singleLinkage_isPartition hsym n).index_surj hk⟩

/-- cluster numbers are NOT in order of first appearance in general (the swap-delete of the available stack reorders it):
    four vertices, only 0–3 linked: vertex 2 is numbered before vertex 1 -/
theorem singleLinkage_numbering_not_first_seen :
    assignment (singleLinkage (fun x y => (x == 0 && y == 3) || (x == 3 && y == 0)) 4) 4 = [0, 2, 1, 0] := by
  decide +kernel

/-- esl_msacluster_SingleLinkage: components of the graph linking rows with identity ≥ maxid -/
theorem msaSingleLinkage_components (m : Mode) (maxid : ℚ) (rows : List Row) (u w : Nat)
    (hu : u < rows.length) (hw : w < rows.length) :
    clusterIndex (msaSingleLinkage m maxid rows) u = clusterIndex (msaSingleLinkage m maxid rows) w ↔
      Reach (fun v x => decide (maxid ≤ pid (α := ℚ) m (rows.getD v []) (rows.getD x []))) rows.length u w :=
  assignment_eq_iff (fun x y => by show decide _ = decide _; rw [pid_comm]) rows.length u w hu hw

example : singleLinkage (fun x y => (x + y) % 2 == 0 && x != y) 5 = [[0, 4, 2], [3, 1]] := by
  simp [singleLinkage, slClusters, slGrow, slScan, rot, List.range, List.range.loop]
example : ∀ x y : Nat, ((x + y) % 2 == 0 && x != y) = ((y + x) % 2 == 0 && y != x) := by
  intro x y; rw [Nat.add_comm]; congr 1; simp [bne, eq_comm]

/-- the greedy pass over distinct candidates in any preference order: kept rows are candidates, no kept row reaches the
    threshold with a row kept before it, and every dropped candidate reaches it with some kept row -/
theorem idFilter_independent_maximal (link : Nat → Nat → Bool) (order : List Nat) (hnd : order.Nodup) :
    (∀ x ∈ filterGreedy link order [], x ∈ order) ∧
    (filterGreedy link order []).Pairwise (fun k r => link r k = false) ∧
    (∀ r ∈ order, r ∉ filterGreedy link order [] → ∃ k ∈ filterGreedy link order [], link r k = true) := by
  refine ⟨?_, ?_, filterGreedy_maximal link order []⟩
  · intro x hx
    rcases filterGreedy_subset link order [] x hx with h | h
    · simp at h
    · exact h
  · exact filterGreedy_independent link order [] hnd (by simp) List.Pairwise.nil

/-- the pass of both filters (`idFilterOrder`: any mode, any list of distinct candidate rows), in terms of the identities -/
theorem idFilterOrder_spec (m : Mode) (maxid : ℚ) (rows : List Row) (order : List Nat) (hnd : order.Nodup) :
    (∀ x ∈ idFilterOrder m maxid rows order, x ∈ order) ∧
    (idFilterOrder m maxid rows order).Pairwise (fun k r => pid (α := ℚ) m (rows.getD r []) (rows.getD k []) < maxid) ∧
    (∀ r ∈ order, r ∉ idFilterOrder m maxid rows order →
      ∃ k ∈ idFilterOrder m maxid rows order, maxid ≤ pid (α := ℚ) m (rows.getD r []) (rows.getD k [])) := by
  obtain ⟨h1, h2, h3⟩ := idFilter_independent_maximal (fun r k => linked m maxid (rows.getD r []) (rows.getD k [])) order hnd
  refine ⟨h1, h2.imp fun hl => by simpa [linked] using hl, fun r hr hnot => ?_⟩
  obtain ⟨k, hk, hl⟩ := h3 r hr hnot
  exact ⟨k, hk, by simpa [linked] using hl⟩

/-- a dropped candidate reaches the threshold with a kept row that was tried before it -/
theorem idFilterOrder_dropped_by_earlier (m : Mode) (maxid : ℚ) (rows : List Row) (pre post : List Nat) (r : Nat)
    (h : r ∉ idFilterOrder m maxid rows (pre ++ r :: post)) :
    ∃ k ∈ pre, k ∈ idFilterOrder m maxid rows (pre ++ r :: post) ∧
      maxid ≤ pid (α := ℚ) m (rows.getD r []) (rows.getD k []) := by
  obtain ⟨k, hk, hl, hkept⟩ := filterGreedy_dropped_by_earlier _ pre post r h
  refine ⟨k, ?_, hkept, by simpa [linked] using hl⟩
  rcases filterGreedy_subset _ _ _ k hk with h' | h'
  · simp at h'
  · exact h'

/-- at a threshold ≤ 0 every pair is linked, so only the first candidate is kept -/
theorem idFilterOrder_at_zero (m : Mode) (maxid : ℚ) (hm : maxid ≤ 0) (rows : List Row) (x : Nat) (rest : List Nat) :
    idFilterOrder m maxid rows (x :: rest) = [x] := by
  unfold idFilterOrder
  rw [filterGreedy]
  simp only [List.any_nil, Bool.false_eq_true, if_false, List.nil_append]
  apply filterGreedy_all_linked
  intro r k
  have := (pid_range' m (rows.getD r []) (rows.getD k [])).1
  simp only [linked, leb_rat, decide_eq_true_eq]; linarith

/-- msaweight_IDFilter_txt: rows in original order -/
theorem idFilterText_spec (maxid : ℚ) (rows : List Row) :
    let kept := idFilterText maxid rows
    (∀ x ∈ kept, x < rows.length) ∧
    kept.Pairwise (fun k r => pid (α := ℚ) Mode.text (rows.getD r []) (rows.getD k []) < maxid) ∧
    (∀ r, r < rows.length → r ∉ kept → ∃ k ∈ kept, maxid ≤ pid (α := ℚ) Mode.text (rows.getD r []) (rows.getD k [])) := by
  obtain ⟨h1, h2, h3⟩ := idFilterOrder_spec Mode.text maxid rows (List.range rows.length) List.nodup_range
  exact ⟨fun x hx => List.mem_range.mp (h1 x hx), h2, fun r hr => h3 r (List.mem_range.mpr hr)⟩

example : filterGreedy (fun x y => (x + y) % 2 == 0) [3, 1, 2, 0] [] = [3, 2] := by decide

/-! ## position-based weights (both modes: `PBParams.text` with all columns, `PBParams.digital` with consensus columns) -/

/-- Σw = N -/
theorem pb_sum (p : PBParams) (stats : List ColStat) (rows : List Row) (hne : rows ≠ []) :
    (pbWeights (α := ℚ) p stats rows).sum = rows.length := pbWeights_sum p stats rows hne

/-- w ≥ 0 -/
theorem pb_nonneg (p : PBParams) (stats : List ColStat) (rows : List Row) :
    ∀ w ∈ pbWeights (α := ℚ) p stats rows, 0 ≤ w := pbWeights_nonneg p stats rows

/-- raw weight of a row = Σ over used columns where it has a canonical residue of 1/(r·c), divided by the number of
    those columns (its residue count there); weight = raw / Σraw · N, or 1 when all raw weights vanish -/
theorem pb_formula (p : PBParams) (stats : List ColStat) (rows : List Row) (hn : rows.length ≠ 1)
    (i : Nat) (hi : i < rows.length) (hi' : i < (pbWeights (α := ℚ) p stats rows).length) :
    (pbWeights (α := ℚ) p stats rows)[i] =
      (if (rows.map (pbRaw (α := ℚ) p stats)).sum = 0 then 1
       else pbRaw p stats rows[i] / (rows.map (pbRaw (α := ℚ) p stats)).sum * rows.length) ∧
    pbRaw (α := ℚ) p stats rows[i] =
      (if (pbTerms p stats rows[i]).length = 0 then 0
       else (pbTerms p stats rows[i]).sum / (pbTerms p stats rows[i]).length) :=
  ⟨pbWeights_getElem p stats rows hn i hi hi', pbRaw_eq p stats rows[i]⟩

/-- identical rows ⇒ identical weights -/
theorem pb_identical_rows (p : PBParams) (stats : List ColStat) (rows : List Row)
    (i j : Nat) (hi : i < rows.length) (hj : j < rows.length) (h : rows[i] = rows[j])
    (hi' : i < (pbWeights (α := ℚ) p stats rows).length) (hj' : j < (pbWeights (α := ℚ) p stats rows).length) :
    (pbWeights (α := ℚ) p stats rows)[i] = (pbWeights (α := ℚ) p stats rows)[j] :=
  pbWeights_eq_of_eq p stats rows i j hi hj h hi' hj'

/-- the two entry points are instances of `pbWeights` -/
theorem pbText_is (rows : List Row) : pbText (α := ℚ) rows = pbWeights PBParams.text (txtStats rows) rows := rfl
theorem pbDigital_is (abc : Abc) (rule : Nat → Nat → Bool) (minspan : Int) (rf : Option Row) (rows : List Row) :
    pbDigital (α := ℚ) abc rule minspan rf rows =
      pbWeights (PBParams.digital abc) (digStats abc (rows.map (rowInfo abc minspan))
        (pbConsensus abc rule rf (rows.map (rowInfo abc minspan)) (alenOf rows)).cols) rows := rfl

example : pbText (α := ℚ) [[65, 65], [65, 67], [45, 67]] = [4/3, 1, 2/3] := by decide +kernel

/-- cluster sizes as counted from the assignment array (`nin[]`, `nmem[]`) are the sizes of the clusters, and add up to n -/
theorem singleLinkage_sizes (link : Nat → Nat → Bool) (hsym : ∀ x y, link x y = link y x) (n : Nat) :
    (∀ k (hk : k < (singleLinkage link n).length),
      (clusterSizes (assignment (singleLinkage link n) n) (singleLinkage link n).length).getD k 0 = (singleLinkage link n)[k].length) ∧
    ((singleLinkage link n).map List.length).sum = n :=
  ⟨fun _ hk => (singleLinkage_isPartition hsym n).clusterSizes_getElem hk, (singleLinkage_isPartition hsym n).sizes_sum⟩

/-- esl_msaweight_IDFilter_adv for ANY preference vector (conscover / random / original order / anything else) and
    whatever esl_quicksort does with it: the kept rows are pairwise below the threshold and no dropped row could be added -/
theorem idFilterDigital_spec (abc : Abc) (maxid : ℚ) (sortwgt : List ℚ) (rows : List Row) :
    let kept := idFilterDigital abc maxid sortwgt rows
    (∀ x ∈ kept, x < rows.length) ∧
    kept.Pairwise (fun k r => pid (α := ℚ) (Mode.digital abc) (rows.getD r []) (rows.getD k []) < maxid) ∧
    (∀ r, r < rows.length → r ∉ kept →
      ∃ k ∈ kept, maxid ≤ pid (α := ℚ) (Mode.digital abc) (rows.getD r []) (rows.getD k [])) := by
  obtain ⟨h1, h2, h3⟩ := idFilterOrder_spec (Mode.digital abc) maxid rows _ (quicksort_nodup (cmpDecreasing sortwgt) rows.length)
  exact ⟨fun x hx => (mem_quicksort _ _ _).mp (h1 x hx), h2, fun r hr => h3 r ((mem_quicksort _ _ _).mpr hr)⟩

/-- esl_quicksort returns a permutation of 0..n-1 for any comparison function -/
theorem quicksort_permutation (cmp : Nat → Nat → Int) (n : Nat) : (quicksort cmp n).Perm (List.range n) :=
  quicksort_perm cmp n

/-- BLOSUM: `w_i = (N / #clusters) / |cluster(i)|` -/
theorem blosum_formula (m : Mode) (maxid : ℚ) (rows : List Row) (hn : rows.length ≠ 1) (i : Nat) (hi : i < rows.length)
    (hi' : i < (blosum m maxid rows).length) :
    (blosum m maxid rows)[i] =
      (rows.length : ℚ) / (msaSingleLinkage m maxid rows).length /
        ((msaSingleLinkage m maxid rows).getD (clusterIndex (msaSingleLinkage m maxid rows) i) []).length :=
  blosum_getElem m maxid rows hn i hi hi'

theorem blosum_sum_nonneg (m : Mode) (maxid : ℚ) (rows : List Row) (hne : rows ≠ []) :
    (blosum m maxid rows).sum = rows.length ∧ ∀ w ∈ blosum m maxid rows, 0 ≤ w :=
  ⟨blosum_sum m maxid rows hne, blosum_nonneg m maxid rows⟩

/-- digital PB: the count table entry used for a canonical residue is the number of rows with that residue in the column
    and `r` is the number of different canonical residues there — the fragment rule does not touch them -/
theorem pb_counts_digital (abc : Abc) (minspan : Int) (rows : List Row) (apos : Nat) (hK : abc.K ≤ abc.Kp)
    (hrect : ∀ row ∈ rows, apos < row.length) :
    (∀ a, a < abc.K →
      (mkStat (PBParams.digital abc) apos (digCol (rows.map (rowInfo abc minspan)) apos)).ct.getD a 0 =
        rows.countP (fun row => (row.getD apos 0).toNat == a)) ∧
    (mkStat (PBParams.digital abc) apos (digCol (rows.map (rowInfo abc minspan)) apos)).r =
      (List.range abc.K).countP (fun a => rows.countP (fun row => (row.getD apos 0).toNat == a) > 0) :=
  ⟨fun a ha => digital_ct_true abc minspan rows apos a hK ha hrect, digital_r_true abc minspan rows apos hK hrect⟩

/-- text PB: same for the 26 letters, case-insensitively -/
theorem pb_counts_text (rows : List Row) (apos : Nat) :
    (∀ a, a < 26 →
      (mkStat PBParams.text apos (rows.map fun row => PBParams.text.sym (row.getD apos 0))).ct.getD a 0 =
        rows.countP (fun row => PBParams.text.sym (row.getD apos 0) == some a)) ∧
    (mkStat PBParams.text apos (rows.map fun row => PBParams.text.sym (row.getD apos 0))).r =
      (List.range 26).countP (fun a => rows.countP (fun row => PBParams.text.sym (row.getD apos 0) == some a) > 0) :=
  ⟨fun a ha => text_ct_true rows apos a ha, text_r_true rows apos⟩

/-- relisting the rows of a (rectangular) alignment permutes the PB weights accordingly: one weight function of the
    row serves both orders. Any consensus rule, fragment threshold and RF line. -/
theorem pb_relisting_digital (abc : Abc) (rule : Nat → Nat → Bool) (minspan : Int) (rf : Option Row) {rows rows' : List Row}
    (hp : rows.Perm rows') (hne : rows ≠ []) (L : Nat) (hrect : ∀ row ∈ rows, row.length = L) :
    ∃ f : Row → ℚ, pbDigital (α := ℚ) abc rule minspan rf rows = rows.map f ∧
                   pbDigital (α := ℚ) abc rule minspan rf rows' = rows'.map f := by
  have hne' : rows' ≠ [] := fun h => hne (List.Perm.eq_nil (h ▸ hp))
  have hrect' : ∀ row ∈ rows', row.length = L := fun row hr => hrect row (hp.mem_iff.mpr hr)
  have hi : (rows.map (rowInfo abc minspan)).Perm (rows'.map (rowInfo abc minspan)) := hp.map _
  have hal : alenOf rows' = alenOf rows := by rw [alenOf_eq hne hrect, alenOf_eq hne' hrect']
  have hcols := pbConsensus_perm abc rule rf hi (alenOf rows)
  have hstats := digStats_perm abc hi (pbConsensus abc rule rf (rows.map (rowInfo abc minspan)) (alenOf rows)).cols
  unfold pbDigital pbDigitalWith
  rw [pbWeights_eq_finish, pbWeights_eq_finish, hal, ← hcols, ← hstats]
  exact finishW_relist _ hp

theorem pb_relisting_text {rows rows' : List Row} (hp : rows.Perm rows') (hne : rows ≠ []) (L : Nat)
    (hrect : ∀ row ∈ rows, row.length = L) :
    ∃ f : Row → ℚ, pbText (α := ℚ) rows = rows.map f ∧ pbText (α := ℚ) rows' = rows'.map f := by
  unfold pbText
  rw [pbWeights_eq_finish, pbWeights_eq_finish, txtStats_perm hp hne L hrect]
  exact finishW_relist _ hp

example : ([[65, 65], [65, 67]] : List Row).Perm [[65, 67], [65, 65]] ∧
    ∀ row ∈ ([[65, 65], [65, 67]] : List Row), row.length = 2 := by
  refine ⟨List.Perm.swap _ _ _, ?_⟩
  intro row h; simp at h; rcases h with rfl | rfl <;> rfl

/-- GSC weights (distance matrix, UPGMA, clade sizes, both traversals, normalisation) are ≥ 0 and sum to N -/
theorem gsc_sum_nonneg (m : Mode) (rows : List Row) (hne : rows ≠ []) :
    (gsc (α := ℚ) m rows).sum = rows.length ∧ ∀ w ∈ gsc (α := ℚ) m rows, 0 ≤ w :=
  ⟨gsc_sum' m rows hne, gsc_nonneg' m rows⟩

/-- KNOWN FINDING `C16:gsc:identical-rows-split-by-zero-distance-ties`: "identical sequences get identical GSC weights"
    is FALSE for the code as written. Witness (rows 1 and 4 are both `ACDEFGHI`):
    `--DE----`, `ACDEFGHI`, `---EF---`, `---EFGH-`, `ACDEFGHI`  ↦  5/4, 5/4, 5/6, 5/6, 5/6 -/
theorem gsc_identical_rows_fails_at :
    gsc (α := ℚ) Mode.text
      [[45,45,68,69,45,45,45,45], [65,67,68,69,70,71,72,73], [45,45,45,69,70,45,45,45], [45,45,45,69,70,71,72,45],
       [65,67,68,69,70,71,72,73]] = [5/4, 5/4, 5/6, 5/6, 5/6] := by decide +kernel

/-- BLOSUM: identical rows ⇒ identical weights (the size of a row's cluster is a function of the row's content) -/
theorem blosum_identical_rows (m : Mode) (maxid : ℚ) (rows : List Row) (i j : Nat) (hi : i < rows.length)
    (hj : j < rows.length) (h : rows[i] = rows[j])
    (hi' : i < (blosum m maxid rows).length) (hj' : j < (blosum m maxid rows).length) :
    (blosum m maxid rows)[i] = (blosum m maxid rows)[j] := by
  by_cases hn : rows.length = 1
  · have : i = j := by omega
    subst this; rfl
  · rw [blosum_getElem m maxid rows hn i hi, blosum_getElem m maxid rows hn j hj,
      cluster_size_eq m maxid rows hi, cluster_size_eq m maxid rows hj, h]

/-- esl_dst_{C,X}PairIdMx: 1 on the diagonal, the pairwise identity elsewhere, symmetric -/
theorem pairIdMx_spec (m : Mode) (rows : List Row) (i j : Nat) (hi : i < rows.length) (hj : j < rows.length) :
    (((pairIdMx (α := ℚ) m rows).getD i []).getD j 0 =
      if i = j then 1 else pid (α := ℚ) m (rows.getD i []) (rows.getD j [])) ∧
    ((pairIdMx (α := ℚ) m rows).getD i []).getD j 0 = ((pairIdMx (α := ℚ) m rows).getD j []).getD i 0 :=
  ⟨pairIdMx_entry m rows i j hi hj, pairIdMx_symm m rows i j hi hj⟩

/-- relisting the rows permutes the BLOSUM weights accordingly: one weight function of the row content serves both orders -/
theorem blosum_relisting (m : Mode) (maxid : ℚ) {rows rows' : List Row} (hp : rows.Perm rows') (hne : rows ≠ []) :
    ∃ f : Row → ℚ, blosum m maxid rows = rows.map f ∧ blosum m maxid rows' = rows'.map f := by
  rw [blosum_eq_finish, blosum_eq_finish m maxid rows', funext (sizeC_perm m maxid hp)]
  exact finishW_relist _ hp

/-- KNOWN FINDING `C16:gsc:relisting-changes-weights-on-derived-distance-ties`: "relisting permutes the GSC weights
    whenever no two pairwise distances tie" is FALSE for the code as written. The four rows below have pairwise
    distances 5/6, 1/2, 3/4, 7/12, 2/3, 5/12 (all distinct); after rows 2,3 merge, both remaining rows are at averaged
    distance 5/8 from the new cluster and the first one LISTED joins: swapping rows 0 and 1 leaves the weight vector
    unchanged, i.e. the two sequences exchange their weights 15/14 and 8/7. -/
theorem gsc_relisting_fails_at :
    let r0 : Row := [67, 69, 68, 65, 65, 68, 69, 65, 68, 69, 65, 65]
    let r1 : Row := [69, 65, 67, 65, 68, 65, 68, 69, 68, 65, 69, 68]
    let r2 : Row := [68, 65, 69, 65, 68, 68, 69, 65, 68, 69, 68, 68]
    let r3 : Row := [69, 65, 65, 68, 68, 68, 65, 65, 67, 69, 68, 68]
    gsc (α := ℚ) Mode.text [r0, r1, r2, r3] = [15/14, 8/7, 25/28, 25/28] ∧
    gsc (α := ℚ) Mode.text [r1, r0, r2, r3] = [15/14, 8/7, 25/28, 25/28] ∧
    (diffMx (α := ℚ) Mode.text [r0, r1, r2, r3]).toList =
      [0, 5/6, 1/2, 3/4, 5/6, 0, 7/12, 2/3, 1/2, 7/12, 0, 5/12, 3/4, 2/3, 5/12, 0] := by
  decide +kernel

/-- UPGMA (`cluster_engine`, mode eslUPGMA): every pass joins a pair of clusters at minimum distance among the active ones,
    at height half that distance (ties: the first minimum in row-major order of the current positions — the source of
    the two GSC findings) -/
theorem upgma_joins_minimum (st : KState ℚ) (hN : 2 ≤ st.act.size) :
    kPosI st < kPosJ st ∧ kPosJ st < st.act.size ∧
    (∀ r c, r < c → c < st.act.size → kdist st.rows (kI st) (kJ st) ≤ kdist st.rows (st.act.getD r 0) (st.act.getD c 0)) ∧
    kH st = kdist st.rows (kI st) (kJ st) / 2 :=
  kstep_joins_minimum st hN

/-- L0 bridge for thresholds equal to an attained identity: with ANY monotone rounding `fl` of the quotient whose error
    on [0,1] is at most ε, the test `fl(p/q) ≤ fl(nid/n)` (what `pid >= maxid` computes when `maxid` is the rounded
    identity p/q of some pair) decides exactly like the rational comparison as long as 2·ε·n·q < 1
    (binary64: ε = 2⁻⁵³, n, q ≤ 400). That IEEE division is such a rounding is trusted. -/
theorem threshold_at_attained_identity (fl : ℚ → ℚ) (ε : ℚ)
    (hmono : ∀ x y, x ≤ y → fl x ≤ fl y) (herr : ∀ x, 0 ≤ x → x ≤ 1 → |fl x - x| ≤ ε)
    (nid n p q : ℕ) (hn : 0 < n) (hq : 0 < q) (hnid : nid ≤ n) (hp : p ≤ q) (hsmall : 2 * ε * (n * q) < 1) :
    fl ((p : ℚ) / q) ≤ fl ((nid : ℚ) / n) ↔ (p : ℚ) / q ≤ (nid : ℚ) / n :=
  threshold_decision_exact fl ε hmono herr nid n p q hn hq hnid hp hsmall

example : ∃ (fl : ℚ → ℚ) (ε : ℚ), (∀ x y, x ≤ y → fl x ≤ fl y) ∧ (∀ x, 0 ≤ x → x ≤ 1 → |fl x - x| ≤ ε) ∧
    2 * ε * ((400 : ℕ) * (400 : ℕ)) < 1 :=
  ⟨id, 0, fun _ _ h => h, fun x _ _ => by simp, by norm_num⟩

/-! non-vacuity of the remaining hypotheses -/
example : 0 < lenSpec Mode.text [65, 45] := by decide
example : lenSpec (Mode.digital Abc.amino) [20, 28] = 0 := by decide
example : ([3, 1, 2, 0] : List Nat).Nodup := by decide
example : Abc.amino.K ≤ Abc.amino.Kp ∧ Abc.dna.K ≤ Abc.dna.Kp := by decide
example : ([[65, 65], [65, 67]] : List Row) ≠ [] ∧ ([[65, 65], [65, 67]] : List Row).length ≠ 1 := by decide

/-- the filter prefers what comes first in the preference order: a dropped candidate is linked to a row that was tried
    before it and kept (any order, any link function) -/
theorem idFilter_dropped_by_earlier (link : Nat → Nat → Bool) (pre post : List Nat) (r : Nat)
    (h : r ∉ filterGreedy link (pre ++ r :: post) []) :
    ∃ k ∈ filterGreedy link pre [], link r k = true ∧ k ∈ filterGreedy link (pre ++ r :: post) [] :=
  filterGreedy_dropped_by_earlier link pre post r h

/-- text mode ("keep the earlier sequence and discard the later"): a dropped row reaches the threshold with a kept row
    of smaller index -/
theorem idFilterText_keeps_earlier (maxid : ℚ) (rows : List Row) (r : Nat) (hr : r < rows.length)
    (h : r ∉ idFilterText maxid rows) :
    ∃ k ∈ idFilterText maxid rows, k < r ∧ maxid ≤ pid (α := ℚ) Mode.text (rows.getD r []) (rows.getD k []) := by
  unfold idFilterText at h ⊢
  rw [range_split r rows.length hr] at h ⊢
  obtain ⟨k, hk, hkept, hl⟩ := idFilterOrder_dropped_by_earlier _ _ _ _ _ r h
  exact ⟨k, hkept, List.mem_range.mp hk, hl⟩

example : (1 : Nat) ∉ filterGreedy (fun x y => (x + y) % 2 == 0) ([3] ++ 1 :: [2, 0]) [] := by decide

/-- digital mode, any preference vector: a dropped row reaches the threshold with a kept row that esl_quicksort ranked
    before it -/
theorem idFilterDigital_keeps_better_ranked (abc : Abc) (maxid : ℚ) (sortwgt : List ℚ) (rows : List Row) (r : Nat)
    (hr : r < rows.length) (h : r ∉ idFilterDigital abc maxid sortwgt rows) :
    ∃ pre post k, quicksort (cmpDecreasing sortwgt) rows.length = pre ++ r :: post ∧ k ∈ pre ∧
      k ∈ idFilterDigital abc maxid sortwgt rows ∧
      maxid ≤ pid (α := ℚ) (Mode.digital abc) (rows.getD r []) (rows.getD k []) := by
  obtain ⟨pre, post, hsplit⟩ := List.append_of_mem ((mem_quicksort (cmpDecreasing sortwgt) rows.length r).mpr hr)
  unfold idFilterDigital at h ⊢
  rw [hsplit] at h ⊢
  obtain ⟨k, hk, hkept, hl⟩ := idFilterOrder_dropped_by_earlier _ _ _ _ _ r h
  exact ⟨pre, post, k, rfl, hk, hkept, hl⟩

/-! ## GSC, the positive part: no tie for the minimum in any UPGMA pass (`TieFree`; `tieFreeB` is its executable form) -/

/-- relisting the rows permutes the GSC weights accordingly whenever no pass of UPGMA has a tie for the minimum:
    row x of the relisted alignment `p.map (rows[·])` gets the weight row p[x] had. (Distinct pairwise distances are not
    enough — `gsc_relisting_fails_at` — because averaged distances can tie; this is the hypothesis that is.) -/
theorem gsc_relisting_tie_free (m : Mode) (rows : List Row) (p : List Nat) (hp : p.Perm (List.range rows.length))
    (htf : TieFree m rows) :
    gsc (α := ℚ) m (p.map fun i => rows.getD i []) = p.map (fun i => (gsc (α := ℚ) m rows).getD i 0) :=
  gsc_perm m rows p hp htf

/-- identical rows ⇒ identical GSC weights whenever no pass of UPGMA has a tie for the minimum (identical rows do not
    exclude that: their distance 0 can be the unique minimum of its pass) -/
theorem gsc_identical_rows_tie_free (m : Mode) (rows : List Row) (htf : TieFree m rows) (i j : Nat)
    (hi : i < rows.length) (hj : j < rows.length) (h : rows.getD i [] = rows.getD j []) :
    (gsc (α := ℚ) m rows).getD i 0 = (gsc (α := ℚ) m rows).getD j 0 := by
  have hp := swapIdx_perm rows.length i j hi hj
  have hrows : ((List.range rows.length).map (swapIdx i j)).map (fun k => rows.getD k []) = rows := by
    apply List.ext_getElem
    · simp
    · intro k h1 h2
      simp only [List.getElem_map, List.getElem_range]
      have e : rows.getD (swapIdx i j k) [] = rows.getD k [] := by
        unfold swapIdx; split_ifs with h3 h4
        · rw [h3, h]
        · rw [h4, h]
        · rfl
      rw [e, List.getD_eq_getElem?_getD, List.getElem?_eq_getElem h2]; rfl
  have key := gsc_perm m rows _ hp htf
  rw [hrows] at key
  have : (gsc (α := ℚ) m rows).getD i 0 =
      (((List.range rows.length).map (swapIdx i j)).map fun k => (gsc (α := ℚ) m rows).getD k 0).getD i 0 := by
    rw [← key]
  rw [this, List.getD_eq_getElem?_getD, List.getElem?_map, List.getElem?_map, List.getElem?_range hi]
  simp [swapIdx]

/-- the hypothesis can be checked by computation -/
theorem tieFree_checkable (m : Mode) (rows : List Row) (h : tieFreeB m rows = true) : TieFree m rows :=
  tieFree_of_check m rows h

/-- non-vacuity: AAAA, AAAC, ACCC (distances 1/4, 3/4, 1/2) and, with two identical rows, AAAA, AAAA, ACCC, CCCG -/
example : TieFree Mode.text [[65, 65, 65, 65], [65, 65, 65, 67], [65, 67, 67, 67]] :=
  tieFree_of_check _ _ (by decide +kernel)
example : TieFree Mode.text [[65, 65, 65, 65], [65, 65, 65, 65], [65, 67, 67, 67], [67, 67, 67, 71]] :=
  tieFree_of_check _ _ (by decide +kernel)
/-- the two known-finding witnesses are outside the hypothesis -/
example : tieFreeB Mode.text
    [[67, 69, 68, 65, 65, 68, 69, 65, 68, 69, 65, 65], [69, 65, 67, 65, 68, 65, 68, 69, 68, 65, 69, 68],
     [68, 65, 69, 65, 68, 68, 69, 65, 68, 69, 68, 68], [69, 65, 65, 68, 68, 68, 65, 65, 67, 69, 68, 68]] = false := by
  decide +kernel

/-! ## `ESL_MSAWEIGHT_CFG`: every configuration of `esl_msaweight_PB_adv` / `esl_msaweight_IDFilter_adv`, incl. the consensus
    determined on a random SAMPLE of rows (`consensus_by_sample`, taken when `allow_samp && nseq > sampthresh`).
    `deal m n` is the sampler (`esl_rand64_Deal` in the driver): the statements hold for every function. -/

/-- whatever the configuration and the sample: the weights are the PB rule applied to SOME list of consensus columns
    (consensus columns are chosen per alignment, not per row) -/
theorem pbAdv_is (abc : Abc) (cfg : WCfg) (deal : Nat → Nat → List Nat) (rf : Option Row) (rows : List Row) :
    pbAdv (α := ℚ) abc cfg deal rf rows =
      pbWeights (PBParams.digital abc) (digStats abc (rows.map (rowInfo abc cfg.minspan))
        (pbConsensusAdv abc cfg deal rf rows).cols) rows := rfl

/-- Σw = N and w ≥ 0 for every configuration, every RF line and every sample -/
theorem pbAdv_sum_nonneg (abc : Abc) (cfg : WCfg) (deal : Nat → Nat → List Nat) (rf : Option Row) (rows : List Row)
    (hne : rows ≠ []) :
    (pbAdv (α := ℚ) abc cfg deal rf rows).sum = rows.length ∧ ∀ w ∈ pbAdv (α := ℚ) abc cfg deal rf rows, 0 ≤ w :=
  ⟨pbWeights_sum _ _ rows hne, pbWeights_nonneg _ _ rows⟩

/-- identical rows ⇒ identical weights, also with a sampled consensus (even if only one of the two rows was sampled) -/
theorem pbAdv_identical_rows (abc : Abc) (cfg : WCfg) (deal : Nat → Nat → List Nat) (rf : Option Row) (rows : List Row)
    (i j : Nat) (hi : i < rows.length) (hj : j < rows.length) (h : rows[i] = rows[j])
    (hi' : i < (pbAdv (α := ℚ) abc cfg deal rf rows).length) (hj' : j < (pbAdv (α := ℚ) abc cfg deal rf rows).length) :
    (pbAdv (α := ℚ) abc cfg deal rf rows)[i] = (pbAdv (α := ℚ) abc cfg deal rf rows)[j] :=
  pbWeights_eq_of_eq _ _ rows i j hi hj h hi' hj'

/-- the 1/(r·c) formula with true column counts holds on the sampled consensus columns as on any others
    (`pb_formula`, `pb_counts_digital` are stated for every column list) -/
theorem pbAdv_formula (abc : Abc) (cfg : WCfg) (deal : Nat → Nat → List Nat) (rf : Option Row) (rows : List Row)
    (hn : rows.length ≠ 1) (i : Nat) (hi : i < rows.length) (hi' : i < (pbAdv (α := ℚ) abc cfg deal rf rows).length) :
    let stats := digStats abc (rows.map (rowInfo abc cfg.minspan)) (pbConsensusAdv abc cfg deal rf rows).cols
    (pbAdv (α := ℚ) abc cfg deal rf rows)[i] =
      (if (rows.map (pbRaw (α := ℚ) (PBParams.digital abc) stats)).sum = 0 then 1
       else pbRaw (PBParams.digital abc) stats rows[i] / (rows.map (pbRaw (α := ℚ) (PBParams.digital abc) stats)).sum * rows.length) :=
  pbWeights_getElem _ _ rows hn i hi hi'

/-- without the sampling branch (`allow_samp` off, or `nseq ≤ sampthresh` — the documented range with the default 50 000)
    the configured routine is `pbDigital`, the model of the default path, with the RF line dropped when `ignore_rf` -/
theorem pbAdv_no_sampling (abc : Abc) (cfg : WCfg) (deal : Nat → Nat → List Nat) (rf : Option Row) (rows : List Row)
    (h : (cfg.allowSamp && decide ((rows.length : Int) > cfg.sampthresh)) = false) :
    pbAdv (α := ℚ) abc cfg deal rf rows =
      pbDigital abc cfg.rule cfg.minspan (if cfg.ignoreRf then none else rf) rows := by
  unfold pbAdv pbDigital
  rw [pbConsensusAdv_cols_no_sampling abc cfg deal rf rows h]

example : ((({ minspan := 5, rule := fun g t => 2 * g < t } : WCfg).allowSamp &&
    decide (((3 : Nat) : Int) > ({ minspan := 5, rule := fun g t => 2 * g < t } : WCfg).sampthresh)) = false) := by decide

/-- with a sampled consensus, relisting the rows does NOT permute the weights: the sample is a set of row POSITIONS.
    Three rows `A-`, `AA`, `-A`, sample = the first row: listed as (0,1,2) the consensus is column 1 and row `A-` gets 3/2;
    listed as (2,1,0) the consensus is column 2 and the same row gets 0. (Outside the stated range of C16 for the default
    configuration: it needs nseq > sampthresh.) -/
theorem pb_relisting_fails_with_sampling :
    let cfg : WCfg := { minspan := 0, rule := fun g t => 2 * g < t, sampthresh := 2, nsamp := 1 }
    let deal : Nat → Nat → List Nat := fun m _ => List.range m
    pbAdv (α := ℚ) Abc.amino cfg deal none [[0, 20], [0, 0], [20, 0]] = [3/2, 3/2, 0] ∧
    pbAdv (α := ℚ) Abc.amino cfg deal none [[20, 0], [0, 0], [0, 20]] = [3/2, 3/2, 0] := by decide +kernel

/-- esl_msaweight_IDFilter_adv, every configuration, every preference rule (conscover on RF / sampled / full consensus,
    random, original order): the kept rows are pairwise below the threshold and no dropped row could be added -/
theorem idFilterAdv_spec (abc : Abc) (cfg : WCfg) (deal : Nat → Nat → List Nat) (pref : FilterPref) (maxid : ℚ)
    (rf : Option Row) (rows : List Row) :
    let kept := idFilterAdv abc cfg deal pref maxid rf rows
    (∀ x ∈ kept, x < rows.length) ∧
    kept.Pairwise (fun k r => pid (α := ℚ) (Mode.digital abc) (rows.getD r []) (rows.getD k []) < maxid) ∧
    (∀ r, r < rows.length → r ∉ kept →
      ∃ k ∈ kept, maxid ≤ pid (α := ℚ) (Mode.digital abc) (rows.getD r []) (rows.getD k [])) :=
  idFilterDigital_spec abc maxid _ rows

/-- the preference rule decides WHICH representative of a redundant pair survives: rows `-A-` and `AAA` (identity 1):
    "conscover" keeps the row spanning more consensus columns, "origorder" the one listed first -/
theorem idFilterAdv_preference_picks_representative :
    let cfg : WCfg := { minspan := 0, rule := fun _ _ => true }
    idFilterAdv (α := ℚ) Abc.amino cfg (fun m _ => List.range m) .conscover (1/2) none [[20, 0, 20], [0, 0, 0]] = [1] ∧
    idFilterAdv (α := ℚ) Abc.amino cfg (fun m _ => List.range m) .origorder (1/2) none [[20, 0, 20], [0, 0, 0]] = [0] ∧
    idFilterAdv (α := ℚ) Abc.amino cfg (fun m _ => List.range m) (.random [1, 5]) (1/2) none [[20, 0, 20], [0, 0, 0]] = [1] := by
  decide +kernel

/-! ## the tree behind GSC: `esl_tree_UPGMA` on EVERY distance matrix, and the two traversals on EVERY tree

  `upgma n d` = the state of `cluster_engine` after its n−1 passes on the symmetric matrix with entries `d x y` (x < y; the C
  code reads the upper triangle only). Clusters 0..n−1 are the taxa, n+s is the node created in pass s (C node n−2−s);
  `created = (upgma n d).nodes.reverse`; `toCTree` lays the result out as `ESL_TREE` does (compared exactly with the real
  `esl_tree_UPGMA` + `esl_tree_SetTaxaParents` + `esl_tree_SetCladesizes` by op `upgma`). -/

/-- (a) the result is a rooted binary tree on the n taxa, for every matrix (ties, zeros, negative entries — anything): n−1
    nodes, each joining two different clusters created before it, every taxon and every node but the root a child exactly
    once -/
theorem upgma_well_formed (n : Nat) (hn : 2 ≤ n) (d : Nat → Nat → ℚ) : WellFormed n (upgma n d).nodes.reverse := by
  rw [← linkTree_upgma]; exact linkTree_wellFormed .upgma n hn d

/-- (a) parent/child arrays are consistent and in preorder: every cluster but the root has its parent node at a smaller C
    index, and that node names it as left or right child (`parent[]`, `taxaparent[]` of `toCTree` are `parentIdx`) -/
theorem upgma_parent_child (n : Nat) (hn : 2 ≤ n) (d : Nat → Nat → ℚ) (c : Nat) (hc : c < 2 * n - 2) :
    ∃ h : parentIdx (upgma n d).nodes c < (upgma n d).nodes.length,
      (((upgma n d).nodes[parentIdx (upgma n d).nodes c]).I = c ∨ ((upgma n d).nodes[parentIdx (upgma n d).nodes c]).J = c) ∧
      c < 2 * n - 2 - parentIdx (upgma n d).nodes c :=
  parentIdx_spec (upgma_well_formed n hn d) hn c hc

/-- (a) with distances in [0, U] (U = 1 for `esl_dst_{C,X}DiffMx`): taxa have height 0, all heights lie in [0, U/2], every
    branch length `ld`/`rd` is exactly the height difference between the node and its child (the `ESL_MAX(0., …)` clamp never
    acts in exact arithmetic) and is ≥ 0, and heights never decrease from one created node to the next (UPGMA is
    reducible: a size-weighted mean of two distances ≥ the current minimum is ≥ it) -/
theorem upgma_heights (n : Nat) (hn : 2 ≤ n) (d : Nat → Nat → ℚ) (U : ℚ)
    (hd : ∀ x y, x < y → y < n → 0 ≤ d x y ∧ d x y ≤ U) (hU : 0 ≤ U) :
    (∀ t, t < n → (upgma n d).hgt.getD t 0 = 0) ∧
    (∀ c, 0 ≤ (upgma n d).hgt.getD c 0 ∧ (upgma n d).hgt.getD c 0 ≤ U / 2) ∧
    ∀ s (h : s < (upgma n d).nodes.reverse.length),
      ((upgma n d).nodes.reverse[s]).l = (upgma n d).hgt.getD (n + s) 0 - (upgma n d).hgt.getD ((upgma n d).nodes.reverse[s]).I 0 ∧
      ((upgma n d).nodes.reverse[s]).r = (upgma n d).hgt.getD (n + s) 0 - (upgma n d).hgt.getD ((upgma n d).nodes.reverse[s]).J 0 ∧
      0 ≤ ((upgma n d).nodes.reverse[s]).l ∧ 0 ≤ ((upgma n d).nodes.reverse[s]).r ∧
      (0 < s → (upgma n d).hgt.getD (n + s - 1) 0 ≤ (upgma n d).hgt.getD (n + s) 0) := by
  rw [← linkTree_upgma]
  refine ⟨linkTree_taxa_height .upgma n hn d, linkTree_height_bounds .upgma n hn d U hd, fun s h => ?_⟩
  have nd := linkTree_node .upgma n hn d s h
  obtain ⟨hl, hr⟩ := linkTree_branch_nonneg .upgma n hn d (fun x y a b => (hd x y a b).1) s h
  exact ⟨nd.l, nd.r, hl, hr, nd.mono⟩

/-- the distances GSC feeds in satisfy the hypothesis with U = 1 -/
theorem diffMx_in_unit_interval (m : Mode) (rows : List Row) (x y : Nat) :
    0 ≤ (1 : ℚ) - pid (α := ℚ) m (rows.getD x []) (rows.getD y []) ∧ (1 : ℚ) - pid (α := ℚ) m (rows.getD x []) (rows.getD y []) ≤ 1 := by
  have := pid_range' m (rows.getD x []) (rows.getD y [])
  constructor <;> linarith [this.1, this.2]

/-- (a) `esl_tree_SetCladesizes` = number of taxa below the node (`leafSets`: a taxon is below itself, a node has the taxa of
    its two children) = the `nin[]` the UPGMA average used; below the root every taxon occurs exactly once -/
theorem upgma_cladesizes (n : Nat) (hn : 2 ≤ n) (d : Nat → Nat → ℚ) :
    (∀ c, (kclades n (upgma n d).nodes.reverse).getD c 0 = ((leafSets n (upgma n d).nodes.reverse).getD c []).length) ∧
    (∀ c, (upgma n d).size.getD c 0 = (kclades n (upgma n d).nodes.reverse).getD c 0) ∧
    ((leafSets n (upgma n d).nodes.reverse).getD (2 * n - 2) []).Perm (List.range n) := by
  rw [← linkTree_upgma]
  exact ⟨(kclades_eq_leaves n _).2, (linkTree_cladesizes' .upgma n hn d).1, (linkTree_cladesizes' .upgma n hn d).2.1⟩

/-- `esl_tree_SetCladesizes` counts the taxa below on ANY node list, well formed or not -/
theorem cladesizes_count_leaves (n : Nat) (created : List (KNode ℚ)) (c : Nat) :
    (kclades n created).getD c 0 = ((leafSets n created).getD c []).length :=
  (kclades_eq_leaves n created).2 c

/-- (b) the two GSC traversals + normalisation on ANY tree with branch lengths ≥ 0 (not only UPGMA's; incl. the
    zero-length-subtree rule `lw+rw == 0` ⇒ split by clade size): n weights, all ≥ 0, summing to n -/
theorem gscTree_sum_nonneg (n : Nat) (hn : 0 < n) (nodes : List (KNode ℚ)) (h : ∀ nd ∈ nodes, 0 ≤ nd.l ∧ 0 ≤ nd.r) :
    (gscTree n nodes).length = n ∧ (gscTree n nodes).sum = n ∧ ∀ w ∈ gscTree n nodes, 0 ≤ w :=
  ⟨gscTree_length n nodes, gscTree_sum n nodes hn, gscTree_nonneg n nodes h⟩

/-- `esl_msaweight_GSC` is `gscTree` of the UPGMA tree of the difference matrix -/
theorem gsc_is_gscTree_of_upgma (m : Mode) (rows : List Row) (h : (rows.length == 1) = false) :
    gsc (α := ℚ) m rows =
      gscTree rows.length (upgma rows.length (fun x y => WNum.ofNat 1 - pid m (rows.getD x []) (rows.getD y []))).nodes :=
  gsc_eq_gscTree m rows h

/-! non-vacuity: four taxa with distances 1/4, 3/4, 1, 1/2, 1, 1/2 (and a tie in the second pass) -/
def exD : Nat → Nat → ℚ := fun x y => ([[0, 1/4, 3/4, 1], [0, 0, 1/2, 1], [0, 0, 0, 1/2]].getD x []).getD y 0
example : ∀ x y, x < y → y < 4 → 0 ≤ exD x y ∧ exD x y ≤ 1 := by
  have h : ∀ y, y < 4 → ∀ x, x < y → 0 ≤ exD x y ∧ exD x y ≤ 1 := by decide +kernel
  exact fun x y hxy hy => h y hy x hxy
example : wellFormedB 4 (upgma 4 exD).nodes.reverse = true := by decide +kernel
example : ((upgma 4 exD).nodes.reverse.map fun nd => (nd.I, nd.J, nd.l, nd.r)) =
    [(0, 1, 1/8, 1/8), (2, 3, 1/4, 1/4), (4, 5, 9/32, 5/32)] := by decide +kernel
example : (toCTree 4 (upgma 4 exD)).left = [2, -2, 0] ∧ (toCTree 4 (upgma 4 exD)).right = [1, -3, -1] ∧
    (toCTree 4 (upgma 4 exD)).parent = [0, 0, 0] ∧ (toCTree 4 (upgma 4 exD)).taxaparent = [2, 2, 1, 1] ∧
    (toCTree 4 (upgma 4 exD)).cladesize = [4, 2, 2] := by decide +kernel
/-- a tree that is not UPGMA's (not ultrametric), and one with a zero-length subtree (the clade-size rule) -/
example : gscTree (α := ℚ) 3 [⟨0, 3, 2, 1⟩, ⟨1, 2, 1, 1⟩] = [6/5, 9/10, 9/10] ∧
    gscTree (α := ℚ) 3 [⟨0, 3, 1, 1⟩, ⟨1, 2, 0, 0⟩] = [3/2, 3/4, 3/4] := by decide +kernel
example : ∀ nd ∈ ([⟨0, 3, 1, 1⟩, ⟨1, 2, 0, 0⟩] : List (KNode ℚ)), 0 ≤ nd.l ∧ 0 ≤ nd.r := by
  intro nd h; simp at h; rcases h with rfl | rfl <;> constructor <;> norm_num

/-! ## `cluster_engine` in every mode: `esl_tree_UPGMA`, `esl_tree_WPGMA`, `esl_tree_SingleLinkage`, `esl_tree_CompleteLinkage`

  `linkTree L n d` = the state after the n−1 passes in mode `L` (`Weights/Engine.lean`); `linkTree .upgma = upgma` (the GSC tree).
  Compared exactly (whole `ESL_TREE`: N, is_linkage_tree, left, right, parent, ld, rd, taxaparent, cladesize, Validate) by op
  `upgma link=0..3`. All statements for EVERY matrix — ties, zeros, negative entries — unless a hypothesis says otherwise. -/

theorem linkage_is_upgma (n : Nat) (d : Nat → Nat → ℚ) : linkTree .upgma n d = upgma n d := linkTree_upgma n d

/-- every linkage returns a rooted binary tree on the n taxa: n−1 nodes, each joining two different clusters created before
    it, every taxon and every node but the root a child exactly once -/
theorem linkage_well_formed (L : Link) (n : Nat) (hn : 2 ≤ n) (d : Nat → Nat → ℚ) :
    WellFormed n (linkTree L n d).nodes.reverse := linkTree_wellFormed L n hn d

/-- `parent[]` / `taxaparent[]` (`parentIdx`) name a node at a smaller C index that has the cluster as left or right child -/
theorem linkage_parent_child (L : Link) (n : Nat) (hn : 2 ≤ n) (d : Nat → Nat → ℚ) (c : Nat) (hc : c < 2 * n - 2) :
    ∃ h : parentIdx (linkTree L n d).nodes c < (linkTree L n d).nodes.length,
      (((linkTree L n d).nodes[parentIdx (linkTree L n d).nodes c]).I = c ∨
       ((linkTree L n d).nodes[parentIdx (linkTree L n d).nodes c]).J = c) ∧
      c < 2 * n - 2 - parentIdx (linkTree L n d).nodes c :=
  parentIdx_spec (linkTree_wellFormed L n hn d) hn c hc

/-- `esl_tree_SetCladesizes` on the result counts the taxa below each node (`cladesizes_count_leaves` holds for any node list) -/
theorem linkage_cladesizes (L : Link) (n : Nat) (d : Nat → Nat → ℚ) (c : Nat) :
    (kclades n (linkTree L n d).nodes.reverse).getD c 0 = ((leafSets n (linkTree L n d).nodes.reverse).getD c []).length :=
  (kclades_eq_leaves n _).2 c

/-- heights, for EVERY matrix and EVERY mode: taxa are at 0; the first node is recorded at the minimum entry of the matrix
    (halved in an additive tree); `ld`/`rd` are the node's own value in a linkage tree and EXACTLY the height difference to
    the child in an additive tree (the `ESL_MAX(0., …)` clamp never acts over ℚ); a child node is never recorded higher than
    its parent; and the recorded values never decrease from one created node to the next — single linkage included: all four
    merge rules are reducible. -/
theorem linkage_heights (L : Link) (n : Nat) (hn : 2 ≤ n) (d : Nat → Nat → ℚ) :
    (∀ t, t < n → (linkTree L n d).hgt.getD t 0 = 0) ∧
    (linkTree L n d).hgt.getD n 0 = L.hOf (kMin (kinitMx n d)).1 ∧
    ∀ s (h : s < (linkTree L n d).nodes.reverse.length),
      ((linkTree L n d).nodes.reverse[s]).l =
        (if L.isLinkage then (linkTree L n d).hgt.getD (n + s) 0
         else (linkTree L n d).hgt.getD (n + s) 0 - (linkTree L n d).hgt.getD ((linkTree L n d).nodes.reverse[s]).I 0) ∧
      ((linkTree L n d).nodes.reverse[s]).r =
        (if L.isLinkage then (linkTree L n d).hgt.getD (n + s) 0
         else (linkTree L n d).hgt.getD (n + s) 0 - (linkTree L n d).hgt.getD ((linkTree L n d).nodes.reverse[s]).J 0) ∧
      (n ≤ ((linkTree L n d).nodes.reverse[s]).I →
        (linkTree L n d).hgt.getD ((linkTree L n d).nodes.reverse[s]).I 0 ≤ (linkTree L n d).hgt.getD (n + s) 0) ∧
      (n ≤ ((linkTree L n d).nodes.reverse[s]).J →
        (linkTree L n d).hgt.getD ((linkTree L n d).nodes.reverse[s]).J 0 ≤ (linkTree L n d).hgt.getD (n + s) 0) ∧
      (0 < s → (linkTree L n d).hgt.getD (n + s - 1) 0 ≤ (linkTree L n d).hgt.getD (n + s) 0) :=
  ⟨linkTree_taxa_height L n hn d, lrun_hgt_getD L n d 0 (n - 1) (by omega),
   fun s h => have nd := linkTree_node L n hn d s h; ⟨nd.l, nd.r, nd.leI, nd.leJ, nd.mono⟩⟩

/-- every merge rule keeps the new distances between the two it merges' common bounds -/
theorem linkage_merge_reducible (L : Link) (rows : Array (Array ℚ)) (nI nJ I J x : Nat) (hI : 0 < nI) (hJ : 0 < nJ) (lo : ℚ)
    (h1 : lo ≤ kdist rows I x) (h2 : lo ≤ kdist rows J x) : lo ≤ lmerged L rows nI nJ I J x :=
  lmerged_lower L lo rows nI nJ I J x hI hJ h1 h2

/-- branch lengths are ≥ 0 in every mode when no distance is negative … -/
theorem linkage_branch_lengths_nonneg (L : Link) (n : Nat) (hn : 2 ≤ n) (d : Nat → Nat → ℚ)
    (hd : ∀ x y, x < y → y < n → 0 ≤ d x y) (s : Nat) (h : s < (linkTree L n d).nodes.reverse.length) :
    0 ≤ ((linkTree L n d).nodes.reverse[s]).l ∧ 0 ≤ ((linkTree L n d).nodes.reverse[s]).r :=
  linkTree_branch_nonneg L n hn d hd s h

/-- … and NOT on any input: `esl_tree_UPGMA` on two taxa at distance −1 returns `ld = rd = −1/2` (only a child NODE's height
    is clamped away; `esl_tree_Validate` rejects that tree) -/
theorem linkage_branch_lengths_negative_at :
    ((linkTree (α := ℚ) .upgma 2 (fun _ _ => -1)).nodes.map fun nd => (nd.I, nd.J, nd.l, nd.r)) = [(0, 1, -1/2, -1/2)] ∧
    ((linkTree (α := ℚ) .single 2 (fun _ _ => -1)).nodes.map fun nd => (nd.I, nd.J, nd.l, nd.r)) = [(0, 1, -1, -1)] := by
  decide +kernel

/-! non-vacuity: the four modes on `exD` (1/4, 3/4, 1, 1/2, 1, 1/2) (a tie in the second pass of single linkage: the first minimum in position order joins) -/
example : ((linkTree .wpgma 4 exD).nodes.reverse.map fun nd => (nd.I, nd.J, nd.l, nd.r)) =
    [(0, 1, 1/8, 1/8), (2, 3, 1/4, 1/4), (4, 5, 9/32, 5/32)] := by decide +kernel
example : ((linkTree .single 4 exD).nodes.reverse.map fun nd => (nd.I, nd.J, nd.l, nd.r)) =
    [(0, 1, 1/4, 1/4), (2, 3, 1/2, 1/2), (4, 5, 1/2, 1/2)] := by decide +kernel
example : ((linkTree .complete 4 exD).nodes.reverse.map fun nd => (nd.I, nd.J, nd.l, nd.r)) =
    [(0, 1, 1/4, 1/4), (2, 3, 1/2, 1/2), (4, 5, 1, 1)] := by decide +kernel
example : (toCTree 4 (linkTree .single 4 exD)).left = [2, -2, 0] ∧ (toCTree 4 (linkTree .single 4 exD)).right = [1, -3, -1] ∧
    (toCTree 4 (linkTree .single 4 exD)).cladesize = [4, 2, 2] := by decide +kernel

/-- esl_dst_{C,X}PairMatch on aligned sequences: columns where both cells are residues over columns where at least one is
    (0 if there is none), with the counts returned in `opt_nm`, `opt_n`; different lengths: eslEINVAL -/
theorem pairMatch_spec (m : Mode) (a b : Row) :
    (a.length = b.length → pairMatch (α := ℚ) m a b = some (pmSpec m a b, nmSpec m a b, eitherSpec m a b)) ∧
    (a.length ≠ b.length → pairMatch (α := ℚ) m a b = none) :=
  ⟨pairMatch_aligned m a b, pairMatch_unaligned' m a b⟩

/-- symmetric, in [0,1]; and identities ≤ matches ≤ columns with a residue -/
theorem pairMatch_symm_range (m : Mode) (a b : Row) :
    pmatch (α := ℚ) m a b = pmatch m b a ∧ 0 ≤ pmatch (α := ℚ) m a b ∧ pmatch (α := ℚ) m a b ≤ 1 ∧
    nidSpec m a b ≤ nmSpec m a b ∧ nmSpec m a b ≤ eitherSpec m a b :=
  ⟨pmatch_comm m a b, (pmatch_range' m a b).1, (pmatch_range' m a b).2, nidSpec_le_nm m a b, nmSpec_le_either m a b⟩

example : pairMatch (α := ℚ) Mode.text [65, 67, 45, 97] [97, 45, 45, 65] = some (2/3, 2, 3) := by decide +kernel

/-- esl_dst_{C,X}JukesCantor: the counts do not depend on the order of the two sequences; unaligned: eslEINVAL -/
theorem jukesCantor_symm (j : JCMode) (K : Nat) (a b : Row) :
    jukesCantor (α := ℝ) j K a b = jukesCantor j K b a ∧ (a.length ≠ b.length → jukesCantor (α := ℝ) j K a b = .einval) := by
  refine ⟨by unfold jukesCantor; rw [jcCounts_comm], fun h => by unfold jukesCantor; rw [jcCounts_none j a b h]⟩

/-- static `jukescantor()` over ℝ, alphabet size K ≥ 2, n1 identities and n2 substitutions: no compared column ⇒
    eslEDIVZERO; D = n2/(n1+n2) ≥ (K−1)/K ⇒ saturation (distance = variance = HUGE_VAL); otherwise
    d = −(K/(K−1))·ln(1 − D·K/(K−1)) ≥ 0, variance = e^{2Kd/(K−1)}·D(1−D)/N ≥ 0, and both are 0 when n2 = 0 -/
theorem jukescantor_spec (n1 n2 K : Nat) (hK : 2 ≤ K) :
    (n1 + n2 = 0 → jukescantor (α := ℝ) n1 n2 K = .edivzero) ∧
    (0 < n1 + n2 → (n1 + n2) * (K - 1) ≤ n2 * K → jukescantor (α := ℝ) n1 n2 K = .saturated) ∧
    (0 < n1 + n2 → n2 * K < (n1 + n2) * (K - 1) → ∃ d v : ℝ, jukescantor (α := ℝ) n1 n2 K = .ok d v ∧
      d = -Real.log (1 - ((n2 : ℝ) / ((n1 + n2 : Nat) : ℝ)) * K / ((K : ℝ) - 1)) * K / ((K : ℝ) - 1) ∧
      v = Real.exp (2 * K * d / ((K : ℝ) - 1)) * ((n2 : ℝ) / ((n1 + n2 : Nat) : ℝ)) *
            (1 - (n2 : ℝ) / ((n1 + n2 : Nat) : ℝ)) / ((n1 + n2 : Nat) : ℝ) ∧
      0 ≤ d ∧ 0 ≤ v ∧ (n2 = 0 → d = 0 ∧ v = 0)) :=
  ⟨fun h => by unfold jukescantor; simp [h], fun hp => (jukescantor_spec' n1 n2 K hK hp).1,
   fun hp => (jukescantor_spec' n1 n2 K hK hp).2⟩

/-- non-vacuity: DNA, 3 identities + 1 substitution is below saturation, 1 + 3 is at it -/
example : (1 : Nat) * 4 < (3 + 1) * (4 - 1) ∧ (1 + 3) * (4 - 1) ≤ 3 * 4 := by decide
example : jcCounts JCMode.text [65, 67, 71, 84, 45] [97, 67, 71, 65, 65] 0 0 = some (3, 1) := by decide

/-- esl_dst_{C,X}Average{Id,Match} (`f` = pairwise identity resp. match fraction; `sampled` = the pairs the sampling
    branch draws from `esl_randomness_Create(42)`): 1 for fewer than two rows; otherwise the plain mean over all pairs
    i < j when N² ≤ 2·max_comparisons — THAT is the code's test, not "N(N−1)/2 ≤ max_comparisons" as documented —
    else the mean over the sampled pairs -/
theorem average_spec (f : Row → Row → ℚ) (rows : List Row) (maxc : Nat) (sampled : List (Nat × Nat)) :
    (rows.length ≤ 1 → average f rows maxc sampled = 1) ∧
    (2 ≤ rows.length → average f rows maxc sampled =
      if rows.length * rows.length ≤ 2 * maxc then
        ((allPairs rows.length).map fun p => f (rows.getD p.1 []) (rows.getD p.2 [])).sum /
          ((rows.length * (rows.length - 1) / 2 : Nat) : ℚ)
      else (sampled.map fun p => f (rows.getD p.1 []) (rows.getD p.2 [])).sum / (maxc : ℚ)) ∧
    (allPairs rows.length).length = rows.length * (rows.length - 1) / 2 :=
  ⟨average_single f rows maxc sampled, average_value f rows maxc sampled, allPairs_length rows.length⟩

/-- four rows have six pairs, yet `max_comparisons = 6` sends the code into the sampling branch (16 > 12) -/
example : exhaustive 4 6 = false ∧ 4 * (4 - 1) / 2 ≤ 6 ∧ exhaustive 4 8 = true := by decide

/-- the average identity / match fraction lies in [0,1] in both branches, for EVERY list of `max_comparisons` ≥ 1 sampled
    pairs (any generator state) -/
theorem averageId_range (m : Mode) (rows : List Row) (maxc : Nat) (sampled : List (Nat × Nat))
    (hs : sampled.length = maxc) (hm : 1 ≤ maxc) :
    (0 ≤ averageId (α := ℚ) m rows maxc sampled ∧ averageId (α := ℚ) m rows maxc sampled ≤ 1) ∧
    (0 ≤ averageMatch (α := ℚ) m rows maxc sampled ∧ averageMatch (α := ℚ) m rows maxc sampled ≤ 1) :=
  ⟨average_range _ (pid_range' m) rows maxc sampled hs hm, average_range _ (pmatch_range' m) rows maxc sampled hs hm⟩

example : averageId (α := ℚ) Mode.text [[65, 67], [65, 71], [84, 71]] 5 [] = 1/3 ∧
    averageId (α := ℚ) Mode.text [[65, 67], [65, 71], [84, 71]] 2 [(0, 1), (2, 0)] = 1/4 := by decide +kernel

/-! ## esl_distance.c, every public function, for `esl_dst_C…` (m = `Mode.text`, j = `JCMode.text`) and `esl_dst_X…`
    (m = `Mode.digital abc`, j = `JCMode.digital abc`) alike; "empty" = no residue (all gaps / missing data / non-residue symbols) -/

/-- `esl_dst_CPairId` and `esl_dst_XPairId`, named explicitly: symmetric, in [0,1], and 0 as soon as EITHER sequence is empty
    (whichever argument it is) -/
theorem cPairId_xPairId_symm_range_empty (abc : Abc) (a b : Row) (hl : a.length = b.length) :
    ∀ m ∈ [Mode.text, Mode.digital abc],
      pid (α := ℚ) m a b = pid m b a ∧ (0 ≤ pid (α := ℚ) m a b ∧ pid (α := ℚ) m a b ≤ 1) ∧
      (lenSpec m a = 0 ∨ lenSpec m b = 0 → pid (α := ℚ) m a b = 0) :=
  fun m _ => ⟨pairId_symm m a b, pairId_range m a b hl, pairId_empty m a b hl⟩

example : pid (α := ℚ) (Mode.digital Abc.amino) [0, 1, 2] [20, 28, 27] = 0 ∧
    pid (α := ℚ) (Mode.digital Abc.amino) [20, 28, 27] [0, 1, 2] = 0 ∧ pid (α := ℚ) Mode.text [65, 67] [45, 126] = 0 := by
  decide +kernel

/-- `esl_dst_{C,X}PairMatch`: 0 as soon as either aligned sequence is empty (symmetry and range: `pairMatch_symm_range`) -/
theorem pairMatch_empty (m : Mode) (a b : Row) (hl : a.length = b.length) (h : lenSpec m a = 0 ∨ lenSpec m b = 0) :
    pmatch (α := ℚ) m a b = 0 := pmatch_empty m a b hl h

/-- `esl_dst_{C,X}JukesCantor`: a sequence without any canonical residue (text: letter) leaves no column to compare:
    eslEDIVZERO, distance and variance HUGE_VAL — over every numeric instance -/
theorem jukesCantor_empty (j : JCMode) (K : Nat) (a b : Row) (hl : a.length = b.length)
    (h : (∀ x ∈ a, j.ok x = false) ∨ (∀ x ∈ b, j.ok x = false)) :
    jukesCantor (α := ℝ) j K a b = .edivzero ∧ jukesCantor (α := Float) j K a b = .edivzero :=
  ⟨EaselModel.Weights.jukesCantor_empty j K a b hl h, EaselModel.Weights.jukesCantor_empty j K a b hl h⟩

/-- the Jukes-Cantor distance is infinite exactly when the fraction of identical columns n1/(n1+n2) is at most 1/K -/
theorem jukescantor_infinite_iff (n1 n2 K : Nat) (hK : 2 ≤ K) (hpos : 0 < n1 + n2) :
    jukescantor (α := ℝ) n1 n2 K = .saturated ↔ n1 * K ≤ n1 + n2 := by
  have key : (n1 + n2) * (K - 1) ≤ n2 * K ↔ n1 * K ≤ n1 + n2 := by
    obtain ⟨k, rfl⟩ : ∃ k, K = k + 1 := ⟨K - 1, by omega⟩
    rw [Nat.add_sub_cancel, Nat.add_mul, Nat.mul_add, Nat.mul_add, Nat.mul_one, Nat.mul_one]
    omega
  rw [← key]
  constructor
  · intro h
    by_contra hc
    obtain ⟨d, v, hdv, _⟩ := (jukescantor_spec' n1 n2 K hK hpos).2 (by omega)
    rw [hdv] at h; cases h
  · exact (jukescantor_spec' n1 n2 K hK hpos).1

example : (1 : Nat) * 4 ≤ 1 + 3 ∧ ¬ (2 * 4 ≤ 2 + 2) := by decide

/-- `esl_dst_{C,X}DiffMx` (row-major N×N): 0 on the diagonal, 1 − pairwise identity elsewhere, symmetric, in [0,1]; an empty
    row is at distance exactly 1 from every other row -/
theorem diffMx_spec (m : Mode) (rows : List Row) (i j : Nat) (hi : i < rows.length) (hj : j < rows.length) :
    ((diffMx (α := ℚ) m rows).getD (i * rows.length + j) 0 =
      if i = j then 0 else 1 - pid (α := ℚ) m (rows.getD i []) (rows.getD j [])) ∧
    (diffMx (α := ℚ) m rows).getD (i * rows.length + j) 0 = (diffMx (α := ℚ) m rows).getD (j * rows.length + i) 0 ∧
    (0 ≤ (diffMx (α := ℚ) m rows).getD (i * rows.length + j) 0 ∧ (diffMx (α := ℚ) m rows).getD (i * rows.length + j) 0 ≤ 1) ∧
    (i ≠ j → (rows.getD i []).length = (rows.getD j []).length →
      lenSpec m (rows.getD i []) = 0 ∨ lenSpec m (rows.getD j []) = 0 →
      (diffMx (α := ℚ) m rows).getD (i * rows.length + j) 0 = 1) := by
  refine ⟨diffMx_entry m rows i j hi hj, (diffMx_symm_range m rows i j hi hj).1, (diffMx_symm_range m rows i j hi hj).2, ?_⟩
  intro hne hl he
  rw [diffMx_entry m rows i j hi hj, if_neg hne, pairId_empty m _ _ hl he]; norm_num

/-- `esl_dst_{C,X}JukesCantorMx`: symmetric entries; it fails (both matrices NULL) exactly when the distance call of some
    pair i < j fails (eslEINVAL unaligned / eslEDIVZERO no compared column — e.g. an empty row, `jukesCantor_empty`) -/
theorem jukesCantorMx_spec (j : JCMode) (K : Nat) (rows : List Row) :
    (∀ a b, jcMxEntry (α := ℝ) j K rows a b = jcMxEntry j K rows b a) ∧
    (jcMxError (α := ℝ) j K rows = none ↔
      ∀ a b, a < b → b < rows.length →
        jukesCantor (α := ℝ) j K (rows.getD a []) (rows.getD b []) ≠ .einval ∧
        jukesCantor (α := ℝ) j K (rows.getD a []) (rows.getD b []) ≠ .edivzero) :=
  ⟨jcMxEntry_symm j K rows, jcMxError_none_iff j K rows⟩

/-- `esl_dst_XAvgConnectivity` (`f` = pairwise identity, `sampled` = the max_comparisons pairs drawn from the Mersenne Twister
    seeded with 42): the identity half IS `esl_dst_XAverageId`; the connectivity half is a fraction in [0,1]; in the exhaustive
    branch it is the number of pairs i < j with identity STRICTLY above the threshold over N(N−1)/2 -/
theorem avgConnectivity_spec (f : Row → Row → ℚ) (rows : List Row) (maxc : Nat) (thresh : ℚ) (sampled : List (Nat × Nat))
    (hs : sampled.length = maxc) :
    (avgConnectivity f rows maxc thresh sampled).1 = average f rows maxc sampled ∧
    (0 ≤ (avgConnectivity f rows maxc thresh sampled).2 ∧ (avgConnectivity f rows maxc thresh sampled).2 ≤ 1) ∧
    (2 ≤ rows.length → rows.length * rows.length ≤ 2 * maxc →
      (avgConnectivity f rows maxc thresh sampled).2 =
        (((allPairs rows.length).countP fun p => decide (thresh < f (rows.getD p.1 []) (rows.getD p.2 [])) : Nat) : ℚ) /
          ((rows.length * (rows.length - 1) / 2 : Nat) : ℚ)) :=
  ⟨(EaselModel.Weights.avgConnectivity_spec f rows maxc thresh sampled hs).1,
   (EaselModel.Weights.avgConnectivity_spec f rows maxc thresh sampled hs).2,
   fun hN hx => avgConnectivity_exhaustive f rows maxc thresh sampled hN hx⟩

/-- `esl_dst_XAvgSubsetConnectivity` on the index list V is `esl_dst_XAvgConnectivity` on the rows V names, in V's order -/
theorem avgSubsetConnectivity_is (f : Row → Row → ℚ) (rows : List Row) (V : List Nat) (maxc : Nat) (thresh : ℚ)
    (sampled : List (Nat × Nat)) :
    avgSubsetConnectivity f rows V maxc thresh sampled = avgConnectivity f (V.map fun v => rows.getD v []) maxc thresh sampled :=
  rfl

example : avgConnectivity (pid (α := ℚ) Mode.text) [[65, 67], [65, 71], [84, 71]] 5 (1/4) [] = (1/3, 2/3) ∧
    avgSubsetConnectivity (pid (α := ℚ) Mode.text) [[65, 67], [65, 71], [84, 71]] [2, 0] 5 0 [] = (0, 0) := by decide +kernel

/-- `esl_quicksort` SORTS (not only permutes): for every comparison function that is reflexive, total and transitive on
    0..n−1, `sorted_at[x]` never compares after `sorted_at[y]` for x < y. (The median-of-three no-op, the Hoare loop and the
    recursion order are those of the C code; the model's fuel provably never runs out.) -/
theorem quicksort_sorts (cmp : Nat → Nat → Int) (n : Nat) (hc : CmpOK cmp (· < n)) (x y : Nat) (hxy : x < y) (hy : y < n) :
    cmp ((quicksort cmp n).getD x 0) ((quicksort cmp n).getD y 0) ≤ 0 := quicksort_sorted hc x y hxy hy

/-- `sort_doubles_decreasing` on any weight vector is such a comparison, so the weights along `sorted_at[]` never increase -/
theorem quicksort_decreasing_weights (w : List ℚ) :
    CmpOK (cmpDecreasing w) (· < w.length) ∧
    ∀ x y, x < y → y < w.length →
      w.getD ((quicksort (cmpDecreasing w) w.length).getD y 0) 0 ≤ w.getD ((quicksort (cmpDecreasing w) w.length).getD x 0) 0 :=
  ⟨cmpDecreasing_ok w, fun x y hxy hy => quicksort_decreasing w x y hxy hy⟩

example : quicksort (cmpDecreasing ([3, 1, 4, 1, 5, 9, 2, 6] : List ℚ)) 8 = [5, 7, 4, 2, 0, 6, 3, 1] := by decide +kernel

/-- every preference rule: a dropped row reaches the threshold with a DIFFERENT kept row that the rule prefers at least as
    much (`sortwgt[k] ≥ sortwgt[r]`) -/
theorem idFilterAdv_keeps_preferred (abc : Abc) (cfg : WCfg) (deal : Nat → Nat → List Nat) (pref : FilterPref) (maxid : ℚ)
    (rf : Option Row) (rows : List Row) (r : Nat) (hr : r < rows.length)
    (h : r ∉ idFilterAdv abc cfg deal pref maxid rf rows) :
    ∃ k ∈ idFilterAdv abc cfg deal pref maxid rf rows, k ≠ r ∧ k < rows.length ∧
      (sortwgtOf (α := ℚ) abc cfg deal rf rows pref).getD r 0 ≤ (sortwgtOf (α := ℚ) abc cfg deal rf rows pref).getD k 0 ∧
      maxid ≤ pid (α := ℚ) (Mode.digital abc) (rows.getD r []) (rows.getD k []) :=
  idFilterDigital_keeps_preferred abc maxid _ rows (sortwgtOf_length abc cfg deal rf rows pref) r hr h

/-- eslMSAWEIGHT_FILT_CONSCOVER: the surviving representative spans at least as many consensus columns as the dropped row -/
theorem idFilterAdv_conscover (abc : Abc) (cfg : WCfg) (deal : Nat → Nat → List Nat) (maxid : ℚ) (rf : Option Row)
    (rows : List Row) (r : Nat) (hr : r < rows.length) (h : r ∉ idFilterAdv abc cfg deal .conscover maxid rf rows) :
    ∃ k ∈ idFilterAdv abc cfg deal .conscover maxid rf rows, k ≠ r ∧
      conscover abc (filterConsensusAdv abc cfg deal rf rows) (rows.getD r []) ≤
        conscover abc (filterConsensusAdv abc cfg deal rf rows) (rows.getD k []) ∧
      maxid ≤ pid (α := ℚ) (Mode.digital abc) (rows.getD r []) (rows.getD k []) := by
  obtain ⟨k, hk, hne, hklt, hw, hl⟩ := idFilterAdv_keeps_preferred abc cfg deal .conscover maxid rf rows r hr h
  rw [(sortwgtOf_getD abc cfg deal rf rows r hr).1, (sortwgtOf_getD abc cfg deal rf rows k hklt).1] at hw
  exact ⟨k, hk, hne, by exact_mod_cast hw, hl⟩

/-- eslMSAWEIGHT_FILT_RANDOM: the surviving representative drew at least as large a random number -/
theorem idFilterAdv_random (abc : Abc) (cfg : WCfg) (deal : Nat → Nat → List Nat) (nums : List Nat) (maxid : ℚ)
    (rf : Option Row) (rows : List Row) (r : Nat) (hr : r < rows.length)
    (h : r ∉ idFilterAdv abc cfg deal (.random nums) maxid rf rows) :
    ∃ k ∈ idFilterAdv abc cfg deal (.random nums) maxid rf rows, k ≠ r ∧ nums.getD r 0 ≤ nums.getD k 0 ∧
      maxid ≤ pid (α := ℚ) (Mode.digital abc) (rows.getD r []) (rows.getD k []) := by
  obtain ⟨k, hk, hne, hklt, hw, hl⟩ := idFilterAdv_keeps_preferred abc cfg deal (.random nums) maxid rf rows r hr h
  rw [(sortwgtOf_getD abc cfg deal rf rows r hr).2.1 nums, (sortwgtOf_getD abc cfg deal rf rows k hklt).2.1 nums] at hw
  refine ⟨k, hk, hne, ?_, hl⟩
  have h2 : ((nums.getD r 0 : Nat) : ℚ) ≤ ((nums.getD k 0 : Nat) : ℚ) := by
    have hpos : (0 : ℚ) < 9007199254740992 := by norm_num
    exact (div_le_div_iff_of_pos_right hpos).mp hw
  exact_mod_cast h2

/-- eslMSAWEIGHT_FILT_ORIGORDER: the sort leaves the rows in their original order, so the digital filter IS the text-mode
    rule "keep the earlier row, drop the later": a dropped row reaches the threshold with a kept row of smaller index -/
theorem idFilterAdv_origorder (abc : Abc) (cfg : WCfg) (deal : Nat → Nat → List Nat) (maxid : ℚ) (rf : Option Row)
    (rows : List Row) :
    idFilterAdv abc cfg deal .origorder maxid rf rows =
      idFilterOrder (Mode.digital abc) maxid rows (List.range rows.length) ∧
    ∀ r, r < rows.length → r ∉ idFilterAdv abc cfg deal .origorder maxid rf rows →
      ∃ k ∈ idFilterAdv abc cfg deal .origorder maxid rf rows, k < r ∧
        maxid ≤ pid (α := ℚ) (Mode.digital abc) (rows.getD r []) (rows.getD k []) := by
  refine ⟨?_, ?_⟩
  · unfold idFilterAdv idFilterDigital
    show idFilterOrder _ _ _ (quicksort (cmpDecreasing ((List.range rows.length).map fun i => ((rows.length - i : Nat) : ℚ)))
      rows.length) = _
    rw [quicksort_origorder]
  · intro r hr h
    obtain ⟨k, hk, hne, hklt, hw, hl⟩ := idFilterAdv_keeps_preferred abc cfg deal .origorder maxid rf rows r hr h
    rw [(sortwgtOf_getD abc cfg deal rf rows r hr).2.2, (sortwgtOf_getD abc cfg deal rf rows k hklt).2.2] at hw
    have h2 : rows.length - r ≤ rows.length - k := by exact_mod_cast hw
    exact ⟨k, hk, by omega, hl⟩

/-- consensus columns, `consensus_by_all` (and the second half of `consensus_by_sample`): column `apos` is selected iff the
    documented rule `gaps / (residues + gaps) < symfrac` holds of its two counts, where a full-length row counts everywhere
    and a fragment (span < ceil(fragthresh·alen)) only between its first and last residue -/
theorem consensus_by_all_selects (abc : Abc) (rule : Nat → Nat → Bool) (infos : List RowInfo) (alen apos : Nat)
    (hK : abc.K < abc.Kp) :
    (apos ∈ consByAll abc rule infos alen ↔ apos < alen ∧ rule (colGap abc infos apos) (colTot abc infos apos) = true) ∧
    (consByAll abc rule infos alen).Pairwise (· < ·) :=
  ⟨consByAll_mem abc rule infos alen apos hK, consByAll_sorted abc rule infos alen⟩

/-- `consensus_by_rf`: exactly the columns whose RF character is not a gap symbol, in increasing order -/
theorem consensus_by_rf_selects (rf : Row) (alen apos : Nat) :
    (apos ∈ consByRf rf alen ↔ apos < alen ∧ isGapChar (rf.getD apos 45) = false) ∧ (consByRf rf alen).Pairwise (· < ·) :=
  ⟨consByRf_mem rf alen apos, consByRf_sorted rf alen⟩

/-- `consensus_by_sample` on ANY sample of row indices (any `esl_rand64` state): the fragment count is that of the sampled
    rows; the sample is rejected iff it exceeds `maxfrag` (then no column); otherwise exactly the columns meeting the rule on
    the counts over the SAMPLED rows -/
theorem consensus_by_sample_selects (abc : Abc) (cfg : WCfg) (rows : List Row) (samp : List Nat) (alen : Nat)
    (hK : abc.K < abc.Kp) :
    let infos := samp.map fun idx => rowInfo abc cfg.minspan (rows.getD idx [])
    (consBySample abc cfg rows samp alen).nfrag = infos.countP (·.frag) ∧
    ((consBySample abc cfg rows samp alen).rejected = true ↔ cfg.maxfrag < (infos.countP (·.frag) : Int)) ∧
    ((consBySample abc cfg rows samp alen).rejected = true → (consBySample abc cfg rows samp alen).cols = []) ∧
    ((consBySample abc cfg rows samp alen).rejected = false → ∀ apos,
      apos ∈ (consBySample abc cfg rows samp alen).cols ↔
        apos < alen ∧ cfg.rule (colGap abc infos apos) (colTot abc infos apos) = true) := by
  intro infos
  unfold consBySample
  simp only []
  by_cases h : ((infos.countP (·.frag) : Nat) : Int) ≤ cfg.maxfrag
  · rw [if_pos h]
    refine ⟨rfl, ?_, ?_, ?_⟩
    · simp; omega
    · intro hh; simp at hh
    · intro _ apos; exact consByAll_mem abc cfg.rule infos alen apos hK
  · rw [if_neg h]
    refine ⟨rfl, ?_, ?_, ?_⟩
    · simp; omega
    · intro _; rfl
    · intro hh; simp at hh

/-- the cascade of `esl_msaweight_PB_adv`: RF (unless ignored) or a sample (when allowed and nseq > sampthresh); if that
    gave no column, `consensus_by_all` on all rows; if that gave none either, every column -/
theorem pbAdv_consensus_cascade (abc : Abc) (cfg : WCfg) (deal : Nat → Nat → List Nat) (rf : Option Row) (rows : List Row) :
    (pbConsensusAdv abc cfg deal rf rows).cols =
      (let early := match consWay cfg rf rows.length with
        | .byRf r => consByRf r (alenOf rows)
        | .bySample => (consBySample abc cfg rows (sampleRows cfg deal rows.length) (alenOf rows)).cols
        | .neither => []
       let all := consByAll abc cfg.rule (rows.map (rowInfo abc cfg.minspan)) (alenOf rows)
       if early.isEmpty then (if all.isEmpty then List.range (alenOf rows) else all) else early) := by
  unfold pbConsensusAdv
  cases consWay cfg rf rows.length <;> simp only [] <;> split <;> simp_all

example : Abc.amino.K < Abc.amino.Kp ∧ Abc.dna.K < Abc.dna.Kp := by decide
/-- rows `A-`, `AA`, `-A`: with minspan 2 the first and third are fragments and do not count the column of their outer gap;
    with minspan 0 every row counts everywhere -/
example : colGap Abc.amino ([[0, 20], [0, 0], [20, 0]].map (rowInfo Abc.amino 2)) 0 = 0 ∧
    colTot Abc.amino ([[0, 20], [0, 0], [20, 0]].map (rowInfo Abc.amino 2)) 0 = 2 ∧
    colGap Abc.amino ([[0, 20], [0, 0], [20, 0]].map (rowInfo Abc.amino 0)) 0 = 1 ∧
    consByAll Abc.amino (fun g t => 2 * g < t) ([[0, 20], [0, 0], [20, 0]].map (rowInfo Abc.amino 2)) 2 = [0, 1] := by
  decide +kernel

/-- the sampling branch of `esl_dst_{C,X}Average{Id,Match}` / `XAvg(Subset)Connectivity` for EVERY state of the C09 generator
    (`esl_randomness_Create(42)` in the code): each pair drawn names two DIFFERENT rows inside the alignment (no read outside
    `as[]`/`ax[]`, no self-comparison), and at most `max_comparisons` pairs are drawn -/
theorem average_sampling_in_bounds (N maxc : Nat) (r : EaselModel.Random.Rng) :
    (∀ p ∈ samplePairs N maxc r [], p.1 < N ∧ p.2 < N ∧ p.2 ≠ p.1) ∧ (samplePairs N maxc r []).length ≤ maxc := by
  have h := samplePairs_valid N maxc r [] (by simp)
  exact ⟨h.1, by simpa using h.2⟩

/-- an alignment (N ≥ 2) in which no row has a residue: average identity and average match fraction are 0 in both branches -/
theorem average_all_empty (m : Mode) (rows : List Row) (L maxc : Nat) (sampled : List (Nat × Nat))
    (hrect : ∀ a ∈ rows, a.length = L) (he : ∀ a ∈ rows, lenSpec m a = 0) (hN : 2 ≤ rows.length)
    (hs : ∀ p ∈ sampled, p.1 < rows.length ∧ p.2 < rows.length) :
    averageId (α := ℚ) m rows maxc sampled = 0 ∧ averageMatch (α := ℚ) m rows maxc sampled = 0 :=
  ⟨average_all_zero _ rows maxc sampled
      (fun a ha b hb => pairId_empty m a b ((hrect a ha).trans (hrect b hb).symm) (Or.inl (he a ha))) hN hs,
   average_all_zero _ rows maxc sampled
      (fun a ha b hb => pmatch_empty m a b ((hrect a ha).trans (hrect b hb).symm) (Or.inl (he a ha))) hN hs⟩

/-- UPGMA and WPGMA trees are ultrametric over ℚ: below every node both children are at the same depth -/
theorem linkage_additive_ultrametric (L : Link) (hL : L.isLinkage = false) (n : Nat) (hn : 2 ≤ n) (d : Nat → Nat → ℚ) (s : Nat)
    (h : s < (linkTree L n d).nodes.reverse.length) :
    ((linkTree L n d).nodes.reverse[s]).l + (linkTree L n d).hgt.getD ((linkTree L n d).nodes.reverse[s]).I 0 =
      ((linkTree L n d).nodes.reverse[s]).r + (linkTree L n d).hgt.getD ((linkTree L n d).nodes.reverse[s]).J 0 := by
  have nd := linkTree_node L n hn d s h
  rw [nd.l, nd.r, hL]; simp

/-- the cascade of `esl_msaweight_IDFilter_adv` (conscover preference): RF (unless ignored), or a sample (when allowed and
    nseq > sampthresh), or `consensus_by_all` on all rows; if that gave no column — a rejected sample included — every column
    (there is NO `consensus_by_all` retry after an empty RF / rejected sample here, unlike in `PB_adv`) -/
theorem idFilterAdv_consensus_cascade (abc : Abc) (cfg : WCfg) (deal : Nat → Nat → List Nat) (rf : Option Row) (rows : List Row) :
    filterConsensusAdv abc cfg deal rf rows =
      (let c := match consWay cfg rf rows.length with
        | .byRf r => consByRf r (alenOf rows)
        | .bySample => (consBySample abc cfg rows (sampleRows cfg deal rows.length) (alenOf rows)).cols
        | .neither => consByAll abc cfg.rule (rows.map (rowInfo abc cfg.minspan)) (alenOf rows)
       if c.isEmpty then List.range (alenOf rows) else c) := rfl

/-- clade sizes in every mode: the `nin[]` the engine keeps is `esl_tree_SetCladesizes`'s value, the root's clade consists of
    all n taxa, each exactly once, and `cladesize[0] = n` -/
theorem linkage_cladesizes_root (L : Link) (n : Nat) (hn : 2 ≤ n) (d : Nat → Nat → ℚ) :
    (∀ c, (linkTree L n d).size.getD c 0 = (kclades n (linkTree L n d).nodes.reverse).getD c 0) ∧
    ((leafSets n (linkTree L n d).nodes.reverse).getD (2 * n - 2) []).Perm (List.range n) ∧
    (kclades n (linkTree L n d).nodes.reverse).getD (2 * n - 2) 0 = n :=
  linkTree_cladesizes' L n hn d

/-- the documented fragment rule: "a sequence is a fragment if (length from first to last aligned residue) / alen < fragthresh";
    the code's integer test `span < ceil(fragthresh · alen)` says the same over ℚ (the driver evaluates the ceiling in binary32
    exactly as the C code does) -/
theorem fragment_rule_documented (ft : ℚ) (alen : Nat) (span : Int) (h : 0 < alen) :
    span < ⌈ft * (alen : ℚ)⌉ ↔ (span : ℚ) / (alen : ℚ) < ft := by
  have hpos : (0 : ℚ) < (alen : ℚ) := by exact_mod_cast h
  rw [Int.lt_ceil, div_lt_iff₀ hpos]

/-- the text and the digital definition of pairwise identity AGREE: `esl_dst_XPairId` on the image of two sequences under ANY
    symbol map `φ` that preserves "is a residue" and "same residue" on the symbols `S` they use returns the same
    (pid, nid, n) as `esl_dst_CPairId` on the originals — over every numeric instance (so also bit for bit in binary64) -/
theorem pairId_text_digital_agree {α} [WNum α] (m m' : Mode) (φ : UInt8 → UInt8) (S : UInt8 → Prop)
    (hres : ∀ c, S c → m'.isRes (φ c) = m.isRes c)
    (hkey : ∀ c c', S c → S c' → m.isRes c = true → m.isRes c' = true → (m'.key (φ c) == m'.key (φ c')) = (m.key c == m.key c'))
    (a b : Row) (ha : ∀ c ∈ a, S c) (hb : ∀ c ∈ b, S c) :
    pairId (α := α) m' (a.map φ) (b.map φ) = pairId m a b :=
  pairId_map m m' φ S hres hkey a b ha hb

/-- the instance "DNA text ↦ eslDNA codes" (A C G T in either case ↦ 0..3, every non-letter ↦ gap) satisfies the hypotheses -/
theorem pairId_text_digital_agree_dna (a b : Row) (ha : ∀ c ∈ a, dnaOK c) (hb : ∀ c ∈ b, dnaOK c) :
    pairId (α := ℚ) (Mode.digital Abc.dna) (a.map digitizeDna) (b.map digitizeDna) = pairId Mode.text a b ∧
    pairId (α := Float) (Mode.digital Abc.dna) (a.map digitizeDna) (b.map digitizeDna) = pairId Mode.text a b :=
  ⟨pairId_text_eq_digital_dna a b ha hb, pairId_text_eq_digital_dna a b ha hb⟩

example : ∀ c ∈ ([65, 99, 45, 116, 46] : Row), dnaOK c := by decide

/-! ## thresholds at or below 0: everything is linked — residue-free rows included (their identity is 0, not NaN) -/

/-- `esl_msacluster_SingleLinkage` at maxid ≤ 0 puts ALL rows into one cluster, whatever they contain -/
theorem msaSingleLinkage_one_cluster_at_zero (m : Mode) (maxid : ℚ) (hm : maxid ≤ 0) (rows : List Row) (u w : Nat)
    (hu : u < rows.length) (hw : w < rows.length) :
    clusterIndex (msaSingleLinkage m maxid rows) u = clusterIndex (msaSingleLinkage m maxid rows) w := by
  rw [msaSingleLinkage_components m maxid rows u w hu hw]
  apply Reach.single hu hw
  have := (pid_range' m (rows.getD u []) (rows.getD w [])).1
  simp only [decide_eq_true_eq]; linarith

/-- `esl_msaweight_IDFilter` (text mode) at maxid ≤ 0 keeps exactly the first row -/
theorem idFilterText_keeps_first_at_zero (maxid : ℚ) (hm : maxid ≤ 0) (rows : List Row) (hne : rows ≠ []) :
    idFilterText maxid rows = [0] := by
  obtain ⟨n, hn⟩ : ∃ n, rows.length = n + 1 := ⟨rows.length - 1, by have := List.length_pos_iff.mpr hne; omega⟩
  unfold idFilterText
  rw [hn, List.range_succ_eq_map]
  exact idFilterOrder_at_zero _ _ hm _ _ _

/-- at maxid ≤ 0 there is exactly one cluster and it holds all N rows, so every BLOSUM weight is 1 -/
theorem blosum_all_one_at_zero (m : Mode) (maxid : ℚ) (hm : maxid ≤ 0) (rows : List Row) (hn : 2 ≤ rows.length) (i : Nat)
    (hi : i < rows.length) (hi' : i < (blosum m maxid rows).length) : (blosum m maxid rows)[i] = 1 := by
  obtain ⟨c, hc, hcl⟩ := (msaSingleLinkage_isPartition m maxid rows).one_cluster (by omega)
    (msaSingleLinkage_one_cluster_at_zero m maxid hm rows)
  have hci : clusterIndex (msaSingleLinkage m maxid rows) i = 0 := by
    have := (msaSingleLinkage_isPartition m maxid rows).index_lt hi
    rw [hc] at this ⊢
    simp only [List.length_cons, List.length_nil] at this; omega
  rw [blosum_getElem m maxid rows (by omega) i hi hi', hci, hc]
  have hne : ((rows.length : ℕ) : ℚ) ≠ 0 := by exact_mod_cast (by omega : rows.length ≠ 0)
  simp [hcl, hne]

/-- `esl_msaweight_IDFilter(_adv)` (digital mode, any preference vector) at maxid ≤ 0 keeps exactly one row: the one
    `esl_quicksort` ranks first -/
theorem idFilterDigital_keeps_top_at_zero (abc : Abc) (maxid : ℚ) (hm : maxid ≤ 0) (sortwgt : List ℚ) (rows : List Row)
    (hne : rows ≠ []) :
    idFilterDigital abc maxid sortwgt rows = [(quicksort (cmpDecreasing sortwgt) rows.length).getD 0 0] := by
  unfold idFilterDigital
  cases hq : quicksort (cmpDecreasing sortwgt) rows.length with
  | nil =>
    have := (quicksort_permutation (cmpDecreasing sortwgt) rows.length).length_eq
    rw [hq] at this
    have := List.length_pos_iff.mpr hne
    simp at *; omega
  | cons x rest => exact idFilterOrder_at_zero _ _ hm _ _ _

/-! non-vacuity of the hypotheses of the theorems of this section -/
example : (∀ x ∈ ([45, 46, 126] : Row), JCMode.text.ok x = false) ∧
    (∀ x ∈ ([4, 16, 17, 15] : Row), (JCMode.digital Abc.dna).ok x = false) := by decide
example : (∀ a ∈ ([[45, 45], [46, 126]] : List Row), a.length = 2) ∧
    (∀ a ∈ ([[45, 45], [46, 126]] : List Row), lenSpec Mode.text a = 0) := by decide
example : (1 : Nat) ∉ idFilterAdv (α := ℚ) Abc.amino { minspan := 0, rule := fun _ _ => true } (fun m _ => List.range m)
    .origorder (1/2) none [[0, 0, 0], [20, 0, 20]] := by decide +kernel
example : (Link.upgma).isLinkage = false ∧ (Link.wpgma).isLinkage = false ∧ (Link.single).isLinkage = true := by decide
example : unalignedVisited [[65], [65, 67], [71]] (visitedPairs 3 10 []) = true ∧
    unalignedVisited [[65], [65, 67], [71]] (visitedPairs 3 1 [(0, 2)]) = false := by decide

/-! ## can a better TIE RULE in `cluster_engine` repair the two GSC findings? No.

  `gscWith pick` = `esl_msaweight_GSC` with the minimum search of `cluster_engine` replaced by `pick`, ANY function of the
  whole engine state (distance matrix, cluster sizes, heights, position table, tree so far) that returns a pair of matrix
  positions at minimum distance (`TieRule`). -/

/-- the family contains the code: the first-minimum rule is a tie rule and `gscWith firstMin` is `esl_msaweight_GSC` -/
theorem gsc_tieRule_family_contains_code (m : Mode) (rows : List Row) (hne : rows ≠ []) :
    TieRule firstMin ∧ gscWith firstMin m rows = gsc (α := ℚ) m rows :=
  ⟨firstMin_tieRule, gscWith_firstMin m rows hne⟩

/-- where no pass of UPGMA ties, every tie rule returns the weights of the code (so the positive theorems
    `gsc_relisting_tie_free`, `gsc_identical_rows_tie_free` are about every rule, and a rule can matter at ties only) -/
theorem gsc_tieRule_irrelevant_without_ties (pick : KState ℚ → Nat × Nat) (hp : TieRule pick) (m : Mode)
    (rows : List Row) (hne : rows ≠ []) (htf : TieFree m rows) : gscWith pick m rows = gsc (α := ℚ) m rows :=
  gscWith_eq_gsc_of_tieFree pick hp m rows hne htf

/-- GSC weights are N numbers ≥ 0 summing to N WHATEVER pair each pass of `cluster_engine` joins (`pick` is unconstrained: it
    need not even return a minimum). So sum and non-negativity also hold along the decisions the binary64 code takes at
    ties and near-ties, where rounding may make it leave the exact-arithmetic run (`gsc_sum_nonneg` is the instance
    `firstMin`). The reason is the clamp `ESL_MAX(0., height − child height)`: branch lengths are ≥ 0 in any join order. -/
theorem gsc_sum_nonneg_any_join_order (pick : KState ℚ → Nat × Nat) (m : Mode) (rows : List Row) (hne : rows ≠ []) :
    (gscWith pick m rows).length = rows.length ∧ (gscWith pick m rows).sum = rows.length ∧
      ∀ w ∈ gscWith pick m rows, 0 ≤ w := by
  have hl : 0 < rows.length := List.length_pos_iff.mpr hne
  unfold gscWith
  by_cases h1 : (rows.length == 1) = true
  · rw [if_pos h1]
    have : rows.length = 1 := by simpa using h1
    simp [this]
  · rw [if_neg h1]
    have hinv : KInv (crun pick rows.length (kinit (α := ℚ) m rows) (rows.length - 1)) :=
      crun_inv pick _ _ ⟨kinit_RowsNN m rows, by intro nd hnd; simp [kinit] at hnd⟩ _
    exact ⟨gscTree_length _ _, gscTree_sum _ _ hl, gscTree_nonneg _ _ hinv.nodes⟩

/-- NO tie rule makes the GSC weights follow the rows under relisting, not even on alignments whose rows are pairwise
    different: for every rule, `AAAA, AABB, BBBB` listed in reverse does not get the reversed weights (the reversed
    alignment has the same distance matrix entry for entry, so a deterministic rule returns the same weight vector — either
    15/16, 15/16, 9/8 or 9/8, 15/16, 15/16 — while the outer rows have exchanged places). A repair of the findings
    `C16:gsc:*` therefore cannot be a tie-breaking rule for pairwise joins (by taxon index, cluster size, …); it needs
    simultaneous joins of all tied clusters, i.e. another clustering algorithm and a non-binary tree. -/
theorem gsc_no_tieRule_is_relisting_invariant :
    ¬ ∃ pick : KState ℚ → Nat × Nat, TieRule pick ∧
      ∀ (m : Mode) (rows : List Row) (p : List Nat), p.Perm (List.range rows.length) →
        (∀ i j, i < j → j < rows.length → rows.getD i [] ≠ rows.getD j []) →
        gscWith pick m (p.map fun i => rows.getD i []) = p.map (fun i => (gscWith pick m rows).getD i 0) := by
  rintro ⟨pick, hp, h⟩
  exact tieRule_fails_on_witness pick hp (h Mode.text tw0 [2, 1, 0] (by decide) tw0_distinct)

/-- non-vacuity of `TieRule` beyond the code's rule: "last minimum" differs from `firstMin` on the witness state -/
example : MinPair tS0 (0, 1) ∧ MinPair tS0 (1, 2) ∧ firstMin tS0 = (0, 1) := by
  refine ⟨⟨by decide, by decide +kernel, ?_⟩, ⟨by decide, by decide +kernel, ?_⟩, by decide +kernel⟩ <;>
  · intro r c hrc hc
    have hs : tS0.act.size = 3 := by decide +kernel
    rw [hs] at hc
    have : (r = 0 ∧ c = 1) ∨ (r = 0 ∧ c = 2) ∨ (r = 1 ∧ c = 2) := by omega
    rcases this with ⟨rfl, rfl⟩ | ⟨rfl, rfl⟩ | ⟨rfl, rfl⟩ <;> decide +kernel

/-! ## `esl_tree_Simulate` (takes the generator) never leaves its arrays, for every generator state

  The model `eSimulate` (`Weights/TreeOps.lean`, compared bit-exactly with the C code from `esl_randomness_Create(seed)`) is a
  fold of `simStep` over the draws (split time, active branch). The C code indexes `T->parent[node]`,
  `T->left/right/ld/rd[branchpapa[·]]`, `branchpapa/branchside[bidx | nactive-1 | nactive]` unchecked. -/

/-- every generator state: `esl_rnd_Roll(r, nactive)` names an active branch -/
theorem simulate_roll_names_active_branch (r : EaselModel.Random.Rng) (nactive fuel b : Nat) (r' : EaselModel.Random.Rng)
    (h : r.roll nactive fuel = some (b, r')) : b < nactive :=
  roll_lt r nactive fuel b r' h

/-- after any number k ≤ N-2 of turns with branch indices that name active branches: nactive = k+2 = node+1 ≤ N, all arrays
    keep their sizes, every active branch hangs off an existing node (`SimOK`) -/
theorem simulate_invariant (N : Nat) (hN : 2 ≤ N) (draws : List (ℚ × Nat)) (hlen : draws.length ≤ N - 2)
    (hd : drawsOK 2 draws) :
    SimOK N (draws.foldl (fun s x => simStep s x.1 x.2) (simInit N)) ∧
      (draws.foldl (fun s x => simStep s x.1 x.2) (simInit N)).nactive = 2 + draws.length :=
  simRun_ok draws (simInit_ok N hN) (by show 2 + draws.length ≤ N; omega) hd

/-- in such a state every index the next turn of `while (nactive < N)` uses is inside its array -/
theorem simulate_step_in_bounds {N : Nat} {s : SimSt ℚ} (h : SimOK N s) (hlt : s.nactive < N) {bidx : Nat}
    (hb : bidx < s.nactive) :
    s.node < s.T.parent.size ∧ bidx < s.papa.size ∧ bidx < s.side.size ∧
    s.papa.getD bidx 0 < s.T.left.size ∧ s.papa.getD bidx 0 < s.T.right.size ∧
    s.papa.getD bidx 0 < s.T.ld.size ∧ s.papa.getD bidx 0 < s.T.rd.size ∧
    s.nactive - 1 < s.papa.size ∧ s.nactive < s.papa.size ∧
    (∀ b, b < s.nactive - 1 → (s.papa.swapIfInBounds bidx (s.nactive - 1)).getD b 0 < s.T.ld.size) :=
  simStep_in_bounds h hlt hb

/-- and so is every index of the final loop that hangs the N taxa onto the N active branches -/
theorem simulate_finish_in_bounds {N : Nat} {s : SimSt ℚ} (h : SimOK N s) (hN : s.nactive = N) (b : Nat) (hb : b < N) :
    b < s.papa.size ∧ b < s.side.size ∧ s.papa.getD b 0 < s.T.left.size ∧ s.papa.getD b 0 < s.T.right.size ∧
      s.papa.getD b 0 < s.T.ld.size ∧ s.papa.getD b 0 < s.T.rd.size :=
  simFinish_in_bounds h hN b hb

/-- non-vacuity: N = 4, two turns (branch 1, then branch 2), and the tree that results -/
example : drawsOK (α := ℚ) 2 [(1/2, 1), (1/3, 2)] := ⟨by decide, by decide, trivial⟩
example : (eSimulate (α := ℚ) 4 [(1/2, 1), (1/3, 2)] (1/4)).left = #[0, -1, -2] ∧
    (eSimulate (α := ℚ) 4 [(1/2, 1), (1/3, 2)] (1/4)).right = #[1, 2, -3] ∧
    (eSimulate (α := ℚ) 4 [(1/2, 1), (1/3, 2)] (1/4)).parent = #[0, 0, 1] ∧
    (eSimulate (α := ℚ) 4 [(1/2, 1), (1/3, 2)] (1/4)).ld = #[13/12, 7/12, 1/4] ∧
    (eSimulate (α := ℚ) 4 [(1/2, 1), (1/3, 2)] (1/4)).rd = #[1/2, 1/3, 1/4] := by decide +kernel

/-- `esl_tree_Compare(T, T)` returns eslOK on every tree whose link tables agree (taxon children are found by
    `esl_tree_SetTaxaParents`, internal children have larger numbers and point back through `parent[]`) — whatever the branch
    lengths, numbering order among siblings, or size -/
theorem compare_self_ok (t : ETree ℚ) (h : LinksAgree t) : eCompare t t = true := eCompare_self t h

/-- non-vacuity: the simulated tree above has agreeing link tables -/
example : LinksAgree (eSimulate (α := ℚ) 4 [(1/2, 1), (1/3, 2)] (1/4)) := by
  intro g hg
  have hN : (eSimulate (α := ℚ) 4 [(1/2, 1), (1/3, 2)] (1/4)).N - 1 = 3 := by decide +kernel
  rw [hN] at hg
  have : g = 0 ∨ g = 1 ∨ g = 2 := by omega
  rcases this with rfl | rfl | rfl <;> (unfold ChildOK; decide +kernel)

/-! ## thresholds exactly AT an attained identity, over a rounded number carrier

  `Rd fl` = the model's number class with the division rounded by `fl`; `RoundingOK fl ε B`: `fl` monotone, exact at 0,
  within ε on [0,1], and 2·ε·B² < 1 (binary64 division: ε = 2⁻⁵³; that it is such a rounding is trusted). The threshold is
  `fl(p/q)`, 0 < q ≤ B, p ≤ q — e.g. the identity `(double) nid / (double) n` the code itself computed for some pair, or 0. -/

/-- the test `pid >= maxid` of the link callbacks and of both filters, evaluated with rounded quotients, links exactly the
    pairs whose EXACT identity reaches p/q — including the pair(s) whose identity IS p/q, and rows without residues (pid = 0,
    linked iff p = 0) -/
theorem threshold_linked_rounded_eq_exact {fl : ℚ → ℚ} {ε : ℚ} {B : Nat} (h : RoundingOK fl ε B) (m : Mode) (p q : Nat)
    (hq : 0 < q) (hqB : q ≤ B) (hp : p ≤ q) (a b : Row) (ha : a.length ≤ B) :
    linked (α := Rd fl) m ⟨fl ((p : ℚ) / q)⟩ a b = linked (α := ℚ) m ((p : ℚ) / q) a b :=
  linked_rd h m p q hq hqB hp a b ha

/-- hence `esl_msacluster_SingleLinkage` run with rounded quotients returns the clusters of the exact run: two rows share a
    cluster iff they are connected in the graph linking rows of EXACT identity ≥ p/q -/
theorem singleLinkage_rounded_threshold_components {fl : ℚ → ℚ} {ε : ℚ} {B : Nat} (h : RoundingOK fl ε B) (m : Mode)
    (p q : Nat) (hq : 0 < q) (hqB : q ≤ B) (hp : p ≤ q) (rows : List Row) (hB : ∀ r ∈ rows, r.length ≤ B) (u w : Nat)
    (hu : u < rows.length) (hw : w < rows.length) :
    clusterIndex (msaSingleLinkage (α := Rd fl) m ⟨fl ((p : ℚ) / q)⟩ rows) u =
        clusterIndex (msaSingleLinkage (α := Rd fl) m ⟨fl ((p : ℚ) / q)⟩ rows) w ↔
      Reach (fun v x => decide ((p : ℚ) / q ≤ pid (α := ℚ) m (rows.getD v []) (rows.getD x []))) rows.length u w := by
  rw [msaSingleLinkage_rd h m p q hq hqB hp rows hB]
  exact msaSingleLinkage_components m _ rows u w hu hw

/-- the identity filters (text: rows in order; digital / `_adv`: ANY order of trial) keep the same rows as the exact run -/
theorem idFilter_rounded_threshold {fl : ℚ → ℚ} {ε : ℚ} {B : Nat} (h : RoundingOK fl ε B) (m : Mode) (p q : Nat)
    (hq : 0 < q) (hqB : q ≤ B) (hp : p ≤ q) (rows : List Row) (hB : ∀ r ∈ rows, r.length ≤ B) :
    (∀ order, idFilterOrder (α := Rd fl) m ⟨fl ((p : ℚ) / q)⟩ rows order = idFilterOrder (α := ℚ) m ((p : ℚ) / q) rows order) ∧
    idFilterText (α := Rd fl) ⟨fl ((p : ℚ) / q)⟩ rows = idFilterText (α := ℚ) ((p : ℚ) / q) rows :=
  ⟨fun order => idFilterOrder_rd h m p q hq hqB hp rows hB order,
   idFilterOrder_rd h Mode.text p q hq hqB hp rows hB _⟩

/-- the clusters behind the BLOSUM weights are those of the exact run; each weight is then 1/|cluster| rounded once, normalised -/
theorem blosum_rounded_threshold_clusters {fl : ℚ → ℚ} {ε : ℚ} {B : Nat} (h : RoundingOK fl ε B) (m : Mode) (p q : Nat)
    (hq : 0 < q) (hqB : q ≤ B) (hp : p ≤ q) (rows : List Row) (hB : ∀ r ∈ rows, r.length ≤ B) :
    blosum (α := Rd fl) m ⟨fl ((p : ℚ) / q)⟩ rows =
      if rows.length == 1 then [WNum.ofNat 1] else
      normalizeToN ((assignment (msaSingleLinkage (α := ℚ) m ((p : ℚ) / q) rows) rows.length).map fun c =>
        (WNum.ofNat 1 : Rd fl) / WNum.ofNat ((clusterSizes (assignment (msaSingleLinkage (α := ℚ) m ((p : ℚ) / q) rows) rows.length)
          (msaSingleLinkage (α := ℚ) m ((p : ℚ) / q) rows).length).getD c 0)) := by
  unfold blosum
  rw [msaSingleLinkage_rd h m p q hq hqB hp rows hB]

/-- non-vacuity: a lossy rounding (every quotient shrunk by the relative amount 2⁻²⁰) meets the hypotheses for alignments
    up to 400 columns; and at the threshold 2/3 = the identity of rows 0,1 the rounded run links them -/
example : RoundingOK flRel (1 / 1048576) 400 := flRel_ok
example : linked (α := Rd flRel) Mode.text ⟨flRel ((2 : ℕ) / (3 : ℕ))⟩ [65, 67, 45, 97] [97, 71, 45, 65] = true := by
  rw [linked_rd flRel_ok Mode.text 2 3 (by decide) (by decide) (by decide) _ _ (by decide)]
  decide +kernel

/-! ## `esl_tree_ToDistanceMatrix` returns the path metric of the tree

  `TreePath t a b w` (Weights/PathMetric.lean) specifies path length between internal nodes without reference to the
  algorithm: 0 from a node to itself; if a is not an ancestor-or-self of b the path starts with the branch above a; likewise
  for b. `ParentsSmaller`: Easel's numbering (root 0, parents numbered before their children — what `cluster_engine`,
  `esl_tree_Simulate` and `esl_tree_RenumberNodes` produce). -/

/-- every entry (i, j) of the matrix is defined (the unbounded `while (a != b)` loop ends) and equals the two terminal
    branches plus the length of a tree path between the two parent nodes -/
theorem toDistanceMatrix_is_path_metric {t : ETree ℚ} (h : ParentsSmaller t) (tp : Array Int) (i j : Nat)
    (hi : (tp.getD i 0).toNat < t.N) (hj : (tp.getD j 0).toNat < t.N) :
    ∃ w, TreePath t (tp.getD i 0).toNat (tp.getD j 0).toNat w ∧
      eDist t tp i j = some
        ((if t.l (tp.getD i 0).toNat == -(i : Int) then t.dl (tp.getD i 0).toNat else t.dr (tp.getD i 0).toNat) +
         (if t.l (tp.getD j 0).toNat == -(j : Int) then t.dl (tp.getD j 0).toNat else t.dr (tp.getD j 0).toNat) + w) := by
  have hs := eLca_terminates h (2 * t.N) (tp.getD i 0).toNat (tp.getD j 0).toNat
    ((if t.l (tp.getD i 0).toNat == -(i : Int) then t.dl (tp.getD i 0).toNat else t.dr (tp.getD i 0).toNat) +
     (if t.l (tp.getD j 0).toNat == -(j : Int) then t.dl (tp.getD j 0).toNat else t.dr (tp.getD j 0).toNat)) (by omega)
  obtain ⟨r, hr⟩ := Option.isSome_iff_exists.mp hs
  obtain ⟨w, hw, e⟩ := eLca_path h _ _ _ _ _ hr
  refine ⟨w, hw, ?_⟩
  unfold eDist
  simp only
  rw [hr, e]

/-- the LCA loop by itself: whatever it returns is the start value plus a tree-path length, and it returns for a + b < fuel -/
theorem lcaLoop_path_and_terminates {t : ETree ℚ} (h : ParentsSmaller t) (fuel a b : Nat) (d : ℚ) :
    (∀ r, eLca t fuel a b d = some r → ∃ w, TreePath t a b w ∧ r = d + w) ∧
    (a + b < fuel → (eLca t fuel a b d).isSome = true) :=
  ⟨fun r hr => eLca_path h fuel a b d r hr, eLca_terminates h fuel a b d⟩

/-- non-vacuity: the 4-taxon simulated tree of the example above is numbered parents-first; taxa 0 and 3 are 13/6 apart
    (both at depth 13/12 below the root, which is their last common ancestor) -/
def exT : ETree ℚ := ⟨4, #[0, -1, -2], #[1, 2, -3], #[0, 0, 1], #[13/12, 7/12, 1/4], #[1/2, 1/3, 1/4]⟩
example : ParentsSmaller exT := by
  refine ⟨by decide +kernel, ?_⟩
  intro v hv
  by_cases h3 : v < 3
  · have : v = 1 ∨ v = 2 := by omega
    rcases this with rfl | rfl <;> decide +kernel
  · have : exT.p v = 0 := by
      unfold ETree.p
      rw [Array.getD_eq_getD_getElem?, Array.getElem?_eq_none (by show 3 ≤ v; omega)]; rfl
    omega
example : eDist exT (eTaxaParents exT) 0 3 = some (13/6) ∧ eDist exT (eTaxaParents exT) 2 3 = some (1/2) := by decide +kernel

end EaselModel.Props.C16
