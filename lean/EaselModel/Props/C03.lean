import EaselModel.Core.ListLookup
import EaselModel.Msafile.AfaLemmas
import EaselModel.Msafile.AfaWritable
import EaselModel.Msafile.AfaIdem
import EaselModel.Msafile.Digitize
import EaselModel.Msafile.PhylipWritable
import EaselModel.Msafile.PhylipIdem
import EaselModel.Msafile.PhylipLemmas
import EaselModel.Msafile.WriteLemmas
import EaselModel.Msafile.StoWritable
import EaselModel.Msafile.StockholmLemmas
import EaselModel.Msafile.SelexWritable
import EaselModel.Msafile.SelexLemmas
import EaselModel.Msafile.A2mLemmas
import EaselModel.Msafile.A2mWritable
import EaselModel.Msafile.ClustalIdem
import EaselModel.Msafile.ClustalLemmas
import EaselModel.Msafile.PsiblastIdem
import EaselModel.Msafile.PsiblastLemmas
import EaselModel.Msafile.GuessWritten
import EaselModel.Msafile.GuessLemmas
import EaselModel.Msafile.SelexAnnRoundTrip
import EaselModel.Msafile.StoIdem
import EaselModel.Msafile.A2mReadDomain
import EaselModel.Msafile.AfaReadDomain
import EaselModel.Msafile.ClustalReadDomain
import EaselModel.Msafile.PsiblastReadDomain
import EaselModel.Msafile.PhylipReadDomain
import EaselModel.Msafile.StoTokens
import EaselModel.Msafile.StoFirstMention
import EaselModel.Msafile.GuessPhylip
import EaselModel.Msafile.StoNumRoundTrip
import EaselModel.Msafile.ConfigFacts
/-! # C03 — writing an alignment and reading it back preserves it

Full statement (properties.jsonl): for every well-formed alignment, writing it in any of the ten formats and reading the
output back (declared or autodetected format, text or digital) yields an alignment equal to the original in everything
the format can represent; output is deterministic, accepted by the reader, and re-writing the re-read alignment
reproduces the same bytes.

For each format `XTextWritable` / `XDigitalWritable` say which alignments it can carry (of ANY size; digital mode with the
generated amino/DNA/RNA alphabets) and `xProject` what it represents of them; the theorems are `read (write m) = ok (xProject m)`
with nothing left unread, acceptance, and `write (read (write m)) = write m`. -/
namespace EaselModel.Props.C03
open EaselModel.Msafile

/-- how every `*_write_accepted` theorem follows from its round trip: the reader's result is `Good` whatever the input, the
    round trip says it is `.ok` with nothing left over, and on no input at all the reader answers eslEOF -/
theorem accepted_of_roundtrip {read : List Bytes → Res Msa × List Bytes} {L : List Bytes} {p : Msa}
    (hr : read L = (.ok p, [])) (hg : ∀ L, Good (read L).1) (heof : (read []).1 = .eof) :
    (∃ m', (read L).1 = .ok m' ∧ m'.wellFormed = true) ∧ (read (read L).2).1 = .eof := by
  have hp := hg L
  rw [hr] at hp ⊢
  exact ⟨⟨p, rfl, hp⟩, heof⟩

theorem storedRows_getD (m : Msa) (h : m.digital = false) (i : Nat) (hi : i < m.nseq) :
    ((List.range m.nseq).map m.stored).getD i [] = m.aseq.getD i [] := m.storedRows_text h i hi

/-! ## aligned FASTA

`AfaTextWritable` / `AfaDigitalWritable` say what AFA can carry: ≥ 1 sequence, ≥ 1 column, names without blank/tab/NUL,
descriptions that do not start with a blank and hold no NUL, no LF inside / CR at the end of a name line, no separate
accessions (AFA prints them into the description), text residues graphic and not '>', digital rows well formed.
`afaProject` is what AFA represents: names, rows, descriptions, default weights. -/

/-- the writer is a function of the alignment (no hidden state, no dependence on anything else) -/
theorem afa_write_deterministic (abc : Option Abc) (m₁ m₂ : Msa) (h : m₁ = m₂) : afaWrite abc m₁ = afaWrite abc m₂ := by rw [h]

theorem afaDigSymOk_of (a : Abc) (ha : a = abcAmino ∨ a = abcDna ∨ a = abcRna) : afaDigSymOk a = true :=
  afaDigSymOk_of_wf (wf_std ha)

/-- **AFA round trip, text mode**: `read (write m) = ok (project m)`, nothing left unread -/
theorem afa_roundtrip_text (m : Msa) (h : AfaTextWritable m) :
    afaRead (afaCfg none) (splitLines (afaWrite none m)) = (.ok (afaProject (afaCfg none) m), []) :=
  afaRead_write none (afaCfg none) id m (afaTextWritable_writable m h)

/-- **AFA round trip, digital mode** (amino, DNA, RNA): the digital rows come back code for code, sentinels included -/
theorem afa_roundtrip_digital (a : Abc) (ha : a = abcAmino ∨ a = abcDna ∨ a = abcRna) (m : Msa) (h : AfaDigitalWritable a m) :
    afaRead (afaCfg (some a)) (splitLines (afaWrite (some a) m)) = (.ok (afaProject (afaCfg (some a)) m), []) := by
  have hs : afaDigSymOk a = true := afaDigSymOk_of a ha
  exact afaRead_write (some a) (afaCfg (some a)) (afaEnc a) m (afaDigitalWritable_writable a hs m h)

/-- the general form both are instances of (any alphabet / input map for which written symbols map back) -/
theorem afa_roundtrip (abc : Option Abc) (cfg : Cfg) (enc : UInt8 → UInt8) (m : Msa) (h : AfaWritable abc cfg enc m) :
    afaRead cfg (splitLines (afaWrite abc m)) = (.ok (afaProject cfg m), []) :=
  afaRead_write abc cfg enc m h

/-- library-written AFA output is accepted by the reader, holds exactly one alignment (the next read is eslEOF), and the
    alignment read back is well formed -/
theorem afa_write_accepted (m : Msa) (h : AfaTextWritable m) :
    (∃ m', (afaRead (afaCfg none) (splitLines (afaWrite none m))).1 = .ok m' ∧ m'.wellFormed = true) ∧
    (afaRead (afaCfg none) (afaRead (afaCfg none) (splitLines (afaWrite none m))).2).1 = .eof :=
  accepted_of_roundtrip (afa_roundtrip_text m h) (afaRead_good _ (afaCfg_valid abcOk_none)) (by simp [afaRead, runLines, afaFinish])

theorem afa_preserves_names_rows (m : Msa) (h : AfaTextWritable m) :
    (afaProject (afaCfg none) m).names = m.names ∧ (afaProject (afaCfg none) m).alen = m.alen ∧
    ∀ i, i < m.nseq → (afaProject (afaCfg none) m).aseq.getD i [] = m.aseq.getD i [] :=
  ⟨rfl, rfl, storedRows_getD m h.dig⟩

/-- **re-writing the re-read alignment reproduces the same bytes** (text mode): `write (read (write m)) = write m` -/
theorem afa_rewrite_same_text (m : Msa) (h : AfaTextWritable m) :
    ∃ m', (afaRead (afaCfg none) (splitLines (afaWrite none m))).1 = .ok m' ∧ afaWrite none m' = afaWrite none m :=
  ⟨afaProject (afaCfg none) m, by rw [afa_roundtrip_text m h], afaWrite_project_text m h⟩

theorem afa_rewrite_same_digital (a : Abc) (ha : a = abcAmino ∨ a = abcDna ∨ a = abcRna) (m : Msa) (h : AfaDigitalWritable a m) :
    ∃ m', (afaRead (afaCfg (some a)) (splitLines (afaWrite (some a) m))).1 = .ok m' ∧ afaWrite (some a) m' = afaWrite (some a) m := by
  have hs : afaDigSymOk a = true := afaDigSymOk_of a ha
  exact ⟨afaProject (afaCfg (some a)) m, by rw [afa_roundtrip_digital a ha m h], afaWrite_project_digital a hs m h⟩

/-- names "a", "bb"; rows "AC-GT", "ACGTT"; description "d e" on the first -/
def exMsa : Msa :=
  { alen := 5, names := [[97], [98, 98]], aseq := [[65, 67, 45, 71, 84], [65, 67, 71, 84, 84]],
    wgt := [.dflt, .dflt], sqdesc := some [some [100, 32, 101], none] }

example : afaRead (afaCfg none) (splitLines (afaWrite none exMsa)) = (.ok (afaProject (afaCfg none) exMsa), []) := by
  rw [afaCfg_text]
  decide +kernel
example : (afaProject (afaCfg none) exMsa).sqdesc = exMsa.sqdesc := by decide +kernel
example : afaWrite none (afaProject (afaCfg none) exMsa) = afaWrite none exMsa := by decide +kernel

/-! ## PHYLIP (sequential `phylips`, interleaved `phylip`)

`PhylipTextWritable` / `PhylipDigitalWritable` say what PHYLIP can carry through the strict reader (name width 10):
≥ 1 sequence, ≥ 1 column, `nseq`, `alen` ≤ INT32_MAX (the header is parsed by `esl_mem_strtoi32`), names not empty and
made of graphic characters (no blank), text residues upper-case letters / `-` / `*` / `?` (the characters the writer's
rectification leaves alone and the text input map sends to themselves), digital rows well formed.
`phylipProject` is what PHYLIP represents: names CUT TO TEN CHARACTERS (`%-10.10s`), the aligned rows, default weights. -/

theorem phylip_write_deterministic (seq : Bool) (abc : Option Abc) (m₁ m₂ : Msa) (h : m₁ = m₂) :
    phylipWrite seq abc m₁ = phylipWrite seq abc m₂ := by rw [h]

/-- `" %d"` is read back by `esl_mem_strtoi32` -/
theorem phylip_strtoi32_natDec (n : Nat) (h1 : 1 ≤ n) (hn : n ≤ 2147483647) : strtoi32 (natDec n) = .ok (n : Int) :=
  strtoi32_natDec n h1 hn

theorem phyDigSymOk_of (a : Abc) (ha : a = abcAmino ∨ a = abcDna ∨ a = abcRna) : phyDigSymOk a = true :=
  phyDigSymOk_of_wf (wf_std ha)

theorem phylips_roundtrip_text (m : Msa) (h : PhylipTextWritable m) :
    phylipRead true (phylipCfg none) (splitLines (phylipWrite true none m)) = (.ok (phylipProject (phylipCfg none) m), []) :=
  phylipsRead_write none (phylipCfg none) id _ m (phylipTextWritable_writable m h)

theorem phylips_roundtrip_digital (a : Abc) (ha : a = abcAmino ∨ a = abcDna ∨ a = abcRna) (m : Msa) (h : PhylipDigitalWritable a m) :
    phylipRead true (phylipCfg (some a)) (splitLines (phylipWrite true (some a) m))
      = (.ok (phylipProject (phylipCfg (some a)) m), []) :=
  phylipsRead_write (some a) (phylipCfg (some a)) (phyEnc a) _ m (phylipDigitalWritable_writable a (phyDigSymOk_of a ha) m h)

theorem phylips_roundtrip (abc : Option Abc) (cfg : Cfg) (enc : UInt8 → UInt8) (txt : Nat → Bytes) (m : Msa)
    (h : PhylipWritable abc cfg enc txt m) :
    phylipRead true cfg (splitLines (phylipWrite true abc m)) = (.ok (phylipProject cfg m), []) :=
  phylipsRead_write abc cfg enc txt m h

theorem phylips_write_accepted (m : Msa) (h : PhylipTextWritable m) :
    (∃ m', (phylipRead true (phylipCfg none) (splitLines (phylipWrite true none m))).1 = .ok m' ∧ m'.wellFormed = true) ∧
    (phylipRead true (phylipCfg none) (phylipRead true (phylipCfg none) (splitLines (phylipWrite true none m))).2).1 = .eof :=
  accepted_of_roundtrip (phylips_roundtrip_text m h) (phylipRead_good true _ (phylipCfg_valid abcOk_none)) rfl

/-- **interleaved PHYLIP round trip, text mode** (first block with names, later blocks behind an empty line without) -/
theorem phylip_roundtrip_text (m : Msa) (h : PhylipTextWritable m) :
    phylipRead false (phylipCfg none) (splitLines (phylipWrite false none m)) = (.ok (phylipProject (phylipCfg none) m), []) :=
  phylipRead_write none (phylipCfg none) id _ m (phylipTextWritable_writable m h)

theorem phylip_roundtrip_digital (a : Abc) (ha : a = abcAmino ∨ a = abcDna ∨ a = abcRna) (m : Msa) (h : PhylipDigitalWritable a m) :
    phylipRead false (phylipCfg (some a)) (splitLines (phylipWrite false (some a) m))
      = (.ok (phylipProject (phylipCfg (some a)) m), []) :=
  phylipRead_write (some a) (phylipCfg (some a)) (phyEnc a) _ m (phylipDigitalWritable_writable a (phyDigSymOk_of a ha) m h)

theorem phylip_roundtrip (abc : Option Abc) (cfg : Cfg) (enc : UInt8 → UInt8) (txt : Nat → Bytes) (m : Msa)
    (h : PhylipWritable abc cfg enc txt m) :
    phylipRead false cfg (splitLines (phylipWrite false abc m)) = (.ok (phylipProject cfg m), []) :=
  phylipRead_write abc cfg enc txt m h

theorem phylip_write_accepted (m : Msa) (h : PhylipTextWritable m) :
    (∃ m', (phylipRead false (phylipCfg none) (splitLines (phylipWrite false none m))).1 = .ok m' ∧ m'.wellFormed = true) ∧
    (phylipRead false (phylipCfg none) (phylipRead false (phylipCfg none) (splitLines (phylipWrite false none m))).2).1 = .eof :=
  accepted_of_roundtrip (phylip_roundtrip_text m h) (phylipRead_good false _ (phylipCfg_valid abcOk_none)) rfl

theorem phylip_rewrite_same_text (seq : Bool) (m : Msa) (h : PhylipTextWritable m) :
    ∃ m', (phylipRead seq (phylipCfg none) (splitLines (phylipWrite seq none m))).1 = .ok m' ∧
      phylipWrite seq none m' = phylipWrite seq none m := by
  refine ⟨phylipProject (phylipCfg none) m, ?_, phylipWrite_project_text seq m h⟩
  cases seq
  · rw [phylip_roundtrip_text m h]
  · rw [phylips_roundtrip_text m h]

theorem phylip_rewrite_same_digital (seq : Bool) (a : Abc) (ha : a = abcAmino ∨ a = abcDna ∨ a = abcRna) (m : Msa)
    (h : PhylipDigitalWritable a m) :
    ∃ m', (phylipRead seq (phylipCfg (some a)) (splitLines (phylipWrite seq (some a) m))).1 = .ok m' ∧
      phylipWrite seq (some a) m' = phylipWrite seq (some a) m := by
  refine ⟨phylipProject (phylipCfg (some a)) m, ?_, phylipWrite_project_digital seq a m h⟩
  cases seq
  · rw [phylip_roundtrip_digital a ha m h]
  · rw [phylips_roundtrip_digital a ha m h]

/-- what PHYLIP preserves: names up to ten characters, and the aligned rows exactly -/
theorem phylip_preserves_names_rows (m : Msa) (h : PhylipTextWritable m) :
    (phylipProject (phylipCfg none) m).names = m.names.map (·.take 10) ∧ (phylipProject (phylipCfg none) m).alen = m.alen ∧
    ∀ i, i < m.nseq → (phylipProject (phylipCfg none) m).aseq.getD i [] = m.aseq.getD i [] :=
  ⟨phylipProject_names _ m, rfl, storedRows_getD m h.dig⟩

/-! ### non-vacuity: 2 sequences, 61 columns (two lines per sequence), one name longer than ten characters -/

def exPhy : Msa :=
  { alen := 61, names := [[115, 101, 113, 49], [97, 98, 99, 100, 101, 102, 103, 104, 105, 106, 107, 108]],
    aseq := [List.replicate 30 65 ++ [45] ++ List.replicate 30 67, List.replicate 60 71 ++ [63]],
    wgt := [.dflt, .dflt] }

theorem exPhy_writable : PhylipTextWritable exPhy :=
  { dig := rfl, n1 := by decide, alen1 := by decide, nmax := by decide, amax := by decide
    name_ok := by unfold phyNameOk; decide +kernel
    row_ok := by decide +kernel }

example : phylipRead true (phylipCfg none) (splitLines (phylipWrite true none exPhy))
    = (.ok (phylipProject (phylipCfg none) exPhy), []) := phylips_roundtrip_text exPhy exPhy_writable
example : phylipRead false (phylipCfg none) (splitLines (phylipWrite false none exPhy))
    = (.ok (phylipProject (phylipCfg none) exPhy), []) := phylip_roundtrip_text exPhy exPhy_writable
example : (phylipProject (phylipCfg none) exPhy).names = [[115, 101, 113, 49], [97, 98, 99, 100, 101, 102, 103, 104, 105, 106]] := by
  decide +kernel

/-- the same alignment digitised with the DNA alphabet (A=0 C=1 G=2 gap=4 missing=17) -/
def exPhyDna : Msa :=
  { digital := true, kp := 18, alen := 61, names := exPhy.names,
    ax := [255 :: (List.replicate 30 0 ++ [4] ++ List.replicate 30 1) ++ [255], 255 :: (List.replicate 60 2 ++ [17]) ++ [255]],
    wgt := [.dflt, .dflt] }

theorem exPhyDna_writable : PhylipDigitalWritable abcDna exPhyDna :=
  { dig := rfl, n1 := by decide, alen1 := by decide, nmax := by decide, amax := by decide
    name_ok := by unfold phyNameOk; decide +kernel
    row_ok := by decide +kernel }

example : phylipRead false (phylipCfg (some abcDna)) (splitLines (phylipWrite false (some abcDna) exPhyDna))
    = (.ok (phylipProject (phylipCfg (some abcDna)) exPhyDna), []) :=
  phylip_roundtrip_digital abcDna (.inr (.inl rfl)) exPhyDna exPhyDna_writable
example : (phylipProject (phylipCfg (some abcDna)) exPhyDna).ax = exPhyDna.ax := by decide +kernel

/-! ## Stockholm / Pfam

Round trip through `stockholm_write` (`stockholmWrite pfam`, `pfam = true`: one block; `false`: 200-column blocks
separated by blank lines) and `esl_msafile_stockholm_Read`, for alignments of ANY size.
`StoTextWritable` / `StoDigitalWritable`: ≥ 1 sequence, ≥ 1 column, names pairwise distinct, non-empty, without
blank/tab/NUL/LF, not beginning with `#` nor `//`; text residues graphic; digital rows well formed; and the annotation is
what `StoAnn` admits (`StoPlain`, names and rows only, is the special case `StoPlain.ann`):
  * `#=GC SS_cons / SA_cons / PP_cons / RF / MM` (any subset): one character per column, none white space or NUL
    (`colTextOk`); they are written at the end of every block and wrapped with it;
  * `#=GF ID`, `#=GF AC`: one token, no blank/tab/NUL/LF, not ending in CR (`gfTokOk`);
    `#=GF DE`, `#=GF AU`: free text, may be empty and may hold blanks, does not BEGIN with blank/tab, no NUL/LF, not ending in
    CR (`gfTextOk`; trailing blanks ARE kept by the reader for #=GF);
  * comment lines: no NUL/LF, not beginning with white space (the reader strips it), not ending in CR, and `#`+comment not
    beginning with `#=GF`, `#=GS`, `#=GC`, `#=GR` (`comOk`); unparsed `#=GF` tags: the tag a token other than
    `ID AC DE AU GA NC TC`, the value free text (`gfTagOk`, `gfTextOk`); score cut-offs `GA NC TC`: finite values
    (`finiteF32`; `inf`/`nan` are printed and then rejected by the reader);
  * unparsed `#=GC <tag>` lines: tags pairwise distinct, tokens (non-empty, no blank/tab/NUL/LF) other than the five parsed
    tags (`gcTagOk`), text `colTextOk`;
  * `#=GR` per-residue annotation: `ss sa pp` and the unparsed tags `gr`, any subset of the sequences; an array that is present
    has `nseq` entries, at least one set; unparsed tags pairwise distinct tokens other than `SS SA PP` (`grTagOk`); text
    `colTextOk`; first-mention order = order of `m.gr` (`grOrderOk`);
  * `#=GS <seqname> AC` / `DE` / unparsed `<tag>`: `sqacc`, `sqdesc`, `gs`, any subset of the sequences, under the
    first-mention-order hypothesis `gsOrderOk` (the first `#=GS` kind written covers every sequence; `exStoGsBad` shows the
    hypothesis is needed); unparsed tags pairwise distinct tokens other than `WT AC DE` (`gsTagOk`), their values non-empty,
    free text, no line feed;
  * `#=GS <seqname> WT` weights: every printed weight `wgtTokOk` (`wgtTokOk_of_nonneg`: finite, sign bit clear); with weights
    `gsOrderOk` always holds (`gsOrderOk_of_hasw`).
`stoProject` = the alignment itself, every annotation field unchanged, with the rows in the reader's mode and, of weights and
cut-offs, which are set (`Wgt.val 0` for every sequence when `hasw`): their numeric VALUE is not in the reader model.
`stockholm_roundtrip_full` lists every field that comes back.
Not covered: multi-line `#=GS` values (with line feeds) and optional arrays without any entry.  The executable check covers
them too (field-by-field comparison on the real library, values included). -/

theorem stockholm_write_deterministic (pfam : Bool) (abc : Option Abc) (m₁ m₂ : Msa) (h : m₁ = m₂) :
    stockholmWrite pfam abc m₁ = stockholmWrite pfam abc m₂ := by rw [h]

theorem stoDigSymOk_of (a : Abc) (ha : a = abcAmino ∨ a = abcDna ∨ a = abcRna) : stoDigSymOk a = true :=
  stoDigSymOk_of_wf (wf_std ha)

/-- **Pfam round trip, text mode**: everything `stoProject` keeps, the annotation `StoTextWritable` admits (`StoAnn`) included -/
theorem pfam_roundtrip_plain_text (m : Msa) (h : StoTextWritable m) :
    stockholmRead (stockholmCfg none) (splitLines (stockholmWrite true none m)) = (.ok (stoProject (stockholmCfg none) m), []) :=
  stoRead_write true none (stockholmCfg none) id _ m (stoTextWritable_writable m h)

/-- **Pfam round trip, digital mode** (amino, DNA, RNA), annotation included -/
theorem pfam_roundtrip_plain_digital (a : Abc) (ha : a = abcAmino ∨ a = abcDna ∨ a = abcRna) (m : Msa) (h : StoDigitalWritable a m) :
    stockholmRead (stockholmCfg (some a)) (splitLines (stockholmWrite true (some a) m))
      = (.ok (stoProject (stockholmCfg (some a)) m), []) :=
  stoRead_write true (some a) (stockholmCfg (some a)) (stoEnc a) _ m (stoDigitalWritable_writable a (stoDigSymOk_of a ha) m h)

/-- **Stockholm round trip (200-column blocks), text mode**, annotation included -/
theorem stockholm_roundtrip_plain_text (m : Msa) (h : StoTextWritable m) :
    stockholmRead (stockholmCfg none) (splitLines (stockholmWrite false none m)) = (.ok (stoProject (stockholmCfg none) m), []) :=
  stoRead_write false none (stockholmCfg none) id _ m (stoTextWritable_writable m h)

/-- **Stockholm round trip (200-column blocks), digital mode**, annotation included -/
theorem stockholm_roundtrip_plain_digital (a : Abc) (ha : a = abcAmino ∨ a = abcDna ∨ a = abcRna) (m : Msa) (h : StoDigitalWritable a m) :
    stockholmRead (stockholmCfg (some a)) (splitLines (stockholmWrite false (some a) m))
      = (.ok (stoProject (stockholmCfg (some a)) m), []) :=
  stoRead_write false (some a) (stockholmCfg (some a)) (stoEnc a) _ m (stoDigitalWritable_writable a (stoDigSymOk_of a ha) m h)

theorem stockholm_roundtrip_plain (pfam : Bool) (abc : Option Abc) (cfg : Cfg) (enc : UInt8 → UInt8) (txt : Nat → Bytes) (m : Msa)
    (h : StoWritable abc cfg enc txt m) :
    stockholmRead cfg (splitLines (stockholmWrite pfam abc m)) = (.ok (stoProject cfg m), []) :=
  stoRead_write pfam abc cfg enc txt m h

/-- **annotated Stockholm/Pfam output is accepted**, general form: whatever `StoAnn` admits (comments, `#=GF`, `#=GC`, `#=GR`, `#=GS`
    `AC DE` and unparsed), the reader returns a well-formed alignment, holds exactly one alignment (nothing follows `//`: the
    next read is eslEOF) -/
theorem stockholm_ann_write_accepted_gen (pfam : Bool) (abc : Option Abc) (cfg : Cfg) (enc : UInt8 → UInt8) (txt : Nat → Bytes) (m : Msa)
    (hv : cfg.valid) (hni : cfg.inmap.noIgnore = true) (h : StoWritable abc cfg enc txt m) :
    (∃ m', (stockholmRead cfg (splitLines (stockholmWrite pfam abc m))).1 = .ok m' ∧ m'.wellFormed = true) ∧
    (stockholmRead cfg (stockholmRead cfg (splitLines (stockholmWrite pfam abc m))).2).1 = .eof :=
  accepted_of_roundtrip (read := stockholmRead cfg) (stockholm_roundtrip_plain pfam abc cfg enc txt m h) (stockholmRead_good cfg hv hni)
    (by simp [stockholmRead, runLines, stoFinish])

/-- library-written Stockholm/Pfam output is accepted, holds exactly one alignment (nothing follows `//`: the next read is
    eslEOF), and the alignment read back is well formed -/
theorem stockholm_write_accepted (pfam : Bool) (m : Msa) (h : StoTextWritable m) :
    (∃ m', (stockholmRead (stockholmCfg none) (splitLines (stockholmWrite pfam none m))).1 = .ok m' ∧ m'.wellFormed = true) ∧
    (stockholmRead (stockholmCfg none) (stockholmRead (stockholmCfg none) (splitLines (stockholmWrite pfam none m))).2).1 = .eof :=
  stockholm_ann_write_accepted_gen pfam none _ id _ m (stockholmCfg_valid abcOk_none) (stockholmCfg_noIgnore abcOk_none)
    (stoTextWritable_writable m h)

theorem stockholm_ann_write_accepted (pfam : Bool) (m : Msa) (h : StoTextWritable m) :
    (∃ m', (stockholmRead (stockholmCfg none) (splitLines (stockholmWrite pfam none m))).1 = .ok m' ∧ m'.wellFormed = true) ∧
    (stockholmRead (stockholmCfg none) (stockholmRead (stockholmCfg none) (splitLines (stockholmWrite pfam none m))).2).1 = .eof :=
  stockholm_write_accepted pfam m h

theorem stockholm_ann_write_accepted_digital (pfam : Bool) (a : Abc) (ha : a = abcAmino ∨ a = abcDna ∨ a = abcRna) (m : Msa)
    (h : StoDigitalWritable a m) :
    (∃ m', (stockholmRead (stockholmCfg (some a)) (splitLines (stockholmWrite pfam (some a) m))).1 = .ok m' ∧ m'.wellFormed = true) ∧
    (stockholmRead (stockholmCfg (some a)) (stockholmRead (stockholmCfg (some a)) (splitLines (stockholmWrite pfam (some a) m))).2).1
      = .eof := by
  have hok := (abcOk_std ha)
  exact stockholm_ann_write_accepted_gen pfam (some a) _ (stoEnc a) _ m (stockholmCfg_valid hok) (stockholmCfg_noIgnore hok)
    (stoDigitalWritable_writable a (stoDigSymOk_of a ha) m h)

theorem stockholm_preserves_names_rows (m : Msa) (h : StoTextWritable m) :
    (stoProject (stockholmCfg none) m).names = m.names ∧ (stoProject (stockholmCfg none) m).alen = m.alen ∧
    ∀ i, i < m.nseq → (stoProject (stockholmCfg none) m).aseq.getD i [] = m.aseq.getD i [] :=
  ⟨rfl, rfl, storedRows_getD m h.dig⟩

/-- with `#=GC` consensus lines and `#=GF ID/AC/DE/AU` the alignment read back is the
    alignment written, annotation included, in Pfam (one block) and in Stockholm (the consensus lines are cut at the same
    columns as the rows and re-assembled) -/
theorem stockholm_roundtrip_gc_gf (pfam : Bool) (abc : Option Abc) (cfg : Cfg) (enc : UInt8 → UInt8) (txt : Nat → Bytes) (m : Msa)
    (h : StoWritable abc cfg enc txt m) :
    stockholmRead cfg (splitLines (stockholmWrite pfam abc m)) = (.ok (stoProject cfg m), []) ∧
    (stoProject cfg m).ssCons = m.ssCons ∧ (stoProject cfg m).saCons = m.saCons ∧ (stoProject cfg m).ppCons = m.ppCons ∧
    (stoProject cfg m).rf = m.rf ∧ (stoProject cfg m).mm = m.mm ∧ (stoProject cfg m).name = m.name ∧
    (stoProject cfg m).acc = m.acc ∧ (stoProject cfg m).desc = m.desc ∧ (stoProject cfg m).au = m.au :=
  ⟨stoRead_write pfam abc cfg enc txt m h, rfl, rfl, rfl, rfl, rfl, rfl, rfl, rfl, rfl⟩

/-- **the whole header section**: comment lines, unparsed `#=GF` tags (in order, repeated tags kept apart) and
    the score cut-offs come back.  Of a cut-off the reader MODEL keeps whether it is set, not its value (the harness compares
    the values): what is set after the round trip is each first threshold that was set and each second threshold whose
    first was set too - `stockholm_write` prints `#=GF GA x y` or `#=GF GA x` and never a second threshold alone. -/
theorem stockholm_roundtrip_header (pfam : Bool) (abc : Option Abc) (cfg : Cfg) (enc : UInt8 → UInt8) (txt : Nat → Bytes) (m : Msa)
    (h : StoWritable abc cfg enc txt m) :
    stockholmRead cfg (splitLines (stockholmWrite pfam abc m)) = (.ok (stoProject cfg m), []) ∧
    (stoProject cfg m).comments = m.comments ∧ (stoProject cfg m).gf = m.gf ∧
    (stoProject cfg m).cutoff.map Option.isSome
      = (if (cutsetOf m).any id then cutsetOf m else []) ∧
    cutsetOf m = [(m.cutoff.getD 0 none).isSome, (m.cutoff.getD 0 none).isSome && (m.cutoff.getD 1 none).isSome,
                  (m.cutoff.getD 2 none).isSome, (m.cutoff.getD 2 none).isSome && (m.cutoff.getD 3 none).isSome,
                  (m.cutoff.getD 4 none).isSome, (m.cutoff.getD 4 none).isSome && (m.cutoff.getD 5 none).isSome] := by
  refine ⟨stoRead_write pfam abc cfg enc txt m h, rfl, rfl, ?_, cutsetOf_eq m⟩
  show (if (cutsetOf m).any id then (cutsetOf m).map (fun b => if b then some (0 : UInt32) else none) else []).map Option.isSome = _
  split
  · rw [List.map_map]
    conv => rhs; rw [← List.map_id (cutsetOf m)]
    apply List.map_congr_left
    intro b _; cases b <;> rfl
  · rfl

/-- **unparsed `#=GC <tag>` lines** (tags pairwise distinct tokens other than `SS_cons SA_cons PP_cons RF MM`, one
    non-blank, non-NUL character per column): written after the five parsed `#=GC` lines of every block and wrapped with it,
    the reader numbers the tags in the order of the first block and appends block by block; they come back in order -/
theorem stockholm_roundtrip_gc (pfam : Bool) (abc : Option Abc) (cfg : Cfg) (enc : UInt8 → UInt8) (txt : Nat → Bytes) (m : Msa)
    (h : StoWritable abc cfg enc txt m) :
    stockholmRead cfg (splitLines (stockholmWrite pfam abc m)) = (.ok (stoProject cfg m), []) ∧ (stoProject cfg m).gc = m.gc :=
  ⟨stoRead_write pfam abc cfg enc txt m h, rfl⟩

/-- **`#=GR` per-residue annotation**: `SS SA PP` (each an optional array, per sequence optional) and the unparsed
    tags `gr`, written behind the row of their sequence in every block and wrapped with it.  Admitted (`StoAnn`): an array
    that is present has one entry per sequence and at least one of them set (`per_ok`, `gr_tag_ok`, `gr_ne`: an all-absent
    array is not written, hence not read); unparsed tags pairwise distinct tokens other than `SS SA PP` (`grTagOk`); every string
    `colTextOk`; and `grOrderOk`: the reader numbers the unparsed tags in the order it meets them in the first block, which is the
    order of `m.gr` exactly when, wherever tag `t` annotates sequence `i`, every tag in front of `t` annotates a sequence `≤ i` -/
theorem stockholm_roundtrip_gr (pfam : Bool) (abc : Option Abc) (cfg : Cfg) (enc : UInt8 → UInt8) (txt : Nat → Bytes) (m : Msa)
    (h : StoWritable abc cfg enc txt m) :
    stockholmRead cfg (splitLines (stockholmWrite pfam abc m)) = (.ok (stoProject cfg m), []) ∧
    (stoProject cfg m).ss = m.ss ∧ (stoProject cfg m).sa = m.sa ∧ (stoProject cfg m).pp = m.pp ∧ (stoProject cfg m).gr = m.gr :=
  ⟨stoRead_write pfam abc cfg enc txt m h, rfl, rfl, rfl, rfl⟩

/-- **`#=GS` per-sequence annotation, everything but the weights**: accessions `sqacc`, descriptions
    `sqdesc` (each an optional array, per sequence optional) and the unparsed tags `gs`.  They are written in the header, in
    front of the first block, one kind after the other (`AC`, `DE`, then tag by tag); the reader numbers the sequences in the
    order it meets their names, so the rows come back in their order only under `gsOrderOk`: the first `#=GS` kind that is
    written at all is written for EVERY sequence (known finding C03:stockholm:first-mention-order, counter-example
    `exStoGsBad` below).  Admitted: an array that is present has `nseq` entries, at least one set (`gs_per_ok`, `gs_tag_ok`,
    `gs_ne`); accessions one token (`gfTokOk`); descriptions free text (`gfTextOk`, may be empty or hold blanks); unparsed tags
    pairwise distinct tokens other than `WT AC DE` (`gsTagOk`), their values non-empty free text without line feed (a value
    with line feeds is written as several lines and re-joined: not covered).
    Weights are not in this conclusion (`StoAnn` admits them; the reader MODEL keeps of a weight only whether it is set):
    `stockholm_roundtrip_gs` below states `hasw` / `wgt` under the same hypothesis. -/
theorem stockholm_roundtrip_gs_partial (pfam : Bool) (abc : Option Abc) (cfg : Cfg) (enc : UInt8 → UInt8) (txt : Nat → Bytes) (m : Msa)
    (h : StoWritable abc cfg enc txt m) :
    stockholmRead cfg (splitLines (stockholmWrite pfam abc m)) = (.ok (stoProject cfg m), []) ∧
    (stoProject cfg m).sqacc = m.sqacc ∧ (stoProject cfg m).sqdesc = m.sqdesc ∧ (stoProject cfg m).gs = m.gs ∧
    (stoProject cfg m).names = m.names :=
  ⟨stoRead_write pfam abc cfg enc txt m h, rfl, rfl, rfl, rfl⟩

/-- **`#=GS` with weights.**  `#=GS <seqname> WT <w>` lines (written for every sequence when
    `eslMSA_HASWGTS`, as the FIRST `#=GS` kind), then `AC`, `DE`, unparsed tags.  Hypotheses (`StoAnn`): every printed weight
    is `wgtTokOk` (one token `esl_mem_IsReal` accepts and `strtod` does not read as -1.0, the "unset" marker;
    `wgtTokOk_of_nonneg`: finite and sign bit clear suffices); `gsOrderOk` (with weights it holds for ANY sparse `AC/DE/tags`:
    `gsOrderOk_of_hasw`).  Of a weight the reader MODEL keeps whether it is set, not its value: `stoProject` has
    `wgt = Wgt.val 0` for every sequence when `hasw`, else the default weights (the harness compares the values). -/
theorem stockholm_roundtrip_gs (pfam : Bool) (abc : Option Abc) (cfg : Cfg) (enc : UInt8 → UInt8) (txt : Nat → Bytes) (m : Msa)
    (h : StoWritable abc cfg enc txt m) :
    stockholmRead cfg (splitLines (stockholmWrite pfam abc m)) = (.ok (stoProject cfg m), []) ∧
    (stoProject cfg m).hasw = m.hasw ∧
    (stoProject cfg m).wgt = (if m.hasw then List.replicate m.nseq (Wgt.val 0) else List.replicate m.nseq Wgt.dflt) ∧
    (stoProject cfg m).sqacc = m.sqacc ∧ (stoProject cfg m).sqdesc = m.sqdesc ∧ (stoProject cfg m).gs = m.gs ∧
    (stoProject cfg m).names = m.names :=
  ⟨stoRead_write pfam abc cfg enc txt m h, rfl, rfl, rfl, rfl, rfl, rfl⟩

/-- **Stockholm and Pfam preserve all of it**: names, rows, comments, `#=GF` parsed and unparsed, which cut-offs are set, `#=GC`
    parsed and unparsed, `#=GR SS SA PP` and unparsed, `#=GS WT AC DE` and unparsed - every annotation field comes back as it is;
    the numeric VALUE of weights and cut-offs is outside the reader model -/
theorem stockholm_roundtrip_full (pfam : Bool) (abc : Option Abc) (cfg : Cfg) (enc : UInt8 → UInt8) (txt : Nat → Bytes) (m : Msa)
    (h : StoWritable abc cfg enc txt m) :
    stockholmRead cfg (splitLines (stockholmWrite pfam abc m)) = (.ok (stoProject cfg m), []) ∧
    (stoProject cfg m).names = m.names ∧ (stoProject cfg m).alen = m.alen ∧
    (stoProject cfg m).name = m.name ∧ (stoProject cfg m).acc = m.acc ∧ (stoProject cfg m).desc = m.desc ∧ (stoProject cfg m).au = m.au ∧
    (stoProject cfg m).comments = m.comments ∧ (stoProject cfg m).gf = m.gf ∧
    (stoProject cfg m).ssCons = m.ssCons ∧ (stoProject cfg m).saCons = m.saCons ∧ (stoProject cfg m).ppCons = m.ppCons ∧
    (stoProject cfg m).rf = m.rf ∧ (stoProject cfg m).mm = m.mm ∧ (stoProject cfg m).gc = m.gc ∧
    (stoProject cfg m).ss = m.ss ∧ (stoProject cfg m).sa = m.sa ∧ (stoProject cfg m).pp = m.pp ∧ (stoProject cfg m).gr = m.gr ∧
    (stoProject cfg m).sqacc = m.sqacc ∧ (stoProject cfg m).sqdesc = m.sqdesc ∧ (stoProject cfg m).gs = m.gs ∧
    (stoProject cfg m).hasw = m.hasw ∧
    (stoProject cfg m).wgt = (if m.hasw then List.replicate m.nseq (Wgt.val 0) else List.replicate m.nseq Wgt.dflt) :=
  ⟨stoRead_write pfam abc cfg enc txt m h, rfl, rfl, rfl, rfl, rfl, rfl, rfl, rfl, rfl, rfl, rfl, rfl, rfl, rfl, rfl, rfl, rfl, rfl, rfl,
    rfl, rfl, rfl, rfl⟩

/-- **everything the theorems cover at once** (PARTIAL: all of the annotation except weights, see
    `stockholm_roundtrip_gs_partial`): names, rows, `#=GC` parsed and unparsed, `#=GF` parsed and unparsed, comments, which
    cut-offs are set, `#=GR SS SA PP` and unparsed, `#=GS AC DE` and unparsed come back; `stoProject` leaves every one of these
    fields as it is -/
theorem stockholm_roundtrip_full_partial (pfam : Bool) (abc : Option Abc) (cfg : Cfg) (enc : UInt8 → UInt8) (txt : Nat → Bytes) (m : Msa)
    (h : StoWritable abc cfg enc txt m) :
    stockholmRead cfg (splitLines (stockholmWrite pfam abc m)) = (.ok (stoProject cfg m), []) ∧
    (stoProject cfg m).names = m.names ∧ (stoProject cfg m).alen = m.alen ∧
    (stoProject cfg m).name = m.name ∧ (stoProject cfg m).acc = m.acc ∧ (stoProject cfg m).desc = m.desc ∧ (stoProject cfg m).au = m.au ∧
    (stoProject cfg m).comments = m.comments ∧ (stoProject cfg m).gf = m.gf ∧
    (stoProject cfg m).ssCons = m.ssCons ∧ (stoProject cfg m).saCons = m.saCons ∧ (stoProject cfg m).ppCons = m.ppCons ∧
    (stoProject cfg m).rf = m.rf ∧ (stoProject cfg m).mm = m.mm ∧ (stoProject cfg m).gc = m.gc ∧
    (stoProject cfg m).ss = m.ss ∧ (stoProject cfg m).sa = m.sa ∧ (stoProject cfg m).pp = m.pp ∧ (stoProject cfg m).gr = m.gr ∧
    (stoProject cfg m).sqacc = m.sqacc ∧ (stoProject cfg m).sqdesc = m.sqdesc ∧ (stoProject cfg m).gs = m.gs ∧
    (stoProject cfg m).hasw = m.hasw :=
  ⟨stoRead_write pfam abc cfg enc txt m h, rfl, rfl, rfl, rfl, rfl, rfl, rfl, rfl, rfl, rfl, rfl, rfl, rfl, rfl, rfl, rfl, rfl, rfl, rfl,
    rfl, rfl, rfl⟩

/-- **re-writing the re-read alignment reproduces the same bytes**, Stockholm and Pfam, general form: for ANY annotation
    (per-sequence `#=GS`/`#=GR` and unparsed tags included) as long as there are no weights and no cut-offs - the two fields
    whose numeric value the reader MODEL does not carry (with them the statement is about `strtod ∘ printf`, which the harness
    checks on the real library: `rw=same`) -/
theorem stockholm_rewrite_same (pfam : Bool) (abc : Option Abc) (cfg : Cfg) (m : Msa) (hw : m.hasw = false) (hc : m.cutoff = [])
    (hd : cfg.digital = m.digital) (ha : abc.isSome = m.digital) :
    stockholmWrite pfam abc (stoProject cfg m) = stockholmWrite pfam abc m :=
  stockholmWrite_project pfam abc cfg m hw hc hd ha

theorem stockholm_rewrite_same_text (pfam : Bool) (m : Msa) (h : StoTextWritable m) (hw : m.hasw = false) (hc : m.cutoff = []) :
    stockholmWrite pfam none (stoProject (stockholmCfg none) m) = stockholmWrite pfam none m :=
  stockholmWrite_project pfam none (stockholmCfg none) m hw hc (by rw [h.dig]; rfl) (by rw [h.dig]; rfl)

theorem stockholm_rewrite_same_digital (pfam : Bool) (a : Abc) (m : Msa) (h : StoDigitalWritable a m) (hw : m.hasw = false)
    (hc : m.cutoff = []) :
    stockholmWrite pfam (some a) (stoProject (stockholmCfg (some a)) m) = stockholmWrite pfam (some a) m :=
  stockholmWrite_project pfam (some a) (stockholmCfg (some a)) m hw hc (by rw [h.dig]; rfl) (by rw [h.dig]; rfl)

/-- `printf("%.1f")` of a finite single-precision value is a token the cut-off parser accepts (`esl_mem_IsReal`) -/
theorem cutoff_token_accepted (b : UInt32) (h : finiteF32 b) : memIsReal (fmtF1 b) = true := (fmtF1_realTok b h).real

/-- … and the hypothesis is needed: an infinite cut-off is printed as `inf`, which the reader rejects -/
example : fmtF1 0x7f800000 = str "inf" ∧ memIsReal (fmtF1 0x7f800000) = false := by decide +kernel

/-- names "a", "bb"; rows "AC-GT", "ACGTT" -/
def exSto : Msa :=
  { alen := 5, names := [[97], [98, 98]], aseq := [[65, 67, 45, 71, 84], [65, 67, 71, 84, 84]], wgt := [.dflt, .dflt] }

theorem exSto_plain : StoPlain exSto := by constructor <;> rfl

theorem exSto_writable : StoTextWritable exSto :=
  { dig := rfl, ann := exSto_plain.ann, n1 := by decide, alen1 := by decide, nodup := by decide
    name_ok := by decide +kernel
    row_ok := by decide +kernel }

example : stockholmRead (stockholmCfg none) (splitLines (stockholmWrite true none exSto))
    = (.ok (stoProject (stockholmCfg none) exSto), []) := pfam_roundtrip_plain_text exSto exSto_writable
example : stoProject (stockholmCfg none) exSto = exSto := by decide +kernel

/-- the same digitised with the DNA alphabet (A=0 C=1 G=2 T=3 gap=4) -/
def exStoDna : Msa :=
  { digital := true, kp := 18, alen := 5, names := exSto.names,
    ax := [[255, 0, 1, 4, 2, 3, 255], [255, 0, 1, 2, 3, 3, 255]], wgt := [.dflt, .dflt] }

theorem exStoDna_writable : StoDigitalWritable abcDna exStoDna :=
  { dig := rfl, ann := StoPlain.ann (by constructor <;> rfl), n1 := by decide, alen1 := by decide, nodup := by decide
    name_ok := by decide +kernel
    row_ok := by decide +kernel }

example : stockholmRead (stockholmCfg (some abcDna)) (splitLines (stockholmWrite true (some abcDna) exStoDna))
    = (.ok (stoProject (stockholmCfg (some abcDna)) exStoDna), []) :=
  pfam_roundtrip_plain_digital abcDna (.inr (.inl rfl)) exStoDna exStoDna_writable
example : (stoProject (stockholmCfg (some abcDna)) exStoDna).ax = exStoDna.ax := by decide +kernel

/-- 2 sequences, 201 columns: two Stockholm blocks (200 + 1) -/
def exSto201 : Msa :=
  { alen := 201, names := [[115, 49], [115, 50]],
    aseq := [List.replicate 100 65 ++ [45] ++ List.replicate 100 67, List.replicate 200 71 ++ [84]], wgt := [.dflt, .dflt] }

theorem exSto201_writable : StoTextWritable exSto201 :=
  { dig := rfl, ann := StoPlain.ann (by constructor <;> rfl), n1 := by decide, alen1 := by decide, nodup := by decide
    name_ok := by decide +kernel
    row_ok := by decide +kernel }

example : (blockStarts exSto201.alen (stoCpl false exSto201)).length = 2 := by decide +kernel
example : stockholmRead (stockholmCfg none) (splitLines (stockholmWrite false none exSto201))
    = (.ok (stoProject (stockholmCfg none) exSto201), []) := stockholm_roundtrip_plain_text exSto201 exSto201_writable

/-- 2 sequences, 201 columns (two Stockholm blocks) with `#=GC SS_cons`, `#=GC RF`, `#=GF ID`, `#=GF DE` ("a b"), two comment
    lines (the second empty), `#=GF TC 25.0 20.5`, `#=GF GA 21.0`, and the unparsed tags `CC` ("some text") and `DR` (empty) -/
def exStoAnn : Msa :=
  { exSto201 with ssCons := some (List.replicate 150 60 ++ List.replicate 51 62), rf := some (List.replicate 201 120),
                  name := some [105, 100], desc := some [97, 32, 98],
                  comments := [str "made by hand", []],
                  cutoff := [some 0x41C80000, some 0x41A40000, some 0x41A80000, none, none, none],
                  gf := [(str "CC", str "some text"), (str "DR", [])] }

theorem exStoAnn_writable : StoTextWritable exStoAnn :=
  { exSto201_writable with
    ann :=
      { exSto201_writable.ann with
        cons_ok := forall_getD_some (by decide +kernel)
        name_ok := by decide +kernel
        desc_ok := by decide +kernel
        cut_ok := forall_getD_some (by decide +kernel)
        com_ok := by decide +kernel
        gf_ok := by decide +kernel } }

example : stockholmRead (stockholmCfg none) (splitLines (stockholmWrite false none exStoAnn))
    = (.ok (stoProject (stockholmCfg none) exStoAnn), []) := stockholm_roundtrip_plain_text exStoAnn exStoAnn_writable
/-- everything comes back except the numeric value of the cut-offs, which the reader MODEL does not carry -/
example : { stoProject (stockholmCfg none) exStoAnn with cutoff := exStoAnn.cutoff } = exStoAnn := by decide +kernel
example : (stoProject (stockholmCfg none) exStoAnn).cutoff = [some 0, some 0, some 0, none, none, none] := by decide +kernel
example : (stockholmLines false none exStoAnn).take 10 =
    [str "# STOCKHOLM 1.0", str "#made by hand", str "#", [], str "#=GF ID id", str "#=GF DE a b", str "#=GF GA 21.0",
     str "#=GF TC 25.0 20.5", str "#=GF CC some text", str "#=GF DR "] := by
  repeat rw [str_ofList]
  decide +kernel

/-- 2 sequences, 201 columns (two blocks) with `#=GC RF` and the unparsed tags `#=GC csq` and `#=GC X` -/
def exStoGc : Msa :=
  { exSto201 with rf := some (List.replicate 201 120),
                  gc := [(str "csq", List.replicate 100 97 ++ List.replicate 101 98), (str "X", List.replicate 201 46)] }

theorem exStoGc_writable : StoTextWritable exStoGc :=
  { exSto201_writable with
    ann :=
      { exSto201_writable.ann with
        gc_ok := by decide +kernel
        gc_nodup := by decide +kernel
        cons_ok := forall_getD_some (by decide +kernel) } }

example : stockholmRead (stockholmCfg none) (splitLines (stockholmWrite false none exStoGc))
    = (.ok (stoProject (stockholmCfg none) exStoGc), []) := stockholm_roundtrip_plain_text exStoGc exStoGc_writable
example : stoProject (stockholmCfg none) exStoGc = exStoGc := by decide +kernel
example : (stockholmLines false none exStoGc).drop 2 =
    [str "s1       " ++ List.replicate 100 65 ++ [45] ++ List.replicate 99 67, str "s2       " ++ List.replicate 200 71,
     str "#=GC RF  " ++ List.replicate 200 120, str "#=GC csq " ++ List.replicate 100 97 ++ List.replicate 100 98,
     str "#=GC X   " ++ List.replicate 200 46, [],
     str "s1       C", str "s2       T", str "#=GC RF  x", str "#=GC csq b", str "#=GC X   .", str "//"] := by
  repeat rw [str_ofList]
  decide +kernel

/-- 2 sequences, 201 columns (two blocks): `#=GR SS` on the first sequence only, `#=GR PP` on the second only, the unparsed
    `#=GR` tags `tA` (both sequences) and `tB` (second sequence only), and `#=GC RF` -/
def exStoGr : Msa :=
  { exSto201 with rf := some (List.replicate 201 120),
                  ss := some [some (List.replicate 100 60 ++ List.replicate 101 62), none],
                  pp := some [none, some (List.replicate 201 57)],
                  gr := [(str "tA", [some (List.replicate 201 97), some (List.replicate 200 98 ++ [99])]),
                         (str "tB", [none, some (List.replicate 201 100)])] }

theorem exStoGr_writable : StoTextWritable exStoGr :=
  { exSto201_writable with
    ann :=
      { exSto201_writable.ann with
        per_ok := by decide +kernel
        gr_tag_ok := by decide +kernel
        gr_nodup := by decide +kernel
        gr_ne := by decide +kernel
        gr_order := by decide +kernel
        gr_col := grVal_forall (by decide +kernel) (by decide +kernel)
        cons_ok := forall_getD_some (by decide +kernel) } }

example : stockholmRead (stockholmCfg none) (splitLines (stockholmWrite false none exStoGr))
    = (.ok (stoProject (stockholmCfg none) exStoGr), []) := stockholm_roundtrip_plain_text exStoGr exStoGr_writable
example : stoProject (stockholmCfg none) exStoGr = exStoGr := by decide +kernel
example : (stockholmLines false none exStoGr).map (·.take 14) =
    [str "# STOCKHOLM 1.", [], str "s1         AAA", str "#=GR s1 SS <<<", str "#=GR s1 tA aaa", str "s2         GGG",
     str "#=GR s2 PP 999", str "#=GR s2 tA bbb", str "#=GR s2 tB ddd", str "#=GC RF    xxx", [], str "s1         C",
     str "#=GR s1 SS >", str "#=GR s1 tA a", str "s2         T", str "#=GR s2 PP 9", str "#=GR s2 tA c", str "#=GR s2 tB d",
     str "#=GC RF    x", str "//"] := by
  repeat rw [str_ofList]
  decide +kernel

/-- the hypothesis `grOrderOk` is needed too: `m.gr = [tA, tB]`, but `tB` annotates the first sequence and `tA` only the second;
    the reader meets `tB` first and returns the tags in the order `[tB, tA]` -/
def exStoGrBad : Msa :=
  { exSto with gr := [(str "tA", [none, some (str "11111")]), (str "tB", [some (str "22222"), none])] }

example : ¬ grOrderOk exStoGrBad := by decide +kernel
theorem exStoGrBad_read : stockholmRead (stockholmCfg none) (splitLines (stockholmWrite true none exStoGrBad))
    = (.ok { exStoGrBad with gr := [(str "tB", [some (str "22222"), none]), (str "tA", [none, some (str "11111")])] }, []) := by
  rw [stockholmCfg_text]
  decide +kernel
example : stockholmRead (stockholmCfg none) (splitLines (stockholmWrite true none exStoGrBad))
    = (.ok { stoProject (stockholmCfg none) exStoGrBad with
               gr := [(str "tB", [some (str "22222"), none]), (str "tA", [none, some (str "11111")])] }, []) := by
  rw [exStoGrBad_read]
  decide +kernel
example : stockholmRead (stockholmCfg none) (splitLines (stockholmWrite true none exStoGrBad))
    ≠ (.ok (stoProject (stockholmCfg none) exStoGrBad), []) := by
  rw [exStoGrBad_read]
  decide +kernel

/-- 2 sequences, 201 columns: `#=GS … AC` for both sequences (the first `#=GS` kind written covers every sequence), `#=GS … DE`
    for the second only ("a b", with a blank inside), the unparsed tags `OS` (both sequences) and `DR` (second only) -/
def exStoGs : Msa :=
  { exSto201 with sqacc := some [some (str "P1"), some (str "Q2.1")], sqdesc := some [none, some (str "a b")],
                  gs := [(str "OS", [some (str "Homo sapiens"), some (str "Mus")]), (str "DR", [none, some (str "PDB; 1abc")])] }

theorem exStoGs_writable : StoTextWritable exStoGs :=
  { exSto201_writable with
    ann :=
      { exSto201_writable.ann with
        gs_tag_ok := by decide +kernel
        gs_nodup := by decide +kernel
        gs_ne := by decide +kernel
        gs_per_ok := by decide +kernel
        gs_order := by decide +kernel
        gs_val := grVal_forall (by decide +kernel) (by decide +kernel) } }

example : stockholmRead (stockholmCfg none) (splitLines (stockholmWrite false none exStoGs))
    = (.ok (stoProject (stockholmCfg none) exStoGs), []) := stockholm_roundtrip_plain_text exStoGs exStoGs_writable
example : stoProject (stockholmCfg none) exStoGs = exStoGs := by decide +kernel
example : (stockholmLines false none exStoGs).take 12 =
    [str "# STOCKHOLM 1.0", [], str "#=GS s1 AC P1", str "#=GS s2 AC Q2.1", [], str "#=GS s2 DE a b", [],
     str "#=GS s1 OS Homo sapiens", str "#=GS s2 OS Mus", [], str "#=GS s2 DR PDB; 1abc", []] := by decide +kernel

/-- 2 sequences, 201 columns, weights 0.5 and 1.0, an accession for the SECOND sequence only: `WT` is the first `#=GS` kind and
    covers every sequence, so `gsOrderOk` holds although `AC` is sparse -/
def exStoWt : Msa :=
  { exSto201 with hasw := true, wgt := [.val 0x3FE0000000000000, .dflt], sqacc := some [none, some (str "Q2")] }

theorem exStoWt_writable : StoTextWritable exStoWt :=
  { exSto201_writable with
    ann :=
      { exSto201_writable.ann with
        gs_ne := fun t ht => absurd ht (Nat.not_lt_zero t)
        gs_per_ok := by decide +kernel
        gs_order := gsOrderOk_of_hasw exStoWt rfl
        gs_val := grVal_forall (by decide +kernel) (by decide +kernel) } }

example : stockholmRead (stockholmCfg none) (splitLines (stockholmWrite false none exStoWt))
    = (.ok (stoProject (stockholmCfg none) exStoWt), []) := stockholm_roundtrip_plain_text exStoWt exStoWt_writable
/-- everything comes back except the numeric value of the weights, which the reader MODEL does not carry -/
example : stoProject (stockholmCfg none) exStoWt = { exStoWt with wgt := [.val 0, .val 0] } := by decide +kernel
example : (stockholmLines false none exStoWt).take 7 =
    [str "# STOCKHOLM 1.0", [], str "#=GS s1 WT 0.50", str "#=GS s2 WT 1.00", [], str "#=GS s2 AC Q2", []] := by decide +kernel
example := stockholm_roundtrip_full false none _ id _ exStoWt (stoTextWritable_writable exStoWt exStoWt_writable)

/-- known finding C03:stockholm:first-mention-order: only the SECOND sequence has a `#=GS … AC` line; the reader meets `bb` first
    (in the `#=GS` section) and numbers it 0: the alignment comes back with its sequences in another order -/
def exStoGsBad : Msa := { exSto with sqacc := some [none, some (str "X1")] }

example : stockholmLines true none exStoGsBad =
    [str "# STOCKHOLM 1.0", [], str "#=GS bb AC X1", [], str "a  AC-GT", str "bb ACGTT", str "//"] := by decide +kernel
theorem exStoGsBad_read : stockholmRead (stockholmCfg none) (splitLines (stockholmWrite true none exStoGsBad))
    = (.ok { exStoGsBad with
               names := [[98, 98], [97]], aseq := [[65, 67, 71, 84, 84], [65, 67, 45, 71, 84]], sqacc := some [some (str "X1"), none] }, []) := by
  rw [stockholmCfg_text]
  decide +kernel
example : stockholmRead (stockholmCfg none) (splitLines (stockholmWrite true none exStoGsBad))
    = (.ok { stoProject (stockholmCfg none) exStoGsBad with
               names := [[98, 98], [97]], aseq := [[65, 67, 71, 84, 84], [65, 67, 45, 71, 84]], sqacc := some [some (str "X1"), none] }, []) := by
  rw [exStoGsBad_read]
  decide +kernel
example : stockholmRead (stockholmCfg none) (splitLines (stockholmWrite true none exStoGsBad))
    ≠ (.ok (stoProject (stockholmCfg none) exStoGsBad), []) := by
  rw [exStoGsBad_read]
  decide +kernel
/-- … and it is exactly `gsOrderOk` that this alignment violates -/
example : ¬ gsOrderOk exStoGsBad := by decide +kernel

/-- re-writing: the annotated example without its cut-offs gives the same bytes; with them the MODEL's re-read alignment has
    lost the values (the real library has not: the harness compares `rw=same` on every case) -/
example : stockholmWrite false none (stoProject (stockholmCfg none) { exStoAnn with cutoff := [] })
    = stockholmWrite false none { exStoAnn with cutoff := [] } := stockholm_rewrite_same false none _ _ rfl rfl rfl rfl
example : stockholmWrite false none (stoProject (stockholmCfg none) exStoAnn) ≠ stockholmWrite false none exStoAnn := by decide +kernel

example := stockholm_ann_write_accepted false exStoGs exStoGs_writable
example := stockholm_ann_write_accepted false exStoGr exStoGr_writable
example := stockholm_ann_write_accepted_digital true abcDna (Or.inr (Or.inl rfl)) exStoDna exStoDna_writable

/-! ### Weight and cut-off tokens

"Stockholm and Pfam preserve … weights and score cut-offs to the two and one decimals the format prints."  The reader MODEL keeps of a
weight / cut-off whether it is set (the token → double conversion is modelled by C01).  Proved here about the tokens, for EVERY finite
binary64 weight / binary32 cut-off (negative values, zeros, subnormals included): well-formedness, the exact decimal value the token
denotes, its distance from the value printed, and that the reader's tokenizer hands `esl_memtod` exactly the printed bytes. -/

/-- every finite weight prints as `[-]d…d.dd`: two fraction digits, accepted by `esl_mem_IsReal`, one blank-free token -/
theorem weight_token_wellformed (b : UInt64) (h : finiteF64 b) :
    ∃ ip fp, fmtF2 b = (if f64Neg b then [45] else []) ++ (ip ++ 46 :: fp) ∧ ip ≠ [] ∧ allDig ip ∧ allDig fp ∧ fp.length = 2 ∧
      RealTok (fmtF2 b) := fmtF2_wellformed b h

/-- read by an independent decimal parser the weight token has the sign bit of the weight, two decimals, and denotes `fixedQ`
    hundredths, where the weight is `± f64Mant b * 2 ^ f64Exp b` -/
theorem weight_token_value (b : UInt64) (h : finiteF64 b) :
    (decTok (fmtF2 b)).1 = f64Neg b ∧ (decTok (fmtF2 b)).2.2.length = 2 ∧ decTokUnits (fmtF2 b) = fixedQ (f64Mant b) (f64Exp b) 2 :=
  fmtF2_value b h

/-- every finite cut-off prints as `[-]d…d.d` -/
theorem cutoff_token_wellformed (b : UInt32) (h : finiteF32 b) :
    ∃ ip fp, fmtF1 b = (if f32Neg b then [45] else []) ++ (ip ++ 46 :: fp) ∧ ip ≠ [] ∧ allDig ip ∧ allDig fp ∧ fp.length = 1 ∧
      RealTok (fmtF1 b) := fmtF1_wellformed b h

theorem cutoff_token_value (b : UInt32) (h : finiteF32 b) :
    (decTok (fmtF1 b)).1 = f32Neg b ∧ (decTok (fmtF1 b)).2.2.length = 1 ∧ decTokUnits (fmtF1 b) = fixedQ (f32Mant b) (f32Exp b) 1 :=
  fmtF1_value b h

/-- the printed integer of units is the value scaled by `10^prec`: exact for a non-negative binary exponent … -/
theorem printed_value_exact (mant : Nat) (e : Int) (prec : Nat) (he : 0 ≤ e) : fixedQ mant e prec = mant * 10 ^ prec * 2 ^ e.toNat :=
  fixedQ_exact mant e prec he

/-- … and otherwise within HALF a unit of the last printed decimal: `|q * 2^k - mant * 10^prec| ≤ 2^k / 2`, `k = -e` -/
theorem printed_value_half_unit (mant : Nat) (e : Int) (prec : Nat) (he : e < 0) :
    2 * (fixedQ mant e prec * 2 ^ (-e).toNat) ≤ 2 * (mant * 10 ^ prec) + 2 ^ (-e).toNat ∧
    2 * (mant * 10 ^ prec) ≤ 2 * (fixedQ mant e prec * 2 ^ (-e).toNat) + 2 ^ (-e).toNat := fixedQ_half_unit mant e prec he

/-- **token round trip**: under the three `esl_memtok` calls of `stockholm_parse_gs` the written line `#=GS <name> WT <token>` comes
    apart into `#=GS`, the name, `WT` and - byte for byte - the token `printf("%.2f")` produced, which `esl_mem_IsReal` accepts -/
theorem weight_token_roundtrip (m : Msa) (i : Nat) (hn : nameOk (m.names.getD i [])) (hf : finiteF64 ((m.wgt.getD i Wgt.unset).toBits)) :
    ∃ p1 p2, memtok (gsLine m 0 i (wtTok m i)) blankTab = some (bGS, p1) ∧ memtok p1 blankTab = some (m.names.getD i [], p2) ∧
      memtok p2 blankTab = some (bWT, wtTok m i) ∧ memtok (wtTok m i) blankTab = some (wtTok m i, []) ∧
      memIsReal (wtTok m i) = true := wt_line_weight_token m i hn hf

/-- **token round trip for cut-offs**: the value text `<tok1> <tok2>` of a two-threshold `#=GF GA|NC|TC` line comes apart under
    `esl_memtok` into exactly the two tokens `printf("%.1f")` produced; `esl_mem_IsReal` accepts both -/
theorem cutoff_token_roundtrip (a b : UInt32) (ha : finiteF32 a) (hb : finiteF32 b) :
    memtok (fmtF1 a ++ [32] ++ fmtF1 b) blankTab = some (fmtF1 a, fmtF1 b) ∧ memtok (fmtF1 b) blankTab = some (fmtF1 b, []) ∧
      memIsReal (fmtF1 a) = true ∧ memIsReal (fmtF1 b) = true := cutoff_value_tokens a b ha hb

/-- **which weights Stockholm / Pfam carry**: the hypothesis `wgtTokOk` of `stockholm_roundtrip_full` holds for EVERY finite weight
    except those that print as `-1.00` (a weight in about [-1.005, -0.995]: `strtod` reads the token as -1.0, the reader's marker for
    "no weight given" - inherent to the format's convention, not an artefact of the proof) -/
theorem weight_token_carried_iff (b : UInt64) (h : finiteF64 b) :
    wgtTokOk (fmtF2 b) ↔ ¬ (f64Neg b = true ∧ fixedQ (f64Mant b) (f64Exp b) 2 = 100) := wgtTokOk_iff b h

/-- -1.0 is the excluded weight; -1.01 is carried -/
example : ¬ wgtTokOk (fmtF2 0xbff0000000000000) := by
  rw [weight_token_carried_iff _ (by decide)]; decide +kernel
example : wgtTokOk (fmtF2 0xbff028f5c28f5c29) := by
  rw [weight_token_carried_iff _ (by decide)]; decide +kernel

/-- non-vacuity: 0.125 is finite, prints as `0.12` (tie to even) = 12 hundredths; -2.5 prints as `-2.50`; the smallest subnormal as `0.00` -/
example : finiteF64 0x3fc0000000000000 ∧ fmtF2 0x3fc0000000000000 = str "0.12" ∧ decTokUnits (fmtF2 0x3fc0000000000000) = 12 := by
  decide +kernel
example : finiteF64 0xc004000000000000 ∧ fmtF2 0xc004000000000000 = str "-2.50" ∧ (decTok (fmtF2 0xc004000000000000)).1 = true := by
  decide +kernel
example : finiteF64 1 ∧ fmtF2 1 = str "0.00" := by decide +kernel
example : finiteF32 0x41c80000 ∧ fmtF1 0x41c80000 = str "25.0" ∧ decTokUnits (fmtF1 0x41c80000) = 250 := by decide +kernel
example : nameOk (exStoWt.names.getD 0 []) ∧ finiteF64 ((exStoWt.wgt.getD 0 Wgt.unset).toBits) := by
  unfold nameOk; decide +kernel

/-! ### Numeric round trip of weights and cut-offs

"Stockholm and Pfam preserve … weights and score cutoffs to the two and one decimals the format prints", as VALUES: C01's exact model
of `strtod` / `esl_memtof` (`Msafile/StoNum.lean`: `strtodBits`, `strtofBits`, tied to the library by C01's differential run) composed
with the exact model of `printf("%.2f" / "%.1f")` (`fmtF2`, `fmtF1`, tied byte for byte by this check), for EVERY finite value.  Together
with `weight_token_roundtrip` (the bytes handed to `esl_memtod` are the printed token) and `printed_value_half_unit` (the printed
number is within half a unit of the last decimal of the value) this is the full numeric statement: the weight read back is the
binary64 number nearest to a two-decimal number within 0.005 of the weight written. -/

/-- the double the reader stores for a printed weight: the weight's sign bit + the binary64 number nearest (ties to even) to the printed
    two-decimal value `q / 100`, `q = fixedQ (f64Mant b) (f64Exp b) 2` (0 for `q = 0`) -/
theorem weight_value_reread (b : UInt64) (h : finiteF64 b) :
    strtodBits (fmtF2 b) = UInt64.ofNat ((if f64Neg b then 2 ^ 63 else 0) +
      (if fixedQ (f64Mant b) (f64Exp b) 2 = 0 then 0 else round64 (fixedQ (f64Mant b) (f64Exp b) 2) 100)) := strtodBits_fmtF2 b h

/-- **numeric round trip of a weight**: `strtod (printf "%.2f" w) = w` bit for bit EXACTLY when `w` is the binary64 number nearest to the
    two-decimal number it prints as; otherwise the value read back is that nearest number (`weight_value_reread`) -/
theorem weight_value_roundtrip_iff (b : UInt64) (h : finiteF64 b) :
    strtodBits (fmtF2 b) = b ↔
      b = UInt64.ofNat ((if f64Neg b then 2 ^ 63 else 0) +
        (if fixedQ (f64Mant b) (f64Exp b) 2 = 0 then 0 else round64 (fixedQ (f64Mant b) (f64Exp b) 2) 100)) :=
  EaselModel.Msafile.weight_value_roundtrip_iff b h

/-- the float the reader stores for a printed cut-off: `(float)` of the binary64 number nearest to the printed one-decimal value -/
theorem cutoff_value_reread (c : UInt32) (h : finiteF32 c) :
    strtofBits (fmtF1 c) = f64ToF32 (UInt64.ofNat ((if f32Neg c then 2 ^ 63 else 0) +
      (if fixedQ (f32Mant c) (f32Exp c) 1 = 0 then 0 else round64 (fixedQ (f32Mant c) (f32Exp c) 1) 10))) := strtofBits_fmtF1 c h

/-- when the Stockholm reader accepts the written line `#=GS <name> WT <tok>` of sequence `i`, the recorder of C01's value-carrying reader
    `stockholmReadV` appends, for the sequence the line names, exactly `strtod` of the printed token (= the value of `weight_value_reread`) -/
theorem weight_value_recorded (ns : NumSt) (st st' : StoSt) (m : Msa) (i : Nat) (hl : st.lead = false)
    (hn : nameOk (m.names.getD i [])) (hf : finiteF64 ((m.wgt.getD i Wgt.unset).toBits)) :
    numUpd ns st st' (gsLine m 0 i (wtTok m i))
      = { ns with w := ns.w ++ [(st'.si - 1, strtodBits (fmtF2 ((m.wgt.getD i Wgt.unset).toBits)))] } :=
  numUpd_wt_line ns st st' m i hl hn hf

/-- … and for cut-offs: on the value text `<tok1> <tok2>` of a written `#=GF GA|NC|TC` line the recorder stores `(float) strtod` of exactly
    the two printed tokens (= the values of `cutoff_value_reread`) in the two slots -/
theorem cutoff_value_recorded (ns : NumSt) (a b : UInt32) (i1 i2 : Nat) (u : Bool) (ha : finiteF32 a) (hb : finiteF32 b) :
    numCutoffs ns (fmtF1 a ++ [32] ++ fmtF1 b) i1 i2 u
      = { ns with cut := (ns.cut.set i1 (some (strtofBits (fmtF1 a)))).set i2 (some (strtofBits (fmtF1 b))) } :=
  numCutoffs_written ns a b i1 i2 u ha hb

/-- non-vacuity, both directions: 1.5 and 0.1 come back exactly (they are the doubles nearest to 1.50 and 0.10); 0.125 comes back as
    the double nearest to 0.12, which prints as `0.12` again; cut-off 0.25 comes back as 0.2f -/
example : finiteF64 0x3ff8000000000000 ∧ strtodBits (fmtF2 0x3ff8000000000000) = 0x3ff8000000000000 := by decide +kernel
example : strtodBits (fmtF2 0x3fb999999999999a) = 0x3fb999999999999a := by decide +kernel
example : strtodBits (fmtF2 0x3fc0000000000000) = 0x3fbeb851eb851eb8 ∧ fmtF2 0x3fbeb851eb851eb8 = fmtF2 0x3fc0000000000000 := by decide +kernel
example : finiteF32 0x3e800000 ∧ strtofBits (fmtF1 0x3e800000) = 0x3e4ccccd ∧ strtofBits (fmtF1 0x41c80000) = 0x41c80000 := by
  decide +kernel

/-! ### First-mention order: what the Stockholm reader DOES produce

Known finding C03:stockholm:first-mention-order as a specification.  `stoSeqOrder m` / `stoGrOrder m` are the orders in which the
reader numbers the sequences / unparsed `#=GR` tags of `write m`; `stoMention m` is `m` rearranged into them.

FULL statement (`StoMentionRoundTrip`): for every writable alignment, WITHOUT `gsOrderOk` / `grOrderOk`,
    `read (write m) = ok (stoProject (stoMention m))`.
Proved: the two orders are permutations for EVERY alignment; they are the identity under `gsOrderOk` / `grOrderOk`, and then `stoMention m`
projects to `m`: the full statement holds wherever the proved round trip does (`stockholm_roundtrip_mention_partial`); the full statement
at the witnesses of the finding (`decide`).  Not proved: the full statement in general (see `Msafile/StoFirstMention.lean`); the monitor
demands it of the real library on every generated case, inside the region of the finding too. -/

theorem stockholm_seq_order_perm (m : Msa) : (stoSeqOrder m).Perm (List.range m.nseq) := stoSeqOrder_perm m

theorem stockholm_gr_order_perm (m : Msa) : (stoGrOrder m).Perm (List.range m.gr.length) := stoGrOrder_perm m

theorem stockholm_seq_order_id (m : Msa) (h : gsOrderOk m) : stoSeqOrder m = List.range m.nseq := stoSeqOrder_id_of_gsOrderOk m h

theorem stockholm_gr_order_id (m : Msa) (h : grOrderOk m) : stoGrOrder m = List.range m.gr.length := stoGrOrder_id_of_grOrderOk m h

/-- PARTIAL: the full statement `StoMentionRoundTrip pfam abc cfg m` - read (write m) = ok (stoProject (stoMention m)) - is proved
    here under `StoWritable`, i.e. WITH its two order clauses `gsOrderOk` / `grOrderOk`, where both orders are the identity and
    `stoMention m` projects to `m` itself.  Missing: the same for every `m` that satisfies `StoWritable` without those two clauses. -/
theorem stockholm_roundtrip_mention_partial (pfam : Bool) (abc : Option Abc) (cfg : Cfg) (enc : UInt8 → UInt8) (txt : Nat → Bytes) (m : Msa)
    (h : StoWritable abc cfg enc txt m) :
    StoMentionRoundTrip pfam abc cfg m ∧ stoSeqOrder m = List.range m.nseq ∧ stoGrOrder m = List.range m.gr.length ∧
      stoProject cfg (stoMention m) = stoProject cfg m :=
  ⟨stoMentionRoundTrip_of_writable pfam abc cfg enc txt m h, stoSeqOrder_id_of_gsOrderOk m h.ann.gs_order,
    stoGrOrder_id_of_grOrderOk m h.ann.gr_order, stoMention_project abc cfg enc txt m h⟩

example := stockholm_roundtrip_mention_partial false none _ id _ exStoWt (stoTextWritable_writable exStoWt exStoWt_writable)
example : gsOrderOk exStoWt ∧ stoSeqOrder exStoWt = List.range exStoWt.nseq := ⟨gsOrderOk_of_hasw exStoWt rfl, by decide +kernel⟩

/-- the full statement AT the witnesses of the known finding: sparse `#=GS AC` (sequence order `[1, 0]`) … -/
example : stoSeqOrder exStoGsBad = [1, 0] ∧ stoGrOrder exStoGsBad = [] := by decide +kernel
example : StoMentionRoundTrip true none (stockholmCfg none) exStoGsBad := by
  unfold StoMentionRoundTrip
  rw [exStoGsBad_read]
  decide +kernel
example : StoMentionRoundTrip false none (stockholmCfg none) exStoGsBad := by
  unfold StoMentionRoundTrip
  rw [stockholmCfg_text]
  decide +kernel
/-- … `#=GR` tags first used by a later sequence (tag order `[1, 0]`) … -/
example : stoSeqOrder exStoGrBad = [0, 1] ∧ stoGrOrder exStoGrBad = [1, 0] := by decide +kernel
example : StoMentionRoundTrip true none (stockholmCfg none) exStoGrBad := by
  unfold StoMentionRoundTrip
  rw [exStoGrBad_read]
  decide +kernel

/-- … and both at once, three sequences: `DE` only for the second, `#=GS OS` only for the third, `#=GR tA` only on the third, `tB` only
    on the second: sequences come back in the order `[1, 2, 0]`, tags in the order `[1, 0]` -/
def exStoMention : Msa :=
  { alen := 3, names := [str "a", str "b", str "c"], aseq := [str "ACG", str "A-G", str "AAA"], wgt := [.dflt, .dflt, .dflt],
    sqdesc := some [none, some (str "foo"), none], gs := [(str "OS", [none, none, some (str "qq")])],
    gr := [(str "tA", [none, none, some (str "abc")]), (str "tB", [none, some (str "abc"), none])] }

example : stoSeqOrder exStoMention = [1, 2, 0] ∧ stoGrOrder exStoMention = [1, 0] := by decide +kernel
example : (stoMention exStoMention).names = [str "b", str "c", str "a"] ∧
    (stoMention exStoMention).gr = [(str "tB", [some (str "abc"), none, none]), (str "tA", [none, some (str "abc"), none])] := by decide +kernel
example : StoMentionRoundTrip false none (stockholmCfg none) exStoMention := by
  unfold StoMentionRoundTrip
  rw [stockholmCfg_text]
  decide +kernel

/-! ## SELEX / A2M

SELEX: round trip through `esl_msafile_selex_Write` (`selexWrite`: 60-column blocks separated by one blank line, name field
`max 4 (longest name)` wide + one blank) and `esl_msafile_selex_Read`, for alignments of ANY size (any number of blocks)
that carry names and aligned rows only (`SelexPlain`: no `#=CS`/`#=RF`/`#=MM` line, no `#=SS`/`#=SA` line for any sequence).
`SelexTextWritable` / `SelexDigitalWritable`: ≥ 1 sequence, ≥ 1 column; names non-empty, without blank/tab/NUL/LF, not
beginning with `#` (`selexNameOk`); text residues graphic (so: no white space - a `.`/`-`/`~` gap is text); digital rows
well formed.  `selexProject` = names, rows in the reader's mode, `#=CS`/`#=RF`/`#=MM` as they are, per-sequence `#=SS`/`#=SA`
as the reader rebuilds them (no array when no sequence has one), default weights.

The theorems of THIS section assume `SelexPlain`; the annotation lines are covered by the section "SELEX with annotation lines"
below (`selex_roundtrip_ann_text`, `selex_roundtrip_ann_digital`, …), which generalises them. -/

theorem selex_write_deterministic (abc : Option Abc) (m₁ m₂ : Msa) (h : m₁ = m₂) : selexWrite abc m₁ = selexWrite abc m₂ := by rw [h]

theorem selexDigSymOk_of (a : Abc) (ha : a = abcAmino ∨ a = abcDna ∨ a = abcRna) : selexDigSymOk a = true :=
  selexDigSymOk_of_wf (wf_std ha)

/-- **SELEX round trip, text mode, names and rows, any number of blocks** -/
theorem selex_roundtrip_plain_text (m : Msa) (h : SelexTextWritable m) :
    selexRead (selexCfg none) (splitLines (selexWrite none m)) = (.ok (selexProject (selexCfg none) m), []) :=
  selexRead_write_text m h

/-- **SELEX round trip, digital mode (amino, DNA, RNA), names and rows**: the rows come back code for code -/
theorem selex_roundtrip_plain_digital (a : Abc) (ha : a = abcAmino ∨ a = abcDna ∨ a = abcRna) (m : Msa) (h : SelexDigitalWritable a m) :
    selexRead (selexCfg (some a)) (splitLines (selexWrite (some a) m)) = (.ok (selexProject (selexCfg (some a)) m), []) :=
  selexRead_write_digital a (selexDigSymOk_of a ha) m h

theorem selex_roundtrip_plain (abc : Option Abc) (cfg : Cfg) (enc : UInt8 → UInt8) (txt : Nat → Bytes) (m : Msa)
    (h : SelexWritable abc cfg enc txt m) (name_lf : ∀ i, i < m.nseq → (10 : UInt8) ∉ m.names.getD i []) :
    selexRead cfg (splitLines (selexWrite abc m)) = (.ok (selexProject cfg m), []) :=
  selexRead_write abc cfg enc txt m h name_lf

theorem selex_preserves_names_rows (m : Msa) (h : SelexTextWritable m) :
    (selexProject (selexCfg none) m).names = m.names ∧ (selexProject (selexCfg none) m).alen = m.alen ∧
    ∀ i, i < m.nseq → (selexProject (selexCfg none) m).aseq.getD i [] = m.aseq.getD i [] :=
  ⟨rfl, rfl, storedRows_getD m h.dig⟩

/-- **re-writing the re-read alignment reproduces the same bytes** (text mode): `write (read (write m)) = write m` -/
theorem selex_rewrite_same (m : Msa) (h : SelexTextWritable m) :
    ∃ m', (selexRead (selexCfg none) (splitLines (selexWrite none m))).1 = .ok m' ∧ selexWrite none m' = selexWrite none m :=
  ⟨selexProject (selexCfg none) m, by rw [selex_roundtrip_plain_text m h], selexWrite_project_text m h⟩

theorem selex_rewrite_same_digital (a : Abc) (ha : a = abcAmino ∨ a = abcDna ∨ a = abcRna) (m : Msa) (h : SelexDigitalWritable a m) :
    ∃ m', (selexRead (selexCfg (some a)) (splitLines (selexWrite (some a) m))).1 = .ok m' ∧
      selexWrite (some a) m' = selexWrite (some a) m :=
  ⟨selexProject (selexCfg (some a)) m, by rw [selex_roundtrip_plain_digital a ha m h], selexWrite_project_digital a m h⟩

/-! ### non-vacuity: 2 sequences, 61 columns (two blocks: 60 + 1); the second row starts and ends with gap characters -/

def exSlx : Msa :=
  { alen := 61, names := [[115, 101, 113, 49], [97, 98, 99, 100, 101, 102, 103]],
    aseq := [List.replicate 30 65 ++ [45] ++ List.replicate 30 67, [46] ++ List.replicate 59 71 ++ [45]],
    wgt := [.dflt, .dflt] }

theorem exSlx_plain : SelexPlain exSlx := by constructor <;> decide +kernel

theorem exSlx_writable : SelexTextWritable exSlx :=
  { dig := rfl, plain := exSlx_plain, n1 := by decide, alen1 := by decide
    name_ok := by unfold selexNameOk sqTagOk nameOk; decide +kernel
    row_ok := by decide +kernel }

example : (blockStarts exSlx.alen selexCpl).length = 2 := by decide +kernel
example : selexRead (selexCfg none) (splitLines (selexWrite none exSlx))
    = (.ok (selexProject (selexCfg none) exSlx), []) := selex_roundtrip_plain_text exSlx exSlx_writable
example : selexProject (selexCfg none) exSlx = exSlx := by decide +kernel
example : selexWrite none (selexProject (selexCfg none) exSlx) = selexWrite none exSlx := selexWrite_project_text exSlx exSlx_writable

/-- the same digitised with the DNA alphabet (A=0 C=1 G=2 gap=4 missing=17) -/
def exSlxDna : Msa :=
  { digital := true, kp := 18, alen := 61, names := exSlx.names,
    ax := [255 :: (List.replicate 30 0 ++ [4] ++ List.replicate 30 1) ++ [255], 255 :: ([17] ++ List.replicate 59 2 ++ [4]) ++ [255]],
    wgt := [.dflt, .dflt] }

theorem exSlxDna_writable : SelexDigitalWritable abcDna exSlxDna :=
  { dig := rfl, plain := by constructor <;> decide +kernel, n1 := by decide, alen1 := by decide
    name_ok := by unfold selexNameOk sqTagOk nameOk; decide +kernel
    row_ok := by decide +kernel }

example : selexRead (selexCfg (some abcDna)) (splitLines (selexWrite (some abcDna) exSlxDna))
    = (.ok (selexProject (selexCfg (some abcDna)) exSlxDna), []) :=
  selex_roundtrip_plain_digital abcDna (.inr (.inl rfl)) exSlxDna exSlxDna_writable
example : (selexProject (selexCfg (some abcDna)) exSlxDna).ax = exSlxDna.ax := by decide +kernel

/-- 5 columns with `#=CS`, `#=RF`, `#=MM`, `#=SS` on the second sequence, `#=SA` on the first -/
def exSlxAnn : Msa :=
  { alen := 5, names := [[97], [98, 98, 98, 98, 98, 98]], aseq := [[65, 67, 45, 71, 84], [45, 67, 71, 84, 46]],
    wgt := [.dflt, .dflt], rf := some [120, 120, 46, 120, 120], ssCons := some [60, 60, 46, 62, 62],
    mm := some [46, 46, 109, 46, 46], ss := some [none, some [60, 46, 46, 46, 62]], sa := some [some [49, 50, 51, 52, 53], none] }

example : selexRead (selexCfg none) (splitLines (selexWrite none exSlxAnn))
    = (.ok (selexProject (selexCfg none) exSlxAnn), []) := by
  rw [selexCfg_text]
  decide +kernel

/-! ### SELEX with annotation lines

SELEX round trip WITH the annotation SELEX carries: `#=CS` (`ssCons`), `#=RF` (`rf`), `#=MM` (`mm`), per-sequence `#=SS`
(`ss[i]`) and `#=SA` (`sa[i]`), each independently present or absent (per sequence for SS/SA), any number of 60-column
blocks, text and digital mode.  `SelexAnnTextWritable` / `SelexAnnDigitalWritable` = the conditions of `SelexTextWritable` /
`SelexDigitalWritable` on names and rows, with `SelexPlain` replaced by `SelexAnn`: every annotation string present has one
character per column (`length = alen`) and holds no white space and no NUL (`annStrOk`).  (The reader copies annotation
characters unchanged, but takes leading and trailing white space of a 60-column chunk for padding: it comes back as `.`;
so white space is excluded, which is slightly stronger than needed: white space strictly inside every chunk would survive.)
The name field is `max 4 (longest name)` wide, so the 4-character tags `#=XX` fit also when every name is shorter.
`selexProject` says what comes back: names, rows, `ssCons`/`rf`/`mm` as they are, `ss`/`sa` as arrays of `nseq` entries
(no array when no sequence has one), default weights. -/

theorem selex_roundtrip_ann_text (m : Msa) (h : SelexAnnTextWritable m) :
    selexRead (selexCfg none) (splitLines (selexWrite none m)) = (.ok (selexProject (selexCfg none) m), []) :=
  selexRead_write_ann_text m h

theorem selex_roundtrip_ann_digital (a : Abc) (ha : a = abcAmino ∨ a = abcDna ∨ a = abcRna) (m : Msa)
    (h : SelexAnnDigitalWritable a m) :
    selexRead (selexCfg (some a)) (splitLines (selexWrite (some a) m)) = (.ok (selexProject (selexCfg (some a)) m), []) :=
  selexRead_write_ann_digital a (selexDigSymOk_of a ha) m h

theorem selex_roundtrip_ann (abc : Option Abc) (cfg : Cfg) (enc : UInt8 → UInt8) (txt : Nat → Bytes) (m : Msa)
    (h : SelexAnnWritable abc cfg enc txt m) (name_lf : ∀ i, i < m.nseq → (10 : UInt8) ∉ m.names.getD i []) :
    selexRead cfg (splitLines (selexWrite abc m)) = (.ok (selexProject cfg m), []) :=
  selexRead_write_ann abc cfg enc txt m h name_lf

/-- library-written SELEX output, annotation lines included, is accepted, holds exactly one alignment (the next read is
    eslEOF), and the alignment read back is well formed -/
theorem selex_ann_write_accepted (m : Msa) (h : SelexAnnTextWritable m) :
    (∃ m', (selexRead (selexCfg none) (splitLines (selexWrite none m))).1 = .ok m' ∧ m'.wellFormed = true) ∧
    (selexRead (selexCfg none) (selexRead (selexCfg none) (splitLines (selexWrite none m))).2).1 = .eof :=
  accepted_of_roundtrip (selex_roundtrip_ann_text m h) (selexRead_good _ (selexCfg_valid abcOk_none) (selexCfg_ok abcOk_none))
    (by simp [selexRead, runLines, selexFinish, selexFinal])

theorem selex_ann_write_accepted_digital (a : Abc) (ha : a = abcAmino ∨ a = abcDna ∨ a = abcRna) (m : Msa)
    (h : SelexAnnDigitalWritable a m) :
    ∃ m', (selexRead (selexCfg (some a)) (splitLines (selexWrite (some a) m))).1 = .ok m' ∧ m'.wellFormed = true := by
  have hok := (abcOk_std ha)
  exact (accepted_of_roundtrip (selex_roundtrip_ann_digital a ha m h) (selexRead_good _ (selexCfg_valid hok) (selexCfg_ok hok))
    (by simp [selexRead, runLines, selexFinish, selexFinal])).1

/-- an alignment without annotation lines has nothing for `SelexAnn` to check, so the theorems of the plain section are
    special cases of those with annotation lines -/
theorem selexAnn_of_plain {m : Msa} (h : SelexPlain m) : SelexAnn m :=
  { cs_ok := by rw [h.cs_none]; rfl
    rf_ok := by rw [h.rf_none]; rfl
    mm_ok := by rw [h.mm_none]; rfl
    ss_ok := fun i hi => by rw [h.ss_none i hi]; rfl
    sa_ok := fun i hi => by rw [h.sa_none i hi]; rfl }

theorem selex_write_accepted (m : Msa) (h : SelexTextWritable m) :
    (∃ m', (selexRead (selexCfg none) (splitLines (selexWrite none m))).1 = .ok m' ∧ m'.wellFormed = true) ∧
    (selexRead (selexCfg none) (selexRead (selexCfg none) (splitLines (selexWrite none m))).2).1 = .eof :=
  selex_ann_write_accepted m { h with ann := selexAnn_of_plain h.plain }

theorem selex_write_accepted_digital (a : Abc) (ha : a = abcAmino ∨ a = abcDna ∨ a = abcRna) (m : Msa) (h : SelexDigitalWritable a m) :
    ∃ m', (selexRead (selexCfg (some a)) (splitLines (selexWrite (some a) m))).1 = .ok m' ∧ m'.wellFormed = true :=
  selex_ann_write_accepted_digital a ha m { h with ann := selexAnn_of_plain h.plain }

/-- **re-writing the re-read alignment reproduces the same bytes**, annotation lines included (text mode) -/
theorem selex_ann_rewrite_same (m : Msa) (h : SelexAnnTextWritable m) :
    selexWrite none (selexProject (selexCfg none) m) = selexWrite none m :=
  selexWrite_project_ann_text m h

theorem selex_ann_rewrite_same_digital (a : Abc) (m : Msa) (h : SelexAnnDigitalWritable a m) :
    selexWrite (some a) (selexProject (selexCfg (some a)) m) = selexWrite (some a) m :=
  selexWrite_project_ann_digital a m h

/-- what SELEX preserves of an annotated alignment: names, width, the aligned rows, `rf`, `ssCons`, `mm`, and for every
    sequence its `ss` and `sa` string (or their absence), exactly -/
theorem selex_ann_preserves (m : Msa) (h : SelexAnnTextWritable m) :
    (selexProject (selexCfg none) m).names = m.names ∧ (selexProject (selexCfg none) m).alen = m.alen ∧
    (∀ i, i < m.nseq → (selexProject (selexCfg none) m).aseq.getD i [] = m.aseq.getD i []) ∧
    (selexProject (selexCfg none) m).rf = m.rf ∧ (selexProject (selexCfg none) m).ssCons = m.ssCons ∧
    (selexProject (selexCfg none) m).mm = m.mm ∧
    (∀ i, i < m.nseq → optRow (selexProject (selexCfg none) m).ss i = optRow m.ss i) ∧
    (∀ i, i < m.nseq → optRow (selexProject (selexCfg none) m).sa i = optRow m.sa i) :=
  ⟨rfl, rfl, storedRows_getD m h.dig, rfl, rfl, rfl, selexRowsProj_optRow m.nseq m.ss, selexRowsProj_optRow m.nseq m.sa⟩

/-! ### non-vacuity: 2 sequences (one name shorter than the `#=XX` tags), 61 columns (two blocks: 60 + 1), `#=CS` and `#=RF`
    present, `#=MM` absent, `#=SS` on the first sequence only, `#=SA` on the second only -/

def exSlxAnn2 : Msa :=
  { alen := 61, names := [[97], [98, 98, 98, 98, 98, 98]],
    aseq := [List.replicate 30 65 ++ [45] ++ List.replicate 30 67, [46] ++ List.replicate 59 71 ++ [45]],
    wgt := [.dflt, .dflt],
    rf := some (List.replicate 30 120 ++ [46] ++ List.replicate 30 120),
    ssCons := some (List.replicate 30 60 ++ [46] ++ List.replicate 30 62),
    ss := some [some (List.replicate 30 60 ++ [95] ++ List.replicate 30 62), none],
    sa := some [none, some (List.replicate 60 49 ++ [57])] }

theorem exSlxAnn2_ann : SelexAnn exSlxAnn2 := by constructor <;> decide +kernel

theorem exSlxAnn2_writable : SelexAnnTextWritable exSlxAnn2 :=
  { dig := rfl, ann := exSlxAnn2_ann, n1 := by decide, alen1 := by decide
    name_ok := by unfold selexNameOk sqTagOk nameOk; decide +kernel
    row_ok := by decide +kernel }

example : (blockStarts exSlxAnn2.alen selexCpl).length = 2 := by decide +kernel
example : selexRead (selexCfg none) (splitLines (selexWrite none exSlxAnn2))
    = (.ok (selexProject (selexCfg none) exSlxAnn2), []) := selex_roundtrip_ann_text exSlxAnn2 exSlxAnn2_writable
example : selexProject (selexCfg none) exSlxAnn2 = exSlxAnn2 := by decide +kernel
example : selexWrite none (selexProject (selexCfg none) exSlxAnn2) = selexWrite none exSlxAnn2 :=
  selex_ann_rewrite_same exSlxAnn2 exSlxAnn2_writable
example : (selexLines none exSlxAnn2).length = 13 := by decide +kernel

/-- the same digitised with the DNA alphabet (A=0 C=1 G=2 gap=4 missing=17) -/
def exSlxAnn2Dna : Msa :=
  { digital := true, kp := 18, alen := 61, names := exSlxAnn2.names,
    ax := [255 :: (List.replicate 30 0 ++ [4] ++ List.replicate 30 1) ++ [255], 255 :: ([17] ++ List.replicate 59 2 ++ [4]) ++ [255]],
    wgt := [.dflt, .dflt], rf := exSlxAnn2.rf, ssCons := exSlxAnn2.ssCons, ss := exSlxAnn2.ss, sa := exSlxAnn2.sa }

theorem exSlxAnn2Dna_writable : SelexAnnDigitalWritable abcDna exSlxAnn2Dna :=
  { dig := rfl, ann := by constructor <;> decide +kernel, n1 := by decide, alen1 := by decide
    name_ok := by unfold selexNameOk sqTagOk nameOk; decide +kernel
    row_ok := by decide +kernel }

example : selexRead (selexCfg (some abcDna)) (splitLines (selexWrite (some abcDna) exSlxAnn2Dna))
    = (.ok (selexProject (selexCfg (some abcDna)) exSlxAnn2Dna), []) :=
  selex_roundtrip_ann_digital abcDna (.inr (.inl rfl)) exSlxAnn2Dna exSlxAnn2Dna_writable
example : (selexProject (selexCfg (some abcDna)) exSlxAnn2Dna).ss = exSlxAnn2Dna.ss := by decide +kernel

/-- the white-space condition is needed: a `#=RF` string that begins with a blank comes back beginning with `.` -/
example : (selexRead (selexCfg none) (splitLines (selexWrite none
    { alen := 2, names := [[97]], aseq := [[65, 67]], wgt := [.dflt], rf := some [32, 120] }))).1
    = .ok { alen := 2, names := [[97]], aseq := [[65, 67]], wgt := [.dflt], rf := some [46, 120] } := by
  rw [selexCfg_text]
  decide +kernel

/-! ### A2M

Round trip through `esl_msafile_a2m_Write` (`a2mWrite`, dotless, 60 per line) and `esl_msafile_a2m_Read`.
`A2mTextWritable` / `A2mDigitalWritable` say which alignments are covered: ≥ 1 sequence, ≥ 1 column, names without
blank/tab/NUL, descriptions that do not start with a blank and hold no NUL, no LF inside / CR at the end of a name line,
no separate accessions (A2M prints them into the description), rows of `alen` symbols / well-formed digital rows, and
EVERY COLUMN A CONSENSUS COLUMN (`msa->rf` alphanumeric everywhere or, without `rf`, the first sequence a residue
everywhere), so that the dotless output has no insert columns.  Any size (`alen` > 60: several lines per record).
`a2mProject` is what A2M represents of such an alignment: names, descriptions, `rf` = `x` in every column, default
weights, and the rows AS WRITTEN: letters upper-cased, `O`/`o` (pyrrolysine) as `X` / the unknown residue, every
non-residue symbol (text: non-letters; digital: gap, `*`, `~`) as `-` / the gap (`a2mRow_text`, `a2mRow_digital`);
rows made of upper-case letters other than `O` and `-` come back unchanged (`a2m_preserves_names_rows`).
The theorems of this first part are for alignments WITHOUT insert columns; the second part below ("A2M, alignments with
insert columns") takes any `msa->rf` (or none: first sequence as consensus), the reader's padding phase included, and subsumes
the first (`a2m_ins_subsumes…`).  Not covered: separate accessions (`msa->sqacc`; the writer prints them into the description),
and the non-dotless output (`do_dotless = FALSE` is not reachable through the API). -/

theorem a2m_write_deterministic (abc : Option Abc) (m₁ m₂ : Msa) (h : m₁ = m₂) : a2mWrite abc m₁ = a2mWrite abc m₂ := by rw [h]

theorem a2mDigSymOk_of (a : Abc) (ha : a = abcAmino ∨ a = abcDna ∨ a = abcRna) : a2mDigSymOk a = true :=
  a2mDigSymOk_of_wf (wf_std ha)

/-- **A2M round trip, text mode**: `read (write m) = ok (project m)`, nothing left unread -/
theorem a2m_roundtrip_text (m : Msa) (h : A2mTextWritable m) :
    a2mRead (a2mCfg none) (splitLines (a2mWrite none m)) = (.ok (a2mProject none (a2mCfg none) id m), []) :=
  a2mRead_write (a2mTextWritable_writable m h)

theorem a2m_roundtrip_digital (a : Abc) (ha : a = abcAmino ∨ a = abcDna ∨ a = abcRna) (m : Msa) (h : A2mDigitalWritable a m) :
    a2mRead (a2mCfg (some a)) (splitLines (a2mWrite (some a) m))
      = (.ok (a2mProject (some a) (a2mCfg (some a)) (a2mEnc a) m), []) :=
  a2mRead_write (a2mDigitalWritable_writable a (a2mDigSymOk_of a ha) m h)

theorem a2m_roundtrip (abc : Option Abc) (cfg : Cfg) (enc : UInt8 → UInt8) (m : Msa) (h : A2mWritable abc cfg enc m) :
    a2mRead cfg (splitLines (a2mWrite abc m)) = (.ok (a2mProject abc cfg enc m), []) :=
  a2mRead_write h

/-- what comes back in text mode: names, `alen`, and each row with letters upper-cased, `O`/`o` as `X`, anything else as `-` -/
theorem a2m_rows_text (m : Msa) (h : A2mTextWritable m) :
    (a2mProject none (a2mCfg none) id m).names = m.names ∧ (a2mProject none (a2mCfg none) id m).alen = m.alen ∧
    ∀ i, i < m.nseq → (a2mProject none (a2mCfg none) id m).aseq.getD i [] = (m.aseq.getD i []).map a2mTextNorm :=
  ⟨rfl, rfl, fun i hi => (getD_map_range _ _ i [] hi).trans (a2mRow_text m h i hi)⟩

/-- what A2M preserves exactly: names and rows made of upper-case letters other than `O` and of `-` -/
theorem a2m_preserves_names_rows (m : Msa) (h : A2mTextWritable m)
    (hr : ∀ i, i < m.nseq → ∀ t ∈ m.aseq.getD i [], consChar t) :
    (a2mProject none (a2mCfg none) id m).names = m.names ∧ (a2mProject none (a2mCfg none) id m).alen = m.alen ∧
    ∀ i, i < m.nseq → (a2mProject none (a2mCfg none) id m).aseq.getD i [] = m.aseq.getD i [] :=
  ⟨rfl, rfl, fun i hi => (getD_map_range _ _ i [] hi).trans (a2mRow_text_exact m h i hi (hr i hi))⟩

/-- what comes back in digital mode: code for code, except `O` → unknown residue and `*`, `~` → gap -/
theorem a2m_rows_digital (a : Abc) (ha : a = abcAmino ∨ a = abcDna ∨ a = abcRna) (m : Msa) (h : A2mDigitalWritable a m) :
    ∀ i, i < m.nseq → (a2mProject (some a) (a2mCfg (some a)) (a2mEnc a) m).ax.getD i []
      = dsqSENTINEL :: (List.range m.alen).map (fun p => a2mDigNorm a (axAt m i p)) ++ [dsqSENTINEL] :=
  fun i hi => (getD_map_range _ _ i [] hi).trans (a2mRow_digital a (a2mDigSymOk_of a ha) m h i hi)

/-- names "a", "bb"; rows "ACDGT", "A-gOT"; description "d e" on the first -/
def exA2m : Msa :=
  { alen := 5, names := [[97], [98, 98]], aseq := [[65, 67, 68, 71, 84], [65, 45, 103, 79, 84]],
    wgt := [.dflt, .dflt], sqdesc := some [some [100, 32, 101], none] }

example : (a2mProject none (a2mCfg none) id exA2m).aseq = [[65, 67, 68, 71, 84], [65, 45, 71, 88, 84]] := by decide +kernel
example : (a2mProject none (a2mCfg none) id exA2m).sqdesc = exA2m.sqdesc := by decide +kernel
example : (a2mProject none (a2mCfg none) id exA2m).rf = some [120, 120, 120, 120, 120] := by decide +kernel

/-- 61 columns: two lines per record -/
def exA2mLong : Msa :=
  { alen := 61, names := [[97], [98]], aseq := [List.replicate 61 65, List.replicate 60 45 ++ [67]], wgt := [.dflt, .dflt] }

example : (a2mLines none exA2mLong).length = 6 := by decide +kernel
example : (a2mProject none (a2mCfg none) id exA2mLong).aseq = exA2mLong.aseq := by decide +kernel

/-- DNA: rows A C G T / A - N * ; the second comes back as A - N - -/
def exA2mDna : Msa :=
  { digital := true, kp := 18, alen := 4, names := [[97], [98]], ax := [[255, 0, 1, 2, 3, 255], [255, 0, 4, 15, 16, 255]],
    wgt := [.dflt, .dflt] }

example : (a2mProject (some abcDna) (a2mCfg (some abcDna)) (a2mEnc abcDna) exA2mDna).ax
    = [[255, 0, 1, 2, 3, 255], [255, 0, 4, 15, 4, 255]] := by decide +kernel
example : a2mWrite (some abcDna) (a2mProject (some abcDna) (a2mCfg (some abcDna)) (a2mEnc abcDna) exA2mDna)
    = a2mWrite (some abcDna) exA2mDna := by decide +kernel
example : a2mWrite none (a2mProject none (a2mCfg none) id exA2m) = a2mWrite none exA2m := by decide +kernel

theorem lt_two_cases (i : Nat) (h : i < 2) : i = 0 ∨ i = 1 := by omega

theorem exA2m_writable : A2mTextWritable exA2m :=
  { dig := rfl, n1 := by decide, alen1 := by decide, acc_none := rfl
    name_ok := by unfold nameOk; decide +kernel
    desc_ok := fun i hi d hd => by
      rcases lt_two_cases i hi with rfl | rfl
      · cases hd
        exact ⟨⟨100, [32, 101], rfl, by decide⟩, by decide⟩
      · cases hd
    hdr_line := by unfold lineOk; decide +kernel
    row_len := by decide +kernel
    cons_ok := by decide +kernel }

example : a2mRead (a2mCfg none) (splitLines (a2mWrite none exA2m)) = (.ok (a2mProject none (a2mCfg none) id exA2m), []) :=
  a2m_roundtrip_text exA2m exA2m_writable

theorem exA2mDna_writable : A2mDigitalWritable abcDna exA2mDna :=
  { dig := rfl, n1 := by decide, alen1 := by decide, acc_none := rfl
    name_ok := by unfold nameOk; decide +kernel
    desc_ok := fun _ _ _ hd => nomatch hd
    hdr_line := by unfold lineOk; decide +kernel
    row_ok := by decide +kernel
    cons_ok := by decide +kernel }

example : a2mRead (a2mCfg (some abcDna)) (splitLines (a2mWrite (some abcDna) exA2mDna))
    = (.ok (a2mProject (some abcDna) (a2mCfg (some abcDna)) (a2mEnc abcDna) exA2mDna), []) :=
  a2m_roundtrip_digital abcDna (.inr (.inl rfl)) exA2mDna exA2mDna_writable

theorem exA2mLong_writable : A2mTextWritable exA2mLong :=
  { dig := rfl, n1 := by decide, alen1 := by decide, acc_none := rfl
    name_ok := by unfold nameOk; decide +kernel
    desc_ok := fun _ _ _ hd => nomatch hd
    hdr_line := by unfold lineOk; decide +kernel
    row_len := by decide +kernel
    cons_ok := by decide +kernel }

example : a2mRead (a2mCfg none) (splitLines (a2mWrite none exA2mLong))
    = (.ok (a2mProject none (a2mCfg none) id exA2mLong), []) := a2m_roundtrip_text exA2mLong exA2mLong_writable

/-! ### A2M, alignments with insert columns (the consensus / insert case convention)

`A2mInsTextWritable` / `A2mInsDigitalWritable a` drop the "every column a consensus column" and "≥ 1 column" conditions: any
`msa->rf` (or none), any mixture of consensus and insert columns, even none of either; a record may even print no character at
all (no consensus column and no residue in the row: the reader's `thislen == 0` edge case).  `a2mProjectIns` is what A2M
represents of such an alignment (see its definition in `A2mInsRoundTrip.lean`): the `ncons` consensus columns, and `ncons + 1` blocks of insert columns, block
`j` as wide as the longest run of inserted residues any sequence has between consensus columns `j-1` and `j`; inside a
block every sequence's inserted residues are left-justified and padded on the right with `.` (text) / the gap code
(digital); insert columns that hold no residue in any sequence vanish; `rf` is `x` on consensus columns, `.` on insert
columns; consensus residues upper case, inserted residues lower case, `O`/`o` as `X`/`x` (the unknown residue). -/

theorem a2mDigInsOk_of (a : Abc) (ha : a = abcAmino ∨ a = abcDna ∨ a = abcRna) : a2mDigInsOk a = true :=
  a2mDigInsOk_of_wf (wf_std ha)

/-- **A2M round trip with insert columns, text mode**: `read (write m) = ok (projectIns m)`, nothing left unread -/
theorem a2m_roundtrip_ins_text (m : Msa) (h : A2mInsTextWritable m) :
    a2mRead (a2mCfg none) (splitLines (a2mWrite none m)) = (.ok (a2mProjectIns none (a2mCfg none) id m), []) :=
  a2mRead_write_ins (a2mInsTextWritable_writable m h)

theorem a2m_roundtrip_ins_digital (a : Abc) (ha : a = abcAmino ∨ a = abcDna ∨ a = abcRna) (m : Msa) (h : A2mInsDigitalWritable a m) :
    a2mRead (a2mCfg (some a)) (splitLines (a2mWrite (some a) m))
      = (.ok (a2mProjectIns (some a) (a2mCfg (some a)) (a2mEnc a) m), []) :=
  a2mRead_write_ins (a2mInsDigitalWritable_writable a (a2mDigSymOk_of a ha) (a2mDigInsOk_of a ha) m h)

theorem a2m_roundtrip_ins (abc : Option Abc) (cfg : Cfg) (enc : UInt8 → UInt8) (m : Msa) (h : A2mInsWritable abc cfg enc m) :
    a2mRead cfg (splitLines (a2mWrite abc m)) = (.ok (a2mProjectIns abc cfg enc m), []) :=
  a2mRead_write_ins h

theorem a2m_ins_write_accepted (m : Msa) (h : A2mInsTextWritable m) :
    (∃ m', (a2mRead (a2mCfg none) (splitLines (a2mWrite none m))).1 = .ok m' ∧ m'.wellFormed = true) ∧
    (a2mRead (a2mCfg none) (a2mRead (a2mCfg none) (splitLines (a2mWrite none m))).2).1 = .eof :=
  accepted_of_roundtrip (a2m_roundtrip_ins_text m h) (a2mRead_good _ (a2mCfg_valid abcOk_none) (a2mCfg_a2mValid abcOk_none)) (by simp [a2mRead, runLines, a2mFinish])

theorem a2m_ins_write_accepted_digital (a : Abc) (ha : a = abcAmino ∨ a = abcDna ∨ a = abcRna) (m : Msa)
    (h : A2mInsDigitalWritable a m) :
    (∃ m', (a2mRead (a2mCfg (some a)) (splitLines (a2mWrite (some a) m))).1 = .ok m' ∧ m'.wellFormed = true) ∧
    (a2mRead (a2mCfg (some a)) (a2mRead (a2mCfg (some a)) (splitLines (a2mWrite (some a) m))).2).1 = .eof :=
  accepted_of_roundtrip (a2m_roundtrip_ins_digital a ha m h) (a2mRead_good _ (a2mCfg_valid (abcOk_std ha)) (a2mCfg_a2mValid (abcOk_std ha)))
    (by simp [a2mRead, runLines, a2mFinish])

/-- 3 sequences, 7 columns, `rf` = `x..x..x`: rows `A-cC..G`, `a..C.GT`, `-cdC..T`.
    Column 4 is an all-gap insert column (vanishes); `c` of the first row moves left and is padded (`c.`); the lower-case `a`
    in a consensus column comes back as `A`, the upper-case `G` in an insert column as `g`. -/
def exA2mIns : Msa :=
  { alen := 7, names := [[97], [98], [99]],
    aseq := [[65, 45, 99, 67, 46, 46, 71], [97, 46, 46, 67, 46, 71, 84], [45, 99, 100, 67, 46, 46, 84]],
    wgt := [.dflt, .dflt, .dflt], rf := some [120, 46, 46, 120, 46, 46, 120] }

example : a2mWrite none exA2mIns
    = [62, 97, 10, 65, 99, 67, 71, 10, 62, 98, 10, 65, 67, 103, 84, 10, 62, 99, 10, 45, 99, 100, 67, 84, 10] := by decide +kernel
example : (a2mProjectIns none (a2mCfg none) id exA2mIns).alen = 6 := by decide +kernel
example : (a2mProjectIns none (a2mCfg none) id exA2mIns).aseq
    = [[65, 99, 46, 67, 46, 71], [65, 46, 46, 67, 103, 84], [45, 99, 100, 67, 46, 84]] := by decide +kernel
example : (a2mProjectIns none (a2mCfg none) id exA2mIns).rf = some [120, 46, 46, 120, 46, 120] := by decide +kernel
example : a2mNins none exA2mIns = [0, 2, 1, 0] := by decide +kernel

theorem lt_three_cases (i : Nat) (h : i < 3) : i = 0 ∨ i = 1 ∨ i = 2 := by omega

theorem exA2mIns_writable : A2mInsTextWritable exA2mIns :=
  { dig := rfl, n1 := by decide, acc_none := rfl
    name_ok := by unfold nameOk; decide +kernel
    desc_ok := fun _ _ _ hd => nomatch hd
    hdr_line := by unfold lineOk; decide +kernel
    row_len := by decide +kernel }

example : a2mRead (a2mCfg none) (splitLines (a2mWrite none exA2mIns))
    = (.ok (a2mProjectIns none (a2mCfg none) id exA2mIns), []) := a2m_roundtrip_ins_text exA2mIns exA2mIns_writable

/-- DNA, `rf` = `x.x..x`: rows `A c G - - T`, `A - - - - T`, `- - G - t T`; column 3 vanishes, the pad is the gap code 4 -/
def exA2mInsDna : Msa :=
  { digital := true, kp := 18, alen := 6, names := [[97], [98], [99]],
    ax := [[255, 0, 1, 2, 4, 4, 3, 255], [255, 0, 4, 4, 4, 4, 3, 255], [255, 4, 4, 2, 4, 3, 3, 255]],
    wgt := [.dflt, .dflt, .dflt], rf := some [120, 46, 120, 46, 46, 120] }

example : (a2mProjectIns (some abcDna) (a2mCfg (some abcDna)) (a2mEnc abcDna) exA2mInsDna).ax
    = [[255, 0, 1, 2, 4, 3, 255], [255, 0, 4, 4, 4, 3, 255], [255, 4, 4, 2, 3, 3, 255]] := by decide +kernel
example : (a2mProjectIns (some abcDna) (a2mCfg (some abcDna)) (a2mEnc abcDna) exA2mInsDna).rf
    = some [120, 46, 120, 46, 120] := by decide +kernel

theorem exA2mInsDna_writable : A2mInsDigitalWritable abcDna exA2mInsDna :=
  { dig := rfl, n1 := by decide, acc_none := rfl
    name_ok := by unfold nameOk; decide +kernel
    desc_ok := fun _ _ _ hd => nomatch hd
    hdr_line := by unfold lineOk; decide +kernel
    row_ok := by decide +kernel }

example : a2mRead (a2mCfg (some abcDna)) (splitLines (a2mWrite (some abcDna) exA2mInsDna))
    = (.ok (a2mProjectIns (some abcDna) (a2mCfg (some abcDna)) (a2mEnc abcDna) exA2mInsDna), []) :=
  a2m_roundtrip_ins_digital abcDna (.inr (.inl rfl)) exA2mInsDna exA2mInsDna_writable

/-- 62 columns, column 30 an insert column: two lines per record (60 + 2 and 60 + 1 characters) -/
def exA2mInsLong : Msa :=
  { alen := 62, names := [[97], [98]],
    aseq := [List.replicate 62 65, List.replicate 30 67 ++ [46] ++ List.replicate 31 67], wgt := [.dflt, .dflt],
    rf := some (List.replicate 30 120 ++ [46] ++ List.replicate 31 120) }

example : (a2mLines none exA2mInsLong).map List.length = [2, 60, 2, 2, 60, 1] := by decide +kernel

theorem exA2mInsLong_writable : A2mInsTextWritable exA2mInsLong :=
  { dig := rfl, n1 := by decide, acc_none := rfl
    name_ok := by unfold nameOk; decide +kernel
    desc_ok := fun _ _ _ hd => nomatch hd
    hdr_line := by unfold lineOk; decide +kernel
    row_len := by decide +kernel }

example : a2mRead (a2mCfg none) (splitLines (a2mWrite none exA2mInsLong))
    = (.ok (a2mProjectIns none (a2mCfg none) id exA2mInsLong), []) := a2m_roundtrip_ins_text exA2mInsLong exA2mInsLong_writable
example : (a2mProjectIns none (a2mCfg none) id exA2mInsLong).aseq
    = [List.replicate 30 65 ++ [97] ++ List.replicate 31 65, List.replicate 30 67 ++ [46] ++ List.replicate 31 67] := by
  decide +kernel

/-- no consensus column at all; the second record prints nothing (a name line only): rows `ac`, `..`, `.g` come back as
    `ac`, `..`, `g.`; and an alignment of zero columns -/
def exA2mInsEmpty : Msa :=
  { alen := 2, names := [[97], [98], [99]], aseq := [[97, 99], [46, 46], [46, 103]], wgt := [.dflt, .dflt, .dflt],
    rf := some [46, 46] }

example : a2mWrite none exA2mInsEmpty = [62, 97, 10, 97, 99, 10, 62, 98, 10, 62, 99, 10, 103, 10] := by decide +kernel
example : (a2mProjectIns none (a2mCfg none) id exA2mInsEmpty).aseq = [[97, 99], [46, 46], [103, 46]] := by decide +kernel
example : (a2mProjectIns none (a2mCfg none) id exA2mInsEmpty).rf = some [46, 46] := by decide +kernel

theorem exA2mInsEmpty_writable : A2mInsTextWritable exA2mInsEmpty :=
  { dig := rfl, n1 := by decide, acc_none := rfl
    name_ok := by unfold nameOk; decide +kernel
    desc_ok := fun _ _ _ hd => nomatch hd
    hdr_line := by unfold lineOk; decide +kernel
    row_len := by decide +kernel }

example : a2mRead (a2mCfg none) (splitLines (a2mWrite none exA2mInsEmpty))
    = (.ok (a2mProjectIns none (a2mCfg none) id exA2mInsEmpty), []) := a2m_roundtrip_ins_text exA2mInsEmpty exA2mInsEmpty_writable

theorem a2mDigCellFixB_of (a : Abc) (ha : a = abcAmino ∨ a = abcDna ∨ a = abcRna) : a2mDigCellFixB a = true :=
  a2mDigCellFixB_of_wf (wf_std ha)

theorem a2m_ins_rewrite_same_text (m : Msa) (h : A2mInsTextWritable m) :
    ∃ m', (a2mRead (a2mCfg none) (splitLines (a2mWrite none m))).1 = .ok m' ∧ a2mWrite none m' = a2mWrite none m :=
  ⟨a2mProjectIns none (a2mCfg none) id m, by rw [a2m_roundtrip_ins_text m h], a2mWrite_projectIns_text m h⟩

theorem a2m_ins_rewrite_same_digital (a : Abc) (ha : a = abcAmino ∨ a = abcDna ∨ a = abcRna) (m : Msa)
    (h : A2mInsDigitalWritable a m) :
    ∃ m', (a2mRead (a2mCfg (some a)) (splitLines (a2mWrite (some a) m))).1 = .ok m' ∧ a2mWrite (some a) m' = a2mWrite (some a) m :=
  ⟨a2mProjectIns (some a) (a2mCfg (some a)) (a2mEnc a) m, by rw [a2m_roundtrip_ins_digital a ha m h],
    a2mWrite_projectIns_digital a (a2mDigSymOk_of a ha) (a2mDigInsOk_of a ha) (a2mDigCellFixB_of a ha) m h⟩

/-- the general form: `write (projectIns m) = write m` whenever every printed character, read back and printed again in a
    column of its kind (`x` / `.`), is itself and the padding symbol prints as nothing in an insert column -/
theorem a2m_ins_rewrite_same (abc : Option Abc) (cfg : Cfg) (enc : UInt8 → UInt8) (m : Msa) (h : A2mInsWritable abc cfg enc m)
    (hd : cfg.digital = abc.isSome) (hpad : a2mCell abc 46 cfg.padSym = none)
    (hrow : ∀ i, i < m.nseq → ∀ t ∈ a2mWr abc m i, a2mCell abc (if isLower t then 46 else 120) (enc t) = some t) :
    a2mWrite abc (a2mProjectIns abc cfg enc m) = a2mWrite abc m :=
  a2mWrite_projectIns h hd hpad hrow

/-! The acceptance and re-writing theorems of the insert-free part are those with insert columns, applied through
`a2mTextWritable_ins` / `a2mDigitalWritable_ins`. -/

theorem a2m_write_accepted (m : Msa) (h : A2mTextWritable m) :
    (∃ m', (a2mRead (a2mCfg none) (splitLines (a2mWrite none m))).1 = .ok m' ∧ m'.wellFormed = true) ∧
    (a2mRead (a2mCfg none) (a2mRead (a2mCfg none) (splitLines (a2mWrite none m))).2).1 = .eof :=
  a2m_ins_write_accepted m (a2mTextWritable_ins m h)

theorem a2m_write_accepted_digital (a : Abc) (ha : a = abcAmino ∨ a = abcDna ∨ a = abcRna) (m : Msa) (h : A2mDigitalWritable a m) :
    (∃ m', (a2mRead (a2mCfg (some a)) (splitLines (a2mWrite (some a) m))).1 = .ok m' ∧ m'.wellFormed = true) ∧
    (a2mRead (a2mCfg (some a)) (a2mRead (a2mCfg (some a)) (splitLines (a2mWrite (some a) m))).2).1 = .eof :=
  a2m_ins_write_accepted_digital a ha m (a2mDigitalWritable_ins a m h)

theorem a2m_rewrite_same_text (m : Msa) (h : A2mTextWritable m) :
    ∃ m', (a2mRead (a2mCfg none) (splitLines (a2mWrite none m))).1 = .ok m' ∧ a2mWrite none m' = a2mWrite none m :=
  a2m_ins_rewrite_same_text m (a2mTextWritable_ins m h)

theorem a2m_rewrite_same_digital (a : Abc) (ha : a = abcAmino ∨ a = abcDna ∨ a = abcRna) (m : Msa) (h : A2mDigitalWritable a m) :
    ∃ m', (a2mRead (a2mCfg (some a)) (splitLines (a2mWrite (some a) m))).1 = .ok m' ∧ a2mWrite (some a) m' = a2mWrite (some a) m :=
  a2m_ins_rewrite_same_digital a ha m (a2mDigitalWritable_ins a m h)

/-- the theorems with insert columns subsume the insert-free ones: an `A2mTextWritable` alignment is `A2mInsTextWritable`,
    and for it `a2mProjectIns` is `a2mProject` -/
theorem a2m_ins_subsumes_text (m : Msa) (h : A2mTextWritable m) :
    A2mInsTextWritable m ∧ a2mProjectIns none (a2mCfg none) id m = a2mProject none (a2mCfg none) id m :=
  ⟨a2mTextWritable_ins m h, a2mProjectIns_eq_project_text m h⟩

theorem a2m_ins_subsumes_digital (a : Abc) (ha : a = abcAmino ∨ a = abcDna ∨ a = abcRna) (m : Msa) (h : A2mDigitalWritable a m) :
    A2mInsDigitalWritable a m ∧
    a2mProjectIns (some a) (a2mCfg (some a)) (a2mEnc a) m = a2mProject (some a) (a2mCfg (some a)) (a2mEnc a) m :=
  ⟨a2mDigitalWritable_ins a m h, a2mProjectIns_eq_project_digital a (a2mDigSymOk_of a ha) m h⟩

/-- the general form: every column a consensus column -/
theorem a2m_ins_subsumes (abc : Option Abc) (cfg : Cfg) (enc : UInt8 → UInt8) (m : Msa) (h : A2mWritable abc cfg enc m)
    (hc : ∀ pos, pos < m.alen → isConsensusCol abc m pos = true) :
    A2mInsWritable abc cfg enc m ∧ a2mProjectIns abc cfg enc m = a2mProject abc cfg enc m :=
  ⟨a2mWritable_ins h hc, a2mProjectIns_eq_project h hc⟩

example : a2mWrite none (a2mProjectIns none (a2mCfg none) id exA2mIns) = a2mWrite none exA2mIns :=
  a2mWrite_projectIns_text exA2mIns exA2mIns_writable
example : a2mWrite (some abcDna) (a2mProjectIns (some abcDna) (a2mCfg (some abcDna)) (a2mEnc abcDna) exA2mInsDna)
    = a2mWrite (some abcDna) exA2mInsDna :=
  a2mWrite_projectIns_digital abcDna (a2mDigSymOk_of_wf abcDna_wf) (a2mDigInsOk_of_wf abcDna_wf)
    (a2mDigCellFixB_of_wf abcDna_wf) exA2mInsDna exA2mInsDna_writable
example : a2mWrite none (a2mProjectIns none (a2mCfg none) id exA2mInsLong) = a2mWrite none exA2mInsLong :=
  a2mWrite_projectIns_text exA2mInsLong exA2mInsLong_writable
example : a2mProjectIns none (a2mCfg none) id exA2m = a2mProject none (a2mCfg none) id exA2m := by decide +kernel
example : a2mProjectIns (some abcDna) (a2mCfg (some abcDna)) (a2mEnc abcDna) exA2mDna
    = a2mProject (some abcDna) (a2mCfg (some abcDna)) (a2mEnc abcDna) exA2mDna := by decide +kernel
example : ∃ m', (a2mRead (a2mCfg none) (splitLines (a2mWrite none exA2mIns))).1 = .ok m' ∧ a2mWrite none m' = a2mWrite none exA2mIns :=
  a2m_ins_rewrite_same_text exA2mIns exA2mIns_writable
example : A2mInsTextWritable exA2m ∧ a2mProjectIns none (a2mCfg none) id exA2m = a2mProject none (a2mCfg none) id exA2m :=
  a2m_ins_subsumes_text exA2m exA2m_writable

/-- what comes back (any mode): names, default weights, `alen` = consensus columns + the widths of the blocks of insert
    columns, `rf` = `.` over every block and `x` on every consensus column -/
theorem a2m_ins_shape (abc : Option Abc) (cfg : Cfg) (enc : UInt8 → UInt8) (m : Msa) :
    (a2mProjectIns abc cfg enc m).names = m.names ∧
    (a2mProjectIns abc cfg enc m).alen = a2mNcons abc m + (a2mNins abc m).sum ∧
    (a2mProjectIns abc cfg enc m).rf = some (rfOf (a2mNins abc m)) ∧
    (a2mProjectIns abc cfg enc m).wgt = List.replicate m.nseq Wgt.dflt ∧
    (a2mProjectIns abc cfg enc m).sqacc = none :=
  ⟨rfl, rfl, rfl, rfl, rfl⟩

/-- what comes back in text mode, row by row: the characters written for the row (`a2mWr`: letters of consensus columns upper
    case, other symbols of consensus columns `-`, letters of insert columns lower case, `O`/`o` as `X`/`x`, nothing else),
    cut at the consensus characters, every run of inserts padded with `.` to the width of its block -/
theorem a2m_ins_rows_text (m : Msa) (i : Nat) (hi : i < m.nseq) :
    (a2mProjectIns none (a2mCfg none) id m).aseq.getD i [] = padSegs 46 (a2mNins none m) (splitRow (a2mWr none m i)) :=
  a2mInsRow_text m i hi

/-- … and in digital mode: the codes the written characters are read back as, padded with the gap code -/
theorem a2m_ins_rows_digital (a : Abc) (m : Msa) (i : Nat) (hi : i < m.nseq) :
    (a2mProjectIns (some a) (a2mCfg (some a)) (a2mEnc a) m).ax.getD i []
      = dsqSENTINEL :: padSegs a.gap (a2mNins (some a) m) (segMap (a2mEnc a) (splitRow (a2mWr (some a) m i))) ++ [dsqSENTINEL] :=
  a2mInsRow_digital a m i hi

example : splitRow (a2mWr none exA2mIns 2) = ([], [(45, [99, 100]), (67, []), (84, [])]) := by decide +kernel
example : padSegs 46 [0, 2, 1, 0] ([], [(65, [99]), (67, []), (71, [])]) = [65, 99, 46, 67, 46, 71] := by decide +kernel

/-! ## Clustal / PSI-BLAST

Clustal (`like = false`, header `CLUSTAL 2.1 multiple sequence alignment`) and Clustal-like (`like = true`, header
`EASEL (<version>) multiple sequence alignment`), any number of 60-column blocks.
`ClustalTextWritable` / `ClustalDigitalWritable` say what Clustal can carry through `esl_msafile_clustal_Read`:
≥ 1 sequence, ≥ 1 column, names not empty and without white space (the reader splits the line on `isspace`) or NUL,
text residues graphic, digital rows well formed, and no row AFTER THE FIRST of a block may look like a consensus line
(`esl_memspn(p, n, " .:*") == n` ends the block): its name holds a character outside `" .:*"`, or all its residues do
(digital: no `*` code in the row).  `clustalProject` is what Clustal represents: names, aligned rows, default weights. -/

theorem clustal_write_deterministic (like : Bool) (abc : Option Abc) (m₁ m₂ : Msa) (h : m₁ = m₂) :
    clustalWrite like abc m₁ = clustalWrite like abc m₂ := by rw [h]

theorem cluDigSymOk_of (a : Abc) (ha : a = abcAmino ∨ a = abcDna ∨ a = abcRna) : cluDigSymOk a = true :=
  cluDigSymOk_of_wf (wf_std ha)

theorem clustal_roundtrip_text (like : Bool) (m : Msa) (h : ClustalTextWritable m) :
    clustalRead like (clustalCfg none) (splitLines (clustalWrite like none m)) = (.ok (clustalProject (clustalCfg none) m), []) :=
  clustalRead_write like none (clustalCfg none) id _ m (clustalTextWritable_writable m h)

theorem clustal_roundtrip_digital (like : Bool) (a : Abc) (ha : a = abcAmino ∨ a = abcDna ∨ a = abcRna) (m : Msa)
    (h : ClustalDigitalWritable a m) :
    clustalRead like (clustalCfg (some a)) (splitLines (clustalWrite like (some a) m))
      = (.ok (clustalProject (clustalCfg (some a)) m), []) :=
  clustalRead_write like (some a) (clustalCfg (some a)) (cluEnc a) _ m (clustalDigitalWritable_writable a (cluDigSymOk_of a ha) m h)

theorem clustal_roundtrip (like : Bool) (abc : Option Abc) (cfg : Cfg) (enc : UInt8 → UInt8) (txt : Nat → Bytes) (m : Msa)
    (h : ClustalWritable abc cfg enc txt m) :
    clustalRead like cfg (splitLines (clustalWrite like abc m)) = (.ok (clustalProject cfg m), []) :=
  clustalRead_write like abc cfg enc txt m h

theorem clustal_write_accepted (like : Bool) (m : Msa) (h : ClustalTextWritable m) :
    (∃ m', (clustalRead like (clustalCfg none) (splitLines (clustalWrite like none m))).1 = .ok m' ∧ m'.wellFormed = true) ∧
    (clustalRead like (clustalCfg none) (clustalRead like (clustalCfg none) (splitLines (clustalWrite like none m))).2).1 = .eof :=
  accepted_of_roundtrip (clustal_roundtrip_text like m h) (clustalRead_good like _ (clustalCfg_valid abcOk_none)) rfl

theorem clustal_write_accepted_digital (like : Bool) (a : Abc) (ha : a = abcAmino ∨ a = abcDna ∨ a = abcRna) (m : Msa)
    (h : ClustalDigitalWritable a m) :
    (∃ m', (clustalRead like (clustalCfg (some a)) (splitLines (clustalWrite like (some a) m))).1 = .ok m' ∧ m'.wellFormed = true) ∧
    (clustalRead like (clustalCfg (some a))
      (clustalRead like (clustalCfg (some a)) (splitLines (clustalWrite like (some a) m))).2).1 = .eof :=
  accepted_of_roundtrip (clustal_roundtrip_digital like a ha m h)
    (clustalRead_good like _ (clustalCfg_valid (abcOk_std ha))) rfl

theorem clustal_rewrite_same_text (like : Bool) (m : Msa) (h : ClustalTextWritable m) :
    ∃ m', (clustalRead like (clustalCfg none) (splitLines (clustalWrite like none m))).1 = .ok m' ∧
      clustalWrite like none m' = clustalWrite like none m :=
  ⟨clustalProject (clustalCfg none) m, by rw [clustal_roundtrip_text like m h], clustalWrite_project_text like m h⟩

theorem clustal_rewrite_same_digital (like : Bool) (a : Abc) (ha : a = abcAmino ∨ a = abcDna ∨ a = abcRna) (m : Msa)
    (h : ClustalDigitalWritable a m) :
    ∃ m', (clustalRead like (clustalCfg (some a)) (splitLines (clustalWrite like (some a) m))).1 = .ok m' ∧
      clustalWrite like (some a) m' = clustalWrite like (some a) m :=
  ⟨clustalProject (clustalCfg (some a)) m, by rw [clustal_roundtrip_digital like a ha m h], clustalWrite_project_digital like a m h⟩

theorem clustal_preserves_names_rows (m : Msa) (h : ClustalTextWritable m) :
    (clustalProject (clustalCfg none) m).names = m.names ∧ (clustalProject (clustalCfg none) m).alen = m.alen ∧
    ∀ i, i < m.nseq → (clustalProject (clustalCfg none) m).aseq.getD i [] = m.aseq.getD i [] :=
  ⟨rfl, rfl, storedRows_getD m h.dig⟩

/-! ### non-vacuity: 2 sequences; 3 columns (one block) and 61 columns (two blocks); the second name is `*` -/

def exClu1 : Msa := { alen := 3, names := [str "seq1", str "b"], aseq := [str "ACG", str "A-G"], wgt := [.dflt, .dflt] }

theorem exClu1_writable : ClustalTextWritable exClu1 :=
  { dig := rfl, n1 := by decide, alen1 := by decide
    name_ok := by unfold cluNameOk; decide +kernel
    row_ok := by decide +kernel
    notcons := by decide +kernel }

example : clustalRead false (clustalCfg none) (splitLines (clustalWrite false none exClu1))
    = (.ok (clustalProject (clustalCfg none) exClu1), []) := clustal_roundtrip_text false exClu1 exClu1_writable
example : clustalProject (clustalCfg none) exClu1 = exClu1 := by decide +kernel

/-- two blocks; the name of the second row is `*`: its residues keep it from being taken for a consensus line -/
def exClu : Msa :=
  { alen := 61, names := [[115, 101, 113, 49], [42]],
    aseq := [List.replicate 30 65 ++ [45] ++ List.replicate 30 67, List.replicate 60 71 ++ [63]],
    wgt := [.dflt, .dflt] }

theorem exClu_writable : ClustalTextWritable exClu :=
  { dig := rfl, n1 := by decide, alen1 := by decide
    name_ok := by unfold cluNameOk; decide +kernel
    row_ok := by decide +kernel
    notcons := by decide +kernel }

example : (blockStarts exClu.alen clustalCpl).length = 2 := by decide +kernel
example : clustalRead false (clustalCfg none) (splitLines (clustalWrite false none exClu))
    = (.ok (clustalProject (clustalCfg none) exClu), []) := clustal_roundtrip_text false exClu exClu_writable
example : clustalRead true (clustalCfg none) (splitLines (clustalWrite true none exClu))
    = (.ok (clustalProject (clustalCfg none) exClu), []) := clustal_roundtrip_text true exClu exClu_writable
example : clustalWrite true none (clustalProject (clustalCfg none) exClu) = clustalWrite true none exClu :=
  clustalWrite_project_text true exClu exClu_writable

/-- `notcons` is needed: with the name `*` and a row of `*` the second row of the FIRST block is taken for the consensus
    line, the real consensus line for a blank one, and the read returns eslOK with the first sequence only -/
example : (clustalRead false (clustalCfg none) (splitLines (clustalWrite false none
    { alen := 2, names := [[97], [42]], aseq := [[65, 67], [42, 42]], wgt := [.dflt, .dflt] }))).1
    = .ok { alen := 2, names := [[97]], aseq := [[65, 67]], wgt := [.dflt] } := by
  rw [clustalCfg_text]
  decide +kernel

/-- the same alignment digitised with the DNA alphabet (A=0 C=1 G=2 gap=4 missing=17) -/
def exCluDna : Msa :=
  { digital := true, kp := 18, alen := 61, names := exClu.names,
    ax := [255 :: (List.replicate 30 0 ++ [4] ++ List.replicate 30 1) ++ [255], 255 :: (List.replicate 60 2 ++ [17]) ++ [255]],
    wgt := [.dflt, .dflt] }

theorem exCluDna_writable : ClustalDigitalWritable abcDna exCluDna :=
  { dig := rfl, n1 := by decide, alen1 := by decide
    name_ok := by unfold cluNameOk; decide +kernel
    row_ok := by decide +kernel
    notcons := by decide +kernel }

example : clustalRead true (clustalCfg (some abcDna)) (splitLines (clustalWrite true (some abcDna) exCluDna))
    = (.ok (clustalProject (clustalCfg (some abcDna)) exCluDna), []) :=
  clustal_roundtrip_digital true abcDna (.inr (.inl rfl)) exCluDna exCluDna_writable
example : (clustalProject (clustalCfg (some abcDna)) exCluDna).ax = exCluDna.ax := by decide +kernel

/-! ### PSI-BLAST

`esl_msafile_psiblast_Write` prints consensus columns (by `rf`, else by the first sequence) upper case, the others lower
case, everything that is not a residue as `-`, and `O` as the unknown residue; `esl_msafile_psiblast_Read` builds an RF line
from the case.  `PsiblastTextWritable` restricts to the alignments on which these conventions are the identity: residues
upper-case letters other than `O` or `-`, every column a consensus column or all `-`.  `psiblastProject cfg rf m` is what
comes back: names, rows, default weights, and the RF line `psiRf` (`x` where some row holds a residue, `-` elsewhere). -/

theorem psiblast_write_deterministic (abc : Option Abc) (m₁ m₂ : Msa) (h : m₁ = m₂) :
    psiblastWrite abc m₁ = psiblastWrite abc m₂ := by rw [h]

/-- **PSI-BLAST round trip, text mode**, any number of 60-column blocks -/
theorem psiblast_roundtrip_text (m : Msa) (h : PsiblastTextWritable m) :
    psiblastRead (psiblastCfg none) (splitLines (psiblastWrite none m))
      = (.ok (psiblastProject (psiblastCfg none) (psiRf (fun i => m.aseq.getD i []) m) m), []) :=
  psiblastRead_write none (psiblastCfg none) id _ m (psiblastTextWritable_writable m h)

theorem psiDigSymOk_of (a : Abc) (ha : a = abcAmino ∨ a = abcDna ∨ a = abcRna) : psiDigSymOk a = true :=
  psiDigSymOk_of_wf (wf_std ha)

/-- **PSI-BLAST round trip, digital mode** (amino, DNA, RNA): rows of residue codes (degenerate ones included, not
    pyrrolysine) and gaps, every column a consensus column or all gaps -/
theorem psiblast_roundtrip_digital (a : Abc) (ha : a = abcAmino ∨ a = abcDna ∨ a = abcRna) (m : Msa) (h : PsiblastDigitalWritable a m) :
    psiblastRead (psiblastCfg (some a)) (splitLines (psiblastWrite (some a) m))
      = (.ok (psiblastProject (psiblastCfg (some a)) (psiRf (psiDigTxt a m) m) m), []) :=
  psiblastRead_write (some a) (psiblastCfg (some a)) (psiEnc a) _ m (psiblastDigitalWritable_writable a (psiDigSymOk_of a ha) m h)

/-- the general form (`txt i` = the text written for row `i`, upper-case letters and `-`; `enc` = the input map on them) -/
theorem psiblast_roundtrip (abc : Option Abc) (cfg : Cfg) (enc : UInt8 → UInt8) (txt : Nat → Bytes) (m : Msa)
    (h : PsiblastWritable abc cfg enc txt m) :
    psiblastRead cfg (splitLines (psiblastWrite abc m)) = (.ok (psiblastProject cfg (psiRf txt m) m), []) :=
  psiblastRead_write abc cfg enc txt m h

theorem psiblast_write_accepted (m : Msa) (h : PsiblastTextWritable m) :
    (∃ m', (psiblastRead (psiblastCfg none) (splitLines (psiblastWrite none m))).1 = .ok m' ∧ m'.wellFormed = true) ∧
    (psiblastRead (psiblastCfg none) (psiblastRead (psiblastCfg none) (splitLines (psiblastWrite none m))).2).1 = .eof :=
  accepted_of_roundtrip (psiblast_roundtrip_text m h) (psiblastRead_good _ (psiblastCfg_valid abcOk_none)) rfl

theorem psiblast_write_accepted_digital (a : Abc) (ha : a = abcAmino ∨ a = abcDna ∨ a = abcRna) (m : Msa)
    (h : PsiblastDigitalWritable a m) :
    (∃ m', (psiblastRead (psiblastCfg (some a)) (splitLines (psiblastWrite (some a) m))).1 = .ok m' ∧ m'.wellFormed = true) ∧
    (psiblastRead (psiblastCfg (some a))
      (psiblastRead (psiblastCfg (some a)) (splitLines (psiblastWrite (some a) m))).2).1 = .eof :=
  accepted_of_roundtrip (psiblast_roundtrip_digital a ha m h)
    (psiblastRead_good _ (psiblastCfg_valid (abcOk_std ha))) rfl

/-- **re-writing the re-read alignment reproduces the same bytes**, text mode (although the re-read alignment carries
    an RF line the original need not have) -/
theorem psiblast_rewrite_same_text (m : Msa) (h : PsiblastTextWritable m) :
    ∃ m', (psiblastRead (psiblastCfg none) (splitLines (psiblastWrite none m))).1 = .ok m' ∧
      psiblastWrite none m' = psiblastWrite none m :=
  ⟨_, by rw [psiblast_roundtrip_text m h], psiblastWrite_project_text m h⟩

theorem psiDigResOk_of (a : Abc) (ha : a = abcAmino ∨ a = abcDna ∨ a = abcRna) : psiDigResOk a = true :=
  psiDigResOk_of_wf (wf_std ha)

/-- **re-writing the re-read alignment reproduces the same bytes**, digital mode (amino, DNA, RNA): the re-read alignment
    carries the RF line `psiRf (psiDigTxt a m) m` the original need not have, and the written characters coincide -/
theorem psiblast_rewrite_same_digital (a : Abc) (ha : a = abcAmino ∨ a = abcDna ∨ a = abcRna) (m : Msa)
    (h : PsiblastDigitalWritable a m) :
    ∃ m', (psiblastRead (psiblastCfg (some a)) (splitLines (psiblastWrite (some a) m))).1 = .ok m' ∧
      psiblastWrite (some a) m' = psiblastWrite (some a) m :=
  ⟨_, by rw [psiblast_roundtrip_digital a ha m h],
    psiblastWrite_project_digital a (psiDigSymOk_of a ha) (psiDigResOk_of a ha) m h⟩

theorem psiblast_preserves_names_rows (m : Msa) (h : PsiblastTextWritable m) (rf : Bytes) :
    (psiblastProject (psiblastCfg none) rf m).names = m.names ∧ (psiblastProject (psiblastCfg none) rf m).alen = m.alen ∧
    ∀ i, i < m.nseq → (psiblastProject (psiblastCfg none) rf m).aseq.getD i [] = m.aseq.getD i [] :=
  ⟨rfl, rfl, storedRows_getD m h.dig⟩

/-! non-vacuity: 2 sequences; 3 columns, and 61 columns (two blocks) with an all-gap column and a gap in the second row -/

def exPsi1 : Msa := { alen := 3, names := [str "seq1", str "b"], aseq := [str "ACG", str "A-G"], wgt := [.dflt, .dflt] }

theorem exPsi1_writable : PsiblastTextWritable exPsi1 :=
  { dig := rfl, n1 := by decide, alen1 := by decide
    name_ok := by unfold cluNameOk; decide +kernel
    row_ok := by decide +kernel
    col_ok := by decide +kernel }

example : psiblastRead (psiblastCfg none) (splitLines (psiblastWrite none exPsi1))
    = (.ok (psiblastProject (psiblastCfg none) (psiRf (fun i => exPsi1.aseq.getD i []) exPsi1) exPsi1), []) :=
  psiblast_roundtrip_text exPsi1 exPsi1_writable
example : psiRf (fun i => exPsi1.aseq.getD i []) exPsi1 = str "xxx" := by decide +kernel

def exPsi : Msa :=
  { alen := 61, names := [[115, 101, 113, 49], [42]],
    aseq := [List.replicate 30 65 ++ [45] ++ List.replicate 30 67, List.replicate 29 71 ++ [45, 45] ++ List.replicate 30 84],
    wgt := [.dflt, .dflt] }

theorem exPsi_writable : PsiblastTextWritable exPsi :=
  { dig := rfl, n1 := by decide, alen1 := by decide
    name_ok := by unfold cluNameOk; decide +kernel
    row_ok := by decide +kernel
    col_ok := by decide +kernel }

example : (blockStarts exPsi.alen psiCpl).length = 2 := by decide +kernel
example : psiblastRead (psiblastCfg none) (splitLines (psiblastWrite none exPsi))
    = (.ok (psiblastProject (psiblastCfg none) (psiRf (fun i => exPsi.aseq.getD i []) exPsi) exPsi), []) :=
  psiblast_roundtrip_text exPsi exPsi_writable
example : psiRf (fun i => exPsi.aseq.getD i []) exPsi = List.replicate 30 120 ++ [45] ++ List.replicate 30 120 := by decide +kernel
example : psiblastWrite none (psiblastProject (psiblastCfg none) (psiRf (fun i => exPsi.aseq.getD i []) exPsi) exPsi)
    = psiblastWrite none exPsi := psiblastWrite_project_text exPsi exPsi_writable

/-- the same alignment digitised with the DNA alphabet (A=0 C=1 G=2 T=3 gap=4) -/
def exPsiDna : Msa :=
  { digital := true, kp := 18, alen := 61, names := exPsi.names,
    ax := [255 :: (List.replicate 30 0 ++ [4] ++ List.replicate 30 1) ++ [255],
           255 :: (List.replicate 29 2 ++ [4, 4] ++ List.replicate 30 3) ++ [255]],
    wgt := [.dflt, .dflt] }

theorem exPsiDna_writable : PsiblastDigitalWritable abcDna exPsiDna :=
  { dig := rfl, n1 := by decide, alen1 := by decide
    name_ok := by unfold cluNameOk; decide +kernel
    row_ok := by decide +kernel
    col_ok := by decide +kernel }

example : psiblastRead (psiblastCfg (some abcDna)) (splitLines (psiblastWrite (some abcDna) exPsiDna))
    = (.ok (psiblastProject (psiblastCfg (some abcDna)) (psiRf (psiDigTxt abcDna exPsiDna) exPsiDna) exPsiDna), []) :=
  psiblast_roundtrip_digital abcDna (.inr (.inl rfl)) exPsiDna exPsiDna_writable
example : (psiblastProject (psiblastCfg (some abcDna)) (psiRf (psiDigTxt abcDna exPsiDna) exPsiDna) exPsiDna).ax = exPsiDna.ax := by
  decide +kernel

example : psiblastWrite (some abcDna) (psiblastProject (psiblastCfg (some abcDna)) (psiRf (psiDigTxt abcDna exPsiDna) exPsiDna) exPsiDna)
    = psiblastWrite (some abcDna) exPsiDna :=
  psiblastWrite_project_digital abcDna (psiDigSymOk_of_wf abcDna_wf) (psiDigResOk_of_wf abcDna_wf) exPsiDna exPsiDna_writable

/-! ## Reformatting

"Reformat stability": what a READER returns lies in the domain of the WRITER's round-trip theorem, so the round trip
applies to every alignment that was read from a file.  Where the reader does not guarantee a condition, the weakest
explicit extra hypothesis is stated (a decidable predicate on the alignment read) and a counterexample shows it is needed.

### A2M

`esl_msafile_a2m_Read` guarantees everything `A2mInsTextWritable` / `A2mInsDigitalWritable a` ask (≥ 1 sequence, names
without blank/tab/NUL, descriptions not empty / not starting with blank or tab / without NUL, no accessions, rows of `alen`
symbols / well-formed digital rows) EXCEPT `hdr_line`: the name line `>name desc` the writer will print must not end in CR
(it never holds a LF when the input lines come from `splitLines`).  `a2mHdrOkB m` is that condition.  It fails when the input
name line ends in CR CR LF (`esl_buffer_GetLine` strips one CR; the second stays in the description), or holds a NUL right
after a CR (the description is cut at the NUL): the re-written file then ends that line in CR LF and the re-read description
has lost its CR (`exA2mCrIn`, `exA2mNulIn` below). -/

theorem a2mCfg_valid_of (a : Abc) (ha : a = abcAmino ∨ a = abcDna ∨ a = abcRna) :
    (a2mCfg (some a)).valid ∧ A2mValid (a2mCfg (some a)) :=
  ⟨a2mCfg_valid (abcOk_std ha), a2mCfg_a2mValid (abcOk_std ha)⟩

/-- what the A2M reader returns (text mode) is in the domain of the A2M round trip, provided its name lines survive -/
theorem a2m_read_in_domain_text (lines : List Bytes) (m : Msa) (rest : List Bytes)
    (h : a2mRead (a2mCfg none) lines = (.ok m, rest)) (hh : a2mHdrOkB m = true) : A2mInsTextWritable m :=
  a2mRead_domain_text lines m rest h hh

theorem a2m_read_in_domain_digital (a : Abc) (ha : a = abcAmino ∨ a = abcDna ∨ a = abcRna) (lines : List Bytes) (m : Msa)
    (rest : List Bytes) (h : a2mRead (a2mCfg (some a)) lines = (.ok m, rest)) (hh : a2mHdrOkB m = true) :
    A2mInsDigitalWritable a m :=
  a2mRead_domain_digital a (a2mCfg_valid_of a ha).1 (a2mCfg_valid_of a ha).2 lines m rest h hh

/-- **A2M reformat stability, text mode**: an alignment read from any A2M input, written and read again, is its projection -/
theorem a2m_reformat_stable_text (lines : List Bytes) (m : Msa) (rest : List Bytes)
    (h : a2mRead (a2mCfg none) lines = (.ok m, rest)) (hh : a2mHdrOkB m = true) :
    a2mRead (a2mCfg none) (splitLines (a2mWrite none m)) = (.ok (a2mProjectIns none (a2mCfg none) id m), []) :=
  a2m_roundtrip_ins_text m (a2m_read_in_domain_text lines m rest h hh)

theorem a2m_reformat_stable_digital (a : Abc) (ha : a = abcAmino ∨ a = abcDna ∨ a = abcRna) (lines : List Bytes) (m : Msa)
    (rest : List Bytes) (h : a2mRead (a2mCfg (some a)) lines = (.ok m, rest)) (hh : a2mHdrOkB m = true) :
    a2mRead (a2mCfg (some a)) (splitLines (a2mWrite (some a) m))
      = (.ok (a2mProjectIns (some a) (a2mCfg (some a)) (a2mEnc a) m), []) :=
  a2m_roundtrip_ins_digital a ha m (a2m_read_in_domain_digital a ha lines m rest h hh)

/-- … and re-writing that gives the same bytes again: `write (read (write (read input))) = write (read input)` -/
theorem a2m_reformat_idempotent_text (lines : List Bytes) (m : Msa) (rest : List Bytes)
    (h : a2mRead (a2mCfg none) lines = (.ok m, rest)) (hh : a2mHdrOkB m = true) :
    ∃ m', (a2mRead (a2mCfg none) (splitLines (a2mWrite none m))).1 = .ok m' ∧ a2mWrite none m' = a2mWrite none m :=
  a2m_ins_rewrite_same_text m (a2m_read_in_domain_text lines m rest h hh)

/-- non-vacuity: a dotted A2M input with inserts, `>s1 d e` / `AC.gT` / `>s2` / `A-cg` + `T` -/
def exA2mIn : Bytes := [62, 115, 49, 32, 100, 32, 101, 10, 65, 67, 46, 103, 84, 10, 62, 115, 50, 10, 65, 45, 99, 103, 10, 84, 10]

def exA2mInMsa : Msa :=
  { alen := 5, names := [[115, 49], [115, 50]], aseq := [[65, 67, 103, 46, 84], [65, 45, 99, 103, 84]], wgt := [.dflt, .dflt],
    rf := some [120, 120, 46, 46, 120], sqdesc := some [some [100, 32, 101], none] }

theorem exA2mIn_read : a2mRead (a2mCfg none) (splitLines exA2mIn) = (.ok exA2mInMsa, []) := by
  rw [a2mCfg_text]
  decide +kernel

example : a2mRead (a2mCfg none) (splitLines exA2mIn) = (.ok exA2mInMsa, []) := exA2mIn_read
example : a2mHdrOkB exA2mInMsa = true := by decide +kernel
example : a2mRead (a2mCfg none) (splitLines (a2mWrite none exA2mInMsa)) = (.ok exA2mInMsa, []) := by
  rw [a2mCfg_text]
  decide +kernel
example : A2mInsTextWritable exA2mInMsa :=
  a2m_read_in_domain_text (splitLines exA2mIn) exA2mInMsa [] exA2mIn_read (by decide +kernel)

/-- COUNTEREXAMPLE (the hypothesis `a2mHdrOkB` is needed): `>a x` CR CR LF `AC` LF is read with description `x` CR; it is
    written as `>a x` CR LF `AC` LF, which reads back with description `x` -/
def exA2mCrIn : Bytes := [62, 97, 32, 120, 13, 13, 10, 65, 67, 10]

def exA2mCrMsa : Msa :=
  { alen := 2, names := [[97]], aseq := [[65, 67]], wgt := [.dflt], rf := some [120, 120], sqdesc := some [some [120, 13]] }

example : a2mRead (a2mCfg none) (splitLines exA2mCrIn) = (.ok exA2mCrMsa, []) := by
  rw [a2mCfg_text]
  decide +kernel
example : a2mHdrOkB exA2mCrMsa = false := by decide +kernel
example : a2mWrite none exA2mCrMsa = [62, 97, 32, 120, 13, 10, 65, 67, 10] := by decide +kernel
theorem exA2mCr_reread : a2mRead (a2mCfg none) (splitLines (a2mWrite none exA2mCrMsa))
    = (.ok { exA2mCrMsa with sqdesc := some [some [120]] }, []) := by
  rw [a2mCfg_text]
  decide +kernel
example : a2mRead (a2mCfg none) (splitLines (a2mWrite none exA2mCrMsa))
    = (.ok { exA2mCrMsa with sqdesc := some [some [120]] }, []) := exA2mCr_reread
example : a2mRead (a2mCfg none) (splitLines (a2mWrite none exA2mCrMsa))
    ≠ (.ok (a2mProjectIns none (a2mCfg none) id exA2mCrMsa), []) := by
  rw [exA2mCr_reread]
  decide +kernel

/-- COUNTEREXAMPLE 2: `>a x` CR NUL `y` LF `AC` LF: the description is cut at the NUL and ends in CR, same effect -/
def exA2mNulIn : Bytes := [62, 97, 32, 120, 13, 0, 121, 10, 65, 67, 10]

example : a2mRead (a2mCfg none) (splitLines exA2mNulIn) = (.ok exA2mCrMsa, []) := by
  rw [a2mCfg_text]
  decide +kernel

/-! ### aligned FASTA

`esl_msafile_afa_Read` guarantees everything `AfaDigitalWritable a` asks except `hdr_line` (`afaHdrOkB`, as for A2M: a
description ending in CR).  In TEXT mode it guarantees everything `AfaTextWritable` asks (rows of graphic characters other than
`>`, `alen` ≥ 1) except `hdr_line`.  (`esl_msafile_afa_SetInmap` maps `>` to `eslDSQ_ILLEGAL`, the repair of finding
C03:reformat:afa-gt-residue: accepted as a residue when not first on its line, a `>` could be put first by the writer, which cuts
rows into 60-column lines, and the written file be rejected; `exAfaGtIn` below is the regression example.) -/

theorem afaCfg_valid_of (a : Abc) (ha : a = abcAmino ∨ a = abcDna ∨ a = abcRna) : (afaCfg (some a)).valid :=
  afaCfg_valid (abcOk_std ha)

/-- what the AFA reader returns (digital mode) is in the domain of the AFA round trip, provided its name lines survive -/
theorem afa_read_in_domain_digital (a : Abc) (ha : a = abcAmino ∨ a = abcDna ∨ a = abcRna) (lines : List Bytes) (m : Msa)
    (rest : List Bytes) (h : afaRead (afaCfg (some a)) lines = (.ok m, rest)) (hh : afaHdrOkB m = true) :
    AfaDigitalWritable a m :=
  afaRead_domain_digital a (afaCfg_valid_of a ha) lines m rest h hh

/-- … text mode (no condition on the residues either: the input map rejects `>`) -/
theorem afa_read_in_domain_text (lines : List Bytes) (m : Msa) (rest : List Bytes)
    (h : afaRead (afaCfg none) lines = (.ok m, rest)) (hh : afaHdrOkB m = true) : AfaTextWritable m :=
  afaRead_domain_text lines m rest h hh

theorem afa_reformat_stable_digital (a : Abc) (ha : a = abcAmino ∨ a = abcDna ∨ a = abcRna) (lines : List Bytes) (m : Msa)
    (rest : List Bytes) (h : afaRead (afaCfg (some a)) lines = (.ok m, rest)) (hh : afaHdrOkB m = true) :
    afaRead (afaCfg (some a)) (splitLines (afaWrite (some a) m)) = (.ok (afaProject (afaCfg (some a)) m), []) :=
  afa_roundtrip_digital a ha m (afa_read_in_domain_digital a ha lines m rest h hh)

theorem afa_reformat_stable_text (lines : List Bytes) (m : Msa) (rest : List Bytes)
    (h : afaRead (afaCfg none) lines = (.ok m, rest)) (hh : afaHdrOkB m = true) :
    afaRead (afaCfg none) (splitLines (afaWrite none m)) = (.ok (afaProject (afaCfg none) m), []) :=
  afa_roundtrip_text m (afa_read_in_domain_text lines m rest h hh)

/-- non-vacuity: `>s1 d e` / `AC-` + `gt` / `>s2` / `A.CGT` -/
def exAfaIn : Bytes := [62, 115, 49, 32, 100, 32, 101, 10, 65, 67, 45, 10, 103, 116, 10, 62, 115, 50, 10, 65, 46, 67, 71, 84, 10]

def exAfaInMsa : Msa :=
  { alen := 5, names := [[115, 49], [115, 50]], aseq := [[65, 67, 45, 103, 116], [65, 46, 67, 71, 84]], wgt := [.dflt, .dflt],
    sqdesc := some [some [100, 32, 101], none] }

theorem exAfaIn_read : afaRead (afaCfg none) (splitLines exAfaIn) = (.ok exAfaInMsa, []) := by
  rw [afaCfg_text]
  decide +kernel

example : afaRead (afaCfg none) (splitLines exAfaIn) = (.ok exAfaInMsa, []) := exAfaIn_read
example : afaHdrOkB exAfaInMsa = true := by decide +kernel
example : afaRead (afaCfg none) (splitLines (afaWrite none exAfaInMsa)) = (.ok exAfaInMsa, []) := by
  rw [afaCfg_text]
  decide +kernel
example : AfaTextWritable exAfaInMsa :=
  afa_read_in_domain_text (splitLines exAfaIn) exAfaInMsa [] exAfaIn_read (by decide +kernel)

/-- digital (DNA) non-vacuity: `>s1` / `ACGT` / `>s2` / `A-NT` -/
def exAfaDnaIn : Bytes := [62, 115, 49, 10, 65, 67, 71, 84, 10, 62, 115, 50, 10, 65, 45, 78, 84, 10]

def exAfaDnaInMsa : Msa :=
  { digital := true, kp := 18, alen := 4, names := [[115, 49], [115, 50]],
    ax := [[255, 0, 1, 2, 3, 255], [255, 0, 4, 15, 3, 255]], wgt := [.dflt, .dflt] }

theorem exAfaDnaIn_read : afaRead (afaCfg (some abcDna)) (splitLines exAfaDnaIn) = (.ok exAfaDnaInMsa, []) := by decide +kernel

example : afaRead (afaCfg (some abcDna)) (splitLines exAfaDnaIn) = (.ok exAfaDnaInMsa, []) := exAfaDnaIn_read
example : AfaDigitalWritable abcDna exAfaDnaInMsa :=
  afa_read_in_domain_digital abcDna (Or.inr (Or.inl rfl)) (splitLines exAfaDnaIn) exAfaDnaInMsa [] exAfaDnaIn_read (by decide +kernel)
example : afaRead (afaCfg (some abcDna)) (splitLines (afaWrite (some abcDna) exAfaDnaInMsa)) = (.ok exAfaDnaInMsa, []) := by
  decide +kernel

/-- REGRESSION (finding C03:reformat:afa-gt-residue, repaired): `>a` LF, then ONE line of 60 `A` followed by `>`; stored as
    residue 61, the `>` would start the third line of the written file -/
def exAfaGtIn : Bytes := [62, 97, 10] ++ List.replicate 60 65 ++ [62, 10]

/-- the reader rejects that input ("one or more invalid sequence characters") -/
example : (match (afaRead (afaCfg none) (splitLines exAfaGtIn)).1 with
           | .eformat _ => true
           | _ => false) = true := by
  rw [afaCfg_text]
  decide +kernel

/-- COUNTEREXAMPLE (`afaHdrOkB` is needed): `>a x` CR CR LF `AC` LF: the description `x` CR comes back as `x` -/
def exAfaCrIn : Bytes := [62, 97, 32, 120, 13, 13, 10, 65, 67, 10]

def exAfaCrMsa : Msa := { alen := 2, names := [[97]], aseq := [[65, 67]], wgt := [.dflt], sqdesc := some [some [120, 13]] }

example : afaRead (afaCfg none) (splitLines exAfaCrIn) = (.ok exAfaCrMsa, []) := by
  rw [afaCfg_text]
  decide +kernel
example : afaHdrOkB exAfaCrMsa = false := by decide +kernel
example : afaRead (afaCfg none) (splitLines (afaWrite none exAfaCrMsa))
    = (.ok { exAfaCrMsa with sqdesc := some [some [120]] }, []) := by
  rw [afaCfg_text]
  decide +kernel

/-! ### Clustal / Clustal-like

`esl_msafile_clustal_Read` guarantees `n1`, `alen1` (every block has ≥ 1 column), NON-EMPTY names without white space or NUL
(a NUL byte in the name field is eslEFORMAT, the repair of finding C03:reformat:nul-in-name: stored as a C string, a name field
starting with NUL would be the empty name and the writer's output be rejected; `exCluNulIn` is the regression example), rows of `alen` graphic
characters / well-formed digital rows.  It does NOT guarantee
* `notcons` (`cluNotConsTextB` / `cluNotConsDigB a`): a row after the first whose name is made of `.:*` characters and whose
  residues include one of `.:*` can, once the writer cuts the alignment into 60-column blocks, stand alone as a line made of
  `" .:*"` only, which the reader takes for the consensus line: `exCluConsIn` (re-read REJECTED: "last block didn't contain
  same # of seqs as earlier blocks"). -/

theorem clustalCfg_valid_of (a : Abc) (ha : a = abcAmino ∨ a = abcDna ∨ a = abcRna) : (clustalCfg (some a)).valid :=
  clustalCfg_valid (abcOk_std ha)

theorem clustal_read_in_domain_text (like : Bool) (lines : List Bytes) (m : Msa) (rest : List Bytes)
    (h : clustalRead like (clustalCfg none) lines = (.ok m, rest)) (hnc : cluNotConsTextB m = true) :
    ClustalTextWritable m :=
  clustalRead_domain_text like lines m rest h hnc

theorem clustal_read_in_domain_digital (like : Bool) (a : Abc) (ha : a = abcAmino ∨ a = abcDna ∨ a = abcRna) (lines : List Bytes)
    (m : Msa) (rest : List Bytes) (h : clustalRead like (clustalCfg (some a)) lines = (.ok m, rest))
    (hnc : cluNotConsDigB a m = true) : ClustalDigitalWritable a m :=
  clustalRead_domain_digital like a (clustalCfg_valid_of a ha) lines m rest h hnc

/-- **Clustal reformat stability, text mode** (read as Clustal or Clustal-like `like`, written as `like'`) -/
theorem clustal_reformat_stable_text (like like' : Bool) (lines : List Bytes) (m : Msa) (rest : List Bytes)
    (h : clustalRead like (clustalCfg none) lines = (.ok m, rest)) (hnc : cluNotConsTextB m = true) :
    clustalRead like' (clustalCfg none) (splitLines (clustalWrite like' none m)) = (.ok (clustalProject (clustalCfg none) m), []) :=
  clustal_roundtrip_text like' m (clustal_read_in_domain_text like lines m rest h hnc)

theorem clustal_reformat_stable_digital (like like' : Bool) (a : Abc) (ha : a = abcAmino ∨ a = abcDna ∨ a = abcRna)
    (lines : List Bytes) (m : Msa) (rest : List Bytes) (h : clustalRead like (clustalCfg (some a)) lines = (.ok m, rest))
    (hnc : cluNotConsDigB a m = true) :
    clustalRead like' (clustalCfg (some a)) (splitLines (clustalWrite like' (some a) m))
      = (.ok (clustalProject (clustalCfg (some a)) m), []) :=
  clustal_roundtrip_digital like' a ha m (clustal_read_in_domain_digital like a ha lines m rest h hnc)

/-- `CLUSTAL W alignment` -/
def exCluHdr : Bytes := [67, 76, 85, 83, 84, 65, 76, 32, 87, 32, 97, 108, 105, 103, 110, 109, 101, 110, 116]

/-- non-vacuity: header, blank, `s1 ACG-`, `s2 A.gT`, ` *  *` -/
def exCluIn : Bytes :=
  exCluHdr ++ [10, 10] ++ [115, 49, 32, 65, 67, 71, 45, 10] ++ [115, 50, 32, 65, 46, 103, 84, 10] ++ [32, 32, 32, 42, 32, 32, 42, 10]

def exCluInMsa : Msa :=
  { alen := 4, names := [[115, 49], [115, 50]], aseq := [[65, 67, 71, 45], [65, 46, 103, 84]], wgt := [.dflt, .dflt] }

theorem exCluIn_read : clustalRead false (clustalCfg none) (splitLines exCluIn) = (.ok exCluInMsa, []) := by
  rw [clustalCfg_text]
  decide +kernel

example : clustalRead false (clustalCfg none) (splitLines exCluIn) = (.ok exCluInMsa, []) := exCluIn_read
example : cluNotConsTextB exCluInMsa = true := by decide +kernel
example : ClustalTextWritable exCluInMsa :=
  clustal_read_in_domain_text false (splitLines exCluIn) exCluInMsa [] exCluIn_read (by decide +kernel)
example : clustalRead false (clustalCfg none) (splitLines (clustalWrite false none exCluInMsa)) = (.ok exCluInMsa, []) := by
  rw [clustalCfg_text]
  decide +kernel

/-- REGRESSION (finding C03:reformat:nul-in-name, repaired): the name field of the row is NUL `x`, as a C string the EMPTY name;
    the reader answers eslEFORMAT "NUL byte in sequence name" -/
def exCluNulIn : Bytes := exCluHdr ++ [10, 10] ++ [0, 120, 32, 65, 67, 71, 84, 10] ++ [32, 32, 32, 42, 42, 42, 42, 10]

example : (clustalRead false (clustalCfg none) (splitLines exCluNulIn)).1 = .eformat "NUL byte in sequence name" := by
  rw [clustalCfg_text]
  decide +kernel
/-- … also when the NUL is inside the name (`a` NUL `b`) -/
example : (clustalRead false (clustalCfg none)
    (splitLines (exCluHdr ++ [10, 10] ++ [97, 0, 98, 32, 65, 67, 71, 84, 10] ++ [32, 32, 32, 32, 42, 42, 42, 42, 10]))).1
      = .eformat "NUL byte in sequence name" := by
  rw [clustalCfg_text]
  decide +kernel

/-- COUNTEREXAMPLE (`cluNotConsTextB` is needed): rows `x` = 61 `A`, `*` = 60 `A` then `*`, in ONE block of 61 columns -/
def exCluConsIn : Bytes :=
  exCluHdr ++ [10, 10] ++ ([120, 32] ++ List.replicate 61 65 ++ [10]) ++ ([42, 32] ++ List.replicate 60 65 ++ [42, 10]) ++ [32, 10]

def exCluConsMsa : Msa :=
  { alen := 61, names := [[120], [42]], aseq := [List.replicate 61 65, List.replicate 60 65 ++ [42]], wgt := [.dflt, .dflt] }

example : clustalRead false (clustalCfg none) (splitLines exCluConsIn) = (.ok exCluConsMsa, []) := by
  rw [clustalCfg_text]
  decide +kernel
example : cluNotConsTextB exCluConsMsa = false := by decide +kernel
/-- written in two blocks; the second row of the second block is `*` + blanks + `*` -/
example : (match (clustalRead false (clustalCfg none) (splitLines (clustalWrite false none exCluConsMsa))).1 with
           | .eformat _ => true
           | _ => false) = true := by
  rw [clustalCfg_text]
  decide +kernel

/-! ### PSI-BLAST

`esl_msafile_psiblast_Read` guarantees `n1`, `alen1`, non-empty names without white space or NUL (a NUL byte in the name field is
eslEFORMAT, finding C03:reformat:nul-in-name; `exPsiNulIn` is the regression example), rows of `alen` symbols / well-formed
digital rows.  The domain of `psiblast_roundtrip_text/_digital` is the set of alignments on which the WRITER IS THE IDENTITY,
which is much narrower than what the reader returns; the missing conditions are hypotheses:
* `psiRowsUpperB` / `psiRowsDigB a`: no lower-case (insert) residue.  NOT a defect: an input with lower-case residues is
  reformatted faithfully on the model (`exPsiLowerIn`: read ∘ write ∘ read = read), but no round-trip theorem covers it;
* `psiColsOkB` / `psiColsOkDigB a`: the `rf` line the reader builds marks (`x`) every column that holds a residue.  This is
  believed to follow from the reader's `rf` loop when there is no lower-case residue, but is NOT proved here. -/

theorem psiblastCfg_valid_of (a : Abc) (ha : a = abcAmino ∨ a = abcDna ∨ a = abcRna) : (psiblastCfg (some a)).valid :=
  psiblastCfg_valid (abcOk_std ha)

theorem psiblast_read_in_domain_text (lines : List Bytes) (m : Msa) (rest : List Bytes)
    (h : psiblastRead (psiblastCfg none) lines = (.ok m, rest)) (hup : psiRowsUpperB m = true)
    (hcol : psiColsOkB m = true) : PsiblastTextWritable m :=
  psiblastRead_domain_text lines m rest h hup hcol

theorem psiblast_read_in_domain_digital (a : Abc) (ha : a = abcAmino ∨ a = abcDna ∨ a = abcRna) (lines : List Bytes) (m : Msa)
    (rest : List Bytes) (h : psiblastRead (psiblastCfg (some a)) lines = (.ok m, rest))
    (hup : psiRowsDigB a m = true) (hcol : psiColsOkDigB a m = true) : PsiblastDigitalWritable a m :=
  psiblastRead_domain_digital a (psiblastCfg_valid_of a ha) lines m rest h hup hcol

/-- **PSI-BLAST reformat stability, text mode** (PARTIAL: under the two hypotheses above) -/
theorem psiblast_reformat_stable_text_partial (lines : List Bytes) (m : Msa) (rest : List Bytes)
    (h : psiblastRead (psiblastCfg none) lines = (.ok m, rest)) (hup : psiRowsUpperB m = true)
    (hcol : psiColsOkB m = true) :
    psiblastRead (psiblastCfg none) (splitLines (psiblastWrite none m))
      = (.ok (psiblastProject (psiblastCfg none) (psiRf (fun i => m.aseq.getD i []) m) m), []) :=
  psiblast_roundtrip_text m (psiblast_read_in_domain_text lines m rest h hup hcol)

/-- **PSI-BLAST reformat stability, digital mode** (PARTIAL likewise) -/
theorem psiblast_reformat_stable_digital_partial (a : Abc) (ha : a = abcAmino ∨ a = abcDna ∨ a = abcRna) (lines : List Bytes)
    (m : Msa) (rest : List Bytes) (h : psiblastRead (psiblastCfg (some a)) lines = (.ok m, rest))
    (hup : psiRowsDigB a m = true) (hcol : psiColsOkDigB a m = true) :
    psiblastRead (psiblastCfg (some a)) (splitLines (psiblastWrite (some a) m))
      = (.ok (psiblastProject (psiblastCfg (some a)) (psiRf (psiDigTxt a m) m) m), []) :=
  psiblast_roundtrip_digital a ha m (psiblast_read_in_domain_digital a ha lines m rest h hup hcol)

/-- non-vacuity: `s1 ACG-` / `s2 A-GT` -/
def exPsiIn : Bytes := [115, 49, 32, 65, 67, 71, 45, 10, 115, 50, 32, 65, 45, 71, 84, 10]

def exPsiInMsa : Msa :=
  { alen := 4, names := [[115, 49], [115, 50]], aseq := [[65, 67, 71, 45], [65, 45, 71, 84]], wgt := [.dflt, .dflt],
    rf := some [120, 120, 120, 120] }

theorem exPsiIn_read : psiblastRead (psiblastCfg none) (splitLines exPsiIn) = (.ok exPsiInMsa, []) := by
  rw [psiblastCfg_text]
  decide +kernel

example : psiblastRead (psiblastCfg none) (splitLines exPsiIn) = (.ok exPsiInMsa, []) := exPsiIn_read
example : psiRowsUpperB exPsiInMsa = true ∧ psiColsOkB exPsiInMsa = true := by decide +kernel
example : PsiblastTextWritable exPsiInMsa :=
  psiblast_read_in_domain_text (splitLines exPsiIn) exPsiInMsa [] exPsiIn_read (by decide +kernel) (by decide +kernel)
example : psiblastRead (psiblastCfg none) (splitLines (psiblastWrite none exPsiInMsa)) = (.ok exPsiInMsa, []) := by
  rw [psiblastCfg_text]
  decide +kernel

/-- outside the proved domain, yet stable on the model: `s1 ACgT` / `s2 AC-T` (a lower-case insert, `rf` = `xx.x`) -/
def exPsiLowerIn : Bytes := [115, 49, 32, 65, 67, 103, 84, 10, 115, 50, 32, 65, 67, 45, 84, 10]

def exPsiLowerMsa : Msa :=
  { alen := 4, names := [[115, 49], [115, 50]], aseq := [[65, 67, 103, 84], [65, 67, 45, 84]], wgt := [.dflt, .dflt],
    rf := some [120, 120, 46, 120] }

example : psiblastRead (psiblastCfg none) (splitLines exPsiLowerIn) = (.ok exPsiLowerMsa, []) := by
  rw [psiblastCfg_text]
  decide +kernel
example : psiRowsUpperB exPsiLowerMsa = false := by decide +kernel
example : psiblastRead (psiblastCfg none) (splitLines (psiblastWrite none exPsiLowerMsa)) = (.ok exPsiLowerMsa, []) := by
  rw [psiblastCfg_text]
  decide +kernel

/-- REGRESSION (finding C03:reformat:nul-in-name, repaired): NUL `x ACGT`: stored empty, the name would make the written line
    start with blanks; the reader answers eslEFORMAT -/
def exPsiNulIn : Bytes := [0, 120, 32, 65, 67, 71, 84, 10]

example : (psiblastRead (psiblastCfg none) (splitLines exPsiNulIn)).1 = .eformat "NUL byte in sequence name" := by
  rw [psiblastCfg_text]
  decide +kernel

/-! ### A2M and aligned FASTA: the condition on the name lines, as a condition on the INPUT

`a2mHdrOkB` / `afaHdrOkB` hold whenever no input line (as delivered by `splitLines`: without its LF and without the CR of a
CR LF) holds a CR or a LF byte, i.e. the file has no CR other than in CR LF line ends. -/

theorem a2m_reformat_stable_text_of_lines (lines : List Bytes) (m : Msa) (rest : List Bytes)
    (h : a2mRead (a2mCfg none) lines = (.ok m, rest)) (hl : ∀ l ∈ lines, ∀ x ∈ l, notCrLf x = true) :
    a2mRead (a2mCfg none) (splitLines (a2mWrite none m)) = (.ok (a2mProjectIns none (a2mCfg none) id m), []) :=
  a2m_reformat_stable_text lines m rest h (a2mHdrOkB_of_lines _ lines m rest h hl)

theorem a2m_reformat_stable_digital_of_lines (a : Abc) (ha : a = abcAmino ∨ a = abcDna ∨ a = abcRna) (lines : List Bytes) (m : Msa)
    (rest : List Bytes) (h : a2mRead (a2mCfg (some a)) lines = (.ok m, rest)) (hl : ∀ l ∈ lines, ∀ x ∈ l, notCrLf x = true) :
    a2mRead (a2mCfg (some a)) (splitLines (a2mWrite (some a) m))
      = (.ok (a2mProjectIns (some a) (a2mCfg (some a)) (a2mEnc a) m), []) :=
  a2m_reformat_stable_digital a ha lines m rest h (a2mHdrOkB_of_lines _ lines m rest h hl)

theorem afa_reformat_stable_digital_of_lines (a : Abc) (ha : a = abcAmino ∨ a = abcDna ∨ a = abcRna) (lines : List Bytes) (m : Msa)
    (rest : List Bytes) (h : afaRead (afaCfg (some a)) lines = (.ok m, rest)) (hl : ∀ l ∈ lines, ∀ x ∈ l, notCrLf x = true) :
    afaRead (afaCfg (some a)) (splitLines (afaWrite (some a) m)) = (.ok (afaProject (afaCfg (some a)) m), []) :=
  afa_reformat_stable_digital a ha lines m rest h (afaHdrOkB_of_lines _ lines m rest h hl)

theorem afa_reformat_stable_text_of_lines (lines : List Bytes) (m : Msa) (rest : List Bytes)
    (h : afaRead (afaCfg none) lines = (.ok m, rest)) (hl : ∀ l ∈ lines, ∀ x ∈ l, notCrLf x = true) :
    afaRead (afaCfg none) (splitLines (afaWrite none m)) = (.ok (afaProject (afaCfg none) m), []) :=
  afa_reformat_stable_text lines m rest h (afaHdrOkB_of_lines _ lines m rest h hl)

example : ∀ l ∈ splitLines exA2mIn, ∀ x ∈ l, notCrLf x = true := by decide +kernel
example : ∀ l ∈ splitLines exAfaDnaIn, ∀ x ∈ l, notCrLf x = true := by decide +kernel
example : afaRead (afaCfg (some abcDna)) (splitLines (afaWrite (some abcDna) exAfaDnaInMsa))
    = (.ok (afaProject (afaCfg (some abcDna)) exAfaDnaInMsa), []) :=
  afa_reformat_stable_digital_of_lines abcDna (Or.inr (Or.inl rfl)) (splitLines exAfaDnaIn) exAfaDnaInMsa [] exAfaDnaIn_read
    (by decide +kernel)

/-! ### PHYLIP (interleaved and sequential, strict name width 10)

`esl_msafile_phylip_Read` guarantees `n1`, `alen1` (the header's `alen` ≥ 1 and the final length equals it), names made of
≤ 10 graphic characters (`phylip_rectify_input_name`: outer blanks stripped, inner blanks → `_`), rows of `alen` symbols /
well-formed digital rows, and `nseq`, `alen` ≤ 2^31-1 (`strtoi32_le`: `esl_mem_strtoi32` rejects larger values).  Side conditions (decidable predicates on the alignment read):
* `phyNamesNeB`: no EMPTY name (a name field of ten blanks is stored as ""); outside the domain of `phylip_roundtrip_*`
  (`phyNameOk` asks for a non-empty name) but NOT a defect: `exPhyEmptyIn` reformats faithfully on the model;
* text mode, `phyRowsSymB`: every residue is an upper-case letter, `-`, `*` or `?`.  The reader stores lower-case letters and `.`
  as they are, and the WRITER converts them (`phylip_rectify_output_seq_text`: upper case, `.` → `-`): by design the re-read
  alignment then differs from the one read (`exPhyLowerIn`: `acgt` comes back `ACGT`). -/

theorem phylipCfg_valid_of (a : Abc) (ha : a = abcAmino ∨ a = abcDna ∨ a = abcRna) : (phylipCfg (some a)).valid :=
  phylipCfg_valid (abcOk_std ha)

theorem phylip_read_in_domain_digital (sequential : Bool) (a : Abc) (ha : a = abcAmino ∨ a = abcDna ∨ a = abcRna)
    (lines : List Bytes) (m : Msa) (rest : List Bytes) (h : phylipRead sequential (phylipCfg (some a)) lines = (.ok m, rest))
    (hne : phyNamesNeB m = true) : PhylipDigitalWritable a m :=
  phylipRead_domain_digital sequential a (phylipCfg_valid_of a ha) lines m rest h hne

theorem phylip_read_in_domain_text (sequential : Bool) (lines : List Bytes) (m : Msa) (rest : List Bytes)
    (h : phylipRead sequential (phylipCfg none) lines = (.ok m, rest)) (hne : phyNamesNeB m = true)
    (hsym : phyRowsSymB m = true) : PhylipTextWritable m :=
  phylipRead_domain_text sequential lines m rest h hne hsym

/-- **PHYLIP reformat stability, digital mode**: read as interleaved or sequential (`sequential`), written interleaved -/
theorem phylip_reformat_stable_digital (sequential : Bool) (a : Abc) (ha : a = abcAmino ∨ a = abcDna ∨ a = abcRna)
    (lines : List Bytes) (m : Msa) (rest : List Bytes) (h : phylipRead sequential (phylipCfg (some a)) lines = (.ok m, rest))
    (hne : phyNamesNeB m = true) :
    phylipRead false (phylipCfg (some a)) (splitLines (phylipWrite false (some a) m)) = (.ok (phylipProject (phylipCfg (some a)) m), []) :=
  phylip_roundtrip_digital a ha m (phylip_read_in_domain_digital sequential a ha lines m rest h hne)

theorem phylips_reformat_stable_digital (sequential : Bool) (a : Abc) (ha : a = abcAmino ∨ a = abcDna ∨ a = abcRna)
    (lines : List Bytes) (m : Msa) (rest : List Bytes) (h : phylipRead sequential (phylipCfg (some a)) lines = (.ok m, rest))
    (hne : phyNamesNeB m = true) :
    phylipRead true (phylipCfg (some a)) (splitLines (phylipWrite true (some a) m)) = (.ok (phylipProject (phylipCfg (some a)) m), []) :=
  phylips_roundtrip_digital a ha m (phylip_read_in_domain_digital sequential a ha lines m rest h hne)

/-- **PHYLIP reformat stability, text mode**, written interleaved -/
theorem phylip_reformat_stable_text (sequential : Bool) (lines : List Bytes) (m : Msa) (rest : List Bytes)
    (h : phylipRead sequential (phylipCfg none) lines = (.ok m, rest)) (hne : phyNamesNeB m = true)
    (hsym : phyRowsSymB m = true) :
    phylipRead false (phylipCfg none) (splitLines (phylipWrite false none m)) = (.ok (phylipProject (phylipCfg none) m), []) :=
  phylip_roundtrip_text m (phylip_read_in_domain_text sequential lines m rest h hne hsym)

theorem phylips_reformat_stable_text (sequential : Bool) (lines : List Bytes) (m : Msa) (rest : List Bytes)
    (h : phylipRead sequential (phylipCfg none) lines = (.ok m, rest)) (hne : phyNamesNeB m = true)
    (hsym : phyRowsSymB m = true) :
    phylipRead true (phylipCfg none) (splitLines (phylipWrite true none m)) = (.ok (phylipProject (phylipCfg none) m), []) :=
  phylips_roundtrip_text m (phylip_read_in_domain_text sequential lines m rest h hne hsym)

/-- non-vacuity: ` 2 4` / `s1        ACGT` / `s2        A-GT` -/
def exPhyIn : Bytes :=
  [32, 50, 32, 52, 10] ++ [115, 49, 32, 32, 32, 32, 32, 32, 32, 32, 65, 67, 71, 84, 10]
    ++ [115, 50, 32, 32, 32, 32, 32, 32, 32, 32, 65, 45, 71, 84, 10]

def exPhyInMsa : Msa :=
  { alen := 4, names := [[115, 49], [115, 50]], aseq := [[65, 67, 71, 84], [65, 45, 71, 84]], wgt := [.dflt, .dflt] }

theorem exPhyIn_read (sequential : Bool) : phylipRead sequential (phylipCfg none) (splitLines exPhyIn) = (.ok exPhyInMsa, []) := by
  rw [phylipCfg_text]
  cases sequential <;> decide +kernel

example : phylipRead false (phylipCfg none) (splitLines exPhyIn) = (.ok exPhyInMsa, []) := exPhyIn_read false
example : phylipRead true (phylipCfg none) (splitLines exPhyIn) = (.ok exPhyInMsa, []) := exPhyIn_read true
example : phyNamesNeB exPhyInMsa = true ∧ phyRowsSymB exPhyInMsa = true := by decide +kernel
example : PhylipTextWritable exPhyInMsa :=
  phylip_read_in_domain_text true (splitLines exPhyIn) exPhyInMsa [] (exPhyIn_read true) (by decide +kernel) (by decide +kernel)
example : phylipRead false (phylipCfg none) (splitLines (phylipWrite false none exPhyInMsa)) = (.ok exPhyInMsa, []) := by
  rw [phylipCfg_text]
  decide +kernel

/-- the reader returns names of ≤ 10 characters: `phylipProject` (names cut to ten) is the identity on the names of an
    alignment read from a PHYLIP file, so the reformatted alignment has the same names -/
theorem phylip_reformat_keeps_names (sequential : Bool) (cfg cfg' : Cfg) (lines : List Bytes) (m : Msa) (rest : List Bytes)
    (h : phylipRead sequential cfg lines = (.ok m, rest)) : (phylipProject cfg' m).names = m.names :=
  phylipRead_project_names sequential cfg cfg' lines m rest h

example : (phylipProject (phylipCfg none) exPhyInMsa).names = exPhyInMsa.names :=
  phylip_reformat_keeps_names false (phylipCfg none) (phylipCfg none) (splitLines exPhyIn) exPhyInMsa [] (exPhyIn_read false)

/-- outside the proved domain, yet stable on the model: a name field of ten blanks is stored as the empty name -/
def exPhyEmptyIn : Bytes := [49, 32, 52, 10] ++ List.replicate 10 32 ++ [65, 67, 71, 84, 10]

def exPhyEmptyMsa : Msa := { alen := 4, names := [[]], aseq := [[65, 67, 71, 84]], wgt := [.dflt] }

example : phylipRead false (phylipCfg none) (splitLines exPhyEmptyIn) = (.ok exPhyEmptyMsa, []) := by
  rw [phylipCfg_text]
  decide +kernel
example : phyNamesNeB exPhyEmptyMsa = false := by decide +kernel
example : phylipRead false (phylipCfg none) (splitLines (phylipWrite false none exPhyEmptyMsa)) = (.ok exPhyEmptyMsa, []) := by
  rw [phylipCfg_text]
  decide +kernel

/-- `phyRowsSymB` is needed (by design, not a defect): `1 4` / `s1        acgt` is stored lower case and written upper case -/
def exPhyLowerIn : Bytes := [49, 32, 52, 10] ++ [115, 49, 32, 32, 32, 32, 32, 32, 32, 32, 97, 99, 103, 116, 10]

def exPhyLowerMsa : Msa := { alen := 4, names := [[115, 49]], aseq := [[97, 99, 103, 116]], wgt := [.dflt] }

example : phylipRead false (phylipCfg none) (splitLines exPhyLowerIn) = (.ok exPhyLowerMsa, []) := by
  rw [phylipCfg_text]
  decide +kernel
example : phyRowsSymB exPhyLowerMsa = false := by decide +kernel
example : phylipRead false (phylipCfg none) (splitLines (phylipWrite false none exPhyLowerMsa))
    = (.ok { exPhyLowerMsa with aseq := [[65, 67, 71, 84]] }, []) := by
  rw [phylipCfg_text]
  decide +kernel

/-! ## Autodetection of written output

Autodetection of library-written output (`esl_msafile_GuessFileFormat`, model `guessFormat` of the C01 open path;
`openBytes .auto …` is `msafile_OpenBuffer` with `format = eslMSAFILE_UNKNOWN`).  Stockholm/Pfam, Clustal and
Clustal-like output is recognised from its first line for EVERY alignment, aligned FASTA output whenever there is a first
line to go by (≥ 1 sequence whose name line holds no LF / final CR: `afa_autodetect`).  Two honest negatives, both documented
behaviour of the library: Pfam output is detected as Stockholm (same reader) unless the file is called `*.pfam`, and A2M
output is detected as aligned FASTA unless the file is called `*.a2m` (theorem `a2m_written_detected_as_afa`).  SELEX and
PSI-BLAST (deep check `msafile_check_selex`) are exercised by the harness monitors only; PHYLIP
(`esl_msafile_phylip_CheckFileFormat`, documented as possibly ambiguous) has the section that follows. -/

/-- Stockholm AND Pfam output is detected as Stockholm when the buffer has no file name (memory, stdin), whatever the
    alignment holds: the first line is `# STOCKHOLM 1.0` -/
theorem stockholm_autodetect (pfam : Bool) (abc : Option Abc) (m : Msa) :
    guessFormat none (splitLines (stockholmWrite pfam abc m)) = .ok (.stockholm, 0) := by
  rw [guess_stockholmWrite, fmtBySuffix_none]; rfl

/-- … and as Pfam when the file is called `*.pfam` -/
theorem pfam_autodetect_suffix (pfam : Bool) (abc : Option Abc) (m : Msa) :
    guessFormat (some (str "x.pfam")) (splitLines (stockholmWrite pfam abc m)) = .ok (.pfam, 0) := by
  rw [guess_stockholmWrite, fmtBySuffix_pfam]; rfl

/-- Clustal output is detected as Clustal, Clustal-like output as Clustal-like, whatever the file name and the alignment -/
theorem clustal_autodetect (fname : Option Bytes) (abc : Option Abc) (m : Msa) :
    guessFormat fname (splitLines (clustalWrite false abc m)) = .ok (.clustal, 0) :=
  guess_clustalWrite fname false abc m

theorem clustallike_autodetect (fname : Option Bytes) (abc : Option Abc) (m : Msa) :
    guessFormat fname (splitLines (clustalWrite true abc m)) = .ok (.clustallike, 0) :=
  guess_clustalWrite fname true abc m

/-- aligned FASTA output (≥ 1 sequence) is detected as aligned FASTA -/
theorem afa_autodetect (abc : Option Abc) (m : Msa) (h1 : 1 ≤ m.nseq) (hl : lineOk (afaHeader m 0)) :
    guessFormat none (splitLines (afaWrite abc m)) = .ok (.afa, 0) := by
  rw [guess_afaWrite none abc m h1 hl, fmtBySuffix_none]; rfl

/-- NOT selected: A2M output in a buffer without a file name is detected as aligned FASTA (the two begin alike and
    `esl_msafile_GuessFileFormat` decides for A2M only on the suffix `.a2m`) -/
theorem a2m_written_detected_as_afa (abc : Option Abc) (m : Msa) (h1 : 1 ≤ m.nseq) (hl : lineOk (a2mHeader m 0)) :
    guessFormat none (splitLines (a2mWrite abc m)) = .ok (.afa, 0) := by
  rw [guess_a2mWrite none abc m h1 hl, fmtBySuffix_none]; rfl

/-- … and as A2M when the file is called `*.a2m` -/
theorem a2m_autodetect_suffix (abc : Option Abc) (m : Msa) (h1 : 1 ≤ m.nseq) (hl : lineOk (a2mHeader m 0)) :
    guessFormat (some (str "x.a2m")) (splitLines (a2mWrite abc m)) = .ok (.a2m, 0) := by
  rw [guess_a2mWrite _ abc m h1 hl, fmtBySuffix_a2m]; rfl

/-- **write, open with the format autodetected (text mode), read**: Stockholm and Pfam -/
theorem stockholm_autodetect_roundtrip_text (pfam : Bool) (m : Msa) (h : StoTextWritable m) :
    openBytes .auto .text none (stockholmWrite pfam none m) = .ok ⟨.stockholm, none, 0⟩ ∧
    Opened.read ⟨.stockholm, none, 0⟩ (splitLines (stockholmWrite pfam none m)) = (.ok (stoProject (stockholmCfg none) m), []) :=
  ⟨(openBytes_auto_of_guess (stockholm_autodetect pfam none m)).1,
   stoRead_write pfam none (stockholmCfg none) id _ m (stoTextWritable_writable m h)⟩

/-- … and in digital mode with the alphabet given by the caller (`*byp_abc != NULL`) -/
theorem stockholm_autodetect_roundtrip_digital (pfam : Bool) (t : AbcType) (m : Msa) (h : StoDigitalWritable (abcOfType t) m) :
    openBytes .auto (.given t) none (stockholmWrite pfam (some (abcOfType t)) m) = .ok ⟨.stockholm, some t, 0⟩ ∧
    Opened.read ⟨.stockholm, some t, 0⟩ (splitLines (stockholmWrite pfam (some (abcOfType t)) m))
      = (.ok (stoProject (stockholmCfg (some (abcOfType t))) m), []) :=
  ⟨(openBytes_auto_of_guess (stockholm_autodetect pfam _ m)).2 t,
   stoRead_write pfam _ (stockholmCfg (some (abcOfType t))) (stoEnc _) _ m
    (stoDigitalWritable_writable _ (stoDigSymOk_of _ (abcOfType_std t)) m h)⟩

theorem clustal_autodetect_roundtrip_text (like : Bool) (m : Msa) (h : ClustalTextWritable m) :
    openBytes .auto .text none (clustalWrite like none m) = .ok ⟨if like then .clustallike else .clustal, none, 0⟩ ∧
    Opened.read ⟨if like then .clustallike else .clustal, none, 0⟩ (splitLines (clustalWrite like none m))
      = (.ok (clustalProject (clustalCfg none) m), []) :=
  ⟨(openBytes_auto_of_guess (guess_clustalWrite none like none m)).1, by cases like <;> exact clustal_roundtrip_text _ m h⟩

theorem clustal_autodetect_roundtrip_digital (like : Bool) (t : AbcType) (m : Msa) (h : ClustalDigitalWritable (abcOfType t) m) :
    openBytes .auto (.given t) none (clustalWrite like (some (abcOfType t)) m)
      = .ok ⟨if like then .clustallike else .clustal, some t, 0⟩ ∧
    Opened.read ⟨if like then .clustallike else .clustal, some t, 0⟩ (splitLines (clustalWrite like (some (abcOfType t)) m))
      = (.ok (clustalProject (clustalCfg (some (abcOfType t))) m), []) :=
  ⟨(openBytes_auto_of_guess (guess_clustalWrite none like _ m)).2 t,
   by cases like <;> exact clustal_roundtrip_digital _ _ (abcOfType_std t) m h⟩

theorem afa_autodetect_roundtrip_text (m : Msa) (h : AfaTextWritable m) :
    openBytes .auto .text none (afaWrite none m) = .ok ⟨.afa, none, 0⟩ ∧
    Opened.read ⟨.afa, none, 0⟩ (splitLines (afaWrite none m)) = (.ok (afaProject (afaCfg none) m), []) :=
  ⟨(openBytes_auto_of_guess (afa_autodetect none m h.n1 (h.hdr_line 0 h.n1))).1, afa_roundtrip_text m h⟩

theorem afa_autodetect_roundtrip_digital (t : AbcType) (m : Msa) (h : AfaDigitalWritable (abcOfType t) m) :
    openBytes .auto (.given t) none (afaWrite (some (abcOfType t)) m) = .ok ⟨.afa, some t, 0⟩ ∧
    Opened.read ⟨.afa, some t, 0⟩ (splitLines (afaWrite (some (abcOfType t)) m))
      = (.ok (afaProject (afaCfg (some (abcOfType t))) m), []) :=
  ⟨(openBytes_auto_of_guess (afa_autodetect _ m h.n1 (h.hdr_line 0 h.n1))).2 t, afa_roundtrip_digital _ (abcOfType_std t) m h⟩

example : guessFormat none (splitLines (stockholmWrite false none exStoAnn)) = .ok (.stockholm, 0) := by decide +kernel
example : guessFormat none (splitLines (clustalWrite true none exClu)) = .ok (.clustallike, 0) := by decide +kernel
example : guessFormat none (splitLines (afaWrite none exMsa)) = .ok (.afa, 0) := by decide +kernel
example : guessFormat none (splitLines (a2mWrite none exA2m)) = .ok (.afa, 0) := by decide +kernel
example : openBytes .auto .guess none (afaWrite none exMsa) = .enoalphabet := by decide +kernel
/-- SELEX and PSI-BLAST output of the example alignments IS detected (evaluation only; PSI-BLAST output
    without a `.pb` suffix is SELEX to the autodetector: the two are told apart by the suffix alone) -/
example : guessFormat none (splitLines (selexWrite none exSlx)) = .ok (.selex, 0) := by decide +kernel
theorem exPsi_lines : splitLines (psiblastWrite none exPsi) =
    [[115, 101, 113, 49, 32, 32] ++ List.replicate 30 65 ++ [45] ++ List.replicate 29 67,
     [42, 32, 32, 32, 32, 32] ++ List.replicate 29 71 ++ [45, 45] ++ List.replicate 29 84, [],
     [115, 101, 113, 49, 32, 32, 67], [42, 32, 32, 32, 32, 32, 84]] := by decide +kernel
example : guessFormat none (splitLines (psiblastWrite none exPsi)) = .ok (.selex, 0) := by rw [exPsi_lines]; decide +kernel
example : guessFormat (some (str "x.pb")) (splitLines (psiblastWrite none exPsi)) = .ok (.psiblast, 0) := by
  rw [exPsi_lines]; decide +kernel

/-! ### Autodetection of PHYLIP output

The header line ` <nseq> <alen>` is recognised for ALL numbers, so with a PHYLIP suffix the answer is the suffix's format, and
without one it is EXACTLY the verdict of the deep check `esl_msafile_phylip_CheckFileFormat` on the output: the exception set is
`{m | phyCheckFileFormat (write m) ≠ ok fmt}` (documented as heuristic: one sequence / one block make the two layouts the same bytes;
members below).  SELEX / PSI-BLAST output has no header: it is recognised by `msafile_check_selex` over the whole file - executable
model + monitor only, no theorem. -/

/-- the first line of PHYLIP output looks like a PHYLIP header, whatever `nseq` and `alen` -/
theorem phylip_header_recognised (n a : Nat) :
    lineOk (phyHdrLine n a) ∧ isBlankLine (phyHdrLine n a) = false ∧ fmtByFirstLine (phyHdrLine n a) = .phylip := phyHeader_first n a

/-- **autodetection of PHYLIP output** (interleaved or sequential, text or digital, any alignment with ≥ 1 column) -/
theorem phylip_autodetect (fname : Option Bytes) (sequential : Bool) (abc : Option Abc) (m : Msa) (h : 0 < m.alen) :
    guessFormat fname (splitLines (phylipWrite sequential abc m)) =
      if fmtBySuffix fname == some .phylip then .ok (.phylip, 0)
      else if fmtBySuffix fname == some .phylips then .ok (.phylips, 0)
      else phyCheckFileFormat (splitLines (phylipWrite sequential abc m)) := guess_phylipWrite fname sequential abc m h

/-- with the suffix `.phy` / `.phys` the format is the suffix's, for every alignment -/
theorem phylip_autodetect_suffix (sequential : Bool) (abc : Option Abc) (m : Msa) (h : 0 < m.alen) :
    guessFormat (some (str "x.phy")) (splitLines (phylipWrite sequential abc m)) = .ok (.phylip, 0) ∧
    guessFormat (some (str "x.phys")) (splitLines (phylipWrite sequential abc m)) = .ok (.phylips, 0) := by
  constructor
  · rw [guess_phylipWrite _ sequential abc m h, fmtBySuffix_phy]; rfl
  · rw [guess_phylipWrite _ sequential abc m h, fmtBySuffix_phys]; rfl

/-- non-vacuity and members of the exception set: two sequences, 61 columns (two blocks): interleaved output is detected … -/
example : 0 < exPhy.alen ∧ guessFormat none (splitLines (phylipWrite false none exPhy)) = .ok (.phylip, 10) := by decide +kernel
/-- … the sequential output of the same alignment is "consistent with both" (eslEAMBIGUOUS → eslENOFORMAT, documented) … -/
example : guessFormat none (splitLines (phylipWrite true none exPhy)) = .fail := by decide +kernel
/-- … and a single block is the same bytes in both layouts: detected as interleaved -/
example : guessFormat none (splitLines (phylipWrite true none { exPhy with alen := 5, aseq := exPhy.aseq.map (·.take 5) })) = .ok (.phylip, 10) ∧
    phylipWrite true none { exPhy with alen := 5, aseq := exPhy.aseq.map (·.take 5) }
      = phylipWrite false none { exPhy with alen := 5, aseq := exPhy.aseq.map (·.take 5) } := by decide +kernel

end EaselModel.Props.C03
