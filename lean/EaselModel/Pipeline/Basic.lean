import EaselModel.Pipeline.Model
/-! The branches of the step functions as inductive relations (`LoaderStep`, `UnpackerStep`, `ReadStep`; `Step` puts them under their
labels), on which every invariant proof does its case analysis; signals and waits touch wait flags only (`SameAll`); a map of
states under which the branches are stable commutes with the step (`step_map`). -/
namespace EaselModel.Pipeline

/-- `σ`: any state with the lanes of `s` (`s` itself, or `s` with other fields already changed) -/
theorem lane_setLane (σ s : Sys) (u v : Nat) (l : Lane) (h : σ.lanes = s.lanes) (hu : u < s.lanes.length) :
    (σ.setLane u l).lane v = if v = u then l else s.lane v := by
  simp only [Sys.lane, Sys.setLane, h, List.getD_eq_getElem?_getD, List.getElem?_set]
  by_cases h : u = v
  · subst h; simp [hu]
  · simp [h, Ne.symm h]

theorem lane_create (U T C u : Nat) : (Sys.create U T C).lane u = {} := by
  simp only [Sys.lane, Sys.create, List.getD_eq_getElem?_getD]
  by_cases h : u < U <;> simp [h]

@[simp] theorem setLane_lanes_length (s : Sys) (u : Nat) (l : Lane) : (s.setLane u l).lanes.length = s.lanes.length := by
  simp [Sys.setLane]

@[simp] theorem setLane_U (s : Sys) (u : Nat) (l : Lane) : (s.setLane u l).U = s.U := rfl
@[simp] theorem setLane_T (s : Sys) (u : Nat) (l : Lane) : (s.setLane u l).T = s.T := rfl
@[simp] theorem setLane_limit (s : Sys) (u : Nat) (l : Lane) : (s.setLane u l).limit = s.limit := rfl
@[simp] theorem setLane_nchunk (s : Sys) (u : Nat) (l : Lane) : (s.setLane u l).nchunk = s.nchunk := rfl
@[simp] theorem setLane_recycling (s : Sys) (u : Nat) (l : Lane) : (s.setLane u l).recycling = s.recycling := rfl
@[simp] theorem setLane_lpc (s : Sys) (u : Nat) (l : Lane) : (s.setLane u l).lpc = s.lpc := rfl
@[simp] theorem setLane_lwait (s : Sys) (u : Nat) (l : Lane) : (s.setLane u l).lwait = s.lwait := rfl
@[simp] theorem setLane_nchunkL (s : Sys) (u : Nat) (l : Lane) : (s.setLane u l).nchunkL = s.nchunkL := rfl
@[simp] theorem setLane_nalloc (s : Sys) (u : Nat) (l : Lane) : (s.setLane u l).nalloc = s.nalloc := rfl
@[simp] theorem setLane_nextBuf (s : Sys) (u : Nat) (l : Lane) : (s.setLane u l).nextBuf = s.nextBuf := rfl
@[simp] theorem setLane_freed (s : Sys) (u : Nat) (l : Lane) : (s.setLane u l).freed = s.freed := rfl
@[simp] theorem setLane_reader (s : Sys) (u : Nat) (l : Lane) : (s.setLane u l).reader = s.reader := rfl
@[simp] theorem setLane_rsig (s : Sys) (u : Nat) (l : Lane) : (s.setLane u l).rsig = s.rsig := rfl
@[simp] theorem setLane_cheld (s : Sys) (u : Nat) (l : Lane) : (s.setLane u l).cheld = s.cheld := rfl
@[simp] theorem setLane_returned (s : Sys) (u : Nat) (l : Lane) : (s.setLane u l).returned = s.returned := rfl
@[simp] theorem setLane_eofs (s : Sys) (u : Nat) (l : Lane) : (s.setLane u l).eofs = s.eofs := rfl

/-- the part of a lane that is not a wait flag -/
def Lane.core (l : Lane) : Option Chunk × Bool × Option Chunk × Bool × UPc := (l.inbox, l.inEod, l.outbox, l.outEod, l.upc)

theorem Lane.core_inbox {l l' : Lane} (h : l'.core = l.core) : l'.inbox = l.inbox := congrArg (·.1) h
theorem Lane.core_inEod {l l' : Lane} (h : l'.core = l.core) : l'.inEod = l.inEod := congrArg (·.2.1) h
theorem Lane.core_outbox {l l' : Lane} (h : l'.core = l.core) : l'.outbox = l.outbox := congrArg (·.2.2.1) h
theorem Lane.core_outEod {l l' : Lane} (h : l'.core = l.core) : l'.outEod = l.outEod := congrArg (·.2.2.2.1) h
theorem Lane.core_upc {l l' : Lane} (h : l'.core = l.core) : l'.upc = l.upc := congrArg (·.2.2.2.2) h

/-- `s'` agrees with `s` on what `Inv` (`Inv.lean`) speaks of: `U`, `T`, the number of lanes, each lane's boxes, EOD flags and unpacker
    program counter (`Lane.core`), `nchunk`, `lpc`, `nchunkL`, `returned`, `eofs`. The wait / signalled flags and the buffer
    bookkeeping (`limit`, `recycling`, `nalloc`, `nextBuf`, `freed`, `cheld`, `reader`) are free. -/
structure SameCore (s s' : Sys) : Prop where
  U : s'.U = s.U
  T : s'.T = s.T
  len : s'.lanes.length = s.lanes.length
  lane : ∀ v, (s'.lane v).core = (s.lane v).core
  nchunk : s'.nchunk = s.nchunk
  lpc : s'.lpc = s.lpc
  nchunkL : s'.nchunkL = s.nchunkL
  returned : s'.returned = s.returned
  eofs : s'.eofs = s.eofs

theorem SameCore.refl (s : Sys) : SameCore s s :=
  ⟨rfl, rfl, rfl, fun _ => rfl, rfl, rfl, rfl, rfl, rfl⟩

theorem SameCore.trans {a b c : Sys} (h1 : SameCore a b) (h2 : SameCore b c) : SameCore a c :=
  ⟨h2.U.trans h1.U, h2.T.trans h1.T, h2.len.trans h1.len, fun v => (h2.lane v).trans (h1.lane v),
   h2.nchunk.trans h1.nchunk, h2.lpc.trans h1.lpc, h2.nchunkL.trans h1.nchunkL,
   h2.returned.trans h1.returned, h2.eofs.trans h1.eofs⟩

def Lane.nbuf (l : Lane) : Nat :=
  l.inbox.toList.length + l.outbox.toList.length + (match l.upc with | .put (some _) => 1 | _ => 0)

theorem setLane_setLane (s : Sys) (u : Nat) (x y : Lane) : (s.setLane u x).setLane u y = s.setLane u y := by
  simp only [Sys.setLane, List.set_set]

theorem setLane_comm (s : Sys) (u v : Nat) (a b : Lane) (h : u ≠ v) :
    (s.setLane v a).setLane u b = (s.setLane u b).setLane v a := by
  simp only [Sys.setLane]
  congr 1
  exact List.set_comm a b (Ne.symm h)

/-- beyond the last lane `setLane` changes nothing -/
theorem setLane_of_le (s : Sys) (u : Nat) (l : Lane) (h : s.lanes.length ≤ u) : s.setLane u l = s := by
  simp only [Sys.setLane, List.set_eq_of_length_le h]

theorem setLane_self (s : Sys) (u : Nat) : s.setLane u (s.lane u) = s := by
  rcases Nat.lt_or_ge u s.lanes.length with h | h
  · simp only [Sys.setLane, Sys.lane, List.getD_eq_getElem?_getD, List.getElem?_eq_getElem h, Option.getD_some,
      List.set_getElem_self]
  · exact setLane_of_le s u _ h

/-- states that differ only in wait / signalled flags -/
structure SameAll (s s' : Sys) : Prop where
  core : SameCore s s'
  lanesN : (s'.lanes.map Lane.nbuf) = (s.lanes.map Lane.nbuf)
  recycling : s'.recycling = s.recycling
  cheld : s'.cheld = s.cheld
  nalloc : s'.nalloc = s.nalloc
  nextBuf : s'.nextBuf = s.nextBuf
  freed : s'.freed = s.freed
  limit : s'.limit = s.limit

theorem SameAll.refl (s : Sys) : SameAll s s := ⟨SameCore.refl s, rfl, rfl, rfl, rfl, rfl, rfl, rfl⟩

theorem SameAll.trans {a b c : Sys} (h1 : SameAll a b) (h2 : SameAll b c) : SameAll a c :=
  ⟨h1.core.trans h2.core, h2.lanesN.trans h1.lanesN, h2.recycling.trans h1.recycling, h2.cheld.trans h1.cheld,
   h2.nalloc.trans h1.nalloc, h2.nextBuf.trans h1.nextBuf, h2.freed.trans h1.freed, h2.limit.trans h1.limit⟩

theorem map_set_same {α β} (l : List α) (f : α → β) (i : Nat) (x : α) (d : α) (h : f x = f (l.getD i d)) :
    (l.set i x).map f = l.map f := by
  induction l generalizing i with
  | nil => simp
  | cons a as ih =>
    cases i with
    | zero => simp at h ⊢; exact h
    | succ j => simp only [List.set_cons_succ, List.map_cons]; rw [ih j (by simpa using h)]

theorem sameAll_setUwait (s : Sys) (u : Nat) (w : Option Bool) :
    SameAll s (s.setLane u { s.lane u with uwait := w }) := by
  rcases Nat.lt_or_ge u s.lanes.length with hu | hu
  · refine ⟨⟨rfl, rfl, by simp, fun v => ?_, rfl, rfl, rfl, rfl, rfl⟩, ?_, rfl, rfl, rfl, rfl, rfl, rfl⟩
    · rw [lane_setLane _ _ _ _ _ rfl hu]
      split
      · subst_vars; rfl
      · rfl
    · simp only [Sys.setLane, Sys.lane]
      exact map_set_same _ _ _ _ {} rfl
  · rw [setLane_of_le s u _ hu]; exact SameAll.refl s

theorem sameAll_setLwait (s : Sys) (w : Option Bool) : SameAll s { s with lwait := w } :=
  ⟨⟨rfl, rfl, rfl, fun _ => rfl, rfl, rfl, rfl, rfl, rfl⟩, rfl, rfl, rfl, rfl, rfl, rfl, rfl⟩

theorem sameAll_setRsig (s : Sys) (w : Bool) : SameAll s { s with rsig := w } :=
  ⟨⟨rfl, rfl, rfl, fun _ => rfl, rfl, rfl, rfl, rfl, rfl⟩, rfl, rfl, rfl, rfl, rfl, rfl, rfl⟩

theorem sameAll_condUwait (s : Sys) (u : Nat) (c : Bool) :
    SameAll s (if c then s.setLane u { s.lane u with uwait := some true } else s) := by
  split
  · exact sameAll_setUwait s u _
  · exact SameAll.refl s

theorem sameAll_signalInbox (s : Sys) (u : Nat) : SameAll s (signalInbox s u) := by
  unfold signalInbox
  simp only
  have h1 : SameAll s (if s.lwait.isSome && loaderOnInbox s u then { s with lwait := some true } else s) := by
    split
    · exact sameAll_setLwait s _
    · exact SameAll.refl s
  exact h1.trans (sameAll_condUwait _ u _)

theorem sameAll_signalOutbox (s : Sys) (u : Nat) : SameAll s (signalOutbox s u) := by
  unfold signalOutbox
  simp only
  have h1 : SameAll s (if s.reader.isSome && s.nchunk % s.U == u then { s with rsig := true } else s) := by
    split
    · exact sameAll_setRsig s _
    · exact SameAll.refl s
  exact h1.trans (sameAll_condUwait _ u _)

theorem sameAll_signalRecycling (s : Sys) : SameAll s (signalRecycling s) := by
  unfold signalRecycling
  split
  · split
    · exact sameAll_setLwait s _
    · exact SameAll.refl s
  · split
    · exact sameAll_setLwait s _
    · exact SameAll.refl s
  · exact SameAll.refl s

/-- The atomic transitions of the loader thread: one constructor per branch of `stepLoader`, with the guards under which
    it is taken.
    A wait flag (`lwait`, `uwait`) is `some sg` while the thread sleeps on its condition variable, `sg` = signalled since. -/
inductive LoaderStep (s : Sys) : Sys → Prop
  | create (hl : s.lpc = .top) (hlim : s.nalloc < s.limit) :
      LoaderStep s { s with lpc := .haveBuf s.nextBuf, nalloc := s.nalloc + 1, nextBuf := s.nextBuf + 1 }
  | topWait (hl : s.lpc = .top) (hlim : ¬ s.nalloc < s.limit) (hr : s.recycling = []) :
      LoaderStep s { s with lwait := some false }
  | pop (b : Nat) (rest : List Nat) (hl : s.lpc = .top) (hlim : ¬ s.nalloc < s.limit) (hr : s.recycling = b :: rest) :
      LoaderStep s { s with recycling := rest, lpc := .haveBuf b, lwait := none }
  | load (b : Nat) (hl : s.lpc = .haveBuf b) (hT : s.nchunkL < s.T) : LoaderStep s { s with lpc := .put b s.nchunkL }
  | endData (b : Nat) (hl : s.lpc = .haveBuf b) (hT : ¬ s.nchunkL < s.T) :
      LoaderStep s { s with lpc := .eod 0, nalloc := s.nalloc - 1, freed := s.freed + 1 }
  | putWait (b k : Nat) (hl : s.lpc = .put b k) (hin : (s.lane (k % s.U)).inbox.isSome = true) :
      LoaderStep s { s with lwait := some false }
  | put (b k : Nat) (hl : s.lpc = .put b k) (hin : ¬ (s.lane (k % s.U)).inbox.isSome = true) :
      LoaderStep s (signalInbox (({ s with lwait := none, lpc := .top, nchunkL := k + 1 } : Sys).setLane (k % s.U)
        { s.lane (k % s.U) with inbox := some (b, k) }) (k % s.U))
  | eodEnd (u : Nat) (hl : s.lpc = .eod u) (hu : u ≥ s.U) : LoaderStep s { s with lpc := .drain }
  | eodWait (u : Nat) (hl : s.lpc = .eod u) (hu : ¬ u ≥ s.U) (hin : (s.lane u).inbox.isSome = true) :
      LoaderStep s { s with lwait := some false }
  | eodSet (u : Nat) (hl : s.lpc = .eod u) (hu : ¬ u ≥ s.U) (hin : ¬ (s.lane u).inbox.isSome = true) :
      LoaderStep s (signalInbox (({ s with lwait := none, lpc := .eod (u + 1) } : Sys).setLane u
        { s.lane u with inEod := true }) u)
  | drainEnd (hl : s.lpc = .drain) (h0 : s.nalloc = 0) : LoaderStep s { s with lpc := .done }
  | drainWait (hl : s.lpc = .drain) (h0 : ¬ s.nalloc = 0) (hr : s.recycling = []) :
      LoaderStep s { s with lwait := some false }
  | collect (hl : s.lpc = .drain) (h0 : ¬ s.nalloc = 0) (hr : s.recycling ≠ []) :
      LoaderStep s { s with recycling := [], nalloc := s.nalloc - s.recycling.length,
                            freed := s.freed + s.recycling.length, lwait := none }

theorem stepLoader_cases {s s' : Sys} (hs : stepLoader s = some s') : LoaderStep s s' := by
  unfold stepLoader at hs
  split at hs
  · rename_i hl
    split at hs
    · cases hs; exact .create hl ‹_›
    · split at hs
      · cases hs; exact .topWait hl ‹_› ‹_›
      · cases hs; exact .pop _ _ hl ‹_› ‹_›
  · rename_i b hl
    split at hs
    · cases hs; exact .load b hl ‹_›
    · cases hs; exact .endData b hl ‹_›
  · rename_i b k hl
    dsimp only at hs
    split at hs
    · cases hs; exact .putWait b k hl ‹_›
    · cases hs; exact .put b k hl ‹_›
  · rename_i u hl
    split at hs
    · cases hs; exact .eodEnd u hl ‹_›
    · dsimp only at hs
      split at hs
      · cases hs; exact .eodWait u hl ‹_› ‹_›
      · cases hs; exact .eodSet u hl ‹_› ‹_›
  · rename_i hl
    split at hs
    · cases hs; exact .drainEnd hl ‹_›
    · split at hs
      · cases hs; exact .drainWait hl ‹_› ‹_›
      · rename_i bs hbs
        cases hs; exact .collect hl ‹_› (fun e => hbs e)
  · cases hs

/-- The atomic transitions of unpacker `u` (`u < s.U`), one constructor per branch of `stepUnpacker`. -/
inductive UnpackerStep (s : Sys) (u : Nat) : Sys → Prop
  | getWait (hu : ¬ u ≥ s.U) (hpc : (s.lane u).upc = .get)
      (hw : (!(s.lane u).inEod && (s.lane u).inbox.isNone) = true) :
      UnpackerStep s u (s.setLane u { s.lane u with uwait := some false })
  | get (hu : ¬ u ≥ s.U) (hpc : (s.lane u).upc = .get)
      (hw : ¬ (!(s.lane u).inEod && (s.lane u).inbox.isNone) = true) :
      UnpackerStep s u
        (if (s.lane u).inbox.isSome then
          signalInbox (s.setLane u { s.lane u with inbox := none, upc := .put (s.lane u).inbox, uwait := none }) u
         else s.setLane u { s.lane u with inbox := none, upc := .put (s.lane u).inbox, uwait := none })
  | putWait (c : Option Chunk) (hu : ¬ u ≥ s.U) (hpc : (s.lane u).upc = .put c) (ho : (s.lane u).outbox.isSome = true) :
      UnpackerStep s u (s.setLane u { s.lane u with uwait := some false })
  | put (c : Option Chunk) (hu : ¬ u ≥ s.U) (hpc : (s.lane u).upc = .put c) (ho : ¬ (s.lane u).outbox.isSome = true) :
      UnpackerStep s u (signalOutbox (s.setLane u
        { s.lane u with outbox := c, outEod := (s.lane u).outEod || c.isNone, uwait := none,
                        upc := if c.isSome then .get else .done }) u)

theorem stepUnpacker_cases {s s' : Sys} {u : Nat} (hs : stepUnpacker s u = some s') : UnpackerStep s u s' := by
  unfold stepUnpacker at hs
  split at hs
  · cases hs
  rename_i hu
  dsimp only at hs
  split at hs
  · rename_i hpc
    split at hs
    · cases hs; exact .getWait hu hpc ‹_›
    · cases hs; exact .get hu hpc ‹_›
  · rename_i c hpc
    split at hs
    · cases hs; exact .putWait c hu hpc ‹_›
    · cases hs; exact .put c hu hpc ‹_›
  · cases hs

/-- The three outcomes of the body of `esl_dsqdata_Read` called by consumer `c`; it looks at lane `s.nchunk % s.U`. -/
inductive ReadStep (s : Sys) (c : Nat) : Sys → Prop
  | wait (hw : (!(s.lane (s.nchunk % s.U)).outEod && (s.lane (s.nchunk % s.U)).outbox.isNone) = true) :
      ReadStep s c { s with reader := some c, rsig := false }
  | chunk (b k : Nat) (hw : ¬ (!(s.lane (s.nchunk % s.U)).outEod && (s.lane (s.nchunk % s.U)).outbox.isNone) = true)
      (ho : (s.lane (s.nchunk % s.U)).outbox = some (b, k)) :
      ReadStep s c (signalOutbox
        (({ s with reader := none, nchunk := s.nchunk + 1, returned := s.returned ++ [k], cheld := (c, (b, k)) :: s.cheld } : Sys).setLane
          (s.nchunk % s.U) { s.lane (s.nchunk % s.U) with outbox := none }) (s.nchunk % s.U))
  | eof (hw : ¬ (!(s.lane (s.nchunk % s.U)).outEod && (s.lane (s.nchunk % s.U)).outbox.isNone) = true)
      (ho : (s.lane (s.nchunk % s.U)).outbox = none) :
      ReadStep s c { s with reader := none, eofs := c :: s.eofs }

theorem readBody_cases (s : Sys) (c : Nat) : ReadStep s c (readBody s c) := by
  unfold readBody
  dsimp only
  split
  · exact .wait ‹_›
  · split
    · exact .chunk _ _ ‹_› ‹_›
    · exact .eof ‹_› ‹_›

/-- One step of the pipeline under a label: the step relation of the label's thread, together with what `step` itself tests
    (no consumer asleep inside `Read`; the sleeper for `readWake`; the chunk in the recycler's hands). -/
inductive Step (s : Sys) : Label → Sys → Prop
  | loader {s' : Sys} (h : LoaderStep s s') : Step s .loader s'
  | unpacker {u : Nat} {s' : Sys} (h : UnpackerStep s u s') : Step s (.unpacker u) s'
  | read {c : Nat} {s' : Sys} (hr : s.reader = none) (h : ReadStep s c s') : Step s (.read c) s'
  | readWake {c : Nat} {s' : Sys} (hr : s.reader = some c) (h : ReadStep s c s') : Step s .readWake s'
  | recycle {c b k : Nat} (hm : (c, (b, k)) ∈ s.cheld) :
      Step s (.recycle c b k) (signalRecycling { s with cheld := s.cheld.erase (c, (b, k)), recycling := b :: s.recycling })

theorem step_cases {s s' : Sys} {l : Label} (hs : step s l = some s') : Step s l s' := by
  cases l with
  | loader => exact .loader (stepLoader_cases hs)
  | unpacker u => exact .unpacker (stepUnpacker_cases hs)
  | read c =>
    simp only [step] at hs
    split at hs
    · cases hs
    · cases hs; exact .read (by simpa using ‹¬ s.reader.isSome = true›) (readBody_cases s c)
  | readWake =>
    simp only [step] at hs
    split at hs
    · cases hs; exact .readWake ‹_› (readBody_cases s _)
    · cases hs
  | recycle c b k =>
    simp only [step] at hs
    split at hs
    · cases hs; exact .recycle ‹_›
    · cases hs

theorem LoaderStep.sound {s s' : Sys} (h : LoaderStep s s') : stepLoader s = some s' := by
  unfold stepLoader
  cases h with
  | create hl hlim => simp only [hl, hlim, if_true]
  | topWait hl hlim hr => simp only [hl, hlim, hr, if_false]
  | pop b rest hl hlim hr => simp only [hl, hlim, hr, if_false]
  | load b hl hT => simp only [hl, hT, if_true]
  | endData b hl hT => simp only [hl, hT, if_false]
  | putWait b k hl hin => simp only [hl, hin, if_true]
  | put b k hl hin => simp only [hl, hin, Bool.false_eq_true, if_false]
  | eodEnd u hl hu => simp only [hl, hu, if_true]
  | eodWait u hl hu hin => simp only [hl, hu, hin, if_true, if_false]
  | eodSet u hl hu hin => simp only [hl, hu, hin, Bool.false_eq_true, if_false]
  | drainEnd hl h0 => simp only [hl, h0, if_true]
  | drainWait hl h0 hr => simp only [hl, h0, hr, if_false]
  | collect hl h0 hr => simp only [hl, h0, if_false]

theorem stepLoader_eq_none {s : Sys} (h : stepLoader s = none) : s.lpc = .done := by
  unfold stepLoader at h
  split at h
  · split at h
    · cases h
    · split at h <;> cases h
  · split at h <;> cases h
  · dsimp only at h; split at h <;> cases h
  · split at h
    · cases h
    · dsimp only at h; split at h <;> cases h
  · split at h
    · cases h
    · split at h <;> cases h
  · assumption

theorem stepLoader_map (f : Sys → Sys) (s : Sys) (hpc : (f s).lpc = s.lpc)
    (hst : ∀ s', LoaderStep s s' → LoaderStep (f s) (f s')) : stepLoader (f s) = (stepLoader s).map f := by
  cases h : stepLoader s with
  | some s' => exact (hst s' (stepLoader_cases h)).sound
  | none =>
    have hd := stepLoader_eq_none h
    unfold stepLoader
    rw [hpc, hd]; rfl

theorem UnpackerStep.sound {s s' : Sys} {u : Nat} (h : UnpackerStep s u s') : stepUnpacker s u = some s' := by
  unfold stepUnpacker
  cases h with
  | getWait hu hpc hw => simp only [hu, hpc, hw, if_true, if_false]
  | get hu hpc hw => simp only [hu, hpc, hw, Bool.false_eq_true, if_false]
  | putWait c hu hpc ho => simp only [hu, hpc, ho, if_true, if_false]
  | put c hu hpc ho => simp only [hu, hpc, ho, Bool.false_eq_true, if_false]

theorem stepUnpacker_eq_none {s : Sys} {u : Nat} (h : stepUnpacker s u = none) : u ≥ s.U ∨ (s.lane u).upc = .done := by
  unfold stepUnpacker at h
  split at h
  · exact Or.inl ‹_›
  · dsimp only at h
    split at h
    · split at h <;> cases h
    · split at h <;> cases h
    · exact Or.inr ‹_›

theorem stepUnpacker_map (f : Sys → Sys) (s : Sys) (u : Nat) (hU : (f s).U = s.U) (hpc : ((f s).lane u).upc = (s.lane u).upc)
    (hst : ∀ s', UnpackerStep s u s' → UnpackerStep (f s) u (f s')) : stepUnpacker (f s) u = (stepUnpacker s u).map f := by
  cases h : stepUnpacker s u with
  | some s' => exact (hst s' (stepUnpacker_cases h)).sound
  | none =>
    unfold stepUnpacker
    rcases stepUnpacker_eq_none h with hd | hd
    · rw [hU, if_pos hd]; rfl
    · rw [hU]; dsimp only; rw [hpc, hd]; split <;> rfl

theorem ReadStep.sound {s s' : Sys} {c : Nat} (h : ReadStep s c s') : readBody s c = s' := by
  unfold readBody
  cases h with
  | wait hw => simp only [hw, if_true]
  | chunk b k hw ho => dsimp only; rw [if_neg hw, ho]
  | eof hw ho => dsimp only; rw [if_neg hw, ho]

theorem readBody_map (f : Sys → Sys) (s : Sys) (c : Nat) (hst : ∀ s', ReadStep s c s' → ReadStep (f s) c (f s')) :
    readBody (f s) c = f (readBody s c) :=
  (hst _ (readBody_cases s c)).sound

/-- `step` commutes with a map `f` of states (in `Locks`: `Sys.poke`, an arbitrary change of the shared fields the step holds no mutex of) once `f`
    keeps `reader` and `cheld`, which `step` itself tests, and commutes with what the label's thread does: the loader's step, an
    unpacker's step, `readBody`, or the push-and-signal of `Recycle` (`hY`). -/
theorem step_map (f : Sys → Sys) (s : Sys) (l : Label) (hr : (f s).reader = s.reader) (hc : (f s).cheld = s.cheld)
    (hL : l = .loader → stepLoader (f s) = (stepLoader s).map f)
    (hU : ∀ u, l = .unpacker u → stepUnpacker (f s) u = (stepUnpacker s u).map f)
    (hR : (∃ c, l = .read c) ∨ l = .readWake → ∀ c, readBody (f s) c = f (readBody s c))
    (hY : ∀ c b k, l = .recycle c b k →
      signalRecycling { f s with cheld := (f s).cheld.erase (c, (b, k)), recycling := b :: (f s).recycling } =
        f (signalRecycling { s with cheld := s.cheld.erase (c, (b, k)), recycling := b :: s.recycling })) :
    step (f s) l = (step s l).map f := by
  cases l with
  | loader => exact hL rfl
  | unpacker u => exact hU u rfl
  | read c =>
    simp only [step, hr]
    split
    · rfl
    · exact congrArg some (hR (Or.inl ⟨c, rfl⟩) c)
  | readWake =>
    simp only [step, hr]
    cases s.reader with
    | none => rfl
    | some c => exact congrArg some (hR (Or.inr rfl) c)
  | recycle c b k =>
    by_cases hm : (c, (b, k)) ∈ s.cheld
    · have hm' : (c, (b, k)) ∈ (f s).cheld := by rw [hc]; exact hm
      simp only [step, if_pos hm, if_pos hm']
      exact congrArg some (hY c b k rfl)
    · have hm' : ¬ (c, (b, k)) ∈ (f s).cheld := by rw [hc]; exact hm
      simp only [step, if_neg hm, if_neg hm']
      rfl

end EaselModel.Pipeline
