import EaselModel.Pipeline.Progress
/-! No lost wake-up in the dsqdata pipeline: a thread asleep on a condition variable that has not been signalled since
    it went to sleep is still rightly waiting (its wait condition holds). -/
namespace EaselModel.Pipeline

structure WInv (s : Sys) : Prop where
  lw : s.lwait = some false → loaderBlocked s = true
  uw : ∀ u < s.U, (s.lane u).uwait = some false → unpBlocked s u = true
  rw : s.reader.isSome = true → s.rsig = false → readBlocked s = true

theorem unpBlocked_eq {s s' : Sys} (v : Nat) (h : (s'.lane v).core = (s.lane v).core) : unpBlocked s' v = unpBlocked s v := by
  simp only [unpBlocked, Lane.core_inbox h, Lane.core_inEod h, Lane.core_outbox h, Lane.core_upc h]

theorem readBlocked_eq {s s' : Sys} (hU : s'.U = s.U) (hn : s'.nchunk = s.nchunk)
    (h : (s'.lane (s.nchunk % s.U)).core = (s.lane (s.nchunk % s.U)).core) : readBlocked s' = readBlocked s := by
  simp only [readBlocked, hU, hn, Lane.core_outbox h, Lane.core_outEod h]

theorem loaderBlocked_eq {s s' : Sys} (hU : s'.U = s.U) (hl : s'.lpc = s.lpc) (hn : s'.nalloc = s.nalloc)
    (hlim : s'.limit = s.limit) (hr : s'.recycling = s.recycling) (h : ∀ v, (s'.lane v).inbox = (s.lane v).inbox) :
    loaderBlocked s' = loaderBlocked s := by
  simp only [loaderBlocked, hU, hl, hn, hlim, hr, h]

theorem blocked_of_sameAll {s s' : Sys} (c : SameAll s s') :
    loaderBlocked s' = loaderBlocked s ∧ (∀ v, unpBlocked s' v = unpBlocked s v) ∧ readBlocked s' = readBlocked s := by
  have hin : ∀ v, (s'.lane v).inbox = (s.lane v).inbox := fun v => Lane.core_inbox (c.core.lane v)
  exact ⟨loaderBlocked_eq c.core.U c.core.lpc c.nalloc c.limit c.recycling hin,
         fun v => unpBlocked_eq v (c.core.lane v),
         readBlocked_eq c.core.U c.core.nchunk (c.core.lane _)⟩

theorem signalInbox_lwait (s : Sys) (u : Nat) :
    (signalInbox s u).lwait = if s.lwait.isSome && loaderOnInbox s u then some true else s.lwait := by
  unfold signalInbox; simp only; split <;> split <;> simp_all

theorem signalInbox_reader (s : Sys) (u : Nat) : (signalInbox s u).reader = s.reader ∧ (signalInbox s u).rsig = s.rsig := by
  unfold signalInbox; simp only; split <;> split <;> exact ⟨rfl, rfl⟩

theorem signalOutbox_lwait (s : Sys) (u : Nat) : (signalOutbox s u).lwait = s.lwait := by
  unfold signalOutbox; simp only; split <;> split <;> rfl

theorem signalOutbox_reader (s : Sys) (u : Nat) :
    (signalOutbox s u).reader = s.reader ∧
    (signalOutbox s u).rsig = (if s.reader.isSome && s.nchunk % s.U == u then true else s.rsig) := by
  unfold signalOutbox; simp only; split <;> split <;> simp_all

theorem signalRecycling_reader (s : Sys) : (signalRecycling s).reader = s.reader ∧ (signalRecycling s).rsig = s.rsig := by
  unfold signalRecycling; split <;> (try split) <;> exact ⟨rfl, rfl⟩

theorem signalRecycling_lane (s : Sys) (v : Nat) : (signalRecycling s).lane v = s.lane v := by
  unfold signalRecycling; split <;> (try split) <;> rfl

theorem signalRecycling_lwait (s : Sys) (h : (signalRecycling s).lwait = some false) :
    s.lwait = some false ∧ s.lpc ≠ .top ∧ s.lpc ≠ .drain := by
  unfold signalRecycling at h
  split at h
  · split at h
    · cases h
    · rename_i hn; simp at hn; rw [hn] at h; cases h
  · split at h
    · cases h
    · rename_i hn; simp at hn; rw [hn] at h; cases h
  · rename_i h1 h2
    exact ⟨h, fun e => h1 e, fun e => h2 e⟩

theorem uwait_condSet (s : Sys) (u v : Nat) (c : Bool) (hu : u < s.lanes.length) :
    ((if c then s.setLane u { s.lane u with uwait := some true } else s).lane v).uwait
      = if v = u ∧ c = true then some true else (s.lane v).uwait := by
  split
  · rename_i hc
    rw [lane_setLane _ _ _ _ _ rfl hu]
    by_cases hv : v = u
    · subst hv; simp [hc]
    · simp [hv]
  · rename_i hc; simp [hc]

theorem signalInbox_uwait (s : Sys) (u v : Nat) (hu : u < s.lanes.length) :
    ((signalInbox s u).lane v).uwait
      = if v = u ∧ ((s.lane u).uwait.isSome && (s.lane u).upc == .get) = true then some true else (s.lane v).uwait := by
  unfold signalInbox
  simp only
  split
  · rw [uwait_condSet _ u v _ (by simpa using hu)]; rfl
  · rw [uwait_condSet _ u v _ hu]

theorem signalOutbox_uwait (s : Sys) (u v : Nat) (hu : u < s.lanes.length) :
    ((signalOutbox s u).lane v).uwait
      = if v = u ∧ ((s.lane u).uwait.isSome && (s.lane u).upc != .get) = true then some true else (s.lane v).uwait := by
  unfold signalOutbox
  simp only
  split
  · rw [uwait_condSet _ u v _ (by simpa using hu)]; rfl
  · rw [uwait_condSet _ u v _ hu]

/-- after `pthread_cond_signal(&inbox_cv[u])`: the loader (if it waits on inbox `u`) and unpacker `u` (if it waits at
    `get`) may have had their wait condition invalidated - they are now marked signalled -/
theorem winv_signalInbox (s : Sys) (u : Nat) (hu : u < s.lanes.length)
    (hL : s.lwait = some false → loaderBlocked s = true ∨ loaderOnInbox s u = true)
    (hU : ∀ v < s.U, (s.lane v).uwait = some false → unpBlocked s v = true ∨ (v = u ∧ (s.lane u).upc = .get))
    (hR : s.reader.isSome = true → s.rsig = false → readBlocked s = true) : WInv (signalInbox s u) := by
  obtain ⟨b1, b2, b3⟩ := blocked_of_sameAll (sameAll_signalInbox s u)
  have hUeq := (sameAll_signalInbox s u).core.U
  refine ⟨?_, ?_, ?_⟩
  · intro hw; rw [b1]; rw [signalInbox_lwait] at hw
    split at hw
    · cases hw
    · rename_i hc
      rcases hL hw with h | h
      · exact h
      · simp [hw, h] at hc
  · intro v hv hw; rw [hUeq] at hv; rw [b2]; rw [signalInbox_uwait _ _ _ hu] at hw
    split at hw
    · cases hw
    · rename_i hc
      rcases hU v hv hw with h | ⟨h1, h2⟩
      · exact h
      · subst h1; simp [hw, h2] at hc
  · intro h1 h2; rw [b3]; rw [(signalInbox_reader s u).1] at h1; rw [(signalInbox_reader s u).2] at h2; exact hR h1 h2

/-- after `pthread_cond_signal(&outbox_cv[u])`: unpacker `u` (waiting at `put`) and the consumer inside `Read` on
    lane `u` are marked signalled -/
theorem winv_signalOutbox (s : Sys) (u : Nat) (hu : u < s.lanes.length)
    (hL : s.lwait = some false → loaderBlocked s = true)
    (hU : ∀ v < s.U, (s.lane v).uwait = some false → unpBlocked s v = true ∨ (v = u ∧ (s.lane u).upc ≠ .get))
    (hR : s.reader.isSome = true → s.rsig = false → readBlocked s = true ∨ s.nchunk % s.U = u) : WInv (signalOutbox s u) := by
  obtain ⟨b1, b2, b3⟩ := blocked_of_sameAll (sameAll_signalOutbox s u)
  have hUeq := (sameAll_signalOutbox s u).core.U
  refine ⟨?_, ?_, ?_⟩
  · intro hw; rw [b1]; rw [signalOutbox_lwait] at hw; exact hL hw
  · intro v hv hw; rw [hUeq] at hv; rw [b2]; rw [signalOutbox_uwait _ _ _ hu] at hw
    split at hw
    · cases hw
    · rename_i hc
      rcases hU v hv hw with h | ⟨h1, h2⟩
      · exact h
      · subst h1; simp [hw, h2] at hc
  · intro h1 h2; rw [b3]
    rw [(signalOutbox_reader s u).1] at h1; rw [(signalOutbox_reader s u).2] at h2
    split at h2
    · cases h2
    · rename_i hc
      rcases hR h1 h2 with h | h
      · exact h
      · simp [h1, h] at hc

/-- after `pthread_cond_signal(&recycling_cv)`: the loader waiting at `top` / `drain` is marked signalled -/
theorem winv_signalRecycling (s : Sys)
    (hL : s.lwait = some false → loaderBlocked s = true ∨ s.lpc = .top ∨ s.lpc = .drain)
    (hU : ∀ v < s.U, (s.lane v).uwait = some false → unpBlocked s v = true)
    (hR : s.reader.isSome = true → s.rsig = false → readBlocked s = true) : WInv (signalRecycling s) := by
  obtain ⟨b1, b2, b3⟩ := blocked_of_sameAll (sameAll_signalRecycling s)
  have hUeq := (sameAll_signalRecycling s).core.U
  refine ⟨?_, ?_, ?_⟩
  · intro hw; rw [b1]
    obtain ⟨h1, h2, h3⟩ := signalRecycling_lwait s hw
    rcases hL h1 with h | h | h
    · exact h
    · exact absurd h h2
    · exact absurd h h3
  · intro v hv hw; rw [hUeq] at hv; rw [b2]; rw [signalRecycling_lane] at hw; exact hU v hv hw
  · intro h1 h2; rw [b3]; rw [(signalRecycling_reader s).1] at h1; rw [(signalRecycling_reader s).2] at h2; exact hR h1 h2

end EaselModel.Pipeline
