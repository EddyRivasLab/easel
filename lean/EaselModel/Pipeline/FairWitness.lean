import EaselModel.Pipeline.Liveness
/-! # A weakly fair infinite execution exists (non-vacuity of `fair_reaches_eof`).

Any finite schedule that runs the pipeline to its quiescent end (loader and unpackers exited, every chunk returned and recycled),
followed by `esl_dsqdata_Read` calls of one consumer for ever (each answers EOF), is an infinite execution; it is weakly fair because
from the quiescent state on no thread can make progress any more. `demoExec`: 1 unpacker, 1 chunk, 1 consumer. -/
namespace EaselModel.Pipeline

/-- the state after `k` further `Read`s by consumer `c` that were answered EOF -/
def tailState (s : Sys) (c k : Nat) : Sys := { s with reader := none, eofs := List.replicate k c ++ s.eofs }

/-- nothing is left to do: `Read` answers EOF, nobody can make progress -/
structure Quiescent (s : Sys) : Prop where
  reader : s.reader = none
  eod : (s.lane (s.nchunk % s.U)).outEod = true
  out : (s.lane (s.nchunk % s.U)).outbox = none
  stuck : ∀ t, canProgress s t = false

theorem tailState_zero (s : Sys) (c : Nat) (h : s.reader = none) : tailState s c 0 = s := by
  cases s; simp only [tailState] at *; subst h; rfl

theorem tail_step (s : Sys) (c k : Nat) (h : Quiescent s) : step (tailState s c k) (.read c) = some (tailState s c (k + 1)) := by
  have e1 : (tailState s c k).reader = none := rfl
  have e2 : (tailState s c k).lane ((tailState s c k).nchunk % (tailState s c k).U) = s.lane (s.nchunk % s.U) := rfl
  simp only [step, e1, Option.isSome_none, Bool.false_eq_true, if_false, readBody, e2, h.eod, h.out, Option.isNone_none,
    Bool.not_true, Bool.false_and]
  rfl

theorem tail_canProgress (s : Sys) (c k : Nat) (t : Thread) : canProgress (tailState s c k) t = canProgress s t :=
  quiet_canProgress (s := s) (s' := tailState s c k) ⟨rfl, rfl, rfl, rfl, rfl, rfl, rfl, fun _ => rfl⟩ t

def runStates (s : Sys) : List Label → List Sys
  | [] => [s]
  | l :: ls => match step s l with
    | some s' => s :: runStates s' ls
    | none => [s]

theorem runStates_spec : ∀ (s : Sys) (ls : List Label) (sN : Sys), run s ls = some sN →
    (runStates s ls).length = ls.length + 1 ∧ (runStates s ls)[ls.length]? = some sN ∧
    ∀ i (hi : i < ls.length), ∃ a b, (runStates s ls)[i]? = some a ∧ (runStates s ls)[i + 1]? = some b ∧ step a ls[i] = some b
  | s, [], sN, h => by
    simp only [run, Option.some.injEq] at h; subst h
    exact ⟨rfl, rfl, fun i hi => absurd hi (Nat.not_lt_zero _)⟩
  | s, l :: ls, sN, h => by
    simp only [run] at h
    cases hs : step s l with
    | none => simp [hs] at h
    | some s' =>
      simp only [hs] at h
      obtain ⟨h1, h2, h3⟩ := runStates_spec s' ls sN h
      simp only [runStates, hs, List.length_cons]
      refine ⟨by omega, by simpa using h2, fun i hi => ?_⟩
      cases i with
      | zero =>
        refine ⟨s, s', rfl, ?_, by simpa using hs⟩
        cases ls with
        | nil => simp [runStates]
        | cons l2 ls2 =>
          simp only [runStates]
          split <;> simp
      | succ j =>
        obtain ⟨a, b, ha, hb, hst⟩ := h3 j (by simpa using hi)
        exact ⟨a, b, by simpa using ha, by simpa using hb, by simpa using hst⟩

/-- the infinite execution: the finite schedule `pre`, then `Read` by consumer `c` for ever -/
def stOf (s0 : Sys) (pre : List Label) (sN : Sys) (c : Nat) (i : Nat) : Sys :=
  if i < pre.length then (runStates s0 pre).getD i s0 else tailState sN c (i - pre.length)
def labOf (pre : List Label) (c : Nat) (i : Nat) : Label := if h : i < pre.length then pre[i] else .read c

theorem stOf_next (s0 : Sys) (pre : List Label) (sN : Sys) (c : Nat) (hrun : run s0 pre = some sN) (hq : Quiescent sN) (i : Nat) :
    step (stOf s0 pre sN c i) (labOf pre c i) = some (stOf s0 pre sN c (i + 1)) := by
  obtain ⟨hlen, hlast, hsteps⟩ := runStates_spec s0 pre sN hrun
  by_cases hi : i < pre.length
  · obtain ⟨a, b, ha, hb, hst⟩ := hsteps i hi
    have e1 : stOf s0 pre sN c i = a := by
      simp only [stOf, hi, if_true, List.getD_eq_getElem?_getD, ha, Option.getD_some]
    have e2 : labOf pre c i = pre[i] := by simp only [labOf, hi, dif_pos]
    have e3 : stOf s0 pre sN c (i + 1) = b := by
      by_cases hi1 : i + 1 < pre.length
      · simp only [stOf, hi1, if_true, List.getD_eq_getElem?_getD, hb, Option.getD_some]
      · have hN : i + 1 = pre.length := by omega
        have hbN : b = sN := by rw [hN, hlast] at hb; exact (Option.some.inj hb).symm
        have hirr : ¬ pre.length < pre.length := Nat.lt_irrefl _
        simp only [stOf, hN, hirr, if_false, Nat.sub_self]
        rw [tailState_zero sN c hq.reader, hbN]
    rw [e1, e2, e3]; exact hst
  · have e1 : stOf s0 pre sN c i = tailState sN c (i - pre.length) := by simp only [stOf, hi, if_false]
    have e2 : labOf pre c i = .read c := by simp only [labOf, hi, dif_neg, not_false_eq_true]
    have e3 : stOf s0 pre sN c (i + 1) = tailState sN c (i - pre.length + 1) := by
      have : ¬ i + 1 < pre.length := by omega
      simp only [stOf, this, if_false]
      congr 1; omega
    rw [e1, e2, e3]; exact tail_step sN c _ hq

def execOf {U T C : Nat} (pre : List Label) (sN : Sys) (c : Nat) (hrun : run (Sys.create U T C) pre = some sN) (hq : Quiescent sN) :
    Exec U T C where
  st := stOf (Sys.create U T C) pre sN c
  lab := labOf pre c
  init := by
    have : stOf (Sys.create U T C) pre sN c 0 = Sys.create U T C := by
      by_cases h0 : 0 < pre.length
      · simp only [stOf, h0, if_true]
        cases pre with
        | nil => simp at h0
        | cons l ls => simp only [runStates]; split <;> rfl
      · have hp : pre = [] := List.eq_nil_of_length_eq_zero (by omega)
        subst hp
        simp only [run, Option.some.injEq] at hrun
        simp only [stOf, List.length_nil, Nat.lt_irrefl, if_false, Nat.sub_self]
        rw [tailState_zero sN c hq.reader, hrun]
    rw [this]; exact .create
  next := stOf_next _ pre sN c hrun hq

theorem execOf_fair {U T C : Nat} (pre : List Label) (sN : Sys) (c : Nat) (hrun : run (Sys.create U T C) pre = some sN)
    (hq : Quiescent sN) : WeaklyFair (execOf pre sN c hrun hq) := by
  intro t i hall
  exfalso
  have h := hall (max i pre.length) (Nat.le_max_left _ _)
  have hge : ¬ max i pre.length < pre.length := by
    have := Nat.le_max_right i pre.length; omega
  have e : (execOf pre sN c hrun hq).st (max i pre.length) = tailState sN c (max i pre.length - pre.length) := by
    show stOf _ pre sN c _ = _
    simp only [stOf, hge, if_false]
  rw [e, tail_canProgress, hq.stuck t] at h
  cases h

def demoPre : List Label :=
  [.loader, .loader, .loader, .unpacker 0, .unpacker 0, .read 0, .recycle 0 0 0, .loader, .loader, .loader, .loader, .loader, .loader,
   .unpacker 0, .unpacker 0]

def demoEnd : Sys := (run (Sys.create 1 1 1) demoPre).getD (Sys.create 1 1 1)

theorem demo_run : run (Sys.create 1 1 1) demoPre = some demoEnd := by
  have h : (run (Sys.create 1 1 1) demoPre).isSome = true := by decide
  unfold demoEnd
  cases hr : run (Sys.create 1 1 1) demoPre with
  | none => rw [hr] at h; cases h
  | some s => rfl

theorem demo_quiescent : Quiescent demoEnd := by
  refine ⟨by decide, by decide, by decide, fun t => ?_⟩
  cases t with
  | loader => decide
  | reader => decide
  | recycler => decide
  | unp u =>
    cases u with
    | zero => decide
    | succ v =>
      have hl : demoEnd.lane (v + 1) = {} := by
        have hlen : demoEnd.lanes.length = 1 := by decide
        simp only [Sys.lane, List.getD_eq_getElem?_getD]
        rw [List.getElem?_eq_none (by omega)]; rfl
      simp only [canProgress, unpBlocked, hl]
      rfl

/-- a weakly fair infinite execution: one chunk through one unpacker to one consumer, then EOF for ever -/
def demoExec : Exec 1 1 1 := execOf demoPre demoEnd 0 demo_run demo_quiescent
theorem demoExec_fair : WeaklyFair demoExec := execOf_fair demoPre demoEnd 0 demo_run demo_quiescent

end EaselModel.Pipeline
