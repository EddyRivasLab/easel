import EaselModel.Pipeline.Progress
/-! # The pipeline on a database whose `.dsqs` / `.dsqm` was cut short: the loader's error branch as a transition.

`dsqdata_loader_thread`: `nread = fread(chu->psq, …); if (nread != chu->pn) ESL_XEXCEPTION(eslEOD, …)` (and the same for the
metadata) → `ERROR:` → `esl_fatal("… dsqdata loader thread failed: unrecoverable")` → `exit(1)`: the whole process ends, with
every unpacker and consumer in it (the comment at the `ERROR:` label: "we treat all exceptions as fatal … the other threads
will block waiting for chunks to come from the loader, if the loader fails, we would need a back channel").

`FSys` = the pipeline `Sys` + the number `failAt` of the chunk whose data is missing (`Dsqdata.loaderRunX` computes it from the
bytes: the number of chunks loaded before `fatalPackets` / `fatalMeta`) + `aborted`. The loader's local step "`fread` the next
chunk" (`lpc = .haveBuf _`) aborts instead when the chunk number is `failAt`; after the abort nobody steps any more. -/
namespace EaselModel.Pipeline

structure FSys where
  s : Sys
  failAt : Nat
  aborted : Bool

/-- the loader is about to `fread` the chunk whose data is missing -/
def FSys.hitsCut (x : FSys) : Bool :=
  match x.s.lpc with
  | .haveBuf _ => decide (x.s.nchunkL = x.failAt) && decide (x.s.nchunkL < x.s.T)
  | _ => false

def fstep (x : FSys) (l : Label) : Option FSys :=
  if x.aborted then none
  else if l = .loader ∧ x.hitsCut = true then some { x with aborted := true }
  else (step x.s l).map fun s' => { x with s := s' }

def frun (x : FSys) : List Label → Option FSys
  | [] => some x
  | l :: ls => match fstep x l with
    | some x' => frun x' ls
    | none => none

inductive FReachable (U T C F : Nat) : FSys → Prop
  | create : FReachable U T C F ⟨Sys.create U T C, F, false⟩
  | step {x x' : FSys} {l : Label} : FReachable U T C F x → fstep x l = some x' → FReachable U T C F x'

theorem fstep_cases {x x' : FSys} {l : Label} (h : fstep x l = some x') :
    x.aborted = false ∧ x'.failAt = x.failAt ∧
      ((l = .loader ∧ x.hitsCut = true ∧ x'.s = x.s ∧ x'.aborted = true) ∨
       (¬ (l = .loader ∧ x.hitsCut = true) ∧ step x.s l = some x'.s ∧ x'.aborted = false)) := by
  unfold fstep at h
  by_cases ha : x.aborted = true
  · simp [ha] at h
  · have ha' : x.aborted = false := by simpa using ha
    simp only [ha', Bool.false_eq_true, if_false] at h
    by_cases hc : l = .loader ∧ x.hitsCut = true
    · rw [if_pos hc] at h
      cases h
      exact ⟨ha', rfl, Or.inl ⟨hc.1, hc.2, rfl, rfl⟩⟩
    · rw [if_neg hc] at h
      cases hs : step x.s l with
      | none => simp [hs] at h
      | some s' =>
        simp only [hs, Option.map_some, Option.some.injEq] at h
        subst h
        exact ⟨ha', rfl, Or.inr ⟨hc, rfl, rfl⟩⟩

/-- the pipeline component of a reachable state is a reachable state of the pipeline: every safety theorem of the intact
    pipeline (order, lanes, ownership, lock discipline, buffers) holds up to the moment the process ends -/
theorem freachable_base {U T C F : Nat} {x : FSys} (h : FReachable U T C F x) : Reachable U T C x.s ∧ x.failAt = F := by
  induction h with
  | create => exact ⟨.create, rfl⟩
  | step _ hs ih =>
    obtain ⟨_, hf, hc⟩ := fstep_cases hs
    rcases hc with ⟨_, _, he, _⟩ | ⟨_, hst, _⟩
    · rw [he, hf]; exact ih
    · exact ⟨.step ih.1 hst, by rw [hf]; exact ih.2⟩

theorem step_other_lpc (s s' : Sys) (l : Label) (hl : l ≠ .loader) (hs : step s l = some s') :
    s'.lpc = s.lpc ∧ s'.nchunkL = s.nchunkL ∧ s'.T = s.T :=
  let k := (step_cases hs).keeps
  ⟨(k.loader hl).1, (k.loader hl).2.1, k.T⟩

/-- with the data of chunk `F < T` missing: the loader never gets past chunk `F`, never leaves its main loop -/
structure CutInv (s : Sys) (F : Nat) : Prop where
  nl : s.nchunkL ≤ F
  putk : ∀ b k, s.lpc = .put b k → k < F
  past : s.lpc.past = false

theorem cutInv_loader (s s' : Sys) (F : Nat) (hF : F < s.T) (j : CutInv s F)
    (hcut : ∀ b, s.lpc = .haveBuf b → ¬ (s.nchunkL = F ∧ s.nchunkL < s.T)) (hst : LoaderStep s s') : CutInv s' F := by
  have jn := j.nl; have jp := j.past
  cases hst with
  | topWait | putWait => exact ⟨jn, j.putk, jp⟩
  | create | pop =>
    refine ⟨jn, ?_, rfl⟩; intro b k hk; simp at hk
  | load b hb hlt =>
    refine ⟨jn, ?_, rfl⟩
    intro b' k hk
    simp only [LPc.put.injEq] at hk
    rw [← hk.2]
    have : s.nchunkL ≠ F := fun h => hcut b hb ⟨h, hlt⟩
    omega
  | endData b hb hge => omega
  | put b k hb =>
    have hk := j.putk b k hb
    have c := (sameAll_signalInbox (Sys.setLane { s with lwait := none, lpc := LPc.top, nchunkL := k + 1 } (k % s.U)
      { s.lane (k % s.U) with inbox := some (b, k) }) (k % s.U)).core
    have h1 := c.lpc; have h2 := c.nchunkL
    refine ⟨?_, ?_, ?_⟩
    · rw [h2]; show k + 1 ≤ F; omega
    · intro b' k' hk'; rw [h1] at hk'; simp at hk'
    · rw [h1]; rfl
  | eodEnd u hb | eodWait u hb | eodSet u hb | drainEnd hb | drainWait hb | collect hb =>
    rw [hb] at jp; simp [LPc.past] at jp

theorem cutInv_step {x x' : FSys} {l : Label} (hF : x.failAt < x.s.T) (j : CutInv x.s x.failAt) (hs : fstep x l = some x') :
    CutInv x'.s x'.failAt := by
  obtain ⟨_, hf, hc⟩ := fstep_cases hs
  rw [hf]
  rcases hc with ⟨_, _, he, _⟩ | ⟨hnc, hst, _⟩
  · rw [he]; exact j
  · by_cases hl : l = .loader
    · subst hl
      refine cutInv_loader x.s x'.s x.failAt hF j ?_ (stepLoader_cases hst)
      intro b hb hh
      apply hnc
      refine ⟨rfl, ?_⟩
      simp only [FSys.hitsCut, hb, Bool.and_eq_true, decide_eq_true_eq]
      exact hh
    · obtain ⟨h1, h2, _⟩ := step_other_lpc _ _ _ hl hst
      exact ⟨by rw [h2]; exact j.nl, by rw [h1]; exact j.putk, by rw [h1]; exact j.past⟩

theorem freachable_cutInv {U T C F : Nat} (hF : F < T) {x : FSys} (h : FReachable U T C F x) : CutInv x.s x.failAt := by
  induction h with
  | create => exact ⟨Nat.zero_le _, by intro b k hk; simp [Sys.create] at hk, rfl⟩
  | step hx hs ih =>
    have hb := freachable_base hx
    exact cutInv_step (by rw [hb.2, reachable_T hb.1]; exact hF) ih hs

/-- not aborted: a label is enabled in the cut pipeline exactly when it is in the intact one (the abort replaces a loader step) -/
theorem fstep_isSome (x : FSys) (l : Label) (ha : x.aborted = false) : (fstep x l).isSome = (step x.s l).isSome := by
  unfold fstep
  simp only [ha, Bool.false_eq_true, if_false]
  by_cases hc : l = .loader ∧ x.hitsCut = true
  · rw [if_pos hc]
    obtain ⟨rfl, hh⟩ := hc
    simp only [FSys.hitsCut] at hh
    split at hh
    · rename_i b hb
      simp only [step, stepLoader, hb, Option.isSome_some]
      split <;> rfl
    · cases hh
  · rw [if_neg hc]; simp

end EaselModel.Pipeline
