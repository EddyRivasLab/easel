import EaselModel.Pipeline.Buffers
/-! What a step leaves alone besides the shared fields (`Keeps`, `Step.keeps`), the `…Blocked` predicates (the conditions of the
`pthread_cond_wait` loops), deadlock freedom (`no_deadlock`), clean shutdown (`loader_exit_clean`), EOF at the end (`read_eof_at_end`). -/
namespace EaselModel.Pipeline

/-- the loader's next step would be a `pthread_cond_wait` (or it has exited) -/
def loaderBlocked (s : Sys) : Bool := match s.lpc with
  | .top => decide (s.nalloc ≥ s.limit) && s.recycling.isEmpty
  | .haveBuf _ => false
  | .put _ k => (s.lane (k % s.U)).inbox.isSome
  | .eod u => decide (u < s.U) && (s.lane u).inbox.isSome
  | .drain => (s.nalloc != 0) && s.recycling.isEmpty
  | .done => true

/-- unpacker `u`'s next step would be a `pthread_cond_wait` (or it has exited) -/
def unpBlocked (s : Sys) (u : Nat) : Bool := match (s.lane u).upc with
  | .get => !(s.lane u).inEod && (s.lane u).inbox.isNone
  | .put _ => (s.lane u).outbox.isSome
  | .done => true

/-- a call of `esl_dsqdata_Read` would go to sleep on the outbox -/
def readBlocked (s : Sys) : Bool := !(s.lane (s.nchunk % s.U)).outEod && (s.lane (s.nchunk % s.U)).outbox.isNone

/-- **What a step of label `l` leaves alone** besides the shared fields (for those: `step_frame` in `Locks.lean`): the constants `T`, `limit`
    and the number of lanes always; the loader's private variables (program counter with the chunk in hand, chunk counter,
    `nalloc`) unless it is the loader's step; unpacker `u`'s program counter (with the chunk in hand) unless it is its step.
    Signals and waits touch wait flags only (`SameAll`). -/
structure Keeps (s s' : Sys) (l : Label) : Prop where
  T : s'.T = s.T
  limit : s'.limit = s.limit
  len : s'.lanes.length = s.lanes.length
  loader : l ≠ .loader → s'.lpc = s.lpc ∧ s'.nchunkL = s.nchunkL ∧ s'.nalloc = s.nalloc
  unp : ∀ u, l ≠ .unpacker u → (s'.lane u).upc = (s.lane u).upc

theorem Keeps.of_sameAll {s s1 s2 : Sys} {l : Label} (k : Keeps s s1 l) (c : SameAll s1 s2) : Keeps s s2 l :=
  ⟨c.core.T.trans k.T, c.limit.trans k.limit, c.core.len.trans k.len,
   fun h => ⟨c.core.lpc.trans (k.loader h).1, c.core.nchunkL.trans (k.loader h).2.1, c.nalloc.trans (k.loader h).2.2⟩,
   fun u h => (Lane.core_upc (c.core.lane u)).trans (k.unp u h)⟩

/-- replacing lane `v` by a lane with `v`'s program counter leaves every lane's program counter as it was; no bound on `v`:
    beyond the last lane nothing is replaced -/
theorem upc_setLane (σ s : Sys) (v : Nat) (l' : Lane) (hl : σ.lanes = s.lanes) (u : Nat) (h : u = v → l'.upc = (s.lane v).upc) :
    ((σ.setLane v l').lane u).upc = (s.lane u).upc := by
  rcases Nat.lt_or_ge v σ.lanes.length with hv | hv
  · rw [lane_setLane σ s v u l' hl (hl ▸ hv)]
    split
    · rename_i e'; rw [h e', e']
    · rfl
  · rw [setLane_of_le σ v l' hv, Sys.lane, hl]; rfl

/-- `esl_dsqdata_Read` changes neither the constants nor anybody's private variables, whoever calls it in whatever state -/
theorem ReadStep.keeps {s s' : Sys} {c : Nat} (hb : ReadStep s c s') (l : Label) (hl : l ≠ .loader) (hu : ∀ u, l ≠ .unpacker u) :
    Keeps s s' l := by
  cases hb with
  | wait | eof => exact ⟨rfl, rfl, rfl, fun _ => ⟨rfl, rfl, rfl⟩, fun _ _ => rfl⟩
  | chunk =>
    refine Keeps.of_sameAll ?_ (sameAll_signalOutbox _ _)
    exact ⟨rfl, rfl, by simp, fun _ => ⟨rfl, rfl, rfl⟩, fun u _ => upc_setLane _ s _ _ rfl u fun _ => rfl⟩

theorem readBody_consts (s : Sys) (c : Nat) : (readBody s c).T = s.T ∧ (readBody s c).limit = s.limit :=
  let k := (readBody_cases s c).keeps (.read c) (by simp) (by simp)
  ⟨k.T, k.limit⟩

theorem lpcT_readBody (s : Sys) (c : Nat) :
    (readBody s c).lpc = s.lpc ∧ (readBody s c).nchunkL = s.nchunkL ∧ (readBody s c).T = s.T :=
  let k := (readBody_cases s c).keeps (.read c) (by simp) (by simp)
  ⟨(k.loader (by simp)).1, (k.loader (by simp)).2.1, k.T⟩

theorem Step.keeps {s s' : Sys} {l : Label} (h : Step s l s') : Keeps s s' l := by
  cases h with
  | loader hl =>
    cases hl with
    | put | eodSet =>
      refine Keeps.of_sameAll ?_ (sameAll_signalInbox _ _)
      exact ⟨rfl, rfl, by simp, fun e => absurd rfl e, fun u _ => upc_setLane _ s _ _ rfl u fun _ => rfl⟩
    | _ => exact ⟨rfl, rfl, rfl, fun e => absurd rfl e, fun _ _ => rfl⟩
  | @unpacker u _ hu =>
    -- its own lane is replaced: every other lane keeps its program counter
    have own (l' : Lane) : Keeps s (s.setLane u l') (.unpacker u) :=
      ⟨rfl, rfl, by simp, fun _ => ⟨rfl, rfl, rfl⟩, fun v hv => upc_setLane s s u l' rfl v fun e => absurd (e ▸ rfl) hv⟩
    cases hu with
    | getWait | putWait => exact own _
    | get =>
      split
      · exact (own _).of_sameAll (sameAll_signalInbox _ _)
      · exact own _
    | put => exact (own _).of_sameAll (sameAll_signalOutbox _ _)
  | read _ hr => exact hr.keeps _ (by simp) (by simp)
  | readWake _ hr => exact hr.keeps _ (by simp) (by simp)
  | recycle =>
    refine Keeps.of_sameAll ?_ (sameAll_signalRecycling _)
    exact ⟨rfl, rfl, rfl, fun _ => ⟨rfl, rfl, rfl⟩, fun _ _ => rfl⟩

theorem step_consts (s s' : Sys) (l : Label) (hs : step s l = some s') : s'.T = s.T ∧ s'.limit = s.limit :=
  ⟨(step_cases hs).keeps.T, (step_cases hs).keeps.limit⟩

theorem step_limit (s s' : Sys) (l : Label) (hs : step s l = some s') : s'.limit = s.limit :=
  (step_consts s s' l hs).2

theorem reachable_limit {U T C : Nat} {s : Sys} (h : Reachable U T C s) : s.limit = C + 3 * U + 2 := by
  induction h with
  | create => rfl
  | step _ hs ih => rw [step_limit _ _ _ hs, ih]

theorem step_T (s s' : Sys) (l : Label) (hs : step s l = some s') : s'.T = s.T :=
  (step_consts s s' l hs).1

theorem reachable_T {U T C : Nat} {s : Sys} (h : Reachable U T C s) : s.T = T := by
  induction h with
  | create => rfl
  | step _ hs ih => rw [step_T _ _ _ hs, ih]

/-- **No deadlock.** In every state satisfying the invariants some thread can take a step that is not a wait:
    the loader, an unpacker, a consumer that holds a chunk (it can `Recycle`), or a consumer calling `Read`
    (which returns a chunk or EOF at once). -/
theorem no_deadlock (s : Sys) (h : Inv s) (h2 : Inv2 s) (hlim : 0 < s.limit) :
    loaderBlocked s = false ∨ (∃ u < s.U, unpBlocked s u = false) ∨ s.cheld ≠ [] ∨ readBlocked s = false := by
  apply Classical.byContradiction
  intro hcon
  simp only [not_or, Bool.not_eq_false, not_exists, not_and, ne_eq, Decidable.not_not] at hcon
  obtain ⟨hL, hUn, hC, hR⟩ := hcon
  have hu0 : s.nchunk % s.U < s.U := Nat.mod_lt _ h.upos
  -- the lane the next Read looks at
  have hR' : (s.lane (s.nchunk % s.U)).outEod = false ∧ (s.lane (s.nchunk % s.U)).outbox = none := by
    simp only [readBlocked, Bool.and_eq_true, Bool.not_eq_true', Option.isNone_iff_eq_none] at hR; exact hR
  -- its unpacker is blocked at `get` with an empty inbox
  have hU0 := hUn _ hu0
  have hget : (s.lane (s.nchunk % s.U)).upc = .get ∧ (s.lane (s.nchunk % s.U)).inEod = false ∧ (s.lane (s.nchunk % s.U)).inbox = none := by
    simp only [unpBlocked] at hU0
    split at hU0
    · rename_i hg
      simp only [Bool.and_eq_true, Bool.not_eq_true', Option.isNone_iff_eq_none] at hU0
      exact ⟨hg, hU0.1, hU0.2⟩
    · rw [hR'.2] at hU0; cases hU0
    · rename_i hd; have := h2.doneOut _ hu0 hd; rw [hR'.1] at this; cases this
  -- so that lane is empty, hence no chunk is in flight at all
  have hks : (s.lane (s.nchunk % s.U)).ks = [] := by
    simp [Lane.ks, Lane.outK, Lane.heldK, Lane.inK, hR'.2, hget.1, hget.2.2]
  have hnone : s.nchunkL ≤ s.nchunk := by
    apply Classical.byContradiction; intro hlt
    have := h.complete s.nchunk (Nat.le_refl _) (by omega)
    rw [hks] at this; cases this
  have hempty : ∀ u < s.U, (s.lane u).ks = [] := by
    intro u hu
    cases hk : (s.lane u).ks with
    | nil => rfl
    | cons a as => have := h.range u hu a (by rw [hk]; simp); omega
  have hinEmpty : ∀ u < s.U, (s.lane u).inbox = none := by
    intro u hu
    have := hempty u hu
    cases hi : (s.lane u).inbox with
    | none => rfl
    | some c => simp [Lane.ks, Lane.inK, hi] at this
  have hnb : ∀ u < s.U, (s.lane u).nbuf = 0 := by
    intro u hu
    have := hempty u hu
    simp only [Lane.ks, Lane.outK, Lane.heldK, Lane.inK, List.append_eq_nil_iff, Option.toList_eq_nil_iff, Option.map_eq_none_iff] at this
    obtain ⟨⟨ho, hh⟩, hi⟩ := this
    simp only [Lane.nbuf, ho, hi, Option.toList_none, List.length_nil, Nat.zero_add]
    split
    · rename_i c hc; simp [hc] at hh
    · rfl
  -- the loader cannot be blocked
  simp only [loaderBlocked] at hL
  split at hL
  · -- top: all buffers would have to be in the lanes, which are empty
    rename_i hl
    simp only [Bool.and_eq_true, decide_eq_true_eq, List.isEmpty_iff] at hL
    have hcnt := h2.count
    have hsum : (s.lanes.map Lane.nbuf).sum = 0 := by
      apply List.sum_eq_zero_iff_forall_eq_nat.mpr
      intro x hx
      obtain ⟨l, hl', rfl⟩ := List.mem_map.mp hx
      obtain ⟨i, hi, rfl⟩ := List.getElem_of_mem hl'
      have := hnb i (by rw [← h.len]; exact hi)
      simpa [Sys.lane, List.getD_eq_getElem?_getD, hi] using this
    simp only [Sys.live, hsum, hL.2, hC, hl, LPc.nbuf, List.length_nil] at hcnt
    omega
  · cases hL
  · rename_i b k hl
    have := hinEmpty (k % s.U) (Nat.mod_lt _ h.upos)
    rw [this] at hL; cases hL
  · rename_i u hl
    simp only [Bool.and_eq_true, decide_eq_true_eq] at hL
    have := hinEmpty u hL.1
    rw [this] at hL; cases hL.2
  · rename_i hl
    have := h2.pastIn _ hu0 (by rw [hl]; rfl)
    rw [hget.2.1] at this; cases this
  · rename_i hl
    have := h2.pastIn _ hu0 (by rw [hl]; rfl)
    rw [hget.2.1] at this; cases this

/-- **Clean shutdown.** When the loader has exited, every chunk buffer it created has been destroyed and none is left
    anywhere (lanes, recycling stack, consumers). -/
theorem loader_exit_clean (s : Sys) (h2 : Inv2 s) (_hd : s.lpc = .done) (hn : s.nalloc = 0) :
    s.freed = s.nextBuf ∧ s.recycling = [] ∧ s.cheld = [] := by
  have hc := h2.count
  have hcr := h2.created
  simp only [Sys.live, hn] at hc
  refine ⟨by omega, List.eq_nil_of_length_eq_zero (by omega), List.eq_nil_of_length_eq_zero (by omega)⟩

theorem step_done (s s' : Sys) (l : Label) (hp : s.lpc = .done → s.nalloc = 0) (hs : step s l = some s') :
    s'.lpc = .done → s'.nalloc = 0 := by
  by_cases hl : l = .loader
  · subst hl
    cases stepLoader_cases hs with
    | topWait | putWait | eodWait | drainWait => exact hp
    | create | pop | load | endData | eodEnd => intro hc; cases hc
    | put | eodSet => intro hc; rw [(sameAll_signalInbox _ _).core.lpc] at hc; cases hc
    | drainEnd _ hz => intro _; exact hz
    | collect hl => intro hc; cases hl.symm.trans hc
  · obtain ⟨h1, _, h3⟩ := (step_cases hs).keeps.loader hl
    rw [h1, h3]; exact hp

theorem reachable_done {U T C : Nat} {s : Sys} (h : Reachable U T C s) : s.lpc = .done → s.nalloc = 0 := by
  induction h with
  | create => intro hc; cases hc
  | step _ hs ih => exact step_done _ _ _ ih hs

/-- **EOF is delivered.** Once all `T` chunks have been returned and the unpacker of the lane the next `Read` looks at
    has exited, every call of `esl_dsqdata_Read` returns EOF at once (the caller is recorded in `eofs`, nothing else
    changes but the bookkeeping) - for every consumer, any number of times. -/
theorem read_eof_at_end (s : Sys) (h : Inv s) (h2 : Inv2 s) (hn : s.nchunk = s.T)
    (hd : (s.lane (s.nchunk % s.U)).upc = .done) (hr : s.reader = none) (c : Nat) :
    step s (.read c) = some { s with reader := none, eofs := c :: s.eofs } := by
  have hu : s.nchunk % s.U < s.U := Nat.mod_lt _ h.upos
  have hoe := h2.doneOut _ hu hd
  have hob : (s.lane (s.nchunk % s.U)).outbox = none := by
    cases ho : (s.lane (s.nchunk % s.U)).outbox with
    | none => rfl
    | some ck =>
      have hm : ck.2 ∈ (s.lane (s.nchunk % s.U)).ks := by simp [Lane.ks, Lane.outK, ho]
      have := h.range _ hu _ hm
      have := h.bounds
      omega
  simp only [step, hr, Option.isSome_none, Bool.false_eq_true, ↓reduceIte, readBody, hoe, hob, Bool.not_true, Bool.false_and]

end EaselModel.Pipeline
