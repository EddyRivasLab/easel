import EaselModel.Pipeline.Inv
/-! What a step has to show for `Inv` when it replaces one lane (`inv_update`). -/
namespace EaselModel.Pipeline

/-- a step that replaces lane `u` by `l'` and possibly moves counters / the loader's program counter -/
theorem inv_update {s s' : Sys} (h : Inv s) (u : Nat) (l' : Lane) (hu : u < s.U)
    (hU : s'.U = s.U) (hT : s'.T = s.T) (hl : s'.lanes = s.lanes.set u l')
    (hrange : ∀ k ∈ l'.ks, k % s.U = u ∧ s'.nchunk ≤ k ∧ k < s'.nchunkL)
    (hsorted : l'.ks.Pairwise (· < ·))
    (hother : ∀ v < s.U, v ≠ u → ∀ k ∈ (s.lane v).ks, s'.nchunk ≤ k ∧ k < s'.nchunkL)
    (hcomplete : ∀ k, s'.nchunk ≤ k → k < s'.nchunkL →
      (k % s.U = u → k ∈ l'.ks) ∧ (k % s.U ≠ u → k ∈ (s.lane (k % s.U)).ks))
    (hret : s'.returned = List.range s'.nchunk)
    (hb : s'.nchunk ≤ s'.nchunkL ∧ s'.nchunkL ≤ s.T)
    (hputk : ∀ b k, s'.lpc = .put b k → k = s'.nchunkL ∧ k < s.T)
    (hpast : s'.lpc.past = true → s'.nchunkL = s.T)
    (hinEod : l'.inEod = true → s'.lpc.pastLane u = true ∧ l'.inK = none)
    (hinEodO : ∀ v < s.U, v ≠ u → (s.lane v).inEod = true → s'.lpc.pastLane v = true)
    (hunp : (l'.upc = .put none ∨ l'.upc = .done) → l'.inEod = true)
    (hout : l'.outEod = true → l'.upc = .done)
    (heof : s'.eofs ≠ [] → s'.nchunk = s.T) : Inv s' := by
  have hlen : u < s.lanes.length := by rw [h.len]; exact hu
  have hlane : ∀ v, s'.lane v = if v = u then l' else s.lane v := by
    intro v
    have := lane_setLane s s u v l' rfl hlen
    simp only [Sys.lane, Sys.setLane] at this ⊢
    rw [hl]; exact this
  refine ⟨by rw [hU]; exact h.upos, by rw [hl, hU]; simpa using h.len, ?_, ?_, ?_, hret, by rw [hT]; exact hb,
    by rw [hT]; exact hputk, by rw [hT]; exact hpast, ?_, ?_, ?_, by rw [hT]; exact heof⟩
  · intro v hv k hk; rw [hU] at hv; rw [hlane] at hk; rw [hU]
    split at hk
    · rename_i e; subst e; exact hrange k hk
    · rename_i e; exact ⟨(h.range v hv k hk).1, hother v hv e k hk⟩
  · intro v hv; rw [hU] at hv; rw [hlane]
    split
    · exact hsorted
    · exact h.sorted v hv
  · intro k h1 h2; rw [hU, hlane]
    have := hcomplete k h1 h2
    split
    · rename_i e; exact this.1 e
    · rename_i e; exact this.2 e
  · intro v hv hi; rw [hU] at hv; rw [hlane] at hi ⊢
    split at hi
    · rename_i e; subst e; simpa using hinEod hi
    · rename_i e; simp only [e, ↓reduceIte]; exact ⟨hinEodO v hv e hi, (h.inEod v hv hi).2⟩
  · intro v hv hc; rw [hU] at hv; rw [hlane] at hc ⊢
    split at hc
    · rename_i e; subst e; simpa using hunp hc
    · rename_i e; simp only [e, ↓reduceIte]; exact h.unpNone v hv hc
  · intro v hv hc; rw [hU] at hv; rw [hlane] at hc ⊢
    split at hc
    · rename_i e; subst e; simpa using hout hc
    · rename_i e; simp only [e, ↓reduceIte]; exact h.outEod v hv hc

theorem Inv.noEod_of_notPast {s : Sys} (h : Inv s) (hp : ∀ u, s.lpc.pastLane u = false) (u : Nat) (hu : u < s.U) :
    (s.lane u).inEod = false ∧ (s.lane u).upc ≠ .put none ∧ (s.lane u).upc ≠ .done ∧ (s.lane u).outEod = false := by
  have h1 : (s.lane u).inEod = false := by
    cases hi : (s.lane u).inEod
    · rfl
    · have := (h.inEod u hu hi).1; rw [hp u] at this; cases this
  refine ⟨h1, ?_, ?_, ?_⟩
  · intro hc; have := h.unpNone u hu (Or.inl hc); rw [h1] at this; cases this
  · intro hc; have := h.unpNone u hu (Or.inr hc); rw [h1] at this; cases this
  · cases ho : (s.lane u).outEod
    · rfl
    · have hd := h.outEod u hu ho
      have := h.unpNone u hu (Or.inr hd); rw [h1] at this; cases this

end EaselModel.Pipeline
