import EaselModel.Pipeline.Buffers
/-! # Chunk ownership in the dsqdata pipeline: every chunk buffer is in exactly one place, whatever the schedule

A chunk buffer (`ESL_DSQDATA_CHUNK`, identified by its creation number) is touched outside any mutex by the thread that
holds it - the loader (`fread`s into it), unpacker `u` (`dsqdata_unpack_chunk`), a consumer (between `Read` and
`Recycle`) - and is otherwise parked in a mutex-protected slot: `inbox[u]`, `outbox[u]`, the recycling stack. The third
inductive invariant `Own` says that no buffer id occurs twice among all these places and that ids not yet created occur
nowhere. With `Inv2` (`live = nalloc`, `nextBuf = nalloc + freed`) this gives: exactly `created - destroyed` buffers
exist and each has exactly one owner. Core Lean only. -/
namespace EaselModel.Pipeline

def occ (b : Nat) : Option Chunk → Nat
  | some c => if c.1 = b then 1 else 0
  | none => 0

/-- number of places inside lane `l` that hold buffer `b` -/
def Lane.cnt (l : Lane) (b : Nat) : Nat :=
  occ b l.inbox + occ b l.outbox + (match l.upc with | .put c => occ b c | _ => 0)

def LPc.cnt : LPc → Nat → Nat
  | .haveBuf b', b => if b' = b then 1 else 0
  | .put b' _, b => if b' = b then 1 else 0
  | _, _ => 0

/-- number of places in the whole system that hold buffer `b` -/
def Sys.cnt (s : Sys) (b : Nat) : Nat :=
  (s.lanes.map (·.cnt b)).sum + s.recycling.count b + (s.cheld.map (·.2.1)).count b + s.lpc.cnt b

structure Own (s : Sys) : Prop where
  excl : ∀ b, s.cnt b ≤ 1
  fresh : ∀ b, s.nextBuf ≤ b → s.cnt b = 0

theorem map_lane_congr (s s' : Sys) (f : Lane → Nat) (hlen : s'.lanes.length = s.lanes.length)
    (h : ∀ v, f (s'.lane v) = f (s.lane v)) : s'.lanes.map f = s.lanes.map f := by
  apply List.ext_getElem (by simp [hlen])
  intro i h1 h2
  simp only [List.getElem_map]
  have := h i
  simp only [Sys.lane, List.getD_eq_getElem?_getD] at this
  rw [List.getElem?_eq_getElem (by simpa using h1), List.getElem?_eq_getElem (by simpa using h2)] at this
  simpa using this

theorem Lane.cnt_core (l l' : Lane) (b : Nat) (h : l'.core = l.core) : l'.cnt b = l.cnt b := by
  simp [Lane.cnt, Lane.core_inbox h, Lane.core_outbox h, Lane.core_upc h]

theorem cnt_of_sameAll {s s' : Sys} (c : SameAll s s') (b : Nat) : s'.cnt b = s.cnt b := by
  have hm : s'.lanes.map (·.cnt b) = s.lanes.map (·.cnt b) :=
    map_lane_congr s s' (·.cnt b) c.core.len (fun v => Lane.cnt_core _ _ b (c.core.lane v))
  simp only [Sys.cnt, hm, c.recycling, c.cheld, c.core.lpc]

theorem Own.of_sameAll {s s' : Sys} (o : Own s) (c : SameAll s s') : Own s' :=
  ⟨fun b => by rw [cnt_of_sameAll c]; exact o.excl b, fun b hb => by rw [cnt_of_sameAll c]; rw [c.nextBuf] at hb; exact o.fresh b hb⟩

theorem Own.mono {s s' : Sys} (o : Own s) (hle : ∀ b, s'.cnt b ≤ s.cnt b) (hn : s.nextBuf ≤ s'.nextBuf) : Own s' :=
  ⟨fun b => Nat.le_trans (hle b) (o.excl b), fun b hb => by have := o.fresh b (by omega); have := hle b; omega⟩

/-- a step that replaces lane `u` by `l'` -/
theorem cnt_update {s s' : Sys} (u : Nat) (l' : Lane) (b : Nat) (hu : u < s.lanes.length) (hl : s'.lanes = s.lanes.set u l') :
    s'.cnt b + (s.lane u).cnt b + s.recycling.count b + (s.cheld.map (·.2.1)).count b + s.lpc.cnt b
      = s.cnt b + l'.cnt b + s'.recycling.count b + (s'.cheld.map (·.2.1)).count b + s'.lpc.cnt b := by
  have := sum_map_set s.lanes (·.cnt b) u l' {} hu
  simp only [Sys.cnt, Sys.lane, hl] at this ⊢
  omega

theorem cnt_nolane {s s' : Sys} (b : Nat) (hl : s'.lanes = s.lanes) :
    s'.cnt b + s.recycling.count b + (s.cheld.map (·.2.1)).count b + s.lpc.cnt b
      = s.cnt b + s'.recycling.count b + (s'.cheld.map (·.2.1)).count b + s'.lpc.cnt b := by
  simp only [Sys.cnt, hl]; omega

theorem cnt_le_nolane {s s' : Sys} (b : Nat) (hl : s'.lanes = s.lanes)
    (h : s'.recycling.count b + (s'.cheld.map (·.2.1)).count b + s'.lpc.cnt b
          ≤ s.recycling.count b + (s.cheld.map (·.2.1)).count b + s.lpc.cnt b) : s'.cnt b ≤ s.cnt b := by
  have := cnt_nolane (s := s) (s' := s') b hl
  omega

theorem cnt_le_update {s s' : Sys} (u : Nat) (l' : Lane) (b : Nat) (hu : u < s.lanes.length) (hl : s'.lanes = s.lanes.set u l')
    (h : l'.cnt b + s'.recycling.count b + (s'.cheld.map (·.2.1)).count b + s'.lpc.cnt b
          ≤ (s.lane u).cnt b + s.recycling.count b + (s.cheld.map (·.2.1)).count b + s.lpc.cnt b) : s'.cnt b ≤ s.cnt b := by
  have := cnt_update (s := s) (s' := s') u l' b hu hl
  omega

theorem own_create (U T C : Nat) : Own (Sys.create U T C) := by
  have h0 : ∀ b, (Sys.create U T C).cnt b = 0 := by
    intro b
    simp only [Sys.cnt, Sys.create, List.map_replicate, LPc.cnt, List.count_nil, List.map_nil, Nat.add_zero]
    induction U with
    | zero => rfl
    | succ n ih => simp [List.replicate_succ, Lane.cnt, occ] at ih ⊢
  exact ⟨fun b => by rw [h0]; omega, fun b _ => h0 b⟩

theorem LoaderStep.own {s s' : Sys} (h : Inv s) (o : Own s) (hs : LoaderStep s s') : Own s' := by
  cases hs with
  | topWait | putWait | eodWait | drainWait => exact o.of_sameAll (sameAll_setLwait s _)
  | create hl =>
    refine ⟨fun b => ?_, fun b hb => ?_⟩
    · have he := o.excl b
      have hf := o.fresh b
      have := cnt_nolane (s := s) (s' := { s with lpc := .haveBuf s.nextBuf, nalloc := s.nalloc + 1, nextBuf := s.nextBuf + 1 }) b rfl
      simp only [hl, LPc.cnt] at this
      split at this <;> omega
    · have hf := o.fresh b (by simp at hb; omega)
      have := cnt_nolane (s := s) (s' := { s with lpc := .haveBuf s.nextBuf, nalloc := s.nalloc + 1, nextBuf := s.nextBuf + 1 }) b rfl
      simp only [hl, LPc.cnt] at this
      simp at hb
      split at this <;> omega
  | pop b0 rest hl _ hr =>
    refine o.mono (fun b => cnt_le_nolane b rfl ?_) (Nat.le_refl _)
    simp only [hl, hr, LPc.cnt, List.count_cons, beq_iff_eq]
    omega
  | load b0 hl | endData b0 hl | eodEnd u hl | drainEnd hl =>
    refine o.mono (fun b => cnt_le_nolane b rfl ?_) (Nat.le_refl _)
    simp only [hl, LPc.cnt]
    omega
  | put b0 k hl hin =>
    have hlen : k % s.U < s.lanes.length := by rw [h.len]; exact Nat.mod_lt _ h.upos
    have hin' : (s.lane (k % s.U)).inbox = none := by simpa using hin
    refine Own.of_sameAll ?_ (sameAll_signalInbox _ _)
    refine o.mono (fun b => cnt_le_update (k % s.U) { s.lane (k % s.U) with inbox := some (b0, k) } b hlen rfl ?_) (Nat.le_refl _)
    simp only [hl, LPc.cnt, Lane.cnt, hin', occ, setLane_recycling, setLane_cheld, setLane_lpc]
    omega
  | eodSet u hl hult =>
    have hlen : u < s.lanes.length := by rw [h.len]; omega
    refine Own.of_sameAll ?_ (sameAll_signalInbox _ _)
    refine o.mono (fun b => cnt_le_update u { s.lane u with inEod := true } b hlen rfl ?_) (Nat.le_refl _)
    simp only [hl, LPc.cnt, Lane.cnt, setLane_recycling, setLane_cheld, setLane_lpc]
    omega
  | collect hl =>
    refine o.mono (fun b => cnt_le_nolane b rfl ?_) (Nat.le_refl _)
    simp only [hl, LPc.cnt, List.count_nil]
    omega

theorem UnpackerStep.own {s s' : Sys} {u : Nat} (h : Inv s) (o : Own s) (hs : UnpackerStep s u s') : Own s' := by
  have hlen : ¬ u ≥ s.U → u < s.lanes.length := fun hu => by rw [h.len]; omega
  cases hs with
  | getWait | putWait => exact o.of_sameAll (sameAll_setUwait s u _)
  | get hu hupc =>
    have hcore : Own (s.setLane u { s.lane u with inbox := none, upc := .put (s.lane u).inbox, uwait := none }) := by
      refine o.mono (fun b => cnt_le_update u _ b (hlen hu) rfl ?_) (Nat.le_refl _)
      simp only [Lane.cnt, hupc, occ, setLane_recycling, setLane_cheld, setLane_lpc]
      omega
    split
    · exact hcore.of_sameAll (sameAll_signalInbox _ u)
    · exact hcore
  | put c hu hupc ho =>
    have ho' : (s.lane u).outbox = none := by simpa using ho
    refine Own.of_sameAll ?_ (sameAll_signalOutbox _ u)
    refine o.mono (fun b => cnt_le_update u _ b (hlen hu) rfl ?_) (Nat.le_refl _)
    cases c with
    | none => simp only [Lane.cnt, hupc, ho', occ, setLane_recycling, setLane_cheld, setLane_lpc, Option.isSome_none,
                Bool.false_eq_true, if_false]; omega
    | some ch => simp only [Lane.cnt, hupc, ho', occ, setLane_recycling, setLane_cheld, setLane_lpc, Option.isSome_some,
                if_true]; omega

theorem ReadStep.own {s s' : Sys} {c : Nat} (h : Inv s) (o : Own s) (hb : ReadStep s c s') : Own s' := by
  have hlen : s.nchunk % s.U < s.lanes.length := by rw [h.len]; exact Nat.mod_lt _ h.upos
  cases hb with
  | wait =>
    exact o.of_sameAll ⟨⟨rfl, rfl, rfl, fun _ => rfl, rfl, rfl, rfl, rfl, rfl⟩, rfl, rfl, rfl, rfl, rfl, rfl, rfl⟩
  | chunk b0 k _ hout =>
    refine Own.of_sameAll ?_ (sameAll_signalOutbox _ _)
    refine o.mono (fun b => cnt_le_update (s.nchunk % s.U) _ b hlen rfl ?_) (Nat.le_refl _)
    simp only [Lane.cnt, hout, occ, setLane_recycling, setLane_cheld, setLane_lpc, List.map_cons, List.count_cons,
      beq_iff_eq]
    omega
  | eof =>
    exact ⟨o.excl, o.fresh⟩

theorem step_own (s s' : Sys) (l : Label) (h : Inv s) (o : Own s) (hs : step s l = some s') : Own s' := by
  cases step_cases hs with
  | loader hl => exact hl.own h o
  | unpacker hu => exact hu.own h o
  | read _ hr | readWake _ hr => exact hr.own h o
  | @recycle c b0 k hm =>
    refine Own.of_sameAll ?_ (sameAll_signalRecycling _)
    refine o.mono (fun b => cnt_le_nolane b rfl ?_) (Nat.le_refl _)
    have hp := ((List.perm_cons_erase hm).map (·.2.1)).count_eq b
    simp only [List.map_cons, List.count_cons, beq_iff_eq] at hp ⊢
    unfold Chunk
    omega

theorem reachable_own {U T C : Nat} (hU : 0 < U) {s : Sys} (h : Reachable U T C s) : Own s := by
  induction h with
  | create => exact own_create U T C
  | step hr hs ih => exact step_own _ _ _ (reachable_inv hU hr) ih hs

inductive Owner
  | loader                       -- in the loader thread's hands (being `fread` into, or about to be put into an inbox)
  | inbox (u : Nat)              -- parked in `dd->inbox[u]` (protected by `inbox_mutex[u]`)
  | unpacker (u : Nat)           -- in unpacker `u`'s hands (being unpacked, or about to be put into its outbox)
  | outbox (u : Nat)             -- parked in `dd->outbox[u]` (protected by `outbox_mutex[u]`)
  | consumer (c : Nat)           -- returned by `esl_dsqdata_Read` to consumer `c`, not yet recycled
  | recycling                    -- on the recycling stack (protected by `recycling_mutex`)
deriving Repr, DecidableEq

def ownsOpt (b : Nat) (o : Option Chunk) (w : Owner) : List Owner :=
  match o with
  | some c => if c.1 = b then [w] else []
  | none => []

def Lane.owners (l : Lane) (u b : Nat) : List Owner :=
  ownsOpt b l.inbox (.inbox u) ++ ownsOpt b l.outbox (.outbox u) ++
    (match l.upc with | .put c => ownsOpt b c (.unpacker u) | _ => [])

/-- everybody who holds chunk buffer `b` in state `s` -/
def Sys.owners (s : Sys) (b : Nat) : List Owner :=
  (List.range s.U).flatMap (fun u => (s.lane u).owners u b) ++ List.replicate (s.recycling.count b) .recycling ++
    (s.cheld.filter (fun e => e.2.1 == b)).map (fun e => .consumer e.1) ++ List.replicate (s.lpc.cnt b) .loader

theorem ownsOpt_length (b : Nat) (o : Option Chunk) (w : Owner) : (ownsOpt b o w).length = occ b o := by
  cases o with
  | none => rfl
  | some c => simp only [ownsOpt, occ]; split <;> rfl

theorem Lane.owners_length (l : Lane) (u b : Nat) : (l.owners u b).length = l.cnt b := by
  simp only [Lane.owners, Lane.cnt, List.length_append, ownsOpt_length]
  cases l.upc <;> simp [ownsOpt_length]

theorem owners_length (s : Sys) (b : Nat) (hlen : s.lanes.length = s.U) : (s.owners b).length = s.cnt b := by
  have h1 : ((List.range s.U).flatMap (fun u => (s.lane u).owners u b)).length = (s.lanes.map (·.cnt b)).sum := by
    rw [List.length_flatMap]
    congr 1
    apply List.ext_getElem (by simp [hlen])
    intro i h1 h2
    simp only [List.getElem_map, List.getElem_range, Lane.owners_length, Sys.lane, List.getD_eq_getElem?_getD]
    rw [List.getElem?_eq_getElem (by simpa using h2)]
    rfl
  have h2 : ((s.cheld.filter (fun e => e.2.1 == b)).map (fun e => Owner.consumer e.1)).length = (s.cheld.map (·.2.1)).count b := by
    rw [List.length_map, List.count_eq_countP, List.countP_map, List.countP_eq_length_filter]
    rfl
  simp only [Sys.owners, List.length_append, h1, h2, List.length_replicate, Sys.cnt]

end EaselModel.Pipeline
