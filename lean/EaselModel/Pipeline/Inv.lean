import EaselModel.Pipeline.Basic
/-! The inductive invariant of the dsqdata pipeline: chunk numbers in flight, their order per lane, EOD propagation. -/
namespace EaselModel.Pipeline

def Lane.outK (l : Lane) : Option Nat := l.outbox.map (·.2)
def Lane.inK (l : Lane) : Option Nat := l.inbox.map (·.2)
def Lane.heldK (l : Lane) : Option Nat := match l.upc with
  | .put (some c) => some c.2
  | _ => none
/-- chunk numbers inside lane `u`, oldest first: outbox, unpacker's hands, inbox -/
def Lane.ks (l : Lane) : List Nat := l.outK.toList ++ l.heldK.toList ++ l.inK.toList

/-- the loader has left its main loop -/
def LPc.past : LPc → Bool
  | .eod _ | .drain | .done => true
  | _ => false

/-- the loader has set (or is beyond setting) `inbox_eod[u]` -/
def LPc.pastLane : LPc → Nat → Bool
  | .eod v, u => u < v
  | .drain, _ | .done, _ => true
  | _, _ => false

structure Inv (s : Sys) : Prop where
  upos : 0 < s.U
  len : s.lanes.length = s.U
  /-- every chunk number in lane `u` is ≡ u (mod U) and lies in `[nchunk, nchunkL)` -/
  range : ∀ u < s.U, ∀ k ∈ (s.lane u).ks, k % s.U = u ∧ s.nchunk ≤ k ∧ k < s.nchunkL
  /-- lanes are FIFO: numbers strictly increase from the outbox end to the inbox end -/
  sorted : ∀ u < s.U, (s.lane u).ks.Pairwise (· < ·)
  /-- every chunk number in `[nchunk, nchunkL)` is somewhere in its lane -/
  complete : ∀ k, s.nchunk ≤ k → k < s.nchunkL → k ∈ (s.lane (k % s.U)).ks
  ret : s.returned = List.range s.nchunk
  bounds : s.nchunk ≤ s.nchunkL ∧ s.nchunkL ≤ s.T
  putk : ∀ b k, s.lpc = .put b k → k = s.nchunkL ∧ k < s.T
  pastT : s.lpc.past = true → s.nchunkL = s.T
  inEod : ∀ u < s.U, (s.lane u).inEod = true → s.lpc.pastLane u = true ∧ (s.lane u).inK = none
  unpNone : ∀ u < s.U, ((s.lane u).upc = .put none ∨ (s.lane u).upc = .done) → (s.lane u).inEod = true
  outEod : ∀ u < s.U, (s.lane u).outEod = true → (s.lane u).upc = .done
  eof : s.eofs ≠ [] → s.nchunk = s.T

theorem Lane.ks_core (l l' : Lane) (h : l'.core = l.core) : l'.ks = l.ks := by
  simp [Lane.ks, Lane.outK, Lane.inK, Lane.heldK, Lane.core_inbox h, Lane.core_outbox h, Lane.core_upc h]

/-- a step that leaves every lane's `core` and the counters alone and only moves the loader's program counter -/
theorem inv_lpc {s s' : Sys} (h : Inv s) (hU : s'.U = s.U) (hT : s'.T = s.T) (hlen : s'.lanes.length = s.lanes.length)
    (hc : ∀ v, (s'.lane v).core = (s.lane v).core)
    (hn : s'.nchunk = s.nchunk) (hnl : s'.nchunkL = s.nchunkL) (hr : s'.returned = s.returned) (he : s'.eofs = s.eofs)
    (hputk : ∀ b k, s'.lpc = .put b k → k = s.nchunkL ∧ k < s.T)
    (hpast : s'.lpc.past = true → s.nchunkL = s.T)
    (hmono : ∀ u, s.lpc.pastLane u = true → s'.lpc.pastLane u = true) : Inv s' := by
  have hk : ∀ v, (s'.lane v).ks = (s.lane v).ks := fun v => Lane.ks_core _ _ (hc v)
  have hin : ∀ v, (s'.lane v).inEod = (s.lane v).inEod := fun v => Lane.core_inEod (hc v)
  have hik : ∀ v, (s'.lane v).inK = (s.lane v).inK := fun v => by simp [Lane.inK, Lane.core_inbox (hc v)]
  have hup : ∀ v, (s'.lane v).upc = (s.lane v).upc := fun v => Lane.core_upc (hc v)
  have hoe : ∀ v, (s'.lane v).outEod = (s.lane v).outEod := fun v => Lane.core_outEod (hc v)
  refine ⟨by rw [hU]; exact h.upos, by rw [hlen, hU]; exact h.len, ?_, ?_, ?_, by rw [hr, hn]; exact h.ret,
    by rw [hn, hnl, hT]; exact h.bounds, by rw [hnl, hT]; exact hputk, by rw [hnl, hT]; exact hpast, ?_, ?_, ?_,
    by rw [he, hn, hT]; exact h.eof⟩
  · intro u hu k hk'; rw [hU] at hu; rw [hk] at hk'; rw [hU, hn, hnl]; exact h.range u hu k hk'
  · intro u hu; rw [hU] at hu; rw [hk]; exact h.sorted u hu
  · intro k h1 h2; rw [hn] at h1; rw [hnl] at h2; rw [hU, hk]; exact h.complete k h1 h2
  · intro u hu he; rw [hU] at hu; rw [hin] at he; rw [hik]; exact ⟨hmono u (h.inEod u hu he).1, (h.inEod u hu he).2⟩
  · intro u hu he; rw [hU] at hu; rw [hup] at he; rw [hin]; exact h.unpNone u hu he
  · intro u hu he; rw [hU] at hu; rw [hoe] at he; rw [hup]; exact h.outEod u hu he

/-- the invariant does not mention wait flags -/
theorem Inv.of_sameCore {s s' : Sys} (h : Inv s) (c : SameCore s s') : Inv s' :=
  inv_lpc h c.U c.T c.len c.lane c.nchunk c.nchunkL c.returned c.eofs (by rw [c.lpc]; exact h.putk) (by rw [c.lpc]; exact h.pastT)
    (by rw [c.lpc]; exact fun _ => id)

theorem inv_create (U T C : Nat) (hU : 0 < U) : Inv (Sys.create U T C) := by
  refine ⟨hU, by simp [Sys.create], ?_, ?_, ?_, rfl, by simp [Sys.create], by simp [Sys.create], by simp [Sys.create, LPc.past], ?_, ?_, ?_, by simp [Sys.create]⟩
  · intro u _ k hk; rw [lane_create] at hk; simp [Lane.ks, Lane.outK, Lane.heldK, Lane.inK] at hk
  · intro u _; rw [lane_create]; simp [Lane.ks, Lane.outK, Lane.heldK, Lane.inK]
  · intro k h1 h2; simp [Sys.create] at h2
  · intro u _ h; rw [lane_create] at h; simp at h
  · intro u _ h; rw [lane_create] at h; simp at h
  · intro u _ h; rw [lane_create] at h; simp at h

end EaselModel.Pipeline
