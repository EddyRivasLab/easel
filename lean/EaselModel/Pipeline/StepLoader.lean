import EaselModel.Pipeline.Steps
/-! The loader's steps keep `Inv` (`LoaderStep.inv`): the two that write a lane go through `inv_update`, the others change the loader's own
fields only. -/
namespace EaselModel.Pipeline

theorem ks_setInbox (l : Lane) (c : Chunk) (h : l.inbox = none) : ({ l with inbox := some c } : Lane).ks = l.ks ++ [c.2] := by
  simp [Lane.ks, Lane.outK, Lane.heldK, Lane.inK, h]

theorem ks_setInEod (l : Lane) (b : Bool) : ({ l with inEod := b } : Lane).ks = l.ks := rfl

theorem LoaderStep.inv {s s' : Sys} (h : Inv s) (hs : LoaderStep s s') : Inv s' := by
  have hnp : ∀ {pc : LPc}, s.lpc = pc → (∀ u, pc.pastLane u = false) → ∀ u, s.lpc.pastLane u = true → False :=
    fun hl hp u hu => by rw [hl, hp u] at hu; cases hu
  cases hs with
  | topWait | putWait | eodWait | drainWait => exact h.of_sameCore (sameAll_setLwait s _).core
  | create hl | pop _ _ hl =>
    exact inv_lpc h rfl rfl rfl (fun _ => rfl) rfl rfl rfl rfl (by intro _ _ hc; cases hc) (by intro hc; cases hc)
      (fun u hu => (hnp hl (fun _ => rfl) u hu).elim)
  | load b hl hlt =>
    exact inv_lpc h rfl rfl rfl (fun _ => rfl) rfl rfl rfl rfl (by intro b' k' hc; cases hc; exact ⟨rfl, hlt⟩) (by intro hc; cases hc)
      (fun u hu => (hnp hl (fun _ => rfl) u hu).elim)
  | endData b hl hge =>
    exact inv_lpc h rfl rfl rfl (fun _ => rfl) rfl rfl rfl rfl (by intro _ _ hc; cases hc) (by intro _; have := h.bounds; omega)
      (fun u hu => (hnp hl (fun _ => rfl) u hu).elim)
  | put b k hl hin =>
    have hk := h.putk b k hl
    have hu : k % s.U < s.U := Nat.mod_lt _ h.upos
    have hnp : ∀ v, s.lpc.pastLane v = false := by intro v; rw [hl]; rfl
    have hin' : (s.lane (k % s.U)).inbox = none := by simpa using hin
    refine Inv.of_sameCore ?_ (sameAll_signalInbox _ _).core
    have hb := h.bounds
    refine inv_update h (k % s.U) { s.lane (k % s.U) with inbox := some (b, k) } hu rfl rfl rfl ?_ ?_ ?_ ?_ h.ret ?_ ?_ ?_ ?_ ?_ ?_ ?_ h.eof
    · intro x hx
      rw [ks_setInbox _ _ hin'] at hx
      show x % s.U = k % s.U ∧ s.nchunk ≤ x ∧ x < k + 1
      rcases List.mem_append.mp hx with hx | hx
      · have := h.range _ hu x hx; omega
      · simp at hx; subst hx; exact ⟨rfl, by omega, by omega⟩
    · rw [ks_setInbox _ _ hin', List.pairwise_append]
      refine ⟨h.sorted _ hu, by simp, ?_⟩
      intro a ha c hc; simp at hc; subst hc
      have := h.range _ hu a ha; omega
    · intro v hv _ x hx
      have := h.range v hv x hx
      show s.nchunk ≤ x ∧ x < k + 1
      omega
    · intro x h1 h2
      have h2' : x < k + 1 := h2
      have h1' : s.nchunk ≤ x := h1
      rw [ks_setInbox _ _ hin']
      by_cases hx : x = k
      · subst hx; exact ⟨fun _ => by simp, fun hne => absurd rfl hne⟩
      · have := h.complete x h1' (by omega)
        exact ⟨fun e => by rw [e] at this; exact List.mem_append_left _ this, fun _ => this⟩
    · show s.nchunk ≤ k + 1 ∧ k + 1 ≤ s.T; omega
    · intro _ _ hc; cases hc
    · intro hc; cases hc
    · intro hi; have := (h.noEod_of_notPast hnp _ hu).1; simp [this] at hi
    · intro v hv _ hi; have := (h.noEod_of_notPast hnp v hv).1; rw [this] at hi; cases hi
    · intro hc
      have := h.noEod_of_notPast hnp _ hu
      rcases hc with hc | hc
      · exact absurd hc this.2.1
      · exact absurd hc this.2.2.1
    · intro hc; have := (h.noEod_of_notPast hnp _ hu).2.2.2; simp [this] at hc
  | eodEnd u hl =>
    exact inv_lpc h rfl rfl rfl (fun _ => rfl) rfl rfl rfl rfl (by intro _ _ hc; cases hc) (by intro _; exact h.pastT (by rw [hl]; rfl))
      (fun v _ => rfl)
  | eodSet u hl hult hin =>
    have hu : u < s.U := by omega
    have hin' : (s.lane u).inbox = none := by simpa using hin
    refine Inv.of_sameCore ?_ (sameAll_signalInbox _ _).core
    have hpt := h.pastT (by rw [hl]; rfl)
    refine inv_update h u { s.lane u with inEod := true } hu rfl rfl rfl ?_ (h.sorted u hu) ?_ ?_ h.ret h.bounds ?_ ?_ ?_ ?_ ?_ ?_ h.eof
    · intro x hx; exact h.range u hu x hx
    · intro v hv _ x hx; exact (h.range v hv x hx).2
    · intro x h1 h2
      have := h.complete x h1 h2
      exact ⟨fun e => by rw [e] at this; exact this, fun _ => this⟩
    · intro _ _ hc; cases hc
    · intro _; exact hpt
    · intro _; exact ⟨by show LPc.pastLane (.eod (u + 1)) u = true; simp [LPc.pastLane], by simp [Lane.inK, hin']⟩
    · intro v hv _ hi
      have := (h.inEod v hv hi).1
      rw [hl] at this
      show LPc.pastLane (.eod (u + 1)) v = true
      simp only [LPc.pastLane, decide_eq_true_eq] at this ⊢
      omega
    · intro _; rfl
    · intro hc; exact h.outEod u hu hc
  | drainEnd hl =>
    exact inv_lpc h rfl rfl rfl (fun _ => rfl) rfl rfl rfl rfl (by intro _ _ hc; cases hc) (fun _ => h.pastT (by rw [hl]; rfl)) (fun v _ => rfl)
  | collect hl =>
    exact inv_lpc h rfl rfl rfl (fun _ => rfl) rfl rfl rfl rfl (by intro _ _ hc; rw [hl] at hc; cases hc) (fun _ => h.pastT (by rw [hl]; rfl))
      (fun v hv => hv)

end EaselModel.Pipeline
