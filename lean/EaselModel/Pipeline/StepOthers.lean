import EaselModel.Pipeline.StepLoader
/-! The unpackers' and the consumers' steps keep `Inv` (`UnpackerStep.inv`, `ReadStep.inv`), hence every step does (`step_inv`); the
states reached from `Sys.create` (`Reachable`, closed under `run`) and `reachable_inv`. -/
namespace EaselModel.Pipeline

theorem ks_get (l : Lane) (w : Option Bool) (h : l.upc = .get) :
    ({ l with inbox := none, upc := .put l.inbox, uwait := w } : Lane).ks = l.ks := by
  cases hi : l.inbox <;> simp [Lane.ks, Lane.outK, Lane.heldK, Lane.inK, h, hi]

theorem ks_put (l : Lane) (c : Option Chunk) (e : Bool) (w : Option Bool) (h : l.upc = .put c) (ho : l.outbox = none) :
    ({ l with outbox := c, outEod := e, uwait := w, upc := if c.isSome then UPc.get else UPc.done } : Lane).ks = l.ks := by
  cases c <;> simp [Lane.ks, Lane.outK, Lane.heldK, Lane.inK, h, ho]

theorem UnpackerStep.inv {s s' : Sys} {u : Nat} (h : Inv s) (hs : UnpackerStep s u s') : Inv s' := by
  cases hs with
  | getWait | putWait => exact h.of_sameCore (sameAll_setUwait s u _).core
  | get hu' hupc hcond =>
    have hu : u < s.U := by omega
    have hcore : Inv (s.setLane u { s.lane u with inbox := none, upc := .put (s.lane u).inbox, uwait := none }) := by
      have hk := ks_get (s.lane u) none hupc
      refine inv_update h u _ hu rfl rfl rfl ?_ ?_ ?_ ?_ h.ret h.bounds h.putk h.pastT ?_ ?_ ?_ ?_ h.eof
      · intro x hx; rw [hk] at hx; exact h.range u hu x hx
      · rw [hk]; exact h.sorted u hu
      · intro v hv _ x hx; exact (h.range v hv x hx).2
      · intro x h1 h2
        have := h.complete x h1 h2
        exact ⟨fun e => by rw [hk]; rw [e] at this; exact this, fun _ => this⟩
      · intro hi; exact ⟨(h.inEod u hu hi).1, rfl⟩
      · intro v hv _ hi; exact (h.inEod v hv hi).1
      · intro hc
        show (s.lane u).inEod = true
        simp only [reduceCtorEq, or_false] at hc
        have : (s.lane u).inbox = none := by injection hc
        simp only [this, Option.isNone_none, Bool.and_true, Bool.not_eq_eq_eq_not] at hcond
        simpa using hcond
      · intro ho
        have := h.outEod u hu ho
        rw [hupc] at this; cases this
    split
    · exact hcore.of_sameCore (sameAll_signalInbox _ u).core
    · exact hcore
  | put c hu' hupc ho =>
    have hu : u < s.U := by omega
    have ho' : (s.lane u).outbox = none := by simpa using ho
    refine Inv.of_sameCore ?_ (sameAll_signalOutbox _ u).core
    have hk := ks_put (s.lane u) c ((s.lane u).outEod || c.isNone) none hupc ho'
    refine inv_update h u _ hu rfl rfl rfl ?_ ?_ ?_ ?_ h.ret h.bounds h.putk h.pastT ?_ ?_ ?_ ?_ h.eof
    · intro x hx; rw [hk] at hx; exact h.range u hu x hx
    · rw [hk]; exact h.sorted u hu
    · intro v hv _ x hx; exact (h.range v hv x hx).2
    · intro x h1 h2
      have := h.complete x h1 h2
      exact ⟨fun e => by rw [hk]; rw [e] at this; exact this, fun _ => this⟩
    · intro hi; exact h.inEod u hu hi
    · intro v hv _ hi; exact (h.inEod v hv hi).1
    · intro hc
      show (s.lane u).inEod = true
      cases c with
      | none => exact h.unpNone u hu (Or.inl hupc)
      | some ch => simp at hc
    · intro hc
      have hold : (s.lane u).outEod = false := by
        cases hoe : (s.lane u).outEod
        · rfl
        · have := h.outEod u hu hoe; rw [hupc] at this; cases this
      cases c with
      | none => rfl
      | some ch => simp [hold] at hc

theorem ks_takeOut (l : Lane) (c : Chunk) (h : l.outbox = some c) : l.ks = c.2 :: ({ l with outbox := none } : Lane).ks := by
  simp [Lane.ks, Lane.outK, Lane.heldK, Lane.inK, h]

theorem ReadStep.inv {s s' : Sys} {c : Nat} (h : Inv s) (hb : ReadStep s c s') : Inv s' := by
  have hu : s.nchunk % s.U < s.U := Nat.mod_lt _ h.upos
  cases hb with
  | wait hcond =>
    exact h.of_sameCore ⟨rfl, rfl, rfl, fun _ => rfl, rfl, rfl, rfl, rfl, rfl⟩
  | chunk b k hcond hout =>
    refine Inv.of_sameCore ?_ (sameAll_signalOutbox _ _).core
    have hks := ks_takeOut (s.lane (s.nchunk % s.U)) (b, k) hout
    have hkmem : k ∈ (s.lane (s.nchunk % s.U)).ks := by rw [hks]; simp
    have hkr := h.range _ hu k hkmem
    have hsorted := h.sorted _ hu
    rw [hks] at hsorted
    have hhead : ∀ x ∈ ({ s.lane (s.nchunk % s.U) with outbox := none } : Lane).ks, k < x := (List.pairwise_cons.mp hsorted).1
    -- the head of the lane is chunk number `nchunk`
    have hkn : k = s.nchunk := by
      have := h.complete s.nchunk (Nat.le_refl _) (by omega)
      rw [hks] at this
      rcases List.mem_cons.mp this with e | hm
      · exact e.symm
      · have := hhead _ hm; omega
    subst hkn
    refine inv_update h (s.nchunk % s.U) { s.lane (s.nchunk % s.U) with outbox := none } hu rfl rfl rfl ?_ ?_ ?_ ?_ ?_ ?_ h.putk h.pastT ?_ ?_ ?_ ?_ ?_
    · intro x hx
      have hx' : x ∈ (s.lane (s.nchunk % s.U)).ks := by rw [hks]; exact List.mem_cons_of_mem _ hx
      have := h.range _ hu x hx'
      have := hhead x hx
      show x % s.U = s.nchunk % s.U ∧ s.nchunk + 1 ≤ x ∧ x < s.nchunkL
      omega
    · exact (List.pairwise_cons.mp hsorted).2
    · intro v hv hne x hx
      have := h.range v hv x hx
      show s.nchunk + 1 ≤ x ∧ x < s.nchunkL
      have hne' : x ≠ s.nchunk := by intro e; subst e; exact hne this.1.symm
      omega
    · intro x h1 h2
      have h1' : s.nchunk + 1 ≤ x := h1
      have := h.complete x (by omega) h2
      refine ⟨fun e => ?_, fun _ => this⟩
      rw [e, hks] at this
      rcases List.mem_cons.mp this with e' | hm
      · omega
      · exact hm
    · show s.returned ++ [s.nchunk] = List.range (s.nchunk + 1)
      rw [List.range_succ, h.ret]
    · have := h.bounds; show s.nchunk + 1 ≤ s.nchunkL ∧ s.nchunkL ≤ s.T; omega
    · intro hi; exact h.inEod _ hu hi
    · intro v hv _ hi; exact (h.inEod v hv hi).1
    · intro hc; exact h.unpNone _ hu hc
    · intro hc; exact h.outEod _ hu hc
    · intro he
      have := h.eof he
      have := h.bounds
      show s.nchunk + 1 = s.T
      omega
  | eof hcond hout =>
    have hoe : (s.lane (s.nchunk % s.U)).outEod = true := by
      simp only [hout, Option.isNone_none, Bool.and_true, Bool.not_eq_eq_eq_not] at hcond
      simpa using hcond
    have hdone := h.outEod _ hu hoe
    have hine := h.unpNone _ hu (Or.inr hdone)
    have hpast := h.inEod _ hu hine
    have hks : (s.lane (s.nchunk % s.U)).ks = [] := by
      simp [Lane.ks, Lane.outK, Lane.heldK, hout, hdone, hpast.2]
    have hT : s.nchunkL = s.T := by
      apply h.pastT
      have := hpast.1
      cases hl : s.lpc <;> simp [hl, LPc.pastLane, LPc.past] at this ⊢
    have hn : s.nchunk = s.T := by
      have hb := h.bounds
      apply Classical.byContradiction; intro hne
      have := h.complete s.nchunk (Nat.le_refl _) (by omega)
      rw [hks] at this; cases this
    exact ⟨h.upos, h.len, h.range, h.sorted, h.complete, h.ret, h.bounds, h.putk, h.pastT, h.inEod, h.unpNone, h.outEod, fun _ => hn⟩

theorem step_inv (s s' : Sys) (l : Label) (h : Inv s) (hs : step s l = some s') : Inv s' := by
  cases step_cases hs with
  | loader hl => exact hl.inv h
  | unpacker hu => exact hu.inv h
  | read _ hr | readWake _ hr => exact hr.inv h
  | recycle =>
    refine Inv.of_sameCore ?_ (sameAll_signalRecycling _).core
    exact h.of_sameCore ⟨rfl, rfl, rfl, fun _ => rfl, rfl, rfl, rfl, rfl, rfl⟩

inductive Reachable (U T C : Nat) : Sys → Prop
  | create : Reachable U T C (Sys.create U T C)
  | step {s s' : Sys} {l : Label} : Reachable U T C s → step s l = some s' → Reachable U T C s'

theorem reachable_inv {U T C : Nat} (hU : 0 < U) {s : Sys} (h : Reachable U T C s) : Inv s := by
  induction h with
  | create => exact inv_create U T C hU
  | step _ hs ih => exact step_inv _ _ _ ih hs

theorem run_reachable {U T C : Nat} (s : Sys) (ls : List Label) (s' : Sys) (h : Reachable U T C s) (hr : run s ls = some s') :
    Reachable U T C s' := by
  induction ls generalizing s with
  | nil => simp [run] at hr; subst hr; exact h
  | cons l ls ih =>
    simp only [run] at hr
    split at hr
    · rename_i s1 hs1; exact ih s1 (Reachable.step h hs1) hr
    · cases hr

end EaselModel.Pipeline
