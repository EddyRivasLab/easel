import EaselModel.Pipeline.Wakeups
import EaselModel.Pipeline.StepOthers
import EaselModel.Pipeline.Buffers
/-! # Progress of the dsqdata pipeline: a variant function, and liveness under weak fairness.

`phi s` bounds the number of non-wait steps still to come: the loader's remaining program (6 per chunk still to load, its cleanup
phase), per lane the unpacker's remaining work, two per chunk still to be returned by `Read` (the `Read` and the `Recycle`), one per
chunk in a consumer's hands.

No step increases `phi`, a step that is not a wait decreases it (`step_phi`); with `no_deadlock` this gives liveness on every weakly
fair infinite execution (`fair_reaches_eof`), for any number of unpackers and consumers, spurious wake-ups included. -/
namespace EaselModel.Pipeline

/-- The loader's share. One round of loading is `top` (3) → `haveBuf` (1) → `put` (0) → `top` with one chunk fewer: `create` goes from 3
    to 1 because it raises `nalloc`, and of the 6 − 3 a `put` wins, 2 go to the inbox it fills (`phiLane`). `U + 6` keeps the loading
    states above `eod 0`, where the cleanup starts: one step per lane, then `drain`, where each `collect` lowers `nalloc`. -/
def phiL (s : Sys) : Nat := match s.lpc with
  | .top => 6 * (s.T - s.nchunkL) + 3 + s.U + 6 + s.nalloc
  | .haveBuf _ => 6 * (s.T - s.nchunkL) + 1 + s.U + 6 + s.nalloc
  | .put _ _ => 6 * (s.T - s.nchunkL) + 0 + s.U + 6 + s.nalloc
  | .eod u => (s.U - u) + s.nalloc + 3
  | .drain => s.nalloc + 1
  | .done => 0

/-- the unpacker's steps still due if no further chunk comes: from `get`, `put none` and `done`; `put (some _)` is that step and the `get` behind it -/
def phiPc : UPc → Nat
  | .get => 2
  | .put (some _) => 3
  | .put none => 1
  | .done => 0

/-- a full inbox counts 2: the `get` that empties it raises `phiPc` from 2 to 3 -/
def phiLane (l : Lane) : Nat := (if l.inbox.isSome then 2 else 0) + phiPc l.upc

def phiU (s : Sys) : Nat := ((List.range s.U).map fun u => phiLane (s.lane u)).sum

def phi (s : Sys) : Nat := phiL s + phiU s + 2 * (s.T - s.nchunk) + s.cheld.length

/-- the step is not a wait: the thread was not blocked / `Read` returns a chunk / `Recycle` -/
def isProgress (s : Sys) : Label → Bool
  | .loader => !loaderBlocked s
  | .unpacker u => !unpBlocked s u
  | .read _ => (s.lane (s.nchunk % s.U)).outbox.isSome
  | .readWake => (s.lane (s.nchunk % s.U)).outbox.isSome
  | .recycle _ _ _ => true

/-- with one lane per unpacker, a sum over the unpackers is a sum over `lanes` -/
theorem range_map_lane (s : Sys) (hlen : s.lanes.length = s.U) (f : Lane → Nat) :
    (List.range s.U).map (fun u => f (s.lane u)) = s.lanes.map f := by
  apply List.ext_getElem (by simp [hlen])
  intro i h1 h2
  have : i < s.lanes.length := by simpa using h2
  simp [Sys.lane, List.getD_eq_getElem?_getD, List.getElem?_eq_getElem this]

theorem phiU_setLane (σ s : Sys) (u : Nat) (l' : Lane) (hl : σ.lanes = s.lanes) (hU : σ.U = s.U) (hu : u < s.U)
    (hlen : s.lanes.length = s.U) : phiU (σ.setLane u l') + phiLane (s.lane u) = phiU s + phiLane l' := by
  unfold phiU
  rw [range_map_lane (σ.setLane u l') (by simp [hl, hlen, hU]) phiLane, range_map_lane s hlen phiLane]
  show ((σ.lanes.set u l').map phiLane).sum + phiLane (s.lanes.getD u {}) = _
  rw [hl]
  exact sum_map_set s.lanes phiLane u l' {} (by rw [hlen]; exact hu)

theorem phi_sameAll {s s' : Sys} (c : SameAll s s') : phi s' = phi s := by
  have hl : phiL s' = phiL s := by
    simp only [phiL, c.core.lpc, c.core.T, c.core.U, c.core.nchunkL, c.nalloc]
  have hu : phiU s' = phiU s := by
    unfold phiU
    rw [c.core.U]
    congr 1
    apply List.map_congr_left
    intro v _
    simp only [phiLane, Lane.core_inbox (c.core.lane v), Lane.core_upc (c.core.lane v)]
  simp only [phi, hl, hu, c.core.T, c.core.nchunk, c.cheld]

theorem phi_signalInbox (s : Sys) (u : Nat) : phi (signalInbox s u) = phi s :=
  phi_sameAll (sameAll_signalInbox s u)
theorem phi_signalOutbox (s : Sys) (u : Nat) : phi (signalOutbox s u) = phi s :=
  phi_sameAll (sameAll_signalOutbox s u)
theorem phi_signalRecycling (s : Sys) : phi (signalRecycling s) = phi s :=
  phi_sameAll (sameAll_signalRecycling s)

theorem phi_split (s : Sys) : phi s = phiL s + phiU s + 2 * (s.T - s.nchunk) + s.cheld.length := rfl

theorem phi_lt_of_phiL {s s' : Sys} (hU : s'.U = s.U) (hl : s'.lanes = s.lanes) (hT : s'.T = s.T) (hn : s'.nchunk = s.nchunk)
    (hc : s'.cheld = s.cheld) (h : phiL s' < phiL s) : phi s' < phi s := by
  have hu : phiU s' = phiU s := by unfold phiU Sys.lane; rw [hU, hl]
  rw [phi_split, phi_split, hu, hT, hn, hc]
  omega

theorem phi_setLane_lt (σ s : Sys) (u : Nat) (l' : Lane) (hl : σ.lanes = s.lanes) (hU : σ.U = s.U) (hu : u < s.U)
    (hlen : s.lanes.length = s.U)
    (h : phiL σ + phiLane l' + 2 * (σ.T - σ.nchunk) + σ.cheld.length <
      phiL s + phiLane (s.lane u) + 2 * (s.T - s.nchunk) + s.cheld.length) : phi (σ.setLane u l') < phi s := by
  have := phiU_setLane σ s u l' hl hU hu hlen
  rw [phi_split s, phi_split (σ.setLane u l')]
  show phiL σ + phiU (σ.setLane u l') + 2 * (σ.T - σ.nchunk) + σ.cheld.length < _
  omega

theorem LoaderStep.phi_le {s s' : Sys} (h : Inv s) (hs : LoaderStep s s') :
    phi s' ≤ phi s ∧ (loaderBlocked s = false → phi s' < phi s) := by
  -- a wait leaves `phi` alone and happens only when `loaderBlocked`; any other branch changes `phiL` (and, when a
  -- lane is written, that lane's share of `phiU`) by amounts that are read off the two states
  have hT := h.bounds.2
  have dec : ∀ {σ : Sys}, phi σ < phi s → phi σ ≤ phi s ∧ (loaderBlocked s = false → phi σ < phi s) :=
    fun hlt => ⟨Nat.le_of_lt hlt, fun _ => hlt⟩
  cases hs with
  | topWait hl hlim hr =>
    refine ⟨Nat.le_refl _, fun hb => ?_⟩
    simp [loaderBlocked, hl, hr] at hb
    omega
  | putWait b k hl hfull =>
    refine ⟨Nat.le_refl _, fun hb => ?_⟩
    simp [loaderBlocked, hl, hfull] at hb
  | eodWait u hl hlt hfull =>
    refine ⟨Nat.le_refl _, fun hb => ?_⟩
    simp [loaderBlocked, hl, hfull] at hb
    omega
  | drainWait hl hne hr =>
    refine ⟨Nat.le_refl _, fun hb => ?_⟩
    simp [loaderBlocked, hl, hr, hne] at hb
  | create hl | pop _ _ hl | load _ hl | endData _ hl | eodEnd _ hl | drainEnd hl =>
    -- only the loader's own fields change
    exact dec (phi_lt_of_phiL rfl rfl rfl rfl rfl (by simp only [phiL, hl]; omega))
  | put b k hl hfree =>
    obtain ⟨hk, hkT⟩ := h.putk b k hl
    have hu : k % s.U < s.U := Nat.mod_lt _ h.upos
    rw [phi_signalInbox]
    refine dec (phi_setLane_lt _ s _ _ rfl rfl hu h.len ?_)
    simp only [phiL, hl, phiLane, if_neg hfree, Option.isSome_some, if_true]
    omega
  | eodSet u hl hlt hfree =>
    have hu : u < s.U := by omega
    rw [phi_signalInbox]
    refine dec (phi_setLane_lt _ s _ _ rfl rfl hu h.len ?_)
    simp only [phiL, hl, phiLane]
    omega
  | collect hl hne hbs =>
    have : 0 < s.recycling.length := List.length_pos_iff.mpr hbs
    exact dec (phi_lt_of_phiL rfl rfl rfl rfl rfl (by simp only [phiL, hl]; omega))

theorem LoaderStep.blocked {s s' : Sys} (hs : LoaderStep s s') (hb : loaderBlocked s = true) :
    s' = { s with lwait := some false } := by
  cases hs with
  | topWait | putWait | eodWait | drainWait => rfl
  | create hl hlim => simp [loaderBlocked, hl] at hb; omega
  | pop b rest hl hlim hr => simp [loaderBlocked, hl, hr] at hb
  | load b hl | endData b hl => simp [loaderBlocked, hl] at hb
  | put b k hl hin => simp only [loaderBlocked, hl] at hb; exact absurd hb hin
  | eodEnd u hl hu => simp [loaderBlocked, hl] at hb; omega
  | eodSet u hl hu hin => simp [loaderBlocked, hl] at hb; exact absurd hb.2 hin
  | drainEnd hl h0 => simp [loaderBlocked, hl, h0] at hb
  | collect hl h0 hr => simp [loaderBlocked, hl] at hb; exact absurd hb.2 hr

theorem UnpackerStep.phi_le {s s' : Sys} {u : Nat} (h : Inv s) (hs : UnpackerStep s u s') :
    phi s' ≤ phi s ∧ (unpBlocked s u = false → phi s' < phi s) ∧
      (unpBlocked s u = true → s' = s.setLane u { s.lane u with uwait := some false }) := by
  cases hs with
  | getWait hu' hpc hw =>
    refine ⟨Nat.le_of_eq (phi_sameAll (sameAll_setUwait s u _)), fun hb => ?_, fun _ => rfl⟩
    simp only [unpBlocked, hpc] at hb
    rw [hb] at hw; cases hw
  | putWait c hu' hpc hw =>
    refine ⟨Nat.le_of_eq (phi_sameAll (sameAll_setUwait s u _)), fun hb => ?_, fun _ => rfl⟩
    simp only [unpBlocked, hpc] at hb
    rw [hb] at hw; cases hw
  | get hu' hpc hw =>
    have hnb : unpBlocked s u = false := by
      simp only [unpBlocked, hpc]
      exact Bool.eq_false_iff.mpr hw
    rw [apply_ite phi, phi_signalInbox, ite_self]
    suffices hlt : _ < phi s from ⟨Nat.le_of_lt hlt, fun _ => hlt, fun hb => by rw [hnb] at hb; cases hb⟩
    refine phi_setLane_lt s s u _ rfl rfl (by omega) h.len ?_
    simp only [phiLane, hpc, phiPc]
    cases (s.lane u).inbox <;> simp
  | put c hu' hpc hw =>
    have hnb : unpBlocked s u = false := by
      simp only [unpBlocked, hpc]
      exact Bool.eq_false_iff.mpr hw
    rw [phi_signalOutbox]
    suffices hlt : _ < phi s from ⟨Nat.le_of_lt hlt, fun _ => hlt, fun hb => by rw [hnb] at hb; cases hb⟩
    refine phi_setLane_lt s s u _ rfl rfl (by omega) h.len ?_
    simp only [phiLane, hpc]
    cases c <;> simp [phiPc]

theorem ReadStep.phi_le {s s' : Sys} {c : Nat} (h : Inv s) (hb : ReadStep s c s') :
    phi s' ≤ phi s ∧ ((s.lane (s.nchunk % s.U)).outbox.isSome = true → phi s' < phi s) := by
  have hu : s.nchunk % s.U < s.U := Nat.mod_lt _ h.upos
  cases hb with
  | wait hw =>
    refine ⟨Nat.le_refl _, fun ho => ?_⟩
    simp only [Bool.and_eq_true, Bool.not_eq_true', Option.isNone_iff_eq_none] at hw
    rw [hw.2] at ho; cases ho
  | chunk b k _ hob =>
    rw [phi_signalOutbox]
    have hk : s.nchunk ≤ k ∧ k < s.nchunkL := (h.range _ hu k (by simp [Lane.ks, Lane.outK, hob])).2
    have hT := h.bounds.2
    suffices hlt : _ < phi s from ⟨Nat.le_of_lt hlt, fun _ => hlt⟩
    refine phi_setLane_lt _ s _ _ rfl rfl hu h.len ?_
    show phiL s + phiLane (s.lane (s.nchunk % s.U)) + 2 * (s.T - (s.nchunk + 1)) + (s.cheld.length + 1) < _
    omega
  | eof _ hob =>
    refine ⟨Nat.le_refl _, fun ho => ?_⟩
    rw [hob] at ho; cases ho

/-- **The variant.** No step increases `phi`; a step that is not a wait strictly decreases it. -/
theorem step_phi (s s' : Sys) (l : Label) (h : Inv s) (hs : step s l = some s') :
    phi s' ≤ phi s ∧ (isProgress s l = true → phi s' < phi s) := by
  cases step_cases hs with
  | loader hl => exact ⟨(hl.phi_le h).1, fun hp => (hl.phi_le h).2 (by simpa [isProgress] using hp)⟩
  | unpacker hu => exact ⟨(hu.phi_le h).1, fun hp => (hu.phi_le h).2.1 (by simpa [isProgress] using hp)⟩
  | read _ hr | readWake _ hr => exact hr.phi_le h
  | @recycle c b k hm =>
    rw [phi_signalRecycling]
    have e : phi { s with cheld := s.cheld.erase (c, (b, k)), recycling := b :: s.recycling }
        = phiL s + phiU s + 2 * (s.T - s.nchunk) + (s.cheld.erase (c, (b, k))).length := rfl
    have hl := List.length_erase_of_mem hm
    have hpos : 0 < s.cheld.length := List.length_pos_of_mem hm
    suffices hlt : _ < phi s from ⟨Nat.le_of_lt hlt, fun _ => hlt⟩
    rw [e, phi_split s, hl]; omega

/-- what the "can this thread make progress" predicates depend on -/
structure Quiet (s s' : Sys) : Prop where
  U : s'.U = s.U
  lpc : s'.lpc = s.lpc
  nalloc : s'.nalloc = s.nalloc
  limit : s'.limit = s.limit
  recycling : s'.recycling = s.recycling
  nchunk : s'.nchunk = s.nchunk
  cheld : s'.cheld = s.cheld
  lane : ∀ v, (s'.lane v).core = (s.lane v).core

theorem Quiet.refl (s : Sys) : Quiet s s := ⟨rfl, rfl, rfl, rfl, rfl, rfl, rfl, fun _ => rfl⟩
theorem Quiet.trans {a b c : Sys} (h1 : Quiet a b) (h2 : Quiet b c) : Quiet a c :=
  ⟨h2.U.trans h1.U, h2.lpc.trans h1.lpc, h2.nalloc.trans h1.nalloc, h2.limit.trans h1.limit, h2.recycling.trans h1.recycling,
   h2.nchunk.trans h1.nchunk, h2.cheld.trans h1.cheld, fun v => (h2.lane v).trans (h1.lane v)⟩
theorem quiet_of_sameAll {s s' : Sys} (c : SameAll s s') : Quiet s s' :=
  ⟨c.core.U, c.core.lpc, c.nalloc, c.limit, c.recycling, c.core.nchunk, c.cheld, c.core.lane⟩

theorem ReadStep.quiet {s s' : Sys} {c : Nat} (hb : ReadStep s c s') (ho : (s.lane (s.nchunk % s.U)).outbox.isSome = false) :
    Quiet s s' := by
  cases hb with
  | wait | eof => exact ⟨rfl, rfl, rfl, rfl, rfl, rfl, rfl, fun _ => rfl⟩
  | chunk b k _ hob => rw [hob] at ho; cases ho

/-- **A wait is a stutter**: a step that is not progress changes nothing the progress predicates look at -/
theorem step_quiet (s s' : Sys) (l : Label) (h : Inv s) (hs : step s l = some s') (hp : isProgress s l = false) : Quiet s s' := by
  cases step_cases hs with
  | loader hl =>
    rw [hl.blocked (by simpa [isProgress] using hp)]
    exact ⟨rfl, rfl, rfl, rfl, rfl, rfl, rfl, fun _ => rfl⟩
  | unpacker hu =>
    rw [(hu.phi_le h).2.2 (by simpa [isProgress] using hp)]
    exact quiet_of_sameAll (sameAll_setUwait s _ _)
  | read _ hr | readWake _ hr => exact hr.quiet (by simpa [isProgress] using hp)
  | recycle => simp [isProgress] at hp

inductive Thread
  | loader
  | unp (u : Nat)
  | reader          -- "some consumer calls `esl_dsqdata_Read`" (or the one asleep inside it wakes up)
  | recycler        -- "some consumer recycles a chunk it holds"
deriving DecidableEq, Repr

def threadOf : Label → Thread
  | .loader => .loader
  | .unpacker u => .unp u
  | .read _ => .reader
  | .readWake => .reader
  | .recycle _ _ _ => .recycler

/-- thread `t` has a step that is not a wait -/
def canProgress (s : Sys) : Thread → Bool
  | .loader => !loaderBlocked s
  | .unp u => !unpBlocked s u
  | .reader => (s.lane (s.nchunk % s.U)).outbox.isSome
  | .recycler => !s.cheld.isEmpty

theorem canProgress_step (s : Sys) (l : Label) (h : canProgress s (threadOf l) = true) : isProgress s l = true := by
  cases l <;> simp_all [canProgress, threadOf, isProgress]

theorem quiet_canProgress {s s' : Sys} (q : Quiet s s') (t : Thread) : canProgress s' t = canProgress s t := by
  have hin : ∀ v, (s'.lane v).inbox = (s.lane v).inbox := fun v => Lane.core_inbox (q.lane v)
  cases t with
  | loader =>
    simp only [canProgress]
    rw [loaderBlocked_eq q.U q.lpc q.nalloc q.limit q.recycling hin]
  | unp u =>
    simp only [canProgress]
    rw [unpBlocked_eq u (q.lane u)]
  | reader =>
    simp only [canProgress, q.nchunk, q.U]
    rw [Lane.core_outbox (q.lane (s.nchunk % s.U))]
  | recycler => simp only [canProgress, q.cheld]

/-- the state `esl_dsqdata_Read` is after: every chunk has been returned and the next `Read` answers `eslEOF` at once -/
def Goal (s : Sys) : Prop := s.nchunk = s.T ∧ readBlocked s = false

theorem pastLane_past (p : LPc) (u : Nat) (h : p.pastLane u = true) : p.past = true := by
  cases p <;> simp_all [LPc.pastLane, LPc.past]

/-- **Somebody can always make progress until the goal is reached** (sharpens `no_deadlock`: a `Read` that could only answer
    EOF does not count, unless it is the EOF after the last chunk). -/
theorem progress_enabled (s : Sys) (h : Inv s) (h2 : Inv2 s) (hlim : 0 < s.limit) (hg : ¬ Goal s) : ∃ t, canProgress s t = true := by
  rcases no_deadlock s h h2 hlim with hL | ⟨u, _, hu⟩ | hC | hR
  · exact ⟨.loader, by simp [canProgress, hL]⟩
  · exact ⟨.unp u, by simp [canProgress, hu]⟩
  · refine ⟨.recycler, ?_⟩
    cases hc : s.cheld with
    | nil => exact absurd hc hC
    | cons a as => simp [canProgress, hc]
  · have hu0 : s.nchunk % s.U < s.U := Nat.mod_lt _ h.upos
    have hlt : s.nchunk < s.T := by
      have := h.bounds
      apply Classical.byContradiction
      intro hge
      exact hg ⟨by omega, hR⟩
    refine ⟨.reader, ?_⟩
    simp only [canProgress]
    cases ho : (s.lane (s.nchunk % s.U)).outbox with
    | some c => rfl
    | none =>
      exfalso
      have he : (s.lane (s.nchunk % s.U)).outEod = true := by
        simp only [readBlocked, ho, Option.isNone_none, Bool.and_true, Bool.not_eq_false'] at hR
        exact hR
      have hd := h.outEod _ hu0 he
      have hie := h.unpNone _ hu0 (Or.inr hd)
      obtain ⟨hpl, hik⟩ := h.inEod _ hu0 hie
      have hT := h.pastT (pastLane_past _ _ hpl)
      have hmem := h.complete s.nchunk (Nat.le_refl _) (by omega)
      simp [Lane.ks, Lane.outK, Lane.heldK, Lane.inK, ho, hd] at hmem
      simp [Lane.inK] at hik
      rw [hik] at hmem
      simp at hmem

/-- an infinite execution of the pipeline from a reachable state -/
structure Exec (U T C : Nat) where
  st : Nat → Sys
  lab : Nat → Label
  init : Reachable U T C (st 0)
  next : ∀ i, step (st i) (lab i) = some (st (i + 1))

/-- weak fairness: a thread that can make progress from some point on for ever does take a step -/
def WeaklyFair {U T C : Nat} (e : Exec U T C) : Prop :=
  ∀ t i, (∀ j, i ≤ j → canProgress (e.st j) t = true) → ∃ j, i ≤ j ∧ threadOf (e.lab j) = t

theorem Exec.reach {U T C : Nat} (e : Exec U T C) : ∀ i, Reachable U T C (e.st i)
  | 0 => e.init
  | i + 1 => .step (e.reach i) (e.next i)

theorem Exec.mono {U T C : Nat} (hU : 0 < U) (e : Exec U T C) (i : Nat) : ∀ d, phi (e.st (i + d)) ≤ phi (e.st i)
  | 0 => Nat.le_refl _
  | d + 1 => Nat.le_trans (step_phi _ _ _ (reachable_inv hU (e.reach (i + d))) (e.next (i + d))).1 (e.mono hU i d)

theorem Exec.progress_comes {U T C : Nat} (hU : 0 < U) (e : Exec U T C) (hf : WeaklyFair e) (i : Nat) (hg : ¬ Goal (e.st i)) :
    ∃ j, i ≤ j ∧ isProgress (e.st j) (e.lab j) = true := by
  apply Classical.byContradiction
  intro hno
  have hno' : ∀ j, i ≤ j → isProgress (e.st j) (e.lab j) = false := by
    intro j hj
    cases hp : isProgress (e.st j) (e.lab j) with
    | false => rfl
    | true => exact absurd ⟨j, hj, hp⟩ hno
  have hq : ∀ d, Quiet (e.st i) (e.st (i + d)) := by
    intro d
    induction d with
    | zero => exact Quiet.refl _
    | succ d ih =>
      exact ih.trans (step_quiet _ _ _ (reachable_inv hU (e.reach (i + d))) (e.next (i + d)) (hno' (i + d) (Nat.le_add_right _ _)))
  have hi := reachable_inv2 hU (e.reach i)
  obtain ⟨t, ht⟩ := progress_enabled (e.st i) hi.1 hi.2 (by rw [reachable_limit (e.reach i)]; omega) hg
  have hall : ∀ j, i ≤ j → canProgress (e.st j) t = true := by
    intro j hj
    obtain ⟨d, rfl⟩ := Nat.exists_eq_add_of_le hj
    rw [quiet_canProgress (hq d) t]; exact ht
  obtain ⟨j, hj, hlab⟩ := hf t i hall
  have := canProgress_step (e.st j) (e.lab j) (by rw [hlab]; exact hall j hj)
  rw [hno' j hj] at this; cases this

/-- **Liveness under weak fairness.** On every infinite weakly fair execution of the pipeline - any number of unpackers and
    consumers, spurious wake-ups, any interleaving - a state is reached in which every chunk has been returned by
    `esl_dsqdata_Read` (`nchunk = T`, and by `pipe_order` they were chunks `0 … T-1` in order) and `Read` answers `eslEOF` at once. -/
theorem fair_reaches_eof {U T C : Nat} (hU : 0 < U) (e : Exec U T C) (hf : WeaklyFair e) :
    ∃ j, (e.st j).nchunk = T ∧ readBlocked (e.st j) = false := by
  have main : ∀ n i, phi (e.st i) = n → ∃ j, Goal (e.st j) := by
    intro n
    induction n using Nat.strongRecOn with
    | _ n ih =>
      intro i hn
      by_cases hg : Goal (e.st i)
      · exact ⟨i, hg⟩
      · obtain ⟨j, hj, hp⟩ := e.progress_comes hU hf i hg
        obtain ⟨d, rfl⟩ := Nat.exists_eq_add_of_le hj
        have h1 := (step_phi _ _ _ (reachable_inv hU (e.reach (i + d))) (e.next (i + d))).2 hp
        have h2 := e.mono hU i d
        exact ih (phi (e.st (i + d + 1))) (by omega) (i + d + 1) rfl
  obtain ⟨j, hj⟩ := main _ 0 rfl
  exact ⟨j, by rw [hj.1, reachable_T (e.reach j)], hj.2⟩

end EaselModel.Pipeline

