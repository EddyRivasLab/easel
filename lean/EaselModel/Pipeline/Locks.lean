import EaselModel.Pipeline.Ownership
import EaselModel.Pipeline.Progress
/-! # Lock discipline of the dsqdata pipeline model

Each shared field of `ESL_DSQDATA` has one guarding mutex: `inbox[u]`, `inbox_eod[u]` ← `inbox_mutex[u]`; `outbox[u]`,
`outbox_eod[u]` ← `outbox_mutex[u]`; `nchunk` ← `nchunk_mutex`; `recycling` (and the `nxt` links of the chunks on the
stack) ← `recycling_mutex`. `held s l` is the set of mutexes the C code holds during the critical section that the atomic
step `l` models when taken from state `s` (thread-local steps hold none). The frame theorem `step_frame` says that a step
changes a shared field only while holding its guard; `step_private` that the thread-private variables (the loader's
program counter, `nchunk` counter, `nalloc`; an unpacker's program counter and the chunk in its hands) change only in
steps of their own thread. Together with `Own` (a chunk's contents are touched only by its unique owner) this is the
lock-discipline / ownership invariant that stands in for data-race freedom in the interleaving model; the harness checks on
every observed region that the executing thread really holds `held` (its wrappers track the mutexes each thread holds).
The read side: `Poke` is an arbitrary change of shared fields from outside a step (each lane wholly or by halves, the recycling
stack, `nchunk`); `step_poke` says a step commutes with every such change that touches nothing whose mutex the step holds
(`Poke.Outside`), so the step can neither have read nor written those fields; the four locality theorems are its instances,
and so is `step_frame` (the change that rewrites a field to its present value). `step_private` is read off `Step.keeps`.
`wait_condition_guarded` (over `AgreeOn`) says the same of the `…Blocked` predicates, the conditions of the `while (…)
pthread_cond_wait` loops, which are functions of the state and not steps: `step_poke` does not speak of them.
Core Lean only. -/
namespace EaselModel.Pipeline

inductive Mutex
  | inbox (u : Nat)
  | outbox (u : Nat)
  | nchunk
  | recycling
deriving Repr, DecidableEq

/-- the mutexes held during the critical section modelled by step `l` from state `s` -/
def held (s : Sys) : Label → List Mutex
  | .loader => match s.lpc with
    | .top => if s.nalloc < s.limit then [] else [.recycling]
    | .haveBuf _ => []
    | .put _ k => [.inbox (k % s.U)]
    | .eod u => if u ≥ s.U then [] else [.inbox u]
    | .drain => if s.nalloc = 0 then [] else [.recycling]
    | .done => []
  | .unpacker u => match (s.lane u).upc with
    | .get => [.inbox u]
    | .put _ => [.outbox u]
    | .done => []
  | .read _ => [.nchunk, .outbox (s.nchunk % s.U)]
  | .readWake => [.nchunk, .outbox (s.nchunk % s.U)]
  | .recycle _ _ _ => [.recycling]

/-- shared fields whose guard is not in `L` are the same in `s` and `s'` -/
structure Frame (s s' : Sys) (L : List Mutex) : Prop where
  inbox : ∀ u, Mutex.inbox u ∉ L → (s'.lane u).inbox = (s.lane u).inbox ∧ (s'.lane u).inEod = (s.lane u).inEod
  outbox : ∀ u, Mutex.outbox u ∉ L → (s'.lane u).outbox = (s.lane u).outbox ∧ (s'.lane u).outEod = (s.lane u).outEod
  nchunk : Mutex.nchunk ∉ L → s'.nchunk = s.nchunk
  recycling : Mutex.recycling ∉ L → s'.recycling = s.recycling

theorem Frame.of_sameAll {s s2 s' : Sys} {L : List Mutex} (f : Frame s s2 L) (c : SameAll s2 s') : Frame s s' L := by
  have hc : ∀ v, (s'.lane v).core = (s2.lane v).core := c.core.lane
  exact ⟨fun u hu => by rw [Lane.core_inbox (hc u), Lane.core_inEod (hc u)]; exact f.inbox u hu,
         fun u hu => by rw [Lane.core_outbox (hc u), Lane.core_outEod (hc u)]; exact f.outbox u hu,
         fun h => by rw [c.core.nchunk]; exact f.nchunk h,
         fun h => by rw [c.recycling]; exact f.recycling h⟩

theorem frame_nolane {s s' : Sys} (L : List Mutex) (hl : s'.lanes = s.lanes)
    (hn : Mutex.nchunk ∉ L → s'.nchunk = s.nchunk) (hr : Mutex.recycling ∉ L → s'.recycling = s.recycling) : Frame s s' L := by
  have hlane : ∀ v, s'.lane v = s.lane v := fun v => by simp [Sys.lane, hl]
  exact ⟨fun u _ => by rw [hlane]; exact ⟨rfl, rfl⟩, fun u _ => by rw [hlane]; exact ⟨rfl, rfl⟩, hn, hr⟩

theorem frame_update {s s' : Sys} (L : List Mutex) (u : Nat) (l' : Lane) (hu : u < s.lanes.length)
    (hl : s'.lanes = s.lanes.set u l')
    (hi : Mutex.inbox u ∉ L → l'.inbox = (s.lane u).inbox ∧ l'.inEod = (s.lane u).inEod)
    (ho : Mutex.outbox u ∉ L → l'.outbox = (s.lane u).outbox ∧ l'.outEod = (s.lane u).outEod)
    (hn : Mutex.nchunk ∉ L → s'.nchunk = s.nchunk) (hr : Mutex.recycling ∉ L → s'.recycling = s.recycling) : Frame s s' L := by
  have hlane : ∀ v, s'.lane v = if v = u then l' else s.lane v := by
    intro v
    have := lane_setLane s s u v l' rfl hu
    simp only [Sys.lane, Sys.setLane] at this ⊢
    rw [hl]; exact this
  refine ⟨fun v hv => ?_, fun v hv => ?_, hn, hr⟩
  · rw [hlane]; split
    · rename_i e; subst e; exact hi hv
    · exact ⟨rfl, rfl⟩
  · rw [hlane]; split
    · rename_i e; subst e; exact ho hv
    · exact ⟨rfl, rfl⟩

theorem frame_refl (s : Sys) (L : List Mutex) : Frame s s L :=
  ⟨fun _ _ => ⟨rfl, rfl⟩, fun _ _ => ⟨rfl, rfl⟩, fun _ => rfl, fun _ => rfl⟩

/-- the loader's private variables (`lpc` stands for its program counter and the chunk in its hands) are unchanged unless
    `ld`; unpacker `u`'s program counter / chunk in hand is unchanged unless `up = some u` -/
structure Priv (s s' : Sys) (ld : Bool) (up : Option Nat) : Prop where
  loader : ld = false → s'.lpc = s.lpc ∧ s'.nchunkL = s.nchunkL ∧ s'.nalloc = s.nalloc
  unp : ∀ u, up ≠ some u → (s'.lane u).upc = (s.lane u).upc

theorem Priv.of_sameAll {s s2 s' : Sys} {ld : Bool} {up : Option Nat} (f : Priv s s2 ld up) (c : SameAll s2 s') : Priv s s' ld up := by
  refine ⟨fun h => ?_, fun u hu => ?_⟩
  · rw [c.core.lpc, c.core.nchunkL, c.nalloc]; exact f.loader h
  · rw [Lane.core_upc (c.core.lane u)]; exact f.unp u hu

theorem priv_refl (s : Sys) (ld : Bool) (up : Option Nat) : Priv s s ld up := ⟨fun _ => ⟨rfl, rfl, rfl⟩, fun _ _ => rfl⟩

theorem priv_nolane {s s' : Sys} (ld : Bool) (up : Option Nat) (hl : s'.lanes = s.lanes)
    (hld : ld = false → s'.lpc = s.lpc ∧ s'.nchunkL = s.nchunkL ∧ s'.nalloc = s.nalloc) : Priv s s' ld up :=
  ⟨hld, fun u _ => by simp [Sys.lane, hl]⟩

theorem priv_update {s s' : Sys} (ld : Bool) (up : Option Nat) (v : Nat) (l' : Lane) (hv : v < s.lanes.length)
    (hl : s'.lanes = s.lanes.set v l') (hupc : up ≠ some v → l'.upc = (s.lane v).upc)
    (hld : ld = false → s'.lpc = s.lpc ∧ s'.nchunkL = s.nchunkL ∧ s'.nalloc = s.nalloc) : Priv s s' ld up := by
  refine ⟨hld, fun u hu => ?_⟩
  have := lane_setLane s s v u l' rfl hv
  simp only [Sys.lane, Sys.setLane] at this ⊢
  rw [hl, this]
  split
  · rename_i e; subst e; exact hupc hu
  · rfl

/-- what `Step.keeps` says of the private variables, in the terms of `Priv` -/
theorem Keeps.priv {s s' : Sys} {l : Label} (k : Keeps s s' l) :
    Priv s s' (decide (l = .loader)) (match l with | .unpacker u => some u | _ => none) :=
  ⟨fun h => k.loader (by simpa using h), fun u h => k.unp u (by rintro rfl; exact h rfl)⟩

/-- **Thread-private variables.** The loader's program counter (with the chunk in its hands), its private chunk counter
    and `nalloc` change only in loader steps; unpacker `u`'s program counter (with the chunk in its hands) only in steps
    of unpacker `u`. -/
theorem step_private (s s' : Sys) (l : Label) (hs : step s l = some s') :
    (l ≠ .loader → s'.lpc = s.lpc ∧ s'.nchunkL = s.nchunkL ∧ s'.nalloc = s.nalloc) ∧
    (∀ u, l ≠ .unpacker u → (s'.lane u).upc = (s.lane u).upc) :=
  ⟨(step_cases hs).keeps.loader, (step_cases hs).keeps.unp⟩

/-- `s` and `t` coincide on the thread-private variables and on every shared field guarded by a mutex in `L`
    (they may differ arbitrarily in all other shared fields) -/
structure AgreeOn (L : List Mutex) (s t : Sys) : Prop where
  U : t.U = s.U
  lpc : t.lpc = s.lpc
  nalloc : t.nalloc = s.nalloc
  limit : t.limit = s.limit
  upc : ∀ u, (t.lane u).upc = (s.lane u).upc
  inbox : ∀ u, Mutex.inbox u ∈ L → (t.lane u).inbox = (s.lane u).inbox ∧ (t.lane u).inEod = (s.lane u).inEod
  outbox : ∀ u, Mutex.outbox u ∈ L → (t.lane u).outbox = (s.lane u).outbox ∧ (t.lane u).outEod = (s.lane u).outEod
  nchunk : Mutex.nchunk ∈ L → t.nchunk = s.nchunk
  recycling : Mutex.recycling ∈ L → t.recycling = s.recycling

theorem held_agree (s t : Sys) (l : Label) (L : List Mutex) (h : AgreeOn L s t) (hn : Mutex.nchunk ∈ L ∨ (∀ c, l ≠ .read c) ∧ l ≠ .readWake) :
    held t l = held s l := by
  cases l with
  | loader => simp only [held, h.lpc, h.nalloc, h.limit, h.U]
  | unpacker u => simp only [held, h.upc u]
  | read c =>
    rcases hn with hn | hn
    · simp only [held, h.nchunk hn, h.U]
    · exact absurd rfl (hn.1 c)
  | readWake =>
    rcases hn with hn | hn
    · simp only [held, h.nchunk hn, h.U]
    · exact absurd rfl hn.2
  | recycle c b k => rfl

/-- **The `while (…) pthread_cond_wait` conditions read guarded fields only.** If two states agree on the acting thread's
    private variables and on the shared fields guarded by the mutexes the step holds, the step holds the same mutexes in both
    and its wait condition has the same value - whatever the other shared fields contain. -/
theorem wait_condition_guarded (s t : Sys) (l : Label) (h : AgreeOn (held s l) s t) :
    held t l = held s l ∧
    (l = .loader → loaderBlocked t = loaderBlocked s) ∧
    (∀ u, l = .unpacker u → unpBlocked t u = unpBlocked s u) ∧
    ((∃ c, l = .read c) ∨ l = .readWake → readBlocked t = readBlocked s) := by
  refine ⟨?_, ?_, ?_, ?_⟩
  · apply held_agree s t l _ h
    cases l with
    | read c => left; simp [held]
    | readWake => left; simp [held]
    | loader => right; exact ⟨fun c => by simp, by simp⟩
    | unpacker u => right; exact ⟨fun c => by simp, by simp⟩
    | recycle c b k => right; exact ⟨fun c => by simp, by simp⟩
  · intro e; subst e
    have hl := h.lpc
    simp only [loaderBlocked, hl, h.nalloc, h.limit, h.U]
    cases hp : s.lpc with
    | top =>
      by_cases hc : s.nalloc < s.limit
      · have : decide (s.nalloc ≥ s.limit) = false := by simp; omega
        simp [this]
      · have hr := h.recycling (by simp [held, hp, hc])
        simp [hr]
    | haveBuf b => rfl
    | put b k =>
      have := h.inbox (k % s.U) (by simp [held, hp])
      simp [this.1]
    | eod u =>
      by_cases hc : u < s.U
      · have := h.inbox u (by simp [held, hp]; omega)
        simp [this.1]
      · simp [hc]
    | drain =>
      by_cases hc : s.nalloc = 0
      · simp [hc]
      · have hr := h.recycling (by simp [held, hp, hc])
        simp [hr]
    | done => rfl
  · intro u e; subst e
    simp only [unpBlocked, h.upc u]
    cases hp : (s.lane u).upc with
    | get =>
      have := h.inbox u (by simp [held, hp])
      simp [this.1, this.2]
    | put c =>
      have := h.outbox u (by simp [held, hp])
      simp [this.1]
    | done => rfl
  · intro e
    have hm : Mutex.nchunk ∈ held s l ∧ Mutex.outbox (s.nchunk % s.U) ∈ held s l := by
      rcases e with ⟨c, rfl⟩ | rfl <;> simp [held]
    have hn := h.nchunk hm.1
    have ho := h.outbox (s.nchunk % s.U) hm.2
    simp only [readBlocked, hn, h.U, ho.1, ho.2]

@[simp] theorem loaderOnInbox_setLane (s : Sys) (u v : Nat) (a : Lane) : loaderOnInbox (s.setLane v a) u = loaderOnInbox s u := rfl

/-- the part of `pthread_cond_signal(&inbox_cv[u])` / `(&outbox_cv[u])` that concerns unpacker `u` -/
def sigU (s : Sys) (u : Nat) (g : UPc → Bool) : Sys :=
  if (s.lane u).uwait.isSome && g (s.lane u).upc then s.setLane u { s.lane u with uwait := some true } else s

theorem signalInbox_eq (s : Sys) (u : Nat) :
    signalInbox s u = sigU (if s.lwait.isSome && loaderOnInbox s u then { s with lwait := some true } else s) u (· == .get) := rfl

theorem signalOutbox_eq (s : Sys) (u : Nat) :
    signalOutbox s u = sigU (if s.reader.isSome && s.nchunk % s.U == u then { s with rsig := true } else s) u (· != .get) := rfl

theorem sigU_map (f : Sys → Sys) (s : Sys) (u : Nat) (g : UPc → Bool)
    (hw : ((f s).lane u).uwait = (s.lane u).uwait) (hp : ((f s).lane u).upc = (s.lane u).upc)
    (hset : (f s).setLane u { (f s).lane u with uwait := some true } = f (s.setLane u { s.lane u with uwait := some true })) :
    sigU (f s) u g = f (sigU s u g) := by
  unfold sigU
  rw [hw, hp]
  split
  · exact hset
  · rfl

theorem signalInbox_map (f : Sys → Sys) (s : Sys) (u : Nat) (hlw : (f s).lwait = s.lwait)
    (hon : loaderOnInbox (f s) u = loaderOnInbox s u) (hflw : f { s with lwait := some true } = { f s with lwait := some true })
    (hU : ∀ t : Sys, t.lanes.length = s.lanes.length → sigU (f t) u (· == .get) = f (sigU t u (· == .get))) :
    signalInbox (f s) u = f (signalInbox s u) := by
  rw [signalInbox_eq, signalInbox_eq, hlw, hon]
  split
  · rw [← hflw]; exact hU _ rfl
  · exact hU s rfl

theorem signalOutbox_map (f : Sys → Sys) (s : Sys) (u : Nat)
    (hc : ((f s).reader.isSome && (f s).nchunk % (f s).U == u) = (s.reader.isSome && s.nchunk % s.U == u))
    (hfr : f { s with rsig := true } = { f s with rsig := true })
    (hU : ∀ t : Sys, t.lanes.length = s.lanes.length → sigU (f t) u (· != .get) = f (sigU t u (· != .get))) :
    signalOutbox (f s) u = f (signalOutbox s u) := by
  rw [signalOutbox_eq, signalOutbox_eq, hc]
  split
  · rw [← hfr]; exact hU _ rfl
  · exact hU s rfl

/-- the lane whose boxes the critical section of step `l` works on (none for thread-local steps and the recycling stack) -/
def actsOn (s : Sys) : Label → Option Nat
  | .loader => match s.lpc with
    | .put _ k => some (k % s.U)
    | .eod u => some u
    | _ => none
  | .unpacker u => some u
  | .read _ => some (s.nchunk % s.U)
  | .readWake => some (s.nchunk % s.U)
  | .recycle _ _ _ => none

/-- overwrite the recycling stack / the shared chunk counter -/
def Sys.setRecycling (s : Sys) (R : List Nat) : Sys := { s with recycling := R }
def Sys.setNchunk (s : Sys) (n : Nat) : Sys := { s with nchunk := n }

/-- overwrite the outbox half / the inbox half of lane `u` (what `outbox_mutex[u]` / `inbox_mutex[u]` protect) -/
def Sys.pokeOut (s : Sys) (u : Nat) (ob : Option Chunk) (oe : Bool) : Sys := s.setLane u { s.lane u with outbox := ob, outEod := oe }
def Sys.pokeIn (s : Sys) (u : Nat) (ib : Option Chunk) (ie : Bool) : Sys := s.setLane u { s.lane u with inbox := ib, inEod := ie }

theorem pokeOut_setLane (s : Sys) (u : Nat) (L : Lane) (ob : Option Chunk) (oe : Bool) (hu : u < s.lanes.length) :
    (s.setLane u L).pokeOut u ob oe = s.setLane u { L with outbox := ob, outEod := oe } := by
  unfold Sys.pokeOut
  rw [lane_setLane s s u u L rfl hu, if_pos rfl, setLane_setLane]

theorem pokeIn_setLane (s : Sys) (u : Nat) (L : Lane) (ib : Option Chunk) (ie : Bool) (hu : u < s.lanes.length) :
    (s.setLane u L).pokeIn u ib ie = s.setLane u { L with inbox := ib, inEod := ie } := by
  unfold Sys.pokeIn
  rw [lane_setLane s s u u L rfl hu, if_pos rfl, setLane_setLane]

/-- what may be done to one lane from outside a step: nothing, overwrite all of it, overwrite its outbox half or its inbox half -/
inductive LaneEdit
  | keep
  | whole (a : Lane)
  | outHalf (ob : Option Chunk) (oe : Bool)
  | inHalf (ib : Option Chunk) (ie : Bool)

def LaneEdit.app : LaneEdit → Lane → Lane
  | .keep, l => l
  | .whole a, _ => a
  | .outHalf ob oe, l => { l with outbox := ob, outEod := oe }
  | .inHalf ib ie, l => { l with inbox := ib, inEod := ie }

/-- the edit leaves the inbox half, the program counter and the wait flag of the lane alone -/
def LaneEdit.keepsIn : LaneEdit → Prop
  | .keep | .outHalf _ _ => True
  | _ => False

/-- the edit leaves the outbox half, the program counter and the wait flag of the lane alone -/
def LaneEdit.keepsOut : LaneEdit → Prop
  | .keep | .inHalf _ _ => True
  | _ => False

/-- an arbitrary change of shared fields from outside a step: every lane by a `LaneEdit`, the recycling stack, `nchunk` -/
structure Poke where
  lane : Nat → LaneEdit
  recy : Option (List Nat)
  nch : Option Nat

def Sys.poke (s : Sys) (p : Poke) : Sys :=
  { s with lanes := s.lanes.mapIdx fun i l => (p.lane i).app l, recycling := p.recy.getD s.recycling,
           nchunk := p.nch.getD s.nchunk }

theorem lane_poke (s : Sys) (p : Poke) (v : Nat) :
    (s.poke p).lane v = if v < s.lanes.length then (p.lane v).app (s.lane v) else s.lane v := by
  simp only [Sys.lane, Sys.poke, List.getD_eq_getElem?_getD, List.getElem?_mapIdx]
  by_cases h : v < s.lanes.length
  · simp [h]
  · simp [h]

theorem setLane_poke (s : Sys) (p : Poke) (u : Nat) (l : Lane) :
    (s.setLane u l).poke p = (s.poke p).setLane u ((p.lane u).app l) := by
  simp only [Sys.setLane, Sys.poke]
  congr 1
  apply List.ext_getElem?
  intro i
  simp only [List.getElem?_mapIdx, List.getElem?_set, List.length_mapIdx]
  by_cases h : u = i
  · subst h; by_cases h2 : u < s.lanes.length <;> simp [h2]
  · simp [h]

/-- a write `W` to the lane a step works on, seen through the edit of that lane -/
theorem poke_write (s1 s : Sys) (p : Poke) (u : Nat) (W : Lane → Lane) (hl : s1.lanes = s.lanes)
    (hW : (p.lane u).app (W (s.lane u)) = W ((p.lane u).app (s.lane u))) :
    (s1.setLane u (W (s.lane u))).poke p = (s1.poke p).setLane u (W ((s.poke p).lane u)) := by
  rw [setLane_poke, lane_poke]
  split
  · rw [hW]
  · rename_i h
    rw [setLane_of_le _ _ _ (by simp [Sys.poke, hl]; omega), setLane_of_le _ _ _ (by simp [Sys.poke, hl]; omega)]

theorem LaneEdit.keepsIn_lane {e : LaneEdit} (h : e.keepsIn) (l : Lane) :
    (e.app l).inbox = l.inbox ∧ (e.app l).inEod = l.inEod ∧ (e.app l).upc = l.upc ∧ (e.app l).uwait = l.uwait := by
  cases e <;> first | exact ⟨rfl, rfl, rfl, rfl⟩ | exact h.elim

theorem LaneEdit.keepsOut_lane {e : LaneEdit} (h : e.keepsOut) (l : Lane) :
    (e.app l).outbox = l.outbox ∧ (e.app l).outEod = l.outEod ∧ (e.app l).upc = l.upc ∧ (e.app l).uwait = l.uwait := by
  cases e <;> first | exact ⟨rfl, rfl, rfl, rfl⟩ | exact h.elim

theorem poke_keepsIn (s : Sys) (p : Poke) (u : Nat) (h : (p.lane u).keepsIn) :
    ((s.poke p).lane u).inbox = (s.lane u).inbox ∧ ((s.poke p).lane u).inEod = (s.lane u).inEod ∧
    ((s.poke p).lane u).upc = (s.lane u).upc ∧ ((s.poke p).lane u).uwait = (s.lane u).uwait := by
  rw [lane_poke]; split
  · exact LaneEdit.keepsIn_lane h _
  · exact ⟨rfl, rfl, rfl, rfl⟩

theorem poke_keepsOut (s : Sys) (p : Poke) (u : Nat) (h : (p.lane u).keepsOut) :
    ((s.poke p).lane u).outbox = (s.lane u).outbox ∧ ((s.poke p).lane u).outEod = (s.lane u).outEod ∧
    ((s.poke p).lane u).upc = (s.lane u).upc ∧ ((s.poke p).lane u).uwait = (s.lane u).uwait := by
  rw [lane_poke]; split
  · exact LaneEdit.keepsOut_lane h _
  · exact ⟨rfl, rfl, rfl, rfl⟩

/-- the edit is not a whole-lane overwrite: it keeps the program counter and the wait flag, which a signal reads and writes -/
def LaneEdit.notWhole : LaneEdit → Prop
  | .whole _ => False
  | _ => True

theorem LaneEdit.keepsIn.notWhole {e : LaneEdit} (h : e.keepsIn) : e.notWhole := by cases e <;> first | trivial | exact h.elim
theorem LaneEdit.keepsOut.notWhole {e : LaneEdit} (h : e.keepsOut) : e.notWhole := by cases e <;> first | trivial | exact h.elim

theorem LaneEdit.notWhole_lane {e : LaneEdit} (h : e.notWhole) (l : Lane) (w : Option Bool) :
    e.app { l with uwait := w } = { e.app l with uwait := w } ∧ (e.app l).uwait = l.uwait ∧ (e.app l).upc = l.upc := by
  cases e <;> first | exact ⟨rfl, rfl, rfl⟩ | exact h.elim

theorem sigU_poke (s : Sys) (p : Poke) (u : Nat) (g : UPc → Bool) (h : (p.lane u).notWhole) :
    sigU (s.poke p) u g = (sigU s u g).poke p := by
  have e : ((s.poke p).lane u).uwait = (s.lane u).uwait ∧ ((s.poke p).lane u).upc = (s.lane u).upc := by
    rw [lane_poke]; split
    · exact (LaneEdit.notWhole_lane h _ none).2
    · exact ⟨rfl, rfl⟩
  exact sigU_map (·.poke p) s u g e.1 e.2
    (poke_write s s p u (fun l => { l with uwait := some true }) rfl (LaneEdit.notWhole_lane h _ _).1).symm

theorem signalInbox_poke (s : Sys) (p : Poke) (u : Nat) (h : (p.lane u).notWhole) :
    signalInbox (s.poke p) u = (signalInbox s u).poke p :=
  signalInbox_map (·.poke p) s u rfl rfl rfl fun t _ => sigU_poke t p u _ h

theorem signalOutbox_poke (s : Sys) (p : Poke) (u : Nat) (h : (p.lane u).notWhole)
    (hn : s.reader = none ∨ p.nch.getD s.nchunk = s.nchunk) : signalOutbox (s.poke p) u = (signalOutbox s u).poke p :=
  signalOutbox_map (·.poke p) s u
    (by rcases hn with hn | hn
        · show (s.reader.isSome && _) = _; rw [hn]; rfl
        · show (s.reader.isSome && (p.nch.getD s.nchunk) % s.U == u) = _; rw [hn])
    rfl fun t _ => sigU_poke t p u _ h

/-- the writes of a step that holds `inbox_mutex[u]` commute with an edit that leaves the inbox half alone … -/
theorem LaneEdit.keepsIn_writes {e : LaneEdit} (h : e.keepsIn) (l : Lane) :
    (∀ x, e.app { l with inbox := x } = { e.app l with inbox := x }) ∧
    (∀ x, e.app { l with inEod := x } = { e.app l with inEod := x }) ∧
    e.app { l with inbox := none, upc := .put l.inbox, uwait := none }
      = { e.app l with inbox := none, upc := .put (e.app l).inbox, uwait := none } := by
  cases e <;> first | exact ⟨fun _ => rfl, fun _ => rfl, rfl⟩ | exact h.elim

/-- … and those of a step that holds `outbox_mutex[u]` with an edit that leaves the outbox half alone -/
theorem LaneEdit.keepsOut_writes {e : LaneEdit} (h : e.keepsOut) (l : Lane) :
    (∀ x, e.app { l with outbox := x } = { e.app l with outbox := x }) ∧
    (∀ c n, e.app { l with outbox := c, outEod := l.outEod || c.isNone, uwait := none, upc := n }
      = { e.app l with outbox := c, outEod := (e.app l).outEod || c.isNone, uwait := none, upc := n }) := by
  cases e <;> first | exact ⟨fun _ => rfl, fun _ _ => rfl⟩ | exact h.elim

/-- **The loader's step is stable under a change of what its critical section does not hold**: the outbox half of the lane it works
    on, every other lane, `nchunk`, and the recycling stack unless it holds `recycling_mutex`. -/
theorem LoaderStep.poke {s s' : Sys} (p : Poke) (hs : LoaderStep s s')
    (hl : ∀ u, Mutex.inbox u ∈ held s .loader → (p.lane u).keepsIn)
    (hr : Mutex.recycling ∈ held s .loader → p.recy = none) : LoaderStep (s.poke p) (s'.poke p) := by
  cases hs with
  | create hl' hlim => exact .create hl' hlim
  | load b hl' hT => exact .load b hl' hT
  | endData b hl' hT => exact .endData b hl' hT
  | eodEnd u hl' hu => exact .eodEnd u hl' hu
  | drainEnd hl' h0 => exact .drainEnd hl' h0
  | topWait hl' hlim hr' =>
    obtain ⟨pl, pr, pn⟩ := p; obtain rfl : pr = none := hr (by simp [held, hl', hlim]); exact .topWait hl' hlim hr'
  | pop b rest hl' hlim hr' =>
    obtain ⟨pl, pr, pn⟩ := p; obtain rfl : pr = none := hr (by simp [held, hl', hlim]); exact .pop b rest hl' hlim hr'
  | drainWait hl' h0 hr' =>
    obtain ⟨pl, pr, pn⟩ := p; obtain rfl : pr = none := hr (by simp [held, hl', h0]); exact .drainWait hl' h0 hr'
  | collect hl' h0 hr' =>
    obtain ⟨pl, pr, pn⟩ := p; obtain rfl : pr = none := hr (by simp [held, hl', h0]); exact .collect hl' h0 hr'
  | putWait b k hl' hin =>
    have hf := hl (k % s.U) (by simp [held, hl'])
    exact .putWait b k hl' (by rw [show (s.poke p).U = s.U from rfl, (poke_keepsIn s _ _ hf).1]; exact hin)
  | put b k hl' hin =>
    have hf := hl (k % s.U) (by simp [held, hl'])
    have key := LoaderStep.put (s := s.poke p) b k hl'
      (by rw [show (s.poke p).U = s.U from rfl, (poke_keepsIn s _ _ hf).1]; exact hin)
    dsimp only
    rw [← signalInbox_poke _ _ _ hf.notWhole,
      poke_write ({ s with lwait := none, lpc := .top, nchunkL := k + 1 } : Sys) s p (k % s.U)
        (fun l => { l with inbox := some (b, k) }) rfl ((LaneEdit.keepsIn_writes hf _).1 _)]
    exact key
  | eodWait u hl' hu hin =>
    have hf := hl u (by simp [held, hl', hu])
    exact .eodWait u hl' hu (by rw [(poke_keepsIn s _ _ hf).1]; exact hin)
  | eodSet u hl' hu hin =>
    have hf := hl u (by simp [held, hl', hu])
    have key := LoaderStep.eodSet (s := s.poke p) u hl' hu (by rw [(poke_keepsIn s _ _ hf).1]; exact hin)
    dsimp only
    rw [← signalInbox_poke _ _ _ hf.notWhole,
      poke_write ({ s with lwait := none, lpc := .eod (u + 1) } : Sys) s p u
        (fun l => { l with inEod := true }) rfl ((LaneEdit.keepsIn_writes hf _).2.1 _)]
    exact key

/-- **An unpacker's step is stable under a change of what its critical section does not hold**, its own program counter and wait flag apart. -/
theorem UnpackerStep.poke {s s' : Sys} {u : Nat} (p : Poke) (hs : UnpackerStep s u s')
    (hi : Mutex.inbox u ∈ held s (.unpacker u) → (p.lane u).keepsIn)
    (ho : Mutex.outbox u ∈ held s (.unpacker u) → (p.lane u).keepsOut)
    (hn : s.reader = none ∨ p.nch.getD s.nchunk = s.nchunk) : UnpackerStep (s.poke p) u (s'.poke p) := by
  cases hs with
  | getWait hu hpc hw =>
    have hf := hi (by simp [held, hpc])
    obtain ⟨e1, e2, e3, _⟩ := poke_keepsIn s p u hf
    have key := UnpackerStep.getWait (s := s.poke p) (u := u) hu (by rw [e3]; exact hpc) (by rw [e1, e2]; exact hw)
    rw [poke_write s s p u (fun l => { l with uwait := some false }) rfl (LaneEdit.notWhole_lane hf.notWhole _ _).1]
    exact key
  | get hu hpc hw =>
    have hf := hi (by simp [held, hpc])
    obtain ⟨e1, e2, e3, _⟩ := poke_keepsIn s p u hf
    have key := UnpackerStep.get (s := s.poke p) (u := u) hu (by rw [e3]; exact hpc) (by rw [e1, e2]; exact hw)
    rw [show ((s.poke p).lane u).inbox.isSome = (s.lane u).inbox.isSome from by rw [e1]] at key
    rw [apply_ite (Sys.poke · p), ← signalInbox_poke _ _ _ hf.notWhole,
      poke_write s s p u (fun l => { l with inbox := none, upc := .put l.inbox, uwait := none }) rfl (LaneEdit.keepsIn_writes hf _).2.2]
    exact key
  | putWait c hu hpc hb =>
    have hf := ho (by simp [held, hpc])
    obtain ⟨e1, _, e3, _⟩ := poke_keepsOut s p u hf
    have key := UnpackerStep.putWait (s := s.poke p) (u := u) c hu (by rw [e3]; exact hpc) (by rw [e1]; exact hb)
    rw [poke_write s s p u (fun l => { l with uwait := some false }) rfl (LaneEdit.notWhole_lane hf.notWhole _ _).1]
    exact key
  | put c hu hpc hb =>
    have hf := ho (by simp [held, hpc])
    obtain ⟨e1, _, e3, _⟩ := poke_keepsOut s p u hf
    have key := UnpackerStep.put (s := s.poke p) (u := u) c hu (by rw [e3]; exact hpc) (by rw [e1]; exact hb)
    let W : Lane → Lane := fun l =>
      { l with outbox := c, outEod := l.outEod || c.isNone, uwait := none, upc := if c.isSome then UPc.get else UPc.done }
    rw [← signalOutbox_poke (s.setLane u _) p u hf.notWhole hn, poke_write s s p u W rfl ((LaneEdit.keepsOut_writes hf _).2 _ _)]
    exact key

/-- **`esl_dsqdata_Read` is stable under a change of what it does not hold**: everything but `nchunk` and the outbox half of the lane it reads. -/
theorem ReadStep.poke {s s' : Sys} {c : Nat} (p : Poke) (hs : ReadStep s c s')
    (ho : (p.lane (s.nchunk % s.U)).keepsOut) (hn : p.nch = none) : ReadStep (s.poke p) c (s'.poke p) := by
  obtain ⟨pl, pr, pn⟩ := p
  obtain rfl : pn = none := hn
  obtain ⟨e1, e2, _, _⟩ := poke_keepsOut s ⟨pl, pr, none⟩ _ ho
  have hrb : readBlocked (s.poke ⟨pl, pr, none⟩) = readBlocked s := by
    show (!((s.poke _).lane (s.nchunk % s.U)).outEod && ((s.poke _).lane (s.nchunk % s.U)).outbox.isNone) = _
    rw [e1, e2]; rfl
  cases hs with
  | wait hw => exact .wait (hrb.trans hw)
  | eof hw hb => exact .eof (fun h => hw (hrb.symm.trans h)) (e1.trans hb)
  | chunk b k hw hb =>
    have key := ReadStep.chunk (s := s.poke ⟨pl, pr, none⟩) (c := c) b k (fun h => hw (hrb.symm.trans h)) (e1.trans hb)
    dsimp only
    rw [← signalOutbox_poke _ _ _ (LaneEdit.keepsOut.notWhole ho) (Or.inr rfl),
      poke_write ({ s with reader := none, nchunk := s.nchunk + 1, returned := s.returned ++ [k], cheld := (c, (b, k)) :: s.cheld } : Sys)
        s ⟨pl, pr, none⟩ (s.nchunk % s.U) (fun l => { l with outbox := none }) rfl ((LaneEdit.keepsOut_writes ho _).1 _)]
    exact key

theorem signalRecycling_poke (s : Sys) (p : Poke) : signalRecycling (s.poke p) = (signalRecycling s).poke p := by
  unfold signalRecycling
  have e1 : (s.poke p).lpc = s.lpc := rfl
  have e2 : (s.poke p).lwait = s.lwait := rfl
  rw [e1, e2]
  cases s.lpc <;> simp only <;> (try (by_cases hc : s.lwait.isSome = true <;> simp only [hc, ↓reduceIte, Bool.false_eq_true] <;> rfl))

/-- the change `p` touches nothing that the critical section of step `l` from `s` holds the mutex of (nor the private state of the stepping unpacker) -/
structure Poke.Outside (p : Poke) (s : Sys) (l : Label) : Prop where
  inbox : ∀ u, Mutex.inbox u ∈ held s l → (p.lane u).keepsIn
  outbox : ∀ u, Mutex.outbox u ∈ held s l → (p.lane u).keepsOut
  recycling : Mutex.recycling ∈ held s l → p.recy = none
  nchunk : Mutex.nchunk ∈ held s l → p.nch = none
  /-- `pthread_cond_signal(&outbox_cv[u])` looks at `nchunk` to find the consumer asleep inside `Read`, who holds `nchunk_mutex` -/
  reader : s.reader = none ∨ p.nch.getD s.nchunk = s.nchunk
  own : ∀ u, l = .unpacker u → (p.lane u).notWhole

/-- **Every access of a step to a shared field is to a field guarded by a mutex it holds**: a step commutes with any change of
    the shared fields whose guards it does not hold. -/
theorem step_poke (s : Sys) (l : Label) (p : Poke) (h : p.Outside s l) : step (s.poke p) l = (step s l).map (·.poke p) := by
  refine step_map (·.poke p) s l rfl rfl (fun e => ?_) (fun u e => ?_) (fun e c => ?_) (fun c b k e => ?_)
  · subst e
    exact stepLoader_map (·.poke p) s rfl fun s' hs => hs.poke p h.inbox h.recycling
  · subst e
    have hh := h.own u rfl
    have e2 : ((s.poke p).lane u).upc = (s.lane u).upc := by
      rw [lane_poke]; split
      · exact (LaneEdit.notWhole_lane hh _ none).2.2
      · rfl
    exact stepUnpacker_map (·.poke p) s u rfl e2 fun s' hs => hs.poke p (h.inbox u) (h.outbox u) h.reader
  · have hn : p.nch = none := h.nchunk (by rcases e with ⟨c', rfl⟩ | rfl <;> simp [held])
    exact readBody_map (·.poke p) s c fun s' hs =>
      hs.poke p (h.outbox _ (by rcases e with ⟨c', rfl⟩ | rfl <;> simp [held])) hn
  · subst e
    obtain ⟨pl, pr, pn⟩ := p
    obtain rfl : pr = none := h.recycling (by simp [held])
    exact signalRecycling_poke ({ s with cheld := s.cheld.erase (c, (b, k)), recycling := b :: s.recycling } : Sys) ⟨pl, none, pn⟩

/-- one lane edited, nothing else -/
def Poke.one (u : Nat) (e : LaneEdit) : Poke := ⟨fun i => if i = u then e else .keep, none, none⟩

theorem poke_one (s : Sys) (u : Nat) (e : LaneEdit) : s.poke (.one u e) = s.setLane u (e.app (s.lane u)) := by
  simp only [Sys.poke, Sys.setLane, Poke.one, Option.getD_none]
  congr 1
  apply List.ext_getElem?
  intro i
  simp only [List.getElem?_mapIdx, List.getElem?_set, Sys.lane, List.getD_eq_getElem?_getD]
  by_cases h : u = i
  · subst h
    by_cases h2 : u < s.lanes.length
    · simp [h2]
    · simp [h2]
  · have h' : ¬ i = u := fun e => h e.symm
    cases s.lanes[i]? <;> simp [h, h', LaneEdit.app]

theorem poke_keep (s : Sys) (r : Option (List Nat)) (n : Option Nat) :
    s.poke ⟨fun _ => .keep, r, n⟩ = { s with recycling := r.getD s.recycling, nchunk := n.getD s.nchunk } := by
  simp only [Sys.poke, LaneEdit.app]
  congr 1
  apply List.ext_getElem? ; intro i; simp [List.getElem?_mapIdx]

/-- a step that holds a mutex of lane `u` acts on lane `u` -/
theorem actsOn_of_held {s : Sys} {l : Label} {u : Nat} (h : Mutex.inbox u ∈ held s l ∨ Mutex.outbox u ∈ held s l) :
    actsOn s l = some u := by
  cases l with
  | loader =>
    cases hl : s.lpc <;> simp only [held, hl] at h <;> simp only [actsOn, hl]
    all_goals (try split at h) <;> simp_all
  | unpacker v => cases hp : (s.lane v).upc <;> simp_all [held, actsOn]
  | read c => simp_all [held, actsOn]
  | readWake => simp_all [held, actsOn]
  | recycle c b k => simp_all [held]

theorem Poke.one_outside (s : Sys) (l : Label) (u : Nat) (e : LaneEdit) (hi : Mutex.inbox u ∈ held s l → e.keepsIn)
    (ho : Mutex.outbox u ∈ held s l → e.keepsOut) (hown : l = .unpacker u → e.notWhole) : (Poke.one u e).Outside s l := by
  refine ⟨fun w hw => ?_, fun w hw => ?_, fun _ => rfl, fun _ => rfl, Or.inr rfl, fun w hw => ?_⟩
  · show LaneEdit.keepsIn (if w = u then e else .keep); split
    · subst_vars; exact hi hw
    · trivial
  · show LaneEdit.keepsOut (if w = u then e else .keep); split
    · subst_vars; exact ho hw
    · trivial
  · show LaneEdit.notWhole (if w = u then e else .keep); split
    · subst_vars; exact hown rfl
    · trivial

/-- **Writes happen under the guard.** A step changes a shared field of `ESL_DSQDATA` only if the critical section it
    models holds the mutex that guards the field. -/
theorem step_frame (s s' : Sys) (l : Label) (hs : step s l = some s') : Frame s s' (held s l) := by
  have hlen := (step_cases hs).keeps.len
  -- the step commutes with rewriting a field it holds no mutex of to its present value: it leaves the field as it was
  have key : ∀ p : Poke, p.Outside s l → s.poke p = s → s'.poke p = s' := fun p ho e => by
    have := step_poke s l p ho
    rw [e, hs] at this
    exact (Option.some.inj this).symm
  have lane : ∀ u (e : LaneEdit), (Poke.one u e).Outside s l → e.app (s.lane u) = s.lane u → e.app (s'.lane u) = s'.lane u := by
    intro u e ho he
    have := key _ ho (by rw [poke_one, he, setLane_self])
    rw [poke_one] at this
    rcases Nat.lt_or_ge u s'.lanes.length with hu | hu
    · have h2 := congrArg (·.lane u) this
      simpa only [lane_setLane _ _ _ _ _ rfl hu, if_pos] using h2
    · have e1 : s'.lane u = {} := by simp [Sys.lane, List.getD_eq_getElem?_getD, List.getElem?_eq_none hu]
      have e2 : s.lane u = {} := by simp [Sys.lane, List.getD_eq_getElem?_getD, List.getElem?_eq_none (hlen ▸ hu)]
      rw [e1, ← e2]; exact he
  refine ⟨fun u hu => ?_, fun u hu => ?_, fun hn => ?_, fun hr => ?_⟩
  · have := lane u (.inHalf (s.lane u).inbox (s.lane u).inEod)
      (Poke.one_outside s l u _ (fun hm => absurd hm hu) (fun _ => trivial) (fun _ => trivial)) rfl
    exact ⟨(congrArg Lane.inbox this).symm, (congrArg Lane.inEod this).symm⟩
  · have := lane u (.outHalf (s.lane u).outbox (s.lane u).outEod)
      (Poke.one_outside s l u _ (fun _ => trivial) (fun hm => absurd hm hu) (fun _ => trivial)) rfl
    exact ⟨(congrArg Lane.outbox this).symm, (congrArg Lane.outEod this).symm⟩
  · have := key ⟨fun _ => .keep, none, some s.nchunk⟩
      ⟨fun _ _ => trivial, fun _ _ => trivial, fun _ => rfl, fun hm => absurd hm hn, Or.inr rfl, fun _ _ => trivial⟩
      (by rw [poke_keep]; rfl)
    rw [poke_keep] at this
    exact (congrArg Sys.nchunk this).symm
  · have := key ⟨fun _ => .keep, some s.recycling, none⟩
      ⟨fun _ _ => trivial, fun _ _ => trivial, fun hm => absurd hm hr, fun _ => rfl, Or.inr rfl, fun _ _ => trivial⟩
      (by rw [poke_keep]; rfl)
    rw [poke_keep] at this
    exact (congrArg Sys.recycling this).symm

/-- a thread-local step (no mutex held) changes no shared field at all (`h` is not used) -/
theorem local_step_no_shared (s s' : Sys) (l : Label) (h : Inv s) (hs : step s l = some s') (hl : held s l = []) :
    (∀ u, (s'.lane u).inbox = (s.lane u).inbox ∧ (s'.lane u).inEod = (s.lane u).inEod ∧
          (s'.lane u).outbox = (s.lane u).outbox ∧ (s'.lane u).outEod = (s.lane u).outEod) ∧
    s'.nchunk = s.nchunk ∧ s'.recycling = s.recycling := by
  have f := step_frame s s' l hs
  rw [hl] at f
  exact ⟨fun u => ⟨(f.inbox u (by simp)).1, (f.inbox u (by simp)).2, (f.outbox u (by simp)).1, (f.outbox u (by simp)).2⟩,
    f.nchunk (by simp), f.recycling (by simp)⟩

/-- **Lane locality.** A step reads and writes no box but those of the lane its critical section works on: replacing the
    whole lane `v` (inbox, outbox, EOD flags, even unpacker `v`'s private state) by anything else commutes with every step
    that does not act on lane `v`. -/
theorem step_lane_local (s : Sys) (l : Label) (v : Nat) (a : Lane) (h : actsOn s l ≠ some v) :
    step (s.setLane v a) l = (step s l).map (·.setLane v a) := by
  -- no bound on `v`: beyond the last lane both sides are `step s l`
  have := step_poke s l _ (Poke.one_outside s l v (.whole a) (fun hm => absurd (actsOn_of_held (Or.inl hm)) h)
    (fun hm => absurd (actsOn_of_held (Or.inr hm)) h) (fun e => absurd (by rw [e]; rfl) h))
  simpa only [poke_one, LaneEdit.app] using this

/-- **The recycling stack is read and written only under `recycling_mutex`**: a step whose critical section does not hold
    it commutes with any change of the stack. -/
theorem step_recycling_local (s : Sys) (l : Label) (R : List Nat) (h : Mutex.recycling ∉ held s l) :
    step (s.setRecycling R) l = (step s l).map (·.setRecycling R) := by
  have := step_poke s l ⟨fun _ => .keep, some R, none⟩
    ⟨fun _ _ => trivial, fun _ _ => trivial, fun hm => absurd hm h, fun _ => rfl, Or.inr rfl, fun _ _ => trivial⟩
  simpa only [poke_keep, Option.getD_some, Option.getD_none, Sys.setRecycling] using this

/-- **The consumer-shared counter `nchunk` is read and written only under `nchunk_mutex`**: a step whose critical section
    does not hold it (any step of the loader, an unpacker, `Recycle`) commutes with any change of the counter - provided no
    consumer is asleep inside `Read` (`reader = none`; a sleeping consumer keeps `nchunk_mutex`, so nobody else could change
    the counter then, and the model's `pthread_cond_signal(&outbox_cv[u])` looks at it only to find that sleeper). -/
theorem step_nchunk_local (s : Sys) (l : Label) (n : Nat) (h : Mutex.nchunk ∉ held s l) (hr : s.reader = none) :
    step (s.setNchunk n) l = (step s l).map (·.setNchunk n) := by
  have := step_poke s l ⟨fun _ => .keep, none, some n⟩
    ⟨fun _ _ => trivial, fun _ _ => trivial, fun _ => rfl, fun hm => absurd hm h, Or.inl hr, fun _ _ => trivial⟩
  simpa only [poke_keep, Option.getD_some, Option.getD_none, Sys.setNchunk] using this

/-- **Half-lane locality.** A step that holds only `inbox_mutex[u]` neither reads nor writes `outbox[u]` / `outbox_eod[u]`, and a
    step that holds only `outbox_mutex[u]` neither reads nor writes `inbox[u]` / `inbox_eod[u]`: it commutes with an arbitrary
    change of the half it does not hold. -/
theorem step_half_lane_local (s : Sys) (l : Label) (u : Nat) :
    (∀ ob oe, Mutex.outbox u ∉ held s l →
        step (s.pokeOut u ob oe) l = (step s l).map (·.pokeOut u ob oe)) ∧
    (∀ ib ie, Mutex.inbox u ∉ held s l →
        step (s.pokeIn u ib ie) l = (step s l).map (·.pokeIn u ib ie)) := by
  constructor
  · intro ob oe hno
    have := step_poke s l _ (Poke.one_outside s l u (.outHalf ob oe) (fun _ => trivial) (fun hm => absurd hm hno) (fun _ => trivial))
    simpa only [poke_one, LaneEdit.app, Sys.pokeOut] using this
  · intro ib ie hno
    have := step_poke s l _ (Poke.one_outside s l u (.inHalf ib ie) (fun hm => absurd hm hno) (fun _ => trivial) (fun _ => trivial))
    simpa only [poke_one, LaneEdit.app, Sys.pokeIn] using this

end EaselModel.Pipeline
