import EaselModel.Pipeline.StepOthers
/-! Second invariant: chunk buffers are conserved (created = live + destroyed, every live buffer is in exactly one
    place), EOD flags follow the loader's / unpackers' program counters. Used for deadlock freedom and for
    "at loader exit every chunk created has been destroyed". -/
namespace EaselModel.Pipeline

def LPc.nbuf : LPc → Nat
  | .haveBuf _ | .put _ _ => 1
  | _ => 0

/-- number of chunk buffers that exist: in the lanes, on the recycling stack, in consumers' hands, in the loader's hands -/
def Sys.live (s : Sys) : Nat := (s.lanes.map Lane.nbuf).sum + s.recycling.length + s.cheld.length + s.lpc.nbuf

structure Inv2 (s : Sys) : Prop where
  doneOut : ∀ u < s.U, (s.lane u).upc = .done → (s.lane u).outEod = true
  pastIn : ∀ u < s.U, s.lpc.pastLane u = true → (s.lane u).inEod = true
  count : s.live = s.nalloc
  created : s.nextBuf = s.nalloc + s.freed

theorem sum_map_set {α} (l : List α) (f : α → Nat) (i : Nat) (x : α) (d : α) (h : i < l.length) :
    ((l.set i x).map f).sum + f (l.getD i d) = (l.map f).sum + f x := by
  induction l generalizing i with
  | nil => simp at h
  | cons a as ih =>
    cases i with
    | zero => simp; omega
    | succ j =>
      have := ih j (by simpa using h)
      simp only [List.set_cons_succ, List.map_cons, List.sum_cons, List.getD_cons_succ]
      omega

theorem live_setLane (s : Sys) (u : Nat) (l : Lane) (hu : u < s.lanes.length) :
    ((s.setLane u l).lanes.map Lane.nbuf).sum + (s.lane u).nbuf = (s.lanes.map Lane.nbuf).sum + l.nbuf := by
  simp only [Sys.setLane, Sys.lane]
  exact sum_map_set s.lanes Lane.nbuf u l {} hu

theorem Inv2.of_sameAll {s s' : Sys} (h : Inv2 s) (c : SameAll s s') : Inv2 s' := by
  have hc := c.core.lane
  have hup : ∀ v, (s'.lane v).upc = (s.lane v).upc := fun v => Lane.core_upc (hc v)
  have hoe : ∀ v, (s'.lane v).outEod = (s.lane v).outEod := fun v => Lane.core_outEod (hc v)
  have hin : ∀ v, (s'.lane v).inEod = (s.lane v).inEod := fun v => Lane.core_inEod (hc v)
  refine ⟨?_, ?_, ?_, by rw [c.nextBuf, c.nalloc, c.freed]; exact h.created⟩
  · intro u hu hd; rw [c.core.U] at hu; rw [hup] at hd; rw [hoe]; exact h.doneOut u hu hd
  · intro u hu hp; rw [c.core.U] at hu; rw [c.core.lpc] at hp; rw [hin]; exact h.pastIn u hu hp
  · have := h.count
    simp only [Sys.live] at this ⊢
    rw [c.lanesN, c.recycling, c.cheld, c.core.lpc, c.nalloc]; exact this

theorem inv2_create (U T C : Nat) : Inv2 (Sys.create U T C) := by
  refine ⟨?_, ?_, ?_, rfl⟩
  · intro u _ h; rw [lane_create] at h; cases h
  · intro u _ h; simp [Sys.create, LPc.pastLane] at h
  · simp only [Sys.live, Sys.create, List.map_replicate, LPc.nbuf, List.length_nil, Nat.add_zero]
    induction U with
    | zero => rfl
    | succ n ih => simp [List.replicate_succ, Lane.nbuf] at ih ⊢

theorem inv2_nolane {s s' : Sys} (h2 : Inv2 s) (hU : s'.U = s.U) (hl : s'.lanes = s.lanes)
    (hpast : ∀ v < s.U, s'.lpc.pastLane v = true → (s.lane v).inEod = true)
    (hcount : s'.recycling.length + s'.cheld.length + s'.lpc.nbuf + s.nalloc
            = s.recycling.length + s.cheld.length + s.lpc.nbuf + s'.nalloc)
    (hcreated : s'.nextBuf = s'.nalloc + s'.freed) : Inv2 s' := by
  have hlane : ∀ v, s'.lane v = s.lane v := fun v => by simp [Sys.lane, hl]
  refine ⟨?_, ?_, ?_, hcreated⟩
  · intro u hu hd; rw [hU] at hu; rw [hlane] at hd ⊢; exact h2.doneOut u hu hd
  · intro u hu hp; rw [hU] at hu; rw [hlane]; exact hpast u hu hp
  · have := h2.count
    simp only [Sys.live] at this ⊢
    rw [hl]; omega

theorem inv2_update {s s' : Sys} (h2 : Inv2 s) (h : Inv s) (u : Nat) (l' : Lane) (hu : u < s.U)
    (hU : s'.U = s.U) (hl : s'.lanes = s.lanes.set u l')
    (hdone : l'.upc = .done → l'.outEod = true)
    (hpastU : s'.lpc.pastLane u = true → l'.inEod = true)
    (hpastO : ∀ v < s.U, v ≠ u → s'.lpc.pastLane v = true → (s.lane v).inEod = true)
    (hcount : l'.nbuf + s'.recycling.length + s'.cheld.length + s'.lpc.nbuf + s.nalloc
            = (s.lane u).nbuf + s.recycling.length + s.cheld.length + s.lpc.nbuf + s'.nalloc)
    (hcreated : s'.nextBuf = s'.nalloc + s'.freed) : Inv2 s' := by
  have hlen : u < s.lanes.length := by rw [h.len]; exact hu
  have hlane : ∀ v, s'.lane v = if v = u then l' else s.lane v := by
    intro v
    have := lane_setLane s s u v l' rfl hlen
    simp only [Sys.lane, Sys.setLane] at this ⊢
    rw [hl]; exact this
  refine ⟨?_, ?_, ?_, hcreated⟩
  · intro v hv hd; rw [hU] at hv; rw [hlane] at hd ⊢
    split at hd
    · rename_i e; subst e; simpa using hdone hd
    · rename_i e; simp only [e, ↓reduceIte]; exact h2.doneOut v hv hd
  · intro v hv hp; rw [hU] at hv; rw [hlane]
    split
    · rename_i e; subst e; exact hpastU hp
    · rename_i e; exact hpastO v hv e hp
  · have := h2.count
    have hs := live_setLane s u l' hlen
    simp only [Sys.live, Sys.setLane] at this hs ⊢
    rw [hl]; omega

theorem nbuf_setInbox (l : Lane) (c : Chunk) (h : l.inbox = none) : ({ l with inbox := some c } : Lane).nbuf = l.nbuf + 1 := by
  simp [Lane.nbuf, h]; omega

theorem nbuf_get (l : Lane) (w : Option Bool) (h : l.upc = .get) :
    ({ l with inbox := none, upc := .put l.inbox, uwait := w } : Lane).nbuf = l.nbuf := by
  cases hi : l.inbox <;> simp [Lane.nbuf, h, hi] <;> omega

theorem nbuf_put (l : Lane) (c : Option Chunk) (e : Bool) (w : Option Bool) (h : l.upc = .put c) (ho : l.outbox = none) :
    ({ l with outbox := c, outEod := e, uwait := w, upc := if c.isSome then UPc.get else UPc.done } : Lane).nbuf = l.nbuf := by
  cases c <;> simp [Lane.nbuf, h, ho]

theorem nbuf_takeOut (l : Lane) (c : Chunk) (h : l.outbox = some c) : l.nbuf = ({ l with outbox := none } : Lane).nbuf + 1 := by
  simp [Lane.nbuf, h]; omega

theorem LoaderStep.inv2 {s s' : Sys} (h : Inv s) (h2 : Inv2 s) (hs : LoaderStep s s') : Inv2 s' := by
  have hcnt := h2.count
  have hcr := h2.created
  cases hs with
  | topWait | putWait | eodWait | drainWait => exact h2.of_sameAll (sameAll_setLwait s _)
  | create hl =>
    exact inv2_nolane h2 rfl rfl (by intro v _ hp; cases hp) (by simp [hl, LPc.nbuf]; omega) (by simp; omega)
  | pop b rest hl _ hr =>
    exact inv2_nolane h2 rfl rfl (by intro v _ hp; cases hp) (by simp [hl, hr, LPc.nbuf]; omega) hcr
  | load b hl =>
    exact inv2_nolane h2 rfl rfl (by intro v _ hp; cases hp) (by simp [hl, LPc.nbuf]) hcr
  | endData b hl =>
    have hpos : 0 < s.nalloc := by simp only [Sys.live, hl, LPc.nbuf] at hcnt; omega
    exact inv2_nolane h2 rfl rfl (by intro v _ hp; simp [LPc.pastLane] at hp) (by simp [hl, LPc.nbuf]; omega) (by simp; omega)
  | put b k hl hin =>
    have hu : k % s.U < s.U := Nat.mod_lt _ h.upos
    have hin' : (s.lane (k % s.U)).inbox = none := by simpa using hin
    refine Inv2.of_sameAll ?_ (sameAll_signalInbox _ _)
    refine inv2_update h2 h (k % s.U) { s.lane (k % s.U) with inbox := some (b, k) } hu rfl rfl ?_ ?_ ?_ ?_ hcr
    · intro hd; exact h2.doneOut _ hu hd
    · intro hp; cases hp
    · intro v _ _ hp; cases hp
    · show ({ s.lane (k % s.U) with inbox := some (b, k) } : Lane).nbuf + s.recycling.length + s.cheld.length + LPc.nbuf .top + s.nalloc = _
      rw [nbuf_setInbox _ _ hin']; simp [hl, LPc.nbuf]; omega
  | eodEnd u hl hge =>
    refine inv2_nolane h2 rfl rfl ?_ (by simp [hl, LPc.nbuf]) hcr
    intro v hv _
    exact h2.pastIn v hv (by rw [hl]; simp [LPc.pastLane]; omega)
  | eodSet u hl hult =>
    have hu : u < s.U := by omega
    refine Inv2.of_sameAll ?_ (sameAll_signalInbox _ _)
    refine inv2_update h2 h u { s.lane u with inEod := true } hu rfl rfl ?_ ?_ ?_ ?_ hcr
    · intro hd; exact h2.doneOut _ hu hd
    · intro _; rfl
    · intro v hv hne hp
      apply h2.pastIn v hv
      rw [hl]
      have : LPc.pastLane (.eod (u + 1)) v = true := hp
      simp only [LPc.pastLane, decide_eq_true_eq] at this ⊢
      omega
    · show ({ s.lane u with inEod := true } : Lane).nbuf + s.recycling.length + s.cheld.length + LPc.nbuf (.eod (u + 1)) + s.nalloc = _
      simp [Lane.nbuf, hl, LPc.nbuf]
  | drainEnd hl =>
    exact inv2_nolane h2 rfl rfl (fun v hv _ => h2.pastIn v hv (by rw [hl]; rfl)) (by simp [hl, LPc.nbuf]) hcr
  | collect hl hne hr =>
    have hle : s.recycling.length ≤ s.nalloc := by simp only [Sys.live] at hcnt; omega
    exact inv2_nolane h2 rfl rfl (fun v hv _ => h2.pastIn v hv (by rw [hl]; rfl)) (by simp [hl, LPc.nbuf]; omega) (by simp; omega)

theorem UnpackerStep.inv2 {s s' : Sys} {u : Nat} (h : Inv s) (h2 : Inv2 s) (hs : UnpackerStep s u s') : Inv2 s' := by
  have hcr := h2.created
  cases hs with
  | getWait | putWait => exact h2.of_sameAll (sameAll_setUwait s u _)
  | get hu' hupc =>
    have hu : u < s.U := by omega
    have hcore : Inv2 (s.setLane u { s.lane u with inbox := none, upc := .put (s.lane u).inbox, uwait := none }) := by
      refine inv2_update h2 h u _ hu rfl rfl ?_ ?_ ?_ ?_ hcr
      · intro hd; cases hd
      · intro hp; exact h2.pastIn u hu hp
      · intro v hv _ hp; exact h2.pastIn v hv hp
      · simp only [setLane_recycling, setLane_cheld, setLane_lpc, setLane_nalloc]
        rw [nbuf_get _ _ hupc]
    split
    · exact hcore.of_sameAll (sameAll_signalInbox _ u)
    · exact hcore
  | put c hu' hupc ho =>
    have hu : u < s.U := by omega
    have ho' : (s.lane u).outbox = none := by simpa using ho
    refine Inv2.of_sameAll ?_ (sameAll_signalOutbox _ u)
    refine inv2_update h2 h u _ hu rfl rfl ?_ ?_ ?_ ?_ hcr
    · intro hd
      cases c with
      | none => simp
      | some ch => simp at hd
    · intro hp; exact h2.pastIn u hu hp
    · intro v hv _ hp; exact h2.pastIn v hv hp
    · simp only [setLane_recycling, setLane_cheld, setLane_lpc, setLane_nalloc]
      rw [nbuf_put _ c _ _ hupc ho']

theorem ReadStep.inv2 {s s' : Sys} {c : Nat} (h : Inv s) (h2 : Inv2 s) (hb : ReadStep s c s') : Inv2 s' := by
  have hu : s.nchunk % s.U < s.U := Nat.mod_lt _ h.upos
  cases hb with
  | wait =>
    exact h2.of_sameAll ⟨⟨rfl, rfl, rfl, fun _ => rfl, rfl, rfl, rfl, rfl, rfl⟩, rfl, rfl, rfl, rfl, rfl, rfl, rfl⟩
  | chunk b k _ hout =>
    refine Inv2.of_sameAll ?_ (sameAll_signalOutbox _ _)
    refine inv2_update h2 h (s.nchunk % s.U) { s.lane (s.nchunk % s.U) with outbox := none } hu rfl rfl ?_ ?_ ?_ ?_ h2.created
    · intro hd; exact h2.doneOut _ hu hd
    · intro hp; exact h2.pastIn _ hu hp
    · intro v hv _ hp; exact h2.pastIn v hv hp
    · simp only [setLane_recycling, setLane_cheld, setLane_lpc, setLane_nalloc, List.length_cons]
      have := nbuf_takeOut _ _ hout
      omega
  | eof =>
    exact ⟨h2.doneOut, h2.pastIn, h2.count, h2.created⟩

theorem step_inv2 (s s' : Sys) (l : Label) (h : Inv s) (h2 : Inv2 s) (hs : step s l = some s') : Inv2 s' := by
  cases step_cases hs with
  | loader hl => exact hl.inv2 h h2
  | unpacker hu => exact hu.inv2 h h2
  | read _ hr | readWake _ hr => exact hr.inv2 h h2
  | recycle hm =>
    refine Inv2.of_sameAll ?_ (sameAll_signalRecycling _)
    have hl := List.length_erase_of_mem hm
    have hp := List.length_pos_of_mem hm
    refine inv2_nolane h2 rfl rfl (fun v hv hp => h2.pastIn v hv hp) ?_ h2.created
    simp only [List.length_cons, hl]; omega

theorem reachable_inv2 {U T C : Nat} (hU : 0 < U) {s : Sys} (h : Reachable U T C s) : Inv s ∧ Inv2 s := by
  induction h with
  | create => exact ⟨inv_create U T C hU, inv2_create U T C⟩
  | step _ hs ih => exact ⟨step_inv _ _ _ ih.1 hs, step_inv2 _ _ _ ih.1 ih.2 hs⟩

end EaselModel.Pipeline
