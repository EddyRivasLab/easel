import EaselModel.Pipeline.Wakeups
/-! Every step keeps `WInv` (`step_winv`, `reachable_winv`). First how each thread's wait condition fares when one lane is replaced
(`loaderBlocked_setLane`, `unpBlocked_setLane_u`, `readBlocked_setLane`, `WInv.uw_other`); `winv_loaderWrite` puts them together for the
loader's two writes (`σ`: `s` with the loader's own fields already changed). -/
namespace EaselModel.Pipeline

/-- blockedness of the loader when lane `u` is replaced (`σ` agrees with `s` on everything the loader looks at) -/
theorem loaderBlocked_setLane (σ s : Sys) (u : Nat) (l' : Lane) (hu : u < s.lanes.length) (hl : σ.lanes = s.lanes) (hU : σ.U = s.U)
    (hp : σ.lpc = s.lpc) (hn : σ.nalloc = s.nalloc) (hlim : σ.limit = s.limit) (hr : σ.recycling = s.recycling)
    (h : l'.inbox = (s.lane u).inbox ∨ loaderOnInbox s u = false) :
    loaderBlocked (σ.setLane u l') = loaderBlocked s := by
  have hlane : ∀ v, ((σ.setLane u l').lane v) = if v = u then l' else s.lane v := fun v => lane_setLane σ s u v l' hl hu
  simp only [loaderBlocked, setLane_lpc, setLane_nalloc, setLane_limit, setLane_recycling, setLane_U, hU, hp, hn, hlim, hr]
  rcases h with h | h
  · have : ∀ v, ((σ.setLane u l').lane v).inbox = (s.lane v).inbox := by
      intro v; rw [hlane]; split
      · rename_i e; subst e; exact h
      · rfl
    simp only [this]
  · cases hpc : s.lpc with
    | put b k =>
      simp only [loaderOnInbox, hpc, beq_eq_false_iff_ne, ne_eq] at h
      simp only [hlane, h, ↓reduceIte]
    | eod v =>
      simp only [loaderOnInbox, hpc, beq_eq_false_iff_ne, ne_eq] at h
      simp only [hlane, h, ↓reduceIte]
    | _ => rfl

/-- replacing lane `u` leaves what `WInv` says of the other unpackers as it was -/
theorem WInv.uw_other {s : Sys} (w : WInv s) (σ : Sys) (u : Nat) (l' : Lane) (hu : u < s.lanes.length) (hl : σ.lanes = s.lanes)
    {v : Nat} (hv : v < s.U) (hvu : v ≠ u) (hw : ((σ.setLane u l').lane v).uwait = some false) :
    unpBlocked (σ.setLane u l') v = true := by
  have e : (σ.setLane u l').lane v = s.lane v := by rw [lane_setLane σ s u v l' hl hu]; simp [hvu]
  rw [e] at hw
  exact (unpBlocked_eq (s := s) v (by rw [e])).trans (w.uw v hv hw)

/-- unpacker `u`'s blockedness after its lane is replaced by `l'` which keeps the program counter and, for that program
    counter, the box it waits on -/
theorem unpBlocked_setLane_u (σ s : Sys) (u : Nat) (l' : Lane) (hu : u < s.lanes.length) (hl : σ.lanes = s.lanes)
    (hupc : l'.upc = (s.lane u).upc)
    (hget : (s.lane u).upc = .get → l'.inEod = (s.lane u).inEod ∧ l'.inbox = (s.lane u).inbox)
    (hput : (s.lane u).upc ≠ .get → l'.outbox = (s.lane u).outbox) :
    unpBlocked (σ.setLane u l') u = unpBlocked s u := by
  simp only [unpBlocked, lane_setLane σ s u u l' hl hu, ↓reduceIte, hupc]
  cases hc : (s.lane u).upc with
  | get => simp only [(hget hc).1, (hget hc).2]
  | put c => simp only [hput (by rw [hc]; simp)]
  | done => rfl

theorem readBlocked_setLane (σ s : Sys) (u : Nat) (l' : Lane) (hu : u < s.lanes.length) (hl : σ.lanes = s.lanes) (hU : σ.U = s.U)
    (hn : σ.nchunk = s.nchunk) (h : (l'.outbox = (s.lane u).outbox ∧ l'.outEod = (s.lane u).outEod) ∨ s.nchunk % s.U ≠ u) :
    readBlocked (σ.setLane u l') = readBlocked s := by
  simp only [readBlocked, setLane_U, setLane_nchunk, hU, hn, lane_setLane σ s u _ l' hl hu]
  split
  · rename_i e
    rcases h with h | h
    · rw [h.1, h.2, e]
    · exact absurd e h
  · rfl

/-- the loader writes the inbox side of lane `u` (its outbox side, program counter and wait flag stay), clears its own wait
    flag and signals `inbox_cv[u]` -/
theorem winv_loaderWrite (s σ : Sys) (u : Nat) (l' : Lane) (w : WInv s) (hu : u < s.U) (hlen : u < s.lanes.length)
    (hl : σ.lanes = s.lanes) (hU : σ.U = s.U) (hn : σ.nchunk = s.nchunk) (hrd : σ.reader = s.reader) (hrs : σ.rsig = s.rsig)
    (hlw : σ.lwait = none) (hupc : l'.upc = (s.lane u).upc) (huw : l'.uwait = (s.lane u).uwait)
    (hout : l'.outbox = (s.lane u).outbox ∧ l'.outEod = (s.lane u).outEod) :
    WInv (signalInbox (σ.setLane u l') u) := by
  apply winv_signalInbox _ _ (by rw [setLane_lanes_length, hl]; exact hlen)
  · intro hc; rw [setLane_lwait, hlw] at hc; cases hc
  · intro v hv hw
    have hv' : v < s.U := by rw [← hU]; exact hv
    by_cases hvu : v = u
    · subst hvu
      rw [lane_setLane σ s _ _ _ hl hlen] at hw
      simp only [↓reduceIte] at hw
      rw [huw] at hw
      have hold := w.uw _ hu hw
      by_cases hg : (s.lane v).upc = .get
      · right; refine ⟨rfl, ?_⟩; rw [lane_setLane σ s _ _ _ hl hlen]; simpa [hupc] using hg
      · left
        rw [unpBlocked_setLane_u σ s _ _ hlen hl hupc (fun e => absurd e hg) (fun _ => hout.1)]
        exact hold
    · exact Or.inl (w.uw_other σ u _ hlen hl hv' hvu hw)
  · intro h1 h2
    rw [readBlocked_setLane σ s _ _ hlen hl hU hn (Or.inl hout)]
    exact w.rw (by rw [← hrd]; exact h1) (by rw [← hrs]; exact h2)

theorem LoaderStep.winv {s s' : Sys} (h : Inv s) (w : WInv s) (hs : LoaderStep s s') : WInv s' := by
  cases hs with
  | create hl hlt =>
    refine ⟨?_, w.uw, w.rw⟩
    intro hw; have := w.lw hw; simp [loaderBlocked, hl] at this; omega
  | topWait hl hge hr =>
    exact ⟨fun _ => (by simp only [loaderBlocked, hl, hr]; simp; omega), w.uw, w.rw⟩
  | pop | collect => exact ⟨fun hc => (by cases hc), w.uw, w.rw⟩
  | load b hl | endData b hl =>
    have hnw : s.lwait ≠ some false := by intro hw; have := w.lw hw; simp [loaderBlocked, hl] at this
    exact ⟨fun hc => absurd hc hnw, w.uw, w.rw⟩
  | putWait b k hl hin =>
    exact ⟨fun _ => (by simp only [loaderBlocked, hl]; exact hin), w.uw, w.rw⟩
  | put b k hl =>
    have hu : k % s.U < s.U := Nat.mod_lt _ h.upos
    have hlen : k % s.U < s.lanes.length := by rw [h.len]; exact hu
    exact winv_loaderWrite s _ (k % s.U) _ w hu hlen rfl rfl rfl rfl rfl rfl rfl rfl ⟨rfl, rfl⟩
  | eodEnd u hl hge =>
    refine ⟨?_, w.uw, w.rw⟩
    intro hw; have := w.lw hw
    simp only [loaderBlocked, hl, Bool.and_eq_true, decide_eq_true_eq] at this; omega
  | eodWait u hl hult hin =>
    have hu : u < s.U := by omega
    exact ⟨fun _ => (by simp only [loaderBlocked, hl, Bool.and_eq_true, decide_eq_true_eq]; exact ⟨hu, hin⟩), w.uw, w.rw⟩
  | eodSet u hl hult =>
    have hu : u < s.U := by omega
    have hlen : u < s.lanes.length := by rw [h.len]; exact hu
    exact winv_loaderWrite s _ u _ w hu hlen rfl rfl rfl rfl rfl rfl rfl rfl ⟨rfl, rfl⟩
  | drainEnd hl hz =>
    refine ⟨?_, w.uw, w.rw⟩
    intro hw; have := w.lw hw
    simp [loaderBlocked, hl, hz] at this
  | drainWait hl hne hr =>
    exact ⟨fun _ => (by simp only [loaderBlocked, hl, hr]; simpa using hne), w.uw, w.rw⟩

theorem UnpackerStep.winv {s s' : Sys} {u : Nat} (h : Inv s) (w : WInv s) (hs : UnpackerStep s u s') : WInv s' := by
  have hlen' : ¬ u ≥ s.U → u < s.lanes.length := fun hu => by rw [h.len]; omega
  cases hs with
  | getWait hu' hupc hcond | putWait _ hu' hupc hcond =>
    have hlen := hlen' hu'
    refine ⟨?_, ?_, ?_⟩
    · intro hw
      rw [loaderBlocked_setLane s s u _ hlen rfl rfl rfl rfl rfl rfl (Or.inl (by rfl))]
      exact w.lw hw
    · intro v hv hw
      by_cases hvu : v = u
      · subst hvu
        simp only [unpBlocked, lane_setLane s s _ _ _ rfl hlen, ↓reduceIte, hupc]
        simpa using hcond
      · exact w.uw_other s u _ hlen rfl hv hvu hw
    · intro h1 h2
      rw [readBlocked_setLane s s u _ hlen rfl rfl rfl (Or.inl ⟨by rfl, by rfl⟩)]
      exact w.rw h1 h2
  | get hu' hupc =>
    have hu : u < s.U := by omega
    have hlen := hlen' hu'
    have hU' : ∀ v < s.U, ((s.setLane u { s.lane u with inbox := none, upc := .put (s.lane u).inbox, uwait := none }).lane v).uwait = some false →
        unpBlocked (s.setLane u { s.lane u with inbox := none, upc := .put (s.lane u).inbox, uwait := none }) v = true := by
      intro v hv hw
      by_cases hvu : v = u
      · subst hvu; rw [lane_setLane s s _ _ _ rfl hlen] at hw; simp at hw
      · exact w.uw_other s u _ hlen rfl hv hvu hw
    have hR' : s.reader.isSome = true → s.rsig = false →
        readBlocked (s.setLane u { s.lane u with inbox := none, upc := .put (s.lane u).inbox, uwait := none }) = true := by
      intro h1 h2
      rw [readBlocked_setLane s s u _ hlen rfl rfl rfl (Or.inl ⟨by rfl, by rfl⟩)]
      exact w.rw h1 h2
    split
    · -- a chunk was taken: signal the loader
      apply winv_signalInbox _ _ (by simpa using hlen)
      · intro hw
        have hold := w.lw hw
        by_cases hon : loaderOnInbox s u = true
        · right; exact hon
        · left
          rw [loaderBlocked_setLane s s u _ hlen rfl rfl rfl rfl rfl rfl (Or.inr (by simpa using hon))]
          exact hold
      · intro v hv hw; exact Or.inl (hU' v hv hw)
      · exact hR'
    · -- EOD: nothing changed for the loader
      rename_i hnone
      refine ⟨?_, hU', hR'⟩
      intro hw
      have e : (s.lane u).inbox = none := by simpa using hnone
      rw [loaderBlocked_setLane s s u _ hlen rfl rfl rfl rfl rfl rfl (Or.inl (by show (none : Option Chunk) = (s.lane u).inbox; exact e.symm))]
      exact w.lw hw
  | put c hu' hupc =>
    have hlen := hlen' hu'
    apply winv_signalOutbox _ _ (by simpa using hlen)
    · intro hw
      rw [loaderBlocked_setLane s s u _ hlen rfl rfl rfl rfl rfl rfl (Or.inl (by rfl))]
      exact w.lw hw
    · intro v hv hw
      by_cases hvu : v = u
      · subst hvu; rw [lane_setLane s s _ _ _ rfl hlen] at hw; simp at hw
      · exact Or.inl (w.uw_other s u _ hlen rfl hv hvu hw)
    · intro h1 h2
      by_cases hn : s.nchunk % s.U = u
      · right; exact hn
      · left
        rw [readBlocked_setLane s s u _ hlen rfl rfl rfl (Or.inr hn)]
        exact w.rw h1 h2

theorem ReadStep.winv {s s' : Sys} {c : Nat} (h : Inv s) (w : WInv s) (hb : ReadStep s c s') : WInv s' := by
  have hu : s.nchunk % s.U < s.U := Nat.mod_lt _ h.upos
  have hlen : s.nchunk % s.U < s.lanes.length := by rw [h.len]; exact hu
  cases hb with
  | wait hcond =>
    refine ⟨w.lw, w.uw, fun _ _ => ?_⟩
    show readBlocked s = true
    simpa [readBlocked] using hcond
  | chunk b k _ hout =>
    apply winv_signalOutbox _ _ (by simpa using hlen)
    · intro hw
      rw [loaderBlocked_setLane _ s _ _ hlen (by rfl) (by rfl) (by rfl) (by rfl) (by rfl) (by rfl) (Or.inl (by rfl))]
      exact w.lw hw
    · intro v hv hw
      by_cases hvu : v = s.nchunk % s.U
      · subst hvu
        rw [lane_setLane _ s _ _ _ (by rfl) hlen] at hw
        simp only [↓reduceIte] at hw
        have hold := w.uw _ hu hw
        by_cases hg : (s.lane (s.nchunk % s.U)).upc = .get
        · left
          rw [unpBlocked_setLane_u _ s _ _ hlen (by rfl) (by rfl) (fun _ => ⟨by rfl, by rfl⟩) (fun e => absurd hg e)]
          exact hold
        · right; refine ⟨rfl, ?_⟩; rw [lane_setLane _ s _ _ _ (by rfl) hlen]; simpa using hg
      · exact Or.inl (w.uw_other _ (s.nchunk % s.U) _ hlen (by rfl) hv hvu hw)
    · intro h1 _; simp at h1
  | eof =>
    exact ⟨w.lw, w.uw, fun h1 _ => by simp at h1⟩

theorem step_winv (s s' : Sys) (l : Label) (h : Inv s) (w : WInv s) (hs : step s l = some s') : WInv s' := by
  cases step_cases hs with
  | loader hl => exact hl.winv h w
  | unpacker hu => exact hu.winv h w
  | read _ hr | readWake _ hr => exact hr.winv h w
  | recycle =>
    apply winv_signalRecycling
    · intro hw
      have hold := w.lw hw
      cases hpc : s.lpc with
      | top => right; left; rfl
      | drain => right; right; rfl
      | haveBuf b' => left; simp only [loaderBlocked, hpc] at hold ⊢; exact hold
      | put b' k' => left; simp only [loaderBlocked, hpc] at hold ⊢; exact hold
      | eod v => left; simp only [loaderBlocked, hpc] at hold ⊢; exact hold
      | done => left; simp only [loaderBlocked, hpc]
    · exact w.uw
    · exact w.rw

theorem winv_create (U T C : Nat) : WInv (Sys.create U T C) := by
  refine ⟨by simp [Sys.create], ?_, by simp [Sys.create]⟩
  intro u _ h; rw [lane_create] at h; cases h

theorem reachable_winv {U T C : Nat} (hU : 0 < U) {s : Sys} (h : Reachable U T C s) : WInv s := by
  induction h with
  | create => exact winv_create U T C
  | step hr hs ih => exact step_winv _ _ _ (reachable_inv hU hr) ih hs

end EaselModel.Pipeline
