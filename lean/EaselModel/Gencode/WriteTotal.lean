import EaselModel.Gencode.Model
/-! # C17 — `esl_gencode_Write` on a well-formed code object: it never reads out of bounds, and the text it produces -/
namespace EaselModel.Gencode
open EaselModel.Alphabet

theorem mapM_eq_some {β : Type} (f : Nat → Option β) (v : Nat → β) :
    ∀ (l : List Nat), (∀ x ∈ l, f x = some (v x)) → l.mapM f = some (l.map v)
  | [], _ => rfl
  | a :: t, h => by
    rw [List.mapM_cons, h a (by simp), mapM_eq_some f v t (fun x hx => h x (by simp [hx]))]; rfl

theorem order_getD_mem (i : Nat) (h : i < 4) : order.getD i 0 ∈ order := by
  have : i < order.length := by simpa [order] using h
  rw [List.getD_eq_getElem?_getD, List.getElem?_eq_getElem this]; exact List.getElem_mem _

theorem ncbiCodon_lt (nt : Alphabet) (hn : ∀ c ∈ order, nt.inmapAt c < 4) (x : Nat) (hx : x < 64) : ncbiCodon nt x < 64 := by
  unfold ncbiCodon
  have a := hn _ (order_getD_mem (x / 16) (by omega))
  have b := hn _ (order_getD_mem ((x % 16) / 4) (by omega))
  have c := hn _ (order_getD_mem (x % 4) (by omega))
  omega

/-- the `Base1`, `Base2`, `Base3` tokens (`i` = 0, 1, 2): T, C, A, G running over the three codon positions -/
def baseTok (i : Nat) : List Nat := (List.range 64).map fun x => order.getD ([x / 16, (x % 16) / 4, x % 4].getD i 0) 0

def baseLines : List Nat :=
  strBytes "  Base1  = " ++ baseTok 0 ++ 10 :: (strBytes "  Base2  = " ++ baseTok 1 ++ 10 :: (strBytes "  Base3  = " ++ baseTok 2 ++ [10]))

/-- the text of `esl_gencode_Write`: comment line (or nothing), the `AAs` and `Starts` lines, the three constant lines -/
def written (comment aas starts : List Nat) : List Nat :=
  comment ++ (strBytes "    AAs  = " ++ aas ++ 10 :: (strBytes "  Starts = " ++ starts ++ 10 :: baseLines))

def aasTok (nt aa : Alphabet) (g : Gencode) : List Nat :=
  (List.range 64).map fun x => aa.sym.getD (g.basic.getD (ncbiCodon nt x) 0) 0

def startsTok (nt : Alphabet) (g : Gencode) : List Nat :=
  (List.range 64).map fun x => if g.isInit.getD (ncbiCodon nt x) 0 ≠ 0 then 77 else 45

/-- `esl_gencode_Write` on a well-formed code object — 64 entries in both arrays, every translation an index into
    `aa_abc->sym`, a nucleotide alphabet that digitizes T (U), C, A, G to 0..3 — reads only inside its arrays and
    produces this text -/
theorem write_eq (nt aa : Alphabet) (g : Gencode) (cm : Bool) (h1 : g.basic.length = 64) (h2 : g.isInit.length = 64)
    (hb : ∀ b ∈ g.basic, b < aa.sym.length) (hn : ∀ c ∈ order, nt.inmapAt c < 4) :
    write nt aa g cm = some (written
      (if cm && g.translTable > 0 then strBytes s!"# {g.translTable} {g.desc}\n" else []) (aasTok nt aa g) (startsTok nt g)) := by
  have e1 : ∀ x ∈ List.range 64, (do let b ← g.basic[ncbiCodon nt x]?; aa.sym[b]?) =
      some (aa.sym.getD (g.basic.getD (ncbiCodon nt x) 0) 0) := fun x hx => by
    have hl : ncbiCodon nt x < g.basic.length := by
      have := ncbiCodon_lt nt hn x (List.mem_range.mp hx); omega
    have hs := hb _ (List.getElem_mem hl)
    simp [List.getD_eq_getElem?_getD, List.getElem?_eq_getElem hl, List.getElem?_eq_getElem hs]
  have e2 : ∀ x ∈ List.range 64, (do let f ← g.isInit[ncbiCodon nt x]?; some (if f ≠ 0 then 77 else 45)) =
      some (if g.isInit.getD (ncbiCodon nt x) 0 ≠ 0 then 77 else 45) := fun x hx => by
    have hl : ncbiCodon nt x < g.isInit.length := by
      have := ncbiCodon_lt nt hn x (List.mem_range.mp hx); omega
    simp [List.getD_eq_getElem?_getD, List.getElem?_eq_getElem hl]
  unfold write
  rw [mapM_eq_some _ _ _ e1, mapM_eq_some _ _ _ e2]
  simp only [written, baseLines, aasTok, startsTok, List.append_assoc, List.cons_append, List.nil_append]
  rfl

theorem write_isSome (nt aa : Alphabet) (g : Gencode) (cm : Bool) (h1 : g.basic.length = 64) (h2 : g.isInit.length = 64)
    (hb : ∀ b ∈ g.basic, b < aa.sym.length) (hn : ∀ c ∈ order, nt.inmapAt c < 4) : (write nt aa g cm).isSome = true := by
  rw [write_eq nt aa g cm h1 h2 hb hn]; rfl

end EaselModel.Gencode
