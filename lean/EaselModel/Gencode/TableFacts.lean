import EaselModel.Gencode.Builtin
import EaselModel.Gencode.OrfDeclarative
import EaselModel.Alphabet.Iupac
import EaselModel.Gencode.ReadCode
import EaselModel.Gencode.ReadWrite
/-! # C17 — facts about the regenerated tables and the dumped alphabets, most of them closed by evaluation (the statements
are restated, with their documentation, in `Props/C17.lean`) -/
namespace EaselModel.Gencode.Facts
open EaselModel.Alphabet EaselModel.Gencode

/-- A string literal is by definition `String.ofList` of its characters, so `String.toList_ofList` reads the characters of
    the 36 pinned lines off without any evaluation; left to `decide`, the kernel would decode each literal from UTF-8. -/
theorem tables_pinned :
    (∀ t ∈ T.tables, (t.id, Ncbi.aasLine t.basic, Ncbi.startsLine t.init) ∈
        Ncbi.pinned.map (fun p => (p.1, p.2.1.toList, p.2.2.toList))) ∧
    (∀ p ∈ Ncbi.pinned.map (fun p => (p.1, p.2.1.toList, p.2.2.toList)),
        p ∈ T.tables.map (fun t => (t.id, Ncbi.aasLine t.basic, Ncbi.startsLine t.init))) := by
  simp only [Ncbi.pinned, List.map_cons, List.map_nil]
  repeat rw [String.toList_ofList]
  decide +kernel

theorem table_ids :
    (T.tables.map (·.id)).Nodup ∧ (∀ id ∈ T.tables.map (·.id), id ∈ Ncbi.pinned.map (·.1)) ∧
    (∀ id ∈ Ncbi.pinned.map (·.1), id ∈ T.tables.map (·.id)) ∧
    Ncbi.pinned.map (·.1) = [1, 2, 3, 4, 5, 6, 9, 10, 11, 12, 13, 14, 16, 21, 22, 23, 24, 25] ∧
    (∀ t ∈ T.tables, setTable T.tables t.id = some (codeOf t)) ∧ (setTable T.tables 1).isSome = true := by decide +kernel

theorem alphabets_ncbi : NcbiAlphabets A.dna A.amino := by decide +kernel

/-- what is read off the 18 rows themselves: each is a complete code, no flagged codon is a stop (27), ATG (codon 14) is no
    stop; table 1, from which `esl_gencode_Read` starts, has 64 + 64 entries -/
theorem rows_complete :
    (∀ g1 ∈ (setTable T.tables 1).toList, CodeOK g1) ∧
    ∀ t ∈ T.tables, CompleteCode A.amino (codeOf t) ∧ (∀ p ∈ t.basic.zip t.init, p.2 ≠ 0 → p.1 ≠ 27) ∧
      t.basic.getD 14 99 ≠ 27 := by decide +kernel

/-- the table's own flags were checked row by row; "any sense codon" flags only amino acids; "ATG only" flags only codon 14 -/
theorem no_initiator_stop :
    NtOK A.dna ∧ A.dna.Kp = 18 ∧ A.amino.unknown = 26 ∧ A.amino.K = 20 ∧
    ∀ t ∈ T.tables, ∀ g ∈ settings (codeOf t), CodeOK g ∧
      ∀ c, c < 64 → (g.basic.getD c 99 < 20 ∨ g.basic.getD c 99 = A.amino.nonresidue) ∧
        (g.isInit.getD c 0 ≠ 0 → g.basic.getD c 99 ≠ A.amino.nonresidue) := by
  refine ⟨by decide +kernel, by decide, by decide, by decide, fun t ht g hg => ?_⟩
  obtain ⟨hcc, hz, h14⟩ := rows_complete.2 t ht
  have l1 : t.basic.length = 64 := hcc.1.1
  have l2 : t.init.length = 64 := hcc.1.2
  have hb : ∀ b ∈ t.basic, b < 20 ∨ b + 2 = A.amino.Kp := hcc.2.1
  have hKp : A.amino.Kp = 29 := by decide
  have hn : A.amino.nonresidue = 27 := by decide
  have hK : A.amino.K = 20 := by decide
  have hatg : 16 * A.dna.inmapAt 65 + 4 * A.dna.inmapAt 84 + A.dna.inmapAt 71 = 14 := by decide
  rw [hn]
  have hbasic : ∀ c, c < 64 → t.basic.getD c 99 < 20 ∨ t.basic.getD c 99 = 27 := fun c hc => by
    rw [List.getD_eq_getElem?_getD, List.getElem?_eq_getElem (show c < t.basic.length by omega)]
    have := hb _ (List.getElem_mem (show c < t.basic.length by omega))
    simp only [Option.getD_some]; omega
  simp only [settings, List.mem_cons, List.not_mem_nil, or_false] at hg
  rcases hg with rfl | rfl | rfl
  · refine ⟨⟨l1, l2⟩, fun c hc => ⟨hbasic c hc, fun hi => ?_⟩⟩
    have hc1 : c < t.basic.length := by omega
    have hc2 : c < t.init.length := by omega
    simp only [codeOf, List.getD_eq_getElem?_getD, List.getElem?_eq_getElem hc1, List.getElem?_eq_getElem hc2,
      Option.getD_some] at hi ⊢
    exact hz (t.basic[c], t.init[c]) (by
      rw [List.mem_iff_getElem]; exact ⟨c, by rw [List.length_zip]; omega, by simp⟩) hi
  · refine ⟨(hcc.policies A.amino A.dna).1.1, fun c hc => ⟨hbasic c hc, fun hi => ?_⟩⟩
    have hc1 : c < t.basic.length := by omega
    simp only [setInitiatorAny, codeOf, List.getD_eq_getElem?_getD, List.getElem?_map, List.getElem?_eq_getElem hc1,
      Option.map_some, Option.getD_some, Alphabet.xIsCanonical, hK] at hi ⊢
    by_cases h20 : t.basic[c] < 20
    · omega
    · simp [h20] at hi
  · refine ⟨(hcc.policies A.amino A.dna).2.1, fun c hc => ⟨hbasic c hc, fun hi => ?_⟩⟩
    simp only [setInitiatorOnlyAUG, codeOf, hatg, getD_set, getD_replicate_zero] at hi ⊢
    by_cases h : 14 = c ∧ 14 < (List.replicate 64 0).length
    · rw [← h.1]; exact h14
    · rw [if_neg h] at hi; exact absurd rfl hi

theorem expand_is_iupac :
    ∀ a, a < 18 → flags (A.dna.degen.getD a []) =
      (Iupac.denotes .dna ((Iupac.symbols .dna).getD a ' ')).map fun ch => (Iupac.canonical .dna).idxOf ch := by
  decide +kernel

/-- `TableOK` restates `no_initiator_stop` with the stop code spelled `xIsNonresidue` and the default 0 for `getD` -/
theorem builtin_tables_ok :
    ∀ t ∈ T.tables, ∀ g ∈ settings (codeOf t), TableOK A.amino g := by
  intro t ht g hg
  obtain ⟨⟨hb, -⟩, hc⟩ := no_initiator_stop.2.2.2.2 t ht g hg
  refine ⟨fun c h64 => ?_, by decide, by decide, by decide⟩
  obtain ⟨h1, h2⟩ := hc c h64
  have e : g.basic.getD c 0 = g.basic.getD c 99 := by
    rw [List.getD_eq_getElem?_getD, List.getD_eq_getElem?_getD, List.getElem?_eq_getElem (by omega)]; rfl
  have hn : A.amino.nonresidue = 27 := by decide
  have hK : A.amino.Kp = 29 := by decide
  rw [hn] at h1 h2
  rw [e]
  refine ⟨by omega, fun hi => ?_⟩
  have := h2 hi
  simp only [Alphabet.xIsNonresidue, hK, decide_eq_false_iff_not]
  omega

theorem rna_objects_ok :
    NtOK A.rna ∧ A.rna.Kp = 18 ∧
    (∀ a, a < 18 → flags (A.rna.degen.getD a []) =
      (Iupac.denotes .rna ((Iupac.symbols .rna).getD a ' ')).map fun ch => (Iupac.canonical .rna).idxOf ch) ∧
    (∀ g, (setInitiatorOnlyAUG A.rna g).isInit = (setInitiatorOnlyAUG A.dna g).isInit) ∧
    (∀ x, x < 64 → ncbiCodon A.rna x = ncbiCodon A.dna x) := by
  refine ⟨by decide +kernel, by decide, by decide +kernel, fun g => ?_, by decide +kernel⟩
  have e : 16 * A.rna.inmapAt 65 + 4 * A.rna.inmapAt 84 + A.rna.inmapAt 71 =
      16 * A.dna.inmapAt 65 + 4 * A.dna.inmapAt 84 + A.dna.inmapAt 71 := by decide
  simp only [setInitiatorOnlyAUG, e]

theorem comments_ok : ∀ t ∈ T.tables, CommentLine (strBytes s!"# {t.id} {t.desc}\n") := by
  have hid : ∀ t ∈ T.tables, 10 ∉ strBytes (toString t.id) := by decide +kernel
  have hdesc : ∀ t ∈ T.tables, 10 ∉ strBytes t.desc := by
    unfold T.tables
    simp only [List.forall_mem_cons, List.not_mem_nil, false_imp_iff, implies_true, and_true]
    repeat rw [strBytes_ofList]
    decide +kernel
  exact fun t ht => commentLine_of t.id t.desc (hid t ht) (hdesc t ht)

/-- an instance of `read_write`: the rows are complete codes, the initiator policies keep them so -/
theorem read_write_roundtrip :
    ∀ g1 ∈ (setTable T.tables 1).toList, ∀ t ∈ T.tables, ∀ g ∈ settings (codeOf t), ∀ cm ∈ [true, false],
      (write A.dna A.amino g cm).bind (read A.dna A.amino g1) =
        some { translTable := -1, desc := "", basic := g.basic, isInit := g.isInit } := by
  intro g1 hg1 t ht g hg cm _
  have hc := (rows_complete.2 t ht).1
  simp only [settings, List.mem_cons, List.not_mem_nil, or_false] at hg
  have hgc : CompleteCode A.amino g ∧ g.translTable = t.id ∧ g.desc = t.desc := by
    rcases hg with rfl | rfl | rfl
    · exact ⟨hc, rfl, rfl⟩
    · exact ⟨(hc.policies A.amino A.dna).1, rfl, rfl⟩
    · exact ⟨(hc.policies A.amino A.dna).2, rfl, rfl⟩
  refine read_write A.dna A.amino alphabets_ncbi g1 g (rows_complete.1 g1 hg1) hgc.1 cm fun _ _ => ?_
  rw [hgc.2.1, hgc.2.2]
  exact comments_ok t ht

/-! ## a structural check of the tables that does NOT go through the pinned AAs/Starts strings

`Ncbi.pinned` is one hand-typed rendering of the NCBI tables (64-letter strings in TCAG column order). This part holds a
second, independently typed rendering in a different shape — the way the NCBI documentation describes the codes:
the standard code as "amino acid ↦ its codons", and every other code as its list of DIFFERENCES from the standard code
plus its set of initiation codons — and proves (`decide` over the tables regenerated from the tree on this run, through
the code's own codon index 16x+4y+z and the dumped alphabets) that the tree's tables are exactly that. An edit that
changes a table entry in the C source AND the corresponding letter of the pinned string in the same wrong way still
fails here; to escape, this rendering would have to be edited consistently as well. -/

/-- the codon with index `c = 16x + 4y + z`, spelled with the symbols of the dumped DNA alphabet -/
def codonChars (c : Nat) : List Char := [c / 16, (c % 16) / 4, c % 4].map fun i => Char.ofNat (A.dna.sym.getD i 63)
/-- the symbol of amino-acid code `x` (27 = `*`) in the dumped amino alphabet -/
def aaChar (x : Nat) : Char := Char.ofNat (A.amino.sym.getD x 63)

/-- where table `t` translates differently from table `std`, in codon-index order -/
def diffFrom (std t : RawTable) : List (List Char × Char) :=
  (List.range 64).filterMap fun c =>
    if t.basic.getD c 99 ≠ std.basic.getD c 99 then some (codonChars c, aaChar (t.basic.getD c 99)) else none

/-- the initiation codons of a table, in codon-index order -/
def startsOf (t : RawTable) : List (List Char) :=
  (List.range 64).filterMap fun c => if t.init.getD c 0 ≠ 0 then some (codonChars c) else none

/-- the codons a table translates to the amino acid / stop `a`, in codon-index order -/
def codonsOf (t : RawTable) (a : Char) : List (List Char) :=
  (List.range 64).filterMap fun c => if aaChar (t.basic.getD c 99) = a then some (codonChars c) else none

def splitSp : List Char → List Char → List (List Char)
  | [], cur => if cur.isEmpty then [] else [cur.reverse]
  | c :: cs, cur =>
    if c = ' ' then (if cur.isEmpty then splitSp cs [] else cur.reverse :: splitSp cs []) else splitSp cs (c :: cur)

def words (s : String) : List (List Char) := splitSp s.toList []

/-- THE STANDARD CODE (transl_table 1), by amino acid (codons in the order A < C < G < T) -/
def standardByAminoAcid : List (Char × String) := [
  ('A', "GCA GCC GCG GCT"),
  ('C', "TGC TGT"),
  ('D', "GAC GAT"),
  ('E', "GAA GAG"),
  ('F', "TTC TTT"),
  ('G', "GGA GGC GGG GGT"),
  ('H', "CAC CAT"),
  ('I', "ATA ATC ATT"),
  ('K', "AAA AAG"),
  ('L', "CTA CTC CTG CTT TTA TTG"),
  ('M', "ATG"),
  ('N', "AAC AAT"),
  ('P', "CCA CCC CCG CCT"),
  ('Q', "CAA CAG"),
  ('R', "AGA AGG CGA CGC CGG CGT"),
  ('S', "AGC AGT TCA TCC TCG TCT"),
  ('T', "ACA ACC ACG ACT"),
  ('V', "GTA GTC GTG GTT"),
  ('W', "TGG"),
  ('Y', "TAC TAT"),
  ('*', "TAA TAG TGA")]

/-- EVERY OTHER CODE as the NCBI documentation describes it: transl_table id, differences from the standard code
    (`codon:amino acid`, `*` = stop), initiation codons (both in the order A < C < G < T) -/
def documented : List (Int × String × String) := [
  (1, "", "ATG CTG TTG"),
  (2, "AGA:* AGG:* ATA:M TGA:W", "ATA ATC ATG ATT GTG"),
  (3, "ATA:M CTA:T CTC:T CTG:T CTT:T TGA:W", "ATA ATG"),
  (4, "TGA:W", "ATA ATC ATG ATT CTG GTG TTA TTG"),
  (5, "AGA:S AGG:S ATA:M TGA:W", "ATA ATC ATG ATT GTG TTG"),
  (6, "TAA:Q TAG:Q", "ATG"),
  (9, "AAA:N AGA:S AGG:S TGA:W", "ATG GTG"),
  (10, "TGA:C", "ATG"),
  (11, "", "ATA ATC ATG ATT CTG GTG TTG"),
  (12, "CTG:S", "ATG CTG"),
  (13, "AGA:G AGG:G ATA:M TGA:W", "ATA ATG GTG TTG"),
  (14, "AAA:N AGA:S AGG:S TAA:Y TGA:W", "ATG"),
  (16, "TAG:L", "ATG"),
  (21, "AAA:N AGA:S AGG:S ATA:M TGA:W", "ATG GTG"),
  (22, "TAG:L TCA:*", "ATG"),
  (23, "TTA:*", "ATG ATT GTG"),
  (24, "AGA:S AGG:K TGA:W", "ATG CTG GTG TTG"),
  (25, "TGA:G", "ATG GTG TTG")]

def diffWords (s : String) : List (List Char × Char) :=
  (words s).filterMap fun w => match w with | [a, b, c, ':', x] => some ([a, b, c], x) | _ => none

/-- A list indexed over its own range is one pass over the list. For the kernel a lookup at `c` walks `c` cells, so
    `tables_differ_as_documented` is evaluated on the right-hand form (the same idea as `Alphabet.forall_getD_of_zipIdx`). -/
theorem range_filterMap_getD {α β : Type} (l : List α) (d : α) (F : Nat → α → Option β) :
    (List.range l.length).filterMap (fun c => F c (l.getD c d)) = l.zipIdx.filterMap fun p => F p.2 p.1 := by
  have e : l.zipIdx = (List.range l.length).map fun c => (l.getD c d, c) := by
    apply List.ext_getElem
    · simp
    · intro i h1 h2
      simp only [List.length_zipIdx] at h1
      simp [List.getD_eq_getElem?_getD, List.getElem?_eq_getElem h1]
  rw [e, List.filterMap_map]
  rfl

theorem getD_zip {α β : Type} : ∀ (l : List α) (l' : List β), l.length = l'.length → ∀ (c : Nat) (d : α) (d' : β),
    (l.zip l').getD c (d, d') = (l.getD c d, l'.getD c d')
  | [], [], _, _, _, _ => by simp
  | _ :: _, _ :: _, _, 0, _, _ => by simp
  | _ :: l, _ :: l', h, c+1, d, d' => by simpa using getD_zip l l' (by simpa using h) c d d'

theorem diffFrom_scan (std t : RawTable) (h : t.basic.length = 64) (hs : std.basic.length = 64) :
    diffFrom std t = (t.basic.zip std.basic).zipIdx.filterMap fun p =>
      if p.1.1 ≠ p.1.2 then some (codonChars p.2, aaChar p.1.1) else none := by
  have hl : (t.basic.zip std.basic).length = 64 := by rw [List.length_zip, h, hs]; rfl
  rw [← range_filterMap_getD _ (99, 99) (fun c p => if p.1 ≠ p.2 then some (codonChars c, aaChar p.1) else none), hl]
  unfold diffFrom
  simp only [getD_zip _ _ (h.trans hs.symm)]

theorem startsOf_scan (t : RawTable) (h : t.init.length = 64) :
    startsOf t = t.init.zipIdx.filterMap fun p => if p.1 ≠ 0 then some (codonChars p.2) else none := by
  rw [← range_filterMap_getD _ 0 (fun c x => if x ≠ 0 then some (codonChars c) else none), h]; rfl

theorem standard_code_by_amino_acid :
    ∀ std ∈ (T.tables.find? (fun t => t.id = 1)).toList, ∀ p ∈ standardByAminoAcid, codonsOf std p.1 = words p.2 := by
  decide +kernel

theorem tables_differ_as_documented :
    ∀ std ∈ (T.tables.find? (fun t => t.id = 1)).toList,
      (∀ t ∈ T.tables, (t.id, diffFrom std t, startsOf t) ∈ documented.map (fun d => (d.1, diffWords d.2.1, words d.2.2))) ∧
      (∀ d ∈ documented, d.1 ∈ T.tables.map (·.id)) ∧ T.tables.length = documented.length ∧
      (T.tables.find? (fun t => t.id = 1)).isSome = true := by
  have h : ∀ std ∈ (T.tables.find? (fun t => t.id = 1)).toList, std.basic.length = 64 ∧
      (∀ t ∈ T.tables, t.basic.length = 64 ∧ t.init.length = 64 ∧ (t.id,
        (t.basic.zip std.basic).zipIdx.filterMap (fun p => if p.1.1 ≠ p.1.2 then some (codonChars p.2, aaChar p.1.1) else none),
        t.init.zipIdx.filterMap (fun p => if p.1 ≠ 0 then some (codonChars p.2) else none)) ∈
          documented.map (fun d => (d.1, diffWords d.2.1, words d.2.2))) ∧
      (∀ d ∈ documented, d.1 ∈ T.tables.map (·.id)) ∧ T.tables.length = documented.length ∧
      (T.tables.find? (fun t => t.id = 1)).isSome = true := by
    simp only [documented, List.map_cons, List.map_nil, diffWords, words]
    repeat rw [String.toList_ofList]
    decide +kernel
  intro std hstd
  obtain ⟨hs, ht, rest⟩ := h std hstd
  refine ⟨fun t htm => ?_, rest⟩
  obtain ⟨h1, h2, h3⟩ := ht t htm
  rw [diffFrom_scan std t h1 hs, startsOf_scan t h2]
  exact h3

end EaselModel.Gencode.Facts

namespace EaselModel.Gencode

theorem dump_rows_wellformed :
    ∀ t ∈ T.tables, 0 < t.id ∧ t.id < 100 ∧ pad3 t.id = (if t.id < 10 then "  " else " ") ++ toString t.id ∧
      (t.desc.toList.all fun ch => ch ≠ '\n') = true := by
  have hid : ∀ t ∈ T.tables, 0 < t.id ∧ t.id < 100 ∧ pad3 t.id = (if t.id < 10 then "  " else " ") ++ toString t.id := by
    decide +kernel
  -- the characters of the 18 descriptions are read off the literals (`String.toList_ofList`), not decoded
  have hdesc : ∀ t ∈ T.tables, (t.desc.toList.all fun ch => ch ≠ '\n') = true := by
    unfold T.tables
    simp only [List.forall_mem_cons, List.not_mem_nil, false_imp_iff, implies_true, and_true]
    repeat rw [String.toList_ofList]
    decide +kernel
  exact fun t ht => ⟨(hid t ht).1, (hid t ht).2.1, (hid t ht).2.2, hdesc t ht⟩

end EaselModel.Gencode
