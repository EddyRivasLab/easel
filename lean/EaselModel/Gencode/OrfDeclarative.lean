import EaselModel.Gencode.OrfSpec
import EaselModel.Gencode.TranslationSpec
/-! # C17 — the one-frame ORF finder = "split the frame's codons at stop codons, drop leading non-initiators, keep
stretches of at least the minimum length"; an initiator codon (degenerate or not) never translates to a stop -/
namespace EaselModel.Gencode
open EaselModel.Alphabet

/-- split a frame's codons at the stop codons: each segment (stop-free run) with the stop codon that ends it
    (`none` for the last segment, which runs to the end of the strand) -/
def splitStops (aa : Alphabet) : List Item → List (List Item × Option Item)
  | [] => [([], none)]
  | it :: rest =>
    if aa.xIsNonresidue it.aa then ([], some it) :: splitStops aa rest
    else match splitStops aa rest with
      | (seg, e) :: more => (it :: seg, e) :: more
      | [] => [([it], none)]

/-- end coordinate of a segment: just before its stop codon, or the strand-end coordinate `endPos` -/
def segEnd (dir endPos : Int) : Option Item → Int
  | some s => s.pos - dir
  | none => endPos

/-- the ORF of one stop-free segment: drop the leading codons that are not initiators; what remains (if anything, and if
    long enough) is the ORF, starting at the first initiator's coordinate; its first residue is M when initiators are
    required -/
def segOrf (aa : Alphabet) (cfg : Cfg) (seg : List Item) (stop : Int) : Option Rec :=
  match seg.dropWhile (fun it => !it.ini) with
  | [] => none
  | first :: rest =>
    let res := (if cfg.usingInit then aa.inmapAt 77 else first.aa) :: rest.map (·.aa)
    if (res.length : Int) ≥ cfg.minlen then some { start := first.pos, stop := stop, aa := res } else none

/-- declarative ORF list of one frame, in order of occurrence -/
def declFrame (aa : Alphabet) (cfg : Cfg) (dir endPos : Int) (items : List Item) : List Rec :=
  (splitStops aa items).filterMap fun se => segOrf aa cfg se.1 (segEnd dir endPos se.2)

/-- the same with an ORF already open in state `p` (its residues so far in `p.rev`) -/
def declOpen (aa : Alphabet) (cfg : Cfg) (dir endPos : Int) (p : FrameSt) (items : List Item) : List Rec :=
  match splitStops aa items with
  | [] => []
  | (seg, e) :: more =>
    (if ((p.rev.reverse ++ seg.map (·.aa)).length : Int) ≥ cfg.minlen
      then [{ start := p.start, stop := segEnd dir endPos e, aa := p.rev.reverse ++ seg.map (·.aa) }] else []) ++
    more.filterMap fun se => segOrf aa cfg se.1 (segEnd dir endPos se.2)

theorem splitStops_ne_nil (aa : Alphabet) (items : List Item) : splitStops aa items ≠ [] := by
  induction items with
  | nil => simp [splitStops]
  | cons it rest ih =>
    unfold splitStops
    split
    · simp
    · split <;> simp

/-- hypothesis of the theorem: an initiator codon never translates to a stop, and M is not the stop code
    (true for every built-in table under every initiator setting: `no_initiator_stop`) -/
def InitNotStop (aa : Alphabet) (items : List Item) : Prop :=
  aa.xIsNonresidue (aa.inmapAt 77) = false ∧ ∀ it ∈ items, it.ini = true → aa.xIsNonresidue it.aa = false

theorem fstep_fold_decl (aa : Alphabet) (cfg : Cfg) (dir endPos : Int) :
    ∀ (items : List Item) (p : FrameSt) (found : List Rec), InitNotStop aa items → (p.inOrf = false → p = {}) →
      fflush cfg (items.foldl (fstep aa cfg dir) (p, found)) endPos =
        (if p.inOrf then declOpen aa cfg dir endPos p items else declFrame aa cfg dir endPos items).reverse ++ found := by
  intro items
  induction items with
  | nil =>
    intro p found _ hp
    cases hin : p.inOrf
    · have := hp hin; subst this
      simp [fflush, declFrame, splitStops, segOrf]
    · simp only [List.foldl_nil, fflush, hin, Bool.true_and, declOpen, splitStops, List.map_nil, List.append_nil,
        List.length_reverse, segEnd, List.filterMap_nil, if_true]
      by_cases hm : (p.rev.length : Int) ≥ cfg.minlen <;> simp [hm]
  | cons it rest ih =>
    intro p found hH hp
    obtain ⟨hM, hI⟩ := hH
    have hH' : InitNotStop aa rest := ⟨hM, fun it' h' => hI it' (by simp [h'])⟩
    obtain ⟨sp, hsp⟩ := List.exists_cons_of_ne_nil (splitStops_ne_nil aa rest)
    obtain ⟨sp2, hsp⟩ := hsp
    obtain ⟨seg, e⟩ := sp
    rw [List.foldl_cons]
    cases hin : p.inOrf
    · -- no ORF open
      have := hp hin; subst this
      cases hini : it.ini
      · -- not an initiator
        cases hstop : aa.xIsNonresidue it.aa
        · -- skipped
          have e1 : fstep aa cfg dir ({}, found) it = ({}, found) := by
            simp [fstep, hini, hstop]
          rw [e1, ih {} found hH' (fun _ => rfl)]
          simp only [Bool.false_eq_true, if_false, declFrame]
          congr 2
          conv => rhs; unfold splitStops
          simp only [hstop, Bool.false_eq_true, if_false, hsp, List.filterMap_cons]
          have : segOrf aa cfg (it :: seg) (segEnd dir endPos e) = segOrf aa cfg seg (segEnd dir endPos e) := by
            simp [segOrf, hini]
          rw [this]
        · -- a stop outside an ORF
          have e1 : fstep aa cfg dir ({}, found) it = ({}, found) := by
            simp [fstep, hini, hstop]
          rw [e1, ih {} found hH' (fun _ => rfl)]
          simp only [Bool.false_eq_true, if_false, declFrame]
          congr 2
          conv => rhs; unfold splitStops
          simp only [hstop, if_true, List.filterMap_cons]
          have : segOrf aa cfg [] (segEnd dir endPos (some it)) = none := rfl
          rw [this]
      · -- an initiator opens an ORF
        have hns := hI it (by simp) hini
        have e1 : fstep aa cfg dir ({}, found) it =
            ({ rev := [if cfg.usingInit then aa.inmapAt 77 else it.aa], start := it.pos, inOrf := true }, found) := by
          cases hu : cfg.usingInit <;> simp [fstep, hini, hu, hM, hns]
        rw [e1, ih _ found hH' (fun h => by simp at h)]
        simp only [if_true, Bool.false_eq_true, if_false, declOpen, declFrame, hsp]
        congr 2
        conv => rhs; unfold splitStops
        simp only [hns, Bool.false_eq_true, if_false, hsp, List.filterMap_cons]
        simp only [segOrf, hini, Bool.not_true, List.dropWhile_cons_of_neg, Bool.false_eq_true, not_false_eq_true,
          List.length_cons, List.length_map, List.reverse_singleton, List.singleton_append, List.length_append,
          List.length_singleton]
        push_cast
        by_cases hm : (seg.length : Int) + 1 ≥ cfg.minlen
        · simp [hm]
        · simp [hm]
    · -- inside an ORF
      cases hstop : aa.xIsNonresidue it.aa
      · -- a residue is appended
        have e1 : fstep aa cfg dir (p, found) it = ({ p with rev := it.aa :: p.rev }, found) := by
          simp [fstep, hin, hstop]
        rw [e1, ih _ found hH' (fun h => by simp [hin] at h)]
        simp only [hin, if_true, declOpen, hsp]
        congr 2
        conv => rhs; unfold splitStops
        simp only [hstop, Bool.false_eq_true, if_false, hsp]
        simp
      · -- the stop closes it
        have e1 : fstep aa cfg dir (p, found) it =
            ({}, if (p.rev.length : Int) ≥ cfg.minlen then { start := p.start, stop := it.pos - dir, aa := p.rev.reverse } :: found else found) := by
          simp [fstep, hin, hstop]
        rw [e1, ih {} _ hH' (fun _ => rfl)]
        simp only [Bool.false_eq_true, if_false, hin, if_true, declOpen, declFrame]
        conv => rhs; unfold splitStops
        simp only [hstop, if_true, List.map_nil, List.append_nil, List.length_reverse, segEnd]
        by_cases hm : (p.rev.length : Int) ≥ cfg.minlen <;> simp [hm]

/-- what the ORF theorem needs of the table and the amino alphabet: entries are bytes, no initiator codon is a stop,
    and neither M nor X is the stop code -/
def TableOK (aa : Alphabet) (g : Gencode) : Prop :=
  (∀ c, c < 64 → g.basic.getD c 0 < 256 ∧ (g.isInit.getD c 0 ≠ 0 → aa.xIsNonresidue (g.basic.getD c 0) = false)) ∧
  aa.xIsNonresidue (aa.inmapAt 77) = false ∧ aa.xIsNonresidue aa.unknown = false ∧ aa.unknown < 256

instance (aa : Alphabet) (g : Gencode) : Decidable (TableOK aa g) := by unfold TableOK; infer_instance

theorem ini_not_stop (nt aa : Alphabet) (g : Gencode) (hn : NtOK nt) (hT : TableOK aa g) (a b c : Nat)
    (hi : specInitiator nt g a b c = true) : aa.xIsNonresidue (codonAa nt aa g a b c) = false := by
  obtain ⟨hB, _, hX, hX256⟩ := hT
  unfold specInitiator at hi
  unfold codonAa
  by_cases hcan : allCanonical nt a b c = true
  · rw [if_pos hcan] at hi ⊢
    have hlt := canon_codon_lt nt hn a b c hcan
    exact (hB _ hlt).2 (by simpa using hi)
  · rw [if_neg hcan] at hi ⊢
    simp only [Bool.and_eq_true, decide_eq_true_eq, List.all_eq_true, ne_eq] at hi
    obtain ⟨hne, hall⟩ := hi
    unfold specTranslation
    rw [if_neg hcan]
    cases hex : expand nt a b c with
    | nil => exact absurd hex hne
    | cons k ks =>
      have hk : k ∈ expand nt a b c := by rw [hex]; simp
      have hk64 := expand_lt nt a b c k hk
      have hik := hall k hk
      simp only []
      by_cases hsame : ∀ k' ∈ ks, g.basic.getD k' 0 = g.basic.getD k 0
      · rw [if_pos hsame]
        have h256 := (hB k hk64).1
        have : ((((g.basic.getD k 0 : Nat) : Int)) % 256).toNat = g.basic.getD k 0 := by omega
        rw [this]
        exact (hB k hk64).2 hik
      · rw [if_neg hsame]
        have : ((((aa.unknown : Nat) : Int)) % 256).toNat = aa.unknown := by omega
        rw [this]
        exact hX

theorem mem_sub (k : Nat) : ∀ (l : List Item) (f : Nat) (it : Item), it ∈ sub k f l → it ∈ l := by
  intro l
  induction l with
  | nil => intro f it h; simp [sub] at h
  | cons x rest ih =>
    intro f it h
    unfold sub at h
    split at h
    · rcases List.mem_cons.mp h with rfl | h'
      · simp
      · exact List.mem_cons_of_mem _ (ih _ _ h')
    · exact List.mem_cons_of_mem _ (ih _ _ h)

theorem mem_itemsFrom (nt aa : Alphabet) (g : Gencode) (dir : Int) :
    ∀ (d : List Nat) (pos : Int) (it : Item), it ∈ itemsFrom nt aa g dir pos d →
      ∃ a b c, it.aa = codonAa nt aa g a b c ∧ it.ini = specInitiator nt g a b c := by
  intro d
  induction d with
  | nil => intro pos it h; simp [itemsFrom] at h
  | cons a t ih =>
    intro pos it h
    match t, ih, h with
    | [], _, h => simp [itemsFrom] at h
    | [b], _, h => simp [itemsFrom] at h
    | b :: c :: rest, ih, h =>
      simp only [itemsFrom, List.mem_cons] at h
      rcases h with rfl | h
      · exact ⟨a, b, c, rfl, rfl⟩
      · exact ih _ _ h

theorem frameOrfs_declarative (nt aa : Alphabet) (g : Gencode) (cfg : Cfg) (hn : NtOK nt) (hT : TableOK aa g)
    (dir p0 : Int) (d : List Nat) (k : Nat) :
    frameOrfs nt aa g cfg dir p0 d k =
      (declFrame aa cfg dir
        (p0 + (((itemsFrom nt aa g dir p0 d).length + (k + 3 - (itemsFrom nt aa g dir p0 d).length % 3) % 3 : Nat) : Int) * dir - dir)
        (sub k 0 (itemsFrom nt aa g dir p0 d))).reverse := by
  unfold frameOrfs
  simp only []
  rw [fstep_fold_decl aa cfg dir _ _ {} [] ?_ (fun _ => rfl)]
  · simp
  · refine ⟨hT.2.1, fun it hit hini => ?_⟩
    obtain ⟨a, b, c, e1, e2⟩ := mem_itemsFrom nt aa g dir d p0 it (mem_sub k _ _ it hit)
    rw [e1]
    exact ini_not_stop nt aa g hn hT a b c (by rw [← e2]; exact hini)

end EaselModel.Gencode
