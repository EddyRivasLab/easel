import EaselModel.Gencode.Translate
import EaselModel.Gencode.OrfOrder
/-! # C17 — lemmas on whole-sequence translation (both strands, windowed = full-length, option combinations) -/
namespace EaselModel.Gencode
open EaselModel.Alphabet

theorem revcomp_length (nt : Alphabet) (d : List Nat) : (revcomp nt d).length = d.length := by simp [revcomp]

theorem revcomp_slice (nt : Alphabet) (d : List Nat) (i n : Nat) (h : i + n ≤ d.length) :
    ((revcomp nt d).drop i).take n = revcomp nt ((d.drop (d.length - i - n)).take n) := by
  unfold revcomp
  rw [← List.map_drop, ← List.map_take]
  congr 1
  rw [List.drop_reverse, List.take_reverse, List.length_take]
  congr 1
  rw [Nat.min_eq_left (by omega), List.drop_take]
  have : d.length - i - (d.length - i - n) = n := by omega
  rw [this]

/-- the windows `windows prev rest cuts` written as slices of the whole strand `prev ++ rest` -/
def slicesOf (R : List Nat) : Nat → List Nat → List (List Nat)
  | _, [] => []
  | done, k :: ks =>
    let C := if done = 0 then 0 else 2
    ((R.drop (done - C)).take (C + k)) :: slicesOf R (done + k) ks

theorem windows_eq_slices (cuts : List Nat) :
    ∀ (prev rest : List Nat), (prev = [] → ∀ k ∈ cuts.head?, 2 ≤ k) → (prev ≠ [] → 2 ≤ prev.length) → cuts.sum ≤ rest.length →
      windows prev rest cuts = slicesOf (prev ++ rest) prev.length cuts := by
  induction cuts with
  | nil => intro _ _ _ _ _; rfl
  | cons k ks ih =>
    intro prev rest h0 h2 hs
    have hk : k ≤ rest.length := by simp at hs; omega
    simp only [windows, slicesOf]
    have ih' := ih (prev ++ rest.take k) (rest.drop k)
      (fun e => by
        have : prev = [] := by
          cases prev with
          | nil => rfl
          | cons _ _ => simp at e
        have hk2 := h0 this k (by simp)
        rw [this] at e
        simp at e
        have : rest.take k = [] := by simpa using e
        have hl : (rest.take k).length = 0 := by rw [this]; rfl
        rw [List.length_take] at hl
        omega)
      (fun _ => by
        by_cases hp : prev = []
        · have := h0 hp k (by simp); simp [hp]; omega
        · have := h2 hp; simp; omega)
      (by simp at hs ⊢; omega)
    have hl : (prev ++ rest.take k).length = prev.length + k := by simp; omega
    rw [ih', hl]
    have happ : prev ++ List.take k rest ++ List.drop k rest = prev ++ rest := by simp
    rw [happ]
    congr 1
    by_cases hp : prev = []
    · subst hp; simp
    · have hp2 := h2 hp
      have hne : prev.length ≠ 0 := by omega
      simp only [hne, if_false]
      have hl2 : (prev.drop (prev.length - 2)).length = 2 := by simp; omega
      have : 2 + k - 2 = k := by omega
      rw [List.drop_append_of_le_length (by omega), List.take_append, hl2, List.take_of_length_le (l := prev.drop (prev.length - 2)) (i := 2 + k) (by rw [hl2]; omega), this]

theorem topSlices_eq (nt : Alphabet) (d : List Nat) (cuts : List Nat) :
    ∀ done, (done = 0 → ∀ k ∈ cuts.head?, 2 ≤ k) → (done ≠ 0 → 2 ≤ done) → done + cuts.sum ≤ d.length →
      topSlices nt d done cuts = slicesOf (revcomp nt d) done cuts := by
  induction cuts with
  | nil => intro _ _ _ _; rfl
  | cons k ks ih =>
    intro done h0 h2 hs
    simp only [topSlices, slicesOf]
    rw [List.sum_cons] at hs
    rw [ih (done + k) (fun e => by
        have hd0 : done = 0 := by omega
        have := h0 hd0 k (by simp)
        omega)
      (fun _ => by
      by_cases h : done = 0
      · have := h0 h k (by simp); omega
      · have := h2 h; omega) (by omega)]
    congr 1
    by_cases h : done = 0
    · subst h
      simp only [if_true, Nat.sub_zero, Nat.zero_add, Nat.add_zero]
      have := revcomp_slice nt d 0 k (by omega)
      simpa using this.symm
    · have hd := h2 h
      simp only [h, if_false]
      have := revcomp_slice nt d (done - 2) (2 + k) (by omega)
      rw [this]
      have e1 : d.length - (done - 2) - (2 + k) = d.length - done - k := by omega
      rw [e1, Nat.add_comm 2 k]

theorem topSlices_windows (nt : Alphabet) (d : List Nat) (k : Nat) (ks : List Nat) (hk : 2 ≤ k) (hs : (k :: ks).sum = d.length) :
    topSlices nt d 0 (k :: ks) = windows [] (revcomp nt d) (k :: ks) := by
  rw [topSlices_eq nt d (k :: ks) 0 (fun _ k' hk' => by simp at hk'; omega) (by omega) (by omega),
    windows_eq_slices (k :: ks) [] (revcomp nt d) (fun _ k' hk' => by simp at hk'; omega) (fun h => absurd rfl h)
      (by rw [revcomp_length]; omega)]
  simp

theorem runWins_windows (nt aa : Alphabet) (g : Gencode) (cfg : Cfg) (w : Work) (isRev : Bool) (d : List Nat)
    (k : Nat) (ks : List Nat) (hk : 2 ≤ k) :
    runWins nt aa g cfg w isRev d.length (windows [] d (k :: ks)) = runStrand nt aa g cfg w isRev d (k :: ks) := by
  unfold runWins runStrand
  have h0 : (d.take k).getD 0 0 = d.getD 0 0 := by
    simp only [List.getD_eq_getElem?_getD, List.getElem?_take]
    rw [if_pos (by omega)]
  have h1 : (d.take k).getD 1 0 = d.getD 1 0 := by
    simp only [List.getD_eq_getElem?_getD, List.getElem?_take]
    rw [if_pos (by omega)]
  simp only [windows, List.headD_cons, List.drop_nil, List.nil_append, h0, h1]

theorem cutsFor_sum (W L : Nat) : (cutsFor W L).sum = L := by
  unfold cutsFor
  rw [List.sum_append, List.sum_replicate_nat]
  have := Nat.div_add_mod' L W
  by_cases h : L % W = 0
  · simp [h]; omega
  · simp [h]; omega

theorem cutsFor_cons (W L : Nat) (hW : W ≠ 1) (hL : 3 ≤ L) : ∃ k ks, cutsFor W L = k :: ks ∧ 2 ≤ k := by
  unfold cutsFor
  by_cases hq : L / W = 0
  · have hm : L % W = L := by
      have := Nat.div_add_mod' L W
      rw [hq] at this; omega
    rw [hq, hm]
    exact ⟨L, [], by simp; omega, by omega⟩
  · obtain ⟨n, hn⟩ := Nat.exists_eq_succ_of_ne_zero hq
    rw [hn, List.replicate_succ]
    refine ⟨W, _, rfl, ?_⟩
    have : W ≠ 0 := by
      intro e; rw [e] at hq; simp at hq
    omega

theorem byWindows_eq_bySequence (nt aa : Alphabet) (g : Gencode) (wc : Wcfg) (W : Nat) (hW : W ≠ 1) (w : Work) (d : List Nat)
    (hL : 3 ≤ d.length) : byWindows nt aa g wc W w d = bySequence nt aa g wc w d := by
  obtain ⟨k, ks, hc, hk⟩ := cutsFor_cons W d.length hW hL
  have hs : (k :: ks).sum = d.length := by rw [← hc]; exact cutsFor_sum W d.length
  have hsr : (k :: ks).sum = (revcomp nt d).length := by rw [revcomp_length]; exact hs
  have hlt : ¬ d.length < 3 := by omega
  unfold byWindows bySequence
  simp only [hlt, ↓reduceIte, hc]
  rw [topSlices_windows nt d k ks hk hs]
  have e1 : ∀ w', runWins nt aa g wc.cfg w' false d.length (windows [] d (k :: ks)) =
      runStrand nt aa g wc.cfg w' false d [d.length] := fun w' => by
    rw [runWins_windows nt aa g wc.cfg w' false d k ks hk, runStrand_split nt aa g wc.cfg w' false d k ks hk hs]
  have e2 : ∀ w', runWins nt aa g wc.cfg w' true d.length (windows [] (revcomp nt d) (k :: ks)) =
      runStrand nt aa g wc.cfg w' true (revcomp nt d) [d.length] := fun w' => by
    have := runWins_windows nt aa g wc.cfg w' true (revcomp nt d) k ks hk
    rw [revcomp_length] at this
    rw [this, runStrand_split nt aa g wc.cfg w' true (revcomp nt d) k ks hk hsr, revcomp_length]
  simp only [e1, e2]

end EaselModel.Gencode
