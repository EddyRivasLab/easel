import EaselModel.Gencode.TranslationSpec
import EaselModel.Gencode.OrfSpec
/-! # C17 — the streaming loop with its rolling codon / degeneracy countdown = the eager per-codon step; cutting a strand
into windows (each with two residues of context) changes nothing -/
namespace EaselModel.Gencode
open EaselModel.Alphabet

theorem canon_lt4 (nt : Alphabet) (h : NtOK nt) (a : Nat) (ha : nt.xIsCanonical a = true) : a < 4 := by
  unfold Alphabet.xIsCanonical at ha
  have := h.1
  simp only [decide_eq_true_eq] at ha
  omega

theorem allCanonical_iff (nt : Alphabet) (a b c : Nat) :
    allCanonical nt a b c = true ↔ nt.xIsCanonical a = true ∧ nt.xIsCanonical b = true ∧ nt.xIsCanonical c = true := by
  unfold allCanonical; simp [Bool.and_eq_true, and_assoc]

theorem rollInv_mk (nt : Alphabet) (core : Core) (cod inv b c : Nat)
    (h1 : inv = (if nt.xIsCanonical c then (if nt.xIsCanonical b then 0 else 1) else 2))
    (h2 : nt.xIsCanonical c = true → cod % 4 = c)
    (h3 : nt.xIsCanonical b = true → nt.xIsCanonical c = true → cod % 16 = 4 * b + c) :
    RollInv nt { c := core, codon := cod, inval := inv } b c := ⟨h1, h2, h3⟩

/-- the work state after the first two statements of the loop body of `esl_gencode_ProcessPiece`: the codon shifted, then the
    new residue added or the countdown set -/
def roll (nt : Alphabet) (w : Work) (c : Nat) : Work :=
  let w := { w with codon := (w.codon * 4) % 64 }
  if nt.xIsCanonical c then { w with codon := w.codon + c } else { w with inval := 3 }

/-- what `RollInv` is for: after the roll the countdown is 0 exactly on a canonical codon, the rolling codon is then its index,
    and one off the countdown gives the invariant for the next codon -/
theorem roll_spec (nt : Alphabet) (hn : NtOK nt) (w : Work) (a b c : Nat) (h : RollInv nt w a b) :
    (roll nt w c).c = w.c ∧ ((roll nt w c).inval = 0 ↔ allCanonical nt a b c = true) ∧
    (allCanonical nt a b c = true → (roll nt w c).codon = 16 * a + 4 * b + c) ∧
    ∀ core, RollInv nt { c := core, codon := (roll nt w c).codon, inval := (roll nt w c).inval - 1 } b c := by
  obtain ⟨hi, h4, h16⟩ := h
  have lt4 := canon_lt4 nt hn
  rw [allCanonical_iff]
  unfold roll
  refine ⟨by split <;> rfl, ?_, fun ⟨ha, hb, hc⟩ => ?_, fun core => ⟨?_, fun hc => ?_, fun hb hc => ?_⟩⟩
  · cases hc : nt.xIsCanonical c <;> cases hb : nt.xIsCanonical b <;> cases ha : nt.xIsCanonical a <;> simp [hi, ha, hb]
  · have := h16 ha hb; have := lt4 a ha; have := lt4 b hb
    simp only [hc, if_true]; omega
  · cases hc : nt.xIsCanonical c <;> cases hb : nt.xIsCanonical b <;> cases ha : nt.xIsCanonical a <;> simp [hi, ha, hb]
  · have := lt4 c hc
    simp only [hc, if_true]; omega
  · have := h4 hb; have := lt4 b hb; have := lt4 c hc
    simp only [hc, if_true]; omega

/-- the lazy step is the eager one: on a canonical codon the rolling codon indexes the tables, on any other the two functions
    are asked, which answer as specified (and need the three codes inside the alphabet) -/
theorem pieceStep_eager (nt aa : Alphabet) (g : Gencode) (cfg : Cfg) (hn : NtOK nt) (hg : CodeOK g) (w : Work) (a b c : Nat)
    (hk : allCanonical nt a b c = false → a < nt.Kp ∧ b < nt.Kp ∧ c < nt.Kp) (hinv : RollInv nt w a b) :
    pieceStep nt aa g cfg w a b c =
      some { c := cstep aa cfg w.c (codonAa nt aa g a b c) (specInitiator nt g a b c),
             codon := (roll nt w c).codon, inval := (roll nt w c).inval - 1 } := by
  obtain ⟨hcore, h0, hcod, -⟩ := roll_spec nt hn w a b c hinv
  unfold pieceStep
  -- `pieceStep` spells the rolled state out; it gets a name, and all that is used of it is `roll_spec`
  generalize hw1 : roll nt w c = w1 at hcore h0 hcod
  simp only [roll] at hw1
  simp only [hw1]
  unfold cstep codonAa
  by_cases hall : allCanonical nt a b c = true
  · -- the fast path: the rolling codon indexes the tables
    obtain ⟨ha, hb, hc⟩ := (allCanonical_iff nt a b c).mp hall
    have a4 := canon_lt4 nt hn a ha
    have b4 := canon_lt4 nt hn b hb
    have c4 := canon_lt4 nt hn c hc
    have e1 : g.basic[16 * a + 4 * b + c]? = some (g.basic.getD (16 * a + 4 * b + c) 0) :=
      getElem?_eq_some_getD _ _ 0 (by rw [hg.1]; omega)
    have e2 : g.isInit[16 * a + 4 * b + c]? = some (g.isInit.getD (16 * a + 4 * b + c) 0) :=
      getElem?_eq_some_getD _ _ 0 (by rw [hg.2]; omega)
    simp only [h0.mpr hall, hcod hall, hcore, Nat.lt_irrefl, if_false, e1, e2, Option.bind_eq_bind, Option.bind_some,
      gt_iff_lt, specInitiator, hall, if_true]
    generalize g.basic.getD (16 * a + 4 * b + c) 0 = bv
    generalize g.isInit.getD (16 * a + 4 * b + c) 0 = iv
    cases hin : w.c.getF.inOrf <;> by_cases hz : iv = 0 <;> simp [hz]
  · -- the slow path asks `GetTranslation` and `IsInitiator`, which answer as specified
    have hnot : allCanonical nt a b c = false := by simpa using hall
    obtain ⟨hak, hbk, hck⟩ := hk hnot
    have ht := getTranslation_eq_spec nt aa g hn hg a b c hak hbk hck
    obtain ⟨r, hr1, hr2⟩ := isInitiator_eq_spec nt g hn hg a b c hak hbk hck
    have hpos : w1.inval > 0 := Nat.pos_of_ne_zero fun e => hall (h0.mp e)
    -- the C `int` answer of `IsInitiator` as the specification's truth value
    have hs : specInitiator nt g a b c = !decide (r = 0) := by
      by_cases hr0 : r = 0
      · cases h : specInitiator nt g a b c
        · simp [hr0]
        · exact absurd (hr2.mpr h) (by simp [hr0])
      · simp [hr0, hr2.mp hr0]
    simp only [hpos, if_true, ht, hr1, hcore, Option.bind_eq_bind, Option.bind_some, hnot, Bool.false_eq_true, if_false]
    cases hin : w.c.getF.inOrf
    · by_cases hr0 : r = 0 <;> simp [hr0, hs]
    · simp

theorem pieceStep_canon (nt aa : Alphabet) (g : Gencode) (cfg : Cfg) (hn : NtOK nt) (hg : CodeOK g) (w : Work) (a b c : Nat)
    (ha : nt.xIsCanonical a = true) (hb : nt.xIsCanonical b = true) (hc : nt.xIsCanonical c = true)
    (hinv : RollInv nt w a b) :
    pieceStep nt aa g cfg w a b c =
      some { c := cstep aa cfg w.c (codonAa nt aa g a b c) (specInitiator nt g a b c),
             codon := 16 * a + 4 * b + c, inval := 0 } := by
  have hall := (allCanonical_iff nt a b c).mpr ⟨ha, hb, hc⟩
  obtain ⟨-, h0, hcod, -⟩ := roll_spec nt hn w a b c hinv
  rw [pieceStep_eager nt aa g cfg hn hg w a b c (fun h => by rw [hall] at h; cases h) hinv, hcod hall, h0.mpr hall]

theorem pieceStep_degen (nt aa : Alphabet) (g : Gencode) (cfg : Cfg) (hn : NtOK nt) (hg : CodeOK g) (w : Work) (a b c : Nat)
    (hak : a < nt.Kp) (hbk : b < nt.Kp) (hck : c < nt.Kp)
    (hnot : allCanonical nt a b c = false) (hinv : RollInv nt w a b) :
    pieceStep nt aa g cfg w a b c =
      some { c := cstep aa cfg w.c (codonAa nt aa g a b c) (specInitiator nt g a b c),
             codon := if nt.xIsCanonical c then (w.codon * 4) % 64 + c else (w.codon * 4) % 64,
             inval := if nt.xIsCanonical c then w.inval - 1 else 2 } := by
  rw [pieceStep_eager nt aa g cfg hn hg w a b c (fun _ => ⟨hak, hbk, hck⟩) hinv]
  unfold roll
  cases nt.xIsCanonical c <;> rfl

theorem processStart_inv (nt : Alphabet) (hn : NtOK nt) (w : Work) (isRev : Bool) (L : Int) (d1 d2 : Nat) :
    RollInv nt (processStart nt w isRev L d1 d2) d1 d2 := by
  unfold processStart
  by_cases h1 : nt.xIsCanonical d1 = true <;> by_cases h2 : nt.xIsCanonical d2 = true
  · have a4 := canon_lt4 nt hn d1 h1
    have b4 := canon_lt4 nt hn d2 h2
    simp only [h1, h2, if_true]
    apply rollInv_mk
    · simp [h1, h2]
    · intro _; omega
    · intro _ _; omega
  · simp only [h1, h2, if_true, if_false]
    apply rollInv_mk
    · simp [h2]
    · intro h; exact absurd h h2
    · intro _ h; exact absurd h h2
  · have b4 := canon_lt4 nt hn d2 h2
    simp only [h1, h2, if_true, if_false, Bool.false_eq_true]
    apply rollInv_mk
    · simp [h1, h2]
    · intro _; omega
    · intro h; exact absurd h h1
  · simp only [h1, h2, if_false]
    apply rollInv_mk
    · simp [h2]
    · intro h; exact absurd h h2
    · intro h; exact absurd h h1

theorem processPiece_eager (nt aa : Alphabet) (g : Gencode) (cfg : Cfg) (hn : NtOK nt) (hg : CodeOK g) :
    ∀ (d : List Nat) (w : Work), (∀ x ∈ d, x < nt.Kp) → RollInv nt w (d.getD 0 0) (d.getD 1 0) →
      ∃ w', processPiece nt aa g cfg w d = some w' ∧ w'.c = coreRun nt aa g cfg w.c d := by
  intro d
  induction d with
  | nil => intro w _ _; exact ⟨w, rfl, rfl⟩
  | cons a t ih =>
    intro w hv hinv
    match t, ih, hv, hinv with
    | [], _, _, _ => exact ⟨w, rfl, rfl⟩
    | [b], _, _, _ => exact ⟨w, rfl, rfl⟩
    | b :: c :: rest, ih, hv, hinv =>
      have hi : RollInv nt w a b := by simpa using hinv
      obtain ⟨w1, h1, h2, h3⟩ : ∃ w1, pieceStep nt aa g cfg w a b c = some w1 ∧
          w1.c = cstep aa cfg w.c (codonAa nt aa g a b c) (specInitiator nt g a b c) ∧ RollInv nt w1 b c :=
        ⟨_, pieceStep_eager nt aa g cfg hn hg w a b c (fun _ => ⟨hv a (by simp), hv b (by simp), hv c (by simp)⟩) hi, rfl,
          (roll_spec nt hn w a b c hi).2.2.2 _⟩
      obtain ⟨w2, h4, h5⟩ := ih w1 (fun x hx => hv x (by simp [hx])) (by simpa using h3)
      refine ⟨w2, ?_, ?_⟩
      · simp only [processPiece, h1, Option.bind_eq_bind, Option.bind_some]; exact h4
      · rw [h5, h2]; rfl

def last2 (l : List Nat) : List Nat := l.drop (l.length - 2)

theorem last2_cons (a : Nat) (l : List Nat) (h : 2 ≤ l.length) : last2 (a :: l) = last2 l := by
  unfold last2
  have : (a :: l).length - 2 = (l.length - 2) + 1 := by simp; omega
  rw [this, List.drop_succ_cons]

/-- `ProcessPiece` over a window followed by `ProcessPiece` over (2-residue context ++ next residues) is `ProcessPiece`
    over the concatenation: the carried state is exactly what the continued loop needs -/
theorem processPiece_append (nt aa : Alphabet) (g : Gencode) (cfg : Cfg) (l1 l2 : List Nat) (h : 2 ≤ l1.length) (w : Work) :
    processPiece nt aa g cfg w (l1 ++ l2) =
      (processPiece nt aa g cfg w l1).bind fun w' => processPiece nt aa g cfg w' (last2 l1 ++ l2) := by
  induction l1 generalizing w with
  | nil => simp at h
  | cons a t ih =>
    match t, ih, h with
    | [b], _, _ =>
      simp [processPiece, last2]
    | b :: c :: rest, ih, _ =>
      have ih' := ih (by simp) 
      rw [last2_cons a (b :: c :: rest) (by simp)]
      simp only [List.cons_append, processPiece, Option.bind_eq_bind]
      cases hs : pieceStep nt aa g cfg w a b c with
      | none => rfl
      | some w' =>
        simp only [Option.bind_some]
        have := ih' w'
        simp only [List.cons_append] at this
        rw [this]

theorem windows_fold (nt aa : Alphabet) (g : Gencode) (cfg : Cfg) (cuts : List Nat) :
    ∀ (prev d : List Nat) (w : Work), 2 ≤ prev.length → cuts.sum = d.length →
      processPiece nt aa g cfg w (prev ++ d) =
        (processPiece nt aa g cfg w prev).bind fun w' =>
          (windows prev d cuts).foldlM (fun w win => processPiece nt aa g cfg w win) w' := by
  induction cuts with
  | nil =>
    intro prev d w _ hs
    have : d = [] := by simpa using hs.symm
    subst this
    simp [windows]
  | cons k ks ih =>
    intro prev d w hp hs
    have hk : k ≤ d.length := by simp at hs; omega
    have hsplit : prev ++ d = (prev ++ d.take k) ++ d.drop k := by simp
    rw [hsplit, ih (prev ++ d.take k) (d.drop k) w (by simp; omega) (by simp at hs ⊢; omega)]
    rw [processPiece_append nt aa g cfg prev (d.take k) hp w]
    simp only [windows, last2, List.foldlM_cons, Option.bind_eq_bind]
    cases processPiece nt aa g cfg w prev with
    | none => rfl
    | some w' => rfl

theorem runStrand_split (nt aa : Alphabet) (g : Gencode) (cfg : Cfg) (w : Work) (isRev : Bool) (d : List Nat)
    (k : Nat) (ks : List Nat) (hk : 2 ≤ k) (hs : (k :: ks).sum = d.length) :
    runStrand nt aa g cfg w isRev d (k :: ks) = runStrand nt aa g cfg w isRev d [d.length] := by
  unfold runStrand
  have hkd : k ≤ d.length := by simp at hs; omega
  have hw0 := windows_fold nt aa g cfg ks (d.take k) (d.drop k) (processStart nt w isRev d.length (d.getD 0 0) (d.getD 1 0))
    (by simp; omega) (by simp at hs ⊢; omega)
  have h1 : windows [] d (k :: ks) = d.take k :: windows (d.take k) (d.drop k) ks := by simp [windows]
  have h2 : windows [] d [d.length] = [d] := by simp [windows]
  rw [h1, h2]
  simp only [List.foldlM_cons, List.foldlM_nil, List.take_append_drop, Option.bind_eq_bind] at hw0 ⊢
  rw [← hw0]
  cases processPiece nt aa g cfg (processStart nt w isRev (↑d.length) (d.getD 0 0) (d.getD 1 0)) d <;> rfl

end EaselModel.Gencode
