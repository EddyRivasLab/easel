import EaselModel.Gencode.WholeLemmas
import EaselModel.Gencode.ThreeFrames
/-! # C17 — what a strand leaves alone: the frame labels of the other strand, and an idle machine at its end (so that a sequence
shorter than a codon changes nothing in either main loop: `short_sequence_noop`); `ComplOK`: the reverse complement of a valid
sequence is valid -/
namespace EaselModel.Gencode
open EaselModel.Alphabet

theorem Tick.recs_other {c c' : Core} (t : Tick c c') (lbl : Nat) (hl : lbl ≠ c.frame + 1 + labelOff c.isRev) :
    recsOf c'.out lbl = recsOf c.out lbl := by
  rcases t.out with ⟨e, -⟩ | ⟨o, e, -, -, -, f⟩
  · rw [e]
  · rw [e, recsOf_cons, if_neg (by rw [f]; exact fun e => hl e.symm)]

/-- label `lbl` does not belong to the strand being read -/
def OtherLabel (isRev : Bool) (lbl : Nat) : Prop := ∀ k, k < 3 → lbl ≠ k + 1 + labelOff isRev

theorem strandCore_recs_other (nt aa : Alphabet) (g : Gencode) (cfg : Cfg) (lbl : Nat) (d : List Nat) (c : Core)
    (hf : c.frame < 3) (ho : OtherLabel c.isRev lbl) : recsOf (strandCore nt aa g cfg c d).out lbl = recsOf c.out lbl :=
  (strandCore_induct nt aa g cfg (fun c' => c'.isRev = c.isRev ∧ recsOf c'.out lbl = recsOf c.out lbl)
    (fun c1 c2 hf' t ⟨hr, hl⟩ => ⟨by rw [t.isRev, hr], by rw [t.recs_other lbl (by rw [hr]; exact ho _ hf'), hl]⟩)
    d c hf ⟨rfl, rfl⟩).2

/-- no frame is inside an ORF (the state `WorkstateCreate` makes and every `ProcessEnd` leaves) -/
def Idle (c : Core) : Prop := c.f0.inOrf = false ∧ c.f1.inOrf = false ∧ c.f2.inOrf = false

theorem endStep_idle (cfg : Cfg) (c : Core) (h : c.frame < 3) (hi : Idle c) :
    (endStep cfg c).out = c.out ∧ (endStep cfg c).orfcount = c.orfcount ∧ Idle (endStep cfg c) := by
  obtain ⟨i0, i1, i2⟩ := hi
  have hin : (fK c c.frame).inOrf = false := by
    unfold fK
    by_cases h0 : c.frame = 0
    · simp [h0, i0]
    · by_cases h1 : c.frame = 1
      · simp [h1, i1]
      · simp [h0, h1, i2]
  unfold endStep Idle
  simp only [processOrf_eq, getF_fK c, emits, hin]
  have e0 : c.frame = 0 ∨ c.frame = 1 ∨ c.frame = 2 := by omega
  rcases e0 with e | e | e <;> simp [Core.setF, e, i0, i1, i2]

theorem processEnd_idle (cfg : Cfg) (c : Core) (h : c.frame < 3) (hi : Idle c) :
    (processEnd cfg c).out = c.out ∧ (processEnd cfg c).orfcount = c.orfcount ∧ Idle (processEnd cfg c) ∧
    (processEnd cfg c).frame < 3 :=
  processEnd_induct cfg (fun c' => c'.out = c.out ∧ c'.orfcount = c.orfcount ∧ Idle c' ∧ c'.frame < 3)
    (fun c' hf' ⟨o, n, i, _⟩ => by
      obtain ⟨p1, p2, p3⟩ := endStep_idle cfg c' hf' i
      exact ⟨p1.trans o, p2.trans n, p3, by rw [(endStep_tick cfg c').frame]; omega⟩) c h ⟨rfl, rfl, hi, h⟩

theorem idle_iff (c : Core) : Idle c ↔ ∀ k, k < 3 → (fK c k).inOrf = false := by
  unfold Idle fK
  constructor
  · rintro ⟨a, b, c'⟩ k hk
    have : k = 0 ∨ k = 1 ∨ k = 2 := by omega
    rcases this with e | e | e <;> simp [e, a, b, c']
  · intro h
    exact ⟨by simpa using h 0 (by omega), by simpa using h 1 (by omega), by simpa using h 2 (by omega)⟩

theorem processEnd_makes_idle (cfg : Cfg) (c : Core) (h : c.frame < 3) : Idle (processEnd cfg c) :=
  (idle_iff _).mpr fun k hk => congrArg (·.1.inOrf) (processEnd_proj cfg c h k hk)

/-- a sequence shorter than a codon changes nothing in either main loop: `do_by_sequences` skips it; in `do_by_windows` the
    `ProcessEnd` calls at `eslEOD` run on an idle machine and emit nothing -/
theorem short_sequence_noop (nt aa : Alphabet) (g : Gencode) (wc : Wcfg) (W : Nat) (w : Work) (d : List Nat) (hL : d.length < 3)
    (hf : w.c.frame < 3) (hi : Idle w.c) :
    bySequence nt aa g wc w d = some w ∧
    ∃ w', byWindows nt aa g wc W w d = some w' ∧ w'.c.out = w.c.out ∧ w'.c.orfcount = w.c.orfcount ∧ Idle w'.c ∧ w'.c.frame < 3 := by
  refine ⟨by unfold bySequence; rw [if_pos hL], ?_⟩
  unfold byWindows
  rw [if_pos hL]
  obtain ⟨p1, p2, p3, p4⟩ := processEnd_idle wc.cfg w.c hf hi
  obtain ⟨q1, q2, q3, q4⟩ := processEnd_idle wc.cfg _ p4 p3
  refine ⟨_, rfl, ?_⟩
  cases wc.doWatson <;> cases wc.doCrick <;> simp [hi, hf, p1, p2, p3, p4, q1, q2, q3, q4]

theorem strandCore_idle (nt aa : Alphabet) (g : Gencode) (cfg : Cfg) (c : Core) (d : List Nat) (hf : c.frame < 3) :
    Idle (strandCore nt aa g cfg c d) ∧ (strandCore nt aa g cfg c d).frame < 3 := by
  have hfr : (coreRun nt aa g cfg c d).frame < 3 := by
    rw [(coreRun_pos nt aa g cfg d c hf).1]; exact Nat.mod_lt _ (by omega)
  refine ⟨processEnd_makes_idle cfg _ hfr, ?_⟩
  rw [strandCore, processEnd_eq, (endStep_tick cfg _).frame]
  exact Nat.mod_lt _ (by omega)

/-- the complement of a code of the alphabet is a code of the alphabet: what `revcomp` needs to keep a sequence valid
    (`Props.C17.complement_closed` shows it of the dumped DNA and RNA alphabets) -/
def ComplOK (nt : Alphabet) : Prop := ∀ x, x < nt.Kp → (nt.complement.getD []).getD x 255 < nt.Kp

theorem revcomp_valid (nt : Alphabet) (hc : ComplOK nt) (d : List Nat)
    (hv : ∀ x ∈ d, x < nt.Kp) : ∀ x ∈ revcomp nt d, x < nt.Kp := by
  intro x hx
  unfold revcomp at hx
  obtain ⟨y, hy, rfl⟩ := List.mem_map.mp hx
  exact hc y (hv y (List.mem_reverse.mp hy))

end EaselModel.Gencode
