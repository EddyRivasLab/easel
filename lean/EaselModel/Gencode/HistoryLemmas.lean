import EaselModel.Gencode.History
import EaselModel.Gencode.ReadCode
import EaselModel.Gencode.Builtin
import EaselModel.Gencode.Spec
/-! # C17 — after `Set(t)` the object IS table `t`, whatever was done to it before -/
namespace EaselModel.Gencode
open EaselModel.Alphabet

theorem copy64_go (src : List Nat) (hs : src.length = 64) :
    ∀ (n : Nat) (dst : List Nat), dst.length = 64 → n ≤ 64 →
      (List.range n).foldl (fun b c => b.set c (src.getD c 0)) dst = src.take n ++ dst.drop n := by
  intro n
  induction n with
  | zero => intro dst _ _; simp
  | succ n ih =>
    intro dst hd hn
    rw [List.range_succ, List.foldl_append, ih dst hd (by omega)]
    simp only [List.foldl_cons, List.foldl_nil]
    apply List.ext_getElem
    · simp; omega
    · intro i h1 h2
      simp only [List.getElem_set, List.getElem_append, List.length_take, List.getElem_take, List.getElem_drop]
      have hmin : min n src.length = n := by omega
      have hmin1 : min (n + 1) src.length = n + 1 := by omega
      by_cases e : n = i
      · subst e
        simp [hmin, hmin1, List.getD_eq_getElem?_getD, List.getElem?_eq_getElem (show n < src.length by omega)]
      · by_cases hlt : i < n
        · simp [e, hmin, hmin1, hlt, show i < n + 1 by omega]
        · have hge : ¬ i < n + 1 := by omega
          simp only [e, hmin, hmin1, hlt, hge, if_false, dite_false]
          congr 1
          omega

/-- the copy loop overwrites the whole array: nothing of the previous contents survives -/
theorem copy64_eq (dst src : List Nat) (hd : dst.length = 64) (hs : src.length = 64) : copy64 dst src = src := by
  unfold copy64
  rw [copy64_go src hs 64 dst hd (Nat.le_refl _)]
  simp [List.take_of_length_le (show src.length ≤ 64 by omega), List.drop_of_length_le (show dst.length ≤ 64 by omega)]

theorem setOn_eq (tabs : List RawTable) (htabs : ∀ t ∈ tabs, t.basic.length = 64 ∧ t.init.length = 64) (g : Gencode)
    (hg : CodeOK g) (id : Int) :
    setOn tabs g id = match setTable tabs id with
      | some g' => (g', true)
      | none => (g, false) := by
  unfold setOn setTable
  cases h : tabs.find? (fun t => decide (t.id = id)) with
  | none => rfl
  | some t =>
    obtain ⟨h1, h2⟩ := htabs t (List.mem_of_find?_eq_some h)
    simp only [Option.map_some]
    rw [copy64_eq _ _ hg.1 h1, copy64_eq _ _ hg.2 h2]

theorem setTable_codeOK (tabs : List RawTable) (htabs : ∀ t ∈ tabs, t.basic.length = 64 ∧ t.init.length = 64) (id : Int)
    (g : Gencode) (h : setTable tabs id = some g) : CodeOK g := by
  unfold setTable at h
  cases hf : tabs.find? (fun t => decide (t.id = id)) with
  | none => rw [hf] at h; cases h
  | some t =>
    rw [hf] at h
    simp only [Option.map_some, Option.some.injEq] at h
    subst h
    exact htabs t (List.mem_of_find?_eq_some hf)

theorem hstep_codeOK (nt aa : Alphabet) (tabs : List RawTable) (htabs : ∀ t ∈ tabs, t.basic.length = 64 ∧ t.init.length = 64)
    (hatg : 16 * nt.inmapAt 65 + 4 * nt.inmapAt 84 + nt.inmapAt 71 < 64) (g : Gencode) (hg : CodeOK g) (op : HOp) :
    CodeOK (hstep nt aa tabs g op).1 := by
  cases op with
  | set id =>
    show CodeOK (setOn tabs g id).1
    rw [setOn_eq tabs htabs g hg id]
    cases h : setTable tabs id with
    | none => exact hg
    | some g' => exact setTable_codeOK tabs htabs id g' h
  | any => exact ⟨by simp [hstep, setInitiatorAny, hg.1], by simp [hstep, setInitiatorAny, hg.1]⟩
  | aug => exact ⟨by simp [hstep, setInitiatorOnlyAUG, hg.1], by simp [hstep, setInitiatorOnlyAUG]⟩
  | read buf =>
    simp only [hstep]
    cases h1 : setTable tabs 1 with
    | none => exact hg
    | some g1 =>
      simp only []
      cases h2 : read nt aa g1 buf with
      | none => exact hg
      | some g' =>
        have hg1 := setTable_codeOK tabs htabs 1 g1 h1
        obtain ⟨a, b, _⟩ := read_ok_is_code nt aa g1 hg1.1 hg1.2 buf g' h2
        exact ⟨a, b⟩

theorem hrun_codeOK (nt aa : Alphabet) (tabs : List RawTable) (htabs : ∀ t ∈ tabs, t.basic.length = 64 ∧ t.init.length = 64)
    (hatg : 16 * nt.inmapAt 65 + 4 * nt.inmapAt 84 + nt.inmapAt 71 < 64) :
    ∀ (ops : List HOp) (g : Gencode), CodeOK g → CodeOK (hrun nt aa tabs g ops).1 := by
  intro ops
  induction ops with
  | nil => intro g hg; exact hg
  | cons op ops ih => intro g hg; exact ih _ (hstep_codeOK nt aa tabs htabs hatg g hg op)

theorem hrun_append (nt aa : Alphabet) (tabs : List RawTable) :
    ∀ (ops1 ops2 : List HOp) (g : Gencode),
      (hrun nt aa tabs g (ops1 ++ ops2)).1 = (hrun nt aa tabs (hrun nt aa tabs g ops1).1 ops2).1 := by
  intro ops1
  induction ops1 with
  | nil => intro _ _; rfl
  | cons op ops ih => intro ops2 g; exact ih ops2 _

theorem set_after_history (nt aa : Alphabet) (tabs : List RawTable)
    (htabs : ∀ t ∈ tabs, t.basic.length = 64 ∧ t.init.length = 64)
    (hatg : 16 * nt.inmapAt 65 + 4 * nt.inmapAt 84 + nt.inmapAt 71 < 64) (ops : List HOp) (g0 : Gencode) (hg : CodeOK g0) (id : Int) :
    (hrun nt aa tabs g0 (ops ++ [.set id])).1 =
      match setTable tabs id with
      | some g' => g'
      | none => (hrun nt aa tabs g0 ops).1 := by
  rw [hrun_append]
  show (setOn tabs (hrun nt aa tabs g0 ops).1 id).1 = _
  rw [setOn_eq tabs htabs _ (hrun_codeOK nt aa tabs htabs hatg ops g0 hg) id]
  cases setTable tabs id <;> rfl

/-- after any history `Set(id)` leaves the table's own object, a policy setter after it that table's setting, and re-selecting the
    same table restores its own initiator flags -/
theorem set_then_policy_after_history (nt aa : Alphabet) (tabs : List RawTable)
    (htabs : ∀ t ∈ tabs, t.basic.length = 64 ∧ t.init.length = 64)
    (hatg : 16 * nt.inmapAt 65 + 4 * nt.inmapAt 84 + nt.inmapAt 71 < 64) (ops : List HOp) (g0 : Gencode) (hg : CodeOK g0)
    (id : Int) (g' : Gencode) (hset : setTable tabs id = some g') :
    (hrun nt aa tabs g0 (ops ++ [.set id])).1 = g' ∧
    (hrun nt aa tabs g0 (ops ++ [.set id, .any])).1 = setInitiatorAny aa g' ∧
    (hrun nt aa tabs g0 (ops ++ [.set id, .aug])).1 = setInitiatorOnlyAUG nt g' ∧
    (hrun nt aa tabs g0 (ops ++ [.set id, .aug, .set id])).1 = g' := by
  have key : ∀ ops', (hrun nt aa tabs g0 (ops' ++ [.set id])).1 = g' := fun ops' => by
    rw [set_after_history nt aa tabs htabs hatg ops' g0 hg id, hset]
  refine ⟨key ops, ?_, ?_, ?_⟩
  · rw [List.append_cons ops (HOp.set id) [HOp.any], hrun_append, key ops]; rfl
  · rw [List.append_cons ops (HOp.set id) [HOp.aug], hrun_append, key ops]; rfl
  · exact (List.append_assoc ops [HOp.set id, HOp.aug] [HOp.set id]) ▸ key (ops ++ [HOp.set id, HOp.aug])

end EaselModel.Gencode
