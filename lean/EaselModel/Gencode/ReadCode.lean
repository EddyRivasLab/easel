import EaselModel.Gencode.Model
import EaselModel.Msafile.StrLit
import EaselModel.Core.ListLookup
/-! # C17 — what `esl_gencode_Read` accepts is a genetic-code table: every one of the 64 entries has been assigned by a column
of the file, to an amino acid or the stop code; initiator flags are 0 / 1 (`read_ok_is_code`, over `readColumns_induct` and
`read_some`). After it what the round trip (`ReadWrite.lean`) uses of the line level: `dataLines`, a comment line in front changes
nothing (`read_comment`, `commentLine_of`), `strBytes` on literals. -/
namespace EaselModel.Gencode
open EaselModel.Alphabet

theorem getD_replicate_zero (n c : Nat) : (List.replicate n 0).getD c 0 = 0 := by
  rw [List.getD_eq_getElem?_getD, List.getElem?_replicate]; split <;> rfl

def colCodon (nt : Alphabet) (x1 x2 x3 : Nat) : Nat := 16 * nt.inmapAt x1 + 4 * nt.inmapAt x2 + nt.inmapAt x3

/-- `aa_seen[x]++` for an amino acid, `stop_seen++` for anything else -/
def seenNext (aseen : List Nat) (stops x : Nat) : List Nat × Nat :=
  if x < 20 then (aseen.set x (aseen.getD x 0 + 1), stops) else (aseen, stops + 1)

/-- what `esl_gencode_Read` requires of one column: an amino-acid or stop letter, three canonical bases, a start flag `-mM` -/
def ColOK (nt aa : Alphabet) (a m x1 x2 x3 : Nat) : Prop :=
  (aa.cIsValid a = true ∧ (aa.inmapAt a < aa.K ∨ aa.inmapAt a + 2 = aa.Kp)) ∧
  (nt.cIsValid x1 = true ∧ nt.inmapAt x1 < nt.K) ∧ (nt.cIsValid x2 = true ∧ nt.inmapAt x2 < nt.K) ∧
  (nt.cIsValid x3 = true ∧ nt.inmapAt x3 < nt.K) ∧ (m = 45 ∨ m = 109 ∨ m = 77)

instance (nt aa : Alphabet) (a m x1 x2 x3 : Nat) : Decidable (ColOK nt aa a m x1 x2 x3) := by unfold ColOK; infer_instance

theorem colTests_eq {α : Type} (nt aa : Alphabet) (a m x1 x2 x3 : Nat) (bad body : α) :
    (if (!aa.cIsValid a || !(decide (aa.inmapAt a < aa.K) || decide (aa.inmapAt a + 2 = aa.Kp))) = true then bad
     else if (!nt.cIsValid x1 || !decide (nt.inmapAt x1 < nt.K)) = true then bad
     else if (!nt.cIsValid x2 || !decide (nt.inmapAt x2 < nt.K)) = true then bad
     else if (!nt.cIsValid x3 || !decide (nt.inmapAt x3 < nt.K)) = true then bad
     else if m ≠ 45 ∧ m ≠ 109 ∧ m ≠ 77 then bad else body) =
    if ColOK nt aa a m x1 x2 x3 then body else bad := by
  have neg (A : Bool) (P : Prop) [Decidable P] : (!A || !decide P) = true ↔ ¬ (A = true ∧ P) := by
    cases A <;> simp
  have hm : (m ≠ 45 ∧ m ≠ 109 ∧ m ≠ 77) ↔ ¬ (m = 45 ∨ m = 109 ∨ m = 77) := by omega
  have and_ite (P Q : Prop) [Decidable P] [Decidable Q] (x : α) : (if P then (if Q then x else bad) else bad) = if P ∧ Q then x else bad := by
    by_cases P <;> simp [*]
  simp only [← Bool.decide_or, neg, hm, ColOK, ite_not, and_ite]

theorem readColumns_succ (nt aa : Alphabet) (aas mline b1 b2 b3 : List Nat) (k : Nat) (basic ini cseen aseen : List Nat)
    (stops : Nat) :
    readColumns nt aa aas mline b1 b2 b3 (k+1) basic ini cseen aseen stops =
      let p := 64 - (k+1)
      let cod := colCodon nt (b1.getD p 0) (b2.getD p 0) (b3.getD p 0)
      let x := aa.inmapAt (aas.getD p 0)
      if ColOK nt aa (aas.getD p 0) (mline.getD p 0) (b1.getD p 0) (b2.getD p 0) (b3.getD p 0) then
        readColumns nt aa aas mline b1 b2 b3 k (basic.set cod x) (ini.set cod (if mline.getD p 0 = 45 then 0 else 1))
          (cseen.set cod (cseen.getD cod 0 + 1)) (seenNext aseen stops x).1 (seenNext aseen stops x).2
      else none := by
  simp only [readColumns]
  rw [colTests_eq]
  rfl

/-- an invariant of the five accumulators (it may mention the number `k` of columns still to come) that every accepted column
    keeps holds of what `readColumns` returns; the step is handed the column `p` being read -/
theorem readColumns_induct (nt aa : Alphabet) (aas mline b1 b2 b3 : List Nat)
    (I : Nat → List Nat → List Nat → List Nat → List Nat → Nat → Prop)
    (step : ∀ k basic ini cseen aseen stops,
      let p := 64 - (k+1)
      let cod := colCodon nt (b1.getD p 0) (b2.getD p 0) (b3.getD p 0)
      let x := aa.inmapAt (aas.getD p 0)
      ColOK nt aa (aas.getD p 0) (mline.getD p 0) (b1.getD p 0) (b2.getD p 0) (b3.getD p 0) →
      I (k+1) basic ini cseen aseen stops →
      I k (basic.set cod x) (ini.set cod (if mline.getD p 0 = 45 then 0 else 1)) (cseen.set cod (cseen.getD cod 0 + 1))
        (seenNext aseen stops x).1 (seenNext aseen stops x).2) :
    ∀ (k : Nat) (basic ini cseen aseen : List Nat) (stops : Nat) (r : List Nat × List Nat × List Nat × List Nat × Nat),
      I k basic ini cseen aseen stops → readColumns nt aa aas mline b1 b2 b3 k basic ini cseen aseen stops = some r →
      I 0 r.1 r.2.1 r.2.2.1 r.2.2.2.1 r.2.2.2.2
  | 0, basic, ini, cseen, aseen, stops, r, hI, h => by
    simp only [readColumns, Option.some.injEq] at h; subst h; exact hI
  | k+1, basic, ini, cseen, aseen, stops, r, hI, h => by
    rw [readColumns_succ] at h
    dsimp only at h
    split at h
    · rename_i hok
      exact readColumns_induct nt aa aas mline b1 b2 b3 I step k _ _ _ _ _ r (step k _ _ _ _ _ hok hI) h
    · cases h

theorem readColumns_isSome (nt aa : Alphabet) (aas mline b1 b2 b3 : List Nat)
    (hok : ∀ p, p < 64 → ColOK nt aa (aas.getD p 0) (mline.getD p 0) (b1.getD p 0) (b2.getD p 0) (b3.getD p 0)) :
    ∀ (k : Nat) (basic ini cseen aseen : List Nat) (stops : Nat), k ≤ 64 →
      (readColumns nt aa aas mline b1 b2 b3 k basic ini cseen aseen stops).isSome = true
  | 0, _, _, _, _, _, _ => rfl
  | k+1, basic, ini, cseen, aseen, stops, hk => by
    rw [readColumns_succ]
    dsimp only
    rw [if_pos (hok _ (by omega))]
    exact readColumns_isSome nt aa aas mline b1 b2 b3 hok k _ _ _ _ _ (by omega)

theorem guard_some {α : Type} {c : Prop} [Decidable c] {rest : PUnit → Option α} {g : α}
    (h : (if c then (none : Option PUnit) >>= fun r => rest r else rest PUnit.unit) = some g) :
    ¬ c ∧ rest PUnit.unit = some g := by
  by_cases hc : c
  · rw [if_pos hc] at h; cases h
  · rw [if_neg hc] at h; exact ⟨hc, h⟩

/-- The three tests `esl_gencode_Read` makes after the last column, on what `readColumns` returns, which is
    `(basic, is_initiator, codon_seen, aa_seen, stop_seen)`: a stop was seen, every codon was seen, every amino acid was seen. -/
structure Complete (r : List Nat × List Nat × List Nat × List Nat × Nat) : Prop where
  stop : 0 < r.2.2.2.2
  codons : ∀ c, c < r.2.2.1.length → 0 < r.2.2.1.getD c 0
  aminos : ∀ x, x < r.2.2.2.1.length → 0 < r.2.2.2.1.getD x 0

theorem pos_getD_iff (l : List Nat) : (∀ c, c < l.length → 0 < l.getD c 0) ↔ 0 ∉ l := by
  constructor
  · intro h hm
    obtain ⟨c, hc, e⟩ := List.mem_iff_getElem.mp hm
    have := h c hc
    rw [List.getD_eq_getElem?_getD, List.getElem?_eq_getElem hc, e] at this
    exact Nat.lt_irrefl 0 this
  · intro h c hc
    rw [List.getD_eq_getElem?_getD, List.getElem?_eq_getElem hc]
    exact Nat.pos_of_ne_zero fun e => h (e ▸ List.getElem_mem hc)

theorem read_some (nt aa : Alphabet) (init : Gencode) (buf : List Nat) (g : Gencode) (h : read nt aa init buf = some g) :
    ∃ aas ml b1 b2 b3 r, readColumns nt aa aas ml b1 b2 b3 64 init.basic init.isInit (List.replicate 64 0)
        (List.replicate 20 0) 0 = some r ∧ Complete r ∧
      g = { translTable := -1, desc := "", basic := r.1, isInit := r.2.1 } := by
  -- the tests are peeled off one at a time: unfolding the do-block at once copies the rest of it at each of its twelve tests
  unfold read at h
  obtain ⟨l0, -, h⟩ := Option.bind_eq_some_iff.mp h
  obtain ⟨⟨start, aas⟩, -, h⟩ := Option.bind_eq_some_iff.mp h
  obtain ⟨-, h⟩ := guard_some h
  obtain ⟨l1, -, h⟩ := Option.bind_eq_some_iff.mp h
  obtain ⟨⟨s1, ml⟩, -, h⟩ := Option.bind_eq_some_iff.mp h
  obtain ⟨-, h⟩ := guard_some h
  obtain ⟨-, h⟩ := guard_some h
  obtain ⟨l2, -, h⟩ := Option.bind_eq_some_iff.mp h
  obtain ⟨⟨s2, b1⟩, -, h⟩ := Option.bind_eq_some_iff.mp h
  obtain ⟨-, h⟩ := guard_some h
  obtain ⟨-, h⟩ := guard_some h
  obtain ⟨l3, -, h⟩ := Option.bind_eq_some_iff.mp h
  obtain ⟨⟨s3, b2⟩, -, h⟩ := Option.bind_eq_some_iff.mp h
  obtain ⟨-, h⟩ := guard_some h
  obtain ⟨-, h⟩ := guard_some h
  obtain ⟨l4, -, h⟩ := Option.bind_eq_some_iff.mp h
  obtain ⟨⟨s4, b3⟩, -, h⟩ := Option.bind_eq_some_iff.mp h
  obtain ⟨-, h⟩ := guard_some h
  obtain ⟨-, h⟩ := guard_some h
  obtain ⟨r, hr, h⟩ := Option.bind_eq_some_iff.mp h
  obtain ⟨hs, h⟩ := guard_some h
  obtain ⟨hc, h⟩ := guard_some h
  obtain ⟨ha, h⟩ := guard_some h
  exact ⟨aas, ml, b1, b2, b3, r, hr, ⟨Nat.pos_of_ne_zero hs, (pos_getD_iff _).mpr (by simpa using hc),
    (pos_getD_iff _).mpr (by simpa using ha)⟩, (Option.some.inj h).symm⟩

/-- a codon that some column has assigned holds an amino acid (`< K`) or the stop code (`Kp − 2`), and a 0/1 initiator flag -/
def ColInv (aa : Alphabet) (basic ini cseen : List Nat) : Prop :=
  basic.length = 64 ∧ ini.length = 64 ∧ cseen.length = 64 ∧
  ∀ c, 0 < cseen.getD c 0 → (basic.getD c 99 < aa.K ∨ basic.getD c 99 + 2 = aa.Kp) ∧ ini.getD c 9 ≤ 1

theorem ColInv.set {aa : Alphabet} {basic ini cseen : List Nat} (hi : ColInv aa basic ini cseen) (cod x f : Nat)
    (hx : x < aa.K ∨ x + 2 = aa.Kp) (hf : f ≤ 1) :
    ColInv aa (basic.set cod x) (ini.set cod f) (cseen.set cod (cseen.getD cod 0 + 1)) := by
  obtain ⟨l1, l2, l3, hv⟩ := hi
  refine ⟨by rw [List.length_set, l1], by rw [List.length_set, l2], by rw [List.length_set, l3], fun c hc => ?_⟩
  rw [getD_set, l3] at hc
  rw [getD_set, getD_set, l1, l2]
  by_cases h : cod = c ∧ cod < 64
  · rw [if_pos h, if_pos h]; exact ⟨hx, hf⟩
  · rw [if_neg h] at hc; rw [if_neg h, if_neg h]; exact hv c hc

theorem read_ok_is_code (nt aa : Alphabet) (init : Gencode) (h1 : init.basic.length = 64) (h2 : init.isInit.length = 64)
    (buf : List Nat) (g : Gencode) (h : read nt aa init buf = some g) :
    g.basic.length = 64 ∧ g.isInit.length = 64 ∧ g.translTable = -1 ∧ g.desc = "" ∧
    ∀ c, c < 64 → (g.basic.getD c 99 < aa.K ∨ g.basic.getD c 99 + 2 = aa.Kp) ∧ g.isInit.getD c 9 ≤ 1 := by
  obtain ⟨aas, ml, b1, b2, b3, r, hr, hC, rfl⟩ := read_some nt aa init buf g h
  have hinit : ColInv aa init.basic init.isInit (List.replicate 64 0) :=
    ⟨h1, h2, List.length_replicate, fun c hc => absurd hc (by rw [getD_replicate_zero]; omega)⟩
  obtain ⟨e1, e2, e3, e4⟩ := readColumns_induct nt aa aas ml b1 b2 b3 (fun _ basic ini cseen _ _ => ColInv aa basic ini cseen)
    (fun _ _ _ _ _ _ hok hi => hi.set _ _ _ hok.1.2 (by split <;> omega)) 64 _ _ _ _ _ r hinit hr
  exact ⟨e1, e2, rfl, rfl, fun c hc => e4 c (hC.codons c (by rw [e3]; exact hc))⟩

def dataLines (buf : List Nat) : List (List Nat) :=
  ((splitLines buf []).map fun l => l.takeWhile (· ≠ 0)).filter isDataLine

theorem read_congr (nt aa : Alphabet) (init : Gencode) {buf buf' : List Nat} (h : dataLines buf = dataLines buf') :
    read nt aa init buf = read nt aa init buf' := by
  unfold dataLines at h
  unfold read
  rw [h]

theorem splitLines_line : ∀ (l rest cur : List Nat), (∀ c ∈ l, c ≠ 10) →
    splitLines (l ++ 10 :: rest) cur = (cur.reverse ++ l ++ [10]) :: splitLines rest []
  | [], rest, cur, _ => by simp [splitLines]
  | c :: l, rest, cur, h => by
    have hc : c ≠ 10 := h c (by simp)
    rw [List.cons_append, splitLines, if_neg hc, splitLines_line l rest (c :: cur) (fun x hx => h x (by simp [hx]))]
    simp

theorem dataLines_comment (s rest : List Nat) (h : ∀ c ∈ s, c ≠ 10) : dataLines (35 :: s ++ 10 :: rest) = dataLines rest := by
  unfold dataLines
  rw [splitLines_line (35 :: s) rest [] (by simpa using h)]
  simp [isDataLine, isSpace]

/-- the comment line `esl_gencode_Write` puts in front: `#` first, one newline, at the end -/
def CommentLine : List Nat → Prop
  | 35 :: r => r.getLast? = some 10 ∧ ∀ c ∈ r.dropLast, c ≠ 10
  | _ => False

instance : DecidablePred CommentLine := fun l => by unfold CommentLine; split <;> infer_instance

theorem read_comment (nt aa : Alphabet) (init : Gencode) (cl body : List Nat) (h : CommentLine cl) :
    read nt aa init (cl ++ body) = read nt aa init body := by
  match cl, h with
  | 35 :: r, ⟨hl, hr⟩ =>
    obtain ⟨s, rfl⟩ : ∃ s, r = s ++ [10] := by
      have hne : r ≠ [] := fun e => by rw [e] at hl; cases hl
      rw [List.getLast?_eq_some_getLast hne, Option.some.injEq] at hl
      exact ⟨r.dropLast, by rw [← hl]; exact (List.dropLast_concat_getLast hne).symm⟩
    refine read_congr nt aa init ?_
    rw [List.dropLast_concat] at hr
    simpa [List.append_assoc] using dataLines_comment s body hr

/-- `strBytes` of a string literal without running `toUTF8` (`Msafile.str_ofList`; `strBytes` is `Msafile.str` with the bytes as `Nat`) -/
theorem strBytes_ofList (l : List Char) : strBytes (String.ofList l) = (l.flatMap String.utf8EncodeChar).map (·.toNat) :=
  congrArg (List.map fun x : UInt8 => x.toNat) (Msafile.str_ofList l)

theorem strBytes_append (a b : String) : strBytes (a ++ b) = strBytes a ++ strBytes b := by
  unfold strBytes
  rw [← List.map_append]
  congr 1
  simp only [String.toUTF8, ByteArray.toList, Msafile.toList_loop_eq, List.reverse_nil, List.nil_append, List.drop_zero]
  simp

/-- what `esl_gencode_Write` puts in front is a comment line as long as neither the number nor the description holds a newline -/
theorem commentLine_of (id : Int) (desc : String) (hi : 10 ∉ strBytes (toString id)) (hd : 10 ∉ strBytes desc) :
    CommentLine (strBytes s!"# {id} {desc}\n") := by
  show CommentLine (strBytes ("# " ++ toString id ++ " " ++ desc ++ "\n"))
  rw [strBytes_append, strBytes_append, strBytes_append, strBytes_append, strBytes_ofList, strBytes_ofList, strBytes_ofList]
  show CommentLine (35 :: ((32 :: strBytes (toString id) ++ [32] ++ strBytes desc) ++ [10]))
  refine ⟨List.getLast?_concat .., fun c hc e => ?_⟩
  rw [List.dropLast_concat, e] at hc
  simp only [List.cons_append, List.mem_cons, List.mem_append, List.not_mem_nil, or_false] at hc
  rcases hc with h | (h | h) | h
  · cases h
  · exact hi h
  · cases h
  · exact hd h

end EaselModel.Gencode
