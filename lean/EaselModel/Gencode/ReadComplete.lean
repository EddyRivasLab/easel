import EaselModel.Gencode.ReadCode
/-! # C17 — a table `esl_gencode_Read` accepts encodes all 20 amino acids and has a stop codon

The C code counts, per COLUMN of the file, which amino acids / stops and which codons it has seen, and accepts when every
codon and every amino acid has been seen and a stop has been seen. A later column could overwrite an earlier one (same codon
twice) — but then, with 64 columns for 64 codons, some codon would not be seen at all (pigeonhole). Hence every codon is
assigned exactly once and what the columns announced is what the table holds. -/
namespace EaselModel.Gencode
open EaselModel.Alphabet

theorem sum_set_succ : ∀ (l : List Nat) (i : Nat), i < l.length → (l.set i (l.getD i 0 + 1)).sum = l.sum + 1
  | [], i, h => by simp at h
  | x :: l, 0, _ => by simp [List.getD]; omega
  | x :: l, i+1, h => by
    have := sum_set_succ l i (by simpa using h)
    simp only [List.set_cons_succ, List.sum_cons, List.getD_cons_succ, this]; omega

theorem all_one_of_sum : ∀ (l : List Nat), (∀ x ∈ l, 1 ≤ x) → l.sum = l.length → ∀ x ∈ l, x = 1
  | [], _, _ => by intro x hx; cases hx
  | a :: l, h, hs => by
    have ha := h a (by simp)
    have hl : ∀ x ∈ l, 1 ≤ x := fun x hx => h x (by simp [hx])
    have hge : l.length ≤ l.sum := by
      clear hs h ha
      induction l with
      | nil => simp
      | cons b t ih =>
        have := hl b (by simp)
        have := ih (fun x hx => hl x (by simp [hx]))
        simp only [List.length_cons, List.sum_cons]; omega
    simp only [List.sum_cons, List.length_cons] at hs
    have ha1 : a = 1 := by omega
    have hs' : l.sum = l.length := by omega
    intro x hx
    rcases List.mem_cons.mp hx with rfl | hx
    · exact ha1
    · exact all_one_of_sum l hl hs' x hx

/-- some codon that a column assigned holds a value with property `P` — unless some codon has been assigned twice -/
def Wit (basic cseen : List Nat) (P : Nat → Prop) : Prop :=
  ∃ c, c < 64 ∧ ((0 < cseen.getD c 0 ∧ P (basic.getD c 99)) ∨ 2 ≤ cseen.getD c 0)

theorem wit_step {basic cseen : List Nat} {P : Nat → Prop} (l1 : basic.length = 64) (l3 : cseen.length = 64) (cod x : Nat)
    (hW : Wit basic cseen P) : Wit (basic.set cod x) (cseen.set cod (cseen.getD cod 0 + 1)) P := by
  obtain ⟨c, hc, hcase⟩ := hW
  refine ⟨c, hc, ?_⟩
  rw [getD_set, getD_set]
  by_cases hcc : cod = c
  · subst hcc
    simp only [l1, l3, hc, and_self, ↓reduceIte]
    right
    rcases hcase with ⟨p, _⟩ | p <;> omega
  · simp only [hcc, false_and, ↓reduceIte]
    exact hcase

theorem wit_new {basic cseen : List Nat} {P : Nat → Prop} (l1 : basic.length = 64) (l3 : cseen.length = 64) (cod x : Nat)
    (hc : cod < 64) (hP : P x) : Wit (basic.set cod x) (cseen.set cod (cseen.getD cod 0 + 1)) P := by
  refine ⟨cod, hc, Or.inl ⟨?_, ?_⟩⟩
  · rw [getD_set]; simp only [l3, hc, and_self, ↓reduceIte]; omega
  · rw [getD_set]; simp only [l1, hc, and_self, ↓reduceIte]; exact hP

/-- what the column counters promise about the table: a value announced by some column (`aseen[x] > 0`, resp. `stops > 0`) is
    held by a codon that a column assigned — unless some codon has been assigned twice -/
def Announced (aa : Alphabet) (basic cseen aseen : List Nat) (stops : Nat) : Prop :=
  (∀ x, x < 20 → 0 < aseen.getD x 0 → Wit basic cseen (fun v => v = x)) ∧
  (0 < stops → Wit basic cseen (fun v => v + 2 = aa.Kp))

theorem Announced.set {aa : Alphabet} {basic cseen aseen : List Nat} {stops : Nat} (hA : Announced aa basic cseen aseen stops)
    (l1 : basic.length = 64) (l3 : cseen.length = 64) (hKa : aa.K = 20) (cod x : Nat) (hc : cod < 64)
    (hx : x < aa.K ∨ x + 2 = aa.Kp) :
    Announced aa (basic.set cod x) (cseen.set cod (cseen.getD cod 0 + 1)) (seenNext aseen stops x).1 (seenNext aseen stops x).2 := by
  obtain ⟨hA1, hA2⟩ := hA
  unfold seenNext
  by_cases hx20 : x < 20
  · rw [if_pos hx20]
    refine ⟨fun y hy hay => ?_, fun hst => wit_step l1 l3 cod x (hA2 hst)⟩
    by_cases hyx : y = x
    · subst hyx; exact wit_new l1 l3 cod y hc rfl
    · rw [getD_set, if_neg (fun hh => hyx hh.1.symm)] at hay
      exact wit_step l1 l3 cod x (hA1 y hy hay)
  · rw [if_neg hx20]
    have hxs : x + 2 = aa.Kp := hx.resolve_left (by rw [hKa]; exact hx20)
    exact ⟨fun y hy hay => wit_step l1 l3 cod x (hA1 y hy hay), fun _ => wit_new l1 l3 cod x hc hxs⟩

theorem readColumns_announced (nt aa : Alphabet) (hK : nt.K = 4) (hKa : aa.K = 20) (aas mline b1 b2 b3 : List Nat)
    (k : Nat) (basic ini cseen aseen : List Nat) (stops : Nat) (r : List Nat × List Nat × List Nat × List Nat × Nat)
    (l1 : basic.length = 64) (l3 : cseen.length = 64) (l4 : aseen.length = 20) (hA : Announced aa basic cseen aseen stops)
    (h : readColumns nt aa aas mline b1 b2 b3 k basic ini cseen aseen stops = some r) :
    Announced aa r.1 r.2.2.1 r.2.2.2.1 r.2.2.2.2 ∧ r.2.2.1.sum = cseen.sum + k ∧ r.2.2.1.length = 64 ∧ r.2.2.2.1.length = 20 := by
  -- the invariant: the lengths, `Announced`, and one more codon counted per column read
  obtain ⟨e1, e3, e4, eA, es⟩ := readColumns_induct nt aa aas mline b1 b2 b3
    (fun j b _ c a s => b.length = 64 ∧ c.length = 64 ∧ a.length = 20 ∧ Announced aa b c a s ∧ c.sum + j = cseen.sum + k)
    (fun j b i c as s hok ⟨m1, m3, m4, mA, ms⟩ => by
      have hc : colCodon nt (b1.getD (64 - (j+1)) 0) (b2.getD (64 - (j+1)) 0) (b3.getD (64 - (j+1)) 0) < 64 := by
        have q1 := hok.2.1.2; have q2 := hok.2.2.1.2; have q3 := hok.2.2.2.1.2
        unfold colCodon; omega
      refine ⟨by rw [List.length_set, m1], by rw [List.length_set, m3], ?_, mA.set m1 m3 hKa _ _ hc hok.1.2, ?_⟩
      · unfold seenNext; split <;> simp only [List.length_set, m4]
      · rw [sum_set_succ c _ (by omega)]; omega)
    k basic ini cseen aseen stops r ⟨l1, l3, l4, hA, rfl⟩ h
  exact ⟨eA, by omega, e3, e4⟩

theorem read_ok_is_complete (nt aa : Alphabet) (hK : nt.K = 4) (hKa : aa.K = 20) (init : Gencode)
    (h1 : init.basic.length = 64) (buf : List Nat) (g : Gencode) (h : read nt aa init buf = some g) :
    (∀ x, x < 20 → ∃ c, c < 64 ∧ g.basic.getD c 99 = x) ∧ (∃ c, c < 64 ∧ g.basic.getD c 99 + 2 = aa.Kp) := by
  obtain ⟨aas, ml, b1, b2, b3, ⟨a, a1, a2, a3, b⟩, hrc, ⟨hb, hz, hz3⟩, rfl⟩ := read_some nt aa init buf g h
  have hinit : Announced aa init.basic (List.replicate 64 0) (List.replicate 20 0) 0 :=
    ⟨fun x _ hx => absurd hx (by rw [getD_replicate_zero]; omega), fun hs => absurd hs (by omega)⟩
  obtain ⟨⟨eA1, eA2⟩, e2, e3, e4⟩ := readColumns_announced nt aa hK hKa aas ml b1 b2 b3 64 _ _ _ _ _ _ h1
    List.length_replicate List.length_replicate hinit hrc
  -- every codon was assigned exactly once
  have hge : ∀ x ∈ a2, 1 ≤ x := fun x hx => Nat.pos_of_ne_zero fun e => (pos_getD_iff a2).mp hz (e ▸ hx)
  have hsum : a2.sum = a2.length := by rw [e2, e3]; decide
  have hone := all_one_of_sum a2 hge hsum
  have hnot2 : ∀ c, ¬ 2 ≤ a2.getD c 0 := by
    intro c h2
    rw [List.getD_eq_getElem?_getD] at h2
    cases hc : a2[c]? with
    | none => rw [hc] at h2; simp at h2
    | some v =>
      rw [hc] at h2
      have := hone v (List.mem_of_getElem? hc)
      simp only [Option.getD_some] at h2; omega
  constructor
  · intro x hx
    obtain ⟨c, hc, hcase⟩ := eA1 x hx (hz3 x (by rw [e4]; exact hx))
    rcases hcase with ⟨_, p⟩ | p
    · exact ⟨c, hc, p⟩
    · exact absurd p (hnot2 c)
  · obtain ⟨c, hc, hcase⟩ := eA2 hb
    rcases hcase with ⟨_, p⟩ | p
    · exact ⟨c, hc, p⟩
    · exact absurd p (hnot2 c)

end EaselModel.Gencode
