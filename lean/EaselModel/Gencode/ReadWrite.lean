import EaselModel.Gencode.ReadCode
import EaselModel.Gencode.WriteTotal
import EaselModel.Gencode.NcbiTables
import EaselModel.Gencode.Spec
/-! # C17 — `esl_gencode_Read` reads back what `esl_gencode_Write` wrote, for every complete genetic code -/
namespace EaselModel.Gencode
open EaselModel.Alphabet

/-- the converse of `read_some`. `s` is the column in which a line's token starts (`matchLine`'s first component):
    `esl_gencode_Read` wants the five lines to agree on it. `kwBase 49`, `50`, `51` are the patterns of the `Base1`, `Base2`,
    `Base3` lines (49 = `'1'`). -/
theorem read_of_lines (nt aa : Alphabet) (init : Gencode) (buf l0 l1 l2 l3 l4 : List Nat) (rest : List (List Nat)) (s : Nat)
    (aas ml b1 b2 b3 : List Nat) (r : List Nat × List Nat × List Nat × List Nat × Nat)
    (hl : dataLines buf = l0 :: l1 :: l2 :: l3 :: l4 :: rest)
    (m0 : matchLine kwAAs l0 = some (s, aas)) (m1 : matchLine kwStarts l1 = some (s, ml))
    (m2 : matchLine (kwBase 49) l2 = some (s, b1)) (m3 : matchLine (kwBase 50) l3 = some (s, b2))
    (m4 : matchLine (kwBase 51) l4 = some (s, b3))
    (n0 : aas.length = 64) (n1 : ml.length = 64) (n2 : b1.length = 64) (n3 : b2.length = 64) (n4 : b3.length = 64)
    (hr : readColumns nt aa aas ml b1 b2 b3 64 init.basic init.isInit (List.replicate 64 0) (List.replicate 20 0) 0 = some r)
    (hC : Complete r) :
    read nt aa init buf = some { translTable := -1, desc := "", basic := r.1, isInit := r.2.1 } := by
  unfold dataLines at hl
  have hs := Nat.ne_of_gt hC.stop
  have hc' := (pos_getD_iff _).mp hC.codons
  have ha' := (pos_getD_iff _).mp hC.aminos
  unfold read
  rw [hl]
  generalize List.replicate 64 0 = z64 at hr ⊢
  generalize List.replicate 20 0 = z20 at hr ⊢
  simp [m0, m1, m2, m3, m4, n0, n1, n2, n3, n4, hr, hs, hc', ha']

theorem dataLines_line (l rest : List Nat) (h10 : ∀ c ∈ l, c ≠ 10) (h0 : ∀ c ∈ l, c ≠ 0) (hd : isDataLine (l ++ [10]) = true) :
    dataLines (l ++ 10 :: rest) = (l ++ [10]) :: dataLines rest := by
  have ht : (l ++ [10]).takeWhile (· ≠ 0) = l ++ [10] := by
    rw [← List.append_nil (l ++ [10]), List.takeWhile_append_of_pos, List.takeWhile_nil, List.append_nil]
    intro a ha
    rcases List.mem_append.mp ha with h | h
    · simpa using h0 a h
    · simp at h; simp [h]
  unfold dataLines
  rw [splitLines_line l rest [] h10, List.reverse_nil, List.nil_append, List.map_cons, ht, List.filter_cons_of_pos hd]

/-- a 64-byte token as `esl_gencode_Write` prints it: no blank, no NUL -/
def Token (tok : List Nat) : Prop := tok.length = 64 ∧ ∀ c ∈ tok, isReSpace c = false ∧ c ≠ 0

theorem strBytes_AAs : strBytes "    AAs  = " = [32, 32, 32, 32, 65, 65, 115, 32, 32, 61, 32] := by decide +kernel
theorem strBytes_Starts : strBytes "  Starts = " = [32, 32, 83, 116, 97, 114, 116, 115, 32, 61, 32] := by decide +kernel

/-- one statement for the two lines whose token varies (the three `Base` lines are closed terms: `baseLines_read`); the
    cases differ only in the keyword letters `simp` compares. 11 is the length of the prefix, i.e. the token's column. -/
theorem matchLine_written (kw : List (List Nat)) (pre tok : List Nat) (h : Token tok)
    (hk : (kw, pre) = (kwAAs, strBytes "    AAs  = ") ∨ (kw, pre) = (kwStarts, strBytes "  Starts = ")) :
    matchLine kw (pre ++ tok ++ [10]) = some (11, tok) := by
  obtain ⟨t, ts, rfl⟩ : ∃ t ts, tok = t :: ts := by
    cases tok with
    | nil => cases h.1
    | cons t ts => exact ⟨t, ts, rfl⟩
  have ht := (h.2 t (by simp)).1
  have htok : (ts ++ [10]).takeWhile (fun c => !isReSpace c) = ts := by
    rw [List.takeWhile_append_of_pos (fun x hx => by rw [(h.2 x (by simp [hx])).1]; rfl)]; simp [isReSpace]
  have s32 : isReSpace 32 = true := rfl
  have s10 : isReSpace 10 = true := rfl
  have s65 : isReSpace 65 = false := rfl
  have s83 : isReSpace 83 = false := rfl
  have s61 : isReSpace 61 = false := rfl
  rcases hk with hk | hk <;> cases hk
  · simp [strBytes_AAs, matchLine, matchLine.kwGo, kwAAs, s32, s65, s61, s10, ht, htok]
  · simp [strBytes_Starts, matchLine, matchLine.kwGo, kwStarts, s32, s83, s61, s10, ht, htok]

theorem Token.append {pre tok : List Nat} (h : Token tok) (hp : ∀ c ∈ pre, c ≠ 10 ∧ c ≠ 0) :
    (∀ c ∈ pre ++ tok, c ≠ 10) ∧ ∀ c ∈ pre ++ tok, c ≠ 0 := by
  have ht : ∀ c ∈ tok, c ≠ 10 ∧ c ≠ 0 := fun c hc =>
    ⟨fun e => by have h10 := (h.2 c hc).1; rw [e] at h10; exact Bool.noConfusion h10, (h.2 c hc).2⟩
  constructor <;> intro c hc <;> rcases List.mem_append.mp hc with q | q
  · exact (hp c q).1
  · exact (ht c q).1
  · exact (hp c q).2
  · exact (ht c q).2

theorem baseLines_read :
    dataLines baseLines = [strBytes "  Base1  = " ++ baseTok 0 ++ [10], strBytes "  Base2  = " ++ baseTok 1 ++ [10],
      strBytes "  Base3  = " ++ baseTok 2 ++ [10]] ∧
    matchLine (kwBase 49) (strBytes "  Base1  = " ++ baseTok 0 ++ [10]) = some (11, baseTok 0) ∧
    matchLine (kwBase 50) (strBytes "  Base2  = " ++ baseTok 1 ++ [10]) = some (11, baseTok 1) ∧
    matchLine (kwBase 51) (strBytes "  Base3  = " ++ baseTok 2 ++ [10]) = some (11, baseTok 2) := by decide +kernel

theorem read_written (nt aa : Alphabet) (init : Gencode) (comment aas starts : List Nat)
    (hc : comment = [] ∨ CommentLine comment) (ha : Token aas) (hs : Token starts)
    (r : List Nat × List Nat × List Nat × List Nat × Nat)
    (hr : readColumns nt aa aas starts (baseTok 0) (baseTok 1) (baseTok 2) 64 init.basic init.isInit (List.replicate 64 0)
      (List.replicate 20 0) 0 = some r)
    (hC : Complete r) :
    read nt aa init (written comment aas starts) = some { translTable := -1, desc := "", basic := r.1, isInit := r.2.1 } := by
  obtain ⟨bl, b1, b2, b3⟩ := baseLines_read
  obtain ⟨a10, a0⟩ := ha.append (pre := strBytes "    AAs  = ") (by rw [strBytes_AAs]; decide)
  obtain ⟨s10, s0⟩ := hs.append (pre := strBytes "  Starts = ") (by rw [strBytes_Starts]; decide)
  have key : read nt aa init (written [] aas starts) =
      some { translTable := -1, desc := "", basic := r.1, isInit := r.2.1 } := by
    refine read_of_lines nt aa init _ _ _ _ _ _ [] 11 aas starts _ _ _ r ?_ (matchLine_written _ _ _ ha (Or.inl rfl))
      (matchLine_written _ _ _ hs (Or.inr rfl)) b1 b2 b3 ha.1 hs.1 (by simp [baseTok]) (by simp [baseTok])
      (by simp [baseTok]) hr hC
    rw [written, List.nil_append, dataLines_line _ _ a10 a0 (by rw [strBytes_AAs]; rfl),
      dataLines_line _ _ s10 s0 (by rw [strBytes_Starts]; rfl), bl]
  rcases hc with rfl | hc
  · exact key
  · rw [written, read_comment nt aa init comment _ hc]
    exact key

theorem getD_set_succ (l : List Nat) (i j : Nat) : l.getD j 0 ≤ (l.set i (l.getD i 0 + 1)).getD j 0 := by
  rw [getD_set]
  split
  · rename_i h; rw [← h.1]; omega
  · exact Nat.le_refl _

theorem getD_set_succ_self (l : List Nat) (i : Nat) (h : i < l.length) : 0 < (l.set i (l.getD i 0 + 1)).getD i 0 := by
  rw [getD_set, if_pos ⟨rfl, h⟩]; omega

/-- the accumulators of `readColumns` while it reads a text whose column `p` announces codon `cc p` with amino acid `v (cc p)`
    and flag `f (cc p)`, `k` columns still to come: a codon that has been counted holds its entry of the code, and the
    columns read so far have been counted -/
def RoundInv (cc v f : Nat → Nat) (k : Nat) (basic ini cseen aseen : List Nat) (stops : Nat) : Prop :=
  k ≤ 64 ∧ basic.length = 64 ∧ ini.length = 64 ∧ cseen.length = 64 ∧ aseen.length = 20 ∧
  (∀ c, 0 < cseen.getD c 0 → basic.getD c 0 = v c ∧ ini.getD c 0 = f c) ∧
  ∀ p, p < 64 - k → 0 < cseen.getD (cc p) 0 ∧ (v (cc p) < 20 → 0 < aseen.getD (v (cc p)) 0) ∧ (¬ v (cc p) < 20 → 0 < stops)

theorem RoundInv.step {cc v f : Nat → Nat} {k : Nat} {basic ini cseen aseen : List Nat} {stops : Nat}
    (h : RoundInv cc v f (k+1) basic ini cseen aseen stops) (hc : cc (64 - (k+1)) < 64) :
    RoundInv cc v f k (basic.set (cc (64 - (k+1))) (v (cc (64 - (k+1))))) (ini.set (cc (64 - (k+1))) (f (cc (64 - (k+1)))))
      (cseen.set (cc (64 - (k+1))) (cseen.getD (cc (64 - (k+1))) 0 + 1))
      (seenNext aseen stops (v (cc (64 - (k+1))))).1 (seenNext aseen stops (v (cc (64 - (k+1))))).2 := by
  obtain ⟨hk, l1, l2, l3, l4, hJ, hP⟩ := h
  generalize hc0 : cc (64 - (k+1)) = c0 at hc ⊢
  refine ⟨by omega, by rw [List.length_set, l1], by rw [List.length_set, l2], by rw [List.length_set, l3],
    by unfold seenNext; split <;> simp only [List.length_set, l4], fun c hpos => ?_, fun p hp => ?_⟩
  · rw [getD_set, l3] at hpos
    rw [getD_set, getD_set, l1, l2]
    by_cases e : c0 = c ∧ c0 < 64
    · rw [if_pos e, if_pos e, e.1]; exact ⟨rfl, rfl⟩
    · rw [if_neg e] at hpos; rw [if_neg e, if_neg e]; exact hJ c hpos
  · have hcase : p < 64 - (k+1) ∨ p = 64 - (k+1) := by omega
    rcases hcase with hlt | rfl
    · obtain ⟨q1, q2, q3⟩ := hP p hlt
      refine ⟨Nat.lt_of_lt_of_le q1 (getD_set_succ _ _ _), fun hv => ?_, fun hv => ?_⟩
      · unfold seenNext; split
        · exact Nat.lt_of_lt_of_le (q2 hv) (getD_set_succ _ _ _)
        · exact q2 hv
      · unfold seenNext; split
        · exact q3 hv
        · exact Nat.succ_pos _
    · rw [hc0]
      refine ⟨getD_set_succ_self _ _ (by omega), fun hv => ?_, fun hv => ?_⟩
      · unfold seenNext; rw [if_pos hv]; exact getD_set_succ_self _ _ (by omega)
      · unfold seenNext; rw [if_neg hv]; exact Nat.succ_pos _

/-- what the round trip needs of the two alphabets: T, C, A, G digitize to 3, 1, 0, 2; every amino-acid code and the stop
    code `Kp − 2` is printed as an ASCII symbol that is no blank and digitizes back -/
def NcbiAlphabets (nt aa : Alphabet) : Prop :=
  nt.K = 4 ∧ 4 ≤ nt.Kp ∧ nt.inmapAt 84 = 3 ∧ nt.inmapAt 67 = 1 ∧ nt.inmapAt 65 = 0 ∧ nt.inmapAt 71 = 2 ∧
  aa.K = 20 ∧ 20 ≤ aa.Kp ∧ ∀ b, b < aa.Kp → b < 20 ∨ b + 2 = aa.Kp →
    b < aa.sym.length ∧ aa.sym.getD b 0 < 128 ∧ aa.inmapAt (aa.sym.getD b 0) = b ∧
      isReSpace (aa.sym.getD b 0) = false ∧ aa.sym.getD b 0 ≠ 0

instance (nt aa : Alphabet) : Decidable (NcbiAlphabets nt aa) := by unfold NcbiAlphabets; infer_instance

/-- a complete genetic code: 64 + 64 entries, amino acids and stops only, every amino acid and a stop occur, flags 0 / 1 -/
def CompleteCode (aa : Alphabet) (g : Gencode) : Prop :=
  CodeOK g ∧ (∀ b ∈ g.basic, b < 20 ∨ b + 2 = aa.Kp) ∧ (∀ x, x < 20 → x ∈ g.basic) ∧ (∃ b ∈ g.basic, ¬ b < 20) ∧
    ∀ f ∈ g.isInit, f ≤ 1

instance (aa : Alphabet) (g : Gencode) : Decidable (CompleteCode aa g) := by unfold CompleteCode; infer_instance

theorem codonColumn_lt : ∀ c, c < 64 → Ncbi.codonColumn c < 64 := by decide

/-- `order` is `"TCAG"` as bytes, the order in which `esl_gencode_Write` runs over the bases of the three codon positions -/
theorem NcbiAlphabets.codons {nt aa : Alphabet} (h : NcbiAlphabets nt aa) :
    (∀ i, i < 4 → nt.inmapAt (order.getD i 0) = Ncbi.tcag.getD i 0 ∧ nt.cIsValid (order.getD i 0) = true) ∧
    (∀ p, p < 64 → ncbiCodon nt p < 64) ∧ ∀ c, c < 64 → ∃ p, p < 64 ∧ ncbiCodon nt p = c := by
  obtain ⟨-, hKp, h84, h67, h65, h71, -⟩ := h
  have hord : ∀ i, i < 4 → nt.inmapAt (order.getD i 0) = Ncbi.tcag.getD i 0 ∧ nt.cIsValid (order.getD i 0) = true := by
    intro i hi
    have hv (ch x : Nat) (h128 : ch < 128) (e : nt.inmapAt ch = x) (hx : x < 4) : nt.cIsValid ch = true := by
      simp only [Alphabet.cIsValid, e, Bool.and_eq_true, decide_eq_true_eq]; omega
    match i, hi with
    | 0, _ => exact ⟨h84, hv 84 3 (by omega) h84 (by omega)⟩
    | 1, _ => exact ⟨h67, hv 67 1 (by omega) h67 (by omega)⟩
    | 2, _ => exact ⟨h65, hv 65 0 (by omega) h65 (by omega)⟩
    | 3, _ => exact ⟨h71, hv 71 2 (by omega) h71 (by omega)⟩
  have hcc : ∀ p, p < 64 → ncbiCodon nt p = Ncbi.columnCodon p := fun p hp => by
    unfold ncbiCodon Ncbi.columnCodon
    rw [(hord _ (by omega)).1, (hord _ (by omega)).1, (hord _ (by omega)).1]
  have t : ∀ i, i < 4 → Ncbi.tcag.getD i 0 < 4 := by decide
  refine ⟨hord, fun p hp => ?_, fun c hc => ⟨Ncbi.codonColumn c, codonColumn_lt c hc, by
    rw [hcc _ (codonColumn_lt c hc), Ncbi.columnCodon_codonColumn c hc]⟩⟩
  have := t _ (show p / 16 < 4 by omega); have := t _ (show p % 16 / 4 < 4 by omega); have := t _ (show p % 4 < 4 by omega)
  rw [hcc p hp]; unfold Ncbi.columnCodon; omega

/-- in the `Starts` line `-` (45) marks a codon that is no initiator, `M` (77) one that is -/
theorem written_column {nt aa : Alphabet} (h : NcbiAlphabets nt aa) {g : Gencode} (hg : CompleteCode aa g) (p : Nat)
    (hp : p < 64) :
    colCodon nt ((baseTok 0).getD p 0) ((baseTok 1).getD p 0) ((baseTok 2).getD p 0) = ncbiCodon nt p ∧
    aa.inmapAt ((aasTok nt aa g).getD p 0) = g.basic.getD (ncbiCodon nt p) 0 ∧
    (if (startsTok nt g).getD p 0 = 45 then 0 else 1) = g.isInit.getD (ncbiCodon nt p) 0 ∧
    ColOK nt aa ((aasTok nt aa g).getD p 0) ((startsTok nt g).getD p 0) ((baseTok 0).getD p 0) ((baseTok 1).getD p 0)
      ((baseTok 2).getD p 0) := by
  obtain ⟨hord, hlt, -⟩ := h.codons
  obtain ⟨hK, -, -, -, -, -, hKa, hKpa, hsym⟩ := h
  obtain ⟨⟨lb, li⟩, hgb, -, -, hgi⟩ := hg
  have hb := hgb _ (getD_mem_of_lt (d := 0) (show ncbiCodon nt p < g.basic.length by have := hlt p hp; omega))
  have hbK : g.basic.getD (ncbiCodon nt p) 0 < aa.Kp := by omega
  obtain ⟨-, s128, sinv, -, -⟩ := hsym _ hbK hb
  have hf : g.isInit.getD (ncbiCodon nt p) 0 ≤ 1 := hgi _ (getD_mem_of_lt (by have := hlt p hp; omega))
  have o1 := hord (p / 16) (by omega); have o2 := hord (p % 16 / 4) (by omega); have o3 := hord (p % 4) (by omega)
  have t : ∀ i, i < 4 → Ncbi.tcag.getD i 0 < 4 := by decide
  unfold baseTok aasTok startsTok
  rw [getD_map_range _ _ _ _ hp, getD_map_range _ _ _ _ hp, getD_map_range _ _ _ _ hp, getD_map_range _ _ _ _ hp,
    getD_map_range _ _ _ _ hp]
  simp only [List.getD_cons_zero, List.getD_cons_succ]
  refine ⟨rfl, sinv, ?_, ⟨?_, ?_⟩, ⟨o1.2, ?_⟩, ⟨o2.2, ?_⟩, ⟨o3.2, ?_⟩, ?_⟩
  · split <;> split <;> omega
  · simp only [Alphabet.cIsValid, sinv, Bool.and_eq_true, decide_eq_true_eq]; exact ⟨s128, hbK⟩
  · rw [sinv, hKa]; exact hb
  · rw [o1.1, hK]; exact t _ (by omega)
  · rw [o2.1, hK]; exact t _ (by omega)
  · rw [o3.1, hK]; exact t _ (by omega)
  · split <;> simp

theorem readColumns_written (nt aa : Alphabet) (h : NcbiAlphabets nt aa) (g1 g : Gencode) (hg1 : CodeOK g1)
    (hg : CompleteCode aa g) :
    ∃ r, readColumns nt aa (aasTok nt aa g) (startsTok nt g) (baseTok 0) (baseTok 1) (baseTok 2) 64 g1.basic g1.isInit
        (List.replicate 64 0) (List.replicate 20 0) 0 = some r ∧
      r.1 = g.basic ∧ r.2.1 = g.isInit ∧ Complete r := by
  obtain ⟨-, hlt, hsurj⟩ := h.codons
  have hcol := written_column h hg
  obtain ⟨⟨lb, li⟩, -, hall, ⟨bs, hbs, hstop⟩, -⟩ := hg
  obtain ⟨r, hr⟩ := Option.isSome_iff_exists.mp (readColumns_isSome nt aa _ _ _ _ _ (fun p hp => (hcol p hp).2.2.2) 64
    g1.basic g1.isInit (List.replicate 64 0) (List.replicate 20 0) 0 (Nat.le_refl _))
  obtain ⟨-, l1, l2, l3, l4, hJ, hP⟩ := readColumns_induct nt aa _ _ _ _ _
    (RoundInv (ncbiCodon nt) (fun c => g.basic.getD c 0) (fun c => g.isInit.getD c 0))
    (fun k basic ini cseen aseen stops _ hI => by
      have hk : 64 - (k+1) < 64 := by have := hI.1; omega
      obtain ⟨e1, e2, e3, -⟩ := hcol _ hk
      rw [e1, e2, e3]
      exact hI.step (hlt _ hk))
    64 _ _ _ _ _ r
    ⟨Nat.le_refl _, hg1.1, hg1.2, List.length_replicate, List.length_replicate,
      fun c hc => absurd hc (by rw [getD_replicate_zero]; omega), fun p hp => absurd hp (by omega)⟩ hr
  dsimp only at hJ hP
  -- every codon has been counted, hence holds its entry
  have hpos : ∀ c, c < 64 → 0 < r.2.2.1.getD c 0 := fun c hc => by
    obtain ⟨p, hp, rfl⟩ := hsurj c hc; exact (hP p (by omega)).1
  have hext : ∀ (a b : List Nat), a.length = 64 → b.length = 64 → (∀ c, c < 64 → a.getD c 0 = b.getD c 0) → a = b :=
    fun a b ha hb hab => List.ext_getElem (by rw [ha, hb]) fun c h1 h2 => by
      have := hab c (by omega)
      rwa [List.getD_eq_getElem?_getD, List.getD_eq_getElem?_getD, List.getElem?_eq_getElem h1,
        List.getElem?_eq_getElem h2] at this
  refine ⟨r, hr, hext _ _ l1 lb fun c hc => (hJ c (hpos c hc)).1, hext _ _ l2 li fun c hc => (hJ c (hpos c hc)).2,
    ?_, fun c hc => hpos c (by omega), fun i hi => ?_⟩
  · obtain ⟨c, hc, rfl⟩ := List.mem_iff_getElem.mp hbs
    obtain ⟨p, hp, e⟩ := hsurj c (by omega)
    exact (hP p (by omega)).2.2 (by rw [e, List.getD_eq_getElem?_getD, List.getElem?_eq_getElem hc]; exact hstop)
  · obtain ⟨c, hc, e⟩ := List.mem_iff_getElem.mp (hall i (by omega))
    obtain ⟨p, hp, ep⟩ := hsurj c (by omega)
    have hval : g.basic.getD (ncbiCodon nt p) 0 = i := by
      rw [ep, List.getD_eq_getElem?_getD, List.getElem?_eq_getElem hc]; exact e
    have := (hP p (by omega)).2.1 (by rw [hval]; omega)
    rwa [hval] at this

/-- **`esl_gencode_Read` READS BACK WHAT `esl_gencode_Write` WROTE**, for every complete genetic code `g` over alphabets that
    digitize and print as the NCBI format needs, with or without the comment line (which must be one line), and whatever
    the new object was initialised with: same 64 amino acids / stops, same 64 initiator flags; id −1 and no description -/
theorem read_write (nt aa : Alphabet) (h : NcbiAlphabets nt aa) (g1 g : Gencode) (hg1 : CodeOK g1) (hg : CompleteCode aa g)
    (cm : Bool) (hcm : cm = true → g.translTable > 0 → CommentLine (strBytes s!"# {g.translTable} {g.desc}\n")) :
    (write nt aa g cm).bind (read nt aa g1) =
      some { translTable := -1, desc := "", basic := g.basic, isInit := g.isInit } := by
  obtain ⟨r, hr, e1, e2, hC⟩ := readColumns_written nt aa h g1 g hg1 hg
  obtain ⟨-, -, h84, h67, h65, h71, -, hKpa, hsym⟩ := h
  have hn : ∀ c ∈ order, nt.inmapAt c < 4 := by
    intro c hc
    simp only [order, List.mem_cons, List.not_mem_nil, or_false] at hc
    rcases hc with rfl | rfl | rfl | rfl <;> omega
  have hb : ∀ b ∈ g.basic, b < aa.Kp ∧ (b < 20 ∨ b + 2 = aa.Kp) := fun b hb => ⟨by have := hg.2.1 b hb; omega, hg.2.1 b hb⟩
  rw [write_eq nt aa g cm hg.1.1 hg.1.2 (fun b m => (hsym b (hb b m).1 (hb b m).2).1) hn, Option.bind_some, ← e1, ← e2]
  refine read_written nt aa g1 _ _ _ ?_ ⟨by simp [aasTok], fun c hc => ?_⟩ ⟨by simp [startsTok], fun c hc => ?_⟩ r hr hC
  · by_cases hc : (cm && decide (g.translTable > 0)) = true
    · rw [if_pos hc]
      simp only [Bool.and_eq_true, decide_eq_true_eq] at hc
      exact Or.inr (hcm hc.1 hc.2)
    · rw [if_neg hc]; exact Or.inl rfl
  · obtain ⟨x, hx, rfl⟩ := List.mem_map.mp hc
    have hl : ncbiCodon nt x < g.basic.length := by
      have := ncbiCodon_lt nt hn x (List.mem_range.mp hx); have := hg.1.1; omega
    obtain ⟨q1, q2⟩ := hb _ (getD_mem_of_lt (d := 0) hl)
    exact ⟨(hsym _ q1 q2).2.2.2.1, (hsym _ q1 q2).2.2.2.2⟩
  · obtain ⟨x, -, rfl⟩ := List.mem_map.mp hc
    split <;> exact ⟨rfl, by omega⟩

/-- the two initiator policies of `esl-translate` rewrite the flags only, to 0 / 1: a complete code stays complete, so
    `read_write` holds under each of the three settings of a built-in table (`Facts.read_write_roundtrip`) -/
theorem CompleteCode.policies {aa : Alphabet} {g : Gencode} (hg : CompleteCode aa g) (aa' nt : Alphabet) :
    CompleteCode aa (setInitiatorAny aa' g) ∧ CompleteCode aa (setInitiatorOnlyAUG nt g) := by
  obtain ⟨⟨lb, -⟩, hb, hall, hstop, -⟩ := hg
  refine ⟨⟨⟨lb, by simp only [setInitiatorAny, List.length_map, lb]⟩, hb, hall, hstop, fun f hf => ?_⟩,
    ⟨⟨lb, by simp only [setInitiatorOnlyAUG, List.length_set, List.length_replicate]⟩, hb, hall, hstop, fun f hf => ?_⟩⟩
  · obtain ⟨b, -, rfl⟩ := List.mem_map.mp hf
    split <;> omega
  · rcases List.mem_or_eq_of_mem_set hf with h | rfl
    · rw [List.eq_of_mem_replicate h]; omega
    · omega

end EaselModel.Gencode
