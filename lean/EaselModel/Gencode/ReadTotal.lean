import EaselModel.Gencode.ReadCode
/-! # C17 — `esl_gencode_Read` never reads or writes out of bounds, whatever the bytes of the file

`readColumnsO` is the per-column loop of `esl_gencode_Read` with EVERY array access of the C code checked: the reads
`aas[pos]`, `mline[pos]`, `base1..3[pos]` of the five 65-byte line buffers, the `inmap[(int)c]` reads of
`esl_abc_CIsValid` / `esl_abc_DigitizeSymbol` (128 entries), the writes `aa_seen[x]++` (20 entries), `codon_seen[codon]++`,
`gcode->basic[codon]`, `gcode->is_initiator[codon]` (64 entries). Outcome `none` = one of them is out of bounds;
`some none` = `eslEFORMAT`; `some (some …)` = the loop ran to the end. -/
namespace EaselModel.Gencode
open EaselModel.Alphabet

abbrev ColState := List Nat × List Nat × List Nat × List Nat × Nat

/-- `inmap[(int) c]` checked -/
def inmapO (a : Alphabet) (c : Nat) : Option Nat := a.inmap[c]?

def readColumnsO (nt aa : Alphabet) (aas mline b1 b2 b3 : List Nat) : Nat → ColState → Option (Option ColState)
  | 0, st => some (some st)
  | k+1, (basic, ini, cseen, aseen, stops) =>
    let pos := 64 - (k+1)
    match aas[pos]?, mline[pos]?, b1[pos]?, b2[pos]?, b3[pos]? with
    | some a, some m, some x1, some x2, some x3 =>
      -- `isascii(c) && inmap[c] < Kp` reads `inmap[c]` only for `c < 128`
      let rd (al : Alphabet) (c : Nat) : Option Nat := if c < 128 then inmapO al c else some ILLEGAL
      match rd aa a, rd nt x1, rd nt x2, rd nt x3 with
      | some _, some _, some _, some _ =>
        if !aa.cIsValid a || !(decide (aa.inmapAt a < aa.K) || decide (aa.inmapAt a + 2 = aa.Kp)) then some none
        else if !nt.cIsValid x1 || !decide (nt.inmapAt x1 < nt.K) then some none
        else if !nt.cIsValid x2 || !decide (nt.inmapAt x2 < nt.K) then some none
        else if !nt.cIsValid x3 || !decide (nt.inmapAt x3 < nt.K) then some none
        else if m ≠ 45 ∧ m ≠ 109 ∧ m ≠ 77 then some none
        else
          let codon := 16 * nt.inmapAt x1 + 4 * nt.inmapAt x2 + nt.inmapAt x3
          let x := aa.inmapAt a
          if ¬ (codon < basic.length ∧ codon < ini.length ∧ codon < cseen.length ∧ (x < 20 → x < aseen.length)) then none
          else
            let (aseen, stops) := if x < 20 then (aseen.set x (aseen.getD x 0 + 1), stops) else (aseen, stops + 1)
            readColumnsO nt aa aas mline b1 b2 b3 k
              (basic.set codon x, ini.set codon (if m = 45 then 0 else 1), cseen.set codon (cseen.getD codon 0 + 1), aseen, stops)
      | _, _, _, _ => none
    | _, _, _, _, _ => none

theorem readColumnsO_total (nt aa : Alphabet) (hK : nt.K = 4) (hin : nt.inmap.length = 128) (hia : aa.inmap.length = 128)
    (aas mline b1 b2 b3 : List Nat) (h1 : aas.length = 64) (h2 : mline.length = 64) (h3 : b1.length = 64)
    (h4 : b2.length = 64) (h5 : b3.length = 64) :
    ∀ (k : Nat) (basic ini cseen aseen : List Nat) (stops : Nat), k ≤ 64 → basic.length = 64 → ini.length = 64 →
      cseen.length = 64 → aseen.length = 20 →
      readColumnsO nt aa aas mline b1 b2 b3 k (basic, ini, cseen, aseen, stops) =
        some (readColumns nt aa aas mline b1 b2 b3 k basic ini cseen aseen stops)
  | 0, basic, ini, cseen, aseen, stops, _, _, _, _, _ => rfl
  | k+1, basic, ini, cseen, aseen, stops, hk, l1, l2, l3, l4 => by
    -- the five line buffers and the two `inmap` tables are read inside their bounds
    have get (l : List Nat) (hl : l.length = 64) : l[64 - (k+1)]? = some (l.getD (64 - (k+1)) 0) := by
      rw [List.getD_eq_getElem?_getD, List.getElem?_eq_getElem (by omega)]; rfl
    have rdok (al : Alphabet) (hl : al.inmap.length = 128) (c : Nat) :
        ∃ v, (if c < 128 then inmapO al c else some ILLEGAL) = some v := by
      by_cases hc : c < 128
      · exact ⟨al.inmap[c], by rw [if_pos hc]; exact List.getElem?_eq_getElem (by omega)⟩
      · exact ⟨ILLEGAL, if_neg hc⟩
    obtain ⟨v0, r0⟩ := rdok aa hia (aas.getD (64 - (k+1)) 0)
    obtain ⟨v1, r1⟩ := rdok nt hin (b1.getD (64 - (k+1)) 0)
    obtain ⟨v2, r2⟩ := rdok nt hin (b2.getD (64 - (k+1)) 0)
    obtain ⟨v3, r3⟩ := rdok nt hin (b3.getD (64 - (k+1)) 0)
    rw [readColumns_succ]
    simp only [readColumnsO, get aas h1, get mline h2, get b1 h3, get b2 h4, get b3 h5, r0, r1, r2, r3]
    rw [colTests_eq]
    by_cases hok : ColOK nt aa (aas.getD (64 - (k+1)) 0) (mline.getD (64 - (k+1)) 0) (b1.getD (64 - (k+1)) 0)
        (b2.getD (64 - (k+1)) 0) (b3.getD (64 - (k+1)) 0)
    · -- an accepted column writes at a codon `< 64` and counts an amino acid `< 20`
      have hcod : colCodon nt (b1.getD (64 - (k+1)) 0) (b2.getD (64 - (k+1)) 0) (b3.getD (64 - (k+1)) 0) < 64 := by
        have q1 := hok.2.1.2; have q2 := hok.2.2.1.2; have q3 := hok.2.2.2.1.2
        unfold colCodon; omega
      rw [if_pos hok, if_pos hok, if_neg (not_not_intro ⟨l1 ▸ hcod, l2 ▸ hcod, l3 ▸ hcod, fun h => l4 ▸ h⟩)]
      exact readColumnsO_total nt aa hK hin hia aas mline b1 b2 b3 h1 h2 h3 h4 h5 k _ _ _ _ _ (by omega)
        (by rw [List.length_set, l1]) (by rw [List.length_set, l2]) (by rw [List.length_set, l3])
        (by split <;> simp only [List.length_set, l4])
    · rw [if_neg hok, if_neg hok]

end EaselModel.Gencode
