import EaselModel.Gencode.Numbering
import EaselModel.Gencode.SixFrames
/-! # C17 — the main loops above `runStrand` as functions of the core: a strand that may be switched off, a sequence, a file.
The option plumbing of the model is met once per level (`strand_core`, `bySequence_core`, `translateFile_core`); what the
loops do is then said about these functions. -/
namespace EaselModel.Gencode
open EaselModel.Alphabet

/-- one strand as a function of the core; a strand that is switched off leaves the core as it is -/
def strandIf (nt aa : Alphabet) (g : Gencode) (cfg : Cfg) (on isRev : Bool) (d : List Nat) (c : Core) : Core :=
  if on then strandCore nt aa g cfg (startCore c isRev d.length) d else c

/-- `do_by_sequences` for one sequence -/
def seqCore (nt aa : Alphabet) (g : Gencode) (wc : Wcfg) (c : Core) (d : List Nat) : Core :=
  if d.length < 3 then c
  else strandIf nt aa g wc.cfg wc.doCrick true (revcomp nt d) (strandIf nt aa g wc.cfg wc.doWatson false d c)

/-- the part of a core the next strand depends on: the output block and the counter -/
def SameOut (c c' : Core) : Prop := c.out = c'.out ∧ c.orfcount = c'.orfcount

theorem processStart_congr (nt : Alphabet) (w w' : Work) (h : SameOut w.c w'.c) (isRev : Bool) (L : Int) (d1 d2 : Nat) :
    processStart nt w isRev L d1 d2 = processStart nt w' isRev L d1 d2 := by
  unfold processStart
  rw [h.1, h.2]

/-- for any window sizes, faults included -/
theorem runStrand_congr (nt aa : Alphabet) (g : Gencode) (cfg : Cfg) (w w' : Work) (h : SameOut w.c w'.c) (isRev : Bool)
    (d : List Nat) (cuts : List Nat) : runStrand nt aa g cfg w isRev d cuts = runStrand nt aa g cfg w' isRev d cuts := by
  unfold runStrand
  rw [processStart_congr nt w w' h]

variable (nt aa : Alphabet) (g : Gencode)

theorem strand_core (cfg : Cfg) (hn : NtOK nt) (hg : CodeOK g) (w0 : Work) (isRev : Bool) (d : List Nat)
    (hv : ∀ x ∈ d, x < nt.Kp) (on : Bool) :
    ∃ w', (if on = true then runStrand nt aa g cfg w0 isRev d [d.length] else some w0) = some w' ∧
      w'.c = strandIf nt aa g cfg on isRev d w0.c := by
  cases on
  · exact ⟨w0, rfl, rfl⟩
  · exact runStrand_core nt aa g cfg hn hg w0 isRev d hv

theorem bySequence_core (wc : Wcfg) (hn : NtOK nt) (hg : CodeOK g)
    (hc : ComplOK nt) (w : Work) (d : List Nat) (hv : ∀ x ∈ d, x < nt.Kp) :
    ∃ w', bySequence nt aa g wc w d = some w' ∧ w'.c = seqCore nt aa g wc w.c d := by
  unfold bySequence seqCore
  by_cases hlt : d.length < 3
  · exact ⟨w, if_pos hlt, by rw [if_pos hlt]⟩
  · obtain ⟨w1, e1, c1⟩ := strand_core nt aa g wc.cfg hn hg w false d hv wc.doWatson
    obtain ⟨w2, e2, c2⟩ := strand_core nt aa g wc.cfg hn hg w1 true (revcomp nt d) (revcomp_valid nt hc d hv) wc.doCrick
    rw [revcomp_length] at e2
    refine ⟨w2, ?_, by rw [if_neg hlt, c2, c1]⟩
    rw [if_neg hlt]
    cases hW : wc.doWatson <;> rw [hW] at e1 <;> simp only [Bool.false_eq_true, ↓reduceIte, Option.some.injEq] at e1 ⊢
    · rw [e1]; exact e2
    · rw [e1]; exact e2

/-- a file through `do_by_sequences` -/
theorem translateFile_core (wc : Wcfg) (hn : NtOK nt) (hg : CodeOK g)
    (hc : ComplOK nt) :
    ∀ (seqs : List (List Nat)) (w : Work), (∀ d ∈ seqs, ∀ x ∈ d, x < nt.Kp) →
      ∃ w', translateFile (bySequence nt aa g wc) w seqs = some w' ∧ w'.c = seqs.foldl (seqCore nt aa g wc) w.c
  | [], w, _ => ⟨w, rfl, rfl⟩
  | d :: rest, w, hv => by
    obtain ⟨w1, e1, c1⟩ := bySequence_core nt aa g wc hn hg hc w d (hv d (by simp))
    obtain ⟨w2, e2, c2⟩ := translateFile_core wc hn hg hc rest w1 (fun d' hd' => hv d' (by simp [hd']))
    refine ⟨w2, ?_, by rw [c2, c1]; rfl⟩
    unfold translateFile at e2 ⊢
    simp only [List.foldlM_cons, e1, Option.bind_eq_bind, Option.bind_some]
    exact e2

/-- the records after `c`'s: numbered on from `c.orfcount` -/
def NumberedOn (c c' : Core) : Prop :=
  ∃ news, c'.out.map (·.num) = news ++ c.out.map (·.num) ∧ c'.orfcount = c.orfcount + news.length ∧ Numbered c.orfcount news

theorem NumberedOn.refl (c : Core) : NumberedOn c c := ⟨[], rfl, rfl, trivial⟩

theorem NumberedOn.trans {c1 c2 c3 : Core} (h1 : NumberedOn c1 c2) (h2 : NumberedOn c2 c3) : NumberedOn c1 c3 := by
  obtain ⟨n1, a1, b1, k1⟩ := h1
  obtain ⟨n2, a2, b2, k2⟩ := h2
  exact ⟨n2 ++ n1, by rw [a2, a1, List.append_assoc], by rw [b2, b1, List.length_append]; omega,
    Numbered.append _ _ _ (b1 ▸ k2) k1⟩

theorem strandIf_numbered (cfg : Cfg) (on isRev : Bool) (d : List Nat) (c : Core) :
    NumberedOn c (strandIf nt aa g cfg on isRev d c) := by
  cases on
  · exact NumberedOn.refl c
  · show NumberedOn c (strandCore nt aa g cfg (startCore c isRev d.length) d)
    obtain ⟨news, n1, n2, n3⟩ := strandCore_order nt aa g cfg c.orfcount (c.out.map numStop) d (startCore c isRev d.length)
      (startCore_frame ..) ⟨[], rfl, rfl, trivial⟩
    refine ⟨news.map (·.1), ?_, by simpa using n2, Chain.numbered _ _ _ _ n3⟩
    have := congrArg (List.map (·.1)) n1
    simpa [List.map_map, numStop, Function.comp_def] using this

theorem seqCore_numbered (wc : Wcfg) (c : Core) (d : List Nat) : NumberedOn c (seqCore nt aa g wc c d) := by
  unfold seqCore
  split
  · exact NumberedOn.refl c
  · exact (strandIf_numbered nt aa g wc.cfg _ _ _ c).trans (strandIf_numbered nt aa g wc.cfg _ _ _ _)

theorem fileCore_numbered (wc : Wcfg) : ∀ (seqs : List (List Nat)) (c : Core), NumberedOn c (seqs.foldl (seqCore nt aa g wc) c)
  | [], c => NumberedOn.refl c
  | d :: rest, c => (seqCore_numbered nt aa g wc c d).trans (fileCore_numbered wc rest _)

theorem translateFile_numbering (wc : Wcfg) (hn : NtOK nt) (hg : CodeOK g) (hc : ComplOK nt) (seqs : List (List Nat))
    (w0 : Work) (hv : ∀ d ∈ seqs, ∀ x ∈ d, x < nt.Kp) :
    ∃ w', translateFile (bySequence nt aa g wc) w0 seqs = some w' ∧ NumberedOn w0.c w'.c := by
  obtain ⟨w', e, hc'⟩ := translateFile_core nt aa g wc hn hg hc seqs w0 hv
  exact ⟨w', e, hc' ▸ fileCore_numbered nt aa g wc seqs w0.c⟩

theorem strandIf_idle (cfg : Cfg) (on isRev : Bool) (d : List Nat) (c : Core) (h : Idle c ∧ c.frame < 3) :
    Idle (strandIf nt aa g cfg on isRev d c) ∧ (strandIf nt aa g cfg on isRev d c).frame < 3 := by
  cases on
  · exact h
  · exact strandCore_idle nt aa g cfg _ d (startCore_frame ..)

theorem seqCore_idle (wc : Wcfg) (c : Core) (d : List Nat) (h : Idle c ∧ c.frame < 3) :
    Idle (seqCore nt aa g wc c d) ∧ (seqCore nt aa g wc c d).frame < 3 := by
  unfold seqCore
  split
  · exact h
  · exact strandIf_idle nt aa g wc.cfg _ _ _ _ (strandIf_idle nt aa g wc.cfg _ _ _ c h)

/-- a strand reads nothing of the core but the counter and the output block -/
theorem strandIf_sameOut (cfg : Cfg) (on isRev : Bool) (d : List Nat) (c c' : Core) (h : SameOut c c') :
    SameOut (strandIf nt aa g cfg on isRev d c) (strandIf nt aa g cfg on isRev d c') := by
  cases on
  · exact h
  · have : startCore c isRev d.length = startCore c' isRev d.length := by unfold startCore; rw [h.1, h.2]
    unfold strandIf
    rw [if_pos rfl, if_pos rfl, this]
    exact ⟨rfl, rfl⟩

theorem seqCore_sameOut (wc : Wcfg) (d : List Nat) (c c' : Core) (h : SameOut c c') :
    SameOut (seqCore nt aa g wc c d) (seqCore nt aa g wc c' d) := by
  unfold seqCore
  split
  · exact h
  · exact strandIf_sameOut nt aa g wc.cfg _ _ _ _ _ (strandIf_sameOut nt aa g wc.cfg _ _ _ c c' h)

/-- `esl-translate -W` on a file ends with the same records under the same numbers as `esl-translate`. `W = 1` is left out:
    `ProcessStart` reads the first two residues of a strand, so the first window must hold two (`cutsFor_cons`). -/
theorem windowed_file (wc : Wcfg) (W : Nat) (hW : W ≠ 1) (hn : NtOK nt) (hg : CodeOK g)
    (hc : ComplOK nt) :
    ∀ (seqs : List (List Nat)) (w w' : Work), SameOut w.c w'.c → Idle w.c → w.c.frame < 3 → Idle w'.c → w'.c.frame < 3 →
      (∀ d ∈ seqs, ∀ x ∈ d, x < nt.Kp) →
      ∃ r r', translateFile (byWindows nt aa g wc W) w seqs = some r ∧ translateFile (bySequence nt aa g wc) w' seqs = some r' ∧
        SameOut r.c r'.c
  | [], w, w', h, _, _, _, _, _ => ⟨w, w', rfl, rfl, h⟩
  | d :: rest, w, w', hs, hi, hf, hi', hf', hv => by
    have hvd := hv d (by simp)
    obtain ⟨s', es', cs'⟩ := bySequence_core nt aa g wc hn hg hc w' d hvd
    have hstep : ∃ s, byWindows nt aa g wc W w d = some s ∧ SameOut s.c s'.c ∧ Idle s.c ∧ s.c.frame < 3 := by
      by_cases hlt : d.length < 3
      · obtain ⟨_, s, e, o1, o2, i, f⟩ := short_sequence_noop nt aa g wc W w d hlt hf hi
        exact ⟨s, e, by rw [SameOut, cs', seqCore, if_pos hlt]; exact ⟨o1.trans hs.1, o2.trans hs.2⟩, i, f⟩
      · obtain ⟨s, es, cs⟩ := bySequence_core nt aa g wc hn hg hc w d hvd
        exact ⟨s, by rw [byWindows_eq_bySequence nt aa g wc W hW w d (by omega)]; exact es,
          by rw [SameOut, cs, cs']; exact seqCore_sameOut nt aa g wc d _ _ hs,
          by rw [cs]; exact (seqCore_idle nt aa g wc _ d ⟨hi, hf⟩).1, by rw [cs]; exact (seqCore_idle nt aa g wc _ d ⟨hi, hf⟩).2⟩
    obtain ⟨s, es, hss, is, fs⟩ := hstep
    have is' := seqCore_idle nt aa g wc _ d ⟨hi', hf'⟩
    rw [← cs'] at is'
    obtain ⟨r, r', e1, e2, h⟩ := windowed_file wc W hW hn hg hc rest s s' hss is fs is'.1 is'.2 (fun d' hd' => hv d' (by simp [hd']))
    refine ⟨r, r', ?_, ?_, h⟩
    · unfold translateFile at e1 ⊢
      simp only [List.foldlM_cons, es, Option.bind_eq_bind, Option.bind_some]; exact e1
    · unfold translateFile at e2 ⊢
      simp only [List.foldlM_cons, es', Option.bind_eq_bind, Option.bind_some]; exact e2

theorem strandIf_recs (cfg : Cfg) (on isRev : Bool) (d : List Nat) (c : Core) (f : Nat) (hf : f < 3) :
    recsOf (strandIf nt aa g cfg on isRev d c).out (f + 1 + labelOff isRev) =
      (if on = true then frameOrfs nt aa g cfg (dirOf isRev) (if isRev then (d.length : Int) else 1) d f else []) ++
        recsOf c.out (f + 1 + labelOff isRev) := by
  cases on
  · rfl
  · exact strandCore_recs nt aa g cfg c isRev d f hf

theorem strandIf_recs_other (cfg : Cfg) (on isRev : Bool) (d : List Nat) (c : Core) (lbl : Nat) (ho : OtherLabel isRev lbl) :
    recsOf (strandIf nt aa g cfg on isRev d c).out lbl = recsOf c.out lbl := by
  cases on
  · rfl
  · exact strandCore_recs_other nt aa g cfg lbl d (startCore c isRev d.length) (startCore_frame ..) ho

/-- the records carry frame labels 1–3 for the top strand and 4–6 for the reverse strand (`f + 1 + labelOff isRev`); 0 and
    anything from 7 on are labels no strand writes -/
theorem bySequence_spec (o : Opts) (hn : NtOK nt) (hg : CodeOK g)
    (hc : ComplOK nt) (w0 : Work) (d : List Nat)
    (hv : ∀ x ∈ d, x < nt.Kp) (hL : 3 ≤ d.length) :
    ∃ w', bySequence nt aa g (workstateCreate o) w0 d = some w' ∧
      (∀ f, f < 3 → recsOf w'.c.out (f + 1) =
        (if o.crick = true then [] else frameOrfs nt aa g (workstateCreate o).cfg 1 1 d f) ++ recsOf w0.c.out (f + 1)) ∧
      (∀ f, f < 3 → recsOf w'.c.out (f + 4) =
        (if o.watson = true then [] else frameOrfs nt aa g (workstateCreate o).cfg (-1) (d.length : Int) (revcomp nt d) f) ++
          recsOf w0.c.out (f + 4)) ∧
      (∀ lbl, (lbl = 0 ∨ 7 ≤ lbl) → recsOf w'.c.out lbl = recsOf w0.c.out lbl) := by
  obtain ⟨w', e, hw⟩ := bySequence_core nt aa g (workstateCreate o) hn hg hc w0 d hv
  rw [seqCore, if_neg (by omega)] at hw
  refine ⟨w', e, fun f hf => ?_, fun f hf => ?_, fun lbl hl => ?_⟩
  · rw [hw, strandIf_recs_other nt aa g _ _ true _ _ _ (fun k hk => by simp [labelOff]; omega)]
    have := strandIf_recs nt aa g (workstateCreate o).cfg (workstateCreate o).doWatson false d w0.c f hf
    simp only [labelOff, dirOf, Bool.false_eq_true, ↓reduceIte, Nat.add_zero] at this
    rw [this]
    unfold workstateCreate
    cases o.crick <;> simp
  · have := strandIf_recs nt aa g (workstateCreate o).cfg (workstateCreate o).doCrick true (revcomp nt d)
      (strandIf nt aa g (workstateCreate o).cfg (workstateCreate o).doWatson false d w0.c) f hf
    simp only [labelOff, dirOf, ↓reduceIte, revcomp_length, show f + 1 + 3 = f + 4 by omega] at this
    rw [hw, this, strandIf_recs_other nt aa g _ _ false _ _ _ (fun k hk => by simp [labelOff]; omega)]
    unfold workstateCreate
    cases o.watson <;> simp
  · rw [hw, strandIf_recs_other nt aa g _ _ true _ _ _ (fun k hk => by simp [labelOff]; omega),
      strandIf_recs_other nt aa g _ _ false _ _ _ (fun k hk => by simp [labelOff]; omega)]

end EaselModel.Gencode
