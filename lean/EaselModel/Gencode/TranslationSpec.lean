import EaselModel.Gencode.Spec
import EaselModel.Alphabet.ListLemmas
/-! # C17 — the triple loop with early return: each loop is the fold of the loop below it, the whole a fold over `expand`.
Hence `esl_gencode_GetTranslation` / `esl_gencode_IsInitiator` = their specifications for every table and degeneracy matrix,
and on ANY three byte codes: exactly which inputs read outside `degen[]`, and the result on every other input. -/
namespace EaselModel.Gencode
open EaselModel.Alphabet

/-- sequential semantics of the loop body over a list of codons, with early return -/
def foldAcc (body : Int → Nat → Option Acc) : List Nat → Acc → Option Acc
  | [], acc => some acc
  | k :: ks, acc =>
    match acc with
    | .ret v => some (.ret v)
    | .run aa => do
      let acc' ← body aa k
      foldAcc body ks acc'

theorem foldAcc_ret (body : Int → Nat → Option Acc) (ks : List Nat) (v : Int) : foldAcc body ks (.ret v) = some (.ret v) := by
  cases ks <;> simp [foldAcc]

theorem foldAcc_append (body : Int → Nat → Option Acc) (l1 l2 : List Nat) (acc : Acc) :
    foldAcc body (l1 ++ l2) acc = (foldAcc body l1 acc).bind (foldAcc body l2) := by
  induction l1 generalizing acc with
  | nil => simp [foldAcc]
  | cons k ks ih =>
    cases acc with
    | ret v => simp [foldAcc, foldAcc_ret]
    | run aa =>
      simp only [List.cons_append, foldAcc]
      cases h : body aa k with
      | none => simp
      | some acc' => simp [ih]

theorem foldAcc_run_cons (body : Int → Nat → Option Acc) (k : Nat) (ks : List Nat) (aa : Int) :
    foldAcc body (k :: ks) (.run aa) = (body aa k).bind (foldAcc body ks) := rfl

theorem foldAcc_flatMap (body : Int → Nat → Option Acc) (items : Nat → List Nat) :
    ∀ (is : List Nat) (acc : Acc),
      foldAcc (fun aa i => foldAcc body (items i) (.run aa)) is acc = foldAcc body (is.flatMap items) acc
  | [], _ => rfl
  | _ :: _, .ret v => by rw [foldAcc_ret, foldAcc_ret]
  | i :: is, .run aa => by
    rw [List.flatMap_cons, foldAcc_append, foldAcc_run_cons]
    cases foldAcc body (items i) (.run aa) with
    | none => rfl
    | some acc' => exact foldAcc_flatMap body items is acc'

theorem foldAcc_map (body : Int → Nat → Option Acc) (f : Nat → Nat) :
    ∀ (is : List Nat) (acc : Acc), foldAcc (fun aa i => body aa (f i)) is acc = foldAcc body (is.map f) acc
  | [], _ => rfl
  | _ :: _, .ret v => by rw [foldAcc_ret, foldAcc_ret]
  | i :: is, .run aa => by
    rw [List.map_cons, foldAcc_run_cons, foldAcc_run_cons]
    cases body aa (f i) with
    | none => rfl
    | some acc' => exact foldAcc_map body f is acc'

/-- a loop over indices given by its equations — stop on `ret`, skip an index whose flag in `row` is 0, else run `inner` on it
    and go on — is the fold of `inner` over the flagged indices. Nothing is asked of `inner`: it may fault. The three nested
    loops are instances, each with the loop below it as `inner`. -/
theorem loop_fold (inner : Int → Nat → Option Acc) (L : List Nat → Acc → Option Acc) (row : List Nat)
    (hnil : ∀ acc, L [] acc = some acc) (hret : ∀ i is v, L (i :: is) (.ret v) = some (.ret v))
    (hskip : ∀ i is aa, i < row.length → row.getD i 0 = 0 → L (i :: is) (.run aa) = L is (.run aa))
    (hgo : ∀ i is aa, i < row.length → row.getD i 0 ≠ 0 → L (i :: is) (.run aa) = (inner aa i).bind (L is)) :
    ∀ (is : List Nat) (acc : Acc), (∀ i ∈ is, i < row.length) →
      L is acc = foldAcc inner (is.filter fun i => row.getD i 0 ≠ 0) acc
  | [], acc, _ => by rw [hnil]; rfl
  | i :: is, .ret v, _ => by rw [hret, foldAcc_ret]
  | i :: is, .run aa, h => by
    have ih := fun acc => loop_fold inner L row hnil hret hskip hgo is acc (fun j hj => h j (by simp [hj]))
    by_cases hf : row.getD i 0 = 0
    · rw [hskip i is aa (h i (by simp)) hf, List.filter_cons_of_neg (by simpa using hf), ih]
    · rw [hgo i is aa (h i (by simp)) hf, List.filter_cons_of_pos (by simpa using hf), foldAcc_run_cons]
      cases inner aa i with
      | none => rfl
      | some acc' => exact ih acc'

theorem loopZ_eq (body : Int → Nat → Option Acc) (rowC : List Nat) (x y : Nat) (zs : List Nat)
    (hz : ∀ z ∈ zs, z < rowC.length) (acc : Acc) :
    loopZ body rowC x y zs acc =
      foldAcc body ((zs.filter fun z => rowC.getD z 0 ≠ 0).map fun z => 16 * x + 4 * y + z) acc := by
  rw [← foldAcc_map]
  refine loop_fold _ (loopZ body rowC x y) rowC (fun _ => rfl) (fun _ _ _ => rfl)
    (fun z zs aa hl hf => ?_) (fun z zs aa hl hf => ?_) zs acc hz
  · simp only [loopZ, getElem?_eq_some_getD rowC z 0 hl, Option.bind_eq_bind, Option.bind_some, hf, if_true]
  · simp only [loopZ, getElem?_eq_some_getD rowC z 0 hl, Option.bind_eq_bind, Option.bind_some, hf, if_false]

/-- only the row of `b` has to be there: the row of `c` is looked up by the step. Over `[0, 1, 2, 3]` the flagged indices
    are `flags rowB` by definition. -/
theorem loopY_eq (body : Int → Nat → Option Acc) (nt : Alphabet) (b c x : Nat) (rowB : List Nat)
    (hB : nt.degen[b]? = some rowB) (ys : List Nat) (hy : ∀ y ∈ ys, y < rowB.length) (acc : Acc) :
    loopY body nt b c x ys acc =
      foldAcc (fun aa y => (nt.degen[c]?).bind fun rowC => loopZ body rowC x y [0, 1, 2, 3] (.run aa))
        (ys.filter fun y => rowB.getD y 0 ≠ 0) acc := by
  refine loop_fold _ (loopY body nt b c x) rowB (fun _ => rfl) (fun _ _ _ => rfl)
    (fun y ys aa hl hf => ?_) (fun y ys aa hl hf => ?_) ys acc hy
  · simp only [loopY, hB, getElem?_eq_some_getD rowB y 0 hl, Option.bind_eq_bind, Option.bind_some, hf, if_true]
  · simp only [loopY, hB, getElem?_eq_some_getD rowB y 0 hl, Option.bind_eq_bind, Option.bind_some, hf, if_false,
      Option.bind_assoc]

theorem loopX_eq (body : Int → Nat → Option Acc) (nt : Alphabet) (a b c : Nat) (rowA : List Nat)
    (hA : nt.degen[a]? = some rowA) (xs : List Nat) (hx : ∀ x ∈ xs, x < rowA.length) (acc : Acc) :
    loopX body nt a b c xs acc =
      foldAcc (fun aa x => loopY body nt b c x [0, 1, 2, 3] (.run aa)) (xs.filter fun x => rowA.getD x 0 ≠ 0) acc := by
  refine loop_fold _ (loopX body nt a b c) rowA (fun _ => rfl) (fun _ _ _ => rfl)
    (fun x xs aa hl hf => ?_) (fun x xs aa hl hf => ?_) xs acc hx
  · simp only [loopX, hA, getElem?_eq_some_getD rowA x 0 hl, Option.bind_eq_bind, Option.bind_some, hf, if_true]
  · simp only [loopX, hA, getElem?_eq_some_getD rowA x 0 hl, Option.bind_eq_bind, Option.bind_some, hf, if_false]

theorem loopY_noRow (body : Int → Nat → Option Acc) (nt : Alphabet) (b c x y : Nat) (ys : List Nat) (v : Int)
    (hB : nt.degen[b]? = none) : loopY body nt b c x (y :: ys) (.run v) = none := by
  simp [loopY, hB]

theorem loopY_skip (body : Int → Nat → Option Acc) (nt : Alphabet) (b c x : Nat) (rowB : List Nat)
    (hB : nt.degen[b]? = some rowB) (ys : List Nat) (hy : ∀ y ∈ ys, y < rowB.length ∧ rowB.getD y 0 = 0) (v : Int) :
    loopY body nt b c x ys (.run v) = some (.run v) := by
  rw [loopY_eq body nt b c x rowB hB ys (fun y h => (hy y h).1),
    List.filter_eq_nil_iff.mpr (fun y h => by simpa using (hy y h).2)]
  rfl

theorem loopX_skip (body : Int → Nat → Option Acc) (nt : Alphabet) (a b c : Nat) (rowA : List Nat)
    (hA : nt.degen[a]? = some rowA) (xs : List Nat) (hx : ∀ x ∈ xs, x < rowA.length ∧ rowA.getD x 0 = 0) (v : Int) :
    loopX body nt a b c xs (.run v) = some (.run v) := by
  rw [loopX_eq body nt a b c rowA hA xs (fun x h => (hx x h).1),
    List.filter_eq_nil_iff.mpr (fun x h => by simpa using (hx x h).2)]
  rfl

theorem flags_nil_iff (row : List Nat) : flags row = [] ↔ ∀ x, x < 4 → row.getD x 0 = 0 := by
  simp only [flags, List.filter_eq_nil_iff, List.mem_cons, List.not_mem_nil, or_false, ne_eq, decide_not, Bool.not_eq_true',
    decide_eq_false_iff_not, Decidable.not_not]
  exact ⟨fun h x hx => h x (by omega), fun h x hx => h x (by omega)⟩

theorem exists_flag (row : List Nat) (h : flags row ≠ []) : ∃ x ∈ [0, 1, 2, 3], row.getD x 0 ≠ 0 := by
  obtain ⟨x, hx⟩ := List.exists_mem_of_ne_nil _ h
  exact ⟨x, (List.mem_filter.mp hx).1, by simpa using (List.mem_filter.mp hx).2⟩

theorem row_of_ntOK (nt : Alphabet) (h : NtOK nt) (a : Nat) (ha : a < nt.Kp) :
    nt.degen[a]? = some (nt.degen.getD a []) ∧ (nt.degen.getD a []).length = 4 := by
  obtain ⟨_, hl, hr⟩ := h
  refine ⟨?_, hr a ha⟩
  rw [List.getD_eq_getElem?_getD, List.getElem?_eq_getElem (by omega)]; simp

theorem loopX_expand (body : Int → Nat → Option Acc) (nt : Alphabet) (h : NtOK nt) (a b c : Nat)
    (ha : a < nt.Kp) (hb : b < nt.Kp) (hc : c < nt.Kp) (acc : Acc) :
    loopX body nt a b c [0, 1, 2, 3] acc = foldAcc body (expand nt a b c) acc := by
  obtain ⟨hA, hlA⟩ := row_of_ntOK nt h a ha
  obtain ⟨hB, hlB⟩ := row_of_ntOK nt h b hb
  obtain ⟨hC, hlC⟩ := row_of_ntOK nt h c hc
  have hY : (fun aa x => loopY body nt b c x [0, 1, 2, 3] (.run aa)) = fun aa x => foldAcc body
      ((flags (nt.degen.getD b [])).flatMap fun y => (flags (nt.degen.getD c [])).map fun z => 16 * x + 4 * y + z) (.run aa) := by
    funext aa x
    rw [loopY_eq body nt b c x _ hB _ (by intro y hy; simp at hy; omega), ← foldAcc_flatMap]
    show foldAcc _ (flags _) _ = _
    congr 1
    funext aa y
    rw [hC, Option.bind_some, loopZ_eq body _ x y _ (by intro z hz; simp at hz; omega)]
    rfl
  rw [loopX_eq body nt a b c _ hA _ (by intro x hx; simp at hx; omega), hY, foldAcc_flatMap]
  rfl

theorem foldAcc_trans_run (g : Gencode) (unk : Nat) (b0 : Nat) (ks : List Nat) (hk : ∀ k ∈ ks, k < g.basic.length) :
    foldAcc (transStep g unk) ks (.run (b0 : Nat)) =
      some (if ∀ k ∈ ks, g.basic.getD k 0 = b0 then .run (b0 : Nat) else .ret (unk : Nat)) := by
  induction ks with
  | nil => simp [foldAcc]
  | cons k ks ih =>
    have e := getElem?_eq_some_getD g.basic k 0 (hk k (by simp))
    have ih' := ih (fun k' hk' => hk k' (by simp [hk']))
    have hne : ((b0 : Nat) : Int) ≠ -1 := by omega
    by_cases hb : g.basic.getD k 0 = b0
    · simp only [foldAcc, transStep, e, Option.bind_eq_bind, Option.bind_some, hne, if_false, hb, ne_eq,
        not_true_eq_false]
      rw [ih']
      have hiff : (∀ k' ∈ k :: ks, g.basic.getD k' 0 = b0) ↔ (∀ k' ∈ ks, g.basic.getD k' 0 = b0) := by
        rw [List.forall_mem_cons]; exact ⟨fun h => h.2, fun h => ⟨hb, h⟩⟩
      simp only [hiff]
    · have hb' : ((b0 : Nat) : Int) ≠ ((g.basic.getD k 0 : Nat) : Int) := by
        intro e'; exact hb (by omega)
      simp only [foldAcc, transStep, e, Option.bind_eq_bind, Option.bind_some, hne, if_false, ne_eq, hb',
        not_false_eq_true, if_true, foldAcc_ret]
      rw [if_neg (fun h => hb (h k (List.mem_cons_self ..)))]

/-- final state of the translation loop over the codons `ks`; `.run (-1)` is the accumulator before any codon has been seen
    (`aa = -1` in `esl_gencode_GetTranslation`), which is also what the loop returns when the triplet stands for no codon -/
def transResult (g : Gencode) (unk : Nat) : List Nat → Acc
  | [] => .run (-1)
  | k :: ks' => if ∀ k' ∈ ks', g.basic.getD k' 0 = g.basic.getD k 0 then .run (g.basic.getD k 0 : Nat)
                else .ret (unk : Nat)

theorem foldAcc_trans (g : Gencode) (unk : Nat) (ks : List Nat) (hk : ∀ k ∈ ks, k < g.basic.length) :
    foldAcc (transStep g unk) ks (.run (-1)) = some (transResult g unk ks) := by
  cases ks with
  | nil => simp [foldAcc, transResult]
  | cons k ks' =>
    have e := getElem?_eq_some_getD g.basic k 0 (hk k (by simp))
    simp only [foldAcc, transStep, e, Option.bind_eq_bind, Option.bind_some, if_true, transResult]
    exact foldAcc_trans_run g unk _ ks' (fun k' hk' => hk k' (by simp [hk']))

theorem foldAcc_init (g : Gencode) (ks : List Nat) (hk : ∀ k ∈ ks, k < g.isInit.length) (n : Int) :
    foldAcc (initStep g) ks (.run n) =
      some (if ks.all (fun k => g.isInit.getD k 0 ≠ 0) then .run (n + ks.length) else .ret 0) := by
  induction ks generalizing n with
  | nil => simp [foldAcc]
  | cons k ks ih =>
    have e := getElem?_eq_some_getD g.isInit k 0 (hk k (by simp))
    have ih' := fun n => ih (fun k' hk' => hk k' (by simp [hk'])) n
    by_cases hf : g.isInit.getD k 0 = 0
    · simp only [foldAcc, initStep, e, Option.bind_eq_bind, Option.bind_some, hf, if_true, foldAcc_ret,
        List.all_cons, ne_eq, not_true_eq_false, decide_false, Bool.false_and]
      rfl
    · simp only [foldAcc, initStep, e, Option.bind_eq_bind, Option.bind_some, hf, if_false]
      rw [ih']
      simp only [List.all_cons, hf, ne_eq, not_false_eq_true, decide_true, Bool.true_and, List.length_cons]
      split
      · congr 2; push_cast; omega
      · rfl

theorem expand_lt (nt : Alphabet) (a b c : Nat) : ∀ k ∈ expand nt a b c, k < 64 := by
  intro k hk
  unfold expand flags at hk
  simp only [List.mem_flatMap, List.mem_map, List.mem_filter] at hk
  obtain ⟨x, ⟨hx, _⟩, y, ⟨hy, _⟩, z, ⟨hz, _⟩, rfl⟩ := hk
  simp at hx hy hz
  omega

theorem canon_codon_lt (nt : Alphabet) (h : NtOK nt) (a b c : Nat) (hc : allCanonical nt a b c = true) :
    16 * a + 4 * b + c < 64 := by
  unfold allCanonical Alphabet.xIsCanonical at hc
  simp only [Bool.and_eq_true, decide_eq_true_eq] at hc
  have := h.1
  omega

/-- how both functions read the loop off: a fault is a fault, an early return gives its value, a loop that ran to its end
    gives `fin` of what it accumulated -/
def outcome (fin : Int → Int) : Option Acc → Option Int
  | none => none
  | some (.ret v) => some v
  | some (.run v) => some (fin v)

theorem getTranslation_out (nt aa : Alphabet) (g : Gencode) (a b c : Nat) :
    getTranslation nt aa g a b c = if allCanonical nt a b c = true then (g.basic[16 * a + 4 * b + c]?).map Int.ofNat
      else outcome id (loopX (transStep g aa.unknown) nt a b c [0, 1, 2, 3] (.run (-1))) := by
  unfold getTranslation allCanonical
  split
  · rfl
  · cases loopX (transStep g aa.unknown) nt a b c [0, 1, 2, 3] (.run (-1)) with
    | none => rfl
    | some r => cases r <;> rfl

theorem isInitiator_out (nt : Alphabet) (g : Gencode) (a b c : Nat) :
    isInitiator nt g a b c = if allCanonical nt a b c = true then (g.isInit[16 * a + 4 * b + c]?).map Int.ofNat
      else outcome (fun n => if n ≠ 0 then 1 else 0) (loopX (initStep g) nt a b c [0, 1, 2, 3] (.run 0)) := by
  unfold isInitiator allCanonical
  split
  · rfl
  · cases loopX (initStep g) nt a b c [0, 1, 2, 3] (.run 0) with
    | none => rfl
    | some r => cases r <;> rfl

/-- the translation loop over `expand`, whatever the three codes are -/
theorem outcome_trans (nt aa : Alphabet) (g : Gencode) (hg : CodeOK g) (a b c : Nat) (h : allCanonical nt a b c = false) :
    outcome id (foldAcc (transStep g aa.unknown) (expand nt a b c) (.run (-1))) = some (specTranslation nt aa g a b c) := by
  rw [foldAcc_trans g aa.unknown _ (fun k hk => by rw [hg.1]; exact expand_lt nt a b c k hk), specTranslation,
    if_neg (show ¬ allCanonical nt a b c = true by rw [h]; simp)]
  cases expand nt a b c with
  | nil => rfl
  | cons k ks =>
    simp only [transResult]
    by_cases hall : ∀ k' ∈ ks, g.basic.getD k' 0 = g.basic.getD k 0
    · rw [if_pos hall, if_pos hall]; rfl
    · rw [if_neg hall, if_neg hall]; rfl

theorem outcome_init (nt : Alphabet) (g : Gencode) (hg : CodeOK g) (a b c : Nat) (h : allCanonical nt a b c = false) :
    outcome (fun n => if n ≠ 0 then 1 else 0) (foldAcc (initStep g) (expand nt a b c) (.run 0)) =
      some (if specInitiator nt g a b c = true then 1 else 0) := by
  rw [foldAcc_init g _ (fun k hk => by rw [hg.2]; exact expand_lt nt a b c k hk), specInitiator,
    if_neg (show ¬ allCanonical nt a b c = true by rw [h]; simp)]
  by_cases hall : (expand nt a b c).all (fun k => g.isInit.getD k 0 ≠ 0) = true
  · rw [if_pos hall, hall, Bool.and_true]
    cases expand nt a b c with
    | nil => rfl
    | cons k ks =>
      show some (if (0 + ((k :: ks).length : Nat) : Int) ≠ 0 then 1 else 0) = _
      rw [if_pos (by simp only [List.length_cons]; omega), if_pos (by simp)]
  · rw [if_neg hall, if_neg (by simp only [Bool.and_eq_true, not_and]; exact fun _ => hall)]; rfl

theorem getTranslation_eq_spec (nt aa : Alphabet) (g : Gencode) (hn : NtOK nt) (hg : CodeOK g) (a b c : Nat)
    (ha : a < nt.Kp) (hb : b < nt.Kp) (hc : c < nt.Kp) :
    getTranslation nt aa g a b c = some (specTranslation nt aa g a b c) := by
  rw [getTranslation_out]
  cases hcan : allCanonical nt a b c
  · rw [if_neg (by simp), loopX_expand _ nt hn a b c ha hb hc, outcome_trans nt aa g hg a b c hcan]
  · rw [if_pos rfl, getElem?_eq_some_getD _ _ 0 (by rw [hg.1]; exact canon_codon_lt nt hn a b c hcan), specTranslation,
      if_pos hcan]
    rfl

/-- what the specification says: the table's entry for a canonical codon, the amino acid (or stop) shared by ALL the canonical
    codons a degenerate codon stands for, `unknown` as soon as two of them disagree -/
theorem specTranslation_shared (nt aa : Alphabet) (g : Gencode) (a b c : Nat) :
    (allCanonical nt a b c = true → specTranslation nt aa g a b c = Int.ofNat (g.basic.getD (16 * a + 4 * b + c) 0)) ∧
    (allCanonical nt a b c = false → ∀ x : Nat, expand nt a b c ≠ [] → (∀ k ∈ expand nt a b c, g.basic.getD k 0 = x) →
        specTranslation nt aa g a b c = Int.ofNat x) ∧
    (allCanonical nt a b c = false → (∃ k1 ∈ expand nt a b c, ∃ k2 ∈ expand nt a b c, g.basic.getD k1 0 ≠ g.basic.getD k2 0) →
        specTranslation nt aa g a b c = Int.ofNat aa.unknown) := by
  unfold specTranslation
  refine ⟨fun h => by rw [if_pos h]; rfl, fun h x hne hall => ?_, fun h hex => ?_⟩
  · rw [if_neg (by simp [h])]
    cases hex : expand nt a b c with
    | nil => exact absurd hex hne
    | cons k ks =>
      rw [hex] at hall
      have hk := hall k (by simp)
      simp only []
      rw [if_pos (fun k' hk' => by rw [hall k' (by simp [hk']), hk]), hk]
      rfl
  · rw [if_neg (by simp [h])]
    obtain ⟨k1, h1, k2, h2, hne⟩ := hex
    cases hexp : expand nt a b c with
    | nil => rw [hexp] at h1; cases h1
    | cons k ks =>
      rw [hexp] at h1 h2
      simp only []
      rw [if_neg]
      · rfl
      intro hall
      have e : ∀ k' ∈ k :: ks, g.basic.getD k' 0 = g.basic.getD k 0 := by
        intro k' hk'
        rcases List.mem_cons.mp hk' with rfl | hk'
        · rfl
        · exact hall k' hk'
      exact hne ((e k1 h1).trans (e k2 h2).symm)

theorem isInitiator_eq_spec (nt : Alphabet) (g : Gencode) (hn : NtOK nt) (hg : CodeOK g) (a b c : Nat)
    (ha : a < nt.Kp) (hb : b < nt.Kp) (hc : c < nt.Kp) :
    ∃ r, isInitiator nt g a b c = some r ∧ (r ≠ 0 ↔ specInitiator nt g a b c = true) := by
  rw [isInitiator_out]
  cases hcan : allCanonical nt a b c
  · rw [if_neg (by simp), loopX_expand _ nt hn a b c ha hb hc, outcome_init nt g hg a b c hcan]
    exact ⟨_, rfl, by cases specInitiator nt g a b c <;> simp⟩
  · rw [if_pos rfl, getElem?_eq_some_getD _ _ 0 (by rw [hg.2]; exact canon_codon_lt nt hn a b c hcan)]
    exact ⟨_, rfl, by simp [specInitiator, hcan]⟩

/-- the code stands for no canonical residue: its `degen[]` row has no flag set (gap `-`, nonresidue `*`, missing data `~`) -/
def rowEmpty (nt : Alphabet) (a : Nat) : Bool := (flags (nt.degen.getD a [])).isEmpty

theorem foldAcc_none (inner : Int → Nat → Option Acc) (h : ∀ aa i, inner aa i = none) :
    ∀ (ks : List Nat), ks ≠ [] → ∀ v, foldAcc inner ks (.run v) = none
  | [], hne, _ => absurd rfl hne
  | k :: ks, _, v => by rw [foldAcc_run_cons, h]; rfl

theorem foldAcc_id (inner : Int → Nat → Option Acc) (h : ∀ aa i, inner aa i = some (.run aa)) :
    ∀ (ks : List Nat) (v : Int), foldAcc inner ks (.run v) = some (.run v)
  | [], _ => rfl
  | k :: ks, v => by rw [foldAcc_run_cons, h]; exact foldAcc_id inner h ks v

/-- **the triple loop on ANY three codes** (the order of the tests is the order in which the C loop dereferences `degen[]`):
    a first code outside the alphabet faults; else a first code that stands for nothing ends the loop at once (the other two
    are never looked at); else the same for the second code; else the same for the third; else the fold over `expand`.
    Each loop is the fold of the loop below it over the flagged residues (`loopX_eq`, `loopY_eq`): over no residue it does
    nothing, over some residue it faults if the loop below always faults and does nothing if that does nothing. -/
theorem loopX_total (body : Int → Nat → Option Acc) (nt : Alphabet) (hn : NtOK nt) (a b c : Nat) (v : Int) :
    loopX body nt a b c [0, 1, 2, 3] (.run v) =
      if nt.Kp ≤ a then none else if rowEmpty nt a = true then some (.run v)
      else if nt.Kp ≤ b then none else if rowEmpty nt b = true then some (.run v)
      else if nt.Kp ≤ c then none else foldAcc body (expand nt a b c) (.run v) := by
  have hlen := hn.2.1
  by_cases ha : nt.Kp ≤ a
  · rw [if_pos ha]
    have : nt.degen[a]? = none := List.getElem?_eq_none (by omega)
    simp [loopX, this]
  obtain ⟨hA, hlA⟩ := row_of_ntOK nt hn a (by omega)
  have hX : loopX body nt a b c [0, 1, 2, 3] (.run v) = foldAcc _ (flags (nt.degen.getD a [])) (.run v) :=
    loopX_eq body nt a b c _ hA _ (by intro x hx; simp at hx; omega) _
  rw [if_neg ha, hX]
  by_cases ea : rowEmpty nt a = true
  · rw [if_pos ea, List.isEmpty_iff.mp ea]; rfl
  have neA : flags (nt.degen.getD a []) ≠ [] := fun e => ea (by rw [rowEmpty, e]; rfl)
  rw [if_neg ea]
  by_cases hb : nt.Kp ≤ b
  · rw [if_pos hb]
    have hB : nt.degen[b]? = none := List.getElem?_eq_none (by omega)
    exact foldAcc_none _ (fun aa x => by simp [loopY, hB]) _ neA v
  obtain ⟨hB, hlB⟩ := row_of_ntOK nt hn b (by omega)
  have hY : ∀ x aa, loopY body nt b c x [0, 1, 2, 3] (.run aa) = foldAcc _ (flags (nt.degen.getD b [])) (.run aa) :=
    fun x aa => loopY_eq body nt b c x _ hB _ (by intro y hy; simp at hy; omega) _
  rw [if_neg hb]
  by_cases eb : rowEmpty nt b = true
  · rw [if_pos eb]
    exact foldAcc_id _ (fun aa x => by rw [hY, List.isEmpty_iff.mp eb]; rfl) _ v
  have neB : flags (nt.degen.getD b []) ≠ [] := fun e => eb (by rw [rowEmpty, e]; rfl)
  rw [if_neg eb]
  by_cases hc : nt.Kp ≤ c
  · rw [if_pos hc]
    have hC : nt.degen[c]? = none := List.getElem?_eq_none (by omega)
    exact foldAcc_none _ (fun aa x => by
      rw [hY]
      exact foldAcc_none _ (fun _ _ => by rw [hC]; rfl) _ neB aa) _ neA v
  rw [if_neg hc, ← hX]
  exact loopX_expand body nt hn a b c (by omega) (by omega) (by omega) (.run v)

/-- `loopX_total` as both functions use it: the five tests pass through `outcome` -/
theorem loopX_outcome (fin : Int → Int) (body : Int → Nat → Option Acc) (nt : Alphabet) (hn : NtOK nt) (a b c : Nat) (v : Int) :
    outcome fin (loopX body nt a b c [0, 1, 2, 3] (.run v)) =
      if nt.Kp ≤ a then none else if rowEmpty nt a = true then some (fin v)
      else if nt.Kp ≤ b then none else if rowEmpty nt b = true then some (fin v)
      else if nt.Kp ≤ c then none else outcome fin (foldAcc body (expand nt a b c) (.run v)) := by
  rw [loopX_total body nt hn]
  simp only [apply_ite (outcome fin)]
  rfl

theorem getTranslation_total (nt aa : Alphabet) (g : Gencode) (hn : NtOK nt) (hg : CodeOK g) (a b c : Nat) :
    getTranslation nt aa g a b c =
      if allCanonical nt a b c = true then some (Int.ofNat (g.basic.getD (16 * a + 4 * b + c) 0))
      else if nt.Kp ≤ a then none else if rowEmpty nt a = true then some (-1)
      else if nt.Kp ≤ b then none else if rowEmpty nt b = true then some (-1)
      else if nt.Kp ≤ c then none else some (specTranslation nt aa g a b c) := by
  rw [getTranslation_out]
  cases hcan : allCanonical nt a b c
  · rw [if_neg (by simp), if_neg (by simp), loopX_outcome id _ nt hn, outcome_trans nt aa g hg a b c hcan]; rfl
  · rw [if_pos rfl, if_pos rfl, getElem?_eq_some_getD _ _ 0 (by rw [hg.1]; exact canon_codon_lt nt hn a b c hcan)]; rfl

theorem isInitiator_total (nt : Alphabet) (g : Gencode) (hn : NtOK nt) (hg : CodeOK g) (a b c : Nat)
    (hcan : allCanonical nt a b c = false) :
    (nt.Kp ≤ a → isInitiator nt g a b c = none) ∧
    (a < nt.Kp → rowEmpty nt a = true → isInitiator nt g a b c = some 0) ∧
    (a < nt.Kp → rowEmpty nt a = false → nt.Kp ≤ b → isInitiator nt g a b c = none) ∧
    (a < nt.Kp → rowEmpty nt a = false → b < nt.Kp → rowEmpty nt b = true → isInitiator nt g a b c = some 0) ∧
    (a < nt.Kp → rowEmpty nt a = false → b < nt.Kp → rowEmpty nt b = false → nt.Kp ≤ c → isInitiator nt g a b c = none) := by
  rw [isInitiator_out, if_neg (by rw [hcan]; simp), loopX_outcome _ _ nt hn]
  refine ⟨fun ha => ?_, fun ha ea => ?_, fun ha ea hb => ?_, fun ha ea hb eb => ?_, fun ha ea hb eb hc => ?_⟩
  · rw [if_pos ha]
  · rw [if_neg (by omega), if_pos ea]; rfl
  · rw [if_neg (by omega), if_neg (by simp [ea]), if_pos hb]
  · rw [if_neg (by omega), if_neg (by simp [ea]), if_neg (by omega), if_pos eb]; rfl
  · rw [if_neg (by omega), if_neg (by simp [ea]), if_neg (by omega), if_neg (by simp [eb]), if_pos hc]

end EaselModel.Gencode
