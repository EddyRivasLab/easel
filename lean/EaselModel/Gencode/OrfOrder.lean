import EaselModel.Gencode.ThreeFrames
/-! # C17 — numbering and order of the emitted ORF records -/
namespace EaselModel.Gencode
open EaselModel.Alphabet

def numStop (o : Orf) : Nat × Int := (o.num, o.stop)

/-- newest-first list of (number, end coordinate): numbers are `n0 + 1, n0 + 2, …` in emission order and the end
    coordinates advance strictly in reading direction (`s * dir` strictly increasing with emission), the newest being
    at most `ub` -/
def Chain (dir : Int) (n0 : Nat) : Int → List (Nat × Int) → Prop
  | _, [] => True
  | ub, (n, s) :: rest => n = n0 + rest.length + 1 ∧ s * dir ≤ ub ∧ Chain dir n0 (s * dir - 1) rest

theorem Chain.mono (dir : Int) (n0 : Nat) (l : List (Nat × Int)) (ub ub' : Int) (h : Chain dir n0 ub l) (hle : ub ≤ ub') :
    Chain dir n0 ub' l := by
  cases l with
  | nil => trivial
  | cons p rest =>
    obtain ⟨n, s⟩ := p
    exact ⟨h.1, by have := h.2.1; omega, h.2.2⟩

/-- the invariant: the records added since the start form a chain, all at least two steps behind the position -/
def OrderInv (n0 : Nat) (old : List (Nat × Int)) (c : Core) : Prop :=
  ∃ news, c.out.map numStop = news ++ old ∧ c.orfcount = n0 + news.length ∧
    Chain (dirOf c.isRev) n0 (c.apos * dirOf c.isRev - 2) news

theorem dir_sq (b : Bool) : dirOf b * dirOf b = 1 := by cases b <;> simp [dirOf]

theorem orderInv_step (n0 : Nat) (old : List (Nat × Int)) (c c' : Core) (hinv : OrderInv n0 old c) (t : Tick c c') :
    OrderInv n0 old c' := by
  obtain ⟨news, h1, h2, h3⟩ := hinv
  have hd := dir_sq c.isRev
  have e1 : (c.apos + dirOf c.isRev) * dirOf c.isRev = c.apos * dirOf c.isRev + 1 := by rw [Int.add_mul, hd]
  rcases t.out with ⟨o1, o2⟩ | ⟨o, o1, o2, on, os, -⟩
  · refine ⟨news, by rw [o1, h1], by rw [o2, h2], ?_⟩
    rw [t.isRev, t.apos]
    exact Chain.mono _ _ _ _ _ h3 (by omega)
  · refine ⟨(c.orfcount + 1, c.apos - dirOf c.isRev) :: news, by rw [o1, List.map_cons, h1, numStop, on, os]; rfl,
      by rw [o2, h2]; simp; omega, ?_⟩
    rw [t.isRev, t.apos]
    have e2 : (c.apos - dirOf c.isRev) * dirOf c.isRev = c.apos * dirOf c.isRev - 1 := by rw [Int.sub_mul, hd]
    refine ⟨by rw [h2], by omega, ?_⟩
    rw [e2, show c.apos * dirOf c.isRev - 1 - 1 = c.apos * dirOf c.isRev - 2 by omega]
    exact h3

theorem strandCore_order (nt aa : Alphabet) (g : Gencode) (cfg : Cfg) (n0 : Nat) (old : List (Nat × Int)) (d : List Nat)
    (c : Core) (hf : c.frame < 3) (h : OrderInv n0 old c) : OrderInv n0 old (strandCore nt aa g cfg c d) :=
  strandCore_induct nt aa g cfg (OrderInv n0 old) (fun c c' _ t h => orderInv_step n0 old c c' h t) d c hf h

theorem runStrand_order (nt aa : Alphabet) (g : Gencode) (cfg : Cfg) (hn : NtOK nt) (hg : CodeOK g) (w0 : Work)
    (isRev : Bool) (d : List Nat) (hv : ∀ x ∈ d, x < nt.Kp) (k : Nat) (ks : List Nat) (hk : 2 ≤ k)
    (hs : (k :: ks).sum = d.length) :
    ∃ w' news, runStrand nt aa g cfg w0 isRev d (k :: ks) = some w' ∧
      w'.c.out.map numStop = news ++ w0.c.out.map numStop ∧ w'.c.orfcount = w0.c.orfcount + news.length ∧
      ∃ ub, Chain (dirOf isRev) w0.c.orfcount ub news := by
  obtain ⟨w', e, hc⟩ := runStrand_core nt aa g cfg hn hg w0 isRev d hv
  have f0 := startCore_frame w0.c isRev d.length
  obtain ⟨news, n1, n2, n3⟩ := strandCore_order nt aa g cfg w0.c.orfcount (w0.c.out.map numStop) d _ f0
    ⟨[], rfl, rfl, trivial⟩
  rw [strandCore_isRev nt aa g cfg _ d f0] at n3
  exact ⟨w', news, by rw [runStrand_split nt aa g cfg w0 isRev d k ks hk hs, e], by rw [hc, n1], by rw [hc, n2], _, n3⟩

end EaselModel.Gencode
