import EaselModel.Gencode.RollingCodon
import Mathlib.Tactic.Ring
/-! # C17 — the three interleaved frames of the streaming machine = three independent per-frame ORF finders, over any
window split and through `ProcessEnd` -/
namespace EaselModel.Gencode
open EaselModel.Alphabet

/-- frame `k` (0, 1, 2) is labelled `k + 1` on the top strand and `k + 4` on the reverse strand -/
def labelOff (isRev : Bool) : Nat := if isRev then 3 else 0
/-- source coordinates ascend along the top strand and descend along the reverse strand -/
def dirOf (isRev : Bool) : Int := if isRev then -1 else 1

/-- frame `k`'s growing ORF -/
def fK (c : Core) (k : Nat) : FrameSt := if k = 0 then c.f0 else if k = 1 then c.f1 else c.f2

/-- frame `k`'s view of the machine: its growing ORF and the ORFs emitted for it -/
def proj (c : Core) (k : Nat) : FrameSt × List Rec := (fK c k, recsOf c.out (k + 1 + labelOff c.isRev))

section fields
variable (c : Core) (f : FrameSt)

theorem setF_fields : (c.setF f).frame = c.frame ∧ (c.setF f).isRev = c.isRev ∧ (c.setF f).apos = c.apos ∧
    (c.setF f).orfcount = c.orfcount ∧ (c.setF f).out = c.out := by
  unfold Core.setF
  split
  · exact ⟨rfl, rfl, rfl, rfl, rfl⟩
  · split <;> exact ⟨rfl, rfl, rfl, rfl, rfl⟩

@[simp] theorem setF_frame : (c.setF f).frame = c.frame := (setF_fields c f).1
@[simp] theorem setF_isRev : (c.setF f).isRev = c.isRev := (setF_fields c f).2.1
@[simp] theorem setF_apos : (c.setF f).apos = c.apos := (setF_fields c f).2.2.1
@[simp] theorem setF_orfcount : (c.setF f).orfcount = c.orfcount := (setF_fields c f).2.2.2.1
@[simp] theorem setF_out : (c.setF f).out = c.out := (setF_fields c f).2.2.2.2
@[simp] theorem setF_getF : (c.setF f).getF = f := by
  unfold Core.setF Core.getF; by_cases h0 : c.frame = 0 <;> by_cases h1 : c.frame = 1 <;> simp [h0, h1]

theorem getF_eq_fK : c.getF = fK c (if c.frame = 0 then 0 else if c.frame = 1 then 1 else 2) := by
  unfold Core.getF fK; by_cases h0 : c.frame = 0 <;> by_cases h1 : c.frame = 1 <;> simp [h0, h1]

theorem getF_fK : c.getF = fK c c.frame := by
  unfold Core.getF fK; rfl

theorem fK_setF (h : c.frame < 3) (k : Nat) (hk : k < 3) :
    fK (c.setF f) k = if k = c.frame then f else fK c k := by
  unfold Core.setF fK
  have hc : c.frame = 0 ∨ c.frame = 1 ∨ c.frame = 2 := by omega
  have hk' : k = 0 ∨ k = 1 ∨ k = 2 := by omega
  rcases hc with e | e | e <;> rcases hk' with rfl | rfl | rfl <;> simp [e]

end fields

/-- the record `ProcessOrf` emits for the current frame -/
def orfRec (c : Core) : Orf :=
  { num := c.orfcount + 1, start := c.getF.start, stop := c.apos - dirOf c.isRev,
    frame := c.frame + 1 + labelOff c.isRev, aa := c.getF.rev.reverse }

def emits (cfg : Cfg) (c : Core) : Bool := c.getF.inOrf && decide ((c.getF.rev.length : Int) ≥ cfg.minlen)

theorem processOrf_eq (cfg : Cfg) (c : Core) :
    processOrf cfg c =
      (if emits cfg c then { c with orfcount := c.orfcount + 1, out := orfRec c :: c.out } else c).setF {} := by
  unfold processOrf emits orfRec dirOf labelOff
  cases hr : c.isRev <;> simp [hr] <;> rfl

theorem processOrf_spec (cfg : Cfg) (w : Core) :
    ((w.getF.inOrf = true ∧ cfg.minlen ≤ (w.getF.rev.length : Int)) → (processOrf cfg w).out =
        { num := w.orfcount + 1, start := w.getF.start, stop := if w.isRev then w.apos + 1 else w.apos - 1,
          frame := w.frame + 1 + (if w.isRev then 3 else 0), aa := w.getF.rev.reverse } :: w.out ∧
      (processOrf cfg w).orfcount = w.orfcount + 1) ∧
    (¬ (w.getF.inOrf = true ∧ cfg.minlen ≤ (w.getF.rev.length : Int)) →
      (processOrf cfg w).out = w.out ∧ (processOrf cfg w).orfcount = w.orfcount) ∧
    (processOrf cfg w).getF = { rev := [], start := 0, inOrf := false } ∧
    (processOrf cfg w).apos = w.apos ∧ (processOrf cfg w).frame = w.frame ∧ (processOrf cfg w).isRev = w.isRev := by
  have he : emits cfg w = true ↔ w.getF.inOrf = true ∧ cfg.minlen ≤ (w.getF.rev.length : Int) := by simp [emits]
  rw [processOrf_eq]
  refine ⟨fun h => ?_, fun h => ?_, by simp, by split <;> simp, by split <;> simp, by split <;> simp⟩
  · rw [if_pos (he.mpr h)]
    cases hr : w.isRev <;> simp [orfRec, dirOf, labelOff, hr]
  · rw [if_neg (fun e => h (he.mp e))]
    simp

theorem processOrf_fields (cfg : Cfg) (c : Core) :
    (processOrf cfg c).frame = c.frame ∧ (processOrf cfg c).isRev = c.isRev ∧ (processOrf cfg c).apos = c.apos :=
  ⟨(processOrf_spec cfg c).2.2.2.2.1, (processOrf_spec cfg c).2.2.2.2.2, (processOrf_spec cfg c).2.2.2.1⟩

theorem fK_adv (c : Core) (a : Int) (fr : Nat) (k : Nat) : fK { c with apos := a, frame := fr } k = fK c k := rfl

theorem fK_fields (X : Core) (ap : Int) (fr : Nat) (ir : Bool) (oc : Nat) (out : List Orf) (k : Nat) :
    fK { f0 := X.f0, f1 := X.f1, f2 := X.f2, apos := ap, frame := fr, isRev := ir, orfcount := oc, out := out } k = fK X k := rfl

theorem recsOf_cons (o : Orf) (out : List Orf) (label : Nat) :
    recsOf (o :: out) label =
      if o.frame = label then { start := o.start, stop := o.stop, aa := o.aa } :: recsOf out label else recsOf out label := by
  unfold recsOf
  by_cases h : o.frame = label <;> simp [h]

/-- one of the three flush steps of `esl_gencode_ProcessEnd` -/
def endStep (cfg : Cfg) (w : Core) : Core :=
  let w := processOrf cfg w
  { w with apos := if w.isRev then w.apos - 1 else w.apos + 1, frame := (w.frame + 1) % 3 }

/-- the second half of `fstep`, once it is settled whether the codon opens an ORF: a stop flushes the frame, a residue
    inside an ORF is appended -/
def fclose (aa : Alphabet) (cfg : Cfg) (dir pos : Int) (res : Nat) (s : FrameSt × List Rec) : FrameSt × List Rec :=
  if aa.xIsNonresidue res then ({}, fflush cfg s (pos - dir))
  else (if s.1.inOrf then { s.1 with rev := res :: s.1.rev } else s.1, s.2)

theorem fstep_open (aa : Alphabet) (cfg : Cfg) (dir : Int) (s : FrameSt × List Rec) (it : Item)
    (h : (!s.1.inOrf && it.ini) = true) :
    fstep aa cfg dir s it = fclose aa cfg dir it.pos (if cfg.usingInit then aa.inmapAt 77 else it.aa)
      ({ s.1 with inOrf := true, start := it.pos }, s.2) := by
  unfold fstep fclose fflush
  simp only [h, if_true]
  cases aa.xIsNonresidue (if cfg.usingInit then aa.inmapAt 77 else it.aa) <;> rfl

theorem fstep_inside (aa : Alphabet) (cfg : Cfg) (dir : Int) (s : FrameSt × List Rec) (it : Item)
    (h : ¬ (!s.1.inOrf && it.ini) = true) : fstep aa cfg dir s it = fclose aa cfg dir it.pos it.aa s := by
  unfold fstep fclose fflush
  simp only [h, Bool.false_eq_true, if_false]
  cases aa.xIsNonresidue it.aa <;> rfl

/-- what one step of the machine — a codon (`cstep`) or one of the three flush steps of `ProcessEnd` (`endStep`) — does to the
    clock and to the output block: position and frame counter advance, and at most one record is emitted; it gets the next
    number, ends just behind the position and carries the label of the current frame -/
structure Tick (c c' : Core) : Prop where
  frame : c'.frame = (c.frame + 1) % 3
  isRev : c'.isRev = c.isRev
  apos : c'.apos = c.apos + dirOf c.isRev
  out : (c'.out = c.out ∧ c'.orfcount = c.orfcount) ∨
    ∃ o : Orf, c'.out = o :: c.out ∧ c'.orfcount = c.orfcount + 1 ∧ o.num = c.orfcount + 1 ∧
      o.stop = c.apos - dirOf c.isRev ∧ o.frame = c.frame + 1 + labelOff c.isRev

theorem advance_eq (a : Int) (b : Bool) : (if b = true then a - 1 else a + 1) = a + dirOf b := by
  cases b <;> simp [dirOf]; omega

/-- what the current frame holds is no part of a `Tick` -/
theorem Tick.of_setF {c c' : Core} {f : FrameSt} (t : Tick (c.setF f) c') : Tick c c' :=
  ⟨by simpa using t.frame, by simpa using t.isRev, by simpa using t.apos, by simpa using t.out⟩

theorem endStep_tick (cfg : Cfg) (c : Core) : Tick c (endStep cfg c) := by
  unfold endStep
  simp only [processOrf_eq]
  cases emits cfg c <;> refine ⟨?_, ?_, ?_, ?_⟩ <;> simp [orfRec, advance_eq]

theorem endStep_proj (cfg : Cfg) (c : Core) (h : c.frame < 3) (j : Nat) (hj : j < 3) :
    proj (endStep cfg c) j =
      if j = c.frame then ({}, fflush cfg (proj c j) (c.apos - dirOf c.isRev)) else proj c j := by
  unfold endStep fflush proj
  simp only [processOrf_eq, getF_fK c, emits, orfRec]
  by_cases hjf : j = c.frame
  · subst hjf
    cases hin : (fK c c.frame).inOrf <;>
      by_cases hm : cfg.minlen ≤ ((fK c c.frame).rev.length : Int) <;>
      simp [hin, hm, fK_setF, h, fK_adv, recsOf_cons, fK_fields]
  · have hne' : ¬ (c.frame + 1 + labelOff c.isRev = j + 1 + labelOff c.isRev) := by omega
    have hne2 : ¬ c.frame = j := fun e => hjf e.symm
    cases hin : (fK c c.frame).inOrf <;>
      by_cases hm : cfg.minlen ≤ ((fK c c.frame).rev.length : Int) <;>
      simp [hin, hm, fK_setF, h, hj, hjf, hne', hne2, fK_adv, recsOf_cons, fK_fields]

/-- a stop codon is a flush step: `ProcessOrf` leaves the frame outside an ORF, so nothing is appended -/
theorem finishStep_stop (aa : Alphabet) (cfg : Cfg) (c : Core) (res : Nat) (h : aa.xIsNonresidue res = true) :
    finishStep aa cfg c res = endStep cfg c := by
  unfold finishStep endStep
  simp [h, processOrf_eq]

/-- any other residue: appended to the current frame's ORF if there is one, and the clock advances -/
theorem finishStep_go (aa : Alphabet) (cfg : Cfg) (c : Core) (res : Nat) (h : aa.xIsNonresidue res = false) :
    finishStep aa cfg c res =
      let c1 := if c.getF.inOrf then c.setF { c.getF with rev := res :: c.getF.rev } else c
      { c1 with apos := if c1.isRev then c1.apos - 1 else c1.apos + 1, frame := (c1.frame + 1) % 3 } := by
  unfold finishStep
  simp only [h, Bool.false_eq_true, if_false]

theorem finishStep_tick (aa : Alphabet) (cfg : Cfg) (c : Core) (res : Nat) : Tick c (finishStep aa cfg c res) := by
  cases h : aa.xIsNonresidue res
  · rw [finishStep_go aa cfg c res h]
    have adv (c : Core) : Tick c { c with apos := if c.isRev then c.apos - 1 else c.apos + 1, frame := (c.frame + 1) % 3 } :=
      ⟨rfl, rfl, advance_eq .., Or.inl ⟨rfl, rfl⟩⟩
    dsimp only
    split
    · exact (adv _).of_setF
    · exact adv c
  · rw [finishStep_stop aa cfg c res h]
    exact endStep_tick cfg c

theorem finishStep_proj (aa : Alphabet) (cfg : Cfg) (c : Core) (res : Nat) (h : c.frame < 3) (j : Nat) (hj : j < 3) :
    proj (finishStep aa cfg c res) j =
      if j = c.frame then fclose aa cfg (dirOf c.isRev) c.apos res (proj c j) else proj c j := by
  unfold fclose
  cases hs : aa.xIsNonresidue res
  · rw [finishStep_go aa cfg c res hs, getF_fK c]
    simp only [Bool.false_eq_true, if_false]
    by_cases hjf : j = c.frame
    · subst hjf
      cases hin : (fK c c.frame).inOrf <;> simp [proj, hin, fK_setF, h, fK_fields]
    · cases hin : (fK c c.frame).inOrf <;> simp [proj, hjf, fK_setF, h, hj, fK_fields]
  · rw [finishStep_stop aa cfg c res hs, endStep_proj cfg c h j hj]
    rfl

theorem cstep_proj (aa : Alphabet) (cfg : Cfg) (c : Core) (res0 : Nat) (ini : Bool) (h : c.frame < 3) (j : Nat) (hj : j < 3) :
    proj (cstep aa cfg c res0 ini) j =
      if j = c.frame then fstep aa cfg (dirOf c.isRev) (proj c j) ⟨c.apos, res0, ini⟩ else proj c j := by
  unfold cstep
  by_cases ho : (!c.getF.inOrf && ini) = true
  · rw [if_pos ho, finishStep_proj aa cfg _ _ (by rw [setF_frame]; exact h) j hj, setF_frame, setF_isRev, setF_apos]
    by_cases hjf : j = c.frame
    · subst hjf
      rw [getF_fK c] at ho
      rw [if_pos rfl, if_pos rfl, fstep_open _ _ _ _ _ ho]
      simp only [proj, fK_setF c _ h c.frame hj, if_true, setF_out, setF_isRev, getF_fK c]
    · rw [if_neg hjf, if_neg hjf]
      simp only [proj, fK_setF c _ h j hj, if_neg hjf, setF_out, setF_isRev]
  · rw [if_neg ho, finishStep_proj aa cfg c res0 h j hj]
    by_cases hjf : j = c.frame
    · subst hjf
      rw [getF_fK c] at ho
      rw [if_pos rfl, if_pos rfl, fstep_inside _ _ _ _ _ ho]
    · rw [if_neg hjf, if_neg hjf]

theorem cstep_tick (aa : Alphabet) (cfg : Cfg) (c : Core) (res0 : Nat) (ini : Bool) : Tick c (cstep aa cfg c res0 ini) := by
  unfold cstep
  by_cases ho : (!c.getF.inOrf && ini) = true
  · rw [if_pos ho]; exact (finishStep_tick ..).of_setF
  · rw [if_neg ho]; exact finishStep_tick ..

theorem coreRun_induct (nt aa : Alphabet) (g : Gencode) (cfg : Cfg) (P : Core → Prop)
    (step : ∀ c res ini, c.frame < 3 → P c → P (cstep aa cfg c res ini)) :
    ∀ (d : List Nat) (c : Core), c.frame < 3 → P c → P (coreRun nt aa g cfg c d) := by
  intro d
  induction d with
  | nil => intro c _ h; exact h
  | cons a t ih =>
    intro c hf h
    match t, ih with
    | [], _ => exact h
    | [b], _ => exact h
    | b :: c' :: rest, ih => exact ih _ (by rw [(cstep_tick aa cfg c _ _).frame]; omega) (step c _ _ hf h)

theorem sub_cons (k f : Nat) (it : Item) (rest : List Item) :
    sub k f (it :: rest) = if f = k then it :: sub k ((f + 1) % 3) rest else sub k ((f + 1) % 3) rest := rfl

theorem coreRun_proj (nt aa : Alphabet) (g : Gencode) (cfg : Cfg) :
    ∀ (d : List Nat) (c : Core), c.frame < 3 → ∀ k, k < 3 →
      proj (coreRun nt aa g cfg c d) k =
        (sub k c.frame (itemsFrom nt aa g (dirOf c.isRev) c.apos d)).foldl (fstep aa cfg (dirOf c.isRev)) (proj c k) := by
  intro d
  induction d with
  | nil => intro c _ k _; simp [coreRun, itemsFrom, sub]
  | cons a t ih =>
    intro c hf k hk
    match t, ih with
    | [], _ => simp [coreRun, itemsFrom, sub]
    | [b], _ => simp [coreRun, itemsFrom, sub]
    | b :: c' :: rest, ih =>
      obtain ⟨e1, e2, e3, _⟩ := cstep_tick aa cfg c (codonAa nt aa g a b c') (specInitiator nt g a b c')
      have ih' := ih (cstep aa cfg c (codonAa nt aa g a b c') (specInitiator nt g a b c')) (by rw [e1]; omega) k hk
      rw [e1, e2, e3] at ih'
      simp only [coreRun, itemsFrom, sub_cons]
      rw [ih']
      rw [cstep_proj aa cfg c _ _ hf k hk]
      by_cases hkf : c.frame = k
      · subst hkf
        rw [if_pos rfl, if_pos rfl, List.foldl_cons]
      · rw [if_neg hkf, if_neg (fun e => hkf e.symm)]

theorem coreRun_pos (nt aa : Alphabet) (g : Gencode) (cfg : Cfg) :
    ∀ (d : List Nat) (c : Core), c.frame < 3 →
      (coreRun nt aa g cfg c d).frame = (c.frame + (itemsFrom nt aa g (dirOf c.isRev) c.apos d).length) % 3 ∧
      (coreRun nt aa g cfg c d).isRev = c.isRev ∧
      (coreRun nt aa g cfg c d).apos = c.apos + ((itemsFrom nt aa g (dirOf c.isRev) c.apos d).length : Int) * dirOf c.isRev := by
  intro d
  induction d with
  | nil => intro c h; simp [coreRun, itemsFrom, Nat.mod_eq_of_lt h]
  | cons a t ih =>
    intro c h
    match t, ih with
    | [], _ => simp [coreRun, itemsFrom, Nat.mod_eq_of_lt h]
    | [b], _ => simp [coreRun, itemsFrom, Nat.mod_eq_of_lt h]
    | b :: c' :: rest, ih =>
      obtain ⟨e1, e2, e3, _⟩ := cstep_tick aa cfg c (codonAa nt aa g a b c') (specInitiator nt g a b c')
      obtain ⟨i1, i2, i3⟩ := ih (cstep aa cfg c (codonAa nt aa g a b c') (specInitiator nt g a b c')) (by rw [e1]; omega)
      simp only [e1, e2, e3] at i1 i2 i3
      simp only [coreRun, itemsFrom, List.length_cons]
      refine ⟨?_, i2, ?_⟩
      · rw [i1]; omega
      · rw [i3]; push_cast; ring

theorem processEnd_eq (cfg : Cfg) (w : Core) : processEnd cfg w = endStep cfg (endStep cfg (endStep cfg w)) := rfl

theorem processEnd_induct (cfg : Cfg) (P : Core → Prop) (step : ∀ c, c.frame < 3 → P c → P (endStep cfg c)) (c : Core)
    (hf : c.frame < 3) (h : P c) : P (processEnd cfg c) := by
  have next : ∀ c : Core, c.frame < 3 → (endStep cfg c).frame < 3 := fun c _ => by
    rw [(endStep_tick cfg c).frame]; omega
  rw [processEnd_eq]
  exact step _ (next _ (next _ hf)) (step _ (next _ hf) (step c hf h))

/-- after `ProcessEnd` every frame is outside an ORF, and frame `k`'s ORF list is the finder's list flushed at the coordinate
    where that frame's next codon would have started, minus one step -/
theorem processEnd_proj (cfg : Cfg) (c : Core) (h : c.frame < 3) (k : Nat) (hk : k < 3) :
    proj (processEnd cfg c) k =
      ({}, fflush cfg (proj c k) (c.apos + (((k + 3 - c.frame) % 3 : Nat) : Int) * dirOf c.isRev - dirOf c.isRev)) := by
  rw [processEnd_eq]
  obtain ⟨a1, a2, a3, _⟩ := endStep_tick cfg c
  obtain ⟨b1, b2, b3, _⟩ := endStep_tick cfg (endStep cfg c)
  have h1 : (endStep cfg c).frame < 3 := by rw [a1]; omega
  have h2 : (endStep cfg (endStep cfg c)).frame < 3 := by rw [b1]; omega
  by_cases e0 : k = c.frame
  · -- flushed by the first step
    have n1 : k ≠ (endStep cfg c).frame := by rw [a1]; omega
    have n2 : k ≠ (endStep cfg (endStep cfg c)).frame := by rw [b1, a1]; omega
    rw [endStep_proj cfg _ h2 k hk, if_neg n2, endStep_proj cfg _ h1 k hk, if_neg n1, e0, endStep_proj cfg c h _ h, if_pos rfl]
    have : (c.frame + 3 - c.frame) % 3 = 0 := by omega
    rw [this]; simp
  · by_cases e1 : k = (endStep cfg c).frame
    · have n2 : k ≠ (endStep cfg (endStep cfg c)).frame := by rw [b1, a1]; rw [a1] at e1; omega
      rw [endStep_proj cfg _ h2 k hk, if_neg n2, e1, endStep_proj cfg _ h1 _ h1, if_pos rfl, ← e1,
        endStep_proj cfg c h k hk, if_neg e0, a2, a3]
      have : (k + 3 - c.frame) % 3 = 1 := by rw [a1] at e1; omega
      rw [this]; simp
    · have e2 : k = (endStep cfg (endStep cfg c)).frame := by rw [b1, a1]; rw [a1] at e1; omega
      rw [e2, endStep_proj cfg _ h2 _ h2, if_pos rfl, ← e2, endStep_proj cfg _ h1 k hk, if_neg e1,
        endStep_proj cfg c h k hk, if_neg e0, b2, b3, a2, a3]
      have : (k + 3 - c.frame) % 3 = 2 := by rw [a1] at e1; omega
      rw [this, show ((2 : Nat) : Int) * dirOf c.isRev = dirOf c.isRev + dirOf c.isRev by push_cast; ring, Int.add_assoc]

theorem processEnd_isRev (cfg : Cfg) (c : Core) : (processEnd cfg c).isRev = c.isRev := by
  rw [processEnd_eq, (endStep_tick cfg _).isRev, (endStep_tick cfg _).isRev, (endStep_tick cfg _).isRev]

theorem fstep_append (aa : Alphabet) (cfg : Cfg) (dir : Int) (p : FrameSt) (r r0 : List Rec) (it : Item) :
    fstep aa cfg dir (p, r ++ r0) it = ((fstep aa cfg dir (p, r) it).1, (fstep aa cfg dir (p, r) it).2 ++ r0) := by
  unfold fstep
  simp only [apply_ite (fun l => l ++ r0), List.cons_append]

theorem foldl_fstep_append (aa : Alphabet) (cfg : Cfg) (dir : Int) (items : List Item) (p : FrameSt) (r r0 : List Rec) :
    items.foldl (fstep aa cfg dir) (p, r ++ r0) =
      ((items.foldl (fstep aa cfg dir) (p, r)).1, (items.foldl (fstep aa cfg dir) (p, r)).2 ++ r0) := by
  induction items generalizing p r with
  | nil => rfl
  | cons it rest ih =>
    rw [List.foldl_cons, fstep_append, ih, List.foldl_cons]

theorem fflush_append (cfg : Cfg) (p : FrameSt) (r r0 : List Rec) (e : Int) :
    fflush cfg (p, r ++ r0) e = fflush cfg (p, r) e ++ r0 := by
  unfold fflush
  simp only []
  split <;> simp

theorem fflush_congr (cfg : Cfg) (s : FrameSt × List Rec) (r : List Rec) (e1 e2 : Int) (h : e1 = e2) :
    fflush cfg s e1 ++ r = fflush cfg s e2 ++ r := by rw [h]

/-- the core a strand starts from: `ProcessStart` resets everything but the counter and the output block -/
def startCore (c : Core) (isRev : Bool) (L : Int) : Core :=
  { orfcount := c.orfcount, out := c.out, isRev := isRev, apos := if isRev then L else 1 }

theorem startCore_frame (c : Core) (isRev : Bool) (L : Int) : (startCore c isRev L).frame < 3 := Nat.zero_lt_succ 2

/-- what a whole strand `d` does to a core: the eager machine over all codons, then the flush -/
def strandCore (nt aa : Alphabet) (g : Gencode) (cfg : Cfg) (c : Core) (d : List Nat) : Core :=
  processEnd cfg (coreRun nt aa g cfg c d)

theorem processStart_core (nt : Alphabet) (w : Work) (isRev : Bool) (L : Int) (d1 d2 : Nat) :
    (processStart nt w isRev L d1 d2).c = startCore w.c isRev L := by
  unfold processStart startCore
  by_cases h1 : nt.xIsCanonical d1 = true <;> by_cases h2 : nt.xIsCanonical d2 = true <;> simp [h1, h2]

/-- the streaming machine never faults on valid residues, and the core it leaves is `strandCore`; with `runStrand_split`
    this holds for every split into windows -/
theorem runStrand_core (nt aa : Alphabet) (g : Gencode) (cfg : Cfg) (hn : NtOK nt) (hg : CodeOK g) (w0 : Work)
    (isRev : Bool) (d : List Nat) (hv : ∀ x ∈ d, x < nt.Kp) :
    ∃ w', runStrand nt aa g cfg w0 isRev d [d.length] = some w' ∧
      w'.c = strandCore nt aa g cfg (startCore w0.c isRev d.length) d := by
  obtain ⟨w1, h1, h2⟩ := processPiece_eager nt aa g cfg hn hg d _ hv
    (processStart_inv nt hn w0 isRev d.length (d.getD 0 0) (d.getD 1 0))
  refine ⟨{ w1 with c := processEnd cfg w1.c }, ?_, by rw [h2, processStart_core]; rfl⟩
  unfold runStrand
  have hw : windows [] d [d.length] = [d] := by simp [windows]
  rw [hw]
  simp only [List.foldlM_cons, List.foldlM_nil, h1, Option.bind_eq_bind, Option.bind_some]
  rfl

/-- what every step of the machine keeps, a whole strand keeps -/
theorem strandCore_induct (nt aa : Alphabet) (g : Gencode) (cfg : Cfg) (P : Core → Prop)
    (step : ∀ c c', c.frame < 3 → Tick c c' → P c → P c') (d : List Nat) (c : Core) (hf : c.frame < 3) (h : P c) :
    P (strandCore nt aa g cfg c d) :=
  processEnd_induct cfg P (fun c hf h => step c _ hf (endStep_tick cfg c) h) _
    (by rw [(coreRun_pos nt aa g cfg d c hf).1]; exact Nat.mod_lt _ (by omega))
    (coreRun_induct nt aa g cfg P (fun c res ini hf h => step c _ hf (cstep_tick aa cfg c res ini) h) d c hf h)

theorem strandCore_isRev (nt aa : Alphabet) (g : Gencode) (cfg : Cfg) (c : Core) (d : List Nat) (hf : c.frame < 3) :
    (strandCore nt aa g cfg c d).isRev = c.isRev := by
  unfold strandCore; rw [processEnd_isRev, (coreRun_pos nt aa g cfg d c hf).2.1]

theorem strandCore_recs (nt aa : Alphabet) (g : Gencode) (cfg : Cfg) (c : Core) (isRev : Bool) (d : List Nat) (f : Nat)
    (hf : f < 3) :
    recsOf (strandCore nt aa g cfg (startCore c isRev d.length) d).out (f + 1 + labelOff isRev) =
      frameOrfs nt aa g cfg (dirOf isRev) (if isRev then (d.length : Int) else 1) d f ++
        recsOf c.out (f + 1 + labelOff isRev) := by
  obtain ⟨c0, hc0⟩ : ∃ c0 : Core, c0 = startCore c isRev d.length := ⟨_, rfl⟩
  have f0 : c0.frame = 0 := by rw [hc0]; rfl
  have a0 : c0.apos = if isRev then (d.length : Int) else 1 := by rw [hc0]; rfl
  have r0 : c0.isRev = isRev := by rw [hc0]; rfl
  have hf0 : c0.frame < 3 := by rw [f0]; omega
  obtain ⟨q1, q2, q3⟩ := coreRun_pos nt aa g cfg d c0 hf0
  have hfr : (coreRun nt aa g cfg c0 d).frame < 3 := by rw [q1]; omega
  have hl : recsOf (strandCore nt aa g cfg c0 d).out (f + 1 + labelOff isRev) = (proj (strandCore nt aa g cfg c0 d) f).2 := by
    unfold proj; rw [strandCore_isRev nt aa g cfg c0 d hf0, r0]
  have hp0 : proj c0 f = ({}, [] ++ recsOf c.out (f + 1 + labelOff isRev)) := by
    unfold proj fK
    rw [r0, hc0]
    by_cases e0 : f = 0 <;> by_cases e1 : f = 1 <;> simp [e0, e1, startCore]
  rw [← hc0, hl, strandCore, processEnd_proj cfg _ hfr f hf, coreRun_proj nt aa g cfg d c0 hf0 f hf, q1, q2, q3, hp0,
    foldl_fstep_append, fflush_append, f0, a0, r0]
  unfold frameOrfs
  simp only [Nat.zero_add]
  apply fflush_congr
  push_cast
  ring

theorem runStrand_spec (nt aa : Alphabet) (g : Gencode) (cfg : Cfg) (hn : NtOK nt) (hg : CodeOK g) (w0 : Work)
    (isRev : Bool) (d : List Nat) (hv : ∀ x ∈ d, x < nt.Kp) (k : Nat) (ks : List Nat) (hk : 2 ≤ k)
    (hs : (k :: ks).sum = d.length) :
    ∃ w', runStrand nt aa g cfg w0 isRev d (k :: ks) = some w' ∧
      ∀ f, f < 3 → recsOf w'.c.out (f + 1 + labelOff isRev) =
        frameOrfs nt aa g cfg (dirOf isRev) (if isRev then (d.length : Int) else 1) d f ++
          recsOf w0.c.out (f + 1 + labelOff isRev) := by
  obtain ⟨w', e, hc⟩ := runStrand_core nt aa g cfg hn hg w0 isRev d hv
  exact ⟨w', by rw [runStrand_split nt aa g cfg w0 isRev d k ks hk hs, e], fun f hf => by
    rw [hc, strandCore_recs nt aa g cfg w0.c isRev d f hf]⟩

end EaselModel.Gencode
