import EaselModel.Gencode.Translate
/-! # C17 — lemmas about the small public functions (DecodeDigicodon, Compare, DumpAltCodeTable), about windows shorter than a
codon, and about the FASTA record `esl_gencode_ProcessOrf` prints -/
namespace EaselModel.Gencode
open EaselModel.Alphabet

theorem symAt_isSome (nt : Alphabet) (i : Int) : (symAt nt i).isSome = true ↔ 0 ≤ i ∧ i ≤ nt.sym.length := by
  unfold symAt
  by_cases h0 : i < 0
  · simp [h0]; omega
  · simp only [h0, ↓reduceIte]
    by_cases h1 : i.toNat < nt.sym.length
    · simp only [h1, ↓reduceIte]
      rw [List.getElem?_eq_getElem h1]
      simp; omega
    · simp only [h1, ↓reduceIte]
      by_cases h2 : i.toNat = nt.sym.length
      · simp [h2]; omega
      · simp [h2]; omega

/-- C `/` and `%` on a non-negative `int` are the mathematical ones -/
theorem tdiv_tmod_nonneg (d : Int) (h : 0 ≤ d) (k : Int) (hk : 0 < k) : d.tdiv k = d / k ∧ d.tmod k = d % k := by
  exact ⟨Int.tdiv_eq_ediv_of_nonneg h, Int.tmod_eq_emod_of_nonneg h⟩

theorem decodeDigicodon_isSome (nt : Alphabet) (h3 : 3 ≤ nt.sym.length) (d : Int) :
    (decodeDigicodon nt d).isSome = true ↔ 0 ≤ d ∧ d / 16 ≤ nt.sym.length := by
  have key : (decodeDigicodon nt d).isSome = true ↔
      ((symAt nt (d.tdiv 16)).isSome = true ∧ (symAt nt ((d.tmod 16).tdiv 4)).isSome = true ∧ (symAt nt (d.tmod 4)).isSome = true) := by
    unfold decodeDigicodon
    cases symAt nt (d.tdiv 16) <;> cases symAt nt ((d.tmod 16).tdiv 4) <;> cases symAt nt (d.tmod 4) <;> simp
  rw [key, symAt_isSome, symAt_isSome, symAt_isSome]
  by_cases hd : 0 ≤ d
  · obtain ⟨e1, e2⟩ := tdiv_tmod_nonneg d hd 16 (by omega)
    obtain ⟨_, e4⟩ := tdiv_tmod_nonneg d hd 4 (by omega)
    have hm : 0 ≤ d % 16 := Int.emod_nonneg d (by omega)
    obtain ⟨e5, _⟩ := tdiv_tmod_nonneg (d % 16) hm 4 (by omega)
    rw [e1, e2, e4, e5]
    omega
  · -- a negative dividend: the truncated remainder / quotient is ≤ 0, and not all three can be 0
    have hneg : d < 0 := by omega
    constructor
    · rintro ⟨⟨a1, _⟩, ⟨b1, _⟩, ⟨c1, _⟩⟩
      exfalso
      obtain ⟨e, rfl⟩ : ∃ e : Int, d = -e := ⟨-d, by omega⟩
      have h0 : (0 : Int) ≤ e := by omega
      rw [Int.neg_tdiv, Int.tdiv_eq_ediv_of_nonneg h0] at a1
      rw [Int.neg_tmod, Int.tmod_eq_emod_of_nonneg h0] at c1
      rw [Int.neg_tmod, Int.tmod_eq_emod_of_nonneg h0, Int.neg_tdiv,
        Int.tdiv_eq_ediv_of_nonneg (Int.emod_nonneg e (by omega))] at b1
      omega
    · rintro ⟨h, _⟩; exact absurd h hd

theorem compareLoop_spec (g1 g2 : Gencode) : ∀ (k x : Nat), x + k ≤ g1.basic.length → x + k ≤ g2.basic.length →
    x + k ≤ g1.isInit.length → x + k ≤ g2.isInit.length →
    ∃ r, compareLoop g1 g2 k x = some r ∧
      (r = true ↔ ∀ i, x ≤ i → i < x + k → g1.basic[i]? = g2.basic[i]? ∧ g1.isInit[i]? = g2.isInit[i]?)
  | 0, x, _, _, _, _ => ⟨true, rfl, by simp; intro i h1 h2; omega⟩
  | k+1, x, h1, h2, h3, h4 => by
    have a1 : x < g1.basic.length := by omega
    have a2 : x < g2.basic.length := by omega
    have a3 : x < g1.isInit.length := by omega
    have a4 : x < g2.isInit.length := by omega
    simp only [compareLoop, List.getElem?_eq_getElem a1, List.getElem?_eq_getElem a2, List.getElem?_eq_getElem a3,
      List.getElem?_eq_getElem a4, Option.bind_eq_bind, Option.bind_some]
    by_cases hb : g1.basic[x] = g2.basic[x]
    · by_cases hi : g1.isInit[x] = g2.isInit[x]
      · simp only [hb, hi, ne_eq, not_true_eq_false, ↓reduceIte]
        obtain ⟨r, e1, e2⟩ := compareLoop_spec g1 g2 k (x+1) (by omega) (by omega) (by omega) (by omega)
        refine ⟨r, e1, e2.trans ⟨fun h i hx hk => ?_, fun h i hx hk => h i (by omega) (by omega)⟩⟩
        by_cases hxi : i = x
        · subst hxi
          simp [List.getElem?_eq_getElem a1, List.getElem?_eq_getElem a2, List.getElem?_eq_getElem a3, List.getElem?_eq_getElem a4, hb, hi]
        · exact h i (by omega) (by omega)
      · simp only [hb, ne_eq, not_true_eq_false, ↓reduceIte, hi, not_false_eq_true]
        refine ⟨false, rfl, by simp; exact ⟨x, Nat.le_refl _, by omega, fun _ => by
          simp [List.getElem?_eq_getElem a3, List.getElem?_eq_getElem a4, hi]⟩⟩
    · simp only [ne_eq, hb, not_false_eq_true, ↓reduceIte]
      refine ⟨false, rfl, by simp; exact ⟨x, Nat.le_refl _, by omega, fun h => by
        simp [List.getElem?_eq_getElem a1, List.getElem?_eq_getElem a2, hb] at h⟩⟩

theorem compare_spec (n1 a1 n2 a2 : Nat) (g1 g2 : Gencode) (md : Bool)
    (h1 : g1.basic.length = 64) (h2 : g2.basic.length = 64) (h3 : g1.isInit.length = 64) (h4 : g2.isInit.length = 64) :
    ∃ r, compare n1 a1 n2 a2 g1 g2 md = some r ∧
      (r = true ↔ (n1 = n2 ∧ a1 = a2 ∧ (md = true → g1.translTable = g2.translTable ∧ g1.desc = g2.desc) ∧
        g1.basic = g2.basic ∧ g1.isInit = g2.isInit)) := by
  unfold compare
  by_cases hn : n1 = n2
  · by_cases ha : a1 = a2
    · by_cases hm : (md && (g1.translTable ≠ g2.translTable || g1.desc ≠ g2.desc)) = true
      · simp only [hn, ha, ne_eq, not_true_eq_false, ↓reduceIte, hm]
        refine ⟨false, rfl, ?_⟩
        simp only [Bool.false_eq_true, false_iff, not_and]
        intro _ _ hmm
        simp only [ne_eq, Bool.and_eq_true, Bool.or_eq_true, decide_eq_true_eq] at hm
        obtain ⟨q1, q2⟩ := hmm hm.1
        rcases hm.2 with q | q
        · exact absurd q1 q
        · exact absurd q2 q
      · simp only [hn, ha, ne_eq, not_true_eq_false, ↓reduceIte, hm, Bool.false_eq_true]
        obtain ⟨r, e1, e2⟩ := compareLoop_spec g1 g2 64 0 (by omega) (by omega) (by omega) (by omega)
        refine ⟨r, e1, e2.trans ⟨fun h => ⟨trivial, trivial, ?_, ?_, ?_⟩, fun h i _ hi => by rw [h.2.2.2.1, h.2.2.2.2]; exact ⟨rfl, rfl⟩⟩⟩
        · intro hmt
          simp [hmt] at hm
          exact ⟨hm.1, hm.2⟩
        · apply List.ext_getElem? ; intro i
          by_cases hi : i < 64
          · exact (h i (by omega) (by omega)).1
          · rw [List.getElem?_eq_none (by omega), List.getElem?_eq_none (by omega)]
        · apply List.ext_getElem? ; intro i
          by_cases hi : i < 64
          · exact (h i (by omega) (by omega)).2
          · rw [List.getElem?_eq_none (by omega), List.getElem?_eq_none (by omega)]
    · simp only [hn, ne_eq, not_true_eq_false, ↓reduceIte, ha, not_false_eq_true]
      exact ⟨false, rfl, by simp [ha]⟩
  · simp only [ne_eq, hn, not_false_eq_true, ↓reduceIte]
    exact ⟨false, rfl, by simp [hn]⟩

theorem out_of_alphabet_faults (nt aa : Alphabet) (g : Gencode) (a b c : Nat) (ha : nt.degen.length ≤ a) (hk : nt.K ≤ a) :
    getTranslation nt aa g a b c = none ∧ isInitiator nt g a b c = none := by
  have hc : nt.xIsCanonical a = false := by simp [Alphabet.xIsCanonical]; omega
  have hd : nt.degen[a]? = none := List.getElem?_eq_none ha
  constructor
  · simp [getTranslation, hc, loopX, hd]
  · simp [isInitiator, hc, loopX, hd]
theorem processPiece_short (nt aa : Alphabet) (g : Gencode) (cfg : Cfg) (w : Work) (d : List Nat) (h : d.length < 3) :
    processPiece nt aa g cfg w d = some w := by
  match d, h with
  | [], _ => rfl
  | [_], _ => rfl
  | [_, _], _ => rfl

theorem processPiece_one (nt aa : Alphabet) (g : Gencode) (cfg : Cfg) (w : Work) (a b c : Nat) :
    processPiece nt aa g cfg w [a, b, c] = pieceStep nt aa g cfg w a b c := by
  simp only [processPiece]
  cases pieceStep nt aa g cfg w a b c <;> rfl

/-- the lines of the dump: two header lines, then one line `"%3d %s"` per row of the table array, in array order -/
def dumpLines (tabs : List RawTable) : List String :=
  ["id  description", "--- -----------------------------------"] ++ tabs.map fun t => pad3 t.id ++ " " ++ t.desc

theorem join_map_append (l : List String) (f : String → String) (g : RawTable → String) (tabs : List RawTable) :
    String.join (l ++ tabs.map fun t => f (g t)) = String.join l ++ String.join (tabs.map fun t => f (g t)) := by
  induction l with
  | nil => simp [String.join]
  | cons a l ih => simp [String.join_cons, ih, String.append_assoc]

theorem dump_eq_lines (tabs : List RawTable) :
    dumpAltCodeTable tabs = String.join ((dumpLines tabs).map (· ++ "\n")) := by
  unfold dumpAltCodeTable dumpLines
  simp only [List.map_append, List.map_cons, List.map_nil, List.map_map]
  have : ∀ ts : List RawTable, String.join (ts.map fun t => pad3 t.id ++ " " ++ t.desc ++ "\n") =
      String.join (ts.map ((fun x => x ++ "\n") ∘ fun t => pad3 t.id ++ " " ++ t.desc)) := fun ts => rfl
  rw [this]
  simp [String.join_cons, String.append_assoc]
  have e : "id  description\n--- -----------------------------------\n" =
      "id  description\n" ++ "--- -----------------------------------\n" := by decide
  rw [e, String.append_assoc]

theorem fastaLines_spec : ∀ (fuel : Nat) (l : List Nat), l.length ≤ fuel → (∀ x ∈ l, x ≠ 10) →
    (fastaLines fuel l).filter (· ≠ 10) = l ∧ (fastaLines fuel l).count 10 = (l.length + 59) / 60 := by
  intro fuel
  induction fuel with
  | zero =>
    intro l hl _
    have : l = [] := List.length_eq_zero_iff.mp (by omega)
    subst this
    exact ⟨rfl, rfl⟩
  | succ fuel ih =>
    intro l hl hne
    cases l with
    | nil => exact ⟨rfl, rfl⟩
    | cons a t =>
      have hdrop : ((a :: t).drop 60).length ≤ fuel := by simp only [List.length_drop, List.length_cons] at hl ⊢; omega
      obtain ⟨i1, i2⟩ := ih ((a :: t).drop 60) hdrop (fun x hx => hne x (List.mem_of_mem_drop hx))
      have htake : ∀ x ∈ (a :: t).take 60, x ≠ 10 := fun x hx => hne x (List.mem_of_mem_take hx)
      have e : fastaLines (fuel + 1) (a :: t) = (a :: t).take 60 ++ [10] ++ fastaLines fuel ((a :: t).drop 60) := by
        simp [fastaLines]
      rw [e]
      constructor
      · rw [List.filter_append, List.filter_append, i1]
        have f1 : ((a :: t).take 60).filter (· ≠ 10) = (a :: t).take 60 :=
          List.filter_eq_self.mpr (fun x hx => by simpa using htake x hx)
        rw [f1]
        simp
      · rw [List.count_append, List.count_append, i2]
        have c1 : ((a :: t).take 60).count 10 = 0 := List.count_eq_zero.mpr (fun h => htake 10 h rfl)
        rw [c1]
        simp only [List.length_drop, List.length_cons, List.count_cons_self, List.count_nil]
        omega

theorem fastaOrf_spec (aa : Alphabet) (source desc : String) (o : Orf) (hs : ∀ x ∈ o.aa, aa.sym.getD x 63 ≠ 10) :
    ∃ lines, fastaOrf aa source desc o = strBytes (">" ++ orfName o ++ " " ++ orfDesc source desc o ++ "\n") ++ lines ∧
      lines.filter (· ≠ 10) = o.aa.map (fun x => aa.sym.getD x 63) ∧ lines.count 10 = (o.aa.length + 59) / 60 := by
  refine ⟨_, rfl, ?_⟩
  have := fastaLines_spec o.aa.length (o.aa.map fun x => aa.sym.getD x 63) (by simp)
    (fun y hy => by obtain ⟨x, hx, rfl⟩ := List.mem_map.mp hy; exact hs x hx)
  simpa using this

end EaselModel.Gencode
