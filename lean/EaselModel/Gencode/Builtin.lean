import EaselModel.Generated.Gencode
import EaselModel.Generated.Alphabets
/-! # C17 — the built-in tables as dumped from the code under check, and the three initiator settings -/
namespace EaselModel.Gencode
open EaselModel.Alphabet
namespace T
export EaselModel.Generated.Gencode (tables)
end T
namespace A
export EaselModel.Generated.Alphabets (dna rna amino)
end A

/-- a genetic code object set from a table row (`esl_gencode_Set`) -/
def codeOf (t : RawTable) : Gencode := { translTable := t.id, desc := t.desc, basic := t.basic, isInit := t.init }

/-- the three initiator settings esl-translate offers: table's own (`-M`), any sense codon (default), ATG only (`-m`) -/
def settings (g : Gencode) : List Gencode := [g, setInitiatorAny A.amino g, setInitiatorOnlyAUG A.dna g]

end EaselModel.Gencode
