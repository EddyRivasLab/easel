import EaselModel.Gencode.OrfOrder
/-! # C17 — consecutive record numbers: a chain of (number, end coordinate) is numbered, and numbered lists append -/
namespace EaselModel.Gencode
open EaselModel.Alphabet

/-- newest-first list of record numbers `n0 + len, …, n0 + 2, n0 + 1` -/
def Numbered (n0 : Nat) : List Nat → Prop
  | [] => True
  | n :: rest => n = n0 + rest.length + 1 ∧ Numbered n0 rest

theorem Chain.numbered (dir : Int) (n0 : Nat) : ∀ (l : List (Nat × Int)) (ub : Int), Chain dir n0 ub l → Numbered n0 (l.map (·.1)) := by
  intro l
  induction l with
  | nil => intro _ _; trivial
  | cons p rest ih =>
    intro ub h
    obtain ⟨n, s⟩ := p
    exact ⟨by simpa using h.1, ih _ h.2.2⟩

theorem Numbered.append (n0 : Nat) (l1 : List Nat) : ∀ l2, Numbered (n0 + l1.length) l2 → Numbered n0 l1 → Numbered n0 (l2 ++ l1) := by
  intro l2
  induction l2 with
  | nil => intro _ h; exact h
  | cons n rest ih =>
    intro h2 h1
    refine ⟨?_, ih h2.2 h1⟩
    show n = n0 + (rest ++ l1).length + 1
    have := h2.1
    rw [List.length_append]
    omega

end EaselModel.Gencode
