import EaselModel.Msafile.ClustalWritable
/-! Clustal: re-writing the re-read alignment reproduces the same bytes (`write (project m) = write m`). -/
namespace EaselModel.Msafile

theorem foldl_congr_mem {α β : Type} (l : List β) (f g : α → β → α) (a : α) (h : ∀ x, ∀ b ∈ l, f x b = g x b) :
    l.foldl f a = l.foldl g a := by
  induction l generalizing a with
  | nil => rfl
  | cons b t ih =>
    simp only [List.foldl_cons]
    rw [h a b (by simp)]
    exact ih _ (fun x b' hb' => h x b' (by simp [hb']))

theorem clustalWriteV_congr (like : Bool) (ver : Bytes) (abc : Option Abc) (m m' : Msa) (hn : m'.names = m.names)
    (ha : m'.alen = m.alen) (hcons : consensusLine abc m' = consensusLine abc m)
    (hrow : ∀ i, i < m.nseq → ∀ apos, seqChunk abc m' i apos clustalCpl = seqChunk abc m i apos clustalCpl) :
    clustalWriteV like ver abc m' = clustalWriteV like ver abc m := by
  have hns : m'.nseq = m.nseq := by simp [Msa.nseq, hn]
  have hblk : ∀ apos, clustalBlockLines abc m' (maxWidth m.names) (consensusLine abc m) apos
      = clustalBlockLines abc m (maxWidth m.names) (consensusLine abc m) apos := by
    intro apos
    unfold clustalBlockLines
    rw [hns, hn]
    congr 2
    apply List.map_congr_left
    intro i hi
    rw [hrow i (List.mem_range.mp hi)]
  unfold clustalWriteV clustalLines
  simp only [hn, ha, hcons, funext hblk]

theorem textConsensusLine_congr (m m' : Msa) (hns : m'.nseq = m.nseq) (ha : m'.alen = m.alen)
    (hrow : ∀ i, i < m.nseq → m'.aseq.getD i [] = m.aseq.getD i []) : textConsensusLine m' = textConsensusLine m := by
  unfold textConsensusLine
  rw [ha]
  apply List.map_congr_left
  intro apos _
  have : textColMask m' apos = textColMask m apos := by
    unfold textColMask
    rw [hns]
    apply foldl_congr_mem
    intro v idx hidx
    simp only [aseqAt, hrow idx (List.mem_range.mp hidx)]
  simp only [this]

theorem digitalConsensusLine_congr (a : Abc) (m m' : Msa) (hns : m'.nseq = m.nseq) (ha : m'.alen = m.alen)
    (hrow : ∀ i, i < m.nseq → m'.ax.getD i [] = m.ax.getD i []) : digitalConsensusLine a m' = digitalConsensusLine a m := by
  unfold digitalConsensusLine
  rw [ha]
  apply List.map_congr_left
  intro apos _
  have : digitalColMask m' apos = digitalColMask m apos := by
    unfold digitalColMask
    rw [hns]
    apply foldl_congr_mem
    intro v idx hidx
    simp only [axAt, hrow idx (List.mem_range.mp hidx)]
  simp only [this]

/-- **Clustal, text mode: `write (project m) = write m`** -/
theorem clustalWrite_project_text (like : Bool) (m : Msa) (h : ClustalTextWritable m) :
    clustalWrite like none (clustalProject (clustalCfg none) m) = clustalWrite like none m := by
  have hrow : ∀ i, i < m.nseq → (clustalProject (clustalCfg none) m).aseq.getD i [] = m.aseq.getD i [] :=
    m.storedRows_text h.dig
  exact clustalWriteV_congr like easelVersion none m _ rfl rfl (textConsensusLine_congr m _ rfl rfl hrow)
    (fun i hi apos => by simp only [seqChunk, hrow i hi])

/-- **Clustal, digital mode: `write (project m) = write m`** -/
theorem clustalWrite_project_digital (like : Bool) (a : Abc) (m : Msa) (h : ClustalDigitalWritable a m) :
    clustalWrite like (some a) (clustalProject (clustalCfg (some a)) m) = clustalWrite like (some a) m := by
  have hrow : ∀ i, i < m.nseq → (clustalProject (clustalCfg (some a)) m).ax.getD i [] = m.ax.getD i [] :=
    m.storedRows_digital h.dig
  exact clustalWriteV_congr like easelVersion (some a) m _ rfl rfl (digitalConsensusLine_congr a m _ rfl rfl hrow)
    (fun i hi apos => by simp only [seqChunk, hrow i hi])

end EaselModel.Msafile
