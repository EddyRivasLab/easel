import EaselModel.Msafile.Reads
import EaselModel.Msafile.Afa
import EaselModel.Core.ListWhile
import EaselModel.Core.ListLookup
/-! Aligned FASTA: reading what `esl_msafile_afa_Write` wrote gives the alignment back (C03). -/
namespace EaselModel.Msafile

theorem chunks60_flatten (b : Bytes) : (chunks60 b).flatten = b := by
  induction b using chunks60.induct with
  | case1 b h hb => unfold chunks60; simp [h, hb]; exact (List.isEmpty_iff.mp hb)
  | case2 b h hb => unfold chunks60; simp [h, hb]
  | case3 b h ih => unfold chunks60; simp [h, ih]

theorem chunks60_ne (b : Bytes) : ∀ c ∈ chunks60 b, c ≠ [] := by
  induction b using chunks60.induct with
  | case1 b h hb => unfold chunks60; simp [h, hb]
  | case2 b h hb =>
    unfold chunks60; simp only [h, hb]; intro c hc
    simp at hc; subst hc; intro h0; simp [h0] at hb
  | case3 b h ih =>
    unfold chunks60; simp only [h]; intro c hc
    simp only [dite_false, List.mem_cons] at hc
    rcases hc with hc | hc
    · subst hc; intro h0
      have h1 : (List.take 60 b).length = 0 := by rw [h0]; rfl
      rw [List.length_take] at h1
      omega
    · exact ih c hc

theorem chunks60_mem (b : Bytes) : ∀ c ∈ chunks60 b, ∀ x ∈ c, x ∈ b := by
  intro c hc x hx
  have : x ∈ (chunks60 b).flatten := List.mem_flatten.mpr ⟨c, hc, hx⟩
  rwa [chunks60_flatten] at this

theorem mapLoop_enc (m : InMap) (enc : UInt8 → UInt8) :
    ∀ (text : Bytes) (acc : Bytes), (∀ t ∈ text, mapByte m t = (.ok, some (enc t))) →
      mapLoop m text .ok acc = (.ok, (text.map enc).reverse ++ acc) := by
  intro text
  induction text with
  | nil => intro acc _; simp [mapLoop]
  | cons t text ih =>
    intro acc h
    have ht := h t (by simp)
    unfold mapLoop
    rw [ht]
    simp only
    rw [ih (enc t :: acc) (fun t' ht' => h t' (by simp [ht']))]
    simp

/-- the stored form of a row: text rows are the symbols, digital rows are sentinel-delimited codes -/
def mkRow (digital : Bool) (codes : Bytes) : Bytes :=
  if digital then dsqSENTINEL :: codes ++ [dsqSENTINEL] else codes

/-- the symbols/codes accumulated so far in the row under construction -/
def curCodes (digital : Bool) (cur : Option Bytes) : Bytes :=
  if digital then dsqCodes cur else cur.getD []

@[simp] theorem curCodes_none (d : Bool) : curCodes d none = [] := by cases d <;> simp [curCodes, dsqCodes]

@[simp] theorem curCodes_mkRow (d : Bool) (codes : Bytes) : curCodes d (some (mkRow d codes)) = codes := by
  cases d <;> simp [curCodes, mkRow, dsqCodes]

theorem rowLen_mkRow (d : Bool) (codes : Bytes) : rowLen d (some (mkRow d codes)) = codes.length := by
  cases d <;> simp [rowLen, mkRow]

/-- a written piece: not empty, made of symbols the input map turns back into the stored symbol, none of them blank, and not
    starting a new record -/
structure PieceOk (cfg : Cfg) (enc : UInt8 → UInt8) (c : Bytes) : Prop where
  ne : c ≠ []
  maps : ∀ t ∈ c, mapByte cfg.inmap t = (.ok, some (enc t))
  nospace : ∀ t ∈ c, isSpace t = false
  nogt : ∀ t ∈ c, t ≠ 62

theorem phy_cat_plain (cfg : Cfg) (enc : UInt8 → UInt8) (cur : Option Bytes) (c : Bytes) (hne : c ≠ [])
    (hmaps : ∀ t ∈ c, mapByte cfg.inmap t = (.ok, some (enc t))) :
    (if cfg.digital then dsqcat cfg.inmap cur c else strmapcat cfg.inmap cur c)
      = (.ok, some (mkRow cfg.digital (curCodes cfg.digital cur ++ c.map enc))) := by
  have hne' : c.isEmpty = false := by
    cases c with
    | nil => exact absurd rfl hne
    | cons _ _ => rfl
  have hm := mapLoop_enc cfg.inmap enc c [] hmaps
  cases hd : cfg.digital with
  | true =>
    simp only [if_true, dsqcat, hne', Bool.false_eq_true, if_false, hm, List.append_nil, List.reverse_reverse, mkRow, curCodes]
  | false =>
    simp only [Bool.false_eq_true, if_false, strmapcat, hne', hm, List.append_nil, List.reverse_reverse, mkRow, curCodes]

theorem afaStep_piece (cfg : Cfg) (enc : UInt8 → UInt8) (st : AfaSt) (c : Bytes) (h : PieceOk cfg enc c) (hl : st.lead = false) :
    afaStep cfg st c = .inl { st with cur := some (mkRow cfg.digital (curCodes cfg.digital st.cur ++ c.map enc)) } := by
  cases c with
  | nil => exact absurd rfl h.ne
  | cons t ts =>
    have hsp : isSpace t = false := h.nospace t (by simp)
    have hgt : (t == 62) = false := by simpa using h.nogt t (by simp)
    have hdw : (t :: ts).dropWhile isSpace = t :: ts := by simp [List.dropWhile, hsp]
    unfold afaStep
    simp only [hl, Bool.false_eq_true, if_false, hdw, hgt]
    rw [phy_cat_plain cfg enc st.cur (t :: ts) h.ne h.maps]

theorem afaSteps_pieces (cfg : Cfg) (enc : UInt8 → UInt8) :
    ∀ (cs : List Bytes) (st : AfaSt), (∀ c ∈ cs, PieceOk cfg enc c) → st.lead = false → cs ≠ [] →
      stepsFrom (afaStep cfg) st cs =
        .inl { st with cur := some (mkRow cfg.digital (curCodes cfg.digital st.cur ++ cs.flatten.map enc)) } := by
  intro cs
  induction cs with
  | nil => intro st _ _ hne; exact absurd rfl hne
  | cons c cs ih =>
    intro st hcs hl _
    simp only [stepsFrom]
    rw [afaStep_piece cfg enc st c (hcs c (by simp)) hl]
    simp only
    by_cases hcs0 : cs = []
    · subst hcs0; simp [stepsFrom]
    · have h1 := ih { st with cur := some (mkRow cfg.digital (curCodes cfg.digital st.cur ++ c.map enc)) }
        (fun c' hc' => hcs c' (by simp [hc'])) hl hcs0
      rw [h1]
      simp [List.append_assoc]

/-- a sequence name that survives: not empty, no blank, tab or NUL (`esl_memtok` delimiters) -/
def nameOk (nm : Bytes) : Prop := nm ≠ [] ∧ ∀ c ∈ nm, inDelim blankTab c = false

/-- a description that survives: not empty, does not start with a delimiter, no NUL -/
def descOk (d : Bytes) : Prop := (∃ c t, d = c :: t ∧ inDelim blankTab c = false) ∧ ∀ c ∈ d, c ≠ 0

/-- `esl_memtok` also skips the delimiters behind the token -/
theorem memtok_eq (p delim : Bytes) :
    memtok p delim = (splitTok (inDelim delim) p).map fun x => (x.1, x.2.dropWhile (inDelim delim)) := by
  simp only [memtok, splitTok]
  split <;> rfl

theorem memtok_name (nm : Bytes) (h : nameOk nm) : memtok nm blankTab = some (nm, []) := by
  rw [memtok_eq, show nm = List.replicate 0 32 ++ nm from rfl, splitTok_last (inDelim blankTab) rfl 0 nm h.1 h.2]
  rfl

/-- a run of blanks behind a field -/
def SpOk (sp : Bytes) : Prop := sp ≠ [] ∧ ∀ c ∈ sp, c = 32

theorem tok32 : SpOk [32] := ⟨by simp, by simp⟩

/-- a token, blanks, and a rest that does not begin with a delimiter: `esl_memtok` gives the token and the rest -/
theorem memtok_tok (nm sp rest : Bytes) (hn : nameOk nm) (hs : SpOk sp)
    (hr : ∀ c, rest.head? = some c → inDelim blankTab c = false) :
    memtok (nm ++ sp ++ rest) blankTab = some (nm, rest) := by
  obtain ⟨s, sp', rfl⟩ := List.exists_cons_of_ne_nil hs.1
  obtain rfl := hs.2 s (by simp)
  rw [List.append_assoc, List.cons_append, memtok_eq, splitTok_word (inDelim blankTab) rfl nm _ hn.1 hn.2]
  show some (nm, (32 :: sp' ++ rest).dropWhile (inDelim blankTab)) = _
  rw [List.dropWhile_append_of_pos (fun x hx => by rw [hs.2 x hx]; rfl)]
  cases rest with
  | nil => rfl
  | cons c r => simp [List.dropWhile, hr c rfl]

theorem memtok_name_desc (nm d : Bytes) (h : nameOk nm) (hd : descOk d) : memtok (nm ++ 32 :: d) blankTab = some (nm, d) := by
  obtain ⟨⟨c0, t0, rfl, hc0⟩, _⟩ := hd
  have := memtok_tok nm [32] (c0 :: t0) h tok32 fun c hc => by cases hc; exact hc0
  rwa [List.append_assoc] at this

/-- the header of a record as written -/
def headerOf (nm : Bytes) (desc : Option Bytes) : Bytes :=
  62 :: (nm ++ (match desc with | some d => 32 :: d | none => []))

theorem afaStartRecord_header (st : AfaSt) (nm : Bytes) (desc : Option Bytes) (hn : nameOk nm)
    (hd : ∀ d, desc = some d → descOk d) (ha : st.idx ≤ st.sqalloc ∧ 0 < st.sqalloc) :
    afaStartRecord st (headerOf nm desc) =
      .inl { st with lead := false, sqalloc := expandAlloc st.idx st.sqalloc, names := st.names ++ [nm],
                     sqdesc := setOptRowO st.sqdesc st.idx desc, cur := none } := by
  have hex : ¬ (st.idx ≥ expandAlloc st.idx st.sqalloc) := by
    obtain ⟨ha1, ha2⟩ := ha
    unfold expandAlloc
    split <;> omega
  have hnm0 : ∀ c ∈ nm, c ≠ 0 := fun c hc h0 => by
    have := hn.2 c hc; subst h0; simp [inDelim] at this
  obtain ⟨c, t, hnm⟩ : ∃ c t, nm = c :: t := by
    cases nm with
    | nil => exact absurd rfl hn.1
    | cons c t => exact ⟨c, t, rfl⟩
  cases desc with
  | none =>
    unfold afaStartRecord
    simp only [headerOf, List.append_nil]
    have hlen' : ¬ ((62 :: nm).length ≤ 1) := by simp [hnm]
    simp only [hlen', decide_false, Bool.false_or, bne_self_eq_false, Bool.false_eq_true, if_false, memtok_name nm hn, hex,
      List.isEmpty_nil, if_true, cstr_id nm hnm0, setOptRowO]
  | some d =>
    have hdk := hd d rfl
    unfold afaStartRecord
    simp only [headerOf]
    have hlen' : ¬ ((62 :: (nm ++ 32 :: d)).length ≤ 1) := by simp [hnm]
    have hdne : d.isEmpty = false := by
      obtain ⟨⟨c0, t0, hd0, _⟩, _⟩ := hdk; subst hd0; rfl
    simp only [hlen', decide_false, Bool.false_or, bne_self_eq_false, Bool.false_eq_true, if_false, memtok_name_desc nm d hn hdk, hex,
      hdne, cstr_id nm hnm0, cstr_id d hdk.2, setOptRowO]

/-- row `i` as the alignment object stores it -/
def Msa.stored (m : Msa) (i : Nat) : Bytes := if m.digital then m.ax.getD i [] else m.aseq.getD i []

/-- every projection but A2M's keeps the rows as `(List.range m.nseq).map m.stored` -/
theorem Msa.storedRows_text (m : Msa) (h : m.digital = false) (i : Nat) (hi : i < m.nseq) :
    ((List.range m.nseq).map m.stored).getD i [] = m.aseq.getD i [] := by
  rw [getD_map_range _ _ i _ hi, Msa.stored, h]; rfl
theorem Msa.storedRows_digital (m : Msa) (h : m.digital = true) (i : Nat) (hi : i < m.nseq) :
    ((List.range m.nseq).map m.stored).getD i [] = m.ax.getD i [] := by
  rw [getD_map_range _ _ i _ hi, Msa.stored, h]; rfl

/-- the per-sequence descriptions an AFA file carries for the first `k` records, as the reader rebuilds them -/
def afaDescs (m : Msa) : Nat → OptRows
  | 0 => none
  | k + 1 => setOptRowO (afaDescs m k) k (optAt m.sqdesc k)

/-- everything aligned FASTA can represent of `m`: names, rows, descriptions; default weights -/
def afaProject (cfg : Cfg) (m : Msa) : Msa :=
  { digital := cfg.digital, kp := cfg.kp, alen := m.alen, names := m.names,
    aseq := if cfg.digital then [] else (List.range m.nseq).map m.stored,
    ax := if cfg.digital then (List.range m.nseq).map m.stored else [],
    hasw := false, wgt := List.replicate m.nseq Wgt.dflt,
    sqdesc := padOptRows (afaDescs m m.nseq) m.nseq }

/-- an alignment that aligned FASTA can carry and `esl_msafile_afa_Write` + `esl_msafile_afa_Read` (configuration `cfg`) preserve.
    `enc` sends a written symbol to the stored symbol. -/
structure AfaWritable (abc : Option Abc) (cfg : Cfg) (enc : UInt8 → UInt8) (m : Msa) : Prop where
  dig : m.digital = cfg.digital
  n1 : 1 ≤ m.nseq
  alen1 : 1 ≤ m.alen
  acc_none : m.sqacc = none
  name_ok : ∀ i, i < m.nseq → nameOk (m.names.getD i [])
  desc_ok : ∀ i, i < m.nseq → ∀ d, optAt m.sqdesc i = some d → descOk d
  hdr_line : ∀ i, i < m.nseq → lineOk (afaHeader m i)
  row_len : ∀ i, i < m.nseq → ((m.rowText abc i).take m.alen).length = m.alen
  row_sym : ∀ i, i < m.nseq → ∀ t ∈ (m.rowText abc i).take m.alen,
    mapByte cfg.inmap t = (.ok, some (enc t)) ∧ isSpace t = false ∧ t ≠ 62
  row_enc : ∀ i, i < m.nseq → m.stored i = mkRow cfg.digital (((m.rowText abc i).take m.alen).map enc)

/-- the reader's state after the name line and sequence lines of record `j`, which is still open -/
structure AfterRec (m : Msa) (j : Nat) (st : AfaSt) : Prop where
  lead : st.lead = false
  names : st.names = m.names.take (j + 1)
  rows : st.rows = (List.range j).map m.stored
  idx : st.idx = j
  alloc : st.idx < st.sqalloc
  alen : st.alen = 0 ∨ st.alen = m.alen
  cur : st.cur = some (m.stored j)
  descs : st.sqdesc = afaDescs m (j + 1)

theorem afaHeader_eq (abc : Option Abc) (cfg : Cfg) (enc : UInt8 → UInt8) (m : Msa) (h : AfaWritable abc cfg enc m) (i : Nat) :
    afaHeader m i = headerOf (m.names.getD i []) (optAt m.sqdesc i) := by
  have hacc : optAt m.sqacc i = none := by simp [optAt, h.acc_none]
  unfold afaHeader headerOf
  rw [hacc]
  cases optAt m.sqdesc i <;> simp

theorem pieces_ok (abc : Option Abc) (cfg : Cfg) (enc : UInt8 → UInt8) (m : Msa) (h : AfaWritable abc cfg enc m) (i : Nat) (hi : i < m.nseq) :
    (∀ c ∈ chunks60 ((m.rowText abc i).take m.alen), PieceOk cfg enc c) ∧ chunks60 ((m.rowText abc i).take m.alen) ≠ [] := by
  constructor
  · intro c hc
    have hmem := chunks60_mem _ c hc
    exact { ne := chunks60_ne _ c hc,
            maps := fun t ht => (h.row_sym i hi t (hmem t ht)).1,
            nospace := fun t ht => (h.row_sym i hi t (hmem t ht)).2.1,
            nogt := fun t ht => (h.row_sym i hi t (hmem t ht)).2.2 }
  · intro h0
    have := chunks60_flatten ((m.rowText abc i).take m.alen)
    rw [h0] at this
    have hl := h.row_len i hi
    rw [← this] at hl
    simp at hl
    have := h.alen1
    omega

/-- the reader between two records, `k` of them stored (also the initial state, `k = 0`) -/
structure BeforeRec (m : Msa) (k : Nat) (st : AfaSt) : Prop where
  names : st.names = m.names.take k
  rows : st.rows = (List.range k).map m.stored
  idx : st.idx = k
  alloc : st.idx ≤ st.sqalloc ∧ 0 < st.sqalloc
  alen : st.alen = 0 ∨ st.alen = m.alen
  descs : st.sqdesc = afaDescs m k

theorem afaFinishRecord_after (abc : Option Abc) (cfg : Cfg) (enc : UInt8 → UInt8) (m : Msa) (h : AfaWritable abc cfg enc m)
    (j : Nat) (hj : j < m.nseq) (st : AfaSt) (hst : AfterRec m j st) :
    ∃ st0, afaFinishRecord cfg st = .inl st0 ∧ st0.alen = m.alen ∧ BeforeRec m (j + 1) st0 := by
  have hlen : rowLen cfg.digital st.cur = m.alen := by
    rw [hst.cur, h.row_enc j hj, rowLen_mkRow]
    simpa using h.row_len j hj
  have ha1 := h.alen1
  have h0 : (m.alen == 0) = false := by simp; omega
  have h1 : (st.alen != 0 && st.alen != m.alen) = false := by
    rcases hst.alen with h | h <;> simp [h]
  refine ⟨{ st with rows := st.rows ++ [m.stored j], idx := st.idx + 1, alen := m.alen, cur := none }, ?_, rfl, ?_⟩
  · unfold afaFinishRecord
    simp only [hlen]
    simp only [h0, Bool.false_eq_true, if_false, h1, hst.cur]
  · exact
      { names := hst.names
        rows := by show st.rows ++ [m.stored j] = _; rw [hst.rows, List.range_succ, List.map_append]; rfl
        idx := by show st.idx + 1 = j + 1; rw [hst.idx]
        alloc := by show st.idx + 1 ≤ st.sqalloc ∧ 0 < st.sqalloc; have := hst.alloc; omega
        alen := Or.inr rfl
        descs := hst.descs }

theorem afaRecord_from (abc : Option Abc) (cfg : Cfg) (enc : UInt8 → UInt8) (m : Msa) (h : AfaWritable abc cfg enc m)
    (k : Nat) (hk : k < m.nseq) (st0 : AfaSt) (hb : BeforeRec m k st0) :
    ∃ st1 st', afaStartRecord st0 (afaHeader m k) = .inl st1 ∧
      stepsFrom (afaStep cfg) st1 (chunks60 ((m.rowText abc k).take m.alen)) = .inl st' ∧ AfterRec m k st' := by
  have hstart := afaStartRecord_header st0 (m.names.getD k []) (optAt m.sqdesc k) (h.name_ok k hk) (h.desc_ok k hk) hb.alloc
  rw [← afaHeader_eq abc cfg enc m h k] at hstart
  obtain ⟨hp, hpne⟩ := pieces_ok abc cfg enc m h k hk
  have hsteps := afaSteps_pieces cfg enc (chunks60 ((m.rowText abc k).take m.alen))
    { st0 with lead := false, sqalloc := expandAlloc st0.idx st0.sqalloc, names := st0.names ++ [m.names.getD k []],
               sqdesc := setOptRowO st0.sqdesc st0.idx (optAt m.sqdesc k), cur := none }
    hp rfl hpne
  refine ⟨_, _, hstart, hsteps, ?_⟩
  have hlt : k < m.names.length := hk
  exact
    { lead := rfl
      names := by
        show st0.names ++ [m.names.getD k []] = m.names.take (k + 1)
        rw [hb.names, List.take_succ]
        simp [List.getD_eq_getElem?_getD, List.getElem?_eq_getElem hlt]
      rows := hb.rows
      idx := hb.idx
      alloc := by
        show st0.idx < expandAlloc st0.idx st0.sqalloc
        have := hb.alloc
        unfold expandAlloc
        split <;> omega
      alen := hb.alen
      cur := by
        show some (mkRow cfg.digital (curCodes cfg.digital none ++ (chunks60 ((m.rowText abc k).take m.alen)).flatten.map enc))
          = some (m.stored k)
        rw [chunks60_flatten, curCodes_none, List.nil_append, h.row_enc k hk]
      descs := by
        show setOptRowO st0.sqdesc st0.idx (optAt m.sqdesc k) = afaDescs m (k + 1)
        rw [hb.idx, hb.descs]
        simp only [afaDescs] }

theorem afaSteps_record (abc : Option Abc) (cfg : Cfg) (enc : UInt8 → UInt8) (m : Msa) (h : AfaWritable abc cfg enc m)
    (j : Nat) (hj : j + 1 < m.nseq) (st : AfaSt) (hst : AfterRec m j st) :
    ∃ st', stepsFrom (afaStep cfg) st (afaRecLines abc m (j + 1)) = .inl st' ∧ AfterRec m (j + 1) st' := by
  obtain ⟨st0, hfin, _, hb⟩ := afaFinishRecord_after abc cfg enc m h j (by omega) st hst
  obtain ⟨st1, st', hstart, hsteps, ha⟩ := afaRecord_from abc cfg enc m h (j + 1) hj st0 hb
  -- a `>` line closes the record before it
  have hhdr : afaStep cfg st (afaHeader m (j + 1)) = .inl st1 := by
    rw [← hstart, afaHeader_eq abc cfg enc m h (j + 1)]
    unfold afaStep
    simp [hst.lead, headerOf, List.dropWhile, isSpace, hfin]
  refine ⟨st', ?_, ha⟩
  show stepsFrom (afaStep cfg) st (afaHeader m (j + 1) :: chunks60 ((m.rowText abc (j + 1)).take m.alen)) = _
  simp only [stepsFrom, hhdr]
  exact hsteps

theorem afaSteps_first (abc : Option Abc) (cfg : Cfg) (enc : UInt8 → UInt8) (m : Msa) (h : AfaWritable abc cfg enc m) :
    ∃ st', stepsFrom (afaStep cfg) {} (afaRecLines abc m 0) = .inl st' ∧ AfterRec m 0 st' := by
  obtain ⟨st1, st', hstart, hsteps, ha⟩ := afaRecord_from abc cfg enc m h 0 h.n1 {}
    { names := rfl, rows := rfl, idx := rfl, alloc := ⟨by decide, by decide⟩, alen := Or.inl rfl, descs := rfl }
  have hhdr : afaStep cfg {} (afaHeader m 0) = .inl st1 := by
    rw [← hstart, afaHeader_eq abc cfg enc m h 0]
    unfold afaStep
    simp [headerOf, isBlankLine, inDelim, blankTab, List.dropWhile, isSpace]
  refine ⟨st', ?_, ha⟩
  show stepsFrom (afaStep cfg) {} (afaHeader m 0 :: chunks60 ((m.rowText abc 0).take m.alen)) = _
  simp only [stepsFrom, hhdr]
  exact hsteps

theorem afaFinish_after (abc : Option Abc) (cfg : Cfg) (enc : UInt8 → UInt8) (m : Msa) (h : AfaWritable abc cfg enc m)
    (st : AfaSt) (hst : AfterRec m (m.nseq - 1) st) : afaFinish cfg st = .ok (afaProject cfg m) := by
  have hn := h.n1
  obtain ⟨st0, hfin, halen, hb⟩ := afaFinishRecord_after abc cfg enc m h (m.nseq - 1) (by omega) st hst
  rw [show m.nseq - 1 + 1 = m.nseq by omega] at hb
  unfold afaFinish
  simp only [hst.lead, Bool.false_eq_true, if_false, hfin]
  have hnames : st0.names = m.names := by rw [hb.names]; exact List.take_length
  simp only [afaProject, hb.idx, hb.rows, hnames, hb.descs, halen]

theorem afaRecLines_ok (abc : Option Abc) (cfg : Cfg) (enc : UInt8 → UInt8) (m : Msa) (h : AfaWritable abc cfg enc m) (k : Nat)
    (hk : k < m.nseq) : ∀ l ∈ afaRecLines abc m k, lineOk l := fun l hl => by
  rcases List.mem_cons.mp hl with hl | hl
  · subst hl; exact h.hdr_line k hk
  · exact lineOk_of_notSpace l fun t ht => (h.row_sym k hk t (chunks60_mem _ l hl t ht)).2.1

theorem afaLines_reads (abc : Option Abc) (cfg : Cfg) (enc : UInt8 → UInt8) (m : Msa) (h : AfaWritable abc cfg enc m) :
    Reads (afaStep cfg) (· = {}) (afaWriteLines abc m) (fun st => AfterRec m (m.nseq - 1) st) :=
  Reads.rangeFrom (R := AfterRec m) h.n1
    ⟨afaRecLines_ok abc cfg enc m h 0 h.n1, fun _ e => e ▸ afaSteps_first abc cfg enc m h⟩
    fun j hj => ⟨afaRecLines_ok abc cfg enc m h (j + 1) hj, afaSteps_record abc cfg enc m h j hj⟩

/-- **AFA round trip on lines**: reading the lines `esl_msafile_afa_Write` prints gives back everything AFA can represent -/
theorem afaRead_writeLines (abc : Option Abc) (cfg : Cfg) (enc : UInt8 → UInt8) (m : Msa) (h : AfaWritable abc cfg enc m) :
    afaRead cfg (afaWriteLines abc m) = (.ok (afaProject cfg m), []) :=
  (afaLines_reads abc cfg enc m h).readLines (afaFinish_after abc cfg enc m h)

/-- **AFA round trip on bytes**: reading what `esl_msafile_afa_Write` prints gives back everything AFA can represent -/
theorem afaRead_write (abc : Option Abc) (cfg : Cfg) (enc : UInt8 → UInt8) (m : Msa) (h : AfaWritable abc cfg enc m) :
    afaRead cfg (splitLines (afaWrite abc m)) = (.ok (afaProject cfg m), []) :=
  (afaLines_reads abc cfg enc m h).read (afaFinish_after abc cfg enc m h)

end EaselModel.Msafile
