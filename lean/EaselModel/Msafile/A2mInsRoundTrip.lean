import EaselModel.Msafile.A2mWritable
/-! A2M: reading what `esl_msafile_a2m_Write` wrote gives the alignment back (C03).  The dotless output holds upper-case
    residues / `-` in consensus columns and lower-case residues (or nothing) in insert columns; the reader counts the inserted
    residues of every record between consecutive consensus characters, takes the maximum over the records and pads every run
    of inserts on its right up to that maximum.  The reader sees only the text, so the walk is done once, for any character rows
    `W i` with `nc` consensus characters each (`A2mRows`, `a2mRead_rows`); alignments with insert columns (`nc` = number of
    consensus columns) and without (`nc = alen`, A2mInsIdem.lean) are its two instances. -/
namespace EaselModel.Msafile

/-- the characters `esl_msafile_a2m_Write` prints for sequence `i` (all lines of the record concatenated) -/
def a2mWr (abc : Option Abc) (m : Msa) (i : Nat) : Bytes := (List.range m.alen).filterMap (a2mChar abc m i)

theorem chunks60_full (b X : Bytes) (h : b.length = 60) : chunks60 (b ++ X) = b :: chunks60 X := by
  by_cases hX : X = []
  · subst hX
    rw [List.append_nil, chunks60_nil, chunks60_short b (by omega) (by intro h0; subst h0; simp at h)]
  · have hl : 60 < (b ++ X).length := by
      have : 0 < X.length := List.length_pos_iff.mpr hX
      simp only [List.length_append]; omega
    rw [chunks60_long _ hl]
    have h1 : (b ++ X).take 60 = b := by rw [← h, List.take_left]
    have h2 : (b ++ X).drop 60 = X := by rw [← h, List.drop_left]
    rw [h1, h2]

theorem a2mSeqLoop_filterMap (abc : Option Abc) (m : Msa) (i : Nat) :
    ∀ (ps : List Nat) (buf : Bytes), buf.length ≤ 60 →
      a2mSeqLoop abc m i ps buf = chunks60 (buf.reverse ++ ps.filterMap (a2mChar abc m i)) := by
  intro ps
  induction ps with
  | nil =>
    intro buf hb
    unfold a2mSeqLoop
    by_cases he : buf = []
    · subst he; simp [chunks60_nil]
    · have h1 : buf.isEmpty = false := by cases buf with | nil => exact absurd rfl he | cons _ _ => rfl
      simp only [h1, Bool.false_eq_true, if_false, List.filterMap_nil, List.append_nil]
      rw [chunks60_short _ (by simpa using hb) (by simpa using he)]
  | cons p ps ih =>
    intro buf hb
    unfold a2mSeqLoop
    simp only [a2mCpl]
    by_cases hf : buf.length ≥ 60
    · have hlen : buf.reverse.length = 60 := by simp only [List.length_reverse]; omega
      simp only [hf, if_true, List.singleton_append]
      cases hc : a2mChar abc m i p with
      | none =>
        simp only [List.filterMap_cons, hc]
        rw [ih [] (by simp), chunks60_full _ _ hlen]
        simp
      | some c =>
        simp only [List.filterMap_cons, hc]
        rw [ih [c] (by simp), chunks60_full _ _ hlen]
        simp
    · simp only [hf, if_false, List.nil_append]
      cases hc : a2mChar abc m i p with
      | none =>
        simp only [List.filterMap_cons, hc]
        rw [ih buf hb]
      | some c =>
        simp only [List.filterMap_cons, hc]
        rw [ih (c :: buf) (by simp only [List.length_cons]; omega)]
        simp

theorem a2mSeqLines_wr (abc : Option Abc) (m : Msa) (i : Nat) :
    a2mSeqLoop abc m i (List.range m.alen) [] = chunks60 (a2mWr abc m i) := by
  rw [a2mSeqLoop_filterMap abc m i _ [] (by simp)]
  simp [a2mWr]

/-- a character the writer prints in an insert column: a lower-case letter other than `o` -/
def insChar (t : UInt8) : Prop := isLower t = true ∧ a2mSkip t = false

def wrChar (t : UInt8) : Prop := consChar t ∨ insChar t

theorem wrChar_plain (t : UInt8) (h : wrChar t) : isSpace t = false ∧ t ≠ 62 := by
  rcases h with h | h
  · exact consChar_plain t h
  · have := isLower_facts t h.1
    exact ⟨this.2.2.1, this.2.2.2.1⟩

/-- a written piece of a row: not empty, written characters only, each mapped back to `enc t` by the input map -/
structure InsPieceOk (cfg : Cfg) (enc : UInt8 → UInt8) (c : Bytes) : Prop where
  ne : c ≠ []
  wr : ∀ t ∈ c, wrChar t
  maps : ∀ t ∈ c, mapByte cfg.inmap t = (.ok, some (enc t))

theorem InsPieceOk.toPieceOk {cfg : Cfg} {enc : UInt8 → UInt8} {c : Bytes} (h : InsPieceOk cfg enc c) : PieceOk cfg enc c :=
  { ne := h.ne, maps := h.maps,
    nospace := fun t ht => (wrChar_plain t (h.wr t ht)).1,
    nogt := fun t ht => (wrChar_plain t (h.wr t ht)).2 }

theorem wrChar_ne0 (t : UInt8) (h : wrChar t) : t ≠ 0 := by
  rcases h with h | h
  · exact (consByte_facts t h.1).2.2.2
  · exact (isLower_facts t h.1).2.2.2.2

theorem kept_wr (p : Bytes) (hp : ∀ t ∈ p, wrChar t) : kept p = p :=
  List.filter_eq_self.mpr fun t ht => by
    rcases hp t ht with h | h
    · rcases h.1 with hu | he
      · simp [a2mFlagged, h.2, hu]
      · subst he; decide
    · simp [a2mFlagged, h.2, h.1]

/-- a written piece goes through: the input map takes every byte, none is NUL, and the record has room for its consensus characters -/
theorem a2mSeqLine_ins (cfg : Cfg) (enc : UInt8 → UInt8) (st : A2mSt) (c : Bytes) (h : InsPieceOk cfg enc c) (w : Bytes)
    (hcodes : curCodes cfg.digital st.cur = w.map enc)
    (X : List Bool) (z : Nat) (J : List Nat) (hr : RecAt cfg.digital st w X z J)
    (hz : st.nseq ≠ 0 → consCount w + consCount c ≤ st.ncons) :
    a2mSeqLine cfg st c = .inl { st with
        cur := some (mkRow cfg.digital ((w ++ c).map enc)),
        fl := flagsOf (w ++ c) ++ [true],
        tc := consCount (w ++ c),
        tn := (runsL [] 0 (w ++ c)).1 ++ (runsL [] 0 (w ++ c)).2 ::
                (List.replicate ((if st.nseq == 0 then c.length else z) - consCount c) 0 ++ (if st.nseq == 0 then [] else J)) } := by
  have hrun := a2mSeqLine_run cfg st c w X z J hr
  rw [phy_cat_plain cfg enc st.cur c h.toPieceOk.ne h.toPieceOk.maps, hcodes] at hrun
  have hk := kept_wr c h.wr
  revert hrun
  cases a2mSeqLine cfg st c with
  | inl st' => intro hh; rw [hh.2.2.2, hk, List.map_append]
  | inr r =>
    intro hh
    rcases hh.2 with h1 | h1 | h1
    · exact absurd rfl h1
    · exact absurd rfl (wrChar_ne0 0 (h.wr 0 h1))
    · have := hz h1.1; rw [hk, consCount_append] at h1; omega

/-- `nins[0..nc]` after the first `k` records whose written rows are `W 0 … W (k-1)` -/
def ninsUpTo (nc : Nat) (W : Nat → Bytes) : Nat → List Nat
  | 0 => List.replicate (nc + 1) 0
  | k + 1 => List.zipWith max (ninsUpTo nc W k) (segLens (splitRow (W k)))

/-- the alignment `esl_msafile_a2m_Read` builds from records with the names and descriptions of `m` and the sequence text `W i`,
    each with `nc` consensus characters -/
def a2mReadBack (cfg : Cfg) (enc : UInt8 → UInt8) (m : Msa) (nc : Nat) (W : Nat → Bytes) : Msa :=
  { digital := cfg.digital, kp := cfg.kp, alen := nc + (ninsUpTo nc W m.nseq).sum, names := m.names,
    aseq := if cfg.digital then [] else
      (List.range m.nseq).map fun i => mkRow cfg.digital (padSegs cfg.padSym (ninsUpTo nc W m.nseq) (segMap enc (splitRow (W i)))),
    ax := if cfg.digital then
      (List.range m.nseq).map fun i => mkRow cfg.digital (padSegs cfg.padSym (ninsUpTo nc W m.nseq) (segMap enc (splitRow (W i)))) else [],
    hasw := false, wgt := List.replicate m.nseq Wgt.dflt,
    rf := some (rfOf (ninsUpTo nc W m.nseq)),
    sqdesc := padOptRows (afaDescs m m.nseq) m.nseq }

/-- A2M text the reader takes back: name lines as for aligned FASTA; every sequence character is one the writer may print, the
    input map sends it to `enc`; every record has `nc` consensus characters -/
structure A2mRows (cfg : Cfg) (enc : UInt8 → UInt8) (m : Msa) (nc : Nat) (W : Nat → Bytes) : Prop where
  n1 : 1 ≤ m.nseq
  acc_none : m.sqacc = none
  name_ok : ∀ i, i < m.nseq → nameOk (m.names.getD i [])
  desc_ok : ∀ i, i < m.nseq → ∀ d, optAt m.sqdesc i = some d → descOk d
  hdr_line : ∀ i, i < m.nseq → lineOk (a2mHeader m i)
  wr : ∀ i, i < m.nseq → ∀ t ∈ W i, wrChar t ∧ mapByte cfg.inmap t = (.ok, some (enc t))
  ncons : ∀ i, i < m.nseq → consCount (W i) = nc

/-- the reader inside a record of which the written characters `w` were read so far -/
def insSt (d : Bool) (enc : UInt8 → UInt8) (st0 : A2mSt) (w : Bytes) (Z : List Nat) : A2mSt :=
  { st0 with cur := some (mkRow d (w.map enc)), fl := flagsOf w ++ [true], tc := consCount w,
             tn := (runsL [] 0 w).1 ++ (runsL [] 0 w).2 :: Z }

theorem a2mStep_wr (cfg : Cfg) (st : A2mSt) (c : Bytes) (hl : st.lead = false) (hne : c ≠ [])
    (hc : ∀ t ∈ c, wrChar t) : a2mStep cfg st c = a2mSeqLine cfg st c := by
  cases c with
  | nil => exact absurd rfl hne
  | cons t ts =>
    have hp := wrChar_plain t (hc t (by simp))
    have hgt : (t == 62) = false := by simpa using hp.2
    have hdw : (t :: ts).dropWhile isSpace = t :: ts := by simp [List.dropWhile, hp.1]
    unfold a2mStep
    simp only [hl, Bool.false_eq_true, if_false, hdw, hgt]

theorem insSt_recAt (d : Bool) (enc : UInt8 → UInt8) (st0 : A2mSt) (w : Bytes) (z : Nat) (J : List Nat)
    (hz : st0.nseq ≠ 0 → consCount w ≤ st0.ncons ∧ st0.ncons ≤ consCount w + z) :
    RecAt d (insSt d enc st0 w (List.replicate z 0 ++ J)) w [true] z J :=
  { len := by simp [insSt, rowLen_mkRow], fl := rfl, X1 := by simp, tc := rfl, tn := rfl, room := hz }

/-- what is left of `this_nins[]` behind the cell `[this_ncons]` after one more line -/
def insZ (st0 : A2mSt) (c : Bytes) (z : Nat) (J : List Nat) : List Nat :=
  List.replicate ((if st0.nseq == 0 then c.length else z) - consCount c) 0 ++ (if st0.nseq == 0 then [] else J)

/-- one written piece, from a record in normal form: the characters read grow by the piece -/
theorem insStep (cfg : Cfg) (enc : UInt8 → UInt8) (st : A2mSt) (w c : Bytes) (X : List Bool) (z : Nat) (J : List Nat)
    (h : InsPieceOk cfg enc c) (hl : st.lead = false)
    (hcodes : curCodes cfg.digital st.cur = w.map enc)
    (hr : RecAt cfg.digital st w X z J) (hz : st.nseq ≠ 0 → consCount w + consCount c ≤ st.ncons) :
    a2mStep cfg st c = .inl (insSt cfg.digital enc st (w ++ c) (insZ st c z J)) := by
  rw [a2mStep_wr cfg st c hl h.ne h.wr, a2mSeqLine_ins cfg enc st c h w hcodes X z J hr hz]
  rfl

theorem insSteps (cfg : Cfg) (enc : UInt8 → UInt8) :
    ∀ (cs : List Bytes) (st : A2mSt) (w : Bytes) (X : List Bool) (z : Nat) (J : List Nat), cs ≠ [] →
      (∀ c ∈ cs, InsPieceOk cfg enc c) → st.lead = false →
      curCodes cfg.digital st.cur = w.map enc →
      RecAt cfg.digital st w X z J → (st.nseq ≠ 0 → consCount w + consCount cs.flatten ≤ st.ncons) →
      ∃ Z, stepsFrom (a2mStep cfg) st cs = .inl (insSt cfg.digital enc st (w ++ cs.flatten) Z) := by
  intro cs
  induction cs with
  | nil => intro _ _ _ _ _ hne; exact absurd rfl hne
  | cons c cs ih =>
    intro st w X z J _ hcs hl hcodes hr hz
    have hzc : st.nseq ≠ 0 → consCount w + consCount c + consCount cs.flatten ≤ st.ncons := fun h0 => by
      have := hz h0; simp only [List.flatten_cons, consCount_append] at this; omega
    simp only [stepsFrom]
    rw [insStep cfg enc st w c X z J (hcs c (by simp)) hl hcodes hr (fun h0 => by have := hzc h0; omega)]
    by_cases hcs0 : cs = []
    · subst hcs0; exact ⟨insZ st c z J, by simp [stepsFrom]⟩
    · obtain ⟨Z, hZ⟩ := ih (insSt cfg.digital enc st (w ++ c) (insZ st c z J)) (w ++ c) [true] _ _ hcs0
        (fun c' hc' => hcs c' (by simp [hc'])) hl (by simp [insSt])
        (insSt_recAt _ enc st (w ++ c) _ _ fun h0 => by
          have := hzc h0; have := hr.room h0
          have hb : (st.nseq == 0) = false := by simpa using h0
          simp only [consCount_append, hb, Bool.false_eq_true, if_false]; omega)
        (fun h0 => by have := hzc h0; simp only [consCount_append]; exact this)
      exact ⟨Z, by simp only; rw [hZ]; simp [insSt, List.append_assoc]⟩

theorem take_runs' (A : List Nat) (n : Nat) (Z : List Nat) (N : Nat) (hN : A.length = N) : (A ++ n :: Z).take (N + 1) = A ++ [n] := by
  subst hN; exact take_runs A n Z

def a2mRowsLines (m : Msa) (W : Nat → Bytes) : List Bytes := (List.range m.nseq).flatMap fun i => a2mHeader m i :: chunks60 (W i)

section
variable {cfg : Cfg} {enc : UInt8 → UInt8} {m : Msa} {nc : Nat} {W : Nat → Bytes}

theorem a2mInsPieces_ok (h : A2mRows cfg enc m nc W) (i : Nat) (hi : i < m.nseq) :
    ∀ c ∈ chunks60 (W i), InsPieceOk cfg enc c := by
  intro c hc
  have hmem := chunks60_mem _ c hc
  exact { ne := chunks60_ne _ c hc,
          wr := fun t ht => (h.wr i hi t (hmem t ht)).1,
          maps := fun t ht => (h.wr i hi t (hmem t ht)).2 }

theorem runLens_length (h : A2mRows cfg enc m nc W) (i : Nat) (hi : i < m.nseq) :
    (segLens (splitRow (W i))).length = nc + 1 := by
  rw [segLens_length, h.ncons i hi]

theorem ninsUpTo_length (h : A2mRows cfg enc m nc W) : ∀ k, k ≤ m.nseq → (ninsUpTo nc W k).length = nc + 1 := by
  intro k
  induction k with
  | zero => intro _; simp [ninsUpTo]
  | succ k ih =>
    intro hk
    simp only [ninsUpTo, List.length_zipWith, ih (by omega), runLens_length h k (by omega), Nat.min_self]

theorem runLens_le (h : A2mRows cfg enc m nc W) : ∀ k, k ≤ m.nseq → ∀ i, i < k →
    leAll (segLens (splitRow (W i))) (ninsUpTo nc W k) := by
  intro k
  induction k with
  | zero => intro _ i hi; omega
  | succ k ih =>
    intro hk i hi
    have hl : (ninsUpTo nc W k).length = (segLens (splitRow (W k))).length := by
      rw [ninsUpTo_length h k (by omega), runLens_length h k (by omega)]
    by_cases hik : i = k
    · subst hik
      exact leAll_zipWith_right _ _ hl
    · exact leAll_zipWith_left _ _ _ hl (ih (by omega) i (by omega))


/-- record `i` as the reader keeps it until the padding phase: the unaligned row and its `csflag` row (with sentinel) -/
def a2mInsRec (cfg : Cfg) (enc : UInt8 → UInt8) (W : Nat → Bytes) (i : Nat) : Bytes × List Bool :=
  (mkRow cfg.digital ((W i).map enc), flagsOf (W i) ++ [true])

/-- the reader just after the name line of record `k` -/
structure InsStarted (cfg : Cfg) (enc : UInt8 → UInt8) (m : Msa) (nc : Nat) (W : Nat → Bytes) (k : Nat) (st : A2mSt) : Prop where
  lead : st.lead = false
  names : st.names = m.names.take (k + 1)
  recs : st.recs = (List.range k).map (a2mInsRec cfg enc W)
  nseq : st.nseq = k
  alloc : st.nseq < st.sqalloc
  descs : st.sqdesc = afaDescs m (k + 1)
  cur : st.cur = none
  fl : st.fl = []
  tc : st.tc = 0
  tn : ∃ z J, st.tn = 0 :: (List.replicate z 0 ++ J) ∧ (k ≠ 0 → z = nc)
  later : k ≠ 0 → st.ncons = nc ∧ st.nins = ninsUpTo nc W k

/-- the reader after the lines of records `0 … j` (record `j` not closed yet) -/
structure InsAfter (cfg : Cfg) (enc : UInt8 → UInt8) (m : Msa) (nc : Nat) (W : Nat → Bytes) (j : Nat) (st : A2mSt) : Prop where
  lead : st.lead = false
  names : st.names = m.names.take (j + 1)
  recs : st.recs = (List.range j).map (a2mInsRec cfg enc W)
  nseq : st.nseq = j
  alloc : st.nseq < st.sqalloc
  descs : st.sqdesc = afaDescs m (j + 1)
  curfl : (W j ≠ [] ∧ st.cur = some (mkRow cfg.digital ((W j).map enc)) ∧
             st.fl = flagsOf (W j) ++ [true]) ∨
          (W j = [] ∧ st.cur = none ∧ st.fl = [])      -- a record without sequence lines
  tc : st.tc = nc
  tn : ∃ Z, st.tn = (runsL [] 0 (W j)).1 ++ (runsL [] 0 (W j)).2 :: Z
  later : j ≠ 0 → st.ncons = nc ∧ st.nins = ninsUpTo nc W j

/-- the reader after record `k-1` was closed -/
structure InsBetw (cfg : Cfg) (enc : UInt8 → UInt8) (m : Msa) (nc : Nat) (W : Nat → Bytes) (k : Nat) (st : A2mSt) : Prop where
  lead : st.lead = false
  names : st.names = m.names.take k
  recs : st.recs = (List.range k).map (a2mInsRec cfg enc W)
  nseq : st.nseq = k
  alloc : st.nseq ≤ st.sqalloc ∧ 0 < st.sqalloc
  descs : st.sqdesc = afaDescs m k
  ncons : st.ncons = nc
  nins : st.nins = ninsUpTo nc W k
  tnlen : nc + 1 ≤ st.tn.length


theorem insStarted_after (h : A2mRows cfg enc m nc W) (k : Nat) (hk : k < m.nseq) (st0 : A2mSt)
    (hs : InsStarted cfg enc m nc W k st0) :
    ∃ st, stepsFrom (a2mStep cfg) st0 (chunks60 (W k)) = .inl st ∧
      InsAfter cfg enc m nc W k st := by
  have hp := a2mInsPieces_ok h k hk
  obtain ⟨z, J, htn, hz⟩ := hs.tn
  by_cases hW : W k = []
  · refine ⟨st0, by rw [hW, chunks60_nil]; rfl, ?_⟩
    have hnc := h.ncons k hk
    rw [hW] at hnc
    exact
      { lead := hs.lead, names := hs.names, recs := hs.recs, nseq := hs.nseq, alloc := hs.alloc, descs := hs.descs,
        curfl := Or.inr ⟨hW, hs.cur, hs.fl⟩, tc := by rw [hs.tc, ← hnc]; rfl,
        tn := ⟨List.replicate z 0 ++ J, by rw [htn, hW]; rfl⟩,
        later := fun h0 => hs.later h0 }
  have hpne : chunks60 (W k) ≠ [] := by
    intro h0
    have := chunks60_flatten (W k)
    rw [h0] at this
    exact hW this.symm
  have hflat : (chunks60 (W k)).flatten = W k := chunks60_flatten _
  have hroom : st0.nseq ≠ 0 → st0.ncons = nc ∧ z = nc := fun h0 => by
    have hk0 : k ≠ 0 := by rw [← hs.nseq]; exact h0
    exact ⟨(hs.later hk0).1, hz hk0⟩
  obtain ⟨Z, hsteps⟩ := insSteps cfg enc _ st0 [] [] z J hpne hp hs.lead (by rw [hs.cur]; simp)
    { len := by rw [hs.cur]; rfl, fl := hs.fl, X1 := by simp, tc := hs.tc, tn := htn
      room := fun h0 => by have := hroom h0; simp only [consCount_nil]; omega }
    (fun h0 => by rw [hflat, h.ncons k hk, (hroom h0).1]; simp)
  rw [hflat, List.nil_append] at hsteps
  refine ⟨_, hsteps, ?_⟩
  exact
    { lead := hs.lead, names := hs.names, recs := hs.recs, nseq := hs.nseq, alloc := hs.alloc, descs := hs.descs,
      curfl := Or.inl ⟨hW, rfl, rfl⟩, tc := h.ncons k hk, tn := ⟨Z, rfl⟩,
      later := fun h0 => hs.later h0 }

theorem insAfter_finish (h : A2mRows cfg enc m nc W) (j : Nat) (hj : j < m.nseq) (st : A2mSt)
    (hs : InsAfter cfg enc m nc W j st) :
    ∃ st', a2mFinishRecord cfg st = .inl st' ∧ InsBetw cfg enc m nc W (j + 1) st' := by
  obtain ⟨Z, htn⟩ := hs.tn
  have hc : (if (rowLen cfg.digital st.cur == 0) = true then some (if cfg.digital = true then [dsqSENTINEL, dsqSENTINEL] else [])
      else st.cur) = some (a2mInsRec cfg enc W j).1 := by
    rcases hs.curfl with ⟨hne, hcur, _⟩ | ⟨hW, hcur, _⟩
    · have h0 : ((W j).length == 0) = false := by
        have : 0 < (W j).length := List.length_pos_iff.mpr hne
        simp; omega
      rw [hcur, rowLen_mkRow, List.length_map, h0]
      rfl
    · rw [hcur]
      simp only [rowLen, beq_self_eq_true, if_true, a2mInsRec, hW, List.map_nil, mkRow]
      cases cfg.digital <;> rfl
  have hf : (if (rowLen cfg.digital st.cur == 0) = true then [true] else st.fl) = (a2mInsRec cfg enc W j).2 := by
    rcases hs.curfl with ⟨hne, hcur, hfl⟩ | ⟨hW, hcur, _⟩
    · have h0 : ((W j).length == 0) = false := by
        have : 0 < (W j).length := List.length_pos_iff.mpr hne
        simp; omega
      rw [hcur, rowLen_mkRow, List.length_map, h0, hfl]
      rfl
    · rw [hcur]
      simp only [rowLen, beq_self_eq_true, if_true, a2mInsRec, hW, flagsOf_nil, List.nil_append]
  have hA : (runsL [] 0 (W j)).1.length = nc := by rw [runsL_length, h.ncons j hj]; simp
  have htake : st.tn.take (nc + 1) = segLens (splitRow (W j)) := by
    rw [htn, take_runs' _ _ _ _ hA, runsL_runLens]
  have htl : nc + 1 ≤ st.tn.length := by
    rw [htn]; simp only [List.length_append, List.length_cons, hA]; omega
  have hrecs : st.recs ++ [a2mInsRec cfg enc W j] = (List.range (j + 1)).map (a2mInsRec cfg enc W) := by
    rw [hs.recs, List.range_succ]; simp
  have halloc : st.nseq + 1 ≤ st.sqalloc ∧ 0 < st.sqalloc := by have := hs.alloc; omega
  by_cases hj0 : j = 0
  · have hn0 : st.nseq = 0 := by rw [hs.nseq, hj0]
    have htl' : ¬ (st.tn.length < st.tc + 1) := by rw [hs.tc]; omega
    refine ⟨{ st with ncons := st.tc, nins := st.tn.take (st.tc + 1),
                      recs := st.recs ++ [((a2mInsRec cfg enc W j).1, (a2mInsRec cfg enc W j).2)], nseq := st.nseq + 1,
                      cur := none, fl := [] }, ?_, ?_⟩
    · unfold a2mFinishRecord
      simp only [hc, hf, hn0, beq_self_eq_true, if_true, htl', if_false]
    · exact
        { lead := hs.lead, names := hs.names,
          recs := hrecs,
          nseq := by show st.nseq + 1 = j + 1; rw [hs.nseq],
          alloc := halloc, descs := hs.descs, ncons := hs.tc,
          nins := by
            show st.tn.take (st.tc + 1) = _
            rw [hs.tc, htake, hj0]
            have hl := runLens_length h 0 (by omega)
            show _ = List.zipWith max (List.replicate (nc + 1) 0) (segLens (splitRow (W 0)))
            rw [← hl, zipWith_max_zeros],
          tnlen := htl }
  · obtain ⟨hnc, hni⟩ := hs.later hj0
    have hn0 : (st.nseq == 0) = false := by rw [hs.nseq]; simpa using hj0
    have htc : (st.tc != st.ncons) = false := by rw [hs.tc, hnc]; simp
    have hnl : st.nins.length = nc + 1 := by rw [hni, ninsUpTo_length h j (by omega)]
    have htl2 : (decide (st.tn.length < st.ncons + 1) || decide (st.nins.length < st.ncons + 1)) = false := by
      rw [hnc, hnl]
      have : ¬ (st.tn.length < nc + 1) := by omega
      simp [this]
    refine ⟨{ st with nins := List.zipWith max (st.nins.take (st.ncons + 1)) (st.tn.take (st.ncons + 1)),
                      recs := st.recs ++ [((a2mInsRec cfg enc W j).1, (a2mInsRec cfg enc W j).2)], nseq := st.nseq + 1,
                      cur := none, fl := [] }, ?_, ?_⟩
    · unfold a2mFinishRecord
      simp only [hc, hf, hn0, Bool.false_eq_true, if_false, htc, htl2]
    · exact
        { lead := hs.lead, names := hs.names,
          recs := hrecs,
          nseq := by show st.nseq + 1 = j + 1; rw [hs.nseq],
          alloc := halloc, descs := hs.descs, ncons := hnc,
          nins := by
            show List.zipWith max (st.nins.take (st.ncons + 1)) (st.tn.take (st.ncons + 1)) = _
            rw [hnc, htake, List.take_of_length_le (by omega), hni]
            rfl,
          tnlen := htl }

theorem a2mInsHeader_eq (hacc : m.sqacc = none) (i : Nat) :
    a2mHeader m i = headerOf (m.names.getD i []) (optAt m.sqdesc i) := by
  have hacc' : optRow m.sqacc i = none := by simp [optRow, hacc]
  have hd : optRow m.sqdesc i = optAt m.sqdesc i := rfl
  unfold a2mHeader headerOf
  rw [hacc', hd]
  cases optAt m.sqdesc i <;> simp

theorem insBetw_start (h : A2mRows cfg enc m nc W) (k : Nat) (_hk0 : k ≠ 0) (hk : k < m.nseq) (st : A2mSt)
    (hs : InsBetw cfg enc m nc W k st) :
    ∃ st0, a2mStartRecord st (a2mHeader m k) = .inl st0 ∧ InsStarted cfg enc m nc W k st0 := by
  have hlen := hs.tnlen
  have htne : st.tn.isEmpty = false := by
    cases htn : st.tn with
    | nil => rw [htn] at hlen; simp at hlen
    | cons _ _ => rfl
  have htn1 : (if st.tn.isEmpty then [0] else st.tn) = st.tn := by simp [htne]
  have hstart := a2mStartRecord_header st (m.names.getD k []) (optAt m.sqdesc k) (h.name_ok k hk) (h.desc_ok k hk) hs.alloc
    (by rw [htn1, hs.ncons]; exact hlen)
  rw [← a2mInsHeader_eq h.acc_none k] at hstart
  refine ⟨_, hstart, ?_⟩
  exact
    { lead := rfl,
      names := by show st.names ++ [m.names.getD k []] = _; rw [hs.names]; exact names_take_succ k hk,
      recs := hs.recs, nseq := hs.nseq,
      alloc := by
        show st.nseq < expandAlloc st.nseq st.sqalloc
        have := hs.alloc
        unfold expandAlloc
        split <;> omega,
      descs := by
        show setOptRowO st.sqdesc st.nseq (optAt m.sqdesc k) = afaDescs m (k + 1)
        rw [hs.nseq, hs.descs]; simp only [afaDescs],
      cur := rfl, fl := rfl, tc := rfl,
      tn := ⟨nc, st.tn.drop (nc + 1), by
        show List.replicate (st.ncons + 1) 0 ++ (if st.tn.isEmpty then [0] else st.tn).drop (st.ncons + 1) = _
        rw [htn1, hs.ncons, List.replicate_succ]; rfl, fun _ => rfl⟩,
      later := fun _ => ⟨hs.ncons, hs.nins⟩ }

theorem insInit_start (h : A2mRows cfg enc m nc W) :
    ∃ st0, a2mStartRecord {} (a2mHeader m 0) = .inl st0 ∧ InsStarted cfg enc m nc W 0 st0 := by
  have hk : 0 < m.nseq := h.n1
  have hstart := a2mStartRecord_header {} (m.names.getD 0 []) (optAt m.sqdesc 0) (h.name_ok 0 hk) (h.desc_ok 0 hk)
    ⟨by decide, by decide⟩ (by decide)
  rw [← a2mInsHeader_eq h.acc_none 0] at hstart
  refine ⟨_, hstart, ?_⟩
  exact
    { lead := rfl,
      names := by show [] ++ [m.names.getD 0 []] = _; exact names_take_succ 0 hk,
      recs := rfl, nseq := rfl,
      alloc := by show 0 < expandAlloc 0 16; decide,
      descs := by show setOptRowO none 0 (optAt m.sqdesc 0) = afaDescs m 1; simp [afaDescs],
      cur := rfl, fl := rfl, tc := rfl,
      tn := ⟨0, [], rfl, fun h0 => absurd rfl h0⟩,
      later := fun h0 => absurd rfl h0 }

theorem insSteps_record (h : A2mRows cfg enc m nc W) (j : Nat) (hk : j + 1 < m.nseq) (st : A2mSt)
    (hst : InsAfter cfg enc m nc W j st) :
    ∃ st', stepsFrom (a2mStep cfg) st ((a2mHeader m (j + 1) :: chunks60 (W (j + 1)))) = .inl st' ∧ InsAfter cfg enc m nc W (j + 1) st' := by
  obtain ⟨st1, hfin, hb⟩ := insAfter_finish h j (by omega) st hst
  obtain ⟨st0, hstart, hs0⟩ := insBetw_start h (j + 1) (by omega) hk st1 hb
  obtain ⟨st', hsteps, ha⟩ := insStarted_after h (j + 1) hk st0 hs0
  have hhdr : a2mStep cfg st (a2mHeader m (j + 1)) = .inl st0 := by
    rw [← hstart, a2mInsHeader_eq h.acc_none (j + 1)]
    show a2mStep cfg st (62 :: _) = _
    rw [a2mStep_gt cfg st _ hst.lead, hfin]
    rfl
  refine ⟨st', ?_, ha⟩
  show stepsFrom (a2mStep cfg) st (a2mHeader m (j + 1) :: chunks60 (W (j + 1))) = _
  simp only [stepsFrom, hhdr]
  exact hsteps

theorem insSteps_first (h : A2mRows cfg enc m nc W) :
    ∃ st', stepsFrom (a2mStep cfg) {} ((a2mHeader m 0 :: chunks60 (W 0))) = .inl st' ∧ InsAfter cfg enc m nc W 0 st' := by
  obtain ⟨st0, hstart, hs0⟩ := insInit_start (cfg := cfg) (enc := enc) h
  obtain ⟨st', hsteps, ha⟩ := insStarted_after h 0 h.n1 st0 hs0
  have hhdr : a2mStep cfg {} (a2mHeader m 0) = .inl st0 := by
    rw [← hstart, a2mInsHeader_eq h.acc_none 0]
    show a2mStep cfg {} (62 :: _) = _
    rw [a2mStep_gt_lead cfg {} _ rfl]
    rfl
  refine ⟨st', ?_, ha⟩
  show stepsFrom (a2mStep cfg) {} (a2mHeader m 0 :: chunks60 (W 0)) = _
  simp only [stepsFrom, hhdr]
  exact hsteps

theorem a2mPad_insBetw (h : A2mRows cfg enc m nc W) (st : A2mSt) (hs : InsBetw cfg enc m nc W m.nseq st) :
    a2mPad cfg st = .ok (a2mReadBack cfg enc m nc W) := by
  have hnl : (ninsUpTo nc W m.nseq).length = nc + 1 := ninsUpTo_length h m.nseq (Nat.le_refl _)
  obtain ⟨n0, ns, hn⟩ : ∃ n0 ns, ninsUpTo nc W m.nseq = n0 :: ns := by
    cases hh : ninsUpTo nc W m.nseq with
    | nil => rw [hh] at hnl; simp at hnl
    | cons a b => exact ⟨a, b, rfl⟩
  have hnsl : ns.length = nc := by rw [hn] at hnl; simpa using hnl
  have hall : padAll cfg (n0 :: ns) (st.ncons + (n0 :: ns).sum) st.recs
      = some ((List.range m.nseq).map fun i => mkRow cfg.digital (padSegs cfg.padSym (n0 :: ns) (segMap enc (splitRow (W i))))) := by
    rw [hs.recs]
    apply padAll_map
    intro i hi
    have hle : leAll (segLens (segMap enc (splitRow (W i)))) (n0 :: ns) := by
      rw [segLens_map, ← hn]; exact runLens_le h m.nseq (Nat.le_refl _) i (List.mem_range.mp hi)
    have := padOne_segs cfg n0 ns (segMap enc (splitRow (W i))) hle (st.ncons + (n0 :: ns).sum) (by rw [hs.ncons]; omega) []
    rwa [segFlags_map, ← splitRow_flags, ← splitRow_join] at this
  have hnames : st.names = m.names := by rw [hs.names]; exact List.take_length
  rw [a2mPad_rows cfg st n0 ns _ (by rw [hs.nins, hn]) (by rw [hs.ncons, hnsl]) hall]
  simp only [hs.ncons, hnames, hs.nseq, hs.descs, a2mReadBack, hn]

theorem a2mFinish_insAfter (h : A2mRows cfg enc m nc W) (st : A2mSt) (hst : InsAfter cfg enc m nc W (m.nseq - 1) st) :
    a2mFinish cfg st = .ok (a2mReadBack cfg enc m nc W) := by
  have hn1 := h.n1
  obtain ⟨st1, hfin, hb⟩ := insAfter_finish h (m.nseq - 1) (by omega) st hst
  have e : m.nseq - 1 + 1 = m.nseq := by omega
  rw [e] at hb
  unfold a2mFinish
  simp only [hst.lead, Bool.false_eq_true, if_false, hfin]
  exact a2mPad_insBetw h st1 hb

theorem a2mRecLines_ok (h : A2mRows cfg enc m nc W) (k : Nat) (hk : k < m.nseq) :
    ∀ l ∈ a2mHeader m k :: chunks60 (W k), lineOk l := fun l hl => by
  rcases List.mem_cons.mp hl with hl | hl
  · subst hl; exact h.hdr_line k hk
  · exact lineOk_of_notSpace l fun t ht => (wrChar_plain t ((a2mInsPieces_ok h k hk l hl).wr t ht)).1

theorem a2mRows_reads (h : A2mRows cfg enc m nc W) :
    Reads (a2mStep cfg) (· = {}) (a2mRowsLines m W) (fun st => InsAfter cfg enc m nc W (m.nseq - 1) st) :=
  Reads.rangeFrom (R := InsAfter cfg enc m nc W) h.n1
    ⟨a2mRecLines_ok h 0 h.n1, fun _ e => e ▸ insSteps_first h⟩
    fun j hj => ⟨a2mRecLines_ok h (j + 1) hj, insSteps_record h j hj⟩

/-- **A2M round trip on bytes**, for any rows the reader takes back -/
theorem a2mRead_rows (h : A2mRows cfg enc m nc W) :
    a2mRead cfg (splitLines (joinLF (a2mRowsLines m W))) = (.ok (a2mReadBack cfg enc m nc W), []) :=
  (a2mRows_reads h).read (a2mFinish_insAfter h)

end


/-- number of consensus columns -/
def a2mNcons (abc : Option Abc) (m : Msa) : Nat := ((List.range m.alen).filter (isConsensusCol abc m)).length

/-- the number of inserted residues of sequence `i` before the first consensus column and after each consensus column -/
def a2mRunLens (abc : Option Abc) (m : Msa) (i : Nat) : List Nat := segLens (splitRow (a2mWr abc m i))

/-- `nins[0..ncons]` after the first `k` records: the maximum over them -/
def a2mNinsUpTo (abc : Option Abc) (m : Msa) : Nat → List Nat
  | 0 => List.replicate (a2mNcons abc m + 1) 0
  | k + 1 => List.zipWith max (a2mNinsUpTo abc m k) (a2mRunLens abc m k)

/-- the width of every block of insert columns of the alignment read back -/
def a2mNins (abc : Option Abc) (m : Msa) : List Nat := a2mNinsUpTo abc m m.nseq

def a2mInsRowCodes (abc : Option Abc) (cfg : Cfg) (enc : UInt8 → UInt8) (m : Msa) (i : Nat) : Bytes :=
  padSegs cfg.padSym (a2mNins abc m) (segMap enc (splitRow (a2mWr abc m i)))

def a2mInsRow (abc : Option Abc) (cfg : Cfg) (enc : UInt8 → UInt8) (m : Msa) (i : Nat) : Bytes :=
  mkRow cfg.digital (a2mInsRowCodes abc cfg enc m i)

/-- everything A2M represents of an alignment: names, descriptions, default weights, the consensus columns (upper-case
    residues, `-` for every gap-like symbol, `O` as the unknown residue) and, between consecutive consensus columns (and
    before the first / after the last), a block of insert columns as wide as the longest run of inserted residues any sequence
    has there, in which every sequence's inserted residues (lower case in text mode) are left-justified and padded with
    `.` (text) / the gap code (digital); `rf` = `x` on consensus columns, `.` on insert columns.  All-gap insert columns vanish. -/
def a2mProjectIns (abc : Option Abc) (cfg : Cfg) (enc : UInt8 → UInt8) (m : Msa) : Msa :=
  { digital := cfg.digital, kp := cfg.kp, alen := a2mNcons abc m + (a2mNins abc m).sum, names := m.names,
    aseq := if cfg.digital then [] else (List.range m.nseq).map (a2mInsRow abc cfg enc m),
    ax := if cfg.digital then (List.range m.nseq).map (a2mInsRow abc cfg enc m) else [],
    hasw := false, wgt := List.replicate m.nseq Wgt.dflt,
    rf := some (rfOf (a2mNins abc m)),
    sqdesc := padOptRows (afaDescs m m.nseq) m.nseq }

/-- an alignment that `esl_msafile_a2m_Write` + `esl_msafile_a2m_Read` (configuration `cfg`) carry: in a consensus column
    every cell is printed as an upper-case letter (not `O`) or `-`, in an insert column as a lower-case letter (not `o`) or not
    at all; the input map sends every printed character `c` to `enc c`.  (A record may print no character at all.) -/
structure A2mInsWritable (abc : Option Abc) (cfg : Cfg) (enc : UInt8 → UInt8) (m : Msa) : Prop where
  n1 : 1 ≤ m.nseq
  acc_none : m.sqacc = none
  name_ok : ∀ i, i < m.nseq → nameOk (m.names.getD i [])
  desc_ok : ∀ i, i < m.nseq → ∀ d, optAt m.sqdesc i = some d → descOk d
  hdr_line : ∀ i, i < m.nseq → lineOk (a2mHeader m i)
  cons_char : ∀ i, i < m.nseq → ∀ pos, pos < m.alen → isConsensusCol abc m pos = true →
    ∃ c, a2mChar abc m i pos = some c ∧ consChar c ∧ mapByte cfg.inmap c = (.ok, some (enc c))
  ins_char : ∀ i, i < m.nseq → ∀ pos, pos < m.alen → isConsensusCol abc m pos = false →
    ∀ c, a2mChar abc m i pos = some c → insChar c ∧ mapByte cfg.inmap c = (.ok, some (enc c))

section
variable {abc : Option Abc} {cfg : Cfg} {enc : UInt8 → UInt8} {m : Msa}

theorem A2mInsWritable.wr (h : A2mInsWritable abc cfg enc m) (i : Nat) (hi : i < m.nseq) :
    ∀ t ∈ a2mWr abc m i, wrChar t ∧ mapByte cfg.inmap t = (.ok, some (enc t)) := by
  intro t ht
  obtain ⟨pos, hp, he⟩ := List.mem_filterMap.mp ht
  have hp' := List.mem_range.mp hp
  cases hc : isConsensusCol abc m pos with
  | true =>
    obtain ⟨c, h1, h2, h3⟩ := h.cons_char i hi pos hp' hc
    rw [h1] at he
    cases he
    exact ⟨Or.inl h2, h3⟩
  | false =>
    have := h.ins_char i hi pos hp' hc t he
    exact ⟨Or.inr this.1, this.2⟩

theorem consCount_filterMap (h : A2mInsWritable abc cfg enc m) (i : Nat) (hi : i < m.nseq) :
    ∀ ps : List Nat, (∀ p ∈ ps, p < m.alen) →
      consCount (ps.filterMap (a2mChar abc m i)) = (ps.filter (isConsensusCol abc m)).length := by
  intro ps
  induction ps with
  | nil => intro _; rfl
  | cons p ps ih =>
    intro hps
    have hp := hps p (by simp)
    have ih' := ih (fun q hq => hps q (by simp [hq]))
    cases hc : isConsensusCol abc m p with
    | true =>
      obtain ⟨c, h1, h2, _⟩ := h.cons_char i hi p hp hc
      simp only [List.filterMap_cons, h1, List.filter_cons, hc, if_true, List.length_cons,
        consCount_cons_notLower c _ (consChar_notLower c h2), ih']
    | false =>
      cases ha : a2mChar abc m i p with
      | none => simp only [List.filterMap_cons, ha, List.filter_cons, hc, Bool.false_eq_true, if_false, ih']
      | some c =>
        have := (h.ins_char i hi p hp hc c ha).1
        simp only [List.filterMap_cons, ha, List.filter_cons, hc, Bool.false_eq_true, if_false, consCount_cons_lower c _ this.1, ih']

theorem A2mInsWritable.ncons (h : A2mInsWritable abc cfg enc m) (i : Nat) (hi : i < m.nseq) :
    consCount (a2mWr abc m i) = a2mNcons abc m :=
  consCount_filterMap h i hi (List.range m.alen) (fun _ hp => List.mem_range.mp hp)

theorem a2mLines_rows (abc : Option Abc) (m : Msa) : a2mLines abc m = a2mRowsLines m (a2mWr abc m) := by
  simp only [a2mLines, a2mRowsLines]
  exact flatMap_congr' _ _ _ fun i _ => by rw [a2mRecLines, a2mSeqLines_wr]

theorem ninsUpTo_wr (abc : Option Abc) (m : Msa) : ∀ k, ninsUpTo (a2mNcons abc m) (a2mWr abc m) k = a2mNinsUpTo abc m k
  | 0 => rfl
  | k + 1 => by simp only [ninsUpTo, a2mNinsUpTo, a2mRunLens, ninsUpTo_wr abc m k]

theorem a2mProjectIns_readBack (abc : Option Abc) (cfg : Cfg) (enc : UInt8 → UInt8) (m : Msa) :
    a2mProjectIns abc cfg enc m = a2mReadBack cfg enc m (a2mNcons abc m) (a2mWr abc m) := by
  rw [a2mReadBack, ninsUpTo_wr]
  rfl

theorem A2mInsWritable.rows (h : A2mInsWritable abc cfg enc m) : A2mRows cfg enc m (a2mNcons abc m) (a2mWr abc m) :=
  { n1 := h.n1, acc_none := h.acc_none, name_ok := h.name_ok, desc_ok := h.desc_ok, hdr_line := h.hdr_line, wr := h.wr, ncons := h.ncons }

/-- **A2M round trip on lines, alignments with insert columns** -/
theorem a2mRead_writeLines_ins (h : A2mInsWritable abc cfg enc m) :
    a2mRead cfg (a2mLines abc m) = (.ok (a2mProjectIns abc cfg enc m), []) := by
  rw [a2mLines_rows, a2mProjectIns_readBack]
  exact (a2mRows_reads h.rows).readLines (a2mFinish_insAfter h.rows)

/-- **A2M round trip on bytes, alignments with insert columns** -/
theorem a2mRead_write_ins (h : A2mInsWritable abc cfg enc m) :
    a2mRead cfg (splitLines (a2mWrite abc m)) = (.ok (a2mProjectIns abc cfg enc m), []) := by
  rw [a2mWrite, a2mLines_rows, a2mProjectIns_readBack]
  exact a2mRead_rows h.rows

end

end EaselModel.Msafile
