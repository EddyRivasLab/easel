import EaselModel.Msafile.RoundTrip
import EaselModel.Msafile.AfaRoundTrip
/-! A written line as fields: tokens, each followed by its run of blanks, then a last part (`fields`).  What `esl_memtok` finds on such
    a line (`memtok_fields`, from AfaRoundTrip's `memtok_tok`) and that it comes back from `splitLines` (`lineOk_fields`) are said once here; the writers'
    lines (Stockholm's five kinds in `StoLines.lean`, SELEX's `sxLine`) are instances. -/
namespace EaselModel.Msafile

/-- a piece of a row or of a per-column annotation, as written -/
def ChunkOk (c : Bytes) : Prop := c ≠ [] ∧ ∀ t ∈ c, isSpace t = false ∧ t ≠ 0

theorem sp_ne (c x : UInt8) (hx : isSpace x = true) (h : isSpace c = false) : c ≠ x := by
  intro e; subst e; rw [h] at hx; cases hx

theorem chunk_notDelim (t : UInt8) (h : isSpace t = false ∧ t ≠ 0) : inDelim blankTab t = false := by
  have h32 := sp_ne t 32 (by decide) h.1
  have h9 := sp_ne t 9 (by decide) h.1
  simp [inDelim, blankTab, h.2, h32, h9]

theorem sp_rep (n : Nat) : SpOk (List.replicate n 32 ++ [32]) := by
  refine ⟨by simp, ?_⟩
  intro c hc
  rcases List.mem_append.mp hc with hc | hc
  · exact (List.mem_replicate.mp hc).2
  · simpa using hc

theorem nameOk_head (v : Bytes) (h : nameOk v) : ∀ c, v.head? = some c → inDelim blankTab c = false := by
  intro c hc
  cases v with
  | nil => cases hc
  | cons a t => simp at hc; subst hc; exact h.2 a (by simp)

theorem nameOk_nonul (v : Bytes) (h : nameOk v) : ∀ c ∈ v, c ≠ 0 := by
  intro c hc e
  have := h.2 c hc
  subst e
  simp [inDelim] at this

theorem head_tok (tag sp rest : Bytes) (ht : nameOk tag) : ∀ c, (tag ++ sp ++ rest).head? = some c → inDelim blankTab c = false := by
  intro x hx
  cases tag with
  | nil => exact absurd rfl ht.1
  | cons a t => simp at hx; subst hx; exact ht.2 a (by simp)

/-- fields `t₁ … tₖ`, each followed by its run of blanks, then the rest of the line: the form of every line `stockholm_write` and
    `esl_msafile_selex_Write` print -/
def fields : List (Bytes × Bytes) → Bytes → Bytes
  | [], rest => rest
  | (t, sp) :: ts, rest => t ++ sp ++ fields ts rest

/-- every field is a token, every separator a run of blanks, and the rest does not begin with a delimiter -/
def FieldsOk : List (Bytes × Bytes) → Bytes → Prop
  | [], rest => ∀ c, rest.head? = some c → inDelim blankTab c = false
  | (t, sp) :: ts, rest => nameOk t ∧ SpOk sp ∧ FieldsOk ts rest

/-- what it takes of the fields for the line to be a line: no field holds a LF, every separator is a run of blanks -/
def FieldsLine : List (Bytes × Bytes) → Prop
  | [] => True
  | (t, sp) :: ts => (10 : UInt8) ∉ t ∧ SpOk sp ∧ FieldsLine ts

theorem fields_head : ∀ {ts : List (Bytes × Bytes)} {rest : Bytes}, FieldsOk ts rest →
    ∀ c, (fields ts rest).head? = some c → inDelim blankTab c = false
  | [], _, h => h
  | (t, sp) :: _, _, h => head_tok t sp _ h.1

/-- `esl_memtok` splits off the first field and leaves the line from the second field on -/
theorem memtok_fields {t sp : Bytes} {ts : List (Bytes × Bytes)} {rest : Bytes} (h : FieldsOk ((t, sp) :: ts) rest) :
    memtok (fields ((t, sp) :: ts) rest) blankTab = some (t, fields ts rest) :=
  memtok_tok t sp _ h.1 h.2.1 (fields_head h.2.2)

/-- what the round trip needs of the last part of a written line: it does not begin with a delimiter (`esl_memtok` stops in front
    of it), holds no LF and does not end in CR (the line comes back from `splitLines`) -/
structure RestOk (v : Bytes) : Prop where
  head : ∀ c, v.head? = some c → inDelim blankTab c = false
  nolf : (10 : UInt8) ∉ v
  nocr : v.getLast? ≠ some 13

/-- a line stays a line when something without LF that ends in a blank is put in front of it -/
theorem lineOk_app (pre val : Bytes) (h1 : (10 : UInt8) ∉ pre) (h2 : pre.getLast? = some 32) (h3 : (10 : UInt8) ∉ val)
    (h4 : val.getLast? ≠ some 13) : lineOk (pre ++ val) := by
  constructor
  · intro h; rcases List.mem_append.mp h with h | h
    · exact h1 h
    · exact h3 h
  · rw [List.getLast?_append]
    cases hv : val.getLast? with
    | none => simp [h2]
    | some x => rw [hv] at h4; simpa using h4

/-- a line made of fields comes back from `splitLines (joinLF …)` when its last part holds no LF and does not end in CR -/
theorem lineOk_fields : ∀ {ts : List (Bytes × Bytes)} {rest : Bytes}, FieldsLine ts → (10 : UInt8) ∉ rest → rest.getLast? ≠ some 13 →
    lineOk (fields ts rest)
  | [], _, _, h10, h13 => ⟨h10, h13⟩
  | (t, sp) :: _, _, h, h10, h13 => by
    have ih := lineOk_fields h.2.2 h10 h13
    refine lineOk_app (t ++ sp) _ (fun hm => (List.mem_append.mp hm).elim h.1 (fun h' => absurd (h.2.1.2 10 h') (by decide))) ?_ ih.1 ih.2
    rw [List.getLast?_append]
    cases hs : sp.getLast? with
    | none => exact absurd (List.getLast?_eq_none_iff.mp hs) h.2.1.1
    | some x => rw [h.2.1.2 x (List.mem_of_getLast? hs)]; rfl

theorem ChunkOk.rest {c : Bytes} (hc : ChunkOk c) : RestOk c :=
  ⟨fun x hx => chunk_notDelim x (hc.2 x (List.mem_of_mem_head? hx)), fun h => absurd (hc.2 10 h).1 (by decide),
   fun h => absurd (hc.2 13 (List.mem_of_getLast? h)).1 (by decide)⟩

/-- the written line `l` is the fields `ts` followed by `rest`, with what both halves of the round trip need of them: `esl_memtok`
    finds the fields again (`memtok_fields` on `ok`), and the line comes back from `splitLines` (`LineIs.lineOk`) -/
structure LineIs (l : Bytes) (ts : List (Bytes × Bytes)) (rest : Bytes) : Prop where
  eq : l = fields ts rest
  ok : FieldsOk ts rest
  line : FieldsLine ts
  nolf : (10 : UInt8) ∉ rest
  nocr : rest.getLast? ≠ some 13

theorem LineIs.lineOk {l : Bytes} {ts : List (Bytes × Bytes)} {rest : Bytes} (h : LineIs l ts rest) : lineOk l := by
  rw [h.eq]; exact lineOk_fields h.line h.nolf h.nocr

end EaselModel.Msafile
