import EaselModel.Msafile.RoundTrip
import EaselModel.Msafile.WriteFmt
/-! A Hoare triple for a line-at-a-time reader over written lines: `Reads step P ls Q` says that the lines `ls` are lines (what
    `splitLines` gives back after `joinLF`) and that from every state in `P` they are read without an outcome, reaching a state
    in `Q`.  One walk over a writer's output then yields both halves of a round trip on bytes (`Reads.read`). -/
namespace EaselModel.Msafile

structure Reads {σ α : Type} (step : σ → Bytes → Sum σ (Res α)) (P : σ → Prop) (ls : List Bytes) (Q : σ → Prop) : Prop where
  ok : ∀ l ∈ ls, lineOk l
  run : ∀ st, P st → ∃ st', stepsFrom step st ls = .inl st' ∧ Q st'

namespace Reads
variable {σ α : Type} {step : σ → Bytes → Sum σ (Res α)}

theorem nil {P : σ → Prop} : Reads step P [] P := ⟨fun _ h => (nomatch h), fun st hp => ⟨st, rfl, hp⟩⟩

theorem one {P Q : σ → Prop} {l : Bytes} (hl : lineOk l) (h : ∀ st, P st → ∃ st', step st l = .inl st' ∧ Q st') : Reads step P [l] Q :=
  ⟨fun l' h' => by rw [List.mem_singleton.mp h']; exact hl, fun st hp => by
    obtain ⟨st', e, hq⟩ := h st hp
    exact ⟨st', by simp only [stepsFrom, e], hq⟩⟩

/-- from exactly `st` the line leads to exactly `st'` -/
theorem eq {st st' : σ} {l : Bytes} (hl : lineOk l) (h : step st l = .inl st') : Reads step (· = st) [l] (· = st') :=
  one hl (fun _ e => ⟨st', by rw [e]; exact h, rfl⟩)

theorem append {P Q R : σ → Prop} {l₁ l₂ : List Bytes} (h₁ : Reads step P l₁ Q) (h₂ : Reads step Q l₂ R) : Reads step P (l₁ ++ l₂) R :=
  ⟨fun l h => (List.mem_append.mp h).elim (h₁.ok l) (h₂.ok l), fun st hp => by
    obtain ⟨s₁, e₁, hq⟩ := h₁.run st hp
    obtain ⟨s₂, e₂, hr⟩ := h₂.run s₁ hq
    exact ⟨s₂, by rw [stepsFrom_append _ _ _ _ _ e₁]; exact e₂, hr⟩⟩

theorem cons {P Q R : σ → Prop} {l : Bytes} {ls : List Bytes} (h₁ : Reads step P [l] Q) (h₂ : Reads step Q ls R) : Reads step P (l :: ls) R :=
  h₁.append h₂

/-- weaker before, stronger after -/
theorem mono {P P' Q Q' : σ → Prop} {ls : List Bytes} (h : Reads step P ls Q) (hp : ∀ st, P' st → P st) (hq : ∀ st, Q st → Q' st) :
    Reads step P' ls Q' :=
  ⟨h.ok, fun st h' => by obtain ⟨st', e, h''⟩ := h.run st (hp st h'); exact ⟨st', e, hq st' h''⟩⟩

/-- the loop rule: `P i` is what holds before the lines of index `i` -/
theorem range {P : Nat → σ → Prop} {f : Nat → List Bytes} (n : Nat) (h : ∀ i, i < n → Reads step (P i) (f i) (P (i + 1))) :
    Reads step (P 0) ((List.range n).flatMap f) (P n) := by
  induction n with
  | zero => exact nil
  | succ n ih =>
    rw [List.range_succ, List.flatMap_append, List.flatMap_singleton]
    exact (ih (fun i hi => h i (by omega))).append (h n (by omega))

/-- the loop rule when round 0 starts from somewhere else: `pre` holds before it, `R k` after round `k` -/
theorem rangeFrom {pre : σ → Prop} {R : Nat → σ → Prop} {f : Nat → List Bytes} {n : Nat} (hn : 1 ≤ n)
    (h0 : Reads step pre (f 0) (R 0)) (hk : ∀ k, k + 1 < n → Reads step (R k) (f (k + 1)) (R (k + 1))) :
    Reads step pre ((List.range n).flatMap f) (R (n - 1)) := by
  obtain ⟨n, rfl⟩ : ∃ n', n = n' + 1 := ⟨n - 1, by omega⟩
  exact range (P := fun k => match k with | 0 => pre | k + 1 => R k) (n + 1) fun k hk' => by
    cases k with
    | zero => exact h0
    | succ k => exact hk k hk'

/-- … when every round has one line; here `R k` is what holds in front of line `k` -/
theorem rowsFrom {pre : σ → Prop} {R : Nat → σ → Prop} {line : Nat → Bytes} {n : Nat} (hn : 1 ≤ n)
    (h0 : Reads step pre [line 0] (R 1)) (hk : ∀ k, 1 ≤ k → k < n → Reads step (R k) [line k] (R (k + 1))) :
    Reads step pre ((List.range n).map line) (R n) := by
  have h := rangeFrom (R := fun k => R (k + 1)) (f := fun i => [line i]) hn h0 fun k hk' => hk (k + 1) (by omega) hk'
  rwa [← List.map_eq_flatMap, show n - 1 + 1 = n by omega] at h

/-- the loop rule over a list: `P i` is what holds before the lines of its entry `i` -/
theorem flatMap {β : Type} {P : Nat → σ → Prop} (d : β) (f : β → List Bytes) (l : List β)
    (h : ∀ i, i < l.length → Reads step (P i) (f (l.getD i d)) (P (i + 1))) : Reads step (P 0) (l.flatMap f) (P l.length) := by
  have e : ∀ l : List β, l.flatMap f = (List.range l.length).flatMap (fun i => f (l.getD i d)) := by
    intro l
    induction l with
    | nil => rfl
    | cons a t ih => rw [List.length_cons, List.range_succ_eq_map, List.flatMap_cons, List.flatMap_cons, List.flatMap_map, ih]; rfl
  rw [e]
  exact range l.length h

/-- the loop rule over the starts `pos + cpl, pos + 2 cpl, … < alen` of the blocks a writer prints after the one at `pos`: `I p` is what
    holds after the lines `g p` of the block at `p`; the state reached is that after the last block, wherever it starts -/
theorem blocksFrom {I : Nat → σ → Prop} {g : Nat → List Bytes} {alen cpl : Nat} (hc : 0 < cpl)
    (h : ∀ pos, pos + cpl < alen → Reads step (I pos) (g (pos + cpl)) (I (pos + cpl))) :
    ∀ pos, pos < alen → Reads step (I pos) ((blockStartsFrom alen cpl (pos + cpl)).flatMap g)
      (fun s => ∃ pos', I pos' s ∧ pos' < alen ∧ alen ≤ pos' + cpl) := by
  suffices ∀ n pos, alen - pos ≤ n → pos < alen → Reads step (I pos) ((blockStartsFrom alen cpl (pos + cpl)).flatMap g)
      (fun s => ∃ pos', I pos' s ∧ pos' < alen ∧ alen ≤ pos' + cpl) from fun pos => this _ pos (Nat.le_refl _)
  intro n
  induction n with
  | zero => intro pos hn hp; omega
  | succ n ih =>
    intro pos hn hp
    rw [blockStartsFrom]
    by_cases hlt : pos + cpl < alen
    · rw [dif_pos ⟨hlt, hc⟩, List.flatMap_cons]
      exact (h pos hlt).append (ih (pos + cpl) (by omega) hlt)
    · rw [dif_neg fun hh => hlt hh.1]
      exact nil.mono (fun _ hs => hs) fun s hs => ⟨pos, hs, hp, by omega⟩

/-- … and over all the blocks, the first read from `P` -/
theorem blocks {P : σ → Prop} {I : Nat → σ → Prop} {g : Nat → List Bytes} {alen cpl : Nat} (hc : 0 < cpl) (ha : 0 < alen)
    (h0 : Reads step P (g 0) (I 0)) (h : ∀ pos, pos + cpl < alen → Reads step (I pos) (g (pos + cpl)) (I (pos + cpl))) :
    Reads step P ((blockStarts alen cpl).flatMap g) (fun s => ∃ pos, I pos s ∧ pos < alen ∧ alen ≤ pos + cpl) := by
  rw [blockStarts, blockStartsFrom, dif_pos ⟨ha, hc⟩, List.flatMap_cons]
  exact h0.append (blocksFrom hc h 0 ha)

/-- the round trip on the lines: read to the end, and `finish` on the state reached gives `r` -/
theorem readLines {finish : σ → Res α} {Q : σ → Prop} {ls : List Bytes} {st : σ} {r : Res α}
    (h : Reads step (· = st) ls Q) (hfin : ∀ st', Q st' → finish st' = r) : runLines step finish st ls = (r, []) := by
  obtain ⟨st', hs, hq⟩ := h.run st rfl
  have := runLines_append_inl step finish ls [] st st' hs
  rw [List.append_nil] at this
  rw [this, runLines, hfin st' hq]

/-- the round trip on bytes: what was written as `joinLF ls` is split into the lines `ls` again (they are lines: `ok`) -/
theorem read {finish : σ → Res α} {Q : σ → Prop} {ls : List Bytes} {st : σ} {r : Res α}
    (h : Reads step (· = st) ls Q) (hfin : ∀ st', Q st' → finish st' = r) :
    runLines step finish st (splitLines (joinLF ls)) = (r, []) := by
  rw [joinLF, splitLines_join _ h.ok]
  exact h.readLines hfin

end Reads
end EaselModel.Msafile
