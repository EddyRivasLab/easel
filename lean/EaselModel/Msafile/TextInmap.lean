import EaselModel.Msafile.ConfigFacts
/-! The text-mode input maps of all formats are a 128-entry table built by `Array.ofFn` and changed in a few places by
    `setIfInBounds`.  Read through `InMap.get` they are a cascade of comparisons; facts about all 256 bytes are decided
    on that form (evaluating `Array.ofFn` itself is slow in the kernel). -/
namespace EaselModel.Msafile

theorem InMap.get_setIfInBounds (t : Array UInt8) (i : Nat) (v c : UInt8) :
    InMap.get ⟨t.setIfInBounds i v⟩ c = if c.toNat = i ∧ i < t.size then v else InMap.get ⟨t⟩ c := by
  simp only [InMap.get, getD_setIfInBounds, eq_comm (a := i)]

theorem InMap.get_ofFn (g : Nat → UInt8) (c : UInt8) :
    InMap.get ⟨Array.ofFn (n := 128) fun i => g i.val⟩ c = if c.toNat < 128 then g c.toNat else dsqILLEGAL := by
  simp only [InMap.get, Array.getD_eq_getD_getElem?, Array.getElem?_ofFn]
  by_cases h : c.toNat < 128 <;> simp [h]

/-- entry `c` of `textTable P` (ConfigFacts.lean), the table most `SetInmap` functions start from, as comparisons: NUL ↦ `?`, the
    characters of the class `P` to themselves, all else illegal -/
def textBase (P : UInt8 → Bool) (c : UInt8) : UInt8 :=
  if c.toNat < 128 then (if c.toNat = 0 then 63 else if P c then c else dsqILLEGAL) else dsqILLEGAL

/-- a format's definition has `textTable P` written out; `simp only` matches it through the abbreviation -/
theorem InMap.get_textBase (P : UInt8 → Bool) (c : UInt8) : InMap.get ⟨textTable P⟩ c = textBase P c := by
  rw [InMap.get_ofFn fun n => if n == 0 then (63 : UInt8) else if P (UInt8.ofNat n) then UInt8.ofNat n else dsqILLEGAL]
  simp [textBase]

end EaselModel.Msafile
