import EaselModel.Msafile.AbcTables
import EaselModel.Msafile.WriteFmt
import EaselModel.Msafile.TextInmap
/-! What the writers use of a well-formed alphabet (`Abc.WF`, ConfigFacts.lean) and of the characters it prints.  The per-format
    facts `…DigSymOk a` (`afaDigSymOk_of_wf` … `stoDigSymOk_of_wf`, in the `…Writable` files) follow from these for every such
    alphabet by reading the format's `SetInmap`: the entries it overwrites are not printed symbols. -/
namespace EaselModel.Msafile

theorem Abc.WF.code_le {a : Abc} (h : a.WF) {x : Nat} (hx : x < a.kp) : UInt8.ofNat x ≤ 127 := by
  rw [UInt8.le_iff_toNat_le, h.toNat_ofNat hx]
  have := h.kp
  simp; omega

theorem Abc.WF.residue_ne_gap {a : Abc} (h : a.WF) {n : Nat} (hn : n < a.kp) (hr : a.xIsResidue (UInt8.ofNat n) = true) :
    n ≠ a.k := by
  simp only [Abc.xIsResidue, h.toNat_ofNat hn, Bool.or_eq_true, Bool.and_eq_true, decide_eq_true_eq] at hr
  omega

theorem Abc.WF.gap_not_residue {a : Abc} (h : a.WF) : a.xIsResidue a.gap = false := by
  have hk : a.k < a.kp := by have := h.kp; omega
  simp [Abc.xIsResidue, Abc.gap, h.toNat_ofNat hk]

/-- a byte whose table entry is a code is appended as that code -/
theorem mapByte_of_get {im : InMap} {t v : UInt8} (hasc : isAscii t = true) (hg : im.get t = v) (hv : v ≤ 127) :
    mapByte im t = (.ok, some v) := by
  simp [mapByte, hasc, hg, hv]

/-- a graphic character is ASCII, no white space and not NUL, as a byte and as a table index -/
theorem graph_plain {t : UInt8} (h : isGraph t = true) :
    isAscii t = true ∧ isSpace t = false ∧ t ≠ 0 ∧ t ≤ 127 ∧ t.toNat < 128 ∧ t.toNat ≠ 0 := by
  simp only [isGraph, Bool.and_eq_true, decide_eq_true_eq, UInt8.le_iff_toNat_le] at h
  simp only [isAscii, isSpace, UInt8.lt_iff_toNat_lt, UInt8.le_iff_toNat_le, ← UInt8.toNat_inj, ne_eq, decide_eq_true_eq,
    Bool.or_eq_false_iff, Bool.and_eq_false_iff, beq_eq_false_iff_ne, decide_eq_false_iff_not]
  simp at h ⊢
  omega

/-- the entry of `textTable cls` (the table the text-mode `SetInmap` functions start from) for a graphic character of the class is
    the character -/
theorem textBase_self {cls : UInt8 → Bool} {t : UInt8} (hc : cls t = true) (hg : isGraph t = true) : textBase cls t = t := by
  obtain ⟨_, _, _, _, hlt, h0⟩ := graph_plain hg
  rw [textBase, if_pos hlt, if_neg h0, if_pos hc]

theorem mapByte_textTable {cls : UInt8 → Bool} {t : UInt8} (hc : cls t = true) (hg : isGraph t = true) :
    mapByte ⟨textTable cls⟩ t = (.ok, some t) := by
  obtain ⟨hasc, _, _, h127, _⟩ := graph_plain hg
  exact mapByte_of_get hasc (by rw [InMap.get_textBase, textBase_self hc hg]) h127

/-- a printed symbol is graphic and is none of the characters the formats give a meaning of their own (NUL, tab, blank, `.`, `:`,
    `>`, `?`, `_`, digits), as a byte and as a table index -/
theorem symClass_plain (t : UInt8) (h : symClass t = true) :
    isAscii t = true ∧ isGraph t = true ∧ isSpace t = false ∧ t ∉ ([0, 32, 46, 58, 62] : List UInt8) ∧
      t.toNat ∉ [0, 9, 32, 46, 58, 62, 63, 95] ∧ ¬ (48 ≤ t.toNat ∧ t.toNat ≤ 57) := by
  simp only [symClass, Bool.or_eq_true, Bool.and_eq_true, decide_eq_true_eq, beq_iff_eq] at h
  simp only [isAscii, isGraph, isSpace, UInt8.lt_iff_toNat_lt, UInt8.le_iff_toNat_le, ← UInt8.toNat_inj, List.mem_cons, List.not_mem_nil,
    Bool.and_eq_true, decide_eq_true_eq, Bool.or_eq_false_iff, beq_eq_false_iff_ne, ne_eq, or_false, not_or]
  simp
  omega

theorem Abc.WF.unknown_residue {a : Abc} (h : a.WF) : a.kp - 3 < a.kp ∧ a.xIsResidue (UInt8.ofNat (a.kp - 3)) = true := by
  have hk : a.kp - 3 < a.kp := by have := h.kp; omega
  refine ⟨hk, ?_⟩
  have := h.kp
  simp only [Abc.xIsResidue, h.toNat_ofNat hk, Bool.or_eq_true, Bool.and_eq_true, decide_eq_true_eq]; omega

/-- the unknown residue is printed as an upper-case letter other than `O` and read back as itself -/
theorem Abc.WF.unknown {a : Abc} (h : a.WF) :
    isUpper a.cUnknown = true ∧ a.cUnknown ≠ 79 ∧ a.inmap.getD a.cUnknown.toNat dsqILLEGAL = a.unknown :=
  ⟨h.res _ h.unknown_residue.1 h.unknown_residue.2, h.unkO, h.inv _ h.unknown_residue.1⟩

/-- a residue is read in lower case as well -/
theorem Abc.WF.low {a : Abc} (h : a.WF) (x : Nat) (hx : x < a.kp) (hr : a.xIsResidue (UInt8.ofNat x) = true) :
    a.inmap.getD (toLower (a.sym.getD x 0)).toNat dsqILLEGAL = UInt8.ofNat x := by
  have hU := h.res x hx hr
  rw [toLower_toNat hU, ← h.inv x hx]
  rw [isUpper_toNat, Bool.and_eq_true, decide_eq_true_eq, decide_eq_true_eq] at hU
  exact h.caseIns _ hU.1 hU.2

theorem Abc.WF.unknown_low {a : Abc} (h : a.WF) : a.inmap.getD (toLower a.cUnknown).toNat dsqILLEGAL = a.unknown :=
  h.low _ h.unknown_residue.1 h.unknown_residue.2

theorem upper_plain_fin : ∀ n : Fin 256, isUpper (UInt8.ofNat n.val) = true →
    toUpper (UInt8.ofNat n.val) = UInt8.ofNat n.val ∧ isAscii (UInt8.ofNat n.val) = true ∧ (UInt8.ofNat n.val).toNat ≠ 111 ∧
      (UInt8.ofNat n.val).toNat ∉ [0, 9, 32, 42, 46, 95, 126] := by decide +kernel

/-- an upper-case letter is none of the entries a `SetInmap` overwrites, `O` apart -/
theorem upper_plain (t : UInt8) (h : isUpper t = true) :
    toUpper t = t ∧ isAscii t = true ∧ t.toNat ≠ 111 ∧ t.toNat ∉ [0, 9, 32, 42, 46, 95, 126] := by
  have := upper_plain_fin ⟨t.toNat, t.toNat_lt⟩
  simp only [UInt8.ofNat_toNat] at this
  exact this h

theorem lower_plain_fin : ∀ n : Fin 256, isUpper (UInt8.ofNat n.val) = true →
    isLower (toLower (UInt8.ofNat n.val)) = true ∧ isAscii (toLower (UInt8.ofNat n.val)) = true ∧
      (toLower (UInt8.ofNat n.val)).toNat ≠ 79 ∧ ((toLower (UInt8.ofNat n.val)).toNat = 111 → UInt8.ofNat n.val = 79) ∧
      (toLower (UInt8.ofNat n.val)).toNat ∉ [0, 9, 32, 42, 46, 95, 126] := by decide +kernel

/-- … nor is its lower-case form, `o` apart -/
theorem lower_plain (t : UInt8) (h : isUpper t = true) :
    isLower (toLower t) = true ∧ isAscii (toLower t) = true ∧ (toLower t).toNat ≠ 79 ∧ ((toLower t).toNat = 111 → t = 79) ∧
      (toLower t).toNat ∉ [0, 9, 32, 42, 46, 95, 126] := by
  have := lower_plain_fin ⟨t.toNat, t.toNat_lt⟩
  simp only [UInt8.ofNat_toNat] at this
  exact this h

end EaselModel.Msafile
