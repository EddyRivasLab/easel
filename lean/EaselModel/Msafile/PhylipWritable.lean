import EaselModel.Msafile.PhylipRoundTrip
import EaselModel.Msafile.AfaWritable
import EaselModel.Msafile.AbcTables
/-! Concrete, checkable conditions under which an alignment is `PhylipWritable`: text mode, and digital mode with the
    generated amino / DNA / RNA alphabets. -/
namespace EaselModel.Msafile

/-- entry `n` of the text-mode PHYLIP table -/
def phyTextEntry (n : Nat) : UInt8 :=
  let c := UInt8.ofNat n
  if n == 0 then 63
  else if c == 32 || c == 9 then dsqIGNORED
  else if c == 45 || c == 42 || c == 63 || c == 46 then c
  else if isDigit c then dsqIGNORED
  else if isAlpha c then c
  else dsqILLEGAL

theorem phylipInmap_text_get (c : UInt8) :
    (phylipInmap none).get c = if c.toNat < 128 then phyTextEntry c.toNat else dsqILLEGAL :=
  InMap.get_ofFn phyTextEntry c

/-- the residue characters PHYLIP carries unchanged in text mode: upper-case letters, `-`, `*`, `?`
    (lower case comes back upper case, `.` `_` and blank come back `-`, `~` comes back `?`: excluded here) -/
def phyTextSym (t : UInt8) : Bool := isUpper t || t == 45 || t == 42 || t == 63

/-- table fact: such a character is not changed by `phylip_rectify_output_seq_text`, the text-mode input map sends it to
    itself, it is graphic -/
def phyTextSymOk : Bool :=
  (List.range 256).all fun n =>
    let t := UInt8.ofNat n
    !(phyTextSym t) || (phyRectifyTextChar t == t && mapByte (phylipInmap none) t == (CatSt.ok, some t) && isGraph t)

theorem phyTextSymOk_true : phyTextSymOk = true := by
  simp only [phyTextSymOk, mapByte, phylipInmap_text_get]
  decide +kernel

theorem phy_text_sym (t : UInt8) (h : phyTextSym t = true) :
    phyRectifyTextChar t = t ∧ mapByte (phylipInmap none) t = (.ok, some t) ∧ isGraph t = true := by
  have h1 := (List.all_eq_true.mp phyTextSymOk_true) t.toNat (List.mem_range.mpr t.toNat_lt)
  simp only [UInt8.ofNat_toNat, h, Bool.not_true, Bool.false_or, Bool.and_eq_true, beq_iff_eq] at h1
  exact ⟨h1.1.1, h1.1.2, h1.2⟩

theorem phy_text_sp : mapByte (phylipInmap none) 32 = (.ok, none) := by
  simp only [mapByte, phylipInmap_text_get]
  decide +kernel

/-- a text-mode alignment that PHYLIP represents faithfully (up to names cut to ten characters) -/
structure PhylipTextWritable (m : Msa) : Prop where
  dig : m.digital = false
  n1 : 1 ≤ m.nseq
  alen1 : 1 ≤ m.alen
  nmax : m.nseq ≤ 2147483647
  amax : m.alen ≤ 2147483647
  name_ok : ∀ i, i < m.nseq → phyNameOk (m.names.getD i [])
  row_ok : ∀ i, i < m.nseq → (m.aseq.getD i []).length = m.alen ∧ ∀ t ∈ m.aseq.getD i [], phyTextSym t = true

theorem phylipTextWritable_writable (m : Msa) (h : PhylipTextWritable m) :
    PhylipWritable none (phylipCfg none) id (fun i => m.aseq.getD i []) m :=
  { n1 := h.n1, alen1 := h.alen1, nmax := h.nmax, amax := h.amax, name_ok := h.name_ok
    sp := phy_text_sp
    txt_len := fun i hi => (h.row_ok i hi).1
    buf_eq := fun i hi pos => by
      have hsym := (h.row_ok i hi).2
      have hmem : ∀ t ∈ ((m.aseq.getD i []).drop pos).take 60, t ∈ m.aseq.getD i [] :=
        fun t ht => List.mem_of_mem_drop (List.mem_of_mem_take ht)
      have h0 : ∀ t ∈ ((m.aseq.getD i []).drop pos).take 60, t ≠ 0 :=
        fun t ht => graph_ne t 0 (by decide) (phy_text_sym t (hsym t (hmem t ht))).2.2
      show phyRectifyText (strChunk (m.aseq.getD i []) pos phyRpl) = _
      unfold strChunk phyRectifyText
      rw [show phyRpl = 60 from rfl, cstr_id _ h0]
      exact map_id_of _ _ (fun t ht => (phy_text_sym t (hsym t (hmem t ht))).1)
    txt_sym := fun i hi t ht => by
      have := phy_text_sym t ((h.row_ok i hi).2 t ht)
      exact ⟨by simpa [phylipCfg] using this.2.1, this.2.2⟩
    row_enc := fun i hi => by
      simp [Msa.stored, h.dig, mkRow, phylipCfg, Cfg.digital] }

def phyEnc (a : Abc) (t : UInt8) : UInt8 :=
  match mapByte (phylipInmap (some a)) t with
  | (_, some x) => x
  | _ => 0

def phyRectChar (c : UInt8) : UInt8 := if c == 126 then 63 else c

/-- table fact about an alphabet: the character written for code `x < Kp` (`sym[x]`, `~` printed as `?`) is read back as
    `x` and is graphic; blank is ignored; no code collides with the sentinel -/
def phyDigSymOk (a : Abc) : Bool :=
  ((List.range a.kp).all fun x =>
    let t := phyRectChar (a.sym.getD x 0)
    mapByte (phylipInmap (some a)) t == (CatSt.ok, some (UInt8.ofNat x)) && isGraph t)
  && mapByte (phylipInmap (some a)) 32 == (CatSt.ok, none) && decide (a.kp ≤ 250)

theorem InMap.get_foldl_set (f : Nat → Nat) (v c : UInt8) : ∀ (l : List Nat) (t : Array UInt8), (∀ i ∈ l, f i ≠ c.toNat) →
    InMap.get ⟨l.foldl (fun t i => t.setIfInBounds (f i) v) t⟩ c = InMap.get ⟨t⟩ c
  | [], _, _ => rfl
  | i :: l, t, h => by
    rw [List.foldl_cons, InMap.get_foldl_set f v c l _ (fun k hk => h k (by simp [hk])), InMap.get_setIfInBounds,
      if_neg (fun e => h i (by simp) e.1.symm)]

/-- the statements of `esl_msafile_phylip_SetInmap` (digital) in their order: digits, `?`, `~`, `_`, blank, tab, NUL, and `O` for
    the nucleic alphabets; an entry none of them names is the alphabet's -/
theorem phylipInmap_get (a : Abc) (t : UInt8) (hi : t.toNat ∉ [0, 9, 32, 46, 58, 62, 63, 95]) (hd : ¬ (48 ≤ t.toNat ∧ t.toNat ≤ 57))
    (h126 : t.toNat ≠ 126) (hO : (a.type == 2 || a.type == 1) = true → t.toNat ≠ 79) :
    (phylipInmap (some a)).get t = a.inmap.getD t.toNat dsqILLEGAL := by
  simp only [List.mem_cons, List.not_mem_nil, or_false, not_or] at hi
  have hdig : ∀ i ∈ List.range 10, 48 + i ≠ t.toNat := fun i hi' e => hd (by have := List.mem_range.mp hi'; omega)
  simp only [phylipInmap]
  split
  · rename_i ht
    simp only [InMap.get_setIfInBounds, hi, h126, hO ht, false_and, if_false]
    exact InMap.get_foldl_set (48 + ·) dsqIGNORED t (List.range 10) a.inmap hdig
  · simp only [InMap.get_setIfInBounds, hi, h126, false_and, if_false]
    exact InMap.get_foldl_set (48 + ·) dsqIGNORED t (List.range 10) a.inmap hdig

theorem phyDigSymOk_of_wf {a : Abc} (h : a.WF) : phyDigSymOk a = true := by
  rw [phyDigSymOk, Bool.and_eq_true, Bool.and_eq_true, List.all_eq_true]
  refine ⟨⟨fun x hx => ?_, ?_⟩, by have := h.kp; simp; omega⟩
  · have hx' := List.mem_range.mp hx
    obtain ⟨hasc, hg, _, _, hi, hd⟩ := symClass_plain _ (h.cls x hx')
    by_cases h126 : a.sym.getD x 0 = 126
    · -- `~` is printed as `?`, whose entry is the missing-data code, as that of `~` is in the alphabet
      have hget : (phylipInmap (some a)).get 63 = UInt8.ofNat x := by
        have hinv := h.inv x hx'
        rw [h126] at hinv
        rw [← hinv, show a.inmap.getD (126 : UInt8).toNat dsqILLEGAL = a.missing from h.miss]
        simp only [phylipInmap]
        split <;> simp [InMap.get_setIfInBounds, Array.size_setIfInBounds, size_foldl_set, h.size]
      have hm := mapByte_of_get (t := 63) rfl hget (h.code_le hx')
      simp [phyRectChar, h126, hm, isGraph]
    · have h126' : (a.sym.getD x 0).toNat ≠ 126 := fun e => h126 (UInt8.toNat_inj.mp e)
      have hget := phylipInmap_get a _ hi hd h126' (fun ht e => h.noO ht x hx' (UInt8.toNat_inj.mp e))
      rw [h.inv x hx'] at hget
      have hm := mapByte_of_get hasc hget (h.code_le hx')
      generalize a.sym.getD x 0 = t at *
      simp [phyRectChar, h126, hm, hg]
  · -- blank: set to IGNORED after the digits, and none of tab, NUL, `O` is its entry
    have hget : (phylipInmap (some a)).get 32 = dsqIGNORED := by
      simp only [phylipInmap]
      split <;> simp [InMap.get_setIfInBounds, Array.size_setIfInBounds, size_foldl_set, h.size]
    simp [mapByte, hget, isAscii, dsqIGNORED, dsqILLEGAL]

theorem phy_dig_sym (a : Abc) (ha : phyDigSymOk a = true) (x : UInt8) (hx : x.toNat < a.kp) :
    mapByte (phylipInmap (some a)) (phyRectChar (a.sym.getD x.toNat 0)) = (.ok, some (phyEnc a (phyRectChar (a.sym.getD x.toNat 0)))) ∧
    isGraph (phyRectChar (a.sym.getD x.toNat 0)) = true ∧ phyEnc a (phyRectChar (a.sym.getD x.toNat 0)) = x := by
  unfold phyDigSymOk at ha
  simp only [Bool.and_eq_true, beq_iff_eq, decide_eq_true_eq] at ha
  have h1 := (List.all_eq_true.mp ha.1.1) x.toNat (List.mem_range.mpr hx)
  simp only [UInt8.ofNat_toNat, Bool.and_eq_true, beq_iff_eq] at h1
  obtain ⟨hm, hg⟩ := h1
  have he : phyEnc a (phyRectChar (a.sym.getD x.toNat 0)) = x := by unfold phyEnc; rw [hm]
  exact ⟨by rw [he]; exact hm, hg, he⟩

/-- a digital alignment (alphabet `a`) that PHYLIP represents faithfully (up to names cut to ten characters) -/
structure PhylipDigitalWritable (a : Abc) (m : Msa) : Prop where
  dig : m.digital = true
  n1 : 1 ≤ m.nseq
  alen1 : 1 ≤ m.alen
  nmax : m.nseq ≤ 2147483647
  amax : m.alen ≤ 2147483647
  name_ok : ∀ i, i < m.nseq → phyNameOk (m.names.getD i [])
  row_ok : ∀ i, i < m.nseq → dsqRowOk a.kp m.alen (m.ax.getD i []) = true

theorem takeWhile_sentinel (l : Bytes) (hl : ∀ x ∈ l, x ≠ dsqSENTINEL) (pos n : Nat) :
    (((l ++ [dsqSENTINEL]).drop pos).take n).takeWhile (· != dsqSENTINEL) = (l.drop pos).take n := by
  rw [List.drop_append, List.take_append]
  rw [List.takeWhile_append_of_pos (fun x hx => by
    have := hl x (List.mem_of_mem_drop (List.mem_of_mem_take hx)); simpa using this)]
  have : ∀ (a b : Nat), ((([dsqSENTINEL] : Bytes).drop a).take b).takeWhile (· != dsqSENTINEL) = [] := by
    intro a b
    cases a with
    | zero =>
      cases b with
      | zero => rfl
      | succ b => simp
    | succ a => simp
  rw [this]; simp

theorem textizeN_row (a : Abc) (hkp : a.kp ≤ 250) (alen : Nat) (r : Bytes) (h : dsqRowOk a.kp alen r = true) (pos n : Nat) :
    textizeN a (r.drop (pos + 1)) n = (((dsqCodes (some r)).map fun x => a.sym.getD x.toNat 0).drop pos).take n := by
  have hns : ∀ x ∈ dsqCodes (some r), x ≠ dsqSENTINEL := by
    intro x hx hs
    have := (dsqRow_codes _ _ _ h).1 x hx
    rw [hs] at this
    simp [dsqSENTINEL] at this
    omega
  have hdrop : r.drop (pos + 1) = (dsqCodes (some r) ++ [dsqSENTINEL]).drop pos := by
    conv => lhs; rw [dsqRow_shape _ _ _ h]
    simp
  unfold textizeN
  rw [hdrop, takeWhile_sentinel _ hns, List.map_take, List.map_drop]

def phyDigTxt (a : Abc) (m : Msa) (i : Nat) : Bytes :=
  ((dsqCodes (some (m.ax.getD i []))).map fun x => a.sym.getD x.toNat 0).map phyRectChar

theorem phylipDigitalWritable_writable (a : Abc) (ha : phyDigSymOk a = true) (m : Msa) (h : PhylipDigitalWritable a m) :
    PhylipWritable (some a) (phylipCfg (some a)) (phyEnc a) (phyDigTxt a m) m := by
  have hkp : a.kp ≤ 250 := by
    unfold phyDigSymOk at ha
    simp only [Bool.and_eq_true, decide_eq_true_eq] at ha
    exact ha.2
  have hsp : mapByte (phylipInmap (some a)) 32 = (.ok, none) := by
    unfold phyDigSymOk at ha
    simp only [Bool.and_eq_true, beq_iff_eq] at ha
    exact ha.1.2
  have hcodes := fun i (hi : i < m.nseq) => dsqRow_codes _ _ _ (h.row_ok i hi)
  have hlt := fun i hi => (hcodes i hi).1
  exact
    { n1 := h.n1, alen1 := h.alen1, nmax := h.nmax, amax := h.amax, name_ok := h.name_ok
      sp := by simpa [phylipCfg] using hsp
      txt_len := fun i hi => by simp only [phyDigTxt, List.length_map]; exact (hcodes i hi).2
      buf_eq := fun i hi pos => by
        show phyRectifyDigital (textizeN a ((m.ax.getD i []).drop (pos + 1)) phyRpl) = _
        rw [textizeN_row a hkp _ _ (h.row_ok i hi)]
        simp only [phyDigTxt, phyRectifyDigital, List.map_drop, List.map_take]
        rfl
      txt_sym := fun i hi t ht => by
        simp only [phyDigTxt, List.mem_map] at ht
        obtain ⟨s, ⟨x, hx, rfl⟩, rfl⟩ := ht
        have := phy_dig_sym a ha x (hlt i hi x hx)
        exact ⟨by simpa [phylipCfg] using this.1, this.2.1⟩
      row_enc := fun i hi => by
        have hmap : (phyDigTxt a m i).map (phyEnc a) = dsqCodes (some (m.ax.getD i [])) := by
          simp only [phyDigTxt, List.map_map]
          refine map_id_of _ _ (fun x hx => ?_)
          simp only [Function.comp_apply]
          exact (phy_dig_sym a ha x (hlt i hi x hx)).2.2
        rw [hmap]
        exact stored_of_dsqRow m h.dig _ i (h.row_ok i hi) }

end EaselModel.Msafile
