import EaselModel.Msafile.SelexBlocks
import EaselModel.Msafile.PhylipWritable
import EaselModel.Msafile.AbcTables
import EaselModel.Msafile.AfaIdem
/-! Concrete, checkable conditions under which an alignment is `SelexWritable`: text mode, and digital mode with the
    generated amino / DNA / RNA alphabets; and `write (read (write m)) = write m`. -/
namespace EaselModel.Msafile

/-- no `#=CS`, `#=RF`, `#=MM`, `#=SS`, `#=SA` line is written for `m` -/
structure SelexPlain (m : Msa) : Prop where
  cs_none : m.ssCons = none
  rf_none : m.rf = none
  mm_none : m.mm = none
  ss_none : ∀ i, i < m.nseq → optRow m.ss i = none
  sa_none : ∀ i, i < m.nseq → optRow m.sa i = none

/-- a sequence name SELEX carries: not empty, no blank/tab/NUL/LF, not starting with `#` -/
def selexNameOk (nm : Bytes) : Prop := sqTagOk nm ∧ (10 : UInt8) ∉ nm

theorem selexInmap_text_get (c : UInt8) : (selexInmap none).get c = if c.toNat = 32 then 46 else textBase isGraph c := by
  simp only [selexInmap, InMap.get_setIfInBounds, InMap.get_textBase, Array.size_ofFn, Nat.reduceLT, and_true]

/-- the text-mode SELEX input map sends every graphic character to itself (the one entry `SetInmap` overwrites is the blank's); none
    of them is white space or NUL -/
theorem selex_text_sym (t : UInt8) (h : isGraph t = true) :
    mapByte (selexInmap none) t = (.ok, some t) ∧ isSpace t = false ∧ t ≠ 0 := by
  obtain ⟨hasc, hsp, h0, h127, _⟩ := graph_plain h
  have h32 : t.toNat ≠ 32 := fun e => by rw [show t = 32 from UInt8.toNat_inj.mp e] at hsp; cases hsp
  exact ⟨mapByte_of_get hasc (by rw [selexInmap_text_get, if_neg h32, textBase_self h h]) h127, hsp, h0⟩

/-- a text-mode alignment that SELEX represents faithfully: names and rows of graphic characters, no annotation lines -/
structure SelexTextWritable (m : Msa) : Prop where
  dig : m.digital = false
  plain : SelexPlain m
  n1 : 1 ≤ m.nseq
  alen1 : 1 ≤ m.alen
  name_ok : ∀ i, i < m.nseq → selexNameOk (m.names.getD i [])
  row_ok : ∀ i, i < m.nseq → (m.aseq.getD i []).length = m.alen ∧ ∀ t ∈ m.aseq.getD i [], isGraph t = true

theorem selexTextWritable_writable (m : Msa) (h : SelexTextWritable m) :
    SelexWritable none (selexCfg none) id (fun i => m.aseq.getD i []) m :=
  { n1 := h.n1, alen1 := h.alen1, cs_none := h.plain.cs_none, rf_none := h.plain.rf_none, mm_none := h.plain.mm_none
    ss_none := h.plain.ss_none, sa_none := h.plain.sa_none
    name_ok := fun i hi => (h.name_ok i hi).1
    txt_len := fun i hi => (h.row_ok i hi).1
    chunk_eq := fun i hi pos => by
      have hmem : ∀ t ∈ ((m.aseq.getD i []).drop pos).take 60, t ∈ m.aseq.getD i [] :=
        fun t ht => List.mem_of_mem_drop (List.mem_of_mem_take ht)
      show strChunk (m.aseq.getD i []) pos selexCpl = _
      unfold strChunk
      rw [show selexCpl = 60 from rfl]
      exact cstr_id _ (fun t ht => (selex_text_sym t ((h.row_ok i hi).2 t (hmem t ht))).2.2)
    txt_sym := fun i hi t ht => by
      have := selex_text_sym t ((h.row_ok i hi).2 t ht)
      exact ⟨by simpa [selexCfg] using this.1, this.2.1, this.2.2⟩
    enc_nz := fun _ i hi t ht => (selex_text_sym t ((h.row_ok i hi).2 t ht)).2.2
    row_enc := fun i hi => by
      simp [Msa.stored, h.dig, mkRow, selexCfg, Cfg.digital] }

def selexEnc (a : Abc) (t : UInt8) : UInt8 :=
  match mapByte (selexInmap (some a)) t with
  | (_, some x) => x
  | _ => 0

/-- table fact about an alphabet: the character `sym[x]` written for code `x < Kp` is read back as `x`, is neither white
    space nor NUL; no code collides with the sentinel -/
def selexDigSymOk (a : Abc) : Bool :=
  ((List.range a.kp).all fun x =>
    let t := a.sym.getD x 0
    mapByte (selexInmap (some a)) t == (CatSt.ok, some (UInt8.ofNat x)) && !isSpace t && t != 0)
  && decide (a.kp ≤ 250)

theorem selexDigSymOk_of_wf {a : Abc} (h : a.WF) : selexDigSymOk a = true := by
  rw [selexDigSymOk, Bool.and_eq_true, List.all_eq_true]
  refine ⟨fun x hx => ?_, by have := h.kp; simp; omega⟩
  have hx' := List.mem_range.mp hx
  obtain ⟨hasc, _, hsp, hb, hi, _⟩ := symClass_plain _ (h.cls x hx')
  simp only [List.mem_cons, List.not_mem_nil, or_false, not_or] at hb hi
  -- `esl_msafile_selex_SetInmap` overwrites the entries of NUL and blank
  have hget : (selexInmap (some a)).get (a.sym.getD x 0) = UInt8.ofNat x := by
    simp only [selexInmap, InMap.get_setIfInBounds, hi, false_and, if_false]
    exact h.inv x hx'
  have hm := mapByte_of_get hasc hget (h.code_le hx')
  generalize a.sym.getD x 0 = t at *
  simp [hm, hsp, hb]

theorem selex_dig_sym (a : Abc) (ha : selexDigSymOk a = true) (x : UInt8) (hx : x.toNat < a.kp) :
    mapByte (selexInmap (some a)) (a.sym.getD x.toNat 0) = (.ok, some (selexEnc a (a.sym.getD x.toNat 0))) ∧
    isSpace (a.sym.getD x.toNat 0) = false ∧ a.sym.getD x.toNat 0 ≠ 0 ∧ selexEnc a (a.sym.getD x.toNat 0) = x := by
  unfold selexDigSymOk at ha
  simp only [Bool.and_eq_true, decide_eq_true_eq] at ha
  have h1 := (List.all_eq_true.mp ha.1) x.toNat (List.mem_range.mpr hx)
  simp only [UInt8.ofNat_toNat, Bool.and_eq_true, beq_iff_eq, Bool.not_eq_true', bne_iff_ne, ne_eq] at h1
  obtain ⟨⟨hm, hs⟩, hz⟩ := h1
  have he : selexEnc a (a.sym.getD x.toNat 0) = x := by unfold selexEnc; rw [hm]
  exact ⟨by rw [he]; exact hm, hs, hz, he⟩

/-- a digital alignment (alphabet `a`) that SELEX represents faithfully -/
structure SelexDigitalWritable (a : Abc) (m : Msa) : Prop where
  dig : m.digital = true
  plain : SelexPlain m
  n1 : 1 ≤ m.nseq
  alen1 : 1 ≤ m.alen
  name_ok : ∀ i, i < m.nseq → selexNameOk (m.names.getD i [])
  row_ok : ∀ i, i < m.nseq → dsqRowOk a.kp m.alen (m.ax.getD i []) = true

def selexDigTxt (a : Abc) (m : Msa) (i : Nat) : Bytes :=
  (dsqCodes (some (m.ax.getD i []))).map fun x => a.sym.getD x.toNat 0

theorem selexDigitalWritable_writable (a : Abc) (ha : selexDigSymOk a = true) (m : Msa) (h : SelexDigitalWritable a m) :
    SelexWritable (some a) (selexCfg (some a)) (selexEnc a) (selexDigTxt a m) m := by
  have hkp : a.kp ≤ 250 := by
    unfold selexDigSymOk at ha
    simp only [Bool.and_eq_true, decide_eq_true_eq] at ha
    exact ha.2
  have hcodes := fun i (hi : i < m.nseq) => dsqRow_codes _ _ _ (h.row_ok i hi)
  have hlt := fun i hi => (hcodes i hi).1
  have hdig : (selexCfg (some a)).digital = true := rfl
  exact
    { n1 := h.n1, alen1 := h.alen1, cs_none := h.plain.cs_none, rf_none := h.plain.rf_none, mm_none := h.plain.mm_none
      ss_none := h.plain.ss_none, sa_none := h.plain.sa_none
      name_ok := fun i hi => (h.name_ok i hi).1
      txt_len := fun i hi => by simp only [selexDigTxt, List.length_map]; exact (hcodes i hi).2
      chunk_eq := fun i hi pos => textizeN_row a hkp _ _ (h.row_ok i hi) pos _
      txt_sym := fun i hi t ht => by
        simp only [selexDigTxt, List.mem_map] at ht
        obtain ⟨x, hx, rfl⟩ := ht
        have := selex_dig_sym a ha x (hlt i hi x hx)
        exact ⟨by simpa [selexCfg] using this.1, this.2.1, this.2.2.1⟩
      enc_nz := fun hd => by rw [hdig] at hd; exact absurd hd (by decide)
      row_enc := fun i hi =>
        stored_enc m h.dig _ i (h.row_ok i hi) _ _ fun x hx => (selex_dig_sym a ha x (hlt i hi x hx)).2.2.2 }

theorem selexRead_write_text (m : Msa) (h : SelexTextWritable m) :
    selexRead (selexCfg none) (splitLines (selexWrite none m)) = (.ok (selexProject (selexCfg none) m), []) :=
  selexRead_write none (selexCfg none) id _ m (selexTextWritable_writable m h) (fun i hi => (h.name_ok i hi).2)

theorem selexRead_write_digital (a : Abc) (ha : selexDigSymOk a = true) (m : Msa) (h : SelexDigitalWritable a m) :
    selexRead (selexCfg (some a)) (splitLines (selexWrite (some a) m)) = (.ok (selexProject (selexCfg (some a)) m), []) :=
  selexRead_write (some a) (selexCfg (some a)) (selexEnc a) _ m (selexDigitalWritable_writable a ha m h)
    (fun i hi => (h.name_ok i hi).2)

theorem selexProject_stored (cfg : Cfg) (m : Msa) (hd : m.digital = cfg.digital) (i : Nat) (hi : i < m.nseq) :
    (selexProject cfg m).stored i = m.stored i := by
  cases hc : cfg.digital with
  | true => simp [selexProject, Msa.stored, hc, List.getD_eq_getElem?_getD, hi, hd]
  | false => simp [selexProject, Msa.stored, hc, List.getD_eq_getElem?_getD, hi, hd]

theorem selexRowsProj_optRow (n : Nat) (o : OptRows) (i : Nat) (hi : i < n) : optRow (selexRowsProj n o) i = optRow o i := by
  unfold selexRowsProj
  split
  · next hall =>
    have := (List.all_eq_true.mp hall) i (List.mem_range.mpr hi)
    have hnone : optRow o i = none := by simpa using this
    rw [hnone]; rfl
  · simp [optRow, List.getD_eq_getElem?_getD, hi]

/-- re-writing what was read back reproduces the bytes, annotation lines included -/
theorem selexWrite_project (abc : Option Abc) (cfg : Cfg) (m : Msa)
    (hax : abc.isSome = true → (selexProject cfg m).ax = (List.range m.nseq).map fun i => m.ax.getD i [])
    (haseq : abc.isSome = false → (selexProject cfg m).aseq = (List.range m.nseq).map fun i => m.aseq.getD i []) :
    selexWrite abc (selexProject cfg m) = selexWrite abc m := by
  have hn : (selexProject cfg m).nseq = m.nseq := rfl
  unfold selexWrite selexLines
  have hw : selexNameLen (selexProject cfg m) = selexNameLen m := rfl
  have hal : (selexProject cfg m).alen = m.alen := rfl
  rw [hw, hal]
  congr 1
  apply flatMap_congr'
  intro apos _
  unfold selexBlockLines
  have h1 : (selexProject cfg m).ssCons = m.ssCons := rfl
  have h2 : (selexProject cfg m).rf = m.rf := rfl
  have h3 : (selexProject cfg m).mm = m.mm := rfl
  rw [h1, h2, h3, hn]
  congr 1
  apply flatMap_congr'
  intro i hi
  have hi' : i < m.nseq := List.mem_range.mp hi
  unfold selexSeqLines
  have hnm : (selexProject cfg m).names = m.names := rfl
  have hss : optRow (selexProject cfg m).ss i = optRow m.ss i := selexRowsProj_optRow m.nseq m.ss i hi'
  have hsa : optRow (selexProject cfg m).sa i = optRow m.sa i := selexRowsProj_optRow m.nseq m.sa i hi'
  rw [hnm, hss, hsa]
  have hch : seqChunk abc (selexProject cfg m) i apos selexCpl = seqChunk abc m i apos selexCpl := by
    cases abc with
    | none =>
      simp only [seqChunk]
      rw [haseq rfl]
      simp [List.getD_eq_getElem?_getD, hi']
    | some a =>
      simp only [seqChunk]
      rw [hax rfl]
      simp [List.getD_eq_getElem?_getD, hi']
  rw [hch]

/-- … in particular when the alignment is in the writer's mode, whatever annotation it carries -/
theorem selexWrite_project_mode (abc : Option Abc) (m : Msa) (hd : m.digital = abc.isSome) :
    selexWrite abc (selexProject (selexCfg abc) m) = selexWrite abc m := by
  cases abc with
  | none =>
    have hd' : m.digital = false := hd
    exact selexWrite_project none _ m (fun hc => by cases hc)
      (fun _ => by simp [selexProject, selexCfg, Cfg.digital, Msa.stored, hd'])
  | some a =>
    have hd' : m.digital = true := hd
    exact selexWrite_project (some a) _ m (fun _ => by simp [selexProject, selexCfg, Cfg.digital, Msa.stored, hd'])
      (fun hc => by cases hc)

theorem selexWrite_project_text (m : Msa) (h : SelexTextWritable m) :
    selexWrite none (selexProject (selexCfg none) m) = selexWrite none m := selexWrite_project_mode none m h.dig

theorem selexWrite_project_digital (a : Abc) (m : Msa) (h : SelexDigitalWritable a m) :
    selexWrite (some a) (selexProject (selexCfg (some a)) m) = selexWrite (some a) m := selexWrite_project_mode (some a) m h.dig

end EaselModel.Msafile
