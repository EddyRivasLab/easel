import EaselModel.Msafile.AbcTables
import EaselModel.Msafile.WriteFmt
import EaselModel.Msafile.A2mLemmas
import EaselModel.Msafile.Selex
import EaselModel.Msafile.Stockholm
import EaselModel.Msafile.Clustal
import EaselModel.Msafile.Psiblast
import EaselModel.Msafile.Phylip
import EaselModel.Core.ListLookup
/-! # The input maps of the readers meet the table conditions of their readers

Every `esl_msafile_*_SetInmap` starts from the alphabet's own `inmap` (digital mode) or from a table in which a class of
characters stands for itself (text mode) and then overwrites single cells.  What the readers ask of the result
(`Cfg.valid`, `InMap.noIgnore`) is asked of every cell by itself, so it holds once it holds of the start table and of
every value stored.  Of an alphabet this needs `Abc.WF`, which is checked once for each of the three alphabets.
`A2mValid` (`A2mLemmas.lean`: the map stores a residue for byte `c` iff the `csflag` loop flags `c`) relates a cell to its
index: `ITable` is `Table` with the index, and with the set of cells that are still to be overwritten. -/
namespace EaselModel.Msafile

/-- every cell satisfies `R`; a read past the end gives ILLEGAL, as in `InMap.get` -/
def Table (R : UInt8 → Prop) (t : Array UInt8) : Prop := ∀ i : Nat, R (t.getD i dsqILLEGAL)

theorem Table.set {R : UInt8 → Prop} {t : Array UInt8} (h : Table R t) (i : Nat) {v : UInt8} (hv : R v) :
    Table R (t.setIfInBounds i v) := by
  intro j
  rw [getD_setIfInBounds]
  split
  · exact hv
  · exact h j

theorem Table.foldl_set {R : UInt8 → Prop} {v : UInt8} (f : Nat → Nat) (hv : R v) (l : List Nat) :
    ∀ {t : Array UInt8}, Table R t → Table R (l.foldl (fun t i => t.setIfInBounds (f i) v) t) := by
  induction l with
  | nil => exact id
  | cons i l ih => exact fun h => ih (h.set (f i) hv)

theorem size_foldl_set (f : Nat → Nat) (v : UInt8) (l : List Nat) :
    ∀ t : Array UInt8, (l.foldl (fun t i => t.setIfInBounds (f i) v) t).size = t.size := by
  induction l with
  | nil => exact fun _ => rfl
  | cons i l ih => exact fun t => (ih _).trans Array.size_setIfInBounds

theorem Table.imp {R R' : UInt8 → Prop} {t : Array UInt8} (h : Table R t) (hR : ∀ x, R x → R' x) : Table R' t :=
  fun i => hR _ (h i)

theorem Table.ofFn {R : UInt8 → Prop} {n : Nat} {f : Fin n → UInt8} (h : ∀ i, R (f i)) (hd : R dsqILLEGAL) :
    Table R (Array.ofFn f) := by
  intro j
  rw [Array.getD_eq_getD_getElem?, Array.getElem?_ofFn]
  split
  · exact h _
  · exact hd

theorem Table.get {R : UInt8 → Prop} {m : InMap} (h : Table R m.tbl) (c : UInt8) : R (m.get c) := h c.toNat

/-- 128 cells, each satisfying `R` at its index unless the index is in `E` (the cells a `SetInmap` has yet to overwrite) -/
structure ITable (R : Nat → UInt8 → Prop) (E : Nat → Prop) (t : Array UInt8) : Prop where
  size : t.size = 128
  cells : ∀ i, ¬ E i → R i (t.getD i dsqILLEGAL)

/-- overwriting cell `k` with a good value takes `k` out of the exceptions -/
theorem ITable.set {R : Nat → UInt8 → Prop} {E : Nat → Prop} {t : Array UInt8} (h : ITable R E t) {k : Nat} {v : UInt8}
    (hv : R k v) (hk : k < 128 := by decide) : ITable R (fun i => E i ∧ i ≠ k) (t.setIfInBounds k v) := by
  refine ⟨by rw [Array.size_setIfInBounds, h.size], fun i hi => ?_⟩
  rw [getD_setIfInBounds]
  split
  · rename_i hki; rw [← hki.1]; exact hv
  · rename_i hki
    exact h.cells i fun he => hi ⟨he, fun e => hki ⟨e.symm, h.size ▸ hk⟩⟩

/-- overwriting an excepted cell changes nothing -/
theorem ITable.set_exc {R : Nat → UInt8 → Prop} {E : Nat → Prop} {t : Array UInt8} (h : ITable R E t) {k : Nat} (v : UInt8)
    (hE : E k) : ITable R E (t.setIfInBounds k v) := by
  refine ⟨by rw [Array.size_setIfInBounds, h.size], fun i hi => ?_⟩
  rw [getD_setIfInBounds]
  split
  · rename_i hki; exact absurd (hki.1 ▸ hE) hi
  · exact h.cells i hi

/-- a symbol that may be stored in a row (`P`: a code `< Kp`, resp. a non-NUL character; `mapByte` stores exactly the cells
    `≤ 127`, the larger values are the `eslDSQ_*` flags), or ILLEGAL -/
def SymCell (P : UInt8 → Bool) (x : UInt8) : Prop := (x ≤ 127 ∧ P x = true) ∨ x = dsqILLEGAL

/-- the cells on which `mapByte` raises no exception -/
def MapCell (P : UInt8 → Bool) (x : UInt8) : Prop := SymCell P x ∨ x = dsqIGNORED

theorem MapCell.illegal {P : UInt8 → Bool} : MapCell P dsqILLEGAL := .inl (.inr rfl)
theorem MapCell.ignored {P : UInt8 → Bool} : MapCell P dsqIGNORED := .inr rfl

theorem SymCell.ne_ignored {P : UInt8 → Bool} {x : UInt8} (h : SymCell P x) : x ≠ dsqIGNORED := by
  rcases h with ⟨h, -⟩ | h
  · intro e; rw [e] at h; exact absurd h (by decide)
  · rw [h]; decide

theorem InMap.noIgnore_of_table {P : UInt8 → Bool} {t : Array UInt8} (h : Table (SymCell P) t) : (InMap.mk t).noIgnore = true :=
  List.all_eq_true.mpr fun _ _ => bne_iff_ne.mpr (Table.get (m := ⟨t⟩) h _).ne_ignored

theorem InMap.noExc_of_table {P : UInt8 → Bool} (m : InMap) (h : Table (MapCell P) m.tbl) : m.noExc = true := by
  refine List.all_eq_true.mpr fun c _ => ?_
  rcases h.get (UInt8.ofNat c) with (⟨hx, -⟩ | hx) | hx
  · simp [hx]
  · simp [hx]
  · simp [hx]

/-- the table condition behind `Cfg.valid`; `zero`: `mapByte` stores cell 0 for an illegal byte, whatever that cell holds -/
structure ValidTable (P : UInt8 → Bool) (t : Array UInt8) : Prop where
  cells : Table (MapCell P) t
  zero : P (t.getD 0 dsqILLEGAL) = true

theorem ValidTable.set {P : UInt8 → Bool} {t : Array UInt8} (h : ValidTable P t) (i : Nat) {v : UInt8}
    (hv : MapCell P v) (hi : i ≠ 0 := by decide) : ValidTable P (t.setIfInBounds i v) :=
  ⟨h.cells.set i hv, by rw [getD_setIfInBounds, if_neg (fun e => hi e.1)]; exact h.zero⟩

theorem ValidTable.set_zero {P : UInt8 → Bool} {t : Array UInt8} (h : Table (MapCell P) t) (hs : 0 < t.size) {v : UInt8}
    (hv : SymCell P v) (hP : P v = true) : ValidTable P (t.setIfInBounds 0 v) :=
  ⟨h.set 0 (.inl hv), by rw [getD_setIfInBounds, if_pos ⟨rfl, hs⟩]; exact hP⟩

theorem InMap.emits_of_table {P : UInt8 → Bool} (m : InMap) (h : ValidTable P m.tbl) : m.emits P = true := by
  refine Bool.and_eq_true_iff.mpr ⟨h.zero, List.all_eq_true.mpr fun c _ => ?_⟩
  rcases h.cells.get (UInt8.ofNat c) with (⟨-, hx⟩ | hx) | hx
  · simp [hx]
  · simp [hx, dsqILLEGAL]
  · simp [hx, dsqIGNORED]

theorem Cfg.valid.of_text {t : Array UInt8} (h : ValidTable (· != 0) t) : (⟨none, ⟨t⟩⟩ : Cfg).valid :=
  ⟨InMap.emits_of_table ⟨t⟩ h, InMap.noExc_of_table ⟨t⟩ h.cells⟩

theorem Cfg.valid.of_digital {a : Abc} {t : Array UInt8} (h : ValidTable (fun x => decide (x.toNat < a.kp)) t) :
    (⟨some a, ⟨t⟩⟩ : Cfg).valid :=
  ⟨InMap.emits_of_table ⟨t⟩ h, InMap.noExc_of_table ⟨t⟩ h.cells⟩

/-- the bytes at which an alphabet may have a symbol: the letters and `- . _ * ~` (numbers, so that the check over a table is cheap) -/
def symByte (i : Nat) : Bool := (65 ≤ i && i ≤ 90) || (97 ≤ i && i ≤ 122) || i == 45 || i == 46 || i == 95 || i == 42 || i == 126

/-- the characters an Easel alphabet prints: letters, `-`, `*`, `~` (on the number of the character, as `symByte`) -/
def symClass (t : UInt8) : Bool :=
  (65 ≤ t.toNat && t.toNat ≤ 90) || (97 ≤ t.toNat && t.toNat ≤ 122) || t.toNat == 45 || t.toNat == 42 || t.toNat == 126

theorem isUpper_toNat (t : UInt8) : isUpper t = (decide (65 ≤ t.toNat) && decide (t.toNat ≤ 90)) := by
  simp [isUpper, UInt8.le_iff_toNat_le]

theorem toLower_toNat {t : UInt8} (h : isUpper t = true) : (toLower t).toNat = t.toNat + 32 := by
  rw [toLower, if_pos h, UInt8.toNat_add]
  simp only [isUpper_toNat, Bool.and_eq_true, decide_eq_true_eq] at h
  simp; omega

/-- what readers and writers use of an `ESL_ALPHABET`.  Of `inmap[]`: 128 cells, each a code `< Kp` or ILLEGAL, codes only at
    `symByte`s, a letter in lower case read as in upper case.  Of the codes: room for the gap `K`, the unknown residue `Kp-3`
    and the missing-data symbol `Kp-1`.  Of `sym[]`: a right inverse of `inmap[]` on the codes, holding letters, `-`, `*`, `~`
    only, upper-case letters for the residues; `-` is the gap and `~` missing data; the unknown residue is not printed `O`, and
    the nucleic alphabets (types 1, 2) print no `O` at all. -/
structure Abc.WF (a : Abc) : Prop where
  size : a.inmap.size = 128
  kp : a.k + 3 < a.kp ∧ a.kp ≤ 128
  cells : ∀ x ∈ a.inmap.toList, x.toNat < a.kp ∨ x = dsqILLEGAL
  letters : ∀ p ∈ a.inmap.toList.zipIdx, p.1.toNat < a.kp → symByte p.2 = true
  caseIns : ∀ i, 65 ≤ i → i ≤ 90 → a.inmap.getD (i + 32) dsqILLEGAL = a.inmap.getD i dsqILLEGAL
  inv : ∀ x, x < a.kp → a.inmap.getD (a.sym.getD x 0).toNat dsqILLEGAL = UInt8.ofNat x
  cls : ∀ x, x < a.kp → symClass (a.sym.getD x 0) = true
  res : ∀ x, x < a.kp → a.xIsResidue (UInt8.ofNat x) = true → isUpper (a.sym.getD x 0) = true
  noO : (a.type == 2 || a.type == 1) = true → ∀ x, x < a.kp → a.sym.getD x 0 ≠ 79
  gap : a.inmap.getD 45 dsqILLEGAL = a.gap
  miss : a.inmap.getD 126 dsqILLEGAL = a.missing
  unkO : a.cUnknown ≠ 79

def caseInsB (l : List UInt8) : Bool := ((l.drop 65).zip (l.drop 97)).take 26 |>.all fun p => p.1.toNat == p.2.toNat

/-- `Abc.WF` as a check that runs along the two tables, comparing numbers: one pass over `inmap[]` with its indices, one over the
    26 pairs of letter cells, one over `sym[0..Kp-1]` (the only look-ups into `inmap[]` are the `Kp` of `inv`) -/
def Abc.wfB (a : Abc) : Bool :=
  a.inmap.size == 128 && decide (a.k + 3 < a.kp ∧ a.kp ≤ 128 ∧ a.kp ≤ a.sym.size) &&                          -- `size`, `kp`
  (a.inmap.toList.zipIdx.all fun p => if p.1.toNat < a.kp then symByte p.2 else p.1.toNat == 254) &&         -- `letters`, `cells`
  caseInsB a.inmap.toList &&                                                                                  -- `caseIns`
  (a.sym.toList.zipIdx.take a.kp |>.all fun p =>                                                              -- for the code `p.2` and its symbol `p.1`:
    let t := p.1.toNat
    (a.inmap.toList.getD t dsqILLEGAL).toNat == p.2 && symClass p.1 &&                                        -- `inv`, `cls`
      (!(p.2 < a.k || (a.k < p.2 && p.2 < a.kp - 2)) || (65 ≤ t && t ≤ 90)) &&                               -- `res` (`xIsResidue p.2` written on numbers)
      (!(a.type == 2 || a.type == 1) || t != 79)) &&                                                          -- `noO`
  (a.inmap.toList.getD 45 dsqILLEGAL).toNat == a.k && (a.inmap.toList.getD 126 dsqILLEGAL).toNat == a.kp - 1 &&   -- `gap`, `miss`
  (a.sym.toList.getD (a.kp - 3) 0).toNat != 79                                                                -- `unkO`

theorem eq_ofNat8 {v : UInt8} {x : Nat} (hx : x < 256) (h : v.toNat = x) : v = UInt8.ofNat x := by
  rw [← UInt8.toNat_inj, h, UInt8.toNat_ofNat_of_lt' hx]

theorem getD_toList_arr {α : Type} (t : Array α) (i : Nat) (d : α) : t.getD i d = t.toList.getD i d := by
  rw [Array.getD_eq_getD_getElem?, List.getD_eq_getElem?_getD, Array.getElem?_toList]

theorem mem_zipIdx_take {α : Type} (l : List α) (d : α) {k x : Nat} (hx : x < k) (hl : x < l.length) :
    (l.getD x d, x) ∈ l.zipIdx.take k := by
  rw [List.mem_take_iff_getElem]
  refine ⟨x, by simp; omega, ?_⟩
  simp [List.getD_eq_getElem?_getD, List.getElem?_eq_getElem hl]

theorem caseInsB_get {l : List UInt8} (h : caseInsB l = true) (hl : l.length = 128) {i : Nat} (h1 : 65 ≤ i) (h2 : i ≤ 90) (d : UInt8) :
    l.getD (i + 32) d = l.getD i d := by
  have hm : (l.getD i d, l.getD (i + 32) d) ∈ ((l.drop 65).zip (l.drop 97)).take 26 := by
    rw [List.mem_take_iff_getElem]
    refine ⟨i - 65, by simp [hl]; omega, ?_⟩
    simp only [List.getElem_zip, List.getElem_drop, List.getD_eq_getElem?_getD]
    rw [List.getElem?_eq_getElem (by omega), List.getElem?_eq_getElem (by omega)]
    simp only [Option.getD_some, Prod.mk.injEq]
    constructor <;> congr 1 <;> omega
  have := (List.all_eq_true.mp h) _ hm
  rw [beq_iff_eq, UInt8.toNat_inj] at this
  exact this.symm

theorem Abc.WF.of {a : Abc} (h : a.wfB = true) : a.WF := by
  simp only [Abc.wfB, Bool.and_eq_true, beq_iff_eq, decide_eq_true_eq, List.all_eq_true, Bool.or_eq_true,
    Bool.not_eq_true', bne_iff_ne, ne_eq] at h
  obtain ⟨⟨⟨⟨⟨⟨⟨hs, hk, hk8, hks⟩, hc⟩, hcase⟩, hy⟩, hg⟩, hm⟩, hu⟩ := h     -- the lines of `wfB` in their order
  have h256 : ∀ x, x < a.kp → x < 256 := fun x hx => by omega
  have hy := fun x (hx : x < a.kp) => hy _ (mem_zipIdx_take a.sym.toList 0 hx (by simpa using Nat.lt_of_lt_of_le hx hks))
  simp only [← getD_toList_arr] at hy hg hm hu
  -- the four facts about code `x` and its symbol, by name
  have hinv := fun x hx => (hy x hx).1.1.1
  have hcls := fun x hx => (hy x hx).1.1.2
  have hresB := fun x hx => (hy x hx).1.2
  have hnoO := fun x hx => (hy x hx).2
  have hres : ∀ x, x < a.kp → a.xIsResidue (UInt8.ofNat x) = true →
      (decide (x < a.k) || decide (a.k < x) && decide (x < a.kp - 2)) ≠ false := by
    intro x hx hr
    simp only [Abc.xIsResidue, UInt8.toNat_ofNat_of_lt' (h256 x hx), gt_iff_lt] at hr
    rw [hr]; exact Bool.noConfusion
  refine { size := hs, kp := ⟨hk, hk8⟩, cells := ?_, letters := ?_, inv := fun x hx => eq_ofNat8 (h256 x hx) (hinv x hx),
           caseIns := fun i h1 h2 => by
             rw [getD_toList_arr, getD_toList_arr]; exact caseInsB_get hcase (by simpa using hs) h1 h2 _,
           cls := hcls, res := ?_, noO := ?_,
           gap := eq_ofNat8 (by omega) hg, miss := eq_ofNat8 (by omega) hm,
           unkO := fun e => hu (by rw [Abc.cUnknown] at e; rw [e]; rfl) }
  · intro x hx
    obtain ⟨i, hi⟩ := List.getElem?_of_mem hx
    have := hc (x, i) (List.mem_zipIdx_iff_getElem?.mpr (by simpa using hi))
    split at this
    · exact .inl (by assumption)
    · exact .inr (by rw [← UInt8.toNat_inj]; rw [beq_iff_eq] at this; exact this)
  · intro p hp hlt
    have := hc p hp
    rwa [if_pos hlt] at this
  · intro x hx hr
    rw [isUpper_toNat]
    simpa using (hresB x hx).resolve_left (hres x hx hr)
  · intro ht x hx e
    exact (hnoO x hx).resolve_left (by rw [ht]; exact Bool.noConfusion) (by rw [e]; rfl)

abbrev Abc.code (a : Abc) (x : UInt8) : Bool := decide (x.toNat < a.kp)

theorem Abc.WF.sym {a : Abc} (h : a.WF) {x : UInt8} (hx : x.toNat < a.kp) : SymCell a.code x :=
  .inl ⟨UInt8.le_iff_toNat_le.mpr (by have := h.kp; simp; omega), decide_eq_true hx⟩

theorem Abc.WF.table {a : Abc} (h : a.WF) : Table (SymCell a.code) a.inmap := by
  intro i
  rw [Array.getD_eq_getD_getElem?]
  cases hx : a.inmap[i]? with
  | none => exact .inr rfl
  | some x => exact (h.cells x (Array.mem_toList_iff.mpr (Array.mem_of_getElem? hx))).elim h.sym .inr

theorem Abc.WF.mapTable {a : Abc} (h : a.WF) : Table (MapCell a.code) a.inmap := h.table.imp fun _ => .inl

theorem Abc.WF.toNat_ofNat {a : Abc} (h : a.WF) {x : Nat} (hx : x < a.kp) : (UInt8.ofNat x).toNat = x :=
  UInt8.toNat_ofNat_of_lt' (by have := h.kp; simp [UInt8.size]; omega)

theorem Abc.WF.ofNat_lt {a : Abc} (h : a.WF) {n : Nat} (hn : n < a.kp) : (UInt8.ofNat n).toNat < a.kp := by
  rw [h.toNat_ofNat hn]; exact hn

theorem Abc.WF.unknown_lt {a : Abc} (h : a.WF) : a.unknown.toNat < a.kp := h.ofNat_lt (by have := h.kp; omega)
theorem Abc.WF.gap_lt {a : Abc} (h : a.WF) : a.gap.toNat < a.kp := h.ofNat_lt (by have := h.kp; omega)
theorem Abc.WF.missing_lt {a : Abc} (h : a.WF) : a.missing.toNat < a.kp := h.ofNat_lt (by have := h.kp; omega)

theorem Abc.WF.set_unknown {a : Abc} (h : a.WF) {t : Array UInt8} (ht : Table (MapCell a.code) t) (hs : t.size = 128) :
    ValidTable a.code (t.setIfInBounds 0 a.unknown) :=
  .set_zero ht (by omega) (h.sym h.unknown_lt) (decide_eq_true h.unknown_lt)

theorem abcAmino_wf : abcAmino.WF := .of (by decide +kernel)
theorem abcDna_wf : abcDna.WF := .of (by decide +kernel)
theorem abcRna_wf : abcRna.WF := .of (by decide +kernel)

theorem wf_std {a : Abc} (ha : a = abcAmino ∨ a = abcDna ∨ a = abcRna) : a.WF := by
  rcases ha with h | h | h <;> subst h
  · exact abcAmino_wf
  · exact abcDna_wf
  · exact abcRna_wf

def AbcOk (abc : Option Abc) : Prop := ∀ a, abc = some a → a.WF

theorem abcOk_none : AbcOk none := nofun
theorem abcOk_some {a : Abc} (h : a.WF) : AbcOk (some a) := fun _ e => Option.some.inj e ▸ h
theorem abcOk_std {a : Abc} (ha : a = abcAmino ∨ a = abcDna ∨ a = abcRna) : AbcOk (some a) := abcOk_some (wf_std ha)

theorem textSym_of_graph {c : UInt8} (h : isGraph c = true) : SymCell (· != 0) c := by
  simp [isGraph, UInt8.le_iff_toNat_le] at h
  refine .inl ⟨UInt8.le_iff_toNat_le.mpr (by simp; omega), bne_iff_ne.mpr fun e => ?_⟩
  rw [e] at h; simp at h

theorem isGraph_of_isAlpha {c : UInt8} (h : isAlpha c = true) : isGraph c = true := by
  simp only [isAlpha, isUpper, isLower, isGraph, Bool.or_eq_true, Bool.and_eq_true, decide_eq_true_eq,
    UInt8.le_iff_toNat_le] at h ⊢
  simp at h ⊢; omega

/-- text mode starts from `inmap[0] = '?'`, the characters of a class `cls` of printable characters standing for
    themselves, everything else ILLEGAL -/
abbrev textTable (cls : UInt8 → Bool) : Array UInt8 :=
  Array.ofFn (n := 128) fun i =>
    let c := UInt8.ofNat i.val
    if i.val == 0 then (63 : UInt8) else if cls c then c else dsqILLEGAL

theorem textTable_sym (cls : UInt8 → Bool) (hc : ∀ c, cls c = true → isGraph c = true) :
    Table (SymCell (· != 0)) (textTable cls) := by
  refine .ofFn (fun i => ?_) (.inr rfl)
  simp only
  split
  · exact textSym_of_graph (by decide)
  · split
    · exact textSym_of_graph (hc _ ‹_›)
    · exact .inr rfl

theorem textTable_valid (cls : UInt8 → Bool) (hc : ∀ c, cls c = true → isGraph c = true) :
    ValidTable (· != 0) (textTable cls) :=
  ⟨(textTable_sym cls hc).imp fun _ => .inl, by rw [textTable, Array.getD_eq_getD_getElem?, Array.getElem?_ofFn]; rfl⟩

/-! The cells below are ASCII codes, as in the `SetInmap` models: 9 tab, 32 blank, 42 `*`, 45 `-`, 46 `.`, 48–57 the digits,
62 `>`, 63 `?`, 79 `O`, 95 `_`, 111 `o`, 126 `~`; `Abc.type` 1 = eslRNA, 2 = eslDNA. -/

theorem afaCfg_valid {abc : Option Abc} (h : AbcOk abc) : (afaCfg abc).valid := by
  cases abc with
  | some a =>
    have ha := h a rfl
    exact .of_digital ((ha.set_unknown ha.mapTable ha.size).set 32 .ignored)
  | none =>
    exact .of_text (((textTable_valid isGraph fun _ => id).set 62 .illegal).set 32 .ignored)

theorem clustalCfg_valid {abc : Option Abc} (h : AbcOk abc) : (clustalCfg abc).valid := by
  cases abc with
  | some a => have ha := h a rfl; exact .of_digital (ha.set_unknown ha.mapTable ha.size)
  | none => exact .of_text (textTable_valid isGraph fun _ => id)

/-- `esl_msafile_stockholm_SetInmap` builds the table `esl_msafile_clustal_SetInmap` builds -/
theorem stockholmCfg_valid {abc : Option Abc} (h : AbcOk abc) : (stockholmCfg abc).valid := clustalCfg_valid h

theorem stockholmCfg_noIgnore {abc : Option Abc} (h : AbcOk abc) : (stockholmCfg abc).inmap.noIgnore = true := by
  cases abc with
  | some a => have ha := h a rfl; exact InMap.noIgnore_of_table (ha.table.set 0 (ha.sym ha.unknown_lt))
  | none => exact InMap.noIgnore_of_table (textTable_sym isGraph fun _ => id)

theorem selexCfg_valid {abc : Option Abc} (h : AbcOk abc) : (selexCfg abc).valid := by
  cases abc with
  | some a =>
    have ha := h a rfl
    exact .of_digital ((ha.set_unknown ha.mapTable ha.size).set 32 (.inl (ha.sym ha.gap_lt)))
  | none =>
    exact .of_text ((textTable_valid isGraph fun _ => id).set 32 (.inl (textSym_of_graph (by decide))))

theorem selexCfg_ok {abc : Option Abc} (h : AbcOk abc) : (selexCfg abc).selexOk = true := by
  cases abc with
  | some a =>
    have ha := h a rfl
    exact Bool.and_eq_true_iff.mpr
      ⟨InMap.noIgnore_of_table ((ha.table.set 0 (ha.sym ha.unknown_lt)).set 32 (ha.sym ha.gap_lt)), decide_eq_true ha.gap_lt⟩
  | none =>
    exact Bool.and_eq_true_iff.mpr
      ⟨InMap.noIgnore_of_table ((textTable_sym isGraph fun _ => id).set 32 (textSym_of_graph (by decide))), rfl⟩

theorem a2mCfg_valid {abc : Option Abc} (h : AbcOk abc) : (a2mCfg abc).valid := by
  cases abc with
  | some a =>
    have ha := h a rfl
    exact .of_digital ((((((((ha.set_unknown ha.mapTable ha.size).set 95 .illegal).set 42 .illegal).set 126 .illegal).set 32
      .ignored).set 9 .ignored).set 46 .ignored).set 79 .ignored |>.set 111 .ignored)
  | none =>
    exact .of_text ((((((textTable_valid isAlpha fun _ => isGraph_of_isAlpha).set 45 (.inl (textSym_of_graph (by decide)))).set 32
      .ignored).set 9 .ignored).set 46 .ignored).set 79 .ignored |>.set 111 .ignored)

theorem psiblastCfg_valid {abc : Option Abc} (h : AbcOk abc) : (psiblastCfg abc).valid := by
  cases abc with
  | some a =>
    have ha := h a rfl
    exact .of_digital ((((((ha.set_unknown ha.mapTable ha.size).set 46 .illegal).set 95 .illegal).set 42 .illegal).set 126
      .illegal).set 79 .illegal |>.set 111 .illegal)
  | none =>
    exact .of_text (((textTable_valid isAlpha fun _ => isGraph_of_isAlpha).set 45 (.inl (textSym_of_graph (by decide)))).set 79
      .illegal |>.set 111 .illegal)

theorem phylipCfg_valid {abc : Option Abc} (h : AbcOk abc) : (phylipCfg abc).valid := by
  cases abc with
  | some a =>
    have ha := h a rfl
    have ht := ((((Table.foldl_set (48 + ·) .ignored (List.range 10) ha.mapTable).set 63 (.inl (ha.sym ha.missing_lt))).set 126
      .illegal).set 95 .illegal).set 32 .ignored |>.set 9 .ignored
    have hv := ha.set_unknown ht (by simp only [Array.size_setIfInBounds, size_foldl_set, ha.size])
    refine .of_digital ?_
    show ValidTable a.code (if a.type == 2 || a.type == 1 then _ else _)
    split
    · exact hv.set 79 (.inl (ha.sym ha.gap_lt))
    · exact hv
  | none =>
    -- the branches of `phylipInmap none` in their order: `'?'` at 0; blank, tab; `- * ? .`; the digits; the letters; the rest
    refine .of_text ⟨.ofFn (fun i => ?_) .illegal, by rw [Array.getD_eq_getD_getElem?, Array.getElem?_ofFn]; rfl⟩
    simp only
    split
    · exact .inl (textSym_of_graph (by decide))
    · split
      · exact .ignored
      · split
        · rename_i hc
          have : isGraph (UInt8.ofNat i.val) = true := by
            simp only [Bool.or_eq_true, beq_iff_eq] at hc
            rcases hc with ((hc | hc) | hc) | hc <;> rw [hc] <;> decide
          exact .inl (textSym_of_graph this)
        · split
          · exact .ignored
          · split
            · exact .inl (textSym_of_graph (isGraph_of_isAlpha ‹_›))
            · exact .illegal

/-! ## the text-mode tables in closed form

The kernel pays for the 128 character tests of `textTable` every time a test vector is read in text mode.  Each table is
evaluated here once, to a list it reads off cheaply; the test vectors of `Props/C01.lean` rewrite with these equations first.
In the lists 254 is `dsqILLEGAL`, 253 is `dsqIGNORED`, 63 is `'?'`. -/

/-- `'?'`, then the printable characters `33 … 126` standing for themselves -/
def graphTbl : Array UInt8 := (63 :: List.replicate 32 254 ++ (List.range' 33 94).map UInt8.ofNat ++ [254]).toArray

/-- `'?'`, then the letters `A … Z`, `a … z` standing for themselves -/
def alphaTbl : Array UInt8 :=
  (63 :: List.replicate 64 254 ++ (List.range' 65 26).map UInt8.ofNat ++ List.replicate 6 254 ++
    (List.range' 97 26).map UInt8.ofNat ++ List.replicate 5 254).toArray

theorem textTable_isGraph : textTable isGraph = graphTbl := by apply Array.toList_inj.mp; decide +kernel
theorem textTable_isAlpha : textTable isAlpha = alphaTbl := by apply Array.toList_inj.mp; decide +kernel

theorem afaCfg_text :
    afaCfg none = ⟨none, ⟨(graphTbl.setIfInBounds 62 dsqILLEGAL).setIfInBounds 32 dsqIGNORED⟩⟩ := by
  rw [← textTable_isGraph]; rfl

theorem clustalCfg_text : clustalCfg none = ⟨none, ⟨graphTbl⟩⟩ := by rw [← textTable_isGraph]; rfl

theorem stockholmCfg_text : stockholmCfg none = ⟨none, ⟨graphTbl⟩⟩ := by rw [← textTable_isGraph]; rfl

theorem selexCfg_text : selexCfg none = ⟨none, ⟨graphTbl.setIfInBounds 32 46⟩⟩ := by rw [← textTable_isGraph]; rfl

theorem a2mCfg_text :
    a2mCfg none = ⟨none, ⟨(((((alphaTbl.setIfInBounds 45 45).setIfInBounds 32 dsqIGNORED).setIfInBounds 9 dsqIGNORED).setIfInBounds
      46 dsqIGNORED).setIfInBounds 79 dsqIGNORED).setIfInBounds 111 dsqIGNORED⟩⟩ := by
  rw [← textTable_isAlpha]; rfl

theorem psiblastCfg_text :
    psiblastCfg none = ⟨none, ⟨((alphaTbl.setIfInBounds 45 45).setIfInBounds 79 dsqILLEGAL).setIfInBounds 111 dsqILLEGAL⟩⟩ := by
  rw [← textTable_isAlpha]; rfl

/-- PHYLIP text mode: `'?'`; tab, blank and the digits IGNORED; `* - . ?` and the letters standing for themselves -/
def phylipTbl : Array UInt8 :=
  (63 :: List.replicate 8 254 ++ 253 :: List.replicate 22 254 ++ 253 :: List.replicate 9 254 ++ [42, 254, 254, 45, 46, 254] ++
    List.replicate 10 253 ++ List.replicate 5 254 ++ [63, 254] ++ (List.range' 65 26).map UInt8.ofNat ++
    List.replicate 6 254 ++ (List.range' 97 26).map UInt8.ofNat ++ List.replicate 5 254).toArray

theorem phylipCfg_text : phylipCfg none = ⟨none, ⟨phylipTbl⟩⟩ := by
  refine congrArg (fun t => (⟨none, ⟨t⟩⟩ : Cfg)) (Array.toList_inj.mp ?_); decide +kernel

def StdAbc (abc : Option Abc) : Prop := abc = none ∨ abc = some abcAmino ∨ abc = some abcDna ∨ abc = some abcRna

theorem StdAbc.ok {abc : Option Abc} (h : StdAbc abc) : AbcOk abc := by
  rcases h with rfl | rfl | rfl | rfl
  · exact abcOk_none
  · exact abcOk_some abcAmino_wf
  · exact abcOk_some abcDna_wf
  · exact abcOk_some abcRna_wf

theorem forall_stdConfigs {mk : Option Abc → Cfg} {P : Cfg → Prop} (h : ∀ abc, StdAbc abc → P (mk abc)) :
    ∀ cfg ∈ [mk none, mk (some abcAmino), mk (some abcDna), mk (some abcRna)], P cfg := by
  intro cfg hc
  simp only [List.mem_cons, List.mem_nil_iff, or_false] at hc
  rcases hc with rfl | rfl | rfl | rfl
  · exact h _ (.inl rfl)
  · exact h _ (.inr (.inl rfl))
  · exact h _ (.inr (.inr (.inl rfl)))
  · exact h _ (.inr (.inr (.inr rfl)))

/-- the cells `esl_msafile_a2m_SetInmap` overwrites, and cell 0, which `a2mSyncB` does not look at -/
def a2mSet (i : Nat) : Prop := i = 0 ∨ i = 95 ∨ i = 42 ∨ i = 126 ∨ i = 32 ∨ i = 9 ∨ i = 46 ∨ i = 79 ∨ i = 111

/-- away from those cells an alphabet has its symbols at letters other than `O`, `o` and at `-`: where the `csflag` loop flags -/
theorem Abc.WF.syncTable {a : Abc} (h : a.WF) : ITable SyncCell a2mSet a.inmap := by
  refine ⟨h.size, fun i hi => ?_⟩
  rw [Array.getD_eq_getD_getElem?]
  cases hx : a.inmap[i]? with
  | none => exact .illegal i
  | some x =>
    rcases h.cells x (Array.mem_toList_iff.mpr (Array.mem_of_getElem? hx)) with hlt | hill
    · have hs := h.letters (x, i) (List.mem_zipIdx_iff_getElem?.mpr (by simpa using hx)) hlt
      refine ⟨fun _ => ?_, fun (e : x = dsqIGNORED) => ?_⟩
      · simp only [symByte, flaggedNat, a2mSet, Bool.or_eq_true, Bool.and_eq_true, decide_eq_true_eq, beq_iff_eq, bne_iff_ne] at hs hi ⊢
        omega
      · have := h.kp
        rw [e] at hlt; simp [dsqIGNORED] at hlt; omega
    · rw [hill]; exact .illegal i

/-- the text-mode start table of A2M: a letter stands for itself, which is a stored residue, flagged unless it is `O` or `o` -/
theorem alphaTable_sync : ITable SyncCell (fun i => i = 0 ∨ i = 79 ∨ i = 111) (textTable isAlpha) := by
  refine ⟨Array.size_ofFn, fun j hj => ?_⟩
  rw [textTable, Array.getD_eq_getD_getElem?, Array.getElem?_ofFn]
  split
  · rename_i hj128
    dsimp only
    split
    · rename_i hz; exact absurd (.inl (by simpa using hz)) hj
    · split
      · rename_i hal
        refine ⟨fun _ => ?_, fun (e : UInt8.ofNat j = dsqIGNORED) => absurd (e ▸ hal : isAlpha dsqIGNORED = true) (by decide)⟩
        have hsk : a2mSkip (UInt8.ofNat j) = false := by
          simp only [a2mSkip, Bool.or_eq_false_iff, beq_eq_false_iff_ne, ne_eq, ← UInt8.toNat_inj, toNat_ofNat_ascii hj128]
          simp; omega
        rw [← a2mFlagged_ofNat hj128]
        simp only [a2mFlagged, hsk, Bool.not_false, Bool.true_and]
        simp only [isAlpha, Bool.or_eq_true] at hal
        rcases hal with hal | hal <;> simp [hal]
      · exact .illegal j
  · exact .illegal j

/-- the two classifications of a sequence byte agree, for every well-formed alphabet: the proof follows
    `esl_msafile_a2m_SetInmap` store by store -/
theorem a2mCfg_sync {abc : Option Abc} (h : AbcOk abc) : a2mSyncB (a2mCfg abc).inmap = true := by
  cases abc with
  | some a =>
    have ht := ((((((((((h a rfl).syncTable.set_exc a.unknown (.inl rfl)).set (.illegal 95)).set (.illegal 42)).set (.illegal 126)).set
      (.ignored (i := 32) rfl)).set (.ignored (i := 9) rfl)).set (.ignored (i := 46) rfl)).set (.ignored (i := 79) rfl)).set
      (.ignored (i := 111) rfl))
    exact a2mSyncB_of_cells fun i _ _ => ht.cells i fun he => by simp only [a2mSet] at he; omega
  | none =>
    have ht := (((((alphaTable_sync.set (k := 45) (v := 45) ⟨fun _ => rfl, fun e => absurd e (by decide)⟩).set
      (.ignored (i := 32) rfl)).set (.ignored (i := 9) rfl)).set (.ignored (i := 46) rfl)).set (.ignored (i := 79) rfl)).set
      (.ignored (i := 111) rfl)
    exact a2mSyncB_of_cells fun i _ _ => ht.cells i fun he => by omega

theorem a2mCfg_a2mValid {abc : Option Abc} (h : AbcOk abc) : A2mValid (a2mCfg abc) := by
  refine ⟨a2mCfg_sync h, ?_⟩
  cases abc with
  | some a => exact decide_eq_true (h a rfl).gap_lt
  | none => rfl

end EaselModel.Msafile
