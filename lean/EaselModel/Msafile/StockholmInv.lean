import EaselModel.Msafile.StockholmBase
/-! The invariant of the Stockholm reader between two `esl_msafile_GetLine` calls, and its preservation by the
    array-growing helpers (`esl_msa_Expand` + `stockholm_parsedata_ExpandSeq`, `stockholm_get_seqidx`). -/
namespace EaselModel.Msafile

/-- every length the parse data keeps: rows, the five consensus lines, ss/sa/pp, unparsed #=GC tags, unparsed #=GR tags -/
def StoSt.lens (st : StoSt) : List Nat :=
  st.sqlen ++ st.consLen ++ perLens st.perLen ++ st.ogcLen ++ st.ogrLen.flatten

theorem StoSt.mem_lens {st : StoSt} {x : Nat} : x ∈ st.lens ↔
    x ∈ st.sqlen ∨ x ∈ st.consLen ∨ x ∈ perLens st.perLen ∨ x ∈ st.ogcLen ∨ x ∈ st.ogrLen.flatten := by
  simp only [StoSt.lens, List.mem_append, or_assoc]

/-- an annotation string and the length the parse data keeps for it: NULL with length 0, or a NUL-free string of that
    (non-zero) length -/
def slotOk (c : Option Bytes) (len : Nat) : Prop :=
  match c with
  | none => len = 0
  | some b => b.length = len ∧ (0 : UInt8) ∉ b ∧ 1 ≤ len

/-- two arrays of `n` entries, related entry by entry: an array of the alignment and the array the parse data keeps beside it -/
def Par {α β : Type} (R : α → β → Prop) (xs : List α) (ys : List β) (n : Nat) : Prop :=
  xs.length = n ∧ ys.length = n ∧ ∀ (i : Nat) x y, xs[i]? = some x → ys[i]? = some y → R x y

/-- an array of `m` annotation strings with its array of `m` lengths -/
abbrev SlotArr (cs : List (Option Bytes)) (ls : List Nat) (m : Nat) : Prop := Par slotOk cs ls m

/-- `msa->ss` and `pd->sslen` are NULL together, else arrays of `m` -/
def PerOk (r : OptRows) (l : Option (List Nat)) (m : Nat) : Prop :=
  match r, l with
  | none, none => True
  | some rws, some lns => SlotArr rws lns m
  | _, _ => False

structure AllocInv (st : StoSt) : Prop where
  sqalloc_pos : 0 < st.sqalloc
  salloc : st.salloc = st.sqalloc
  names : st.names.length ≤ st.sqalloc
  nseq : st.nseq = st.names.length
  si : st.si ≤ st.names.length
  wgt : st.wgt.length = st.sqalloc
  sqacc : ∀ l, st.sqacc = some l → l.length = st.sqalloc
  sqdesc : ∀ l, st.sqdesc = some l → l.length = st.sqalloc
  gs : st.gs.length = st.gsTags.length ∧ ∀ row ∈ st.gs, row.length = st.sqalloc
  comments : st.comments.length ≤ st.commentAlloc
  gf : st.gf.length ≤ st.gfAlloc

/-- every array that grows by columns, beside the array of lengths the parse data keeps for it -/
structure SlotInv (cfg : Cfg) (st : StoSt) : Prop where
  rows : Par (fun row len => RowIs cfg len row) st.rows st.sqlen st.sqalloc
  cons : SlotArr st.cons st.consLen 5
  per : Par (PerOk · · st.sqalloc) st.per st.perLen 3
  gc : SlotArr st.gc st.ogcLen st.gcTags.length
  gr : Par (SlotArr · · st.sqalloc) st.gr st.ogrLen st.grTags.length

structure StoSeqInv (st : StoSt) : Prop where
  beyond : ∀ i, st.names.length ≤ i → st.sqlen.getD i 0 = 0
  nseqB : st.nblock = 0 → st.nseqB = List.countP (· != 0) st.sqlen

/-- what the first block recorded for its line `j` (`7 … 10`: the four `#=GR` line types `ltGRSS … ltGROTHER`) -/
def LineRec (st : StoSt) (j : Nat) : Prop :=
  ∃ lt bx, st.blt[j]? = some (some lt) ∧ st.bidx[j]? = some (some bx) ∧
    ((lt = ltSQ ∨ (7 ≤ lt ∧ lt ≤ 10)) →
      ∃ i, bx = some i ∧ i < st.names.length ∧ (lt = ltSQ → st.sqlen.getD i 0 ≠ 0))

structure BlockInv (st : StoSt) : Prop where
  len : st.blt.length = st.balloc ∧ st.bidx.length = st.balloc ∧ 0 < st.balloc
  first : st.nblock = 0 → st.bi ≤ st.balloc
  later : st.nblock ≠ 0 → st.npb ≤ st.balloc ∧ st.bi ≤ st.npb
  recs : ∀ j, j < (if st.nblock = 0 then st.bi else st.npb) → LineRec st j
  inb : st.inBlock = true ↔ 0 < st.bi

/-- the invariant of `esl_msafile_stockholm_Read` at a `esl_msafile_GetLine` call; `count` (`CountInv`, StockholmBase.lean) ties every
    length in `st.lens` to `alen` and `alen_b`, which is what makes every row and annotation `alen` long at `//` -/
structure StoInv (cfg : Cfg) (st : StoSt) : Prop where
  alloc : AllocInv st
  slots : SlotInv cfg st
  seq : StoSeqInv st
  block : BlockInv st
  gcnz : ∀ x ∈ st.ogcLen, x ≠ 0
  count : CountInv st.alen st.alenB st.bi st.npb st.nblock st.lens

theorem slotOk_none : slotOk none 0 := rfl

namespace Par
variable {α β : Type} {R : α → β → Prop} {xs : List α} {ys : List β} {n : Nat}

theorem get (h : Par R xs ys n) {i : Nat} {x : α} {y : β} (hx : xs[i]? = some x) (hy : ys[i]? = some y) : R x y :=
  h.2.2 i x y hx hy

theorem replicate (n : Nat) {x : α} {y : β} (hxy : R x y) : Par R (List.replicate n x) (List.replicate n y) n := by
  refine ⟨by simp, by simp, fun i a b ha hb => ?_⟩
  rw [List.eq_of_mem_replicate (List.mem_of_getElem? ha), List.eq_of_mem_replicate (List.mem_of_getElem? hb)]
  exact hxy

theorem append {xs' : List α} {ys' : List β} {k : Nat} (h : Par R xs ys n) (h' : Par R xs' ys' k) :
    Par R (xs ++ xs') (ys ++ ys') (n + k) := by
  obtain ⟨h1, h2, h3⟩ := h
  obtain ⟨k1, k2, k3⟩ := h'
  refine ⟨by simp [h1, k1], by simp [h2, k2], fun i a b ha hb => ?_⟩
  rw [List.getElem?_append] at ha hb
  by_cases hi : i < n
  · rw [if_pos (h1 ▸ hi)] at ha; rw [if_pos (h2 ▸ hi)] at hb
    exact h3 i a b ha hb
  · rw [if_neg (h1 ▸ hi), h1] at ha; rw [if_neg (h2 ▸ hi), h2] at hb
    exact k3 _ a b ha hb

theorem set (h : Par R xs ys n) (i : Nat) {x : α} {y : β} (hxy : R x y) : Par R (xs.set i x) (ys.set i y) n := by
  obtain ⟨h1, h2, h3⟩ := h
  refine ⟨by simp [h1], by simp [h2], fun j a b ha hb => ?_⟩
  rw [List.getElem?_set] at ha hb
  by_cases hij : i = j
  · rw [if_pos hij] at ha hb
    split at ha
    · split at hb
      · cases ha; cases hb; exact hxy
      · cases hb
    · cases ha
  · rw [if_neg hij] at ha hb
    exact h3 j a b ha hb

theorem map {α' β' : Type} {R' : α' → β' → Prop} (h : Par R xs ys n) (f : α → α') (g : β → β')
    (hR : ∀ x y, R x y → R' (f x) (g y)) : Par R' (xs.map f) (ys.map g) n := by
  obtain ⟨h1, h2, h3⟩ := h
  refine ⟨by simp [h1], by simp [h2], fun i a b ha hb => ?_⟩
  rw [List.getElem?_map] at ha hb
  obtain ⟨x, hx, rfl⟩ := Option.map_eq_some_iff.mp ha
  obtain ⟨y, hy, rfl⟩ := Option.map_eq_some_iff.mp hb
  exact hR x y (h3 i x y hx hy)

end Par

theorem SlotArr.replicate (m : Nat) : SlotArr (List.replicate m none) (List.replicate m 0) m := Par.replicate m slotOk_none

theorem SlotArr.pad {cs : List (Option Bytes)} {ls : List Nat} {m : Nat} (h : SlotArr cs ls m) (k : Nat) :
    SlotArr (cs ++ List.replicate k none) (ls ++ List.replicate k 0) (m + k) := h.append (.replicate k slotOk_none)

theorem getD_replicate {α : Type} (m i : Nat) (d : α) : (List.replicate m d).getD i d = d := by
  simp only [List.getD_eq_getElem?_getD, List.getElem?_replicate]; split <;> rfl

theorem StoInv_init (cfg : Cfg) : StoInv cfg {} where
  alloc :=
    { sqalloc_pos := (by decide), salloc := rfl, names := (by decide), nseq := rfl, si := (by decide), wgt := rfl,
      sqacc := fun l h => (by cases h), sqdesc := fun l h => (by cases h),
      gs := ⟨rfl, fun row h => (by cases h)⟩, comments := (by decide), gf := (by decide) }
  slots :=
    { rows := Par.replicate 16 (RowIs.null cfg),
      cons := SlotArr.replicate 5,
      per := Par.replicate 3 (x := none) (y := none) trivial,
      gc := SlotArr.replicate 0,
      gr := ⟨rfl, rfl, fun _ _ _ hx => by cases hx⟩ }
  seq :=
    { beyond := fun i _ => by
        show (List.replicate 16 (0 : Nat)).getD i 0 = 0
        exact getD_replicate 16 i 0,
      nseqB := fun _ => by decide }
  block :=
    { len := ⟨rfl, rfl, (by decide)⟩, first := fun _ => (by decide), later := fun h => absurd rfl h,
      recs := fun j hj => (by simp at hj), inb := (by decide) }
  gcnz := fun x hx => by cases hx
  count :=
    { tri := fun x hx => by
        left
        have e : ({} : StoSt).lens = List.replicate 21 0 := by decide
        rw [e] at hx
        exact List.eq_of_mem_replicate hx,
      bi0 := fun _ => rfl, bipos := fun h => (by cases h), first := fun _ => ⟨rfl, (by decide)⟩,
      later := fun h => absurd rfl h }

theorem PerOk.pad {r : OptRows} {l : Option (List Nat)} {m : Nat} (h : PerOk r l m) (k : Nat) :
    PerOk (r.map (· ++ List.replicate k none)) (l.map (· ++ List.replicate k 0)) (m + k) := by
  cases r with
  | none => cases l with
    | none => trivial
    | some _ => exact h
  | some rws => cases l with
    | none => exact h
    | some lns => exact SlotArr.pad h k

/-- `esl_msa_Expand` followed by `stockholm_parsedata_ExpandSeq` -/
def expandAll (st : StoSt) : StoSt := pdExpandSeq (msaExpand st)

theorem expandAll_lens (st : StoSt) : LensRel 0 0 st.lens (expandAll st).lens := by
  unfold StoSt.lens expandAll pdExpandSeq msaExpand
  simp only
  exact LensRel.app (LensRel.app (LensRel.app (LensRel.app (LensRel.pad _ _) (LensRel.refl0 _)) (perLens_pad _ _)) (LensRel.refl0 _))
    (LensRel.flatten_map_pad _ _)

/-- an optional per-sequence array of `n` entries, after `esl_msa_Expand` has appended `n` more -/
theorem length_map_pad {α : Type} {o : Option (List α)} {n : Nat} {d : α} (h : ∀ l, o = some l → l.length = n)
    (l : List α) (hl : o.map (· ++ List.replicate n d) = some l) : l.length = 2 * n := by
  cases o with
  | none => cases hl
  | some l0 =>
    rw [← Option.some.inj hl, List.length_append, List.length_replicate, h l0 rfl]
    omega

theorem expandAll_inv {cfg : Cfg} {st : StoSt} (h : StoInv cfg st) : StoInv cfg (expandAll st) := by
  have hk : 2 * st.sqalloc - st.salloc = st.sqalloc := by have := h.alloc.salloc; omega
  have ha := h.alloc
  have hs := h.slots
  refine { alloc := ?_, slots := ?_, seq := ?_, block := ?_, gcnz := h.gcnz, count := h.count.pad (expandAll_lens st) }
  · exact
      { sqalloc_pos := (by show 0 < 2 * st.sqalloc; have := ha.sqalloc_pos; omega),
        salloc := rfl,
        names := (by show st.names.length ≤ 2 * st.sqalloc; have := ha.names; omega),
        nseq := ha.nseq, si := ha.si,
        wgt := (by show (st.wgt ++ List.replicate st.sqalloc Wgt.unset).length = 2 * st.sqalloc
                   simp [ha.wgt]; omega),
        sqacc := length_map_pad ha.sqacc, sqdesc := length_map_pad ha.sqdesc,
        gs := (by
          refine ⟨?_, ?_⟩
          · show (st.gs.map (· ++ List.replicate st.sqalloc none)).length = st.gsTags.length
            simp [ha.gs.1]
          · intro row hrow
            show row.length = 2 * st.sqalloc
            have hrow' : row ∈ st.gs.map (· ++ List.replicate st.sqalloc none) := hrow
            obtain ⟨r0, hr0, e⟩ := List.mem_map.mp hrow'
            rw [← e]; simp [ha.gs.2 r0 hr0]; omega),
        comments := ha.comments, gf := ha.gf }
  · have h2 : 2 * st.sqalloc = st.sqalloc + st.sqalloc := by omega
    exact
      { rows := (by
          -- the new row pointers are NULL and their lengths 0
          show Par _ (st.rows ++ List.replicate st.sqalloc none) (st.sqlen ++ List.replicate (2 * st.sqalloc - st.salloc) 0)
            (2 * st.sqalloc)
          rw [hk, h2]; exact hs.rows.append (.replicate _ (RowIs.null cfg))),
        cons := hs.cons,
        per := hs.per.map _ _ fun r l hp => by
          show PerOk (r.map (· ++ List.replicate st.sqalloc none)) (l.map (· ++ List.replicate (2 * st.sqalloc - st.salloc) 0))
            (2 * st.sqalloc)
          rw [hk, h2]; exact hp.pad st.sqalloc,
        gc := hs.gc,
        gr := hs.gr.map _ _ fun crow lrow hp => by
          show SlotArr (crow ++ List.replicate st.sqalloc none) (lrow ++ List.replicate (2 * st.sqalloc - st.salloc) 0) (2 * st.sqalloc)
          rw [hk, h2]; exact hp.pad st.sqalloc }
  · exact
      { beyond := (by
          intro i hi
          show (st.sqlen ++ List.replicate (2 * st.sqalloc - st.salloc) 0).getD i 0 = 0
          rw [getD_append_replicate]; exact h.seq.beyond i hi),
        nseqB := (by
          intro h0
          show st.nseqB = List.countP (· != 0) (st.sqlen ++ List.replicate (2 * st.sqalloc - st.salloc) 0)
          rw [List.countP_append, List.countP_replicate]
          simpa using h.seq.nseqB h0) }
  · have hb := h.block
    exact
      { len := hb.len, first := hb.first, later := hb.later,
        recs := (by
          intro j hj
          obtain ⟨lt, bx, e1, e2, e3⟩ := hb.recs j hj
          refine ⟨lt, bx, e1, e2, fun hlt => ?_⟩
          obtain ⟨i, e4, e5, e6⟩ := e3 hlt
          refine ⟨i, e4, e5, fun hq => ?_⟩
          show (st.sqlen ++ List.replicate (2 * st.sqalloc - st.salloc) 0).getD i 0 ≠ 0
          rw [getD_append_replicate]; exact e6 hq),
        inb := hb.inb }

theorem addName_inv {cfg : Cfg} {st : StoSt} (h : StoInv cfg st) (name : Bytes) (hlt : st.names.length < st.sqalloc) :
    StoInv cfg { st with names := st.names ++ [name], nseq := st.nseq + 1 } := by
  have ha := h.alloc
  have hb := h.block
  exact
    { alloc :=
        { sqalloc_pos := ha.sqalloc_pos, salloc := ha.salloc,
          names := (by show (st.names ++ [name]).length ≤ st.sqalloc; simp; omega),
          nseq := (by show st.nseq + 1 = (st.names ++ [name]).length; simp [ha.nseq]),
          si := (by show st.si ≤ (st.names ++ [name]).length; have := ha.si; simp; omega),
          wgt := ha.wgt, sqacc := ha.sqacc, sqdesc := ha.sqdesc, gs := ha.gs, comments := ha.comments, gf := ha.gf },
      slots := { rows := h.slots.rows, cons := h.slots.cons, per := h.slots.per, gc := h.slots.gc, gr := h.slots.gr },
      seq :=
        { beyond := (by
            intro i hi
            have hi' : (st.names ++ [name]).length ≤ i := hi
            exact h.seq.beyond i (by simp at hi'; omega)),
          nseqB := h.seq.nseqB },
      block :=
        { len := hb.len, first := hb.first, later := hb.later,
          recs := (by
            intro j hj
            obtain ⟨lt, bx, e1, e2, e3⟩ := hb.recs j hj
            refine ⟨lt, bx, e1, e2, fun hlt => ?_⟩
            obtain ⟨i, e4, e5, e6⟩ := e3 hlt
            exact ⟨i, e4, (by show i < (st.names ++ [name]).length; simp; omega), e6⟩),
          inb := hb.inb },
      gcnz := h.gcnz,
      count := h.count }

theorem getSeqIdx_spec {cfg : Cfg} (st : StoSt) (name : Bytes) :
    ESpec (StoInv cfg st) (fun r => StoInv cfg r.1 ∧ r.2 < r.1.names.length ∧ r.1.nblock = st.nblock) (getSeqIdx st name) := by
  unfold getSeqIdx
  split
  · rename_i i hi
    obtain ⟨hlt, _⟩ := List.findIdx?_eq_some_iff_getElem.mp hi
    exact fun h => ⟨h, hlt, rfl⟩
  · dsimp only
    by_cases hge : st.names.length ≥ st.sqalloc
    · -- the arrays are full: `esl_msa_Expand` doubles them, so `esl_msa_SetSeqName` finds room
      simp only [hge, if_true]
      have hsq : (pdExpandSeq (msaExpand st)).sqalloc = 2 * st.sqalloc := rfl
      have hnm : (pdExpandSeq (msaExpand st)).names = st.names := rfl
      have hlt : StoInv cfg st → st.names.length < (pdExpandSeq (msaExpand st)).sqalloc := fun h => by
        rw [hsq]; have := h.alloc.names; have := h.alloc.sqalloc_pos; omega
      refine .ite (fun hbad => .exc fun h => by have := hlt h; omega) fun _ h => ⟨?_, ?_, rfl⟩
      · exact addName_inv (expandAll_inv h) name (hlt h)
      · show st.names.length < ((pdExpandSeq (msaExpand st)).names ++ [name]).length
        rw [hnm]; simp
    · simp only [hge, if_false]
      refine fun h => ⟨addName_inv h name (by omega), ?_, rfl⟩
      show st.names.length < (st.names ++ [name]).length
      simp

end EaselModel.Msafile
