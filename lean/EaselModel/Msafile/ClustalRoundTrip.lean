import EaselModel.Msafile.PhylipRoundTrip
import EaselModel.Msafile.Clustal
import EaselModel.Msafile.Write
import EaselModel.Msafile.WriteLemmas
/-! Clustal / Clustal-like: reading what `esl_msafile_clustal_Write` wrote gives the alignment back (C03).

The first part is shared with the PSI-BLAST round trip: `scanTo` on a written row line, and the block reader both formats use
(`BlkSt`, `blkStore`, `blkResult`) on the states a written alignment leads it through: `BlkRt` in front of a row, `BlkEnd` behind a block;
`blkStore_row`, `BlkRt.close`, `BlkEnd.next`, `BlkEnd.result` are the four things that happen to them. -/
namespace EaselModel.Msafile

theorem scanTo_at (P : UInt8 → Bool) (a r : Bytes) (n : Nat) (hn : a.length = n) :
    scanTo P (a ++ r) n = n + (r.takeWhile (fun c => !P c)).length := by
  subst hn
  unfold scanTo
  rw [List.drop_left]

theorem takeWhile_stopAt {α : Type} (p : α → Bool) (b c : List α) (hb : ∀ x ∈ b, p x = true)
    (hc : c = [] ∨ ∃ x t, c = x :: t ∧ p x = false) : (b ++ c).takeWhile p = b := by
  rw [List.takeWhile_append_of_pos hb]
  rcases hc with hc | ⟨x, t, hc, hx⟩
  · subst hc; simp
  · subst hc; simp [List.takeWhile, hx]

theorem slice_mid (a b c : Bytes) : slice (a ++ b ++ c) a.length b.length = some b := by
  unfold slice
  have : a.length + b.length ≤ (a ++ b ++ c).length := by simp
  rw [if_pos this, List.append_assoc, List.drop_left, List.take_left]

/-- the name field and the sequence field of a written row line -/
theorem rowLine_slices (nm ch : Bytes) (k : Nat) :
    slice (nm ++ List.replicate k 32 ++ ch) 0 nm.length = some nm ∧
    slice (nm ++ List.replicate k 32 ++ ch) (nm.length + k) ch.length = some ch := by
  have h1 := slice_mid [] nm (List.replicate k 32 ++ ch)
  have h2 := slice_mid (nm ++ List.replicate k 32) ch []
  exact ⟨by simpa using h1, by simpa using h2⟩

/-- a graphic character lies in `33 … 126`: no white space, not NUL -/
theorem graph_notSpace (c : UInt8) (h : isGraph c = true) : isSpace c = false ∧ c ≠ 0 := by
  simp only [isGraph, Bool.and_eq_true, decide_eq_true_eq, UInt8.le_iff_toNat_le] at h
  simp only [isSpace, UInt8.le_iff_toNat_le, ← UInt8.toNat_inj, ne_eq, Bool.or_eq_false_iff, Bool.and_eq_false_iff,
    beq_eq_false_iff_ne, decide_eq_false_iff_not]
  simp at h ⊢
  omega

theorem scanTo_rowLine (n0 c0 : UInt8) (nt ct : Bytes) (k : Nat) (hns : ∀ c ∈ n0 :: nt, isSpace c = false)
    (hc0 : isSpace c0 = false) :
    scanTo (fun c => !isSpace c) (n0 :: nt ++ List.replicate (k + 1) 32 ++ c0 :: ct) 0 = 0 ∧
    scanTo isSpace (n0 :: nt ++ List.replicate (k + 1) 32 ++ c0 :: ct) (0 + 1) = nt.length + 1 ∧
    scanTo (fun c => !isSpace c) (n0 :: nt ++ List.replicate (k + 1) 32 ++ c0 :: ct) (nt.length + 1 + 1)
      = nt.length + 1 + (k + 1) := by
  have hn0 : isSpace n0 = false := hns n0 (by simp)
  have h32 : isSpace 32 = true := by decide
  have h1 : scanTo (fun c => !isSpace c) (n0 :: nt ++ List.replicate (k + 1) 32 ++ c0 :: ct) 0 = 0 := by
    unfold scanTo
    simp [hn0]
  have h2 : scanTo isSpace (n0 :: nt ++ List.replicate (k + 1) 32 ++ c0 :: ct) (0 + 1) = nt.length + 1 := by
    have e : n0 :: nt ++ List.replicate (k + 1) 32 ++ c0 :: ct = [n0] ++ (nt ++ (32 :: (List.replicate k 32 ++ c0 :: ct))) := by
      simp [List.replicate_succ]
    rw [e, scanTo_at _ [n0] _ (0 + 1) rfl,
      takeWhile_stopAt _ nt _ (fun x hx => by simp [hns x (by simp [hx])]) (Or.inr ⟨32, _, rfl, by simp [h32]⟩)]
    omega
  have h3 : scanTo (fun c => !isSpace c) (n0 :: nt ++ List.replicate (k + 1) 32 ++ c0 :: ct) (nt.length + 1 + 1)
      = nt.length + 1 + (k + 1) := by
    have e : n0 :: nt ++ List.replicate (k + 1) 32 ++ c0 :: ct = (n0 :: nt ++ [32]) ++ (List.replicate k 32 ++ c0 :: ct) := by
      simp [List.replicate_succ]
    rw [e, scanTo_at _ (n0 :: nt ++ [32]) _ (nt.length + 1 + 1) (by simp),
      takeWhile_stopAt _ (List.replicate k 32) _ (fun x hx => by rw [(List.mem_replicate.mp hx).2]; simp [h32])
        (Or.inr ⟨c0, ct, rfl, by simp [hc0]⟩)]
    simp; omega
  exact ⟨h1, h2, h3⟩

theorem clustalCols_line (nm ch : Bytes) (k : Nat) (hnm : nm ≠ []) (hns : ∀ c ∈ nm, isSpace c = false)
    (hch : ch ≠ []) (hcs : ∀ c ∈ ch, isSpace c = false) :
    clustalCols (nm ++ List.replicate (k + 1) 32 ++ ch) = some ⟨0, nm.length, nm.length + (k + 1), ch.length⟩ := by
  obtain ⟨n0, nt, rfl⟩ := List.exists_cons_of_ne_nil hnm
  obtain ⟨c0, ct, rfl⟩ := List.exists_cons_of_ne_nil hch
  have hc0 : isSpace c0 = false := hcs c0 (by simp)
  obtain ⟨h1, h2, h3⟩ := scanTo_rowLine n0 c0 nt ct k hns hc0
  have h4 : scanTo isSpace (n0 :: nt ++ List.replicate (k + 1) 32 ++ c0 :: ct) (nt.length + 1 + (k + 1) + 1)
      = nt.length + 1 + (k + 1) + (ct.length + 1) := by
    have e : n0 :: nt ++ List.replicate (k + 1) 32 ++ c0 :: ct = (n0 :: nt ++ List.replicate (k + 1) 32 ++ [c0]) ++ (ct ++ []) := by
      simp
    rw [e, scanTo_at _ (n0 :: nt ++ List.replicate (k + 1) 32 ++ [c0]) _ (nt.length + 1 + (k + 1) + 1) (by simp; omega),
      takeWhile_stopAt _ ct [] (fun x hx => by simp [hcs x (by simp [hx])]) (Or.inl rfl)]
    omega
  have hlt : ¬ (nt.length + 1 + (k + 1) ≥ (n0 :: nt ++ List.replicate (k + 1) 32 ++ c0 :: ct).length) := by
    simp; omega
  unfold clustalCols
  simp only [h1, h2, h3, h4, hlt, if_false, List.length_cons]
  congr 2 <;> omega

theorem blkName_first (inc : Bool) (st : BlkSt) (nm : Bytes) (h0 : (st.nblocks == 0) = true)
    (hidx : st.idx < expandAlloc st.idx st.sqalloc) (hc : cstr nm = nm) :
    blkName inc st nm = .inl { st with sqalloc := expandAlloc st.idx st.sqalloc,
                                       rows := if st.idx ≥ st.sqalloc then st.rows ++ List.replicate st.sqalloc none else st.rows,
                                       names := st.names ++ [nm],
                                       nseq := if inc then st.nseq + 1 else st.nseq } := by
  have h1 : ¬ (st.idx ≥ expandAlloc st.idx st.sqalloc) := by omega
  have hz : nm.contains 0 = false := by
    rw [Bool.eq_false_iff]
    intro hcon
    have hm : (0 : UInt8) ∈ nm := by simpa using hcon
    rw [← hc] at hm
    unfold cstr at hm
    have hall : ∀ (l : Bytes) (x : UInt8), x ∈ l.takeWhile (· != 0) → x ≠ 0 := by
      intro l
      induction l with
      | nil => intro x hx; simp at hx
      | cons c t ih =>
        intro x hx
        by_cases hc0 : c = 0
        · subst hc0; simp [List.takeWhile] at hx
        · have : (c != 0) = true := by simpa using hc0
          simp only [List.takeWhile, this] at hx
          rcases List.mem_cons.mp hx with e | e
          · subst e; exact hc0
          · exact ih x e
    exact hall nm 0 hm rfl
  unfold blkName blkNameCore
  simp only [h0, hz, Bool.and_false, Bool.false_eq_true, if_true, h1, if_false, hc]

theorem blkName_later (inc : Bool) (st : BlkSt) (nm : Bytes) (h0 : (st.nblocks == 0) = false)
    (hidx : st.idx < st.nseq) (hn : st.names[st.idx]? = some nm) :
    blkName inc st nm = .inl st := by
  have h1 : ¬ (st.idx ≥ st.nseq) := by omega
  unfold blkName blkNameCore
  simp only [h0, Bool.false_and, Bool.false_eq_true, if_false, h1, hn, memstrcmp, beq_self_eq_true, Bool.not_true]

theorem blkAppend_ok (cfg : Cfg) (st : BlkSt) (seq : Bytes) (cur : Option Bytes) (codes : Bytes)
    (hrow : st.rows[st.idx]? = some cur) (hlen : rowLen cfg.digital cur = st.alen)
    (hcat : (if cfg.digital then dsqcat cfg.inmap cur seq else strmapcat cfg.inmap cur seq) = (.ok, some (mkRow cfg.digital codes)))
    (hl : codes.length = st.alen + seq.length) :
    blkAppend cfg st seq = .inl { st with rows := st.rows.set st.idx (some (mkRow cfg.digital codes)), idx := st.idx + 1 } := by
  unfold blkAppend
  rw [hrow]
  simp only [hlen, bne_self_eq_false, Bool.false_eq_true, if_false, hcat, rowLen_mkRow, hl]

/-- row `j` in the block starting at `pos` when `idx` rows of the block are read (NULL beyond the alignment's rows) -/
def cluRowF (cfg : Cfg) (enc : UInt8 → UInt8) (txt : Nat → Bytes) (m : Msa) (pos idx j : Nat) : Option Bytes :=
  if j < m.nseq then ilvRowF cfg enc txt pos idx j else none

theorem cluRowF_zero_ge (cfg : Cfg) (enc : UInt8 → UInt8) (txt : Nat → Bytes) (m : Msa) (idx j : Nat) (h : idx ≤ j) :
    cluRowF cfg enc txt m 0 idx j = none := by
  have : ¬ j < idx := by omega
  simp [cluRowF, ilvRowF, this, phyRowAt]

/-- all rows of the block at `pos` read = in front of the first row of the next block -/
theorem cluRowF_next (cfg : Cfg) (enc : UInt8 → UInt8) (txt : Nat → Bytes) (m : Msa) (pos j : Nat) :
    cluRowF cfg enc txt m pos m.nseq j = cluRowF cfg enc txt m (pos + 60) 0 j := by
  unfold cluRowF
  by_cases hj : j < m.nseq
  · simp [hj, ilvRowF]
  · simp [hj]

theorem rangeMap_expand {α : Type} (s : Nat) (f : Nat → Option α) (h : ∀ j, s ≤ j → f j = none) :
    (List.range s).map f ++ List.replicate s none = (List.range (2 * s)).map f := by
  apply List.ext_getElem?
  intro i
  by_cases h1 : i < s
  · rw [List.getElem?_append_left (by simpa using h1)]
    have : i < 2 * s := by omega
    simp [h1, this]
  · rw [List.getElem?_append_right (by simp; omega)]
    by_cases h2 : i < 2 * s
    · simp only [List.length_map, List.length_range]
      rw [List.getElem?_replicate]
      have : i - s < s := by omega
      simp [this, h2, h i (by omega)]
    · rw [List.getElem?_eq_none (by simp; omega), List.getElem?_eq_none (by simp; omega)]

theorem maxWidth_foldl_ge (l : List Bytes) (a : Nat) : a ≤ l.foldl (fun a s => max a s.length) a := by
  induction l generalizing a with
  | nil => exact Nat.le_refl _
  | cons x t ih => exact Nat.le_trans (Nat.le_max_left _ _) (ih _)

theorem maxWidth_foldl_mem (l : List Bytes) (a : Nat) : ∀ s ∈ l, s.length ≤ l.foldl (fun a s => max a s.length) a := by
  induction l generalizing a with
  | nil => intro s hs; cases hs
  | cons x t ih =>
    intro s hs
    rcases List.mem_cons.mp hs with hs | hs
    · subst hs; exact Nat.le_trans (Nat.le_max_right _ _) (maxWidth_foldl_ge t _)
    · exact ih _ s hs

theorem maxWidth_ge (l : List Bytes) (i : Nat) (hi : i < l.length) : (l.getD i []).length ≤ maxWidth l := by
  have : l.getD i [] ∈ l := by
    rw [List.getD_eq_getElem?_getD, List.getElem?_eq_getElem hi]; simp
  exact maxWidth_foldl_mem l 0 _ this

theorem allSome_map_some (l : List Bytes) : allSome (l.map some) = some l := by
  induction l with
  | nil => rfl
  | cons a t ih => simp [allSome, ih]

theorem allSome_rangeMap (n : Nat) (f : Nat → Option Bytes) (g : Nat → Bytes) (h : ∀ j, j < n → f j = some (g j)) :
    allSome ((List.range n).map f) = some ((List.range n).map g) := by
  rw [rangeMap_congr n f (fun j => some (g j)) h, ← allSome_map_some ((List.range n).map g), List.map_map]
  rfl

theorem memspn_lt_of_mem (l allow : Bytes) (c : UInt8) (hc : c ∈ l) (h : inDelim allow c = false) : memspn l allow < l.length := by
  unfold memspn
  induction l with
  | nil => cases hc
  | cons x t ih =>
    by_cases hx : inDelim allow x = true
    · rcases List.mem_cons.mp hc with e | e
      · subst e; rw [h] at hx; cases hx
      · have := ih e
        simp only [List.takeWhile_cons, hx, if_true, List.length_cons]
        omega
    · simp [hx]

theorem memspn_all (l allow : Bytes) (h : ∀ c ∈ l, inDelim allow c = true) : memspn l allow = l.length := by
  unfold memspn
  rw [takeWhile_all _ h]

/-- a name Clustal carries: not empty, no white space (the reader splits on `isspace`), no NUL -/
def cluNameOk (nm : Bytes) : Prop := nm ≠ [] ∧ ∀ c ∈ nm, isSpace c = false ∧ c ≠ 0

/-- everything Clustal represents of `m`: names, aligned rows; default weights; all annotation dropped -/
def clustalProject (cfg : Cfg) (m : Msa) : Msa :=
  { digital := cfg.digital, kp := cfg.kp, alen := m.alen, names := m.names,
    aseq := if cfg.digital then [] else (List.range m.nseq).map m.stored,
    ax := if cfg.digital then (List.range m.nseq).map m.stored else [],
    hasw := false, wgt := List.replicate m.nseq Wgt.dflt }

/-- an alignment that Clustal can carry and `esl_msafile_clustal_Write` + `esl_msafile_clustal_Read` (configuration `cfg`)
    preserve.  `txt i` is the text the writer prints for row `i`, `enc` sends a written symbol to the stored symbol.
    `notcons`: a row after the first of a block must not look like a consensus line (`esl_memspn(p, n, " .:*") < n`). -/
structure ClustalWritable (abc : Option Abc) (cfg : Cfg) (enc : UInt8 → UInt8) (txt : Nat → Bytes) (m : Msa) : Prop where
  n1 : 1 ≤ m.nseq
  alen1 : 1 ≤ m.alen
  name_ok : ∀ i, i < m.nseq → cluNameOk (m.names.getD i [])
  txt_len : ∀ i, i < m.nseq → (txt i).length = m.alen
  buf_eq : ∀ i, i < m.nseq → ∀ pos, seqChunk abc m i pos clustalCpl = ((txt i).drop pos).take 60
  txt_sym : ∀ i, i < m.nseq → ∀ t ∈ txt i, mapByte cfg.inmap t = (.ok, some (enc t)) ∧ isGraph t = true
  row_enc : ∀ i, i < m.nseq → m.stored i = mkRow cfg.digital ((txt i).map enc)
  notcons : ∀ i, 1 ≤ i → i < m.nseq → ∀ pos, pos < m.alen →
    ∃ c, (c ∈ m.names.getD i [] ∨ c ∈ ((txt i).drop pos).take 60) ∧ inDelim bConsensus c = false

/-- a row line: `"%-*s %s\n"` -/
def cluRowLine (abc : Option Abc) (m : Msa) (i pos : Nat) : Bytes :=
  padRight ((maxWidth m.names : Nat) : Int) (m.names.getD i []) ++ [32] ++ seqChunk abc m i pos clustalCpl

/-- the consensus line of a block: the same with an empty name -/
def cluConsLine (abc : Option Abc) (m : Msa) (pos : Nat) : Bytes :=
  padRight ((maxWidth m.names : Nat) : Int) [] ++ [32] ++ strChunk (consensusLine abc m) pos clustalCpl

theorem clustalBlockLines_eq (abc : Option Abc) (m : Msa) (pos : Nat) :
    clustalBlockLines abc m (maxWidth m.names) (consensusLine abc m) pos
      = [] :: ((List.range m.nseq).map (fun i => cluRowLine abc m i pos) ++ [cluConsLine abc m pos]) := by
  simp [clustalBlockLines, cluRowLine, cluConsLine]

theorem mem_of_drop_take {α : Type} {l : List α} {a : α} {p n : Nat} (h : a ∈ (l.drop p).take n) : a ∈ l :=
  List.mem_of_mem_drop (List.mem_of_mem_take h)

theorem cluRowLine_shape (abc : Option Abc) (cfg : Cfg) (enc : UInt8 → UInt8) (txt : Nat → Bytes) (m : Msa)
    (h : ClustalWritable abc cfg enc txt m) (i : Nat) (hi : i < m.nseq) (pos : Nat) :
    cluRowLine abc m i pos = m.names.getD i [] ++ List.replicate (maxWidth m.names - (m.names.getD i []).length + 1) 32
      ++ ((txt i).drop pos).take 60 := by
  simp [cluRowLine, padRight, h.buf_eq i hi, List.replicate_succ']

theorem clustalSeqLine_line (cfg : Cfg) (st : BlkSt) (nm ch : Bytes) (k : Nat) (hnm : nm ≠ []) (hns : ∀ c ∈ nm, isSpace c = false)
    (hch : ch ≠ []) (hcs : ∀ c ∈ ch, isSpace c = false)
    (hb : st.idx ≠ 0 → st.bss = nm.length + (k + 1) ∧ st.bsl = ch.length) :
    clustalSeqLine cfg st (nm ++ List.replicate (k + 1) 32 ++ ch)
      = blkStore cfg true { st with bss := nm.length + (k + 1), bsl := ch.length, phase := .inblock } nm ch := by
  unfold clustalSeqLine
  rw [clustalCols_line nm ch k hnm hns hch hcs]
  simp only [rowLine_slices]
  by_cases h0 : st.idx = 0
  · simp [setBlock, h0]
  · obtain ⟨h1, h2⟩ := hb h0
    have e0 : (st.idx == 0) = false := by simpa using h0
    simp only [setBlock, e0, Bool.false_eq_true, if_false, h1, h2, bne_self_eq_false, Bool.and_false]

theorem take_succ_getD (l : List Bytes) (i : Nat) (hi : i < l.length) : l.take i ++ [l.getD i []] = l.take (i + 1) := by
  rw [List.take_add_one, List.getD_eq_getElem?_getD, List.getElem?_eq_getElem hi]
  rfl

theorem cluRowF_set (cfg : Cfg) (enc : UInt8 → UInt8) (txt : Nat → Bytes) (m : Msa) (pos i s : Nat) (hi : i < m.nseq) (his : i < s) :
    ((List.range s).map (cluRowF cfg enc txt m pos i)).set i (some (mkRow cfg.digital (((txt i).take (pos + 60)).map enc)))
      = (List.range s).map (cluRowF cfg enc txt m pos (i + 1)) := by
  have hg : some (mkRow cfg.digital (((txt i).take (pos + 60)).map enc)) = cluRowF cfg enc txt m pos (i + 1) i := by
    simp [cluRowF, hi, ilvRowF, phyRowAt]
  rw [hg]
  refine rangeMap_set _ _ _ _ his ?_
  intro j _ hjk
  unfold cluRowF
  rw [ilvRowF_other cfg enc txt pos i j hjk]

/-- "Append the sequence" on a state that holds the expected rows in front of row `i`: the row grows by its chunk -/
theorem blkAppend_row (cfg : Cfg) (enc : UInt8 → UInt8) (txt : Nat → Bytes) (m : Msa) (pos i : Nat) (hi : i < m.nseq)
    (hpos : pos < m.alen) (hlenT : (txt i).length = m.alen)
    (hmaps : ∀ t ∈ txt i, mapByte cfg.inmap t = (.ok, some (enc t)))
    (st : BlkSt) (halen : st.alen = pos) (hidx : st.idx = i) (hsqi : i < st.sqalloc)
    (hrows : st.rows = (List.range st.sqalloc).map (cluRowF cfg enc txt m pos i)) :
    blkAppend cfg st (((txt i).drop pos).take 60)
      = .inl { st with rows := (List.range st.sqalloc).map (cluRowF cfg enc txt m pos (i + 1)), idx := i + 1 } := by
  have hrow : st.rows[st.idx]? = some (phyRowAt cfg enc txt pos i) := by
    rw [hrows, hidx, rangeMap_get _ _ _ hsqi]; simp [cluRowF, hi, ilvRowF]
  have hlen : rowLen cfg.digital (phyRowAt cfg enc txt pos i) = st.alen := by
    rw [halen, rowLen_phyRowAt, List.length_take, hlenT]; omega
  have hcat := phy_cat_plain cfg enc (phyRowAt cfg enc txt pos i) (((txt i).drop pos).take 60)
    (buf_ne_nil _ _ (by rw [hlenT]; exact hpos)) (fun t ht => hmaps t (mem_of_drop_take ht))
  rw [curCodes_phyRowAt, ← List.map_append, ← take_step] at hcat
  have hl : (((txt i).take (pos + 60)).map enc).length = st.alen + (((txt i).drop pos).take 60).length := by
    rw [halen]; simp [hlenT]; omega
  rw [blkAppend_ok cfg st _ _ _ hrow hlen hcat hl, hrows, hidx, cluRowF_set cfg enc txt m pos i _ hi hsqi]

/-- in front of row `i` of the block starting at `pos`, in either block reader: the fields that "Store the sequence name" and "Append the
    sequence" read and write.  `inc`: the reader counts the sequences as it stores their names (Clustal; PSI-BLAST sets `nseq` when the
    first block ends); `w`: the column where the sequences start -/
structure BlkRt (cfg : Cfg) (enc : UInt8 → UInt8) (txt : Nat → Bytes) (m : Msa) (inc : Bool) (w pos i : Nat) (st : BlkSt) : Prop where
  alen : st.alen = pos
  idx : st.idx = i
  nb : (st.nblocks == 0) = decide (pos = 0)
  nseq : st.nseq = if pos = 0 then (if inc then i else 0) else m.nseq
  names : st.names = if pos = 0 then m.names.take i else m.names
  sq1 : 1 ≤ st.sqalloc
  sqi : i ≤ st.sqalloc
  sqn : pos ≠ 0 → m.nseq ≤ st.sqalloc
  rows : st.rows = (List.range st.sqalloc).map (cluRowF cfg enc txt m pos i)
  blk : i ≠ 0 → st.bss = w ∧ st.bsl = blockLen m pos

theorem BlkRt.init (cfg : Cfg) (enc : UInt8 → UInt8) (txt : Nat → Bytes) (m : Msa) (inc : Bool) (w : Nat) (ph : Phase) :
    BlkRt cfg enc txt m inc w 0 0 { ({} : BlkSt) with phase := ph, idx := 0 } :=
  { alen := rfl, idx := rfl, nb := rfl, nseq := by cases inc <;> rfl, names := by simp, sq1 := (by decide : 1 ≤ 16), sqi := Nat.zero_le _
    sqn := fun h => absurd rfl h
    rows := rangeMap_const _ _ _ (fun j => cluRowF_zero_ge cfg enc txt m 0 j (Nat.zero_le _))
    blk := fun h0 => absurd rfl h0 }

/-- "Store the sequence name" and "Append the sequence" for row `i` of the block at `pos`, once the line's columns are found and checked
    against the block's: the name is added in the first block and compared in the later ones, the row grows by its chunk, the
    allocation doubles when row `i` needs it; no other field changes -/
theorem blkStore_row (cfg : Cfg) (enc : UInt8 → UInt8) (txt : Nat → Bytes) (m : Msa) (inc : Bool) (w pos i : Nat) (hi : i < m.nseq)
    (hpos : pos < m.alen) (hlenT : (txt i).length = m.alen) (hmaps : ∀ t ∈ txt i, mapByte cfg.inmap t = (.ok, some (enc t)))
    (hc : cstr (m.names.getD i []) = m.names.getD i [])
    (st : BlkSt) (hst : BlkRt cfg enc txt m inc w pos i st) (ph : Phase) (rf : Bytes) :
    ∃ st', blkStore cfg inc { st with bss := w, bsl := blockLen m pos, phase := ph, rf := rf } (m.names.getD i [])
        (((txt i).drop pos).take 60) = .inl st' ∧ st'.phase = ph ∧ st'.rf = rf ∧ BlkRt cfg enc txt m inc w pos (i + 1) st' := by
  have hi' : i < m.names.length := hi
  have hidx := hst.idx
  have hsqi := hst.sqi
  have hsq1 := hst.sq1
  unfold blkStore
  by_cases hp : pos = 0
  · subst hp
    have hlt : st.idx < expandAlloc st.idx st.sqalloc := by rw [hidx]; unfold expandAlloc; split <;> omega
    have hle : st.sqalloc ≤ expandAlloc st.idx st.sqalloc := by unfold expandAlloc; split <;> omega
    have h0 : (st.nblocks == 0) = true := by rw [hst.nb]; rfl
    rw [blkName_first inc { st with bss := w, bsl := blockLen m 0, phase := ph, rf := rf } _ h0 hlt hc]
    simp only
    refine ⟨_, blkAppend_row cfg enc txt m 0 i hi hpos hlenT hmaps _ hst.alen hidx (by rw [← hidx]; exact hlt) ?_, rfl, rfl,
      { alen := hst.alen, idx := rfl, nb := hst.nb
        nseq := by show (if inc then st.nseq + 1 else st.nseq) = _; rw [hst.nseq]; cases inc <;> simp
        names := by show st.names ++ [m.names.getD i []] = _; rw [hst.names]; simp only [if_true, take_succ_getD m.names i hi']
        sq1 := by show 1 ≤ expandAlloc st.idx st.sqalloc; omega
        sqi := by show i + 1 ≤ expandAlloc st.idx st.sqalloc; omega
        sqn := fun h => absurd rfl h, rows := rfl, blk := fun _ => ⟨rfl, rfl⟩ }⟩
    show (if st.idx ≥ st.sqalloc then st.rows ++ List.replicate st.sqalloc none else st.rows) = _
    unfold expandAlloc
    by_cases hge : st.idx ≥ st.sqalloc
    · simp only [hge, if_true, hst.rows]
      exact rangeMap_expand _ _ (fun j hj => cluRowF_zero_ge cfg enc txt m i j (by rw [hidx] at hge; omega))
    · simp only [hge, if_false, hst.rows]
  · have hnseq : st.nseq = m.nseq := by rw [hst.nseq, if_neg hp]
    have hnm : st.names = m.names := by rw [hst.names, if_neg hp]
    have hsqn := hst.sqn hp
    have h0 : (st.nblocks == 0) = false := by rw [hst.nb]; simp [hp]
    have hlt : st.idx < st.nseq := by rw [hidx, hnseq]; exact hi
    have hget : st.names[st.idx]? = some (m.names.getD i []) := by
      rw [hnm, hidx, List.getD_eq_getElem?_getD, List.getElem?_eq_getElem hi']; rfl
    rw [blkName_later inc { st with bss := w, bsl := blockLen m pos, phase := ph, rf := rf } _ h0 hlt hget]
    simp only
    exact ⟨_, blkAppend_row cfg enc txt m pos i hi hpos hlenT hmaps _ hst.alen hidx (by show i < st.sqalloc; omega) hst.rows, rfl, rfl,
      { alen := hst.alen, idx := rfl, nb := hst.nb
        nseq := by show st.nseq = _; rw [hnseq, if_neg hp]
        names := by show st.names = _; rw [hnm, if_neg hp]
        sq1 := hst.sq1, sqi := by show i + 1 ≤ st.sqalloc; omega
        sqn := hst.sqn, rows := rfl, blk := fun _ => ⟨rfl, rfl⟩ }⟩

/-- the state after "End of one block" for the block at `pos`, all of whose rows are read -/
structure BlkEnd (cfg : Cfg) (enc : UInt8 → UInt8) (txt : Nat → Bytes) (m : Msa) (pos : Nat) (st : BlkSt) : Prop where
  alen : st.alen = pos + blockLen m pos
  nb : (st.nblocks == 0) = false
  nseq : st.nseq = m.nseq
  names : st.names = m.names
  sq1 : 1 ≤ st.sqalloc
  sqn : m.nseq ≤ st.sqalloc
  rows : st.rows = (List.range st.sqalloc).map (cluRowF cfg enc txt m pos m.nseq)

/-- `alen += block_seq_len; nblocks++` behind the last row of a block; `n` is the number of sequences the reader has settled on by then -/
theorem BlkRt.close {cfg : Cfg} {enc : UInt8 → UInt8} {txt : Nat → Bytes} {m : Msa} {inc : Bool} {w pos : Nat} {st : BlkSt}
    (hst : BlkRt cfg enc txt m inc w pos m.nseq st) (hn1 : 1 ≤ m.nseq) (n : Nat) (hn : n = m.nseq) (ph : Phase) :
    BlkEnd cfg enc txt m pos { st with nseq := n, alen := st.alen + st.bsl, nblocks := st.nblocks + 1, phase := ph } :=
  { alen := by show st.alen + st.bsl = _; rw [hst.alen, (hst.blk (by omega)).2]
    nb := by show (st.nblocks + 1 == 0) = false; simp
    nseq := hn
    names := by show st.names = _; rw [hst.names]; split; exact List.take_length; rfl
    sq1 := hst.sq1, sqn := hst.sqi, rows := hst.rows }

/-- … and in front of the first row of the next block -/
theorem BlkEnd.next {cfg : Cfg} {enc : UInt8 → UInt8} {txt : Nat → Bytes} {m : Msa} {pos : Nat} {st : BlkSt}
    (hst : BlkEnd cfg enc txt m pos st) (hnext : pos + 60 < m.alen) (inc : Bool) (w : Nat) :
    BlkRt cfg enc txt m inc w (pos + 60) 0 { st with idx := 0 } :=
  { alen := by show st.alen = _; rw [hst.alen]; exact blockLen_full m pos (by omega)
    idx := rfl
    nb := by show (st.nblocks == 0) = _; rw [hst.nb]; simp
    nseq := by show st.nseq = _; rw [hst.nseq]; simp
    names := by show st.names = _; rw [hst.names]; simp
    sq1 := hst.sq1, sqi := Nat.zero_le _, sqn := fun _ => hst.sqn
    rows := by show st.rows = _; rw [hst.rows]; exact rangeMap_congr _ _ _ fun j _ => cluRowF_next cfg enc txt m pos j
    blk := fun h0 => absurd rfl h0 }

/-- … or, behind the last block, the alignment -/
theorem BlkEnd.result {cfg : Cfg} {enc : UInt8 → UInt8} {txt : Nat → Bytes} {m : Msa} {pos : Nat} {st : BlkSt}
    (hst : BlkEnd cfg enc txt m pos st) (hlenT : ∀ i, i < m.nseq → (txt i).length = m.alen)
    (hrow : ∀ i, i < m.nseq → m.stored i = mkRow cfg.digital ((txt i).map enc)) (hp : pos < m.alen) (hlast : m.alen ≤ pos + 60)
    (rf : Option Bytes) : blkResult cfg st rf = .ok { clustalProject cfg m with rf := rf } := by
  have hrows : allSome (st.rows.take m.nseq) = some ((List.range m.nseq).map m.stored) := by
    rw [hst.rows, ← List.map_take, List.take_range, Nat.min_eq_left hst.sqn]
    apply allSome_rangeMap
    intro j hj
    have hl := hlenT j hj
    simp only [cluRowF, hj, if_true, ilvRowF]
    rw [phyRowAt_full _ _ _ _ _ (by omega) (by omega), hrow j hj]
  have hnl2 : m.names.length = m.nseq := rfl
  unfold blkResult
  simp only [hst.nseq, hst.names, hst.alen, blockLen_last m pos hp hlast, Bool.false_eq_true, if_false, hrows, List.length_map,
    List.length_range, bne_self_eq_false, clustalProject, hnl2]

/-- in front of row `i` of the block starting at `pos`, in the Clustal reader -/
abbrev CluRt (cfg : Cfg) (enc : UInt8 → UInt8) (txt : Nat → Bytes) (m : Msa) : Nat → Nat → BlkSt → Prop :=
  BlkRt cfg enc txt m true (maxWidth m.names + 1)

theorem cluSeqLine_row (abc : Option Abc) (cfg : Cfg) (enc : UInt8 → UInt8) (txt : Nat → Bytes) (m : Msa)
    (h : ClustalWritable abc cfg enc txt m) (pos : Nat) (hpos : pos < m.alen) (i : Nat) (hi : i < m.nseq)
    (st : BlkSt) (hst : CluRt cfg enc txt m pos i st) :
    ∃ st', clustalSeqLine cfg st (cluRowLine abc m i pos) = .inl st' ∧ st'.phase = .inblock ∧ CluRt cfg enc txt m pos (i + 1) st' := by
  have hnm := h.name_ok i hi
  have hlenT := h.txt_len i hi
  have hw : (m.names.getD i []).length ≤ maxWidth m.names := maxWidth_ge m.names i hi
  have hchlen : (((txt i).drop pos).take 60).length = blockLen m pos := by
    simp [blockLen, hlenT]; omega
  have hss : (m.names.getD i []).length + (maxWidth m.names - (m.names.getD i []).length + 1) = maxWidth m.names + 1 := by omega
  have hline := clustalSeqLine_line cfg st (m.names.getD i []) (((txt i).drop pos).take 60)
    (maxWidth m.names - (m.names.getD i []).length) hnm.1 (fun c hc => (hnm.2 c hc).1)
    (buf_ne_nil _ _ (by rw [hlenT]; exact hpos))
    (fun c hc => (graph_notSpace c (h.txt_sym i hi c (mem_of_drop_take hc)).2).1)
    (fun h0 => by rw [hss, hchlen]; exact hst.blk (by rw [← hst.idx]; exact h0))
  rw [hss, hchlen] at hline
  obtain ⟨st', hstore, hph, _, hst'⟩ := blkStore_row cfg enc txt m true _ pos i hi hpos hlenT (fun t ht => (h.txt_sym i hi t ht).1)
    (cstr_id _ (fun c hc => (hnm.2 c hc).2)) st hst .inblock st.rf
  exact ⟨st', by rw [cluRowLine_shape abc cfg enc txt m h i hi pos, hline]; exact hstore, hph, hst'⟩

/-- a line that starts with a name is not blank -/
theorem nameLine_notBlank (nm r : Bytes) (h : cluNameOk nm) : isBlankLine (nm ++ r) = false := by
  obtain ⟨n0, nt, rfl⟩ := List.exists_cons_of_ne_nil h.1
  have h0 := h.2 n0 (by simp)
  have hd : inDelim blankTab n0 = false := by
    have h32 : n0 ≠ 32 := fun e => by rw [e] at h0; exact absurd h0.1 (by decide)
    have h9 : n0 ≠ 9 := fun e => by rw [e] at h0; exact absurd h0.1 (by decide)
    simp [inDelim, blankTab, h0.2, h32, h9]
  simp [isBlankLine, hd]

theorem cluRowLine_notBlank (abc : Option Abc) (cfg : Cfg) (enc : UInt8 → UInt8) (txt : Nat → Bytes) (m : Msa)
    (h : ClustalWritable abc cfg enc txt m) (i : Nat) (hi : i < m.nseq) (pos : Nat) : isBlankLine (cluRowLine abc m i pos) = false := by
  rw [cluRowLine_shape abc cfg enc txt m h i hi pos, List.append_assoc]
  exact nameLine_notBlank _ _ (h.name_ok i hi)

theorem cluRowLine_notCons (abc : Option Abc) (cfg : Cfg) (enc : UInt8 → UInt8) (txt : Nat → Bytes) (m : Msa)
    (h : ClustalWritable abc cfg enc txt m) (i : Nat) (h1 : 1 ≤ i) (hi : i < m.nseq) (pos : Nat) (hpos : pos < m.alen) :
    memspn (cluRowLine abc m i pos) bConsensus < (cluRowLine abc m i pos).length := by
  obtain ⟨c, hc, hd⟩ := h.notcons i h1 hi pos hpos
  refine memspn_lt_of_mem _ _ c ?_ hd
  rw [cluRowLine_shape abc cfg enc txt m h i hi pos]
  rcases hc with hc | hc
  · exact List.mem_append_left _ (List.mem_append_left _ hc)
  · exact List.mem_append_right _ hc

theorem clustalStep_inblock_row (like : Bool) (cfg : Cfg) (st : BlkSt) (l : Bytes) (hp : st.phase = .inblock)
    (hl : memspn l bConsensus < l.length) : clustalStep like cfg st l = clustalSeqLine cfg st l := by
  unfold clustalStep
  rw [hp]
  simp only [hl, if_true]

theorem lineOk_of_notLFCR (l : Bytes) (h : ∀ c ∈ l, c ≠ 10 ∧ c ≠ 13) : lineOk l :=
  ⟨fun h10 => (h 10 h10).1 rfl, fun h13 => (h 13 (List.mem_of_getLast? h13)).2 rfl⟩

/-- a name, blanks and a sequence field without white space make a line -/
theorem rowLine_ok (nm ch : Bytes) (k : Nat) (h : cluNameOk nm) (hch : ∀ c ∈ ch, isSpace c = false) :
    lineOk (nm ++ List.replicate k 32 ++ ch) := by
  apply lineOk_of_notLFCR
  intro c hc
  have hsp : isSpace c = false ∨ c = 32 := by
    rcases List.mem_append.mp hc with hc | hc
    · rcases List.mem_append.mp hc with hc | hc
      · exact Or.inl (h.2 c hc).1
      · exact Or.inr (List.mem_replicate.mp hc).2
    · exact Or.inl (hch c hc)
  rcases hsp with e | e
  · constructor <;> (intro e2; rw [e2] at e; exact absurd e (by decide))
  · rw [e]; decide

theorem cluRowLine_ok (abc : Option Abc) (cfg : Cfg) (enc : UInt8 → UInt8) (txt : Nat → Bytes) (m : Msa)
    (h : ClustalWritable abc cfg enc txt m) (i : Nat) (hi : i < m.nseq) (pos : Nat) : lineOk (cluRowLine abc m i pos) := by
  rw [cluRowLine_shape abc cfg enc txt m h i hi pos]
  exact rowLine_ok _ _ _ (h.name_ok i hi) fun c hc => (graph_notSpace c (h.txt_sym i hi c (mem_of_drop_take hc)).2).1

/-- the rows of the block at `pos`, from any state in `pre` that reads the first row as `next` of it does -/
theorem cluRows_reads (like : Bool) (abc : Option Abc) (cfg : Cfg) (enc : UInt8 → UInt8) (txt : Nat → Bytes) (m : Msa)
    (h : ClustalWritable abc cfg enc txt m) (pos : Nat) (hpos : pos < m.alen) (pre : BlkSt → Prop) (next : BlkSt → BlkSt)
    (hpre : ∀ s, pre s → CluRt cfg enc txt m pos 0 (next s) ∧
      clustalStep like cfg s (cluRowLine abc m 0 pos) = clustalSeqLine cfg (next s) (cluRowLine abc m 0 pos)) :
    Reads (clustalStep like cfg) pre ((List.range m.nseq).map fun idx => cluRowLine abc m idx pos)
      (fun s => s.phase = .inblock ∧ CluRt cfg enc txt m pos m.nseq s) :=
  Reads.rowsFrom (R := fun i s => s.phase = .inblock ∧ CluRt cfg enc txt m pos i s) h.n1
    (Reads.one (cluRowLine_ok abc cfg enc txt m h 0 h.n1 pos) fun s hs => by
      rw [(hpre s hs).2]
      exact cluSeqLine_row abc cfg enc txt m h pos hpos 0 h.n1 (next s) (hpre s hs).1)
    fun i hi1 hi => Reads.one (cluRowLine_ok abc cfg enc txt m h i hi pos) fun s hs => by
      rw [clustalStep_inblock_row like cfg s _ hs.1 (cluRowLine_notCons abc cfg enc txt m h i hi1 hi pos hpos)]
      exact cluSeqLine_row abc cfg enc txt m h pos hpos i hi s hs.2

theorem consensusLine_chars (abc : Option Abc) (m : Msa) : ∀ c ∈ consensusLine abc m, c = 42 ∨ c = 58 ∨ c = 46 ∨ c = 32 := by
  intro c hc
  cases abc with
  | none => rcases textConsensusLine_chars m c hc with e | e <;> simp [e]
  | some a =>
    simp only [consensusLine, digitalConsensusLine, List.mem_map] at hc
    obtain ⟨_, _, rfl⟩ := hc
    exact digitalConsChar_range a _

theorem cluConsLine_chars (abc : Option Abc) (m : Msa) (pos : Nat) : ∀ c ∈ cluConsLine abc m pos, c = 42 ∨ c = 58 ∨ c = 46 ∨ c = 32 := by
  intro c hc
  simp only [cluConsLine, padRight, strChunk, cstr, List.mem_append, List.mem_replicate, List.mem_singleton, List.nil_append] at hc
  rcases hc with (hc | hc) | hc
  · simp [hc.2]
  · simp [hc]
  · exact consensusLine_chars abc m c (mem_of_drop_take ((List.takeWhile_sublist _).subset hc))

theorem cluConsLine_ok (abc : Option Abc) (m : Msa) (pos : Nat) : lineOk (cluConsLine abc m pos) := by
  apply lineOk_of_notLFCR
  intro c hc
  rcases cluConsLine_chars abc m pos c hc with e | e | e | e <;> subst e <;> decide

theorem clustalStep_cons (like : Bool) (abc : Option Abc) (cfg : Cfg) (st : BlkSt) (m : Msa) (pos : Nat) (hp : st.phase = .inblock)
    (hn : st.idx = st.nseq) : clustalStep like cfg st (cluConsLine abc m pos) = .inl { st with phase := .between } := by
  have hall : memspn (cluConsLine abc m pos) bConsensus = (cluConsLine abc m pos).length := by
    apply memspn_all
    intro c hc
    rcases cluConsLine_chars abc m pos c hc with e | e | e | e <;> subst e <;> decide
  have hne : (st.idx != st.nseq) = false := by rw [hn]; simp
  unfold clustalStep
  rw [hp]
  simp only [hall, Nat.lt_irrefl, if_false, hne, Bool.false_eq_true]

/-- … preceded by a blank line that such a state skips, and followed by the consensus line -/
theorem cluBlock_reads (like : Bool) (abc : Option Abc) (cfg : Cfg) (enc : UInt8 → UInt8) (txt : Nat → Bytes) (m : Msa)
    (h : ClustalWritable abc cfg enc txt m) (pos : Nat) (hpos : pos < m.alen) (pre : BlkSt → Prop) (next : BlkSt → BlkSt)
    (hpre : ∀ s, pre s → CluRt cfg enc txt m pos 0 (next s) ∧ clustalStep like cfg s [] = .inl s ∧
      clustalStep like cfg s (cluRowLine abc m 0 pos) = clustalSeqLine cfg (next s) (cluRowLine abc m 0 pos)) :
    Reads (clustalStep like cfg) pre (clustalBlockLines abc m (maxWidth m.names) (consensusLine abc m) pos)
      (fun s => s.phase = .between ∧ CluRt cfg enc txt m pos m.nseq s) := by
  rw [clustalBlockLines_eq]
  refine (Reads.one ⟨by simp, by simp⟩ fun s hs => ⟨s, (hpre s hs).2.1, hs⟩).cons
    ((cluRows_reads like abc cfg enc txt m h pos hpos pre next fun s hs => ⟨(hpre s hs).1, (hpre s hs).2.2⟩).append ?_)
  refine Reads.one (cluConsLine_ok abc m pos) fun s ⟨hp1, hst1⟩ => ?_
  have hidx : s.idx = s.nseq := by rw [hst1.idx, hst1.nseq]; split <;> rfl
  exact ⟨_, clustalStep_cons like abc cfg s m pos hp1 hidx, rfl, { hst1 with }⟩

theorem clustalStep_between_blank (like : Bool) (cfg : Cfg) (st : BlkSt) (hp : st.phase = .between) :
    clustalStep like cfg st [] = .inl st := by
  unfold clustalStep
  rw [hp]
  simp [isBlankLine]

theorem clustalStep_between_row (like : Bool) (cfg : Cfg) (st : BlkSt) (l : Bytes) (hp : st.phase = .between)
    (hl : isBlankLine l = false) :
    clustalStep like cfg st l = clustalSeqLine cfg { st with alen := st.alen + st.bsl, nblocks := st.nblocks + 1, idx := 0 } l := by
  unfold clustalStep
  rw [hp]
  simp only [hl, Bool.false_eq_true, if_false]

theorem CluRt.nseq_eq {cfg : Cfg} {enc : UInt8 → UInt8} {txt : Nat → Bytes} {m : Msa} {pos : Nat} {st : BlkSt}
    (hst : CluRt cfg enc txt m pos m.nseq st) : st.nseq = m.nseq := by rw [hst.nseq]; split <;> rfl

theorem cluRt_next (cfg : Cfg) (enc : UInt8 → UInt8) (txt : Nat → Bytes) (m : Msa) (pos : Nat) (hn1 : 1 ≤ m.nseq)
    (hnext : pos + 60 < m.alen) (st : BlkSt) (hst : CluRt cfg enc txt m pos m.nseq st) :
    CluRt cfg enc txt m (pos + 60) 0 { st with alen := st.alen + st.bsl, nblocks := st.nblocks + 1, idx := 0 } :=
  (hst.close hn1 st.nseq hst.nseq_eq st.phase).next hnext _ _

theorem cluFinish_after (cfg : Cfg) (enc : UInt8 → UInt8) (txt : Nat → Bytes) (m : Msa)
    (hn1 : 1 ≤ m.nseq) (hlenT : ∀ i, i < m.nseq → (txt i).length = m.alen)
    (hrow : ∀ i, i < m.nseq → m.stored i = mkRow cfg.digital ((txt i).map enc))
    (pos : Nat) (hp : pos < m.alen) (hlast : m.alen ≤ pos + 60)
    (st : BlkSt) (hph : st.phase = .between) (hst : CluRt cfg enc txt m pos m.nseq st) :
    clustalFinish cfg st = .ok (clustalProject cfg m) := by
  unfold clustalFinish
  rw [hph]
  exact (hst.close hn1 st.nseq hst.nseq_eq st.phase).result hlenT hrow hp hlast none

/-- what `clustalStep` asks of the first non-blank line -/
def cluHdrOk (like : Bool) (line : Bytes) : Bool :=
  !isBlankLine line &&
    match memtok line blankTab with
    | none => false
    | some (tok, rest) => (like || memstrpfx tok bCLUSTAL) && memstrcontains rest bAlignment

theorem clustalStep_header (like : Bool) (cfg : Cfg) (st : BlkSt) (line : Bytes) (hp : st.phase = .lead)
    (h : cluHdrOk like line = true) : clustalStep like cfg st line = .inl { st with phase := .hdr } := by
  unfold cluHdrOk at h
  simp only [Bool.and_eq_true, Bool.not_eq_true'] at h
  obtain ⟨hb, h2⟩ := h
  unfold clustalStep
  rw [hp]
  simp only [hb, Bool.false_eq_true, if_false]
  cases hm : memtok line blankTab with
  | none => rw [hm] at h2; cases h2
  | some tr =>
    obtain ⟨tok, rest⟩ := tr
    rw [hm] at h2
    simp only [Bool.and_eq_true, Bool.or_eq_true] at h2
    have h3 : (!like && !memstrpfx tok bCLUSTAL) = false := by
      rcases h2.1 with e | e <;> simp [e]
    simp only [h3, Bool.false_eq_true, if_false, h2.2, Bool.not_true]

theorem cluHdrOk_written : ∀ like : Bool, cluHdrOk like (clustalHeader like easelVersion) = true := by decide +kernel

theorem clustalHeader_lineOk : ∀ like : Bool, lineOk (clustalHeader like easelVersion) := clustalHeader_noLF

theorem clustalStep_hdr_blank (like : Bool) (cfg : Cfg) (st : BlkSt) (hp : st.phase = .hdr) :
    clustalStep like cfg st [] = .inl st := by
  unfold clustalStep
  rw [hp]
  simp [isBlankLine]

theorem clustalStep_hdr_row (like : Bool) (cfg : Cfg) (st : BlkSt) (l : Bytes) (hp : st.phase = .hdr)
    (hl : isBlankLine l = false) :
    clustalStep like cfg st l = clustalSeqLine cfg { st with idx := 0 } l := by
  unfold clustalStep
  rw [hp]
  simp only [hl, Bool.false_eq_true, if_false]

theorem clustalLines_reads (like : Bool) (abc : Option Abc) (cfg : Cfg) (enc : UInt8 → UInt8) (txt : Nat → Bytes) (m : Msa)
    (h : ClustalWritable abc cfg enc txt m) :
    Reads (clustalStep like cfg) (· = {}) (clustalLines like easelVersion abc m)
      (fun s => ∃ pos, (s.phase = .between ∧ CluRt cfg enc txt m pos m.nseq s) ∧ pos < m.alen ∧ m.alen ≤ pos + 60) :=
  (Reads.eq (clustalHeader_lineOk like) (clustalStep_header like cfg {} _ rfl (cluHdrOk_written like))).cons
    (Reads.blocks (by decide) h.alen1
      (cluBlock_reads like abc cfg enc txt m h 0 h.alen1 _ (fun s => { s with idx := 0 }) fun s hs => hs ▸
        ⟨BlkRt.init cfg enc txt m _ _ .hdr, clustalStep_hdr_blank like cfg _ rfl,
          clustalStep_hdr_row like cfg _ _ rfl (cluRowLine_notBlank abc cfg enc txt m h 0 h.n1 0)⟩)
      fun pos hlt => cluBlock_reads like abc cfg enc txt m h (pos + 60) hlt _
        (fun st => { st with alen := st.alen + st.bsl, nblocks := st.nblocks + 1, idx := 0 }) fun st hs =>
        ⟨cluRt_next cfg enc txt m pos h.n1 hlt st hs.2, clustalStep_between_blank like cfg st hs.1,
          clustalStep_between_row like cfg st _ hs.1 (cluRowLine_notBlank abc cfg enc txt m h 0 h.n1 (pos + 60))⟩)

/-- **Clustal / Clustal-like round trip on lines** -/
theorem clustalRead_writeLines (like : Bool) (abc : Option Abc) (cfg : Cfg) (enc : UInt8 → UInt8) (txt : Nat → Bytes) (m : Msa)
    (h : ClustalWritable abc cfg enc txt m) :
    clustalRead like cfg (clustalLines like easelVersion abc m) = (.ok (clustalProject cfg m), []) :=
  (clustalLines_reads like abc cfg enc txt m h).readLines fun s ⟨pos, ⟨hp, hst⟩, hlt, hlast⟩ =>
    cluFinish_after cfg enc txt m h.n1 h.txt_len h.row_enc pos hlt hlast s hp hst

/-- **Clustal / Clustal-like round trip on bytes** -/
theorem clustalRead_write (like : Bool) (abc : Option Abc) (cfg : Cfg) (enc : UInt8 → UInt8) (txt : Nat → Bytes) (m : Msa)
    (h : ClustalWritable abc cfg enc txt m) :
    clustalRead like cfg (splitLines (clustalWrite like abc m)) = (.ok (clustalProject cfg m), []) :=
  (clustalLines_reads like abc cfg enc txt m h).read fun s ⟨pos, ⟨hp, hst⟩, hlt, hlast⟩ =>
    cluFinish_after cfg enc txt m h.n1 h.txt_len h.row_enc pos hlt hlast s hp hst

end EaselModel.Msafile
