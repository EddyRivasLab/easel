import EaselModel.Msafile.StoWritable
import EaselModel.Msafile.PhylipIdem
/-! Stockholm / Pfam: re-writing the re-read alignment reproduces the same bytes (`write (project m) = write m`).

`stoProject` differs from `m` in the mode flags, the stored rows (rebuilt from `Msa.stored`), the weights (default; they are
printed only with `hasw`) and the cut-offs (the reader MODEL keeps which are set, not their value: hence `cutoff = []`
here).  Everything else the writer looks at is untouched, so the statement holds for ANY annotation, per-sequence `#=GS` /
`#=GR` included. -/
namespace EaselModel.Msafile

theorem seqChunk_project (abc : Option Abc) (cfg : Cfg) (m : Msa) (hd : cfg.digital = m.digital) (ha : abc.isSome = m.digital)
    (i : Nat) (hi : i < m.nseq) (pos n : Nat) : seqChunk abc (stoProject cfg m) i pos n = seqChunk abc m i pos n := by
  have hget : ((List.range m.nseq).map m.stored).getD i [] = m.stored i := by
    simp [List.getD_eq_getElem?_getD, hi]
  cases abc with
  | none =>
    have hm : m.digital = false := by simpa using ha.symm
    have hc : cfg.digital = false := by rw [hd, hm]
    simp only [seqChunk, stoProject, hc, Bool.false_eq_true, if_false, hget, Msa.stored, hm]
  | some a =>
    have hm : m.digital = true := by simpa using ha.symm
    have hc : cfg.digital = true := by rw [hd, hm]
    simp only [seqChunk, stoProject, hc, if_true, hget, Msa.stored, hm]

theorem cutsetOf_nil (m : Msa) (hc : m.cutoff = []) : cutsetOf m = List.replicate 6 false := by
  rw [cutsetOf_eq, hc]; rfl

/-- **Stockholm / Pfam: `write (project m) = write m`** for any alignment without weights and cut-offs whose mode is the
    reader's and the writer's -/
theorem stockholmWrite_project (pfam : Bool) (abc : Option Abc) (cfg : Cfg) (m : Msa) (hw : m.hasw = false) (hc : m.cutoff = [])
    (hd : cfg.digital = m.digital) (ha : abc.isSome = m.digital) :
    stockholmWrite pfam abc (stoProject cfg m) = stockholmWrite pfam abc m := by
  have hcut : (stoProject cfg m).cutoff = m.cutoff := by
    show (if (cutsetOf m).any id then (cutsetOf m).map (fun b => if b then some (0 : UInt32) else none) else []) = m.cutoff
    rw [cutsetOf_nil m hc, hc]; rfl
  have hL : stoLayout (stoProject cfg m) = stoLayout m := rfl
  have hH : stoHeadLines (stoLayout m) (stoProject cfg m) = stoHeadLines (stoLayout m) m := by
    unfold stoHeadLines
    rw [hcut]; rfl
  have hG : stoGSLines (stoLayout m) (stoProject cfg m) = stoGSLines (stoLayout m) m := by
    unfold stoGSLines
    have : (stoProject cfg m).hasw = false := hw
    simp only [this, hw, Bool.false_eq_true, if_false]
    rfl
  have hS : ∀ pos acpl i, i < m.nseq →
      stoSeqLines (stoLayout m) abc (stoProject cfg m) pos acpl i = stoSeqLines (stoLayout m) abc m pos acpl i := by
    intro pos acpl i hi
    unfold stoSeqLines
    rw [seqChunk_project abc cfg m hd ha i hi]
    rfl
  have hB : ∀ pos, stoBlockLines (stoLayout m) abc (stoProject cfg m) (stoCpl pfam m) pos
      = stoBlockLines (stoLayout m) abc m (stoCpl pfam m) pos := by
    intro pos
    unfold stoBlockLines
    have e : (List.range (stoProject cfg m).nseq).flatMap (stoSeqLines (stoLayout m) abc (stoProject cfg m) pos
          (if (stoProject cfg m).alen - pos > stoCpl pfam m then stoCpl pfam m else (stoProject cfg m).alen - pos))
        = (List.range m.nseq).flatMap (stoSeqLines (stoLayout m) abc m pos
          (if m.alen - pos > stoCpl pfam m then stoCpl pfam m else m.alen - pos)) :=
      flatMap_congr' _ _ _ (fun i hi => hS pos _ i (List.mem_range.mp hi))
    simp only [e]
    rfl
  have hcpl : stoCpl pfam (stoProject cfg m) = stoCpl pfam m := rfl
  have halen : (stoProject cfg m).alen = m.alen := rfl
  have hBf : stoBlockLines (stoLayout m) abc (stoProject cfg m) (stoCpl pfam m)
      = stoBlockLines (stoLayout m) abc m (stoCpl pfam m) := funext hB
  show joinLF ((stoHeadLines (stoLayout m) (stoProject cfg m) ++ stoGSLines (stoLayout m) (stoProject cfg m)
      ++ (blockStarts m.alen (stoCpl pfam m)).flatMap (stoBlockLines (stoLayout m) abc (stoProject cfg m) (stoCpl pfam m))) ++ [[47, 47]])
    = joinLF ((stoHeadLines (stoLayout m) m ++ stoGSLines (stoLayout m) m
      ++ (blockStarts m.alen (stoCpl pfam m)).flatMap (stoBlockLines (stoLayout m) abc m (stoCpl pfam m))) ++ [[47, 47]])
  rw [hH, hG, hBf]

end EaselModel.Msafile
