import EaselModel.Msafile.PhylipRoundTrip
import EaselModel.Msafile.SelexLemmas
import EaselModel.Msafile.WriteSelex
import EaselModel.Msafile.WriteLemmas
import EaselModel.Msafile.Fields
/-! SELEX, write then read (C03): the written line, what the reader's scanning functions find on it, and the alignments covered.

The writer prints 60-column blocks separated by one blank line; every line is `name field (w columns) + blank + chunk`.
Because the name field is the same for every line, the text of every line of a block starts at column `w + 1`
(`leftmost`) and - no chunk holding white space - ends at column `w + L` (`rightmost`): the reader pads nothing.
The reader is followed over the blocks in `SelexBlocks.lean`. -/
namespace EaselModel.Msafile

/-- a line of a SELEX block: tag (name or `#=XX`), blanks up to the field width, one more blank, the chunk -/
def sxLine (w : Nat) (tag chunk : Bytes) : Bytes := tag ++ (List.replicate (w - tag.length) 32 ++ 32 :: chunk)

theorem sxLine_eq (w : Nat) (tag chunk : Bytes) : padRight (w : Int) tag ++ [32] ++ chunk = sxLine w tag chunk := by
  simp [padRight, sxLine]

/-- a chunk of `L ≥ 1` characters none of which is white space or NUL -/
structure SxChunkOk (L : Nat) (chunk : Bytes) : Prop where
  len : chunk.length = L
  pos : 1 ≤ L
  ns : ∀ t ∈ chunk, isSpace t = false ∧ t ≠ 0

theorem SxChunkOk.chunk {L : Nat} {chunk : Bytes} (h : SxChunkOk L chunk) : ChunkOk chunk :=
  ⟨fun e => by have hl := h.len; have := h.pos; rw [e] at hl; simp at hl; omega, h.ns⟩

/-- the line as fields: the tag, its blanks, the chunk -/
theorem sxLine_fields (w : Nat) (tag chunk : Bytes) :
    sxLine w tag chunk = fields [(tag, List.replicate (w - tag.length) 32 ++ [32])] chunk := by
  simp [sxLine, fields]

theorem memtok_sxLine (w L : Nat) (tag chunk : Bytes) (ht : nameOk tag) (hc : SxChunkOk L chunk) :
    memtok (sxLine w tag chunk) blankTab = some (tag, chunk) := by
  rw [sxLine_fields]; exact memtok_fields ⟨ht, sp_rep _, hc.chunk.rest.head⟩

theorem sxLine_length (w L : Nat) (tag chunk : Bytes) (hw : tag.length ≤ w) (hc : SxChunkOk L chunk) :
    (sxLine w tag chunk).length = w + 1 + L := by
  simp [sxLine, hc.len]; omega

theorem lposOf_sxLine (w L : Nat) (tag chunk : Bytes) (hw : tag.length ≤ w) (hc : SxChunkOk L chunk) :
    lposOf (sxLine w tag chunk) chunk = (w : Int) + 1 := by
  unfold lposOf
  have hne : chunk.isEmpty = false := by simpa using hc.chunk.1
  rw [sxLine_length w L tag chunk hw hc, hc.len]
  simp only [hne, Bool.false_eq_true, if_false]
  omega

theorem rposScan_sxLine (w L : Nat) (tag chunk : Bytes) (hw : tag.length ≤ w) (hc : SxChunkOk L chunk) :
    rposScan (sxLine w tag chunk) = (w : Int) + L := by
  unfold rposScan
  have hne : chunk.reverse ≠ [] := by simpa using hc.chunk.1
  obtain ⟨c, t, hct⟩ : ∃ c t, chunk.reverse = c :: t := by
    cases hr : chunk.reverse with
    | nil => exact absurd hr hne
    | cons c t => exact ⟨c, t, rfl⟩
  have hcm : c ∈ chunk := by
    have : c ∈ chunk.reverse := by rw [hct]; simp
    simpa using this
  have hsp := (hc.ns c hcm).1
  have hrev : (sxLine w tag chunk).reverse = c :: (t ++ (32 :: (List.replicate (w - tag.length) 32 ++ tag.reverse))) := by
    simp [sxLine, hct]
  have hd : (sxLine w tag chunk).reverse.dropWhile isSpace = (sxLine w tag chunk).reverse := by
    rw [hrev]; simp [List.dropWhile, hsp]
  rw [hd, List.length_reverse, sxLine_length w L tag chunk hw hc]
  omega

/-- a tag that is a sequence name: `esl_memtok`-clean and not starting with `#` -/
def sqTagOk (tag : Bytes) : Prop := nameOk tag ∧ tag.head? ≠ some 35

theorem sxLine_cons (w : Nat) (tag chunk : Bytes) (ht : nameOk tag) :
    ∃ c r, sxLine w tag chunk = c :: r ∧ tag.head? = some c ∧ inDelim blankTab c = false := by
  obtain ⟨hne, hnd⟩ := ht
  cases tag with
  | nil => exact absurd rfl hne
  | cons c t => exact ⟨c, _, rfl, rfl, hnd c (by simp)⟩

theorem sxLine_notBlank (w : Nat) (tag chunk : Bytes) (ht : nameOk tag) : isBlankLine (sxLine w tag chunk) = false := by
  obtain ⟨c, r, h, _, hc⟩ := sxLine_cons w tag chunk ht
  rw [h]
  simp [isBlankLine, hc]

theorem sxLine_notComment (w : Nat) (tag chunk : Bytes) (ht : sqTagOk tag) : isComment (sxLine w tag chunk) = false := by
  obtain ⟨c, r, h, hh, _⟩ := sxLine_cons w tag chunk ht.1
  have hc : c ≠ 35 := fun h35 => ht.2 (by rw [hh, h35])
  have hc' : ((35 : UInt8) == c) = false := by simpa using fun h => hc h.symm
  rw [h]
  simp [isComment, memstrpfx, List.isPrefixOf, hc']

theorem sxLine_ltype (w : Nat) (tag chunk : Bytes) (ht : sqTagOk tag) : ltypeOf (sxLine w tag chunk) = .sq := by
  obtain ⟨c, r, h, hh, _⟩ := sxLine_cons w tag chunk ht.1
  have hc : c ≠ 35 := fun h35 => ht.2 (by rw [hh, h35])
  have hc' : ((35 : UInt8) == c) = false := by simpa using fun h => hc h.symm
  rw [h]
  simp [ltypeOf, memstrpfx, pfxRF, pfxMM, pfxCS, pfxSS, pfxSA, List.isPrefixOf, hc']

/-- a fold that every element leaves where it is -/
theorem foldl_fixed {α β : Type} (f : β → α → β) (a : β) : ∀ l : List α, (∀ x ∈ l, f a x = a) → l.foldl f a = a
  | [], _ => rfl
  | x :: l, h => by rw [List.foldl_cons, h x (by simp)]; exact foldl_fixed f a l fun y hy => h y (by simp [hy])

theorem leftmost_const (a : Int) (rest : List BLine) (b0 : BLine) (h0 : b0.lpos = a) (hr : ∀ b ∈ rest, b.lpos = a) :
    leftmostOf b0 rest = a := by
  unfold leftmostOf
  rw [h0]
  exact foldl_fixed _ a rest fun b hb => by rw [hr b hb, Int.min_self]; split <;> rfl

theorem rightmost_const (a : Int) (rest : List BLine) (b0 : BLine) (h0 : b0.rpos = a) (hr : ∀ b ∈ rest, b.rpos = a) :
    rightmostOf b0 rest = a := by
  unfold rightmostOf
  rw [h0]
  exact foldl_fixed _ a rest fun b hb => by rw [hr b hb, Int.max_self]; split <;> rfl

/-- a row between blocks: text rows are NUL-terminated, digital rows sentinel-delimited -/
def sxRow (digital : Bool) (codes : Bytes) : Bytes :=
  if digital then dsqSENTINEL :: codes ++ [dsqSENTINEL] else codes ++ [0]

/-- the row pointer after `pos` columns (NULL before the first block) -/
def sxRowAt (digital : Bool) (codes : Bytes) (pos : Nat) : Option Bytes :=
  if pos = 0 then none else some (sxRow digital (codes.take pos))

/-- a text row that holds `alen` columns, reallocated and filled with `body` (no padding on either side), holds `alen + L` -/
theorem textRow_fill (codes body tail : Bytes) (alen L : Nat) (hlen : alen ≤ codes.length) (hL : body.length = L)
    (ht : tail.length ≤ 1) :
    fillRow (realloc 0 (sxRowAt false codes alen) (alen + L + 1)) 0 alen L 0 body tail 46 0
      = some (sxRow false (codes.take alen ++ body)) := by
  have hold : ((sxRowAt false codes alen).getD []).take alen = codes.take alen ∧ alen ≤ ((sxRowAt false codes alen).getD []).length := by
    unfold sxRowAt
    by_cases h0 : alen = 0
    · subst h0; simp
    · simp only [h0, if_false, Option.getD_some, sxRow, Bool.false_eq_true]
      constructor
      · rw [List.take_append_of_le_length (by simp; omega), List.take_take]; simp
      · simp; omega
  obtain ⟨R, hR, hRl⟩ := realloc_split 0 (sxRowAt false codes alen) (alen + L + 1) alen (by omega) hold.2
  rw [hold.1] at hR
  rw [fillRow_eq _ (codes.take alen) R 0 alen L 0 body tail 46 0 hR (by simp; omega) (by omega) (by simp [hL]) ht]
  simp [hL, sxRow]

theorem buildSeqRow_text (cfg : Cfg) (enc : UInt8 → UInt8) (hab : cfg.abc = none) (codes chunk : Bytes) (alen L : Nat)
    (hlen : alen ≤ codes.length) (hL : chunk.length = L)
    (hmap : ∀ t ∈ chunk, mapByte cfg.inmap t = (.ok, some (enc t))) :
    buildSeqRow cfg alen L 0 L chunk (sxRowAt false codes alen) = .inr (sxRow false (codes.take alen ++ chunk.map enc)) := by
  have hm := mapLoop_enc cfg.inmap enc chunk [] hmap
  unfold buildSeqRow
  simp only [hm, hab, List.append_nil, List.reverse_reverse, textRow_fill codes (chunk.map enc) [0] alen L hlen (by simp [hL]) (by simp)]
  simp [hL]

theorem buildSeqRow_digital (cfg : Cfg) (enc : UInt8 → UInt8) (a : Abc) (hab : cfg.abc = some a) (codes chunk : Bytes) (alen L : Nat)
    (hlen : alen ≤ codes.length) (hL : chunk.length = L)
    (hmap : ∀ t ∈ chunk, mapByte cfg.inmap t = (.ok, some (enc t))) :
    buildSeqRow cfg alen L 0 L chunk (sxRowAt true codes alen) = .inr (sxRow true (codes.take alen ++ chunk.map enc)) := by
  have hm := mapLoop_enc cfg.inmap enc chunk [] hmap
  have hbuf : ∃ buf R, (if alen == 0 then writeAt (realloc dsqSENTINEL (sxRowAt true codes alen) (alen + L + 2)) 0 [dsqSENTINEL]
        else some (realloc dsqSENTINEL (sxRowAt true codes alen) (alen + L + 2))) = some buf ∧
      buf = (dsqSENTINEL :: codes.take alen) ++ R ∧ R.length = L + 1 := by
    by_cases h0 : alen = 0
    · subst h0
      have hre : realloc dsqSENTINEL (sxRowAt true codes 0) (0 + L + 2) = [] ++ List.replicate (L + 2) dsqSENTINEL := by
        simp [realloc, sxRowAt]
      have hw := writeAt_app _ [] (List.replicate (L + 2) dsqSENTINEL) [dsqSENTINEL] 0 hre rfl (by simp)
      refine ⟨_, (List.replicate (L + 2) dsqSENTINEL).drop 1, by simpa using hw, by simp, by simp⟩
    · have hold : ((sxRowAt true codes alen).getD []).take (alen + 1) = dsqSENTINEL :: codes.take alen ∧
          alen + 1 ≤ ((sxRowAt true codes alen).getD []).length := by
        simp only [sxRowAt, h0, if_false, Option.getD_some, sxRow, if_true]
        constructor
        · rw [List.cons_append, List.take_succ_cons, List.take_append_of_le_length (by simp; omega), List.take_take]; simp
        · simp; omega
      obtain ⟨R, hR, hRl⟩ := realloc_split dsqSENTINEL (sxRowAt true codes alen) (alen + L + 2) (alen + 1) (by omega) hold.2
      rw [hold.1] at hR
      have hz : (alen == 0) = false := by simpa using h0
      refine ⟨_, R, by simp only [hz, Bool.false_eq_true, if_false], hR, by omega⟩
  obtain ⟨buf, R, hb1, hb2, hRl⟩ := hbuf
  have hfill := fillRow_eq buf (dsqSENTINEL :: codes.take alen) R 1 alen L 0 (chunk.map enc) [dsqSENTINEL] a.gap dsqSENTINEL
    hb2 (by simp; omega) hRl (by simp [hL]) (by simp)
  unfold buildSeqRow
  simp only [hm, hab, List.append_nil, List.reverse_reverse, hb1, hfill]
  simp [hL, sxRow]

theorem buildSeqRow_chunk (cfg : Cfg) (enc : UInt8 → UInt8) (codes chunk : Bytes) (alen L : Nat)
    (hlen : alen ≤ codes.length) (hL : chunk.length = L)
    (hmap : ∀ t ∈ chunk, mapByte cfg.inmap t = (.ok, some (enc t))) :
    buildSeqRow cfg alen L 0 L chunk (sxRowAt cfg.digital codes alen)
      = .inr (sxRow cfg.digital (codes.take alen ++ chunk.map enc)) := by
  cases hab : cfg.abc with
  | none =>
    have hd : cfg.digital = false := by simp [Cfg.digital, hab]
    rw [hd]; exact buildSeqRow_text cfg enc hab codes chunk alen L hlen hL hmap
  | some a =>
    have hd : cfg.digital = true := by simp [Cfg.digital, hab]
    rw [hd]; exact buildSeqRow_digital cfg enc a hab codes chunk alen L hlen hL hmap

theorem sxLine_drop (w : Nat) (tag chunk : Bytes) (hw : tag.length ≤ w) : (sxLine w tag chunk).drop (w + 1) = chunk := by
  have h : sxLine w tag chunk = (tag ++ List.replicate (w - tag.length) 32 ++ [32]) ++ chunk := by simp [sxLine]
  rw [h, List.drop_left' (by simp; omega)]

/-- per-sequence annotation as the SELEX reader rebuilds it: no array at all when no sequence has a line -/
def selexRowsProj (n : Nat) (o : OptRows) : OptRows :=
  if (List.range n).all (fun i => (optRow o i).isNone) then none else some ((List.range n).map (optRow o))

/-- everything SELEX represents of `m`: names, aligned rows, `#=CS`/`#=RF`/`#=MM`, per-sequence `#=SS`/`#=SA`; default weights -/
def selexProject (cfg : Cfg) (m : Msa) : Msa :=
  { digital := cfg.digital, kp := cfg.kp, alen := m.alen, names := m.names,
    aseq := if cfg.digital then [] else (List.range m.nseq).map m.stored,
    ax := if cfg.digital then (List.range m.nseq).map m.stored else [],
    hasw := false, wgt := List.replicate m.nseq Wgt.dflt,
    ssCons := m.ssCons, rf := m.rf, mm := m.mm,
    ss := selexRowsProj m.nseq m.ss, sa := selexRowsProj m.nseq m.sa }

/-- an alignment (names and aligned rows, no annotation lines) that `esl_msafile_selex_Write` + `esl_msafile_selex_Read`
    (configuration `cfg`) preserve.  `txt i` is the text the writer prints for row `i`, `enc` sends a written symbol to the
    stored symbol. -/
structure SelexWritable (abc : Option Abc) (cfg : Cfg) (enc : UInt8 → UInt8) (txt : Nat → Bytes) (m : Msa) : Prop where
  n1 : 1 ≤ m.nseq
  alen1 : 1 ≤ m.alen
  cs_none : m.ssCons = none
  rf_none : m.rf = none
  mm_none : m.mm = none
  ss_none : ∀ i, i < m.nseq → optRow m.ss i = none
  sa_none : ∀ i, i < m.nseq → optRow m.sa i = none
  name_ok : ∀ i, i < m.nseq → sqTagOk (m.names.getD i [])
  txt_len : ∀ i, i < m.nseq → (txt i).length = m.alen
  chunk_eq : ∀ i, i < m.nseq → ∀ pos, seqChunk abc m i pos selexCpl = ((txt i).drop pos).take 60
  txt_sym : ∀ i, i < m.nseq → ∀ t ∈ txt i, mapByte cfg.inmap t = (.ok, some (enc t)) ∧ isSpace t = false ∧ t ≠ 0
  enc_nz : cfg.digital = false → ∀ i, i < m.nseq → ∀ t ∈ txt i, enc t ≠ 0
  row_enc : ∀ i, i < m.nseq → m.stored i = mkRow cfg.digital ((txt i).map enc)

theorem selexNameLen_le (m : Msa) : ∀ s ∈ m.names, s.length ≤ selexNameLen m := by
  unfold selexNameLen
  have : ∀ (l : List Bytes) (a : Nat), a ≤ l.foldl (fun a s => max s.length a) a ∧
      ∀ s ∈ l, s.length ≤ l.foldl (fun a s => max s.length a) a := by
    intro l
    induction l with
    | nil => intro a; simp
    | cons x l ih =>
      intro a
      simp only [List.foldl_cons, List.mem_cons]
      have h1 := ih (max x.length a)
      refine ⟨by omega, ?_⟩
      rintro s (rfl | hs)
      · omega
      · exact h1.2 s hs
  exact (this _ _).2

theorem names_getD_mem (m : Msa) (i : Nat) (hi : i < m.nseq) : m.names.getD i [] ∈ m.names := by
  have hi' : i < m.names.length := hi
  simp [List.getD_eq_getElem?_getD, List.getElem?_eq_getElem hi']

theorem names_rangeMap (m : Msa) : (List.range m.nseq).map (fun i => m.names.getD i []) = m.names := by
  apply List.ext_getElem?
  intro i
  by_cases hi : i < m.nseq
  · have hi' : i < m.names.length := hi
    simp [hi, List.getD_eq_getElem?_getD, List.getElem?_eq_getElem hi']
  · have hi' : ¬ i < m.names.length := hi
    rw [List.getElem?_eq_none (by simp; omega), List.getElem?_eq_none (by omega)]

theorem sxRow_step (d : Bool) (enc : UInt8 → UInt8) (t : Bytes) (pos : Nat) :
    some (sxRow d (((t.map enc).take pos) ++ ((t.drop pos).take 60).map enc)) = sxRowAt d (t.map enc) (pos + 60) := by
  have : pos + 60 ≠ 0 := by omega
  simp only [sxRowAt, this, if_false]
  rw [List.take_add, List.map_take, List.map_drop]

theorem pushLine_ok (st : SxSt) (l : Bytes) (h1 : st.cur.length ≤ st.nalloc) (h0 : 0 < st.nalloc) :
    ∃ na, pushLine st l = .inl { st with inBlock := true, cur := st.cur ++ [l], nalloc := na } ∧
      st.cur.length + 1 ≤ na := by
  unfold pushLine
  by_cases he : st.cur.length = st.nalloc
  · have hg : (st.nalloc != 0 && st.cur.length == st.nalloc) = true := by
      simp only [Bool.and_eq_true, bne_iff_ne, ne_eq, beq_iff_eq]; exact ⟨by omega, he⟩
    simp only [hg, if_true]
    have hlt : ¬ (st.cur.length ≥ 2 * st.nalloc) := by omega
    simp only [hlt, if_false]
    exact ⟨_, rfl, by omega⟩
  · have hg : (st.nalloc != 0 && st.cur.length == st.nalloc) = false := by
      simp only [Bool.and_eq_false_iff, beq_eq_false_iff_ne, ne_eq]; exact Or.inr he
    simp only [hg, Bool.false_eq_true, if_false]
    have hlt : ¬ (st.cur.length ≥ st.nalloc) := by omega
    simp only [hlt, if_false]
    exact ⟨_, rfl, by omega⟩

theorem selexStep_push (cfg : Cfg) (st : SxSt) (l : Bytes) (hb : isBlankLine l = false) (hc : isComment l = false) :
    selexStep cfg st l = pushLine st l := by
  unfold selexStep
  cases st.inBlock <;> simp [hb, hc]

/-- the lines of a block are collected: nothing else of the state changes -/
theorem selexSteps_collect (cfg : Cfg) : ∀ (ls : List Bytes) (st : SxSt),
    (∀ l ∈ ls, isBlankLine l = false ∧ isComment l = false) → ls ≠ [] → st.cur.length ≤ st.nalloc → 0 < st.nalloc →
    ∃ na, stepsFrom (selexStep cfg) st ls = .inl { st with inBlock := true, cur := st.cur ++ ls, nalloc := na } ∧
      (st.cur ++ ls).length ≤ na := by
  intro ls
  induction ls with
  | nil => intro _ _ hne; exact absurd rfl hne
  | cons l ls ih =>
    intro st hls _ h1 h0
    obtain ⟨hb, hc⟩ := hls l (by simp)
    obtain ⟨na, hpush, hna⟩ := pushLine_ok st l h1 h0
    simp only [stepsFrom, selexStep_push cfg st l hb hc, hpush]
    by_cases hls0 : ls = []
    · subst hls0; exact ⟨na, rfl, by simpa using hna⟩
    · obtain ⟨na', hs, hna'⟩ := ih { st with inBlock := true, cur := st.cur ++ [l], nalloc := na }
        (fun l' hl' => hls l' (by simp [hl'])) hls0 (by simpa using hna) (by show 0 < na; omega)
      exact ⟨na', by rw [hs]; simp, by simpa using hna'⟩

theorem sxRow_final (abc : Option Abc) (cfg : Cfg) (enc : UInt8 → UInt8) (txt : Nat → Bytes) (m : Msa)
    (h : SelexWritable abc cfg enc txt m) (p : Nat) (hp : m.alen ≤ p) (i : Nat) (hi : i < m.nseq) :
    (if cfg.digital then (sxRowAt cfg.digital ((txt i).map enc) p).getD [] else cstr ((sxRowAt cfg.digital ((txt i).map enc) p).getD []))
      = m.stored i := by
  have hp0 : p ≠ 0 := by have := h.alen1; omega
  have htk : ((txt i).map enc).take p = (txt i).map enc :=
    List.take_of_length_le (by rw [List.length_map, h.txt_len i hi]; exact hp)
  rw [h.row_enc i hi]
  simp only [sxRowAt, hp0, if_false, Option.getD_some, htk]
  cases hd : cfg.digital with
  | true => simp [sxRow, mkRow]
  | false =>
    simp only [sxRow, mkRow, Bool.false_eq_true, if_false]
    apply cstr_txt
    rw [List.all_eq_true]
    intro x hx
    obtain ⟨t, ht, rfl⟩ := List.mem_map.mp hx
    simpa using h.enc_nz hd i hi t ht

theorem selexRowsProj_none (n : Nat) (o : OptRows) (h : ∀ i, i < n → optRow o i = none) : selexRowsProj n o = none := by
  unfold selexRowsProj
  have : (List.range n).all (fun i => (optRow o i).isNone) = true := by
    rw [List.all_eq_true]; intro i hi; simp [h i (List.mem_range.mp hi)]
  simp [this]

theorem flatMap_range_single {β : Type} (n : Nat) (g : Nat → List β) (f : Nat → β) (h : ∀ i, i < n → g i = [f i]) :
    (List.range n).flatMap g = (List.range n).map f := by
  induction n with
  | zero => rfl
  | succ n ih =>
    rw [List.range_succ, List.flatMap_append, List.map_append, ih (fun i hi => h i (by omega))]
    simp [h n (by omega)]

theorem sxLine_lineOk (w L : Nat) (tag chunk : Bytes) (h10 : (10 : UInt8) ∉ tag) (hc : SxChunkOk L chunk) :
    lineOk (sxLine w tag chunk) := by
  rw [sxLine_fields]; exact lineOk_fields ⟨h10, sp_rep _, trivial⟩ hc.chunk.rest.nolf hc.chunk.rest.nocr

end EaselModel.Msafile
