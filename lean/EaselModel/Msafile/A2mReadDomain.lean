import EaselModel.Msafile.A2mLemmas
import EaselModel.Msafile.A2mInsIdem
/-! "Reformat stability", A2M: what `esl_msafile_a2m_Read` returns lies in the domain of the A2M round-trip theorems
    (`A2mInsTextWritable` / `A2mInsDigitalWritable`), except for one condition the reader does not guarantee: that no
    name/description line `>name desc` the writer will print ends in CR (a description can end in CR when the input line
    ended in CR CR LF, or holds a NUL after a CR). -/
namespace EaselModel.Msafile

theorem rd_dropWhile_head {α : Type} (p : α → Bool) : ∀ l : List α, l.dropWhile p = [] ∨ ∃ c t, l.dropWhile p = c :: t ∧ p c = false
  | [] => Or.inl rfl
  | a :: l => by
    cases h : p a with
    | true => simpa [List.dropWhile, h] using rd_dropWhile_head p l
    | false => exact Or.inr ⟨a, l, by simp [List.dropWhile, h], h⟩

theorem memtok_spec (p delim tok rest : Bytes) (h : memtok p delim = some (tok, rest)) :
    tok ≠ [] ∧ (∀ c ∈ tok, inDelim delim c = false) ∧ (rest = [] ∨ ∃ c t, rest = c :: t ∧ inDelim delim c = false) := by
  unfold memtok at h
  rcases rd_dropWhile_head (inDelim delim) p with h0 | ⟨c, t, h1, hc⟩
  · rw [h0] at h; simp at h
  · rw [h1] at h
    simp only [List.isEmpty_cons, Bool.false_eq_true, if_false, Option.some.injEq, Prod.mk.injEq] at h
    obtain ⟨ht, hr⟩ := h
    refine ⟨?_, ?_, ?_⟩
    · rw [← ht]; simp [List.takeWhile, hc]
    · intro x hx
      rw [← ht] at hx
      have := mem_takeWhile_imp hx
      simpa using this
    · rw [← hr]
      exact rd_dropWhile_head (inDelim delim) _

theorem nameOk_tok (p tok rest : Bytes) (h : memtok p blankTab = some (tok, rest)) : nameOk (cstr tok) := by
  obtain ⟨h1, h2, _⟩ := memtok_spec p blankTab tok rest h
  have hnz : ∀ c ∈ tok, c ≠ 0 := fun c hc h0 => by
    have := h2 c hc; subst h0; simp [inDelim] at this
  rw [cstr_id tok hnz]
  exact ⟨h1, h2⟩

theorem descOk_rest (p tok rest : Bytes) (h : memtok p blankTab = some (tok, rest)) (hne : rest.isEmpty = false) :
    descOk (cstr rest) := by
  obtain ⟨_, _, h3⟩ := memtok_spec p blankTab tok rest h
  rcases h3 with h3 | ⟨c, t, h3, hc⟩
  · rw [h3] at hne; simp at hne
  · have hc0 : c ≠ 0 := fun h0 => by subst h0; simp [inDelim] at hc
    have hc0' : (c != 0) = true := by simpa using hc0
    subst h3
    refine ⟨⟨c, t.takeWhile (· != 0), by simp [cstr, List.takeWhile, hc0'], hc⟩, ?_⟩
    intro x hx
    have := mem_takeWhile_imp hx
    simpa using this

/-- the names and descriptions stored so far survive a write -/
def NamesDescsOk (names : List Bytes) (sqdesc : OptRows) : Prop :=
  (∀ nm ∈ names, nameOk nm) ∧ ∀ i d, optAt sqdesc i = some d → descOk d

theorem namesDescsOk_init : NamesDescsOk [] none := ⟨fun _ h => by simp at h, fun i d h => by simp [optAt] at h⟩

theorem namesDescsOk_add (names : List Bytes) (sqdesc : OptRows) (idx : Nat) (p tok rest : Bytes)
    (h : NamesDescsOk names sqdesc) (hm : memtok p blankTab = some (tok, rest)) (sq' : OptRows)
    (hsq : sq' = sqdesc ∨ (rest.isEmpty = false ∧ sq' = setOptRow sqdesc idx (cstr rest))) :
    NamesDescsOk (names ++ [cstr tok]) sq' := by
  refine ⟨?_, ?_⟩
  · intro nm hnm
    rcases List.mem_append.mp hnm with h1 | h1
    · exact h.1 nm h1
    · simp at h1; subst h1; exact nameOk_tok p tok rest hm
  · intro i d hd
    rcases hsq with rfl | ⟨hr, rfl⟩
    · exact h.2 i d hd
    · by_cases hi : i = idx
      · subst hi
        rw [optAt_setOptRow_same] at hd
        cases hd
        exact descOk_rest p tok rest hm hr
      · rw [optAt_setOptRow_ne _ _ _ _ hi] at hd
        exact h.2 i d hd

theorem rd_optAt_padOptRows_some (o : OptRows) (n i : Nat) (d : Bytes) (h : optAt (padOptRows o n) i = some d) : optAt o i = some d := by
  by_cases hi : i < n
  · rw [optAt_padOptRows o n i hi] at h; exact h
  · cases o with
    | none => simp [padOptRows, optAt] at h
    | some l =>
      simp only [padOptRows, optAt, Option.map_some, Option.getD_some, List.getD_eq_getElem?_getD] at h
      rw [List.getElem?_eq_none (by simp; omega)] at h
      simp at h

def BytesOk (Q : UInt8 → Bool) (names : List Bytes) (sqdesc : OptRows) : Prop :=
  (∀ nm ∈ names, ∀ x ∈ nm, Q x = true) ∧ ∀ i d, optAt sqdesc i = some d → ∀ x ∈ d, Q x = true

theorem memtok_sub (p delim tok rest : Bytes) (h : memtok p delim = some (tok, rest)) :
    (∀ x ∈ tok, x ∈ p) ∧ (∀ x ∈ rest, x ∈ p) := by
  unfold memtok at h
  simp only at h
  split at h
  · simp at h
  · simp only [Option.some.injEq, Prod.mk.injEq] at h
    obtain ⟨ht, hr⟩ := h
    subst ht; subst hr
    refine ⟨fun x hx => ?_, fun x hx => ?_⟩
    · exact (List.dropWhile_sublist _).subset ((List.takeWhile_sublist _).subset hx)
    · exact (List.dropWhile_sublist _).subset ((List.dropWhile_sublist _).subset ((List.dropWhile_sublist _).subset hx))

theorem bytesOk_add (Q : UInt8 → Bool) (names : List Bytes) (sqdesc : OptRows) (idx : Nat) (p tok rest : Bytes)
    (h : BytesOk Q names sqdesc) (hm : memtok p blankTab = some (tok, rest)) (hp : ∀ x ∈ p, Q x = true) (sq' : OptRows)
    (hsq : sq' = sqdesc ∨ (rest.isEmpty = false ∧ sq' = setOptRow sqdesc idx (cstr rest))) :
    BytesOk Q (names ++ [cstr tok]) sq' := by
  obtain ⟨hs1, hs2⟩ := memtok_sub p blankTab tok rest hm
  refine ⟨?_, ?_⟩
  · intro nm hnm x hx
    rcases List.mem_append.mp hnm with h1 | h1
    · exact h.1 nm h1 x hx
    · simp at h1; subst h1
      exact hp x (hs1 x ((List.takeWhile_sublist _).subset hx))
  · intro i d hd x hx
    rcases hsq with rfl | ⟨-, rfl⟩
    · exact h.2 i d hd x hx
    · by_cases hi : i = idx
      · subst hi
        rw [optAt_setOptRow_same] at hd
        cases hd
        exact hp x (hs2 x ((List.takeWhile_sublist _).subset hx))
      · rw [optAt_setOptRow_ne _ _ _ _ hi] at hd
        exact h.2 i d hd x hx

/-- a property `I` of the stored names and descriptions that survives storing the name and description found on a line with
    property `R`, and the final padding of the descriptions -/
structure NdLaw (I : List Bytes → OptRows → Prop) (R : Bytes → Prop) : Prop where
  init : I [] none
  sub : ∀ l p, p.Sublist l → R l → R p
  add : ∀ names sqdesc idx p tok rest sq', I names sqdesc → R p → memtok p blankTab = some (tok, rest) →
    (sq' = sqdesc ∨ (rest.isEmpty = false ∧ sq' = setOptRow sqdesc idx (cstr rest))) → I (names ++ [cstr tok]) sq'
  pad : ∀ names sqdesc n, I names sqdesc → I names (padOptRows sqdesc n)

theorem namesDescsLaw : NdLaw NamesDescsOk (fun _ => True) where
  init := namesDescsOk_init
  sub := fun _ _ _ _ => trivial
  add := fun names sqdesc idx p tok rest sq' h _ hm hsq => namesDescsOk_add names sqdesc idx p tok rest h hm sq' hsq
  pad := fun _ _ _ h => ⟨h.1, fun i d hd => h.2 i d (rd_optAt_padOptRows_some _ _ _ _ hd)⟩

theorem bytesLaw (Q : UInt8 → Bool) : NdLaw (BytesOk Q) (fun l => ∀ x ∈ l, Q x = true) where
  init := ⟨fun _ h => by simp at h, fun i d h => by simp [optAt] at h⟩
  sub := fun _ _ hs hl x hx => hl x (hs.subset hx)
  add := fun names sqdesc idx p tok rest sq' h hp hm hsq => bytesOk_add Q names sqdesc idx p tok rest h hm hp sq' hsq
  pad := fun _ _ _ h => ⟨h.1, fun i d hd => h.2 i d (rd_optAt_padOptRows_some _ _ _ _ hd)⟩

def NdGood (I : List Bytes → OptRows → Prop) (cfg : Cfg) (r : Res Msa) : Prop :=
  ∀ m, r = .ok m → I m.names m.sqdesc ∧ m.sqacc = none ∧ m.digital = cfg.digital ∧ m.kp = cfg.kp

theorem a2mFinishRecord_nd (cfg : Cfg) (st st' : A2mSt) (h : a2mFinishRecord cfg st = .inl st') :
    st'.names = st.names ∧ st'.sqdesc = st.sqdesc := by
  unfold a2mFinishRecord at h
  simp only at h
  repeat' split at h
  all_goals first
    | (injection h with h; subst h; exact ⟨rfl, rfl⟩)
    | (simp at h)

theorem a2mSeqLine_nd (cfg : Cfg) (st st' : A2mSt) (p : Bytes) (h : a2mSeqLine cfg st p = .inl st') :
    st'.names = st.names ∧ st'.sqdesc = st.sqdesc := by
  unfold a2mSeqLine at h
  simp only at h
  repeat' split at h
  all_goals first
    | (injection h with h; subst h; exact ⟨rfl, rfl⟩)
    | (simp at h)

section
variable {I : List Bytes → OptRows → Prop} {R : Bytes → Prop} (law : NdLaw I R)
include law

theorem a2mStartRecord_nd (st st' : A2mSt) (p : Bytes) (h : a2mStartRecord st p = .inl st') (hp : R p)
    (hi : I st.names st.sqdesc) : I st'.names st'.sqdesc := by
  unfold a2mStartRecord at h
  cases p with
  | nil => simp at h
  | cons c p1 =>
    simp only at h
    have hp1 : R p1 := law.sub _ _ (List.sublist_cons_self c p1) hp
    cases hm : memtok p1 blankTab with
    | none => rw [hm] at h; simp at h
    | some tr =>
      obtain ⟨tok, rest⟩ := tr
      rw [hm] at h
      simp only at h
      repeat' split at h
      all_goals first
        | (injection h with h; subst h
           exact law.add st.names st.sqdesc st.nseq p1 tok rest _ hi hp1 hm (Or.inl rfl))
        | (injection h with h; subst h
           exact law.add st.names st.sqdesc st.nseq p1 tok rest _ hi hp1 hm
             (Or.inr ⟨by simpa using (by assumption : ¬ rest.isEmpty = true), rfl⟩))
        | (simp at h)

theorem a2mStep_nd (cfg : Cfg) (st : A2mSt) (l : Bytes) (hl : R l) (hi : I st.names st.sqdesc) :
    StepOk (fun s : A2mSt => I s.names s.sqdesc) (NdGood I cfg) (a2mStep cfg st l) := by
  have hdw : R (l.dropWhile isSpace) := law.sub _ _ (List.dropWhile_sublist _) hl
  cases hs : a2mStep cfg st l with
  | inr r =>
    intro m hm
    exact absurd (by rw [hs, hm]) (a2mStep_notOk cfg st l m)
  | inl st' =>
    show I st'.names st'.sqdesc
    unfold a2mStep at hs
    by_cases hld : st.lead = true
    · simp only [hld, if_true] at hs
      by_cases hb : isBlankLine l = true
      · simp only [hb, if_true] at hs
        injection hs with hs; subst hs; exact hi
      · simp only [hb, Bool.false_eq_true, if_false] at hs
        split at hs
        · simp at hs
        · split at hs
          · simp at hs
          · exact a2mStartRecord_nd law _ _ _ hs hdw hi
    · simp only [hld, Bool.false_eq_true, if_false] at hs
      split at hs
      · injection hs with hs; subst hs; exact hi
      · split at hs
        · split at hs
          · rename_i st1 hfin
            have := a2mFinishRecord_nd cfg st st1 hfin
            exact a2mStartRecord_nd law st1 st' _ hs hdw (by rw [this.1, this.2]; exact hi)
          · simp at hs
        · have := a2mSeqLine_nd cfg st st' _ hs
          rw [this.1, this.2]
          exact hi

theorem a2mPad_nd (cfg : Cfg) (st : A2mSt) (hi : I st.names st.sqdesc) : NdGood I cfg (a2mPad cfg st) := by
  intro m hm
  unfold a2mPad at hm
  simp only at hm
  repeat' split at hm
  all_goals first
    | (injection hm with hm; subst hm
       exact ⟨law.pad _ _ _ hi, rfl, rfl, rfl⟩)
    | (simp at hm)

theorem a2mFinish_nd (cfg : Cfg) (st : A2mSt) (hi : I st.names st.sqdesc) : NdGood I cfg (a2mFinish cfg st) := by
  unfold a2mFinish
  split
  · intro m hm; simp at hm
  · split
    · rename_i r hfin
      intro m hm
      subst hm
      exact absurd hfin (a2mFinishRecord_notOk cfg st m)
    · rename_i st1 hfin
      have := a2mFinishRecord_nd cfg st st1 hfin
      exact a2mPad_nd law cfg st1 (by rw [this.1, this.2]; exact hi)

theorem a2mRead_inv (cfg : Cfg) (lines : List Bytes) (hl : ∀ l ∈ lines, R l) : NdGood I cfg (a2mRead cfg lines).1 :=
  runLines_inv_mem (a2mStep cfg) (a2mFinish cfg) (fun s : A2mSt => I s.names s.sqdesc) (NdGood I cfg) R
    (fun st l hR h => a2mStep_nd law cfg st l hR h) (fun st h => a2mFinish_nd law cfg st h) lines {} hl law.init

end

def A2mNdGood (cfg : Cfg) (r : Res Msa) : Prop :=
  ∀ m, r = .ok m → NamesDescsOk m.names m.sqdesc ∧ m.sqacc = none ∧ m.digital = cfg.digital ∧ m.kp = cfg.kp

theorem a2mRead_nd (cfg : Cfg) (lines : List Bytes) : A2mNdGood cfg (a2mRead cfg lines).1 :=
  a2mRead_inv namesDescsLaw cfg lines (fun _ _ => trivial)

/-- no name/description line the A2M writer will print holds a LF or ends in CR -/
def a2mHdrOkB (m : Msa) : Bool :=
  (List.range m.nseq).all fun i => !(a2mHeader m i).contains 10 && (a2mHeader m i).getLast? != some 13

theorem a2mHdrOkB_lineOk (m : Msa) (h : a2mHdrOkB m = true) : ∀ i, i < m.nseq → lineOk (a2mHeader m i) := by
  intro i hi
  have := (List.all_eq_true.mp h) i (List.mem_range.mpr hi)
  simp only [Bool.and_eq_true, Bool.not_eq_true', bne_iff_ne, ne_eq] at this
  exact ⟨by simpa using this.1, this.2⟩

/-- **what the A2M reader returns in text mode can be written and read back** (given the name lines survive) -/
theorem a2mRead_domain_text (lines : List Bytes) (m : Msa) (rest : List Bytes)
    (h : a2mRead (a2mCfg none) lines = (.ok m, rest)) (hh : a2mHdrOkB m = true) : A2mInsTextWritable m := by
  have hg := a2mRead_good (a2mCfg none) (a2mCfg_valid abcOk_none) (a2mCfg_a2mValid abcOk_none) lines
  have hn := a2mRead_nd (a2mCfg none) lines
  rw [h] at hg hn
  obtain ⟨hnd, hacc, hdig, _⟩ := hn m rfl
  have hdig' : m.digital = false := hdig
  obtain ⟨h1, hrows⟩ := rd_wellFormed_rows m hg
  rw [hdig'] at hrows
  simp only [Bool.false_eq_true, if_false] at hrows
  exact
    { dig := hdig', n1 := h1, acc_none := hacc
      name_ok := fun i hi => hnd.1 _ (getD_mem_of_lt hi)
      desc_ok := fun i _ d hd => hnd.2 i d hd
      hdr_line := a2mHdrOkB_lineOk m hh
      row_len := fun i hi => (hrows.2 _ (getD_mem_of_lt (l := m.aseq) (d := []) (by rw [hrows.1]; exact hi))).1 }

/-- … and in digital mode (`a` one of the generated alphabets: the configuration must be valid) -/
theorem a2mRead_domain_digital (a : Abc) (hv : (a2mCfg (some a)).valid) (ha : A2mValid (a2mCfg (some a)))
    (lines : List Bytes) (m : Msa) (rest : List Bytes)
    (h : a2mRead (a2mCfg (some a)) lines = (.ok m, rest)) (hh : a2mHdrOkB m = true) : A2mInsDigitalWritable a m := by
  have hg := a2mRead_good (a2mCfg (some a)) hv ha lines
  have hn := a2mRead_nd (a2mCfg (some a)) lines
  rw [h] at hg hn
  obtain ⟨hnd, hacc, hdig, hkp⟩ := hn m rfl
  have hdig' : m.digital = true := hdig
  have hkp' : m.kp = a.kp := hkp
  obtain ⟨h1, hrows⟩ := rd_wellFormed_rows m hg
  rw [hdig'] at hrows
  simp only [if_true] at hrows
  exact
    { dig := hdig', n1 := h1, acc_none := hacc
      name_ok := fun i hi => hnd.1 _ (getD_mem_of_lt hi)
      desc_ok := fun i _ d hd => hnd.2 i d hd
      hdr_line := a2mHdrOkB_lineOk m hh
      row_ok := fun i hi => by
        rw [← hkp']
        exact hrows.2 _ (getD_mem_of_lt (l := m.ax) (d := []) (by rw [hrows.1]; exact hi)) }


def notCrLf (x : UInt8) : Bool := x != 10 && x != 13

theorem hdrBytes_ok (hdr : Bytes) (h : ∀ x ∈ hdr, notCrLf x = true) : (!hdr.contains 10 && hdr.getLast? != some 13) = true := by
  simp only [Bool.and_eq_true, Bool.not_eq_true', bne_iff_ne, ne_eq]
  refine ⟨?_, ?_⟩
  · simp only [List.contains_eq_mem, decide_eq_false_iff_not]
    intro h10
    have := h 10 h10
    simp [notCrLf] at this
  · intro h13
    have := h 13 (List.mem_of_getLast? h13)
    simp [notCrLf] at this

/-- **if no input line holds a CR or a LF, the name lines of the alignment read survive a write** -/
theorem a2mHdrOkB_of_lines (cfg : Cfg) (lines : List Bytes) (m : Msa) (rest : List Bytes)
    (h : a2mRead cfg lines = (.ok m, rest)) (hl : ∀ l ∈ lines, ∀ x ∈ l, notCrLf x = true) : a2mHdrOkB m = true := by
  have hq := a2mRead_inv (bytesLaw notCrLf) cfg lines hl
  rw [h] at hq
  obtain ⟨⟨hq1, hq2⟩, hacc, _, _⟩ := hq m rfl
  unfold a2mHdrOkB
  rw [List.all_eq_true]
  intro i hi
  have hi' := List.mem_range.mp hi
  apply hdrBytes_ok
  intro x hx
  unfold a2mHeader at hx
  have hacc' : optRow m.sqacc i = none := by simp [optRow, hacc]
  rw [hacc'] at hx
  simp only [List.append_nil, List.mem_append, List.mem_singleton] at hx
  rcases hx with (rfl | hx) | hx
  · decide
  · exact hq1 _ (getD_mem_of_lt hi') x hx
  · cases hd : optRow m.sqdesc i with
    | none => rw [hd] at hx; simp at hx
    | some d =>
      rw [hd] at hx
      rcases List.mem_cons.mp hx with rfl | hx
      · decide
      · exact hq2 i d hd x hx

end EaselModel.Msafile
