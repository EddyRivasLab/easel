import EaselModel.Msafile.A2mLemmas
import EaselModel.Msafile.PsiblastLemmas
import EaselModel.Msafile.SelexLemmas
import EaselModel.Msafile.PhylipLemmas
/-! The mode (text or digital, alphabet size) of an alignment a reader returns is the reader's: AFA, A2M, Clustal, PSI-BLAST, SELEX,
    PHYLIP (Stockholm: `stockholmRead_mode` in `Sqio/MsaSeqSto.lean`).  No invariant is involved: a step of the first five never
    answers eslOK, so an eslOK outcome is built by the end-of-input function, which takes `digital` and `kp` from the
    configuration; PHYLIP's is built by `phyDone`, from a step or from the end of input. -/
namespace EaselModel.Msafile

abbrev ModeIs (cfg : Cfg) : Res Msa → Prop := OkIs fun m => m.digital = cfg.digital ∧ m.kp = cfg.kp

theorem NotOk.stepOkIs {σ : Type} {x : Sum σ (Res Msa)} (h : NotOk x) (P : Msa → Prop) : StepOk (fun _ => True) (OkIs P) x := by
  cases x with
  | inl _ => trivial
  | inr r => exact fun m e => absurd (congrArg Sum.inr e) (h m)

/-- a reader whose steps never answer eslOK returns what its end-of-input function builds -/
theorem runLines_okIs_finish {σ : Type} {step : σ → Bytes → Sum σ (Res Msa)} {finish : σ → Res Msa} {P : Msa → Prop}
    (hstep : ∀ st l, NotOk (step st l)) (hfin : ∀ st, OkIs P (finish st)) (ls : List Bytes) (st : σ) :
    OkIs P (runLines step finish st ls).1 :=
  runLines_okIs step finish P (fun st l => (hstep st l).stepOkIs P) hfin ls st

theorem afaFinish_mode (cfg : Cfg) (st : AfaSt) : ModeIs cfg (afaFinish cfg st) := by
  intro m h
  unfold afaFinish at h
  split at h
  · cases h
  · split at h
    · rename_i r hr; subst h; exact absurd hr (afaFinishRecord_notOk cfg st m)
    · cases h; exact ⟨rfl, rfl⟩

theorem afaRead_mode (cfg : Cfg) (lines : List Bytes) : ModeIs cfg (afaRead cfg lines).1 :=
  runLines_okIs_finish (afaStep_notOk cfg) (afaFinish_mode cfg) lines {}

theorem a2mPad_mode (cfg : Cfg) (st : A2mSt) : ModeIs cfg (a2mPad cfg st) := by
  intro m h
  unfold a2mPad at h
  split at h
  · cases h
  · simp only at h
    split at h
    · split at h
      · cases h
      · cases h; exact ⟨rfl, rfl⟩
    · cases h

theorem a2mFinish_mode (cfg : Cfg) (st : A2mSt) : ModeIs cfg (a2mFinish cfg st) := by
  intro m h
  unfold a2mFinish at h
  split at h
  · cases h
  · split at h
    · rename_i r hr; subst h; exact absurd hr (a2mFinishRecord_notOk cfg st m)
    · exact a2mPad_mode cfg _ m h

theorem a2mRead_mode (cfg : Cfg) (lines : List Bytes) : ModeIs cfg (a2mRead cfg lines).1 :=
  runLines_okIs_finish (a2mStep_notOk cfg) (a2mFinish_mode cfg) lines {}

/-- the result of the two block readers (Clustal, PSI-BLAST) -/
theorem blkResult_mode (cfg : Cfg) (st : BlkSt) (rf : Option Bytes) : ModeIs cfg (blkResult cfg st rf) := by
  intro m h
  unfold blkResult at h
  split at h
  · cases h
  · split at h
    · cases h
    · split at h <;> cases h
      exact ⟨rfl, rfl⟩

theorem clustalFinish_mode (cfg : Cfg) (st : BlkSt) : ModeIs cfg (clustalFinish cfg st) := by
  unfold clustalFinish
  split
  · exact okIs_eof _
  · exact okIs_eformat _ _
  · exact okIs_eformat _ _
  · exact blkResult_mode cfg _ _

theorem clustalRead_mode (like : Bool) (cfg : Cfg) (lines : List Bytes) : ModeIs cfg (clustalRead like cfg lines).1 :=
  runLines_okIs_finish (clustalStep_notOk like cfg) (clustalFinish_mode cfg) lines {}

theorem psiFinish_mode (cfg : Cfg) (st : BlkSt) : ModeIs cfg (psiFinish cfg st) := by
  unfold psiFinish
  split
  · exact okIs_eof _
  · exact okIs_eof _
  · split
    · rename_i r hr; exact fun m e => absurd (e ▸ hr) (psiEndBlock_notOk st m)
    · exact blkResult_mode cfg _ _
  · exact blkResult_mode cfg _ _

theorem psiblastRead_mode (cfg : Cfg) (lines : List Bytes) : ModeIs cfg (psiblastRead cfg lines).1 :=
  runLines_okIs_finish (psiStep_notOk cfg) (psiFinish_mode cfg) lines {}

theorem selexFinal_mode (cfg : Cfg) (st : SxSt) : ModeIs cfg (selexFinal cfg st) := by
  intro m h
  unfold selexFinal at h
  split at h
  · cases h
  · split at h
    · cases h
    · split at h <;> cases h
      exact ⟨rfl, rfl⟩

theorem selexFinish_mode (cfg : Cfg) (st : SxSt) : ModeIs cfg (selexFinish cfg st) := by
  unfold selexFinish
  split
  · split
    · rename_i r hr; exact fun m e => absurd (e ▸ hr) (processBlock_notOk cfg st m)
    · exact selexFinal_mode cfg _
  · exact selexFinal_mode cfg st

theorem selexRead_mode (cfg : Cfg) (lines : List Bytes) : ModeIs cfg (selexRead cfg lines).1 :=
  runLines_okIs_finish (selexStep_notOk cfg) (selexFinish_mode cfg) lines {}

/-- PHYLIP, any name width: `phyUnput` hands the alignment on, with or without a line pushed back -/
theorem phylipReadW_mode (nw : Nat) (sequential : Bool) (cfg : Cfg) (lines : List Bytes) :
    ModeIs cfg (phylipReadW nw sequential cfg lines).1 := by
  have hr := runLines_okIs (phylipStep sequential cfg) (phylipFinish sequential cfg) _
    (fun st l => (phylipStep_done sequential cfg st l).mono (fun _ => id) fun _ h => h.mode)
    (fun st => (phylipFinish_done sequential cfg st).mode) lines { nw := if nw == 0 then 10 else nw }
  intro m h
  unfold phylipReadW at h
  generalize runLines (phylipStep sequential cfg) (phylipFinish sequential cfg) { nw := if nw == 0 then 10 else nw } lines = x at h hr
  obtain ⟨r, rest⟩ := x
  unfold phyUnput at h
  cases r with
  | ok mb =>
    obtain ⟨m', b⟩ := mb
    cases b <;> (simp only [Res.ok.injEq] at h; subst h; exact hr _ rfl)
  | _ => cases h

end EaselModel.Msafile
