import EaselModel.Msafile.A2mRecord
import EaselModel.Msafile.AfaRoundTrip
/-! The padding phase of `esl_msafile_a2m_Read` (`a2m_padding_text` / `a2m_padding_digital`), said exactly: a record's row is cut at its
    consensus characters (`splitRow`, or `cutBy` its `csflag` row), every run of inserts is padded on its right to the width `nins[cpos]`
    (`padSegs`), and `padRow` / `padOne` write just that when the runs fit (`leAll`); `rf` is `rfOf`.  That the result is well formed
    (A2mLemmas.lean) and which alignment it is (A2mInsRoundTrip.lean) are both read off these equations. -/
namespace EaselModel.Msafile

/-- a written row cut at its consensus characters: the inserts before the first consensus character, then every
    consensus character with the inserts that follow it -/
def splitRow : Bytes → Bytes × List (UInt8 × Bytes)
  | [] => ([], [])
  | t :: w => if isLower t then (t :: (splitRow w).1, (splitRow w).2) else ([], (t, (splitRow w).1) :: (splitRow w).2)

/-- the number of inserts in every run (`this_nins[0..ncons]`) -/
def segLens (s : Bytes × List (UInt8 × Bytes)) : List Nat := s.1.length :: s.2.map fun cr => cr.2.length

def segFlags (s : Bytes × List (UInt8 × Bytes)) : List Bool :=
  List.replicate s.1.length false ++ s.2.flatMap fun cr => true :: List.replicate cr.2.length false

def segJoin (s : Bytes × List (UInt8 × Bytes)) : Bytes := s.1 ++ s.2.flatMap fun cr => cr.1 :: cr.2

def segMap (enc : UInt8 → UInt8) (s : Bytes × List (UInt8 × Bytes)) : Bytes × List (UInt8 × Bytes) :=
  (s.1.map enc, s.2.map fun cr => (enc cr.1, cr.2.map enc))

theorem splitRow_flags (w : Bytes) : flagsOf w = segFlags (splitRow w) := by
  induction w with
  | nil => rfl
  | cons t w ih =>
    cases h : isLower t with
    | true => simp [flagsOf, splitRow, h, segFlags, List.replicate_succ] at ih ⊢; exact ih
    | false => simp [flagsOf, splitRow, h, segFlags] at ih ⊢; exact ih

theorem splitRow_join (enc : UInt8 → UInt8) (w : Bytes) : w.map enc = segJoin (segMap enc (splitRow w)) := by
  induction w with
  | nil => rfl
  | cons t w ih =>
    cases h : isLower t with
    | true => simp [splitRow, h, segJoin, segMap] at ih ⊢; exact ih
    | false => simp [splitRow, h, segJoin, segMap] at ih ⊢; exact ih

theorem splitRow_rest_length (w : Bytes) : (splitRow w).2.length = consCount w := by
  induction w with
  | nil => rfl
  | cons t w ih =>
    cases h : isLower t with
    | true => simp [splitRow, h, consCount_cons_lower t w h, ih]
    | false => simp [splitRow, h, consCount_cons_notLower t w h, ih]

theorem segLens_length (w : Bytes) : (segLens (splitRow w)).length = consCount w + 1 := by
  simp [segLens, splitRow_rest_length]

/-- the reader's left-to-right count is the run lengths of the cut row -/
theorem runsL_segLens (w : Bytes) : ∀ (A : List Nat) (n : Nat),
    (runsL A n w).1 ++ [(runsL A n w).2] = A ++ ((n + (splitRow w).1.length) :: (splitRow w).2.map fun cr => cr.2.length) := by
  induction w with
  | nil => intro A n; simp [runsL, splitRow]
  | cons t w ih =>
    intro A n
    cases h : isLower t with
    | true =>
      simp only [runsL, h, if_true, splitRow, List.length_cons, ih]
      have : n + 1 + (splitRow w).1.length = n + ((splitRow w).1.length + 1) := by omega
      rw [this]
    | false =>
      simp only [runsL, h, Bool.false_eq_true, if_false, splitRow, List.length_nil, ih, List.map_cons, Nat.add_zero, Nat.zero_add,
        List.append_assoc, List.singleton_append]

theorem runsL_runLens (w : Bytes) : (runsL [] 0 w).1 ++ [(runsL [] 0 w).2] = segLens (splitRow w) := by
  rw [runsL_segLens w [] 0]
  simp [segLens]

/-- a run of inserts padded on its right to `n` columns -/
def padRun (gap : UInt8) (n : Nat) (r : Bytes) : Bytes := r ++ List.replicate (n - r.length) gap

def padRest (gap : UInt8) : List Nat → List (UInt8 × Bytes) → Bytes
  | n :: ns, cr :: rest => cr.1 :: padRun gap n cr.2 ++ padRest gap ns rest
  | _, _ => []

/-- the aligned row: every run of inserts padded to the width `nins[cpos]` of its block of insert columns -/
def padSegs (gap : UInt8) (nins : List Nat) (s : Bytes × List (UInt8 × Bytes)) : Bytes :=
  match nins with
  | [] => []
  | n0 :: ns => padRun gap n0 s.1 ++ padRest gap ns s.2

/-- the `rf` line: `.` over every block of insert columns, `x` on every consensus column -/
def rfOf (nins : List Nat) : Bytes :=
  match nins with
  | [] => []
  | n0 :: ns => List.replicate n0 46 ++ ns.flatMap fun n => 120 :: List.replicate n 46

def leAll : List Nat → List Nat → Prop
  | [], [] => True
  | a :: as, b :: bs => a ≤ b ∧ leAll as bs
  | _, _ => False

theorem leAll_length : ∀ (a b : List Nat), leAll a b → a.length = b.length
  | [], [], _ => rfl
  | _ :: as, _ :: bs, h => by simp [leAll_length as bs h.2]
  | [], _ :: _, h => absurd h (by simp [leAll])
  | _ :: _, [], h => absurd h (by simp [leAll])

theorem leAll_refl : ∀ (a : List Nat), leAll a a
  | [] => trivial
  | _ :: as => ⟨Nat.le_refl _, leAll_refl as⟩

theorem leAll_zipWith_right : ∀ (a b : List Nat), a.length = b.length → leAll b (List.zipWith max a b)
  | [], [], _ => trivial
  | x :: as, y :: bs, h => ⟨Nat.le_max_right x y, leAll_zipWith_right as bs (by simpa using h)⟩
  | [], _ :: _, h => absurd h (by simp)
  | _ :: _, [], h => absurd h (by simp)

theorem leAll_zipWith_left : ∀ (l a b : List Nat), a.length = b.length → leAll l a → leAll l (List.zipWith max a b)
  | [], [], [], _, _ => trivial
  | u :: l, x :: as, y :: bs, h, hl =>
    ⟨Nat.le_trans hl.1 (Nat.le_max_left x y), leAll_zipWith_left l as bs (by simpa using h) hl.2⟩
  | [], _ :: _, _, _, hl => absurd hl (by simp [leAll])
  | _ :: _, [], _, _, hl => absurd hl (by simp [leAll])
  | _ :: _, _ :: _, [], h, _ => absurd h (by simp)
  | [], [], _ :: _, h, _ => absurd h (by simp)

theorem zipWith_max_zeros : ∀ (l : List Nat), List.zipWith max (List.replicate l.length 0) l = l
  | [] => rfl
  | x :: l => by simp [List.replicate_succ, zipWith_max_zeros l]

theorem padFill_spec (size : Nat) (gap : UInt8) :
    ∀ (k : Nat) (acc : Bytes), acc.length + k ≤ size → padFill size gap k acc = some (List.replicate k gap ++ acc) := by
  intro k
  induction k with
  | zero => intro acc _; simp [padFill]
  | succ k ih =>
    intro acc h
    have hlt : acc.length < size := by omega
    simp only [padFill, hlt, if_true]
    rw [ih (gap :: acc) (by simp; omega)]
    simp [List.replicate_succ']

theorem padCopy_run (size : Nat) (fl : List Bool) (old : Bytes) : ∀ (r : Bytes) (ic : Nat) (acc : Bytes), acc.length + r.length ≤ size →
    padCopy size (List.replicate r.length false ++ true :: fl) (r ++ old) ic acc
      = some (true :: fl, old, ic + r.length, r.reverse ++ acc) := by
  intro r
  induction r with
  | nil => intro ic acc _; simp [padCopy]
  | cons x r ih =>
    intro ic acc h
    simp only [List.length_cons] at h
    have hlt : acc.length < size := by omega
    simp only [List.length_cons, List.replicate_succ, List.cons_append, padCopy, hlt, if_true]
    rw [ih (ic + 1) (x :: acc) (by simp only [List.length_cons]; omega)]
    simp [Nat.add_assoc, Nat.add_comm 1]

theorem padRun_length (gap : UInt8) (n : Nat) (r : Bytes) (h : r.length ≤ n) : (padRun gap n r).length = n := by
  simp [padRun]; omega

theorem padRest_length (gap : UInt8) : ∀ (ns : List Nat) (rest : List (UInt8 × Bytes)),
    leAll (rest.map fun cr => cr.2.length) ns → (padRest gap ns rest).length = ns.sum + ns.length
  | [], [], _ => rfl
  | n :: ns, cr :: rest, h => by
    have h1 : cr.2.length ≤ n := h.1
    simp only [padRest, List.length_cons, List.length_append, padRun_length gap n cr.2 h1, padRest_length gap ns rest h.2,
      List.sum_cons]
    omega
  | [], _ :: _, h => absurd h (by simp [leAll])
  | _ :: _, [], h => absurd h (by simp [leAll])

theorem padSegs_length (gap : UInt8) (n0 : Nat) (ns : List Nat) (s : Bytes × List (UInt8 × Bytes)) (h : leAll (segLens s) (n0 :: ns)) :
    (padSegs gap (n0 :: ns) s).length = (n0 :: ns).sum + ns.length := by
  have h1 : s.1.length ≤ n0 := h.1
  simp only [padSegs, List.length_append, padRun_length gap n0 s.1 h1, padRest_length gap ns s.2 h.2, List.sum_cons]
  omega

theorem padRow_rest (size : Nat) (gap : UInt8) (tail : Bytes) (junk : List Bool) : ∀ (rest : List (UInt8 × Bytes)) (ns : List Nat) (n0 : Nat) (r0 acc : Bytes),
    leAll (segLens (r0, rest)) (n0 :: ns) → acc.length + (padSegs gap (n0 :: ns) (r0, rest)).length ≤ size →
    padRow size gap (n0 :: ns) (segFlags (r0, rest) ++ true :: junk) (segJoin (r0, rest) ++ tail) acc
      = some ((padSegs gap (n0 :: ns) (r0, rest)).reverse ++ acc) := by
  intro rest
  induction rest with
  | nil =>
    intro ns n0 r0 acc hle hsz
    have hns : ns = [] := by
      cases ns with
      | nil => rfl
      | cons _ _ => exact absurd hle.2 (by simp [leAll])
    subst hns
    have h1 : r0.length ≤ n0 := hle.1
    simp only [padSegs, padRest, List.append_nil, padRun, List.length_append, List.length_replicate] at hsz ⊢
    simp only [segFlags, segJoin, List.flatMap_nil, List.append_nil]
    rw [padRow, padCopy_run size junk tail r0 0 acc (by omega)]
    simp only [Nat.zero_add]
    rw [padFill_spec size gap (n0 - r0.length) _ (by simp only [List.length_append, List.length_reverse]; omega)]
    simp
  | cons cr rest ih =>
    intro ns n0 r0 acc hle hsz
    cases ns with
    | nil => exact absurd hle.2 (by simp [leAll])
    | cons n1 ns =>
      have h1 : r0.length ≤ n0 := hle.1
      have hle' : leAll (segLens (cr.2, rest)) (n1 :: ns) := hle.2
      have hlen' := padSegs_length gap n1 ns (cr.2, rest) hle'
      have e : padSegs gap (n0 :: n1 :: ns) (r0, cr :: rest) = padRun gap n0 r0 ++ cr.1 :: padSegs gap (n1 :: ns) (cr.2, rest) := by
        simp [padSegs, padRest]
      rw [e] at hsz ⊢
      simp only [List.length_append, List.length_cons, padRun_length gap n0 r0 h1] at hsz
      have ef : segFlags (r0, cr :: rest) ++ true :: junk
          = List.replicate r0.length false ++ true :: (segFlags (cr.2, rest) ++ true :: junk) := by
        simp [segFlags]
      have ej : segJoin (r0, cr :: rest) ++ tail = r0 ++ (cr.1 :: (segJoin (cr.2, rest) ++ tail)) := by
        simp [segJoin]
      rw [ef, ej, padRow, padCopy_run size _ _ r0 0 acc (by omega)]
      simp only [Nat.zero_add]
      rw [padFill_spec size gap (n0 - r0.length) _ (by simp only [List.length_append, List.length_reverse]; omega)]
      have hlt : (List.replicate (n0 - r0.length) gap ++ (r0.reverse ++ acc)).length < size := by
        simp only [List.length_append, List.length_replicate, List.length_reverse]; omega
      simp only [hlt, if_true, List.drop_succ_cons, List.drop_zero]
      rw [ih ns n1 cr.2 _ hle' (by
        simp only [List.length_cons, List.length_append, List.length_replicate, List.length_reverse]; omega)]
      simp [padRun]

theorem rfOf_length (n0 : Nat) (ns : List Nat) : (rfOf (n0 :: ns)).length = (n0 :: ns).sum + ns.length := by
  induction ns generalizing n0 with
  | nil => simp [rfOf]
  | cons n1 ns ih =>
    have := ih n1
    simp only [rfOf, List.length_append, List.length_replicate, List.flatMap_cons, List.length_cons, List.sum_cons] at this ⊢
    omega

theorem padRf_ok (size : Nat) : ∀ (ns : List Nat) (n0 : Nat) (acc : Bytes), acc.length + (rfOf (n0 :: ns)).length ≤ size →
    padRf size (n0 :: ns) acc = some ((rfOf (n0 :: ns)).reverse ++ acc) := by
  intro ns
  induction ns with
  | nil =>
    intro n0 acc h
    simp only [rfOf, List.flatMap_nil, List.append_nil, List.length_replicate] at h ⊢
    rw [padRf, padFill_spec size 46 n0 acc h]
    simp
  | cons n1 ns ih =>
    intro n0 acc h
    have e : rfOf (n0 :: n1 :: ns) = List.replicate n0 46 ++ 120 :: rfOf (n1 :: ns) := by simp [rfOf]
    rw [e] at h ⊢
    simp only [List.length_append, List.length_replicate, List.length_cons] at h
    rw [padRf, padFill_spec size 46 n0 acc (by omega)]
    have hlt : (List.replicate n0 (46 : UInt8) ++ acc).length < size := by
      simp only [List.length_append, List.length_replicate]; omega
    simp only [hlt, if_true]
    rw [ih n1 _ (by simp only [List.length_cons, List.length_append, List.length_replicate]; omega)]
    simp

theorem segFlags_map (enc : UInt8 → UInt8) (s : Bytes × List (UInt8 × Bytes)) : segFlags (segMap enc s) = segFlags s := by
  simp [segFlags, segMap, List.flatMap_map]

theorem segLens_map (enc : UInt8 → UInt8) (s : Bytes × List (UInt8 × Bytes)) : segLens (segMap enc s) = segLens s := by
  simp [segLens, segMap, Function.comp_def]

theorem padRow_segs (size : Nat) (gap : UInt8) (tail : Bytes) (junk : List Bool) (n0 : Nat) (ns : List Nat) (s : Bytes × List (UInt8 × Bytes))
    (hle : leAll (segLens s) (n0 :: ns)) (hsz : (padSegs gap (n0 :: ns) s).length ≤ size) :
    padRow size gap (n0 :: ns) (segFlags s ++ true :: junk) (segJoin s ++ tail) []
      = some (padSegs gap (n0 :: ns) s).reverse := by
  have := padRow_rest size gap tail junk s.2 ns n0 s.1 [] hle (by simpa using hsz)
  simpa using this

theorem padOne_segs (cfg : Cfg) (n0 : Nat) (ns : List Nat) (s : Bytes × List (UInt8 × Bytes)) (hle : leAll (segLens s) (n0 :: ns))
    (alen : Nat) (halen : alen = (n0 :: ns).sum + ns.length) (junk : List Bool) :
    padOne cfg (n0 :: ns) alen (mkRow cfg.digital (segJoin s), segFlags s ++ true :: junk)
      = some (mkRow cfg.digital (padSegs cfg.padSym (n0 :: ns) s)) := by
  have hlen := padSegs_length cfg.padSym n0 ns s hle
  rw [← halen] at hlen
  unfold padOne
  cases hd : cfg.digital with
  | true =>
    simp only [mkRow, if_true, List.cons_append, List.drop_succ_cons, List.drop_zero]
    rw [padRow_segs _ _ _ junk n0 ns s hle (by omega)]
    simp [hlen]
  | false =>
    simp only [mkRow, Bool.false_eq_true, if_false]
    rw [padRow_segs _ _ _ junk n0 ns s hle (by omega)]
    simp [hlen]

/-- a row cut at the TRUE flags of its `csflag` row (`splitRow`, with the flags given) -/
def cutBy : List Bool → Bytes → Bytes × List (UInt8 × Bytes)
  | false :: fl, x :: xs => (x :: (cutBy fl xs).1, (cutBy fl xs).2)
  | true :: fl, x :: xs => ([], (x, (cutBy fl xs).1) :: (cutBy fl xs).2)
  | _, _ => ([], [])

theorem cutBy_join : ∀ (fl : List Bool) (xs : Bytes), fl.length = xs.length → segJoin (cutBy fl xs) = xs
  | [], [], _ => rfl
  | false :: fl, x :: xs, h => by
    have := cutBy_join fl xs (by simpa using h)
    simp only [segJoin] at this ⊢
    simp [cutBy, this]
  | true :: fl, x :: xs, h => by
    have := cutBy_join fl xs (by simpa using h)
    simp only [segJoin] at this ⊢
    simp [cutBy, this]
  | [], _ :: _, h => by simp at h
  | _ :: _, [], h => by simp at h

theorem cutBy_flagsOf : ∀ (w codes : Bytes), codes.length = w.length →
    segFlags (cutBy (flagsOf w) codes) = flagsOf w ∧ segLens (cutBy (flagsOf w) codes) = segLens (splitRow w)
  | [], [], _ => ⟨rfl, rfl⟩
  | t :: w, x :: xs, h => by
    obtain ⟨h1, h2⟩ := cutBy_flagsOf w xs (by simpa using h)
    simp only [segFlags, segLens, List.cons.injEq] at h1 h2 ⊢
    cases hl : isLower t with
    | true => simp [flagsOf, cutBy, splitRow, hl, List.replicate_succ] at h1 h2 ⊢; exact ⟨h1, h2⟩
    | false => simp [flagsOf, cutBy, splitRow, hl] at h1 h2 ⊢; exact ⟨h1, h2⟩
  | [], _ :: _, h => by simp at h
  | _ :: _, [], h => by simp at h

theorem padRest_all (P : UInt8 → Bool) (gap : UInt8) (hg : P gap = true) : ∀ (ns : List Nat) (rest : List (UInt8 × Bytes)),
    (rest.flatMap fun cr => cr.1 :: cr.2).all P = true → (padRest gap ns rest).all P = true
  | [], _, _ => by simp [padRest]
  | _ :: _, [], _ => by simp [padRest]
  | n :: ns, cr :: rest, h => by
    simp only [List.flatMap_cons, List.all_append, List.all_cons, Bool.and_eq_true] at h
    simp [padRest, padRun, hg, h.1.1, h.1.2, padRest_all P gap hg ns rest h.2]

/-- symbols with one fewer than `as.sum + as.length` of them are the join of a cut row with the run lengths `as` -/
theorem exists_segs : ∀ (as : List Nat) (a : Nat) (xs : Bytes), xs.length + 1 = (a :: as).sum + (a :: as).length →
    ∃ s : Bytes × List (UInt8 × Bytes), segLens s = a :: as ∧ segJoin s = xs
  | [], a, xs, h => ⟨(xs, []), by simp [segLens] at h ⊢; omega, by simp [segJoin]⟩
  | b :: as, a, xs, h => by
    simp only [List.sum_cons, List.length_cons] at h
    obtain ⟨x, hx⟩ : ∃ x, xs[a]? = some x := ⟨xs[a]'(by omega), List.getElem?_eq_getElem (by omega)⟩
    obtain ⟨s', h1, h2⟩ := exists_segs as b (xs.drop (a + 1)) (by simp only [List.length_drop, List.sum_cons, List.length_cons]; omega)
    refine ⟨(xs.take a, (x, s'.1) :: s'.2), ?_, ?_⟩
    · simp only [segLens, List.map_cons] at h1 ⊢
      rw [List.length_take, Nat.min_eq_left (by omega)]
      exact congrArg (a :: ·) h1
    · simp only [segJoin, List.flatMap_cons] at h2 ⊢
      have hd : xs.drop a = x :: xs.drop (a + 1) := by
        rw [List.drop_eq_getElem_cons (by omega), (List.getElem?_eq_some_iff.mp hx).2]
      rw [List.cons_append, h2, ← hd, List.take_append_drop]

/-- padding keeps the symbols of the row and adds gap symbols only -/
theorem padSegs_all (P : UInt8 → Bool) (gap : UInt8) (hg : P gap = true) (nins : List Nat) (s : Bytes × List (UInt8 × Bytes))
    (h : (segJoin s).all P = true) : (padSegs gap nins s).all P = true := by
  simp only [segJoin, List.all_append, Bool.and_eq_true] at h
  cases nins with
  | nil => rfl
  | cons n0 ns =>
    simp [padSegs, padRun, hg, h.1, padRest_all P gap hg ns s.2 h.2]

/-- the padding phase when every row can be padded: the `rf` line is written without an access outside it -/
theorem a2mPad_rows (cfg : Cfg) (st : A2mSt) (n0 : Nat) (ns : List Nat) (rows : List Bytes)
    (hnins : st.nins = n0 :: ns) (hns : ns.length = st.ncons)
    (hall : padAll cfg (n0 :: ns) (st.ncons + (n0 :: ns).sum) st.recs = some rows) :
    a2mPad cfg st = .ok {
          digital := cfg.digital, kp := cfg.kp, alen := (st.ncons + (n0 :: ns).sum), names := st.names,
          aseq := if cfg.digital then [] else rows,
          ax := if cfg.digital then rows else [],
          hasw := false, wgt := List.replicate st.nseq Wgt.dflt, rf := some (rfOf (n0 :: ns)),
          sqdesc := padOptRows st.sqdesc st.nseq } := by
  have hl : ¬ (st.nins.length < st.ncons + 1) := by rw [hnins]; simp only [List.length_cons]; omega
  have htake : st.nins.take (st.ncons + 1) = n0 :: ns := by
    rw [hnins, List.take_of_length_le (by simp only [List.length_cons]; omega)]
  have hrfl := rfOf_length n0 ns
  have hrf : padRf (st.ncons + (n0 :: ns).sum + 1) (n0 :: ns) [] = some (rfOf (n0 :: ns)).reverse := by
    rw [padRf_ok _ ns n0 [] (by simp only [List.length_nil]; omega)]; simp
  have hgt : ¬ ((rfOf (n0 :: ns)).reverse.length > st.ncons + (n0 :: ns).sum) := by
    simp only [List.length_reverse]; omega
  unfold a2mPad
  simp only [hl, if_false, htake, hrf, hall, hgt, List.reverse_reverse]

end EaselModel.Msafile
