import EaselModel.Msafile.ClustalLemmas
import EaselModel.Msafile.PsiblastLemmas
import EaselModel.Msafile.ClustalWritable
/-! "Reformat stability", Clustal: what `esl_msafile_clustal_Read` returns lies in the domain of the Clustal round-trip
    theorem (names are non-empty: a NUL byte in the name field is eslEFORMAT, `BlkNdInv.names`), except that a row after the
    first may look like a consensus line when it is written alone in a block (`notcons`). -/
namespace EaselModel.Msafile

theorem nameSlice_nospace (p : Bytes) (a : Nat) (c0 : UInt8) (h0 : p[a]? = some c0) (hc : isSpace c0 = false) :
    ∀ x ∈ (p.drop a).take (scanTo isSpace p (a + 1) - a), isSpace x = false := by
  have ha : a < p.length := by
    rcases Nat.lt_or_ge a p.length with h | h
    · exact h
    · rw [List.getElem?_eq_none h] at h0; cases h0
  have hd : p.drop a = c0 :: p.drop (a + 1) := by
    rw [List.drop_eq_getElem_cons ha]
    have : p[a] = c0 := by
      have := List.getElem?_eq_getElem ha
      rw [this] at h0; exact Option.some.inj h0
    rw [this]
  have hk : scanTo isSpace p (a + 1) - a = ((p.drop (a + 1)).takeWhile (fun c => !isSpace c)).length + 1 := by
    unfold scanTo; omega
  rw [hd, hk, List.take_succ_cons, take_takeWhile_length]
  intro x hx
  rcases List.mem_cons.mp hx with rfl | hx
  · exact hc
  · have := mem_takeWhile_imp hx
    simpa using this

theorem clustalCols_name (p : Bytes) (c : Cols) (h : clustalCols p = some c) :
    c.nameStart = scanTo (fun c => !isSpace c) p 0 ∧ c.nameLen = scanTo isSpace p (c.nameStart + 1) - c.nameStart := by
  unfold clustalCols at h
  simp only at h
  split at h
  · simp at h
  · simp only [Option.some.injEq] at h
    subst h
    exact ⟨rfl, rfl⟩

theorem clustal_name_nospace (p : Bytes) (c : Cols) (name : Bytes) (h : clustalCols p = some c)
    (hs : slice p c.nameStart c.nameLen = some name) : ∀ x ∈ name, isSpace x = false := by
  obtain ⟨h1, h2⟩ := clustalCols_name p c h
  obtain ⟨hb1, _, _⟩ := clustalCols_ok p c h
  have hge : c.nameStart + 1 ≤ scanTo isSpace p (c.nameStart + 1) := scanTo_ge _ _ _
  have hlt : scanTo (fun c => !isSpace c) p 0 < p.length := by rw [← h1]; omega
  obtain ⟨c0, hc0, hP⟩ := scanTo_stop (fun c => !isSpace c) p 0 hlt
  rw [← h1] at hc0
  simp only [slice, hb1, if_true, Option.some.injEq] at hs
  rw [← hs, h2]
  exact nameSlice_nospace p c.nameStart c0 hc0 (by simpa using hP)

theorem name_ne_gen (p : Bytes) (ns nl : Nat) (name : Bytes) (h2 : nl = scanTo isSpace p (ns + 1) - ns)
    (hs : slice p ns nl = some name) : name ≠ [] := by
  have hge : ns + 1 ≤ scanTo isSpace p (ns + 1) := scanTo_ge _ _ _
  unfold slice at hs
  by_cases hb : ns + nl ≤ p.length
  · simp only [hb, if_true, Option.some.injEq] at hs
    intro h0
    have hl : ((p.drop ns).take nl).length = 0 := by rw [hs, h0]; rfl
    rw [List.length_take, List.length_drop] at hl
    omega
  · simp [hb] at hs

theorem cstr_of_no0 (name : Bytes) (h : name.contains 0 = false) : cstr name = name := by
  unfold cstr
  apply takeWhile_all
  intro a ha
  have : a ≠ 0 := by
    intro e; subst e
    have : name.contains 0 = true := by simpa using ha
    rw [h] at this; cases this
  simpa using this

/-- non-empty names without white space or NUL; text rows of graphic characters; a started block is not empty -/
structure BlkNdInv (cfg : Cfg) (st : BlkSt) : Prop where
  names : ∀ nm ∈ st.names, (nm ≠ [] ∧ ∀ x ∈ nm, isSpace x = false ∧ x ≠ 0)
  rows : cfg.digital = false → ∀ r, some r ∈ st.rows → r.all isGraph = true
  bsl : st.phase = .inblock ∨ st.phase = .between → 1 ≤ st.bsl

theorem cstr_mem (b : Bytes) (x : UInt8) (h : x ∈ cstr b) : x ∈ b ∧ x ≠ 0 := by
  unfold cstr at h
  refine ⟨(List.takeWhile_sublist _).subset h, ?_⟩
  have := mem_takeWhile_imp h
  simpa using this

theorem blkName_nd (cfg : Cfg) (inc : Bool) (st st' : BlkSt) (name : Bytes) (h : blkName inc st name = .inl st')
    (hn : ∀ x ∈ name, isSpace x = false) (hne : name ≠ []) (hi : BlkNdInv cfg st) :
    (∀ nm ∈ st'.names, (nm ≠ [] ∧ ∀ x ∈ nm, isSpace x = false ∧ x ≠ 0)) ∧
    (∀ r, some r ∈ st'.rows → some r ∈ st.rows) ∧ st'.phase = st.phase ∧ st'.bsl = st.bsl ∧ st'.alen = st.alen := by
  unfold blkName at h
  split at h
  · cases h
  rename_i hcond
  unfold blkNameCore at h
  by_cases hb : (st.nblocks == 0) = true
  · have hz : name.contains 0 = false := by
      cases hx : name.contains 0 with
      | false => rfl
      | true => exact absurd (by rw [hb, hx]; rfl) hcond
    have hcs := cstr_of_no0 name hz
    simp only [hb, if_true] at h
    split at h
    · simp at h
    · injection h with h; subst h
      refine ⟨?_, ?_, rfl, rfl, rfl⟩
      · intro nm hnm
        rcases List.mem_append.mp hnm with h1 | h1
        · exact hi.names nm h1
        · simp at h1; subst h1
          rw [hcs]
          refine ⟨hne, fun x hx => ⟨hn x hx, ?_⟩⟩
          intro e; subst e
          have : name.contains 0 = true := by simpa using hx
          rw [hz] at this; cases this
      · intro r hr
        simp only at hr
        split at hr
        · rcases List.mem_append.mp hr with h1 | h1
          · exact h1
          · simp at h1
        · exact hr
  · have hb' : (st.nblocks == 0) = false := by simpa using hb
    simp only [hb', Bool.false_eq_true, if_false] at h
    repeat' split at h
    all_goals first
      | (injection h with h; subst h; exact ⟨hi.names, fun r hr => hr, rfl, rfl, rfl⟩)
      | (simp at h)

theorem mem_set_some (l : List (Option Bytes)) (i : Nat) (v : Option Bytes) (r : Bytes) (h : some r ∈ l.set i v) :
    some r ∈ l ∨ v = some r := by
  rcases List.mem_or_eq_of_mem_set h with h1 | h1
  · exact Or.inl h1
  · exact Or.inr h1.symm

theorem blkAppend_nd (cfg : Cfg) (hg : cfg.digital = false → cfg.inmap.emits isGraph = true) (st st' : BlkSt) (seq : Bytes)
    (h : blkAppend cfg st seq = .inl st') (hr : cfg.digital = false → ∀ r, some r ∈ st.rows → r.all isGraph = true) :
    st'.names = st.names ∧ (cfg.digital = false → ∀ r, some r ∈ st'.rows → r.all isGraph = true) ∧
    st'.phase = st.phase ∧ st'.bsl = st.bsl := by
  unfold blkAppend at h
  split at h
  · simp at h
  · rename_i cur hcur
    have hcm : cur ∈ st.rows := List.mem_of_getElem? hcur
    repeat' split at h
    all_goals try simp only at h
    all_goals repeat' split at h
    all_goals first
      | (simp at h; done)
      | (injection h with h; subst h
         refine ⟨rfl, ?_, rfl, rfl⟩
         intro hd r hmem
         rcases mem_set_some _ _ _ _ hmem with h1 | h1
         · exact hr hd r h1
         · first
             | (exfalso; simp_all; done)
             | exact strmapcat_all cfg.inmap isGraph (hg hd) cur seq (fun d hdd => hr hd d (by rw [← hdd]; exact hcm)) r h1)

/-- "store the name, append the sequence" after `setBlock` keeps the invariant: `setBlock` leaves names and rows alone, and the
    block it sets (first row) or finds (later rows) is not empty -/
theorem blkStore_nd (cfg : Cfg) (hg : cfg.digital = false → cfg.inmap.emits isGraph = true) (inc : Bool) (st st' : BlkSt)
    (c : Cols) (rf name seq : Bytes)
    (h : blkStore cfg inc { setBlock st c with phase := .inblock, rf := rf } name seq = .inl st') (hc : 1 ≤ c.seqLen)
    (hn : ∀ x ∈ name, isSpace x = false) (hne : name ≠ []) (hi : BlkNdInv cfg st) (hph : st.idx ≠ 0 → 1 ≤ st.bsl) :
    BlkNdInv cfg st' ∧ st'.phase = .inblock := by
  unfold blkStore at h
  split at h
  · simp at h
  · rename_i st1 hnm
    have hsl : 1 ≤ (setBlock st c).bsl := by
      unfold setBlock
      by_cases h0 : st.idx = 0
      · simp only [h0, beq_self_eq_true, if_true]; exact hc
      · have : (st.idx == 0) = false := by simpa using h0
        simp only [this, Bool.false_eq_true, if_false]; exact hph h0
    have hsb : (setBlock st c).names = st.names ∧ (setBlock st c).rows = st.rows := by
      unfold setBlock; split <;> exact ⟨rfl, rfl⟩
    have hi1 : BlkNdInv cfg { setBlock st c with phase := .inblock, rf := rf } :=
      { names := by show ∀ nm ∈ (setBlock st c).names, _; rw [hsb.1]; exact hi.names
        rows := by show _ → ∀ r, some r ∈ (setBlock st c).rows → _; rw [hsb.2]; exact hi.rows
        bsl := fun _ => hsl }
    obtain ⟨n1, n2, n3, n4, _⟩ := blkName_nd cfg inc _ st1 name hnm hn hne hi1
    obtain ⟨a1, a2, a3, a4⟩ := blkAppend_nd cfg hg st1 st' seq h (fun hd r hr => hi1.rows hd r (n2 r hr))
    exact ⟨{ names := by rw [a1]; exact n1, rows := a2, bsl := fun _ => by rw [a4, n4]; exact hsl }, by rw [a3, n3]⟩

theorem clustalSeqLine_nd (cfg : Cfg) (hg : cfg.digital = false → cfg.inmap.emits isGraph = true) (st st' : BlkSt) (p : Bytes)
    (h : clustalSeqLine cfg st p = .inl st') (hi : BlkNdInv cfg st) (hph : st.idx ≠ 0 → 1 ≤ st.bsl) : BlkNdInv cfg st' := by
  unfold clustalSeqLine at h
  split at h
  · simp at h
  · rename_i c hc
    split at h
    · simp at h
    · split at h
      · simp at h
      · rename_i hmis
        split at h
        · rename_i name seq hname hseq
          exact (blkStore_nd cfg hg true st st' c (setBlock st c).rf name seq h (clustalCols_ok p c hc).2.2
            (clustal_name_nospace p c name hc hname) (name_ne_gen p _ _ name (clustalCols_name p c hc).2 hname) hi hph).1
        · simp at h

theorem allSome_mem : ∀ (l : List (Option Bytes)) (rows : List Bytes), allSome l = some rows → ∀ r ∈ rows, some r ∈ l
  | [], rows, h, r, hr => by simp [allSome] at h; subst h; simp at hr
  | none :: _, rows, h, r, hr => by simp [allSome] at h
  | some a :: rest, rows, h, r, hr => by
    simp only [allSome, Option.map_eq_some_iff] at h
    obtain ⟨rs, h1, h2⟩ := h
    subst h2
    rcases List.mem_cons.mp hr with rfl | hr
    · simp
    · exact List.mem_cons_of_mem _ (allSome_mem rest rs h1 r hr)

def CluNdGood (cfg : Cfg) (r : Res Msa) : Prop :=
  ∀ m, r = .ok m → (∀ nm ∈ m.names, (nm ≠ [] ∧ ∀ x ∈ nm, isSpace x = false ∧ x ≠ 0)) ∧ m.digital = cfg.digital ∧ m.kp = cfg.kp ∧ 1 ≤ m.alen ∧
    (cfg.digital = false → ∀ r ∈ m.aseq, r.all isGraph = true)

theorem blkNdInv_idx0 (cfg : Cfg) (st : BlkSt) (hi : BlkNdInv cfg st) (a n : Nat) :
    BlkNdInv cfg { st with alen := a, nblocks := n, idx := 0 } :=
  { names := hi.names, rows := hi.rows, bsl := hi.bsl }

theorem clustalStep_nd (like : Bool) (cfg : Cfg) (hg : cfg.digital = false → cfg.inmap.emits isGraph = true) (st : BlkSt) (l : Bytes)
    (hi : BlkNdInv cfg st) : StepOk (BlkNdInv cfg) (CluNdGood cfg) (clustalStep like cfg st l) := by
  cases hs : clustalStep like cfg st l with
  | inr r =>
    intro m hm
    subst hm
    exact absurd hs (clustalStep_notOk like cfg st l m)
  | inl st' =>
    show BlkNdInv cfg st'
    unfold clustalStep at hs
    split at hs
    · -- lead
      rename_i hph
      split at hs
      · injection hs with hs; subst hs; exact hi
      · repeat' split at hs
        all_goals first
          | (simp at hs; done)
          | (injection hs with hs; subst hs
             exact { names := hi.names, rows := hi.rows, bsl := fun h => by rcases h with h | h <;> cases h })
    · -- hdr
      split at hs
      · injection hs with hs; subst hs; exact hi
      · exact clustalSeqLine_nd cfg hg _ st' l hs
          { names := hi.names, rows := hi.rows, bsl := hi.bsl } (fun h => absurd rfl h)
    · -- inblock
      rename_i hph
      split at hs
      · exact clustalSeqLine_nd cfg hg st st' l hs hi (fun _ => hi.bsl (Or.inl hph))
      · split at hs
        · simp at hs
        · injection hs with hs; subst hs
          exact { names := hi.names, rows := hi.rows, bsl := fun _ => hi.bsl (Or.inl hph) }
    · -- between
      split at hs
      · injection hs with hs; subst hs; exact hi
      · exact clustalSeqLine_nd cfg hg _ st' l hs
          { names := hi.names, rows := hi.rows, bsl := hi.bsl } (fun h => absurd rfl h)

theorem blkResult_nd (cfg : Cfg) (st : BlkSt) (rf : Option Bytes) (hi : BlkNdInv cfg st) (ha : 1 ≤ st.alen) :
    CluNdGood cfg (blkResult cfg st rf) := by
  intro m hm
  unfold blkResult at hm
  split at hm
  · simp at hm
  · split at hm
    · simp at hm
    · rename_i rows hrows
      split at hm
      · simp at hm
      · injection hm with hm
        subst hm
        refine ⟨hi.names, rfl, rfl, ha, ?_⟩
        intro hd r hr
        simp only [hd, Bool.false_eq_true, if_false] at hr
        have := allSome_mem _ rows hrows r hr
        exact hi.rows hd r (List.mem_of_mem_take this)

theorem clustalFinish_nd (cfg : Cfg) (st : BlkSt) (hi : BlkNdInv cfg st) : CluNdGood cfg (clustalFinish cfg st) := by
  unfold clustalFinish
  split
  · intro m hm; simp at hm
  · intro m hm; simp at hm
  · intro m hm; simp at hm
  · rename_i hph
    have hb := hi.bsl (Or.inr hph)
    exact blkResult_nd cfg _ none { names := hi.names, rows := hi.rows, bsl := fun _ => hb } (by show 1 ≤ st.alen + st.bsl; omega)

theorem clustalRead_nd (like : Bool) (cfg : Cfg) (hg : cfg.digital = false → cfg.inmap.emits isGraph = true) (lines : List Bytes) :
    CluNdGood cfg (clustalRead like cfg lines).1 :=
  runLines_inv (clustalStep like cfg) (clustalFinish cfg) (BlkNdInv cfg) (CluNdGood cfg)
    (fun st l h => clustalStep_nd like cfg hg st l h) (fun st h => clustalFinish_nd cfg st h) lines {}
    { names := fun _ h => by simp at h, rows := fun _ r h => by simp at h,
      bsl := fun h => by rcases h with h | h <;> cases h }

/-- no stored name is empty -/
def cluNamesNeB (m : Msa) : Bool := m.names.all fun nm => !nm.isEmpty

/-- no row after the first looks like a consensus line (text mode): its name or every one of its residues is outside `" .:*"` -/
def cluNotConsTextB (m : Msa) : Bool :=
  (List.range m.nseq).all fun i =>
    i == 0 || (m.names.getD i []).any (fun c => !inDelim bConsensus c) || (m.aseq.getD i []).all (fun t => !inDelim bConsensus t)

/-- … digital mode: its name holds a character outside `" .:*"`, or no code of the row prints as `*` -/
def cluNotConsDigB (a : Abc) (m : Msa) : Bool :=
  (List.range m.nseq).all fun i =>
    i == 0 || (m.names.getD i []).any (fun c => !inDelim bConsensus c) ||
      (dsqCodes (some (m.ax.getD i []))).all (fun x => a.sym.getD x.toNat 0 != 42)

def cluTextGraphB : Bool := (clustalInmap none).emits isGraph

theorem cluTextGraphB_true : cluTextGraphB = true := by
  simp only [cluTextGraphB, InMap.emits, clustalInmap, InMap.get_textBase]
  decide +kernel

theorem cluName_ok (m : Msa) (hn : ∀ nm ∈ m.names, (nm ≠ [] ∧ ∀ x ∈ nm, isSpace x = false ∧ x ≠ 0)) :
    ∀ i, i < m.nseq → cluNameOk (m.names.getD i []) := by
  intro i hi
  exact hn _ (getD_mem_of_lt hi)

/-- **what the Clustal reader returns in text mode can be written and read back**, given that no row
    after the first looks like a consensus line -/
theorem clustalRead_domain_text (like : Bool) (lines : List Bytes) (m : Msa) (rest : List Bytes)
    (h : clustalRead like (clustalCfg none) lines = (.ok m, rest)) (hnc : cluNotConsTextB m = true) :
    ClustalTextWritable m := by
  have hg := clustalRead_good like (clustalCfg none) (clustalCfg_valid abcOk_none) lines
  have hn := clustalRead_nd like (clustalCfg none) (fun _ => cluTextGraphB_true) lines
  rw [h] at hg hn
  obtain ⟨hnm, hdig, _, halen, hgr⟩ := hn m rfl
  have hdig' : m.digital = false := hdig
  obtain ⟨h1, hrows⟩ := rd_wellFormed_rows m hg
  rw [hdig'] at hrows
  simp only [Bool.false_eq_true, if_false] at hrows
  exact
    { dig := hdig', n1 := h1, alen1 := halen
      name_ok := cluName_ok m hnm
      row_ok := fun i hi => by
        have hmem : m.aseq.getD i [] ∈ m.aseq := getD_mem_of_lt (by rw [hrows.1]; exact hi)
        exact ⟨(hrows.2 _ hmem).1, fun t ht => (List.all_eq_true.mp (hgr rfl _ hmem)) t ht⟩
      notcons := fun i hi h1i => by
        have := (List.all_eq_true.mp hnc) i (List.mem_range.mpr hi)
        have hi0 : (i == 0) = false := by simp; omega
        simp only [hi0, Bool.false_or, Bool.or_eq_true, List.any_eq_true, List.all_eq_true, Bool.not_eq_true'] at this
        rcases this with ⟨c, hc, hd⟩ | h2
        · exact Or.inl ⟨c, hc, hd⟩
        · exact Or.inr h2 }

theorem clustalRead_domain_digital (like : Bool) (a : Abc) (hv : (clustalCfg (some a)).valid) (lines : List Bytes) (m : Msa)
    (rest : List Bytes) (h : clustalRead like (clustalCfg (some a)) lines = (.ok m, rest))
    (hnc : cluNotConsDigB a m = true) : ClustalDigitalWritable a m := by
  have hg := clustalRead_good like (clustalCfg (some a)) hv lines
  have hn := clustalRead_nd like (clustalCfg (some a)) (fun hd => by simp [clustalCfg, Cfg.digital] at hd) lines
  rw [h] at hg hn
  obtain ⟨hnm, hdig, hkp, halen, _⟩ := hn m rfl
  have hdig' : m.digital = true := hdig
  have hkp' : m.kp = a.kp := hkp
  obtain ⟨h1, hrows⟩ := rd_wellFormed_rows m hg
  rw [hdig'] at hrows
  simp only [if_true] at hrows
  exact
    { dig := hdig', n1 := h1, alen1 := halen
      name_ok := cluName_ok m hnm
      row_ok := fun i hi => by
        rw [← hkp']
        exact hrows.2 _ (getD_mem_of_lt (l := m.ax) (d := []) (by rw [hrows.1]; exact hi))
      notcons := fun i hi h1i => by
        have := (List.all_eq_true.mp hnc) i (List.mem_range.mpr hi)
        have hi0 : (i == 0) = false := by simp; omega
        simp only [hi0, Bool.false_or, Bool.or_eq_true, List.any_eq_true, List.all_eq_true, Bool.not_eq_true', bne_iff_ne,
          ne_eq] at this
        rcases this with ⟨c, hc, hd⟩ | h2
        · exact Or.inl ⟨c, hc, hd⟩
        · exact Or.inr h2 }

end EaselModel.Msafile
