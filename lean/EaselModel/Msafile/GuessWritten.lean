import EaselModel.Msafile.Guess
import EaselModel.Msafile.Write
import EaselModel.Msafile.WriteLemmas
import EaselModel.Msafile.RoundTrip
/-! # Autodetection of library-written output (C03)

`esl_msafile_GuessFileFormat` (model: `guessFormat`) applied to what the writers produce.  Stockholm/Pfam, Clustal,
Clustal-like, aligned FASTA and A2M are decided by the first line alone (A2M is told from AFA only by the file-name
suffix).  Core Lean only. -/
namespace EaselModel.Msafile

theorem splitLines_first (l rest : Bytes) (h : lineOk l) : splitLines (l ++ 10 :: rest) = l :: splitLines rest := by
  unfold splitLines
  rw [splitLinesT_line l rest [] h.1]
  simp [lineOfAcc_noCR l h.2]

/-- `guessFormat` when the input starts with a non-blank line: only the first line and the suffix are looked at unless
    the first line looks like a PHYLIP header or like nothing known -/
theorem guessFormat_cons (fname : Option Bytes) (l : Bytes) (ls : List Bytes) (hb : isBlankLine l = false) :
    guessFormat fname (l :: ls) =
      (match fmtByFirstLine l with
       | .stockholm => if fmtBySuffix fname == some .pfam then .ok (.pfam, 0) else .ok (.stockholm, 0)
       | .clustal => .ok (.clustal, 0)
       | .clustallike => .ok (.clustallike, 0)
       | .afa => if fmtBySuffix fname == some .a2m then .ok (.a2m, 0) else .ok (.afa, 0)
       | .phylip =>
         if fmtBySuffix fname == some .phylip then .ok (.phylip, 0)
         else if fmtBySuffix fname == some .phylips then .ok (.phylips, 0)
         else phyCheckFileFormat (l :: ls)
       | .unknown =>
         if fmtBySuffix fname == some .selex then .ok (.selex, 0)
         else if checkSelex (l :: ls) then (if fmtBySuffix fname == some .psiblast then .ok (.psiblast, 0) else .ok (.selex, 0))
         else .fail) := by
  unfold guessFormat
  simp only [List.dropWhile_cons, hb, Bool.false_eq_true, if_false]
  cases fmtByFirstLine l <;> rfl

theorem fmtBySuffix_none : fmtBySuffix none = none := rfl

def bStoMagic : Bytes := str "# STOCKHOLM 1.0"

theorem stoMagic_facts : lineOk bStoMagic ∧ isBlankLine bStoMagic = false ∧ fmtByFirstLine bStoMagic = .stockholm := by
  refine ⟨⟨?_, ?_⟩, ?_, ?_⟩ <;> decide +kernel

theorem clustalHeader_facts (like : Bool) :
    lineOk (clustalHeader like easelVersion) ∧ isBlankLine (clustalHeader like easelVersion) = false ∧
    fmtByFirstLine (clustalHeader like easelVersion) = (if like then .clustallike else .clustal) := by
  refine ⟨clustalHeader_noLF like, ?_⟩
  cases like <;> exact ⟨by decide +kernel, by decide +kernel⟩

theorem gtLine_facts (rest : Bytes) : isBlankLine (62 :: rest) = false ∧ fmtByFirstLine (62 :: rest) = .afa := by
  constructor
  · simp [isBlankLine, inDelim, blankTab]
  · unfold fmtByFirstLine
    have h1 : memstrpfx (62 :: rest) bStockholmHdr = false := by
      simp [memstrpfx, bStockholmHdr, List.isPrefixOf]
    have h2 : memstrpfx (62 :: rest) bGt = true := by
      simp [memstrpfx, bGt, List.isPrefixOf]
    simp [h1, h2]

/-- what the autodetector answers for Stockholm/Pfam output, whatever the alignment and the file name: Pfam when the
    suffix says `.pfam`, else Stockholm (the two are read by the same reader) -/
theorem guess_stockholmWrite (fname : Option Bytes) (pfam : Bool) (abc : Option Abc) (m : Msa) :
    guessFormat fname (splitLines (stockholmWrite pfam abc m))
      = if fmtBySuffix fname == some .pfam then .ok (.pfam, 0) else .ok (.stockholm, 0) := by
  obtain ⟨rest, hr⟩ := stockholmWrite_magic pfam abc m
  rw [hr]
  show guessFormat fname (splitLines (bStoMagic ++ 10 :: rest)) = _
  rw [splitLines_first _ _ stoMagic_facts.1, guessFormat_cons _ _ _ stoMagic_facts.2.1, stoMagic_facts.2.2]

theorem guess_clustalWrite (fname : Option Bytes) (like : Bool) (abc : Option Abc) (m : Msa) :
    guessFormat fname (splitLines (clustalWrite like abc m)) = .ok (if like then .clustallike else .clustal, 0) := by
  obtain ⟨rest, hr⟩ := clustalWrite_header like abc m
  rw [hr, splitLines_first _ _ (clustalHeader_facts like).1, guessFormat_cons _ _ _ (clustalHeader_facts like).2.1,
    (clustalHeader_facts like).2.2]
  cases like <;> rfl

theorem flatMap_range_first {α : Type} (f : Nat → List α) (n : Nat) (h : 1 ≤ n) : ∃ rest, (List.range n).flatMap f = f 0 ++ rest := by
  obtain ⟨k, rfl⟩ : ∃ k, n = k + 1 := ⟨n - 1, by omega⟩
  exact ⟨_, by rw [List.range_succ_eq_map, List.flatMap_cons]⟩

theorem afaWrite_first (abc : Option Abc) (m : Msa) (h1 : 1 ≤ m.nseq) :
    ∃ rest, afaWrite abc m = afaHeader m 0 ++ 10 :: rest := by
  obtain ⟨r, e⟩ := flatMap_range_first (afaRecLines abc m) m.nseq h1
  simp only [afaWrite, afaWriteLines, e, afaRecLines, List.flatMap_append, List.flatMap_cons, List.cons_append, List.append_assoc]
  exact ⟨_, rfl⟩

theorem a2mWrite_first (abc : Option Abc) (m : Msa) (h1 : 1 ≤ m.nseq) :
    ∃ rest, a2mWrite abc m = a2mHeader m 0 ++ 10 :: rest := by
  obtain ⟨r, e⟩ := flatMap_range_first (a2mRecLines abc m) m.nseq h1
  simp only [a2mWrite, a2mLines, e, a2mRecLines, List.cons_append, joinLF_cons]
  exact ⟨_, rfl⟩

/-- output that starts with a `>` line is taken for aligned FASTA, and for A2M when the file name says so -/
theorem guess_gtLine (fname : Option Bytes) (r rest : Bytes) (hl : lineOk (62 :: r)) :
    guessFormat fname (splitLines ((62 :: r) ++ 10 :: rest))
      = if fmtBySuffix fname == some .a2m then .ok (.a2m, 0) else .ok (.afa, 0) := by
  rw [splitLines_first _ _ hl, guessFormat_cons _ _ _ (gtLine_facts _).1, (gtLine_facts _).2]

theorem guess_afaWrite (fname : Option Bytes) (abc : Option Abc) (m : Msa) (h1 : 1 ≤ m.nseq) (hl : lineOk (afaHeader m 0)) :
    guessFormat fname (splitLines (afaWrite abc m))
      = if fmtBySuffix fname == some .a2m then .ok (.a2m, 0) else .ok (.afa, 0) := by
  obtain ⟨rest, hr⟩ := afaWrite_first abc m h1
  rw [hr]
  exact guess_gtLine fname _ rest hl

theorem guess_a2mWrite (fname : Option Bytes) (abc : Option Abc) (m : Msa) (h1 : 1 ≤ m.nseq) (hl : lineOk (a2mHeader m 0)) :
    guessFormat fname (splitLines (a2mWrite abc m))
      = if fmtBySuffix fname == some .a2m then .ok (.a2m, 0) else .ok (.afa, 0) := by
  obtain ⟨rest, hr⟩ := a2mWrite_first abc m h1
  rw [hr]
  exact guess_gtLine fname _ rest hl

/-- file names with the suffixes the library's own documentation gives for Pfam and A2M files -/
theorem fmtBySuffix_pfam : fmtBySuffix (some (str "x.pfam")) = some .pfam := by decide +kernel
theorem fmtBySuffix_a2m : fmtBySuffix (some (str "x.a2m")) = some .a2m := by decide +kernel

end EaselModel.Msafile
