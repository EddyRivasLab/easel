import EaselModel.Msafile.AfaLemmas
import EaselModel.Msafile.A2mLemmas
import EaselModel.Msafile.ClustalLemmas
import EaselModel.Msafile.PsiblastLemmas
import EaselModel.Msafile.PhylipLemmas
import EaselModel.Msafile.SelexLemmas
import EaselModel.Msafile.StockholmLemmas
import EaselModel.Msafile.ConfigFacts
import EaselModel.Msafile.Guess
/-! What the open path hands to the readers is good for every one of them: the configuration `Opened.cfg` is valid and every
`Opened.read` has a documented outcome. The users outside the alignment readers (the sequence layer over alignment files) start here. -/
namespace EaselModel.Msafile

theorem stdAbc_ofType (abc : Option AbcType) : StdAbc (abc.map abcOfType) := by
  cases abc with
  | none => exact .inl rfl
  | some t => cases t <;> simp [StdAbc, abcOfType]

theorem cfgOf_valid (fmt : Fmt) (abc : Option AbcType) : (cfgOf fmt (abc.map abcOfType)).valid := by
  have h := (stdAbc_ofType abc).ok
  cases fmt with
  | stockholm | pfam => exact stockholmCfg_valid h
  | a2m => exact a2mCfg_valid h
  | psiblast => exact psiblastCfg_valid h
  | selex => exact selexCfg_valid h
  | afa => exact afaCfg_valid h
  | clustal | clustallike => exact clustalCfg_valid h
  | phylip | phylips => exact phylipCfg_valid h

theorem Opened.cfg_valid (o : Opened) : o.cfg.valid := cfgOf_valid o.fmt o.abc

theorem Opened.read_good (o : Opened) (lines : List Bytes) : Good (o.read lines).1 := by
  obtain ⟨fmt, abc, nw⟩ := o
  cases fmt
  · exact stockholmRead_good _ (cfgOf_valid .stockholm abc) (stockholmCfg_noIgnore (stdAbc_ofType abc).ok) lines
  · exact stockholmRead_good _ (cfgOf_valid .stockholm abc) (stockholmCfg_noIgnore (stdAbc_ofType abc).ok) lines
  · exact a2mRead_good _ (cfgOf_valid .a2m abc) (a2mCfg_a2mValid (stdAbc_ofType abc).ok) lines
  · exact psiblastRead_good _ (cfgOf_valid .psiblast abc) lines
  · exact selexRead_good _ (cfgOf_valid .selex abc) (selexCfg_ok (stdAbc_ofType abc).ok) lines
  · exact afaRead_good _ (cfgOf_valid .afa abc) lines
  · exact clustalRead_good false _ (cfgOf_valid .clustal abc) lines
  · exact clustalRead_good true _ (cfgOf_valid .clustal abc) lines
  · exact phylipReadW_good nw false _ (cfgOf_valid .phylip abc) lines
  · exact phylipReadW_good nw true _ (cfgOf_valid .phylip abc) lines

end EaselModel.Msafile
