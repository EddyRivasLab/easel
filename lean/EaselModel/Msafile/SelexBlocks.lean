import EaselModel.Msafile.SelexRoundTrip
/-! SELEX round trip (C03), annotation lines included: `#=CS`, `#=RF`, `#=MM` in front of the sequence lines of every block,
`#=SS` / `#=SA` after the sequence line they belong to, each independently present or absent.

Every line of a block is `tag field (w columns) + blank + chunk` (`sxLine`), `w = max 4 (longest name)`, so the tags
`#=XX` (4 characters) fit and every chunk starts at column `w + 1`.  The proof follows the line `Slot`s of a block
(`layout`): the state of the reader between two lines of `selex_append_block` is described by a function
`pf : Slot → Nat` giving the number of columns every row pointer holds. -/
namespace EaselModel.Msafile

def Slot.ty : Slot → LType
  | .sq _ => .sq | .rf => .rf | .mm => .mm | .cs => .cs | .ss _ => .ss | .sa _ => .sa

/-- the block record of a written line of type `ty`, after `selex_first_block` / `selex_other_block` -/
def gBLine (ty : LType) (w : Nat) (tag chunk : Bytes) : BLine := { ty := ty, line := sxLine w tag chunk, lpos := (w : Int) + 1 }

/-- … and after the first loop of `selex_append_block` -/
def gBLineF (ty : LType) (w L : Nat) (tag chunk : Bytes) : BLine :=
  { ty := ty, line := sxLine w tag chunk, lpos := (w : Int) + 1, rpos := (w : Int) + L }

theorem fixPos_gBLine (ty : LType) (w L : Nat) (tag chunk : Bytes) (hw : tag.length ≤ w) (hc : SxChunkOk L chunk) :
    fixPos (gBLine ty w tag chunk) = gBLineF ty w L tag chunk := by
  have hp := hc.pos
  unfold fixPos gBLine gBLineF
  simp only [rposScan_sxLine w L tag chunk hw hc]
  have h1 : ¬ ((w : Int) + L < (w : Int) + 1) := by omega
  simp only [h1, if_false]

/-- an annotation line: `memcpy` of the chunk behind the `alen` columns the row holds -/
theorem buildAnnRow_chunk (codes chunk : Bytes) (alen L : Nat) (hlen : alen ≤ codes.length) (hL : chunk.length = L)
    (hnz : ∀ t ∈ chunk, t ≠ 0) :
    buildAnnRow alen L 0 L chunk (sxRowAt false codes alen) = .inr (sxRow false (codes.take alen ++ chunk)) := by
  have hc0 : chunk.contains 0 = false := by
    rw [Bool.eq_false_iff]
    intro h
    exact hnz 0 (by simpa using h) rfl
  unfold buildAnnRow
  simp only [hc0, Bool.and_false, Bool.false_eq_true, if_false, textRow_fill codes chunk [] alen L hlen hL (by simp)]

/-- the storage mode of the row a slot points to -/
def slotDig (cfg : Cfg) : Slot → Bool
  | .sq _ => cfg.digital
  | _ => false

/-- one line of `selex_append_block`, for any line type: the row the slot points to grows by the chunk -/
theorem appendLine_any (cfg : Cfg) (e : UInt8 → UInt8) (w L : Nat) (s : Slot) (tag chunk codes : Bytes) (a seqi : Nat) (M : SxMsa)
    (hslot : slotOf s.ty seqi = some s) (hw : tag.length ≤ w) (hc : SxChunkOk L chunk) (hlen : a ≤ codes.length)
    (hget : M.get s = some (sxRowAt (slotDig cfg s) codes a))
    (hmap : s.ty = .sq → ∀ t ∈ chunk, mapByte cfg.inmap t = (.ok, some (e t)))
    (hid : s.ty ≠ .sq → e = id) :
    appendLine cfg a L ((w : Int) + 1) seqi M (gBLineF s.ty w L tag chunk)
      = .inr (M.set s (sxRow (slotDig cfg s) (codes.take a ++ chunk.map e))) := by
  have hp := hc.pos
  have hsrc : ((sxLine w tag chunk).drop (w + 1)).take L = chunk := by
    rw [sxLine_drop w tag chunk hw, ← hc.len, List.take_length]
  have hll := sxLine_length w L tag chunk hw hc
  have e1 : ((w : Int) + 1 != -1) = true := by simp; omega
  have e2 : (w : Int) + 1 - ((w : Int) + 1) = 0 := by omega
  have e3 : (w : Int) + L - ((w : Int) + 1) + 1 = (L : Int) := by omega
  have e4 : (decide ((0 : Int) < 0) || decide ((L : Int) < 0)) = false := by simp
  have e6 : ((w : Int) + 1).toNat = w + 1 := by omega
  have e7 : (L : Int).toNat = L := by omega
  have e8 : (0 : Int).toNat = 0 := rfl
  unfold appendLine
  simp only [gBLineF, e1, if_true, e2, e3, e4, Bool.false_eq_true, if_false, e6, e7, e8, hsrc, hslot, hget]
  by_cases hty : s.ty = .sq
  · have hne : (s.ty == LType.sq) = true := by simpa using hty
    have hd : slotDig cfg s = cfg.digital := by cases s <;> first | rfl | cases hty
    have hb := buildSeqRow_chunk cfg e codes chunk a L hlen hc.len (hmap hty)
    simp only [hd, hne, if_true] at hb ⊢
    rw [hb]
    split
    · next h => exfalso; rw [hll] at h; simp at h; have h2 := of_decide_eq_true h.2; omega
    · rfl
  · -- an annotation line: stored as text, unmapped
    have he := hid hty; subst he
    have hne : (s.ty == LType.sq) = false := by simpa using hty
    have hd : slotDig cfg s = false := by cases s <;> first | rfl | exact absurd rfl hty
    have hb := buildAnnRow_chunk codes chunk a L hlen hc.len (fun t ht => (hc.ns t ht).2)
    simp only [hd, hne, Bool.false_eq_true, if_false, List.map_id] at hb ⊢
    rw [hb]
    split
    · next h => exfalso; rw [hll] at h; simp at h; have h2 := of_decide_eq_true h.2; omega
    · rfl

/-! ## the alignment under construction, slot by slot -/

def slotTag (m : Msa) : Slot → Bytes
  | .sq i => m.names.getD i [] | .rf => pfxRF | .mm => pfxMM | .cs => pfxCS | .ss _ => pfxSS | .sa _ => pfxSA

/-- the text written for the row a slot points to, all columns -/
def slotText (txt : Nat → Bytes) (m : Msa) : Slot → Bytes
  | .sq i => txt i | .rf => m.rf.getD [] | .mm => m.mm.getD [] | .cs => m.ssCons.getD []
  | .ss i => (optRow m.ss i).getD [] | .sa i => (optRow m.sa i).getD []

/-- written symbol to stored symbol: the input map for sequence lines, nothing for annotation lines (`memcpy`) -/
def slotEnc (enc : UInt8 → UInt8) : Slot → UInt8 → UInt8
  | .sq _ => enc | _ => id

def slotCodes (enc : UInt8 → UInt8) (txt : Nat → Bytes) (m : Msa) (s : Slot) : Bytes := (slotText txt m s).map (slotEnc enc s)

def slotChunk (txt : Nat → Bytes) (m : Msa) (pos : Nat) (s : Slot) : Bytes := ((slotText txt m s).drop pos).take 60

/-- the slots the writer prints a line for -/
def slotValid (m : Msa) : Slot → Prop
  | .sq i => i < m.nseq | .rf => m.rf.isSome = true | .mm => m.mm.isSome = true | .cs => m.ssCons.isSome = true
  | .ss i => i < m.nseq ∧ (optRow m.ss i).isSome = true | .sa i => i < m.nseq ∧ (optRow m.sa i).isSome = true

def annAt (o : Option Bytes) (p : Nat) : Option Bytes := o.bind fun x => sxRowAt false x p

def hasAnn (n : Nat) (o : OptRows) : Bool := (List.range n).any fun i => (optRow o i).isSome

/-- the alignment under construction when the row of slot `s` holds `pf s` columns -/
def gAt (cfg : Cfg) (enc : UInt8 → UInt8) (txt : Nat → Bytes) (m : Msa) (pf : Slot → Nat) (a : Nat) : SxMsa :=
  { nseq := m.nseq, names := m.names,
    rows := (List.range m.nseq).map fun i => sxRowAt cfg.digital ((txt i).map enc) (pf (.sq i)),
    alen := a,
    rf := annAt m.rf (pf .rf), mm := annAt m.mm (pf .mm), cs := annAt m.ssCons (pf .cs),
    ss := if hasAnn m.nseq m.ss then some ((List.range m.nseq).map fun i => annAt (optRow m.ss i) (pf (.ss i))) else none,
    sa := if hasAnn m.nseq m.sa then some ((List.range m.nseq).map fun i => annAt (optRow m.sa i) (pf (.sa i))) else none }

theorem hasAnn_of (n : Nat) (o : OptRows) (i : Nat) (hi : i < n) (h : (optRow o i).isSome = true) : hasAnn n o = true := by
  unfold hasAnn
  rw [List.any_eq_true]
  exact ⟨i, List.mem_range.mpr hi, h⟩

theorem annAt_some (o : Option Bytes) (p : Nat) (h : o.isSome = true) : annAt o p = sxRowAt false ((o.getD []).map id) p := by
  cases o with
  | none => simp at h
  | some x => simp [annAt]

theorem gAt_get (cfg : Cfg) (enc : UInt8 → UInt8) (txt : Nat → Bytes) (m : Msa) (pf : Slot → Nat) (a : Nat) (s : Slot)
    (hv : slotValid m s) :
    (gAt cfg enc txt m pf a).get s = some (sxRowAt (slotDig cfg s) (slotCodes enc txt m s) (pf s)) := by
  cases s with
  | sq i =>
    have hv' : i < m.nseq := hv
    simp [gAt, SxMsa.get, hv', slotDig, slotCodes, slotText, slotEnc]
  | rf => simp only [gAt, SxMsa.get, slotDig, slotCodes, slotText, slotEnc]; rw [annAt_some _ _ hv]
  | mm => simp only [gAt, SxMsa.get, slotDig, slotCodes, slotText, slotEnc]; rw [annAt_some _ _ hv]
  | cs => simp only [gAt, SxMsa.get, slotDig, slotCodes, slotText, slotEnc]; rw [annAt_some _ _ hv]
  | ss i =>
    obtain ⟨hi, hs⟩ := hv
    simp only [gAt, SxMsa.get, slotDig, slotCodes, slotText, slotEnc, hasAnn_of _ _ i hi hs, if_true]
    rw [← annAt_some _ _ hs]
    simp [hi]
  | sa i =>
    obtain ⟨hi, hs⟩ := hv
    simp only [gAt, SxMsa.get, slotDig, slotCodes, slotText, slotEnc, hasAnn_of _ _ i hi hs, if_true]
    rw [← annAt_some _ _ hs]
    simp [hi]

theorem rangeMap_set' {α : Type} (n i : Nat) (f g : Nat → α) (v : α) (hi : g i = v) (hne : ∀ j, j ≠ i → g j = f j) :
    ((List.range n).map f).set i v = (List.range n).map g := by
  apply List.ext_getElem?
  intro j
  rw [List.getElem?_set]
  by_cases hj : j < n
  · by_cases hij : i = j
    · subst hij; simp [hj, hi]
    · have := hne j (fun h => hij h.symm)
      simp [hij, hj, this]
  · by_cases hij : i = j
    · subst hij; simp [hj]
    · simp [hij, hj]

def pfSet (pf : Slot → Nat) (s : Slot) (q : Nat) : Slot → Nat := fun s' => if s' = s then q else pf s'

theorem gAt_set (cfg : Cfg) (enc : UInt8 → UInt8) (txt : Nat → Bytes) (m : Msa) (pf : Slot → Nat) (a : Nat) (s : Slot)
    (hv : slotValid m s) (q : Nat) (row : Bytes) (hrow : some row = sxRowAt (slotDig cfg s) (slotCodes enc txt m s) q) :
    (gAt cfg enc txt m pf a).set s row = gAt cfg enc txt m (pfSet pf s q) a := by
  cases s with
  | sq i =>
    simp only [slotDig, slotCodes, slotText, slotEnc] at hrow
    simp only [gAt, SxMsa.set, pfSet, reduceCtorEq, if_false]
    congr 1
    apply rangeMap_set'
    · simp [hrow]
    · intro j hj; simp [hj]
  | rf =>
    have hrow' : some row = annAt m.rf q := by rw [annAt_some _ _ hv]; exact hrow
    simp only [gAt, SxMsa.set, pfSet, reduceCtorEq, if_false, if_true, hrow']
  | mm =>
    have hrow' : some row = annAt m.mm q := by rw [annAt_some _ _ hv]; exact hrow
    simp only [gAt, SxMsa.set, pfSet, reduceCtorEq, if_false, if_true, hrow']
  | cs =>
    have hrow' : some row = annAt m.ssCons q := by rw [annAt_some _ _ hv]; exact hrow
    simp only [gAt, SxMsa.set, pfSet, reduceCtorEq, if_false, if_true, hrow']
  | ss i =>
    obtain ⟨hi, hs⟩ := hv
    have hrow' : some row = annAt (optRow m.ss i) q := by rw [annAt_some _ _ hs]; exact hrow
    simp only [gAt, SxMsa.set, pfSet, reduceCtorEq, if_false, hasAnn_of _ _ i hi hs, if_true, Option.map_some]
    congr 2
    apply rangeMap_set'
    · simp [hrow']
    · intro j hj; simp [hj]
  | sa i =>
    obtain ⟨hi, hs⟩ := hv
    have hrow' : some row = annAt (optRow m.sa i) q := by rw [annAt_some _ _ hs]; exact hrow
    simp only [gAt, SxMsa.set, pfSet, reduceCtorEq, if_false, hasAnn_of _ _ i hi hs, if_true, Option.map_some]
    congr 2
    apply rangeMap_set'
    · simp [hrow']
    · intro j hj; simp [hj]

/-! ## `selex_append_block` over the lines of a written block -/

/-- `seqi` (the number of sequence lines seen) selects every slot of the list in turn -/
def seqiOk : List Slot → Nat → Prop
  | [], _ => True
  | s :: r, k => slotOf s.ty k = some s ∧ seqiOk r (if s.ty == .sq then k + 1 else k)

/-- what the line written for slot `s` in the block at column `pos` (of `L` columns) satisfies -/
structure ItemG (cfg : Cfg) (enc : UInt8 → UInt8) (txt : Nat → Bytes) (m : Msa) (L pos : Nat) (s : Slot) : Prop where
  valid : slotValid m s
  tag : nameOk (slotTag m s)
  wlen : (slotTag m s).length ≤ selexNameLen m
  chunk : SxChunkOk L (slotChunk txt m pos s)
  clen : pos ≤ (slotCodes enc txt m s).length
  map : s.ty = .sq → ∀ t ∈ slotChunk txt m pos s, mapByte cfg.inmap t = (.ok, some (enc t))
  lty : ltypeOf (sxLine (selexNameLen m) (slotTag m s) (slotChunk txt m pos s)) = s.ty
  notc : isComment (sxLine (selexNameLen m) (slotTag m s) (slotChunk txt m pos s)) = false

def gBL (txt : Nat → Bytes) (m : Msa) (pos : Nat) (s : Slot) : BLine :=
  gBLine s.ty (selexNameLen m) (slotTag m s) (slotChunk txt m pos s)

def gBLF (txt : Nat → Bytes) (m : Msa) (L pos : Nat) (s : Slot) : BLine :=
  gBLineF s.ty (selexNameLen m) L (slotTag m s) (slotChunk txt m pos s)

theorem slotEnc_id (enc : UInt8 → UInt8) (s : Slot) (h : s.ty ≠ .sq) : slotEnc enc s = id := by
  cases s <;> first | rfl | exact absurd rfl h

theorem slotEnc_sq (enc : UInt8 → UInt8) (s : Slot) (h : s.ty = .sq) : slotEnc enc s = enc := by
  cases s <;> first | rfl | (simp [Slot.ty] at h)

theorem appendLines_g (cfg : Cfg) (enc : UInt8 → UInt8) (txt : Nat → Bytes) (m : Msa) (L pos : Nat) :
    ∀ (slots : List Slot) (seqi : Nat) (pf : Slot → Nat), seqiOk slots seqi → slots.Nodup →
      (∀ s ∈ slots, ItemG cfg enc txt m L pos s ∧ pf s = pos) →
      ∃ pf', appendLines cfg pos L ((selexNameLen m : Int) + 1) (slots.map (gBLF txt m L pos)) seqi (gAt cfg enc txt m pf pos)
          = .inr (gAt cfg enc txt m pf' pos) ∧ ∀ s, pf' s = if s ∈ slots then pos + 60 else pf s := by
  intro slots
  induction slots with
  | nil => intro seqi pf _ _ _; exact ⟨pf, rfl, fun s => by simp⟩
  | cons s0 rest ih =>
    intro seqi pf hsq hnd hit
    obtain ⟨hs0, hsr⟩ := hsq
    obtain ⟨hnot, hndr⟩ := List.nodup_cons.mp hnd
    obtain ⟨hI, hpf⟩ := hit s0 (by simp)
    have hstep : appendLine cfg pos L ((selexNameLen m : Int) + 1) seqi (gAt cfg enc txt m pf pos) (gBLF txt m L pos s0)
        = Sum.inr ((gAt cfg enc txt m pf pos).set s0 (sxRow (slotDig cfg s0)
            ((slotCodes enc txt m s0).take pos ++ (slotChunk txt m pos s0).map (slotEnc enc s0)))) :=
      appendLine_any cfg (slotEnc enc s0) (selexNameLen m) L s0 (slotTag m s0) (slotChunk txt m pos s0)
        (slotCodes enc txt m s0) pos seqi (gAt cfg enc txt m pf pos) hs0 hI.wlen hI.chunk hI.clen
        (by rw [gAt_get cfg enc txt m pf pos s0 hI.valid, hpf])
        (fun hty t ht => by rw [slotEnc_sq enc s0 hty]; exact hI.map hty t ht)
        (slotEnc_id enc s0)
    have hrow : some (sxRow (slotDig cfg s0) ((slotCodes enc txt m s0).take pos ++ (slotChunk txt m pos s0).map (slotEnc enc s0)))
        = sxRowAt (slotDig cfg s0) (slotCodes enc txt m s0) (pos + 60) :=
      sxRow_step (slotDig cfg s0) (slotEnc enc s0) (slotText txt m s0) pos
    rw [gAt_set cfg enc txt m pf pos s0 hI.valid (pos + 60) _ hrow] at hstep
    obtain ⟨pf', happ, hpf'⟩ := ih (if s0.ty == .sq then seqi + 1 else seqi) (pfSet pf s0 (pos + 60)) hsr hndr
      (fun s hs => ⟨(hit s (by simp [hs])).1, by
        have hne : s ≠ s0 := fun h => hnot (h ▸ hs)
        simp only [pfSet, hne, if_false]
        exact (hit s (by simp [hs])).2⟩)
    refine ⟨pf', ?_, ?_⟩
    · simp only [List.map_cons, appendLines, hstep]
      exact happ
    · intro s
      rw [hpf' s]
      by_cases hs : s ∈ rest
      · simp [hs]
      · by_cases hs0' : s = s0
        · subst hs0'; simp [hs, pfSet]
        · simp [hs, hs0', pfSet]

theorem gAt_congr (cfg : Cfg) (enc : UInt8 → UInt8) (txt : Nat → Bytes) (m : Msa) (pf pf' : Slot → Nat) (a : Nat)
    (h : ∀ s, slotValid m s → pf s = pf' s) : gAt cfg enc txt m pf a = gAt cfg enc txt m pf' a := by
  have hann : ∀ (o : Option Bytes) (p p' : Nat), (o.isSome = true → p = p') → annAt o p = annAt o p' := by
    intro o p p' hp
    cases o with
    | none => rfl
    | some x => rw [hp rfl]
  unfold gAt
  congr 1
  · apply List.map_congr_left
    intro i hi
    rw [h (.sq i) (List.mem_range.mp hi)]
  · exact hann _ _ _ (fun hs => h .rf hs)
  · exact hann _ _ _ (fun hs => h .mm hs)
  · exact hann _ _ _ (fun hs => h .cs hs)
  · congr 2
    apply List.map_congr_left
    intro i hi
    exact hann _ _ _ (fun hs => h (.ss i) ⟨List.mem_range.mp hi, hs⟩)
  · congr 2
    apply List.map_congr_left
    intro i hi
    exact hann _ _ _ (fun hs => h (.sa i) ⟨List.mem_range.mp hi, hs⟩)

/-- the state between two blocks, `p` columns read -/
def gAtP (cfg : Cfg) (enc : UInt8 → UInt8) (txt : Nat → Bytes) (m : Msa) (p : Nat) : SxMsa :=
  gAt cfg enc txt m (fun _ => p) (min p m.alen)

/-- `selex_append_block` on one written block: every row grows by its chunk, nothing is padded -/
theorem appendBlock_g (cfg : Cfg) (enc : UInt8 → UInt8) (txt : Nat → Bytes) (m : Msa) (pos : Nat) (hp : pos < m.alen)
    (slots : List Slot) (hne : slots ≠ []) (hsq : seqiOk slots 0) (hnd : slots.Nodup)
    (hit : ∀ s ∈ slots, ItemG cfg enc txt m (min 60 (m.alen - pos)) pos s) (hall : ∀ s, slotValid m s → s ∈ slots) :
    appendBlock cfg (gAtP cfg enc txt m pos) (slots.map (gBL txt m pos)) = .inr (gAtP cfg enc txt m (pos + 60)) := by
  have hL : 1 ≤ min 60 (m.alen - pos) := by omega
  have hfix : (slots.map (gBL txt m pos)).map fixPos = slots.map (gBLF txt m (min 60 (m.alen - pos)) pos) := by
    rw [List.map_map]
    apply List.map_congr_left
    intro s hs
    exact fixPos_gBLine s.ty _ _ _ _ (hit s hs).wlen (hit s hs).chunk
  have hmin : min pos m.alen = pos := by omega
  obtain ⟨pf', happ, hpf'⟩ := appendLines_g cfg enc txt m (min 60 (m.alen - pos)) pos slots 0 (fun _ => pos) hsq hnd
    (fun s hs => ⟨hit s hs, rfl⟩)
  cases slots with
  | nil => exact absurd rfl hne
  | cons s0 rest =>
    have hlm : leftmostOf (gBLF txt m (min 60 (m.alen - pos)) pos s0) (rest.map (gBLF txt m (min 60 (m.alen - pos)) pos))
        = (selexNameLen m : Int) + 1 :=
      leftmost_const _ _ _ rfl (fun b hb => by
        obtain ⟨s, _, rfl⟩ := List.mem_map.mp hb; rfl)
    have hrm : rightmostOf (gBLF txt m (min 60 (m.alen - pos)) pos s0) (rest.map (gBLF txt m (min 60 (m.alen - pos)) pos))
        = (selexNameLen m : Int) + (min 60 (m.alen - pos) : Nat) :=
      rightmost_const _ _ _ rfl (fun b hb => by
        obtain ⟨s, _, rfl⟩ := List.mem_map.mp hb; rfl)
    unfold appendBlock
    rw [hfix]
    simp only [List.map_cons, hlm, hrm]
    have e1 : ((selexNameLen m : Int) + (min 60 (m.alen - pos) : Nat) == -1) = false := by simp; omega
    have e2 : (selexNameLen m : Int) + (min 60 (m.alen - pos) : Nat) - ((selexNameLen m : Int) + 1) + 1 = ((min 60 (m.alen - pos) : Nat) : Int) := by omega
    have e3 : ¬ (((min 60 (m.alen - pos) : Nat) : Int) < 0) := by omega
    have e4 : (((min 60 (m.alen - pos) : Nat) : Int)).toNat = min 60 (m.alen - pos) := by omega
    simp only [e1, Bool.false_eq_true, if_false, e2, e3, e4]
    have hal : (gAtP cfg enc txt m pos).alen = pos := hmin
    have hst : gAtP cfg enc txt m pos = gAt cfg enc txt m (fun _ => pos) pos := by unfold gAtP; rw [hmin]
    simp only [List.map_cons] at happ
    rw [hal, hst, happ]
    simp only
    have hfin : gAt cfg enc txt m pf' pos = gAt cfg enc txt m (fun _ => pos + 60) pos :=
      gAt_congr cfg enc txt m pf' _ pos (fun s hv => by rw [hpf' s]; simp [hall s hv])
    rw [hfin]
    unfold gAtP gAt
    have : min (pos + 60) m.alen = pos + min 60 (m.alen - pos) := by omega
    simp only [this]

/-! ## `selex_first_block` / `selex_other_block` over the lines of a written block -/

def gLine (txt : Nat → Bytes) (m : Msa) (pos : Nat) (s : Slot) : Bytes :=
  sxLine (selexNameLen m) (slotTag m s) (slotChunk txt m pos s)

/-- the names `selex_first_block` stores: the tags of the sequence lines -/
def sqNames (m : Msa) (slots : List Slot) : List Bytes :=
  slots.flatMap fun s => match s with | .sq i => [m.names.getD i []] | _ => []

theorem slot_sq_of_ty (s : Slot) (h : s.ty = .sq) : ∃ i, s = .sq i := by
  cases s <;> first | exact ⟨_, rfl⟩ | (simp [Slot.ty] at h)

theorem sqNames_cons_ne (m : Msa) (s : Slot) (r : List Slot) (h : s.ty ≠ .sq) : sqNames m (s :: r) = sqNames m r := by
  cases s <;> first | rfl | exact absurd rfl h

theorem firstNames_g (cfg : Cfg) (enc : UInt8 → UInt8) (txt : Nat → Bytes) (m : Msa) (L pos n : Nat) :
    ∀ (slots : List Slot) (seqi : Nat), seqiOk slots seqi → (∀ s ∈ slots, ItemG cfg enc txt m L pos s) →
      (∀ i, Slot.sq i ∈ slots → i < n) →
      firstNames n ((slots.map Slot.ty).zip (slots.map (gLine txt m pos))) seqi
        = .inr (sqNames m slots, slots.map (gBL txt m pos)) := by
  intro slots
  induction slots with
  | nil => intro seqi _ _ _; rfl
  | cons s0 rest ih =>
    intro seqi hsq hit hn
    obtain ⟨hs0, hsr⟩ := hsq
    have hI := hit s0 (by simp)
    have hmt := memtok_sxLine (selexNameLen m) L (slotTag m s0) (slotChunk txt m pos s0) hI.tag hI.chunk
    have hlp := lposOf_sxLine (selexNameLen m) L (slotTag m s0) (slotChunk txt m pos s0) hI.wlen hI.chunk
    simp only [List.map_cons, List.zip_cons_cons]
    unfold firstNames
    by_cases hty : s0.ty = .sq
    · obtain ⟨i, rfl⟩ := slot_sq_of_ty s0 hty
      have hi : i = seqi := by
        simp only [Slot.ty, slotOf, Option.some.injEq, Slot.sq.injEq] at hs0; exact hs0.symm
      subst hi
      have hlt : ¬ (i ≥ n) := by have := hn i (by simp); omega
      have hih := ih (i + 1) (by simpa [Slot.ty] using hsr) (fun s hs => hit s (by simp [hs])) (fun j hj => hn j (by simp [hj]))
      simp only [gLine, hmt, Slot.ty, beq_self_eq_true, if_true, hlt, if_false, hih, hlp]
      have hcs : cstr (m.names.getD i []) = m.names.getD i [] := cstr_id _ (nameOk_nonul _ hI.tag)
      simp only [sqNames, List.flatMap_cons, slotTag, hcs]
      rfl
    · have hne : (s0.ty == LType.sq) = false := by simpa using hty
      have hih := ih seqi (by simpa [hne] using hsr) (fun s hs => hit s (by simp [hs])) (fun j hj => hn j (by simp [hj]))
      simp only [gLine, hmt, hne, Bool.false_eq_true, if_false, hih, hlp, sqNames_cons_ne m s0 rest hty]
      rfl

theorem otherTypes_g : ∀ (ls : List Bytes) (pre : List LType), otherTypes (pre ++ ls.map ltypeOf) ls pre.length = none := by
  intro ls
  induction ls with
  | nil => intro pre; rfl
  | cons l ls ih =>
    intro pre
    have hg : (pre ++ (l :: ls).map ltypeOf)[pre.length]? = some (ltypeOf l) := by simp
    unfold otherTypes
    simp only [hg, bne_self_eq_false, Bool.false_eq_true, if_false]
    have := ih (pre ++ [ltypeOf l])
    simpa using this

theorem otherNames_g (cfg : Cfg) (enc : UInt8 → UInt8) (txt : Nat → Bytes) (m : Msa) (L pos : Nat) :
    ∀ (slots : List Slot) (pre : List Slot) (seqi : Nat), seqiOk slots seqi → (∀ s ∈ slots, ItemG cfg enc txt m L pos s) →
      otherNames m.names ((pre ++ slots).map Slot.ty) (slots.map (gLine txt m pos)) pre.length seqi
        = .inr (slots.map (gBL txt m pos)) := by
  intro slots
  induction slots with
  | nil => intro pre seqi _ _; rfl
  | cons s0 rest ih =>
    intro pre seqi hsq hit
    obtain ⟨hs0, hsr⟩ := hsq
    have hI := hit s0 (by simp)
    have hmt := memtok_sxLine (selexNameLen m) L (slotTag m s0) (slotChunk txt m pos s0) hI.tag hI.chunk
    have hlp := lposOf_sxLine (selexNameLen m) L (slotTag m s0) (slotChunk txt m pos s0) hI.wlen hI.chunk
    have hg : ((pre ++ s0 :: rest).map Slot.ty)[pre.length]? = some s0.ty := by simp
    have hpre : (pre ++ s0 :: rest) = (pre ++ [s0]) ++ rest := by simp
    have hih := fun k hk => ih (pre ++ [s0]) k hk (fun s hs => hit s (by simp [hs]))
    simp only [List.length_append, List.length_singleton, ← hpre] at hih
    simp only [List.map_cons]
    unfold otherNames
    by_cases hty : s0.ty = .sq
    · obtain ⟨i, rfl⟩ := slot_sq_of_ty s0 hty
      have hi : i = seqi := by
        simp only [Slot.ty, slotOf, Option.some.injEq, Slot.sq.injEq] at hs0; exact hs0.symm
      subst hi
      have hv : i < m.names.length := hI.valid
      have hnm : m.names[i]? = some (slotTag m (.sq i)) := by
        simp [slotTag, List.getD_eq_getElem?_getD, List.getElem?_eq_getElem hv]
      have := hih (i + 1) (by simpa [Slot.ty] using hsr)
      simp only [gLine, hmt, hg, Slot.ty, beq_self_eq_true, if_true, hnm, memstrcmp, Bool.not_true, Bool.false_eq_true, if_false,
        this, hlp]
      rfl
    · have hne : (s0.ty == LType.sq) = false := by simpa using hty
      have := hih seqi (by simpa [hne] using hsr)
      simp only [gLine, hmt, hg, hne, Bool.false_eq_true, if_false, this, hlp]
      rfl

theorem gLine_types (cfg : Cfg) (enc : UInt8 → UInt8) (txt : Nat → Bytes) (m : Msa) (L pos : Nat) (slots : List Slot)
    (hit : ∀ s ∈ slots, ItemG cfg enc txt m L pos s) : (slots.map (gLine txt m pos)).map ltypeOf = slots.map Slot.ty := by
  rw [List.map_map]
  apply List.map_congr_left
  intro s hs
  exact (hit s hs).lty

theorem otherBlock_g (cfg : Cfg) (enc : UInt8 → UInt8) (txt : Nat → Bytes) (m : Msa) (L pos : Nat) (slots : List Slot) (M : SxMsa)
    (hsq : seqiOk slots 0) (hit : ∀ s ∈ slots, ItemG cfg enc txt m L pos s) (hnm : M.names = m.names) :
    otherBlock M (slots.map Slot.ty) (slots.map (gLine txt m pos)) = .inr (slots.map (gBL txt m pos)) := by
  have ht := otherTypes_g (slots.map (gLine txt m pos)) []
  rw [gLine_types cfg enc txt m L pos slots hit] at ht
  unfold otherBlock
  simp only [List.nil_append, List.length_nil] at ht
  rw [ht, hnm]
  exact otherNames_g cfg enc txt m L pos slots [] 0 hsq hit

theorem annAt_zero (o : Option Bytes) : annAt o 0 = none := by
  cases o <;> simp [annAt, sxRowAt]

theorem gAtP_zero (cfg : Cfg) (enc : UInt8 → UInt8) (txt : Nat → Bytes) (m : Msa) (c : Cnt) (hn : c.nseq = m.nseq)
    (hss : c.hasSS = hasAnn m.nseq m.ss) (hsa : c.hasSA = hasAnn m.nseq m.sa) :
    newMsa c m.names = gAtP cfg enc txt m 0 := by
  unfold newMsa gAtP gAt
  simp only [hn, hss, hsa, annAt_zero, Nat.zero_min]
  congr 1
  · exact rangeMap_const m.nseq _ none (fun j => by simp [sxRowAt])
  · congr 2; exact rangeMap_const m.nseq _ none (fun j => rfl)
  · congr 2; exact rangeMap_const m.nseq _ none (fun j => rfl)

theorem firstBlock_g (cfg : Cfg) (enc : UInt8 → UInt8) (txt : Nat → Bytes) (m : Msa) (L pos : Nat) (slots : List Slot)
    (hsq : seqiOk slots 0) (hit : ∀ s ∈ slots, ItemG cfg enc txt m L pos s)
    (hscan : scanOk (slots.map Slot.ty) {}) (hn : ((slots.map Slot.ty).foldl Cnt.bump {}).nseq = m.nseq) (hn1 : 1 ≤ m.nseq)
    (hss : ((slots.map Slot.ty).foldl Cnt.bump {}).hasSS = hasAnn m.nseq m.ss)
    (hsa : ((slots.map Slot.ty).foldl Cnt.bump {}).hasSA = hasAnn m.nseq m.sa)
    (hnames : sqNames m slots = m.names) :
    firstBlock (slots.map (gLine txt m pos)) = .inr (gAtP cfg enc txt m 0, slots.map Slot.ty, slots.map (gBL txt m pos)) := by
  have hty := gLine_types cfg enc txt m L pos slots hit
  have hsc := firstScan_g (slots.map (gLine txt m pos)) {} (by rw [hty]; exact hscan)
  rw [hty] at hsc
  have hfn := firstNames_g cfg enc txt m L pos m.nseq slots 0 hsq hit (fun i hi => (hit _ hi).valid)
  have hn0 : (m.nseq == 0) = false := by simp; omega
  unfold firstBlock
  simp only [hsc, hn, hn0, Bool.false_eq_true, if_false, hfn, hnames]
  rw [gAtP_zero cfg enc txt m _ hn hss hsa]

/-! ## the lines of a block, in the order the writer prints them -/

def optSlot (o : Option Bytes) (s : Slot) : List Slot := match o with | some _ => [s] | none => []

def consSlots (m : Msa) : List Slot := optSlot m.ssCons .cs ++ optSlot m.rf .rf ++ optSlot m.mm .mm

def seqSlots (m : Msa) (i : Nat) : List Slot := .sq i :: (optSlot (optRow m.ss i) (.ss i) ++ optSlot (optRow m.sa i) (.sa i))

def layout (m : Msa) : List Slot := consSlots m ++ (List.range m.nseq).flatMap (seqSlots m)

theorem mem_optSlot (o : Option Bytes) (s s' : Slot) : s' ∈ optSlot o s ↔ o.isSome = true ∧ s' = s := by
  cases o <;> simp [optSlot]

theorem mem_layout (m : Msa) (s : Slot) : s ∈ layout m ↔ slotValid m s := by
  cases s <;> simp [layout, consSlots, seqSlots, mem_optSlot, slotValid, List.mem_flatMap]

theorem nodup_optSlot2 (o1 o2 : Option Bytes) (s1 s2 : Slot) (h : s1 ≠ s2) : (optSlot o1 s1 ++ optSlot o2 s2).Nodup := by
  cases o1 <;> cases o2 <;> simp [optSlot, h]

theorem layout_nodup (m : Msa) : (layout m).Nodup := by
  unfold layout
  rw [List.nodup_append]
  refine ⟨?_, ?_, ?_⟩
  · unfold consSlots
    cases m.ssCons <;> cases m.rf <;> cases m.mm <;> simp [optSlot]
  · unfold List.Nodup
    rw [List.pairwise_flatMap]
    constructor
    · intro i _
      show (seqSlots m i).Nodup
      unfold seqSlots
      rw [List.nodup_cons]
      refine ⟨by simp [mem_optSlot], nodup_optSlot2 _ _ _ _ (by simp)⟩
    · have := List.nodup_range (n := m.nseq)
      refine List.Pairwise.imp ?_ this
      intro a b hab x hx y hy hxy
      subst hxy
      simp only [seqSlots, List.mem_cons, List.mem_append, mem_optSlot] at hx hy
      rcases hx with rfl | ⟨_, rfl⟩ | ⟨_, rfl⟩ <;> rcases hy with h | ⟨_, h⟩ | ⟨_, h⟩ <;> simp at h <;> exact hab h
  · intro a ha b hb hab
    subst hab
    simp only [consSlots, List.mem_append, mem_optSlot] at ha
    simp only [List.mem_flatMap, seqSlots, List.mem_cons, List.mem_append, mem_optSlot] at hb
    obtain ⟨i, _, hb⟩ := hb
    rcases ha with (⟨_, rfl⟩ | ⟨_, rfl⟩) | ⟨_, rfl⟩ <;> simp at hb

theorem seqiOk_pre (a b : List Slot) (k : Nat) (ha : ∀ s ∈ a, s = .cs ∨ s = .rf ∨ s = .mm) (hb : seqiOk b k) : seqiOk (a ++ b) k := by
  induction a with
  | nil => exact hb
  | cons s a ih =>
    have := ih (fun s' hs' => ha s' (by simp [hs']))
    rcases ha s (by simp) with rfl | rfl | rfl <;> exact ⟨rfl, this⟩

theorem seqiOk_seqs (m : Msa) : ∀ (len k : Nat), seqiOk ((List.range' k len).flatMap (seqSlots m)) k := by
  intro len
  induction len with
  | zero => intro k; trivial
  | succ len ih =>
    intro k
    rw [List.range'_succ, List.flatMap_cons]
    have := ih (k + 1)
    generalize List.flatMap (seqSlots m) (List.range' (k + 1) len) = tail at this ⊢
    unfold seqSlots
    cases optRow m.ss k <;> cases optRow m.sa k <;> simp [optSlot, seqiOk, slotOf, Slot.ty, this]

theorem layout_seqiOk (m : Msa) : seqiOk (layout m) 0 := by
  unfold layout
  apply seqiOk_pre
  · intro s hs
    simp only [consSlots, List.mem_append, mem_optSlot] at hs
    rcases hs with (⟨_, rfl⟩ | ⟨_, rfl⟩) | ⟨_, rfl⟩ <;> simp
  · rw [List.range_eq_range']
    exact seqiOk_seqs m m.nseq 0

theorem sqNames_seqSlots (m : Msa) (i : Nat) : sqNames m (seqSlots m i) = [m.names.getD i []] := by
  unfold seqSlots sqNames
  cases optRow m.ss i <;> cases optRow m.sa i <;> simp [optSlot]

theorem layout_sqNames (m : Msa) : sqNames m (layout m) = m.names := by
  have hc : sqNames m (consSlots m) = [] := by
    unfold consSlots sqNames
    cases m.ssCons <;> cases m.rf <;> cases m.mm <;> simp [optSlot]
  have hs : sqNames m ((List.range m.nseq).flatMap (seqSlots m)) = (List.range m.nseq).map fun i => m.names.getD i [] := by
    show ((List.range m.nseq).flatMap (seqSlots m)).flatMap _ = _
    rw [List.flatMap_assoc]
    exact flatMap_range_single m.nseq _ _ (fun i _ => sqNames_seqSlots m i)
  have : sqNames m (layout m) = sqNames m (consSlots m) ++ sqNames m ((List.range m.nseq).flatMap (seqSlots m)) := by
    unfold layout sqNames; rw [List.flatMap_append]
  rw [this, hc, hs, List.nil_append, names_rangeMap]

/-! ### the counters of `selex_first_block` along the layout -/

theorem scanOk_append : ∀ (a b : List LType) (c : Cnt), scanOk a c → scanOk b (a.foldl Cnt.bump c) → scanOk (a ++ b) c := by
  intro a
  induction a with
  | nil => intro b c _ hb; exact hb
  | cons t a ih => intro b c ha hb; exact ⟨ha.1, ih b _ ha.2 hb⟩

theorem err_sq (c : Cnt) (h1 : c.nrf ≤ 1) (h2 : c.ncs ≤ 1) : (c.bump .sq).err = none := by
  have h1' : ¬ (c.nrf > 1) := by omega
  have h2' : ¬ (c.ncs > 1) := by omega
  simp [Cnt.bump, Cnt.err, h1', h2']

theorem err_ss (c : Cnt) (h1 : c.nrf ≤ 1) (h2 : c.ncs ≤ 1) (hn : c.nseq ≠ 0) (h3 : c.nss = 0) (h4 : c.nsa ≤ 1) :
    (c.bump .ss).err = none := by
  have h1' : ¬ (c.nrf > 1) := by omega
  have h2' : ¬ (c.ncs > 1) := by omega
  have h4' : ¬ (c.nsa > 1) := by omega
  simp [Cnt.bump, Cnt.err, h1', h2', h3, h4', hn]

theorem err_sa (c : Cnt) (h1 : c.nrf ≤ 1) (h2 : c.ncs ≤ 1) (hn : c.nseq ≠ 0) (h3 : c.nss ≤ 1) (h4 : c.nsa = 0) :
    (c.bump .sa).err = none := by
  have h1' : ¬ (c.nrf > 1) := by omega
  have h2' : ¬ (c.ncs > 1) := by omega
  have h3' : ¬ (c.nss > 1) := by omega
  simp [Cnt.bump, Cnt.err, h1', h2', h3', h4, hn]

theorem scan_seq (m : Msa) (k : Nat) (c : Cnt) (h1 : c.nrf ≤ 1) (h2 : c.ncs ≤ 1) :
    scanOk ((seqSlots m k).map Slot.ty) c ∧
    (((seqSlots m k).map Slot.ty).foldl Cnt.bump c).nrf = c.nrf ∧ (((seqSlots m k).map Slot.ty).foldl Cnt.bump c).ncs = c.ncs ∧
    (((seqSlots m k).map Slot.ty).foldl Cnt.bump c).nseq = c.nseq + 1 ∧
    (((seqSlots m k).map Slot.ty).foldl Cnt.bump c).hasSS = (c.hasSS || (optRow m.ss k).isSome) ∧
    (((seqSlots m k).map Slot.ty).foldl Cnt.bump c).hasSA = (c.hasSA || (optRow m.sa k).isSome) := by
  have e0 := err_sq c h1 h2
  have e1 := err_ss (c.bump .sq) h1 h2 (by simp [Cnt.bump]) rfl (by simp [Cnt.bump])
  have e2 := err_sa (c.bump .sq) h1 h2 (by simp [Cnt.bump]) (by simp [Cnt.bump]) rfl
  have e3 := err_sa ((c.bump .sq).bump .ss) h1 h2 (by simp [Cnt.bump]) (by simp [Cnt.bump]) rfl
  unfold seqSlots
  cases optRow m.ss k <;> cases optRow m.sa k <;>
    simp [optSlot, scanOk, Slot.ty, e0, e1, e2, e3] <;> simp [Cnt.bump]

theorem scan_seqs (m : Msa) : ∀ (len k : Nat) (c : Cnt), c.nrf ≤ 1 → c.ncs ≤ 1 →
    scanOk (((List.range' k len).flatMap (seqSlots m)).map Slot.ty) c ∧
    ((((List.range' k len).flatMap (seqSlots m)).map Slot.ty).foldl Cnt.bump c).nseq = c.nseq + len ∧
    ((((List.range' k len).flatMap (seqSlots m)).map Slot.ty).foldl Cnt.bump c).hasSS
      = (c.hasSS || (List.range' k len).any fun i => (optRow m.ss i).isSome) ∧
    ((((List.range' k len).flatMap (seqSlots m)).map Slot.ty).foldl Cnt.bump c).hasSA
      = (c.hasSA || (List.range' k len).any fun i => (optRow m.sa i).isSome) := by
  intro len
  induction len with
  | zero => intro k c _ _; simp [scanOk]
  | succ len ih =>
    intro k c h1 h2
    obtain ⟨s1, s2, s3, s4, s5, s6⟩ := scan_seq m k c h1 h2
    obtain ⟨i1, i2, i3, i4⟩ := ih (k + 1) (((seqSlots m k).map Slot.ty).foldl Cnt.bump c) (by omega) (by omega)
    rw [List.range'_succ, List.flatMap_cons, List.map_append, List.foldl_append]
    refine ⟨scanOk_append _ _ _ s1 i1, ?_, ?_, ?_⟩
    · rw [i2, s4]; omega
    · rw [i3, s5, List.any_cons, Bool.or_assoc]
    · rw [i4, s6, List.any_cons, Bool.or_assoc]

theorem layout_scan (m : Msa) :
    scanOk ((layout m).map Slot.ty) {} ∧ (((layout m).map Slot.ty).foldl Cnt.bump {}).nseq = m.nseq ∧
    (((layout m).map Slot.ty).foldl Cnt.bump {}).hasSS = hasAnn m.nseq m.ss ∧
    (((layout m).map Slot.ty).foldl Cnt.bump {}).hasSA = hasAnn m.nseq m.sa := by
  have hc : scanOk ((consSlots m).map Slot.ty) {} ∧ (((consSlots m).map Slot.ty).foldl Cnt.bump {}).nrf ≤ 1 ∧
      (((consSlots m).map Slot.ty).foldl Cnt.bump {}).ncs ≤ 1 ∧ (((consSlots m).map Slot.ty).foldl Cnt.bump {}).nseq = 0 ∧
      (((consSlots m).map Slot.ty).foldl Cnt.bump {}).hasSS = false ∧ (((consSlots m).map Slot.ty).foldl Cnt.bump {}).hasSA = false := by
    unfold consSlots
    cases m.ssCons <;> cases m.rf <;> cases m.mm <;> simp [optSlot, scanOk, Slot.ty, Cnt.bump, Cnt.err]
  obtain ⟨c1, c2, c3, c4, c5, c6⟩ := hc
  obtain ⟨i1, i2, i3, i4⟩ := scan_seqs m m.nseq 0 (((consSlots m).map Slot.ty).foldl Cnt.bump {}) c2 c3
  unfold layout hasAnn
  rw [List.map_append, List.foldl_append, List.range_eq_range']
  refine ⟨scanOk_append _ _ _ c1 i1, ?_, ?_, ?_⟩
  · rw [i2, c4]; omega
  · rw [i3, c5, Bool.false_or]
  · rw [i4, c6, Bool.false_or]

/-- `m` without the annotation SELEX writes lines for -/
def stripAnn (m : Msa) : Msa := { m with ssCons := none, rf := none, mm := none, ss := none, sa := none }

/-- an annotation string the SELEX reader returns unchanged: one character per column, no white space (leading and
    trailing white space of a chunk would be taken for padding and come back as `.`), no NUL -/
def AnnOk (alen : Nat) (s : Bytes) : Prop := s.length = alen ∧ ∀ t ∈ s, isSpace t = false ∧ t ≠ 0

/-- an alignment with `#=CS`/`#=RF`/`#=MM`/`#=SS`/`#=SA` annotation that `esl_msafile_selex_Write` + `esl_msafile_selex_Read`
    (configuration `cfg`) preserve: names and rows as in `SelexWritable`, every annotation string present is `AnnOk` -/
structure SelexAnnWritable (abc : Option Abc) (cfg : Cfg) (enc : UInt8 → UInt8) (txt : Nat → Bytes) (m : Msa) : Prop where
  base : SelexWritable abc cfg enc txt (stripAnn m)
  cs_ok : ∀ s, m.ssCons = some s → AnnOk m.alen s
  rf_ok : ∀ s, m.rf = some s → AnnOk m.alen s
  mm_ok : ∀ s, m.mm = some s → AnnOk m.alen s
  ss_ok : ∀ i, i < m.nseq → ∀ s, optRow m.ss i = some s → AnnOk m.alen s
  sa_ok : ∀ i, i < m.nseq → ∀ s, optRow m.sa i = some s → AnnOk m.alen s

/-- the line written for an annotation slot: its tag is one of the five `#=XX`, and the reader takes the line for what it is -/
theorem annTag (m : Msa) (w : Nat) (chunk : Bytes) (s : Slot) (h : s.ty ≠ .sq) :
    nameOk (slotTag m s) ∧ (slotTag m s).length = 4 ∧ (10 : UInt8) ∉ slotTag m s ∧
      ltypeOf (sxLine w (slotTag m s) chunk) = s.ty ∧ isComment (sxLine w (slotTag m s) chunk) = false := by
  cases s <;> first | exact absurd rfl h | skip
  all_goals
    simp only [slotTag, Slot.ty]
    refine ⟨by unfold nameOk; decide +kernel, rfl, by decide, ?_⟩
    simp [ltypeOf, isComment, memstrpfx, sxLine, pfxRF, pfxMM, pfxCS, pfxSS, pfxSA]

theorem opt_isSome_get (o : Option Bytes) (h : o.isSome = true) : o = some (o.getD []) := by
  cases o with
  | none => simp at h
  | some x => rfl

theorem slotText_ok (abc : Option Abc) (cfg : Cfg) (enc : UInt8 → UInt8) (txt : Nat → Bytes) (m : Msa)
    (h : SelexAnnWritable abc cfg enc txt m) (s : Slot) (hv : slotValid m s) : AnnOk m.alen (slotText txt m s) := by
  cases s with
  | sq i => exact ⟨h.base.txt_len i hv, fun t ht => (h.base.txt_sym i hv t ht).2⟩
  | rf => exact h.rf_ok _ (opt_isSome_get _ hv)
  | mm => exact h.mm_ok _ (opt_isSome_get _ hv)
  | cs => exact h.cs_ok _ (opt_isSome_get _ hv)
  | ss i => exact h.ss_ok i hv.1 _ (opt_isSome_get _ hv.2)
  | sa i => exact h.sa_ok i hv.1 _ (opt_isSome_get _ hv.2)

theorem itemG_of (abc : Option Abc) (cfg : Cfg) (enc : UInt8 → UInt8) (txt : Nat → Bytes) (m : Msa)
    (h : SelexAnnWritable abc cfg enc txt m) (pos : Nat) (hp : pos < m.alen) (s : Slot) (hv : slotValid m s) :
    ItemG cfg enc txt m (min 60 (m.alen - pos)) pos s := by
  obtain ⟨hlen, hns⟩ := slotText_ok abc cfg enc txt m h s hv
  have hmem : ∀ t ∈ slotChunk txt m pos s, t ∈ slotText txt m s := fun t ht => List.mem_of_mem_drop (List.mem_of_mem_take ht)
  have hchunk : SxChunkOk (min 60 (m.alen - pos)) (slotChunk txt m pos s) :=
    { len := by simp [slotChunk, hlen], pos := by omega, ns := fun t ht => hns t (hmem t ht) }
  have hclen : pos ≤ (slotCodes enc txt m s).length := by simp [slotCodes, hlen]; omega
  by_cases hty : s.ty = .sq
  · obtain ⟨i, rfl⟩ := slot_sq_of_ty s hty
    have hi : i < m.nseq := hv
    have htag : sqTagOk (m.names.getD i []) := h.base.name_ok i hi
    exact { valid := hv, tag := htag.1, wlen := selexNameLen_le m _ (names_getD_mem m i hi), chunk := hchunk, clen := hclen
            map := fun _ t ht => (h.base.txt_sym i hi t (hmem t ht)).1
            lty := sxLine_ltype _ _ _ htag, notc := sxLine_notComment _ _ _ htag }
  · obtain ⟨hn, hl4, _, hlt, hnc⟩ := annTag m (selexNameLen m) (slotChunk txt m pos s) s hty
    exact { valid := hv, tag := hn, wlen := by rw [hl4]; exact selexNameLen_ge m, chunk := hchunk, clen := hclen
            map := fun e => absurd e hty, lty := hlt, notc := hnc }

theorem layout_items (abc : Option Abc) (cfg : Cfg) (enc : UInt8 → UInt8) (txt : Nat → Bytes) (m : Msa)
    (h : SelexAnnWritable abc cfg enc txt m) (pos : Nat) (hp : pos < m.alen) :
    ∀ s ∈ layout m, ItemG cfg enc txt m (min 60 (m.alen - pos)) pos s :=
  fun s hs => itemG_of abc cfg enc txt m h pos hp s ((mem_layout m s).mp hs)

theorem layout_ne (m : Msa) (hn : 1 ≤ m.nseq) : layout m ≠ [] := by
  intro h0
  have : Slot.sq 0 ∈ layout m := (mem_layout m _).mpr (show 0 < m.nseq by omega)
  rw [h0] at this
  simp at this

theorem selexOpt_eq (txt : Nat → Bytes) (m : Msa) (apos : Nat) (o : Option Bytes) (tag : String) (s : Slot)
    (htag : str tag = slotTag m s) (htext : slotText txt m s = o.getD []) (hnz : ∀ x, o = some x → ∀ t ∈ x, t ≠ 0) :
    selexOpt o (fun x => selexAnnLine (selexNameLen m) tag x apos) = (optSlot o s).map (gLine txt m apos) := by
  cases o with
  | none => rfl
  | some x =>
    have hmem : ∀ t ∈ (x.drop apos).take 60, t ≠ 0 := fun t ht => hnz x rfl t (List.mem_of_mem_drop (List.mem_of_mem_take ht))
    simp only [selexOpt, optSlot, List.map_cons, List.map_nil, gLine, selexAnnLine, slotChunk, htext, Option.getD_some, htag,
      sxLine_eq, strChunk, show selexCpl = 60 from rfl, cstr_id _ hmem]

theorem selexBlockLines_g (abc : Option Abc) (cfg : Cfg) (enc : UInt8 → UInt8) (txt : Nat → Bytes) (m : Msa)
    (h : SelexAnnWritable abc cfg enc txt m) (apos : Nat) :
    selexBlockLines abc m (selexNameLen m) apos = (if apos > 0 then [[]] else []) ++ (layout m).map (gLine txt m apos) := by
  have hcs := selexOpt_eq txt m apos m.ssCons "#=CS" .cs (show str "#=CS" = pfxCS by decide +kernel) rfl (fun x hx t ht => ((h.cs_ok x hx).2 t ht).2)
  have hrf := selexOpt_eq txt m apos m.rf "#=RF" .rf (show str "#=RF" = pfxRF by decide +kernel) rfl (fun x hx t ht => ((h.rf_ok x hx).2 t ht).2)
  have hmm := selexOpt_eq txt m apos m.mm "#=MM" .mm (show str "#=MM" = pfxMM by decide +kernel) rfl (fun x hx t ht => ((h.mm_ok x hx).2 t ht).2)
  unfold selexBlockLines layout consSlots
  rw [hcs, hrf, hmm]
  simp only [List.map_append, List.append_assoc]
  congr 4
  rw [List.map_flatMap]
  apply flatMap_congr'
  intro i hi
  have hi' : i < m.nseq := List.mem_range.mp hi
  have hss := selexOpt_eq txt m apos (optRow m.ss i) "#=SS" (.ss i) (show str "#=SS" = pfxSS by decide +kernel) rfl (fun x hx t ht => ((h.ss_ok i hi' x hx).2 t ht).2)
  have hsa := selexOpt_eq txt m apos (optRow m.sa i) "#=SA" (.sa i) (show str "#=SA" = pfxSA by decide +kernel) rfl (fun x hx t ht => ((h.sa_ok i hi' x hx).2 t ht).2)
  have hch : seqChunk abc m i apos selexCpl = ((txt i).drop apos).take 60 := h.base.chunk_eq i hi' apos
  unfold selexSeqLines seqSlots
  rw [hss, hsa, sxLine_eq, hch]
  simp only [List.map_cons, List.map_append, List.cons_append, List.nil_append]
  rfl

/-- the reader between two blocks, `p` columns read -/
structure GIdle (cfg : Cfg) (enc : UInt8 → UInt8) (txt : Nat → Bytes) (m : Msa) (p : Nat) (st : SxSt) : Prop where
  idle : st.inBlock = false
  cur : st.cur = []
  alloc : 0 < st.nalloc
  nb : st.nblocks ≠ 0
  nl : st.nlines = (layout m).length
  lt : st.ltype = (layout m).map Slot.ty
  msa : st.msa = some (gAtP cfg enc txt m p)

/-- the reader holding the lines of the block that starts at column `pos` -/
structure GInBlk (cfg : Cfg) (enc : UInt8 → UInt8) (txt : Nat → Bytes) (m : Msa) (pos : Nat) (st : SxSt) : Prop where
  inb : st.inBlock = true
  cur : st.cur = (layout m).map (gLine txt m pos)
  alloc : 0 < st.nalloc
  first : pos = 0 → st.nblocks = 0
  later : pos ≠ 0 → st.nblocks ≠ 0 ∧ st.nlines = (layout m).length ∧ st.ltype = (layout m).map Slot.ty ∧
    st.msa = some (gAtP cfg enc txt m pos)

theorem gLines_ok (abc : Option Abc) (cfg : Cfg) (enc : UInt8 → UInt8) (txt : Nat → Bytes) (m : Msa)
    (h : SelexAnnWritable abc cfg enc txt m) (pos : Nat) (hp : pos < m.alen) :
    ∀ l ∈ (layout m).map (gLine txt m pos), isBlankLine l = false ∧ isComment l = false := by
  intro l hl
  obtain ⟨s, hs, rfl⟩ := List.mem_map.mp hl
  have hI := layout_items abc cfg enc txt m h pos hp s hs
  exact ⟨sxLine_notBlank _ _ _ hI.tag, hI.notc⟩

/-- the end of a block: `selex_first_block` / `selex_other_block`, then `selex_append_block` -/
theorem processBlock_g (abc : Option Abc) (cfg : Cfg) (enc : UInt8 → UInt8) (txt : Nat → Bytes) (m : Msa)
    (h : SelexAnnWritable abc cfg enc txt m) (pos : Nat) (hp : pos < m.alen) (st : SxSt) (hst : GInBlk cfg enc txt m pos st) :
    ∃ st', processBlock cfg st = .inl st' ∧ GIdle cfg enc txt m (pos + 60) st' := by
  have hn1 : 1 ≤ m.nseq := h.base.n1
  have hit := layout_items abc cfg enc txt m h pos hp
  have hlen : st.cur.length = (layout m).length := by rw [hst.cur, List.length_map]
  have happ := appendBlock_g cfg enc txt m pos hp (layout m) (layout_ne m hn1) (layout_seqiOk m) (layout_nodup m) hit
    (fun s hv => (mem_layout m s).mpr hv)
  by_cases hp0 : pos = 0
  · subst hp0
    have hnb := hst.first rfl
    obtain ⟨sc1, sc2, sc3, sc4⟩ := layout_scan m
    have hfb := firstBlock_g cfg enc txt m (min 60 (m.alen - 0)) 0 (layout m) (layout_seqiOk m) hit sc1 sc2 hn1 sc3 sc4 (layout_sqNames m)
    refine ⟨{ st with inBlock := false, cur := [], nblocks := 1, nlines := st.cur.length, ltype := (layout m).map Slot.ty,
                      msa := some (gAtP cfg enc txt m (0 + 60)) }, ?_, ?_⟩
    · unfold processBlock
      simp only [hnb, bne_self_eq_false, Bool.false_and, Bool.false_eq_true, if_false, beq_self_eq_true, if_true, hst.cur]
      rw [hfb]
      simp only [happ]
    · exact { idle := rfl, cur := rfl, alloc := hst.alloc, nb := by simp, nl := hlen, lt := rfl, msa := rfl }
  · obtain ⟨hnb, hnl, hlt, hmsa⟩ := hst.later hp0
    have hob := otherBlock_g cfg enc txt m (min 60 (m.alen - pos)) pos (layout m) (gAtP cfg enc txt m pos) (layout_seqiOk m) hit rfl
    refine ⟨{ st with inBlock := false, cur := [], nblocks := st.nblocks + 1, msa := some (gAtP cfg enc txt m (pos + 60)) }, ?_, ?_⟩
    · unfold processBlock
      have hc1 : (st.nblocks != 0 && st.nlines != st.cur.length) = false := by simp [hnl, hlen]
      have hc2 : (st.nblocks == 0) = false := by simpa using hnb
      simp only [hc1, hc2, Bool.false_eq_true, if_false, hmsa, hlt]
      simp only [hst.cur]
      rw [hob]
      simp only [happ]
    · exact { idle := rfl, cur := rfl, alloc := hst.alloc, nb := by simp, nl := hnl, lt := hlt, msa := rfl }

theorem gLines_ne (txt : Nat → Bytes) (m : Msa) (pos : Nat) (hn : 1 ≤ m.nseq) : (layout m).map (gLine txt m pos) ≠ [] := by
  intro h0
  exact layout_ne m hn (List.map_eq_nil_iff.mp h0)

theorem collect_g (abc : Option Abc) (cfg : Cfg) (enc : UInt8 → UInt8) (txt : Nat → Bytes) (m : Msa)
    (h : SelexAnnWritable abc cfg enc txt m) (pos : Nat) (hp : pos < m.alen) (hp0 : pos ≠ 0) (st : SxSt) (hst : GIdle cfg enc txt m pos st) :
    ∃ st', stepsFrom (selexStep cfg) st ((layout m).map (gLine txt m pos)) = .inl st' ∧ GInBlk cfg enc txt m pos st' := by
  obtain ⟨na, hs, hna⟩ := selexSteps_collect cfg ((layout m).map (gLine txt m pos)) st
    (gLines_ok abc cfg enc txt m h pos hp) (gLines_ne txt m pos h.base.n1) (by rw [hst.cur]; simp) hst.alloc
  have hl : 0 < ((layout m).map (gLine txt m pos)).length := List.length_pos_iff.mpr (gLines_ne txt m pos h.base.n1)
  exact ⟨_, hs, { inb := rfl, cur := by show st.cur ++ _ = _; rw [hst.cur]; rfl, alloc := by show 0 < na; rw [List.length_append] at hna; omega
                  first := fun h => absurd h hp0, later := fun _ => ⟨hst.nb, hst.nl, hst.lt, hst.msa⟩ }⟩

theorem collect_first_g (abc : Option Abc) (cfg : Cfg) (enc : UInt8 → UInt8) (txt : Nat → Bytes) (m : Msa)
    (h : SelexAnnWritable abc cfg enc txt m) :
    ∃ st', stepsFrom (selexStep cfg) {} ((layout m).map (gLine txt m 0)) = .inl st' ∧ GInBlk cfg enc txt m 0 st' := by
  obtain ⟨na, hs, hna⟩ := selexSteps_collect cfg ((layout m).map (gLine txt m 0)) {}
    (gLines_ok abc cfg enc txt m h 0 h.base.alen1) (gLines_ne txt m 0 h.base.n1) (by simp) (by decide)
  have hl : 0 < ((layout m).map (gLine txt m 0)).length := List.length_pos_iff.mpr (gLines_ne txt m 0 h.base.n1)
  exact ⟨_, hs, { inb := rfl, cur := rfl, alloc := by show 0 < na; rw [List.length_append] at hna; omega
                  first := fun _ => rfl, later := fun h => absurd rfl h }⟩

theorem annAt_final (alen : Nat) (o : Option Bytes) (p : Nat) (hp : alen ≤ p) (hp0 : p ≠ 0) (hok : ∀ x, o = some x → AnnOk alen x) :
    (annAt o p).map cstr = o := by
  cases o with
  | none => rfl
  | some x =>
    obtain ⟨hl, hns⟩ := hok x rfl
    have htk : x.take p = x := List.take_of_length_le (by omega)
    simp only [annAt, Option.bind_some, sxRowAt, hp0, if_false, Option.map_some, sxRow, Bool.false_eq_true, htk]
    congr 1
    apply cstr_txt
    rw [List.all_eq_true]
    intro t ht
    simpa using (hns t ht).2

theorem hasAnn_all (n : Nat) (o : OptRows) : (List.range n).all (fun i => (optRow o i).isNone) = !hasAnn n o := by
  unfold hasAnn
  induction (List.range n) with
  | nil => rfl
  | cons i l ih =>
    simp only [List.all_cons, List.any_cons, ih, Bool.not_or]
    cases optRow o i <;> rfl

theorem rowsProj_final (alen n : Nat) (o : OptRows) (p : Nat) (hp : alen ≤ p) (hp0 : p ≠ 0)
    (hok : ∀ i, i < n → ∀ x, optRow o i = some x → AnnOk alen x) :
    (if hasAnn n o then some ((List.range n).map fun i => annAt (optRow o i) p) else none).map (fun l => l.map fun r => r.map cstr)
      = selexRowsProj n o := by
  unfold selexRowsProj
  rw [hasAnn_all]
  cases hasAnn n o with
  | false => rfl
  | true =>
    simp only [if_true, Option.map_some, Bool.not_true, Bool.false_eq_true, if_false, List.map_map]
    congr 1
    apply List.map_congr_left
    intro i hi
    exact annAt_final alen _ p hp hp0 (hok i (List.mem_range.mp hi))

theorem selexFinal_g (abc : Option Abc) (cfg : Cfg) (enc : UInt8 → UInt8) (txt : Nat → Bytes) (m : Msa)
    (h : SelexAnnWritable abc cfg enc txt m) (p : Nat) (hp : m.alen ≤ p) (st : SxSt) (hst : GIdle cfg enc txt m p st) :
    selexFinal cfg st = .ok (selexProject cfg m) := by
  have ha1 : 1 ≤ m.alen := h.base.alen1
  have hp0 : p ≠ 0 := by omega
  have hnb : (st.nblocks == 0) = false := by simpa using hst.nb
  have hmin : min p m.alen = m.alen := by omega
  have hal : ((gAtP cfg enc txt m p).alen == 0) = false := by
    show (min p m.alen == 0) = false
    rw [hmin]; simp; omega
  have hrow : ∀ i, i < m.nseq →
      (if cfg.digital then (sxRowAt cfg.digital ((txt i).map enc) p).getD [] else cstr ((sxRowAt cfg.digital ((txt i).map enc) p).getD []))
        = m.stored i := fun i hi => sxRow_final abc cfg enc txt (stripAnn m) h.base p hp i hi
  unfold selexFinal
  simp only [hnb, Bool.false_eq_true, if_false, hst.msa, hal]
  congr 1
  simp only [SxMsa.toMsa, selexProject, gAtP, gAt, hmin, List.map_map,
    annAt_final m.alen m.ssCons p hp hp0 h.cs_ok, annAt_final m.alen m.rf p hp hp0 h.rf_ok, annAt_final m.alen m.mm p hp hp0 h.mm_ok,
    rowsProj_final m.alen m.nseq m.ss p hp hp0 h.ss_ok, rowsProj_final m.alen m.nseq m.sa p hp hp0 h.sa_ok]
  cases hd : cfg.digital with
  | true =>
    simp only [if_true]
    congr 1
    apply List.map_congr_left
    intro i hi
    have := hrow i (List.mem_range.mp hi)
    simpa [hd] using this
  | false =>
    simp only [Bool.false_eq_true, if_false]
    congr 1
    apply List.map_congr_left
    intro i hi
    have := hrow i (List.mem_range.mp hi)
    simpa [hd] using this

theorem selexRun_blocks_g (abc : Option Abc) (cfg : Cfg) (enc : UInt8 → UInt8) (txt : Nat → Bytes) (m : Msa)
    (h : SelexAnnWritable abc cfg enc txt m) : ∀ (k pos : Nat) (st : SxSt), m.alen - pos ≤ k → pos < m.alen →
    GInBlk cfg enc txt m pos st →
    runLines (selexStep cfg) (selexFinish cfg) st
      ((blockStartsFrom m.alen selexCpl (pos + 60)).flatMap (selexBlockLines abc m (selexNameLen m)))
      = (.ok (selexProject cfg m), []) := by
  intro k
  induction k with
  | zero => intro pos st hk hp _; omega
  | succ k ih =>
    intro pos st hk hp hst
    obtain ⟨st1, hpb, hidle⟩ := processBlock_g abc cfg enc txt m h pos hp st hst
    rw [blockStartsFrom]
    by_cases hnext : pos + 60 < m.alen
    · have hc : pos + 60 < m.alen ∧ 0 < selexCpl := ⟨hnext, by decide⟩
      simp only [hc, and_self, dite_true, List.flatMap_cons]
      rw [selexBlockLines_g abc cfg enc txt m h (pos + 60)]
      have hpos : pos + 60 > 0 := by omega
      simp only [hpos, if_true, List.cons_append, List.nil_append]
      have hstep : selexStep cfg st [] = .inl st1 := by
        unfold selexStep
        simp [hst.inb, isComment, memstrpfx, isBlankLine, hpb]
      simp only [runLines, hstep]
      obtain ⟨st2, hs2, hin2⟩ := collect_g abc cfg enc txt m h (pos + 60) hnext (by omega) st1 hidle
      rw [runLines_append_inl (selexStep cfg) (selexFinish cfg) _ _ st1 st2 hs2]
      exact ih (pos + 60) st2 (by omega) hnext hin2
    · have hc : ¬ (pos + 60 < m.alen ∧ 0 < selexCpl) := fun hc => hnext hc.1
      simp only [hc, dite_false, List.flatMap_nil, runLines]
      unfold selexFinish
      simp only [hst.inb, if_true, hpb]
      rw [selexFinal_g abc cfg enc txt m h (pos + 60) (by omega) st1 hidle]

/-- **SELEX round trip on lines, annotation included** -/
theorem selexRead_writeLines_ann (abc : Option Abc) (cfg : Cfg) (enc : UInt8 → UInt8) (txt : Nat → Bytes) (m : Msa)
    (h : SelexAnnWritable abc cfg enc txt m) :
    selexRead cfg (selexLines abc m) = (.ok (selexProject cfg m), []) := by
  have ha1 : 1 ≤ m.alen := h.base.alen1
  obtain ⟨st, hs, hin⟩ := collect_first_g abc cfg enc txt m h
  unfold selexRead selexLines blockStarts
  rw [blockStartsFrom]
  have hc : 0 < m.alen ∧ 0 < selexCpl := ⟨by omega, by decide⟩
  simp only [hc, and_self, dite_true, List.flatMap_cons]
  rw [selexBlockLines_g abc cfg enc txt m h 0]
  simp only [Nat.lt_irrefl, gt_iff_lt, if_false, List.nil_append]
  rw [runLines_append_inl (selexStep cfg) (selexFinish cfg) _ _ {} st hs]
  exact selexRun_blocks_g abc cfg enc txt m h m.alen 0 st (by omega) (by omega) hin

theorem slotTag_lf (m : Msa) (name_lf : ∀ i, i < m.nseq → (10 : UInt8) ∉ m.names.getD i []) (s : Slot) (hv : slotValid m s) :
    (10 : UInt8) ∉ slotTag m s := by
  by_cases hty : s.ty = .sq
  · obtain ⟨i, rfl⟩ := slot_sq_of_ty s hty
    exact name_lf i hv
  · exact (annTag m 0 [] s hty).2.2.1

/-- **SELEX round trip on bytes, annotation included**; `name_lf`: no name holds a line feed -/
theorem selexRead_write_ann (abc : Option Abc) (cfg : Cfg) (enc : UInt8 → UInt8) (txt : Nat → Bytes) (m : Msa)
    (h : SelexAnnWritable abc cfg enc txt m) (name_lf : ∀ i, i < m.nseq → (10 : UInt8) ∉ m.names.getD i []) :
    selexRead cfg (splitLines (selexWrite abc m)) = (.ok (selexProject cfg m), []) := by
  unfold selexWrite joinLF
  rw [splitLines_join, selexRead_writeLines_ann abc cfg enc txt m h]
  intro l hl
  unfold selexLines at hl
  obtain ⟨apos, hap, hl⟩ := List.mem_flatMap.mp hl
  have hlt := blockStarts_lt m.alen selexCpl apos hap
  rw [selexBlockLines_g abc cfg enc txt m h apos] at hl
  rcases List.mem_append.mp hl with hl | hl
  · split at hl
    · simp only [List.mem_singleton] at hl; subst hl; exact ⟨by simp, by simp⟩
    · simp at hl
  · obtain ⟨s, hs, rfl⟩ := List.mem_map.mp hl
    have hI := layout_items abc cfg enc txt m h apos hlt s hs
    exact sxLine_lineOk _ _ _ _ (slotTag_lf m name_lf s hI.valid) hI.chunk

/-! ## the round trip without annotation lines is a special case -/

theorem SelexWritable.toAnn {abc : Option Abc} {cfg : Cfg} {enc : UInt8 → UInt8} {txt : Nat → Bytes} {m : Msa}
    (h : SelexWritable abc cfg enc txt m) : SelexAnnWritable abc cfg enc txt m where
  base :=
    { n1 := h.n1, alen1 := h.alen1, cs_none := rfl, rf_none := rfl, mm_none := rfl
      ss_none := fun _ _ => rfl, sa_none := fun _ _ => rfl
      name_ok := h.name_ok, txt_len := h.txt_len, chunk_eq := h.chunk_eq, txt_sym := h.txt_sym, enc_nz := h.enc_nz
      row_enc := h.row_enc }
  cs_ok := fun s hs => by rw [h.cs_none] at hs; cases hs
  rf_ok := fun s hs => by rw [h.rf_none] at hs; cases hs
  mm_ok := fun s hs => by rw [h.mm_none] at hs; cases hs
  ss_ok := fun i hi s hs => by rw [h.ss_none i hi] at hs; cases hs
  sa_ok := fun i hi s hs => by rw [h.sa_none i hi] at hs; cases hs

/-- **SELEX round trip on bytes**; `name_lf`: no name holds a line feed -/
theorem selexRead_write (abc : Option Abc) (cfg : Cfg) (enc : UInt8 → UInt8) (txt : Nat → Bytes) (m : Msa)
    (h : SelexWritable abc cfg enc txt m) (name_lf : ∀ i, i < m.nseq → (10 : UInt8) ∉ m.names.getD i []) :
    selexRead cfg (splitLines (selexWrite abc m)) = (.ok (selexProject cfg m), []) :=
  selexRead_write_ann abc cfg enc txt m h.toAnn name_lf

end EaselModel.Msafile
