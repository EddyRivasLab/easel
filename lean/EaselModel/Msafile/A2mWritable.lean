import EaselModel.Msafile.A2mRoundTrip
import EaselModel.Msafile.AfaWritable
import EaselModel.Msafile.AbcTables
import EaselModel.Msafile.SymTable
/-! Concrete, checkable conditions under which an alignment is `A2mWritable`: text mode, and digital mode with the
    generated amino / DNA / RNA alphabets.  In both, every column is a consensus column (`msa->rf` all alphanumeric or,
    without `rf`, the first sequence a residue everywhere), so that the dotless A2M output has no insert columns. -/
namespace EaselModel.Msafile

theorem a2mInmap_text_get (c : UInt8) : (a2mInmap none).get c =
    if c.toNat = 111 then dsqIGNORED else if c.toNat = 79 then dsqIGNORED else if c.toNat = 46 then dsqIGNORED
    else if c.toNat = 9 then dsqIGNORED else if c.toNat = 32 then dsqIGNORED else if c.toNat = 45 then 45
    else textBase isAlpha c := by
  simp only [a2mInmap, InMap.get_setIfInBounds, InMap.get_textBase, Array.size_setIfInBounds, Array.size_ofFn,
    Nat.reduceLT, and_true]

/-- what the writer prints for the text symbol `s` in a consensus column -/
def a2mTextNorm (s : UInt8) : UInt8 :=
  if isAlpha s then toUpper (if s == 79 || s == 111 then 88 else s) else 45

/-- table fact: whatever the stored symbol, the printed character is an upper-case letter other than `O`, or `-`,
    and the text-mode A2M input map sends it to itself -/
def a2mTextSymOk : Bool :=
  (List.range 256).all fun n =>
    let c := a2mTextNorm (UInt8.ofNat n)
    (isUpper c || c == 45) && !a2mSkip c && mapByte (a2mInmap none) c == (CatSt.ok, some c)

theorem a2mTextSymOk_true : a2mTextSymOk = true := by
  simp only [a2mTextSymOk, mapByte, a2mInmap_text_get]
  decide +kernel

theorem a2m_text_sym (s : UInt8) :
    consChar (a2mTextNorm s) ∧ mapByte (a2mInmap none) (a2mTextNorm s) = (.ok, some (a2mTextNorm s)) := by
  have h1 := (List.all_eq_true.mp a2mTextSymOk_true) s.toNat (List.mem_range.mpr s.toNat_lt)
  simp only [UInt8.ofNat_toNat, Bool.and_eq_true, Bool.or_eq_true, beq_iff_eq, Bool.not_eq_true'] at h1
  exact ⟨⟨h1.1.1, h1.1.2⟩, h1.2⟩

/-- an upper-case letter other than `O`, or `-`, is printed as itself -/
theorem a2mTextNorm_fix (t : UInt8) (h : consChar t) : a2mTextNorm t = t := by
  rcases h.1 with hu | rfl
  · have hs : (t == 79 || t == 111) = false := h.2
    simp only [a2mTextNorm, isAlpha, hu, Bool.true_or, if_true, hs, Bool.false_eq_true, if_false]
    exact (upper_plain t hu).1
  · rfl

/-- a text-mode alignment that A2M carries: every column is a consensus column -/
structure A2mTextWritable (m : Msa) : Prop where
  dig : m.digital = false
  n1 : 1 ≤ m.nseq
  alen1 : 1 ≤ m.alen
  acc_none : m.sqacc = none
  name_ok : ∀ i, i < m.nseq → nameOk (m.names.getD i [])
  desc_ok : ∀ i, i < m.nseq → ∀ d, optAt m.sqdesc i = some d → descOk d
  hdr_line : ∀ i, i < m.nseq → lineOk (a2mHeader m i)
  row_len : ∀ i, i < m.nseq → (m.aseq.getD i []).length = m.alen
  cons_ok : ∀ pos, pos < m.alen → isConsensusCol none m pos = true

theorem a2mChar_text_cons (m : Msa) (i pos : Nat) (hc : isConsensusCol none m pos = true) :
    a2mChar none m i pos = some (a2mTextNorm (aseqAt m i pos)) := by
  simp only [a2mChar, hc, if_true, a2mTextNorm]

theorem a2mTextWritable_writable (m : Msa) (h : A2mTextWritable m) : A2mWritable none (a2mCfg none) id m :=
  { n1 := h.n1, alen1 := h.alen1, acc_none := h.acc_none, name_ok := h.name_ok, desc_ok := h.desc_ok, hdr_line := h.hdr_line
    row_char := fun i _ pos hp => by
      have hs := a2m_text_sym (aseqAt m i pos)
      exact ⟨_, a2mChar_text_cons m i pos (h.cons_ok pos hp), hs.1, by simpa [a2mCfg] using hs.2⟩ }

theorem map_getD_range (l : Bytes) (n : Nat) (h : l.length = n) : (List.range n).map (fun p => l.getD p 0) = l := by
  apply List.ext_getElem
  · simp [h]
  · intro j h1 h2
    simp [List.getD_eq_getElem?_getD, List.getElem?_eq_getElem h2]

theorem a2mRow_text (m : Msa) (h : A2mTextWritable m) (i : Nat) (hi : i < m.nseq) :
    a2mRow none (a2mCfg none) id m i = (m.aseq.getD i []).map a2mTextNorm := by
  have hrow : (List.range m.alen).map (fun p => (m.aseq.getD i []).getD p 0) = m.aseq.getD i [] :=
    map_getD_range _ _ (h.row_len i hi)
  have : a2mRowCodes none id m i = (List.range m.alen).map (fun p => a2mTextNorm ((m.aseq.getD i []).getD p 0)) := by
    unfold a2mRowCodes
    apply List.map_congr_left
    intro p hp
    simp [a2mWc, a2mChar_text_cons m i p (h.cons_ok p (List.mem_range.mp hp)), aseqAt]
  simp only [a2mRow, mkRow, a2mCfg, Cfg.digital, Option.isSome_none, Bool.false_eq_true, if_false, this]
  conv => rhs; rw [← hrow]
  simp [List.map_map, Function.comp_def]

theorem a2mRow_text_exact (m : Msa) (h : A2mTextWritable m) (i : Nat) (hi : i < m.nseq)
    (hr : ∀ t ∈ m.aseq.getD i [], consChar t) : a2mRow none (a2mCfg none) id m i = m.aseq.getD i [] := by
  rw [a2mRow_text m h i hi]
  conv => rhs; rw [← List.map_id (m.aseq.getD i [])]
  apply List.map_congr_left
  intro t ht
  exact a2mTextNorm_fix t (hr t ht)

def a2mEnc (a : Abc) (t : UInt8) : UInt8 :=
  match mapByte (a2mInmap (some a)) t with
  | (_, some x) => x
  | _ => 0

/-- what the writer prints for code `x` in a consensus column -/
def a2mDigWritten (a : Abc) (x : UInt8) : UInt8 :=
  let sym := a.sym.getD x.toNat 0
  if a.xIsResidue x then toUpper (if sym == 79 then a.cUnknown else sym) else 45

/-- what code `x` is read back as: residues as themselves (pyrrolysine `O` as the unknown residue), everything else
    (gap, `*`, `~`) as the gap -/
def a2mDigNorm (a : Abc) (x : UInt8) : UInt8 :=
  if a.xIsResidue x then (if a.sym.getD x.toNat 0 == 79 then a.unknown else x) else a.gap

/-- table fact about an alphabet: the character written for code `x < Kp` is an upper-case letter other than `O`, or `-`,
    and is read back as `a2mDigNorm x` -/
def a2mDigSymOk (a : Abc) : Bool :=
  (List.range a.kp).all fun n =>
    let x := UInt8.ofNat n
    let c := a2mDigWritten a x
    (isUpper c || c == 45) && !a2mSkip c && mapByte (a2mInmap (some a)) c == (CatSt.ok, some (a2mDigNorm a x))

/-- `esl_msafile_a2m_SetInmap` (digital) overwrites the entries of NUL, tab, blank, `*`, `.`, `_`, `~`, `O`, `o` and no other -/
theorem a2mInmap_get (a : Abc) (t : UInt8) (h : t.toNat ∉ [0, 9, 32, 42, 46, 95, 126]) (h79 : t.toNat ≠ 79) (h111 : t.toNat ≠ 111) :
    (a2mInmap (some a)).get t = a.inmap.getD t.toNat dsqILLEGAL := by
  simp only [List.mem_cons, List.not_mem_nil, or_false, not_or] at h
  simp only [a2mInmap, InMap.get_setIfInBounds, h, h79, h111, false_and, if_false]
  rfl

/-- the clause of `a2mDigSymOk` for a code printed as the upper-case letter `t` (not `O`) whose table entry is `v` -/
theorem a2mDigSym_upper (a : Abc) (t v : UInt8) (h : isUpper t = true) (h79 : t ≠ 79)
    (hget : a.inmap.getD t.toNat dsqILLEGAL = v) (hv : v ≤ 127) :
    ((isUpper (toUpper t) || toUpper t == 45) && !a2mSkip (toUpper t) &&
      mapByte (a2mInmap (some a)) (toUpper t) == (CatSt.ok, some v)) = true := by
  obtain ⟨htu, hasc, h111, hp⟩ := upper_plain t h
  have hm := mapByte_of_get hasc ((a2mInmap_get a t hp (fun e => h79 (UInt8.toNat_inj.mp e)) h111).trans hget) hv
  have h111' : t ≠ 111 := fun e => h111 (by rw [e]; rfl)
  simp [htu, h, a2mSkip, h79, h111', hm]

theorem a2mDigSymOk_of_wf {a : Abc} (h : a.WF) : a2mDigSymOk a = true := by
  rw [a2mDigSymOk, List.all_eq_true]
  intro n hn
  have hn' := List.mem_range.mp hn
  simp only [a2mDigWritten, a2mDigNorm, h.toNat_ofNat hn']
  cases hr : a.xIsResidue (UInt8.ofNat n) with
  | false =>
    -- gap, `*`, `~`: printed as `-`, whose entry no statement of `SetInmap` touches
    have hg : (a2mInmap (some a)).get 45 = a.gap := by
      simp only [a2mInmap, InMap.get_setIfInBounds]
      exact h.gap
    have hm := mapByte_of_get (t := 45) rfl hg (h.code_le (by have := h.kp; omega))
    simp [hm, a2mSkip]
  | true =>
    by_cases h79 : a.sym.getD n 0 = 79
    · -- pyrrolysine is printed, and read back, as the unknown residue
      obtain ⟨hup, hne, hget⟩ := h.unknown
      simpa [h79] using a2mDigSym_upper a a.cUnknown a.unknown hup hne hget (h.code_le (by have := h.kp; omega))
    · have := a2mDigSym_upper a _ _ (h.res n hn' hr) h79 (h.inv n hn') (h.code_le hn')
      generalize a.sym.getD n 0 = t at *
      simpa [h79] using this

theorem a2m_dig_sym (a : Abc) (ha : a2mDigSymOk a = true) (x : UInt8) (hx : x.toNat < a.kp) :
    consChar (a2mDigWritten a x) ∧
    mapByte (a2mInmap (some a)) (a2mDigWritten a x) = (.ok, some (a2mEnc a (a2mDigWritten a x))) ∧
    a2mEnc a (a2mDigWritten a x) = a2mDigNorm a x := by
  have h1 := (List.all_eq_true.mp ha) x.toNat (List.mem_range.mpr hx)
  simp only [UInt8.ofNat_toNat, Bool.and_eq_true, Bool.or_eq_true, beq_iff_eq, Bool.not_eq_true'] at h1
  obtain ⟨⟨hu, hs⟩, hm⟩ := h1
  have he : a2mEnc a (a2mDigWritten a x) = a2mDigNorm a x := by unfold a2mEnc; rw [hm]
  exact ⟨⟨hu, hs⟩, by rw [he]; exact hm, he⟩

/-- a digital alignment (alphabet `a`) that A2M carries: every column is a consensus column -/
structure A2mDigitalWritable (a : Abc) (m : Msa) : Prop where
  dig : m.digital = true
  n1 : 1 ≤ m.nseq
  alen1 : 1 ≤ m.alen
  acc_none : m.sqacc = none
  name_ok : ∀ i, i < m.nseq → nameOk (m.names.getD i [])
  desc_ok : ∀ i, i < m.nseq → ∀ d, optAt m.sqdesc i = some d → descOk d
  hdr_line : ∀ i, i < m.nseq → lineOk (a2mHeader m i)
  row_ok : ∀ i, i < m.nseq → dsqRowOk a.kp m.alen (m.ax.getD i []) = true
  cons_ok : ∀ pos, pos < m.alen → isConsensusCol (some a) m pos = true

theorem a2mChar_dig_cons (a : Abc) (m : Msa) (i pos : Nat) (hc : isConsensusCol (some a) m pos = true) :
    a2mChar (some a) m i pos = some (a2mDigWritten a (axAt m i pos)) := by
  simp only [a2mChar, hc, if_true, a2mDigWritten]

theorem dsqRowOk_code (kp alen : Nat) (r : Bytes) (h : dsqRowOk kp alen r = true) (pos : Nat) (hp : pos < alen) :
    (r.getD (pos + 1) 0).toNat < kp := by
  cases r with
  | nil => simp [dsqRowOk] at h
  | cons s0 rest =>
    simp only [dsqRowOk, Bool.and_eq_true, beq_iff_eq] at h
    obtain ⟨⟨⟨_, hl⟩, _⟩, hall⟩ := h
    have h1 : pos < rest.length := by omega
    have h2 : pos < rest.dropLast.length := by simp; omega
    have he : (s0 :: rest).getD (pos + 1) 0 = rest.dropLast[pos] := by
      simp [List.getD_eq_getElem?_getD, List.getElem?_eq_getElem h1, List.getElem_dropLast]
    rw [he]
    have := (List.all_eq_true.mp hall) _ (List.getElem_mem h2)
    simpa using this

theorem a2mDigitalWritable_writable (a : Abc) (ha : a2mDigSymOk a = true) (m : Msa) (h : A2mDigitalWritable a m) :
    A2mWritable (some a) (a2mCfg (some a)) (a2mEnc a) m :=
  { n1 := h.n1, alen1 := h.alen1, acc_none := h.acc_none, name_ok := h.name_ok, desc_ok := h.desc_ok, hdr_line := h.hdr_line
    row_char := fun i hi pos hp => by
      have hx : (axAt m i pos).toNat < a.kp := dsqRowOk_code _ _ _ (h.row_ok i hi) pos hp
      have hs := a2m_dig_sym a ha (axAt m i pos) hx
      exact ⟨_, a2mChar_dig_cons a m i pos (h.cons_ok pos hp), hs.1, by simpa [a2mCfg] using hs.2.1⟩ }

theorem a2mRow_digital (a : Abc) (ha : a2mDigSymOk a = true) (m : Msa) (h : A2mDigitalWritable a m) (i : Nat) (hi : i < m.nseq) :
    a2mRow (some a) (a2mCfg (some a)) (a2mEnc a) m i
      = dsqSENTINEL :: (List.range m.alen).map (fun p => a2mDigNorm a (axAt m i p)) ++ [dsqSENTINEL] := by
  have : a2mRowCodes (some a) (a2mEnc a) m i = (List.range m.alen).map (fun p => a2mDigNorm a (axAt m i p)) := by
    unfold a2mRowCodes
    apply List.map_congr_left
    intro p hp
    have hp' := List.mem_range.mp hp
    have hx : (axAt m i p).toNat < a.kp := dsqRowOk_code _ _ _ (h.row_ok i hi) p hp'
    simp [a2mWc, a2mChar_dig_cons a m i p (h.cons_ok p hp'), (a2m_dig_sym a ha (axAt m i p) hx).2.2]
  simp [a2mRow, mkRow, a2mCfg, Cfg.digital, this]

end EaselModel.Msafile
