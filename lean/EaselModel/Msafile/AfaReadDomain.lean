import EaselModel.Msafile.A2mReadDomain
import EaselModel.Msafile.AfaLemmas
import EaselModel.Msafile.AfaWritable
/-! "Reformat stability", aligned FASTA: what `esl_msafile_afa_Read` returns lies in the domain of the AFA round-trip theorem
    (`AfaTextWritable` / `AfaDigitalWritable`), except that no name line the writer will print may end in CR.  (The text-mode
    input map rejects `>` as a residue, so no row the reader returns holds it.) -/
namespace EaselModel.Msafile

/-- a character the text-mode reader stores as a residue: graphic and not the record marker `>` -/
def afaResCh (c : UInt8) : Bool := isGraph c && c != 62

theorem InMap.emits_true (m : InMap) : m.emits (fun _ => true) = true := by simp [InMap.emits]

structure AfaNdInv (I : List Bytes → OptRows → Prop) (P : UInt8 → Bool) (cfg : Cfg) (st : AfaSt) : Prop where
  nd : I st.names st.sqdesc
  rows : cfg.digital = false → ∀ r ∈ st.rows, r.all P = true
  cur : cfg.digital = false → ∀ r, st.cur = some r → r.all P = true

def AfaGood (I : List Bytes → OptRows → Prop) (P : UInt8 → Bool) (cfg : Cfg) (r : Res Msa) : Prop :=
  ∀ m, r = .ok m → I m.names m.sqdesc ∧ m.sqacc = none ∧ m.digital = cfg.digital ∧ m.kp = cfg.kp ∧ 1 ≤ m.alen ∧
    (cfg.digital = false → ∀ r ∈ m.aseq, r.all P = true)

section
variable {I : List Bytes → OptRows → Prop} {R : Bytes → Prop} (law : NdLaw I R) (P : UInt8 → Bool)

include law in
theorem afaStartRecord_nd (cfg : Cfg) (st st' : AfaSt) (p : Bytes) (h : afaStartRecord st p = .inl st') (hp : R p)
    (hi : AfaNdInv I P cfg st) : AfaNdInv I P cfg st' := by
  unfold afaStartRecord at h
  cases p with
  | nil => simp at h
  | cons c p1 =>
    simp only at h
    have hp1 : R p1 := law.sub _ _ (List.sublist_cons_self c p1) hp
    cases hm : memtok p1 blankTab with
    | none => rw [hm] at h; simp only at h; split at h <;> simp at h
    | some tr =>
      obtain ⟨tok, rest⟩ := tr
      rw [hm] at h
      simp only at h
      repeat' split at h
      all_goals first
        | (injection h with h; subst h
           exact { nd := law.add st.names st.sqdesc st.idx p1 tok rest _ hi.nd hp1 hm (Or.inl rfl)
                   rows := hi.rows, cur := fun _ r hr => by simp at hr })
        | (injection h with h; subst h
           exact { nd := law.add st.names st.sqdesc st.idx p1 tok rest _ hi.nd hp1 hm
                     (Or.inr ⟨by simpa using (by assumption : ¬ rest.isEmpty = true), rfl⟩)
                   rows := hi.rows, cur := fun _ r hr => by simp at hr })
        | (simp at h)

theorem afaFinishRecord_nd (cfg : Cfg) (st st' : AfaSt) (h : afaFinishRecord cfg st = .inl st') (hi : AfaNdInv I P cfg st) :
    AfaNdInv I P cfg st' ∧ st'.alen ≠ 0 := by
  unfold afaFinishRecord at h
  simp only at h
  by_cases h0 : (rowLen cfg.digital st.cur == 0) = true
  · simp [h0] at h
  · simp only [h0, Bool.false_eq_true, if_false] at h
    split at h
    · simp at h
    · split at h
      · simp at h
      · rename_i r hc
        injection h with h
        subst h
        refine ⟨{ nd := hi.nd, rows := ?_, cur := fun _ r hr => by simp at hr }, by simpa using h0⟩
        intro hd r' hr'
        rcases List.mem_append.mp hr' with h1 | h1
        · exact hi.rows hd r' h1
        · simp at h1; subst h1; exact hi.cur hd r' hc

include law in
theorem afaStep_nd (cfg : Cfg) (hg : cfg.digital = false → cfg.inmap.emits P = true) (st : AfaSt) (l : Bytes) (hl : R l)
    (hi : AfaNdInv I P cfg st) : StepOk (AfaNdInv I P cfg) (AfaGood I P cfg) (afaStep cfg st l) := by
  have hdw : R (l.dropWhile isSpace) := law.sub _ _ (List.dropWhile_sublist _) hl
  cases hs : afaStep cfg st l with
  | inr r =>
    intro m hm
    exact (afaStep_notOk cfg st l m (hm ▸ hs)).elim
  | inl st' =>
    show AfaNdInv I P cfg st'
    unfold afaStep at hs
    by_cases hld : st.lead = true
    · simp only [hld, if_true] at hs
      by_cases hb : isBlankLine l = true
      · simp only [hb, if_true] at hs
        injection hs with hs; subst hs; exact hi
      · simp only [hb, Bool.false_eq_true, if_false] at hs
        split at hs
        · simp at hs
        · split at hs
          · simp at hs
          · exact afaStartRecord_nd law P cfg _ _ _ hs hdw hi
    · simp only [hld, Bool.false_eq_true, if_false] at hs
      split at hs
      · injection hs with hs; subst hs; exact hi
      · split at hs
        · split at hs
          · rename_i st1 hfin
            exact afaStartRecord_nd law P cfg st1 st' _ hs hdw (afaFinishRecord_nd P cfg st st1 hfin hi).1
          · simp at hs
        · split at hs
          · simp at hs
          · simp at hs
          · injection hs with hs
            subst hs
            refine { nd := hi.nd, rows := hi.rows, cur := ?_ }
            intro hd r hr
            have h2 : (strmapcat cfg.inmap st.cur (l.dropWhile isSpace)).2 = some r := by simpa [hd] using hr
            exact strmapcat_all cfg.inmap P (hg hd) st.cur _ (hi.cur hd) r h2

include law in
theorem afaFinish_nd (cfg : Cfg) (st : AfaSt) (hi : AfaNdInv I P cfg st) : AfaGood I P cfg (afaFinish cfg st) := by
  unfold afaFinish
  split
  · intro m hm; simp at hm
  · split
    · rename_i r hfin
      intro m hm
      subst hm
      exact absurd hfin (afaFinishRecord_notOk cfg st m)
    · rename_i st1 hfin
      obtain ⟨h1, h2⟩ := afaFinishRecord_nd P cfg st st1 hfin hi
      intro m hm
      injection hm with hm
      subst hm
      refine ⟨law.pad _ _ _ h1.nd, rfl, rfl, rfl, by show 1 ≤ st1.alen; omega, ?_⟩
      intro hd r hr
      simp only [hd, Bool.false_eq_true, if_false] at hr
      exact h1.rows hd r hr

include law in
theorem afaRead_inv (cfg : Cfg) (hg : cfg.digital = false → cfg.inmap.emits P = true) (lines : List Bytes)
    (hl : ∀ l ∈ lines, R l) : AfaGood I P cfg (afaRead cfg lines).1 :=
  runLines_inv_mem (afaStep cfg) (afaFinish cfg) (AfaNdInv I P cfg) (AfaGood I P cfg) R
    (fun st l hR h => afaStep_nd law P cfg hg st l hR h) (fun st h => afaFinish_nd law P cfg st h) lines {} hl
    { nd := law.init, rows := fun _ r h => by simp at h, cur := fun _ r h => by simp at h }

end

def AfaNdGood (cfg : Cfg) (r : Res Msa) : Prop :=
  ∀ m, r = .ok m → NamesDescsOk m.names m.sqdesc ∧ m.sqacc = none ∧ m.digital = cfg.digital ∧ m.kp = cfg.kp ∧ 1 ≤ m.alen ∧
    (cfg.digital = false → ∀ r ∈ m.aseq, r.all afaResCh = true)

theorem afaRead_nd (cfg : Cfg) (hg : cfg.digital = false → cfg.inmap.emits afaResCh = true) (lines : List Bytes) :
    AfaNdGood cfg (afaRead cfg lines).1 :=
  afaRead_inv namesDescsLaw afaResCh cfg hg lines (fun _ _ => trivial)

/-- no name/description line the AFA writer will print holds a LF or ends in CR -/
def afaHdrOkB (m : Msa) : Bool :=
  (List.range m.nseq).all fun i => !(afaHeader m i).contains 10 && (afaHeader m i).getLast? != some 13

theorem afaHdrOkB_lineOk (m : Msa) (h : afaHdrOkB m = true) : ∀ i, i < m.nseq → lineOk (afaHeader m i) := by
  intro i hi
  have := (List.all_eq_true.mp h) i (List.mem_range.mpr hi)
  simp only [Bool.and_eq_true, Bool.not_eq_true', bne_iff_ne, ne_eq] at this
  exact ⟨by simpa using this.1, this.2⟩

def afaTextGraphB : Bool := (afaInmap none).emits afaResCh

theorem afaTextGraphB_true : afaTextGraphB = true := by
  simp only [afaTextGraphB, InMap.emits, afaInmap_text_get]
  decide +kernel

/-- **what the AFA reader returns in text mode can be written and read back**, given that the name lines survive -/
theorem afaRead_domain_text (lines : List Bytes) (m : Msa) (rest : List Bytes)
    (h : afaRead (afaCfg none) lines = (.ok m, rest)) (hh : afaHdrOkB m = true) : AfaTextWritable m := by
  have hg := afaRead_good (afaCfg none) (afaCfg_valid abcOk_none) lines
  have hn := afaRead_nd (afaCfg none) (fun _ => afaTextGraphB_true) lines
  rw [h] at hg hn
  obtain ⟨hnd, hacc, hdig, _, halen, hgr⟩ := hn m rfl
  have hdig' : m.digital = false := hdig
  obtain ⟨h1, hrows⟩ := rd_wellFormed_rows m hg
  rw [hdig'] at hrows
  simp only [Bool.false_eq_true, if_false] at hrows
  exact
    { dig := hdig', n1 := h1, alen1 := halen, acc_none := hacc
      name_ok := fun i hi => hnd.1 _ (getD_mem_of_lt hi)
      desc_ok := fun i _ d hd => hnd.2 i d hd
      hdr_line := afaHdrOkB_lineOk m hh
      row_ok := fun i hi => by
        have hmem : m.aseq.getD i [] ∈ m.aseq := getD_mem_of_lt (by rw [hrows.1]; exact hi)
        refine ⟨(hrows.2 _ hmem).1, fun t ht => ?_⟩
        have := (List.all_eq_true.mp (hgr rfl _ hmem)) t ht
        simp only [afaResCh, Bool.and_eq_true, bne_iff_ne, ne_eq] at this
        exact this }

/-- … and in digital mode (no condition on the residues: no alphabet symbol is `>`) -/
theorem afaRead_domain_digital (a : Abc) (hv : (afaCfg (some a)).valid) (lines : List Bytes) (m : Msa) (rest : List Bytes)
    (h : afaRead (afaCfg (some a)) lines = (.ok m, rest)) (hh : afaHdrOkB m = true) : AfaDigitalWritable a m := by
  have hg := afaRead_good (afaCfg (some a)) hv lines
  have hn := afaRead_nd (afaCfg (some a)) (fun hd => by simp [afaCfg, Cfg.digital] at hd) lines
  rw [h] at hg hn
  obtain ⟨hnd, hacc, hdig, hkp, halen, _⟩ := hn m rfl
  have hdig' : m.digital = true := hdig
  have hkp' : m.kp = a.kp := hkp
  obtain ⟨h1, hrows⟩ := rd_wellFormed_rows m hg
  rw [hdig'] at hrows
  simp only [if_true] at hrows
  exact
    { dig := hdig', n1 := h1, alen1 := halen, acc_none := hacc
      name_ok := fun i hi => hnd.1 _ (getD_mem_of_lt hi)
      desc_ok := fun i _ d hd => hnd.2 i d hd
      hdr_line := afaHdrOkB_lineOk m hh
      row_ok := fun i hi => by
        rw [← hkp']
        exact hrows.2 _ (getD_mem_of_lt (l := m.ax) (d := []) (by rw [hrows.1]; exact hi)) }


/-- **if no input line holds a CR or a LF, the name lines of the alignment read survive a write** -/
theorem afaHdrOkB_of_lines (cfg : Cfg) (lines : List Bytes) (m : Msa) (rest : List Bytes)
    (h : afaRead cfg lines = (.ok m, rest)) (hl : ∀ l ∈ lines, ∀ x ∈ l, notCrLf x = true) : afaHdrOkB m = true := by
  have hq := afaRead_inv (bytesLaw notCrLf) (fun _ => true) cfg (fun _ => InMap.emits_true _) lines hl
  rw [h] at hq
  obtain ⟨⟨hq1, hq2⟩, hacc, _⟩ := hq m rfl
  unfold afaHdrOkB
  rw [List.all_eq_true]
  intro i hi
  have hi' := List.mem_range.mp hi
  apply hdrBytes_ok
  intro x hx
  unfold afaHeader at hx
  have hacc' : optAt m.sqacc i = none := by simp [optAt, hacc]
  rw [hacc'] at hx
  simp only [List.append_nil, List.mem_append, List.mem_singleton] at hx
  rcases hx with (rfl | hx) | hx
  · decide
  · exact hq1 _ (getD_mem_of_lt hi') x hx
  · cases hd : optAt m.sqdesc i with
    | none => rw [hd] at hx; simp at hx
    | some d =>
      rw [hd] at hx
      rcases List.mem_cons.mp hx with rfl | hx
      · decide
      · exact hq2 i d hd x hx

end EaselModel.Msafile
