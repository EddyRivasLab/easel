import EaselModel.Msafile.Guess
import EaselModel.Core.ListWhile
/-! Facts about the open path (`Msafile/Guess.lean`): the bounds-checked accesses of the guessers cannot fail.

* alphabet guessers: `ct[x]++` with `x = toupper(c) - 'A'` for `isalpha(c)` stays inside `ct[0..25]`;
* `phylip_check_sequential_unknown`: `p[w]` and `p[0..w-1]` on the first line of each further sequence are read only
  after the test `n <= w`, the test on the first sequence uses `firstns` and reads nothing;
* `esl_msafile_GuessFileFormat`'s own rules, `msafile_check_selex`, `phylip_check_interleaved` (with
  `phylip_collate_colcodes`, `phylip_deduce_namewidth`) and `phylip_check_sequential_known` index only through their loop
  bounds (`c < ncols && c < n`, `c < n`, …): in the model they walk the lists and have no failing access at all. -/
namespace EaselModel.Msafile

/-- a letter is in `A … Z` after `toupper`: `x = toupper(c) - 'A'` indexes `ct[0..25]` -/
theorem alpha_index_lt (c : UInt8) (h : isAlpha c = true) : (toUpper c).toNat - 65 < 26 := by
  unfold toUpper
  simp only [isAlpha, isUpper, isLower, Bool.or_eq_true, Bool.and_eq_true, decide_eq_true_eq, UInt8.le_iff_toNat_le] at h ⊢
  split
  · rename_i hl
    rw [UInt8.toNat_sub_of_le _ _ (UInt8.le_iff_toNat_le.mpr (by simp at hl ⊢; omega))]
    simp at hl ⊢; omega
  · rename_i hl
    simp at h hl ⊢; omega

theorem ctBump_some (ct : List Nat) (x : Nat) (h : x < ct.length) :
    ∃ ct', ctBump ct x = some ct' ∧ ct'.length = ct.length := by
  unfold ctBump
  rw [List.getElem?_eq_getElem h]
  exact ⟨_, rfl, by simp⟩

/-- the counting loop never indexes outside `ct[0..25]` -/
theorem countLine_some : ∀ (p : Bytes) (ct : List Nat) (nres : Nat), ct.length = 26 →
    ∃ ct' nres', countLine p ct nres = some (ct', nres') ∧ ct'.length = 26 := by
  intro p
  induction p with
  | nil => intro ct nres h; exact ⟨ct, nres, rfl, h⟩
  | cons c p ih =>
    intro ct nres h
    unfold countLine
    by_cases ha : isAlpha c = true
    · simp only [ha, if_true]
      obtain ⟨ct1, h1, hl⟩ := ctBump_some ct ((toUpper c).toNat - 65) (by rw [h]; exact alpha_index_lt c ha)
      rw [h1]
      exact ih ct1 (nres + 1) (by rw [hl, h])
    · simp only [ha, Bool.false_eq_true, if_false]
      exact ih ct nres h

/-- what counting one line can do: go on with a table of as many cells, stop with an answer of `esl_abc_GuessAlphabet`, or fault, which
    needs a `ct` that has not its 26 cells -/
theorem agCount_out (st : AgSt) (p : Bytes) :
    (∃ st', agCount st p = .inl st' ∧ (st.ct.length = 26 → st'.ct.length = 26)) ∨
    (∃ ct t, abcGuess ct = some t ∧ agCount st p = .inr (.ok t)) ∨
    (agCount st p = .inr .fault ∧ st.ct.length ≠ 26) := by
  unfold agCount
  cases hc : countLine p st.ct st.nres with
  | none =>
    refine .inr (.inr ⟨rfl, fun h => ?_⟩)
    obtain ⟨_, _, e, _⟩ := countLine_some p st.ct st.nres h
    rw [hc] at e; cases e
  | some x =>
    obtain ⟨ct, nres⟩ := x
    have hl : st.ct.length = 26 → ct.length = 26 := fun h => by
      obtain ⟨_, _, e, hl⟩ := countLine_some p st.ct st.nres h
      rw [hc] at e; cases e; exact hl
    simp only
    split
    · cases hg : abcGuess ct with
      | some t => exact .inr (.inl ⟨ct, t, hg, rfl⟩)
      | none => exact .inl ⟨_, rfl, hl⟩
    · exact .inl ⟨_, rfl, hl⟩

theorem agRun_no_fault (sel : Bytes → Option Bytes) : ∀ (lines : List Bytes) (st : AgSt), st.ct.length = 26 →
    agRun sel lines st ≠ .fault
  | [], st, _ => by unfold agRun; split <;> simp
  | l :: ls, st, h => by
    unfold agRun
    cases sel l with
    | none => exact agRun_no_fault sel ls st h
    | some p =>
      simp only
      rcases agCount_out st p with ⟨st', e, hl⟩ | ⟨ct, t, _, e⟩ | ⟨_, hn⟩
      · rw [e]; exact agRun_no_fault sel ls st' (hl h)
      · rw [e]; simp
      · exact absurd h hn

/-- **alphabet guessing never faults**: in every format, for every name width and every input -/
theorem guessAlphabet_no_fault (fmt : Fmt) (namewidth : Nat) (lines : List Bytes) :
    guessAlphabet fmt namewidth lines ≠ .fault := by
  have h0 : ({} : AgSt).ct.length = 26 := by decide
  unfold guessAlphabet
  cases fmt <;> simp only
  · exact agRun_no_fault _ _ _ h0
  · exact agRun_no_fault _ _ _ h0
  · exact agRun_no_fault _ _ _ h0
  · exact agRun_no_fault _ _ _ h0
  · exact agRun_no_fault _ _ _ h0
  · exact agRun_no_fault _ _ _ h0
  · split
    · simp
    · exact agRun_no_fault _ _ _ h0
  · split
    · simp
    · exact agRun_no_fault _ _ _ h0
  · split
    · simp
    · exact agRun_no_fault _ _ _ h0
  · split
    · simp
    · exact agRun_no_fault _ _ _ h0

/-- what `esl_abc_GuessAlphabet` answers when it answers: the guessers return nothing else -/
theorem agRun_ok_is_guess (sel : Bytes → Option Bytes) : ∀ (lines : List Bytes) (st : AgSt) (t : AbcType),
    agRun sel lines st = .ok t → ∃ ct, abcGuess ct = some t
  | [], st, t, h => by
    unfold agRun at h
    cases hg : abcGuess st.ct with
    | none => rw [hg] at h; simp at h
    | some t' => rw [hg] at h; simp only [Chk.ok.injEq] at h; exact ⟨st.ct, by rw [hg, h]⟩
  | l :: ls, st, t, h => by
    unfold agRun at h
    cases hs : sel l with
    | none => rw [hs] at h; exact agRun_ok_is_guess sel ls st t h
    | some p =>
      rw [hs] at h
      simp only at h
      rcases agCount_out st p with ⟨st', e, _⟩ | ⟨ct, t', hg, e⟩ | ⟨e, _⟩
      · rw [e] at h; exact agRun_ok_is_guess sel ls st' t h
      · rw [e] at h; cases h; exact ⟨ct, hg⟩
      · rw [e] at h; cases h

/-- small samples are never guessed: with at most 10 counted residues `esl_abc_GuessAlphabet` answers eslENOALPHABET -/
theorem abcGuess_small (ct : List Nat) (h : (ct.take 26).foldl (· + ·) 0 ≤ 10) : abcGuess ct = none := by
  unfold abcGuess
  simp only [h, if_true]

theorem nameChk_some : ∀ (w : Nat) (p : Bytes), w ≤ p.length → nameChk w p ≠ none := by
  intro w
  induction w with
  | zero => intro p _; unfold nameChk; simp
  | succ w ih =>
    intro p h
    cases p with
    | nil => simp at h
    | cons c t =>
      unfold nameChk
      by_cases hc : isSpace c = true
      · simp only [hc, if_true]; exact ih t (by simpa using h)
      · simp only [hc, Bool.false_eq_true, if_false]; simp

/-- the loop over the further sequences: `p[w]` and `p[0..w-1]` are inside the line (`n <= w` was tested first) -/
theorem seqUnkRest_no_fault (w alen nblocks : Nat) : ∀ (j : Nat) (s : List Bytes),
    seqUnkRest w alen nblocks j s ≠ .fault := by
  intro j
  induction j with
  | zero => intro s; unfold seqUnkRest; simp
  | succ j ih =>
    intro s
    unfold seqUnkRest
    cases hn : nextNonblank s with
    | none => simp
    | some x =>
      obtain ⟨p, r⟩ := x
      simp only
      by_cases hl : p.length ≤ w
      · simp [hl]
      · simp only [hl, if_false]
        have hlt : w < p.length := by omega
        rw [List.getElem?_eq_getElem hlt]
        simp only
        split
        · simp
        · have hnc := nameChk_some w p (by omega)
          cases hk : nameChk w p with
          | none => exact absurd hk hnc
          | some b =>
            cases b with
            | false => simp
            | true =>
              simp only
              cases hcl : contLines (nblocks - 1) r ((p.drop w).countP phyLegal) with
              | none => simp
              | some y =>
                obtain ⟨len2, r'⟩ := y
                simp only
                split
                · simp
                · exact ih r'

theorem checkSeqUnknown_no_fault (lines : List Bytes) : checkSeqUnknown lines ≠ .fault := by
  unfold checkSeqUnknown
  split
  · simp
  · simp
  · rename_i nseq alen l1 s1 _
    simp only
    split
    · simp
    · split
      · simp
      · rename_i b s2 _
        split
        · simp
        · split
          · simp
          · split
            · simp
            · rename_i w _
              split
              · simp
              · have := seqUnkRest_no_fault w alen (((lines.countP fun l => !isBlankLine l) - 1) / nseq) (min nseq 100 - 1) s2
                split <;> simp_all

theorem phyCheckFileFormat_no_fault (lines : List Bytes) : phyCheckFileFormat lines ≠ .fault := by
  unfold phyCheckFileFormat
  simp only
  split
  · simp
  · by_cases hk : checkSeqKnown 10 lines = true
    · simp only [hk, if_true]
      split <;> simp
    · simp only [hk, Bool.false_eq_true, if_false]
      have := checkSeqUnknown_no_fault lines
      cases hu : checkSeqUnknown lines with
      | fault => exact absurd hu this
      | ok w2 => simp only; split <;> simp
      | fail => simp only; split <;> simp

/-- **format autodetection never faults**: for every file name and every input -/
theorem guessFormat_no_fault (fname : Option Bytes) (lines : List Bytes) : guessFormat fname lines ≠ .fault := by
  unfold guessFormat
  simp only
  split
  · simp
  · split
    · split <;> simp
    · simp
    · simp
    · split <;> simp
    · split
      · simp
      · split
        · simp
        · exact phyCheckFileFormat_no_fault lines
    · split
      · simp
      · split
        · split <;> simp
        · simp

theorem openAbc_no_fault (fmt : Fmt) (nw : Nat) (asel : AbcSel) (lines : List Bytes) : openAbc fmt nw asel lines ≠ .fault := by
  unfold openAbc
  cases asel with
  | text => simp
  | given t => simp
  | guess =>
    simp only
    have hg := guessAlphabet_no_fault fmt nw lines
    cases hga : guessAlphabet fmt nw lines with
    | fault => exact absurd hga hg
    | ok t => simp
    | fail => simp

theorem openFmt_no_fault (fsel : FmtSel) (fname : Option Bytes) (lines : List Bytes) : openFmt fsel fname lines ≠ .fault := by
  unfold openFmt
  cases fsel with
  | auto => exact guessFormat_no_fault fname lines
  | decl f => simp

theorem abcOfType_std (t : AbcType) : abcOfType t = abcAmino ∨ abcOfType t = abcDna ∨ abcOfType t = abcRna := by
  cases t <;> simp [abcOfType]

/-- opening with autodetection and the alphabet not guessed: the format is what `guessFormat` says -/
theorem openBytes_auto_of_guess {fname : Option Bytes} {src : Bytes} {fmt : Fmt} {nw : Nat}
    (h : guessFormat fname (splitLines src) = .ok (fmt, nw)) :
    openBytes .auto .text fname src = .ok ⟨fmt, none, nw⟩ ∧
    ∀ t, openBytes .auto (.given t) fname src = .ok ⟨fmt, some t, nw⟩ := by
  simp only [openBytes, openModel, openFmt, h, openAbc, and_self, implies_true]

theorem OpenRes.of_ne_fault {r : OpenRes} (h : r ≠ .fault) : (∃ o, r = .ok o) ∨ r = .enoformat ∨ r = .enoalphabet := by
  cases r with
  | ok o => exact Or.inl ⟨o, rfl⟩
  | enoformat => exact Or.inr (Or.inl rfl)
  | enoalphabet => exact Or.inr (Or.inr rfl)
  | fault => exact absurd rfl h

/-- **the open path never faults** -/
theorem openModel_no_fault (fsel : FmtSel) (asel : AbcSel) (fname : Option Bytes) (lines : List Bytes) :
    openModel fsel asel fname lines ≠ .fault := by
  unfold openModel
  have hf := openFmt_no_fault fsel fname lines
  cases hfr : openFmt fsel fname lines with
  | fault => exact absurd hfr hf
  | fail => simp
  | ok x =>
    obtain ⟨fmt, nw⟩ := x
    exact openAbc_no_fault fmt nw asel lines

/-- no caller-supplied format data (or `namewidth = 0`, unset) is the plain open path -/
theorem openModelW_zero (fsel : FmtSel) (asel : AbcSel) (fname : Option Bytes) (lines : List Bytes) :
    openModelW 0 fsel asel fname lines = openModel fsel asel fname lines := by
  cases fsel <;> rfl

/-- under autodetection the caller's format data is forgotten -/
theorem openModelW_auto (nw0 : Nat) (asel : AbcSel) (fname : Option Bytes) (lines : List Bytes) :
    openModelW nw0 .auto asel fname lines = openModel .auto asel fname lines := rfl

theorem openModelW_no_fault (nw0 : Nat) (fsel : FmtSel) (asel : AbcSel) (fname : Option Bytes) (lines : List Bytes) :
    openModelW nw0 fsel asel fname lines ≠ .fault := by
  cases fsel with
  | decl f => exact openAbc_no_fault f nw0 asel lines
  | auto => exact openModel_no_fault .auto asel fname lines

/-- a declared format is never second-guessed, and text mode never fails to open -/
theorem openModel_decl_text (f : Fmt) (fname : Option Bytes) (lines : List Bytes) :
    openModel (.decl f) .text fname lines = .ok ⟨f, none, 0⟩ := rfl

theorem openModel_decl_given (f : Fmt) (t : AbcType) (fname : Option Bytes) (lines : List Bytes) :
    openModel (.decl f) (.given t) fname lines = .ok ⟨f, some t, 0⟩ := rfl

/-- eslENOFORMAT only with autodetection, eslENOALPHABET only with alphabet guessing -/
theorem openModel_enoformat_auto (fsel : FmtSel) (asel : AbcSel) (fname : Option Bytes) (lines : List Bytes)
    (h : openModel fsel asel fname lines = .enoformat) : fsel = .auto := by
  cases fsel with
  | auto => rfl
  | decl f =>
    exfalso
    have h' : openAbc f 0 asel lines = .enoformat := h
    unfold openAbc at h'
    cases asel with
    | text => simp at h'
    | given t => simp at h'
    | guess =>
      simp only at h'
      cases hga : guessAlphabet f 0 lines <;> rw [hga] at h' <;> simp at h'

theorem openModel_enoalphabet_guess (fsel : FmtSel) (asel : AbcSel) (fname : Option Bytes) (lines : List Bytes)
    (h : openModel fsel asel fname lines = .enoalphabet) : asel = .guess := by
  cases asel with
  | guess => rfl
  | text | given _ =>
    exfalso
    unfold openModel at h
    cases hfr : openFmt fsel fname lines with
    | fault => rw [hfr] at h; simp at h
    | fail => rw [hfr] at h; simp at h
    | ok x => rw [hfr] at h; simp [openAbc] at h

/-- an input without a non-blank line has no format -/
theorem guessFormat_blank (fname : Option Bytes) (lines : List Bytes) (h : lines.all isBlankLine = true) :
    guessFormat fname lines = .fail := by
  unfold guessFormat
  simp only
  rw [dropWhile_all lines (List.all_eq_true.mp h)]

end EaselModel.Msafile
