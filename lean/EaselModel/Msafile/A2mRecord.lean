import EaselModel.Msafile.A2m
/-! What `esl_msafile_a2m_Read` does inside one record.  Between two lines the locals of the record being read are functions of the
    word `w` of flagged characters (letters other than `O`/`o`, and `-`) read so far in it: `csflag[nseq]` holds `flagsOf w` and the
    sentinel, `this_ncons = consCount w`, `this_nins` starts with the run lengths `runsL [] 0 w` (`RecAt`).  `a2mChars_run` and
    `a2mSeqLine_run` say what a line does to such a state, whatever the line: the reader's invariant (A2mLemmas.lean) says that
    there is such a word, the round trip (A2mInsRoundTrip.lean) which one it is. -/
namespace EaselModel.Msafile


/-- a lower-case letter is none of the bytes the reader treats specially -/
theorem isLower_facts (t : UInt8) (h : isLower t = true) :
    isUpper t = false ∧ t ≠ 45 ∧ isSpace t = false ∧ t ≠ 62 ∧ t ≠ 0 := by
  have h' : 97 ≤ t.toNat ∧ t.toNat ≤ 122 := by simpa [isLower, UInt8.le_iff_toNat_le] using h
  refine ⟨?_, ?_, ?_, ?_, ?_⟩
  · rw [Bool.eq_false_iff]; intro hu
    have : 65 ≤ t.toNat ∧ t.toNat ≤ 90 := by simpa [isUpper, UInt8.le_iff_toNat_le] using hu
    omega
  · intro e; subst e; exact absurd h'.1 (by decide)
  · rw [Bool.eq_false_iff]; intro hs
    have : t.toNat = 32 ∨ (9 ≤ t.toNat ∧ t.toNat ≤ 13) := by
      simpa [isSpace, UInt8.le_iff_toNat_le, ← UInt8.toNat_inj] using hs
    omega
  · intro e; subst e; exact absurd h'.1 (by decide)
  · intro e; subst e; exact absurd h'.1 (by decide)

/-- nor is an upper-case letter or `-` -/
theorem consByte_facts (t : UInt8) (h : isUpper t = true ∨ t = 45) :
    isLower t = false ∧ isSpace t = false ∧ t ≠ 62 ∧ t ≠ 0 := by
  rcases h with h | h
  · have h' : 65 ≤ t.toNat ∧ t.toNat ≤ 90 := by simpa [isUpper, UInt8.le_iff_toNat_le] using h
    refine ⟨?_, ?_, ?_, ?_⟩
    · rw [Bool.eq_false_iff]; intro hl; exact absurd h (by rw [(isLower_facts t hl).1]; simp)
    · rw [Bool.eq_false_iff]; intro hs
      have : t.toNat = 32 ∨ (9 ≤ t.toNat ∧ t.toNat ≤ 13) := by
        simpa [isSpace, UInt8.le_iff_toNat_le, ← UInt8.toNat_inj] using hs
      omega
    · intro e; subst e; exact absurd h'.1 (by decide)
    · intro e; subst e; exact absurd h'.1 (by decide)
  · subst h; decide

/-- the `csflag` loop writes a flag for this byte -/
def a2mFlagged (c : UInt8) : Bool := !a2mSkip c && (isUpper c || isLower c || c == 45)

/-- number of consensus characters (anything but a lower-case letter) of a written row -/
def consCount (w : Bytes) : Nat := w.countP fun t => !isLower t

/-- the `csflag` values of a written row -/
def flagsOf (w : Bytes) : List Bool := w.map fun t => !isLower t

@[simp] theorem consCount_nil : consCount [] = 0 := rfl
@[simp] theorem flagsOf_nil : flagsOf [] = [] := rfl
@[simp] theorem flagsOf_length (w : Bytes) : (flagsOf w).length = w.length := by simp [flagsOf]
theorem flagsOf_append (a b : Bytes) : flagsOf (a ++ b) = flagsOf a ++ flagsOf b := by simp [flagsOf]
theorem consCount_append (a b : Bytes) : consCount (a ++ b) = consCount a + consCount b := by simp [consCount]
theorem consCount_le (w : Bytes) : consCount w ≤ w.length := by unfold consCount; exact List.countP_le_length

theorem consCount_cons_lower (t : UInt8) (w : Bytes) (h : isLower t = true) : consCount (t :: w) = consCount w := by
  simp [consCount, h]

theorem consCount_cons_notLower (t : UInt8) (w : Bytes) (h : isLower t = false) : consCount (t :: w) = consCount w + 1 := by
  simp [consCount, h]

/-- `this_nins[0..this_ncons-1]` and `this_nins[this_ncons]` after the characters `w`, from `A`, `n` -/
def runsL : List Nat → Nat → Bytes → List Nat × Nat
  | A, n, [] => (A, n)
  | A, n, t :: w => if isLower t then runsL A (n + 1) w else runsL (A ++ [n]) 0 w

theorem runsL_append (w1 : Bytes) : ∀ (A : List Nat) (n : Nat) (w2 : Bytes),
    runsL A n (w1 ++ w2) = runsL (runsL A n w1).1 (runsL A n w1).2 w2 := by
  induction w1 with
  | nil => intro A n w2; simp [runsL]
  | cons t w1 ih =>
    intro A n w2
    simp only [List.cons_append, runsL]
    split
    · exact ih _ _ _
    · exact ih _ _ _

theorem runsL_length (w : Bytes) : ∀ (A : List Nat) (n : Nat), (runsL A n w).1.length = A.length + consCount w := by
  induction w with
  | nil => intro A n; simp [runsL]
  | cons t w ih =>
    intro A n
    simp only [runsL]
    cases h : isLower t with
    | true => simp only [if_true, ih, consCount_cons_lower t w h]
    | false =>
      simp only [Bool.false_eq_true, if_false, ih, consCount_cons_notLower t w h, List.length_append, List.length_singleton]
      omega

/-- a store at any initialised cell, or at the first cell behind them, inside the allocation -/
theorem csWrite_ok (fl : List Bool) (alloc i : Nat) (v : Bool) (h1 : i ≤ fl.length) (h2 : i < alloc) :
    ∃ fl', csWrite fl alloc i v = some fl' ∧ i + 1 ≤ fl'.length ∧ fl'.take (i + 1) = fl.take i ++ [v] := by
  unfold csWrite
  have : ¬ i ≥ alloc := by omega
  simp only [this, if_false]
  by_cases hlt : i < fl.length
  · simp only [hlt, if_true]
    refine ⟨_, rfl, by simp; omega, ?_⟩
    rw [List.take_add_one, List.take_set_of_le (Nat.le_refl i)]
    simp [hlt]
  · have he : i = fl.length := by omega
    subst he
    simp only [Nat.lt_irrefl, if_false, beq_self_eq_true, if_true]
    refine ⟨_, rfl, by simp, ?_⟩
    rw [List.take_of_length_le (by simp), List.take_of_length_le (Nat.le_refl _)]

theorem csWrite_at (F X : List Bool) (alloc : Nat) (v : Bool) (hX : X.length ≤ 1) (ha : F.length < alloc) :
    csWrite (F ++ X) alloc F.length v = some (F ++ [v]) := by
  unfold csWrite
  have h1 : ¬ F.length ≥ alloc := by omega
  simp only [h1, if_false, List.length_append]
  cases X with
  | nil => simp
  | cons x X' =>
    have : X' = [] := by
      cases X' with
      | nil => rfl
      | cons _ _ => simp at hX
    subst this
    simp

theorem incAt_at (A : List Nat) (n : Nat) (Z : List Nat) : incAt (A ++ n :: Z) A.length = some (A ++ (n + 1) :: Z) := by
  unfold incAt
  simp

theorem a2mChar1_ins (alloc : Nat) (t : UInt8) (h : isLower t = true) (s : LineSt) :
    a2mChar1 alloc t s =
      some (match csWrite s.fl alloc s.spos false, incAt s.tn s.tc with
            | some fl, some tn => some { s with fl := fl, spos := s.spos + 1, tn := tn }
            | _, _ => none) := by
  unfold a2mChar1
  simp only [(isLower_facts t h).1, h, Bool.false_eq_true, if_false, if_true]
  rfl

theorem take_runs (A : List Nat) (n : Nat) (Z : List Nat) : (A ++ n :: Z).take (A.length + 1) = A ++ [n] := by
  rw [List.take_length_add_append]
  simp

theorem a2mChar1_cons (alloc : Nat) (t : UInt8) (h : isUpper t = true ∨ t = 45) (s : LineSt) :
    a2mChar1 alloc t s =
      some ((csWrite s.fl alloc s.spos true).map fun fl => { s with fl := fl, spos := s.spos + 1, tc := s.tc + 1 }) := by
  unfold a2mChar1
  rcases h with h | h
  · simp only [h, if_true]
  · subst h
    have h1 : isUpper 45 = false := by decide
    have h2 : isLower 45 = false := by decide
    simp only [h1, h2, Bool.false_eq_true, if_false, beq_self_eq_true, if_true]

/-- the bytes of a sequence line the `csflag` loop acts on: letters other than `O`, `o`, and `-` -/
def kept (p : Bytes) : Bytes := p.filter a2mFlagged

theorem kept_cons_skip {t : UInt8} (p : Bytes) (h : a2mFlagged t = false) : kept (t :: p) = kept p := by
  simp [kept, h]

theorem kept_cons_flag {t : UInt8} (p : Bytes) (h : a2mFlagged t = true) : kept (t :: p) = t :: kept p := by
  simp [kept, h]

/-- what the `csflag` loop over the bytes `p` can do when its arrays are large enough: reach `s'`, on a line without NUL
    that keeps within `ncons` consensus characters; or stop with a format error, on a line that holds a NUL or has too
    many.  Never an access outside the arrays. -/
def CharsRun (nseq ncons : Nat) (p : Bytes) (s' : LineSt) : Sum LineSt (Res Msa) → Prop
  | .inl s => s = s' ∧ (∀ c ∈ p, c ≠ 0) ∧ (nseq = 0 ∨ s'.tc ≤ ncons)
  | .inr r => (∃ msg, r = .eformat msg ∧ msg ≠ "") ∧ ((0 : UInt8) ∈ p ∨ (nseq ≠ 0 ∧ ncons < s'.tc))

theorem CharsRun.cons {nseq ncons : Nat} {p : Bytes} {s' : LineSt} {r : Sum LineSt (Res Msa)} {t : UInt8}
    (h : CharsRun nseq ncons p s' r) (ht : t ≠ 0) : CharsRun nseq ncons (t :: p) s' r := by
  cases r with
  | inl s => exact ⟨h.1, fun c hc => by rcases List.mem_cons.mp hc with e | e; exact e ▸ ht; exact h.2.1 c e, h.2.2⟩
  | inr r => exact ⟨h.1, h.2.imp (List.mem_cons_of_mem _) id⟩

/-- The `csflag` loop from a state in normal form.  `F` = the flags written so far (`spos = F.length`), `X` = what `csflag[nseq]`
    holds behind them: nothing, or the sentinel the previous line left at `[spos]`, which the first flag overwrites.
    `this_nins` = `A` (the runs closed so far, `this_ncons = A.length`), the open run `n`, then `z` cells known to be zero
    (the rest of `[0..ncons]` in a later record, the cells just allocated in the first) and whatever lies behind (`J`). -/
theorem a2mChars_run (nseq ncons alloc : Nat) (J : List Nat) :
    ∀ (p : Bytes) (F X : List Bool) (T : Nat) (A : List Nat) (n z : Nat), X.length ≤ 1 → A.length = T →
      F.length + p.length < alloc → (nseq = 0 → consCount (kept p) ≤ z) → (nseq ≠ 0 → T ≤ ncons ∧ ncons ≤ T + z) →
      CharsRun nseq ncons p
        { spos := F.length + (kept p).length, tc := T + consCount (kept p),
          tn := (runsL A n (kept p)).1 ++ (runsL A n (kept p)).2 :: (List.replicate (z - consCount (kept p)) 0 ++ J),
          fl := F ++ flagsOf (kept p) ++ X.drop (kept p).length }
        (a2mChars nseq ncons alloc p { spos := F.length, tc := T, tn := A ++ n :: (List.replicate z 0 ++ J), fl := F ++ X }) := by
  intro p
  induction p with
  | nil =>
    intro F X T A n z _ _ _ _ hn
    have hT : nseq = 0 ∨ T ≤ ncons := by
      by_cases h : nseq = 0
      · exact Or.inl h
      · exact Or.inr (hn h).1
    simpa [a2mChars, CharsRun, kept, runsL] using hT
  | cons t p ih =>
    intro F X T A n z hX hA ha h0 hn
    simp only [List.length_cons] at ha
    have hXd : X.drop ((kept p).length + 1) = [] := List.drop_eq_nil_of_le (by omega)
    unfold a2mChars
    by_cases hs : a2mSkip t = true
    · -- `O`, `o`: continue
      have hk := kept_cons_skip p (show a2mFlagged t = false by simp [a2mFlagged, hs])
      rw [hk] at h0 ⊢
      simp only [hs, if_true]
      exact (ih F X T A n z hX hA (by omega) h0 hn).cons (by intro e; subst e; exact absurd hs (by decide))
    · have hs : a2mSkip t = false := by simpa using hs
      simp only [hs, Bool.false_eq_true, if_false]
      by_cases hl : isLower t = true
      · -- an insert: a FALSE flag, the open run grows
        have hk := kept_cons_flag p (show a2mFlagged t = true by simp [a2mFlagged, hs, hl])
        rw [hk, consCount_cons_lower t _ hl] at h0 ⊢
        have hcond : (nseq != 0 && decide (T > ncons)) = false := by
          by_cases h : nseq = 0
          · simp [h]
          · have := (hn h).1; simp; omega
        have hinc : incAt (A ++ n :: (List.replicate z 0 ++ J)) T = some (A ++ (n + 1) :: (List.replicate z 0 ++ J)) := by
          rw [← hA]; exact incAt_at A n _
        simp only [a2mChar1_ins alloc t hl, csWrite_at F X alloc false hX (by omega), hinc, hcond, Bool.false_eq_true, if_false]
        have := ih (F ++ [false]) [] T A (n + 1) z (by simp) hA (by simp only [List.length_append, List.length_singleton]; omega) h0 hn
        simp only [List.append_nil, List.length_append, List.length_singleton, List.drop_nil] at this
        have e : ({ spos := F.length + (t :: kept p).length, tc := T + consCount (kept p),
                    tn := (runsL A n (t :: kept p)).1 ++ (runsL A n (t :: kept p)).2 :: (List.replicate (z - consCount (kept p)) 0 ++ J),
                    fl := F ++ flagsOf (t :: kept p) ++ X.drop (t :: kept p).length } : LineSt)
            = { spos := F.length + 1 + (kept p).length, tc := T + consCount (kept p),
                tn := (runsL A (n + 1) (kept p)).1 ++ (runsL A (n + 1) (kept p)).2 :: (List.replicate (z - consCount (kept p)) 0 ++ J),
                fl := F ++ [false] ++ flagsOf (kept p) } := by
          simp only [runsL, hl, if_true, flagsOf, List.map_cons, Bool.not_true, List.length_cons, hXd, List.append_nil,
            List.append_assoc, List.singleton_append, LineSt.mk.injEq, and_true]
          omega
        rw [e]
        exact this.cons (isLower_facts t hl).2.2.2.2
      · have hl : isLower t = false := by simpa using hl
        by_cases hc : isUpper t = true ∨ t = 45
        · -- a consensus character: a TRUE flag, the open run is closed
          have hk := kept_cons_flag p (show a2mFlagged t = true by
            rcases hc with h | h
            · simp [a2mFlagged, hs, h]
            · subst h; decide)
          have ht0 : t ≠ 0 := by
            rcases hc with h | h
            · intro e; subst e; exact absurd h (by decide)
            · subst h; decide
          rw [hk, consCount_cons_notLower t _ hl] at h0 ⊢
          simp only [a2mChar1_cons alloc t hc, csWrite_at F X alloc true hX (by omega), Option.map_some]
          by_cases hov : nseq ≠ 0 ∧ T + 1 > ncons
          · have : (nseq != 0 && decide (T + 1 > ncons)) = true := by simp [hov.1, hov.2]
            simp only [this, if_true]
            exact ⟨⟨_, rfl, by simp [a2mMsgCons]⟩, Or.inr ⟨hov.1, by show ncons < T + (consCount (kept p) + 1); omega⟩⟩
          · have hcond : (nseq != 0 && decide (T + 1 > ncons)) = false := by
              by_cases h : nseq = 0
              · simp [h]
              · have : ¬ T + 1 > ncons := fun hh => hov ⟨h, hh⟩
                simp [this]
            have hz1 : 1 ≤ z := by
              by_cases h : nseq = 0
              · have := h0 h; omega
              · have := hn h; have : ¬ T + 1 > ncons := fun hh => hov ⟨h, hh⟩; omega
            simp only [hcond, Bool.false_eq_true, if_false]
            have htn : A ++ n :: (List.replicate z 0 ++ J) = (A ++ [n]) ++ 0 :: (List.replicate (z - 1) 0 ++ J) := by
              obtain ⟨z', rfl⟩ : ∃ z', z = z' + 1 := ⟨z - 1, by omega⟩
              simp [List.replicate_succ]
            rw [htn]
            have := ih (F ++ [true]) [] (T + 1) (A ++ [n]) 0 (z - 1) (by simp) (by simp [hA])
              (by simp only [List.length_append, List.length_singleton]; omega) (fun h => by have := h0 h; omega)
              (fun h => by have := hn h; have : ¬ T + 1 > ncons := fun hh => hov ⟨h, hh⟩; omega)
            simp only [List.append_nil, List.length_append, List.length_singleton, List.drop_nil] at this
            have e : ({ spos := F.length + (t :: kept p).length, tc := T + (consCount (kept p) + 1),
                        tn := (runsL A n (t :: kept p)).1 ++ (runsL A n (t :: kept p)).2 ::
                                (List.replicate (z - (consCount (kept p) + 1)) 0 ++ J),
                        fl := F ++ flagsOf (t :: kept p) ++ X.drop (t :: kept p).length } : LineSt)
                = { spos := F.length + 1 + (kept p).length, tc := T + 1 + consCount (kept p),
                    tn := (runsL (A ++ [n]) 0 (kept p)).1 ++ (runsL (A ++ [n]) 0 (kept p)).2 ::
                            (List.replicate (z - 1 - consCount (kept p)) 0 ++ J),
                    fl := F ++ [true] ++ flagsOf (kept p) } := by
              have e1 : z - 1 - consCount (kept p) = z - (consCount (kept p) + 1) := by omega
              simp only [runsL, hl, Bool.false_eq_true, if_false, flagsOf, List.map_cons, Bool.not_false, List.length_cons, hXd,
                List.append_nil, List.append_assoc, List.singleton_append, LineSt.mk.injEq, and_true, e1]
              omega
            rw [e]
            exact this.cons ht0
        · -- any other byte: NUL is a format error, the rest is left to the input map
          have hU : isUpper t = false := by simpa using fun h => hc (Or.inl h)
          have hD : (t == 45) = false := by simpa using fun h => hc (Or.inr h)
          have hk := kept_cons_skip p (show a2mFlagged t = false by simp [a2mFlagged, hU, hl, hD])
          rw [hk] at h0 ⊢
          by_cases hN : t = 0
          · subst hN
            exact ⟨⟨_, rfl, by simp [a2mMsgInval]⟩, Or.inl (by simp)⟩
          · have hN' : (t == 0) = false := by simpa using hN
            have hcond : (nseq != 0 && decide (T > ncons)) = false := by
              by_cases h : nseq = 0
              · simp [h]
              · have := (hn h).1; simp; omega
            simp only [a2mChar1, hU, hl, hD, hN', Bool.false_eq_true, if_false, hcond]
            exact (ih F X T A n z hX hA (by omega) h0 hn).cons hN

/-- the reader inside a record of which `w` are the flagged characters read so far (`X`, `z`, `J` as in `a2mChars_run`) -/
structure RecAt (d : Bool) (st : A2mSt) (w : Bytes) (X : List Bool) (z : Nat) (J : List Nat) : Prop where
  len : rowLen d st.cur = w.length
  fl : st.fl = flagsOf w ++ X
  X1 : X.length ≤ 1
  tc : st.tc = consCount w
  tn : st.tn = (runsL [] 0 w).1 ++ (runsL [] 0 w).2 :: (List.replicate z 0 ++ J)
  room : st.nseq ≠ 0 → consCount w ≤ st.ncons ∧ st.ncons ≤ consCount w + z

theorem RecAt.take_tn {d : Bool} {st : A2mSt} {w : Bytes} {X : List Bool} {z : Nat} {J : List Nat} (h : RecAt d st w X z J) :
    st.tn.take (st.tc + 1) = (runsL [] 0 w).1 ++ [(runsL [] 0 w).2] := by
  have hA : (runsL [] 0 w).1.length = consCount w := by rw [runsL_length]; simp
  rw [h.tn, h.tc, ← hA, take_runs]

theorem RecAt.tc_lt {d : Bool} {st : A2mSt} {w : Bytes} {X : List Bool} {z : Nat} {J : List Nat} (h : RecAt d st w X z J) :
    st.tc < st.tn.length := by
  have hA : (runsL [] 0 w).1.length = consCount w := by rw [runsL_length]; simp
  rw [h.tn, h.tc, List.length_append, List.length_cons, hA]
  omega

/-- what one sequence line `p` can do to such a record, `cat` being the outcome of the `*cat` call on the line -/
def SeqLineRun (st : A2mSt) (p w : Bytes) (z : Nat) (J : List Nat) (cat : CatSt × Option Bytes) : Sum A2mSt (Res Msa) → Prop
  | .inl st' => cat.1 = .ok ∧ (∀ c ∈ p, c ≠ 0) ∧ (st.nseq = 0 ∨ consCount (w ++ kept p) ≤ st.ncons) ∧
      st' = { st with cur := cat.2, fl := flagsOf (w ++ kept p) ++ [true], tc := consCount (w ++ kept p),
                      tn := (runsL [] 0 (w ++ kept p)).1 ++ (runsL [] 0 (w ++ kept p)).2 ::
                        (List.replicate ((if st.nseq == 0 then p.length else z) - consCount (kept p)) 0 ++
                          (if st.nseq == 0 then [] else J)) }
  | .inr r => ((∃ msg, r = .eformat msg ∧ msg ≠ "") ∨ (r = .exc ∧ cat.1 = .exc)) ∧
      (cat.1 ≠ .ok ∨ (0 : UInt8) ∈ p ∨ (st.nseq ≠ 0 ∧ st.ncons < consCount (w ++ kept p)))

theorem a2mSeqLine_run (cfg : Cfg) (st : A2mSt) (p w : Bytes) (X : List Bool) (z : Nat) (J : List Nat)
    (h : RecAt cfg.digital st w X z J) :
    SeqLineRun st p w z J (if cfg.digital then dsqcat cfg.inmap st.cur p else strmapcat cfg.inmap st.cur p)
      (a2mSeqLine cfg st p) := by
  have hA : (runsL [] 0 w).1.length = consCount w := by rw [runsL_length]; simp
  have hkl : (kept p).length ≤ p.length := List.length_filter_le _ _
  have hcc := consCount_le (kept p)
  have htake : st.fl.take (w.length + p.length + 1) = flagsOf w ++ X := by
    rw [h.fl]
    apply List.take_of_length_le
    have := h.X1
    simp only [List.length_append, flagsOf_length]
    omega
  -- `this_nins` after the (re)allocation: the first record gets `n` fresh cells, a later one has `[0..ncons]` already
  have htn0 : (if st.nseq == 0 then (if st.tn.length < consCount w + 1 then none else some (st.tn.take (consCount w + 1) ++ List.replicate p.length 0))
        else some st.tn)
      = some ((runsL [] 0 w).1 ++ (runsL [] 0 w).2 ::
          (List.replicate (if st.nseq == 0 then p.length else z) 0 ++ (if st.nseq == 0 then [] else J))) := by
    by_cases h0 : (st.nseq == 0) = true
    · have : ¬ (((runsL [] 0 w).1 ++ (runsL [] 0 w).2 :: (List.replicate z 0 ++ J)).length < (runsL [] 0 w).1.length + 1) := by
        simp only [List.length_append, List.length_cons]; omega
      simp only [h0, if_true, h.tn, ← hA, take_runs, this, if_false, List.append_nil, List.append_assoc, List.singleton_append]
    · simp only [h0, Bool.false_eq_true, if_false, h.tn]
  have hrun := a2mChars_run st.nseq st.ncons (w.length + p.length + 1) (if st.nseq == 0 then [] else J) p (flagsOf w) X (consCount w)
    (runsL [] 0 w).1 (runsL [] 0 w).2 (if st.nseq == 0 then p.length else z) h.X1 hA (by simp)
    (fun h0 => by simp only [h0, beq_self_eq_true, if_true]; omega)
    (fun h0 => by
      have hb : (st.nseq == 0) = false := by simpa using h0
      simp only [hb, Bool.false_eq_true, if_false]; exact h.room h0)
  rw [flagsOf_length] at hrun
  unfold a2mSeqLine
  simp only [h.len, htake, htn0, h.tc]
  revert hrun
  cases a2mChars st.nseq st.ncons (w.length + p.length + 1) p _ with
  | inr r => exact fun hr => ⟨Or.inl hr.1, Or.inr (hr.2.imp id fun hh => ⟨hh.1, by rw [consCount_append]; exact hh.2⟩)⟩
  | inl s =>
    intro ⟨hs, hnul, hfit⟩
    subst hs
    have hXd : X.drop (kept p).length = [] ∨ (kept p = [] ∧ X.drop (kept p).length = X) := by
      cases hk : kept p with
      | nil => exact Or.inr ⟨rfl, rfl⟩
      | cons _ _ => exact Or.inl (List.drop_eq_nil_of_le (by have := h.X1; simp only [List.length_cons]; omega))
    have hfin : csWrite (flagsOf w ++ flagsOf (kept p) ++ X.drop (kept p).length) (w.length + p.length + 1) (w.length + (kept p).length) true
        = some (flagsOf (w ++ kept p) ++ [true]) := by
      have := csWrite_at (flagsOf w ++ flagsOf (kept p)) (X.drop (kept p).length) (w.length + p.length + 1) true
        (by have := h.X1; simp only [List.length_drop]; omega) (by simp; omega)
      simpa [flagsOf_append] using this
    simp only [hfin]
    generalize (if cfg.digital then dsqcat cfg.inmap st.cur p else strmapcat cfg.inmap st.cur p) = cat
    obtain ⟨cs, cur'⟩ := cat
    cases cs with
    | einval => exact ⟨Or.inl ⟨_, rfl, by simp [a2mMsgInval]⟩, Or.inl (by simp)⟩
    | exc => exact ⟨Or.inr ⟨rfl, rfl⟩, Or.inl (by simp)⟩
    | ok =>
      refine ⟨rfl, hnul, hfit.imp id (fun hh => by rw [consCount_append]; exact hh), ?_⟩
      simp only [runsL_append w [] 0 (kept p), consCount_append]

end EaselModel.Msafile
