import EaselModel.Msafile.Lemmas
import EaselModel.Msafile.Afa
/-! What the readers ask of a configuration (`Cfg.valid`) and what they share about rows: a finished row (`rowOkB`, `wellFormed_plain`),
    a row under construction and one call of a `*cat` helper on it (`curOk`, `RowIs.cat`), a table of rows (`RowsWant`).  Then the
    aligned-FASTA reader: its invariant (`AfaInv`), one statement per step function (`…_spec`), `afaRead_good`. -/
namespace EaselModel.Msafile

/-- the input map only emits symbols that may be stored: alphabet codes `< Kp` (digital), non-NUL characters (text) -/
structure Cfg.valid (c : Cfg) : Prop where
  emits : if c.digital then c.inmap.emits (fun x => decide (x.toNat < c.kp)) = true else c.inmap.emits (· != 0) = true
  noExc : c.inmap.noExc = true

/-- what the SELEX reader needs of its configuration beyond `Cfg.valid`: no IGNORED character (else "unexpected
    inconsistency appending a sequence" is thrown), and the gap code used for padding is a symbol of the alphabet -/
def Cfg.selexOk (c : Cfg) : Bool :=
  c.inmap.noIgnore && (match c.abc with | some a => decide (a.gap.toNat < a.kp) | none => true)

def rowOkB (digital : Bool) (kp alen : Nat) (r : Bytes) : Bool :=
  if digital then dsqRowOk kp alen r else (r.length == alen && !r.contains 0)

/-- the row clause of `Msa.wellFormed` as `simp` leaves it on the alignments the readers build (`aseq := if digital then [] else rows`,
    `ax := if digital then rows else []`), for both modes at once -/
theorem rowsOk_of_rowOkB (digital : Bool) (kp alen n : Nat) (rows : List Bytes) (hr : rows.length = n)
    (hok : rows.all (rowOkB digital kp alen) = true) :
    (if digital then ((if digital then rows else []).length == n && (if digital then rows else []).all (dsqRowOk kp alen))
     else ((if digital then [] else rows).length == n &&
       (if digital then [] else rows).all (fun r => r.length == alen && !r.contains 0))) = true := by
  cases digital <;> simpa [rowOkB, hr] using hok

/-- an alignment made of names, rows, default weights and at most an RF line (what AFA, A2M, Clustal, PSI-BLAST, PHYLIP
    return) is well formed -/
theorem wellFormed_plain (digital : Bool) (kp alen : Nat) (names rows : List Bytes) (sqdesc : OptRows) (rf : Option Bytes)
    (h1 : 1 ≤ names.length) (hr : rows.length = names.length) (hok : rows.all (rowOkB digital kp alen) = true)
    (hrf : optLenOk alen rf = true) :
    ({ digital := digital, kp := kp, alen := alen, names := names,
       aseq := if digital then [] else rows, ax := if digital then rows else [],
       hasw := false, wgt := List.replicate names.length Wgt.dflt, rf := rf, sqdesc := sqdesc } : Msa).wellFormed = true := by
  have hrows := rowsOk_of_rowOkB digital kp alen names.length rows hr hok
  simp only [Msa.wellFormed, Msa.nseq, hrows, hrf]
  simp [optLenOk, optRowsOk, h1]

/-- the row being built is a well-formed row of its own current length -/
def curOk (cfg : Cfg) (cur : Option Bytes) : Prop :=
  ∀ r, cur = some r → rowOkB cfg.digital cfg.kp (rowLen cfg.digital cur) r = true

theorem dsqRowOk_build (kp : Nat) (codes : Bytes) (h : codes.all (fun x => decide (x.toNat < kp)) = true) :
    dsqRowOk kp codes.length (dsqSENTINEL :: codes ++ [dsqSENTINEL]) = true := by
  have h' := List.all_eq_true.mp h
  simp [dsqRowOk]
  intro x hx
  simpa using h' x hx

theorem dsqRowOk_codes (kp alen : Nat) (r : Bytes) (h : dsqRowOk kp alen r = true) :
    (dsqCodes (some r)).all (fun x => decide (x.toNat < kp)) = true ∧ (dsqCodes (some r)).length = alen ∧ r.length = alen + 2 := by
  cases r with
  | nil => simp [dsqRowOk] at h
  | cons s0 rest =>
    simp only [dsqRowOk, Bool.and_eq_true, beq_iff_eq] at h
    refine ⟨by simpa [dsqCodes] using h.2, ?_, ?_⟩
    · simp only [dsqCodes, List.drop_succ_cons, List.drop_zero, List.length_dropLast]
      omega
    · simp only [List.length_cons]; omega

theorem dsqCodes_all (cfg : Cfg) (hd : cfg.digital = true) (cur : Option Bytes) (hc : curOk cfg cur) :
    (dsqCodes cur).all (fun x => decide (x.toNat < cfg.kp)) = true := by
  cases cur with
  | none => simp [dsqCodes]
  | some d =>
    have := hc d rfl
    simp only [rowOkB, hd, if_true] at this
    exact (dsqRowOk_codes _ _ _ this).1

theorem curOk_cat (cfg : Cfg) (hv : cfg.valid) (cur : Option Bytes) (p : Bytes) (hc : curOk cfg cur) :
    curOk cfg (if cfg.digital then dsqcat cfg.inmap cur p else strmapcat cfg.inmap cur p).2 := by
  intro r hr
  cases hd : cfg.digital with
  | true =>
    simp only [hd, if_true] at hr
    have hv := hv.emits; simp only [hd, if_true] at hv
    unfold dsqcat at hr
    by_cases hs : p.isEmpty
    · simp only [hs, if_true] at hr
      have := hc r hr
      simp only [hd] at this
      simp only [if_true, dsqcat, hs]
      rw [hr]; rw [hr] at this; exact this
    · simp only [hs, Bool.false_eq_true, if_false, Option.some.injEq] at hr
      have hnew := mapLoop_reverse_all cfg.inmap _ hv p
      have hold := dsqCodes_all cfg hd cur hc
      have hall : (dsqCodes cur ++ (mapLoop cfg.inmap p .ok []).2.reverse).all (fun x => decide (x.toNat < cfg.kp)) = true := by
        rw [List.all_append, hold, hnew]; rfl
      have hb := dsqRowOk_build cfg.kp _ hall
      simp only [if_true, dsqcat, hs, Bool.false_eq_true, if_false]
      rw [← hr]
      simp only [rowOkB, if_true, rowLen]
      have hlen : (dsqSENTINEL :: (dsqCodes cur ++ (mapLoop cfg.inmap p .ok []).2.reverse) ++ [dsqSENTINEL]).length - 2
          = (dsqCodes cur ++ (mapLoop cfg.inmap p .ok []).2.reverse).length := by
        simp only [List.cons_append, List.length_cons, List.length_append, List.length_nil]; omega
      rw [hlen]; exact hb
  | false =>
    simp only [hd, Bool.false_eq_true, if_false] at hr ⊢
    have hv := hv.emits; simp only [hd, Bool.false_eq_true, if_false] at hv
    have hnn := strmapcat_no_nul cfg.inmap hv cur p (by
      intro d hdd
      have := hc d hdd
      simp only [rowOkB, hd, Bool.false_eq_true, if_false, Bool.and_eq_true] at this
      have h2 := this.2
      simp only [Bool.not_eq_true', List.contains_eq_mem, decide_eq_false_iff_not] at h2
      rw [List.all_eq_true]; intro x hx
      simp only [bne_iff_ne, ne_eq]; intro h0; subst h0; exact h2 hx) r hr
    simp only [rowOkB, Bool.false_eq_true, if_false, rowLen, hr, Bool.and_eq_true, beq_iff_eq, true_and]
    simp only [Bool.not_eq_true', List.contains_eq_mem, decide_eq_false_iff_not]
    intro hmem
    have := (List.all_eq_true.mp hnn) 0 hmem
    simp at this

theorem dsqCodes_length (row : Option Bytes) : (dsqCodes row).length = rowLen true row := by
  cases row with
  | none => rfl
  | some d => simp [dsqCodes, rowLen]; omega

/-- `this_alen` after `esl_abc_dsqcat` / `esl_strmapcat`, and their status, in terms of the common loop -/
theorem rowLen_cat (cfg : Cfg) (cur : Option Bytes) (p : Bytes) :
    rowLen cfg.digital (if cfg.digital then dsqcat cfg.inmap cur p else strmapcat cfg.inmap cur p).2
        = rowLen cfg.digital cur + (mapLoop cfg.inmap p .ok []).2.length ∧
      (if cfg.digital then dsqcat cfg.inmap cur p else strmapcat cfg.inmap cur p).1 = (mapLoop cfg.inmap p .ok []).1 := by
  cases p with
  | nil => cases cfg.digital <;> simp [dsqcat, strmapcat, mapLoop]
  | cons c r =>
    cases cfg.digital with
    | true =>
      have := dsqCodes_length cur
      simp only [rowLen, if_true] at this
      simp [dsqcat, rowLen, this]
    | false => cases cur <;> simp [strmapcat, rowLen]

theorem cat_noExc (cfg : Cfg) (hx : cfg.inmap.noExc = true) (row : Option Bytes) (src : Bytes) :
    (if cfg.digital then dsqcat cfg.inmap row src else strmapcat cfg.inmap row src).1 ≠ .exc := by
  by_cases hd : cfg.digital = true
  · simp only [hd, if_true]; exact dsqcat_noExc _ hx _ _
  · simp only [hd, Bool.false_eq_true, if_false]; exact strmapcat_noExc _ hx _ _

/-- a row pointer holding a well-formed row of exactly `len` symbols (NULL = the empty row) -/
def RowIs (cfg : Cfg) (len : Nat) (o : Option Bytes) : Prop := curOk cfg o ∧ rowLen cfg.digital o = len

theorem RowIs.null (cfg : Cfg) : RowIs cfg 0 none := ⟨fun r h => by simp at h, rfl⟩

theorem RowIs.some {cfg : Cfg} {len : Nat} {o : Option Bytes} (h : RowIs cfg len o) (hl : 1 ≤ len) :
    ∃ r, o = some r ∧ rowOkB cfg.digital cfg.kp len r = true := by
  cases o with
  | none => have := h.2; simp [rowLen] at this; omega
  | some r => exact ⟨r, rfl, by have := h.1 r rfl; rw [h.2] at this; exact this⟩

/-- one call of `esl_abc_dsqcat` / `esl_strmapcat`: no exception, and the row stays a well-formed row, longer by what `mapLoop` stored -/
theorem RowIs.cat {cfg : Cfg} (hv : cfg.valid) {len : Nat} {cur : Option Bytes} (h : RowIs cfg len cur) (p : Bytes) :
    (if cfg.digital then dsqcat cfg.inmap cur p else strmapcat cfg.inmap cur p).1 ≠ .exc ∧
    RowIs cfg (len + (mapLoop cfg.inmap p .ok []).2.length)
      (if cfg.digital then dsqcat cfg.inmap cur p else strmapcat cfg.inmap cur p).2 :=
  ⟨cat_noExc cfg hv.noExc cur p, curOk_cat cfg hv cur p h.1, by rw [(rowLen_cat cfg cur p).1, h.2]⟩

/-- every row pointer `i` of the table holds a well-formed row of length `want i` -/
def RowsWant (cfg : Cfg) (rows : List (Option Bytes)) (want : Nat → Nat) : Prop :=
  ∀ i o, rows[i]? = some o → RowIs cfg (want i) o

theorem RowsWant.congr {cfg : Cfg} {rows : List (Option Bytes)} {w w' : Nat → Nat} (h : RowsWant cfg rows w)
    (hw : ∀ i, i < rows.length → w i = w' i) : RowsWant cfg rows w' := by
  intro i o hio
  have hi : i < rows.length := (List.getElem?_eq_some_iff.mp hio).1
  rw [← hw i hi]; exact h i o hio

theorem RowsWant.set {cfg : Cfg} {rows : List (Option Bytes)} {w w' : Nat → Nat} (h : RowsWant cfg rows w)
    (k : Nat) (new : Option Bytes) (hnew : RowIs cfg (w' k) new) (hw : ∀ i, i < rows.length → i ≠ k → w i = w' i) :
    RowsWant cfg (rows.set k new) w' := by
  intro i o hio
  rw [List.getElem?_set] at hio
  by_cases hik : k = i
  · subst hik
    simp only [if_true] at hio
    split at hio
    · simp only [Option.some.injEq] at hio; rw [← hio]; exact hnew
    · simp at hio
  · simp only [hik, if_false] at hio
    have hi : i < rows.length := (List.getElem?_eq_some_iff.mp hio).1
    rw [← hw i hi (fun e => hik e.symm)]; exact h i o hio

/-- `esl_msa_Expand`: `k` more NULL pointers, which are rows of length 0 -/
theorem RowsWant.grow {cfg : Cfg} {rows : List (Option Bytes)} {w : Nat → Nat} (h : RowsWant cfg rows w) (k : Nat)
    (hw : ∀ i, rows.length ≤ i → w i = 0) : RowsWant cfg (rows ++ List.replicate k none) w := by
  intro i o hio
  by_cases hi : i < rows.length
  · rw [List.getElem?_append_left hi] at hio; exact h i o hio
  · rw [List.getElem?_append_right (by omega), List.getElem?_replicate] at hio
    split at hio
    · simp only [Option.some.injEq] at hio; rw [← hio, hw i (by omega)]; exact RowIs.null cfg
    · simp at hio

theorem rowsWant_replicate (cfg : Cfg) (n : Nat) : RowsWant cfg (List.replicate n none) (fun _ => 0) := by
  simpa using (show RowsWant cfg [] (fun _ => 0) from fun i o h => by simp at h).grow n (fun _ _ => rfl)

/-- what holds between two records and inside one: the finished rows have length `alen`, and `alen` is 0 exactly until the first
    record is closed (`alen0`), so that `afaFinishRecord` may take the first row's length for `alen` and must compare the later ones -/
structure AfaCommon (cfg : Cfg) (st : AfaSt) : Prop where
  alloc : st.idx ≤ st.sqalloc ∧ 0 < st.sqalloc
  rows_len : st.rows.length = st.idx
  rows_ok : st.rows.all (rowOkB cfg.digital cfg.kp st.alen) = true
  alen0 : st.alen = 0 → st.rows = []

/-- between two records: one name per finished row -/
structure AfaBetween (cfg : Cfg) (st : AfaSt) : Prop extends AfaCommon cfg st where
  names_len : st.names.length = st.idx

/-- at a `esl_msafile_GetLine` call -/
structure AfaInv (cfg : Cfg) (st : AfaSt) : Prop extends AfaCommon cfg st where
  lead_names : st.lead = true → st.names.length = st.idx
  rec_names : st.lead = false → st.names.length = st.idx + 1 ∧ st.idx < st.sqalloc
  cur_ok : curOk cfg st.cur

theorem afaInv_init (cfg : Cfg) : AfaInv cfg {} :=
  { alloc := by decide, rows_len := rfl, rows_ok := rfl, alen0 := fun _ => rfl,
    lead_names := fun _ => rfl, rec_names := fun h => by simp at h, cur_ok := fun r h => by simp at h }

theorem afaStartRecord_spec (cfg : Cfg) (st : AfaSt) (p : Bytes) :
    StepSpec (AfaBetween cfg st) (AfaInv cfg) (afaStartRecord st p) := by
  unfold afaStartRecord
  cases p with
  | nil => exact .eformat
  | cons c p1 =>
    dsimp only
    refine .ite (fun _ => .eformat) fun _ => ?_
    cases memtok p1 blankTab with
    | none => exact .eformat
    | some t =>
      dsimp only
      -- `esl_msa_Expand` has made room: `esl_msa_SetSeqName` cannot throw
      refine .ite (fun hge => .exc fun h => ?_) fun _ h => ?_
      · have := lt_expandAlloc h.alloc.1 h.alloc.2; omega
      · have hex := lt_expandAlloc h.alloc.1 h.alloc.2
        exact
          { alloc := ⟨by show st.idx ≤ expandAlloc st.idx st.sqalloc; omega, by show 0 < expandAlloc st.idx st.sqalloc; omega⟩,
            rows_len := h.rows_len, rows_ok := h.rows_ok, alen0 := h.alen0,
            lead_names := fun hl => by simp at hl,
            rec_names := fun _ => ⟨by simp [h.names_len], hex⟩,
            cur_ok := fun r hr => by simp at hr }

theorem afaFinishRecord_spec (cfg : Cfg) (st : AfaSt) :
    StepSpec (AfaInv cfg st ∧ st.lead = false) (fun st' => AfaBetween cfg st' ∧ st'.idx = st.idx + 1 ∧ st'.lead = false)
      (afaFinishRecord cfg st) := by
  unfold afaFinishRecord
  dsimp only
  refine .ite (fun _ => .eformat) fun hne => .ite (fun _ => .eformat) fun hal => ?_
  cases hcur : st.cur with
  | none => exact absurd (by simp [rowLen, hcur]) hne       -- a NULL row has length 0
  | some r =>
    intro ⟨h, hl⟩
    have hrow := h.cur_ok r hcur
    have hn := h.rec_names hl
    rw [hcur] at hne hal hrow
    refine ⟨{ alloc := ⟨by show st.idx + 1 ≤ st.sqalloc; omega, h.alloc.2⟩, rows_len := by simp [h.rows_len],
              rows_ok := ?_, alen0 := fun h0 => absurd (by simpa using (h0 : rowLen cfg.digital (some r) = 0)) hne,
              names_len := by simpa using hn.1 }, rfl, hl⟩
    show (st.rows ++ [r]).all (rowOkB cfg.digital cfg.kp (rowLen cfg.digital (some r))) = true
    rw [List.all_append]
    simp only [List.all_cons, List.all_nil, Bool.and_true, Bool.and_eq_true]
    refine ⟨?_, hrow⟩
    by_cases h0 : st.alen = 0
    · simp [h.alen0 h0]
    · have : st.alen = rowLen cfg.digital (some r) := by
        simp only [Bool.and_eq_true, bne_iff_ne, ne_eq, not_and, Decidable.not_not] at hal
        exact hal h0
      rw [← this]; exact h.rows_ok

theorem afaStep_spec (cfg : Cfg) (st : AfaSt) (line : Bytes) :
    StepSpec (cfg.valid ∧ AfaInv cfg st) (AfaInv cfg) (afaStep cfg st line) := by
  unfold afaStep
  refine .ite (fun hl => .ite (fun _ h => h.2) fun _ => ?_) fun hl => ?_
  · -- the first non-blank line must open a record
    dsimp only
    cases line.dropWhile isSpace with
    | nil => exact .eformat
    | cons c r =>
      dsimp only
      refine .ite (fun _ => .eformat) fun _ => ?_
      exact (afaStartRecord_spec cfg st (c :: r)).imp fun h => { toAfaCommon := h.2.toAfaCommon, names_len := h.2.lead_names hl }
  · have hl' : st.lead = false := by simpa using hl
    dsimp only
    cases line.dropWhile isSpace with
    | nil => exact fun h => h.2
    | cons c rest =>
      dsimp only
      refine .ite (fun _ => ?_) fun _ => ?_
      · -- '>': the record ends and the next one starts
        have hf := afaFinishRecord_spec cfg st
        cases hfr : afaFinishRecord cfg st with
        | inl st' =>
          rw [hfr] at hf
          exact (afaStartRecord_spec cfg st' (c :: rest)).imp fun h => (hf ⟨h.2, hl'⟩).1
        | inr r => rw [hfr] at hf; exact StepSpec.imp (x := .inr r) hf fun h => ⟨h.2, hl'⟩
      · generalize hq : (if cfg.digital then dsqcat cfg.inmap st.cur (c :: rest) else strmapcat cfg.inmap st.cur (c :: rest)) = cat
        obtain ⟨cs, cur'⟩ := cat
        cases cs with
        | einval => exact .eformat
        | exc => exact .exc fun h => cat_noExc cfg h.1.noExc st.cur (c :: rest) (by rw [hq])
        | ok =>
          intro h
          have hcat := curOk_cat cfg h.1 st.cur (c :: rest) h.2.cur_ok
          rw [hq] at hcat
          exact { alloc := h.2.alloc, rows_len := h.2.rows_len, rows_ok := h.2.rows_ok, alen0 := h.2.alen0,
                  lead_names := fun hx => by simp [hl'] at hx, rec_names := fun _ => h.2.rec_names hl', cur_ok := hcat }

theorem afaFinish_good (cfg : Cfg) (st : AfaSt) (h : AfaInv cfg st) : Good (afaFinish cfg st) := by
  unfold afaFinish
  by_cases hl : st.lead = true
  · simp [hl]
  · have hl' : st.lead = false := by simpa using hl
    simp only [hl', Bool.false_eq_true, if_false]
    have hf := (afaFinishRecord_spec cfg st).good ⟨h, hl'⟩
    cases hfr : afaFinishRecord cfg st with
    | inr r => rw [hfr] at hf; simpa using hf
    | inl st' =>
      rw [hfr] at hf
      simp only [stepGood_inl] at hf
      obtain ⟨hb, hidx, _⟩ := hf
      simp only [Good]
      rw [← hb.names_len]
      exact wellFormed_plain cfg.digital cfg.kp st'.alen st'.names st'.rows _ none
        (by rw [hb.names_len, hidx]; omega) (by rw [hb.rows_len, hb.names_len]) hb.rows_ok rfl

/-- **AFA reader, every input**: the outcome of `esl_msafile_afa_Read` is a documented normal one and a returned alignment is well formed -/
theorem afaRead_good (cfg : Cfg) (hv : cfg.valid) (lines : List Bytes) : Good (afaRead cfg lines).1 :=
  runLines_inv (afaStep cfg) (afaFinish cfg) (AfaInv cfg) Good (fun st l h => (afaStep_spec cfg st l).good ⟨hv, h⟩)
    (fun st h => afaFinish_good cfg st h) lines {} (afaInv_init cfg)

theorem afaFinishRecord_notOk (cfg : Cfg) (st : AfaSt) : NotOk (afaFinishRecord cfg st) := (afaFinishRecord_spec cfg st).notOk

theorem afaStep_notOk (cfg : Cfg) (st : AfaSt) (l : Bytes) : NotOk (afaStep cfg st l) := (afaStep_spec cfg st l).notOk

/-- after a successful AFA read nothing is left: the next `esl_msafile_Read` returns eslEOF -/
theorem afaRead_ok_consumes (cfg : Cfg) (lines : List Bytes) (m : Msa) (h : (afaRead cfg lines).1 = .ok m) :
    (afaRead cfg lines).2 = [] ∧ (afaRead cfg (afaRead cfg lines).2).1 = .eof := by
  have h1 : (afaRead cfg lines).2 = [] := runLines_ok_consumes _ _ (afaStep_notOk cfg) lines {} m h
  rw [h1]
  exact ⟨rfl, rfl⟩

end EaselModel.Msafile
