import EaselModel.Msafile.Lemmas
import EaselModel.Msafile.AfaLemmas
import EaselModel.Msafile.Selex
/-! Invariant of the SELEX reader and the facts the C01 theorems are glued from. -/
namespace EaselModel.Msafile

theorem writeAt_app (b pre rest seg : Bytes) (pos : Nat) (hb : b = pre ++ rest) (hp : pos = pre.length)
    (hl : seg.length ≤ rest.length) : writeAt b pos seg = some (pre ++ seg ++ rest.drop seg.length) := by
  subst hb hp
  unfold writeAt
  have h1 : pre.length + seg.length ≤ (pre ++ rest).length := by simp; omega
  simp only [h1, if_true, Option.some.injEq]
  have h2 : (pre ++ rest).take pre.length = pre := by simp
  have h3 : (pre ++ rest).drop (pre.length + seg.length) = rest.drop seg.length := by
    rw [List.drop_append]; simp
  rw [h2, h3]

theorem realloc_length (p : UInt8) (old : Option Bytes) (n : Nat) : (realloc p old n).length = n := by
  unfold realloc
  simp only [List.length_append, List.length_take, List.length_replicate]
  omega

theorem realloc_take (p : UInt8) (old : Option Bytes) (n k : Nat) (hk : k ≤ n) (ho : k ≤ (old.getD []).length) :
    (realloc p old n).take k = (old.getD []).take k := by
  unfold realloc
  rw [List.take_append_of_le_length (by simp; omega), List.take_take]
  congr 1; omega

theorem realloc_split (p : UInt8) (old : Option Bytes) (n k : Nat) (hk : k ≤ n) (ho : k ≤ (old.getD []).length) :
    ∃ R, realloc p old n = (old.getD []).take k ++ R ∧ R.length = n - k := by
  refine ⟨(realloc p old n).drop k, ?_, ?_⟩
  · rw [← realloc_take p old n k hk ho]; simp
  · simp [realloc_length]

/-- with the allocation the C code computes, the four writes of `fillRow` stay inside the row and fill it exactly -/
theorem fillRow_eq (buf P R : Bytes) (off alen nadd nleft : Nat) (body tail : Bytes) (pad term : UInt8)
    (hb : buf = P ++ R) (hP : P.length = off + alen) (hR : R.length = nadd + 1)
    (hfit : nleft + body.length ≤ nadd) (htail : tail.length ≤ 1) :
    fillRow buf off alen nadd nleft body tail pad term =
      some (P ++ List.replicate nleft pad ++ body ++ List.replicate (nadd - nleft - body.length) pad ++ [term]) := by
  unfold fillRow
  have w1 := writeAt_app buf P R (List.replicate nleft pad) (off + alen) hb hP.symm (by simp; omega)
  rw [w1]; simp only
  have w2 := writeAt_app (P ++ List.replicate nleft pad ++ R.drop (List.replicate nleft pad).length)
    (P ++ List.replicate nleft pad) (R.drop nleft) (body ++ tail) (off + alen + nleft)
    (by simp) (by simp; omega) (by simp; omega)
  rw [w2]; simp only
  have hpads : alen + nadd - (alen + nleft + body.length) = nadd - nleft - body.length := by omega
  rw [hpads]
  have w3 := writeAt_app (P ++ List.replicate nleft pad ++ (body ++ tail) ++ (R.drop nleft).drop (body ++ tail).length)
    (P ++ List.replicate nleft pad ++ body) (tail ++ (R.drop nleft).drop (body ++ tail).length)
    (List.replicate (nadd - nleft - body.length) pad) (off + (alen + nleft + body.length))
    (by simp) (by simp; omega) (by simp; omega)
  rw [w3]; simp only
  have w4 := writeAt_app
    (P ++ List.replicate nleft pad ++ body ++ List.replicate (nadd - nleft - body.length) pad ++
      (tail ++ (R.drop nleft).drop (body ++ tail).length).drop (List.replicate (nadd - nleft - body.length) pad).length)
    (P ++ List.replicate nleft pad ++ body ++ List.replicate (nadd - nleft - body.length) pad)
    ((tail ++ (R.drop nleft).drop (body ++ tail).length).drop (List.replicate (nadd - nleft - body.length) pad).length)
    [term] (off + (alen + nleft + body.length) + (nadd - nleft - body.length))
    rfl (by simp; omega) (by simp; omega)
  rw [w4]
  simp only [Option.some.injEq, List.append_assoc, List.append_cancel_left_eq]
  have : ((tail ++ (R.drop nleft).drop (body ++ tail).length).drop (List.replicate (nadd - nleft - body.length) pad).length).drop [term].length = [] := by
    apply List.drop_eq_nil_of_le
    simp; omega
  rw [this]; simp

/-- a C-string row: `alen` non-NUL characters and the terminator, in an allocation of `alen + 1` -/
def TxtOk (alen : Nat) (b : Bytes) : Prop := ∃ c, b = c ++ [0] ∧ c.length = alen ∧ c.all (· != 0) = true

/-- what `ESL_REALLOC` may find in a row pointer when the alignment has `alen` columns: NULL before the first columns, or a row that
    is good (`Ok`) for at least `alen` columns -/
def Pre (Ok : Nat → Bytes → Prop) (alen : Nat) (old : Option Bytes) : Prop :=
  (old = none ∧ alen = 0) ∨ ∃ b L, old = some b ∧ alen ≤ L ∧ Ok L b

theorem Pre.mono {Ok Ok' : Nat → Bytes → Prop} {alen : Nat} {old : Option Bytes} (h : Pre Ok alen old) (hOk : ∀ L b, Ok L b → Ok' L b) :
    Pre Ok' alen old :=
  h.imp_right fun ⟨b, L, e, hl, hb⟩ => ⟨b, L, e, hl, hOk L b hb⟩

theorem all_take {α : Type} (p : α → Bool) (l : List α) (n : Nat) (h : l.all p = true) : (l.take n).all p = true := by
  rw [List.all_eq_true] at h ⊢
  intro x hx; exact h x (List.mem_of_mem_take hx)

theorem preTxt_prefix (alen : Nat) (old : Option Bytes) (h : Pre TxtOk alen old) :
    ∃ c, c.length = alen ∧ c.all (· != 0) = true ∧ alen ≤ (old.getD []).length ∧ (old.getD []).take alen = c := by
  rcases h with ⟨h1, h2⟩ | ⟨b, L, h1, h2, c, hb, hc, hall⟩
  · subst h1 h2; exact ⟨[], rfl, rfl, by simp, by simp⟩
  · subst h1 hb
    refine ⟨c.take alen, by simp; omega, all_take _ _ _ hall, by simp; omega, ?_⟩
    simp only [Option.getD_some]
    rw [List.take_append_of_le_length (by omega)]

theorem dsqRowOk_shape (kp alen : Nat) (r : Bytes) (h : dsqRowOk kp alen r = true) :
    ∃ codes, r = dsqSENTINEL :: (codes ++ [dsqSENTINEL]) ∧ codes.length = alen ∧
      codes.all (fun x => decide (x.toNat < kp)) = true := by
  cases r with
  | nil => simp [dsqRowOk] at h
  | cons s0 rest =>
    simp only [dsqRowOk, Bool.and_eq_true, beq_iff_eq] at h
    obtain ⟨⟨⟨h0, hlen⟩, hlast⟩, hall⟩ := h
    have hne : rest ≠ [] := by intro h'; subst h'; simp at hlen
    have hl : rest.getLast hne = dsqSENTINEL := by
      rw [List.getLast?_eq_some_getLast hne] at hlast; simpa using hlast
    refine ⟨rest.dropLast, ?_, by simp; omega, hall⟩
    rw [h0, ← hl, List.dropLast_concat_getLast hne]

/-- the part of a reallocated digital row that is kept, after `if (msa->alen == 0) ax[0] = eslDSQ_SENTINEL` -/
theorem preDig_split (kp alen nadd : Nat) (old : Option Bytes) (h : Pre (dsqRowOk kp · · = true) alen old) :
    ∃ codes R, (if alen == 0 then writeAt (realloc dsqSENTINEL old (alen + nadd + 2)) 0 [dsqSENTINEL]
                else some (realloc dsqSENTINEL old (alen + nadd + 2))) = some ((dsqSENTINEL :: codes) ++ R) ∧
      codes.length = alen ∧ codes.all (fun x => decide (x.toNat < kp)) = true ∧ R.length = nadd + 1 := by
  rcases h with ⟨h1, h2⟩ | ⟨b, L, h1, h2, hb⟩
  · subst h1 h2
    refine ⟨[], List.replicate (nadd + 1) dsqSENTINEL, ?_, rfl, rfl, by simp⟩
    have hr : realloc dsqSENTINEL none (0 + nadd + 2) = [] ++ List.replicate (nadd + 2) dsqSENTINEL := by
      simp [realloc]
    simp only [beq_self_eq_true, if_true]
    rw [writeAt_app _ [] (List.replicate (nadd + 2) dsqSENTINEL) [dsqSENTINEL] 0 hr rfl (by simp)]
    simp [List.replicate_succ]
  · obtain ⟨codes, hr, hcl, hall⟩ := dsqRowOk_shape kp L b hb
    subst h1
    obtain ⟨R, hsplit, hRl⟩ := realloc_split dsqSENTINEL (some b) (alen + nadd + 2) (alen + 1) (by omega)
      (by simp [hr]; omega)
    have htake : ((some b).getD []).take (alen + 1) = dsqSENTINEL :: codes.take alen := by
      simp only [Option.getD_some, hr, List.take_succ_cons]
      rw [List.take_append_of_le_length (by omega)]
    rw [htake] at hsplit
    refine ⟨codes.take alen, R, ?_, by simp; omega, all_take _ _ _ hall, by omega⟩
    by_cases h0 : alen = 0
    · subst h0
      simp only [beq_self_eq_true, if_true]
      have hs' : realloc dsqSENTINEL (some b) (0 + nadd + 2) = [] ++ (dsqSENTINEL :: (codes.take 0 ++ R)) := by
        rw [hsplit]; simp
      rw [writeAt_app _ [] _ [dsqSENTINEL] 0 hs' rfl (by simp)]
      simp
    · have : (alen == 0) = false := by simpa using h0
      simp only [this, Bool.false_eq_true, if_false, hsplit]

/-- outcome of building one row: a documented error, or a row satisfying `P` -/
def BuildGood (P : Bytes → Prop) (x : Sum (Res Msa) Bytes) : Prop :=
  match x with
  | .inl r => Good r
  | .inr b => P b

@[simp] theorem buildGood_inl (P : Bytes → Prop) (r : Res Msa) : BuildGood P (.inl r) = Good r := rfl
@[simp] theorem buildGood_inr (P : Bytes → Prop) (b : Bytes) : BuildGood P (.inr b : Sum (Res Msa) Bytes) = P b := rfl

theorem all_ne_zero_of_not_contains_slx (l : Bytes) (h : l.contains 0 = false) : l.all (· != 0) = true := by
  rw [List.all_eq_true]
  intro x hx
  simp only [bne_iff_ne, ne_eq]
  intro h0; subst h0
  simp only [List.contains_eq_mem, decide_eq_false_iff_not] at h
  exact h hx

theorem txtOk_build (c body : Bytes) (alen nadd nleft : Nat) (hc : c.length = alen) (hca : c.all (· != 0) = true)
    (hba : body.all (· != 0) = true) (hfit : nleft + body.length ≤ nadd) :
    TxtOk (alen + nadd) (c ++ List.replicate nleft 46 ++ body ++ List.replicate (nadd - nleft - body.length) 46 ++ [0]) := by
  refine ⟨c ++ List.replicate nleft 46 ++ body ++ List.replicate (nadd - nleft - body.length) 46, rfl, ?_, ?_⟩
  · simp only [List.length_append, List.length_replicate]; omega
  · simp only [List.all_append, hca, hba, Bool.and_true, Bool.true_and, Bool.and_eq_true]
    constructor <;> (rw [List.all_eq_true]; intro x hx; rw [List.mem_replicate] at hx; rw [hx.2]; decide)

/-- the one statement about an inner function of the reader (they fail on the left): it never fails with eslOK, and given `H`
    it fails with a documented error or returns a value satisfying `Q` -/
def LSpec {α : Type} (H : Prop) (Q : α → Prop) : Sum (Res Msa) α → Prop
  | .inl r => ErrGood H r
  | .inr a => H → Q a

namespace LSpec
variable {α β : Type} {H H' : Prop} {Q : α → Prop}

theorem ite {c : Prop} [Decidable c] {a b : Sum (Res Msa) α} (ha : c → LSpec H Q a) (hb : ¬c → LSpec H Q b) :
    LSpec H Q (if c then a else b) := by
  by_cases h : c
  · rw [if_pos h]; exact ha h
  · rw [if_neg h]; exact hb h

theorem eformat {msg : String} (h : msg ≠ "" := by decide) : LSpec H Q (.inl (.eformat msg)) := fun _ => h
theorem fault (h : ¬ H) : LSpec H Q (.inl .fault) := h
theorem exc (h : ¬ H) : LSpec H Q (.inl .exc) := h

/-- a callee's statement under the caller's hypothesis, for what the caller wants of the value -/
theorem imp {Q' : α → Prop} {x : Sum (Res Msa) α} (h : LSpec H' Q' x) (hH : H → H') (hQ : ∀ a, H → Q' a → Q a) : LSpec H Q x := by
  cases x with
  | inl r => exact ErrGood.imp h hH
  | inr a => exact fun hh => hQ a hh (h (hH hh))

/-- `y` is the model's `match x with | .inl r => .inl r | .inr a => g a` over a callee `x`: an error is handed on, a value goes
    into `g`.  A `match` written here, for every `α`, is not the model's (Lean compiles one matcher per type of the value matched
    on; a statement over that very type does unify, see `tail` in `buildSeqRow_spec`), so the match is given by its two equations,
    which are always `fun _ e => by rw [e]` (`rw` finds the callee in the goal, whose arguments may be left `_` in `h`). -/
theorem bind {Q' : α → Prop} {R : β → Prop} {x : Sum (Res Msa) α} {y : Sum (Res Msa) β} {g : α → Sum (Res Msa) β}
    (h : LSpec H' Q' x) (hH : H → H') (hl : ∀ r, x = .inl r → y = .inl r) (hr : ∀ a, x = .inr a → y = g a)
    (hg : ∀ a, LSpec (H ∧ Q' a) R (g a)) : LSpec H R y := by
  cases x with
  | inl r => rw [hl r rfl]; exact ErrGood.imp h hH
  | inr a => rw [hr a rfl]; exact (hg a).imp (fun hh => ⟨hh, h (hH hh)⟩) fun _ _ hq => hq

/-- … when the value is only worked on: `| .inr a => .inr (f a)` -/
theorem map {Q' : α → Prop} {R : β → Prop} {x : Sum (Res Msa) α} {y : Sum (Res Msa) β} {f : α → β} (h : LSpec H' Q' x) (hH : H → H')
    (hl : ∀ r, x = .inl r → y = .inl r) (hr : ∀ a, x = .inr a → y = .inr (f a)) (hQ : ∀ a, H → Q' a → R (f a)) : LSpec H R y :=
  bind h hH hl hr fun a hh => hQ a hh.1 hh.2

/-- to give the hypothesis a name inside a proof: the statement for any `K` that implies it -/
theorem named {x : Sum (Res Msa) α} (h : ∀ K : Prop, (K → H) → LSpec K Q x) : LSpec H Q x := h H id

end LSpec

theorem buildAnnRow_spec (alen nadd nleft ntext : Nat) (src : Bytes) (old : Option Bytes) :
    LSpec (nleft + ntext ≤ nadd ∧ src.length = ntext ∧ Pre TxtOk alen old) (TxtOk (alen + nadd))
      (buildAnnRow alen nadd nleft ntext src old) := by
  unfold buildAnnRow
  dsimp only
  refine .ite (fun _ => .eformat) fun hnul => ?_
  have hfill : nleft + ntext ≤ nadd ∧ src.length = ntext ∧ Pre TxtOk alen old →
      ∃ b, fillRow (realloc 0 old (alen + nadd + 1)) 0 alen nadd nleft src [] 46 0 = some b ∧ TxtOk (alen + nadd) b := fun h => by
    obtain ⟨hfit, hsrc, hold⟩ := h
    have hsa : src.all (· != 0) = true := by
      by_cases h0 : ntext = 0
      · have : src = [] := List.eq_nil_of_length_eq_zero (by omega)
        subst this; rfl
      · have : (ntext != 0) = true := by simpa using h0
        simp only [this, Bool.true_and, Bool.not_eq_true] at hnul
        exact all_ne_zero_of_not_contains_slx src hnul
    obtain ⟨c, hcl, hca, hle, htk⟩ := preTxt_prefix alen old hold
    obtain ⟨R, hsplit, hRl⟩ := realloc_split 0 old (alen + nadd + 1) alen (by omega) hle
    rw [htk] at hsplit
    exact ⟨_, fillRow_eq _ c R 0 alen nadd nleft src [] 46 0 hsplit (by omega) (by omega) (by omega) (by simp),
      txtOk_build c src alen nadd nleft hcl hca hsa (by omega)⟩
  split
  · rename_i hf
    exact .fault fun h => by obtain ⟨_, e, _⟩ := hfill h; rw [hf] at e; cases e
  · rename_i b hf
    exact fun h => by obtain ⟨_, e, hok⟩ := hfill h; rw [hf] at e; cases e; exact hok

/-- the row buffers of sequence lines -/
def RowBufOk (cfg : Cfg) (alen : Nat) (b : Bytes) : Prop :=
  if cfg.digital then dsqRowOk cfg.kp alen b = true else TxtOk alen b

theorem all_replicate {α : Type} (p : α → Bool) (n : Nat) (a : α) (h : p a = true) : (List.replicate n a).all p = true := by
  rw [List.all_eq_true]; intro x hx; rw [List.mem_replicate] at hx; rw [hx.2]; exact h

theorem buildSeqRow_spec (cfg : Cfg) (alen nadd nleft ntext : Nat) (src : Bytes) (old : Option Bytes) :
    LSpec (cfg.valid ∧ cfg.selexOk = true ∧ nleft + ntext ≤ nadd ∧ src.length = ntext ∧ Pre (RowBufOk cfg) alen old)
      (RowBufOk cfg (alen + nadd)) (buildSeqRow cfg alen nadd nleft ntext src old) := by
  refine .named fun K hK => ?_
  unfold buildSeqRow
  cases hm : mapLoop cfg.inmap src .ok [] with
  | mk st racc =>
    dsimp only
    -- what the table conditions say of the mapped text: no exception, one symbol per byte
    have hmap : K → st ≠ .exc ∧ racc.reverse.length = ntext ∧ nleft + racc.reverse.length ≤ nadd := fun k => by
      have h := hK k
      have hs := h.2.1
      unfold Cfg.selexOk at hs
      rw [Bool.and_eq_true] at hs
      have hne := mapLoop_noExc cfg.inmap h.1.noExc src .ok [] (by simp)
      have hlen := mapLoop_length cfg.inmap hs.1 src .ok [] hne
      rw [hm] at hne hlen
      simp only [List.length_nil, Nat.zero_add] at hlen
      have : racc.reverse.length = ntext := by simp [hlen, h.2.2.2.1]
      exact ⟨hne, this, by omega⟩
    have hbody : ∀ P, cfg.inmap.emits P = true → racc.reverse.all P = true := fun P hP => by
      have := mapLoop_reverse_all cfg.inmap P hP src; rw [hm] at this; exact this
    -- after the fill, in either storage mode
    have tail : ∀ (o : Option Bytes) (msg : String), msg ≠ "" → (K → ∃ b, o = some b ∧ RowBufOk cfg (alen + nadd) b) →
        LSpec K (RowBufOk cfg (alen + nadd))
          (match o with
           | none => .inl .fault
           | some b => if st == .einval then .inl (.eformat msg) else if racc.reverse.length != ntext then .inl .exc else .inr b) :=
      fun o msg hmsg ho => by
        cases o with
        | none => exact .fault fun k => by obtain ⟨_, e, _⟩ := ho k; cases e
        | some b =>
          refine .ite (fun _ => .eformat hmsg) fun _ => .ite (fun hbad => .exc fun k => ?_) fun _ k => ?_
          · simp [(hmap k).2.1] at hbad
          · obtain ⟨_, e, hok⟩ := ho k; cases e; exact hok
    cases ha : cfg.abc with
    | some a =>
      have hd : cfg.digital = true := by simp [Cfg.digital, ha]
      dsimp only
      split
      · rename_i hb
        exact .fault fun k => by
          obtain ⟨_, _, e, _⟩ := preDig_split cfg.kp alen nadd old ((hK k).2.2.2.2.mono fun _ _ hb => by simpa only [RowBufOk, hd, if_true] using hb)
          rw [hb] at e; cases e
      · rename_i buf hb
        refine .ite (fun hexc => .exc fun k => (hmap k).1 (by simpa using hexc)) fun _ => ?_
        have hfill : K → ∃ b, fillRow buf 1 alen nadd nleft racc.reverse [dsqSENTINEL] a.gap dsqSENTINEL = some b ∧
            RowBufOk cfg (alen + nadd) b := fun k => by
          have h := hK k
          obtain ⟨codes, R, e, hcl, hcall, hRl⟩ := preDig_split cfg.kp alen nadd old (h.2.2.2.2.mono fun _ _ hb => by simpa only [RowBufOk, hd, if_true] using hb)
          rw [hb] at e; cases e
          have hgap : a.gap.toNat < cfg.kp := by
            have := h.2.1; unfold Cfg.selexOk at this; rw [Bool.and_eq_true, ha] at this
            simpa [Cfg.kp, ha] using this.2
          have hem := h.1.emits; simp only [hd, if_true] at hem
          refine ⟨_, fillRow_eq _ (dsqSENTINEL :: codes) R 1 alen nadd nleft racc.reverse [dsqSENTINEL] a.gap dsqSENTINEL rfl
            (by simp; omega) hRl (hmap k).2.2 (by simp), ?_⟩
          have hall : (codes ++ List.replicate nleft a.gap ++ racc.reverse ++
              List.replicate (nadd - nleft - racc.reverse.length) a.gap).all (fun x => decide (x.toNat < cfg.kp)) = true := by
            simp only [List.all_append, hcall, hbody _ hem, Bool.and_true, Bool.true_and, Bool.and_eq_true]
            exact ⟨all_replicate _ _ _ (by simpa using hgap), all_replicate _ _ _ (by simpa using hgap)⟩
          have hb' := dsqRowOk_build cfg.kp _ hall
          have hl : (codes ++ List.replicate nleft a.gap ++ racc.reverse ++
              List.replicate (nadd - nleft - racc.reverse.length) a.gap).length = alen + nadd := by
            have := (hmap k).2.2
            simp only [List.length_append, List.length_replicate]; omega
          rw [hl] at hb'
          simpa [RowBufOk, hd] using hb'
        exact tail _ _ (by decide) hfill
    | none =>
      have hd : cfg.digital = false := by simp [Cfg.digital, ha]
      dsimp only
      refine .ite (fun hexc => .exc fun k => (hmap k).1 (by simpa using hexc)) fun _ => ?_
      have hfill : K → ∃ b, fillRow (realloc 0 old (alen + nadd + 1)) 0 alen nadd nleft racc.reverse [0] 46 0 = some b ∧
          RowBufOk cfg (alen + nadd) b := fun k => by
        have h := hK k
        have hem := h.1.emits; simp only [hd, Bool.false_eq_true, if_false] at hem
        obtain ⟨c, hcl, hca, hle, htk⟩ := preTxt_prefix alen old (h.2.2.2.2.mono fun _ _ hb => by simpa only [RowBufOk, hd, Bool.false_eq_true, if_false] using hb)
        obtain ⟨R, hsplit, hRl⟩ := realloc_split 0 old (alen + nadd + 1) alen (by omega) hle
        rw [htk] at hsplit
        refine ⟨_, fillRow_eq _ c R 0 alen nadd nleft racc.reverse [0] 46 0 hsplit (by omega) (by omega) (hmap k).2.2 (by simp), ?_⟩
        simp only [RowBufOk, hd, Bool.false_eq_true, if_false]
        exact txtOk_build c racc.reverse alen nadd nleft hcl hca (hbody _ hem) (hmap k).2.2
      exact tail _ _ (by decide) hfill

/-- pointer `i` of an optional pointer array, as `SxMsa.get` reads `msa->ss[i]`, `msa->sa[i]` (and `msa->aseq[i]` / `msa->ax[i]`: `some m.rows`) -/
def arrGet (o : Option (List (Option Bytes))) (i : Nat) : Option (Option Bytes) :=
  match o with
  | none => none
  | some l => l[i]?

theorem arrGet_set_same (o : Option (List (Option Bytes))) (i : Nat) (v : Option Bytes) (h : (arrGet o i).isSome = true) :
    arrGet (o.map (·.set i v)) i = some v := by
  cases o with
  | none => cases h
  | some l =>
    cases hh : l[i]? with
    | none => rw [arrGet, hh] at h; cases h
    | some _ => exact List.getElem?_set_self (List.getElem?_eq_some_iff.mp hh).1

theorem arrGet_set_other (o : Option (List (Option Bytes))) (i j : Nat) (v : Option Bytes) (h : i ≠ j) :
    arrGet (o.map (·.set i v)) j = arrGet o j := by
  cases o with
  | none => rfl
  | some l => exact List.getElem?_set_ne h

/-- a pointer array as `selex_first_block` leaves it (the rows by `esl_msa_Create`, `ss` / `sa` only `if (has_ss)` / `if (has_sa)`): `n` NULL
    pointers, if it is allocated at all -/
def arrFresh (has : Bool) (n : Nat) : Option (List (Option Bytes)) := if has then some (List.replicate n none) else none

theorem arrGet_fresh (has : Bool) (n i : Nat) :
    (arrGet (arrFresh has n) i = none ∨ arrGet (arrFresh has n) i = some none) ∧
      (has = true → i < n → arrGet (arrFresh has n) i = some none) := by
  cases has
  · exact ⟨Or.inl rfl, nofun⟩
  · by_cases h : i < n
    · have : arrGet (arrFresh true n) i = some none := by simp [arrGet, arrFresh, h]
      exact ⟨Or.inr this, fun _ _ => this⟩
    · exact ⟨Or.inl (by simp [arrGet, arrFresh, h]), fun _ hi => absurd hi h⟩

theorem arrFresh_len (has : Bool) (n : Nat) (l : List (Option Bytes)) (h : arrFresh has n = some l) : l.length = n := by
  cases has
  · cases h
  · cases h; exact List.length_replicate

/-- an optional array whose length (and presence) is that of one with `n` entries has `n` entries -/
theorem arr_len_of_frame {α : Type} {o o' : Option (List α)} {n : Nat} (h : o'.map List.length = o.map List.length)
    (hn : ∀ l, o = some l → l.length = n) (l : List α) (hl : o' = some l) : l.length = n := by
  rw [hl] at h
  cases ho : o with
  | none => rw [ho] at h; cases h
  | some l0 => rw [ho] at h; exact (Option.some.inj h).trans (hn l0 ho)

theorem get_set_same (m : SxMsa) (s : Slot) (row : Bytes) (h : (m.get s).isSome = true) :
    (m.set s row).get s = some (some row) := by
  cases s with
  | sq i => exact arrGet_set_same (some m.rows) i _ h
  | ss i => exact arrGet_set_same m.ss i _ h
  | sa i => exact arrGet_set_same m.sa i _ h
  | _ => rfl

theorem get_set_other (m : SxMsa) (s s' : Slot) (row : Bytes) (h : s ≠ s') : (m.set s row).get s' = m.get s' := by
  cases s <;> cases s' <;> first | rfl | exact absurd rfl h | skip
  · exact arrGet_set_other (some m.rows) _ _ _ fun e => h (by rw [e])
  · exact arrGet_set_other m.ss _ _ _ fun e => h (by rw [e])
  · exact arrGet_set_other m.sa _ _ _ fun e => h (by rw [e])

/-- what `set` leaves alone -/
structure SameFrame (m m' : SxMsa) : Prop where
  nseq : m'.nseq = m.nseq
  names : m'.names = m.names
  alen : m'.alen = m.alen
  rows_len : m'.rows.length = m.rows.length
  ss_len : m'.ss.map List.length = m.ss.map List.length
  sa_len : m'.sa.map List.length = m.sa.map List.length

theorem sameFrame_refl (m : SxMsa) : SameFrame m m := ⟨rfl, rfl, rfl, rfl, rfl, rfl⟩

theorem sameFrame_trans {a b c : SxMsa} (h1 : SameFrame a b) (h2 : SameFrame b c) : SameFrame a c :=
  ⟨h2.nseq.trans h1.nseq, h2.names.trans h1.names, h2.alen.trans h1.alen, h2.rows_len.trans h1.rows_len,
   h2.ss_len.trans h1.ss_len, h2.sa_len.trans h1.sa_len⟩

theorem sameFrame_set (m : SxMsa) (s : Slot) (row : Bytes) : SameFrame m (m.set s row) := by
  cases s <;> refine ⟨rfl, rfl, rfl, ?_, ?_, ?_⟩ <;> simp only [SxMsa.set, List.length_set] <;> try rfl
  · cases m.ss <;> simp
  · cases m.sa <;> simp

/-- a good row buffer for the slot -/
def SlotOk (cfg : Cfg) (s : Slot) (alen : Nat) (b : Bytes) : Prop :=
  match s with
  | .sq _ => RowBufOk cfg alen b
  | _ => TxtOk alen b

/-- what is known about a line's positions once `leftmost` and `nadd` are computed -/
def PosOk (leftmost : Int) (nadd : Nat) (b : BLine) : Prop :=
  b.lpos = -1 ∨ (0 ≤ b.lpos ∧ leftmost ≤ b.lpos ∧ b.lpos ≤ b.rpos ∧ b.rpos < b.line.length ∧ b.rpos - leftmost + 1 ≤ nadd)

/-- the outcome of a block-level step: a documented error, or a new alignment satisfying `P` -/
def MsaGood (P : SxMsa → Prop) (x : Sum (Res Msa) SxMsa) : Prop :=
  match x with
  | .inl r => Good r
  | .inr m => P m

@[simp] theorem msaGood_inl (P : SxMsa → Prop) (r : Res Msa) : MsaGood P (.inl r) = Good r := rfl
@[simp] theorem msaGood_inr (P : SxMsa → Prop) (m : SxMsa) : MsaGood P (.inr m : Sum (Res Msa) SxMsa) = P m := rfl

theorem slotOf_sq_iff (t : LType) (seqi : Nat) (s : Slot) (h : slotOf t seqi = some s) :
    (t = .sq → s = .sq seqi) ∧ (t ≠ .sq → ∀ i, s ≠ .sq i) := by
  cases t <;> simp only [slotOf] at h
  · simp at h; subst h; simp
  · simp at h; subst h; simp
  · simp at h; subst h; simp
  · split at h
    · simp at h
    · simp at h; subst h; simp
  · split at h
    · simp at h
    · simp at h; subst h; simp
  · simp at h; subst h; simp

theorem appendLine_spec (cfg : Cfg) (alen nadd : Nat) (leftmost : Int) (seqi : Nat) (m : SxMsa) (b : BLine) :
    LSpec (cfg.valid ∧ cfg.selexOk = true ∧ PosOk leftmost nadd b ∧
        ∃ s old, slotOf b.ty seqi = some s ∧ m.get s = some old ∧ Pre (SlotOk cfg s) alen old)
      (fun m' => ∃ s row, slotOf b.ty seqi = some s ∧ m' = m.set s row ∧ SlotOk cfg s (alen + nadd) row)
      (appendLine cfg alen nadd leftmost seqi m b) := by
  unfold appendLine
  dsimp only
  generalize hnl : (if b.lpos != -1 then b.lpos - leftmost else (nadd : Int)) = nleft
  generalize hnt : (if b.lpos != -1 then b.rpos - b.lpos + 1 else (0 : Int)) = ntext
  -- what the positions say of the two counts
  have hcounts : PosOk leftmost nadd b → 0 ≤ nleft ∧ 0 ≤ ntext ∧ nleft.toNat + ntext.toNat ≤ nadd ∧
      (ntext ≠ 0 → 0 ≤ b.lpos ∧ b.lpos + ntext ≤ b.line.length) := fun hpos => by
    subst hnl hnt
    rcases hpos with h | ⟨h0, h1, h2, h3, h4⟩
    · simp only [h, bne_self_eq_false, Bool.false_eq_true, if_false]; omega
    · have hne : (b.lpos != -1) = true := by simp; omega
      simp only [hne, if_true]; omega
  refine .ite (fun hneg => .fault fun ⟨_, _, hpos, _⟩ => ?_) fun _ => .ite (fun hout => .fault fun ⟨_, _, hpos, _⟩ => ?_) fun _ => ?_
  · have := hcounts hpos; simp only [Bool.or_eq_true, decide_eq_true_eq] at hneg; omega
  · have := hcounts hpos
    simp only [Bool.and_eq_true, bne_iff_ne, ne_eq, Bool.or_eq_true, decide_eq_true_eq] at hout
    have := this.2.2.2 hout.1; omega
  -- `cases` puts the slot into the hypothesis and the conclusion as well
  cases hsl : slotOf b.ty seqi with
  | none => exact .fault fun ⟨_, _, _, _, _, e, _⟩ => nomatch e
  | some s =>
    dsimp only
    cases hg : m.get s with
    | none => exact .fault fun ⟨_, _, _, _, _, e, hg', _⟩ => by cases e; rw [hg] at hg'; cases hg'
    | some old =>
      dsimp only
      have hsrc : PosOk leftmost nadd b → ((b.line.drop b.lpos.toNat).take ntext.toNat).length = ntext.toNat := fun hpos => by
        have := hcounts hpos
        simp only [List.length_take, List.length_drop]
        by_cases h0 : ntext = 0
        · simp [h0]
        · have := this.2.2.2 h0; omega
      have hpre : (∃ s' old', some s = some s' ∧ m.get s' = some old' ∧ Pre (SlotOk cfg s') alen old') → Pre (SlotOk cfg s) alen old := fun h => by
        obtain ⟨_, _, e, hg', hp⟩ := h; cases e; rw [hg] at hg'; cases hg'; exact hp
      obtain ⟨hsq, hnsq⟩ := slotOf_sq_iff b.ty seqi s hsl
      by_cases hty : b.ty = .sq
      · cases hsq hty
        simp only [hty, beq_self_eq_true, if_true]
        exact .map (buildSeqRow_spec cfg alen nadd _ _ _ old)
          (fun ⟨hv, hs, hpos, hex⟩ => ⟨hv, hs, (hcounts hpos).2.2.1, hsrc hpos, hpre hex⟩) (fun _ e => by rw [e]) (fun _ e => by rw [e])
          fun row _ hq => ⟨_, row, rfl, rfl, hq⟩
      · have hb : (b.ty == LType.sq) = false := by simpa using hty
        simp only [hb, Bool.false_eq_true, if_false]
        refine .map (buildAnnRow_spec alen nadd _ _ _ old) (fun ⟨_, _, hpos, hex⟩ => ⟨(hcounts hpos).2.2.1, hsrc hpos, ?_⟩)
          (fun _ e => by rw [e]) (fun _ e => by rw [e]) fun row _ hq => ⟨_, row, rfl, rfl, ?_⟩
        · have := hpre hex
          cases s <;> first | exact this | exact absurd rfl (hnsq hty _)
        · cases s <;> first | exact hq | exact absurd rfl (hnsq hty _)

/-- the slots the lines of a block are appended to, when `seqi` sequence lines came before -/
def slotsOf : List LType → Nat → List Slot
  | [], _ => []
  | t :: ts, seqi => (slotOf t seqi).toList ++ slotsOf ts (if t == .sq then seqi + 1 else seqi)

/-- every line selects a pointer that exists (`#=SS` / `#=SA` only after a sequence line) -/
def typesOk : List LType → Nat → Bool
  | [], _ => true
  | t :: ts, seqi => (slotOf t seqi).isSome && typesOk ts (if t == .sq then seqi + 1 else seqi)

def countSq : List LType → Nat
  | [] => 0
  | t :: ts => (if t == .sq then 1 else 0) + countSq ts

/-- what the append loop has made of `m0` when the lines for the slots `done` are through: these slots hold rows of the new
    length, the others are untouched -/
structure AppInv (cfg : Cfg) (m0 : SxMsa) (newlen : Nat) (done : List Slot) (m : SxMsa) : Prop where
  frame : SameFrame m0 m
  done_ok : ∀ s ∈ done, ∃ b, m.get s = some (some b) ∧ SlotOk cfg s newlen b
  rest_same : ∀ s, s ∉ done → m.get s = m0.get s

theorem appendLines_spec (cfg : Cfg) (alen nadd : Nat) (leftmost : Int) : ∀ (bs : List BLine) (seqi : Nat) (m : SxMsa),
    LSpec (cfg.valid ∧ cfg.selexOk = true ∧ typesOk (bs.map (·.ty)) seqi = true ∧ (∀ b ∈ bs, PosOk leftmost nadd b) ∧
        ∀ s ∈ slotsOf (bs.map (·.ty)) seqi, ∃ old, m.get s = some old ∧ Pre (SlotOk cfg s) alen old)
      (AppInv cfg m (alen + nadd) (slotsOf (bs.map (·.ty)) seqi)) (appendLines cfg alen nadd leftmost bs seqi m) := by
  intro bs
  induction bs with
  | nil => exact fun seqi m _ => ⟨sameFrame_refl m, nofun, fun _ _ => rfl⟩
  | cons b bs ih =>
    intro seqi m
    unfold appendLines
    refine .bind (appendLine_spec cfg alen nadd leftmost seqi m b) (fun ⟨hv, hs, hty, hpos, hpre⟩ => ⟨hv, hs, hpos b (by simp), ?_⟩)
      (fun _ e => by rw [e]) (fun _ e => by rw [e]) fun m' => ?_
    · simp only [List.map_cons, typesOk, Bool.and_eq_true] at hty
      obtain ⟨s, hslot⟩ := Option.isSome_iff_exists.mp hty.1
      obtain ⟨old, hg, hp⟩ := hpre s (by simp [slotsOf, hslot])
      exact ⟨s, old, hslot, hg, hp⟩
    -- the rest of the lines start from `m.set s row`
    refine (ih _ m').imp (fun ⟨⟨hv, hs, hty, hpos, hpre⟩, s, row, hslot, hm', hrow⟩ => ?_)
      fun mf ⟨⟨_, _, _, _, hpre⟩, s, row, hslot, hm', hrow⟩ hq => ?_
    · subst hm'
      simp only [List.map_cons, typesOk, Bool.and_eq_true] at hty
      refine ⟨hv, hs, hty.2, fun b' hb' => hpos b' (by simp [hb']), fun s' hs' => ?_⟩
      by_cases he : s' = s
      · -- a slot written twice (two `#=MM` lines): it holds a row of the new length already
        subst he
        obtain ⟨old, hg, _⟩ := hpre s' (by simp [slotsOf, hslot])
        exact ⟨some row, get_set_same m s' row (by rw [hg]; rfl), Or.inr ⟨row, alen + nadd, rfl, by omega, hrow⟩⟩
      · rw [get_set_other m s s' row (Ne.symm he)]
        exact hpre s' (by rw [List.map_cons, slotsOf, hslot]; exact List.mem_append_right _ hs')
    · subst hm'
      have hslots : slotsOf ((b :: bs).map (·.ty)) seqi = s :: slotsOf (bs.map (·.ty)) (if b.ty == .sq then seqi + 1 else seqi) := by
        simp [slotsOf, hslot]
      obtain ⟨old, hg, _⟩ := hpre s (by rw [hslots]; simp)
      rw [hslots]
      refine ⟨sameFrame_trans (sameFrame_set m s row) hq.frame, fun s' hs' => ?_, fun s' hs' => ?_⟩
      · by_cases hr : s' ∈ slotsOf (bs.map (·.ty)) (if b.ty == .sq then seqi + 1 else seqi)
        · exact hq.done_ok s' hr
        · have he : s' = s := (List.mem_cons.mp hs').resolve_right hr
          subst he
          rw [hq.rest_same s' hr]
          exact ⟨row, get_set_same m s' row (by rw [hg]; rfl), hrow⟩
      · rw [hq.rest_same s' (fun e => hs' (List.mem_cons_of_mem _ e)), get_set_other m s s' row (fun e => hs' (by simp [e]))]

theorem rposScan_bounds (l : Bytes) : -1 ≤ rposScan l ∧ rposScan l < l.length := by
  unfold rposScan
  have := (List.dropWhile_suffix isSpace (l := l.reverse)).length_le
  simp only [List.length_reverse] at this
  constructor <;> omega

/-- after the first loop of `selex_append_block` -/
def FixOk (b : BLine) : Prop :=
  ((b.lpos = -1 ∧ -1 ≤ b.rpos) ∨ (0 ≤ b.lpos ∧ b.lpos ≤ b.rpos)) ∧ b.rpos < b.line.length

theorem fixPos_ok (b : BLine) (h : -1 ≤ b.lpos) : FixOk (fixPos b) := by
  have hb := rposScan_bounds b.line
  unfold fixPos FixOk
  simp only
  by_cases h1 : rposScan b.line < b.lpos
  · simp only [h1, if_true]
    have : ¬ (rposScan b.line < -1) := by omega
    simp only [this, if_false]
    exact ⟨Or.inl ⟨trivial, hb.1⟩, hb.2⟩
  · simp only [h1, if_false]
    refine ⟨?_, hb.2⟩
    by_cases h2 : b.lpos = -1
    · exact Or.inl ⟨h2, hb.1⟩
    · exact Or.inr ⟨by omega, by omega⟩

@[simp] theorem fixPos_ty (b : BLine) : (fixPos b).ty = b.ty := rfl

/-- a fold whose every step moves the accumulator down in `le` ends below where it started, and below the bound `v x` of every
    element `x` (of those that count, `p x`) whose step went below it -/
theorem foldl_below {α β : Type} (le : β → β → Prop) (hrefl : ∀ a, le a a) (htrans : ∀ {a b c}, le a b → le b c → le a c)
    (f : β → α → β) (v : α → β) (p : α → Prop) (hf : ∀ a x, le (f a x) a) (hv : ∀ a x, p x → le (f a x) (v x)) :
    ∀ (l : List α) (a : β), le (l.foldl f a) a ∧ ∀ x ∈ l, p x → le (l.foldl f a) (v x)
  | [], a => ⟨hrefl a, nofun⟩
  | y :: l, a => by
    obtain ⟨h1, h2⟩ := foldl_below le hrefl htrans f v p hf hv l (f a y)
    exact ⟨htrans h1 (hf a y), fun x hx hp =>
      (List.mem_cons.mp hx).elim (fun e => htrans h1 (e ▸ hv a x hp)) fun hx => h2 x hx hp⟩

theorem leftmost_le (b0 : BLine) (rest : List BLine) :
    leftmostOf b0 rest ≤ b0.lpos ∧ ∀ b ∈ b0 :: rest, b.lpos ≠ -1 → leftmostOf b0 rest ≤ b.lpos := by
  have h := foldl_below (· ≤ ·) Int.le_refl Int.le_trans (fun lm b => if b.lpos == -1 then lm else min lm b.lpos) (·.lpos) (·.lpos ≠ -1)
    (fun a x => by split <;> omega)
    (fun a x hp => by rw [if_neg (by simpa using hp)]; exact Int.min_le_right ..) rest b0.lpos
  exact ⟨h.1, fun b hb hp => (List.mem_cons.mp hb).elim (fun e => e ▸ h.1) fun hb => h.2 b hb hp⟩

theorem rightmost_ge (b0 : BLine) (rest : List BLine) :
    b0.rpos ≤ rightmostOf b0 rest ∧ ∀ b ∈ b0 :: rest, b.rpos ≠ -1 → b.rpos ≤ rightmostOf b0 rest := by
  have h := foldl_below (· ≥ ·) Int.le_refl (fun h1 h2 => Int.le_trans h2 h1) (fun rm b => if b.rpos == -1 then rm else max rm b.rpos) (·.rpos)
    (·.rpos ≠ -1) (fun a x => by split <;> omega)
    (fun a x hp => by rw [if_neg (by simpa using hp)]; exact Int.le_max_right ..) rest b0.rpos
  exact ⟨h.1, fun b hb hp => (List.mem_cons.mp hb).elim (fun e => e ▸ h.1) fun hb => h.2 b hb hp⟩

/-- the block adds at least one column and every line fits into it -/
theorem block_positions (b0 : BLine) (rest : List BLine) (hfix : ∀ b ∈ b0 :: rest, FixOk b)
    (hr : rightmostOf b0 rest ≠ -1) :
    1 ≤ rightmostOf b0 rest - leftmostOf b0 rest + 1 ∧
    ∀ b ∈ b0 :: rest, PosOk (leftmostOf b0 rest) (rightmostOf b0 rest - leftmostOf b0 rest + 1).toNat b := by
  have h0 := hfix b0 (by simp)
  obtain ⟨hl0, hlm⟩ := leftmost_le b0 rest
  obtain ⟨hr0, hrm⟩ := rightmost_ge b0 rest
  unfold FixOk at h0
  have hle : 0 ≤ rightmostOf b0 rest ∧ leftmostOf b0 rest ≤ rightmostOf b0 rest := by
    rcases h0.1 with ⟨h, _⟩ | ⟨h1, h2⟩ <;> omega
  refine ⟨by omega, ?_⟩
  intro b hb
  have hf := hfix b hb
  unfold FixOk at hf
  unfold PosOk
  rcases hf.1 with ⟨h, _⟩ | ⟨h1, h2⟩
  · exact Or.inl h
  · right
    have hlm := hlm b hb (by omega)
    have hrm := hrm b hb (by omega)
    exact ⟨h1, hlm, h2, hf.2, by omega⟩

/-- invariant of the alignment under construction; `tys` = `b->ltype[]`, the line types of the first block -/
structure MsaInv (cfg : Cfg) (tys : List LType) (m : SxMsa) : Prop where
  nseq_pos : 1 ≤ m.nseq
  names_len : m.names.length = m.nseq
  rows_len : m.rows.length = m.nseq
  ss_len : ∀ l, m.ss = some l → l.length = m.nseq
  sa_len : ∀ l, m.sa = some l → l.length = m.nseq
  count : countSq tys = m.nseq
  types_ok : typesOk tys 0 = true
  sq_all : ∀ i, i < m.nseq → Slot.sq i ∈ slotsOf tys 0
  untouched : ∀ s, s ∉ slotsOf tys 0 → m.get s = none ∨ m.get s = some none
  touched : ∀ s ∈ slotsOf tys 0,
    if m.alen = 0 then m.get s = some none else ∃ b, m.get s = some (some b) ∧ SlotOk cfg s m.alen b

theorem get_alen (m : SxMsa) (a : Nat) (s : Slot) : ({ m with alen := a } : SxMsa).get s = m.get s := by
  cases s <;> rfl

theorem appendBlock_spec (cfg : Cfg) (tys : List LType) (m : SxMsa) (bl : List BLine) :
    LSpec (cfg.valid ∧ cfg.selexOk = true ∧ MsaInv cfg tys m ∧ bl.map (·.ty) = tys ∧ ∀ b ∈ bl, -1 ≤ b.lpos) (MsaInv cfg tys)
      (appendBlock cfg m bl) := by
  unfold appendBlock
  cases hfl : bl.map fixPos with
  | nil =>
    -- no line: the first block has at least one sequence line
    exact .fault fun ⟨_, _, hinv, hty, _⟩ => by
      cases List.map_eq_nil_iff.mp hfl
      have h1 := hinv.count
      have h2 := hinv.nseq_pos
      rw [← hty] at h1
      simp [countSq] at h1
      omega
  | cons b0 rest =>
    dsimp only
    refine .ite (fun _ ⟨_, _, hinv, _, _⟩ => hinv) fun hr => ?_
    have hr' : rightmostOf b0 rest ≠ -1 := by simpa using hr
    have hfacts : bl.map (·.ty) = tys → (∀ b ∈ bl, -1 ≤ b.lpos) → (b0 :: rest).map (·.ty) = tys ∧
        1 ≤ rightmostOf b0 rest - leftmostOf b0 rest + 1 ∧
        ∀ b ∈ b0 :: rest, PosOk (leftmostOf b0 rest) (rightmostOf b0 rest - leftmostOf b0 rest + 1).toNat b := fun hty hl => by
      refine ⟨by rw [← hfl, List.map_map, ← hty]; rfl, block_positions b0 rest (fun b hb => ?_) hr'⟩
      rw [← hfl] at hb
      obtain ⟨b', hb', rfl⟩ := List.mem_map.mp hb
      exact fixPos_ok b' (hl b' hb')
    refine .ite (fun hneg => .fault fun ⟨_, _, _, hty, hl⟩ => by have := (hfacts hty hl).2.1; omega) fun _ =>
      .map (appendLines_spec cfg m.alen _ _ (b0 :: rest) 0 m) (fun ⟨hv, hs, hinv, hty, hl⟩ => ?_) (fun _ e => by rw [e]) (fun _ e => by rw [e])
        fun mf ⟨_, _, hinv, hty, hl⟩ hal => ?_
    · -- what the slots hold before the block
      obtain ⟨htys, _, hposall⟩ := hfacts hty hl
      refine ⟨hv, hs, by rw [htys]; exact hinv.types_ok, hposall, fun s hs' => ?_⟩
      rw [htys] at hs'
      have ht := hinv.touched s hs'
      by_cases h0 : m.alen = 0
      · simp only [h0, if_true] at ht
        exact ⟨none, ht, Or.inl ⟨rfl, h0⟩⟩
      · simp only [h0, if_false] at ht
        obtain ⟨b, hg, hok⟩ := ht
        exact ⟨some b, hg, Or.inr ⟨b, m.alen, rfl, Nat.le_refl _, hok⟩⟩
    · obtain ⟨htys, hnadd, _⟩ := hfacts hty hl
      rw [htys] at hal
      have hf := hal.frame
      have hnz : m.alen + (rightmostOf b0 rest - leftmostOf b0 rest + 1).toNat ≠ 0 := by omega
      refine
        { nseq_pos := by show 1 ≤ mf.nseq; rw [hf.nseq]; exact hinv.nseq_pos,
          names_len := by show mf.names.length = mf.nseq; rw [hf.names, hf.nseq]; exact hinv.names_len,
          rows_len := by show mf.rows.length = mf.nseq; rw [hf.rows_len, hf.nseq]; exact hinv.rows_len,
          ss_len := fun l hl => (arr_len_of_frame hf.ss_len hinv.ss_len l hl).trans hf.nseq.symm,
          sa_len := fun l hl => (arr_len_of_frame hf.sa_len hinv.sa_len l hl).trans hf.nseq.symm,
          count := by show countSq tys = mf.nseq; rw [hf.nseq]; exact hinv.count,
          types_ok := hinv.types_ok,
          sq_all := by intro i hi; exact hinv.sq_all i (by rw [← hf.nseq]; exact hi),
          untouched := ?_, touched := ?_ }
      · intro s hs'
        rw [get_alen, hal.rest_same s hs']
        exact hinv.untouched s hs'
      · intro s hs'
        simp only [hnz, if_false]
        rw [get_alen]
        exact hal.done_ok s hs'

theorem slotsOf_sq_mem (tys : List LType) : ∀ (seqi i : Nat), seqi ≤ i → i < seqi + countSq tys →
    Slot.sq i ∈ slotsOf tys seqi := by
  induction tys with
  | nil => intro seqi i h1 h2; simp [countSq] at h2; omega
  | cons t ts ih =>
    intro seqi i h1 h2
    simp only [slotsOf, List.mem_append]
    by_cases ht : t = .sq
    · subst ht
      simp only [countSq, beq_self_eq_true, if_true] at h2 ⊢
      by_cases he : i = seqi
      · left; simp [slotOf, he]
      · right; exact ih (seqi + 1) i (by omega) (by omega)
    · have hb : (t == LType.sq) = false := by simpa using ht
      simp only [countSq, hb, Bool.false_eq_true, if_false] at h2 ⊢
      right; exact ih seqi i h1 (by omega)

theorem slotsOf_mem_bound (tys : List LType) : ∀ (seqi : Nat) (s : Slot), s ∈ slotsOf tys seqi →
    (∀ i, s = .sq i → i < seqi + countSq tys) ∧
    (∀ i, s = .ss i → LType.ss ∈ tys ∧ i < seqi + countSq tys) ∧
    (∀ i, s = .sa i → LType.sa ∈ tys ∧ i < seqi + countSq tys) := by
  induction tys with
  | nil => intro seqi s h; simp [slotsOf] at h
  | cons t ts ih =>
    intro seqi s h
    simp only [slotsOf, List.mem_append] at h
    rcases h with h | h
    · cases t <;> simp only [slotOf] at h
      · simp at h; subst h; simp [countSq]; omega
      · simp at h; subst h; simp
      · simp at h; subst h; simp
      · split at h
        · simp at h
        · simp at h; subst h; simp [countSq]; omega
      · split at h
        · simp at h
        · simp at h; subst h; simp [countSq]; omega
      · simp at h; subst h; simp
    · obtain ⟨h1, h2, h3⟩ := ih _ s h
      have hc : (if t == .sq then seqi + 1 else seqi) + countSq ts = seqi + countSq (t :: ts) := by
        simp only [countSq]; split <;> omega
      rw [hc] at h1 h2 h3
      refine ⟨h1, ?_, ?_⟩
      · intro i hi; exact ⟨List.mem_cons_of_mem _ (h2 i hi).1, (h2 i hi).2⟩
      · intro i hi; exact ⟨List.mem_cons_of_mem _ (h3 i hi).1, (h3 i hi).2⟩

theorem cnt_err_msg (c : Cnt) (msg : String) (h : c.err = some msg) : msg ≠ "" := by
  unfold Cnt.err at h
  rcases ite_some_cases h with rfl | h
  · decide
  rcases ite_some_cases h with rfl | h
  · decide
  rcases ite_some_cases h with rfl | h
  · decide
  rcases ite_some_cases h with rfl | h
  · decide
  rcases ite_some_cases h with rfl | h
  · decide
  rcases ite_some_cases h with rfl | h
  · decide
  · exact nomatch h

theorem cnt_err_slot (c : Cnt) (t : LType) (h : (c.bump t).err = none) : (slotOf t c.nseq).isSome = true := by
  cases t <;> simp only [slotOf, Option.isSome_some] <;> try rfl
  · by_cases h0 : c.nseq = 0
    · exfalso; simp [Cnt.err, Cnt.bump, h0] at h
    · simp [h0]
  · by_cases h0 : c.nseq = 0
    · exfalso; simp [Cnt.err, Cnt.bump, h0] at h; split at h <;> simp at h
    · simp [h0]

/-- none of the six tests of `selex_first_block` fails along the list of line types -/
def scanOk : List LType → Cnt → Prop
  | [], _ => True
  | t :: r, c => (c.bump t).err = none ∧ scanOk r (c.bump t)

/-- the first loop of `selex_first_block`: the types of the lines and the counters run over them, unless a test fails on the way -/
theorem firstScan_spec : ∀ (ls : List Bytes) (c : Cnt),
    match firstScan ls c with
    | .inl msg => msg ≠ "" ∧ ¬ scanOk (ls.map ltypeOf) c
    | .inr p => scanOk (ls.map ltypeOf) c ∧ p = (ls.map ltypeOf, (ls.map ltypeOf).foldl Cnt.bump c)
  | [], _ => ⟨trivial, rfl⟩
  | l :: ls, c => by
    have ih := firstScan_spec ls (c.bump (ltypeOf l))
    unfold firstScan
    dsimp only
    cases herr : (c.bump (ltypeOf l)).err with
    | some msg => exact ⟨cnt_err_msg _ _ herr, fun h => by rw [h.1] at herr; cases herr⟩
    | none =>
      dsimp only
      cases hrec : firstScan ls (c.bump (ltypeOf l)) with
      | inl msg => rw [hrec] at ih; exact ⟨ih.1, fun h => ih.2 h.2⟩
      | inr p => rw [hrec] at ih; exact ⟨⟨herr, ih.1⟩, by rw [ih.2]; rfl⟩

theorem firstScan_msg (ls : List Bytes) (c : Cnt) (msg : String) (h : firstScan ls c = .inl msg) : msg ≠ "" := by
  have hs := firstScan_spec ls c
  rw [h] at hs
  exact hs.1

theorem firstScan_g (ls : List Bytes) (c : Cnt) (h : scanOk (ls.map ltypeOf) c) :
    firstScan ls c = .inr (ls.map ltypeOf, (ls.map ltypeOf).foldl Cnt.bump c) := by
  have hs := firstScan_spec ls c
  cases hf : firstScan ls c with
  | inl msg => rw [hf] at hs; exact absurd h hs.2
  | inr p => rw [hf] at hs; rw [hs.2]

theorem bump_nseq (c : Cnt) (t : LType) : (c.bump t).nseq = if t == .sq then c.nseq + 1 else c.nseq := by
  cases t <;> rfl

/-- what the counters hold after a run over line types -/
theorem bump_fold : ∀ (tys : List LType) (c : Cnt), (tys.foldl Cnt.bump c).nseq = c.nseq + countSq tys ∧
    ((c.hasSS = true ∨ LType.ss ∈ tys) → (tys.foldl Cnt.bump c).hasSS = true) ∧
    ((c.hasSA = true ∨ LType.sa ∈ tys) → (tys.foldl Cnt.bump c).hasSA = true)
  | [], c => ⟨rfl, fun h => h.elim id nofun, fun h => h.elim id nofun⟩
  | t :: tys, c => by
    obtain ⟨i1, i2, i3⟩ := bump_fold tys (c.bump t)
    refine ⟨by rw [List.foldl_cons, i1, bump_nseq]; simp only [countSq]; split <;> omega, fun hh => i2 ?_, fun hh => i3 ?_⟩
    · rcases hh with hh | hh
      · left; cases t <;> simp [Cnt.bump, hh]
      · exact (List.mem_cons.mp hh).imp (fun e => by rw [← e]; rfl) id
    · rcases hh with hh | hh
      · left; cases t <;> simp [Cnt.bump, hh]
      · exact (List.mem_cons.mp hh).imp (fun e => by rw [← e]; rfl) id

theorem scanOk_typesOk : ∀ (tys : List LType) (c : Cnt), scanOk tys c → typesOk tys c.nseq = true
  | [], _, _ => rfl
  | t :: tys, c, h => by
    have := scanOk_typesOk tys (c.bump t) h.2
    rw [bump_nseq] at this
    simp only [typesOk, cnt_err_slot c t h.1, Bool.true_and, this]

theorem firstScan_ok (ls : List Bytes) (c : Cnt) (tys : List LType) (cf : Cnt) (h : firstScan ls c = .inr (tys, cf)) :
    tys.length = ls.length ∧ cf.nseq = c.nseq + countSq tys ∧ typesOk tys c.nseq = true ∧
    ((c.hasSS = true ∨ LType.ss ∈ tys) → cf.hasSS = true) ∧ ((c.hasSA = true ∨ LType.sa ∈ tys) → cf.hasSA = true) := by
  have hs := firstScan_spec ls c
  rw [h] at hs
  obtain ⟨hok, e⟩ := hs
  cases e
  exact ⟨List.length_map .., (bump_fold _ c).1, scanOk_typesOk _ c hok, (bump_fold _ c).2⟩

theorem all_of_dropWhile_nil {α : Type} (p : α → Bool) (l : List α) (h : l.dropWhile p = []) : l.all p = true := by
  induction l with
  | nil => rfl
  | cons x xs ih =>
    simp only [List.dropWhile_cons] at h
    split at h
    · rename_i hx; simp [hx, ih h]
    · simp at h

theorem memtok_ne_none (l : Bytes) (h : isBlankLine l = false) : memtok l blankTab ≠ none := by
  unfold memtok
  cases hd : l.dropWhile (inDelim blankTab) with
  | nil =>
    unfold isBlankLine at h
    rw [all_of_dropWhile_nil _ _ hd] at h; cases h
  | cons x xs => simp

/-- what `esl_memtok` leaves is a suffix of the line, whatever the line -/
theorem memtok_rest_le (l d tok rest : Bytes) (h : memtok l d = some (tok, rest)) : rest.length ≤ l.length := by
  unfold memtok at h
  dsimp only at h
  split at h
  · cases h
  · cases h
    have s1 := (List.dropWhile_suffix (inDelim d) (l := l)).length_le
    have s2 := (List.dropWhile_suffix (fun c => !inDelim d c) (l := l.dropWhile (inDelim d))).length_le
    have s3 := (List.dropWhile_suffix (inDelim d) (l := (l.dropWhile (inDelim d)).dropWhile (fun c => !inDelim d c))).length_le
    omega

theorem memtok_nonblank (l : Bytes) (h : isBlankLine l = false) :
    ∃ tok rest, memtok l blankTab = some (tok, rest) ∧ rest.length ≤ l.length := by
  cases hm : memtok l blankTab with
  | none => exact absurd hm (memtok_ne_none l h)
  | some p => exact ⟨p.1, p.2, rfl, memtok_rest_le l _ p.1 p.2 hm⟩

theorem lposOf_ge (l rest : Bytes) (h : rest.length ≤ l.length) : -1 ≤ lposOf l rest := by
  unfold lposOf; split <;> omega

theorem lposOf_memtok (l d tok rest : Bytes) (h : memtok l d = some (tok, rest)) : -1 ≤ lposOf l rest :=
  lposOf_ge l rest (memtok_rest_le l d tok rest h)

theorem firstNames_spec (nseq : Nat) : ∀ (zl : List (LType × Bytes)) (seqi : Nat),
    LSpec ((∀ p ∈ zl, isBlankLine p.2 = false) ∧ seqi + countSq (zl.map (·.1)) ≤ nseq)
      (fun r => r.1.length = countSq (zl.map (·.1)) ∧ r.2.map (·.ty) = zl.map (·.1) ∧ ∀ b ∈ r.2, -1 ≤ b.lpos)
      (firstNames nseq zl seqi) := by
  intro zl
  induction zl with
  | nil => exact fun _ _ => ⟨rfl, rfl, nofun⟩
  | cons p zl ih =>
    intro seqi
    obtain ⟨t, l⟩ := p
    unfold firstNames
    cases hmt : memtok l blankTab with
    | none => exact .exc fun h => memtok_ne_none l (h.1 (t, l) (by simp)) hmt
    | some q =>
      obtain ⟨tok, rest⟩ := q
      dsimp only
      have hlp := lposOf_memtok l _ tok rest hmt
      refine .ite (fun ht => ?_) fun ht => ?_
      · have ht' : t = .sq := by simpa using ht
        subst ht'
        refine .ite (fun hge => .exc fun h => ?_) fun _ => .map (ih (seqi + 1)) (fun h => ⟨fun p hp => h.1 p (by simp [hp]), ?_⟩)
          (fun _ e => by rw [e]) (fun _ e => by rw [e]) fun r h hq => ⟨by simp [countSq, hq.1]; omega, by simp [hq.2.1], ?_⟩
        · have := h.2; simp only [List.map_cons, countSq, beq_self_eq_true, if_true] at this; omega
        · have := h.2; simp only [List.map_cons, countSq, beq_self_eq_true, if_true] at this; omega
        · exact fun b hb => (List.mem_cons.mp hb).elim (fun e => e ▸ hlp) (hq.2.2 b)
      · have hb : (t == LType.sq) = false := by simpa using ht
        refine .map (ih seqi) (fun h => ⟨fun p hp => h.1 p (by simp [hp]), ?_⟩)
          (fun _ e => by rw [e]) (fun _ e => by rw [e]) fun r h hq => ⟨by simp [countSq, hb, hq.1], by simp [hq.2.1], ?_⟩
        · have := h.2; simp only [List.map_cons, countSq, hb, Bool.false_eq_true, if_false, Nat.zero_add] at this; exact this
        · exact fun b hb => (List.mem_cons.mp hb).elim (fun e => e ▸ hlp) (hq.2.2 b)

/-- `firstNames` fails only with the "can't happen" exception -/
theorem firstNames_inl (nseq : Nat) : ∀ (zl : List (LType × Bytes)) (seqi : Nat) (r : Res Msa), firstNames nseq zl seqi = .inl r → r = .exc
  | [], _, _, h => nomatch h
  | (t, l) :: zl, seqi, r, h => by
    unfold firstNames at h
    split at h
    · cases h; rfl
    · split at h
      · split at h
        · cases h; rfl
        · split at h
          · rename_i hr; cases h; exact firstNames_inl nseq zl _ _ hr
          · cases h
      · split at h
        · rename_i hr; cases h; exact firstNames_inl nseq zl _ _ hr
        · cases h

theorem firstNames_ok (nseq : Nat) : ∀ (zl : List (LType × Bytes)) (seqi : Nat),
    (∀ p ∈ zl, isBlankLine p.2 = false) → seqi + countSq (zl.map (·.1)) ≤ nseq →
    ∃ names bl, firstNames nseq zl seqi = .inr (names, bl) ∧ names.length = countSq (zl.map (·.1)) ∧
      bl.map (·.ty) = zl.map (·.1) ∧ ∀ b ∈ bl, -1 ≤ b.lpos := by
  intro zl seqi hnb hcnt
  have hs := firstNames_spec nseq zl seqi
  cases hf : firstNames nseq zl seqi with
  | inl r => rw [hf] at hs; cases firstNames_inl nseq zl seqi r hf; exact absurd ⟨hnb, hcnt⟩ hs
  | inr p => rw [hf] at hs; exact ⟨p.1, p.2, rfl, hs ⟨hnb, hcnt⟩⟩

theorem firstBlock_spec (cfg : Cfg) (lines : List Bytes) :
    LSpec (∀ l ∈ lines, isBlankLine l = false)
      (fun p => MsaInv cfg p.2.1 p.1 ∧ p.2.2.map (·.ty) = p.2.1 ∧ (∀ b ∈ p.2.2, -1 ≤ b.lpos) ∧ p.2.1.length = lines.length)
      (firstBlock lines) := by
  unfold firstBlock
  cases hsc : firstScan lines {} with
  | inl msg => exact .eformat (firstScan_msg _ _ _ hsc)
  | inr p =>
    obtain ⟨tys, c⟩ := p
    obtain ⟨hlen, hcnt, htok, hss, hsa⟩ := firstScan_ok _ _ _ _ hsc
    have hcnt0 : c.nseq = countSq tys := by simpa using hcnt
    have htok0 : typesOk tys 0 = true := htok
    dsimp only
    refine .ite (fun _ => .eformat) fun hn0 => ?_
    have hn : c.nseq ≠ 0 := by simpa using hn0
    have hzmap : (tys.zip lines).map (·.1) = tys := by
      rw [List.map_fst_zip]; omega
    refine .map (firstNames_spec c.nseq (tys.zip lines) 0) (fun h => ⟨fun p hp => h p.2 (List.of_mem_zip hp).2, by rw [hzmap]; omega⟩)
      (fun _ e => by rw [e]) (fun _ e => by rw [e]) fun r _ hq => ?_
    obtain ⟨names, bl⟩ := r
    rw [hzmap] at hq
    dsimp only at hq
    obtain ⟨hnl, hbt, hbl⟩ := hq
    refine ⟨?_, hbt, hbl, hlen⟩
    have hall : ∀ s, (newMsa c names).get s = none ∨ (newMsa c names).get s = some none := fun s => by
      cases s with
      | sq i => exact (arrGet_fresh true c.nseq i).1
      | ss i => exact (arrGet_fresh c.hasSS c.nseq i).1
      | sa i => exact (arrGet_fresh c.hasSA c.nseq i).1
      | _ => exact Or.inr rfl
    refine
      { nseq_pos := by show 1 ≤ c.nseq; omega,
        names_len := by show names.length = c.nseq; omega,
        rows_len := by simp [newMsa],
        ss_len := arrFresh_len c.hasSS c.nseq, sa_len := arrFresh_len c.hasSA c.nseq,
        count := hcnt0.symm, types_ok := htok0,
        sq_all := fun i hi => slotsOf_sq_mem tys 0 i (by omega) (by have : i < c.nseq := hi; omega),
        untouched := fun s _ => hall s,
        touched := fun s hs' => ?_ }
    have ha0 : (newMsa c names).alen = 0 := rfl
    simp only [ha0, if_true]
    obtain ⟨b1, b2, b3⟩ := slotsOf_mem_bound tys 0 s hs'
    cases s with
    | sq i => exact (arrGet_fresh true c.nseq i).2 rfl (by have := b1 i rfl; omega)
    | ss i => exact (arrGet_fresh c.hasSS c.nseq i).2 (hss (Or.inr (b2 i rfl).1)) (by have := (b2 i rfl).2; omega)
    | sa i => exact (arrGet_fresh c.hasSA c.nseq i).2 (hsa (Or.inr (b3 i rfl).1)) (by have := (b3 i rfl).2; omega)
    | _ => rfl

theorem orderMsg_ne (t : LType) : orderMsg t ≠ "" := by cases t <;> decide

theorem otherTypes_spec (ltype : List LType) : ∀ (lines : List Bytes) (idx : Nat) (r : Res Msa),
    otherTypes ltype lines idx = some r → ErrGood (idx + lines.length ≤ ltype.length) r := by
  intro lines
  induction lines with
  | nil => intro idx r h; cases h
  | cons l ls ih =>
    intro idx r h
    unfold otherTypes at h
    cases hl : ltype[idx]? with
    | none =>
      rw [hl] at h; cases h
      exact fun hH => by have := List.getElem?_eq_none_iff.mp hl; simp only [List.length_cons] at hH; omega
    | some t =>
      rw [hl] at h
      dsimp only at h
      split at h
      · cases h; exact fun _ => orderMsg_ne _
      · exact (ih (idx + 1) r h).imp fun hH => by simp only [List.length_cons] at hH; omega

/-- outcome of `selex_other_block` -/
def BlGood (P : List BLine → Prop) (x : Sum (Res Msa) (List BLine)) : Prop :=
  match x with
  | .inl r => Good r
  | .inr bl => P bl

@[simp] theorem blGood_inl (P : List BLine → Prop) (r : Res Msa) : BlGood P (.inl r) = Good r := rfl
@[simp] theorem blGood_inr (P : List BLine → Prop) (bl : List BLine) : BlGood P (.inr bl : Sum (Res Msa) (List BLine)) = P bl := rfl

theorem otherNames_spec (names : List Bytes) (ltype : List LType) : ∀ (lines : List Bytes) (idx seqi : Nat),
    LSpec ((∀ l ∈ lines, isBlankLine l = false) ∧ idx + lines.length = ltype.length ∧
        seqi + countSq (ltype.drop idx) ≤ names.length)
      (fun bl => bl.map (·.ty) = ltype.drop idx ∧ ∀ b ∈ bl, -1 ≤ b.lpos) (otherNames names ltype lines idx seqi) := by
  intro lines
  induction lines with
  | nil => exact fun idx seqi ⟨_, hlen, _⟩ => by simp at hlen; simp [hlen]
  | cons l ls ih =>
    intro idx seqi
    unfold otherNames
    cases hmt : memtok l blankTab with
    | none =>
      exact .exc fun h => memtok_ne_none l (h.1 l (by simp)) hmt
    | some p =>
      obtain ⟨tok, rest⟩ := p
      dsimp only
      cases hlt : ltype[idx]? with
      | none =>
        exact .fault fun h => by have := List.getElem?_eq_none_iff.mp hlt; have := h.2.1; simp only [List.length_cons] at this; omega
      | some t =>
        dsimp only
        obtain ⟨hidx, rfl⟩ := List.getElem?_eq_some_iff.mp hlt
        have hdrop : ltype.drop idx = ltype[idx] :: ltype.drop (idx + 1) := List.drop_eq_getElem_cons hidx
        rw [hdrop]
        have hlp := lposOf_memtok l _ tok rest hmt
        refine .ite (fun ht => ?_) fun ht => ?_
        · have ht' : ltype[idx] = .sq := by simpa using ht
          cases hnm : names[seqi]? with
          | none =>
            exact .fault fun h => by
              have := List.getElem?_eq_none_iff.mp hnm; have := h.2.2; simp only [ht', countSq, beq_self_eq_true, if_true] at this; omega
          | some nm =>
            dsimp only
            refine .ite (fun _ => .eformat) fun _ => .map (ih (idx + 1) (seqi + 1)) (fun h => ⟨fun l' hl' => h.1 l' (by simp [hl']), ?_, ?_⟩)
              (fun _ e => by rw [e]) (fun _ e => by rw [e]) fun bl h hq => ⟨by simp [hq.1], fun b hb => ?_⟩
            · have := h.2.1; simp only [List.length_cons] at this; omega
            · have := h.2.2; simp only [ht', countSq, beq_self_eq_true, if_true] at this; omega
            · exact (List.mem_cons.mp hb).elim (fun e => e ▸ hlp) (hq.2 b)
        · have hb : (ltype[idx] == LType.sq) = false := by simpa using ht
          refine .map (ih (idx + 1) seqi) (fun h => ⟨fun l' hl' => h.1 l' (by simp [hl']), ?_, ?_⟩)
            (fun _ e => by rw [e]) (fun _ e => by rw [e]) fun bl h hq => ⟨by simp [hq.1], fun b hb' => ?_⟩
          · have := h.2.1; simp only [List.length_cons] at this; omega
          · have := h.2.2; simp only [countSq, hb, Bool.false_eq_true, if_false, Nat.zero_add] at this; exact this
          · exact (List.mem_cons.mp hb').elim (fun e => e ▸ hlp) (hq.2 b)

theorem otherBlock_spec (cfg : Cfg) (m : SxMsa) (ltype : List LType) (lines : List Bytes) :
    LSpec (MsaInv cfg ltype m ∧ (∀ l ∈ lines, isBlankLine l = false) ∧ lines.length = ltype.length)
      (fun bl => bl.map (·.ty) = ltype ∧ ∀ b ∈ bl, -1 ≤ b.lpos) (otherBlock m ltype lines) := by
  unfold otherBlock
  cases hot : otherTypes ltype lines 0 with
  | some r => exact (otherTypes_spec ltype lines 0 r hot).imp fun h => by omega
  | none =>
    exact (otherNames_spec m.names ltype lines 0 0).imp
      (fun h => ⟨h.2.1, by omega, by simp only [List.drop_zero, Nat.zero_add]; rw [h.1.count, h.1.names_len]; exact Nat.le_refl _⟩)
      fun bl _ hq => by simpa using hq

theorem cstr_txt (c : Bytes) (h : c.all (· != 0) = true) : cstr (c ++ [0]) = c := by
  unfold cstr
  induction c with
  | nil => simp [List.takeWhile]
  | cons x xs ih =>
    simp only [List.all_cons, Bool.and_eq_true] at h
    simp only [List.cons_append, List.takeWhile_cons, h.1, if_true]
    rw [ih h.2]

theorem txtOk_cstr (alen : Nat) (b : Bytes) (h : TxtOk alen b) : (cstr b).length = alen ∧ (cstr b).contains 0 = false := by
  obtain ⟨c, hb, hl, ha⟩ := h
  subst hb
  rw [cstr_txt c ha]
  refine ⟨hl, ?_⟩
  simp only [List.contains_eq_mem, decide_eq_false_iff_not]
  intro hm
  have := (List.all_eq_true.mp ha) 0 hm
  simp at this

theorem slot_ok_of_get (cfg : Cfg) (tys : List LType) (m : SxMsa) (hinv : MsaInv cfg tys m) (ha : m.alen ≠ 0)
    (s : Slot) (b : Bytes) (hg : m.get s = some (some b)) : SlotOk cfg s m.alen b := by
  by_cases hs : s ∈ slotsOf tys 0
  · have := hinv.touched s hs
    simp only [ha, if_false] at this
    obtain ⟨b', hg', hok⟩ := this
    rw [hg] at hg'
    simp only [Option.some.injEq] at hg'
    subst hg'; exact hok
  · rcases hinv.untouched s hs with h | h <;> rw [hg] at h <;> simp at h

theorem optLen_cstr (alen : Nat) (o : Option Bytes) (h : ∀ b, o = some b → TxtOk alen b) :
    optLenOk alen (o.map cstr) = true := by
  cases o with
  | none => rfl
  | some b => simp [optLenOk, (txtOk_cstr alen b (h b rfl)).1]

theorem optRows_cstr (alen : Nat) (o : Option (List (Option Bytes)))
    (h : ∀ l, o = some l → ∀ (i : Nat) (b : Bytes), l[i]? = some (some b) → TxtOk alen b) :
    optRowsOk alen (o.map fun l => l.map fun e => e.map cstr) = true := by
  cases o with
  | none => rfl
  | some l =>
    simp only [Option.map_some, optRowsOk, List.all_map]
    rw [List.all_eq_true]
    intro e he
    obtain ⟨i, hi⟩ := List.mem_iff_getElem?.mp he
    simp only [Function.comp]
    apply optLen_cstr
    intro b hb
    subst hb
    exact h l rfl i b hi

theorem toMsa_wellFormed (cfg : Cfg) (tys : List LType) (m : SxMsa) (hinv : MsaInv cfg tys m) (ha : m.alen ≠ 0) :
    (m.toMsa cfg).wellFormed = true := by
  have hrows : ∀ o ∈ m.rows, ∃ b, o = some b ∧ RowBufOk cfg m.alen b := by
    intro o ho
    obtain ⟨i, hi⟩ := List.mem_iff_getElem?.mp ho
    have hlt : i < m.rows.length := (List.getElem?_eq_some_iff.mp hi).1
    have hs := hinv.sq_all i (by rw [← hinv.rows_len]; exact hlt)
    have := hinv.touched _ hs
    simp only [ha, if_false] at this
    obtain ⟨b, hg, hok⟩ := this
    have hg' : m.rows[i]? = some (some b) := hg
    rw [hi] at hg'
    simp only [Option.some.injEq] at hg'
    exact ⟨b, hg', hok⟩
  have hcs := optLen_cstr m.alen m.cs (fun b hb => slot_ok_of_get cfg tys m hinv ha .cs b (by simp [SxMsa.get, hb]))
  have hrf := optLen_cstr m.alen m.rf (fun b hb => slot_ok_of_get cfg tys m hinv ha .rf b (by simp [SxMsa.get, hb]))
  have hmm := optLen_cstr m.alen m.mm (fun b hb => slot_ok_of_get cfg tys m hinv ha .mm b (by simp [SxMsa.get, hb]))
  have hss := optRows_cstr m.alen m.ss (fun l hl i b hi =>
    slot_ok_of_get cfg tys m hinv ha (.ss i) b (by simp [SxMsa.get, hl, hi]))
  have hsa := optRows_cstr m.alen m.sa (fun l hl i b hi =>
    slot_ok_of_get cfg tys m hinv ha (.sa i) b (by simp [SxMsa.get, hl, hi]))
  have hn := hinv.nseq_pos
  have hnl := hinv.names_len
  have hrl := hinv.rows_len
  cases hd : cfg.digital with
  | true =>
    have hax : (m.rows.map fun o => o.getD []).all (dsqRowOk cfg.kp m.alen) = true := by
      rw [List.all_map, List.all_eq_true]
      intro o ho
      obtain ⟨b, hb, hok⟩ := hrows o ho
      subst hb
      simpa [RowBufOk, hd] using hok
    simp only [Msa.wellFormed, SxMsa.toMsa, Msa.nseq, hd, if_true, hcs, hrf, hmm, hss, hsa, hax]
    simp [optLenOk, optRowsOk, hnl, hrl]
    omega
  | false =>
    simp only [Msa.wellFormed, SxMsa.toMsa, Msa.nseq, hd, hcs, hrf, hmm, hss, hsa]
    simp [optLenOk, optRowsOk, hnl, hrl]
    refine ⟨hn, ?_⟩
    intro o ho
    obtain ⟨b, hb, hok⟩ := hrows o ho
    subst hb
    have := txtOk_cstr m.alen b (by simpa [RowBufOk, hd] using hok)
    refine ⟨this.1, ?_⟩
    have h2 := this.2
    simp only [List.contains_eq_mem, decide_eq_false_iff_not] at h2
    exact h2

/-- at a `esl_msafile_GetLine` call -/
structure SxInv (cfg : Cfg) (st : SxSt) : Prop where
  alloc : st.cur.length ≤ st.nalloc ∧ 0 < st.nalloc
  nonblank : ∀ l ∈ st.cur, isBlankLine l = false
  in_block : st.inBlock = true → st.cur ≠ []
  later : st.nblocks ≠ 0 → ∃ m, st.msa = some m ∧ MsaInv cfg st.ltype m ∧ st.ltype.length = st.nlines

theorem sxInv_init (cfg : Cfg) : SxInv cfg {} :=
  { alloc := by decide, nonblank := by intro l hl; simp at hl, in_block := by intro h; simp at h,
    later := by intro h; simp at h }

@[simp] theorem good_ok (m : Msa) : Good (.ok m) = (m.wellFormed = true) := rfl

theorem pushLine_spec (cfg : Cfg) (st : SxSt) (line : Bytes) :
    StepSpec (SxInv cfg st ∧ isBlankLine line = false) (SxInv cfg) (pushLine st line) := by
  unfold pushLine
  dsimp only
  have hroom : SxInv cfg st → st.cur.length < (if st.nalloc != 0 && st.cur.length == st.nalloc then 2 * st.nalloc else st.nalloc) := fun h => by
    have := h.alloc
    split <;> rename_i hc <;> simp only [Bool.and_eq_true, bne_iff_ne, ne_eq, beq_iff_eq] at hc <;> omega
  refine .ite (fun hge => .fault fun h => by have := hroom h.1; omega) fun hlt h => ?_
  exact
    { alloc := ⟨by simp only [List.length_append, List.length_singleton]; have := hroom h.1; omega, Nat.zero_lt_of_lt (hroom h.1)⟩,
      nonblank := fun l hl => (List.mem_append.mp hl).elim (h.1.nonblank l) fun e => by simp at e; subst e; exact h.2,
      in_block := fun _ => by simp,
      later := h.1.later }

theorem processBlock_spec (cfg : Cfg) (st : SxSt) :
    StepSpec (cfg.valid ∧ cfg.selexOk = true ∧ SxInv cfg st) (SxInv cfg) (processBlock cfg st) := by
  unfold processBlock
  dsimp only
  -- between two blocks
  have hidle : ∀ (nb nl : Nat) (tys : List LType) (m' : SxMsa), SxInv cfg st → MsaInv cfg tys m' → tys.length = nl →
      SxInv cfg { st with inBlock := false, cur := [], nblocks := nb, nlines := nl, ltype := tys, msa := some m' } :=
    fun nb nl tys m' h hm hl =>
      { alloc := ⟨Nat.zero_le _, h.alloc.2⟩, nonblank := nofun, in_block := nofun, later := fun _ => ⟨m', rfl, hm, hl⟩ }
  refine .ite (fun _ => .eformat) fun hnl => .ite (fun _ => ?_) fun hnb => ?_
  · have hfb := firstBlock_spec cfg st.cur
    cases hf : firstBlock st.cur with
    | inl r => rw [hf] at hfb; exact ErrGood.imp hfb fun h => h.2.2.nonblank
    | inr p =>
      obtain ⟨m, tys, bl⟩ := p
      rw [hf] at hfb
      have hab := appendBlock_spec cfg tys m bl
      dsimp only
      cases ha : appendBlock cfg m bl with
      | inl r =>
        rw [ha] at hab
        exact ErrGood.imp hab fun ⟨hv, hs, h⟩ => ⟨hv, hs, (hfb h.nonblank).1, (hfb h.nonblank).2.1, (hfb h.nonblank).2.2.1⟩
      | inr m' =>
        rw [ha] at hab
        exact fun ⟨hv, hs, h⟩ => hidle 1 _ tys m' h
          (hab ⟨hv, hs, (hfb h.nonblank).1, (hfb h.nonblank).2.1, (hfb h.nonblank).2.2.1⟩) (hfb h.nonblank).2.2.2
  · have hnb' : st.nblocks ≠ 0 := by simpa using hnb
    cases hm : st.msa with
    | none => exact .fault fun ⟨_, _, h⟩ => by obtain ⟨m, e, _⟩ := h.later hnb'; rw [hm] at e; cases e
    | some m =>
      dsimp only
      -- what the first block left
      have hH : SxInv cfg st → MsaInv cfg st.ltype m ∧ st.cur.length = st.ltype.length ∧ st.ltype.length = st.nlines := fun h => by
        obtain ⟨m1, e, hinv, hll⟩ := h.later hnb'
        rw [hm] at e; cases e
        refine ⟨hinv, ?_, hll⟩
        have : ¬ (st.nlines ≠ st.cur.length) := fun hne => hnl (by simp [hnb', hne])
        omega
      have hob := otherBlock_spec cfg m st.ltype st.cur
      cases ho : otherBlock m st.ltype st.cur with
      | inl r => rw [ho] at hob; exact ErrGood.imp hob fun ⟨_, _, h⟩ => ⟨(hH h).1, h.nonblank, (hH h).2.1⟩
      | inr bl =>
        rw [ho] at hob
        have hab := appendBlock_spec cfg st.ltype m bl
        have hq := fun h : SxInv cfg st => hob ⟨(hH h).1, h.nonblank, (hH h).2.1⟩
        dsimp only
        cases ha : appendBlock cfg m bl with
        | inl r => rw [ha] at hab; exact ErrGood.imp hab fun ⟨hv, hs, h⟩ => ⟨hv, hs, (hH h).1, (hq h).1, (hq h).2⟩
        | inr m' =>
          rw [ha] at hab
          exact fun ⟨hv, hs, h⟩ => hidle _ _ _ m' h (hab ⟨hv, hs, (hH h).1, (hq h).1, (hq h).2⟩) (hH h).2.2

theorem selexStep_spec (cfg : Cfg) (st : SxSt) (line : Bytes) :
    StepSpec (cfg.valid ∧ cfg.selexOk = true ∧ SxInv cfg st) (SxInv cfg) (selexStep cfg st line) := by
  unfold selexStep
  refine .ite (fun _ => .ite (fun _ h => h.2.2) fun hb => ?_) fun _ => .ite (fun _ h => h.2.2) fun _ => .ite (fun _ => processBlock_spec cfg st) fun hb => ?_
  · exact (pushLine_spec cfg st line).imp fun h => ⟨h.2.2, by simp only [Bool.or_eq_true, not_or, Bool.not_eq_true] at hb; exact hb.1⟩
  · exact (pushLine_spec cfg st line).imp fun h => ⟨h.2.2, by simpa using hb⟩

theorem selexStep_inv (cfg : Cfg) (hv : cfg.valid) (hs : cfg.selexOk = true) (st : SxSt) (line : Bytes) (h : SxInv cfg st) :
    StepGood (SxInv cfg) (selexStep cfg st line) :=
  (selexStep_spec cfg st line).good ⟨hv, hs, h⟩

theorem processBlock_notOk (cfg : Cfg) (st : SxSt) : NotOk (processBlock cfg st) := (processBlock_spec cfg st).notOk

theorem selexStep_notOk (cfg : Cfg) (st : SxSt) (l : Bytes) : NotOk (selexStep cfg st l) := (selexStep_spec cfg st l).notOk

theorem selexFinal_good (cfg : Cfg) (st : SxSt) (h : SxInv cfg st) : Good (selexFinal cfg st) := by
  unfold selexFinal
  split
  · simp
  · rename_i hnb
    have hnb' : st.nblocks ≠ 0 := by simpa using hnb
    obtain ⟨m, hm, hinv, _⟩ := h.later hnb'
    rw [hm]
    simp only
    split
    · simp [selexMsgNoData]
    · rename_i ha
      simp only [good_ok]
      exact toMsa_wellFormed cfg st.ltype m hinv (by simpa using ha)

theorem selexFinish_good (cfg : Cfg) (hv : cfg.valid) (hs : cfg.selexOk = true) (st : SxSt) (h : SxInv cfg st) :
    Good (selexFinish cfg st) := by
  unfold selexFinish
  split
  · have hp := (processBlock_spec cfg st).good ⟨hv, hs, h⟩
    cases hpb : processBlock cfg st with
    | inr r => rw [hpb] at hp; simpa using hp
    | inl st' =>
      rw [hpb] at hp
      simp only [stepGood_inl] at hp
      exact selexFinal_good cfg st' hp
  · exact selexFinal_good cfg st h

/-- **SELEX reader, every input**: the outcome of `esl_msafile_selex_Read` is a documented normal one (never a fault of the
    bounds-checked model, never an `ESL_EXCEPTION`, a format error always with a message) and a returned alignment is
    well formed: every row, `rf`, `mm`, `ss_cons`, `ss[i]`, `sa[i]` has length `alen`.
    `hs` is the finite table condition `Cfg.selexOk`: the input map IGNOREs no character and the gap code is `< Kp`. -/
theorem selexRead_good (cfg : Cfg) (hv : cfg.valid) (hs : cfg.selexOk = true) (lines : List Bytes) :
    Good (selexRead cfg lines).1 :=
  runLines_inv (selexStep cfg) (selexFinish cfg) (SxInv cfg) Good (fun st l h => selexStep_inv cfg hv hs st l h)
    (fun st h => selexFinish_good cfg hv hs st h) lines {} (sxInv_init cfg)

/-- after a successful SELEX read nothing is left: the next `esl_msafile_Read` returns eslEOF -/
theorem selexRead_ok_consumes (cfg : Cfg) (lines : List Bytes) (m : Msa) (h : (selexRead cfg lines).1 = .ok m) :
    (selexRead cfg lines).2 = [] ∧ (selexRead cfg (selexRead cfg lines).2).1 = .eof := by
  have h1 : (selexRead cfg lines).2 = [] := runLines_ok_consumes _ _ (selexStep_notOk cfg) lines {} m h
  rw [h1]
  exact ⟨rfl, rfl⟩

end EaselModel.Msafile
