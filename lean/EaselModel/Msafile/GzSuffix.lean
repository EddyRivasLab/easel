import EaselModel.Msafile.Guess
/-! # The `.gz` branch of `esl_msafile_GuessFileFormat`'s suffix rule

`esl_file_Extension(bf->filename, 0, &p, &n); if (esl_memstrcmp(p, n, ".gz")) esl_file_Extension(bf->filename, 3, &p, &n);`
— a name that ends in `.gz` is classified by the suffix BEFORE `.gz`, one level only (`x.sto.gz` is Stockholm by suffix,
`x.sto.gz.gz` and `x.gz` carry no format hint).  The file name reaches the whole open path (`guessFormat`, `openModel`,
`openModelW`) through `fmtBySuffix` alone, so the statement lifts to what `msafile_OpenBuffer` decides.
The tie: op `parse src=named tail=<hex>` opens a real file of that name with `esl_buffer_OpenFile` (which, unlike
`esl_buffer_Open`, does not pipe `.gz` names through gzip) and `esl_msafile_OpenBuffer`. -/
namespace EaselModel.Msafile

def bGz : Bytes := [46, 103, 122]     -- ".gz"

/-- the suffix-table lookup at the end of `fmtBySuffix` -/
def suffixFmt (e : Option Bytes) : Option Fmt :=
  match e with
  | none => none
  | some x => (suffixTable.find? (fun t => t.1 == x)).map (·.2)

theorem fmtBySuffix_eq (f : Bytes) :
    fmtBySuffix (some f) = suffixFmt (if fileExtension f 0 == some bGz then fileExtension f 3 else fileExtension f 0) := by
  unfold fmtBySuffix suffixFmt bGz
  rfl

theorem fileExtension_gz (f : Bytes) : fileExtension (f ++ bGz) 0 = some bGz := by
  unfold fileExtension bGz
  simp only [Nat.sub_zero, List.take_length, List.reverse_append, List.reverse_cons, List.reverse_nil, List.nil_append,
    List.cons_append]
  have h : List.takeWhile (fun c : UInt8 => c != 47 && c != 46) (122 :: 103 :: 46 :: f.reverse) = [122, 103] := by
    simp [List.takeWhile]
  rw [h]
  rfl

theorem fileExtension_gz_ignore (f : Bytes) : fileExtension (f ++ bGz) 3 = fileExtension f 0 := by
  unfold fileExtension
  have h1 : (f ++ bGz).length - 3 = f.length := by simp [bGz]
  have h2 : (f ++ bGz).take f.length = f := by simp
  rw [h1, h2]
  simp

/-- **a `.gz` name is classified by the suffix before `.gz`, one level only** -/
theorem fmtBySuffix_gz (f : Bytes) : fmtBySuffix (some (f ++ bGz)) = suffixFmt (fileExtension f 0) := by
  rw [fmtBySuffix_eq, fileExtension_gz, fileExtension_gz_ignore]
  simp

/-- … so compressing a file name does not change its format hint, unless the name already ended in `.gz` -/
theorem fmtBySuffix_gz_same (f : Bytes) (h : fileExtension f 0 ≠ some bGz) :
    fmtBySuffix (some (f ++ bGz)) = fmtBySuffix (some f) := by
  rw [fmtBySuffix_gz, fmtBySuffix_eq]
  have : (fileExtension f 0 == some bGz) = false := by
    cases hb : (fileExtension f 0 == some bGz) with
    | false => rfl
    | true => exact absurd (by simpa using hb) h
  rw [this]; rfl

/-- a doubly compressed name carries no hint (`.gz` is not in the table) -/
theorem fmtBySuffix_gz_gz (f : Bytes) : fmtBySuffix (some (f ++ bGz ++ bGz)) = none := by
  rw [fmtBySuffix_gz, fileExtension_gz]
  decide

/-- the whole open path (`msafile_OpenBuffer`: format autodetection or declared format, alphabet, caller's name width) sees
    the file name through its format hint only -/
theorem openModelW_name (nw0 : Nat) (fsel : FmtSel) (asel : AbcSel) (f g : Bytes) (lines : List Bytes)
    (h : fmtBySuffix (some f) = fmtBySuffix (some g)) :
    openModelW nw0 fsel asel (some f) lines = openModelW nw0 fsel asel (some g) lines := by
  unfold openModelW openModel openFmt guessFormat
  rw [h]

/-- **`x.sfx.gz` opens exactly as `x.sfx`** (same format, alphabet, name width, or the same failure), for every content -/
theorem openModelW_gz (nw0 : Nat) (fsel : FmtSel) (asel : AbcSel) (f : Bytes) (lines : List Bytes)
    (h : fileExtension f 0 ≠ some bGz) :
    openModelW nw0 fsel asel (some (f ++ bGz)) lines = openModelW nw0 fsel asel (some f) lines :=
  openModelW_name nw0 fsel asel _ _ lines (fmtBySuffix_gz_same f h)

end EaselModel.Msafile
