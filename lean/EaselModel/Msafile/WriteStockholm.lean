import EaselModel.Msafile.WriteFmt
/-! # Stockholm / Pfam writer: `stockholm_write(fp, msa, cpl)` of `esl_msafile_stockholm.c`

The C function statement by statement; every `fprintf` is one element of the list of lines (all of them end in `\n`).
`cpl` = 200 for `eslMSAFILE_STOCKHOLM`, `msa->alen` for `eslMSAFILE_PFAM`. -/
namespace EaselModel.Msafile

/-- `for (tmpnseq = msa->nseq; tmpnseq; tmpnseq /= 10) uniqwidth++` -/
def decWidth (n : Nat) : Nat :=
  if _h : n = 0 then 0 else 1 + decWidth (n / 10)
termination_by n
decreasing_by omega

/-- `esl_msa_CheckUniqueNames(msa) == eslFAIL`: some name was stored before -/
def hasDupNames : List Bytes → Bool
  | [] => false
  | n :: rest => rest.contains n || hasDupNames rest

/-- the widths computed at the top of `stockholm_write` -/
structure StoLayout where
  uniq : Bool          -- make_uniquenames
  uniqwidth : Nat
  maxname : Nat
  maxgf : Nat
  maxgc : Nat
  maxgr : Nat
  margin : Nat
deriving Repr, DecidableEq

def stoLayout (m : Msa) : StoLayout :=
  let uniq := hasDupNames m.names
  let uniqwidth := if uniq then decWidth m.nseq + 1 else 0
  let maxname := maxWidth m.names
  let maxgf := maxWidth (m.gf.map (·.1))
  let maxgf := if maxgf < 2 then 2 else maxgf
  let maxgc := maxWidth (m.gc.map (·.1))
  let maxgc := if m.rf.isSome && maxgc < 2 then 2 else maxgc
  let maxgc := if m.mm.isSome && maxgc < 2 then 2 else maxgc
  let maxgc := if m.ssCons.isSome && maxgc < 7 then 7 else maxgc
  let maxgc := if m.saCons.isSome && maxgc < 7 then 7 else maxgc
  let maxgc := if m.ppCons.isSome && maxgc < 7 then 7 else maxgc
  let maxgr := maxWidth (m.gr.map (·.1))
  let maxgr := if m.ss.isSome && maxgr < 2 then 2 else maxgr
  let maxgr := if m.sa.isSome && maxgr < 2 then 2 else maxgr
  let maxgr := if m.pp.isSome && maxgr < 2 then 2 else maxgr
  let margin := uniqwidth + maxname + 1
  let margin := if maxgc > 0 && maxgc + 6 > margin then maxgc + 6 else margin
  let margin := if maxgr > 0 && uniqwidth + maxname + maxgr + 7 > margin then uniqwidth + maxname + maxgr + 7 else margin
  { uniq, uniqwidth, maxname, maxgf, maxgc, maxgr, margin }

/-- `"%0*d|%-*s"` (unique-name forcing, number `num`) or `"%-*s"`: a sequence name in a field of width `w` -/
def stoName (L : StoLayout) (m : Msa) (num i : Nat) (w : Int) : Bytes :=
  (if L.uniq then zeroPad (L.uniqwidth - 1) num ++ [124] else []) ++ padRight w (m.names.getD i [])

def sGF : Bytes := str "#=GF "
def sGS : Bytes := str "#=GS "
def sGC : Bytes := str "#=GC "
def sGR : Bytes := str "#=GR "

/-- `"#=GF %-*s %s\n"` -/
def gfLine (L : StoLayout) (tag val : Bytes) : Bytes := sGF ++ padRight L.maxgf tag ++ [32] ++ val

/-- the two-valued / one-valued cut-off line for the pair `(c1, c2)` -/
def cutLines (L : StoLayout) (tag : Bytes) (c1 c2 : Option UInt32) : List Bytes :=
  match c1, c2 with
  | some a, some b => [sGF ++ padRight L.maxgf tag ++ [32] ++ fmtF1 a ++ [32] ++ fmtF1 b]
  | some a, none => [sGF ++ padRight L.maxgf tag ++ [32] ++ fmtF1 a]
  | none, _ => []

/-- the loop `tok = s + strspn(s, "\n"); toklen = strcspn(tok, "\n"); if (toklen == 0) break;`: the non-empty pieces between line
    feeds (the annotation itself is not written to) -/
def strtokLF : Bytes → Bytes → List Bytes
  | [], acc => if acc.isEmpty then [] else [acc.reverse]
  | c :: r, acc =>
    if c == 10 then (if acc.isEmpty then strtokLF r [] else acc.reverse :: strtokLF r [])
    else strtokLF r (c :: acc)

/-- header, comments, #=GF section (ends with the blank line that is always written) -/
def stoHeadLines (L : StoLayout) (m : Msa) : List Bytes :=
  let cut := fun (k : Nat) => m.cutoff.getD k none
  [str "# STOCKHOLM 1.0"]
  ++ (if L.uniq then [str "# WARNING: seq names have been made unique by adding a prefix of \"<seq#>|\""] else [])
  ++ m.comments.map (fun c => 35 :: c)
  ++ (if m.comments.isEmpty then [] else [[]])
  ++ (match m.name with | some v => [gfLine L (str "ID") v] | none => [])
  ++ (match m.acc with | some v => [gfLine L (str "AC") v] | none => [])
  ++ (match m.desc with | some v => [gfLine L (str "DE") v] | none => [])
  ++ (match m.au with | some v => [gfLine L (str "AU") v] | none => [])
  ++ cutLines L (str "GA") (cut 2) (cut 3)
  ++ cutLines L (str "NC") (cut 4) (cut 5)
  ++ cutLines L (str "TC") (cut 0) (cut 1)
  ++ m.gf.map (fun t => gfLine L t.1 t.2)
  ++ [[]]

/-- the #=GS sections: WT, AC, DE, then one section per unparsed tag; each section ends with a blank line.
    A uniquified name carries the sequence index in every section, the unparsed-tag one included
    (`fprintf(fp, "#=GS %0*d|%-*s %-*s %.*s\n", uniqwidth-1, j, maxname, msa->sqname[j], …)`). -/
def stoGSLines (L : StoLayout) (m : Msa) : List Bytes :=
  let idx := List.range m.nseq
  (if m.hasw then
     idx.map (fun i => sGS ++ stoName L m i i L.maxname ++ str " WT " ++ fmtF2 ((m.wgt.getD i Wgt.unset).toBits)) ++ [[]]
   else [])
  ++ (match m.sqacc with
      | some _ => idx.flatMap (fun i => match optRow m.sqacc i with
          | some v => [sGS ++ stoName L m i i L.maxname ++ str " AC " ++ v] | none => []) ++ [[]]
      | none => [])
  ++ (match m.sqdesc with
      | some _ => idx.flatMap (fun i => match optRow m.sqdesc i with
          | some v => [sGS ++ stoName L m i i L.maxname ++ str " DE " ++ v] | none => []) ++ [[]]
      | none => [])
  ++ (List.range m.gs.length).flatMap (fun i =>
        let t := m.gs.getD i ([], [])
        idx.flatMap (fun j => match t.2.getD j none with
          | some v => (strtokLF v []).map fun tok =>
              sGS ++ stoName L m j j L.maxname ++ [32] ++ padRight t.1.length t.1 ++ [32] ++ tok
          | none => [])
        ++ [[]])

/-- `"#=GR %-*s %-*s %s\n"` for sequence `i` -/
def grLine (L : StoLayout) (m : Msa) (i : Nat) (tag : Bytes) (s : Bytes) (pos acpl : Nat) : Bytes :=
  sGR ++ stoName L m i i L.maxname ++ [32]
    ++ padRight ((L.margin : Int) - L.maxname - L.uniqwidth - 7) tag ++ [32] ++ strChunk s pos acpl

/-- `"#=GC %-*s %s\n"` -/
def gcLine (L : StoLayout) (tag : Bytes) (s : Bytes) (pos acpl : Nat) : Bytes :=
  sGC ++ padRight ((L.margin : Int) - 6) tag ++ [32] ++ strChunk s pos acpl

def optLine (o : Option Bytes) (f : Bytes → Bytes) : List Bytes :=
  match o with | some s => [f s] | none => []

/-- the lines of sequence `i` in the block starting at `pos`: the row, then SS, SA, PP, then the unparsed #=GR tags -/
def stoSeqLines (L : StoLayout) (abc : Option Abc) (m : Msa) (pos acpl i : Nat) : List Bytes :=
  [stoName L m i i ((L.margin : Int) - L.uniqwidth - 1) ++ [32] ++ seqChunk abc m i pos acpl]
  ++ optLine (optRow m.ss i) (fun s => grLine L m i (str "SS") s pos acpl)
  ++ optLine (optRow m.sa i) (fun s => grLine L m i (str "SA") s pos acpl)
  ++ optLine (optRow m.pp i) (fun s => grLine L m i (str "PP") s pos acpl)
  ++ m.gr.flatMap (fun t => optLine (t.2.getD i none) (fun s => grLine L m i t.1 s pos acpl))

/-- one alignment block (`currpos = pos`); a blank line separates it from the previous block -/
def stoBlockLines (L : StoLayout) (abc : Option Abc) (m : Msa) (cpl pos : Nat) : List Bytes :=
  let acpl := if m.alen - pos > cpl then cpl else m.alen - pos
  (if pos > 0 then [[]] else [])
  ++ (List.range m.nseq).flatMap (stoSeqLines L abc m pos acpl)
  ++ optLine m.ssCons (fun s => gcLine L (str "SS_cons") s pos acpl)
  ++ optLine m.saCons (fun s => gcLine L (str "SA_cons") s pos acpl)
  ++ optLine m.ppCons (fun s => gcLine L (str "PP_cons") s pos acpl)
  ++ optLine m.rf (fun s => gcLine L (str "RF") s pos acpl)
  ++ optLine m.mm (fun s => gcLine L (str "MM") s pos acpl)
  ++ m.gc.map (fun t => gcLine L t.1 t.2 pos acpl)

/-- `cpl` of `esl_msafile_stockholm_Write` -/
def stoCpl (pfam : Bool) (m : Msa) : Nat := if pfam then m.alen else 200

/-- everything before the terminating `//` -/
def stockholmBodyLines (pfam : Bool) (abc : Option Abc) (m : Msa) : List Bytes :=
  let L := stoLayout m
  stoHeadLines L m ++ stoGSLines L m
    ++ (blockStarts m.alen (stoCpl pfam m)).flatMap (stoBlockLines L abc m (stoCpl pfam m))

def stockholmLines (pfam : Bool) (abc : Option Abc) (m : Msa) : List Bytes :=
  stockholmBodyLines pfam abc m ++ [[47, 47]]

/-- `esl_msafile_stockholm_Write(fp, msa, eslMSAFILE_STOCKHOLM | eslMSAFILE_PFAM)` (always eslOK: allocation and
    `fprintf` failures are not modelled) -/
def stockholmWrite (pfam : Bool) (abc : Option Abc) (m : Msa) : Bytes :=
  joinLF (stockholmLines pfam abc m)

end EaselModel.Msafile
