import EaselModel.Msafile.Lemmas
import EaselModel.Msafile.AfaLemmas
import EaselModel.Msafile.Phylip
/-! The PHYLIP readers (interleaved and sequential), C01.  Each function has one statement, proved by one walk over it: whatever
    the state, what it does to names, rows and the header's numbers (`LineData`, `PhyOut`); and, from a state satisfying the
    invariant (`IlvCore`, `IlvGap`, `SeqInv`, `PhyInv`), that it goes on in such a state or stops with a documented outcome
    (`PhySpec`; for the functions that never answer eslOK, `StepOk … (ErrGood H)` as in `StepSpec`). -/
namespace EaselModel.Msafile

/-- `Good` for an outcome that still carries the pushed-back line -/
def GoodP (r : PRes) : Prop :=
  match r with
  | .ok (m, _) => m.wellFormed = true
  | .eof => True
  | .eformat msg => msg ≠ ""
  | .fault => False
  | .exc => False

abbrev StepP (Inv : PhySt → Prop) (x : Sum PhySt PRes) : Prop := StepOk Inv GoodP x

theorem stepP_inl (Inv : PhySt → Prop) (s : PhySt) : StepP Inv (.inl s) = Inv s := rfl
theorem stepP_inr (Inv : PhySt → Prop) (r : PRes) : StepP Inv (.inr r : Sum PhySt PRes) = GoodP r := rfl
@[simp] theorem goodP_eformat (msg : String) : GoodP (.eformat msg) = (msg ≠ "") := rfl
@[simp] theorem goodP_eof : GoodP .eof = True := rfl
@[simp] theorem goodP_exc : GoodP .exc = False := rfl
@[simp] theorem goodP_fault : GoodP .fault = False := rfl

theorem ErrGood.goodP {H : Prop} {r : PRes} (h : ErrGood H r) (hH : H) : GoodP r := by
  cases r with
  | ok m => exact (h : False).elim
  | eof => trivial
  | eformat msg => exact h hH
  | fault => exact h hH
  | exc => exact h hH

/-- entries below `k` of `sqname[]` are set -/
def NamesSet (names : List (Option Bytes)) (k : Nat) : Prop := ∀ i o, names[i]? = some o → i < k → o.isSome = true

theorem NamesSet.set {names : List (Option Bytes)} {k : Nat} (h : NamesSet names k) (j : Nat) (nm : Bytes) (k' : Nat)
    (hk : k' ≤ k ∨ (k' = k + 1 ∧ j = k) ∨ (k' = k + 1 ∧ k = names.length)) : NamesSet (names.set j (some nm)) k' := by
  intro i o hio hik
  rw [List.getElem?_set] at hio
  by_cases hji : j = i
  · subst hji
    simp only [if_true] at hio
    split at hio
    · simp only [Option.some.injEq] at hio; rw [← hio]; rfl
    · simp at hio
  · simp only [hji, if_false] at hio
    have hi : i < names.length := (List.getElem?_eq_some_iff.mp hio).1
    exact h i o hio (by omega)

theorem allSome_spec {α : Type} (P : α → Prop) :
    ∀ (l : List (Option α)), (∀ (i : Nat) (o : Option α), l[i]? = some o → ∃ a, o = some a ∧ P a) →
      ∃ rs, allSomeP l = some rs ∧ rs.length = l.length ∧ ∀ a ∈ rs, P a := by
  intro l
  induction l with
  | nil => intro _; exact ⟨[], rfl, rfl, by simp⟩
  | cons x t ih =>
    intro h
    obtain ⟨a, hxa, hpa⟩ := h 0 x (by simp)
    obtain ⟨rs, hrs, hlen, hall⟩ := ih (fun i o hio => h (i + 1) o (by simpa using hio))
    subst hxa
    refine ⟨a :: rs, by simp [allSomeP, hrs], by simp [hlen], ?_⟩
    intro b hb
    rcases List.mem_cons.mp hb with hb | hb
    · rw [hb]; exact hpa
    · exact hall b hb

/-- what holds from the header on -/
structure PhyBase (st : PhySt) : Prop where
  hn : 1 ≤ st.nseq
  ha : 1 ≤ st.alenStated
  rows_len : st.rows.length = st.nseq
  names_len : st.names.length = st.nseq

/-- returning the alignment: every row has the final length `a ≥ 1`, every name is set -/
theorem phyDone_good (cfg : Cfg) (st : PhySt) (a : Nat) (back : Option Bytes) (hb : PhyBase st) (ha : 1 ≤ a)
    (hr : RowsWant cfg st.rows (fun _ => a)) (hn : NamesSet st.names st.nseq) : GoodP (phyDone cfg st a back) := by
  obtain ⟨rs, hrs, hrl, hrall⟩ := allSome_spec (fun r => rowOkB cfg.digital cfg.kp a r = true) st.rows
    (fun i o hio => (hr i o hio).some ha)
  obtain ⟨ns, hns, hnl, _⟩ := allSome_spec (fun _ => True) st.names (fun i o hio => by
    have hi : i < st.names.length := (List.getElem?_eq_some_iff.mp hio).1
    have := hn i o hio (by rw [← hb.names_len]; exact hi)
    cases o with
    | none => simp at this
    | some x => exact ⟨x, rfl, trivial⟩)
  unfold phyDone
  rw [hns, hrs]
  simp only [GoodP]
  exact wellFormed_plain cfg.digital cfg.kp a ns rs none none
    (by rw [hnl, hb.names_len]; exact hb.hn) (by rw [hrl, hnl, hb.rows_len, hb.names_len])
    (List.all_eq_true.mpr hrall) rfl

abbrev NotOkP (r : PRes) : Prop := OkIs (fun _ => False) r

/-- what the body of the row loop needs of the state it starts in -/
structure LineH (cfg : Cfg) (st : PhySt) : Prop where
  valid : cfg.valid
  idx_lt : st.idx < st.nseq
  names_len : st.names.length = st.nseq
  rows_len : st.rows.length = st.nseq
  row : ∀ o, st.rows[st.idx]? = some o → RowIs cfg st.alen o

/-- the name field, read only if `b`: the name stored is the rectified field; an exception or an access outside `sqname[]`
    only if `idx` is no index of it -/
theorem phyNameIf_spec (cfg : Cfg) (b : Bool) (st : PhySt) (l : Bytes) :
    StepOk (fun x : List (Option Bytes) × Bytes =>
        if b then ∃ nm, rectifyName (l.take st.nw) = some nm ∧ x.1 = st.names.set st.idx (some nm) else x.1 = st.names)
      (ErrGood (LineH cfg st)) (phyNameIf b st l) := by
  unfold phyNameIf phyName
  cases b with
  | false => exact rfl
  | true =>
    simp only [if_true]
    split
    · exact StepOk.eformat
    · split
      · exact StepOk.eformat
      · rename_i nm hr
        split
        · exact StepOk.exc fun h => by have := h.idx_lt; omega
        · split
          · exact StepOk.fault fun h => by have := h.idx_lt; have := h.names_len; omega
          · exact ⟨nm, hr, rfl⟩

/-- appending to row `idx`: the row is replaced by a well-formed row of the returned length, which is at least the old one -/
theorem phyCat_spec (cfg : Cfg) (st : PhySt) (p : Bytes) :
    StepSpec (LineH cfg st)
      (fun x : List (Option Bytes) × Nat => ∃ cur', x.1 = st.rows.set st.idx cur' ∧ RowIs cfg x.2 cur' ∧ st.alen ≤ x.2)
      (phyCat cfg st st.alen p) := by
  unfold phyCat
  split
  · rename_i hn
    exact StepOk.fault fun h => by have := List.getElem?_eq_none_iff.mp hn; have := h.idx_lt; have := h.rows_len; omega
  · rename_i cur hc
    split
    · rename_i hne
      exact StepOk.fault fun h => by simp [(h.row _ hc).2] at hne
    · split
      rename_i cs cur' hcat
      have key : LineH cfg st → cs ≠ .exc ∧ RowIs cfg (rowLen cfg.digital cur') cur' ∧ st.alen ≤ rowLen cfg.digital cur' :=
          fun h => by
        have := (h.row _ hc).cat h.valid p
        rw [hcat] at this
        exact ⟨this.1, ⟨this.2.1, rfl⟩, by rw [this.2.2]; omega⟩
      split
      · exact StepOk.eformat
      · exact StepOk.exc fun h => (key h).1 rfl
      · exact fun h => ⟨_, rfl, (key h).2⟩

/-- the part the two row-loop bodies share: the name field if `b`, then the rest of the line appended to row `idx`; `k` is what
    the caller does with the new `sqname[]`, the new rows and the new length of row `idx` -/
theorem phyNameCat_spec (cfg : Cfg) (b : Bool) (st : PhySt) (line : Bytes) {H : Prop} {I : PhySt → Prop} (hH : H → LineH cfg st)
    (k : List (Option Bytes) → List (Option Bytes) → Nat → Sum PhySt PRes)
    (hk : ∀ names rows L,
      (if b then ∃ nm, rectifyName (line.take st.nw) = some nm ∧ names = st.names.set st.idx (some nm) else names = st.names) →
      (H → names.length = st.nseq ∧ rows.length = st.nseq ∧ ∃ cur', rows = st.rows.set st.idx cur' ∧ RowIs cfg L cur' ∧ st.alen ≤ L) →
      StepOk I (ErrGood H) (k names rows L)) :
    StepOk I (ErrGood H) (match phyNameIf b st line with
      | .inr r => .inr r
      | .inl (names, p) =>
        match phyCat cfg st st.alen p with
        | .inr r => .inr r
        | .inl (rows, L) => k names rows L) := by
  have hname := phyNameIf_spec cfg b st line
  cases hnm : phyNameIf b st line with
  | inr r => rw [hnm] at hname; exact hname.imp hH
  | inl x =>
    obtain ⟨names, p⟩ := x
    rw [hnm] at hname
    have hcat := phyCat_spec cfg st p
    simp only
    cases hpc : phyCat cfg st st.alen p with
    | inr r => rw [hpc] at hcat; exact hcat.imp hH
    | inl y =>
      obtain ⟨rows, L⟩ := y
      rw [hpc] at hcat
      refine hk names rows L hname fun h => ?_
      obtain ⟨cur', hrows, hrow⟩ := hcat (hH h)
      simp only at hrows hrow
      refine ⟨?_, by rw [hrows]; simp [(hH h).rows_len], cur', hrows, hrow⟩
      have hn := hname
      simp only [stepOk_inl] at hn
      cases b with
      | true => obtain ⟨nm, _, hx⟩ := hn; rw [hx]; simp [(hH h).names_len]
      | false => rw [hn]; exact (hH h).names_len

/-- rows below `idx` already hold the residues of the current block -/
def ilvWant (st : PhySt) (i : Nat) : Nat := if i < st.idx then st.alen + st.blockAlen else st.alen
/-- names are read in the first block -/
def ilvNamed (st : PhySt) : Nat := if st.nblocks = 0 then st.idx else st.nseq

structure IlvCore (cfg : Cfg) (st : PhySt) : Prop extends PhyBase st where
  idx_le : st.idx ≤ st.nseq
  rows_ok : RowsWant cfg st.rows (ilvWant st)
  names_ok : NamesSet st.names (ilvNamed st)

/-- between two blocks: every row has length `alen`, every name is set -/
def IlvGap (cfg : Cfg) (st : PhySt) : Prop := IlvCore cfg st ∧ st.idx = 0 ∧ 0 < st.nblocks

theorem IlvCore.phase {cfg : Cfg} {st : PhySt} (h : IlvCore cfg st) (ph : PhyPhase) : IlvCore cfg { st with phase := ph } :=
  { hn := h.hn, ha := h.ha, rows_len := h.rows_len, names_len := h.names_len, idx_le := h.idx_le, rows_ok := h.rows_ok,
    names_ok := h.names_ok }

/-- rows below `idx` are complete, row `idx` is being read, the rows above are untouched -/
def seqWant (st : PhySt) (i : Nat) : Nat := if i < st.idx then st.alenStated else if i = st.idx then st.alen else 0

structure SeqCore (cfg : Cfg) (st : PhySt) : Prop extends PhyBase st where
  idx_lt : st.idx < st.nseq
  rows_ok : RowsWant cfg st.rows (seqWant st)
  names_ok : NamesSet st.names st.idx

/-- at a `esl_msafile_GetLine` call of the sequential reader: the name of sequence `idx` has been stored -/
def SeqInv (cfg : Cfg) (st : PhySt) : Prop := SeqCore cfg st ∧ NamesSet st.names (st.idx + 1)

theorem SeqInv.phase {cfg : Cfg} {st : PhySt} (h : SeqInv cfg st) (ph : PhyPhase) : SeqInv cfg { st with phase := ph } :=
  ⟨{ hn := h.1.hn, ha := h.1.ha, rows_len := h.1.rows_len, names_len := h.1.names_len, idx_lt := h.1.idx_lt, rows_ok := h.1.rows_ok,
     names_ok := h.1.names_ok }, h.2⟩

theorem seqDone_good (cfg : Cfg) (st : PhySt) (back : Option Bytes) (h : SeqInv cfg st) (he : st.alen = st.alenStated)
    (hl : ¬ st.idx + 1 < st.nseq) : GoodP (phyDone cfg st st.alen back) := by
  have hlt := h.1.idx_lt
  refine phyDone_good cfg st st.alen back h.1.toPhyBase (by have := h.1.ha; omega) (h.1.rows_ok.congr (fun i hi => ?_))
    (fun i o hio hi => h.2 i o hio (by omega))
  have hi' : i < st.nseq := by rw [← h.1.rows_len]; exact hi
  show (if i < st.idx then st.alenStated else if i = st.idx then st.alen else 0) = st.alen
  by_cases h1 : i < st.idx
  · simp [h1, he]
  · have h2 : i = st.idx := by omega
    simp [h2]

/-- the invariant at every `esl_msafile_GetLine` call -/
def PhyInv (sequential : Bool) (cfg : Cfg) (st : PhySt) : Prop :=
  match st.phase with
  | .lead => True
  | .hdr => PhyBase st ∧ RowsWant cfg st.rows (fun _ => 0)
  | .rows => if sequential then SeqInv cfg st else IlvCore cfg st
  | .gap => if sequential then SeqInv cfg st else IlvGap cfg st

theorem phyInv_rows_ilv {cfg : Cfg} {st : PhySt} (h : st.phase = .rows ∧ IlvCore cfg st) : PhyInv false cfg st := by
  unfold PhyInv; rw [h.1]; simpa using h.2

theorem phyInv_rows_seq {cfg : Cfg} {st : PhySt} (h : st.phase = .rows ∧ SeqInv cfg st) : PhyInv true cfg st := by
  unfold PhyInv; rw [h.1]; simpa using h.2

theorem seqInv_of {cfg : Cfg} {st : PhySt} (hp : st.phase = .rows ∨ st.phase = .gap) (h : PhyInv true cfg st) : SeqInv cfg st := by
  unfold PhyInv at h
  rcases hp with hp | hp <;> rw [hp] at h <;> simpa using h

theorem strtoLoop_le (neg : Bool) (base : Nat) (hb : base = 8 ∨ base = 10 ∨ base = 16) :
    ∀ (r : Bytes) (cur : Int) (nd : Nat) (v : Int), strtoLoop neg base r cur nd = .ok v → cur ≤ 2147483647 →
      (neg = true → cur ≤ 0) → (neg = false → 0 ≤ cur) → v ≤ 2147483647 := by
  intro r
  induction r with
  | nil =>
    intro cur nd v h hc _ _
    unfold strtoLoop at h
    split at h
    · cases h
    · injection h with h; omega
  | cons c r ih =>
    intro cur nd v h hc hneg hpos
    unfold strtoLoop at h
    split at h
    · split at h
      · cases h
      · injection h with h; omega
    · rename_i d hd
      split at h
      · split at h
        · cases h
        · injection h with h; omega
      · rename_i hdb
        cases neg with
        | false =>
          simp only [Bool.not_false, if_true] at h
          split at h
          · cases h
          · rename_i hle
            have h0 := hpos rfl
            have hd' : (d : Int) < base := by omega
            have hnn : (0 : Int) ≤ 2147483647 - (d : Int) := by rcases hb with rfl | rfl | rfl <;> omega
            rw [Int.tdiv_eq_ediv_of_nonneg hnn] at hle
            refine ih _ _ v h ?_ (fun hh => by cases hh) (fun _ => ?_)
            · rcases hb with rfl | rfl | rfl <;> omega
            · rcases hb with rfl | rfl | rfl <;> omega
        | true =>
          simp only [Bool.not_true, Bool.false_eq_true, if_false] at h
          split at h
          · cases h
          · have h0 := hneg rfl
            refine ih _ _ v h ?_ (fun _ => ?_) (fun hh => by cases hh)
            · rcases hb with rfl | rfl | rfl <;> omega
            · rcases hb with rfl | rfl | rfl <;> omega

theorem strtoi32_le (tok : Bytes) (v : Int) (h : strtoi32 tok = .ok v) : v ≤ 2147483647 := by
  unfold strtoi32 at h
  simp only at h
  repeat' split at h
  all_goals first
    | exact strtoLoop_le _ 16 (Or.inr (Or.inr rfl)) _ 0 _ v h (by omega) (fun _ => by omega) (fun _ => by omega)
    | exact strtoLoop_le _ 8 (Or.inl rfl) _ 0 _ v h (by omega) (fun _ => by omega) (fun _ => by omega)
    | exact strtoLoop_le _ 10 (Or.inr (Or.inl rfl)) _ 0 _ v h (by omega) (fun _ => by omega) (fun _ => by omega)

/-- the state after the header `<n> <a>`: `esl_msa_Create(n, -1)` -/
def PhySt.created (st : PhySt) (n a : Nat) : PhySt :=
  { st with phase := .hdr, nseq := n, alenStated := a, names := List.replicate n none, rows := List.replicate n none }

/-- the header line: a documented error, or both numbers are in `1 … 2^31-1` and the alignment is allocated -/
theorem phyHeader_out (st : PhySt) (line : Bytes) :
    StepOk (fun st' => ∃ n a, (1 ≤ n ∧ n ≤ 2147483647) ∧ (1 ≤ a ∧ a ≤ 2147483647) ∧ st' = st.created n a)
      (fun r => ∃ msg, msg ≠ "" ∧ r = .eformat msg) (phyHeader st line) := by
  unfold phyHeader
  simp only
  split
  · exact ⟨_, by simp [phyMsgHdr1], rfl⟩
  · exact ⟨_, by simp [phyMsgHdr1], rfl⟩
  · rename_i nseq hs1
    split
    · exact ⟨_, by simp [phyMsgHdr2], rfl⟩
    · split
      · exact ⟨_, by simp [phyMsgHdr3], rfl⟩
      · exact ⟨_, by simp [phyMsgHdr3], rfl⟩
      · rename_i alen hs2
        split
        · exact ⟨_, by simp [phyMsgHdr4], rfl⟩
        · rename_i hpos
          simp only [Bool.or_eq_true, decide_eq_true_eq, not_or, Int.not_lt] at hpos
          have b1 := strtoi32_le _ nseq hs1
          have b2 := strtoi32_le _ alen hs2
          exact ⟨nseq.toNat, alen.toNat, by omega, by omega, rfl⟩

/-! ## one statement per function

A state is data (`nseq alenStated names rows nw`: written only by the header, the name field and the `*cat` calls) and loop
variables (`phase idx alen nblocks blockAlen`).  `PhyOut` says what a step, or the end of input, does up to the loop variables;
what does not depend on the loop variables is read off it.  In particular an eslOK outcome is an outcome of `phyDone`: a step
hands back exactly the line it was given (`esl_msafile_PutLine`), the end of input nothing; so the unread lines are a suffix of
the lines offered.  `PhySpec` adds what the invariant gives, from the same walk. -/

/-- what the body of the row loop does to the data: the name field, if it is read, is rectified and stored as name `idx` -/
def LineData (st : PhySt) (l : Bytes) (st' : PhySt) : Prop :=
  st'.alenStated = st.alenStated ∧ st'.nw = st.nw ∧
    (st'.names = st.names ∨ ∃ nm, rectifyName (l.take st.nw) = some nm ∧ st'.names = st.names.set st.idx (some nm))

theorem or_of_ite {b : Bool} {P Q : Prop} (h : if b then P else Q) : Q ∨ P := by
  cases b with
  | false => exact Or.inl h
  | true => exact Or.inr h

/-- `st1` has the data of `st` (what the header and the name field write); only the loop variables `phase idx alen nblocks
    blockAlen` may differ, and the header phase is not left -/
def SameData (st st1 : PhySt) : Prop :=
  (st1.nseq, st1.alenStated, st1.names, st1.rows, st1.nw) = (st.nseq, st.alenStated, st.names, st.rows, st.nw) ∧
    (st.phase = .lead → st1.phase = .lead)

theorem SameData.alenStated {st st1 : PhySt} (h : SameData st st1) : st1.alenStated = st.alenStated := congrArg (·.2.1) h.1
theorem SameData.names {st st1 : PhySt} (h : SameData st st1) : st1.names = st.names := congrArg (·.2.2.1) h.1
theorem SameData.nw {st st1 : PhySt} (h : SameData st st1) : st1.nw = st.nw := congrArg (·.2.2.2.2) h.1

/-- what a step of either reader (`back` = the line), or the end of input (`back = none`), can do in state `st`: go on with
    the same data; allocate the alignment the header states; run the body of the row loop from a state with the same data;
    return the alignment built from the same data, of the stated length, handing `back` back; or stop otherwise than with eslOK -/
inductive PhyOut (cfg : Cfg) (st : PhySt) (back : Option Bytes) : Sum PhySt PRes → Prop
  | stay {st1 : PhySt} (h : SameData st st1) : PhyOut cfg st back (.inl st1)
  | header {n a : Nat} (hn : 1 ≤ n ∧ n ≤ 2147483647) (ha : 1 ≤ a ∧ a ≤ 2147483647) : PhyOut cfg st back (.inl (st.created n a))
  | line {st1 st' : PhySt} {l : Bytes} (hp : st1.phase ≠ .lead) (h : SameData st st1) (hl : LineData st1 l st') :
      PhyOut cfg st back (.inl st')
  | done {st1 : PhySt} (hp : st1.phase ≠ .lead) (h : SameData st st1) (ha : st1.alen = st1.alenStated) :
      PhyOut cfg st back (.inr (phyDone cfg st1 st1.alen back))
  | stop {r : PRes} (h : NotOkP r) : PhyOut cfg st back (.inr r)

/-- the one statement about a body of the row loop (it never answers eslOK), `StepSpec` with what holds whatever the state -/
abbrev LineSpec (H : Prop) (st : PhySt) (l : Bytes) (Inv : PhySt → Prop) (x : Sum PhySt PRes) : Prop :=
  StepOk (fun st' => LineData st l st' ∧ (H → Inv st')) (ErrGood H) x

/-- the one statement about a function of either reader that runs in a state with the data of `st`: its outcome is one `PhyOut`
    lists, and given `H` (the invariant of the state it runs in) it keeps `Inv` or is a documented outcome -/
structure PhySpec (cfg : Cfg) (st : PhySt) (back : Option Bytes) (H : Prop) (Inv : PhySt → Prop) (x : Sum PhySt PRes) : Prop where
  out : PhyOut cfg st back x
  inv : H → StepP Inv x

theorem PhySpec.imp {cfg : Cfg} {st : PhySt} {back : Option Bytes} {H H' : Prop} {Inv : PhySt → Prop} {x : Sum PhySt PRes}
    (h : PhySpec cfg st back H' Inv x) (hH : H → H') : PhySpec cfg st back H Inv x := ⟨h.out, fun hh => h.inv (hH hh)⟩

theorem PhySpec.stop {cfg : Cfg} {st : PhySt} {back : Option Bytes} {H : Prop} {Inv : PhySt → Prop} {r : PRes} (h : ErrGood H r) :
    PhySpec cfg st back H Inv (.inr r) := ⟨.stop h.okIs, h.goodP⟩

theorem PhySpec.ofLine {cfg : Cfg} {st st1 : PhySt} {back : Option Bytes} {l : Bytes} {H H' : Prop} {Inv : PhySt → Prop}
    {x : Sum PhySt PRes} (hx : LineSpec H' st1 l Inv x) (hH : H → H') (hp : st1.phase ≠ .lead) (h : SameData st st1) :
    PhySpec cfg st back H Inv x := by
  cases x with
  | inl st' => exact ⟨.line hp h hx.1, fun hh => hx.2 (hH hh)⟩
  | inr r => exact .stop (ErrGood.imp hx hH)

theorem ilvLine_spec (cfg : Cfg) (st : PhySt) (line : Bytes) :
    LineSpec (cfg.valid ∧ IlvCore cfg st ∧ st.idx < st.nseq) st line (PhyInv false cfg) (ilvLine cfg st line) := by
  unfold ilvLine
  refine phyNameCat_spec cfg _ st line (fun h => ⟨h.1, h.2.2, h.2.1.names_len, h.2.1.rows_len,
    fun o ho => by simpa [ilvWant] using h.2.1.rows_ok st.idx o ho⟩) _ fun names rows curAlen hname hcat => ?_
  have hld : ∀ ba ph, LineData st line { st with phase := ph, names := names, rows := rows, blockAlen := ba, idx := st.idx + 1 } :=
    fun _ _ => ⟨rfl, rfl, or_of_ite hname⟩
  -- after the line, row `idx` has `alen + ba` columns, where `ba` is the block length now stored
  have inv : ∀ ba, curAlen - st.alen = ba → (st.idx = 0 ∨ ba = st.blockAlen) → cfg.valid ∧ IlvCore cfg st ∧ st.idx < st.nseq →
      PhyInv false cfg { st with phase := .rows, names := names, rows := rows, blockAlen := ba, idx := st.idx + 1 } :=
      fun ba hba h0 hH => by
    obtain ⟨hnl, hrl, cur', hrows, hrow, hge⟩ := hcat hH
    obtain ⟨_, h, hi⟩ := hH
    have hba : st.alen + ba = curAlen := by omega
    refine phyInv_rows_ilv ⟨rfl, { hn := h.hn, ha := h.ha, rows_len := hrl, names_len := hnl, idx_le := hi,
                                   rows_ok := ?_, names_ok := ?_ }⟩
    · show RowsWant cfg rows fun i => if i < st.idx + 1 then st.alen + ba else st.alen
      rw [hrows]
      refine h.rows_ok.set st.idx cur' ?_ ?_
      · show RowIs cfg (if st.idx < st.idx + 1 then st.alen + ba else st.alen) cur'
        simpa [hba] using hrow
      · intro i _ hne
        show (if i < st.idx then st.alen + st.blockAlen else st.alen) = (if i < st.idx + 1 then st.alen + ba else st.alen)
        by_cases h1 : i < st.idx
        · rw [if_pos h1, if_pos (by omega)]; rcases h0 with h0 | h0 <;> omega
        · rw [if_neg h1, if_neg (by omega)]
    · show NamesSet names (if st.nblocks = 0 then st.idx + 1 else st.nseq)
      by_cases hb : st.nblocks = 0
      · simp only [hb, beq_self_eq_true, if_true] at hname ⊢
        obtain ⟨nm, _, hx⟩ := hname; rw [hx]
        exact h.names_ok.set st.idx nm _ (Or.inr (Or.inl ⟨by simp [ilvNamed, hb], by simp [ilvNamed, hb]⟩))
      · have hb' : (st.nblocks == 0) = false := by simpa using hb
        simp only [hb', Bool.false_eq_true, if_false] at hname
        simp only [hb, if_false]; rw [hname]
        have := h.names_ok; simpa [ilvNamed, hb] using this
  split
  · rename_i hz
    exact ⟨hld _ _, inv _ rfl (Or.inl (by simpa using hz))⟩
  · split
    · exact StepOk.eformat
    · rename_i hbl
      exact ⟨hld st.blockAlen _, inv st.blockAlen (by simpa using hbl) (Or.inr rfl)⟩

theorem ilvEndBlock_spec (cfg : Cfg) (st : PhySt) :
    StepOk (fun st' => (SameData st st' ∧ st'.phase = st.phase) ∧ (IlvCore cfg st → IlvGap cfg st')) (ErrGood (IlvCore cfg st))
      (ilvEndBlock st) := by
  unfold ilvEndBlock
  split
  · exact StepOk.eformat
  · rename_i hne
    refine ⟨⟨⟨rfl, id⟩, rfl⟩, fun h => ?_⟩
    have hidx : st.idx = st.nseq := by simpa using hne
    refine ⟨{ hn := h.hn, ha := h.ha, rows_len := h.rows_len, names_len := h.names_len, idx_le := Nat.zero_le _,
              rows_ok := ?_, names_ok := ?_ }, rfl, Nat.succ_pos _⟩
    · refine h.rows_ok.congr (fun i hi => ?_)
      show (if i < st.idx then st.alen + st.blockAlen else st.alen) = (if i < 0 then st.alen + st.blockAlen + st.blockAlen else st.alen + st.blockAlen)
      have : i < st.idx := by rw [hidx, ← h.rows_len]; exact hi
      simp [this]
    · intro i o hio hlt
      have hlt' : i < st.nseq := by simpa [ilvNamed] using hlt
      refine h.names_ok i o hio ?_
      unfold ilvNamed
      split
      · omega
      · exact hlt'

theorem ilvEnd_spec {cfg : Cfg} {st st1 : PhySt} {Inv : PhySt → Prop} (back : Option Bytes) (h : SameData st st1)
    (hp : st1.phase ≠ .lead) : PhySpec cfg st back (IlvGap cfg st1) Inv (.inr (ilvEnd cfg st1 back)) := by
  unfold ilvEnd
  split
  · exact .stop fun _ => by decide
  · rename_i hne
    have he : st1.alen = st1.alenStated := by simpa using hne
    refine ⟨.done hp h he, fun ⟨hc, h0, hnb⟩ => ?_⟩
    refine phyDone_good cfg st1 st1.alen back hc.toPhyBase (by have := hc.ha; omega) (hc.rows_ok.congr (fun i _ => ?_)) ?_
    · simp [ilvWant, h0]
    · have := hc.names_ok
      have hnb' : st1.nblocks ≠ 0 := by omega
      simpa [ilvNamed, hnb'] using this

theorem ilvNext_spec {cfg : Cfg} {st st1 : PhySt} (line : Bytes) (h : SameData st st1) (hp : st1.phase ≠ .lead) :
    PhySpec cfg st (some line) (cfg.valid ∧ IlvGap cfg st1) (PhyInv false cfg) (ilvNext cfg st1 line) := by
  unfold ilvNext
  split
  · refine .ofLine (ilvLine_spec cfg { st1 with idx := 0 } line) (fun ⟨hv, hc, h0, _⟩ => ⟨hv, ?_, hc.hn⟩) hp h
    have e : ({ st1 with idx := 0 } : PhySt) = st1 := by
      cases st1; simp only at h0; subst h0; rfl
    rw [e]; exact hc
  · exact (ilvEnd_spec _ h hp).imp And.right

theorem seqLine_spec (cfg : Cfg) (st : PhySt) (line : Bytes) :
    LineSpec (cfg.valid ∧ SeqCore cfg st ∧ (st.alen ≠ 0 → NamesSet st.names (st.idx + 1))) st line (PhyInv true cfg)
      (seqLine cfg st line) := by
  unfold seqLine
  refine phyNameCat_spec cfg _ st line (fun h => ⟨h.1, h.2.1.idx_lt, h.2.1.names_len, h.2.1.rows_len,
    fun o ho => by simpa [seqWant] using h.2.1.rows_ok st.idx o ho⟩) _ fun names rows alen' hname hcat => ?_
  refine ⟨⟨rfl, rfl, or_of_ite hname⟩, fun hH => ?_⟩
  obtain ⟨hnl, hrl, cur', hrows, hrow, _⟩ := hcat hH
  obtain ⟨_, h, hn⟩ := hH
  have hns : NamesSet names st.idx ∧ NamesSet names (st.idx + 1) := by
    by_cases hb : st.alen = 0
    · simp only [hb, beq_self_eq_true, if_true] at hname
      obtain ⟨nm, _, hx⟩ := hname; rw [hx]
      exact ⟨h.names_ok.set st.idx nm _ (Or.inl (Nat.le_refl _)), h.names_ok.set st.idx nm _ (Or.inr (Or.inl ⟨rfl, rfl⟩))⟩
    · have hb' : (st.alen == 0) = false := by simpa using hb
      simp only [hb', Bool.false_eq_true, if_false] at hname
      rw [hname]; exact ⟨h.names_ok, hn hb⟩
  refine phyInv_rows_seq ⟨rfl, { hn := h.hn, ha := h.ha, rows_len := hrl, names_len := hnl, idx_lt := h.idx_lt,
                                 rows_ok := ?_, names_ok := hns.1 }, hns.2⟩
  rw [hrows]
  refine h.rows_ok.set st.idx cur' ?_ ?_
  · show RowIs cfg (if st.idx < st.idx then st.alenStated else if st.idx = st.idx then alen' else 0) cur'
    simpa using hrow
  · intro i _ hne
    show (if i < st.idx then st.alenStated else if i = st.idx then st.alen else 0)
      = (if i < st.idx then st.alenStated else if i = st.idx then alen' else 0)
    simp [hne]

theorem seqNext_spec {cfg : Cfg} (st : PhySt) (line : Bytes) (hp : st.phase ≠ .lead) :
    PhySpec cfg st (some line) (cfg.valid ∧ SeqInv cfg st) (PhyInv true cfg) (seqNext cfg st line) := by
  unfold seqNext
  split
  · exact .stop fun _ => by decide
  · rename_i hne
    have he : st.alen = st.alenStated := by simpa using hne
    split
    · rename_i hlt
      refine .ofLine (seqLine_spec cfg { st with idx := st.idx + 1, alen := 0 } line) (fun ⟨hv, h⟩ => ⟨hv,
        { hn := h.1.hn, ha := h.1.ha, rows_len := h.1.rows_len, names_len := h.1.names_len, idx_lt := hlt, rows_ok := ?_,
          names_ok := h.2 },
        fun hx => absurd rfl hx⟩) hp ⟨rfl, id⟩
      refine h.1.rows_ok.congr (fun i _ => ?_)
      show (if i < st.idx then st.alenStated else if i = st.idx then st.alen else 0)
        = (if i < st.idx + 1 then st.alenStated else if i = st.idx + 1 then 0 else 0)
      by_cases h1 : i < st.idx
      · have h2 : i < st.idx + 1 := by omega
        simp [h1, h2]
      · by_cases h2 : i = st.idx
        · simp [h2, he]
        · have h3 : ¬ i < st.idx + 1 := by omega
          simp [h1, h2, h3]
    · rename_i hl
      exact ⟨.done hp ⟨rfl, id⟩ he, fun h => seqDone_good cfg st (some line) h.2 he hl⟩

theorem phyFirst_spec (sequential : Bool) (cfg : Cfg) (st : PhySt) (line : Bytes) (hp : st.phase ≠ .lead) :
    PhySpec cfg st (some line) (cfg.valid ∧ PhyBase st ∧ RowsWant cfg st.rows (fun _ => 0)) (PhyInv sequential cfg)
      (phyFirst sequential cfg st line) := by
  unfold phyFirst
  cases sequential with
  | true =>
    refine .ofLine (seqLine_spec cfg { st with idx := 0, alen := 0 } line) (fun ⟨hv, hb, hr⟩ => ⟨hv,
      { hn := hb.hn, ha := hb.ha, rows_len := hb.rows_len, names_len := hb.names_len, idx_lt := hb.hn, rows_ok := ?_,
        names_ok := ?_ },
      fun hx => absurd rfl hx⟩) hp ⟨rfl, id⟩
    · refine hr.congr (fun i _ => ?_)
      show 0 = (if i < 0 then st.alenStated else if i = 0 then 0 else 0)
      simp
    · intro i o _ hi
      have : i < 0 := hi
      omega
  | false =>
    refine .ofLine (ilvLine_spec cfg { st with idx := 0, alen := 0, nblocks := 0 } line) (fun ⟨hv, hb, hr⟩ => ⟨hv,
      { hn := hb.hn, ha := hb.ha, rows_len := hb.rows_len, names_len := hb.names_len, idx_le := Nat.zero_le _, rows_ok := ?_,
        names_ok := ?_ },
      hb.hn⟩) hp ⟨rfl, id⟩
    · refine hr.congr (fun i _ => ?_)
      show 0 = (if i < 0 then 0 + st.blockAlen else 0)
      simp
    · intro i o _ hi
      simp [ilvNamed] at hi

theorem ilvStep_spec (cfg : Cfg) (st : PhySt) (line : Bytes) :
    PhySpec cfg st (some line) (cfg.valid ∧ (st.phase = .rows ∨ st.phase = .gap) ∧ PhyInv false cfg st) (PhyInv false cfg)
      (ilvStep cfg st line) := by
  unfold ilvStep
  cases hph : st.phase with
  | lead => exact .stop fun h => by simp at h
  | hdr => exact .stop fun h => by simp at h
  | rows =>
    have hp : st.phase ≠ .lead := by rw [hph]; nofun
    have hc : PhyInv false cfg st → IlvCore cfg st := fun h => by unfold PhyInv at h; rw [hph] at h; simpa using h
    simp only
    split
    · rename_i hcond
      simp only [Bool.and_eq_true, decide_eq_true_eq] at hcond
      exact .ofLine (ilvLine_spec cfg st line) (fun h => ⟨h.1, hc h.2.2, hcond.1⟩) hp ⟨rfl, id⟩
    · have he := ilvEndBlock_spec cfg st
      cases heb : ilvEndBlock st with
      | inr r => rw [heb] at he; exact .stop (ErrGood.imp he fun h => hc h.2.2)
      | inl st' =>
        rw [heb] at he
        simp only
        split
        · refine ⟨.stay (st1 := { st' with phase := .gap }) ⟨he.1.1.1, fun h => absurd h hp⟩, fun h => ?_⟩
          have hg := he.2 (hc h.2.2)
          simp only [stepP_inl]
          unfold PhyInv
          simp only [Bool.false_eq_true, if_false]
          exact ⟨hg.1.phase _, hg.2.1, hg.2.2⟩
        · exact (ilvNext_spec line he.1.1 (he.1.2 ▸ hp)).imp fun h => ⟨h.1, he.2 (hc h.2.2)⟩
  | gap =>
    have hp : st.phase ≠ .lead := by rw [hph]; nofun
    have hg : PhyInv false cfg st → IlvGap cfg st := fun h => by unfold PhyInv at h; rw [hph] at h; simpa using h
    simp only
    split
    · exact ⟨.stay ⟨rfl, id⟩, fun h => h.2.2⟩
    · exact (ilvNext_spec line ⟨rfl, id⟩ hp).imp fun h => ⟨h.1, hg h.2.2⟩

theorem ilvFinish_spec (cfg : Cfg) (st : PhySt) :
    PhySpec cfg st none ((st.phase = .rows ∨ st.phase = .gap) ∧ PhyInv false cfg st) (PhyInv false cfg)
      (.inr (ilvFinish cfg st)) := by
  unfold ilvFinish
  cases hph : st.phase with
  | lead => exact .stop fun h => by simp at h
  | hdr => exact .stop fun h => by simp at h
  | rows =>
    have hp : st.phase ≠ .lead := by rw [hph]; nofun
    have hc : PhyInv false cfg st → IlvCore cfg st := fun h => by unfold PhyInv at h; rw [hph] at h; simpa using h
    simp only
    have he := ilvEndBlock_spec cfg st
    cases heb : ilvEndBlock st with
    | inr r => rw [heb] at he; exact .stop (ErrGood.imp he fun h => hc h.2)
    | inl st' => rw [heb] at he; exact (ilvEnd_spec none he.1.1 (he.1.2 ▸ hp)).imp fun h => he.2 (hc h.2)
  | gap =>
    have hg : PhyInv false cfg st → IlvGap cfg st := fun h => by unfold PhyInv at h; rw [hph] at h; simpa using h
    exact (ilvEnd_spec none ⟨rfl, id⟩ (by rw [hph]; nofun)).imp fun h => hg h.2

theorem seqStep_spec (cfg : Cfg) (st : PhySt) (line : Bytes) :
    PhySpec cfg st (some line) (cfg.valid ∧ (st.phase = .rows ∨ st.phase = .gap) ∧ PhyInv true cfg st) (PhyInv true cfg)
      (seqStep cfg st line) := by
  unfold seqStep
  cases hph : st.phase with
  | lead => exact .stop fun h => by simp at h
  | hdr => exact .stop fun h => by simp at h
  | rows =>
    have hp : st.phase ≠ .lead := by rw [hph]; nofun
    have hs : PhyInv true cfg st → SeqInv cfg st := seqInv_of (Or.inl hph)
    simp only
    split
    · exact .ofLine (seqLine_spec cfg st line) (fun h => ⟨h.1, (hs h.2.2).1, fun _ => (hs h.2.2).2⟩) hp ⟨rfl, id⟩
    · split
      · refine ⟨.stay (st1 := { st with phase := .gap }) ⟨rfl, fun h => absurd h hp⟩, fun h => ?_⟩
        simp only [stepP_inl]
        unfold PhyInv
        simp only [if_true]
        exact (hs h.2.2).phase _
      · exact (seqNext_spec st line hp).imp fun h => ⟨h.1, hs h.2.2⟩
  | gap =>
    have hp : st.phase ≠ .lead := by rw [hph]; nofun
    simp only
    split
    · exact ⟨.stay ⟨rfl, id⟩, fun h => h.2.2⟩
    · exact (seqNext_spec st line hp).imp fun h => ⟨h.1, seqInv_of (Or.inr hph) h.2.2⟩

theorem seqFinish_spec (cfg : Cfg) (st : PhySt) :
    PhySpec cfg st none ((st.phase = .rows ∨ st.phase = .gap) ∧ PhyInv true cfg st) (PhyInv true cfg)
      (.inr (seqFinish cfg st)) := by
  have key : st.phase ≠ .lead → PhySpec cfg st none ((st.phase = .rows ∨ st.phase = .gap) ∧ PhyInv true cfg st) (PhyInv true cfg)
      (.inr (if st.idx + 1 < st.nseq then .eformat seqMsgEof
        else if st.alen != st.alenStated then .eformat seqMsgAlen else phyDone cfg st st.alen none)) := fun hp => by
    split
    · exact .stop fun _ => by decide
    · rename_i hl
      split
      · exact .stop fun _ => by decide
      · rename_i hne
        have he : st.alen = st.alenStated := by simpa using hne
        exact ⟨.done hp ⟨rfl, id⟩ he, fun h => seqDone_good cfg st none (seqInv_of h.1 h.2) he hl⟩
  unfold seqFinish
  cases hph : st.phase with
  | lead => exact .stop fun h => by simp at h
  | hdr => exact .stop fun h => by simp at h
  | rows => rw [hph] at key; exact key nofun
  | gap => rw [hph] at key; exact key nofun

theorem phylipStep_spec (sequential : Bool) (cfg : Cfg) (st : PhySt) (line : Bytes) :
    PhySpec cfg st (some line) (cfg.valid ∧ PhyInv sequential cfg st) (PhyInv sequential cfg)
      (phylipStep sequential cfg st line) := by
  unfold phylipStep
  cases hph : st.phase with
  | lead =>
    simp only
    split
    · exact ⟨.stay ⟨rfl, id⟩, fun h => h.2⟩
    · have h := phyHeader_out st line
      cases hx : phyHeader st line with
      | inl st' =>
        rw [hx] at h; obtain ⟨n, a, hn, ha, e⟩ := h; rw [e]
        exact ⟨.header hn ha, fun _ => ⟨{ hn := hn.1, ha := ha.1, rows_len := by simp [PhySt.created],
                                          names_len := by simp [PhySt.created] }, rowsWant_replicate cfg _⟩⟩
      | inr r => rw [hx] at h; obtain ⟨msg, hm, e⟩ := h; rw [e]; exact .stop fun _ => hm
  | hdr =>
    have hp : st.phase ≠ .lead := by rw [hph]; nofun
    simp only
    split
    · exact ⟨.stay ⟨rfl, id⟩, fun h => h.2⟩
    · exact (phyFirst_spec sequential cfg st line hp).imp fun h =>
        ⟨h.1, by have := h.2; unfold PhyInv at this; rw [hph] at this; exact this⟩
  | rows =>
    cases sequential with
    | true => exact (seqStep_spec cfg st line).imp fun h => ⟨h.1, Or.inl hph, h.2⟩
    | false => exact (ilvStep_spec cfg st line).imp fun h => ⟨h.1, Or.inl hph, h.2⟩
  | gap =>
    cases sequential with
    | true => exact (seqStep_spec cfg st line).imp fun h => ⟨h.1, Or.inr hph, h.2⟩
    | false => exact (ilvStep_spec cfg st line).imp fun h => ⟨h.1, Or.inr hph, h.2⟩

theorem phylipFinish_spec (sequential : Bool) (cfg : Cfg) (st : PhySt) :
    PhySpec cfg st none (PhyInv sequential cfg st) (PhyInv sequential cfg) (.inr (phylipFinish sequential cfg st)) := by
  unfold phylipFinish
  cases hph : st.phase with
  | lead => exact .stop trivial
  | hdr => exact .stop fun _ => by decide
  | rows =>
    cases sequential with
    | true => exact (seqFinish_spec cfg st).imp fun h => ⟨Or.inl hph, h⟩
    | false => exact (ilvFinish_spec cfg st).imp fun h => ⟨Or.inl hph, h⟩
  | gap =>
    cases sequential with
    | true => exact (seqFinish_spec cfg st).imp fun h => ⟨Or.inr hph, h⟩
    | false => exact (ilvFinish_spec cfg st).imp fun h => ⟨Or.inr hph, h⟩

theorem phylipStep_out (sequential : Bool) (cfg : Cfg) (st : PhySt) (line : Bytes) :
    PhyOut cfg st (some line) (phylipStep sequential cfg st line) := (phylipStep_spec sequential cfg st line).out

theorem phylipFinish_out (sequential : Bool) (cfg : Cfg) (st : PhySt) :
    PhyOut cfg st none (.inr (phylipFinish sequential cfg st)) := (phylipFinish_spec sequential cfg st).out

theorem phyUnput_good (x : PRes × List Bytes) (h : GoodP x.1) : Good (phyUnput x).1 := by
  obtain ⟨r, rest⟩ := x
  cases r with
  | ok a =>
    obtain ⟨m, back⟩ := a
    cases back <;> exact h
  | eof => exact h
  | eformat msg => exact h
  | fault => exact h
  | exc => exact h

/-- **PHYLIP readers, every input**: the outcome of `esl_msafile_phylip_Read` (interleaved or sequential) is a documented
    normal one and a returned alignment is well formed; no access outside `sqname[] / aseq[] / ax[]`, no exception -/
theorem phylipRead_good (sequential : Bool) (cfg : Cfg) (hv : cfg.valid) (lines : List Bytes) :
    Good (phylipRead sequential cfg lines).1 :=
  phyUnput_good _ (runLines_inv (phylipStep sequential cfg) (phylipFinish sequential cfg) (PhyInv sequential cfg) GoodP
    (fun st l h => (phylipStep_spec sequential cfg st l).inv ⟨hv, h⟩) (fun st h => (phylipFinish_spec sequential cfg st).inv h)
    lines {}
    (by unfold PhyInv; trivial))

/-- the same for an autodetected name width -/
theorem phylipReadW_good (namewidth : Nat) (sequential : Bool) (cfg : Cfg) (hv : cfg.valid) (lines : List Bytes) :
    Good (phylipReadW namewidth sequential cfg lines).1 :=
  phyUnput_good _ (runLines_inv (phylipStep sequential cfg) (phylipFinish sequential cfg) (PhyInv sequential cfg) GoodP
    (fun st l h => (phylipStep_spec sequential cfg st l).inv ⟨hv, h⟩) (fun st h => (phylipFinish_spec sequential cfg st).inv h)
    lines _
    (by unfold PhyInv; trivial))

/-- an eslOK outcome is what `phyDone` returns when `back` is the line to push back -/
abbrev FromDone (cfg : Cfg) (back : Option Bytes) (r : PRes) : Prop := OkIs (fun mb => ∃ st a, phyDone cfg st a back = .ok mb) r
abbrev StepDone (cfg : Cfg) (back : Option Bytes) (x : Sum PhySt PRes) : Prop := StepOk (fun _ => True) (FromDone cfg back) x

theorem phyDone_done (cfg : Cfg) (st : PhySt) (a : Nat) (back : Option Bytes) : FromDone cfg back (phyDone cfg st a back) :=
  fun _ e => ⟨st, a, e⟩

/-- the line handed back -/
theorem FromDone.back {cfg : Cfg} {back : Option Bytes} {r : PRes} (h : FromDone cfg back r) : OkIs (fun mb => mb.2 = back) r := by
  refine h.mono fun mb ⟨st, a, hd⟩ => ?_
  unfold phyDone at hd
  split at hd
  · rw [← Res.ok.inj hd]
  · cases hd

/-- the mode of the alignment returned is the reader's -/
theorem FromDone.mode {cfg : Cfg} {back : Option Bytes} {r : PRes} (h : FromDone cfg back r) :
    OkIs (fun mb => mb.1.digital = cfg.digital ∧ mb.1.kp = cfg.kp) r := by
  refine h.mono fun mb ⟨st, a, hd⟩ => ?_
  unfold phyDone at hd
  split at hd
  · rw [← Res.ok.inj hd]; exact ⟨rfl, rfl⟩
  · cases hd

theorem PhyOut.stepDone {cfg : Cfg} {st : PhySt} {back : Option Bytes} {x : Sum PhySt PRes} (h : PhyOut cfg st back x) :
    StepDone cfg back x := by
  cases h with
  | stay => trivial
  | header => trivial
  | line => trivial
  | done => exact phyDone_done cfg _ _ back
  | stop h => exact OkIs.of_false h

theorem phylipStep_done (sequential : Bool) (cfg : Cfg) (st : PhySt) (line : Bytes) :
    StepDone cfg (some line) (phylipStep sequential cfg st line) := (phylipStep_out sequential cfg st line).stepDone

theorem phylipFinish_done (sequential : Bool) (cfg : Cfg) (st : PhySt) : FromDone cfg none (phylipFinish sequential cfg st) :=
  (phylipFinish_out sequential cfg st).stepDone

theorem phyUnput_snd_of_done (cfg : Cfg) (r : PRes) (rest : List Bytes) (back : Option Bytes) (h : FromDone cfg back r) :
    (phyUnput (r, rest)).2 = rest ∨ (∃ l, back = some l ∧ (phyUnput (r, rest)).2 = l :: rest) := by
  cases r with
  | ok a =>
    obtain ⟨m, b⟩ := a
    have hb : b = back := h.back (m, b) rfl
    cases b with
    | none => exact Or.inl rfl
    | some l => exact Or.inr ⟨l, hb.symm, rfl⟩
  | eof => exact Or.inl rfl
  | eformat msg => exact Or.inl rfl
  | fault => exact Or.inl rfl
  | exc => exact Or.inl rfl

/-- what a read leaves behind (pushed-back line included) is a suffix of what it was offered -/
theorem phylipRun_rest_suffix (sequential : Bool) (cfg : Cfg) : ∀ (lines : List Bytes) (st : PhySt),
    (phyUnput (runLines (phylipStep sequential cfg) (phylipFinish sequential cfg) st lines)).2 <:+ lines := by
  intro lines
  induction lines with
  | nil =>
    intro st
    simp only [runLines]
    rcases phyUnput_snd_of_done cfg _ [] none (phylipFinish_done sequential cfg st) with h | ⟨l, hl, _⟩
    · rw [h]; exact List.suffix_refl _
    · simp at hl
  | cons x ls ih =>
    intro st
    unfold runLines
    have hb := phylipStep_done sequential cfg st x
    cases hs : phylipStep sequential cfg st x with
    | inl st' => exact List.IsSuffix.trans (ih st') (List.suffix_cons x ls)
    | inr r =>
      rw [hs] at hb
      simp only
      rcases phyUnput_snd_of_done cfg r ls (some x) hb with h | ⟨l, hl, h⟩
      · rw [h]; exact List.suffix_cons x ls
      · rw [h]
        simp only [Option.some.injEq] at hl
        rw [hl]; exact List.suffix_refl _

theorem phylipRead_rest_suffix (sequential : Bool) (cfg : Cfg) (lines : List Bytes) :
    (phylipRead sequential cfg lines).2 <:+ lines :=
  phylipRun_rest_suffix sequential cfg lines {}

/-- on no lines at all the answer is `eof`, not an alignment (an eslOK read needs the header line and at least one alignment
    line) -/
theorem phylipRead_nil (sequential : Bool) (cfg : Cfg) : (phylipRead sequential cfg []).1 = .eof := rfl

end EaselModel.Msafile
