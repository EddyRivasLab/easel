import EaselModel.Msafile.Lemmas
import EaselModel.Msafile.AfaLemmas
import EaselModel.Msafile.Stockholm
import EaselModel.Core.ListLookup
/-! Generic lemmas for the Stockholm reader proofs: outcomes of `E`-valued helpers, bounds-checked accessors,
    and the counting relation between the length arrays before and after a step (`LensRel`, `CountInv`). -/
namespace EaselModel.Msafile

/-- an `E`-valued helper ends with a value satisfying `Q`, or with a documented normal error -/
def EGood {α : Type} (Q : α → Prop) (x : E α) : Prop :=
  match x with
  | .ok a => Q a
  | .error r => Good r

@[simp] theorem EGood_ok {α : Type} (Q : α → Prop) (a : α) : EGood Q (.ok a : E α) = Q a := rfl
@[simp] theorem EGood_error {α : Type} (Q : α → Prop) (r : Res Msa) : EGood Q (.error r : E α) = Good r := rfl

theorem stepGood_liftE {Inv : StoSt → Prop} {x : E StoSt} (h : EGood Inv x) : StepGood Inv (liftE x) := by
  cases x with
  | ok a => exact h
  | error r => exact h

/-- `StepSpec` for an `E`-valued helper: its error is never "eslOK" and, given `H`, a documented one; given `H` its value satisfies `Q` -/
def ESpec {α : Type} (H : Prop) (Q : α → Prop) : E α → Prop
  | .ok a => H → Q a
  | .error r => ErrGood H r

theorem ESpec.ite {α : Type} {H : Prop} {Q : α → Prop} {c : Prop} [Decidable c] {a b : E α} (ha : c → ESpec H Q a)
    (hb : ¬c → ESpec H Q b) : ESpec H Q (if c then a else b) := ite_ind ha hb

theorem ESpec.eformat {α : Type} {H : Prop} {Q : α → Prop} {msg : String} (h : msg ≠ "" := by decide) :
    ESpec H Q (.error (.eformat msg) : E α) := fun _ => h
theorem ESpec.fault {α : Type} {H : Prop} {Q : α → Prop} (h : ¬ H) : ESpec H Q (.error .fault : E α) := h
theorem ESpec.exc {α : Type} {H : Prop} {Q : α → Prop} (h : ¬ H) : ESpec H Q (.error .exc : E α) := h

theorem ESpec.ne {α : Type} {H : Prop} {Q : α → Prop} {x : E α} (h : ESpec H Q x) (m : Msa) : x ≠ .error (.ok m) := by
  intro e; rw [e] at h; exact h

theorem ESpec.good {α : Type} {H : Prop} {Q : α → Prop} {x : E α} (h : ESpec H Q x) (hH : H) : EGood Q x := by
  cases x with
  | ok a => exact h hH
  | error r => exact ErrGood.good h hH

theorem ESpec.imp {α : Type} {H H' : Prop} {Q : α → Prop} {x : E α} (h : ESpec H' Q x) (hH : H → H') : ESpec H Q x := by
  cases x with
  | ok a => exact fun hh => h (hH hh)
  | error r => exact StepSpec.imp (σ := Unit) (Inv := fun _ => True) (x := .inr r) h hH

theorem ESpec.mono {α : Type} {H : Prop} {Q Q' : α → Prop} {x : E α} (h : ESpec H Q x) (hq : ∀ a, Q a → Q' a) : ESpec H Q' x := by
  cases x with
  | ok a => exact fun hh => hq a (h hh)
  | error r => exact h

/-- sequencing: `x` is computed first and is known to satisfy `ESpec H' P`, where `H'` follows from `H`; its error is handed on (`err`
    is `fun _ hr => hr` when the goal is an `ESpec H`), its value `a` goes on, `P a` known given `H`.  The motive is found by abstracting
    `x` in the goal, whatever `match` it stands in; between two calls in a row a `dsimp only` reduces that `match` on `.ok a`. -/
@[elab_as_elim] theorem ESpec.on {α : Type} {H H' : Prop} {P : α → Prop} {motive : E α → Prop} (x : E α) (hx : ESpec H' P x)
    (hH : H → H') (err : ∀ r, ErrGood H r → motive (.error r)) (ok : ∀ a, (H → P a) → motive (.ok a)) : motive x := by
  cases x with
  | ok a => exact ok a fun h => hx (hH h)
  | error r => exact err r (ESpec.imp (Q := P) (x := .error r) hx hH)

theorem getE_ok {α : Type} {l : List α} {i : Nat} (h : i < l.length) : getE l i = .ok l[i] := by
  simp [getE, List.getElem?_eq_getElem h]

theorem getE_eq_ok {α : Type} {l : List α} {i : Nat} {x : α} (h : getE l i = .ok x) : l[i]? = some x := by
  unfold getE at h
  split at h
  · rename_i y hy; cases h; exact hy
  · cases h

theorem getE_error {α : Type} {l : List α} {i : Nat} {r : Res Msa} (h : getE l i = .error r) : ¬ i < l.length := by
  intro hi
  rw [getE_ok hi] at h; cases h

theorem setE_ok {α : Type} {l : List α} {i : Nat} (v : α) (h : i < l.length) : setE l i v = .ok (l.set i v) := by
  simp [setE, h]

theorem setE_eq_ok {α : Type} {l l' : List α} {i : Nat} {v : α} (h : setE l i v = .ok l') : i < l.length ∧ l' = l.set i v := by
  unfold setE at h
  split at h
  · rename_i hi; cases h; exact ⟨hi, rfl⟩
  · cases h

theorem setE_error {α : Type} {l : List α} {i : Nat} {v : α} {r : Res Msa} (h : setE l i v = .error r) : ¬ i < l.length := by
  intro hi
  rw [setE_ok v hi] at h; cases h

theorem getE_spec {α : Type} (l : List α) (i : Nat) : ESpec (i < l.length) (fun x => l[i]? = some x) (getE l i) := by
  by_cases hi : i < l.length
  · rw [getE_ok hi]; exact fun _ => List.getElem?_eq_getElem hi
  · rw [show getE l i = .error .fault by simp [getE, hi]]; exact hi

theorem setE_spec {α : Type} (l : List α) (i : Nat) (v : α) : ESpec (i < l.length) (· = l.set i v) (setE l i v) :=
  .ite (fun _ _ => rfl) fun hi => .fault hi

theorem not_mem_of_contains_false {b : Bytes} (h : b.contains 0 = false) : (0 : UInt8) ∉ b := by
  intro hm
  have : b.contains 0 = true := by simpa using hm
  rw [h] at this; cases this

/-! ## counting over the length arrays

`LensRel old new l l'`: seen through predicates that are false at 0 (a zero is an annotation/row that does not exist),
`l'` is `l` with one entry `old` replaced by `new`, up to zeros added anywhere.  `old = new = 0` is pure padding. -/

structure LensRel (old new : Nat) (l l' : List Nat) : Prop where
  cnt : ∀ p : Nat → Bool, p 0 = false →
    List.countP p l' + (if p old then 1 else 0) = List.countP p l + (if p new then 1 else 0)
  mem : ∀ x ∈ l', x = 0 ∨ x = new ∨ x ∈ l

/-- the counts alone: an entry of `l'` other than 0 and `new` is counted by `(· == x)`, so it is one of `l` -/
theorem LensRel.of_cnt {old new : Nat} {l l' : List Nat}
    (cnt : ∀ p : Nat → Bool, p 0 = false →
      List.countP p l' + (if p old then 1 else 0) = List.countP p l + (if p new then 1 else 0)) : LensRel old new l l' := by
  refine ⟨cnt, fun x hx => ?_⟩
  by_cases h0 : x = 0
  · exact .inl h0
  by_cases hn : x = new
  · exact .inr (.inl hn)
  have e := cnt (· == x) (by simpa using fun h => h0 h.symm)
  have hpos : 0 < List.countP (· == x) l' := List.countP_pos_iff.mpr ⟨x, hx, by simp⟩
  have hnew : (new == x) = false := by simpa using fun h => hn h.symm
  rw [hnew] at e
  obtain ⟨y, hy, hyx⟩ := List.countP_pos_iff.mp (show 0 < List.countP (· == x) l by simp at e; omega)
  exact .inr (.inr (by rwa [beq_iff_eq.mp hyx] at hy))

theorem LensRel.refl0 (l : List Nat) : LensRel 0 0 l l := .of_cnt fun _ _ => rfl

theorem LensRel.trans0 {o n : Nat} {a b c : List Nat} (h1 : LensRel 0 0 a b) (h2 : LensRel o n b c) : LensRel o n a c :=
  .of_cnt fun p hp => by
    have e1 := h1.cnt p hp
    have e2 := h2.cnt p hp
    simp only [hp, Bool.false_eq_true, if_false, Nat.add_zero] at e1
    omega

theorem LensRel.trans0' {o n : Nat} {a b c : List Nat} (h1 : LensRel o n a b) (h2 : LensRel 0 0 b c) : LensRel o n a c :=
  .of_cnt fun p hp => by
    have e1 := h1.cnt p hp
    have e2 := h2.cnt p hp
    simp only [hp, Bool.false_eq_true, if_false, Nat.add_zero] at e2
    omega

theorem LensRel.app {o n : Nat} {a a' b b' : List Nat} (ha : LensRel o n a a') (hb : LensRel 0 0 b b') :
    LensRel o n (a ++ b) (a' ++ b') :=
  .of_cnt fun p hp => by
    have e1 := ha.cnt p hp
    have e2 := hb.cnt p hp
    simp only [hp, Bool.false_eq_true, if_false, Nat.add_zero] at e2
    simp only [List.countP_append]
    omega

theorem LensRel.app_right {o n : Nat} {a a' b b' : List Nat} (ha : LensRel 0 0 a a') (hb : LensRel o n b b') :
    LensRel o n (a ++ b) (a' ++ b') :=
  .of_cnt fun p hp => by
    have e1 := ha.cnt p hp
    have e2 := hb.cnt p hp
    simp only [hp, Bool.false_eq_true, if_false, Nat.add_zero] at e1
    simp only [List.countP_append]
    omega

theorem LensRel.set {l : List Nat} {i old : Nat} (new : Nat) (h : l[i]? = some old) : LensRel old new l (l.set i new) := by
  have hi := lt_length_of_getElem? h
  have hold : l[i] = old := by
    have := List.getElem?_eq_getElem hi
    rw [this] at h; exact Option.some.inj h
  refine .of_cnt fun p _ => ?_
  rw [List.countP_set hi, hold]
  have hpos : p old = true → 0 < List.countP p l := by
    intro hp
    apply List.countP_pos_iff.mpr
    exact ⟨old, by rw [← hold]; exact List.getElem_mem hi, hp⟩
  by_cases hp : p old = true
  · have := hpos hp
    simp only [hp, if_true]; omega
  · simp only [hp, Bool.false_eq_true, if_false]; omega

theorem LensRel.pad (l : List Nat) (k : Nat) : LensRel 0 0 l (l ++ List.replicate k 0) :=
  .of_cnt fun p hp => by simp [List.countP_append, List.countP_replicate, hp]

theorem LensRel.nil_replicate (k : Nat) : LensRel 0 0 [] (List.replicate k 0) := by
  simpa using LensRel.pad [] k

theorem LensRel.flatten_set {o n : Nat} {ll : List (List Nat)} {k : Nat} {c c' : List Nat}
    (hk : ll[k]? = some c) (h : LensRel o n c c') : LensRel o n ll.flatten (ll.set k c').flatten := by
  induction ll generalizing k with
  | nil => simp at hk
  | cons a rest ih =>
    cases k with
    | zero =>
      simp only [List.getElem?_cons_zero, Option.some.injEq] at hk
      subst hk
      simp only [List.set_cons_zero, List.flatten_cons]
      exact LensRel.app h (LensRel.refl0 _)
    | succ k =>
      simp only [List.getElem?_cons_succ] at hk
      simp only [List.set_cons_succ, List.flatten_cons]
      exact LensRel.app_right (LensRel.refl0 _) (ih hk)

theorem LensRel.flatten_snoc (ll : List (List Nat)) (k : Nat) : LensRel 0 0 ll.flatten (ll ++ [List.replicate k 0]).flatten := by
  simp only [List.flatten_append, List.flatten_cons, List.flatten_nil, List.append_nil]
  exact LensRel.pad _ k

theorem LensRel.flatten_map_pad (ll : List (List Nat)) (k : Nat) :
    LensRel 0 0 ll.flatten (ll.map (· ++ List.replicate k 0)).flatten := by
  induction ll with
  | nil => exact LensRel.refl0 _
  | cons a rest ih =>
    simp only [List.map_cons, List.flatten_cons]
    exact LensRel.app (LensRel.pad a k) ih

/-- the `sslen salen pplen` 3-array seen as lists (`NULL` = no entries) -/
def perLens (pl : List (Option (List Nat))) : List Nat := (pl.map (·.getD [])).flatten

theorem perLens_pad (pl : List (Option (List Nat))) (k : Nat) :
    LensRel 0 0 (perLens pl) (perLens (pl.map (Option.map (· ++ List.replicate k 0)))) := by
  unfold perLens
  induction pl with
  | nil => exact LensRel.refl0 _
  | cons a rest ih =>
    simp only [List.map_cons, List.flatten_cons]
    cases a with
    | none => simpa using ih
    | some l => exact LensRel.app (LensRel.pad l k) ih

theorem perLens_set {o n : Nat} {pl : List (Option (List Nat))} {k : Nat} {c : Option (List Nat)} {c' : List Nat}
    (hk : pl[k]? = some c) (h : LensRel o n (c.getD []) c') : LensRel o n (perLens pl) (perLens (pl.set k (some c'))) := by
  unfold perLens
  rw [List.map_set]
  apply LensRel.flatten_set (c := c.getD []) _ h
  simp [List.getElem?_map, hk]

/-- The lengths of everything that grows column-wise (rows and annotation), `lens`, against `pd->alen` and `pd->alen_b`:
    each is 0 (does not exist), `alen` (not seen in the current block) or `alen + alen_b` (extended by the current block);
    in the first block the number of existing ones is the number of block lines read; in later blocks it is the number of
    lines of a block, and the ones not yet extended are as many as the lines still expected. -/
structure CountInv (alen alenB bi npb nblock : Nat) (lens : List Nat) : Prop where
  tri : ∀ x ∈ lens, x = 0 ∨ x = alen ∨ x = alen + alenB
  bi0 : bi = 0 → alenB = 0
  bipos : 0 < bi → 1 ≤ alenB
  first : nblock = 0 → alen = 0 ∧ List.countP (· != 0) lens = bi
  later : nblock ≠ 0 → 1 ≤ alen ∧ List.countP (· != 0) lens = npb ∧ List.countP (· == alen) lens + bi = npb

theorem CountInv.pad {alen alenB bi npb nblock : Nat} {lens lens' : List Nat}
    (h : CountInv alen alenB bi npb nblock lens) (hr : LensRel 0 0 lens lens') : CountInv alen alenB bi npb nblock lens' := by
  refine ⟨fun x hx => ?_, h.bi0, h.bipos, fun h0 => ?_, fun h0 => ?_⟩
  · rcases hr.mem x hx with h' | h' | h'
    · exact Or.inl h'
    · exact Or.inl h'
    · exact h.tri x h'
  · have := hr.cnt (· != 0) (by simp)
    simp only [bne_self_eq_false, Bool.false_eq_true, if_false, Nat.add_zero] at this
    exact ⟨(h.first h0).1, by rw [this]; exact (h.first h0).2⟩
  · obtain ⟨h1, h2, h3⟩ := h.later h0
    have e1 := hr.cnt (· != 0) (by simp)
    have e2 := hr.cnt (· == alen) (by simp; omega)
    simp only [bne_self_eq_false, Bool.false_eq_true, if_false, Nat.add_zero] at e1
    have hz : ((0 : Nat) == alen) = false := by simp; omega
    simp only [hz, Bool.false_eq_true, if_false, Nat.add_zero] at e2
    exact ⟨h1, by rw [e1]; exact h2, by rw [e2]; exact h3⟩

/-- a block line: one length goes from `alen` to `alen + n` -/
theorem CountInv.step {alen alenB bi npb nblock n : Nat} {lens lens' : List Nat}
    (h : CountInv alen alenB bi npb nblock lens) (hn : 1 ≤ n) (hw : bi ≠ 0 → n = alenB)
    (hr : LensRel alen (alen + n) lens lens') : CountInv alen n (bi + 1) npb nblock lens' := by
  refine ⟨fun x hx => ?_, fun h0 => by omega, fun _ => hn, fun h0 => ?_, fun h0 => ?_⟩
  · rcases hr.mem x hx with h' | h' | h'
    · exact Or.inl h'
    · exact Or.inr (Or.inr h')
    · rcases h.tri x h' with h'' | h'' | h''
      · exact Or.inl h''
      · exact Or.inr (Or.inl h'')
      · by_cases hb : bi = 0
        · have := h.bi0 hb
          exact Or.inr (Or.inl (by omega))
        · have := hw hb
          exact Or.inr (Or.inr (by omega))
  · obtain ⟨ha, hc⟩ := h.first h0
    subst ha
    have e := hr.cnt (· != 0) (by simp)
    have hnz : ((0 + n) != 0) = true := by simp; omega
    simp only [bne_self_eq_false, Bool.false_eq_true, if_false, Nat.add_zero, hnz, if_true] at e
    exact ⟨rfl, by omega⟩
  · obtain ⟨h1, h2, h3⟩ := h.later h0
    have e1 := hr.cnt (· != 0) (by simp)
    have e2 := hr.cnt (· == alen) (by simp; omega)
    have ha : (alen != 0) = true := by simp; omega
    have han : ((alen + n) != 0) = true := by simp; omega
    have hs : (alen == alen) = true := by simp
    have hsn : ((alen + n) == alen) = false := by simp; omega
    simp only [ha, han, if_true] at e1
    simp only [hs, hsn, if_true, Bool.false_eq_true, if_false, Nat.add_zero] at e2
    exact ⟨h1, by omega, by omega⟩

/-- end of a block: `alen += alen_b`, `npb = bi`, `bi = 0`, `alen_b = 0` -/
theorem CountInv.endBlock {alen alenB bi npb nblock : Nat} {lens : List Nat}
    (h : CountInv alen alenB bi npb nblock lens) (hbi : 0 < bi) (hl : nblock ≠ 0 → bi = npb) :
    CountInv (alen + alenB) 0 0 bi (nblock + 1) lens := by
  have hb := h.bipos hbi
  have htri : ∀ x ∈ lens, x = 0 ∨ x = alen + alenB := by
    intro x hx
    by_cases h0 : nblock = 0
    · have ha := (h.first h0).1
      rcases h.tri x hx with h' | h' | h'
      · exact Or.inl h'
      · exact Or.inl (by omega)
      · exact Or.inr h'
    · obtain ⟨h1, h2, h3⟩ := h.later h0
      have hz : List.countP (· == alen) lens = 0 := by have := hl h0; omega
      have hne := (List.countP_eq_zero.mp hz) x hx
      rcases h.tri x hx with h' | h' | h'
      · exact Or.inl h'
      · exfalso; apply hne; simp [h']
      · exact Or.inr h'
  have hnn : List.countP (· != 0) lens = bi := by
    by_cases h0 : nblock = 0
    · exact (h.first h0).2
    · obtain ⟨h1, h2, h3⟩ := h.later h0
      have := hl h0; omega
  refine ⟨fun x hx => ?_, fun _ => rfl, fun h0 => by omega, fun h0 => by omega, fun _ => ⟨by omega, hnn, ?_⟩⟩
  · rcases htri x hx with h' | h'
    · exact Or.inl h'
    · exact Or.inr (Or.inl h')
  · have : List.countP (· == (alen + alenB)) lens = List.countP (· != 0) lens := by
      apply List.countP_congr
      intro x hx
      rcases htri x hx with h' | h'
      · subst h'; simp; omega
      · subst h'; simp; omega
    omega

/-- between blocks (and at the end of the record) every existing length is exactly `alen` -/
theorem CountInv.between {alen alenB bi npb nblock : Nat} {lens : List Nat}
    (h : CountInv alen alenB bi npb nblock lens) (hbi : bi = 0) : ∀ x ∈ lens, x = 0 ∨ x = alen := by
  intro x hx
  have := h.bi0 hbi
  rcases h.tri x hx with h' | h' | h'
  · exact Or.inl h'
  · exact Or.inr h'
  · exact Or.inr (by omega)

end EaselModel.Msafile
