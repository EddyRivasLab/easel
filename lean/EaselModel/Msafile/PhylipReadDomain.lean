import EaselModel.Msafile.PhylipLemmas
import EaselModel.Msafile.PhylipWritable
/-! "Reformat stability", PHYLIP (interleaved and sequential): what `esl_msafile_phylip_Read` returns. -/
namespace EaselModel.Msafile

/-- every stored name is made of graphic characters and has at most ten of them -/
def NG (names : List (Option Bytes)) : Prop := ∀ nm, some nm ∈ names → (∀ c ∈ nm, isGraph c = true) ∧ nm.length ≤ 10

/-- after the header: the stated length is in `1 … 2^31-1`, and so is the number of sequences -/
def HB (st : PhySt) : Prop := 1 ≤ st.alenStated ∧ st.alenStated ≤ 2147483647 ∧ st.names.length ≤ 2147483647

theorem rectifyName_graph (f nm : Bytes) (h : rectifyName f = some nm) : ∀ c ∈ nm, isGraph c = true := by
  unfold rectifyName at h
  cases f with
  | nil => simp at h; subst h; intro c hc; simp at hc
  | cons c0 t =>
    simp only at h
    split at h
    · rename_i hall
      injection h with h
      subst h
      intro c hc
      obtain ⟨x, hx, he⟩ := List.mem_map.mp hc
      have hx' := (List.all_eq_true.mp hall) x hx
      by_cases h32 : x = 32
      · subst h32; simp at he; subst he; decide
      · have : (x == 32) = false := by simpa using h32
        simp only [this, Bool.or_false, Bool.false_eq_true, if_false] at hx' he
        subst he; exact hx'
    · simp at h

theorem rectifyName_len (f nm : Bytes) (h : rectifyName f = some nm) : nm.length ≤ f.length := by
  unfold rectifyName at h
  cases f with
  | nil => simp at h; subst h; simp
  | cons c0 t =>
    simp only at h
    split at h
    · injection h with h
      subst h
      have h1 := (List.dropWhile_sublist (fun x : UInt8 => x == 32) (l := c0 :: (t.reverse.dropWhile (· == 32)).reverse)).length_le
      have h2 := (List.dropWhile_sublist (fun x : UInt8 => x == 32) (l := t.reverse)).length_le
      simp only [List.length_map, List.length_cons, List.length_reverse] at h1 h2 ⊢
      omega
    · simp at h

theorem ng_set (names : List (Option Bytes)) (i : Nat) (nm : Bytes) (h : NG names)
    (hn : (∀ c ∈ nm, isGraph c = true) ∧ nm.length ≤ 10) :
    NG (names.set i (some nm)) := by
  intro x hx
  rcases List.mem_or_eq_of_mem_set hx with h1 | h1
  · exact h x h1
  · injection h1 with h1; subst h1; exact hn

/-- names graphic; once the header is read, the stated length is ≥ 1 -/
structure PhyNd (st : PhySt) : Prop where
  names : NG st.names
  alen : st.phase ≠ .lead → HB st
  nw : st.nw = 10

def PhyNdGood (cfg : Cfg) (r : PRes) : Prop :=
  ∀ m b, r = .ok (m, b) → (∀ nm ∈ m.names, (∀ c ∈ nm, isGraph c = true) ∧ nm.length ≤ 10) ∧ 1 ≤ m.alen ∧ m.digital = cfg.digital ∧ m.kp = cfg.kp ∧
    m.alen ≤ 2147483647 ∧ m.names.length ≤ 2147483647

theorem allSomeP_length {α : Type} : ∀ (l : List (Option α)) (r : List α), allSomeP l = some r → r.length = l.length
  | [], r, h => by simp [allSomeP] at h; subst h; rfl
  | none :: _, r, h => by simp [allSomeP] at h
  | some x :: rest, r, h => by
    simp only [allSomeP, Option.map_eq_some_iff] at h
    obtain ⟨rs, h1, h2⟩ := h
    subst h2
    simp [allSomeP_length rest rs h1]

theorem allSomeP_mem {α : Type} : ∀ (l : List (Option α)) (r : List α), allSomeP l = some r → ∀ a ∈ r, some a ∈ l
  | [], r, h, a, ha => by simp [allSomeP] at h; subst h; simp at ha
  | none :: _, r, h, a, ha => by simp [allSomeP] at h
  | some x :: rest, r, h, a, ha => by
    simp only [allSomeP, Option.map_eq_some_iff] at h
    obtain ⟨rs, h1, h2⟩ := h
    subst h2
    rcases List.mem_cons.mp ha with rfl | ha
    · simp
    · exact List.mem_cons_of_mem _ (allSomeP_mem rest rs h1 a ha)

theorem phyDone_nd (cfg : Cfg) (st : PhySt) (a : Nat) (back : Option Bytes) (hn : NG st.names) (ha : 1 ≤ a ∧ a ≤ 2147483647)
    (hl : st.names.length ≤ 2147483647) :
    PhyNdGood cfg (phyDone cfg st a back) := by
  intro m b hm
  unfold phyDone at hm
  split at hm
  · rename_i names rows hnames hrows
    injection hm with hm
    injection hm with h1 h2
    subst h1
    exact ⟨fun nm hnm => hn nm (allSomeP_mem _ _ hnames nm hnm), ha.1, rfl, rfl, ha.2, by
      show names.length ≤ _; rw [allSomeP_length _ _ hnames]; exact hl⟩
  · simp at hm

abbrev StepNd (cfg : Cfg) (x : Sum PhySt PRes) : Prop := StepOk PhyNd (PhyNdGood cfg) x

theorem notOkP_good (cfg : Cfg) (r : PRes) (h : NotOkP r) : PhyNdGood cfg r := fun m b e => absurd e (h (m, b))

theorem LineData.nd {st st' : PhySt} {l : Bytes} (h : LineData st l st') (hi : PhyNd st) (ha : HB st) : PhyNd st' := by
  obtain ⟨ha', hw, hn⟩ := h
  have hnm : NG st'.names ∧ st'.names.length = st.names.length := by
    rcases hn with e | ⟨nm, hr, e⟩
    · rw [e]; exact ⟨hi.names, rfl⟩
    · rw [e]
      have hl := rectifyName_len _ nm hr
      have hl2 : (l.take st.nw).length ≤ 10 := by rw [List.length_take, hi.nw]; omega
      exact ⟨ng_set _ _ _ hi.names ⟨rectifyName_graph _ nm hr, by omega⟩, by simp⟩
  exact { names := hnm.1, alen := fun _ => by unfold HB at ha ⊢; rw [ha', hnm.2]; exact ha, nw := by rw [hw]; exact hi.nw }

theorem PhyNd.same {st st1 : PhySt} (hi : PhyNd st) (h : SameData st st1) : PhyNd st1 :=
  { names := by rw [h.names]; exact hi.names
    alen := fun hp => by
      have := hi.alen fun hl => hp (h.2 hl)
      unfold HB at this ⊢
      rw [h.names, h.alenStated]; exact this
    nw := by rw [h.nw]; exact hi.nw }

theorem PhyOut.nd {cfg : Cfg} {st : PhySt} {back : Option Bytes} {x : Sum PhySt PRes} (h : PhyOut cfg st back x) (hi : PhyNd st) :
    StepNd cfg x := by
  cases h with
  | stay h => exact hi.same h
  | header hn ha =>
    exact { names := fun nm h => by simp [PhySt.created] at h
            alen := fun _ => by unfold HB; simp only [PhySt.created, List.length_replicate]; omega
            nw := hi.nw }
  | line hp h hl =>
    have hj := hi.same h
    exact hl.nd hj (hj.alen hp)
  | done hp h ha =>
    have hj := hi.same h
    have hb := hj.alen hp
    exact phyDone_nd cfg _ _ back hj.names (by unfold HB at hb; omega) hb.2.2
  | stop h => exact notOkP_good cfg _ h

theorem phylipRun_nd (sequential : Bool) (cfg : Cfg) (lines : List Bytes) :
    PhyNdGood cfg (runLines (phylipStep sequential cfg) (phylipFinish sequential cfg) {} lines).1 :=
  runLines_inv (phylipStep sequential cfg) (phylipFinish sequential cfg) PhyNd (PhyNdGood cfg)
    (fun st l h => (phylipStep_out sequential cfg st l).nd h) (fun st h => (phylipFinish_out sequential cfg st).nd h) lines {}
    { names := fun nm h => by simp at h, alen := fun h => absurd rfl h, nw := rfl }

/-- what `esl_msafile_phylip_Read` guarantees beyond well-formedness: graphic names, ≥ 1 column -/
theorem phylipRead_nd (sequential : Bool) (cfg : Cfg) (lines : List Bytes) (m : Msa) (rest : List Bytes)
    (h : phylipRead sequential cfg lines = (.ok m, rest)) :
    (∀ nm ∈ m.names, (∀ c ∈ nm, isGraph c = true) ∧ nm.length ≤ 10) ∧ 1 ≤ m.alen ∧ m.digital = cfg.digital ∧ m.kp = cfg.kp ∧
      m.alen ≤ 2147483647 ∧ m.names.length ≤ 2147483647 := by
  have hr := phylipRun_nd sequential cfg lines
  unfold phylipRead at h
  generalize runLines (phylipStep sequential cfg) (phylipFinish sequential cfg) {} lines = x at h hr
  obtain ⟨r, rs⟩ := x
  cases r with
  | ok mb =>
    obtain ⟨m', b⟩ := mb
    have := hr m' b rfl
    cases b with
    | none => simp only [phyUnput, Prod.mk.injEq, Res.ok.injEq] at h; rw [← h.1]; exact this
    | some l => simp only [phyUnput, Prod.mk.injEq, Res.ok.injEq] at h; rw [← h.1]; exact this
  | eof => simp [phyUnput] at h
  | eformat msg => simp [phyUnput] at h
  | fault => simp [phyUnput] at h
  | exc => simp [phyUnput] at h

/-- no stored name is empty (a name field of ten blanks is stored as the empty string) -/
def phyNamesNeB (m : Msa) : Bool := m.names.all fun nm => !nm.isEmpty

/-- every text residue is one PHYLIP carries unchanged: an upper-case letter, `-`, `*` or `?` -/
def phyRowsSymB (m : Msa) : Bool := m.aseq.all fun r => r.all phyTextSym

theorem phyName_ok (m : Msa) (hn : ∀ nm ∈ m.names, (∀ c ∈ nm, isGraph c = true) ∧ nm.length ≤ 10) (hne : phyNamesNeB m = true) :
    ∀ i, i < m.nseq → phyNameOk (m.names.getD i []) := by
  intro i hi
  have hmem : m.names.getD i [] ∈ m.names := getD_mem_of_lt hi
  refine ⟨?_, (hn _ hmem).1⟩
  have := (List.all_eq_true.mp hne) _ hmem
  intro h0
  rw [h0] at this
  simp at this

/-- **what the PHYLIP reader returns in digital mode can be written and read back**, given that no name is empty -/
theorem phylipRead_domain_digital (sequential : Bool) (a : Abc) (hv : (phylipCfg (some a)).valid) (lines : List Bytes) (m : Msa)
    (rest : List Bytes) (h : phylipRead sequential (phylipCfg (some a)) lines = (.ok m, rest)) (hne : phyNamesNeB m = true) :
    PhylipDigitalWritable a m := by
  have hg := phylipRead_good sequential (phylipCfg (some a)) hv lines
  rw [h] at hg
  obtain ⟨hnm, halen, hdig, hkp, hb1, hb2⟩ := phylipRead_nd sequential _ lines m rest h
  have hdig' : m.digital = true := hdig
  have hkp' : m.kp = a.kp := hkp
  obtain ⟨h1, hrows⟩ := rd_wellFormed_rows m hg
  rw [hdig'] at hrows
  simp only [if_true] at hrows
  exact
    { dig := hdig', n1 := h1, alen1 := halen, nmax := hb2, amax := hb1
      name_ok := phyName_ok m hnm hne
      row_ok := fun i hi => by
        rw [← hkp']
        exact hrows.2 _ (getD_mem_of_lt (l := m.ax) (d := []) (by rw [hrows.1]; exact hi)) }

/-- … text mode: also every residue must be one PHYLIP carries unchanged -/
theorem phylipRead_domain_text (sequential : Bool) (lines : List Bytes) (m : Msa) (rest : List Bytes)
    (h : phylipRead sequential (phylipCfg none) lines = (.ok m, rest)) (hne : phyNamesNeB m = true)
    (hsym : phyRowsSymB m = true) : PhylipTextWritable m := by
  have hg := phylipRead_good sequential (phylipCfg none) (phylipCfg_valid abcOk_none) lines
  rw [h] at hg
  obtain ⟨hnm, halen, hdig, _, hb1, hb2⟩ := phylipRead_nd sequential _ lines m rest h
  have hdig' : m.digital = false := hdig
  obtain ⟨h1, hrows⟩ := rd_wellFormed_rows m hg
  rw [hdig'] at hrows
  simp only [Bool.false_eq_true, if_false] at hrows
  exact
    { dig := hdig', n1 := h1, alen1 := halen, nmax := hb2, amax := hb1
      name_ok := phyName_ok m hnm hne
      row_ok := fun i hi => by
        have hmem : m.aseq.getD i [] ∈ m.aseq := getD_mem_of_lt (by rw [hrows.1]; exact hi)
        exact ⟨(hrows.2 _ hmem).1, fun t ht => (List.all_eq_true.mp ((List.all_eq_true.mp hsym) _ hmem)) t ht⟩ }

/-- the reader returns names of at most ten characters, so `phylipProject` (which cuts names to ten) leaves them alone -/
theorem phylipRead_project_names (sequential : Bool) (cfg cfg' : Cfg) (lines : List Bytes) (m : Msa) (rest : List Bytes)
    (h : phylipRead sequential cfg lines = (.ok m, rest)) : (phylipProject cfg' m).names = m.names := by
  obtain ⟨hnm, _⟩ := phylipRead_nd sequential cfg lines m rest h
  rw [phylipProject_names]
  conv => rhs; rw [← List.map_id m.names]
  apply List.map_congr_left
  intro nm hmem
  exact List.take_of_length_le (hnm nm hmem).2

end EaselModel.Msafile
