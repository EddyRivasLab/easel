import EaselModel.Msafile.StoLines
/-! Stockholm / Pfam weights and cut-offs: the tokens `printf("%.2f")` / `printf("%.1f")` print, for EVERY finite binary64 weight
and binary32 cut-off (negative ones, zeros and subnormals included): their shape, the value they denote when read by an independent
decimal parser (`decTok`), and what the reader's tokenizer hands to `esl_memtod`.  The reader model keeps of a weight / cut-off
whether it is set; the token → double conversion is C01's. -/
namespace EaselModel.Msafile

def allDig (l : Bytes) : Prop := ∀ c ∈ l, isDigit c = true

/-- a digit is no character that is not a digit -/
theorem digit_ne {c : UInt8} (h : isDigit c = true) (k : UInt8) (hk : isDigit k = false := by decide) : c ≠ k :=
  fun e => by rw [e, hk] at h; cases h

/-- a digit is no delimiter of `esl_memtok` and no white space -/
theorem digit_class {c : UInt8} (h : isDigit c = true) : inDelim blankTab c = false ∧ isSpace c = false := by
  have h13 : ¬ c ≤ 13 := fun h13 => by
    unfold isDigit at h; simp only [Bool.and_eq_true, decide_eq_true_eq] at h
    exact absurd (UInt8.le_trans h.1 h13) (by decide)
  simp [inDelim, blankTab, isSpace, digit_ne h 32, digit_ne h 9, digit_ne h 0, h13]

theorem dch_digit : ∀ d, d < 10 → isDigit (dch d) = true := by decide

theorem natDec_allDig (n : Nat) : allDig (natDec n) := fun c hc => by
  obtain ⟨d, hd, rfl⟩ := natDec_mem n c hc
  exact dch_digit d hd

theorem isRealBody_digits (ds rest : Bytes) (h : allDig ds) (gd ge : Bool) (r : Nat) :
    isRealBody (ds ++ rest) gd ge r = isRealBody rest gd ge (r + ds.length) := by
  induction ds generalizing r with
  | nil => simp
  | cons c t ih =>
    have hc := h c (by simp)
    simp only [List.cons_append, isRealBody, hc, if_true]
    rw [ih (fun x hx => h x (by simp [hx]))]
    congr 1
    simp only [List.length_cons]; omega

/-- a token the cut-off parser accepts as a real number and that survives being written on a line -/
structure RealTok (t : Bytes) : Prop where
  name : nameOk t
  real : memIsReal t = true
  nolf : (10 : UInt8) ∉ t
  nocr : t.getLast? ≠ some 13
  notundef : memstrcmp t bUndefined = false

theorem realTok_of_shape (sg ip fp : Bytes) (hsg : sg = [] ∨ sg = [45]) (hip : ip ≠ []) (h1 : allDig ip) (h2 : allDig fp) :
    RealTok (sg ++ (ip ++ 46 :: fp)) := by
  have hbody : ∀ c ∈ ip ++ 46 :: fp, inDelim blankTab c = false ∧ c ≠ 10 ∧ c ≠ 13 := by
    intro c hc
    rcases List.mem_append.mp hc with h | h
    · exact ⟨(digit_class (h1 c h)).1, digit_ne (h1 c h) 10, digit_ne (h1 c h) 13⟩
    · rcases List.mem_cons.mp h with h | h
      · subst h; decide
      · exact ⟨(digit_class (h2 c h)).1, digit_ne (h2 c h) 10, digit_ne (h2 c h) 13⟩
  have hall : ∀ c ∈ sg ++ (ip ++ 46 :: fp), inDelim blankTab c = false ∧ c ≠ 10 ∧ c ≠ 13 := by
    intro c hc
    rcases List.mem_append.mp hc with h | h
    · rcases hsg with e | e
      · rw [e] at h; cases h
      · rw [e] at h; simp at h; subst h; decide
    · exact hbody c h
  obtain ⟨d, ip', rfl⟩ := List.exists_cons_of_ne_nil hip
  have hd : isDigit d = true := h1 d (by simp)
  have hreal : isRealBody (d :: ip' ++ 46 :: fp) false false 0 = some ([], (d :: ip').length + fp.length) := by
    rw [isRealBody_digits _ _ h1]
    have h46 : isDigit 46 = false := by decide
    simp only [isRealBody, h46, Bool.false_eq_true, if_false, beq_self_eq_true, if_true]
    have := isRealBody_digits fp [] h2 true false (0 + (d :: ip').length)
    rw [List.append_nil] at this
    rw [this]
    simp [isRealBody]
  refine ⟨⟨?_, fun c hc => (hall c hc).1⟩, ?_, fun h => (hall 10 h).2.1 rfl, fun h => (hall 13 (List.mem_of_getLast? h)).2.2 rfl, ?_⟩
  · rcases hsg with e | e <;> subst e <;> simp
  · rcases hsg with e | e <;> subst e
    · unfold memIsReal memIsReal0 realStartOk
      simp only [List.nil_append, List.cons_append, List.isEmpty_cons, Bool.false_eq_true, if_false, List.dropWhile, (digit_class hd).2]
      have e1 : (d == 45 || d == 43) = false := by simp [digit_ne hd 45, digit_ne hd 43]
      simp only [e1, Bool.false_eq_true, if_false, h1 d (by simp), Bool.true_or, Bool.true_and]
      rw [show d :: (ip' ++ 46 :: fp) = d :: ip' ++ 46 :: fp from rfl, hreal]
      simp; omega
    · unfold memIsReal memIsReal0 realStartOk
      simp only [List.cons_append, List.nil_append, List.isEmpty_cons, Bool.false_eq_true, if_false, List.dropWhile,
        show isSpace 45 = false by decide, show ((45 : UInt8) == 45 || (45 : UInt8) == 43) = true by decide, if_true,
        h1 d (by simp), Bool.true_or, Bool.true_and]
      rw [show d :: (ip' ++ 46 :: fp) = d :: ip' ++ 46 :: fp from rfl, hreal]
      simp; omega
  · rcases hsg with e | e <;> subst e
    · simp only [memstrcmp, bUndefined, List.nil_append, List.cons_append, beq_eq_false_iff_ne, ne_eq, List.cons.injEq, not_and]
      intro h; exact absurd h (digit_ne hd 117)
    · simp [memstrcmp, bUndefined]

/-- `mant * 2^e * 10^prec` rounded to the nearest integer, ties to even -/
def fixedQ (mant : Nat) (e : Int) (prec : Nat) : Nat :=
  if e ≥ 0 then mant * 10 ^ prec * 2 ^ e.toNat
  else
    if 2 * ((mant * 10 ^ prec) % 2 ^ (-e).toNat) > 2 ^ (-e).toNat
        || (2 * ((mant * 10 ^ prec) % 2 ^ (-e).toNat) == 2 ^ (-e).toNat && (mant * 10 ^ prec) / 2 ^ (-e).toNat % 2 == 1)
    then (mant * 10 ^ prec) / 2 ^ (-e).toNat + 1 else (mant * 10 ^ prec) / 2 ^ (-e).toNat

theorem fmtFixed_eq (neg : Bool) (mant : Nat) (e : Int) (prec : Nat) :
    fmtFixed neg mant e prec = (if neg then [45] else []) ++ natDec (fixedQ mant e prec / 10 ^ prec)
      ++ (if prec == 0 then [] else 46 :: (List.replicate (prec - (natDec (fixedQ mant e prec % 10 ^ prec)).length) 48
            ++ natDec (fixedQ mant e prec % 10 ^ prec))) := by
  unfold fmtFixed fixedQ
  rfl

theorem fixedQ_exact (mant : Nat) (e : Int) (prec : Nat) (he : 0 ≤ e) : fixedQ mant e prec = mant * 10 ^ prec * 2 ^ e.toNat := by
  unfold fixedQ; rw [if_pos he]

/-- otherwise within half a unit of the last printed decimal: `|q * 2^k - mant * 10^prec| ≤ 2^k / 2` with `k = -e` -/
theorem fixedQ_half_unit (mant : Nat) (e : Int) (prec : Nat) (he : e < 0) :
    2 * (fixedQ mant e prec * 2 ^ (-e).toNat) ≤ 2 * (mant * 10 ^ prec) + 2 ^ (-e).toNat ∧
    2 * (mant * 10 ^ prec) ≤ 2 * (fixedQ mant e prec * 2 ^ (-e).toNat) + 2 ^ (-e).toNat := by
  have hne : ¬ (e ≥ 0) := by omega
  unfold fixedQ
  rw [if_neg hne]
  generalize hnum : mant * 10 ^ prec = num
  generalize hden : 2 ^ (-e).toNat = den
  have hpos : 0 < den := by rw [← hden]; exact Nat.pow_pos (by decide)
  have hdm := Nat.div_add_mod num den
  have hr := Nat.mod_lt num hpos
  have hmul : den * (num / den) = num / den * den := Nat.mul_comm _ _
  have hsucc : (num / den + 1) * den = num / den * den + den := Nat.succ_mul _ _
  split
  · rename_i hc
    simp only [Bool.or_eq_true, decide_eq_true_eq, Bool.and_eq_true, beq_iff_eq] at hc
    rw [hsucc]
    rcases hc with hc | ⟨hc, _⟩ <;> omega
  · rename_i hc
    simp only [Bool.or_eq_true, decide_eq_true_eq, Bool.and_eq_true, beq_iff_eq, not_or, not_and] at hc
    omega

theorem dch_val : ∀ d : Fin 10, (dch d.val).toNat - 48 = d.val := by decide

theorem digitsVal_snoc (ds : Bytes) (c : UInt8) : digitsVal (ds ++ [c]) = digitsVal ds * 10 + (c.toNat - 48) := by
  unfold digitsVal; rw [List.foldl_append]; rfl

theorem digitsVal_natDec (n : Nat) : digitsVal (natDec n) = n := by
  induction n using Nat.strongRecOn with
  | _ n ih =>
    have e := natDec_eq n
    by_cases hlt : n < 10
    · rw [if_pos hlt] at e; rw [e]
      have := dch_val ⟨n, hlt⟩
      simp only [digitsVal, List.foldl_cons, List.foldl_nil, Nat.zero_mul, Nat.zero_add]
      exact this
    · rw [if_neg hlt] at e; rw [e, digitsVal_snoc, ih (n / 10) (by omega)]
      have := dch_val ⟨n % 10, Nat.mod_lt _ (by decide)⟩
      simp only at this
      rw [this]; omega

theorem digitsVal_zeros (k : Nat) (ds : Bytes) : digitsVal (List.replicate k 48 ++ ds) = digitsVal ds := by
  have h0 : ∀ k, List.foldl (fun a (c : UInt8) => a * 10 + (c.toNat - 48)) 0 (List.replicate k 48) = 0 := by
    intro k
    induction k with
    | zero => rfl
    | succ k ih => rw [List.replicate_succ, List.foldl_cons]; exact ih
  unfold digitsVal
  rw [List.foldl_append, h0]

theorem natDec_length_le (p : Nat) : ∀ n, n < 10 ^ (p + 1) → (natDec n).length ≤ p + 1 := by
  induction p with
  | zero =>
    intro n hn
    have hlt : n < 10 := by simpa using hn
    rw [natDec_eq n, if_pos hlt]; simp
  | succ p ih =>
    intro n hn
    by_cases hlt : n < 10
    · rw [natDec_eq n, if_pos hlt]; simp
    · rw [natDec_eq n, if_neg hlt, List.length_append]
      have h10 : n / 10 < 10 ^ (p + 1) := by
        apply Nat.div_lt_of_lt_mul
        rw [Nat.pow_succ] at hn
        omega
      have := ih (n / 10) h10
      simp only [List.length_cons, List.length_nil]
      omega

theorem takeWhile_digits (ip rest : Bytes) (h : allDig ip) (hr : ∀ c, rest.head? = some c → isDigit c = false) :
    (ip ++ rest).takeWhile isDigit = ip ∧ (ip ++ rest).dropWhile isDigit = rest := by
  induction ip with
  | nil =>
    cases rest with
    | nil => exact ⟨rfl, rfl⟩
    | cons c t =>
      have := hr c rfl
      simp [this]
  | cons d t ih =>
    have hd := h d (by simp)
    have := ih (fun c hc => h c (by simp [hc]))
    simp only [List.cons_append, List.takeWhile, List.dropWhile, hd]
    exact ⟨by rw [this.1], this.2⟩

/-- the scan of `<ip>.<fp>`: the integer digits stop at the point, the fraction digits run to the end -/
theorem fixed_scan (ip fp : Bytes) (h1 : allDig ip) (h2 : allDig fp) :
    (ip ++ 46 :: fp).takeWhile isDigit = ip ∧ (ip ++ 46 :: fp).dropWhile isDigit = 46 :: fp ∧
      fp.takeWhile isDigit = fp ∧ fp.dropWhile isDigit = [] := by
  obtain ⟨a, b⟩ := takeWhile_digits ip (46 :: fp) h1 (fun c hc => by cases hc; decide)
  obtain ⟨a2, b2⟩ := takeWhile_digits fp [] h2 (fun c hc => by cases hc)
  rw [List.append_nil] at a2 b2
  exact ⟨a, b, a2, b2⟩

/-- `[-]ddd.dd` taken apart: sign, integer digits, fraction digits (what follows the character after the integer digits) -/
def decTok (t : Bytes) : Bool × Bytes × Bytes :=
  match t with
  | 45 :: r => (true, r.takeWhile isDigit, (r.dropWhile isDigit).drop 1)
  | _ => (false, t.takeWhile isDigit, (t.dropWhile isDigit).drop 1)

/-- the magnitude the token denotes, in units of `10^-(number of fraction digits)` -/
def decTokUnits (t : Bytes) : Nat := digitsVal (decTok t).2.1 * 10 ^ (decTok t).2.2.length + digitsVal (decTok t).2.2

theorem decTok_shape (neg : Bool) (ip fp : Bytes) (hip : ip ≠ []) (h1 : allDig ip) :
    decTok ((if neg then [45] else []) ++ (ip ++ 46 :: fp)) = (neg, ip, fp) := by
  obtain ⟨a, b⟩ := takeWhile_digits ip (46 :: fp) h1 (fun c hc => by cases hc; decide)
  cases neg with
  | true =>
    simp only [if_true, List.cons_append, List.nil_append, decTok]
    rw [a, b]; rfl
  | false =>
    simp only [Bool.false_eq_true, if_false, List.nil_append]
    obtain ⟨d, ip', rfl⟩ := List.exists_cons_of_ne_nil hip
    have hd := digit_ne (h1 d (by simp)) 45
    unfold decTok
    split
    · rename_i r heq
      simp only [List.cons_append, List.cons.injEq] at heq
      exact absurd heq.1 hd
    · rw [a, b]; rfl

theorem fmtFixed_read (neg : Bool) (mant : Nat) (e : Int) (prec : Nat) (hp : prec ≠ 0) :
    ∃ ip fp, fmtFixed neg mant e prec = (if neg then [45] else []) ++ (ip ++ 46 :: fp) ∧ ip ≠ [] ∧ allDig ip ∧ allDig fp ∧
      fp.length = prec ∧ decTok (fmtFixed neg mant e prec) = (neg, ip, fp) ∧
      decTokUnits (fmtFixed neg mant e prec) = fixedQ mant e prec := by
  have hp' : (prec == 0) = false := by simpa using hp
  obtain ⟨p, rfl⟩ : ∃ p, prec = p + 1 := ⟨prec - 1, by omega⟩
  have hpos : 0 < 10 ^ (p + 1) := Nat.pow_pos (by decide)
  have hlen := natDec_length_le p (fixedQ mant e (p + 1) % 10 ^ (p + 1)) (Nat.mod_lt _ hpos)
  have hfp : allDig (List.replicate (p + 1 - (natDec (fixedQ mant e (p + 1) % 10 ^ (p + 1))).length) 48
      ++ natDec (fixedQ mant e (p + 1) % 10 ^ (p + 1))) := by
    intro c hc
    rcases List.mem_append.mp hc with h | h
    · rw [(List.mem_replicate.mp h).2]; decide
    · exact natDec_allDig _ c h
  have hl : (List.replicate (p + 1 - (natDec (fixedQ mant e (p + 1) % 10 ^ (p + 1))).length) 48
      ++ natDec (fixedQ mant e (p + 1) % 10 ^ (p + 1))).length = p + 1 := by
    rw [List.length_append, List.length_replicate]; omega
  have heq := fmtFixed_eq neg mant e (p + 1)
  rw [hp'] at heq
  simp only [Bool.false_eq_true, if_false, List.append_assoc] at heq
  have hdt := decTok_shape neg _ (List.replicate (p + 1 - (natDec (fixedQ mant e (p + 1) % 10 ^ (p + 1))).length) 48
      ++ natDec (fixedQ mant e (p + 1) % 10 ^ (p + 1))) (natDec_ne_nil (fixedQ mant e (p + 1) / 10 ^ (p + 1))) (natDec_allDig _)
  rw [← heq] at hdt
  refine ⟨_, _, heq, natDec_ne_nil _, natDec_allDig _, hfp, hl, hdt, ?_⟩
  unfold decTokUnits
  rw [hdt]
  simp only [hl, digitsVal_natDec, digitsVal_zeros]
  exact Nat.div_add_mod' _ _

theorem fmtFixed_realTok (neg : Bool) (mant : Nat) (e : Int) (prec : Nat) (hp : prec ≠ 0) : RealTok (fmtFixed neg mant e prec) := by
  obtain ⟨ip, fp, he, h1, h2, h3, _⟩ := fmtFixed_read neg mant e prec hp
  rw [he]; exact realTok_of_shape _ ip fp (by cases neg <;> simp) h1 h2 h3

/-- the value of a finite binary64 pattern is `± f64Mant * 2 ^ f64Exp` -/
def f64Mant (b : UInt64) : Nat := if (b.toNat / 2 ^ 52) % 2048 == 0 then b.toNat % 2 ^ 52 else b.toNat % 2 ^ 52 + 2 ^ 52
def f64Exp (b : UInt64) : Int := if (b.toNat / 2 ^ 52) % 2048 == 0 then -1074 else Int.ofNat ((b.toNat / 2 ^ 52) % 2048) - 1075
def f64Neg (b : UInt64) : Bool := b.toNat / 2 ^ 63 == 1

theorem fmtF2_fixed (b : UInt64) (h : finiteF64 b) : fmtF2 b = fmtFixed (f64Neg b) (f64Mant b) (f64Exp b) 2 := by
  have h' : ((b.toNat / 2 ^ 52) % 2048 == 2047) = false := by simpa [finiteF64] using h
  unfold fmtF2 f64Neg f64Mant f64Exp
  simp only [h', Bool.false_eq_true, if_false]
  split <;> rfl

/-- **every finite weight prints as a well-formed token**: `[-]d…d.dd`, two fraction digits, accepted by `esl_mem_IsReal`, one
    blank-free token -/
theorem fmtF2_wellformed (b : UInt64) (h : finiteF64 b) :
    ∃ ip fp, fmtF2 b = (if f64Neg b then [45] else []) ++ (ip ++ 46 :: fp) ∧ ip ≠ [] ∧ allDig ip ∧ allDig fp ∧ fp.length = 2 ∧
      RealTok (fmtF2 b) := by
  obtain ⟨ip, fp, he, h1, h2, h3, h4, _, _⟩ := fmtFixed_read (f64Neg b) (f64Mant b) (f64Exp b) 2 (by decide)
  rw [fmtF2_fixed b h]
  exact ⟨ip, fp, he, h1, h2, h3, h4, fmtFixed_realTok _ _ _ 2 (by decide)⟩

/-- **the value a weight token denotes**: sign = the sign bit; magnitude = `fixedQ` hundredths, i.e. (`fixedQ_exact`,
    `fixedQ_half_unit`) the weight rounded to two decimals, ties to even -/
theorem fmtF2_value (b : UInt64) (h : finiteF64 b) :
    (decTok (fmtF2 b)).1 = f64Neg b ∧ (decTok (fmtF2 b)).2.2.length = 2 ∧ decTokUnits (fmtF2 b) = fixedQ (f64Mant b) (f64Exp b) 2 := by
  obtain ⟨ip, fp, _, _, _, _, h4, h5, h6⟩ := fmtFixed_read (f64Neg b) (f64Mant b) (f64Exp b) 2 (by decide)
  rw [fmtF2_fixed b h, h5]
  exact ⟨rfl, h4, h6⟩

/-- 1.0 → `1.00` = 100 hundredths; 0.125 → `0.12` (tie to even); 2.675 (binary: just below) → `2.67`; -0.0 → `-0.00` -/
example : fmtF2 0x3ff0000000000000 = str "1.00" ∧ decTokUnits (fmtF2 0x3ff0000000000000) = 100 := by decide +kernel
example : fmtF2 0x3fc0000000000000 = str "0.12" ∧ decTokUnits (fmtF2 0x3fc0000000000000) = 12 := by decide +kernel
example : fmtF2 0x4005666666666666 = str "2.67" := by decide +kernel
example : fmtF2 0x8000000000000000 = str "-0.00" ∧ (decTok (fmtF2 0x8000000000000000)).1 = true := by decide +kernel
example : finiteF64 0x3fc0000000000000 := by unfold finiteF64; decide

def f32Mant (b : UInt32) : Nat := if (b.toNat / 2 ^ 23) % 256 == 0 then b.toNat % 2 ^ 23 else b.toNat % 2 ^ 23 + 2 ^ 23
def f32Exp (b : UInt32) : Int := if (b.toNat / 2 ^ 23) % 256 == 0 then -149 else Int.ofNat ((b.toNat / 2 ^ 23) % 256) - 150
def f32Neg (b : UInt32) : Bool := b.toNat / 2 ^ 31 == 1

theorem fmtF1_fixed (b : UInt32) (h : finiteF32 b) : fmtF1 b = fmtFixed (f32Neg b) (f32Mant b) (f32Exp b) 1 := by
  have h' : ((b.toNat / 2 ^ 23) % 256 == 255) = false := by simpa [finiteF32] using h
  unfold fmtF1 f32Neg f32Mant f32Exp
  simp only [h', Bool.false_eq_true, if_false]
  split <;> rfl

theorem fmtF1_realTok (b : UInt32) (h : finiteF32 b) : RealTok (fmtF1 b) := by
  rw [fmtF1_fixed b h]; exact fmtFixed_realTok _ _ _ 1 (by decide)

/-- **every finite cut-off prints as a well-formed token** with exactly one fraction digit -/
theorem fmtF1_wellformed (b : UInt32) (h : finiteF32 b) :
    ∃ ip fp, fmtF1 b = (if f32Neg b then [45] else []) ++ (ip ++ 46 :: fp) ∧ ip ≠ [] ∧ allDig ip ∧ allDig fp ∧ fp.length = 1 ∧
      RealTok (fmtF1 b) := by
  obtain ⟨ip, fp, he, h1, h2, h3, h4, _, _⟩ := fmtFixed_read (f32Neg b) (f32Mant b) (f32Exp b) 1 (by decide)
  rw [fmtF1_fixed b h]
  exact ⟨ip, fp, he, h1, h2, h3, h4, fmtFixed_realTok _ _ _ 1 (by decide)⟩

/-- **the value a cut-off token denotes**: `fixedQ` tenths with the sign bit -/
theorem fmtF1_value (b : UInt32) (h : finiteF32 b) :
    (decTok (fmtF1 b)).1 = f32Neg b ∧ (decTok (fmtF1 b)).2.2.length = 1 ∧ decTokUnits (fmtF1 b) = fixedQ (f32Mant b) (f32Exp b) 1 := by
  obtain ⟨ip, fp, _, _, _, _, h4, h5, h6⟩ := fmtFixed_read (f32Neg b) (f32Mant b) (f32Exp b) 1 (by decide)
  rw [fmtF1_fixed b h, h5]
  exact ⟨rfl, h4, h6⟩

/-- 25.0 → `25.0`; 0.25 → `0.2` (tie to even); -1.5 → `-1.5` -/
example : fmtF1 0x41c80000 = str "25.0" ∧ decTokUnits (fmtF1 0x41c80000) = 250 := by decide +kernel
example : fmtF1 0x3e800000 = str "0.2" ∧ decTokUnits (fmtF1 0x3e800000) = 2 := by decide +kernel
example : fmtF1 0xbfc00000 = str "-1.5" ∧ (decTok (fmtF1 0xbfc00000)).1 = true := by decide +kernel

/-- the line `#=GS <name> WT <tok>` comes apart, under the three `esl_memtok` calls of `stockholm_parse_gs`, into `#=GS`, the
    sequence name and `WT`, leaving exactly the value text -/
theorem wt_line_tokens (m : Msa) (i : Nat) (v : Bytes) (hn : nameOk (m.names.getD i [])) (hv : nameOk v) :
    ∃ p1 p2, memtok (gsLine m 0 i v) blankTab = some (bGS, p1) ∧ memtok p1 blankTab = some (m.names.getD i [], p2) ∧
      memtok p2 blankTab = some (bWT, v) ∧ memtok v blankTab = some (v, []) := by
  obtain ⟨sp, hsp, he⟩ := gsLine_fields m 0 i v
  have hF : FieldsOk [(bGS, [32]), (m.names.getD i [], sp), (bWT, [32])] v :=
    ⟨nameOk_bGS, tok32, hn, hsp, by unfold nameOk; decide +kernel, tok32, nameOk_head v hv⟩
  exact ⟨_, _, by rw [he]; exact memtok_fields hF, memtok_fields hF.2.2, memtok_fields hF.2.2.2.2, memtok_name v hv⟩

/-- **token round trip for weights**: for every finite weight, the text the reader passes to `esl_memtod` for sequence `i` is,
    byte for byte, the token `printf("%.2f")` printed, and `esl_mem_IsReal` accepts it -/
theorem wt_line_weight_token (m : Msa) (i : Nat) (hn : nameOk (m.names.getD i [])) (hf : finiteF64 ((m.wgt.getD i Wgt.unset).toBits)) :
    ∃ p1 p2, memtok (gsLine m 0 i (wtTok m i)) blankTab = some (bGS, p1) ∧ memtok p1 blankTab = some (m.names.getD i [], p2) ∧
      memtok p2 blankTab = some (bWT, wtTok m i) ∧ memtok (wtTok m i) blankTab = some (wtTok m i, []) ∧
      memIsReal (wtTok m i) = true := by
  obtain ⟨_, _, _, _, _, _, _, hr⟩ := fmtF2_wellformed _ hf
  obtain ⟨p1, p2, a, b, c, d⟩ := wt_line_tokens m i (wtTok m i) hn hr.name
  exact ⟨p1, p2, a, b, c, d, hr.real⟩

/-- the decimal branch of `strtod(tok) == -1.0` on `-<ip>.<fp>` -/
def decMinusOne (ip fp : Bytes) : Bool :=
  roundsToOne (digitsVal (ip ++ fp)) 10 (0 - Int.ofNat fp.length) (Nat.toDigits 10 (digitsVal (ip ++ fp))).length

/-- digits and then the point: the second character is a digit or the point, so there is no `0x` in front -/
theorem digits_no_hex {d x : UInt8} {ip' fp r : Bytes} (h1 : allDig (d :: ip')) (heq : d :: ip' ++ 46 :: fp = 48 :: x :: r) :
    (x == 120 || x == 88) = false := by
  cases ip' with
  | nil =>
    simp only [List.cons_append, List.nil_append, List.cons.injEq] at heq
    rw [← heq.2.1]; decide
  | cons d2 t =>
    simp only [List.cons_append, List.cons.injEq] at heq
    rw [← heq.2.1]
    simp [digit_ne (h1 d2 (by simp)) 120, digit_ne (h1 d2 (by simp)) 88]

theorem strtodIsMinusOne_neg (ip fp : Bytes) (hip : ip ≠ []) (h1 : allDig ip) (h2 : allDig fp) :
    strtodIsMinusOne (45 :: (ip ++ 46 :: fp)) = decMinusOne ip fp := by
  obtain ⟨d, ip', rfl⟩ := List.exists_cons_of_ne_nil hip
  obtain ⟨a, b, a2, b2⟩ := fixed_scan (d :: ip') fp h1 h2
  unfold strtodIsMinusOne
  simp only [List.dropWhile, show isSpace 45 = false by decide]
  split
  · rename_i x r heq
    simp only [digits_no_hex h1 heq, Bool.false_and, Bool.false_eq_true, if_false, a, b, a2, b2, List.isEmpty_cons]
    unfold decMinusOne
    simp [parseExp]
  · simp only [a, b, a2, b2, List.isEmpty_cons, Bool.false_and, Bool.false_eq_true, if_false]
    unfold decMinusOne
    simp [parseExp]

theorem digitsVal_foldl (fp : Bytes) : ∀ a : Nat,
    List.foldl (fun a (c : UInt8) => a * 10 + (c.toNat - 48)) a fp = a * 10 ^ fp.length + digitsVal fp := by
  induction fp with
  | nil => intro a; simp [digitsVal]
  | cons c t ih =>
    intro a
    unfold digitsVal
    rw [List.foldl_cons, List.foldl_cons, ih, ih (0 * 10 + (c.toNat - 48)), List.length_cons, Nat.pow_succ, Nat.add_mul,
      Nat.mul_assoc, Nat.mul_comm 10 (10 ^ t.length)]
    simp only [Nat.zero_mul, Nat.zero_add, Nat.add_assoc]

theorem digitsVal_append (ip fp : Bytes) : digitsVal (ip ++ fp) = digitsVal ip * 10 ^ fp.length + digitsVal fp := by
  show List.foldl _ 0 (ip ++ fp) = _
  rw [List.foldl_append, digitsVal_foldl]
  rfl

theorem roundsToOne_hundredths (m s : Nat) : roundsToOne m 10 (0 - Int.ofNat 2) s = true → m = 100 := by
  unfold roundsToOne
  intro h
  by_cases h0 : (m == 0) = true
  · simp [h0] at h
  · simp only [h0, Bool.false_eq_true, if_false] at h
    have hneg : ¬ ((0 : Int) - Int.ofNat 2 ≥ 0) := by decide
    simp only [hneg, if_false] at h
    have hk : (-((0 : Int) - Int.ofNat 2)).toNat = 2 := by decide
    simp only [hk] at h
    split at h
    · cases h
    · simp only [Bool.and_eq_true, decide_eq_true_eq] at h
      omega

theorem roundsToOne_100 : roundsToOne 100 10 (0 - Int.ofNat 2) (Nat.toDigits 10 100).length = true := by decide +kernel

/-- **which finite weights the Stockholm round trip can carry: all of them except those that print as `-1.00`** (the reader takes
    -1.0 for "no weight given") -/
theorem wgtTokOk_iff (b : UInt64) (h : finiteF64 b) :
    wgtTokOk (fmtF2 b) ↔ ¬ (f64Neg b = true ∧ fixedQ (f64Mant b) (f64Exp b) 2 = 100) := by
  obtain ⟨ip, fp, he, h1, h2, h3, h4, h5, h6⟩ := fmtFixed_read (f64Neg b) (f64Mant b) (f64Exp b) 2 (by decide)
  have hq : digitsVal (ip ++ fp) = fixedQ (f64Mant b) (f64Exp b) 2 := by
    unfold decTokUnits at h6
    rw [h5] at h6
    rw [digitsVal_append]; exact h6
  rw [fmtF2_fixed b h]
  have hr := fmtFixed_realTok (f64Neg b) (f64Mant b) (f64Exp b) 2 (by decide)
  have hcore : strtodIsMinusOne (fmtFixed (f64Neg b) (f64Mant b) (f64Exp b) 2) = false ↔
      ¬ (f64Neg b = true ∧ fixedQ (f64Mant b) (f64Exp b) 2 = 100) := by
    rw [he]
    cases hn : f64Neg b with
    | false =>
      simp only [Bool.false_eq_true, if_false, List.nil_append, false_and, not_false_eq_true, iff_true]
      obtain ⟨d, ip', rfl⟩ := List.exists_cons_of_ne_nil h1
      have hd : isDigit d = true := h2 d (by simp)
      unfold strtodIsMinusOne
      have hdw : (d :: ip' ++ 46 :: fp).dropWhile isSpace = d :: ip' ++ 46 :: fp := by simp [(digit_class hd).2]
      rw [hdw]
      split
      · rename_i p heq
        simp only [List.cons_append, List.cons.injEq] at heq
        exact absurd heq.1 (digit_ne hd 45)
      · rfl
    | true =>
      simp only [if_true, List.cons_append, List.nil_append, true_and]
      rw [strtodIsMinusOne_neg ip fp h1 h2 h3]
      unfold decMinusOne
      rw [hq, h4]
      constructor
      · intro hf he100
        rw [he100, roundsToOne_100] at hf; cases hf
      · intro hne
        cases hx : roundsToOne (fixedQ (f64Mant b) (f64Exp b) 2) 10 (0 - Int.ofNat 2)
            (Nat.toDigits 10 (fixedQ (f64Mant b) (f64Exp b) 2)).length with
        | false => rfl
        | true => exact absurd (roundsToOne_hundredths _ _ hx) hne
  unfold wgtTokOk
  constructor
  · intro hw; exact hcore.mp hw.2.2.2.2
  · intro hne; exact ⟨hr.name, hr.real, hr.nolf, hr.nocr, hcore.mpr hne⟩

/-- a finite weight whose sign bit is clear (`+0.0` included) prints as a token the round trip can carry -/
theorem wgtTokOk_of_nonneg (b : UInt64) (h : finiteF64 b) (hs : b.toNat / 2 ^ 63 ≠ 1) : wgtTokOk (fmtF2 b) :=
  (wgtTokOk_iff b h).mpr (fun hn => hs (by simpa [f64Neg] using hn.1))

/-- the default weight 1.0 prints as `1.00` -/
example : fmtF2 Wgt.dflt.toBits = str "1.00" ∧ wgtTokOk (fmtF2 Wgt.dflt.toBits) := by
  unfold wgtTokOk nameOk; decide +kernel
/-- … and the hypothesis is needed: -1.0 prints as `-1.00`, which the reader takes for "no weight" -/
example : fmtF2 Wgt.unset.toBits = str "-1.00" ∧ strtodIsMinusOne (fmtF2 Wgt.unset.toBits) = true := by decide +kernel

/-- -1.0 itself, and -0.996 (prints as `-1.00`), are the excluded weights; -1.01 and -0.99 are carried -/
example : ¬ wgtTokOk (fmtF2 0xbff0000000000000) := by
  rw [wgtTokOk_iff _ (by unfold finiteF64; decide)]; decide +kernel
example : wgtTokOk (fmtF2 0xbff028f5c28f5c29) ∧ fmtF2 0xbff028f5c28f5c29 = str "-1.01" := by
  refine ⟨?_, by decide +kernel⟩
  rw [wgtTokOk_iff _ (by unfold finiteF64; decide)]; decide +kernel

/-- **token round trip for cut-offs**: the value text of a two-threshold `#=GF GA|NC|TC` line, `<tok1> <tok2>`, comes apart under
    `esl_memtok` into exactly the two tokens `printf("%.1f")` produced, and `esl_mem_IsReal` accepts both -/
theorem cutoff_value_tokens (a b : UInt32) (ha : finiteF32 a) (hb : finiteF32 b) :
    memtok (fmtF1 a ++ [32] ++ fmtF1 b) blankTab = some (fmtF1 a, fmtF1 b) ∧ memtok (fmtF1 b) blankTab = some (fmtF1 b, []) ∧
      memIsReal (fmtF1 a) = true ∧ memIsReal (fmtF1 b) = true := by
  have ra := fmtF1_realTok a ha
  have rb := fmtF1_realTok b hb
  exact ⟨memtok_tok (fmtF1 a) [32] (fmtF1 b) ra.name tok32 (nameOk_head _ rb.name), memtok_name _ rb.name, ra.real, rb.real⟩

end EaselModel.Msafile
