import EaselModel.Msafile.Basic
/-! `str` on a string literal, for the test vectors. Evaluating `"…".toUTF8.toList` is a trap: it runs an array filled by `push`
and a list read back by well-founded recursion, which the kernel evaluates slowly, and worse for long
literals. Kernel and unifier both see a literal as `String.ofList [c₁, …]`, so `rw [str_ofList]` (one literal per rewrite; `simp`
does not match a literal) reads it off as the concatenation of its characters' encodings before anything is evaluated. -/
namespace EaselModel.Msafile

theorem toList_loop_eq (bs : ByteArray) (i : Nat) (r : List UInt8) :
    ByteArray.toList.loop bs i r = r.reverse ++ bs.data.toList.drop i := by
  induction i, r using ByteArray.toList.loop.induct bs with
  | case1 i r h ih =>
    have h' : i < bs.data.toList.length := h
    have hg : bs.get! i = bs.data.toList[i] := by
      show bs.data[i]! = _
      rw [getElem!_pos bs.data i h, Array.getElem_toList]
    rw [ByteArray.toList.loop.eq_1, if_pos h, ih, List.drop_eq_getElem_cons h', hg, List.reverse_cons, List.append_assoc,
      List.singleton_append]
  | case2 i r h =>
    rw [ByteArray.toList.loop.eq_1, if_neg h, List.drop_eq_nil_of_le (Nat.le_of_not_lt h), List.append_nil]

theorem str_ofList (l : List Char) : str (String.ofList l) = l.flatMap String.utf8EncodeChar := by
  rw [str, String.toUTF8, String.toByteArray_ofList, List.utf8Encode, ByteArray.toList, toList_loop_eq, List.data_toByteArray]
  rfl

end EaselModel.Msafile
