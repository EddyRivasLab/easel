import EaselModel.Msafile.SelexBlocks
import EaselModel.Msafile.SelexWritable
/-! SELEX with annotation lines: concrete, checkable conditions under which an alignment is `SelexAnnWritable` (text mode,
    and digital mode with the generated alphabets), and `write (read (write m)) = write m`. -/
namespace EaselModel.Msafile


/-- an annotation string SELEX carries unchanged: one character per column, none of them white space or NUL -/
def annStrOk (alen : Nat) (s : Bytes) : Bool := s.length == alen && s.all fun t => !isSpace t && t != 0

def optAnnOk (alen : Nat) (o : Option Bytes) : Bool :=
  match o with
  | none => true
  | some s => annStrOk alen s

/-- the annotation of `m` that SELEX writes lines for (`#=CS` = `ssCons`, `#=RF`, `#=MM`, per-sequence `#=SS`, `#=SA`), each
    independently present or absent, is carried unchanged -/
structure SelexAnn (m : Msa) : Prop where
  cs_ok : optAnnOk m.alen m.ssCons = true
  rf_ok : optAnnOk m.alen m.rf = true
  mm_ok : optAnnOk m.alen m.mm = true
  ss_ok : ∀ i, i < m.nseq → optAnnOk m.alen (optRow m.ss i) = true
  sa_ok : ∀ i, i < m.nseq → optAnnOk m.alen (optRow m.sa i) = true

theorem annOk_of (alen : Nat) (o : Option Bytes) (h : optAnnOk alen o = true) : ∀ x, o = some x → AnnOk alen x := by
  intro x hx
  subst hx
  simp only [optAnnOk, annStrOk, Bool.and_eq_true, beq_iff_eq, List.all_eq_true, Bool.not_eq_true', bne_iff_ne, ne_eq] at h
  exact ⟨h.1, fun t ht => h.2 t ht⟩

theorem stripAnn_plain (m : Msa) : SelexPlain (stripAnn m) :=
  { cs_none := rfl, rf_none := rfl, mm_none := rfl, ss_none := fun _ _ => rfl, sa_none := fun _ _ => rfl }

/-- a text-mode alignment, annotation included, that SELEX represents faithfully -/
structure SelexAnnTextWritable (m : Msa) : Prop where
  dig : m.digital = false
  ann : SelexAnn m
  n1 : 1 ≤ m.nseq
  alen1 : 1 ≤ m.alen
  name_ok : ∀ i, i < m.nseq → selexNameOk (m.names.getD i [])
  row_ok : ∀ i, i < m.nseq → (m.aseq.getD i []).length = m.alen ∧ ∀ t ∈ m.aseq.getD i [], isGraph t = true

theorem SelexAnnTextWritable.strip {m : Msa} (h : SelexAnnTextWritable m) : SelexTextWritable (stripAnn m) :=
  { dig := h.dig, plain := stripAnn_plain m, n1 := h.n1, alen1 := h.alen1, name_ok := h.name_ok, row_ok := h.row_ok }

theorem selexAnnTextWritable_writable (m : Msa) (h : SelexAnnTextWritable m) :
    SelexAnnWritable none (selexCfg none) id (fun i => m.aseq.getD i []) m :=
  { base := selexTextWritable_writable (stripAnn m) h.strip
    cs_ok := annOk_of _ _ h.ann.cs_ok, rf_ok := annOk_of _ _ h.ann.rf_ok, mm_ok := annOk_of _ _ h.ann.mm_ok
    ss_ok := fun i hi => annOk_of _ _ (h.ann.ss_ok i hi), sa_ok := fun i hi => annOk_of _ _ (h.ann.sa_ok i hi) }

/-- a digital alignment (alphabet `a`), annotation included, that SELEX represents faithfully -/
structure SelexAnnDigitalWritable (a : Abc) (m : Msa) : Prop where
  dig : m.digital = true
  ann : SelexAnn m
  n1 : 1 ≤ m.nseq
  alen1 : 1 ≤ m.alen
  name_ok : ∀ i, i < m.nseq → selexNameOk (m.names.getD i [])
  row_ok : ∀ i, i < m.nseq → dsqRowOk a.kp m.alen (m.ax.getD i []) = true

theorem SelexAnnDigitalWritable.strip {a : Abc} {m : Msa} (h : SelexAnnDigitalWritable a m) : SelexDigitalWritable a (stripAnn m) :=
  { dig := h.dig, plain := stripAnn_plain m, n1 := h.n1, alen1 := h.alen1, name_ok := h.name_ok, row_ok := h.row_ok }

theorem selexAnnDigitalWritable_writable (a : Abc) (ha : selexDigSymOk a = true) (m : Msa) (h : SelexAnnDigitalWritable a m) :
    SelexAnnWritable (some a) (selexCfg (some a)) (selexEnc a) (selexDigTxt a m) m :=
  { base := selexDigitalWritable_writable a ha (stripAnn m) h.strip
    cs_ok := annOk_of _ _ h.ann.cs_ok, rf_ok := annOk_of _ _ h.ann.rf_ok, mm_ok := annOk_of _ _ h.ann.mm_ok
    ss_ok := fun i hi => annOk_of _ _ (h.ann.ss_ok i hi), sa_ok := fun i hi => annOk_of _ _ (h.ann.sa_ok i hi) }

theorem selexRead_write_ann_text (m : Msa) (h : SelexAnnTextWritable m) :
    selexRead (selexCfg none) (splitLines (selexWrite none m)) = (.ok (selexProject (selexCfg none) m), []) :=
  selexRead_write_ann none (selexCfg none) id _ m (selexAnnTextWritable_writable m h) (fun i hi => (h.name_ok i hi).2)

theorem selexRead_write_ann_digital (a : Abc) (ha : selexDigSymOk a = true) (m : Msa) (h : SelexAnnDigitalWritable a m) :
    selexRead (selexCfg (some a)) (splitLines (selexWrite (some a) m)) = (.ok (selexProject (selexCfg (some a)) m), []) :=
  selexRead_write_ann (some a) (selexCfg (some a)) (selexEnc a) _ m (selexAnnDigitalWritable_writable a ha m h)
    (fun i hi => (h.name_ok i hi).2)

theorem selexWrite_project_ann_text (m : Msa) (h : SelexAnnTextWritable m) :
    selexWrite none (selexProject (selexCfg none) m) = selexWrite none m := selexWrite_project_mode none m h.dig

theorem selexWrite_project_ann_digital (a : Abc) (m : Msa) (h : SelexAnnDigitalWritable a m) :
    selexWrite (some a) (selexProject (selexCfg (some a)) m) = selexWrite (some a) m := selexWrite_project_mode (some a) m h.dig

end EaselModel.Msafile
