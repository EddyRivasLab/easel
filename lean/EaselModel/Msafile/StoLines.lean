import EaselModel.Msafile.PhylipRoundTrip
import EaselModel.Msafile.Stockholm
import EaselModel.Msafile.WriteStockholm
import EaselModel.Msafile.WriteLemmas
import EaselModel.Msafile.StoGrInv
import EaselModel.Msafile.Fields
/-! Stockholm / Pfam, what is written: the alignments the round trip covers (`StoAnn`, `StoWritable`, with the conditions under
    which each kind of annotation survives), what comes back (`stoProject`), the writer's output in the form the round trip walks
    (`stoBody_ann`), and every written line as fields (`fields`: tokens, runs of blanks, a last part), from which both the reader's
    `esl_memtok` calls (`memtok_fields`) and that the line is a line (`lineOk_fields`) are read off. -/
namespace EaselModel.Msafile

/-- a sequence name the Stockholm reader takes as a sequence name: not empty, no blank/tab/NUL, no LF, does not begin
    with `#` nor with `//` -/
def stoNameOk (nm : Bytes) : Prop :=
  nameOk nm ∧ (10 : UInt8) ∉ nm ∧ nm.head? ≠ some 35 ∧ memstrpfx nm bSlash = false

/-- no annotation at all: every optional field of the alignment is absent (the plain case of `StoAnn`: `StoPlain.ann`) -/
structure StoPlain (m : Msa) : Prop where
  hasw : m.hasw = false
  name : m.name = none
  desc : m.desc = none
  acc : m.acc = none
  au : m.au = none
  ssCons : m.ssCons = none
  saCons : m.saCons = none
  ppCons : m.ppCons = none
  rf : m.rf = none
  mm : m.mm = none
  sqacc : m.sqacc = none
  sqdesc : m.sqdesc = none
  ss : m.ss = none
  sa : m.sa = none
  pp : m.pp = none
  cutoff : m.cutoff = []
  comments : m.comments = []
  gf : m.gf = []
  gs : m.gs = []
  gc : m.gc = []
  gr : m.gr = []

/-- the five parsed `#=GC` fields, in the order `stockholm_write` prints them (= the reader's slots `ss_cons sa_cons pp_cons rf mm`) -/
def consF (m : Msa) : List (Option Bytes) := [m.ssCons, m.saCons, m.ppCons, m.rf, m.mm]

/-- their tags, and the line types `gcLineType` gives them, in the same order -/
def consTag : List Bytes := [bSScons, bSAcons, bPPcons, bRF, bMM]

def consLT : List Nat := [ltGCSSCONS, ltGCSACONS, ltGCPPCONS, ltGCRF, ltGCMM]

/-- a per-column annotation string that survives: one character per column, none of them white space or NUL
    (the reader splits off the text with `esl_memtok` and trims trailing blanks/tabs; a block boundary may fall anywhere) -/
def colTextOk (alen : Nat) (s : Bytes) : Prop := s.length = alen ∧ ∀ c ∈ s, isSpace c = false ∧ c ≠ 0

/-- a `#=GF` one-token value (ID, AC): not empty, no blank/tab/NUL, no LF, does not end in CR -/
def gfTokOk (v : Bytes) : Prop := nameOk v ∧ (10 : UInt8) ∉ v ∧ v.getLast? ≠ some 13

/-- a `#=GF` free-text value (DE, AU, unparsed tags): does not begin with blank/tab, no NUL, no LF, does not end in CR -/
def gfTextOk (v : Bytes) : Prop :=
  (∀ c, v.head? = some c → inDelim blankTab c = false) ∧ (0 : UInt8) ∉ v ∧ (10 : UInt8) ∉ v ∧ v.getLast? ≠ some 13

/-- a comment that survives: does not begin with white space (the reader skips it), no NUL, no LF, no CR at the end, and
    `#` + comment is not taken for a `#=GF/#=GS/#=GC/#=GR` line -/
def comOk (c : Bytes) : Prop :=
  (∀ x, c.head? = some x → isSpace x = false) ∧ (0 : UInt8) ∉ c ∧ (10 : UInt8) ∉ c ∧ c.getLast? ≠ some 13 ∧
  memstrpfx (35 :: c) bGF = false ∧ memstrpfx (35 :: c) bGS = false ∧ memstrpfx (35 :: c) bGC = false ∧
  memstrpfx (35 :: c) bGR = false

def gfTagOk (t : Bytes) : Prop :=
  nameOk t ∧ (10 : UInt8) ∉ t ∧ t ≠ bID ∧ t ≠ bAC ∧ t ≠ bDE ∧ t ≠ bAU ∧ t ≠ bGA ∧ t ≠ bNC ∧ t ≠ bTC

def gcTagOk (t : Bytes) : Prop :=
  nameOk t ∧ (10 : UInt8) ∉ t ∧ t ≠ bSScons ∧ t ≠ bSAcons ∧ t ≠ bPPcons ∧ t ≠ bRF ∧ t ≠ bMM

def grTagOk (t : Bytes) : Prop := nameOk t ∧ (10 : UInt8) ∉ t ∧ t ≠ bSS ∧ t ≠ bSA ∧ t ≠ bPP

/-- the reader numbers the unparsed `#=GR` tags in the order it meets them: that is the order of `m.gr` when, wherever a tag
    annotates sequence `i`, every tag in front of it in `m.gr` annotates some sequence `≤ i` (`grVal m (3 + t)`: kinds 0 1 2 are
    `SS SA PP`, unparsed tag `t` is kind `3 + t`) -/
def grOrderOk (m : Msa) : Prop :=
  ∀ t, t < m.gr.length → ∀ t', t' < t → ∀ i, i < m.nseq → (grVal m (3 + t) i).isSome = true →
    ∃ i', i' < i + 1 ∧ (grVal m (3 + t') i').isSome = true

/-- the token `printf("%.2f")` prints for the weight of sequence `i` -/
def wtTok (m : Msa) (i : Nat) : Bytes := fmtF2 ((m.wgt.getD i Wgt.unset).toBits)

/-- the weights as an optional array of printed tokens: present iff `eslMSA_HASWGTS`, then one for every sequence -/
def wtRowsM (m : Msa) : OptRows := if m.hasw then some ((List.range m.nseq).map (fun i => some (wtTok m i))) else none

/-- the printed weight is one token that `esl_mem_IsReal` accepts, survives on a line, and is not read back by `strtod` as
    -1.0, the reader's "weight not set" marker -/
def wgtTokOk (t : Bytes) : Prop :=
  nameOk t ∧ memIsReal t = true ∧ (10 : UInt8) ∉ t ∧ t.getLast? ≠ some 13 ∧ strtodIsMinusOne t = false

/-- the `#=GS` annotation seen as `#=GR`-like arrays of kinds 0 (`WT`: the weights), 1 (`AC`: `sqacc`), 2 (`DE`: `sqdesc`),
    `3 + t` (unparsed tag `t`) -/
def gsMsa (m : Msa) : Msa := { names := m.names, ss := wtRowsM m, sa := m.sqacc, pp := m.sqdesc, gr := m.gs }

def gsTagOk (t : Bytes) : Prop := nameOk t ∧ (10 : UInt8) ∉ t ∧ t ≠ bWT ∧ t ≠ bAC ∧ t ≠ bDE

/-- `#=GS` lines stand in front of the first block, kind by kind, and the reader numbers the sequences in the order it meets
    their names: that is the order of the rows when the first kind that is written at all is written for EVERY sequence
    (known finding C03:stockholm:first-mention-order: without this the alignment comes back in another order) -/
def gsOrderOk (m : Msa) : Prop :=
  ∀ q, q < 3 + m.gs.length → (∀ q', q' < q → ∀ i', i' < m.nseq → grVal (gsMsa m) q' i' = none) →
    (∃ i, i < m.nseq ∧ (grVal (gsMsa m) q i).isSome = true) → ∀ i, i < m.nseq → (grVal (gsMsa m) q i).isSome = true

/-- `msa->alloc_ncomment` after `n` calls of `esl_msa_AddComment` -/
def comAllocN : Nat → Nat
  | 0 => 0
  | n + 1 =>
    let a0 := if comAllocN n == 0 then 16 else comAllocN n
    if n == a0 then a0 * 2 else a0

/-- `msa->alloc_ngf` after `n` calls of `esl_msa_AddGF` -/
def gfAllocN : Nat → Nat
  | 0 => 0
  | n + 1 => if n == gfAllocN n then (if gfAllocN n == 0 then 16 else gfAllocN n * 2) else gfAllocN n

/-- a binary64 pattern that is neither an infinity nor a NaN -/
def finiteF64 (b : UInt64) : Prop := (b.toNat / 2 ^ 52) % 2048 ≠ 2047

/-- a binary32 pattern that is neither an infinity nor a NaN -/
def finiteF32 (b : UInt32) : Prop := (b.toNat / 2 ^ 23) % 256 ≠ 255

def cutPair (cs : List Bool) (i1 i2 : Nat) (c1 c2 : Option UInt32) : List Bool :=
  match c1, c2 with
  | some _, some _ => (cs.set i1 true).set i2 true
  | some _, none => cs.set i1 true
  | none, _ => cs

/-- `msa->cutset[]` after the reader has seen the `#=GF GA/NC/TC` lines the writer prints (a second threshold is printed
    only together with the first) -/
def cutsetOf (m : Msa) : List Bool :=
  let cut := fun (k : Nat) => m.cutoff.getD k none
  cutPair (cutPair (cutPair (List.replicate 6 false) 2 3 (cut 2) (cut 3)) 4 5 (cut 4) (cut 5)) 0 1 (cut 0) (cut 1)

theorem cutsetOf_eq (m : Msa) :
    cutsetOf m = [(m.cutoff.getD 0 none).isSome, (m.cutoff.getD 0 none).isSome && (m.cutoff.getD 1 none).isSome,
                  (m.cutoff.getD 2 none).isSome, (m.cutoff.getD 2 none).isSome && (m.cutoff.getD 3 none).isSome,
                  (m.cutoff.getD 4 none).isSome, (m.cutoff.getD 4 none).isSome && (m.cutoff.getD 5 none).isSome] := by
  show cutPair (cutPair (cutPair (List.replicate 6 false) 2 3 (m.cutoff.getD 2 none) (m.cutoff.getD 3 none)) 4 5
    (m.cutoff.getD 4 none) (m.cutoff.getD 5 none)) 0 1 (m.cutoff.getD 0 none) (m.cutoff.getD 1 none) = _
  generalize m.cutoff.getD 0 none = o0
  generalize m.cutoff.getD 1 none = o1
  generalize m.cutoff.getD 2 none = o2
  generalize m.cutoff.getD 3 none = o3
  generalize m.cutoff.getD 4 none = o4
  generalize m.cutoff.getD 5 none = o5
  cases o0 <;> cases o1 <;> cases o2 <;> cases o3 <;> cases o4 <;> cases o5 <;> rfl

/-- the annotation covered here: the five `#=GC` consensus lines and the whole header section (comment lines, `#=GF ID, AC,
    DE, AU`, the cut-offs `GA NC TC` with finite values, unparsed `#=GF` tags), unparsed `#=GC` tags (pairwise distinct
    tokens other than the five parsed tags, one non-blank character per column); per sequence: `#=GR SS SA PP` and unparsed
    `#=GR` tags (`per_ok … gr_col`), `#=GS WT AC DE` and unparsed `#=GS` tags (`gs_tag_ok … gs_val`).
    An optional array that is present has one entry per sequence and at least one of them set (an all-absent array is not
    written, hence not read back) -/
structure StoAnn (m : Msa) : Prop where
  gs_tag_ok : ∀ t ∈ m.gs, gsTagOk t.1 ∧ t.2.length = m.nseq
  gs_nodup : (m.gs.map (·.1)).Nodup
  gs_ne : ∀ t, t < m.gs.length → ∃ i, i < m.nseq ∧ (grVal (gsMsa m) (3 + t) i).isSome = true
  gs_per_ok : ∀ q, q < 3 → ∀ l, (perF (gsMsa m)).getD q none = some l →
    l.length = m.nseq ∧ ∃ i, i < m.nseq ∧ (l.getD i none).isSome = true
  gs_order : gsOrderOk m
  gs_val : ∀ q i s, grVal (gsMsa m) q i = some s →
    (q = 0 → wgtTokOk s) ∧ (q = 1 → gfTokOk s) ∧ (2 ≤ q → gfTextOk s) ∧ (3 ≤ q → s ≠ [])
  per_ok : ∀ q, q < 3 → ∀ l, (perF m).getD q none = some l → l.length = m.nseq ∧ ∃ i, i < m.nseq ∧ (l.getD i none).isSome = true
  gr_tag_ok : ∀ t ∈ m.gr, grTagOk t.1 ∧ t.2.length = m.nseq
  gr_nodup : (m.gr.map (·.1)).Nodup
  gr_ne : ∀ t, t < m.gr.length → ∃ i, i < m.nseq ∧ (grVal m (3 + t) i).isSome = true
  gr_order : grOrderOk m
  gr_col : ∀ q i s, grVal m q i = some s → colTextOk m.alen s
  gc_ok : ∀ t ∈ m.gc, gcTagOk t.1 ∧ colTextOk m.alen t.2
  gc_nodup : (m.gc.map (·.1)).Nodup
  cons_ok : ∀ k s, (consF m).getD k none = some s → colTextOk m.alen s
  name_ok : ∀ v, m.name = some v → gfTokOk v
  acc_ok : ∀ v, m.acc = some v → gfTokOk v
  desc_ok : ∀ v, m.desc = some v → gfTextOk v
  au_ok : ∀ v, m.au = some v → gfTextOk v
  cut_ok : ∀ k v, m.cutoff.getD k none = some v → finiteF32 v
  com_ok : ∀ c ∈ m.comments, comOk c
  gf_ok : ∀ t ∈ m.gf, gfTagOk t.1 ∧ gfTextOk t.2

theorem grVal_plain {m : Msa} (h1 : m.ss = none) (h2 : m.sa = none) (h3 : m.pp = none) (h4 : m.gr = []) (q i : Nat) :
    grVal m q i = none := by
  unfold grVal perF
  rw [h1, h2, h3, h4]
  split
  · rename_i hq
    rcases q with _ | _ | _ | _
    · rfl
    · rfl
    · rfl
    · omega
  · rfl

theorem StoPlain.ann {m : Msa} (h : StoPlain m) : StoAnn m :=
  { gs_tag_ok := fun t ht => by rw [h.gs] at ht; cases ht
    gs_nodup := by rw [h.gs]; exact List.nodup_nil
    gs_ne := fun t ht => by rw [h.gs] at ht; simp at ht
    gs_per_ok := fun q hq l hl => by
      unfold perF gsMsa wtRowsM at hl; simp only [h.sqacc, h.sqdesc, h.hasw, Bool.false_eq_true, if_false] at hl
      rcases q with _ | _ | _ | _
      · cases hl
      · cases hl
      · cases hl
      · omega
    gs_order := fun q _ _ hex => by
      obtain ⟨i, _, hv⟩ := hex
      rw [grVal_plain (m := gsMsa m) (by show wtRowsM m = none; unfold wtRowsM; rw [h.hasw]; rfl) h.sqacc h.sqdesc h.gs] at hv; cases hv
    gs_val := fun q i s hs => by rw [grVal_plain (m := gsMsa m) (by show wtRowsM m = none; unfold wtRowsM; rw [h.hasw]; rfl) h.sqacc h.sqdesc h.gs] at hs; cases hs
    per_ok := fun q hq l hl => by
      unfold perF at hl; rw [h.ss, h.sa, h.pp] at hl
      rcases q with _ | _ | _ | _
      · cases hl
      · cases hl
      · cases hl
      · omega
    gr_tag_ok := fun t ht => by rw [h.gr] at ht; cases ht
    gr_nodup := by rw [h.gr]; exact List.nodup_nil
    gr_ne := fun t ht => by rw [h.gr] at ht; simp at ht
    gr_order := fun t ht => by rw [h.gr] at ht; simp at ht
    gr_col := fun q i s hs => by rw [grVal_plain h.ss h.sa h.pp h.gr] at hs; cases hs
    gc_ok := fun t ht => by rw [h.gc] at ht; cases ht
    gc_nodup := by rw [h.gc]; exact List.nodup_nil
    cons_ok := fun k s hs => by
      have : (consF m).getD k none = none := by
        unfold consF; rw [h.ssCons, h.saCons, h.ppCons, h.rf, h.mm]
        rcases k with _ | _ | _ | _ | _ | _ <;> rfl
      rw [this] at hs; cases hs
    name_ok := fun v hv => by rw [h.name] at hv; cases hv
    acc_ok := fun v hv => by rw [h.acc] at hv; cases hv
    desc_ok := fun v hv => by rw [h.desc] at hv; cases hv
    au_ok := fun v hv => by rw [h.au] at hv; cases hv
    cut_ok := fun k v hv => by rw [h.cutoff] at hv; simp at hv
    com_ok := fun c hc => by rw [h.comments] at hc; cases hc
    gf_ok := fun t ht => by rw [h.gf] at ht; cases ht }

/-- an alignment (names, rows, and the annotation `StoAnn` admits) that Stockholm/Pfam carry and `stockholm_write` +
    `esl_msafile_stockholm_Read` (configuration `cfg`) preserve.  `txt i` is the text the writer prints for row `i`, `enc`
    sends a written symbol to the stored symbol.  The walk follows the stored rows with `phyRowAt cfg enc txt p i` (the row after `p`
    columns): PHYLIP's row table (`PhylipRoundTrip.lean`), which the Clustal and PSI-BLAST walks use as well. -/
structure StoWritable (abc : Option Abc) (cfg : Cfg) (enc : UInt8 → UInt8) (txt : Nat → Bytes) (m : Msa) : Prop where
  ann : StoAnn m
  n1 : 1 ≤ m.nseq
  alen1 : 1 ≤ m.alen
  nodup : m.names.Nodup
  name_ok : ∀ i, i < m.nseq → stoNameOk (m.names.getD i [])
  txt_len : ∀ i, i < m.nseq → (txt i).length = m.alen
  chunk_eq : ∀ i, i < m.nseq → ∀ pos n, seqChunk abc m i pos n = ((txt i).drop pos).take n
  txt_sym : ∀ i, i < m.nseq → ∀ t ∈ txt i, mapByte cfg.inmap t = (.ok, some (enc t)) ∧ isSpace t = false ∧ t ≠ 0
  row_enc : ∀ i, i < m.nseq → m.stored i = mkRow cfg.digital ((txt i).map enc)

/-- the width the writer pads a sequence name to in a sequence line (`margin - uniqwidth - 1`) -/
def stoPadW (m : Msa) : Int := ((stoLayout m).margin : Int) - (stoLayout m).uniqwidth - 1

/-- one sequence line: `"%-*s %s\n"` -/
def stoSqLine (abc : Option Abc) (m : Msa) (pos w i : Nat) : Bytes :=
  padRight (stoPadW m) (m.names.getD i []) ++ [32] ++ seqChunk abc m i pos w

def stoW (m : Msa) (cpl pos : Nat) : Nat := if m.alen - pos > cpl then cpl else m.alen - pos

def gcSlotLines (m : Msa) (pos w g : Nat) : List Bytes :=
  optLine ((consF m).getD g none) (fun s => gcLine (stoLayout m) (consTag.getD g []) s pos w)

def gcOtherLines (m : Msa) (pos w : Nat) : List Bytes := m.gc.map (fun t => gcLine (stoLayout m) t.1 t.2 pos w)

def grTagOf (m : Msa) (q : Nat) : Bytes := if q < 3 then [bSS, bSA, bPP].getD q [] else (m.gr.getD (q - 3) ([], [])).1

def grSlotLines (m : Msa) (pos w i q : Nat) : List Bytes :=
  optLine (grVal m q i) (fun s => grLine (stoLayout m) m i (grTagOf m q) s pos w)

def grOtherLines (m : Msa) (pos w i : Nat) (l : List (Bytes × List (Option Bytes))) : List Bytes :=
  l.flatMap (fun t => optLine (t.2.getD i none) (fun s => grLine (stoLayout m) m i t.1 s pos w))

def stoSeqL (abc : Option Abc) (m : Msa) (pos w i : Nat) : List Bytes :=
  [stoSqLine abc m pos w i] ++ (grSlotLines m pos w i 0 ++ (grSlotLines m pos w i 1 ++ (grSlotLines m pos w i 2
    ++ grOtherLines m pos w i m.gr)))

def stoAnnBlock (abc : Option Abc) (m : Msa) (cpl pos : Nat) : List Bytes :=
  (if pos > 0 then [[]] else []) ++ ((List.range m.nseq).flatMap (stoSeqL abc m pos (stoW m cpl pos))
    ++ (gcSlotLines m pos (stoW m cpl pos) 0 ++ (gcSlotLines m pos (stoW m cpl pos) 1 ++ (gcSlotLines m pos (stoW m cpl pos) 2
    ++ (gcSlotLines m pos (stoW m cpl pos) 3 ++ (gcSlotLines m pos (stoW m cpl pos) 4 ++ gcOtherLines m pos (stoW m cpl pos)))))))

/-- the tag of `#=GS` kind `q` (0 = `WT`, 1 = `AC`, 2 = `DE`, `3 + t` = unparsed tag `t`) -/
def gsTagOf (m : Msa) (q : Nat) : Bytes :=
  if q = 0 then bWT else if q = 1 then bAC else if q < 3 then bDE else (m.gs.getD (q - 3) ([], [])).1

def gsLine (m : Msa) (q i : Nat) (v : Bytes) : Bytes :=
  sGS ++ padRight (stoLayout m).maxname (m.names.getD i []) ++ ([32] ++ gsTagOf m q ++ [32]) ++ v

def stoGsSec (m : Msa) (q : Nat) : List Bytes := (List.range m.nseq).flatMap (fun i => optLine (grVal (gsMsa m) q i) (gsLine m q i))

def stoGsL (m : Msa) : List Bytes :=
  (if m.hasw then stoGsSec m 0 ++ [[]] else []) ++ ((if m.sqacc.isSome then stoGsSec m 1 ++ [[]] else [])
    ++ ((if m.sqdesc.isSome then stoGsSec m 2 ++ [[]] else [])
    ++ (List.range m.gs.length).flatMap (fun t => stoGsSec m (3 + t) ++ [[]])))

theorem strtokLF_acc (v acc : Bytes) (h : (10 : UInt8) ∉ v) :
    strtokLF v acc = if (acc.isEmpty && v.isEmpty) then [] else [acc.reverse ++ v] := by
  induction v generalizing acc with
  | nil => unfold strtokLF; cases acc <;> simp
  | cons c r ih =>
    have hc : (c == 10) = false := by
      simp only [beq_eq_false_iff_ne, ne_eq]; intro e; exact h (by simp [e])
    unfold strtokLF
    simp only [hc, Bool.false_eq_true, if_false]
    rw [ih (c :: acc) (fun hm => h (List.mem_cons_of_mem _ hm))]
    simp

theorem strtokLF_single (v : Bytes) (h : (10 : UInt8) ∉ v) (hne : v ≠ []) : strtokLF v [] = [v] := by
  rw [strtokLF_acc v [] h]
  cases v with
  | nil => exact absurd rfl hne
  | cons _ _ => simp

theorem sGS_eq : sGS = bGS ++ [32] := by decide +kernel

theorem gsTagOf_other (m : Msa) (t : Nat) : gsTagOf m (3 + t) = (m.gs.getD t ([], [])).1 := by
  unfold gsTagOf; rw [if_neg (by omega), if_neg (by omega), if_neg (by omega), Nat.add_sub_cancel_left]

theorem gsVal_acc' (m : Msa) (i : Nat) : grVal (gsMsa m) 1 i = optRow m.sqacc i := rfl

theorem gsVal_desc' (m : Msa) (i : Nat) : grVal (gsMsa m) 2 i = optRow m.sqdesc i := rfl

theorem gsVal_wt' (m : Msa) (i : Nat) : grVal (gsMsa m) 0 i = optRow (wtRowsM m) i := rfl

theorem gsVal_wt (m : Msa) (hw : m.hasw = true) (i : Nat) (hi : i < m.nseq) : grVal (gsMsa m) 0 i = some (wtTok m i) := by
  rw [gsVal_wt']; unfold wtRowsM optRow
  simp [hw, List.getD_eq_getElem?_getD, hi]

theorem gsVal_wt_none (m : Msa) (hw : m.hasw = false) (i : Nat) : grVal (gsMsa m) 0 i = none := by
  rw [gsVal_wt']; unfold wtRowsM; rw [hw]; rfl

/-- with weights, `WT` is the first `#=GS` kind written and it is written for every sequence: the first-mention-order
    hypothesis holds whatever the (sparse) accessions, descriptions and unparsed tags are -/
theorem gsOrderOk_of_hasw (m : Msa) (hw : m.hasw = true) : gsOrderOk m := by
  intro q hq hprev hex i hi
  obtain ⟨i0, hi0, _⟩ := hex
  rcases q with _ | q
  · rw [gsVal_wt m hw i hi]; rfl
  · have := hprev 0 (by omega) i0 hi0
    rw [gsVal_wt m hw i0 hi0] at this; cases this

theorem mem_optLine {o : Option Bytes} {f : Bytes → Bytes} {l : Bytes} : l ∈ optLine o f ↔ ∃ v, o = some v ∧ l = f v := by
  cases o <;> simp [optLine]

def stoAnnHead (m : Msa) : List Bytes :=
  [bSto10] ++ (m.comments.map (fun c => 35 :: c) ++ ((if m.comments.isEmpty then [] else [[]])
    ++ (optLine m.name (gfLine (stoLayout m) bID) ++ (optLine m.acc (gfLine (stoLayout m) bAC)
    ++ (optLine m.desc (gfLine (stoLayout m) bDE) ++ (optLine m.au (gfLine (stoLayout m) bAU)
    ++ (cutLines (stoLayout m) bGA (m.cutoff.getD 2 none) (m.cutoff.getD 3 none)
    ++ (cutLines (stoLayout m) bNC (m.cutoff.getD 4 none) (m.cutoff.getD 5 none)
    ++ (cutLines (stoLayout m) bTC (m.cutoff.getD 0 none) (m.cutoff.getD 1 none)
    ++ (m.gf.map (fun t => gfLine (stoLayout m) t.1 t.2) ++ [[]]))))))))))

theorem stoBody_ann (pfam : Bool) (abc : Option Abc) (m : Msa) (hp : StoAnn m) (hn : m.names.Nodup) :
    stockholmBodyLines pfam abc m
      = stoAnnHead m ++ stoGsL m ++ (blockStarts m.alen (stoCpl pfam m)).flatMap (stoAnnBlock abc m (stoCpl pfam m)) := by
  have hd : hasDupNames m.names = false := (hasDupNames_iff m.names).mpr hn
  have hu : (stoLayout m).uniq = false := by unfold stoLayout; simp [hd]
  have huw : (stoLayout m).uniqwidth = 0 := by unfold stoLayout; simp [hd]
  have g1 : str "SS" = bSS := by decide +kernel
  have g2 : str "SA" = bSA := by decide +kernel
  have g3 : str "PP" = bPP := by decide +kernel
  have hseq : ∀ pos acpl, stoSeqLines (stoLayout m) abc m pos acpl = stoSeqL abc m pos acpl := by
    intro pos acpl
    funext i
    unfold stoSeqLines stoSeqL stoSqLine stoName stoPadW grSlotLines grOtherLines
    simp [hu, g1, g2, g3, grVal, grTagOf, perF]
  have e1 : str "SS_cons" = bSScons := by decide +kernel
  have e2 : str "SA_cons" = bSAcons := by decide +kernel
  have e3 : str "PP_cons" = bPPcons := by decide +kernel
  have e4 : str "RF" = bRF := by decide +kernel
  have e5 : str "MM" = bMM := by decide +kernel
  have hblk : stoBlockLines (stoLayout m) abc m (stoCpl pfam m) = stoAnnBlock abc m (stoCpl pfam m) := by
    funext pos
    unfold stoBlockLines stoAnnBlock stoW gcSlotLines gcOtherLines
    simp only [hseq, e1, e2, e3, e4, e5, consF, consTag,
      List.getD_cons_zero, List.getD_cons_succ, List.append_assoc]
  have f1 : str "ID" = bID := by decide +kernel
  have f2 : str "AC" = bAC := by decide +kernel
  have f3 : str "DE" = bDE := by decide +kernel
  have f4 : str "AU" = bAU := by decide +kernel
  have f5 : str "# STOCKHOLM 1.0" = bSto10 := by decide +kernel
  have f6 : str "GA" = bGA := by decide +kernel
  have f7 : str "NC" = bNC := by decide +kernel
  have f8 : str "TC" = bTC := by decide +kernel
  have hhead : stoHeadLines (stoLayout m) m = stoAnnHead m := by
    unfold stoHeadLines stoAnnHead optLine
    simp only [hu, f1, f2, f3, f4, f5, f6, f7, f8, Bool.false_eq_true, if_false, List.append_nil, List.append_assoc]
  have k0 : str " WT " = [32] ++ bWT ++ [32] := by decide +kernel
  have k1 : str " AC " = [32] ++ bAC ++ [32] := by decide +kernel
  have k2 : str " DE " = [32] ++ bDE ++ [32] := by decide +kernel
  have hgs : stoGSLines (stoLayout m) m = stoGsL m := by
    unfold stoGSLines stoGsL stoGsSec
    simp only [List.append_assoc]
    -- section by section; `congr` would first try to close each pair by unfolding both sides
    refine append_congr ?_ (append_congr ?_ (append_congr ?_ ?_))
    · cases hw : m.hasw with
      | false => rfl
      | true =>
        simp only [if_true]
        refine congrArg (· ++ [[]]) ?_
        rw [List.map_eq_flatMap]
        apply flatMap_congr'
        intro i hi
        rw [gsVal_wt m hw i (List.mem_range.mp hi)]
        simp [optLine, gsLine, stoName, hu, k0, gsTagOf, wtTok]
    · cases hacc : m.sqacc with
      | none => rfl
      | some la =>
        simp only [Option.isSome_some, if_true]
        refine congrArg (· ++ [[]]) ?_
        apply flatMap_congr'
        intro i _
        have e : grVal (gsMsa m) 1 i = optRow (some la) i := by rw [gsVal_acc', hacc]
        rw [e]
        cases optRow (some la) i with
        | none => rfl
        | some v => simp [optLine, gsLine, stoName, hu, k1, gsTagOf]
    · cases hdesc : m.sqdesc with
      | none => rfl
      | some ld =>
        simp only [Option.isSome_some, if_true]
        refine congrArg (· ++ [[]]) ?_
        apply flatMap_congr'
        intro i _
        have e : grVal (gsMsa m) 2 i = optRow (some ld) i := by rw [gsVal_desc', hdesc]
        rw [e]
        cases optRow (some ld) i with
        | none => rfl
        | some v => simp [optLine, gsLine, stoName, hu, k2, gsTagOf]
    · apply flatMap_congr'
      intro t _
      refine congrArg (· ++ [[]]) ?_
      apply flatMap_congr'
      intro j _
      have e : grVal (gsMsa m) (3 + t) j = (m.gs.getD t ([], [])).2.getD j none := grVal_other (gsMsa m) t j
      rw [e]
      cases hv : (m.gs.getD t ([], [])).2.getD j none with
      | none => rfl
      | some v =>
        have hval := hp.gs_val (3 + t) j v (by rw [e]; exact hv)
        have h10 : (10 : UInt8) ∉ v := (hval.2.2.1 (by omega)).2.2.1
        simp only [strtokLF_single v h10 (hval.2.2.2 (by omega))]
        simp [optLine, gsLine, stoName, hu, padRight, gsTagOf_other]
  unfold stockholmBodyLines
  simp only [hhead, hgs, hblk]

theorem chunk_of_col {alen : Nat} {s : Bytes} (hs : colTextOk alen s) (pos w : Nat) (hw : 1 ≤ w) (hpw : pos + w ≤ alen) :
    ChunkOk ((s.drop pos).take w) := by
  refine ⟨fun h0 => ?_, fun t ht => hs.2 t (List.mem_of_mem_drop (List.mem_of_mem_take ht))⟩
  have : ((s.drop pos).take w).length = 0 := by rw [h0]; rfl
  rw [List.length_take, List.length_drop, hs.1] at this
  omega

theorem rtrim_chunk (c : Bytes) (hc : ChunkOk c) : rtrim c = c := by
  unfold rtrim
  rw [dropWhile_none _ _ (fun x hx => chunk_notDelim x (hc.2 x (List.mem_reverse.mp hx)))]
  simp

theorem sqline_fields (abc : Option Abc) (cfg : Cfg) (enc : UInt8 → UInt8) (txt : Nat → Bytes) (m : Msa)
    (W : StoWritable abc cfg enc txt m) (pos w j : Nat) (hj : j < m.nseq) (hw : 1 ≤ w) (hpw : pos + w ≤ m.alen) :
    ∃ sp c, LineIs (stoSqLine abc m pos w j) [(m.names.getD j [], sp)] c ∧ ChunkOk c ∧ c = ((txt j).drop pos).take w := by
  have hc := chunk_of_col ⟨W.txt_len j hj, fun t ht => (W.txt_sym j hj t ht).2⟩ pos w hw hpw
  refine ⟨List.replicate ((stoPadW m).natAbs - (m.names.getD j []).length) 32 ++ [32], ((txt j).drop pos).take w,
    ⟨?_, ⟨(W.name_ok j hj).1, sp_rep _, hc.rest.head⟩, ⟨(W.name_ok j hj).2.1, sp_rep _, trivial⟩, hc.rest.nolf, hc.rest.nocr⟩, hc, rfl⟩
  simp [stoSqLine, padRight, W.chunk_eq j hj, fields]

theorem sGC_eq : sGC = bGC ++ [32] := by decide +kernel

theorem nameOk_bGC : nameOk bGC := by unfold nameOk; decide +kernel

theorem gcline_fields (m : Msa) (tag s : Bytes) (hs : colTextOk m.alen s) (pos w : Nat) (hw : 1 ≤ w) (hpw : pos + w ≤ m.alen) :
    ∃ sp c, gcLine (stoLayout m) tag s pos w = fields [(bGC, [32]), (tag, sp)] c ∧ SpOk sp ∧ ChunkOk c ∧ c = (s.drop pos).take w := by
  refine ⟨List.replicate ((((stoLayout m).margin : Int) - 6).natAbs - tag.length) 32 ++ [32], (s.drop pos).take w,
    ?_, sp_rep _, chunk_of_col hs pos w hw hpw, rfl⟩
  unfold gcLine strChunk padRight
  rw [sGC_eq, cstr_id _ (fun c hc => (hs.2 c (List.mem_of_mem_drop (List.mem_of_mem_take hc))).2)]
  simp [fields]

theorem gcline_ok (m : Msa) (tag s : Bytes) (ht : (10 : UInt8) ∉ tag) (hs : colTextOk m.alen s) (pos w : Nat) (hw : 1 ≤ w)
    (hpw : pos + w ≤ m.alen) : lineOk (gcLine (stoLayout m) tag s pos w) := by
  obtain ⟨sp, c, hline, hsp, hc, _⟩ := gcline_fields m tag s hs pos w hw hpw
  rw [hline]
  exact lineOk_fields ⟨by decide, tok32, ht, hsp, trivial⟩ hc.rest.nolf hc.rest.nocr

/-- … and, the tag being a token, in the form the walk takes it in -/
theorem gcline_is (m : Msa) (tag s : Bytes) (ht : nameOk tag) (ht10 : (10 : UInt8) ∉ tag) (hs : colTextOk m.alen s) (pos w : Nat)
    (hw : 1 ≤ w) (hpw : pos + w ≤ m.alen) :
    ∃ sp c, LineIs (gcLine (stoLayout m) tag s pos w) [(bGC, [32]), (tag, sp)] c ∧ ChunkOk c ∧ c = (s.drop pos).take w := by
  obtain ⟨sp, c, hline, hsp, hc, hcj⟩ := gcline_fields m tag s hs pos w hw hpw
  exact ⟨sp, c, ⟨hline, ⟨nameOk_bGC, tok32, ht, hsp, hc.rest.head⟩, ⟨by decide, tok32, ht10, hsp, trivial⟩, hc.rest.nolf, hc.rest.nocr⟩, hc, hcj⟩

theorem sGR_eq : sGR = bGR ++ [32] := by decide +kernel

theorem sto_uniq_false (m : Msa) (hn : m.names.Nodup) : (stoLayout m).uniq = false := by
  have hd : hasDupNames m.names = false := (hasDupNames_iff m.names).mpr hn
  unfold stoLayout; simp [hd]

theorem nameOk_bGR : nameOk bGR := by unfold nameOk; decide +kernel

theorem grline_fields (m : Msa) (hu : (stoLayout m).uniq = false) (i : Nat) (tag s : Bytes) (hs : colTextOk m.alen s) (pos w : Nat)
    (hw : 1 ≤ w) (hpw : pos + w ≤ m.alen) :
    ∃ sp1 sp2 c, grLine (stoLayout m) m i tag s pos w = fields [(bGR, [32]), (m.names.getD i [], sp1), (tag, sp2)] c ∧
      SpOk sp1 ∧ SpOk sp2 ∧ ChunkOk c ∧ c = (s.drop pos).take w := by
  refine ⟨List.replicate (((stoLayout m).maxname : Int).natAbs - (m.names.getD i []).length) 32 ++ [32],
    List.replicate ((((stoLayout m).margin : Int) - (stoLayout m).maxname - (stoLayout m).uniqwidth - 7).natAbs - tag.length) 32 ++ [32],
    (s.drop pos).take w, ?_, sp_rep _, sp_rep _, chunk_of_col hs pos w hw hpw, rfl⟩
  unfold grLine stoName strChunk padRight
  rw [sGR_eq, cstr_id _ (fun c hc => (hs.2 c (List.mem_of_mem_drop (List.mem_of_mem_take hc))).2)]
  simp [hu, fields]

theorem grline_is (m : Msa) (hu : (stoLayout m).uniq = false) (i : Nat) (tag s : Bytes) (hn : stoNameOk (m.names.getD i []))
    (ht : nameOk tag) (ht10 : (10 : UInt8) ∉ tag) (hs : colTextOk m.alen s) (pos w : Nat) (hw : 1 ≤ w) (hpw : pos + w ≤ m.alen) :
    ∃ sp1 sp2 c, LineIs (grLine (stoLayout m) m i tag s pos w) [(bGR, [32]), (m.names.getD i [], sp1), (tag, sp2)] c ∧ ChunkOk c ∧
      c = (s.drop pos).take w := by
  obtain ⟨sp1, sp2, c, hline, h1, h2, hc, hcj⟩ := grline_fields m hu i tag s hs pos w hw hpw
  exact ⟨sp1, sp2, c, ⟨hline, ⟨nameOk_bGR, tok32, hn.1, h1, ht, h2, hc.rest.head⟩, ⟨by decide, tok32, hn.2.1, h1, ht10, h2, trivial⟩,
    hc.rest.nolf, hc.rest.nocr⟩, hc, hcj⟩

theorem sGF_eq : sGF = bGF ++ [32] := by decide +kernel

theorem gfline_fields (L : StoLayout) (tag val : Bytes) : ∃ sp, SpOk sp ∧ gfLine L tag val = fields [(bGF, [32]), (tag, sp)] val :=
  ⟨List.replicate ((L.maxgf : Int).natAbs - tag.length) 32 ++ [32], sp_rep _, by unfold gfLine padRight; rw [sGF_eq]; simp [fields]⟩

theorem gf_fieldsOk {tag sp val : Bytes} (ht : nameOk tag) (hs : SpOk sp) (hv : ∀ c, val.head? = some c → inDelim blankTab c = false) :
    FieldsOk [(bGF, [32]), (tag, sp)] val := ⟨by unfold nameOk; decide +kernel, tok32, ht, hs, hv⟩

theorem gf_memtok (tag sp val : Bytes) (ht : nameOk tag) (hs : SpOk sp) (hv : ∀ c, val.head? = some c → inDelim blankTab c = false) :
    memtok (fields [(bGF, [32]), (tag, sp)] val) blankTab = some (bGF, fields [(tag, sp)] val) ∧
    memtok (fields [(tag, sp)] val) blankTab = some (tag, val) :=
  ⟨memtok_fields (gf_fieldsOk ht hs hv), memtok_fields (gf_fieldsOk ht hs hv).2.2⟩

theorem gfline_ok (L : StoLayout) (tag val : Bytes) (ht : (10 : UInt8) ∉ tag) (h3 : (10 : UInt8) ∉ val) (h4 : val.getLast? ≠ some 13) :
    lineOk (gfLine L tag val) := by
  obtain ⟨sp, hs, hl⟩ := gfline_fields L tag val
  rw [hl]
  exact lineOk_fields ⟨by decide, tok32, ht, hs, trivial⟩ h3 h4

theorem comline_ok {c : Bytes} (hc : comOk c) : lineOk (35 :: c) := by
  obtain ⟨_, _, h10, h13, _⟩ := hc
  refine ⟨fun h => ?_, ?_⟩
  · rcases List.mem_cons.mp h with h | h
    · exact absurd h (by decide)
    · exact h10 h
  · cases c with
    | nil => simp
    | cons x t => rw [List.getLast?_cons_cons]; exact h13

theorem nameOk_bGS : nameOk bGS := by unfold nameOk; decide +kernel

theorem gsLine_fields (m : Msa) (q i : Nat) (v : Bytes) :
    ∃ sp, SpOk sp ∧ gsLine m q i v = fields [(bGS, [32]), (m.names.getD i [], sp), (gsTagOf m q, [32])] v :=
  ⟨List.replicate (((stoLayout m).maxname : Int).natAbs - (m.names.getD i []).length) 32 ++ [32], sp_rep _,
    by unfold gsLine padRight; rw [sGS_eq]; simp [fields]⟩

theorem gsTag_facts (m : Msa) (hp : StoAnn m) (q : Nat) (hq : q < 3 + m.gs.length) :
    nameOk (gsTagOf m q) ∧ (10 : UInt8) ∉ gsTagOf m q := by
  rcases q with _ | _ | _ | q
  · rw [show gsTagOf m 0 = bWT from rfl]; unfold nameOk; decide +kernel
  · rw [show gsTagOf m (0 + 1) = bAC from rfl]; unfold nameOk; decide +kernel
  · rw [show gsTagOf m (0 + 1 + 1) = bDE from rfl]; unfold nameOk; decide +kernel
  · have e : q + 1 + 1 + 1 = 3 + q := by omega
    rw [e, gsTagOf_other]
    have ht : q < m.gs.length := by omega
    have hmem : m.gs.getD q ([], []) ∈ m.gs := by rw [getD_eq_getElem_of_lt _ ht]; exact List.getElem_mem ht
    have hok := (hp.gs_tag_ok _ hmem).1
    exact ⟨hok.1, hok.2.1⟩

/-- a token is stored as it is (`esl_memstrdup` + C string: it holds no NUL) -/
theorem nameOk.cstr {v : Bytes} (h : nameOk v) : cstr v = v := cstr_id v (nameOk_nonul v h)
theorem gfTextOk.cstr {v : Bytes} (h : gfTextOk v) : cstr v = v := cstr_id v (fun c hc e => h.2.1 (e ▸ hc))
theorem gfTokOk.rest {v : Bytes} (h : gfTokOk v) : RestOk v := ⟨nameOk_head v h.1, h.2.1, h.2.2⟩
theorem gfTextOk.rest {v : Bytes} (h : gfTextOk v) : RestOk v := ⟨h.1, h.2.2.1, h.2.2.2⟩
theorem wgtTokOk.rest {v : Bytes} (h : wgtTokOk v) : RestOk v := ⟨nameOk_head v h.1, h.2.2.1, h.2.2.2.1⟩

theorem gsVal_rest (m : Msa) (hp : StoAnn m) (q i : Nat) (v : Bytes) (hv : grVal (gsMsa m) q i = some v) : RestOk v := by
  have hval := hp.gs_val q i v hv
  by_cases e : q = 0
  · exact (hval.1 e).rest
  · by_cases e1 : q = 1
    · exact (hval.2.1 e1).rest
    · exact (hval.2.2.1 (by omega)).rest

theorem gsLine_is (m : Msa) (hp : StoAnn m) (q i : Nat) (v : Bytes) (hq : q < 3 + m.gs.length) (hn : stoNameOk (m.names.getD i []))
    (hv : grVal (gsMsa m) q i = some v) :
    ∃ sp, LineIs (gsLine m q i v) [(bGS, [32]), (m.names.getD i [], sp), (gsTagOf m q, [32])] v := by
  obtain ⟨sp, hs, he⟩ := gsLine_fields m q i v
  obtain ⟨htn, ht10⟩ := gsTag_facts m hp q hq
  have hr := gsVal_rest m hp q i v hv
  exact ⟨sp, he, ⟨nameOk_bGS, tok32, hn.1, hs, htn, tok32, hr.head⟩, ⟨by decide, tok32, hn.2.1, hs, ht10, tok32, trivial⟩, hr.nolf, hr.nocr⟩

theorem cutLines_eq (L : StoLayout) (tag : Bytes) (c1 c2 : Option UInt32) :
    cutLines L tag c1 c2 = match c1, c2 with
      | some a, some b => [gfLine L tag (fmtF1 a ++ [32] ++ fmtF1 b)]
      | some a, none => [gfLine L tag (fmtF1 a)]
      | none, _ => [] := by
  unfold cutLines gfLine
  cases c1 <;> cases c2 <;> simp

/-- everything Stockholm/Pfam represent of `m`: all of it; rows in the reader's mode; of the weights the reader MODEL keeps
    whether they are set, not their value (`Wgt.val 0` for every sequence with `eslMSA_HASWGTS`, else the default weights); of
    the cut-offs the reader MODEL keeps which ones are set (a second threshold only with the first), not their value (`some 0`) -/
def stoProject (cfg : Cfg) (m : Msa) : Msa :=
  { m with digital := cfg.digital, kp := cfg.kp,
           aseq := if cfg.digital then [] else (List.range m.nseq).map m.stored,
           ax := if cfg.digital then (List.range m.nseq).map m.stored else [],
           wgt := if m.hasw then List.replicate m.nseq (Wgt.val 0) else List.replicate m.nseq Wgt.dflt,
           cutoff := if (cutsetOf m).any id then (cutsetOf m).map (fun b => if b then some 0 else none) else [] }

end EaselModel.Msafile
