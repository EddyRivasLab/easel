import EaselModel.Msafile.AfaRoundTrip
import EaselModel.Msafile.AbcTables
import EaselModel.Msafile.TextInmap
import EaselModel.Msafile.SymTable
/-! Concrete, checkable conditions under which an alignment is `AfaWritable`: text mode, and digital mode with the
    generated amino / DNA / RNA alphabets. -/
namespace EaselModel.Msafile

theorem afaInmap_text_get (c : UInt8) : (afaInmap none).get c =
    if c.toNat = 32 then dsqIGNORED else if c.toNat = 62 then dsqILLEGAL
    else textBase isGraph c := by
  simp only [afaInmap, InMap.get_setIfInBounds, InMap.get_textBase, Array.size_setIfInBounds, Array.size_ofFn,
    Nat.reduceLT, and_true]

/-- the text-mode AFA input map sends every graphic character but `>` to itself, and none of them is white space: `SetInmap` overwrites
    the entries of `>` and blank only -/
theorem afa_text_sym (t : UInt8) (h : isGraph t = true) (hgt : t ≠ 62) :
    mapByte (afaInmap none) t = (.ok, some t) ∧ isSpace t = false := by
  obtain ⟨hasc, hsp, _, h127, _⟩ := graph_plain h
  have h32 : t.toNat ≠ 32 := fun e => by
    have e' : t = 32 := UInt8.toNat_inj.mp e
    rw [e'] at hsp; exact absurd hsp (by decide)
  have h62 : t.toNat ≠ 62 := fun e => hgt (UInt8.toNat_inj.mp e)
  exact ⟨mapByte_of_get hasc (by rw [afaInmap_text_get, if_neg h32, if_neg h62, textBase_self h h]) h127, hsp⟩

/-- a text-mode alignment that aligned FASTA represents faithfully -/
structure AfaTextWritable (m : Msa) : Prop where
  dig : m.digital = false
  n1 : 1 ≤ m.nseq
  alen1 : 1 ≤ m.alen
  acc_none : m.sqacc = none
  name_ok : ∀ i, i < m.nseq → nameOk (m.names.getD i [])
  desc_ok : ∀ i, i < m.nseq → ∀ d, optAt m.sqdesc i = some d → descOk d
  hdr_line : ∀ i, i < m.nseq → lineOk (afaHeader m i)
  row_ok : ∀ i, i < m.nseq → (m.aseq.getD i []).length = m.alen ∧ ∀ t ∈ m.aseq.getD i [], isGraph t = true ∧ t ≠ 62

theorem afaTextWritable_writable (m : Msa) (h : AfaTextWritable m) : AfaWritable none (afaCfg none) id m := by
  have hrt : ∀ i, m.rowText none i = m.aseq.getD i [] := fun i => rfl
  have htake : ∀ i, i < m.nseq → (m.rowText none i).take m.alen = m.aseq.getD i [] := by
    intro i hi
    rw [hrt]
    exact List.take_of_length_le (by rw [(h.row_ok i hi).1]; exact Nat.le_refl _)
  exact
    { dig := by simp [h.dig, afaCfg, Cfg.digital]
      n1 := h.n1, alen1 := h.alen1, acc_none := h.acc_none, name_ok := h.name_ok, desc_ok := h.desc_ok, hdr_line := h.hdr_line
      row_len := fun i hi => by rw [htake i hi]; exact (h.row_ok i hi).1
      row_sym := fun i hi t ht => by
        rw [htake i hi] at ht
        have hg := (h.row_ok i hi).2 t ht
        have hs := afa_text_sym t hg.1 hg.2
        exact ⟨by simpa [afaCfg] using hs.1, hs.2, hg.2⟩
      row_enc := fun i hi => by
        rw [htake i hi]
        simp [Msa.stored, h.dig, mkRow, afaCfg, Cfg.digital] }

def afaEnc (a : Abc) (t : UInt8) : UInt8 :=
  match mapByte (afaInmap (some a)) t with
  | (_, some x) => x
  | _ => 0

/-- table fact about an alphabet: the character `sym[x]` written for code `x < Kp` is read back as `x`, is not white space, is not '>' -/
def afaDigSymOk (a : Abc) : Bool :=
  (List.range a.kp).all fun x =>
    let t := a.sym.getD x 0
    mapByte (afaInmap (some a)) t == (CatSt.ok, some (UInt8.ofNat x)) && !isSpace t && t != 62

theorem afaDigSymOk_of_wf {a : Abc} (h : a.WF) : afaDigSymOk a = true := by
  rw [afaDigSymOk, List.all_eq_true]
  intro x hx
  have hx' := List.mem_range.mp hx
  obtain ⟨hasc, _, hsp, hb, hi, _⟩ := symClass_plain _ (h.cls x hx')
  simp only [List.mem_cons, List.not_mem_nil, or_false, not_or] at hb hi
  -- neither entry that `esl_msafile_afa_SetInmap` overwrites (NUL, blank) is a printed symbol
  have hget : (afaInmap (some a)).get (a.sym.getD x 0) = UInt8.ofNat x := by
    simp only [afaInmap, InMap.get_setIfInBounds, hi, false_and, if_false]
    exact h.inv x hx'
  have hm := mapByte_of_get hasc hget (h.code_le hx')
  generalize a.sym.getD x 0 = t at *
  simp [hm, hsp, hb]

theorem afa_dig_sym (a : Abc) (ha : afaDigSymOk a = true) (x : UInt8) (hx : x.toNat < a.kp) :
    mapByte (afaInmap (some a)) (a.sym.getD x.toNat 0) = (.ok, some (afaEnc a (a.sym.getD x.toNat 0))) ∧
    isSpace (a.sym.getD x.toNat 0) = false ∧ a.sym.getD x.toNat 0 ≠ 62 ∧ afaEnc a (a.sym.getD x.toNat 0) = x := by
  have h1 := (List.all_eq_true.mp ha) x.toNat (List.mem_range.mpr hx)
  simp only [UInt8.ofNat_toNat, Bool.and_eq_true, beq_iff_eq, Bool.not_eq_true', bne_iff_ne, ne_eq] at h1
  obtain ⟨⟨hm, hs⟩, hg⟩ := h1
  have he : afaEnc a (a.sym.getD x.toNat 0) = x := by unfold afaEnc; rw [hm]
  exact ⟨by rw [he]; exact hm, hs, hg, he⟩

/-- a digital alignment (alphabet `a`) that aligned FASTA represents faithfully -/
structure AfaDigitalWritable (a : Abc) (m : Msa) : Prop where
  dig : m.digital = true
  n1 : 1 ≤ m.nseq
  alen1 : 1 ≤ m.alen
  acc_none : m.sqacc = none
  name_ok : ∀ i, i < m.nseq → nameOk (m.names.getD i [])
  desc_ok : ∀ i, i < m.nseq → ∀ d, optAt m.sqdesc i = some d → descOk d
  hdr_line : ∀ i, i < m.nseq → lineOk (afaHeader m i)
  row_ok : ∀ i, i < m.nseq → dsqRowOk a.kp m.alen (m.ax.getD i []) = true

theorem dsqRow_shape (kp alen : Nat) (r : Bytes) (h : dsqRowOk kp alen r = true) :
    r = dsqSENTINEL :: dsqCodes (some r) ++ [dsqSENTINEL] := by
  cases r with
  | nil => simp [dsqRowOk] at h
  | cons s0 rest =>
    simp only [dsqRowOk, Bool.and_eq_true, beq_iff_eq] at h
    obtain ⟨⟨⟨h0, _⟩, hl⟩, _⟩ := h
    subst h0
    simp only [dsqCodes, List.drop_succ_cons, List.drop_zero, List.cons_append, List.cons.injEq, true_and]
    have hne : rest ≠ [] := by intro h0; rw [h0] at hl; simp at hl
    have hlast : rest.getLast hne = dsqSENTINEL := by
      have := List.getLast?_eq_some_getLast hne
      rw [hl] at this; exact (Option.some.inj this).symm
    rw [← hlast]
    exact (List.dropLast_concat_getLast hne).symm

theorem dsqRow_codes (kp alen : Nat) (r : Bytes) (h : dsqRowOk kp alen r = true) :
    (∀ x ∈ dsqCodes (some r), x.toNat < kp) ∧ (dsqCodes (some r)).length = alen := by
  cases r with
  | nil => simp [dsqRowOk] at h
  | cons s0 rest =>
    simp only [dsqRowOk, Bool.and_eq_true, beq_iff_eq] at h
    refine ⟨by simpa [dsqCodes] using h.2, ?_⟩
    simp only [dsqCodes, List.drop_succ_cons, List.drop_zero, List.length_dropLast]
    omega

theorem stored_of_dsqRow (m : Msa) (hd : m.digital = true) (kp i : Nat) (h : dsqRowOk kp m.alen (m.ax.getD i []) = true) :
    m.stored i = mkRow true (dsqCodes (some (m.ax.getD i []))) := by
  simp only [Msa.stored, hd, if_true, mkRow]
  exact dsqRow_shape _ _ _ h

/-- a well-formed digital row is what the reader stores for its printed symbols `f x`, when `enc` takes each of them back to its code -/
theorem stored_enc (m : Msa) (hd : m.digital = true) (kp i : Nat) (h : dsqRowOk kp m.alen (m.ax.getD i []) = true) (f enc : UInt8 → UInt8)
    (he : ∀ x ∈ dsqCodes (some (m.ax.getD i [])), enc (f x) = x) :
    m.stored i = mkRow true (((dsqCodes (some (m.ax.getD i []))).map f).map enc) := by
  rw [stored_of_dsqRow m hd kp i h, List.map_map]
  congr 1
  conv => lhs; rw [← List.map_id (dsqCodes (some (m.ax.getD i [])))]
  exact List.map_congr_left fun x hx => (he x hx).symm

theorem afaDigitalWritable_writable (a : Abc) (ha : afaDigSymOk a = true) (m : Msa) (h : AfaDigitalWritable a m) :
    AfaWritable (some a) (afaCfg (some a)) (afaEnc a) m := by
  have hcodes := fun i (hi : i < m.nseq) => dsqRow_codes _ _ _ (h.row_ok i hi)
  have hrt : ∀ i, m.rowText (some a) i = (dsqCodes (some (m.ax.getD i []))).map (fun x => a.sym.getD x.toNat 0) := fun i => rfl
  have htake : ∀ i, i < m.nseq → (m.rowText (some a) i).take m.alen = (dsqCodes (some (m.ax.getD i []))).map (fun x => a.sym.getD x.toNat 0) := by
    intro i hi
    rw [hrt]
    exact List.take_of_length_le (by rw [List.length_map, (hcodes i hi).2]; exact Nat.le_refl _)
  exact
    { dig := by simp [h.dig, afaCfg, Cfg.digital]
      n1 := h.n1, alen1 := h.alen1, acc_none := h.acc_none, name_ok := h.name_ok, desc_ok := h.desc_ok, hdr_line := h.hdr_line
      row_len := fun i hi => by rw [htake i hi, List.length_map]; exact (hcodes i hi).2
      row_sym := fun i hi t ht => by
        rw [htake i hi] at ht
        obtain ⟨x, hx, rfl⟩ := List.mem_map.mp ht
        have := afa_dig_sym a ha x ((hcodes i hi).1 x hx)
        exact ⟨by simpa [afaCfg] using this.1, this.2.1, this.2.2.1⟩
      row_enc := fun i hi => by
        rw [htake i hi]
        exact stored_enc m h.dig _ i (h.row_ok i hi) _ _ fun x hx => (afa_dig_sym a ha x ((hcodes i hi).1 x hx)).2.2.2 }

end EaselModel.Msafile
