import EaselModel.Msafile.WritePsiblast
/-! # A2M writer: `esl_msafile_a2m_Write` of `esl_msafile_a2m.c` (`do_dotless = TRUE`) -/
namespace EaselModel.Msafile

def a2mCpl : Nat := 60

/-- what column `pos` of sequence `i` adds to `buf` (`none`: nothing, an all-insert gap in dotless mode).
    Text mode: `O` and `o` are replaced by `X`; residues are `isalpha`, consensus columns `isalnum`. -/
def a2mChar (abc : Option Abc) (m : Msa) (i pos : Nat) : Option UInt8 :=
  let cons := isConsensusCol abc m pos
  match abc with
  | some a =>
    let x := axAt m i pos
    let sym := a.sym.getD x.toNat 0
    let isRes := a.xIsResidue x
    let sym := if sym == 79 then a.cUnknown else sym
    if cons then some (if isRes then toUpper sym else 45)
    else if isRes then some (toLower sym)
    else none
  | none =>
    let sym := aseqAt m i pos
    let isRes := isAlpha sym
    let sym := if sym == 79 || sym == 111 then 88 else sym
    if cons then some (if isRes then toUpper sym else 45)
    else if isRes then some (toLower sym)
    else none

/-- the `while (pos < alen) { for (bpos = 0; pos < alen && bpos < cpl; pos++) …; if (bpos) print }` loops:
    `buf` (reversed) is flushed when it holds `cpl` characters and another column is to be looked at, and at the end -/
def a2mSeqLoop (abc : Option Abc) (m : Msa) (i : Nat) : List Nat → Bytes → List Bytes
  | [], buf => if buf.isEmpty then [] else [buf.reverse]
  | pos :: rest, buf =>
    let full := buf.length ≥ a2mCpl                 -- `bpos < cpl` fails: print the line, re-enter the while loop with bpos = 0
    let buf' := if full then [] else buf
    (if full then [buf.reverse] else []) ++
      (match a2mChar abc m i pos with
       | some c => a2mSeqLoop abc m i rest (c :: buf')
       | none => a2mSeqLoop abc m i rest buf')

/-- `>name[ acc][ desc]` -/
def a2mHeader (m : Msa) (i : Nat) : Bytes :=
  [62] ++ m.names.getD i []
    ++ (match optRow m.sqacc i with | some a => 32 :: a | none => [])
    ++ (match optRow m.sqdesc i with | some d => 32 :: d | none => [])

def a2mRecLines (abc : Option Abc) (m : Msa) (i : Nat) : List Bytes :=
  a2mHeader m i :: a2mSeqLoop abc m i (List.range m.alen) []

def a2mLines (abc : Option Abc) (m : Msa) : List Bytes := (List.range m.nseq).flatMap (a2mRecLines abc m)

/-- `esl_msafile_a2m_Write(fp, msa)` -/
def a2mWrite (abc : Option Abc) (m : Msa) : Bytes := joinLF (a2mLines abc m)

end EaselModel.Msafile
