import EaselModel.Msafile.RoundTrip
import EaselModel.Msafile.AfaRoundTrip
import EaselModel.Msafile.Phylip
import EaselModel.Msafile.WritePhylip
/-! PHYLIP (sequential and interleaved): reading what `esl_msafile_phylip_Write` wrote gives the alignment back (C03). -/
namespace EaselModel.Msafile

def dch (d : Nat) : UInt8 := UInt8.ofNat (48 + d)

theorem natDec_eq (n : Nat) : natDec n = if n < 10 then [dch n] else natDec (n / 10) ++ [dch (n % 10)] := by
  have h := Nat.toDigits_eq_if (b := 10) (n := n) (by decide)
  unfold natDec
  rw [h]
  split
  · rename_i hlt; simp [dch, Nat.toNat_digitChar_of_lt_ten hlt]
  · simp [dch, Nat.toNat_digitChar_of_lt_ten (Nat.mod_lt n (by decide))]

theorem dch_facts : ∀ d : Fin 10, digitVal (dch d.val) = some d.val ∧ isSpace (dch d.val) = false ∧
    inDelim blankTab (dch d.val) = false ∧ dch d.val ≠ 45 ∧ dch d.val ≠ 10 ∧ dch d.val ≠ 13 ∧ dch d.val ≠ 0 ∧
    (dch d.val = 48 → d.val = 0) := by decide

theorem dch_graph : ∀ d : Fin 10, isGraph (dch d.val) = true := by decide

theorem natDec_mem (n : Nat) : ∀ c ∈ natDec n, ∃ d, d < 10 ∧ c = dch d := by
  induction n using Nat.strongRecOn with
  | _ n ih =>
    intro c hc
    have e := natDec_eq n
    by_cases hlt : n < 10
    · rw [if_pos hlt] at e; rw [e] at hc
      simp at hc; exact ⟨n, hlt, hc⟩
    · rw [if_neg hlt] at e; rw [e] at hc
      simp at hc
      rcases hc with hc | hc
      · exact ih (n / 10) (by omega) c hc
      · exact ⟨n % 10, Nat.mod_lt _ (by decide), hc⟩

theorem natDec_head (n : Nat) : 1 ≤ n → ∃ d t, natDec n = dch d :: t ∧ 1 ≤ d ∧ d < 10 := by
  induction n using Nat.strongRecOn with
  | _ n ih =>
    intro h1
    have e := natDec_eq n
    by_cases hlt : n < 10
    · rw [if_pos hlt] at e
      exact ⟨n, [], e, h1, hlt⟩
    · rw [if_neg hlt] at e
      obtain ⟨d, t, ht, hd⟩ := ih (n / 10) (by omega) (by omega)
      exact ⟨d, t ++ [dch (n % 10)], by rw [e, ht]; rfl, hd⟩

theorem natDec_ne_nil (n : Nat) : natDec n ≠ [] := by
  have e := natDec_eq n
  by_cases hlt : n < 10
  · rw [if_pos hlt] at e; rw [e]; simp
  · rw [if_neg hlt] at e; rw [e]; simp

theorem strtoLoop_digit (d : Nat) (hd : d < 10) (rest : Bytes) (cur : Int) (k : Nat) (_h0 : 0 ≤ cur)
    (hmax : cur * 10 + d ≤ 2147483647) :
    strtoLoop false 10 (dch d :: rest) cur k = strtoLoop false 10 rest (cur * 10 + d) (k + 1) := by
  have hv := (dch_facts ⟨d, hd⟩).1
  simp only at hv
  rw [strtoLoop]
  simp only [hv]
  have h1 : ¬ (d ≥ 10) := by omega
  have h2 : ¬ (cur > Int.tdiv (2147483647 - (d : Int)) ((10 : Nat) : Int)) := by
    rw [Int.tdiv_eq_ediv_of_nonneg (by omega)]
    omega
  simp only [h1, h2, if_false, Bool.not_false, if_true]
  rfl

theorem strtoLoop_natDec (n : Nat) : n ≤ 2147483647 → ∀ (rest : Bytes) (k : Nat),
    strtoLoop false 10 (natDec n ++ rest) 0 k = strtoLoop false 10 rest (n : Int) (k + (natDec n).length) := by
  induction n using Nat.strongRecOn with
  | _ n ih =>
    intro hn rest k
    have e := natDec_eq n
    by_cases hlt : n < 10
    · rw [if_pos hlt] at e; rw [e]
      have := strtoLoop_digit n hlt rest 0 k (by omega) (by omega)
      simpa using this
    · rw [if_neg hlt] at e; rw [e]
      have ih' := ih (n / 10) (by omega) (by omega) (dch (n % 10) :: rest) k
      rw [List.append_assoc, List.singleton_append, ih']
      have := strtoLoop_digit (n % 10) (Nat.mod_lt _ (by decide)) rest ((n / 10 : Nat) : Int) (k + (natDec (n / 10)).length)
        (by omega) (by omega)
      rw [this]
      have e1 : (((n / 10 : Nat) : Int) * 10 + ((n % 10 : Nat) : Int)) = (n : Int) := by omega
      have e2 : k + (natDec (n / 10)).length + 1 = k + (natDec (n / 10) ++ [dch (n % 10)]).length := by simp; omega
      rw [e1, e2]

theorem strtoi32_cons (c : UInt8) (t : Bytes) (hsp : isSpace c = false) (h45 : c ≠ 45) (h48 : c ≠ 48) :
    strtoi32 (c :: t) = strtoLoop false 10 (c :: t) 0 0 := by
  have hd : (c :: t).dropWhile isSpace = c :: t := by simp [List.dropWhile, hsp]
  unfold strtoi32
  simp only [hd]
  split
  · rename_i r h
    split at h
    · rename_i r' h'; have : c = 45 := by injection h'
      exact absurd this h45
    · have : c = 48 := by injection h
      exact absurd this h48
  · rename_i r _ h
    split at h
    · rename_i r' h'; have : c = 45 := by injection h'
      exact absurd this h45
    · have : c = 48 := by injection h
      exact absurd this h48
  · split
    · rename_i r' h'; have : c = 45 := by injection h'
      exact absurd this h45
    · rfl

/-- **`strtoi32 ∘ %d`**: a positive `int` printed with `%d` is read back by `esl_mem_strtoi32(…, base 0, …)` -/
theorem strtoi32_natDec (n : Nat) (h1 : 1 ≤ n) (hn : n ≤ 2147483647) : strtoi32 (natDec n) = .ok (n : Int) := by
  obtain ⟨d, t, ht, hd1, hd10⟩ := natDec_head n h1
  have hf := dch_facts ⟨d, hd10⟩
  simp only at hf
  have hloop := strtoLoop_natDec n hn [] 0
  rw [List.append_nil, ht] at hloop
  have h48 : dch d ≠ 48 := fun h => by have := hf.2.2.2.2.2.2.2 h; omega
  rw [ht, strtoi32_cons (dch d) t hf.2.1 hf.2.2.2.1 h48, hloop]
  simp [strtoLoop]

theorem natDec_nameOk (n : Nat) : nameOk (natDec n) := by
  refine ⟨natDec_ne_nil n, ?_⟩
  intro c hc
  obtain ⟨d, hd, rfl⟩ := natDec_mem n c hc
  exact (dch_facts ⟨d, hd⟩).2.2.1

theorem natDec_descOk (n : Nat) : descOk (natDec n) := by
  constructor
  · cases h : natDec n with
    | nil => exact absurd h (natDec_ne_nil n)
    | cons c t =>
      refine ⟨c, t, rfl, ?_⟩
      obtain ⟨d, hd, rfl⟩ := natDec_mem n c (by rw [h]; simp)
      exact (dch_facts ⟨d, hd⟩).2.2.1
  · intro c hc
    obtain ⟨d, hd, rfl⟩ := natDec_mem n c hc
    exact (dch_facts ⟨d, hd⟩).2.2.2.2.2.2.1

theorem memtok_skip32 (x : Bytes) : memtok (32 :: x) blankTab = memtok x blankTab := by
  have h32 : inDelim blankTab 32 = true := by decide
  simp [memtok, List.dropWhile, h32]

theorem phyWrHeader_eq (m : Msa) : phyWrHeader m = 32 :: (natDec m.nseq ++ 32 :: natDec m.alen) := by
  simp [phyWrHeader]

theorem phyWrHeader_notBlank (m : Msa) : isBlankLine (phyWrHeader m) = false := by
  obtain ⟨d, hd, hc⟩ := natDec_mem m.alen _ (List.getLast_mem (natDec_ne_nil m.alen))
  have hmem : dch d ∈ phyWrHeader m := by
    rw [phyWrHeader_eq, ← hc]; simp [List.getLast_mem]
  have hf := (dch_facts ⟨d, hd⟩).2.2.1
  cases hb : isBlankLine (phyWrHeader m) with
  | false => rfl
  | true =>
    unfold isBlankLine at hb
    have := List.all_eq_true.mp hb _ hmem
    simp only at hf
    rw [hf] at this; cases this

/-- **the header step**: `" %d %d"` is parsed back to `nseq`, `alen`, and the alignment is allocated -/
theorem phyHeader_write (st : PhySt) (m : Msa) (hn1 : 1 ≤ m.nseq) (ha1 : 1 ≤ m.alen)
    (hn : m.nseq ≤ 2147483647) (ha : m.alen ≤ 2147483647) :
    phyHeader st (phyWrHeader m) =
      .inl { st with phase := .hdr, nseq := m.nseq, alenStated := m.alen,
                     names := List.replicate m.nseq none, rows := List.replicate m.nseq none } := by
  have h1 : memtok (phyWrHeader m) blankTab = some (natDec m.nseq, natDec m.alen) := by
    rw [phyWrHeader_eq, memtok_skip32]
    exact memtok_name_desc _ _ (natDec_nameOk _) (natDec_descOk _)
  have h2 : memtok (natDec m.alen) blankTab = some (natDec m.alen, []) := memtok_name _ (natDec_nameOk _)
  have hc1 : ¬ ((m.nseq : Int) < 1) := by omega
  have hc2 : ¬ ((m.alen : Int) < 1) := by omega
  unfold phyHeader
  simp only [h1, h2, strtoi32_natDec m.nseq hn1 hn, strtoi32_natDec m.alen ha1 ha, hc1, hc2, decide_false, Bool.or_self,
    Bool.false_eq_true, if_false, Int.toNat_natCast]

/-- a name PHYLIP carries without conversion: not empty, graphic characters only (no blank: the reader turns an inner
    blank into `_` and strips outer ones) -/
def phyNameOk (nm : Bytes) : Prop := nm ≠ [] ∧ ∀ c ∈ nm, isGraph c = true

theorem graph_ne (c x : UInt8) (hx : isGraph x = false) (h : isGraph c = true) : c ≠ x := by
  intro e; subst e; rw [h] at hx; cases hx

theorem dropWhile_none {α : Type} (p : α → Bool) (l : List α) (h : ∀ a ∈ l, p a = false) : l.dropWhile p = l :=
  dropWhile_head_stop l fun c hc => h c (List.mem_of_mem_head? hc)

theorem padTrunc10_length (nm : Bytes) : (padTrunc 10 nm).length = 10 := by
  simp [padTrunc, padRight]; omega

/-- `%-10.10s` read back by `phylip_rectify_input_name`: the first 10 characters of the name -/
theorem rectifyName_padTrunc (nm : Bytes) (h : phyNameOk nm) : rectifyName (padTrunc 10 nm) = some (nm.take 10) := by
  obtain ⟨hne, hg⟩ := h
  cases nm with
  | nil => exact absurd rfl hne
  | cons c t =>
    have hc32 : (c == 32) = false := by simpa using graph_ne c 32 (by decide) (hg c (by simp))
    have ht32 : ∀ a ∈ (t.take 9).reverse, (a == 32) = false := by
      intro a ha
      have : a ∈ t := List.mem_of_mem_take (List.mem_reverse.mp ha)
      simpa using graph_ne a 32 (by decide) (hg a (by simp [this]))
    have hpad : padTrunc 10 (c :: t) = c :: (t.take 9 ++ List.replicate (10 - ((t.take 9).length + 1)) 32) := by
      simp [padTrunc, padRight]
    have hstrip : ((t.take 9 ++ List.replicate (10 - ((t.take 9).length + 1)) 32).reverse.dropWhile (· == 32)).reverse = t.take 9 := by
      rw [List.reverse_append, List.reverse_replicate,
        List.dropWhile_append_of_pos (fun a ha => by rw [(List.mem_replicate.mp ha).2]; rfl),
        dropWhile_none _ _ ht32, List.reverse_reverse]
    have hbody : (c :: t.take 9).dropWhile (· == 32) = c :: t.take 9 := by simp [List.dropWhile, hc32]
    have hall : (c :: t.take 9).all (fun x => isGraph x || x == 32) = true := by
      rw [List.all_eq_true]
      intro x hx
      have : x ∈ c :: t := by
        rcases List.mem_cons.mp hx with hx | hx
        · simp [hx]
        · simp [List.mem_of_mem_take hx]
      simp [hg x this]
    have hmap : (c :: t.take 9).map (fun x => if x == 32 then 95 else x) = c :: t.take 9 := by
      conv => rhs; rw [← List.map_id (c :: t.take 9)]
      apply List.map_congr_left
      intro x hx
      have : x ∈ c :: t := by
        rcases List.mem_cons.mp hx with hx | hx
        · simp [hx]
        · simp [List.mem_of_mem_take hx]
      have : (x == 32) = false := by simpa using graph_ne x 32 (by decide) (hg x this)
      simp [this]
    rw [hpad]
    unfold rectifyName
    simp only [hstrip, hbody, hall, if_true, hmap]
    simp

theorem phy_cat_sp (cfg : Cfg) (enc : UInt8 → UInt8) (cur : Option Bytes) (c : Bytes)
    (hsp : mapByte cfg.inmap 32 = (.ok, none))
    (hmaps : ∀ t ∈ c, mapByte cfg.inmap t = (.ok, some (enc t))) :
    (if cfg.digital then dsqcat cfg.inmap cur (32 :: c) else strmapcat cfg.inmap cur (32 :: c))
      = (.ok, some (mkRow cfg.digital (curCodes cfg.digital cur ++ c.map enc))) := by
  have hm : mapLoop cfg.inmap (32 :: c) .ok [] = (.ok, (c.map enc).reverse ++ []) := by
    rw [mapLoop, hsp]
    exact mapLoop_enc cfg.inmap enc c [] hmaps
  have hne' : (32 :: c).isEmpty = false := rfl
  cases hd : cfg.digital with
  | true =>
    simp only [if_true, dsqcat, hne', Bool.false_eq_true, if_false, hm, List.append_nil, List.reverse_reverse, mkRow, curCodes]
  | false =>
    simp only [Bool.false_eq_true, if_false, strmapcat, hne', hm, List.append_nil, List.reverse_reverse, mkRow, curCodes]

theorem phyCat_ok (cfg : Cfg) (st : PhySt) (ldest : Nat) (p : Bytes) (cur : Option Bytes) (codes : Bytes)
    (hrow : st.rows[st.idx]? = some cur) (hlen : rowLen cfg.digital cur = ldest)
    (hcat : (if cfg.digital then dsqcat cfg.inmap cur p else strmapcat cfg.inmap cur p) = (.ok, some (mkRow cfg.digital codes))) :
    phyCat cfg st ldest p = .inl (st.rows.set st.idx (some (mkRow cfg.digital codes)), codes.length) := by
  unfold phyCat
  rw [hrow]
  simp only [hlen, bne_self_eq_false, Bool.false_eq_true, if_false, hcat, rowLen_mkRow]

theorem rangeMap_get {α : Type} (n k : Nat) (f : Nat → α) (hk : k < n) : ((List.range n).map f)[k]? = some (f k) := by
  simp [hk]

theorem rangeMap_set {α : Type} (n k : Nat) (f g : Nat → α) (hk : k < n) (hfg : ∀ j, j < n → j ≠ k → g j = f j) :
    ((List.range n).map f).set k (g k) = (List.range n).map g := by
  apply List.ext_getElem?
  intro i
  rw [List.getElem?_set]
  by_cases hik : k = i
  · subst hik; simp [hk]
  · simp only [hik, if_false]
    by_cases hi : i < n
    · simp [hi, hfg i hi (Ne.symm hik)]
    · rw [List.getElem?_eq_none (by simp; omega), List.getElem?_eq_none (by simp; omega)]

theorem rangeMap_const {α : Type} (n : Nat) (f : Nat → α) (a : α) (h : ∀ j, f j = a) :
    List.replicate n a = (List.range n).map f := by
  apply List.ext_getElem?
  intro i
  by_cases hi : i < n
  · simp [hi, h]
  · rw [List.getElem?_eq_none (by simp; omega), List.getElem?_eq_none (by simp; omega)]

theorem rangeMap_congr {α : Type} (n : Nat) (f g : Nat → α) (h : ∀ j, j < n → f j = g j) :
    (List.range n).map f = (List.range n).map g :=
  List.map_congr_left (fun j hj => h j (List.mem_range.mp hj))

theorem allSomeP_map_some {α : Type} (l : List α) : allSomeP (l.map some) = some l := by
  induction l with
  | nil => rfl
  | cons a t ih => simp [allSomeP, ih]

theorem allSomeP_rangeMap {α : Type} (n : Nat) (f : Nat → Option α) (g : Nat → α) (h : ∀ j, j < n → f j = some (g j)) :
    allSomeP ((List.range n).map f) = some ((List.range n).map g) := by
  rw [rangeMap_congr n f (fun j => some (g j)) h, ← allSomeP_map_some ((List.range n).map g), List.map_map]
  rfl

theorem graph_notDelim (c : UInt8) (h : isGraph c = true) : inDelim blankTab c = false := by
  have h0 := graph_ne c 0 (by decide) h
  have h32 := graph_ne c 32 (by decide) h
  have h9 := graph_ne c 9 (by decide) h
  simp [inDelim, blankTab, h0, h32, h9]

theorem lineOk_of_graph (l : Bytes) (h : ∀ c ∈ l, isGraph c = true ∨ c = 32) : lineOk l := by
  constructor
  · intro h10
    rcases h 10 h10 with h | h
    · exact absurd h (by decide)
    · exact absurd h (by decide)
  · intro h13
    rcases h 13 (List.mem_of_getLast? h13) with h | h
    · exact absurd h (by decide)
    · exact absurd h (by decide)

/-- the name as the strict PHYLIP reader gives it back: the first ten characters -/
def Msa.phyName (m : Msa) (j : Nat) : Bytes := (m.names.getD j []).take 10

/-- everything PHYLIP represents of `m`: names (ten characters), aligned rows; default weights; all annotation dropped -/
def phylipProject (cfg : Cfg) (m : Msa) : Msa :=
  { digital := cfg.digital, kp := cfg.kp, alen := m.alen, names := (List.range m.nseq).map m.phyName,
    aseq := if cfg.digital then [] else (List.range m.nseq).map m.stored,
    ax := if cfg.digital then (List.range m.nseq).map m.stored else [],
    hasw := false, wgt := List.replicate m.nseq Wgt.dflt, sqdesc := none }

theorem phylipProject_names (cfg : Cfg) (m : Msa) : (phylipProject cfg m).names = m.names.map (·.take 10) := by
  show (List.range m.nseq).map m.phyName = _
  apply List.ext_getElem?
  intro i
  by_cases hi : i < m.nseq
  · have hi' : i < m.names.length := hi
    simp [hi, Msa.phyName, List.getD_eq_getElem?_getD, List.getElem?_eq_getElem hi']
  · have hi' : ¬ i < m.names.length := hi
    rw [List.getElem?_eq_none (by simp; omega), List.getElem?_eq_none (by simp; omega)]

/-- an alignment that PHYLIP can carry and `esl_msafile_phylip_Write` + `esl_msafile_phylip_Read` (strict, name width 10,
    configuration `cfg`) preserve.  `txt i` is the text the writer prints for row `i` (after rectification), `enc` sends a
    written symbol to the stored symbol. -/
structure PhylipWritable (abc : Option Abc) (cfg : Cfg) (enc : UInt8 → UInt8) (txt : Nat → Bytes) (m : Msa) : Prop where
  n1 : 1 ≤ m.nseq
  alen1 : 1 ≤ m.alen
  nmax : m.nseq ≤ 2147483647
  amax : m.alen ≤ 2147483647
  name_ok : ∀ i, i < m.nseq → phyNameOk (m.names.getD i [])
  sp : mapByte cfg.inmap 32 = (.ok, none)
  txt_len : ∀ i, i < m.nseq → (txt i).length = m.alen
  buf_eq : ∀ i, i < m.nseq → ∀ pos, phyBuf abc m i pos = ((txt i).drop pos).take 60
  txt_sym : ∀ i, i < m.nseq → ∀ t ∈ txt i, mapByte cfg.inmap t = (.ok, some (enc t)) ∧ isGraph t = true
  row_enc : ∀ i, i < m.nseq → m.stored i = mkRow cfg.digital ((txt i).map enc)

/-- the row under construction after `pos` columns (NULL before the first) -/
def phyRowAt (cfg : Cfg) (enc : UInt8 → UInt8) (txt : Nat → Bytes) (pos j : Nat) : Option Bytes :=
  if pos = 0 then none else some (mkRow cfg.digital (((txt j).take pos).map enc))

theorem curCodes_phyRowAt (cfg : Cfg) (enc : UInt8 → UInt8) (txt : Nat → Bytes) (pos j : Nat) :
    curCodes cfg.digital (phyRowAt cfg enc txt pos j) = ((txt j).take pos).map enc := by
  unfold phyRowAt
  split
  · rename_i h; subst h; simp
  · simp

theorem rowLen_phyRowAt (cfg : Cfg) (enc : UInt8 → UInt8) (txt : Nat → Bytes) (pos j : Nat) :
    rowLen cfg.digital (phyRowAt cfg enc txt pos j) = ((txt j).take pos).length := by
  unfold phyRowAt
  split
  · rename_i h; subst h; simp [rowLen]
  · rw [rowLen_mkRow]; simp

theorem phyRowAt_pos (cfg : Cfg) (enc : UInt8 → UInt8) (txt : Nat → Bytes) (pos j : Nat) (h : pos ≠ 0) :
    phyRowAt cfg enc txt pos j = some (mkRow cfg.digital (((txt j).take pos).map enc)) := by
  simp [phyRowAt, h]

theorem phyRowAt_full (cfg : Cfg) (enc : UInt8 → UInt8) (txt : Nat → Bytes) (pos j : Nat) (h : pos ≠ 0) (hl : (txt j).length ≤ pos) :
    phyRowAt cfg enc txt pos j = some (mkRow cfg.digital ((txt j).map enc)) := by
  rw [phyRowAt_pos _ _ _ _ _ h, List.take_of_length_le hl]

theorem phyName_write (st : PhySt) (nm b : Bytes) (hnm : phyNameOk nm) (hk : st.idx < st.nseq) (hl : st.names.length = st.nseq)
    (hnw : st.nw = 10) :
    phyName st (padTrunc 10 nm ++ 32 :: b) = .inl (st.names.set st.idx (some (nm.take 10)), 32 :: b) := by
  have hlen : ¬ ((padTrunc 10 nm ++ 32 :: b).length < nameWidth) := by simp [padTrunc10_length, nameWidth]
  have htake : (padTrunc 10 nm ++ 32 :: b).take nameWidth = padTrunc 10 nm := List.take_left' (padTrunc10_length nm)
  have hdrop : (padTrunc 10 nm ++ 32 :: b).drop nameWidth = 32 :: b := List.drop_left' (padTrunc10_length nm)
  have h1 : ¬ (st.idx ≥ st.nseq) := by omega
  have h2 : ¬ (st.idx ≥ st.names.length) := by omega
  unfold phyName
  rw [hnw]
  simp only [nameWidth] at hlen htake hdrop
  simp only [hlen, if_false, htake, rectifyName_padTrunc nm hnm, hdrop, h1, h2]

theorem rowLine_notBlank (nm b : Bytes) (hnm : phyNameOk nm) : isBlankLine (padTrunc 10 nm ++ 32 :: b) = false := by
  obtain ⟨hne, hg⟩ := hnm
  cases nm with
  | nil => exact absurd rfl hne
  | cons c t =>
    have hc := graph_notDelim c (hg c (by simp))
    have hpad : padTrunc 10 (c :: t) = c :: (t.take 9 ++ List.replicate (10 - ((t.take 9).length + 1)) 32) := by
      simp [padTrunc, padRight]
    rw [hpad]
    simp [isBlankLine, hc]

/-! ## sequential: state relation and the steps -/

/-- row `j` while sequence `k` is being read, `pos` columns of it consumed -/
def seqRowF (cfg : Cfg) (enc : UInt8 → UInt8) (txt : Nat → Bytes) (m : Msa) (k pos j : Nat) : Option Bytes :=
  if j < k then phyRowAt cfg enc txt m.alen j else if j = k then phyRowAt cfg enc txt pos j else none

/-- name `j` when the first `c` names are set -/
def seqNameF (m : Msa) (c j : Nat) : Option Bytes := if j < c then some (m.phyName j) else none

theorem seqRowF_self (cfg : Cfg) (enc : UInt8 → UInt8) (txt : Nat → Bytes) (m : Msa) (k pos : Nat) :
    seqRowF cfg enc txt m k pos k = phyRowAt cfg enc txt pos k := by
  simp [seqRowF]

theorem seqRowF_other (cfg : Cfg) (enc : UInt8 → UInt8) (txt : Nat → Bytes) (m : Msa) (k pos pos' j : Nat) (h : j ≠ k) :
    seqRowF cfg enc txt m k pos j = seqRowF cfg enc txt m k pos' j := by
  simp [seqRowF, h]

/-- before the name line of sequence `k` -/
structure SeqRtPre (cfg : Cfg) (enc : UInt8 → UInt8) (txt : Nat → Bytes) (m : Msa) (k : Nat) (st : PhySt) : Prop where
  nw : st.nw = 10
  nseq : st.nseq = m.nseq
  alenStated : st.alenStated = m.alen
  idx : st.idx = k
  alen : st.alen = 0
  names : st.names = (List.range m.nseq).map (seqNameF m k)
  rows : st.rows = (List.range m.nseq).map (seqRowF cfg enc txt m k 0)

/-- inside sequence `k`, `pos` columns consumed -/
structure SeqRt (cfg : Cfg) (enc : UInt8 → UInt8) (txt : Nat → Bytes) (m : Msa) (k pos : Nat) (st : PhySt) : Prop where
  nw : st.nw = 10
  phase : st.phase = .rows
  nseq : st.nseq = m.nseq
  alenStated : st.alenStated = m.alen
  idx : st.idx = k
  alen : st.alen = ((txt k).take pos).length
  names : st.names = (List.range m.nseq).map (seqNameF m (k + 1))
  rows : st.rows = (List.range m.nseq).map (seqRowF cfg enc txt m k pos)

theorem phyRowLine_zero (abc : Option Abc) (m : Msa) (k : Nat) :
    phyRowLine abc m k 0 = padTrunc 10 (m.names.getD k []) ++ 32 :: phyBuf abc m k 0 := by
  simp [phyRowLine, phyNameWidth]

theorem phyRowLine_pos (abc : Option Abc) (m : Msa) (k pos : Nat) (h : 0 < pos) : phyRowLine abc m k pos = phyBuf abc m k pos := by
  have : (pos == 0) = false := by simp; omega
  simp [phyRowLine, this]

theorem buf_ne_nil (txt : Bytes) (pos : Nat) (h : pos < txt.length) : (txt.drop pos).take 60 ≠ [] := by
  intro h0
  have : ((txt.drop pos).take 60).length = 0 := by rw [h0]; rfl
  simp at this
  omega

theorem take_step (txt : Bytes) (pos : Nat) : txt.take (pos + 60) = txt.take pos ++ (txt.drop pos).take 60 := List.take_add

/-- appending the next piece of row `k` (the 60 characters from column `pos`, behind a blank if `lead`) to a table of rows that
    holds `pos` columns of row `k`: the table that holds `pos + 60` of them, whatever the other rows are -/
theorem phyCat_row (cfg : Cfg) (enc : UInt8 → UInt8) (txt : Nat → Bytes) (n k : Nat) (hk : k < n) (F F' : Nat → Option Bytes) (pos : Nat)
    (hF : F k = phyRowAt cfg enc txt pos k) (hF' : F' k = phyRowAt cfg enc txt (pos + 60) k) (hoth : ∀ j, j ≠ k → F' j = F j)
    (st : PhySt) (hidx : st.idx = k) (hrows : st.rows = (List.range n).map F) (ldest : Nat) (hl : ldest = ((txt k).take pos).length)
    (lead : Bool) (hsp : lead = true → mapByte cfg.inmap 32 = (.ok, none)) (hne : lead = false → pos < (txt k).length)
    (hmaps : ∀ t ∈ txt k, mapByte cfg.inmap t = (.ok, some (enc t))) :
    phyCat cfg st ldest ((if lead then [32] else []) ++ ((txt k).drop pos).take 60)
      = .inl ((List.range n).map F', (((txt k).take (pos + 60)).map enc).length) := by
  have hrow : st.rows[st.idx]? = some (phyRowAt cfg enc txt pos k) := by rw [hrows, hidx, rangeMap_get _ _ _ hk, hF]
  have hlen : rowLen cfg.digital (phyRowAt cfg enc txt pos k) = ldest := by rw [hl, rowLen_phyRowAt]
  have hm : ∀ t ∈ ((txt k).drop pos).take 60, mapByte cfg.inmap t = (.ok, some (enc t)) :=
    fun t ht => hmaps t (List.mem_of_mem_drop (List.mem_of_mem_take ht))
  have hcat : (if cfg.digital then dsqcat cfg.inmap (phyRowAt cfg enc txt pos k) ((if lead then [32] else []) ++ ((txt k).drop pos).take 60)
      else strmapcat cfg.inmap (phyRowAt cfg enc txt pos k) ((if lead then [32] else []) ++ ((txt k).drop pos).take 60))
      = (.ok, some (mkRow cfg.digital (((txt k).take (pos + 60)).map enc))) := by
    rw [take_step (txt k) pos, List.map_append, ← curCodes_phyRowAt cfg enc txt pos k]
    cases lead with
    | true => exact phy_cat_sp cfg enc _ _ (hsp rfl) hm
    | false => exact phy_cat_plain cfg enc _ _ (buf_ne_nil _ _ (hne rfl)) hm
  rw [phyCat_ok cfg st ldest _ _ _ hrow hlen hcat, hrows, hidx, ← phyRowAt_pos cfg enc txt (pos + 60) k (by omega), ← hF',
    rangeMap_set n k F F' hk fun j _ hjk => hoth j hjk]

theorem seqNameF_succ (m : Msa) (k j : Nat) (hjk : j ≠ k) : seqNameF m (k + 1) j = seqNameF m k j := by
  unfold seqNameF
  by_cases h1 : j < k
  · have : j < k + 1 := by omega
    simp [h1, this]
  · have : ¬ j < k + 1 := by omega
    simp [h1, this]

/-- the name field of row `k`'s line in the first block, on a table of names of which the first `k` are set: the twin of `phyCat_row` -/
theorem phyName_row (abc : Option Abc) (cfg : Cfg) (enc : UInt8 → UInt8) (txt : Nat → Bytes) (m : Msa)
    (h : PhylipWritable abc cfg enc txt m) (k : Nat) (hk : k < m.nseq) (st : PhySt) (hnw : st.nw = 10) (hn : st.nseq = m.nseq)
    (hidx : st.idx = k) (hnames : st.names = (List.range m.nseq).map (seqNameF m k)) :
    phyName st (phyRowLine abc m k 0) = .inl ((List.range m.nseq).map (seqNameF m (k + 1)), 32 :: ((txt k).drop 0).take 60) := by
  have hg : some ((m.names.getD k []).take 10) = seqNameF m (k + 1) k := by simp [seqNameF, Msa.phyName]
  rw [phyRowLine_zero, h.buf_eq k hk 0, phyName_write st _ _ (h.name_ok k hk) (by rw [hidx, hn]; exact hk) (by rw [hnames, hn]; simp) hnw,
    hnames, hidx, hg, rangeMap_set _ _ (seqNameF m k) (seqNameF m (k + 1)) hk fun j _ hjk => seqNameF_succ m k j hjk]

theorem seqLine_first (abc : Option Abc) (cfg : Cfg) (enc : UInt8 → UInt8) (txt : Nat → Bytes) (m : Msa)
    (h : PhylipWritable abc cfg enc txt m) (k : Nat) (hk : k < m.nseq) (st : PhySt) (hst : SeqRtPre cfg enc txt m k st) :
    ∃ st', seqLine cfg st (phyRowLine abc m k 0) = .inl st' ∧ SeqRt cfg enc txt m k 60 st' := by
  have hnif : phyNameIf (st.alen == 0) st (phyRowLine abc m k 0)
      = .inl ((List.range m.nseq).map (seqNameF m (k + 1)), 32 :: ((txt k).drop 0).take 60) := by
    rw [hst.alen]
    exact phyName_row abc cfg enc txt m h k hk st hst.nw hst.nseq hst.idx hst.names
  have hpc := phyCat_row cfg enc txt m.nseq k hk _ (seqRowF cfg enc txt m k 60) 0 (seqRowF_self cfg enc txt m k 0)
    (seqRowF_self cfg enc txt m k 60) (fun j hjk => seqRowF_other cfg enc txt m k 60 0 j hjk)
    st hst.idx hst.rows st.alen (by rw [hst.alen]; rfl) true (fun _ => h.sp) nofun (fun t ht => (h.txt_sym k hk t ht).1)
  refine ⟨{ st with phase := .rows, names := (List.range m.nseq).map (seqNameF m (k + 1)),
                    rows := (List.range m.nseq).map (seqRowF cfg enc txt m k 60),
                    alen := (((txt k).take 60).map enc).length }, ?_, ?_⟩
  · unfold seqLine
    rw [hnif]
    simp only [if_true, List.singleton_append] at hpc
    simp only [hpc]
  · exact { nw := hst.nw, phase := rfl, nseq := hst.nseq, alenStated := hst.alenStated, idx := hst.idx, alen := by simp
            names := rfl, rows := rfl }

theorem phylipStep_rows (sequential : Bool) (cfg : Cfg) (st : PhySt) (l : Bytes) (h : st.phase = .rows) :
    phylipStep sequential cfg st l = if sequential then seqStep cfg st l else ilvStep cfg st l := by
  unfold phylipStep; rw [h]

theorem phylipStep_gap (sequential : Bool) (cfg : Cfg) (st : PhySt) (l : Bytes) (h : st.phase = .gap) :
    phylipStep sequential cfg st l = if sequential then seqStep cfg st l else ilvStep cfg st l := by
  unfold phylipStep; rw [h]

theorem seqStep_block (abc : Option Abc) (cfg : Cfg) (enc : UInt8 → UInt8) (txt : Nat → Bytes) (m : Msa)
    (h : PhylipWritable abc cfg enc txt m) (k : Nat) (hk : k < m.nseq) (pos : Nat) (hpos0 : 0 < pos) (hpos : pos < m.alen)
    (st : PhySt) (hst : SeqRt cfg enc txt m k pos st) :
    ∃ st', phylipStep true cfg st (phyRowLine abc m k pos) = .inl st' ∧ SeqRt cfg enc txt m k (pos + 60) st' := by
  have hlenT := h.txt_len k hk
  have hline : phyRowLine abc m k pos = ((txt k).drop pos).take 60 := by
    rw [phyRowLine_pos abc m k pos hpos0, h.buf_eq k hk pos]
  have halen : st.alen = pos := by rw [hst.alen, List.length_take, hlenT]; omega
  have hnif : phyNameIf (st.alen == 0) st (phyRowLine abc m k pos) = .inl (st.names, ((txt k).drop pos).take 60) := by
    have : (st.alen == 0) = false := by rw [halen]; simp; omega
    rw [this, hline]; rfl
  have hpc := phyCat_row cfg enc txt m.nseq k hk _ (seqRowF cfg enc txt m k (pos + 60)) pos (seqRowF_self cfg enc txt m k pos)
    (seqRowF_self cfg enc txt m k (pos + 60)) (fun j hjk => seqRowF_other cfg enc txt m k (pos + 60) pos j hjk)
    st hst.idx hst.rows st.alen hst.alen false nofun (fun _ => by rw [hlenT]; exact hpos) (fun t ht => (h.txt_sym k hk t ht).1)
  refine ⟨{ st with phase := .rows, rows := (List.range m.nseq).map (seqRowF cfg enc txt m k (pos + 60)),
                    alen := (((txt k).take (pos + 60)).map enc).length }, ?_, ?_⟩
  · rw [phylipStep_rows true cfg st _ hst.phase]
    simp only [if_true]
    unfold seqStep
    have hlt : st.alen < st.alenStated := by rw [halen, hst.alenStated]; exact hpos
    simp only [hst.phase, hlt, if_true]
    unfold seqLine
    rw [hnif]
    simp only [Bool.false_eq_true, if_false, List.nil_append] at hpc
    simp only [hpc]
  · exact { nw := hst.nw, phase := rfl, nseq := hst.nseq, alenStated := hst.alenStated, idx := hst.idx, alen := by simp
            names := hst.names, rows := rfl }

theorem SeqRt.full (cfg : Cfg) (enc : UInt8 → UInt8) (txt : Nat → Bytes) (m : Msa) (k pos : Nat) (st : PhySt)
    (hl : (txt k).length = m.alen) (ha : 1 ≤ m.alen) (hpos : m.alen ≤ pos) (hst : SeqRt cfg enc txt m k pos st) :
    SeqRt cfg enc txt m k m.alen st :=
  { nw := hst.nw, phase := hst.phase, nseq := hst.nseq, alenStated := hst.alenStated, idx := hst.idx,
    alen := by rw [hst.alen, List.take_of_length_le (by omega), List.take_of_length_le (by omega)]
    names := hst.names
    rows := by
      rw [hst.rows]
      apply rangeMap_congr
      intro j _
      by_cases hjk : j = k
      · subst hjk
        rw [seqRowF_self, seqRowF_self, phyRowAt_full _ _ _ _ _ (by omega) (by omega), phyRowAt_full _ _ _ _ _ (by omega) (by omega)]
      · exact seqRowF_other cfg enc txt m k pos m.alen j hjk }

theorem padTrunc_chars (nm : Bytes) (h : phyNameOk nm) : ∀ c ∈ padTrunc 10 nm, isGraph c = true ∨ c = 32 := by
  intro c hc
  simp only [padTrunc, padRight, List.mem_append, List.mem_replicate] at hc
  rcases hc with hc | hc
  · exact Or.inl (h.2 c (List.mem_of_mem_take hc))
  · exact Or.inr hc.2

theorem phyBuf_chars (abc : Option Abc) (cfg : Cfg) (enc : UInt8 → UInt8) (txt : Nat → Bytes) (m : Msa)
    (h : PhylipWritable abc cfg enc txt m) (k : Nat) (hk : k < m.nseq) (pos : Nat) : ∀ c ∈ phyBuf abc m k pos, isGraph c = true := by
  intro c hc
  rw [h.buf_eq k hk pos] at hc
  exact (h.txt_sym k hk c (List.mem_of_mem_drop (List.mem_of_mem_take hc))).2

theorem phyRowLine_ok (abc : Option Abc) (cfg : Cfg) (enc : UInt8 → UInt8) (txt : Nat → Bytes) (m : Msa)
    (h : PhylipWritable abc cfg enc txt m) (k : Nat) (hk : k < m.nseq) (pos : Nat) : lineOk (phyRowLine abc m k pos) := by
  apply lineOk_of_graph
  intro c hc
  by_cases hp : pos = 0
  · subst hp
    rw [phyRowLine_zero] at hc
    rcases List.mem_append.mp hc with hc | hc
    · exact padTrunc_chars _ (h.name_ok k hk) c hc
    · rcases List.mem_cons.mp hc with hc | hc
      · exact Or.inr hc
      · exact Or.inl (phyBuf_chars abc cfg enc txt m h k hk 0 c hc)
  · rw [phyRowLine_pos abc m k pos (by omega)] at hc
    exact Or.inl (phyBuf_chars abc cfg enc txt m h k hk pos c hc)

theorem phyWrHeader_ok (m : Msa) : lineOk (phyWrHeader m) := by
  apply lineOk_of_graph
  intro c hc
  rw [phyWrHeader_eq] at hc
  have hd : ∀ n, c ∈ natDec n → isGraph c = true := by
    intro n hn
    obtain ⟨d, hd, rfl⟩ := natDec_mem n c hn
    exact dch_graph ⟨d, hd⟩
  rcases List.mem_cons.mp hc with hc | hc
  · exact Or.inr hc
  · rcases List.mem_append.mp hc with hc | hc
    · exact Or.inl (hd _ hc)
    · rcases List.mem_cons.mp hc with hc | hc
      · exact Or.inr hc
      · exact Or.inl (hd _ hc)

theorem blockStarts_cons (alen : Nat) (h : 1 ≤ alen) : blockStarts alen phyRpl = 0 :: blockStartsFrom alen phyRpl phyRpl := by
  have hc : 0 < alen ∧ 0 < phyRpl := ⟨h, by decide⟩
  unfold blockStarts
  rw [blockStartsFrom]
  simp only [hc, and_self, dite_true, Nat.zero_add]

/-- the lines of sequence `k`, from any state in `pre` that reads its first line as a state ready for sequence `k` does -/
theorem seqSeq_reads (abc : Option Abc) (cfg : Cfg) (enc : UInt8 → UInt8) (txt : Nat → Bytes) (m : Msa)
    (h : PhylipWritable abc cfg enc txt m) (k : Nat) (hk : k < m.nseq) (pre : PhySt → Prop)
    (hpre : ∀ s, pre s → ∃ s0, SeqRtPre cfg enc txt m k s0 ∧
      phylipStep true cfg s (phyRowLine abc m k 0) = seqLine cfg s0 (phyRowLine abc m k 0)) :
    Reads (phylipStep true cfg) pre ((blockStarts m.alen phyRpl).map (phyRowLine abc m k)) (SeqRt cfg enc txt m k m.alen) := by
  rw [List.map_eq_flatMap]
  refine (Reads.blocks (I := fun pos => SeqRt cfg enc txt m k (pos + 60)) (by decide) h.alen1
    (Reads.one (phyRowLine_ok abc cfg enc txt m h k hk 0) fun s hs => ?_)
    fun pos hlt => Reads.one (phyRowLine_ok abc cfg enc txt m h k hk _)
      (seqStep_block abc cfg enc txt m h k hk (pos + 60) (by omega) hlt)).mono (fun _ hs => hs)
    fun st ⟨pos, hst, _, hlast⟩ => hst.full cfg enc txt m k (pos + 60) st (h.txt_len k hk) h.alen1 hlast
  obtain ⟨s0, hs0, hf⟩ := hpre s hs
  rw [hf]
  exact seqLine_first abc cfg enc txt m h k hk s0 hs0

theorem phyRowLine_zero_notBlank (abc : Option Abc) (m : Msa) (k : Nat) (hn : phyNameOk (m.names.getD k [])) :
    isBlankLine (phyRowLine abc m k 0) = false := by
  rw [phyRowLine_zero]; exact rowLine_notBlank _ _ hn

theorem seqStep_next (abc : Option Abc) (cfg : Cfg) (enc : UInt8 → UInt8) (txt : Nat → Bytes) (m : Msa)
    (h : PhylipWritable abc cfg enc txt m) (k : Nat) (hk : k + 1 < m.nseq) (st : PhySt) (hst : SeqRt cfg enc txt m k m.alen st) :
    ∃ st0, phylipStep true cfg st (phyRowLine abc m (k + 1) 0) = seqLine cfg st0 (phyRowLine abc m (k + 1) 0) ∧
      SeqRtPre cfg enc txt m (k + 1) st0 := by
  have hlenT := h.txt_len k (by omega)
  have halen : st.alen = m.alen := by rw [hst.alen, List.take_of_length_le (by omega), hlenT]
  have ha1 := h.alen1
  refine ⟨{ st with idx := st.idx + 1, alen := 0 }, ?_, ?_⟩
  · rw [phylipStep_rows true cfg st _ hst.phase]
    simp only [if_true]
    unfold seqStep
    have hlt : ¬ (st.alen < st.alenStated) := by rw [halen, hst.alenStated]; omega
    simp only [hst.phase, hlt, if_false, phyRowLine_zero_notBlank abc m (k + 1) (h.name_ok (k + 1) hk), Bool.false_eq_true]
    unfold seqNext
    have h1 : (st.alen != st.alenStated) = false := by rw [halen, hst.alenStated]; simp
    have h2 : st.idx + 1 < st.nseq := by rw [hst.idx, hst.nseq]; exact hk
    simp only [h1, Bool.false_eq_true, if_false, h2, if_true, hst.phase]
  · exact
      { nw := hst.nw, nseq := hst.nseq, alenStated := hst.alenStated
        idx := by show st.idx + 1 = k + 1; rw [hst.idx]
        alen := rfl
        names := hst.names
        rows := by
          show st.rows = _
          rw [hst.rows]
          apply rangeMap_congr
          intro j _
          unfold seqRowF
          by_cases h1 : j < k
          · have : j < k + 1 := by omega
            simp [h1, this]
          · by_cases h2 : j = k
            · subst h2; simp
            · have h3 : ¬ j < k + 1 := by omega
              by_cases h4 : j = k + 1
              · subst h4
                have h5 : ¬ (k + 1 < k) := by omega
                simp [h5, phyRowAt]
              · simp [h1, h2, h3, h4] }

theorem phylipStep_header (sequential : Bool) (abc : Option Abc) (cfg : Cfg) (enc : UInt8 → UInt8) (txt : Nat → Bytes) (m : Msa)
    (h : PhylipWritable abc cfg enc txt m) :
    phylipStep sequential cfg {} (phyWrHeader m) =
      .inl { phase := .hdr, nseq := m.nseq, alenStated := m.alen, names := List.replicate m.nseq none, rows := List.replicate m.nseq none } := by
  unfold phylipStep
  simp only [phyWrHeader_notBlank, Bool.false_eq_true, if_false]
  exact phyHeader_write {} m h.n1 h.alen1 h.nmax h.amax

theorem phylipSequentialLines_reads (abc : Option Abc) (cfg : Cfg) (enc : UInt8 → UInt8) (txt : Nat → Bytes) (m : Msa)
    (h : PhylipWritable abc cfg enc txt m) :
    Reads (phylipStep true cfg) (· = {}) (phylipSequentialLines abc m) (fun s => SeqRt cfg enc txt m (m.nseq - 1) m.alen s) := by
  refine (Reads.eq (phyWrHeader_ok m) (phylipStep_header true abc cfg enc txt m h)).cons
    (Reads.rangeFrom (R := fun k s => SeqRt cfg enc txt m k m.alen s)
      (f := fun idx => (blockStarts m.alen phyRpl).map fun apos => phyRowLine abc m idx apos) h.n1
      (seqSeq_reads abc cfg enc txt m h 0 h.n1 _ fun s hs => ?_)
      fun j hj => seqSeq_reads abc cfg enc txt m h (j + 1) hj _ fun s hs => ?_)
  · subst hs
    refine ⟨{ phase := .hdr, nseq := m.nseq, alenStated := m.alen, names := List.replicate m.nseq none,
              rows := List.replicate m.nseq none, idx := 0, alen := 0 },
      { nw := rfl, nseq := rfl, alenStated := rfl, idx := rfl, alen := rfl
        names := rangeMap_const _ _ _ (fun j => by simp [seqNameF])
        rows := rangeMap_const _ _ _ (fun j => by simp [seqRowF, phyRowAt]) }, ?_⟩
    unfold phylipStep
    simp only [phyRowLine_zero_notBlank abc m 0 (h.name_ok 0 h.n1), Bool.false_eq_true, if_false, phyFirst, if_true]
  · obtain ⟨s0, hf, hs0⟩ := seqStep_next abc cfg enc txt m h j hj s hs
    exact ⟨s0, hs0, hf⟩

theorem seqFinish_after (abc : Option Abc) (cfg : Cfg) (enc : UInt8 → UInt8) (txt : Nat → Bytes) (m : Msa)
    (h : PhylipWritable abc cfg enc txt m) (st : PhySt) (hst : SeqRt cfg enc txt m (m.nseq - 1) m.alen st) :
    phylipFinish true cfg st = .ok (phylipProject cfg m, none) := by
  have hn := h.n1
  have ha1 := h.alen1
  have hlenT := h.txt_len (m.nseq - 1) (by omega)
  have halen : st.alen = m.alen := by rw [hst.alen, List.take_of_length_le (by omega), hlenT]
  have hnames : allSomeP st.names = some ((List.range m.nseq).map m.phyName) := by
    rw [hst.names]
    apply allSomeP_rangeMap
    intro j hj
    have : j < m.nseq - 1 + 1 := by omega
    simp [seqNameF, this]
  have hrows : allSomeP st.rows = some ((List.range m.nseq).map m.stored) := by
    rw [hst.rows]
    apply allSomeP_rangeMap
    intro j hj
    have hl := h.txt_len j hj
    unfold seqRowF
    by_cases h1 : j < m.nseq - 1
    · simp only [h1, if_true]
      rw [phyRowAt_full _ _ _ _ _ (by omega) (by omega), h.row_enc j hj]
    · have h2 : j = m.nseq - 1 := by omega
      rw [if_neg h1, if_pos h2, phyRowAt_full _ _ _ _ _ (by omega) (by omega), h.row_enc j hj]
  unfold phylipFinish
  simp only [hst.phase, if_true]
  unfold seqFinish
  have h1 : ¬ (st.idx + 1 < st.nseq) := by rw [hst.idx, hst.nseq]; omega
  have h2 : (st.alen != st.alenStated) = false := by rw [halen, hst.alenStated]; simp
  simp only [hst.phase, h1, if_false, h2, Bool.false_eq_true]
  unfold phyDone
  simp only [hnames, hrows, halen, phylipProject, List.length_map, List.length_range]

/-- **sequential PHYLIP round trip on lines** -/
theorem phylipsRead_writeLines (abc : Option Abc) (cfg : Cfg) (enc : UInt8 → UInt8) (txt : Nat → Bytes) (m : Msa)
    (h : PhylipWritable abc cfg enc txt m) :
    phylipRead true cfg (phylipSequentialLines abc m) = (.ok (phylipProject cfg m), []) := by
  rw [phylipRead, (phylipSequentialLines_reads abc cfg enc txt m h).readLines (seqFinish_after abc cfg enc txt m h)]
  rfl

/-- **sequential PHYLIP round trip on bytes** -/
theorem phylipsRead_write (abc : Option Abc) (cfg : Cfg) (enc : UInt8 → UInt8) (txt : Nat → Bytes) (m : Msa)
    (h : PhylipWritable abc cfg enc txt m) :
    phylipRead true cfg (splitLines (phylipWrite true abc m)) = (.ok (phylipProject cfg m), []) := by
  unfold phylipWrite
  simp only [if_true]
  rw [phylipSequentialWrite, phylipRead,
    (phylipSequentialLines_reads abc cfg enc txt m h).read (seqFinish_after abc cfg enc txt m h)]
  rfl

/-! ## interleaved: state relation and the steps -/

/-- the lines `phylip_interleaved_Write` prints: header, first block (with names), then for every further block an empty
    line and the block -/
def phylipInterleavedLines (abc : Option Abc) (m : Msa) : List Bytes :=
  phyWrHeader m :: ((List.range m.nseq).map (fun idx => phyRowLine abc m idx 0)
    ++ (blockStartsFrom m.alen phyRpl phyRpl).flatMap (fun apos => [] :: (List.range m.nseq).map (fun idx => phyRowLine abc m idx apos)))

theorem phylipInterleavedWrite_eq (abc : Option Abc) (m : Msa) (h : 1 ≤ m.alen) :
    phylipInterleavedWrite abc m = joinLF (phylipInterleavedLines abc m) := by
  unfold phylipInterleavedWrite phylipInterleavedLines joinLF
  rw [blockStarts_cons m.alen h]
  simp [joinLF, List.flatMap_assoc, List.flatMap_append, List.flatMap_cons]

/-- columns in the block that starts at `pos` -/
def blockLen (m : Msa) (pos : Nat) : Nat := min (pos + 60) m.alen - pos

/-- row `j` in the block starting at `pos` when `idx` rows of the block are read -/
def ilvRowF (cfg : Cfg) (enc : UInt8 → UInt8) (txt : Nat → Bytes) (pos idx j : Nat) : Option Bytes :=
  if j < idx then phyRowAt cfg enc txt (pos + 60) j else phyRowAt cfg enc txt pos j

/-- number of names set: only the first block carries names -/
def ilvNameC (m : Msa) (pos idx : Nat) : Nat := if pos = 0 then idx else m.nseq

/-- in front of row `idx` of the block starting at `pos` -/
structure IlvPre (cfg : Cfg) (enc : UInt8 → UInt8) (txt : Nat → Bytes) (m : Msa) (pos i : Nat) (st : PhySt) : Prop where
  nw : st.nw = 10
  nseq : st.nseq = m.nseq
  alenStated : st.alenStated = m.alen
  idx : st.idx = i
  alen : st.alen = pos
  nb : (st.nblocks == 0) = decide (pos = 0)
  blk : i ≠ 0 → st.blockAlen = blockLen m pos
  names : st.names = (List.range m.nseq).map (seqNameF m (ilvNameC m pos i))
  rows : st.rows = (List.range m.nseq).map (ilvRowF cfg enc txt pos i)

/-- … and the row loop is running -/
structure IlvRt (cfg : Cfg) (enc : UInt8 → UInt8) (txt : Nat → Bytes) (m : Msa) (pos idx : Nat) (st : PhySt) : Prop where
  phase : st.phase = .rows
  pre : IlvPre cfg enc txt m pos idx st

theorem phyRowLine_notBlank (abc : Option Abc) (cfg : Cfg) (enc : UInt8 → UInt8) (txt : Nat → Bytes) (m : Msa)
    (h : PhylipWritable abc cfg enc txt m) (k : Nat) (hk : k < m.nseq) (pos : Nat) (hpos : pos < m.alen) :
    isBlankLine (phyRowLine abc m k pos) = false := by
  by_cases hp : pos = 0
  · subst hp; exact phyRowLine_zero_notBlank abc m k (h.name_ok k hk)
  · rw [phyRowLine_pos abc m k pos (by omega), h.buf_eq k hk pos]
    have hne := buf_ne_nil (txt k) pos (by rw [h.txt_len k hk]; exact hpos)
    cases hb : ((txt k).drop pos).take 60 with
    | nil => exact absurd hb hne
    | cons c t =>
      have hc : c ∈ txt k := List.mem_of_mem_drop (List.mem_of_mem_take (by rw [hb]; simp))
      simp [isBlankLine, graph_notDelim c (h.txt_sym k hk c hc).2]

theorem ilvRowF_other (cfg : Cfg) (enc : UInt8 → UInt8) (txt : Nat → Bytes) (pos idx j : Nat) (h : j ≠ idx) :
    ilvRowF cfg enc txt pos (idx + 1) j = ilvRowF cfg enc txt pos idx j := by
  unfold ilvRowF
  by_cases h1 : j < idx
  · rw [if_pos h1, if_pos (by omega)]
  · rw [if_neg h1, if_neg (by omega)]

theorem ilvLine_row (abc : Option Abc) (cfg : Cfg) (enc : UInt8 → UInt8) (txt : Nat → Bytes) (m : Msa)
    (h : PhylipWritable abc cfg enc txt m) (pos : Nat) (hpos : pos < m.alen) (idx : Nat) (hidx : idx < m.nseq)
    (st : PhySt) (hst : IlvPre cfg enc txt m pos idx st) :
    ∃ st', ilvLine cfg st (phyRowLine abc m idx pos) = .inl st' ∧ IlvRt cfg enc txt m pos (idx + 1) st' := by
  have hlenT := h.txt_len idx hidx
  -- the name field (first block only) and the piece behind it
  have hnif : phyNameIf (st.nblocks == 0) st (phyRowLine abc m idx pos)
      = .inl ((List.range m.nseq).map (seqNameF m (ilvNameC m pos (idx + 1))),
          (if decide (pos = 0) then [32] else []) ++ ((txt idx).drop pos).take 60) := by
    by_cases hp : pos = 0
    · subst hp
      rw [hst.nb]
      exact phyName_row abc cfg enc txt m h idx hidx st hst.nw hst.nseq hst.idx hst.names
    · have hline : phyRowLine abc m idx pos = ((txt idx).drop pos).take 60 := by
        rw [phyRowLine_pos abc m idx pos (by omega), h.buf_eq idx hidx pos]
      have hd : decide (pos = 0) = false := by simp [hp]
      rw [hst.nb, hline, hd]
      simp only [phyNameIf, Bool.false_eq_true, if_false, hst.names, List.nil_append]
      rw [show ilvNameC m pos idx = ilvNameC m pos (idx + 1) by simp [ilvNameC, hp]]
  have hpc := phyCat_row cfg enc txt m.nseq idx hidx _ (ilvRowF cfg enc txt pos (idx + 1)) pos (by simp [ilvRowF]) (by simp [ilvRowF])
    (ilvRowF_other cfg enc txt pos idx) st hst.idx hst.rows st.alen (by rw [hst.alen, List.length_take, hlenT]; omega)
    (decide (pos = 0)) (fun _ => h.sp) (fun _ => by rw [hlenT]; exact hpos) (fun t ht => (h.txt_sym idx hidx t ht).1)
  have hclen : (((txt idx).take (pos + 60)).map enc).length - st.alen = blockLen m pos := by
    rw [hst.alen, List.length_map, List.length_take, hlenT]; rfl
  have mk : ∀ ba, ba = blockLen m pos →
      IlvRt cfg enc txt m pos (idx + 1)
        { st with phase := .rows, names := (List.range m.nseq).map (seqNameF m (ilvNameC m pos (idx + 1))),
                  rows := (List.range m.nseq).map (ilvRowF cfg enc txt pos (idx + 1)), blockAlen := ba, idx := st.idx + 1 } :=
    fun ba hba =>
      { phase := rfl
        pre := { nw := hst.nw, nseq := hst.nseq, alenStated := hst.alenStated
                 idx := by show st.idx + 1 = idx + 1; rw [hst.idx]
                 alen := hst.alen, nb := hst.nb, blk := fun _ => hba, names := rfl, rows := rfl } }
  unfold ilvLine
  rw [hnif]
  simp only [hpc]
  by_cases h0 : idx = 0
  · have : (st.idx == 0) = true := by rw [hst.idx, h0]; rfl
    simp only [this, if_true]
    exact ⟨_, rfl, mk _ hclen⟩
  · have : (st.idx == 0) = false := by rw [hst.idx]; simpa using h0
    have hb : ((((txt idx).take (pos + 60)).map enc).length - st.alen != st.blockAlen) = false := by
      rw [hclen, hst.blk h0]; simp
    simp only [this, Bool.false_eq_true, if_false, hb]
    exact ⟨_, rfl, mk _ (hst.blk h0)⟩

theorem ilvStep_row (abc : Option Abc) (cfg : Cfg) (enc : UInt8 → UInt8) (txt : Nat → Bytes) (m : Msa)
    (h : PhylipWritable abc cfg enc txt m) (pos : Nat) (hpos : pos < m.alen) (idx : Nat) (hidx : idx < m.nseq)
    (st : PhySt) (hst : IlvRt cfg enc txt m pos idx st) :
    ∃ st', phylipStep false cfg st (phyRowLine abc m idx pos) = .inl st' ∧ IlvRt cfg enc txt m pos (idx + 1) st' := by
  rw [phylipStep_rows false cfg st _ hst.phase]
  simp only [Bool.false_eq_true, if_false]
  unfold ilvStep
  have hc : (decide (st.idx < st.nseq) && !isBlankLine (phyRowLine abc m idx pos)) = true := by
    rw [phyRowLine_notBlank abc cfg enc txt m h idx hidx pos hpos, hst.pre.idx, hst.pre.nseq]
    simp [hidx]
  simp only [hst.phase, hc, if_true]
  exact ilvLine_row abc cfg enc txt m h pos hpos idx hidx st hst.pre

/-- the rows of the block at `pos`, from any state in `pre` that reads the first row as a state ready for the block does -/
theorem ilvRows_reads (abc : Option Abc) (cfg : Cfg) (enc : UInt8 → UInt8) (txt : Nat → Bytes) (m : Msa)
    (h : PhylipWritable abc cfg enc txt m) (pos : Nat) (hpos : pos < m.alen) (pre : PhySt → Prop)
    (hpre : ∀ s, pre s → ∃ s0, IlvPre cfg enc txt m pos 0 s0 ∧
      phylipStep false cfg s (phyRowLine abc m 0 pos) = ilvLine cfg s0 (phyRowLine abc m 0 pos)) :
    Reads (phylipStep false cfg) pre ((List.range m.nseq).map fun idx => phyRowLine abc m idx pos) (IlvRt cfg enc txt m pos m.nseq) :=
  Reads.rowsFrom (R := IlvRt cfg enc txt m pos) (line := fun idx => phyRowLine abc m idx pos) h.n1
    (Reads.one (phyRowLine_ok abc cfg enc txt m h 0 h.n1 pos) fun s hs => by
      obtain ⟨s0, hs0, hf⟩ := hpre s hs
      rw [hf]
      exact ilvLine_row abc cfg enc txt m h pos hpos 0 h.n1 s0 hs0)
    fun i _ hi => Reads.one (phyRowLine_ok abc cfg enc txt m h i hi pos) (ilvStep_row abc cfg enc txt m h pos hpos i hi)

theorem blockLen_full (m : Msa) (pos : Nat) (h : pos + 60 ≤ m.alen) : pos + blockLen m pos = pos + 60 := by
  unfold blockLen; omega

theorem blockLen_last (m : Msa) (pos : Nat) (h1 : pos < m.alen) (h : m.alen ≤ pos + 60) : pos + blockLen m pos = m.alen := by
  unfold blockLen; omega

theorem ilvStep_gap (abc : Option Abc) (cfg : Cfg) (enc : UInt8 → UInt8) (txt : Nat → Bytes) (m : Msa)
    (h : PhylipWritable abc cfg enc txt m) (pos : Nat) (hnext : pos + 60 < m.alen)
    (st : PhySt) (hst : IlvRt cfg enc txt m pos m.nseq st) :
    ∃ stg st0, phylipStep false cfg st [] = .inl stg ∧
      phylipStep false cfg stg (phyRowLine abc m 0 (pos + 60)) = ilvLine cfg st0 (phyRowLine abc m 0 (pos + 60)) ∧
      IlvPre cfg enc txt m (pos + 60) 0 st0 := by
  have hn := h.n1
  have hblk := hst.pre.blk (by omega)
  have hal : st.alen + st.blockAlen = pos + 60 := by rw [hst.pre.alen, hblk]; exact blockLen_full m pos (by omega)
  refine ⟨{ st with nblocks := st.nblocks + 1, alen := st.alen + st.blockAlen, idx := 0, phase := .gap },
          { st with nblocks := st.nblocks + 1, alen := st.alen + st.blockAlen, idx := 0, phase := .gap }, ?_, ?_, ?_⟩
  · rw [phylipStep_rows false cfg st _ hst.phase]
    simp only [Bool.false_eq_true, if_false]
    unfold ilvStep
    have hc : ¬ (st.idx < st.nseq) := by rw [hst.pre.idx, hst.pre.nseq]; omega
    have he : (st.idx != st.nseq) = false := by rw [hst.pre.idx, hst.pre.nseq]; simp
    have hbl : isBlankLine ([] : Bytes) = true := rfl
    simp only [hst.phase, hc, decide_false, Bool.false_and, Bool.false_eq_true, if_false, ilvEndBlock, he, hbl, if_true]
  · rw [phylipStep_gap false cfg _ _ rfl]
    simp only [Bool.false_eq_true, if_false]
    unfold ilvStep
    have hnb := phyRowLine_notBlank abc cfg enc txt m h 0 (by omega) (pos + 60) hnext
    simp only [hnb, Bool.false_eq_true, if_false]
    unfold ilvNext
    have hlt : st.alen + st.blockAlen < st.alenStated := by rw [hal, hst.pre.alenStated]; exact hnext
    simp only [hlt, if_true]
  · exact
      { nw := hst.pre.nw, nseq := hst.pre.nseq, alenStated := hst.pre.alenStated, idx := rfl
        alen := hal
        nb := by
          show (st.nblocks + 1 == 0) = decide (pos + 60 = 0)
          simp
        blk := fun h0 => absurd rfl h0
        names := by
          show st.names = _
          rw [hst.pre.names]
          have : ilvNameC m pos m.nseq = ilvNameC m (pos + 60) 0 := by
            unfold ilvNameC
            by_cases hp : pos = 0
            · simp [hp]
            · simp [hp]
          rw [this]
        rows := by
          show st.rows = _
          rw [hst.pre.rows]
          apply rangeMap_congr
          intro j hj
          simp [ilvRowF, hj] }

theorem ilvFinish_after (abc : Option Abc) (cfg : Cfg) (enc : UInt8 → UInt8) (txt : Nat → Bytes) (m : Msa)
    (h : PhylipWritable abc cfg enc txt m) (pos : Nat) (hp : pos < m.alen) (hlast : m.alen ≤ pos + 60)
    (st : PhySt) (hst : IlvRt cfg enc txt m pos m.nseq st) :
    phylipFinish false cfg st = .ok (phylipProject cfg m, none) := by
  have hn := h.n1
  have hblk := hst.pre.blk (by omega)
  have hal : st.alen + st.blockAlen = m.alen := by rw [hst.pre.alen, hblk]; exact blockLen_last m pos hp hlast
  have hnames : allSomeP st.names = some ((List.range m.nseq).map m.phyName) := by
    rw [hst.pre.names]
    apply allSomeP_rangeMap
    intro j hj
    have : j < ilvNameC m pos m.nseq := by
      unfold ilvNameC; split <;> exact hj
    simp [seqNameF, this]
  have hrows : allSomeP st.rows = some ((List.range m.nseq).map m.stored) := by
    rw [hst.pre.rows]
    apply allSomeP_rangeMap
    intro j hj
    have hl := h.txt_len j hj
    simp only [ilvRowF, hj, if_true]
    rw [phyRowAt_full _ _ _ _ _ (by omega) (by omega), h.row_enc j hj]
  unfold phylipFinish
  simp only [hst.phase, Bool.false_eq_true, if_false]
  unfold ilvFinish
  have he : (st.idx != st.nseq) = false := by rw [hst.pre.idx, hst.pre.nseq]; simp
  simp only [hst.phase, ilvEndBlock, he, Bool.false_eq_true, if_false]
  unfold ilvEnd
  have h2 : (st.alen + st.blockAlen != st.alenStated) = false := by rw [hal, hst.pre.alenStated]; simp
  simp only [h2, Bool.false_eq_true, if_false]
  unfold phyDone
  simp only [hnames, hrows, hal, phylipProject, List.length_map, List.length_range]

theorem phylipInterleavedLines_reads (abc : Option Abc) (cfg : Cfg) (enc : UInt8 → UInt8) (txt : Nat → Bytes) (m : Msa)
    (h : PhylipWritable abc cfg enc txt m) :
    Reads (phylipStep false cfg) (· = {}) (phylipInterleavedLines abc m)
      (fun s => ∃ pos', IlvRt cfg enc txt m pos' m.nseq s ∧ pos' < m.alen ∧ m.alen ≤ pos' + 60) := by
  have hn := h.n1
  have ha := h.alen1
  have hpre : IlvPre cfg enc txt m 0 0
      { phase := .hdr, nseq := m.nseq, alenStated := m.alen, names := List.replicate m.nseq none,
        rows := List.replicate m.nseq none, idx := 0, alen := 0, nblocks := 0 } :=
    { nw := rfl, nseq := rfl, alenStated := rfl, idx := rfl, alen := rfl, nb := rfl
      blk := fun h0 => absurd rfl h0
      names := rangeMap_const _ _ _ (fun j => by simp [seqNameF, ilvNameC])
      rows := rangeMap_const _ _ _ (fun j => by simp [ilvRowF, phyRowAt]) }
  unfold phylipInterleavedLines
  refine (Reads.eq (phyWrHeader_ok m) (phylipStep_header false abc cfg enc txt m h)).cons
    ((ilvRows_reads abc cfg enc txt m h 0 (by omega) _ fun s hs => ⟨_, hpre, ?_⟩).append
      (Reads.blocksFrom (I := fun pos => IlvRt cfg enc txt m pos m.nseq) (cpl := phyRpl) (by decide) (fun pos hlt =>
        (Reads.one ⟨by simp, by simp⟩ fun s hs => by
          obtain ⟨stg, st0, hs1, hf1, hst0⟩ := ilvStep_gap abc cfg enc txt m h pos hlt s hs
          exact ⟨stg, hs1, st0, hst0, hf1⟩).cons
        (ilvRows_reads abc cfg enc txt m h (pos + 60) hlt _ fun s hs => hs)) 0 ha))
  subst hs
  unfold phylipStep
  simp only [phyRowLine_zero_notBlank abc m 0 (h.name_ok 0 (by omega)), Bool.false_eq_true, if_false, phyFirst]

/-- **interleaved PHYLIP round trip on lines** -/
theorem phylipRead_writeLines (abc : Option Abc) (cfg : Cfg) (enc : UInt8 → UInt8) (txt : Nat → Bytes) (m : Msa)
    (h : PhylipWritable abc cfg enc txt m) :
    phylipRead false cfg (phylipInterleavedLines abc m) = (.ok (phylipProject cfg m), []) := by
  rw [phylipRead, (phylipInterleavedLines_reads abc cfg enc txt m h).readLines fun s ⟨pos', hst2, hp', hlast⟩ =>
    ilvFinish_after abc cfg enc txt m h pos' hp' hlast s hst2]
  rfl

/-- **interleaved PHYLIP round trip on bytes** -/
theorem phylipRead_write (abc : Option Abc) (cfg : Cfg) (enc : UInt8 → UInt8) (txt : Nat → Bytes) (m : Msa)
    (h : PhylipWritable abc cfg enc txt m) :
    phylipRead false cfg (splitLines (phylipWrite false abc m)) = (.ok (phylipProject cfg m), []) := by
  unfold phylipWrite
  simp only [Bool.false_eq_true, if_false]
  rw [phylipInterleavedWrite_eq abc m h.alen1, phylipRead,
    (phylipInterleavedLines_reads abc cfg enc txt m h).read fun s ⟨pos', hst2, hp', hlast⟩ =>
      ilvFinish_after abc cfg enc txt m h pos' hp' hlast s hst2]
  rfl

end EaselModel.Msafile
