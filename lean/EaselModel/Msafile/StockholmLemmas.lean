import EaselModel.Msafile.StockholmInv
/-! Every helper of the Stockholm reader has one statement, `f_spec : ESpec H Q (f …)`: its error is never "eslOK"; given `H` (the
    invariant `StoInv` and what else the helper needs) it ends with a value satisfying `Q` or with a documented error.  Each is one
    walk shaped like the function; a call of another helper is one `ESpec.on`; a stretch of model text that recurs is a lemma over its
    variables and a continuation (`hashLine_spec`, `slotCat_spec`, `locate_spec`: Lean shares the matchers, so the model's text unifies).
    What an update leaves alone is said over the values stored (`StoInv.irrelevant`, `StoInv.allocOnly`).  Then what the invariant gives at
    `//` (`stoMsa_wellFormed`), one line of the reader as an outcome (`stoStep_out`), and the theorems about `stockholmRead`. -/
namespace EaselModel.Msafile

/-- the invariant does not look at `lead name desc acc au cutset hasw` -/
theorem StoInv.irrelevant {cfg : Cfg} {st : StoSt} (h : StoInv cfg st) (lead : Bool) (name desc acc au : Option Bytes)
    (cutset : List Bool) (hasw : Bool) :
    StoInv cfg { st with lead := lead, name := name, desc := desc, acc := acc, au := au, cutset := cutset, hasw := hasw } :=
  { alloc := { h.alloc with }, slots := { h.slots with }, seq := { h.seq with }, block := { h.block with },
    gcnz := h.gcnz, count := h.count }

/-- `#=GF`, `#=GS` and comment lines store into fields that only the allocation part of the invariant looks at -/
theorem StoInv.allocOnly {cfg : Cfg} {st : StoSt} (h : StoInv cfg st) {wgt : List Wgt} {hasw : Bool} {sqacc sqdesc : OptRows}
    {comments : List Bytes} {commentAlloc : Nat} {gf : List (Bytes × Bytes)} {gfAlloc : Nat} {gsTags : List Bytes}
    {gs : List (List (Option Bytes))} {si : Nat}
    (ha : AllocInv { st with wgt := wgt, hasw := hasw, sqacc := sqacc, sqdesc := sqdesc, comments := comments,
                             commentAlloc := commentAlloc, gf := gf, gfAlloc := gfAlloc, gsTags := gsTags, gs := gs, si := si }) :
    StoInv cfg { st with wgt := wgt, hasw := hasw, sqacc := sqacc, sqdesc := sqdesc, comments := comments,
                         commentAlloc := commentAlloc, gf := gf, gfAlloc := gfAlloc, gsTags := gsTags, gs := gs, si := si } :=
  { alloc := ha, slots := { h.slots with }, seq := { h.seq with }, block := { h.block with }, gcnz := h.gcnz, count := h.count }

theorem parseCutoffs_spec {cfg : Cfg} (st : StoSt) (p : Bytes) (i1 i2 : Nat) (u : Bool) :
    ESpec (StoInv cfg st) (StoInv cfg) (parseCutoffs st p i1 i2 u) := by
  unfold parseCutoffs
  cases memtok p blankTab with
  | none => exact .eformat
  | some t =>
    dsimp only
    refine .ite (fun _ => .eformat) fun _ => ?_
    -- "undefined" for NC1 is skipped, any other first value sets its flag: the invariant does not look at `cutset`
    have h1 : StoInv cfg st → StoInv cfg (if (u && memstrcmp t.1 bUndefined) = true then st else { st with cutset := st.cutset.set i1 true }) :=
      fun h => by split; exact h; exact h.irrelevant ..
    cases memtok t.2 blankTab with
    | none => exact h1
    | some t2 => exact .ite (fun _ => .eformat) fun _ h => (h1 h).irrelevant ..

theorem addGF_spec {cfg : Cfg} (st : StoSt) (tag value : Bytes) : ESpec (StoInv cfg st) (StoInv cfg) (addGF st tag value) := by
  unfold addGF
  dsimp only
  refine .ite (fun hge => .fault fun h => ?_) fun hlt h => ?_
  · -- `esl_msa_AddGF` has grown the arrays when they were full
    have := h.alloc.gf
    by_cases e : st.gf.length = st.gfAlloc
    · by_cases z : st.gfAlloc = 0
      · simp [e, z] at hge
      · simp [e, z] at hge; omega
    · simp [e] at hge; omega
  · exact h.allocOnly { h.alloc with gf := (by simp only [List.length_append, List.length_cons, List.length_nil]; omega) }

/-- a line that starts with '#' has a first token: the "EOL can't happen here" exceptions are unreachable -/
theorem memtok_hash (p : Bytes) (hp : p.head? = some 35) : memtok p blankTab ≠ none := by
  cases p with
  | nil => simp at hp
  | cons c r =>
    simp only [List.head?_cons, Option.some.injEq] at hp
    subst hp
    have hd : inDelim blankTab 35 = false := by decide
    unfold memtok
    simp [List.dropWhile_cons, hd]

/-- the first two tokens of a `#=G…` line, handed to `K` with the rest of the line -/
theorem hashLine_spec {H : Prop} {Q : StoSt → Prop} {p : Bytes} {msg : String} {K : Bytes → Bytes → Bytes → E StoSt} (hmsg : msg ≠ "")
    (hK : ∀ t1 t2 p2, ESpec H Q (K t1 t2 p2)) :
    ESpec (H ∧ p.head? = some 35) Q
      (match memtok p blankTab with
       | none => .error .exc
       | some (t1, p1) =>
         match memtok p1 blankTab with
         | none => .error (.eformat msg)
         | some (t2, p2) => K t1 t2 p2) := by
  cases h1 : memtok p blankTab with
  | none => exact .exc fun hh => memtok_hash p hh.2 h1
  | some t1 =>
    dsimp only
    cases memtok t1.2 blankTab with
    | none => exact .eformat hmsg
    | some t2 => exact (hK ..).imp (·.1)

theorem parseGf_spec {cfg : Cfg} (st : StoSt) (p : Bytes) :
    ESpec (StoInv cfg st ∧ p.head? = some 35) (StoInv cfg) (parseGf st p) := by
  unfold parseGf
  refine hashLine_spec (by decide) fun gf tag p2 => ?_
  -- the `if` chain on the tag: ID and AC want one more token, DE and AU take the rest, the cut-offs, any other tag
  refine .ite (fun _ => .eformat) fun _ => .ite (fun _ => ?_) fun _ => .ite (fun _ => ?_) fun _ =>
    .ite (fun _ h => h.irrelevant ..) fun _ => .ite (fun _ h => h.irrelevant ..) fun _ =>
    .ite (fun _ => parseCutoffs_spec ..) fun _ => .ite (fun _ => parseCutoffs_spec ..) fun _ =>
    .ite (fun _ => parseCutoffs_spec ..) fun _ => addGF_spec ..
  · cases memtok p2 blankTab with
    | none => exact .eformat
    | some t3 => exact .ite (fun _ => .eformat) fun _ h => h.irrelevant ..
  · cases memtok p2 blankTab with
    | none => exact .eformat
    | some t3 => exact .ite (fun _ => .eformat) fun _ h => h.irrelevant ..

theorem parseComment_spec {cfg : Cfg} (st : StoSt) (p : Bytes) : ESpec (StoInv cfg st) (StoInv cfg) (parseComment st p) := by
  unfold parseComment
  dsimp only
  refine .ite (fun hge => .fault fun h => ?_) fun hlt h => ?_
  · -- `esl_msa_AddComment` has grown the array when it was full
    have := h.alloc.comments
    by_cases z : st.commentAlloc = 0
    · have : st.comments.length = 0 := by omega
      simp [z, this] at hge
    · by_cases e : st.comments.length = st.commentAlloc
      · simp [z, e] at hge; omega
      · simp [z, e] at hge; omega
  · exact h.allocOnly { h.alloc with comments := (by simp only [List.length_append, List.length_cons, List.length_nil]; omega) }

theorem countP_le_of_beyond (l : List Nat) (m : Nat) (hb : ∀ i, m ≤ i → l.getD i 0 = 0) :
    List.countP (· != 0) l ≤ m := by
  induction l generalizing m with
  | nil => simp
  | cons x rest ih =>
    cases m with
    | zero =>
      have hx : x = 0 := by simpa using hb 0 (Nat.le_refl 0)
      have hr : ∀ i, 0 ≤ i → rest.getD i 0 = 0 := by
        intro i _
        have := hb (i + 1) (Nat.zero_le _)
        simpa using this
      have := ih 0 hr
      simp only [List.countP_cons, hx]
      simpa using this
    | succ m =>
      have hr : ∀ i, m ≤ i → rest.getD i 0 = 0 := by
        intro i hi
        have := hb (i + 1) (by omega)
        simpa using this
      have := ih m hr
      simp only [List.countP_cons]
      split <;> omega

theorem endBlock_spec {cfg : Cfg} (st : StoSt) :
    ESpec (StoInv cfg st) (fun st1 => StoInv cfg st1 ∧ st1.inBlock = false) (endBlock st) := by
  unfold endBlock
  refine .ite (fun hin => ?_) fun hin h => ⟨h, by simpa using hin⟩
  refine .ite (fun _ => .eformat) fun c1 => .ite (fun _ => .eformat) fun c2 => .ite (fun _ => .eformat) fun c3 h => ⟨?_, rfl⟩
  have hbi : 0 < st.bi := h.block.inb.mp hin
  have hl : st.nblock ≠ 0 → st.bi = st.npb := by
    intro hn
    simp only [bne_iff_ne, ne_eq, Bool.and_eq_true, not_and, Decidable.not_not] at c3
    exact c3 hn
  have hns : st.nseqB = st.names.length := by
    by_cases hn : st.nblock = 0
    · have e := h.seq.nseqB hn
      have le := countP_le_of_beyond st.sqlen st.names.length h.seq.beyond
      have : ¬ st.nseqB < st.nseq := by
        simp only [hn, beq_self_eq_true, Bool.true_and, decide_eq_true_eq] at c2
        exact c2
      have := h.alloc.nseq
      omega
    · have : st.nseqB = st.nseq := by
        simp only [bne_iff_ne, ne_eq, Bool.and_eq_true, not_and, Decidable.not_not] at c1
        exact c1 hn
      rw [this]; exact h.alloc.nseq
  have hb := h.block
  exact
    { alloc := { h.alloc with nseq := hns, si := Nat.zero_le _ },
      slots := { h.slots with },
      seq := { beyond := h.seq.beyond, nseqB := fun h0 => absurd h0 (Nat.succ_ne_zero _) },
      block :=
        { len := hb.len,
          first := fun h0 => absurd h0 (Nat.succ_ne_zero _),
          later := fun _ => ⟨(by
            show st.bi ≤ st.balloc
            by_cases hn : st.nblock = 0
            · exact hb.first hn
            · have := hb.later hn; have := hl hn; omega), Nat.zero_le _⟩,
          recs := (by
            intro j hj
            have hj' : j < st.bi := by simpa using hj
            have : LineRec st j := by
              apply hb.recs
              by_cases hn : st.nblock = 0
              · simp only [hn, if_true]; exact hj'
              · simp only [hn, if_false]; have := hl hn; omega
            exact this),
          inb := (by show (false = true) ↔ 0 < 0; simp) },
      gcnz := h.gcnz,
      count := h.count.endBlock hbi hl }

theorem endBlock_notin {st st1 : StoSt} (he : endBlock st = .ok st1) : st1.inBlock = false := by
  unfold endBlock at he
  split at he
  · split at he
    · cases he
    · split at he
      · cases he
      · split at he
        · cases he
        · cases he; rfl
  · rename_i hin
    cases he
    simpa using hin

theorem sqnameAt_spec (st : StoSt) (i : Nat) : ESpec (i < st.sqalloc) (· = st.names[i]?) (sqnameAt st i) :=
  .ite (fun _ _ => rfl) fun hi => .fault hi

theorem sqnameAt_ok {st : StoSt} (ha : AllocInv st) {i : Nat} (hi : i < st.names.length) :
    sqnameAt st i = .ok st.names[i]? := by
  unfold sqnameAt
  have := ha.names
  simp only [show i < st.sqalloc by omega, if_true]

theorem gsSeqIdx_spec {cfg : Cfg} (st : StoSt) (seqname : Bytes) :
    ESpec (StoInv cfg st) (fun r => StoInv cfg r.1 ∧ r.2 < r.1.names.length ∧ r.1.nblock = st.nblock) (gsSeqIdx st seqname) := by
  unfold gsSeqIdx
  refine .ite (fun _ => getSeqIdx_spec st seqname) fun hne => ?_
  have hlt : StoInv cfg st → st.si < st.names.length := fun h => by
    have : st.si ≠ st.nseq := by simpa using hne
    have := h.alloc.si; have := h.alloc.nseq; omega
  refine ESpec.on _ (sqnameAt_spec st st.si) (fun h => by have := hlt h; have := h.alloc.names; omega) (fun _ hr => hr) fun nm _ => ?_
  exact .ite (fun _ => getSeqIdx_spec st seqname) fun _ h => ⟨h, hlt h, rfl⟩

theorem setSeqOpt_spec (a : OptRows) (sqalloc idx : Nat) (v : Bytes) :
    ESpec ((∀ l, a = some l → l.length = sqalloc) ∧ idx < sqalloc) (fun a' => ∀ l, a' = some l → l.length = sqalloc)
      (setSeqOpt a sqalloc idx v) := by
  unfold setSeqOpt
  refine .ite (fun hge => .exc fun h => by have := h.2; omega) fun _ => ?_
  have hl : (∀ l, a = some l → l.length = sqalloc) → (a.getD (List.replicate sqalloc none)).length = sqalloc := fun ha => by
    cases a with
    | none => simp
    | some l => simpa using ha l rfl
  refine ESpec.on _ (setE_spec ..) (fun h => by rw [hl h.1]; exact h.2) (fun _ hr => hr) fun l' e h l hl' => ?_
  rw [← Option.some.inj hl', e h]; simp [hl h.1]

theorem optIsSet_spec (a : OptRows) (sqalloc idx : Nat) :
    ESpec ((∀ l, a = some l → l.length = sqalloc) ∧ idx < sqalloc) (fun _ => True) (optIsSet a idx) := by
  unfold optIsSet
  cases a with
  | none => exact fun _ => trivial
  | some l =>
    dsimp only
    exact ESpec.on _ (getE_spec l idx) (fun h => by rw [h.1 l rfl]; exact h.2) (fun _ hr => hr) fun _ _ _ => trivial

theorem optIsSet_ok (a : OptRows) (sqalloc idx : Nat) (ha : ∀ l, a = some l → l.length = sqalloc) (hi : idx < sqalloc) :
    ∃ b, optIsSet a idx = .ok b := by
  unfold optIsSet
  cases a with
  | none => exact ⟨false, rfl⟩
  | some l =>
    have := ha l rfl
    simp only [getE_ok (show idx < l.length by omega)]
    exact ⟨_, rfl⟩

/-- the tag lookup of `esl_msa_AddGS`: the tag's row exists afterwards, every row has `sqalloc` entries -/
theorem getGsTagIdx_spec (st : StoSt) (tag : Bytes) :
    ∃ T G t, getGsTagIdx st tag = ({ st with gsTags := T, gs := G }, t) ∧
      (AllocInv st → G.length = T.length ∧ (∀ row ∈ G, row.length = st.sqalloc) ∧ t < T.length) := by
  unfold getGsTagIdx
  cases hf : List.findIdx? (fun x => x == tag) st.gsTags with
  | some t => exact ⟨_, _, t, rfl, fun ha => ⟨ha.gs.1, ha.gs.2, (List.findIdx?_eq_some_iff_getElem.mp hf).1⟩⟩
  | none =>
    refine ⟨_, _, _, rfl, fun ha => ⟨by simp [ha.gs.1], fun row hrow => ?_, by simp⟩⟩
    rcases List.mem_append.mp hrow with hm | hm
    · exact ha.gs.2 row hm
    · rw [List.mem_singleton.mp hm]; simp

theorem addGS_spec {cfg : Cfg} (st : StoSt) (tag : Bytes) (sqidx : Nat) (value : Bytes) :
    ESpec (StoInv cfg st ∧ sqidx < st.names.length) (fun st2 => StoInv cfg st2 ∧ st2.names = st.names) (addGS st tag sqidx value) := by
  unfold addGS
  obtain ⟨T, G, t, hg, hT⟩ := getGsTagIdx_spec st tag
  rw [hg]
  dsimp only
  have hs : StoInv cfg st ∧ sqidx < st.names.length → _ := fun h => hT h.1.alloc
  refine ESpec.on _ (getE_spec G t) (fun h => by have := hs h; omega) (fun _ hr => hr) fun row hrow => ?_
  dsimp only
  have hrl : StoInv cfg st ∧ sqidx < st.names.length → row.length = st.sqalloc :=
    fun h => (hs h).2.1 row (List.mem_of_getElem? (hrow h))
  have hsq : StoInv cfg st ∧ sqidx < st.names.length → sqidx < row.length := fun h => by
    have := hrl h; have := h.1.alloc.names; have := h.2; omega
  refine ESpec.on _ (getE_spec row sqidx) hsq (fun _ hr => hr) fun old _ => ?_
  dsimp only
  refine ESpec.on _ (setE_spec row sqidx _) hsq (fun _ hr => hr) fun row' e1 => ?_
  dsimp only
  refine ESpec.on _ (setE_spec G t row') (fun h => by have := hs h; omega) (fun _ hr => hr) fun gs' e2 h => ?_
  obtain rfl := e1 h
  obtain rfl := e2 h
  obtain ⟨hGT, hrows, _⟩ := hs h
  exact
    ⟨h.1.allocOnly { h.1.alloc with gs := ⟨(by simp [hGT]), (by
        intro r hr
        rcases List.mem_or_eq_of_mem_set hr with hm | hm
        · exact hrows r hm
        · rw [hm]; simp [hrl h])⟩ }, rfl⟩

theorem gsApply_spec {cfg : Cfg} (st : StoSt) (seqidx : Nat) (tag p : Bytes) :
    ESpec (StoInv cfg st ∧ seqidx < st.names.length) (fun st2 => StoInv cfg st2 ∧ st2.names = st.names) (gsApply st seqidx tag p) := by
  unfold gsApply
  have hsq : StoInv cfg st ∧ seqidx < st.names.length → seqidx < st.sqalloc := fun h => by
    have := h.1.alloc.names; have := h.2; omega
  refine .ite (fun _ => ?_) fun _ => .ite (fun _ => ?_) fun _ => .ite (fun _ => ?_) fun _ => addGS_spec st tag seqidx p
  · -- WT
    cases memtok p blankTab with
    | none => exact .eformat
    | some t =>
      dsimp only
      refine ESpec.on _ (getE_spec st.wgt seqidx) (fun h => by rw [h.1.alloc.wgt]; exact hsq h) (fun _ hr => hr) fun w _ => ?_
      refine .ite (fun _ => .eformat) fun _ => .ite (fun _ => .eformat) fun _ => .ite (fun _ => .eformat) fun _ => ?_
      refine ESpec.on _ (setE_spec st.wgt seqidx _) (fun h => by rw [h.1.alloc.wgt]; exact hsq h) (fun _ hr => hr) fun wl e h => ?_
      obtain rfl := e h
      exact ⟨h.1.allocOnly { h.1.alloc with wgt := (by simp [h.1.alloc.wgt]) }, rfl⟩
  · -- AC
    cases memtok p blankTab with
    | none => exact .eformat
    | some t =>
      dsimp only
      refine ESpec.on _ (optIsSet_spec st.sqacc st.sqalloc seqidx) (fun h => ⟨h.1.alloc.sqacc, hsq h⟩) (fun _ hr => hr) fun dup _ => ?_
      refine .ite (fun _ => .eformat) fun _ => .ite (fun _ => .eformat) fun _ => ?_
      refine ESpec.on _ (setSeqOpt_spec st.sqacc st.sqalloc seqidx _) (fun h => ⟨h.1.alloc.sqacc, hsq h⟩) (fun _ hr => hr)
        fun a' ha' h => ?_
      exact ⟨h.1.allocOnly { h.1.alloc with sqacc := ha' h }, rfl⟩
  · -- DE
    refine ESpec.on _ (optIsSet_spec st.sqdesc st.sqalloc seqidx) (fun h => ⟨h.1.alloc.sqdesc, hsq h⟩) (fun _ hr => hr) fun dup _ => ?_
    refine .ite (fun _ => .eformat) fun _ => ?_
    refine ESpec.on _ (setSeqOpt_spec st.sqdesc st.sqalloc seqidx _) (fun h => ⟨h.1.alloc.sqdesc, hsq h⟩) (fun _ hr => hr)
      fun a' ha' h => ?_
    exact ⟨h.1.allocOnly { h.1.alloc with sqdesc := ha' h }, rfl⟩

theorem parseGs_spec {cfg : Cfg} (st : StoSt) (p : Bytes) :
    ESpec (StoInv cfg st ∧ p.head? = some 35) (StoInv cfg) (parseGs st p) := by
  unfold parseGs
  refine hashLine_spec (by decide) fun gs seqname p2 => ?_
  cases memtok p2 blankTab with
  | none => exact .eformat
  | some t3 =>
  dsimp only
  refine .ite (fun _ => .eformat) fun _ => ?_
  refine ESpec.on _ (gsSeqIdx_spec st _) id (fun _ hr => hr) fun (st1, seqidx) h1 => ?_
  dsimp only
  refine ESpec.on _ (gsApply_spec st1 seqidx _ _) (fun h => ⟨(h1 h).1, (h1 h).2.1⟩) (fun _ hr => hr) fun st2 h2 h => ?_
  obtain ⟨h2, hn⟩ := h2 h
  exact h2.allocOnly { h2.alloc with si := (by show seqidx + 1 ≤ st2.names.length; rw [hn]; exact (h1 h).2.1) }

/-- after the line-order bookkeeping of a block line of type `lt` (for sequence `bx`): the slot `bi` of the block
    description is written (first block), resp. holds the same type (later blocks) -/
def Cur (st : StoSt) (lt : Nat) (bx : Option Nat) : Prop :=
  (st.nblock = 0 → st.bi < st.balloc ∧ st.blt[st.bi]? = some (some lt) ∧ st.bidx[st.bi]? = some (some bx)) ∧
  (st.nblock ≠ 0 → st.bi < st.npb ∧ st.blt[st.bi]? = some (some lt))

/-- the block description after a block line has been fully processed (`bi++`) -/
theorem BlockInv.advance {st1 st' : StoSt} (hb : BlockInv st1) (lt : Nat) (bx : Option Nat) (hc : Cur st1 lt bx)
    (e1 : st'.blt = st1.blt) (e2 : st'.bidx = st1.bidx) (e3 : st'.balloc = st1.balloc) (e4 : st'.bi = st1.bi + 1)
    (e5 : st'.nblock = st1.nblock) (e6 : st'.inBlock = true) (e7 : st'.npb = st1.npb) (e8 : st'.names = st1.names)
    (hsq : ∀ i, st1.sqlen.getD i 0 ≠ 0 → st'.sqlen.getD i 0 ≠ 0)
    (hnew : st1.nblock = 0 → (lt = ltSQ ∨ (7 ≤ lt ∧ lt ≤ 10)) →
      ∃ i, bx = some i ∧ i < st1.names.length ∧ (lt = ltSQ → st'.sqlen.getD i 0 ≠ 0)) : BlockInv st' := by
  have keep : ∀ j, LineRec st1 j → LineRec st' j := by
    intro j ⟨lt0, bx0, a1, a2, a3⟩
    refine ⟨lt0, bx0, by rw [e1]; exact a1, by rw [e2]; exact a2, fun hk => ?_⟩
    obtain ⟨i, b1, b2, b3⟩ := a3 hk
    exact ⟨i, b1, by rw [e8]; exact b2, fun hq => hsq i (b3 hq)⟩
  refine ⟨by rw [e1, e2, e3]; exact hb.len, fun h0 => ?_, fun hn => ?_, fun j hj => ?_, ?_⟩
  · rw [e5] at h0; have := (hc.1 h0).1; rw [e4, e3]; omega
  · rw [e5] at hn; have := hb.later hn; have := (hc.2 hn).1; rw [e7, e3, e4]; omega
  · rw [e5, e7, e4] at hj
    by_cases h0 : st1.nblock = 0
    · simp only [h0, if_true] at hj
      by_cases hjb : j < st1.bi
      · exact keep j (hb.recs j (by simp only [h0, if_true]; exact hjb))
      · have hjb' : j = st1.bi := by omega
        subst hjb'
        obtain ⟨_, c1, c2⟩ := hc.1 h0
        refine ⟨lt, bx, by rw [e1]; exact c1, by rw [e2]; exact c2, fun hk => ?_⟩
        obtain ⟨i, b1, b2, b3⟩ := hnew h0 hk
        exact ⟨i, b1, by rw [e8]; exact b2, b3⟩
    · simp only [h0, if_false] at hj
      exact keep j (hb.recs j (by simp only [h0, if_false]; exact hj))
  · rw [e6, e4]; simp

theorem recordLine_spec {cfg : Cfg} (st : StoSt) (lt : Nat) (bx : Option Nat) :
    ESpec (StoInv cfg st ∧ st.nblock = 0) (fun st1 => StoInv cfg st1 ∧ Cur st1 lt bx ∧ st1.nblock = 0 ∧ st1.names = st.names)
      (recordLine st lt bx) := by
  unfold recordLine
  -- with or without `stockholm_parsedata_ExpandBlock`: the two arrays are the old ones followed by `k` fresh entries
  obtain ⟨k, hst1, hk⟩ : ∃ k, (if st.bi == st.balloc then pdExpandBlock st else st) =
      { st with blt := st.blt ++ List.replicate k none, bidx := st.bidx ++ List.replicate k none,
                balloc := st.balloc + k } ∧ (0 < st.balloc → st.bi ≤ st.balloc → st.bi < st.balloc + k) := by
    by_cases e : st.bi = st.balloc
    · exact ⟨st.balloc, by simp [e, pdExpandBlock, Nat.mul_two], by omega⟩
    · exact ⟨0, by simp [e], by omega⟩
  simp only [hst1]
  have key : StoInv cfg st ∧ st.nblock = 0 → st.bi < st.balloc + k ∧ st.blt.length = st.balloc ∧ st.bidx.length = st.balloc :=
    fun ⟨h, h0⟩ => ⟨hk h.block.len.2.2 (h.block.first h0), h.block.len.1, h.block.len.2.1⟩
  refine ESpec.on _ (setE_spec ..) (fun hh => by have := key hh; simp; omega) (fun _ hr => hr) fun blt' e1 => ?_
  refine ESpec.on _ (setE_spec ..) (fun hh => by have := key hh; simp; omega) (fun _ hr => hr) fun bidx' e2 hh => ?_
  obtain rfl := e1 hh
  obtain rfl := e2 hh
  obtain ⟨hk, l1, l2⟩ := key hh
  obtain ⟨h, h0⟩ := hh
  have hb := h.block
  have hfirst := hb.first h0
  refine ⟨?_, ⟨fun _ => ⟨hk, ?_, ?_⟩, fun hn => absurd h0 hn⟩, h0, rfl⟩
  · exact
      { alloc := { h.alloc with }, slots := { h.slots with }, seq := { h.seq with },
        block :=
          { len := ⟨(by simp [l1]), (by simp [l2]), (by show 0 < st.balloc + k; omega)⟩,
            first := fun _ => (by show st.bi ≤ st.balloc + k; omega),
            later := fun hn => absurd h0 hn,
            recs := (by
              intro j hj
              have hj' : j < st.bi := by simpa [h0] using hj
              obtain ⟨lt0, bx0, a1, a2, a3⟩ := hb.recs j (by simp only [h0, if_true]; exact hj')
              refine ⟨lt0, bx0, ?_, ?_, a3⟩
              · show ((st.blt ++ List.replicate k none).set st.bi (some lt))[j]? = some (some lt0)
                rw [List.getElem?_set_ne (by omega), List.getElem?_append_left (by omega)]; exact a1
              · show ((st.bidx ++ List.replicate k none).set st.bi (some bx))[j]? = some (some bx0)
                rw [List.getElem?_set_ne (by omega), List.getElem?_append_left (by omega)]; exact a2),
            inb := hb.inb },
        gcnz := h.gcnz, count := h.count }
  · show ((st.blt ++ List.replicate k none).set st.bi (some lt))[st.bi]? = some (some lt)
    rw [List.getElem?_set_self (by simp [l1]; omega)]
  · show ((st.bidx ++ List.replicate k none).set st.bi (some bx))[st.bi]? = some (some bx)
    rw [List.getElem?_set_self (by simp [l2]; omega)]

theorem expectLine_spec (st : StoSt) (lt : Nat) :
    ESpec (BlockInv st ∧ st.nblock ≠ 0) (fun _ => st.bi < st.npb ∧ st.blt[st.bi]? = some (some lt)) (expectLine st lt) := by
  unfold expectLine
  refine .ite (fun _ => .eformat) fun hlt => ?_
  -- a line of an earlier block was recorded with its type
  have key : BlockInv st ∧ st.nblock ≠ 0 → ∃ lt0, st.blt[st.bi]? = some (some lt0) := fun ⟨hb, hn⟩ => by
    obtain ⟨lt0, _, a1, _⟩ := hb.recs st.bi (by simp only [hn, if_false]; omega)
    exact ⟨lt0, a1⟩
  refine ESpec.on _ (getE_spec ..) (fun hh => by obtain ⟨_, a1⟩ := key hh; exact lt_length_of_getElem? a1)
    (fun _ hr => hr) fun cur hcur => ?_
  cases cur with
  | none => exact .fault fun hh => by obtain ⟨_, a1⟩ := key hh; rw [a1] at hcur; cases hcur hh
  | some cur => exact .ite (fun _ => .eformat) fun hc hh => ⟨by omega, by rw [hcur hh]; simpa using hc⟩

theorem expectSeq_spec {cfg : Cfg} (st : StoSt) (lt : Nat) (name : Bytes) :
    ESpec (StoInv cfg st ∧ st.nblock ≠ 0 ∧ st.bi < st.npb ∧ st.blt[st.bi]? = some (some lt) ∧ (lt = ltSQ ∨ (7 ≤ lt ∧ lt ≤ 10)))
      (fun i => i < st.names.length ∧ (lt = ltSQ → st.sqlen.getD i 0 ≠ 0)) (expectSeq st name) := by
  unfold expectSeq
  -- a sequence or #=GR line of an earlier block was recorded with its sequence
  have key : StoInv cfg st ∧ st.nblock ≠ 0 ∧ st.bi < st.npb ∧ st.blt[st.bi]? = some (some lt) ∧ (lt = ltSQ ∨ (7 ≤ lt ∧ lt ≤ 10)) →
      ∃ i, st.bidx[st.bi]? = some (some (some i)) ∧ i < st.names.length ∧ (lt = ltSQ → st.sqlen.getD i 0 ≠ 0) :=
    fun ⟨h, hn, hbi, hlt, hk⟩ => by
      obtain ⟨lt0, bx0, a1, a2, a3⟩ := h.block.recs st.bi (by simp only [hn, if_false]; exact hbi)
      obtain rfl : lt0 = lt := by rw [a1] at hlt; simpa using hlt
      obtain ⟨i, rfl, b2, b3⟩ := a3 hk
      exact ⟨i, a2, b2, b3⟩
  refine ESpec.on _ (getE_spec ..) (fun hh => by obtain ⟨_, a2, _⟩ := key hh; exact lt_length_of_getElem? a2)
    (fun _ hr => hr) fun cur hcur => ?_
  -- under the hypothesis `cur` is what was recorded
  match cur with
  | none => exact .fault fun hh => by obtain ⟨_, a2, _⟩ := key hh; rw [a2] at hcur; cases hcur hh
  | some none => exact .fault fun hh => by obtain ⟨_, a2, _⟩ := key hh; rw [a2] at hcur; cases hcur hh
  | some (some i) =>
    dsimp only
    have hi : _ → i < st.names.length ∧ (lt = ltSQ → st.sqlen.getD i 0 ≠ 0) := fun hh => by
      obtain ⟨_, a2, b⟩ := key hh; rw [a2] at hcur; cases hcur hh; exact b
    refine ESpec.on _ (sqnameAt_spec st i) (fun hh => by have := (hi hh).1; have := hh.1.alloc.names; omega) (fun _ hr => hr)
      fun nm _ => ?_
    exact .ite (fun _ => .eformat) fun _ => hi

theorem gcLocate_spec {cfg : Cfg} (st : StoSt) (lt : Nat) :
    ESpec (StoInv cfg st) (fun st1 => StoInv cfg st1 ∧ Cur st1 lt none) (gcLocate st lt) := by
  unfold gcLocate
  refine .ite (fun hn => ?_) fun hn => ?_
  · have hn' : st.nblock ≠ 0 := by simpa using hn
    refine ESpec.on _ (expectLine_spec st lt) (fun h => ⟨h.block, hn'⟩) (fun _ hr => hr) fun _ hq => ?_
    exact fun h => ⟨h, fun h0 => absurd h0 hn', fun _ => hq h⟩
  · have h0 : st.nblock = 0 := by simpa using hn
    exact ESpec.mono (ESpec.imp (recordLine_spec st lt none) fun h => ⟨h, h0⟩) fun st1 hq => ⟨hq.1, hq.2.1⟩

theorem nameIs_spec (st : StoSt) (i : Nat) (name : Bytes) : ESpec (i < st.sqalloc) (fun _ => True) (nameIs st i name) := by
  unfold nameIs
  exact ESpec.on _ (sqnameAt_spec st i) id (fun _ hr => hr) fun _ _ _ => trivial

theorem nameIs_ok {st : StoSt} (ha : AllocInv st) {i : Nat} (name : Bytes) (hi : i < st.names.length) :
    ∃ b, nameIs st i name = .ok b := by
  unfold nameIs
  rw [sqnameAt_ok ha hi]
  exact ⟨_, rfl⟩

/-- the guesses of `stockholm_parse_gr` / `stockholm_parse_sq` at the sequence a line belongs to: `si - 1`, `si` -/
theorem nameGuess_spec (c : Prop) [Decidable c] (st : StoSt) (i : Nat) (name : Bytes) :
    ESpec (c → i < st.sqalloc) (fun b => b = true → c) (if c then nameIs st i name else .ok false) :=
  .ite (fun hc => ESpec.mono (ESpec.imp (nameIs_spec st i name) fun h => h hc) fun _ _ _ => hc) fun _ _ => nofun

theorem sqSeqIdx_spec {cfg : Cfg} (st : StoSt) (name : Bytes) :
    ESpec (StoInv cfg st) (fun r => StoInv cfg r.1 ∧ r.2 < r.1.names.length ∧ r.1.nblock = st.nblock) (sqSeqIdx st name) := by
  unfold sqSeqIdx
  refine ESpec.on _ (nameGuess_spec (st.si < st.nseq) st st.si name) (fun h _ => by
    have := h.alloc.names; have := h.alloc.nseq; omega) (fun _ hr => hr) fun b hb => ?_
  cases b with
  | true => exact fun h => ⟨h, by show st.si < st.names.length; have := hb h rfl; have := h.alloc.nseq; omega, rfl⟩
  | false => exact getSeqIdx_spec st name

theorem grSeqIdx_spec {cfg : Cfg} (st : StoSt) (name : Bytes) :
    ESpec (StoInv cfg st) (fun r => StoInv cfg r.1 ∧ r.2 < r.1.names.length ∧ r.1.nblock = st.nblock) (grSeqIdx st name) := by
  unfold grSeqIdx
  refine ESpec.on _ (nameGuess_spec (st.si ≥ 1) st (st.si - 1) name) (fun h _ => by
    have := h.alloc.names; have := h.alloc.si; omega) (fun _ hr => hr) fun b hb => ?_
  cases b with
  | true => exact fun h => ⟨h, by show st.si - 1 < st.names.length; have := hb h rfl; have := h.alloc.si; omega, rfl⟩
  | false => exact sqSeqIdx_spec st name   -- what is left is `sqSeqIdx`

/-- what the line-order bookkeeping of a `#=GR` / sequence line establishes -/
def Located (cfg : Cfg) (lt : Nat) (r : StoSt × Nat) : Prop :=
  StoInv cfg r.1 ∧ Cur r.1 lt (some r.2) ∧ r.2 < r.1.names.length ∧
  (r.1.nblock ≠ 0 → lt = ltSQ → r.1.sqlen.getD r.2 0 ≠ 0)

/-- `grLocate` and `sqLocate` are one function of the first block's look-up `find`: first block = look up and record; later blocks =
    the recorded line type and sequence must match -/
theorem locate_spec {cfg : Cfg} {find : E (StoSt × Nat)} {st : StoSt} (name : Bytes) (lt : Nat) :
    ESpec (StoInv cfg st) (fun r => StoInv cfg r.1 ∧ r.2 < r.1.names.length ∧ r.1.nblock = st.nblock) find →
    ESpec (StoInv cfg st ∧ (lt = ltSQ ∨ (7 ≤ lt ∧ lt ≤ 10))) (Located cfg lt)
      (if st.nblock == 0 then
        match find with
        | .error r => .error r
        | .ok (st1, seqidx) =>
          match recordLine st1 lt (some seqidx) with
          | .error r => .error r
          | .ok st2 => .ok (st2, seqidx)
      else
        match expectLine st lt with
        | .error r => .error r
        | .ok _ =>
          match expectSeq st name with
          | .error r => .error r
          | .ok seqidx => .ok (st, seqidx)) := by
  intro hf
  refine .ite (fun hn => ?_) fun hn => ?_
  · have h0 : st.nblock = 0 := by simpa using hn
    refine ESpec.on _ hf (·.1) (fun _ hr => hr) fun (st1, seqidx) h1 => ?_
    dsimp only
    refine ESpec.on _ (recordLine_spec st1 lt (some seqidx)) (fun h => ⟨(h1 h).1, (h1 h).2.2.trans h0⟩) (fun _ hr => hr)
      fun st2 h2 h => ?_
    obtain ⟨h2, hc, h20, hnm⟩ := h2 h
    exact ⟨h2, hc, by show seqidx < st2.names.length; rw [hnm]; exact (h1 h).2.1, fun hne => absurd h20 hne⟩
  · have hn' : st.nblock ≠ 0 := by simpa using hn
    refine ESpec.on _ (expectLine_spec st lt) (fun h => ⟨h.1.block, hn'⟩) (fun _ hr => hr) fun _ hl => ?_
    dsimp only
    refine ESpec.on _ (expectSeq_spec st lt name) (fun h => ⟨h.1, hn', (hl h).1, (hl h).2, h.2⟩) (fun _ hr => hr) fun i hi h => ?_
    exact ⟨h.1, ⟨fun h0 => absurd h0 hn', fun _ => hl h⟩, (hi h).1, fun _ hq => (hi h).2 hq⟩

theorem grLocate_spec {cfg : Cfg} (st : StoSt) (name : Bytes) (lt : Nat) (hk : 7 ≤ lt ∧ lt ≤ 10) :
    ESpec (StoInv cfg st) (Located cfg lt) (grLocate st name lt) :=
  ESpec.imp (locate_spec name lt (grSeqIdx_spec st name)) fun h => ⟨h, .inr hk⟩

theorem sqLocate_spec {cfg : Cfg} (st : StoSt) (name : Bytes) : ESpec (StoInv cfg st) (Located cfg ltSQ) (sqLocate st name) :=
  ESpec.imp (locate_spec name ltSQ (sqSeqIdx_spec st name)) fun h => ⟨h, .inl rfl⟩

theorem strcatE_spec (c : Option Bytes) (len : Nat) (txt : Bytes) :
    ESpec (slotOk c len ∧ txt.isEmpty = false ∧ (0 : UInt8) ∉ txt) (fun c' => slotOk c' (len + txt.length)) (strcatE c len txt) := by
  unfold strcatE
  refine .ite (fun he h => absurd he (by simp [h.2.1])) fun _ => .ite (fun hbad => .fault fun h => ?_) fun _ h => ?_
  · -- the string held has the length kept for it
    have hl : (c.getD []).length = len := by
      cases c with
      | none => exact (h.1 : len = 0).symm
      | some b => exact h.1.1
    simp [hl] at hbad
  · obtain ⟨hc, hne, hnul⟩ := h
    have hpos : 1 ≤ txt.length := List.length_pos_iff.mpr (List.isEmpty_eq_false_iff.mp hne)
    cases c with
    | none =>
      obtain rfl : len = 0 := hc
      show slotOk (some (cstr ([] ++ txt))) (0 + txt.length)
      rw [List.nil_append, cstr_id txt fun c hc e => hnul (e ▸ hc)]
      exact ⟨by omega, hnul, by omega⟩
    | some b =>
      obtain ⟨h1, h2, h3⟩ := hc
      have hnn : (0 : UInt8) ∉ b ++ txt := fun hm => (List.mem_append.mp hm).elim h2 hnul
      show slotOk (some (cstr (b ++ txt))) (len + txt.length)
      rw [cstr_id _ fun c hc e => hnn (e ▸ hc)]
      exact ⟨by simp [h1], hnn, by omega⟩

/-- `strcatE_spec` with the success said: under its hypotheses the append does not fail -/
theorem strcatE_ok (c : Option Bytes) (len : Nat) (txt : Bytes) (hc : slotOk c len) (hne : txt.isEmpty = false)
    (hnul : (0 : UInt8) ∉ txt) : ∃ c', strcatE c len txt = .ok c' ∧ slotOk c' (len + txt.length) := by
  have hl : (c.getD []).length = len := by
    cases c with
    | none => exact (hc : len = 0).symm
    | some b => exact hc.1
  have e : strcatE c len txt = .ok (some (cstr (c.getD [] ++ txt))) := by simp [strcatE, hne, hl]
  have h := strcatE_spec c len txt
  rw [e] at h
  exact ⟨_, e, h ⟨hc, hne, hnul⟩⟩

theorem lensRel_1 {o n : Nat} {a a' : List Nat} (b c d e : List Nat) (h : LensRel o n a a') :
    LensRel o n (a ++ b ++ c ++ d ++ e) (a' ++ b ++ c ++ d ++ e) :=
  LensRel.app (LensRel.app (LensRel.app (LensRel.app h (LensRel.refl0 _)) (LensRel.refl0 _)) (LensRel.refl0 _)) (LensRel.refl0 _)

theorem lensRel_2 {o n : Nat} {b b' : List Nat} (a c d e : List Nat) (h : LensRel o n b b') :
    LensRel o n (a ++ b ++ c ++ d ++ e) (a ++ b' ++ c ++ d ++ e) :=
  LensRel.app (LensRel.app (LensRel.app (LensRel.app_right (LensRel.refl0 _) h) (LensRel.refl0 _)) (LensRel.refl0 _)) (LensRel.refl0 _)

theorem lensRel_3 {o n : Nat} {c c' : List Nat} (a b d e : List Nat) (h : LensRel o n c c') :
    LensRel o n (a ++ b ++ c ++ d ++ e) (a ++ b ++ c' ++ d ++ e) :=
  LensRel.app (LensRel.app (LensRel.app_right (LensRel.refl0 _) h) (LensRel.refl0 _)) (LensRel.refl0 _)

theorem lensRel_4 {o n : Nat} {d d' : List Nat} (a b c e : List Nat) (h : LensRel o n d d') :
    LensRel o n (a ++ b ++ c ++ d ++ e) (a ++ b ++ c ++ d' ++ e) :=
  LensRel.app (LensRel.app_right (LensRel.refl0 _) h) (LensRel.refl0 _)

theorem lensRel_5 {o n : Nat} {e e' : List Nat} (a b c d : List Nat) (h : LensRel o n e e') :
    LensRel o n (a ++ b ++ c ++ d ++ e) (a ++ b ++ c ++ d ++ e') :=
  LensRel.app_right (LensRel.refl0 _) h

theorem consIdx_lt {lt k : Nat} (h : consIdx lt = some k) : k < 5 := by
  unfold consIdx at h
  rcases ite_some_cases h with rfl | h
  · decide
  rcases ite_some_cases h with rfl | h
  · decide
  rcases ite_some_cases h with rfl | h
  · decide
  rcases ite_some_cases h with rfl | h
  · decide
  rcases ite_some_cases h with rfl | h
  · decide
  · exact nomatch h

theorem gcLineType_not_seq (tag : Bytes) : ¬ (gcLineType tag = ltSQ ∨ (7 ≤ gcLineType tag ∧ gcLineType tag ≤ 10)) := by
  unfold gcLineType
  split
  · decide
  · split
    · decide
    · split
      · decide
      · split
        · decide
        · split <;> decide

theorem blockLineDone_cases (st : StoSt) (n : Nat) :
    (∃ msg, msg ≠ "" ∧ blockLineDone st n = .error (.eformat msg)) ∨
    ((st.bi ≠ 0 → n = st.alenB) ∧ blockLineDone st n = .ok { st with alenB := n, inBlock := true, bi := st.bi + 1 }) := by
  unfold blockLineDone
  split
  · left; exact ⟨_, by decide, rfl⟩
  · rename_i hc
    right
    refine ⟨fun hb => ?_, rfl⟩
    simp only [bne_iff_ne, ne_eq, Bool.and_eq_true, not_and, Decidable.not_not] at hc
    exact hc hb

/-- the end of every block line: a line of the wrong width is a format error; otherwise `bi++` on the state `st` -/
theorem blockLineDone_spec {cfg : Cfg} {H : Prop} (st : StoSt) (n : Nat)
    (h : H → (st.bi ≠ 0 → n = st.alenB) → StoInv cfg { st with alenB := n, inBlock := true, bi := st.bi + 1 }) :
    ESpec H (StoInv cfg) (blockLineDone st n) :=
  .ite (fun _ => .eformat) fun hc hh => h hh fun hb => by
    simp only [bne_iff_ne, ne_eq, Bool.and_eq_true, not_and, Decidable.not_not] at hc
    exact hc hb

/-- the column-wise append of a `#=GC` or `#=GR` line to slot `i` of an annotation array: the length kept for the slot must still be `alen`
    (no second line of the kind in this block); the text goes to the end of the string held there; `K` goes on with the new string -/
theorem slotCat_spec {H : Prop} {Q : StoSt → Prop} {cs : List (Option Bytes)} {ls : List Nat} {m i alen : Nat} {txt : Bytes} {msg : String}
    {K : Option Bytes → Nat → E StoSt} (hmsg : msg ≠ "")
    (hs : H → SlotArr cs ls m ∧ i < m ∧ txt.isEmpty = false ∧ (0 : UInt8) ∉ txt)
    (hK : ∀ c', ESpec (H ∧ ls[i]? = some alen ∧ slotOk c' (alen + txt.length)) Q (K c' alen)) :
    ESpec H Q
      (match getE ls i with
       | .error r => .error r
       | .ok len =>
         if len != alen then .error (.eformat msg)
         else
           match getE cs i with
           | .error r => .error r
           | .ok c =>
             match strcatE c len txt with
             | .error r => .error r
             | .ok c' => K c' len) := by
  refine ESpec.on _ (getE_spec ls i) (fun h => by have := (hs h).1.2.1; have := (hs h).2.1; omega) (fun _ hr => hr) fun len hlen => ?_
  refine .ite (fun _ => .eformat hmsg) fun hl => ?_
  obtain rfl : len = alen := by simpa using hl
  refine ESpec.on _ (getE_spec cs i) (fun h => by have := (hs h).1.1; have := (hs h).2.1; omega) (fun _ hr => hr) fun c hc => ?_
  dsimp only
  refine ESpec.on _ (strcatE_spec c len txt) (fun h => ⟨(hs h).1.get (hc h) (hlen h), (hs h).2.2⟩) (fun _ hr => hr) fun c' hc' => ?_
  exact (hK c').imp fun h => ⟨h, hlen h, hc' h⟩

theorem LensRel.snoc (l : List Nat) : LensRel 0 0 l (l ++ [0]) := by
  simpa using LensRel.pad l 1

/-- the tag lookup of a `#=GC <tag>` line: the tag's slot exists afterwards; whatever is then stored as its length, the other lengths are the old ones -/
theorem getGcTagIdx_spec (st : StoSt) (tag : Bytes) :
    ∃ T G L i, getGcTagIdx st tag = ({ st with gcTags := T, gc := G, ogcLen := L }, i) ∧
      (SlotArr st.gc st.ogcLen st.gcTags.length → SlotArr G L T.length ∧ i < T.length ∧ LensRel 0 0 st.ogcLen L ∧
        ∀ v, ∀ x ∈ L.set i v, x = v ∨ x ∈ st.ogcLen) := by
  unfold getGcTagIdx
  cases hf : List.findIdx? (fun x => x == tag) st.gcTags with
  | some t =>
    exact ⟨st.gcTags, st.gc, st.ogcLen, t, rfl, fun hs => ⟨hs, (List.findIdx?_eq_some_iff_getElem.mp hf).1, LensRel.refl0 _,
      fun _ _ hx => (List.mem_or_eq_of_mem_set hx).symm⟩⟩
  | none =>
    refine ⟨st.gcTags ++ [tag], st.gc ++ [none], st.ogcLen ++ [0], st.gcTags.length, rfl,
      fun hs => ⟨by simpa using hs.pad 1, by simp, LensRel.snoc _, fun v x hx => ?_⟩⟩
    rw [← hs.2.1, List.set_append_right _ _ (Nat.le_refl _), Nat.sub_self] at hx
    rcases List.mem_append.mp hx with hm | hm
    · exact .inr hm
    · exact .inl (by simpa using hm)

theorem parseGc_spec {cfg : Cfg} (st : StoSt) (p : Bytes) :
    ESpec (StoInv cfg st ∧ p.head? = some 35) (StoInv cfg) (parseGc st p) := by
  unfold parseGc
  refine hashLine_spec (by decide) fun gc tag p2 => ?_
  dsimp only
  refine .ite (fun _ => .eformat) fun _ => .ite (fun _ => .eformat) fun hne => .ite (fun _ => .eformat) fun hnul => ?_
  have hne' : (rtrim p2).isEmpty = false := by simpa using hne
  have hnul' : (0 : UInt8) ∉ rtrim p2 := not_mem_of_contains_false (by simpa using hnul)
  have hpos : 1 ≤ (rtrim p2).length := List.length_pos_iff.mpr (List.isEmpty_eq_false_iff.mp hne')
  refine ESpec.on _ (gcLocate_spec st (gcLineType tag)) id (fun _ hr => hr) fun st1 h1 => ?_
  dsimp only
  cases hk : consIdx (gcLineType tag) with
  | some k =>
    -- one of the five parsed consensus annotations
    dsimp only
    have hk5 := consIdx_lt hk
    refine slotCat_spec (m := 5) (by decide) (fun hh => ⟨(h1 hh).1.slots.cons, hk5, hne', hnul'⟩) fun c' => ?_
    refine blockLineDone_spec _ _ fun ⟨hh, hlen, hs2⟩ hw => ?_
    obtain ⟨h1, hc1⟩ := h1 hh
    exact
      { alloc := { h1.alloc with },
        slots := { h1.slots with cons := h1.slots.cons.set k hs2 },
        seq := { h1.seq with },
        block := BlockInv.advance h1.block _ none hc1 rfl rfl rfl rfl rfl rfl rfl rfl (fun i hi => hi)
          (fun _ hq => absurd hq (gcLineType_not_seq tag)),
        gcnz := h1.gcnz,
        count := h1.count.step hpos hw
          (lensRel_2 st1.sqlen (perLens st1.perLen) st1.ogcLen st1.ogrLen.flatten (LensRel.set _ hlen)) }
  | none =>
    -- an unparsed tag
    dsimp only
    obtain ⟨T, G, L, i, hg, hT⟩ := getGcTagIdx_spec st1 tag
    rw [hg]
    dsimp only
    have hs : _ → _ := fun hh => hT (h1 hh).1.slots.gc
    refine slotCat_spec (by decide) (fun hh => ⟨(hs hh).1, (hs hh).2.1, hne', hnul'⟩) fun c' => ?_
    refine blockLineDone_spec _ _ fun ⟨hh, hlen, hs2⟩ hw => ?_
    obtain ⟨h1, hc1⟩ := h1 hh
    obtain ⟨hsl, hi, hrel, hnz⟩ := hs hh
    exact
      { alloc := { h1.alloc with },
        slots := { h1.slots with gc := hsl.set i hs2 },
        seq := { h1.seq with },
        block := BlockInv.advance h1.block _ none hc1 rfl rfl rfl rfl rfl rfl rfl rfl (fun i hi => hi)
          (fun _ hq => absurd hq (gcLineType_not_seq tag)),
        gcnz := (by
          intro x hx
          rcases hnz _ x hx with rfl | hm
          · omega
          · exact h1.gcnz x hm),
        count := h1.count.step hpos hw
          (lensRel_4 st1.sqlen st1.consLen (perLens st1.perLen) st1.ogrLen.flatten
            (LensRel.trans0 hrel (LensRel.set _ hlen))) }

theorem perArrays_spec {cfg : Cfg} (st : StoSt) (k : Nat) :
    ESpec (StoInv cfg st ∧ k < 3) (fun r => SlotArr r.1 r.2 st.sqalloc ∧ LensRel 0 0 ((st.perLen.getD k none).getD []) r.2)
      (perArrays st k) := by
  unfold perArrays
  have hp : StoInv cfg st ∧ k < 3 → _ := fun h => h.1.slots.per
  refine ESpec.on _ (getE_spec st.per k) (fun h => by have := (hp h).1; have := h.2; omega) (fun _ hr => hr) fun rowsO hr => ?_
  dsimp only
  refine ESpec.on _ (getE_spec st.perLen k) (fun h => by have := (hp h).2.1; have := h.2; omega) (fun _ hr => hr) fun lensO hl => ?_
  dsimp only
  -- `msa->ss` and `pd->sslen` are NULL together
  have hok : StoInv cfg st ∧ k < 3 → PerOk rowsO lensO st.sqalloc := fun h => (hp h).get (hr h) (hl h)
  cases rowsO with
  | none =>
    refine fun h => ⟨SlotArr.replicate _, ?_⟩
    rw [getD_of_getElem? (hl h)]
    cases lensO with
    | none => exact LensRel.nil_replicate _
    | some _ => exact absurd (hok h) (by simp [PerOk])
  | some rws =>
    cases lensO with
    | none => exact .fault fun h => absurd (hok h) (by simp [PerOk])
    | some lns => exact fun h => ⟨hok h, by rw [getD_of_getElem? (hl h)]; exact LensRel.refl0 _⟩

/-- what appending a `#=GR` annotation changes -/
def GrDone (st st3 : StoSt) (n : Nat) : Prop :=
  ∃ P PL T G L, st3 = { st with per := P, perLen := PL, grTags := T, gr := G, ogrLen := L } ∧
    Par (PerOk · · st.sqalloc) P PL 3 ∧ Par (SlotArr · · st.sqalloc) G L T.length ∧
    LensRel st.alen (st.alen + n) st.lens (st.sqlen ++ st.consLen ++ perLens PL ++ st.ogcLen ++ L.flatten)

theorem grAppendPer_spec {cfg : Cfg} (st : StoSt) (k seqidx : Nat) (txt : Bytes) :
    ESpec (StoInv cfg st ∧ k < 3 ∧ seqidx < st.names.length ∧ txt.isEmpty = false ∧ (0 : UInt8) ∉ txt)
      (fun st3 => GrDone st st3 txt.length) (grAppendPer st k seqidx txt) := by
  unfold grAppendPer
  have hsq : StoInv cfg st ∧ k < 3 ∧ seqidx < st.names.length ∧ txt.isEmpty = false ∧ (0 : UInt8) ∉ txt → seqidx < st.sqalloc :=
    fun h => by have := h.1.alloc.names; have := h.2.2.1; omega
  refine ESpec.on _ (perArrays_spec st k) (fun h => ⟨h.1, h.2.1⟩) (fun _ hr => hr) fun (rws, lns) hpa => ?_
  dsimp only
  have hpa : _ → SlotArr rws lns st.sqalloc ∧ LensRel 0 0 ((st.perLen.getD k none).getD []) lns := hpa
  refine slotCat_spec (by decide) (fun h => ⟨(hpa h).1, hsq h, h.2.2.2⟩) fun c' ⟨h, hlen, hs2⟩ => ?_
  obtain ⟨hsl, hrel⟩ := hpa h
  have hkget : st.perLen[k]? = some (st.perLen.getD k none) :=
    getElem?_eq_some_getD _ _ _ (by have := h.1.slots.per.2.1; have := h.2.1; omega)
  exact ⟨_, _, _, _, _, rfl, h.1.slots.per.set k (x := some _) (y := some _) (hsl.set seqidx hs2), h.1.slots.gr,
    lensRel_3 _ _ _ _ (perLens_set hkget (LensRel.trans0 hrel (LensRel.set _ hlen)))⟩

theorem getGrTagIdx_spec (st : StoSt) (tag : Bytes) :
    ∃ T G L i, getGrTagIdx st tag = ({ st with grTags := T, gr := G, ogrLen := L }, i) ∧
      (Par (SlotArr · · st.sqalloc) st.gr st.ogrLen st.grTags.length →
        Par (SlotArr · · st.sqalloc) G L T.length ∧ i < T.length ∧ LensRel 0 0 st.ogrLen.flatten L.flatten) := by
  unfold getGrTagIdx
  cases hf : List.findIdx? (fun x => x == tag) st.grTags with
  | some t =>
    obtain ⟨htl, _⟩ := List.findIdx?_eq_some_iff_getElem.mp hf
    exact ⟨st.grTags, st.gr, st.ogrLen, t, rfl, fun hg => ⟨hg, htl, LensRel.refl0 _⟩⟩
  | none =>
    exact ⟨st.grTags ++ [tag], st.gr ++ [List.replicate st.sqalloc none], st.ogrLen ++ [List.replicate st.sqalloc 0],
      st.grTags.length, rfl, fun hg => ⟨by rw [List.length_append]; exact hg.append (.replicate 1 (SlotArr.replicate _)),
        by simp, LensRel.flatten_snoc _ _⟩⟩

theorem grAppendOther_spec {cfg : Cfg} (st : StoSt) (tag : Bytes) (seqidx : Nat) (txt : Bytes) :
    ESpec (StoInv cfg st ∧ seqidx < st.names.length ∧ txt.isEmpty = false ∧ (0 : UInt8) ∉ txt)
      (fun st3 => GrDone st st3 txt.length) (grAppendOther st tag seqidx txt) := by
  unfold grAppendOther
  obtain ⟨T, G, L, i, hg, hT⟩ := getGrTagIdx_spec st tag
  rw [hg]
  dsimp only
  have hsq : StoInv cfg st ∧ seqidx < st.names.length ∧ txt.isEmpty = false ∧ (0 : UInt8) ∉ txt → seqidx < st.sqalloc :=
    fun h => by have := h.1.alloc.names; have := h.2.1; omega
  have hs : StoInv cfg st ∧ seqidx < st.names.length ∧ txt.isEmpty = false ∧ (0 : UInt8) ∉ txt → _ := fun h => hT h.1.slots.gr
  refine ESpec.on _ (getE_spec L i) (fun h => by have := (hs h).1.2.1; have := (hs h).2.1; omega) (fun _ hr => hr)
    fun lrow hlrow => ?_
  dsimp only
  refine ESpec.on _ (getE_spec lrow seqidx) (fun h => by
    have hi : i < G.length := by have := (hs h).1.1; have := (hs h).2.1; omega
    have := ((hs h).1.get (List.getElem?_eq_getElem hi) (hlrow h)).2.1; have := hsq h; omega) (fun _ hr => hr)
    fun len hlen => ?_
  refine .ite (fun _ => .eformat) fun hl => ?_
  obtain rfl : len = st.alen := by simpa using hl
  refine ESpec.on _ (getE_spec G i) (fun h => by have := (hs h).1.1; have := (hs h).2.1; omega) (fun _ hr => hr) fun crow hcrow => ?_
  dsimp only
  have hsl : _ → SlotArr crow lrow st.sqalloc := fun h => (hs h).1.get (hcrow h) (hlrow h)
  refine ESpec.on _ (getE_spec crow seqidx) (fun h => by have := (hsl h).1; have := hsq h; omega) (fun _ hr => hr) fun c hc => ?_
  dsimp only
  refine ESpec.on _ (strcatE_spec c st.alen txt) (fun h => ⟨(hsl h).get (hc h) (hlen h), h.2.2.1, h.2.2.2⟩)
    (fun _ hr => hr) fun c' hs2 h => ?_
  obtain ⟨hgr, _, hrel⟩ := hs h
  exact ⟨_, _, _, _, _, rfl, h.1.slots.per, hgr.set i ((hsl h).set seqidx (hs2 h)),
    lensRel_5 _ _ _ _ (LensRel.trans0 hrel (LensRel.flatten_set (hlrow h) (LensRel.set _ (hlen h))))⟩

theorem perIdx_lt {lt k : Nat} (h : perIdx lt = some k) : k < 3 := by
  unfold perIdx at h
  split at h
  · cases h; decide
  · split at h
    · cases h; decide
    · split at h
      · cases h; decide
      · cases h

theorem grLineType_range (tag : Bytes) : 7 ≤ grLineType tag ∧ grLineType tag ≤ 10 := by
  unfold grLineType
  split
  · decide
  · split
    · decide
    · split <;> decide

theorem grAppend_spec {cfg : Cfg} (st : StoSt) (lt : Nat) (tag : Bytes) (seqidx : Nat) (txt : Bytes) :
    ESpec (StoInv cfg st ∧ seqidx < st.names.length ∧ txt.isEmpty = false ∧ (0 : UInt8) ∉ txt)
      (fun st3 => GrDone st st3 txt.length) (grAppend st lt tag seqidx txt) := by
  unfold grAppend
  cases hk : perIdx lt with
  | some k => exact ESpec.imp (grAppendPer_spec st k seqidx txt) fun h => ⟨h.1, perIdx_lt hk, h.2⟩
  | none => exact grAppendOther_spec st tag seqidx txt

theorem parseGr_spec {cfg : Cfg} (st : StoSt) (p : Bytes) :
    ESpec (StoInv cfg st ∧ p.head? = some 35) (StoInv cfg) (parseGr st p) := by
  unfold parseGr
  refine hashLine_spec (by decide) fun gr name p2 => ?_
  cases memtok p2 blankTab with
  | none => exact .eformat
  | some t3 =>
  obtain ⟨tag, p3⟩ := t3
  dsimp only
  refine .ite (fun _ => .eformat) fun _ => .ite (fun _ => .eformat) fun hne => .ite (fun _ => .eformat) fun hnul => ?_
  have hne' : (rtrim p3).isEmpty = false := by simpa using hne
  have hnul' : (0 : UInt8) ∉ rtrim p3 := not_mem_of_contains_false (by simpa using hnul)
  have hpos : 1 ≤ (rtrim p3).length := List.length_pos_iff.mpr (List.isEmpty_eq_false_iff.mp hne')
  have hrange := grLineType_range tag
  refine ESpec.on _ (grLocate_spec st _ (grLineType tag) hrange) id (fun _ hr => hr) fun (st2, seqidx) h2 => ?_
  dsimp only
  have h2 : _ → StoInv cfg st2 ∧ Cur st2 (grLineType tag) (some seqidx) ∧ seqidx < st2.names.length ∧
      (st2.nblock ≠ 0 → grLineType tag = ltSQ → st2.sqlen.getD seqidx 0 ≠ 0) := h2
  refine ESpec.on _ (grAppend_spec st2 (grLineType tag) tag seqidx (rtrim p3)) (fun h => ⟨(h2 h).1, (h2 h).2.2.1, hne', hnul'⟩)
    (fun _ hr => hr) fun st3 h3 => ?_
  dsimp only
  refine blockLineDone_spec _ _ fun h hw => ?_
  obtain ⟨h2, hc, hi, _⟩ := h2 h
  obtain ⟨P, PL, T, G, L, rfl, hper, hgr, hrel⟩ := h3 h
  exact
    { alloc := { h2.alloc with },
      slots := { h2.slots with per := hper, gr := hgr },
      seq := { h2.seq with },
      block := BlockInv.advance h2.block _ (some seqidx) hc rfl rfl rfl rfl rfl rfl rfl rfl (fun i hi => hi)
        (fun _ _ => ⟨seqidx, rfl, hi, fun hq => by
          have := hrange.1; rw [hq] at this; exact absurd this (by decide)⟩),
      gcnz := h2.gcnz,
      count := h2.count.step hpos hw hrel }

theorem parseSq_spec {cfg : Cfg} (st : StoSt) (p : Bytes) :
    ESpec (cfg.valid ∧ cfg.inmap.noIgnore = true ∧ StoInv cfg st) (StoInv cfg) (parseSq cfg st p) := by
  unfold parseSq
  cases memtok p blankTab with
  | none => exact .eformat
  | some t =>
  obtain ⟨seqname, p1⟩ := t
  dsimp only
  refine .ite (fun _ => .eformat) fun hne => ?_
  have hne' : (rtrim p1).isEmpty = false := by simpa using hne
  have hpos : 1 ≤ (rtrim p1).length := List.length_pos_iff.mpr (List.isEmpty_eq_false_iff.mp hne')
  refine ESpec.on _ (sqLocate_spec st seqname) (·.2.2) (fun _ hr => hr) fun (st2, seqidx) h2 => ?_
  dsimp only
  have h2 : _ → StoInv cfg st2 ∧ Cur st2 ltSQ (some seqidx) ∧ seqidx < st2.names.length ∧
      (st2.nblock ≠ 0 → ltSQ = ltSQ → st2.sqlen.getD seqidx 0 ≠ 0) := h2
  have hrows : _ → _ := fun hh => (h2 hh).1.slots.rows
  have hsq : _ → seqidx < st2.sqalloc := fun hh => by have := (h2 hh).1.alloc.names; have := (h2 hh).2.2.1; omega
  refine ESpec.on _ (getE_spec st2.sqlen seqidx) (fun hh => by have := (hrows hh).2.1; have := hsq hh; omega)
    (fun _ hr => hr) fun sl hsl0 => ?_
  refine .ite (fun _ => .eformat) fun hdup => ?_
  refine ESpec.on _ (getE_spec st2.rows seqidx) (fun hh => by have := (hrows hh).1; have := hsq hh; omega)
    (fun _ hr => hr) fun row hrow => ?_
  dsimp only
  have hrs : _ → RowIs cfg sl row := fun hh => (hrows hh).get (hrow hh) (hsl0 hh)
  -- the *cat helpers write at the end of the row
  refine .ite (fun hbad => .fault fun hh => absurd (hrs hh).2 (by simpa using hbad)) fun _ => ?_
  -- the row was not extended in this block: its length is `alen`
  have hsl : _ → sl = st2.alen := fun hh => by
    obtain ⟨h2, _, _, hnz⟩ := h2 hh
    have hmem : sl ∈ st2.lens := StoSt.mem_lens.mpr (.inl (List.mem_of_getElem? (hsl0 hh)))
    have hdup' : ¬ (0 < st2.bi ∧ sl = st2.alen + st2.alenB) := by simpa using hdup
    have hz : st2.nblock ≠ 0 → sl ≠ 0 := fun hn => by
      have := hnz hn rfl
      rwa [getD_of_getElem? (hsl0 hh)] at this
    rcases h2.count.tri _ hmem with h0 | h0 | h0
    · by_cases hn : st2.nblock = 0
      · rw [h0]; exact (h2.count.first hn).1.symm
      · exact absurd h0 (hz hn)
    · exact h0
    · by_cases hb : st2.bi = 0
      · have := h2.count.bi0 hb; omega
      · exact absurd ⟨by omega, h0⟩ hdup'
  cases hq : (if cfg.digital then dsqcat cfg.inmap row (rtrim p1) else strmapcat cfg.inmap row (rtrim p1)) with
  | mk cs row' =>
    have hcat : _ → cs ≠ .exc ∧ RowIs cfg (st2.alen + (rtrim p1).length) row' := fun hh => by
      obtain ⟨hnx, hcat⟩ := (hrs hh).cat hh.1 (rtrim p1)
      rw [mapLoop_length cfg.inmap hh.2.1 _ .ok [] (mapLoop_noExc cfg.inmap hh.1.noExc _ .ok [] (by simp)), List.length_nil,
        Nat.zero_add, hq, hsl hh] at hcat
      rw [hq] at hnx
      exact ⟨hnx, hcat⟩
    dsimp only
    cases cs with
    | einval => exact .eformat
    | exc => exact .exc fun hh => (hcat hh).1 rfl
    | ok =>
      dsimp only
      refine .ite (fun _ => .eformat) fun hw0 => .ite (fun hbad => .exc fun hh => ?_) fun _ => ?_
      · simp only [bne_iff_ne, ne_eq] at hbad
        exact hbad (hcat hh).2.2
      have hw : st2.bi ≠ 0 → (rtrim p1).length = st2.alenB := by
        intro hb
        simp only [bne_iff_ne, ne_eq, Bool.and_eq_true, not_and, Decidable.not_not] at hw0
        exact hw0 hb
      refine ESpec.on _ (setE_spec ..) (fun hh => by have := (hrows hh).1; have := hsq hh; omega) (fun _ hr => hr) fun rows' e1 => ?_
      dsimp only
      refine ESpec.on _ (setE_spec ..) (fun hh => by have := (hrows hh).2.1; have := hsq hh; omega) (fun _ hr => hr)
        fun sqlen' e2 hh => ?_
      obtain rfl := e1 hh
      obtain rfl := e2 hh
      obtain ⟨h2, hc, hi, -⟩ := h2 hh
      obtain ⟨r1, r2, r3⟩ := h2.slots.rows
      have hsq := hsq hh
      have hnew : rowLen cfg.digital row' = st2.alen + (rtrim p1).length := (hcat hh).2.2
      have hget : st2.sqlen[seqidx]? = some st2.alen := by rw [hsl0 hh, hsl hh]
      have hkeep : ∀ i, st2.sqlen.getD i 0 ≠ 0 →
          (st2.sqlen.set seqidx (rowLen cfg.digital row')).getD i 0 ≠ 0 := by
        intro i hi0
        rw [getD_set]
        split
        · rw [hnew]; omega
        · exact hi0
      exact
        { alloc := { h2.alloc with si := hi },
          slots := { h2.slots with rows := h2.slots.rows.set seqidx ⟨(hcat hh).2.1, rfl⟩ },
          seq :=
            { beyond := (by
                intro i hge
                show (st2.sqlen.set seqidx (rowLen cfg.digital row')).getD i 0 = 0
                rw [getD_set]
                have hge' : st2.names.length ≤ i := hge
                simp only [show ¬ seqidx = i by omega, false_and, if_false]
                exact h2.seq.beyond i hge'),
              nseqB := (by
                intro h0
                have h0' : st2.nblock = 0 := h0
                show st2.nseqB + 1 = List.countP (· != 0) (st2.sqlen.set seqidx (rowLen cfg.digital row'))
                have e := (LensRel.set (rowLen cfg.digital row') hget).cnt (· != 0) (by simp)
                have ha0 := (h2.count.first h0').1
                have hnb := h2.seq.nseqB h0'
                have hp1 : (st2.alen != 0) = false := by simp [ha0]
                have hp2 : (rowLen cfg.digital row' != 0) = true := by
                  have : rowLen cfg.digital row' ≠ 0 := by rw [hnew]; omega
                  simpa [bne_iff_ne] using this
                simp only [hp1, hp2, Bool.false_eq_true, if_false, if_true, Nat.add_zero] at e
                omega) },
          block := BlockInv.advance h2.block ltSQ (some seqidx) hc rfl rfl rfl rfl rfl rfl rfl rfl hkeep
            (fun _ _ => ⟨seqidx, rfl, hi, fun _ => by
              show (st2.sqlen.set seqidx (rowLen cfg.digital row')).getD seqidx 0 ≠ 0
              rw [getD_set]
              simp only [show seqidx < st2.sqlen.length by omega, and_self, if_true]
              rw [hnew]; omega⟩),
          gcnz := h2.gcnz,
          count := (by
            have := h2.count.step hpos hw
              (lensRel_1 st2.consLen (perLens st2.perLen) st2.ogcLen st2.ogrLen.flatten
                (LensRel.set (st2.alen + (rtrim p1).length) hget))
            rw [hnew]
            exact this) }

theorem slot_final {alen : Nat} {lens : List Nat} (hb : ∀ x ∈ lens, x = 0 ∨ x = alen) {c : Option Bytes} {len : Nat}
    (hs : slotOk c len) (hm : len ∈ lens) : optLenOk alen c = true := by
  cases c with
  | none => rfl
  | some b =>
    obtain ⟨h1, _, h3⟩ := hs
    rcases hb len hm with h0 | h0
    · omega
    · simp [optLenOk, h1, h0]

theorem slotArr_final {alen : Nat} {lens : List Nat} (hb : ∀ x ∈ lens, x = 0 ∨ x = alen) {cs : List (Option Bytes)}
    {ls : List Nat} {m : Nat} (hs : SlotArr cs ls m) (hsub : ∀ x ∈ ls, x ∈ lens) (n : Nat) :
    (cs.take n).all (optLenOk alen) = true := by
  rw [List.all_eq_true]
  intro c hc
  obtain ⟨i, hi, e⟩ := List.mem_iff_getElem.mp (List.mem_of_mem_take hc)
  have hi' : i < ls.length := by rw [hs.2.1, ← hs.1]; exact hi
  exact slot_final hb (hs.get (e ▸ List.getElem?_eq_getElem hi) (List.getElem?_eq_getElem hi')) (hsub _ (List.getElem_mem hi'))

theorem mem_perLens {pl : List (Option (List Nat))} {k : Nat} {lns : List Nat} (hk : pl[k]? = some (some lns)) :
    ∀ x ∈ lns, x ∈ perLens pl := by
  intro x hx
  unfold perLens
  rw [List.mem_flatten]
  refine ⟨lns, ?_, hx⟩
  rw [List.mem_map]
  exact ⟨some lns, List.mem_of_getElem? hk, rfl⟩

theorem per_final {cfg : Cfg} {st : StoSt} (h : StoInv cfg st) (hb : ∀ x ∈ st.lens, x = 0 ∨ x = st.alen) (k : Nat) (hk : k < 3)
    (n : Nat) : optRowsOk st.alen ((st.per.getD k none).map (·.take n)) = true := by
  have hpl : st.perLen[k]? = some (st.perLen.getD k none) := getElem?_eq_some_getD _ _ _ (by have := h.slots.per.2.1; omega)
  have hp := h.slots.per.get (getElem?_eq_some_getD _ _ none (by have := h.slots.per.1; omega)) hpl
  generalize st.per.getD k none = r at hp ⊢
  generalize st.perLen.getD k none = l at hp hpl
  cases r with
  | none => rfl
  | some rws =>
    cases l with
    | none => exact absurd hp (by simp [PerOk])
    | some lns =>
      simp only [Option.map_some, optRowsOk]
      apply slotArr_final hb hp
      exact fun x hx => StoSt.mem_lens.mpr (.inr (.inr (.inl (mem_perLens hpl x hx))))

theorem cons_final {cfg : Cfg} {st : StoSt} (h : StoInv cfg st) (hb : ∀ x ∈ st.lens, x = 0 ∨ x = st.alen) (k : Nat) (hk : k < 5) :
    optLenOk st.alen (st.cons.getD k none) = true := by
  obtain ⟨c1, c2, _⟩ := h.slots.cons
  apply slot_final hb (h.slots.cons.get (getElem?_eq_some_getD _ _ none (by omega)) (getElem?_eq_some_getD _ _ 0 (by omega)))
  exact StoSt.mem_lens.mpr (.inr (.inl (getD_mem_of_lt (by omega))))

theorem rows_final {cfg : Cfg} {st : StoSt} (h : StoInv cfg st) (h1 : 1 ≤ st.alen)
    (hall : ∀ i, i < st.nseq → st.sqlen[i]? = some st.alen) :
    ((st.rows.take st.nseq).map (·.getD [])).all (rowOkB cfg.digital cfg.kp st.alen) = true := by
  obtain ⟨r1, r2, r3⟩ := h.slots.rows
  rw [List.all_eq_true]
  intro r hr
  obtain ⟨ro, hro, e⟩ := List.mem_map.mp hr
  obtain ⟨i, hi, e2⟩ := List.mem_iff_getElem.mp hro
  have hi' : i < st.nseq := by simp at hi; omega
  have hir : i < st.rows.length := by simp at hi; omega
  have hsl := hall i hi'
  have e3 : st.rows[i]? = some ro := by rw [← e2]; simp
  obtain ⟨r', rfl, hok⟩ := (h.slots.rows.get e3 hsl).some h1
  rw [← e]; exact hok

theorem stoMsa_wellFormed {cfg : Cfg} {st : StoSt} (h : StoInv cfg st) (hbi : st.bi = 0) (hnb : st.nblock ≠ 0)
    (hns : st.nseq ≠ 0) (hall : ∀ i, i < st.nseq → st.sqlen[i]? = some st.alen)
    (hw : st.hasw = true → ∀ i, i < st.nseq → st.wgt[i]? ≠ none ∧ st.wgt[i]? ≠ some Wgt.unset) :
    (stoMsa cfg st).wellFormed = true := by
  have hb := h.count.between hbi
  have h1 : 1 ≤ st.alen := (h.count.later hnb).1
  have ha := h.alloc
  have hnl : (st.names.take st.nseq).length = st.nseq := by simp [ha.nseq]
  have hrl : ((st.rows.take st.nseq).map (·.getD [])).length = st.nseq := by
    have := h.slots.rows.1; have := ha.names; have := ha.nseq
    simp; omega
  have hrows := rows_final h h1 hall
  refine Msa.wellFormed_of_clauses (n := st.nseq) hnl (by omega)
    (rowsOk_of_rowOkB cfg.digital cfg.kp st.alen st.nseq _ hrl hrows) ?wgtLen ?wgt
    (cons_final h hb 0 (by decide)) (cons_final h hb 1 (by decide)) (cons_final h hb 2 (by decide))
    (cons_final h hb 3 (by decide)) (cons_final h hb 4 (by decide))
    (per_final h hb 0 (by decide) _) (per_final h hb 1 (by decide) _) (per_final h hb 2 (by decide) _) ?gc ?gr
  case wgtLen =>
    show ((if st.hasw then st.wgt.take st.nseq else List.replicate st.nseq Wgt.dflt).length == st.nseq) = true
    have := ha.wgt; have := ha.names; have := ha.nseq
    split <;> simp <;> omega
  case wgt =>
    show (if st.hasw then (if st.hasw then st.wgt.take st.nseq else List.replicate st.nseq Wgt.dflt).all (· != Wgt.unset)
          else (if st.hasw then st.wgt.take st.nseq else List.replicate st.nseq Wgt.dflt).all (· == Wgt.dflt)) = true
    cases hh : st.hasw with
    | true =>
      simp only [if_true]
      rw [List.all_eq_true]
      intro w hwm
      obtain ⟨i, hi, e⟩ := List.mem_iff_getElem.mp hwm
      have hi' : i < st.nseq := by simp at hi; omega
      have hiw : i < st.wgt.length := by simp at hi; omega
      have := (hw hh i hi').2
      rw [List.getElem?_eq_getElem hiw] at this
      have e2 : w = st.wgt[i] := by rw [← e]; simp
      simp only [bne_iff_ne, ne_eq]
      intro hu
      apply this
      rw [← e2, hu]
    | false =>
      simp only [Bool.false_eq_true, if_false]
      rw [List.all_eq_true]
      intro w hwm
      have := List.eq_of_mem_replicate hwm
      simp [this]
  case gc =>
    -- unparsed #=GC: every tag has an annotation string of length alen
    show (st.gcTags.zip (st.gc.map (·.getD []))).all (fun t => t.2.length == st.alen) = true
    rw [List.all_eq_true]
    intro t ht
    have hm := (List.of_mem_zip ht).2
    obtain ⟨c, hc, e⟩ := List.mem_map.mp hm
    obtain ⟨i, hi, e2⟩ := List.mem_iff_getElem.mp hc
    have hil : i < st.ogcLen.length := by have := h.slots.gc.1; have := h.slots.gc.2.1; omega
    have hs := h.slots.gc.get (e2 ▸ List.getElem?_eq_getElem hi) (List.getElem?_eq_getElem hil)
    have hmem : st.ogcLen[i] ∈ st.lens := StoSt.mem_lens.mpr (.inr (.inr (.inr (.inl (List.getElem_mem hil)))))
    have hnz := h.gcnz _ (List.getElem_mem hil)
    have hlen : st.ogcLen[i] = st.alen := by
      rcases hb _ hmem with h0 | h0
      · exact absurd h0 hnz
      · exact h0
    cases c with
    | none => exact absurd hs hnz
    | some b =>
      obtain ⟨hl, _, _⟩ := hs
      rw [← e]
      simp [hl, hlen]
  case gr =>
    -- unparsed #=GR
    show (st.grTags.zip (st.gr.map (·.take st.nseq))).all (fun t => t.2.all (optLenOk st.alen)) = true
    rw [List.all_eq_true]
    intro t ht
    have hm := (List.of_mem_zip ht).2
    obtain ⟨row, hrow, e⟩ := List.mem_map.mp hm
    obtain ⟨i, hi, e2⟩ := List.mem_iff_getElem.mp hrow
    have hil : i < st.ogrLen.length := by have := h.slots.gr.1; have := h.slots.gr.2.1; omega
    rw [← e]
    apply slotArr_final hb (h.slots.gr.get (e2 ▸ List.getElem?_eq_getElem hi) (List.getElem?_eq_getElem hil))
    exact fun x hx => StoSt.mem_lens.mpr (.inr (.inr (.inr (.inr (List.mem_flatten.mpr ⟨_, List.getElem_mem hil, hx⟩)))))

/-- the final checks of `esl_msafile_stockholm_Read`, walked once: the alignment returned is `stoMsa cfg st`, every sequence then has `alen`
    columns and (with `eslMSA_HASWGTS`) a weight; the two loops fault only on an array shorter than `nseq` -/
theorem stoFinal_cases (cfg : Cfg) (st : StoSt) :
    (stoFinal cfg st = .ok (stoMsa cfg st) ∧ st.nblock ≠ 0 ∧ st.nseq ≠ 0 ∧ (∀ i, i < st.nseq → st.sqlen[i]? = some st.alen) ∧
      (st.hasw = true → ∀ i, i < st.nseq → st.wgt[i]? ≠ none ∧ st.wgt[i]? ≠ some Wgt.unset)) ∨
    ErrGood (st.nseq ≤ st.sqlen.length ∧ st.nseq ≤ st.wgt.length) (stoFinal cfg st) := by
  unfold stoFinal
  by_cases hnb : (st.nblock == 0) = true
  · rw [if_pos hnb]; exact .inr fun _ => by decide
  by_cases hns : (st.nseq == 0) = true
  · rw [if_neg hnb, if_pos hns]; exact .inr fun _ => by decide
  rw [if_neg hnb, if_neg hns]
  cases hf : (List.range st.nseq).find? (fun i => st.sqlen[i]? != some st.alen) with
  | some i =>
    have hi := List.mem_range.mp (List.mem_of_find?_eq_some hf)
    exact .inr (ite_ind (fun _ _ => by decide) fun hge h => hge (by omega))
  | none =>
    have hall : ∀ i, i < st.nseq → st.sqlen[i]? = some st.alen := fun i hi => by
      simpa using List.find?_eq_none.mp hf i (List.mem_range.mpr hi)
    dsimp only
    by_cases hw : st.hasw = true
    · rw [if_pos hw]
      cases hf2 : (List.range st.nseq).find? (fun i => st.wgt[i]? == none || st.wgt[i]? == some Wgt.unset) with
      | some i =>
        have hi := List.mem_range.mp (List.mem_of_find?_eq_some hf2)
        exact .inr (ite_ind (fun _ _ => by decide) fun hge h => hge (by omega))
      | none =>
        exact .inl ⟨rfl, by simpa using hnb, by simpa using hns, hall, fun _ i hi => by
          simpa using List.find?_eq_none.mp hf2 i (List.mem_range.mpr hi)⟩
    · rw [if_neg hw]
      exact .inl ⟨rfl, by simpa using hnb, by simpa using hns, hall, fun hw' => absurd hw' hw⟩

theorem stoFinal_good {cfg : Cfg} {st : StoSt} (h : StoInv cfg st) (hin : st.inBlock = false) : Good (stoFinal cfg st) := by
  rcases stoFinal_cases cfg st with ⟨e, hnb, hns, hall, hw⟩ | he
  · rw [e]
    exact stoMsa_wellFormed h (Nat.eq_zero_of_not_pos fun hb => by simp [h.block.inb.mpr hb] at hin) hnb hns hall hw
  · have ha := h.alloc
    exact he.good ⟨by have := h.slots.rows.2.1; have := ha.names; have := ha.nseq; omega,
      by have := ha.wgt; have := ha.names; have := ha.nseq; omega⟩

/-- the hypotheses on the reader configuration: `Cfg.valid` (the input map emits only storable symbols and cannot raise an
    exception) and no character is ignored -/
structure Cfg.stoValid (c : Cfg) : Prop where
  valid : c.valid
  noIgnore : c.inmap.noIgnore = true

/-- what one line of `esl_msafile_stockholm_Read` comes to: the outcome of a helper handed on, or, at `//` after the end-of-block
    bookkeeping, the final checks -/
inductive StoStepOut (cfg : Cfg) (st : StoSt) : Sum StoSt (Res Msa) → Prop
  | helper (x : E StoSt) (hx : ESpec (cfg.valid ∧ cfg.inmap.noIgnore = true ∧ StoInv cfg st) (StoInv cfg) x) : StoStepOut cfg st (liftE x)
  | final (st1 : StoSt) (h1 : cfg.valid ∧ cfg.inmap.noIgnore = true ∧ StoInv cfg st → StoInv cfg st1 ∧ st1.inBlock = false) :
      StoStepOut cfg st (.inr (stoFinal cfg st1))

theorem stoStep_out (cfg : Cfg) (st : StoSt) (line : Bytes) : StoStepOut cfg st (stoStep cfg st line) := by
  unfold stoStep
  refine ite_ind (fun _ => ite_ind (fun _ => .helper (.ok st) (·.2.2)) fun _ => ite_ind (fun _ => .helper (.error _) .eformat)
    fun _ => .helper (.ok _) fun h => h.2.2.irrelevant ..) fun _ => ?_
  dsimp only
  refine ite_ind (fun _ => ?_) fun _ => ite_ind (fun hp => ?_) fun _ => .helper _ (parseSq_spec ..)
  · refine ESpec.on _ (endBlock_spec st) (·.2.2) (fun r hr => .helper (.error r) hr) fun st1 h1 => ?_
    exact ite_ind (fun _ => .final st1 h1) fun _ => .helper (.ok st1) fun h => (h1 h).1
  · have hp' : (line.dropWhile (fun c => c == 32 || c == 9)).head? = some 35 := by simpa using hp
    exact ite_ind (fun _ => .helper _ ((parseGf_spec ..).imp fun h => ⟨h.2.2, hp'⟩)) fun _ =>
      ite_ind (fun _ => .helper _ ((parseGs_spec ..).imp fun h => ⟨h.2.2, hp'⟩)) fun _ =>
      ite_ind (fun _ => .helper _ ((parseGc_spec ..).imp fun h => ⟨h.2.2, hp'⟩)) fun _ =>
      ite_ind (fun _ => .helper _ ((parseGr_spec ..).imp fun h => ⟨h.2.2, hp'⟩)) fun _ =>
      ite_ind (fun _ => .helper (.error _) .eformat) fun _ => .helper _ ((parseComment_spec ..).imp (·.2.2))

theorem stoStep_inv {cfg : Cfg} (hv : cfg.valid) (hni : cfg.inmap.noIgnore = true) (st : StoSt) (line : Bytes)
    (h : StoInv cfg st) : StepGood (StoInv cfg) (stoStep cfg st line) := by
  have hc := stoStep_out cfg st line
  generalize stoStep cfg st line = y at hc
  cases hc with
  | helper x hx => exact stepGood_liftE (hx.good ⟨hv, hni, h⟩)
  | final st1 h1 => exact stoFinal_good (h1 ⟨hv, hni, h⟩).1 (h1 ⟨hv, hni, h⟩).2

theorem stoFinish_good (st : StoSt) : Good (stoFinish st) := by
  unfold stoFinish
  split <;> simp

/-- **Stockholm / Pfam reader, every input**: the outcome of `esl_msafile_stockholm_Read` is a documented normal one
    (never an out-of-bounds access, a NULL dereference or an `ESL_EXCEPTION`), a format error carries a message, and a
    returned alignment is well formed -/
theorem stockholmRead_good (cfg : Cfg) (hv : cfg.valid) (hni : cfg.inmap.noIgnore = true) (lines : List Bytes) :
    Good (stockholmRead cfg lines).1 :=
  runLines_inv (stoStep cfg) stoFinish (StoInv cfg) Good (fun st l h => stoStep_inv hv hni st l h)
    (fun st _ => stoFinish_good st) lines {} (StoInv_init cfg)

theorem stockholmRead_nofault (cfg : Cfg) (hv : cfg.valid) (hni : cfg.inmap.noIgnore = true) (lines : List Bytes) :
    (stockholmRead cfg lines).1 ≠ .fault ∧ (stockholmRead cfg lines).1 ≠ .exc ∧
    ∀ msg, (stockholmRead cfg lines).1 = .eformat msg → msg ≠ "" :=
  have h := stockholmRead_good cfg hv hni lines
  ⟨h.no_fault.1, h.no_fault.2, fun _ e => h.msg_ne e⟩

end EaselModel.Msafile
