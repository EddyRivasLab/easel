import EaselModel.Msafile.Stockholm
import EaselModel.Msafile.AfaLemmas
import EaselModel.Msafile.Guess
/-! # The numeric payload of Stockholm `#=GS <seq> WT <w>` and `#=GF GA|NC|TC <x> [<y>]`

`Stockholm.lean` keeps of a weight / cut-off token only what decides control flow (accepted by `esl_mem_IsReal`? equal to
the "unset" marker -1.0?).  This file carries the VALUES: `esl_memtod` = `strtod` of the NUL-terminated token (binary64),
`esl_memtof` = `(float) strtod(...)` (binary64 rounded again to binary32), for every token the reader accepts:

* decimal tokens `[ws][+-]digits[.digits][(e|E)[+-]digits]` (every token the writers emit: `%.2f`, `%.1f`, and `%g`-like
  forms with an exponent) and hexadecimal tokens `0x…[p…]` — EXACTLY: the token is a rational `m·10^x` / `m·2^x`, glibc's
  `strtod` is correctly rounded (nearest, ties to even, subnormals, overflow to infinity), which is integer arithmetic
  (`roundBin`); `strtod` converts the longest valid prefix, the rest of the token is ignored (`esl_mem_IsReal` lets such
  tokens through: it skips any byte that is not a digit, '.', 'e', 'E' or a space); no valid prefix = +0.0;
* `inf` / `infinity` prefixes (any case): ±infinity, exactly;
* `nan` / `nan(…)` prefixes: a NaN; its payload is NOT modelled — the stated canonicalisation is "every NaN pattern is
  the quiet NaN 0x7ff8000000000000 / 0x7fc00000 with the token's sign" (the plug-in canonicalises the harness side the same way).

`stockholmReadV` is `stockholmRead` run in lockstep with a recorder of these values (`NumSt`); `stockholmReadV_erase` says
it IS `stockholmRead` up to the payload (`patchRes`), so every theorem about `stockholmRead` (total, no fault, message,
well-formed) transfers (`stockholmReadV_good`).  C locale (decimal point '.', no grouping). -/
namespace EaselModel.Msafile

/-- the bit pattern (sign excluded) of the number of the binary format with `P` significand bits (hidden bit included),
    least exponent `emin` of the unit in the last place (-1074 / -149) and all-ones exponent field `expMax` (2047 / 255)
    nearest to `p / q`, ties to even; overflow gives infinity.  `p / (q·2^e)` is brought into `[2^(P-1), 2^P)` (or `e` is
    clamped at `emin`: subnormals), divided with remainder, rounded; `(e - emin)·2^(P-1) + n` is then the pattern — for a
    normal number the exponent field is `e - emin + 1` and the hidden bit of `n` supplies the `+1`; a carry out of the
    significand (`n = 2^P`) moves into the exponent field by the same addition. -/
def roundBin (P : Nat) (emin : Int) (expMax : Nat) (p q : Nat) : Nat :=
  if p == 0 || q == 0 then 0
  else
    let e1 : Int := Int.ofNat (Nat.log2 p) - Int.ofNat (Nat.log2 q) - Int.ofNat (P - 1)
    let sc := fun (e : Int) => if e ≥ 0 then (p, q * 2 ^ e.toNat) else (p * 2 ^ (-e).toNat, q)
    let s1 := sc e1
    let e2 : Int := if s1.1 / s1.2 < 2 ^ (P - 1) then e1 - 1 else e1
    let e : Int := if e2 < emin then emin else e2
    let s := sc e
    let n := s.1 / s.2
    let r := s.1 % s.2
    let n' := if 2 * r > s.2 || (2 * r == s.2 && n % 2 == 1) then n + 1 else n
    let bits := (e - emin).toNat * 2 ^ (P - 1) + n'
    if bits ≥ expMax * 2 ^ (P - 1) then expMax * 2 ^ (P - 1) else bits

def round64 (p q : Nat) : Nat := roundBin 53 (-1074) 2047 p q
def round32 (p q : Nat) : Nat := roundBin 24 (-149) 255 p q

def inf64 : Nat := 0x7ff0000000000000
def qnan64 : Nat := 0x7ff8000000000000

/-- `m · 10^x` (m > 0) as binary64; the size test keeps the powers small whatever the exponent field says:
    with `d` decimal digits, `10^(d+x-1) ≤ m·10^x < 10^(d+x)`; above `10^310` everything is infinity, below `10^-327`
    (half the least subnormal is 2.47e-324) everything is 0 -/
def dec64 (m : Nat) (x : Int) : Nat :=
  if m == 0 then 0
  else
    let d : Int := Int.ofNat (Nat.toDigits 10 m).length
    if d + x > 311 then inf64
    else if d + x < -327 then 0
    else if x ≥ 0 then round64 (m * 10 ^ x.toNat) 1 else round64 m (10 ^ (-x).toNat)

/-- `m · 2^x` (hexadecimal floating constant) as binary64 -/
def hex64 (m : Nat) (x : Int) : Nat :=
  if m == 0 then 0
  else
    let d : Int := Int.ofNat (Nat.log2 m)
    if d + x > 1030 then inf64
    else if d + x < -1080 then 0
    else if x ≥ 0 then round64 (m * 2 ^ x.toNat) 1 else round64 m (2 ^ (-x).toNat)

def lowerC (c : UInt8) : UInt8 := if 65 ≤ c && c ≤ 90 then c + 32 else c

/-- `strtod(tok, NULL)` as a binary64 pattern, `tok` NUL-free (glibc, C locale, round to nearest) -/
def strtodBits (tok : Bytes) : UInt64 :=
  let s := tok.dropWhile isSpace
  let (neg, p) := match s with
    | 45 :: r => (true, r)
    | 43 :: r => (false, r)
    | _ => (false, s)
  let sign : Nat := if neg then 2 ^ 63 else 0
  let p3 := (p.take 3).map lowerC
  if p3 == [105, 110, 102] then UInt64.ofNat (sign + inf64)                       -- "inf", "infinity"
  else if p3 == [110, 97, 110] then UInt64.ofNat (sign + qnan64)                  -- "nan", "nan(...)": canonical quiet NaN
  else
    let isHex := match p with
      | 48 :: x :: r => (x == 120 || x == 88) &&
          (match r with
           | h :: r' => isHexDigit h || (h == 46 && (match r' with | h' :: _ => isHexDigit h' | [] => false))
           | [] => false)
      | _ => false
    if isHex then
      let p := p.drop 2
      let ip := p.takeWhile isHexDigit
      let p1 := p.dropWhile isHexDigit
      let (fp, p2) := match p1 with
        | 46 :: r => (r.takeWhile isHexDigit, r.dropWhile isHexDigit)
        | _ => ([], p1)
      UInt64.ofNat (sign + hex64 (hexDigitsVal (ip ++ fp)) (parseExp p2 112 80 - 4 * Int.ofNat fp.length))
    else
      let ip := p.takeWhile isDigit
      let p1 := p.dropWhile isDigit
      let (fp, p2) := match p1 with
        | 46 :: r => (r.takeWhile isDigit, r.dropWhile isDigit)
        | _ => ([], p1)
      if ip.isEmpty && fp.isEmpty then 0                                          -- no conversion: +0.0 whatever the sign
      else UInt64.ofNat (sign + dec64 (digitsVal (ip ++ fp)) (parseExp p2 101 69 - Int.ofNat fp.length))

/-- `(float) x` for the binary64 pattern `b`: round to nearest even again, overflow to infinity, NaN canonical -/
def f64ToF32 (b : UInt64) : UInt32 :=
  let n := b.toNat
  let sign : Nat := if n / 2 ^ 63 == 1 then 2 ^ 31 else 0
  let ex := (n / 2 ^ 52) % 2048
  let fr := n % 2 ^ 52
  if ex == 2047 then UInt32.ofNat (sign + (if fr == 0 then 0x7f800000 else 0x7fc00000))
  else
    let m := if ex == 0 then fr else fr + 2 ^ 52
    let e : Int := Int.ofNat (if ex == 0 then 1 else ex) - 1075
    UInt32.ofNat (sign + (if e ≥ 0 then round32 (m * 2 ^ e.toNat) 1 else round32 m (2 ^ (-e).toNat)))

/-- `esl_memtof(tok, toklen, &x)` -/
def strtofBits (tok : Bytes) : UInt32 := f64ToF32 (strtodBits tok)

/-- the numeric payload read so far: `(seqidx, weight)` per accepted `#=GS <seq> WT` line in input order, and the six
    cut-offs `TC1 TC2 GA1 GA2 NC1 NC2` -/
structure NumSt where
  w : List (Nat × UInt64) := []
  cut : List (Option UInt32) := List.replicate 6 none
deriving Repr

/-- the two-threshold part of an ACCEPTED `#=GF GA|NC|TC` line (mirrors `parseCutoffs`) -/
def numCutoffs (ns : NumSt) (p : Bytes) (i1 i2 : Nat) (undefOk : Bool) : NumSt :=
  match memtok p blankTab with
  | none => ns
  | some (tok, p1) =>
    let ns1 := if undefOk && memstrcmp tok bUndefined then ns else { ns with cut := ns.cut.set i1 (some (strtofBits tok)) }
    match memtok p1 blankTab with
    | none => ns1
    | some (tok2, _) => { ns1 with cut := ns1.cut.set i2 (some (strtofBits tok2)) }

/-- what an ACCEPTED line (`stoStep cfg st line = .inl st'`) adds to the payload: the line is tokenised exactly as
    `stockholm_parse_gs` / `stockholm_parse_gf` do; the sequence a `WT` line spoke about is `st'.si - 1` (`pd->si = seqidx+1`) -/
def numUpd (ns : NumSt) (st st' : StoSt) (line : Bytes) : NumSt :=
  if st.lead then ns
  else
    let p := line.dropWhile (fun c => c == 32 || c == 9)
    if memstrpfx p bGS then
      match memtok p blankTab with
      | none => ns
      | some (_, p1) =>
        match memtok p1 blankTab with
        | none => ns
        | some (_, p2) =>
          match memtok p2 blankTab with
          | none => ns
          | some (tag, p3) =>
            if memstrcmp tag bWT then
              match memtok p3 blankTab with
              | none => ns
              | some (tok, _) => { ns with w := ns.w ++ [(st'.si - 1, strtodBits tok)] }
            else ns
    else if memstrpfx p bGF then
      match memtok p blankTab with
      | none => ns
      | some (_, p1) =>
        match memtok p1 blankTab with
        | none => ns
        | some (tag, p2) =>
          if memstrcmp tag bGA then numCutoffs ns p2 2 3 false
          else if memstrcmp tag bNC then numCutoffs ns p2 4 5 true
          else if memstrcmp tag bTC then numCutoffs ns p2 0 1 false
          else ns
    else ns

/-- the last value recorded for sequence `i` -/
def lastW (w : List (Nat × UInt64)) (i : Nat) : Option UInt64 :=
  (w.reverse.find? (fun e => e.1 == i)).map (·.2)

/-- a weight the reader holds as "some value" gets the value recorded for it; `unset` / default weights are left alone -/
def patchW1 (w : List (Nat × UInt64)) (i : Nat) (x : Wgt) : Wgt :=
  match x with
  | .val b => .val ((lastW w i).getD b)
  | y => y

def patchWFrom (w : List (Nat × UInt64)) : Nat → List Wgt → List Wgt
  | _, [] => []
  | i, x :: xs => patchW1 w i x :: patchWFrom w (i + 1) xs

def patchCut (cut : List (Option UInt32)) : Nat → List (Option UInt32) → List (Option UInt32)
  | _, [] => []
  | i, x :: xs => (match x with | some b => some ((cut.getD i none).getD b) | none => none) :: patchCut cut (i + 1) xs

/-- the alignment with its numeric payload filled in -/
def patchMsa (ns : NumSt) (m : Msa) : Msa :=
  { m with wgt := patchWFrom ns.w 0 m.wgt, cutoff := patchCut ns.cut 0 m.cutoff }

def patchRes (ns : NumSt) (r : Res Msa) : Res Msa :=
  match r with
  | .ok m => .ok (patchMsa ns m)
  | r' => r'

/-- one line of the value-carrying reader: `stoStep`, and the recorder on the side -/
def stoStepV (cfg : Cfg) (s : StoSt × NumSt) (line : Bytes) : Sum (StoSt × NumSt) (Res Msa) :=
  match stoStep cfg s.1 line with
  | .inl st' => .inl (st', numUpd s.2 s.1 st' line)
  | .inr r => .inr (patchRes s.2 r)

/-- `esl_msafile_stockholm_Read` with the numeric payload of weights and cut-offs -/
def stockholmReadV (cfg : Cfg) (lines : List Bytes) : Res Msa × List Bytes :=
  runLines (stoStepV cfg) (fun s => stoFinish s.1) ({}, {}) lines

theorem runLines_stoStepV (cfg : Cfg) (lines : List Bytes) (st : StoSt) (ns : NumSt) :
    ∃ ns', runLines (stoStepV cfg) (fun s => stoFinish s.1) (st, ns) lines =
      (patchRes ns' (runLines (stoStep cfg) stoFinish st lines).1, (runLines (stoStep cfg) stoFinish st lines).2) := by
  induction lines generalizing st ns with
  | nil =>
    refine ⟨ns, ?_⟩
    simp only [runLines]
    unfold stoFinish patchRes
    split <;> rfl
  | cons l ls ih =>
    unfold runLines
    unfold stoStepV
    cases h : stoStep cfg st l with
    | inl st' =>
      simp only [h]
      exact ih st' (numUpd ns st st' l)
    | inr r =>
      simp only [h]
      exact ⟨ns, rfl⟩

/-- **erasure**: the value-carrying reader returns what `stockholmRead` returns, with the payload patched in -/
theorem stockholmReadV_erase (cfg : Cfg) (lines : List Bytes) :
    ∃ ns, stockholmReadV cfg lines = (patchRes ns (stockholmRead cfg lines).1, (stockholmRead cfg lines).2) :=
  runLines_stoStepV cfg lines {} {}

theorem patchWFrom_length (w : List (Nat × UInt64)) (i : Nat) (l : List Wgt) : (patchWFrom w i l).length = l.length := by
  induction l generalizing i with
  | nil => rfl
  | cons x xs ih => simp [patchWFrom, ih]

theorem patchWFrom_all (w : List (Nat × UInt64)) (p : Wgt → Bool) (hp : ∀ i x, p (patchW1 w i x) = p x) (i : Nat) (l : List Wgt) :
    (patchWFrom w i l).all p = l.all p := by
  induction l generalizing i with
  | nil => rfl
  | cons x xs ih => simp [patchWFrom, List.all_cons, hp, ih]

theorem val_ne_unset (a : UInt64) : (Wgt.val a != Wgt.unset) = true := by
  rw [bne_iff_ne]; intro h; cases h

theorem val_beq_dflt (a : UInt64) : (Wgt.val a == Wgt.dflt) = false := by
  rw [beq_eq_false_iff_ne]; intro h; cases h

theorem patchW1_ne_unset (w : List (Nat × UInt64)) (i : Nat) (x : Wgt) : (patchW1 w i x != Wgt.unset) = (x != Wgt.unset) := by
  cases x with
  | val b => show (Wgt.val _ != Wgt.unset) = (Wgt.val b != Wgt.unset); rw [val_ne_unset, val_ne_unset]
  | unset => rfl
  | dflt => rfl

theorem patchW1_eq_dflt (w : List (Nat × UInt64)) (i : Nat) (x : Wgt) : (patchW1 w i x == Wgt.dflt) = (x == Wgt.dflt) := by
  cases x with
  | val b => show (Wgt.val _ == Wgt.dflt) = (Wgt.val b == Wgt.dflt); rw [val_beq_dflt, val_beq_dflt]
  | unset => rfl
  | dflt => rfl

/-- the payload does not enter well-formedness: which weights are set does -/
theorem patchMsa_wellFormed (ns : NumSt) (m : Msa) : (patchMsa ns m).wellFormed = m.wellFormed := by
  unfold Msa.wellFormed patchMsa Msa.nseq
  simp only [patchWFrom_length,
    patchWFrom_all ns.w (· != Wgt.unset) (patchW1_ne_unset ns.w),
    patchWFrom_all ns.w (· == Wgt.dflt) (patchW1_eq_dflt ns.w)]

theorem patchRes_good (ns : NumSt) (r : Res Msa) (h : Good r) : Good (patchRes ns r) := by
  cases r with
  | ok m => show (patchMsa ns m).wellFormed = true; rw [patchMsa_wellFormed]; exact h
  | eof => exact h
  | eformat msg => exact h
  | fault => exact h
  | exc => exact h

/-- every fact of the shape "the outcome of `stockholmRead` is good" holds for the value-carrying reader -/
theorem stockholmReadV_good (cfg : Cfg) (lines : List Bytes) (h : Good (stockholmRead cfg lines).1) :
    Good (stockholmReadV cfg lines).1 := by
  obtain ⟨ns, e⟩ := stockholmReadV_erase cfg lines
  rw [e]; exact patchRes_good ns _ h

/-- … the same lines are left unread -/
theorem stockholmReadV_rest (cfg : Cfg) (lines : List Bytes) : (stockholmReadV cfg lines).2 = (stockholmRead cfg lines).2 := by
  obtain ⟨ns, e⟩ := stockholmReadV_erase cfg lines
  rw [e]

/-- … and the alignment differs from `stockholmRead`'s in `wgt` and `cutoff` only -/
theorem stockholmReadV_ok (cfg : Cfg) (lines : List Bytes) (m : Msa) (h : (stockholmReadV cfg lines).1 = .ok m) :
    ∃ m0 ns, (stockholmRead cfg lines).1 = .ok m0 ∧ m = patchMsa ns m0 := by
  obtain ⟨ns, e⟩ := stockholmReadV_erase cfg lines
  rw [e] at h
  cases h0 : (stockholmRead cfg lines).1 with
  | ok m0 => rw [h0] at h; exact ⟨m0, ns, rfl, by cases h; rfl⟩
  | eof => rw [h0] at h; cases h
  | eformat msg => rw [h0] at h; cases h
  | fault => rw [h0] at h; cases h
  | exc => rw [h0] at h; cases h

example : strtodBits (str "1.00") = 0x3ff0000000000000 := by decide +kernel
example : strtodBits (str "0.42") = 0x3fdae147ae147ae1 := by decide +kernel
example : strtodBits (str "-1.00") = 0xbff0000000000000 := by decide +kernel
example : strtodBits (str "0.10") = 0x3fb999999999999a := by decide +kernel
example : strtodBits (str "123456.79") = 0x40fe240ca3d70a3d := by decide +kernel
example : strtodBits (str "1e-05") = 0x3ee4f8b588e368f1 := by decide +kernel
example : strtodBits (str "2.5e+10") = 0x42174876e8000000 := by decide +kernel
example : strtodBits (str "4.9e-324") = 0x0000000000000001 := by decide +kernel
example : strtodBits (str "2.4e-324") = 0x0000000000000000 := by decide +kernel
example : strtodBits (str "1.7976931348623157e308") = 0x7fefffffffffffff := by decide +kernel
example : strtodBits (str "1.7976931348623159e308") = 0x7ff0000000000000 := by decide +kernel
example : strtodBits (str "1e999999999999") = 0x7ff0000000000000 := by decide +kernel
example : strtodBits (str "0x1.8p1") = 0x4008000000000000 := by decide +kernel
example : strtodBits (str "-inf1") = 0xfff0000000000000 := by decide +kernel
example : strtodBits (str "x1") = 0 := by decide +kernel
example : strtofBits (str "25.0") = 0x41c80000 := by decide +kernel
example : strtofBits (str "0.1") = 0x3dcccccd := by decide +kernel
example : strtofBits (str "1e39") = 0x7f800000 := by decide +kernel
/-- a 9-digit halfway case between two floats that double rounding gets "wrong" on purpose, as `(float) strtod()` does:
    1.00000005960464477540 is above the float midpoint 1 + 2^-24, but rounds to the double 1 + 2^-24 exactly, a tie that
    goes to the even float 1.0 -/
example : strtofBits (str "1.0000000596046447754") = 0x3f800000 := by decide +kernel

/-- `esl_msafile_Read(afp, &msa)` with the numeric payload of Stockholm / Pfam weights and cut-offs (the other eight
    formats carry none: their reader is unchanged) -/
def Opened.readV (o : Opened) (lines : List Bytes) : Res Msa × List Bytes :=
  match o.fmt with
  | .pfam | .stockholm => stockholmReadV o.cfg lines
  | _ => o.read lines

theorem Opened.readV_good (o : Opened) (lines : List Bytes) (h : Good (o.read lines).1) : Good (o.readV lines).1 := by
  obtain ⟨fmt, abc, nw⟩ := o
  cases fmt <;> first
    | exact stockholmReadV_good _ lines h
    | exact h

theorem Opened.readV_rest (o : Opened) (lines : List Bytes) : (o.readV lines).2 = (o.read lines).2 := by
  obtain ⟨fmt, abc, nw⟩ := o
  cases fmt <;> first
    | exact stockholmReadV_rest _ lines
    | rfl

end EaselModel.Msafile
