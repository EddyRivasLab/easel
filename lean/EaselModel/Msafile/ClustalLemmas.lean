import EaselModel.Msafile.Lemmas
import EaselModel.Msafile.AfaLemmas
import EaselModel.Msafile.Clustal
/-! Invariant of the block readers (Clustal, PSI-BLAST) and the proof that the Clustal reader is total and returns
    well-formed alignments only.  Shared with `PsiblastLemmas.lean`: the first part (`scanTo_ge`, `slice_*`, `blockWant`, `BlkInvG`
    with `.congr` and `.phase`, `blkStore_spec` over `blkName_spec` and `blkAppend_spec`, `blkResult_good`) and, behind `ClustalInv`,
    `setBlock_post`, `BlkInvG.set_block`, `misaligned_false`. -/
namespace EaselModel.Msafile

theorem scanTo_ge (P : UInt8 → Bool) (p : Bytes) (pos : Nat) : pos ≤ scanTo P p pos := by
  unfold scanTo; omega

theorem scanTo_le (P : UInt8 → Bool) (p : Bytes) (pos : Nat) (h : pos ≤ p.length) : scanTo P p pos ≤ p.length := by
  unfold scanTo
  have h1 : ((p.drop pos).takeWhile (fun c => !P c)).length ≤ (p.drop pos).length := by
    have := congrArg List.length (List.takeWhile_append_dropWhile (p := fun c => !P c) (l := p.drop pos))
    rw [List.length_append] at this
    omega
  rw [List.length_drop] at h1
  omega

theorem slice_length (p : Bytes) (s l : Nat) (r : Bytes) (h : slice p s l = some r) : r.length = l := by
  unfold slice at h
  split at h
  · simp only [Option.some.injEq] at h
    rw [← h, List.length_take, List.length_drop]; omega
  · simp at h

theorem slice_isSome (p : Bytes) (s l : Nat) (h : s + l ≤ p.length) : ∃ r, slice p s l = some r := by
  unfold slice; simp [h]

/-- the length row `i` of `n` named rows must have while row `idx` of the current block is the next to be read: the rows
    below `idx` already hold the block's `bw` columns; a pointer without a name is still NULL -/
def blockWant (n idx alen bw i : Nat) : Nat := if i < n then (if i < idx then alen + bw else alen) else 0

theorem blockWant_done {n idx alen bw i : Nat} (hi : i < idx) (hn : i < n) : blockWant n idx alen bw i = alen + bw := by
  simp [blockWant, hi, hn]

theorem blockWant_todo {n idx alen bw i : Nat} (hi : idx ≤ i) (hn : i < n) : blockWant n idx alen bw i = alen := by
  simp [blockWant, hn, Nat.not_lt.mpr hi]

theorem blockWant_out {n idx alen bw i : Nat} (hn : n ≤ i) : blockWant n idx alen bw i = 0 := by
  simp [blockWant, Nat.not_lt.mpr hn]

/-- in the first block (`alen = 0`) nothing is wanted of the rows from `idx` on, named or not -/
theorem blockWant_zero {n idx bw i : Nat} (hi : idx ≤ i) : blockWant n idx 0 bw i = 0 := by
  by_cases hn : i < n
  · exact blockWant_todo hi hn
  · exact blockWant_out (Nat.le_of_not_lt hn)

/-- naming row `idx = n` in the first block asks nothing new of any row -/
theorem blockWant_name {n bw : Nat} (i : Nat) : blockWant (n + 1) n 0 bw i = blockWant n n 0 bw i := by
  by_cases hi : i < n
  · rw [blockWant_done hi hi, blockWant_done hi (Nat.lt_succ_of_lt hi)]
  · rw [blockWant_zero (Nat.le_of_not_lt hi), blockWant_zero (Nat.le_of_not_lt hi)]

/-- `idx++` is seen by row `idx` only -/
theorem blockWant_succ {n idx alen bw i : Nat} (hne : i ≠ idx) : blockWant n (idx + 1) alen bw i = blockWant n idx alen bw i := by
  by_cases hn : i < n
  · by_cases hi : i < idx
    · rw [blockWant_done hi hn, blockWant_done (Nat.lt_succ_of_lt hi) hn]
    · rw [blockWant_todo (Nat.le_of_not_lt hi) hn, blockWant_todo (by omega) hn]
  · rw [blockWant_out (Nat.le_of_not_lt hn), blockWant_out (Nat.le_of_not_lt hn)]

/-- the block width is looked at only once a row of the block has been read -/
theorem blockWant_width {n idx alen bw bw' i : Nat} (h : idx ≠ 0 → bw' = bw) : blockWant n idx alen bw' i = blockWant n idx alen bw i := by
  by_cases h0 : idx = 0
  · subst h0; simp [blockWant]
  · rw [h h0]

/-- a complete block (`idx = n`) is the start (`idx = 0`) of the next one, `alen` advanced -/
theorem blockWant_next {n alen bw bw' i : Nat} : blockWant n 0 (alen + bw) bw' i = blockWant n n alen bw i := by
  by_cases hn : i < n
  · rw [blockWant_todo (Nat.zero_le i) hn, blockWant_done hn hn]
  · rw [blockWant_out (Nat.le_of_not_lt hn), blockWant_out (Nat.le_of_not_lt hn)]

abbrev blkWant (st : BlkSt) : Nat → Nat := blockWant st.names.length st.idx st.alen st.bsl

/-- invariant of the row storage; `d = 0` at a `esl_msafile_GetLine` call, `d = 1` between "store the name" and "append the sequence" -/
structure BlkInvG (d : Nat) (cfg : Cfg) (st : BlkSt) : Prop where
  alloc : 0 < st.sqalloc ∧ st.rows.length = st.sqalloc ∧ st.names.length ≤ st.sqalloc
  /-- row `idx` is named once its name is stored (`d = 1`); before that `idx` names are enough -/
  idx_le : st.idx + d ≤ st.names.length
  rows : RowsWant cfg st.rows (blkWant st)
  /-- the first block: nothing is aligned yet, and names are stored as the rows come -/
  blk0 : st.nblocks = 0 → st.alen = 0 ∧ st.idx + d = st.names.length
  /-- later blocks: the first block has fixed the number of sequences -/
  later : st.nblocks ≠ 0 → st.nseq = st.names.length

abbrev BlkInv := BlkInvG 0

theorem blkInv_init (cfg : Cfg) : BlkInv cfg {} :=
  { alloc := by decide, idx_le := by decide, rows := (rowsWant_replicate cfg 16).congr fun _ _ => (blockWant_out (Nat.zero_le _)).symm,
    blk0 := fun _ => by decide, later := fun h => by simp at h }

/-- the storage invariant on the same storage: it looks at `nblocks nseq`, and at `idx alen bsl` through the lengths wanted of the rows -/
theorem BlkInvG.congr {d : Nat} {cfg : Cfg} {st st' : BlkSt} (h : BlkInvG d cfg st)
    (hsq : st'.sqalloc = st.sqalloc) (hnm : st'.names = st.names) (hrows : st'.rows = st.rows)
    (hidx : st'.idx + d ≤ st.names.length)
    (hb0 : st'.nblocks = 0 → st'.alen = 0 ∧ st'.idx + d = st.names.length)
    (hlater : st'.nblocks ≠ 0 → st'.nseq = st.names.length)
    (hw : ∀ i, blkWant st i = blkWant st' i) : BlkInvG d cfg st' :=
  { alloc := by rw [hsq, hnm, hrows]; exact h.alloc,
    idx_le := by rw [hnm]; exact hidx,
    rows := by rw [hrows]; exact h.rows.congr fun i _ => hw i,
    blk0 := by rw [hnm]; exact hb0,
    later := by rw [hnm]; exact hlater }

theorem BlkInvG.phase {d : Nat} {cfg : Cfg} {st : BlkSt} (h : BlkInvG d cfg st) (ph : Phase) : BlkInvG d cfg { st with phase := ph } :=
  h.congr rfl rfl rfl h.idx_le h.blk0 h.later fun _ => rfl

/-- "store the name": only `sqalloc names rows nseq` change -/
theorem blkName_spec (cfg : Cfg) (incNseq : Bool) (st : BlkSt) (name : Bytes) :
    StepSpec (BlkInv cfg st)
      (fun st' => BlkInvG 1 cfg st' ∧ ∃ sq nm rows ns, st' = { st with sqalloc := sq, names := nm, rows := rows, nseq := ns } ∧
        nm.length = (if st.nblocks = 0 then st.names.length + 1 else st.names.length) ∧
        ns = (if st.nblocks = 0 ∧ incNseq = true then st.nseq + 1 else st.nseq)) (blkName incNseq st name) := by
  unfold blkName
  refine .ite (fun _ => .eformat) fun _ => ?_
  unfold blkNameCore
  by_cases hb : st.nblocks = 0
  · rw [if_pos (by simp [hb] : (st.nblocks == 0) = true)]
    dsimp only
    -- with or without `esl_msa_Expand`: the old pointers followed by `k` NULLs
    obtain ⟨k, hrows, hk⟩ : ∃ k, (if st.idx ≥ st.sqalloc then st.rows ++ List.replicate st.sqalloc none else st.rows)
        = st.rows ++ List.replicate k none ∧ expandAlloc st.idx st.sqalloc = st.sqalloc + k := by
      unfold expandAlloc
      by_cases h1 : st.idx ≥ st.sqalloc
      · exact ⟨st.sqalloc, by simp only [h1, if_true], by simp only [h1, if_true]; omega⟩
      · exact ⟨0, by simp [h1], by simp [h1]⟩
    rw [hrows, hk]
    have hex : BlkInv cfg st → st.idx < st.sqalloc + k := fun h => by
      have := lt_expandAlloc (idx := st.idx) (by have := (h.blk0 hb).2; have := h.alloc; omega) h.alloc.1; omega
    -- room has been made: `esl_msa_SetSeqName` cannot throw
    refine .ite (fun hge => .exc fun h => by have := hex h; omega) fun _ h => ?_
    obtain ⟨hsq, hrl, hnl⟩ := h.alloc
    obtain ⟨h0, hidx⟩ := h.blk0 hb
    have hidx : st.idx = st.names.length := hidx
    have hex := hex h
    have hw : ∀ i, blkWant { st with names := st.names ++ [cstr name] } i = blkWant st i := fun i => by
      show blockWant (st.names ++ [cstr name]).length st.idx st.alen st.bsl i = blockWant st.names.length st.idx st.alen st.bsl i
      rw [List.length_append, List.length_singleton, h0, hidx]; exact blockWant_name i
    refine ⟨{ alloc := ⟨by show 0 < st.sqalloc + k; omega, by simp [hrl], by simp; omega⟩,
              idx_le := by simp; omega,
              rows := ?_, blk0 := fun _ => ⟨h0, by simp; omega⟩, later := fun hne => absurd hb hne },
            _, _, _, _, rfl, by simp [hb], by simp [hb]⟩
    -- the new name's pointer is among the rows from `idx` on, of which the first block (`alen = 0`) wants nothing
    refine (h.rows.congr fun i _ => (hw i).symm).grow k fun i hi => ?_
    rw [hw i]; show blockWant st.names.length st.idx st.alen st.bsl i = 0
    rw [h0]; exact blockWant_zero (by omega)
  · rw [if_neg (by simp [hb] : ¬ (st.nblocks == 0) = true)]
    refine .ite (fun _ => .eformat) fun hlt => ?_
    cases hnm : st.names[st.idx]? with
    | none =>
      -- in later blocks `nseq` names are stored
      exact .fault fun h => by have := h.later hb; rw [List.getElem?_eq_none_iff] at hnm; omega
    | some nm =>
      dsimp only
      refine .ite (fun _ => .eformat) fun _ h => ?_
      have hns := h.later hb
      exact ⟨{ alloc := h.alloc, idx_le := by omega, rows := h.rows, blk0 := fun h0 => absurd h0 hb, later := h.later },
             _, _, _, _, rfl, by simp [hb], by simp [hb]⟩

theorem rowLen_of_rowOkB (cfg : Cfg) (len : Nat) (r : Bytes) (h : rowOkB cfg.digital cfg.kp len r = true) :
    rowLen cfg.digital (some r) = len := by
  unfold rowOkB at h
  unfold rowLen
  cases hd : cfg.digital with
  | true =>
    simp only [hd, if_true] at h ⊢
    have := (dsqRowOk_codes _ _ _ h).2.2
    omega
  | false =>
    simp only [hd, Bool.false_eq_true, if_false, Bool.and_eq_true, beq_iff_eq] at h ⊢
    exact h.1

/-- "append the sequence" and `idx++`: only row `idx` changes -/
theorem blkAppend_spec (cfg : Cfg) (st : BlkSt) (seq : Bytes) :
    StepSpec (cfg.valid ∧ BlkInvG 1 cfg st ∧ st.bsl = seq.length)
      (fun st' => BlkInv cfg st' ∧ ∃ rows, st' = { st with rows := rows, idx := st.idx + 1 }) (blkAppend cfg st seq) := by
  unfold blkAppend
  cases hcur : st.rows[st.idx]? with
  | none =>
    exact .fault fun ⟨_, h, _⟩ => by have := h.alloc; have := h.idx_le; rw [List.getElem?_eq_none_iff] at hcur; omega
  | some cur =>
    dsimp only
    -- row `idx` is named and has not been read in this block
    have hrow : BlkInvG 1 cfg st → RowIs cfg st.alen cur := fun h => by
      have := h.rows st.idx cur hcur
      rwa [show blkWant st st.idx = st.alen from blockWant_todo (Nat.le_refl _) (by have := h.idx_le; omega)] at this
    refine .ite (fun hne => .fault fun ⟨_, h, _⟩ => by simp [(hrow h).2] at hne) fun _ => ?_
    generalize hq : (if cfg.digital then dsqcat cfg.inmap cur seq else strmapcat cfg.inmap cur seq) = cat
    cases hc : cat.1 with
    | einval => exact .eformat
    | exc => exact .exc fun ⟨hv, h, _⟩ => ((hrow h).cat hv seq).1 (by rw [hq]; exact hc)
    | ok =>
      refine .ite (fun _ => .eformat) fun hlen2 ⟨hv, h, hbsl⟩ => ?_
      obtain ⟨hsq, hrl, hnl⟩ := h.alloc
      have hidx := h.idx_le
      have hin : st.idx < st.names.length := by omega
      have hcat := ((hrow h).cat hv seq).2
      rw [hq] at hcat
      have hlen2 : rowLen cfg.digital cat.2 = st.alen + st.bsl := by rw [hbsl]; simpa using hlen2
      refine ⟨?_, _, rfl⟩
      exact
        { alloc := ⟨hsq, by simp [hrl], hnl⟩, idx_le := by show st.idx + 1 + 0 ≤ st.names.length; omega,
          rows := h.rows.set st.idx cat.2
            (by show RowIs cfg (blockWant st.names.length (st.idx + 1) st.alen st.bsl st.idx) cat.2
                rw [blockWant_done (Nat.lt_succ_self _) hin, ← hlen2]; exact ⟨hcat.1, rfl⟩)
            (fun i _ hne => (blockWant_succ hne).symm),
          blk0 := fun h0 => ⟨(h.blk0 h0).1, by have := (h.blk0 h0).2; show st.idx + 1 + 0 = st.names.length; omega⟩,
          later := h.later }

/-- the part of the row loop the two readers share: `sqalloc names rows nseq` change, and `idx++` -/
theorem blkStore_spec (cfg : Cfg) (incNseq : Bool) (st : BlkSt) (name seq : Bytes) :
    StepSpec (cfg.valid ∧ BlkInv cfg st ∧ st.bsl = seq.length)
      (fun st' => BlkInv cfg st' ∧ ∃ sq nm rows ns,
        st' = { st with sqalloc := sq, names := nm, rows := rows, nseq := ns, idx := st.idx + 1 } ∧
        nm.length = (if st.nblocks = 0 then st.names.length + 1 else st.names.length) ∧
        ns = (if st.nblocks = 0 ∧ incNseq = true then st.nseq + 1 else st.nseq)) (blkStore cfg incNseq st name seq) := by
  unfold blkStore
  have h1 := blkName_spec cfg incNseq st name
  cases hn : blkName incNseq st name with
  | inr r => rw [hn] at h1; exact h1.imp fun h => h.2.1
  | inl st1 =>
    rw [hn] at h1
    dsimp only
    have h2 := blkAppend_spec cfg st1 seq
    -- `blkName` leaves `bsl` alone
    have hH : cfg.valid ∧ BlkInv cfg st ∧ st.bsl = seq.length → cfg.valid ∧ BlkInvG 1 cfg st1 ∧ st1.bsl = seq.length :=
      fun ⟨hv, h, hb⟩ => ⟨hv, (h1 h).1, by obtain ⟨_, sq, nm, rows, ns, e, _⟩ := h1 h; rw [e]; exact hb⟩
    cases ha : blkAppend cfg st1 seq with
    | inr r => rw [ha] at h2; exact h2.imp hH
    | inl st2 =>
      rw [ha] at h2
      intro hh
      obtain ⟨_, sq, nm, rows, ns, e, hnm, hns⟩ := h1 hh.2.1
      obtain ⟨hi2, rows2, e2⟩ := h2 (hH hh)
      exact ⟨hi2, _, _, _, _, by rw [e2, e], hnm, hns⟩

theorem allSome_of (P : Bytes → Bool) : ∀ (l : List (Option Bytes)),
    (∀ i, i < l.length → ∃ r, l[i]? = some (some r) ∧ P r = true) →
    ∃ rows, allSome l = some rows ∧ rows.length = l.length ∧ rows.all P = true := by
  intro l
  induction l with
  | nil => intro _; exact ⟨[], rfl, rfl, rfl⟩
  | cons x rest ih =>
    intro h
    obtain ⟨r, hr, hp⟩ := h 0 (by simp)
    simp only [List.getElem?_cons_zero, Option.some.injEq] at hr
    subst hr
    obtain ⟨rows, h1, h2, h3⟩ := ih (fun i hi => by
      have := h (i + 1) (by simp; omega)
      simpa using this)
    refine ⟨r :: rows, by simp [allSome, h1], by simp [h2], by simp [hp, h3]⟩

/-- at the end of a block (all `nseq` rows read, `alen` already advanced, `idx` irrelevant) the alignment is well formed -/
theorem blkResult_good (cfg : Cfg) (st : BlkSt) (rf : Option Bytes)
    (halloc : st.names.length ≤ st.rows.length)
    (hn : st.nseq = st.names.length) (h1 : 1 ≤ st.nseq) (ha : 1 ≤ st.alen)
    (hrows : ∀ i cur, i < st.names.length → st.rows[i]? = some cur → RowIs cfg st.alen cur)
    (hrf : optLenOk st.alen rf = true) :
    Good (blkResult cfg st rf) := by
  unfold blkResult
  have hne : ¬ ((st.names.length != st.nseq) = true) := by simp [hn]
  rw [if_neg hne]
  have hall := allSome_of (rowOkB cfg.digital cfg.kp st.alen) (st.rows.take st.nseq) (by
    intro i hi
    rw [List.length_take] at hi
    have hi1 : i < st.nseq := by omega
    have hi2 : i < st.rows.length := by omega
    rw [List.getElem?_take]
    simp only [hi1, if_true]
    have hg := List.getElem?_eq_getElem hi2
    obtain ⟨r, hr1, hr2⟩ := (hrows i _ (by omega) hg).some ha
    exact ⟨r, by rw [hg, hr1], hr2⟩)
  obtain ⟨rows, hr1, hr2, hr3⟩ := hall
  rw [hr1]
  simp only
  have hlen : rows.length = st.nseq := by
    rw [hr2, List.length_take]; omega
  have hne2 : ¬ ((rows.length != st.nseq) = true) := by simp [hlen]
  rw [if_neg hne2]
  simp only [Good]
  exact wellFormed_plain cfg.digital cfg.kp st.alen st.names rows none rf (by omega) (by omega) hr3 hrf

theorem clustalCols_ok (p : Bytes) (c : Cols) (h : clustalCols p = some c) :
    c.nameStart + c.nameLen ≤ p.length ∧ c.seqStart + c.seqLen ≤ p.length ∧ 1 ≤ c.seqLen := by
  unfold clustalCols at h
  simp only at h
  split at h
  · simp at h
  · rename_i hlt
    simp only [Option.some.injEq] at h
    subst h
    simp only
    generalize hA : scanTo (fun c => !isSpace c) p 0 = a at hlt ⊢
    generalize hB : scanTo isSpace p (a + 1) = b at hlt ⊢
    generalize hC : scanTo (fun c => !isSpace c) p (b + 1) = c3 at hlt ⊢
    have h1 : a + 1 ≤ b := by rw [← hB]; exact scanTo_ge _ _ _
    have h2 : b + 1 ≤ c3 := by rw [← hC]; exact scanTo_ge _ _ _
    have h3 : c3 + 1 ≤ scanTo isSpace p (c3 + 1) := scanTo_ge _ _ _
    have h4 : scanTo isSpace p (c3 + 1) ≤ p.length := scanTo_le _ _ _ (by omega)
    omega

/-- invariant of the Clustal reader at a `esl_msafile_GetLine` call -/
structure ClustalInv (cfg : Cfg) (st : BlkSt) : Prop where
  blk : BlkInv cfg st
  nseq : st.nseq = st.names.length
  fresh : st.phase = .lead ∨ st.phase = .hdr → st.nblocks = 0 ∧ st.names = []
  inb : st.phase = .inblock → 1 ≤ st.idx ∧ 1 ≤ st.bsl
  betw : st.phase = .between → 1 ≤ st.idx ∧ 1 ≤ st.bsl ∧ st.idx = st.nseq

theorem clustalInv_init (cfg : Cfg) : ClustalInv cfg {} :=
  { blk := blkInv_init cfg, nseq := rfl, fresh := fun _ => ⟨rfl, rfl⟩,
    inb := fun h => by simp at h, betw := fun h => by simp at h }

/-- what `setBlock` leaves alone -/
structure SetBlockPost (st st' : BlkSt) (c : Cols) : Prop where
  phase : st'.phase = st.phase
  sqalloc : st'.sqalloc = st.sqalloc
  names : st'.names = st.names
  rows : st'.rows = st.rows
  nblocks : st'.nblocks = st.nblocks
  idx : st'.idx = st.idx
  nseq : st'.nseq = st.nseq
  alen : st'.alen = st.alen
  rf : st'.rf = st.rf
  bsl : st'.bsl = c.seqLen

/-- `setBlock` writes `bss` and `bsl` only, and `bsl` is the line's width whenever the line passes the alignment test -/
theorem setBlock_eq (st : BlkSt) (c : Cols) (hs : st.idx ≠ 0 → c.seqLen = st.bsl) :
    ∃ bss, setBlock st c = { st with bss := bss, bsl := c.seqLen } := by
  unfold setBlock
  by_cases hi : st.idx = 0
  · exact ⟨c.seqStart, by simp [hi]⟩
  · exact ⟨st.bss, by simp [hi, hs hi]⟩

theorem setBlock_post (st : BlkSt) (c : Cols) (hs : st.idx ≠ 0 → c.seqLen = st.bsl) : SetBlockPost st (setBlock st c) c := by
  obtain ⟨bss, e⟩ := setBlock_eq st c hs
  rw [e]
  exact { phase := rfl, sqalloc := rfl, names := rfl, rows := rfl, nblocks := rfl, idx := rfl, nseq := rfl, alen := rfl, rf := rfl, bsl := rfl }

/-- `setBlock`, with a new `phase` and `rf`: the same storage, and the width is new only when no row of the block has been read -/
theorem BlkInvG.set_block {cfg : Cfg} {st : BlkSt} (h : BlkInv cfg st) (c : Cols) (hmis : st.idx ≠ 0 → c.seqLen = st.bsl)
    (ph : Phase) (rf : Bytes) : BlkInv cfg { setBlock st c with phase := ph, rf := rf } := by
  obtain ⟨bss, e⟩ := setBlock_eq st c hmis
  rw [e]
  exact h.congr rfl rfl rfl h.idx_le h.blk0 h.later fun i => (blockWant_width hmis).symm

theorem misaligned_false (st : BlkSt) (c : Cols) (hs2 : ¬ ((st.idx != 0 && c.seqLen != st.bsl) = true)) :
    st.idx ≠ 0 → c.seqLen = st.bsl := by
  intro hi
  by_cases hx : c.seqLen = st.bsl
  · exact hx
  · exfalso; apply hs2; simp [hi, hx]

/-- a row line read with `idx`, `alen`, `nblocks` already set for it -/
theorem clustalSeqLine_spec (cfg : Cfg) (st : BlkSt) (p : Bytes) :
    StepSpec (cfg.valid ∧ BlkInv cfg st ∧ st.nseq = st.names.length) (ClustalInv cfg) (clustalSeqLine cfg st p) := by
  unfold clustalSeqLine
  cases hc : clustalCols p with
  | none => exact .eformat
  | some c =>
    dsimp only
    obtain ⟨hc1, hc2, hc3⟩ := clustalCols_ok p c hc
    refine .ite (fun _ => .eformat) fun _ => .ite (fun _ => .eformat) fun hs2 => ?_
    -- both fields lie inside the line
    obtain ⟨name, hname⟩ := slice_isSome p c.nameStart c.nameLen hc1
    obtain ⟨seq, hseq⟩ := slice_isSome p c.seqStart c.seqLen hc2
    rw [hname, hseq]
    dsimp only
    have hseqlen := slice_length _ _ _ _ hseq
    have hmis := misaligned_false st c hs2
    have hsb := setBlock_post st c hmis
    have hs := blkStore_spec cfg true { setBlock st c with phase := Phase.inblock } name seq
    have hH : cfg.valid ∧ BlkInv cfg st ∧ st.nseq = st.names.length →
        cfg.valid ∧ BlkInv cfg { setBlock st c with phase := Phase.inblock } ∧ (setBlock st c).bsl = seq.length :=
      fun ⟨hv, h, _⟩ => ⟨hv, h.set_block c hmis _ _, by rw [hsb.bsl, hseqlen]⟩
    cases hbs : blkStore cfg true { setBlock st c with phase := Phase.inblock } name seq with
    | inr r => rw [hbs] at hs; exact hs.imp hH
    | inl st2 =>
      rw [hbs] at hs
      intro hh
      obtain ⟨hi2, sq, nm, rows, ns, rfl, hnm, hns⟩ := hs (hH hh)
      have hn := hh.2.2
      have hnm : nm.length = if st.nblocks = 0 then st.names.length + 1 else st.names.length := by
        rw [hnm, show _ = st.nblocks from hsb.nblocks, show _ = st.names from hsb.names]
      have hns : ns = if st.nblocks = 0 ∧ true = true then st.nseq + 1 else st.nseq := by
        rw [hns, show _ = st.nblocks from hsb.nblocks, show _ = st.nseq from hsb.nseq]
      exact
        { blk := hi2, nseq := by show ns = nm.length; rw [hnm, hns, hn]; by_cases hb0 : st.nblocks = 0 <;> simp [hb0],
          fresh := fun hp => by simp at hp,
          inb := fun _ => ⟨Nat.succ_pos _, by show 1 ≤ (setBlock st c).bsl; rw [hsb.bsl]; exact hc3⟩,
          betw := fun hp => by simp at hp }

theorem clustalStep_spec (like : Bool) (cfg : Cfg) (st : BlkSt) (line : Bytes) :
    StepSpec (cfg.valid ∧ ClustalInv cfg st) (ClustalInv cfg) (clustalStep like cfg st line) := by
  unfold clustalStep
  cases hp : st.phase with
  | lead =>
    dsimp only
    refine .ite (fun _ h => h.2) fun _ => ?_
    cases memtok line blankTab with
    | none => exact .eformat
    | some t =>
      dsimp only
      refine .ite (fun _ => .eformat) fun _ => .ite (fun _ => .eformat) fun _ ⟨_, h⟩ => ?_
      exact { blk := h.blk.phase _, nseq := h.nseq, fresh := fun _ => h.fresh (Or.inl hp),
              inb := fun hx => by simp at hx, betw := fun hx => by simp at hx }
  | hdr =>
    dsimp only
    refine .ite (fun _ h => h.2) fun _ => ?_
    -- the first row of the first block: `idx = 0` already
    refine (clustalSeqLine_spec cfg _ line).imp fun ⟨hv, h⟩ => ⟨hv, ?_, h.nseq⟩
    obtain ⟨hnb, hnm⟩ := h.fresh (Or.inr hp)
    have hb := h.blk
    have hidx0 : st.idx = 0 := by
      have := hb.idx_le; rw [hnm] at this; simpa using this
    exact hb.congr rfl rfl rfl (by rw [hnm]; exact Nat.le_refl _) (fun _ => ⟨(hb.blk0 hnb).1, by rw [hnm]; rfl⟩)
      (fun hne => absurd hnb hne) fun i => by
        show blockWant st.names.length st.idx st.alen st.bsl i = blockWant st.names.length 0 st.alen st.bsl i
        rw [hidx0]
  | inblock =>
    dsimp only
    refine .ite (fun _ => (clustalSeqLine_spec cfg st line).imp fun ⟨hv, h⟩ => ⟨hv, h.blk, h.nseq⟩) fun _ =>
      .ite (fun _ => .eformat) fun hidx ⟨_, h⟩ => ?_
    obtain ⟨hi1, hb1⟩ := h.inb hp
    exact { blk := h.blk.phase _, nseq := h.nseq, fresh := fun hx => by simp at hx,
            inb := fun hx => by simp at hx, betw := fun _ => ⟨hi1, hb1, by simpa using hidx⟩ }
  | between =>
    dsimp only
    refine .ite (fun _ h => h.2) fun _ => ?_
    -- a new block: `alen` advances by the width of the complete one
    refine (clustalSeqLine_spec cfg _ line).imp fun ⟨hv, h⟩ => ⟨hv, ?_, h.nseq⟩
    obtain ⟨hi1, hb1, hidx⟩ := h.betw hp
    exact h.blk.congr rfl rfl rfl (Nat.zero_le _) (fun h0 => absurd h0 (Nat.succ_ne_zero _)) (fun _ => h.nseq) fun i => by
      show blockWant st.names.length st.idx st.alen st.bsl i = blockWant st.names.length 0 (st.alen + st.bsl) st.bsl i
      rw [hidx, h.nseq]; exact blockWant_next.symm

theorem clustalFinish_good (cfg : Cfg) (st : BlkSt) (h : ClustalInv cfg st) : Good (clustalFinish cfg st) := by
  unfold clustalFinish
  cases hp : st.phase with
  | lead => simp
  | hdr => simp
  | inblock => simp
  | between =>
    simp only
    obtain ⟨hi1, hb1, hidx⟩ := h.betw hp
    have hb := h.blk
    apply blkResult_good
    · show st.names.length ≤ st.rows.length
      have := hb.alloc; omega
    · exact h.nseq
    · show 1 ≤ st.nseq; omega
    · show 1 ≤ st.alen + st.bsl; omega
    · intro i cur hi hg
      have hi : i < st.names.length := hi
      have := hb.rows i cur hg
      rwa [show blkWant st i = st.alen + st.bsl from blockWant_done (by have := h.nseq; omega) hi] at this
    · rfl

/-- **Clustal / Clustal-like reader, every input**: the outcome of `esl_msafile_clustal_Read` is a documented normal one
    and a returned alignment is well formed -/
theorem clustalRead_good (like : Bool) (cfg : Cfg) (hv : cfg.valid) (lines : List Bytes) : Good (clustalRead like cfg lines).1 :=
  runLines_inv (clustalStep like cfg) (clustalFinish cfg) (ClustalInv cfg) Good
    (fun st l h => (clustalStep_spec like cfg st l).good ⟨hv, h⟩) (fun st h => clustalFinish_good cfg st h) lines {} (clustalInv_init cfg)

theorem clustalStep_notOk (like : Bool) (cfg : Cfg) (st : BlkSt) (l : Bytes) : NotOk (clustalStep like cfg st l) :=
  (clustalStep_spec like cfg st l).notOk

/-- after a successful Clustal read nothing is left: the next `esl_msafile_Read` returns eslEOF -/
theorem clustalRead_ok_consumes (like : Bool) (cfg : Cfg) (lines : List Bytes) (m : Msa)
    (h : (clustalRead like cfg lines).1 = .ok m) :
    (clustalRead like cfg lines).2 = [] ∧ (clustalRead like cfg (clustalRead like cfg lines).2).1 = .eof := by
  have h1 : (clustalRead like cfg lines).2 = [] := runLines_ok_consumes _ _ (clustalStep_notOk like cfg) lines {} m h
  rw [h1]
  exact ⟨rfl, rfl⟩

end EaselModel.Msafile
