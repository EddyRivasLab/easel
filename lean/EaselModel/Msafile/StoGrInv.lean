import EaselModel.Msafile.AfaRoundTrip
import EaselModel.Msafile.StockholmBase
import EaselModel.Core.ListLookup
import EaselModel.Msafile.WriteFmt
/-! Stockholm / Pfam round trip: the `#=GR` part of the reader's state (`ss sa pp` with `sslen salen pplen`, `gr_tag`, `gr`,
    `ogr_len`) while the blocks the writer printed are read.  Pure list facts; the reader steps are in `StoRoundTrip.lean`. -/
namespace EaselModel.Msafile

/-- a per-column annotation string once `p` columns of it have been read -/
def txtVal (s : Bytes) (p : Nat) : Option Bytes := if p = 0 then none else some (s.take p)

theorem strcatE_txtVal (s c : Bytes) (pos w : Nat) (hsl : pos + w ≤ s.length) (hs0 : ∀ x ∈ s, x ≠ 0)
    (hcj : c = (s.drop pos).take w) (hw : 1 ≤ w) : strcatE (txtVal s pos) pos c = .ok (txtVal s (pos + w)) := by
  have hcl : c.length = w := by rw [hcj, List.length_take, List.length_drop]; omega
  have hcne : c.isEmpty = false := by
    cases c with
    | nil => simp at hcl; omega
    | cons _ _ => rfl
  have hv : (txtVal s pos).getD [] = s.take pos := by
    unfold txtVal; split
    · rename_i h; simp [h]
    · rfl
  have hl : ((txtVal s pos).getD []).length = pos := by rw [hv, List.length_take]; omega
  unfold strcatE
  simp only [hcne, Bool.false_eq_true, if_false, hl, bne_self_eq_false]
  rw [hv, hcj, ← List.take_add, cstr_id _ (fun x hx => hs0 x (List.mem_of_mem_take hx))]
  simp [txtVal]; omega

/-- number of `#=GR` kinds: `SS SA PP` and the unparsed tags -/
def nslots (m : Msa) : Nat := 3 + m.gr.length
def perF (m : Msa) : List OptRows := [m.ss, m.sa, m.pp]

/-- the `#=GR` annotation of kind `q` (0 1 2 = `SS SA PP`, `3 + t` = unparsed tag `t`) of sequence `i` -/
def grVal (m : Msa) (q i : Nat) : Option Bytes :=
  if q < 3 then optRow ((perF m).getD q none) i else ((m.gr.getD (q - 3) ([], [])).2).getD i none

theorem grVal_other (m : Msa) (t i : Nat) : grVal m (3 + t) i = ((m.gr.getD t ([], [])).2).getD i none := by
  unfold grVal; rw [if_neg (by omega), Nat.add_sub_cancel_left]

def colOf (pos w : Nat) (b : Bool) : Nat := if b then pos + w else pos
/-- the string held for (kind, sequence): read up to `pos + w` when its line of the current block is done, else up to `pos` -/
def cellOf (pos w : Nat) (b : Bool) (v : Option Bytes) : Option Bytes := v.bind (fun s => txtVal s (colOf pos w b))
def clenOf (pos w : Nat) (b : Bool) (v : Option Bytes) : Nat := if v.isSome then colOf pos w b else 0

def upd (dn : Nat → Nat → Bool) (i0 q0 : Nat) : Nat → Nat → Bool := fun i q => dn i q || (i == i0 && q == q0)

theorem upd_self (dn : Nat → Nat → Bool) (i0 q0 : Nat) : upd dn i0 q0 i0 q0 = true := by simp [upd]
theorem upd_ne_i (dn : Nat → Nat → Bool) {i0 q0 i q : Nat} (h : i ≠ i0) : upd dn i0 q0 i q = dn i q := by simp [upd, h]
theorem upd_ne_q (dn : Nat → Nat → Bool) {i0 q0 i q : Nat} (h : q ≠ q0) : upd dn i0 q0 i q = dn i q := by simp [upd, h]
theorem upd_mono (dn : Nat → Nat → Bool) {i0 q0 i q : Nat} (h : dn i q = true) : upd dn i0 q0 i q = true := by simp [upd, h]
theorem upd_cases (dn : Nat → Nat → Bool) {i0 q0 i q : Nat} (h : upd dn i0 q0 i q = true) : dn i q = true ∨ (i = i0 ∧ q = q0) := by
  simp only [upd, Bool.or_eq_true, Bool.and_eq_true, beq_iff_eq] at h; exact h

theorem cellOf_done (pos w : Nat) (s : Bytes) : cellOf pos w true (some s) = txtVal s (pos + w) := rfl

theorem cellOf_zero (w : Nat) (v : Option Bytes) : cellOf 0 w false v = none := by
  cases v <;> simp [cellOf, colOf, txtVal]
theorem clenOf_zero (w : Nat) (v : Option Bytes) : clenOf 0 w false v = 0 := by
  simp [clenOf, colOf]

/-- the arrays of one kind `q` (`n` = `sqalloc` entries): strings and their lengths -/
structure RowSpec (m : Msa) (pos w : Nat) (dn : Nat → Nat → Bool) (n q : Nat) (arr : List (Option Bytes)) (lens : List Nat) : Prop where
  alen : arr.length = n
  llen : lens.length = n
  arr : ∀ i, i < n → arr[i]? = some (cellOf pos w (dn i q) (grVal m q i))
  lens : ∀ i, i < n → lens[i]? = some (clenOf pos w (dn i q) (grVal m q i))

theorem RowSpec.congr {m : Msa} {pos w : Nat} {dn dn' : Nat → Nat → Bool} {n q : Nat} {arr : List (Option Bytes)} {lens : List Nat}
    (h : RowSpec m pos w dn n q arr lens) (hd : ∀ i, (grVal m q i).isSome = true → dn' i q = dn i q) :
    RowSpec m pos w dn' n q arr lens :=
  { h with
    arr := fun i hi => by
      rw [h.arr i hi]
      cases hv : grVal m q i with
      | none => rfl
      | some s => rw [hd i (by rw [hv]; rfl)]
    lens := fun i hi => by
      rw [h.lens i hi]
      cases hv : grVal m q i with
      | none => rfl
      | some s => rw [hd i (by rw [hv]; rfl)] }

theorem RowSpec.set {m : Msa} {pos w : Nat} {dn : Nat → Nat → Bool} {n q : Nat} {arr : List (Option Bytes)} {lens : List Nat}
    (h : RowSpec m pos w dn n q arr lens) (i0 : Nat) (hi0 : i0 < n) (s : Bytes) (hs : grVal m q i0 = some s) :
    RowSpec m pos w (upd dn i0 q) n q (arr.set i0 (txtVal s (pos + w))) (lens.set i0 (pos + w)) :=
  { alen := by rw [List.length_set]; exact h.alen
    llen := by rw [List.length_set]; exact h.llen
    arr := fun i hi => by
      rw [List.getElem?_set]
      by_cases e : i0 = i
      · subst e; simp [h.alen, hi0, upd_self, hs, cellOf, colOf]
      · rw [upd_ne_i dn (fun x => e x.symm)]
        simp only [e, if_false]; exact h.arr i hi
    lens := fun i hi => by
      rw [List.getElem?_set]
      by_cases e : i0 = i
      · subst e; simp [h.llen, hi0, upd_self, hs, clenOf, colOf]
      · rw [upd_ne_i dn (fun x => e x.symm)]
        simp only [e, if_false]; exact h.lens i hi }

theorem RowSpec.pad {m : Msa} {w : Nat} {dn : Nat → Nat → Bool} {n q : Nat} {arr : List (Option Bytes)} {lens : List Nat}
    (h : RowSpec m 0 w dn n q arr lens) (k : Nat) (hd : ∀ i, n ≤ i → dn i q = false) :
    RowSpec m 0 w dn (n + k) q (arr ++ List.replicate k none) (lens ++ List.replicate k 0) :=
  { alen := by simp [h.alen]
    llen := by simp [h.llen]
    arr := fun i hi => by
      by_cases e : i < n
      · rw [List.getElem?_append_left (by rw [h.alen]; exact e)]; exact h.arr i e
      · rw [List.getElem?_append_right (by rw [h.alen]; omega), List.getElem?_replicate, if_pos (by rw [h.alen]; omega),
          hd i (by omega), cellOf_zero]
    lens := fun i hi => by
      by_cases e : i < n
      · rw [List.getElem?_append_left (by rw [h.llen]; exact e)]; exact h.lens i e
      · rw [List.getElem?_append_right (by rw [h.llen]; omega), List.getElem?_replicate, if_pos (by rw [h.llen]; omega),
          hd i (by omega), clenOf_zero] }

theorem RowSpec.fresh (m : Msa) (w : Nat) (dn : Nat → Nat → Bool) (n q : Nat)
    (hd : ∀ i, i < n → (grVal m q i).isSome = true → dn i q = false) :
    RowSpec m 0 w dn n q (List.replicate n none) (List.replicate n 0) :=
  { alen := by simp
    llen := by simp
    arr := fun i hi => by
      rw [List.getElem?_replicate, if_pos hi]
      cases hv : grVal m q i with
      | none => rfl
      | some s => rw [hd i hi (by rw [hv]; rfl), cellOf_zero]
    lens := fun i hi => by
      rw [List.getElem?_replicate, if_pos hi]
      cases hv : grVal m q i with
      | none => rfl
      | some s => rw [hd i hi (by rw [hv]; rfl), clenOf_zero] }

theorem RowSpec.endBlock {m : Msa} {pos w : Nat} {dn : Nat → Nat → Bool} {n q : Nat} {arr : List (Option Bytes)} {lens : List Nat}
    (h : RowSpec m pos w dn n q arr lens) (w' : Nat) (hd : ∀ i, i < n → (grVal m q i).isSome = true → dn i q = true) :
    RowSpec m (pos + w) w' (fun _ _ => false) n q arr lens :=
  { h with
    arr := fun i hi => by
      rw [h.arr i hi]
      cases hv : grVal m q i with
      | none => rfl
      | some s => rw [hd i hi (by rw [hv]; rfl)]; rfl
    lens := fun i hi => by
      rw [h.lens i hi]
      cases hv : grVal m q i with
      | none => rfl
      | some s => rw [hd i hi (by rw [hv]; rfl)]; rfl }

/-- the reader has met (kind, sequence): in an earlier block, or in this one -/
def visOf (pos : Nat) (dn : Nat → Nat → Bool) (i q : Nat) : Bool := pos != 0 || dn i q

/-- the unparsed `#=GR` tags: `ng` of them are known, in the order of `m.gr` -/
structure GrTagInv (m : Msa) (pos w : Nat) (dn : Nat → Nat → Bool) (n ng : Nat) (tags : List Bytes)
    (gr : List (List (Option Bytes))) (ogrLen : List (List Nat)) : Prop where
  le : ng ≤ m.gr.length
  tags : tags = (m.gr.map (·.1)).take ng
  gr_len : gr.length = ng
  ogr_len : ogrLen.length = ng
  known : ∀ t, t < ng → ∃ i, i < m.nseq ∧ (grVal m (3 + t) i).isSome = true ∧ visOf pos dn i (3 + t) = true
  unknown : ∀ t, t < m.gr.length → ∀ i, i < m.nseq → (grVal m (3 + t) i).isSome = true → visOf pos dn i (3 + t) = true → t < ng
  rows : ∀ t, t < ng → ∃ arr lens, gr[t]? = some arr ∧ ogrLen[t]? = some lens ∧ RowSpec m pos w dn n (3 + t) arr lens

/-- the `#=GR` part of the reader's state inside the block `[pos, pos+w)`; `dn i q`: the line of (sequence `i`, kind `q`) of
    this block has been read; `n` = `sqalloc` -/
structure GrInv (m : Msa) (pos w : Nat) (dn : Nat → Nat → Bool) (n : Nat) (per : List OptRows) (perLen : List (Option (List Nat)))
    (tags : List Bytes) (gr : List (List (Option Bytes))) (ogrLen : List (List Nat)) : Prop where
  vnone : ∀ q i, m.nseq ≤ i → grVal m q i = none
  per_len : per.length = 3
  perLen_len : perLen.length = 3
  per_none : ∀ q, q < 3 → (∀ i, i < m.nseq → (grVal m q i).isSome = true → visOf pos dn i q = false) → per[q]? = some none
  per_some : ∀ q, q < 3 → ∀ i0, i0 < m.nseq → (grVal m q i0).isSome = true → visOf pos dn i0 q = true →
      ∃ arr lens, per[q]? = some (some arr) ∧ perLen[q]? = some (some lens) ∧ RowSpec m pos w dn n q arr lens
  tagI : ∃ ng, GrTagInv m pos w dn n ng tags gr ogrLen

theorem GrTagInv.congr {m : Msa} {pos w : Nat} {dn dn' : Nat → Nat → Bool} {n ng : Nat} {T : List Bytes}
    {G : List (List (Option Bytes))} {L : List (List Nat)} (h : GrTagInv m pos w dn n ng T G L)
    (hd : ∀ i t, (grVal m (3 + t) i).isSome = true → dn' i (3 + t) = dn i (3 + t)) : GrTagInv m pos w dn' n ng T G L :=
  { h with
    known := fun t ht => by
      obtain ⟨i, hi, hv, hs⟩ := h.known t ht
      exact ⟨i, hi, hv, by unfold visOf at hs ⊢; rw [hd i _ hv]; exact hs⟩
    unknown := fun t ht i hi hv hs => h.unknown t ht i hi hv (by unfold visOf at hs ⊢; rw [← hd i _ hv]; exact hs)
    rows := fun t ht => by
      obtain ⟨arr, lens, h1, h2, h3⟩ := h.rows t ht
      exact ⟨arr, lens, h1, h2, h3.congr (fun i hv => hd i _ hv)⟩ }

/-- only the lines of annotation that exists matter -/
theorem GrInv.congr {m : Msa} {pos w : Nat} {dn dn' : Nat → Nat → Bool} {n : Nat} {per : List OptRows}
    {perLen : List (Option (List Nat))} {T : List Bytes} {G : List (List (Option Bytes))} {L : List (List Nat)}
    (h : GrInv m pos w dn n per perLen T G L) (hd : ∀ i q, (grVal m q i).isSome = true → dn' i q = dn i q) :
    GrInv m pos w dn' n per perLen T G L :=
  { h with
    per_none := fun q hq hp => h.per_none q hq (fun i hi hv => by
      have := hp i hi hv; unfold visOf at this ⊢; rw [← hd i q hv]; exact this)
    per_some := fun q hq i0 hi0 hv hs => by
      obtain ⟨arr, lens, h1, h2, h3⟩ := h.per_some q hq i0 hi0 hv (by unfold visOf at hs ⊢; rw [← hd i0 q hv]; exact hs)
      exact ⟨arr, lens, h1, h2, h3.congr (fun i hv => hd i q hv)⟩
    tagI := by
      obtain ⟨ng, hT⟩ := h.tagI
      exact ⟨ng, hT.congr (fun i t hv => hd i (3 + t) hv)⟩ }

/-- a kind the sequence does not carry: nothing is written, nothing changes -/
theorem GrInv.skip {m : Msa} {pos w : Nat} {dn : Nat → Nat → Bool} {n : Nat} {per : List OptRows}
    {perLen : List (Option (List Nat))} {T : List Bytes} {G : List (List (Option Bytes))} {L : List (List Nat)}
    (h : GrInv m pos w dn n per perLen T G L) (i0 q0 : Nat) (hv : grVal m q0 i0 = none) :
    GrInv m pos w (upd dn i0 q0) n per perLen T G L :=
  h.congr (fun i q hs => by
    by_cases e : i = i0
    · by_cases e2 : q = q0
      · subst e e2; rw [hv] at hs; cases hs
      · exact upd_ne_q dn e2
    · exact upd_ne_i dn e)

/-- the arrays `stockholm_parse_gr` appends to for `SS SA PP` (allocated now if they do not exist yet) -/
theorem GrInv.perArr {m : Msa} {pos w : Nat} {dn : Nat → Nat → Bool} {n : Nat} {per : List OptRows}
    {perLen : List (Option (List Nat))} {T : List Bytes} {G : List (List (Option Bytes))} {L : List (List Nat)}
    (h : GrInv m pos w dn n per perLen T G L) (q : Nat) (hq : q < 3) (i0 : Nat) (hi0 : i0 < m.nseq)
    (hv : (grVal m q i0).isSome = true) :
    (per[q]? = some none ∧ RowSpec m pos w dn n q (List.replicate n none) (List.replicate n 0)) ∨
    (∃ arr lens, per[q]? = some (some arr) ∧ perLen[q]? = some (some lens) ∧ RowSpec m pos w dn n q arr lens) := by
  cases ha : (List.range m.nseq).any (fun i => (grVal m q i).isSome && visOf pos dn i q) with
  | true =>
    obtain ⟨i, hi, hh⟩ := List.any_eq_true.mp ha
    simp only [Bool.and_eq_true] at hh
    exact Or.inr (h.per_some q hq i (List.mem_range.mp hi) hh.1 hh.2)
  | false =>
    have hall : ∀ i, i < m.nseq → (grVal m q i).isSome = true → visOf pos dn i q = false := by
      intro i hi hs
      have := (List.any_eq_false.mp ha) i (List.mem_range.mpr hi)
      simpa [hs] using this
    have h0 := hall i0 hi0 hv
    have hp : pos = 0 := by
      unfold visOf at h0; simp only [Bool.or_eq_false_iff, bne_eq_false_iff_eq] at h0; exact h0.1
    subst hp
    refine Or.inl ⟨h.per_none q hq hall, RowSpec.fresh m w dn n q (fun i hi hs => ?_)⟩
    by_cases e : i < m.nseq
    · have := hall i e hs
      unfold visOf at this; simp only [Bool.or_eq_false_iff] at this; exact this.2
    · rw [h.vnone q i (by omega)] at hs; cases hs

theorem GrInv.setPer {m : Msa} {pos w : Nat} {dn : Nat → Nat → Bool} {n : Nat} {per : List OptRows}
    {perLen : List (Option (List Nat))} {T : List Bytes} {G : List (List (Option Bytes))} {L : List (List Nat)}
    (h : GrInv m pos w dn n per perLen T G L) (q : Nat) (hq : q < 3) (i0 : Nat) (hi0 : i0 < m.nseq) (hin : i0 < n)
    (s : Bytes) (hs : grVal m q i0 = some s) (arr : List (Option Bytes)) (lens : List Nat) (hr : RowSpec m pos w dn n q arr lens) :
    GrInv m pos w (upd dn i0 q) n (per.set q (some (arr.set i0 (txtVal s (pos + w)))))
      (perLen.set q (some (lens.set i0 (pos + w)))) T G L :=
  { vnone := h.vnone
    per_len := by rw [List.length_set]; exact h.per_len
    perLen_len := by rw [List.length_set]; exact h.perLen_len
    per_none := fun q' hq' hp => by
      by_cases e : q' = q
      · subst e
        have := hp i0 hi0 (by rw [hs]; rfl)
        unfold visOf at this; rw [upd_self] at this; simp at this
      · rw [List.getElem?_set_ne (fun x => e x.symm)]
        exact h.per_none q' hq' (fun i hi hv => by
          have := hp i hi hv; unfold visOf at this ⊢; rw [upd_ne_q dn e] at this; exact this)
    per_some := fun q' hq' i1 hi1 hv hvis => by
      by_cases e : q' = q
      · subst e
        refine ⟨_, _, ?_, ?_, hr.set i0 hin s hs⟩
        · rw [List.getElem?_set]; simp [h.per_len, hq']
        · rw [List.getElem?_set]; simp [h.perLen_len, hq']
      · obtain ⟨a, l, h1, h2, h3⟩ := h.per_some q' hq' i1 hi1 hv (by unfold visOf at hvis ⊢; rw [upd_ne_q dn e] at hvis; exact hvis)
        refine ⟨a, l, ?_, ?_, h3.congr (fun i _ => upd_ne_q dn e)⟩
        · rw [List.getElem?_set_ne (fun x => e x.symm)]; exact h1
        · rw [List.getElem?_set_ne (fun x => e x.symm)]; exact h2
    tagI := by
      obtain ⟨ng, hT⟩ := h.tagI
      exact ⟨ng, hT.congr (fun i t _ => upd_ne_q dn (by omega))⟩ }

theorem GrInv.setGr {m : Msa} {pos w : Nat} {dn : Nat → Nat → Bool} {n : Nat} {per : List OptRows}
    {perLen : List (Option (List Nat))} {T T' : List Bytes} {G G' : List (List (Option Bytes))} {L L' : List (List Nat)}
    (h : GrInv m pos w dn n per perLen T G L) (i0 t ng' : Nat)
    (hT : GrTagInv m pos w (upd dn i0 (3 + t)) n ng' T' G' L') :
    GrInv m pos w (upd dn i0 (3 + t)) n per perLen T' G' L' :=
  { vnone := h.vnone, per_len := h.per_len, perLen_len := h.perLen_len
    per_none := fun q hq hp => h.per_none q hq (fun i hi hv => by
      have := hp i hi hv; unfold visOf at this ⊢; rw [upd_ne_q dn (by omega)] at this; exact this)
    per_some := fun q hq i1 hi1 hv hvis => by
      obtain ⟨a, l, h1, h2, h3⟩ := h.per_some q hq i1 hi1 hv (by
        unfold visOf at hvis ⊢; rw [upd_ne_q dn (by omega)] at hvis; exact hvis)
      exact ⟨a, l, h1, h2, h3.congr (fun i _ => upd_ne_q dn (by omega))⟩
    tagI := ⟨ng', hT⟩ }

theorem visOf_upd_mono {pos : Nat} {dn : Nat → Nat → Bool} {i0 q0 i q : Nat} (h : visOf pos dn i q = true) :
    visOf pos (upd dn i0 q0) i q = true := by
  unfold visOf at h ⊢
  simp only [Bool.or_eq_true] at h ⊢
  rcases h with h | h
  · exact Or.inl h
  · exact Or.inr (upd_mono dn h)

theorem visOf_upd_cases {pos : Nat} {dn : Nat → Nat → Bool} {i0 q0 i q : Nat} (h : visOf pos (upd dn i0 q0) i q = true) :
    visOf pos dn i q = true ∨ (i = i0 ∧ q = q0) := by
  unfold visOf at h ⊢
  simp only [Bool.or_eq_true] at h ⊢
  rcases h with h | h
  · exact Or.inl (Or.inl h)
  · rcases upd_cases dn h with h | h
    · exact Or.inl (Or.inr h)
    · exact Or.inr h

theorem GrTagInv.stepKnown {m : Msa} {pos w : Nat} {dn : Nat → Nat → Bool} {n ng : Nat} {T : List Bytes}
    {G : List (List (Option Bytes))} {L : List (List Nat)} (h : GrTagInv m pos w dn n ng T G L)
    (t : Nat) (ht : t < ng) (i0 : Nat) (hin : i0 < n) (s : Bytes) (hs : grVal m (3 + t) i0 = some s)
    (arr : List (Option Bytes)) (lens : List Nat) (ha : G[t]? = some arr) (hl : L[t]? = some lens) :
    GrTagInv m pos w (upd dn i0 (3 + t)) n ng T (G.set t (arr.set i0 (txtVal s (pos + w)))) (L.set t (lens.set i0 (pos + w))) :=
  { le := h.le, tags := h.tags
    gr_len := by rw [List.length_set]; exact h.gr_len
    ogr_len := by rw [List.length_set]; exact h.ogr_len
    known := fun t' ht' => by
      obtain ⟨i, hi, hv, hvis⟩ := h.known t' ht'
      exact ⟨i, hi, hv, visOf_upd_mono hvis⟩
    unknown := fun t' ht' i hi hv hvis => by
      rcases visOf_upd_cases hvis with h' | ⟨_, h'⟩
      · exact h.unknown t' ht' i hi hv h'
      · have : t' = t := by omega
        subst this; exact ht
    rows := fun t' ht' => by
      obtain ⟨a, l, h1, h2, h3⟩ := h.rows t' ht'
      by_cases e : t' = t
      · subst e
        rw [ha] at h1; rw [hl] at h2
        cases h1; cases h2
        refine ⟨_, _, ?_, ?_, h3.set i0 hin s hs⟩
        · rw [List.getElem?_set]; simp [h.gr_len, ht']
        · rw [List.getElem?_set]; simp [h.ogr_len, ht']
      · refine ⟨a, l, ?_, ?_, h3.congr (fun i _ => upd_ne_q dn (by omega))⟩
        · rw [List.getElem?_set_ne (fun x => e x.symm)]; exact h1
        · rw [List.getElem?_set_ne (fun x => e x.symm)]; exact h2 }

/-- a line of a tag the reader meets for the first time (first block): it becomes tag number `ng` -/
theorem GrTagInv.stepNew {m : Msa} {w : Nat} {dn : Nat → Nat → Bool} {n ng : Nat} {T : List Bytes}
    {G : List (List (Option Bytes))} {L : List (List Nat)} (h : GrTagInv m 0 w dn n ng T G L)
    (hng : ng < m.gr.length) (i0 : Nat) (hi0 : i0 < m.nseq) (hin : i0 < n) (s : Bytes) (hs : grVal m (3 + ng) i0 = some s)
    (hd : ∀ i, i < n → (grVal m (3 + ng) i).isSome = true → dn i (3 + ng) = false) :
    GrTagInv m 0 w (upd dn i0 (3 + ng)) n (ng + 1) (T ++ [(m.gr.getD ng ([], [])).1])
      (G ++ [(List.replicate n none).set i0 (txtVal s (0 + w))]) (L ++ [(List.replicate n 0).set i0 (0 + w)]) :=
  { le := hng
    tags := by
      rw [h.tags, List.take_succ]
      simp [List.getD_eq_getElem?_getD, List.getElem?_eq_getElem hng]
    gr_len := by simp [h.gr_len]
    ogr_len := by simp [h.ogr_len]
    known := fun t' ht' => by
      by_cases e : t' < ng
      · obtain ⟨i, hi, hv, hvis⟩ := h.known t' e
        exact ⟨i, hi, hv, visOf_upd_mono hvis⟩
      · have : t' = ng := by omega
        subst this
        exact ⟨i0, hi0, by rw [hs]; rfl, by unfold visOf; rw [upd_self]; simp⟩
    unknown := fun t' ht' i hi hv hvis => by
      rcases visOf_upd_cases hvis with h' | ⟨_, h'⟩
      · have := h.unknown t' ht' i hi hv h'; omega
      · omega
    rows := fun t' ht' => by
      by_cases e : t' < ng
      · obtain ⟨a, l, h1, h2, h3⟩ := h.rows t' e
        refine ⟨a, l, ?_, ?_, h3.congr (fun i _ => upd_ne_q dn (by omega))⟩
        · rw [List.getElem?_append_left (by rw [h.gr_len]; exact e)]; exact h1
        · rw [List.getElem?_append_left (by rw [h.ogr_len]; exact e)]; exact h2
      · have : t' = ng := by omega
        subst this
        refine ⟨_, _, ?_, ?_, (RowSpec.fresh m w dn n (3 + t') hd).set i0 hin s hs⟩
        · rw [List.getElem?_append_right (by rw [h.gr_len]; exact Nat.le_refl _), h.gr_len]; simp
        · rw [List.getElem?_append_right (by rw [h.ogr_len]; exact Nat.le_refl _), h.ogr_len]; simp }

/-- a tag the reader does not know yet, while every tag in front of it has been met: it is the next one, and none of its
    lines has been read -/
theorem GrTagInv.next {m : Msa} {pos w : Nat} {dn : Nat → Nat → Bool} {n ng : Nat} {T : List Bytes}
    {G : List (List (Option Bytes))} {L : List (List Nat)} (h : GrTagInv m pos w dn n ng T G L) {t : Nat} (ht : t < m.gr.length)
    (hkn : ¬ t < ng)
    (hprev : ∀ t', t' < t → ∃ i, i < m.nseq ∧ (grVal m (3 + t') i).isSome = true ∧ visOf pos dn i (3 + t') = true)
    (hdn : ∀ i, dn i (3 + t) = true → i < m.nseq) :
    ng = t ∧ ∀ i, i < n → (grVal m (3 + t) i).isSome = true → dn i (3 + t) = false := by
  have hle : ∀ t', t' < t → t' < ng := fun t' ht' => by
    obtain ⟨i, hi, hv, hvis⟩ := hprev t' ht'
    exact h.unknown t' (by omega) i hi hv hvis
  have hng : ng = t := by
    rcases Nat.eq_zero_or_pos t with e | e
    · omega
    · have := hle (t - 1) (by omega); omega
  refine ⟨hng, fun i _ hv => ?_⟩
  cases hd : dn i (3 + t) with
  | false => rfl
  | true => exact absurd (h.unknown t ht i (hdn i hd) hv (by unfold visOf; simp [hd])) hkn

theorem getElem?_map_some {α β : Type} (f : α → β) (l : List α) (i : Nat) (x : α) (h : l[i]? = some x) : (l.map f)[i]? = some (f x) := by
  rw [List.getElem?_map, h]; rfl

/-- `esl_msa_Expand` + `stockholm_parsedata_ExpandSeq` (first block only): every array is padded -/
theorem GrInv.expand {m : Msa} {w : Nat} {dn : Nat → Nat → Bool} {n : Nat} {per : List OptRows}
    {perLen : List (Option (List Nat))} {T : List Bytes} {G : List (List (Option Bytes))} {L : List (List Nat)}
    (h : GrInv m 0 w dn n per perLen T G L) (k : Nat) (hd : ∀ i q, n ≤ i → dn i q = false) :
    GrInv m 0 w dn (n + k) (per.map (Option.map (· ++ List.replicate k none))) (perLen.map (Option.map (· ++ List.replicate k 0)))
      T (G.map (· ++ List.replicate k none)) (L.map (· ++ List.replicate k 0)) :=
  { vnone := h.vnone
    per_len := by rw [List.length_map]; exact h.per_len
    perLen_len := by rw [List.length_map]; exact h.perLen_len
    per_none := fun q hq hp => by rw [getElem?_map_some _ _ _ _ (h.per_none q hq hp)]; rfl
    per_some := fun q hq i0 hi0 hv hvis => by
      obtain ⟨a, l, h1, h2, h3⟩ := h.per_some q hq i0 hi0 hv hvis
      exact ⟨_, _, getElem?_map_some _ _ _ _ h1, getElem?_map_some _ _ _ _ h2, h3.pad k (fun i hi => hd i q hi)⟩
    tagI := by
      obtain ⟨ng, hT⟩ := h.tagI
      exact ⟨ng,
        { le := hT.le, tags := hT.tags
          gr_len := by rw [List.length_map]; exact hT.gr_len
          ogr_len := by rw [List.length_map]; exact hT.ogr_len
          known := hT.known, unknown := hT.unknown
          rows := fun t ht => by
            obtain ⟨a, l, h1, h2, h3⟩ := hT.rows t ht
            exact ⟨_, _, getElem?_map_some _ _ _ _ h1, getElem?_map_some _ _ _ _ h2, h3.pad k (fun i hi => hd i _ hi)⟩ }⟩ }

theorem GrInv.endBlock {m : Msa} {pos w : Nat} {dn : Nat → Nat → Bool} {n : Nat} {per : List OptRows}
    {perLen : List (Option (List Nat))} {T : List Bytes} {G : List (List (Option Bytes))} {L : List (List Nat)}
    (h : GrInv m pos w dn n per perLen T G L) (w' : Nat) (hw : 1 ≤ w)
    (hd : ∀ i q, i < m.nseq → (grVal m q i).isSome = true → dn i q = true) :
    GrInv m (pos + w) w' (fun _ _ => false) n per perLen T G L := by
  have hd' : ∀ q i, i < n → (grVal m q i).isSome = true → dn i q = true := by
    intro q i _ hv
    by_cases e : i < m.nseq
    · exact hd i q e hv
    · rw [h.vnone q i (by omega)] at hv; cases hv
  have hvis : ∀ i q, visOf (pos + w) (fun _ _ => false) i q = true := by
    intro i q; unfold visOf; simp; omega
  exact
    { vnone := h.vnone, per_len := h.per_len, perLen_len := h.perLen_len
      per_none := fun q hq hp => h.per_none q hq (fun i hi hv => by have := hp i hi hv; rw [hvis] at this; cases this)
      per_some := fun q hq i0 hi0 hv _ => by
        obtain ⟨a, l, h1, h2, h3⟩ := h.per_some q hq i0 hi0 hv (by unfold visOf; rw [hd i0 q hi0 hv]; simp)
        exact ⟨a, l, h1, h2, h3.endBlock w' (hd' q)⟩
      tagI := by
        obtain ⟨ng, hT⟩ := h.tagI
        exact ⟨ng,
          { le := hT.le, tags := hT.tags, gr_len := hT.gr_len, ogr_len := hT.ogr_len
            known := fun t ht => by
              obtain ⟨i, hi, hv, _⟩ := hT.known t ht
              exact ⟨i, hi, hv, hvis _ _⟩
            unknown := fun t ht i hi hv _ => hT.unknown t ht i hi hv (by unfold visOf; rw [hd i _ hi hv]; simp)
            rows := fun t ht => by
              obtain ⟨a, l, h1, h2, h3⟩ := hT.rows t ht
              exact ⟨a, l, h1, h2, h3.endBlock w' (hd' _)⟩ }⟩ }

theorem GrInv.init (m : Msa) (w n : Nat) (dn : Nat → Nat → Bool) (hd : ∀ i q, dn i q = false)
    (hv : ∀ q i, m.nseq ≤ i → grVal m q i = none) :
    GrInv m 0 w dn n (List.replicate 3 none) (List.replicate 3 none) [] [] [] :=
  { vnone := hv
    per_len := by simp
    perLen_len := by simp
    per_none := fun q hq _ => by rw [List.getElem?_replicate, if_pos hq]
    per_some := fun q hq i0 hi0 _ hvis => by unfold visOf at hvis; rw [hd] at hvis; simp at hvis
    tagI := ⟨0,
      { le := Nat.zero_le _, tags := by simp, gr_len := rfl, ogr_len := rfl
        known := fun t ht => by omega
        unknown := fun t ht i hi _ hvis => by unfold visOf at hvis; rw [hd] at hvis; simp at hvis
        rows := fun t ht => by omega }⟩ }

/-- the per-sequence annotation the round trip admits: every string, of any kind, has one character per column -/
def grColOk (m : Msa) : Prop := ∀ q i s, grVal m q i = some s → s.length = m.alen

theorem cellOf_full (m : Msa) (w : Nat) (ha : 1 ≤ m.alen) (v : Option Bytes) (hv : ∀ s, v = some s → s.length = m.alen) :
    cellOf m.alen w false v = v := by
  cases v with
  | none => rfl
  | some s =>
    have := hv s rfl
    have h0 : ¬ (m.alen = 0) := by omega
    simp only [cellOf, colOf, Bool.false_eq_true, if_false, Option.bind_some, txtVal, h0]
    rw [← this, List.take_length]

theorem GrInv.final_per {m : Msa} {pos w n : Nat} {dn : Nat → Nat → Bool} {per : List OptRows}
    {perLen : List (Option (List Nat))} {T : List Bytes} {G : List (List (Option Bytes))} {L : List (List Nat)}
    (h : GrInv m pos w dn n per perLen T G L) (hn : m.nseq ≤ n)
    (hvis : ∀ i q, i < m.nseq → (grVal m q i).isSome = true → visOf pos dn i q = true)
    (hcell : ∀ q i, i < m.nseq → cellOf pos w (dn i q) (grVal m q i) = grVal m q i)
    (q : Nat) (hq : q < 3)
    (hlen : ∀ l, (perF m).getD q none = some l → l.length = m.nseq ∧ ∃ i, i < m.nseq ∧ (l.getD i none).isSome = true) :
    (per.getD q none).map (·.take m.nseq) = (perF m).getD q none := by
  have hgv : ∀ i, grVal m q i = optRow ((perF m).getD q none) i := fun i => by unfold grVal; rw [if_pos hq]
  cases hp : (perF m).getD q none with
  | none =>
    have := h.per_none q hq (fun i _ hv => by rw [hgv, hp] at hv; simp [optRow] at hv)
    rw [List.getD_eq_getElem?_getD, this]; rfl
  | some l =>
    obtain ⟨hl, i0, hi0, hs0⟩ := hlen l hp
    obtain ⟨arr, lens, h1, _, h3⟩ := h.per_some q hq i0 hi0 (by rw [hgv, hp]; exact hs0) (hvis i0 q hi0 (by rw [hgv, hp]; exact hs0))
    rw [List.getD_eq_getElem?_getD, h1]
    show some (arr.take m.nseq) = some l
    congr 1
    apply List.ext_getElem?
    intro i
    by_cases hi : i < m.nseq
    · rw [List.getElem?_take, if_pos hi, h3.arr i (by omega), hcell q i hi, hgv, hp]
      simp only [optRow, Option.getD_some, List.getD_eq_getElem?_getD]
      rw [List.getElem?_eq_getElem (by omega)]; rfl
    · rw [List.getElem?_take, if_neg hi, List.getElem?_eq_none (by omega)]

theorem GrInv.final_gr {m : Msa} {pos w n : Nat} {dn : Nat → Nat → Bool} {per : List OptRows}
    {perLen : List (Option (List Nat))} {T : List Bytes} {G : List (List (Option Bytes))} {L : List (List Nat)}
    (h : GrInv m pos w dn n per perLen T G L) (hn : m.nseq ≤ n)
    (hvis : ∀ i q, i < m.nseq → (grVal m q i).isSome = true → visOf pos dn i q = true)
    (hcell : ∀ q i, i < m.nseq → cellOf pos w (dn i q) (grVal m q i) = grVal m q i)
    (hlen : ∀ t ∈ m.gr, t.2.length = m.nseq)
    (hne : ∀ t, t < m.gr.length → ∃ i, i < m.nseq ∧ (grVal m (3 + t) i).isSome = true) :
    T.zip (G.map (·.take m.nseq)) = m.gr := by
  obtain ⟨ng, hT⟩ := h.tagI
  have hng : ng = m.gr.length := by
    have h1 := hT.le
    by_cases e : m.gr.length = 0
    · omega
    · obtain ⟨i, hi, hv⟩ := hne (m.gr.length - 1) (by omega)
      have := hT.unknown (m.gr.length - 1) (by omega) i hi hv (hvis i _ hi hv)
      omega
  subst hng
  have h1 : T = m.gr.map (·.1) := by rw [hT.tags, ← List.length_map (f := (·.1)), List.take_length]
  have h2 : G.map (·.take m.nseq) = m.gr.map (·.2) := by
    apply List.ext_getElem?
    intro t
    by_cases ht : t < m.gr.length
    · obtain ⟨arr, lens, g1, _, g3⟩ := hT.rows t ht
      rw [List.getElem?_map, g1, List.getElem?_map, List.getElem?_eq_getElem ht]
      show some (arr.take m.nseq) = some (m.gr[t]).2
      congr 1
      have hl := hlen m.gr[t] (List.getElem_mem ht)
      apply List.ext_getElem?
      intro i
      by_cases hi : i < m.nseq
      · rw [List.getElem?_take, if_pos hi, g3.arr i (by omega), hcell _ i hi, grVal_other,
          getD_eq_getElem_of_lt _ ht, List.getD_eq_getElem?_getD, List.getElem?_eq_getElem (show i < (m.gr[t]).2.length by omega)]
        rfl
      · rw [List.getElem?_take, if_neg hi, List.getElem?_eq_none (by omega)]
    · rw [List.getElem?_eq_none (by rw [List.length_map, hT.gr_len]; omega), List.getElem?_eq_none (by rw [List.length_map]; omega)]
  rw [h1, h2, List.zip_map']
  conv => rhs; rw [← List.map_id m.gr]
  rfl

end EaselModel.Msafile
