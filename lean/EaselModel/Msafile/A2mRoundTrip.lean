import EaselModel.Msafile.AfaRoundTrip
import EaselModel.Msafile.A2mRecord
import EaselModel.Msafile.WriteA2m
/-! A2M without insert columns: which alignments are written with upper-case residues and `-` only (`A2mWritable`) and what the
    format keeps of them (`a2mProject`); the reader's steps on a name line.  The walk is in A2mInsRoundTrip.lean
    (`a2mRead_rows`), its instance for these alignments (`A2mWritable.rows`, `a2mRead_write`) in A2mInsIdem.lean. -/
namespace EaselModel.Msafile

theorem chunks60_short (b : Bytes) (h : b.length ≤ 60) (hne : b ≠ []) : chunks60 b = [b] := by
  unfold chunks60
  have : b.isEmpty = false := by cases b with | nil => exact absurd rfl hne | cons _ _ => rfl
  simp [h, this]

theorem chunks60_nil : chunks60 [] = [] := by unfold chunks60; simp

theorem chunks60_long (b : Bytes) (h : 60 < b.length) : chunks60 b = b.take 60 :: chunks60 (b.drop 60) := by
  have : ¬ b.length ≤ 60 := by omega
  rw [chunks60]
  simp [this]

/-- a character the writer prints in a consensus column: an upper-case letter other than `O`, or `-` -/
def consChar (t : UInt8) : Prop := (isUpper t = true ∨ t = 45) ∧ a2mSkip t = false

theorem consChar_plain (t : UInt8) (h : consChar t) : isSpace t = false ∧ t ≠ 62 :=
  ⟨(consByte_facts t h.1).2.1, (consByte_facts t h.1).2.2.1⟩

theorem consChar_notLower (t : UInt8) (h : consChar t) : isLower t = false := (consByte_facts t h.1).1

theorem padAll_map (cfg : Cfg) (nins : List Nat) (alen : Nat) (f : Nat → Bytes × List Bool) (g : Nat → Bytes) :
    ∀ l : List Nat, (∀ i ∈ l, padOne cfg nins alen (f i) = some (g i)) →
      padAll cfg nins alen (l.map f) = some (l.map g) := by
  intro l
  induction l with
  | nil => intro _; simp [padAll]
  | cons i l ih =>
    intro h
    simp only [List.map_cons, padAll]
    rw [h i (by simp), ih (fun j hj => h j (by simp [hj]))]

theorem a2mStartRecord_header (st : A2mSt) (nm : Bytes) (desc : Option Bytes) (hn : nameOk nm)
    (hd : ∀ d, desc = some d → descOk d) (ha : st.nseq ≤ st.sqalloc ∧ 0 < st.sqalloc)
    (htn : st.ncons + 1 ≤ (if st.tn.isEmpty then [0] else st.tn).length) :
    a2mStartRecord st (headerOf nm desc) =
      .inl { st with lead := false, sqalloc := expandAlloc st.nseq st.sqalloc, names := st.names ++ [nm],
                     sqdesc := setOptRowO st.sqdesc st.nseq desc, cur := none, fl := [], tc := 0,
                     tn := List.replicate (st.ncons + 1) 0 ++ (if st.tn.isEmpty then [0] else st.tn).drop (st.ncons + 1) } := by
  have hex : ¬ (st.nseq ≥ expandAlloc st.nseq st.sqalloc) := by
    obtain ⟨ha1, ha2⟩ := ha
    unfold expandAlloc
    split <;> omega
  have hnm0 : ∀ c ∈ nm, c ≠ 0 := fun c hc h0 => by
    have := hn.2 c hc; subst h0; simp [inDelim] at this
  have htn' : ¬ ((if st.tn.isEmpty then [0] else st.tn).length < st.ncons + 1) := by omega
  cases desc with
  | none =>
    unfold a2mStartRecord
    simp only [headerOf, List.append_nil, memtok_name nm hn, hex, if_false, htn',
      List.isEmpty_nil, if_true, cstr_id nm hnm0, setOptRowO]
  | some d =>
    have hdk := hd d rfl
    have hdne : d.isEmpty = false := by
      obtain ⟨⟨c0, t0, hd0, _⟩, _⟩ := hdk; subst hd0; rfl
    unfold a2mStartRecord
    simp only [headerOf, memtok_name_desc nm d hn hdk, hex, if_false, htn', hdne, Bool.false_eq_true,
      cstr_id nm hnm0, cstr_id d hdk.2, setOptRowO]

/-- the character the writer prints for sequence `i` in column `pos` (every column is printed in the alignments covered) -/
def a2mWc (abc : Option Abc) (m : Msa) (i pos : Nat) : UInt8 := (a2mChar abc m i pos).getD 45

/-- row `i` as it is read back: the input map applied to the characters written for it -/
def a2mRowCodes (abc : Option Abc) (enc : UInt8 → UInt8) (m : Msa) (i : Nat) : Bytes :=
  (List.range m.alen).map fun pos => enc (a2mWc abc m i pos)

def a2mRow (abc : Option Abc) (cfg : Cfg) (enc : UInt8 → UInt8) (m : Msa) (i : Nat) : Bytes :=
  mkRow cfg.digital (a2mRowCodes abc enc m i)

/-- everything A2M represents of an alignment without insert columns: names, descriptions, the rows as written
    (upper-case residues, `-` for every gap-like symbol, `O` as the unknown residue), `rf` = all `x`, default weights -/
def a2mProject (abc : Option Abc) (cfg : Cfg) (enc : UInt8 → UInt8) (m : Msa) : Msa :=
  { digital := cfg.digital, kp := cfg.kp, alen := m.alen, names := m.names,
    aseq := if cfg.digital then [] else (List.range m.nseq).map (a2mRow abc cfg enc m),
    ax := if cfg.digital then (List.range m.nseq).map (a2mRow abc cfg enc m) else [],
    hasw := false, wgt := List.replicate m.nseq Wgt.dflt,
    rf := some (List.replicate m.alen 120),
    sqdesc := padOptRows (afaDescs m m.nseq) m.nseq }

/-- an alignment that `esl_msafile_a2m_Write` + `esl_msafile_a2m_Read` (configuration `cfg`) carry without rebuilding an insert
    column: every cell is printed as an upper-case letter (not `O`) or `-`, which the input map sends to `enc`.  In text mode, and
    for an alphabet whose residue symbols are letters, this makes every column a consensus column. -/
structure A2mWritable (abc : Option Abc) (cfg : Cfg) (enc : UInt8 → UInt8) (m : Msa) : Prop where
  n1 : 1 ≤ m.nseq
  alen1 : 1 ≤ m.alen
  acc_none : m.sqacc = none
  name_ok : ∀ i, i < m.nseq → nameOk (m.names.getD i [])
  desc_ok : ∀ i, i < m.nseq → ∀ d, optAt m.sqdesc i = some d → descOk d
  hdr_line : ∀ i, i < m.nseq → lineOk (a2mHeader m i)
  row_char : ∀ i, i < m.nseq → ∀ pos, pos < m.alen →
    ∃ c, a2mChar abc m i pos = some c ∧ consChar c ∧ mapByte cfg.inmap c = (.ok, some (enc c))

section
variable {abc : Option Abc} {cfg : Cfg} {enc : UInt8 → UInt8} {m : Msa}

theorem A2mWritable.char (h : A2mWritable abc cfg enc m) (i : Nat) (hi : i < m.nseq) (pos : Nat) (hp : pos < m.alen) :
    a2mChar abc m i pos = some (a2mWc abc m i pos) ∧ consChar (a2mWc abc m i pos) ∧
      mapByte cfg.inmap (a2mWc abc m i pos) = (.ok, some (enc (a2mWc abc m i pos))) := by
  obtain ⟨c, h1, h2, h3⟩ := h.row_char i hi pos hp
  have : a2mWc abc m i pos = c := by simp [a2mWc, h1]
  rw [this]
  exact ⟨h1, h2, h3⟩

theorem a2mRowCodes_length (i : Nat) : (a2mRowCodes abc enc m i).length = m.alen := by simp [a2mRowCodes]

theorem names_take_succ (k : Nat) (hk : k < m.nseq) : m.names.take k ++ [m.names.getD k []] = m.names.take (k + 1) := by
  have hlt : k < m.names.length := hk
  rw [List.take_add_one]
  simp [List.getD_eq_getElem?_getD, List.getElem?_eq_getElem hlt]

theorem a2mStep_gt (cfg : Cfg) (st : A2mSt) (rest : Bytes) (hl : st.lead = false) :
    a2mStep cfg st (62 :: rest) =
      match a2mFinishRecord cfg st with
      | .inl st' => a2mStartRecord st' (62 :: rest)
      | .inr r => .inr r := by
  have hd : (62 :: rest).dropWhile isSpace = 62 :: rest := by simp [List.dropWhile, isSpace]
  unfold a2mStep
  simp only [hl, Bool.false_eq_true, if_false, hd, beq_self_eq_true, if_true]
  cases a2mFinishRecord cfg st <;> rfl

theorem a2mStep_gt_lead (cfg : Cfg) (st : A2mSt) (rest : Bytes) (hl : st.lead = true) :
    a2mStep cfg st (62 :: rest) = a2mStartRecord st (62 :: rest) := by
  have hd : (62 :: rest).dropWhile isSpace = 62 :: rest := by simp [List.dropWhile, isSpace]
  have hnb : isBlankLine (62 :: rest) = false := by simp [isBlankLine, inDelim, blankTab]
  unfold a2mStep
  simp only [hl, if_true, hnb, Bool.false_eq_true, if_false, hd, bne_self_eq_false]

end

end EaselModel.Msafile
