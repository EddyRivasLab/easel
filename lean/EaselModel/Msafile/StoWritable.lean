import EaselModel.Msafile.StoLines
import EaselModel.Msafile.PhylipWritable
import EaselModel.Msafile.AbcTables
/-! Concrete, checkable conditions under which an alignment is `StoWritable`: text mode (graphic characters in the rows; the text-mode
    input map is `textTable isGraph`), and digital mode for any alphabet whose printed symbols are read back as their codes
    (`stoDigSymOk`, proved from the alphabet's table facts). -/
namespace EaselModel.Msafile

/-! The clause predicates of `StoAnn` / `StoWritable` are decidable, and `StoAnn`'s two clauses over every index have a form over the
    indices in range: on a given alignment each clause is one evaluation. -/

instance (nm : Bytes) : Decidable (stoNameOk nm) := by delta stoNameOk nameOk; infer_instance
instance (n : Nat) (s : Bytes) : Decidable (colTextOk n s) := by delta colTextOk; infer_instance
instance (v : Bytes) : Decidable (gfTokOk v) := by delta gfTokOk nameOk; infer_instance
instance (v : Bytes) : Decidable (gfTextOk v) := by delta gfTextOk; infer_instance
instance (c : Bytes) : Decidable (comOk c) := by delta comOk; infer_instance
instance (t : Bytes) : Decidable (gfTagOk t) := by delta gfTagOk nameOk; infer_instance
instance (t : Bytes) : Decidable (gcTagOk t) := by delta gcTagOk nameOk; infer_instance
instance (t : Bytes) : Decidable (grTagOk t) := by delta grTagOk nameOk; infer_instance
instance (t : Bytes) : Decidable (gsTagOk t) := by delta gsTagOk nameOk; infer_instance
instance (t : Bytes) : Decidable (wgtTokOk t) := by delta wgtTokOk nameOk; infer_instance
instance (b : UInt32) : Decidable (finiteF32 b) := by delta finiteF32; infer_instance
instance (b : UInt64) : Decidable (finiteF64 b) := by delta finiteF64; infer_instance
instance (m : Msa) : Decidable (grOrderOk m) := by delta grOrderOk; infer_instance
instance (m : Msa) : Decidable (gsOrderOk m) := by delta gsOrderOk; infer_instance

theorem forall_getD_some {α : Type} {l : List (Option α)} {P : Nat → α → Prop}
    (h : ∀ k, k < l.length → ∀ s ∈ l.getD k none, P k s) (k : Nat) (s : α) (hs : l.getD k none = some s) : P k s := by
  by_cases hk : k < l.length
  · exact h k hk s hs
  · rw [List.getD_eq_getElem?_getD, List.getElem?_eq_none (Nat.le_of_not_lt hk)] at hs
    cases hs

/-- a clause about every `#=GR` value, from the same clause over the entries of the arrays `ss sa pp` and of the unparsed tags' arrays.
    The clause is asked for as `decide (P q i s)`: instance search then meets `P` on its own and not below four quantifiers. -/
theorem grVal_forall {m : Msa} {P : Nat → Nat → Bytes → Prop} [∀ q i s, Decidable (P q i s)]
    (hper : ∀ q, q < 3 → ∀ l ∈ (perF m).getD q none, ∀ i, i < l.length → ∀ s ∈ l.getD i none, decide (P q i s) = true)
    (hgr : ∀ t, t < m.gr.length → ∀ i, i < (m.gr.getD t ([], [])).2.length →
      ∀ s ∈ (m.gr.getD t ([], [])).2.getD i none, decide (P (3 + t) i s) = true)
    (q i : Nat) (s : Bytes) (hs : grVal m q i = some s) : P q i s := by
  unfold grVal at hs
  split at hs
  · rename_i hq
    cases hl : (perF m).getD q none with
    | none => rw [hl] at hs; cases hs
    | some l => rw [hl] at hs; exact of_decide_eq_true (forall_getD_some (hper q hq l hl) i s hs)
  · by_cases ht : q - 3 < m.gr.length
    · have := of_decide_eq_true (forall_getD_some (hgr (q - 3) ht) i s hs)
      rwa [show 3 + (q - 3) = q by omega] at this
    · rw [List.getD_eq_getElem?_getD (l := m.gr), List.getElem?_eq_none (by omega)] at hs
      cases hs

theorem sto_text_sym (t : UInt8) (h : isGraph t = true) :
    mapByte (stockholmInmap none) t = (.ok, some t) ∧ isSpace t = false ∧ t ≠ 0 :=
  ⟨mapByte_textTable h h, (graph_plain h).2.1, (graph_plain h).2.2.1⟩

/-- a text-mode alignment (annotation as `StoAnn` admits) that Stockholm/Pfam represent faithfully -/
structure StoTextWritable (m : Msa) : Prop where
  dig : m.digital = false
  ann : StoAnn m
  n1 : 1 ≤ m.nseq
  alen1 : 1 ≤ m.alen
  nodup : m.names.Nodup
  name_ok : ∀ i, i < m.nseq → stoNameOk (m.names.getD i [])
  row_ok : ∀ i, i < m.nseq → (m.aseq.getD i []).length = m.alen ∧ ∀ t ∈ m.aseq.getD i [], isGraph t = true

theorem stoTextWritable_writable (m : Msa) (h : StoTextWritable m) :
    StoWritable none (stockholmCfg none) id (fun i => m.aseq.getD i []) m :=
  { ann := h.ann, n1 := h.n1, alen1 := h.alen1, nodup := h.nodup, name_ok := h.name_ok
    txt_len := fun i hi => (h.row_ok i hi).1
    chunk_eq := fun i hi pos n => by
      show cstr (((m.aseq.getD i []).drop pos).take n) = _
      exact cstr_id _ (fun c hc => (sto_text_sym c ((h.row_ok i hi).2 c (List.mem_of_mem_drop (List.mem_of_mem_take hc)))).2.2)
    txt_sym := fun i hi t ht => by
      have := sto_text_sym t ((h.row_ok i hi).2 t ht)
      exact ⟨by simpa [stockholmCfg] using this.1, this.2.1, this.2.2⟩
    row_enc := fun i hi => by
      simp [Msa.stored, h.dig, mkRow, stockholmCfg, Cfg.digital] }

/-- the stored symbol the reader produces for a written character -/
def stoEnc (a : Abc) (t : UInt8) : UInt8 :=
  match mapByte (stockholmInmap (some a)) t with
  | (_, some x) => x
  | _ => 0

/-- table fact about an alphabet: the character `sym[x]` written for code `x < Kp` is read back as `x`, is neither white
    space nor NUL; no code collides with the sentinel -/
def stoDigSymOk (a : Abc) : Bool :=
  ((List.range a.kp).all fun x =>
    let t := a.sym.getD x 0
    mapByte (stockholmInmap (some a)) t == (CatSt.ok, some (UInt8.ofNat x)) && !isSpace t && t != 0)
  && decide (a.kp ≤ 250)

theorem stoDigSymOk_of_wf {a : Abc} (h : a.WF) : stoDigSymOk a = true := by
  rw [stoDigSymOk, Bool.and_eq_true, List.all_eq_true]
  refine ⟨fun x hx => ?_, by have := h.kp; simp; omega⟩
  have hx' := List.mem_range.mp hx
  obtain ⟨hasc, _, hsp, hb, hi, _⟩ := symClass_plain _ (h.cls x hx')
  simp only [List.mem_cons, List.not_mem_nil, or_false, not_or] at hb hi
  -- `esl_msafile_stockholm_SetInmap` overwrites only the entry of NUL
  have hget : (stockholmInmap (some a)).get (a.sym.getD x 0) = UInt8.ofNat x := by
    simp only [stockholmInmap, InMap.get_setIfInBounds, hi, false_and, if_false]
    exact h.inv x hx'
  have hm := mapByte_of_get hasc hget (h.code_le hx')
  generalize a.sym.getD x 0 = t at *
  simp [hm, hsp, hb]

theorem sto_dig_sym (a : Abc) (ha : stoDigSymOk a = true) (x : UInt8) (hx : x.toNat < a.kp) :
    mapByte (stockholmInmap (some a)) (a.sym.getD x.toNat 0) = (.ok, some (stoEnc a (a.sym.getD x.toNat 0))) ∧
    isSpace (a.sym.getD x.toNat 0) = false ∧ a.sym.getD x.toNat 0 ≠ 0 ∧ stoEnc a (a.sym.getD x.toNat 0) = x := by
  unfold stoDigSymOk at ha
  simp only [Bool.and_eq_true, decide_eq_true_eq] at ha
  have h1 := (List.all_eq_true.mp ha.1) x.toNat (List.mem_range.mpr hx)
  simp only [UInt8.ofNat_toNat, Bool.and_eq_true, beq_iff_eq, Bool.not_eq_true', bne_iff_ne, ne_eq] at h1
  obtain ⟨⟨hm, hs⟩, hz⟩ := h1
  have he : stoEnc a (a.sym.getD x.toNat 0) = x := by unfold stoEnc; rw [hm]
  exact ⟨by rw [he]; exact hm, hs, hz, he⟩

/-- a digital alignment (alphabet `a`, annotation as `StoAnn` admits) that Stockholm/Pfam represent faithfully -/
structure StoDigitalWritable (a : Abc) (m : Msa) : Prop where
  dig : m.digital = true
  ann : StoAnn m
  n1 : 1 ≤ m.nseq
  alen1 : 1 ≤ m.alen
  nodup : m.names.Nodup
  name_ok : ∀ i, i < m.nseq → stoNameOk (m.names.getD i [])
  row_ok : ∀ i, i < m.nseq → dsqRowOk a.kp m.alen (m.ax.getD i []) = true

/-- the text the writer prints for row `i` -/
def stoDigTxt (a : Abc) (m : Msa) (i : Nat) : Bytes :=
  (dsqCodes (some (m.ax.getD i []))).map fun x => a.sym.getD x.toNat 0

theorem stoDigitalWritable_writable (a : Abc) (ha : stoDigSymOk a = true) (m : Msa) (h : StoDigitalWritable a m) :
    StoWritable (some a) (stockholmCfg (some a)) (stoEnc a) (stoDigTxt a m) m := by
  have hkp : a.kp ≤ 250 := by
    unfold stoDigSymOk at ha
    simp only [Bool.and_eq_true, decide_eq_true_eq] at ha
    exact ha.2
  have hcodes := fun i (hi : i < m.nseq) => dsqRow_codes _ _ _ (h.row_ok i hi)
  have hlt : ∀ i, i < m.nseq → ∀ x ∈ dsqCodes (some (m.ax.getD i [])), x.toNat < a.kp := fun i hi => (hcodes i hi).1
  exact
    { ann := h.ann, n1 := h.n1, alen1 := h.alen1, nodup := h.nodup, name_ok := h.name_ok
      txt_len := fun i hi => by simp only [stoDigTxt, List.length_map]; exact (hcodes i hi).2
      chunk_eq := fun i hi pos n => textizeN_row a hkp m.alen _ (h.row_ok i hi) pos n
      txt_sym := fun i hi t ht => by
        simp only [stoDigTxt, List.mem_map] at ht
        obtain ⟨x, hx, rfl⟩ := ht
        have := sto_dig_sym a ha x (hlt i hi x hx)
        exact ⟨by simpa [stockholmCfg] using this.1, this.2.1, this.2.2.1⟩
      row_enc := fun i hi =>
        stored_enc m h.dig _ i (h.row_ok i hi) _ _ fun x hx => (sto_dig_sym a ha x (hlt i hi x hx)).2.2.2 }

end EaselModel.Msafile
