import EaselModel.Msafile.GuessWritten
import EaselModel.Msafile.PhylipRoundTrip
/-! # Autodetection of library-written PHYLIP output (C03)

`esl_msafile_GuessFileFormat` on what `esl_msafile_phylip_Write` produces, for EVERY alignment with at least one column: the first
line ` <nseq> <alen>` is recognised as a PHYLIP header whatever the two numbers are (`phyHeader_first`), so

* with a `.ph` / `.phy` / `.phyi` / `.phys` file name the answer is the format the suffix names, nothing else is looked at;
* otherwise the answer IS that of the deep check `esl_msafile_phylip_CheckFileFormat` on the whole output (`guess_phylipWrite`):
  the set where autodetection does not return the format written is exactly `{m | phyCheckFileFormat (write m) ≠ ok fmt}`.
  The library documents that check as a heuristic (interleaved and sequential files are the same bytes for one sequence or one
  block; names that look like residues shift the inferred name width), so no closed form of the set is claimed; the monitor
  accepts exactly the documented "consistent with both" outcome there. -/
namespace EaselModel.Msafile

theorem dch_digits : ∀ d : Fin 10, inDelim bDigits (dch d.val) = true ∧ dch d.val ≠ 109 ∧ dch d.val ≠ 10 ∧ dch d.val ≠ 13 := by decide

theorem natDec_allDigits (n : Nat) : allDigits (natDec n) = true := by
  unfold allDigits
  rw [List.all_eq_true]
  intro c hc
  obtain ⟨d, hd, rfl⟩ := natDec_mem n c hc
  exact (dch_digits ⟨d, hd⟩).1

/-- a line without the letter `m` does not contain "multiple sequence alignment" -/
theorem memstrcontains_words (p : Bytes) (h : (109 : UInt8) ∉ p) : memstrcontains p bMsaWords = false := by
  induction p with
  | nil => rfl
  | cons c t ih =>
    have hc : c ≠ 109 := fun e => h (by rw [e]; simp)
    have ht : (109 : UInt8) ∉ t := fun e => h (by simp [e])
    unfold memstrcontains
    rw [ih ht, Bool.or_false]
    simp only [bMsaWords, List.isPrefixOf, Bool.and_eq_false_imp, beq_iff_eq]
    intro e; exact absurd e.symm hc

/-- the header line the PHYLIP writers print -/
def phyHdrLine (n a : Nat) : Bytes := [32] ++ natDec n ++ [32] ++ natDec a

theorem phyHdrLine_mem (n a : Nat) (c : UInt8) (hc : c ∈ phyHdrLine n a) : c = 32 ∨ ∃ d, d < 10 ∧ c = dch d := by
  unfold phyHdrLine at hc
  simp only [List.mem_append, List.mem_singleton] at hc
  rcases hc with ((h | h) | h) | h
  · exact Or.inl h
  · exact Or.inr (natDec_mem n c h)
  · exact Or.inl h
  · exact Or.inr (natDec_mem a c h)

/-- **` <nseq> <alen>` is a line, is not blank, and looks like a PHYLIP header - for all numbers** -/
theorem phyHeader_first (n a : Nat) :
    lineOk (phyHdrLine n a) ∧ isBlankLine (phyHdrLine n a) = false ∧ fmtByFirstLine (phyHdrLine n a) = .phylip := by
  have hno : ∀ x : UInt8, x ≠ 32 → (∀ d : Fin 10, dch d.val ≠ x) → x ∉ phyHdrLine n a := by
    intro x h32 hd hx
    rcases phyHdrLine_mem n a x hx with e | ⟨d, hd', e⟩
    · exact h32 e
    · exact hd ⟨d, hd'⟩ e.symm
  have h10 : (10 : UInt8) ∉ phyHdrLine n a := hno 10 (by decide) (fun d => (dch_digits d).2.2.1)
  have h13 : (13 : UInt8) ∉ phyHdrLine n a := hno 13 (by decide) (fun d => (dch_digits d).2.2.2)
  have h109 : (109 : UInt8) ∉ phyHdrLine n a := hno 109 (by decide) (fun d => (dch_digits d).2.1)
  have hshape : phyHdrLine n a = 32 :: (natDec n ++ 32 :: natDec a) := by unfold phyHdrLine; simp
  have htok : memtok (phyHdrLine n a) blankTab = some (natDec n, natDec a) := by
    rw [hshape, memtok_skip32]
    exact memtok_name_desc (natDec n) (natDec a) (natDec_nameOk n) (natDec_descOk a)
  refine ⟨⟨h10, fun h => h13 (List.mem_of_getLast? h)⟩, ?_, ?_⟩
  · -- not blank: the first digit of nseq
    obtain ⟨d, hd, hm⟩ : ∃ d, d < 10 ∧ dch d ∈ phyHdrLine n a := by
      cases hx : natDec n with
      | nil => exact absurd hx (natDec_ne_nil n)
      | cons c t =>
        obtain ⟨d, hd, e⟩ := natDec_mem n c (by rw [hx]; simp)
        exact ⟨d, hd, by rw [hshape, hx, ← e]; simp⟩
    unfold isBlankLine
    rw [Bool.eq_false_iff]
    intro hall
    have := (List.all_eq_true.mp hall) _ hm
    have hf := (dch_facts ⟨d, hd⟩).2.2.1
    simp only at hf
    rw [hf] at this; cases this
  · unfold fmtByFirstLine
    have p1 : memstrpfx (phyHdrLine n a) bStockholmHdr = false := by rw [hshape]; simp [memstrpfx, bStockholmHdr, List.isPrefixOf]
    have p2 : memstrpfx (phyHdrLine n a) bGt = false := by rw [hshape]; simp [memstrpfx, bGt, List.isPrefixOf]
    have p3 : memstrpfx (phyHdrLine n a) bClustal = false := by rw [hshape]; simp [memstrpfx, bClustal, List.isPrefixOf]
    simp only [p1, p2, p3, memstrcontains_words _ h109, Bool.false_eq_true, if_false, htok, natDec_allDigits, Bool.not_true,
      memtok_name (natDec a) (natDec_nameOk a), if_true]

/-- **autodetection of PHYLIP output, interleaved or sequential, any alignment with ≥ 1 column**: the suffix decides when there is
    one; otherwise the verdict is, exactly, that of `esl_msafile_phylip_CheckFileFormat` on the output -/
theorem guess_phylipWrite (fname : Option Bytes) (sequential : Bool) (abc : Option Abc) (m : Msa) (h : 0 < m.alen) :
    guessFormat fname (splitLines (phylipWrite sequential abc m)) =
      if fmtBySuffix fname == some .phylip then .ok (.phylip, 0)
      else if fmtBySuffix fname == some .phylips then .ok (.phylips, 0)
      else phyCheckFileFormat (splitLines (phylipWrite sequential abc m)) := by
  obtain ⟨rest, hr⟩ := phylipWrite_header sequential abc m h
  have hf := phyHeader_first m.nseq m.alen
  have hr' : phylipWrite sequential abc m = phyHdrLine m.nseq m.alen ++ 10 :: rest := hr
  rw [hr', splitLines_first _ _ hf.1, guessFormat_cons _ _ _ hf.2.1, hf.2.2]

theorem fmtBySuffix_phy : fmtBySuffix (some (str "x.phy")) = some .phylip := by decide +kernel
theorem fmtBySuffix_phys : fmtBySuffix (some (str "x.phys")) = some .phylips := by decide +kernel

end EaselModel.Msafile
