import EaselModel.Msafile.ClustalReadDomain
import EaselModel.Msafile.PsiblastLemmas
import EaselModel.Msafile.PsiblastWritable
/-! "Reformat stability", PSI-BLAST: `esl_msafile_psiblast_Read` guarantees ≥ 1 sequence, ≥ 1 column, names without white
    space or NUL, rows of `alen` symbols.  The domain of the PSI-BLAST round-trip theorem (`PsiblastTextWritable` /
    `PsiblastDigitalWritable`: the alignments on which the writer is the identity) is much narrower than what the reader
    returns: it also asks for no lower-case (insert) residue and for the `rf` line to mark every column that holds a residue;
    those two conditions are hypotheses here. -/
namespace EaselModel.Msafile

theorem name_nospace_gen (p : Bytes) (ns nl : Nat) (name : Bytes) (h1 : ns = scanTo (fun c => !isSpace c) p 0)
    (h2 : nl = scanTo isSpace p (ns + 1) - ns) (hs : slice p ns nl = some name) : ∀ x ∈ name, isSpace x = false := by
  have hge : ns + 1 ≤ scanTo isSpace p (ns + 1) := scanTo_ge _ _ _
  unfold slice at hs
  by_cases hb : ns + nl ≤ p.length
  · simp only [hb, if_true, Option.some.injEq] at hs
    have hlt : scanTo (fun c => !isSpace c) p 0 < p.length := by rw [← h1]; omega
    obtain ⟨c0, hc0, hP⟩ := scanTo_stop (fun c => !isSpace c) p 0 hlt
    rw [← h1] at hc0
    rw [← hs, h2]
    exact nameSlice_nospace p ns c0 hc0 (by simpa using hP)
  · simp [hb] at hs

theorem psiCols_spec (p : Bytes) (c : Cols) (h : psiCols p = .ok c) :
    c.nameStart = scanTo (fun c => !isSpace c) p 0 ∧ c.nameLen = scanTo isSpace p (c.nameStart + 1) - c.nameStart ∧ 1 ≤ c.seqLen := by
  unfold psiCols at h
  simp only at h
  repeat' split at h
  all_goals first
    | (injection h with h; subst h; exact ⟨rfl, rfl, by simp only; omega⟩)
    | (simp at h; done)
    | cases h

/-- the shared invariant, plus: between two blocks at least one column was read -/
structure PsiNdInv (cfg : Cfg) (st : BlkSt) : Prop where
  blk : BlkNdInv cfg st
  alen1 : st.phase = .between → 1 ≤ st.alen

theorem psiSeqLine_nd (cfg : Cfg) (hg : cfg.digital = false → cfg.inmap.emits isGraph = true) (st st' : BlkSt) (p : Bytes)
    (h : psiSeqLine cfg st p = .inl st') (hi : BlkNdInv cfg st) (hph : st.idx ≠ 0 → 1 ≤ st.bsl) : PsiNdInv cfg st' := by
  unfold psiSeqLine at h
  split at h
  · simp at h
  · simp at h
  · rename_i c hc
    obtain ⟨hc1, hc2, hc3⟩ := psiCols_spec p c hc
    split at h
    · simp at h
    · split at h
      · simp at h
      · split at h
        · rename_i name seq hname hseq
          simp only at h
          split at h
          · simp at h
          · simp at h
          · rename_i rf1 hrf
            obtain ⟨hb, hphase⟩ := blkStore_nd cfg hg false st st' c rf1 name seq h hc3 (name_nospace_gen p _ _ name hc1 hc2 hname)
              (name_ne_gen p _ _ name hc2 hname) hi hph
            exact { blk := hb, alen1 := fun hbt => by rw [hphase] at hbt; cases hbt }
        · simp at h

theorem psiEndBlock_nd (cfg : Cfg) (st st' : BlkSt) (h : psiEndBlock st = .inl st') (hi : PsiNdInv cfg st) (hph : st.phase = .inblock) :
    PsiNdInv cfg st' ∧ st'.phase = .between := by
  unfold psiEndBlock at h
  split at h
  · simp at h
  · injection h with h
    subst h
    have hb := hi.blk.bsl (Or.inl hph)
    exact ⟨{ blk := { names := hi.blk.names, rows := hi.blk.rows, bsl := fun _ => hb }
             alen1 := fun _ => by show 1 ≤ st.alen + st.bsl; omega }, rfl⟩

theorem psiStep_nd (cfg : Cfg) (hg : cfg.digital = false → cfg.inmap.emits isGraph = true) (st : BlkSt) (l : Bytes)
    (hi : PsiNdInv cfg st) : StepOk (PsiNdInv cfg) (CluNdGood cfg) (psiStep cfg st l) := by
  cases hs : psiStep cfg st l with
  | inr r =>
    intro m hm
    subst hm
    exact absurd hs (psiStep_notOk cfg st l m)
  | inl st' =>
    show PsiNdInv cfg st'
    have hidx0 : BlkNdInv cfg { st with idx := 0 } := { names := hi.blk.names, rows := hi.blk.rows, bsl := hi.blk.bsl }
    unfold psiStep at hs
    split at hs
    · split at hs
      · injection hs with hs; subst hs; exact hi
      · exact psiSeqLine_nd cfg hg _ st' l hs hidx0 (fun h => absurd rfl h)
    · split at hs
      · injection hs with hs; subst hs; exact hi
      · exact psiSeqLine_nd cfg hg _ st' l hs hidx0 (fun h => absurd rfl h)
    · rename_i hph
      split at hs
      · exact (psiEndBlock_nd cfg st st' hs hi hph).1
      · exact psiSeqLine_nd cfg hg st st' l hs hi.blk (fun _ => hi.blk.bsl (Or.inl hph))
    · split at hs
      · injection hs with hs; subst hs; exact hi
      · exact psiSeqLine_nd cfg hg _ st' l hs hidx0 (fun h => absurd rfl h)

theorem psiFinish_nd (cfg : Cfg) (st : BlkSt) (hi : PsiNdInv cfg st) : CluNdGood cfg (psiFinish cfg st) := by
  unfold psiFinish
  split
  · intro m hm; simp at hm
  · intro m hm; simp at hm
  · rename_i hph
    split
    · rename_i r hend
      intro m hm
      subst hm
      exact absurd hend (psiEndBlock_notOk st m)
    · rename_i st1 hend
      obtain ⟨h1, h2⟩ := psiEndBlock_nd cfg st st1 hend hi hph
      exact blkResult_nd cfg st1 _ h1.blk (h1.alen1 h2)
  · rename_i hph
    exact blkResult_nd cfg st _ hi.blk (hi.alen1 hph)

theorem psiblastRead_nd (cfg : Cfg) (hg : cfg.digital = false → cfg.inmap.emits isGraph = true) (lines : List Bytes) :
    CluNdGood cfg (psiblastRead cfg lines).1 :=
  runLines_inv (psiStep cfg) (psiFinish cfg) (PsiNdInv cfg) (CluNdGood cfg)
    (fun st l h => psiStep_nd cfg hg st l h) (fun st h => psiFinish_nd cfg st h) lines {}
    { blk := { names := fun _ h => by simp at h, rows := fun _ r h => by simp at h,
               bsl := fun h => by rcases h with h | h <;> cases h }
      alen1 := fun h => by cases h }

/-- every residue is an upper-case letter other than `O`, or `-` (text mode) -/
def psiRowsUpperB (m : Msa) : Bool := m.aseq.all fun r => r.all psiTextSym

/-- every column is a consensus column (by `rf`, else by the first sequence) or holds `-` in every row (text mode) -/
def psiColsOkB (m : Msa) : Bool :=
  (List.range m.alen).all fun pos => isConsensusCol none m pos || (List.range m.nseq).all fun i => aseqAt m i pos == 45

/-- digital mode: every code is a residue other than pyrrolysine, or the gap -/
def psiRowsDigB (a : Abc) (m : Msa) : Bool := m.ax.all fun r => (dsqCodes (some r)).all (psiDigCode a)

def psiColsOkDigB (a : Abc) (m : Msa) : Bool :=
  (List.range m.alen).all fun pos =>
    isConsensusCol (some a) m pos || (List.range m.nseq).all fun i => (axAt m i pos).toNat == a.k

def psiTextGraphB : Bool := (psiblastInmap none).emits isGraph

theorem psiTextGraphB_true : psiTextGraphB = true := by
  simp only [psiTextGraphB, InMap.emits, psiblastInmap_text_get]
  decide +kernel

/-- **what the PSI-BLAST reader returns in text mode is in the domain of the PSI-BLAST round trip**, given: no
    lower-case residue (`psiRowsUpperB`), every column a consensus column or `-` in every row (`psiColsOkB`) -/
theorem psiblastRead_domain_text (lines : List Bytes) (m : Msa) (rest : List Bytes)
    (h : psiblastRead (psiblastCfg none) lines = (.ok m, rest)) (hup : psiRowsUpperB m = true)
    (hcol : psiColsOkB m = true) : PsiblastTextWritable m := by
  have hg := psiblastRead_good (psiblastCfg none) (psiblastCfg_valid abcOk_none) lines
  have hn := psiblastRead_nd (psiblastCfg none) (fun _ => psiTextGraphB_true) lines
  rw [h] at hg hn
  obtain ⟨hnm, hdig, _, halen, _⟩ := hn m rfl
  have hdig' : m.digital = false := hdig
  obtain ⟨h1, hrows⟩ := rd_wellFormed_rows m hg
  rw [hdig'] at hrows
  simp only [Bool.false_eq_true, if_false] at hrows
  exact
    { dig := hdig', n1 := h1, alen1 := halen
      name_ok := cluName_ok m hnm
      row_ok := fun i hi => by
        have hmem : m.aseq.getD i [] ∈ m.aseq := getD_mem_of_lt (by rw [hrows.1]; exact hi)
        exact ⟨(hrows.2 _ hmem).1, fun t ht => (List.all_eq_true.mp ((List.all_eq_true.mp hup) _ hmem)) t ht⟩
      col_ok := fun pos hp => by
        have := (List.all_eq_true.mp hcol) pos (List.mem_range.mpr hp)
        simp only [Bool.or_eq_true, List.all_eq_true, beq_iff_eq, List.mem_range] at this
        rcases this with h2 | h2
        · exact Or.inl h2
        · exact Or.inr h2 }

theorem psiblastRead_domain_digital (a : Abc) (hv : (psiblastCfg (some a)).valid) (lines : List Bytes) (m : Msa) (rest : List Bytes)
    (h : psiblastRead (psiblastCfg (some a)) lines = (.ok m, rest)) (hup : psiRowsDigB a m = true)
    (hcol : psiColsOkDigB a m = true) : PsiblastDigitalWritable a m := by
  have hg := psiblastRead_good (psiblastCfg (some a)) hv lines
  have hn := psiblastRead_nd (psiblastCfg (some a)) (fun hd => by simp [psiblastCfg, Cfg.digital] at hd) lines
  rw [h] at hg hn
  obtain ⟨hnm, hdig, hkp, halen, _⟩ := hn m rfl
  have hdig' : m.digital = true := hdig
  have hkp' : m.kp = a.kp := hkp
  obtain ⟨h1, hrows⟩ := rd_wellFormed_rows m hg
  rw [hdig'] at hrows
  simp only [if_true] at hrows
  exact
    { dig := hdig', n1 := h1, alen1 := halen
      name_ok := cluName_ok m hnm
      row_ok := fun i hi => by
        have hmem : m.ax.getD i [] ∈ m.ax := getD_mem_of_lt (by rw [hrows.1]; exact hi)
        refine ⟨by rw [← hkp']; exact hrows.2 _ hmem, fun x hx => ?_⟩
        exact (List.all_eq_true.mp ((List.all_eq_true.mp hup) _ hmem)) x hx
      col_ok := fun pos hp => by
        have := (List.all_eq_true.mp hcol) pos (List.mem_range.mpr hp)
        simp only [Bool.or_eq_true, List.all_eq_true, beq_iff_eq, List.mem_range] at this
        rcases this with h2 | h2
        · exact Or.inl h2
        · exact Or.inr h2 }

end EaselModel.Msafile
