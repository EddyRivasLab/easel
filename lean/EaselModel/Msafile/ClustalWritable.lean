import EaselModel.Msafile.ClustalRoundTrip
import EaselModel.Msafile.PhylipWritable
import EaselModel.Msafile.AbcTables
/-! Concrete, checkable conditions under which an alignment is `ClustalWritable`: text mode, and digital mode with the
    generated amino / DNA / RNA alphabets. -/
namespace EaselModel.Msafile

/-- the text-mode Clustal input map sends every graphic character to itself -/
theorem clu_text_sym (t : UInt8) (h : isGraph t = true) : mapByte (clustalInmap none) t = (.ok, some t) :=
  mapByte_textTable h h

/-- a text-mode alignment that Clustal represents faithfully: ≥ 1 sequence, ≥ 1 column, names not empty and without white
    space or NUL, rows of `alen` graphic characters; and no row after the first looks like a consensus line: its name or
    every one of its residues is outside `" .:*"` -/
structure ClustalTextWritable (m : Msa) : Prop where
  dig : m.digital = false
  n1 : 1 ≤ m.nseq
  alen1 : 1 ≤ m.alen
  name_ok : ∀ i, i < m.nseq → cluNameOk (m.names.getD i [])
  row_ok : ∀ i, i < m.nseq → (m.aseq.getD i []).length = m.alen ∧ ∀ t ∈ m.aseq.getD i [], isGraph t = true
  notcons : ∀ i, i < m.nseq → 1 ≤ i →
    (∃ c ∈ m.names.getD i [], inDelim bConsensus c = false) ∨ (∀ t ∈ m.aseq.getD i [], inDelim bConsensus t = false)

theorem notcons_of (nm row : Bytes) (alen pos : Nat) (hl : row.length = alen) (hpos : pos < alen)
    (h : (∃ c ∈ nm, inDelim bConsensus c = false) ∨ (∀ t ∈ row, inDelim bConsensus t = false)) :
    ∃ c, (c ∈ nm ∨ c ∈ (row.drop pos).take 60) ∧ inDelim bConsensus c = false := by
  rcases h with ⟨c, hc, hd⟩ | h
  · exact ⟨c, Or.inl hc, hd⟩
  · have hne := buf_ne_nil row pos (by rw [hl]; exact hpos)
    obtain ⟨c, t, hct⟩ := List.exists_cons_of_ne_nil hne
    have hc : c ∈ (row.drop pos).take 60 := by rw [hct]; simp
    exact ⟨c, Or.inr hc, h c (mem_of_drop_take hc)⟩

theorem clustalTextWritable_writable (m : Msa) (h : ClustalTextWritable m) :
    ClustalWritable none (clustalCfg none) id (fun i => m.aseq.getD i []) m :=
  { n1 := h.n1, alen1 := h.alen1, name_ok := h.name_ok
    txt_len := fun i hi => (h.row_ok i hi).1
    buf_eq := fun i hi pos => by
      have h0 : ∀ t ∈ ((m.aseq.getD i []).drop pos).take 60, t ≠ 0 :=
        fun t ht => (graph_notSpace t ((h.row_ok i hi).2 t (mem_of_drop_take ht))).2
      show strChunk (m.aseq.getD i []) pos clustalCpl = _
      unfold strChunk
      rw [show clustalCpl = 60 from rfl, cstr_id _ h0]
    txt_sym := fun i hi t ht => by
      have hg := (h.row_ok i hi).2 t ht
      exact ⟨by simpa [clustalCfg] using clu_text_sym t hg, hg⟩
    row_enc := fun i hi => by
      simp [Msa.stored, h.dig, mkRow, clustalCfg, Cfg.digital]
    notcons := fun i h1 hi pos hpos => notcons_of _ _ m.alen pos (h.row_ok i hi).1 hpos (h.notcons i hi h1) }

def cluEnc (a : Abc) (t : UInt8) : UInt8 :=
  match mapByte (clustalInmap (some a)) t with
  | (_, some x) => x
  | _ => 0

/-- table fact about an alphabet: the character written for code `x < Kp` (`sym[x]`) is read back as `x`, is graphic, and
    is outside `" .:*"` unless it is `*`; no code collides with the sentinel -/
def cluDigSymOk (a : Abc) : Bool :=
  ((List.range a.kp).all fun x =>
    let t := a.sym.getD x 0
    mapByte (clustalInmap (some a)) t == (CatSt.ok, some (UInt8.ofNat x)) && isGraph t && (t == 42 || !inDelim bConsensus t))
  && decide (a.kp ≤ 250)

theorem cluDigSymOk_of_wf {a : Abc} (h : a.WF) : cluDigSymOk a = true := by
  rw [cluDigSymOk, Bool.and_eq_true, List.all_eq_true]
  refine ⟨fun x hx => ?_, by have := h.kp; simp; omega⟩
  have hx' := List.mem_range.mp hx
  obtain ⟨hasc, hg, _, hb, hi, _⟩ := symClass_plain _ (h.cls x hx')
  simp only [List.mem_cons, List.not_mem_nil, or_false, not_or] at hb hi
  -- `esl_msafile_clustal_SetInmap` overwrites the entry of NUL only
  have hget : (clustalInmap (some a)).get (a.sym.getD x 0) = UInt8.ofNat x := by
    simp only [clustalInmap, InMap.get_setIfInBounds, hi, false_and, if_false]
    exact h.inv x hx'
  have hm := mapByte_of_get hasc hget (h.code_le hx')
  generalize a.sym.getD x 0 = t at *
  simp [hm, hg, inDelim, bConsensus, hb, Decidable.em]

theorem clu_dig_sym (a : Abc) (ha : cluDigSymOk a = true) (x : UInt8) (hx : x.toNat < a.kp) :
    mapByte (clustalInmap (some a)) (a.sym.getD x.toNat 0) = (.ok, some (cluEnc a (a.sym.getD x.toNat 0))) ∧
    isGraph (a.sym.getD x.toNat 0) = true ∧ cluEnc a (a.sym.getD x.toNat 0) = x ∧
    (a.sym.getD x.toNat 0 ≠ 42 → inDelim bConsensus (a.sym.getD x.toNat 0) = false) := by
  unfold cluDigSymOk at ha
  simp only [Bool.and_eq_true, decide_eq_true_eq] at ha
  have h1 := (List.all_eq_true.mp ha.1) x.toNat (List.mem_range.mpr hx)
  simp only [UInt8.ofNat_toNat, Bool.and_eq_true, beq_iff_eq, Bool.or_eq_true, Bool.not_eq_true'] at h1
  obtain ⟨⟨hm, hg⟩, hc⟩ := h1
  have he : cluEnc a (a.sym.getD x.toNat 0) = x := by unfold cluEnc; rw [hm]
  refine ⟨by rw [he]; exact hm, hg, he, ?_⟩
  intro h42
  rcases hc with hc | hc
  · exact absurd hc h42
  · exact hc

/-- a digital alignment (alphabet `a`) that Clustal represents faithfully; a row after the first must have a name with a
    character outside `" .:*"`, or no `*` (not-a-residue) symbol -/
structure ClustalDigitalWritable (a : Abc) (m : Msa) : Prop where
  dig : m.digital = true
  n1 : 1 ≤ m.nseq
  alen1 : 1 ≤ m.alen
  name_ok : ∀ i, i < m.nseq → cluNameOk (m.names.getD i [])
  row_ok : ∀ i, i < m.nseq → dsqRowOk a.kp m.alen (m.ax.getD i []) = true
  notcons : ∀ i, i < m.nseq → 1 ≤ i →
    (∃ c ∈ m.names.getD i [], inDelim bConsensus c = false) ∨ (∀ x ∈ dsqCodes (some (m.ax.getD i [])), a.sym.getD x.toNat 0 ≠ 42)

def cluDigTxt (a : Abc) (m : Msa) (i : Nat) : Bytes :=
  (dsqCodes (some (m.ax.getD i []))).map fun x => a.sym.getD x.toNat 0

theorem clustalDigitalWritable_writable (a : Abc) (ha : cluDigSymOk a = true) (m : Msa) (h : ClustalDigitalWritable a m) :
    ClustalWritable (some a) (clustalCfg (some a)) (cluEnc a) (cluDigTxt a m) m := by
  have hkp : a.kp ≤ 250 := by
    unfold cluDigSymOk at ha
    simp only [Bool.and_eq_true, decide_eq_true_eq] at ha
    exact ha.2
  have hcodes := fun i (hi : i < m.nseq) => dsqRow_codes _ _ _ (h.row_ok i hi)
  have hlt := fun i hi => (hcodes i hi).1
  have hlen : ∀ i, i < m.nseq → (cluDigTxt a m i).length = m.alen := fun i hi => by
    simp only [cluDigTxt, List.length_map]; exact (hcodes i hi).2
  exact
    { n1 := h.n1, alen1 := h.alen1, name_ok := h.name_ok
      txt_len := hlen
      buf_eq := fun i hi pos => textizeN_row a hkp _ _ (h.row_ok i hi) pos _
      txt_sym := fun i hi t ht => by
        simp only [cluDigTxt, List.mem_map] at ht
        obtain ⟨x, hx, rfl⟩ := ht
        have := clu_dig_sym a ha x (hlt i hi x hx)
        exact ⟨by simpa [clustalCfg] using this.1, this.2.1⟩
      row_enc := fun i hi =>
        stored_enc m h.dig _ i (h.row_ok i hi) _ _ fun x hx => (clu_dig_sym a ha x (hlt i hi x hx)).2.2.1
      notcons := fun i h1 hi pos hpos => by
        refine notcons_of _ _ m.alen pos (hlen i hi) hpos ?_
        rcases h.notcons i hi h1 with hn | hn
        · exact Or.inl hn
        · refine Or.inr ?_
          intro t ht
          simp only [cluDigTxt, List.mem_map] at ht
          obtain ⟨x, hx, rfl⟩ := ht
          exact (clu_dig_sym a ha x (hlt i hi x hx)).2.2.2 (hn x hx) }

end EaselModel.Msafile
