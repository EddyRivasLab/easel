import EaselModel.Msafile.Basic
import EaselModel.Core.ListWhile
/-! What every Msafile reader proof rests on.  The abstract line reader (`splitLinesT_*`).  A reader is `runLines step finish`: the
    outcome of a step (`StepOk`), the line-loop principle (`runLines_inv_mem`), what is known of an eslOK outcome (`OkIs`), the one
    statement about a step function (`StepSpec`, with `ErrGood`) and its readings for alignments (`Good`, `StepGood`, `NotOk`,
    `StepSpec.good`, `.notOk`).  What the `*cat` helpers store, read off the input map (`InMap.emits`, `noExc`, `noIgnore`). -/
namespace EaselModel.Msafile

/-! ## the abstract line reader -/

theorem lineOfAcc_flat (acc : Bytes) : (lineOfAcc acc).1 ++ (lineOfAcc acc).2 = acc.reverse ++ [10] := by
  unfold lineOfAcc
  cases acc with
  | nil => simp
  | cons x r =>
    by_cases hx : x = 13
    · subst hx; simp
    · simp [hx]

theorem lineOfAcc_term (acc : Bytes) : (lineOfAcc acc).2 = [10] ∨ (lineOfAcc acc).2 = [13, 10] := by
  unfold lineOfAcc
  split <;> simp

theorem splitLinesT_flat (src acc : Bytes) :
    ((splitLinesT src acc).flatMap fun l => l.1 ++ l.2) = acc.reverse ++ src := by
  induction src generalizing acc with
  | nil =>
    unfold splitLinesT
    by_cases h : acc.isEmpty
    · have : acc = [] := List.isEmpty_iff.mp h
      simp [this]
    · simp [h]
  | cons c rest ih =>
    unfold splitLinesT
    by_cases hc : c == 10
    · have hc' : c = 10 := by simpa using hc
      simp only [hc, if_true, List.flatMap_cons, ih, List.reverse_nil, List.nil_append, lineOfAcc_flat]
      simp [hc']
    · simp only [hc, Bool.false_eq_true, if_false, ih]
      simp

theorem splitLinesT_term (src acc : Bytes) :
    ∀ l ∈ splitLinesT src acc, l.2 = [10] ∨ l.2 = [13, 10] ∨ l.2 = [] := by
  induction src generalizing acc with
  | nil =>
    unfold splitLinesT
    intro l hl
    by_cases h : acc.isEmpty
    · simp [h] at hl
    · simp [h] at hl; simp [hl]
  | cons c rest ih =>
    unfold splitLinesT
    intro l hl
    by_cases hc : c == 10
    · simp only [hc, if_true, List.mem_cons] at hl
      rcases hl with h | h
      · subst h
        rcases lineOfAcc_term acc with h | h <;> simp [h]
      · exact ih [] l h
    · simp only [hc, Bool.false_eq_true, if_false] at hl
      exact ih _ l hl

theorem splitLinesT_body (src acc : Bytes) (hacc : (10 : UInt8) ∉ acc) :
    ∀ l ∈ splitLinesT src acc, (10 : UInt8) ∉ l.1 := by
  induction src generalizing acc with
  | nil =>
    unfold splitLinesT
    intro l hl
    by_cases h : acc.isEmpty
    · simp [h] at hl
    · simp [h] at hl; subst hl; simpa using hacc
  | cons c rest ih =>
    unfold splitLinesT
    intro l hl
    by_cases hc : c == 10
    · simp only [hc, if_true, List.mem_cons] at hl
      rcases hl with h | h
      · subst h
        unfold lineOfAcc
        split
        · simp only [List.mem_reverse]; intro hm; exact hacc (List.mem_of_mem_tail hm)
        · simpa using hacc
      · exact ih [] (by simp) l h
    · simp only [hc, Bool.false_eq_true, if_false] at hl
      have hc' : c ≠ 10 := by simpa using hc
      exact ih (c :: acc) (by simp [hacc, Ne.symm hc']) l hl

theorem ite_some_cases {α : Type} {c : Prop} [Decidable c] {a m : α} {o : Option α}
    (h : (if c then some a else o) = some m) : m = a ∨ o = some m := by
  by_cases hc : c
  · rw [if_pos hc] at h; exact .inl (Option.some.inj h).symm
  · rw [if_neg hc] at h; exact .inr h

/-- `esl_msa_Expand` makes room for the sequence about to be named -/
theorem lt_expandAlloc {idx sqalloc : Nat} (h : idx ≤ sqalloc) (h0 : 0 < sqalloc) : idx < expandAlloc idx sqalloc := by
  unfold expandAlloc
  split <;> omega

/-! ## steps and the line loop -/

/-- the outcome of a step: a new state satisfying the invariant, or a good final outcome -/
def StepOk {σ α : Type} (Inv : σ → Prop) (Good : Res α → Prop) (x : Sum σ (Res α)) : Prop :=
  match x with
  | .inl st' => Inv st'
  | .inr r => Good r

@[simp] theorem stepOk_inl {σ α : Type} (Inv : σ → Prop) (Good : Res α → Prop) (s : σ) : StepOk Inv Good (.inl s) = Inv s := rfl
@[simp] theorem stepOk_inr {σ α : Type} (Inv : σ → Prop) (Good : Res α → Prop) (r : Res α) :
    StepOk Inv Good (.inr r : Sum σ (Res α)) = Good r := rfl

/-- a walk over an `if` chain: whatever is to be shown of the value is shown of each branch -/
theorem ite_ind {γ : Type} {P : γ → Prop} {c : Prop} [Decidable c] {a b : γ} (ha : c → P a) (hb : ¬c → P b) :
    P (if c then a else b) := by
  by_cases h : c
  · rw [if_pos h]; exact ha h
  · rw [if_neg h]; exact hb h

theorem StepOk.ite {σ α : Type} {Inv : σ → Prop} {Good : Res α → Prop} {c : Prop} [Decidable c] {a b : Sum σ (Res α)}
    (ha : c → StepOk Inv Good a) (hb : ¬c → StepOk Inv Good b) : StepOk Inv Good (if c then a else b) := ite_ind ha hb

/-- the line-loop principle: an invariant kept by every step (which may assume `R` of its line) and good at the end of input -/
theorem runLines_inv_mem {σ α : Type} (step : σ → Bytes → Sum σ (Res α)) (finish : σ → Res α)
    (Inv : σ → Prop) (Good : Res α → Prop) (R : Bytes → Prop)
    (hstep : ∀ st l, R l → Inv st → StepOk Inv Good (step st l))
    (hfin : ∀ st, Inv st → Good (finish st)) :
    ∀ (ls : List Bytes) (st : σ), (∀ l ∈ ls, R l) → Inv st → Good (runLines step finish st ls).1 := by
  intro ls
  induction ls with
  | nil => intro st _ h; simpa [runLines] using hfin st h
  | cons l ls ih =>
    intro st hR h
    have hs := hstep st l (hR l (by simp)) h
    unfold runLines
    cases hsl : step st l with
    | inl st' => rw [hsl] at hs; simpa using ih st' (fun l' hl' => hR l' (by simp [hl'])) (by simpa using hs)
    | inr r => rw [hsl] at hs; simpa using hs

theorem runLines_inv {σ α : Type} (step : σ → Bytes → Sum σ (Res α)) (finish : σ → Res α)
    (Inv : σ → Prop) (Good : Res α → Prop)
    (hstep : ∀ st l, Inv st → StepOk Inv Good (step st l))
    (hfin : ∀ st, Inv st → Good (finish st)) :
    ∀ (ls : List Bytes) (st : σ), Inv st → Good (runLines step finish st ls).1 :=
  fun ls st h => runLines_inv_mem step finish Inv Good (fun _ => True) (fun st l _ => hstep st l) hfin ls st (fun _ _ => trivial) h

theorem StepOk.mono {σ α : Type} {I J : σ → Prop} {G H : Res α → Prop} {x : Sum σ (Res α)} (h : StepOk I G x)
    (hI : ∀ s, I s → J s) (hG : ∀ r, G r → H r) : StepOk J H x := by
  cases x with
  | inl s => exact hI s h
  | inr r => exact hG r h

/-- what is known of an eslOK outcome; the other outcomes are left alone -/
def OkIs {α : Type} (P : α → Prop) (r : Res α) : Prop := ∀ a, r = .ok a → P a

@[simp] theorem okIs_eof {α : Type} (P : α → Prop) : OkIs P .eof := nofun
@[simp] theorem okIs_eformat {α : Type} (P : α → Prop) (msg : String) : OkIs P (.eformat msg) := nofun
@[simp] theorem okIs_fault {α : Type} (P : α → Prop) : OkIs P .fault := nofun
@[simp] theorem okIs_exc {α : Type} (P : α → Prop) : OkIs P .exc := nofun

theorem OkIs.mono {α : Type} {P Q : α → Prop} {r : Res α} (h : OkIs P r) (hPQ : ∀ a, P a → Q a) : OkIs Q r :=
  fun a e => hPQ a (h a e)

/-- an outcome that is never eslOK -/
theorem OkIs.of_false {α : Type} {P : α → Prop} {r : Res α} (h : OkIs (fun _ => False) r) : OkIs P r := h.mono nofun

/-- what a step may stop with when `H` held of the state it started from: never eslOK; eof, or a format error (with a
    message, given `H`); an out-of-bounds access or an exception only if `H` fails -/
def ErrGood {α : Type} (H : Prop) : Res α → Prop
  | .ok _ => False
  | .eof => True
  | .eformat msg => H → msg ≠ ""
  | .fault => ¬ H
  | .exc => ¬ H

/-- the one statement about a step function, proved by one walk over it: without any hypothesis it never stops with eslOK, and
    given `H` it goes on in a state satisfying `Inv` or stops with a documented error -/
abbrev StepSpec {σ α : Type} (H : Prop) (Inv : σ → Prop) (x : Sum σ (Res α)) : Prop := StepOk (fun s => H → Inv s) (ErrGood H) x

theorem StepOk.eformat {σ α : Type} {H : Prop} {I : σ → Prop} {msg : String} (h : msg ≠ "" := by decide) :
    StepOk I (ErrGood H) (.inr (.eformat msg) : Sum σ (Res α)) := fun _ => h
theorem StepOk.fault {σ α : Type} {H : Prop} {I : σ → Prop} (h : ¬ H) : StepOk I (ErrGood H) (.inr .fault : Sum σ (Res α)) := h
theorem StepOk.exc {σ α : Type} {H : Prop} {I : σ → Prop} (h : ¬ H) : StepOk I (ErrGood H) (.inr .exc : Sum σ (Res α)) := h

theorem ErrGood.okIs {α : Type} {H : Prop} {r : Res α} (h : ErrGood H r) : OkIs (fun _ => False) r := by
  cases r with
  | ok a => exact h.elim
  | _ => nofun

theorem ErrGood.imp {α : Type} {H H' : Prop} {r : Res α} (h : ErrGood H' r) (hH : H → H') : ErrGood H r := by
  cases r with
  | ok a => exact h
  | eof => exact h
  | _ => exact fun hh => h (hH hh)

/-- a step proved under `H'` serves wherever `H'` follows -/
theorem StepSpec.imp {σ α : Type} {H H' : Prop} {Inv : σ → Prop} {x : Sum σ (Res α)} (h : StepSpec H' Inv x) (hH : H → H') :
    StepSpec H Inv x :=
  h.mono (fun _ hs hh => hs (hH hh)) fun _ hr => hr.imp hH

/-- `runLines_inv` without an invariant: a fact about the eslOK outcomes of every step and of the end of input holds of the read -/
theorem runLines_okIs {σ α : Type} (step : σ → Bytes → Sum σ (Res α)) (finish : σ → Res α) (P : α → Prop)
    (hstep : ∀ st l, StepOk (fun _ => True) (OkIs P) (step st l)) (hfin : ∀ st, OkIs P (finish st))
    (ls : List Bytes) (st : σ) : OkIs P (runLines step finish st ls).1 :=
  runLines_inv step finish (fun _ => True) (OkIs P) (fun st l _ => hstep st l) (fun st _ => hfin st) ls st trivial

/-- what is left unread is a suffix of what was offered (readers never invent or re-read lines) -/
theorem runLines_rest_suffix {σ α : Type} (step : σ → Bytes → Sum σ (Res α)) (finish : σ → Res α) :
    ∀ (ls : List Bytes) (st : σ), (runLines step finish st ls).2 <:+ ls := by
  intro ls
  induction ls with
  | nil => intro st; simp [runLines]
  | cons l ls ih =>
    intro st
    unfold runLines
    cases step st l with
    | inl st' => exact List.IsSuffix.trans (ih st') (List.suffix_cons l ls)
    | inr r => exact List.suffix_cons l ls

/-- a reader that ends through `finish` has consumed every line -/
theorem runLines_finish_consumes {σ α : Type} (step : σ → Bytes → Sum σ (Res α)) (finish : σ → Res α)
    (P : Res α → Prop) (hP : ∀ st l r, step st l = .inr r → ¬ P r) :
    ∀ (ls : List Bytes) (st : σ), P (runLines step finish st ls).1 → (runLines step finish st ls).2 = [] := by
  intro ls
  induction ls with
  | nil => intro st _; simp [runLines]
  | cons l ls ih =>
    intro st
    unfold runLines
    cases hsl : step st l with
    | inl st' => simpa using ih st'
    | inr r => intro h; exact absurd h (hP st l r hsl)

/-! ## outcomes of an alignment reader -/

/-- the documented normal outcomes, with the well-formedness demanded of a returned alignment -/
def Good (r : Res Msa) : Prop :=
  match r with
  | .ok m => m.wellFormed = true
  | .eof => True
  | .eformat msg => msg ≠ ""
  | .fault => False
  | .exc => False

theorem Good.no_fault {r : Res Msa} (h : Good r) : r ≠ .fault ∧ r ≠ .exc :=
  ⟨fun e => by rw [e] at h; exact h, fun e => by rw [e] at h; exact h⟩

theorem Good.msg_ne {r : Res Msa} (h : Good r) {msg : String} (e : r = .eformat msg) : msg ≠ "" := by
  rw [e] at h; exact h

theorem Good.wf {r : Res Msa} (h : Good r) {m : Msa} (e : r = .ok m) : m.wellFormed = true := by
  rw [e] at h; exact h

/-- the outcome of a reader step: a new state satisfying the invariant, or a documented normal final outcome -/
abbrev StepGood {σ : Type} (Inv : σ → Prop) (x : Sum σ (Res Msa)) : Prop := StepOk Inv Good x

theorem stepGood_inl {σ : Type} (Inv : σ → Prop) (s : σ) : StepGood Inv (.inl s) = Inv s := rfl
@[simp] theorem good_eformat (msg : String) : Good (.eformat msg) = (msg ≠ "") := rfl
@[simp] theorem good_eof : Good .eof = True := rfl
@[simp] theorem good_exc : Good .exc = False := rfl
@[simp] theorem good_fault : Good .fault = False := rfl

/-- a step result that is not "stop with eslOK" -/
def NotOk {σ : Type} (x : Sum σ (Res Msa)) : Prop := ∀ m, x ≠ .inr (.ok m)

@[simp] theorem notOk_inl {σ : Type} (s : σ) : NotOk (.inl s : Sum σ (Res Msa)) := by intro m; simp
@[simp] theorem notOk_eformat {σ : Type} (msg : String) : NotOk (.inr (.eformat msg) : Sum σ (Res Msa)) := by intro m; simp
@[simp] theorem notOk_exc {σ : Type} : NotOk (.inr .exc : Sum σ (Res Msa)) := by intro m; simp
@[simp] theorem notOk_fault {σ : Type} : NotOk (.inr .fault : Sum σ (Res Msa)) := by intro m; simp
@[simp] theorem notOk_eof {σ : Type} : NotOk (.inr .eof : Sum σ (Res Msa)) := by intro m; simp

theorem ErrGood.good {H : Prop} {r : Res Msa} (h : ErrGood H r) (hH : H) : Good r := by
  cases r with
  | ok m => exact (h : False).elim
  | eof => trivial
  | eformat msg => exact h hH
  | fault => exact h hH
  | exc => exact h hH

theorem StepSpec.notOk {σ : Type} {H : Prop} {Inv : σ → Prop} {x : Sum σ (Res Msa)} (h : StepSpec H Inv x) : NotOk x := by
  cases x with
  | inl s => exact notOk_inl s
  | inr r => exact fun m e => ErrGood.okIs h m (Sum.inr.inj e)

/-- a step function that keeps its two lemmas, for a caller that has one -/
theorem StepSpec.of {σ : Type} {H : Prop} {Inv : σ → Prop} {x : Sum σ (Res Msa)} (hn : NotOk x) (hg : H → StepGood Inv x) :
    StepSpec H Inv x := by
  cases x with
  | inl s => exact hg
  | inr r =>
    cases r with
    | ok m => exact absurd rfl (hn m)
    | eof => trivial
    | _ => exact hg

theorem StepSpec.good {σ : Type} {H : Prop} {Inv : σ → Prop} {x : Sum σ (Res Msa)} (h : StepSpec H Inv x) (hH : H) : StepGood Inv x :=
  h.mono (fun _ hs => hs hH) fun _ hr => hr.good hH

/-- a reader whose steps never stop with eslOK declares success only at end of input: nothing is left unread -/
theorem runLines_ok_consumes {σ : Type} (step : σ → Bytes → Sum σ (Res Msa)) (finish : σ → Res Msa)
    (hstep : ∀ st l, NotOk (step st l)) (lines : List Bytes) (st : σ) (m : Msa)
    (h : (runLines step finish st lines).1 = .ok m) : (runLines step finish st lines).2 = [] :=
  runLines_finish_consumes step finish (fun r => ∃ m, r = .ok m)
    (fun st l _ hs ⟨m, hm⟩ => hstep st l m (hm ▸ hs)) lines st ⟨m, h⟩

/-! ## what the `*cat` helpers store -/

theorem cstr_id (b : Bytes) (h : ∀ c ∈ b, c ≠ 0) : cstr b = b := by
  unfold cstr
  exact takeWhile_all b (fun c hc => by simpa using h c hc)

theorem all_range128 {f : Nat → Bool} (h : (List.range 128).all f = true) {c : UInt8} (ha : isAscii c = true) :
    f c.toNat = true := by
  simp only [isAscii, decide_eq_true_eq] at ha
  exact List.all_eq_true.mp h c.toNat (List.mem_range.mpr (by exact ha))

/-- every symbol an input map can emit (`inmap[c] ≤ 127`, or `inmap[0]` for an illegal byte) satisfies `P` -/
def InMap.emits (m : InMap) (P : UInt8 → Bool) : Bool :=
  P (m.get 0) && (List.range 128).all fun c => let x := m.get (UInt8.ofNat c); !(x ≤ 127) || P x

theorem InMap.emits_get (m : InMap) (P : UInt8 → Bool) (h : m.emits P = true) (c : UInt8) (hc : isAscii c = true)
    (hx : m.get c ≤ 127) : P (m.get c) = true := by
  unfold InMap.emits at h
  rw [Bool.and_eq_true] at h
  have h2 := all_range128 h.2 hc
  simp only [UInt8.ofNat_toNat] at h2
  have : (decide (m.get c ≤ 127)) = true := by simpa using hx
  simpa [this] using h2

theorem InMap.emits_zero (m : InMap) (P : UInt8 → Bool) (h : m.emits P = true) : P (m.get 0) = true := by
  unfold InMap.emits at h
  rw [Bool.and_eq_true] at h
  exact h.1

theorem mapByte_emits (m : InMap) (P : UInt8 → Bool) (h : m.emits P = true) (c x : UInt8) (s : CatSt)
    (hm : mapByte m c = (s, some x)) : P x = true := by
  unfold mapByte at hm
  by_cases ha : isAscii c
  · simp only [ha, Bool.not_true, Bool.false_eq_true, if_false] at hm
    by_cases h1 : m.get c ≤ 127
    · simp only [h1, if_true, Prod.mk.injEq, Option.some.injEq] at hm
      rw [← hm.2]; exact m.emits_get P h c ha h1
    · simp only [h1, if_false] at hm
      by_cases h2 : (m.get c == dsqILLEGAL) = true
      · simp only [h2, if_true, Prod.mk.injEq, Option.some.injEq] at hm
        rw [← hm.2]; exact m.emits_zero P h
      · simp only [h2, Bool.false_eq_true, if_false] at hm
        by_cases h3 : (m.get c == dsqIGNORED) = true
        · simp [h3] at hm
        · simp [h3] at hm
  · simp only [ha, Bool.not_false, if_true, Prod.mk.injEq, Option.some.injEq] at hm
    rw [← hm.2]; exact m.emits_zero P h

theorem mapLoop_all (m : InMap) (P : UInt8 → Bool) (h : m.emits P = true) :
    ∀ (src : Bytes) (st : CatSt) (acc : Bytes), acc.all P = true → (mapLoop m src st acc).2.all P = true := by
  intro src
  induction src with
  | nil => intro st acc ha; simpa [mapLoop] using ha
  | cons c rest ih =>
    intro st acc ha
    unfold mapLoop
    cases hm : mapByte m c with
    | mk s o =>
      cases s <;> cases o <;> simp only
      · exact ih _ _ ha
      · rename_i x
        have := mapByte_emits m P h c x _ hm
        exact ih _ _ (by simp [this, ha])
      · exact ih _ _ ha
      · rename_i x
        have := mapByte_emits m P h c x _ hm
        exact ih _ _ (by simp [this, ha])
      · exact ha
      · exact ha

/-- the table holds nothing but storable symbols, ILLEGAL and IGNORED: `mapLoop` cannot raise an exception -/
def InMap.noExc (m : InMap) : Bool :=
  (List.range 128).all fun c => let x := m.get (UInt8.ofNat c); x ≤ 127 || x == dsqILLEGAL || x == dsqIGNORED

theorem mapByte_noExc (m : InMap) (h : m.noExc = true) (c : UInt8) : (mapByte m c).1 ≠ .exc := by
  unfold mapByte
  by_cases ha : isAscii c
  · simp only [ha, Bool.not_true, Bool.false_eq_true, if_false]
    have h2 := all_range128 h ha
    simp only [UInt8.ofNat_toNat, Bool.or_eq_true, decide_eq_true_eq] at h2
    by_cases h1 : m.get c ≤ 127
    · simp [h1]
    · simp only [h1, if_false]
      by_cases h3 : (m.get c == dsqILLEGAL) = true
      · simp [h3]
      · simp only [h3, Bool.false_eq_true, if_false]
        by_cases h4 : (m.get c == dsqIGNORED) = true
        · simp [h4]
        · exfalso; rcases h2 with (h2 | h2) | h2
          · exact h1 h2
          · exact h3 h2
          · exact h4 h2
  · simp [ha]

theorem mapLoop_noExc (m : InMap) (h : m.noExc = true) :
    ∀ (src : Bytes) (st : CatSt) (acc : Bytes), st ≠ .exc → (mapLoop m src st acc).1 ≠ .exc := by
  intro src
  induction src with
  | nil => intro st acc hs; simpa [mapLoop] using hs
  | cons c rest ih =>
    intro st acc hs
    unfold mapLoop
    have hb := mapByte_noExc m h c
    cases hm : mapByte m c with
    | mk s o =>
      rw [hm] at hb
      cases s <;> cases o <;> simp only
      · exact ih _ _ hs
      · exact ih _ _ hs
      · exact ih _ _ (by simp)
      · exact ih _ _ (by simp)
      · exact absurd rfl hb
      · exact absurd rfl hb

theorem strmapcat_noExc (m : InMap) (h : m.noExc = true) (dest : Option Bytes) (src : Bytes) : (strmapcat m dest src).1 ≠ .exc := by
  unfold strmapcat
  by_cases hs : src.isEmpty
  · simp [hs]
  · simp only [hs, Bool.false_eq_true, if_false]
    exact mapLoop_noExc m h src .ok [] (by simp)

theorem dsqcat_noExc (m : InMap) (h : m.noExc = true) (dsq : Option Bytes) (src : Bytes) : (dsqcat m dsq src).1 ≠ .exc := by
  unfold dsqcat
  by_cases hs : src.isEmpty
  · simp [hs]
  · simp only [hs, Bool.false_eq_true, if_false]
    exact mapLoop_noExc m h src .ok [] (by simp)

/-- no input character is ignored: every input byte appends one symbol (SELEX and Stockholm rely on it: their
    annotation lines would otherwise be misaligned) -/
def InMap.noIgnore (m : InMap) : Bool :=
  (List.range 128).all fun c => m.get (UInt8.ofNat c) != dsqIGNORED

theorem mapByte_some (m : InMap) (h : m.noIgnore = true) (c : UInt8) :
    (mapByte m c).1 = .exc ∨ ∃ x, (mapByte m c).2 = some x := by
  unfold mapByte
  by_cases ha : isAscii c
  · simp only [ha, Bool.not_true, Bool.false_eq_true, if_false]
    have h2 := all_range128 h ha
    simp only [UInt8.ofNat_toNat] at h2
    by_cases h1 : m.get c ≤ 127
    · simp [h1]
    · simp only [h1, if_false]
      by_cases h3 : (m.get c == dsqILLEGAL) = true
      · simp [h3]
      · simp only [h3, Bool.false_eq_true, if_false]
        by_cases h4 : (m.get c == dsqIGNORED) = true
        · exfalso; simp only [bne_iff_ne, ne_eq] at h2; exact h2 (by simpa using h4)
        · simp [h4]
  · simp [ha]

theorem mapLoop_length (m : InMap) (h : m.noIgnore = true) :
    ∀ (src : Bytes) (st : CatSt) (acc : Bytes), (mapLoop m src st acc).1 ≠ .exc →
      (mapLoop m src st acc).2.length = acc.length + src.length := by
  intro src
  induction src with
  | nil => intro st acc _; simp [mapLoop]
  | cons c rest ih =>
    intro st acc hne
    unfold mapLoop at hne ⊢
    have hb := mapByte_some m h c
    cases hm : mapByte m c with
    | mk s o =>
      rw [hm] at hb hne
      cases s <;> cases o <;> simp only at hne ⊢
      · simp at hb
      · rw [ih _ _ hne]; simp; omega
      · simp at hb
      · rw [ih _ _ hne]; simp; omega
      · exact absurd rfl hne
      · exact absurd rfl hne

theorem mapLoop_reverse_all (m : InMap) (P : UInt8 → Bool) (h : m.emits P = true) (src : Bytes) :
    ((mapLoop m src .ok []).2.reverse).all P = true := by
  have := mapLoop_all m P h src .ok [] (by simp)
  simpa [List.all_reverse] using this

/-- a row receives only symbols the input map emits -/
theorem strmapcat_all (m : InMap) (P : UInt8 → Bool) (h : m.emits P = true) (dest : Option Bytes) (src : Bytes)
    (hd : ∀ d, dest = some d → d.all P = true) : ∀ d', (strmapcat m dest src).2 = some d' → d'.all P = true := by
  intro d' hd'
  unfold strmapcat at hd'
  by_cases hs : src.isEmpty
  · simp only [hs, if_true] at hd'; exact hd d' hd'
  · simp only [hs, Bool.false_eq_true, if_false, Option.some.injEq] at hd'
    rw [← hd', List.all_append, mapLoop_reverse_all m P h src]
    cases dest with
    | none => rfl
    | some d => simp [hd d rfl]

/-- text rows never receive a NUL byte -/
theorem strmapcat_no_nul (m : InMap) (h : m.emits (· != 0) = true) (dest : Option Bytes) (src : Bytes)
    (hd : ∀ d, dest = some d → d.all (· != 0) = true) :
    ∀ d', (strmapcat m dest src).2 = some d' → d'.all (· != 0) = true :=
  strmapcat_all m (· != 0) h dest src hd

/-- what `Msa.wellFormed = true` says, clause by clause and by name (`Msa.WellFormed.of` takes the conjunction apart, once) -/
structure Msa.WellFormed (m : Msa) : Prop where
  nseq : 1 ≤ m.nseq
  rows : if m.digital then m.ax.length = m.nseq ∧ ∀ r ∈ m.ax, dsqRowOk m.kp m.alen r = true
         else m.aseq.length = m.nseq ∧ ∀ r ∈ m.aseq, r.length = m.alen ∧ r.contains 0 = false
  wgtLen : m.wgt.length = m.nseq
  wgt : (if m.hasw then m.wgt.all (· != Wgt.unset) else m.wgt.all (· == Wgt.dflt)) = true
  ssCons : optLenOk m.alen m.ssCons = true
  saCons : optLenOk m.alen m.saCons = true
  ppCons : optLenOk m.alen m.ppCons = true
  rf : optLenOk m.alen m.rf = true
  mm : optLenOk m.alen m.mm = true
  ss : optRowsOk m.alen m.ss = true
  sa : optRowsOk m.alen m.sa = true
  pp : optRowsOk m.alen m.pp = true
  gc : m.gc.all (fun t => t.2.length == m.alen) = true
  gr : m.gr.all (fun t => t.2.all (optLenOk m.alen)) = true

theorem Msa.WellFormed.of {m : Msa} (h : m.wellFormed = true) : m.WellFormed := by
  simp only [Msa.wellFormed, Bool.and_eq_true] at h
  -- the clauses of `Msa.wellFormed` in their order
  obtain ⟨⟨⟨⟨⟨⟨⟨⟨⟨⟨⟨⟨⟨hn, hrows⟩, hwl⟩, hw⟩, hssc⟩, hsac⟩, hppc⟩, hrf⟩, hmm⟩, hss⟩, hsa⟩, hpp⟩, hgc⟩, hgr⟩ := h
  refine { nseq := by simpa using hn, rows := ?_, wgtLen := by simpa using hwl, wgt := hw, ssCons := hssc, saCons := hsac,
           ppCons := hppc, rf := hrf, mm := hmm, ss := hss, sa := hsa, pp := hpp, gc := hgc, gr := hgr }
  cases hd : m.digital with
  | true =>
    rw [hd] at hrows
    simp only [if_true, Bool.and_eq_true, beq_iff_eq, List.all_eq_true] at hrows ⊢
    exact hrows
  | false =>
    rw [hd] at hrows
    simp only [Bool.false_eq_true, if_false, Bool.and_eq_true, beq_iff_eq, List.all_eq_true, Bool.not_eq_true'] at hrows ⊢
    exact hrows

/-- `Msa.wellFormed` from its clauses by name, each in the Boolean form of the definition (the readers' invariants deliver
    that form); `n` is the row count in the reader's own terms -/
theorem Msa.wellFormed_of_clauses {m : Msa} {n : Nat} (hn : m.nseq = n) (nseq : 1 ≤ n)
    (rows : (if m.digital then m.ax.length == n && m.ax.all (dsqRowOk m.kp m.alen)
             else m.aseq.length == n && m.aseq.all (fun r => r.length == m.alen && !r.contains 0)) = true)
    (wgtLen : (m.wgt.length == n) = true)
    (wgt : (if m.hasw then m.wgt.all (· != Wgt.unset) else m.wgt.all (· == Wgt.dflt)) = true)
    (ssCons : optLenOk m.alen m.ssCons = true) (saCons : optLenOk m.alen m.saCons = true)
    (ppCons : optLenOk m.alen m.ppCons = true) (rf : optLenOk m.alen m.rf = true) (mm : optLenOk m.alen m.mm = true)
    (ss : optRowsOk m.alen m.ss = true) (sa : optRowsOk m.alen m.sa = true) (pp : optRowsOk m.alen m.pp = true)
    (gc : m.gc.all (fun t => t.2.length == m.alen) = true)
    (gr : m.gr.all (fun t => t.2.all (optLenOk m.alen)) = true) : m.wellFormed = true := by
  subst hn
  simp only [Msa.wellFormed, Bool.and_eq_true]
  exact ⟨⟨⟨⟨⟨⟨⟨⟨⟨⟨⟨⟨⟨decide_eq_true nseq, rows⟩, wgtLen⟩, wgt⟩, ssCons⟩, saCons⟩, ppCons⟩, rf⟩, mm⟩, ss⟩, sa⟩, pp⟩, gc⟩, gr⟩

/-- the first clauses of `Msa.wellFormed`: at least one sequence, and rows of the right shape in the mode's array (what the
    `…ReadDomain` files and Sqio/MsaSeqLemmas read off a returned alignment) -/
theorem rd_wellFormed_rows (m : Msa) (h : m.wellFormed = true) :
    1 ≤ m.nseq ∧
    (if m.digital then m.ax.length = m.nseq ∧ ∀ r ∈ m.ax, dsqRowOk m.kp m.alen r = true
     else m.aseq.length = m.nseq ∧ ∀ r ∈ m.aseq, r.length = m.alen ∧ r.contains 0 = false) :=
  ⟨(Msa.WellFormed.of h).nseq, (Msa.WellFormed.of h).rows⟩

end EaselModel.Msafile
