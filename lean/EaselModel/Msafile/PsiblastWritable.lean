import EaselModel.Msafile.PsiblastRoundTrip
import EaselModel.Msafile.ClustalWritable
import EaselModel.Msafile.WritePsiblast
import EaselModel.Msafile.AbcTables
/-! Concrete, checkable conditions under which an alignment is `PsiblastWritable`: text mode, and digital mode with the
    generated amino / DNA / RNA alphabets.  The writer's conventions (consensus columns upper case, the others lower
    case, everything that is not a residue `-`, `O` as the unknown residue) are the identity on these alignments. -/
namespace EaselModel.Msafile

theorem rangeMap_eq_chunk (l : Bytes) (pos n : Nat) (f : Nat → UInt8) (hn : n = min 60 (l.length - pos))
    (hf : ∀ b, b < n → f b = l.getD (pos + b) 0) : (List.range n).map f = (l.drop pos).take 60 := by
  apply List.ext_getElem?
  intro b
  by_cases hb : b < n
  · have hb60 : b < 60 := by omega
    have hbl : pos + b < l.length := by omega
    rw [List.getElem?_take]
    simp only [List.getElem?_map, List.getElem?_range hb, Option.map_some, hb60, if_true, List.getElem?_drop, hf b hb,
      List.getD_eq_getElem?_getD, List.getElem?_eq_getElem hbl, Option.getD_some]
  · rw [List.getElem?_eq_none (by simp; omega), List.getElem?_eq_none (by simp; omega)]

theorem psiAcpl (a : Nat) : (if a > psiCpl then psiCpl else a) = min 60 a := by
  by_cases h : a > psiCpl
  · rw [if_pos h]; simp only [psiCpl] at h ⊢; omega
  · rw [if_neg h]; simp only [psiCpl] at h; omega

theorem getD_mem0 (l : Bytes) (k : Nat) (hk : k < l.length) : l.getD k 0 ∈ l := by
  rw [List.getD_eq_getElem?_getD, List.getElem?_eq_getElem hk]; simp

theorem psiblastInmap_text_get (c : UInt8) : (psiblastInmap none).get c =
    if c.toNat = 111 then dsqILLEGAL else if c.toNat = 79 then dsqILLEGAL else if c.toNat = 45 then 45
    else textBase isAlpha c := by
  simp only [psiblastInmap, InMap.get_setIfInBounds, InMap.get_textBase, Array.size_setIfInBounds, Array.size_ofFn,
    Nat.reduceLT, and_true]

/-- the text residues the writer leaves alone in a consensus column: upper-case letters except `O`, and `-` -/
def psiTextSym (t : UInt8) : Bool := (isUpper t && t != 79) || t == 45

/-- table fact: such a character is written unchanged in a consensus column (`-` in any column), the text-mode input map
    sends it to itself, it is an upper-case letter or `-` -/
def psiTextSymOk : Bool :=
  (List.range 256).all fun n =>
    let t := UInt8.ofNat n
    !(psiTextSym t) ||
      (psiTextChar t true == t && (t != 45 || psiTextChar t false == t) &&
       mapByte (psiblastInmap none) t == (CatSt.ok, some t) && (isUpper t || t == 45))

theorem psiTextSymOk_true : psiTextSymOk = true := by
  simp only [psiTextSymOk, mapByte, psiblastInmap_text_get]
  decide +kernel

theorem psi_text_sym (t : UInt8) (h : psiTextSym t = true) :
    psiTextChar t true = t ∧ (t = 45 → psiTextChar t false = t) ∧ mapByte (psiblastInmap none) t = (.ok, some t) ∧ psiUpper t := by
  have h1 := (List.all_eq_true.mp psiTextSymOk_true) t.toNat (List.mem_range.mpr t.toNat_lt)
  simp only [UInt8.ofNat_toNat, h, Bool.not_true, Bool.false_or, Bool.and_eq_true, beq_iff_eq, Bool.or_eq_true, bne_iff_ne, ne_eq] at h1
  obtain ⟨⟨⟨h1, h2⟩, h3⟩, h4⟩ := h1
  refine ⟨h1, ?_, h3, h4⟩
  intro e
  rcases h2 with h2 | h2
  · exact absurd e h2
  · exact h2

/-- a text-mode alignment on which the PSI-BLAST writer is the identity: ≥ 1 sequence, ≥ 1 column, names not empty and
    without white space or NUL, residues upper-case letters other than `O` or `-`, and every column is a consensus column
    (by `rf` when present, else by the first sequence) or holds `-` in every row -/
structure PsiblastTextWritable (m : Msa) : Prop where
  dig : m.digital = false
  n1 : 1 ≤ m.nseq
  alen1 : 1 ≤ m.alen
  name_ok : ∀ i, i < m.nseq → cluNameOk (m.names.getD i [])
  row_ok : ∀ i, i < m.nseq → (m.aseq.getD i []).length = m.alen ∧ ∀ t ∈ m.aseq.getD i [], psiTextSym t = true
  col_ok : ∀ pos, pos < m.alen → isConsensusCol none m pos = true ∨ ∀ i, i < m.nseq → aseqAt m i pos = 45

theorem psiblastTextWritable_writable (m : Msa) (h : PsiblastTextWritable m) :
    PsiblastWritable none (psiblastCfg none) id (fun i => m.aseq.getD i []) m :=
  { n1 := h.n1, alen1 := h.alen1, name_ok := h.name_ok
    txt_len := fun i hi => (h.row_ok i hi).1
    line_eq := fun i hi pos hpos => by
      have hlen := (h.row_ok i hi).1
      have hsym := (h.row_ok i hi).2
      have h0 : ∀ t ∈ ((m.aseq.getD i []).drop pos).take 60, t ≠ 0 :=
        fun t ht => (psiUpper_notSpace t (psi_text_sym t (hsym t (mem_of_drop_take ht))).2.2.2).2
      have hmap : (List.range (min 60 (m.alen - pos))).map (fun bpos => psiChar none m i (pos + bpos))
          = ((m.aseq.getD i []).drop pos).take 60 := by
        apply rangeMap_eq_chunk
        · rw [hlen]
        · intro b hb
          have hb' : pos + b < m.alen := by omega
          have hmem : (m.aseq.getD i []).getD (pos + b) 0 ∈ m.aseq.getD i [] :=
            getD_mem0 _ _ (by rw [hlen]; exact hb')
          have hs := psi_text_sym _ (hsym _ hmem)
          rw [psiChar_text_eq]
          show psiTextChar ((m.aseq.getD i []).getD (pos + b) 0) (isConsensusCol none m (pos + b)) = _
          rcases h.col_ok (pos + b) hb' with hc | hc
          · rw [hc]; exact hs.1
          · have e45 : (m.aseq.getD i []).getD (pos + b) 0 = 45 := hc i hi
            cases hcc : isConsensusCol none m (pos + b) with
            | true => exact hs.1
            | false => exact hs.2.1 e45
      unfold psiRowLine
      simp only [psiAcpl, hmap, cstr_id _ h0]
    txt_sym := fun i hi t ht => by
      have := psi_text_sym t ((h.row_ok i hi).2 t ht)
      exact ⟨by simpa [psiblastCfg] using this.2.2.1, this.2.2.2⟩
    row_enc := fun i hi => by
      simp [Msa.stored, h.dig, mkRow, psiblastCfg, Cfg.digital] }

/-- the digital character as a function of the code and the consensus flag -/
def psiDigChar (a : Abc) (x : UInt8) (cons : Bool) : UInt8 :=
  let sym := a.sym.getD x.toNat 0
  let isRes := a.xIsResidue x
  let sym := if sym == 79 then a.cUnknown else sym
  if cons then (if isRes then toUpper sym else 45) else (if isRes then toLower sym else 45)

theorem psiChar_dig_eq (a : Abc) (m : Msa) (i pos : Nat) :
    psiChar (some a) m i pos = psiDigChar a (axAt m i pos) (isConsensusCol (some a) m pos) := rfl

/-- the codes the writer and reader carry faithfully: residues (degenerate ones included) except pyrrolysine `O`, and the gap -/
def psiDigCode (a : Abc) (x : UInt8) : Bool := (a.xIsResidue x && a.sym.getD x.toNat 0 != 79) || x.toNat == a.k

def psiEnc (a : Abc) (t : UInt8) : UInt8 :=
  match mapByte (psiblastInmap (some a)) t with
  | (_, some x) => x
  | _ => 0

def psiDigSymOk (a : Abc) : Bool :=
  ((List.range a.kp).all fun n =>
    let x := UInt8.ofNat n
    let t := psiDigChar a x true
    !(psiDigCode a x) ||
      (mapByte (psiblastInmap (some a)) t == (CatSt.ok, some x) && (isUpper t || t == 45) &&
        (n != a.k || psiDigChar a x false == t)))
  && decide (a.kp ≤ 250)

/-- `esl_msafile_psiblast_SetInmap` (digital) overwrites the entries of NUL, `.`, `_`, `*`, `~`, `O`, `o` and no other -/
theorem psiblastInmap_get (a : Abc) (t : UInt8) (h : t.toNat ∉ [0, 9, 32, 42, 46, 95, 126]) (h79 : t.toNat ≠ 79) (h111 : t.toNat ≠ 111) :
    (psiblastInmap (some a)).get t = a.inmap.getD t.toNat dsqILLEGAL := by
  simp only [List.mem_cons, List.not_mem_nil, or_false, not_or] at h
  simp only [psiblastInmap, InMap.get_setIfInBounds, h, h79, h111, false_and, if_false]
  rfl

theorem psiDigSymOk_of_wf {a : Abc} (h : a.WF) : psiDigSymOk a = true := by
  rw [psiDigSymOk, Bool.and_eq_true, List.all_eq_true]
  refine ⟨fun n hn => ?_, by have := h.kp; simp; omega⟩
  have hn' := List.mem_range.mp hn
  simp only [psiDigChar, psiDigCode, h.toNat_ofNat hn', if_true, Bool.false_eq_true, if_false]
  cases hr : a.xIsResidue (UInt8.ofNat n) with
  | true =>
    by_cases h79 : a.sym.getD n 0 = 79
    · simp [h79, h.residue_ne_gap hn' hr]
    · -- a residue other than pyrrolysine: its upper-case letter, whose entry `SetInmap` leaves alone; it is not the gap `K`
      have hup := h.res n hn' hr
      obtain ⟨htu, hasc, h111, hp⟩ := upper_plain _ hup
      have hget := psiblastInmap_get a (a.sym.getD n 0) hp (fun e => h79 (UInt8.toNat_inj.mp e)) h111
      rw [h.inv n hn'] at hget
      have hm := mapByte_of_get hasc hget (h.code_le hn')
      have hk := h.residue_ne_gap hn' hr
      generalize a.sym.getD n 0 = t at *
      simp [h79, htu, hm, hup, hk]
  | false =>
    -- of the other codes only the gap `K` is carried: printed `-` in either kind of column, and `-` digitises to `K`
    by_cases hk : n = a.k
    · have hget := psiblastInmap_get a 45 (by decide) (by decide) (by decide)
      rw [show a.inmap.getD (45 : UInt8).toNat dsqILLEGAL = a.gap from h.gap] at hget
      have hm := mapByte_of_get (t := 45) rfl hget (h.code_le (by have := h.kp; omega))
      simp [hk, hm, Abc.gap]
    · simp [hk]

theorem psi_dig_sym (a : Abc) (ha : psiDigSymOk a = true) (x : UInt8) (hx : x.toNat < a.kp) (hc : psiDigCode a x = true) :
    mapByte (psiblastInmap (some a)) (psiDigChar a x true) = (.ok, some (psiEnc a (psiDigChar a x true))) ∧
    psiUpper (psiDigChar a x true) ∧ psiEnc a (psiDigChar a x true) = x ∧
    (x.toNat = a.k → psiDigChar a x false = psiDigChar a x true) := by
  unfold psiDigSymOk at ha
  simp only [Bool.and_eq_true, decide_eq_true_eq] at ha
  have h1 := (List.all_eq_true.mp ha.1) x.toNat (List.mem_range.mpr hx)
  simp only [UInt8.ofNat_toNat, hc, Bool.not_true, Bool.false_or, Bool.and_eq_true, beq_iff_eq, Bool.or_eq_true, bne_iff_ne, ne_eq] at h1
  obtain ⟨⟨hm, hu⟩, hk⟩ := h1
  have he : psiEnc a (psiDigChar a x true) = x := by unfold psiEnc; rw [hm]
  refine ⟨by rw [he]; exact hm, hu, he, ?_⟩
  intro e
  rcases hk with hk | hk
  · exact absurd e hk
  · exact hk

/-- a digital alignment (alphabet `a`) on which the PSI-BLAST writer is the identity -/
structure PsiblastDigitalWritable (a : Abc) (m : Msa) : Prop where
  dig : m.digital = true
  n1 : 1 ≤ m.nseq
  alen1 : 1 ≤ m.alen
  name_ok : ∀ i, i < m.nseq → cluNameOk (m.names.getD i [])
  row_ok : ∀ i, i < m.nseq → dsqRowOk a.kp m.alen (m.ax.getD i []) = true ∧
    ∀ x ∈ dsqCodes (some (m.ax.getD i [])), psiDigCode a x = true
  col_ok : ∀ pos, pos < m.alen → isConsensusCol (some a) m pos = true ∨ ∀ i, i < m.nseq → (axAt m i pos).toNat = a.k

def psiDigTxt (a : Abc) (m : Msa) (i : Nat) : Bytes :=
  (dsqCodes (some (m.ax.getD i []))).map fun x => psiDigChar a x true

theorem getD_map0 (l : Bytes) (f : UInt8 → UInt8) (k : Nat) (hk : k < l.length) : (l.map f).getD k 0 = f (l.getD k 0) := by
  simp [List.getD_eq_getElem?_getD, List.getElem?_eq_getElem hk]

theorem axAt_codes (m : Msa) (i pos : Nat) (codes : Bytes) (h : m.ax.getD i [] = dsqSENTINEL :: codes ++ [dsqSENTINEL])
    (hp : pos < codes.length) : axAt m i pos = codes.getD pos 0 := by
  unfold axAt
  rw [h]
  simp [List.getD_eq_getElem?_getD, List.getElem?_append_left hp]

theorem psiblastDigitalWritable_writable (a : Abc) (ha : psiDigSymOk a = true) (m : Msa) (h : PsiblastDigitalWritable a m) :
    PsiblastWritable (some a) (psiblastCfg (some a)) (psiEnc a) (psiDigTxt a m) m := by
  have hcodes := fun i (hi : i < m.nseq) => dsqRow_codes _ _ _ (h.row_ok i hi).1
  have hlt := fun i hi => (hcodes i hi).1
  have hlen : ∀ i, i < m.nseq → (psiDigTxt a m i).length = m.alen := fun i hi => by
    simp only [psiDigTxt, List.length_map]; exact (hcodes i hi).2
  have hsym : ∀ i, i < m.nseq → ∀ x ∈ dsqCodes (some (m.ax.getD i [])), _ :=
    fun i hi x hx => psi_dig_sym a ha x (hlt i hi x hx) ((h.row_ok i hi).2 x hx)
  exact
    { n1 := h.n1, alen1 := h.alen1, name_ok := h.name_ok
      txt_len := hlen
      line_eq := fun i hi pos hpos => by
        have hshape := dsqRow_shape _ _ _ (h.row_ok i hi).1
        have hcl := (hcodes i hi).2
        have h0 : ∀ t ∈ ((psiDigTxt a m i).drop pos).take 60, t ≠ 0 := by
          intro t ht
          have ht' := mem_of_drop_take ht
          simp only [psiDigTxt, List.mem_map] at ht'
          obtain ⟨x, hx, rfl⟩ := ht'
          exact (psiUpper_notSpace _ (hsym i hi x hx).2.1).2
        have hmap : (List.range (min 60 (m.alen - pos))).map (fun bpos => psiChar (some a) m i (pos + bpos))
            = ((psiDigTxt a m i).drop pos).take 60 := by
          apply rangeMap_eq_chunk
          · rw [hlen i hi]
          · intro b hb
            have hb' : pos + b < m.alen := by omega
            have hbc : pos + b < (dsqCodes (some (m.ax.getD i []))).length := by rw [hcl]; exact hb'
            have hax := axAt_codes m i (pos + b) _ hshape hbc
            have hmem : (dsqCodes (some (m.ax.getD i []))).getD (pos + b) 0 ∈ dsqCodes (some (m.ax.getD i [])) := getD_mem0 _ _ hbc
            have hs := hsym i hi _ hmem
            have htx : (psiDigTxt a m i).getD (pos + b) 0
                = psiDigChar a ((dsqCodes (some (m.ax.getD i []))).getD (pos + b) 0) true := by
              exact getD_map0 _ _ _ hbc
            rw [psiChar_dig_eq, hax, htx]
            rcases h.col_ok (pos + b) hb' with hc | hc
            · rw [hc]
            · cases hcc : isConsensusCol (some a) m (pos + b) with
              | true => rfl
              | false =>
                have := hc i hi
                rw [hax] at this
                exact hs.2.2.2 this
        unfold psiRowLine
        simp only [psiAcpl, hmap, cstr_id _ h0]
      txt_sym := fun i hi t ht => by
        simp only [psiDigTxt, List.mem_map] at ht
        obtain ⟨x, hx, rfl⟩ := ht
        have := hsym i hi x hx
        exact ⟨by simpa [psiblastCfg] using this.1, this.2.1⟩
      row_enc := fun i hi =>
        stored_enc m h.dig _ i (h.row_ok i hi).1 _ _ fun x hx => (hsym i hi x hx).2.2.1 }

end EaselModel.Msafile
