import EaselModel.Msafile.A2mInsRoundTrip
/-! Concrete, checkable conditions under which an alignment WITH insert columns is `A2mInsWritable`: text mode, and
    digital mode with the generated amino / DNA / RNA alphabets. -/
namespace EaselModel.Msafile

/-- what the writer prints for the letter `s` in an insert column -/
def a2mTextIns (s : UInt8) : UInt8 := toLower (if s == 79 || s == 111 then 88 else s)

/-- table fact: a letter in an insert column is printed as a lower-case letter other than `o`, which the text-mode A2M
    input map sends to itself -/
def a2mTextInsOk : Bool :=
  (List.range 256).all fun n =>
    let s := UInt8.ofNat n
    let c := a2mTextIns s
    !isAlpha s || (isLower c && !a2mSkip c && mapByte (a2mInmap none) c == (CatSt.ok, some c))

theorem a2mTextInsOk_true : a2mTextInsOk = true := by
  simp only [a2mTextInsOk, mapByte, a2mInmap_text_get]
  decide +kernel

theorem a2m_text_ins (s : UInt8) (hs : isAlpha s = true) :
    insChar (a2mTextIns s) ∧ mapByte (a2mInmap none) (a2mTextIns s) = (.ok, some (a2mTextIns s)) := by
  have h1 := (List.all_eq_true.mp a2mTextInsOk_true) s.toNat (List.mem_range.mpr s.toNat_lt)
  simp only [UInt8.ofNat_toNat, hs, Bool.not_true, Bool.false_or, Bool.and_eq_true, beq_iff_eq, Bool.not_eq_true'] at h1
  exact ⟨⟨h1.1.1, h1.1.2⟩, h1.2⟩

theorem a2mChar_text_ins (m : Msa) (i pos : Nat) (hc : isConsensusCol none m pos = false) :
    a2mChar none m i pos = if isAlpha (aseqAt m i pos) then some (a2mTextIns (aseqAt m i pos)) else none := by
  simp only [a2mChar, hc, Bool.false_eq_true, if_false, a2mTextIns]

/-- a text-mode alignment that A2M carries, insert columns included: ≥ 1 sequence, names / descriptions / name lines as for
    the other formats, no separate accessions, rows of `alen` symbols.  Nothing is asked of `msa->rf` or of the symbols:
    any mixture of consensus and insert columns, even none of either, even a row that prints no character at all. -/
structure A2mInsTextWritable (m : Msa) : Prop where
  dig : m.digital = false
  n1 : 1 ≤ m.nseq
  acc_none : m.sqacc = none
  name_ok : ∀ i, i < m.nseq → nameOk (m.names.getD i [])
  desc_ok : ∀ i, i < m.nseq → ∀ d, optAt m.sqdesc i = some d → descOk d
  hdr_line : ∀ i, i < m.nseq → lineOk (a2mHeader m i)
  row_len : ∀ i, i < m.nseq → (m.aseq.getD i []).length = m.alen

theorem a2mWr_ne (abc : Option Abc) (m : Msa) (i pos : Nat) (hp : pos < m.alen) (c : UInt8) (hc : a2mChar abc m i pos = some c) :
    a2mWr abc m i ≠ [] := by
  have : c ∈ a2mWr abc m i := List.mem_filterMap.mpr ⟨pos, List.mem_range.mpr hp, hc⟩
  intro h0
  rw [h0] at this
  simp at this

theorem a2mInsTextWritable_writable (m : Msa) (h : A2mInsTextWritable m) : A2mInsWritable none (a2mCfg none) id m :=
  { n1 := h.n1, acc_none := h.acc_none, name_ok := h.name_ok, desc_ok := h.desc_ok, hdr_line := h.hdr_line
    cons_char := fun i _ pos _ hc => by
      have hs := a2m_text_sym (aseqAt m i pos)
      exact ⟨_, a2mChar_text_cons m i pos hc, hs.1, by simpa [a2mCfg] using hs.2⟩
    ins_char := fun i _ pos _ hc c hch => by
      rw [a2mChar_text_ins m i pos hc] at hch
      cases ha : isAlpha (aseqAt m i pos) with
      | false => rw [ha] at hch; simp at hch
      | true =>
        rw [ha] at hch
        simp only [if_true, Option.some.injEq] at hch
        subst hch
        have hs := a2m_text_ins (aseqAt m i pos) ha
        exact ⟨hs.1, by simpa [a2mCfg] using hs.2⟩ }

/-- what the writer prints for the residue code `x` in an insert column -/
def a2mDigIns (a : Abc) (x : UInt8) : UInt8 :=
  let sym := a.sym.getD x.toNat 0
  toLower (if sym == 79 then a.cUnknown else sym)

/-- table fact about an alphabet: the character written for a residue code `x < Kp` in an insert column is a lower-case
    letter other than `o` and is read back as `a2mDigNorm x` (`x` itself; pyrrolysine as the unknown residue) -/
def a2mDigInsOk (a : Abc) : Bool :=
  (List.range a.kp).all fun n =>
    let x := UInt8.ofNat n
    let c := a2mDigIns a x
    !a.xIsResidue x || (isLower c && !a2mSkip c && mapByte (a2mInmap (some a)) c == (CatSt.ok, some (a2mDigNorm a x)))

/-- the clause of `a2mDigInsOk` for a residue printed as the lower-case form of the letter `t` (not `O`), which the alphabet takes
    as the code `v` -/
theorem a2mDigIns_lower (a : Abc) (t v : UInt8) (h : isUpper t = true) (h79 : t ≠ 79)
    (hget : a.inmap.getD (toLower t).toNat dsqILLEGAL = v) (hv : v ≤ 127) :
    (isLower (toLower t) && !a2mSkip (toLower t) && mapByte (a2mInmap (some a)) (toLower t) == (CatSt.ok, some v)) = true := by
  obtain ⟨hlo, hasc, hn79, h111, hp⟩ := lower_plain t h
  have h111' : (toLower t).toNat ≠ 111 := fun e => h79 (h111 e)
  have hm := mapByte_of_get hasc ((a2mInmap_get a _ hp hn79 h111').trans hget) hv
  have hs : a2mSkip (toLower t) = false := by
    unfold a2mSkip
    simp only [Bool.or_eq_false_iff, beq_eq_false_iff_ne]
    exact ⟨fun e => hn79 (by rw [e]; rfl), fun e => h111' (by rw [e]; rfl)⟩
  simp [hlo, hs, hm]

theorem a2mDigInsOk_of_wf {a : Abc} (h : a.WF) : a2mDigInsOk a = true := by
  rw [a2mDigInsOk, List.all_eq_true]
  intro n hn
  have hn' := List.mem_range.mp hn
  simp only [a2mDigIns, a2mDigNorm, h.toNat_ofNat hn']
  cases hr : a.xIsResidue (UInt8.ofNat n) with
  | false => rfl
  | true =>
    by_cases h79 : a.sym.getD n 0 = 79
    · -- pyrrolysine is printed, and read back, as the unknown residue
      obtain ⟨hup, hne, _⟩ := h.unknown
      simpa [h79] using a2mDigIns_lower a a.cUnknown a.unknown hup hne h.unknown_low (h.code_le (by have := h.kp; omega))
    · have := a2mDigIns_lower a _ _ (h.res n hn' hr) h79 (h.low n hn' hr) (h.code_le hn')
      generalize a.sym.getD n 0 = t at *
      simpa [h79] using this

theorem a2m_dig_ins (a : Abc) (ha : a2mDigInsOk a = true) (x : UInt8) (hx : x.toNat < a.kp) (hr : a.xIsResidue x = true) :
    insChar (a2mDigIns a x) ∧
    mapByte (a2mInmap (some a)) (a2mDigIns a x) = (.ok, some (a2mEnc a (a2mDigIns a x))) ∧
    a2mEnc a (a2mDigIns a x) = a2mDigNorm a x := by
  have h1 := (List.all_eq_true.mp ha) x.toNat (List.mem_range.mpr hx)
  simp only [UInt8.ofNat_toNat, hr, Bool.not_true, Bool.false_or, Bool.and_eq_true, beq_iff_eq, Bool.not_eq_true'] at h1
  obtain ⟨⟨hu, hs⟩, hm⟩ := h1
  have he : a2mEnc a (a2mDigIns a x) = a2mDigNorm a x := by unfold a2mEnc; rw [hm]
  exact ⟨⟨hu, hs⟩, by rw [he]; exact hm, he⟩

theorem a2mChar_dig_ins (a : Abc) (m : Msa) (i pos : Nat) (hc : isConsensusCol (some a) m pos = false) :
    a2mChar (some a) m i pos = if a.xIsResidue (axAt m i pos) then some (a2mDigIns a (axAt m i pos)) else none := by
  simp only [a2mChar, hc, Bool.false_eq_true, if_false, a2mDigIns]

/-- a digital alignment (alphabet `a`) that A2M carries, insert columns included -/
structure A2mInsDigitalWritable (a : Abc) (m : Msa) : Prop where
  dig : m.digital = true
  n1 : 1 ≤ m.nseq
  acc_none : m.sqacc = none
  name_ok : ∀ i, i < m.nseq → nameOk (m.names.getD i [])
  desc_ok : ∀ i, i < m.nseq → ∀ d, optAt m.sqdesc i = some d → descOk d
  hdr_line : ∀ i, i < m.nseq → lineOk (a2mHeader m i)
  row_ok : ∀ i, i < m.nseq → dsqRowOk a.kp m.alen (m.ax.getD i []) = true

theorem a2mInsDigitalWritable_writable (a : Abc) (ha : a2mDigSymOk a = true) (hb : a2mDigInsOk a = true) (m : Msa)
    (h : A2mInsDigitalWritable a m) : A2mInsWritable (some a) (a2mCfg (some a)) (a2mEnc a) m :=
  { n1 := h.n1, acc_none := h.acc_none, name_ok := h.name_ok, desc_ok := h.desc_ok, hdr_line := h.hdr_line
    cons_char := fun i hi pos hp hc => by
      have hx : (axAt m i pos).toNat < a.kp := dsqRowOk_code _ _ _ (h.row_ok i hi) pos hp
      have hs := a2m_dig_sym a ha (axAt m i pos) hx
      exact ⟨_, a2mChar_dig_cons a m i pos hc, hs.1, by simpa [a2mCfg] using hs.2.1⟩
    ins_char := fun i hi pos hp hc c hch => by
      have hx : (axAt m i pos).toNat < a.kp := dsqRowOk_code _ _ _ (h.row_ok i hi) pos hp
      rw [a2mChar_dig_ins a m i pos hc] at hch
      cases hr : a.xIsResidue (axAt m i pos) with
      | false => rw [hr] at hch; simp at hch
      | true =>
        rw [hr] at hch
        simp only [if_true, Option.some.injEq] at hch
        subst hch
        have hs := a2m_dig_ins a hb (axAt m i pos) hx hr
        exact ⟨hs.1, by simpa [a2mCfg] using hs.2.1⟩ }

end EaselModel.Msafile
