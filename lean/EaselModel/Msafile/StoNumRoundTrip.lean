import EaselModel.Msafile.StoNum
import EaselModel.Msafile.StoTokens
/-! Numeric round trip of Stockholm weights and cut-offs (C03).  `StoNum.lean` (C01) models `strtod` exactly (`strtodBits`:
correctly rounded, integer arithmetic) and `esl_memtof` (`strtofBits = f64ToF32 ∘ strtodBits`); `WriteFmt.lean` models
`printf("%.2f" / "%.1f")` exactly (`fmtF2`, `fmtF1`).  Here the two are composed, for EVERY finite weight / cut-off (negative,
zero, subnormal included). -/
namespace EaselModel.Msafile

theorem lowerC_digit {c : UInt8} (h : isDigit c = true) : lowerC c = c := by
  have h65 : ¬ 65 ≤ c := fun h65 => by
    unfold isDigit at h; simp only [Bool.and_eq_true, decide_eq_true_eq] at h
    exact absurd (UInt8.le_trans h65 h.2) (by decide)
  simp [lowerC, h65]

/-- **`strtod` of a fixed-point token** `[-]<ip>.<fp>` (digits, `ip` not empty): sign bit + `dec64 (digits) (-|fp|)` -/
theorem strtodBits_fixed (neg : Bool) (ip fp : Bytes) (hip : ip ≠ []) (h1 : allDig ip) (h2 : allDig fp) :
    strtodBits ((if neg then [45] else []) ++ (ip ++ 46 :: fp))
      = UInt64.ofNat ((if neg then 2 ^ 63 else 0) + dec64 (digitsVal (ip ++ fp)) (0 - Int.ofNat fp.length)) := by
  obtain ⟨d, ip', rfl⟩ := List.exists_cons_of_ne_nil hip
  have hd : isDigit d = true := h1 d (by simp)
  obtain ⟨a, b, a2, b2⟩ := fixed_scan (d :: ip') fp h1 h2
  -- what follows the sign begins with the digit `d`: not `inf`, not `nan` (and no `0x`: `digits_no_hex`)
  have hp3a : (((d :: ip' ++ 46 :: fp).take 3).map lowerC == [105, 110, 102]) = false := by simp [lowerC_digit hd, digit_ne hd 105]
  have hp3b : (((d :: ip' ++ 46 :: fp).take 3).map lowerC == [110, 97, 110]) = false := by simp [lowerC_digit hd, digit_ne hd 110]
  cases neg with
  | true =>
    simp only [if_true, List.cons_append, List.nil_append]
    unfold strtodBits
    have hdw : (45 :: (d :: ip' ++ 46 :: fp)).dropWhile isSpace = 45 :: (d :: ip' ++ 46 :: fp) := by
      rw [List.dropWhile_cons_of_neg (by decide)]
    rw [show (45 : UInt8) :: d :: (ip' ++ 46 :: fp) = 45 :: (d :: ip' ++ 46 :: fp) from rfl, hdw]
    simp only [hp3a, hp3b, Bool.false_eq_true, if_false]
    split
    · rename_i x r heq
      simp only [digits_no_hex h1 heq, Bool.false_and, Bool.false_eq_true, if_false, a, b, a2, b2, List.isEmpty_cons]
      simp [parseExp]
    · simp only [a, b, a2, b2, List.isEmpty_cons, Bool.false_and, Bool.false_eq_true, if_false]
      simp [parseExp]
  | false =>
    simp only [Bool.false_eq_true, if_false, List.nil_append]
    unfold strtodBits
    have hdw : (d :: ip' ++ 46 :: fp).dropWhile isSpace = d :: ip' ++ 46 :: fp := by simp [(digit_class hd).2]
    rw [hdw]
    simp only []
    split
    · rename_i r heq
      exact absurd (List.cons.inj heq).1 (digit_ne hd 45)
    · rename_i r heq
      exact absurd (List.cons.inj heq).1 (digit_ne hd 43)
    simp only [hp3a, hp3b, Bool.false_eq_true, if_false]
    split
    · rename_i x r heq
      simp only [digits_no_hex h1 heq, Bool.false_and, Bool.false_eq_true, if_false, a, b, a2, b2, List.isEmpty_cons]
      simp [parseExp]
    · simp only [a, b, a2, b2, List.isEmpty_cons, Bool.false_and, Bool.false_eq_true, if_false]
      simp [parseExp]

theorem toDigits_length_le (q : Nat) (h : q < 10 ^ 311) : (Nat.toDigits 10 q).length ≤ 311 := by
  have := natDec_length_le 310 q h
  unfold natDec at this
  rwa [List.length_map] at this

/-- `q · 10^-k` (1 ≤ k ≤ 327, q < 10^311): zero, or THE binary64 number nearest to `q / 10^k` (`round64`: ties to even) -/
theorem dec64_decimals (q k : Nat) (hq : q < 10 ^ 311) (hk1 : 1 ≤ k) (hk : k ≤ 327) :
    dec64 q (0 - Int.ofNat k) = if q = 0 then 0 else round64 q (10 ^ k) := by
  unfold dec64
  by_cases h0 : q = 0
  · simp [h0]
  · have h0' : (q == 0) = false := by simpa using h0
    have hd := toDigits_length_le q hq
    simp only [h0', Bool.false_eq_true, if_false, h0]
    have hx : (0 : Int) - Int.ofNat k = -(k : Int) := by simp
    rw [hx]
    generalize (Nat.toDigits 10 q).length = L at hd ⊢
    have c1 : ¬ (Int.ofNat L + -(k : Int) > 311) := by
      have : Int.ofNat L ≤ Int.ofNat 311 := Int.ofNat_le.mpr hd
      have e : Int.ofNat 311 = (311 : Int) := rfl
      omega
    have c2 : ¬ (Int.ofNat L + -(k : Int) < -327) := by
      have : (0 : Int) ≤ Int.ofNat L := Int.natCast_nonneg _
      omega
    have c3 : ¬ (-(k : Int) ≥ 0) := by omega
    simp only [c1, c2, c3, if_false]
    have : (- -(k : Int)).toNat = k := by simp
    rw [this]

theorem f64Mant_lt (b : UInt64) : f64Mant b < 2 ^ 53 := by
  unfold f64Mant
  have : b.toNat % 2 ^ 52 < 2 ^ 52 := Nat.mod_lt _ (by decide)
  split <;> omega

theorem f64Exp_le (b : UInt64) (h : finiteF64 b) : f64Exp b ≤ 971 := by
  unfold f64Exp
  unfold finiteF64 at h
  have : (b.toNat / 2 ^ 52) % 2048 < 2048 := Nat.mod_lt _ (by decide)
  split
  · omega
  · have h2 : ((b.toNat / 2 ^ 52) % 2048 : Nat) ≤ 2046 := by omega
    generalize (b.toNat / 2 ^ 52) % 2048 = X at h2 ⊢
    have : Int.ofNat X ≤ Int.ofNat 2046 := Int.ofNat_le.mpr h2
    have e : Int.ofNat 2046 = (2046 : Int) := rfl
    omega

/-- the printed integer of a value `mant · 2^e` with `mant < 2^53`, `e ≤ 971` has at most 311 digits -/
theorem fixedQ_lt (mant : Nat) (e : Int) (prec : Nat) (hm : mant < 2 ^ 53) (he : e ≤ 971) (hp : prec ≤ 2) :
    fixedQ mant e prec < 10 ^ 311 := by
  have hp10 : 10 ^ prec ≤ 100 := by
    have : 10 ^ prec ≤ 10 ^ 2 := Nat.pow_le_pow_right (by decide) hp
    simpa using this
  have hnum : mant * 10 ^ prec ≤ 2 ^ 53 * 100 := Nat.mul_le_mul (Nat.le_of_lt hm) hp10
  by_cases h0 : 0 ≤ e
  · rw [fixedQ_exact mant e prec h0]
    have h2 : 2 ^ e.toNat ≤ 2 ^ 971 := Nat.pow_le_pow_right (by decide) (by omega)
    have : mant * 10 ^ prec * 2 ^ e.toNat ≤ 2 ^ 53 * 100 * 2 ^ 971 := Nat.mul_le_mul hnum h2
    have hb : 2 ^ 53 * 100 * 2 ^ 971 < 10 ^ 311 := by decide +kernel
    omega
  · have hne : ¬ (e ≥ 0) := by omega
    unfold fixedQ
    rw [if_neg hne]
    have hdiv : mant * 10 ^ prec / 2 ^ (-e).toNat ≤ mant * 10 ^ prec := Nat.div_le_self _ _
    have hb : 2 ^ 53 * 100 + 1 < 10 ^ 311 := by decide +kernel
    split <;> omega

/-- **`strtod` of what `printf("%.*f")` prints** for `± mant · 2^e` (binary64 or narrower, one or two decimals): the sign, and the
    binary64 number nearest to the printed decimal `q / 10^prec` (zero for `q = 0`), `q = fixedQ mant e prec` -/
theorem strtodBits_fmtFixed (neg : Bool) (mant : Nat) (e : Int) (prec : Nat) (hp : prec ≠ 0) (hp2 : prec ≤ 2) (hm : mant < 2 ^ 53)
    (he : e ≤ 971) :
    strtodBits (fmtFixed neg mant e prec) = UInt64.ofNat ((if neg then 2 ^ 63 else 0) +
      (if fixedQ mant e prec = 0 then 0 else round64 (fixedQ mant e prec) (10 ^ prec))) := by
  obtain ⟨ip, fp, hfmt, h1, h2, h3, h4, h5, h6⟩ := fmtFixed_read neg mant e prec hp
  have hq : digitsVal (ip ++ fp) = fixedQ mant e prec := by
    unfold decTokUnits at h6
    rw [h5] at h6
    rw [digitsVal_append]; exact h6
  rw [hfmt, strtodBits_fixed neg ip fp h1 h2 h3, hq, h4,
    dec64_decimals _ prec (fixedQ_lt _ _ prec hm he hp2) (by omega) (by omega)]

/-- **the double the reader stores for the printed weight**: the sign bit of the weight, and the binary64 number nearest to the
    printed two-decimal value `q / 100` (zero for `q = 0`), `q = fixedQ (f64Mant b) (f64Exp b) 2` -/
theorem strtodBits_fmtF2 (b : UInt64) (h : finiteF64 b) :
    strtodBits (fmtF2 b) = UInt64.ofNat ((if f64Neg b then 2 ^ 63 else 0) +
      (if fixedQ (f64Mant b) (f64Exp b) 2 = 0 then 0 else round64 (fixedQ (f64Mant b) (f64Exp b) 2) 100)) := by
  rw [fmtF2_fixed b h]
  exact strtodBits_fmtFixed _ _ _ 2 (by decide) (Nat.le_refl _) (f64Mant_lt b) (f64Exp_le b h)

/-- **numeric round trip of a weight**: it comes back bit for bit exactly when it IS the binary64 number nearest to the
    two-decimal number it prints as (with its sign; -0.0 and +0.0 included) -/
theorem weight_value_roundtrip_iff (b : UInt64) (h : finiteF64 b) :
    strtodBits (fmtF2 b) = b ↔
      b = UInt64.ofNat ((if f64Neg b then 2 ^ 63 else 0) +
        (if fixedQ (f64Mant b) (f64Exp b) 2 = 0 then 0 else round64 (fixedQ (f64Mant b) (f64Exp b) 2) 100)) := by
  rw [strtodBits_fmtF2 b h]
  exact eq_comm

/-- 1.5, 0.1, 2.67 (the nearest double to 2.67), -0.0 come back exactly; 0.125 comes back as 0.12, 2.675 as 2.67 -/
example : strtodBits (fmtF2 0x3ff8000000000000) = 0x3ff8000000000000 := by decide +kernel
example : strtodBits (fmtF2 0x3fb999999999999a) = 0x3fb999999999999a := by decide +kernel
example : strtodBits (fmtF2 0x8000000000000000) = 0x8000000000000000 := by decide +kernel
example : strtodBits (fmtF2 0x3fc0000000000000) = 0x3fbeb851eb851eb8 ∧ fmtF2 0x3fbeb851eb851eb8 = str "0.12" := by decide +kernel
example : strtodBits (fmtF2 0x4005666666666666) = 0x40055c28f5c28f5c ∧ fmtF2 0x40055c28f5c28f5c = str "2.67" := by decide +kernel

theorem f32Mant_lt (b : UInt32) : f32Mant b < 2 ^ 53 := by
  unfold f32Mant
  have : b.toNat % 2 ^ 23 < 2 ^ 23 := Nat.mod_lt _ (by decide)
  split <;> omega

theorem f32Exp_le (b : UInt32) : f32Exp b ≤ 971 := by
  unfold f32Exp
  have : (b.toNat / 2 ^ 23) % 256 < 256 := Nat.mod_lt _ (by decide)
  split
  · omega
  · have h2 : ((b.toNat / 2 ^ 23) % 256 : Nat) ≤ 255 := by omega
    generalize (b.toNat / 2 ^ 23) % 256 = X at h2 ⊢
    have : Int.ofNat X ≤ Int.ofNat 255 := Int.ofNat_le.mpr h2
    have e : Int.ofNat 255 = (255 : Int) := rfl
    omega

/-- **the float the reader stores for the printed cut-off**: `(float)` of the binary64 number nearest to the printed one-decimal
    value `q / 10`, `q = fixedQ (f32Mant c) (f32Exp c) 1`, with the sign bit of the cut-off -/
theorem strtofBits_fmtF1 (c : UInt32) (h : finiteF32 c) :
    strtofBits (fmtF1 c) = f64ToF32 (UInt64.ofNat ((if f32Neg c then 2 ^ 63 else 0) +
      (if fixedQ (f32Mant c) (f32Exp c) 1 = 0 then 0 else round64 (fixedQ (f32Mant c) (f32Exp c) 1) 10))) := by
  unfold strtofBits
  rw [fmtF1_fixed c h]
  exact congrArg f64ToF32 (strtodBits_fmtFixed _ _ _ 1 (by decide) (by decide) (f32Mant_lt c) (f32Exp_le c))

/-- 25.0, -1.5, 0.1f (prints `0.1`) come back exactly; 0.25 comes back as 0.2f -/
example : strtofBits (fmtF1 0x41c80000) = 0x41c80000 := by decide +kernel
example : strtofBits (fmtF1 0xbfc00000) = 0xbfc00000 := by decide +kernel
example : strtofBits (fmtF1 0x3dcccccd) = 0x3dcccccd := by decide +kernel
example : strtofBits (fmtF1 0x3e800000) = 0x3e4ccccd := by decide +kernel

/-- **the value-carrying reader on the written weight line**: when the Stockholm reader accepts the line `#=GS <name> WT <tok>` that
    the writer printed for sequence `i` (state `st` → `st'`), the recorder of `stockholmReadV` (C01) appends, for the sequence the
    line spoke about, exactly `strtod` of the printed token - by `strtodBits_fmtF2` the binary64 number nearest to the printed
    two-decimal value -/
theorem numUpd_wt_line (ns : NumSt) (st st' : StoSt) (m : Msa) (i : Nat) (hl : st.lead = false)
    (hn : nameOk (m.names.getD i [])) (hf : finiteF64 ((m.wgt.getD i Wgt.unset).toBits)) :
    numUpd ns st st' (gsLine m 0 i (wtTok m i))
      = { ns with w := ns.w ++ [(st'.si - 1, strtodBits (fmtF2 ((m.wgt.getD i Wgt.unset).toBits)))] } := by
  obtain ⟨p1, p2, a, b, c, d, _⟩ := wt_line_weight_token m i hn hf
  obtain ⟨sp, _, he⟩ := gsLine_fields m 0 i (wtTok m i)
  have hdw : (gsLine m 0 i (wtTok m i)).dropWhile (fun c => c == 32 || c == 9) = gsLine m 0 i (wtTok m i) := by
    rw [he]; simp [fields, bGS]
  have hpfx : memstrpfx (gsLine m 0 i (wtTok m i)) bGS = true := by
    rw [he]; simp [fields, memstrpfx, bGS, List.isPrefixOf]
  unfold numUpd
  simp only [hl, Bool.false_eq_true, if_false, hdw, hpfx, if_true, a, b, c, d, show memstrcmp bWT bWT = true from by decide]
  rfl

/-- **the value-carrying reader on the written cut-off values**: on the value text `<tok1> <tok2>` of a written `#=GF GA|NC|TC` line the
    recorder of `stockholmReadV` stores `(float) strtod` of exactly the two printed tokens in the two slots -/
theorem numCutoffs_written (ns : NumSt) (a b : UInt32) (i1 i2 : Nat) (u : Bool) (ha : finiteF32 a) (hb : finiteF32 b) :
    numCutoffs ns (fmtF1 a ++ [32] ++ fmtF1 b) i1 i2 u
      = { ns with cut := (ns.cut.set i1 (some (strtofBits (fmtF1 a)))).set i2 (some (strtofBits (fmtF1 b))) } := by
  obtain ⟨t1, t2, _, _⟩ := cutoff_value_tokens a b ha hb
  have ra := fmtF1_realTok a ha
  unfold numCutoffs
  simp only [t1, t2, ra.notundef, Bool.and_false, Bool.false_eq_true, if_false]

/-- … a single threshold -/
theorem numCutoffs_written_one (ns : NumSt) (a : UInt32) (i1 i2 : Nat) (u : Bool) (ha : finiteF32 a) :
    numCutoffs ns (fmtF1 a) i1 i2 u = { ns with cut := ns.cut.set i1 (some (strtofBits (fmtF1 a))) } := by
  have ra := fmtF1_realTok a ha
  unfold numCutoffs
  simp only [memtok_name _ ra.name, ra.notundef, Bool.and_false, Bool.false_eq_true, if_false]
  simp [memtok, List.dropWhile]

end EaselModel.Msafile
