import EaselModel.Msafile.StockholmInv
/-! # Growth bookkeeping of the Stockholm reader, slot by slot

`stockholm_get_seqidx` meets a name that does not fit (`seqidx >= msa->sqalloc`: the 17th, 33rd, 65th … name) and calls
`esl_msa_Expand` (every per-sequence array of the MSA doubles, new half NULL / -1.0) and then
`stockholm_parsedata_ExpandSeq`, which `ESL_REALLOC`s `sqlen`, `sslen`, `salen`, `pplen` (when allocated) and every
`ogr_len[tag]` to the new `sqalloc` and zeroes the slots `z = pd->salloc .. msa->sqalloc-1` — ONLY those.

`StockholmInv.lean` proves that the growth step keeps the reader's invariant (`expandAll_inv`); that statement is about
counts (`LensRel 0 0`: the multiset of non-zero lengths does not change).  Here the same step is stated pointwise, as the
C loops are written: every slot below the old allocation keeps its value — a `#=GR` line already recorded for one of the
first 16 sequences is still recorded after the 17th name arrives — and every new slot is 0 / NULL.  No hypothesis on the
state is needed: the statements hold for every `StoSt`, reachable or not. -/
namespace EaselModel.Msafile

theorem getElem?_append_replicate_new {α : Type} (l : List α) (k : Nat) (d : α) (z : Nat) (h1 : l.length ≤ z)
    (h2 : z < l.length + k) : (l ++ List.replicate k d)[z]? = some d := by
  rw [List.getElem?_append_right h1, List.getElem?_replicate]
  have : z - l.length < k := by omega
  simp [this]

/-- what a grown array looks like: the old slots unchanged, `k` new slots holding `d` -/
def GrownBy {α : Type} (k : Nat) (d : α) (old new : List α) : Prop :=
  new.length = old.length + k ∧ (∀ z, z < old.length → new[z]? = old[z]?) ∧
    ∀ z, old.length ≤ z → z < old.length + k → new[z]? = some d

theorem grownBy_append {α : Type} (l : List α) (k : Nat) (d : α) : GrownBy k d l (l ++ List.replicate k d) :=
  ⟨by simp, fun _ h => List.getElem?_append_left h, fun z h1 h2 => getElem?_append_replicate_new l k d z h1 h2⟩

theorem GrownBy.refl {α : Type} (d : α) (l : List α) : GrownBy 0 d l l :=
  ⟨rfl, fun _ _ => rfl, fun z h1 h2 => by omega⟩

/-- `pd->sqlen`: slots `0 .. salloc-1` keep their value, slots `salloc .. sqalloc-1` are 0 -/
theorem pdExpandSeq_sqlen (st : StoSt) : GrownBy (st.sqalloc - st.salloc) 0 st.sqlen (pdExpandSeq st).sqlen :=
  grownBy_append _ _ _

/-- `pd->sslen / salen / pplen` (slot `k` of the 3-array): NULL stays NULL; an allocated one grows like `sqlen` -/
theorem pdExpandSeq_perLen (st : StoSt) (k : Nat) :
    (st.perLen[k]? = none → (pdExpandSeq st).perLen[k]? = none) ∧
    (st.perLen[k]? = some none → (pdExpandSeq st).perLen[k]? = some none) ∧
    ∀ lns, st.perLen[k]? = some (some lns) →
      ∃ lns', (pdExpandSeq st).perLen[k]? = some (some lns') ∧ GrownBy (st.sqalloc - st.salloc) 0 lns lns' := by
  have e : (pdExpandSeq st).perLen[k]? = (st.perLen[k]?).map (Option.map (· ++ List.replicate (st.sqalloc - st.salloc) 0)) := by
    show (st.perLen.map _)[k]? = _
    rw [List.getElem?_map]
  refine ⟨fun h => by rw [e, h]; rfl, fun h => by rw [e, h]; rfl, fun lns h => ?_⟩
  exact ⟨lns ++ List.replicate (st.sqalloc - st.salloc) 0, by rw [e, h]; rfl, grownBy_append _ _ _⟩

/-- `pd->ogr_len[tag]` for EVERY unparsed `#=GR` tag: slots `0 .. salloc-1` keep their value (the loop starts at
    `z = pd->salloc`, not at 0), slots `salloc .. sqalloc-1` are 0; no tag appears or disappears -/
theorem pdExpandSeq_ogrLen (st : StoSt) (t : Nat) :
    (pdExpandSeq st).ogrLen.length = st.ogrLen.length ∧
    ∀ row, st.ogrLen[t]? = some row →
      ∃ row', (pdExpandSeq st).ogrLen[t]? = some row' ∧ GrownBy (st.sqalloc - st.salloc) 0 row row' := by
  refine ⟨by show (st.ogrLen.map _).length = _; simp, fun row h => ?_⟩
  refine ⟨row ++ List.replicate (st.sqalloc - st.salloc) 0, ?_, grownBy_append _ _ _⟩
  show (st.ogrLen.map _)[t]? = _
  rw [List.getElem?_map, h]; rfl

/-- everything else `stockholm_parsedata_ExpandSeq` leaves alone: the consensus lengths, `ogc_len` (indexed by tag, not by
    sequence: "don't need to reallocate ogc_len here"), the block bookkeeping, and the whole `ESL_MSA` -/
theorem pdExpandSeq_rest (st : StoSt) :
    (pdExpandSeq st).consLen = st.consLen ∧ (pdExpandSeq st).ogcLen = st.ogcLen ∧ (pdExpandSeq st).blt = st.blt ∧
    (pdExpandSeq st).bidx = st.bidx ∧ (pdExpandSeq st).bi = st.bi ∧ (pdExpandSeq st).npb = st.npb ∧
    (pdExpandSeq st).alen = st.alen ∧ (pdExpandSeq st).alenB = st.alenB ∧ (pdExpandSeq st).nblock = st.nblock ∧
    (pdExpandSeq st).rows = st.rows ∧ (pdExpandSeq st).gr = st.gr ∧ (pdExpandSeq st).gc = st.gc ∧
    (pdExpandSeq st).names = st.names ∧ (pdExpandSeq st).salloc = st.sqalloc :=
  ⟨rfl, rfl, rfl, rfl, rfl, rfl, rfl, rfl, rfl, rfl, rfl, rfl, rfl, rfl⟩

/-- `esl_msa_Expand` doubles `aseq/ax`, `wgt` and every `gr[tag]` row: old entries unchanged, the new half NULL / -1.0;
    it does not touch the parse data -/
theorem msaExpand_rows (st : StoSt) :
    GrownBy st.sqalloc none st.rows (msaExpand st).rows ∧ GrownBy st.sqalloc Wgt.unset st.wgt (msaExpand st).wgt ∧
    (msaExpand st).sqalloc = 2 * st.sqalloc ∧ (msaExpand st).sqlen = st.sqlen ∧ (msaExpand st).perLen = st.perLen ∧
    (msaExpand st).ogrLen = st.ogrLen ∧ (msaExpand st).salloc = st.salloc :=
  ⟨grownBy_append _ _ _, grownBy_append _ _ _, rfl, rfl, rfl, rfl, rfl⟩

theorem msaExpand_gr (st : StoSt) (t : Nat) (row : List (Option Bytes)) (h : st.gr[t]? = some row) :
    ∃ row', (msaExpand st).gr[t]? = some row' ∧ GrownBy st.sqalloc none row row' := by
  refine ⟨row ++ List.replicate st.sqalloc none, ?_, grownBy_append _ _ _⟩
  show (st.gr.map _)[t]? = _
  rw [List.getElem?_map, h]; rfl

/-- The length bookkeeping across ONE `stockholm_get_seqidx` call, whatever the name and whatever the state: there is a
    growth `k` (0 when nothing was reallocated, `2*sqalloc - salloc` when the name was the first that did not fit) such
    that `sqlen`, every allocated `sslen/salen/pplen` and EVERY `ogr_len[tag]` are the old arrays with `k` zeros appended. -/
theorem getSeqIdx_keeps_lens (st st' : StoSt) (name : Bytes) (idx : Nat) (h : getSeqIdx st name = .ok (st', idx)) :
    ∃ k, GrownBy k 0 st.sqlen st'.sqlen ∧
      st'.ogrLen.length = st.ogrLen.length ∧
      (∀ (t : Nat) (row : List Nat), st.ogrLen[t]? = some row → ∃ row', st'.ogrLen[t]? = some row' ∧ GrownBy k 0 row row') ∧
      (∀ (j : Nat) (lns : List Nat), st.perLen[j]? = some (some lns) → ∃ lns', st'.perLen[j]? = some (some lns') ∧ GrownBy k 0 lns lns') ∧
      st'.consLen = st.consLen ∧ st'.ogcLen = st.ogcLen := by
  unfold getSeqIdx at h
  split at h
  · cases h
    exact ⟨0, GrownBy.refl _ _, rfl, fun t row hr => ⟨row, hr, GrownBy.refl _ _⟩, fun j lns hl => ⟨lns, hl, GrownBy.refl _ _⟩, rfl, rfl⟩
  · simp only at h
    by_cases hge : st.names.length ≥ st.sqalloc
    · simp only [hge, if_true] at h
      split at h
      · cases h
      · cases h
        refine ⟨(msaExpand st).sqalloc - (msaExpand st).salloc, pdExpandSeq_sqlen (msaExpand st),
          (pdExpandSeq_ogrLen (msaExpand st) 0).1, fun t row hr => (pdExpandSeq_ogrLen (msaExpand st) t).2 row hr,
          fun j lns hl => (pdExpandSeq_perLen (msaExpand st) j).2.2 lns hl, rfl, rfl⟩
    · simp only [hge, if_false] at h
      cases h
      exact ⟨0, GrownBy.refl _ _, rfl, fun t row hr => ⟨row, hr, GrownBy.refl _ _⟩, fun j lns hl => ⟨lns, hl, GrownBy.refl _ _⟩, rfl, rfl⟩

/-- … in particular the annotation length recorded for an earlier sequence under an unparsed `#=GR` tag survives the
    arrival of any later name: this is what lets the second block's `#=GR <seq> <tag>` line pass the
    `ogr_len[tagidx][seqidx] != pd->alen` test of `stockholm_parse_gr` -/
theorem getSeqIdx_keeps_ogr_slot (st st' : StoSt) (name : Bytes) (idx t z len : Nat) (row : List Nat)
    (h : getSeqIdx st name = .ok (st', idx)) (hr : st.ogrLen[t]? = some row) (hz : row[z]? = some len) :
    ∃ row', st'.ogrLen[t]? = some row' ∧ row'[z]? = some len := by
  obtain ⟨k, _, _, hg, _⟩ := getSeqIdx_keeps_lens st st' name idx h
  obtain ⟨row', e, g⟩ := hg t row hr
  exact ⟨row', e, by rw [g.2.1 z (lt_length_of_getElem? hz)]; exact hz⟩

end EaselModel.Msafile
