import EaselModel.Msafile.ClustalRoundTrip
import EaselModel.Msafile.Psiblast
/-! PSI-BLAST: reading what `esl_msafile_psiblast_Write` wrote gives the alignment back (C03), for alignments on which
    the writer's case/gap conventions are the identity (upper-case residues and `-` only: consensus columns and all-gap columns).
    The reader builds `msa->rf` from the case of the residues: `x` where some row holds a residue, `-` elsewhere. -/
namespace EaselModel.Msafile

theorem scanBack_last (p : Bytes) (n : Nat) (c : UInt8) (h : p[n + 1]? = some c) (hc : isSpace c = false) :
    scanBack p (n + 1) = some (n + 1) := by
  rw [scanBack, h]
  simp [hc]

theorem psiCols_line (nm ch : Bytes) (k : Nat) (hnm : nm ≠ []) (hns : ∀ c ∈ nm, isSpace c = false)
    (hch : ch ≠ []) (hcs : ∀ c ∈ ch, isSpace c = false) :
    psiCols (nm ++ List.replicate (k + 1) 32 ++ ch) = .ok ⟨0, nm.length, nm.length + (k + 1), ch.length⟩ := by
  obtain ⟨n0, nt, rfl⟩ := List.exists_cons_of_ne_nil hnm
  have hch' := hch
  obtain ⟨c0, ct, rfl⟩ := List.exists_cons_of_ne_nil hch
  have hc0 : isSpace c0 = false := hcs c0 (by simp)
  obtain ⟨h1, h2, h3⟩ := scanTo_rowLine n0 c0 nt ct k hns hc0
  have hlen : (n0 :: nt ++ List.replicate (k + 1) 32 ++ c0 :: ct).length = nt.length + 1 + (k + 1) + ct.length + 1 := by
    simp; omega
  have hlt : ¬ (nt.length + 1 + (k + 1) ≥ (n0 :: nt ++ List.replicate (k + 1) 32 ++ c0 :: ct).length) := by
    rw [hlen]; omega
  -- the last character of the line is the last residue
  have hlast : ∃ c, (n0 :: nt ++ List.replicate (k + 1) 32 ++ c0 :: ct)[nt.length + 1 + (k + 1) + ct.length]? = some c ∧ isSpace c = false := by
    have hne : (c0 :: ct) ≠ [] := hch'
    refine ⟨(c0 :: ct).getLast hne, ?_, hcs _ (List.getLast_mem hne)⟩
    rw [List.getElem?_append_right (by simp; omega)]
    have : nt.length + 1 + (k + 1) + ct.length - (n0 :: nt ++ List.replicate (k + 1) 32).length = (c0 :: ct).length - 1 := by
      simp; omega
    rw [this, ← List.getLast?_eq_getElem?, List.getLast?_eq_some_getLast hne]
  obtain ⟨cl, hcl, hcls⟩ := hlast
  have hsb : scanBack (n0 :: nt ++ List.replicate (k + 1) 32 ++ c0 :: ct) ((n0 :: nt ++ List.replicate (k + 1) 32 ++ c0 :: ct).length - 1)
      = some (nt.length + 1 + (k + 1) + ct.length) := by
    have e : nt.length + 1 + (k + 1) + ct.length = nt.length + 1 + k + ct.length + 1 := by omega
    rw [e] at hcl
    rw [hlen, Nat.add_sub_cancel, e]
    exact scanBack_last _ _ cl hcl hcls
  have hge : ¬ (nt.length + 1 + (k + 1) + ct.length < nt.length + 1 + (k + 1)) := by omega
  unfold psiCols
  simp only [h1, h2, h3, hlt, if_false, hsb, hge, List.length_cons]
  congr 2 <;> omega

/-- a written residue character when every column is a consensus column -/
def psiUpper (c : UInt8) : Prop := isUpper c = true ∨ c = 45

theorem rfLoop_upper : ∀ (seq pre blk : Bytes), blk.length = seq.length → (∀ c ∈ seq, psiUpper c) → (∀ x ∈ blk, x ≠ 46) →
    rfLoop seq (pre ++ blk) pre.length = .ok (pre ++ List.zipWith (fun x c => if c == 45 then x else 120) blk seq) := by
  intro seq
  induction seq with
  | nil =>
    intro pre blk hl _ _
    have : blk = [] := List.length_eq_zero_iff.mp (by simpa using hl)
    subst this
    simp [rfLoop]
  | cons c rest ih =>
    intro pre blk hl hc hx
    obtain ⟨x, blk', rfl⟩ := List.exists_cons_of_ne_nil (l := blk) (by intro e; rw [e] at hl; simp at hl)
    have hl' : blk'.length = rest.length := by simpa using hl
    have hc' : ∀ c ∈ rest, psiUpper c := fun c h => hc c (by simp [h])
    have hx' : ∀ x ∈ blk', x ≠ 46 := fun y h => hx y (by simp [h])
    by_cases h45 : c = 45
    · subst h45
      rw [rfLoop]
      simp only [beq_self_eq_true, if_true]
      have := ih (pre ++ [x]) blk' hl' hc' hx'
      simp only [List.length_append, List.length_singleton, List.append_assoc, List.singleton_append] at this
      rw [this]
      simp
    · have hup : isUpper c = true := by
        rcases hc c (by simp) with h | h
        · exact h
        · exact absurd h h45
      have h45' : (c == 45) = false := by simpa using h45
      have hget : (pre ++ x :: blk')[pre.length]? = some x := by simp
      have hx46 : (x == 46) = false := by simpa using hx x (by simp)
      rw [rfLoop]
      simp only [h45', Bool.false_eq_true, if_false, hup, if_true, hget, hx46]
      have hset : (pre ++ x :: blk').set pre.length 120 = (pre ++ [120]) ++ blk' := by simp
      have := ih (pre ++ [120]) blk' hl' hc' hx'
      simp only [List.length_append, List.length_singleton] at this
      rw [hset, this]
      simp [h45]

/-- column `c` of the RF line when the first `idx` rows are accounted for -/
def colX (txt : Nat → Bytes) (idx c : Nat) : UInt8 :=
  if (List.range idx).any (fun i => (txt i).getD c 45 != 45) then 120 else 45

/-- the RF line under construction: final up to `pos`, then the block of `len` columns after `idx` rows -/
def rfAt (txt : Nat → Bytes) (nseq pos len idx : Nat) : Bytes :=
  (List.range pos).map (colX txt nseq) ++ (List.range len).map (fun b => colX txt idx (pos + b))

theorem colX_ne46 (txt : Nat → Bytes) (idx c : Nat) : colX txt idx c ≠ 46 := by
  unfold colX; split <;> decide

theorem colX_zero (txt : Nat → Bytes) (c : Nat) : colX txt 0 c = 45 := by simp [colX]

theorem colX_succ (txt : Nat → Bytes) (idx c : Nat) :
    colX txt (idx + 1) c = if (txt idx).getD c 45 == 45 then colX txt idx c else 120 := by
  unfold colX
  rw [List.range_succ, List.any_append]
  simp only [List.any_cons, List.any_nil, Bool.or_false]
  generalize (List.range idx).any _ = A
  generalize (txt idx).getD c 45 = v
  by_cases hv : v = 45
  · subst hv; cases A <;> simp
  · have h1 : (v == 45) = false := by simpa using hv
    have h2 : (v != 45) = true := by simp [bne, h1]
    cases A <;> simp [h1, h2]

theorem rfAt_full (txt : Nat → Bytes) (nseq pos len : Nat) :
    rfAt txt nseq pos len nseq = (List.range (pos + len)).map (colX txt nseq) := by
  unfold rfAt
  rw [List.range_add, List.map_append, List.map_map]
  rfl

theorem rfLoop_row (txt : Nat → Bytes) (nseq pos idx : Nat) (hu : ∀ c ∈ txt idx, psiUpper c) :
    rfLoop (((txt idx).drop pos).take 60) (rfAt txt nseq pos (((txt idx).drop pos).take 60).length idx) pos
      = .ok (rfAt txt nseq pos (((txt idx).drop pos).take 60).length (idx + 1)) := by
  have h := rfLoop_upper (((txt idx).drop pos).take 60) ((List.range pos).map (colX txt nseq))
    ((List.range (((txt idx).drop pos).take 60).length).map (fun b => colX txt idx (pos + b))) (by simp)
    (fun c hc => hu c (mem_of_drop_take hc))
    (fun x hx => by
      obtain ⟨b, _, rfl⟩ := List.mem_map.mp hx
      exact colX_ne46 txt idx _)
  rw [show ((List.range pos).map (colX txt nseq)).length = pos by simp] at h
  unfold rfAt
  rw [h]
  congr 2
  apply List.ext_getElem?
  intro b
  by_cases hb : b < (((txt idx).drop pos).take 60).length
  · have hb60 : b < 60 := Nat.lt_of_lt_of_le hb (List.length_take_le _ _)
    have hq : (((txt idx).drop pos).take 60)[b]? = (txt idx)[pos + b]? := by
      rw [List.getElem?_take]; simp [hb60, List.getElem?_drop]
    have hg : (txt idx).getD (pos + b) 45 = (((txt idx).drop pos).take 60)[b] := by
      rw [List.getD_eq_getElem?_getD, ← hq, List.getElem?_eq_getElem hb]; rfl
    simp only [List.getElem?_zipWith, List.getElem?_map, List.getElem?_range hb, List.getElem?_eq_getElem hb, Option.map_some,
      Option.some.injEq]
    rw [colX_succ, hg]
  · rw [List.getElem?_eq_none (by simp only [List.length_zipWith, List.length_map, List.length_range]; omega),
      List.getElem?_eq_none (by simp only [List.length_map, List.length_range]; omega)]

/-- `A … Z` and `-` are no white space and not NUL -/
theorem psiUpper_notSpace (c : UInt8) (h : psiUpper c) : isSpace c = false ∧ c ≠ 0 := by
  simp only [psiUpper, isUpper, Bool.and_eq_true, decide_eq_true_eq, UInt8.le_iff_toNat_le, ← UInt8.toNat_inj] at h
  simp only [isSpace, UInt8.le_iff_toNat_le, ← UInt8.toNat_inj, ne_eq, Bool.or_eq_false_iff, Bool.and_eq_false_iff,
    beq_eq_false_iff_ne, decide_eq_false_iff_not]
  simp at h ⊢
  omega

/-- the RF line the reader builds: `x` in the columns where some row holds a residue, `-` elsewhere -/
def psiRf (txt : Nat → Bytes) (m : Msa) : Bytes := (List.range m.alen).map (colX txt m.nseq)

/-- everything PSI-BLAST represents of `m`: names, aligned rows, default weights; the read-back alignment carries the RF
    line `rf` derived from the residues -/
def psiblastProject (cfg : Cfg) (rf : Bytes) (m : Msa) : Msa :=
  { digital := cfg.digital, kp := cfg.kp, alen := m.alen, names := m.names,
    aseq := if cfg.digital then [] else (List.range m.nseq).map m.stored,
    ax := if cfg.digital then (List.range m.nseq).map m.stored else [],
    hasw := false, wgt := List.replicate m.nseq Wgt.dflt, rf := some rf }

/-- an alignment that PSI-BLAST carries and `esl_msafile_psiblast_Write` + `esl_msafile_psiblast_Read` preserve: the
    text `txt i` the writer prints for row `i` consists of upper-case letters and `-` (consensus columns and all-gap columns,
    every residue a letter), and is read back (`enc`) to the stored row -/
structure PsiblastWritable (abc : Option Abc) (cfg : Cfg) (enc : UInt8 → UInt8) (txt : Nat → Bytes) (m : Msa) : Prop where
  n1 : 1 ≤ m.nseq
  alen1 : 1 ≤ m.alen
  name_ok : ∀ i, i < m.nseq → cluNameOk (m.names.getD i [])
  txt_len : ∀ i, i < m.nseq → (txt i).length = m.alen
  line_eq : ∀ i, i < m.nseq → ∀ pos, pos < m.alen →
    psiRowLine abc m (maxWidth m.names) pos i
      = padRight ((maxWidth m.names : Nat) : Int) (m.names.getD i []) ++ [32, 32] ++ ((txt i).drop pos).take 60
  txt_sym : ∀ i, i < m.nseq → ∀ t ∈ txt i, mapByte cfg.inmap t = (.ok, some (enc t)) ∧ psiUpper t
  row_enc : ∀ i, i < m.nseq → m.stored i = mkRow cfg.digital ((txt i).map enc)

theorem psiRowLine_shape (abc : Option Abc) (cfg : Cfg) (enc : UInt8 → UInt8) (txt : Nat → Bytes) (m : Msa)
    (h : PsiblastWritable abc cfg enc txt m) (i : Nat) (hi : i < m.nseq) (pos : Nat) (hpos : pos < m.alen) :
    psiRowLine abc m (maxWidth m.names) pos i
      = m.names.getD i [] ++ List.replicate (maxWidth m.names - (m.names.getD i []).length + 1 + 1) 32 ++ ((txt i).drop pos).take 60 := by
  rw [h.line_eq i hi pos hpos]
  simp [padRight, List.replicate_succ']

/-- in front of row `i` of the block starting at `pos`: the block reader's fields, and the RF line final up to `pos` and, once a row of the
    block is read, built from the first `i` rows behind it -/
structure PsiRt (cfg : Cfg) (enc : UInt8 → UInt8) (txt : Nat → Bytes) (m : Msa) (pos i : Nat) (st : BlkSt) : Prop
    extends BlkRt cfg enc txt m false (maxWidth m.names + 2) pos i st where
  rfp : st.rf.take pos = (List.range pos).map (colX txt m.nseq)
  rfb : i ≠ 0 → st.rf = rfAt txt m.nseq pos (blockLen m pos) i

theorem psiSeqLine_line (cfg : Cfg) (st : BlkSt) (nm ch : Bytes) (k : Nat) (rf1 : Bytes) (hnm : nm ≠ []) (hns : ∀ c ∈ nm, isSpace c = false)
    (hch : ch ≠ []) (hcs : ∀ c ∈ ch, isSpace c = false)
    (hb : st.idx ≠ 0 → st.bss = nm.length + (k + 1) ∧ st.bsl = ch.length)
    (hrf : rfLoop ch (if st.idx == 0 then st.rf.take st.alen ++ List.replicate ch.length 45 else st.rf) st.alen = .ok rf1) :
    psiSeqLine cfg st (nm ++ List.replicate (k + 1) 32 ++ ch)
      = blkStore cfg false { st with bss := nm.length + (k + 1), bsl := ch.length, phase := .inblock, rf := rf1 } nm ch := by
  unfold psiSeqLine
  rw [psiCols_line nm ch k hnm hns hch hcs]
  simp only [rowLine_slices, hrf]
  by_cases h0 : st.idx = 0
  · simp [setBlock, h0]
  · obtain ⟨h1, h2⟩ := hb h0
    have e0 : (st.idx == 0) = false := by simpa using h0
    simp only [setBlock, e0, Bool.false_eq_true, if_false, h1, h2, bne_self_eq_false, Bool.and_false]

theorem psiSeqLine_row (abc : Option Abc) (cfg : Cfg) (enc : UInt8 → UInt8) (txt : Nat → Bytes) (m : Msa)
    (h : PsiblastWritable abc cfg enc txt m) (pos : Nat) (hpos : pos < m.alen) (i : Nat) (hi : i < m.nseq)
    (st : BlkSt) (hst : PsiRt cfg enc txt m pos i st) :
    ∃ st', psiSeqLine cfg st (psiRowLine abc m (maxWidth m.names) pos i) = .inl st' ∧ st'.phase = .inblock ∧
      PsiRt cfg enc txt m pos (i + 1) st' := by
  have hnm := h.name_ok i hi
  have hlenT := h.txt_len i hi
  have hw : (m.names.getD i []).length ≤ maxWidth m.names := maxWidth_ge m.names i hi
  have hchlen : (((txt i).drop pos).take 60).length = blockLen m pos := by
    simp [blockLen, hlenT]; omega
  have hss : (m.names.getD i []).length + (maxWidth m.names - (m.names.getD i []).length + 1 + 1) = maxWidth m.names + 2 := by omega
  have hrf0 : (if st.idx == 0 then st.rf.take st.alen ++ List.replicate (((txt i).drop pos).take 60).length 45 else st.rf)
      = rfAt txt m.nseq pos (((txt i).drop pos).take 60).length i := by
    by_cases h0 : i = 0
    · subst h0
      have : (st.idx == 0) = true := by rw [hst.idx]; rfl
      rw [this, hst.alen, hst.rfp]
      simp only [if_true, rfAt]
      rw [rangeMap_const _ (fun b => colX txt 0 (pos + b)) 45 (fun j => colX_zero txt _)]
    · have : (st.idx == 0) = false := by rw [hst.idx]; simpa using h0
      rw [this, hchlen]
      simp only [Bool.false_eq_true, if_false]
      exact hst.rfb h0
  have hrf : rfLoop (((txt i).drop pos).take 60)
      (if st.idx == 0 then st.rf.take st.alen ++ List.replicate (((txt i).drop pos).take 60).length 45 else st.rf) st.alen
      = .ok (rfAt txt m.nseq pos (((txt i).drop pos).take 60).length (i + 1)) := by
    rw [hrf0, hst.alen]
    exact rfLoop_row txt m.nseq pos i (fun c hc => (h.txt_sym i hi c hc).2)
  have hline := psiSeqLine_line cfg st (m.names.getD i []) (((txt i).drop pos).take 60)
    (maxWidth m.names - (m.names.getD i []).length + 1) _ hnm.1 (fun c hc => (hnm.2 c hc).1)
    (buf_ne_nil _ _ (by rw [hlenT]; exact hpos))
    (fun c hc => (psiUpper_notSpace c (h.txt_sym i hi c (mem_of_drop_take hc)).2).1)
    (fun h0 => by rw [hss, hchlen]; exact hst.blk (by rw [← hst.idx]; exact h0))
    hrf
  rw [hss, hchlen] at hline
  obtain ⟨st', hstore, hph, hrf', hst'⟩ := blkStore_row cfg enc txt m false _ pos i hi hpos hlenT (fun t ht => (h.txt_sym i hi t ht).1)
    (cstr_id _ (fun c hc => (hnm.2 c hc).2)) st hst.toBlkRt .inblock (rfAt txt m.nseq pos (blockLen m pos) (i + 1))
  exact ⟨st', by rw [psiRowLine_shape abc cfg enc txt m h i hi pos hpos, hline]; exact hstore, hph,
    { toBlkRt := hst', rfp := by rw [hrf', rfAt, List.take_left' (by simp)], rfb := fun _ => hrf' }⟩

theorem psiRowLine_notBlank (abc : Option Abc) (cfg : Cfg) (enc : UInt8 → UInt8) (txt : Nat → Bytes) (m : Msa)
    (h : PsiblastWritable abc cfg enc txt m) (i : Nat) (hi : i < m.nseq) (pos : Nat) (hpos : pos < m.alen) :
    isBlankLine (psiRowLine abc m (maxWidth m.names) pos i) = false := by
  rw [psiRowLine_shape abc cfg enc txt m h i hi pos hpos, List.append_assoc]
  exact nameLine_notBlank _ _ (h.name_ok i hi)

theorem psiStep_inblock_row (cfg : Cfg) (st : BlkSt) (l : Bytes) (hp : st.phase = .inblock) (hl : isBlankLine l = false) :
    psiStep cfg st l = psiSeqLine cfg st l := by
  unfold psiStep
  rw [hp]
  simp only [hl, Bool.false_eq_true, if_false]

theorem psiRowLine_ok (abc : Option Abc) (cfg : Cfg) (enc : UInt8 → UInt8) (txt : Nat → Bytes) (m : Msa)
    (h : PsiblastWritable abc cfg enc txt m) (i : Nat) (hi : i < m.nseq) (pos : Nat) (hpos : pos < m.alen) :
    lineOk (psiRowLine abc m (maxWidth m.names) pos i) := by
  rw [psiRowLine_shape abc cfg enc txt m h i hi pos hpos]
  exact rowLine_ok _ _ _ (h.name_ok i hi) fun c hc => (psiUpper_notSpace c (h.txt_sym i hi c (mem_of_drop_take hc)).2).1

/-- the rows of the block at `pos`, from any state in `pre` that reads the first row as `next` of it does -/
theorem psiRows_reads (abc : Option Abc) (cfg : Cfg) (enc : UInt8 → UInt8) (txt : Nat → Bytes) (m : Msa)
    (h : PsiblastWritable abc cfg enc txt m) (pos : Nat) (hpos : pos < m.alen) (pre : BlkSt → Prop) (next : BlkSt → BlkSt)
    (hpre : ∀ s, pre s → PsiRt cfg enc txt m pos 0 (next s) ∧
      psiStep cfg s (psiRowLine abc m (maxWidth m.names) pos 0) = psiSeqLine cfg (next s) (psiRowLine abc m (maxWidth m.names) pos 0)) :
    Reads (psiStep cfg) pre ((List.range m.nseq).map (psiRowLine abc m (maxWidth m.names) pos))
      (fun s => s.phase = .inblock ∧ PsiRt cfg enc txt m pos m.nseq s) :=
  Reads.rowsFrom (R := fun i s => s.phase = .inblock ∧ PsiRt cfg enc txt m pos i s) h.n1
    (Reads.one (psiRowLine_ok abc cfg enc txt m h 0 h.n1 pos hpos) fun s hs => by
      rw [(hpre s hs).2]
      exact psiSeqLine_row abc cfg enc txt m h pos hpos 0 h.n1 (next s) (hpre s hs).1)
    fun i _ hi => Reads.one (psiRowLine_ok abc cfg enc txt m h i hi pos hpos) fun s hs => by
      rw [psiStep_inblock_row cfg s _ hs.1 (psiRowLine_notBlank abc cfg enc txt m h i hi pos hpos)]
      exact psiSeqLine_row abc cfg enc txt m h pos hpos i hi s hs.2

/-- the state after "End of one block" -/
structure PsiEnd (cfg : Cfg) (enc : UInt8 → UInt8) (txt : Nat → Bytes) (m : Msa) (pos : Nat) (st : BlkSt) : Prop
    extends BlkEnd cfg enc txt m pos st where
  phase : st.phase = .between
  rf : st.rf = rfAt txt m.nseq pos (blockLen m pos) m.nseq

theorem psiEndBlock_after (cfg : Cfg) (enc : UInt8 → UInt8) (txt : Nat → Bytes) (m : Msa) (pos : Nat) (hn1 : 1 ≤ m.nseq)
    (st : BlkSt) (hst : PsiRt cfg enc txt m pos m.nseq st) :
    ∃ st', psiEndBlock st = .inl st' ∧ PsiEnd cfg enc txt m pos st' := by
  -- the first block fixes the number of sequences, the later ones are compared with it
  have hn : (st.nblocks != 0 && st.idx != st.nseq) = false ∧ (if st.nblocks == 0 then st.idx else st.nseq) = m.nseq := by
    by_cases hp : pos = 0
    · have : (st.nblocks == 0) = true := by rw [hst.nb]; simp [hp]
      simp [bne, this, hst.idx]
    · have : (st.nblocks == 0) = false := by rw [hst.nb]; simp [hp]
      simp [this, hst.idx, hst.nseq, hp]
  exact ⟨_, by unfold psiEndBlock; simp only [hn.1, Bool.false_eq_true, if_false],
    { toBlkEnd := hst.toBlkRt.close hn1 _ hn.2 .between, phase := rfl, rf := hst.rfb (by omega) }⟩

theorem psiStep_inblock_blank (cfg : Cfg) (st : BlkSt) (hp : st.phase = .inblock) : psiStep cfg st [] = psiEndBlock st := by
  unfold psiStep
  rw [hp]
  simp [isBlankLine]

theorem psiStep_between_row (cfg : Cfg) (st : BlkSt) (l : Bytes) (hp : st.phase = .between) (hl : isBlankLine l = false) :
    psiStep cfg st l = psiSeqLine cfg { st with idx := 0 } l := by
  unfold psiStep
  rw [hp]
  simp only [hl, Bool.false_eq_true, if_false]

theorem psiRt_next (cfg : Cfg) (enc : UInt8 → UInt8) (txt : Nat → Bytes) (m : Msa) (pos : Nat)
    (hnext : pos + 60 < m.alen) (st : BlkSt) (hst : PsiEnd cfg enc txt m pos st) :
    PsiRt cfg enc txt m (pos + 60) 0 { st with idx := 0 } :=
  { toBlkRt := hst.toBlkEnd.next hnext _ _
    rfp := by
      have hbl : blockLen m pos = 60 := by have := blockLen_full m pos (by omega); omega
      show st.rf.take (pos + 60) = _
      rw [hst.rf, rfAt_full, hbl, List.take_of_length_le (by simp)]
    rfb := fun h0 => absurd rfl h0 }

/-- the block at `pos`: its rows and, when another block follows, the blank line that ends it -/
theorem psiBlock_reads (abc : Option Abc) (cfg : Cfg) (enc : UInt8 → UInt8) (txt : Nat → Bytes) (m : Msa)
    (h : PsiblastWritable abc cfg enc txt m) (pos : Nat) (hpos : pos < m.alen) (pre : BlkSt → Prop) (next : BlkSt → BlkSt)
    (hpre : ∀ s, pre s → PsiRt cfg enc txt m pos 0 (next s) ∧
      psiStep cfg s (psiRowLine abc m (maxWidth m.names) pos 0) = psiSeqLine cfg (next s) (psiRowLine abc m (maxWidth m.names) pos 0)) :
    Reads (psiStep cfg) pre (psiBlockLines abc m (maxWidth m.names) pos)
      (fun s => if pos + 60 < m.alen then PsiEnd cfg enc txt m pos s else s.phase = .inblock ∧ PsiRt cfg enc txt m pos m.nseq s) := by
  refine (psiRows_reads abc cfg enc txt m h pos hpos pre next hpre).append ?_
  rw [show psiCpl = 60 from rfl]
  by_cases hlt : pos + 60 < m.alen
  · simp only [if_pos hlt]
    exact Reads.one ⟨by simp, by simp⟩ fun s hs => by
      rw [psiStep_inblock_blank cfg s hs.1]
      exact psiEndBlock_after cfg enc txt m pos h.n1 s hs.2
  · simp only [if_neg hlt]
    exact Reads.nil

theorem psiFinish_after (cfg : Cfg) (enc : UInt8 → UInt8) (txt : Nat → Bytes) (m : Msa)
    (hn1 : 1 ≤ m.nseq) (hlenT : ∀ i, i < m.nseq → (txt i).length = m.alen)
    (hrow : ∀ i, i < m.nseq → m.stored i = mkRow cfg.digital ((txt i).map enc))
    (pos : Nat) (hp : pos < m.alen) (hlast : m.alen ≤ pos + 60)
    (st : BlkSt) (hph : st.phase = .inblock) (hst : PsiRt cfg enc txt m pos m.nseq st) :
    psiFinish cfg st = .ok (psiblastProject cfg (psiRf txt m) m) := by
  obtain ⟨st', hs', he⟩ := psiEndBlock_after cfg enc txt m pos hn1 st hst
  have hrf : st'.rf = psiRf txt m := by
    rw [he.rf, rfAt_full, blockLen_last m pos hp hlast]; rfl
  unfold psiFinish
  rw [hph]
  simp only [hs']
  rw [he.toBlkEnd.result hlenT hrow hp hlast, hrf]
  rfl

theorem psiRt_init (cfg : Cfg) (enc : UInt8 → UInt8) (txt : Nat → Bytes) (m : Msa) :
    PsiRt cfg enc txt m 0 0 { ({} : BlkSt) with idx := 0 } :=
  { toBlkRt := BlkRt.init cfg enc txt m false _ .lead, rfp := rfl, rfb := fun h0 => absurd rfl h0 }

theorem psiStep_lead_row (cfg : Cfg) (l : Bytes) (hl : isBlankLine l = false) :
    psiStep cfg {} l = psiSeqLine cfg { ({} : BlkSt) with idx := 0 } l := by
  unfold psiStep
  simp only [hl, Bool.false_eq_true, if_false]

theorem psiblastLines_reads (abc : Option Abc) (cfg : Cfg) (enc : UInt8 → UInt8) (txt : Nat → Bytes) (m : Msa)
    (h : PsiblastWritable abc cfg enc txt m) :
    Reads (psiStep cfg) (· = {}) (psiblastLines abc m)
      (fun s => ∃ pos, (s.phase = .inblock ∧ PsiRt cfg enc txt m pos m.nseq s) ∧ pos < m.alen ∧ m.alen ≤ pos + 60) :=
  (Reads.blocks (P := (· = {})) (by decide) h.alen1
    (I := fun pos s => if pos + 60 < m.alen then PsiEnd cfg enc txt m pos s else s.phase = .inblock ∧ PsiRt cfg enc txt m pos m.nseq s)
    (psiBlock_reads abc cfg enc txt m h 0 h.alen1 _ (fun s => { s with idx := 0 }) fun s hs => hs ▸
      ⟨psiRt_init cfg enc txt m, psiStep_lead_row cfg _ (psiRowLine_notBlank abc cfg enc txt m h 0 h.n1 0 h.alen1)⟩)
    fun pos hlt => psiBlock_reads abc cfg enc txt m h (pos + 60) hlt _ (fun s => { s with idx := 0 }) fun s hs =>
      have hs := (if_pos hlt).mp hs
      ⟨psiRt_next cfg enc txt m pos hlt s hs,
        psiStep_between_row cfg s _ hs.phase (psiRowLine_notBlank abc cfg enc txt m h 0 h.n1 (pos + 60) hlt)⟩).mono
    (fun _ hs => hs) fun _ ⟨pos, hs, hlt, hlast⟩ => ⟨pos, (if_neg (by omega)).mp hs, hlt, hlast⟩

/-- **PSI-BLAST round trip on lines** -/
theorem psiblastRead_writeLines (abc : Option Abc) (cfg : Cfg) (enc : UInt8 → UInt8) (txt : Nat → Bytes) (m : Msa)
    (h : PsiblastWritable abc cfg enc txt m) :
    psiblastRead cfg (psiblastLines abc m) = (.ok (psiblastProject cfg (psiRf txt m) m), []) :=
  (psiblastLines_reads abc cfg enc txt m h).readLines fun s ⟨pos, ⟨hp, hst⟩, hlt, hlast⟩ =>
    psiFinish_after cfg enc txt m h.n1 h.txt_len h.row_enc pos hlt hlast s hp hst

/-- **PSI-BLAST round trip on bytes** -/
theorem psiblastRead_write (abc : Option Abc) (cfg : Cfg) (enc : UInt8 → UInt8) (txt : Nat → Bytes) (m : Msa)
    (h : PsiblastWritable abc cfg enc txt m) :
    psiblastRead cfg (splitLines (psiblastWrite abc m)) = (.ok (psiblastProject cfg (psiRf txt m) m), []) :=
  (psiblastLines_reads abc cfg enc txt m h).read fun s ⟨pos, ⟨hp, hst⟩, hlt, hlast⟩ =>
    psiFinish_after cfg enc txt m h.n1 h.txt_len h.row_enc pos hlt hlast s hp hst

end EaselModel.Msafile
