import EaselModel.Msafile.Write
import EaselModel.Msafile.StrLit
/-! # Shape facts about the writer models (C03)

Cheap structural theorems: how many alignment blocks are written, what the outputs start and end with, field widths.
The byte-exact agreement of the models with the C writers is established by the differential run, not here. -/
namespace EaselModel.Msafile

theorem padRight_length (w : Int) (s : Bytes) : (padRight w s).length = max s.length w.natAbs := by
  unfold padRight
  simp only [List.length_append, List.length_replicate]
  omega

/-- a name longer than the field is written in full -/
theorem padRight_prefix (w : Int) (s : Bytes) : s <+: padRight w s := by
  unfold padRight; exact List.prefix_append _ _

theorem padRight_of_le (w : Int) (s : Bytes) (h : w.natAbs ≤ s.length) : padRight w s = s := by
  unfold padRight
  have : w.natAbs - s.length = 0 := by omega
  simp [this]

theorem padTrunc_length (w : Nat) (s : Bytes) : (padTrunc w s).length = w := by
  unfold padTrunc
  rw [padRight_length]
  simp only [List.length_take, Int.natAbs_natCast]
  omega

theorem padTrunc_take (w : Nat) (s : Bytes) : (padTrunc w s).take (min w s.length) = s.take w := by
  unfold padTrunc padRight
  have h : (s.take w).length = min w s.length := by simp
  rw [← h, List.take_left']
  rfl

theorem joinLF_append (a b : List Bytes) : joinLF (a ++ b) = joinLF a ++ joinLF b := by
  simp [joinLF]

theorem joinLF_singleton (l : Bytes) : joinLF [l] = l ++ [10] := by simp [joinLF]

theorem joinLF_cons (l : Bytes) (ls : List Bytes) : joinLF (l :: ls) = l ++ 10 :: joinLF ls := by simp [joinLF]

/-- a non-empty list of lines joined with LF ends with LF -/
theorem joinLF_getLast (ls : List Bytes) (h : ls ≠ []) : (joinLF ls).getLast? = some 10 := by
  induction ls with
  | nil => exact absurd rfl h
  | cons l ls ih =>
    rw [joinLF_cons]
    by_cases hl : ls = []
    · subst hl; simp [joinLF]
    · have := ih hl
      rw [List.getLast?_append, List.getLast?_cons_cons_or_singleton_aux this]
      simp
where
  List.getLast?_cons_cons_or_singleton_aux {x : UInt8} {t : Bytes} (ht : t.getLast? = some 10) :
      (x :: t).getLast? = some 10 := by
    cases t with
    | nil => simp at ht
    | cons y t => simpa [List.getLast?_cons_cons] using ht

theorem blockStartsFrom_length (alen cpl pos : Nat) (hc : 0 < cpl) :
    (blockStartsFrom alen cpl pos).length = (alen - pos + cpl - 1) / cpl := by
  fun_induction blockStartsFrom alen cpl pos with
  | case1 pos h ih =>
    simp only [List.length_cons, ih]
    have h1 : alen - pos + cpl - 1 = (alen - pos - 1) + cpl := by omega
    rw [h1, Nat.add_div_right _ hc]
    by_cases h2 : pos + cpl ≤ alen
    · have : alen - (pos + cpl) + cpl - 1 = alen - pos - 1 := by omega
      rw [this]
    · have h3 : alen - (pos + cpl) + cpl - 1 = cpl - 1 := by omega
      rw [h3, Nat.div_eq_of_lt (by omega), Nat.div_eq_of_lt (by omega)]
  | case2 pos h =>
    have : alen - pos + cpl - 1 < cpl := by omega
    simp [Nat.div_eq_of_lt this]

theorem blockStarts_length (alen cpl : Nat) (hc : 0 < cpl) : (blockStarts alen cpl).length = (alen + cpl - 1) / cpl := by
  unfold blockStarts
  rw [blockStartsFrom_length alen cpl 0 hc]
  simp

theorem blockStartsFrom_lt (alen cpl pos : Nat) : ∀ p ∈ blockStartsFrom alen cpl pos, pos ≤ p ∧ p < alen := by
  fun_induction blockStartsFrom alen cpl pos with
  | case1 pos h ih =>
    intro p hp
    simp only [List.mem_cons] at hp
    rcases hp with rfl | hp
    · exact ⟨Nat.le_refl _, h.1⟩
    · have := ih p hp; omega
  | case2 pos h => intro p hp; simp at hp

theorem blockStarts_lt (alen cpl : Nat) : ∀ p ∈ blockStarts alen cpl, p < alen :=
  fun p hp => (blockStartsFrom_lt alen cpl 0 p hp).2

theorem blockStarts_zero (cpl : Nat) : blockStarts 0 cpl = [] := by
  unfold blockStarts blockStartsFrom; simp

/-- the Stockholm/Pfam output is a sequence of LF-terminated lines followed by the terminator line `//` -/
theorem stockholmWrite_eq (pfam : Bool) (abc : Option Abc) (m : Msa) :
    stockholmWrite pfam abc m = joinLF (stockholmBodyLines pfam abc m) ++ [47, 47, 10] := by
  unfold stockholmWrite stockholmLines
  rw [joinLF_append, joinLF_singleton]
  rfl

theorem stockholmWrite_magic (pfam : Bool) (abc : Option Abc) (m : Msa) :
    ∃ rest, stockholmWrite pfam abc m = str "# STOCKHOLM 1.0" ++ 10 :: rest := by
  unfold stockholmWrite stockholmLines stockholmBodyLines stoHeadLines
  simp only [List.cons_append, joinLF_cons]
  exact ⟨_, rfl⟩

/-- Stockholm wraps at 200 columns: `ceil(alen / 200)` alignment blocks -/
theorem stockholm_blocks (m : Msa) : (blockStarts m.alen (stoCpl false m)).length = (m.alen + 199) / 200 := by
  have := blockStarts_length m.alen 200 (by decide)
  simpa [stoCpl] using this

/-- Pfam writes one block holding the whole alignment -/
theorem pfam_blocks (m : Msa) (h : 0 < m.alen) : blockStarts m.alen (stoCpl true m) = [0] := by
  simp only [stoCpl, if_true]
  unfold blockStarts
  rw [blockStartsFrom]
  simp only [h, and_self, dite_true, Nat.zero_add]
  rw [blockStartsFrom]
  simp

/-- the tokens `esl_strtok(.., "\n", ..)` delivers are non-empty and free of LF: an unparsed #=GS value never breaks a line -/
theorem strtokLF_tokens (s acc : Bytes) (hacc : (10 : UInt8) ∉ acc) :
    ∀ t ∈ strtokLF s acc, t ≠ [] ∧ (10 : UInt8) ∉ t := by
  induction s generalizing acc with
  | nil =>
    intro t ht
    unfold strtokLF at ht
    by_cases he : acc.isEmpty
    · simp [he] at ht
    · simp only [he] at ht
      simp only [Bool.false_eq_true, if_false, List.mem_singleton] at ht
      subst ht
      refine ⟨?_, by simpa using hacc⟩
      intro h; apply he; simpa using h
  | cons c r ih =>
    intro t ht
    unfold strtokLF at ht
    by_cases hc : c = 10
    · subst hc
      simp only [beq_self_eq_true, if_true] at ht
      by_cases he : acc.isEmpty
      · simp only [he, if_true] at ht
        exact ih [] (by simp) t ht
      · simp only [he, Bool.false_eq_true, if_false, List.mem_cons] at ht
        rcases ht with rfl | ht
        · refine ⟨?_, by simpa using hacc⟩
          intro h; apply he; simpa using h
        · exact ih [] (by simp) t ht
    · have hc' : (c == 10) = false := by simpa using hc
      simp only [hc', Bool.false_eq_true, if_false] at ht
      refine ih (c :: acc) ?_ t ht
      simp only [List.mem_cons, not_or]
      exact ⟨fun h => hc h.symm, hacc⟩

/-- unique-name forcing is switched on exactly when two sequences share a name -/
theorem hasDupNames_iff (l : List Bytes) : hasDupNames l = false ↔ l.Nodup := by
  induction l with
  | nil => simp [hasDupNames]
  | cons a l ih =>
    simp only [hasDupNames, Bool.or_eq_false_iff, List.nodup_cons, ih]
    constructor
    · rintro ⟨h1, h2⟩; exact ⟨by simpa using h1, h2⟩
    · rintro ⟨h1, h2⟩; exact ⟨by simpa using h1, h2⟩

/-- the PHYLIP header is `" <nseq> <alen>"`, and a line feed follows it (interleaved: only if there is a block to write) -/
theorem phylipWrite_header (sequential : Bool) (abc : Option Abc) (m : Msa) (h : 0 < m.alen) :
    ∃ rest, phylipWrite sequential abc m = [32] ++ natDec m.nseq ++ [32] ++ natDec m.alen ++ 10 :: rest := by
  cases sequential with
  | true =>
    simp only [phylipWrite, if_true, phylipSequentialWrite, phylipSequentialLines, joinLF_cons, phyWrHeader]
    exact ⟨_, rfl⟩
  | false =>
    simp only [phylipWrite, Bool.false_eq_true, if_false, phylipInterleavedWrite, phyWrHeader]
    unfold blockStarts
    rw [blockStartsFrom]
    have h60 : 0 < phyRpl := by decide
    simp only [h, h60, and_self, dite_true, List.flatMap_cons, List.append_assoc, List.cons_append]
    exact ⟨_, rfl⟩

/-- interleaved PHYLIP of an alignment without columns: the header alone, not even terminated -/
theorem phylipInterleaved_empty (abc : Option Abc) (m : Msa) (h : m.alen = 0) :
    phylipWrite false abc m = [32] ++ natDec m.nseq ++ [32, 48] := by
  simp only [phylipWrite, Bool.false_eq_true, if_false, phylipInterleavedWrite, phyWrHeader, h, blockStarts_zero]
  simp [natDec, Nat.toDigits, Nat.toDigitsCore, Nat.digitChar]

/-- PHYLIP wraps at 60 columns -/
theorem phylip_blocks (m : Msa) : (blockStarts m.alen phyRpl).length = (m.alen + 59) / 60 := by
  have := blockStarts_length m.alen 60 (by decide)
  simpa [phyRpl] using this

/-- in the first block every row line starts with a name field of exactly ten bytes and a blank -/
theorem phyRowLine_first (abc : Option Abc) (m : Msa) (idx : Nat) :
    ∃ field, field.length = 10 ∧ phyRowLine abc m idx 0 = field ++ 32 :: phyBuf abc m idx 0 := by
  refine ⟨padTrunc phyNameWidth (m.names.getD idx []), padTrunc_length _ _, ?_⟩
  simp [phyRowLine]

theorem textConsensusLine_length (m : Msa) : (textConsensusLine m).length = m.alen := by
  simp [textConsensusLine]

theorem digitalConsensusLine_length (a : Abc) (m : Msa) : (digitalConsensusLine a m).length = m.alen := by
  simp [digitalConsensusLine]

/-- the consensus line has one character per column -/
theorem consensusLine_length (abc : Option Abc) (m : Msa) : (consensusLine abc m).length = m.alen := by
  cases abc with
  | none => exact textConsensusLine_length m
  | some a => exact digitalConsensusLine_length a m

theorem textConsensusLine_chars (m : Msa) : ∀ c ∈ textConsensusLine m, c = 42 ∨ c = 32 := by
  intro c hc
  simp only [textConsensusLine, List.mem_map] at hc
  obtain ⟨_, _, rfl⟩ := hc
  split <;> simp

theorem digitalConsChar_range (a : Abc) (v : Nat) :
    digitalConsChar a v = 42 ∨ digitalConsChar a v = 58 ∨ digitalConsChar a v = 46 ∨ digitalConsChar a v = 32 := by
  unfold digitalConsChar
  simp only
  repeat' split
  all_goals simp

theorem clustalWrite_header (like : Bool) (abc : Option Abc) (m : Msa) :
    ∃ rest, clustalWrite like abc m = clustalHeader like easelVersion ++ 10 :: rest := by
  simp only [clustalWrite, clustalWriteV, clustalLines, joinLF_cons]
  exact ⟨_, rfl⟩

theorem clustalHeader_noLF : ∀ like : Bool,
    (10 : UInt8) ∉ clustalHeader like easelVersion ∧ (clustalHeader like easelVersion).getLast? ≠ some 13 := by
  intro like
  cases like <;> exact ⟨by decide +kernel, by decide +kernel⟩

theorem clustal_blocks (m : Msa) : (blockStarts m.alen clustalCpl).length = (m.alen + 59) / 60 := by
  have := blockStarts_length m.alen 60 (by decide)
  simpa [clustalCpl] using this

/-- every Clustal block has `nseq + 2` lines: the blank line, the rows, the consensus line -/
theorem clustalBlockLines_length (abc : Option Abc) (m : Msa) (w : Nat) (cons : Bytes) (apos : Nat) :
    (clustalBlockLines abc m w cons apos).length = m.nseq + 2 := by
  simp [clustalBlockLines]

/-- the SELEX name field is at least four bytes wide (room for `#=CS`) -/
theorem selexNameLen_ge (m : Msa) : 4 ≤ selexNameLen m := by
  unfold selexNameLen
  have : ∀ (l : List Bytes) (a : Nat), 4 ≤ a → 4 ≤ l.foldl (fun a s => max s.length a) a := by
    intro l
    induction l with
    | nil => intro a h; simpa using h
    | cons x l ih => intro a h; simp only [List.foldl_cons]; exact ih _ (by omega)
  exact this _ _ (Nat.le_refl 4)

theorem selex_blocks (m : Msa) : (blockStarts m.alen selexCpl).length = (m.alen + 59) / 60 := by
  have := blockStarts_length m.alen 60 (by decide)
  simpa [selexCpl] using this

/-- a PSI-BLAST block: one line per sequence, and a blank line unless it is the last block -/
theorem psiBlockLines_length (abc : Option Abc) (m : Msa) (w pos : Nat) :
    (psiBlockLines abc m w pos).length = m.nseq + (if pos + psiCpl < m.alen then 1 else 0) := by
  unfold psiBlockLines
  split <;> simp

/-- what PSI-BLAST writes for a column is a gap or an alphanumeric character in text mode … -/
theorem psiChar_text (m : Msa) (i pos : Nat) : psiChar none m i pos = 45 ∨ isAlnum (aseqAt m i pos) = true := by
  unfold psiChar
  simp only
  by_cases h : isAlnum (aseqAt m i pos) = true
  · exact Or.inr h
  · left; simp [h]

/-- the text-mode character as a function of the residue and the consensus flag -/
def psiTextChar (c : UInt8) (cons : Bool) : UInt8 :=
  let isRes := isAlnum c
  let sym := if c == 79 || c == 111 then 88 else c
  if cons then (if isRes then toUpper sym else 45) else (if isRes then toLower sym else 45)

theorem psiChar_text_eq (m : Msa) (i pos : Nat) :
    psiChar none m i pos = psiTextChar (aseqAt m i pos) (isConsensusCol none m pos) := rfl

theorem psiTextChar_noO_fin : ∀ (n : Fin 256) (cons : Bool),
    psiTextChar (UInt8.ofNat n.val) cons ≠ 79 ∧ psiTextChar (UInt8.ofNat n.val) cons ≠ 111 := by decide +kernel

/-- … and never the letter O/o, which its reader rejects: in text mode -/
theorem psiChar_text_noO (m : Msa) (i pos : Nat) : psiChar none m i pos ≠ 79 ∧ psiChar none m i pos ≠ 111 := by
  rw [psiChar_text_eq]
  generalize aseqAt m i pos = c
  generalize isConsensusCol none m pos = cons
  have := psiTextChar_noO_fin ⟨c.toNat, c.toNat_lt⟩ cons
  simpa using this

/-- no A2M sequence line is longer than 60 characters -/
theorem a2mSeqLoop_width (abc : Option Abc) (m : Msa) (i : Nat) (ps : List Nat) (buf : Bytes) (hb : buf.length ≤ a2mCpl) :
    ∀ l ∈ a2mSeqLoop abc m i ps buf, l.length ≤ a2mCpl := by
  induction ps generalizing buf with
  | nil =>
    intro l hl
    unfold a2mSeqLoop at hl
    split at hl
    · simp at hl
    · simp only [List.mem_singleton] at hl; subst hl; simpa using hb
  | cons p ps ih =>
    intro l hl
    unfold a2mSeqLoop at hl
    simp only at hl
    by_cases hf : buf.length ≥ a2mCpl
    · simp only [hf, if_true, List.singleton_append, List.mem_cons] at hl
      rcases hl with rfl | hl
      · simpa using hb
      · cases hc : a2mChar abc m i p with
        | none => rw [hc] at hl; exact ih [] (by simp) l hl
        | some c => rw [hc] at hl; exact ih [c] (by simp [a2mCpl]) l hl
    · simp only [hf, if_false, List.nil_append] at hl
      cases hc : a2mChar abc m i p with
      | none => rw [hc] at hl; exact ih buf hb l hl
      | some c => rw [hc] at hl; exact ih (c :: buf) (by simp only [List.length_cons]; omega) l hl

/-- every A2M record starts with its `>name` line -/
theorem a2mRecLines_head (abc : Option Abc) (m : Msa) (i : Nat) :
    (a2mRecLines abc m i).head? = some (a2mHeader m i) := by
  simp [a2mRecLines]

/-! ## concrete instances (non-vacuity of the hypotheses above, and the models evaluated inside the kernel) -/

/-- two sequences, three columns, text mode -/
def tinyMsa : Msa := { alen := 3, names := [str "aa", str "b"], aseq := [str "ACG", str "A-G"], wgt := [.dflt, .dflt] }
/-- the same with both sequences called `aa`, weights and an unparsed #=GS tag on the SECOND sequence -/
def tinyDup : Msa := { tinyMsa with names := [str "aa", str "aa"], hasw := true, wgt := [.val 0x3ff8000000000000, .dflt],
                                    gs := [(str "DR", [none, some (str "x\ny")])] }

theorem str_append (a b : String) : str (a ++ b) = str a ++ str b := by
  simp only [str, String.toUTF8, ByteArray.toList, toList_loop_eq, List.reverse_nil, List.nil_append, List.drop_zero,
    String.toByteArray_append, ByteArray.data_append, Array.toList_append]

example : 0 < tinyMsa.alen := by decide
example : blockStarts tinyMsa.alen (stoCpl true tinyMsa) = [0] := pfam_blocks tinyMsa (by decide)
example : stockholmWrite false none tinyMsa = str "# STOCKHOLM 1.0\n\naa ACG\nb  A-G\n//\n" := by
  rw [str_ofList]
  decide +kernel
example : stockholmWrite true none tinyMsa = stockholmWrite false none tinyMsa := by decide +kernel
/-- unique-name forcing; the #=GS DR lines of the second sequence carry its own prefix `1|aa` (the sequence index, not the tag index) -/
example : stockholmWrite false none tinyDup =
    str ("# STOCKHOLM 1.0\n# WARNING: seq names have been made unique by adding a prefix of \"<seq#>|\"\n\n"
      ++ "#=GS 0|aa WT 1.50\n#=GS 1|aa WT 1.00\n\n#=GS 1|aa DR x\n#=GS 1|aa DR y\n\n0|aa ACG\n1|aa A-G\n//\n") := by
  rw [str_append, str_ofList, str_ofList]
  decide +kernel
example : phylipWrite false none tinyMsa = str " 2 3\naa         ACG\nb          A-G\n" := by
  rw [str_ofList]
  decide +kernel
example : phylipWrite true none tinyMsa = phylipWrite false none tinyMsa := by decide +kernel
example : clustalWrite false none tinyMsa = str "CLUSTAL 2.1 multiple sequence alignment\n\naa ACG\nb  A-G\n   * *\n" := by
  rw [str_ofList]
  decide +kernel
example : selexWrite none tinyMsa = str "aa   ACG\nb    A-G\n" := by
  rw [str_ofList]
  decide +kernel
example : psiblastWrite none tinyMsa = str "aa  ACG\nb   A-G\n" := by
  rw [str_ofList]
  decide +kernel
example : a2mWrite none tinyMsa = str ">aa\nACG\n>b\nA-G\n" := by
  rw [str_ofList]
  decide +kernel

/-! ## number formatting: spot checks of `%.2f` / `%.1f` on ties and near-ties (the differential run covers 10^5 random values) -/

example : fmtF2 0x3ff0000000000000 = str "1.00" := by decide +kernel
example : fmtF2 0xbff0000000000000 = str "-1.00" := by decide +kernel
example : fmtF2 0x3fc0000000000000 = str "0.12" := by decide +kernel          -- 0.125: tie, to even
example : fmtF2 0x3fd8000000000000 = str "0.38" := by decide +kernel          -- 0.375: tie, to even
example : fmtF2 0x3f747ae147ae147b = str "0.01" := by decide +kernel          -- 0.005 is slightly above the tie in binary
example : fmtF2 0x4005666666666666 = str "2.67" := by decide +kernel          -- 2.675 is slightly below the tie in binary
example : fmtF2 0x4202a05f20000000 = str "10000000000.00" := by decide +kernel
example : fmtF2 0x8000000000000000 = str "-0.00" := by decide +kernel
example : fmtF2 0x0000000000000001 = str "0.00" := by decide +kernel
example : fmtF2 0x7ff0000000000000 = str "inf" := by decide +kernel
example : fmtF2 0xfff8000000000000 = str "-nan" := by decide +kernel
example : fmtF1 0x41c80000 = str "25.0" := by decide +kernel
example : fmtF1 0x3e800000 = str "0.2" := by decide +kernel                   -- 0.25: tie, to even
example : fmtF1 0x3f400000 = str "0.8" := by decide +kernel                   -- 0.75: tie, to even
example : fmtF1 0x3d4ccccd = str "0.1" := by decide +kernel                   -- 0.05f is above the tie

end EaselModel.Msafile
