import EaselModel.Msafile.Lemmas
import EaselModel.Msafile.AfaLemmas
import EaselModel.Msafile.A2mPad
/-! Invariant of the A2M reader (`A2m.lean`) and the facts the C01 theorems are glued from.

The two classifications the reader makes of every sequence byte (the `csflag` loop on the raw byte, the input map for the
residue) must agree: `a2mSyncB`, a finite table check.  They do for the four configurations, except on NUL (stored as
`inmap[0]` with status OK, never flagged), which the flag loop rejects with eslEFORMAT.

Inside a record the invariant is the normal form `RecAt` of A2mRecord.lean (`CurInv`); a finished record is kept with the characters it
was read from (`RecOk`), so that the padding functions are read off the equations of A2mPad.lean. -/
namespace EaselModel.Msafile

/-- `csflag` row (sentinel included) of a record with `as[k]` inserts before consensus column `k` -/
def enc (as : List Nat) : List Bool := as.flatMap fun a => List.replicate a false ++ [true]

@[simp] theorem enc_nil : enc [] = [] := rfl
@[simp] theorem enc_cons (a : Nat) (as : List Nat) : enc (a :: as) = List.replicate a false ++ true :: enc as := by
  simp [enc]
theorem enc_append (a b : List Nat) : enc (a ++ b) = enc a ++ enc b := by simp [enc]
theorem enc_single (a : Nat) : enc [a] = List.replicate a false ++ [true] := by simp

theorem enc_length (as : List Nat) : (enc as).length = as.sum + as.length := by
  induction as with
  | nil => simp
  | cons a as ih => simp [ih]; omega

/-- the encoding of the run lengths of a cut row is its flags and the sentinel -/
theorem enc_segLens : ∀ (rest : List (UInt8 × Bytes)) (r0 : Bytes), enc (segLens (r0, rest)) = segFlags (r0, rest) ++ [true]
  | [], r0 => by simp [segLens, segFlags]
  | cr :: rest, r0 => by
    have ih := enc_segLens rest cr.2
    simp only [segLens, segFlags] at ih ⊢
    simp [ih]

theorem enc_runs (w : Bytes) : enc (segLens (splitRow w)) = flagsOf w ++ [true] := by
  rw [enc_segLens, ← splitRow_flags]
/-- the byte on which the `csflag` loop and the input map disagree: NUL (stored as `inmap[0]`, never flagged); the loop rejects it -/
def a2mBad (c : UInt8) : Bool := c == 0

/-- the input map stores a residue for this byte -/
def stores (m : InMap) (c : UInt8) : Bool := (mapByte m c).2.isSome

/-- table check: every ASCII byte outside `a2mBad` that the map accepts with status OK stores a residue iff it is flagged -/
def a2mSyncB (m : InMap) : Bool :=
  (List.range 128).all fun i =>
    let c := UInt8.ofNat i
    a2mBad c || (mapByte m c).1 != CatSt.ok || (stores m c == a2mFlagged c)

/-- symbols that may be stored in a row: alphabet codes `< Kp` (digital), non-NUL characters (text) -/
def Cfg.symOk (c : Cfg) (x : UInt8) : Bool := if c.digital then decide (x.toNat < c.kp) else x != 0

/-- what the A2M reader needs of its configuration beyond `Cfg.valid` -/
structure A2mValid (c : Cfg) : Prop where
  sync : a2mSyncB c.inmap = true
  pad : c.symOk c.padSym = true

theorem a2mSync_char (m : InMap) (h : a2mSyncB m = true) (c : UInt8)
    (hb : a2mBad c = false) (hok : (mapByte m c).1 = .ok) : stores m c = a2mFlagged c := by
  by_cases ha : isAscii c
  · have h2 := all_range128 h ha
    simp only [UInt8.ofNat_toNat, hb, hok, Bool.false_or, bne_self_eq_false, beq_iff_eq] at h2
    exact h2
  · exfalso
    unfold mapByte at hok
    simp [ha] at hok

/-- `a2mFlagged` on the number of the byte: a letter other than `O`, `o`, or `-` -/
def flaggedNat (i : Nat) : Bool := ((65 ≤ i && i ≤ 90) || (97 ≤ i && i ≤ 122) || i == 45) && i != 79 && i != 111

theorem toNat_ofNat_ascii {i : Nat} (hi : i < 128) : (UInt8.ofNat i).toNat = i :=
  UInt8.toNat_ofNat_of_lt' (by simp [UInt8.size]; omega)

theorem a2mFlagged_ofNat {i : Nat} (hi : i < 128) : a2mFlagged (UInt8.ofNat i) = flaggedNat i := by
  rw [Bool.eq_iff_iff]
  simp only [a2mFlagged, a2mSkip, isUpper, isLower, flaggedNat, Bool.and_eq_true, Bool.or_eq_true, Bool.not_eq_true',
    Bool.or_eq_false_iff, decide_eq_true_eq, beq_iff_eq, beq_eq_false_iff_ne, bne_iff_ne, ne_eq, UInt8.le_iff_toNat_le,
    ← UInt8.toNat_inj, toNat_ofNat_ascii hi]
  simp
  omega

/-- what `a2mSyncB` asks of the cell `x` at byte `i ≠ 0`: a residue is stored only where the `csflag` loop flags, and a
    byte is ignored only where it does not (any other cell ends the line with eslEINVAL or an exception) -/
def SyncCell (i : Nat) (x : UInt8) : Prop :=
  (x ≤ 127 → flaggedNat i = true) ∧ (x = dsqIGNORED → flaggedNat i = false)

theorem SyncCell.illegal (i : Nat) : SyncCell i dsqILLEGAL := ⟨fun h => absurd h (by decide), fun h => absurd h (by decide)⟩

theorem SyncCell.ignored {i : Nat} (h : flaggedNat i = false) : SyncCell i dsqIGNORED := ⟨fun hle => absurd hle (by decide), fun _ => h⟩

theorem a2mSyncB_of_cells {t : Array UInt8} (h : ∀ i, 0 < i → i < 128 → SyncCell i (t.getD i dsqILLEGAL)) :
    a2mSyncB ⟨t⟩ = true := by
  refine List.all_eq_true.mpr fun i hi => ?_
  have hi := List.mem_range.mp hi
  by_cases h0 : i = 0
  · subst h0; rfl
  · obtain ⟨h1, h2⟩ := h i (by omega) hi
    have hc := toNat_ofNat_ascii hi
    have hasc : isAscii (UInt8.ofNat i) = true := by simp [isAscii, UInt8.lt_iff_toNat_lt, hc]; omega
    have hget : InMap.get ⟨t⟩ (UInt8.ofNat i) = t.getD i dsqILLEGAL := by simp [InMap.get, hc]
    simp only [stores, mapByte, hasc, Bool.not_true, Bool.false_eq_true, if_false, hget, a2mFlagged_ofNat hi]
    generalize t.getD i dsqILLEGAL = x at h1 h2
    -- the four kinds of cell: a symbol (stored), ILLEGAL (eslEINVAL), IGNORED, anything else (exception)
    by_cases hx : x ≤ 127
    · simp [hx, h1 hx]
    · by_cases hx2 : x = dsqILLEGAL
      · subst hx2; simp [dsqILLEGAL]
      · by_cases hx3 : x = dsqIGNORED
        · subst hx3; simp [dsqIGNORED, dsqILLEGAL, h2 rfl]
        · simp [hx, hx2, hx3]

theorem mapLoop_ok_length (m : InMap) :
    ∀ (src : Bytes) (st : CatSt) (acc : Bytes), (mapLoop m src st acc).1 = .ok →
      st = .ok ∧ (∀ c ∈ src, (mapByte m c).1 = .ok) ∧
      (mapLoop m src st acc).2.length = acc.length + (src.filter (stores m)).length := by
  intro src
  induction src with
  | nil => intro st acc h; simpa [mapLoop] using h
  | cons c rest ih =>
    intro st acc h
    unfold mapLoop at h ⊢
    cases hm : mapByte m c with
    | mk s o =>
      rw [hm] at h
      cases s <;> cases o <;> simp only at h ⊢
      · obtain ⟨h1, h2, h3⟩ := ih _ _ h
        refine ⟨h1, ?_, ?_⟩
        · intro c' hc'
          rcases List.mem_cons.mp hc' with e | e
          · subst e; rw [hm]
          · exact h2 c' e
        · rw [h3]; simp [stores, hm]
      · obtain ⟨h1, h2, h3⟩ := ih _ _ h
        refine ⟨h1, ?_, ?_⟩
        · intro c' hc'
          rcases List.mem_cons.mp hc' with e | e
          · subst e; rw [hm]
          · exact h2 c' e
        · rw [h3]; simp [stores, hm]; omega
      · exact absurd (ih _ _ h).1 (by simp)
      · exact absurd (ih _ _ h).1 (by simp)
      · simp at h
      · simp at h

/-- where the input map takes every byte of a line without NUL, it stores a residue for exactly the bytes the `csflag` loop flags -/
theorem stores_eq_kept (m : InMap) (h : a2mSyncB m = true) (p : Bytes)
    (hb : ∀ c ∈ p, c ≠ 0) (hok : ∀ c ∈ p, (mapByte m c).1 = .ok) : p.filter (stores m) = kept p :=
  List.filter_congr fun c hc => a2mSync_char m h c (by simpa [a2mBad] using hb c hc) (hok c hc)

theorem all_ne_zero_of_not_contains (r : Bytes) (h : (!r.contains 0) = true) : r.all (· != 0) = true := by
  rw [List.all_eq_true]
  intro x hx
  simp only [bne_iff_ne, ne_eq]
  intro h0; subst h0
  simp [hx] at h

theorem not_contains_of_all_ne_zero (r : Bytes) (h : r.all (· != 0) = true) : (!r.contains 0) = true := by
  simp only [Bool.not_eq_true', List.contains_eq_mem, decide_eq_false_iff_not]
  intro hm
  have := (List.all_eq_true.mp h) 0 hm
  simp at this

theorem symOk_digital (cfg : Cfg) (hd : cfg.digital = true) : cfg.symOk = fun x => decide (x.toNat < cfg.kp) := by
  funext x; simp [Cfg.symOk, hd]
theorem symOk_text (cfg : Cfg) (hd : cfg.digital = false) : cfg.symOk = fun x => x != 0 := by
  funext x; simp [Cfg.symOk, hd]

theorem rowOkB_mkRow (cfg : Cfg) (codes : Bytes) (h : codes.all cfg.symOk = true) :
    rowOkB cfg.digital cfg.kp codes.length (mkRow cfg.digital codes) = true := by
  cases hd : cfg.digital with
  | true =>
    simp only [rowOkB, mkRow, if_true]
    exact dsqRowOk_build cfg.kp codes (by rw [← symOk_digital cfg hd]; exact h)
  | false =>
    simp only [rowOkB, mkRow, Bool.false_eq_true, if_false, beq_self_eq_true, Bool.true_and]
    exact not_contains_of_all_ne_zero codes (by rw [← symOk_text cfg hd]; exact h)

/-- a well-formed row is `mkRow` of storable symbols -/
theorem rowOkB_codes (cfg : Cfg) (L : Nat) (r : Bytes) (h : rowOkB cfg.digital cfg.kp L r = true) :
    ∃ codes, r = mkRow cfg.digital codes ∧ codes.length = L ∧ codes.all cfg.symOk = true := by
  cases hd : cfg.digital with
  | true =>
    simp only [rowOkB, hd, if_true] at h
    cases r with
    | nil => simp [dsqRowOk] at h
    | cons s0 rest =>
      simp only [dsqRowOk, Bool.and_eq_true, beq_iff_eq] at h
      obtain ⟨⟨⟨hs0, hlen⟩, hlast⟩, hall⟩ := h
      obtain ⟨ys, hys⟩ := List.getLast?_eq_some_iff.mp hlast
      subst hys; subst hs0
      refine ⟨ys, by simp [mkRow], by simp at hlen; omega, ?_⟩
      rw [symOk_digital cfg hd]; simpa using hall
  | false =>
    simp only [rowOkB, hd, Bool.false_eq_true, if_false, Bool.and_eq_true, beq_iff_eq] at h
    exact ⟨r, by simp [mkRow], h.1, by rw [symOk_text cfg hd]; exact all_ne_zero_of_not_contains _ h.2⟩

/-- the row loop of the padding functions on a flag row that fits `nins`, whatever stands behind its last sentinel flag: no access
    outside the rows, exactly `Σ nins + ncons` cells written, each an old residue or the gap symbol -/
theorem padRow_spec (size : Nat) (gap : UInt8) (P : UInt8 → Bool) (hgap : P gap = true) (junk : List Bool) (old' : Bytes) :
    ∀ (nins as : List Nat) (xs acc : Bytes), leAll as nins →
      xs.length + 1 = as.sum + as.length → acc.length + nins.sum + nins.length ≤ size + 1 →
      xs.all P = true → acc.all P = true →
      ∃ acc', padRow size gap nins (enc as ++ junk) (xs ++ old') acc = some acc' ∧
        acc'.length + 1 = acc.length + nins.sum + nins.length ∧ acc'.all P = true := by
  intro nins as xs acc hle hx hsz hxs hacc
  obtain ⟨a, as, rfl⟩ : ∃ a as', as = a :: as' := by
    cases as with
    | nil => simp at hx
    | cons a b => exact ⟨a, b, rfl⟩
  obtain ⟨n0, ns, rfl⟩ : ∃ n0 ns, nins = n0 :: ns := by
    cases nins with
    | nil => exact absurd hle (by simp [leAll])
    | cons a b => exact ⟨a, b, rfl⟩
  obtain ⟨s, h1, h2⟩ := exists_segs as a xs hx
  have hle' : leAll (segLens s) (n0 :: ns) := by rw [h1]; exact hle
  have hlen := padSegs_length gap n0 ns s hle'
  simp only [List.sum_cons, List.length_cons] at hsz hlen
  refine ⟨(padSegs gap (n0 :: ns) s).reverse ++ acc, ?_, ?_, ?_⟩
  · rw [← h1, ← h2, enc_segLens, List.append_assoc]
    exact padRow_rest size gap old' junk s.2 ns n0 s.1 acc hle' (by rw [hlen]; omega)
  · simp only [List.length_append, List.length_reverse, hlen, List.sum_cons, List.length_cons]; omega
  · rw [List.all_append, List.all_reverse, padSegs_all P gap hgap _ s (by rw [h2]; exact hxs), hacc]; rfl

/-- a finished record: its row holds one storable symbol for every flagged character `w` of the record, its `csflag` row is
    theirs with the sentinel (and whatever stands behind it: the padding functions stop at the sentinel; the reader leaves nothing
    there), and its runs of inserts fit under `nins` -/
def RecOk (cfg : Cfg) (nins : List Nat) (rec : Bytes × List Bool) : Prop :=
  ∃ w codes junk, rec = (mkRow cfg.digital codes, flagsOf w ++ true :: junk) ∧ codes.length = w.length ∧
    codes.all cfg.symOk = true ∧ leAll (segLens (splitRow w)) nins

/-- such a record is padded without an access outside the rows, to a well-formed row: `padOne_segs` on the row cut at its flags -/
theorem padOne_spec (cfg : Cfg) (hpad : cfg.symOk cfg.padSym = true) (ncons : Nat) (nins : List Nat)
    (hn : nins.length = ncons + 1) (alen : Nat) (ha : alen = ncons + nins.sum) (rec : Bytes × List Bool)
    (h : RecOk cfg nins rec) :
    ∃ r, padOne cfg nins alen rec = some r ∧ rowOkB cfg.digital cfg.kp alen r = true := by
  obtain ⟨w, codes, junk, rfl, hl, hP, hle⟩ := h
  obtain ⟨n0, ns, rfl⟩ : ∃ n0 ns, nins = n0 :: ns := by
    cases nins with
    | nil => simp at hn
    | cons a b => exact ⟨a, b, rfl⟩
  have halen : alen = (n0 :: ns).sum + ns.length := by simp only [List.length_cons] at hn; omega
  obtain ⟨hf, hlens⟩ := cutBy_flagsOf w codes hl
  have hj := cutBy_join (flagsOf w) codes (by simp [hl])
  have hle' : leAll (segLens (cutBy (flagsOf w) codes)) (n0 :: ns) := by rw [hlens]; exact hle
  have := padOne_segs cfg n0 ns (cutBy (flagsOf w) codes) hle' alen halen junk
  rw [hj, hf] at this
  refine ⟨_, this, ?_⟩
  have hlen := padSegs_length cfg.padSym n0 ns _ hle'
  rw [← halen] at hlen
  rw [← hlen]
  exact rowOkB_mkRow cfg _ (padSegs_all cfg.symOk cfg.padSym hpad _ _ (by rw [hj]; exact hP))

theorem padAll_spec (cfg : Cfg) (hpad : cfg.symOk cfg.padSym = true) (ncons : Nat) (nins : List Nat)
    (hn : nins.length = ncons + 1) (alen : Nat) (ha : alen = ncons + nins.sum) :
    ∀ (recs : List (Bytes × List Bool)), (∀ rec ∈ recs, RecOk cfg nins rec) →
      ∃ rows, padAll cfg nins alen recs = some rows ∧ rows.length = recs.length ∧
        rows.all (rowOkB cfg.digital cfg.kp alen) = true := by
  intro recs
  induction recs with
  | nil => intro _; exact ⟨[], rfl, rfl, rfl⟩
  | cons rec rest ih =>
    intro h
    obtain ⟨r, hr, hrok⟩ := padOne_spec cfg hpad ncons nins hn alen ha rec (h rec (by simp))
    obtain ⟨rs, hrs, hl, hall⟩ := ih (fun x hx => h x (by simp [hx]))
    refine ⟨r :: rs, ?_, by simp [hl], by simp [hrok, hall]⟩
    simp [padAll, hr, hrs]

structure A2mCommon (cfg : Cfg) (st : A2mSt) : Prop where
  alloc : st.nseq ≤ st.sqalloc ∧ 0 < st.sqalloc
  recs_len : st.recs.length = st.nseq
  first : st.nseq = 0 → st.ncons = 0
  nins_len : st.nseq ≠ 0 → st.nins.length = st.ncons + 1
  recs_ok : ∀ rec ∈ st.recs, RecOk cfg st.nins rec
  tn_len : st.nseq ≠ 0 → st.ncons + 1 ≤ st.tn.length

/-- between two records: one name per finished record -/
structure A2mBetween (cfg : Cfg) (st : A2mSt) : Prop extends A2mCommon cfg st where
  names_len : st.names.length = st.nseq

/-- the record being read is in normal form (`RecAt`) for the flagged characters `w` read so far in it; the sentinel is in place once a
    sequence line was read -/
def CurInv (cfg : Cfg) (st : A2mSt) : Prop :=
  ∃ w X z J, RecAt cfg.digital st w X z J ∧ (X = [true] ∨ (X = [] ∧ w = []))

theorem CurInv.tc_lt {cfg : Cfg} {st : A2mSt} (h : CurInv cfg st) : st.tc < st.tn.length := by
  obtain ⟨w, X, z, J, hr, _⟩ := h
  exact hr.tc_lt

/-- at a `esl_msafile_GetLine` call -/
structure A2mInv (cfg : Cfg) (st : A2mSt) : Prop extends A2mCommon cfg st where
  lead_names : st.lead = true → st.names.length = st.nseq
  rec_names : st.lead = false → st.names.length = st.nseq + 1 ∧ st.nseq < st.sqalloc
  cur_ok : curOk cfg st.cur
  cur : st.lead = false → CurInv cfg st

theorem a2mInv_init (cfg : Cfg) : A2mInv cfg {} :=
  { alloc := by decide, recs_len := rfl, first := fun _ => rfl, nins_len := fun h => absurd rfl h,
    recs_ok := fun _ h => by simp at h, tn_len := fun h => absurd rfl h,
    lead_names := fun _ => rfl, rec_names := fun h => by simp at h, cur_ok := fun r h => by simp at h,
    cur := fun h => by simp at h }

theorem a2mPad_good (cfg : Cfg) (ha : A2mValid cfg) (st : A2mSt) (hb : A2mBetween cfg st) (h1 : 1 ≤ st.nseq) :
    Good (a2mPad cfg st) := by
  have hnl := hb.nins_len (by omega)
  obtain ⟨n0, ns, hnins⟩ : ∃ n0 ns, st.nins = n0 :: ns := by
    cases h : st.nins with
    | nil => rw [h] at hnl; simp at hnl
    | cons a b => exact ⟨a, b, rfl⟩
  have hns : ns.length = st.ncons := by rw [hnins] at hnl; simpa using hnl
  obtain ⟨rows, hrows, hrl, hrall⟩ := padAll_spec cfg ha.pad st.ncons (n0 :: ns) (by simp [hns]) _ rfl st.recs
    (by rw [← hnins]; exact hb.recs_ok)
  rw [a2mPad_rows cfg st n0 ns rows hnins hns hrows]
  simp only [Good]
  rw [← hb.names_len]
  exact wellFormed_plain cfg.digital cfg.kp _ st.names rows _ (some (rfOf (n0 :: ns))) (by rw [hb.names_len]; exact h1)
    (by rw [hrl, hb.recs_len, hb.names_len]) hrall (by simp only [optLenOk, rfOf_length, hns]; simp; omega)

theorem a2mStartRecord_spec (cfg : Cfg) (st : A2mSt) (p : Bytes) :
    StepSpec (A2mBetween cfg st) (A2mInv cfg) (a2mStartRecord st p) := by
  unfold a2mStartRecord
  cases p with
  | nil => exact .eformat
  | cons c p1 =>
    dsimp only
    cases memtok p1 blankTab with
    | none => exact .eformat
    | some t =>
      dsimp only
      -- `this_nins` has its cells `0 .. ncons` (one cell is allocated when it is NULL, before the first record)
      have htn1 : A2mBetween cfg st → st.ncons + 1 ≤ (if st.tn.isEmpty then [0] else st.tn).length := fun h => by
        by_cases h0 : st.nseq = 0
        · rw [h.first h0]
          by_cases he : st.tn.isEmpty = true
          · simp [he]
          · simp only [he, Bool.false_eq_true, if_false]
            cases htn : st.tn with
            | nil => simp [htn] at he
            | cons _ _ => simp
        · have := h.tn_len h0
          have he : st.tn.isEmpty = false := by
            cases htn : st.tn with
            | nil => rw [htn] at this; simp at this
            | cons _ _ => rfl
          simpa [he] using this
      refine .ite (fun _ => .exc fun h => by have := lt_expandAlloc h.alloc.1 h.alloc.2; omega) fun _ =>
        .ite (fun _ => .fault fun h => by have := htn1 h; omega) fun _ h => ?_
      have hex := lt_expandAlloc h.alloc.1 h.alloc.2
      exact
            { alloc := ⟨by show st.nseq ≤ expandAlloc st.nseq st.sqalloc; omega, by show 0 < expandAlloc st.nseq st.sqalloc; omega⟩
              recs_len := h.recs_len, first := h.first, nins_len := h.nins_len, recs_ok := h.recs_ok
              tn_len := fun _ => by
                show st.ncons + 1 ≤ (List.replicate (st.ncons + 1) 0 ++ _).length
                simp
              lead_names := fun hl => by simp at hl
              rec_names := fun _ => ⟨by simp [h.names_len], hex⟩
              cur_ok := fun r hr => by simp at hr
              cur := fun _ => ⟨[], [], st.ncons, _,
                { len := rfl, fl := rfl, X1 := Nat.zero_le _, tc := rfl, tn := rfl,
                  room := fun _ => ⟨Nat.zero_le _, by simp⟩ }, Or.inr ⟨rfl, rfl⟩⟩ }

theorem rowOkB_empty (cfg : Cfg) :
    rowOkB cfg.digital cfg.kp 0 (if cfg.digital then [dsqSENTINEL, dsqSENTINEL] else []) = true := by
  cases hd : cfg.digital <;> simp [rowOkB, dsqRowOk]

/-- what the record loop knows of the record it has just read (after the `thislen == 0` edge case): the flagged characters `w`
    it was read from, with `this_nins[0..this_ncons]` the lengths of their runs of inserts -/
theorem a2m_record_done (cfg : Cfg) (st : A2mSt) (hc : curOk cfg st.cur) (h : CurInv cfg st) :
    ∃ w codes,
      (if (rowLen cfg.digital st.cur == 0) = true then some (if cfg.digital then [dsqSENTINEL, dsqSENTINEL] else []) else st.cur)
        = some (mkRow cfg.digital codes) ∧
      (if (rowLen cfg.digital st.cur == 0) = true then [true] else st.fl) = flagsOf w ++ [true] ∧
      codes.length = w.length ∧ codes.all cfg.symOk = true ∧ st.tn.take (st.tc + 1) = segLens (splitRow w) := by
  obtain ⟨w, X, z, J, h, hX⟩ := h
  have htk := h.take_tn.trans (runsL_runLens w)
  by_cases h0 : rowLen cfg.digital st.cur = 0
  · have hw : w = [] := List.length_eq_zero_iff.mp (by rw [← h.len]; exact h0)
    subst hw
    simp only [h0, beq_self_eq_true, if_true]
    exact ⟨[], [], by cases cfg.digital <;> rfl, rfl, rfl, rfl, htk⟩
  · have hb : (rowLen cfg.digital st.cur == 0) = false := by simpa using h0
    have hX' : X = [true] := hX.resolve_right fun hh => h0 (by rw [h.len, hh.2]; rfl)
    simp only [hb, Bool.false_eq_true, if_false]
    cases hcur : st.cur with
    | none => rw [hcur] at h0; simp [rowLen] at h0
    | some r =>
      obtain ⟨codes, rfl, hcl, hcP⟩ := rowOkB_codes cfg _ r (hc r hcur)
      exact ⟨w, codes, rfl, by rw [h.fl, hX'], hcl.trans h.len, hcP, htk⟩

theorem a2mFinishRecord_spec (cfg : Cfg) (st : A2mSt) :
    StepSpec (A2mInv cfg st ∧ st.lead = false) (fun st' => A2mBetween cfg st' ∧ st'.nseq = st.nseq + 1 ∧ st'.lead = false)
      (a2mFinishRecord cfg st) := by
  -- what the invariant says of the record just read
  have hdone := fun (hh : A2mInv cfg st ∧ st.lead = false) => a2m_record_done cfg st hh.1.cur_ok (hh.1.cur hh.2)
  unfold a2mFinishRecord
  dsimp only
  split
  · rename_i hnone
    exact .fault fun hh => by obtain ⟨_, _, hr, _⟩ := hdone hh; rw [hnone] at hr; cases hr
  · rename_i r hsome
    refine .ite (fun h0 => .ite (fun _ => .fault fun ⟨h, hl⟩ => by have := (h.cur hl).tc_lt; omega) fun _ hh => ?_) fun h0 =>
      .ite (fun _ => .eformat) fun htc => .ite (fun hbad => .fault fun ⟨h, hl⟩ => ?_) fun _ hh => ?_
    · -- the first record fixes `ncons` and `nins`
      obtain ⟨w, codes, hr, hfl, hcl, hcP, htw⟩ := hdone hh
      rw [hsome] at hr; cases hr
      obtain ⟨h, hl⟩ := hh
      have h0 : st.nseq = 0 := by simpa using h0
      have hn := h.rec_names hl
      have htl : st.tc + 1 ≤ st.tn.length := (h.cur hl).tc_lt
      have haslen : (st.tn.take (st.tc + 1)).length = st.tc + 1 := by rw [List.length_take]; omega
      have hrecs : st.recs = [] := List.length_eq_zero_iff.mp (by rw [h.recs_len, h0])
      refine ⟨{ alloc := ⟨by show st.nseq + 1 ≤ st.sqalloc; omega, h.alloc.2⟩
                recs_len := by simp [hrecs, h0]
                first := fun hx => by simp at hx
                nins_len := fun _ => haslen
                recs_ok := ?_
                tn_len := fun _ => htl
                names_len := by show st.names.length = st.nseq + 1; rw [hn.1] }, rfl, hl⟩
      intro rec hrec
      simp only [hrecs, List.nil_append, List.mem_singleton] at hrec
      subst hrec
      exact ⟨w, codes, [], by rw [hfl], hcl, hcP, by rw [htw]; exact leAll_refl _⟩
    · -- both count arrays reach `ncons`
      have h0 : st.nseq ≠ 0 := by simpa using h0
      have := h.nins_len h0; have := h.tn_len h0
      simp at hbad; omega
    · obtain ⟨w, codes, hr, hfl, hcl, hcP, htw⟩ := hdone hh
      rw [hsome] at hr; cases hr
      obtain ⟨h, hl⟩ := hh
      have h0 : st.nseq ≠ 0 := by simpa using h0
      have htc : st.tc = st.ncons := by simpa using htc
      have hn := h.rec_names hl
      have htl : st.tc + 1 ≤ st.tn.length := (h.cur hl).tc_lt
      have haslen : (st.tn.take (st.tc + 1)).length = st.tc + 1 := by rw [List.length_take]; omega
      have hnl := h.nins_len h0
      have htnl := h.tn_len h0
      have htake : st.nins.take (st.ncons + 1) = st.nins := List.take_of_length_le (by omega)
      have htk : st.tn.take (st.ncons + 1) = st.tn.take (st.tc + 1) := by rw [htc]
      rw [htake, htk]
      have hlen2 : st.nins.length = (st.tn.take (st.tc + 1)).length := by rw [haslen, hnl, htc]
      refine ⟨{ alloc := ⟨by show st.nseq + 1 ≤ st.sqalloc; omega, h.alloc.2⟩
                recs_len := by simp [h.recs_len]
                first := fun hx => by simp at hx
                nins_len := fun _ => by
                  show (List.zipWith max st.nins (st.tn.take (st.tc + 1))).length = st.ncons + 1
                  rw [List.length_zipWith, ← hlen2, hnl]; omega
                recs_ok := ?_
                tn_len := fun _ => htnl
                names_len := hn.1 }, rfl, hl⟩
      intro rec hrec
      show RecOk cfg (List.zipWith max st.nins (st.tn.take (st.tc + 1))) rec
      rcases List.mem_append.mp hrec with hm | hm
      · obtain ⟨w', codes', junk', e1, e2, e3, e4⟩ := h.recs_ok rec hm
        exact ⟨w', codes', junk', e1, e2, e3, leAll_zipWith_left _ _ _ hlen2 e4⟩
      · simp only [List.mem_singleton] at hm
        subst hm
        exact ⟨w, codes, [], by rw [hfl], hcl, hcP, by rw [← htw]; exact leAll_zipWith_right _ _ hlen2⟩

/-- a sequence line from a record in normal form: no access outside the arrays, and the record stays in normal form
    (`ha.sync`: the row grows by one symbol per flag written) -/
theorem a2mSeqLine_recAt (cfg : Cfg) (hv : cfg.valid) (ha : A2mValid cfg) (st : A2mSt) (p w : Bytes) (X : List Bool) (z : Nat)
    (J : List Nat) (h : RecAt cfg.digital st w X z J) :
    match a2mSeqLine cfg st p with
    | .inr r => Good r
    | .inl st' => ∃ z' J', RecAt cfg.digital st' (w ++ kept p) [true] z' J' ∧
        st' = { st with cur := (if cfg.digital then dsqcat cfg.inmap st.cur p else strmapcat cfg.inmap st.cur p).2,
                        fl := st'.fl, tc := st'.tc, tn := st'.tn } := by
  have hrun := a2mSeqLine_run cfg st p w X z J h
  obtain ⟨hrl, hst⟩ := rowLen_cat cfg st.cur p
  have hne := cat_noExc cfg hv.noExc st.cur p
  revert hrun
  cases a2mSeqLine cfg st p with
  | inr r =>
    intro hh
    rcases hh.1 with ⟨msg, rfl, hm⟩ | ⟨_, he⟩
    · exact hm
    · exact absurd he hne
  | inl st' =>
    intro ⟨hok, hnul, hfit, he⟩
    obtain ⟨_, hallok, hcount⟩ := mapLoop_ok_length cfg.inmap p .ok [] (hst.symm.trans hok)
    refine ⟨_, _, { len := ?_, fl := by rw [he], X1 := by simp, tc := by rw [he], tn := by rw [he], room := ?_ }, by rw [he]⟩
    · rw [he]
      show rowLen cfg.digital _ = _
      rw [hrl, hcount, stores_eq_kept cfg.inmap ha.sync p hnul hallok, h.len, List.length_append]; simp
    · rw [he]
      intro h0
      have h0' : st.nseq ≠ 0 := h0
      have hb : (st.nseq == 0) = false := by simpa using h0'
      have := h.room h0'
      have hf : consCount (w ++ kept p) ≤ st.ncons := hfit.resolve_left h0'
      rw [consCount_append] at hf ⊢
      simp only [hb, Bool.false_eq_true, if_false]
      exact ⟨hf, by show st.ncons ≤ _; omega⟩

theorem a2mSeqLine_inv (cfg : Cfg) (hv : cfg.valid) (ha : A2mValid cfg) (st : A2mSt) (p : Bytes)
    (h : A2mInv cfg st) (hl : st.lead = false) : StepGood (A2mInv cfg) (a2mSeqLine cfg st p) := by
  obtain ⟨w, X, z, J, hr, _⟩ := h.cur hl
  have hrec := a2mSeqLine_recAt cfg hv ha st p w X z J hr
  have hcat := curOk_cat cfg hv st.cur p h.cur_ok
  revert hrec
  cases a2mSeqLine cfg st p with
  | inr r => exact id
  | inl st' =>
    intro ⟨z', J', hr', he⟩
    rw [stepGood_inl, he]
    exact
      { alloc := h.alloc, recs_len := h.recs_len, first := h.first, nins_len := h.nins_len, recs_ok := h.recs_ok
        tn_len := fun hx => by
          show st.ncons + 1 ≤ st'.tn.length
          have := (hr'.room (by rw [he]; exact hx)).2
          rw [he] at this
          have : st.ncons ≤ st'.tc + z' := by rw [hr'.tc]; exact this
          have hA : (runsL [] 0 (w ++ kept p)).1.length = st'.tc := by rw [runsL_length, hr'.tc]; simp
          rw [hr'.tn]; simp only [List.length_append, List.length_cons, List.length_replicate, hA]
          omega
        lead_names := fun hx => by simp [hl] at hx
        rec_names := fun _ => h.rec_names hl
        cur_ok := hcat
        cur := fun _ => ⟨_, _, _, _, by rw [← he]; exact hr', Or.inl rfl⟩ }

theorem a2mChars_notOk (nseq ncons alloc : Nat) :
    ∀ (p : Bytes) (s : LineSt) (r : Res Msa), a2mChars nseq ncons alloc p s = .inr r → ∀ m, r ≠ .ok m := by
  intro p
  induction p with
  | nil => intro s r h; simp [a2mChars] at h
  | cons c rest ih =>
    intro s r h m
    unfold a2mChars at h
    split at h
    · exact ih s r h m
    · split at h
      · simp at h; rw [← h]; simp
      · simp at h; rw [← h]; simp
      · split at h
        · simp at h; rw [← h]; simp
        · exact ih _ r h m

theorem a2mSeqLine_notOk (cfg : Cfg) (st : A2mSt) (p : Bytes) : NotOk (a2mSeqLine cfg st p) := by
  intro m
  unfold a2mSeqLine
  simp only
  split
  · simp
  · split
    · rename_i r hr
      intro he
      simp only [Sum.inr.injEq] at he
      exact a2mChars_notOk _ _ _ _ _ r hr m he
    · split
      · simp
      · split <;> simp

theorem a2mStep_spec (cfg : Cfg) (st : A2mSt) (line : Bytes) :
    StepSpec (cfg.valid ∧ A2mValid cfg ∧ A2mInv cfg st) (A2mInv cfg) (a2mStep cfg st line) := by
  unfold a2mStep
  refine .ite (fun hl => .ite (fun _ h => h.2.2) fun _ => ?_) fun hl => ?_
  · -- the first non-blank line must open a record
    dsimp only
    cases line.dropWhile isSpace with
    | nil => exact .eformat
    | cons c r =>
      dsimp only
      refine .ite (fun _ => .eformat) fun _ => ?_
      exact (a2mStartRecord_spec cfg st (c :: r)).imp fun h => { toA2mCommon := h.2.2.toA2mCommon, names_len := h.2.2.lead_names hl }
  · have hl' : st.lead = false := by simpa using hl
    dsimp only
    cases line.dropWhile isSpace with
    | nil => exact fun h => h.2.2
    | cons c rest =>
      dsimp only
      refine .ite (fun _ => ?_) fun _ => ?_
      · -- '>': the record ends and the next one starts
        have hf := a2mFinishRecord_spec cfg st
        cases hfr : a2mFinishRecord cfg st with
        | inl st' =>
          rw [hfr] at hf
          exact (a2mStartRecord_spec cfg st' (c :: rest)).imp fun h => (hf ⟨h.2.2, hl'⟩).1
        | inr r => rw [hfr] at hf; exact hf.imp fun h => ⟨h.2.2, hl'⟩
      · -- a sequence line: `a2mSeqLine_inv` reads `a2mSeqLine_run`, which speaks of a record in normal form; that the line
        -- never answers eslOK holds of every state: `StepSpec.of` joins the two
        exact StepSpec.of (a2mSeqLine_notOk cfg st _) fun ⟨hv, ha, h⟩ => a2mSeqLine_inv cfg hv ha st _ h hl'

theorem a2mFinish_good (cfg : Cfg) (ha : A2mValid cfg) (st : A2mSt) (h : A2mInv cfg st) : Good (a2mFinish cfg st) := by
  unfold a2mFinish
  by_cases hl : st.lead = true
  · simp [hl]
  · have hl' : st.lead = false := by simpa using hl
    simp only [hl', Bool.false_eq_true, if_false]
    have hf := (a2mFinishRecord_spec cfg st).good ⟨h, hl'⟩
    cases hfr : a2mFinishRecord cfg st with
    | inr r => rw [hfr] at hf; simpa using hf
    | inl st' =>
      rw [hfr] at hf
      simp only [stepGood_inl] at hf
      exact a2mPad_good cfg ha st' hf.1 (by rw [hf.2.1]; omega)

/-- **A2M reader, every input**: the outcome of `esl_msafile_a2m_Read` is a documented normal one (no out-of-bounds or
    uninitialised access in the reader or the padding functions, no internal exception) and a returned alignment is well formed.
    `hv` = the input map emits only storable symbols; `ha` = its classification of bytes agrees with the `csflag` loop
    and the gap symbol is storable (both are conditions on the table, see `Msafile/ConfigFacts.lean`). -/
theorem a2mRead_good (cfg : Cfg) (hv : cfg.valid) (ha : A2mValid cfg) (lines : List Bytes) : Good (a2mRead cfg lines).1 :=
  runLines_inv (a2mStep cfg) (a2mFinish cfg) (A2mInv cfg) Good (fun st l h => (a2mStep_spec cfg st l).good ⟨hv, ha, h⟩)
    (fun st h => a2mFinish_good cfg ha st h) lines {} (a2mInv_init cfg)

theorem a2mFinishRecord_notOk (cfg : Cfg) (st : A2mSt) : NotOk (a2mFinishRecord cfg st) := (a2mFinishRecord_spec cfg st).notOk

theorem a2mStep_notOk (cfg : Cfg) (st : A2mSt) (l : Bytes) : NotOk (a2mStep cfg st l) := (a2mStep_spec cfg st l).notOk

/-- after a successful A2M read nothing is left: the next `esl_msafile_Read` returns eslEOF -/
theorem a2mRead_ok_consumes (cfg : Cfg) (lines : List Bytes) (m : Msa) (h : (a2mRead cfg lines).1 = .ok m) :
    (a2mRead cfg lines).2 = [] ∧ (a2mRead cfg (a2mRead cfg lines).2).1 = .eof := by
  have h1 : (a2mRead cfg lines).2 = [] := runLines_ok_consumes _ _ (a2mStep_notOk cfg) lines {} m h
  rw [h1]
  exact ⟨rfl, rfl⟩

end EaselModel.Msafile
