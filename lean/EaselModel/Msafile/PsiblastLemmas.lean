import EaselModel.Msafile.Lemmas
import EaselModel.Msafile.AfaLemmas
import EaselModel.Msafile.ClustalLemmas
import EaselModel.Msafile.Psiblast
/-! Invariant of the PSI-BLAST reader and the proof that it is total and returns well-formed alignments only
    (the row storage part is `BlkInv` of `ClustalLemmas.lean`). -/
namespace EaselModel.Msafile

theorem takeWhile_stop (q : UInt8 → Bool) : ∀ l : Bytes, (l.takeWhile q).length < l.length →
    ∃ c, l[(l.takeWhile q).length]? = some c ∧ q c = false := by
  intro l
  induction l with
  | nil => intro h; simp at h
  | cons x xs ih =>
    intro h
    by_cases hq : q x = true
    · simp only [List.takeWhile_cons, hq, if_true, List.length_cons] at h ⊢
      obtain ⟨c, h1, h2⟩ := ih (by omega)
      exact ⟨c, by simpa using h1, h2⟩
    · have hq' : q x = false := by simpa using hq
      simp only [List.takeWhile_cons, hq', Bool.false_eq_true, if_false, List.length_nil]
      exact ⟨x, by simp, hq'⟩

theorem scanTo_stop (P : UInt8 → Bool) (p : Bytes) (pos : Nat) (h : scanTo P p pos < p.length) :
    ∃ c, p[scanTo P p pos]? = some c ∧ P c = true := by
  unfold scanTo at h ⊢
  have hlt : ((p.drop pos).takeWhile (fun c => !P c)).length < (p.drop pos).length := by
    rw [List.length_drop]; omega
  obtain ⟨c, h1, h2⟩ := takeWhile_stop (fun c => !P c) (p.drop pos) hlt
  rw [List.getElem?_drop] at h1
  exact ⟨c, h1, by simpa using h2⟩

theorem scanBack_spec (p : Bytes) : ∀ (pos s : Nat), s ≤ pos → pos < p.length →
    (∃ c, p[s]? = some c ∧ isSpace c = false) → ∃ r, scanBack p pos = some r ∧ s ≤ r ∧ r ≤ pos := by
  intro pos
  induction pos with
  | zero =>
    intro s hs _ _
    exact ⟨0, rfl, by omega, by omega⟩
  | succ pos ih =>
    intro s hs hlt hc
    unfold scanBack
    rw [List.getElem?_eq_getElem hlt]
    simp only
    by_cases hsp : isSpace p[pos + 1] = true
    · simp only [hsp, Bool.not_true, Bool.false_eq_true, if_false]
      have hne : s ≠ pos + 1 := by
        intro he
        obtain ⟨c, h1, h2⟩ := hc
        rw [he, List.getElem?_eq_getElem hlt] at h1
        simp only [Option.some.injEq] at h1
        rw [h1] at hsp
        rw [h2] at hsp
        exact absurd hsp (by simp)
      obtain ⟨r, h1, h2, h3⟩ := ih s (by omega) (by omega) hc
      exact ⟨r, h1, h2, by omega⟩
    · have hsp' : isSpace p[pos + 1] = false := by simpa using hsp
      simp only [hsp', Bool.not_false, if_true]
      exact ⟨pos + 1, rfl, hs, by omega⟩

def ColsRes.good (p : Bytes) : ColsRes → Prop
  | .ok c => c.nameStart + c.nameLen ≤ p.length ∧ c.seqStart + c.seqLen ≤ p.length ∧ 1 ≤ c.seqLen
  | .invalid => True
  | .fault => False

/-- `psiCols` never reads outside the line and delivers a name field and a non-empty sequence field inside it -/
theorem psiCols_ok (p : Bytes) : (psiCols p).good p := by
  unfold psiCols
  simp only
  generalize hA : scanTo (fun c => !isSpace c) p 0 = a
  generalize hB : scanTo isSpace p (a + 1) = b
  generalize hC : scanTo (fun c => !isSpace c) p (b + 1) = c3
  have h1 : a + 1 ≤ b := by rw [← hB]; exact scanTo_ge _ _ _
  have h2 : b + 1 ≤ c3 := by rw [← hC]; exact scanTo_ge _ _ _
  split
  · trivial
  · rename_i hlt
    have hlt : c3 < p.length := by omega
    show ColsRes.good p _
    have hstop : ∃ c, p[c3]? = some c ∧ isSpace c = false := by
      have := scanTo_stop (fun c => !isSpace c) p (b + 1) (by rw [hC]; exact hlt)
      rw [hC] at this
      obtain ⟨c, e1, e2⟩ := this
      exact ⟨c, e1, by simpa using e2⟩
    obtain ⟨r, hr1, hr2, hr3⟩ := scanBack_spec p (p.length - 1) c3 (by omega) (by omega) hstop
    rw [hr1]
    simp only
    have : ¬ (r < c3) := by omega
    rw [if_neg this]
    show a + (b - a) ≤ p.length ∧ c3 + (r + 1 - c3) ≤ p.length ∧ 1 ≤ r + 1 - c3
    refine ⟨by omega, by omega, by omega⟩

/-- what the RF loop returns: the line keeps its length; a case conflict has a message; an access outside the line only if `H` fails -/
def RfRes.good (H : Prop) (n : Nat) : RfRes → Prop
  | .ok rf' => rf'.length = n
  | .eformat msg => msg ≠ ""
  | .fault => ¬ H

theorem RfRes.good.imp {H H' : Prop} {n : Nat} {r : RfRes} (h : r.good H' n) (hH : H → H') : r.good H n := by
  cases r with
  | fault => exact fun hh => h (hH hh)
  | _ => exact h

theorem rfLoop_ok : ∀ (seq rf : Bytes) (off : Nat), (rfLoop seq rf off).good (off + seq.length ≤ rf.length) rf.length := by
  intro seq
  induction seq with
  | nil => intro rf off; rfl
  | cons c rest ih =>
    intro rf off
    have next : ∀ rf' : Bytes, rf'.length = rf.length →
        (rfLoop rest rf' (off + 1)).good (off + (c :: rest).length ≤ rf.length) rf.length := fun rf' e => by
      have := ih rf' (off + 1); rw [e] at this
      exact this.imp fun h => by simp only [List.length_cons] at h; omega
    -- `rf[off]` lies inside the line
    have hfault : rf[off]? = none → ¬ (off + (c :: rest).length ≤ rf.length) := fun hg h => by
      rw [List.getElem?_eq_none_iff] at hg; simp only [List.length_cons] at h; omega
    unfold rfLoop
    split
    · exact next rf rfl
    · split
      · cases hg : rf[off]? with
        | none => exact hfault hg
        | some x =>
          dsimp only
          split
          · exact (by decide : ("unexpected upper case residue" : String) ≠ "")
          · exact next _ (List.length_set ..)
      · split
        · cases hg : rf[off]? with
          | none => exact hfault hg
          | some x =>
            dsimp only
            split
            · exact (by decide : ("unexpected lower case residue" : String) ≠ "")
            · exact next _ (List.length_set ..)
        · exact next rf rfl

/-- invariant of the PSI-BLAST reader at a `esl_msafile_GetLine` call -/
structure PsiInv (cfg : Cfg) (st : BlkSt) : Prop where
  blk : st.phase ≠ .between → BlkInv cfg st
  fresh : st.phase = .lead ∨ st.phase = .hdr → st.nblocks = 0 ∧ st.names = []
  inb : st.phase = .inblock → 1 ≤ st.idx ∧ 1 ≤ st.bsl ∧ st.rf.length = st.alen + st.bsl
  betw : st.phase = .between →
    BlkInv cfg { st with idx := 0 } ∧ st.nblocks ≠ 0 ∧ 1 ≤ st.nseq ∧ 1 ≤ st.alen ∧ st.rf.length = st.alen

theorem psiInv_init (cfg : Cfg) : PsiInv cfg {} :=
  { blk := fun _ => blkInv_init cfg, fresh := fun _ => ⟨rfl, rfl⟩,
    inb := fun h => by simp at h, betw := fun h => by simp at h }

/-- a row line read with `idx`, `alen`, `nblocks` already set for it; the RF line reaches `alen` when the block starts and
    `alen + bsl` inside it -/
theorem psiSeqLine_spec (cfg : Cfg) (st : BlkSt) (p : Bytes) :
    StepSpec (cfg.valid ∧ BlkInv cfg st ∧ (st.idx = 0 → st.alen ≤ st.rf.length) ∧ (st.idx ≠ 0 → st.rf.length = st.alen + st.bsl))
      (PsiInv cfg) (psiSeqLine cfg st p) := by
  unfold psiSeqLine
  have hcols := psiCols_ok p
  cases hc : psiCols p with
  | fault => rw [hc] at hcols; exact absurd hcols (by simp [ColsRes.good])
  | invalid => exact .eformat
  | ok c =>
    rw [hc] at hcols
    dsimp only
    obtain ⟨hc1, hc2, hc3⟩ := hcols
    refine .ite (fun _ => .eformat) fun _ => .ite (fun _ => .eformat) fun hs2 => ?_
    obtain ⟨name, hname⟩ := slice_isSome p c.nameStart c.nameLen hc1
    obtain ⟨seq, hseq⟩ := slice_isSome p c.seqStart c.seqLen hc2
    rw [hname, hseq]
    dsimp only
    have hseqlen := slice_length _ _ _ _ hseq
    have hmis := misaligned_false st c hs2
    -- the RF line: (re)allocated to `alen + seq_len` at the first row of a block
    generalize hrf0def : (if st.idx == 0 then st.rf.take st.alen ++ List.replicate c.seqLen 45 else st.rf) = rf0
    have hrf0len : (st.idx = 0 → st.alen ≤ st.rf.length) → (st.idx ≠ 0 → st.rf.length = st.alen + st.bsl) →
        rf0.length = st.alen + c.seqLen := fun hrf0 hrf1 => by
      rw [← hrf0def]
      by_cases hi : st.idx = 0
      · have : (st.idx == 0) = true := by simp [hi]
        simp only [this, if_true, List.length_append, List.length_take, List.length_replicate]
        have := hrf0 hi; omega
      · have : (st.idx == 0) = false := by simp [hi]
        simp only [this, Bool.false_eq_true, if_false]
        rw [hrf1 hi, hmis hi]
    have hrfl := rfLoop_ok seq rf0 st.alen
    cases hrl : rfLoop seq rf0 st.alen with
    | fault => rw [hrl] at hrfl; exact .fault fun ⟨_, _, h0, h1⟩ => hrfl (by rw [hrf0len h0 h1, hseqlen]; omega)
    | eformat msg => rw [hrl] at hrfl; exact .eformat hrfl
    | ok rf1 =>
      rw [hrl] at hrfl
      have hrfl : rf1.length = rf0.length := hrfl
      dsimp only
      have hsb := setBlock_post st c hmis
      have hs := blkStore_spec cfg false { setBlock st c with phase := Phase.inblock, rf := rf1 } name seq
      have hH : (cfg.valid ∧ BlkInv cfg st ∧ (st.idx = 0 → st.alen ≤ st.rf.length) ∧ (st.idx ≠ 0 → st.rf.length = st.alen + st.bsl)) →
          cfg.valid ∧ BlkInv cfg { setBlock st c with phase := Phase.inblock, rf := rf1 } ∧ (setBlock st c).bsl = seq.length :=
        fun ⟨hv, h, _⟩ => ⟨hv, h.set_block c hmis _ _, by rw [hsb.bsl, hseqlen]⟩
      cases hbs : blkStore cfg false { setBlock st c with phase := Phase.inblock, rf := rf1 } name seq with
      | inr r => rw [hbs] at hs; exact hs.imp hH
      | inl st2 =>
        rw [hbs] at hs
        intro hh
        obtain ⟨hi2, sq, nm, rows, ns, rfl, -, -⟩ := hs (hH hh)
        exact
          { blk := fun _ => hi2, fresh := fun hp => by simp at hp,
            inb := fun _ => ⟨Nat.succ_pos _, by show 1 ≤ (setBlock st c).bsl; rw [hsb.bsl]; exact hc3, by
              show rf1.length = (setBlock st c).alen + (setBlock st c).bsl
              rw [hsb.alen, hsb.bsl, hrfl, hrf0len hh.2.2.1 hh.2.2.2]⟩,
            betw := fun hp => by simp at hp }

/-- "End of one block": the block is complete; `alen` advances -/
theorem psiEndBlock_spec (cfg : Cfg) (st : BlkSt) :
    StepSpec (PsiInv cfg st ∧ st.phase = .inblock) (fun st' => PsiInv cfg st' ∧ st'.phase = .between) (psiEndBlock st) := by
  unfold psiEndBlock
  refine .ite (fun _ => .eformat) fun hchk ⟨h, hp⟩ => ?_
  have hb := h.blk (by rw [hp]; simp)
  obtain ⟨hi1, hb1, hrf⟩ := h.inb hp
  have hidx : st.idx = st.names.length := by
    by_cases h0 : st.nblocks = 0
    · exact (hb.blk0 h0).2
    · have hl := hb.later h0
      by_cases hx : st.idx = st.nseq
      · omega
      · exfalso; apply hchk; simp [h0, hx]
  have hns : (if (st.nblocks == 0) = true then st.idx else st.nseq) = st.names.length := by
    by_cases h0 : st.nblocks = 0
    · simp [h0, hidx]
    · have : (st.nblocks == 0) = false := by simp [h0]
      simp only [this, Bool.false_eq_true, if_false]
      exact hb.later h0
  refine ⟨{ blk := fun hne => absurd rfl hne, fresh := fun hx => by simp at hx, inb := fun hx => by simp at hx,
            betw := fun _ => ⟨?_, by show st.nblocks + 1 ≠ 0; omega, ?_, by show 1 ≤ st.alen + st.bsl; omega, hrf⟩ }, rfl⟩
  · exact hb.congr rfl rfl rfl (Nat.zero_le _) (fun h0 => absurd h0 (Nat.succ_ne_zero _)) (fun _ => hns) fun i => by
      show blockWant st.names.length st.idx st.alen st.bsl i = blockWant st.names.length 0 (st.alen + st.bsl) st.bsl i
      rw [hidx]; exact blockWant_next.symm
  · show 1 ≤ (if (st.nblocks == 0) = true then st.idx else st.nseq)
    rw [hns]; omega

theorem psiStep_spec (cfg : Cfg) (st : BlkSt) (line : Bytes) :
    StepSpec (cfg.valid ∧ PsiInv cfg st) (PsiInv cfg) (psiStep cfg st line) := by
  -- before the first block: blank lines are skipped, the first other line is row 0
  have hfresh : st.phase = .lead ∨ st.phase = .hdr → StepSpec (cfg.valid ∧ PsiInv cfg st) (PsiInv cfg)
      (if isBlankLine line = true then Sum.inl st else psiSeqLine cfg { st with idx := 0 } line) := fun hp => by
    refine .ite (fun _ h => h.2) fun _ => (psiSeqLine_spec cfg _ line).imp fun ⟨hv, h⟩ => ?_
    obtain ⟨hnb, hnm⟩ := h.fresh hp
    have hb := h.blk (by rcases hp with hp | hp <;> rw [hp] <;> simp)
    have hidx0 : st.idx = 0 := by
      have := hb.idx_le; rw [hnm] at this; simpa using this
    have ha0 := (hb.blk0 hnb).1
    refine ⟨hv, ?_, fun _ => by show st.alen ≤ st.rf.length; omega, fun hne => absurd rfl hne⟩
    exact hb.congr rfl rfl rfl (by rw [hnm]; exact Nat.le_refl _) (fun _ => ⟨ha0, by rw [hnm]; rfl⟩)
      (fun hne => absurd hnb hne) fun i => by
        show blockWant st.names.length st.idx st.alen st.bsl i = blockWant st.names.length 0 st.alen st.bsl i
        rw [hidx0]
  unfold psiStep
  split
  · rename_i hp; exact hfresh (Or.inl hp)
  · rename_i hp; exact hfresh (Or.inr hp)
  · rename_i hp
    refine .ite (fun _ => ?_) fun _ => (psiSeqLine_spec cfg st line).imp fun ⟨hv, h⟩ => ?_
    · exact ((psiEndBlock_spec cfg st).imp fun h => ⟨h.2, hp⟩).mono (fun _ hs hh => (hs hh).1) fun _ hr => hr
    · obtain ⟨hi1, hb1, hrf⟩ := h.inb hp
      exact ⟨hv, h.blk (by rw [hp]; simp), fun h0 => by omega, fun _ => hrf⟩
  · rename_i hp
    refine .ite (fun _ h => h.2) fun _ => (psiSeqLine_spec cfg _ line).imp fun ⟨hv, h⟩ => ?_
    obtain ⟨hb, hnb, hns, hal, hrf⟩ := h.betw hp
    exact ⟨hv, hb, fun _ => by show st.alen ≤ st.rf.length; omega, fun hne => absurd rfl hne⟩

theorem psiResult_good (cfg : Cfg) (st : BlkSt) (h : PsiInv cfg st) (hp : st.phase = .between) :
    Good (blkResult cfg st (some st.rf)) := by
  obtain ⟨hb, hnb, hns, hal, hrf⟩ := h.betw hp
  apply blkResult_good
  · have := hb.alloc
    have h1 : st.names.length ≤ st.sqalloc := this.2.2
    have h2 : st.rows.length = st.sqalloc := this.2.1
    omega
  · exact hb.later hnb
  · exact hns
  · exact hal
  · intro i cur hi hg
    have := hb.rows i cur hg
    rwa [show blkWant { st with idx := 0 } i = st.alen from blockWant_todo (Nat.zero_le _) hi] at this
  · simp [optLenOk, hrf]

theorem psiFinish_good (cfg : Cfg) (st : BlkSt) (h : PsiInv cfg st) : Good (psiFinish cfg st) := by
  unfold psiFinish
  split
  · simp
  · simp
  · rename_i hp
    have := (psiEndBlock_spec cfg st).good ⟨h, hp⟩
    cases he : psiEndBlock st with
    | inr r => rw [he] at this; simpa using this
    | inl st' =>
      rw [he] at this
      simp only [stepGood_inl] at this ⊢
      exact psiResult_good cfg st' this.1 this.2
  · rename_i hp
    exact psiResult_good cfg st h hp

/-- **PSI-BLAST reader, every input**: the outcome of `esl_msafile_psiblast_Read` is a documented normal one and a returned
    alignment (with its RF line) is well formed -/
theorem psiblastRead_good (cfg : Cfg) (hv : cfg.valid) (lines : List Bytes) : Good (psiblastRead cfg lines).1 :=
  runLines_inv (psiStep cfg) (psiFinish cfg) (PsiInv cfg) Good
    (fun st l h => (psiStep_spec cfg st l).good ⟨hv, h⟩) (fun st h => psiFinish_good cfg st h) lines {} (psiInv_init cfg)

theorem psiEndBlock_notOk (st : BlkSt) : NotOk (psiEndBlock st) := (psiEndBlock_spec ⟨none, ⟨#[]⟩⟩ st).notOk   -- any configuration does

theorem psiStep_notOk (cfg : Cfg) (st : BlkSt) (l : Bytes) : NotOk (psiStep cfg st l) := (psiStep_spec cfg st l).notOk

/-- after a successful PSI-BLAST read nothing is left: the next `esl_msafile_Read` returns eslEOF -/
theorem psiblastRead_ok_consumes (cfg : Cfg) (lines : List Bytes) (m : Msa) (h : (psiblastRead cfg lines).1 = .ok m) :
    (psiblastRead cfg lines).2 = [] ∧ (psiblastRead cfg (psiblastRead cfg lines).2).1 = .eof := by
  have h1 : (psiblastRead cfg lines).2 = [] := runLines_ok_consumes _ _ (psiStep_notOk cfg) lines {} m h
  rw [h1]
  exact ⟨rfl, rfl⟩

end EaselModel.Msafile
