import EaselModel.WorkQueue.Lemmas
/-! # The work queue under the FULL API, `esl_workqueue_Reset` at any moment

`Lemmas.lean` proves the invariant `Inv` for every schedule under the caller's contract `Admissible`, which forbids `Reset` while a
worker sleeps in `WorkerUpdate` (the contract is needed: `wq_reset_while_pending_loses_wakeup`). Here the contract on `Reset` is
dropped. What `Reset` with sleepers breaks is exactly the bookkeeping of the sleepers (`Sleepers`: `pendingWorkers` is zeroed while
they still sleep); everything the property says about BLOCKS - conservation, exclusivity, FIFO on both sides, counters in range, no
NULL queued, no overflow - is `Blocks`, which `step_split` keeps for every history of `Init` (each block once, at most `size` of
them), `Remove`, `Reset`, `Complete`, `ReaderUpdate`, `WorkerUpdate` and wake-ups. -/
namespace EaselModel.WorkQueue

/-- every history of the full API (`Reset` at any moment); the only contract left is the one on `Init` -/
inductive ReachableFull (size : Nat) : Sys → Prop
  | create : ReachableFull size (Sys.create size)
  | step {s s' : Sys} {l : Label} : ReachableFull size s → AdmissibleCore s l → step s l = .ok s' → ReachableFull size s'

theorem reachableFull_blocks {size : Nat} (hs : 0 < size) {s : Sys} (h : ReachableFull size s) : Blocks s := by
  induction h with
  | create => exact blocks_create size hs
  | step _ ha hst ih => exact (step_split _ _ _ ih ha hst).1

end EaselModel.WorkQueue
