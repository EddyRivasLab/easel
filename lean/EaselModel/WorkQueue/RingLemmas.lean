import EaselModel.WorkQueue.Model
import EaselModel.WorkQueue.Proj
import EaselModel.Core.ListLookup
/-! Ring-buffer lemmas: `push` appends, `pop` removes the first, `popLast` removes the last element of `contents`. -/
namespace EaselModel.WorkQueue

/-- two offsets below `n` from the same head land on different slots -/
theorem ring_idx_ne (h n i j : Nat) (hij : i < j) (hj : j < n) : (h + i) % n ≠ (h + j) % n := by
  intro e
  have h1 := Nat.sub_mod_eq_zero_of_mod_eq e.symm
  have h2 : h + j - (h + i) = j - i := by omega
  rw [h2, Nat.mod_eq_of_lt (by omega)] at h1
  omega

/-- well-formed ring of capacity `size` -/
structure Ring.Wf (r : Ring) (size : Nat) : Prop where
  len : r.slots.length = size
  head : r.head < size
  cnt : r.cnt ≤ size

theorem Ring.wf_empty (size : Nat) (h : 0 < size) : (Ring.empty size).Wf size :=
  ⟨by simp [Ring.empty], h, by simp [Ring.empty]⟩

theorem Ring.contents_empty (size : Nat) : (Ring.empty size).contents size = [] := by
  simp [Ring.empty, Ring.contents]

theorem Ring.length_contents (r : Ring) (size : Nat) : (r.contents size).length = r.cnt := by
  simp [Ring.contents]

theorem Ring.wf_push (r : Ring) (size : Nat) (b : Option Block) (h : r.Wf size) (hc : r.cnt < size) :
    (r.push size b).Wf size :=
  ⟨by simp [Ring.push, h.len], h.head, by simp [Ring.push]; omega⟩

theorem Ring.contents_push (r : Ring) (size : Nat) (b : Option Block) (h : r.Wf size) (hc : r.cnt < size) :
    (r.push size b).contents size = r.contents size ++ [b] := by
  have hs : 0 < size := by have := h.head; omega
  simp only [Ring.contents, Ring.push, List.range_succ, List.map_append, List.map_cons, List.map_nil, Ring.get]
  congr 1
  · apply List.map_congr_left
    intro i hi
    rw [List.mem_range] at hi
    rw [getD_set, if_neg fun e => ring_idx_ne _ _ _ _ hi hc e.1.symm]
  · rw [getD_set, if_pos ⟨rfl, by rw [h.len]; exact Nat.mod_lt _ hs⟩]

theorem Ring.wf_pop (r : Ring) (size : Nat) (h : r.Wf size) : (r.pop size).2.Wf size :=
  ⟨by simp [Ring.pop, h.len], Nat.mod_lt _ (by have := h.head; omega), by have := h.cnt; simp [Ring.pop]; omega⟩

theorem Ring.contents_pop (r : Ring) (size : Nat) (h : r.Wf size) (hc : 0 < r.cnt) :
    r.contents size = (r.pop size).1 :: (r.pop size).2.contents size := by
  have hcnt := h.cnt
  obtain ⟨c, hc'⟩ : ∃ c, r.cnt = c + 1 := ⟨r.cnt - 1, by omega⟩
  simp only [Ring.contents, Ring.pop, hc', List.range_succ_eq_map, List.map_cons, List.map_map, Ring.get,
    Nat.add_zero, Nat.add_sub_cancel]
  congr 1
  · rw [Nat.mod_eq_of_lt h.head]
  · apply List.map_congr_left
    intro i hi
    rw [List.mem_range] at hi
    simp only [Function.comp, Nat.succ_eq_add_one]
    have e : ((r.head + 1) % size + i) % size = (r.head + (i + 1)) % size := by
      rw [Nat.mod_add_mod]; congr 1; omega
    rw [e]
    have hne : r.head ≠ (r.head + (i + 1)) % size := by
      have := ring_idx_ne r.head size 0 (i + 1) (by omega) (by omega)
      rwa [Nat.add_zero, Nat.mod_eq_of_lt h.head] at this
    rw [getD_set, if_neg fun e => hne e.1]

theorem Ring.wf_popLast (r : Ring) (size : Nat) (h : r.Wf size) : (r.popLast size).2.Wf size :=
  ⟨by simp [Ring.popLast, h.len], h.head, by have := h.cnt; simp [Ring.popLast]; omega⟩

theorem Ring.contents_popLast (r : Ring) (size : Nat) (h : r.Wf size) (hc : 0 < r.cnt) :
    r.contents size = (r.popLast size).2.contents size ++ [(r.popLast size).1] := by
  have hcnt := h.cnt
  obtain ⟨c, hc'⟩ : ∃ c, r.cnt = c + 1 := ⟨r.cnt - 1, by omega⟩
  simp only [Ring.contents, Ring.popLast, hc', List.range_succ, List.map_append, List.map_cons, List.map_nil,
    Ring.get, Nat.add_sub_cancel]
  have e : r.head + (c + 1) - 1 = r.head + c := by omega
  rw [e]
  congr 1
  apply List.map_congr_left
  intro i hi
  rw [List.mem_range] at hi
  rw [getD_set, if_neg fun e => ring_idx_ne _ _ _ _ hi (by omega) e.1.symm]

theorem eq_map_some_of_all_isSome (l : List (Option Block)) (h : ∀ x ∈ l, x.isSome) :
    l = (l.filterMap id).map some := by
  induction l with
  | nil => rfl
  | cons x xs ih =>
    cases x with
    | none => have := h none (by simp); simp at this
    | some y =>
      have := ih (fun x hx => h x (by simp [hx]))
      simp only [List.filterMap_cons, id, List.map_cons]
      rw [← this]

/-- all queued pointers are non-NULL: `contents = blocks.map some` -/
def Ring.AllSome (r : Ring) (size : Nat) : Prop := r.contents size = (r.blocks size).map some

theorem Ring.allSome_empty (size : Nat) : (Ring.empty size).AllSome size := by
  simp [Ring.AllSome, Ring.blocks, Ring.contents_empty]

theorem Ring.blocks_empty (size : Nat) : (Ring.empty size).blocks size = [] := by
  simp [Ring.blocks, Ring.contents_empty]

theorem Ring.length_blocks (r : Ring) (size : Nat) (h : r.AllSome size) : (r.blocks size).length = r.cnt := by
  have := congrArg List.length h
  rw [Ring.length_contents, List.length_map] at this
  exact this.symm

theorem Ring.blocks_push (r : Ring) (size : Nat) (b : Block) (h : r.Wf size) (hc : r.cnt < size) :
    (r.push size (some b)).blocks size = r.blocks size ++ [b] := by
  simp [Ring.blocks, Ring.contents_push r size (some b) h hc, List.filterMap_append]

theorem Ring.allSome_push (r : Ring) (size : Nat) (b : Block) (h : r.Wf size) (hc : r.cnt < size)
    (ha : r.AllSome size) : (r.push size (some b)).AllSome size := by
  unfold Ring.AllSome
  rw [Ring.blocks_push r size b h hc, Ring.contents_push r size (some b) h hc, ha]
  simp

/-- popping a non-empty all-non-NULL ring yields its first block -/
theorem Ring.pop_spec (r : Ring) (size : Nat) (h : r.Wf size) (hc : 0 < r.cnt) (ha : r.AllSome size) :
    ∃ b, (r.pop size).1 = some b ∧ r.blocks size = b :: (r.pop size).2.blocks size ∧ (r.pop size).2.AllSome size := by
  have hp := Ring.contents_pop r size h hc
  unfold Ring.AllSome at ha
  rw [hp] at ha
  cases hb : r.blocks size with
  | nil => rw [hb] at ha; simp at ha
  | cons b bs =>
    rw [hb] at ha
    simp only [List.map_cons, List.cons.injEq] at ha
    refine ⟨b, ha.1, ?_, ?_⟩
    · have : (r.pop size).2.blocks size = bs := by
        simp [Ring.blocks, ha.2, List.filterMap_map]
      rw [this]
    · unfold Ring.AllSome
      have : (r.pop size).2.blocks size = bs := by
        simp [Ring.blocks, ha.2, List.filterMap_map]
      rw [this, ha.2]

theorem Ring.popLast_spec (r : Ring) (size : Nat) (h : r.Wf size) (hc : 0 < r.cnt) (ha : r.AllSome size) :
    ∃ b, (r.popLast size).1 = some b ∧ r.blocks size = (r.popLast size).2.blocks size ++ [b]
      ∧ (r.popLast size).2.AllSome size := by
  have hp := Ring.contents_popLast r size h hc
  have hbl : r.blocks size = (r.popLast size).2.blocks size ++ ((r.popLast size).1).toList := by
    simp only [Ring.blocks, hp, List.filterMap_append]
    cases (r.popLast size).1 <;> simp
  have hall : ∀ x ∈ r.contents size, x.isSome := by
    rw [ha]; intro x hx; simp at hx; obtain ⟨a, _, rfl⟩ := hx; rfl
  cases hl : (r.popLast size).1 with
  | none =>
    have := hall none (by rw [hp, hl]; simp)
    simp at this
  | some b =>
    refine ⟨b, rfl, by rw [hbl, hl]; rfl, ?_⟩
    exact eq_map_some_of_all_isSome _ (fun x hx => hall x (by rw [hp]; simp [hx]))

/-- A ring with the history of what was appended to it (`enq`) and taken from its head (`deq`) is a FIFO queue: well formed, no NULL
    queued, and what it holds is what was appended and not yet taken. -/
structure Queue (q : Ring) (size : Nat) (enq deq : List Block) : Prop where
  wf : q.Wf size
  allSome : q.AllSome size
  fifo : enq = deq ++ q.blocks size

theorem Queue.empty (size : Nat) (h : 0 < size) : Queue (Ring.empty size) size [] [] :=
  ⟨Ring.wf_empty _ h, Ring.allSome_empty _, by simp [Ring.blocks_empty]⟩

variable {q : Ring} {size : Nat} {enq deq : List Block}

theorem Queue.push (h : Queue q size enq deq) (b : Block) (hc : q.cnt < size) :
    Queue (q.push size (some b)) size (enq ++ [b]) deq ∧ (q.push size (some b)).blocks size = q.blocks size ++ [b] :=
  have hb := Ring.blocks_push q size b h.wf hc
  ⟨⟨Ring.wf_push _ _ _ h.wf hc, Ring.allSome_push _ _ _ h.wf hc h.allSome, by rw [hb, h.fifo, List.append_assoc]⟩, hb⟩

theorem Queue.pop (h : Queue q size enq deq) (hc : 0 < q.cnt) :
    ∃ b, (q.pop size).1 = some b ∧ q.blocks size = b :: (q.pop size).2.blocks size ∧
      Queue (q.pop size).2 size enq (deq ++ [b]) := by
  obtain ⟨b, h1, h2, h3⟩ := Ring.pop_spec q size h.wf hc h.allSome
  exact ⟨b, h1, h2, Ring.wf_pop _ _ h.wf, h3, by rw [h.fifo, h2, List.append_assoc]; rfl⟩

/-- `esl_workqueue_Remove` takes back the block appended last -/
theorem Queue.popLast (h : Queue q size enq deq) (hc : 0 < q.cnt) :
    ∃ b, (q.popLast size).1 = some b ∧ q.blocks size = (q.popLast size).2.blocks size ++ [b] ∧
      Queue (q.popLast size).2 size enq.dropLast deq := by
  obtain ⟨b, h1, h2, h3⟩ := Ring.popLast_spec q size h.wf hc h.allSome
  exact ⟨b, h1, h2, Ring.wf_popLast _ _ h.wf, h3, by rw [h.fifo, h2, ← List.append_assoc, List.dropLast_concat]⟩

theorem Queue.cnt (h : Queue q size enq deq) : (q.blocks size).length = q.cnt := Ring.length_blocks _ _ h.allSome

end EaselModel.WorkQueue
