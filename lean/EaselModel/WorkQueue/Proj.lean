import EaselModel.WorkQueue.Model
/-! Projection lemmas (all `rfl`, `@[simp]`): every field of `Sys` but `got`, for `give`, `putReader`, `putWorker`, `takeReader`, `takeWorker`,
`broadcastWorkers` (the building blocks of `step`) and `signalReader`. -/
namespace EaselModel.WorkQueue

@[simp] theorem give_size (s : Sys) (t : Nat) (ob : Option Block) : (give s t ob).size = s.size := rfl
@[simp] theorem give_rq (s : Sys) (t : Nat) (ob : Option Block) : (give s t ob).rq = s.rq := rfl
@[simp] theorem give_wq (s : Sys) (t : Nat) (ob : Option Block) : (give s t ob).wq = s.wq := rfl
@[simp] theorem give_pending (s : Sys) (t : Nat) (ob : Option Block) : (give s t ob).pending = s.pending := rfl
@[simp] theorem give_rWait (s : Sys) (t : Nat) (ob : Option Block) : (give s t ob).rWait = s.rWait := rfl
@[simp] theorem give_wWait (s : Sys) (t : Nat) (ob : Option Block) : (give s t ob).wWait = s.wWait := rfl
@[simp] theorem give_held (s : Sys) (t : Nat) (ob : Option Block) : (give s t ob).held = heldAdd t ob s.held := rfl
@[simp] theorem give_inited (s : Sys) (t : Nat) (ob : Option Block) : (give s t ob).inited = s.inited := rfl
@[simp] theorem give_rEnq (s : Sys) (t : Nat) (ob : Option Block) : (give s t ob).rEnq = s.rEnq := rfl
@[simp] theorem give_rDeq (s : Sys) (t : Nat) (ob : Option Block) : (give s t ob).rDeq = s.rDeq := rfl
@[simp] theorem give_wEnq (s : Sys) (t : Nat) (ob : Option Block) : (give s t ob).wEnq = s.wEnq := rfl
@[simp] theorem give_wDeq (s : Sys) (t : Nat) (ob : Option Block) : (give s t ob).wDeq = s.wDeq := rfl

@[simp] theorem putReader_size (s : Sys) (b : Block) : (putReader s b).size = s.size := rfl
@[simp] theorem putReader_rq (s : Sys) (b : Block) : (putReader s b).rq = s.rq.push s.size (some b) := rfl
@[simp] theorem putReader_wq (s : Sys) (b : Block) : (putReader s b).wq = s.wq := rfl
@[simp] theorem putReader_pending (s : Sys) (b : Block) : (putReader s b).pending = s.pending := rfl
@[simp] theorem putReader_rWait (s : Sys) (b : Block) : (putReader s b).rWait = if s.rq.cnt = 0 then s.rWait.map (fun _ => true) else s.rWait := rfl
@[simp] theorem putReader_wWait (s : Sys) (b : Block) : (putReader s b).wWait = s.wWait := rfl
@[simp] theorem putReader_held (s : Sys) (b : Block) : (putReader s b).held = s.held := rfl
@[simp] theorem putReader_inited (s : Sys) (b : Block) : (putReader s b).inited = s.inited := rfl
@[simp] theorem putReader_rEnq (s : Sys) (b : Block) : (putReader s b).rEnq = s.rEnq ++ [b] := rfl
@[simp] theorem putReader_rDeq (s : Sys) (b : Block) : (putReader s b).rDeq = s.rDeq := rfl
@[simp] theorem putReader_wEnq (s : Sys) (b : Block) : (putReader s b).wEnq = s.wEnq := rfl
@[simp] theorem putReader_wDeq (s : Sys) (b : Block) : (putReader s b).wDeq = s.wDeq := rfl

@[simp] theorem putWorker_size (s : Sys) (b : Block) : (putWorker s b).size = s.size := rfl
@[simp] theorem putWorker_rq (s : Sys) (b : Block) : (putWorker s b).rq = s.rq := rfl
@[simp] theorem putWorker_wq (s : Sys) (b : Block) : (putWorker s b).wq = s.wq.push s.size (some b) := rfl
@[simp] theorem putWorker_pending (s : Sys) (b : Block) : (putWorker s b).pending = s.pending := rfl
@[simp] theorem putWorker_rWait (s : Sys) (b : Block) : (putWorker s b).rWait = s.rWait := rfl
@[simp] theorem putWorker_wWait (s : Sys) (b : Block) : (putWorker s b).wWait = if s.pending ≠ 0 then s.wWait.map (fun e => (e.1, true)) else s.wWait := rfl
@[simp] theorem putWorker_held (s : Sys) (b : Block) : (putWorker s b).held = s.held := rfl
@[simp] theorem putWorker_inited (s : Sys) (b : Block) : (putWorker s b).inited = s.inited := rfl
@[simp] theorem putWorker_rEnq (s : Sys) (b : Block) : (putWorker s b).rEnq = s.rEnq := rfl
@[simp] theorem putWorker_rDeq (s : Sys) (b : Block) : (putWorker s b).rDeq = s.rDeq := rfl
@[simp] theorem putWorker_wEnq (s : Sys) (b : Block) : (putWorker s b).wEnq = s.wEnq ++ [b] := rfl
@[simp] theorem putWorker_wDeq (s : Sys) (b : Block) : (putWorker s b).wDeq = s.wDeq := rfl

@[simp] theorem takeReader_size (s : Sys) : (takeReader s).size = s.size := rfl
@[simp] theorem takeReader_rq (s : Sys) : (takeReader s).rq = (s.rq.pop s.size).2 := rfl
@[simp] theorem takeReader_wq (s : Sys) : (takeReader s).wq = s.wq := rfl
@[simp] theorem takeReader_pending (s : Sys) : (takeReader s).pending = s.pending := rfl
@[simp] theorem takeReader_rWait (s : Sys) : (takeReader s).rWait = s.rWait := rfl
@[simp] theorem takeReader_wWait (s : Sys) : (takeReader s).wWait = s.wWait := rfl
@[simp] theorem takeReader_held (s : Sys) : (takeReader s).held = heldAdd 0 (s.rq.pop s.size).1 s.held := rfl
@[simp] theorem takeReader_inited (s : Sys) : (takeReader s).inited = s.inited := rfl
@[simp] theorem takeReader_rEnq (s : Sys) : (takeReader s).rEnq = s.rEnq := rfl
@[simp] theorem takeReader_rDeq (s : Sys) : (takeReader s).rDeq = s.rDeq ++ (s.rq.pop s.size).1.toList := rfl
@[simp] theorem takeReader_wEnq (s : Sys) : (takeReader s).wEnq = s.wEnq := rfl
@[simp] theorem takeReader_wDeq (s : Sys) : (takeReader s).wDeq = s.wDeq := rfl

@[simp] theorem takeWorker_size (s : Sys) (w : Nat) : (takeWorker s w).size = s.size := rfl
@[simp] theorem takeWorker_rq (s : Sys) (w : Nat) : (takeWorker s w).rq = s.rq := rfl
@[simp] theorem takeWorker_wq (s : Sys) (w : Nat) : (takeWorker s w).wq = (s.wq.pop s.size).2 := rfl
@[simp] theorem takeWorker_pending (s : Sys) (w : Nat) : (takeWorker s w).pending = s.pending := rfl
@[simp] theorem takeWorker_rWait (s : Sys) (w : Nat) : (takeWorker s w).rWait = s.rWait := rfl
@[simp] theorem takeWorker_wWait (s : Sys) (w : Nat) : (takeWorker s w).wWait = s.wWait := rfl
@[simp] theorem takeWorker_held (s : Sys) (w : Nat) : (takeWorker s w).held = heldAdd w (s.wq.pop s.size).1 s.held := rfl
@[simp] theorem takeWorker_inited (s : Sys) (w : Nat) : (takeWorker s w).inited = s.inited := rfl
@[simp] theorem takeWorker_rEnq (s : Sys) (w : Nat) : (takeWorker s w).rEnq = s.rEnq := rfl
@[simp] theorem takeWorker_rDeq (s : Sys) (w : Nat) : (takeWorker s w).rDeq = s.rDeq := rfl
@[simp] theorem takeWorker_wEnq (s : Sys) (w : Nat) : (takeWorker s w).wEnq = s.wEnq := rfl
@[simp] theorem takeWorker_wDeq (s : Sys) (w : Nat) : (takeWorker s w).wDeq = s.wDeq ++ (s.wq.pop s.size).1.toList := rfl

@[simp] theorem signalReader_size (s : Sys) : (signalReader s).size = s.size := rfl
@[simp] theorem signalReader_rq (s : Sys) : (signalReader s).rq = s.rq := rfl
@[simp] theorem signalReader_wq (s : Sys) : (signalReader s).wq = s.wq := rfl
@[simp] theorem signalReader_pending (s : Sys) : (signalReader s).pending = s.pending := rfl
@[simp] theorem signalReader_rWait (s : Sys) : (signalReader s).rWait = s.rWait.map fun _ => true := rfl
@[simp] theorem signalReader_wWait (s : Sys) : (signalReader s).wWait = s.wWait := rfl
@[simp] theorem signalReader_held (s : Sys) : (signalReader s).held = s.held := rfl
@[simp] theorem signalReader_inited (s : Sys) : (signalReader s).inited = s.inited := rfl
@[simp] theorem signalReader_rEnq (s : Sys) : (signalReader s).rEnq = s.rEnq := rfl
@[simp] theorem signalReader_rDeq (s : Sys) : (signalReader s).rDeq = s.rDeq := rfl
@[simp] theorem signalReader_wEnq (s : Sys) : (signalReader s).wEnq = s.wEnq := rfl
@[simp] theorem signalReader_wDeq (s : Sys) : (signalReader s).wDeq = s.wDeq := rfl

@[simp] theorem broadcastWorkers_size (s : Sys) : (broadcastWorkers s).size = s.size := rfl
@[simp] theorem broadcastWorkers_rq (s : Sys) : (broadcastWorkers s).rq = s.rq := rfl
@[simp] theorem broadcastWorkers_wq (s : Sys) : (broadcastWorkers s).wq = s.wq := rfl
@[simp] theorem broadcastWorkers_pending (s : Sys) : (broadcastWorkers s).pending = s.pending := rfl
@[simp] theorem broadcastWorkers_rWait (s : Sys) : (broadcastWorkers s).rWait = s.rWait := rfl
@[simp] theorem broadcastWorkers_wWait (s : Sys) : (broadcastWorkers s).wWait = s.wWait.map fun e => (e.1, true) := rfl
@[simp] theorem broadcastWorkers_held (s : Sys) : (broadcastWorkers s).held = s.held := rfl
@[simp] theorem broadcastWorkers_inited (s : Sys) : (broadcastWorkers s).inited = s.inited := rfl
@[simp] theorem broadcastWorkers_rEnq (s : Sys) : (broadcastWorkers s).rEnq = s.rEnq := rfl
@[simp] theorem broadcastWorkers_rDeq (s : Sys) : (broadcastWorkers s).rDeq = s.rDeq := rfl
@[simp] theorem broadcastWorkers_wEnq (s : Sys) : (broadcastWorkers s).wEnq = s.wEnq := rfl
@[simp] theorem broadcastWorkers_wDeq (s : Sys) : (broadcastWorkers s).wDeq = s.wDeq := rfl

end EaselModel.WorkQueue
