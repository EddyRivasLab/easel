import EaselModel.Msafile.ConfigFacts
import EaselModel.Miniapps.ReformatMsa
import EaselModel.Msafile.PhylipWritable
import EaselModel.Msafile.PhylipIdem
import EaselModel.Msafile.AfaWritable
import EaselModel.Msafile.AfaIdem
import EaselModel.Msafile.WriteLemmas
/-! The alignment branch of esl-reformat (`ReformatMsa.lean`) as `write ∘ transform ∘ read` over the C03 readers and writers. -/
namespace EaselModel.Miniapps.Ali
open EaselModel.Msafile

theorem phyRowLineW_ten (abc : Option Abc) (m : FMsa) (idx apos : Nat) :
    phyRowLineW phyNameWidth abc m idx apos = phyRowLine abc m idx apos := rfl

theorem phylipWriteW_ten (seq : Bool) (abc : Option Abc) (m : FMsa) : phylipWriteW 10 seq abc m = phylipWrite seq abc m := by
  cases seq <;> rfl

theorem phylipWriteW_zero (seq : Bool) (abc : Option Abc) (m : FMsa) : phylipWriteW 0 seq abc m = phylipWrite seq abc m := by
  cases seq <;> rfl

theorem chunks_concat {α : Type} (l : List α) (cpl : Nat) (hc : 0 < cpl) : ∀ (k pos : Nat), l.length - pos ≤ k →
    (blockStartsFrom l.length cpl pos).flatMap (fun p => (l.drop p).take cpl) = l.drop pos := by
  intro k
  induction k with
  | zero =>
    intro pos hk
    have hge : ¬ (pos < l.length ∧ 0 < cpl) := by omega
    rw [blockStartsFrom]
    simp only [hge, dite_false, List.flatMap_nil]
    exact (List.drop_eq_nil_of_le (by omega)).symm
  | succ k ih =>
    intro pos hk
    by_cases hlt : pos < l.length
    · have hc' : pos < l.length ∧ 0 < cpl := ⟨hlt, hc⟩
      rw [blockStartsFrom]
      simp only [hc', and_self, dite_true, List.flatMap_cons]
      rw [ih (pos + cpl) (by omega)]
      have : l.drop (pos + cpl) = (l.drop pos).drop cpl := by rw [List.drop_drop]
      rw [this, List.take_append_drop]
    · have hge : ¬ (pos < l.length ∧ 0 < cpl) := by omega
      rw [blockStartsFrom]
      simp only [hge, dite_false, List.flatMap_nil]
      exact (List.drop_eq_nil_of_le (by omega)).symm

theorem phyBuf_text (m : FMsa) (idx apos : Nat) (h0 : ∀ c ∈ m.aseq.getD idx [], c ≠ 0) :
    phyBuf none m idx apos = phyRectifyText (((m.aseq.getD idx []).drop apos).take phyRpl) := by
  unfold phyBuf seqChunk strChunk
  simp only
  rw [cstr_id _ (fun c hc => h0 c (List.mem_of_mem_drop (List.mem_of_mem_take hc)))]

theorem phySeqRowLines_flatten (nw : Nat) (m : FMsa) (idx : Nat) (halen : 1 ≤ m.alen)
    (hlen : (m.aseq.getD idx []).length = m.alen) (h0 : ∀ c ∈ m.aseq.getD idx [], c ≠ 0) :
    (phySeqRowLines nw none m idx).flatten
      = padTrunc nw (m.names.getD idx []) ++ [32] ++ phyRectifyText (m.aseq.getD idx []) := by
  unfold phySeqRowLines
  rw [blockStarts_cons m.alen halen]
  simp only [List.map_cons, List.flatten_cons]
  have hfirst : phyRowLineW nw none m idx 0 = padTrunc nw (m.names.getD idx []) ++ [32] ++ phyBuf none m idx 0 := by
    simp [phyRowLineW]
  have hrest : (blockStartsFrom m.alen phyRpl phyRpl).map (fun apos => phyRowLineW nw none m idx apos)
      = (blockStartsFrom m.alen phyRpl phyRpl).map (fun apos => phyBuf none m idx apos) := by
    apply List.map_congr_left
    intro p hp
    have := (blockStartsFrom_lt m.alen phyRpl phyRpl p hp).1
    have hp0 : (p == 0) = false := by
      have : p ≠ 0 := by
        have h60 : phyRpl = 60 := rfl
        omega
      simpa using this
    simp [phyRowLineW, hp0]
  rw [hfirst, hrest]
  have hbuf : ∀ p, phyBuf none m idx p = phyRectifyText (((m.aseq.getD idx []).drop p).take phyRpl) :=
    fun p => phyBuf_text m idx p h0
  simp only [hbuf]
  have hmap : ((blockStartsFrom m.alen phyRpl phyRpl).map
        (fun apos => phyRectifyText (((m.aseq.getD idx []).drop apos).take phyRpl))).flatten
      = phyRectifyText ((blockStartsFrom m.alen phyRpl phyRpl).flatMap
          (fun p => ((m.aseq.getD idx []).drop p).take phyRpl)) := by
    unfold phyRectifyText
    rw [List.map_flatMap, List.flatMap_def]
  rw [hmap]
  have hcc := chunks_concat (m.aseq.getD idx []) phyRpl (by decide) ((m.aseq.getD idx []).length) phyRpl (by omega)
  rw [hlen] at hcc
  rw [hcc]
  unfold phyRectifyText
  simp only [List.append_assoc, List.drop_zero]
  rw [← List.map_append, List.take_append_drop]

/-- the sequential file is the header line followed by the sequences ONE AFTER THE OTHER -/
theorem phylipSequentialLinesW_eq (nw : Nat) (abc : Option Abc) (m : FMsa) :
    phylipSequentialLinesW nw abc m = phyWrHeader m :: (List.range m.nseq).flatMap (phySeqRowLines nw abc m) := rfl

/-- the text-mode Stockholm reader with its input map as the written-out table: test vectors rewrite with this before they are
    evaluated, since building `stockholmCfg none` by evaluation costs more than reading a small file with it -/
theorem readerOf_stockholm : readerOf "stockholm" = some (stockholmRead ⟨none, ⟨graphTbl⟩⟩) := by
  rw [← stockholmCfg_text]; simp [readerOf]

theorem readAll_single (rd : List Bytes → Res FMsa × List Bytes) (ls : List Bytes) (m : FMsa) (fuel : Nat)
    (h1 : rd ls = (.ok m, [])) (h2 : rd [] = (.eof, [])) : readAll rd (fuel + 2) ls [] = some [m] := by
  simp [readAll, h1, h2]

theorem reformatMsa_single (o : Opts) (infmt outfmt : String) (src : Bytes) (rd : List Bytes → Res FMsa × List Bytes) (m : FMsa)
    (hrd : readerOf infmt = some rd) (h1 : rd (splitLines src) = (.ok m, [])) (h2 : rd [] = (.eof, [])) :
    reformatMsa o infmt outfmt src = (transform o m).bind (writeOne o outfmt) := by
  unfold reformatMsa readFile
  simp only [hrd]
  rw [readAll_single rd _ m _ h1 h2]
  cases ht : transform o m with
  | none => simp [ht]
  | some m' =>
    cases hw : writeOne o outfmt m' with
    | none => simp [ht, hw]
    | some b => simp [ht, hw]

theorem transform_no_option (m : FMsa) : transform {} m = some m := by
  simp [transform, convertSyms]

/-- only `--namelen` among the options: nothing happens between reading and writing either -/
theorem transform_namelen_only (n : Nat) (m : FMsa) : transform { namelen := some n } m = some m := by
  simp [transform, convertSyms]

/-- the tools' write call is `esl_msafile_Write` (`msafileWriteTool` is `msafileWrite`, for every format) -/
theorem msafileWriteTool_afa (abc : Option Abc) (m : FMsa) : msafileWriteTool "afa" abc m = msafileWrite "afa" abc m := rfl

/-- what `esl_msa_SymConvert` cannot change: the names, the width and the length of every row -/
def shape (m : FMsa) : List Bytes × Nat × List Nat := (m.names, m.alen, m.aseq.map List.length)

theorem shape_symConvert (a b : Bytes) (m : FMsa) : shape (symConvert a b m) = shape m := by
  simp [shape, symConvert, Function.comp_def]

theorem shape_ite_symConvert (c : Bool) (a b : Bytes) (m : FMsa) :
    shape (if c = true then symConvert a b m else m) = shape m := by
  split
  · exact shape_symConvert a b m
  · rfl

/-- every step of `convertSyms` is a `symConvert` or nothing -/
theorem convertSyms_shape (o : Opts) (m : FMsa) : shape (convertSyms o m) = shape m := by
  unfold convertSyms
  simp only [shape_ite_symConvert]
  cases o.gapsym <;> cases o.replace <;> simp only [shape_symConvert]

theorem seqLines_flatten (w : Nat) (hw : 0 < w) : ∀ (fuel : Nat) (s : Bytes), s.length ≤ fuel → (seqLines w fuel s).flatten = s := by
  intro fuel
  induction fuel with
  | zero => intro s h; have : s = [] := List.length_eq_zero_iff.mp (by omega); simp [seqLines, this]
  | succ n ih =>
    intro s h
    unfold seqLines
    by_cases he : s.isEmpty = true
    · simp [List.isEmpty_iff.mp he]
    · have hne : s ≠ [] := by simpa [List.isEmpty_iff] using he
      have hpos : 0 < s.length := List.length_pos_iff.mpr hne
      simp only [he, Bool.false_eq_true, ↓reduceIte, List.flatten_cons]
      rw [ih (s.drop w) (by simp; omega), List.take_append_drop]

theorem seqLines_widths (w : Nat) (hw : 0 < w) : ∀ (fuel : Nat) (s : Bytes), ∀ l ∈ seqLines w fuel s, 0 < l.length ∧ l.length ≤ w := by
  intro fuel
  induction fuel with
  | zero => intro s l h; simp [seqLines] at h
  | succ n ih =>
    intro s l h
    unfold seqLines at h
    by_cases he : s.isEmpty = true
    · simp [he] at h
    · have hne : s ≠ [] := by simpa [List.isEmpty_iff] using he
      have hpos : 0 < s.length := List.length_pos_iff.mpr hne
      simp only [he, Bool.false_eq_true, ↓reduceIte, List.mem_cons] at h
      rcases h with rfl | h
      · simp [List.length_take]; omega
      · exact ih _ l h

theorem length_ite_map (b : Bool) (f : UInt8 → UInt8) (s : Bytes) : (if b = true then s.map f else s).length = s.length := by
  split <;> simp

theorem convertSeq_length (o : Opts) (s : Bytes) : (convertSeq o s).length = s.length := by
  unfold convertSeq
  simp only [length_ite_map]
  cases o.replace <;> simp

theorem convertSeq_no_option (s : Bytes) : convertSeq {} s = s := by
  simp [convertSeq]

theorem fastaRecordB_body (name acc desc seq : Bytes) :
    ∃ hdr, fastaRecordB name acc desc seq = hdr ++ (seqLines 60 seq.length seq).flatMap (· ++ [10]) ∧
      (seqLines 60 seq.length seq).flatten = seq :=
  ⟨_, rfl, seqLines_flatten 60 (by decide) seq.length seq (Nat.le_refl _)⟩

end EaselModel.Miniapps.Ali
