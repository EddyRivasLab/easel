import EaselModel.Miniapps.StoTools
import EaselModel.Miniapps.Text
/-! # C13 — `esl-compalign` (default per-sequence table and `-c` per-column table): a test alignment against a trusted one

Line-by-line model of `miniapps/esl-compalign.c:main()` (`-p` included; not `--p-mask`, `--c2dfile`): two Stockholm files read in digital mode (C03 reader), the
sanity checks in the tool's order, for every residue of every sequence its position relative to the non-gap RF columns in the
trusted and in the test alignment (`kp`, `tp`), the per-sequence and per-RF-position counters, the two tables.
`namewidth` starts at 8 and is NOT reset between alignments (as in the source).  Fractions are binary32 quotients. -/
namespace EaselModel.Miniapps.Ali
open EaselModel.Msafile

/-- `! esl_abc_CIsGap(abc, rf[apos]) && ! esl_abc_CIsMissing(abc, rf[apos])` -/
def rfColumn (t : TAbc) (c : UInt8) : Bool := !(c.toNat < 128 && (t.cIsGap c || t.cIsMissing c))

/-- the RF-relative position of every residue of a row, in order: `(is_rfpos, rfpos)` (`kp[i][uapos] = is_rfpos ? rfpos : -rfpos`) -/
def residuePositions (t : TAbc) (rfm : List Bool) (row : Bytes) : List (Bool × Nat) :=
  ((rfm.zip row).foldl (fun (st : Nat × List (Bool × Nat)) cr =>
    let rfpos := if cr.1 then st.1 + 1 else st.1
    (rfpos, if t.xIsResidue cr.2 then (cr.1, rfpos) :: st.2 else st.2)) (0, [])).2.reverse

/-- `esl_abc_XDealign`: the codes that are neither gap nor missing -/
def xDealign (t : TAbc) (row : Bytes) : Bytes := row.filter fun x => !(t.xIsGap x || t.xIsMissing x)

structure CACounts where
  seqlen : List Nat
  kp : List (List (Bool × Nat))
  tp : List (List (Bool × Nat))
  rflen : Nat

/-- the checks of one pair of alignments; `none` = the tool stops with a message -/
def compalignCounts (t : TAbc) (ka ta : FMsa) : Option CACounts :=
  if ka.nseq != ta.nseq then none else
  match ka.rf, ta.rf with
  | some krf, some trf =>
    if (krf ++ trf).any (fun c => c.toNat ≥ 128) then none else
    let krows := digRows ka
    let trows := digRows ta
    if !((List.range ka.nseq).all fun i =>
          ka.names.getD i [] == ta.names.getD i [] && xDealign t (krows.getD i []) == xDealign t (trows.getD i [])) then none else
    let krfm := (krf.take ka.alen).map (rfColumn t)
    let trfm := (trf.take ta.alen).map (rfColumn t)
    if (krfm.filter id).length != (trfm.filter id).length then none else
    some { seqlen := krows.map fun r => (xDealign t r).length,
           kp := krows.map (residuePositions t krfm), tp := trows.map (residuePositions t trfm), rflen := (krfm.filter id).length }
  | _, _ => none

def f32frac (a b : Nat) : String :=
  let x := (Float32.ofNat a / Float32.ofNat b).toFloat
  if x.isNaN then "-nan" else EaselModel.Miniapps.fmtFloatSigned x 3

def guarded (a b : Nat) : String := if b == 0 then "0.000" else f32frac a b

def cell8 (a b : Nat) (frac : String) : String :=
  EaselModel.Miniapps.padLeft 8 (toString a) ++ " / " ++ EaselModel.Miniapps.padLeft 8 (toString b) ++ "  (" ++ frac ++ ")"
def cell4 (a b : Nat) (frac : String) : String :=
  EaselModel.Miniapps.padLeft 4 (toString a) ++ " / " ++ EaselModel.Miniapps.padLeft 4 (toString b) ++ "  (" ++ frac ++ ")"

/-- per sequence: `(km, ki, cor_tm, cor_ti)` -/
def seqCounts (kp tp : List (Bool × Nat)) : Nat × Nat × Nat × Nat :=
  (kp.countP (·.1), kp.countP (fun p => !p.1),
   (kp.zip tp).countP (fun x => x.2.1 && x.1 == x.2), (kp.zip tp).countP (fun x => !x.2.1 && x.1 == x.2))

def dashes (n : Nat) : String := String.ofList (List.replicate n '-')

/-- the default table of one pair of alignments -/
def perSeqTable (c : CACounts) (names : List Bytes) (namewidth : Nat) : String :=
  let pr := EaselModel.Miniapps.padRight namewidth
  let d28 := dashes 28
  let head := "# " ++ pr "seq name" ++ "  " ++ EaselModel.Miniapps.padLeft 6 "len" ++ "  " ++ EaselModel.Miniapps.padLeft 28 "match columns" ++ "  " ++
      EaselModel.Miniapps.padLeft 28 "insert columns" ++ "  " ++ EaselModel.Miniapps.padLeft 28 "all columns" ++ "\n" ++
    "# " ++ pr (dashes namewidth) ++ "  " ++ "------" ++ "  " ++ d28 ++ "  " ++ d28 ++ "  " ++ d28 ++ "\n"
  let per := (List.range names.length).map fun i => seqCounts (c.kp.getD i []) (c.tp.getD i [])
  let lines := (List.range names.length).map fun i =>
    let (km, ki, ctm, cti) := per.getD i (0, 0, 0, 0)
    "  " ++ pr (String.ofList ((names.getD i []).map fun x => Char.ofNat x.toNat)) ++ "  " ++ EaselModel.Miniapps.padLeft 6 (toString (c.seqlen.getD i 0)) ++ "  " ++
      cell8 ctm km (guarded ctm km) ++ "  " ++ cell8 cti ki (guarded cti ki) ++ "  " ++ cell8 (ctm + cti) (km + ki) (f32frac (ctm + cti) (km + ki)) ++ "\n"
  let km := (per.map (·.1)).sum
  let ki := (per.map (·.2.1)).sum
  let ctm := (per.map (·.2.2.1)).sum
  let cti := (per.map (·.2.2.2)).sum
  head ++ String.join lines ++
    "# " ++ pr (dashes namewidth) ++ "  " ++ EaselModel.Miniapps.padLeft 6 "-----" ++ "  " ++ d28 ++ "  " ++ d28 ++ "  " ++ d28 ++ "\n" ++
    "# " ++ pr "*all*" ++ "  " ++ EaselModel.Miniapps.padLeft 6 "-" ++ "  " ++ cell8 ctm km (f32frac ctm km) ++ "  " ++ cell8 cti ki (f32frac cti ki) ++ "  " ++
      cell8 (ctm + cti) (km + ki) (f32frac (ctm + cti) (km + ki)) ++ "\n"

/-- the `-c` table of one pair of alignments: one line per RF position 0..rflen (0 = before the first) -/
def perColumnTable (c : CACounts) : String :=
  let d20 := dashes 20
  let head := "# " ++ EaselModel.Miniapps.padLeft 5 "rfpos" ++ "  " ++ EaselModel.Miniapps.padLeft 20 "match" ++ "  " ++ EaselModel.Miniapps.padLeft 20 "insert" ++ "  " ++
      EaselModel.Miniapps.padLeft 20 "both" ++ "\n" ++
    "# " ++ "-----" ++ "  " ++ d20 ++ "  " ++ d20 ++ "  " ++ d20 ++ "\n"
  let kall := c.kp.flatten
  let pairs := (c.kp.zip c.tp).flatMap fun x => x.1.zip x.2
  let lines := (List.range (c.rflen + 1)).map fun r =>
    let km := kall.countP (fun p => p.1 && p.2 == r)
    let ki := kall.countP (fun p => !p.1 && p.2 == r)
    let ctm := pairs.countP (fun x => x.2.1 && x.2.2 == r && x.1 == x.2)
    let cti := pairs.countP (fun x => !x.2.1 && x.2.2 == r && x.1 == x.2)
    "  " ++ EaselModel.Miniapps.padLeft 5 (toString r) ++ "  " ++ cell4 ctm km (guarded ctm km) ++ "  " ++ cell4 cti ki (guarded cti ki) ++ "  " ++
      cell4 (ctm + cti) (km + ki) (f32frac (ctm + cti) (km + ki)) ++ "\n"
  head ++ String.join lines

/-! ## `-p`: accuracy by posterior probability class of the TEST alignment's residues (without `--p-mask`) -/

/-- the PP class (0-9, `*` = 10) of every residue of a test row, in order; `none` = the tool stops (gap PP under a residue, a
    character that is no PP class) -/
def residuePP (t : TAbc) (row pp : Bytes) : Option (List Nat) :=
  ((row.zip pp).filter fun x => t.xIsResidue x.1).mapM fun x =>
    let c := x.2
    if c.toNat < 128 && t.cIsGap c then none
    else if c == 42 then some 10
    else if 48 ≤ c && c ≤ 57 then some (c.toNat - 48)
    else none

def f32frac5 (a b : Nat) : String :=
  if b == 0 then "0.00000" else
  let x := (Float32.ofNat a / Float32.ofNat b).toFloat
  if x.isNaN then "-nan" else EaselModel.Miniapps.fmtFloatSigned x 5

/-- the `-p` table of one pair of alignments -/
def perPPTable (c : CACounts) (pps : List (List Nat)) : String :=
  let pl := EaselModel.Miniapps.padLeft
  let d29 := dashes 29
  let head :=
    "# " ++ pl 2 "" ++ "  " ++ pl 29 "      match columns          " ++ "  " ++ pl 29 "      insert columns         " ++ "\n" ++
    "# " ++ pl 2 "" ++ "  " ++ d29 ++ "  " ++ d29 ++ "\n" ++
    "# " ++ pl 2 "PP" ++ "  " ++ pl 8 "ncorrect" ++ "   " ++ pl 8 "ntotal" ++ " " ++ pl 9 "fractcor" ++ "  " ++ pl 8 "ncorrect" ++ "   " ++ pl 8 "ntotal" ++ " " ++ pl 9 "fractcor" ++ "\n" ++
    "# " ++ pl 2 "--" ++ "  " ++ "--------" ++ "   " ++ "--------" ++ " " ++ "---------" ++ "  " ++ "--------" ++ "   " ++ "--------" ++ " " ++ "---------" ++ "\n"
  -- every test residue with its trusted position, its test position and its PP class
  let all : List ((Bool × Nat) × (Bool × Nat) × Nat) := ((c.kp.zip c.tp).zip pps).flatMap fun x => (x.1.1.zip (x.1.2.zip x.2))
  let lines := (List.range 11).reverse.map fun p =>
    let ptm := all.countP fun x => x.2.1.1 && x.2.2 == p
    let pti := all.countP fun x => !x.2.1.1 && x.2.2 == p
    let cptm := all.countP fun x => x.2.1.1 && x.2.2 == p && x.1 == x.2.1
    let cpti := all.countP fun x => !x.2.1.1 && x.2.2 == p && x.1 == x.2.1
    "  " ++ pl 2 (String.singleton ("0123456789*".toList.getD p '?')) ++ "  " ++ pl 8 (toString cptm) ++ " / " ++ pl 8 (toString ptm) ++ " (" ++ f32frac5 cptm ptm ++ ")  " ++
      pl 8 (toString cpti) ++ " / " ++ pl 8 (toString pti) ++ " (" ++ f32frac5 cpti pti ++ ")\n"
  head ++ String.join lines

/-- `while (Read(kfp) != EOF) { Read(tfp) must succeed … }`, `namewidth` carried along -/
def compalignFiles (t : TAbc) (perCol post : Bool) : List FMsa → List FMsa → Nat → String → Option String
  | [], _, _, acc => some acc
  | _ :: _, [], _, _ => none
  | ka :: ks, ta :: ts, nw, acc =>
    match compalignCounts t ka ta with
    | none => none
    | some c =>
      -- with -p every test sequence needs its #=GR PP line and a PP class under every residue, whichever table is printed
      let pps : Option (List (List Nat)) :=
        if post then
          match ta.pp with
          | none => none
          | some ppl => ((digRows ta).zip (ppl ++ List.replicate ta.nseq none)).mapM fun x =>
              match x.2 with | some line => residuePP t x.1 (line.take ta.alen) | none => none
        else some []
      match pps with
      | none => none
      | some pp =>
        let plain := !perCol && !post
        let nw' := if plain then ka.names.foldl (fun m n => max m n.length) nw else nw
        compalignFiles t perCol post ks ts nw'
          (acc ++ (if plain then perSeqTable c ka.names nw' else if perCol then perColumnTable c else perPPTable c pp))

/-- stdout of `esl-compalign [-c] [-p] (--dna|--rna|--amino) <trusted.sto> <test.sto>` -/
def compalign (fa : EaselModel.Msafile.Abc) (t : TAbc) (perCol post : Bool) (ksrc tsrc : Bytes) : Option String :=
  match readStoDigital fa "stockholm" ksrc, readStoDigital fa "stockholm" tsrc with
  | some kas, some tas => compalignFiles t perCol post kas tas 8 ""
  | _, _ => none

theorem seqCounts_self (kp : List (Bool × Nat)) :
    (seqCounts kp kp).2.2.1 = (seqCounts kp kp).1 ∧ (seqCounts kp kp).2.2.2 = (seqCounts kp kp).2.1 := by
  simp only [seqCounts]
  induction kp with
  | nil => simp
  | cons p ps ih =>
    simp only [List.zip_cons_cons, List.countP_cons, beq_self_eq_true, Bool.and_true]
    omega

/-- positions where the two lists agree and the test entry has property `f` are positions where the trusted entry has it -/
theorem zip_countP_agree_le {α : Type} [BEq α] [LawfulBEq α] (f : α → Bool) (kp tp : List α) :
    (kp.zip tp).countP (fun x => f x.2 && x.1 == x.2) ≤ kp.countP f := by
  induction kp generalizing tp with
  | nil => simp
  | cons p ps ih =>
    cases tp with
    | nil => simp
    | cons q qs =>
      simp only [List.zip_cons_cons, List.countP_cons]
      have h2 : (if (f q && p == q) = true then 1 else 0) ≤ (if f p = true then 1 else 0) := by
        by_cases hc : (f q && p == q) = true
        · obtain ⟨h1, h2⟩ := Bool.and_eq_true_iff.mp hc
          rw [if_pos hc, if_pos ((eq_of_beq h2) ▸ h1)]; exact Nat.le_refl 1
        · rw [if_neg hc]; exact Nat.zero_le _
      exact Nat.add_le_add (ih qs) h2

/-- correct <= counted, per sequence: a residue is "correct" only if it sits at the same RF-relative position in both alignments, so a
    correct test match (insert) residue is one of the trusted alignment's match (insert) residues too -/
theorem seqCounts_le (kp tp : List (Bool × Nat)) :
    (seqCounts kp tp).2.2.1 ≤ (seqCounts kp tp).1 ∧ (seqCounts kp tp).2.2.2 ≤ (seqCounts kp tp).2.1 :=
  ⟨zip_countP_agree_le (fun p : Bool × Nat => p.1) kp tp, zip_countP_agree_le (fun p : Bool × Nat => !p.1) kp tp⟩

end EaselModel.Miniapps.Ali
