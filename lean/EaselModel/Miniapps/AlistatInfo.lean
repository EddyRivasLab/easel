import EaselModel.Miniapps.Alimanip
import EaselModel.Miniapps.Afetch
import EaselModel.Msafile.Guess
import EaselModel.Miniapps.Alistat
import EaselModel.Alphabet.Model
/-! # C13 — `esl-alistat` on Stockholm / Pfam files read in digital mode, with the optional output files

Line-by-line model of `miniapps/esl-alistat.c`: the summary (default and `-1`), `--list`, `count_msa` (per-column counts
through `esl_abc_DCount`, degenerate residues shared out over their canonical residues), `map_rfpos_to_apos`,
`dump_residue_info` (`--rinfo`), `dump_column_residue_counts` (`--cinfo`, `--noambig`), `dump_infocontent_info` (`--icinfo`),
`dump_insert_info` (`--iinfo`), and further down `--weight`, `--pcinfo`, `--psinfo`, `--bpinfo`.  `--small` is `runAlistatSmall` in `Tools.lean`.
The reader is C03's Stockholm reader in digital mode; the degeneracy tables are C08's `esl_alphabet_Create` model; the
pairwise identity is the function already tied through esl-alipid / the aligned-FASTA branch (`avgId`).
Floating point: the tool's own operations in binary64 (and binary32 where the source casts to `float`), same order. -/
namespace EaselModel.Miniapps.Ali
open EaselModel.Msafile EaselModel.Alphabet

/-- the four views of one alphabet: C13's character view, C03's reader configuration, C15's tables (RF tests), C08's degeneracy tables -/
structure AbcViews where
  c : EaselModel.Miniapps.Abc
  f : EaselModel.Msafile.Abc
  t : TAbc
  a : Alphabet

def emptyAlphabet : Alphabet :=
  { type := 0, K := 0, Kp := 0, sym := [], inmap := [], degen := [], ndegen := [], complement := none }

def viewsDna : AbcViews := ⟨.dna, abcDna, EaselModel.Msa.Gen.dnaAbc, (Alphabet.createDna).getD emptyAlphabet⟩
def viewsRna : AbcViews := ⟨.rna, abcRna, EaselModel.Msa.Gen.rnaAbc, (Alphabet.createRna).getD emptyAlphabet⟩
def viewsAmino : AbcViews := ⟨.amino, abcAmino, EaselModel.Msa.Gen.aminoAbc, (Alphabet.createAmino).getD emptyAlphabet⟩

/-- `esl_vec_DSum`: compensated (Kahan) summation, exactly as written -/
def kahanSum (v : List Float) : Float :=
  (v.foldl (fun (st : Float × Float) x =>
    let y := x - st.2
    let t := st.1 + y
    (t, (t - st.1) - y)) (0.0, 0.0)).1

/-- `esl_abc_DCount(abc, ct, x, wt)` on a vector of `K+1` counters -/
def dCount (A : Alphabet) (ct : List Float) (x : Nat) (wt : Float) : List Float :=
  if x < A.K || x == A.K then ct.set x (ct.getD x 0.0 + wt)
  else if x == A.Kp - 1 || x == A.Kp - 2 then ct
  else (List.range A.K).foldl (fun ct y =>
    if (A.degen.getD x []).getD y 0 != 0 then ct.set y (ct.getD y 0.0 + wt / Float.ofNat (A.ndegen.getD x 0)) else ct) ct

/-- `esl_abc_XIsDegenerate` -/
def xIsDegenN (A : Alphabet) (x : Nat) : Bool := x > A.K && x < A.Kp - 2
/-- `esl_abc_XIsResidue` -/
def xIsResidueN (A : Alphabet) (x : Nat) : Bool := x < A.K || (x > A.K && x < A.Kp - 2)

/-- `abc_ct[apos]` of `count_msa` with the weights `wts` (1.0 each without `--weight`): sequences in order, each adds its residue of this column -/
def columnCountsW (A : Alphabet) (noAmbig : Bool) (rows : List (List Nat)) (wts : List Float) (apos : Nat) : List Float :=
  (rows.zip wts).foldl (fun ct rw =>
    let x := rw.1.getD apos 0
    if !noAmbig || !xIsDegenN A x then dCount A ct x rw.2 else ct) (List.replicate (A.K + 1) 0.0)

/-- … without `--weight`: every sequence counts 1.0 -/
def columnCounts (A : Alphabet) (noAmbig : Bool) (rows : List (List Nat)) (apos : Nat) : List Float :=
  columnCountsW A noAmbig rows (rows.map fun _ => 1.0) apos

/-- `esl_vec_DNorm` -/
def dNorm (v : List Float) : List Float :=
  let s := kahanSum v
  if s != 0.0 then v.map (· / s) else v.map fun _ => 1.0 / Float.ofNat v.length

/-- `esl_vec_DEntropy` -/
def dEntropy (p : List Float) : Float := p.foldl (fun h x => if x > 0.0 then h - x * Float.log2 x else h) 0.0

def padL (w : Nat) (s : String) : String := padLeft w s
/-- `printf("%<w>.<d>f", x)`.  The only NaN the tool can produce is `0.0 / 0.0` (a column in which nothing was counted): on
    x86-64 that is the default NaN with the sign bit set, which glibc prints as `-nan` (`Float.toBits` hides the sign). -/
def fF (w d : Nat) (x : Float) : String := padLeft w (if x.isNaN then "-nan" else fmtFloatSigned x d)

/-- the shared head of the info files -/
def weightsNote (useW : Bool) : String :=
  if useW then "# IMPORTANT: Counts are weighted based on sequence weights in alignment file.\n"
  else "# Sequence weights from alignment were ignored (if they existed).\n"

def infoHead (title alifile : String) (nali : Nat) (name : Option Bytes) (extra : List String) (nseq : Nat) (post : List String)
    (useW : Bool := false) : String :=
  title ++ "# Alignment file: " ++ alifile ++ "\n# Alignment idx:  " ++ toString nali ++ "\n" ++
  (match name with | some n => "# Alignment name: " ++ b2sA n ++ "\n" | none => "") ++
  String.join extra ++
  "# Number of sequences: " ++ toString nseq ++ "\n" ++ String.join post ++ weightsNote useW ++ "#\n"
where b2sA (b : Bytes) : String := String.ofList (b.map fun x => Char.ofNat x.toNat)

def bytesStr (b : Bytes) : String := String.ofList (b.map fun x => Char.ofNat x.toNat)

/-- the `rfpos` cell in front of a column line: the running RF position, or `-` -/
def rfCells (iamrf : List Bool) : List String :=
  (iamrf.foldl (fun (st : Nat × List String) b =>
    if b then (st.1 + 1, ("  " ++ padLeft 7 (toString (st.1 + 1))) :: st.2) else (st.1, ("  " ++ padLeft 7 "-") :: st.2)) (0, [])).2.reverse

structure AliView where
  nali : Nat
  name : Option Bytes
  names : List Bytes
  rows : List (List Nat)          -- digital codes, `alen` per row
  alen : Nat
  iamrf : Option (List Bool)
  wts : List Float := []                          -- `msa->wgt`
  useW : Bool := false                            -- `--weight` given AND some weight differs from 1.0 (`check_msa_weights`)
  cntW : Bool := false                            -- `--weight` given: `count_msa` multiplies by `msa->wgt[i]`
  pp : Option (List (Option Bytes)) := none     -- `msa->pp` (NULL when no sequence has a #=GR PP line)
  sscons : Option Bytes := none

/-- `--rinfo` -/
def rinfoText (A : Alphabet) (alifile : String) (v : AliView) (cts : List (List Float)) : String :=
  let nseq := v.rows.length
  let head := infoHead "# Insert information:\n" alifile v.nali v.name [] nseq [] v.useW
  let cols := match v.iamrf with
    | some _ => "# " ++ padL 7 "rfpos" ++ "  " ++ padL 7 "alnpos" ++ "  " ++ padL 10 "numres" ++ "  " ++ padL 8 "freqres" ++ "  " ++ padL 10 "numgap" ++ "  " ++ padL 8 "freqgap" ++ "\n" ++
                "# " ++ "-------" ++ "  " ++ "-------" ++ "  " ++ "----------" ++ "  " ++ "--------" ++ "  " ++ "----------" ++ "  " ++ "--------" ++ "\n"
    | none => "# " ++ padL 7 "alnpos" ++ "  " ++ padL 10 "numres" ++ "  " ++ padL 8 "freqres" ++ "  " ++ padL 10 "numgap" ++ "  " ++ padL 8 "freqgap" ++ "\n" ++
              "# " ++ "-------" ++ "  " ++ "----------" ++ "  " ++ "--------" ++ "  " ++ "----------" ++ "  " ++ "--------" ++ "\n"
  let rfc := match v.iamrf with | some l => rfCells l | none => List.replicate v.alen ""
  let nf := Float.ofNat nseq
  let lines := (List.range v.alen).map fun apos =>
    let ct := cts.getD apos []
    let rct := kahanSum (ct.take A.K)
    let gct := ct.getD A.K 0.0
    rfc.getD apos "" ++ "  " ++ padL 7 (toString (apos + 1)) ++ "  " ++ fF 10 1 rct ++ "  " ++ fF 8 6 (rct / nf) ++ "  " ++ fF 10 1 gct ++ "  " ++ fF 8 6 (gct / nf) ++ "\n"
  head ++ cols ++ String.join lines ++ "//\n"

/-- `--cinfo` -/
def cinfoText (A : Alphabet) (noAmbig : Bool) (alifile : String) (v : AliView) (cts : List (List Float)) : String :=
  let nseq := v.rows.length
  let amb :=
    if noAmbig then ["# Ambiguous residues were not counted.\n"]
    else if A.type == 1 then ["# Ambiguities were averaged (e.g. 1 'N' = 0.25 'A', 0.25 'C', 0.25 'G' and 0.25 'U')\n"]
    else if A.type == 2 then ["# Ambiguities were averaged (e.g. 1 'N' = 0.25 'A', 0.25 'C', 0.25 'G' and 0.25 'T')\n"]
    else if A.type == 3 then ["# Ambiguities were averaged (e.g. 1 'X' = 0.05 each for all 20 amino acids\n"]
    else []
  let head := infoHead "# Per column residue counts:\n" alifile v.nali v.name [] nseq amb v.useW
  let syms := (List.range A.K).map fun i => Char.ofNat (A.sym.getD i 63)
  let h1 := "# " ++ padL 7 "alnpos" ++ String.join (syms.map fun c => "     " ++ String.singleton c ++ "   ") ++ "\n"
  let h2 := "# " ++ "-------" ++ String.join (syms.map fun _ => "  -------") ++ "\n"
  let lines := (List.range v.alen).map fun apos =>
    let ct := cts.getD apos []
    "  " ++ padL 7 (toString (apos + 1)) ++ String.join ((ct.take A.K).map fun x => "  " ++ fF 7 1 x) ++ "\n"
  head ++ h1 ++ h2 ++ String.join lines ++ "//\n"

/-- `--icinfo` -/
def icinfoText (A : Alphabet) (alifile : String) (v : AliView) (cts : List (List Float)) : String :=
  let nseq := v.rows.length
  let bgEnt := dEntropy (List.replicate A.K (1.0 / Float.ofNat A.K))
  let head := infoHead "# Information content per column (bits):\n" alifile v.nali v.name [] nseq [] v.useW
  let cols := match v.iamrf with
    | some _ => "# " ++ padL 7 "rfpos" ++ "  " ++ padL 7 "alnpos" ++ "  " ++ padL 10 "freqnongap" ++ "  " ++ padL 10 "info(bits)" ++ "\n" ++
                "# " ++ "-------" ++ "  " ++ "-------" ++ "  " ++ "----------" ++ "  " ++ "----------" ++ "\n"
    | none => "# " ++ padL 7 "alnpos" ++ "  " ++ padL 10 "freqnongap" ++ "  " ++ padL 10 "info(bits)" ++ "\n" ++
              "# " ++ "-------" ++ "  " ++ "----------" ++ "  " ++ "----------" ++ "\n"
  let rfc := match v.iamrf with | some l => rfCells l | none => List.replicate v.alen ""
  let lines := (List.range v.alen).map fun apos =>
    let ct := cts.getD apos []
    let nnongap := kahanSum (ct.take A.K)
    let freq := dNorm (ct.take A.K)
    rfc.getD apos "" ++ "  " ++ padL 7 (toString (apos + 1)) ++ "  " ++ fF 10 8 (nnongap / (nnongap + ct.getD A.K 0.0)) ++ "  " ++
      fF 10 8 (bgEnt - dEntropy freq) ++ "\n"
  head ++ cols ++ String.join lines ++ "//\n"

/-- the per-sequence insert counts of `dump_insert_info`: `ict[rfpos][i]` = residues of sequence `i` in the non-RF columns
    that follow RF position `rfpos` (0 = before the first) -/
def insertCounts (A : Alphabet) (iamrf : List Bool) (rows : List (List Nat)) : List (List Nat) :=
  let rflen := (iamrf.filter id).length
  let init : List (List Nat) := List.replicate (rflen + 1) (List.replicate rows.length 0)
  ((List.range iamrf.length).foldl (fun (st : Nat × List (List Nat)) apos =>
    if iamrf.getD apos false then (st.1 + 1, st.2)
    else (st.1, st.2.set st.1 ((st.2.getD st.1 []).zipWith (fun c r => if xIsResidueN A (r.getD apos 0) then c + 1 else c) rows))) (0, init)).2

/-- `total_ict[rfpos] += seqwt` for every residue in a non-RF column, in the source's order (columns outer, sequences inner) -/
def insertTotals (A : Alphabet) (iamrf : List Bool) (rows : List (List Nat)) (sw : Nat → Float) : List Float :=
  let rflen := (iamrf.filter id).length
  ((List.range iamrf.length).foldl (fun (st : Nat × List Float) apos =>
    if iamrf.getD apos false then (st.1 + 1, st.2)
    else (st.1, (rows.zip (List.range rows.length)).foldl (fun tot ri =>
      if xIsResidueN A (ri.1.getD apos 0) then tot.set st.1 (tot.getD st.1 0.0 + sw ri.2) else tot) st.2)) (0, List.replicate (rflen + 1) 0.0)).2

/-- `--iinfo` (requires RF) -/
def iinfoText (A : Alphabet) (alifile : String) (v : AliView) (iamrf : List Bool) : String :=
  let nseq := v.rows.length
  let head := "# Insert information:\n# Alignment file: " ++ alifile ++ "\n# Alignment idx:  " ++ toString v.nali ++ "\n" ++
    (match v.name with | some n => "# Alignment name: " ++ bytesStr n ++ "\n" | none => "") ++
    "# rfpos is the nongap RF position after which insertions occur\n" ++
    "# An rfpos of '0' indicates insertions before the first nongap RF position\n" ++
    "# Number of sequences: " ++ toString nseq ++ "\n" ++ weightsNote v.useW ++ "#\n" ++
    "# " ++ padL 8 "rfpos" ++ "  " ++ padL 10 "nseq w/ins" ++ "  " ++ padL 8 "freq ins" ++ "  " ++ padL 8 "avg len" ++ "\n" ++
    "# " ++ "--------" ++ "  " ++ "----------" ++ "  " ++ "--------" ++ "  " ++ "--------" ++ "\n"
  let ict := insertCounts A iamrf v.rows
  let lines := ict.mapIdx fun rfpos per =>
    -- `total_ict[rfpos] += seqwt` once per inserted residue; `nseq += seqwt` once per sequence with an insert (weights 1.0)
    -- NOTE the order of the additions to `total_ict[rfpos]` in the source is column by column, sequence by sequence; with weights
    -- that are not all equal the binary64 sum could depend on it: `insertTotals` above keeps the source's order
    let sw := fun (i : Nat) => if v.useW then v.wts.getD i 1.0 else 1.0
    let total := (insertTotals A iamrf v.rows sw).getD rfpos 0.0
    let n := (per.zip (List.range per.length)).foldl (fun (t : Float) ci => if ci.1 ≥ 1 then t + sw ci.2 else t) 0.0
    if n > 0.0 then
      "  " ++ padL 8 (toString rfpos) ++ "  " ++ fF 10 1 n ++ "  " ++ fF 8 6 (n / Float.ofNat nseq) ++ "  " ++
        fF 8 3 (total.toFloat32 / n.toFloat32).toFloat ++ "\n"
    else ""
  head ++ String.join lines ++ "//\n"

/-! ### posterior probabilities (`--pcinfo`, `--psinfo`) and consensus base pairs (`--bpinfo`) -/

/-- `get_pp_idx`: `0`-`9` → 0-9, `*` → 10, a gap character → 11, anything else is an error -/
def ppIdx (t : TAbc) (c : UInt8) : Option Nat :=
  if c.toNat < 128 && t.cIsGap c then some 11
  else if c == 42 then some 10
  else if 48 ≤ c && c ≤ 57 then some (c.toNat - 48)
  else none

/-- `ppavgA[]`, binary32 -/
def ppAvg : List Float32 :=
  [(0.025 : Float).toFloat32, (0.10 : Float).toFloat32, (0.20 : Float).toFloat32, (0.30 : Float).toFloat32, (0.40 : Float).toFloat32,
   (0.50 : Float).toFloat32, (0.60 : Float).toFloat32, (0.70 : Float).toFloat32, (0.80 : Float).toFloat32, (0.90 : Float).toFloat32,
   (0.975 : Float).toFloat32]

def ppString : List Char := "0123456789*.".toList

/-- `pp_ct[apos]` of `count_msa`; `none` = "bad #=GR PP char" -/
def ppColumnCounts (V : AbcViews) (noAmbig : Bool) (v : AliView) (pp : List (Option Bytes)) (apos : Nat) : Option (List Float) :=
  ((v.rows.zip (v.rows.zipIdx.map fun ri => if v.cntW then v.wts.getD ri.2 1.0 else 1.0)).zip pp).foldlM (fun (ct : List Float) (rp : (List Nat × Float) × Option Bytes) =>
    match rp.2 with
    | none => some ct
    | some line =>
      if !noAmbig || !xIsDegenN V.a (rp.1.1.getD apos 0) then
        (ppIdx V.t (line.getD apos 0)).map fun k => ct.set k (ct.getD k 0.0 + rp.1.2)
      else some ct) (List.replicate 12 0.0)

/-- `--pcinfo` (the second header line always carries the `rfpos` dashes: the source prints them unconditionally) -/
def pcinfoText (alifile : String) (v : AliView) (cts : List (List Float)) : String :=
  let nseq := v.rows.length
  let head := infoHead "# Posterior probability stats per column:\n" alifile v.nali v.name [] nseq [] v.useW
  let h1 := "# " ++ padL 6 "alnpos" ++ (if v.iamrf.isSome then "  " ++ padL 6 "rfpos" else "") ++ "  " ++ padL 9 "nnongap" ++
    String.join (ppString.map fun c => "  " ++ padL 9 (String.singleton c)) ++ "  " ++ padL 9 "avgPP" ++ "\n"
  let h2 := "# " ++ "------" ++ "  " ++ "------" ++ "  " ++ "---------" ++ String.join (ppString.map fun _ => "  ---------") ++ "  ---------\n"
  let rfc : List String := match v.iamrf with
    | some l => ((l.foldl (fun (st : Nat × List String) b =>
        if b then (st.1 + 1, ("  " ++ padL 6 (toString st.1)) :: st.2) else (st.1, ("  " ++ padL 6 "-") :: st.2)) (1, [])).2).reverse
    | none => List.replicate v.alen ""
  let lines := (List.range v.alen).map fun apos =>
    let ct := cts.getD apos []
    let nnongap := kahanSum (ct.take 11)
    let sum := (List.range 11).foldl (fun (acc : Float) k => acc + ct.getD k 0.0 * (ppAvg.getD k 0).toFloat) 0.0
    "  " ++ padL 6 (toString (apos + 1)) ++ rfc.getD apos "" ++ "  " ++ fF 9 1 nnongap ++
      String.join (ct.map fun x => "  " ++ fF 9 1 x) ++ "  " ++ fF 0 5 (sum / nnongap) ++ "\n"
  head ++ h1 ++ h2 ++ String.join lines ++ "//\n"

/-- `--psinfo`; `none` = "bad #=GR PP char" -/
def psinfoText (V : AbcViews) (alifile : String) (v : AliView) (pp : List (Option Bytes)) : Option String := do
  let nseq := v.rows.length
  let head := "# Posterior probability stats per sequence:\n# Alignment file: " ++ alifile ++ "\n# Alignment idx:  " ++ toString v.nali ++ "\n" ++
    (match v.name with | some n => "# Alignment name: " ++ bytesStr n ++ "\n" | none => "") ++
    "# Number of sequences: " ++ toString nseq ++ "\n" ++
    "# " ++ padL 7 "seqidx" ++ "  " ++ padRight 40 "seqname" ++ "  " ++ padL 7 "nnongap" ++
      String.join ((ppString.take 11).map fun c => "  " ++ padL 7 (String.singleton c)) ++ "  " ++ padL 7 "avgPP" ++ "\n" ++
    "# " ++ "-------" ++ "  " ++ "----------------------------------------" ++ "  " ++ "-------" ++
      String.join ((ppString.take 11).map fun _ => "  -------") ++ "  -------\n"
  let lines ← ((List.range nseq).zip pp).mapM fun (i, line?) =>
    match line? with
    | none => some ""
    | some line => do
      let idxs ← (line.take v.alen).mapM (ppIdx V.t)
      let ct := (List.range 12).map fun k => idxs.count k
      let nnongap := (ct.take 11).sum
      let sum := (List.range 11).foldl (fun (acc : Float) k => acc + (Float32.ofNat (ct.getD k 0) * ppAvg.getD k 0).toFloat) 0.0
      some ("  " ++ padL 7 (toString (i + 1)) ++ "  " ++ padRight 40 (bytesStr (v.names.getD i [])) ++ "  " ++ padL 7 (toString nnongap) ++
        String.join ((ct.take 11).map fun c => "  " ++ padL 7 (toString c)) ++ "  " ++ fF 0 5 (sum / (Float32.ofNat nnongap).toFloat) ++ "\n")
  some (head ++ String.join lines ++ "//\n")

/-- `--bpinfo`: the consensus pairs of `SS_cons` without pseudoknots (C15 `wussNopseudo`, `wuss2ct`), per pair the K×K counts of
    canonical residue pairs over the sequences; `none` = "Consensus structure string is inconsistent" -/
def bpinfoText (A : Alphabet) (alifile : String) (v : AliView) (ss : Bytes) : Option String := do
  let ct ← EaselModel.Msa.wuss2ct (EaselModel.Msa.wussNopseudo (ss.take v.alen))
  let nseq := v.rows.length
  let head := "# Per-column basepair counts:\n# Alignment file: " ++ alifile ++ "\n# Alignment idx:  " ++ toString v.nali ++ "\n" ++
    (match v.name with | some n => "# Alignment name: " ++ bytesStr n ++ "\n" | none => "") ++
    "# Number of sequences: " ++ toString nseq ++ "\n" ++
    "# Only basepairs involving two canonical (non-degenerate) residues were counted.\n" ++ weightsNote v.useW ++ "#\n"
  let syms := (List.range A.K).map fun i => Char.ofNat (A.sym.getD i 63)
  let pairsIdx := (List.range A.K).flatMap fun i => (List.range A.K).map fun j => (i, j)
  let h1 := "# " ++ padL 7 "lpos" ++ "  " ++ padL 7 "rpos" ++
    String.join (pairsIdx.map fun (i, j) => "    " ++ String.singleton (syms.getD i '?') ++ String.singleton (syms.getD j '?') ++ "  ") ++ "\n"
  let h2 := "# " ++ "-------" ++ "  " ++ "-------" ++ String.join (pairsIdx.map fun _ => "  ------") ++ "\n"
  let lines := (List.range v.alen).map fun apos =>
    let r := ct.getD (apos + 1) 0
    if r > apos + 1 then
      "  " ++ padL 7 (toString (apos + 1)) ++ "  " ++ padL 7 (toString r) ++
        String.join (pairsIdx.map fun (i, j) =>
          -- `bp_ct[apos][x][y] += seqwt` sequence by sequence, printed as `(int)`
          let c := (v.rows.zipIdx).foldl (fun (acc : Float) ri =>
            if ri.1.getD apos 0 == i && ri.1.getD (r - 1) 0 == j then acc + (if v.cntW then v.wts.getD ri.2 1.0 else 1.0) else acc) 0.0
          "  " ++ padL 6 (toString c.floor.toUInt64.toNat)) ++ "\n"
    else ""
  some (head ++ h1 ++ h2 ++ String.join lines ++ "//\n")

structure AlistatOpts where
  oneLine : Bool := false
  noAmbig : Bool := false
  list : Option String := none
  icinfo : Option String := none
  rinfo : Option String := none
  iinfo : Option String := none
  cinfo : Option String := none
  weight : Bool := false
  pcinfo : Option String := none
  psinfo : Option String := none
  bpinfo : Option String := none

def fmtName (infmt : String) : String := if infmt == "pfam" then "Pfam" else "Stockholm"

/-- a plain decimal `ddd[.ddd]` as the binary64 `strtod` returns (correctly rounded) -/
def parseDec (b : Bytes) : Option Float :=
  match b.splitOn 46 with
  | [i] => if !i.isEmpty && i.all isDigit then (String.ofList (i.map fun x => Char.ofNat x.toNat)).toNat?.map Float.ofNat else none
  | [i, f] =>
    if (i ++ f).isEmpty || !(i ++ f).all isDigit then none
    else (String.ofList ((i ++ f).map fun x => Char.ofNat x.toNat)).toNat?.map fun n => Float.ofScientific n true f.length
  | _ => none

/-- `msa->wgt[]` of one alignment, read off its own `#=GS <name> WT <value>` lines (C03's reader model keeps only whether a weight
    is set, not its value); a sequence without a WT line has weight 1.0; `none` = a value that is not a plain decimal -/
def wtsOfSpan (names : List Bytes) (span : List Bytes) : Option (List Float) :=
  let toks (l : Bytes) : List Bytes := ((l.splitOn 32).flatMap fun w => w.splitOn 9).filter fun w => !w.isEmpty
  let wl : List (Bytes × Bytes) := span.filterMap fun l =>
    match toks l with
    | [g, n, t, v] => if g == str "#=GS" && t == str "WT" then some (n, v) else none
    | _ => none
  names.mapM fun n => match wl.find? (fun p => p.1 == n) with | some (_, v) => parseDec v | none => some 1.0

/-- one alignment of the file, as the tool sees it; `none` = the tool stops with a message (RF without consensus column) -/
def viewOf (V : AbcViews) (nali : Nat) (m : FMsa) (wts : List Float := []) : Option AliView :=
  if !m.digital then none else
  let rows := m.ax.map fun r => ((r.drop 1).dropLast).map (·.toNat)
  let wts := if wts.isEmpty then rows.map fun _ => 1.0 else wts
  match m.rf with
  | some rf =>
    if rf.any (fun c => c.toNat ≥ 128) then none else
    let l := (iAmRf V.t rf).take m.alen
    if l.any id then some { nali := nali, name := m.name, names := m.names, rows := rows, alen := m.alen, iamrf := some l, wts := wts, pp := m.pp, sscons := m.ssCons } else none
  | none => some { nali := nali, name := m.name, names := m.names, rows := rows, alen := m.alen, iamrf := none, wts := wts, pp := m.pp, sscons := m.ssCons }

/-- the summary block / line of one alignment -/
def summaryText (V : AbcViews) (o : AlistatOpts) (infmt : String) (v : AliView) : String :=
  let crow := v.rows.map fun r => r.map fun x => V.c.syms.getD x '-'
  let st := aliStats V.c crow
  let nm := match v.name with | some n => bytesStr n | none => "(null)"
  if o.oneLine then
    padRight 6 (toString v.nali) ++ " " ++ padRight 20 nm ++ " " ++ padLeft 10 (fmtName infmt) ++ " " ++ padLeft 7 (toString st.nseq) ++ " " ++
      padLeft 7 (toString v.alen) ++ " " ++ padLeft 12 (toString st.nres) ++ " " ++ padLeft 6 (toString st.small) ++ " " ++
      padLeft 6 (toString st.large) ++ " " ++ padLeft 10 (avgLen st.nres st.nseq) ++ " " ++ padLeft 3 (pct0 (avgId V.c crow 1000)) ++ "\n"
  else
    "Alignment number:    " ++ toString v.nali ++ "\n" ++
    (match v.name with | some n => "Alignment name:      " ++ bytesStr n ++ "\n" | none => "") ++
    "Format:              " ++ fmtName infmt ++ "\n" ++
    "Number of sequences: " ++ toString st.nseq ++ "\n" ++
    "Alignment length:    " ++ toString v.alen ++ "\n" ++
    "Total # residues:    " ++ toString st.nres ++ "\n" ++
    "Smallest:            " ++ toString st.small ++ "\n" ++
    "Largest:             " ++ toString st.large ++ "\n" ++
    "Average length:      " ++ avgLen st.nres st.nseq ++ "\n" ++
    "Average identity:    " ++ pct0 (avgId V.c crow 1000) ++ "%\n//\n"

def oneLineHeader : String :=
  "#\n" ++
  "# " ++ padRight 4 "idx" ++ " " ++ padRight 20 "name" ++ " " ++ padLeft 10 "format" ++ " " ++ padLeft 7 "nseq" ++ " " ++
    padLeft 7 "alen" ++ " " ++ padLeft 12 "nres" ++ " " ++ padLeft 6 "small" ++ " " ++ padLeft 6 "large" ++ " " ++
    padLeft 10 "avlen" ++ " " ++ padLeft 3 "%id" ++ "\n" ++
  "# " ++ "----" ++ " " ++ "--------------------" ++ " " ++ "----------" ++ " " ++ "-------" ++ " " ++ "-------" ++ " " ++
    "------------" ++ " " ++ "------" ++ " " ++ "------" ++ " " ++ "----------" ++ " " ++ "---" ++ "\n"

/-- `esl-alistat [-1] [--list f] [--icinfo f] [--rinfo f] [--iinfo f] [--cinfo f [--noambig]] --informat stockholm|pfam (--dna|--rna|--amino) <file>`:
    stdout and the files written -/
def alistatInfo (V : AbcViews) (o : AlistatOpts) (infmt alifile : String) (src : Bytes) : Option (String × List (String × String)) :=
  if infmt != "stockholm" && infmt != "pfam" then none else
  let ls := EaselModel.Msafile.splitLines src
  match readAllSpans (stockholmRead (stockholmCfg (some V.f))) (ls.length + 2) ls [] with
  | none => none
  | some recs =>
    if recs.isEmpty then none else
    match (recs.mapIdx fun i r => (if o.weight then wtsOfSpan r.1.names r.2 else some []).bind fun w => viewOf V (i + 1) r.1 w).mapM id with
    | none => none
    | some vs0 =>
      -- `weights_exist`: some weight differs from 1.0 as a binary32 (`esl_FCompare_old(wgt, 1.0, eslSMALLX1)`: the tolerance is below float resolution)
      let vs := vs0.map fun v => { v with cntW := o.weight, useW := o.weight && v.wts.any fun w => w.toFloat32 != (1.0 : Float).toFloat32 }
      if o.iinfo.isSome && vs.any (fun v => v.iamrf.isNone) then none else
      if (o.pcinfo.isSome || o.psinfo.isSome) && vs.any (fun v => v.pp.isNone) then none else
      if o.bpinfo.isSome && vs.any (fun v => v.sscons.isNone) then none else
      -- the PP counts are collected (and a bad PP character is fatal) whenever any count-based file is asked for and the alignment has PP lines
      let needCt := o.icinfo.isSome || o.rinfo.isSome || o.cinfo.isSome || o.pcinfo.isSome || o.bpinfo.isSome
      match vs.mapM (fun v => match v.pp with
          | some pp => if needCt then ((List.range v.alen).mapM (ppColumnCounts V o.noAmbig v pp)).map some else some none
          | none => some none) with
      | none => none
      | some ppcts =>
      match (if o.psinfo.isSome then vs.mapM (fun v => psinfoText V alifile v (v.pp.getD [])) else some []) with
      | none => none
      | some psTexts =>
      match (if o.bpinfo.isSome then vs.mapM (fun v => bpinfoText V.a alifile v (v.sscons.getD [])) else some []) with
      | none => none
      | some bpTexts =>
      -- `count_msa` needs the consensus pairs as soon as --bpinfo is on and the alignment has SS_cons: an inconsistent structure is fatal there
      let needCt := needCt
      let per := vs.map fun v =>
        let cts := if needCt then (List.range v.alen).map (columnCountsW V.a o.noAmbig v.rows (v.rows.zipIdx.map fun ri => if v.cntW then v.wts.getD ri.2 1.0 else 1.0)) else []
        (v, cts)
      let out := (if o.oneLine then oneLineHeader else "") ++ String.join (vs.map (summaryText V o infmt))
      let file (opt : Option String) (f : AliView × List (List Float) → String) (note : String → String) : List (String × String) × String :=
        match opt with
        | some fn => ([(fn, String.join (per.map f))], note fn)
        | none => ([], "")
      let fl := file o.list (fun p => String.join (p.1.names.map fun n => bytesStr n ++ "\n"))
        (fun fn => "# List of sequences in " ++ toString vs.length ++ " alignment(s) saved to file " ++ fn ++ "\n")
      let fi := file o.icinfo (fun p => icinfoText V.a alifile p.1 p.2) (fun fn => "# Information content data saved to file " ++ fn ++ ".\n")
      let fr := file o.rinfo (fun p => rinfoText V.a alifile p.1 p.2) (fun fn => "# Residue data saved to file " ++ fn ++ ".\n")
      let fn_ := file o.iinfo (fun p => iinfoText V.a alifile p.1 (p.1.iamrf.getD [])) (fun fn => "# Insert data saved to file " ++ fn ++ ".\n")
      let fc := file o.cinfo (fun p => cinfoText V.a o.noAmbig alifile p.1 p.2) (fun fn => "# Per-column counts data saved to file " ++ fn ++ ".\n")
      let fpc : List (String × String) × String := match o.pcinfo with
        | some fn => ([(fn, String.join ((vs.zip ppcts).map fun (v, c) => pcinfoText alifile v (c.getD [])))],
                      "# Per-column posterior probability data saved to file " ++ fn ++ ".\n")
        | none => ([], "")
      let fps : List (String × String) × String := match o.psinfo with
        | some fn => ([(fn, String.join psTexts)], "# Per-sequence posterior probability data saved to file " ++ fn ++ ".\n")
        | none => ([], "")
      let fbp : List (String × String) × String := match o.bpinfo with
        | some fn => ([(fn, String.join bpTexts)], "# Per-column basepair counts data saved to file " ++ fn ++ ".\n")
        | none => ([], "")
      some (out ++ fl.2 ++ fi.2 ++ fr.2 ++ fpc.2 ++ fps.2 ++ fn_.2 ++ fc.2 ++ fbp.2, fl.1 ++ fi.1 ++ fr.1 ++ fpc.1 ++ fps.1 ++ fn_.1 ++ fc.1 ++ fbp.1)

/-! ## `easel alistat [-1]` on a Stockholm / Pfam file (`miniapps/cmd_alistat.c`): the format is GUESSED (C03 `guessFormat`), every
    alignment is summarised; with `-1` the record size of an alignment is printed one loop iteration LATE (it is the distance to
    the next alignment's offset, or to the end of the file), divided in binary32 by the residue count of the alignment it belongs to -/

def spanBytes (span : List Bytes) : Nat := (span.map fun l => l.length + 1).sum

def easelAlistatSto (V : AbcViews) (oneLine : Bool) (fname : String) (src : Bytes) : Option String :=
  let ls := EaselModel.Msafile.splitLines src
  match guessFormat (some (str fname)) ls with
  | .ok (fmt, _) =>
    if fmt != .stockholm && fmt != .pfam then none else
    let fmtName := if fmt == .pfam then "Pfam" else "Stockholm"
    match readAllSpans (stockholmRead (stockholmCfg (some V.f))) (ls.length + 2) ls [] with
    | none => none
    | some recs =>
      if recs.isEmpty || recs.any (fun r => !r.1.digital) || src.getLast? != some 10 || src.contains 13 then none else
      let offs := recs.foldl (fun (st : Nat × List Nat) r => (st.1 + spanBytes r.2, st.2 ++ [st.1])) (0, [])
      let lines := recs.mapIdx fun k r =>
        let m := r.1
        let crow := (m.ax.map fun x => ((x.drop 1).dropLast)).map fun row => row.map fun c => V.c.syms.getD c.toNat '-'
        let st := aliStats V.c crow
        let nm := match m.name with | some n => bytesStr n | none => "(null)"
        if oneLine then
          let off := offs.2.getD k 0
          let recsize := if k + 1 < recs.length then offs.2.getD (k + 1) 0 - off else src.length - off
          let ratio := fmtFloatSigned (Float32.ofNat recsize / Float32.ofNat st.nres).toFloat 2
          padRight 6 (toString (k + 1)) ++ " " ++ padRight 20 nm ++ " " ++ padLeft 10 fmtName ++ " " ++ padLeft 10 (toString st.nseq) ++ " " ++
            padLeft 10 (toString m.alen) ++ " " ++ padLeft 12 (toString st.nres) ++ " " ++ padLeft 6 (toString st.small) ++ " " ++
            padLeft 6 (toString st.large) ++ " " ++ padLeft 8 (avgLen st.nres st.nseq) ++ " " ++ padLeft 3 (pct0 (avgId V.c crow 1000)) ++ " " ++
            padLeft 12 (toString recsize) ++ " " ++ padLeft 10 ratio ++ "\n"
        else
          "Alignment name:      " ++ nm ++ "\n" ++
          "Format:              " ++ fmtName ++ "\n" ++
          "Alphabet:            " ++ V.c.typeName ++ "\n" ++
          "Number of sequences: " ++ toString st.nseq ++ "\n" ++
          "Alignment length:    " ++ toString m.alen ++ "\n" ++
          "Total # residues:    " ++ toString st.nres ++ "\n" ++
          "Smallest:            " ++ toString st.small ++ "\n" ++
          "Largest:             " ++ toString st.large ++ "\n" ++
          "Average length:      " ++ avgLen st.nres st.nseq ++ "\n" ++
          "Average identity:    " ++ pct0 (avgId V.c crow 1000) ++ "%\n//\n"
      some ((if oneLine then easelOneLineHeader else "") ++ String.join lines)
  | _ => none

theorem foldl_set_length {α β : Type} (f : List α → β → List α) (h : ∀ l b, (f l b).length = l.length) (bs : List β) (l : List α) :
    (bs.foldl f l).length = l.length := by
  induction bs generalizing l with
  | nil => rfl
  | cons b bs ih => simp [List.foldl_cons, ih, h]

theorem dCount_length (A : Alphabet) (ct : List Float) (x : Nat) (wt : Float) : (dCount A ct x wt).length = ct.length := by
  unfold dCount
  split
  · simp
  · split
    · rfl
    · apply foldl_set_length
      intro l y
      split <;> simp

theorem columnCountsW_length (A : Alphabet) (noAmbig : Bool) (rows : List (List Nat)) (wts : List Float) (apos : Nat) :
    (columnCountsW A noAmbig rows wts apos).length = A.K + 1 := by
  unfold columnCountsW
  rw [foldl_set_length]
  · simp
  · intro l r
    simp only []
    split
    · exact dCount_length _ _ _ _
    · rfl

theorem columnCounts_length (A : Alphabet) (noAmbig : Bool) (rows : List (List Nat)) (apos : Nat) :
    (columnCounts A noAmbig rows apos).length = A.K + 1 := columnCountsW_length A noAmbig rows _ apos

theorem dCount_canonical (A : Alphabet) (ct : List Float) (x : Nat) (wt : Float) (hx : x ≤ A.K) (y : Nat) (hy : y ≠ x) :
    (dCount A ct x wt).getD y 0.0 = ct.getD y 0.0 := by
  have : (x < A.K || x == A.K) = true := by
    rcases Nat.lt_or_eq_of_le hx with h | h <;> simp [h]
  simp only [dCount, this, ↓reduceIte]
  simp [List.getD_eq_getElem?_getD, Ne.symm hy]

theorem dCount_missing (A : Alphabet) (ct : List Float) (x : Nat) (wt : Float) (hK : A.K + 3 ≤ A.Kp)
    (hx : x = A.Kp - 1 ∨ x = A.Kp - 2) : dCount A ct x wt = ct := by
  have hlt : ¬ x < A.K := by rcases hx with h | h <;> omega
  have hne : x ≠ A.K := by rcases hx with h | h <;> omega
  have h1 : (x < A.K || x == A.K) = false := by simp [hlt, hne]
  have h2 : (x == A.Kp - 1 || x == A.Kp - 2) = true := by
    rcases hx with h | h <;> simp [h]
  simp [dCount, h1, h2]

theorem rfCells_fold_length (l : List Bool) (st : Nat × List String) :
    ((l.foldl (fun (st : Nat × List String) b =>
      if b then (st.1 + 1, ("  " ++ padLeft 7 (toString (st.1 + 1))) :: st.2) else (st.1, ("  " ++ padLeft 7 "-") :: st.2)) st).2).length
      = st.2.length + l.length := by
  induction l generalizing st with
  | nil => simp
  | cons b bs ih =>
    simp only [List.foldl_cons, List.length_cons]
    rw [ih]
    cases b <;> simp <;> omega

theorem rfCells_length (iamrf : List Bool) : (rfCells iamrf).length = iamrf.length := by
  unfold rfCells
  rw [List.length_reverse, rfCells_fold_length]
  simp

end EaselModel.Miniapps.Ali
