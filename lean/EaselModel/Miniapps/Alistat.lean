import EaselModel.Miniapps.Range
import EaselModel.Miniapps.Selectn
/-! # C13 — esl-alistat / `easel alistat` on one aligned-FASTA alignment: recomputed counts and average identity -/
namespace EaselModel.Miniapps
open EaselModel.Random

/-- `esl_abc_dsqrlen`: residues (canonical or degenerate) of an aligned row -/
def rowRlen (a : Abc) (row : List Char) : Nat := (row.filter a.isRes).length

structure AliStats where
  nseq : Nat
  alen : Nat
  nres : Nat
  small : Nat
  large : Nat
deriving DecidableEq, Repr

/-- the loop `smallest = largest = -1; for i: rlen = dsqrlen(ax[i]); nres += rlen; if (smallest == -1 || rlen < smallest) …` -/
def aliStats (a : Abc) (rows : List (List Char)) : AliStats :=
  let ls := rows.map (rowRlen a)
  let st := stats ls
  { nseq := rows.length, alen := (rows.headD []).length, nres := st.nres, small := st.small, large := st.large }

def pidF (a : Abc) (x y : List Char) : Float :=
  let p := pairStats a x y
  if p.n = 0 then 0.0 else Float.ofNat p.nid / Float.ofNat p.n

/-- all-pairs branch of `esl_dst_XAverageId`: `for i<N for j>i: avgid += id; avgid /= N(N-1)/2` -/
def avgIdAll (a : Abc) (rows : List (List Char)) : Float :=
  let n := rows.length
  let idx := List.range n
  let s := idx.foldl (fun acc i =>
    (idx.filter (fun j => i < j)).foldl (fun acc j => acc + pidF a (rows.getD i []) (rows.getD j [])) acc) 0.0
  s / Float.ofNat (n * (n - 1) / 2)

/-- sampling branch: `rng = Create(42); max_comparisons times: do { i = Roll(N); j = Roll(N); } while (j == i)` -/
def samplePair (n : Nat) : Nat → Rng → Nat × Nat × Rng
  | 0, g => (0, 1, g)
  | fuel + 1, g =>
    let (i, g) := rollRng g n
    let (j, g) := rollRng g n
    if j = i then samplePair n fuel g else (i, j, g)

def avgIdSample (a : Abc) (rows : List (List Char)) (maxc : Nat) : Float :=
  let n := rows.length
  let arr := rows.toArray
  let rec go : Nat → Rng → Float → Float
    | 0, _, acc => acc
    | k + 1, g, acc =>
      let (i, j, g) := samplePair n 100000 g
      go k g (acc + pidF a (arr.getD i []) (arr.getD j []))
  go maxc (Rng.create .mersenne 42) 0.0 / Float.ofNat maxc

def avgId (a : Abc) (rows : List (List Char)) (maxc : Nat) : Float :=
  let n := rows.length
  if n ≤ 1 then 1.0
  else if n ≤ maxc ∧ Float.ofNat n ≤ Float.sqrt (2.0 * Float.ofNat maxc) ∧ n * (n - 1) / 2 ≤ maxc then avgIdAll a rows
  else avgIdSample a rows maxc

def pct0 (x : Float) : String := fmtFloat (100.0 * x) 0

def avgLen (nres nseq : Nat) : String := fmtFloat (Float.ofNat nres / Float.ofNat nseq) 1

/-- `easel alistat <afa>` (default output) -/
def easelAlistatText (a : Abc) (recs : List Rec) : String :=
  let rows := recs.map fun r => a.normalize r.seq
  let st := aliStats a rows
  "Alignment name:      (null)\n" ++
  "Format:              aligned FASTA\n" ++
  "Alphabet:            " ++ a.typeName ++ "\n" ++
  "Number of sequences: " ++ toString st.nseq ++ "\n" ++
  "Alignment length:    " ++ toString st.alen ++ "\n" ++
  "Total # residues:    " ++ toString st.nres ++ "\n" ++
  "Smallest:            " ++ toString st.small ++ "\n" ++
  "Largest:             " ++ toString st.large ++ "\n" ++
  "Average length:      " ++ avgLen st.nres st.nseq ++ "\n" ++
  "Average identity:    " ++ pct0 (avgId a rows 1000) ++ "%\n//\n"

/-- `esl-alistat --informat afa <afa>` (default output; an aligned-FASTA alignment has no name) -/
def eslAlistatText (a : Abc) (recs : List Rec) : String :=
  let rows := recs.map fun r => a.normalize r.seq
  let st := aliStats a rows
  "Alignment number:    1\n" ++
  "Format:              aligned FASTA\n" ++
  "Number of sequences: " ++ toString st.nseq ++ "\n" ++
  "Alignment length:    " ++ toString st.alen ++ "\n" ++
  "Total # residues:    " ++ toString st.nres ++ "\n" ++
  "Smallest:            " ++ toString st.small ++ "\n" ++
  "Largest:             " ++ toString st.large ++ "\n" ++
  "Average length:      " ++ avgLen st.nres st.nseq ++ "\n" ++
  "Average identity:    " ++ pct0 (avgId a rows 1000) ++ "%\n//\n"

/-- `esl-alistat -1` -/
def eslAlistatOneLine (a : Abc) (recs : List Rec) : String :=
  let rows := recs.map fun r => a.normalize r.seq
  let st := aliStats a rows
  "#\n" ++
  "# " ++ padRight 4 "idx" ++ " " ++ padRight 20 "name" ++ " " ++ padLeft 10 "format" ++ " " ++ padLeft 7 "nseq" ++ " " ++
    padLeft 7 "alen" ++ " " ++ padLeft 12 "nres" ++ " " ++ padLeft 6 "small" ++ " " ++ padLeft 6 "large" ++ " " ++
    padLeft 10 "avlen" ++ " " ++ padLeft 3 "%id" ++ "\n" ++
  "# " ++ "----" ++ " " ++ "--------------------" ++ " " ++ "----------" ++ " " ++ "-------" ++ " " ++ "-------" ++ " " ++
    "------------" ++ " " ++ "------" ++ " " ++ "------" ++ " " ++ "----------" ++ " " ++ "---" ++ "\n" ++
  padRight 6 "1" ++ " " ++ padRight 20 "(null)" ++ " " ++ padLeft 10 "aligned FASTA" ++ " " ++ padLeft 7 (toString st.nseq) ++ " " ++
    padLeft 7 (toString st.alen) ++ " " ++ padLeft 12 (toString st.nres) ++ " " ++ padLeft 6 (toString st.small) ++ " " ++
    padLeft 6 (toString st.large) ++ " " ++ padLeft 10 (avgLen st.nres st.nseq) ++ " " ++ padLeft 3 (pct0 (avgId a rows 1000)) ++ "\n"

/-- the `esl_dataheader` line pair of `easel alistat -1` -/
def easelOneLineHeader : String :=
  let cols : List (Int × String) := [(-6, "idx"), (-20, "name"), (-10, "format"), (10, "nseq"), (10, "alen"), (12, "nres"), (6, "small"),
    (6, "large"), (8, "avglen"), (3, "%id"), (12, "recsize"), (10, "size/nres")]
  let cell (first : Bool) (w : Int) (t : String) : String :=
    let width := w.natAbs - (if first then 2 else 0)
    (if first then "# " else "") ++ (if w < 0 then padRight width t else padLeft width t)
  " ".intercalate (cols.mapIdx fun i c => cell (i == 0) c.1 c.2) ++ "\n" ++
  " ".intercalate (cols.mapIdx fun i c =>
    (if i == 0 then "#" else "") ++ String.ofList (List.replicate (c.1.natAbs - (if i == 0 then 1 else 0)) '-')) ++ "\n"

/-- `easel alistat -1 <afa>`: `esl_dataheader` line pair + one row; the record size is the file size (one alignment
    starting at offset 0) and `size/nres` is a single-precision quotient -/
def easelAlistatOneLine (a : Abc) (fileSize : Nat) (recs : List Rec) : String :=
  let rows := recs.map fun r => a.normalize r.seq
  let st := aliStats a rows
  let cols : List (Int × String) := [(-6, "idx"), (-20, "name"), (-10, "format"), (10, "nseq"), (10, "alen"), (12, "nres"), (6, "small"),
    (6, "large"), (8, "avglen"), (3, "%id"), (12, "recsize"), (10, "size/nres")]
  let cell (first : Bool) (w : Int) (t : String) : String :=
    let width := w.natAbs - (if first then 2 else 0)
    (if first then "# " else "") ++ (if w < 0 then padRight width t else padLeft width t)
  let hdr := " ".intercalate (cols.mapIdx fun i c => cell (i == 0) c.1 c.2) ++ "\n"
  let dashes := " ".intercalate (cols.mapIdx fun i c =>
    (if i == 0 then "#" else "") ++ String.ofList (List.replicate (c.1.natAbs - (if i == 0 then 1 else 0)) '-')) ++ "\n"
  let ratio := fmtFloat (Float32.ofNat fileSize / Float32.ofNat st.nres).toFloat 2
  hdr ++ dashes ++
  padRight 6 "1" ++ " " ++ padRight 20 "(null)" ++ " " ++ padLeft 10 "aligned FASTA" ++ " " ++ padLeft 10 (toString st.nseq) ++ " " ++
    padLeft 10 (toString st.alen) ++ " " ++ padLeft 12 (toString st.nres) ++ " " ++ padLeft 6 (toString st.small) ++ " " ++
    padLeft 6 (toString st.large) ++ " " ++ padLeft 8 (avgLen st.nres st.nseq) ++ " " ++ padLeft 3 (pct0 (avgId a rows 1000)) ++ " " ++
    padLeft 12 (toString fileSize) ++ " " ++ padLeft 10 ratio ++ "\n"

theorem aliStats_nres (a : Abc) (rows : List (List Char)) :
    (aliStats a rows).nres = (rows.map (rowRlen a)).sum := by
  exact stats_nres _

theorem rowRlen_le (a : Abc) (row : List Char) : rowRlen a row ≤ row.length := by
  simp [rowRlen, List.length_filter_le]

end EaselModel.Miniapps
