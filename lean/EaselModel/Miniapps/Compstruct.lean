import EaselModel.Miniapps.ReformatMsa
import EaselModel.Miniapps.Text
/-! # C13 — `esl-compstruct`: base pairs of predicted structures compared with trusted ones

Line-by-line model of `miniapps/esl-compstruct.c:main()`: two Stockholm files read in text mode (C03 reader), per sequence
the `[REJECTED: …]` tests in the tool's order, `esl_strdealign` of sequence and structure, `esl_wuss_nopseudo` unless `-p`,
`esl_wuss2ct` (both C15 models), the pair-counting loop with the strict rule and with Mathews' relaxed rule (`-m`), the
per-sequence line and the summary.  Percentages are the tool's binary64 expression `100. * (float) a / (float) b`
(a quotient `0/0` prints as `-nan`, as on the platform). -/
namespace EaselModel.Miniapps.Ali
open EaselModel.Msafile

def gapB : Bytes := str "-_.~"

/-- `esl_strdealign(s, aseq, "-_.~", …)`: the characters of `s` at the positions where `aseq` has no gap character -/
def dealignBy (s aseq : Bytes) : Bytes := (s.zip aseq).filterMap fun p => if gapB.contains p.2 then none else some p.1

/-- positions `1..len` -/
def positions (len : Nat) : List Nat := (List.range len).map (· + 1)

/-- the correctness test of one pair seen from structure `a` against structure `b` (both CT arrays, 1-based):
    strict = the same pair is in `b`; Mathews = `b` has (i,j), (i-1,j), (i+1,j), (i,j-1) or (i,j+1) -/
def pairOk (mathews : Bool) (len : Nat) (a b : List Nat) (pos : Nat) : Bool :=
  let aj := a.getD pos 0
  let bj := b.getD pos 0
  if mathews then
    bj == aj || (pos > 1 && b.getD (pos - 1) 0 == aj) || (pos < len && b.getD (pos + 1) 0 == aj) ||
    (bj > 0 && bj == aj - 1) || (bj > 0 && bj == aj + 1)
  else bj == aj

/-- `if (a[pos] > pos)`: position `pos` opens a pair of structure `a` -/
def opens (a : List Nat) (pos : Nat) : Bool := decide (pos < a.getD pos 0)

structure PairCounts where
  kpairs : Nat
  kcorrect : Nat
  tpairs : Nat
  tcorrect : Nat
deriving DecidableEq, Repr

/-- the loop `for (pos = 1; pos <= klen; pos++)` -/
def comparePairs (mathews : Bool) (len : Nat) (kct tct : List Nat) : PairCounts :=
  let ps := positions len
  { kpairs := ps.countP (opens kct),
    kcorrect := ps.countP (fun pos => opens kct pos && pairOk mathews len kct tct pos),
    tpairs := ps.countP (opens tct),
    tcorrect := ps.countP (fun pos => opens tct pos && pairOk mathews len tct kct pos) }

/-- `printf("%<w>.2f", 100. * (float) a / (float) b)` -/
def pctText (w : Nat) (a b : Nat) : String :=
  let x := 100.0 * Float.ofNat a / Float.ofNat b
  EaselModel.Miniapps.padLeft w (if x.isNaN then "-nan" else EaselModel.Miniapps.fmtFloatSigned x 2)

def bstr (b : Bytes) : String := String.ofList (b.map fun x => Char.ofNat x.toNat)

inductive SeqOutcome where
  | rejected (msg : String)
  | counted (c : PairCounts) (len : Nat)

/-- one sequence `i` of a pair of alignments: the rejection tests in the tool's order, then the comparison -/
def compareSeq (mathews pseudo : Bool) (ka ta : FMsa) (i : Nat) : SeqOutcome :=
  let kss := (ka.ss.getD []).getD i none
  let tss := (ta.ss.getD []).getD i none
  match tss, kss with
  | none, _ => .rejected "[REJECTED: no predicted structure]\n"
  | some _, none => .rejected "[REJECTED: no trusted structure]\n"
  | some ts, some ks =>
    let kname := ka.names.getD i []
    let tname := ta.names.getD i []
    if kname != tname then .rejected ("[REJECTED: test seq name is " ++ bstr tname ++ "]\n")
    else
      let kseq := ka.aseq.getD i []
      let tseq := ta.aseq.getD i []
      let ks := dealignBy ks kseq
      let ts := dealignBy ts tseq
      let klen := (kseq.filter fun c => !gapB.contains c).length
      let tlen := (tseq.filter fun c => !gapB.contains c).length
      if klen != tlen then .rejected "[REJECTED: seq lengths not identical]\n"
      else
        let ks := if pseudo then ks else EaselModel.Msa.wussNopseudo ks
        let ts := if pseudo then ts else EaselModel.Msa.wussNopseudo ts
        match EaselModel.Msa.wuss2ct ks with
        | none => .rejected "[REJECTED: bad trusted structure]\n"
        | some kct =>
          match EaselModel.Msa.wuss2ct ts with
          | none => .rejected "[REJECTED: bad test structure]\n"
          | some tct => .counted (comparePairs mathews klen kct tct) klen

structure Totals where
  nseq : Nat := 0
  rejected : Nat := 0
  kpairs : Nat := 0
  kcorrect : Nat := 0
  tpairs : Nat := 0
  tcorrect : Nat := 0
  positions : Nat := 0

def padNat (w n : Nat) : String := EaselModel.Miniapps.padLeft w (toString n)

/-- the lines of one pair of alignments; `none` = the tool stops with a message (different numbers of sequences, an alignment
    without any structure annotation) -/
def compareAli (mathews pseudo : Bool) (ka ta : FMsa) (t : Totals) : Option (String × Totals) :=
  if ka.nseq != ta.nseq || ka.ss.isNone || ta.ss.isNone then none
  else some ((List.range ka.nseq).foldl (fun (st : String × Totals) i =>
    let head := EaselModel.Miniapps.padRight 20 (bstr (ka.names.getD i [])) ++ " "
    let t := { st.2 with nseq := st.2.nseq + 1 }
    match compareSeq mathews pseudo ka ta i with
    | .rejected msg => (st.1 ++ head ++ msg, { t with rejected := t.rejected + 1 })
    | .counted c len =>
      (st.1 ++ head ++ " ==  " ++ padNat 5 c.kcorrect ++ " " ++ padNat 5 c.kpairs ++ " " ++ pctText 5 c.kcorrect c.kpairs ++ "%   " ++
         padNat 5 c.tcorrect ++ " " ++ padNat 5 c.tpairs ++ " " ++ pctText 5 c.tcorrect c.tpairs ++ "%\n",
       { t with kpairs := t.kpairs + c.kpairs, kcorrect := t.kcorrect + c.kcorrect, tpairs := t.tpairs + c.tpairs,
                tcorrect := t.tcorrect + c.tcorrect, positions := t.positions + len })) ("", t))

def summary (t : Totals) : String :=
  "\n\n" ++
  (if t.rejected > 0 then
    toString t.nseq ++ " total sequences; " ++ toString (t.nseq - t.rejected) ++ " counted towards comparison; " ++ toString t.rejected ++ " rejected\n" ++
    "(grep \"REJECTED\" in the output to identify the problems)\n\n" else "") ++
  "Overall prediction accuracy (" ++ toString (t.nseq - t.rejected) ++ " sequences, " ++ toString t.positions ++ " positions)\n" ++
  "   " ++ toString t.kcorrect ++ "/" ++ toString t.kpairs ++ " trusted pairs predicted (" ++ pctText 0 t.kcorrect t.kpairs ++ "% sensitivity)\n" ++
  "   " ++ toString t.tcorrect ++ "/" ++ toString t.tpairs ++ " predicted pairs correct (" ++ pctText 0 t.tcorrect t.tpairs ++ "% PPV)\n" ++
  "\n"

/-- `while (Read(kfp) != eslEOF) { Read(tfp) must succeed; … }`: alignments are paired in file order; what is left in the test file is not read -/
def compareFiles (mathews pseudo : Bool) : List FMsa → List FMsa → String × Totals → Option (String × Totals)
  | [], _, st => some st
  | _ :: _, [], _ => none
  | ka :: ks, ta :: ts, st =>
    match compareAli mathews pseudo ka ta st.2 with
    | none => none
    | some (txt, t) => compareFiles mathews pseudo ks ts (st.1 ++ txt, t)

/-- stdout of `esl-compstruct --quiet [-m] [-p] <trusted.sto> <test.sto>` -/
def compstruct (mathews pseudo : Bool) (ksrc tsrc : Bytes) : Option String :=
  match readFile "stockholm" ksrc, readFile "stockholm" tsrc with
  | some kas, some tas =>
    if kas.isEmpty then none else
    (compareFiles mathews pseudo kas tas
      (EaselModel.Miniapps.padLeft 20 "" ++ "   " ++ EaselModel.Miniapps.padLeft 17 "[sensitivity]" ++ " " ++ EaselModel.Miniapps.padLeft 17 "[PPV]" ++ "\n", {})).map fun (txt, t) => txt ++ summary t
  | _, _ => none

theorem strict_pointwise (len : Nat) (kct tct : List Nat) (pos : Nat) :
    (opens kct pos && pairOk false len kct tct pos) = (opens tct pos && pairOk false len tct kct pos) := by
  simp only [opens, pairOk, Bool.false_eq_true, if_false]
  generalize kct.getD pos 0 = a
  generalize tct.getD pos 0 = b
  by_cases h : b = a
  · subst h; rfl
  · have h' : ¬ a = b := fun e => h e.symm
    have e1 : (b == a) = false := by simpa using h
    have e2 : (a == b) = false := by simpa using h'
    rw [e1, e2, Bool.and_false, Bool.and_false]

theorem comparePairs_strict_symm (len : Nat) (kct tct : List Nat) :
    (comparePairs false len kct tct).kcorrect = (comparePairs false len kct tct).tcorrect := by
  simp only [comparePairs]
  congr 1
  funext pos
  exact strict_pointwise len kct tct pos

theorem comparePairs_le (m : Bool) (len : Nat) (kct tct : List Nat) :
    (comparePairs m len kct tct).kcorrect ≤ (comparePairs m len kct tct).kpairs ∧
    (comparePairs m len kct tct).tcorrect ≤ (comparePairs m len kct tct).tpairs := by
  simp only [comparePairs]
  constructor <;> apply List.countP_mono_left <;> intro x _ hx <;> simp at hx ⊢ <;> exact hx.1

theorem comparePairs_self (m : Bool) (len : Nat) (ct : List Nat) :
    (comparePairs m len ct ct).kcorrect = (comparePairs m len ct ct).kpairs := by
  simp only [comparePairs]
  congr 1
  funext pos
  cases m <;> simp [pairOk]

theorem comparePairs_mathews_ge (len : Nat) (kct tct : List Nat) :
    (comparePairs false len kct tct).kcorrect ≤ (comparePairs true len kct tct).kcorrect := by
  simp only [comparePairs]
  apply List.countP_mono_left
  intro pos _ h
  simp only [pairOk, Bool.false_eq_true, if_false, Bool.and_eq_true] at h
  simp only [pairOk, if_true, Bool.and_eq_true, Bool.or_eq_true]
  exact ⟨h.1, Or.inl (Or.inl (Or.inl (Or.inl h.2)))⟩

end EaselModel.Miniapps.Ali
