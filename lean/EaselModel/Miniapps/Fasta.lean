import EaselModel.Miniapps.Text
import EaselModel.Core.ListWhile
/-! # C13 — a simple FASTA reader/writer used as the independent computation for the sequence tools

`parseLines` is the specification-level reader for well-formed FASTA (what `esl_sqio` returns for such files):
a record starts at a line beginning with `>`; name = first blank-delimited word, description = rest of the line;
residues = every non-blank character of the following lines up to the next header.
`renderLines w` is `esl_sqascii_WriteFasta` with `w` residues per line (Easel: 60). -/
namespace EaselModel.Miniapps

structure Rec where
  name : List Char
  desc : List Char
  seq : List Char
deriving DecidableEq, Repr, Inhabited

def isSpTab (c : Char) : Bool := c = ' ' || c = '\t'

/-- header line without its leading `>` ↦ (name, description); mirrors `header_fasta` -/
def parseHeader (l : Line) : List Char × List Char :=
  let l := l.dropWhile isSpTab
  let name := l.takeWhile (fun c => !isBlank c)
  let rest := (l.dropWhile (fun c => !isBlank c)).dropWhile isSpTab
  let desc := rest.takeWhile (fun c => !(c = '\r' || c = '\x01'))
  (name, desc)

def mkRec (h : Line) (seq : List Char) : Rec :=
  let nd := parseHeader h
  { name := nd.1, desc := nd.2, seq := seq }

def parseStep (l : Line) (st : List Char × List Rec) : List Char × List Rec :=
  match l with
  | '>' :: h => ([], mkRec h st.1 :: st.2)
  | _ => (l.filter (fun c => !isBlank c) ++ st.1, st.2)

/-- lines ↦ records (lines before the first header are dropped: they are blank in a well-formed file) -/
def parseLines (ls : List Line) : List Rec := (ls.foldr parseStep ([], [])).2

def parseFasta (f : List Char) : List Rec := parseLines (fileLines f)

def headerLine (r : Rec) : Line := '>' :: (r.name ++ (if r.desc = [] then [] else ' ' :: r.desc))

def renderRec (w : Nat) (r : Rec) : List Line := headerLine r :: chunks w r.seq

def renderLines (w : Nat) (rs : List Rec) : List Line := rs.flatMap (renderRec w)

def renderFasta (w : Nat) (rs : List Rec) : List Char := unlines (renderLines w rs)

/-- a record that the writer emits unambiguously -/
structure Rec.WF (r : Rec) : Prop where
  name_ne : r.name ≠ []
  name_nonblank : ∀ c ∈ r.name, isBlank c = false
  desc_head : ∀ c, r.desc.head? = some c → isSpTab c = false
  desc_chars : ∀ c ∈ r.desc, (c = '\r' || c = '\x01') = false
  seq_chars : ∀ c ∈ r.seq, isBlank c = false ∧ c ≠ '>'

theorem isSpTab_blank (c : Char) (h : isBlank c = false) : isSpTab c = false := by
  simp only [isBlank, isSpTab, Bool.or_eq_false_iff, decide_eq_false_iff_not] at *
  exact ⟨h.1.1.1.1.1, h.1.1.1.1.2⟩

theorem parseHeader_headerLine (r : Rec) (h : r.WF) :
    parseHeader (r.name ++ (if r.desc = [] then [] else ' ' :: r.desc)) = (r.name, r.desc) := by
  have hn : ∀ c ∈ r.name, (!isBlank c) = true := fun c hc => by simp [h.name_nonblank c hc]
  have hhead : ∀ (t : List Char) (c : Char), (r.name ++ t).head? = some c → isSpTab c = false := by
    intro t c hc
    cases hr : r.name with
    | nil => exact absurd hr h.name_ne
    | cons a u =>
      simp [hr] at hc; subst hc
      exact isSpTab_blank a (h.name_nonblank a (by simp [hr]))
  by_cases hd : r.desc = []
  · simp only [hd, ↓reduceIte, parseHeader]
    rw [dropWhile_head_stop _ (hhead []), List.append_nil, takeWhile_all _ hn, dropWhile_all _ hn]
    simp [List.dropWhile]
  · simp only [hd, ↓reduceIte, parseHeader]
    have hsp : (!isBlank ' ') = false := by decide
    rw [dropWhile_head_stop _ (hhead _), takeWhile_app_stop _ _ _ hn hsp, dropWhile_app_stop _ _ _ hn hsp]
    have h2 : (' ' :: r.desc).dropWhile isSpTab = r.desc := by
      simp only [List.dropWhile, show isSpTab ' ' = true by decide]
      exact dropWhile_head_stop _ h.desc_head
    rw [h2, takeWhile_all _ (fun c hc => by simp [h.desc_chars c hc])]

theorem foldr_body (ls : List Line) (hls : ∀ l ∈ ls, l.head? ≠ some '>') (p : List Char) (R : List Rec) :
    ls.foldr parseStep (p, R) = (ls.flatten.filter (fun c => !isBlank c) ++ p, R) := by
  induction ls with
  | nil => simp
  | cons l ls ih =>
    rw [List.foldr_cons, ih (fun x hx => hls x (by simp [hx]))]
    have hl := hls l (by simp)
    cases l with
    | nil => simp [parseStep]
    | cons c cs =>
      have hc : c ≠ '>' := by intro e; apply hl; simp [e]
      unfold parseStep
      split
      · rename_i h' heq; cases heq; exact absurd rfl hc
      · rw [List.flatten_cons, List.filter_append, List.append_assoc]

theorem parse_render_aux (w : Nat) (hw : 0 < w) (rs : List Rec) (h : ∀ r ∈ rs, r.WF) :
    (renderLines w rs).foldr parseStep ([], []) = ([], rs) := by
  induction rs with
  | nil => simp [renderLines]
  | cons r rs ih =>
    have hr := h r (by simp)
    have : renderLines w (r :: rs) = headerLine r :: (chunks w r.seq ++ renderLines w rs) := by
      simp [renderLines, renderRec]
    rw [this, List.foldr_cons, List.foldr_append, ih (fun x hx => h x (by simp [hx]))]
    have hch : ∀ l ∈ chunks w r.seq, l.head? ≠ some '>' := by
      intro l hl e
      have hne := chunks_ne_nil w r.seq l hl
      cases l with
      | nil => exact hne rfl
      | cons a t =>
        simp at e; subst e
        exact (hr.seq_chars _ (chunks_mem_sub w r.seq _ hl _ (by simp))).2 rfl
    rw [foldr_body _ hch, chunks_flatten w hw,
      List.filter_eq_self.mpr (fun c hc => by simp [(hr.seq_chars c hc).1])]
    simp only [headerLine, parseStep, mkRec, List.append_nil, parseHeader_headerLine r hr]

theorem parseLines_renderLines (w : Nat) (hw : 0 < w) (rs : List Rec) (h : ∀ r ∈ rs, r.WF) :
    parseLines (renderLines w rs) = rs := by
  simp [parseLines, parse_render_aux w hw rs h]

theorem chunks_no_nl (w : Nat) (s : List Char) (h : '\n' ∉ s) : ∀ l ∈ chunks w s, '\n' ∉ l := by
  intro l hl hc
  exact h (chunks_mem_sub w s l hl _ hc)

theorem parseFasta_renderFasta (w : Nat) (hw : 0 < w) (rs : List Rec) (h : ∀ r ∈ rs, r.WF)
    (hd : ∀ r ∈ rs, '\n' ∉ r.desc) : parseFasta (renderFasta w rs) = rs := by
  have hnl : ∀ l ∈ renderLines w rs, '\n' ∉ l := by
    intro l hl
    simp only [renderLines, List.mem_flatMap] at hl
    obtain ⟨r, hr, hl⟩ := hl
    have hwf := h r hr
    simp only [renderRec, List.mem_cons] at hl
    cases hl with
    | inl e =>
      subst e
      intro hc
      simp only [headerLine, List.mem_cons, List.mem_append] at hc
      rcases hc with hc | hc | hc
      · exact absurd hc (by decide)
      · have := hwf.name_nonblank _ hc
        simp [isBlank] at this
      · split at hc
        · simp at hc
        · simp only [List.mem_cons] at hc
          rcases hc with hc | hc
          · exact absurd hc (by decide)
          · exact hd r hr hc
    | inr hl =>
      apply chunks_no_nl w r.seq _ l hl
      intro hc
      have := (hwf.seq_chars _ hc).1
      simp [isBlank] at this
  simp only [parseFasta, renderFasta, fileLines_unlines _ hnl, parseLines_renderLines w hw rs h]

end EaselModel.Miniapps
