import EaselModel.Miniapps.Revcomp
/-! # C13 — esl-reformat between FASTA and aligned FASTA with the residue-conversion options -/
namespace EaselModel.Miniapps

/-- `symconvert(s, oldsyms, newsyms)`: a character found in `old` at index `i` becomes `new[i]`
    (or the single character of `new` when `new` has length 1) -/
def symconv (old new : List Char) (c : Char) : Char :=
  let i := old.idxOf c
  if i < old.length then (if new.length = 1 then new.headD c else new.getD i c) else c

def upperS : List Char := "ABCDEFGHIJKLMNOPQRSTUVWXYZ".toList
def lowerS : List Char := "abcdefghijklmnopqrstuvwxyz".toList

structure ReformatOpts where
  replace : Option (List Char × List Char) := none   -- --replace s1:s2
  lower : Bool := false     -- -l
  upper : Bool := false     -- -u
  rna : Bool := false       -- -r
  dna : Bool := false       -- -d
  iupacN : Bool := false    -- -n
  xbad : Bool := false      -- -x
  gapsym : Option Char := none   -- --gapsym (alignment output only)
  rename : Option (List Char) := none

/-- the per-residue conversions, in the order the tool applies them -/
def convChar (o : ReformatOpts) (aligned : Bool) (c : Char) : Char :=
  let c := match o.replace with | some (f, t) => symconv f t c | none => c
  let c := if aligned then (match o.gapsym with | some g => symconv "-_.".toList [g] c | none => c) else c
  let c := if o.lower then symconv upperS lowerS c else c
  let c := if o.upper then symconv lowerS upperS c else c
  let c := if o.rna then symconv "Tt".toList "Uu".toList c else c
  let c := if o.dna then symconv "Uu".toList "Tt".toList c else c
  let c := if o.iupacN then symconv "RYMKSWHBVDrymkswhbvd".toList "NNNNNNNNNNnnnnnnnnnn".toList c else c
  if o.xbad then symconv "Xx".toList "Nn".toList c else c

def renameRec (o : ReformatOpts) (i : Nat) (r : Rec) : Rec :=
  match o.rename with
  | some s => { r with name := s ++ '.' :: (toString (i + 1)).toList }
  | none => r

def isGapC (c : Char) : Bool := c = '-' || c = '_' || c = '.' || c = '~'

/-- unaligned output (`esl-reformat fasta`): residues converted, names kept (or renamed), 60 per line.
    `dealign` = the input was read from an alignment file (gap characters are not residues). -/
def reformatFasta (o : ReformatOpts) (dealign : Bool) (recs : List Rec) : List Rec :=
  recs.mapIdx fun i r =>
    let s := if dealign then r.seq.filter (fun c => !isGapC c) else r.seq
    renameRec o i { r with seq := s.map (convChar o false) }

/-- aligned output (`esl-reformat afa`): every row converted column by column, alignment length unchanged -/
def reformatAfa (o : ReformatOpts) (recs : List Rec) : List Rec :=
  recs.mapIdx fun i r => renameRec o i { r with seq := r.seq.map (convChar o true) }

/-- `--mingap` (drop the columns that are gaps in every row) / `--nogap` (drop the columns that contain any gap);
    gap characters are `-_.~`, decided on the input before any residue conversion -/
def keepColumns (nogap : Bool) (rows : List (List Char)) : List Bool :=
  let alen := (rows.headD []).length
  (List.range alen).map fun c =>
    if nogap then rows.all fun r => !isGapC (r.getD c '-')
    else rows.any fun r => !isGapC (r.getD c '-')

def selectCols (keep : List Bool) (row : List Char) : List Char :=
  (row.zip keep).filterMap fun p => if p.2 then some p.1 else none

def dropGapColumns (nogap : Bool) (recs : List Rec) : List Rec :=
  let keep := keepColumns nogap (recs.map (·.seq))
  recs.map fun r => { r with seq := selectCols keep r.seq }

def reformatText (rs : List Rec) : String := String.ofList (renderFasta 60 rs)

theorem reformatFasta_length (o : ReformatOpts) (d : Bool) (recs : List Rec) :
    (reformatFasta o d recs).length = recs.length := by simp [reformatFasta]

theorem reformatAfa_length (o : ReformatOpts) (recs : List Rec) :
    (reformatAfa o recs).length = recs.length := by simp [reformatAfa]

theorem renameRec_seq (o : ReformatOpts) (i : Nat) (r : Rec) : (renameRec o i r).seq = r.seq := by
  unfold renameRec; split <;> rfl

theorem renameRec_none (o : ReformatOpts) (h : o.rename = none) (i : Nat) (r : Rec) : renameRec o i r = r := by
  simp [renameRec, h]

theorem convChar_id (al : Bool) (c : Char) : convChar {} al c = c := by
  cases al <;> simp [convChar]

theorem symconv_not_mem (old new : List Char) (c : Char) (h : c ∉ old) : symconv old new c = c := by
  have : old.idxOf c = old.length := List.idxOf_eq_length h
  simp [symconv, this]

theorem upper_lands : ∀ c ∈ lowerS, symconv lowerS upperS c ∉ lowerS := by
  unfold lowerS upperS; rw [String.toList_ofList, String.toList_ofList]; decide +kernel

theorem upper_idem (c : Char) : symconv lowerS upperS (symconv lowerS upperS c) = symconv lowerS upperS c := by
  by_cases h : c ∈ lowerS
  · exact symconv_not_mem _ _ _ (upper_lands c h)
  · rw [symconv_not_mem _ _ c h, symconv_not_mem _ _ c h]

theorem rna_dna_TU : ∀ c ∈ "Tt".toList, symconv "Uu".toList "Tt".toList (symconv "Tt".toList "Uu".toList c) = c := by decide

theorem rna_dna (c : Char) (h : c ∉ "Uu".toList) :
    symconv "Uu".toList "Tt".toList (symconv "Tt".toList "Uu".toList c) = c := by
  by_cases ht : c ∈ "Tt".toList
  · exact rna_dna_TU c ht
  · rw [symconv_not_mem _ _ c ht, symconv_not_mem _ _ c h]

end EaselModel.Miniapps
