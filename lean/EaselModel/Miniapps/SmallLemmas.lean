import EaselModel.Miniapps.Small
/-! # C13 — what the streamed (`--small`) paths (`esl_msafile2_RegurgitatePfam`, esl-reformat's two regurgitators) do to a Pfam
record made of a header line, sequence lines `name␣…␣text` and the `//` line -/
namespace EaselModel.Miniapps.Small
open EaselModel.Miniapps

/-- a sequence line as the Pfam writer lays it out: name, `gap + 1` spaces, aligned text -/
structure Row where
  name : Line
  gap : Nat
  text : Line

def Row.line (r : Row) : Line := r.name ++ List.replicate (r.gap + 1) ' ' ++ r.text

/-- a row the regurgitator reads back unambiguously -/
structure Row.WF (r : Row) : Prop where
  name_ne : r.name ≠ []
  name_tok : ∀ c ∈ r.name, isDelim c = false
  name_head : ∀ c, r.name.head? = some c → c ≠ '#' ∧ c ≠ '/'
  text_ne : r.text ≠ []
  text_tok : ∀ c ∈ r.text, isDelim c = false

theorem isSpTab'_of_not_delim {c : Char} (h : isDelim c = false) : isSpTab' c = false := by
  have e : isDelim c = (isSpTab' c || decide (c = '\n') || decide (c = '\r')) := rfl
  rw [e, Bool.or_eq_false_iff, Bool.or_eq_false_iff] at h
  exact h.1.1

theorem mtok_eq (s : Line) : mtok s = splitTok isSpTab' s := rfl

/-- `esl_strtok` also consumes the delimiter it stopped at -/
theorem tok_eq (s : Line) : tok s = (splitTok isDelim s).map fun x => (x.1, x.2.drop 1) := by
  simp only [tok, splitTok]
  split <;> rfl

theorem tok_word (w rest : Line) (k : Nat) (hne : w ≠ []) (hw : ∀ c ∈ w, isDelim c = false) :
    tok (w ++ List.replicate (k + 1) ' ' ++ rest) = some (w, List.replicate k ' ' ++ rest) := by
  rw [tok_eq, List.replicate_succ, List.append_assoc, List.cons_append, splitTok_word isDelim rfl w _ hne hw]
  rfl

theorem tok_last (k : Nat) (t : Line) (hne : t ≠ []) (ht : ∀ c ∈ t, isDelim c = false) :
    tok (List.replicate k ' ' ++ t) = some (t, []) := by
  rw [tok_eq, splitTok_last isDelim rfl k t hne ht]
  rfl

theorem mtok_word (w rest : Line) (k : Nat) (hne : w ≠ []) (hw : ∀ c ∈ w, isDelim c = false) :
    mtok (w ++ List.replicate (k + 1) ' ' ++ rest) = some (w, List.replicate (k + 1) ' ' ++ rest) := by
  rw [mtok_eq, List.replicate_succ, List.append_assoc, List.cons_append,
    splitTok_word isSpTab' rfl w _ hne fun c hc => isSpTab'_of_not_delim (hw c hc)]

theorem mtok_last (k : Nat) (t : Line) (hne : t ≠ []) (ht : ∀ c ∈ t, isDelim c = false) :
    mtok (List.replicate k ' ' ++ t) = some (t, []) :=
  splitTok_last isSpTab' rfl k t hne fun c hc => isSpTab'_of_not_delim (ht c hc)

/-- the run of blanks in front of a token, as `determine_spacelen` (`p` = blank) and `text - line` (`p` = blank or TAB) measure it -/
theorem takeWhile_spaces (p : Char → Bool) (hp : p ' ' = true) (k : Nat) (t : Line) (ht : ∀ c, t.head? = some c → p c = false) :
    (List.replicate k ' ' ++ t).takeWhile p = List.replicate k ' ' := by
  rw [List.takeWhile_append_of_pos (by simp [hp])]
  cases t with
  | nil => simp
  | cons a as => simp [ht a rfl]

theorem spacelen_spaces (k : Nat) (t : Line) (ht : ∀ c, t.head? = some c → c ≠ ' ') :
    spacelen (List.replicate k ' ' ++ t) = k := by
  unfold spacelen
  rw [takeWhile_spaces _ (by simp) k t (by simpa using ht)]; simp

theorem padR_name (name : Line) (j : Nat) : padR (name.length + j) name = name ++ List.replicate j ' ' := by
  simp [padR]

/-- the "two seqs named …" test never fires -/
def namesOk (nread : Nat) (first : Option Line) (rows : List Row) : Prop :=
  (nread = 0 → match rows with | [] => True | r0 :: rs => ∀ r ∈ rs, r.name ≠ r0.name) ∧
  (nread ≠ 0 → ∀ r ∈ rows, first ≠ some r.name)

theorem namesOk_head {nread : Nat} {first : Option Line} {r : Row} {rs : List Row} (hok : namesOk nread first (r :: rs)) :
    (nread != 0 && decide (first = some r.name)) = false := by
  by_cases h0 : nread = 0
  · simp [h0]
  · have := hok.2 h0 r (by simp); simp [this]

/-- after the first row the remembered name is that row's, and no later row repeats it -/
theorem namesOk_tail {nread : Nat} {first : Option Line} {r : Row} {rs : List Row} (hok : namesOk nread first (r :: rs)) :
    namesOk (nread + 1) (if nread = 0 then some r.name else first) rs := by
  refine ⟨fun e => by omega, fun _ x hx => ?_⟩
  by_cases h0 : nread = 0
  · have := hok.1 h0
    simp only [h0, ↓reduceIte]
    intro e; injection e with e
    exact this x hx e.symm
  · simp only [h0, ↓reduceIte]
    exact hok.2 h0 x (by simp [hx])

theorem Row.WF.text_head {r : Row} (h : r.WF) (c : Char) (hc : r.text.head? = some c) : isDelim c = false :=
  h.text_tok c (List.mem_of_mem_head? hc)

/-- how all three regurgitators classify the line of a well-formed row: nothing to skip in front, not blank, no `#` line, not `//`.
    The tests on the first character read `(… = some c) = False`: that is the equation `simp only` rewrites the classifiers' `if` with. -/
structure SeqLine (l : Line) : Prop where
  noLead : l.dropWhile isSpTab' = l
  nonempty : l.isEmpty = false
  notHash : (l.head? = some '#') = False
  notGS : startsWith l "#=GS" = false
  notSlash : (l.head? = some '/') = False
  notEnd : startsWith l "//" = false
  notCR : (l.head? = some '\r') = False

theorem Row.WF.seqLine {r : Row} (h : r.WF) : SeqLine r.line := by
  obtain ⟨a, as, hn⟩ := List.exists_cons_of_ne_nil h.name_ne
  have hd : isDelim a = false := h.name_tok a (by simp [hn])
  obtain ⟨hh, hs⟩ := h.name_head a (by simp [hn])
  have hr : a ≠ '\r' := by intro e; subst e; revert hd; decide
  rw [show r.line = a :: (as ++ List.replicate (r.gap + 1) ' ' ++ r.text) by simp [Row.line, hn]]
  exact ⟨by simp [List.dropWhile, isSpTab'_of_not_delim hd], rfl, by simp [hh], by simp [startsWith, List.isPrefixOf, Ne.symm hh],
    by simp [hs], by simp [startsWith, List.isPrefixOf, Ne.symm hs], by simp [hr]⟩

/-- the text of a wanted sequence line after the optional column mask (never a structure line) -/
def maskRow (c : Cfg) (text : Line) : Line :=
  match c.useme with
  | none => text
  | some u => shrink u text

theorem maskText_seq (c : Cfg) (text : Line) : maskText c false text = some (maskRow c text) := by
  unfold maskText maskRow
  cases c.useme <;> simp

def afterRow (c : Cfg) (st : St) (r : Row) : St :=
  let st1 := { st with first := if st.nread = 0 then some r.name else st.first, nread := st.nread + 1 }
  if c.wants r.name then
    { st1 with out := (r.name ++ List.replicate (r.gap + 1) ' ' ++ maskRow c r.text) :: st1.out, nregurged := st1.nregurged + 1 }
  else st1

theorem lineStep_row (c : Cfg) (st : St) (r : Row) (h : r.WF)
    (hlen : st.expAlen = none ∨ st.expAlen = some r.text.length)
    (hfirst : st.nread ≠ 0 → st.first ≠ some r.name) :
    lineStep c st r.line = .cont (afterRow c st r) := by
  have sl := h.seqLine
  have htok1 := tok_word r.name r.text r.gap h.name_ne h.name_tok
  have htok2 := tok_last r.gap r.text h.text_ne h.text_tok
  have hsp := spacelen_spaces r.gap r.text fun c hc e => by
    subst e; exact absurd (h.text_head _ hc) (by decide)
  have hexp : (st.expAlen.isSome && st.expAlen != some r.text.length) = false := by
    rcases hlen with e | e <;> simp [e]
  have hf : (st.nread != 0 && decide (st.first = some r.name)) = false := by
    by_cases h0 : st.nread = 0
    · simp [h0]
    · simp [hfirst h0]
  unfold lineStep
  simp only [show (fun ch => decide (ch = ' ') || decide (ch = '\t')) = isSpTab' from rfl, sl.noLead, sl.nonempty, sl.notHash, sl.notEnd, sl.notCR, ↓reduceIte,
    Bool.false_eq_true, decide_false, Bool.or_self]
  show (match tok r.line with
    | none => Step.fail
    | some (name, r1) => _) = _
  rw [show r.line = r.name ++ List.replicate (r.gap + 1) ' ' ++ r.text from rfl, htok1]
  simp only [htok2, hsp, hexp, hf, Bool.false_eq_true, ↓reduceIte, maskText_seq, padR_name]
  unfold afterRow
  cases c.wants r.name <;> simp [List.replicate_succ', List.append_assoc]

def afterRows (c : Cfg) (st : St) : List Row → St
  | [] => st
  | r :: rs => afterRows c (afterRow c st r) rs

def Row.outLine (c : Cfg) (r : Row) : Line := r.name ++ List.replicate (r.gap + 1) ' ' ++ maskRow c r.text

def wanted (c : Cfg) (rows : List Row) : List Row := rows.filter fun r => c.wants r.name

theorem afterRow_eq (c : Cfg) (st : St) (r : Row) :
    afterRow c st r =
      { out := (if c.wants r.name then [r.outLine c] else []) ++ st.out, expAlen := st.expAlen,
        first := if st.nread = 0 then some r.name else st.first, nread := st.nread + 1,
        nregurged := st.nregurged + (if c.wants r.name then 1 else 0) } := by
  unfold afterRow Row.outLine
  cases c.wants r.name <;> rfl

theorem afterRows_summary (c : Cfg) (rows : List Row) (st : St) :
    (afterRows c st rows).out.reverse = st.out.reverse ++ (wanted c rows).map (Row.outLine c)
    ∧ (afterRows c st rows).nread = st.nread + rows.length
    ∧ (afterRows c st rows).nregurged = st.nregurged + (wanted c rows).length := by
  induction rows generalizing st with
  | nil => simp [afterRows, wanted]
  | cons r rs ih =>
    obtain ⟨h1, h2, h3⟩ := ih (afterRow c st r)
    refine ⟨?_, ?_, ?_⟩
    · rw [afterRows, h1, afterRow_eq]
      by_cases hw : c.wants r.name = true <;> simp [wanted, List.filter, hw]
    · rw [afterRows, h2, afterRow_eq]; simp; omega
    · rw [afterRows, h3, afterRow_eq]
      by_cases hw : c.wants r.name = true <;> simp [wanted, List.filter, hw] <;> omega

/-! `--seq-k <list>` and `--seq-r <list>` split an alignment: every row goes to exactly one of the two outputs -/

theorem wants_keep_skip (l : List Line) (name : Line) :
    ({ keep := some l } : Cfg).wants name = !({ skip := some l } : Cfg).wants name := by
  simp [Cfg.wants]

theorem wanted_keep_skip_length (l : List Line) (rows : List Row) :
    (wanted { keep := some l } rows).length + (wanted { skip := some l } rows).length = rows.length := by
  induction rows with
  | nil => simp [wanted]
  | cons r rs ih =>
    simp only [wanted, List.filter_cons] at ih ⊢
    rw [wants_keep_skip l r.name]
    cases ({ skip := some l } : Cfg).wants r.name <;> simp <;> omega

theorem wanted_keep_skip_mem (l : List Line) (rows : List Row) (r : Row) (hr : r ∈ rows) :
    (r ∈ wanted { keep := some l } rows ∧ r ∉ wanted { skip := some l } rows) ∨
    (r ∉ wanted { keep := some l } rows ∧ r ∈ wanted { skip := some l } rows) := by
  simp only [wanted, List.mem_filter, hr, true_and]
  rw [wants_keep_skip l r.name]
  cases ({ skip := some l } : Cfg).wants r.name <;> simp

theorem wanted_keep_iff (l : List Line) (rows : List Row) (r : Row) :
    r ∈ wanted { keep := some l } rows ↔ r ∈ rows ∧ r.name ∈ l := by
  simp [wanted, Cfg.wants, List.mem_filter]

theorem lineStep_end (c : Cfg) (st : St) : lineStep c st ['/', '/'] = .done { st with out := ['/', '/'] :: st.out } := by
  simp [lineStep, startsWith, List.isPrefixOf]

theorem body_rows (c : Cfg) (rows : List Row) (st : St) (rest : List Line)
    (hwf : ∀ r ∈ rows, r.WF)
    (hlen : ∀ r ∈ rows, st.expAlen = none ∨ st.expAlen = some r.text.length)
    (hok : namesOk st.nread st.first rows) :
    body c st (rows.map Row.line ++ "//".toList :: rest)
      = some ({ afterRows c st rows with out := "//".toList :: (afterRows c st rows).out }, rest) := by
  induction rows generalizing st with
  | nil => simp [body, lineStep_end, afterRows]
  | cons r rs ih =>
    have hstep := lineStep_row c st r (hwf r (by simp)) (hlen r (by simp)) fun h0 => hok.2 h0 r (by simp)
    simp only [List.map_cons, List.cons_append, body, hstep]
    rw [ih (afterRow c st r) (fun x hx => hwf x (by simp [hx])) (fun x hx => by simpa [afterRow_eq] using hlen x (by simp [hx]))
      (by simpa [afterRow_eq] using namesOk_tail hok)]
    rfl

theorem regurgitate_rows (c : Cfg) (ea : Option Nat) (hdr : Line) (r0 : Row) (rs : List Row) (rest : List Line)
    (hh : startsWith hdr "# STOCKHOLM 1." = true) (hnb : isBlankLine hdr = false)
    (hwf : ∀ r ∈ r0 :: rs, r.WF)
    (hlen : ∀ r ∈ r0 :: rs, ea = none ∨ ea = some r.text.length)
    (hdist : ∀ r ∈ rs, r.name ≠ r0.name) :
    regurgitate c ea (hdr :: (r0 :: rs).map Row.line ++ "//".toList :: rest)
      = .ok (hdr :: (wanted c (r0 :: rs)).map (Row.outLine c) ++ ["//".toList], (r0 :: rs).length, (wanted c (r0 :: rs)).length, rest) := by
  unfold regurgitate
  have hdw : (hdr :: (r0 :: rs).map Row.line ++ "//".toList :: rest).dropWhile isBlankLine
      = hdr :: ((r0 :: rs).map Row.line ++ "//".toList :: rest) := by
    simp [hnb]
  rw [hdw]
  simp only [hh, Bool.not_true, Bool.false_eq_true, ↓reduceIte]
  rw [body_rows c (r0 :: rs) { out := [hdr], expAlen := ea } rest hwf (fun r hr => hlen r hr)
      ⟨fun _ => hdist, fun h => absurd rfl h⟩]
  obtain ⟨h1, h2, h3⟩ := afterRows_summary c (r0 :: rs) { out := [hdr], expAlen := ea }
  simp only [List.reverse_cons, h1, h2, h3]
  simp

theorem regurgitate_identity (hdr : Line) (r0 : Row) (rs : List Row) (rest : List Line)
    (hh : startsWith hdr "# STOCKHOLM 1." = true) (hnb : isBlankLine hdr = false)
    (hwf : ∀ r ∈ r0 :: rs, r.WF) (hdist : ∀ r ∈ rs, r.name ≠ r0.name) :
    regurgitate {} none (hdr :: (r0 :: rs).map Row.line ++ "//".toList :: rest)
      = .ok (hdr :: (r0 :: rs).map Row.line ++ ["//".toList], (r0 :: rs).length, (r0 :: rs).length, rest) := by
  rw [regurgitate_rows {} none hdr r0 rs rest hh hnb hwf (fun _ _ => Or.inl rfl) hdist]
  have hw : wanted {} (r0 :: rs) = r0 :: rs := by
    simp [wanted, Cfg.wants]
  have ho : ∀ r : Row, Row.outLine {} r = r.line := by intro r; simp [Row.outLine, Row.line, maskRow]
  rw [hw]; simp [ho]

end EaselModel.Miniapps.Small

/-! ## esl-reformat --small, Pfam -> aligned FASTA: the streamed path prints what the non-small reference prints -/
namespace EaselModel.Miniapps.Small
open EaselModel.Miniapps

/-- the FASTA record the non-small reference makes of a row (`esl-reformat afa`: no description without #=GS DE) -/
def Row.toRec (r : Row) : Rec := { name := r.name, desc := [], seq := r.text }

/-- the lines the streamed path prints for the row with index `idx` -/
def afaRowLines (o : ReformatOpts) (idx : Nat) (r : Row) : List Line :=
  renderRec 60 (renameRec o idx { r.toRec with seq := r.text.map (convChar o true) })

theorem afaRowLines_eq (o : ReformatOpts) (idx : Nat) (r : Row) :
    afaRowLines o idx r = ('>' :: (match o.rename with
        | some rn => rn ++ '.' :: (toString (idx + 1)).toList
        | none => r.name)) :: chunks 60 (r.text.map (convChar o true)) := by
  obtain ⟨rp, lo, up, rna, dna, iu, xb, gs, rn⟩ := o
  cases rn <;> simp [afaRowLines, renderRec, headerLine, renameRec, Row.toRec]

def afaOut (o : ReformatOpts) : Nat → List Row → List Line
  | _, [] => []
  | k, r :: rs => afaRowLines o k r ++ afaOut o (k + 1) rs

theorem afaBody_rows (o : ReformatOpts) (rows : List Row) (nread : Nat) (first : Option Line) (acc rest : List Line)
    (hwf : ∀ r ∈ rows, r.WF) (hok : namesOk nread first rows) :
    reformatSmallAfaBody o [] [] nread first (rows.map Row.line ++ "//".toList :: rest) acc
      = some (acc.reverse ++ afaOut o nread rows) := by
  induction rows generalizing nread first acc with
  | nil =>
    simp [reformatSmallAfaBody, isSpTab', startsWith, List.isPrefixOf, afaOut, List.dropWhile]
  | cons r rs ih =>
    have h := hwf r (by simp)
    have sl := h.seqLine
    have ht1 := mtok_word r.name r.text r.gap h.name_ne h.name_tok
    have ht2 := mtok_last (r.gap + 1) r.text h.text_ne h.text_tok
    have hfirst := namesOk_head hok
    have hok' := namesOk_tail hok
    simp only [List.map_cons, List.cons_append]
    rw [reformatSmallAfaBody]
    simp only [sl.noLead, sl.nonempty, sl.notHash, sl.notEnd, decide_false, Bool.or_self, Bool.false_eq_true, ↓reduceIte]
    rw [show r.line = r.name ++ List.replicate (r.gap + 1) ' ' ++ r.text from rfl, ht1]
    simp only [ht2]
    simp only [hfirst, Bool.false_eq_true, ↓reduceIte, List.head?_nil, Option.map_none, reduceCtorEq, List.append_nil]
    rw [ih (nread + 1) _ _ (fun x hx => hwf x (by simp [hx])) hok']
    congr 1
    rw [afaOut, afaRowLines_eq]
    simp [List.append_assoc]
    rfl

theorem afaOut_eq_reference (o : ReformatOpts) (rows : List Row) (k : Nat) :
    afaOut o k rows = ((rows.map Row.toRec).mapIdx fun i r => renameRec o (i + k) { r with seq := r.seq.map (convChar o true) }).flatMap (renderRec 60) := by
  induction rows generalizing k with
  | nil => simp [afaOut]
  | cons r rs ih =>
    rw [afaOut, ih (k + 1), List.map_cons, List.mapIdx_cons, List.flatMap_cons]
    have e : (fun i (r : Rec) => renameRec o (i + 1 + k) { r with seq := r.seq.map (convChar o true) })
        = (fun i (r : Rec) => renameRec o (i + (k + 1)) { r with seq := r.seq.map (convChar o true) }) := by
      funext i r; congr 1; omega
    simp only [Nat.zero_add, afaRowLines, Row.toRec, e]

theorem gsQueue_nil (tag : String) (ls : List Line)
    (h : ∀ l ∈ ls, startsWith (l.dropWhile isSpTab') "#=GS" = false) : gsQueue tag ls = [] := by
  induction ls with
  | nil => rfl
  | cons l ls ih =>
    simp only [gsQueue, List.filterMap_cons, h l (by simp), Bool.false_eq_true, ↓reduceIte]
    exact ih (fun x hx => h x (by simp [hx]))

theorem reformatSmallAfa_eq_reference (o : ReformatOpts) (hdr : Line) (r0 : Row) (rs : List Row) (rest : List Line)
    (h1 : hdr.all isSpTab' = false) (h2 : startsWith hdr "# STOCKHOLM" = true) (h3 : startsWith hdr "# STOCKHOLM 1." = true)
    (hwf : ∀ r ∈ r0 :: rs, r.WF) (hdist : ∀ r ∈ rs, r.name ≠ r0.name) :
    reformatSmallAfa o (hdr :: (r0 :: rs).map Row.line ++ "//".toList :: rest)
      = some (renderLines 60 (reformatAfa o ((r0 :: rs).map Row.toRec))) := by
  have hgs : ∀ l ∈ (r0 :: rs).map Row.line, startsWith (l.dropWhile isSpTab') "#=GS" = false := by
    intro l hl
    obtain ⟨r, hr, rfl⟩ := List.mem_map.mp hl
    rw [(hwf r hr).seqLine.noLead]; exact (hwf r hr).seqLine.notGS
  have htw : ((r0 :: rs).map Row.line ++ "//".toList :: rest).takeWhile (fun l => !startsWith (l.dropWhile isSpTab') "//")
      = (r0 :: rs).map Row.line := by
    rw [List.takeWhile_append_of_pos, List.takeWhile_cons_of_neg, List.append_nil]
    · simp [startsWith, List.isPrefixOf, isSpTab']
    · intro l hl
      obtain ⟨r, hr, rfl⟩ := List.mem_map.mp hl
      simp [(hwf r hr).seqLine.noLead, (hwf r hr).seqLine.notEnd]
  unfold reformatSmallAfa
  have hdw : (hdr :: (r0 :: rs).map Row.line ++ "//".toList :: rest).dropWhile
      (fun l => l.all isSpTab' || (startsWith l "#" && !startsWith l "# STOCKHOLM"))
      = hdr :: ((r0 :: rs).map Row.line ++ "//".toList :: rest) := by
    simp [h1, h2]
  rw [hdw]
  simp only [h3, Bool.not_true, Bool.false_eq_true, ↓reduceIte, htw, gsQueue_nil _ _ hgs]
  rw [afaBody_rows o (r0 :: rs) 0 none [] rest hwf ⟨fun _ => hdist, fun h => absurd rfl h⟩, afaOut_eq_reference]
  simp [renderLines, reformatAfa]

/-! ## esl-reformat --small, Pfam -> Pfam: names and spacing untouched, residues converted pointwise -/

/-- the output line of a row: `%.*s%*s%s` = name, the original run of blanks, the converted text -/
def Row.pfamOut (o : ReformatOpts) (r : Row) : Line := r.name ++ List.replicate (r.gap + 1) ' ' ++ r.text.map (convChar o true)

theorem pfamBody_rows (o : ReformatOpts) (rows : List Row) (ea : Option Nat) (nread : Nat) (first : Option Line) (acc rest : List Line)
    (hwf : ∀ r ∈ rows, r.WF) (hok : namesOk nread first rows)
    (hlen : ∀ r ∈ rows, (ea = none ∨ ea = some r.text.length) ∧ ∀ r' ∈ rows, r'.text.length = r.text.length) :
    reformatSmallPfamBody o ea first nread (rows.map Row.line ++ "//".toList :: rest) acc
      = some (acc.reverse ++ rows.map (Row.pfamOut o) ++ ["//".toList], rest) := by
  induction rows generalizing ea nread first acc with
  | nil =>
    simp [reformatSmallPfamBody, isSpTab', startsWith, List.isPrefixOf, List.dropWhile]
  | cons r rs ih =>
    have h := hwf r (by simp)
    have sl := h.seqLine
    have ht1 := mtok_word r.name r.text r.gap h.name_ne h.name_tok
    have ht2 := mtok_last (r.gap + 1) r.text h.text_ne h.text_tok
    have htw := takeWhile_spaces isSpTab' rfl (r.gap + 1) r.text fun c hc => isSpTab'_of_not_delim (h.text_head c hc)
    have hfirst := namesOk_head hok
    have hea : (ea.isSome && ea != some r.text.length) = false := by
      rcases (hlen r (by simp)).1 with e | e <;> simp [e]
    have hok' := namesOk_tail hok
    simp only [List.map_cons, List.cons_append]
    rw [reformatSmallPfamBody]
    simp only [sl.noLead, sl.nonempty, sl.notHash, sl.notEnd, Bool.false_eq_true, ↓reduceIte]
    rw [show r.line = r.name ++ List.replicate (r.gap + 1) ' ' ++ r.text from rfl, ht1]
    simp only [ht2, htw, hea, hfirst, Bool.false_eq_true, ↓reduceIte]
    rw [ih (some r.text.length) (nread + 1) _ _ (fun x hx => hwf x (by simp [hx])) hok'
      (fun x hx => ⟨Or.inr (by rw [(hlen r (by simp)).2 x (by simp [hx])]), fun y hy => (hlen x (by simp [hx])).2 y (by simp [hy])⟩)]
    simp [Row.pfamOut, List.length_replicate, Nat.sub_self, List.append_assoc]

end EaselModel.Miniapps.Small
