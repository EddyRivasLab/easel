import EaselModel.Miniapps.Selectn
import EaselModel.Miniapps.Fasta
import EaselModel.Random.Choose
import EaselModel.Shuffle.WinParams
/-! # C13 — esl-shuffle (`-m`, `-k`, `-w`, `-r`, `-N`, `-L`, `-G`) and `easel downsample`, driven by the C09 generator models

Every shuffler is a sequence of swaps whose positions come from an arbitrary roll function with state `σ`
(theorems: for EVERY roll function the output is a permutation of the input); the executable instance plugs in the
bit-identical MT19937 model, so `--seed n` output is predicted exactly. -/
namespace EaselModel.Miniapps
open EaselModel.Random

variable {α σ : Type}

/-- swap two positions (no-op when out of bounds; in the C code the indices are always in bounds) -/
def swapAt (a : Array α) (i j : Nat) : Array α :=
  if h : i < a.size ∧ j < a.size then a.swap i j h.1 h.2 else a

theorem swapAt_perm (a : Array α) (i j : Nat) : (swapAt a i j).Perm a := by
  unfold swapAt; split
  · exact Array.swap_perm _ _
  · exact Array.Perm.refl _

theorem swapAt_size (a : Array α) (i j : Nat) : (swapAt a i j).size = a.size := by
  unfold swapAt; split <;> simp

/-- `esl_rsq_CShuffle`: `while (L > 1) { i = Roll(L); swap(i, L-1); L--; }` (also the word loop of `CShuffleKmers`) -/
def shuffleLoop (roll : σ → Nat → Nat × σ) : Nat → Array α → σ → Array α × σ
  | 0, a, s => (a, s)
  | L + 1, a, s =>
    if L + 1 > 1 then
      let rs := roll s (L + 1)
      shuffleLoop roll L (swapAt a rs.1 L) rs.2
    else (a, s)

def cshuffle (roll : σ → Nat → Nat × σ) (x : List α) (s : σ) : List α × σ :=
  let r := shuffleLoop roll x.length x.toArray s
  (r.1.toList, r.2)

/-- `esl_rsq_CShuffleKmers`: the first `L mod K` residues stay, the `L / K` words are shuffled as units -/
def kmerWords (K : Nat) (x : List α) : List (List α) :=
  (List.range (x.length / K)).map fun w => (x.drop (x.length % K + w * K)).take K

def cshuffleKmers (roll : σ → Nat → Nat × σ) (K : Nat) (x : List α) (s : σ) : List α × σ :=
  let ws := kmerWords K x
  let r := shuffleLoop roll ws.length ws.toArray s
  (x.take (x.length % K) ++ r.1.toList.flatten, r.2)

/-- inner loop of `esl_rsq_CShuffleWindows`: `for (j = hi; j > i; j--) { k = i + Roll(j-i+cWinD); swap(k, j); }`.
    The roll range `j-i+cWinD` is NOT hard-coded: `EaselModel.Shuffle.cWinD` is regenerated from `esl_randomseq.c` of the
    working tree on every run (`Shuffle/WinParams.lean`, shared with C18), so the predicted `esl-shuffle -w` text follows
    the tree (`Roll(j-i)` on the pinned tree, `Roll(j-i+1)` once the range is corrected). -/
def windowInner (roll : σ → Nat → Nat × σ) (i : Nat) : Nat → Array α → σ → Array α × σ
  | 0, a, s => (a, s)
  | d + 1, a, s =>          -- j = i + d + 1
    let rs := roll s (d + 1 + EaselModel.Shuffle.cWinD)
    windowInner roll i d (swapAt a (i + rs.1) (i + d + 1)) rs.2

def windowOuter (roll : σ → Nat → Nat × σ) (w L : Nat) : Nat → Nat → Array α → σ → Array α × σ
  | 0, _, a, s => (a, s)
  | fuel + 1, i, a, s =>
    if i < L then
      let hi := min (L - 1) (i + w - 1)
      let r := windowInner roll i (hi - i) a s
      windowOuter roll w L fuel (i + w) r.1 r.2
    else (a, s)

def cshuffleWindows (roll : σ → Nat → Nat × σ) (w : Nat) (x : List α) (s : σ) : List α × σ :=
  let r := windowOuter roll w x.length x.length 0 x.toArray s
  (r.1.toList, r.2)

theorem shuffleLoop_perm (roll : σ → Nat → Nat × σ) (L : Nat) (a : Array α) (s : σ) :
    (shuffleLoop roll L a s).1.Perm a := by
  induction L generalizing a s with
  | zero => exact Array.Perm.refl _
  | succ L ih =>
    unfold shuffleLoop
    split
    · exact (ih _ _).trans (swapAt_perm _ _ _)
    · exact Array.Perm.refl _

theorem cshuffle_perm (roll : σ → Nat → Nat × σ) (x : List α) (s : σ) : (cshuffle roll x s).1.Perm x := by
  have := shuffleLoop_perm roll x.length x.toArray s
  simpa [cshuffle] using Array.Perm.toList this

theorem windowInner_perm (roll : σ → Nat → Nat × σ) (i d : Nat) (a : Array α) (s : σ) :
    (windowInner roll i d a s).1.Perm a := by
  induction d generalizing a s with
  | zero => exact Array.Perm.refl _
  | succ d ih => unfold windowInner; exact (ih _ _).trans (swapAt_perm _ _ _)

theorem windowOuter_perm (roll : σ → Nat → Nat × σ) (w L fuel i : Nat) (a : Array α) (s : σ) :
    (windowOuter roll w L fuel i a s).1.Perm a := by
  induction fuel generalizing i a s with
  | zero => exact Array.Perm.refl _
  | succ f ih =>
    unfold windowOuter
    split
    · exact (ih _ _ _).trans (windowInner_perm _ _ _ _ _)
    · exact Array.Perm.refl _

theorem cshuffleWindows_perm (roll : σ → Nat → Nat × σ) (w : Nat) (x : List α) (s : σ) :
    (cshuffleWindows roll w x s).1.Perm x := by
  have := windowOuter_perm roll w x.length x.length 0 x.toArray s
  simpa [cshuffleWindows] using Array.Perm.toList this

theorem words_flatten {α : Type} (K W : Nat) (y : List α) (h : y.length = W * K) :
    ((List.range W).map fun w => (y.drop (w * K)).take K).flatten = y := by
  induction W generalizing y with
  | zero =>
    have : y = [] := List.length_eq_zero_iff.mp (by simpa using h)
    simp [this]
  | succ W ih =>
    rw [List.range_succ_eq_map, List.map_cons, List.map_map, List.flatten_cons]
    have hlen : (y.drop K).length = W * K := by
      rw [List.length_drop, h, Nat.succ_mul]; omega
    have e : ((fun w => (y.drop (w * K)).take K) ∘ Nat.succ) = fun w => ((y.drop K).drop (w * K)).take K := by
      funext w
      simp only [Function.comp, List.drop_drop, Nat.succ_mul]
      congr 2; omega
    rw [e, ih (y.drop K) hlen]
    simp

theorem kmerWords_flatten {α : Type} (K : Nat) (x : List α) :
    x.take (x.length % K) ++ (kmerWords K x).flatten = x := by
  have hy : (x.drop (x.length % K)).length = (x.length / K) * K := by
    rw [List.length_drop]
    have := Nat.div_add_mod x.length K
    rw [Nat.mul_comm] at this
    omega
  have e : kmerWords K x = (List.range (x.length / K)).map fun w => ((x.drop (x.length % K)).drop (w * K)).take K := by
    simp only [kmerWords, List.drop_drop]
  rw [e, words_flatten K _ _ hy, List.take_append_drop]

theorem cshuffleKmers_perm {α σ : Type} (roll : σ → Nat → Nat × σ) (K : Nat) (x : List α) (s : σ) :
    (cshuffleKmers roll K x s).1.Perm x := by
  have hp := Array.Perm.toList (shuffleLoop_perm roll (kmerWords K x).length (kmerWords K x).toArray s)
  have hf : ((shuffleLoop roll (kmerWords K x).length (kmerWords K x).toArray s).1.toList).flatten.Perm (kmerWords K x).flatten :=
    List.Perm.flatten (by simpa using hp)
  have := (List.Perm.append_left (x.take (x.length % K)) hf)
  rw [kmerWords_flatten K x] at this
  simpa [cshuffleKmers] using this

structure ShufOpts where
  mode : String := "-m"     -- -m | -k | -w | -r
  k : Nat := 1
  w : Nat := 1
  N : Nat := 1
  L : Nat := 0

def shuffleOne (o : ShufOpts) (targ : List Char) (r : Rng) : List Char × Rng :=
  match o.mode with
  | "-m" => cshuffle rollRng targ r
  | "-k" => cshuffleKmers rollRng o.k targ r
  | "-w" => cshuffleWindows rollRng o.w targ r
  | "-r" => (targ.reverse, r)
  | _ => (targ, r)

/-- the `for (i = 0; i < N; i++)` loop for one input sequence -/
def shuffleSamples (o : ShufOpts) (r : Rec) : Nat → Nat → Rng → List Rec → List Rec × Rng
  | 0, _, g, acc => (acc.reverse, g)
  | n + 1, i, g, acc =>
    let (targ, g) :=
      if o.L > 0 then
        let ps := rollRng g (r.seq.length - o.L + 1)
        ((r.seq.drop ps.1).take o.L, ps.2)
      else (r.seq, g)
    let (sh, g) := shuffleOne o targ g
    let nm := r.name ++ (if o.N > 1 then ("-shuffled-" ++ toString i).toList else "-shuffled".toList)
    shuffleSamples o r n (i + 1) g ({ name := nm, desc := [], seq := sh } :: acc)

def shuffleAll (o : ShufOpts) : List Rec → Rng → List Rec
  | [], _ => []
  | r :: rs, g =>
    if o.L > 0 ∧ r.seq.length < o.L then shuffleAll o rs g
    else
      let (out, g) := shuffleSamples o r o.N 0 g []
      out ++ shuffleAll o rs g

def shuffleText (seed : Nat) (o : ShufOpts) (recs : List Rec) : String :=
  String.ofList (renderFasta 60 (shuffleAll o recs (Rng.create .mersenne (UInt32.ofNat seed))))

/-- `-G --dna|--rna`: `esl_rsq_xIID` with p = 0.25 each through `esl_rnd_DChoose` -/
def genIID (syms : List Char) : Nat → Rng → List Char → List Char × Rng
  | 0, g, acc => (acc.reverse, g)
  | n + 1, g, acc =>
    let (x, g) := g.randomNum
    let i := (dchoose (Float.ofNat x / 4294967296.0) [0.25, 0.25, 0.25, 0.25]).getD 0
    genIID syms n g (syms.getD i 'N' :: acc)

def generateAll (syms : List Char) (N L : Nat) : Nat → Rng → List Rec
  | 0, _ => []
  | n + 1, g =>
    let i := N - (n + 1)
    let (s, g) := genIID syms L g []
    { name := if N > 1 then ("random" ++ toString i).toList else "random".toList, desc := [], seq := s } ::
      generateAll syms N L n g

def generateText (seed : Nat) (syms : List Char) (N L : Nat) : String :=
  String.ofList (renderFasta 60 (generateAll syms N L N (Rng.create .mersenne (UInt32.ofNat seed))))

/-! ## easel downsample (lines): the esl-selectn reservoir over the 64-bit generator -/

def rollRng64 (r : Rng64) (n : Nat) : Nat × Rng64 :=
  match r.roll n 1000000 with
  | some x => x
  | none => (0, r)

/-- lines as `esl_buffer_GetLine` returns them (terminator `\n` or `\r\n` stripped; no empty line after a final newline) -/
def bufferLines (f : List Char) : List (List Char) :=
  (fileLines f).map fun l => if l.getLast? = some '\r' then l.dropLast else l

def downsampleLinesText (seed m : Nat) (file : List Char) : Option String :=
  let ls := bufferLines file
  if ls.length < m then none
  else some (String.ofList (unlines (selectn rollRng64 m ls (Rng64.create (UInt64.ofNat seed)))))

def downsampleSeqsText (seed m : Nat) (recs : List Rec) : Option String :=
  if recs.length < m then none
  else some (String.ofList (renderFasta 60 (selectn rollRng64 m recs (Rng64.create (UInt64.ofNat seed)))))

/-! ## esl-shuffle -A: whole-alignment shuffles act on columns -/

def transposeCols (rows : List (List Char)) : List (List Char) :=
  (List.range (rows.headD []).length).map fun c => rows.map fun r => r.getD c '-'

def untransposeCols (cols : List (List Char)) (nrows : Nat) : List (List Char) :=
  (List.range nrows).map fun i => cols.map fun col => col.getD i '-'

/-- `esl_msashuffle_Shuffle`: the `esl_rsq_CShuffle` loop over alignment columns -/
def msaColShuffle {σ : Type} (roll : σ → Nat → Nat × σ) (rows : List (List Char)) (s : σ) : List (List Char) × σ :=
  let r := cshuffle roll (transposeCols rows) s
  (untransposeCols r.1 rows.length, r.2)

/-- `esl_msashuffle_Bootstrap`: every output column is an independently drawn input column -/
def bootstrapCols {σ : Type} (roll : σ → Nat → Nat × σ) (cols : Array (List Char)) : Nat → σ → List (List Char) → List (List Char) × σ
  | 0, s, acc => (acc.reverse, s)
  | n + 1, s, acc =>
    let rs := roll s cols.size
    bootstrapCols roll cols n rs.2 (cols.getD rs.1 [] :: acc)

def msaBootstrap {σ : Type} (roll : σ → Nat → Nat × σ) (rows : List (List Char)) (s : σ) : List (List Char) × σ :=
  let cols := transposeCols rows
  let r := bootstrapCols roll cols.toArray cols.length s []
  (untransposeCols r.1 rows.length, r.2)

theorem msaColShuffle_cols_perm {σ : Type} (roll : σ → Nat → Nat × σ) (rows : List (List Char)) (s : σ) :
    (cshuffle roll (transposeCols rows) s).1.Perm (transposeCols rows) := cshuffle_perm roll _ s

def msaShuffleSamples (boot : Bool) (rows : List (List Char)) : Nat → Rng → List (List (List Char)) → List (List (List Char))
  | 0, _, acc => acc.reverse
  | n + 1, g, acc =>
    let r := if boot then msaBootstrap rollRng rows g else msaColShuffle rollRng rows g
    msaShuffleSamples boot rows n r.2 (r.1 :: acc)

/-- `easel downsample -S`: reservoir over the record offsets, sorted back into file order -/
def downsampleBigIndices (seed m n : Nat) : List Nat :=
  ((selectn rollRng64 m (List.range n) (Rng64.create (UInt64.ofNat seed))).toArray.qsort (· < ·)).toList

end EaselModel.Miniapps
