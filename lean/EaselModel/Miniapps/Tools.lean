import EaselModel.Miniapps.Range
import EaselModel.Miniapps.Reformat
import EaselModel.Miniapps.Selectn
import EaselModel.Miniapps.Shuffle
import EaselModel.Miniapps.Translate
import EaselModel.Miniapps.Alistat
import EaselModel.Miniapps.Weight
import EaselModel.Miniapps.ReformatMsa
import EaselModel.Miniapps.Alimask
import EaselModel.Miniapps.Alimanip
import EaselModel.Miniapps.Afetch
import EaselModel.Miniapps.AlistatInfo
import EaselModel.Miniapps.Compstruct
import EaselModel.Miniapps.StoTools
import EaselModel.Miniapps.Compalign
import EaselModel.Miniapps.Small
import EaselModel.Miniapps.Alimerge
/-! # C13 — command-line front end of the reference functions: `runTool tool argv files` = predicted stdout -/
namespace EaselModel.Miniapps

structure Parsed where
  flags : List String := []
  vals : List (String × String) := []
  pos : List String := []

/-- options first (`-x`, `-x v`, `--long`, `--long v`), then positionals; anything else is outside the domain -/
def parseArgs (noArg withArg : List String) : List String → Parsed → Option Parsed
  | [], p => some { p with flags := p.flags.reverse, vals := p.vals.reverse, pos := p.pos.reverse }
  | a :: rest, p =>
    if noArg.contains a then
      if !p.pos.isEmpty || p.flags.contains a then none else parseArgs noArg withArg rest { p with flags := a :: p.flags }
    else if withArg.contains a then
      if !p.pos.isEmpty then none else
      match rest with
      | v :: rest' =>
        -- esl_getopts: "Arg looks like option?" for a string/file-typed value that starts with '-'; a numeric-typed option takes a
        -- negative number (the table's types are not known here: a value that starts with '-' passes only if it reads as a number)
        -- (a lone "-" passes too: character-typed options such as `esl-mask -m -`; string-typed ones are checked by their tool's front end)
        if v.startsWith "-" && v.length > 1 && !((v.toList.drop 1).all fun c => c.isDigit || c == '.') then none else
        if (p.vals.map (·.1)).contains a then none else parseArgs noArg withArg rest' { p with vals := (a, v) :: p.vals }
      | [] => none
    else if a.startsWith "-" && a.length > 1 && !(a.toList.drop 1).all Char.isDigit then none
    else parseArgs noArg withArg rest { p with pos := a :: p.pos }

def Parsed.has (p : Parsed) (f : String) : Bool := p.flags.contains f
def Parsed.val? (p : Parsed) (k : String) : Option String := (p.vals.find? (·.1 == k)).map (·.2)

/-- the explicit alphabet flag (the reference does not model alphabet guessing) -/
def abcOf (p : Parsed) : Option Abc :=
  match p.has "--dna", p.has "--rna", p.has "--amino" with
  | true, false, false => some .dna
  | false, true, false => some .rna
  | false, false, true => some .amino
  | _, _, _ => none

def allDigitizable (a : Abc) (rs : List Rec) : Bool :=
  rs.all fun r => r.seq.all fun c => (a.digit c).isSome && a.canon c != '-' && a.canon c != '*' && a.canon c != '~'

def runSeqstat (argv : List String) (files : String → Option (List Char)) : Option String := do
  let p ← parseArgs ["-a", "-c", "--dna", "--rna", "--amino", "--comptbl"] ["--informat"] argv {}
  match p.val? "--informat" with
  | some f => if f != "fasta" then none
  | none => pure ()
  let a ← abcOf p
  let [fn] := p.pos | none
  let f ← files fn
  let recs := parseFasta f
  if recs.isEmpty || !allDigitizable a recs then none
  some (seqstatText { perSeq := p.has "-a", comp := p.has "-c", comptbl := p.has "--comptbl" } a "FASTA" recs)

def sameLen (rs : List Rec) : Bool :=
  match rs with
  | [] => false
  | r :: t => r.seq.length > 0 && t.all fun x => x.seq.length == r.seq.length

def alignedOk (a : Abc) (rs : List Rec) : Bool :=
  sameLen rs && rs.all fun r => r.seq.all fun c => (a.digit c).isSome

def namesDistinct (rs : List Rec) : Bool := (rs.map (·.name)).eraseDups.length == rs.length

def fmtIs (p : Parsed) (k v : String) : Bool :=
  match p.val? k with
  | some f => f == v
  | none => false

/-- the three views of the alphabet flag: C13's characters, C03's reader configuration, C15's tables -/
def abc3Of (p : Parsed) : Option (Abc × EaselModel.Msafile.Abc × EaselModel.Msa.Abc) :=
  match p.has "--dna", p.has "--rna", p.has "--amino" with
  | true, false, false => some (.dna, EaselModel.Msafile.abcDna, EaselModel.Msa.Gen.dnaAbc)
  | false, true, false => some (.rna, EaselModel.Msafile.abcRna, EaselModel.Msa.Gen.rnaAbc)
  | false, false, true => some (.amino, EaselModel.Msafile.abcAmino, EaselModel.Msa.Gen.aminoAbc)
  | _, _, _ => none

def msaFormats : List String := ["stockholm", "pfam", "a2m", "afa", "psiblast", "clustal", "clustallike", "selex", "phylip", "phylips"]

def c2b (c : List Char) : List UInt8 := c.map fun x => UInt8.ofNat x.toNat
def b2s (b : List UInt8) : String := String.ofList (b.map fun x => Char.ofNat x.toNat)

def isSto (f : String) : Bool := f == "stockholm" || f == "pfam"

/-- esl-alirev --informat afa (--dna|--rna) <afa> -/
def runAlirev (argv : List String) (files : String → Option (List Char)) : Option String := do
  let p ← parseArgs ["--dna", "--rna"] ["--informat", "--outformat"] argv {}
  if isSto ((p.val? "--informat").getD "") then
    -- every alignment of a Stockholm / Pfam file: C15 ReverseComplement, then the C03 writer of the requested (default: input) format
    let infmt := (p.val? "--informat").getD ""
    let outfmt := (p.val? "--outformat").getD infmt
    if !msaFormats.contains outfmt then none
    let (_, fa, ta) ← abc3Of p
    let [fn] := p.pos | none
    return ← (Ali.alirevSto fa ta infmt outfmt (c2b (← files fn))).map b2s
  if !fmtIs p "--informat" "afa" then none
  match p.val? "--outformat" with
  | some f => if f != "afa" then none
  | none => pure ()
  let a ← abcOf p
  let [fn] := p.pos | none
  let recs := parseFasta (← files fn)
  if !alignedOk a recs || !namesDistinct recs then none
  some (alirevText a recs)

/-- esl-alipid --informat afa (--dna|--rna|--amino) [--noheader] <afa> -/
def runAlipid (argv : List String) (files : String → Option (List Char)) : Option String := do
  let p ← parseArgs ["--dna", "--rna", "--amino", "--noheader"] ["--informat"] argv {}
  if isSto ((p.val? "--informat").getD "") then
    let (a, fa, _) ← abc3Of p
    let [fn] := p.pos | none
    return ← Ali.alipidSto a fa (!p.has "--noheader") ((p.val? "--informat").getD "") (c2b (← files fn))
  if !fmtIs p "--informat" "afa" then none
  let a ← abcOf p
  let [fn] := p.pos | none
  let recs := parseFasta (← files fn)
  if !alignedOk a recs || !namesDistinct recs then none
  some (alipidText a (!p.has "--noheader") recs)

/-- esl-seqrange <fasta> <procidx> <nproc> (the SSI index only supplies the number of sequences) -/
def runSeqrange (argv : List String) (files : String → Option (List Char)) : Option String := do
  let p ← parseArgs [] ["--informat"] argv {}
  match p.val? "--informat" with
  | some f => if f != "fasta" then none
  | none => pure ()
  let [fn, pi, np] := p.pos | none
  let procidx ← pi.toNat?
  let nproc ← np.toNat?
  let recs := parseFasta (← files fn)
  if procidx < 1 || nproc < 1 || procidx > nproc || recs.length < nproc || !namesDistinct recs then none
  some (seqrangeText recs.length nproc procidx)

/-- esl-selectn --seed <s> <m> <file> -/
def runSelectn (argv : List String) (files : String → Option (List Char)) : Option String := do
  let p ← parseArgs [] ["--seed"] argv {}
  let seed ← (← p.val? "--seed").toNat?
  if seed = 0 || seed ≥ 2 ^ 31 then none
  let [ms, fn] := p.pos | none
  let m ← ms.toNat?
  let f ← files fn
  if f.any (fun c => c.toNat = 0) then none
  selectnText seed m f

def parseIntS (s : String) : Option Int := s.toInt?

def parseFloatS (s : String) : Option Float :=
  match s.splitOn "." with
  | [i] => i.toNat?.map Float.ofNat
  | [i, f] => do
    let ip ← if i.isEmpty then some 0 else i.toNat?
    let fp ← if f.isEmpty then some 0 else f.toNat?
    some (Float.ofScientific (ip * 10 ^ f.length + fp) true f.length)
  | _ => none


/-- esl-mask [-r] [-l | -m c] [-x n] <fasta> <maskfile>; sequential mode -/
def runMask (argv : List String) (files : String → Option (List Char)) : Option String := do
  let p ← parseArgs ["-r", "-l", "-R"] ["-m", "-x", "--informat"] argv {}
  match p.val? "--informat" with
  | some f => if f != "fasta" then none
  | none => pure ()
  if p.has "-l" && (p.val? "-m").isSome then none
  let mchar ← match p.val? "-m" with
    | some v => (match v.toList with | [c] => some c | _ => none)
    | none => some 'X'
  let x ← match p.val? "-x" with
    | some v => parseIntS v
    | none => some 0
  let [fn, mf] := p.pos | none
  let recs := parseFasta (← files fn)
  let mlines := (fileLines (← files mf)).filter (fun l => !(l.all isBlank))
  if mlines.isEmpty then none
  let o : MaskOpts := { rev := p.has "-r", lower := p.has "-l", mchar := mchar, x := x }
  -- -R: every mask line names its sequence, fetched through the SSI index; otherwise mask lines and sequences run in parallel
  let pairs ← if p.has "-R" then do
      let _ ← files (fn ++ ".ssi")
      if !namesDistinct recs then none
      mlines.mapM fun l => do
        let nm ← (((String.ofList l).splitOn " ").filter (· ≠ "")).head?
        let r ← recs.find? (·.name = nm.toList)
        some (l, r)
    else if mlines.length > recs.length then none else some (mlines.zip recs)
  let outs ← pairs.mapM fun (l, r) => do
    let toks := ((String.ofList l).splitOn " ").filter (· ≠ "")
    let [nm, a, b] := toks | none
    if nm.toList ≠ r.name then none
    let a ← parseIntS a
    let b ← parseIntS b
    some { r with seq := maskSeq o (a - 1) (b - 1) r.seq }
  some (String.ofList (renderFasta 60 outs))


/-- alignment file in, alignment file out: the C03 readers/writers and C15 column operations composed (`ReformatMsa.lean`) -/
def runReformatMsa (p : Parsed) (infmt outfmt : String) (src : List Char) : Option String := do
  let gapsym ← match p.val? "--gapsym" with
    | some v => (match v.toList with | [c] => some (some (UInt8.ofNat c.toNat)) | _ => none)
    | none => some none
  let repl ← match p.val? "--replace" with
    | some v =>
      let cs := v.toList
      let mid := cs.length / 2
      if cs.length % 2 = 1 && cs.getD mid ' ' = ':' then some (some (c2b (cs.take mid), c2b (cs.drop (mid + 1)))) else none
    | none => some none
  let namelen ← match p.val? "--namelen" with
    | some v => (match v.toNat? with | some n => if n > 0 && n < 2 ^ 31 then some (some n) else none | none => none)
    | none => some none
  if p.has "--keeprf" && !p.has "--mingap" then none
  let nw := (if p.has "--wussify" then 1 else 0) + (if p.has "--dewuss" then 1 else 0) + (if p.has "--fullwuss" then 1 else 0)
  if nw > 1 then none
  let o : Ali.Opts :=
    { mingap := p.has "--mingap", keeprf := p.has "--keeprf", nogap := p.has "--nogap", replace := repl, gapsym := gapsym,
      lower := p.has "-l", upper := p.has "-u", rna := p.has "-r", dna := p.has "-d", iupacN := p.has "-n", xbad := p.has "-x",
      rename := (p.val? "--rename").map fun s => c2b s.toList,
      wussify := p.has "--wussify", dewuss := p.has "--dewuss", fullwuss := p.has "--fullwuss", namelen := namelen }
  (Ali.reformatMsa o infmt outfmt (c2b src)).map b2s

/-- esl-reformat [-d -l -n -r -u -x --gapsym c --rename s --replace a:b --mingap [--keeprf] --nogap --wussify --dewuss --fullwuss
    --namelen n] --informat <fmt> <fmt> <file> -/
def runReformat (argv : List String) (files : String → Option (List Char)) : Option String := do
  let p ← parseArgs ["-d", "-l", "-n", "-r", "-u", "-x", "--mingap", "--nogap", "--keeprf", "--wussify", "--dewuss", "--fullwuss", "--small"]
    ["--gapsym", "--informat", "--rename", "--replace", "--namelen", "--ignore", "--acceptx"] argv {}
  let infmt ← p.val? "--informat"
  if p.has "--small" then
    -- `--small`: Pfam in, aligned FASTA or Pfam out, streamed (`regurgitate_pfam_as_afa` / `regurgitate_pfam_as_pfam`)
    if infmt != "pfam" then none
    if p.has "--mingap" || p.has "--nogap" || p.has "--keeprf" || p.has "--wussify" || p.has "--dewuss" || p.has "--fullwuss" then none
    if (p.val? "--namelen").isSome || (p.val? "--ignore").isSome || (p.val? "--acceptx").isSome then none
    if (p.has "-d" && p.has "-r") || (p.has "-l" && p.has "-u") || (p.has "-n" && p.has "-x") then none
    if ["--rename", "--replace", "--gapsym"].any (fun k => ((p.val? k).getD "").startsWith "-") then none
    let [outfmt, fn] := p.pos | none
    let gapsym ← match p.val? "--gapsym" with
      | some v => (match v.toList with | [c] => some (some c) | _ => none)
      | none => some none
    let repl ← match p.val? "--replace" with
      | some v =>
        let cs := v.toList
        let mid := cs.length / 2
        if cs.length % 2 = 1 && cs.getD mid ' ' = ':' then some (some (cs.take mid, cs.drop (mid + 1))) else none
      | none => some none
    let o : ReformatOpts := { replace := repl, lower := p.has "-l", upper := p.has "-u", rna := p.has "-r", dna := p.has "-d",
                              iupacN := p.has "-n", xbad := p.has "-x", gapsym := gapsym, rename := (p.val? "--rename").map String.toList }
    let src ← files fn
    if src.contains '\r' || src.getLast? != some '\n' then none
    let ls := fileLines src
    if outfmt == "afa" then
      let m := String.ofList (unlines (← Small.reformatSmallAfa o ls))
      -- the non-small reference on the same file promises the same bytes: where it is defined the two must agree
      let pN : Parsed := { p with flags := p.flags.filter (· != "--small") }
      match runReformatMsa pN "pfam" "afa" src with
      | some n => if n == m then return m else none
      | none => return m
    else if outfmt == "pfam" then
      if (p.val? "--rename").isSome then none
      return ← (Small.reformatSmallPfamAll o (ls.length + 2) ls).map fun out => String.ofList (unlines out)
    else none
  -- `--ignore s` / `--acceptx s` edit the input map of the SEQUENCE reader: alignment output refuses them, an alignment file read
  -- for unaligned output never consults that map, a FASTA file drops the ignored characters and reads the accepted ones as X
  let ignore := ((p.val? "--ignore").getD "").toList
  let acceptx := ((p.val? "--acceptx").getD "").toList
  let mapEdited := (p.val? "--ignore").isSome || (p.val? "--acceptx").isSome
  if (ignore ++ acceptx).any (fun c => c.toNat ≥ 127 || c.toNat ≤ 32 || c == '>') then none
  if ["--ignore", "--acceptx", "--rename", "--replace", "--gapsym"].any (fun k => ((p.val? k).getD "").startsWith "-") then none
  if p.has "--mingap" && p.has "--nogap" then none
  if (p.has "--mingap" || p.has "--nogap") && (p.val? "--gapsym").isSome then none
  let [outfmt, fn] := p.pos | none
  if (p.has "-d" && p.has "-r") || (p.has "-l" && p.has "-u") || (p.has "-n" && p.has "-x") then none
  if msaFormats.contains outfmt && mapEdited then none
  if msaFormats.contains outfmt && msaFormats.contains infmt then
    match runReformatMsa p infmt outfmt (← files fn) with
    | some out => return out
    | none => pure ()
  if outfmt == "fasta" && msaFormats.contains infmt then
    -- unaligned output from an alignment file (sequence branch of the tool over the C03 readers and C15's FetchFromMSA)
    if p.has "--keeprf" && !p.has "--mingap" then none
    match p.val? "--gapsym" with
    | some v => if v.length != 1 then none
    | none => pure ()
    let repl ← match p.val? "--replace" with
      | some v =>
        let cs := v.toList
        let mid := cs.length / 2
        if cs.length % 2 = 1 && cs.getD mid ' ' = ':' then some (some (c2b (cs.take mid), c2b (cs.drop (mid + 1)))) else none
      | none => some none
    match p.val? "--namelen" with
    | some v => (match v.toNat? with | some n => if n > 0 && n < 2 ^ 31 then pure () else none | none => none)
    | none => pure ()
    let nw := (if p.has "--wussify" then 1 else 0) + (if p.has "--dewuss" then 1 else 0) + (if p.has "--fullwuss" then 1 else 0)
    if nw > 1 then none
    let o : Ali.Opts :=
      { replace := repl, lower := p.has "-l", upper := p.has "-u", rna := p.has "-r", dna := p.has "-d", iupacN := p.has "-n", xbad := p.has "-x",
        rename := (p.val? "--rename").map fun s => c2b s.toList,
        wussify := p.has "--wussify", dewuss := p.has "--dewuss", fullwuss := p.has "--fullwuss" }
    return ← (Ali.reformatMsaToFasta o infmt (c2b (← files fn))).map b2s
  if p.has "--keeprf" || p.has "--wussify" || p.has "--dewuss" || p.has "--fullwuss" || (p.val? "--namelen").isSome then none
  let gapsym ← match p.val? "--gapsym" with
    | some v => (match v.toList with | [c] => some (some c) | _ => none)
    | none => some none
  let repl ← match p.val? "--replace" with
    | some v =>
      let cs := v.toList
      let mid := cs.length / 2
      if cs.length % 2 = 1 && cs.getD mid ' ' = ':' then some (some (cs.take mid, cs.drop (mid + 1))) else none
    | none => some none
  let o : ReformatOpts := { replace := repl, lower := p.has "-l", upper := p.has "-u", rna := p.has "-r", dna := p.has "-d",
                            iupacN := p.has "-n", xbad := p.has "-x", gapsym := gapsym, rename := (p.val? "--rename").map String.toList }
  let recs := parseFasta (← files fn)
  if mapEdited && (outfmt != "fasta" || infmt != "fasta") then none
  let recs := if mapEdited then recs.map (fun r => { r with seq := r.seq.filterMap (fun c =>
      if acceptx.contains c then some 'X' else if ignore.contains c then none else some c) }) else recs
  if recs.isEmpty || !namesDistinct recs then none
  if recs.any (fun r => r.seq.isEmpty) then none
  match outfmt, infmt with
  | "fasta", "fasta" =>
    if p.has "--mingap" || p.has "--nogap" then none
    if gapsym.isSome || recs.any (fun r => r.seq.any fun c => !c.isAlpha && c != '*') then none
    some (reformatText (reformatFasta o false recs))
  | "fasta", "afa" =>
    if p.has "--mingap" || p.has "--nogap" then none
    if gapsym.isSome || !sameLen recs || recs.any (fun r => r.seq.all isGapC) then none
    some (reformatText (reformatFasta o true recs))
  | "afa", "afa" =>
    if !sameLen recs then none
    let recs' := if p.has "--mingap" then dropGapColumns false recs else if p.has "--nogap" then dropGapColumns true recs else recs
    if recs'.any (fun r => r.seq.isEmpty) then none
    some (reformatText (reformatAfa o recs'))
  | _, _ => none

def seedOf (p : Parsed) : Option Nat := do
  let seed ← (← p.val? "--seed").toNat?
  if seed = 0 || seed ≥ 2 ^ 31 then none else some seed

def natOpt (p : Parsed) (k : String) (dflt : Nat) : Option Nat :=
  match p.val? k with
  | some v => v.toNat?
  | none => some dflt

/-- esl-shuffle -A [-b] [-N n] --seed s --informat afa <afa>: whole-alignment shuffles -/
def runShuffleA (argv : List String) (files : String → Option (List Char)) : Option String := do
  let p ← parseArgs ["-m", "-r", "-G", "--dna", "--rna", "-A", "-b"] ["--seed", "-N", "-L", "-k", "-w", "--informat"] argv {}
  let seed ← seedOf p
  let N ← natOpt p "-N" 1
  let L ← natOpt p "-L" 0
  if N = 0 || !p.has "-A" then none
  -- whole-alignment mode on aligned FASTA, digital: the alphabet is guessed by the tool; the reference only takes
  -- alignments that are unmistakably DNA or RNA (the symbols then do not depend on the guess beyond T/U)
  if p.has "-G" || p.has "-m" || p.has "-r" || p.has "--dna" || p.has "--rna" || L != 0 || (p.val? "-k").isSome || (p.val? "-w").isSome then none
  if !fmtIs p "--informat" "afa" then none
  let [fn] := p.pos | none
  let recs := parseFasta (← files fn)
  let hasU := recs.any fun r => r.seq.any fun c => c == 'U' || c == 'u'
  let hasT := recs.any fun r => r.seq.any fun c => c == 'T' || c == 't'
  if hasU && hasT then none
  let a : Abc := if hasU then .rna else .dna
  if !alignedOk a recs || !namesDistinct recs then none
  let rows := recs.map fun r => a.normalize r.seq
  let samples := msaShuffleSamples (p.has "-b") rows N (EaselModel.Random.Rng.create .mersenne (UInt32.ofNat seed)) []
  let out : List Char := samples.flatMap fun smp => renderFasta 60 ((recs.zip smp).map fun x => { x.1 with seq := x.2 })
  some (String.ofList out)

/-- esl-shuffle --seed s [-N n] [-L n] [-m | -k n | -w n | -r] --informat fasta <fasta>   |   -G --dna|--rna -L n [-N n] -/
def runShuffle (argv : List String) (files : String → Option (List Char)) : Option String := do
  let p ← parseArgs ["-m", "-r", "-G", "--dna", "--rna", "-A", "-b"] ["--seed", "-N", "-L", "-k", "-w", "--informat"] argv {}
  let seed ← seedOf p
  let N ← natOpt p "-N" 1
  let L ← natOpt p "-L" 0
  if N = 0 then none
  if p.has "-b" || p.has "-A" then none
  if p.has "-G" then
    if !p.pos.isEmpty || L = 0 || p.has "-m" || p.has "-r" || (p.val? "-k").isSome || (p.val? "-w").isSome then none
    let syms ← match p.has "--dna", p.has "--rna" with
      | true, false => some Abc.dna.syms
      | false, true => some Abc.rna.syms
      | _, _ => none
    some (generateText seed syms N L)
  else
    if p.has "--dna" || p.has "--rna" then none
    if !fmtIs p "--informat" "fasta" then none
    let modes := (if p.has "-m" then 1 else 0) + (if p.has "-r" then 1 else 0) + (if (p.val? "-k").isSome then 1 else 0) +
      (if (p.val? "-w").isSome then 1 else 0)
    if modes > 1 then none
    let k ← natOpt p "-k" 1
    let w ← natOpt p "-w" 1
    if k = 0 || w = 0 then none
    let mode := if p.has "-r" then "-r" else if (p.val? "-k").isSome then "-k" else if (p.val? "-w").isSome then "-w" else "-m"
    let [fn] := p.pos | none
    let recs := parseFasta (← files fn)
    if recs.isEmpty || recs.any (fun r => r.seq.isEmpty || r.seq.any fun c => !c.isAlpha) then none
    some (shuffleText seed { mode := mode, k := k, w := w, N := N, L := L } recs)

/-- esl-weight [-g | -p | -b [--id x]] --informat afa (--dna|--rna|--amino) <afa> -/
def runWeight (argv : List String) (files : String → Option (List Char)) : Option String := do
  let p ← parseArgs ["--dna", "--rna", "--amino", "-g", "-p", "-b", "-f"] ["--informat", "--id", "--idf"] argv {}
  if isSto ((p.val? "--informat").getD "") then
    let infmt := (p.val? "--informat").getD ""
    let (a, fa, ta) ← abc3Of p
    let nalg := (if p.has "-g" then 1 else 0) + (if p.has "-p" then 1 else 0) + (if p.has "-b" then 1 else 0) + (if p.has "-f" then 1 else 0)
    if nalg > 1 || ((p.val? "--idf").isSome && !p.has "-f") || ((p.val? "--id").isSome && !p.has "-b") then none
    let [fn] := p.pos | none
    let src := c2b (← files fn)
    if p.has "-f" then
      let idf ← match p.val? "--idf" with | some v => parseFloatS v | none => some 0.8
      return ← (Ali.weightFilterSto a fa ta idf infmt src).map b2s
    else
      let maxid ← match p.val? "--id" with | some v => parseFloatS v | none => some 0.62
      return ← (Ali.weightSto a fa (if p.has "-p" then "-p" else if p.has "-b" then "-b" else "-g") maxid infmt src).map b2s
  if !fmtIs p "--informat" "afa" then none
  let a ← abcOf p
  let nalg := (if p.has "-g" then 1 else 0) + (if p.has "-p" then 1 else 0) + (if p.has "-b" then 1 else 0) + (if p.has "-f" then 1 else 0)
  if (p.val? "--idf").isSome && !p.has "-f" then none
  if nalg > 1 then none
  if (p.val? "--id").isSome && !p.has "-b" then none
  let maxid ← match p.val? "--id" with | some v => parseFloatS v | none => some 0.62
  let [fn] := p.pos | none
  let recs := parseFasta (← files fn)
  if !alignedOk a recs || !namesDistinct recs then none
  if p.has "-f" then
    let idf ← match p.val? "--idf" with | some v => parseFloatS v | none => some 0.8
    weightFilterText a idf recs
  else weightText a (if p.has "-p" then "-p" else if p.has "-b" then "-b" else "-g") maxid recs

/-- esl-alistat [-1] --informat afa (--dna|--rna|--amino) <afa> -/
def runAlistat (argv : List String) (files : String → Option (List Char)) : Option String := do
  let p ← parseArgs ["--dna", "--rna", "--amino", "-1"] ["--informat"] argv {}
  if !fmtIs p "--informat" "afa" then none
  let a ← abcOf p
  let [fn] := p.pos | none
  let recs := parseFasta (← files fn)
  if !alignedOk a recs || !namesDistinct recs then none
  some (if p.has "-1" then eslAlistatOneLine a recs else eslAlistatText a recs)

/-- `^.+\|(.+)\|(.+)$` on a sequence name: (accession, id) = the last two `|`-separated fields of at least three -/
def uniprotParts (name : List Char) : Option (List Char × List Char) :=
  match (name.splitOn '|').reverse with
  | id :: acc :: _ :: _ => if id.isEmpty || acc.isEmpty then none else some (acc, id)
  | _ => none

/-- record by primary key (name) or, failing that, by a secondary key that `easel index -u [-a]` derives from the name -/
def findRec (recs : List Rec) (key : List Char) : Option Rec :=
  match recs.find? (·.name = key) with
  | some r => some r
  | none => recs.find? fun r => match uniprotParts r.name with
      | some (acc, id) => id = key || acc = key
      | none => false

/-- the record named `key`, echoed verbatim: its header line and the following lines up to the next header -/
def echoRecord (ls : List Line) (key : List Char) : Option (List Line) :=
  let rec go : List Line → Option (List Line)
    | [] => none
    | l :: rest =>
      match l with
      | '>' :: h => if (parseHeader h).1 = key then some (l :: rest.takeWhile (fun x => x.head? != some '>')) else go rest
      | _ => go rest
  go ls

/-- easel downsample --seed s [-s] <m> <file>  |  easel alistat (--dna|--rna|--amino) <afa> -/
def runEasel (argv : List String) (files : String → Option (List Char)) : Option String := do
  match argv with
  | "downsample" :: rest =>
    let p ← parseArgs ["-s", "-S"] ["--seed"] rest {}
    let seed ← seedOf p
    let [ms, fn] := p.pos | none
    let m ← ms.toNat?
    let f ← files fn
    if p.has "-s" && p.has "-S" then none
    if p.has "-S" then
      let recs := parseFasta f
      if recs.isEmpty || !namesDistinct recs || recs.length < m ||
         recs.any (fun r => r.seq.isEmpty || r.seq.any fun c => !c.isAlpha) then none
      let idx := downsampleBigIndices seed m recs.length
      let outs ← idx.mapM fun i => do
        let r ← recs[i]?
        echoRecord (fileLines f) r.name
      some (String.ofList (unlines outs.flatten))
    else if p.has "-s" then
      let recs := parseFasta f
      if recs.isEmpty || recs.any (fun r => r.seq.isEmpty || r.seq.any fun c => !c.isAlpha) then none
      downsampleSeqsText seed m recs
    else
      if f.any (fun c => c.toNat = 0) then none
      downsampleLinesText seed m f
  | "index" :: rest =>
    let p ← parseArgs ["-a", "-u"] [] rest {}
    let [fn] := p.pos | none
    let recs := parseFasta (← files fn)
    if recs.isEmpty || !namesDistinct recs || recs.any (fun r => r.seq.isEmpty || r.seq.any fun c => !c.isAlpha) then none
    -- secondary keys: with -u the id (and with -a also the accession) parsed out of db|acc|id names
    let sec := if p.has "-u" then recs.flatMap fun r => match uniprotParts r.name with
        | some (acc, id) => (if p.has "-a" then [acc] else []) ++ [id]
        | none => [] else []
    if (sec ++ recs.map (·.name)).eraseDups.length != sec.length + recs.length then none
    let n := toString recs.length
    let counts := if sec.isEmpty then n ++ " names" else n ++ " names and " ++ toString sec.length ++ " secondary keys"
    some ("Creating SSI index " ++ fn ++ ".ssi for sequence file " ++ fn ++ "...    done.\nIndexed " ++ n ++ " sequences (" ++ counts ++
          ").\nSSI index written to file " ++ fn ++ ".ssi\n")
  | "filter" :: rest =>
    let p ← parseArgs ["--dna", "--rna", "--amino"] ["--informat"] rest {}
    if !fmtIs p "--informat" "afa" then none
    let a ← abcOf p
    let [mx, fn] := p.pos | none
    let maxid ← parseFloatS mx
    let recs := parseFasta (← files fn)
    if !alignedOk a recs || !namesDistinct recs then none
    filterText a maxid recs
  | "alistat" :: rest =>
    let p ← parseArgs ["--dna", "--rna", "--amino", "-1"] [] rest {}
    let a ← abcOf p
    let [fn] := p.pos | none
    let f ← files fn
    if (f.dropWhile fun c => c == '\n' || c == ' ').head? == some '#' then
      -- a Stockholm / Pfam file (format guessed by the tool): every alignment of it
      let V := match a with | .dna => Ali.viewsDna | .rna => Ali.viewsRna | .amino => Ali.viewsAmino
      return ← Ali.easelAlistatSto V (p.has "-1") fn (c2b f)
    let recs := parseFasta f
    if !alignedOk a recs || !namesDistinct recs then none
    if p.has "-1" then
      if f.head? != some '>' then none
      some (easelAlistatOneLine a f.length recs)
    else some (easelAlistatText a recs)
  | _ => none

/-! esl-sfetch (an SSI index must exist: the driver records `<file>.ssi` when it sees `esl-sfetch --index <file>`) -/

def fetchOne (p : Parsed) (f : List Char) (recs : List Rec) (key : List Char) : Option (List Char) := do
  let r ← findRec recs key
  if p.has "-r" || (p.val? "-n").isSome then
    let s := if p.has "-r" then revcompText r.seq else r.seq
    let nm := match p.val? "-n" with | some n => n.toList | none => r.name
    some (renderFasta 60 [{ r with name := nm, seq := s }])
  else
    some (unlines (← echoRecord (fileLines f) r.name))

def fetchSub (p : Parsed) (recs : List Rec) (newname : Option (List Char)) (key : List Char) (a b : Nat) : Option (List Char) := do
  let r ← recs.find? (·.name = key)
  let L := r.seq.length
  let (st, en, rc) := if b ≠ 0 ∧ a > b then (b, a, true) else (a, b, false)
  let en' := if en = 0 then L else en
  if st < 1 || en' > L || st > en' then none
  let s := subseq r.seq st en'
  let s := if rc then revcompText s else s
  let s := if p.has "-r" then revcompText s else s
  let nm := match newname with
    | some n => n
    | none => key ++ ("/" ++ toString a ++ "-" ++ toString (if b = 0 then L else b)).toList
  some (renderFasta 60 [{ r with name := nm, seq := s }])

def dnaTextOk (rs : List Rec) : Bool := rs.all fun r => !r.seq.isEmpty && r.seq.all fun c => dnaTextSyms.contains c && c.isAlpha

def runSfetchFull (argv : List String) (files : String → Option (List Char)) : Option (String × List (String × List Char)) := do
  let p ← parseArgs ["-r", "-f", "-C", "--index", "-O"] ["-n", "-c", "--informat", "-o"] argv {}
  if p.has "-O" && ((p.val? "-o").isSome || p.has "-f") then none
  -- output goes to a file with -o <f> / -O (file named after the key); stdout then only carries the "Retrieved …" note
  let wrap (note : String) (content : String) : Option (String × List (String × List Char)) :=
    match p.val? "-o", p.has "-O" with
    | some f, _ => some (note, [(f, content.toList)])
    | none, true => (p.pos[1]?).map fun k => (note, [(k, content.toList)])
    | none, false => some (content, [])
  let fn ← p.pos.head?
  let f ← files fn
  if fmtIs p "--informat" "afa" then
    -- an alignment file is read sequentially (no SSI index is used) and the de-gapped, parsed record is written
    if p.has "--index" || p.has "-C" || (p.val? "-c").isSome then none
    let recs0 := parseFasta f
    if !sameLen recs0 || !namesDistinct recs0 then none
    let recs := recs0.map fun r => { r with seq := r.seq.filter fun c => !isGapC c }
    if recs.any (fun r => r.seq.isEmpty) || (p.has "-r" && !dnaTextOk recs) then none
    let [_, arg2] := p.pos | none
    let one (r : Rec) : List Char :=
      let s := if p.has "-r" then revcompText r.seq else r.seq
      let nm := match p.val? "-n" with | some n => n.toList | none => r.name
      renderFasta 60 [{ r with name := nm, seq := s }]
    if p.has "-f" then
      if (p.val? "-n").isSome then none
      let klines := (fileLines (← files arg2)).filter (fun l => !(l.all isBlank))
      let keys ← klines.mapM fun l => (match ((String.ofList l).splitOn " ").filter (· ≠ "") with | [k] => some k.toList | _ => none)
      if keys.eraseDups.length != keys.length || !keys.all (fun k => recs.any (·.name = k)) then none
      let sel := recs.filter fun r => keys.contains r.name        -- file order, not key order
      wrap ("\nRetrieved " ++ toString keys.length ++ " sequences.\n") (String.ofList (sel.flatMap one))
    else
      let r ← recs.find? (·.name = arg2.toList)
      wrap ("\n\nRetrieved sequence " ++ arg2 ++ ".\n") (String.ofList (one r))
  else
  match p.val? "--informat" with
  | some f => if f != "fasta" then none
  | none => pure ()
  let recs := parseFasta f
  if recs.isEmpty || !namesDistinct recs || recs.any (fun r => r.seq.isEmpty) then none
  if p.has "--index" then
    if p.pos.length != 1 || p.has "-r" || p.has "-f" || p.has "-C" || !p.vals.isEmpty then none
    let n := toString recs.length
    if (p.val? "-o").isSome || p.has "-O" then none
    some ("Creating SSI index for " ++ fn ++ "...    done.\nIndexed " ++ n ++ " sequences (" ++ n ++ " names).\nSSI index written to file " ++ fn ++ ".ssi\n", [])
  else
    let _ ← files (fn ++ ".ssi")
    if (p.has "-r" || (p.val? "-c").isSome || p.has "-C") && !dnaTextOk recs then none
    let [_, arg2] := p.pos | none
    if p.has "-f" then
      if (p.val? "-n").isSome || (p.val? "-c").isSome then none
      let klines := (fileLines (← files arg2)).filter (fun l => !(l.all isBlank))
      let toks := klines.map fun l => ((String.ofList l).splitOn " ").filter (· ≠ "")
      if p.has "-C" then
        let outs ← toks.mapM fun t => do
          let [nn, a, b, src] := t | none
          fetchSub p recs (some nn.toList) src.toList (← a.toNat?) (← b.toNat?)
        wrap "" (String.ofList outs.flatten)
      else
        let keys ← toks.mapM fun t => (match t with | [k] => some k.toList | _ => none)
        if keys.eraseDups.length != keys.length then none
        let outs ← keys.mapM fun k => fetchOne p f recs k
        wrap ("\nRetrieved " ++ toString keys.length ++ " sequences.\n") (String.ofList outs.flatten)
    else
      if p.has "-C" then none
      match p.val? "-c" with
      | some c =>
        let [a, b] := c.splitOn ".." | none
        let o ← fetchSub p recs ((p.val? "-n").map String.toList) arg2.toList (← a.toNat?) (← b.toNat?)
        wrap ("\n\nRetrieved subsequence " ++ arg2 ++ "/" ++ a ++ "-" ++ b ++ ".\n") (String.ofList o)
      | none =>
        let o ← fetchOne p f recs arg2.toList
        wrap ("\n\nRetrieved sequence " ++ arg2 ++ ".\n") (String.ofList o)

/-- esl-translate [-c id] [-l n] [-m | -M] [--watson | --crick] --informat fasta <fasta> -/
def runTranslate (argv : List String) (files : String → Option (List Char)) : Option String := do
  let p ← parseArgs ["-m", "-M", "--watson", "--crick", "-W"] ["-c", "-l", "--informat"] argv {}
  if !fmtIs p "--informat" "fasta" then none
  if (p.has "-m" && p.has "-M") || (p.has "--watson" && p.has "--crick") then none
  let code ← match p.val? "-c" with | some v => v.toInt? | none => some 1
  let minlen ← match p.val? "-l" with | some v => v.toInt? | none => some 20
  if minlen < 0 then none
  let [fn] := p.pos | none
  let recs := parseFasta (← files fn)
  if recs.isEmpty then none
  translateText { code := code, minlen := minlen, onlyAUG := p.has "-m", tableInit := p.has "-M",
                  watson := !p.has "--crick", crick := !p.has "--watson", windows := p.has "-W" } recs


def tabcOf (p : Parsed) : Option Ali.TAbc :=
  match p.has "--dna", p.has "--rna", p.has "--amino" with
  | true, false, false => some EaselModel.Msa.Gen.dnaAbc
  | false, true, false => some EaselModel.Msa.Gen.rnaAbc
  | false, false, true => some EaselModel.Msa.Gen.aminoAbc
  | false, false, false => some EaselModel.Msa.Gen.rnaAbc      -- "alphabet is only used to define gap characters"
  | _, _, _ => none

def b2c (b : List UInt8) : List Char := b.map fun x => Char.ofNat x.toNat

/-- esl-alimask  <msafile> <maskfile> | -t <msafile> <coords> | -g <msafile> | -p <msafile> | --rf-is-mask <msafile>, each also with --small (but not --small -p) -/
def runAlimaskFull (argv : List String) (files : String → Option (List Char)) : Option (String × List (String × List Char)) := do
  let p ← parseArgs ["-t", "-g", "-p", "--pallgapok", "--rf-is-mask", "--t-rf", "--t-rmins", "--keepins", "-q", "--dna", "--rna", "--amino", "--small"]
    ["--gapthresh", "--informat", "--outformat", "-o", "--fmask-rf", "--fmask-all", "--gmask-rf", "--gmask-all",
     "--pfract", "--pthresh", "--pavg", "--ppcons", "--pmask-rf", "--pmask-all"] argv {}
  let abc ← tabcOf p
  let infmt ← p.val? "--informat"
  let outfmt := (p.val? "--outformat").getD "stockholm"
  if !msaFormats.contains infmt || !msaFormats.contains outfmt then none
  if p.has "-q" && (p.val? "-o").isNone then none
  if (p.has "--t-rf" || p.has "--t-rmins") && !p.has "-t" then none
  if ((p.val? "--gapthresh").isSome || (p.val? "--gmask-rf").isSome || (p.val? "--gmask-all").isSome) && !p.has "-g" then none
  if p.has "-t" && (p.has "-g" || p.has "-p" || p.has "--rf-is-mask") then none
  if p.has "--rf-is-mask" && (p.has "-g" || p.has "-p" || p.has "--keepins") then none
  let pOpts := ["--pfract", "--pthresh", "--pavg", "--ppcons", "--pmask-rf", "--pmask-all"]
  if (pOpts.any (fun k => (p.val? k).isSome) || p.has "--pallgapok") && !p.has "-p" then none
  if (p.val? "--pavg").isSome && ((p.val? "--pfract").isSome || (p.val? "--pthresh").isSome) then none
  if (p.val? "--ppcons").isSome && (p.has "--keepins" || (p.val? "--pavg").isSome || (p.val? "--pfract").isSome || (p.val? "--pthresh").isSome) then none
  let unit (k : String) (dflt : Float) : Option Float := match p.val? k with
    | some v => (parseFloatS v).bind fun x => if x ≤ 1.0 then some x else none
    | none => some dflt
  let ppCfg : Option Ali.PPCfg ← if p.has "-p" then do
      let pavg ← match p.val? "--pavg" with | some _ => (unit "--pavg" 0.0).map some | none => some none
      let ppc ← match p.val? "--ppcons" with | some _ => (unit "--ppcons" 0.0).map some | none => some none
      pure (some { pthresh := ← unit "--pthresh" 0.95, pfract := ← unit "--pfract" 0.95, pavg := pavg, ppcons := ppc, allgapok := p.has "--pallgapok" : Ali.PPCfg })
    else pure none
  let src ← files (← p.pos.head?)
  let mode : Ali.MaskMode ← match p.pos with
    | [_] =>
      if p.has "-t" then none
      else if p.has "--rf-is-mask" then some .rfIsMask
      else if p.has "-p" && !p.has "-g" then some .postprob
      else if p.has "-g" then
        (match p.val? "--gapthresh" with
         | some v => (parseFloatS v).bind fun x => if x ≤ 1.0 then some (Ali.MaskMode.gapfreq x.toFloat32) else none
         | none => some (.gapfreq (0.5 : Float).toFloat32))
      else none
    | [_, a2] =>
      if p.has "-g" || p.has "-p" || p.has "--rf-is-mask" then none
      else if p.has "-t" then (Ali.parseCoords (c2b a2.toList)).map fun (st, en) => .truncate st en (p.has "--t-rf") (p.has "--t-rmins")
      else (Ali.readMaskFile (c2b (← files a2))).map .maskfile
    | _ => none
  let o : Ali.AlimaskOpts :=
    { mode := mode, abc := abc, keepins := p.has "--keepins", outfmt := outfmt, verbose := (p.val? "-o").isSome && !p.has "-q",
      ofile := p.val? "-o", fmaskRf := p.val? "--fmask-rf", fmaskAll := p.val? "--fmask-all",
      gmaskRf := p.val? "--gmask-rf", gmaskAll := p.val? "--gmask-all",
      pp := ppCfg, pmaskRf := p.val? "--pmask-rf", pmaskAll := p.val? "--pmask-all" }
  if p.has "--small" then
    -- `--small`: first pass = the mask (same computation on the same file), second pass = `esl_msafile2_RegurgitatePfam` of the FIRST
    -- record with that mask (input spacing kept, base pairs broken by the mask removed from SS_cons / SS when the alphabet is nucleic)
    if infmt != "pfam" || (p.val? "--outformat").isSome then none
    if !(p.has "--dna" || p.has "--rna" || p.has "--amino") then none
    -- `-p` in --small mode reads the PP counts of esl_msafile2_ReadInfoPfam (sequences without PP lines are tolerated there): not modelled
    if p.has "-p" then none
    if o.ofile.isSome || o.fmaskRf.isSome || o.fmaskAll.isSome || o.keepins then none
    if src.contains '\r' || src.getLast? != some '\n' then none
    let rd ← Ali.readerOf "pfam"
    let m ← match rd (EaselModel.Msafile.splitLines (c2b src)) with
      | (.ok m, _) => some m
      | _ => none
    let (useme, _, _, _, _, _) ← Ali.alimaskMask o m
    if !useme.any id then none
    match Small.regurgitate { useme := some useme, nucleic := abc.isNucleic } (some m.alen) (fileLines src) with
    | .ok (out, _, _, _) => return (String.ofList (unlines out), [])
    | .error _ => none
  let (out, written) ← Ali.alimask o infmt (c2b src)
  some (b2s out, written.map fun (f, b) => (f, b2c b))


def fabcOf (p : Parsed) : Option (EaselModel.Msafile.Abc × Ali.TAbc) :=
  match p.has "--dna", p.has "--rna", p.has "--amino" with
  | true, false, false => some (EaselModel.Msafile.abcDna, EaselModel.Msa.Gen.dnaAbc)
  | false, true, false => some (EaselModel.Msafile.abcRna, EaselModel.Msa.Gen.rnaAbc)
  | false, false, true => some (EaselModel.Msafile.abcAmino, EaselModel.Msa.Gen.aminoAbc)
  | _, _, _ => none

/-- esl-alimanip [--seq-k f [--k-reorder] | --seq-r f | --reorder f] [--lnfract x] [--lxfract x] [--lmin n] [--lmax n] [--rffract x]
    [--detrunc n] [--xambig n] [--rm-gc tag] [--num-rf] [--num-all] [--outformat fmt] --informat (stockholm|pfam) (--dna|--rna|--amino) <msafile> -/
def runAlimanip (argv : List String) (files : String → Option (List Char)) : Option String := do
  let p ← parseArgs ["--k-reorder", "--num-rf", "--num-all", "--dna", "--rna", "--amino", "--small"]
    ["--seq-k", "--seq-r", "--reorder", "--lnfract", "--lxfract", "--lmin", "--lmax", "--rffract", "--detrunc", "--xambig", "--rm-gc",
     "--informat", "--outformat"] argv {}
  let (fa, ta) ← fabcOf p
  if p.has "--small" then
    -- `--small --seq-k|--seq-r <list>`: every record regurgitated (`esl_msafile2_RegurgitatePfam`), sequence / #=GS / #=GR lines filtered by name
    if p.vals.any (fun kv => !["--seq-k", "--seq-r", "--informat", "--outformat"].contains kv.1) || p.has "--k-reorder" || p.has "--num-rf" || p.has "--num-all" then none
    if (p.val? "--informat").getD "pfam" != "pfam" || (p.val? "--outformat").getD "pfam" != "pfam" then none
    let [fn] := p.pos | none
    let src ← files fn
    if src.contains '\r' || src.getLast? != some '\n' then none
    let (keepMode, lf) ← match p.val? "--seq-k", p.val? "--seq-r" with
      | some f, none => some (true, f)
      | none, some f => some (false, f)
      | _, _ => none
    let names := (Ali.fileTokens (c2b (← files lf))).map b2c
    if names.eraseDups.length != names.length then none
    let ls := fileLines src
    return ← (Small.alimanipSmall keepMode names (ls.length + 2) ls).map fun out => String.ofList (unlines out)
  let infmt ← p.val? "--informat"
  let outfmt := (p.val? "--outformat").getD "stockholm"
  if !msaFormats.contains outfmt then none
  if (p.has "--num-rf" || p.has "--num-all" || (p.val? "--rm-gc").isSome) && outfmt != "stockholm" && outfmt != "pfam" then none
  if p.has "--k-reorder" && (p.val? "--seq-k").isNone then none
  let nlist := (if (p.val? "--seq-k").isSome then 1 else 0) + (if (p.val? "--seq-r").isSome then 1 else 0) + (if (p.val? "--reorder").isSome then 1 else 0)
  if nlist > 1 then none
  let listOf (k : String) : Option (Option (List (List UInt8))) := match p.val? k with
    | some f => (files f).map fun c => some (Ali.fileTokens (c2b c))
    | none => some none
  let real (k : String) (hi : Float) : Option (Option Float) := match p.val? k with
    | some v => (parseFloatS v).bind fun x => if x ≤ hi then some (some x) else none
    | none => some none
  let nat1 (k : String) (lo : Nat) : Option (Option Nat) := match p.val? k with
    | some v => v.toNat?.bind fun n => if n ≥ lo && n < 2 ^ 31 then some (some n) else none
    | none => some none
  let o : Ali.AlimanipOpts :=
    { seqK := ← listOf "--seq-k", seqR := ← listOf "--seq-r", reorder := ← listOf "--reorder", kReorder := p.has "--k-reorder",
      lnfract := ← real "--lnfract" 2.0, lxfract := ← real "--lxfract" 3.0, lmin := ← nat1 "--lmin" 1, lmax := ← nat1 "--lmax" 1,
      rffract := ← real "--rffract" 1.0, detrunc := ← nat1 "--detrunc" 1, xambig := ← nat1 "--xambig" 0,
      rmGc := p.val? "--rm-gc", numRf := p.has "--num-rf", numAll := p.has "--num-all", outfmt := outfmt }
  let [fn] := p.pos | none
  (Ali.alimanip o fa ta infmt (c2b (← files fn))).map b2s

/-- esl-afetch --informat (stockholm|pfam) [--outformat fmt] [-o f | -O] <msafile> <key>  |  -f <msafile> <keyfile>  |  --index <msafile>.
    An index is present when the file `<msafile>.ssi` is (the driver records it when it sees `--index`). -/
def runAfetchFull (argv : List String) (files : String → Option (List Char)) : Option (String × List (String × List Char)) := do
  let p ← parseArgs ["-f", "-O", "--index"] ["-o", "--informat", "--outformat"] argv {}
  let infmt ← p.val? "--informat"
  if infmt != "stockholm" && infmt != "pfam" then none
  let outfmt := (p.val? "--outformat").getD "stockholm"
  if !msaFormats.contains outfmt then none
  let fn ← p.pos.head?
  let src ← files fn
  if (files (fn ++ ".ssi.unknown")).isSome then none
  if p.has "--index" then
    if p.pos.length != 1 || p.has "-f" || p.has "-O" || (p.val? "-o").isSome || (p.val? "--outformat").isSome then none
    if (files (fn ++ ".ssi")).isSome then none
    let recs ← Ali.spansOf infmt (c2b src)
    if recs.isEmpty || !Ali.indexable recs then none
    some (Ali.indexReport fn recs, [(fn ++ ".ssi", [])])
  else
    let o : Ali.AfetchOpts := { infmt := infmt, outfmt := outfmt, hasSsi := (files (fn ++ ".ssi")).isSome }
    let [_, a2] := p.pos | none
    if p.has "-f" then
      if p.has "-O" then none
      let (out, nali) ← Ali.afetchMulti o (c2b src) (c2b (← files a2))
      match p.val? "-o" with
      | some f => some ("\nRetrieved " ++ toString nali ++ " alignments.\n", [(f, b2c out)])
      | none => some (b2s out, [])
    else
      let out ← Ali.afetchOne o (c2b src) (c2b a2.toList)
      let note := "\n\nRetrieved alignment " ++ a2 ++ ".\n"
      match p.val? "-o", p.has "-O" with
      | some f, false => some (note, [(f, b2c out)])
      | none, true => some (note, [(a2, b2c out)])
      | none, false => some (b2s out, [])
      | _, _ => none

/-- `esl-alistat --small [-1] --informat pfam (--dna|--rna|--amino) <file>`: the numbers of the non-small summary that do not need the
    sequences in memory (no Smallest / Largest / Average identity); `Total # residues` is the recomputed count (the tool sums
    per-column fractional counts and rounds to the nearest integer since edf1c28) -/
def runAlistatSmall (p : Parsed) (files : String → Option (List Char)) : Option (String × List (String × List Char)) := do
  if !fmtIs p "--informat" "pfam" then none
  -- `--small` accepts --list / --icinfo / --rinfo / --cinfo / --pcinfo (the table forbids --psinfo --iinfo --bpinfo --noambig --weight)
  if !p.vals.all (fun kv => ["--informat", "--list", "--icinfo", "--rinfo", "--cinfo", "--pcinfo"].contains kv.1) || p.has "--noambig" || p.has "--weight" then none
  let V ← match p.has "--dna", p.has "--rna", p.has "--amino" with
    | true, false, false => some Ali.viewsDna
    | false, true, false => some Ali.viewsRna
    | false, false, true => some Ali.viewsAmino
    | _, _, _ => none
  let [fn] := p.pos | none
  let src := c2b (← files fn)
  let ls := EaselModel.Msafile.splitLines src
  let recs ← Ali.readAllSpans (EaselModel.Msafile.stockholmRead (EaselModel.Msafile.stockholmCfg (some V.f))) (ls.length + 2) ls []
  if recs.isEmpty then none
  let vs ← (recs.mapIdx fun i r => Ali.viewOf V (i + 1) r.1 []).mapM id
  let one (v : Ali.AliView) : String :=
    let crow := v.rows.map fun r => r.map fun x => V.c.syms.getD x '-'
    let st := aliStats V.c crow
    let nm := v.name.map Ali.bytesStr
    if p.has "-1" then Small.smallOneLine v.nali nm "Pfam" st.nseq v.alen st.nres (avgLen st.nres st.nseq)
    else Small.renderSmall (Small.alistatLines v.nali nm "Pfam" st.nseq v.alen st.nres st.small st.large (avgLen st.nres st.nseq) (pct0 (avgId V.c crow 1000)))
  let summary := (if p.has "-1" then Small.smallOneLineHeader else "") ++ String.join (vs.map one)
  let outs := ["--list", "--icinfo", "--rinfo", "--cinfo", "--pcinfo"].filterMap p.val?
  if outs.isEmpty then return (summary, [])
  -- the info files: `esl_msafile2_ReadInfoPfam` collects the same per-column counts (`esl_abc_DCount`, sequence by sequence) and the same
  -- PP counts as `count_msa`, and the SAME dump functions print them: the files and the "saved to file" notes are those of the non-small
  -- reference on the same file (`Ali.alistatInfo`); only the summary in front of the notes is the --small one
  if outs.eraseDups.length != outs.length || outs.contains fn then none
  let o : Ali.AlistatOpts := { oneLine := p.has "-1", list := p.val? "--list", icinfo := p.val? "--icinfo", rinfo := p.val? "--rinfo",
                               cinfo := p.val? "--cinfo", pcinfo := p.val? "--pcinfo" }
  let (full, written) ← Ali.alistatInfo V o "pfam" fn src
  let (bare, _) ← Ali.alistatInfo V { oneLine := p.has "-1" } "pfam" fn src
  if !full.startsWith bare then none
  some (summary ++ (full.drop bare.length).toString, written.map fun (f, t) => (f, t.toList))

/-- esl-alistat [-1] [--list f] [--icinfo f] [--rinfo f] [--iinfo f] [--cinfo f [--noambig]] --informat (stockholm|pfam) (--dna|--rna|--amino) <msafile>:
    digital-mode Stockholm input, summary on stdout, the optional output files -/
def runAlistatFull (argv : List String) (files : String → Option (List Char)) : Option (String × List (String × List Char)) := do
  let p ← parseArgs ["--dna", "--rna", "--amino", "-1", "--noambig", "--weight", "--small"]
    ["--informat", "--list", "--icinfo", "--rinfo", "--iinfo", "--cinfo", "--pcinfo", "--psinfo", "--bpinfo"] argv {}
  let infmt ← p.val? "--informat"
  if p.has "--small" then return ← runAlistatSmall p files
  if infmt != "stockholm" && infmt != "pfam" then (runAlistat argv files).map fun o => (o, []) else
  let V ← match p.has "--dna", p.has "--rna", p.has "--amino" with
    | true, false, false => some Ali.viewsDna
    | false, true, false => some Ali.viewsRna
    | false, false, true => some Ali.viewsAmino
    | _, _, _ => none
  let [fn] := p.pos | none
  let outs := ["--list", "--icinfo", "--rinfo", "--iinfo", "--cinfo", "--pcinfo", "--psinfo", "--bpinfo"].filterMap p.val?
  if outs.eraseDups.length != outs.length || outs.contains fn then none      -- two streams on one file: not defined by the reference
  let o : Ali.AlistatOpts := { oneLine := p.has "-1", noAmbig := p.has "--noambig", weight := p.has "--weight", list := p.val? "--list", icinfo := p.val? "--icinfo",
                               rinfo := p.val? "--rinfo", iinfo := p.val? "--iinfo", cinfo := p.val? "--cinfo",
                               pcinfo := p.val? "--pcinfo", psinfo := p.val? "--psinfo", bpinfo := p.val? "--bpinfo" }
  let (out, written) ← Ali.alistatInfo V o infmt fn (c2b (← files fn))
  some (out, written.map fun (f, t) => (f, t.toList))

/-- esl-compstruct --quiet [-m] [-p] <trusted.sto> <test.sto>  (without --quiet the banner carries the version and date of the build) -/
def runCompstruct (argv : List String) (files : String → Option (List Char)) : Option String := do
  let p ← parseArgs ["-m", "-p", "--quiet"] [] argv {}
  if !p.has "--quiet" then none
  let [kf, tf] := p.pos | none
  Ali.compstruct (p.has "-m") (p.has "-p") (c2b (← files kf)) (c2b (← files tf))

/-- esl-compalign [-c] [-p] (--dna|--rna|--amino) <trusted.sto> <test.sto>   (not --p-mask, not --c2dfile) -/
def runCompalign (argv : List String) (files : String → Option (List Char)) : Option String := do
  let p ← parseArgs ["-c", "-p", "--dna", "--rna", "--amino"] [] argv {}
  let (_, fa, ta) ← abc3Of p
  let [kf, tf] := p.pos | none
  Ali.compalign fa ta (p.has "-c") (p.has "-p") (c2b (← files kf)) (c2b (← files tf))

/-- esl-alimerge [--outformat fmt] [--informat stockholm|pfam] (--dna|--rna|--amino) <file1> <file2>  |  --list <listfile>
    (in-memory mode; alignments with names, rows and #=GC RF only) -/
def runAlimerge (argv : List String) (files : String → Option (List Char)) : Option String := do
  let p ← parseArgs ["--dna", "--rna", "--amino", "--list", "--rfonly"] ["--outformat", "--informat"] argv {}
  let _ ← fabcOf p
  let outfmt := (p.val? "--outformat").getD "stockholm"
  if !msaFormats.contains outfmt then none
  match p.val? "--informat" with
  | some f => if f != "stockholm" && f != "pfam" then none
  | none => pure ()
  let fns : List String ← if p.has "--list" then
      (match p.pos with
       | [lf] => (files lf).map fun c => (Ali.fileTokens (c2b c)).map b2s
       | _ => none)
    else (match p.pos with
       | [a, b] => some [a, b]
       | _ => none)
  if fns.isEmpty then none
  let srcs ← fns.mapM fun f => (files f).map c2b
  (Ali.alimerge outfmt srcs (p.has "--rfonly")).map b2s

def runSfetch (argv : List String) (files : String → Option (List Char)) : Option String :=
  (runSfetchFull argv files).map (·.1)

def runToolCore (tool : String) (argv : List String) (files : String → Option (List Char)) : Option String :=
  match tool with
  | "esl-seqstat" => runSeqstat argv files
  | "esl-alirev" => runAlirev argv files
  | "esl-alipid" => runAlipid argv files
  | "esl-seqrange" => runSeqrange argv files
  | "esl-selectn" => runSelectn argv files
  | "esl-mask" => runMask argv files
  | "esl-reformat" => runReformat argv files
  | "esl-shuffle" => if argv.contains "-A" then runShuffleA argv files else runShuffle argv files
  | "esl-sfetch" => runSfetch argv files
  | "esl-translate" => runTranslate argv files
  | "esl-alistat" => runAlistat argv files
  | "esl-weight" => runWeight argv files
  | "esl-alimanip" => runAlimanip argv files
  | "esl-compstruct" => runCompstruct argv files
  | "esl-compalign" => runCompalign argv files
  | "esl-alimerge" => runAlimerge argv files
  | "easel" => runEasel argv files
  | _ => none

/-- `-o <f>` of the tools that then print nothing on stdout -/
def splitO : List String → List String → Option (String × List String)
  | "-o" :: f :: rest, acc => some (f, acc.reverse ++ rest)
  | a :: rest, acc => splitO rest (a :: acc)
  | [], _ => none

/-- predicted stdout and the files the invocation writes -/
def runToolFull (tool : String) (argv : List String) (files : String → Option (List Char)) :
    Option (String × List (String × List Char)) :=
  if tool == "esl-sfetch" then runSfetchFull argv files
  else if tool == "esl-alimask" then runAlimaskFull argv files
  else if tool == "esl-afetch" then runAfetchFull argv files
  else if tool == "esl-alistat" then runAlistatFull argv files
  else if tool == "esl-alimerge" then
    match splitO argv [] with
    | some (f, rest) => (runToolCore tool rest files).map fun out => ("# Saving alignment to file " ++ f ++ " ... done\n#\n", [(f, out.toList)])
    | none => (runToolCore tool argv files).map fun out => (out, [])
  else if ["esl-shuffle", "esl-reformat", "esl-mask", "esl-weight", "esl-alimanip"].contains tool then
    match splitO argv [] with
    | some (f, rest) => (runToolCore tool rest files).map fun out => ("", [(f, out.toList)])
    | none => (runToolCore tool argv files).map fun out => (out, [])
  else (runToolCore tool argv files).map fun out => (out, [])

def runTool (tool : String) (argv : List String) (files : String → Option (List Char)) : Option String :=
  (runToolFull tool argv files).map (·.1)

end EaselModel.Miniapps
