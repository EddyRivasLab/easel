import EaselModel.Miniapps.Seqstat
/-! # C13 — reverse complement (esl-alirev, esl-sfetch -r / reversed coordinates) and sub-sequence fetching -/
namespace EaselModel.Miniapps

/-- `abc->complement` of the digital DNA/RNA alphabets (`set_complementarity` in esl_alphabet.c), on output symbols -/
def Abc.comp (a : Abc) (c : Char) : Char :=
  let t := if a = .rna then 'U' else 'T'
  match c with
  | 'A' => t | 'C' => 'G' | 'G' => 'C' | 'T' => 'A' | 'U' => 'A'
  | 'R' => 'Y' | 'Y' => 'R' | 'M' => 'K' | 'K' => 'M' | 'S' => 'S' | 'W' => 'W'
  | 'H' => 'D' | 'B' => 'V' | 'V' => 'B' | 'D' => 'H' | 'N' => 'N'
  | c => c

/-- digital-mode reverse complement of a row already mapped to alphabet symbols (`esl_abc_revcomp`) -/
def revcompSyms (a : Abc) (s : List Char) : List Char := (s.map a.comp).reverse

/-- digitize a text row (case folding, synonyms) and print it back (`esl_abc_Textize`) -/
def Abc.normalize (a : Abc) (s : List Char) : List Char := s.map a.canon

/-- text-mode complement of `esl_sq_ReverseComplement` (case preserving; U→A; anything unknown → N) -/
def compText (c : Char) : Char :=
  match c with
  | 'A' => 'T' | 'C' => 'G' | 'G' => 'C' | 'T' => 'A' | 'U' => 'A'
  | 'R' => 'Y' | 'Y' => 'R' | 'M' => 'K' | 'K' => 'M' | 'S' => 'S' | 'W' => 'W'
  | 'H' => 'D' | 'B' => 'V' | 'V' => 'B' | 'D' => 'H' | 'N' => 'N' | 'X' => 'X'
  | 'a' => 't' | 'c' => 'g' | 'g' => 'c' | 't' => 'a' | 'u' => 'a'
  | 'r' => 'y' | 'y' => 'r' | 'm' => 'k' | 'k' => 'm' | 's' => 's' | 'w' => 'w'
  | 'h' => 'd' | 'b' => 'v' | 'v' => 'b' | 'd' => 'h' | 'n' => 'n' | 'x' => 'x'
  | '.' => '.' | '_' => '_' | '-' => '-' | '~' => '~' | '*' => '*'
  | _ => 'N'

def revcompText (s : List Char) : List Char := (s.map compText).reverse

/-- symbols on which the text-mode complement is an involution (everything it knows except U/u) -/
def dnaTextSyms : List Char := "ACGTRYMKSWHBVDNXacgtrymkswhbvdnx._-~*".toList

-- the tables are swept on the character lists of their literals, not through `String.toList`, which is slow in the kernel
theorem compText_invol : ∀ c ∈ dnaTextSyms, compText (compText c) = c := by
  unfold dnaTextSyms; rw [String.toList_ofList]; decide +kernel

theorem comp_invol_dna : ∀ c ∈ Abc.dna.syms, Abc.dna.comp (Abc.dna.comp c) = c := by
  unfold Abc.syms; simp only []; rw [String.toList_ofList]; decide +kernel
theorem comp_invol_rna : ∀ c ∈ Abc.rna.syms, Abc.rna.comp (Abc.rna.comp c) = c := by
  unfold Abc.syms; simp only []; rw [String.toList_ofList]; decide +kernel

theorem revmap_invol {f : Char → Char} {S : List Char} (hf : ∀ c ∈ S, f (f c) = c) (s : List Char) (h : ∀ c ∈ s, c ∈ S) :
    (((s.map f).reverse).map f).reverse = s := by
  rw [List.map_reverse, List.reverse_reverse, List.map_map]
  exact (List.map_congr_left fun c hc => hf c (h c hc)).trans (List.map_id s)

theorem revcompText_revcompText (s : List Char) (h : ∀ c ∈ s, c ∈ dnaTextSyms) :
    revcompText (revcompText s) = s := revmap_invol compText_invol s h

theorem revcompSyms_revcompSyms_dna (s : List Char) (h : ∀ c ∈ s, c ∈ Abc.dna.syms) :
    revcompSyms .dna (revcompSyms .dna s) = s := revmap_invol comp_invol_dna s h

theorem revcompSyms_revcompSyms_rna (s : List Char) (h : ∀ c ∈ s, c ∈ Abc.rna.syms) :
    revcompSyms .rna (revcompSyms .rna s) = s := revmap_invol comp_invol_rna s h

theorem revcompSyms_length (a : Abc) (s : List Char) : (revcompSyms a s).length = s.length := by
  simp [revcompSyms]

theorem revcompSyms_get (a : Abc) (s : List Char) (i : Nat) (h : i < s.length) :
    (revcompSyms a s)[i]'(by simp [revcompSyms, h]) = a.comp (s[s.length - 1 - i]'(by omega)) := by
  simp [revcompSyms, List.getElem_reverse]

/-! ## esl-alirev on aligned FASTA -/

def alirevText (a : Abc) (recs : List Rec) : String :=
  String.ofList (renderFasta 60 (recs.map fun r => { r with seq := revcompSyms a (a.normalize r.seq) }))

/-! ## sub-sequences (esl-sfetch -c) -/

/-- residues `from..to` (1-based, inclusive) -/
def subseq (s : List Char) (from' to' : Nat) : List Char := (s.drop (from' - 1)).take (to' + 1 - from')

theorem subseq_length (s : List Char) (f t : Nat) (hf : 1 ≤ f) (hft : f ≤ t) (ht : t ≤ s.length) :
    (subseq s f t).length = t + 1 - f := by
  simp [subseq]; omega

theorem subseq_get (s : List Char) (f t i : Nat) (hf : 1 ≤ f) (hft : f ≤ t) (ht : t ≤ s.length) (hi : i < t + 1 - f) :
    (subseq s f t)[i]'(by rw [subseq_length s f t hf hft ht]; exact hi) = s[f - 1 + i]'(by omega) := by
  simp [subseq]

end EaselModel.Miniapps
