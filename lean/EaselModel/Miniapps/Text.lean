/-! # C13 — text helpers shared by the miniapp reference functions (core Lean only, executable)

Files are `List Char` (the driver maps bytes 0..255 to the code points 0..255 and back); a *file* is cut into lines at
`'\n'`; printf-style fixed-point formatting is done by exact rational rounding (round-half-even on the exact value,
which is what glibc's `printf` does in the default rounding mode). -/
namespace EaselModel.Miniapps

abbrev Line := List Char

/-- split at every `'\n'`; the piece after the last newline is kept (possibly empty) -/
def splitLines : List Char → List Line
  | [] => [[]]
  | c :: cs =>
    match splitLines cs with
    | [] => [[c]]           -- unreachable: splitLines is never empty
    | l :: ls => if c = '\n' then [] :: l :: ls else (c :: l) :: ls

/-- lines of a file: a trailing newline does not start an extra empty line -/
def fileLines (f : List Char) : List Line :=
  let ls := splitLines f
  match ls.getLast? with
  | some [] => ls.dropLast
  | _ => ls

/-- every line followed by a newline -/
def unlines (ls : List Line) : List Char := ls.flatMap (fun l => l ++ ['\n'])

theorem splitLines_ne_nil (f : List Char) : splitLines f ≠ [] := by
  cases f with
  | nil => simp [splitLines]
  | cons c cs =>
    simp only [splitLines]
    split
    · simp
    · split <;> simp

theorem splitLines_line_append (l : Line) (h : '\n' ∉ l) (rest : List Char) :
    splitLines (l ++ '\n' :: rest) = l :: splitLines rest := by
  induction l with
  | nil =>
    simp only [List.nil_append, splitLines]
    cases hs : splitLines rest with
    | nil => exact absurd hs (splitLines_ne_nil rest)
    | cons a as => simp
  | cons c cs ih =>
    have hc : c ≠ '\n' := by intro e; apply h; simp [e]
    have hcs : '\n' ∉ cs := by intro e; apply h; simp [e]
    simp only [List.cons_append, splitLines, ih hcs, hc, ↓reduceIte]

theorem fileLines_unlines (ls : List Line) (h : ∀ l ∈ ls, '\n' ∉ l) : fileLines (unlines ls) = ls := by
  have key : splitLines (unlines ls) = ls ++ [[]] := by
    induction ls with
    | nil => simp [unlines, splitLines]
    | cons l ls ih =>
      have hl : '\n' ∉ l := h l (by simp)
      have : unlines (l :: ls) = l ++ '\n' :: unlines ls := by simp [unlines]
      rw [this, splitLines_line_append l hl, ih (fun x hx => h x (by simp [hx]))]
      simp
  simp [fileLines, key]

def isBlank (c : Char) : Bool := c = ' ' || c = '\t' || c = '\r' || c = '\n' || c = '\x0b' || c = '\x0c'

def isAlphaC (c : Char) : Bool := c.isAlpha

def padLeft (w : Nat) (s : String) : String := String.ofList (List.replicate (w - s.length) ' ') ++ s
def padRight (w : Nat) (s : String) : String := s ++ String.ofList (List.replicate (w - s.length) ' ')

/-- `N = round_half_even (num/den * 10^digits)` printed as `%.<digits>f` (num/den ≥ 0, den > 0) -/
def fmtRat (num den digits : Nat) : String :=
  let q := num * 10 ^ digits
  let n := q / den
  let r := q % den
  let n := if 2 * r > den then n + 1 else if 2 * r = den then n + n % 2 else n
  let ip := n / 10 ^ digits
  let fp := n % 10 ^ digits
  if digits = 0 then toString ip
  else
    let fs := toString fp
    toString ip ++ "." ++ String.ofList (List.replicate (digits - fs.length) '0') ++ fs

/-- exact value of a finite non-negative binary64 as `num / 2^k` -/
def floatRat (x : Float) : Nat × Nat :=
  let b := x.toBits.toNat
  let e := (b / 2 ^ 52) % 2048
  let m := b % 2 ^ 52
  if e = 0 then (m, 2 ^ 1074)
  else
    let m := m + 2 ^ 52
    if e ≥ 1075 then (m * 2 ^ (e - 1075), 1) else (m, 2 ^ (1075 - e))

/-- `printf("%.<digits>f", x)` for finite `x ≥ 0` -/
def fmtFloat (x : Float) (digits : Nat) : String :=
  let (n, d) := floatRat x
  fmtRat n d digits

/-- `printf("%<width>.<digits>f", x)` for any finite or infinite `x` (sign from the sign bit, `inf` for infinities) -/
def fmtFloatSigned (x : Float) (digits : Nat) : String :=
  let neg := x.toBits >>> 63 == 1
  let ax := Float.ofBits (x.toBits &&& (0x7fffffffffffffff : UInt64))
  let body := if ax.isInf then "inf" else if ax.isNaN then "nan" else fmtFloat ax digits
  (if neg then "-" else "") ++ body

def chunks (w : Nat) (s : List Char) : List Line :=
  if h : w = 0 ∨ s = [] then [] else
    s.take w :: chunks w (s.drop w)
termination_by s.length
decreasing_by
  have hs : s ≠ [] := by intro e; exact h (Or.inr e)
  have : 0 < s.length := List.length_pos_iff.mpr hs
  simp only [List.length_drop]; omega

theorem chunks_flatten (w : Nat) (hw : 0 < w) (s : List Char) : (chunks w s).flatten = s := by
  induction s using chunks.induct w with
  | case1 s h =>
    rw [chunks]; simp only [h, ↓reduceDIte]
    cases h with
    | inl h => omega
    | inr h => simp [h]
  | case2 s h ih =>
    rw [chunks]; simp only [h, ↓reduceDIte, List.flatten_cons, ih, List.take_append_drop]

theorem chunks_mem_sub (w : Nat) (s : List Char) : ∀ l ∈ chunks w s, ∀ c ∈ l, c ∈ s := by
  intro l hl c hc
  by_cases hw : w = 0
  · rw [chunks] at hl; simp [hw] at hl
  · rw [← chunks_flatten w (Nat.pos_of_ne_zero hw) s]; exact List.mem_flatten.mpr ⟨l, hl, hc⟩

theorem chunks_ne_nil (w : Nat) (s : List Char) : ∀ l ∈ chunks w s, l ≠ [] := by
  induction s using chunks.induct w with
  | case1 s h => rw [chunks]; simp [h]
  | case2 s h ih =>
    rw [chunks]; simp only [h, ↓reduceDIte, List.mem_cons]
    intro l hl
    cases hl with
    | inl e =>
      subst e
      have hw : w ≠ 0 := fun e => h (Or.inl e)
      have hs : s ≠ [] := fun e => h (Or.inr e)
      cases s with
      | nil => exact absurd rfl hs
      | cons a t =>
        cases w with
        | zero => exact absurd rfl hw
        | succ w => simp
    | inr hl => exact ih l hl

end EaselModel.Miniapps
