import EaselModel.Miniapps.Revcomp
/-! # C13 — esl-seqrange (range arithmetic), esl-mask (coordinate masking), esl-alipid (pairwise identity) -/
namespace EaselModel.Miniapps

/-! ## esl-seqrange: `range_by_seqnum` -/

/-- `nseq_used` after `p` iterations of the loop `for p: nseq_used += nseq_per_proc; if (p < remainder) nseq_used++` -/
def usedAfter (per rem : Nat) : Nat → Nat
  | 0 => 0
  | p + 1 => usedAfter per rem p + per + (if p < rem then 1 else 0)

/-- the printed range `start-end` (1-based sequence indices) of processor `procidx ∈ 1..nproc` -/
def seqrange (n nproc procidx : Nat) : Nat × Nat :=
  let per := n / nproc
  let rem := n - per * nproc
  (usedAfter per rem (procidx - 1) + 1, usedAfter per rem procidx)

def seqrangeText (n nproc procidx : Nat) : String :=
  let r := seqrange n nproc procidx
  toString r.1 ++ "-" ++ toString r.2 ++ "\n"

theorem usedAfter_closed (per rem p : Nat) : usedAfter per rem p = p * per + min p rem := by
  induction p with
  | zero => simp [usedAfter]
  | succ p ih =>
    simp only [usedAfter, ih]
    have : (p + 1) * per = p * per + per := Nat.succ_mul p per
    split <;> omega

/-! ## esl-mask -/

structure MaskOpts where
  rev : Bool := false      -- -r
  lower : Bool := false    -- -l
  mchar : Char := 'X'      -- -m <c>
  x : Int := 0             -- -x <n>

def maskFn (o : MaskOpts) (c : Char) : Char :=
  if c.isAlpha then (if o.lower then c.toLower else o.mchar) else c

def maskBetween (o : MaskOpts) (i j : Int) (s : List Char) : List Char :=
  s.mapIdx fun k c => if i ≤ (k : Int) ∧ (k : Int) ≤ j then maskFn o c else c

/-- `start`, `stop` are the 0-based coordinates the tool computes (`strtoll(field) - 1`) -/
def maskSeq (o : MaskOpts) (start stop : Int) (s0 : List Char) : List Char :=
  let s := if o.lower then s0.map (fun c => if c.isAlpha then c.toUpper else c) else s0
  let n : Int := s.length
  if o.rev then
    maskBetween o (max 0 (stop + 1 - o.x)) (n - 1) (maskBetween o 0 (min (n - 1) (start - 1 + o.x)) s)
  else
    maskBetween o (max 0 (start - o.x)) (min (n - 1) (stop + o.x)) s

theorem maskBetween_length (o : MaskOpts) (i j : Int) (s : List Char) : (maskBetween o i j s).length = s.length := by
  simp [maskBetween]

theorem maskBetween_get (o : MaskOpts) (i j : Int) (s : List Char) (k : Nat) (h : k < s.length) :
    (maskBetween o i j s)[k]'(by simp [maskBetween, h]) =
      if i ≤ (k : Int) ∧ (k : Int) ≤ j then maskFn o s[k] else s[k] := by
  simp [maskBetween]

theorem maskSeq_length (o : MaskOpts) (a b : Int) (s : List Char) : (maskSeq o a b s).length = s.length := by
  unfold maskSeq
  split <;> split <;> simp [maskBetween_length]

/-! ## esl-alipid: `esl_dst_XPairId`, `esl_dst_XPairMatch` on rows of equal length -/

def Abc.isRes (a : Abc) (c : Char) : Bool :=
  match a.digit c with
  | some x => a.isResidueIdx x
  | none => false

structure PairId where
  nid : Nat
  len1 : Nat
  len2 : Nat
  nmatch : Nat
  mlen : Nat
deriving DecidableEq, Repr

def pairCol (a : Abc) (acc : PairId) (p : Char × Char) : PairId :=
  let r1 := a.isRes p.1
  let r2 := a.isRes p.2
  { nid := acc.nid + (if r1 && r2 && a.canon p.1 == a.canon p.2 then 1 else 0)
    len1 := acc.len1 + (if r1 then 1 else 0)
    len2 := acc.len2 + (if r2 then 1 else 0)
    nmatch := acc.nmatch + (if r1 && r2 then 1 else 0)
    mlen := acc.mlen + (if r1 || r2 then 1 else 0) }

def pairStats (a : Abc) (x y : List Char) : PairId := (x.zip y).foldl (pairCol a) ⟨0, 0, 0, 0, 0⟩

def PairId.n (p : PairId) : Nat := min p.len1 p.len2

def pctText (num den : Nat) : String :=
  let v : Float := if den = 0 then 0.0 * 100.0 else Float.ofNat num / Float.ofNat den * 100.0
  padLeft 6 (fmtFloat v 2)

def alipidText (a : Abc) (header : Bool) (rows : List Rec) : String :=
  let w := rows.foldl (fun m r => max m r.name.length) 0
  let idx := List.range rows.length
  let body := idx.flatMap fun i => (idx.filter (fun j => i < j)).map fun j =>
    let ri := rows.getD i default
    let rj := rows.getD j default
    let p := pairStats a ri.seq rj.seq
    padRight w (String.ofList ri.name) ++ " " ++ padRight w (String.ofList rj.name) ++ " " ++
      pctText p.nid p.n ++ " " ++ padLeft 6 (toString p.nid) ++ " " ++ padLeft 6 (toString p.n) ++ " " ++
      pctText p.nmatch p.mlen ++ " " ++ padLeft 6 (toString p.nmatch) ++ " " ++ padLeft 6 (toString p.mlen) ++ "\n"
  (if header then "# seqname1 seqname2 %id nid denomid %match nmatch denommatch\n" else "") ++ String.join body

theorem pairFold_inv (a : Abc) (cols : List (Char × Char)) (acc : PairId)
    (h : acc.nid ≤ acc.nmatch ∧ acc.nmatch ≤ acc.len1 ∧ acc.nmatch ≤ acc.len2 ∧ acc.len1 ≤ acc.mlen ∧ acc.len2 ≤ acc.mlen) :
    let r := cols.foldl (pairCol a) acc
    r.nid ≤ r.nmatch ∧ r.nmatch ≤ r.len1 ∧ r.nmatch ≤ r.len2 ∧ r.len1 ≤ r.mlen ∧ r.len2 ≤ r.mlen := by
  induction cols generalizing acc with
  | nil => simpa using h
  | cons p t ih =>
    simp only [List.foldl]
    apply ih
    simp only [pairCol]
    cases a.isRes p.1 <;> cases a.isRes p.2 <;> simp <;> (try split) <;> omega

def PairId.swap (p : PairId) : PairId := { p with len1 := p.len2, len2 := p.len1 }

theorem pairFold_swap (a : Abc) (x y : List Char) (acc : PairId) :
    (y.zip x).foldl (pairCol a) acc.swap = ((x.zip y).foldl (pairCol a) acc).swap := by
  induction x generalizing y acc with
  | nil => rw [List.zip_nil_right, List.zip_nil_left]; rfl
  | cons c t ih =>
    cases y with
    | nil => rw [List.zip_nil_right, List.zip_nil_left]; rfl
    | cons d u =>
      simp only [List.zip_cons_cons, List.foldl]
      rw [← ih]
      congr 1
      simp only [pairCol, PairId.swap, Bool.and_comm (a.isRes d), Bool.or_comm (a.isRes d), BEq.comm (a := a.canon d)]

end EaselModel.Miniapps
