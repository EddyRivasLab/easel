import EaselModel.Miniapps.Text
import EaselModel.Random.Model
/-! # C13 — esl-selectn: reservoir sampling of `m` lines, driven by the C09 generator model -/
namespace EaselModel.Miniapps
open EaselModel.Random

/-- The main loop of `miniapps/esl-selectn.c`, over an arbitrary roll function `roll s n ∈ 0..n-1` with state `σ`:
    line number `n` (1-based) is stored in slot `n-1` while `n ≤ m`, afterwards it replaces slot `r = roll n` when `r < m`. -/
def reservoir {α σ : Type} (roll : σ → Nat → Nat × σ) (m : Nat) : List α → Nat → σ → List α → List α × σ
  | [], _, s, res => (res, s)
  | x :: xs, n, s, res =>
    if n + 1 ≤ m then reservoir roll m xs (n + 1) s (res ++ [x])
    else
      let rs := roll s (n + 1)
      if rs.1 < m then reservoir roll m xs (n + 1) rs.2 (res.set rs.1 x)
      else reservoir roll m xs (n + 1) rs.2 res

def selectn {α σ : Type} (roll : σ → Nat → Nat × σ) (m : Nat) (lines : List α) (s : σ) : List α :=
  (reservoir roll m lines 0 s []).1

/-- lines with their terminators, as `esl_fgets` returns them -/
def linesKeepNl : List Char → List (List Char)
  | [] => []
  | c :: cs =>
    if c = '\n' then [c] :: linesKeepNl cs
    else match linesKeepNl cs with
      | [] => [[c]]
      | l :: ls => (c :: l) :: ls

/-- `esl_rnd_Roll` of the C09 model with a large fuel for the rejection loop -/
def rollRng (r : Rng) (n : Nat) : Nat × Rng :=
  match r.roll n 1000000 with
  | some x => x
  | none => (0, r)

def selectnText (seed : Nat) (m : Nat) (file : List Char) : Option String :=
  let ls := linesKeepNl file
  if ls.length < m then none
  else some (String.ofList (selectn rollRng m ls (Rng.create .mersenne (UInt32.ofNat seed))).flatten)

theorem eraseIdx_perm_erase {α : Type} [DecidableEq α] (l : List α) (i : Nat) (h : i < l.length) :
    (l.eraseIdx i).Perm (l.erase l[i]) := by
  induction l generalizing i with
  | nil => simp at h
  | cons a t ih =>
    cases i with
    | zero => simp
    | succ j =>
      have hj : j < t.length := by simpa using h
      simp only [List.eraseIdx_cons_succ, List.getElem_cons_succ]
      rw [List.erase_cons]
      by_cases e : a = t[j]
      · have hb : (a == t[j]) = true := by simp [e]
        simp only [hb, ↓reduceIte]
        refine ((ih j hj).cons a).trans ?_
        rw [e]
        exact (List.perm_cons_erase (List.getElem_mem hj)).symm
      · have hb : (a == t[j]) = false := by simp [e]
        simp only [hb, Bool.false_eq_true, ↓reduceIte]
        exact (ih j hj).cons a

theorem set_perm_cons_eraseIdx {α : Type} (l : List α) (i : Nat) (x : α) (h : i < l.length) :
    (l.set i x).Perm (x :: l.eraseIdx i) := by
  induction l generalizing i with
  | nil => simp at h
  | cons a t ih =>
    cases i with
    | zero => simp
    | succ j =>
      have hj : j < t.length := by simpa using h
      simp only [List.set_cons_succ, List.eraseIdx_cons_succ]
      exact ((ih j hj).cons a).trans (List.Perm.swap x a _)

theorem reservoir_inv {α σ : Type} [DecidableEq α] (roll : σ → Nat → Nat × σ) (m : Nat) (xs : List α) :
    ∀ (n : Nat) (s : σ) (res pre : List α), (∃ l, l.Sublist pre ∧ res.Perm l) →
      ∃ l, l.Sublist (pre ++ xs) ∧ (reservoir roll m xs n s res).1.Perm l := by
  induction xs with
  | nil => intro n s res pre h; simpa [reservoir] using h
  | cons x xs ih =>
    intro n s res pre ⟨l, hl, hp⟩
    have happ : pre ++ x :: xs = (pre ++ [x]) ++ xs := by simp
    rw [happ]
    unfold reservoir
    split
    · exact ih _ _ _ _ ⟨l ++ [x], List.Sublist.append hl (List.Sublist.refl _), hp.append_right [x]⟩
    · simp only []
      split
      · rename_i hr
        by_cases hlen : (roll s (n + 1)).1 < res.length
        · refine ih _ _ _ _ ⟨l.erase (res[(roll s (n + 1)).1]) ++ [x], ?_, ?_⟩
          · exact List.Sublist.append ((List.erase_sublist).trans hl) (List.Sublist.refl _)
          · refine (set_perm_cons_eraseIdx res _ x hlen).trans ?_
            refine (List.Perm.cons x ((eraseIdx_perm_erase res _ hlen).trans (hp.erase _))).trans ?_
            exact (List.perm_append_singleton x _).symm
        · have : res.set (roll s (n + 1)).1 x = res := List.set_eq_of_length_le (by omega)
          rw [this]
          exact ih _ _ _ _ ⟨l, hl.trans (List.sublist_append_left pre [x]), hp⟩
      · exact ih _ _ _ _ ⟨l, hl.trans (List.sublist_append_left pre [x]), hp⟩

theorem reservoir_length {α σ : Type} (roll : σ → Nat → Nat × σ) (m : Nat) (xs : List α) :
    ∀ (n : Nat) (s : σ) (res : List α), res.length = min n m →
      (reservoir roll m xs n s res).1.length = min (n + xs.length) m := by
  induction xs with
  | nil => intro n s res h; simpa [reservoir] using h
  | cons x xs ih =>
    intro n s res h
    unfold reservoir
    have e : n + (x :: xs).length = (n + 1) + xs.length := by simp; omega
    rw [e]
    split
    · apply ih; simp [h]; omega
    · simp only []
      split
      · apply ih; simp [h]; omega
      · apply ih; omega

end EaselModel.Miniapps
