import EaselModel.Miniapps.Fasta
/-! # C13 — reference function for `esl-seqstat` (and the alphabets used by the sequence tools)

`stats` mirrors the accumulation loop of `miniapps/esl-seqstat.c` (`nseq`, `nres`, `small`, `large`), the theorems in
`Props/C13.lean` relate it to the textbook definitions (length, sum, minimum, maximum) and show additivity over
concatenation of inputs. `seqstatText` renders the tool's stdout exactly. -/
namespace EaselModel.Miniapps

inductive Abc | dna | rna | amino
deriving DecidableEq, Repr

def Abc.syms : Abc → List Char
  | .dna => "ACGT-RYMKSWHBVDN*~".toList
  | .rna => "ACGU-RYMKSWHBVDN*~".toList
  | .amino => "ACDEFGHIKLMNPQRSTVWY-BJZOUX*~".toList

def Abc.K : Abc → Nat
  | .dna => 4 | .rna => 4 | .amino => 20

def Abc.typeName : Abc → String
  | .dna => "DNA" | .rna => "RNA" | .amino => "amino"

/-- input map of `esl_alphabet_Create` (case-insensitive, with the equivalences the library declares) -/
def Abc.canon (a : Abc) (c : Char) : Char :=
  let u := c.toUpper
  if u = '_' || u = '.' then '-'
  else match a with
    | .dna => if u = 'U' then 'T' else if u = 'X' then 'N' else if u = 'I' then 'A' else u
    | .rna => if u = 'T' then 'U' else if u = 'X' then 'N' else if u = 'I' then 'A' else u
    | .amino => u

def Abc.digit (a : Abc) (c : Char) : Option Nat :=
  let s := a.canon c
  let i := a.syms.idxOf s
  if i < a.syms.length then some i else none

/-- residue = canonical or degenerate symbol (`esl_abc_XIsResidue`): x < K or K < x < Kp-2 -/
def Abc.isResidueIdx (a : Abc) (x : Nat) : Bool := x < a.K || (a.K < x && x < a.syms.length - 2)

structure Stats where
  nseq : Nat := 0
  nres : Nat := 0
  small : Nat := 0
  large : Nat := 0
deriving DecidableEq, Repr

/-- one pass of the `wstatus == eslEOD` branch of esl-seqstat's main loop -/
def statsStep (st : Stats) (L : Nat) : Stats :=
  { nseq := st.nseq + 1
    nres := st.nres + L
    small := if st.nseq = 0 then L else min st.small L
    large := if st.nseq = 0 then L else max st.large L }

def stats (lens : List Nat) : Stats := lens.foldl statsStep {}

/-- residue counts per digital symbol, `monoc[sq->dsq[i]]++` -/
def compCount (a : Abc) (seq : List Char) : List Nat :=
  (List.range a.syms.length).map fun x => (seq.filter fun c => a.digit c = some x).length

def addCounts (x y : List Nat) : List Nat := List.zipWith (· + ·) x y

def totalComp (a : Abc) (seqs : List (List Char)) : List Nat :=
  seqs.foldl (fun acc s => addCounts acc (compCount a s)) (List.replicate a.syms.length 0)

structure SeqstatOpts where
  perSeq : Bool := false     -- -a
  comp : Bool := false       -- -c
  comptbl : Bool := false    -- --comptbl

def natS (n : Nat) : String := toString n

def avgText (nres nseq : Nat) : String :=
  fmtFloat (Float32.ofNat nres / Float32.ofNat nseq).toFloat 1

def fracText (cnt nres : Nat) : String :=
  fmtFloat (Float.ofNat cnt / Float.ofNat nres) 4

/-- `esl_composition_SW50()`: Swiss-Prot 50.8 amino acid frequencies (the background of the log-odds column of `-c`) -/
def sw50 : List Float :=
  [0.0787945, 0.0151600, 0.0535222, 0.0668298, 0.0397062, 0.0695071, 0.0229198, 0.0590092, 0.0594422, 0.0963728,
   0.0237718, 0.0414386, 0.0482904, 0.0395639, 0.0540978, 0.0683364, 0.0540687, 0.0673417, 0.0114135, 0.0304133]

/-- `log((count/nres)/bg) * eslCONST_LOG2R` printed with `%8.4f` -/
def logOddsText (cnt nres : Nat) (bg : Float) : String :=
  padLeft 8 (fmtFloatSigned (Float.log ((Float.ofNat cnt / Float.ofNat nres) / bg) * 1.44269504088896341) 4)

def seqstatText (o : SeqstatOpts) (a : Abc) (fmtName : String) (recs : List Rec) : String :=
  let st := stats (recs.map (·.seq.length))
  let K := a.K
  let syms := a.syms
  if o.comptbl then
    let hdr1 := "#" ++ padRight 29 " Sequence name" ++ " " ++ padLeft 6 "Length" ++
      String.join ((syms.take K).map fun c => "      " ++ String.singleton c) ++ "\n"
    let hdr2 := "#" ++ padRight 29 "-----------------------------" ++ " " ++ padLeft 6 "------" ++
      String.join ((List.range K).map fun _ => " ------") ++ "\n"
    let rows := recs.map fun r =>
      padRight 30 (String.ofList r.name) ++ " " ++ padLeft 6 (natS r.seq.length) ++
        String.join (((compCount a r.seq).take K).map fun n => " " ++ padLeft 6 (natS n)) ++ "\n"
    hdr1 ++ hdr2 ++ String.join rows
  else
    let per := if o.perSeq then
        String.join (recs.map fun r =>
          "= " ++ padRight 25 (String.ofList r.name) ++ " " ++ padLeft 8 (natS r.seq.length) ++ " " ++ String.ofList r.desc ++ "\n")
      else ""
    let summary :=
      "Format:              " ++ fmtName ++ "\n" ++
      "Alphabet type:       " ++ a.typeName ++ "\n" ++
      "Number of sequences: " ++ natS st.nseq ++ "\n" ++
      "Total # residues:    " ++ natS st.nres ++ "\n" ++
      "Smallest:            " ++ natS st.small ++ "\n" ++
      "Largest:             " ++ natS st.large ++ "\n" ++
      "Average length:      " ++ avgText st.nres st.nseq ++ "\n"
    let comp :=
      if o.comp then
        let tot := totalComp a (recs.map (·.seq))
        "\nResidue composition:\n" ++
        String.join ((List.range syms.length).map fun x =>
          let n := tot.getD x 0
          if a = .amino then
            if x < K then
              "residue: " ++ String.singleton (syms.getD x '?') ++ "   " ++ padLeft 10 (natS n) ++ "  " ++
                padLeft 6 (fracText n st.nres) ++ "  " ++ logOddsText n st.nres (sw50.getD x 1.0) ++ "\n"
            else if n > 0 then
              "residue: " ++ String.singleton (syms.getD x '?') ++ "   " ++ padLeft 10 (natS n) ++ "  " ++ padLeft 6 (fracText n st.nres) ++ "\n"
            else ""
          else if x < K || n > 0 then
            "residue: " ++ String.singleton (syms.getD x '?') ++ "   " ++ padLeft 10 (natS n) ++ "  " ++ fracText n st.nres ++ "\n"
          else "")
      else ""
    per ++ summary ++ comp

/-- from the second sequence on, the loop is four independent folds -/
theorem foldl_statsStep (ls : List Nat) (s : Stats) (h : s.nseq ≠ 0) :
    ls.foldl statsStep s = ⟨s.nseq + ls.length, s.nres + ls.sum, ls.foldl min s.small, ls.foldl max s.large⟩ := by
  induction ls generalizing s with
  | nil => rfl
  | cons a t ih =>
    rw [List.foldl_cons, ih _ (Nat.succ_ne_zero _)]
    simp [statsStep, h, Nat.add_assoc, Nat.add_comm 1]

/-- `t.foldl min a` is `(a :: t).min?` (`List.min?_cons'`), and likewise for `max` -/
theorem stats_cons (a : Nat) (t : List Nat) :
    stats (a :: t) = ⟨t.length + 1, a + t.sum, t.foldl min a, t.foldl max a⟩ := by
  rw [stats, List.foldl_cons, foldl_statsStep _ _ (Nat.succ_ne_zero _)]
  simp [statsStep, Nat.add_comm]

theorem foldl_statsStep_nseq (ls : List Nat) (s : Stats) : (ls.foldl statsStep s).nseq = s.nseq + ls.length := by
  cases ls with
  | nil => rfl
  | cons a t =>
    rw [List.foldl_cons, foldl_statsStep _ _ (Nat.succ_ne_zero _), List.length_cons]
    exact Nat.add_right_comm _ _ _

theorem foldl_statsStep_nres (ls : List Nat) (s : Stats) : (ls.foldl statsStep s).nres = s.nres + ls.sum := by
  cases ls with
  | nil => rfl
  | cons a t =>
    rw [List.foldl_cons, foldl_statsStep _ _ (Nat.succ_ne_zero _), List.sum_cons]
    exact Nat.add_assoc _ _ _

theorem stats_nres (ls : List Nat) : (stats ls).nres = ls.sum := by
  rw [stats, foldl_statsStep_nres]; exact Nat.zero_add _

theorem foldl_statsStep_append (a b : List Nat) (s : Stats) :
    (a ++ b).foldl statsStep s = b.foldl statsStep (a.foldl statsStep s) := List.foldl_append

end EaselModel.Miniapps
