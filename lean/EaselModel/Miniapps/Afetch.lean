import EaselModel.Miniapps.ReformatMsa
/-! # C13 — `esl-afetch`: fetch alignments by name or accession from a multi-alignment (Stockholm / Pfam) file

Line-by-line model of the tool's own plumbing (`miniapps/esl-afetch.c`): `create_ssi_index`, `onefetch` (both branches),
`multifetch` (both branches), `regurgitate_one_stockholm_entry`.  The reader and the writers are the C01/C03 models.
An SSI index is represented by what it holds: for every alignment its name (primary key), its accession (alias) and its
offset, which `esl_msafile_Read` recorded BEFORE reading the record (`msa->offset = esl_buffer_GetOffset` at the call): the
record's span therefore starts right behind the previous record's `//` line. -/
namespace EaselModel.Miniapps.Ali
open EaselModel.Msafile

/-- every alignment of the file together with the lines its `esl_msafile_Read` call consumed (from `msa->offset` on) -/
def readAllSpans (rd : List Bytes → Res FMsa × List Bytes) :
    Nat → List Bytes → List (FMsa × List Bytes) → Option (List (FMsa × List Bytes))
  | 0, _, _ => none
  | fuel + 1, ls, acc =>
    match rd ls with
    | (.ok m, rest) => readAllSpans rd fuel rest ((m, ls.take (ls.length - rest.length)) :: acc)
    | (.eof, _) => some acc.reverse
    | _ => none

/-- `strcmp(key, msa->name) == 0 || (msa->acc != NULL && strcmp(key, msa->acc) == 0)` -/
def keyMatches (key : Bytes) (m : FMsa) : Bool := m.name == some key || m.acc == some key

/-- `onefetch` without an index: `while (Read != eOF) { if (!msa->name) fatal; if (match) break; }`; records behind the
    hit are never parsed.  `none` = the tool ends with a message (read failure, nameless alignment, key not found). -/
def seqFetch (rd : List Bytes → Res FMsa × List Bytes) (key : Bytes) : Nat → List Bytes → Option FMsa
  | 0, _ => none
  | fuel + 1, ls =>
    match rd ls with
    | (.ok m, rest) =>
      if m.name.isNone then none
      else if keyMatches key m then some m
      else seqFetch rd key fuel rest
    | _ => none

/-- `esl_ssi_FindName`: primary keys (names) first, then secondary keys (accessions) -/
def ssiFind (recs : List (FMsa × List Bytes)) (key : Bytes) : Option (FMsa × List Bytes) :=
  match recs.find? (fun r => r.1.name == some key) with
  | some r => some r
  | none => recs.find? (fun r => r.1.acc == some key)

/-- the Stockholm parser's terminator test: `//` after blanks and TABs -/
def isTerminator (l : Bytes) : Bool := (l.dropWhile (inDelim blankTab)).take 2 == [47, 47]

/-- `regurgitate_one_stockholm_entry`: lines are echoed (each followed by `\n`) up to and including the terminator;
    `none` = end of file before a terminator -/
def regurgitate : List Bytes → Option Bytes
  | [] => none
  | l :: rest =>
    if isTerminator l then some (l ++ [10])
    else (regurgitate rest).map fun t => l ++ [10] ++ t

/-- what an index can be built from: every alignment named, names and accessions all different -/
def indexable (recs : List (FMsa × List Bytes)) : Bool :=
  let names := recs.filterMap (·.1.name)
  let accs := recs.filterMap (·.1.acc)
  names.length == recs.length && (names ++ accs).eraseDups.length == names.length + accs.length

/-- `create_ssi_index`: the three lines of stdout -/
def indexReport (file : String) (recs : List (FMsa × List Bytes)) : String :=
  let n := toString recs.length
  let nacc := (recs.filterMap (·.1.acc)).length
  "Working...    done.\n" ++
  (if nacc != 0 then "Indexed " ++ n ++ " alignments (" ++ n ++ " names and " ++ toString nacc ++ " accessions).\n"
   else "Indexed " ++ n ++ " alignments (" ++ n ++ " names).\n") ++
  "SSI index written to file " ++ file ++ ".ssi\n"

/-- `onefetch` with an index -/
def ssiFetch (infmt outfmt : String) (recs : List (FMsa × List Bytes)) (key : Bytes) : Option Bytes :=
  match ssiFind recs key with
  | none => none
  | some (m, span) =>
    if (infmt == "stockholm" && outfmt == "stockholm") || (infmt == "pfam" && outfmt == "pfam") then regurgitate span
    else msafileWrite outfmt none m

/-- keys of a key file: `esl_fileparser` with comment character `#`, first token of each line that has one -/
def keyFileKeys (src : Bytes) : List Bytes :=
  (splitLines src).filterMap fun l =>
    match ((l.splitOn 32).flatMap fun w => w.splitOn 9).filter (fun w => !w.isEmpty && !w.all isSpace) with
    | [] => none
    | t :: _ => if t.head? == some 35 then none else some t

structure AfetchOpts where
  infmt : String
  outfmt : String := "stockholm"
  hasSsi : Bool := false

def spansOf (infmt : String) (src : Bytes) : Option (List (FMsa × List Bytes)) :=
  match readerOf infmt with
  | none => none
  | some rd => readAllSpans rd ((splitLines src).length + 2) (splitLines src) []

/-- `esl-afetch <msafile> <key>`: the bytes written to the output stream -/
def afetchOne (o : AfetchOpts) (src : Bytes) (key : Bytes) : Option Bytes :=
  if o.hasSsi then
    match spansOf o.infmt src with
    | some recs => if indexable recs then ssiFetch o.infmt o.outfmt recs key else none
    | none => none
  else
    match readerOf o.infmt with
    | none => none
    | some rd => (seqFetch rd key ((splitLines src).length + 2) (splitLines src)).bind (msafileWrite o.outfmt none)

/-- `esl-afetch -f <msafile> <keyfile>`: output bytes and the count the tool reports (`nali`): the number of keys with an
    index, the number of alignments IN THE FILE without one -/
def afetchMulti (o : AfetchOpts) (src keysrc : Bytes) : Option (Bytes × Nat) :=
  let keys := keyFileKeys keysrc
  if keys.eraseDups.length != keys.length then none else
  match spansOf o.infmt src with
  | none => none
  | some recs =>
    if o.hasSsi then
      if !indexable recs then none
      else (keys.mapM (ssiFetch o.infmt o.outfmt recs)).map fun outs => (outs.flatten, keys.length)
    else
      if recs.any (fun r => r.1.name.isNone) then none
      else
        let hit := recs.filter fun r => keys.any fun k => keyMatches k r.1
        (hit.mapM fun r => msafileWrite o.outfmt none r.1).map fun outs => (outs.flatten, recs.length)

theorem seqFetch_matches (rd : List Bytes → Res FMsa × List Bytes) (key : Bytes) :
    ∀ (fuel : Nat) (ls : List Bytes) (m : FMsa), seqFetch rd key fuel ls = some m → keyMatches key m = true := by
  intro fuel
  induction fuel with
  | zero => intro ls m h; simp [seqFetch] at h
  | succ n ih =>
    intro ls m h
    unfold seqFetch at h
    split at h
    · rename_i m' rest _
      by_cases hn : m'.name.isNone = true
      · simp [hn] at h
      · by_cases hk : keyMatches key m' = true
        · simp [hn, hk] at h; subst h; exact hk
        · simp [hn, hk] at h; exact ih rest m h
    · simp at h

/-- the loop on a named record: a match ends the search, anything else is passed over -/
theorem seqFetch_step (rd : List Bytes → Res FMsa × List Bytes) (key : Bytes) (fuel : Nat) (ls rest : List Bytes) (m : FMsa)
    (h : rd ls = (.ok m, rest)) (hn : m.name.isSome = true) :
    seqFetch rd key (fuel + 1) ls = if keyMatches key m then some m else seqFetch rd key fuel rest := by
  have : m.name.isNone = false := by cases hm : m.name <;> simp_all
  simp [seqFetch, h, this]

theorem ssiFind_mem (recs : List (FMsa × List Bytes)) (key : Bytes) (r : FMsa × List Bytes) (h : ssiFind recs key = some r) :
    r ∈ recs ∧ keyMatches key r.1 = true := by
  unfold ssiFind at h
  split at h
  · rename_i r' hf
    cases h
    have := List.find?_some hf
    exact ⟨List.mem_of_find?_eq_some hf, by simp_all [keyMatches]⟩
  · have := List.find?_some h
    exact ⟨List.mem_of_find?_eq_some h, by simp_all [keyMatches]⟩

theorem ssiFind_name_first (recs : List (FMsa × List Bytes)) (key : Bytes) (r : FMsa × List Bytes)
    (h : recs.find? (fun r => r.1.name == some key) = some r) : ssiFind recs key = some r := by
  simp [ssiFind, h]

theorem regurgitate_eq (ls : List Bytes) (out : Bytes) (h : regurgitate ls = some out) :
    ∃ pre l post, ls = pre ++ l :: post ∧ isTerminator l = true ∧ (∀ x ∈ pre, isTerminator x = false) ∧
      out = (pre ++ [l]).flatMap (fun x => x ++ [10]) := by
  induction ls generalizing out with
  | nil => simp [regurgitate] at h
  | cons l rest ih =>
    unfold regurgitate at h
    by_cases ht : isTerminator l = true
    · simp [ht] at h
      exact ⟨[], l, rest, rfl, ht, by simp, by simp [← h]⟩
    · simp [ht] at h
      obtain ⟨t, ht', rfl⟩ := h
      obtain ⟨pre, l', post, rfl, h1, h2, rfl⟩ := ih t ht'
      refine ⟨l :: pre, l', post, rfl, h1, ?_, ?_⟩
      · intro x hx
        rcases List.mem_cons.mp hx with rfl | hx
        · simpa using ht
        · exact h2 x hx
      · simp [List.flatMap_cons, List.append_assoc]

end EaselModel.Miniapps.Ali
