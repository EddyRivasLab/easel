import EaselModel.Miniapps.Alimask
/-! # C13 — `esl-alimerge` (default, in-memory mode): merging alignments that share their consensus (`#=GC RF`) columns

`miniapps/esl-alimerge.c`: every input alignment must carry `#=GC RF`; the number of consensus (non-gap) RF columns `clen` must agree;
`update_maxgap_and_maxmis` records, for each of the `clen + 1` insert regions, the widest insert over all inputs; for each input
`determine_gap_columns_to_add` decides where its missing insert columns go (flush right before the first consensus column, split in the
middle of an interior insert region, flush left after the last) and `inflate_seq_with_gaps` / `inflate_string_with_gaps_and_missing`
insert them (`.`) into every row and into the RF line; the rows of all inputs are stacked and written in Stockholm format.
Modelled line by line here for alignments WITHOUT missing-data (`~`) columns and without other annotation (the reference says `none`
otherwise). -/
namespace EaselModel.Miniapps.Ali
open EaselModel.Msafile

/-- `esl_abc_CIsGap` of the text alphabets: `-`, `_`, `.` -/
def rfIsGap (c : UInt8) : Bool := c == 45 || c == 95 || c == 46
/-- `esl_abc_CIsMissing`: `~` -/
def rfIsMissing (c : UInt8) : Bool := c == 126

/-- the loop of `update_maxgap_and_maxmis` without missing data: the width of each of the `clen + 1` insert regions -/
def insertWidths (rf : Bytes) : List Nat :=
  let r := rf.foldl (fun (st : List Nat × Nat) c => if rfIsGap c then (st.1, st.2 + 1) else (st.2 :: st.1, 0)) ([], 0)
  (r.2 :: r.1).reverse

/-- pointwise maximum (`maxgap[cpos] = ESL_MAX(maxgap[cpos], ngap)`) -/
def maxWidths (a b : List Nat) : List Nat := List.zipWith max a b

/-- `determine_gap_columns_to_add` without missing data: `ngapA[0..alen]`, the number of gap columns to add IN FRONT of each alignment
    position (`ngapA[alen]`: behind the last) -/
def gapsToAdd (rf : Bytes) (maxgap : List Nat) : List Nat :=
  let alen := rf.length
  let init : List Nat := List.replicate (alen + 1) 0
  -- state: (ngapA, cpos, prv_cpos, ngap)
  let step (st : List Nat × Nat × Nat × Nat) (ac : Nat × UInt8) : List Nat × Nat × Nat × Nat :=
    let (ng, cpos, prv, ngap) := st
    let (apos, c) := ac
    if rfIsGap c then (ng, cpos, prv, ngap + 1)
    else
      let mg := maxgap.getD cpos 0
      let ng := if mg > 0 then (if cpos == 0 then ng.set prv (mg - ngap) else ng.set (prv + 1 + ngap / 2) (mg - ngap)) else ng
      (ng, cpos + 1, apos, 0)
  let (ng, cpos, prv, ngap) := rf.zipIdx.foldl (fun st p => step st (p.2, p.1)) (init, 0, 0, 0)
  let mg := maxgap.getD cpos 0
  -- "if there are no consensus positions at all … flush left from the start of msa": prv_cpos = -1
  let idx := if cpos == 0 then ngap else prv + 1 + ngap
  if mg > 0 then ng.set idx (mg - ngap) else ng

/-- `inflate_seq_with_gaps` on a row without `~`: `ngapA[0]` gap characters, then every character followed by its `ngapA[apos+1]` -/
def inflateGo (gapc : UInt8) : List Nat → Bytes → Bytes
  | _, [] => []
  | ns, c :: r => c :: (List.replicate (ns.headD 0) gapc ++ inflateGo gapc ns.tail r)

def inflate (ngapA : List Nat) (gapc : UInt8) (row : Bytes) : Bytes :=
  List.replicate (ngapA.headD 0) gapc ++ inflateGo gapc ngapA.tail row

/-- the inverse on positions: drop the inserted characters again -/
def deflate (ngapA : List Nat) (row : Bytes) : Bytes :=
  let rec go : List Nat → Bytes → Bytes
    | [], r => r
    | _, [] => []
    | n :: ns, c :: r => c :: go ns (r.drop n)
  go (ngapA.drop 1) (row.drop (ngapA.headD 0))

/-- an alignment `esl-alimerge` can take from this reference: text mode, `#=GC RF` of the alignment's length, no `~` anywhere, nothing
    but names, rows and RF -/
def mergeable (m : FMsa) : Bool :=
  !m.digital && m.rf.isSome && (m.rf.getD []).length == m.alen && !(m.rf.getD []).any rfIsMissing
  && m.aseq.all (fun r => r.length == m.alen && !r.any rfIsMissing)
  && m.name.isNone && m.desc.isNone && m.acc.isNone && m.au.isNone && m.ssCons.isNone && m.saCons.isNone && m.ppCons.isNone && m.mm.isNone
  && m.sqacc.isNone && m.sqdesc.isNone && m.ss.isNone && m.sa.isNone && m.pp.isNone && m.cutoff.isEmpty && m.comments.isEmpty
  && m.gf.isEmpty && m.gs.isEmpty && m.gc.isEmpty && m.gr.isEmpty && !m.hasw

def clenOf (rf : Bytes) : Nat := (rf.filter fun c => !rfIsGap c).length

/-- the merged alignment of `ms` (in command-line / file order); `none` = the tool stops with a message -/
def mergeMsas (ms : List FMsa) : Option FMsa :=
  match ms with
  | [] => none
  | m0 :: _ =>
    if !ms.all mergeable then none else
    let rfs := ms.map fun m => m.rf.getD []
    let clen := clenOf (m0.rf.getD [])
    if !rfs.all (fun rf => clenOf rf == clen) then none else
    -- the de-gapped RF annotation must be identical in all inputs
    if !rfs.all (fun rf => rf.filter (fun c => !rfIsGap c) == (m0.rf.getD []).filter (fun c => !rfIsGap c)) then none else
    let maxgap := rfs.foldl (fun acc rf => maxWidths acc (insertWidths rf)) (List.replicate (clen + 1) 0)
    let alenM := clen + maxgap.sum
    let parts := ms.map fun m =>
      let ng := gapsToAdd (m.rf.getD []) maxgap
      (m.names, m.aseq.map (inflate ng 46), m.wgt)
    let rfM := inflate (gapsToAdd (m0.rf.getD []) maxgap) 46 (m0.rf.getD [])
    let names := parts.flatMap (·.1)
    let rows := parts.flatMap (·.2.1)
    if !rows.all (fun r => r.length == alenM) || rfM.length != alenM then none else
    some { m0 with alen := alenM, names := names, aseq := rows, wgt := parts.flatMap (·.2.2), rf := some rfM }

/-- `--rfonly`: `esl_msa_ColumnSubset` with `useme[apos] = rfchar_is_nongap_nonmissing(rf[apos])` on every input before merging
    (alignments of names, rows and RF only: nothing else to repair); no insert region is left, so nothing is added afterwards -/
def rfOnly (m : FMsa) : FMsa :=
  let rf := m.rf.getD []
  let keep (r : Bytes) : Bytes := ((r.zip rf).filter fun p => !rfIsGap p.2 && !rfIsMissing p.2).map (·.1)
  { m with alen := clenOf rf, aseq := m.aseq.map keep, rf := some (keep rf) }

/-- stdout of `esl-alimerge [--rfonly] [--outformat fmt] (--dna|--rna|--amino) <file1> <file2>` / `--list <listfile>`: every alignment of every file -/
def alimerge (outfmt : String) (srcs : List Bytes) (rfonly : Bool := false) : Option Bytes := do
  let mss ← srcs.mapM fun src => readFile "stockholm" src
  if mss.any (·.isEmpty) then none
  if !mss.flatten.all mergeable then none
  let m ← mergeMsas (if rfonly then mss.flatten.map rfOnly else mss.flatten)
  if (m.names.eraseDups).length != m.names.length then none
  msafileWriteTool outfmt none m

theorem deflate_go_inflate (ns : List Nat) (gapc : UInt8) (row : Bytes) (hlen : row.length ≤ ns.length) :
    deflate.go ns (inflateGo gapc ns row) = row := by
  induction row generalizing ns with
  | nil => cases ns <;> simp [deflate.go, inflateGo]
  | cons c r ih =>
    cases ns with
    | nil => simp at hlen
    | cons n ns =>
      simp only [inflateGo, List.headD_cons, List.tail_cons, deflate.go]
      rw [List.drop_left' (by simp), ih ns (by simpa using hlen)]

theorem deflate_inflate (ngapA : List Nat) (gapc : UInt8) (row : Bytes) (h : row.length + 1 ≤ ngapA.length) :
    deflate ngapA (inflate ngapA gapc row) = row := by
  cases ngapA with
  | nil => simp at h
  | cons n ns =>
    unfold deflate inflate
    simp only [List.headD_cons, List.drop_one, List.tail_cons]
    rw [List.drop_left' (by simp)]
    exact deflate_go_inflate ns gapc row (by simpa using h)

theorem inflateGo_length (gapc : UInt8) (ns : List Nat) (row : Bytes) (h : row.length ≤ ns.length) :
    (inflateGo gapc ns row).length = row.length + (ns.take row.length).sum := by
  induction row generalizing ns with
  | nil => simp [inflateGo]
  | cons c r ih =>
    cases ns with
    | nil => simp at h
    | cons n ns =>
      simp only [inflateGo, List.headD_cons, List.tail_cons, List.length_cons, List.length_append, List.length_replicate,
        List.take_succ_cons, List.sum_cons]
      rw [ih ns (by simpa using h)]; omega

theorem inflate_length (ngapA : List Nat) (gapc : UInt8) (row : Bytes) (h : ngapA.length = row.length + 1) :
    (inflate ngapA gapc row).length = row.length + ngapA.sum := by
  cases ngapA with
  | nil => simp at h
  | cons n ns =>
    have hl : ns.length = row.length := by simpa using h
    unfold inflate
    simp only [List.headD_cons, List.tail_cons, List.length_append, List.length_replicate, List.sum_cons]
    rw [inflateGo_length gapc ns row (by omega), ← hl, List.take_length]; omega

theorem insertWidths_fold (rf : Bytes) (acc : List Nat) (n : Nat) :
    let r := rf.foldl (fun (st : List Nat × Nat) c => if rfIsGap c then (st.1, st.2 + 1) else (st.2 :: st.1, 0)) (acc, n)
    r.1.length = acc.length + clenOf rf ∧ r.1.sum + r.2 + clenOf rf = acc.sum + n + rf.length := by
  induction rf generalizing acc n with
  | nil => simp [clenOf]
  | cons c cs ih =>
    simp only [List.foldl_cons]
    by_cases hg : rfIsGap c = true
    · have := ih acc (n + 1)
      simp only [hg, ↓reduceIte]
      simp only [clenOf, List.filter_cons, hg, Bool.not_true, Bool.false_eq_true, ↓reduceIte, List.length_cons] at this ⊢
      omega
    · have hg' : rfIsGap c = false := by simpa using hg
      have := ih (n :: acc) 0
      simp only [hg', Bool.false_eq_true, ↓reduceIte]
      simp only [clenOf, List.filter_cons, hg', Bool.not_false, ↓reduceIte, List.length_cons, List.sum_cons] at this ⊢
      omega

theorem insertWidths_length (rf : Bytes) : (insertWidths rf).length = clenOf rf + 1 := by
  have := (insertWidths_fold rf [] 0).1
  simp only [insertWidths, List.length_reverse, List.length_cons] at this ⊢
  simpa using this

theorem insertWidths_sum (rf : Bytes) : (insertWidths rf).sum + clenOf rf = rf.length := by
  have := (insertWidths_fold rf [] 0).2
  simp only [insertWidths, List.sum_reverse, List.sum_cons] at this ⊢
  simp at this; omega

theorem inflateGo_mem (gapc : UInt8) (ns : List Nat) (row : Bytes) : ∀ c ∈ inflateGo gapc ns row, c ∈ row ∨ c = gapc := by
  induction row generalizing ns with
  | nil => simp [inflateGo]
  | cons a r ih =>
    intro c hc
    simp only [inflateGo, List.mem_cons, List.mem_append, List.mem_replicate] at hc
    rcases hc with rfl | ⟨_, rfl⟩ | h
    · simp
    · simp
    · rcases ih ns.tail c h with h | h
      · left; simp [h]
      · right; exact h

theorem inflate_mem (ngapA : List Nat) (gapc : UInt8) (row : Bytes) : ∀ c ∈ inflate ngapA gapc row, c ∈ row ∨ c = gapc := by
  intro c hc
  simp only [inflate, List.mem_append, List.mem_replicate] at hc
  rcases hc with ⟨_, rfl⟩ | h
  · right; rfl
  · exact inflateGo_mem gapc ngapA.tail row c h

/-- `maxgap[cpos] = ESL_MAX(maxgap[cpos], ngap)`: the recorded width of a region is at least the width in either argument -/
theorem maxWidths_ge (a b : List Nat) (h : a.length = b.length) (i : Nat) :
    a.getD i 0 ≤ (maxWidths a b).getD i 0 ∧ b.getD i 0 ≤ (maxWidths a b).getD i 0 := by
  induction a generalizing b i with
  | nil => cases b <;> simp_all [maxWidths]
  | cons x xs ih =>
    cases b with
    | nil => simp at h
    | cons y ys =>
      cases i with
      | zero => simp [maxWidths]; omega
      | succ i =>
        have := ih ys (by simpa using h) i
        simpa [maxWidths] using this

end EaselModel.Miniapps.Ali
