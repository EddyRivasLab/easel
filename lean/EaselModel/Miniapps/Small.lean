import EaselModel.Miniapps.Alimask
import EaselModel.Miniapps.Reformat
/-! # C13 — the `--small` (memory-efficient, Pfam-only) paths of esl-reformat / esl-alimask / esl-alimanip / esl-alistat

These paths never build an `ESL_MSA`: they stream the file line by line. Modelled line by line here

* `esl_msafile2_RegurgitatePfam` (esl_msafile2.c) as the tools call it (all margins `-1`: the spacing of the input is kept;
  everything regurgitated; optional sequence keep/skip list; optional column mask with base-pair repair of `SS_cons` / `SS`):
  `regurgitate`;
* `regurgitate_pfam_as_pfam` of esl-reformat.c without the WUSS options: `reformatSmallPfamAll` (one record: `reformatSmallPfamOne`);
* the two passes of esl-reformat's Pfam -> aligned FASTA path (`#=GS AC` / `#=GS DE` queues, 60 residues per line): `reformatSmallAfa`.

The PREDICTION of a `--small` invocation is the non-small reference on the same file wherever the two modes promise the same
bytes (aligned FASTA out); where the small mode keeps the input's spacing (Pfam out) the prediction is the model below, and
`Props.C13` relates it to the non-small reference: same names, same residues/columns, in the same order.
A file is a list of lines (no `'\n'` inside a line; the generator writes no `'\r'`). -/
namespace EaselModel.Miniapps.Small
open EaselModel.Miniapps

/-- the delimiter set `" \t\n\r"` of `esl_strtok` as these functions use it -/
def isDelim (c : Char) : Bool := c = ' ' || c = '\t' || c = '\n' || c = '\r'

/-- `esl_strtok_adv(&s, " \t\n\r", &tok, &toklen, NULL)`: skip delimiters, the token is the maximal run of non-delimiters,
    ONE delimiter after it is consumed. `none` = `eslEOL`. -/
def tok (s : Line) : Option (Line × Line) :=
  let s1 := s.dropWhile isDelim
  if s1.isEmpty then none
  else some (s1.takeWhile (fun c => !isDelim c), (s1.dropWhile (fun c => !isDelim c)).drop 1)

/-- `esl_strtok(&s, "\n\r", &text)`: the rest of the line -/
def tokEol (s : Line) : Option Line :=
  let s1 := s.dropWhile (fun c => c = '\n' || c = '\r')
  if s1.isEmpty then none else some (s1.takeWhile (fun c => !(c = '\n' || c = '\r')))

/-- `determine_spacelen` -/
def spacelen (s : Line) : Nat := (s.takeWhile (· = ' ')).length

/-- `%-*s` -/
def padR (w : Nat) (s : Line) : Line := s ++ List.replicate (w - s.length) ' '

/-- `shrink_string(text, useme, len)` -/
def shrink (useme : List Bool) (text : Line) : Line := ((text.zip useme).filter (·.2)).map (·.1)

def startsWith (s : Line) (p : String) : Bool := p.toList.isPrefixOf s

structure Cfg where
  keep : Option (List Line) := none      -- `seqs2regurg`
  skip : Option (List Line) := none      -- `seqs2skip`
  useme : Option (List Bool) := none     -- columns to keep
  nucleic : Bool := true                 -- `afp->abc` is RNA or DNA: broken base pairs are removed from SS_cons / SS first

/-- the three-way test repeated at every #=GS / #=GR / sequence line -/
def Cfg.wants (c : Cfg) (name : Line) : Bool :=
  match c.keep, c.skip with
  | some k, _ => k.contains name
  | none, some s => !s.contains name
  | none, none => true

structure St where
  out : List Line := []                  -- reversed
  expAlen : Option Nat := none           -- `exp_alen` (-1 = none)
  first : Option Line := none
  nread : Nat := 0
  nregurged : Nat := 0

inductive Step where
  | cont (s : St)
  | done (s : St)
  | fail

def toBytes (l : Line) : List UInt8 := l.map fun c => UInt8.ofNat c.toNat
def ofBytes (b : List UInt8) : Line := b.map fun x => Char.ofNat x.toNat

/-- `esl_msa_RemoveBrokenBasepairsFromSS` (C15 model) then `shrink_string`; `none` = the structure line is refused -/
def maskText (c : Cfg) (isSS : Bool) (text : Line) : Option Line :=
  match c.useme with
  | none => some text
  | some u =>
    if isSS && c.nucleic then
      match EaselModel.Msa.removeBrokenFromSS (toBytes text) u with
      | .ok t => some (shrink u (ofBytes t))
      | .error _ => none
    else some (shrink u text)

/-- the length test of the #=GC / #=GR lines: `if (exp_alen == -1) exp_alen = textlen; else if (exp_alen != textlen) fail` -/
def checkSet (st : St) (n : Nat) : Option St :=
  match st.expAlen with
  | none => some { st with expAlen := some n }
  | some e => if e = n then some st else none

/-- one line of the record body (after the header line) -/
def lineStep (c : Cfg) (st : St) (buf : Line) : Step :=
  let s := buf.dropWhile fun ch => ch = ' ' || ch = '\t'
  let emit (l : Line) (st : St) : St := { st with out := l :: st.out }
  if s.head? = some '#' then
    if startsWith s "#=GF" then .cont (emit buf st)
    else if startsWith s "#=GC" then
      match tok buf with
      | none => .fail
      | some (_, r1) =>
        match tok r1 with
        | none => .fail
        | some (tag, r2) =>
          let sp := spacelen r2
          match tok r2 with
          | none => .fail
          | some (text, _) =>
            match checkSet st text.length with
            | none => .fail
            | some st =>
              match maskText c (startsWith tag "SS_cons") text with
              | none => .fail
              | some t => .cont (emit ("#=GC ".toList ++ padR (tag.length + sp) tag ++ ' ' :: t) st)
    else if startsWith s "#=GS" then
      if c.keep.isNone && c.skip.isNone then .cont (emit buf st)
      else
        match tok buf with
        | none => .fail
        | some (_, r1) =>
          match tok r1 with
          | none => .fail
          | some (name, r2) =>
            match tok r2 with
            | none => .fail
            | some (tag, r3) =>
              match tokEol r3 with
              | none => .fail
              | some text =>
                if c.wants name then .cont (emit ("#=GS ".toList ++ padR 1 name ++ ' ' :: tag ++ ' ' :: text) st)
                else .cont st
    else if startsWith s "#=GR" then
      match tok buf with
      | none => .fail
      | some (_, r1) =>
        match tok r1 with
        | none => .fail
        | some (name, r2) =>
          let sp := spacelen r2
          match tok r2 with
          | none => .fail
          | some (tag, r3) =>
            let sp2 := spacelen r3
            match tok r3 with
            | none => .fail
            | some (text, _) =>
              match checkSet st text.length with
              | none => .fail
              | some st =>
                if c.wants name then
                  match maskText c (startsWith tag "SS") text with
                  | none => .fail
                  | some t => .cont (emit ("#=GR ".toList ++ padR (name.length + sp) name ++ ' ' :: padR (tag.length + sp2) tag ++ ' ' :: t) st)
                else .cont st
    else .cont (emit buf st)
  else if startsWith s "//" then .done (emit buf st)
  else if s.isEmpty || s.head? = some '\r' then .cont (emit buf st)
  else
    match tok buf with
    | none => .fail
    | some (name, r1) =>
      let sp := spacelen r1
      match tok r1 with
      | none => .fail
      | some (text, _) =>
        if st.expAlen.isSome && st.expAlen != some text.length then .fail
        else if st.nread != 0 && st.first = some name then .fail
        else
          let st := { st with first := if st.nread = 0 then some name else st.first, nread := st.nread + 1 }
          if c.wants name then
            match maskText c false text with
            | none => .fail
            | some t => .cont (emit (padR (name.length + sp) name ++ ' ' :: t) { st with nregurged := st.nregurged + 1 })
          else .cont st

def isBlankLine (l : Line) : Bool := l.all fun c => c = ' ' || c = '\t' || c = '\r' || c = '\x0b' || c = '\x0c'

def body (c : Cfg) : St → List Line → Option (St × List Line)
  | _, [] => none                                   -- "didn't find // at end of alignment"
  | st, l :: ls =>
    match lineStep c st l with
    | .cont st => body c st ls
    | .done st => some (st, ls)
    | .fail => none

/-- what one call does. `Except`: `.error true` = `eslEOF` (no more records), `.error false` = a format error. -/
def regurgitate (c : Cfg) (expAlen : Option Nat) (ls : List Line) : Except Bool (List Line × Nat × Nat × List Line) :=
  match ls.dropWhile isBlankLine with
  | [] => .error true
  | h :: rest =>
    if !startsWith h "# STOCKHOLM 1." then .error false
    else
      match body c { out := [h], expAlen := expAlen } rest with
      | none => .error false
      | some (st, rest) => .ok (st.out.reverse, st.nread, st.nregurged, rest)

/-- `esl-alimanip --small --seq-k|--seq-r <list>`: every record of the file, with the sequence-count check of the tool
    (`none` = the tool stops with a message) -/
def alimanipSmall (keepMode : Bool) (names : List Line) : Nat → List Line → Option (List Line)
  | 0, _ => none
  | fuel + 1, ls =>
    let c : Cfg := if keepMode then { keep := some names } else { skip := some names }
    match regurgitate c none ls with
    | .error true => some []
    | .error false => some []          -- the loop of the tool ends silently on any non-OK status
    | .ok (out, nread, nreg, rest) =>
      if keepMode && nreg != names.length then none
      else if !keepMode && nread - nreg != names.length then none
      else (alimanipSmall keepMode names fuel rest).map (out ++ ·)

/-! ## esl-reformat --small -/

/-- `esl_memtok(&p, &n, " \t", …)` -/
def isSpTab' (c : Char) : Bool := c = ' ' || c = '\t'
def mtok (s : Line) : Option (Line × Line) :=
  let s1 := s.dropWhile isSpTab'
  if s1.isEmpty then none
  else some (s1.takeWhile (fun c => !isSpTab' c), s1.dropWhile (fun c => !isSpTab' c))

/-- `regurgitate_pfam_as_pfam` (no WUSS option): every line as it is, except that a sequence line's residues are converted;
    `%.*s%*s%s`: name, the original run of blanks, converted text -/
def reformatSmallPfamBody (o : ReformatOpts) : Option Nat → Option Line → Nat → List Line → List Line → Option (List Line × List Line)
  | _, _, _, [], _ => none
  | ea, first, nread, l :: ls, acc =>
    let p := l.dropWhile isSpTab'
    if p.isEmpty then reformatSmallPfamBody o ea first nread ls ([] :: acc)
    else if startsWith p "//" then some (("//".toList :: acc).reverse, ls)
    else if p.head? = some '#' then reformatSmallPfamBody o ea first nread ls (l :: acc)
    else
      match mtok p with
      | none => none
      | some (name, r1) =>
        match mtok r1 with
        | none => none
        | some (text, _) =>
          let lead := l.length - p.length                       -- leading blanks skipped
          let pos := lead + name.length + (r1.takeWhile isSpTab').length     -- `text - afp->line`
          if ea.isSome && ea != some text.length then none
          else if nread != 0 && first = some name then none
          else
            let outl := name ++ List.replicate (pos - name.length) ' ' ++ text.map (convChar o true)
            reformatSmallPfamBody o (some text.length) (if nread = 0 then some name else first) (nread + 1) ls (outl :: acc)

/-- header loop: lines are echoed until the `# STOCKHOLM` line (blank and comment lines before it are echoed too) -/
def reformatSmallPfamHead : List Line → List Line → Option (List Line × List Line)
  | [], _ => none
  | l :: ls, acc =>
    if l.all isSpTab' || (startsWith l "#" && !startsWith l "# STOCKHOLM") then reformatSmallPfamHead ls (l :: acc)
    else some ((l :: acc).reverse, ls)

def reformatSmallPfamOne (o : ReformatOpts) (ls : List Line) : Option (List Line × List Line) :=
  match reformatSmallPfamHead ls [] with
  | none => none
  | some (hd, rest) =>
    match reformatSmallPfamBody o none none 0 rest [] with
    | none => none
    | some (bd, rest) => some (hd ++ bd, rest)

/-- the `while ((status = regurgitate_pfam_as_pfam(...)) != eslEOF)` loop: every record; blank / comment lines after the last
    record are echoed by the header loop before it meets the end of the file -/
def reformatSmallPfamAll (o : ReformatOpts) : Nat → List Line → Option (List Line)
  | 0, _ => none
  | fuel + 1, ls =>
    if ls.all (fun l => l.all isSpTab' || (startsWith l "#" && !startsWith l "# STOCKHOLM")) then some ls
    else
      match reformatSmallPfamOne o ls with
      | none => none
      | some (out, rest) => (reformatSmallPfamAll o fuel rest).map (out ++ ·)

/-- pass 1 of Pfam -> afa: the `#=GS <name> AC <acc>` and `#=GS <name> DE <text>` lines of the record, in file order -/
def gsQueue (tagWanted : String) (ls : List Line) : List (Line × Line) :=
  ls.filterMap fun l =>
    let p := l.dropWhile isSpTab'
    if startsWith p "#=GS" then
      match mtok p with
      | some (_, r1) =>
        match mtok r1 with
        | some (name, r2) =>
          match mtok r2 with
          | some (tag, r3) => if tag = tagWanted.toList then some (name, r3.dropWhile isSpTab') else none
          | none => none
        | none => none
      | none => none
    else none

/-- pass 2: `>name[ acc][ desc]` then the converted residues, 60 per line; the AC / DE queues are consumed in order
    (an entry whose sequence never comes up in order is an error of the tool) -/
def reformatSmallAfaBody (o : ReformatOpts) : List (Line × Line) → List (Line × Line) → Nat → Option Line → List Line → List Line → Option (List Line)
  | _, _, _, _, [], _ => none
  | acq, deq, nread, first, l :: ls, acc =>
    let p := l.dropWhile isSpTab'
    if p.isEmpty || p.head? = some '#' then reformatSmallAfaBody o acq deq nread first ls acc
    else if startsWith p "//" then (if acq.isEmpty && deq.isEmpty then some acc.reverse else none)
    else
      match mtok p with
      | none => none
      | some (name, r1) =>
        match mtok r1 with
        | none => none
        | some (aseq, _) =>
          if nread != 0 && first = some name then none else
          let haveAc := (acq.head?.map (·.1)) = some name
          let haveDe := (deq.head?.map (·.1)) = some name
          let nm : Line := match o.rename with
            | some r => r ++ '.' :: (toString (nread + 1)).toList
            | none => name
          let hdr := '>' :: nm ++ (if haveAc then ' ' :: (acq.head?.map (·.2)).getD [] else []) ++ (if haveDe then ' ' :: (deq.head?.map (·.2)).getD [] else [])
          let body := chunks 60 (aseq.map (convChar o true))
          reformatSmallAfaBody o (if haveAc then acq.drop 1 else acq) (if haveDe then deq.drop 1 else deq) (nread + 1)
            (if nread = 0 then some name else first) ls (body.reverse ++ hdr :: acc)

def reformatSmallAfa (o : ReformatOpts) (ls : List Line) : Option (List Line) :=
  -- the record: from the `# STOCKHOLM` header to the first `//`
  match (ls.dropWhile fun l => l.all isSpTab' || (startsWith l "#" && !startsWith l "# STOCKHOLM")) with
  | [] => none
  | h :: rest =>
    if !startsWith h "# STOCKHOLM 1." then none
    else
      let rec_ := rest.takeWhile fun l => !startsWith (l.dropWhile isSpTab') "//"
      reformatSmallAfaBody o (gsQueue "AC" rec_) (gsQueue "DE" rec_) 0 none rest []

/-! ## esl-alistat --small: the summary without the lines that need the sequences (Smallest / Largest / Average identity) -/

/-- (printed in `--small` mode too?, line) of the default summary, given the numbers -/
def alistatLines (nali : Nat) (name : Option String) (fmt : String) (nseq alen nres small large : Nat) (avlen pid : String) : List (Bool × String) :=
  [(true, "Alignment number:    " ++ toString nali)] ++
  (match name with | some n => [(true, "Alignment name:      " ++ n)] | none => []) ++
  [(true, "Format:              " ++ fmt),
   (true, "Number of sequences: " ++ toString nseq),
   (true, "Alignment length:    " ++ toString alen),
   (true, "Total # residues:    " ++ toString nres),
   (false, "Smallest:            " ++ toString small),
   (false, "Largest:             " ++ toString large),
   (true, "Average length:      " ++ avlen),
   (false, "Average identity:    " ++ pid ++ "%"),
   (true, "//")]

def renderAll (ls : List (Bool × String)) : String := String.join (ls.map fun p => p.2 ++ "\n")
def renderSmall (ls : List (Bool × String)) : String := String.join ((ls.filter (·.1)).map fun p => p.2 ++ "\n")

def smallOneLineHeader : String :=
  "#\n" ++
  "# " ++ padRight 4 "idx" ++ " " ++ padRight 20 "name" ++ " " ++ padLeft 10 "format" ++ " " ++ padLeft 7 "nseq" ++ " " ++
    padLeft 7 "alen" ++ " " ++ padLeft 12 "nres" ++ " " ++ padLeft 10 "avlen" ++ "\n" ++
  "# " ++ "----" ++ " " ++ "--------------------" ++ " " ++ "----------" ++ " " ++ "-------" ++ " " ++ "-------" ++ " " ++
    "------------" ++ " " ++ "----------" ++ "\n"

def smallOneLine (nali : Nat) (name : Option String) (fmt : String) (nseq alen nres : Nat) (avlen : String) : String :=
  padRight 6 (toString nali) ++ " " ++ padRight 20 (name.getD "(null)") ++ " " ++ padLeft 10 fmt ++ " " ++ padLeft 7 (toString nseq) ++ " " ++
    padLeft 7 (toString alen) ++ " " ++ padLeft 12 (toString nres) ++ " " ++ padLeft 10 avlen ++ "\n"

end EaselModel.Miniapps.Small
