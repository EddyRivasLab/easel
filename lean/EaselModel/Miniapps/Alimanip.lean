import EaselModel.Miniapps.Alimask
/-! # C13 — `esl-alimanip`, the options that are C15 operations on a digital alignment

`miniapps/esl-alimanip.c:main()` opens the file in DIGITAL mode, and for every alignment applies, in this order:
`--seq-k|--seq-r|--reorder <list>` (`msa_keep_or_remove_seqs` + `reorder_msa`), `--lnfract`, `--lxfract`, `--lmin`, `--lmax`,
`--rffract`, `--detrunc`, `--xambig` (each a `esl_msa_SequenceSubset` over a computed row mask), `--rm-gc`, `--num-rf`,
`--num-all`, then writes with `esl_msafile_Write`.  Row selection is C15's `sequenceSubset`, the unaligned length is
C15's `fetchFromMSA`; modelled here are the tool's own functions (`msa_median_length`, `msa_remove_seqs_below_minlen`,
`msa_remove_seqs_above_maxlen`, `msa_remove_truncated_seqs`, `msa_remove_seqs_with_ambiguities`, `msa_keep_or_remove_seqs`,
`reorder_msa`, `remove_gc_markup`, `number_columns`) and the order of the steps.
Not modelled: the clustering / insert / tree / trim / mask2rf / post2pp / sindi / cindi / -M options. `--small --seq-k|--seq-r` is
`Small.alimanipSmall`. -/
namespace EaselModel.Miniapps.Ali
open EaselModel.Msafile

/-- C15's record with the alphabet of a digital alignment attached -/
def toTA (a : Option TAbc) (m : FMsa) : TMsa := { toT m with abc := a }

def wgtOfBits (b : UInt64) : Wgt :=
  if b == 0x3ff0000000000000 then .dflt else if b == 0xbff0000000000000 then .unset else .val b

def optRowsOf (l : List (Option Bytes)) : OptRows := if l.any Option.isSome then some l else none

/-- every field of C15's record back into C01/C03's (optional per-sequence arrays exist iff some entry is set, as
    `esl_msa_SequenceSubset` allocates them) -/
def fromT (digital : Bool) (kp : Nat) (t : TMsa) : FMsa :=
  { digital := digital, kp := kp, alen := t.alen, names := t.sqname,
    aseq := if digital then [] else t.rows,
    ax := if digital then t.rows.map (fun r => dsqSENTINEL :: r ++ [dsqSENTINEL]) else [],
    hasw := t.hasWgts, wgt := t.wgt.map wgtOfBits,
    name := t.name, desc := t.desc, acc := t.acc, au := t.au,
    ssCons := t.ss_cons, saCons := t.sa_cons, ppCons := t.pp_cons, rf := t.rf, mm := t.mm,
    sqacc := optRowsOf t.sqacc, sqdesc := optRowsOf t.sqdesc, ss := optRowsOf t.ss, sa := optRowsOf t.sa, pp := optRowsOf t.pp,
    cutoff := if t.cutset.any id then (List.range 6).map (fun k => if t.cutset.getD k false then some (t.cutoff.getD k 0) else none) else [],
    comments := t.comment, gf := t.gf, gs := t.gs, gc := t.gc, gr := t.gr }

/-- `sq->n` after `esl_sq_GetFromMSA(msa, i, sq)` -/
def rawLen (t : TMsa) (i : Nat) : Nat := match EaselModel.Msa.fetchFromMSA t i with | some f => f.seq.length | none => 0

/-- `qsort(len); median = len[nseq/2]` -/
def medianLength (t : TMsa) : Nat :=
  let lens := ((List.range t.nseq).map (rawLen t)).toArray.qsort (· < ·)
  lens.getD (t.nseq / 2) 0

/-- `esl_msa_SequenceSubset` when at least one row is selected (otherwise the tool dies with a message) -/
def subsetRows (t : TMsa) (useme : List Bool) : Option TMsa :=
  if (useme.filter id).isEmpty then none
  else match EaselModel.Msa.sequenceSubset t useme with
    | .ok t' => some t'
    | .error _ => none

/-- `msa_remove_seqs_below_minlen(msa, minlen, i_am_rf, …)` -/
def removeBelow (a : TAbc) (t : TMsa) (minlen : Float32) (iamrf : Option (List Bool)) : Option TMsa :=
  let useme := (List.range t.nseq).map fun i =>
    let len := match iamrf with
      | some rf => (((t.rows.getD i []).zip rf).filter fun p => p.2 && !a.xIsGap p.1).length
      | none => rawLen t i
    decide (Float32.ofNat len ≥ minlen)
  subsetRows t useme

/-- `msa_remove_seqs_above_maxlen` -/
def removeAbove (t : TMsa) (maxlen : Float32) : Option TMsa :=
  subsetRows t ((List.range t.nseq).map fun i => decide (Float32.ofNat (rawLen t i) ≤ maxlen))

/-- one direction of `msa_remove_truncated_seqs`: is some of the first `ntrunc` non-gap RF columns (in this order of
    columns) a non-gap in the row? -/
def endOkay (a : TAbc) (ntrunc : Nat) : List (UInt8 × Bool) → Nat → Bool
  | [], _ => false
  | (x, isrf) :: rest, ct =>
    if ct ≥ ntrunc then false
    else if isrf then (if !a.xIsGap x then true else endOkay a ntrunc rest (ct + 1))
    else endOkay a ntrunc rest ct

def removeTruncated (a : TAbc) (t : TMsa) (ntrunc : Nat) (iamrf : List Bool) : Option TMsa :=
  let useme := (List.range t.nseq).map fun i =>
    let cols := ((t.rows.getD i []).take t.alen).zip iamrf
    endOkay a ntrunc cols 0 && endOkay a ntrunc cols.reverse 0
  subsetRows t useme

/-- `esl_abc_XIsDegenerate` -/
def xIsDegenerate (a : TAbc) (x : UInt8) : Bool := x.toNat > a.K && x.toNat < a.Kp - 2

def removeAmbiguous (a : TAbc) (t : TMsa) (maxAmbig : Nat) : Option TMsa :=
  let useme := (List.range t.nseq).map fun i =>
    let s := match EaselModel.Msa.fetchFromMSA t i with | some f => f.seq | none => []
    !((s.filter (xIsDegenerate a)).length > maxAmbig)
  match EaselModel.Msa.sequenceSubset t useme with
  | .ok t' => some t'
  | .error _ => none

/-- `new[i] = old[order[i]]` on every per-sequence array `reorder_msa` swaps (NOT the weights) -/
def reorderMsa (t : TMsa) (order : List Nat) : TMsa :=
  let pick {α : Type} (d : α) (l : List α) : List α := order.map fun o => l.getD o d
  { t with rows := pick [] t.rows, sqname := pick [] t.sqname, sqacc := pick none t.sqacc, sqdesc := pick none t.sqdesc,
           ss := pick none t.ss, sa := pick none t.sa, pp := pick none t.pp,
           gs := t.gs.map (fun g => (g.1, pick none g.2)), gr := t.gr.map (fun g => (g.1, pick none g.2)) }

/-- `msa_keep_or_remove_seqs`; `none` = a listed name is absent or listed twice, or nothing remains -/
def keepOrRemove (t : TMsa) (seqlist : List Bytes) (doKeep doReorder : Bool) : Option TMsa := do
  let idx ← seqlist.mapM fun nm => t.sqname.idxOf? nm
  if idx.eraseDups.length != idx.length then none
  let useme := (List.range t.nseq).map fun i => if idx.contains i then doKeep else !doKeep
  let t' ← subsetRows t useme
  if doKeep && doReorder then
    -- order_all[i] = position of sequence i in the list; order_new[order_all[i]] = ip++ over the kept i in alignment order
    let kept := (List.range t.nseq).filter fun i => idx.contains i
    let orderNew := idx.map fun i => (kept.idxOf? i).getD 0
    some (reorderMsa t' orderNew)
  else some t'

/-- white-space separated tokens of a file (`esl_fileparser_GetToken`, no comment character) -/
def fileTokens (src : Bytes) : List Bytes :=
  ((splitLines src).flatMap fun l => (l.splitOn 32).flatMap fun w => w.splitOn 9).filter fun w => !w.isEmpty && !w.all isSpace

def intNdigits (i : Nat) : Nat := if i == 0 then 0 else (Nat.toDigits 10 i).length

/-- `get_char_digit_x_from_int(i, place)` -/
def charDigitX (i place : Nat) : UInt8 :=
  if intNdigits i < place then 48
  else UInt8.ofNat (48 + (i % (10 ^ place)) / 10 ^ (place - 1))

/-- `number_columns`: one `#=GC COL.X..` / `RFCOL.X..` line per decimal digit of `alen`; an existing tag is overwritten -/
def numberColumns (t : TMsa) (doAll : Bool) (iamrf : List Bool) : TMsa :=
  let nd := intNdigits t.alen
  let pre : Bytes := if doAll then str "COL" else str "RFCOL"
  (List.range nd).foldl (fun (t : TMsa) a =>
    let tag := pre ++ (List.range nd).map (fun b => if a == b then (88 : UInt8) else 46)
    let go := (List.range t.alen).foldl (fun (acc : Bytes × Nat) apos =>
      if !doAll && !iamrf.getD apos false then (46 :: acc.1, acc.2) else (charDigitX acc.2 (nd - a) :: acc.1, acc.2 + 1)) (([] : Bytes), 1)
    let numstring := go.1.reverse
    if t.gc.any (fun g => g.1 == tag) then { t with gc := t.gc.map fun g => if g.1 == tag then (g.1, numstring) else g }
    else { t with gc := t.gc ++ [(tag, numstring)] }) t

def removeGc (t : TMsa) (tag : String) : Option TMsa :=
  if tag == "RF" then (if t.rf.isNone then none else some { t with rf := none })
  else if tag == "SS_cons" then (if t.ss_cons.isNone then none else some { t with ss_cons := none })
  else if tag == "SA_cons" then (if t.sa_cons.isNone then none else some { t with sa_cons := none })
  else if tag == "PP_cons" then (if t.pp_cons.isNone then none else some { t with pp_cons := none })
  else none

structure AlimanipOpts where
  seqK : Option (List Bytes) := none
  seqR : Option (List Bytes) := none
  reorder : Option (List Bytes) := none
  kReorder : Bool := false
  lnfract : Option Float := none
  lxfract : Option Float := none
  lmin : Option Nat := none
  lmax : Option Nat := none
  rffract : Option Float := none
  detrunc : Option Nat := none
  xambig : Option Nat := none
  rmGc : Option String := none
  numRf : Bool := false
  numAll : Bool := false
  outfmt : String := "stockholm"

/-- the steps of the main loop for one alignment -/
def alimanipOne (o : AlimanipOpts) (a : TAbc) (t : TMsa) : Option TMsa := do
  let rfInfo : Option (List Bool × Nat) ← match t.rf with
    | some rf => let iam := iAmRf a rf; if countTrue iam == 0 then none else some (some (iam, countTrue iam))
    | none => some none
  let t ← match o.seqK, o.reorder, o.seqR with
    | some l, _, _ => keepOrRemove t l true o.kReorder
    | none, some l, _ => if l.length != t.nseq then none else keepOrRemove t l true true
    | none, none, some l => keepOrRemove t l false true
    | none, none, none => some t
  let t ← match o.lnfract with
    | some x => removeBelow a t (x * (Float32.ofNat (medianLength t)).toFloat).toFloat32 none
    | none => some t
  let t ← match o.lxfract with
    | some x => removeAbove t (x * (Float32.ofNat (medianLength t)).toFloat).toFloat32
    | none => some t
  let t ← match o.lmin with | some n => removeBelow a t (Float32.ofNat n) none | none => some t
  let t ← match o.lmax with | some n => removeAbove t (Float32.ofNat n) | none => some t
  let t ← match o.rffract with
    | some x => (match rfInfo with
        | some (iam, rflen) => removeBelow a t (Float.ofNat rflen * x).toFloat32 (some iam)
        | none => none)
    | none => some t
  let t ← match o.detrunc with
    | some n => (match rfInfo with | some (iam, _) => removeTruncated a t n iam | none => none)
    | none => some t
  let t ← match o.xambig with | some n => removeAmbiguous a t n | none => some t
  let t ← match o.rmGc with | some tag => removeGc t tag | none => some t
  -- `if (msa->rf == NULL) esl_fatal("--num-rf requires …")` is tested on the alignment as it is NOW (after --rm-gc RF)
  let t ← if o.numRf then (match rfInfo, t.rf with | some (iam, _), some _ => some (numberColumns t false iam) | _, _ => none) else some t
  some (if o.numAll then numberColumns t true ((rfInfo.map (·.1)).getD []) else t)

/-- stdout of `esl-alimanip [options] --informat <stockholm|pfam> (--dna|--rna|--amino) <file>` -/
def alimanip (o : AlimanipOpts) (fa : Abc) (ta : TAbc) (infmt : String) (src : Bytes) : Option Bytes :=
  if infmt != "stockholm" && infmt != "pfam" then none
  else
    let ls := splitLines src
    match readAll (stockholmRead (stockholmCfg (some fa))) (ls.length + 2) ls [] with
    | none => none
    | some ms =>
      if ms.isEmpty then none
      else (ms.mapM fun m =>
        if !m.digital then none
        else (alimanipOne o ta (toTA (some ta) m)).bind fun t => msafileWrite o.outfmt (some fa) (fromT true fa.kp t)).map List.flatten

end EaselModel.Miniapps.Ali
