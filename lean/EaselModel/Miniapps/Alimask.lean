import EaselModel.Miniapps.ReformatMsa
import EaselModel.Msa.AbcTables
/-! # C13 — `esl-alimask`: the column mask computed by the tool, then C15's `RemoveBrokenBasepairs` + `ColumnSubset`, then C03's writer

`miniapps/esl-alimask.c:main()` reads the FIRST alignment in text mode, computes `useme_final[0..alen-1]` in one of its modes
(mask file; `-t <coords>` [--t-rf] [--t-rmins]; `-g` [--gapthresh x] [--keepins]; `--rf-is-mask`), removes the base pairs broken
by the mask when the alphabet flag is nucleic (RNA is the default), compacts the columns and writes the alignment.
Modelled line by line here: `read_mask_file`, `map_rfpos_to_apos`, `expand_rf_useme_to_alen`, `count_gaps_in_msa`,
`mask_based_on_gapfreq`, `parse_coord_string`, `output_mask`, the mode logic of `main()` and its `be_verbose` table.
`-p` (posterior probabilities): `ppCounts`, `ppMask` below. `--small` is in `Small.lean` (`--small -p` is not modelled). -/
namespace EaselModel.Miniapps.Ali
open EaselModel.Msafile

abbrev TAbc := EaselModel.Msa.Abc

/-- `esl_abc_CIsNonresidue(abc, c)` -/
def cIsNonresidue (a : TAbc) (c : UInt8) : Bool := (a.digit c).toNat == a.Kp - 2

/-- the test of `map_rfpos_to_apos`: a non-gap, non-missing, non-`*` RF character -/
def isRfCol (a : TAbc) (c : UInt8) : Bool := !a.cIsGap c && !a.cIsMissing c && !cIsNonresidue a c

/-- `i_am_rf[0..alen-1]` -/
def iAmRf (a : TAbc) (rf : Bytes) : List Bool := rf.map (isRfCol a)

/-- `rf2a_map[0..rflen-1]` -/
def rf2aMap (iamrf : List Bool) : List Nat := (List.range iamrf.length).filter fun i => iamrf.getD i false

/-- `expand_rf_useme_to_alen` -/
def expandRfUseme (usemeRf : List Bool) (rf2a : List Nat) (alen : Nat) : List Bool :=
  (List.range alen).map fun apos =>
    match rf2a.idxOf? apos with
    | some rfpos => usemeRf.getD rfpos false
    | none => false

/-- `read_mask_file`: the tokens of the file (comments from `#`, white space separated) concatenated; only `0` and `1` -/
def readMaskFile (src : Bytes) : Option (List Bool) :=
  let lines := splitLines src
  let toks : Bytes := lines.flatMap fun l => (l.takeWhile (· != 35)).filter fun c => !isSpace c
  toks.mapM fun c => if c == 48 then some false else if c == 49 then some true else none

/-- `^(\d+)\D+(\d*)$` then the checks of `parse_coord_string`: (start ≥ 1, end; end = 0 means "to the end") -/
def parseCoords (s : Bytes) : Option (Nat × Nat) :=
  let d1 := s.takeWhile isDigit
  let r1 := s.dropWhile isDigit
  let sep := r1.takeWhile (fun c => !isDigit c)
  let d2 := r1.dropWhile (fun c => !isDigit c)
  if d1.isEmpty || sep.isEmpty || !d2.all isDigit || d1.length > 9 || d2.length > 9 then none
  else
    let num (d : Bytes) : Nat := d.foldl (fun a c => a * 10 + (c.toNat - 48)) 0
    let st := num d1
    if st == 0 then none
    else if d2.isEmpty then some (st, 0)
    else
      let en := num d2
      if en == 0 || st > en then none else some (st, en)

/-- `count_gaps_in_msa` + `mask_based_on_gapfreq`: `gapfreq = gap_ct / (float) nseq` as a float, kept unless `gapthresh < gapfreq` -/
def gapMask (a : TAbc) (rows : List Bytes) (alen : Nat) (eligible : List Bool) (gapthresh : Float32) : List Bool :=
  (List.range alen).map fun apos =>
    if eligible.getD apos false then
      let gapct := (rows.filter fun r => a.cIsGap (r.getD apos 0)).length
      let gapfreq : Float32 := (Float.ofNat gapct / (Float32.ofNat rows.length).toFloat).toFloat32
      !(gapthresh < gapfreq)
    else false

/-- `output_mask`: the `0`/`1` string of the eligible positions, one line -/
def maskText (useme : List Bool) (eligible : Option (List Bool)) : Bytes :=
  let bits := (List.range useme.length).filterMap fun i =>
    match eligible with
    | some e => if e.getD i false then some (useme.getD i false) else none
    | none => some (useme.getD i false)
  bits.map (fun b => if b then 49 else 48) ++ [10]

/-- the truncation mask of `-t <ts>..<te>`: `FALSE` below `ts-1`, `TRUE` (or `i_am_rf` with --t-rmins) up to `te-1`, `FALSE` from `te` on -/
def truncMask (alen ts te : Nat) : List Bool := (List.range' 0 alen).map fun apos => decide (ts - 1 ≤ apos ∧ apos < te)

/-- `esl_msa_RemoveBrokenBasepairs` (nucleic alphabet flag only) then `esl_msa_ColumnSubset`, as `main()` calls them on the
    text-mode alignment; `none` = one of them reports an error and the tool stops with its message -/
def alimaskApply (nucleic : Bool) (t : TMsa) (useme : List Bool) : Option TMsa :=
  let r1 : EaselModel.Msa.Res := if nucleic then EaselModel.Msa.removeBrokenBasepairs t useme else { msa := t, st := .ok }
  if r1.st != .ok || r1.exc then none
  else
    let r := EaselModel.Msa.columnSubset r1.msa useme
    if r.st != .ok || r.exc then none else some r.msa

/-! ## `-p`: masks from posterior probability annotation (`count_postprobs_in_msa`, `mask_based_on_postprobs`) -/

/-- `get_pp_idx` -/
def ppIdxA (a : TAbc) (c : UInt8) : Option Nat :=
  if c.toNat < 128 && a.cIsGap c then some 11
  else if c == 42 then some 10
  else if 48 ≤ c && c ≤ 57 then some (c.toNat - 48)
  else none

/-- `esl_FCompare_old(a, b, eslSMALLX1) == eslOK` on finite binary32 arguments -/
def fcmpOk (a b : Float32) : Bool :=
  let tol : Float32 := (5e-9 : Float).toFloat32
  a == b || (a.abs == 0 && b.abs ≤ tol) || (b.abs == 0 && a.abs ≤ tol) ||
  (2.0 * (a - b).abs.toFloat / (a + b).abs.toFloat ≤ tol.toFloat)

def ppMin : List Float := [0.00, 0.05, 0.15, 0.25, 0.35, 0.45, 0.55, 0.65, 0.75, 0.85, 0.95]
def ppAvgD : List Float := [0.025, 0.10, 0.20, 0.30, 0.40, 0.50, 0.60, 0.70, 0.80, 0.90, 0.975]

structure PPCfg where
  pthresh : Float := 0.95
  pfract : Float := 0.95
  pavg : Option Float := none
  ppcons : Option Float := none
  allgapok : Bool := false

/-- `pp_ct[apos][0..11]` for an eligible column; `none` = the tool stops (a sequence without PP, a character that is no PP value,
    a PP gap under a residue) -/
def ppCounts (a : TAbc) (rows : List Bytes) (pp : List (Option Bytes)) (apos : Nat) : Option (List Float) :=
  (rows.zip pp).foldlM (fun (ct : List Float) (rp : Bytes × Option Bytes) =>
    match rp.2 with
    | none => none
    | some line =>
      match ppIdxA a (line.getD apos 0) with
      | none => none
      | some k =>
        if k == 11 && !a.cIsGap (rp.1.getD apos 0) then none
        else some (ct.set k (ct.getD k 0.0 + 1.0))) (List.replicate 12 0.0)

/-- `esl_vec_DSum` -/
def kahan (v : List Float) : Float :=
  (v.foldl (fun (st : Float × Float) x => let y := x - st.2; let t := st.1 + y; (t, (t - st.1) - y)) (0.0, 0.0)).1

/-- `mask_based_on_postprobs` -/
def ppMask (a : TAbc) (cfg : PPCfg) (rows : List Bytes) (pp : List (Option Bytes)) (ppCons : Option Bytes) (alen : Nat) (eligible : List Bool) :
    Option (List Bool) :=
  let pthresh := cfg.pthresh.toFloat32
  let pfract := cfg.pfract.toFloat32
  -- `ppidx_thresh`: the first class whose lower bound is (float-)equal to or above pthresh, at most 10
  let idxThresh := ((List.range 10).find? fun k => fcmpOk pthresh (ppMin.getD k 0).toFloat32 || pthresh.toFloat < ppMin.getD k 0).getD 10
  if cfg.ppcons.isSome && ppCons.isNone then none else
  (List.range alen).mapM fun apos =>
    if !eligible.getD apos false then some false else
    match ppCounts a rows pp apos with
    | none => none
    | some ct =>
      let nnongap := kahan ct - ct.getD 11 0.0
      if fcmpOk nnongap.toFloat32 0 then some cfg.allgapok
      else match cfg.pavg, cfg.ppcons with
        | some pavgMin, _ =>
          let ppsum := (List.range 11).foldl (fun (acc : Float) k => acc + ct.getD k 0.0 * ppAvgD.getD k 0) 0.0
          some (!(ppsum / nnongap < pavgMin.toFloat32.toFloat))
        | none, some cmin =>
          match ppIdxA a ((ppCons.getD []).getD apos 0) with
          | none => none
          | some k => if k != 11 then some (fcmpOk cmin.toFloat32 (ppMin.getD k 0).toFloat32 || ppMin.getD k 0 > cmin.toFloat32.toFloat) else some false
        | none, none =>
          let ppcount := ((List.range 11).reverse.filter fun k => k ≥ idxThresh).foldl (fun (acc : Float) k => acc + ct.getD k 0.0) 0.0
          some (!((ppcount / nnongap).toFloat32 < pfract))

inductive MaskMode where
  | maskfile (mask : List Bool)
  | truncate (st en : Nat) (trf rmins : Bool)
  | gapfreq (thresh : Float32)
  | rfIsMask
  | postprob                       -- `-p` alone (`-g -p` is `gapfreq` with `pp` set)
deriving Inhabited

structure AlimaskOpts where
  mode : MaskMode
  abc : TAbc := EaselModel.Msa.Gen.rnaAbc
  keepins : Bool := false
  outfmt : String := "stockholm"
  verbose : Bool := false                -- `-o <f>` without `-q`
  ofile : Option String := none
  fmaskRf : Option String := none
  fmaskAll : Option String := none
  gmaskRf : Option String := none
  gmaskAll : Option String := none
  pp : Option PPCfg := none              -- `-p` with its thresholds
  pmaskRf : Option String := none
  pmaskAll : Option String := none

def natPad (w : Nat) (n : Nat) : Bytes := let d := natDec n; List.replicate (w - d.length) 32 ++ d
def strPadL (w : Nat) (s : String) : Bytes := let b := str s; List.replicate (w - b.length) 32 ++ b
def strPadR (w : Nat) (s : String) : Bytes := let b := str s; b ++ List.replicate (w - b.length) 32

/-- the five header lines of the `be_verbose` table -/
def verboseHeader : Bytes :=
  let row (a : List Bytes) : Bytes := str "# " ++ (a.intersperse (str "  ")).flatten ++ [10]
  row [strPadL 19 "", strPadL 7 "", strPadL 7 "", strPadL 16 "all columns", strPadL 16 "non-gap RF colns", strPadL 13 ""]
  ++ row [strPadL 19 "", strPadL 7 "", strPadL 7 "", strPadL 16 "----------------", strPadL 16 "----------------", strPadL 13 ""]
  ++ row [strPadL 19 "", strPadL 7 "", strPadL 7 "non-gap", strPadL 7 "num", strPadL 7 "num", strPadL 7 "num", strPadL 7 "num", strPadL 13 "gap RF colns"]
  ++ row [strPadR 19 "mask mode", strPadL 7 "aln len", strPadL 7 "RF len", strPadL 7 "kept", strPadL 7 "removed", strPadL 7 "kept", strPadL 7 "removed", strPadL 13 "auto removed?"]
  ++ row [strPadL 19 "-------------------", strPadL 7 "-------", strPadL 7 "-------", strPadL 7 "-------", strPadL 7 "-------", strPadL 7 "-------", strPadL 7 "-------", strPadL 13 "-------------"]

def countTrue (l : List Bool) : Nat := (l.filter id).length

/-- one data line of the table -/
def verboseLine (name : String) (alen : Nat) (rf : Option (List Bool × Nat)) (useme : List Bool) (rfonly : Bool) : Bytes :=
  let nkept := countTrue useme
  let cols : List Bytes := match rf with
    | none => [strPadR 19 name, natPad 7 alen, strPadL 7 "-", natPad 7 nkept, natPad 7 (alen - nkept), strPadL 7 "-", strPadL 7 "-", strPadL 13 "-"]
    | some (iamrf, rflen) =>
      let nkeptRf := if rfonly then nkept else countTrue ((useme.zip iamrf).map fun p => p.1 && p.2)
      [strPadR 19 name, natPad 7 alen, natPad 7 rflen, natPad 7 nkept, natPad 7 (alen - nkept), natPad 7 nkeptRf, natPad 7 (rflen - nkeptRf),
       strPadL 13 (if rfonly then "yes" else "no")]
  str "  " ++ (cols.intersperse (str "  ")).flatten ++ [10]

/-- the final mask of `main()`, with the pieces the verbose table and the mask files need:
    `(useme_final, i_am_rf+rflen, do_rfonly, mode name, gap mask, pp mask)`; `none` = the tool refuses (esl_fatal) -/
def alimaskMask (o : AlimaskOpts) (m : FMsa) : Option (List Bool × Option (List Bool × Nat) × Bool × String × Option (List Bool) × Option (List Bool)) := do
  let alen := m.alen
  let rfInfo : Option (List Bool × Nat) ← match m.rf with
    | some rf =>
      let iam := iAmRf o.abc rf
      if countTrue iam == 0 then none else some (some (iam, countTrue iam))
    | none => some none
  let eligible : List Bool := match rfInfo with
    | some (iam, _) => if o.keepins then List.replicate alen true else iam
    | none => List.replicate alen true
  if rfInfo.isNone && (o.fmaskRf.isSome || o.gmaskRf.isSome || o.pmaskRf.isSome || o.keepins) then none
  let ppOnly := match o.mode with | .postprob => true | _ => false
  let gp := match o.mode with | .gapfreq _ => true | _ => false
  if o.pp.isSome && !(ppOnly || gp) then none
  if (o.pmaskRf.isSome || o.pmaskAll.isSome) && o.pp.isNone then none
  let rowsT := if m.digital then [] else m.aseq
  let pmask : Option (List Bool) ← match o.pp with
    | some cfg =>
      match m.pp with
      | none => none
      | some ppl => (ppMask o.abc cfg rowsT ppl m.ppCons alen eligible).map some
    | none => some none
  match o.mode with
  | .maskfile mask =>
    if o.keepins || o.gmaskRf.isSome || o.gmaskAll.isSome then none
    match rfInfo with
    | none => if mask.length != alen then none else some (mask, none, false, "maskfile", none, none)
    | some (iam, rflen) =>
      if mask.length != alen && mask.length != rflen then none
      else if rflen == mask.length then some (expandRfUseme mask (rf2aMap iam) alen, rfInfo, true, "maskfile", none, none)
      else some (mask, rfInfo, false, "maskfile", none, none)
  | .truncate st en trf rmins =>
    if o.keepins || o.gmaskRf.isSome || o.gmaskAll.isSome then none
    if rmins && rfInfo.isNone then none
    let rfonly := rfInfo.isSome && rmins
    let (ts, te) ← if trf then
        match rfInfo with
        | none => none               -- rf2a_map is NULL: the tool would crash; outside the reference
        | some (iam, rflen) =>
          if st > rflen || en > rflen then none
          else
            let r2a := rf2aMap iam
            some (r2a.getD (st - 1) 0 + 1, if en == 0 then alen else r2a.getD (en - 1) 0 + 1)
      else if st > alen || en > alen then none else some (st, if en == 0 then alen else en)
    let iam := match rfInfo with | some (i, _) => i | none => []
    let useme := if rfonly then ((truncMask alen ts te).zip iam).map (fun p => p.1 && p.2) else truncMask alen ts te
    some (useme, rfInfo, rfonly, "truncation", none, none)
  | .gapfreq th =>
    let rows := if m.digital then [] else m.aseq
    let g := gapMask o.abc rows alen eligible th
    match pmask with
    | some pm => some ((g.zip pm).map fun x => x.1 && x.2, rfInfo, rfInfo.isSome && !o.keepins, "gapfreq&postprobs", some g, some pm)
    | none => some (g, rfInfo, rfInfo.isSome && !o.keepins, "gapfreq", some g, none)
  | .postprob =>
    match pmask with
    | some pm => some (pm, rfInfo, rfInfo.isSome && !o.keepins, "postprobs", none, some pm)
    | none => none
  | .rfIsMask =>
    if o.keepins || o.gmaskRf.isSome || o.gmaskAll.isSome then none
    match rfInfo with
    | none => none
    | some (iam, _) => some (iam, rfInfo, true, "RF", none, none)

/-- `esl-alimask`: stdout and the files written (`-o`, `--fmask-*`, `--gmask-*`).  The `# CPU time:` line that
    `esl_stopwatch_Display` prints with `-o` is not part of the prediction. -/
def alimask (o : AlimaskOpts) (infmt : String) (src : Bytes) : Option (Bytes × List (String × Bytes)) := do
  let rd ← readerOf infmt
  let m ← match rd (splitLines src) with
    | (.ok m, _) => some m
    | _ => none
  if m.digital then none
  let (useme, rfInfo, rfonly, name, gmask, pmask) ← alimaskMask o m
  let t' ← alimaskApply o.abc.isNucleic (toT m) useme
  let m' := withColumnsOf m t'
  let ali ← msafileWriteTool o.outfmt none m'
  let rflen := match rfInfo with | some (_, n) => n | none => 0
  let iam := rfInfo.map (·.1)
  let verb := o.verbose
  let table : Bytes :=
    if verb then
      verboseHeader ++ (if name == "RF" then verboseLine "RF" m.alen rfInfo useme true
                        else if name == "gapfreq&postprobs" then
                          verboseLine "gapfreq" m.alen rfInfo (gmask.getD []) rfonly ++ verboseLine "postprobs" m.alen rfInfo (pmask.getD []) rfonly
                          ++ verboseLine name m.alen rfInfo useme rfonly
                        else verboseLine name m.alen rfInfo useme rfonly) ++ str "#\n"
    else []
  let note (s : String) : Bytes := if verb then str s else []
  let files : List (String × Bytes) :=
    (match o.pmaskRf, pmask with | some f, some g => [(f, maskText g iam)] | _, _ => [])
    ++ (match o.pmaskAll, pmask with | some f, some g => [(f, maskText g none)] | _, _ => [])
    ++ (match o.gmaskRf, gmask with | some f, some g => [(f, maskText g iam)] | _, _ => [])
    ++ (match o.gmaskAll, gmask with | some f, some g => [(f, maskText g none)] | _, _ => [])
    ++ (match o.fmaskRf with | some f => [(f, maskText useme iam)] | none => [])
    ++ (match o.fmaskAll with | some f => [(f, maskText useme none)] | none => [])
  let notes : Bytes :=
    (match o.pmaskRf with | some f => note ("# Posterior probability mask of non-gap RF length (" ++ toString rflen ++ ") saved to file " ++ f ++ ".\n") | none => [])
    ++ (match o.pmaskAll with | some f => note ("# Posterior probability mask of full alignment length (" ++ toString m.alen ++ ") saved to file " ++ f ++ ".\n") | none => [])
    ++ (match o.gmaskRf with | some f => note ("# Gap frequency mask of non-gap RF length (" ++ toString rflen ++ ") saved to file " ++ f ++ ".\n") | none => [])
    ++ (match o.gmaskAll with | some f => note ("# Gap frequency mask of full alignment length (" ++ toString m.alen ++ ") saved to file " ++ f ++ ".\n") | none => [])
    ++ (match o.fmaskRf with | some f => note ("# Final mask of non-gap RF length (" ++ toString rflen ++ ") saved to file " ++ f ++ ".\n") | none => [])
    ++ (match o.fmaskAll with | some f => note ("# Final mask of full alignment length (" ++ toString m.alen ++ ") saved to file " ++ f ++ ".\n") | none => [])
  match o.ofile with
  | some f => some (table ++ notes ++ note ("# Masked alignment saved to file " ++ f ++ ".\n"), (f, ali) :: files)
  | none => some (ali ++ table ++ notes, files)

end EaselModel.Miniapps.Ali
