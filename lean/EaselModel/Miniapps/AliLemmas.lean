import EaselModel.Miniapps.Alimanip
import EaselModel.Miniapps.Small
import EaselModel.Msa.LemmasRbb
import EaselModel.Msa.LemmasCompact
import EaselModel.Msa.LemmasMsa
/-! Lemmas about the esl-alimask / esl-alimanip reference functions: they are C15's column / row selections; so are the column
selections of esl-reformat (`selectCols`) and of the `--small` paths (`Small.shrink`). -/
namespace EaselModel.Miniapps.Ali
open EaselModel.Msa

theorem maskFilter_window (lo hi : Nat) : ∀ (row : Bytes) (k : Nat),
    maskFilter ((List.range' k row.length).map fun apos => decide (lo ≤ apos ∧ apos < hi)) row = (row.take (hi - k)).drop (lo - k) := by
  intro row
  induction row with
  | nil => intro k; simp [maskFilter]
  | cons c cs ih =>
    intro k
    simp only [List.length_cons, List.range'_succ, List.map_cons, maskFilter]
    rw [ih (k + 1)]
    -- the head of the row lies before the window, inside it, or behind it
    rcases Nat.lt_or_ge k hi with h2 | h2
    · rw [show hi - k = (hi - (k + 1)) + 1 by omega, List.take_succ_cons]
      rcases Nat.lt_or_ge k lo with h1 | h1
      · rw [show lo - k = (lo - (k + 1)) + 1 by omega, List.drop_succ_cons]
        simp [Nat.not_le.mpr h1]
      · simp [h1, h2, show lo - k = 0 by omega, show lo - (k + 1) = 0 by omega]
    · simp [Nat.not_lt.mpr h2, show hi - k = 0 by omega, show hi - (k + 1) = 0 by omega]

theorem truncMask_slice (row : Bytes) (ts te : Nat) :
    maskFilter (truncMask row.length ts te) row = (row.take te).drop (ts - 1) := by
  unfold truncMask
  have := maskFilter_window (ts - 1) te row 0
  simpa using this

theorem truncMask_length (alen ts te : Nat) : (truncMask alen ts te).length = alen := by simp [truncMask]

theorem alimaskApply_spec (nuc : Bool) (t t' : TMsa) (useme : List Bool) (wf : t.WF) (habc : t.abc = none)
    (hm : useme.length = t.alen) (h : alimaskApply nuc t useme = some t') :
    t'.rows = t.rows.map (maskFilter useme) ∧ t'.alen = (useme.filter id).length ∧ t'.sqname = t.sqname ∧ t'.nseq = t.nseq ∧
    t'.rf = t.rf.map (maskFilter useme) ∧ t'.wgt = t.wgt ∧ t'.WF := by
  unfold alimaskApply at h
  cases nuc with
  | false =>
    simp [columnSubset_plain t useme wf hm fun a ha => by rw [habc] at ha; cases ha] at h
    subst h
    exact ⟨rfl, rfl, rfl, rfl, rfl, rfl, colFilter_wf t useme wf hm⟩
  | true =>
    by_cases hok : (removeBrokenBasepairs t useme).st = .ok
    · obtain ⟨wf', hal, sc, ss', hform⟩ := removeBrokenBasepairs_wf t useme wf hok
      have hcol := columnSubset_plain _ useme wf' (by rw [hal]; exact hm) fun a ha => by rw [hform, habc] at ha; cases ha
      by_cases hexc : (removeBrokenBasepairs t useme).exc = true
      · simp [hok, hexc] at h
      · simp [hok, hexc, hcol] at h
        subst h
        -- the columns are cut from `t` with repaired structure lines: the same alignment in all that is claimed
        have wf'' := colFilter_wf _ useme wf' (by rw [hal]; exact hm)
        rw [hform] at wf'' ⊢
        exact ⟨rfl, rfl, rfl, rfl, rfl, rfl, wf''⟩
    · simp [hok] at h

theorem subsetRows_spec (t t' : TMsa) (useme : List Bool) (h : subsetRows t useme = some t') :
    t'.rows = maskFilter useme t.rows ∧ t'.sqname = maskFilter useme t.sqname ∧ t'.wgt = maskFilter useme t.wgt ∧
    t'.alen = t.alen ∧ t'.nseq = countSelected t useme ∧ t'.nseq ≠ 0 ∧ t'.abc = t.abc ∧ t'.flags = t.flags := by
  unfold subsetRows at h
  split at h
  · exact absurd h (by simp)
  · split at h
    · rename_i b hb
      have hb' : some b = some t' := h
      injection hb' with hb'
      subst hb'
      obtain ⟨hn, rfl⟩ := sequenceSubset_ok t useme b hb
      exact ⟨rfl, rfl, rfl, rfl, rfl, hn, rfl, rfl⟩
    · exact absurd h (by simp)

theorem keepOrRemove_is_subset (t t' : TMsa) (seqlist : List Bytes) (doKeep : Bool) (h : keepOrRemove t seqlist doKeep false = some t') :
    ∃ idx, seqlist.mapM (fun nm => t.sqname.idxOf? nm) = some idx ∧
      subsetRows t ((List.range t.nseq).map fun i => if idx.contains i then doKeep else !doKeep) = some t' := by
  unfold keepOrRemove at h
  cases hidx : seqlist.mapM (fun nm => t.sqname.idxOf? nm) with
  | none => simp [hidx] at h
  | some idx =>
    refine ⟨idx, rfl, ?_⟩
    simp [hidx] at h
    simpa using h.2

theorem reorderMsa_attached (t : TMsa) (order : List Nat) (i : Nat) (hi : i < order.length) :
    (reorderMsa t order).rows.getD i [] = t.rows.getD (order.getD i 0) [] ∧
    (reorderMsa t order).sqname.getD i [] = t.sqname.getD (order.getD i 0) [] := by
  simp [reorderMsa, List.getD_eq_getElem?_getD, hi]

end EaselModel.Miniapps.Ali

namespace EaselModel.Miniapps
open EaselModel.Msa

/-- "keep the columns the mask marks", spelt with `zip` and `filter`, is C15's `maskFilter` -/
theorem zip_filter_eq_maskFilter {α : Type} : ∀ (row : List α) (keep : List Bool),
    ((row.zip keep).filter (·.2)).map (·.1) = maskFilter keep row
  | [], keep => by cases keep <;> rfl
  | _ :: _, [] => rfl
  | x :: xs, true :: bs => by
    rw [List.zip_cons_cons, List.filter_cons_of_pos rfl, List.map_cons, zip_filter_eq_maskFilter xs bs]; rfl
  | x :: xs, false :: bs => by
    rw [List.zip_cons_cons, List.filter_cons_of_neg (by simp), zip_filter_eq_maskFilter xs bs]; rfl

theorem Small.shrink_eq_maskFilter (u : List Bool) (t : Line) : Small.shrink u t = maskFilter u t :=
  zip_filter_eq_maskFilter t u

theorem selectCols_eq_maskFilter (keep : List Bool) (row : List Char) : selectCols keep row = maskFilter keep row := by
  rw [← zip_filter_eq_maskFilter, selectCols, ← List.filterMap_eq_filter, List.map_filterMap]
  congr 1; funext p; cases h : p.2 <;> simp [Option.guard, h]

theorem selectCols_length_le (keep : List Bool) (row : List Char) : (selectCols keep row).length ≤ row.length := by
  rw [selectCols_eq_maskFilter]; exact maskFilter_length_le keep row

theorem selectCols_length_eq (keep : List Bool) (r₁ r₂ : List Char) (h : r₁.length = r₂.length) :
    (selectCols keep r₁).length = (selectCols keep r₂).length := by
  rw [selectCols_eq_maskFilter, selectCols_eq_maskFilter, maskFilter_length_take keep r₁ _ h, maskFilter_length_take keep r₂ _ rfl]

end EaselModel.Miniapps
