import EaselModel.Msa.LemmasClass
import EaselModel.Msa.LemmasPk3
/-! Lemmas: `esl_ct2wuss` / `esl_ct2simplewuss` on an arbitrary symmetric pair table, as a whole: the output is a class-nested
    labelling that `esl_wuss2ct` reads back, and the only failure is "not enough letters". Every pair that receives a letter is
    crossed by an earlier pair (`isPkPair`) and each letter in use is carried by such a pair, so that failure needs 27 of them. -/
namespace EaselModel.Msa

theorem cntSpec_end (n : Nat) (ct cct : List Nat) : cntSpec n ct cct (n+1) = rightEnds ct (n+1) := by
  unfold cntSpec rightEnds
  apply filter_length_congr
  intro q hq
  have : q < n + 1 := by simpa using hq
  rw [Bool.eq_iff_iff]
  simp only [decide_eq_true_eq]
  exact ⟨fun ⟨a, b, _⟩ => ⟨a, b⟩, fun ⟨a, b⟩ => ⟨a, b, Or.inl this⟩⟩

theorem cntSpec_init (n : Nat) (ct : List Nat) : cntSpec n ct ct 1 = 0 := by
  simp only [cntSpec, List.length_eq_zero_iff, List.filter_eq_nil_iff, decide_eq_true_eq]
  rintro q _ ⟨a, b, c | c⟩
  · omega
  · exact a c

/-- The main loop of `esl_ct2wuss` / `esl_ct2simplewuss` on an ARBITRARY symmetric pair table, whatever it returns. It keeps
    the invariant `GInv`, the pair count `cntSpec` and the letter-use invariant `UInv`; when it ends normally the count is
    the number of right ends; its only failure is "not enough letters", which needs at least 27 pseudoknotted pairs. -/
theorem c2wMain_run (simple : Bool) (n : Nat) (ct : List Nat) (hct : CtOk n ct) :
    ∀ (fuel j : Nat) (pda : List Int) (st : C2W) (cct : List Nat) (rb : List Int),
      n + 1 ≤ j + fuel → j ≤ n + 1 → 1 ≤ j → GInv n ct j pda st cct rb → (simple = true → ∀ a ∈ pda, 0 ≤ a) →
      st.reached = cntSpec n ct cct j → UInv ct cct st.ss rb →
      (∃ st' pda' cct' rb', c2wMain simple ct.toArray n fuel j pda st = .ok st' ∧ GInv n ct (n+1) pda' st' cct' rb' ∧
        UInv ct cct' st'.ss rb' ∧ st'.reached = rightEnds ct (n+1)) ∨
      (∃ p, c2wMain simple ct.toArray n fuel j pda st = .error (.einvalLetters p) ∧ 27 ≤ (pkPairs ct).length) := by
  intro fuel
  induction fuel with
  | zero =>
    intro j pda st cct rb hf hju _ inv _ hcnt u
    have hj : j = n + 1 := by omega
    subst hj
    exact Or.inl ⟨st, pda, cct, rb, rfl, inv, u, by rw [hcnt, cntSpec_end]⟩
  | succ fuel ih =>
    intro j pda st cct rb hf hju hj1 inv hnm hcnt u
    by_cases hgt : j > n
    · have hj : j = n + 1 := by omega
      subst hj
      exact Or.inl ⟨st, pda, cct, rb, by rw [c2wMain, if_pos hgt], inv, u, by rw [hcnt, cntSpec_end]⟩
    · rcases c2wMain_turn simple n ct hct fuel inv hnm hcnt u hj1 (by omega) with
        ⟨pda', st', cct', rb', heq, inv', hnm', hcnt', u'⟩ | ⟨p, hp, h27⟩
      · rw [heq]
        exact ih (j+1) pda' st' cct' rb' (by omega) (by omega) (by omega) inv' hnm' hcnt' u'
      · exact Or.inr ⟨p, hp, h27⟩

theorem uinv_init (simple : Bool) (n : Nat) (ct : List Nat) :
    UInv ct ct (Array.replicate n (if simple = true then (0x2e : UInt8) else 0x3a)) (List.replicate 26 (-1)) where
  used := by
    intro x hx hge
    have : (List.replicate 26 (-1 : Int)).getD x 0 = -1 := by
      rw [List.getD_eq_getElem?_getD, List.getElem?_replicate, if_pos hx]; rfl
    rw [this] at hge; omega
  cross := by intro q h1 h2 h3; omega

theorem ct2wussGen_run (simple : Bool) (n : Nat) (ct : List Nat) (hct : CtOk n ct) :
    (∃ st pda cct rb, ct2wussGen simple ct = .ok st.ss.toList ∧ GInv n ct (n+1) pda st cct rb ∧ UInv ct cct st.ss rb) ∨
    (∃ p, ct2wussGen simple ct = .error (.einvalLetters p) ∧ 27 ≤ (pkPairs ct).length) := by
  have hn1 : ct.length - 1 = n := by rw [hct.1]; rfl
  unfold ct2wussGen
  simp only
  rw [hn1]
  rcases c2wMain_run simple n ct hct (n+1) 1 [] _ ct _ (by omega) (by omega) (Nat.le_refl _)
    (ginv_init simple n ct hct) (fun _ a ha => by simp at ha) (by simp [cntSpec_init]) (uinv_init simple n ct) with
    ⟨st, pda, cct, rb, hres, inv, u, hr⟩ | ⟨p, hp, h27⟩
  · rw [hres]
    have : countPairs ct = st.reached := by rw [hr, countPairs_eq_rightEnds n ct hct]
    simp only [this, bne_self_eq_false, Bool.false_eq_true, if_false]
    exact Or.inl ⟨st, pda, cct, rb, rfl, inv, u⟩
  · rw [hp]
    exact Or.inr ⟨p, rfl, h27⟩

theorem ct2wussGen_ok_inv (simple : Bool) (n : Nat) (ct : List Nat) (hct : CtOk n ct) (ss : Bytes)
    (h : ct2wussGen simple ct = .ok ss) :
    ∃ st pda cct rb, ss = st.ss.toList ∧ GInv n ct (n+1) pda st cct rb ∧ UInv ct cct st.ss rb := by
  rcases ct2wussGen_run simple n ct hct with ⟨st, pda, cct, rb, h1, inv, u⟩ | ⟨p, h1, _⟩
  · rw [h1] at h; injection h with h
    exact ⟨st, pda, cct, rb, h.symm, inv, u⟩
  · rw [h1] at h; cases h

theorem ct2wussGen_class_labels (simple : Bool) (n : Nat) (ct : List Nat) (hct : CtOk n ct) (ss : Bytes)
    (h : ct2wussGen simple ct = .ok ss) :
    ss.length = n ∧ ClassLabels ct ss ∧ ClassNested ct ss := by
  obtain ⟨st, pda', cct', rb', rfl, inv, _⟩ := ct2wussGen_ok_inv simple n ct hct ss h
  have hlen : st.ss.toList.length = n := by simp [inv.sssize]
  refine ⟨hlen, ?_, ?_⟩
  · -- every position carries the right kind of symbol
    intro p hp1 hp2
    rw [hlen] at hp2
    constructor
    · intro h0
      exact inv.l1 (p-1) (by omega) (by
        have : p - 1 + 1 = p := by omega
        rw [this]; exact h0)
    · intro hlt
      have hpp := hct.2 p (by omega)
      by_cases hz : cct'.getD p 0 = 0
      · right
        obtain ⟨x, hx, c1, c2, _⟩ := inv.linv.lab p hp1 hlt hz
        have lf := letter_facts x hx
        show isUpper (ssAt st.ss (p-1)) = true ∧ ssAt st.ss (ct.getD p 0 - 1) = toLower (ssAt st.ss (p-1))
        rw [c1, c2]; exact ⟨lf.1, lf.2.1.symm⟩
      · left
        have hs := cct_sym hct inv.cok p hz
        have hs2 := cct_sym hct inv.cok (cct'.getD p 0) (by rw [hs.2.1]; omega)
        have := inv.l2 (cct'.getD p 0) hs.2.2.2.2.1 (by omega) (by rw [hs.2.1]; omega) (by rw [hs.2.1, hs.1]; exact hlt)
        rw [hs.2.1, hs.1] at this
        exact this
  · -- pairs on the same stack do not cross
    have hbrk : ∀ p, cct'.getD p 0 ≠ 0 → p < ct.getD p 0 → isOpenBr (ssAt st.ss (p-1)) = true := by
      intro p hz hlt
      have hs := cct_sym hct inv.cok p hz
      have := inv.l2 (cct'.getD p 0) hs.2.2.2.2.1 (by omega) (by rw [hs.2.1]; omega) (by rw [hs.2.1, hs.1]; exact hlt)
      rw [hs.2.1] at this
      exact this.1
    intro i i' hi hi' hlt hlt2 hleft' hcls
    have hc : openerClass (ssAt st.ss (i-1)) = openerClass (ssAt st.ss (i'-1)) := hcls
    have hil : i < ct.getD i 0 := by omega
    have hi1 : 1 ≤ i := (hct.2 i hi).1
    by_cases hz : cct'.getD i 0 = 0
    · obtain ⟨x, hx, c1, _, _⟩ := inv.linv.lab i hi1 hil hz
      have lf := letter_facts x hx
      by_cases hz' : cct'.getD i' 0 = 0
      · obtain ⟨x', hx', c1', _, _⟩ := inv.linv.lab i' (by omega) hleft' hz'
        have lf' := letter_facts x' hx'
        rw [c1, c1', lf.2.2, lf'.2.2] at hc
        injection hc with hc
        have hxx : x = x' := by omega
        subst hxx
        exact inv.linv.non i i' hi1 hil hz hleft' hz' hlt hlt2 (c1.trans c1'.symm)
      · exfalso
        have hb := hbrk i' hz' hleft'
        rw [c1, lf.2.2, openerClass_open hb] at hc
        injection hc with hc
        omega
    · have hb := hbrk i hz hil
      by_cases hz' : cct'.getD i' 0 = 0
      · exfalso
        obtain ⟨x', hx', c1', _, _⟩ := inv.linv.lab i' (by omega) hleft' hz'
        have lf' := letter_facts x' hx'
        rw [c1', lf'.2.2, openerClass_open hb] at hc
        injection hc with hc
        omega
      · have hs := cct_sym hct inv.cok i hz
        have hs' := cct_sym hct inv.cok i' hz'
        have := inv.bn (cct'.getD i 0) i' hs.2.2.2.2.1 (by omega) (by rw [hs.2.1]; omega) (by rw [hs.2.1, hs.1]; exact hil)
          (by rw [hs.2.1]; exact hlt) (by rw [hs.1]; exact hlt2) hz' (by rw [hs'.1]; exact hleft')
        rw [hs.1, hs'.1] at this
        exact this

theorem pk_roundtripGen (simple : Bool) (n : Nat) (ct : List Nat) (hct : CtOk n ct) (ss : Bytes)
    (h : ct2wussGen simple ct = .ok ss) : wuss2ct ss = some ct := by
  obtain ⟨hlen, hl, hcn⟩ := ct2wussGen_class_labels simple n ct hct ss h
  exact wuss2ct_of_class_labels' ss ct (by rw [hlen]; exact hct) hcn hl

theorem ct2wuss_class_labels (n : Nat) (ct : List Nat) (hct : CtOk n ct) (ss : Bytes) (h : ct2wuss ct = .ok ss) :
    ss.length = n ∧ ClassLabels ct ss ∧ ClassNested ct ss :=
  ct2wussGen_class_labels false n ct hct ss h

theorem pk_roundtrip' (n : Nat) (ct : List Nat) (hct : CtOk n ct) (ss : Bytes) (h : ct2wuss ct = .ok ss) :
    wuss2ct ss = some ct :=
  pk_roundtripGen false n ct hct ss h


/-- TOTALITY of `esl_ct2wuss` / `esl_ct2simplewuss` on every symmetric pair table (crossing pairs allowed): `eslOK`, or the
    documented `eslEINVAL` "Don't have enough letters to describe all different pseudoknots" — never an out-of-bounds
    access, never "Cannot find left partner", never `eslEINCONCEIVABLE`, never `eslFAIL` "found %d out of %d pairs" -/
theorem ct2wussGen_total (simple : Bool) (n : Nat) (ct : List Nat) (hct : CtOk n ct) :
    (∃ ss, ct2wussGen simple ct = .ok ss) ∨ (∃ p, ct2wussGen simple ct = .error (.einvalLetters p)) := by
  rcases ct2wussGen_run simple n ct hct with ⟨st, _, _, _, h, _⟩ | ⟨p, h, _⟩
  · exact Or.inl ⟨_, h⟩
  · exact Or.inr ⟨p, h⟩

theorem ct2wuss_total' (n : Nat) (ct : List Nat) (hct : CtOk n ct) :
    (∃ ss, ct2wuss ct = .ok ss) ∨ (∃ p, ct2wuss ct = .error (.einvalLetters p)) :=
  ct2wussGen_total false n ct hct

theorem ct2wussGen_ok_of_few (simple : Bool) (n : Nat) (ct : List Nat) (hct : CtOk n ct) (hfew : (pkPairs ct).length ≤ 26) :
    ∃ ss, ct2wussGen simple ct = .ok ss := by
  rcases ct2wussGen_run simple n ct hct with ⟨st, _, _, _, h, _⟩ | ⟨p, _, h27⟩
  · exact ⟨_, h⟩
  · omega

theorem ct2wuss_ok_of_few' (n : Nat) (ct : List Nat) (hct : CtOk n ct) (hfew : (pkPairs ct).length ≤ 26) :
    ∃ ss, ct2wuss ct = .ok ss :=
  ct2wussGen_ok_of_few false n ct hct hfew

end EaselModel.Msa
