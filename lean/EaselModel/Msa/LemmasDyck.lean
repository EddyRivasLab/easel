import EaselModel.Msa.LemmasTurn
/-! Lemmas: `esl_wuss2ct` accepts a string iff every symbol is legal and each of the 27 bracket languages
    (class 0 = `<>`, `()`, `[]`, `{}` sharing one stack; classes 1..26 = the letters `Aa`..`Zz`) is balanced and
    properly matched — each language checked on its own by the textbook single-stack recogniser `dyckRun`. -/
namespace EaselModel.Msa

/-- SPEC recogniser of ONE bracket language: symbols of other classes are skipped; the stack holds open symbols -/
def dyckRun (k : Nat) : Bytes → List UInt8 → Option (List UInt8)
  | [], st => some st
  | c :: rest, st =>
    if openerClass c = some k then dyckRun k rest (c :: st)
    else if closerClass c = some k then
      match st with
      | [] => none
      | o :: st' => if closes k o c then dyckRun k rest st' else none
    else dyckRun k rest st

def balancedClass (k : Nat) (ss : Bytes) : Prop := dyckRun k ss [] = some []

/-- the open symbols waiting on stack `k` of the C code -/
def symStack (ss : Bytes) (pda : List (List Nat)) (k : Nat) : List UInt8 :=
  (pda.getD k []).map (fun p => ss.getD (p-1) 0)

theorem all_empty_iff (pda : List (List Nat)) (h : pda.length = 27) :
    pda.all (fun s => s.isEmpty) = true ↔ ∀ k, k < 27 → pda.getD k [] = [] := by
  rw [List.all_eq_true]
  constructor
  · intro hall k hk
    have hk' : k < pda.length := by omega
    have := hall (pda[k]) (List.getElem_mem hk')
    simp only [List.getD_eq_getElem?_getD, List.getElem?_eq_getElem hk', Option.getD_some]
    simpa [-List.getD_eq_getElem?_getD] using this
  · intro hk s hs
    obtain ⟨i, hi, rfl⟩ := List.getElem_of_mem hs
    have := hk i (by omega)
    simp only [List.getD_eq_getElem?_getD, List.getElem?_eq_getElem hi, Option.getD_some] at this
    simp [-List.getD_eq_getElem?_getD, this]

theorem symStack_push_same (ss : Bytes) (pda : List (List Nat)) (k pos : Nat) (hk : k < pda.length) :
    symStack ss (pushAt pda k pos) k = ss.getD (pos-1) 0 :: symStack ss pda k := by
  simp [-List.getD_eq_getElem?_getD, symStack, pushAt, getD_set_self _ _ _ _ hk]

theorem symStack_push_other (ss : Bytes) (pda : List (List Nat)) (k k' pos : Nat) (h : k ≠ k') :
    symStack ss (pushAt pda k pos) k' = symStack ss pda k' := by
  simp [-List.getD_eq_getElem?_getD, symStack, pushAt, getD_set_ne _ _ _ _ _ h]

theorem symStack_set_same (ss : Bytes) (pda : List (List Nat)) (k : Nat) (tl : List Nat) (hk : k < pda.length) :
    symStack ss (pda.set k tl) k = tl.map (fun p => ss.getD (p-1) 0) := by
  simp [-List.getD_eq_getElem?_getD, symStack, getD_set_self _ _ _ _ hk]

theorem symStack_set_other (ss : Bytes) (pda : List (List Nat)) (k k' : Nat) (tl : List Nat) (h : k ≠ k') :
    symStack ss (pda.set k tl) k' = symStack ss pda k' := by
  simp [-List.getD_eq_getElem?_getD, symStack, getD_set_ne _ _ _ _ _ h]

theorem dyckRun_other {c : UInt8} {k : Nat} (ho : openerClass c ≠ some k) (hc : closerClass c ≠ some k) (rest : Bytes)
    (st : List UInt8) : dyckRun k (c :: rest) st = dyckRun k rest st := by
  simp [dyckRun, ho, hc]

theorem w2cLoop_iff (ss : Bytes) : ∀ (rest : Bytes) (pos : Nat) (pda : List (List Nat)) (ct : List Nat),
    ss.drop (pos-1) = rest → 1 ≤ pos → pda.length = 27 →
    ((∃ pda' ct', w2cLoop ss rest pos pda ct = some (pda', ct') ∧ pda'.all (fun s => s.isEmpty) = true) ↔
     ((∀ c ∈ rest, legalSym c = true) ∧ ∀ k, k < 27 → dyckRun k rest (symStack ss pda k) = some [])) := by
  intro rest
  induction rest with
  | nil =>
    intro pos pda ct _ _ hlen
    simp only [w2cLoop, Option.some.injEq, Prod.mk.injEq, List.not_mem_nil, false_implies, implies_true, true_and,
               dyckRun]
    constructor
    · rintro ⟨pda', ct', ⟨rfl, rfl⟩, hall⟩ k hk
      have := (all_empty_iff pda hlen).mp hall k hk
      simp [-List.getD_eq_getElem?_getD, symStack, this]
    · intro h
      refine ⟨pda, ct, ⟨rfl, rfl⟩, (all_empty_iff pda hlen).mpr (fun k hk => ?_)⟩
      have := h k hk
      simp only [symStack, List.map_eq_nil_iff] at this
      exact this
  | cons c rest ih =>
    intro pos pda ct hd hpos hlen
    obtain ⟨hc, hlt, hdrop⟩ := drop_cons_getD ss (pos-1) c rest hd
    have hd' : ss.drop (pos + 1 - 1) = rest := by
      have : pos + 1 - 1 = pos - 1 + 1 := by omega
      rw [this]; exact hdrop
    rw [List.forall_mem_cons]
    -- each class other than the one `c` belongs to passes over `c`; the recogniser of `c`'s class moves as stack `k` does
    cases turn c with
    | push k hk ho hcl hl eq =>
      rw [eq, ih (pos+1) _ ct hd' (by omega) (by simp [pushAt, hlen]), hl]
      simp only [true_and]
      refine and_congr_right fun _ => forall_congr' fun k' => imp_congr_right fun _ => ?_
      by_cases hk0 : k = k'
      · subst hk0
        rw [symStack_push_same ss pda k pos (by omega), hc]
        simp [dyckRun, ho]
      · rw [symStack_push_other ss pda k k' pos hk0, dyckRun_other (by simp [ho, hk0]) (by simp [hcl])]
    | pop k hk ho hcl hl eqNil eqCons =>
      have hoth : ∀ k', k ≠ k' → ∀ st, dyckRun k' (c :: rest) st = dyckRun k' rest st := fun k' hk0 st =>
        dyckRun_other (by simp [ho]) (by simp [hcl, hk0]) rest st
      cases hs : pda.getD k [] with
      | nil =>
        rw [eqNil _ _ _ _ _ hs]
        refine iff_of_false (fun ⟨_, _, h, _⟩ => nomatch h) fun h => ?_
        have := h.2 k hk
        simp [-List.getD_eq_getElem?_getD, dyckRun, ho, hcl, symStack, hs] at this
      | cons pair tl =>
        rw [eqCons _ _ _ _ _ _ _ hs]
        by_cases hmt : closes k (ss.getD (pair-1) 0) c = true
        · rw [if_pos hmt, ih (pos+1) _ _ hd' (by omega) (by simp [hlen]), hl]
          simp only [true_and]
          refine and_congr_right fun _ => forall_congr' fun k' => imp_congr_right fun _ => ?_
          by_cases hk0 : k = k'
          · subst hk0
            rw [symStack_set_same ss pda k tl (by omega)]
            simp [-List.getD_eq_getElem?_getD, dyckRun, ho, hcl, symStack, hs, hmt]
          · rw [symStack_set_other ss pda k k' tl hk0, hoth k' hk0]
        · rw [if_neg hmt]
          refine iff_of_false (fun ⟨_, _, h, _⟩ => nomatch h) fun h => ?_
          have := h.2 k hk
          simp [-List.getD_eq_getElem?_getD, dyckRun, ho, hcl, symStack, hs, hmt] at this
    | skip hu ho hcl hl eq =>
      rw [eq, ih (pos+1) pda ct hd' (by omega) hlen, hl]
      simp only [true_and]
      refine and_congr_right fun _ => forall_congr' fun k' => imp_congr_right fun _ => ?_
      rw [dyckRun_other (by simp [ho]) (by simp [hcl])]
    | bad _ _ _ hl eq =>
      rw [eq, hl]
      exact iff_of_false (fun ⟨_, _, h, _⟩ => nomatch h) (fun ⟨⟨h, _⟩, _⟩ => nomatch h)

theorem wuss2ct_accepts_iff' (ss : Bytes) :
    (∃ ct, wuss2ct ss = some ct) ↔ ((∀ c ∈ ss, legalSym c = true) ∧ ∀ k, k < 27 → balancedClass k ss) := by
  have h := w2cLoop_iff ss ss 1 (List.replicate 27 []) (List.replicate (ss.length + 1) 0) (by simp) (Nat.le_refl _) (by simp)
  have hsym : ∀ k, symStack ss (List.replicate 27 []) k = [] := by
    intro k
    simp only [symStack, List.getD_eq_getElem?_getD, List.getElem?_replicate]
    split <;> rfl
  simp only [hsym] at h
  unfold balancedClass
  rw [← h]
  unfold wuss2ct
  constructor
  · rintro ⟨ct, hct⟩
    split at hct
    · cases hct
    · rename_i pda ct' hrun
      split at hct
      · rename_i hall; exact ⟨pda, ct', hrun, hall⟩
      · cases hct
  · rintro ⟨pda, ct, hrun, hall⟩
    refine ⟨ct, ?_⟩
    rw [hrun]
    simp only [hall, if_true]

end EaselModel.Msa
