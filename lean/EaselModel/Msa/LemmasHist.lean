import EaselModel.Msa.LemmasSet
import EaselModel.Msa.LemmasWf
import EaselModel.Msa.LemmasRc
import EaselModel.Msa.LemmasRbb
import EaselModel.Msa.LemmasTags
import EaselModel.Msa.LemmasConv2
/-! Histories: every alignment reachable from a well-formed one by ANY chain of (successful) transformations is well
    formed, digital rows keep valid codes, and mode and alphabet stay consistent. -/
namespace EaselModel.Msa

/-- what the transformations need from an alphabet's tables (holds for the generated ones: `generated_abcOk`) -/
structure AbcOk (a : Abc) : Prop where
  Kp_le : a.Kp ≤ 255
  sym_nz : ∀ x, x < a.Kp → a.sym.getD x 0 ≠ 0
  compl_closed : ∀ compl, a.complement = some compl → ∀ x, x < a.Kp → (compl.getD x 0).toNat < a.Kp
  K_lt : a.K < a.Kp
  Kp_pos : 0 < a.Kp
  degen : a.degenOk

/-- the invariant of a history: well formed; digital mode comes with an alphabet whose codes the rows hold; text mode
    comes without alphabet -/
structure Inv (m : Msa) : Prop where
  wf : m.WF
  dig : m.isDigital = true → ∃ a, AbcOk a ∧ m.abc = some a ∧ m.codesOk a
  txt : m.isDigital = false → m.abc = none
  gsND : (m.gs.map (·.1)).Nodup
  grND : (m.gr.map (·.1)).Nodup

/-- one successful transformation -/
inductive Step : Msa → Msa → Prop where
  | col (m : Msa) (mask : List Bool) : mask.length = m.alen → (columnSubset m mask).st = .ok → Step m (columnSubset m mask).msa
  | rbb (m : Msa) (mask : List Bool) : (removeBrokenBasepairs m mask).st = .ok → Step m (removeBrokenBasepairs m mask).msa
  | setStr (m : Msa) (f : StrField) (idx : Int) (s : Option Bytes) (n : Int) : Step m (setStr m f idx s n).msa
  | formatStr (m : Msa) (f : StrField) (idx : Int) (out : Option Bytes) : Step m (formatStr m f idx out).msa
  | digitize (m : Msa) (a : Abc) : AbcOk a → (digitize a m).st = .ok → Step m (digitize a m).msa
  | textize (m : Msa) : (textize m).st = .ok → Step m (textize m).msa
  | revcomp (m : Msa) : (reverseComplement m).st = .ok → Step m (reverseComplement m).msa
  | flushLeft (m : Msa) : m.isDigital = true → (flushLeftInserts m).st = .ok → Step m (flushLeftInserts m).msa
  | markFragOld (m : Msa) (isFrag : Nat → Bool) : Step m (markFragmentsOld m isFrag)
  | seqSubset (m : Msa) (useme : List Bool) (b : Msa) : sequenceSubset m useme = .ok b → Step m b
  | degen2X (m : Msa) : (convertDegen2X m).st = .ok → Step m (convertDegen2X m).msa
  | defWgts (m : Msa) : Step m (setDefaultWeights m)
  | symConv (m : Msa) (olds news : Bytes) : (∀ x ∈ news, x ≠ 0) → (symConvert m olds news).st = .ok →
      Step m (symConvert m olds news).msa

inductive Steps : Msa → Msa → Prop where
  | refl (m : Msa) : Steps m m
  | tail (a b c : Msa) : Steps a b → Step b c → Steps a c

theorem Inv_of_same_rows (a b : Msa) (wf : a.WF) (hf : a.flags = b.flags) (ha : a.abc = b.abc)
    (hr : ∀ r ∈ a.rows, ∀ x ∈ r, ∃ r' ∈ b.rows, x ∈ r') (hgs : a.gs.map (·.1) = b.gs.map (·.1))
    (hgr : a.gr.map (·.1) = b.gr.map (·.1)) (inv : Inv b) : Inv a := by
  have hd : a.isDigital = b.isDigital := by simp [Msa.isDigital, hf]
  refine ⟨wf, ?_, ?_, by rw [hgs]; exact inv.gsND, by rw [hgr]; exact inv.grND⟩
  · intro h
    obtain ⟨al, hok, habc, hc⟩ := inv.dig (by rw [← hd]; exact h)
    refine ⟨al, hok, by rw [ha]; exact habc, ?_⟩
    intro r hr' x hx
    obtain ⟨r', hr'', hx'⟩ := hr r hr' x hx
    exact hc r' hr'' x hx'
  · intro h
    rw [ha]; exact inv.txt (by rw [← hd]; exact h)

/-- An operation that rewrites the rows one by one in the same mode keeps the invariant if the new alignment is well formed and,
    in digital mode, maps rows of valid codes to rows of valid codes. -/
theorem Inv.mapRows {m : Msa} (inv : Inv m) (f : Bytes → Bytes) (wf' : ({ m with rows := m.rows.map f } : Msa).WF)
    (hcell : ∀ a, AbcOk a → m.abc = some a → m.isDigital = true → ∀ r ∈ m.rows, (∀ x ∈ r, x.toNat < a.Kp) →
      ∀ y ∈ f r, y.toNat < a.Kp) : Inv { m with rows := m.rows.map f } := by
  refine ⟨wf', ?_, inv.txt, inv.gsND, inv.grND⟩
  intro hd
  obtain ⟨a, hA, habc, hc⟩ := inv.dig hd
  refine ⟨a, hA, habc, ?_⟩
  intro r hr y hy
  simp only [List.mem_map] at hr
  obtain ⟨r0, hr0, rfl⟩ := hr
  exact hcell a hA habc hd r0 hr0 (hc r0 hr0) y hy

theorem colFilter_inv (m : Msa) (mask : List Bool) (hm : mask.length = m.alen) (inv : Inv m) : Inv (m.colFilter mask) := by
  apply Inv_of_same_rows _ m (colFilter_wf m mask inv.wf hm) rfl rfl _ rfl
    (by simp [Msa.colFilter, List.map_map, Function.comp_def]) inv
  intro r hr x hx
  simp only [Msa.colFilter, List.mem_map] at hr
  obtain ⟨r0, hr0, rfl⟩ := hr
  exact ⟨r0, hr0, mem_maskFilter mask r0 x hx⟩

theorem rbb_inv (m : Msa) (mask : List Bool) (hok : (removeBrokenBasepairs m mask).st = .ok) (inv : Inv m) :
    Inv (removeBrokenBasepairs m mask).msa := by
  obtain ⟨wf', _, sc, ss', hform⟩ := removeBrokenBasepairs_wf m mask inv.wf hok
  apply Inv_of_same_rows _ m wf' (by rw [hform]) (by rw [hform]) _ (by rw [hform]) (by rw [hform]) inv
  intro r hr x hx
  rw [hform] at hr
  exact ⟨r, hr, hx⟩

theorem columnSubset_inv (m : Msa) (mask : List Bool) (hm : mask.length = m.alen) (hok : (columnSubset m mask).st = .ok)
    (inv : Inv m) : Inv (columnSubset m mask).msa := by
  have hplain : (∀ a, m.abc = some a → a.isNucleic = false) → Inv (columnSubset m mask).msa := fun hnuc => by
    rw [columnSubset_plain m mask inv.wf hm hnuc]; exact colFilter_inv m mask hm inv
  cases habc : m.abc with
  | none => exact hplain (fun a ha => by rw [habc] at ha; cases ha)
  | some a =>
    by_cases hn : a.isNucleic = true
    · have h := columnSubset_nucleic' m mask a inv.wf habc hn hm
      by_cases hst : (removeBrokenBasepairs m mask).st = .ok
      · obtain ⟨_, hal, _⟩ := removeBrokenBasepairs_wf m mask inv.wf hst
        rw [(h.1 hst).1]; exact colFilter_inv _ mask (by rw [hal]; exact hm) (rbb_inv m mask hst inv)
      · rw [h.2 hst] at hok; exact absurd hok hst
    · exact hplain (fun a' ha' => by rw [habc] at ha'; cases ha'; simpa using hn)

theorem isDigital_or_flag (f : Nat) : ((f ||| flagDigital) / 2 % 2 == 1) = true := by
  have e : (f ||| 2).testBit 1 = true := by rw [Nat.testBit_or]; simp; right; decide
  rw [Nat.testBit_eq_decide_div_mod_eq] at e
  simpa [flagDigital] using e

theorem digitize_inv (m : Msa) (a : Abc) (hA : AbcOk a) (hok : (digitize a m).st = .ok) (inv : Inv m) :
    Inv (digitize a m).msa := by
  obtain ⟨hd, hv'⟩ := digitize_ok_inv hok
  have hv : (m.rows.all fun r => r.all a.cIsValid) = true := by
    rw [List.all_eq_true] at hv' ⊢
    intro r hr
    have := hv' r hr
    rwa [List.take_of_length_le (by rw [(inv.wf.rows_ok r hr).1]; exact Nat.le_refl _)] at this
  have hres := digitize_eq (a := a) hd hv'
  have hwf := (digitize_wf a m inv.wf hd hv hA.Kp_le).2
  rw [hres] at hwf ⊢
  refine ⟨hwf, ?_, ?_, inv.gsND, inv.grND⟩
  · intro _
    refine ⟨a, hA, rfl, ?_⟩
    intro r hr x hx
    simp only [List.mem_map] at hr
    obtain ⟨r0, hr0, rfl⟩ := hr
    simp only [List.mem_map] at hx
    obtain ⟨c, hc, rfl⟩ := hx
    rw [List.all_eq_true] at hv
    have := hv r0 hr0
    rw [List.all_eq_true] at this
    have hcv := this c hc
    simp only [Abc.cIsValid, Bool.and_eq_true, decide_eq_true_eq] at hcv
    exact hcv.2
  · intro h
    exfalso
    have : Msa.isDigital { m with rows := m.rows.map (fun r => r.map a.digit), abc := some a, flags := m.flags ||| flagDigital } = true :=
      isDigital_or_flag m.flags
    rw [this] at h; cases h

theorem textize_inv (m : Msa) (hok : (textize m).st = .ok) (inv : Inv m) : Inv (textize m).msa := by
  have hd := (textize_ok_inv hok).1
  obtain ⟨a, hA, habc, hc⟩ := inv.dig hd
  have hwf := (textize_wf a m inv.wf hd habc hc hA.sym_nz).2
  have hres := textize_eq hd habc
  rw [hres] at hwf ⊢
  have hnd : Msa.isDigital { m with rows := m.rows.map (fun r => (r.take m.alen).map (fun x => a.sym.getD x.toNat 0)), abc := none,
                                    flags := m.flags - flagDigital } = false := by
    rcases flags_digital m inv.wf hd with h | h <;> simp [Msa.isDigital, h, flagDigital]
  refine ⟨hwf, ?_, fun _ => rfl, inv.gsND, inv.grND⟩
  intro h; rw [hnd] at h; cases h

theorem revcomp_inv (m : Msa) (hok : (reverseComplement m).st = .ok) (inv : Inv m) : Inv (reverseComplement m).msa := by
  obtain ⟨hd, a, compl, habc, hcompl⟩ := reverseComplement_ok_inv hok
  obtain ⟨a', hA, habc', hc⟩ := inv.dig hd
  rw [habc] at habc'; cases habc'
  rw [reverseComplement_eq hd habc hcompl]
  have hwf := rcMsa_wf a compl m inv.wf hd hc (hA.compl_closed compl hcompl) hA.Kp_le
  refine ⟨hwf, ?_, ?_, inv.gsND, by simpa [rcMsa, List.map_map, Function.comp_def] using inv.grND⟩
  · intro _
    refine ⟨a, hA, habc, ?_⟩
    intro r hr x hx
    simp only [rcMsa, List.mem_map] at hr
    obtain ⟨r0, hr0, rfl⟩ := hr
    simp only [revcompRow, List.mem_reverse, List.mem_map] at hx
    obtain ⟨y, hy, rfl⟩ := hx
    exact hA.compl_closed compl hcompl y.toNat (hc r0 hr0 y hy)
  · intro h
    have : (rcMsa compl m).isDigital = true := hd
    rw [this] at h; cases h

theorem flushLeft_inv (m : Msa) (hd : m.isDigital = true) (hok : (flushLeftInserts m).st = .ok) (inv : Inv m) :
    Inv (flushLeftInserts m).msa := by
  obtain ⟨a, hA, habc, _⟩ := inv.dig hd
  cases hrf : m.rf with
  | none => simp [flushLeftInserts, hrf] at hok
  | some rf =>
    have e : flushLeftInserts m = { msa := { m with rows := m.rows.map (flushRow a rf m.alen) }, st := .ok } := by
      simp [flushLeftInserts, hrf, habc]
    rw [e]
    have hg : a.xIsGap a.xGap = true := by
      have := hA.K_lt; have := hA.Kp_le
      simp [Abc.xIsGap, Abc.xGap, UInt8.toNat_ofNat]; omega
    refine inv.mapRows _ (flushLeftInserts_wf m a rf inv.wf hrf hd hg (by have := hA.K_lt; have := hA.Kp_le; omega)) ?_
    intro a' hA' habc' _ r0 _ hc0 x hx
    rw [habc] at habc'; cases habc'
    rcases flushRow_mem a rf r0 m.alen x hx with h1 | h1
    · exact hc0 x h1
    · rw [h1]
      have := hA.K_lt; have := hA.Kp_le
      simp [Abc.xGap, UInt8.toNat_ofNat]; omega

theorem markFragOld_inv (m : Msa) (isFrag : Nat → Bool) (inv : Inv m) : Inv (markFragmentsOld m isFrag) := by
  have hmiss : (fragSyms m).2 ≠ m.rowTerm := by
    cases hd : m.isDigital with
    | false => simp [fragSyms, inv.txt hd, Msa.rowTerm, hd]
    | true =>
      obtain ⟨a, hA, habc, _⟩ := inv.dig hd
      have hK := hA.Kp_le; have hp := hA.Kp_pos
      simp only [fragSyms, habc, hd, Msa.rowTerm, if_true, dsqSentinel]
      intro e
      have := congrArg UInt8.toNat e
      simp [Abc.xMissing, UInt8.toNat_ofNat] at this; omega
  refine inv.mapRows _ (markFragmentsOld_wf m isFrag inv.wf hmiss) ?_
  intro a hA habc hd r0 _ hc0 x hx
  have hK := hA.Kp_le; have hp := hA.Kp_pos
  have hm : (fragSyms m).2 = a.xMissing := by simp [fragSyms, habc, hd]
  have hmlt : (a.xMissing).toNat < a.Kp := by simp [Abc.xMissing, UInt8.toNat_ofNat]; omega
  split at hx
  · have hmt : a.xMissing.toNat = a.Kp - 1 := by
      have : a.Kp - 1 < 256 := by omega
      simp [Abc.xMissing, Nat.mod_eq_of_lt this]
    have hkk := hA.K_lt
    have hne : (fragSyms m).1 (fragSyms m).2 = false := by
      simp only [fragSyms, habc, hd, if_true, Abc.xIsResidue, hmt]
      simp; omega
    rcases (maskEnds_spec (fragSyms m).1 (fragSyms m).2 hne r0).2.2 x hx with h1 | h1
    · exact hc0 x h1
    · rw [h1, hm]; exact hmlt
  · exact hc0 x hx

theorem seqSubset_inv (m : Msa) (useme : List Bool) (b : Msa) (h : sequenceSubset m useme = .ok b) (inv : Inv m) : Inv b := by
  obtain ⟨hn, rfl⟩ := sequenceSubset_ok m useme b h
  have ht := subset_tables m useme inv.gsND inv.grND
  have hd : (sequenceSubsetMsa m useme (countSelected m useme)).isDigital = m.isDigital := rfl
  refine ⟨sequenceSubsetMsa_wf m useme inv.wf hn inv.gsND inv.grND, ?_, ?_, ht.2.2.1, ht.2.2.2.1⟩
  · intro hdig
    obtain ⟨a, hA, habc, hc⟩ := inv.dig (by rw [← hd]; exact hdig)
    refine ⟨a, hA, habc, ?_⟩
    intro r hr x hx
    exact hc r (mem_maskFilter useme m.rows r hr) x hx
  · intro htx
    exact inv.txt (by rw [← hd]; exact htx)

theorem degen2X_inv (m : Msa) (hok : (convertDegen2X m).st = .ok) (inv : Inv m) : Inv (convertDegen2X m).msa := by
  have hd : m.isDigital = true := by
    cases h : m.isDigital with
    | true => rfl
    | false => simp [convertDegen2X, h] at hok
  obtain ⟨a, hA, habc, _⟩ := inv.dig hd
  have e : convertDegen2X m = { msa := { m with rows := m.rows.map (degen2XRow a) }, st := .ok } := by
    simp [convertDegen2X, hd, habc]
  rw [e]
  refine inv.mapRows _ (convertDegen2X_wf a hA.degen m inv.wf hd) ?_
  intro a' hA' habc' _ r0 _ hc0 x hx
  rw [habc] at habc'; cases habc'
  simp only [degen2XRow, List.mem_map] at hx
  obtain ⟨y, hy, rfl⟩ := hx
  exact (degen2X_cell a hA.degen y).valid (hc0 y hy)

theorem defWgts_inv (m : Msa) (inv : Inv m) : Inv (setDefaultWeights m) := by
  have hdig : (setDefaultWeights m).isDigital = m.isDigital := (setDefaultWeights_spec m).2.2.1
  have hterm : (setDefaultWeights m).rowTerm = m.rowTerm := by simp [Msa.rowTerm, hdig]
  have wf := inv.wf
  refine ⟨?_, ?_, ?_, inv.gsND, inv.grND⟩
  · exact { wf with
      flags_lt := by have := wf.flags_lt; simp only [setDefaultWeights]; omega
      rows_ok := by rw [hterm]; exact wf.rows_ok
      wgt_len := by simp [setDefaultWeights, wf.wgt_len] }
  · intro h; exact inv.dig (by rw [← hdig]; exact h)
  · intro h; exact inv.txt (by rw [← hdig]; exact h)

theorem symConv_inv (m : Msa) (olds news : Bytes) (hn : ∀ x ∈ news, x ≠ 0) (hok : (symConvert m olds news).st = .ok)
    (inv : Inv m) : Inv (symConvert m olds news).msa := by
  obtain ⟨hd, hlen⟩ := symConvert_ok_inv hok
  obtain ⟨e, wf'⟩ := symConvert_ok m olds news inv.wf hd hlen hn
  rw [e]
  exact inv.mapRows _ wf' (fun _ _ _ h => by rw [hd] at h; cases h)

theorem step_inv (m m' : Msa) (h : Step m m') (inv : Inv m) : Inv m' := by
  cases h with
  | col mask hm hok => exact columnSubset_inv m mask hm hok inv
  | rbb mask hok => exact rbb_inv m mask hok inv
  | setStr f idx s n =>
    have hs := setStr_same m f idx s n
    exact Inv_of_same_rows _ m (setStr_wf m inv.wf f idx s n) hs.flags hs.abc (fun r hr x hx => ⟨r, by rw [← hs.rows]; exact hr, hx⟩)
      (by rw [hs.gs]) (by rw [hs.gr]) inv
  | formatStr f idx out =>
    have hs := formatStr_same m f idx out
    exact Inv_of_same_rows _ m (formatStr_wf m inv.wf f idx out) hs.flags hs.abc (fun r hr x hx => ⟨r, by rw [← hs.rows]; exact hr, hx⟩)
      (by rw [hs.gs]) (by rw [hs.gr]) inv
  | digitize a hA hok => exact digitize_inv m a hA hok inv
  | textize hok => exact textize_inv m hok inv
  | revcomp hok => exact revcomp_inv m hok inv
  | flushLeft hd hok => exact flushLeft_inv m hd hok inv
  | markFragOld isFrag => exact markFragOld_inv m isFrag inv
  | seqSubset useme _ hb => exact seqSubset_inv m useme m' hb inv
  | degen2X hok => exact degen2X_inv m hok inv
  | defWgts => exact defWgts_inv m inv
  | symConv olds news hn hok => exact symConv_inv m olds news hn hok inv

theorem steps_inv (m m' : Msa) (h : Steps m m') (inv : Inv m) : Inv m' := by
  induction h with
  | refl => exact inv
  | tail b c _ hbc ih => exact step_inv b c hbc ih

theorem mem_modify {α : Type} (f : α → α) (d : α) : ∀ (l : List α) (i : Nat) (x : α), x ∈ l.modify i f →
    x ∈ l ∨ (i < l.length ∧ x = f (l.getD i d))
  | [], _, x, h => by simp at h
  | a :: l, 0, x, h => by
    simp only [List.modify_zero_cons, List.mem_cons] at h
    rcases h with h | h
    · exact Or.inr ⟨by simp, by simpa using h⟩
    · exact Or.inl (List.mem_cons_of_mem _ h)
  | a :: l, i+1, x, h => by
    simp only [List.modify_succ_cons, List.mem_cons] at h
    rcases h with h | h
    · exact Or.inl (by simp [h])
    · rcases mem_modify f d l i x h with h1 | ⟨h1, h2⟩
      · exact Or.inl (List.mem_cons_of_mem _ h1)
      · exact Or.inr ⟨by simp; omega, by simpa using h2⟩

theorem tblUpdate_mem (nnew : Nat) (f : Option Bytes → Option Bytes) (tag : Bytes) (nidx : Nat) :
    ∀ (tbl : TagTable), ∀ t ∈ tblUpdate nnew f tag nidx tbl, ∀ s ∈ t.2,
      (∃ t' ∈ tbl, s ∈ t'.2) ∨ s = none ∨ s = f (tblLookup tag nidx tbl)
  | [], t, ht, s, hs => by
    simp only [tblUpdate, List.mem_singleton] at ht
    subst ht
    rcases mem_modify f none _ nidx s hs with h | ⟨_, h⟩
    · exact Or.inr (Or.inl (by simpa using (List.eq_of_mem_replicate h)))
    · right; right
      rw [h]
      congr 1
      simp [tblLookup, List.getD_eq_getElem?_getD, List.getElem?_replicate]
      split <;> rfl
  | (t0, vals) :: rest, t, ht, s, hs => by
    simp only [tblUpdate] at ht
    by_cases e : t0 = tag
    · simp only [e, if_true, List.mem_cons] at ht
      rcases ht with ht | ht
      · subst ht
        rcases mem_modify f none vals nidx s hs with h | ⟨_, h⟩
        · exact Or.inl ⟨(t0, vals), by simp, h⟩
        · right; right; rw [h]; simp [tblLookup, e]
      · exact Or.inl ⟨t, by simp [ht], hs⟩
    · simp only [e, if_false, List.mem_cons] at ht
      rcases ht with ht | ht
      · subst ht; exact Or.inl ⟨(t0, vals), by simp, hs⟩
      · rcases tblUpdate_mem nnew f tag nidx rest t ht s hs with ⟨t', ht', h⟩ | h | h
        · exact Or.inl ⟨t', by simp [ht'], h⟩
        · exact Or.inr (Or.inl h)
        · right; right; rw [h]; simp [tblLookup, e]

/-- one call of a markup adder, under the contract its callers (the Stockholm/Pfam parsers) keep: a per-residue GR value
    completes its slot to exactly `alen` characters, a GC line is new and `alen` long -/
inductive StepM : Msa → Msa → Prop where
  | addComment (m : Msa) (v : Bytes) : StepM m (addComment m v)
  | addGF (m : Msa) (tag v : Bytes) : StepM m (addGF m tag v)
  | addGS (m : Msa) (tag : Bytes) (i : Nat) (v : Bytes) : i < m.nseq → StepM m { m with gs := addGS m.nseq m.gs tag i v }
  | appendGR (m : Msa) (tag : Bytes) (i : Nat) (v : Bytes) : i < m.nseq →
      optOk m.alen (grStore v (tblLookup tag i m.gr)) → StepM m { m with gr := appendGR m.nseq m.gr tag i v }
  | appendGC (m : Msa) (tag v : Bytes) : tag ∉ m.gc.map (·.1) → strOk m.alen 0 v →
      StepM m { m with gc := appendGC m.gc tag v }

theorem appendGC_new' (tbl : List (Bytes × Bytes)) (tag v : Bytes) (h : tag ∉ tbl.map (·.1)) :
    appendGC tbl tag v = tbl ++ [(tag, v)] := by
  unfold appendGC
  have : tbl.findIdx? (fun t => t.1 == tag) = none := by
    rw [List.findIdx?_eq_none_iff]
    intro t ht
    simp only [beq_iff_eq, Bool.not_eq_true, beq_eq_false_iff_ne, ne_eq]
    intro e; exact h (List.mem_map.2 ⟨t, ht, e⟩)
  rw [this]

theorem stepM_inv (m m' : Msa) (h : StepM m m') (inv : Inv m) : Inv m' := by
  have wf := inv.wf
  cases h with
  | addComment v => exact ⟨{ wf with }, inv.dig, inv.txt, inv.gsND, inv.grND⟩
  | addGF tag v => exact ⟨{ wf with }, inv.dig, inv.txt, inv.gsND, inv.grND⟩
  | addGS tag i v hi =>
    refine ⟨{ wf with gs_len := ?_ }, inv.dig, inv.txt, tblUpdate_nodup _ _ _ _ _ inv.gsND, inv.grND⟩
    exact tblUpdate_width m.nseq (gsStore v) tag i m.gs wf.gs_len
  | appendGR tag i v hi hres =>
    refine ⟨{ wf with gr_len := ?_, gr_ok := ?_ }, inv.dig, inv.txt, inv.gsND, tblUpdate_nodup _ _ _ _ _ inv.grND⟩
    · exact tblUpdate_width m.nseq (grStore v) tag i m.gr wf.gr_len
    · intro t ht s hs
      rcases tblUpdate_mem m.nseq (grStore v) tag i m.gr t ht s hs with ⟨t', ht', h⟩ | h | h
      · exact wf.gr_ok t' ht' s h
      · rw [h]; intro b hb; cases hb
      · rw [h]; exact hres
  | appendGC tag v hnew hv =>
    refine ⟨{ wf with gc_ok := ?_ }, inv.dig, inv.txt, inv.gsND, inv.grND⟩
    intro t ht
    simp only [appendGC_new' m.gc tag v hnew, List.mem_append, List.mem_singleton] at ht
    rcases ht with ht | ht
    · exact wf.gc_ok t ht
    · rw [ht]; exact hv

/-- a transformation or a markup adder -/
inductive Step2 : Msa → Msa → Prop where
  | op (m m' : Msa) : Step m m' → Step2 m m'
  | markup (m m' : Msa) : StepM m m' → Step2 m m'

inductive Steps2 : Msa → Msa → Prop where
  | refl (m : Msa) : Steps2 m m
  | tail (a b c : Msa) : Steps2 a b → Step2 b c → Steps2 a c

theorem steps2_inv (m m' : Msa) (h : Steps2 m m') (inv : Inv m) : Inv m' := by
  induction h with
  | refl => exact inv
  | tail b c _ hbc ih =>
    cases hbc with
    | op hs => exact step_inv b c hs ih
    | markup hs => exact stepM_inv b c hs ih

/-- the contract of `StepM.appendGR` in the usual case: the slot is still empty and the value is one full line -/
theorem appendGR_contract_of_empty (alen : Nat) (tag : Bytes) (i : Nat) (v : Bytes) (gr : TagTable)
    (he : tblLookup tag i gr = none) (hv : strOk alen 0 v) : optOk alen (grStore v (tblLookup tag i gr)) := by
  rw [he]
  intro b hb
  unfold grStore at hb
  split at hb
  · cases hb
  · simp only [Option.getD_none, List.nil_append, Option.some.injEq] at hb
    subst hb; exact hv

end EaselModel.Msa
