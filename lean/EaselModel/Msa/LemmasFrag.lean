import EaselModel.Msa.Spec
import EaselModel.Core.ListLookup
/-! Lemmas: `esl_msa_MarkFragments_old` and `esl_msa_FlushLeftInserts` keep every row's residues and its length; the two scans
    of `esl_msa_MarkFragments` find the first and the last residue of a row. -/
namespace EaselModel.Msa

theorem maskLead_length (isRes : UInt8 → Bool) (miss : UInt8) : ∀ (r : Bytes), (maskLead isRes miss r).length = r.length
  | [] => rfl
  | c :: rest => by
    simp only [maskLead]; split
    · rfl
    · simp [maskLead_length isRes miss rest]

theorem maskLead_filter (isRes : UInt8 → Bool) (miss : UInt8) (hm : isRes miss = false) :
    ∀ (r : Bytes), (maskLead isRes miss r).filter isRes = r.filter isRes
  | [] => rfl
  | c :: rest => by
    simp only [maskLead]; split
    · rfl
    · rename_i hc
      have hc' : isRes c = false := by simpa using hc
      simp [List.filter_cons, hm, hc', maskLead_filter isRes miss hm rest]

/-- every cell is either unchanged or a non-residue turned into the missing-data symbol -/
theorem maskLead_cells (isRes : UInt8 → Bool) (miss : UInt8) : ∀ (r : Bytes) (i : Nat),
    (maskLead isRes miss r).getD i 0 = r.getD i 0 ∨
    (isRes (r.getD i 0) = false ∧ (maskLead isRes miss r).getD i 0 = miss ∧ i < r.length)
  | [], i => by simp [maskLead]
  | c :: rest, i => by
    simp only [maskLead]; split
    · exact Or.inl rfl
    · rename_i hc
      cases i with
      | zero => right; simp; simpa using hc
      | succ i =>
        rcases maskLead_cells isRes miss rest i with h | h
        · left; simpa using h
        · right; simpa using h

theorem maskLead_mem (isRes : UInt8 → Bool) (miss : UInt8) : ∀ (r : Bytes) (c : UInt8),
    c ∈ maskLead isRes miss r → c ∈ r ∨ c = miss
  | [], c, h => by simp [maskLead] at h
  | x :: rest, c, h => by
    simp only [maskLead] at h; split at h
    · exact Or.inl h
    · simp only [List.mem_cons] at h
      rcases h with rfl | h
      · exact Or.inr rfl
      · rcases maskLead_mem isRes miss rest c h with h | h
        · exact Or.inl (List.mem_cons_of_mem _ h)
        · exact Or.inr h

theorem maskEnds_length (isRes : UInt8 → Bool) (miss : UInt8) (r : Bytes) : (maskEnds isRes miss r).length = r.length := by
  simp [maskEnds, maskLead_length]

theorem maskEnds_mem (isRes : UInt8 → Bool) (miss : UInt8) (r : Bytes) (c : UInt8) (hc : c ∈ maskEnds isRes miss r) :
    c ∈ r ∨ c = miss := by
  simp only [maskEnds, List.mem_reverse] at hc
  rcases maskLead_mem isRes miss _ c hc with h | h
  · exact maskLead_mem isRes miss r c (List.mem_reverse.1 h)
  · exact Or.inr h

theorem maskEnds_spec (isRes : UInt8 → Bool) (miss : UInt8) (hm : isRes miss = false) (r : Bytes) :
    (maskEnds isRes miss r).length = r.length ∧ (maskEnds isRes miss r).filter isRes = r.filter isRes ∧
    ∀ c ∈ maskEnds isRes miss r, c ∈ r ∨ c = miss := by
  refine ⟨maskEnds_length isRes miss r, ?_, maskEnds_mem isRes miss r⟩
  simp only [maskEnds, List.filter_reverse, maskLead_filter isRes miss hm, List.reverse_reverse]

/-- `flushGo` only appends, and what it appends depends only on the number `d` of cells the write position lags behind -/
theorem flushGo_append (abc : Abc) : ∀ (rf row : Bytes) (d : Nat) (out : Bytes),
    flushGo abc rf row (out.length + d) out = out ++ flushGo abc rf row d []
  | [], _, _, out => by simp [flushGo]
  | _ :: _, [], _, out => by simp [flushGo]
  | rfc :: rf, x :: row, d, out => by
    have e : out.length + d - out.length = d := by omega
    have i1 := flushGo_append abc rf row 0 (out ++ List.replicate d abc.xGap ++ [x])
    have i2 := flushGo_append abc rf row 0 (List.replicate d abc.xGap ++ [x])
    have i3 := flushGo_append abc rf row (d+1) out
    have i4 := flushGo_append abc rf row d (out ++ [x])
    have i5 := flushGo_append abc rf row d [x]
    simp only [List.length_append, List.length_replicate, List.length_cons, List.length_nil, Nat.add_zero, Nat.zero_add,
      Nat.add_assoc, Nat.add_comm 1 d] at i1 i2 i4 i5
    simp only [flushGo, e, Nat.sub_zero, List.nil_append, List.length_nil, Nat.add_assoc]
    split
    · rw [i1, i2]; simp
    · split
      · rw [i3]
      · rw [i4, i5]; simp

/-- one step of the scan from an empty output -/
theorem flushGo_nil_cons (abc : Abc) (rfc x : UInt8) (rf row : Bytes) (d : Nat) :
    flushGo abc (rfc :: rf) (x :: row) d [] =
      if !abc.cIsGap rfc then List.replicate d abc.xGap ++ x :: flushGo abc rf row 0 []
      else if abc.xIsGap x then flushGo abc rf row (d+1) []
      else x :: flushGo abc rf row d [] := by
  have i2 := flushGo_append abc rf row 0 (List.replicate d abc.xGap ++ [x])
  have i5 := flushGo_append abc rf row d [x]
  simp only [List.length_append, List.length_replicate, List.length_cons, List.length_nil, Nat.add_zero, Nat.zero_add,
    Nat.add_comm 1 d] at i2 i5
  simp only [flushGo, Nat.sub_zero, List.nil_append, List.length_nil]
  split
  · rw [i2]; simp
  · split
    · rfl
    · rw [i5]; simp

theorem getD_replicate_append_cons (g x : UInt8) (d k : Nat) (t : Bytes) :
    (List.replicate d g ++ x :: t).getD (d + k) 0 = (x :: t).getD k 0 := by
  rw [List.getD_eq_getElem?_getD, List.getElem?_append_right (by simp)]; simp

/-- the scan from an empty output, `d` cells behind: at most `d` pads are owed; the residues come out in order; a consensus
    column keeps its own cell -/
theorem flushGo_nil_spec (abc : Abc) (hg : abc.xIsGap abc.xGap = true) :
    ∀ (rf row : Bytes) (d : Nat), rf.length = row.length →
      (flushGo abc rf row d []).length ≤ d + row.length ∧
      (flushGo abc rf row d []).filter (fun x => !abc.xIsGap x) = row.filter (fun x => !abc.xIsGap x) ∧
      (∀ i, i < row.length → abc.cIsGap (rf.getD i 0) = false →
        d + i < (flushGo abc rf row d []).length ∧ (flushGo abc rf row d []).getD (d + i) 0 = row.getD i 0)
  | [], [], d, _ => by simp [flushGo]
  | [], _ :: _, _, hl => by simp at hl
  | _ :: _, [], _, hl => by simp at hl
  | rfc :: rf, x :: row, d, hl => by
    have hl' : rf.length = row.length := by simpa using hl
    rw [flushGo_nil_cons]
    by_cases hcons : abc.cIsGap rfc = false
    · obtain ⟨h1, h2, h3⟩ := flushGo_nil_spec abc hg rf row 0 hl'
      simp only [hcons, Bool.not_false, if_true]
      refine ⟨by simp; omega, ?_, fun i hi hc => ?_⟩
      · simp [List.filter_append, hg, List.filter_cons, h2]
      · rw [getD_replicate_append_cons]
        cases i with
        | zero => simp
        | succ i =>
          have := h3 i (by simpa using hi) (by simpa using hc)
          simp only [Nat.zero_add] at this
          exact ⟨by simp; omega, by simpa using this.2⟩
    · have hins : abc.cIsGap rfc = true := by simpa using hcons
      simp only [hins, Bool.not_true, Bool.false_eq_true, if_false]
      have skip : ∀ i, i < (x :: row).length → abc.cIsGap ((rfc :: rf).getD i 0) = false → ∃ j, i = j + 1 ∧ j < row.length ∧
          abc.cIsGap (rf.getD j 0) = false := by
        intro i hi hc
        cases i with
        | zero => simp [hins] at hc
        | succ j => exact ⟨j, rfl, by simpa using hi, by simpa using hc⟩
      by_cases hx : abc.xIsGap x = true
      · obtain ⟨h1, h2, h3⟩ := flushGo_nil_spec abc hg rf row (d+1) hl'
        simp only [hx, if_true]
        refine ⟨by simp; omega, by rw [h2]; simp [hx], fun i hi hc => ?_⟩
        obtain ⟨j, rfl, hj, hcj⟩ := skip i hi hc
        rw [show d + (j + 1) = d + 1 + j by omega]
        exact h3 j hj hcj
      · obtain ⟨h1, h2, h3⟩ := flushGo_nil_spec abc hg rf row d hl'
        simp only [hx]
        refine ⟨by simp; omega, by simp [hx, h2], fun i hi hc => ?_⟩
        obtain ⟨j, rfl, hj, hcj⟩ := skip i hi hc
        exact ⟨Nat.succ_lt_succ (h3 j hj hcj).1, (h3 j hj hcj).2⟩

theorem flushGo_nil_mem (abc : Abc) : ∀ (rf row : Bytes) (d : Nat) (c : UInt8),
    c ∈ flushGo abc rf row d [] → c ∈ row ∨ c = abc.xGap
  | [], _, _, c, h => by simp [flushGo] at h
  | _ :: _, [], _, c, h => by simp [flushGo] at h
  | rfc :: rf, x :: row, d, c, h => by
    rw [flushGo_nil_cons] at h
    have ih := fun d h => flushGo_nil_mem abc rf row d c h
    split at h
    · simp only [List.mem_append, List.mem_replicate, List.mem_cons] at h
      rcases h with ⟨_, h⟩ | rfl | h
      · exact Or.inr h
      · exact Or.inl (by simp)
      · exact (ih 0 h).imp_left (List.mem_cons_of_mem _)
    · split at h
      · exact (ih _ h).imp_left (List.mem_cons_of_mem _)
      · rcases List.mem_cons.1 h with rfl | h
        · exact Or.inl (by simp)
        · exact (ih d h).imp_left (List.mem_cons_of_mem _)

theorem flushRow_spec (abc : Abc) (hg : abc.xIsGap abc.xGap = true) (rf row : Bytes) (alen : Nat)
    (hrf : rf.length = alen) (hrow : row.length = alen) :
    (flushRow abc rf alen row).length = alen ∧
    (flushRow abc rf alen row).filter (fun x => !abc.xIsGap x) = row.filter (fun x => !abc.xIsGap x) ∧
    (∀ i, i < alen → abc.cIsGap (rf.getD i 0) = false → (flushRow abc rf alen row).getD i 0 = row.getD i 0) := by
  have h1 : rf.take alen = rf := List.take_of_length_le (by omega)
  have h2 : row.take alen = row := List.take_of_length_le (by omega)
  obtain ⟨s1, s2, s3⟩ := flushGo_nil_spec abc hg rf row 0 (by omega)
  simp only [flushRow, h1, h2]
  refine ⟨by simp at s1 ⊢; omega, ?_, fun i hi hc => ?_⟩
  · have hrep : (List.replicate (alen - (flushGo abc rf row 0 []).length) abc.xGap).filter (fun x => !abc.xIsGap x) = [] := by
      simp [hg]
    rw [List.filter_append, hrep, s2]; simp
  · obtain ⟨h3, h4⟩ := s3 i (by omega) hc
    simp only [Nat.zero_add] at h3 h4
    rw [← h4]
    simp [List.getD_eq_getElem?_getD, List.getElem?_append_left, h3]

theorem flushRow_mem (abc : Abc) (rf row : Bytes) (alen : Nat) (c : UInt8) (h : c ∈ flushRow abc rf alen row) :
    c ∈ row ∨ c = abc.xGap := by
  unfold flushRow at h
  simp only [List.mem_append, List.mem_replicate] at h
  rcases h with h | ⟨_, h⟩
  · exact (flushGo_nil_mem abc _ _ 0 c h).imp_left List.mem_of_mem_take
  · exact Or.inr h

theorem firstIdx_eq_findIdx (p : UInt8 → Bool) (r : Bytes) : firstIdx p r = r.findIdx p :=
  List.findIdx_eq_getD_findIdx?.symm

theorem firstIdx_spec (p : UInt8 → Bool) (r : Bytes) :
    (firstIdx p r = r.length ∧ ∀ c ∈ r, p c = false) ∨
    (firstIdx p r < r.length ∧ p (r.getD (firstIdx p r) 0) = true ∧ ∀ k, k < firstIdx p r → p (r.getD k 0) = false) := by
  rw [firstIdx_eq_findIdx]
  rcases Nat.lt_or_ge (r.findIdx p) r.length with h | h
  · refine Or.inr ⟨h, ?_, fun k hk => ?_⟩
    · rw [getD_eq_getElem_of_lt 0 h]; exact List.findIdx_getElem
    · rw [getD_eq_getElem_of_lt 0 (Nat.lt_trans hk h)]; simpa using List.not_of_lt_findIdx hk
  · have e := Nat.le_antisymm List.findIdx_le_length h
    exact Or.inl ⟨e, fun c hc => by simpa using List.findIdx_eq_length.1 e c hc⟩

/-- no hit: the scan runs off the end -/
theorem firstIdx_eq_length {p : UInt8 → Bool} {r : Bytes} (h : ∀ c ∈ r, p c = false) : firstIdx p r = r.length := by
  rw [firstIdx_eq_findIdx]; exact List.findIdx_eq_length_of_false h

/-- the scan stops at `f` when `f` is a hit and nothing before it is -/
theorem firstIdx_eq_of {p : UInt8 → Bool} {r : Bytes} {f : Nat} (hf : f < r.length) (h1 : p (r.getD f 0) = true)
    (h2 : ∀ k, k < f → p (r.getD k 0) = false) : firstIdx p r = f := by
  rw [firstIdx_eq_findIdx, List.findIdx_eq hf]
  rw [getD_eq_getElem_of_lt 0 hf] at h1
  refine ⟨h1, fun j hj => ?_⟩
  have := h2 j hj
  rwa [getD_eq_getElem_of_lt 0 (Nat.lt_trans hj hf)] at this

theorem getD_reverse (r : Bytes) (k : Nat) (hk : k < r.length) : r.reverse.getD k 0 = r.getD (r.length - 1 - k) 0 := by
  simp [List.getD_eq_getElem?_getD, List.getElem?_reverse hk]

/-- the flag `esl_msa_MarkFragments` computes for one row -/
def fragFlag (isRes : UInt8 → Bool) (alen : Nat) (minspan : Int) (r : Bytes) : Bool :=
  decide (((lastIdx1 isRes (r.take alen) : Nat) : Int) - ((firstIdx isRes (r.take alen) : Nat) + 1 : Int) + 1 < minspan)

/-- a row without any residue: `lpos = alen+1, rpos = 0` (text mode: `alen`, `-1`), span `-alen` -/
theorem fragFlag_empty (isRes : UInt8 → Bool) (minspan : Int) (r : Bytes) (h : ∀ c ∈ r, isRes c = false) :
    fragFlag isRes r.length minspan r = decide (-(r.length : Int) < minspan) := by
  unfold fragFlag
  rw [List.take_length]
  have h2 : firstIdx isRes r.reverse = r.length := by
    rw [firstIdx_eq_length fun c hc => h c (List.mem_reverse.1 hc), List.length_reverse]
  simp only [lastIdx1, firstIdx_eq_length h, h2]
  congr 1
  apply propext
  constructor <;> intro h' <;> omega

/-- a row whose first residue is at index `f` and whose last residue is at index `l` (0-based): span `l - f + 1` -/
theorem fragFlag_span (isRes : UInt8 → Bool) (minspan : Int) (r : Bytes) (f l : Nat) (hf : f < r.length) (hl : l < r.length)
    (hf1 : isRes (r.getD f 0) = true) (hf2 : ∀ k, k < f → isRes (r.getD k 0) = false)
    (hl1 : isRes (r.getD l 0) = true) (hl2 : ∀ k, l < k → k < r.length → isRes (r.getD k 0) = false) :
    fragFlag isRes r.length minspan r = decide ((l : Int) - f + 1 < minspan) := by
  unfold fragFlag
  rw [List.take_length]
  -- from the right end the last residue is the first hit, at distance `|r| - 1 - l`
  have h2 : firstIdx isRes r.reverse = r.length - 1 - l := by
    refine firstIdx_eq_of (by rw [List.length_reverse]; omega) ?_ fun k hk => ?_
    · rw [getD_reverse r _ (by omega)]
      have e : r.length - 1 - (r.length - 1 - l) = l := by omega
      rw [e]; exact hl1
    · rw [getD_reverse r _ (by omega)]; exact hl2 _ (by omega) (by omega)
  simp only [lastIdx1, firstIdx_eq_of hf hf1 hf2, h2]
  congr 1
  apply propext
  constructor <;> intro h' <;> omega

/-- what `esl_msa_MarkFragments` calls a residue: `esl_abc_XIsResidue` in digital mode, `isalpha` in text mode -/
def fragIsRes (m : Msa) : UInt8 → Bool :=
  match m.abc with
  | some a => if m.isDigital then a.xIsResidue else isAlpha
  | none => isAlpha

theorem markFragments_eq (m : Msa) (minspan : Int) :
    markFragments m minspan = m.rows.map (fragFlag (fragIsRes m) m.alen minspan) := by
  unfold markFragments fragFlag fragIsRes
  rfl

end EaselModel.Msa
