import EaselModel.Msa.LemmasFrag
import EaselModel.Msa.LemmasMsa
import EaselModel.Msa.LemmasConv
/-! Lemmas: well-formedness after `esl_msa_FlushLeftInserts`, `esl_msa_MarkFragments_old`, `esl_msa_Digitize`, `esl_msa_Textize`. -/
namespace EaselModel.Msa

theorem flushLeftInserts_wf (m : Msa) (a : Abc) (rf : Bytes) (wf : m.WF) (hrf : m.rf = some rf)
    (hd : m.isDigital = true) (hg : a.xIsGap a.xGap = true) (hK : a.K < 255) :
    ({ m with rows := m.rows.map (flushRow a rf m.alen) } : Msa).WF := by
  have ht0 : m.rowTerm = dsqSentinel := by simp [Msa.rowTerm, hd]
  refine wf.mapRows _ fun r0 hr0 => ?_
  have h0 := wf.rows_ok r0 hr0
  refine ⟨(flushRow_spec a hg rf r0 m.alen (wf.rf_ok rf hrf).1 h0.1).1, ?_⟩
  intro c hc
  rcases flushRow_mem a rf r0 m.alen c hc with h1 | h1
  · exact h0.2 c h1
  · rw [h1, ht0]
    intro e
    have := congrArg UInt8.toNat e
    simp [Abc.xGap, dsqSentinel] at this
    omega

theorem markFragmentsOld_wf (m : Msa) (isFrag : Nat → Bool) (wf : m.WF)
    (hmiss : (fragSyms m).2 ≠ m.rowTerm) : (markFragmentsOld m isFrag).WF := by
  refine wf.mapRows _ fun r0 hr0 => ?_
  have h0 := wf.rows_ok r0 hr0
  split
  · refine ⟨by rw [maskEnds_length]; exact h0.1, fun c hc => ?_⟩
    rcases maskEnds_mem _ _ _ c hc with h1 | h1
    · exact h0.2 c h1
    · rw [h1]; exact hmiss
  · exact h0

/-- `esl_msa_Digitize` on a well-formed text alignment whose residues are all valid symbols: the digital alignment is well
    formed (codes below `Kp`, so no sentinel inside a row) -/
theorem digitize_wf (a : Abc) (m : Msa) (wf : m.WF) (hd : m.isDigital = false)
    (hv : (m.rows.all fun r => r.all a.cIsValid) = true) (hKp : a.Kp ≤ 255) :
    (digitize a m).st = .ok ∧ (digitize a m).msa.WF := by
  have hfl := flags_text m wf hd
  have hv' : (m.rows.all fun r => (r.take m.alen).all a.cIsValid) = true := by
    rw [List.all_eq_true] at hv ⊢
    intro r hr
    have := hv r hr
    rw [List.all_eq_true] at this ⊢
    intro c hc
    exact this c (List.mem_of_mem_take hc)
  rw [digitize_eq hd hv']
  refine ⟨rfl, ?_⟩
  have hT : (if (m.flags ||| flagDigital) / 2 % 2 == 1 then dsqSentinel else (0 : UInt8)) = dsqSentinel := by
    rcases hfl with h | h <;> simp [h, flagDigital]
  refine wf.mapRowsMode _ _ _ (by rcases hfl with h | h <;> simp [h, flagDigital]) fun r0 hr0 => ?_
  have h0 := wf.rows_ok r0 hr0
  refine ⟨by simp [h0.1], ?_⟩
  intro c hc
  simp only [List.mem_map] at hc
  obtain ⟨x, hx, rfl⟩ := hc
  rw [hT]
  have hvx : a.cIsValid x = true := by
    rw [List.all_eq_true] at hv
    have := hv r0 hr0
    rw [List.all_eq_true] at this
    exact this x hx
  simp only [Abc.cIsValid, Bool.and_eq_true, decide_eq_true_eq] at hvx
  intro e
  have := congrArg UInt8.toNat e
  simp [dsqSentinel] at this
  omega

/-- `esl_msa_Textize` on a well-formed digital alignment whose codes are valid: the text alignment is well formed (every
    symbol of the alphabet is a non-NUL character) -/
theorem textize_wf (a : Abc) (m : Msa) (wf : m.WF) (hd : m.isDigital = true) (habc : m.abc = some a) (hc : m.codesOk a)
    (hsym : ∀ x, x < a.Kp → a.sym.getD x 0 ≠ 0) : (textize m).st = .ok ∧ (textize m).msa.WF := by
  have hfl := flags_digital m wf hd
  rw [textize_eq hd habc]
  refine ⟨rfl, ?_⟩
  have hT : (if (m.flags - flagDigital) / 2 % 2 == 1 then dsqSentinel else (0 : UInt8)) = 0 := by
    rcases hfl with h | h <;> simp [h, flagDigital]
  refine wf.mapRowsMode _ _ _ (by rcases hfl with h | h <;> simp [h, flagDigital]) fun r0 hr0 => ?_
  have h0 := wf.rows_ok r0 hr0
  refine ⟨by simp [h0.1], ?_⟩
  intro c hcm
  simp only [List.mem_map] at hcm
  obtain ⟨x, hx, rfl⟩ := hcm
  rw [hT]
  exact hsym x.toNat (hc r0 hr0 x (List.mem_of_mem_take hx))

end EaselModel.Msa
