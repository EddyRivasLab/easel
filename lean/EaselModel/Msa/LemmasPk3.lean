import EaselModel.Msa.LemmasPkLetter
/-! Lemmas: the invariant `GInv` of the main loop of `esl_ct2wuss` on an ARBITRARY symmetric pair table, and one turn of that
    loop under it (`c2wMain_turn`). -/
namespace EaselModel.Msa

theorem letter_facts : ∀ x, x < 26 →
    isUpper (UInt8.ofNat (65 + x)) = true ∧ toLower (UInt8.ofNat (65 + x)) = UInt8.ofNat (97 + x) ∧
    openerClass (UInt8.ofNat (65 + x)) = some (x + 1) := by decide +kernel

/-- invariant of the main loop on an arbitrary table; `cct` / `rb` are the working table and the letter bounds as lists -/
structure GInv (n : Nat) (ct : List Nat) (j : Nat) (pda : List Int) (st : C2W) (cct : List Nat) (rb : List Int) : Prop where
  hcct : st.cct = cct.toArray
  hrb : st.rb = rb.toArray
  cok : CctOk n ct cct
  nopk : st.auxpk = []
  noaux : st.auxss = []
  sssize : st.ss.size = n
  ent : ∀ a ∈ pda, (a < 0 ∧ -4 ≤ a) ∨ (0 ≤ a ∧ 1 ≤ a.toNat ∧ a.toNat < j)
  sorted : (pda.filter (fun a => decide (0 ≤ a))).Pairwise (· > ·)
  lefts : ∀ p, 1 ≤ p → p < j → cct.getD p 0 ≠ 0 → j ≤ cct.getD p 0 → (p : Int) ∈ pda
  paired : ∀ a ∈ pda, 0 ≤ a → cct.getD a.toNat 0 ≠ 0 → j ≤ cct.getD a.toNat 0
  l1 : ∀ q, q < n → ct.getD (q+1) 0 = 0 → isUnpairedSym (ssAt st.ss q) = true
  l2 : ∀ j0, 1 ≤ j0 → j0 < j → cct.getD j0 0 ≠ 0 → cct.getD j0 0 < j0 →
        isOpenBr (ssAt st.ss (cct.getD j0 0 - 1)) = true ∧
        ssAt st.ss (j0-1) = closerOf (ssAt st.ss (cct.getD j0 0 - 1))
  bn : ∀ j0 i', 1 ≤ j0 → j0 < j → cct.getD j0 0 ≠ 0 → cct.getD j0 0 < j0 → cct.getD j0 0 < i' → i' < j0 →
        cct.getD i' 0 ≠ 0 → i' < cct.getD i' 0 → cct.getD i' 0 < j0
  linv : LInv ct cct st.ss rb

theorem cct_sym {n : Nat} {ct cct : List Nat} (hct : CtOk n ct) (cok : CctOk n ct cct) (p : Nat)
    (h : cct.getD p 0 ≠ 0) :
    cct.getD p 0 = ct.getD p 0 ∧ cct.getD (cct.getD p 0) 0 = p ∧ 1 ≤ p ∧ p ≤ n ∧ 1 ≤ cct.getD p 0 ∧ cct.getD p 0 ≤ n ∧
    cct.getD p 0 ≠ p := by
  have he : cct.getD p 0 = ct.getD p 0 := by
    rcases cok.sub p with h1 | h1
    · exact h1
    · exact absurd h1 h
  have hp := hct.2 p (by rw [← he]; exact h)
  have hq : cct.getD (ct.getD p 0) 0 ≠ 0 := fun e => h ((cok.both p (by rw [← he]; exact h)).mpr e)
  have hq2 : cct.getD (ct.getD p 0) 0 = ct.getD (ct.getD p 0) 0 := by
    rcases cok.sub (ct.getD p 0) with h1 | h1
    · exact h1
    · exact absurd h1 hq
  rw [he]
  exact ⟨rfl, by rw [hq2]; exact hp.2.2.2.2.1, hp.1, hp.2.1, hp.2.2.1, hp.2.2.2.1, hp.2.2.2.2.2⟩

theorem ginv_push {n : Nat} {ct : List Nat} (hct : CtOk n ct) {j : Nat} {pda : List Int} {st : C2W} {cct : List Nat}
    {rb : List Int} (inv : GInv n ct j pda st cct rb) (hj : 1 ≤ j)
    (hcase : cct.getD j 0 = 0 ∨ j < cct.getD j 0) : GInv n ct (j+1) ((j : Int) :: pda) st cct rb where
  hcct := inv.hcct
  hrb := inv.hrb
  cok := inv.cok
  nopk := inv.nopk
  noaux := inv.noaux
  sssize := inv.sssize
  ent := by
    intro a ha
    simp only [List.mem_cons] at ha
    rcases ha with rfl | ha
    · right; exact ⟨by omega, by omega, by omega⟩
    · rcases inv.ent a ha with h | h
      · exact Or.inl h
      · exact Or.inr ⟨h.1, h.2.1, by omega⟩
  sorted := by
    have : ((j : Int) :: pda).filter (fun a => decide (0 ≤ a)) = (j : Int) :: pda.filter (fun a => decide (0 ≤ a)) := by
      simp [List.filter_cons]
    rw [this, List.pairwise_cons]
    refine ⟨fun b hb => ?_, inv.sorted⟩
    simp only [List.mem_filter, decide_eq_true_eq] at hb
    rcases inv.ent b hb.1 with h | h <;> omega
  lefts := by
    intro p h1 h2 h3 h4
    by_cases hp : p = j
    · subst hp; simp
    · exact List.mem_cons_of_mem _ (inv.lefts p h1 (by omega) h3 (by omega))
  paired := by
    intro a ha h0 hne
    simp only [List.mem_cons] at ha
    rcases ha with rfl | ha
    · simp only [Int.toNat_natCast] at hne ⊢
      rcases hcase with h | h
      · exact absurd h hne
      · omega
    · have hold := inv.paired a ha h0 hne
      have hx : cct.getD a.toNat 0 ≠ j := by
        intro e
        have hs := cct_sym hct inv.cok a.toNat hne
        rw [e] at hs
        rcases inv.ent a ha with h | h
        · omega
        · rcases hcase with hc | hc
          · rw [hc] at hs; omega
          · omega
      omega
  l1 := inv.l1
  l2 := by
    intro j0 h1 h2 h3 h4
    by_cases hp : j0 = j
    · subst hp
      rcases hcase with h | h
      · exact absurd h h3
      · omega
    · exact inv.l2 j0 h1 (by omega) h3 h4
  bn := by
    intro j0 i' h1 h2 h3 h4 h5 h6 h7 h8
    by_cases hp : j0 = j
    · subst hp
      rcases hcase with h | h
      · exact absurd h h3
      · omega
    · exact inv.bn j0 i' h1 (by omega) h3 h4 h5 h6 h7 h8
  linv := inv.linv

theorem mem_pkOfAbove (cct : List Nat) : ∀ (above : List Int) (p : Nat),
    p ∈ pkOfAbove cct above ↔ ((p : Int) ∈ above ∧ cct.getD p 0 ≠ 0)
  | [], p => by simp [pkOfAbove]
  | a :: rest, p => by
    have ih := mem_pkOfAbove cct rest p
    simp only [pkOfAbove]
    by_cases hc : 0 ≤ a ∧ cct.getD a.toNat 0 ≠ 0
    · rw [if_pos hc, List.mem_cons, ih, List.mem_cons]
      constructor
      · rintro (h | h)
        · subst h
          have : ((a.toNat : Nat) : Int) = a := by omega
          exact ⟨Or.inl this, hc.2⟩
        · exact ⟨Or.inr h.1, h.2⟩
      · rintro ⟨h | h, h2⟩
        · left; rw [← h]; simp
        · exact Or.inr ⟨h, h2⟩
    · rw [if_neg hc, ih, List.mem_cons]
      constructor
      · rintro ⟨h, h2⟩; exact ⟨Or.inr h, h2⟩
      · rintro ⟨h | h, h2⟩
        · exfalso; apply hc
          rw [← h]; exact ⟨by omega, by simpa using h2⟩
        · exact ⟨h, h2⟩

theorem pkOfAbove_sorted (cct : List Nat) : ∀ (above : List Int),
    (above.filter (fun a => decide (0 ≤ a))).Pairwise (· > ·) → (pkOfAbove cct above).Pairwise (· > ·)
  | [], _ => by simp [pkOfAbove]
  | a :: rest, h => by
    simp only [List.filter_cons] at h
    simp only [pkOfAbove]
    by_cases h0 : 0 ≤ a
    · simp only [h0, decide_true, if_true] at h
      rw [List.pairwise_cons] at h
      have ih := pkOfAbove_sorted cct rest h.2
      by_cases hc : cct.getD a.toNat 0 ≠ 0
      · rw [if_pos ⟨h0, hc⟩, List.pairwise_cons]
        refine ⟨fun b hb => ?_, ih⟩
        have hb' := (mem_pkOfAbove cct rest b).mp hb
        have := h.1 (b : Int) (by simp [List.mem_filter, hb'.1])
        omega
      · rw [if_neg (fun hh => hc hh.2)]; exact ih
    · have hd : decide (0 ≤ a) = false := by simp [h0]
      simp only [hd, Bool.false_eq_true, if_false] at h
      rw [if_neg (fun hh => h0 hh.1)]
      exact pkOfAbove_sorted cct rest h

theorem c2wMain_push_eq (simple : Bool) (ct : Array Nat) (n fuel j : Nat) (pda : List Int) (st : C2W) (cct : List Nat)
    (hjn : ¬ j > n) (hcct : st.cct = cct.toArray) (hj : j < cct.length) (hcase : cct.getD j 0 = 0 ∨ j < cct.getD j 0) :
    c2wMain simple ct n (fuel + 1) j pda st = c2wMain simple ct n fuel (j + 1) ((j : Int) :: pda) st := by
  rw [c2wMain, if_neg hjn]
  simp only [bind, Except.bind, hcct, rdNat_nat cct j hj]
  rcases hcase with h0 | hl
  · simp only [h0, beq_self_eq_true, if_true]
  · have hb : (cct.getD j 0 == 0) = false := by rw [beq_eq_false_iff_ne]; omega
    simp only [hb, Bool.false_eq_true, if_false, if_pos hl]

/-- with `auxpk` empty `pkLoop` is the identity, so the `match` on `auxpk` is one call -/
theorem c2wMain_right_end_eq (simple : Bool) (ct : Array Nat) (n fuel j : Nat) (pda : List Int) (st : C2W) (cct : List Nat)
    (hjn : ¬ j > n) (hcct : st.cct = cct.toArray) (hj : j < cct.length) (h0 : cct.getD j 0 ≠ 0) (hl : ¬ cct.getD j 0 > j)
    (pda1 : List Int) (st1 : C2W) (hres : popLoop simple ct j pda 0 (-1) st = .ok (true, pda1, st1))
    (hcct1 : st1.cct = cct.toArray) :
    c2wMain simple ct n (fuel + 1) j pda st =
      (pkLoop ct j st1.auxpk (cct.getD j 0 : Nat) ((cct.getD j 0 + 1 : Nat) : Int) (-1) st1).bind
        fun st2 => c2wMain simple ct n fuel (j + 1) pda1 st2 := by
  have hb : (cct.getD j 0 == 0) = false := by rw [beq_eq_false_iff_ne]; exact h0
  have hrd := rdNat_nat cct j hj
  rw [c2wMain, if_neg hjn]
  simp only [bind, Except.bind, pure, Except.pure, hcct, hrd, hb, Bool.false_eq_true, if_false,
    if_neg hl, hres, Bool.not_true]
  obtain ⟨ss, c, rb, pk, aux, re⟩ := st1
  cases pk with
  | nil => rfl
  | cons a t =>
    simp only at hcct1
    simp only [hcct1, hrd, Int.natCast_add, Int.natCast_one]

/-- A right end `j` on the stack side: the partner `i = cct[j]` is on the stack; what lies above it is markers and left ends
    in `(i, j)` that do not pair with `j`; the still-paired ones among them, in pop order reversed, are the batch: sorted,
    in `(i, j)`, closing beyond `j`. Below `i` everything is smaller. -/
theorem GInv.split {n : Nat} {ct : List Nat} (hct : CtOk n ct) {j : Nat} {pda : List Int} {st : C2W} {cct : List Nat}
    {rb : List Int} (inv : GInv n ct j pda st cct rb) (hjn : j ≤ n) (h0 : cct.getD j 0 ≠ 0) (hleft : ¬ j < cct.getD j 0) :
    ∃ above below, pda = above ++ ((cct.getD j 0 : Nat) : Int) :: below ∧
      (∀ a ∈ above, (a < 0 ∧ -4 ≤ a) ∨ (∃ p : Nat, a = p ∧ 1 ≤ p ∧ p ≤ n ∧ cct.getD p 0 ≠ j)) ∧
      (∀ b ∈ below, 0 ≤ b → b < (cct.getD j 0 : Int)) ∧
      (below.filter (fun a => decide (0 ≤ a))).Pairwise (· > ·) ∧
      (∀ a ∈ (pkOfAbove cct above).reverse, cct.getD j 0 < a ∧ a < j ∧ cct.getD a 0 ≠ 0 ∧ j < ct.getD a 0) ∧
      ((pkOfAbove cct above).reverse).Pairwise (· < ·) := by
  have hsj := cct_sym hct inv.cok j h0
  have hi : 1 ≤ cct.getD j 0 ∧ cct.getD j 0 < j := ⟨hsj.2.2.2.2.1, by omega⟩
  have hij : cct.getD (cct.getD j 0) 0 = j := hsj.2.1
  have hi0ne : cct.getD (cct.getD j 0) 0 ≠ 0 := by rw [hij]; omega
  have himem := inv.lefts (cct.getD j 0) hi.1 hi.2 hi0ne (by rw [hij]; exact Nat.le_refl _)
  obtain ⟨above, below, hsplit⟩ := List.append_of_mem himem
  have hsorted := inv.sorted
  rw [hsplit, filter_nonneg_append, List.pairwise_append] at hsorted
  have habove_pos : ∀ a ∈ above, 0 ≤ a → (cct.getD j 0 : Int) < a ∧ a.toNat < j := by
    intro a ha h0a
    have hmem : a ∈ pda := by rw [hsplit]; simp [ha]
    have hgt : a > (cct.getD j 0 : Int) := hsorted.2.2 a (by simp [List.mem_filter, ha, h0a]) _ (by simp)
    rcases inv.ent a hmem with h1 | h1
    · omega
    · exact ⟨hgt, h1.2.2⟩
  refine ⟨above, below, hsplit, ?_, ?_, (List.pairwise_cons.mp hsorted.2.1).2, ?_, ?_⟩
  · intro a ha
    have hmem : a ∈ pda := by rw [hsplit]; simp [ha]
    rcases inv.ent a hmem with h1 | h1
    · exact Or.inl h1
    · right
      refine ⟨a.toNat, by omega, h1.2.1, by omega, ?_⟩
      intro e
      have hs := cct_sym hct inv.cok a.toNat (by rw [e]; omega)
      rw [e] at hs
      have := habove_pos a ha h1.1
      omega
  · intro b hb h0b
    exact (List.pairwise_cons.mp hsorted.2.1).1 b (by simp [List.mem_filter, hb, h0b])
  · intro a ha
    rw [List.mem_reverse, mem_pkOfAbove] at ha
    have hp := habove_pos (a : Int) ha.1 (by omega)
    have hmem : (a : Int) ∈ pda := by rw [hsplit]; simp [ha.1]
    have hge := inv.paired (a : Int) hmem (by omega) (by simpa using ha.2)
    simp only [Int.toNat_natCast] at hge hp
    have hs := cct_sym hct inv.cok a ha.2
    have hne : cct.getD a 0 ≠ j := by
      intro e; rw [e] at hs; omega
    refine ⟨by omega, hp.2, ha.2, ?_⟩
    rw [← hs.1]; omega
  · rw [List.pairwise_reverse]
    exact pkOfAbove_sorted cct above hsorted.1

/-- the stack side after the right end `j`: the markers `hd` left by the pop loop on top of `below`, and a working table `cct'`
    that differs from `cct` only by zeroing the batch. The last part is the new case of `GInv.bn`: what is still paired
    inside `(i, j)` closes inside. -/
theorem GInv.stack_next {n : Nat} {ct : List Nat} (hct : CtOk n ct) {j : Nat} {pda : List Int} {st : C2W} {cct : List Nat}
    {rb : List Int} (inv : GInv n ct j pda st cct rb) (h0 : cct.getD j 0 ≠ 0) (hleft : ¬ j < cct.getD j 0)
    {above below hd : List Int} {cct' : List Nat} (hsplit : pda = above ++ ((cct.getD j 0 : Nat) : Int) :: below)
    (hbelow_lt : ∀ b ∈ below, 0 ≤ b → b < (cct.getD j 0 : Int))
    (hbs : (below.filter (fun a => decide (0 ≤ a))).Pairwise (· > ·)) (hhd : ∀ a ∈ hd, a < 0 ∧ -4 ≤ a)
    (hnew : ∀ p, cct'.getD p 0 ≠ 0 → cct'.getD p 0 = cct.getD p 0 ∧ p ∉ (pkOfAbove cct above).reverse) :
    (∀ a ∈ hd ++ below, (a < 0 ∧ -4 ≤ a) ∨ (0 ≤ a ∧ 1 ≤ a.toNat ∧ a.toNat < j + 1)) ∧
    ((hd ++ below).filter (fun a => decide (0 ≤ a))).Pairwise (· > ·) ∧
    (∀ p, 1 ≤ p → p < j + 1 → cct'.getD p 0 ≠ 0 → j + 1 ≤ cct'.getD p 0 → (p : Int) ∈ hd ++ below) ∧
    (∀ a ∈ hd ++ below, 0 ≤ a → cct'.getD a.toNat 0 ≠ 0 → j + 1 ≤ cct'.getD a.toNat 0) ∧
    (∀ i', cct.getD j 0 < i' → i' < j → cct'.getD i' 0 ≠ 0 → i' < cct'.getD i' 0 → cct'.getD i' 0 < j) := by
  have hsj := cct_sym hct inv.cok j h0
  have hij : cct.getD (cct.getD j 0) 0 = j := hsj.2.1
  refine ⟨?_, ?_, ?_, ?_, ?_⟩
  · intro a ha
    rcases List.mem_append.mp ha with ha | ha
    · exact Or.inl (hhd a ha)
    · rcases inv.ent a (by rw [hsplit]; simp [ha]) with h1 | h1
      · exact Or.inl h1
      · exact Or.inr ⟨h1.1, h1.2.1, by omega⟩
  · have : (hd ++ below).filter (fun a => decide (0 ≤ a)) = below.filter (fun a => decide (0 ≤ a)) := by
      rw [List.filter_append]
      have : hd.filter (fun a => decide (0 ≤ a)) = [] := by
        rw [List.filter_eq_nil_iff]
        intro a ha
        have := hhd a ha
        simp only [decide_eq_true_eq]; omega
      rw [this, List.nil_append]
    rw [this]
    exact hbs
  · intro p h1 h2 h3 h4
    have hn := hnew p h3
    rw [hn.1] at h3 h4
    have hpj : p ≠ j := by intro e; rw [e] at h4; omega
    have hm := inv.lefts p h1 (by omega) h3 (by omega)
    rw [hsplit, List.mem_append, List.mem_cons] at hm
    rcases hm with hm | hm | hm
    · exfalso
      exact hn.2 (by rw [List.mem_reverse, mem_pkOfAbove]; exact ⟨hm, h3⟩)
    · exfalso
      have : p = cct.getD j 0 := by omega
      rw [this, hij] at h4; omega
    · exact List.mem_append_right _ hm
  · intro a ha h0a hne
    rcases List.mem_append.mp ha with ha | ha
    · have := hhd a ha; omega
    · have hn := hnew a.toNat hne
      rw [hn.1] at hne ⊢
      have hold := inv.paired a (by rw [hsplit]; simp [ha]) h0a hne
      have hx : cct.getD a.toNat 0 ≠ j := by
        intro e
        have hs := cct_sym hct inv.cok a.toNat hne
        rw [e] at hs
        have hlt := hbelow_lt a ha h0a
        omega
      omega
  · intro i' h5 h6 h7 h8
    have hn' := hnew i' h7
    rw [hn'.1] at h7 h8 ⊢
    rcases Nat.lt_or_ge (cct.getD i' 0) j with hlt | hge
    · exact hlt
    · exfalso
      have hm := inv.lefts i' (by omega) h6 h7 hge
      rw [hsplit, List.mem_append, List.mem_cons] at hm
      rcases hm with hm | hm | hm
      · exact hn'.2 (by rw [List.mem_reverse, mem_pkOfAbove]; exact ⟨hm, h7⟩)
      · omega
      · have := hbelow_lt _ hm (by omega); omega

/-- the label side after the right end `j`: `ss1` is the string after the pop loop (the pair `(i, j)` bracketed, unpaired cells
    relabelled), `ss2` after the lettering batch (only cells of its items written) -/
theorem GInv.labels_next {n : Nat} {ct : List Nat} (hct : CtOk n ct) {j : Nat} {pda : List Int} {st : C2W} {cct : List Nat}
    {rb : List Int} (inv : GInv n ct j pda st cct rb) (h0 : cct.getD j 0 ≠ 0) (hleft : ¬ j < cct.getD j 0)
    {items : List Nat} {cct' : List Nat} {ss1 ss2 : Array UInt8} (hitems : ∀ a ∈ items, 1 ≤ a)
    (hnew : ∀ p, cct'.getD p 0 ≠ 0 → cct'.getD p 0 = cct.getD p 0 ∧ leftEnd ct p ∉ items)
    (hbr : isOpenBr (ssAt ss1 (cct.getD j 0 - 1)) = true ∧ ssAt ss1 (j-1) = closerOf (ssAt ss1 (cct.getD j 0 - 1)))
    (hpop : SameOff ct (fun a => a = 0 ∨ a = cct.getD j 0) st.ss ss1)
    (hunp : ∀ q, q < n → ct.getD (q+1) 0 = 0 → isUnpairedSym (ssAt st.ss q) = true → isUnpairedSym (ssAt ss1 q) = true)
    (hbatch : SameOff ct (· ∈ items) ss1 ss2)
    (hinside : ∀ i', cct.getD j 0 < i' → i' < j → cct'.getD i' 0 ≠ 0 → i' < cct'.getD i' 0 → cct'.getD i' 0 < j) :
    (∀ q, q < n → ct.getD (q+1) 0 = 0 → isUnpairedSym (ssAt ss2 q) = true) ∧
    (∀ j0, 1 ≤ j0 → j0 < j + 1 → cct'.getD j0 0 ≠ 0 → cct'.getD j0 0 < j0 →
        isOpenBr (ssAt ss2 (cct'.getD j0 0 - 1)) = true ∧
        ssAt ss2 (j0-1) = closerOf (ssAt ss2 (cct'.getD j0 0 - 1))) ∧
    (∀ j0 i', 1 ≤ j0 → j0 < j + 1 → cct'.getD j0 0 ≠ 0 → cct'.getD j0 0 < j0 → cct'.getD j0 0 < i' → i' < j0 →
        cct'.getD i' 0 ≠ 0 → i' < cct'.getD i' 0 → cct'.getD i' 0 < j0) := by
  have hij : cct.getD (cct.getD j 0) 0 = j := (cct_sym hct inv.cok j h0).2.1
  refine ⟨?_, ?_, ?_⟩
  · intro q hq h0q
    have := hbatch (q+1) (by omega) (by
      rw [show leftEnd ct (q+1) = 0 by unfold leftEnd; omega]
      intro hm; have := hitems 0 hm; omega)
    rw [Nat.add_sub_cancel] at this
    rw [this]
    exact hunp q hq h0q (inv.l1 q hq h0q)
  · intro j0 h1 h2 h3 h4
    have hn := hnew j0 h3
    rw [hn.1] at h3 h4 ⊢
    have hs0 := cct_sym hct inv.cok j0 h3
    -- the pair `(cct j0, j0)` is named by `cct j0`, which is not an item
    have hown : leftEnd ct j0 = cct.getD j0 0 := by unfold leftEnd; omega
    have hsa := cct_sym hct inv.cok (cct.getD j0 0) (by rw [hs0.2.1]; omega)
    have hca : ct.getD (cct.getD j0 0) 0 = j0 := by rw [← hsa.1]; exact hs0.2.1
    have hb := hbatch.pair hct hs0.2.2.2.2.1 hca h4 (by rw [← hown]; exact hn.2)
    rw [hb.1, hb.2]
    by_cases hp : j0 = j
    · subst hp; exact hbr
    · have ha := hpop.pair hct hs0.2.2.2.2.1 hca h4 (by
        rintro (e | e)
        · omega
        · rw [e, hij] at hs0; omega)
      rw [ha.1, ha.2]
      exact inv.l2 j0 h1 (by omega) h3 h4
  · intro j0 i' h1 h2 h3 h4 h5 h6 h7 h8
    by_cases hp : j0 = j
    · subst hp
      rw [(hnew j0 h3).1] at h5
      exact hinside i' h5 h6 h7 h8
    · have hn := hnew j0 h3
      have hn' := hnew i' h7
      rw [hn.1] at h3 h4 h5
      rw [hn'.1] at h7 h8 ⊢
      exact inv.bn j0 i' h1 (by omega) h3 h4 h5 h6 h7 h8

theorem nomark_push {simple : Bool} {pda : List Int} (j : Nat) (h : simple = true → ∀ a ∈ pda, 0 ≤ a) :
    simple = true → ∀ a ∈ (j : Int) :: pda, 0 ≤ a := by
  intro hs a ha
  simp only [List.mem_cons] at ha
  rcases ha with rfl | ha
  · omega
  · exact h hs a ha

theorem nomark_next {simple : Bool} {above below hd : List Int} {x : Int} (h : simple = true → ∀ a ∈ above ++ x :: below, 0 ≤ a)
    (hhd : simple = true → hd = []) : simple = true → ∀ a ∈ hd ++ below, 0 ≤ a := by
  intro hs a ha
  rw [hhd hs, List.nil_append] at ha
  exact h hs a (by simp [ha])

/-- One turn of the main loop under its invariants: it goes on to `j+1` with the invariants kept, or the lettering batch of a
    right end has run out of letters. -/
theorem c2wMain_turn (simple : Bool) (n : Nat) (ct : List Nat) (hct : CtOk n ct) (fuel : Nat) {j : Nat} {pda : List Int}
    {st : C2W} {cct : List Nat} {rb : List Int} (inv : GInv n ct j pda st cct rb) (hnm : simple = true → ∀ a ∈ pda, 0 ≤ a)
    (hcnt : st.reached = cntSpec n ct cct j) (u : UInv ct cct st.ss rb) (hj1 : 1 ≤ j) (hjn : j ≤ n) :
    (∃ pda' st' cct' rb', c2wMain simple ct.toArray n (fuel+1) j pda st = c2wMain simple ct.toArray n fuel (j+1) pda' st' ∧
      GInv n ct (j+1) pda' st' cct' rb' ∧ (simple = true → ∀ a ∈ pda', 0 ≤ a) ∧ st'.reached = cntSpec n ct cct' (j+1) ∧
      UInv ct cct' st'.ss rb') ∨
    (∃ p, c2wMain simple ct.toArray n (fuel+1) j pda st = .error (.einvalLetters p) ∧ 27 ≤ (pkPairs ct).length) := by
  have hgt : ¬ j > n := by omega
  have hclen := inv.cok.len
  by_cases hcase : cct.getD j 0 = 0 ∨ j < cct.getD j 0
  · -- an unpaired position or a left end is pushed
    refine Or.inl ⟨_, st, cct, rb, c2wMain_push_eq simple _ n fuel j pda st cct hgt inv.hcct (by omega) hcase,
      ginv_push hct inv hj1 hcase, nomark_push j hnm, ?_, u⟩
    rw [hcnt]; symm
    apply cntSpec_push
    intro a b
    rcases hcase with h0 | hl
    · exact h0
    · rcases inv.cok.sub j with h1 | h1 <;> omega
  -- a right end: pop to the partner, letter the crossing pairs
  have h0 : cct.getD j 0 ≠ 0 := fun e => hcase (Or.inl e)
  have hleft : ¬ j < cct.getD j 0 := fun e => hcase (Or.inr e)
  have hsj := cct_sym hct inv.cok j h0
  have hi : 1 ≤ cct.getD j 0 ∧ cct.getD j 0 < j := ⟨hsj.2.2.2.2.1, by omega⟩
  have hij : cct.getD (cct.getD j 0) 0 = j := hsj.2.1
  have hi0ne : cct.getD (cct.getD j 0) 0 ≠ 0 := by rw [hij]; omega
  obtain ⟨above, below, hsplit, habove, hbelow_lt, hbs, hitems, hitsorted⟩ := inv.split hct hjn h0 hleft
  have hsi := cct_sym hct inv.cok (cct.getD j 0) hi0ne
  have hctj : ct.getD j 0 ≠ 0 := by rw [← hsj.1]; exact h0
  have habove' : ∀ a ∈ above, (simple = false ∧ a < 0 ∧ -4 ≤ a) ∨
      (∃ p : Nat, a = p ∧ 1 ≤ p ∧ p ≤ n ∧ cct.getD p 0 ≠ j) := by
    intro a ha
    rcases habove a ha with h1 | h1
    · cases hs : simple with
      | false => exact Or.inl ⟨rfl, h1⟩
      | true => have := hnm hs a (by rw [hsplit]; simp [ha]); omega
    · exact Or.inr h1
  obtain ⟨hd, st1, hres, hhd, hhds, hcct1, hpk1, haux1, hsz1, hrb1, hbr, hpop, hunp, hreach1⟩ :=
    popLoop_total simple n ct cct hct.1 inv.cok.len j (cct.getD j 0) below ⟨hj1, hjn⟩ hi hij (hsi.1.symm.trans hij) hsj.1.symm above 0 (-1) st
      habove' (by omega) (by omega) inv.hcct inv.sssize (by rw [inv.noaux]; simp)
  rw [inv.noaux, ite_self] at haux1
  rw [← hsplit] at hres
  rw [inv.nopk, List.append_nil] at hpk1
  -- the cells of the lettered pairs survive the bracket / unpaired-symbol writes of the pop loop
  have hpkcells : ∀ p, 1 ≤ p → p < ct.getD p 0 → cct.getD p 0 = 0 →
      ssAt st1.ss (p-1) = ssAt st.ss (p-1) ∧ ssAt st1.ss (ct.getD p 0 - 1) = ssAt st.ss (ct.getD p 0 - 1) :=
    fun p hp1 hp2 hp3 => hpop.pair hct hp1 rfl hp2 (by
      rintro (e | e)
      · omega
      · exact hi0ne (e ▸ hp3))
  have hR : PkRun n ct cct rb j (pkOfAbove cct above).reverse (cct.getD j 0) (cct.getD j 0 + 1) (-1) st1 := {
    hcct := hcct1, hrb := by rw [hrb1]; exact inv.hrb, ctlen := hct.1, clen := inv.cok.len, rblen := inv.linv.rblen
    sssize := hsz1, jn := hjn, sorted := hitsorted
    item := by
      intro a ha
      have hA := hitems a ha
      have hsa := cct_sym hct inv.cok a hA.2.2.1
      exact ⟨by omega, hA.2.1, hsa.1, hA.2.2.2, by rw [← hsa.1]; exact hsa.2.2.2.2.2.1⟩
    rbdn := by omega, lbr := by omega, cj := hi.2, letter := Or.inl ⟨rfl, rfl⟩ }
  have linv1 : LInv ct cct st1.ss rb := {
    rblen := inv.linv.rblen
    lab := by
      intro p hp1 hp2 hp3
      obtain ⟨x, hx, c1, c2, c3⟩ := inv.linv.lab p hp1 hp2 hp3
      have hc := hpkcells p hp1 hp2 hp3
      exact ⟨x, hx, by rw [hc.1]; exact c1, by rw [hc.2]; exact c2, c3⟩
    non := by
      intro p p' hp1 hp2 hp3 hp2' hp3' hlt hlt2 hsm
      have hc := hpkcells p hp1 hp2 hp3
      have hc' := hpkcells p' (by omega) hp2' hp3'
      rw [hc.1, hc'.1] at hsm
      exact inv.linv.non p p' hp1 hp2 hp3 hp2' hp3' hlt hlt2 hsm }
  have u1 : UInv ct cct st1.ss rb := {
    used := by
      intro x hx hge
      obtain ⟨q, hq1, hq2, hq3, hq4⟩ := u.used x hx hge
      exact ⟨q, hq1, hq2, hq3, by rw [(hpkcells q hq1 hq2 hq3).1]; exact hq4⟩
    cross := u.cross }
  have hcnt1 : st1.reached = cntSpec n ct cct (j+1) := by
    rw [hreach1, hcnt, cntSpec_right n ct cct j hjn hctj (by rw [← hsj.1]; omega) h0]
  rw [c2wMain_right_end_eq simple _ n fuel j pda st cct hgt inv.hcct (by omega) h0 hleft _ st1 hres hcct1, hpk1]
  rcases pkLoop_run n ct hct j (cct.getD j 0) ⟨by rw [← hsi.1]; exact hij, hi.2⟩ _ _ _ _ st1 cct rb hR inv.cok linv1 u1
      (fun a ha => (hitems a ha).1) (Or.inl ⟨rfl, rfl⟩) (by intro x' hx'; omega) hcnt1 with
    ⟨st2, cct', rb', hst2, P⟩ | ⟨p, hp, h27⟩
  · have hnew : ∀ p, cct'.getD p 0 ≠ 0 → cct'.getD p 0 = cct.getD p 0 ∧ leftEnd ct p ∉ (pkOfAbove cct above).reverse := by
      intro p hp
      rw [P.tbl p] at hp ⊢
      by_cases hc : leftEnd ct p ∈ (pkOfAbove cct above).reverse
      · rw [if_pos hc] at hp; exact absurd rfl hp
      · rw [if_neg hc]; exact ⟨rfl, hc⟩
    obtain ⟨s1, s2, s3, s4, hinside⟩ := inv.stack_next hct h0 hleft hsplit hbelow_lt hbs hhd (fun p hp =>
      ⟨(hnew p hp).1, fun hm => (hnew p hp).2 (by
        have := hitems p hm
        rw [show leftEnd ct p = p by unfold leftEnd; omega]; exact hm)⟩)
    obtain ⟨l1, l2, bn⟩ := inv.labels_next hct h0 hleft (fun a ha => by have := hitems a ha; omega) hnew hbr hpop hunp P.frame hinside
    rw [hst2]
    exact Or.inl ⟨hd ++ below, st2, cct', rb', rfl, {
      hcct := P.hcct, hrb := P.hrb, cok := P.cok, nopk := P.nopk, noaux := P.auxss.trans haux1, sssize := P.sssize
      ent := s1, sorted := s2, lefts := s3, paired := s4, l1 := l1, l2 := l2, bn := bn, linv := P.linv },
      nomark_next (hsplit ▸ hnm) hhds, P.count, P.uinv⟩
  · rw [hp]
    exact Or.inr ⟨p, rfl, h27⟩

theorem ginv_init (simple : Bool) (n : Nat) (ct : List Nat) (hct : CtOk n ct) :
    GInv n ct 1 [] { ss := Array.replicate n (if simple = true then (0x2e : UInt8) else 0x3a), cct := ct.toArray,
                     rb := Array.replicate 26 (-1), auxpk := [], auxss := [], reached := 0 } ct (List.replicate 26 (-1)) := by
  have hl1 : ct.length = n + 1 := hct.1
  have hrbrep : (Array.replicate 26 (-1 : Int)) = (List.replicate 26 (-1 : Int)).toArray := by
    apply Array.ext'; simp
  exact {
    hcct := rfl, hrb := hrbrep
    cok := ⟨hl1, fun p => Or.inl rfl, fun p hp => by
      have h1' := hct.2 p hp
      constructor
      · intro e; exact absurd e hp
      · intro e; rw [h1'.2.2.2.2.1] at e; omega⟩
    nopk := rfl, noaux := rfl, sssize := by simp
    ent := by intro a ha; simp at ha
    sorted := by simp
    lefts := by intro p h1 h2; omega
    paired := by intro a ha; simp at ha
    l1 := by
      intro q hq _
      simp only [ssAt, Array.toList_replicate, List.getD_eq_getElem?_getD, List.getElem?_replicate, hq, if_true,
                 Option.getD_some]
      cases simple <;> decide
    l2 := by intro j0 h1 h2; omega
    bn := by intro j0 i' h1 h2; omega
    linv := {
      rblen := by simp
      lab := by intro p hp1 hp2 hp3; omega
      non := by intro p p' hp1 hp2 hp3; omega } }

end EaselModel.Msa
