import EaselModel.Msa.LemmasDyck
import EaselModel.Msa.LemmasBreak
/-! NESTED pair tables and their bracket labellings. -/
namespace EaselModel.Msa

/-- no two pairs cross -/
def Nested (ct : List Nat) : Prop :=
  ∀ i i', ct.getD i 0 ≠ 0 → ct.getD i' 0 ≠ 0 → i < i' → i' < ct.getD i 0 → ct.getD i' 0 < ct.getD i 0

/-- `ss` spells the pair table `ct` with brackets only: an unpaired position carries an unpaired symbol, the left end
    of a pair an opening bracket and the right end ITS closing bracket (any of the four kinds) -/
def Labels (ct : List Nat) (ss : Bytes) : Prop :=
  ∀ p, 1 ≤ p → p ≤ ss.length →
    (ct.getD p 0 = 0 → isUnpairedSym (ss.getD (p-1) 0) = true) ∧
    (p < ct.getD p 0 → isOpenBr (ss.getD (p-1) 0) = true ∧ ss.getD (ct.getD p 0 - 1) 0 = closerOf (ss.getD (p-1) 0))

/-- the table filled in so far: the pairs whose two ends are both `< pos` -/
def ctUpTo (ct : List Nat) (pos p : Nat) : Nat :=
  if ct.getD p 0 ≠ 0 ∧ p < pos ∧ ct.getD p 0 < pos then ct.getD p 0 else 0

structure NInv (n : Nat) (ct : List Nat) (pos : Nat) (pda : List (List Nat)) (cur : List Nat) : Prop where
  pdalen : pda.length = 27
  others : ∀ k, 1 ≤ k → pda.getD k [] = []
  sorted : (pda.getD 0 []).Pairwise (· > ·)
  mem : ∀ p, p ∈ pda.getD 0 [] ↔ (1 ≤ p ∧ p < pos ∧ pos ≤ ct.getD p 0)
  curlen : cur.length = n + 1
  cur : ∀ p, cur.getD p 0 = ctUpTo ct pos p

theorem list_ext_getD (a b : List Nat) (hl : a.length = b.length) (h : ∀ p, a.getD p 0 = b.getD p 0) : a = b := by
  apply List.ext_getElem hl
  intro i h1 h2
  have := h i
  simpa [List.getD_eq_getElem?_getD, List.getElem?_eq_getElem h1, List.getElem?_eq_getElem h2] using this

end EaselModel.Msa
