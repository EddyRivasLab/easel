import EaselModel.Msa.Model
/-! # Model of esl_msa.c, part 2 (kind H): comparison, checksum, name index, residue-symbol conversions, default weights,
    consensus (RF) line.

`esl_msa_Compare` / `CompareMandatory` / `CompareOptional`, `esl_msa_Checksum`, `esl_msa_Hash`,
`esl_msa_CheckUniqueNames`, `esl_msa_ConvertDegen2X` (+ `esl_abc_ConvertDegen2X`), `esl_msa_SymConvert`,
`esl_msa_SetDefaultWeights`, `esl_msa_ReasonableRF`.

Representation assumption (checked by the harness on every compared alignment, printed as `repinv=`): an optional
per-sequence array (`sqacc`, `sqdesc`, `ss`, `sa`, `pp`) is non-NULL iff at least one of its entries is non-NULL. Every
constructor in esl_msa.c that this model covers keeps that (`esl_msa_SetSeq*`, `msa_set_seq_*`, `SequenceSubset`, `Copy`).
Floating-point comparisons (`esl_DCompare_old(.., 0.001)`, `esl_FCompare_old(.., 0.01)`) and the weight arithmetic of
`ReasonableRF` are parameters of the model; the driver instantiates them with binary64/binary32 arithmetic (L0).
Core Lean only. -/
namespace EaselModel.Msa

/-! ## esl_msa_Compare -/

/-- `esl_CCompare(s1, s2) == eslOK` -/
def cCompare : Option Bytes → Option Bytes → Bool
  | none, none => true
  | some x, some y => decide (x = y)
  | _, _ => false

/-- the `for (i = 0; i < a1->nseq; i++)` loop of `esl_msa_CompareMandatory`; `fault` = index outside an array -/
def mandLoop (dcmp : UInt64 → UInt64 → Bool) (a b : Msa) : (fuel i : Nat) → St
  | 0, _ => .ok
  | fuel+1, i =>
    match a.sqname[i]?, b.sqname[i]?, a.wgt[i]?, b.wgt[i]?, a.rows[i]?, b.rows[i]? with
    | some n1, some n2, some w1, some w2, some r1, some r2 =>
      if n1 ≠ n2 then .efail                 -- strcmp(sqname)
      else if !dcmp w1 w2 then .efail        -- esl_DCompare_old(wgt, 0.001)
      else if r1 ≠ r2 then .efail            -- memcmp(ax, alen+2) / strcmp(aseq)
      else mandLoop dcmp a b fuel (i+1)
    | _, _, _, _, _, _ => .fault

def compareMandatory (dcmp : UInt64 → UInt64 → Bool) (a b : Msa) : St :=
  if a.nseq ≠ b.nseq then .efail
  else if a.alen ≠ b.alen then .efail
  else if a.flags ≠ b.flags then .efail
  else mandLoop dcmp a b a.nseq 0

/-- is the optional per-sequence array allocated (see the representation assumption in the header) -/
def arrAlloc (x : List (Option Bytes)) : Bool := x.any Option.isSome

def optLoop (x y : List (Option Bytes)) : (fuel i : Nat) → St
  | 0, _ => .ok
  | fuel+1, i =>
    match x[i]?, y[i]? with
    | some s1, some s2 => if !cCompare s1 s2 then .efail else optLoop x y fuel (i+1)
    | _, _ => .fault

/-- `if (a1->ss != NULL && a2->ss != NULL) { for (i..) CCompare } else if (a1->ss != NULL || a2->ss != NULL) return eslFAIL;` -/
def optArrCmp (n : Nat) (x y : List (Option Bytes)) : St :=
  if arrAlloc x && arrAlloc y then optLoop x y n 0
  else if arrAlloc x || arrAlloc y then .efail
  else .ok

def cutLoop (fcmp : UInt32 → UInt32 → Bool) (a b : Msa) : (fuel i : Nat) → St
  | 0, _ => .ok
  | fuel+1, i =>
    match a.cutset[i]?, b.cutset[i]?, a.cutoff[i]?, b.cutoff[i]? with
    | some s1, some s2, some c1, some c2 =>
      if s1 && s2 then (if !fcmp c1 c2 then .efail else cutLoop fcmp a b fuel (i+1))
      else if s1 || s2 then .efail
      else cutLoop fcmp a b fuel (i+1)
    | _, _, _, _ => .fault

/-- sequencing of the early returns -/
def St.andThen (s : St) (k : St) : St := if s = .ok then k else s

def compareOptional (fcmp : UInt32 → UInt32 → Bool) (a b : Msa) : St :=
  if !cCompare a.name b.name then .efail
  else if !cCompare a.desc b.desc then .efail
  else if !cCompare a.acc b.acc then .efail
  else if !cCompare a.au b.au then .efail
  else if !cCompare a.ss_cons b.ss_cons then .efail
  else if !cCompare a.sa_cons b.sa_cons then .efail
  else if !cCompare a.pp_cons b.pp_cons then .efail
  else if !cCompare a.rf b.rf then .efail
  else if !cCompare a.mm b.mm then .efail
  else (optArrCmp a.nseq a.sqacc b.sqacc).andThen <|
       (optArrCmp a.nseq a.sqdesc b.sqdesc).andThen <|
       (optArrCmp a.nseq a.ss b.ss).andThen <|
       (optArrCmp a.nseq a.sa b.sa).andThen <|
       (optArrCmp a.nseq a.pp b.pp).andThen <|
       cutLoop fcmp a b 6 0

/-- `esl_msa_Compare`: anything but `eslOK` from either half is `eslFAIL` (a model `fault` stays a fault) -/
def compare (dcmp : UInt64 → UInt64 → Bool) (fcmp : UInt32 → UInt32 → Bool) (a b : Msa) : St :=
  match compareMandatory dcmp a b with
  | .fault => .fault
  | .ok => (match compareOptional fcmp a b with
            | .ok => .ok
            | .fault => .fault
            | _ => .efail)
  | _ => .efail

/-! ## esl_msa_Checksum -/

/-- `val += c; val += (val << 10); val ^= (val >> 6);` -/
def jenkinsStep (val c : UInt32) : UInt32 :=
  let v := val + c
  let v := v + (v <<< 10)
  v ^^^ (v >>> 6)

/-- `val += (val << 3); val ^= (val >> 11); val += (val << 15);` -/
def jenkinsFinal (val : UInt32) : UInt32 :=
  let v := val + (val <<< 3)
  let v := v ^^^ (v >>> 11)
  v + (v <<< 15)

/-- what `val += x` adds for one cell: an `ESL_DSQ` (unsigned char) in digital mode, a (signed) `char` in text mode -/
def cellWord (digital : Bool) (c : UInt8) : UInt32 :=
  if digital || c < 128 then c.toUInt32 else c.toUInt32 + 0xffffff00

def checksum (m : Msa) : UInt32 :=
  jenkinsFinal <|
    (m.rows.take m.nseq).foldl (fun v r => (r.take m.alen).foldl (fun v c => jenkinsStep v (cellWord m.isDigital c)) v) 0

/-! ## esl_msa_Hash, esl_msa_CheckUniqueNames -/

/-- `for (idx..) esl_keyhash_Store(kh, sqname[idx])`: `some idx` = the first index whose name was already stored -/
def firstDup : (seen : List Bytes) → (names : List Bytes) → (idx : Nat) → Option Nat
  | _, [], _ => none
  | seen, n :: rest, idx => if seen.contains n then some idx else firstDup (n :: seen) rest (idx+1)

inductive HashSt where
  | ok | edup | efail
  deriving Repr, DecidableEq, Inhabited

/-- `esl_msa_Hash`: `eslOK` and an index over all names, or `eslEDUP` (and `msa->index == NULL`) -/
def hashNames (m : Msa) : HashSt := match firstDup [] (m.sqname.take m.nseq) 0 with | none => .ok | some _ => .edup
/-- `esl_msa_CheckUniqueNames`: `eslOK` / `eslFAIL` -/
def checkUniqueNames (m : Msa) : HashSt := match firstDup [] (m.sqname.take m.nseq) 0 with | none => .ok | some _ => .efail

/-! ## esl_msa_ConvertDegen2X -/

def Abc.xIsDegenerate (a : Abc) (x : UInt8) : Bool := x.toNat > a.K && x.toNat < a.Kp - 2
def Abc.xUnknown (a : Abc) : UInt8 := UInt8.ofNat (a.Kp - 3)

/-- `esl_abc_ConvertDegen2X(abc, dsq)`: `for (i = 1; dsq[i] != eslDSQ_SENTINEL; i++) if (degenerate) dsq[i] = unknown` -/
def degenCell (a : Abc) (x : UInt8) : UInt8 := if a.xIsDegenerate x then a.xUnknown else x
def degen2XRow (a : Abc) (r : Bytes) : Bytes := r.map (degenCell a)

def convertDegen2X (m : Msa) : Res :=
  if !m.isDigital then { msa := m, st := .einval, exc := true }
  else match m.abc with
    | none => { msa := m, st := .fault }
    | some a => { msa := { m with rows := m.rows.map (degen2XRow a) }, st := .ok }

/-! ## esl_msa_SymConvert -/

/-- `(sptr = strchr(oldsyms, c)) != NULL ? (special ? *newsyms : newsyms[sptr-oldsyms]) : c` for a non-NUL `c` -/
def symConvChar (olds news : Bytes) (c : UInt8) : UInt8 :=
  match olds.findIdx? (· == c) with
  | some k => if news.length == 1 then news.getD 0 0 else news.getD k 0
  | none => c

def symConvert (m : Msa) (olds news : Bytes) : Res :=
  if m.isDigital then { msa := m, st := .einval, exc := true }
  else if olds.length ≠ news.length && news.length ≠ 1 then { msa := m, st := .einval, exc := true }
  else { msa := { m with rows := m.rows.map fun r => (r.take m.alen).map (symConvChar olds news) ++ r.drop m.alen }, st := .ok }

/-! ## esl_msa_SetDefaultWeights -/

def setDefaultWeights (m : Msa) : Msa :=
  { m with wgt := m.wgt.map (fun _ => 0x3ff0000000000000), flags := m.flags - m.flags % 2 }

/-! ## esl_msa_ReasonableRF (useconsseq = FALSE) -/

/-- the arithmetic `esl_msa_ReasonableRF` needs from `double`; the driver instantiates it with binary64 -/
structure WArith (W : Type) where
  zero : W
  add : W → W → W
  /-- `r > 0. && r / totwgt >= symfrac` -/
  isCons : W → W → Bool

/-- one column: `r` = weight of the sequences with a residue, `totwgt` = `r` + weight of those with a gap;
    missing-data cells (digital mode only) count for neither -/
def rfColumn {W : Type} (A : WArith W) (isRes isGapLike : UInt8 → Bool) (cells : List (UInt8 × W)) : UInt8 :=
  let (r, tot) := cells.foldl (fun (acc : W × W) cw =>
    if isRes cw.1 then (A.add acc.1 cw.2, A.add acc.2 cw.2)
    else if isGapLike cw.1 then (acc.1, A.add acc.2 cw.2)
    else acc) (A.zero, A.zero)
  if A.isCons r tot then 0x78 else 0x2e

/-- `esl_msa_ReasonableRF(msa, symfrac, FALSE, rfline)`: text mode: residue = `isalpha`, everything else a gap;
    digital mode: `esl_abc_XIsResidue` / `esl_abc_XIsGap`, anything else (missing data, `*`) skipped -/
def rfPreds (m : Msa) : Option ((UInt8 → Bool) × (UInt8 → Bool)) :=
  if m.isDigital then
    match m.abc with
    | some a => some (a.xIsResidue, a.xIsGap)
    | none => none
  else some (isAlpha, fun (_ : UInt8) => true)

def reasonableRF {W : Type} (A : WArith W) (m : Msa) (wgt : List W) : Option Bytes :=
  match rfPreds m with
  | none => none
  | some (isRes, isGapLike) =>
    some <| (List.range m.alen).map fun apos =>
      rfColumn A isRes isGapLike (((m.rows.take m.nseq).map (fun r => r.getD apos 0)).zip wgt)

/-! ## esl_msa_ReasonableRF (useconsseq = TRUE, digital mode) -/

/-- binary32 counts fed by binary64 weights: what `esl_abc_FCount` / `esl_vec_FArgMax` need; the driver instantiates it
    with `Float32` -/
structure CArith (W C : Type) where
  zero : C
  ofW : W → C            -- `(float) msa->wgt[idx]`
  add : C → C → C
  divNat : C → Nat → C   -- `wt / (float) abc->ndegen[x]`
  gt : C → C → Bool

/-- `esl_abc_FCount(abc, ct, x, wt)` on a count vector `ct[0..K-1]` for a RESIDUE code `x`: a canonical residue counts
    for itself, a degenerate one is divided equally over the residues it stands for -/
def fCount {C : Type} (add : C → C → C) (divNat : C → Nat → C) (a : Abc) (ct : List C) (x : UInt8) (wt : C) : List C :=
  if x.toNat < a.K then ct.modify x.toNat (fun c => add c wt)
  else (List.range a.K).foldl (fun ct y =>
    if (a.degen.getD x.toNat []).getD y false then ct.modify y (fun c => add c (divNat wt (a.ndegen.getD x.toNat 0)))
    else ct) ct

/-- `esl_vec_FArgMax(vec, n)`: the first index of a maximal element (`>` comparisons from index 1 on) -/
def fArgMax {C : Type} (gt : C → C → Bool) (d : C) (v : List C) : Nat :=
  (List.range v.length).foldl (fun best i => if i ≥ 1 && gt (v.getD i d) (v.getD best d) then i else best) 0

/-- `esl_msa_ReasonableRF(msa, symfrac, TRUE, rfline)` on a DIGITAL alignment: a consensus column carries the symbol of the
    residue with the largest weighted count. On a text-mode alignment (or any alignment without alphabet) the C code before
    the repair 0c757a4 dereferences `msa->abc == NULL` in its first statement: `none` = that fault (finding
    `C15:esl_msa_ReasonableRF:text-useconsseq-null-abc`; the repaired function is `reasonableRFConsX`, Model3.lean). -/
def reasonableRFCons {W C : Type} (A : WArith W) (B : CArith W C) (m : Msa) (wgt : List W) : Option Bytes :=
  if !m.isDigital then none
  else match m.abc with
    | none => none
    | some a =>
      some <| (List.range m.alen).map fun apos =>
        let cells := ((m.rows.take m.nseq).map (fun r => r.getD apos 0)).zip wgt
        let acc := cells.foldl (fun (acc : W × W × List C) cw =>
          if a.xIsResidue cw.1 then
            (A.add acc.1 cw.2, A.add acc.2.1 cw.2, fCount B.add B.divNat a acc.2.2 cw.1 (B.ofW cw.2))
          else if a.xIsGap cw.1 then (acc.1, A.add acc.2.1 cw.2, acc.2.2)
          else acc) (A.zero, A.zero, List.replicate a.K B.zero)
        if A.isCons acc.1 acc.2.1 then a.sym.getD (fArgMax B.gt B.zero acc.2.2) 0 else 0x2e

/-! ## esl_msa_AppendGC -/

/-- `esl_msa_AddComment(msa, p, n)`: the line is stored at the end of `comment[]` (grown by doubling from 16) -/
def addComment (m : Msa) (v : Bytes) : Msa := { m with comment := m.comment ++ [v] }

/-- `esl_msa_AddGF(msa, tag, taglen, value, vlen)`: a new (tag, value) line at the end of `gf_tag[] / gf[]`; a repeated tag
    is a new line, not a concatenation -/
def addGF (m : Msa) (tag v : Bytes) : Msa := { m with gf := m.gf ++ [(tag, v)] }

/-- `esl_msa_AppendGC(msa, tag, value)`: a new tag gets a new line at the end; an existing tag (keyhash lookup) has the
    value appended to its line (`esl_strcat`) -/
def appendGC (tbl : List (Bytes × Bytes)) (tag v : Bytes) : List (Bytes × Bytes) :=
  match tbl.findIdx? (fun t => t.1 == tag) with
  | some t => tbl.modify t (fun (tg, old) => (tg, old ++ v))
  | none => tbl ++ [(tag, v)]

/-! ## esl_sq.c: conversions of a sequence object (as obtained from `esl_sq_FetchFromMSA`) -/

/-- an `ESL_SQ`: `abc = some a` is digital mode (`dsq[1..n]`, `ss`/`xr` indexed 1..n), `none` text mode -/
structure Sq where
  f : Fetched
  abc : Option Abc
  start : Int
  stop : Int
  deriving Repr, DecidableEq, Inhabited

def sqOfFetch (m : Msa) (f : Fetched) : Sq :=
  { f := f, abc := if m.isDigital then m.abc else none, start := 1, stop := f.seq.length }

structure SqRes where
  sq : Sq
  st : St
  exc : Bool := false
  deriving Repr, Inhabited

/-- `esl_sq_Digitize(abc, sq)`: already digital: no-op; an invalid character: `eslEINVAL`, untouched; else the sequence is
    digitized and `ss` / `xr` keep their content (shifted to 1..n) -/
def sqDigitize (a : Abc) (q : Sq) : SqRes :=
  match q.abc with
  | some _ => { sq := q, st := .ok }
  | none =>
    if !(q.f.seq.all a.cIsValid) then { sq := q, st := .einval }
    else { sq := { q with f := { q.f with seq := q.f.seq.map a.digit }, abc := some a }, st := .ok }

/-- `esl_sq_Textize(sq)` -/
def sqTextize (q : Sq) : SqRes :=
  match q.abc with
  | none => { sq := q, st := .ok }
  | some a => { sq := { q with f := { q.f with seq := q.f.seq.map (fun x => a.sym.getD x.toNat 0) }, abc := none }, st := .ok }

/-- the `switch` of `esl_sq_ReverseComplement` (text mode); `none` = `default:` (`'N'`, and the status becomes `eslEINVAL`) -/
def textCompl (c : UInt8) : Option UInt8 :=
  let tbl : List (Char × Char) :=
    [('A','T'),('C','G'),('G','C'),('T','A'),('U','A'),('R','Y'),('Y','R'),('M','K'),('K','M'),('S','S'),('W','W'),('H','D'),
     ('B','V'),('V','B'),('D','H'),('N','N'),('X','X'),
     ('a','t'),('c','g'),('g','c'),('t','a'),('u','a'),('r','y'),('y','r'),('m','k'),('k','m'),('s','s'),('w','w'),('h','d'),
     ('b','v'),('v','b'),('d','h'),('n','n'),('x','x'),('.','.'),('_','_'),('-','-'),('~','~'),('*','*')]
  (tbl.find? (fun p => p.1.toNat == c.toNat)).map (fun p => UInt8.ofNat p.2.toNat)

/-- `esl_sq_ReverseComplement(sq)`: the sequence is reverse-complemented, `start`/`end` are swapped, and the secondary
    structure and every extra residue markup are discarded. Text mode: an unknown character becomes `N` and the status
    `eslEINVAL` (the conversion is still completed). Digital mode without a complement table: `eslEINCOMPAT`, untouched. -/
def sqReverseComplement (q : Sq) : SqRes :=
  match q.abc with
  | none =>
    let seq' := (q.f.seq.map fun c => (textCompl c).getD 0x4e).reverse
    let bad := q.f.seq.any fun c => (textCompl c).isNone
    { sq := { q with f := { q.f with seq := seq', ss := none, xr := [] }, start := q.stop, stop := q.start },
      st := if bad then .einval else .ok }
  | some a =>
    match a.complement with
    | none => { sq := q, st := .eincompat, exc := true }
    | some compl =>
      { sq := { q with f := { q.f with seq := revcompRow compl q.f.seq, ss := none, xr := [] }, start := q.stop, stop := q.start },
        st := .ok }

/-- `esl_sq_ConvertDegen2X(sq)` -/
def sqConvertDegen2X (q : Sq) : SqRes :=
  match q.abc with
  | none => { sq := q, st := .einval, exc := true }
  | some a => { sq := { q with f := { q.f with seq := degen2XRow a q.f.seq } }, st := .ok }

end EaselModel.Msa
