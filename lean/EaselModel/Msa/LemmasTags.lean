import EaselModel.Msa.LemmasMsa
/-! Lemmas: `esl_msa_SequenceSubset` rebuilds the unparsed GS / GR tables so that every retained sequence keeps exactly
    its own markup (`esl_msa_AddGS` / `esl_msa_AppendGR` called per retained sequence and tag). -/
namespace EaselModel.Msa

/-- all rows of a tag table have `nnew` slots -/
def tblWidth (nnew : Nat) (tbl : TagTable) : Prop := ∀ t ∈ tbl, t.2.length = nnew

/-- new index of old sequence `o`: the number of selected sequences before it -/
def rankOf (useme : List Bool) (o : Nat) : Nat := ((useme.take o).filter id).length

theorem getD_modify_opt (l : List (Option Bytes)) (i j : Nat) (f : Option Bytes → Option Bytes) (hj : j < l.length) :
    (l.modify i f).getD j none = if i = j then f (l.getD j none) else l.getD j none := by
  simp only [List.getD_eq_getElem?_getD, List.getElem?_modify, List.getElem?_eq_getElem hj]
  split <;> simp

theorem getD_modify_opt_ne (l : List (Option Bytes)) (i j : Nat) (f : Option Bytes → Option Bytes) (hij : i ≠ j) :
    (l.modify i f).getD j none = l.getD j none := by
  simp only [List.getD_eq_getElem?_getD, List.getElem?_modify]
  cases l[j]? <;> simp [hij]

theorem tblUpdate_width (nnew : Nat) (f : Option Bytes → Option Bytes) (tag : Bytes) (nidx : Nat) :
    ∀ (tbl : TagTable), tblWidth nnew tbl → tblWidth nnew (tblUpdate nnew f tag nidx tbl)
  | [], _ => by
    intro t ht
    simp only [tblUpdate, List.mem_singleton] at ht
    subst ht; simp [List.length_modify]
  | (t, vals) :: rest, hw => by
    have hrest : tblWidth nnew rest := fun x hx => hw x (List.mem_cons_of_mem _ hx)
    have hhead : vals.length = nnew := hw (t, vals) (by simp)
    intro x hx
    simp only [tblUpdate] at hx
    split at hx
    · simp only [List.mem_cons] at hx
      rcases hx with rfl | hx
      · simp [List.length_modify, hhead]
      · exact hrest x hx
    · simp only [List.mem_cons] at hx
      rcases hx with rfl | hx
      · exact hhead
      · exact tblUpdate_width nnew f tag nidx rest hrest x hx

theorem tblLookup_update (nnew : Nat) (f : Option Bytes → Option Bytes) (tag : Bytes) (nidx : Nat) (hn : nidx < nnew)
    (tag' : Bytes) (j : Nat) :
    ∀ (tbl : TagTable), tblWidth nnew tbl →
      tblLookup tag' j (tblUpdate nnew f tag nidx tbl) =
        if tag' = tag ∧ j = nidx then f (tblLookup tag nidx tbl) else tblLookup tag' j tbl
  | [], _ => by
    have hlen : (List.replicate nnew (none : Option Bytes)).length = nnew := by simp
    have hrep : ∀ k, (List.replicate nnew (none : Option Bytes)).getD k none = none := by
      intro k; simp only [List.getD_eq_getElem?_getD, List.getElem?_replicate]; split <;> rfl
    simp only [tblUpdate, tblLookup]
    by_cases h1 : tag = tag'
    · subst h1
      by_cases h2 : j = nidx
      · subst h2
        rw [if_pos rfl, getD_modify_opt _ _ _ _ (by rw [hlen]; exact hn), if_pos rfl, hrep, if_pos ⟨rfl, rfl⟩]
      · rw [if_pos rfl, getD_modify_opt_ne _ _ _ _ (fun e => h2 e.symm), hrep, if_neg (fun h => h2 h.2)]
    · rw [if_neg h1, if_neg (fun h => h1 h.1.symm)]
  | (t, vals) :: rest, hw => by
    have hrest : tblWidth nnew rest := fun x hx => hw x (List.mem_cons_of_mem _ hx)
    have hhead : vals.length = nnew := hw (t, vals) (by simp)
    have ih := tblLookup_update nnew f tag nidx hn tag' j rest hrest
    simp only [tblUpdate]
    by_cases ht : t = tag
    · subst ht
      simp only [if_true, tblLookup]
      by_cases h1 : t = tag'
      · subst h1
        by_cases h2 : j = nidx
        · subst h2
          rw [if_pos rfl, getD_modify_opt _ _ _ _ (by omega : j < vals.length), if_pos rfl, if_pos ⟨rfl, rfl⟩]
        · rw [if_pos rfl, getD_modify_opt_ne _ _ _ _ (fun e => h2 e.symm), if_neg (fun h => h2 h.2), if_pos rfl]
      · rw [if_neg h1, if_neg (fun h => h1 h.1.symm), if_neg h1]
    · simp only [ht, if_false, tblLookup]
      by_cases h1 : t = tag'
      · subst h1
        rw [if_pos rfl, if_neg (fun h => ht h.1), if_pos rfl]
      · simp only [h1, if_false]
        exact ih

theorem tblLookup_not_mem (tag : Bytes) (i : Nat) : ∀ (tbl : TagTable), tag ∉ tbl.map (·.1) → tblLookup tag i tbl = none
  | [], _ => rfl
  | (t, vals) :: rest, h => by
    simp only [List.map_cons, List.mem_cons, not_or] at h
    have : ¬ t = tag := fun e => h.1 e.symm
    simp [tblLookup, this, tblLookup_not_mem tag i rest h.2]

/-- the body of the per-sequence inner loop `if (gs[i][oidx]) AddGS(new, tag[i], nidx, gs[i][oidx])`: it keeps the width and
    changes slot `nidx` of the row of its tag only -/
theorem rowStep_spec (nnew nidx oidx : Nat) (store : Bytes → Option Bytes → Option Bytes) (hn : nidx < nnew) (acc : TagTable)
    (t : Bytes × List (Option Bytes)) (hw : tblWidth nnew acc) :
    tblWidth nnew (match t.2.getD oidx none with
      | some v => tblUpdate nnew (store v) t.1 nidx acc
      | none => acc) ∧
    ∀ tag j, tblLookup tag j (match t.2.getD oidx none with
        | some v => tblUpdate nnew (store v) t.1 nidx acc
        | none => acc) =
      if tag = t.1 ∧ j = nidx then (match t.2.getD oidx none with
        | some v => store v (tblLookup t.1 nidx acc)
        | none => tblLookup t.1 nidx acc)
      else tblLookup tag j acc := by
  split
  · exact ⟨tblUpdate_width _ _ _ _ _ hw, fun tag j => tblLookup_update nnew _ t.1 nidx hn tag j acc hw⟩
  · refine ⟨hw, fun tag j => ?_⟩
    split
    · rename_i h; rw [h.1, h.2]
    · rfl

/-- A loop over the rows `t` of `l` (distinct tags) whose turn replaces slot `nidx` of the row of `t.1` by `val` of what `t` holds
    at `oidx` and of what the slot held: afterwards every tag's slot `nidx` has taken in what `l` holds for that tag at `oidx`,
    and no other slot has changed. -/
theorem foldl_rows {f : TagTable → Bytes × List (Option Bytes) → TagTable} {nnew nidx oidx : Nat}
    {val : Option Bytes → Option Bytes → Option Bytes} (hval : ∀ old, val none old = old)
    (hw : ∀ acc t, tblWidth nnew acc → tblWidth nnew (f acc t))
    (hlk : ∀ acc t tag j, tblWidth nnew acc → tblLookup tag j (f acc t) =
      if tag = t.1 ∧ j = nidx then val (t.2.getD oidx none) (tblLookup t.1 nidx acc) else tblLookup tag j acc) :
    ∀ (l acc : TagTable), (l.map (·.1)).Nodup → tblWidth nnew acc →
      tblWidth nnew (l.foldl f acc) ∧
      ∀ tag j, tblLookup tag j (l.foldl f acc) =
        if j = nidx then val (tblLookup tag oidx l) (tblLookup tag nidx acc) else tblLookup tag j acc := by
  intro l
  induction l with
  | nil =>
    intro acc _ hwa
    refine ⟨hwa, fun tag j => ?_⟩
    show tblLookup tag j acc = if j = nidx then val none (tblLookup tag nidx acc) else tblLookup tag j acc
    rw [hval]; split
    · rename_i e; rw [e]
    · rfl
  | cons t l ih =>
    intro acc hnd hwa
    rw [List.map_cons, List.nodup_cons] at hnd
    obtain ⟨ihw, ihl⟩ := ih (f acc t) hnd.2 (hw acc t hwa)
    refine ⟨ihw, fun tag j => ?_⟩
    have hcons : tblLookup tag oidx (t :: l) = if t.1 = tag then t.2.getD oidx none else tblLookup tag oidx l := by
      cases t; rfl
    rw [List.foldl_cons, ihl tag j, hcons]
    by_cases hj : j = nidx
    · rw [if_pos hj, if_pos hj, hlk acc t tag nidx hwa]
      by_cases ht : tag = t.1
      · -- the row of `t` comes once: the rest of the loop leaves its slot alone
        subst ht
        rw [if_pos ⟨rfl, rfl⟩, if_pos rfl, tblLookup_not_mem _ oidx l hnd.1, hval]
      · rw [if_neg (fun h => ht h.1), if_neg (fun e => ht e.symm)]
    · rw [if_neg hj, if_neg hj, hlk acc t tag j hwa, if_neg (fun h => hj h.2)]

theorem rankOf_succ (useme : List Bool) (o : Nat) :
    rankOf useme (o+1) = rankOf useme o + (if useme.getD o false then 1 else 0) := by
  simp only [rankOf, List.take_add_one, List.filter_append, List.length_append, List.getD_eq_getElem?_getD]
  cases h : useme[o]? with
  | none => simp
  | some b => cases b <;> simp

theorem rankOf_mono (useme : List Bool) : ∀ (a b : Nat), a ≤ b → rankOf useme a ≤ rankOf useme b := by
  intro a b hab
  induction b with
  | zero => have : a = 0 := by omega
            subst this; exact Nat.le_refl _
  | succ b ih =>
    rcases Nat.lt_or_ge a (b+1) with h | h
    · have := ih (by omega); rw [rankOf_succ]; omega
    · have : a = b + 1 := by omega
      subst this; exact Nat.le_refl _

/-- SPEC of the rebuilt table: slot of retained sequence `o` under `tag` holds what `store` makes of the old value -/
def expectedSlot (store : Bytes → Option Bytes → Option Bytes) (src : TagTable) (tag : Bytes) (o : Nat) : Option Bytes :=
  match tblLookup tag o src with
  | some v => store v none
  | none => none

theorem subsetTags_inv (nnew nseq : Nat) (store : Bytes → Option Bytes → Option Bytes) (src : TagTable) (useme : List Bool)
    (hnd : (src.map (·.1)).Nodup) (hnnew : nnew = rankOf useme nseq) :
    ∀ (fuel oidx : Nat) (acc : TagTable), oidx + fuel = nseq → tblWidth nnew acc →
      (∀ tag j, rankOf useme oidx ≤ j → tblLookup tag j acc = none) →
      (∀ o, o < oidx → useme.getD o false = true → ∀ tag,
          tblLookup tag (rankOf useme o) acc = expectedSlot store src tag o) →
      let T := subsetTags (fun tbl tag nidx v => tblUpdate nnew (store v) tag nidx tbl) src useme oidx (rankOf useme oidx) fuel acc
      tblWidth nnew T ∧
      (∀ o, o < nseq → useme.getD o false = true → ∀ tag,
          tblLookup tag (rankOf useme o) T = expectedSlot store src tag o) := by
  intro fuel
  induction fuel with
  | zero =>
    intro oidx acc hf hw _ hd
    have : oidx = nseq := by omega
    subst this
    exact ⟨hw, hd⟩
  | succ fuel ih =>
    intro oidx acc hf hw hz hd
    simp only [subsetTags]
    by_cases hu : useme.getD oidx false = true
    · simp only [hu, if_true]
      have hr : rankOf useme (oidx + 1) = rankOf useme oidx + 1 := by rw [rankOf_succ, hu]; rfl
      have hn : rankOf useme oidx < nnew := by
        have := rankOf_mono useme (oidx+1) nseq (by omega); omega
      have hfold := foldl_rows (val := fun o old => match o with | some v => store v old | none => old) (fun _ => rfl)
        (fun acc t hwa => (rowStep_spec nnew (rankOf useme oidx) oidx store hn acc t hwa).1)
        (fun acc t tag j hwa => (rowStep_spec nnew (rankOf useme oidx) oidx store hn acc t hwa).2 tag j) src acc hnd hw
      rw [← hr]
      apply ih (oidx+1) _ (by omega) hfold.1
      · intro tag j hj
        rw [hfold.2 tag j, if_neg (by omega)]
        exact hz tag j (by omega)
      · intro o ho huo tag
        rcases Nat.lt_or_ge o oidx with hlt | hge
        · have hrk : rankOf useme o ≠ rankOf useme oidx := by
            have h1 := rankOf_mono useme (o+1) oidx (by omega)
            rw [rankOf_succ, huo] at h1; simp only [if_true] at h1; omega
          rw [hfold.2 tag _, if_neg hrk]
          exact hd o hlt huo tag
        · have : o = oidx := by omega
          subst this
          rw [hfold.2 tag _, if_pos rfl, hz tag _ (Nat.le_refl _)]
          rfl
    · have huf : useme.getD oidx false = false := by simpa using hu
      simp only [huf, Bool.false_eq_true, if_false]
      have hr : rankOf useme (oidx + 1) = rankOf useme oidx := by rw [rankOf_succ, huf]; rfl
      rw [← hr]
      apply ih (oidx+1) acc (by omega) hw
      · intro tag j hj; exact hz tag j (by omega)
      · intro o ho huo tag
        rcases Nat.lt_or_ge o oidx with hlt | hge
        · exact hd o hlt huo tag
        · have : o = oidx := by omega
          subst this; rw [huf] at huo; cases huo

end EaselModel.Msa

namespace EaselModel.Msa

theorem tblUpdate_tags (nnew : Nat) (f : Option Bytes → Option Bytes) (tag : Bytes) (nidx : Nat) :
    ∀ (tbl : TagTable), (tblUpdate nnew f tag nidx tbl).map (·.1) =
      if tag ∈ tbl.map (·.1) then tbl.map (·.1) else tbl.map (·.1) ++ [tag]
  | [] => by simp [tblUpdate]
  | (t, vals) :: rest => by
    have ih := tblUpdate_tags nnew f tag nidx rest
    simp only [tblUpdate]
    by_cases ht : t = tag
    · subst ht; simp
    · have hne : ¬ tag = t := fun e => ht e.symm
      simp only [ht, if_false, List.map_cons, ih, List.mem_cons, hne, false_or]
      split <;> simp

theorem tblUpdate_nodup (nnew : Nat) (f : Option Bytes → Option Bytes) (tag : Bytes) (nidx : Nat) (tbl : TagTable)
    (h : (tbl.map (·.1)).Nodup) : ((tblUpdate nnew f tag nidx tbl).map (·.1)).Nodup := by
  rw [tblUpdate_tags]
  split
  · exact h
  · rename_i hn
    rw [List.nodup_append]
    exact ⟨h, by simp, by intro a ha b hb; simp at hb; subst hb; intro e; subst e; exact hn ha⟩

theorem foldl_rows_nodup (nnew nidx oidx : Nat) (store : Bytes → Option Bytes → Option Bytes) :
    ∀ (l : TagTable) (acc : TagTable), (acc.map (·.1)).Nodup →
      ((l.foldl (fun acc (t : Bytes × List (Option Bytes)) =>
          match t.2.getD oidx none with
          | some v => tblUpdate nnew (store v) t.1 nidx acc
          | none => acc) acc).map (·.1)).Nodup
  | [], acc, h => h
  | t :: l, acc, h => by
    simp only [List.foldl_cons]
    apply foldl_rows_nodup nnew nidx oidx store l
    split
    · exact tblUpdate_nodup _ _ _ _ _ h
    · exact h

theorem subsetTags_nodup (nnew : Nat) (store : Bytes → Option Bytes → Option Bytes) (src : TagTable) (useme : List Bool) :
    ∀ (fuel oidx nidx : Nat) (acc : TagTable), (acc.map (·.1)).Nodup →
      ((subsetTags (fun tbl tag nidx v => tblUpdate nnew (store v) tag nidx tbl) src useme oidx nidx fuel acc).map (·.1)).Nodup := by
  intro fuel
  induction fuel with
  | zero => intro _ _ acc h; exact h
  | succ fuel ih =>
    intro oidx nidx acc h
    simp only [subsetTags]
    split
    · exact ih _ _ _ (foldl_rows_nodup nnew nidx oidx store src acc h)
    · exact ih _ _ _ h

theorem tblLookup_of_mem (j : Nat) : ∀ (tbl : TagTable), (tbl.map (·.1)).Nodup → ∀ t ∈ tbl,
    tblLookup t.1 j tbl = t.2.getD j none
  | [], _, t, ht => by simp at ht
  | (t0, vals) :: rest, hnd, t, ht => by
    simp only [List.map_cons, List.nodup_cons] at hnd
    simp only [List.mem_cons] at ht
    rcases ht with rfl | ht
    · simp [tblLookup]
    · have hne : ¬ t0 = t.1 := by
        intro e; apply hnd.1; rw [e]; exact List.mem_map_of_mem (f := (·.1)) ht
      simp only [tblLookup, hne, if_false]
      exact tblLookup_of_mem j rest hnd.2 t ht

theorem tblLookup_some_mem (tag : Bytes) (o : Nat) (v : Bytes) : ∀ (tbl : TagTable), tblLookup tag o tbl = some v →
    ∃ t ∈ tbl, some v ∈ t.2
  | [], h => by simp [tblLookup] at h
  | (t0, vals) :: rest, h => by
    simp only [tblLookup] at h
    split at h
    · refine ⟨(t0, vals), by simp, ?_⟩
      simp only [List.getD_eq_getElem?_getD] at h
      cases hv : vals[o]? with
      | none => simp [hv] at h
      | some x => simp [hv] at h; subst h; exact List.mem_of_getElem? hv
    · obtain ⟨t, ht, hv⟩ := tblLookup_some_mem tag o v rest h
      exact ⟨t, List.mem_cons_of_mem _ ht, hv⟩

theorem rank_surj (useme : List Bool) : ∀ (n j : Nat), j < rankOf useme n →
    ∃ o, o < n ∧ useme.getD o false = true ∧ rankOf useme o = j := by
  intro n
  induction n with
  | zero => intro j hj; simp [rankOf] at hj
  | succ n ih =>
    intro j hj
    rw [rankOf_succ] at hj
    by_cases hu : useme.getD n false = true
    · rw [hu] at hj; simp only [if_true] at hj
      rcases Nat.lt_or_ge j (rankOf useme n) with h | h
      · obtain ⟨o, ho, h1, h2⟩ := ih j h; exact ⟨o, by omega, h1, h2⟩
      · exact ⟨n, by omega, hu, by omega⟩
    · have huf : useme.getD n false = false := by simpa using hu
      rw [huf] at hj; simp only [Bool.false_eq_true, if_false, Nat.add_zero] at hj
      obtain ⟨o, ho, h1, h2⟩ := ih j hj; exact ⟨o, by omega, h1, h2⟩

end EaselModel.Msa

namespace EaselModel.Msa

theorem countSelected_eq_rank (m : Msa) (useme : List Bool) : countSelected m useme = rankOf useme m.nseq := rfl

theorem rankOf_cons_succ (b : Bool) (us : List Bool) (o : Nat) :
    rankOf (b :: us) (o+1) = (if b then 1 else 0) + rankOf us o := by
  cases b <;> simp [rankOf, Nat.add_comm]

/-- a retained element sits at its rank in the filtered list: names, weights, rows, annotation stay attached -/
theorem maskFilter_getD_rank {α : Type} (d : α) : ∀ (useme : List Bool) (xs : List α) (o : Nat), o < xs.length →
    useme.getD o false = true → (maskFilter useme xs).getD (rankOf useme o) d = xs.getD o d
  | [], _, o, _, hu => by simp at hu
  | _ :: _, [], o, ho, _ => by simp at ho
  | b :: us, x :: xs, 0, _, hu => by
    have : b = true := by simpa using hu
    subst this; simp [maskFilter, rankOf]
  | b :: us, x :: xs, o+1, ho, hu => by
    have ih := maskFilter_getD_rank d us xs o (by simpa using ho) (by simpa using hu)
    rw [rankOf_cons_succ]
    cases b
    · simpa [maskFilter] using ih
    · simp only [maskFilter, if_true]
      rw [Nat.add_comm]
      simpa using ih

theorem gsStore_none (v : Bytes) : gsStore v none = some v := rfl
theorem grStore_none (v : Bytes) : grStore v none = if v.isEmpty then none else some v := by
  simp [grStore]

theorem expectedSlot_gs (src : TagTable) (tag : Bytes) (o : Nat) : expectedSlot gsStore src tag o = tblLookup tag o src := by
  simp only [expectedSlot]; split <;> simp_all [gsStore_none]

theorem expectedSlot_gr (src : TagTable) (tag : Bytes) (o : Nat) :
    expectedSlot grStore src tag o = (tblLookup tag o src).bind (fun v => if v.isEmpty then none else some v) := by
  simp only [expectedSlot]; split <;> simp_all [grStore_none]

theorem subset_tables (m : Msa) (useme : List Bool) (hgs : (m.gs.map (·.1)).Nodup) (hgr : (m.gr.map (·.1)).Nodup) :
    let b := sequenceSubsetMsa m useme (countSelected m useme)
    tblWidth (countSelected m useme) b.gs ∧ tblWidth (countSelected m useme) b.gr ∧
    (b.gs.map (·.1)).Nodup ∧ (b.gr.map (·.1)).Nodup ∧
    (∀ o, o < m.nseq → useme.getD o false = true → ∀ tag,
        tblLookup tag (rankOf useme o) b.gs = tblLookup tag o m.gs ∧
        tblLookup tag (rankOf useme o) b.gr = (tblLookup tag o m.gr).bind (fun v => if v.isEmpty then none else some v)) := by
  have h0 : rankOf useme 0 = 0 := rfl
  have hz : ∀ (tag : Bytes) (j : Nat), rankOf useme 0 ≤ j → tblLookup tag j ([] : TagTable) = none := fun _ _ _ => rfl
  have hd : ∀ (store : Bytes → Option Bytes → Option Bytes) (src : TagTable) (o : Nat), o < 0 → useme.getD o false = true →
      ∀ tag, tblLookup tag (rankOf useme o) ([] : TagTable) = expectedSlot store src tag o := fun _ _ o ho => by omega
  have hw0 : tblWidth (countSelected m useme) [] := fun t ht => by simp at ht
  have g1 := subsetTags_inv (countSelected m useme) m.nseq gsStore m.gs useme hgs rfl m.nseq 0 [] (by omega) hw0 hz (hd _ _)
  have g2 := subsetTags_inv (countSelected m useme) m.nseq grStore m.gr useme hgr rfl m.nseq 0 [] (by omega) hw0 hz (hd _ _)
  have n1 := subsetTags_nodup (countSelected m useme) gsStore m.gs useme m.nseq 0 0 [] (by simp)
  have n2 := subsetTags_nodup (countSelected m useme) grStore m.gr useme m.nseq 0 0 [] (by simp)
  rw [h0] at g1 g2
  refine ⟨g1.1, g2.1, n1, n2, fun o ho hu tag => ⟨?_, ?_⟩⟩
  · have := g1.2 o ho hu tag; rw [expectedSlot_gs] at this; exact this
  · have := g2.2 o ho hu tag; rw [expectedSlot_gr] at this; exact this

theorem sequenceSubsetMsa_wf (m : Msa) (useme : List Bool) (wf : m.WF) (hn : countSelected m useme ≠ 0)
    (hgs : (m.gs.map (·.1)).Nodup) (hgr : (m.gr.map (·.1)).Nodup) :
    (sequenceSubsetMsa m useme (countSelected m useme)).WF := by
  have ht := subset_tables m useme hgs hgr
  apply sequenceSubsetMsa_wf_core m useme wf hn ht.1 ht.2.1
  intro t htm s hs b' hb
  subst hb
  -- the cell is slot j of row t
  obtain ⟨j, hj, hget⟩ := List.getElem_of_mem hs
  have hw := ht.2.1 t htm
  have hlk := tblLookup_of_mem j _ ht.2.2.2.1 t htm
  have hcell : t.2.getD j none = some b' := by
    simp [List.getD_eq_getElem?_getD, List.getElem?_eq_getElem hj, hget]
  rw [hcell] at hlk
  obtain ⟨o, ho, hu, hr⟩ := rank_surj useme m.nseq j (by rw [← countSelected_eq_rank, ← hw]; exact hj)
  have hsp := (ht.2.2.2.2 o ho hu t.1).2
  rw [hr, hlk] at hsp
  cases hv : tblLookup t.1 o m.gr with
  | none => rw [hv] at hsp; simp at hsp
  | some v =>
    rw [hv] at hsp
    simp only [Option.bind_some] at hsp
    split at hsp
    · cases hsp
    · injection hsp with hsp
      subst hsp
      obtain ⟨t', ht', hv'⟩ := tblLookup_some_mem t.1 o b' m.gr hv
      exact wf.gr_ok t' ht' _ hv' b' rfl

end EaselModel.Msa
