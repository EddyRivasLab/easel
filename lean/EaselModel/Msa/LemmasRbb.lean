import EaselModel.Msa.LemmasShape
import EaselModel.Msa.LemmasC2W
import EaselModel.Msa.LemmasMsa
/-! Lemmas: `esl_msa_RemoveBrokenBasepairs` keeps the alignment well formed (so that the column compaction that follows
    it in `esl_msa_ColumnSubset` is the column filter on DNA/RNA alignments too), and what it leaves in SS_cons and in the
    per-sequence SS lines is the output of `esl_msa_RemoveBrokenBasepairsFromSS` on each. -/
namespace EaselModel.Msa

theorem removeBrokenFromSS_shape (s s' : Bytes) (useme : List Bool) (h : removeBrokenFromSS s useme = .ok s') :
    s'.length = s.length ∧ ∀ c ∈ s', c ≠ 0 := by
  unfold removeBrokenFromSS at h
  split at h
  · cases h
  · rename_i ct hct
    have hl := (wuss2ct_involution' s ct hct).1
    have := ct2wussGen_shape false _ s' h
    rw [breakPairs_length, hl] at this
    exact ⟨by simpa using this.1, this.2⟩

/-- the repair of one optional SS line, where it succeeds (a missing line stays missing) -/
def rbbLine (mask : List Bool) (s : Option Bytes) : Option Bytes :=
  s.map fun b => match removeBrokenFromSS b mask with | .ok b' => b' | .error _ => b

theorem rbbLine_ok {mask : List Bool} {b b' : Bytes} (h : removeBrokenFromSS b mask = .ok b') :
    rbbLine mask (some b) = some b' := by
  simp [rbbLine, h]

theorem rbbLine_optOk (mask : List Bool) (alen : Nat) (s : Option Bytes)
    (hok : ∀ b, s = some b → ∃ b', removeBrokenFromSS b mask = .ok b') (h : optOk alen s) : optOk alen (rbbLine mask s) := by
  cases s with
  | none => intro b hb; cases hb
  | some b0 =>
    obtain ⟨b', hb'⟩ := hok b0 rfl
    rw [rbbLine_ok hb']
    intro b hb
    cases hb
    have hsh := removeBrokenFromSS_shape b0 b' mask hb'
    exact ⟨by rw [hsh.1, (h b0 rfl).1], hsh.2⟩

/-- the per-sequence part reports no error exactly when the repair of every line succeeds, and then it has repaired every line -/
theorem rbbSeqs_spec (mask : List Bool) : ∀ (l : List (Option Bytes)),
    ((rbbSeqs mask l).2 = none ↔ ∀ b, some b ∈ l → ∃ b', removeBrokenFromSS b mask = .ok b') ∧
    ((rbbSeqs mask l).2 = none → (rbbSeqs mask l).1 = l.map (rbbLine mask))
  | [] => ⟨⟨fun _ b hb => by simp at hb, fun _ => rfl⟩, fun _ => rfl⟩
  | none :: rest => by
    obtain ⟨i1, i2⟩ := rbbSeqs_spec mask rest
    cases hr : rbbSeqs mask rest with
    | mk r e =>
      rw [hr] at i1 i2
      simp only [rbbSeqs, hr, List.map_cons]
      exact ⟨i1.trans ⟨fun h b hb => h b (by simpa using hb), fun h b hb => h b (by simp [hb])⟩,
        fun he => by rw [← i2 he]; rfl⟩
  | some s0 :: rest => by
    obtain ⟨i1, i2⟩ := rbbSeqs_spec mask rest
    cases hs : removeBrokenFromSS s0 mask with
    | error e0 =>
      simp only [rbbSeqs, hs]
      refine ⟨⟨fun h => (by cases h), fun h => ?_⟩, fun h => (by cases h)⟩
      obtain ⟨b', hb'⟩ := h s0 (by simp)
      rw [hs] at hb'; cases hb'
    | ok s1 =>
      cases hr : rbbSeqs mask rest with
      | mk r e =>
        rw [hr] at i1 i2
        simp only [rbbSeqs, hs, hr, List.map_cons, rbbLine_ok hs]
        refine ⟨i1.trans ⟨fun h b hb => ?_, fun h b hb => h b (by simp [hb])⟩, fun he => by rw [← i2 he]⟩
        rcases List.mem_cons.1 hb with e' | hb
        · cases e'; exact ⟨s1, hs⟩
        · exact h b hb

theorem ofWErr_ne_ok (e : WErr) : St.ofWErr e ≠ .ok := by
  cases e <;> simp [St.ofWErr]

theorem rbbSeqs_eq {mask : List Bool} {l : List (Option Bytes)} (h : ∀ b, some b ∈ l → ∃ b', removeBrokenFromSS b mask = .ok b') :
    rbbSeqs mask l = (l.map (rbbLine mask), none) := by
  obtain ⟨i1, i2⟩ := rbbSeqs_spec mask l
  exact Prod.ext (i2 (i1.2 h)) (i1.2 h)

/-- `esl_msa_RemoveBrokenBasepairs` returns `eslOK` only when the repair of SS_cons and of every per-sequence SS line succeeds ... -/
theorem removeBrokenBasepairs_ok_inv {m : Msa} {mask : List Bool} (hok : (removeBrokenBasepairs m mask).st = .ok) :
    (∀ b, m.ss_cons = some b → ∃ b', removeBrokenFromSS b mask = .ok b') ∧
    ∀ b, some b ∈ m.ss → ∃ b', removeBrokenFromSS b mask = .ok b' := by
  have hseq : (rbbSeqs mask m.ss).2 = none → ∀ b, some b ∈ m.ss → ∃ b', removeBrokenFromSS b mask = .ok b' :=
    (rbbSeqs_spec mask m.ss).1.1
  unfold removeBrokenBasepairs at hok
  cases hr : rbbSeqs mask m.ss with
  | mk l' e =>
    rw [hr] at hseq
    cases hc : m.ss_cons with
    | none =>
      simp only [hr, hc] at hok
      cases e with
      | none => exact ⟨fun b hb => (by cases hb), hseq rfl⟩
      | some e => exact absurd hok (ofWErr_ne_ok e)
    | some s0 =>
      cases hs : removeBrokenFromSS s0 mask with
      | error e0 => simp only [hc, hs, Except.map] at hok; exact absurd hok (ofWErr_ne_ok e0)
      | ok s1 =>
        simp only [hr, hc, hs, Except.map] at hok
        cases e with
        | none => exact ⟨fun b hb => (by cases hb; exact ⟨s1, hs⟩), hseq rfl⟩
        | some e => exact absurd hok (ofWErr_ne_ok e)

/-- ... and then it has replaced each of them by its repair and touched nothing else -/
theorem removeBrokenBasepairs_ok (m : Msa) (mask : List Bool)
    (hc : ∀ b, m.ss_cons = some b → ∃ b', removeBrokenFromSS b mask = .ok b')
    (hs : ∀ b, some b ∈ m.ss → ∃ b', removeBrokenFromSS b mask = .ok b') :
    removeBrokenBasepairs m mask =
      { msa := { m with ss_cons := rbbLine mask m.ss_cons, ss := m.ss.map (rbbLine mask) }, st := .ok } := by
  unfold removeBrokenBasepairs
  rw [rbbSeqs_eq hs]
  cases hcons : m.ss_cons with
  | none => rfl
  | some s0 =>
    obtain ⟨s1, h1⟩ := hc s0 hcons
    simp only [h1, Except.map, rbbLine_ok h1]

theorem removeBrokenBasepairs_wf (m : Msa) (useme : List Bool) (wf : m.WF)
    (hok : (removeBrokenBasepairs m useme).st = .ok) :
    (removeBrokenBasepairs m useme).msa.WF ∧ (removeBrokenBasepairs m useme).msa.alen = m.alen ∧
    ∃ sc ss', (removeBrokenBasepairs m useme).msa = { m with ss_cons := sc, ss := ss' } := by
  obtain ⟨hc, hs⟩ := removeBrokenBasepairs_ok_inv hok
  rw [removeBrokenBasepairs_ok m useme hc hs]
  refine ⟨?_, rfl, _, _, rfl⟩
  exact { wf with
    ss_cons_ok := rbbLine_optOk useme m.alen m.ss_cons hc wf.ss_cons_ok
    ss_len := by rw [List.length_map]; exact wf.ss_len
    ss_ok := fun s hs' => by
      obtain ⟨s0, h0, rfl⟩ := List.mem_map.1 hs'
      exact rbbLine_optOk useme m.alen s0 (fun b hb => hs b (hb ▸ h0)) (wf.ss_ok s0 h0) }

/-- `esl_msa_ColumnSubset` on a DNA/RNA alignment: the base pairs are repaired first; the repaired alignment goes through the
    column filter, or the repair's error is returned and no column removed -/
theorem columnSubset_nucleic' (m : Msa) (mask : List Bool) (a : Abc) (wf : m.WF) (habc : m.abc = some a)
    (hn : a.isNucleic = true) (hm : mask.length = m.alen) :
    ((removeBrokenBasepairs m mask).st = .ok →
        columnSubset m mask = { msa := (removeBrokenBasepairs m mask).msa.colFilter mask, st := .ok } ∧
        ((removeBrokenBasepairs m mask).msa.colFilter mask).WF ∧
        ∃ sc ss', (removeBrokenBasepairs m mask).msa = { m with ss_cons := sc, ss := ss' }) ∧
    ((removeBrokenBasepairs m mask).st ≠ .ok → columnSubset m mask = removeBrokenBasepairs m mask) := by
  constructor
  · intro hok
    obtain ⟨wf', hal, hform⟩ := removeBrokenBasepairs_wf m mask wf hok
    have hm' : mask.length = (removeBrokenBasepairs m mask).msa.alen := by rw [hal]; exact hm
    have h := columnCompact_eq _ mask wf' hm'
    exact ⟨by simp [columnSubset, habc, hn, hok, h], colFilter_wf _ mask wf' hm', hform⟩
  · intro hbad
    simp [columnSubset, habc, hn, hbad]

/-- what a successful repair leaves in SS_cons and in the SS line of sequence `i`: the repair of that line -/
theorem removeBrokenBasepairs_lines (m : Msa) (mask : List Bool) (hok : (removeBrokenBasepairs m mask).st = .ok) :
    (∀ ss, m.ss_cons = some ss →
      ∃ ss', removeBrokenFromSS ss mask = .ok ss' ∧ (removeBrokenBasepairs m mask).msa.ss_cons = some ss') ∧
    (∀ (i : Nat) s, m.ss[i]? = some (some s) →
      ∃ s', removeBrokenFromSS s mask = .ok s' ∧ (removeBrokenBasepairs m mask).msa.ss[i]? = some (some s')) ∧
    (m.ss_cons = none → (removeBrokenBasepairs m mask).msa.ss_cons = none) := by
  obtain ⟨hc, hs⟩ := removeBrokenBasepairs_ok_inv hok
  rw [removeBrokenBasepairs_ok m mask hc hs]
  refine ⟨fun ss hss => ?_, fun i s hi => ?_, fun hn => by simp [hn, rbbLine]⟩
  · obtain ⟨ss', h'⟩ := hc ss hss
    exact ⟨ss', h', by simp only [hss, rbbLine_ok h']⟩
  · obtain ⟨s', h'⟩ := hs s (List.mem_of_getElem? hi)
    exact ⟨s', h', by simp only [List.getElem?_map, hi, Option.map_some, rbbLine_ok h']⟩

end EaselModel.Msa
