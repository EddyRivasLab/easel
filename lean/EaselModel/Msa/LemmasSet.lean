import EaselModel.Msa.Model3
import EaselModel.Msa.LemmasCmp
/-! Lemmas: `esl_msa_Set*` / `esl_msa_Format*` replace exactly one field. -/
namespace EaselModel.Msa

/-- everything the Set/Format family must not touch -/
structure SameButStrings (a b : Msa) : Prop where
  nseq : a.nseq = b.nseq
  alen : a.alen = b.alen
  flags : a.flags = b.flags
  abc : a.abc = b.abc
  rows : a.rows = b.rows
  wgt : a.wgt = b.wgt
  ss_cons : a.ss_cons = b.ss_cons
  sa_cons : a.sa_cons = b.sa_cons
  pp_cons : a.pp_cons = b.pp_cons
  rf : a.rf = b.rf
  mm : a.mm = b.mm
  ss : a.ss = b.ss
  sa : a.sa = b.sa
  pp : a.pp = b.pp
  cutoff : a.cutoff = b.cutoff
  cutset : a.cutset = b.cutset
  comment : a.comment = b.comment
  gf : a.gf = b.gf
  gs : a.gs = b.gs
  gc : a.gc = b.gc
  gr : a.gr = b.gr

theorem SameButStrings.refl (m : Msa) : SameButStrings m m := by constructor <;> rfl

/-- `m` with the string field `f` (of sequence `k`, for the per-sequence fields) replaced by `v` -/
def replaceStr (m : Msa) (f : StrField) (k : Nat) (v : Option Bytes) : Msa :=
  match f with
  | .name => { m with name := v }
  | .desc => { m with desc := v }
  | .acc => { m with acc := v }
  | .au => { m with au := v }
  | .sqname => { m with sqname := m.sqname.set k (v.getD []) }
  | .sqacc => { m with sqacc := m.sqacc.set k v }
  | .sqdesc => { m with sqdesc := m.sqdesc.set k v }

/-- `Set…` either refuses and leaves the alignment as it is, or replaces exactly the one string (for a per-sequence field
    `idx` is then a valid index, and a sequence name is not NULL) -/
theorem setStr_cases (m : Msa) (f : StrField) (idx : Int) (s : Option Bytes) (n : Int) :
    ((setStr m f idx s n).st ≠ .ok ∧ (setStr m f idx s n).msa = m) ∨
    ((setStr m f idx s n).st = .ok ∧ (setStr m f idx s n).msa = replaceStr m f idx.toNat (dupMem s n) ∧
      ((f = .sqname ∨ f = .sqacc ∨ f = .sqdesc) → 0 ≤ idx ∧ idx < m.nseq) ∧
      (f = .sqname → (dupMem s n).isSome = true)) := by
  cases f <;> simp only [setStr, replaceStr]
  all_goals (repeat' split)
  all_goals simp [dupMem, *]
  all_goals omega

theorem replaceStr_same (m : Msa) (f : StrField) (k : Nat) (v : Option Bytes) : SameButStrings (replaceStr m f k v) m := by
  cases f <;> constructor <;> rfl

theorem setStr_same (m : Msa) (f : StrField) (idx : Int) (s : Option Bytes) (n : Int) :
    SameButStrings (setStr m f idx s n).msa m := by
  rcases setStr_cases m f idx s n with ⟨_, h⟩ | ⟨_, h, _⟩
  · rw [h]; exact SameButStrings.refl m
  · rw [h]; exact replaceStr_same m f _ _

/-- `Format…` is `Set…` of the formatted string with no length limit, except that its refusals carry `eslEINVAL` where
    `Set…` has `eslEINCONCEIVABLE`: the two families differ in that error code only -/
theorem formatStr_eq (m : Msa) (f : StrField) (idx : Int) (out : Option Bytes) :
    formatStr m f idx out =
      { setStr m f idx out (-1) with
        st := if (setStr m f idx out (-1)).st = .einconceivable then .einval else (setStr m f idx out (-1)).st } := by
  have e : dupMem out (-1) = out := by cases out <;> simp [dupMem]
  have e2 : ¬ (0 : Int) ≤ -1 := by omega
  cases f <;> simp only [formatStr, setStr, e, if_neg e2]
  case sqname => by_cases h1 : idx ≥ m.nseq <;> cases out <;> by_cases h2 : idx < 0 <;> simp [h1, h2]
  case sqacc | sqdesc => by_cases h1 : idx ≥ m.nseq <;> by_cases h2 : idx < 0 <;> simp [h1, h2]
  all_goals rfl

theorem formatStr_same (m : Msa) (f : StrField) (idx : Int) (out : Option Bytes) :
    SameButStrings (formatStr m f idx out).msa m := by
  rw [formatStr_eq]; exact setStr_same m f idx out (-1)

theorem setStr_ok_or_unchanged (m : Msa) (f : StrField) (idx : Int) (s : Option Bytes) (n : Int) :
    (setStr m f idx s n).st = .ok ∨ (setStr m f idx s n).msa = m := by
  rcases setStr_cases m f idx s n with ⟨_, h⟩ | ⟨h, _⟩
  · exact Or.inr h
  · exact Or.inl h

theorem formatStr_ok_or_unchanged (m : Msa) (f : StrField) (idx : Int) (out : Option Bytes) :
    (formatStr m f idx out).st = .ok ∨ (formatStr m f idx out).msa = m := by
  rw [formatStr_eq]
  rcases setStr_ok_or_unchanged m f idx out (-1) with h | h
  · exact Or.inl (by show (if _ then _ else _) = _; rw [h]; rfl)
  · exact Or.inr h

theorem setStr_fail_unchanged (m : Msa) (f : StrField) (idx : Int) (s : Option Bytes) (n : Int)
    (h : (setStr m f idx s n).st ≠ .ok) : (setStr m f idx s n).msa = m :=
  (setStr_ok_or_unchanged m f idx s n).resolve_left h

theorem formatStr_fail_unchanged (m : Msa) (f : StrField) (idx : Int) (out : Option Bytes)
    (h : (formatStr m f idx out).st ≠ .ok) : (formatStr m f idx out).msa = m :=
  (formatStr_ok_or_unchanged m f idx out).resolve_left h

theorem setStr_others (m : Msa) (f : StrField) (idx : Int) (s : Option Bytes) (n : Int) (j : Nat) (hj : (j : Int) ≠ idx) :
    (setStr m f idx s n).msa.sqname[j]? = m.sqname[j]? ∧ (setStr m f idx s n).msa.sqacc[j]? = m.sqacc[j]? ∧
    (setStr m f idx s n).msa.sqdesc[j]? = m.sqdesc[j]? := by
  rcases setStr_cases m f idx s n with ⟨_, h⟩ | ⟨_, h, h0⟩
  · rw [h]; exact ⟨rfl, rfl, rfl⟩
  · rw [h]
    cases f
    case sqname => exact ⟨List.getElem?_set_ne (by have := h0.1 (Or.inl rfl); omega), rfl, rfl⟩
    case sqacc => exact ⟨rfl, List.getElem?_set_ne (by have := h0.1 (Or.inr (Or.inl rfl)); omega), rfl⟩
    case sqdesc => exact ⟨rfl, rfl, List.getElem?_set_ne (by have := h0.1 (Or.inr (Or.inr rfl)); omega)⟩
    all_goals exact ⟨rfl, rfl, rfl⟩

theorem formatStr_others (m : Msa) (f : StrField) (idx : Int) (out : Option Bytes) (j : Nat) (hj : (j : Int) ≠ idx) :
    (formatStr m f idx out).msa.sqname[j]? = m.sqname[j]? ∧ (formatStr m f idx out).msa.sqacc[j]? = m.sqacc[j]? ∧
    (formatStr m f idx out).msa.sqdesc[j]? = m.sqdesc[j]? := by
  rw [formatStr_eq]; exact setStr_others m f idx out (-1) j hj

/-- the string the field holds afterwards -/
def strFieldGet (m : Msa) (f : StrField) (idx : Nat) : Option Bytes :=
  match f with
  | .name => m.name | .desc => m.desc | .acc => m.acc | .au => m.au
  | .sqname => m.sqname[idx]?
  | .sqacc => (m.sqacc[idx]?).join
  | .sqdesc => (m.sqdesc[idx]?).join

theorem setStr_sets (m : Msa) (hs : m.Shape) (f : StrField) (idx : Int) (s : Option Bytes) (n : Int) :
    (setStr m f idx s n).st = .ok → strFieldGet (setStr m f idx s n).msa f idx.toNat = dupMem s n := by
  intro hok
  have h1 := hs.sqname_len; have h2 := hs.sqacc_len; have h3 := hs.sqdesc_len
  rcases setStr_cases m f idx s n with ⟨h, _⟩ | ⟨_, h, hi, hsome⟩
  · exact absurd hok h
  · rw [h]
    cases f
    case sqname =>
      obtain ⟨v, hv⟩ := Option.isSome_iff_exists.mp (hsome rfl)
      have := hi (Or.inl rfl)
      simp only [strFieldGet, replaceStr]
      rw [List.getElem?_set_self (by omega), hv]; rfl
    case sqacc =>
      have := hi (Or.inr (Or.inl rfl))
      simp only [strFieldGet, replaceStr]
      rw [List.getElem?_set_self (by omega)]; rfl
    case sqdesc =>
      have := hi (Or.inr (Or.inr rfl))
      simp only [strFieldGet, replaceStr]
      rw [List.getElem?_set_self (by omega)]; rfl
    all_goals rfl

theorem setStr_shape (m : Msa) (hs : m.Shape) (f : StrField) (idx : Int) (s : Option Bytes) (n : Int) :
    (setStr m f idx s n).msa.Shape := by
  rcases setStr_cases m f idx s n with ⟨_, h⟩ | ⟨_, h, _⟩
  · rw [h]; exact hs
  · rw [h]
    obtain ⟨a1, a2, a3, a4, a5, a6, a7, a8, a9, a10⟩ := hs
    cases f <;> constructor <;> simp [replaceStr, *]

theorem formatStr_shape (m : Msa) (hs : m.Shape) (f : StrField) (idx : Int) (out : Option Bytes) :
    (formatStr m f idx out).msa.Shape := by
  rw [formatStr_eq]; exact setStr_shape m hs f idx out (-1)

theorem formatStr_eq_setStr (m : Msa) (f : StrField) (idx : Int) (out : Option Bytes) :
    (formatStr m f idx out).st = .ok → formatStr m f idx out = setStr m f idx out (-1) := by
  rw [formatStr_eq]
  by_cases h : (setStr m f idx out (-1)).st = .einconceivable
  · rw [if_pos h]; intro c; cases c
  · rw [if_neg h]; intro _; rfl

end EaselModel.Msa

namespace EaselModel.Msa

/-- well-formedness does not look at the seven strings the Set/Format family writes (only at the widths of the three
    per-sequence arrays) -/
theorem WF_of_sameButStrings (a b : Msa) (h : SameButStrings a b) (h1 : a.sqname.length = b.sqname.length)
    (h2 : a.sqacc.length = b.sqacc.length) (h3 : a.sqdesc.length = b.sqdesc.length) (wf : b.WF) : a.WF := by
  obtain ⟨e1, e2, e3, e4, e5, e6, e7, e8, e9, e10, e11, e12, e13, e14, e15, e16, e17, e18, e19, e20, e21⟩ := h
  have hterm : a.rowTerm = b.rowTerm := by simp [Msa.rowTerm, Msa.isDigital, e3]
  constructor
  · rw [e1]; exact wf.nseq_pos
  · rw [e3]; exact wf.flags_lt
  · rw [e5, e1]; exact wf.rows_len
  · rw [e5, e2, hterm]; exact wf.rows_ok
  · rw [h1, e1]; exact wf.sqname_len
  · rw [e6, e1]; exact wf.wgt_len
  · rw [h2, e1]; exact wf.sqacc_len
  · rw [h3, e1]; exact wf.sqdesc_len
  · rw [e12, e1]; exact wf.ss_len
  · rw [e13, e1]; exact wf.sa_len
  · rw [e14, e1]; exact wf.pp_len
  · rw [e12, e2]; exact wf.ss_ok
  · rw [e13, e2]; exact wf.sa_ok
  · rw [e14, e2]; exact wf.pp_ok
  · rw [e7, e2]; exact wf.ss_cons_ok
  · rw [e8, e2]; exact wf.sa_cons_ok
  · rw [e9, e2]; exact wf.pp_cons_ok
  · rw [e10, e2]; exact wf.rf_ok
  · rw [e11, e2]; exact wf.mm_ok
  · rw [e20, e2]; exact wf.gc_ok
  · rw [e21, e1]; exact wf.gr_len
  · rw [e21, e2]; exact wf.gr_ok
  · rw [e19, e1]; exact wf.gs_len

theorem setStr_lens (m : Msa) (f : StrField) (idx : Int) (s : Option Bytes) (n : Int) :
    (setStr m f idx s n).msa.sqname.length = m.sqname.length ∧ (setStr m f idx s n).msa.sqacc.length = m.sqacc.length ∧
    (setStr m f idx s n).msa.sqdesc.length = m.sqdesc.length := by
  rcases setStr_cases m f idx s n with ⟨_, h⟩ | ⟨_, h, _⟩
  · rw [h]; exact ⟨rfl, rfl, rfl⟩
  · rw [h]; cases f <;> simp [replaceStr]

theorem formatStr_lens (m : Msa) (f : StrField) (idx : Int) (out : Option Bytes) :
    (formatStr m f idx out).msa.sqname.length = m.sqname.length ∧ (formatStr m f idx out).msa.sqacc.length = m.sqacc.length ∧
    (formatStr m f idx out).msa.sqdesc.length = m.sqdesc.length := by
  rw [formatStr_eq]; exact setStr_lens m f idx out (-1)

theorem setStr_wf (m : Msa) (wf : m.WF) (f : StrField) (idx : Int) (s : Option Bytes) (n : Int) : (setStr m f idx s n).msa.WF :=
  WF_of_sameButStrings _ m (setStr_same m f idx s n) (setStr_lens m f idx s n).1 (setStr_lens m f idx s n).2.1
    (setStr_lens m f idx s n).2.2 wf

theorem formatStr_wf (m : Msa) (wf : m.WF) (f : StrField) (idx : Int) (out : Option Bytes) : (formatStr m f idx out).msa.WF :=
  WF_of_sameButStrings _ m (formatStr_same m f idx out) (formatStr_lens m f idx out).1 (formatStr_lens m f idx out).2.1
    (formatStr_lens m f idx out).2.2 wf

end EaselModel.Msa
