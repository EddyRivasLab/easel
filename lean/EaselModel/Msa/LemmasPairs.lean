import EaselModel.Msa.LemmasTurn
import EaselModel.Msa.Spec
/-! Lemmas: the pair list read from a compacted SS line is the pair list of the original line with the positions
    renumbered — for ANY balanced WUSS string (pseudoknot letters included), provided the removed columns carry unpaired
    symbols.  Proof device: `gLoop`, the reading loop of `esl_wuss2ct` with explicit position labels and the opening
    symbol kept next to its label on the stack, collecting the list of pairs instead of writing a table. -/
namespace EaselModel.Msa

abbrev GStacks := List (List (Nat × UInt8))

/-- the table written by `ct[pos] = pair; ct[pair] = pos` for the pairs found, oldest pair last in the list -/
def tableOf (ct0 : List Nat) (ps : List (Nat × Nat)) : List Nat :=
  ps.foldr (fun qp t => (t.set qp.2 qp.1).set qp.1 qp.2) ct0

def gPush (st : GStacks) (k : Nat) (x : Nat × UInt8) : GStacks := st.set k (x :: st.getD k [])

/-- `esl_wuss2ct`'s loop over labelled symbols `(position, symbol)`, by symbol class; collects `(left, right)` pairs -/
def gLoop : List (Nat × UInt8) → GStacks → List (Nat × Nat) → Option (GStacks × List (Nat × Nat))
  | [], st, ps => some (st, ps)
  | (p, c) :: rest, st, ps =>
    match openerClass c, closerClass c with
    | some k, _ => gLoop rest (gPush st k (p, c)) ps
    | none, some k =>
      match st.getD k [] with
      | [] => none
      | (q, o) :: tl => if closes k o c then gLoop rest (st.set k tl) ((q, p) :: ps) else none
    | none, none => if isUnpairedSym c then gLoop rest st ps else none

/-- symbols of a string with their 1-based positions, starting at `pos` -/
def labelFrom : Nat → Bytes → List (Nat × UInt8)
  | _, [] => []
  | pos, c :: rest => (pos, c) :: labelFrom (pos+1) rest

/-- the stacks of the C code, each waiting position shown with its symbol -/
def lift (ss : Bytes) (pda : List (List Nat)) : GStacks := pda.map (fun s => s.map (fun p => (p, ss.getD (p-1) 0)))

theorem getD_map_nil {α β : Type} (f : List α → List β) (hf : f [] = []) (l : List (List α)) (k : Nat) :
    (l.map f).getD k [] = f (l.getD k []) := by
  simp only [List.getD_eq_getElem?_getD, List.getElem?_map]
  cases l[k]? <;> simp [hf]

theorem lift_getD (ss : Bytes) (pda : List (List Nat)) (k : Nat) :
    (lift ss pda).getD k [] = (pda.getD k []).map (fun p => (p, ss.getD (p-1) 0)) :=
  getD_map_nil _ rfl pda k

theorem lift_set (ss : Bytes) (pda : List (List Nat)) (k : Nat) (s : List Nat) :
    lift ss (pda.set k s) = (lift ss pda).set k (s.map (fun p => (p, ss.getD (p-1) 0))) := by
  simp [lift, List.map_set]

theorem lift_push (ss : Bytes) (pda : List (List Nat)) (k pos : Nat) :
    lift ss (pushAt pda k pos) = gPush (lift ss pda) k (pos, ss.getD (pos-1) 0) := by
  simp only [pushAt, gPush, lift_set, lift_getD, List.map_cons]

/-- `esl_wuss2ct`'s loop and `gLoop` do the same thing: same acceptance, same stacks, and the table written is
    `tableOf` the pairs collected -/
theorem w2cLoop_gLoop (ss : Bytes) (ct0 : List Nat) : ∀ (rest : Bytes) (pos : Nat) (pda : List (List Nat)) (ps : List (Nat × Nat)),
    ss.drop (pos-1) = rest → 1 ≤ pos →
    match gLoop (labelFrom pos rest) (lift ss pda) ps with
    | none => w2cLoop ss rest pos pda (tableOf ct0 ps) = none
    | some (stG, ps') => ∃ pda', w2cLoop ss rest pos pda (tableOf ct0 ps) = some (pda', tableOf ct0 ps') ∧ lift ss pda' = stG := by
  intro rest
  induction rest with
  | nil => intro pos pda ps _ _; simp only [labelFrom, gLoop, w2cLoop]; exact ⟨pda, rfl, rfl⟩
  | cons c rest ih =>
    intro pos pda ps hd hpos
    obtain ⟨hc, hlt, hdrop⟩ := drop_cons_getD ss (pos-1) c rest hd
    have hd' : ss.drop (pos + 1 - 1) = rest := by
      have : pos + 1 - 1 = pos - 1 + 1 := by omega
      rw [this]; exact hdrop
    simp only [labelFrom, gLoop]
    cases turn c with
    | push k _ ho _ _ eq =>
      simp only [ho, eq]
      have := ih (pos+1) (pushAt pda k pos) ps hd' (by omega)
      rw [lift_push, hc] at this; exact this
    | pop k _ ho hcl _ eqNil eqCons =>
      simp only [ho, hcl, lift_getD]
      cases hs : pda.getD k [] with
      | nil => simp only [List.map_nil, eqNil _ _ _ _ _ hs]
      | cons pair tl =>
        simp only [List.map_cons, eqCons _ _ _ _ _ _ _ hs]
        by_cases hm : closes k (ss.getD (pair-1) 0) c = true
        · simp only [hm, if_true]
          have := ih (pos+1) (pda.set k tl) ((pair, pos) :: ps) hd' (by omega)
          rw [lift_set] at this
          simpa only [tableOf, List.foldr_cons] using this
        · simp only [hm, if_false, Bool.false_eq_true]
    | skip hu ho hcl _ eq =>
      simp only [ho, hcl, hu, if_true, eq]
      exact ih (pos+1) pda ps hd' (by omega)
    | bad ho hcl hu _ eq => simp only [ho, hcl, hu, eq, if_false, Bool.false_eq_true]

def relabelSt (f : Nat → Nat) (st : GStacks) : GStacks := st.map (fun s => s.map (fun x => (f x.1, x.2)))
def relabelPs (f : Nat → Nat) (ps : List (Nat × Nat)) : List (Nat × Nat) := ps.map (fun x => (f x.1, f x.2))

/-- `f` sends every kept position (counted from `pos`) to its new position (counted from `pos2`) -/
def Agree (f : Nat → Nat) : Nat → Nat → List Bool → Prop
  | _, _, [] => True
  | pos, pos2, true :: m => f pos = pos2 ∧ Agree f (pos+1) (pos2+1) m
  | pos, pos2, false :: m => Agree f (pos+1) pos2 m

theorem relabel_getD (f : Nat → Nat) (st : GStacks) (k : Nat) :
    (relabelSt f st).getD k [] = (st.getD k []).map (fun x => (f x.1, x.2)) :=
  getD_map_nil _ rfl st k

theorem relabel_set (f : Nat → Nat) (st : GStacks) (k : Nat) (s : List (Nat × UInt8)) :
    relabelSt f (st.set k s) = (relabelSt f st).set k (s.map (fun x => (f x.1, x.2))) := by
  simp [relabelSt, List.map_set]

theorem relabel_push (f : Nat → Nat) (st : GStacks) (k : Nat) (p : Nat) (c : UInt8) :
    relabelSt f (gPush st k (p, c)) = gPush (relabelSt f st) k (f p, c) := by
  simp only [gPush, relabel_set, relabel_getD, List.map_cons]

theorem gLoop_filter (f : Nat → Nat) : ∀ (mask : List Bool) (rest : Bytes) (pos pos2 : Nat) (st : GStacks) (ps : List (Nat × Nat)),
    mask.length = rest.length → removesOnlyGaps isUnpairedSym mask rest → Agree f pos pos2 mask →
    gLoop (labelFrom pos2 (maskFilter mask rest)) (relabelSt f st) (relabelPs f ps) =
      (gLoop (labelFrom pos rest) st ps).map (fun r => (relabelSt f r.1, relabelPs f r.2))
  | [], [], _, _, st, ps, _, _, _ => by simp [maskFilter, labelFrom, gLoop]
  | [], _ :: _, _, _, _, _, h, _, _ => by simp at h
  | _ :: _, [], _, _, _, _, h, _, _ => by simp at h
  | false :: mask, c :: rest, pos, pos2, st, ps, hl, hg, ha => by
    have hu := hg.1 rfl
    have F := (unpaired hu).noClass
    have ih := gLoop_filter f mask rest (pos+1) pos2 st ps (by simpa using hl) hg.2 ha
    cases turn c with
    | skip _ ho hcl => simpa only [maskFilter, Bool.false_eq_true, if_false, labelFrom, gLoop, ho, hcl, hu, if_true] using ih
    | push _ _ ho => rw [F.1] at ho; cases ho
    | pop _ _ _ hcl => rw [F.2] at hcl; cases hcl
    | bad _ _ h => rw [hu] at h; cases h
  | true :: mask, c :: rest, pos, pos2, st, ps, hl, hg, ha => by
    have hl' : mask.length = rest.length := by simpa using hl
    obtain ⟨hf, ha'⟩ := ha
    simp only [maskFilter, if_true, labelFrom, gLoop]
    cases hoc : openerClass c with
    | some k =>
      simp only []
      have := gLoop_filter f mask rest (pos+1) (pos2+1) (gPush st k (pos, c)) ps hl' hg.2 ha'
      rw [relabel_push, hf] at this; exact this
    | none =>
      cases hcc : closerClass c with
      | some k =>
        simp only [relabel_getD]
        cases hs : st.getD k [] with
        | nil => simp only [List.map_nil, Option.map_none]
        | cons x tl =>
          obtain ⟨q, o⟩ := x
          simp only [List.map_cons]
          by_cases hm : closes k o c = true
          · simp only [hm, if_true]
            have := gLoop_filter f mask rest (pos+1) (pos2+1) (st.set k tl) ((q, pos) :: ps) hl' hg.2 ha'
            rw [relabel_set] at this
            simpa only [relabelPs, List.map_cons, hf] using this
          · simp only [hm, if_false, Bool.false_eq_true, Option.map_none]
      | none =>
        simp only []
        by_cases hu : isUnpairedSym c = true
        · simp only [hu, if_true]
          exact gLoop_filter f mask rest (pos+1) (pos2+1) st ps hl' hg.2 ha'
        · simp only [hu, if_false, Bool.false_eq_true, Option.map_none]

/-- new (1-based) position of the old position `p` after keeping the columns flagged in `mask` -/
def newPosFrom : Nat → Nat → List Bool → Nat → Nat
  | _, _, [], _ => 0
  | pos, pos2, b :: m, p => if p = pos then pos2 else newPosFrom (pos+1) (if b then pos2+1 else pos2) m p

def newPos (mask : List Bool) (p : Nat) : Nat := newPosFrom 1 1 mask p

theorem agree_congr (f g : Nat → Nat) : ∀ (m : List Bool) (pos pos2 : Nat), (∀ p, pos ≤ p → f p = g p) →
    Agree f pos pos2 m → Agree g pos pos2 m
  | [], _, _, _, _ => trivial
  | true :: m, pos, pos2, h, ha => ⟨by rw [← h pos (Nat.le_refl _)]; exact ha.1,
      agree_congr f g m (pos+1) (pos2+1) (fun p hp => h p (by omega)) ha.2⟩
  | false :: m, pos, pos2, h, ha => agree_congr f g m (pos+1) pos2 (fun p hp => h p (by omega)) ha

theorem agree_newPosFrom : ∀ (m : List Bool) (pos pos2 : Nat), Agree (newPosFrom pos pos2 m) pos pos2 m
  | [], _, _ => trivial
  | true :: m, pos, pos2 => by
    refine ⟨by simp [newPosFrom], ?_⟩
    apply agree_congr (newPosFrom (pos+1) (pos2+1) m) _ m (pos+1) (pos2+1) _ (agree_newPosFrom m (pos+1) (pos2+1))
    intro p hp
    have : ¬ p = pos := by omega
    simp [newPosFrom, this]
  | false :: m, pos, pos2 => by
    apply agree_congr (newPosFrom (pos+1) pos2 m) _ m (pos+1) pos2 _ (agree_newPosFrom m (pos+1) pos2)
    intro p hp
    have : ¬ p = pos := by omega
    simp [newPosFrom, this]

theorem lift_replicate (ss : Bytes) : lift ss (List.replicate 27 []) = List.replicate 27 [] := by
  simp [lift]

theorem relabel_replicate (f : Nat → Nat) : relabelSt f (List.replicate 27 []) = List.replicate 27 [] := by
  simp [relabelSt]

theorem all_map_isEmpty {α β : Type} (g : α → β) : ∀ (l : List (List α)),
    (l.map (fun s => s.map g)).all (fun s => s.isEmpty) = l.all (fun s => s.isEmpty)
  | [] => rfl
  | s :: l => by
    simp only [List.map_cons, List.all_cons, all_map_isEmpty g l]
    cases s <;> rfl

theorem lift_all_empty (ss : Bytes) (pda : List (List Nat)) :
    (lift ss pda).all (fun s => s.isEmpty) = pda.all (fun s => s.isEmpty) :=
  all_map_isEmpty _ pda

theorem relabel_all_empty (f : Nat → Nat) (st : GStacks) :
    (relabelSt f st).all (fun s => s.isEmpty) = st.all (fun s => s.isEmpty) :=
  all_map_isEmpty _ st

theorem wuss2ct_eq_gLoop (ss : Bytes) :
    wuss2ct ss = (gLoop (labelFrom 1 ss) (List.replicate 27 []) []).bind (fun r =>
      if r.1.all (fun s => s.isEmpty) then some (tableOf (List.replicate (ss.length + 1) 0) r.2) else none) := by
  have h := w2cLoop_gLoop ss (List.replicate (ss.length + 1) 0) ss 1 (List.replicate 27 []) [] (by simp) (Nat.le_refl _)
  rw [lift_replicate] at h
  unfold wuss2ct
  simp only [tableOf, List.foldr_nil] at h
  cases hg : gLoop (labelFrom 1 ss) (List.replicate 27 []) [] with
  | none => rw [hg] at h; simp only at h; rw [h]; rfl
  | some r =>
    obtain ⟨stG, ps'⟩ := r
    rw [hg] at h; simp only at h
    obtain ⟨pda', hrun, hl⟩ := h
    rw [hrun]
    simp only [Option.bind_some, ← hl, lift_all_empty]
    rfl

theorem compacted_pairs' (ss : Bytes) (mask : List Bool) (hm : mask.length = ss.length)
    (hrem : removesOnlyGaps isUnpairedSym mask ss) (ct : List Nat) (h : wuss2ct ss = some ct) :
    ∃ ps, ct = tableOf (List.replicate (ss.length + 1) 0) ps ∧
      wuss2ct (maskFilter mask ss) =
        some (tableOf (List.replicate ((maskFilter mask ss).length + 1) 0) (relabelPs (newPos mask) ps)) := by
  rw [wuss2ct_eq_gLoop] at h
  cases hg : gLoop (labelFrom 1 ss) (List.replicate 27 []) [] with
  | none => rw [hg] at h; simp at h
  | some r =>
    obtain ⟨stG, ps⟩ := r
    rw [hg] at h
    simp only [Option.bind_some] at h
    split at h
    · rename_i hall
      injection h with h
      refine ⟨ps, h.symm, ?_⟩
      have hf := gLoop_filter (newPos mask) mask ss 1 1 (List.replicate 27 []) [] hm hrem (agree_newPosFrom mask 1 1)
      rw [relabel_replicate, hg] at hf
      simp only [relabelPs, List.map_nil, Option.map_some] at hf
      rw [wuss2ct_eq_gLoop, hf]
      simp only [Option.bind_some, relabel_all_empty, hall, if_true, relabelPs]
    · cases h

end EaselModel.Msa
