import EaselModel.Msa.LemmasMsa
import EaselModel.Core.ListLookup
/-! Lemmas: MinimGaps / NoGaps remove exactly the columns the documentation says, and keep the residues. -/
namespace EaselModel.Msa

theorem removesOnlyGaps_of_forall (isGap : UInt8 → Bool) :
    ∀ (mask : List Bool) (row : Bytes),
      (∀ i, i < mask.length → i < row.length → mask.getD i true = false → isGap (row.getD i 0) = true) →
      removesOnlyGaps isGap mask row
  | [], _, _ => by cases ‹Bytes› <;> trivial
  | _ :: _, [], _ => trivial
  | b :: mask, c :: row, h => by
    refine ⟨fun hb => ?_, removesOnlyGaps_of_forall isGap mask row (fun i h1 h2 h3 => ?_)⟩
    · have := h 0 (by simp) (by simp) (by simpa using hb)
      simpa using this
    · have := h (i+1) (by simpa using h1) (by simpa using h2) (by simpa using h3)
      simpa using this

theorem colOf_mem (rows : List Bytes) (r : Bytes) (hr : r ∈ rows) (apos : Nat) : r.getD apos 0 ∈ colOf rows apos := by
  simp only [colOf, List.mem_map]
  exact ⟨r, hr, rfl⟩

theorem minimGapsTextMask_spec (m : Msa) (gaps : Bytes) (considerRf : Bool) (apos : Nat) (h : apos < m.alen) :
    (minimGapsTextMask m gaps considerRf).getD apos true = false ↔
      ((colOf m.rows apos).all (inGaps gaps) = true ∧
       ¬ (considerRf = true ∧ ∃ rf, m.rf = some rf ∧ inGaps gaps (rf.getD apos 0) = false)) := by
  unfold minimGapsTextMask
  rw [getD_map_range _ _ _ _ h]
  cases hrf : m.rf with
  | none => cases considerRf <;> simp
  | some rf =>
    cases considerRf <;> cases hg : inGaps gaps (rf.getD apos 0) <;> simp <;> exact And.comm

theorem minimGapsTextMask_length (m : Msa) (gaps : Bytes) (c : Bool) : (minimGapsTextMask m gaps c).length = m.alen := by
  simp [minimGapsTextMask]

theorem minimGapsTextMask_removesOnlyGaps (m : Msa) (gaps : Bytes) (c : Bool) (r : Bytes) (hr : r ∈ m.rows) :
    removesOnlyGaps (inGaps gaps) (minimGapsTextMask m gaps c) r := by
  apply removesOnlyGaps_of_forall
  intro i h1 _ h3
  rw [minimGapsTextMask_length] at h1
  have := ((minimGapsTextMask_spec m gaps c i h1).mp h3).1
  rw [List.all_eq_true] at this
  exact this _ (colOf_mem m.rows r hr i)

theorem minimGapsDigitalMask_length (m : Msa) (a : Abc) (c : Bool) : (minimGapsDigitalMask m a c).length = m.alen := by
  simp [minimGapsDigitalMask]

theorem minimGapsDigitalMask_spec (m : Msa) (a : Abc) (considerRf : Bool) (apos : Nat) (h : apos < m.alen) :
    (minimGapsDigitalMask m a considerRf).getD apos true = false ↔
      ((colOf m.rows apos).all (fun x => a.xIsGap x || a.xIsMissing x) = true ∧
       ¬ (considerRf = true ∧ ∃ rf, m.rf = some rf ∧
            (a.cIsGap (rf.getD apos 0) || a.cIsMissing (rf.getD apos 0)) = false)) := by
  unfold minimGapsDigitalMask
  rw [getD_map_range _ _ _ _ h]
  cases hrf : m.rf with
  | none => cases considerRf <;> simp
  | some rf =>
    cases considerRf <;> cases hg : a.cIsGap (rf.getD apos 0) <;> cases hm : a.cIsMissing (rf.getD apos 0) <;> simp <;> exact And.comm

theorem minimGapsDigitalMask_removesOnlyGaps (m : Msa) (a : Abc) (c : Bool) (r : Bytes) (hr : r ∈ m.rows) :
    removesOnlyGaps (fun x => a.xIsGap x || a.xIsMissing x) (minimGapsDigitalMask m a c) r := by
  apply removesOnlyGaps_of_forall
  intro i h1 _ h3
  rw [minimGapsDigitalMask_length] at h1
  have := ((minimGapsDigitalMask_spec m a c i h1).mp h3).1
  rw [List.all_eq_true] at this
  exact this _ (colOf_mem m.rows r hr i)

theorem noGapsTextMask_spec (m : Msa) (gaps : Bytes) (apos : Nat) (h : apos < m.alen) :
    (noGapsTextMask m gaps).getD apos false = true ↔ (colOf m.rows apos).any (inGaps gaps) = false := by
  unfold noGapsTextMask
  rw [getD_map_range _ _ _ _ h]
  simp

theorem noGapsTextMask_length (m : Msa) (gaps : Bytes) : (noGapsTextMask m gaps).length = m.alen := by
  simp [noGapsTextMask]

theorem noGapsDigitalMask_spec (m : Msa) (a : Abc) (apos : Nat) (h : apos < m.alen) :
    (noGapsDigitalMask m a).getD apos false = true ↔
      (colOf m.rows apos).any (fun x => a.xIsGap x || a.xIsMissing x) = false := by
  unfold noGapsDigitalMask
  rw [getD_map_range _ _ _ _ h]
  simp

theorem noGapsDigitalMask_length (m : Msa) (a : Abc) : (noGapsDigitalMask m a).length = m.alen := by
  simp [noGapsDigitalMask]

theorem maskFilter_noGaps_row (isGap : UInt8 → Bool) :
    ∀ (mask : List Bool) (row : Bytes), mask.length = row.length →
      (∀ i, i < row.length → mask.getD i false = true → isGap (row.getD i 0) = false) →
      ∀ c ∈ maskFilter mask row, isGap c = false
  | [], [], _, _ => by simp [maskFilter]
  | [], _ :: _, h, _ => by simp at h
  | _ :: _, [], _, _ => by simp [maskFilter]
  | b :: mask, x :: row, hl, h => by
    have ih := maskFilter_noGaps_row isGap mask row (by simpa using hl)
      (fun i h1 h2 => by simpa using h (i+1) (by simpa using h1) (by simpa using h2))
    intro c hc
    cases b with
    | false => simp [maskFilter] at hc; exact ih c hc
    | true =>
      simp [maskFilter] at hc
      rcases hc with rfl | hc
      · simpa using h 0 (by simp) (by simp)
      · exact ih c hc

end EaselModel.Msa

namespace EaselModel.Msa

theorem maskFilter_map_self {α : Type} (p : α → Bool) : ∀ (r : List α), maskFilter (r.map p) r = r.filter p
  | [] => rfl
  | x :: r => by
    simp only [List.map_cons, maskFilter, List.filter_cons, maskFilter_map_self p r]

theorem fetch_seq_eq (m : Msa) (which : Nat) (wf : m.WF) (hw : which < m.nseq) :
    (fetchFromMSA m which).map (·.seq) = some (dealign (fetchIsGap m) (m.rows.getD which [])) := by
  have hlen : which < m.rows.length := by rw [wf.rows_len]; exact hw
  have hrow : m.rows.getD which [] ∈ m.rows := by
    rw [List.getD_eq_getElem?_getD, List.getElem?_eq_getElem hlen]; exact List.getElem_mem hlen
  have htake : (m.rows.getD which []).take m.alen = m.rows.getD which [] :=
    List.take_of_length_le (by rw [(wf.rows_ok _ hrow).1]; exact Nat.le_refl _)
  simp only [fetchFromMSA, if_neg (by omega : ¬ which ≥ m.nseq), Option.map_some, htake, dealign]
  rw [maskFilter_map_self]

theorem fetch_after_gap_removal' (m : Msa) (mask : List Bool) (which : Nat) (wf : m.WF) (hm : mask.length = m.alen)
    (hw : which < m.nseq) (hg : removesOnlyGaps (fetchIsGap m) mask (m.rows.getD which [])) :
    (fetchFromMSA (m.colFilter mask) which).map (·.seq) = (fetchFromMSA m which).map (·.seq) := by
  have hlen : which < m.rows.length := by rw [wf.rows_len]; exact hw
  have hrow : m.rows.getD which [] ∈ m.rows := by
    rw [List.getD_eq_getElem?_getD, List.getElem?_eq_getElem hlen]; exact List.getElem_mem hlen
  rw [fetch_seq_eq m which wf hw, fetch_seq_eq (m.colFilter mask) which (colFilter_wf m mask wf hm) hw]
  have hget : (m.colFilter mask).rows.getD which [] = maskFilter mask (m.rows.getD which []) := by
    simp only [Msa.colFilter, List.getD_eq_getElem?_getD, List.getElem?_map, List.getElem?_eq_getElem hlen,
               Option.map_some, Option.getD_some]
  have hgap : fetchIsGap (m.colFilter mask) = fetchIsGap m := rfl
  rw [hget, hgap, dealign_maskFilter _ mask _ (by rw [hm, (wf.rows_ok _ hrow).1]) hg]

end EaselModel.Msa
