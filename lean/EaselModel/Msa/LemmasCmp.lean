import EaselModel.Msa.Model2
import EaselModel.Msa.Spec
import EaselModel.Core.ListLookup
/-! Lemmas: `esl_msa_Compare` returns `eslOK` exactly when the two alignments agree in the fields its documentation lists
    (weights and cutoffs up to the tolerance comparison the code uses), never reads outside an array, and ignores the
    alphabet pointer and all unparsed markup. -/
namespace EaselModel.Msa

/-- the array shape `esl_msa_Compare` relies on: every per-sequence array has `nseq` entries, `cutoff`/`cutset` have 6 -/
structure Msa.Shape (m : Msa) : Prop where
  sqname_len : m.sqname.length = m.nseq
  wgt_len : m.wgt.length = m.nseq
  rows_len : m.rows.length = m.nseq
  sqacc_len : m.sqacc.length = m.nseq
  sqdesc_len : m.sqdesc.length = m.nseq
  ss_len : m.ss.length = m.nseq
  sa_len : m.sa.length = m.nseq
  pp_len : m.pp.length = m.nseq
  cutoff_len : m.cutoff.length = 6
  cutset_len : m.cutset.length = 6

theorem Msa.WF.shape {m : Msa} (wf : m.WF) (hc : m.cutoff.length = 6) (hs : m.cutset.length = 6) : m.Shape :=
  ⟨wf.sqname_len, wf.wgt_len, wf.rows_len, wf.sqacc_len, wf.sqdesc_len, wf.ss_len, wf.sa_len, wf.pp_len, hc, hs⟩

/-- SPEC: what the documentation of `esl_msa_Compare` / `CompareMandatory` / `CompareOptional` lists -/
structure SameMandatory (dcmp : UInt64 → UInt64 → Bool) (a b : Msa) : Prop where
  nseq : a.nseq = b.nseq
  alen : a.alen = b.alen
  flags : a.flags = b.flags
  sqname : a.sqname = b.sqname
  rows : a.rows = b.rows
  wgt : ∀ k, k < a.nseq → dcmp (a.wgt.getD k 0) (b.wgt.getD k 0) = true

structure SameOptional (fcmp : UInt32 → UInt32 → Bool) (a b : Msa) : Prop where
  name : a.name = b.name
  desc : a.desc = b.desc
  acc : a.acc = b.acc
  au : a.au = b.au
  ss_cons : a.ss_cons = b.ss_cons
  sa_cons : a.sa_cons = b.sa_cons
  pp_cons : a.pp_cons = b.pp_cons
  rf : a.rf = b.rf
  mm : a.mm = b.mm
  sqacc : a.sqacc = b.sqacc
  sqdesc : a.sqdesc = b.sqdesc
  ss : a.ss = b.ss
  sa : a.sa = b.sa
  pp : a.pp = b.pp
  cutset : a.cutset = b.cutset
  cutoff : ∀ k, k < 6 → a.cutset.getD k false = true → fcmp (a.cutoff.getD k 0) (b.cutoff.getD k 0) = true

theorem cCompare_iff (x y : Option Bytes) : cCompare x y = true ↔ x = y := by
  cases x <;> cases y <;> simp [cCompare]

/-- `s` is the verdict of a test for `P` that reads inside its arrays: `eslOK` if `P` holds, `eslFAIL` if not, never `fault` -/
def Verdict (s : St) (P : Prop) : Prop := (s = .ok ∨ s = .efail) ∧ (s = .ok ↔ P)

theorem Verdict.iff {s : St} {P Q : Prop} (h : Verdict s P) (e : P ↔ Q) : Verdict s Q := ⟨h.1, h.2.trans e⟩

/-- `if (! Q) return eslFAIL;` in front of a test for `P` -/
theorem Verdict.guard {c : Prop} [Decidable c] {Q P : Prop} {k : St} (hc : ¬ c ↔ Q) (hk : Verdict k P) :
    Verdict (if c then .efail else k) (Q ∧ P) := by
  by_cases h : c
  · rw [if_pos h]; exact ⟨Or.inr rfl, fun e => St.noConfusion e, fun q => absurd h (hc.2 q.1)⟩
  · rw [if_neg h]
    exact hk.iff ⟨fun p => ⟨hc.1 h, p⟩, fun q => q.2⟩

theorem Verdict.cguard {x y : Option Bytes} {P : Prop} {k : St} (hk : Verdict k P) :
    Verdict (if !cCompare x y then .efail else k) (x = y ∧ P) :=
  hk.guard (by rw [← cCompare_iff]; simp)

theorem Verdict.andThen {s k : St} {P Q : Prop} (hs : Verdict s P) (hk : Verdict k Q) : Verdict (s.andThen k) (P ∧ Q) := by
  unfold St.andThen
  rcases hs.1 with h | h
  · rw [if_pos h]; exact hk.iff ⟨fun q => ⟨hs.2.1 h, q⟩, fun q => q.2⟩
  · have hne : ¬ s = .ok := by rw [h]; exact fun e => St.noConfusion e
    rw [if_neg hne]; exact ⟨Or.inr h, fun e => absurd e hne, fun q => absurd (hs.2.2 q.1) hne⟩

theorem andThen_ok_iff (s k : St) : s.andThen k = .ok ↔ s = .ok ∧ k = .ok := by
  unfold St.andThen
  by_cases h : s = .ok
  · simp [h]
  · simp [h]

/-- The three loops of `esl_msa_Compare*` have one shape: at index `i` a test `P i`; `eslFAIL` if it fails, otherwise on to `i+1`;
    `eslOK` when the counter runs out. Such a loop tests `P` at every index it visits. -/
theorem checkLoop_spec (loop : Nat → Nat → St) (P : Nat → Prop) (n : Nat) (h0 : ∀ i, loop 0 i = .ok)
    (hs : ∀ fuel i, i < n → (P i → loop (fuel+1) i = loop fuel (i+1)) ∧ (¬ P i → loop (fuel+1) i = .efail)) :
    ∀ (fuel i : Nat), i + fuel ≤ n → Verdict (loop fuel i) (∀ k, i ≤ k → k < i + fuel → P k) := by
  intro fuel
  induction fuel with
  | zero => intro i _; rw [h0]; exact ⟨Or.inl rfl, ⟨fun _ k h1 h2 => by omega, fun _ => rfl⟩⟩
  | succ fuel ih =>
    intro i h
    by_cases hp : P i
    · rw [(hs fuel i (by omega)).1 hp]
      refine (ih (i+1) (by omega)).iff ⟨fun h k hk1 hk2 => ?_, fun h k hk1 hk2 => h k (by omega) (by omega)⟩
      by_cases hki : k = i
      · subst hki; exact hp
      · exact h k (by omega) (by omega)
    · rw [(hs fuel i (by omega)).2 hp]
      exact ⟨Or.inr rfl, ⟨fun h => St.noConfusion h, fun h => absurd (h i (Nat.le_refl _) (by omega)) hp⟩⟩

theorem mandLoop_spec (dcmp : UInt64 → UInt64 → Bool) (a b : Msa) (n : Nat) (h1 : n ≤ a.sqname.length)
    (h2 : n ≤ b.sqname.length) (h3 : n ≤ a.wgt.length) (h4 : n ≤ b.wgt.length) (h5 : n ≤ a.rows.length)
    (h6 : n ≤ b.rows.length) : ∀ (fuel i : Nat), i + fuel ≤ n →
    Verdict (mandLoop dcmp a b fuel i)
      (∀ k, i ≤ k → k < i + fuel → a.sqname.getD k [] = b.sqname.getD k [] ∧
        dcmp (a.wgt.getD k 0) (b.wgt.getD k 0) = true ∧ a.rows.getD k [] = b.rows.getD k []) := by
  refine checkLoop_spec (mandLoop dcmp a b) _ n (fun _ => rfl) (fun fuel i hi => ?_)
  rw [mandLoop]
  rw [getElem?_eq_some_getD a.sqname i [] (by omega), getElem?_eq_some_getD b.sqname i [] (by omega),
      getElem?_eq_some_getD a.wgt i 0 (by omega), getElem?_eq_some_getD b.wgt i 0 (by omega),
      getElem?_eq_some_getD a.rows i [] (by omega), getElem?_eq_some_getD b.rows i [] (by omega)]
  simp only []
  constructor
  · rintro ⟨hn, hw, hr⟩
    rw [if_neg (fun hh => hh hn), if_neg (by rw [hw]; decide), if_neg (fun hh => hh hr)]
  · intro hp
    by_cases hn : a.sqname.getD i [] = b.sqname.getD i []
    · rw [if_neg (fun hh => hh hn)]
      by_cases hw : dcmp (a.wgt.getD i 0) (b.wgt.getD i 0) = true
      · rw [if_neg (by rw [hw]; decide), if_pos (fun hr => hp ⟨hn, hw, hr⟩)]
      · rw [if_pos (by rw [Bool.eq_false_iff.mpr hw]; rfl)]
    · rw [if_pos hn]

theorem list_eq_of_getD {α : Type} (d : α) (x y : List α) (n : Nat) (hx : x.length = n) (hy : y.length = n)
    (h : ∀ k, k < n → x.getD k d = y.getD k d) : x = y := by
  apply List.ext_getElem (by rw [hx, hy])
  intro k h1 h2
  have := h k (by omega)
  simpa [List.getD_eq_getElem?_getD, List.getElem?_eq_getElem h1, List.getElem?_eq_getElem h2] using this

theorem compareMandatory_spec (dcmp : UInt64 → UInt64 → Bool) (a b : Msa) (ha : a.Shape) (hb : b.Shape) :
    Verdict (compareMandatory dcmp a b) (SameMandatory dcmp a b) := by
  have hl := mandLoop_spec dcmp a b (min a.nseq b.nseq) (by rw [ha.sqname_len]; omega) (by rw [hb.sqname_len]; omega)
    (by rw [ha.wgt_len]; omega) (by rw [hb.wgt_len]; omega) (by rw [ha.rows_len]; omega) (by rw [hb.rows_len]; omega)
  unfold compareMandatory
  by_cases h1 : a.nseq = b.nseq
  · refine (Verdict.guard Decidable.not_not <| .guard Decidable.not_not <| .guard Decidable.not_not <| hl a.nseq 0 (by omega)).iff ⟨?_, ?_⟩
    · rintro ⟨_, h2, h3, h⟩
      exact ⟨h1, h2, h3,
        list_eq_of_getD [] _ _ a.nseq ha.sqname_len (by rw [hb.sqname_len, h1]) (fun k hk => (h k (Nat.zero_le _) (by omega)).1),
        list_eq_of_getD [] _ _ a.nseq ha.rows_len (by rw [hb.rows_len, h1]) (fun k hk => (h k (Nat.zero_le _) (by omega)).2.2),
        fun k hk => (h k (Nat.zero_le _) (by omega)).2.1⟩
    · intro h
      exact ⟨h.nseq, h.alen, h.flags, fun k _ hk => ⟨by rw [h.sqname], h.wgt k (by omega), by rw [h.rows]⟩⟩
  · rw [if_pos h1]
    exact ⟨Or.inr rfl, ⟨fun h => St.noConfusion h, fun h => absurd h.nseq h1⟩⟩

theorem optLoop_spec (x y : List (Option Bytes)) (n : Nat) (h1 : n ≤ x.length) (h2 : n ≤ y.length) :
    ∀ (fuel i : Nat), i + fuel ≤ n →
    Verdict (optLoop x y fuel i) (∀ k, i ≤ k → k < i + fuel → x.getD k none = y.getD k none) := by
  refine checkLoop_spec (optLoop x y) _ n (fun _ => rfl) (fun fuel i hi => ?_)
  rw [optLoop]
  rw [getElem?_eq_some_getD x i none (by omega), getElem?_eq_some_getD y i none (by omega)]
  have hc : ((!cCompare (x.getD i none) (y.getD i none)) = true) ↔ ¬ x.getD i none = y.getD i none := by
    rw [← cCompare_iff]; simp
  exact ⟨fun h => if_neg fun c => hc.1 c h, fun h => if_pos (hc.2 h)⟩

theorem arrAlloc_false_iff (x : List (Option Bytes)) : arrAlloc x = false ↔ x = List.replicate x.length none := by
  unfold arrAlloc
  induction x with
  | nil => simp
  | cons h t ih =>
    cases h with
    | none => simp [List.replicate_succ, ih]
    | some v => simp [List.replicate_succ]

theorem optArrCmp_spec (n : Nat) (x y : List (Option Bytes)) (hx : x.length = n) (hy : y.length = n) :
    Verdict (optArrCmp n x y) (x = y) := by
  unfold optArrCmp
  cases hax : arrAlloc x <;> cases hay : arrAlloc y
  · -- neither allocated: both are all-NULL
    rw [if_neg (by decide), if_neg (by decide)]
    refine ⟨Or.inl rfl, ⟨fun _ => ?_, fun _ => rfl⟩⟩
    rw [(arrAlloc_false_iff x).1 hax, (arrAlloc_false_iff y).1 hay, hx, hy]
  · rw [if_neg (by decide), if_pos (by decide)]
    refine ⟨Or.inr rfl, ⟨fun h => St.noConfusion h, fun h => ?_⟩⟩
    subst h; rw [hax] at hay; cases hay
  · rw [if_neg (by decide), if_pos (by decide)]
    refine ⟨Or.inr rfl, ⟨fun h => St.noConfusion h, fun h => ?_⟩⟩
    subst h; rw [hax] at hay; cases hay
  · rw [if_pos (by decide)]
    exact (optLoop_spec x y n (by omega) (by omega) n 0 (by omega)).iff
      ⟨fun h => list_eq_of_getD none x y n hx hy (fun k hk => h k (Nat.zero_le _) (by omega)), fun h k _ _ => by rw [h]⟩

theorem cutLoop_spec (fcmp : UInt32 → UInt32 → Bool) (a b : Msa) (n : Nat) (h1 : n ≤ a.cutset.length)
    (h2 : n ≤ b.cutset.length) (h3 : n ≤ a.cutoff.length) (h4 : n ≤ b.cutoff.length) : ∀ (fuel i : Nat), i + fuel ≤ n →
    Verdict (cutLoop fcmp a b fuel i)
      (∀ k, i ≤ k → k < i + fuel → a.cutset.getD k false = b.cutset.getD k false ∧
        (a.cutset.getD k false = true → fcmp (a.cutoff.getD k 0) (b.cutoff.getD k 0) = true)) := by
  refine checkLoop_spec (cutLoop fcmp a b) _ n (fun _ => rfl) (fun fuel i hi => ?_)
  rw [cutLoop]
  rw [getElem?_eq_some_getD a.cutset i false (by omega), getElem?_eq_some_getD b.cutset i false (by omega),
      getElem?_eq_some_getD a.cutoff i 0 (by omega), getElem?_eq_some_getD b.cutoff i 0 (by omega)]
  simp only []
  cases hs1 : a.cutset.getD i false <;> cases hs2 : b.cutset.getD i false <;>
    cases hf : fcmp (a.cutoff.getD i 0) (b.cutoff.getD i 0) <;> simp

theorem compareOptional_spec (fcmp : UInt32 → UInt32 → Bool) (a b : Msa) (ha : a.Shape) (hb : b.Shape) (hn : a.nseq = b.nseq) :
    Verdict (compareOptional fcmp a b) (SameOptional fcmp a b) := by
  have arr : ∀ x y : List (Option Bytes), x.length = a.nseq → y.length = b.nseq → Verdict (optArrCmp a.nseq x y) (x = y) :=
    fun x y hx hy => optArrCmp_spec a.nseq x y hx (by rw [hy, hn])
  have cut := cutLoop_spec fcmp a b 6 (by rw [ha.cutset_len]; omega) (by rw [hb.cutset_len]; omega)
    (by rw [ha.cutoff_len]; omega) (by rw [hb.cutoff_len]; omega) 6 0 (by omega)
  unfold compareOptional
  refine (Verdict.cguard <| .cguard <| .cguard <| .cguard <| .cguard <| .cguard <| .cguard <| .cguard <| .cguard <|
    (arr _ _ ha.sqacc_len hb.sqacc_len).andThen <| (arr _ _ ha.sqdesc_len hb.sqdesc_len).andThen <|
    (arr _ _ ha.ss_len hb.ss_len).andThen <| (arr _ _ ha.sa_len hb.sa_len).andThen <|
    (arr _ _ ha.pp_len hb.pp_len).andThen cut).iff ⟨?_, fun h => ?_⟩
  · rintro ⟨c1, c2, c3, c4, c5, c6, c7, c8, c9, h1, h2, h3, h4, h5, h6⟩
    exact ⟨c1, c2, c3, c4, c5, c6, c7, c8, c9, h1, h2, h3, h4, h5,
      list_eq_of_getD false _ _ 6 ha.cutset_len hb.cutset_len (fun k hk => (h6 k (Nat.zero_le _) (by omega)).1),
      fun k hk => (h6 k (Nat.zero_le _) (by omega)).2⟩
  · exact ⟨h.name, h.desc, h.acc, h.au, h.ss_cons, h.sa_cons, h.pp_cons, h.rf, h.mm, h.sqacc, h.sqdesc, h.ss, h.sa, h.pp,
      fun k _ hk => ⟨by rw [h.cutset], h.cutoff k (by omega)⟩⟩

theorem mandLoop_congr (dcmp : UInt64 → UInt64 → Bool) (a a' b b' : Msa) (h1 : a.sqname = a'.sqname) (h2 : a.wgt = a'.wgt)
    (h3 : a.rows = a'.rows) (h4 : b.sqname = b'.sqname) (h5 : b.wgt = b'.wgt) (h6 : b.rows = b'.rows) :
    ∀ fuel i, mandLoop dcmp a b fuel i = mandLoop dcmp a' b' fuel i := by
  intro fuel
  induction fuel with
  | zero => intro i; rfl
  | succ fuel ih =>
    intro i
    unfold mandLoop
    rw [h1, h2, h3, h4, h5, h6]
    simp only [ih]

theorem cutLoop_congr (fcmp : UInt32 → UInt32 → Bool) (a a' b b' : Msa) (h1 : a.cutset = a'.cutset) (h2 : a.cutoff = a'.cutoff)
    (h3 : b.cutset = b'.cutset) (h4 : b.cutoff = b'.cutoff) :
    ∀ fuel i, cutLoop fcmp a b fuel i = cutLoop fcmp a' b' fuel i := by
  intro fuel
  induction fuel with
  | zero => intro i; rfl
  | succ fuel ih =>
    intro i
    unfold cutLoop
    rw [h1, h2, h3, h4]
    simp only [ih]

/-- `esl_msa_Compare` looks at nothing but the fields listed here -/
theorem compare_congr (dcmp : UInt64 → UInt64 → Bool) (fcmp : UInt32 → UInt32 → Bool) (a a' b b' : Msa)
    (ea : { a with abc := none, comment := [], gf := [], gs := [], gc := [], gr := [] } =
          { a' with abc := none, comment := [], gf := [], gs := [], gc := [], gr := [] })
    (eb : { b with abc := none, comment := [], gf := [], gs := [], gc := [], gr := [] } =
          { b' with abc := none, comment := [], gf := [], gs := [], gc := [], gr := [] }) :
    compare dcmp fcmp a b = compare dcmp fcmp a' b' := by
  injection ea with a1 a2 a3 a4 a5 a6 a7 a8 a9 a10 a11 a12 a13 a14 a15 a16 a17 a18 a19 a20 a21 a22 a23
  injection eb with b1 b2 b3 b4 b5 b6 b7 b8 b9 b10 b11 b12 b13 b14 b15 b16 b17 b18 b19 b20 b21 b22 b23
  unfold compare compareMandatory compareOptional
  rw [mandLoop_congr dcmp a a' b b' a6 a7 a5 b6 b7 b5 a.nseq 0, cutLoop_congr fcmp a a' b b' a23 a22 b23 b22 6 0,
      a1, a2, a3, a8, a9, a10, a11, a12, a13, a14, a15, a16, a17, a18, a19, a20, a21,
      b1, b2, b3, b8, b9, b10, b11, b12, b13, b14, b15, b16, b17, b18, b19, b20, b21]

theorem compare_spec (dcmp : UInt64 → UInt64 → Bool) (fcmp : UInt32 → UInt32 → Bool) (a b : Msa) (ha : a.Shape) (hb : b.Shape) :
    (compare dcmp fcmp a b = .ok ∨ compare dcmp fcmp a b = .efail) ∧
    (compare dcmp fcmp a b = .ok ↔ SameMandatory dcmp a b ∧ SameOptional fcmp a b) := by
  have hm := compareMandatory_spec dcmp a b ha hb
  unfold compare
  rcases hm.1 with h | h
  · have hn := (hm.2.1 h).nseq
    have ho := compareOptional_spec fcmp a b ha hb hn
    rw [h]
    simp only []
    rcases ho.1 with h2 | h2
    · rw [h2]
      exact ⟨Or.inl rfl, ⟨fun _ => ⟨hm.2.1 h, ho.2.1 h2⟩, fun _ => rfl⟩⟩
    · rw [h2]
      refine ⟨Or.inr rfl, ⟨fun hh => St.noConfusion hh, fun hh => ?_⟩⟩
      have := ho.2.2 hh.2
      rw [h2] at this; cases this
  · rw [h]
    refine ⟨Or.inr rfl, ⟨fun hh => St.noConfusion hh, fun hh => ?_⟩⟩
    have := hm.2.2 hh.1
    rw [h] at this; cases this

end EaselModel.Msa
