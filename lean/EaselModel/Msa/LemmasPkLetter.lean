import EaselModel.Msa.LemmasPk
/-! Lemmas: a lettering batch (`pkLoop`) of `esl_ct2wuss` as a whole. It keeps the letter invariant (every lettered pair carries
    the same letter on both ends, upper left, lower right; the letter's right bound `rb[x]` covers it; two pairs with the same
    letter never cross), the pair count, and the letter-use invariant (every letter in use is carried by a pair that another
    pair crosses), so that its only failure, "not enough letters", needs 27 such pairs. -/
namespace EaselModel.Msa

/-- working table `cct` = `ct` with some pairs zeroed (both ends together) -/
structure CctOk (n : Nat) (ct cct : List Nat) : Prop where
  len : cct.length = n + 1
  sub : ∀ p, cct.getD p 0 = ct.getD p 0 ∨ cct.getD p 0 = 0
  both : ∀ p, ct.getD p 0 ≠ 0 → (cct.getD p 0 = 0 ↔ cct.getD (ct.getD p 0) 0 = 0)

structure LInv (ct cct : List Nat) (ss : Array UInt8) (rb : List Int) : Prop where
  rblen : rb.length = 26
  lab : ∀ p, 1 ≤ p → p < ct.getD p 0 → cct.getD p 0 = 0 →
    ∃ x : Nat, x < 26 ∧ ssAt ss (p-1) = UInt8.ofNat (65 + x) ∧ ssAt ss (ct.getD p 0 - 1) = UInt8.ofNat (97 + x) ∧
      (ct.getD p 0 : Int) ≤ rb.getD x 0
  non : ∀ p p', 1 ≤ p → p < ct.getD p 0 → cct.getD p 0 = 0 → p' < ct.getD p' 0 → cct.getD p' 0 = 0 →
    p < p' → p' < ct.getD p 0 → ssAt ss (p-1) = ssAt ss (p'-1) → ct.getD p' 0 < ct.getD p 0

theorem ofNat_letter_inj (x y : Nat) (hx : x < 26) (hy : y < 26) (h : UInt8.ofNat (65 + x) = UInt8.ofNat (65 + y)) : x = y := by
  have := congrArg UInt8.toNat h
  simp only [UInt8.toNat_ofNat'] at this
  omega

/-- what `npairs_reached` is when the main loop stands at `j`: the right ends already passed, plus the right ends of the
    pairs that were given a pseudoknot letter (zeroed in the working table) -/
def cntSpec (n : Nat) (ct cct : List Nat) (j : Nat) : Nat :=
  ((List.range (n+1)).filter (fun q => decide (ct.getD q 0 ≠ 0 ∧ ct.getD q 0 < q ∧ (q < j ∨ cct.getD q 0 = 0)))).length

theorem cntSpec_add_one (n : Nat) (ct cct cct' : List Nat) (j j' r : Nat) (hr : r ≤ n)
    (hnew : ct.getD r 0 ≠ 0 ∧ ct.getD r 0 < r ∧ (r < j' ∨ cct'.getD r 0 = 0))
    (hold : ¬ (r < j ∨ cct.getD r 0 = 0))
    (hother : ∀ q, q ≠ r → ct.getD q 0 ≠ 0 → ct.getD q 0 < q →
      ((q < j' ∨ cct'.getD q 0 = 0) ↔ (q < j ∨ cct.getD q 0 = 0))) :
    cntSpec n ct cct' j' = cntSpec n ct cct j + 1 := by
  unfold cntSpec
  have h1 : ∀ q ∈ List.range (n+1),
      decide (ct.getD q 0 ≠ 0 ∧ ct.getD q 0 < q ∧ (q < j' ∨ cct'.getD q 0 = 0)) =
      (decide (ct.getD q 0 ≠ 0 ∧ ct.getD q 0 < q ∧ (q < j ∨ cct.getD q 0 = 0)) || decide (q = r)) := by
    intro q _
    rw [Bool.eq_iff_iff]
    simp only [decide_eq_true_eq, Bool.or_eq_true]
    by_cases hq : q = r
    · subst hq
      exact ⟨fun _ => Or.inr rfl, fun _ => hnew⟩
    · constructor
      · rintro ⟨a, b, c⟩; exact Or.inl ⟨a, b, (hother q hq a b).mp c⟩
      · rintro (⟨a, b, c⟩ | e)
        · exact ⟨a, b, (hother q hq a b).mpr c⟩
        · exact absurd e hq
  rw [filter_length_congr _ _ _ h1,
      filter_length_or (fun q => decide (ct.getD q 0 ≠ 0 ∧ ct.getD q 0 < q ∧ (q < j ∨ cct.getD q 0 = 0))) (fun q => decide (q = r)),
      filter_eq_range, if_pos (by omega)]
  intro x _ hpq
  have h2 : x = r := by simpa using hpq.2
  subst h2
  have h3 := hpq.1
  simp only [decide_eq_true_eq] at h3
  exact hold h3.2.2

theorem cntSpec_push (n : Nat) (ct cct : List Nat) (j : Nat)
    (h : ct.getD j 0 ≠ 0 → ct.getD j 0 < j → cct.getD j 0 = 0) : cntSpec n ct cct (j+1) = cntSpec n ct cct j := by
  unfold cntSpec
  apply filter_length_congr
  intro q _
  rw [Bool.eq_iff_iff]
  simp only [decide_eq_true_eq]
  constructor
  · rintro ⟨a, b, c⟩
    refine ⟨a, b, ?_⟩
    rcases c with c | c
    · by_cases hq : q = j
      · subst hq; exact Or.inr (h a b)
      · exact Or.inl (by omega)
    · exact Or.inr c
  · rintro ⟨a, b, c⟩
    exact ⟨a, b, c.imp (fun c => by omega) id⟩

theorem cntSpec_right (n : Nat) (ct cct : List Nat) (j : Nat) (hjn : j ≤ n) (h1 : ct.getD j 0 ≠ 0) (h2 : ct.getD j 0 < j)
    (h3 : cct.getD j 0 ≠ 0) : cntSpec n ct cct (j+1) = cntSpec n ct cct j + 1 := by
  apply cntSpec_add_one n ct cct cct j (j+1) j hjn ⟨h1, h2, Or.inl (by omega)⟩
  · rintro (h | h)
    · omega
    · exact h3 h
  · intro q hq _ _
    constructor
    · rintro (h | h)
      · exact Or.inl (by omega)
      · exact Or.inr h
    · rintro (h | h)
      · exact Or.inl (by omega)
      · exact Or.inr h

/-- `p` is the 5' end of a pair `(p, ct[p])` crossed by a pair `(q, ct[q])` with `q < p < ct[q] < ct[p]` -/
def isPkPair (ct : List Nat) (p : Nat) : Bool :=
  decide (p < ct.getD p 0) &&
    (List.range ct.length).any (fun q => decide (q < p ∧ p < ct.getD q 0 ∧ ct.getD q 0 < ct.getD p 0))

/-- the pseudoknotted pairs of a table (by their 5' ends) -/
def pkPairs (ct : List Nat) : List Nat := (List.range ct.length).filter (isPkPair ct)

theorem mem_pkPairs (ct : List Nat) (p : Nat) (h : isPkPair ct p = true) : p ∈ pkPairs ct := by
  unfold pkPairs
  rw [List.mem_filter]
  refine ⟨?_, h⟩
  rw [List.mem_range]
  rcases Nat.lt_or_ge p ct.length with h1 | h1
  · exact h1
  · exfalso
    simp only [isPkPair, Bool.and_eq_true, decide_eq_true_eq] at h
    have : ct.getD p 0 = 0 := by simp [List.getD_eq_getElem?_getD, List.getElem?_eq_none h1]
    omega

theorem isPkPair_of (ct : List Nat) (p q : Nat) (hq : q < ct.length) (h1 : q < p) (h2 : p < ct.getD q 0)
    (h3 : ct.getD q 0 < ct.getD p 0) : isPkPair ct p = true := by
  simp only [isPkPair, Bool.and_eq_true, decide_eq_true_eq, List.any_eq_true, List.mem_range]
  exact ⟨by omega, q, hq, h1, h2, h3⟩

/-- light invariant of the lettering: every letter in use is carried by a lettered pair, and lettered pairs are
    pseudoknotted pairs -/
structure UInv (ct cct : List Nat) (ss : Array UInt8) (rb : List Int) : Prop where
  used : ∀ x : Nat, x < 26 → 0 ≤ rb.getD x 0 →
    ∃ p, 1 ≤ p ∧ p < ct.getD p 0 ∧ cct.getD p 0 = 0 ∧ ssAt ss (p-1) = UInt8.ofNat (65 + x)
  cross : ∀ p, 1 ≤ p → p < ct.getD p 0 → cct.getD p 0 = 0 → isPkPair ct p = true

theorem letters_give_pairs (ct cct : List Nat) (ss : Array UInt8) (rb : List Int) (u : UInv ct cct ss rb) :
    ∀ k, k ≤ 26 → (∀ x, x < k → 0 ≤ rb.getD x 0) →
      ∃ l : List Nat, l.length = k ∧ l.Nodup ∧
        ∀ p ∈ l, isPkPair ct p = true ∧ cct.getD p 0 = 0 ∧ ∃ x, x < k ∧ ssAt ss (p-1) = UInt8.ofNat (65 + x) := by
  intro k
  induction k with
  | zero => intro _ _; exact ⟨[], rfl, List.nodup_nil, fun p hp => by simp at hp⟩
  | succ k ih =>
    intro hk hall
    obtain ⟨l, hl, hnd, hmem⟩ := ih (by omega) (fun x hx => hall x (by omega))
    obtain ⟨p, hp1, hp2, hp3, hp4⟩ := u.used k (by omega) (hall k (by omega))
    refine ⟨p :: l, by simp [hl], ?_, ?_⟩
    · rw [List.nodup_cons]
      refine ⟨fun hin => ?_, hnd⟩
      obtain ⟨_, _, x, hx, hss⟩ := hmem p hin
      rw [hp4] at hss
      have := ofNat_letter_inj k x (by omega) (by omega) hss
      omega
    · intro q hq
      simp only [List.mem_cons] at hq
      rcases hq with rfl | hq
      · exact ⟨u.cross q hp1 hp2 hp3, hp3, k, by omega, hp4⟩
      · obtain ⟨a, b, x, hx, hss⟩ := hmem q hq
        exact ⟨a, b, x, by omega, hss⟩

/-- chain state of the pseudoknot currently being lettered with `xpk`: no letter yet (then the first scan is empty), or `(am, lastb)`
    is the pair lettered last: nothing still paired inside `rbd` stands between `lastb` and `rbd`; every pair that carries the
    letter ends at or before `lo` (an earlier pseudoknot) or lies around `(am, lastb)` with its left end from `lo` on (this one);
    the items still to come start right of `am` -/
def Chain (ct cct : List Nat) (ss : Array UInt8) (items : List Nat) (lb rbd : Nat) (xpk : Int) : Prop :=
  (xpk = -1 ∧ rbd = lb + 1) ∨
  (0 ≤ xpk ∧ ∃ lo am lastb : Nat,
    (∀ k2, lastb < k2 → k2 < rbd → (cct.getD k2 0 = 0 ∨ rbd < cct.getD k2 0)) ∧
    (∀ p, 1 ≤ p → p < ct.getD p 0 → cct.getD p 0 = 0 → ssAt ss (p-1) = UInt8.ofNat (65 + xpk.toNat) →
        (ct.getD p 0 ≤ lo ∨ (lo ≤ p ∧ p ≤ am ∧ lastb ≤ ct.getD p 0))) ∧
    (∀ a ∈ items, am < a) ∧ cct.getD lastb 0 = 0 ∧ lastb ≤ rbd ∧ lo ≤ am)

/-- what a lettering batch that ends normally leaves (`cct'`, `rb'`: working table and letter bounds afterwards): the
    invariants, the count, both ends of every item zeroed in the working table, and only cells of the items written -/
structure PkPost (n : Nat) (ct cct : List Nat) (items : List Nat) (j : Nat) (st st' : C2W) (cct' : List Nat) (rb' : List Int) :
    Prop where
  hcct : st'.cct = cct'.toArray
  hrb : st'.rb = rb'.toArray
  cok : CctOk n ct cct'
  sssize : st'.ss.size = n
  linv : LInv ct cct' st'.ss rb'
  uinv : UInv ct cct' st'.ss rb'
  nopk : st'.auxpk = []
  auxss : st'.auxss = st.auxss
  count : st'.reached = cntSpec n ct cct' (j+1)
  tbl : ∀ p, cct'.getD p 0 = if leftEnd ct p ∈ items then 0 else cct.getD p 0
  frame : SameOff ct (· ∈ items) st.ss st'.ss

theorem CctOk.zeroPair {n : Nat} {ct cct : List Nat} (hct : CtOk n ct) (hok : CctOk n ct cct) {i : Nat}
    (hi : i < ct.getD i 0) : CctOk n ct ((cct.set i 0).set (ct.getD i 0) 0) := by
  have hpi := hct.2 i (by omega)
  have rd := getD_zeroPair hct cct hi (by rw [hok.len]; omega)
  exact {
    len := by simp [hok.len]
    sub := fun p => by
      rw [rd]; split
      · exact Or.inr rfl
      · exact hok.sub p
    both := by
      intro p hp
      -- both ends of a pair belong to the same pair
      have hl : leftEnd ct (ct.getD p 0) = leftEnd ct p := by
        unfold leftEnd; rw [(hct.2 p hp).2.2.2.2.1]; exact Nat.min_comm _ _
      rw [rd, rd, hl]
      split
      · exact Iff.rfl
      · exact hok.both p hp }

theorem zeroPair_lettered {n : Nat} {ct : List Nat} (hct : CtOk n ct) (cct : List Nat) {i : Nat} (hil : i < ct.getD i 0)
    (p : Nat) (hp : p < ct.getD p 0) (hz : ((cct.set i 0).set (ct.getD i 0) 0).getD p 0 = 0) :
    p = i ∨ (p ≠ i ∧ cct.getD p 0 = 0) := by
  by_cases h1 : p = i
  · exact Or.inl h1
  · have h2 : p ≠ ct.getD i 0 := by
      intro e; rw [e, (hct.2 i (by omega)).2.2.2.2.1] at hp; omega
    rw [getD_zeroPair_other cct i _ p h1 h2] at hz
    exact Or.inr ⟨h1, hz⟩

theorem lettered_old_cells {n : Nat} {ct cct : List Nat} (hct : CtOk n ct) (rb : List Int) (st : C2W) {i : Nat} (x : Int)
    (hi : ct.getD i 0 ≠ 0) (hci : cct.getD i 0 ≠ 0) (hcci : cct.getD (ct.getD i 0) 0 ≠ 0)
    (p : Nat) (hp1 : 1 ≤ p) (hp2 : p < ct.getD p 0) (hp3 : cct.getD p 0 = 0) :
    ssAt (lettered ct cct rb st i x).ss (p-1) = ssAt st.ss (p-1) ∧
    ssAt (lettered ct cct rb st i x).ss (ct.getD p 0 - 1) = ssAt st.ss (ct.getD p 0 - 1) := by
  have hi1 := (hct.2 i hi).1
  have hci1 := (hct.2 i hi).2.2.1
  have hcisym := (hct.2 i hi).2.2.2.2.1
  have hpne : p ≠ i := by intro e; rw [e] at hp3; exact hci hp3
  have hpne2 : p ≠ ct.getD i 0 := by intro e; rw [e] at hp3; exact hcci hp3
  have hps := (hct.2 p (by omega)).2.2.2.2.1
  have h3 : ct.getD p 0 ≠ i := by
    intro e; rw [e] at hps; exact hpne2 hps.symm
  have h4 : ct.getD p 0 ≠ ct.getD i 0 := by
    intro e; rw [e, hcisym] at hps; exact hpne hps.symm
  exact ⟨lettered_ss_other ct cct rb st i x _ (by omega) (by omega),
         lettered_ss_other ct cct rb st i x _ (by omega) (by omega)⟩

/-- The letter invariant survives the lettering of the still-paired pair `(i, ct i)` with `x`, provided every pair that
    carries `x` already lies left of `i` or around `(i, ct i)`: then no two pairs with one letter cross. -/
theorem LInv.letter {n : Nat} {ct cct : List Nat} {rb : List Int} {st : C2W} (hct : CtOk n ct) (linv : LInv ct cct st.ss rb)
    {i : Nat} {x : Int} (hx0 : 0 ≤ x) (hxn : x.toNat < 26) (hil : i < ct.getD i 0) (hcn : ct.getD i 0 ≤ st.ss.size)
    (hci : cct.getD i 0 ≠ 0) (hcci : cct.getD (ct.getD i 0) 0 ≠ 0)
    (hF : ∀ p, 1 ≤ p → p < ct.getD p 0 → cct.getD p 0 = 0 → ssAt st.ss (p-1) = UInt8.ofNat (65 + x.toNat) →
        (ct.getD p 0 ≤ i ∨ (p < i ∧ ct.getD i 0 < ct.getD p 0))) :
    LInv ct ((cct.set i 0).set (ct.getD i 0) 0) (lettered ct cct rb st i x).ss (raiseRb rb x (ct.getD i 0)) := by
  have hi : ct.getD i 0 ≠ 0 := by omega
  have hi1 := (hct.2 i hi).1
  have hcell_i := lettered_ss_left ct cct rb st i x hx0 hi1 (by omega) (by omega) (by omega)
  have hcell_ci := lettered_ss_right ct cct rb st i x hx0 (by omega) hcn
  have hcls := zeroPair_lettered hct cct hil
  have hcell := lettered_old_cells hct rb st x hi hci hcci
  exact {
    rblen := by rw [raiseRb_length]; exact linv.rblen
    lab := by
      intro p hp1 hp2 hp3
      rcases hcls p hp2 hp3 with h1 | ⟨_, h1⟩
      · subst h1
        exact ⟨x.toNat, hxn, hcell_i, hcell_ci, (raiseRb_self rb x _ (by rw [linv.rblen]; exact hxn)).1⟩
      · obtain ⟨xp, hxp, hc1, hc2, hrbp⟩ := linv.lab p hp1 hp2 h1
        have hc := hcell p hp1 hp2 h1
        exact ⟨xp, hxp, by rw [hc.1]; exact hc1, by rw [hc.2]; exact hc2,
               Int.le_trans hrbp (raiseRb_mono rb x _ xp (by rw [linv.rblen]; exact hxn))⟩
    non := by
      intro p p' hp1 hp2 hp3 hp2' hp3' hlt hlt2 hsame
      rcases hcls p hp2 hp3 with h1 | ⟨_, h1⟩
      · subst h1
        rcases hcls p' hp2' hp3' with h2 | ⟨_, h2⟩
        · omega
        · -- an old pair with the same letter cannot start inside (i, ct i)
          exfalso
          rw [hcell_i, (hcell p' (by omega) hp2' h2).1] at hsame
          rcases hF p' (by omega) hp2' h2 hsame.symm with h3 | h3 <;> omega
      · rcases hcls p' hp2' hp3' with h2 | ⟨_, h2⟩
        · subst h2
          rw [hcell_i, (hcell p hp1 hp2 h1).1] at hsame
          rcases hF p hp1 hp2 h1 hsame with h3 | h3 <;> omega
        · rw [(hcell p hp1 hp2 h1).1, (hcell p' (by omega) hp2' h2).1] at hsame
          exact linv.non p p' hp1 hp2 h1 hp2' h2 hlt hlt2 hsame }

/-- The letter-use invariant survives the lettering of the still-paired pair `(i, ct i)`, which another pair crosses. -/
theorem UInv.letter {n : Nat} {ct cct : List Nat} {rb : List Int} {st : C2W} (hct : CtOk n ct) (u : UInv ct cct st.ss rb)
    {i : Nat} {x : Int} (hx0 : 0 ≤ x) (hi1 : 1 ≤ i) (hil : i < ct.getD i 0) (hcn : ct.getD i 0 ≤ st.ss.size)
    (hclen : ct.getD i 0 < cct.length) (hci : cct.getD i 0 ≠ 0) (hcci : cct.getD (ct.getD i 0) 0 ≠ 0)
    (hipk : isPkPair ct i = true) :
    UInv ct ((cct.set i 0).set (ct.getD i 0) 0) (lettered ct cct rb st i x).ss (raiseRb rb x (ct.getD i 0)) where
  used := by
    intro y hy hge
    by_cases hyx : y = x.toNat
    · subst hyx
      exact ⟨i, hi1, hil, getD_zeroPair_left cct i _ (by omega) (by omega),
        lettered_ss_left ct cct rb st i x hx0 hi1 (by omega) (by omega) (by omega)⟩
    · rw [raiseRb_other rb x _ y hyx] at hge
      obtain ⟨p, hp1, hp2, hp3, hp4⟩ := u.used y hy hge
      exact ⟨p, hp1, hp2,
        by rw [getD_zeroPair_other cct i (ct.getD i 0) p (fun e => hci (e ▸ hp3)) (fun e => hcci (e ▸ hp3))]; exact hp3,
        by rw [(lettered_old_cells hct rb st x (by omega) hci hcci p hp1 hp2 hp3).1]; exact hp4⟩
  cross := by
    intro p hp1 hp2 hp3
    rcases zeroPair_lettered hct cct hil p hp2 hp3 with h1 | ⟨_, h1⟩
    · rw [h1]; exact hipk
    · exact u.cross p hp1 hp2 h1

/-- zeroing a still-paired pair whose right end lies beyond `j` counts one more right end -/
theorem cntSpec_letter {n : Nat} {ct cct : List Nat} (hct : CtOk n ct) {i j : Nat} (hi1 : 1 ≤ i) (hil : i < ct.getD i 0)
    (hj : j < ct.getD i 0) (hcn : ct.getD i 0 ≤ n) (hclen : cct.length = n + 1) (hcci : cct.getD (ct.getD i 0) 0 ≠ 0) :
    cntSpec n ct ((cct.set i 0).set (ct.getD i 0) 0) (j+1) = cntSpec n ct cct (j+1) + 1 := by
  have hsym : ct.getD (ct.getD i 0) 0 = i := (hct.2 i (by omega)).2.2.2.2.1
  apply cntSpec_add_one n ct cct _ (j+1) (j+1) (ct.getD i 0) hcn
  · exact ⟨by rw [hsym]; omega, by rw [hsym]; omega, Or.inr (getD_zeroPair_right cct i _ (by omega))⟩
  · rintro (h | h)
    · omega
    · exact hcci h
  · intro q hq hq1 hq2
    rw [getD_zeroPair_other cct i _ q (fun e => by subst e; omega) hq]

/-- What the branch taken for item `i` provides. A new pseudoknot takes a letter whose right bound does not reach beyond `i`,
    so every pair with that letter lies left of `i`; a continued one was found by the scan, so its partner lies below the last
    end of the chain and nothing still paired lies between. Either way every old pair with the letter lies left of `i` or
    around `(i, ct i)`, and the chain goes on with `(i, ct i)` as its last pair. -/
theorem Chain.step {n : Nat} {ct cct : List Nat} {rb : List Int} {st : C2W} {i j : Nat} {rest : List Nat}
    {lb rbd k lb' rbd' : Nat} {xpk x : Int} (hct : CtOk n ct) (hok : CctOk n ct cct) (linv : LInv ct cct st.ss rb)
    (chain : Chain ct cct st.ss (i :: rest) lb rbd xpk) (hil : i < ct.getD i 0) (hclen : ct.getD i 0 < cct.length)
    (hci : cct.getD i 0 ≠ 0) (hcci : cct.getD (ct.getD i 0) 0 ≠ 0) (hx0 : 0 ≤ x) (hxn : x.toNat < 26)
    (hrest : ∀ a ∈ rest, i < a) (T : PkTurn ct cct rb i j lb rbd xpk k x lb' rbd') :
    (∀ p, 1 ≤ p → p < ct.getD p 0 → cct.getD p 0 = 0 → ssAt st.ss (p-1) = UInt8.ofNat (65 + x.toNat) →
        (ct.getD p 0 ≤ i ∨ (p < i ∧ ct.getD i 0 < ct.getD p 0))) ∧
    Chain ct ((cct.set i 0).set (ct.getD i 0) 0) (lettered ct cct rb st i x).ss rest lb' rbd' x := by
  obtain ⟨hcirb, lo, hlo, PC1, PC3⟩ : ct.getD i 0 ≤ rbd' ∧
      ∃ lo : Nat, lo ≤ i ∧
        (∀ k2, ct.getD i 0 < k2 → k2 < rbd' → (cct.getD k2 0 = 0 ∨ rbd' < cct.getD k2 0)) ∧
        (∀ p, 1 ≤ p → p < ct.getD p 0 → cct.getD p 0 = 0 →
            ssAt st.ss (p-1) = UInt8.ofNat (65 + x.toNat) →
            (ct.getD p 0 ≤ lo ∨ (lo ≤ p ∧ p ≤ i ∧ ct.getD i 0 ≤ ct.getD p 0))) := by
    rcases T.choice with ⟨_, _, hrbx, _, _, hrb1⟩ | ⟨hkl, hx1, hlb1, hrb1⟩
    · -- a new pseudoknot: the letter comes from the rb[] search, which leaves every pair of that letter left of `i`
      have hrbx := hrbx (by omega)
      refine ⟨by rw [hrb1]; exact Nat.le_refl _, i, Nat.le_refl _, ?_, ?_⟩
      · intro k2 h1 h2; omega
      · intro p hp1 hp2 hp3 hp4
        left
        obtain ⟨xp, hxp, hc1, _, hrbp⟩ := linv.lab p hp1 hp2 hp3
        rw [hc1] at hp4
        have := ofNat_letter_inj xp x.toNat hxp hxn hp4
        subst this
        omega
    · -- the pseudoknot is continued with the same letter: the scan stopped on the partner of `i`
      subst hx1 hlb1 hrb1
      rcases T.scan with hsc | ⟨hk1, hk2, hk4, hk5, hk6, hk7⟩
      · exact absurd hsc hkl
      · have hkct : ct.getD k 0 = i := by
          rcases hok.sub k with h1 | h1
          · rw [← h1]; exact hk4
          · rw [h1] at hk4; exact absurd hk4.symm hk5
        have hkci : k = ct.getD i 0 := by
          have := (hct.2 k (by rw [hkct]; exact hk5)).2.2.2.2.1
          rw [hkct] at this; exact this.symm
        rcases chain with hc | ⟨hxp0, lo, am, lastb, K1, K3, Kam, Klast, Klb, Klo⟩
        · omega
        · have ham : am < i := Kam i (by simp)
          -- the partner lies below the last end of the chain
          have hcilt : ct.getD i 0 < lastb := by
            have hne : ct.getD i 0 ≠ lastb := by
              intro e; rw [← e] at Klast; exact hcci Klast
            rcases Nat.lt_or_ge (ct.getD i 0) lastb with h1 | h1
            · exact h1
            · exfalso
              rcases K1 k (by omega) hk2 with h2 | h2
              · rw [hkci] at h2; exact hcci h2
              · rw [hk4] at h2; omega
          refine ⟨by omega, lo, by omega, fun k2 h1 h2 => hk7 k2 (by omega) h2, ?_⟩
          intro p hp1 hp2 hp3 hp4
          rcases K3 p hp1 hp2 hp3 hp4 with h1 | h1
          · exact Or.inl h1
          · exact Or.inr ⟨h1.1, by omega, by omega⟩
  clear T chain
  have hsym : ct.getD (ct.getD i 0) 0 = i := (hct.2 i (by omega)).2.2.2.2.1
  refine ⟨fun p hp1 hp2 hp3 hp4 => ?_, Or.inr ⟨hx0, lo, i, ct.getD i 0, fun k2 h1 h2 => ?_, fun p hp1 hp2 hp3 hp4 => ?_,
    hrest, getD_zeroPair_right cct i _ hclen, hcirb, hlo⟩⟩
  · rcases PC3 p hp1 hp2 hp3 hp4 with h1 | h1
    · left; omega
    · right
      have hpne : p ≠ i := by intro e; rw [e] at hp3; exact hci hp3
      have hcne : ct.getD p 0 ≠ ct.getD i 0 := by
        intro e
        have h3 := (hct.2 p (by omega)).2.2.2.2.1
        rw [e, hsym] at h3; exact hpne h3.symm
      omega
  · rw [getD_zeroPair hct cct hil hclen]
    split
    · exact Or.inl rfl
    · exact PC1 k2 h1 h2
  · rcases zeroPair_lettered hct cct hil p hp2 hp3 with h1 | ⟨_, h1⟩
    · subst h1; right; exact ⟨hlo, Nat.le_refl _, Nat.le_refl _⟩
    · rw [(lettered_old_cells hct rb st x (by omega) hci hcci p hp1 hp2 h1).1] at hp4
      exact PC3 p hp1 hp2 h1 hp4

/-- A lettering batch under its invariants, whatever it returns. -/
theorem pkLoop_run (n : Nat) (ct : List Nat) (hct : CtOk n ct) (j i0 : Nat) (hi0 : ct.getD i0 0 = j ∧ i0 < j) :
    ∀ (items : List Nat) (lb rbd : Nat) (xpk : Int) (st : C2W) (cct : List Nat) (rb : List Int),
      PkRun n ct cct rb j items lb rbd xpk st → CctOk n ct cct → LInv ct cct st.ss rb → UInv ct cct st.ss rb →
      (∀ a ∈ items, i0 < a) → Chain ct cct st.ss items lb rbd xpk →
      (∀ x' : Nat, (x' : Int) ≤ xpk → 0 ≤ rb.getD x' 0) → st.reached = cntSpec n ct cct (j+1) →
      (∃ st' cct' rb', pkLoop ct.toArray j items lb rbd xpk st = .ok st' ∧ PkPost n ct cct items j st st' cct' rb') ∨
      (∃ p, pkLoop ct.toArray j items lb rbd xpk st = .error (.einvalLetters p) ∧ 27 ≤ (pkPairs ct).length) := by
  intro items
  induction items with
  | nil =>
    intro lb rbd xpk st cct rb R hok linv u _ _ _ hcnt
    exact Or.inl ⟨_, cct, rb, rfl, R.hcct, R.hrb, hok, R.sssize, linv, u, rfl, rfl, hcnt, fun p => by simp, fun p _ _ => rfl⟩
  | cons i rest ih =>
    intro lb rbd xpk st cct rb R hok linv u hitems0 chain hV hcnt
    obtain ⟨k, x, lb', rbd', T, hx0, _, hR, heq⟩ := pkLoop_cons R
    rw [heq]
    obtain ⟨hi1, hij, hcc, hjc, hcn⟩ := R.item i (by simp)
    have hrest := (List.pairwise_cons.mp R.sorted).1
    have hil : i < ct.getD i 0 := by omega
    have hclen : ct.getD i 0 < cct.length := by rw [R.clen]; omega
    have hcinz : cct.getD i 0 ≠ 0 := by rw [hcc]; omega
    have hcci : cct.getD (ct.getD i 0) 0 ≠ 0 := fun e => hcinz ((hok.both i (by omega)).mpr e)
    -- the item is crossed by the pair `(i0, j)` that is being closed
    have hipk : isPkPair ct i = true :=
      isPkPair_of ct i i0 (by rw [hct.1]; omega) (hitems0 i (by simp)) (by rw [hi0.1]; exact hij) (by rw [hi0.1]; exact hjc)
    -- every letter before `x` is in use: those up to `xpk` were, those skipped by the search reach beyond `i`
    have hVx : ∀ x' : Nat, (x' : Int) < x → 0 ≤ rb.getD x' 0 := by
      intro x' hx'
      rcases T.choice with ⟨_, _, _, hbtw, _, _⟩ | ⟨_, hx1, _, _⟩
      · by_cases hle : (x' : Int) ≤ xpk
        · exact hV x' hle
        · have := hbtw (x' : Int) (by omega) hx'
          rw [Int.toNat_natCast] at this
          omega
      · exact hV x' (by omega)
    by_cases hx25 : x ≤ 25
    · rw [if_pos hx25]
      have hxn : x.toNat < 26 := by omega
      have hsz : ct.getD i 0 ≤ st.ss.size := by rw [R.sssize]; exact hcn
      obtain ⟨hF, chain'⟩ := Chain.step hct hok linv chain hil hclen hcinz hcci hx0 hxn hrest T
      have hV' : ∀ x' : Nat, (x' : Int) ≤ x → 0 ≤ (raiseRb rb x (ct.getD i 0)).getD x' 0 := by
        intro x' hx'
        by_cases hyx : x' = x.toNat
        · rw [hyx]
          have := (raiseRb_self rb x (ct.getD i 0) (by rw [R.rblen]; exact hxn)).1
          omega
        · rw [raiseRb_other rb x _ x' hyx]; exact hVx x' (by omega)
      rcases ih lb' rbd' x _ _ _ (hR hx25) (hok.zeroPair hct hil) (linv.letter hct hx0 hxn hil hsz hcinz hcci hF)
        (u.letter hct hx0 hi1 hil hsz hclen hcinz hcci hipk) (fun a ha => hitems0 a (by simp [ha])) chain' hV'
        (by show st.reached + 1 = _; rw [hcnt, cntSpec_letter hct hi1 hil hjc hcn R.clen hcci]) with
        ⟨st', cct', rb', hst', P⟩ | hfail
      · refine Or.inl ⟨st', cct', rb', hst', P.hcct, P.hrb, P.cok, P.sssize, P.linv, P.uinv, P.nopk, P.auxss, P.count, ?_, ?_⟩
        · intro p
          rw [P.tbl p, getD_zeroPair hct cct hil hclen p]
          by_cases h1 : leftEnd ct p ∈ rest
          · rw [if_pos h1, if_pos (List.mem_cons_of_mem _ h1)]
          · rw [if_neg h1]
            by_cases h2 : leftEnd ct p = i
            · rw [if_pos h2, if_pos (by rw [h2]; exact List.mem_cons_self)]
            · rw [if_neg h2, if_neg (by simp [h1, h2])]
        · intro p hp hT
          rw [P.frame p hp (fun hm => hT (List.mem_cons_of_mem _ hm))]
          exact lettered_sameOff hct cct rb st x hil p hp (fun e => hT (by rw [e]; exact List.mem_cons_self))
      · exact Or.inr hfail
    · -- all 26 letters are in use, each by a pseudoknotted pair, and `i` is one more
      rw [if_neg hx25]
      refine Or.inr ⟨_, rfl, ?_⟩
      obtain ⟨l, hl, hnd, hmem⟩ := letters_give_pairs ct cct st.ss rb u 26 (Nat.le_refl _)
        (fun y hy => hVx y (by omega))
      have hnd2 : (i :: l).Nodup := by
        rw [List.nodup_cons]
        exact ⟨fun hin => hcinz (hmem i hin).2.1, hnd⟩
      have hsub : ∀ p ∈ i :: l, p ∈ pkPairs ct := by
        intro p hp
        rcases List.mem_cons.mp hp with rfl | hp
        · exact mem_pkPairs ct _ hipk
        · exact mem_pkPairs ct p (hmem p hp).1
      have := List.Nodup.length_le_of_subset hnd2 hsub
      simp only [List.length_cons, hl] at this
      exact this

end EaselModel.Msa
