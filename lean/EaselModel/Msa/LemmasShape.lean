import EaselModel.Msa.Wuss
/-! Lemmas: `esl_ct2wuss` / `esl_ct2simplewuss` write exactly `n` non-NUL symbols. -/
namespace EaselModel.Msa

def Shape (n : Nat) (a : Array UInt8) : Prop := a.size = n ∧ ∀ c ∈ a.toList, c ≠ 0

/-- a `do` block that returns has passed each of its steps -/
theorem bind_ok {ε α β : Type} {x : Except ε α} {f : α → Except ε β} {b : β} (h : (x >>= f) = .ok b) :
    ∃ a, x = .ok a ∧ f a = .ok b := by
  cases x with
  | error e => cases h
  | ok a => exact ⟨a, rfl, h⟩

theorem wrSs_shape {n : Nat} {a a' : Array UInt8} {i : Int} {v : UInt8} (h : wrSs a i v = .ok a') (hv : v ≠ 0)
    (hs : Shape n a) : Shape n a' := by
  unfold wrSs at h
  split at h
  · injection h with h; subst h
    refine ⟨by simp [hs.1], ?_⟩
    intro c hc
    rw [Array.toList_setIfInBounds] at hc
    rcases List.mem_or_eq_of_mem_set hc with h1 | h1
    · exact hs.2 c h1
    · rw [h1]; exact hv
  · cases h

theorem drainAuxss_shape {n : Nat} (nf : Nat) : ∀ (l : List Nat) (a a' : Array UInt8),
    drainAuxss nf l a = .ok a' → Shape n a → Shape n a'
  | [], a, a', h, hs => by simp [drainAuxss] at h; subst h; exact hs
  | i :: rest, a, a', h, hs => by
    obtain ⟨a1, h1, h⟩ := bind_ok (show (wrSs a ((i : Int) - 1) _ >>= drainAuxss nf rest) = .ok a' from h)
    have hv : (if nf == 0 then (0x5f : UInt8) else if nf == 1 then 0x2d else 0x2c) ≠ 0 := by
      split
      · decide
      · split <;> decide
    exact drainAuxss_shape nf rest a1 a' h (wrSs_shape h1 hv hs)

/-- the bracket pair `popLoop` writes for the face code `mf` -/
def faceChars (mf : Int) : Except WErr (UInt8 × UInt8) :=
  if mf == -1 then .ok (chLt, chGt) else if mf == -2 then .ok (chLp, chRp)
  else if mf == -3 then .ok (chLb, chRb) else if mf == -4 then .ok (chLc, chRc)
  else .error WErr.einconceivable

theorem faceChars_ok_inv {mf : Int} {o c : UInt8} (h : faceChars mf = .ok (o, c)) :
    -4 ≤ mf ∧ mf ≤ -1 ∧ isOpenBr o = true ∧ c = closerOf o ∧ o ≠ 0 ∧ c ≠ 0 := by
  unfold faceChars at h
  split at h
  · rename_i hm; injection h with h; injection h with h1 h2; subst h1 h2
    have : mf = -1 := by simpa using hm
    subst this; decide
  · split at h
    · rename_i hm; injection h with h; injection h with h1 h2; subst h1 h2
      have : mf = -2 := by simpa using hm
      subst this; decide
    · split at h
      · rename_i hm; injection h with h; injection h with h1 h2; subst h1 h2
        have : mf = -3 := by simpa using hm
        subst this; decide
      · split at h
        · rename_i hm; injection h with h; injection h with h1 h2; subst h1 h2
          have : mf = -4 := by simpa using hm
          subst this; decide
        · cases h

theorem faceChars_ok (mf : Int) (h1 : -4 ≤ mf) (h2 : mf ≤ -1) : ∃ oc, faceChars mf = .ok oc := by
  have : mf = -1 ∨ mf = -2 ∨ mf = -3 ∨ mf = -4 := by omega
  rcases this with h | h | h | h <;> subst h <;> exact ⟨_, rfl⟩

theorem popLoop_shape {n : Nat} (simple : Bool) (ct : Array Nat) (j : Nat) :
    ∀ (pda : List Int) (nf : Nat) (mf : Int) (st : C2W) (res : Bool × List Int × C2W),
      popLoop simple ct j pda nf mf st = .ok res → Shape n st.ss → Shape n res.2.2.ss := by
  intro pda
  induction pda with
  | nil =>
    intro nf mf st res h hs
    simp only [popLoop] at h
    injection h with h; subst h; exact hs
  | cons i pda ih =>
    intro nf mf st res h hs
    unfold popLoop at h
    -- `split at h` on a term of this size costs ten times the `by_cases`
    by_cases hm : (!simple && decide (i < 0)) = true
    · rw [if_pos hm] at h
      exact ih _ _ st res h hs
    rw [if_neg hm] at h
    obtain ⟨ci, _, h⟩ := bind_ok h
    by_cases hj : (ci == j) = true
    · -- found the partner
      rw [if_pos hj] at h
      cases simple with
      | true =>
        obtain ⟨ss1, h1, h⟩ := bind_ok h
        obtain ⟨ss2, h2, h⟩ := bind_ok h
        cases h
        exact wrSs_shape h2 (by decide) (wrSs_shape h1 (by decide) hs)
      | false =>
        obtain ⟨⟨o, c⟩, hoc, h⟩ := bind_ok h
        have hne := (faceChars_ok_inv hoc).2.2.2.2
        obtain ⟨ss1, h1, h⟩ := bind_ok h
        obtain ⟨ss2, h2, h⟩ := bind_ok h
        obtain ⟨ss3, h3, h⟩ := bind_ok h
        cases h
        exact drainAuxss_shape _ _ _ _ h3 (wrSs_shape h2 hne.2 (wrSs_shape h1 hne.1 hs))
    rw [if_neg hj] at h
    by_cases hz : (ci == 0) = true
    · -- `cct[i] == 0`; the simple variant may write `.`
      rw [if_pos hz] at h
      obtain ⟨oi, _, h⟩ := bind_ok h
      cases simple with
      | true =>
        obtain ⟨ss1, h1, h⟩ := bind_ok h
        refine ih _ _ _ res h ?_
        split at h1
        · exact wrSs_shape h1 (by decide) hs
        · cases h1; exact hs
      | false =>
        refine ih _ _ _ res h ?_
        split <;> exact hs
    · rw [if_neg hz] at h
      exact ih _ _ _ res h hs

theorem rdInt_nonneg {a : Array Int} {i r : Int} (h : rdInt a i = .ok r) : 0 ≤ i := by
  unfold rdInt at h
  split at h
  · rename_i hc; exact hc.1
  · cases h

theorem ofNat_ne_zero (m : Nat) (h1 : 1 ≤ m) (h2 : m ≤ 255) : UInt8.ofNat m ≠ 0 := by
  intro e
  have h := congrArg UInt8.toNat e
  rw [UInt8.toNat_ofNat'] at h
  have : (0 : UInt8).toNat = 0 := rfl
  rw [this] at h
  omega

theorem letter_ne_zero (x : Int) (base : Nat) (h0 : 0 ≤ x) (h1 : x ≤ 25) (hb : 1 ≤ base ∧ base ≤ 200) :
    UInt8.ofNat (x + (base : Int)).toNat ≠ 0 := by
  have hx : (x + (base : Int)).toNat = x.toNat + base := by omega
  rw [hx]
  exact ofNat_ne_zero _ (by omega) (by omega)

theorem pkLoop_shape {n : Nat} (ct : Array Nat) (j : Nat) :
    ∀ (auxpk : List Nat) (lb rbd xpk : Int) (st st' : C2W),
      pkLoop ct j auxpk lb rbd xpk st = .ok st' → Shape n st.ss → Shape n st'.ss
  | [], lb, rbd, xpk, st, st', h, hs => by
    simp only [pkLoop] at h
    injection h with h; subst h; exact hs
  | i :: rest, lb, rbd, xpk, st, st', h, hs => by
    unfold pkLoop at h
    obtain ⟨_, _, h⟩ := bind_ok h
    obtain ⟨_, _, h⟩ := bind_ok h
    obtain ⟨⟨xpk', lb', rbd'⟩, _, h⟩ := bind_ok h
    simp only at h
    split at h
    · rename_i hle
      obtain ⟨r, hr, h⟩ := bind_ok h
      obtain ⟨ss1, h1, h⟩ := bind_ok h
      obtain ⟨ss2, h2, h⟩ := bind_ok h
      obtain ⟨_, _, h⟩ := bind_ok h
      obtain ⟨_, _, h⟩ := bind_ok h
      obtain ⟨_, _, h⟩ := bind_ok h
      have h0 := rdInt_nonneg hr
      have hx : xpk' ≤ 25 := by omega
      exact pkLoop_shape ct j rest _ _ _ _ st' h (wrSs_shape h2 (letter_ne_zero xpk' 97 h0 hx (by omega))
        (wrSs_shape h1 (letter_ne_zero xpk' 65 h0 hx (by omega)) hs))
    · cases h

theorem c2wMain_shape {n : Nat} (simple : Bool) (ct : Array Nat) (len : Nat) :
    ∀ (fuel j : Nat) (pda : List Int) (st st' : C2W),
      c2wMain simple ct len fuel j pda st = .ok st' → Shape n st.ss → Shape n st'.ss := by
  intro fuel
  induction fuel with
  | zero =>
    intro j pda st st' h hs
    simp only [c2wMain] at h
    injection h with h; subst h; exact hs
  | succ fuel ih =>
    intro j pda st st' h hs
    unfold c2wMain at h
    split at h
    · cases h; exact hs
    obtain ⟨cj, _, h⟩ := bind_ok h
    split at h
    · exact ih _ _ _ _ h hs
    split at h
    · exact ih _ _ _ _ h hs
    obtain ⟨⟨found, pda', st1⟩, hres, h⟩ := bind_ok h
    have hs1 : Shape n st1.ss := popLoop_shape simple ct j pda 0 (-1) st _ hres hs
    simp only at h
    split at h
    · cases h
    obtain ⟨st2, hst2, h⟩ := bind_ok h
    refine ih _ _ _ _ h ?_
    split at hst2
    · cases hst2; exact hs1
    · obtain ⟨_, _, hst2⟩ := bind_ok hst2
      exact pkLoop_shape ct j _ _ _ _ _ _ hst2 hs1

theorem ct2wussGen_shape (simple : Bool) (ct : List Nat) (ss : Bytes) (h : ct2wussGen simple ct = .ok ss) :
    ss.length = ct.length - 1 ∧ ∀ c ∈ ss, c ≠ 0 := by
  unfold ct2wussGen at h
  simp only at h
  split at h
  · cases h
  · rename_i st hst
    split at h
    · cases h
    · injection h with h; subst h
      have hs0 : Shape (ct.length - 1) (Array.replicate (ct.length - 1) (if simple then (0x2e : UInt8) else 0x3a)) := by
        refine ⟨by simp, ?_⟩
        intro c hc
        simp only [Array.toList_replicate, List.mem_replicate] at hc
        rw [hc.2]; split <;> decide
      have := c2wMain_shape simple ct.toArray (ct.length - 1) _ _ _ _ st hst hs0
      exact ⟨by simpa using this.1, this.2⟩

end EaselModel.Msa
