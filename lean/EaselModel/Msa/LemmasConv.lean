import EaselModel.Msa.Spec
import EaselModel.Msa.AbcTables
import EaselModel.Core.ListWhile
/-! Lemmas: text <-> digital conversion, reverse complement, over alphabet tables regenerated from the tree. -/
namespace EaselModel.Msa

theorem flags_digital (m : Msa) (wf : m.WF) (hd : m.isDigital = true) : m.flags = 2 ∨ m.flags = 3 := by
  have := wf.flags_lt
  simp only [Msa.isDigital, beq_iff_eq] at hd
  omega

theorem flags_text (m : Msa) (wf : m.WF) (hd : m.isDigital = false) : m.flags = 0 ∨ m.flags = 1 := by
  have := wf.flags_lt
  simp only [Msa.isDigital, beq_eq_false_iff_ne, ne_eq] at hd
  omega

theorem digitize_ok_inv {a : Abc} {m : Msa} (hok : (digitize a m).st = .ok) :
    m.isDigital = false ∧ (m.rows.all fun r => (r.take m.alen).all a.cIsValid) = true := by
  unfold digitize at hok
  cases hd : m.isDigital with
  | true => simp [hd] at hok
  | false =>
    cases hv : (m.rows.all fun r => (r.take m.alen).all a.cIsValid) with
    | true => exact ⟨rfl, rfl⟩
    | false => simp [hd, hv] at hok

theorem digitize_eq {a : Abc} {m : Msa} (hd : m.isDigital = false)
    (hv : (m.rows.all fun r => (r.take m.alen).all a.cIsValid) = true) :
    digitize a m = { msa := { m with rows := m.rows.map (fun r => r.map a.digit), abc := some a,
                                     flags := m.flags ||| flagDigital }, st := .ok } := by
  simp [digitize, hd, hv]

theorem textize_ok_inv {m : Msa} (hok : (textize m).st = .ok) : m.isDigital = true ∧ ∃ a, m.abc = some a := by
  unfold textize at hok
  cases hd : m.isDigital with
  | false => simp [hd] at hok
  | true =>
    cases habc : m.abc with
    | none => simp [hd, habc] at hok
    | some a => exact ⟨rfl, a, rfl⟩

theorem textize_eq {m : Msa} {a : Abc} (hd : m.isDigital = true) (habc : m.abc = some a) :
    textize m = { msa := { m with rows := m.rows.map (fun r => (r.take m.alen).map (fun x => a.sym.getD x.toNat 0)),
                                  abc := none, flags := m.flags - flagDigital }, st := .ok } := by
  simp [textize, hd, habc]

theorem reverseComplement_ok_inv {m : Msa} (hok : (reverseComplement m).st = .ok) :
    m.isDigital = true ∧ ∃ a compl, m.abc = some a ∧ a.complement = some compl := by
  unfold reverseComplement at hok
  cases hd : m.isDigital with
  | false => simp [hd] at hok
  | true =>
    cases habc : m.abc with
    | none => simp [hd, habc] at hok
    | some a =>
      cases hc : a.complement with
      | none => simp [hd, habc, hc] at hok
      | some compl => exact ⟨rfl, a, compl, rfl, hc⟩

theorem reverseComplement_eq {m : Msa} {a : Abc} {compl : List UInt8} (hd : m.isDigital = true) (habc : m.abc = some a)
    (hcompl : a.complement = some compl) : reverseComplement m = { msa := rcMsa compl m, st := .ok } := by
  simp [reverseComplement, hd, habc, hcompl]

theorem digit_sym (a : Abc) (ht : a.symInmapOk) (x : UInt8) (hx : x.toNat < a.Kp) :
    a.digit (a.sym.getD x.toNat 0) = x ∧ a.cIsValid (a.sym.getD x.toNat 0) = true := by
  have h := ht x.toNat hx
  constructor
  · apply UInt8.toNat_inj.mp
    simpa [Abc.digit] using h.1
  · have h1 : (a.inmap.getD (a.sym.getD x.toNat 0).toNat 254).toNat < a.Kp := by rw [h.1]; exact hx
    show (decide ((a.sym.getD x.toNat 0).toNat < 128) && decide ((a.digit (a.sym.getD x.toNat 0)).toNat < a.Kp)) = true
    rw [Bool.and_eq_true]; exact ⟨decide_eq_true h.2, decide_eq_true h1⟩

/-- the text of a row of valid codes is valid text and digitizes back to the row -/
theorem symRow_digit (a : Abc) (ht : a.symInmapOk) (r : Bytes) (hr : ∀ x ∈ r, x.toNat < a.Kp) :
    (r.map fun x => a.sym.getD x.toNat 0).all a.cIsValid = true ∧ (r.map fun x => a.sym.getD x.toNat 0).map a.digit = r := by
  constructor
  · simp only [List.all_eq_true, List.mem_map]
    rintro _ ⟨x, hx, rfl⟩
    exact (digit_sym a ht x (hr x hx)).2
  · rw [List.map_map]
    exact map_id_of _ _ fun x hx => (digit_sym a ht x (hr x hx)).1

theorem digitize_textize (a : Abc) (m : Msa) (wf : m.WF) (hd : m.isDigital = true) (habc : m.abc = some a)
    (hc : m.codesOk a) (ht : a.symInmapOk) :
    (textize m).st = .ok ∧ digitize a (textize m).msa = { msa := m, st := .ok } := by
  have hrow : ∀ r ∈ m.rows, r.take m.alen = r := fun r hr =>
    List.take_of_length_le (by rw [(wf.rows_ok r hr).1]; exact Nat.le_refl _)
  have hrows : m.rows.map (fun r => (r.take m.alen).map (fun x => a.sym.getD x.toNat 0)) =
      m.rows.map (fun r => r.map (fun x => a.sym.getD x.toNat 0)) := by
    apply List.map_congr_left
    intro r hr; rw [hrow r hr]
  have hback : (m.rows.map (fun r => r.map (fun x => a.sym.getD x.toNat 0))).map (fun r => r.map a.digit) = m.rows := by
    rw [List.map_map]
    exact map_id_of _ _ fun r hr => (symRow_digit a ht r (hc r hr)).2
  have hvalid : ((m.rows.map (fun r => r.map (fun x => a.sym.getD x.toNat 0))).all
      fun r => (r.take m.alen).all a.cIsValid) = true := by
    simp only [List.all_eq_true, List.mem_map]
    rintro _ ⟨r, hr, rfl⟩ c hc'
    exact List.all_eq_true.1 (symRow_digit a ht r (hc r hr)).1 c (List.mem_of_mem_take hc')
  have e1 : textize m = { msa := { m with rows := m.rows.map (fun r => r.map (fun x => a.sym.getD x.toNat 0)),
                                          abc := none, flags := m.flags - flagDigital }, st := .ok } := by
    simp only [textize, hd, habc, hrows, Bool.not_true, Bool.false_eq_true, if_false]
  have hnd : Msa.isDigital { m with rows := m.rows.map (fun r => r.map (fun x => a.sym.getD x.toNat 0)),
                                    abc := none, flags := m.flags - flagDigital } = false := by
    rcases flags_digital m wf hd with hf | hf <;> simp [Msa.isDigital, hf, flagDigital]
  have hfl : (m.flags - flagDigital) ||| flagDigital = m.flags := by
    rcases flags_digital m wf hd with hf | hf <;> simp [hf, flagDigital]
  constructor
  · rw [e1]
  · rw [e1]
    simp only [digitize, hnd, hvalid, hback, hfl, ← habc]
    simp

/-- text -> digital -> text maps every character `c` to `sym[inmap[c]]` and touches nothing else -/
theorem textize_digitize (a : Abc) (m : Msa) (wf : m.WF) (hd : m.isDigital = false) (habc : m.abc = none)
    (hv : (m.rows.all fun r => r.all a.cIsValid) = true) :
    (digitize a m).st = .ok ∧
    textize (digitize a m).msa =
      { msa := { m with rows := m.rows.map (fun r => r.map (fun c => a.sym.getD (a.digit c).toNat 0)) }, st := .ok } := by
  have hrow : ∀ r ∈ m.rows, r.take m.alen = r := fun r hr =>
    List.take_of_length_le (by rw [(wf.rows_ok r hr).1]; exact Nat.le_refl _)
  have hvalid : (m.rows.all fun r => (r.take m.alen).all a.cIsValid) = true := by
    simp only [List.all_eq_true] at hv ⊢
    intro r hr c hc
    exact hv r hr c (List.mem_of_mem_take hc)
  have hrows : (m.rows.map (fun r => r.map a.digit)).map (fun r => (r.take m.alen).map (fun x => a.sym.getD x.toNat 0))
      = m.rows.map (fun r => r.map (fun c => a.sym.getD (a.digit c).toNat 0)) := by
    rw [List.map_map]
    apply List.map_congr_left
    intro r hr
    have : (r.map a.digit).take m.alen = r.map a.digit := by
      apply List.take_of_length_le; simp [(wf.rows_ok r hr).1]
    simp [Function.comp, this]
  have e1 := digitize_eq (a := a) hd hvalid
  have hdg : Msa.isDigital { m with rows := m.rows.map (fun r => r.map a.digit), abc := some a,
                                    flags := m.flags ||| flagDigital } = true := by
    rcases flags_text m wf hd with hf | hf <;> simp [Msa.isDigital, hf, flagDigital]
  have hfl : (m.flags ||| flagDigital) - flagDigital = m.flags := by
    rcases flags_text m wf hd with hf | hf <;> simp [hf, flagDigital]
  constructor
  · rw [e1]
  · rw [e1]
    simp only [textize, hdg, hrows, hfl, ← habc]
    simp

theorem wussComplChar_involutive_nat : ∀ n, n < 256 →
    wussComplChar (wussComplChar (UInt8.ofNat n)) = UInt8.ofNat n := by decide +kernel

theorem wussComplChar_involutive (c : UInt8) : wussComplChar (wussComplChar c) = c := by
  have h := wussComplChar_involutive_nat c.toNat (UInt8.toNat_lt c)
  simpa using h

theorem wussReverse_wussReverse (ss : Bytes) : wussReverse (wussReverse ss) = ss := by
  simp only [wussReverse, List.map_reverse, List.reverse_reverse, List.map_map]
  apply map_id_of
  intro c _
  exact wussComplChar_involutive c

theorem revcompRow_twice (a : Abc) (compl : List UInt8) (hc : a.complInvolutive compl) (r : Bytes)
    (hr : ∀ x ∈ r, x.toNat < a.Kp) : revcompRow compl (revcompRow compl r) = r := by
  simp only [revcompRow, List.map_reverse, List.reverse_reverse, List.map_map]
  apply map_id_of
  intro x hx
  have := (hc x.toNat (hr x hx)).2
  simpa [Function.comp] using this

theorem optmap_rev_rev (s : Option Bytes) : (s.map List.reverse).map List.reverse = s := by
  cases s <;> simp

theorem optmap_wrev_wrev (s : Option Bytes) : (s.map wussReverse).map wussReverse = s := by
  cases s <;> simp [wussReverse_wussReverse]

theorem reverseComplement_twice' (a : Abc) (compl : List UInt8) (m : Msa) (hd : m.isDigital = true)
    (habc : m.abc = some a) (hcompl : a.complement = some compl) (hinv : a.complInvolutive compl) (hc : m.codesOk a) :
    (reverseComplement m).st = .ok ∧ reverseComplement (reverseComplement m).msa = { msa := m, st := .ok } := by
  have hrows : (m.rows.map (revcompRow compl)).map (revcompRow compl) = m.rows := by
    rw [List.map_map]
    apply map_id_of
    intro r hr
    exact revcompRow_twice a compl hinv r (hc r hr)
  have hl : ∀ (l : List (Option Bytes)), (l.map (fun s => s.map List.reverse)).map (fun s => s.map List.reverse) = l := by
    intro l; rw [List.map_map]; apply map_id_of; intro s _; exact optmap_rev_rev s
  have hw : ∀ (l : List (Option Bytes)), (l.map (fun s => s.map wussReverse)).map (fun s => s.map wussReverse) = l := by
    intro l; rw [List.map_map]; apply map_id_of; intro s _; exact optmap_wrev_wrev s
  have hgc : (m.gc.map (fun t => (t.1, t.2.reverse))).map (fun t => (t.1, t.2.reverse)) = m.gc := by
    rw [List.map_map]; apply map_id_of; intro t _; simp
  have hgr : (m.gr.map (fun t => (t.1, t.2.map (fun s => s.map List.reverse)))).map
      (fun t => (t.1, t.2.map (fun s => s.map List.reverse))) = m.gr := by
    rw [List.map_map]; apply map_id_of; intro t _
    simp only [Function.comp, hl]
  have e1 : ∀ (m' : Msa), m'.isDigital = true → m'.abc = some a →
      reverseComplement m' = { msa := rcMsa compl m', st := .ok } := fun m' h1 h2 => reverseComplement_eq h1 h2 hcompl
  have e2 : rcMsa compl (rcMsa compl m) = m := by
    simp only [rcMsa, hrows, hgc, hgr, hl, hw, optmap_rev_rev, optmap_wrev_wrev]
  constructor
  · rw [e1 m hd habc]
  · rw [e1 m hd habc]
    show reverseComplement (rcMsa compl m) = _
    rw [e1 (rcMsa compl m) hd habc, e2]

theorem rna_symInmapOk : Gen.rnaAbc.symInmapOk := by unfold Abc.symInmapOk; decide
theorem dna_symInmapOk : Gen.dnaAbc.symInmapOk := by unfold Abc.symInmapOk; decide
theorem amino_symInmapOk : Gen.aminoAbc.symInmapOk := by unfold Abc.symInmapOk; decide

theorem rna_complInvolutive : ∃ compl, Gen.rnaAbc.complement = some compl ∧ Gen.rnaAbc.complInvolutive compl :=
  ⟨_, rfl, by unfold Abc.complInvolutive; decide⟩
theorem dna_complInvolutive : ∃ compl, Gen.dnaAbc.complement = some compl ∧ Gen.dnaAbc.complInvolutive compl :=
  ⟨_, rfl, by unfold Abc.complInvolutive; decide⟩

end EaselModel.Msa
