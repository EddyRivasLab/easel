import EaselModel.Msa.LemmasC2WNested
import EaselModel.Msa.LemmasNoPk
/-! Lemmas: `esl_wuss_full` keeps the pair table of EVERY balanced WUSS string (pseudoknot letters included; without them
    the full-format string reads back as the same table); `esl_wuss_nopseudo` removes exactly the pseudoknot-letter pairs;
    `esl_wuss2kh` / `esl_kh2wuss`. -/
namespace EaselModel.Msa

theorem wussFull_nopk' (ss : Bytes) (hnl : ∀ c ∈ ss, isAlpha c = false) (ct : List Nat) (h : wuss2ct ss = some ct) :
    ∃ full, wussFull ss = .ok full ∧ full.length = ss.length ∧ wuss2ct full = some ct := by
  have hct := wuss2ct_ctOk ss ct h
  have hn := wuss2ct_nopk_nested' ss hnl ct h
  obtain ⟨full, hf⟩ := ct2wuss_nested_ok ss.length ct hct hn
  obtain ⟨hlen, _⟩ := ct2wuss_labels ss.length ct hct hn full hf
  refine ⟨full, ?_, hlen, nested_roundtrip' ss.length ct hct hn full hf⟩
  simp only [wussFull, map_nopseudo_id ss hnl, h, hf, zipWith_overlay_id ss full hnl hlen.symm]

/-- the pair table with the pseudoknot-letter pairs removed -/
def nopkCt (ss : Bytes) (ct : List Nat) : List Nat :=
  (List.range ct.length).map fun p => if isAlpha (ss.getD (p-1) 0) then 0 else ct.getD p 0

theorem nopkCt_getD (ss : Bytes) (ct : List Nat) (p : Nat) :
    (nopkCt ss ct).getD p 0 = if isAlpha (ss.getD (p-1) 0) then 0 else ct.getD p 0 := by
  unfold nopkCt
  rw [List.getD_eq_getElem?_getD, List.getElem?_map]
  by_cases hp : p < ct.length
  · rw [List.getElem?_range hp]; rfl
  · rw [List.getElem?_eq_none (by simp; omega)]
    have : ct.getD p 0 = 0 := by simp [List.getD_eq_getElem?_getD, List.getElem?_eq_none (Nat.le_of_not_lt hp)]
    rw [this]
    split <;> rfl

theorem nopseudo_getD (ss : Bytes) (k : Nat) (hk : k < ss.length) : (wussNopseudo ss).getD k 0 = nopseudoChar (ss.getD k 0) := by
  simp [wussNopseudo, List.getD_eq_getElem?_getD, List.getElem?_map, List.getElem?_eq_getElem hk]

theorem pair_alpha (ss : Bytes) (ct : List Nat) (hct : CtOk ss.length ct) (hl : ClassLabels ct ss) (i : Nat) (hi : ct.getD i 0 ≠ 0) :
    isAlpha (ss.getD (ct.getD i 0 - 1) 0) = isAlpha (ss.getD (i-1) 0) := by
  have hq := hct.2 i hi
  rcases Nat.lt_or_ge i (ct.getD i 0) with hlt | hge
  · rcases (hl i hq.1 hq.2.1).2 hlt with ⟨ho, hc⟩ | ⟨hu, hc⟩
    · rw [hc, (bracket ho).alpha, (bracket ho).mate_alpha]
    · rw [hc, (letter hu).alpha, (letter hu).mate_alpha]
  · have hq0 : ct.getD (ct.getD i 0) 0 ≠ 0 := by rw [hq.2.2.2.2.1]; omega
    have hlt : ct.getD i 0 < ct.getD (ct.getD i 0) 0 := by rw [hq.2.2.2.2.1]; omega
    have := (hl (ct.getD i 0) hq.2.2.1 hq.2.2.2.1).2 hlt
    rw [hq.2.2.2.2.1] at this
    rcases this with ⟨ho, hc⟩ | ⟨hu, hc⟩
    · rw [hc, (bracket ho).alpha, (bracket ho).mate_alpha]
    · rw [hc, (letter hu).alpha, (letter hu).mate_alpha]

theorem nopk_class (ss : Bytes) (ct : List Nat) (hct : CtOk ss.length ct) (hl : ClassLabels ct ss) (hcn : ClassNested ct ss) :
    CtOk ss.length (nopkCt ss ct) ∧ ClassLabels (nopkCt ss ct) (wussNopseudo ss) ∧ ClassNested (nopkCt ss ct) (wussNopseudo ss) := by
  have hrl : (wussNopseudo ss).length = ss.length := by simp [wussNopseudo]
  have rd : ∀ p, (nopkCt ss ct).getD p 0 ≠ 0 →
      isAlpha (ss.getD (p-1) 0) = false ∧ (nopkCt ss ct).getD p 0 = ct.getD p 0 ∧ ct.getD p 0 ≠ 0 := by
    intro p hp
    rw [nopkCt_getD] at hp ⊢
    split at hp
    · exact absurd rfl hp
    · rename_i h1
      rw [if_neg h1]
      exact ⟨by simpa using h1, rfl, hp⟩
  refine ⟨⟨by simp [nopkCt, hct.1], ?_⟩, ?_, ?_⟩
  · intro i hi
    obtain ⟨h1, h2, h3⟩ := rd i hi
    have hq := hct.2 i h3
    have hpa := pair_alpha ss ct hct hl i h3
    rw [h2]
    refine ⟨hq.1, hq.2.1, hq.2.2.1, hq.2.2.2.1, ?_, hq.2.2.2.2.2⟩
    rw [nopkCt_getD, hpa, h1]
    simp only [Bool.false_eq_true, if_false]
    exact hq.2.2.2.2.1
  · intro p hp1 hp2
    rw [hrl] at hp2
    rw [nopseudo_getD ss (p-1) (by omega)]
    constructor
    · intro hz
      rw [nopkCt_getD] at hz
      by_cases ha : isAlpha (ss.getD (p-1) 0) = true
      · simp only [nopseudoChar, ha, if_true]; decide
      · have ha' : isAlpha (ss.getD (p-1) 0) = false := by simpa using ha
        rw [ha'] at hz
        simp only [Bool.false_eq_true, if_false] at hz
        simp only [nopseudoChar, ha', Bool.false_eq_true, if_false]
        exact (hl p hp1 hp2).1 hz
    · intro hlt
      have hnz : (nopkCt ss ct).getD p 0 ≠ 0 := by omega
      obtain ⟨h1, h2, h3⟩ := rd p hnz
      rw [h2] at hlt ⊢
      have hq := hct.2 p h3
      have hpa := pair_alpha ss ct hct hl p h3
      rw [nopseudo_getD ss (ct.getD p 0 - 1) (by omega)]
      simp only [nopseudoChar, h1, hpa, Bool.false_eq_true, if_false]
      rcases (hl p hp1 hp2).2 hlt with hb | ⟨hu, _⟩
      · exact Or.inl hb
      · have := (letter hu).alpha; rw [h1] at this; cases this
  · intro i i' hi hi' hlt hlt2 hleft' hcls
    obtain ⟨a1, a2, a3⟩ := rd i hi
    obtain ⟨b1, b2, b3⟩ := rd i' hi'
    have hq := hct.2 i a3
    have hq' := hct.2 i' b3
    rw [a2] at hlt2 ⊢
    rw [b2] at hleft' ⊢
    rw [nopseudo_getD ss (i-1) (by omega), nopseudo_getD ss (i'-1) (by omega)] at hcls
    simp only [nopseudoChar, a1, b1, Bool.false_eq_true, if_false] at hcls
    exact hcn i i' a3 b3 hlt hlt2 hleft' hcls

theorem wussNopseudo_pairs' (ss : Bytes) (ct : List Nat) (h : wuss2ct ss = some ct) :
    wuss2ct (wussNopseudo ss) = some (nopkCt ss ct) := by
  have hct := wuss2ct_ctOk ss ct h
  obtain ⟨hl, hcn⟩ := wuss2ct_class_labels ss ct h
  obtain ⟨m1, m2, m3⟩ := nopk_class ss ct hct hl hcn
  have hrl : (wussNopseudo ss).length = ss.length := by simp [wussNopseudo]
  exact wuss2ct_of_class_labels' (wussNopseudo ss) _ (by rw [hrl]; exact m1) m3 m2

/-- what is left has no letters, so it is nested -/
theorem nopkCt_nested (ss : Bytes) (ct : List Nat) (h : wuss2ct ss = some ct) : Nested (nopkCt ss ct) := by
  apply wuss2ct_nopk_nested' (wussNopseudo ss) _ _ (wussNopseudo_pairs' ss ct h)
  intro c hc
  simp only [wussNopseudo, List.mem_map] at hc
  obtain ⟨d, _, rfl⟩ := hc
  unfold nopseudoChar
  split
  · decide
  · rename_i hd; simpa using hd

theorem zipWith_getD {α : Type} (g : α → α → α) (d : α) : ∀ (a b : List α) (k : Nat), k < a.length → k < b.length →
    (List.zipWith g a b).getD k d = g (a.getD k d) (b.getD k d)
  | x :: a, y :: b, 0, _, _ => by simp
  | x :: a, y :: b, k+1, h1, h2 => by
    have := zipWith_getD g d a b k (by simpa using h1) (by simpa using h2)
    simpa [List.getD_eq_getElem?_getD] using this
  | [], _, _, h1, _ => by simp at h1
  | _ :: _, [], _, _, h2 => by simp at h2

theorem wussFull_total' (ss : Bytes) (ct : List Nat) (h : wuss2ct ss = some ct) :
    ∃ full, wussFull ss = .ok full ∧ full.length = ss.length ∧ wuss2ct full = some ct := by
  have hct := wuss2ct_ctOk ss ct h
  obtain ⟨hl, hcn⟩ := wuss2ct_class_labels ss ct h
  have hA := wussNopseudo_pairs' ss ct h
  have hrl : (wussNopseudo ss).length = ss.length := by simp [wussNopseudo]
  have hct' : CtOk ss.length (nopkCt ss ct) := by
    have := wuss2ct_ctOk _ _ hA; rw [hrl] at this; exact this
  have hnest := nopkCt_nested ss ct h
  obtain ⟨f, hf⟩ := ct2wuss_nested_ok ss.length _ hct' hnest
  obtain ⟨hflen, hflab⟩ := ct2wuss_labels ss.length _ hct' hnest f hf
  refine ⟨List.zipWith (fun o t => if isAlpha o then o else t) ss f, ?_, by simp [hflen], ?_⟩
  · simp only [wussFull, hA, hf]
  · have hzl : (List.zipWith (fun o t => if isAlpha o then o else t) ss f).length = ss.length := by simp [hflen]
    have rz : ∀ p, 1 ≤ p → p ≤ ss.length →
        (List.zipWith (fun o t => if isAlpha o then o else t) ss f).getD (p-1) 0 =
          if isAlpha (ss.getD (p-1) 0) then ss.getD (p-1) 0 else f.getD (p-1) 0 := by
      intro p h1 h2
      exact zipWith_getD _ 0 ss f (p-1) (by omega) (by omega)
    have nk : ∀ p, isAlpha (ss.getD (p-1) 0) = false → (nopkCt ss ct).getD p 0 = ct.getD p 0 := by
      intro p hp; rw [nopkCt_getD, hp]; rfl
    -- a bracket is replaced by a bracket, a letter stays: the class of a left end is unchanged
    have hcls : ∀ p, ct.getD p 0 ≠ 0 → p < ct.getD p 0 →
        openerClass ((List.zipWith (fun o t => if isAlpha o then o else t) ss f).getD (p-1) 0) =
          openerClass (ss.getD (p-1) 0) := by
      intro p h0 hlt
      have hq := hct.2 p h0
      rw [rz p hq.1 hq.2.1]
      rcases (hl p hq.1 hq.2.1).2 hlt with ⟨ho, _⟩ | ⟨hu, _⟩
      · have fa := (bracket ho).alpha
        have fo := (hflab p hq.1 (by rw [hflen]; exact hq.2.1)).2 (by rw [nk p fa]; exact hlt)
        rw [fa, if_neg Bool.false_ne_true, openerClass_open fo.1, openerClass_open ho]
      · rw [(letter hu).alpha, if_pos rfl]
    refine respell hzl hct hcn ?_ hcls
    intro p hp1 hp2
    rw [hzl] at hp2
    rw [rz p hp1 hp2]
    constructor
    · intro hz
      have hu := (hl p hp1 hp2).1 hz
      have fa := (unpaired hu).alpha
      rw [fa]
      simp only [Bool.false_eq_true, if_false]
      exact (hflab p hp1 (by rw [hflen]; exact hp2)).1 (by rw [nk p fa]; exact hz)
    · intro hlt
      have hq := hct.2 p (by omega)
      rw [rz (ct.getD p 0) hq.2.2.1 hq.2.2.2.1]
      have hpa := pair_alpha ss ct hct hl p (by omega)
      rw [hpa]
      rcases (hl p hp1 hp2).2 hlt with ⟨ho, _⟩ | ⟨hu, hc⟩
      · have fa := (bracket ho).alpha
        rw [fa]
        simp only [Bool.false_eq_true, if_false]
        have fo := (hflab p hp1 (by rw [hflen]; exact hp2)).2 (by rw [nk p fa]; exact hlt)
        rw [nk p fa] at fo
        exact Or.inl fo
      · rw [(letter hu).alpha]
        simp only [if_true]
        exact Or.inr ⟨hu, hc⟩

theorem khkh_getD (ss : Bytes) (k : Nat) (hk : k < ss.length) :
    (kh2wuss (wuss2kh ss)).getD k 0 = kh2wussChar (wuss2khChar (ss.getD k 0)) := by
  simp [kh2wuss, wuss2kh, List.getD_eq_getElem?_getD, List.getElem?_map, List.getElem?_eq_getElem hk]

theorem kh_roundtrip_pairs' (ss : Bytes) (ct : List Nat) (h : wuss2ct ss = some ct) :
    wuss2ct (kh2wuss (wuss2kh ss)) = some ct := by
  have hct := wuss2ct_ctOk ss ct h
  obtain ⟨hl, hcn⟩ := wuss2ct_class_labels ss ct h
  have hrl : (kh2wuss (wuss2kh ss)).length = ss.length := by simp [kh2wuss, wuss2kh]
  -- the opener class of a left end is unchanged
  have hcls : ∀ p, ct.getD p 0 ≠ 0 → p < ct.getD p 0 →
      openerClass ((kh2wuss (wuss2kh ss)).getD (p-1) 0) = openerClass (ss.getD (p-1) 0) := by
    intro p h0 hlt
    have hq := hct.2 p h0
    rw [khkh_getD ss (p-1) (by omega)]
    rcases (hl p hq.1 hq.2.1).2 hlt with ⟨ho, _⟩ | ⟨hu, _⟩
    · rw [(bracket ho).kh, openerClass_open ho]; decide
    · rw [(letter hu).kh]
  refine respell hrl hct hcn ?_ hcls
  intro p hp1 hp2
  rw [hrl] at hp2
  rw [khkh_getD ss (p-1) (by omega)]
  constructor
  · intro hz
    exact (unpaired ((hl p hp1 hp2).1 hz)).kh
  · intro hlt
    have hq := hct.2 p (by omega)
    rw [khkh_getD ss (ct.getD p 0 - 1) (by omega)]
    rcases (hl p hp1 hp2).2 hlt with ⟨ho, hc⟩ | ⟨hu, hc⟩
    · left
      rw [hc, (bracket ho).kh, (bracket ho).mate_kh]; decide
    · right
      rw [hc, (letter hu).kh, (letter hu).mate_kh]; exact ⟨hu, rfl⟩

end EaselModel.Msa
