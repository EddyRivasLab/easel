import EaselModel.Msa.LemmasClass
/-! Lemmas: `esl_wuss_reverse` mirrors the pair set of any balanced WUSS string (pseudoknot letters included). -/
namespace EaselModel.Msa

/-- the pair table of the reversed structure: position `p` becomes `n+1-p` -/
def mirrorCt (n : Nat) (ct : List Nat) : List Nat :=
  (List.range (n+1)).map fun p => if p = 0 then 0 else (if ct.getD (n+1-p) 0 = 0 then 0 else n + 1 - ct.getD (n+1-p) 0)

theorem mirrorCt_getD (n : Nat) (ct : List Nat) (p : Nat) :
    (mirrorCt n ct).getD p 0 = if p = 0 ∨ n < p then 0 else (if ct.getD (n+1-p) 0 = 0 then 0 else n + 1 - ct.getD (n+1-p) 0) := by
  unfold mirrorCt
  rw [List.getD_eq_getElem?_getD, List.getElem?_map]
  by_cases hp : p < n + 1
  · rw [List.getElem?_range hp]
    simp only [Option.map_some, Option.getD_some]
    by_cases h0 : p = 0
    · simp [h0]
    · have : ¬ (p = 0 ∨ n < p) := by omega
      rw [if_neg h0, if_neg this]
  · rw [List.getElem?_eq_none (by simp; omega)]
    have : p = 0 ∨ n < p := by omega
    simp [this]

theorem wussReverse_getD (ss : Bytes) (p : Nat) (h1 : 1 ≤ p) (h2 : p ≤ ss.length) :
    (wussReverse ss).getD (p-1) 0 = wussComplChar (ss.getD (ss.length - p) 0) := by
  unfold wussReverse
  have hl : p - 1 < (ss.map wussComplChar).length := by simp; omega
  have h3 : ss.length - p < ss.length := by omega
  rw [List.getD_eq_getElem?_getD, List.getElem?_reverse hl, List.length_map, List.getElem?_map]
  have e : ss.length - 1 - (p - 1) = ss.length - p := by omega
  rw [e, List.getElem?_eq_getElem h3, List.getD_eq_getElem?_getD, List.getElem?_eq_getElem h3]
  rfl


/-- key fact: in the reversed string the mirror image of a right end carries the ORIGINAL opening symbol of its pair, and the
    mirror image of the left end its closing symbol -/
theorem mirror_pair_syms (ss : Bytes) (ct : List Nat) (hct : CtOk ss.length ct) (hl : ClassLabels ct ss) (Q : Nat)
    (h0 : ct.getD Q 0 ≠ 0) (hlt : Q < ct.getD Q 0) :
    (wussReverse ss).getD (ss.length + 1 - ct.getD Q 0 - 1) 0 = ss.getD (Q-1) 0 ∧
    ((isOpenBr (ss.getD (Q-1) 0) = true ∧ (wussReverse ss).getD (ss.length + 1 - Q - 1) 0 = closerOf (ss.getD (Q-1) 0)) ∨
     (isUpper (ss.getD (Q-1) 0) = true ∧ (wussReverse ss).getD (ss.length + 1 - Q - 1) 0 = toLower (ss.getD (Q-1) 0))) := by
  have hq := hct.2 Q h0
  have hlab := (hl Q hq.1 hq.2.1).2 hlt
  have r1 := wussReverse_getD ss (ss.length + 1 - ct.getD Q 0) (by omega) (by omega)
  have r2 := wussReverse_getD ss (ss.length + 1 - Q) (by omega) (by omega)
  have e1 : ss.length - (ss.length + 1 - ct.getD Q 0) = ct.getD Q 0 - 1 := by omega
  have e2 : ss.length - (ss.length + 1 - Q) = Q - 1 := by omega
  rw [e1] at r1; rw [e2] at r2
  rcases hlab with ⟨ho, hc⟩ | ⟨hu, hc⟩
  · exact ⟨by rw [r1, hc]; exact (bracket ho).mate_compl, Or.inl ⟨ho, by rw [r2]; exact (bracket ho).compl⟩⟩
  · exact ⟨by rw [r1, hc]; exact (letter hu).mate_compl, Or.inr ⟨hu, by rw [r2]; exact (letter hu).compl⟩⟩

theorem wussReverse_pairs' (ss : Bytes) (ct : List Nat) (h : wuss2ct ss = some ct) :
    wuss2ct (wussReverse ss) = some (mirrorCt ss.length ct) := by
  have hct := wuss2ct_ctOk ss ct h
  obtain ⟨hl, hcn⟩ := wuss2ct_class_labels ss ct h
  have hrl : (wussReverse ss).length = ss.length := by simp [wussReverse]
  -- reading the mirrored table at a position whose image is paired
  have rd : ∀ p, (mirrorCt ss.length ct).getD p 0 ≠ 0 →
      1 ≤ p ∧ p ≤ ss.length ∧ ct.getD (ss.length + 1 - p) 0 ≠ 0 ∧
      (mirrorCt ss.length ct).getD p 0 = ss.length + 1 - ct.getD (ss.length + 1 - p) 0 := by
    intro p hp
    rw [mirrorCt_getD] at hp ⊢
    split at hp
    · exact absurd rfl hp
    · rename_i h1
      split at hp
      · exact absurd rfl hp
      · rename_i h2
        rw [if_neg h1, if_neg h2]
        exact ⟨by omega, by omega, h2, rfl⟩
  have h := reads_transport (ss' := wussReverse ss) (ct' := mirrorCt ss.length ct) (fun p => ss.length + 1 - p) hct hcn
    (by simp [mirrorCt, wussReverse]) (fun p hp => by rw [hrl]; exact ⟨(rd p hp).1, (rd p hp).2.1⟩)
    (fun i hi => by
      obtain ⟨h1, h2, h3, h4⟩ := rd i hi
      have hq := hct.2 _ h3
      rw [h4, mirrorCt_getD, if_neg (by omega)]
      have e : ss.length + 1 - (ss.length + 1 - ct.getD (ss.length + 1 - i) 0) = ct.getD (ss.length + 1 - i) 0 := by omega
      rw [e, hq.2.2.2.2.1, if_neg (by omega)]
      omega)
    (fun p h1 h2 => by rw [hrl] at h2; show 1 ≤ ss.length + 1 - p; omega)
    (fun p hp => by
      obtain ⟨h1, h2, h3, h4⟩ := rd p hp
      have hq := hct.2 _ h3
      show ct.getD (ss.length + 1 - p) 0 = ss.length + 1 - (mirrorCt ss.length ct).getD p 0
      rw [h4]; omega)
    (Or.inr fun p q hpq hq => by rw [hrl] at hq; show ss.length + 1 - q < ss.length + 1 - p; omega)
    (fun p hp1 hp2 hz => by
      rw [hrl] at hp2
      rw [mirrorCt_getD, if_neg (by omega)] at hz
      have hz' : ct.getD (ss.length + 1 - p) 0 = 0 := by
        split at hz
        · assumption
        · rename_i h3
          have := (hct.2 _ h3).2.2.2.1
          omega
      have hu := (hl (ss.length + 1 - p) (by omega) (by omega)).1 hz'
      rw [wussReverse_getD ss p hp1 hp2]
      have e : ss.length - p = ss.length + 1 - p - 1 := by omega
      rw [e]
      exact (unpaired hu).compl)
    (fun p hlt => by
      have hnz : (mirrorCt ss.length ct).getD p 0 ≠ 0 := by omega
      obtain ⟨h1, h2, h3, h4⟩ := rd p hnz
      have hq := hct.2 _ h3
      -- the original pair (Q, P) with P = n+1-p, Q = ct P < P
      have hQ0 : ct.getD (ct.getD (ss.length + 1 - p) 0) 0 ≠ 0 := by rw [hq.2.2.2.2.1]; omega
      have hQlt : ct.getD (ss.length + 1 - p) 0 < ct.getD (ct.getD (ss.length + 1 - p) 0) 0 := by
        rw [hq.2.2.2.2.1]; rw [h4] at hlt; omega
      have key := mirror_pair_syms ss ct hct hl (ct.getD (ss.length + 1 - p) 0) hQ0 hQlt
      rw [hq.2.2.2.2.1] at key
      have e1 : ss.length + 1 - (ss.length + 1 - p) - 1 = p - 1 := by omega
      rw [e1] at key
      have l : leftEnd ct (ss.length + 1 - p) = ct.getD (ss.length + 1 - p) 0 := by
        unfold leftEnd; rw [h4] at hlt; omega
      rw [h4, key.1]
      exact ⟨key.2, by rw [l]⟩)
  exact wuss2ct_of_class_labels' (wussReverse ss) _ h.1 h.2.2 h.2.1

end EaselModel.Msa
