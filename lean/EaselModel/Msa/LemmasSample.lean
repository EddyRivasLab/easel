import EaselModel.Msa.Sample
import EaselModel.Msa.Spec
import EaselModel.Random.SamplersLen
/-! Lemmas: whatever the source of random words, an alignment returned by `esl_msa_Sample` is well formed. -/
namespace EaselModel.Msa
open EaselModel.Random

variable {σ : Type}

theorem repeatS_spec {α : Type} (f : σ → SRes (α × σ)) (P : α → Prop)
    (hf : ∀ s v s', f s = .ok (v, s') → P v) :
    ∀ (k : Nat) (s : σ) (l : List α) (s' : σ), repeatS f k s = .ok (l, s') → l.length = k ∧ ∀ x ∈ l, P x := by
  intro k
  induction k with
  | zero =>
    intro s l s' h
    simp only [repeatS, SRes.ok.injEq, Prod.mk.injEq] at h
    obtain ⟨rfl, _⟩ := h
    exact ⟨rfl, fun x hx => by cases hx⟩
  | succ k ih =>
    intro s l s' h
    simp only [repeatS] at h
    obtain ⟨r, hr, h⟩ := SRes.bind_ok h
    obtain ⟨rs, hrs, h⟩ := SRes.bind_ok h
    simp only [SRes.ok.injEq, Prod.mk.injEq] at h
    obtain ⟨rfl, _⟩ := h
    obtain ⟨hl, hp⟩ := ih r.2 rs.1 rs.2 hrs
    refine ⟨by simp [hl], ?_⟩
    intro x hx
    rcases List.mem_cons.mp hx with rfl | hx
    · exact hf s r.1 r.2 hr
    · exact hp x hx

/-- a sampled cell is a residue code or the gap code: never missing data, the nonresidue code or the sentinel -/
theorem sampleCell_ok (next : σ → UInt32 × σ) (fu : Nat) (a : Abc) (hKp : a.Kp ≤ 255) (hK : a.K + 3 ≤ a.Kp) (s : σ) (c : UInt8) (s' : σ)
    (h : sampleCell next fu a s = .ok (c, s')) : c.toNat < a.Kp - 2 := by
  unfold sampleCell at h
  split at h
  · simp only [SRes.ok.injEq, Prod.mk.injEq] at h
    obtain ⟨rfl, _⟩ := h
    have : a.K < 256 := by omega
    simp [UInt8.toNat_ofNat, Nat.mod_eq_of_lt this]; omega
  · split at h
    · obtain ⟨r, hr, h⟩ := SRes.bind_ok h
      have hlt := rollS_lt next _ _ _ r.1 r.2 hr
      simp only [SRes.ok.injEq, Prod.mk.injEq] at h
      obtain ⟨rfl, _⟩ := h
      have : a.K + 1 + r.1 < 256 := by omega
      simp [UInt8.toNat_ofNat, Nat.mod_eq_of_lt this]; omega
    · obtain ⟨r, hr, h⟩ := SRes.bind_ok h
      have hlt := rollS_lt next _ _ _ r.1 r.2 hr
      simp only [SRes.ok.injEq, Prod.mk.injEq] at h
      obtain ⟨rfl, _⟩ := h
      have : r.1 < 256 := by omega
      simp [UInt8.toNat_ofNat, Nat.mod_eq_of_lt this]; omega

def isGraph (c : UInt8) : Bool := 0x21 ≤ c && c ≤ 0x7e

theorem graphChar_graph (k : Nat) (h : k < 94) : isGraph (graphChar k) = true := by
  have : ∀ k, k < 94 → isGraph (graphChar k) = true := by decide
  exact this k h

/-- a sampled name: 1 to `maxn` (30) graphic characters, the first one not punctuation -/
def NameOk (b : Bytes) : Prop := 1 ≤ b.length ∧ b.length ≤ Gen.sampleMaxName ∧ (∀ c ∈ b, isGraph c = true) ∧ isPunct (b.getD 0 0) = false

theorem sampleName_ok (next : σ → UInt32 × σ) (fu : Nat) :
    ∀ (f : Nat) (s : σ) (b : Bytes) (s' : σ), sampleName next fu f s = .ok (b, s') → NameOk b := by
  intro f
  induction f with
  | zero => intro s b s' h; cases h
  | succ f ih =>
    intro s b s' h
    simp only [sampleName] at h
    obtain ⟨r, hr, h⟩ := SRes.bind_ok h
    obtain ⟨g, hg, h⟩ := SRes.bind_ok h
    have hlt := rollS_lt next _ _ _ r.1 r.2 hr
    split at h
    · exact ih _ _ _ h
    · rename_i hp
      obtain ⟨g1, g2⟩ := g
      simp only [SRes.ok.injEq, Prod.mk.injEq] at h
      obtain ⟨rfl, rfl⟩ := h
      have := repeatS_spec (fun s => (rollS next 94 s fu).bind fun r => .ok (graphChar r.1, r.2)) (fun c => isGraph c = true)
        (by
          intro s v s'' hv
          obtain ⟨q, hq, hv⟩ := SRes.bind_ok hv
          simp only [SRes.ok.injEq, Prod.mk.injEq] at hv
          obtain ⟨rfl, _⟩ := hv
          exact graphChar_graph _ (rollS_lt next _ _ _ q.1 q.2 hq))
        (1 + r.1) r.2 g1 g2 hg
      refine ⟨by omega, by omega, this.2, by simpa using hp⟩

theorem sampledMsa_wf (a : Abc) (nseq alen : Nat) (rows names : List Bytes) (rf : Bytes) (hn : 1 ≤ nseq)
    (hrl : rows.length = nseq) (hr : ∀ r ∈ rows, r.length = alen ∧ ∀ x ∈ r, x.toNat < 255)
    (hnl : names.length = nseq) (hfl : rf.length = alen) (hf : ∀ c ∈ rf, c = 0x78 ∨ c = 0x2e) :
    (sampledMsa a nseq alen rows names rf).WF := by
  have hdig : (sampledMsa a nseq alen rows names rf).isDigital = true := by
    show ((2 : Nat) / 2 % 2 == 1) = true; decide
  constructor
  · exact hn
  · show (2 : Nat) < 4; decide
  · exact hrl
  · intro r hr'
    refine ⟨(hr r hr').1, ?_⟩
    intro c hc
    have := (hr r hr').2 c hc
    simp only [Msa.rowTerm, hdig, if_true, dsqSentinel]
    intro e; subst e
    simp at this
  · exact hnl
  · simp [sampledMsa, Msa.create]
  · simp [sampledMsa, Msa.create]
  · simp [sampledMsa, Msa.create]
  · simp [sampledMsa, Msa.create]
  · simp [sampledMsa, Msa.create]
  · simp [sampledMsa, Msa.create]
  · intro s hs; simp [sampledMsa, Msa.create] at hs; obtain ⟨_, rfl⟩ := hs; intro b hb; cases hb
  · intro s hs; simp [sampledMsa, Msa.create] at hs; obtain ⟨_, rfl⟩ := hs; intro b hb; cases hb
  · intro s hs; simp [sampledMsa, Msa.create] at hs; obtain ⟨_, rfl⟩ := hs; intro b hb; cases hb
  · intro b hb; simp [sampledMsa, Msa.create] at hb
  · intro b hb; simp [sampledMsa, Msa.create] at hb
  · intro b hb; simp [sampledMsa, Msa.create] at hb
  · intro b hb
    simp only [sampledMsa, Option.some.injEq] at hb
    subst hb
    refine ⟨hfl, ?_⟩
    intro c hc
    rcases hf c hc with rfl | rfl <;> decide
  · intro b hb; simp [sampledMsa, Msa.create] at hb
  · intro t ht; simp [sampledMsa, Msa.create] at ht
  · intro t ht; simp [sampledMsa, Msa.create] at ht
  · intro t ht; simp [sampledMsa, Msa.create] at ht
  · intro t ht; simp [sampledMsa, Msa.create] at ht

theorem sampleMsa_spec (next : σ → UInt32 × σ) (fu : Nat) (a : Abc) (hKp : a.Kp ≤ 255) (hK : a.K + 3 ≤ a.Kp)
    (maxNseq maxAlen : Nat) (s : σ) (m : Msa) (s' : σ) (h : sampleMsa next fu a maxNseq maxAlen s = .ok (m, s')) :
    m.WF ∧ m.isDigital = true ∧ m.abc = some a ∧ (1 ≤ m.nseq ∧ m.nseq ≤ maxNseq) ∧ (1 ≤ m.alen ∧ m.alen ≤ maxAlen) ∧
    (∀ r ∈ m.rows, ∀ x ∈ r, x.toNat < a.Kp - 2) ∧ (∀ nm ∈ m.sqname, NameOk nm) ∧
    (∃ rf, m.rf = some rf ∧ ∀ c ∈ rf, c = 0x78 ∨ c = 0x2e) ∧
    m.wgt = List.replicate m.nseq 0x3ff0000000000000 ∧ m.hasWgts = false := by
  unfold sampleMsa at h
  obtain ⟨rn, hrn, h⟩ := SRes.bind_ok h
  obtain ⟨ra, hra, h⟩ := SRes.bind_ok h
  simp only at h
  obtain ⟨rows, hrows, h⟩ := SRes.bind_ok h
  obtain ⟨names, hnames, h⟩ := SRes.bind_ok h
  obtain ⟨rf, hrf, h⟩ := SRes.bind_ok h
  simp only [SRes.ok.injEq, Prod.mk.injEq] at h
  obtain ⟨rfl, _⟩ := h
  have hn := rollS_lt next _ _ _ rn.1 rn.2 hrn
  have ha := rollS_lt next _ _ _ ra.1 ra.2 hra
  have hR := repeatS_spec (repeatS (sampleCell next fu a) (1 + ra.1)) (fun r => r.length = 1 + ra.1 ∧ ∀ x ∈ r, x.toNat < a.Kp - 2)
    (by
      intro s v s'' hv
      exact repeatS_spec (sampleCell next fu a) (fun c => c.toNat < a.Kp - 2)
        (fun s c s' hc => sampleCell_ok next fu a hKp hK s c s' hc) _ _ _ _ hv)
    (1 + rn.1) ra.2 rows.1 rows.2 hrows
  have hN := repeatS_spec (sampleName next fu fu) NameOk (fun s v s'' hv => sampleName_ok next fu fu s v s'' hv)
    (1 + rn.1) rows.2 names.1 names.2 hnames
  have hF := repeatS_spec (fun s => SRes.ok (if (next s).1.toNat < thrCons then (0x78 : UInt8) else 0x2e, (next s).2))
    (fun c => c = 0x78 ∨ c = 0x2e)
    (by
      intro s v s'' hv
      simp only [SRes.ok.injEq, Prod.mk.injEq] at hv
      obtain ⟨rfl, _⟩ := hv
      split <;> simp)
    (1 + ra.1) names.2 rf.1 rf.2 hrf
  refine ⟨sampledMsa_wf a _ _ _ _ _ (by omega) hR.1 (fun r hr => ⟨(hR.2 r hr).1, fun x hx => by have := (hR.2 r hr).2 x hx; omega⟩) hN.1 hF.1 hF.2,
    (by show ((2 : Nat) / 2 % 2 == 1) = true; decide), rfl, ⟨by simp [sampledMsa, Msa.create], by simp [sampledMsa, Msa.create]; omega⟩,
    ⟨by simp [sampledMsa, Msa.create], by simp [sampledMsa, Msa.create]; omega⟩,
    fun r hr x hx => (hR.2 r hr).2 x hx, hN.2, ⟨rf.1, rfl, hF.2⟩, by simp [sampledMsa, Msa.create], (by show ((2 : Nat) % 2 == 1) = false; decide)⟩

end EaselModel.Msa
