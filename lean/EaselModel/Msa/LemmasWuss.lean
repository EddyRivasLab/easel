import EaselModel.Msa.LemmasSym
/-! Lemmas: the invariant `W2CInv` of `esl_wuss2ct`'s loop (the table built so far is a fixed-point-free involution on the
    paired positions and every pair joins an opening symbol with ITS closing symbol) and its three steps. -/
namespace EaselModel.Msa

theorem getD_set_self {α : Type} (l : List α) (k : Nat) (v d : α) (h : k < l.length) : (l.set k v).getD k d = v := by
  simp [List.getD_eq_getElem?_getD, List.getElem?_set_self h]

theorem getD_set_ne {α : Type} (l : List α) (k k' : Nat) (v d : α) (h : k ≠ k') : (l.set k v).getD k' d = l.getD k' d := by
  simp [List.getD_eq_getElem?_getD, List.getElem?_set_ne h]

/-- positions are 1-based; `i` carries the opening symbol, `j` the closing symbol that belongs to it -/
def pairOk (ss : Bytes) (i j : Nat) : Prop :=
  i < j ∧ ((isOpenBr (ss.getD (i-1) 0) = true ∧ ss.getD (j-1) 0 = closerOf (ss.getD (i-1) 0)) ∨
           (isUpper (ss.getD (i-1) 0) = true ∧ ss.getD (j-1) 0 = toLower (ss.getD (i-1) 0)))

structure W2CInv (ss : Bytes) (pos : Nat) (pda : List (List Nat)) (ct : List Nat) : Prop where
  ctlen : ct.length = ss.length + 1
  pdalen : pda.length = 27
  stk : ∀ k p, p ∈ pda.getD k [] → 1 ≤ p ∧ p < pos ∧ ct.getD p 0 = 0 ∧ openerClass (ss.getD (p-1) 0) = some k
  dec : ∀ k, (pda.getD k []).Pairwise (· > ·)
  sym : ∀ i, ct.getD i 0 ≠ 0 → 1 ≤ i ∧ i < pos ∧ 1 ≤ ct.getD i 0 ∧ ct.getD i 0 < pos ∧ ct.getD (ct.getD i 0) 0 = i ∧
          (pairOk ss i (ct.getD i 0) ∨ pairOk ss (ct.getD i 0) i)

theorem inv_init (ss : Bytes) : W2CInv ss 1 (List.replicate 27 []) (List.replicate (ss.length + 1) 0) where
  ctlen := by simp
  pdalen := by simp
  stk := by
    intro k p hp
    have : (List.replicate 27 ([] : List Nat)).getD k [] = [] := by
      simp only [List.getD_eq_getElem?_getD, List.getElem?_replicate]
      split <;> rfl
    rw [this] at hp; simp at hp
  dec := by
    intro k
    have : (List.replicate 27 ([] : List Nat)).getD k [] = [] := by
      simp only [List.getD_eq_getElem?_getD, List.getElem?_replicate]
      split <;> rfl
    rw [this]; exact List.Pairwise.nil
  sym := by
    intro i hi
    exfalso; apply hi
    simp only [List.getD_eq_getElem?_getD, List.getElem?_replicate]
    split <;> rfl

theorem inv_skip {ss pos pda ct} (h : W2CInv ss pos pda ct) : W2CInv ss (pos+1) pda ct where
  ctlen := h.ctlen
  pdalen := h.pdalen
  stk := fun k p hp => by have := h.stk k p hp; exact ⟨this.1, by omega, this.2.2.1, this.2.2.2⟩
  dec := h.dec
  sym := fun i hi => by have := h.sym i hi; exact ⟨this.1, by omega, this.2.2.1, by omega, this.2.2.2.2⟩

theorem ct_pos_zero {ss pos pda ct} (h : W2CInv ss pos pda ct) (q : Nat) (hq : pos ≤ q) : ct.getD q 0 = 0 := by
  rcases Nat.eq_zero_or_pos (ct.getD q 0) with h0 | h0
  · exact h0
  · have := (h.sym q (by omega)).2.1; omega

theorem inv_push {ss pos pda ct} (h : W2CInv ss pos pda ct) (k : Nat) (hk : k < 27) (hpos : 1 ≤ pos)
    (hc : openerClass (ss.getD (pos-1) 0) = some k) : W2CInv ss (pos+1) (pushAt pda k pos) ct where
  ctlen := h.ctlen
  pdalen := by simp [pushAt, h.pdalen]
  stk := by
    intro k' p hp
    by_cases hkk : k = k'
    · subst hkk
      rw [pushAt, getD_set_self _ _ _ _ (by rw [h.pdalen]; exact hk)] at hp
      simp only [List.mem_cons] at hp
      rcases hp with rfl | hp
      · exact ⟨hpos, by omega, ct_pos_zero h p (Nat.le_refl _), hc⟩
      · have := h.stk k p hp; exact ⟨this.1, by omega, this.2.2.1, this.2.2.2⟩
    · rw [pushAt, getD_set_ne _ _ _ _ _ hkk] at hp
      have := h.stk k' p hp; exact ⟨this.1, by omega, this.2.2.1, this.2.2.2⟩
  dec := by
    intro k'
    by_cases hkk : k = k'
    · subst hkk
      rw [pushAt, getD_set_self _ _ _ _ (by rw [h.pdalen]; exact hk), List.pairwise_cons]
      exact ⟨fun p hp => (h.stk k p hp).2.1, h.dec k⟩
    · rw [pushAt, getD_set_ne _ _ _ _ _ hkk]; exact h.dec k'
  sym := fun i hi => by have := h.sym i hi; exact ⟨this.1, by omega, this.2.2.1, by omega, this.2.2.2.2⟩

/-- `ct[pos] = pair; ct[pair] = pos` read back -/
theorem getD_setPair (ct : List Nat) {pos pair : Nat} (hpos : pos < ct.length) (hpair : pair < ct.length) (hne : pos ≠ pair) :
    ((ct.set pos pair).set pair pos).getD pair 0 = pos ∧ ((ct.set pos pair).set pair pos).getD pos 0 = pair ∧
    ∀ q, q ≠ pos → q ≠ pair → ((ct.set pos pair).set pair pos).getD q 0 = ct.getD q 0 :=
  ⟨getD_set_self _ _ _ _ (by rw [List.length_set]; exact hpair),
   by rw [getD_set_ne _ _ _ _ _ (Ne.symm hne), getD_set_self _ _ _ _ hpos],
   fun q h1 h2 => by rw [getD_set_ne _ _ _ _ _ (Ne.symm h2), getD_set_ne _ _ _ _ _ (Ne.symm h1)]⟩

theorem inv_pop {ss pos pda ct} (h : W2CInv ss pos pda ct) (k : Nat) (hk : k < 27) (hle : pos ≤ ss.length)
    (pair : Nat) (tl : List Nat) (hs : pda.getD k [] = pair :: tl) (hok : pairOk ss pair pos) :
    W2CInv ss (pos+1) (pda.set k tl) ((ct.set pos pair).set pair pos) := by
  have hpair := h.stk k pair (by rw [hs]; simp)
  have hdec := h.dec k
  rw [hs, List.pairwise_cons] at hdec
  have hne : pos ≠ pair := by omega
  obtain ⟨rd_pair, rd_pos, rd_other⟩ :=
    getD_setPair ct (show pos < ct.length by rw [h.ctlen]; omega) (show pair < ct.length by rw [h.ctlen]; omega) hne
  refine ⟨by simp [h.ctlen], by simp [h.pdalen], ?_, ?_, ?_⟩
  · intro k' p hp
    by_cases hkk : k = k'
    · subst hkk
      rw [getD_set_self _ _ _ _ (by rw [h.pdalen]; exact hk)] at hp
      have hp' := h.stk k p (by rw [hs]; exact List.mem_cons_of_mem _ hp)
      have hlt := hdec.1 p hp
      rw [rd_other p (by omega) (by omega)]
      exact ⟨hp'.1, by omega, hp'.2.2.1, hp'.2.2.2⟩
    · rw [getD_set_ne _ _ _ _ _ hkk] at hp
      have hp' := h.stk k' p hp
      have hpp : p ≠ pair := by
        intro e; subst e
        have := hpair.2.2.2; rw [hp'.2.2.2] at this
        exact hkk (Option.some.inj this).symm
      rw [rd_other p (by omega) hpp]
      exact ⟨hp'.1, by omega, hp'.2.2.1, hp'.2.2.2⟩
  · intro k'
    by_cases hkk : k = k'
    · subst hkk
      rw [getD_set_self _ _ _ _ (by rw [h.pdalen]; exact hk)]; exact hdec.2
    · rw [getD_set_ne _ _ _ _ _ hkk]; exact h.dec k'
  · intro i hi
    by_cases hip : i = pair
    · subst hip
      rw [rd_pair, rd_pos]
      exact ⟨hpair.1, by omega, by omega, by omega, rfl, Or.inl hok⟩
    · by_cases hiq : i = pos
      · subst hiq
        rw [rd_pos, rd_pair]
        exact ⟨by omega, by omega, hpair.1, by omega, rfl, Or.inr hok⟩
      · rw [rd_other i hiq hip] at hi ⊢
        have hs' := h.sym i hi
        have hj1 : ct.getD i 0 ≠ pos := by omega
        have hj2 : ct.getD i 0 ≠ pair := by
          intro e
          have := hs'.2.2.2.2.1
          rw [e, hpair.2.2.1] at this
          omega
        rw [rd_other _ hj1 hj2]
        exact ⟨hs'.1, by omega, hs'.2.2.1, by omega, hs'.2.2.2.2.1, hs'.2.2.2.2.2⟩

theorem drop_cons_getD (ss : Bytes) (n : Nat) (c : UInt8) (rest : Bytes) (h : ss.drop n = c :: rest) :
    ss.getD n 0 = c ∧ n < ss.length ∧ ss.drop (n+1) = rest := by
  have hn : n < ss.length := by
    rcases Nat.lt_or_ge n ss.length with h1 | h1
    · exact h1
    · rw [List.drop_eq_nil_of_le h1] at h; cases h
  rw [List.drop_eq_getElem_cons hn] at h
  injection h with h1 h2
  exact ⟨by simp [List.getD_eq_getElem?_getD, List.getElem?_eq_getElem hn, h1], hn, h2⟩

/-- at the end of the string the bounds `< pos` are bounds `≤ ss.length`: a position beyond the string carries no symbol -/
theorem inv_end {ss pos pda ct} (hinv : W2CInv ss pos pda ct) (hlen : ss.length ≤ pos - 1) :
    W2CInv ss (ss.length + 1) pda ct := by
  exact ⟨hinv.ctlen, hinv.pdalen,
    fun k p hp => by
      have := hinv.stk k p hp
      have hp1 : p - 1 < ss.length := by
        rcases Nat.lt_or_ge (p-1) ss.length with h1 | h1
        · exact h1
        · exfalso
          have h4 := this.2.2.2
          simp [List.getD_eq_getElem?_getD, List.getElem?_eq_none h1, openerClass, isOpenBr, isUpper,
                chLt, chLp, chLb, chLc] at h4
      exact ⟨this.1, by omega, this.2.2.1, this.2.2.2⟩,
    hinv.dec,
    fun i hi => by
      have hs := hinv.sym i hi
      -- both positions carry a symbol of `ss`, so they are ≤ length
      have key : ∀ a b, pairOk ss a b → b - 1 < ss.length := by
        intro a b hab
        rcases Nat.lt_or_ge (b-1) ss.length with h1 | h1
        · exact h1
        · exfalso
          have hz : ss.getD (b-1) 0 = 0 := by simp [List.getD_eq_getElem?_getD, List.getElem?_eq_none h1]
          rcases hab.2 with ⟨ho, hc⟩ | ⟨hu, hc⟩
          · rw [hz] at hc; exact (bracket ho).mate_ne hc.symm
          · rw [hz] at hc; exact (letter hu).mate_ne hc.symm
      rcases hs.2.2.2.2.2 with hp | hp
      · have := key _ _ hp; have := hp.1
        exact ⟨hs.1, by omega, hs.2.2.1, by omega, hs.2.2.2.2.1, Or.inl hp⟩
      · have := key _ _ hp; have := hp.1
        exact ⟨hs.1, by omega, hs.2.2.1, by omega, hs.2.2.2.2.1, Or.inr hp⟩⟩

end EaselModel.Msa
