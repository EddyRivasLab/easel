import EaselModel.Msa.LemmasMsa
/-! Lemmas: `esl_msa_ReverseComplement` keeps the alignment well formed. -/
namespace EaselModel.Msa

theorem wussComplChar_ne_zero_nat : ∀ n, n < 256 → n ≠ 0 → wussComplChar (UInt8.ofNat n) ≠ 0 := by decide +kernel

theorem wussComplChar_ne_zero (c : UInt8) (h : c ≠ 0) : wussComplChar c ≠ 0 := by
  have := wussComplChar_ne_zero_nat c.toNat c.toNat_lt (fun e => h (UInt8.toNat_inj.mp (by simpa using e)))
  simpa using this

theorem strOk_reverse (alen : Nat) (t : UInt8) (s : Bytes) (h : strOk alen t s) : strOk alen t s.reverse :=
  ⟨by simp [h.1], fun c hc => h.2 c (List.mem_reverse.mp hc)⟩

theorem strOk_wussReverse (alen : Nat) (s : Bytes) (h : strOk alen 0 s) : strOk alen 0 (wussReverse s) := by
  refine ⟨by simp [wussReverse, h.1], fun c hc => ?_⟩
  simp only [wussReverse, List.mem_reverse, List.mem_map] at hc
  obtain ⟨d, hd, rfl⟩ := hc
  exact wussComplChar_ne_zero d (h.2 d hd)

/-- the reverse-complemented alignment is well formed (rows hold valid codes, so no sentinel appears) -/
theorem rcMsa_wf (a : Abc) (compl : List UInt8) (m : Msa) (wf : m.WF) (hd : m.isDigital = true) (hc : m.codesOk a)
    (hcompl : ∀ x, x < a.Kp → (compl.getD x 0).toNat < a.Kp) (hKp : a.Kp ≤ 255) : (rcMsa compl m).WF := by
  have hterm0 : m.rowTerm = dsqSentinel := by simp [Msa.rowTerm, hd]
  refine wf.mapAligned (fun r0 hr0 => ?_) (strOk_wussReverse m.alen) (strOk_reverse m.alen 0)
  have h0 := wf.rows_ok r0 hr0
  refine ⟨by simp [revcompRow]; exact h0.1, fun c hcm => ?_⟩
  simp only [revcompRow, List.mem_reverse, List.mem_map] at hcm
  obtain ⟨x, hx, rfl⟩ := hcm
  rw [hterm0]
  have := hcompl x.toNat (hc r0 hr0 x hx)
  intro e
  rw [e] at this
  simp [dsqSentinel] at this
  omega

theorem revcompRow_getD (compl : List UInt8) (r : Bytes) (i : Nat) (hi : i < r.length) :
    (revcompRow compl r).getD i 0 = compl.getD (r.getD (r.length - 1 - i) 0).toNat 0 := by
  unfold revcompRow
  have hl : i < (r.map fun x => compl.getD x.toNat 0).length := by simpa using hi
  have h2 : r.length - 1 - i < r.length := by omega
  rw [List.getD_eq_getElem?_getD, List.getElem?_reverse hl, List.length_map, List.getElem?_map,
      List.getElem?_eq_getElem h2, List.getD_eq_getElem?_getD (l := r), List.getElem?_eq_getElem h2]
  rfl

end EaselModel.Msa
