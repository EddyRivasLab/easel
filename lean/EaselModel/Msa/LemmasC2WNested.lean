import EaselModel.Msa.LemmasCt2Wuss
/-! Lemmas: NESTED pair tables as the pseudoknot-free case of the general development. A nested table has no pseudoknotted
    pair, so `esl_ct2wuss` / `esl_ct2simplewuss` always convert it, give no pair a letter and write a bracket labelling
    (`Labels`), which `esl_wuss2ct` reads back. -/
namespace EaselModel.Msa

theorem nested_no_pk {n : Nat} {ct : List Nat} (hn : Nested ct) (p : Nat) : isPkPair ct p = false := by
  rw [Bool.eq_false_iff]
  intro h
  simp only [isPkPair, Bool.and_eq_true, decide_eq_true_eq, List.any_eq_true, List.mem_range] at h
  obtain ⟨hp, q, _, h1, h2, h3⟩ := h
  have := hn q p (by omega) (by omega) h1 h2
  omega

theorem nested_pkPairs {ct : List Nat} (hn : Nested ct) : pkPairs ct = [] := by
  unfold pkPairs
  rw [List.filter_eq_nil_iff]
  intro p _
  rw [nested_no_pk (n := 0) hn p]; exact Bool.false_ne_true

/-- on a nested table no pair is given a letter: the string is a bracket labelling -/
theorem ct2wussGen_labels (simple : Bool) (n : Nat) (ct : List Nat) (hct : CtOk n ct) (hn : Nested ct) (ss : Bytes)
    (h : ct2wussGen simple ct = .ok ss) : ss.length = n ∧ Labels ct ss := by
  obtain ⟨st, pda, cct, rb, rfl, inv, u⟩ := ct2wussGen_ok_inv simple n ct hct ss h
  have hlen : st.ss.toList.length = n := by simp [inv.sssize]
  refine ⟨hlen, fun p hp1 hp2 => ⟨fun h0 => ?_, fun hlt => ?_⟩⟩
  · rw [hlen] at hp2
    have := inv.l1 (p-1) (by omega) (by rw [show p - 1 + 1 = p by omega]; exact h0)
    exact this
  · have hz : cct.getD p 0 ≠ 0 := by
      intro hz
      have := u.cross p hp1 hlt hz
      rw [nested_no_pk (n := n) hn p] at this
      cases this
    have hs := cct_sym hct inv.cok p hz
    have := inv.l2 (cct.getD p 0) hs.2.2.2.2.1 (by omega) (by rw [hs.2.1]; omega) (by rw [hs.2.1, hs.1]; exact hlt)
    rw [hs.2.1, hs.1] at this
    exact this

theorem ct2wuss_labels (n : Nat) (ct : List Nat) (hct : CtOk n ct) (hn : Nested ct) (ss : Bytes)
    (h : ct2wuss ct = .ok ss) : ss.length = n ∧ Labels ct ss :=
  ct2wussGen_labels false n ct hct hn ss h

/-- NESTED ROUND TRIP: the case of `pk_roundtrip'` without crossing pairs -/
theorem nested_roundtrip' (n : Nat) (ct : List Nat) (hct : CtOk n ct) (_hn : Nested ct) (ss : Bytes)
    (h : ct2wuss ct = .ok ss) : wuss2ct ss = some ct :=
  pk_roundtrip' n ct hct ss h

/-- `esl_ct2wuss` succeeds on every symmetric nested pair table (all pairs are found: `npairs == npairs_reached`) -/
theorem ct2wuss_nested_ok (n : Nat) (ct : List Nat) (hct : CtOk n ct) (hn : Nested ct) : ∃ ss, ct2wuss ct = .ok ss :=
  ct2wuss_ok_of_few' n ct hct (by rw [nested_pkPairs hn]; exact Nat.zero_le _)

theorem nested_roundtrip_total' (n : Nat) (ct : List Nat) (hct : CtOk n ct) (hn : Nested ct) :
    ∃ ss, ct2wuss ct = .ok ss ∧ wuss2ct ss = some ct := by
  obtain ⟨ss, h⟩ := ct2wuss_nested_ok n ct hct hn
  exact ⟨ss, h, pk_roundtrip' n ct hct ss h⟩

theorem simple_nested_roundtrip_total' (n : Nat) (ct : List Nat) (hct : CtOk n ct) (hn : Nested ct) :
    ∃ ss, ct2simplewuss ct = .ok ss ∧ wuss2ct ss = some ct := by
  obtain ⟨ss, h⟩ := ct2wussGen_ok_of_few true n ct hct (by rw [nested_pkPairs hn]; exact Nat.zero_le _)
  exact ⟨ss, h, pk_roundtripGen true n ct hct ss h⟩

theorem removeBroken_nested' (ss : Bytes) (useme : List Bool) (ct : List Nat) (h : wuss2ct ss = some ct) (hn : Nested ct) :
    ∃ ss', removeBrokenFromSS ss useme = .ok ss' ∧ wuss2ct ss' = some (breakPairs useme 1 ss.length ct) := by
  have hct := wuss2ct_ctOk ss ct h
  have hb := breakPairs_ctOk_nested useme ss.length ct hct
  obtain ⟨ss', h1, h2⟩ := nested_roundtrip_total' ss.length _ hb.1 (hb.2 hn)
  exact ⟨ss', by simp [removeBrokenFromSS, h, h1], h2⟩

end EaselModel.Msa
