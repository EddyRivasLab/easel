import EaselModel.Msa.LemmasNested
/-! Lemmas: `esl_wuss2ct` reads back ANY pair table (crossing pairs allowed) from a labelling in which every pair
    carries a bracket pair or a pseudoknot letter pair and the pairs sharing a stack (all brackets / one letter) do not
    cross each other (`wuss2ct_of_class_labels'`, the reading half of the pseudoknotted `ct -> WUSS -> ct` round trip), and
    whatever it returns is such a labelling (`wuss2ct_class_labels`): together the complete description of `esl_wuss2ct`. -/
namespace EaselModel.Msa

/-- unpaired positions carry unpaired symbols; the left end of a pair an opening bracket or an upper-case letter and
    the right end the matching closing symbol -/
def ClassLabels (ct : List Nat) (ss : Bytes) : Prop :=
  ∀ p, 1 ≤ p → p ≤ ss.length →
    (ct.getD p 0 = 0 → isUnpairedSym (ss.getD (p-1) 0) = true) ∧
    (p < ct.getD p 0 →
      (isOpenBr (ss.getD (p-1) 0) = true ∧ ss.getD (ct.getD p 0 - 1) 0 = closerOf (ss.getD (p-1) 0)) ∨
      (isUpper (ss.getD (p-1) 0) = true ∧ ss.getD (ct.getD p 0 - 1) 0 = toLower (ss.getD (p-1) 0)))

/-- two pairs labelled on the same stack never cross -/
def ClassNested (ct : List Nat) (ss : Bytes) : Prop :=
  ∀ i i', ct.getD i 0 ≠ 0 → ct.getD i' 0 ≠ 0 → i < i' → i' < ct.getD i 0 → i' < ct.getD i' 0 →
    openerClass (ss.getD (i-1) 0) = openerClass (ss.getD (i'-1) 0) → ct.getD i' 0 < ct.getD i 0

structure KInv (ss : Bytes) (ct : List Nat) (pos : Nat) (pda : List (List Nat)) (cur : List Nat) : Prop where
  pdalen : pda.length = 27
  sorted : ∀ k, (pda.getD k []).Pairwise (· > ·)
  mem : ∀ k p, p ∈ pda.getD k [] ↔
    (1 ≤ p ∧ p < pos ∧ pos ≤ ct.getD p 0 ∧ openerClass (ss.getD (p-1) 0) = some k)
  curlen : cur.length = ss.length + 1
  cur : ∀ p, cur.getD p 0 = ctUpTo ct pos p

theorem ct_sym {n : Nat} {ct : List Nat} (hct : CtOk n ct) {pos : Nat} (hpos : 1 ≤ pos) (p : Nat) (hp : ct.getD p 0 = pos) :
    ct.getD pos 0 = p ∧ 1 ≤ p ∧ p ≤ n ∧ p ≠ pos := by
  have h := hct.2 p (by rw [hp]; omega)
  rw [hp] at h
  exact ⟨h.2.2.2.2.1, h.1, h.2.1, fun e => h.2.2.2.2.2 e.symm⟩

theorem kinv_skip {ss : Bytes} {ct : List Nat} (hct : CtOk ss.length ct) {pos : Nat} {pda : List (List Nat)} {cur : List Nat}
    (inv : KInv ss ct pos pda cur) (hpos : 1 ≤ pos) (h0 : ct.getD pos 0 = 0) : KInv ss ct (pos+1) pda cur := by
  have hnp : ∀ p, ct.getD p 0 ≠ pos := by
    intro p hp
    have := ct_sym hct hpos p hp
    omega
  exact {
    pdalen := inv.pdalen, sorted := inv.sorted, curlen := inv.curlen
    mem := by
      intro k p
      rw [inv.mem k p]
      constructor
      · rintro ⟨h1, h2, h3, h4⟩
        have := hnp p
        exact ⟨h1, by omega, by omega, h4⟩
      · rintro ⟨h1, h2, h3, h4⟩
        have : p ≠ pos := by intro e; rw [e, h0] at h3; omega
        exact ⟨h1, by omega, by omega, h4⟩
    cur := by
      intro p
      rw [inv.cur p]
      simp only [ctUpTo]
      have := hnp p
      by_cases hp : p = pos
      · subst hp; rw [if_neg (fun h => h.1 h0), if_neg (fun h => h.1 h0)]
      · have e1 : (p < pos + 1) ↔ (p < pos) := by omega
        have e2 : (ct.getD p 0 < pos + 1) ↔ (ct.getD p 0 < pos) := by omega
        simp only [e1, e2] }

theorem kinv_push {ss : Bytes} {ct : List Nat} (hct : CtOk ss.length ct) {pos : Nat} {pda : List (List Nat)} {cur : List Nat}
    (inv : KInv ss ct pos pda cur) (hpos : 1 ≤ pos) (hleft : pos < ct.getD pos 0) (k : Nat) (hk : k < 27)
    (hcl : openerClass (ss.getD (pos-1) 0) = some k) : KInv ss ct (pos+1) (pushAt pda k pos) cur := by
  have hnp : ∀ p, p < pos → ct.getD p 0 ≠ pos := by
    intro p hplt hp
    have := ct_sym hct hpos p hp
    omega
  exact {
    pdalen := by simp [pushAt, inv.pdalen]
    sorted := by
      intro k'
      by_cases hkk : k = k'
      · subst hkk
        rw [pushAt, getD_set_self _ _ _ _ (by rw [inv.pdalen]; exact hk), List.pairwise_cons]
        exact ⟨fun p hp => ((inv.mem k p).mp hp).2.1, inv.sorted k⟩
      · rw [pushAt, getD_set_ne _ _ _ _ _ hkk]; exact inv.sorted k'
    mem := by
      intro k' p
      by_cases hkk : k = k'
      · subst hkk
        rw [pushAt, getD_set_self _ _ _ _ (by rw [inv.pdalen]; exact hk), List.mem_cons, inv.mem k p]
        constructor
        · rintro (rfl | ⟨h1, h2, h3, h4⟩)
          · exact ⟨hpos, by omega, by omega, hcl⟩
          · have := hnp p h2
            exact ⟨h1, by omega, by omega, h4⟩
        · rintro ⟨h1, h2, h3, h4⟩
          by_cases hp : p = pos
          · exact Or.inl hp
          · exact Or.inr ⟨h1, by omega, by omega, h4⟩
      · rw [pushAt, getD_set_ne _ _ _ _ _ hkk, inv.mem k' p]
        constructor
        · rintro ⟨h1, h2, h3, h4⟩
          have := hnp p h2
          exact ⟨h1, by omega, by omega, h4⟩
        · rintro ⟨h1, h2, h3, h4⟩
          have hp : p ≠ pos := by
            intro e; subst e
            rw [hcl] at h4; injection h4 with h4; exact hkk h4
          exact ⟨h1, by omega, by omega, h4⟩
    curlen := inv.curlen
    cur := by
      intro p
      rw [inv.cur p]
      simp only [ctUpTo]
      by_cases hp : p < pos
      · have := hnp p hp
        have e1 : (p < pos + 1) ↔ (p < pos) := by omega
        have e2 : (ct.getD p 0 < pos + 1) ↔ (ct.getD p 0 < pos) := by omega
        simp only [e1, e2]
      · by_cases hp2 : p = pos
        · subst hp2
          rw [if_neg (fun h => by omega), if_neg (fun h => by omega)]
        · rw [if_neg (fun h => by omega), if_neg (fun h => by omega)] }

theorem kinv_pop {ss : Bytes} {ct : List Nat} (hct : CtOk ss.length ct) (hcn : ClassNested ct ss) {pos : Nat}
    {pda : List (List Nat)} {cur : List Nat}
    (inv : KInv ss ct pos pda cur) (hpos : 1 ≤ pos) (hle : pos ≤ ss.length) (h0 : ct.getD pos 0 ≠ 0)
    (hi : ct.getD pos 0 < pos) (k : Nat) (hk : k < 27) (hcl : openerClass (ss.getD (ct.getD pos 0 - 1) 0) = some k) :
    ∃ tl, pda.getD k [] = ct.getD pos 0 :: tl ∧
      KInv ss ct (pos+1) (pda.set k tl) ((cur.set pos (ct.getD pos 0)).set (ct.getD pos 0) pos) := by
  have hpair := hct.2 pos h0
  have hpi := hpair.2.2.2.2.1
  have himem : ct.getD pos 0 ∈ pda.getD k [] :=
    (inv.mem k _).mpr ⟨hpair.2.2.1, hi, by rw [hpi]; exact Nat.le_refl _, hcl⟩
  cases hs : pda.getD k [] with
  | nil => rw [hs] at himem; simp at himem
  | cons t tl =>
    have hsorted := inv.sorted k
    rw [hs, List.pairwise_cons] at hsorted
    have htmem := (inv.mem k t).mp (by rw [hs]; simp)
    have htop : t = ct.getD pos 0 := by
      rw [hs, List.mem_cons] at himem
      rcases himem with h | h
      · exact h.symm
      · exfalso
        have hgt := hsorted.1 _ h
        have hctt : ct.getD t 0 ≠ 0 := by omega
        have hne : ct.getD t 0 ≠ pos := by
          intro e
          have := ct_sym hct hpos t e
          omega
        have := hcn (ct.getD pos 0) t (by omega) hctt hgt (by rw [hpi]; exact htmem.2.1) (by omega)
          (by rw [hcl, htmem.2.2.2])
        rw [hpi] at this
        omega
    subst htop
    refine ⟨tl, rfl, ?_⟩
    have hposlen : pos < cur.length := by rw [inv.curlen]; omega
    have hilen : ct.getD pos 0 < (cur.set pos (ct.getD pos 0)).length := by rw [List.length_set, inv.curlen]; omega
    exact {
      pdalen := by simp [inv.pdalen]
      sorted := by
        intro k'
        by_cases hkk : k = k'
        · subst hkk; rw [getD_set_self _ _ _ _ (by rw [inv.pdalen]; exact hk)]; exact hsorted.2
        · rw [getD_set_ne _ _ _ _ _ hkk]; exact inv.sorted k'
      mem := by
        intro k' p
        by_cases hkk : k = k'
        · subst hkk
          rw [getD_set_self _ _ _ _ (by rw [inv.pdalen]; exact hk)]
          have hm := inv.mem k p
          rw [hs, List.mem_cons] at hm
          constructor
          · intro hp
            have hlt' := hsorted.1 p hp
            have := hm.mp (Or.inr hp)
            have hne : ct.getD p 0 ≠ pos := by
              intro e
              have := ct_sym hct hpos p e
              omega
            exact ⟨this.1, by omega, by omega, this.2.2.2⟩
          · rintro ⟨h1, h2, h3, h4⟩
            have hne : p ≠ pos := by intro e; rw [e] at h3; omega
            rcases hm.mpr ⟨h1, by omega, by omega, h4⟩ with h | h
            · exfalso; rw [h, hpi] at h3; omega
            · exact h
        · rw [getD_set_ne _ _ _ _ _ hkk, inv.mem k' p]
          constructor
          · rintro ⟨h1, h2, h3, h4⟩
            have hne : ct.getD p 0 ≠ pos := by
              intro e
              have hs' := ct_sym hct hpos p e
              -- then p = ct[pos], whose class is k, not k'
              rw [← hs'.1, hcl] at h4
              injection h4 with h4; exact hkk h4
            exact ⟨h1, by omega, by omega, h4⟩
          · rintro ⟨h1, h2, h3, h4⟩
            have hne : p ≠ pos := by intro e; rw [e] at h3; omega
            exact ⟨h1, by omega, by omega, h4⟩
      curlen := by simp [inv.curlen]
      cur := by
        intro p
        simp only [ctUpTo]
        by_cases hp1 : p = ct.getD pos 0
        · rw [hp1, getD_set_self _ _ _ _ hilen, hpi, if_pos ⟨by omega, by omega, by omega⟩]
        · by_cases hp2 : p = pos
          · rw [hp2, getD_set_ne _ _ _ _ _ (by omega), getD_set_self _ _ _ _ hposlen,
                if_pos ⟨h0, by omega, by omega⟩]
          · rw [getD_set_ne _ _ _ _ _ (fun e => hp1 e.symm), getD_set_ne _ _ _ _ _ (fun e => hp2 e.symm), inv.cur p]
            simp only [ctUpTo]
            have hne : ct.getD p 0 ≠ pos := by
              intro e
              exact hp1 (ct_sym hct hpos p e).1.symm
            have e1 : (p < pos + 1) ↔ (p < pos) := by omega
            have e2 : (ct.getD p 0 < pos + 1) ↔ (ct.getD p 0 < pos) := by omega
            simp only [e1, e2] }

theorem wuss2ct_of_class_labels_loop (ss : Bytes) (ct : List Nat) (hct : CtOk ss.length ct) (hcn : ClassNested ct ss)
    (hl : ClassLabels ct ss) :
    ∀ (rest : Bytes) (pos : Nat) (pda : List (List Nat)) (cur : List Nat),
      ss.drop (pos-1) = rest → 1 ≤ pos → KInv ss ct pos pda cur →
      ∃ pda', w2cLoop ss rest pos pda cur = some (pda', ct) ∧ pda'.all (fun s => s.isEmpty) = true := by
  intro rest
  induction rest with
  | nil =>
    intro pos pda cur hd hpos inv
    have hge : ss.length ≤ pos - 1 := by
      rcases Nat.lt_or_ge (pos-1) ss.length with h1 | h1
      · rw [List.drop_eq_getElem_cons h1] at hd; cases hd
      · exact h1
    have hcur : cur = ct := by
      apply list_ext_getD _ _ (by rw [inv.curlen, hct.1])
      intro p
      rw [inv.cur p]
      simp only [ctUpTo]
      by_cases h0 : ct.getD p 0 = 0
      · rw [if_neg (fun h => h.1 h0), h0]
      · have := hct.2 p h0
        rw [if_pos ⟨h0, by omega, by omega⟩]
    subst hcur
    refine ⟨pda, rfl, (all_empty_iff pda inv.pdalen).mpr (fun k hk => ?_)⟩
    cases hs : pda.getD k [] with
    | nil => rfl
    | cons p tl =>
      exfalso
      have := (inv.mem k p).mp (by rw [hs]; simp)
      have h0 : cur.getD p 0 ≠ 0 := by omega
      have := (hct.2 p h0).2.2.2.1
      omega
  | cons c rest ih =>
    intro pos pda cur hd hpos inv
    obtain ⟨hc, hlt, hdrop⟩ := drop_cons_getD ss (pos-1) c rest hd
    have hd' : ss.drop (pos + 1 - 1) = rest := by
      have : pos + 1 - 1 = pos - 1 + 1 := by omega
      rw [this]; exact hdrop
    have hle : pos ≤ ss.length := by omega
    have hlab := hl pos hpos hle
    by_cases h0 : ct.getD pos 0 = 0
    · rw [w2cLoop_skip (hc ▸ hlab.1 h0)]
      exact ih (pos+1) pda cur hd' (by omega) (kinv_skip hct inv hpos h0)
    · have hpair := hct.2 pos h0
      by_cases hleft : pos < ct.getD pos 0
      · -- a left end: pushed on the stack of its class
        obtain ⟨k, hk, hcl, _⟩ := match_class.1 (hlab.2 hleft)
        rw [w2cLoop_push (hc ▸ hcl)]
        exact ih (pos+1) _ cur hd' (by omega) (kinv_push hct inv hpos hleft k hk hcl)
      · -- a right end: its partner is on top of the stack of its class, since pairs of one class do not cross
        have hi : ct.getD pos 0 < pos := by omega
        have hpi := hpair.2.2.2.2.1
        have hlabi := (hl (ct.getD pos 0) hpair.2.2.1 hpair.2.2.2.1).2 (by rw [hpi]; exact hi)
        rw [hpi] at hlabi
        obtain ⟨k, hk, hcl, hcc, hm⟩ := match_class.1 hlabi
        obtain ⟨tl, hs, inv'⟩ := kinv_pop hct hcn inv hpos hle h0 hi k hk hcl
        rw [hc] at hcc hm
        rw [w2cLoop_pop hcc ss rest pos cur hs hm]
        exact ih (pos+1) _ _ hd' (by omega) inv'

theorem wuss2ct_of_class_labels' (ss : Bytes) (ct : List Nat) (hct : CtOk ss.length ct) (hcn : ClassNested ct ss)
    (hl : ClassLabels ct ss) : wuss2ct ss = some ct := by
  have hrep : ∀ k, (List.replicate 27 ([] : List Nat)).getD k [] = [] := by
    intro k
    simp only [List.getD_eq_getElem?_getD, List.getElem?_replicate]
    split <;> rfl
  have hinit : KInv ss ct 1 (List.replicate 27 []) (List.replicate (ss.length + 1) 0) := {
    pdalen := by simp
    sorted := fun k => by rw [hrep]; exact List.Pairwise.nil
    mem := by
      intro k p; rw [hrep]
      constructor
      · intro h; simp at h
      · rintro ⟨h1, h2, _⟩; omega
    curlen := by simp
    cur := by
      intro p
      simp only [ctUpTo]
      rw [if_neg (fun h => by omega)]
      simp only [List.getD_eq_getElem?_getD, List.getElem?_replicate]
      split <;> rfl }
  obtain ⟨pda', hrun, hall⟩ := wuss2ct_of_class_labels_loop ss ct hct hcn hl ss 1 _ _ (by simp) (Nat.le_refl _) hinit
  unfold wuss2ct
  rw [hrun]
  simp only [hall, if_true]

/-- a bracket labelling of a nested table is the letter-free case -/
theorem wuss2ct_of_labels' (ss : Bytes) (ct : List Nat) (hct : CtOk ss.length ct) (hn : Nested ct) (hl : Labels ct ss) :
    wuss2ct ss = some ct :=
  wuss2ct_of_class_labels' ss ct hct (fun i i' hi hi' h1 h2 _ _ => hn i i' hi hi' h1 h2)
    (fun p hp1 hp2 => ⟨(hl p hp1 hp2).1, fun hlt => Or.inl ((hl p hp1 hp2).2 hlt)⟩)

/-- the converse: the table `esl_wuss2ct` builds is a class-nested labelling of the string -/
theorem wuss2ct_class_labels (ss : Bytes) (ct : List Nat) (h : wuss2ct ss = some ct) :
    ClassLabels ct ss ∧ ClassNested ct ss := by
  have hpm := wuss2ct_pairs_matched' ss ct h
  obtain ⟨pda, inv, hall⟩ := wuss2ct_inv ss ct h
  have hempty : ∀ k, pda.getD k [] = [] := by
    intro k
    rw [List.all_eq_true] at hall
    by_cases hk : k < pda.length
    · have := hall (pda.getD k []) (by
        rw [List.getD_eq_getElem?_getD, List.getElem?_eq_getElem hk]; simp)
      simpa using this
    · simp [List.getD_eq_getElem?_getD, List.getElem?_eq_none (Nat.le_of_not_lt hk)]
  constructor
  · intro p hp1 hp2
    refine ⟨fun h0 => ?_, fun hlt => ?_⟩
    · rcases inv.unp p hp1 (by omega) h0 with hu | ⟨k, hk⟩
      · exact hu
      · rw [hempty k] at hk; simp at hk
    · exact (hpm p (by omega) hlt).2
  · intro i i' hi hi' hlt hlt2 hleft' hcls
    exact (inv.nest i hi (by omega) i' hlt hlt2 hcls.symm).2.2

/-- A labelled structure carried along a map `g` of positions (new to old) that keeps or reverses the order: if every pair of
    the new table is the image of a pair of the old one, in the same class, and the new string spells the new table, then the
    new table is again a class-nested labelling. Crossing of two pairs is kept by `g` either way, which is all that
    `ClassNested` is about. -/
theorem reads_transport {ss ss' : Bytes} {ct ct' : List Nat} (g : Nat → Nat)
    (hct : CtOk ss.length ct) (hcn : ClassNested ct ss) (hlen : ct'.length = ss'.length + 1)
    (hrange : ∀ p, ct'.getD p 0 ≠ 0 → 1 ≤ p ∧ p ≤ ss'.length)
    (hinv : ∀ p, ct'.getD p 0 ≠ 0 → ct'.getD (ct'.getD p 0) 0 = p)
    (hg1 : ∀ p, 1 ≤ p → p ≤ ss'.length → 1 ≤ g p)
    (hpair : ∀ p, ct'.getD p 0 ≠ 0 → ct.getD (g p) 0 = g (ct'.getD p 0))
    (hord : (∀ p q, p < q → q ≤ ss'.length → g p < g q) ∨ (∀ p q, p < q → q ≤ ss'.length → g q < g p))
    (hunp : ∀ p, 1 ≤ p → p ≤ ss'.length → ct'.getD p 0 = 0 → isUnpairedSym (ss'.getD (p-1) 0) = true)
    (hsym : ∀ p, p < ct'.getD p 0 →
      ((isOpenBr (ss'.getD (p-1) 0) = true ∧ ss'.getD (ct'.getD p 0 - 1) 0 = closerOf (ss'.getD (p-1) 0)) ∨
       (isUpper (ss'.getD (p-1) 0) = true ∧ ss'.getD (ct'.getD p 0 - 1) 0 = toLower (ss'.getD (p-1) 0))) ∧
      openerClass (ss'.getD (p-1) 0) = openerClass (ss.getD (leftEnd ct (g p) - 1) 0)) :
    CtOk ss'.length ct' ∧ ClassLabels ct' ss' ∧ ClassNested ct' ss' := by
  -- the partner of a paired position is paired, in range, and its image is the old partner
  have hp : ∀ p, ct'.getD p 0 ≠ 0 → 1 ≤ ct'.getD p 0 ∧ ct'.getD p 0 ≤ ss'.length ∧ ct'.getD (ct'.getD p 0) 0 ≠ 0 := by
    intro p h
    have h2 : ct'.getD (ct'.getD p 0) 0 ≠ 0 := by rw [hinv p h]; have := hrange p h; omega
    exact ⟨(hrange _ h2).1, (hrange _ h2).2, h2⟩
  have hne : ∀ p q, 1 ≤ p → p ≤ ss'.length → 1 ≤ q → q ≤ ss'.length → p ≠ q → g p ≠ g q := by
    intro p q _ hp2 _ hq2 hpq
    rcases Nat.lt_or_gt_of_ne hpq with h | h <;> rcases hord with ho | ho
    · have := ho p q h hq2; omega
    · have := ho p q h hq2; omega
    · have := ho q p h hp2; omega
    · have := ho q p h hp2; omega
  refine ⟨⟨hlen, fun i hi => ?_⟩, fun p hp1 hp2 => ⟨hunp p hp1 hp2, fun hlt => (hsym p hlt).1⟩, ?_⟩
  · have hr := hrange i hi
    have hq := hp i hi
    refine ⟨hr.1, hr.2, hq.1, hq.2.1, hinv i hi, fun e => ?_⟩
    have h1 := hpair i hi
    rw [e] at h1
    exact (hct.2 (g i) (by rw [h1]; have := hg1 i hr.1 hr.2; omega)).2.2.2.2.2 h1
  · intro i i' hi hi' hlt hlt2 hleft' hcls
    have ri := hrange i hi; have ri' := hrange i' hi'; have qi := hp i hi; have qi' := hp i' hi'
    rcases Nat.lt_trichotomy (ct'.getD i' 0) (ct'.getD i 0) with h | h | h
    · exact h
    · exfalso
      have := hinv i hi; rw [← h, hinv i' hi'] at this; omega
    · exfalso
      -- i < i' < ct' i < ct' i' : the two old pairs cross as well
      rw [(hsym i (by omega)).2, (hsym i' hleft').2] at hcls
      have e := hpair i hi; have e' := hpair i' hi'
      have b := hpair _ qi.2.2; have b' := hpair _ qi'.2.2
      rw [hinv i hi] at b; rw [hinv i' hi'] at b'
      rcases hord with ho | ho
      · have o1 := ho i i' hlt ri'.2; have o2 := ho i' _ hlt2 qi.2.1; have o3 := ho _ _ h qi'.2.1
        have l1 : leftEnd ct (g i) = g i := by unfold leftEnd; omega
        have l2 : leftEnd ct (g i') = g i' := by unfold leftEnd; omega
        rw [l1, l2] at hcls
        have := hcn (g i) (g i') (by omega) (by omega) o1 (by omega) (by omega) hcls
        omega
      · have o1 := ho i i' hlt ri'.2; have o2 := ho i' _ hlt2 qi.2.1; have o3 := ho _ _ h qi'.2.1
        have l1 : leftEnd ct (g i) = g (ct'.getD i 0) := by unfold leftEnd; omega
        have l2 : leftEnd ct (g i') = g (ct'.getD i' 0) := by unfold leftEnd; omega
        rw [l1, l2] at hcls
        have := hcn (g (ct'.getD i' 0)) (g (ct'.getD i 0)) (by omega) (by omega) o3 (by omega) (by omega) hcls.symm
        omega

/-- the same table spelt by another string in the same classes -/
theorem respell {ss ss' : Bytes} {ct : List Nat} (hlen : ss'.length = ss.length) (hct : CtOk ss.length ct)
    (hcn : ClassNested ct ss) (hl' : ClassLabels ct ss')
    (hcls : ∀ p, ct.getD p 0 ≠ 0 → p < ct.getD p 0 → openerClass (ss'.getD (p-1) 0) = openerClass (ss.getD (p-1) 0)) :
    wuss2ct ss' = some ct :=
  wuss2ct_of_class_labels' ss' ct (hlen ▸ hct)
    (fun i i' hi hi' hlt hlt2 hleft' hc => by
      rw [hcls i hi (by omega), hcls i' hi' hleft'] at hc
      exact hcn i i' hi hi' hlt hlt2 hleft' hc) hl'

end EaselModel.Msa
