import EaselModel.Msa.LemmasWuss
/-! One step of `esl_wuss2ct`'s loop by symbol class: class 0 is the four bracket kinds, which share a stack, classes 1..26 are
    the letters `Aa`..`Zz`. Every proof about a turn of the loop splits on `turn c`. -/
namespace EaselModel.Msa

/-- What one symbol does to the 27 stacks of `esl_wuss2ct`, uniformly in the class `k` (0 = the four bracket kinds sharing a
    stack, 1..26 = the letters): an opener of class `k` is pushed on stack `k`; a closer of class `k` pops stack `k` (and in
    class 0 must be the partner of the bracket it meets, `closes`); an unpaired symbol is passed over; anything else is
    `eslESYNTAX`. The stacks hold positions `1..len` as in the C code, so the symbol waiting at `pair` is `ss.getD (pair-1) 0`. -/
inductive Turn (c : UInt8) : Prop
  | push (k : Nat) (hk : k < 27) (ho : openerClass c = some k) (hc : closerClass c = none) (hl : legalSym c = true)
      (eq : ∀ ss rest pos pda ct, w2cLoop ss (c :: rest) pos pda ct = w2cLoop ss rest (pos+1) (pushAt pda k pos) ct)
  | pop (k : Nat) (hk : k < 27) (ho : openerClass c = none) (hc : closerClass c = some k) (hl : legalSym c = true)
      (eqNil : ∀ ss rest pos pda ct, pda.getD k [] = [] → w2cLoop ss (c :: rest) pos pda ct = none)
      (eqCons : ∀ ss rest pos pda ct pair tl, pda.getD k [] = pair :: tl → w2cLoop ss (c :: rest) pos pda ct =
        if closes k (ss.getD (pair-1) 0) c then w2cLoop ss rest (pos+1) (pda.set k tl) ((ct.set pos pair).set pair pos)
        else none)
  | skip (hu : isUnpairedSym c = true) (ho : openerClass c = none) (hc : closerClass c = none) (hl : legalSym c = true)
      (eq : ∀ ss rest pos pda ct, w2cLoop ss (c :: rest) pos pda ct = w2cLoop ss rest (pos+1) pda ct)
  | bad (ho : openerClass c = none) (hc : closerClass c = none) (hu : isUnpairedSym c = false) (hl : legalSym c = false) (eq : ∀ ss rest pos pda ct, w2cLoop ss (c :: rest) pos pda ct = none)

theorem turn (c : UInt8) : Turn c := by
  -- `List.getD_eq_getElem?_getD` is kept out of `simp`: it would rewrite the `getD` in which `hs` and the equations are stated
  by_cases hob : isOpenBr c = true
  · have B := bracket hob
    exact .push 0 (by omega) (openerClass_open hob) (closerClass_none B.notClose B.notLower)
      (by simp [legalSym, hob]) (fun ss rest pos pda ct => by simp [w2cLoop, B.print, hob])
  have hobf : isOpenBr c = false := by simpa using hob
  by_cases hcb : isCloseBr c = true
  · have C := closeBr hcb
    refine .pop 0 (by omega) (openerClass_none hobf C.notUpper) (by simp [closerClass, hcb]) (by simp [legalSym, hcb])
      (fun ss rest pos pda ct hs => by simp [-List.getD_eq_getElem?_getD, w2cLoop, C.print, hobf, hcb, hs])
      (fun ss rest pos pda ct pair tl hs => by
        simp [-List.getD_eq_getElem?_getD, w2cLoop, C.print, hobf, hcb, hs, closes])
  have hcbf : isCloseBr c = false := by simpa using hcb
  by_cases hup : isUpper c = true
  · have U := letter hup
    exact .push (pkIndex c) (pkIndex_upper_bounds c hup).2 (openerClass_upper hup) (closerClass_none hcbf U.notLower)
      (by simp [legalSym, hup]) (fun ss rest pos pda ct => by simp [w2cLoop, U.print, hobf, hcbf, hup])
  have hupf : isUpper c = false := by simpa using hup
  by_cases hlow : isLower c = true
  · have hk := pkIndex_lower_bounds c hlow
    have hk0 : pkIndex c ≠ 0 := by omega
    have hpr := (lower hlow).print
    refine .pop (pkIndex c) hk.2 (openerClass_none hobf hupf) (by simp [closerClass, hcbf, hlow]) (by simp [legalSym, hlow])
      (fun ss rest pos pda ct hs => by simp [-List.getD_eq_getElem?_getD, w2cLoop, hpr, hobf, hcbf, hupf, hlow, hs])
      (fun ss rest pos pda ct pair tl hs => by
        simp [-List.getD_eq_getElem?_getD, w2cLoop, hpr, hobf, hcbf, hupf, hlow, hs, closes, hk0])
  have hlowf : isLower c = false := by simpa using hlow
  have ho : openerClass c = none := openerClass_none hobf hupf
  have hc : closerClass c = none := closerClass_none hcbf hlowf
  by_cases hun : isUnpairedSym c = true
  · exact .skip hun ho hc (by simp [legalSym, hun])
      (fun ss rest pos pda ct => by simp [w2cLoop, (unpaired hun).print, hobf, hcbf, hupf, hlowf, hun])
  have hunf : isUnpairedSym c = false := by simpa using hun
  exact .bad ho hc hunf (by simp [legalSym, hobf, hcbf, hupf, hlowf, hunf])
    (fun ss rest pos pda ct => by simp [w2cLoop, hobf, hcbf, hupf, hlowf, hunf])

theorem w2cLoop_push {c : UInt8} {k : Nat} (h : openerClass c = some k) (ss rest pos pda ct) :
    w2cLoop ss (c :: rest) pos pda ct = w2cLoop ss rest (pos+1) (pushAt pda k pos) ct := by
  cases turn c with
  | push k' _ ho _ _ eq => rw [ho] at h; cases h; exact eq ..
  | pop _ _ ho => rw [ho] at h; cases h
  | skip _ ho => rw [ho] at h; cases h
  | bad ho => rw [ho] at h; cases h

theorem w2cLoop_pop {c : UInt8} {k : Nat} (h : closerClass c = some k) (ss rest pos) {pda : List (List Nat)} (ct) {pair tl}
    (hs : pda.getD k [] = pair :: tl) (hm : closes k (ss.getD (pair-1) 0) c = true) :
    w2cLoop ss (c :: rest) pos pda ct = w2cLoop ss rest (pos+1) (pda.set k tl) ((ct.set pos pair).set pair pos) := by
  cases turn c with
  | push _ _ _ hc => rw [hc] at h; cases h
  | pop k' _ _ hc _ _ eq => rw [hc] at h; cases h; rw [eq _ _ _ _ _ _ _ hs, if_pos hm]
  | skip _ _ hc => rw [hc] at h; cases h
  | bad _ hc => rw [hc] at h; cases h

theorem w2cLoop_skip {c : UInt8} (h : isUnpairedSym c = true) (ss rest pos pda ct) :
    w2cLoop ss (c :: rest) pos pda ct = w2cLoop ss rest (pos+1) pda ct := by
  have F := (unpaired h).noClass
  cases turn c with
  | push _ _ ho => rw [F.1] at ho; cases ho
  | pop _ _ _ hc => rw [F.2] at hc; cases hc
  | skip _ _ _ _ eq => exact eq ..
  | bad _ _ hu => rw [h] at hu; cases hu

end EaselModel.Msa
