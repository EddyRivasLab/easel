import EaselModel.Msa.LemmasShape
import EaselModel.Msa.LemmasC2W
/-! Lemmas towards the pseudoknotted `ct -> WUSS -> ct` round trip: `esl_ct2wuss` on an ARBITRARY symmetric pair table.
    `cct` is the working copy in which the pairs already given a pseudoknot letter have been zeroed. -/
namespace EaselModel.Msa

/-- `ss'` agrees with `ss` on the cells of every pair outside `T`; a pair is named by its left end (`leftEnd`), and `0` names
    the unpaired positions -/
def SameOff (ct : List Nat) (T : Nat → Prop) (ss ss' : Array UInt8) : Prop :=
  ∀ p, 1 ≤ p → ¬ T (leftEnd ct p) → ssAt ss' (p-1) = ssAt ss (p-1)

theorem SameOff.pair {n : Nat} {ct : List Nat} {T : Nat → Prop} {ss ss' : Array UInt8} (hct : CtOk n ct)
    (h : SameOff ct T ss ss') {a c : Nat} (ha : 1 ≤ a) (hc : ct.getD a 0 = c) (hlt : a < c) (hT : ¬ T a) :
    ssAt ss' (a-1) = ssAt ss (a-1) ∧ ssAt ss' (c-1) = ssAt ss (c-1) := by
  have hback := (hct.2 a (by omega)).2.2.2.2.1
  rw [hc] at hback
  have l1 : leftEnd ct a = a := by unfold leftEnd; omega
  have l2 : leftEnd ct c = a := by unfold leftEnd; omega
  exact ⟨h a ha (by rw [l1]; exact hT), h c (by omega) (by rw [l2]; exact hT)⟩

/-- the paired entries above the partner, in pop order: they go to `auxpk` -/
def pkOfAbove (cct : List Nat) : List Int → List Nat
  | [] => []
  | a :: rest => if 0 ≤ a ∧ cct.getD a.toNat 0 ≠ 0 then a.toNat :: pkOfAbove cct rest else pkOfAbove cct rest

theorem popLoop_marker (ct : Array Nat) (j : Nat) (a : Int) (pda : List Int) (nf : Nat) (mf : Int) (st : C2W) (ha : a < 0) :
    popLoop false ct j (a :: pda) nf mf st = popLoop false ct j pda (nf + 1) (if a < mf then a else mf) st := by
  rw [popLoop, if_pos (by simp [ha])]

theorem popLoop_pk (simple : Bool) (ct : Array Nat) (j : Nat) (a : Int) (pda : List Int) (nf : Nat) (mf : Int) (st : C2W)
    (ci : Nat) (ha : 0 ≤ a) (hci : rdNat st.cct a = .ok ci) (h1 : ci ≠ j) (h2 : ci ≠ 0) :
    popLoop simple ct j (a :: pda) nf mf st = popLoop simple ct j pda nf mf { st with auxpk := a.toNat :: st.auxpk } := by
  have hj : (ci == j) = false := by rw [beq_eq_false_iff_ne]; exact h1
  have h0 : (ci == 0) = false := by rw [beq_eq_false_iff_ne]; exact h2
  rw [popLoop, if_neg (by simp; omega)]
  simp only [bind, Except.bind, hci, hj, h0, Bool.false_eq_true, if_false]

theorem popLoop_skip (ct : Array Nat) (j : Nat) (a : Int) (pda : List Int) (nf : Nat) (mf : Int) (st : C2W) (oi : Nat)
    (ha : 0 ≤ a) (hci : rdNat st.cct a = .ok 0) (hj : j ≠ 0) (hoi : rdNat ct a = .ok oi) :
    popLoop false ct j (a :: pda) nf mf st =
      popLoop false ct j pda nf mf (if oi == 0 then { st with auxss := a.toNat :: st.auxss } else st) := by
  have hj' : ((0 : Nat) == j) = false := by rw [beq_eq_false_iff_ne]; exact Ne.symm hj
  rw [popLoop, if_neg (by simp; omega)]
  simp only [bind, Except.bind, hci, hj', hoi, beq_self_eq_true, Bool.false_eq_true, if_false, if_true]

theorem popLoop_skip_simple (ct : Array Nat) (j : Nat) (a : Int) (pda : List Int) (nf : Nat) (mf : Int) (st : C2W) (oi : Nat)
    (hci : rdNat st.cct a = .ok 0) (hj : j ≠ 0) (hoi : rdNat ct a = .ok oi) :
    popLoop true ct j (a :: pda) nf mf st =
      (if oi == 0 then wrSs st.ss (a - 1) 0x2e else .ok st.ss).bind fun ss =>
        popLoop true ct j pda nf mf { st with ss := ss } := by
  have hj' : ((0 : Nat) == j) = false := by rw [beq_eq_false_iff_ne]; exact Ne.symm hj
  rw [popLoop, if_neg (by simp)]
  simp only [bind, Except.bind, hci, hj', hoi, beq_self_eq_true, Bool.false_eq_true, if_false, if_true]

theorem popLoop_found (ct : Array Nat) (j : Nat) (a : Int) (pda : List Int) (nf : Nat) (mf : Int) (st : C2W)
    (o c : UInt8) (ss1 ss2 ss3 : Array UInt8) (ha : 0 ≤ a) (hci : rdNat st.cct a = .ok j)
    (hoc : faceChars (if nf > 1 && mf > -4 then mf - 1 else mf) = .ok (o, c))
    (h1 : wrSs st.ss (a - 1) o = .ok ss1) (h2 : wrSs ss1 ((j : Int) - 1) c = .ok ss2)
    (h3 : drainAuxss nf st.auxss ss2 = .ok ss3) :
    popLoop false ct j (a :: pda) nf mf st =
      .ok (true, (if nf > 1 && mf > -4 then mf - 1 else mf) :: pda,
           { st with ss := ss3, auxss := [], reached := st.reached + 1 }) := by
  unfold faceChars at hoc
  rw [popLoop, if_neg (by simp; omega)]
  simp only [bind, Except.bind, pure, Except.pure, hci, beq_self_eq_true, if_true, Bool.false_eq_true, if_false, hoc,
    h1, h2, h3]

theorem popLoop_found_simple (ct : Array Nat) (j : Nat) (a : Int) (pda : List Int) (nf : Nat) (mf : Int) (st : C2W)
    (ss1 ss2 : Array UInt8) (hci : rdNat st.cct a = .ok j)
    (h1 : wrSs st.ss (a - 1) chLt = .ok ss1) (h2 : wrSs ss1 ((j : Int) - 1) chGt = .ok ss2) :
    popLoop true ct j (a :: pda) nf mf st = .ok (true, pda, { st with ss := ss2, reached := st.reached + 1 }) := by
  rw [popLoop, if_neg (by simp)]
  simp only [bind, Except.bind, pure, Except.pure, hci, beq_self_eq_true, if_true, h1, h2]

theorem rdInt_ok_inv {a : Array Int} {i r : Int} (h : rdInt a i = .ok r) :
    0 ≤ i ∧ i.toNat < a.size ∧ r = a.getD i.toNat 0 := by
  unfold rdInt at h
  split at h
  · rename_i hc; injection h with h; exact ⟨hc.1, hc.2, h.symm⟩
  · cases h

theorem rdInt_toList (rb : List Int) (x : Int) (h0 : 0 ≤ x) (h : x.toNat < rb.length) :
    rdInt rb.toArray x = .ok (rb.getD x.toNat 0) := by
  unfold rdInt
  rw [if_pos ⟨h0, by simpa using h⟩]
  simp [Array.getD, List.getD_eq_getElem?_getD, h]

theorem wrNat_toArray (l : List Nat) (i : Int) (v : Nat) (h0 : 0 ≤ i) (h : i.toNat < l.length) :
    wrNat l.toArray i v = .ok (l.set i.toNat v).toArray := by
  unfold wrNat
  rw [if_pos ⟨h0, by simpa using h⟩]
  simp

theorem wrSs_eq (a : Array UInt8) (i : Int) (v : UInt8) (h0 : 0 ≤ i) (h : i.toNat < a.size) :
    wrSs a i v = .ok (a.setIfInBounds i.toNat v) := by
  unfold wrSs; rw [if_pos ⟨h0, h⟩]

/-- reads and writes at a position given as a natural number: the bounds test of the model is a test on that number -/
theorem rdNat_nat (l : List Nat) (p : Nat) (h : p < l.length) : rdNat l.toArray (p : Int) = .ok (l.getD p 0) := by
  rw [rdNat_toArray l p (Int.natCast_nonneg p) (by rw [Int.toNat_natCast]; exact h), Int.toNat_natCast]

theorem wrNat_nat (l : List Nat) (p v : Nat) (h : p < l.length) : wrNat l.toArray (p : Int) v = .ok (l.set p v).toArray := by
  rw [wrNat_toArray l p v (Int.natCast_nonneg p) (by rw [Int.toNat_natCast]; exact h), Int.toNat_natCast]

/-- the cell of the 1-based position `p` -/
theorem wrSs_pos (a : Array UInt8) (p : Nat) (v : UInt8) (h1 : 1 ≤ p) (h : p ≤ a.size) :
    wrSs a ((p : Int) - 1) v = .ok (a.setIfInBounds (p - 1) v) := by
  rw [wrSs_eq a _ v (by omega) (by omega), show ((p : Int) - 1).toNat = p - 1 by omega]

theorem ssAt_set_self (a : Array UInt8) (q : Nat) (v : UInt8) (h : q < a.size) : ssAt (a.setIfInBounds q v) q = v := by
  simp only [ssAt, Array.toList_setIfInBounds]
  exact getD_set_self _ _ _ _ (by simpa using h)

theorem ssAt_set_ne (a : Array UInt8) (q q' : Nat) (v : UInt8) (h : q ≠ q') : ssAt (a.setIfInBounds q v) q' = ssAt a q' := by
  simp only [ssAt, Array.toList_setIfInBounds]
  exact getD_set_ne _ _ _ _ _ h

/-- the cells after the partner `i` of `j` has been found: `o`, `c` written at the two ends, then the unpaired positions
    `L` relabelled (`L = []` in `esl_ct2simplewuss`) -/
theorem found_cells {n : Nat} {ct : List Nat} {i j : Nat} {s0 ss3 : Array UInt8} {o c : UInt8} {L : List Nat}
    (hi : 1 ≤ i ∧ i < j) (hjn : j ≤ s0.size) (hci : ct.getD i 0 = j) (hcj : ct.getD j 0 = i)
    (hoc : isOpenBr o = true ∧ c = closerOf o) (hL : ∀ p ∈ L, 1 ≤ p ∧ p ≤ n ∧ ct.getD p 0 = 0)
    (d : ss3.size = ((s0.setIfInBounds (i-1) o).setIfInBounds (j-1) c).size ∧
         (∀ p ∈ L, isUnpairedSym (ssAt ss3 (p-1)) = true) ∧
         (∀ q, q + 1 ∉ L → ssAt ss3 q = ssAt ((s0.setIfInBounds (i-1) o).setIfInBounds (j-1) c) q)) :
    ss3.size = s0.size ∧
    (isOpenBr (ssAt ss3 (i-1)) = true ∧ ssAt ss3 (j-1) = closerOf (ssAt ss3 (i-1))) ∧
    SameOff ct (fun a => a = 0 ∨ a = i) s0 ss3 ∧
    (∀ q, q < n → ct.getD (q+1) 0 = 0 → isUnpairedSym (ssAt s0 q) = true → isUnpairedSym (ssAt ss3 q) = true) := by
  have hcti : ct.getD i 0 ≠ 0 := by omega
  have hctj : ct.getD j 0 ≠ 0 := by omega
  -- a cell outside the pair `(i, j)` and the unpaired positions
  have hoff : ∀ p, 1 ≤ p → ¬ (leftEnd ct p = 0 ∨ leftEnd ct p = i) → i - 1 ≠ p - 1 ∧ j - 1 ≠ p - 1 ∧ ct.getD p 0 ≠ 0 := by
    intro p hp hT
    unfold leftEnd at hT
    refine ⟨fun e => hT (Or.inr ?_), fun e => hT (Or.inr ?_), fun e => hT (Or.inl (by omega))⟩
    · have : p = i := by omega
      subst this; omega
    · have : p = j := by omega
      subst this; omega
  clear hci hcj
  have hei : i - 1 + 1 = i := by omega
  have hej : j - 1 + 1 = j := by omega
  have hi_not : (i - 1) + 1 ∉ L := fun hm => hcti (by rw [← hei]; exact (hL _ hm).2.2)
  have hj_not : (j - 1) + 1 ∉ L := fun hm => hctj (by rw [← hej]; exact (hL _ hm).2.2)
  have r_i : ssAt ss3 (i-1) = o := by rw [d.2.2 _ hi_not, ssAt_set_ne _ _ _ _ (by omega), ssAt_set_self _ _ _ (by omega)]
  have r_j : ssAt ss3 (j-1) = c := by rw [d.2.2 _ hj_not, ssAt_set_self _ _ _ (by rw [Array.size_setIfInBounds]; omega)]
  refine ⟨by rw [d.1, Array.size_setIfInBounds, Array.size_setIfInBounds], by rw [r_i, r_j]; exact hoc, ?_, ?_⟩
  · intro p hp hT
    obtain ⟨a1, a2, a3⟩ := hoff p hp hT
    have hq_not : p - 1 + 1 ∉ L := fun hm => a3 (by have := (hL _ hm).2.2; rwa [Nat.sub_add_cancel hp] at this)
    rw [d.2.2 _ hq_not, ssAt_set_ne _ _ _ _ a2, ssAt_set_ne _ _ _ _ a1]
  · intro q _ hq0 hqu
    by_cases hm : q + 1 ∈ L
    · simpa using d.2.1 _ hm
    · have hq1 : i - 1 ≠ q := by intro e; rw [← e, hei] at hq0; exact hcti hq0
      have hq2 : j - 1 ≠ q := by intro e; rw [← e, hej] at hq0; exact hctj hq0
      rw [d.2.2 q hm, ssAt_set_ne _ _ _ _ hq2, ssAt_set_ne _ _ _ _ hq1]; exact hqu

/-- The pop loop of a right end `j` (partner `i = cct[j]`) on an arbitrary table cannot fail and finds the partner; what
    stays on the stack above `below` are face markers only. -/
theorem popLoop_total (simple : Bool) (n : Nat) (ct cct : List Nat) (hlen : ct.length = n + 1) (hclen : cct.length = n + 1)
    (j i : Nat) (below : List Int) (hj : 1 ≤ j ∧ j ≤ n) (hi : 1 ≤ i ∧ i < j) (hij : cct.getD i 0 = j)
    (hcti : ct.getD i 0 = j) (hctj : ct.getD j 0 = i) :
    ∀ (above : List Int) (nf : Nat) (mf : Int) (st : C2W),
      (∀ a ∈ above, (simple = false ∧ a < 0 ∧ -4 ≤ a) ∨
        (∃ p : Nat, a = p ∧ 1 ≤ p ∧ p ≤ n ∧ cct.getD p 0 ≠ j)) →
      -4 ≤ mf → mf ≤ -1 → st.cct = cct.toArray → st.ss.size = n →
      (∀ p ∈ st.auxss, 1 ≤ p ∧ p ≤ n ∧ ct.getD p 0 = 0) →
      ∃ hd st1, popLoop simple ct.toArray j (above ++ (i : Int) :: below) nf mf st = .ok (true, hd ++ below, st1) ∧
        (∀ a ∈ hd, a < 0 ∧ -4 ≤ a) ∧ (simple = true → hd = []) ∧
        st1.cct = cct.toArray ∧ st1.auxpk = (pkOfAbove cct above).reverse ++ st.auxpk ∧
        st1.auxss = (if simple = true then st.auxss else []) ∧ st1.ss.size = n ∧ st1.rb = st.rb ∧
        (isOpenBr (ssAt st1.ss (i-1)) = true ∧ ssAt st1.ss (j-1) = closerOf (ssAt st1.ss (i-1))) ∧
        SameOff ct (fun a => a = 0 ∨ a = i) st.ss st1.ss ∧
        (∀ q, q < n → ct.getD (q+1) 0 = 0 → isUnpairedSym (ssAt st.ss q) = true →
          isUnpairedSym (ssAt st1.ss q) = true) ∧
        st1.reached = st.reached + 1 := by
  intro above
  induction above with
  | nil =>
    intro nf mf st _ hmf1 hmf2 hcct hsz haux
    have hci : rdNat st.cct (i : Int) = .ok j := by rw [hcct, rdNat_nat cct i (by omega), hij]
    have hsz2 : ∀ o : UInt8, j ≤ (st.ss.setIfInBounds (i - 1) o).size := fun o => by rw [Array.size_setIfInBounds]; omega
    rw [List.nil_append]
    cases simple with
    | true =>
      have fc := found_cells (n := n) (s0 := st.ss) (L := []) hi (by omega) hcti hctj (by decide : isOpenBr chLt = true ∧ chGt = closerOf chLt)
        (by simp) ⟨rfl, by simp, fun _ _ => rfl⟩
      exact ⟨[], _, popLoop_found_simple _ j _ below nf mf st _ _ hci (wrSs_pos st.ss i _ hi.1 (by omega))
        (wrSs_pos _ j _ (by omega) (hsz2 _)), by simp, fun _ => rfl, hcct,
        by simp [pkOfAbove], rfl, by rw [← hsz]; exact fc.1, rfl, fc.2.1, fc.2.2.1, fc.2.2.2, rfl⟩
    | false =>
      have hmfv : -4 ≤ (if (decide (nf > 1) && decide (mf > -4)) = true then mf - 1 else mf) ∧
          (if (decide (nf > 1) && decide (mf > -4)) = true then mf - 1 else mf) ≤ -1 := by
        split
        · rename_i hc
          simp only [Bool.and_eq_true, decide_eq_true_eq] at hc
          omega
        · omega
      obtain ⟨⟨o, c⟩, hoc⟩ := faceChars_ok _ hmfv.1 hmfv.2
      have hoc' := faceChars_ok_inv hoc
      obtain ⟨ss3, h3, d⟩ := drainAuxss_total nf st.auxss ((st.ss.setIfInBounds (i - 1) o).setIfInBounds (j - 1) c)
        (fun p hp => by
          have := haux p hp
          rw [Array.size_setIfInBounds, Array.size_setIfInBounds, hsz]; exact ⟨this.1, this.2.1⟩)
      have fc := found_cells (n := n) (s0 := st.ss) hi (by omega) hcti hctj ⟨hoc'.2.2.1, hoc'.2.2.2.1⟩ haux d
      exact ⟨[_], _, popLoop_found _ j _ below nf mf st o c _ _ ss3 (by omega) hci hoc (wrSs_pos st.ss i _ hi.1 (by omega))
          (wrSs_pos _ j _ (by omega) (hsz2 _)) h3,
        by intro a ha; rw [List.mem_singleton] at ha; subst ha; exact ⟨by omega, hmfv.1⟩, (fun h => by cases h), hcct,
        by simp [pkOfAbove], rfl, by rw [← hsz]; exact fc.1, rfl, fc.2.1, fc.2.2.1, fc.2.2.2, rfl⟩
  | cons a above ih =>
    intro nf mf st habove hmf1 hmf2 hcct hsz haux
    have habove' : ∀ a' ∈ above, (simple = false ∧ a' < 0 ∧ -4 ≤ a') ∨
        (∃ p : Nat, a' = p ∧ 1 ≤ p ∧ p ≤ n ∧ cct.getD p 0 ≠ j) :=
      fun a' h' => habove a' (by simp [h'])
    rw [List.cons_append]
    rcases habove a (by simp) with ⟨hs, hneg, hge⟩ | ⟨p, rfl, h1, h2, h3⟩
    · -- a face marker
      subst hs
      have hpk : pkOfAbove cct (a :: above) = pkOfAbove cct above := by
        simp only [pkOfAbove]; rw [if_neg (fun hh => by omega)]
      rw [popLoop_marker _ j a _ nf mf st hneg, hpk]
      exact ih (nf+1) (if a < mf then a else mf) st habove' (by split <;> omega) (by split <;> omega) hcct hsz haux
    · have hnn : 0 ≤ (p : Int) := Int.natCast_nonneg p
      have hci : rdNat st.cct (p : Int) = .ok (cct.getD p 0) := by rw [hcct]; exact rdNat_nat cct p (by omega)
      have hpk : pkOfAbove cct ((p : Int) :: above) =
          if cct.getD p 0 ≠ 0 then p :: pkOfAbove cct above else pkOfAbove cct above := by
        simp only [pkOfAbove, Int.toNat_natCast, hnn, true_and]
      rw [hpk]
      by_cases hz : cct.getD p 0 = 0
      · -- working entry 0: a truly unpaired residue is labelled (put aside), the end of a lettered pair is skipped
        have hoi := rdNat_nat ct p (by omega)
        rw [hz] at hci
        rw [if_neg (fun h => h hz)]
        cases simple with
        | false =>
          rw [popLoop_skip _ j _ _ nf mf st _ hnn hci (by omega) hoi, Int.toNat_natCast]
          by_cases ho : ct.getD p 0 = 0
          · rw [ho]
            exact ih nf mf _ habove' hmf1 hmf2 hcct hsz (by
              intro q hq
              rcases List.mem_cons.mp hq with rfl | hq
              · exact ⟨h1, h2, ho⟩
              · exact haux q hq)
          · have hb : (ct.getD p 0 == 0) = false := by rw [beq_eq_false_iff_ne]; exact ho
            rw [hb]
            exact ih nf mf st habove' hmf1 hmf2 hcct hsz haux
        | true =>
          rw [popLoop_skip_simple _ j _ _ nf mf st _ hci (by omega) hoi]
          by_cases ho : ct.getD p 0 = 0
          · rw [ho, beq_self_eq_true, if_pos rfl, wrSs_pos st.ss p _ h1 (by omega)]
            obtain ⟨hd, st1, g0, g1, g2, g3, g4, g5, g6, g7, g8, g9, g10, g11⟩ :=
              ih nf mf { st with ss := st.ss.setIfInBounds (p - 1) 0x2e } habove' hmf1 hmf2 hcct
                (by rw [Array.size_setIfInBounds]; exact hsz) haux
            refine ⟨hd, st1, g0, g1, g2, g3, g4, g5, g6, g7, g8, ?_, ?_, g11⟩
            · intro q hq hT
              rw [g9 q hq hT]
              apply ssAt_set_ne
              intro e
              apply hT; left
              have : q = p := by omega
              unfold leftEnd; rw [this, ho]; omega
            · intro q hqn hq0 hqu
              apply g10 q hqn hq0
              show isUnpairedSym (ssAt (st.ss.setIfInBounds (p - 1) 0x2e) q) = true
              by_cases e : p - 1 = q
              · rw [← e, ssAt_set_self _ _ _ (by omega)]; decide
              · rw [ssAt_set_ne _ _ _ _ e]; exact hqu
          · have hb : (ct.getD p 0 == 0) = false := by rw [beq_eq_false_iff_ne]; exact ho
            rw [hb]
            exact ih nf mf st habove' hmf1 hmf2 hcct hsz haux
      · -- still paired, not to j: a pseudoknot; moved to auxpk
        rw [popLoop_pk simple _ j _ _ nf mf st _ hnn hci h3 hz, if_pos hz, Int.toNat_natCast]
        have := ih nf mf { st with auxpk := p :: st.auxpk } habove' hmf1 hmf2 hcct hsz haux
        simp only [List.reverse_cons, List.append_assoc, List.singleton_append]
        exact this

/-- the scan `for (k = hi-1; k > leftbound; k--)` cannot fault; either it ends on `lb` ("a new pseudoknot"), or it stops below
    `hi` on the partner of `i` after skipping only positions that are unpaired in the working table or paired beyond `rbd` -/
theorem scanK_total (cct : List Nat) (i lb rbd : Nat) :
    ∀ (fuel hi : Nat), lb < hi → hi ≤ cct.length → hi - lb ≤ fuel + 1 →
      ∃ r : Nat, scanK cct.toArray i lb rbd fuel ((hi : Int) - 1) = .ok (r : Int) ∧
        (r = lb ∨ (lb < r ∧ r < hi ∧ cct.getD r 0 = i ∧ i ≠ 0 ∧ i ≤ rbd ∧
          ∀ k2, r < k2 → k2 < hi → (cct.getD k2 0 = 0 ∨ rbd < cct.getD k2 0))) := by
  intro fuel
  induction fuel with
  | zero => intro hi h1 _ hf; exact ⟨hi - 1, by rw [scanK]; congr 1; omega, Or.inl (by omega)⟩
  | succ fuel ih =>
    intro hi h1 hkl hf
    have ek : (hi : Int) - 1 = ((hi - 1 : Nat) : Int) := by omega
    unfold scanK
    by_cases hgt : lb < hi - 1
    · -- a skipped position extends the skipped stretch of the rest of the scan
      have skip : (cct.getD (hi - 1) 0 = 0 ∨ rbd < cct.getD (hi - 1) 0) →
          ∃ r : Nat, scanK cct.toArray i lb rbd fuel (((hi - 1 : Nat) : Int) - 1) = .ok (r : Int) ∧
            (r = lb ∨ (lb < r ∧ r < hi ∧ cct.getD r 0 = i ∧ i ≠ 0 ∧ i ≤ rbd ∧
              ∀ k2, r < k2 → k2 < hi → (cct.getD k2 0 = 0 ∨ rbd < cct.getD k2 0))) := by
        intro hsk
        obtain ⟨r, hr, h | h⟩ := ih (hi - 1) hgt (by omega) (by omega)
        · exact ⟨r, hr, Or.inl h⟩
        · refine ⟨r, hr, Or.inr ⟨h.1, by omega, h.2.2.1, h.2.2.2.1, h.2.2.2.2.1, fun k2 a b => ?_⟩⟩
          by_cases h2 : k2 < hi - 1
          · exact h.2.2.2.2.2 k2 a h2
          · rw [show k2 = hi - 1 by omega]; exact hsk
      rw [ek, if_pos (by omega)]
      simp only [bind, Except.bind, rdNat_nat cct (hi - 1) (by omega)]
      split
      · rename_i hz; exact skip (Or.inl (by simpa using hz))
      · split
        · rename_i _ hbig; exact skip (Or.inr (by omega))
        · rename_i hnz hnb
          split
          · rename_i heq
            have heq' : cct.getD (hi - 1) 0 = i := by simpa using heq
            have hnz' : cct.getD (hi - 1) 0 ≠ 0 := by simpa using hnz
            exact ⟨hi - 1, rfl, Or.inr ⟨hgt, by omega, heq', by omega, by omega, fun k2 a b => by omega⟩⟩
          · exact ⟨lb, rfl, Or.inl rfl⟩
    · rw [ek, if_neg (by omega)]; exact ⟨hi - 1, rfl, Or.inl (by omega)⟩

/-- `while (xpk < 26 && i < rb[xpk]) xpk++` from `xpk ≥ 0`: it ends on the first index from `xpk` on whose right bound does
    not reach beyond `i`, or on 26 -/
theorem bumpXpk_total (rb : List Int) (i : Nat) (hrb : rb.length = 26) :
    ∀ (fuel : Nat) (xpk : Int), 0 ≤ xpk → xpk ≤ 26 → (26 - xpk).toNat < fuel →
      ∃ x, bumpXpk rb.toArray i fuel xpk = .ok x ∧ xpk ≤ x ∧ x ≤ 26 ∧ (x < 26 → rb.getD x.toNat 0 ≤ (i : Int)) ∧
        ∀ x' : Int, xpk ≤ x' → x' < x → (i : Int) < rb.getD x'.toNat 0 := by
  intro fuel
  induction fuel with
  | zero => intro xpk _ _ hf; omega
  | succ fuel ih =>
    intro xpk h0 h26 hf
    unfold bumpXpk
    by_cases hlt : xpk < 26
    · rw [if_pos hlt]
      simp only [bind, Except.bind, rdInt_toList rb xpk h0 (by omega)]
      split
      · rename_i hi
        obtain ⟨x, hx, h1, h2, h3, h4⟩ := ih (xpk+1) (by omega) (by omega) (by omega)
        refine ⟨x, hx, by omega, h2, h3, fun x' a b => ?_⟩
        by_cases he : x' = xpk
        · rw [he]; exact hi
        · exact h4 x' (by omega) b
      · exact ⟨xpk, rfl, Int.le_refl _, h26, fun _ => by omega, fun x' a b => by omega⟩
    · rw [if_neg hlt]; exact ⟨xpk, rfl, Int.le_refl _, h26, fun hx => by omega, fun x' a b => by omega⟩

/-! ### `scanK` and `bumpXpk` on any table, read back from a result -/

/-- the scan `for (k = rightbound-1; k > leftbound; k--)`: either it ends on `leftbound` ("a new pseudoknot"), or it
    stops on the partner of `i` after skipping only positions that are unpaired in the working table or paired beyond
    `rightbound` -/
theorem scanK_spec (cct : List Nat) (i : Nat) (lb rbd : Int) :
    ∀ (fuel : Nat) (k r : Int), lb ≤ k → (k - lb).toNat ≤ fuel → scanK cct.toArray i lb rbd fuel k = .ok r →
      r = lb ∨ (lb < r ∧ r ≤ k ∧ 0 ≤ r ∧ cct.getD r.toNat 0 = i ∧ i ≠ 0 ∧ (i : Int) ≤ rbd ∧
                ∀ k2 : Int, r < k2 → k2 ≤ k → (cct.getD k2.toNat 0 = 0 ∨ (cct.getD k2.toNat 0 : Int) > rbd)) := by
  intro fuel
  induction fuel with
  | zero =>
    intro k r hk hf h
    simp only [scanK] at h
    injection h with h
    left; omega
  | succ fuel ih =>
    intro k r hk hf h
    unfold scanK at h
    by_cases hgt : k > lb
    · rw [if_pos hgt] at h
      simp only [bind, Except.bind] at h
      split at h
      · cases h
      · rename_i ck hck
        have hr := rdNat_ok_inv hck
        have hv : ck = cct.getD k.toNat 0 := by
          have h' := rdNat_toArray cct k hr.1 (by simpa using hr.2.1)
          rw [h'] at hck; injection hck with hck; exact hck.symm
        split at h
        · rename_i hz
          have hz' : ck = 0 := by simpa using hz
          rcases ih (k-1) r (by omega) (by omega) h with h1 | h1
          · exact Or.inl h1
          · right
            refine ⟨h1.1, by omega, h1.2.2.1, h1.2.2.2.1, h1.2.2.2.2.1, h1.2.2.2.2.2.1, ?_⟩
            intro k2 hk2 hk2'
            by_cases h2 : k2 < k
            · exact h1.2.2.2.2.2.2 k2 hk2 (by omega)
            · have : k2 = k := by omega
              subst this; left; rw [← hv]; exact hz'
        · split at h
          · rename_i _ hbig
            have hbig' : (ck : Int) > rbd := by simpa using hbig
            rcases ih (k-1) r (by omega) (by omega) h with h1 | h1
            · exact Or.inl h1
            · right
              refine ⟨h1.1, by omega, h1.2.2.1, h1.2.2.2.1, h1.2.2.2.2.1, h1.2.2.2.2.2.1, ?_⟩
              intro k2 hk2 hk2'
              by_cases h2 : k2 < k
              · exact h1.2.2.2.2.2.2 k2 hk2 (by omega)
              · have : k2 = k := by omega
                subst this; right; rw [← hv]; exact hbig'
          · split at h
            · rename_i hnz hnb heq
              have heq' : ck = i := by simpa using heq
              have hnz' : ck ≠ 0 := by simpa using hnz
              have hnb' : ¬ ((ck : Int) > rbd) := by simpa using hnb
              injection h with h; subst h
              right
              refine ⟨hgt, Int.le_refl _, hr.1, by rw [← hv]; exact heq', by rw [← heq']; exact hnz', by rw [← heq']; omega, ?_⟩
              intro k2 h1 h2; omega
            · injection h with h; exact Or.inl h.symm
    · rw [if_neg hgt] at h
      injection h with h
      left; omega

theorem scanK_noerr (cct : List Nat) (i : Nat) (lb rbd : Int) (hlb : 0 ≤ lb) :
    ∀ (fuel : Nat) (k : Int) (e : WErr), k.toNat < cct.length → scanK cct.toArray i lb rbd fuel k ≠ .error e := by
  intro fuel
  induction fuel with
  | zero => intro k e _ h; simp only [scanK] at h; cases h
  | succ fuel ih =>
    intro k e hk h
    unfold scanK at h
    by_cases hgt : k > lb
    · rw [if_pos hgt] at h
      simp only [bind, Except.bind] at h
      rw [rdNat_toArray cct k (by omega) hk] at h
      simp only at h
      split at h
      · exact ih (k-1) e (by omega) h
      · split at h
        · exact ih (k-1) e (by omega) h
        · split at h <;> cases h
    · rw [if_neg hgt] at h; cases h

/-- with `rightbound = leftbound + 1` (the first item of a batch) the scan does not run: "a new pseudoknot" -/
theorem scanK_first (cct : Array Nat) (i : Nat) (lb : Int) (fuel : Nat) : scanK cct i lb (lb + 1) (fuel + 1) (lb + 1 - 1) = .ok lb := by
  unfold scanK
  have : ¬ (lb + 1 - 1 > lb) := by omega
  rw [if_neg this]
  congr 1; omega

/-- `while (xpk < 26 && i < rb[xpk]) xpk++` -/
theorem bumpXpk_spec (rb : Array Int) (i : Nat) : ∀ (fuel : Nat) (xpk x : Int), 0 ≤ xpk →
    bumpXpk rb i fuel xpk = .ok x → xpk ≤ x ∧ (x < 26 → rb.getD x.toNat 0 ≤ (i : Int)) := by
  intro fuel
  induction fuel with
  | zero => intro xpk x _ h; simp only [bumpXpk] at h; cases h
  | succ fuel ih =>
    intro xpk x h0 h
    unfold bumpXpk at h
    split at h
    · simp only [bind, Except.bind] at h
      split at h
      · cases h
      · rename_i r hr
        have hv := rdInt_ok_inv hr
        split at h
        · have := ih (xpk+1) x (by omega) h
          exact ⟨by omega, this.2⟩
        · rename_i hlt
          injection h with h; subst h
          exact ⟨Int.le_refl _, fun _ => by rw [← hv.2.2]; omega⟩
    · injection h with h; subst h
      exact ⟨Int.le_refl _, fun hx => by omega⟩

/-- `while (xpk < 26 && i < rb[xpk]) xpk++`: every index skipped has `i < rb[.]` -/
theorem bumpXpk_between (rb : Array Int) (i : Nat) : ∀ (fuel : Nat) (xpk x : Int), 0 ≤ xpk →
    bumpXpk rb i fuel xpk = .ok x → ∀ x' : Int, xpk ≤ x' → x' < x → (i : Int) < rb.getD x'.toNat 0 := by
  intro fuel
  induction fuel with
  | zero => intro xpk x _ h; simp only [bumpXpk] at h; cases h
  | succ fuel ih =>
    intro xpk x h0 h x' h1 h2
    unfold bumpXpk at h
    split at h
    · simp only [bind, Except.bind] at h
      split at h
      · cases h
      · rename_i r hr
        have hv := rdInt_ok_inv hr
        split at h
        · rename_i hlt
          by_cases he : x' = xpk
          · subst he; rw [← hv.2.2]; exact hlt
          · exact ih (xpk+1) x (by omega) h x' (by omega) h2
        · injection h with h; subst h; omega
    · injection h with h; subst h; omega

/-! ### one turn of the lettering loop: the scan, the choice of letter and bounds (`pkChoose`), the writes (`pkWrite`) -/

/-- letter and bounds for item `i` (partner `ci`) when the scan ended on `k`: a new pseudoknot takes the first letter whose
    right bound does not reach beyond `i`; a continued one keeps letter and bounds -/
def pkChoose (st : C2W) (j i ci : Nat) (lb rbd xpk k : Int) : Except WErr (Int × Int × Int) :=
  if k == lb then do
    let xpk ← bumpXpk st.rb i 64 (xpk + 1)
    let cj ← rdNat st.cct j
    let lb : Int := if rbd < (ci : Int) then rbd else (cj : Int)
    pure (xpk, lb, (ci : Int))
  else pure (xpk, lb, rbd)

/-- the writes for item `i` (partner `ci`) lettered `xpk`, followed by the rest of the batch -/
def pkWrite (ct : Array Nat) (j : Nat) (rest : List Nat) (i ci : Nat) (lb rbd xpk : Int) (st : C2W) : Except WErr C2W :=
  if xpk + 97 ≤ 122 then do
    let r ← rdInt st.rb xpk
    let rb := if (ci : Int) > r then st.rb.setIfInBounds xpk.toNat (ci : Int) else st.rb
    let ss ← wrSs st.ss ((i : Int) - 1) (UInt8.ofNat (xpk + 65).toNat)
    let ss ← wrSs ss ((ci : Int) - 1) (UInt8.ofNat (xpk + 97).toNat)
    let cct ← wrNat st.cct i 0
    let oi ← rdNat ct i
    let cct ← wrNat cct oi 0
    pkLoop ct j rest lb rbd xpk { st with rb := rb, ss := ss, cct := cct, reached := st.reached + 1 }
  else .error (.einvalLetters st.ss.toList)

theorem pkLoop_cons_eq (ct : Array Nat) (j i : Nat) (rest : List Nat) (lb rbd xpk : Int) (st : C2W) :
    pkLoop ct j (i :: rest) lb rbd xpk st = (do
      let k ← scanK st.cct i lb rbd (st.cct.size + 2) (rbd - 1)
      let ci ← rdNat st.cct i
      let t ← pkChoose st j i ci lb rbd xpk k
      pkWrite ct j rest i ci t.2.1 t.2.2 t.1 st) := by
  rw [pkLoop]; rfl

/-- right bound of letter `x` raised to cover a pair that ends at `c` -/
def raiseRb (rb : List Int) (x : Int) (c : Nat) : List Int :=
  if (c : Int) > rb.getD x.toNat 0 then rb.set x.toNat (c : Int) else rb

/-- the state after the pair `(i, ct[i])` has been given letter `x` -/
def lettered (ct cct : List Nat) (rb : List Int) (st : C2W) (i : Nat) (x : Int) : C2W :=
  { st with rb := (raiseRb rb x (ct.getD i 0)).toArray
            ss := (st.ss.setIfInBounds (i - 1) (UInt8.ofNat (x + 65).toNat)).setIfInBounds (ct.getD i 0 - 1)
                    (UInt8.ofNat (x + 97).toNat)
            cct := ((cct.set i 0).set (ct.getD i 0) 0).toArray
            reached := st.reached + 1 }

/-- what the lettering loop needs to run without a bounds fault: the tables as lists; the items increasing left ends below
    `j`, still paired in the working table, with partners beyond `j`; the scan bounds inside the table, `leftbound` below
    `rightbound` (a new pseudoknot falls back to `cct[j] < j`); and either no letter yet (then the first scan is empty) or a
    letter in use -/
structure PkRun (n : Nat) (ct cct : List Nat) (rb : List Int) (j : Nat) (items : List Nat) (lb rbd : Nat) (xpk : Int)
    (st : C2W) : Prop where
  hcct : st.cct = cct.toArray
  hrb : st.rb = rb.toArray
  ctlen : ct.length = n + 1
  clen : cct.length = n + 1
  rblen : rb.length = 26
  sssize : st.ss.size = n
  jn : j ≤ n
  sorted : items.Pairwise (· < ·)
  item : ∀ a ∈ items, 1 ≤ a ∧ a < j ∧ cct.getD a 0 = ct.getD a 0 ∧ j < ct.getD a 0 ∧ ct.getD a 0 ≤ n
  rbdn : rbd ≤ n
  lbr : lb < rbd
  cj : cct.getD j 0 < j
  letter : (xpk = -1 ∧ rbd = lb + 1) ∨ (0 ≤ xpk ∧ xpk ≤ 25)


theorem raiseRb_toArray (rb : List Int) (x : Int) (c : Nat) :
    (if (c : Int) > rb.getD x.toNat 0 then rb.toArray.setIfInBounds x.toNat (c : Int) else rb.toArray)
      = (raiseRb rb x c).toArray := by
  unfold raiseRb; split <;> simp

theorem raiseRb_length (rb : List Int) (x : Int) (c : Nat) : (raiseRb rb x c).length = rb.length := by
  unfold raiseRb; split <;> simp

/-- What one turn of the lettering loop decides for item `i`. The scan ends on `k`: on `lb` ("a new pseudoknot"), or on the
    partner of `i` after skipping only positions unpaired in the working table or paired beyond `rbd`. A new pseudoknot takes
    the first letter `x` after `xpk` whose right bound does not reach beyond `i`; a continued one keeps letter and bounds. -/
structure PkTurn (ct cct : List Nat) (rb : List Int) (i j lb rbd : Nat) (xpk : Int) (k : Nat) (x : Int) (lb' rbd' : Nat) :
    Prop where
  scan : k = lb ∨ (lb < k ∧ k < rbd ∧ cct.getD k 0 = i ∧ i ≠ 0 ∧ i ≤ rbd ∧
    ∀ k2, k < k2 → k2 < rbd → (cct.getD k2 0 = 0 ∨ rbd < cct.getD k2 0))
  choice : (k = lb ∧ xpk + 1 ≤ x ∧ (x < 26 → rb.getD x.toNat 0 ≤ (i : Int)) ∧
      (∀ x' : Int, xpk + 1 ≤ x' → x' < x → (i : Int) < rb.getD x'.toNat 0) ∧
      lb' = (if rbd < ct.getD i 0 then rbd else cct.getD j 0) ∧ rbd' = ct.getD i 0) ∨
    (k ≠ lb ∧ x = xpk ∧ lb' = lb ∧ rbd' = rbd)

/-- One turn of the lettering loop: with a letter left the batch goes on under `PkRun` from the state `lettered`; without one
    it ends. -/
theorem pkLoop_cons {n : Nat} {ct cct : List Nat} {rb : List Int} {j i : Nat} {rest : List Nat} {lb rbd : Nat} {xpk : Int}
    {st : C2W} (R : PkRun n ct cct rb j (i :: rest) lb rbd xpk st) :
    ∃ (k : Nat) (x : Int) (lb' rbd' : Nat), PkTurn ct cct rb i j lb rbd xpk k x lb' rbd' ∧ 0 ≤ x ∧ x ≤ 26 ∧
      (x ≤ 25 → PkRun n ct ((cct.set i 0).set (ct.getD i 0) 0) (raiseRb rb x (ct.getD i 0)) j rest lb' rbd' x
                  (lettered ct cct rb st i x)) ∧
      pkLoop ct.toArray j (i :: rest) lb rbd xpk st =
        if x ≤ 25 then pkLoop ct.toArray j rest lb' rbd' x (lettered ct cct rb st i x)
        else .error (.einvalLetters st.ss.toList) := by
  have hi := R.item i (by simp)
  have hsrt := List.pairwise_cons.mp R.sorted
  have hclen := R.clen
  have hrbdn := R.rbdn
  have hlbr := R.lbr
  have hcj := R.cj
  have hsz := R.sssize
  obtain ⟨k, hk, hsc⟩ := scanK_total cct i lb rbd (cct.length + 2) rbd hlbr (by omega) (by omega)
  have hx1 : 0 ≤ xpk + 1 ∧ xpk + 1 ≤ 26 := by rcases R.letter with ⟨h1, _⟩ | ⟨h1, h2⟩ <;> omega
  obtain ⟨x0, hbx, hx0, hx26, hrb0, hbtw⟩ := bumpXpk_total rb i R.rblen 64 (xpk + 1) hx1.1 hx1.2 (by omega)
  obtain ⟨x, lb', rbd', T, hch, hx0', hx26', hrbn', hlbr'⟩ : ∃ (x : Int) (lb' rbd' : Nat),
      PkTurn ct cct rb i j lb rbd xpk k x lb' rbd' ∧
      pkChoose st j i (ct.getD i 0) lb rbd xpk k = .ok (x, (lb' : Int), (rbd' : Int)) ∧ 0 ≤ x ∧ x ≤ 26 ∧
      rbd' ≤ n ∧ lb' < rbd' := by
    unfold pkChoose
    by_cases hkl : k = lb
    · refine ⟨x0, _, _, ⟨hsc, Or.inl ⟨hkl, hx0, hrb0, hbtw, rfl, rfl⟩⟩, ?_, by omega, hx26, by omega, ?_⟩
      · simp only [hkl, beq_self_eq_true, if_true, bind, Except.bind, pure, Except.pure, R.hrb, R.hcct, hbx,
          rdNat_nat cct j (by omega), Int.ofNat_lt, apply_ite Nat.cast]
      · split <;> omega
    · refine ⟨xpk, lb, rbd, ⟨hsc, Or.inr ⟨hkl, rfl, rfl, rfl⟩⟩, ?_, ?_, by omega, hrbdn, hlbr⟩
      · have : ((k : Int) == (lb : Int)) = false := by rw [beq_eq_false_iff_ne]; omega
        simp only [this, Bool.false_eq_true, if_false, pure, Except.pure]
      · -- before the first letter the scan is empty
        rcases R.letter with ⟨_, h2⟩ | ⟨h1, _⟩
        · rcases hsc with h | h
          · exact absurd h hkl
          · omega
        · exact h1
  refine ⟨k, x, lb', rbd', T, hx0', hx26', ?_, ?_⟩
  · intro hx25
    exact {
      hcct := rfl, hrb := rfl, ctlen := R.ctlen, clen := by simp [hclen]
      rblen := by rw [raiseRb_length]; exact R.rblen
      sssize := by simp [lettered, R.sssize]
      jn := R.jn, sorted := hsrt.2
      item := by
        intro a ha
        have hA := R.item a (by simp [ha])
        have hlt := hsrt.1 a ha
        refine ⟨hA.1, hA.2.1, ?_, hA.2.2.2⟩
        rw [getD_set_ne _ _ _ _ _ (by omega), getD_set_ne _ _ _ _ _ (by omega)]
        exact hA.2.2.1
      rbdn := hrbn', lbr := hlbr'
      cj := by rw [getD_set_ne _ _ _ _ _ (by omega), getD_set_ne _ _ _ _ _ (by omega)]; exact hcj
      letter := Or.inr ⟨hx0', hx25⟩ }
  · rw [pkLoop_cons_eq]
    simp only [bind, Except.bind, R.hcct, List.size_toArray, hk, rdNat_nat cct i (by omega), hi.2.2.1, hch]
    unfold pkWrite
    by_cases hx25 : x ≤ 25
    · rw [if_pos hx25, if_pos (by omega)]
      simp only [bind, Except.bind, R.hrb, R.hcct, rdInt_toList rb x hx0' (by rw [R.rblen]; omega),
        wrSs_pos st.ss i _ hi.1 (by omega),
        wrSs_pos (st.ss.setIfInBounds (i - 1) (UInt8.ofNat (x + 65).toNat)) (ct.getD i 0) _ (by omega)
          (by rw [Array.size_setIfInBounds]; omega),
        wrNat_nat cct i 0 (by omega), rdNat_nat ct i (by rw [R.ctlen]; omega),
        wrNat_nat (cct.set i 0) (ct.getD i 0) 0 (by rw [List.length_set]; omega), raiseRb_toArray]
      rfl
    · rw [if_neg hx25, if_neg (by omega)]

theorem getD_zeroPair_left (cct : List Nat) (i c : Nat) (hi : i < cct.length) (hne : i ≠ c) :
    ((cct.set i 0).set c 0).getD i 0 = 0 := by
  rw [getD_set_ne _ _ _ _ _ (Ne.symm hne), getD_set_self _ _ _ _ hi]

theorem getD_zeroPair_right (cct : List Nat) (i c : Nat) (hc : c < cct.length) : ((cct.set i 0).set c 0).getD c 0 = 0 :=
  getD_set_self _ _ _ _ (by rw [List.length_set]; exact hc)

theorem getD_zeroPair_other (cct : List Nat) (i c p : Nat) (h1 : p ≠ i) (h2 : p ≠ c) :
    ((cct.set i 0).set c 0).getD p 0 = cct.getD p 0 := by
  rw [getD_set_ne _ _ _ _ _ (Ne.symm h2), getD_set_ne _ _ _ _ _ (Ne.symm h1)]

/-- zeroing the pair `(i, ct i)` in the working table, read at any position -/
theorem getD_zeroPair {n : Nat} {ct : List Nat} (hct : CtOk n ct) (cct : List Nat) {i : Nat} (hi : i < ct.getD i 0)
    (hlen : ct.getD i 0 < cct.length) (p : Nat) :
    ((cct.set i 0).set (ct.getD i 0) 0).getD p 0 = if leftEnd ct p = i then 0 else cct.getD p 0 := by
  have hpi := hct.2 i (by omega)
  have hback := hpi.2.2.2.2.1
  by_cases h1 : p = i
  · rw [h1, getD_zeroPair_left cct i _ (by omega) (by omega), if_pos (by unfold leftEnd; omega)]
  · by_cases h2 : p = ct.getD i 0
    · rw [h2, getD_zeroPair_right cct i _ hlen, if_pos (by unfold leftEnd; omega)]
    · rw [getD_zeroPair_other cct i _ p h1 h2, if_neg]
      unfold leftEnd
      intro e
      have hp : ct.getD p 0 = i := by omega
      have := (hct.2 p (by omega)).2.2.2.2.1
      rw [hp] at this
      exact h2 this.symm

theorem raiseRb_other (rb : List Int) (x : Int) (c y : Nat) (h : y ≠ x.toNat) : (raiseRb rb x c).getD y 0 = rb.getD y 0 := by
  unfold raiseRb
  split
  · rw [getD_set_ne _ _ _ _ _ (Ne.symm h)]
  · rfl

theorem raiseRb_self (rb : List Int) (x : Int) (c : Nat) (h : x.toNat < rb.length) :
    (c : Int) ≤ (raiseRb rb x c).getD x.toNat 0 ∧ rb.getD x.toNat 0 ≤ (raiseRb rb x c).getD x.toNat 0 := by
  unfold raiseRb
  split
  · rw [getD_set_self _ _ _ _ h]; omega
  · omega

theorem raiseRb_mono (rb : List Int) (x : Int) (c y : Nat) (h : x.toNat < rb.length) :
    rb.getD y 0 ≤ (raiseRb rb x c).getD y 0 := by
  by_cases hy : y = x.toNat
  · rw [hy]; exact (raiseRb_self rb x c h).2
  · rw [raiseRb_other rb x c y hy]; exact Int.le_refl _

theorem lettered_ss_left (ct cct : List Nat) (rb : List Int) (st : C2W) (i : Nat) (x : Int) (hx : 0 ≤ x) (h1 : 1 ≤ i)
    (h2 : i ≤ st.ss.size) (hne : i ≠ ct.getD i 0) (hc : 1 ≤ ct.getD i 0) :
    ssAt (lettered ct cct rb st i x).ss (i - 1) = UInt8.ofNat (65 + x.toNat) := by
  show ssAt ((st.ss.setIfInBounds (i - 1) _).setIfInBounds (ct.getD i 0 - 1) _) (i - 1) = _
  rw [ssAt_set_ne _ _ _ _ (by omega), ssAt_set_self _ _ _ (by omega)]
  congr 1; omega

theorem lettered_ss_right (ct cct : List Nat) (rb : List Int) (st : C2W) (i : Nat) (x : Int) (hx : 0 ≤ x)
    (hc : 1 ≤ ct.getD i 0) (h2 : ct.getD i 0 ≤ st.ss.size) :
    ssAt (lettered ct cct rb st i x).ss (ct.getD i 0 - 1) = UInt8.ofNat (97 + x.toNat) := by
  show ssAt ((st.ss.setIfInBounds (i - 1) _).setIfInBounds (ct.getD i 0 - 1) _) (ct.getD i 0 - 1) = _
  rw [ssAt_set_self _ _ _ (by rw [Array.size_setIfInBounds]; omega)]
  congr 1; omega

theorem lettered_ss_other (ct cct : List Nat) (rb : List Int) (st : C2W) (i : Nat) (x : Int) (q : Nat)
    (h1 : q ≠ i - 1) (h2 : q ≠ ct.getD i 0 - 1) : ssAt (lettered ct cct rb st i x).ss q = ssAt st.ss q := by
  show ssAt ((st.ss.setIfInBounds (i - 1) _).setIfInBounds (ct.getD i 0 - 1) _) q = _
  rw [ssAt_set_ne _ _ _ _ (Ne.symm h2), ssAt_set_ne _ _ _ _ (Ne.symm h1)]

theorem lettered_sameOff {n : Nat} {ct : List Nat} (hct : CtOk n ct) (cct : List Nat) (rb : List Int) (st : C2W) {i : Nat} (x : Int)
    (hi : i < ct.getD i 0) : SameOff ct (· = i) st.ss (lettered ct cct rb st i x).ss := by
  intro p hp hT
  have hpi := hct.2 i (by omega)
  have hback := hpi.2.2.2.2.1
  apply lettered_ss_other <;> intro e <;> apply hT <;> unfold leftEnd
  · have : p = i := by omega
    subst this; omega
  · have : p = ct.getD i 0 := by omega
    subst this; omega

end EaselModel.Msa
