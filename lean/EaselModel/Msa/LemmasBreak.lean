import EaselModel.Msa.LemmasW2CLabels
/-! Lemmas: the pair-removal loop of `esl_msa_RemoveBrokenBasepairsFromSS` keeps exactly the pairs whose two partners
    are both retained. -/
namespace EaselModel.Msa

/-- a symmetric pair table over positions `1..n` (what `esl_wuss2ct` delivers) -/
def CtOk (n : Nat) (ct : List Nat) : Prop :=
  ct.length = n + 1 ∧
  ∀ i, ct.getD i 0 ≠ 0 → 1 ≤ i ∧ i ≤ n ∧ 1 ≤ ct.getD i 0 ∧ ct.getD i 0 ≤ n ∧ ct.getD (ct.getD i 0) 0 = i ∧ ct.getD i 0 ≠ i

/-- the left end of the pair that holds `x` -/
def leftEnd (ct : List Nat) (x : Nat) : Nat := min x (ct.getD x 0)

/-- state of the table after the positions `< apos` have been visited -/
def brokenUpTo (useme : List Bool) (ct : List Nat) (apos : Nat) (i : Nat) : Nat :=
  if ct.getD i 0 ≠ 0 ∧ (i < apos → useme.getD (i-1) false = true) ∧
     (ct.getD i 0 < apos → useme.getD (ct.getD i 0 - 1) false = true) then ct.getD i 0 else 0

/-- an entry of that table is the original partner or 0 (pair broken), and the table is symmetric -/
theorem brokenUpTo_sym {useme : List Bool} {n : Nat} {ct : List Nat} (hct : CtOk n ct) (apos i : Nat)
    (h : brokenUpTo useme ct apos i ≠ 0) :
    brokenUpTo useme ct apos i = ct.getD i 0 ∧ ct.getD i 0 ≠ 0 ∧ brokenUpTo useme ct apos (ct.getD i 0) = i := by
  unfold brokenUpTo at h ⊢
  by_cases hc : ct.getD i 0 ≠ 0 ∧ (i < apos → useme.getD (i-1) false = true) ∧
      (ct.getD i 0 < apos → useme.getD (ct.getD i 0 - 1) false = true)
  · have hb := (hct.2 i hc.1).2.2.2.2.1
    rw [if_pos hc]
    refine ⟨rfl, hc.1, ?_⟩
    rw [hb, if_pos ⟨by have := (hct.2 i hc.1).1; omega, hc.2.2, hc.2.1⟩]
  · rw [if_neg hc] at h; exact absurd rfl h

/-- visiting a kept column changes nothing; visiting a removed column `apos` zeroes `apos` and its partner -/
theorem brokenUpTo_succ (useme : List Bool) (ct : List Nat) (apos i : Nat) :
    brokenUpTo useme ct (apos+1) i =
      if useme.getD (apos-1) false = false ∧ (i = apos ∨ ct.getD i 0 = apos) then 0 else brokenUpTo useme ct apos i := by
  unfold brokenUpTo
  by_cases hr : useme.getD (apos-1) false = false ∧ (i = apos ∨ ct.getD i 0 = apos)
  · rw [if_pos hr, if_neg]
    intro h
    rcases hr.2 with e | e
    · have := h.2.1 (by omega); rw [e, hr.1] at this; cases this
    · have := h.2.2 (by omega); rw [e, hr.1] at this; cases this
  · rw [if_neg hr]
    -- a position equal to `apos` is kept, or it is neither `i` nor its partner
    have hU : ∀ p, (p = i ∨ p = ct.getD i 0) → p = apos → useme.getD (p-1) false = true := by
      intro p hp e
      cases hu : useme.getD (apos-1) false with
      | true => rw [e]; exact hu
      | false =>
        refine absurd ⟨hu, ?_⟩ hr
        rcases hp with hp | hp
        · exact Or.inl (hp ▸ e)
        · exact Or.inr (hp ▸ e)
    have hiff : (ct.getD i 0 ≠ 0 ∧ (i < apos + 1 → useme.getD (i-1) false = true) ∧
        (ct.getD i 0 < apos + 1 → useme.getD (ct.getD i 0 - 1) false = true)) ↔
        (ct.getD i 0 ≠ 0 ∧ (i < apos → useme.getD (i-1) false = true) ∧
        (ct.getD i 0 < apos → useme.getD (ct.getD i 0 - 1) false = true)) := by
      constructor
      · intro h; exact ⟨h.1, fun hl => h.2.1 (by omega), fun hl => h.2.2 (by omega)⟩
      · intro h
        refine ⟨h.1, fun hl => ?_, fun hl => ?_⟩
        · rcases Nat.lt_or_ge i apos with h2 | h2
          · exact h.2.1 h2
          · exact hU i (Or.inl rfl) (by omega)
        · rcases Nat.lt_or_ge (ct.getD i 0) apos with h2 | h2
          · exact h.2.2 h2
          · exact hU _ (Or.inr rfl) (by omega)
    simp only [hiff]

theorem breakPairs_inv (useme : List Bool) (n : Nat) (ct : List Nat) (hct : CtOk n ct) :
    ∀ (fuel apos : Nat) (cur : List Nat), 1 ≤ apos → apos + fuel = n + 1 → cur.length = n + 1 →
      (∀ i, cur.getD i 0 = brokenUpTo useme ct apos i) →
      ∀ i, (breakPairs useme apos fuel cur).getD i 0 = brokenUpTo useme ct (n+1) i := by
  intro fuel
  induction fuel with
  | zero =>
    intro apos cur _ hf _ hP i
    have : apos = n + 1 := by omega
    subst this
    simpa [breakPairs] using hP i
  | succ fuel ih =>
    intro apos cur h1 hf hlen hP
    have hle : apos ≤ n := by omega
    simp only [breakPairs]
    by_cases hu : useme.getD (apos-1) false = true
    · -- column kept: nothing changes
      simp only [hu, Bool.not_true, Bool.false_eq_true, if_false]
      apply ih (apos+1) cur (by omega) (by omega) hlen
      intro i
      rw [brokenUpTo_succ, if_neg (fun h => by rw [hu] at h; cases h.1)]
      exact hP i
    · -- column removed
      have huf : useme.getD (apos-1) false = false := by simpa using hu
      simp only [huf, Bool.not_false, if_true]
      have hstep : (if (cur.getD apos 0 != 0) = true then cur.set (cur.getD apos 0) 0 else cur)
                 = (if cur.getD apos 0 ≠ 0 then cur.set (cur.getD apos 0) 0 else cur) := by
        by_cases h : cur.getD apos 0 = 0 <;> simp [h]
      rw [hstep]
      apply ih (apos+1) _ (by omega) (by omega) (by split <;> simp [hlen])
      intro i
      by_cases hia : i = apos
      · have hR : brokenUpTo useme ct (apos+1) i = 0 := by rw [brokenUpTo_succ]; exact if_pos ⟨huf, Or.inl hia⟩
        rw [hR, hia, getD_set_self _ _ _ _ (by split <;> simp [hlen] <;> omega)]
      · rw [getD_set_ne _ _ _ _ _ (fun e => hia e.symm)]
        by_cases hci : ct.getD i 0 = apos
        · -- `i` is the partner of `apos`: zeroed now, or broken already when `i` was visited
          have hR : brokenUpTo useme ct (apos+1) i = 0 := by rw [brokenUpTo_succ]; exact if_pos ⟨huf, Or.inr hci⟩
          rw [hR]
          have hb := hct.2 i (by rw [hci]; omega)
          by_cases hp0 : cur.getD apos 0 = 0
          · rw [if_neg (fun h => h hp0)]
            by_cases hne : cur.getD i 0 = 0
            · exact hne
            exfalso
            have hs := brokenUpTo_sym hct apos i (by rw [← hP i]; exact hne)
            rw [hci, ← hP apos, hp0] at hs
            have := hb.1
            omega
          · rw [if_pos hp0]
            have hs := brokenUpTo_sym hct apos apos (by rw [← hP apos]; exact hp0)
            rw [hP apos, hs.1, ← hci, hb.2.2.2.2.1, getD_set_self _ _ _ _ (by have := hb.2.1; omega)]
        · -- unrelated position: not the cell zeroed with `apos`
          have hR : brokenUpTo useme ct (apos+1) i = cur.getD i 0 := by
            rw [brokenUpTo_succ, hP i]; exact if_neg (fun h => h.2.elim hia hci)
          rw [hR]
          split
          · rename_i hp0
            have hs := brokenUpTo_sym hct apos apos (by rw [← hP apos]; exact hp0)
            have hpi : cur.getD apos 0 ≠ i := by
              intro e
              rw [hP apos, hs.1] at e
              have := (hct.2 apos hs.2.1).2.2.2.2.1
              rw [e] at this
              exact hci this
            rw [getD_set_ne _ _ _ _ _ hpi]
          · rfl

theorem breakPairs_spec' (useme : List Bool) (n : Nat) (ct : List Nat) (hct : CtOk n ct) (i : Nat) :
    (breakPairs useme 1 n ct).getD i 0 =
      if ct.getD i 0 ≠ 0 ∧ useme.getD (i-1) false = true ∧ useme.getD (ct.getD i 0 - 1) false = true
      then ct.getD i 0 else 0 := by
  have h := breakPairs_inv useme n ct hct n 1 ct (Nat.le_refl _) (by omega) hct.1
    (fun i => by
      simp only [brokenUpTo]
      by_cases h0 : ct.getD i 0 = 0
      · rw [if_neg (fun h => h.1 h0), h0]
      · have := hct.2 i h0
        rw [if_pos ⟨h0, fun h => by omega, fun h => by omega⟩]) i
  rw [h]
  simp only [brokenUpTo]
  by_cases h0 : ct.getD i 0 = 0
  · rw [if_neg (fun h => h.1 h0), if_neg (fun h => h.1 h0)]
  · have := hct.2 i h0
    have e1 : (i < n + 1 → useme.getD (i-1) false = true) ↔ useme.getD (i-1) false = true :=
      ⟨fun h => h (by omega), fun h _ => h⟩
    have e2 : (ct.getD i 0 < n + 1 → useme.getD (ct.getD i 0 - 1) false = true) ↔ useme.getD (ct.getD i 0 - 1) false = true :=
      ⟨fun h => h (by omega), fun h _ => h⟩
    simp only [e1, e2]

theorem wuss2ct_ctOk (ss : Bytes) (ct : List Nat) (h : wuss2ct ss = some ct) : CtOk ss.length ct :=
  wuss2ct_involution' ss ct h

end EaselModel.Msa
