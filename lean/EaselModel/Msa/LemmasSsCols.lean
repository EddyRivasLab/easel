import EaselModel.Msa.LemmasC2WNested
import EaselModel.Msa.LemmasGaps
import EaselModel.Msa.LemmasPairs
/-! Lemmas: an SS line through base-pair repair followed by column compaction: what the repair wrote, and how the compacted
    line reads. -/
namespace EaselModel.Msa

/-- On a balanced line the repair is `esl_ct2wuss` of the table of surviving pairs. When it returns `eslOK` the line it wrote has
    the old length, reads back as that table, and every column the mask removes carries an unpaired symbol (it is unpaired in
    that table). -/
theorem removeBroken_ok (ss ss' : Bytes) (mask : List Bool) (ct : List Nat) (h : wuss2ct ss = some ct)
    (h2 : removeBrokenFromSS ss mask = .ok ss') :
    ss'.length = ss.length ∧ wuss2ct ss' = some (breakPairs mask 1 ss.length ct) ∧
    removesOnlyGaps isUnpairedSym mask ss' := by
  have hct := wuss2ct_ctOk ss ct h
  have hb := (breakPairs_ctOk_nested mask ss.length ct hct).1
  simp only [removeBrokenFromSS, h] at h2
  obtain ⟨hlen, hlab, _⟩ := ct2wuss_class_labels ss.length _ hb ss' h2
  refine ⟨hlen, pk_roundtrip' ss.length _ hb ss' h2, removesOnlyGaps_of_forall _ _ _ fun i h1' h2' h3 => ?_⟩
  have hz : (breakPairs mask 1 ss.length ct).getD (i+1) 0 = 0 := by
    rw [breakPairs_spec' mask ss.length ct hct (i+1), if_neg]
    intro hc
    have := hc.2.1
    simp only [Nat.add_sub_cancel] at this
    have h4 : mask.getD i false = false := by
      simp only [List.getD_eq_getElem?_getD, List.getElem?_eq_getElem h1', Option.getD_some] at h3 ⊢
      exact h3
    rw [h4] at this; cases this
  have := (hlab (i+1) (by omega) (by omega)).1 hz
  simpa using this

/-- ... so the compacted line reads as the surviving pairs renumbered to the new columns -/
theorem repaired_compacted_pairs (ss ss' : Bytes) (mask : List Bool) (ct : List Nat) (h : wuss2ct ss = some ct)
    (hm : mask.length = ss.length) (h2 : removeBrokenFromSS ss mask = .ok ss') :
    ∃ ps, breakPairs mask 1 ss.length ct = tableOf (List.replicate (ss.length + 1) 0) ps ∧
      wuss2ct (maskFilter mask ss') =
        some (tableOf (List.replicate ((maskFilter mask ss').length + 1) 0) (relabelPs (newPos mask) ps)) := by
  obtain ⟨hlen, h3, hrem⟩ := removeBroken_ok ss ss' mask ct h h2
  obtain ⟨ps, hp1, hp2⟩ := compacted_pairs' ss' mask (by rw [hm, hlen]) hrem _ h3
  rw [hlen] at hp1
  exact ⟨ps, hp1, hp2⟩

theorem repaired_then_compacted_balanced' (ss : Bytes) (mask : List Bool) (ct : List Nat) (h : wuss2ct ss = some ct)
    (hn : Nested ct) (hm : mask.length = ss.length) :
    ∃ ss', removeBrokenFromSS ss mask = .ok ss' ∧ ss'.length = ss.length ∧
      wuss2ct ss' = some (breakPairs mask 1 ss.length ct) ∧ ∃ ct2, wuss2ct (maskFilter mask ss') = some ct2 := by
  obtain ⟨ss', hr, _⟩ := removeBroken_nested' ss mask ct h hn
  obtain ⟨hlen, h3, _⟩ := removeBroken_ok ss ss' mask ct h hr
  obtain ⟨ps, _, hp⟩ := repaired_compacted_pairs ss ss' mask ct h hm hr
  exact ⟨ss', hr, hlen, h3, _, hp⟩

/-- dropping unpaired symbols does not disturb any of the 27 bracket languages -/
theorem dyckRun_maskFilter (k : Nat) : ∀ (mask : List Bool) (s : Bytes) (st : List UInt8), mask.length = s.length →
    removesOnlyGaps isUnpairedSym mask s → dyckRun k (maskFilter mask s) st = dyckRun k s st
  | [], [], st, _, _ => rfl
  | [], _ :: _, _, h, _ => by simp at h
  | _ :: _, [], _, h, _ => by simp at h
  | b :: mask, c :: s, st, hl, hg => by
    have hl' : mask.length = s.length := by simpa using hl
    cases b with
    | true =>
      simp only [maskFilter, if_true, dyckRun]
      split
      · exact dyckRun_maskFilter k mask s _ hl' hg.2
      · split
        · cases st with
          | nil => rfl
          | cons o st' =>
            simp only
            split
            · exact dyckRun_maskFilter k mask s _ hl' hg.2
            · rfl
        · exact dyckRun_maskFilter k mask s _ hl' hg.2
    | false =>
      have hu := hg.1 rfl
      obtain ⟨hoc, hcc⟩ := (unpaired hu).noClass
      simp only [maskFilter, Bool.false_eq_true, if_false, dyckRun, hoc, hcc]
      simp only [reduceCtorEq, if_false]
      exact dyckRun_maskFilter k mask s st hl' hg.2

/-- an SS line that is balanced WUSS without pseudoknot letters -/
def PlainSS (s : Bytes) : Prop := (∀ c ∈ s, isAlpha c = false) ∧ ∃ ct, wuss2ct s = some ct

end EaselModel.Msa
