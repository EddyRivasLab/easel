import EaselModel.Msa.Wuss
/-! What the proofs use about single WUSS symbols, by kind of symbol: an opening bracket and its partner (`Bracket`), an upper-case
    letter and its lower case (`Letter`), a closing bracket (`CloseBr`), a lower-case letter (`Lower`), an unpaired symbol
    (`Unpaired`). The four brackets, four closers and six unpaired symbols are gone through one by one; the letters by
    evaluation over the byte range. Then the view by class: 0 for the four bracket kinds, which share a stack in `esl_wuss2ct`,
    1..26 for the letters. -/
namespace EaselModel.Msa

/-- the stack an opening symbol is pushed on -/
def openerClass (c : UInt8) : Option Nat :=
  if isOpenBr c then some 0 else if isUpper c then some (pkIndex c) else none

/-- class of a closing symbol -/
def closerClass (c : UInt8) : Option Nat :=
  if isCloseBr c then some 0 else if isLower c then some (pkIndex c) else none

/-- in class 0 the closing bracket must be the partner of the opening one; a letter class has one kind of pair -/
def closes (k : Nat) (o c : UInt8) : Bool := if k = 0 then closerOf o == c else true

def legalSym (c : UInt8) : Bool := isOpenBr c || isCloseBr c || isUpper c || isLower c || isUnpairedSym c

structure Bracket (o : UInt8) : Prop where
  notClose : isCloseBr o = false
  notUpper : isUpper o = false
  notLower : isLower o = false
  print : isPrint o = true
  mate_ne : closerOf o ≠ 0
  mate_close : isCloseBr (closerOf o) = true
  mate_notOpen : isOpenBr (closerOf o) = false
  mate_notUpper : isUpper (closerOf o) = false
  mate_print : isPrint (closerOf o) = true
  alpha : isAlpha o = false
  mate_alpha : isAlpha (closerOf o) = false
  kh : kh2wussChar (wuss2khChar o) = chLt
  mate_kh : kh2wussChar (wuss2khChar (closerOf o)) = chGt
  compl : wussComplChar o = closerOf o
  mate_compl : wussComplChar (closerOf o) = o

/-- there are four opening brackets: every field is evaluated on each -/
theorem bracket {o : UInt8} (h : isOpenBr o = true) : Bracket o := by
  simp only [isOpenBr, Bool.or_eq_true, beq_iff_eq] at h
  rcases h with ((rfl | rfl) | rfl) | rfl <;> constructor <;> decide

structure Letter (u : UInt8) : Prop where
  lo : 65 ≤ u.toNat
  hi : u.toNat ≤ 90
  idx : pkIndex u = u.toNat - 64
  lower : toLower u = UInt8.ofNat (u.toNat + 32)
  notOpen : isOpenBr u = false
  notClose : isCloseBr u = false
  notLower : isLower u = false
  print : isPrint u = true
  mate_lower : isLower (toLower u) = true
  mate_idx : pkIndex (toLower u) = pkIndex u
  mate_notOpen : isOpenBr (toLower u) = false
  mate_notClose : isCloseBr (toLower u) = false
  mate_notUpper : isUpper (toLower u) = false
  mate_ne : toLower u ≠ 0
  mate_print : isPrint (toLower u) = true
  alpha : isAlpha u = true
  mate_alpha : isAlpha (toLower u) = true
  kh : kh2wussChar (wuss2khChar u) = u
  mate_kh : kh2wussChar (wuss2khChar (toLower u)) = toLower u
  compl : wussComplChar u = toLower u
  mate_compl : wussComplChar (toLower u) = u

theorem letter_nat : ∀ n, n < 256 → isUpper (UInt8.ofNat n) = true →
    65 ≤ n ∧ n ≤ 90 ∧ pkIndex (UInt8.ofNat n) = n - 64 ∧ toLower (UInt8.ofNat n) = UInt8.ofNat (n + 32) ∧
    isOpenBr (UInt8.ofNat n) = false ∧ isCloseBr (UInt8.ofNat n) = false ∧ isLower (UInt8.ofNat n) = false ∧
    isPrint (UInt8.ofNat n) = true ∧ isLower (toLower (UInt8.ofNat n)) = true ∧ pkIndex (toLower (UInt8.ofNat n)) = pkIndex (UInt8.ofNat n) ∧
    isOpenBr (toLower (UInt8.ofNat n)) = false ∧ isCloseBr (toLower (UInt8.ofNat n)) = false ∧
    isUpper (toLower (UInt8.ofNat n)) = false ∧ toLower (UInt8.ofNat n) ≠ 0 := by decide +kernel

theorem letter_maps_nat : ∀ n, n < 256 → isUpper (UInt8.ofNat n) = true →
    isPrint (toLower (UInt8.ofNat n)) = true ∧ isAlpha (UInt8.ofNat n) = true ∧ isAlpha (toLower (UInt8.ofNat n)) = true ∧
    kh2wussChar (wuss2khChar (UInt8.ofNat n)) = UInt8.ofNat n ∧
    kh2wussChar (wuss2khChar (toLower (UInt8.ofNat n))) = toLower (UInt8.ofNat n) ∧
    wussComplChar (UInt8.ofNat n) = toLower (UInt8.ofNat n) ∧
    wussComplChar (toLower (UInt8.ofNat n)) = UInt8.ofNat n := by decide +kernel

theorem letter {u : UInt8} (h : isUpper u = true) : Letter u := by
  have a := letter_nat u.toNat (UInt8.toNat_lt u) (by rw [UInt8.ofNat_toNat]; exact h)
  have c := letter_maps_nat u.toNat (UInt8.toNat_lt u) (by rw [UInt8.ofNat_toNat]; exact h)
  rw [UInt8.ofNat_toNat] at a c
  obtain ⟨a1, a2, a3, a4, a5, a6, a7, a8, b1, b2, b3, b4, b5, b6⟩ := a
  obtain ⟨c0, c1, c2, c3, c4, c5, c6⟩ := c
  exact ⟨a1, a2, a3, a4, a5, a6, a7, a8, b1, b2, b3, b4, b5, b6, c0, c1, c2, c3, c4, c5, c6⟩

theorem pkIndex_upper_bounds (u : UInt8) (hu : isUpper u = true) : 1 ≤ pkIndex u ∧ pkIndex u < 27 := by
  have f := letter hu
  have := f.lo; have := f.hi; have := f.idx
  omega

structure CloseBr (c : UInt8) : Prop where
  notOpen : isOpenBr c = false
  notUpper : isUpper c = false
  notLower : isLower c = false
  print : isPrint c = true

theorem closeBr {c : UInt8} (h : isCloseBr c = true) : CloseBr c := by
  simp only [isCloseBr, Bool.or_eq_true, beq_iff_eq] at h
  rcases h with ((rfl | rfl) | rfl) | rfl <;> constructor <;> decide

structure Lower (c : UInt8) : Prop where
  lo : 97 ≤ c.toNat
  hi : c.toNat ≤ 122
  idx : pkIndex c = c.toNat - 96
  notOpen : isOpenBr c = false
  notClose : isCloseBr c = false
  notUpper : isUpper c = false
  print : isPrint c = true

theorem lower_nat : ∀ n, n < 256 → isLower (UInt8.ofNat n) = true →
    97 ≤ n ∧ n ≤ 122 ∧ pkIndex (UInt8.ofNat n) = n - 96 ∧ isOpenBr (UInt8.ofNat n) = false ∧
    isCloseBr (UInt8.ofNat n) = false ∧ isUpper (UInt8.ofNat n) = false ∧ isPrint (UInt8.ofNat n) = true := by
  decide +kernel

theorem lower {c : UInt8} (h : isLower c = true) : Lower c := by
  have a := lower_nat c.toNat (UInt8.toNat_lt c) (by rw [UInt8.ofNat_toNat]; exact h)
  rw [UInt8.ofNat_toNat] at a
  obtain ⟨a1, a2, a3, a4, a5, a6, a7⟩ := a
  exact ⟨a1, a2, a3, a4, a5, a6, a7⟩

theorem pkIndex_lower_bounds (c : UInt8) (hc : isLower c = true) : 1 ≤ pkIndex c ∧ pkIndex c < 27 := by
  have f := lower hc
  have := f.lo; have := f.hi; have := f.idx
  omega

theorem lower_of_same_index (u c : UInt8) (hu : isUpper u = true) (hc : isLower c = true) (h : pkIndex u = pkIndex c) :
    c = toLower u := by
  have fu := letter hu
  have fc := lower hc
  have e : c.toNat = u.toNat + 32 := by
    have := fu.idx; have := fu.lo; have := fc.idx; have := fc.lo; omega
  rw [fu.lower, ← e, UInt8.ofNat_toNat]

structure Unpaired (c : UInt8) : Prop where
  print : isPrint c = true
  notOpen : isOpenBr c = false
  notClose : isCloseBr c = false
  notUpper : isUpper c = false
  notLower : isLower c = false
  alpha : isAlpha c = false
  kh : isUnpairedSym (kh2wussChar (wuss2khChar c)) = true
  compl : isUnpairedSym (wussComplChar c) = true

/-- `strchr(":,_-.~", c)`: six symbols, every field evaluated on each -/
theorem unpaired {c : UInt8} (h : isUnpairedSym c = true) : Unpaired c := by
  simp only [isUnpairedSym, Bool.or_eq_true, beq_iff_eq] at h
  rcases h with ((((rfl | rfl) | rfl) | rfl) | rfl) | rfl <;> constructor <;> decide

theorem openerClass_open {c : UInt8} (h : isOpenBr c = true) : openerClass c = some 0 := by
  unfold openerClass; rw [if_pos h]

theorem openerClass_upper {u : UInt8} (h : isUpper u = true) : openerClass u = some (pkIndex u) := by
  unfold openerClass; rw [if_neg (by rw [(letter h).notOpen]; exact Bool.false_ne_true), if_pos h]

theorem openerClass_none {c : UInt8} (ho : isOpenBr c = false) (hu : isUpper c = false) : openerClass c = none := by
  unfold openerClass; rw [ho, hu]; rfl

theorem closerClass_none {c : UInt8} (hc : isCloseBr c = false) (hl : isLower c = false) : closerClass c = none := by
  unfold closerClass; rw [hc, hl]; rfl

theorem Unpaired.noClass {c : UInt8} (F : Unpaired c) : openerClass c = none ∧ closerClass c = none :=
  ⟨openerClass_none F.notOpen F.notUpper, closerClass_none F.notClose F.notLower⟩

/-- the two ways a pair is spelt (a bracket and its partner, a letter and its lower case) are one: opener and closer of the
    same class `k`, matching in the sense of `closes` -/
theorem match_class {o c : UInt8} :
    ((isOpenBr o = true ∧ c = closerOf o) ∨ (isUpper o = true ∧ c = toLower o)) ↔
      ∃ k, k < 27 ∧ openerClass o = some k ∧ closerClass c = some k ∧ closes k o c = true := by
  constructor
  · rintro (⟨ho, rfl⟩ | ⟨hu, rfl⟩)
    · exact ⟨0, by omega, openerClass_open ho, by simp [closerClass, (bracket ho).mate_close], by simp [closes]⟩
    · have U := letter hu
      have hk := pkIndex_upper_bounds o hu
      exact ⟨pkIndex o, hk.2, openerClass_upper hu, by simp [closerClass, U.mate_notClose, U.mate_lower, U.mate_idx],
        by simp [closes]; omega⟩
  · rintro ⟨k, _, ho, hc, hm⟩
    unfold openerClass at ho
    unfold closerClass at hc
    by_cases hob : isOpenBr o = true
    · rw [if_pos hob] at ho
      cases ho
      exact Or.inl ⟨hob, by simp only [closes, if_true, beq_iff_eq] at hm; exact hm.symm⟩
    · rw [if_neg hob] at ho
      by_cases hu : isUpper o = true
      · rw [if_pos hu] at ho
        have hk := pkIndex_upper_bounds o hu
        have ho := Option.some.inj ho
        subst ho
        by_cases hcb : isCloseBr c = true
        · rw [if_pos hcb] at hc; have := Option.some.inj hc; omega
        · rw [if_neg hcb] at hc
          by_cases hl : isLower c = true
          · rw [if_pos hl] at hc
            exact Or.inr ⟨hu, lower_of_same_index o c hu hl (Option.some.inj hc).symm⟩
          · rw [if_neg hl] at hc; cases hc
      · rw [if_neg hu] at ho; cases ho

end EaselModel.Msa
