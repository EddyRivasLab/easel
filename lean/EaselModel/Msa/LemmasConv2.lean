import EaselModel.Msa.Model2
import EaselModel.Msa.LemmasMsa
/-! Lemmas on the smaller operations of `esl_msa.c`, one section per function. -/
namespace EaselModel.Msa

/-! ### name index -/

theorem firstDup_none_iff : ∀ (names seen : List Bytes) (idx : Nat),
    firstDup seen names idx = none ↔ (names.Nodup ∧ ∀ n ∈ names, n ∉ seen)
  | [], seen, idx => by simp [firstDup]
  | n :: rest, seen, idx => by
    unfold firstDup
    by_cases h : n ∈ seen
    · have : seen.contains n = true := by simpa using h
      rw [if_pos this]
      constructor
      · intro hh; cases hh
      · intro hh; exact absurd h (hh.2 n (by simp))
    · have : ¬ (seen.contains n = true) := by simpa using h
      rw [if_neg this, firstDup_none_iff rest (n :: seen) (idx+1)]
      simp only [List.nodup_cons, List.mem_cons, not_or]
      constructor
      · rintro ⟨h1, h2⟩
        refine ⟨⟨fun hm => (h2 n hm).1 rfl, h1⟩, ?_⟩
        intro x hx
        rcases hx with rfl | hx
        · exact h
        · exact (h2 x hx).2
      · rintro ⟨⟨h1, h2⟩, h3⟩
        refine ⟨h2, fun x hx => ⟨fun e => h1 (e ▸ hx), h3 x (Or.inr hx)⟩⟩

theorem hashNames_ok_iff' (m : Msa) : hashNames m = .ok ↔ (m.sqname.take m.nseq).Nodup := by
  unfold hashNames
  cases h : firstDup [] (m.sqname.take m.nseq) 0 with
  | none =>
    have := (firstDup_none_iff _ _ _).1 h
    simp [this.1]
  | some k =>
    simp only [reduceCtorEq, false_iff]
    intro hn
    have := (firstDup_none_iff (m.sqname.take m.nseq) [] 0).2 ⟨hn, by simp⟩
    rw [h] at this; cases this

theorem hashNames_cases (m : Msa) : hashNames m = .ok ∨ hashNames m = .edup := by
  unfold hashNames; cases firstDup [] (m.sqname.take m.nseq) 0 <;> simp

theorem checkUniqueNames_eq (m : Msa) :
    checkUniqueNames m = (match hashNames m with | .ok => .ok | _ => .efail) := by
  unfold checkUniqueNames hashNames; cases firstDup [] (m.sqname.take m.nseq) 0 <;> rfl

/-! ### ConvertDegen2X -/

/-- the shape of an Easel alphabet that the conversion relies on: at least one degenerate code (the unknown residue
    `Kp-3` lies strictly above the gap code `K`), and codes fit in a byte below the sentinel -/
def Abc.degenOk (a : Abc) : Prop := a.K + 3 < a.Kp ∧ a.Kp ≤ 255

theorem xUnknown_toNat (a : Abc) (h : a.degenOk) : a.xUnknown.toNat = a.Kp - 3 := by
  unfold Abc.xUnknown
  rw [UInt8.toNat_ofNat']
  have := h.2
  omega

/-- what `esl_msa_ConvertDegen2X` does to one cell -/
structure DegenCell (a : Abc) (x : UInt8) : Prop where
  residue : a.xIsResidue (degenCell a x) = a.xIsResidue x
  gap : a.xIsGap (degenCell a x) = a.xIsGap x
  missing : a.xIsMissing (degenCell a x) = a.xIsMissing x
  unknown : a.xIsDegenerate (degenCell a x) = true → degenCell a x = a.xUnknown
  keep : a.xIsDegenerate x = false → degenCell a x = x
  notSentinel : x ≠ dsqSentinel → degenCell a x ≠ dsqSentinel
  valid : x.toNat < a.Kp → (degenCell a x).toNat < a.Kp

/-- a degenerate code is a residue: not a gap, not missing data, below the sentinel -/
theorem degenerate_class (a : Abc) (hKp : a.Kp ≤ 255) {x : UInt8} (h : a.xIsDegenerate x = true) :
    a.xIsResidue x = true ∧ a.xIsGap x = false ∧ a.xIsMissing x = false ∧ x.toNat < a.Kp ∧ x ≠ dsqSentinel := by
  simp only [Abc.xIsDegenerate, Bool.and_eq_true, decide_eq_true_eq] at h
  refine ⟨?_, ?_, ?_, by omega, fun e => ?_⟩
  · simp [Abc.xIsResidue, h.1, h.2]
  · simp only [Abc.xIsGap, beq_eq_false_iff_ne]; omega
  · simp only [Abc.xIsMissing, beq_eq_false_iff_ne]; omega
  · have : dsqSentinel.toNat = 255 := by decide
    rw [← e] at this; omega

/-- ... and the unknown residue is one of them -/
theorem xUnknown_degenerate (a : Abc) (h : a.degenOk) : a.xIsDegenerate a.xUnknown = true := by
  have := h.1
  simp only [Abc.xIsDegenerate, xUnknown_toNat a h, Bool.and_eq_true, decide_eq_true_eq]; omega

theorem degen2X_cell (a : Abc) (h : a.degenOk) (x : UInt8) : DegenCell a x := by
  by_cases hd : a.xIsDegenerate x = true
  · have e : degenCell a x = a.xUnknown := by unfold degenCell; rw [if_pos hd]
    obtain ⟨u1, u2, u3, u4, u5⟩ := degenerate_class a h.2 (xUnknown_degenerate a h)
    obtain ⟨x1, x2, x3, _, _⟩ := degenerate_class a h.2 hd
    exact {
      residue := by rw [e, u1, x1]
      gap := by rw [e, u2, x2]
      missing := by rw [e, u3, x3]
      unknown := fun _ => e
      keep := fun hh => by rw [hd] at hh; cases hh
      notSentinel := fun _ => e ▸ u5
      valid := fun _ => e ▸ u4 }
  · have e : degenCell a x = x := by unfold degenCell; rw [if_neg hd]
    exact {
      residue := by rw [e]
      gap := by rw [e]
      missing := by rw [e]
      unknown := fun hh => absurd (e ▸ hh) hd
      keep := fun _ => e
      notSentinel := fun hh => by rw [e]; exact hh
      valid := fun hh => by rw [e]; exact hh }

theorem degen2XRow_length (a : Abc) (r : Bytes) : (degen2XRow a r).length = r.length := by simp [degen2XRow]

theorem degenCell_idem (a : Abc) (x : UInt8) : degenCell a (degenCell a x) = degenCell a x := by
  unfold degenCell
  by_cases hd : a.xIsDegenerate x = true
  · rw [if_pos hd]
    by_cases hu : a.xIsDegenerate a.xUnknown = true
    · rw [if_pos hu]
    · rw [if_neg hu]
  · rw [if_neg hd, if_neg hd]

theorem degen2XRow_idem (a : Abc) (r : Bytes) : degen2XRow a (degen2XRow a r) = degen2XRow a r := by
  simp only [degen2XRow, List.map_map]
  apply List.map_congr_left
  intro x _
  simp only [Function.comp]
  exact degenCell_idem a x

theorem degen2XRow_pattern (a : Abc) (h : a.degenOk) (r : Bytes) :
    (degen2XRow a r).map a.xIsResidue = r.map a.xIsResidue ∧ (degen2XRow a r).map a.xIsGap = r.map a.xIsGap ∧
    (degen2XRow a r).map a.xIsMissing = r.map a.xIsMissing := by
  simp only [degen2XRow, List.map_map]
  refine ⟨?_, ?_, ?_⟩ <;> apply List.map_congr_left <;> intro x _ <;> simp only [Function.comp]
  · exact (degen2X_cell a h x).residue
  · exact (degen2X_cell a h x).gap
  · exact (degen2X_cell a h x).missing

theorem convertDegen2X_wf (a : Abc) (h : a.degenOk) (m : Msa) (wf : m.WF) (hd : m.isDigital = true) :
    ({ m with rows := m.rows.map (degen2XRow a) } : Msa).WF := by
  refine wf.mapRows _ fun r0 hr0 => ?_
  have h0 := wf.rows_ok r0 hr0
  have ht0 : m.rowTerm = dsqSentinel := by simp [Msa.rowTerm, hd]
  refine ⟨by rw [degen2XRow_length]; exact h0.1, ?_⟩
  intro c hc
  simp only [degen2XRow, List.mem_map] at hc
  obtain ⟨x, hx, rfl⟩ := hc
  have hx' := h0.2 x hx
  rw [ht0] at hx' ⊢
  exact (degen2X_cell a h x).notSentinel hx'

/-! ### SymConvert -/

theorem symConvChar_not_mem (olds news : Bytes) (c : UInt8) (h : c ∉ olds) : symConvChar olds news c = c := by
  unfold symConvChar
  have : olds.findIdx? (· == c) = none := by
    rw [List.findIdx?_eq_none_iff]
    intro x hx
    simp only [beq_iff_eq, Bool.not_eq_true, beq_eq_false_iff_ne, ne_eq]
    intro e; subst e; exact h hx
  rw [this]

theorem symConvChar_mem (olds news : Bytes) (c : UInt8) (h : c ∈ olds) :
    ∃ k, k < olds.length ∧ olds.getD k 0 = c ∧ (∀ j, j < k → olds.getD j 0 ≠ c) ∧
      symConvChar olds news c = if news.length == 1 then news.getD 0 0 else news.getD k 0 := by
  unfold symConvChar
  cases hf : olds.findIdx? (· == c) with
  | none =>
    rw [List.findIdx?_eq_none_iff] at hf
    have := hf c h
    simp at this
  | some k =>
    rw [List.findIdx?_eq_some_iff_getElem] at hf
    obtain ⟨hk, hkc, hbefore⟩ := hf
    refine ⟨k, hk, ?_, ?_, rfl⟩
    · simp only [beq_iff_eq] at hkc
      simp [List.getD_eq_getElem?_getD, List.getElem?_eq_getElem hk, hkc]
    · intro j hj
      have := hbefore j hj
      simp only [beq_iff_eq, Bool.not_eq_true, beq_eq_false_iff_ne, ne_eq] at this
      simp only [List.getD_eq_getElem?_getD, List.getElem?_eq_getElem (Nat.lt_trans hj hk), Option.getD_some, ne_eq]
      exact this

theorem symConvert_rows (m : Msa) (wf : m.WF) (olds news : Bytes) :
    m.rows.map (fun r => (r.take m.alen).map (symConvChar olds news) ++ r.drop m.alen) =
    m.rows.map (fun r => r.map (symConvChar olds news)) := by
  apply List.map_congr_left
  intro r hr
  have hl := (wf.rows_ok r hr).1
  rw [List.take_of_length_le (by omega), List.drop_of_length_le (by omega), List.append_nil]

theorem symConvChar_ne_zero (olds news : Bytes) (hn : ∀ x ∈ news, x ≠ 0) (hlen : olds.length = news.length ∨ news.length = 1)
    (c : UInt8) (hc : c ≠ 0) : symConvChar olds news c ≠ 0 := by
  by_cases hm : c ∈ olds
  · obtain ⟨k, hk, _, _, e⟩ := symConvChar_mem olds news c hm
    rw [e]
    by_cases h1 : news.length = 1
    · simp only [h1, beq_self_eq_true, if_true]
      apply hn
      simp only [List.getD_eq_getElem?_getD, List.getElem?_eq_getElem (by omega : 0 < news.length), Option.getD_some]
      exact List.getElem_mem _
    · have h1' : (news.length == 1) = false := by simpa using h1
      rw [h1']; simp only [Bool.false_eq_true, if_false]
      have hk' : k < news.length := by rcases hlen with h | h <;> omega
      apply hn
      simp only [List.getD_eq_getElem?_getD, List.getElem?_eq_getElem hk', Option.getD_some]
      exact List.getElem_mem _
  · rw [symConvChar_not_mem olds news c hm]; exact hc

/-- `esl_msa_SymConvert` succeeds only on a text alignment with a valid symbol pair -/
theorem symConvert_ok_inv {m : Msa} {olds news : Bytes} (hok : (symConvert m olds news).st = .ok) :
    m.isDigital = false ∧ (olds.length = news.length ∨ news.length = 1) := by
  unfold symConvert at hok
  cases hd : m.isDigital with
  | true => simp [hd] at hok
  | false =>
    refine ⟨rfl, ?_⟩
    by_cases h1 : olds.length = news.length
    · exact Or.inl h1
    · by_cases h2 : news.length = 1
      · exact Or.inr h2
      · simp [hd, h1, h2] at hok

/-- ... and then rewrites every cell of every row through `symConvChar`, keeping the alignment well formed -/
theorem symConvert_ok (m : Msa) (olds news : Bytes) (wf : m.WF) (hd : m.isDigital = false)
    (hlen : olds.length = news.length ∨ news.length = 1) (hn : ∀ x ∈ news, x ≠ 0) :
    symConvert m olds news = { msa := { m with rows := m.rows.map (fun r => r.map (symConvChar olds news)) }, st := .ok } ∧
    ({ m with rows := m.rows.map (fun r => r.map (symConvChar olds news)) } : Msa).WF := by
  constructor
  · have hc : ¬ ((olds.length ≠ news.length && news.length ≠ 1) = true) := by
      rcases hlen with h | h <;> simp [h]
    simp only [symConvert, hd, Bool.false_eq_true, if_false, hc, symConvert_rows m wf olds news]
  · have ht0 : m.rowTerm = 0 := by simp [Msa.rowTerm, hd]
    refine wf.mapRows _ fun r0 hr0 => ?_
    have h0 := wf.rows_ok r0 hr0
    refine ⟨by simp [h0.1], ?_⟩
    intro c hc
    simp only [List.mem_map] at hc
    obtain ⟨x, hx, rfl⟩ := hc
    have := h0.2 x hx
    rw [ht0] at this ⊢
    exact symConvChar_ne_zero olds news hn hlen x this

/-! ### Checksum -/

theorem checksum_flat (m : Msa) (wf : m.WF) :
    checksum m = jenkinsFinal (m.rows.flatten.foldl (fun v c => jenkinsStep v (cellWord m.isDigital c)) 0) := by
  unfold checksum
  congr 1
  rw [List.take_of_length_le (by rw [wf.rows_len]; exact Nat.le_refl _), List.foldl_flatten]
  have : ∀ (l : List Bytes) (v : UInt32), (∀ r ∈ l, r.length = m.alen) →
      l.foldl (fun v r => (r.take m.alen).foldl (fun v c => jenkinsStep v (cellWord m.isDigital c)) v) v =
      l.foldl (fun v r => r.foldl (fun v c => jenkinsStep v (cellWord m.isDigital c)) v) v := by
    intro l
    induction l with
    | nil => intros; rfl
    | cons r t ih =>
      intro v h
      simp only [List.foldl_cons]
      rw [List.take_of_length_le (by rw [h r (by simp)]; exact Nat.le_refl _)]
      exact ih _ (fun r' hr' => h r' (by simp [hr']))
  exact this m.rows 0 (fun r hr => (wf.rows_ok r hr).1)

/-! ### SetDefaultWeights -/

theorem setDefaultWeights_spec (m : Msa) :
    (setDefaultWeights m).wgt = List.replicate m.wgt.length 0x3ff0000000000000 ∧
    (setDefaultWeights m).hasWgts = false ∧ (setDefaultWeights m).isDigital = m.isDigital ∧
    setDefaultWeights m = { m with wgt := (setDefaultWeights m).wgt, flags := (setDefaultWeights m).flags } := by
  refine ⟨?_, ?_, ?_, rfl⟩
  · simp only [setDefaultWeights]
    apply List.ext_getElem (by simp)
    intro i h1 h2; simp
  · simp only [setDefaultWeights, Msa.hasWgts]
    have : (m.flags - m.flags % 2) % 2 = 0 := by omega
    simp [this]
  · simp only [setDefaultWeights, Msa.isDigital]
    have : (m.flags - m.flags % 2) / 2 = m.flags / 2 := by omega
    rw [this]

end EaselModel.Msa
