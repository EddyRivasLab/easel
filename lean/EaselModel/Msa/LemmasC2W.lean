import EaselModel.Msa.LemmasNested
import EaselModel.Msa.LemmasCount
/-! Lemmas: reading and writing the buffers of `esl_ct2wuss` (`rdNat`, `wrSs`, `drainAuxss`, the face characters), and the
    pair table left by the pair-removal loop of `esl_msa_RemoveBrokenBasepairsFromSS`. -/
namespace EaselModel.Msa

/-- reading cell `q` (0-based) of the output buffer -/
def ssAt (a : Array UInt8) (q : Nat) : UInt8 := a.toList.getD q 0

theorem rdNat_toArray (ct : List Nat) (i : Int) (h0 : 0 ≤ i) (h : i.toNat < ct.length) :
    rdNat ct.toArray i = .ok (ct.getD i.toNat 0) := by
  unfold rdNat
  rw [if_pos ⟨h0, by simpa using h⟩]
  simp [Array.getD, List.getD_eq_getElem?_getD, h]

theorem rdNat_ok_inv {a : Array Nat} {i : Int} {v : Nat} (h : rdNat a i = .ok v) :
    0 ≤ i ∧ i.toNat < a.size ∧ v = a.getD i.toNat 0 := by
  unfold rdNat at h
  split at h
  · rename_i hc; injection h with h; exact ⟨hc.1, hc.2, h.symm⟩
  · cases h

theorem wrSs_ok_inv {a a' : Array UInt8} {i : Int} {v : UInt8} (h : wrSs a i v = .ok a') :
    0 ≤ i ∧ i.toNat < a.size ∧ a'.size = a.size ∧ ssAt a' i.toNat = v ∧ ∀ q, q ≠ i.toNat → ssAt a' q = ssAt a q := by
  unfold wrSs at h
  split at h
  · rename_i hc
    injection h with h; subst h
    refine ⟨hc.1, hc.2, by simp, ?_, ?_⟩
    · simp only [ssAt, Array.toList_setIfInBounds]
      exact getD_set_self _ _ _ _ (by simpa using hc.2)
    · intro q hq
      simp only [ssAt, Array.toList_setIfInBounds]
      exact getD_set_ne _ _ _ _ _ (fun e => hq e.symm)
  · cases h

theorem unpairedChar (nf : Nat) :
    isUnpairedSym (if nf == 0 then (0x5f : UInt8) else if nf == 1 then 0x2d else 0x2c) = true := by
  split
  · decide
  · split <;> decide

theorem drainAuxss_total (nf : Nat) : ∀ (l : List Nat) (a : Array UInt8), (∀ p ∈ l, 1 ≤ p ∧ p ≤ a.size) →
    ∃ a', drainAuxss nf l a = .ok a' ∧ a'.size = a.size ∧ (∀ p ∈ l, isUnpairedSym (ssAt a' (p-1)) = true) ∧
      (∀ q, q + 1 ∉ l → ssAt a' q = ssAt a q) := by
  intro l
  induction l with
  | nil => intro a _; exact ⟨a, rfl, rfl, by simp, fun _ _ => rfl⟩
  | cons i rest ih =>
    intro a hpos
    have hi := hpos i (by simp)
    obtain ⟨a1, h1⟩ : ∃ a1, wrSs a ((i : Int) - 1)
        (if nf == 0 then (0x5f : UInt8) else if nf == 1 then 0x2d else 0x2c) = .ok a1 :=
      ⟨_, by unfold wrSs; rw [if_pos ⟨by omega, by omega⟩]⟩
    have w := wrSs_ok_inv h1
    rw [show ((i : Int) - 1).toNat = i - 1 by omega] at w
    obtain ⟨a', h', hs, hl, ho⟩ := ih a1 (fun p hp => by rw [w.2.2.1]; exact hpos p (by simp [hp]))
    refine ⟨a', by simp only [drainAuxss, bind, Except.bind, h1, h'], by rw [hs, w.2.2.1], ?_, ?_⟩
    · intro p hp
      by_cases hpr : p ∈ rest
      · exact hl p hpr
      · rcases List.mem_cons.mp hp with rfl | hp
        · rw [ho (p-1) (by rw [show p - 1 + 1 = p by omega]; exact hpr), w.2.2.2.1]
          exact unpairedChar nf
        · exact absurd hp hpr
    · intro q hq
      simp only [List.mem_cons, not_or] at hq
      rw [ho q hq.2, w.2.2.2.2 q (by omega)]

theorem wrSs_ok_of_range (a : Array UInt8) (i : Int) (v : UInt8) (h0 : 0 ≤ i) (h : i.toNat < a.size) :
    ∃ a', wrSs a i v = .ok a' := ⟨_, by unfold wrSs; rw [if_pos ⟨h0, h⟩]⟩

/-- invariant of the main loop `for (j = 1; j <= n; j++)` on a nested table -/
structure CInv (n : Nat) (ct : List Nat) (j : Nat) (pda : List Int) (st : C2W) : Prop where
  cct : st.cct = ct.toArray
  nopk : st.auxpk = []
  noaux : st.auxss = []
  sssize : st.ss.size = n
  reached : st.reached = rightEnds ct j
  ent : ∀ a ∈ pda, (a < 0 ∧ -4 ≤ a) ∨ (0 ≤ a ∧ 1 ≤ a.toNat ∧ a.toNat < j)
  sorted : (pda.filter (fun a => decide (0 ≤ a))).Pairwise (· > ·)
  lefts : ∀ p, 1 ≤ p → p < j → j ≤ ct.getD p 0 → (p : Int) ∈ pda
  paired : ∀ a ∈ pda, 0 ≤ a → ct.getD a.toNat 0 ≠ 0 → j ≤ ct.getD a.toNat 0
  l1 : ∀ q, q < n → ct.getD (q+1) 0 = 0 → isUnpairedSym (ssAt st.ss q) = true
  l2 : ∀ j0, 1 ≤ j0 → j0 < j → ct.getD j0 0 ≠ 0 → ct.getD j0 0 < j0 →
        isOpenBr (ssAt st.ss (ct.getD j0 0 - 1)) = true ∧
        ssAt st.ss (j0-1) = closerOf (ssAt st.ss (ct.getD j0 0 - 1))

theorem filter_nonneg_append (above below : List Int) (i : Nat) :
    (above ++ (i : Int) :: below).filter (fun a => decide (0 ≤ a)) =
      above.filter (fun a => decide (0 ≤ a)) ++ (i : Int) :: below.filter (fun a => decide (0 ≤ a)) := by
  simp [List.filter_append, List.filter_cons]

theorem breakPairs_length (useme : List Bool) : ∀ (fuel apos : Nat) (ct : List Nat),
    (breakPairs useme apos fuel ct).length = ct.length := by
  intro fuel
  induction fuel with
  | zero => intros; rfl
  | succ fuel ih =>
    intro apos ct
    simp only [breakPairs]
    split
    · rw [ih]; simp only [List.length_set]; split <;> simp
    · exact ih _ _

theorem breakPairs_ctOk_nested (useme : List Bool) (n : Nat) (ct : List Nat) (hct : CtOk n ct) :
    CtOk n (breakPairs useme 1 n ct) ∧ (Nested ct → Nested (breakPairs useme 1 n ct)) := by
  have sp := breakPairs_spec' useme n ct hct
  have hval : ∀ i, (breakPairs useme 1 n ct).getD i 0 ≠ 0 →
      (breakPairs useme 1 n ct).getD i 0 = ct.getD i 0 ∧ ct.getD i 0 ≠ 0 ∧
      useme.getD (i-1) false = true ∧ useme.getD (ct.getD i 0 - 1) false = true := by
    intro i hi
    rw [sp i] at hi ⊢
    split at hi
    · rename_i hc; rw [if_pos hc]; exact ⟨rfl, hc.1, hc.2.1, hc.2.2⟩
    · exact absurd rfl hi
  constructor
  · refine ⟨by rw [breakPairs_length, hct.1], fun i hi => ?_⟩
    obtain ⟨he, h0, hu1, hu2⟩ := hval i hi
    have hp := hct.2 i h0
    rw [he]
    refine ⟨hp.1, hp.2.1, hp.2.2.1, hp.2.2.2.1, ?_, hp.2.2.2.2.2⟩
    rw [sp (ct.getD i 0), hp.2.2.2.2.1]
    rw [if_pos ⟨by omega, hu2, hu1⟩]
  · intro hn i i' hi hi' hlt hlt2
    obtain ⟨he, h0, _, _⟩ := hval i hi
    obtain ⟨he', h0', _, _⟩ := hval i' hi'
    rw [he] at hlt2 ⊢
    rw [he']
    exact hn i i' h0 h0' hlt hlt2

end EaselModel.Msa
