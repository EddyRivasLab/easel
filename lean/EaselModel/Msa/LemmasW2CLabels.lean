import EaselModel.Msa.LemmasTurn
/-! Lemmas: the full invariant `W2CInv2` of `esl_wuss2ct`'s loop, carried through the loop once: besides `W2CInv`, an unpaired
    position read so far carries an unpaired symbol or waits on a stack, and inside a pair no symbol of the pair's class is
    left unpaired or reaches outside. What `esl_wuss2ct` returns is read off the invariant at the end (`wuss2ct_inv`). -/
namespace EaselModel.Msa

theorem pairOk_right_not_opener (ss : Bytes) (a b : Nat) (h : pairOk ss a b) : openerClass (ss.getD (b-1) 0) = none := by
  rcases h.2 with ⟨ho, hc⟩ | ⟨hu, hc⟩
  · rw [hc]; exact openerClass_none (bracket ho).mate_notOpen (bracket ho).mate_notUpper
  · rw [hc]; exact openerClass_none (letter hu).mate_notOpen (letter hu).mate_notUpper

structure W2CInv2 (ss : Bytes) (pos : Nat) (pda : List (List Nat)) (ct : List Nat) : Prop where
  base : W2CInv ss pos pda ct
  unp : ∀ p, 1 ≤ p → p < pos → ct.getD p 0 = 0 → isUnpairedSym (ss.getD (p-1) 0) = true ∨ ∃ k, p ∈ pda.getD k []
  nest : ∀ i0, ct.getD i0 0 ≠ 0 → i0 < ct.getD i0 0 → ∀ p, i0 < p → p < ct.getD i0 0 →
    openerClass (ss.getD (p-1) 0) = openerClass (ss.getD (i0-1) 0) →
    ct.getD p 0 ≠ 0 ∧ p < ct.getD p 0 ∧ ct.getD p 0 < ct.getD i0 0

theorem inv2_skip {ss pos pda ct} (h : W2CInv2 ss pos pda ct) (hu : isUnpairedSym (ss.getD (pos-1) 0) = true) :
    W2CInv2 ss (pos+1) pda ct where
  base := inv_skip h.base
  unp := by
    intro p h1 h2 h3
    by_cases hp : p = pos
    · subst hp; exact Or.inl hu
    · exact h.unp p h1 (by omega) h3
  nest := h.nest

theorem inv2_push {ss pos pda ct} (h : W2CInv2 ss pos pda ct) (k : Nat) (hk : k < 27) (hpos : 1 ≤ pos)
    (hc : openerClass (ss.getD (pos-1) 0) = some k) : W2CInv2 ss (pos+1) (pushAt pda k pos) ct where
  base := inv_push h.base k hk hpos hc
  unp := by
    intro p h1 h2 h3
    by_cases hp : p = pos
    · subst hp
      right; refine ⟨k, ?_⟩
      rw [pushAt, getD_set_self _ _ _ _ (by rw [h.base.pdalen]; exact hk)]; simp
    · rcases h.unp p h1 (by omega) h3 with hu | ⟨k', hk'⟩
      · exact Or.inl hu
      · right; refine ⟨k', ?_⟩
        by_cases hkk : k = k'
        · subst hkk
          rw [pushAt, getD_set_self _ _ _ _ (by rw [h.base.pdalen]; exact hk)]
          exact List.mem_cons_of_mem _ hk'
        · rw [pushAt, getD_set_ne _ _ _ _ _ hkk]; exact hk'
  nest := h.nest

theorem inv2_pop {ss pos pda ct} (h : W2CInv2 ss pos pda ct) (k : Nat) (hk : k < 27) (hle : pos ≤ ss.length)
    (pair : Nat) (tl : List Nat) (hs : pda.getD k [] = pair :: tl) (hok : pairOk ss pair pos) :
    W2CInv2 ss (pos+1) (pda.set k tl) ((ct.set pos pair).set pair pos) := by
  have hb := h.base
  have hpair := hb.stk k pair (by rw [hs]; simp)
  have hdec := hb.dec k
  rw [hs, List.pairwise_cons] at hdec
  have hne : pos ≠ pair := by omega
  obtain ⟨rd_pair, rd_pos, rd_other⟩ :=
    getD_setPair ct (show pos < ct.length by rw [hb.ctlen]; omega) (show pair < ct.length by rw [hb.ctlen]; omega) hne
  refine ⟨inv_pop hb k hk hle pair tl hs hok, ?_, ?_⟩
  · intro p h1 h2 h3
    have hp1 : p ≠ pos := by intro e; subst e; rw [rd_pos] at h3; omega
    have hp2 : p ≠ pair := by intro e; subst e; rw [rd_pair] at h3; omega
    rw [rd_other p hp1 hp2] at h3
    rcases h.unp p h1 (by omega) h3 with hu | ⟨k', hk'⟩
    · exact Or.inl hu
    · right; refine ⟨k', ?_⟩
      by_cases hkk : k = k'
      · subst hkk
        rw [getD_set_self _ _ _ _ (by rw [hb.pdalen]; exact hk)]
        rw [hs] at hk'
        simp only [List.mem_cons] at hk'
        rcases hk' with e | hk'
        · exact absurd e hp2
        · exact hk'
      · rw [getD_set_ne _ _ _ _ _ hkk]; exact hk'
  · intro i0 hi0 hlt p hp1 hp2 hcls
    by_cases hip : i0 = pair
    · subst hip
      rw [rd_pair] at hp2 ⊢
      have hpc : openerClass (ss.getD (p-1) 0) = some k := by rw [hcls]; exact hpair.2.2.2
      have hpp : p ≠ pos := by omega
      have hpq : p ≠ i0 := by omega
      rw [rd_other p hpp hpq]
      have hnz : ct.getD p 0 ≠ 0 := by
        intro hz
        rcases h.unp p (by omega) hp2 hz with hu | ⟨k', hk'⟩
        · rw [(unpaired hu).noClass.1] at hpc; cases hpc
        · have hst := hb.stk k' p hk'
          rw [hst.2.2.2] at hpc
          have : k' = k := Option.some.inj hpc
          subst this
          rw [hs] at hk'
          simp only [List.mem_cons] at hk'
          rcases hk' with e | hk'
          · omega
          · have := hdec.1 p hk'; omega
      have hsy := hb.sym p hnz
      refine ⟨hnz, ?_, by omega⟩
      rcases hsy.2.2.2.2.2 with hpo | hpo
      · exact hpo.1
      · exfalso
        have := pairOk_right_not_opener ss _ _ hpo
        rw [this] at hpc; cases hpc
    · by_cases hiq : i0 = pos
      · subst hiq
        rw [rd_pos] at hlt; omega
      · rw [rd_other i0 hiq hip] at hi0 hlt hp2 ⊢
        have hold := h.nest i0 hi0 hlt p hp1 hp2 hcls
        have hsy := hb.sym i0 hi0
        have hpp : p ≠ pos := by omega
        have hpq : p ≠ pair := by intro e; subst e; exact hold.1 hpair.2.2.1
        rw [rd_other p hpp hpq]
        exact hold

theorem inv2_init (ss : Bytes) : W2CInv2 ss 1 (List.replicate 27 []) (List.replicate (ss.length + 1) 0) where
  base := inv_init ss
  unp := by intro p h1 h2; omega
  nest := by
    intro i0 hi0
    exfalso; apply hi0
    simp only [List.getD_eq_getElem?_getD, List.getElem?_replicate]
    split <;> rfl

theorem w2cLoop_inv2 (ss : Bytes) : ∀ (rest : Bytes) (pos : Nat) (pda : List (List Nat)) (ct : List Nat),
    ss.drop (pos-1) = rest → 1 ≤ pos → W2CInv2 ss pos pda ct →
    ∀ pda' ct', w2cLoop ss rest pos pda ct = some (pda', ct') → W2CInv2 ss (ss.length + 1) pda' ct' := by
  intro rest
  induction rest with
  | nil =>
    intro pos pda ct hd hpos hinv pda' ct' hrun
    simp only [w2cLoop, Option.some.injEq, Prod.mk.injEq] at hrun
    obtain ⟨rfl, rfl⟩ := hrun
    have hlen : ss.length ≤ pos - 1 := by
      rcases Nat.lt_or_ge (pos-1) ss.length with h1 | h1
      · rw [List.drop_eq_getElem_cons h1] at hd; cases hd
      · exact h1
    exact ⟨inv_end hinv.base hlen, fun p h1 h2 => hinv.unp p h1 (by omega), hinv.nest⟩
  | cons c rest ih =>
    intro pos pda ct hd hpos hinv pda' ct' hrun
    obtain ⟨hc, hlt, hdrop⟩ := drop_cons_getD ss (pos-1) c rest hd
    have hd' : ss.drop (pos + 1 - 1) = rest := by
      have : pos + 1 - 1 = pos - 1 + 1 := by omega
      rw [this]; exact hdrop
    have hle : pos ≤ ss.length := by omega
    cases turn c with
    | push k hk ho _ _ eq =>
      rw [eq] at hrun
      exact ih (pos+1) _ ct hd' (by omega) (inv2_push hinv k hk hpos (hc ▸ ho)) pda' ct' hrun
    | pop k hk _ hcl _ eqNil eqCons =>
      cases hs : pda.getD k [] with
      | nil => rw [eqNil _ _ _ _ _ hs] at hrun; cases hrun
      | cons pair tl =>
        rw [eqCons _ _ _ _ _ _ _ hs] at hrun
        by_cases hm : closes k (ss.getD (pair-1) 0) c = true
        · rw [if_pos hm] at hrun
          -- the position on top of stack `k` carries an opener of class `k`: with the closer `c` it spells a pair
          have hpair := hinv.base.stk k pair (by rw [hs]; simp)
          have hok : pairOk ss pair pos := ⟨hpair.2.1, by rw [hc]; exact match_class.2 ⟨k, hk, hpair.2.2.2, hcl, hm⟩⟩
          exact ih (pos+1) _ _ hd' (by omega) (inv2_pop hinv k hk hle pair tl hs hok) pda' ct' hrun
        · rw [if_neg hm] at hrun; cases hrun
    | skip hu _ _ _ eq =>
      rw [eq] at hrun
      exact ih (pos+1) pda ct hd' (by omega) (inv2_skip hinv (by rw [hc]; exact hu)) pda' ct' hrun
    | bad _ _ _ _ eq => rw [eq] at hrun; cases hrun

theorem wuss2ct_inv (ss : Bytes) (ct : List Nat) (h : wuss2ct ss = some ct) :
    ∃ pda, W2CInv2 ss (ss.length + 1) pda ct ∧ pda.all (fun s => s.isEmpty) = true := by
  unfold wuss2ct at h
  split at h
  · cases h
  · rename_i pda ct' hrun
    split at h
    · rename_i hall
      injection h with h; subst h
      exact ⟨pda, w2cLoop_inv2 ss ss 1 _ _ (by simp) (Nat.le_refl _) (inv2_init ss) pda ct' hrun, hall⟩
    · cases h

theorem wuss2ct_involution' (ss : Bytes) (ct : List Nat) (h : wuss2ct ss = some ct) :
    ct.length = ss.length + 1 ∧
    ∀ i, ct.getD i 0 ≠ 0 →
      1 ≤ i ∧ i ≤ ss.length ∧ 1 ≤ ct.getD i 0 ∧ ct.getD i 0 ≤ ss.length ∧
      ct.getD (ct.getD i 0) 0 = i ∧ ct.getD i 0 ≠ i := by
  obtain ⟨pda, inv, _⟩ := wuss2ct_inv ss ct h
  refine ⟨inv.base.ctlen, fun i hi => ?_⟩
  have hs := inv.base.sym i hi
  refine ⟨hs.1, by omega, hs.2.2.1, by omega, hs.2.2.2.2.1, ?_⟩
  rcases hs.2.2.2.2.2 with hp | hp <;> have := hp.1 <;> omega

theorem wuss2ct_pairs_matched' (ss : Bytes) (ct : List Nat) (h : wuss2ct ss = some ct) (i : Nat)
    (hi : ct.getD i 0 ≠ 0) (hlt : i < ct.getD i 0) : pairOk ss i (ct.getD i 0) := by
  obtain ⟨pda, inv, _⟩ := wuss2ct_inv ss ct h
  rcases (inv.base.sym i hi).2.2.2.2.2 with hp | hp
  · exact hp
  · have := hp.1; omega

end EaselModel.Msa
