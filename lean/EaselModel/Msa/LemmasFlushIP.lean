import EaselModel.Msa.Spec
/-! Lemmas: the in-place row loop of `esl_msa_FlushLeftInserts` equals the left-to-right model `flushRow`. -/
namespace EaselModel.Msa

theorem gapFill_length (g : UInt8) : ∀ (n b : Nat) (buf : Bytes), (gapFill g n b buf).length = buf.length
  | 0, _, _ => rfl
  | n+1, b, buf => by simp [gapFill, gapFill_length g n]

/-- `for (; b < a; b++) ax[b] = gap` on a buffer seen as written part ++ stale cells ++ rest -/
theorem gapFill_append (g : UInt8) : ∀ (mid out suf : Bytes),
    gapFill g mid.length out.length (out ++ mid ++ suf) = out ++ List.replicate mid.length g ++ suf
  | [], out, suf => by simp [gapFill]
  | m :: mid, out, suf => by
    have h : (out ++ m :: mid ++ suf).set out.length g = (out ++ [g]) ++ mid ++ suf := by
      simp [List.set_append]
    have := gapFill_append g mid (out ++ [g]) suf
    simp only [List.length_append, List.length_cons, List.length_nil] at this
    simp only [List.length_cons, gapFill, h, this, List.replicate_succ]
    simp

theorem getD_append_at (l : Bytes) (r : UInt8) (s : Bytes) : (l ++ r :: s).getD l.length 0 = r := by simp

/-- The buffer of the in-place loop is, at every turn, `out ++ mid ++ rows`: what has been written, `mid` stale cells between
    the write position `b = |out|` and the read position `a`, and the cells not yet read, still the original ones. -/
theorem flushIP_eq (abc : Abc) (rf : Bytes) (alen : Nat) (hrf : rf.length = alen) :
    ∀ (rows : Bytes) (fuel a b : Nat) (out mid : Bytes), alen ≤ a + fuel → a + rows.length = alen → out.length + mid.length = a →
      b = out.length →
      flushIP abc rf alen fuel a b (out ++ mid ++ rows) =
        (let o := flushGo abc (rf.drop a) rows a out; o ++ List.replicate (alen - o.length) abc.xGap) := by
  intro rows
  induction rows with
  | nil =>
    intro fuel a b out mid _ ha hm hb
    subst hb
    simp only [List.length_nil, Nat.add_zero] at ha
    have e1 : rf.drop a = [] := List.drop_eq_nil_of_le (by omega)
    have e2 : alen - out.length = mid.length := by omega
    have : flushIP abc rf alen fuel a out.length (out ++ mid ++ []) =
        gapFill abc.xGap (alen - out.length) out.length (out ++ mid ++ []) := by
      cases fuel with
      | zero => rfl
      | succ f => unfold flushIP; rw [if_pos (by omega)]
    rw [this, e1, e2, gapFill_append]
    simp [flushGo]
    omega
  | cons r rows ih =>
    intro fuel a b out mid hf ha hm hb
    subst hb
    simp only [List.length_cons] at ha
    obtain ⟨f, rfl⟩ : ∃ f, fuel = f + 1 := ⟨fuel - 1, by omega⟩
    have drf : rf.drop a = rf.getD a 0 :: rf.drop (a+1) := by
      rw [List.drop_eq_getElem_cons (by omega)]
      simp [List.getD_eq_getElem?_getD, List.getElem?_eq_getElem (show a < rf.length by omega)]
    have hra : (out ++ mid ++ r :: rows).getD a 0 = r := by
      have := getD_append_at (out ++ mid) r rows
      rw [List.length_append, hm] at this
      exact this
    unfold flushIP
    rw [if_neg (by omega), drf]
    simp only [flushGo]
    by_cases hcons : abc.cIsGap (rf.getD a 0) = false
    · -- consensus column: the stale cells become gaps, the residue stays where it is
      simp only [hcons, Bool.not_false, if_true]
      have hb1 : (if out.length < a then a else out.length) = a := by split <;> omega
      have e : a - out.length = mid.length := by omega
      rw [hb1, e, gapFill_append]
      have hl : (out ++ List.replicate mid.length abc.xGap).length = a := by simp; omega
      have h1 : (out ++ List.replicate mid.length abc.xGap ++ r :: rows).getD a 0 = r := by
        have := getD_append_at (out ++ List.replicate mid.length abc.xGap) r rows
        rw [hl] at this; exact this
      have h2 : (out ++ List.replicate mid.length abc.xGap ++ r :: rows).set a r =
          (out ++ List.replicate mid.length abc.xGap ++ [r]) ++ [] ++ rows := by
        rw [List.set_append, if_neg (by omega), hl]; simp
      rw [h1, h2]
      exact ih f (a+1) (a+1) _ [] (by omega) (by omega) (by simp; omega) (by simp; omega)
    · have hc' : abc.cIsGap (rf.getD a 0) = true := by simpa using hcons
      simp only [hc', Bool.not_true, Bool.false_eq_true, if_false, hra]
      by_cases hxg : abc.xIsGap r = true
      · -- a gap in an insert column is passed over: one more stale cell
        simp only [hxg, if_true]
        have : out ++ mid ++ r :: rows = out ++ (mid ++ [r]) ++ rows := by simp
        rw [this]
        exact ih f (a+1) out.length out (mid ++ [r]) (by omega) (by omega) (by simp; omega) rfl
      · -- a residue in an insert column moves down to the write position
        simp only [hxg, Bool.false_eq_true, if_false]
        have : (out ++ mid ++ r :: rows).set out.length r = (out ++ [r]) ++ ((mid ++ [r]).drop 1) ++ rows := by
          cases mid with
          | nil => simp [List.set_append]
          | cons m mid => simp [List.set_append]
        rw [this]
        exact ih f (a+1) (out.length + 1) (out ++ [r]) _ (by omega) (by omega) (by simp; omega) (by simp)

theorem flushIP_is_flushRow (abc : Abc) (rf row : Bytes) (alen : Nat) (hrf : rf.length = alen) (hrow : row.length = alen) :
    flushIP abc rf alen (alen + 1) 0 0 row = flushRow abc rf alen row := by
  have := flushIP_eq abc rf alen hrf row (alen+1) 0 0 [] [] (by omega) (by omega) rfl rfl
  simp only [List.nil_append, List.drop_zero] at this
  rw [this]
  unfold flushRow
  rw [List.take_of_length_le (by omega), List.take_of_length_le (by omega)]

theorem flushLeftInsertsIP_eq (m : Msa) (wf : m.WF) : flushLeftInsertsIP m = flushLeftInserts m := by
  unfold flushLeftInsertsIP flushLeftInserts
  cases hrf : m.rf with
  | none => rfl
  | some rf =>
    cases habc : m.abc with
    | none => rfl
    | some a =>
      simp only
      congr 2
      apply List.map_congr_left
      intro r hr
      exact flushIP_is_flushRow a rf r m.alen (wf.rf_ok rf hrf).1 (wf.rows_ok r hr).1

end EaselModel.Msa
