import EaselModel.Msa.LemmasClass
/-! Lemmas: the pair table `esl_wuss2ct` reads from a string WITHOUT pseudoknot letters is nested. -/
namespace EaselModel.Msa

/-- extra invariant of the reading loop on a letter-free string -/
structure NoPkInv (pos : Nat) (pda : List (List Nat)) (ct : List Nat) : Prop where
  /-- no waiting opening bracket lies strictly inside an already closed pair -/
  n3 : ∀ p ∈ pda.getD 0 [], ∀ a, ct.getD a 0 ≠ 0 → a < p → p < ct.getD a 0 → False
  nested : Nested ct

/-- without letters every pair is a bracket pair, all on stack 0, and pairs of one stack do not cross -/
theorem wuss2ct_nopk_nested' (ss : Bytes) (hnl : ∀ c ∈ ss, isAlpha c = false) (ct : List Nat) (h : wuss2ct ss = some ct) :
    Nested ct := by
  have hct := wuss2ct_involution' ss ct h
  obtain ⟨hl, hcn⟩ := wuss2ct_class_labels ss ct h
  have hcls : ∀ i, ct.getD i 0 ≠ 0 → i < ct.getD i 0 → openerClass (ss.getD (i-1) 0) = some 0 := by
    intro i hi hlt
    have hr := hct.2 i hi
    have hlt' : i - 1 < ss.length := by omega
    rcases (hl i hr.1 hr.2.1).2 hlt with ⟨ho, _⟩ | ⟨hu, _⟩
    · unfold openerClass; rw [if_pos ho]
    · have := hnl (ss.getD (i-1) 0) (by
        rw [List.getD_eq_getElem?_getD, List.getElem?_eq_getElem hlt', Option.getD_some]; exact List.getElem_mem hlt')
      rw [isAlpha, hu] at this; cases this
  intro i i' hi hi' h1 h2
  rcases Nat.lt_or_ge i' (ct.getD i' 0) with hleft | hright
  · exact hcn i i' hi hi' h1 h2 hleft ((hcls i hi (by omega)).trans (hcls i' hi' hleft).symm)
  · omega

theorem map_nopseudo_id : ∀ (ss : Bytes), (∀ c ∈ ss, isAlpha c = false) → wussNopseudo ss = ss
  | [], _ => rfl
  | c :: ss, h => by
    have hc := h c (by simp)
    have ih := map_nopseudo_id ss (fun x hx => h x (by simp [hx]))
    simp only [wussNopseudo, List.map_cons, nopseudoChar, hc, Bool.false_eq_true, if_false] at ih ⊢
    rw [ih]

theorem zipWith_overlay_id : ∀ (ss full : Bytes), (∀ c ∈ ss, isAlpha c = false) → ss.length = full.length →
    List.zipWith (fun o t => if isAlpha o then o else t) ss full = full
  | [], [], _, _ => rfl
  | [], _ :: _, _, h => by simp at h
  | _ :: _, [], _, h => by simp at h
  | c :: ss, t :: full, h, hl => by
    have hc := h c (by simp)
    have ih := zipWith_overlay_id ss full (fun x hx => h x (by simp [hx])) (by simpa using hl)
    simp [List.zipWith, hc, ih]

end EaselModel.Msa
