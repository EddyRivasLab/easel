import EaselModel.Msa.Model3
/-! Lemmas about `esl_msa_ReasonableRF`. `useconsseq=FALSE`: the column rule (`rfColumn_*`) and the line returned (`reasonableRF_some`).
    The repaired `useconsseq=TRUE` (0c757a4): shape of the line written; text branch total on valid text, equal to the digital
    branch on the digitized alignment. Exact thresholds over ℚ. -/
namespace EaselModel.Msa

theorem rfColumn_cases {W : Type} (A : WArith W) (isRes isGapLike : UInt8 → Bool) (cells : List (UInt8 × W)) :
    rfColumn A isRes isGapLike cells = 0x78 ∨ rfColumn A isRes isGapLike cells = 0x2e := by
  unfold rfColumn
  generalize List.foldl _ _ cells = p
  obtain ⟨r, t⟩ := p
  simp only []
  by_cases h : A.isCons r t = true <;> simp [h]

theorem rfFold_fst {W : Type} (A : WArith W) (isRes isGapLike : UInt8 → Bool) : ∀ (cells : List (UInt8 × W)) (acc : W × W),
    (∀ cw ∈ cells, isRes cw.1 = false) →
    (cells.foldl (fun (acc : W × W) cw =>
      if isRes cw.1 then (A.add acc.1 cw.2, A.add acc.2 cw.2)
      else if isGapLike cw.1 then (acc.1, A.add acc.2 cw.2)
      else acc) acc).1 = acc.1
  | [], acc, _ => rfl
  | cw :: rest, acc, h => by
    simp only [List.foldl_cons]
    have h0 := h cw (by simp)
    rw [h0]
    simp only [Bool.false_eq_true, if_false]
    by_cases hg : isGapLike cw.1 = true
    · rw [if_pos hg, rfFold_fst A isRes isGapLike rest _ (fun c hc => h c (by simp [hc]))]
    · rw [if_neg hg, rfFold_fst A isRes isGapLike rest _ (fun c hc => h c (by simp [hc]))]

/-- a column in which no sequence has a residue is never a consensus column (`r > 0.` fails) -/
theorem rfColumn_no_residue {W : Type} (A : WArith W) (hA : ∀ t, A.isCons A.zero t = false) (isRes isGapLike : UInt8 → Bool)
    (cells : List (UInt8 × W)) (h : ∀ cw ∈ cells, isRes cw.1 = false) : rfColumn A isRes isGapLike cells = 0x2e := by
  unfold rfColumn
  have := rfFold_fst A isRes isGapLike cells (A.zero, A.zero) h
  generalize List.foldl _ _ cells = p at this
  obtain ⟨r, t⟩ := p
  simp only [] at this ⊢
  subst this
  simp [hA t]

theorem rfCells_mem {W : Type} (m : Msa) (wgt : List W) (apos : Nat) (cw : UInt8 × W) (h : cw ∈ rfCells m wgt apos) :
    ∃ r ∈ m.rows.take m.nseq, cw.1 = r.getD apos 0 := by
  unfold rfCells at h
  have := (List.of_mem_zip h).1
  simp only [List.mem_map] at this
  obtain ⟨r, hr, e⟩ := this
  exact ⟨r, hr, e.symm⟩

/-- when `esl_msa_ReasonableRF(.., FALSE, ..)` returns a line, it is the column rule on the cells of each column -/
theorem reasonableRF_some {W : Type} (A : WArith W) {m : Msa} {wgt : List W} {rf : Bytes} (h : reasonableRF A m wgt = some rf) :
    ∃ isRes isGapLike, rfPreds m = some (isRes, isGapLike) ∧
      rf = (List.range m.alen).map fun apos => rfColumn A isRes isGapLike (rfCells m wgt apos) := by
  unfold reasonableRF at h
  cases hp : rfPreds m with
  | none => rw [hp] at h; cases h
  | some pr => rw [hp] at h; exact ⟨pr.1, pr.2, rfl, (Option.some.inj h).symm⟩

theorem fCount_length {C : Type} (add : C → C → C) (divNat : C → Nat → C) (a : Abc) (ct : List C) (x : UInt8) (wt : C) :
    (fCount add divNat a ct x wt).length = ct.length := by
  unfold fCount
  split
  · simp
  · generalize List.range a.K = l
    induction l generalizing ct with
    | nil => rfl
    | cons y l ih =>
      simp only [List.foldl_cons]
      rw [ih]
      split <;> simp

theorem fArgMax_lt {C : Type} (gt : C → C → Bool) (d : C) (v : List C) (h : 0 < v.length) : fArgMax gt d v < v.length := by
  unfold fArgMax
  have key : ∀ (l : List Nat) (b : Nat), b < v.length → (∀ i ∈ l, i < v.length) →
      l.foldl (fun best i => if i ≥ 1 && gt (v.getD i d) (v.getD best d) then i else best) b < v.length := by
    intro l
    induction l with
    | nil => intro b hb _; exact hb
    | cons i l ih =>
      intro b hb hl
      simp only [List.foldl_cons]
      apply ih
      · split
        · exact hl i (by simp)
        · exact hb
      · intro j hj; exact hl j (by simp [hj])
  exact key _ 0 h (fun i hi => by simpa using hi)

theorem fCountX_of_residue {C : Type} (add : C → C → C) (divNat : C → Nat → C) (a : Abc) (ct : List C) (x : UInt8) (wt : C)
    (h : a.xIsResidue x = true) : fCountX add divNat a ct x wt = some (fCount add divNat a ct x wt) := by
  unfold fCountX fCount
  simp only [Abc.xIsResidue, Bool.or_eq_true, decide_eq_true_eq, Bool.and_eq_true] at h
  by_cases h1 : x.toNat < a.K
  · simp [h1]
  · have h2 : a.K < x.toNat ∧ x.toNat < a.Kp - 2 := by
      rcases h with h | h
      · exact absurd h h1
      · exact h
    have e1 : (x.toNat == a.K) = false := by simp; omega
    have e2 : (x.toNat == a.Kp - 1) = false := by simp; omega
    have e3 : (x.toNat == a.Kp - 2) = false := by simp; omega
    have e4 : x.toNat < a.Kp := by omega
    simp [h1, e1, e2, e3, e4]

def rfDigFold {W C : Type} (A : WArith W) (B : CArith W C) (a : Abc) (acc : W × W × List C) (cw : UInt8 × W) : W × W × List C :=
  if a.xIsResidue cw.1 then
    (A.add acc.1 cw.2, A.add acc.2.1 cw.2, fCount B.add B.divNat a acc.2.2 cw.1 (B.ofW cw.2))
  else if a.xIsGap cw.1 then (acc.1, A.add acc.2.1 cw.2, acc.2.2)
  else acc

def rfTextFold {W C : Type} (A : WArith W) (B : CArith W C) (a : Abc) (acc : Option (W × W × List C)) (cw : UInt8 × W) :
    Option (W × W × List C) :=
  match acc with
  | none => none
  | some acc =>
    if isAlpha cw.1 then
      match fCountX B.add B.divNat a acc.2.2 (a.digit cw.1) (B.ofW cw.2) with
      | some ct => some (A.add acc.1 cw.2, A.add acc.2.1 cw.2, ct)
      | none => none
    else some (acc.1, A.add acc.2.1 cw.2, acc.2.2)

theorem rfTextColumn_eq {W C : Type} (A : WArith W) (B : CArith W C) (a : Abc) (cells : List (UInt8 × W)) :
    rfTextColumn A B a cells =
      (cells.foldl (rfTextFold A B a) (some (A.zero, A.zero, List.replicate a.K B.zero))).map
        (fun acc => if A.isCons acc.1 acc.2.1 then a.sym.getD (fArgMax B.gt B.zero acc.2.2) 0 else 0x2e) := by
  unfold rfTextColumn
  show (match cells.foldl (rfTextFold A B a) _ with | none => none | some acc => _) = _
  cases cells.foldl (rfTextFold A B a) (some (A.zero, A.zero, List.replicate a.K B.zero)) <;> rfl

theorem rfDigitalColumn_eq {W C : Type} (A : WArith W) (B : CArith W C) (a : Abc) (cells : List (UInt8 × W)) :
    rfDigitalColumn A B a cells =
      (fun (acc : W × W × List C) => if A.isCons acc.1 acc.2.1 then a.sym.getD (fArgMax B.gt B.zero acc.2.2) 0 else 0x2e)
        (cells.foldl (rfDigFold A B a) (A.zero, A.zero, List.replicate a.K B.zero)) := rfl

/-- a cell of a digitizable text column without missing-data / nonresidue characters: a letter is a residue of the
    alphabet, anything else one of its gap characters -/
def RfTextCell (a : Abc) (c : UInt8) : Prop :=
  (isAlpha c = true → a.xIsResidue (a.digit c) = true) ∧ (isAlpha c = false → a.xIsGap (a.digit c) = true)

theorem rfTextFold_eq_dig {W C : Type} (A : WArith W) (B : CArith W C) (a : Abc) :
    ∀ (cells : List (UInt8 × W)) (acc : W × W × List C), (∀ cw ∈ cells, RfTextCell a cw.1) →
      cells.foldl (rfTextFold A B a) (some acc) =
        some ((cells.map fun cw => (a.digit cw.1, cw.2)).foldl (rfDigFold A B a) acc) := by
  intro cells
  induction cells with
  | nil => intro acc _; rfl
  | cons cw cells ih =>
    intro acc h
    have hc := h cw (by simp)
    simp only [List.foldl_cons, List.map_cons]
    have step : rfTextFold A B a (some acc) cw = some (rfDigFold A B a acc (a.digit cw.1, cw.2)) := by
      unfold rfTextFold rfDigFold
      cases hal : isAlpha cw.1
      · have hg := hc.2 hal
        have hnr : a.xIsResidue (a.digit cw.1) = false := by
          simp only [Abc.xIsGap, beq_iff_eq] at hg
          simp only [Abc.xIsResidue, hg]
          simp
        simp [hnr, hg]
      · have hr := hc.1 hal
        simp only [if_true]
        rw [fCountX_of_residue _ _ _ _ _ _ hr]
        simp [hr]
    rw [step]
    exact ih _ (fun cw' hcw' => h cw' (by simp [hcw']))

theorem rfTextColumn_eq_digital {W C : Type} (A : WArith W) (B : CArith W C) (a : Abc)
    (cells : List (UInt8 × W)) (h : ∀ cw ∈ cells, RfTextCell a cw.1) :
    rfTextColumn A B a cells = some (rfDigitalColumn A B a (cells.map fun cw => (a.digit cw.1, cw.2))) := by
  rw [rfTextColumn_eq, rfTextFold_eq_dig A B a cells _ h, rfDigitalColumn_eq]
  rfl

/-- every cell the text branch looks at is a letter of the alphabet or one of its gap characters -/
def RfTextOk (a : Abc) (m : Msa) : Prop :=
  ∀ r ∈ m.rows.take m.nseq, m.alen ≤ r.length ∧ ∀ c ∈ r.take m.alen, RfTextCell a c

theorem rfCells_ok {W : Type} (a : Abc) (m : Msa) (wgt : List W) (h : RfTextOk a m) (apos : Nat) (hap : apos < m.alen) :
    ∀ cw ∈ rfCells m wgt apos, RfTextCell a cw.1 := by
  intro cw hcw
  obtain ⟨r, hr, e⟩ := rfCells_mem m wgt apos cw hcw
  obtain ⟨hl, hc⟩ := h r hr
  rw [e]
  apply hc
  have h1 : apos < r.length := by omega
  rw [List.getD_eq_getElem?_getD, List.getElem?_eq_getElem h1, Option.getD_some]
  rw [List.mem_iff_getElem]
  exact ⟨apos, by simp; omega, by simp⟩

theorem mapM_some_of_forall {α β : Type} (f : α → Option β) (g : α → β) :
    ∀ (l : List α), (∀ x ∈ l, f x = some (g x)) → l.mapM f = some (l.map g) := by
  intro l
  induction l with
  | nil => intro _; rfl
  | cons x l ih =>
    intro h
    rw [List.mapM_cons, h x (by simp), ih (fun y hy => h y (by simp [hy]))]
    rfl

theorem rfCells_digitized {W : Type} (a : Abc) (m : Msa) (wgt : List W) (h : RfTextOk a m) (apos : Nat) (hap : apos < m.alen) :
    rfCells { m with rows := m.rows.map (fun r => r.map a.digit), abc := some a, flags := m.flags ||| flagDigital } wgt apos =
      (rfCells m wgt apos).map fun cw => (a.digit cw.1, cw.2) := by
  unfold rfCells
  simp only
  rw [← List.map_take, List.map_map]
  have : ∀ (rs : List Bytes) (w : List W), (∀ r ∈ rs, apos < r.length) →
      (rs.map ((fun r => r.getD apos 0) ∘ fun r => r.map a.digit)).zip w =
        ((rs.map fun r => r.getD apos 0).zip w).map fun cw => (a.digit cw.1, cw.2) := by
    intro rs
    induction rs with
    | nil => intro w _; simp
    | cons r rs ih =>
      intro w hr
      cases w with
      | nil => simp
      | cons w0 w =>
        have h1 := hr r (by simp)
        simp only [List.map_cons, List.zip_cons_cons, Function.comp]
        rw [ih w (fun r' hr' => hr r' (by simp [hr']))]
        congr 1
        simp [List.getD_eq_getElem?_getD, List.getElem?_map, List.getElem?_eq_getElem h1]
  apply this
  intro r hr
  have := (h r hr).1
  omega

theorem reasonableRFConsX_text_eq_digital {W C : Type} (A : WArith W) (B : CArith W C) (a : Abc) (m : Msa)
    (wgt : List W) (htext : m.isDigital = false) (hok : RfTextOk a m) :
    reasonableRFConsX A B m (some a) wgt =
      .ok ((List.range m.alen).map fun apos => rfDigitalColumn A B a
        (rfCells { m with rows := m.rows.map (fun r => r.map a.digit), abc := some a, flags := m.flags ||| flagDigital } wgt apos)) := by
  unfold reasonableRFConsX
  simp only [htext, Bool.false_eq_true, if_false]
  unfold rfTextLine
  rw [mapM_some_of_forall _ (fun apos => rfDigitalColumn A B a ((rfCells m wgt apos).map fun cw => (a.digit cw.1, cw.2)))]
  · simp only
    congr 1
    apply List.map_congr_left
    intro apos hap
    rw [rfCells_digitized a m wgt hok apos (by simpa using hap)]
  · intro apos hap
    exact rfTextColumn_eq_digital A B a _ (rfCells_ok a m wgt hok apos (by simpa using hap))

theorem reasonableRFConsX_digital {W C : Type} (A : WArith W) (B : CArith W C) (m : Msa) (wgt : List W)
    (hd : m.isDigital = true) :
    reasonableRFConsX A B m m.abc wgt = (match reasonableRFCons A B m wgt with | some rf => .ok rf | none => .einval) := by
  unfold reasonableRFConsX reasonableRFCons
  cases m.abc with
  | none => simp [hd]
  | some a => simp only [hd, Bool.not_true, Bool.false_eq_true, if_false, if_true]; rfl

theorem rfDigitalColumn_shape {W C : Type} (A : WArith W) (B : CArith W C) (a : Abc) (hK : 0 < a.K) (cells : List (UInt8 × W)) :
    rfDigitalColumn A B a cells = 0x2e ∨ ∃ k, k < a.K ∧ rfDigitalColumn A B a cells = a.sym.getD k 0 := by
  rw [rfDigitalColumn_eq]
  simp only
  split
  · right
    have hlen : ∀ (cells : List (UInt8 × W)) (acc : W × W × List C), acc.2.2.length = a.K →
        (cells.foldl (rfDigFold A B a) acc).2.2.length = a.K := by
      intro cells
      induction cells with
      | nil => intro acc h; exact h
      | cons cw cells ih =>
        intro acc h
        simp only [List.foldl_cons]
        apply ih
        unfold rfDigFold
        split
        · simp only; rw [fCount_length]; exact h
        · split <;> exact h
    have := hlen cells (A.zero, A.zero, List.replicate a.K B.zero) (by simp)
    have h2 := fArgMax_lt B.gt B.zero _ (by rw [this]; exact hK)
    rw [this] at h2
    exact ⟨_, h2, rfl⟩
  · exact Or.inl rfl

theorem reasonableRFCons_shape {W C : Type} (A : WArith W) (B : CArith W C) (m : Msa) (a : Abc) (wgt : List W) (rf : Bytes)
    (habc : m.abc = some a) (hK : 0 < a.K) (h : reasonableRFCons A B m wgt = some rf) :
    rf.length = m.alen ∧ ∀ c ∈ rf, c = 0x2e ∨ ∃ k, k < a.K ∧ c = a.sym.getD k 0 := by
  unfold reasonableRFCons at h
  split at h
  · cases h
  · rw [habc] at h
    simp only [Option.some.injEq] at h
    subst h
    refine ⟨by simp, fun c hc => ?_⟩
    simp only [List.mem_map] at hc
    obtain ⟨apos, _, rfl⟩ := hc
    exact rfDigitalColumn_shape A B a hK (rfCells m wgt apos)

theorem rfFold_rat (isRes isGapLike : UInt8 → Bool) : ∀ (cells : List (UInt8 × Rat)) (r t : Rat),
    cells.foldl (fun (acc : Rat × Rat) cw =>
      if isRes cw.1 then (acc.1 + cw.2, acc.2 + cw.2)
      else if isGapLike cw.1 then (acc.1, acc.2 + cw.2)
      else acc) (r, t) =
    (r + wsum isRes cells, t + wsum (fun c => isRes c || isGapLike c) cells) := by
  intro cells
  induction cells with
  | nil => intro r t; simp [wsum, Rat.add_zero]
  | cons cw cells ih =>
    intro r t
    simp only [List.foldl_cons, wsum]
    by_cases h1 : isRes cw.1 = true
    · simp only [h1, if_true, Bool.true_or]
      rw [ih]; simp only [Rat.add_assoc]
    · simp only [Bool.not_eq_true] at h1
      by_cases h2 : isGapLike cw.1 = true
      · simp only [h1, h2, Bool.false_eq_true, if_false, if_true, Bool.false_or]
        rw [ih]; simp only [Rat.add_assoc, Rat.zero_add]
      · simp only [Bool.not_eq_true] at h2
        simp only [h1, h2, Bool.false_eq_true, if_false, Bool.false_or]
        rw [ih]; simp only [Rat.zero_add]

/-- the column rule of `esl_msa_ReasonableRF` in exact arithmetic: `x` iff the weight `R` of the sequences with a residue
    is positive and `R / (R + G) >= symfrac`, `G` the weight of the sequences with a gap (cells that are neither —
    missing data in digital mode — are in neither sum) -/
theorem rfColumn_rat (symfrac : Rat) (isRes isGapLike : UInt8 → Bool) (cells : List (UInt8 × Rat)) :
    rfColumn (ratArith symfrac) isRes isGapLike cells =
      if 0 < wsum isRes cells ∧ symfrac ≤ wsum isRes cells / wsum (fun c => isRes c || isGapLike c) cells then 0x78 else 0x2e := by
  have key := rfFold_rat isRes isGapLike cells 0 0
  simp only [Rat.zero_add] at key
  show (match cells.foldl (fun (acc : Rat × Rat) cw =>
      if isRes cw.1 then (acc.1 + cw.2, acc.2 + cw.2)
      else if isGapLike cw.1 then (acc.1, acc.2 + cw.2)
      else acc) ((0 : Rat), (0 : Rat)) with
    | (r, tot) => if (decide (0 < r) && decide (symfrac ≤ r / tot)) = true then (0x78 : UInt8) else 0x2e) = _
  rw [key]
  simp only [Bool.and_eq_true, decide_eq_true_eq]

end EaselModel.Msa
