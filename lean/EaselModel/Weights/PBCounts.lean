import EaselModel.Weights.PB
/-! the count tables PB uses are the true column counts of canonical residues
    (the fragment rule of `collect_counts` only affects gap counts, hence only the choice of consensus columns). -/
namespace EaselModel.Weights

theorem colCounts_getD (width a : Nat) (h : a < width) (col : List (Option Nat)) :
    (colCounts width col).getD a 0 = col.countP (· == some a) := by
  unfold colCounts
  rw [List.getD_eq_getElem?_getD, List.getElem?_map, List.getElem?_range h]
  rfl

theorem mkStat_r (p : PBParams) (apos : Nat) (col : List (Option Nat)) (f : Nat → Nat)
    (h : ∀ a, a < p.nsym → (mkStat p apos col).ct.getD a 0 = f a) :
    (mkStat p apos col).r = (List.range p.nsym).countP (fun a => f a > 0) := by
  unfold mkStat at h ⊢
  simp only [] at h ⊢
  apply List.countP_congr
  intro a ha
  rw [h a (List.mem_range.mp ha)]

theorem findIdx_le_of_true {α : Type} (p : α → Bool) (xs : List α) (i : Nat) (hi : i < xs.length) (h : p xs[i] = true) :
    xs.findIdx p ≤ i := by
  by_contra hc
  have := List.not_of_lt_findIdx (p := p) (xs := xs) (i := i) (by omega)
  rw [this] at h; exact absurd h (by simp)

theorem counted_of_residue (abc : Abc) (minspan : Int) (row : Row) (apos : Nat) (hi : apos < row.length)
    (hres : abc.isResidue row[apos] = true) : (rowInfo abc minspan row).counted apos = true := by
  unfold RowInfo.counted rowInfo
  simp only []
  split
  · have h1 : lposOf abc row ≤ apos := findIdx_le_of_true _ _ _ hi hres
    have h2 : row.reverse.findIdx abc.isResidue ≤ row.length - 1 - apos := by
      apply findIdx_le_of_true _ _ _ (by simp; omega)
      rw [List.getElem_reverse]
      have : row.length - 1 - (row.length - 1 - apos) = apos := by omega
      simp only [this]; exact hres
    simp only [Bool.and_eq_true, decide_eq_true_eq]
    refine ⟨h1, ?_⟩
    unfold rposOf
    omega
  · rfl

theorem digital_ct_true (abc : Abc) (minspan : Int) (rows : List Row) (apos a : Nat) (hK : abc.K ≤ abc.Kp)
    (ha : a < abc.K) (hrect : ∀ row ∈ rows, apos < row.length) :
    (mkStat (PBParams.digital abc) apos (digCol (rows.map (rowInfo abc minspan)) apos)).ct.getD a 0 =
      rows.countP (fun row => (row.getD apos 0).toNat == a) := by
  unfold mkStat
  simp only []
  rw [colCounts_getD _ _ (by simp only [PBParams.digital]; omega)]
  unfold digCol
  rw [List.map_map, List.countP_map]
  apply List.countP_congr
  intro row hrow
  have hi := hrect row hrow
  show ((if (rowInfo abc minspan row).counted apos = true then some ((rowInfo abc minspan row).row.getD apos 0).toNat
    else none) == some a) = true ↔ _
  have hrw : (rowInfo abc minspan row).row = row := rfl
  rw [hrw]
  by_cases hc : (rowInfo abc minspan row).counted apos = true
  · rw [if_pos hc]; simp
  · rw [if_neg hc]
    constructor
    · intro h; simp at h
    · intro h
      exfalso; apply hc
      have hget : row.getD apos 0 = row[apos] := by
        rw [List.getD_eq_getElem?_getD, List.getElem?_eq_getElem hi]; rfl
      have hres : abc.isResidue row[apos] = true := by
        unfold Abc.isResidue
        rw [hget] at h
        simp only [beq_iff_eq] at h
        simp only [Bool.or_eq_true, decide_eq_true_eq]
        left; omega
      exact counted_of_residue abc minspan row apos hi hres

theorem digital_r_true (abc : Abc) (minspan : Int) (rows : List Row) (apos : Nat) (hK : abc.K ≤ abc.Kp)
    (hrect : ∀ row ∈ rows, apos < row.length) :
    (mkStat (PBParams.digital abc) apos (digCol (rows.map (rowInfo abc minspan)) apos)).r =
      (List.range abc.K).countP (fun a => rows.countP (fun row => (row.getD apos 0).toNat == a) > 0) := by
  exact mkStat_r (PBParams.digital abc) apos _ _ fun a ha => digital_ct_true abc minspan rows apos a hK ha hrect

theorem text_ct_true (rows : List Row) (apos a : Nat) (ha : a < 26) :
    (mkStat PBParams.text apos (rows.map fun row => PBParams.text.sym (row.getD apos 0))).ct.getD a 0 =
      rows.countP (fun row => PBParams.text.sym (row.getD apos 0) == some a) := by
  unfold mkStat
  simp only []
  rw [colCounts_getD _ _ (by simpa [PBParams.text] using ha), List.countP_map]
  rfl

theorem text_r_true (rows : List Row) (apos : Nat) :
    (mkStat PBParams.text apos (rows.map fun row => PBParams.text.sym (row.getD apos 0))).r =
      (List.range 26).countP (fun a => rows.countP (fun row => PBParams.text.sym (row.getD apos 0) == some a) > 0) := by
  exact mkStat_r PBParams.text apos _ _ fun a ha => text_ct_true rows apos a ha

end EaselModel.Weights
