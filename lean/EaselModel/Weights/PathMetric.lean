import EaselModel.Weights.TreeOps
import EaselModel.Weights.Lemmas
/-! `esl_tree_ToDistanceMatrix` returns the PATH METRIC of the tree.

  Specification, independent of the algorithm (`TreePath t a b w`: the path between internal nodes a and b has length w):
  a node is at distance 0 from itself; if a is not an ancestor-or-self of b, every path from a to b starts with the branch
  above a; symmetrically for b. The C loop `while (a != b) { if (a < b) swap; d += branch above a; a = parent[a]; }` always
  lifts the LARGER-numbered node; that is sound because in Easel's numbering a parent has a smaller number than its child
  (`ParentsSmaller`), so the larger of two different nodes is never an ancestor of the other — and it terminates for the
  same reason (a + b decreases). -/
namespace EaselModel.Weights
open WNum

/-- length of the branch above internal node `v` (as the C code reads it: `(T->left[p] == v) ? T->ld[p] : T->rd[p]`) -/
def upLen (t : ETree ℚ) (v : Nat) : ℚ := if t.l (t.p v) == (v : Int) then t.dl (t.p v) else t.dr (t.p v)

/-- the k-th ancestor by `parent[]` -/
def anc (t : ETree ℚ) : Nat → Nat → Nat
  | 0, v => v
  | k + 1, v => anc t k (t.p v)

/-- a is an ancestor of b, or b itself -/
def IsAnc (t : ETree ℚ) (a b : Nat) : Prop := ∃ k, anc t k b = a

inductive TreePath (t : ETree ℚ) : Nat → Nat → ℚ → Prop
  | refl (v : Nat) : TreePath t v v 0
  | up_left {a b : Nat} {w : ℚ} : ¬ IsAnc t a b → TreePath t (t.p a) b w → TreePath t a b (w + upLen t a)
  | up_right {a b : Nat} {w : ℚ} : ¬ IsAnc t b a → TreePath t a (t.p b) w → TreePath t a b (w + upLen t b)

theorem TreePath.symm {t : ETree ℚ} {a b : Nat} {w : ℚ} (h : TreePath t a b w) : TreePath t b a w := by
  induction h with
  | refl v => exact TreePath.refl v
  | up_left hn _ ih => exact TreePath.up_right hn ih
  | up_right hn _ ih => exact TreePath.up_left hn ih

/-- Easel's numbering: the root is node 0 and is its own parent; every other node has a smaller-numbered parent -/
structure ParentsSmaller (t : ETree ℚ) : Prop where
  root : t.p 0 = 0
  lt : ∀ v, 0 < v → t.p v < v

theorem anc_le {t : ETree ℚ} (h : ParentsSmaller t) (k v : Nat) : anc t k v ≤ v := by
  induction k generalizing v with
  | zero => exact Nat.le_refl v
  | succ k ih =>
    show anc t k (t.p v) ≤ v
    have h1 := ih (t.p v)
    by_cases hv : v = 0
    · subst hv; rw [h.root]; exact ih 0
    · have := h.lt v (by omega); omega

theorem not_isAnc_of_lt {t : ETree ℚ} (h : ParentsSmaller t) {a b : Nat} (hab : b < a) : ¬ IsAnc t a b := by
  rintro ⟨k, hk⟩
  have := anc_le h k b
  omega

theorem eLca_path {t : ETree ℚ} (h : ParentsSmaller t) (fuel a b : Nat) (d r : ℚ)
    (hr : eLca t fuel a b d = some r) : ∃ w, TreePath t a b w ∧ r = d + w := by
  induction fuel generalizing a b d with
  | zero => simp [eLca] at hr
  | succ f ih =>
    unfold eLca at hr
    by_cases hab : (a == b) = true
    · rw [if_pos hab] at hr
      have e : a = b := by simpa using hab
      subst e
      exact ⟨0, TreePath.refl a, by simp only [Option.some.injEq] at hr; rw [← hr]; ring⟩
    · rw [if_neg hab] at hr
      have hne : a ≠ b := by simpa using hab
      simp only at hr
      by_cases hlt : a < b
      · simp only [if_pos hlt] at hr
        obtain ⟨w, hw, e⟩ := ih _ _ _ hr
        refine ⟨w + upLen t b, TreePath.up_right (not_isAnc_of_lt h hlt) hw.symm, ?_⟩
        rw [e]; unfold upLen; ring
      · simp only [if_neg hlt] at hr
        obtain ⟨w, hw, e⟩ := ih _ _ _ hr
        refine ⟨w + upLen t a, TreePath.up_left (not_isAnc_of_lt h (by omega)) hw, ?_⟩
        rw [e]; unfold upLen; ring

/-- the `while (a != b)` loop ends: a + b decreases -/
theorem eLca_terminates {t : ETree ℚ} (h : ParentsSmaller t) (fuel a b : Nat) (d : ℚ) (hf : a + b < fuel) :
    (eLca t fuel a b d).isSome = true := by
  induction fuel generalizing a b d with
  | zero => omega
  | succ f ih =>
    unfold eLca
    by_cases hab : (a == b) = true
    · rw [if_pos hab]; rfl
    · rw [if_neg hab]
      have hne : a ≠ b := by simpa using hab
      simp only
      by_cases hlt : a < b
      · simp only [if_pos hlt]
        have := h.lt b (by omega)
        exact ih _ _ _ (by omega)
      · simp only [if_neg hlt]
        have := h.lt a (by omega)
        exact ih _ _ _ (by omega)

end EaselModel.Weights
