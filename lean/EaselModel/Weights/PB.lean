import EaselModel.Weights.Lemmas
/-! position-based weights over `ℚ`. -/
namespace EaselModel.Weights
open WNum

/-- the per-column terms a row collects: `1/(r·c)` for each used column in which the row has a canonical residue -/
def pbTerms (p : PBParams) (stats : List ColStat) (row : Row) : List ℚ :=
  stats.filterMap fun st => (p.sym (row.getD st.apos 0)).map fun a => 1 / ((st.r * st.ct.getD a 0 : ℕ) : ℚ)

theorem pbBump_foldl (p : PBParams) (row : Row) (stats : List ColStat) (w : ℚ) (k : Nat) :
    stats.foldl (pbBump p row) (w, k) = (w + (pbTerms p stats row).sum, k + (pbTerms p stats row).length) := by
  induction stats generalizing w k with
  | nil => simp [pbTerms]
  | cons st stats ih =>
    rw [List.foldl_cons]
    cases h : p.sym (row.getD st.apos 0) with
    | none =>
      have hb : pbBump p row (w, k) st = (w, k) := by simp only [pbBump, h]
      rw [hb, ih]
      simp only [pbTerms, List.filterMap_cons, h, Option.map_none]
    | some a =>
      have hb : pbBump p row (w, k) st = (w + 1 / ((st.r * st.ct.getD a 0 : ℕ) : ℚ), k + 1) := by
        simp only [pbBump, h, ofNat_rat, Nat.cast_one]
      rw [hb, ih]
      simp only [pbTerms, List.filterMap_cons, h, Option.map_some, List.sum_cons, List.length_cons]
      refine Prod.ext ?_ ?_
      · simp only []; ring
      · simp only []; omega

theorem pbRaw_eq (p : PBParams) (stats : List ColStat) (row : Row) :
    pbRaw (α := ℚ) p stats row =
      if (pbTerms p stats row).length = 0 then 0 else (pbTerms p stats row).sum / (pbTerms p stats row).length := by
  unfold pbRaw
  rw [show ((ofNat 0 : ℚ), 0) = ((0 : ℚ), 0) by simp, pbBump_foldl]
  simp only [zero_add, Nat.zero_add, ofNat_rat]
  by_cases h : (pbTerms p stats row).length = 0
  · have : pbTerms p stats row = [] := List.eq_nil_of_length_eq_zero h
    simp [this]
  · have : (pbTerms p stats row).length > 0 := Nat.pos_of_ne_zero h
    simp [h, this]

theorem pbTerms_nonneg (p : PBParams) (stats : List ColStat) (row : Row) : ∀ t ∈ pbTerms p stats row, 0 ≤ t := by
  intro t ht
  simp only [pbTerms, List.mem_filterMap, Option.map_eq_some_iff] at ht
  obtain ⟨st, _, a, _, rfl⟩ := ht
  positivity

theorem pbRaw_nonneg (p : PBParams) (stats : List ColStat) (row : Row) : 0 ≤ pbRaw (α := ℚ) p stats row := by
  rw [pbRaw_eq]
  split
  · exact le_refl 0
  · have := list_sum_nonneg _ (pbTerms_nonneg p stats row)
    positivity

theorem pbWeights_eq_finish (p : PBParams) (stats : List ColStat) (rows : List Row) :
    pbWeights (α := ℚ) p stats rows = finishW (rows.map (pbRaw p stats)) := by
  unfold pbWeights finishW
  simp only [beq_iff_eq, List.length_map, ofNat_rat, Nat.cast_one]

theorem pbWeights_length (p : PBParams) (stats : List ColStat) (rows : List Row) (hne : rows ≠ []) :
    (pbWeights (α := ℚ) p stats rows).length = rows.length := by
  rw [pbWeights_eq_finish, finishW_length, List.length_map]

theorem pbWeights_sum (p : PBParams) (stats : List ColStat) (rows : List Row) (hne : rows ≠ []) :
    (pbWeights (α := ℚ) p stats rows).sum = rows.length := by
  rw [pbWeights_eq_finish, finishW_sum _ (by simpa using hne), List.length_map]

theorem pbWeights_nonneg (p : PBParams) (stats : List ColStat) (rows : List Row) :
    ∀ w ∈ pbWeights (α := ℚ) p stats rows, 0 ≤ w := by
  rw [pbWeights_eq_finish]
  apply finishW_nonneg
  intro x hx
  obtain ⟨row, _, rfl⟩ := List.mem_map.mp hx
  exact pbRaw_nonneg p stats row

theorem pbWeights_getElem (p : PBParams) (stats : List ColStat) (rows : List Row) (hn : rows.length ≠ 1)
    (i : Nat) (hi : i < rows.length) (hi' : i < (pbWeights (α := ℚ) p stats rows).length) :
    (pbWeights (α := ℚ) p stats rows)[i] =
      if (rows.map (pbRaw (α := ℚ) p stats)).sum = 0 then 1
      else pbRaw p stats rows[i] / (rows.map (pbRaw (α := ℚ) p stats)).sum * rows.length := by
  have e : pbWeights (α := ℚ) p stats rows = normalizeToN (rows.map (pbRaw p stats)) := by
    unfold pbWeights; simp [hn]
  simp only [e]
  rw [normalizeToN_getElem _ i (by simpa using hi)]
  simp

theorem pbWeights_eq_of_eq (p : PBParams) (stats : List ColStat) (rows : List Row)
    (i j : Nat) (hi : i < rows.length) (hj : j < rows.length) (h : rows[i] = rows[j])
    (hi' : i < (pbWeights (α := ℚ) p stats rows).length) (hj' : j < (pbWeights (α := ℚ) p stats rows).length) :
    (pbWeights (α := ℚ) p stats rows)[i] = (pbWeights (α := ℚ) p stats rows)[j] := by
  by_cases hn : rows.length = 1
  · have : i = j := by omega
    subst this; rfl
  · rw [pbWeights_getElem p stats rows hn i hi, pbWeights_getElem p stats rows hn j hj, h]

end EaselModel.Weights
