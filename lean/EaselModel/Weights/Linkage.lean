import EaselModel.Weights.Model
import Mathlib.Data.List.Basic
import Mathlib.Data.List.Perm.Basic
import Mathlib.Data.List.Nodup
import Mathlib.Data.List.Range
/-! `esl_cluster_SingleLinkage` returns the connected components of the link graph. -/
namespace EaselModel.Weights

/-- `w` can be reached from `u` along links between vertices `< n` -/
inductive Reach (link : Nat → Nat → Bool) (n : Nat) : Nat → Nat → Prop
  | refl (x : Nat) : Reach link n x x
  | step {x y z : Nat} : Reach link n x y → y < n → z < n → link y z = true → Reach link n x z

namespace Reach
variable {link : Nat → Nat → Bool} {n : Nat}

theorem trans {x y z : Nat} (h1 : Reach link n x y) (h2 : Reach link n y z) : Reach link n x z := by
  induction h2 with
  | refl => exact h1
  | step _ hy hz hl ih => exact Reach.step ih hy hz hl

theorem single {x y : Nat} (hx : x < n) (hy : y < n) (hl : link x y = true) : Reach link n x y :=
  Reach.step (Reach.refl x) hx hy hl

theorem symm (hsym : ∀ x y, link x y = link y x) {x y : Nat} (hx : x < n) (h : Reach link n x y) : Reach link n y x := by
  induction h with
  | refl => exact Reach.refl _
  | step _ hy hz hl ih => exact (single hz hy (by rw [hsym]; exact hl)).trans ih

theorem lt_of_lt {x y : Nat} (hx : x < n) (h : Reach link n x y) : y < n := by
  cases h with
  | refl => exact hx
  | step _ _ hz _ => exact hz
end Reach

theorem rot_perm (K : List Nat) : (rot K).Perm K := by
  cases K with
  | nil => exact List.Perm.refl _
  | cons k ks => simpa [rot] using (List.perm_append_comm : (ks ++ [k]).Perm ([k] ++ ks))

theorem slScan_perm (link : Nat → Nat → Bool) (v : Nat) (R K M : List Nat) :
    ((slScan link v R K M).1 ++ (slScan link v R K M).2).Perm (K ++ M ++ R) := by
  induction R generalizing K M with
  | nil => simp [slScan]
  | cons x R ih =>
    simp only [slScan]
    split
    · refine (ih (rot K) (M ++ [x])).trans ?_
      have h1 : (rot K ++ (M ++ [x]) ++ R).Perm (K ++ (M ++ [x]) ++ R) :=
        ((rot_perm K).append_right _).append_right _
      refine h1.trans ?_
      simp only [List.append_assoc, List.singleton_append]
      exact List.Perm.refl _
    · refine (ih (K ++ [x]) M).trans ?_
      simp only [List.append_assoc, List.singleton_append]
      refine List.Perm.append_left K ?_
      exact (List.perm_middle (l₁ := M) (l₂ := R) (a := x)).symm.trans (by simp)

theorem mem_rot {K : List Nat} {x : Nat} : x ∈ rot K ↔ x ∈ K := (rot_perm K).mem_iff

theorem slScan_fst (link : Nat → Nat → Bool) (v : Nat) (R K M : List Nat) :
    ∀ x ∈ (slScan link v R K M).1, x ∈ K ∨ (x ∈ R ∧ link v x = false) := by
  induction R generalizing K M with
  | nil => intro x hx; exact Or.inl (by simpa [slScan] using hx)
  | cons y R ih =>
    intro x hx
    simp only [slScan] at hx
    split at hx
    · rcases ih _ _ x hx with h | ⟨h, hl⟩
      · exact Or.inl (mem_rot.mp h)
      · exact Or.inr ⟨by simp [h], hl⟩
    · rename_i hn
      rcases ih _ _ x hx with h | ⟨h, hl⟩
      · simp only [List.mem_append, List.mem_singleton] at h
        rcases h with h | rfl
        · exact Or.inl h
        · exact Or.inr ⟨by simp, by simpa using hn⟩
      · exact Or.inr ⟨by simp [h], hl⟩

theorem slScan_snd (link : Nat → Nat → Bool) (v : Nat) (R K M : List Nat) :
    ∀ x ∈ (slScan link v R K M).2, x ∈ M ∨ (x ∈ R ∧ link v x = true) := by
  induction R generalizing K M with
  | nil => intro x hx; exact Or.inl (by simpa [slScan] using hx)
  | cons y R ih =>
    intro x hx
    simp only [slScan] at hx
    split at hx
    · rename_i hy
      rcases ih _ _ x hx with h | ⟨h, hl⟩
      · simp only [List.mem_append, List.mem_singleton] at h
        rcases h with h | rfl
        · exact Or.inl h
        · exact Or.inr ⟨by simp, hy⟩
      · exact Or.inr ⟨by simp [h], hl⟩
    · rcases ih _ _ x hx with h | ⟨h, hl⟩
      · exact Or.inl h
      · exact Or.inr ⟨by simp [h], hl⟩

theorem slGrow_perm (link : Nat → Nat → Bool) (b a done : List Nat) :
    ((slGrow link b a done).1 ++ (slGrow link b a done).2).Perm (done ++ b ++ a) := by
  fun_induction slGrow link b a done with
  | case1 a done => simp
  | case2 v b a done ih =>
    refine ih.trans ?_
    have hs := slScan_perm link v a [] []
    simp only [List.nil_append] at hs
    -- (done ++ [v]) ++ (mv.reverse ++ b) ++ a'  ~  done ++ (v :: b) ++ a
    have h1 : ((slScan link v a [] []).2.reverse ++ b ++ (slScan link v a [] []).1).Perm (b ++ a) := by
      have : ((slScan link v a [] []).2.reverse ++ b ++ (slScan link v a [] []).1).Perm
          (b ++ ((slScan link v a [] []).1 ++ (slScan link v a [] []).2)) := by
        rw [List.append_assoc]
        refine (List.perm_append_comm).trans ?_
        rw [List.append_assoc]
        refine List.Perm.append_left b ?_
        exact List.Perm.append_left _ (List.reverse_perm _)
      exact this.trans (List.Perm.append_left b hs)
    simp only [List.append_assoc, List.singleton_append, List.cons_append] at h1 ⊢
    exact List.Perm.append_left done (List.Perm.cons v h1)

theorem slGrow_mem (link : Nat → Nat → Bool) (b a done : List Nat) :
    ∀ x, (x ∈ done ∨ x ∈ b) → x ∈ (slGrow link b a done).1 := by
  fun_induction slGrow link b a done with
  | case1 a done => intro x hx; simpa using hx
  | case2 v b a done ih =>
    intro x hx
    apply ih
    rcases hx with h | h
    · exact Or.inl (by simp [h])
    · rcases List.mem_cons.mp h with rfl | h
      · exact Or.inl (by simp)
      · exact Or.inr (by simp [h])

theorem slGrow_reach (link : Nat → Nat → Bool) (n s : Nat) (b a done : List Nat)
    (hb : ∀ x ∈ b, x < n) (ha : ∀ x ∈ a, x < n)
    (hr : ∀ x, (x ∈ done ∨ x ∈ b) → Reach link n s x) :
    ∀ x ∈ (slGrow link b a done).1, Reach link n s x := by
  fun_induction slGrow link b a done with
  | case1 a done => intro x hx; exact hr x (Or.inl (by simpa using hx))
  | case2 v b a done ih =>
    apply ih
    · intro x hx
      simp only [List.mem_append, List.mem_reverse] at hx
      rcases hx with h | h
      · rcases slScan_snd link v a [] [] x h with h' | ⟨h', _⟩
        · simp at h'
        · exact ha x h'
      · exact hb x (by simp [h])
    · intro x hx
      rcases slScan_fst link v a [] [] x hx with h' | ⟨h', _⟩
      · simp at h'
      · exact ha x h'
    · intro x hx
      simp only [List.mem_append, List.mem_singleton, List.mem_reverse] at hx
      rcases hx with (h | rfl) | h | h
      · exact hr x (Or.inl h)
      · exact hr x (Or.inr (by simp))
      · rcases slScan_snd link v a [] [] x h with h' | ⟨h', hl⟩
        · simp at h'
        · exact Reach.step (hr v (Or.inr (by simp))) (hb v (by simp)) (ha x h') hl
      · exact hr x (Or.inr (by simp [h]))

theorem slGrow_snd_subset (link : Nat → Nat → Bool) (b a done : List Nat) :
    ∀ y ∈ (slGrow link b a done).2, y ∈ a := by
  fun_induction slGrow link b a done with
  | case1 a done => intro y hy; simpa using hy
  | case2 v b a done ih =>
    intro y hy
    rcases slScan_fst link v a [] [] y (ih y hy) with h' | ⟨h', _⟩
    · simp at h'
    · exact h'

theorem slGrow_closed (link : Nat → Nat → Bool) (b a done : List Nat)
    (h : ∀ x ∈ done, ∀ y ∈ a, link x y = false) :
    ∀ x ∈ (slGrow link b a done).1, ∀ y ∈ (slGrow link b a done).2, link x y = false := by
  fun_induction slGrow link b a done with
  | case1 a done => simpa using h
  | case2 v b a done ih =>
    apply ih
    intro x hx y hy
    rcases slScan_fst link v a [] [] y hy with h' | ⟨hya, hl⟩
    · simp at h'
    · rcases List.mem_append.mp hx with hx | hx
      · exact h x hx y hya
      · simp only [List.mem_singleton] at hx
        subst hx; exact hl

structure ClInv (link : Nat → Nat → Bool) (n : Nat) (a : List Nat) (acc : List (List Nat)) : Prop where
  perm : (acc.flatten ++ a).Perm (List.range n)
  closed : ∀ cl ∈ acc, ∀ x ∈ cl, ∀ y ∈ a, link x y = false
  comp : ∀ cl ∈ acc, ∀ u ∈ cl, ∀ w, w < n → (w ∈ cl ↔ Reach link n u w)
  ne : ∀ cl ∈ acc, cl ≠ []

theorem ClInv.step {link : Nat → Nat → Bool} {n : Nat} (hsym : ∀ x y, link x y = link y x)
    {s : Nat} {a : List Nat} {acc : List (List Nat)} (inv : ClInv link n (s :: a) acc) :
    ClInv link n (slGrow link [s] a []).2 (acc ++ [(slGrow link [s] a []).1]) := by
  have gp := slGrow_perm link [s] a []
  simp only [List.nil_append, List.singleton_append] at gp
  have hlt : ∀ x ∈ s :: a, x < n := by
    intro x hx
    have : x ∈ acc.flatten ++ s :: a := List.mem_append_right _ hx
    exact List.mem_range.mp (inv.perm.mem_iff.mp this)
  have hs : s < n := hlt s (by simp)
  have ha : ∀ x ∈ a, x < n := fun x hx => hlt x (by simp [hx])
  have hcl_sub : ∀ x ∈ (slGrow link [s] a []).1, x ∈ s :: a := by
    intro x hx; exact gp.mem_iff.mp (List.mem_append_left _ hx)
  have hreach : ∀ x ∈ (slGrow link [s] a []).1, Reach link n s x :=
    slGrow_reach link n s [s] a [] (by intro x hx; simp at hx; subst hx; exact hs) ha
      (by intro x hx; rcases hx with h | h
          · simp at h
          · simp at h; subst h; exact Reach.refl _)
  have hclosed := slGrow_closed link [s] a [] (by intro x hx; simp at hx)
  have newperm : ((acc ++ [(slGrow link [s] a []).1]).flatten ++ (slGrow link [s] a []).2).Perm (List.range n) := by
    simp only [List.flatten_append, List.flatten_cons, List.flatten_nil, List.append_nil, List.append_assoc]
    exact (List.Perm.append_left acc.flatten gp).trans inv.perm
  refine ⟨newperm, ?_, ?_, ?_⟩
  · intro cl hcl x hx y hy
    rcases List.mem_append.mp hcl with hcl | hcl
    · exact inv.closed cl hcl x hx y (List.mem_cons_of_mem _ (slGrow_snd_subset link [s] a [] y hy))
    · simp only [List.mem_singleton] at hcl; subst hcl
      exact hclosed x hx y hy
  · intro cl hcl u hu w hw
    rcases List.mem_append.mp hcl with hcl | hcl
    · exact inv.comp cl hcl u hu w hw
    · simp only [List.mem_singleton] at hcl; subst hcl
      constructor
      · intro hwc
        exact (Reach.symm hsym hs (hreach u hu)).trans (hreach w hwc)
      · intro hr
        induction hr with
        | refl => exact hu
        | step hxy hy hz hl ih =>
          rename_i y z
          have hyc := ih hy
          have hz' : z ∈ (acc ++ [(slGrow link [s] a []).1]).flatten ++ (slGrow link [s] a []).2 :=
            newperm.mem_iff.mpr (List.mem_range.mpr hz)
          simp only [List.flatten_append, List.flatten_cons, List.flatten_nil, List.append_nil, List.mem_append] at hz'
          rcases hz' with (hz' | hz') | hz'
          · obtain ⟨cl0, hcl0, hzcl0⟩ := List.mem_flatten.mp hz'
            have := inv.closed cl0 hcl0 z hzcl0 y (hcl_sub y hyc)
            rw [hsym] at this; rw [this] at hl; exact absurd hl (by simp)
          · exact hz'
          · have := hclosed y hyc z hz'
            rw [this] at hl; exact absurd hl (by simp)
  · intro cl hcl
    rcases List.mem_append.mp hcl with hcl | hcl
    · exact inv.ne cl hcl
    · simp only [List.mem_singleton] at hcl; subst hcl
      have := slGrow_mem link [s] a [] s (Or.inr (by simp))
      exact List.ne_nil_of_mem this

theorem slClusters_inv {link : Nat → Nat → Bool} {n : Nat} (hsym : ∀ x y, link x y = link y x)
    (a : List Nat) (acc : List (List Nat)) (inv : ClInv link n a acc) :
    ClInv link n [] (slClusters link a acc) := by
  fun_induction slClusters link a acc with
  | case1 acc => exact inv
  | case2 s a acc ih => exact ih (inv.step hsym)

theorem singleLinkage_inv {link : Nat → Nat → Bool} (hsym : ∀ x y, link x y = link y x) (n : Nat) :
    ClInv link n [] (singleLinkage link n) := by
  apply slClusters_inv hsym
  exact ⟨by simp, by intro cl h; simp at h, by intro cl h; simp at h, by intro cl h; simp at h⟩

theorem clusterIndex_spec (cls : List (List Nat)) (hnd : cls.flatten.Nodup) (v : Nat) (hv : v ∈ cls.flatten) :
    ∃ h : clusterIndex cls v < cls.length, v ∈ cls[clusterIndex cls v] ∧
      ∀ j (hj : j < cls.length), v ∈ cls[j] → j = clusterIndex cls v := by
  obtain ⟨cl, hcl, hvcl⟩ := List.mem_flatten.mp hv
  have hlt : clusterIndex cls v < cls.length := by
    unfold clusterIndex
    exact List.findIdx_lt_length_of_exists ⟨cl, hcl, by simpa using hvcl⟩
  have hmem : v ∈ cls[clusterIndex cls v] := by
    have := List.findIdx_getElem (p := fun c : List Nat => c.contains v) (xs := cls) (w := hlt)
    simpa [clusterIndex] using this
  refine ⟨hlt, hmem, ?_⟩
  intro j hj hvj
  by_contra hne
  have hpw := (List.nodup_flatten.mp hnd).2
  rw [List.pairwise_iff_getElem] at hpw
  rcases Nat.lt_or_gt_of_ne hne with h | h
  · exact (hpw j _ hj hlt h) hvj hmem
  · exact (hpw _ j hlt hj h) hmem hvj

theorem assignment_eq_iff {link : Nat → Nat → Bool} (hsym : ∀ x y, link x y = link y x) (n u w : Nat)
    (hu : u < n) (hw : w < n) :
    clusterIndex (singleLinkage link n) u = clusterIndex (singleLinkage link n) w ↔ Reach link n u w := by
  have inv := singleLinkage_inv hsym n
  have hperm := inv.perm
  simp only [List.append_nil] at hperm
  have hnd : (singleLinkage link n).flatten.Nodup := hperm.nodup_iff.mpr List.nodup_range
  have hmem : ∀ x, x < n → x ∈ (singleLinkage link n).flatten := fun x hx => hperm.mem_iff.mpr (List.mem_range.mpr hx)
  obtain ⟨hul, hum, huu⟩ := clusterIndex_spec _ hnd u (hmem u hu)
  obtain ⟨hwl, hwm, hwu⟩ := clusterIndex_spec _ hnd w (hmem w hw)
  constructor
  · intro e
    have hwm' : w ∈ (singleLinkage link n)[clusterIndex (singleLinkage link n) u] := by
      simp only [e]; exact hwm
    exact (inv.comp _ (List.getElem_mem hul) u hum w hw).mp hwm'
  · intro hr
    have := (inv.comp _ (List.getElem_mem hul) u hum w hw).mpr hr
    exact hwu _ hul this

end EaselModel.Weights
