import EaselModel.Weights.Lemmas
import EaselModel.Weights.Tree
/-! GSC weights over `ℚ` are non-negative and sum to N. Every number the UPGMA step and the
    two traversals write is a sum / product / quotient / `max(0,·)` of numbers that are already non-negative. -/
namespace EaselModel.Weights
open WNum

theorem foldl_inv {σ β : Type} (P : σ → Prop) (f : σ → β → σ) (l : List β) (init : σ)
    (h0 : P init) (hstep : ∀ s, ∀ x ∈ l, P s → P (f s x)) : P (l.foldl f init) := by
  induction l generalizing init with
  | nil => exact h0
  | cons x xs ih =>
    exact ih _ (hstep _ _ List.mem_cons_self h0) fun s y hy => hstep s y (List.mem_cons_of_mem _ hy)

/-- every entry (and the out-of-range default 0) is ≥ 0 -/
def NN (a : Array ℚ) : Prop := ∀ i, 0 ≤ a.getD i 0

theorem NN.set {a : Array ℚ} (h : NN a) (i : Nat) {v : ℚ} (hv : 0 ≤ v) : NN (a.setIfInBounds i v) := by
  intro j
  have hj := h j
  simp only [Array.getD_eq_getD_getElem?, Array.getElem?_setIfInBounds] at hj ⊢
  split
  · split
    · simpa using hv
    · simp
  · exact hj

theorem NN.replicate (k : Nat) {c : ℚ} (hc : 0 ≤ c) : NN (Array.replicate k c) := by
  intro j
  simp only [Array.getD_eq_getD_getElem?, Array.getElem?_replicate]
  split <;> simp [hc]

theorem NN.vget {x : Array ℚ} (h : NN x) (i : Nat) : 0 ≤ vget x i := by
  unfold EaselModel.Weights.vget; simpa using h i

theorem NN.push {a : Array ℚ} (h : NN a) {v : ℚ} (hv : 0 ≤ v) : NN (a.push v) := by
  intro j
  have hj := h j
  simp only [Array.getD_eq_getD_getElem?, Array.getElem?_push] at hj ⊢
  split
  · simpa using hv
  · exact hj

theorem max0_nonneg (x : ℚ) : 0 ≤ max0 x := by
  unfold max0
  simp only [ltb_rat, ofNat_rat, Nat.cast_zero, decide_eq_true_eq]
  split
  · exact le_refl 0
  · linarith

theorem pid_range' (m : Mode) (a b : Row) : 0 ≤ pid (α := ℚ) m a b ∧ pid (α := ℚ) m a b ≤ 1 := by
  by_cases h : a.length = b.length
  · rw [pid_eq m a b h]; exact ⟨pidSpec_nonneg m a b, pidSpec_le_one m a b⟩
  · unfold pid; rw [pairId_unaligned' m a b h]; simp

/-- every stored distance (and every default) is ≥ 0 -/
def RowsNN (rows : Array (Array ℚ)) : Prop := ∀ y x, 0 ≤ (rows.getD y #[]).getD x 0

theorem RowsNN.kdist {rows : Array (Array ℚ)} (h : RowsNN rows) (x y : Nat) : 0 ≤ kdist rows x y := by
  unfold EaselModel.Weights.kdist
  split
  · simpa using h y x
  · simpa using h x y

theorem RowsNN.push {rows : Array (Array ℚ)} (h : RowsNN rows) {r : Array ℚ} (hr : ∀ x, 0 ≤ r.getD x 0) :
    RowsNN (rows.push r) := by
  intro y x
  have hy := h y x
  simp only [Array.getD_eq_getD_getElem?, Array.getElem?_push] at hy ⊢
  split
  · simpa [Array.getD_eq_getD_getElem?] using hr x
  · exact hy

theorem kinit_RowsNN (m : Mode) (rws : List Row) : RowsNN (kinit (α := ℚ) m rws).rows := by
  intro y x
  unfold kinit
  simp only [Array.getD_eq_getD_getElem?, List.getElem?_toArray, List.getElem?_map]
  cases h1 : (List.range rws.length)[y]? with
  | none => simp
  | some y' =>
    simp only [Option.map_some, Option.getD_some, List.getElem?_toArray, List.getElem?_map]
    cases h2 : (List.range y')[x]? with
    | none => simp
    | some x' =>
      simp only [Option.map_some, Option.getD_some, ofNat_rat, Nat.cast_one]
      have := (pid_range' m (rws.getD x' []) (rws.getD y' [])).2
      linarith

theorem kfindMin_nonneg {rows : Array (Array ℚ)} (h : RowsNN rows) (act : Array Nat) : 0 ≤ (kfindMin rows act).1 := by
  unfold kfindMin
  refine foldl_inv (fun st : ℚ × Nat × Nat => 0 ≤ st.1) _ _ _ (h.kdist _ _) fun st rc _ hst => ?_
  by_cases hc : ltb (kdist rows (act.getD rc.1 0) (act.getD rc.2 0)) st.1 = true
  · rw [if_pos hc]; exact h.kdist _ _
  · rw [if_neg hc]; exact hst

theorem kH_nonneg (st : KState ℚ) (h : RowsNN st.rows) : 0 ≤ kH st := by
  have := kfindMin_nonneg h st.act
  unfold kH kMin
  simp only [ofNat_rat]; positivity

theorem kbranch_nonneg (n : Nat) (h : ℚ) (hh : 0 ≤ h) (hgt : Array ℚ) (c : Nat) : 0 ≤ kbranch n h hgt c := by
  unfold kbranch
  split
  · exact max0_nonneg _
  · exact hh

/-- what the UPGMA loop keeps true -/
structure KInv (st : KState ℚ) : Prop where
  rows : RowsNN st.rows
  nodes : ∀ nd ∈ st.nodes, 0 ≤ nd.l ∧ 0 ≤ nd.r

theorem KInv.join {st : KState ℚ} (h : KInv st) (n nI nJ I J : Nat) {ht : ℚ} (hh : 0 ≤ ht)
    (size' : Array Nat) (hgt' : Array ℚ) (act' : Array Nat) :
    KInv { rows := st.rows.push ((Array.range st.rows.size).map (kmerged st.rows nI nJ I J)), size := size', hgt := hgt',
           act := act', nodes := ⟨I, J, kbranch n ht st.hgt I, kbranch n ht st.hgt J⟩ :: st.nodes } := by
  refine ⟨h.rows.push fun x => ?_, fun nd hnd => ?_⟩
  · simp only [Array.getD_eq_getD_getElem?, Array.getElem?_map]
    cases hx : (Array.range st.rows.size)[x]? with
    | none => simp
    | some x' =>
      simp only [Option.map_some, Option.getD_some, kmerged, ofNat_rat]
      have h1 := h.rows.kdist I x'
      have h2 := h.rows.kdist J x'
      positivity
  · rcases List.mem_cons.mp hnd with rfl | h'
    · exact ⟨kbranch_nonneg _ _ hh _ _, kbranch_nonneg _ _ hh _ _⟩
    · exact h.nodes nd h'

theorem kstep_inv (n : Nat) (st : KState ℚ) (h : KInv st) : KInv (kstep n st) :=
  h.join n _ _ _ _ (kH_nonneg st h.rows) _ _ _

theorem krun_inv (n : Nat) (st : KState ℚ) (h : KInv st) (k : Nat) : KInv (krun n st k) := by
  induction k with
  | zero => exact h
  | succ k ih => exact kstep_inv n _ ih

theorem kside_nonneg (n : Nat) {xs : Array ℚ} (hx : NN xs) {d : ℚ} (hd : 0 ≤ d) (child : Nat) : 0 ≤ kside n xs d child := by
  unfold kside
  split
  · exact add_nonneg hd (hx.vget _)
  · exact hd

/-- a step of `kup` pushes `kside n xs (kside n xs (nd.l + nd.r) nd.I) nd.J`, by unfolding `kside` -/
theorem kup_NN (n : Nat) (created : List (KNode ℚ)) (h : ∀ nd ∈ created, 0 ≤ nd.l ∧ 0 ≤ nd.r) : NN (kup n created) :=
  foldl_inv NN _ created _ (NN.replicate n (le_refl (0 : ℚ))) fun _ nd hnd hx =>
    hx.push (kside_nonneg n hx (kside_nonneg n hx (add_nonneg (h nd hnd).1 (h nd hnd).2) nd.I) nd.J)

theorem lookupD_nonneg (l : List (Nat × ℚ)) (h : ∀ p ∈ l, 0 ≤ p.2) (x : Nat) : 0 ≤ lookupD l x := by
  unfold lookupD
  cases hf : l.find? (fun p => p.1 == x) with
  | none => simp
  | some p => exact h p (List.mem_of_find?_eq_some hf)

theorem kshare_nonneg (n : Nat) (cs : Array Nat) (child c : Nat) (xi mine total : ℚ)
    (hxi : 0 ≤ xi) (hm : 0 ≤ mine) (ht : 0 ≤ total) : 0 ≤ kshare n cs child c xi mine total := by
  unfold kshare
  split
  · split <;> (simp only [ofNat_rat]; positivity)
  · positivity

theorem kdown_nonneg (n : Nat) (cs : Array Nat) (xs : Array ℚ) (hx : NN xs) (nodes : List (KNode ℚ))
    (h : ∀ nd ∈ nodes, 0 ≤ nd.l ∧ 0 ≤ nd.r) : ∀ p ∈ kdown n cs xs nodes, 0 ≤ p.2 := by
  refine foldl_inv (fun st : List (Nat × ℚ) × Nat => ∀ p ∈ st.1, 0 ≤ p.2) (kdownStep n cs xs) nodes _
    (by simp) fun st nd hnd hi => ?_
  have hxi := lookupD_nonneg st.1 hi st.2
  have hlw := kside_nonneg n hx (h nd hnd).1 nd.I
  have hrw := kside_nonneg n hx (h nd hnd).2 nd.J
  have ht := add_nonneg hlw hrw
  intro p hp
  unfold kdownStep at hp
  simp only [List.mem_cons] at hp
  rcases hp with rfl | rfl | hp
  · exact add_nonneg (kshare_nonneg _ _ _ _ _ _ _ hxi hrw ht) (h nd hnd).2
  · exact add_nonneg (kshare_nonneg _ _ _ _ _ _ _ hxi hlw ht) (h nd hnd).1
  · exact hi p hp

theorem gscTreeRaw_length (n : Nat) (nodes : List (KNode ℚ)) : (gscTreeRaw n nodes).length = n := by
  unfold gscTreeRaw; simp

theorem gscTreeRaw_nonneg (n : Nat) (nodes : List (KNode ℚ)) (h : ∀ nd ∈ nodes, 0 ≤ nd.l ∧ 0 ≤ nd.r) :
    ∀ w ∈ gscTreeRaw n nodes, 0 ≤ w := by
  intro w hw
  unfold gscTreeRaw at hw
  simp only [List.mem_map] at hw
  obtain ⟨i, _, rfl⟩ := hw
  apply lookupD_nonneg
  apply kdown_nonneg
  · exact kup_NN _ _ (fun nd hnd => h nd (List.mem_reverse.mp hnd))
  · exact h

theorem gscRaw_nonneg (m : Mode) (rows : List Row) : ∀ w ∈ gscRaw (α := ℚ) m rows, 0 ≤ w := by
  rw [gscRaw_eq_gscTreeRaw]
  exact gscTreeRaw_nonneg _ _
    (krun_inv rows.length (kinit (α := ℚ) m rows) ⟨kinit_RowsNN m rows, by intro nd h; simp [kinit] at h⟩ (rows.length - 1)).nodes

theorem gscRaw_length (m : Mode) (rows : List Row) : (gscRaw (α := ℚ) m rows).length = rows.length :=
  gscTreeRaw_length rows.length _

theorem gsc_eq_finish (m : Mode) (rows : List Row) : gsc (α := ℚ) m rows = finishW (gscRaw m rows) := by
  unfold gsc finishW
  simp only [gscRaw_length, beq_iff_eq, ofNat_rat, Nat.cast_one]

theorem gsc_nonneg' (m : Mode) (rows : List Row) : ∀ w ∈ gsc (α := ℚ) m rows, 0 ≤ w := by
  rw [gsc_eq_finish]; exact finishW_nonneg _ (gscRaw_nonneg m rows)

theorem gsc_sum' (m : Mode) (rows : List Row) (hne : rows ≠ []) : (gsc (α := ℚ) m rows).sum = rows.length := by
  rw [gsc_eq_finish, finishW_sum, gscRaw_length]
  exact List.ne_nil_of_length_pos (by rw [gscRaw_length]; exact List.length_pos_iff.mpr hne)

end EaselModel.Weights
