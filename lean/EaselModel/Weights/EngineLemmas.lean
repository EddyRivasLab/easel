import EaselModel.Weights.TreeLemmas
import EaselModel.Weights.Engine
/-! Heights and branch lengths of `cluster_engine` in every mode (UPGMA, WPGMA, single, complete linkage), for EVERY matrix:
    all four merge rules return a value between the two distances they combine (minimum / maximum / (weighted) mean), so
    the recorded join values never decrease, every distance and height stays within the bounds of the input matrix, and
    branch lengths are `height` in a linkage tree and exact height differences in an additive tree (the clamp
    `ESL_MAX(0., …)` never acts in exact arithmetic), hence ≥ 0 when the distances are. (`l…`: the pass in mode `L`; `k…`: what it
    shares with the UPGMA pass of `Weights/Model.lean`; see the head of `ActTable.lean`.) -/
namespace EaselModel.Weights
open WNum

/-- the value a join at distance `m` is recorded with (`height[N-2]`) -/
def Link.hOf (L : Link) (m : ℚ) : ℚ := if L.isLinkage then m else m / 2

theorem Link.hOf_mono (L : Link) {a b : ℚ} (h : a ≤ b) : L.hOf a ≤ L.hOf b := by
  unfold Link.hOf; split <;> linarith

theorem lH_eq (L : Link) (st : KState ℚ) : lH L st = L.hOf (kMin st).1 := by
  unfold lH Link.hOf; split <;> simp

/-- newest-first node list against the height table, in mode `L`: the node with `rest` behind it is cluster `n + rest.length`;
    `l`, `r` are its branch lengths to the children `I`, `J` (its own height in a linkage tree, the height difference in an
    additive one); a child that is a node (`n ≤ nd.I`, taxa are below `n`) is not higher; heights do not decrease from node to node -/
def NodesL (L : Link) (n : Nat) (hgt : Array ℚ) : List (KNode ℚ) → Prop
  | [] => True
  | nd :: rest =>
    nd.l = (if L.isLinkage then hgt.getD (n + rest.length) 0 else hgt.getD (n + rest.length) 0 - hgt.getD nd.I 0) ∧
    nd.r = (if L.isLinkage then hgt.getD (n + rest.length) 0 else hgt.getD (n + rest.length) 0 - hgt.getD nd.J 0) ∧
    (n ≤ nd.I → hgt.getD nd.I 0 ≤ hgt.getD (n + rest.length) 0) ∧
    (n ≤ nd.J → hgt.getD nd.J 0 ≤ hgt.getD (n + rest.length) 0) ∧
    (rest ≠ [] → hgt.getD (n + rest.length - 1) 0 ≤ hgt.getD (n + rest.length) 0) ∧ NodesL L n hgt rest

theorem NodesL.push {L : Link} {n : Nat} {hgt : Array ℚ} (v : ℚ) : ∀ {nodes : List (KNode ℚ)}, NodesL L n hgt nodes →
    NodesOK n nodes → n + nodes.length ≤ hgt.size → NodesL L n (hgt.push v) nodes
  | [], _, _, _ => trivial
  | nd :: rest, h, hok, hsz => by
    obtain ⟨h1, h2, h3, h4, h5, h6⟩ := h
    obtain ⟨o1, o2, _, o4⟩ := hok
    simp only [List.length_cons] at hsz
    have e0 : (hgt.push v).getD (n + rest.length) 0 = hgt.getD (n + rest.length) 0 := getD_push_lt _ _ _ (by omega)
    have e1 : (hgt.push v).getD nd.I 0 = hgt.getD nd.I 0 := getD_push_lt _ _ _ (by omega)
    have e2 : (hgt.push v).getD nd.J 0 = hgt.getD nd.J 0 := getD_push_lt _ _ _ (by omega)
    have e3 : (hgt.push v).getD (n + rest.length - 1) 0 = hgt.getD (n + rest.length - 1) 0 := getD_push_lt _ _ _ (by omega)
    refine ⟨by rw [e0, e1]; exact h1, by rw [e0, e2]; exact h2, fun hc => by rw [e0, e1]; exact h3 hc,
      fun hc => by rw [e0, e2]; exact h4 hc, fun hne => by rw [e0, e3]; exact h5 hne, NodesL.push v h6 o4 (by omega)⟩

/-- node `s` in order of creation (cluster `n + s`) against the height table, as `NodesL` says it of every node -/
structure NodeHeights (L : Link) (n : Nat) (hgt : Array ℚ) (s : Nat) (nd : KNode ℚ) : Prop where
  l : nd.l = if L.isLinkage then hgt.getD (n + s) 0 else hgt.getD (n + s) 0 - hgt.getD nd.I 0
  r : nd.r = if L.isLinkage then hgt.getD (n + s) 0 else hgt.getD (n + s) 0 - hgt.getD nd.J 0
  leI : n ≤ nd.I → hgt.getD nd.I 0 ≤ hgt.getD (n + s) 0
  leJ : n ≤ nd.J → hgt.getD nd.J 0 ≤ hgt.getD (n + s) 0
  mono : 0 < s → hgt.getD (n + s - 1) 0 ≤ hgt.getD (n + s) 0

theorem NodesL.node {L : Link} {n : Nat} {hgt : Array ℚ} : ∀ {nodes : List (KNode ℚ)}, NodesL L n hgt nodes →
    ∀ s (h : s < nodes.reverse.length), NodeHeights L n hgt s (nodes.reverse[s]) :=
  indexed_of_newest_first (Q := NodesL L n hgt)
    fun _ _ ⟨h1, h2, h3, h4, h5, h6⟩ => ⟨⟨h1, h2, h3, h4, fun hpos => h5 (List.length_pos_iff.mp hpos)⟩, h6⟩

theorem NodesL.indexed {L : Link} {n : Nat} {hgt : Array ℚ} : ∀ {nodes : List (KNode ℚ)}, NodesL L n hgt nodes →
    ∀ s (h : s < nodes.reverse.length),
      (nodes.reverse[s]).l = (if L.isLinkage then hgt.getD (n + s) 0 else hgt.getD (n + s) 0 - hgt.getD (nodes.reverse[s]).I 0) ∧
      (nodes.reverse[s]).r = (if L.isLinkage then hgt.getD (n + s) 0 else hgt.getD (n + s) 0 - hgt.getD (nodes.reverse[s]).J 0) ∧
      (n ≤ (nodes.reverse[s]).I → hgt.getD (nodes.reverse[s]).I 0 ≤ hgt.getD (n + s) 0) ∧
      (n ≤ (nodes.reverse[s]).J → hgt.getD (nodes.reverse[s]).J 0 ≤ hgt.getD (n + s) 0) ∧
      (0 < s → hgt.getD (n + s - 1) 0 ≤ hgt.getD (n + s) 0) :=
  fun hh s h => ⟨(hh.node s h).l, (hh.node s h).r, (hh.node s h).leI, (hh.node s h).leJ, (hh.node s h).mono⟩

/-- invariant after k passes in mode `L`: `m` ≤ every distance between two active clusters, and every recorded height of a
    node is ≤ the value a join at `m` would be recorded with -/
structure LMono (L : Link) (n k : Nat) (st : KState ℚ) (m : ℚ) : Prop where
  taxa : ∀ t, t < n → st.hgt.getD t 0 = 0
  le : ∀ c, n ≤ c → c < n + k → st.hgt.getD c 0 ≤ L.hOf m
  far : ∀ x ∈ st.act.toList, ∀ y ∈ st.act.toList, x ≠ y → m ≤ kdist st.rows x y
  nodes : NodesL L n st.hgt st.nodes

theorem weighted_avg_lower {a b : Nat} (ha : 0 < a) (hb : 0 < b) {x y lo : ℚ} (hx : lo ≤ x) (hy : lo ≤ y) :
    lo ≤ ((a : ℚ) * x + (b : ℚ) * y) / ((a + b : Nat) : ℚ) := by
  have ha' : (0 : ℚ) ≤ a := Nat.cast_nonneg a
  have hb' : (0 : ℚ) ≤ b := Nat.cast_nonneg b
  have hab : (0 : ℚ) < ((a + b : Nat) : ℚ) := by exact_mod_cast Nat.add_pos_left ha b
  have h1 := mul_le_mul_of_nonneg_left hx ha'
  have h2 := mul_le_mul_of_nonneg_left hy hb'
  rw [le_div_iff₀ hab, Nat.cast_add]; linarith

theorem weighted_avg_upper {a b : Nat} (ha : 0 < a) (hb : 0 < b) {x y hi : ℚ} (hx : x ≤ hi) (hy : y ≤ hi) :
    ((a : ℚ) * x + (b : ℚ) * y) / ((a + b : Nat) : ℚ) ≤ hi := by
  have ha' : (0 : ℚ) ≤ a := Nat.cast_nonneg a
  have hb' : (0 : ℚ) ≤ b := Nat.cast_nonneg b
  have hab : (0 : ℚ) < ((a + b : Nat) : ℚ) := by exact_mod_cast Nat.add_pos_left ha b
  have h1 := mul_le_mul_of_nonneg_left hx ha'
  have h2 := mul_le_mul_of_nonneg_left hy hb'
  rw [div_le_iff₀ hab, Nat.cast_add]; linarith

/-- a property of distances that the merge rule of mode `L` hands on from the distances to the two joined clusters to the
    distance to the new one -/
def MergeKeeps (L : Link) (P : ℚ → Prop) : Prop :=
  ∀ (rows : Array (Array ℚ)) (nI nJ I J x : Nat), 0 < nI → 0 < nJ → P (kdist rows I x) → P (kdist rows J x) →
    P (lmerged L rows nI nJ I J x)

theorem lmerged_lower (L : Link) (lo : ℚ) : MergeKeeps L (lo ≤ ·) := by
  intro rows nI nJ I J x hI hJ h1 h2
  cases L with
  | upgma => exact weighted_avg_lower hI hJ h1 h2
  | wpgma =>
    show lo ≤ (kdist rows I x + kdist rows J x) / ((2 : Nat) : ℚ)
    rw [le_div_iff₀ (by norm_num)]; push_cast; linarith
  | single => show lo ≤ eslMin _ _; unfold eslMin; split <;> assumption
  | complete => show lo ≤ eslMax _ _; unfold eslMax; split <;> assumption

theorem lmerged_upper (L : Link) (hi : ℚ) : MergeKeeps L (· ≤ hi) := by
  intro rows nI nJ I J x hI hJ h1 h2
  cases L with
  | upgma => exact weighted_avg_upper hI hJ h1 h2
  | wpgma =>
    show (kdist rows I x + kdist rows J x) / ((2 : Nat) : ℚ) ≤ hi
    rw [div_le_iff₀ (by norm_num)]; push_cast; linarith
  | single => show eslMin _ _ ≤ hi; unfold eslMin; split <;> assumption
  | complete => show eslMax _ _ ≤ hi; unfold eslMax; split <;> assumption

theorem MergeKeeps.and {L : Link} {P Q : ℚ → Prop} (hP : MergeKeeps L P) (hQ : MergeKeeps L Q) :
    MergeKeeps L (fun v => P v ∧ Q v) :=
  fun rows nI nJ I J x hI hJ h1 h2 => ⟨hP rows nI nJ I J x hI hJ h1.1 h2.1, hQ rows nI nJ I J x hI hJ h1.2 h2.2⟩

theorem kbranch_eq_sub (n : Nat) (h : ℚ) (hgt : Array ℚ) (c : Nat) (hle : n ≤ c → hgt.getD c 0 ≤ h)
    (htax : c < n → hgt.getD c 0 = 0) : kbranch n h hgt c = h - hgt.getD c 0 := by
  unfold kbranch
  split
  · rename_i hc
    unfold max0 vget
    simp only [ltb_rat, ofNat_rat, Nat.cast_zero, decide_eq_true_eq]
    rw [if_neg (by have := hle hc; linarith)]
  · rw [htax (by omega)]; ring

theorem lstep_mono (L : Link) (n k : Nat) (st : KState ℚ) (m : ℚ) (hs : KStruct n k st) (h : LMono L n k st m)
    (hk : k + 2 ≤ n) : LMono L n (k + 1) (lstep L n st) (kMin st).1 := by
  have hN : 2 ≤ st.act.size := by have := hs.asize; omega
  obtain ⟨others, j⟩ := kAct_join st hN hs.nd
  have hLsub : ∀ x ∈ others, x ∈ st.act.toList := fun x hx => (j.mem x hx).1
  have hact : (lstep L n st).act.toList = others ++ [st.rows.size] := j.act
  have hmm : m ≤ (kMin st).1 := by rw [j.min]; exact h.far _ j.memI _ j.memJ j.ne
  have hmin : ∀ x ∈ st.act.toList, ∀ y ∈ st.act.toList, x ≠ y → (kMin st).1 ≤ kdist st.rows x y :=
    fun x hx y hy hxy => kfindMin_le_pair st.rows st.act hN hx hy hxy
  have hH : lH L st = L.hOf (kMin st).1 := lH_eq L st
  have hhgt : (lstep L n st).hgt = st.hgt.push (lH L st) := rfl
  have hnodes : (lstep L n st).nodes =
      (⟨kI st, kJ st, lbranch L n st (lH L st) (kI st), lbranch L n st (lH L st) (kJ st)⟩ : KNode ℚ) :: st.nodes := rfl
  -- either joined cluster `c`: its height is untouched and not above the new one, its branch is as `NodesL` says
  have child : ∀ c ∈ st.act.toList,
      (st.hgt.push (lH L st)).getD c 0 = st.hgt.getD c 0 ∧ (n ≤ c → st.hgt.getD c 0 ≤ lH L st) ∧
      lbranch L n st (lH L st) c = if L.isLinkage then lH L st else lH L st - st.hgt.getD c 0 := by
    intro c hc
    have hle : n ≤ c → st.hgt.getD c 0 ≤ lH L st := fun hn => by
      rw [hH]; exact le_trans (h.le _ hn (hs.alt _ hc)) (L.hOf_mono hmm)
    refine ⟨getD_push_lt _ _ _ (by rw [hs.hsize]; exact hs.alt _ hc), hle, ?_⟩
    unfold lbranch
    cases hl : L.isLinkage
    · simp only [Bool.false_eq_true, if_false]; exact kbranch_eq_sub n _ _ _ hle (fun hn => h.taxa _ hn)
    · simp only [if_true]
  refine ⟨?_, ?_, ?_, ?_⟩
  · intro t ht
    rw [hhgt, getD_push_lt _ _ _ (by rw [hs.hsize]; omega)]; exact h.taxa t ht
  · intro c hc1 hc2
    rw [hhgt]
    by_cases hc : c < st.hgt.size
    · rw [getD_push_lt _ _ _ hc]
      exact le_trans (h.le c hc1 (by rw [← hs.hsize]; exact hc)) (L.hOf_mono hmm)
    · have : c = st.hgt.size := by rw [hs.hsize] at hc ⊢; omega
      rw [this, getD_push_eq, hH]
  · exact lstep_dist (fun _ _ v => (kMin st).1 ≤ v) L n k st hs hk hmin fun y hy h1 h2 =>
      have h := lmerged_lower L _ _ _ _ _ _ _ (hs.pos _ (hs.alt _ j.memI)) (hs.pos _ (hs.alt _ j.memJ))
        (hmin _ j.memI _ hy (Ne.symm h1)) (hmin _ j.memJ _ hy (Ne.symm h2))
      ⟨h, h⟩
  · rw [hnodes, hhgt]
    have e0 : (st.hgt.push (lH L st)).getD (n + st.nodes.length) 0 = lH L st := by
      rw [hs.len, ← hs.hsize, getD_push_eq]
    obtain ⟨eI, leI, brI⟩ := child _ j.memI
    obtain ⟨eJ, leJ, brJ⟩ := child _ j.memJ
    refine ⟨?_, ?_, ?_, ?_, ?_, NodesL.push _ h.nodes hs.ok (by rw [hs.len, hs.hsize])⟩
    · show lbranch L n st (lH L st) (kI st) = _
      rw [e0, eI]; exact brI
    · show lbranch L n st (lH L st) (kJ st) = _
      rw [e0, eJ]; exact brJ
    · intro hc
      show (st.hgt.push (lH L st)).getD (kI st) 0 ≤ _
      rw [e0, eI]; exact leI hc
    · intro hc
      show (st.hgt.push (lH L st)).getD (kJ st) 0 ≤ _
      rw [e0, eJ]; exact leJ hc
    · intro hne
      have hk1 : 0 < st.nodes.length := List.length_pos_iff.mpr hne
      rw [e0, getD_push_lt _ _ _ (by rw [hs.hsize, hs.len]; omega), hH]
      exact le_trans (h.le _ (by omega) (by rw [hs.len] at hk1 ⊢; omega)) (L.hOf_mono hmm)

theorem kinitMx_mono (L : Link) (n : Nat) (hn : 2 ≤ n) (d : Nat → Nat → ℚ) :
    LMono L n 0 (kinitMx n d) (kMin (kinitMx n d)).1 := by
  have hN : 2 ≤ (kinitMx n d).act.size := by show 2 ≤ (Array.range n).size; simpa using hn
  refine ⟨?_, ?_, ?_, trivial⟩
  · intro t _
    show (Array.replicate n (ofNat 0 : ℚ)).getD t 0 = 0
    rw [getD_replicate]; split <;> simp
  · intro c h1 h2; omega
  · intro x hx y hy hxy
    exact kfindMin_le_pair _ _ hN hx hy hxy

theorem lrun_mono (L : Link) (n : Nat) (hn : 2 ≤ n) (d : Nat → Nat → ℚ) (k : Nat) (hk : k + 1 ≤ n) :
    ∃ m, LMono L n k (lrun L n (kinitMx n d) k) m := by
  induction k with
  | zero => exact ⟨_, kinitMx_mono L n hn d⟩
  | succ k ih =>
    obtain ⟨m, hm⟩ := ih (by omega)
    exact ⟨_, lstep_mono L n k _ m (lrun_struct L n d k (by omega)) hm (by omega)⟩

theorem lrun_dist (P : ℚ → Prop) (L : Link)
    (hP : MergeKeeps L P)
    (n : Nat) (d : Nat → Nat → ℚ) (hd : ∀ x y, x < y → y < n → P (d x y)) (k : Nat) (hk : k + 1 ≤ n) :
    ∀ x ∈ (lrun L n (kinitMx n d) k).act.toList, ∀ y ∈ (lrun L n (kinitMx n d) k).act.toList, x ≠ y →
      P (kdist (lrun L n (kinitMx n d) k).rows x y) := by
  induction k with
  | zero =>
    intro x hx y hy hxy
    have hx' := kinitMx_act_lt n d hx
    have hy' := kinitMx_act_lt n d hy
    show P (kdist (kinitMx n d).rows x y)
    rcases Nat.lt_or_gt_of_ne hxy with hlt | hlt
    · rw [kinitMx_kdist n d hlt hy']; exact hd x y hlt hy'
    · rw [kdist_comm _ hxy, kinitMx_kdist n d hlt hx']; exact hd y x hlt hx'
  | succ k ih =>
    have ih := ih (by omega)
    have hs := lrun_struct L n d k (by omega)
    obtain ⟨_, j⟩ := kAct_join _ (by have := hs.asize; omega) hs.nd
    exact lstep_dist (fun _ _ => P) L n k _ hs (by omega) ih fun y hy h1 h2 =>
      have h := hP _ _ _ _ _ _ (hs.pos _ (hs.alt _ j.memI)) (hs.pos _ (hs.alt _ j.memJ)) (ih _ j.memI _ hy (Ne.symm h1))
        (ih _ j.memJ _ hy (Ne.symm h2))
      ⟨h, h⟩

theorem lrun_kMin (P : ℚ → Prop) (L : Link)
    (hP : MergeKeeps L P)
    (n : Nat) (d : Nat → Nat → ℚ) (hd : ∀ x y, x < y → y < n → P (d x y)) (k : Nat) (hk : k + 2 ≤ n) :
    P (kMin (lrun L n (kinitMx n d) k)).1 := by
  have hs := lrun_struct L n d k (by omega)
  have hN : 2 ≤ (lrun L n (kinitMx n d) k).act.size := by have := hs.asize; omega
  obtain ⟨_, j⟩ := kAct_join _ hN hs.nd
  have e : (kMin (lrun L n (kinitMx n d) k)).1 = kdist _ (kI _) (kJ _) := j.min
  rw [e]; exact lrun_dist P L hP n d hd k (by omega) _ j.memI _ j.memJ j.ne

theorem lrun_hgt_size (L : Link) (n : Nat) (d : Nat → Nat → ℚ) (j : Nat) : (lrun L n (kinitMx n d) j).hgt.size = n + j := by
  induction j with
  | zero => show (Array.replicate n (ofNat 0 : ℚ)).size = n + 0; simp
  | succ j ih => show ((lrun L n (kinitMx n d) j).hgt.push _).size = _; rw [Array.size_push, ih]; omega

theorem lrun_hgt_getD (L : Link) (n : Nat) (d : Nat → Nat → ℚ) (k j : Nat) (hkj : k < j) :
    (lrun L n (kinitMx n d) j).hgt.getD (n + k) 0 = L.hOf (kMin (lrun L n (kinitMx n d) k)).1 := by
  induction j with
  | zero => omega
  | succ j ih =>
    show ((lrun L n (kinitMx n d) j).hgt.push (lH L (lrun L n (kinitMx n d) j))).getD (n + k) 0 = _
    by_cases h : k = j
    · subst h; rw [← lrun_hgt_size L n d k, getD_push_eq, lH_eq]
    · rw [getD_push_lt _ _ _ (by rw [lrun_hgt_size]; omega)]; exact ih (by omega)

theorem linkTree_nodes_length (L : Link) (n : Nat) (hn : 2 ≤ n) (d : Nat → Nat → ℚ) :
    (linkTree L n d).nodes.reverse.length = n - 1 := by
  rw [List.length_reverse]; exact (lrun_struct L n d (n - 1) (by omega)).len

theorem linkTree_taxa_height (L : Link) (n : Nat) (hn : 2 ≤ n) (d : Nat → Nat → ℚ) (t : Nat) (ht : t < n) :
    (linkTree L n d).hgt.getD t 0 = 0 := by
  obtain ⟨m, hm⟩ := lrun_mono L n hn d (n - 1) (by omega)
  exact hm.taxa t ht

theorem linkTree_node (L : Link) (n : Nat) (hn : 2 ≤ n) (d : Nat → Nat → ℚ) (s : Nat)
    (h : s < (linkTree L n d).nodes.reverse.length) :
    NodeHeights L n (linkTree L n d).hgt s ((linkTree L n d).nodes.reverse[s]) := by
  obtain ⟨m, hm⟩ := lrun_mono L n hn d (n - 1) (by omega)
  exact hm.nodes.node s h

theorem linkTree_height_bounds (L : Link) (n : Nat) (hn : 2 ≤ n) (d : Nat → Nat → ℚ) (U : ℚ)
    (hd : ∀ x y, x < y → y < n → 0 ≤ d x y ∧ d x y ≤ U) (c : Nat) :
    0 ≤ (linkTree L n d).hgt.getD c 0 ∧ (linkTree L n d).hgt.getD c 0 ≤ L.hOf U := by
  have hU : 0 ≤ U := le_trans (hd 0 1 Nat.zero_lt_one hn).1 (hd 0 1 Nat.zero_lt_one hn).2
  have h0 : L.hOf 0 = 0 := by unfold Link.hOf; split <;> simp
  -- taxa and, through `getD`'s default, indices beyond the table read 0
  rcases Nat.lt_or_ge c n with hc | hc
  · rw [linkTree_taxa_height L n hn d c hc, ← h0]; exact ⟨le_refl _, L.hOf_mono hU⟩
  · obtain ⟨k, rfl⟩ : ∃ k, c = n + k := ⟨c - n, by omega⟩
    unfold linkTree
    by_cases hk : k < n - 1
    · have := lrun_kMin _ L ((lmerged_lower L 0).and (lmerged_upper L U)) n d hd k (by omega)
      rw [lrun_hgt_getD L n d k (n - 1) hk, ← h0]
      exact ⟨L.hOf_mono this.1, L.hOf_mono this.2⟩
    · rw [Array.getD_eq_getD_getElem?, Array.getElem?_eq_none (by rw [lrun_hgt_size]; omega), ← h0]
      exact ⟨le_refl _, L.hOf_mono hU⟩

theorem linkTree_branch_nonneg (L : Link) (n : Nat) (hn : 2 ≤ n) (d : Nat → Nat → ℚ)
    (hd : ∀ x y, x < y → y < n → 0 ≤ d x y) (s : Nat) (h : s < (linkTree L n d).nodes.reverse.length) :
    0 ≤ ((linkTree L n d).nodes.reverse[s]).l ∧ 0 ≤ ((linkTree L n d).nodes.reverse[s]).r := by
  have nd := linkTree_node L n hn d s h
  have hs : s < n - 1 := by rw [linkTree_nodes_length L n hn d] at h; exact h
  have h0 : 0 ≤ (linkTree L n d).hgt.getD (n + s) 0 := by
    have := lrun_kMin _ L (lmerged_lower L 0) n d hd s (by omega)
    unfold linkTree
    rw [lrun_hgt_getD L n d s (n - 1) hs]
    unfold Link.hOf; split <;> linarith
  have side : ∀ c, (n ≤ c → (linkTree L n d).hgt.getD c 0 ≤ (linkTree L n d).hgt.getD (n + s) 0) →
      0 ≤ if L.isLinkage then (linkTree L n d).hgt.getD (n + s) 0
          else (linkTree L n d).hgt.getD (n + s) 0 - (linkTree L n d).hgt.getD c 0 := by
    intro c hle
    split
    · exact h0
    · by_cases hc : n ≤ c
      · exact sub_nonneg.mpr (hle hc)
      · rw [linkTree_taxa_height L n hn d _ (Nat.lt_of_not_le hc), sub_zero]; exact h0
  rw [nd.l, nd.r]
  exact ⟨side _ nd.leI, side _ nd.leJ⟩

end EaselModel.Weights
