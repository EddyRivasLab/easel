import EaselModel.Weights.Lemmas
import Mathlib.Algebra.Order.AbsoluteValue.Basic
import EaselModel.Weights.GSC
/-! thresholds exactly AT an attained identity, over a ROUNDED number carrier.

  `Rd fl` is a carrier of the polymorphic model whose division returns the exact quotient rounded by `fl` (the only
  operation `pid` and the test `pid >= maxid` use besides comparisons). For ANY rounding `fl` that is monotone, exact at 0
  and within ε of the exact value on [0,1], and any alignment of rows not longer than `B` with 2·ε·B² < 1 (binary64:
  ε = 2⁻⁵³, B up to ~6·10⁷), a threshold that is itself a rounded quotient `fl(p/q)`, q ≤ B — in particular the identity the
  code computed for some pair — links exactly the pairs that the exact comparison `p/q ≤ nid/n` links. Hence the WHOLE
  functions agree with their exact-arithmetic instances: single linkage (so its clusters are the connected components of
  the exact graph), the clusters behind the BLOSUM weights, and both identity filters. That IEEE-754 binary64 division is such a
  rounding (monotone, relative error ≤ 2⁻⁵³) is trusted, not proved.

  The arithmetic behind it (`threshold_decision_exact`): two distinct fractions with denominators n, q are at least 1/(n·q)
  apart (`frac_gap`), so a rounding error below half that gap cannot change the comparison. -/
namespace EaselModel.Weights
open WNum

theorem frac_gap (a n p q : ℕ) (hn : 0 < n) (hq : 0 < q) (hlt : (a : ℚ) / n < (p : ℚ) / q) :
    (1 : ℚ) / (n * q) ≤ (p : ℚ) / q - (a : ℚ) / n := by
  have hn' : (0 : ℚ) < n := by exact_mod_cast hn
  have hq' : (0 : ℚ) < q := by exact_mod_cast hq
  rw [div_lt_div_iff₀ hn' hq'] at hlt
  have h1 : a * q < p * n := by exact_mod_cast hlt
  have h2 : a * q + 1 ≤ p * n := h1
  have h3 : ((a : ℚ) * q + 1) ≤ (p : ℚ) * n := by exact_mod_cast h2
  have : (p : ℚ) / q - (a : ℚ) / n = ((p : ℚ) * n - a * q) / (n * q) := by
    field_simp
  rw [this]
  apply div_le_div_of_nonneg_right _ (by positivity)
  linarith

theorem threshold_decision_exact (fl : ℚ → ℚ) (ε : ℚ)
    (hmono : ∀ x y, x ≤ y → fl x ≤ fl y)
    (herr : ∀ x, 0 ≤ x → x ≤ 1 → |fl x - x| ≤ ε)
    (nid n p q : ℕ) (hn : 0 < n) (hq : 0 < q) (hnid : nid ≤ n) (hp : p ≤ q)
    (hsmall : 2 * ε * (n * q) < 1) :
    fl ((p : ℚ) / q) ≤ fl ((nid : ℚ) / n) ↔ (p : ℚ) / q ≤ (nid : ℚ) / n := by
  have hn' : (0 : ℚ) < n := by exact_mod_cast hn
  have hq' : (0 : ℚ) < q := by exact_mod_cast hq
  constructor
  · intro h
    by_contra hc
    simp only [not_le] at hc
    have hgap := frac_gap nid n p q hn hq hc
    have ha0 : (0 : ℚ) ≤ (nid : ℚ) / n := by positivity
    have ha1 : (nid : ℚ) / n ≤ 1 := by
      rw [div_le_one hn']; exact_mod_cast hnid
    have hb0 : (0 : ℚ) ≤ (p : ℚ) / q := by positivity
    have hb1 : (p : ℚ) / q ≤ 1 := by
      rw [div_le_one hq']; exact_mod_cast hp
    have e1 := abs_le.mp (herr _ ha0 ha1)
    have e2 := abs_le.mp (herr _ hb0 hb1)
    have hnq : (0 : ℚ) < n * q := by positivity
    have : 2 * ε < 1 / (n * q) := by
      rw [lt_div_iff₀ hnq]; exact hsmall
    linarith [e1.1, e1.2, e2.1, e2.2]
  · intro h
    exact hmono _ _ h

/-- rationals with a rounded division -/
structure Rd (fl : ℚ → ℚ) where
  v : ℚ

variable {fl : ℚ → ℚ}

instance : WNum (Rd fl) where
  add a b := ⟨a.v + b.v⟩
  sub a b := ⟨a.v - b.v⟩
  mul a b := ⟨a.v * b.v⟩
  div a b := ⟨fl (a.v / b.v)⟩
  ofNat n := ⟨(n : ℚ)⟩
  leb a b := decide (a.v ≤ b.v)
  ltb a b := decide (a.v < b.v)
  isZero a := decide (a.v = 0)

theorem rd_div (a b : Rd fl) : (a / b).v = fl (a.v / b.v) := rfl
theorem rd_ofNat (n : Nat) : (WNum.ofNat n : Rd fl).v = (n : ℚ) := rfl
theorem rd_leb (a b : Rd fl) : WNum.leb a b = decide (a.v ≤ b.v) := rfl

theorem pairCounts_le (m : Mode) : ∀ (a b : Row) (nid l1 l2 nid' l1' l2' : Nat),
    pairCounts m a b nid l1 l2 = some (nid', l1', l2') → l1' ≤ l1 + a.length := by
  intro a
  induction a with
  | nil =>
    intro b nid l1 l2 nid' l1' l2' h
    cases b with
    | nil => simp only [pairCounts, Option.some.injEq, Prod.mk.injEq] at h; simp; omega
    | cons y ys => simp [pairCounts] at h
  | cons x xs ih =>
    intro b nid l1 l2 nid' l1' l2' h
    cases b with
    | nil => simp [pairCounts] at h
    | cons y ys =>
      simp only [pairCounts] at h
      have := ih ys _ _ _ _ _ _ h
      simp only [List.length_cons]
      split at this <;> omega

theorem pid_cases (m : Mode) (a b : Row) :
    ((pid (α := Rd fl) m a b).v = 0 ∧ pid (α := ℚ) m a b = 0) ∨
    ∃ nid n : Nat, 0 < n ∧ n ≤ a.length ∧ nid ≤ n ∧
      (pid (α := Rd fl) m a b).v = fl ((nid : ℚ) / n) ∧ pid (α := ℚ) m a b = (nid : ℚ) / n := by
  have hr := pid_range' m a b
  unfold pid pairId at hr ⊢
  cases hc : pairCounts m a b 0 0 0 with
  | none => left; simp [rd_ofNat]
  | some t =>
    obtain ⟨nid, l1, l2⟩ := t
    rw [hc] at hr
    simp only at hr ⊢
    by_cases hn : ((if l1 < l2 then l1 else l2) == 0) = true
    · left
      rw [if_pos hn, if_pos hn]
      exact ⟨rfl, rfl⟩
    · right
      rw [if_neg hn] at hr
      rw [if_neg hn, if_neg hn]
      have hpos : 0 < (if l1 < l2 then l1 else l2) := by
        have : (if l1 < l2 then l1 else l2) ≠ 0 := by simpa using hn
        omega
      have hl := pairCounts_le m a b 0 0 0 nid l1 l2 hc
      refine ⟨nid, (if l1 < l2 then l1 else l2), hpos, by split <;> omega, ?_, rfl, rfl⟩
      have h1 := hr.2
      simp only [ofNat_rat] at h1
      have hq : (0 : ℚ) < ((if l1 < l2 then l1 else l2 : Nat) : ℚ) := by exact_mod_cast hpos
      rw [div_le_one hq] at h1
      exact_mod_cast h1

/-- the hypotheses on the rounding and on the sizes -/
structure RoundingOK (fl : ℚ → ℚ) (ε : ℚ) (B : Nat) : Prop where
  mono : ∀ x y, x ≤ y → fl x ≤ fl y
  err : ∀ x, 0 ≤ x → x ≤ 1 → |fl x - x| ≤ ε
  zero : fl 0 = 0
  small : 2 * ε * ((B : ℚ) * B) < 1

theorem RoundingOK.eps_nonneg {ε : ℚ} {B : Nat} (h : RoundingOK fl ε B) : 0 ≤ ε := by
  have := h.err 0 (le_refl _) (by norm_num)
  exact le_trans (abs_nonneg _) this

theorem RoundingOK.small' {ε : ℚ} {B : Nat} (h : RoundingOK fl ε B) {n q : Nat} (hn : n ≤ B) (hq : q ≤ B) :
    2 * ε * ((n : ℚ) * q) < 1 := by
  have h0 := h.eps_nonneg
  have hn' : (n : ℚ) ≤ B := by exact_mod_cast hn
  have hq' : (q : ℚ) ≤ B := by exact_mod_cast hq
  have : (n : ℚ) * q ≤ (B : ℚ) * B := mul_le_mul hn' hq' (by positivity) (by positivity)
  calc 2 * ε * ((n : ℚ) * q) ≤ 2 * ε * ((B : ℚ) * B) := by
        apply mul_le_mul_of_nonneg_left this; positivity
    _ < 1 := h.small

theorem linked_rd {ε : ℚ} {B : Nat} (h : RoundingOK fl ε B) (m : Mode) (p q : Nat) (hq : 0 < q) (hqB : q ≤ B) (hp : p ≤ q)
    (a b : Row) (ha : a.length ≤ B) :
    linked (α := Rd fl) m ⟨fl ((p : ℚ) / q)⟩ a b = linked (α := ℚ) m ((p : ℚ) / q) a b := by
  unfold linked
  rw [rd_leb, leb_rat]
  rcases pid_cases (fl := fl) m a b with ⟨h1, h2⟩ | ⟨nid, n, hn, hna, hnid, h1, h2⟩
  · rw [h1, h2]
    -- no residues in common range: pid = 0 on both sides; fl(p/q) ≤ 0 ↔ p/q ≤ 0
    have key : fl ((p : ℚ) / q) ≤ 0 ↔ (p : ℚ) / q ≤ 0 := by
      have := threshold_decision_exact fl ε h.mono h.err 0 1 p q Nat.one_pos hq (Nat.zero_le _) hp
        (by simpa using h.small' (n := 1) (q := q) (by omega) hqB)
      simpa [h.zero] using this
    simp only [decide_eq_decide]
    exact key
  · rw [h1, h2]
    simp only [decide_eq_decide]
    exact threshold_decision_exact fl ε h.mono h.err nid n p q hn hq hnid hp (h.small' (by omega) hqB)

theorem getD_len_le {rows : List Row} {B : Nat} (hB : ∀ r ∈ rows, r.length ≤ B) (v : Nat) : (rows.getD v []).length ≤ B := by
  rw [List.getD_eq_getElem?_getD]
  cases hv : rows[v]? with
  | none => simp
  | some r => simpa using hB r (List.mem_of_getElem? hv)

section lifted
variable {ε : ℚ} {B : Nat} (h : RoundingOK fl ε B) (m : Mode) (p q : Nat) (hq : 0 < q) (hqB : q ≤ B) (hp : p ≤ q)
  (rows : List Row) (hB : ∀ r ∈ rows, r.length ≤ B)
include h hq hqB hp hB

theorem msaSingleLinkage_rd :
    msaSingleLinkage (α := Rd fl) m ⟨fl ((p : ℚ) / q)⟩ rows = msaSingleLinkage (α := ℚ) m ((p : ℚ) / q) rows := by
  unfold msaSingleLinkage
  congr 1
  funext v w
  exact linked_rd h m p q hq hqB hp _ _ (getD_len_le hB v)

theorem idFilterOrder_rd (order : List Nat) :
    idFilterOrder (α := Rd fl) m ⟨fl ((p : ℚ) / q)⟩ rows order = idFilterOrder (α := ℚ) m ((p : ℚ) / q) rows order := by
  unfold idFilterOrder
  congr 1
  funext r k
  exact linked_rd h m p q hq hqB hp _ _ (getD_len_le hB r)

end lifted

/-- non-vacuity: a genuinely lossy rounding that satisfies the hypotheses with ε > 0 (every value shrunk by the relative
    amount 2⁻²⁰), for alignments up to 400 columns -/
def flRel (x : ℚ) : ℚ := x * (1 - 1 / 1048576)

theorem flRel_ok : RoundingOK flRel (1 / 1048576) 400 := by
  refine ⟨?_, ?_, ?_, by norm_num⟩
  · intro x y hxy
    unfold flRel
    exact mul_le_mul_of_nonneg_right hxy (by norm_num)
  · intro x h0 h1
    unfold flRel
    have : x * (1 - 1 / 1048576) - x = -(x / 1048576) := by ring
    rw [this, abs_neg, abs_of_nonneg (by positivity)]
    apply div_le_div_of_nonneg_right h1 (by norm_num)
  · unfold flRel; simp

end EaselModel.Weights
