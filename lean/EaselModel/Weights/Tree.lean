import EaselModel.Weights.Model
/-! C16 — `esl_tree_UPGMA` on an ARBITRARY distance matrix and the tree it returns in the layout of `ESL_TREE`
    (`left right parent ld rd`, `taxaparent` of `esl_tree_SetTaxaParents`, `cladesize` of `esl_tree_SetCladesizes`), and the
    GSC traversals on an arbitrary tree. Core Lean only; the engine is `kstep`/`krun` of `Weights/Model.lean`.

    `cluster_engine` reads only the upper triangle `D->mx[row][col]`, row < col, of the matrix it is given (the minimum
    search) and mirrors every value it writes; a distance function `d x y` for x < y therefore stands for "every symmetric
    matrix with any diagonal" (the C code asserts a zero diagonal and symmetry at debug level ≥ 1 only). -/
namespace EaselModel.Weights
open WNum

/-- the state `cluster_engine` starts from, for distances `d x y` (x < y < n) -/
def kinitMx {α} [WNum α] (n : Nat) (d : Nat → Nat → α) : KState α :=
  { rows := ((List.range n).map fun y => ((List.range y).map fun x => d x y).toArray).toArray
    size := Array.replicate n 1
    hgt := Array.replicate n (ofNat 0)
    act := Array.range n
    nodes := [] }

/-- the alignment entry point is the instance "d = 1 − pairwise identity" -/
theorem kinit_eq_kinitMx {α} [WNum α] (m : Mode) (rws : List Row) :
    kinit (α := α) m rws = kinitMx rws.length (fun x y => ofNat 1 - pid m (rws.getD x []) (rws.getD y [])) := rfl

/-- `esl_tree_UPGMA(D, &T)` for n ≥ 2 taxa: the state after the n−1 passes -/
def upgma {α} [WNum α] (n : Nat) (d : Nat → Nat → α) : KState α := krun n (kinitMx n d) (n - 1)

/-- how `ESL_TREE` refers to a cluster: taxon t as `-t`, the node created in pass s (cluster n+s) as node n−2−s -/
def cRef (n c : Nat) : Int := if c < n then -(c : Int) else ((2 * n - 2 - c : Nat) : Int)

/-- position (= C node index when the tree is complete) of the node that has cluster `c` as a child; 0 if none (root) -/
def parentIdx {α} (nodes : List (KNode α)) (c : Nat) : Nat :=
  let k := nodes.findIdx fun nd => nd.I == c || nd.J == c
  if k < nodes.length then k else 0

structure CTree (α : Type) where
  left : List Int
  right : List Int
  parent : List Int
  ld : List α
  rd : List α
  taxaparent : List Int
  cladesize : List Nat

/-- the finished tree in C layout; `st.nodes` is newest first, i.e. already in C node order 0..n−2 -/
def toCTree {α} (n : Nat) (st : KState α) : CTree α :=
  let cs := kclades n st.nodes.reverse
  { left := st.nodes.map fun nd => cRef n nd.I
    right := st.nodes.map fun nd => cRef n nd.J
    parent := (List.range st.nodes.length).map fun k => (parentIdx st.nodes (2 * n - 2 - k) : Int)
    ld := st.nodes.map (·.l)
    rd := st.nodes.map (·.r)
    taxaparent := (List.range n).map fun t => (parentIdx st.nodes t : Int)
    cladesize := (List.range st.nodes.length).map fun k => cs.getD (2 * n - 2 - k) 0 }

/-- all children named by the nodes, in creation order -/
def childrenOf {α} (created : List (KNode α)) : List Nat := created.flatMap fun nd => [nd.I, nd.J]

/-- a rooted binary tree on n taxa given as its internal nodes in creation order (node s is cluster n+s): n−1 nodes, each
    joining two different, earlier clusters, and every taxon and every node but the last is a child exactly once -/
structure WellFormed {α} (n : Nat) (created : List (KNode α)) : Prop where
  length : created.length = n - 1
  earlier : ∀ s (h : s < created.length), created[s].I < n + s ∧ created[s].J < n + s ∧ created[s].I ≠ created[s].J
  children : (childrenOf created).Perm (List.range (2 * n - 2))

def wellFormedB {α} (n : Nat) (created : List (KNode α)) : Bool :=
  created.length == n - 1 &&
  (List.range created.length).all (fun s => match created[s]? with
    | some nd => decide (nd.I < n + s) && decide (nd.J < n + s) && nd.I != nd.J
    | none => false) &&
  (List.range (2 * n - 2)).all (fun c => (childrenOf created).count c == 1) && (childrenOf created).length == 2 * n - 2

/-- the two traversals of `esl_msaweight_GSC` on an arbitrary node list (newest = root first), before normalisation -/
def gscTreeRaw {α} [WNum α] (n : Nat) (nodes : List (KNode α)) : List α :=
  let created := nodes.reverse
  let above := kdown n (kclades n created) (kup n created) nodes
  (List.range n).map (lookupD above)

/-- GSC weights of an arbitrary tree on n ≥ 2 taxa -/
def gscTree {α} [WNum α] (n : Nat) (nodes : List (KNode α)) : List α := normalizeToN (gscTreeRaw n nodes)

theorem gscRaw_eq_gscTreeRaw {α} [WNum α] (m : Mode) (rows : List Row) :
    gscRaw (α := α) m rows = gscTreeRaw rows.length (krun rows.length (kinit (α := α) m rows) (rows.length - 1)).nodes := rfl

theorem gsc_eq_gscTree {α} [WNum α] (m : Mode) (rows : List Row) (h : (rows.length == 1) = false) :
    gsc (α := α) m rows =
      gscTree rows.length (upgma rows.length (fun x y => ofNat 1 - pid m (rows.getD x []) (rows.getD y []))).nodes := by
  unfold gsc; rw [h]; rfl

end EaselModel.Weights
