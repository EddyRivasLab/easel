import EaselModel.Weights.GSC
/-! the minimum search of `cluster_engine` returns a minimum of the upper triangle. -/
namespace EaselModel.Weights
open WNum

theorem argmin_fold {β : Type} (f : β → ℚ) (g : β → Nat × Nat) (l : List β) (init : ℚ × Nat × Nat) :
    let r := l.foldl (fun st x => if ltb (f x) st.1 then (f x, g x) else st) init
    r.1 ≤ init.1 ∧ (∀ x ∈ l, r.1 ≤ f x) ∧ (r = init ∨ ∃ x ∈ l, r = (f x, g x)) := by
  induction l generalizing init with
  | nil => simp
  | cons a l ih =>
    simp only [List.foldl_cons]
    by_cases h : f a < init.1
    · have hs : (if ltb (f a) init.1 = true then (f a, g a) else init) = (f a, g a) := by simp [h]
      rw [hs]
      obtain ⟨h1, h2, h3⟩ := ih (f a, g a)
      refine ⟨le_trans h1 (le_of_lt h), ?_, ?_⟩
      · intro x hx
        rcases List.mem_cons.mp hx with rfl | hx
        · exact h1
        · exact h2 x hx
      · rcases h3 with h3 | ⟨x, hx, h3⟩
        · exact Or.inr ⟨a, by simp, h3⟩
        · exact Or.inr ⟨x, by simp [hx], h3⟩
    · have hs : (if ltb (f a) init.1 = true then (f a, g a) else init) = init := by simp [h]
      rw [hs]
      obtain ⟨h1, h2, h3⟩ := ih init
      refine ⟨h1, ?_, ?_⟩
      · intro x hx
        rcases List.mem_cons.mp hx with rfl | hx
        · exact le_trans h1 (not_lt.mp h)
        · exact h2 x hx
      · rcases h3 with h3 | ⟨x, hx, h3⟩
        · exact Or.inl h3
        · exact Or.inr ⟨x, by simp [hx], h3⟩

theorem mem_upperPairs {N r c : Nat} : (r, c) ∈ upperPairs N ↔ r < c ∧ c < N := by
  unfold upperPairs
  simp only [List.mem_flatMap, List.mem_range, List.mem_map, List.mem_range', Prod.mk.injEq]
  constructor
  · rintro ⟨row, hrow, col, ⟨i, hi, rfl⟩, rfl, rfl⟩
    omega
  · rintro ⟨h1, h2⟩
    exact ⟨r, by omega, c, ⟨c - (r + 1), by omega, by omega⟩, rfl, rfl⟩

theorem kfindMin_spec (rows : Array (Array ℚ)) (act : Array Nat) (hN : 2 ≤ act.size) :
    (kfindMin rows act).1 = kdist rows (act.getD (kfindMin rows act).2.1 0) (act.getD (kfindMin rows act).2.2 0) ∧
    (∀ r c, r < c → c < act.size → (kfindMin rows act).1 ≤ kdist rows (act.getD r 0) (act.getD c 0)) ∧
    (kfindMin rows act).2.1 < (kfindMin rows act).2.2 ∧ (kfindMin rows act).2.2 < act.size := by
  have h := argmin_fold (fun x : Nat × Nat => kdist rows (act.getD x.1 0) (act.getD x.2 0)) id (upperPairs act.size)
    (kdist rows (act.getD 0 0) (act.getD 1 0), 0, 1)
  simp only [id] at h
  obtain ⟨_, h2, h3⟩ := h
  unfold kfindMin
  refine ⟨?_, ?_, ?_⟩
  · rcases h3 with h3 | ⟨x, _, h3⟩
    · rw [h3]
    · rw [h3]
  · intro r c hrc hc
    exact h2 (r, c) (mem_upperPairs.mpr ⟨hrc, hc⟩)
  · rcases h3 with h3 | ⟨x, hx, h3⟩
    · rw [h3]; exact ⟨by show 0 < 1; omega, by show 1 < act.size; omega⟩
    · rw [h3]
      obtain ⟨r, c⟩ := x
      exact mem_upperPairs.mp hx

theorem kstep_joins_minimum (st : KState ℚ) (hN : 2 ≤ st.act.size) :
    kPosI st < kPosJ st ∧ kPosJ st < st.act.size ∧
    (∀ r c, r < c → c < st.act.size → kdist st.rows (kI st) (kJ st) ≤ kdist st.rows (st.act.getD r 0) (st.act.getD c 0)) ∧
    kH st = kdist st.rows (kI st) (kJ st) / 2 := by
  obtain ⟨h1, h2, h3, h4⟩ := kfindMin_spec st.rows st.act hN
  refine ⟨h3, h4, ?_, ?_⟩
  · intro r c hrc hc
    have := h2 r c hrc hc
    unfold kI kJ kPosI kPosJ kMin
    rw [← h1]; exact this
  · unfold kH kI kJ kPosI kPosJ kMin
    rw [← h1]; simp

end EaselModel.Weights
