import EaselModel.Weights.SortSorted
import EaselModel.Weights.Lemmas
import EaselModel.Weights.Adv
import Mathlib.Data.List.Sort
/-! the three preference rules of `esl_msaweight_IDFilter_adv` (`cfg->filterpref`): with the order
    `esl_quicksort` really produces, a dropped row always reaches the threshold with a kept row that the rule prefers at least
    as much — covers at least as many consensus columns / has a larger random number / comes earlier in the alignment. -/
namespace EaselModel.Weights
open WNum

theorem cmpDecreasing_le_iff (w : List ℚ) (a b : Nat) (ha : a < w.length) (hb : b < w.length) :
    cmpDecreasing w a b ≤ 0 ↔ w.getD b 0 ≤ w.getD a 0 := by
  unfold cmpDecreasing
  rw [List.getElem?_eq_getElem ha, List.getElem?_eq_getElem hb]
  simp only [List.getD_eq_getElem?_getD, List.getElem?_eq_getElem ha, List.getElem?_eq_getElem hb, Option.getD_some, ltb_rat,
    decide_eq_true_eq]
  split
  · constructor
    · intro _; linarith
    · intro _; omega
  · split
    · constructor
      · intro h; omega
      · intro h; linarith
    · constructor
      · intro _; linarith
      · intro _; omega

theorem cmpDecreasing_ok (w : List ℚ) : CmpOK (cmpDecreasing w) (· < w.length) := by
  refine ⟨?_, ?_, ?_⟩
  · intro a
    unfold cmpDecreasing
    cases w[a]? with
    | none => rfl
    | some x => simp
  · intro a b h
    unfold cmpDecreasing at h ⊢
    cases ha : w[a]? with
    | none => cases w[b]? <;> simp
    | some x =>
      cases hb : w[b]? with
      | none => simp
      | some y =>
        simp only [ha, hb, ltb_rat, decide_eq_true_eq] at h ⊢
        by_cases h1 : y < x
        · rw [if_pos h1] at h; omega
        · rw [if_neg h1] at h
          by_cases h2 : x < y
          · rw [if_pos h2]; omega
          · rw [if_neg h2, if_neg h1]
  · intro a b c ha hb hc h1 h2
    rw [cmpDecreasing_le_iff w a b ha hb] at h1
    rw [cmpDecreasing_le_iff w b c hb hc] at h2
    rw [cmpDecreasing_le_iff w a c ha hc]
    linarith

theorem quicksort_decreasing (w : List ℚ) (x y : Nat) (hxy : x < y) (hy : y < w.length) :
    w.getD ((quicksort (cmpDecreasing w) w.length).getD y 0) 0 ≤ w.getD ((quicksort (cmpDecreasing w) w.length).getD x 0) 0 := by
  have hs := quicksort_sorted (cmpDecreasing_ok w) x y hxy hy
  have hlen : (quicksort (cmpDecreasing w) w.length).length = w.length := by
    rw [(quicksort_perm _ _).length_eq]; simp
  have hmem : ∀ k, k < w.length → (quicksort (cmpDecreasing w) w.length).getD k 0 < w.length := by
    intro k hk
    rw [List.getD_eq_getElem?_getD, List.getElem?_eq_getElem (by omega)]
    exact (mem_quicksort _ _ _).mp (List.getElem_mem _)
  exact (cmpDecreasing_le_iff w _ _ (hmem x (by omega)) (hmem y hy)).mp hs

theorem idFilterDigital_keeps_preferred (abc : Abc) (maxid : ℚ) (sortwgt : List ℚ) (rows : List Row)
    (hlen : sortwgt.length = rows.length) (r : Nat) (hr : r < rows.length) (h : r ∉ idFilterDigital abc maxid sortwgt rows) :
    ∃ k ∈ idFilterDigital abc maxid sortwgt rows, k ≠ r ∧ k < rows.length ∧ sortwgt.getD r 0 ≤ sortwgt.getD k 0 ∧
      maxid ≤ pid (α := ℚ) (Mode.digital abc) (rows.getD r []) (rows.getD k []) := by
  obtain ⟨pre, post, hsplit⟩ := List.append_of_mem ((mem_quicksort (cmpDecreasing sortwgt) rows.length r).mpr hr)
  have hnd := quicksort_nodup (cmpDecreasing sortwgt) rows.length
  unfold idFilterDigital idFilterOrder at h ⊢
  rw [hsplit] at h ⊢ hnd
  obtain ⟨k, hk, hl, hkept⟩ := filterGreedy_dropped_by_earlier _ _ _ r h
  have hkpre : k ∈ pre := by
    rcases filterGreedy_subset _ _ _ k hk with h' | h'
    · simp at h'
    · exact h'
  have hne : k ≠ r := by
    intro e; subst e
    have := (List.nodup_append.mp hnd).2.2 k hkpre k (by simp)
    exact this rfl
  obtain ⟨x, hx, hxk⟩ := List.mem_iff_getElem.mp hkpre
  have hklt : k < rows.length := (mem_quicksort (cmpDecreasing sortwgt) rows.length k).mp (by rw [hsplit]; simp [hkpre])
  refine ⟨k, hkept, hne, hklt, ?_, by simpa [linked] using hl⟩
  have hq := quicksort_decreasing sortwgt x pre.length hx (by
    have : (quicksort (cmpDecreasing sortwgt) rows.length).length = rows.length := by
      rw [(quicksort_perm _ _).length_eq]; simp
    rw [hsplit] at this; simp at this; omega)
  rw [hlen, hsplit] at hq
  have e1 : (pre ++ r :: post).getD x 0 = k := by
    rw [List.getD_eq_getElem?_getD, List.getElem?_append_left hx, List.getElem?_eq_getElem hx, hxk]; rfl
  have e2 : (pre ++ r :: post).getD pre.length 0 = r := by
    rw [List.getD_eq_getElem?_getD, List.getElem?_append_right (le_refl _)]; simp
  rw [e1, e2] at hq
  exact hq

theorem foldl_ones (k : Nat) (init : ℚ) : (List.range k).foldl (fun acc _ => acc + (WNum.ofNat 1 : ℚ)) init = init + k := by
  induction k generalizing init with
  | zero => simp
  | succ k ih => rw [List.range_succ, List.foldl_append, ih]; simp; ring

theorem sortwgtOf_length (abc : Abc) (cfg : WCfg) (deal : Nat → Nat → List Nat) (rf : Option Row) (rows : List Row)
    (pref : FilterPref) : (sortwgtOf (α := ℚ) abc cfg deal rf rows pref).length = rows.length := by
  cases pref <;> simp [sortwgtOf]

/-- the preference values: conscover = number of consensus columns within the row's first..last residue; random = the
    row's draw / 2^53; origorder = nseq − index -/
theorem sortwgtOf_getD (abc : Abc) (cfg : WCfg) (deal : Nat → Nat → List Nat) (rf : Option Row) (rows : List Row) (i : Nat)
    (hi : i < rows.length) :
    (sortwgtOf (α := ℚ) abc cfg deal rf rows .conscover).getD i 0 =
      (conscover abc (filterConsensusAdv abc cfg deal rf rows) (rows.getD i []) : ℚ) ∧
    (∀ nums, (sortwgtOf (α := ℚ) abc cfg deal rf rows (.random nums)).getD i 0 = (nums.getD i 0 : ℚ) / 9007199254740992) ∧
    (sortwgtOf (α := ℚ) abc cfg deal rf rows .origorder).getD i 0 = ((rows.length - i : Nat) : ℚ) := by
  refine ⟨?_, ?_, ?_⟩
  · simp only [sortwgtOf, List.getD_eq_getElem?_getD, List.getElem?_map, List.getElem?_eq_getElem hi, Option.map_some,
      Option.getD_some]
    rw [foldl_ones]; simp
  · intro nums
    simp only [sortwgtOf, List.getD_eq_getElem?_getD, List.getElem?_map, List.getElem?_range hi, Option.map_some,
      Option.getD_some, ofNat_rat]
    simp [div_eq_mul_inv]
  · simp only [sortwgtOf, List.getD_eq_getElem?_getD, List.getElem?_map, List.getElem?_range hi, Option.map_some,
      Option.getD_some, ofNat_rat]

theorem quicksort_origorder (n : Nat) :
    quicksort (cmpDecreasing ((List.range n).map fun i => ((n - i : Nat) : ℚ))) n = List.range n := by
  set w : List ℚ := (List.range n).map fun i => ((n - i : Nat) : ℚ) with hw
  have hwl : w.length = n := by simp [hw]
  have hperm := quicksort_perm (cmpDecreasing w) n
  have hnd := quicksort_nodup (cmpDecreasing w) n
  have hlen : (quicksort (cmpDecreasing w) n).length = n := by rw [hperm.length_eq]; simp
  have hwget : ∀ i, i < n → w.getD i 0 = ((n - i : Nat) : ℚ) := by
    intro i hi
    simp [hw, List.getD_eq_getElem?_getD, List.getElem?_range hi]
  have hsorted : (quicksort (cmpDecreasing w) n).Pairwise (· < ·) := by
    rw [List.pairwise_iff_getElem]
    intro x y hx hy hxy
    have hq := quicksort_decreasing w x y hxy (by omega)
    rw [hwl] at hq
    have ex : (quicksort (cmpDecreasing w) n).getD x 0 = (quicksort (cmpDecreasing w) n)[x] := by
      rw [List.getD_eq_getElem?_getD, List.getElem?_eq_getElem hx]; rfl
    have ey : (quicksort (cmpDecreasing w) n).getD y 0 = (quicksort (cmpDecreasing w) n)[y] := by
      rw [List.getD_eq_getElem?_getD, List.getElem?_eq_getElem hy]; rfl
    rw [ex, ey] at hq
    have hxm : (quicksort (cmpDecreasing w) n)[x] < n := (mem_quicksort _ _ _).mp (List.getElem_mem _)
    have hym : (quicksort (cmpDecreasing w) n)[y] < n := (mem_quicksort _ _ _).mp (List.getElem_mem _)
    rw [hwget _ hxm, hwget _ hym] at hq
    have hq' : n - (quicksort (cmpDecreasing w) n)[y] ≤ n - (quicksort (cmpDecreasing w) n)[x] := by exact_mod_cast hq
    have hne : (quicksort (cmpDecreasing w) n)[x] ≠ (quicksort (cmpDecreasing w) n)[y] := by
      intro e
      have := (List.nodup_iff_injective_getElem.mp hnd) (a₁ := ⟨x, hx⟩) (a₂ := ⟨y, hy⟩) e
      simp at this; omega
    omega
  exact List.Perm.eq_of_pairwise (fun a b _ _ h1 h2 => by omega) hsorted List.pairwise_lt_range hperm

end EaselModel.Weights
