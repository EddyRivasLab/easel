import EaselModel.Weights.DistanceLemmas
import EaselModel.Random.Lemmas
/-! the sampling branch of `esl_dst_*Average*` / `*Connectivity`, for EVERY generator state: each
    sampled pair names two DIFFERENT rows inside the alignment, and at most `max_comparisons` pairs are drawn. -/
namespace EaselModel.Weights
open EaselModel.Random

theorem samplePair_valid (N : Nat) : ∀ (fuel : Nat) (r : Rng) (p : Nat × Nat) (r' : Rng),
    samplePair N fuel r = some (p, r') → p.1 < N ∧ p.2 < N ∧ p.2 ≠ p.1 := by
  intro fuel
  induction fuel with
  | zero => intro r p r' h; simp [samplePair] at h
  | succ fuel ih =>
    intro r p r' h
    simp only [samplePair] at h
    cases h1 : r.roll N 1000 with
    | none => simp [h1] at h
    | some ir =>
      obtain ⟨i, r1⟩ := ir
      simp only [h1] at h
      cases h2 : r1.roll N 1000 with
      | none => simp [h2] at h
      | some jr =>
        obtain ⟨j, r2⟩ := jr
        simp only [h2] at h
        by_cases hji : (j == i) = true
        · rw [if_pos hji] at h; exact ih _ _ _ h
        · rw [if_neg hji] at h
          cases h
          exact ⟨Rng.roll_lt _ _ _ _ _ h1, Rng.roll_lt _ _ _ _ _ h2, by simpa using hji⟩

theorem samplePairs_valid (N : Nat) : ∀ (k : Nat) (r : Rng) (acc : List (Nat × Nat)),
    (∀ p ∈ acc, p.1 < N ∧ p.2 < N ∧ p.2 ≠ p.1) →
    (∀ p ∈ samplePairs N k r acc, p.1 < N ∧ p.2 < N ∧ p.2 ≠ p.1) ∧ (samplePairs N k r acc).length ≤ acc.length + k := by
  intro k
  induction k with
  | zero =>
    intro r acc hacc
    simp only [samplePairs]
    exact ⟨fun p hp => hacc p (List.mem_reverse.mp hp), by simp⟩
  | succ k ih =>
    intro r acc hacc
    simp only [samplePairs]
    cases h : samplePair N 10000 r with
    | none => exact ⟨fun p hp => hacc p (List.mem_reverse.mp hp), by simp⟩
    | some pr =>
      obtain ⟨p0, r'⟩ := pr
      have hv := samplePair_valid N _ _ _ _ h
      obtain ⟨a1, a2⟩ := ih r' (p0 :: acc) (by
        intro p hp
        rcases List.mem_cons.mp hp with e | e
        · rw [e]; exact hv
        · exact hacc p e)
      refine ⟨a1, ?_⟩
      simp only [List.length_cons] at a2
      show (samplePairs N k r' (p0 :: acc)).length ≤ acc.length + (k + 1)
      omega

theorem average_all_zero (f : Row → Row → ℚ) (rows : List Row) (maxc : Nat) (sampled : List (Nat × Nat))
    (hf : ∀ a ∈ rows, ∀ b ∈ rows, f a b = 0) (hN : 2 ≤ rows.length)
    (hs : ∀ p ∈ sampled, p.1 < rows.length ∧ p.2 < rows.length) : average f rows maxc sampled = 0 := by
  have hmem : ∀ i, i < rows.length → rows.getD i [] ∈ rows := by
    intro i hi
    rw [List.getD_eq_getElem?_getD, List.getElem?_eq_getElem hi]; exact List.getElem_mem _
  have hz : ∀ (pairs : List (Nat × Nat)), (∀ p ∈ pairs, p.1 < rows.length ∧ p.2 < rows.length) →
      (pairs.map fun p => f (rows.getD p.1 []) (rows.getD p.2 [])).sum = 0 := by
    intro pairs hp
    apply List.sum_eq_zero
    intro x hx
    obtain ⟨p, hpm, rfl⟩ := List.mem_map.mp hx
    exact hf _ (hmem _ (hp p hpm).1) _ (hmem _ (hp p hpm).2)
  rw [(average_value f rows maxc sampled) hN]
  split
  · rw [hz _ (fun p hp => by
      have := mem_upperPairs.mp (show (p.1, p.2) ∈ upperPairs rows.length from hp)
      exact ⟨by omega, this.2⟩)]
    simp
  · rw [hz _ hs]; simp

end EaselModel.Weights
