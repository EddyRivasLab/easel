import EaselModel.Weights.Lemmas
/-! The text and the digital definition of pairwise identity AGREE under any symbol map that
    preserves "is a residue" and "same residue" (e.g. digitising an alignment of canonical residues and gaps). -/
namespace EaselModel.Weights
open WNum

theorem pairCounts_map (m m' : Mode) (φ : UInt8 → UInt8) (S : UInt8 → Prop)
    (hres : ∀ c, S c → m'.isRes (φ c) = m.isRes c)
    (hkey : ∀ c c', S c → S c' → m.isRes c = true → m.isRes c' = true → (m'.key (φ c) == m'.key (φ c')) = (m.key c == m.key c')) :
    ∀ (a b : Row), (∀ c ∈ a, S c) → (∀ c ∈ b, S c) → ∀ nid l1 l2,
      pairCounts m' (a.map φ) (b.map φ) nid l1 l2 = pairCounts m a b nid l1 l2 := by
  intro a
  induction a with
  | nil => intro b _ _ nid l1 l2; cases b <;> simp [pairCounts]
  | cons x xs ih =>
    intro b ha hb nid l1 l2
    cases b with
    | nil => simp [pairCounts]
    | cons y ys =>
      simp only [List.map_cons, pairCounts]
      have hx := ha x (by simp)
      have hy := hb y (by simp)
      rw [hres x hx, hres y hy]
      have hk : (m.isRes x && m.isRes y && m'.key (φ x) == m'.key (φ y)) = (m.isRes x && m.isRes y && m.key x == m.key y) := by
        cases hrx : m.isRes x <;> cases hry : m.isRes y <;> simp only [Bool.false_and, Bool.and_false, Bool.true_and, Bool.and_true]
        exact hkey x y hx hy hrx hry
      rw [hk]
      exact ih ys (fun c hc => ha c (by simp [hc])) (fun c hc => hb c (by simp [hc])) _ _ _

theorem pairId_map {α} [WNum α] (m m' : Mode) (φ : UInt8 → UInt8) (S : UInt8 → Prop)
    (hres : ∀ c, S c → m'.isRes (φ c) = m.isRes c)
    (hkey : ∀ c c', S c → S c' → m.isRes c = true → m.isRes c' = true → (m'.key (φ c) == m'.key (φ c')) = (m.key c == m.key c'))
    (a b : Row) (ha : ∀ c ∈ a, S c) (hb : ∀ c ∈ b, S c) :
    pairId (α := α) m' (a.map φ) (b.map φ) = pairId m a b := by
  unfold pairId
  rw [pairCounts_map m m' φ S hres hkey a b ha hb]

/-- a digitiser for DNA text: A C G T (either case) ↦ 0..3, everything else ↦ the gap code 4 -/
def digitizeDna (c : UInt8) : UInt8 :=
  let u := toUpper c
  if u == 65 then 0 else if u == 67 then 1 else if u == 71 then 2 else if u == 84 then 3 else 4

/-- characters the digitiser handles faithfully: the four canonical letters and every non-letter -/
def dnaOK (c : UInt8) : Prop := isAlpha c = true → (toUpper c = 65 ∨ toUpper c = 67 ∨ toUpper c = 71 ∨ toUpper c = 84)

instance (c : UInt8) : Decidable (dnaOK c) := by unfold dnaOK; infer_instance

theorem digitizeDna_res : ∀ n, n < 256 → dnaOK (UInt8.ofNat n) →
    (Mode.digital Abc.dna).isRes (digitizeDna (UInt8.ofNat n)) = Mode.text.isRes (UInt8.ofNat n) := by decide +kernel

/-- on the four canonical letters the digitiser is an injective function of `toUpper` -/
theorem digitizeDna_key (c c' : UInt8) (h1 : dnaOK c) (h2 : dnaOK c') (h3 : isAlpha c = true) (h4 : isAlpha c' = true) :
    (digitizeDna c == digitizeDna c') = (toUpper c == toUpper c') := by
  unfold digitizeDna
  rcases h1 h3 with h | h | h | h <;> rcases h2 h4 with h' | h' | h' | h' <;> rw [h, h'] <;> rfl

theorem pairId_text_eq_digital_dna {α} [WNum α] (a b : Row) (ha : ∀ c ∈ a, dnaOK c) (hb : ∀ c ∈ b, dnaOK c) :
    pairId (α := α) (Mode.digital Abc.dna) (a.map digitizeDna) (b.map digitizeDna) = pairId Mode.text a b := by
  apply pairId_map Mode.text (Mode.digital Abc.dna) digitizeDna dnaOK
  · intro c hc
    have := digitizeDna_res c.toNat (UInt8.toNat_lt c) (by rw [UInt8.ofNat_toNat]; exact hc)
    rwa [UInt8.ofNat_toNat] at this
  · exact fun c c' hc hc' h1 h2 => digitizeDna_key c c' hc hc' h1 h2
  · exact ha
  · exact hb

end EaselModel.Weights
