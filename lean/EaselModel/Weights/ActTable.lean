import EaselModel.Weights.FindMin
import EaselModel.Weights.Sort
import EaselModel.Weights.Engine
import Mathlib.Data.List.Perm.Basic
import Mathlib.Data.List.Nodup
import Mathlib.Data.List.Range
/-! The table of active clusters of `cluster_engine` (`act`: matrix position → cluster number) and the append-only stores
    beside it: what one pass does to them (`Joined`, `kAct_join`, `kAct_fresh`), and reading a store after a push.
    Names: `k…` (`kstep`, `kMin`, `kI`, `kJ`, `kAct`, `kdist`, `kRow`) is the pass as `Weights/Model.lean` writes it for UPGMA; `l…`
    (`lstep`, `lRow`, `lmerged`, `lH`, `lrun`) the same pass in any linkage mode `L : Link` (`Weights/Engine.lean`; `lstep .upgma` is
    `kstep`). The search for the pair and the table do not depend on the mode, so `kMin`, `kI`, `kJ`, `kAct` serve both. -/
namespace EaselModel.Weights
open WNum

theorem kdist_comm (rows : Array (Array ℚ)) {x y : Nat} (h : x ≠ y) : kdist rows x y = kdist rows y x := by
  unfold kdist
  by_cases h1 : x < y
  · rw [if_pos h1, if_neg (by omega)]
  · rw [if_neg h1, if_pos (by omega)]

theorem getD_push_lt {β : Type} (a : Array β) (v d : β) {i : Nat} (h : i < a.size) : (a.push v).getD i d = a.getD i d := by
  simp only [Array.getD_eq_getD_getElem?, Array.getElem?_push]
  rw [if_neg (by omega)]

theorem getD_push_eq {β : Type} (a : Array β) (v d : β) : (a.push v).getD a.size d = v := by
  simp [Array.getD_eq_getD_getElem?, Array.getElem?_push]

theorem getD_push_gt {β : Type} (a : Array β) (v d : β) {i : Nat} (h : a.size < i) : (a.push v).getD i d = d := by
  simp only [Array.getD_eq_getD_getElem?, Array.getElem?_push]
  rw [if_neg (by omega), Array.getElem?_eq_none (by omega)]
  rfl

theorem kdist_push (rows : Array (Array ℚ)) (r : Array ℚ) {x y : Nat} (hx : x < rows.size) (hy : y < rows.size) :
    kdist (rows.push r) x y = kdist rows x y := by
  unfold kdist
  rw [getD_push_lt rows r #[] hx, getD_push_lt rows r #[] hy]

theorem kdist_push_new (rows : Array (Array ℚ)) (r : Array ℚ) {x : Nat} (hx : x < rows.size) :
    kdist (rows.push r) rows.size x = r.getD x 0 ∧ kdist (rows.push r) x rows.size = r.getD x 0 := by
  unfold kdist
  constructor
  · rw [if_neg (by omega), getD_push_eq]; rfl
  · rw [if_pos hx, getD_push_eq]; rfl

theorem lRow_getD (L : Link) (st : KState ℚ) {x : Nat} (hx : x < st.rows.size) :
    (lRow L st).getD x 0 = lmerged L st.rows (st.size.getD (kI st) 0) (st.size.getD (kJ st) 0) (kI st) (kJ st) x := by
  unfold lRow
  simp only [Array.getD_eq_getD_getElem?, Array.getElem?_map]
  have : (Array.range st.rows.size)[x]? = some x := by
    rw [Array.getElem?_eq_getElem (by simpa using hx)]; simp
  rw [this]; rfl

theorem kRow_getD (st : KState ℚ) {x : Nat} (hx : x < st.rows.size) :
    (kRow st).getD x 0 = kmerged st.rows (st.size.getD (kI st) 0) (st.size.getD (kJ st) 0) (kI st) (kJ st) x :=
  lRow_getD .upgma st hx

theorem agetD_toList (a : Array Nat) (i : Nat) : a.getD i 0 = a.toList.getD i 0 := by
  rw [Array.getD_eq_getD_getElem?, List.getD_eq_getElem?_getD, Array.getElem?_toList]

theorem moveIdx_size (a : Array Nat) (t q : Nat) : (moveIdx a t q).size = a.size := by
  unfold moveIdx; split <;> simp

theorem moveIdx_perm (a : Array Nat) (t q : Nat) : (moveIdx a t q).toList.Perm a.toList := by
  unfold moveIdx
  split
  · have := aswap_perm a q t
    unfold aswap at this
    exact Array.perm_iff_toList_perm.mp this
  · exact List.Perm.refl _

theorem moveIdx_getD (a : Array Nat) (t q k : Nat) (ht : t < a.size) (hq : q < a.size) :
    (moveIdx a t q).getD k 0 = if k = t then a.getD q 0 else if k = q then a.getD t 0 else a.getD k 0 := by
  unfold moveIdx
  by_cases h : q = t
  · subst h; simp only [bne_self_eq_false, Bool.false_eq_true, ↓reduceIte]
    split <;> simp_all
  · have hb : (q != t) = true := by simpa using h
    rw [if_pos hb]
    exact swapIfInBounds_getD a q t k hq ht

theorem list_split_last_two (L : List Nat) (hN : 2 ≤ L.length) :
    L = L.take (L.length - 2) ++ [L.getD (L.length - 2) 0, L.getD (L.length - 1) 0] := by
  have h2 : L.drop (L.length - 2) = [L.getD (L.length - 2) 0, L.getD (L.length - 1) 0] := by
    rw [List.drop_eq_getElem_cons (by omega), List.drop_eq_getElem_cons (by omega), List.drop_of_length_le (by omega),
      List.getD_eq_getElem?_getD, List.getD_eq_getElem?_getD, List.getElem?_eq_getElem (by omega),
      List.getElem?_eq_getElem (by omega)]
    have : L.length - 2 + 1 = L.length - 1 := by omega
    simp only [this, Option.getD_some]
  rw [← h2, List.take_append_drop]

theorem set_pop_toList (a : Array Nat) (v : Nat) (hN : 2 ≤ a.size) :
    ((a.setIfInBounds (a.size - 2) v).pop).toList = a.toList.take (a.size - 2) ++ [v] := by
  have hl : (a.toList.take (a.size - 2)).length = a.size - 2 := by rw [List.length_take, Array.length_toList]; omega
  rw [Array.toList_pop, Array.toList_setIfInBounds]
  conv_lhs => rw [list_split_last_two a.toList (by simpa using hN)]
  rw [Array.length_toList, List.set_append_right _ _ (by omega), hl, Nat.sub_self, List.set_cons_zero,
    List.dropLast_append_cons]
  rfl
theorem moveIdx_two (act : Array Nat) (i j : Nat) (hij : i < j) (hj : j < act.size) :
    (moveIdx (moveIdx act (act.size - 1) j) (act.size - 2) i).size = act.size ∧
    (moveIdx (moveIdx act (act.size - 1) j) (act.size - 2) i).toList.Perm act.toList ∧
    (moveIdx (moveIdx act (act.size - 1) j) (act.size - 2) i).getD (act.size - 2) 0 = act.getD i 0 ∧
    (moveIdx (moveIdx act (act.size - 1) j) (act.size - 2) i).getD (act.size - 1) 0 = act.getD j 0 := by
  have hbs : (moveIdx act (act.size - 1) j).size = act.size := moveIdx_size _ _ _
  refine ⟨by rw [moveIdx_size, hbs], (moveIdx_perm _ _ _).trans (moveIdx_perm act _ _), ?_, ?_⟩
  · rw [moveIdx_getD _ _ _ _ (by omega) (by omega), if_pos rfl, moveIdx_getD _ _ _ _ (by omega) hj, if_neg (by omega),
      if_neg (by omega)]
  · rw [moveIdx_getD _ _ _ _ (by omega) (by omega), if_neg (by omega), if_neg (by omega),
      moveIdx_getD _ _ _ _ (by omega) hj, if_pos rfl]

theorem kAct_spec (st : KState ℚ) (hN : 2 ≤ st.act.size) (hij : kPosI st < kPosJ st) (hj : kPosJ st < st.act.size) :
    ∃ L' : List Nat, (kAct st).toList = L' ++ [st.rows.size] ∧ (L' ++ [kI st, kJ st]).Perm st.act.toList := by
  obtain ⟨hs, hperm, h1, h2⟩ := moveIdx_two st.act (kPosI st) (kPosJ st) hij hj
  unfold kAct
  generalize moveIdx (moveIdx st.act (st.act.size - 1) (kPosJ st)) (st.act.size - 2) (kPosI st) = a1 at hs hperm h1 h2 ⊢
  rw [← hs] at h1 h2 hN ⊢
  refine ⟨a1.toList.take (a1.size - 2), set_pop_toList a1 _ hN, ?_⟩
  have hsplit := list_split_last_two a1.toList (by simpa using hN)
  rw [Array.length_toList, ← agetD_toList, ← agetD_toList, h1, h2] at hsplit
  unfold kI kJ
  rw [← hsplit]; exact hperm

theorem mem_of_getD (a : Array Nat) {r : Nat} (hr : r < a.size) : a.getD r 0 ∈ a.toList := by
  rw [agetD_toList, List.getD_eq_getElem?_getD, List.getElem?_eq_getElem (by simpa using hr)]
  exact List.getElem_mem _

theorem pos_of_mem (a : Array Nat) {x : Nat} (hx : x ∈ a.toList) : ∃ r, r < a.size ∧ a.getD r 0 = x := by
  obtain ⟨r, hr, rfl⟩ := List.mem_iff_getElem.mp hx
  refine ⟨r, by simpa using hr, ?_⟩
  rw [agetD_toList, List.getD_eq_getElem?_getD, List.getElem?_eq_getElem hr]; rfl

theorem pos_inj (a : Array Nat) (hnd : a.toList.Nodup) {r c : Nat} (hr : r < a.size) (hc : c < a.size)
    (h : a.getD r 0 = a.getD c 0) : r = c := by
  rw [agetD_toList, agetD_toList, List.getD_eq_getElem?_getD, List.getD_eq_getElem?_getD,
    List.getElem?_eq_getElem (by simpa using hr), List.getElem?_eq_getElem (by simpa using hc)] at h
  simp only [Option.getD_some] at h
  exact (hnd.getElem_inj_iff).mp h

/-- what a pass does to a table of at least two different clusters: the two it joins are different members at minimum
    distance; afterwards the table holds `rest` (the others, each once) and the new cluster last -/
structure Joined (st : KState ℚ) (rest : List Nat) : Prop where
  memI : kI st ∈ st.act.toList
  memJ : kJ st ∈ st.act.toList
  ne : kI st ≠ kJ st
  min : (kMin st).1 = kdist st.rows (kI st) (kJ st)
  act : (kAct st).toList = rest ++ [st.rows.size]
  perm : (rest ++ [kI st, kJ st]).Perm st.act.toList
  nodup : rest.Nodup
  mem : ∀ x ∈ rest, x ∈ st.act.toList ∧ x ≠ kI st ∧ x ≠ kJ st

theorem kAct_join (st : KState ℚ) (hN : 2 ≤ st.act.size) (hnd : st.act.toList.Nodup) : ∃ rest, Joined st rest := by
  obtain ⟨a1, _, a3, a4⟩ := kfindMin_spec st.rows st.act hN
  have hij : kPosI st < kPosJ st := a3
  have hj : kPosJ st < st.act.size := a4
  obtain ⟨L, hL1, hL2⟩ := kAct_spec st hN hij hj
  have hLnd := List.nodup_append.mp (hL2.nodup_iff.mpr hnd)
  refine ⟨L, mem_of_getD st.act (by omega), mem_of_getD st.act hj, fun e => ?_, a1, hL1, hL2, hLnd.1, fun x hx => ?_⟩
  · have := pos_inj st.act hnd (by omega) hj e
    omega
  · exact ⟨hL2.subset (List.mem_append_left _ hx), hLnd.2.2 x hx _ (by simp), hLnd.2.2 x hx _ (by simp)⟩

theorem kAct_fresh (st : KState ℚ) (hN : 2 ≤ st.act.size) (hnd : st.act.toList.Nodup)
    (hlt : ∀ x ∈ st.act.toList, x < st.rows.size) :
    (kAct st).toList.Nodup ∧ ∀ x ∈ (kAct st).toList, x < st.rows.size + 1 := by
  obtain ⟨L, j⟩ := kAct_join st hN hnd
  rw [j.act]
  refine ⟨List.nodup_append.mpr ⟨j.nodup, List.nodup_singleton _, fun a ha b hb => ?_⟩, fun x hx => ?_⟩
  · rw [List.mem_singleton.mp hb]; exact Nat.ne_of_lt (hlt a (j.mem a ha).1)
  · rcases List.mem_append.mp hx with hx | hx
    · exact Nat.lt_succ_of_lt (hlt x (j.mem x hx).1)
    · rw [List.mem_singleton.mp hx]; exact Nat.lt_succ_self _

theorem kfindMin_le_pair (rows : Array (Array ℚ)) (act : Array Nat) (hN : 2 ≤ act.size) {x y : Nat}
    (hx : x ∈ act.toList) (hy : y ∈ act.toList) (hxy : x ≠ y) : (kfindMin rows act).1 ≤ kdist rows x y := by
  obtain ⟨r, hr, rfl⟩ := pos_of_mem act hx
  obtain ⟨c, hc, rfl⟩ := pos_of_mem act hy
  have hrc : r ≠ c := fun e => hxy (by rw [e])
  obtain ⟨_, h2, _, _⟩ := kfindMin_spec rows act hN
  rcases Nat.lt_or_gt_of_ne hrc with h | h
  · exact h2 r c h hc
  · rw [kdist_comm rows hxy]; exact h2 c r h hr

theorem getD_replicate {β : Type} (k : Nat) (v d : β) (x : Nat) : (Array.replicate k v).getD x d = if x < k then v else d := by
  simp only [Array.getD_eq_getD_getElem?, Array.getElem?_replicate]
  split <;> rfl

theorem kstep_act_size (n : Nat) (st : KState ℚ) (hN : 2 ≤ st.act.size) : (kstep n st).act.size = st.act.size - 1 := by
  obtain ⟨_, _, a3, a4⟩ := kfindMin_spec st.rows st.act hN
  obtain ⟨L, h1, h2⟩ := kAct_spec st hN a3 a4
  have e1 : (kstep n st).act.toList.length = L.length + 1 := by
    show (kAct st).toList.length = _
    rw [h1]; simp
  have e2 := h2.length_eq
  simp only [List.length_append, List.length_cons, List.length_nil, Array.length_toList] at e1 e2
  omega

end EaselModel.Weights
