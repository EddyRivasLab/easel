import EaselModel.Weights.Model
/-! `esl_quicksort` only ever swaps, so `sorted_at[]` is a permutation of 0..n-1 whatever
    the comparison function does; hence the %id filter of `esl_msaweight_IDFilter_adv` tries every row exactly once. -/
namespace EaselModel.Weights

theorem aswap_perm (a : Array Nat) (i j : Nat) : (aswap a i j).Perm a := by
  unfold aswap Array.swapIfInBounds
  split
  · split
    · exact Array.swap_perm _ _
    · exact Array.Perm.refl _
  · exact Array.Perm.refl _

theorem swapIfInBounds_getD (a : Array Nat) (i j k : Nat) (hi : i < a.size) (hj : j < a.size) :
    (a.swapIfInBounds i j).getD k 0 = if k = j then a.getD i 0 else if k = i then a.getD j 0 else a.getD k 0 := by
  rw [Array.swapIfInBounds_def, dif_pos hi, dif_pos hj]
  simp only [Array.getD_eq_getD_getElem?, Array.getElem?_swap]
  by_cases h1 : j = k
  · subst h1; simp [Array.getElem?_eq_getElem hi]
  · have h1' : ¬ k = j := fun e => h1 e.symm
    by_cases h2 : i = k
    · subst h2; simp [h1, h1', Array.getElem?_eq_getElem hj]
    · have h2' : ¬ k = i := fun e => h2 e.symm
      simp [h1, h2, h1', h2']

theorem qsLoop_perm (cmp : Nat → Nat → Int) (lo hi fuel : Nat) (ord : Array Nat) (i j : Nat) :
    (qsLoop cmp lo hi fuel ord i j).1.Perm ord := by
  induction fuel generalizing ord i j with
  | zero => exact Array.Perm.refl _
  | succ fuel ih =>
    simp only [qsLoop]
    split
    · exact (ih _ _ _).trans (aswap_perm _ _ _)
    · exact Array.Perm.refl _

theorem qsPartition_perm (cmp : Nat → Nat → Int) (fuel : Nat) (ord : Array Nat) (lo hi : Nat) :
    (qsPartition cmp fuel ord lo hi).Perm ord := by
  induction fuel generalizing ord lo hi with
  | zero => exact Array.Perm.refl _
  | succ fuel ih =>
    simp only [qsPartition]
    generalize hp : (if cmp (aget ord (lo + (hi - lo) / 2)) (aget ord lo) < 0 then lo
      else if cmp (aget ord (lo + (hi - lo) / 2)) (aget ord hi) > 0 then hi else lo + (hi - lo) / 2) = pivot
    have h1 : (aswap ord pivot lo).Perm ord := aswap_perm _ _ _
    have h2 := qsLoop_perm cmp lo hi (hi + 2) (aswap ord pivot lo) lo (hi + 1)
    generalize hq : qsLoop cmp lo hi (hi + 2) (aswap ord pivot lo) lo (hi + 1) = q at h2
    obtain ⟨o2, j⟩ := q
    simp only at h2 ⊢
    have h3 : (aswap o2 lo j).Perm ord := (aswap_perm _ _ _).trans (h2.trans h1)
    have sub : ∀ (c : Prop) [Decidable c] (a : Array Nat) (x y : Nat),
        (if c then qsPartition cmp fuel a x y else a).Perm a := by
      intro c _ a x y
      split
      · exact ih a x y
      · exact Array.Perm.refl a
    split <;> exact (sub _ _ _ _).trans ((sub _ _ _ _).trans h3)

theorem quicksort_perm (cmp : Nat → Nat → Int) (n : Nat) : (quicksort cmp n).Perm (List.range n) := by
  unfold quicksort
  split
  · have := qsPartition_perm cmp (n + 1) (Array.range n) 0 (n - 1)
    rw [Array.perm_iff_toList_perm, Array.toList_range] at this
    exact this
  · exact List.Perm.refl _

theorem quicksort_nodup (cmp : Nat → Nat → Int) (n : Nat) : (quicksort cmp n).Nodup :=
  (quicksort_perm cmp n).nodup_iff.mpr List.nodup_range

theorem mem_quicksort (cmp : Nat → Nat → Int) (n r : Nat) : r ∈ quicksort cmp n ↔ r < n := by
  rw [(quicksort_perm cmp n).mem_iff, List.mem_range]

end EaselModel.Weights
