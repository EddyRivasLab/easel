import EaselModel.Weights.Blosum
/-! BLOSUM weights are attached to the rows, not to their positions. The size of a row's cluster is re-expressed through
    connectivity between row CONTENTS (`sizeC`, `cluster_size_eq`), which only depends on which rows occur in the alignment;
    the weights are `finishW` of its reciprocals (`blosum_eq_finish`). -/
namespace EaselModel.Weights
open WNum
open Classical

section
variable (m : Mode) (maxid : ℚ)

/-- `c` can be reached from `a` by at least one link step through rows satisfying `S` -/
inductive RT (S : Row → Prop) : Row → Row → Prop
  | single {a c : Row} : S c → linked m maxid a c = true → RT S a c
  | step {a b c : Row} : RT S a b → S c → linked m maxid b c = true → RT S a c

theorem RT.congr {S S' : Row → Prop} (h : ∀ r, S r ↔ S' r) {a c : Row} (hr : RT m maxid S a c) : RT m maxid S' a c := by
  induction hr with
  | single hs hl => exact RT.single ((h _).mp hs) hl
  | step _ hs hl ih => exact RT.step ih ((h _).mp hs) hl

/-- index-level version: at least one link step between vertices `< n` -/
inductive Reach1 (link : Nat → Nat → Bool) (n : Nat) : Nat → Nat → Prop
  | single {x z : Nat} : z < n → link x z = true → Reach1 link n x z
  | step {x y z : Nat} : Reach1 link n x y → z < n → link y z = true → Reach1 link n x z

theorem Reach1.toReach {link : Nat → Nat → Bool} {n x z : Nat} (hx : x < n) (h : Reach1 link n x z) : Reach link n x z := by
  induction h with
  | single hz hl => exact Reach.single hx hz hl
  | step h1 hz hl ih => exact Reach.step ih (Reach.lt_of_lt hx ih) hz hl

theorem Reach.toReach1 {link : Nat → Nat → Bool} {n x z : Nat} (h : Reach link n x z) : z = x ∨ Reach1 link n x z := by
  induction h with
  | refl => exact Or.inl rfl
  | step _ _ hz hl ih =>
    rcases ih with rfl | ih
    · exact Or.inr (Reach1.single hz hl)
    · exact Or.inr (Reach1.step ih hz hl)

/-- the link function `esl_msacluster_SingleLinkage` hands to the clustering routine -/
def rowLink (rows : List Row) : Nat → Nat → Bool := fun v w => linked m maxid (rows.getD v []) (rows.getD w [])

theorem getD_eq (rows : List Row) {i : Nat} (hi : i < rows.length) : rows.getD i [] = rows[i] := by
  rw [List.getD_eq_getElem?_getD, List.getElem?_eq_getElem hi]; rfl

theorem rowLink_eq (rows : List Row) {i k : Nat} (hi : i < rows.length) (hk : k < rows.length) :
    rowLink m maxid rows i k = linked m maxid rows[i] rows[k] := by
  unfold rowLink; rw [getD_eq rows hi, getD_eq rows hk]

theorem reach1_iff (rows : List Row) {i w : Nat} (hi : i < rows.length) (hw : w < rows.length) :
    Reach1 (rowLink m maxid rows) rows.length i w ↔ RT m maxid (· ∈ rows) rows[i] rows[w] := by
  constructor
  · intro h
    induction h with
    | single hz hl =>
      apply RT.single (List.getElem_mem hz)
      rw [rowLink_eq m maxid rows hi hz] at hl; exact hl
    | step h1 hz hl ih =>
      rename_i y z
      have hy : y < rows.length := Reach.lt_of_lt hi (h1.toReach hi)
      apply RT.step (ih hy) (List.getElem_mem hz)
      rw [rowLink_eq m maxid rows hy hz] at hl; exact hl
  · intro h
    generalize ha : rows[i] = a at h
    generalize hc : rows[w] = c at h
    induction h generalizing w with
    | single hs hl =>
      subst ha hc
      apply Reach1.single hw
      rw [rowLink_eq m maxid rows hi hw]; exact hl
    | step h1 hs hl ih =>
      rename_i b c'
      subst ha hc
      have hb : b ∈ rows := by
        cases h1 with
        | single hs' _ => exact hs'
        | step _ hs' _ => exact hs'
      obtain ⟨y, hy, rfl⟩ := List.mem_iff_getElem.mp hb
      apply Reach1.step (ih hy rfl) hw
      rw [rowLink_eq m maxid rows hy hw]; exact hl

/-- size of the cluster of a row, from row contents only -/
noncomputable def sizeC (rows : List Row) (a : Row) : Nat :=
  if ∃ c ∈ rows, linked m maxid a c = true then rows.countP (fun r => decide (RT m maxid (· ∈ rows) a r)) else 1

theorem eq_map_range_getD (rows : List Row) : rows = (List.range rows.length).map (fun w => rows.getD w []) := by
  apply List.ext_getElem
  · simp
  · intro i h1 h2
    simp only [List.getElem_map, List.getElem_range]
    exact (getD_eq rows h1).symm

theorem map_range_getD {β : Type} (rows : List Row) (g : Row → β) :
    (List.range rows.length).map (fun w => g (rows.getD w [])) = rows.map g := by
  conv_rhs => rw [eq_map_range_getD rows, List.map_map]
  rfl

theorem countP_range_getElem (rows : List Row) (p : Row → Bool) :
    (List.range rows.length).countP (fun w => p (rows.getD w [])) = rows.countP p := by
  conv_rhs => rw [eq_map_range_getD rows]
  rw [List.countP_map]; rfl

theorem cluster_size_eq (rows : List Row) {i : Nat} (hi : i < rows.length) :
    ((msaSingleLinkage m maxid rows).getD (clusterIndex (msaSingleLinkage m maxid rows) i) []).length =
      sizeC m maxid rows rows[i] := by
  have hsym : ∀ x y, rowLink m maxid rows x y = rowLink m maxid rows y x := fun x y => linked_comm m maxid _ _
  have inv := singleLinkage_inv hsym rows.length
  have hp : IsPartition (singleLinkage (rowLink m maxid rows) rows.length) rows.length :=
    singleLinkage_isPartition hsym rows.length
  show ((singleLinkage (rowLink m maxid rows) rows.length).getD
      (clusterIndex (singleLinkage (rowLink m maxid rows) rows.length) i) []).length = _
  have hk := hp.index_lt hi
  rw [List.getD_eq_getElem?_getD, List.getElem?_eq_getElem hk]
  simp only [Option.getD_some]
  have hmem := List.getElem_mem hk
  have hcomp := inv.comp _ hmem i (hp.mem_own hi)
  have hnd : ((singleLinkage (rowLink m maxid rows) rows.length)[clusterIndex (singleLinkage (rowLink m maxid rows) rows.length) i]).Nodup :=
    (List.nodup_flatten.mp hp.nodup).1 _ hmem
  have hlt : ∀ w ∈ (singleLinkage (rowLink m maxid rows) rows.length)[clusterIndex (singleLinkage (rowLink m maxid rows) rows.length) i],
      w < rows.length := fun w hw => hp.mem_flatten.mp (List.mem_flatten.mpr ⟨_, hmem, hw⟩)
  unfold sizeC
  by_cases hex : ∃ c ∈ rows, linked m maxid rows[i] c = true
  · rw [if_pos hex]
    obtain ⟨c, hc, hl⟩ := hex
    obtain ⟨k, hk', rfl⟩ := List.mem_iff_getElem.mp hc
    have hlik : rowLink m maxid rows i k = true := by rw [rowLink_eq m maxid rows hi hk']; exact hl
    have hself : Reach1 (rowLink m maxid rows) rows.length i i :=
      Reach1.step (Reach1.single hk' hlik) hi (by rw [hsym]; exact hlik)
    -- the cluster = the vertices reachable in ≥ 1 steps
    have hperm : ((List.range rows.length).filter fun w => decide (Reach1 (rowLink m maxid rows) rows.length i w)).Perm
        (singleLinkage (rowLink m maxid rows) rows.length)[clusterIndex (singleLinkage (rowLink m maxid rows) rows.length) i] := by
      rw [List.perm_ext_iff_of_nodup (List.nodup_range.filter _) hnd]
      intro w
      simp only [List.mem_filter, List.mem_range, decide_eq_true_eq]
      constructor
      · rintro ⟨hw, hr⟩
        exact (hcomp w hw).mpr (hr.toReach hi)
      · intro hw
        have hwl := hlt w hw
        refine ⟨hwl, ?_⟩
        rcases ((hcomp w hwl).mp hw).toReach1 with rfl | h
        · exact hself
        · exact h
    rw [← hperm.length_eq, ← List.countP_eq_length_filter]
    rw [← countP_range_getElem rows (fun r => decide (RT m maxid (· ∈ rows) rows[i] r))]
    apply List.countP_congr
    intro w hw
    have hw' := List.mem_range.mp hw
    simp only [decide_eq_true_eq, getD_eq rows hw']
    exact reach1_iff m maxid rows hi hw'
  · rw [if_neg hex]
    apply length_one_of_all_eq hnd (hp.ne _ hmem)
    intro w hw
    have hno : ∀ k, k < rows.length → rowLink m maxid rows i k = false := by
      intro k hk'
      by_contra hc
      apply hex
      refine ⟨rows[k], List.getElem_mem hk', ?_⟩
      have : rowLink m maxid rows i k = true := by simpa using hc
      rw [rowLink_eq m maxid rows hi hk'] at this; exact this
    exact reach_eq_of_no_link hno ((hcomp w (hlt w hw)).mp hw)

theorem sizeC_perm {rows rows' : List Row} (hp : rows.Perm rows') (a : Row) : sizeC m maxid rows' a = sizeC m maxid rows a := by
  unfold sizeC
  have hmem : ∀ r, r ∈ rows ↔ r ∈ rows' := fun r => hp.mem_iff
  have h1 : (∃ c ∈ rows', linked m maxid a c = true) ↔ (∃ c ∈ rows, linked m maxid a c = true) := by
    constructor
    · rintro ⟨c, hc, hl⟩; exact ⟨c, (hmem c).mpr hc, hl⟩
    · rintro ⟨c, hc, hl⟩; exact ⟨c, (hmem c).mp hc, hl⟩
  by_cases h : ∃ c ∈ rows, linked m maxid a c = true
  · rw [if_pos h, if_pos (h1.mpr h), ← hp.countP_eq]
    apply List.countP_congr
    intro r _
    simp only [decide_eq_true_eq]
    exact ⟨RT.congr m maxid (fun r => (hmem r).symm), RT.congr m maxid hmem⟩
  · rw [if_neg h, if_neg (fun h' => h (h1.mp h'))]

/-- the raw BLOSUM weight of a row, 1 / size of its cluster, is a function of its content -/
theorem blosum_eq_finish (rows : List Row) :
    blosum m maxid rows = finishW (rows.map fun a => 1 / (sizeC m maxid rows a : ℚ)) := by
  have hraw : (List.range rows.length).map (IsPartition.rawW (msaSingleLinkage m maxid rows)) =
      rows.map fun a => 1 / (sizeC m maxid rows a : ℚ) := by
    rw [← map_range_getD rows fun a => 1 / (sizeC m maxid rows a : ℚ)]
    apply List.map_congr_left
    intro u hu
    have hu' := List.mem_range.mp hu
    rw [IsPartition.rawW, cluster_size_eq m maxid rows hu', getD_eq rows hu']
  rw [blosum_eq_rawW, hraw]

end
end EaselModel.Weights
