import EaselModel.Weights.GSCPerm
import EaselModel.Weights.Tree
import EaselModel.Weights.TreeLemmas
/-! can the two GSC findings be repaired by a better TIE RULE in `cluster_engine`?

  `cluster_engine` joins, in every pass, the FIRST minimum of the upper triangle in row-major order of the current matrix
  positions. Here the pass is written with the pair of positions as a parameter (`stepAt`); `kstep` — the code — is the
  instance "positions found by `kfindMin`" (`kstep_eq_stepAt`). A *tie rule* is ANY function of the whole engine state
  (distances, cluster sizes, heights, position table, the tree so far — hence also "smallest original taxon index in the
  cluster", "largest cluster first", …) that returns a pair of positions at minimum distance (`TieRule`).

  * `gscWith_eq_gsc_of_tieFree`: where no pass ties, every tie rule gives the code's weights (a tie rule changes nothing
    else);
  * `tieRule_fails_on_witness`: for EVERY tie rule there is an alignment of three different rows
    (`AAAA`, `AABB`, `BBBB`) and a relisting (reverse) under which the weights do not follow the rows. The reversed
    alignment has the same distance matrix entry for entry, so a deterministic rule returns the same weight VECTOR, while
    the rows have exchanged places; and every admissible join ((0,1) or (1,2)) gives the outer rows different weights.
  Hence no repair of the form "break ties by …" exists while the tree stays binary and is built by pairwise joins: the only
  order-independent treatment joins all tied clusters at once (a multifurcation), which is another algorithm. -/
namespace EaselModel.Weights
open WNum

deriving instance DecidableEq for KNode
deriving instance DecidableEq for KState

/-- one pass of the `for (N = D->n; N >= 2; N--)` loop (mode eslUPGMA) joining the clusters at matrix positions `pi`, `pj` -/
def stepAt (n : Nat) (st : KState ℚ) (pi pj : Nat) : KState ℚ :=
  let I := st.act.getD pi 0
  let J := st.act.getD pj 0
  let h : ℚ := kdist st.rows I J / ofNat 2
  { rows := st.rows.push ((Array.range st.rows.size).map (kmerged st.rows (st.size.getD I 0) (st.size.getD J 0) I J))
    size := st.size.push (st.size.getD I 0 + st.size.getD J 0)
    hgt := st.hgt.push h
    act := ((moveIdx (moveIdx st.act (st.act.size - 1) pj) (st.act.size - 2) pi).setIfInBounds (st.act.size - 2) st.rows.size).pop
    nodes := ⟨I, J, kbranch n h st.hgt I, kbranch n h st.hgt J⟩ :: st.nodes }

theorem kstep_eq_stepAt (n : Nat) (st : KState ℚ) (hN : 2 ≤ st.act.size) :
    kstep n st = stepAt n st (kPosI st) (kPosJ st) := by
  obtain ⟨h1, _, _, _⟩ := kfindMin_spec st.rows st.act hN
  have hH : kH st = kdist st.rows (kI st) (kJ st) / ofNat 2 := by
    unfold kH kI kJ kPosI kPosJ kMin; rw [← h1]
  unfold kstep stepAt kRow kAct
  rw [hH]
  rfl

/-- a pair of matrix positions at minimum distance: `i < j < N`, no pair of active positions is closer -/
def MinPair (st : KState ℚ) (ij : Nat × Nat) : Prop :=
  ij.1 < ij.2 ∧ ij.2 < st.act.size ∧
  ∀ r c, r < c → c < st.act.size →
    kdist st.rows (st.act.getD ij.1 0) (st.act.getD ij.2 0) ≤ kdist st.rows (st.act.getD r 0) (st.act.getD c 0)

/-- a tie rule: any function of the whole engine state that names a pair at minimum distance -/
def TieRule (pick : KState ℚ → Nat × Nat) : Prop := ∀ st, 2 ≤ st.act.size → MinPair st (pick st)

/-- `cluster_engine`'s rule: first minimum in row-major order of the current positions -/
def firstMin (st : KState ℚ) : Nat × Nat := (kPosI st, kPosJ st)

theorem firstMin_tieRule : TieRule firstMin := by
  intro st hN
  obtain ⟨h1, h2, h3, h4⟩ := kstep_joins_minimum st hN
  exact ⟨h1, h2, h3⟩

def crun (pick : KState ℚ → Nat × Nat) (n : Nat) (st : KState ℚ) : Nat → KState ℚ
  | 0 => st
  | k + 1 => stepAt n (crun pick n st k) (pick (crun pick n st k)).1 (pick (crun pick n st k)).2

/-- `esl_msaweight_GSC` with `cluster_engine` using tie rule `pick` -/
def gscWith (pick : KState ℚ → Nat × Nat) (m : Mode) (rows : List Row) : List ℚ :=
  if rows.length == 1 then [ofNat 1]
  else normalizeToN (gscTreeRaw rows.length (crun pick rows.length (kinit (α := ℚ) m rows) (rows.length - 1)).nodes)

/-- a rule that names the code's pair on every state of the code's run gives the code's run, hence the code's weights -/
theorem crun_eq_krun (pick : KState ℚ → Nat × Nat) (m : Mode) (rws : List Row) (k : Nat) (hk : k + 1 ≤ rws.length)
    (h : ∀ j, j < k → pick (krun rws.length (kinit (α := ℚ) m rws) j) = firstMin (krun rws.length (kinit (α := ℚ) m rws) j)) :
    crun pick rws.length (kinit (α := ℚ) m rws) k = krun rws.length (kinit (α := ℚ) m rws) k := by
  induction k with
  | zero => rfl
  | succ k ih =>
    have hs := (krun_struct m rws k (by omega)).asize
    show stepAt _ (crun pick _ _ k) _ _ = kstep _ (krun _ _ k)
    rw [ih (by omega) fun j hj => h j (by omega), kstep_eq_stepAt _ _ (by omega), h k (Nat.lt_succ_self k)]
    rfl

theorem gscWith_eq_gsc (pick : KState ℚ → Nat × Nat) (m : Mode) (rows : List Row) (hne : rows ≠ [])
    (h : ∀ j, j + 1 < rows.length →
      pick (krun rows.length (kinit (α := ℚ) m rows) j) = firstMin (krun rows.length (kinit (α := ℚ) m rows) j)) :
    gscWith pick m rows = gsc (α := ℚ) m rows := by
  have hl : 0 < rows.length := List.length_pos_iff.mpr hne
  unfold gscWith gsc
  rw [crun_eq_krun pick m rows (rows.length - 1) (by omega) fun j hj => h j (by omega)]
  rfl

theorem gscWith_firstMin (m : Mode) (rows : List Row) (hne : rows ≠ []) : gscWith firstMin m rows = gsc (α := ℚ) m rows :=
  gscWith_eq_gsc firstMin m rows hne fun _ _ => rfl

theorem MinPair.eq_of_uniqueMin {st : KState ℚ} (hU : UniqueMin st) {ij : Nat × Nat} (h : MinPair st ij) :
    ij = (kPosI st, kPosJ st) := by
  obtain ⟨i, j⟩ := ij
  obtain ⟨h1, h2, h3⟩ := h
  by_cases he : i = kPosI st ∧ j = kPosJ st
  · rw [he.1, he.2]
  · exfalso
    have hN : 2 ≤ st.act.size := by simp only at h1 h2; omega
    obtain ⟨a1, a2, _, _⟩ := kstep_joins_minimum st hN
    have := hU i j h1 h2 he
    have h4 := h3 (kPosI st) (kPosJ st) a1 a2
    simp only at h4
    exact absurd (lt_of_lt_of_le this h4) (lt_irrefl _)

theorem gscWith_eq_gsc_of_tieFree (pick : KState ℚ → Nat × Nat) (hp : TieRule pick) (m : Mode) (rows : List Row)
    (hne : rows ≠ []) (htf : TieFree m rows) : gscWith pick m rows = gsc (α := ℚ) m rows :=
  gscWith_eq_gsc pick m rows hne fun j hj =>
    (hp _ (by have := (krun_struct m rows j (by omega)).asize; omega)).eq_of_uniqueMin (htf j hj)

/-! ### sum N and non-negativity do not depend on WHICH pair a pass joins

  Not even on its being a minimum: the clamp `ESL_MAX(0., …)` keeps every branch length ≥ 0 and the traversals +
  normalisation do the rest. So these two properties hold for whatever decisions the binary64 code takes at (near-)ties,
  where it need not follow the exact-arithmetic run. -/

theorem stepAt_inv (n : Nat) (st : KState ℚ) (pi pj : Nat) (h : KInv st) : KInv (stepAt n st pi pj) :=
  h.join n _ _ _ _ (div_nonneg (h.rows.kdist _ _) (by norm_num [ofNat_rat])) _ _ _

theorem crun_inv (pick : KState ℚ → Nat × Nat) (n : Nat) (st : KState ℚ) (h : KInv st) (k : Nat) :
    KInv (crun pick n st k) := by
  induction k with
  | zero => exact h
  | succ k ih => exact stepAt_inv n _ _ _ ih

/-! ### the witness: `AAAA`, `AABB`, `BBBB` and its reversal -/

def tw0 : List Row := [[65, 65, 65, 65], [65, 65, 66, 66], [66, 66, 66, 66]]
def tw1 : List Row := [[66, 66, 66, 66], [65, 65, 66, 66], [65, 65, 65, 65]]
def tS0 : KState ℚ := kinit (α := ℚ) Mode.text tw0

theorem tw0_distinct (i j : Nat) (hij : i < j) (hj : j < tw0.length) : tw0.getD i [] ≠ tw0.getD j [] := by
  have hl : tw0.length = 3 := rfl
  rw [hl] at hj
  have : (i = 0 ∧ j = 1) ∨ (i = 0 ∧ j = 2) ∨ (i = 1 ∧ j = 2) := by omega
  rcases this with ⟨rfl, rfl⟩ | ⟨rfl, rfl⟩ | ⟨rfl, rfl⟩ <;> decide

theorem tw1_is_tw0_reversed : tw1 = [2, 1, 0].map (fun i => tw0.getD i []) := by decide
theorem tS0_reversed : kinit (α := ℚ) Mode.text tw1 = tS0 := by decide +kernel

theorem tS0_minPair {ij : Nat × Nat} (h : MinPair tS0 ij) : ij = (0, 1) ∨ ij = (1, 2) := by
  obtain ⟨i, j⟩ := ij
  obtain ⟨h1, h2, h3⟩ := h
  have hs : tS0.act.size = 3 := by decide +kernel
  simp only [hs] at h2 h3
  simp only at h1
  have hc : (i = 0 ∧ j = 1) ∨ (i = 0 ∧ j = 2) ∨ (i = 1 ∧ j = 2) := by omega
  rcases hc with ⟨rfl, rfl⟩ | ⟨rfl, rfl⟩ | ⟨rfl, rfl⟩
  · exact Or.inl rfl
  · exact absurd (h3 0 1 (by omega) (by omega)) (by decide +kernel)
  · exact Or.inr rfl

theorem two_minPair {st : KState ℚ} (hs : st.act.size = 2) {ij : Nat × Nat} (h : MinPair st ij) : ij = (0, 1) := by
  obtain ⟨i, j⟩ := ij
  obtain ⟨h1, h2, _⟩ := h
  simp only [hs] at h2
  simp only at h1
  have : i = 0 ∧ j = 1 := by omega
  rw [this.1, this.2]

/-- the weights after joining positions `a`,`b` first (the second pass has one pair only) -/
def tW (a b : Nat) : List ℚ := normalizeToN (gscTreeRaw 3 (stepAt 3 (stepAt 3 tS0 a b) 0 1).nodes)

theorem gscWith_on_state (pick : KState ℚ → Nat × Nat) (hp : TieRule pick) (rows : List Row)
    (hS : kinit (α := ℚ) Mode.text rows = tS0) (hl : rows.length = 3) :
    gscWith pick Mode.text rows = tW 0 1 ∨ gscWith pick Mode.text rows = tW 1 2 := by
  have e : gscWith pick Mode.text rows =
      normalizeToN (gscTreeRaw 3 (stepAt 3 (stepAt 3 tS0 (pick tS0).1 (pick tS0).2)
        (pick (stepAt 3 tS0 (pick tS0).1 (pick tS0).2)).1 (pick (stepAt 3 tS0 (pick tS0).1 (pick tS0).2)).2).nodes) := by
    unfold gscWith
    rw [hl, hS]
    rfl
  rw [e]
  rcases tS0_minPair (hp tS0 (by decide +kernel)) with h | h
  · rw [h]
    have hs : (stepAt 3 tS0 0 1).act.size = 2 := by decide +kernel
    rw [two_minPair hs (hp _ (by omega))]
    exact Or.inl rfl
  · rw [h]
    have hs : (stepAt 3 tS0 1 2).act.size = 2 := by decide +kernel
    rw [two_minPair hs (hp _ (by omega))]
    exact Or.inr rfl

theorem tW_values : tW 0 1 = [15/16, 15/16, 9/8] ∧ tW 1 2 = [9/8, 15/16, 15/16] := by decide +kernel

theorem tieRule_fails_on_witness (pick : KState ℚ → Nat × Nat) (hp : TieRule pick) :
    gscWith pick Mode.text ([2, 1, 0].map fun i => tw0.getD i []) ≠
      [2, 1, 0].map (fun i => (gscWith pick Mode.text tw0).getD i 0) := by
  rw [← tw1_is_tw0_reversed]
  have h0 := gscWith_on_state pick hp tw0 rfl rfl
  have h1 := gscWith_on_state pick hp tw1 tS0_reversed rfl
  -- the same state ⇒ the same pick ⇒ the same vector
  have hsame : gscWith pick Mode.text tw1 = gscWith pick Mode.text tw0 := by
    unfold gscWith
    rw [show tw1.length = tw0.length from rfl, tS0_reversed]
    rfl
  rw [hsame]
  obtain ⟨v1, v2⟩ := tW_values
  rcases h0 with h | h
  · rw [h, v1]; decide +kernel
  · rw [h, v2]; decide +kernel

end EaselModel.Weights
