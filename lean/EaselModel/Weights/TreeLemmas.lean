import EaselModel.Weights.GSC
import EaselModel.Weights.FindMin
import EaselModel.Weights.ActTable
import EaselModel.Weights.Tree
import EaselModel.Weights.Engine
/-! The tree `cluster_engine` builds is a well-formed rooted binary tree, in every mode and for EVERY distance matrix, and
    its clade sizes count the leaves below (`lstep .upgma` is `kstep`, so this covers `esl_tree_UPGMA`); the GSC traversals
    give weights ≥ 0 summing to N on EVERY tree with branch lengths ≥ 0. Heights and branch lengths: `EngineLemmas`. -/
namespace EaselModel.Weights
open WNum

theorem gscTree_nonneg (n : Nat) (nodes : List (KNode ℚ)) (h : ∀ nd ∈ nodes, 0 ≤ nd.l ∧ 0 ≤ nd.r) :
    ∀ w ∈ gscTree n nodes, 0 ≤ w :=
  normalizeToN_nonneg _ (gscTreeRaw_nonneg n nodes h)

theorem gscTree_sum (n : Nat) (nodes : List (KNode ℚ)) (hn : 0 < n) : (gscTree n nodes).sum = n := by
  unfold gscTree
  rw [normalizeToN_sum, gscTreeRaw_length]
  intro h
  have := gscTreeRaw_length n nodes
  rw [h] at this
  simp at this; omega

theorem gscTree_length (n : Nat) (nodes : List (KNode ℚ)) : (gscTree n nodes).length = n := by
  unfold gscTree; rw [normalizeToN_length, gscTreeRaw_length]

/-- newest-first node list: each node joins two different clusters numbered below its own number -/
def NodesOK (n : Nat) : List (KNode ℚ) → Prop
  | [] => True
  | nd :: rest => nd.I < n + rest.length ∧ nd.J < n + rest.length ∧ nd.I ≠ nd.J ∧ NodesOK n rest

/-- what a predicate `Q` on newest-first node lists says of the node with `rest` behind it (`P rest.length nd`), it says of
    node `s` in order of creation -/
theorem indexed_of_newest_first {P : Nat → KNode ℚ → Prop} {Q : List (KNode ℚ) → Prop}
    (hcons : ∀ nd rest, Q (nd :: rest) → P rest.length nd ∧ Q rest) :
    ∀ {nodes : List (KNode ℚ)}, Q nodes → ∀ s (h : s < nodes.reverse.length), P s (nodes.reverse[s])
  | [], _, s, h => by simp at h
  | nd :: rest, hq, s, h => by
    obtain ⟨hp, hq'⟩ := hcons nd rest hq
    by_cases hs : s < rest.length
    · have e : (nd :: rest).reverse[s] = rest.reverse[s]'(by simpa using hs) := by
        simp only [List.reverse_cons]
        rw [List.getElem_append_left (by simpa using hs)]
      rw [e]; exact indexed_of_newest_first hcons hq' s (by simpa using hs)
    · have hlen : s < rest.length + 1 := by simpa using h
      have hs' : s = rest.length := by omega
      subst hs'
      have e : (nd :: rest).reverse[rest.length] = nd := by
        simp only [List.reverse_cons]
        rw [List.getElem_append_right (by simp)]
        simp
      rw [e]; exact hp

theorem NodesOK.indexed {n : Nat} : ∀ {nodes : List (KNode ℚ)}, NodesOK n nodes →
    ∀ s (h : s < nodes.reverse.length), (nodes.reverse[s]).I < n + s ∧ (nodes.reverse[s]).J < n + s ∧
      (nodes.reverse[s]).I ≠ (nodes.reverse[s]).J :=
  indexed_of_newest_first (P := fun s nd => nd.I < n + s ∧ nd.J < n + s ∧ nd.I ≠ nd.J) (Q := NodesOK n)
    fun _ _ ⟨h1, h2, h3, h4⟩ => ⟨⟨h1, h2, h3⟩, h4⟩

theorem childrenOf_reverse_cons (nd : KNode ℚ) (rest : List (KNode ℚ)) :
    childrenOf (nd :: rest).reverse = childrenOf rest.reverse ++ [nd.I, nd.J] := by
  simp [childrenOf, List.flatMap_append]

/-- what `cluster_engine` keeps true after k passes on n taxa -/
structure KStruct (n k : Nat) (st : KState ℚ) : Prop where
  nd : st.act.toList.Nodup
  asize : st.act.size + k = n
  rsize : st.rows.size = n + k
  ssize : st.size.size = n + k
  pos : ∀ c, c < n + k → 0 < st.size.getD c 0
  hsize : st.hgt.size = n + k
  len : st.nodes.length = k
  alt : ∀ x ∈ st.act.toList, x < n + k
  /-- the cluster a pass creates takes the last position of the shortened table -/
  newest : 0 < k → st.act.toList.getLast? = some (n + k - 1)
  ok : NodesOK n st.nodes
  perm : (childrenOf st.nodes.reverse ++ st.act.toList).Perm (List.range (n + k))

theorem KStruct.rest_lt {n k : Nat} {st : KState ℚ} {rest : List Nat} (hs : KStruct n k st) (j : Joined st rest) :
    ∀ x ∈ rest, x < st.rows.size := fun x hx => by rw [hs.rsize]; exact hs.alt x (j.mem x hx).1

/-- distances between the active clusters after a pass: the old ones, and those to the new cluster, which `lmerged`
    computes from the distances to the two joined. `P` may look at the pair as well as at the value -/
theorem lstep_dist (P : Nat → Nat → ℚ → Prop) (L : Link) (n k : Nat) (st : KState ℚ) (hs : KStruct n k st) (hk : k + 2 ≤ n)
    (hold : ∀ x ∈ st.act.toList, ∀ y ∈ st.act.toList, x ≠ y → P x y (kdist st.rows x y))
    (hnew : ∀ y ∈ st.act.toList, y ≠ kI st → y ≠ kJ st →
      P y st.rows.size (lmerged L st.rows (st.size.getD (kI st) 0) (st.size.getD (kJ st) 0) (kI st) (kJ st) y) ∧
      P st.rows.size y (lmerged L st.rows (st.size.getD (kI st) 0) (st.size.getD (kJ st) 0) (kI st) (kJ st) y)) :
    ∀ x ∈ (lstep L n st).act.toList, ∀ y ∈ (lstep L n st).act.toList, x ≠ y → P x y (kdist (lstep L n st).rows x y) := by
  have hN : 2 ≤ st.act.size := by have := hs.asize; omega
  obtain ⟨others, j⟩ := kAct_join st hN hs.nd
  have hact : (lstep L n st).act.toList = others ++ [st.rows.size] := j.act
  have hlt := hs.rest_lt j
  have hrow : ∀ y ∈ others, P y st.rows.size ((lRow L st).getD y 0) ∧ P st.rows.size y ((lRow L st).getD y 0) := fun y hy => by
    rw [lRow_getD L st (hlt y hy)]; exact hnew y (j.mem y hy).1 (j.mem y hy).2.1 (j.mem y hy).2.2
  intro x hx y hy hxy
  rw [hact] at hx hy
  show P x y (kdist (st.rows.push (lRow L st)) x y)
  rcases List.mem_append.mp hx with hx | hx <;> rcases List.mem_append.mp hy with hy | hy
  · rw [kdist_push _ _ (hlt x hx) (hlt y hy)]
    exact hold x (j.mem x hx).1 y (j.mem y hy).1 hxy
  · rw [List.mem_singleton.mp hy, (kdist_push_new st.rows (lRow L st) (hlt x hx)).2]
    exact (hrow x hx).1
  · rw [List.mem_singleton.mp hx, (kdist_push_new st.rows (lRow L st) (hlt y hy)).1]
    exact (hrow y hy).2
  · exact absurd ((List.mem_singleton.mp hx).trans (List.mem_singleton.mp hy).symm) hxy

theorem kinitMx_struct (n : Nat) (d : Nat → Nat → ℚ) : KStruct n 0 (kinitMx n d) := by
  refine ⟨?_, ?_, ?_, Array.size_replicate, ?_, Array.size_replicate, rfl, ?_, fun h => absurd h (Nat.lt_irrefl 0), trivial, ?_⟩
  · show (Array.range n).toList.Nodup
    rw [Array.toList_range]; exact List.nodup_range
  · show (Array.range n).size + 0 = n
    simp
  · show (((List.range n).map _).toArray).size = n + 0
    simp
  · intro c hc
    show 0 < (Array.replicate n 1).getD c 0
    rw [getD_replicate, if_pos (show c < n from hc)]; exact Nat.one_pos
  · intro x hx
    have hx' : x ∈ (Array.range n).toList := hx
    rw [Array.toList_range] at hx'
    simpa using List.mem_range.mp hx'
  · show (childrenOf ([] : List (KNode ℚ)).reverse ++ (Array.range n).toList).Perm (List.range (n + 0))
    rw [Array.toList_range]; simp [childrenOf]

theorem lstep_act_size (L : Link) (n : Nat) (st : KState ℚ) (hN : 2 ≤ st.act.size) :
    (lstep L n st).act.size = st.act.size - 1 := kstep_act_size n st hN

theorem lstep_struct (L : Link) (n k : Nat) (st : KState ℚ) (h : KStruct n k st) (hk : k + 2 ≤ n) :
    KStruct n (k + 1) (lstep L n st) := by
  have hN : 2 ≤ st.act.size := by have := h.asize; omega
  obtain ⟨rest, j⟩ := kAct_join st hN h.nd
  have hlt : ∀ x ∈ st.act.toList, x < st.rows.size := fun x hx => by rw [h.rsize]; exact h.alt x hx
  have hact : (lstep L n st).act.toList = rest ++ [st.rows.size] := j.act
  have hnodes : (lstep L n st).nodes =
      (⟨kI st, kJ st, lbranch L n st (lH L st) (kI st), lbranch L n st (lH L st) (kJ st)⟩ : KNode ℚ) :: st.nodes := rfl
  refine ⟨?_, ?_, ?_, ?_, ?_, ?_, ?_, ?_, fun _ => by rw [hact, h.rsize]; simp, ?_, ?_⟩
  · exact (kAct_fresh st hN h.nd hlt).1
  · have := lstep_act_size L n st hN
    have := h.asize
    omega
  · show (st.rows.push (lRow L st)).size = n + (k + 1)
    rw [Array.size_push, h.rsize]; omega
  · show (st.size.push _).size = n + (k + 1)
    rw [Array.size_push, h.ssize]; omega
  · intro c hc
    show 0 < (st.size.push (st.size.getD (kI st) 0 + st.size.getD (kJ st) 0)).getD c 0
    by_cases hc' : c < st.size.size
    · rw [getD_push_lt _ _ _ hc']; exact h.pos c (by rw [← h.ssize]; exact hc')
    · rw [show c = st.size.size by rw [h.ssize] at hc' ⊢; omega, getD_push_eq]
      exact Nat.add_pos_left (h.pos _ (h.alt _ j.memI)) _
  · show (st.hgt.push _).size = n + (k + 1)
    rw [Array.size_push, h.hsize]; omega
  · rw [hnodes, List.length_cons, h.len]
  · intro x hx
    have := (kAct_fresh st hN h.nd hlt).2 x hx
    rw [h.rsize] at this; omega
  · rw [hnodes]
    refine ⟨?_, ?_, j.ne, h.ok⟩
    · show kI st < n + st.nodes.length
      rw [h.len]; exact h.alt _ j.memI
    · show kJ st < n + st.nodes.length
      rw [h.len]; exact h.alt _ j.memJ
  · rw [hnodes, childrenOf_reverse_cons, hact, h.rsize]
    show (childrenOf st.nodes.reverse ++ [kI st, kJ st] ++ (rest ++ [n + k])).Perm (List.range (n + (k + 1)))
    have e : List.range (n + (k + 1)) = List.range (n + k) ++ [n + k] := by
      rw [show n + (k + 1) = (n + k) + 1 from rfl, List.range_succ]
    rw [e]
    have p1 : (childrenOf st.nodes.reverse ++ [kI st, kJ st] ++ (rest ++ [n + k])).Perm
        ((childrenOf st.nodes.reverse ++ (rest ++ [kI st, kJ st])) ++ [n + k]) := by
      simp only [List.append_assoc]
      apply List.Perm.append_left
      rw [← List.append_assoc, ← List.append_assoc]
      exact List.Perm.append_right _ List.perm_append_comm
    refine p1.trans (List.Perm.append_right _ ?_)
    exact (List.Perm.append_left _ j.perm).trans h.perm

theorem lrun_struct (L : Link) (n : Nat) (d : Nat → Nat → ℚ) (k : Nat) (hk : k + 1 ≤ n) :
    KStruct n k (lrun L n (kinitMx n d) k) := by
  induction k with
  | zero => exact kinitMx_struct n d
  | succ k ih => exact lstep_struct L n k _ (ih (by omega)) (by omega)

/-- after the last pass the one cluster left in the table is the root -/
theorem KStruct.root {n : Nat} (hn : 2 ≤ n) {st : KState ℚ} (h : KStruct n (n - 1) st) : st.act.toList = [2 * n - 2] := by
  have hsz : st.act.toList.length = 1 := by
    have := h.asize
    simp only [Array.length_toList]
    omega
  obtain ⟨x, hx⟩ := List.length_eq_one_iff.mp hsz
  have := h.newest (by omega)
  rw [hx, List.getLast?_singleton, Option.some.injEq] at this
  rw [hx, this]
  congr 1
  omega

theorem wellFormed_of_struct (n : Nat) (hn : 2 ≤ n) (st : KState ℚ) (h : KStruct n (n - 1) st) :
    WellFormed n st.nodes.reverse := by
  refine ⟨by rw [List.length_reverse]; exact h.len, NodesOK.indexed h.ok, ?_⟩
  have hp := h.perm
  rw [h.root hn, show n + (n - 1) = 2 * n - 2 + 1 by omega, List.range_succ] at hp
  exact (List.perm_append_right_iff _).mp hp

theorem linkTree_wellFormed (L : Link) (n : Nat) (hn : 2 ≤ n) (d : Nat → Nat → ℚ) :
    WellFormed n (linkTree L n d).nodes.reverse :=
  wellFormed_of_struct n hn _ (lrun_struct L n d (n - 1) (by omega))

theorem kinitMx_act_lt (n : Nat) (d : Nat → Nat → ℚ) {x : Nat} (hx : x ∈ (kinitMx n d).act.toList) : x < n := by
  have hx' : x ∈ (Array.range n).toList := hx
  rw [Array.toList_range] at hx'
  exact List.mem_range.mp hx'

theorem kinitMx_kdist (n : Nat) (d : Nat → Nat → ℚ) {x y : Nat} (hxy : x < y) (hy : y < n) :
    kdist (kinitMx n d).rows x y = d x y := by
  unfold kdist kinitMx
  rw [if_pos hxy]
  simp only [Array.getD_eq_getD_getElem?, List.getElem?_toArray, List.getElem?_map, List.getElem?_range hy,
    Option.map_some, Option.getD_some, List.getElem?_range hxy]

/-- newest-first node list against the height table: branch lengths are height differences, children are not higher than
    their parent, and each node is at least as high as the node created before it -/
def NodesH (n : Nat) (hgt : Array ℚ) : List (KNode ℚ) → Prop
  | [] => True
  | nd :: rest =>
    nd.l = hgt.getD (n + rest.length) 0 - hgt.getD nd.I 0 ∧ nd.r = hgt.getD (n + rest.length) 0 - hgt.getD nd.J 0 ∧
    hgt.getD nd.I 0 ≤ hgt.getD (n + rest.length) 0 ∧ hgt.getD nd.J 0 ≤ hgt.getD (n + rest.length) 0 ∧
    (rest ≠ [] → hgt.getD (n + rest.length - 1) 0 ≤ hgt.getD (n + rest.length) 0) ∧ NodesH n hgt rest

theorem NodesH.indexed {n : Nat} {hgt : Array ℚ} : ∀ {nodes : List (KNode ℚ)}, NodesH n hgt nodes →
    ∀ s (h : s < nodes.reverse.length),
      (nodes.reverse[s]).l = hgt.getD (n + s) 0 - hgt.getD (nodes.reverse[s]).I 0 ∧
      (nodes.reverse[s]).r = hgt.getD (n + s) 0 - hgt.getD (nodes.reverse[s]).J 0 ∧
      hgt.getD (nodes.reverse[s]).I 0 ≤ hgt.getD (n + s) 0 ∧ hgt.getD (nodes.reverse[s]).J 0 ≤ hgt.getD (n + s) 0 ∧
      (0 < s → hgt.getD (n + s - 1) 0 ≤ hgt.getD (n + s) 0) :=
  indexed_of_newest_first (Q := NodesH n hgt)
    (P := fun s nd => nd.l = hgt.getD (n + s) 0 - hgt.getD nd.I 0 ∧ nd.r = hgt.getD (n + s) 0 - hgt.getD nd.J 0 ∧
      hgt.getD nd.I 0 ≤ hgt.getD (n + s) 0 ∧ hgt.getD nd.J 0 ≤ hgt.getD (n + s) 0 ∧
      (0 < s → hgt.getD (n + s - 1) 0 ≤ hgt.getD (n + s) 0))
    fun _ _ ⟨h1, h2, h3, h4, h5, h6⟩ => ⟨⟨h1, h2, h3, h4, fun hpos => h5 (List.length_pos_iff.mp hpos)⟩, h6⟩

/-- the taxa below each cluster, by cluster number (taxon t: just t; a node: those of its two children) -/
def leafSets (n : Nat) (created : List (KNode ℚ)) : Array (List Nat) :=
  created.foldl (fun ls nd => ls.push (ls.getD nd.I [] ++ ls.getD nd.J [])) ((List.range n).map fun t => [t]).toArray

theorem leafSets_snoc (n : Nat) (created : List (KNode ℚ)) (nd : KNode ℚ) :
    leafSets n (created ++ [nd]) =
      (leafSets n created).push ((leafSets n created).getD nd.I [] ++ (leafSets n created).getD nd.J []) := by
  unfold leafSets; rw [List.foldl_append]; rfl

theorem kclades_snoc (n : Nat) (created : List (KNode ℚ)) (nd : KNode ℚ) :
    kclades n (created ++ [nd]) = (kclades n created).push ((kclades n created).getD nd.I 0 + (kclades n created).getD nd.J 0) := by
  unfold kclades; rw [List.foldl_append]; rfl

theorem kclades_eq_leaves (n : Nat) (created : List (KNode ℚ)) :
    (kclades n created).size = (leafSets n created).size ∧
    ∀ c, (kclades n created).getD c 0 = ((leafSets n created).getD c []).length := by
  induction created using List.reverseRecOn with
  | nil =>
    refine ⟨by simp [kclades, leafSets], fun c => ?_⟩
    unfold kclades leafSets
    simp only [List.foldl_nil]
    rw [getD_replicate]
    simp only [Array.getD_eq_getD_getElem?, List.getElem?_toArray, List.getElem?_map]
    by_cases hc : c < n
    · rw [if_pos hc, List.getElem?_range hc]; simp
    · rw [if_neg hc, List.getElem?_eq_none (by simpa using hc)]; simp
  | append_singleton cr nd ih =>
    obtain ⟨hsz, hget⟩ := ih
    rw [kclades_snoc, leafSets_snoc]
    refine ⟨by rw [Array.size_push, Array.size_push, hsz], fun c => ?_⟩
    rcases Nat.lt_trichotomy c (kclades n cr).size with hc | hc | hc
    · rw [getD_push_lt _ _ _ hc, getD_push_lt _ _ _ (by omega)]; exact hget c
    · rw [hc, getD_push_eq, hsz, getD_push_eq, List.length_append, hget, hget]
    · rw [getD_push_gt _ _ _ hc, getD_push_gt _ _ _ (by omega)]; rfl

/-- after k passes, in any mode: the leaf sets of the active clusters partition the taxa, and `nin[]` is the table
    `esl_tree_SetCladesizes` computes from the nodes (the sizes of the leaf sets, `kclades_eq_leaves`) -/
structure KLeaves (n k : Nat) (st : KState ℚ) : Prop where
  lsize : (leafSets n st.nodes.reverse).size = n + k
  part : (st.act.toList.flatMap fun x => (leafSets n st.nodes.reverse).getD x []).Perm (List.range n)
  nin : st.size = kclades n st.nodes.reverse

theorem flatMap_congr_mem {β : Type} (l : List Nat) (f g : Nat → List β) (h : ∀ x ∈ l, f x = g x) : l.flatMap f = l.flatMap g := by
  induction l with
  | nil => rfl
  | cons a t ih =>
    simp only [List.flatMap_cons]
    rw [h a (by simp), ih (fun x hx => h x (by simp [hx]))]

theorem kinitMx_leaves (n : Nat) (d : Nat → Nat → ℚ) : KLeaves n 0 (kinitMx n d) := by
  have hls : leafSets n ([] : List (KNode ℚ)).reverse = ((List.range n).map fun t => [t]).toArray := rfl
  have hget : ∀ c, (((List.range n).map fun t => [t]).toArray).getD c [] = if c < n then [c] else [] := by
    intro c
    simp only [Array.getD_eq_getD_getElem?, List.getElem?_toArray, List.getElem?_map]
    by_cases hc : c < n
    · rw [if_pos hc, List.getElem?_range hc]; rfl
    · rw [if_neg hc, List.getElem?_eq_none (by simpa using hc)]; rfl
  refine ⟨?_, ?_, ?_⟩
  · show (leafSets n ([] : List (KNode ℚ)).reverse).size = n + 0
    rw [hls]; simp
  · show ((Array.range n).toList.flatMap fun x => (leafSets n ([] : List (KNode ℚ)).reverse).getD x []).Perm (List.range n)
    rw [hls, Array.toList_range]
    rw [flatMap_congr_mem (List.range n) _ (fun x => [x]) (fun x hx => by rw [hget, if_pos (List.mem_range.mp hx)])]
    simp [List.flatMap_singleton']
  · rfl

theorem lstep_leaves (L : Link) (n k : Nat) (st : KState ℚ) (hs : KStruct n k st) (h : KLeaves n k st) (hk : k + 2 ≤ n) :
    KLeaves n (k + 1) (lstep L n st) := by
  have hN : 2 ≤ st.act.size := by have := hs.asize; omega
  obtain ⟨rest, j⟩ := kAct_join st hN hs.nd
  have hLsub : ∀ x ∈ rest, x ∈ st.act.toList := fun x hx => (j.mem x hx).1
  have hact : (lstep L n st).act.toList = rest ++ [st.rows.size] := j.act
  set ls := leafSets n st.nodes.reverse with hlsdef
  have hnodes : (lstep L n st).nodes.reverse = st.nodes.reverse ++
      [(⟨kI st, kJ st, lbranch L n st (lH L st) (kI st), lbranch L n st (lH L st) (kJ st)⟩ : KNode ℚ)] := by
    show ((⟨kI st, kJ st, _, _⟩ : KNode ℚ) :: st.nodes).reverse = _
    rw [List.reverse_cons]
  have hls' : leafSets n (lstep L n st).nodes.reverse = ls.push (ls.getD (kI st) [] ++ ls.getD (kJ st) []) := by
    rw [hnodes, leafSets_snoc]
  refine ⟨?_, ?_, ?_⟩
  · rw [hls', Array.size_push, h.lsize]; omega
  · rw [hls', hact, List.flatMap_append]
    have e1 : (rest.flatMap fun x => (ls.push (ls.getD (kI st) [] ++ ls.getD (kJ st) [])).getD x []) = rest.flatMap fun x => ls.getD x [] :=
      flatMap_congr_mem rest _ _ (fun x hx => getD_push_lt _ _ _ (by rw [h.lsize]; exact hs.alt x (hLsub x hx)))
    have e2 : ([st.rows.size].flatMap fun x => (ls.push (ls.getD (kI st) [] ++ ls.getD (kJ st) [])).getD x []) =
        ls.getD (kI st) [] ++ ls.getD (kJ st) [] := by
      simp only [List.flatMap_cons, List.flatMap_nil, List.append_nil]
      rw [hs.rsize, ← h.lsize, getD_push_eq]
    rw [e1, e2]
    have e3 : (rest.flatMap fun x => ls.getD x []) ++ (ls.getD (kI st) [] ++ ls.getD (kJ st) []) =
        (rest ++ [kI st, kJ st]).flatMap fun x => ls.getD x [] := by
      simp [List.flatMap_append]
    rw [e3]
    exact (List.Perm.flatMap_right _ j.perm).trans h.part
  · show st.size.push (st.size.getD (kI st) 0 + st.size.getD (kJ st) 0) = _
    rw [hnodes, kclades_snoc, ← h.nin]

theorem lrun_leaves (L : Link) (n : Nat) (d : Nat → Nat → ℚ) (k : Nat) (hk : k + 1 ≤ n) :
    KLeaves n k (lrun L n (kinitMx n d) k) := by
  induction k with
  | zero => exact kinitMx_leaves n d
  | succ k ih => exact lstep_leaves L n k _ (lrun_struct L n d k (by omega)) (ih (by omega)) (by omega)

theorem linkTree_cladesizes' (L : Link) (n : Nat) (hn : 2 ≤ n) (d : Nat → Nat → ℚ) :
    (∀ c, (linkTree L n d).size.getD c 0 = (kclades n (linkTree L n d).nodes.reverse).getD c 0) ∧
    ((leafSets n (linkTree L n d).nodes.reverse).getD (2 * n - 2) []).Perm (List.range n) ∧
    (kclades n (linkTree L n d).nodes.reverse).getD (2 * n - 2) 0 = n := by
  have hl := lrun_leaves L n d (n - 1) (by omega)
  have hs := lrun_struct L n d (n - 1) (by omega)
  have hc := (kclades_eq_leaves n (linkTree L n d).nodes.reverse).2
  have hroot : ((leafSets n (linkTree L n d).nodes.reverse).getD (2 * n - 2) []).Perm (List.range n) := by
    have hp := hl.part
    rw [hs.root hn] at hp
    show ((leafSets n (lrun L n (kinitMx n d) (n - 1)).nodes.reverse).getD (2 * n - 2) []).Perm (List.range n)
    simpa using hp
  refine ⟨fun c => ?_, hroot, ?_⟩
  · exact congrArg (·.getD c 0) hl.nin
  · rw [hc, hroot.length_eq]; simp

theorem parentIdx_spec {n : Nat} {nodes : List (KNode ℚ)} (hw : WellFormed n nodes.reverse) (hn : 2 ≤ n) (c : Nat)
    (hc : c < 2 * n - 2) :
    ∃ h : parentIdx nodes c < nodes.length,
      ((nodes[parentIdx nodes c]).I = c ∨ (nodes[parentIdx nodes c]).J = c) ∧ c < 2 * n - 2 - parentIdx nodes c := by
  have hlen : nodes.length = n - 1 := by have := hw.length; simpa using this
  have hmem : c ∈ childrenOf nodes.reverse := hw.children.symm.subset (List.mem_range.mpr hc)
  unfold childrenOf at hmem
  obtain ⟨nd, hnd, hcn⟩ := List.mem_flatMap.mp hmem
  have hnd' : nd ∈ nodes := List.mem_reverse.mp hnd
  have hp : (fun nd : KNode ℚ => nd.I == c || nd.J == c) nd = true := by
    simp only [List.mem_cons, List.not_mem_nil, or_false] at hcn
    rcases hcn with e | e <;> simp [e]
  have hlt : nodes.findIdx (fun nd => nd.I == c || nd.J == c) < nodes.length := List.findIdx_lt_length_of_exists ⟨nd, hnd', hp⟩
  generalize hk : nodes.findIdx (fun nd => nd.I == c || nd.J == c) = k at hlt
  have hpi : parentIdx nodes c = k := by
    unfold parentIdx; simp only []; rw [hk, if_pos hlt]
  have hsat : (fun nd : KNode ℚ => nd.I == c || nd.J == c) nodes[k] = true := by
    have := List.findIdx_getElem (xs := nodes) (p := fun nd : KNode ℚ => nd.I == c || nd.J == c) (w := by rw [hk]; exact hlt)
    simpa only [hk] using this
  refine ⟨by rw [hpi]; exact hlt, ?_, ?_⟩
  · simp only [hpi]
    simp only [Bool.or_eq_true, beq_iff_eq] at hsat
    exact hsat
  · -- the node at position k (newest first) was created in pass n-2-k
    obtain ⟨s, hs⟩ : ∃ s, s + k + 1 = nodes.length := ⟨nodes.length - 1 - k, by omega⟩
    have hrev : nodes.reverse[s]'(by simp; omega) = nodes[k] := by
      rw [List.getElem_reverse]; congr 1; omega
    have he := hw.earlier s (by simp; omega)
    rw [hrev] at he
    simp only [Bool.or_eq_true, beq_iff_eq] at hsat
    rw [hpi]
    rcases hsat with e | e
    · have := he.1; omega
    · have := he.2.1; omega

end EaselModel.Weights
