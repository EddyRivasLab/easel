import EaselModel.Weights.Lemmas
import EaselModel.Weights.Linkage
/-! cluster sizes are consistent with the assignment, BLOSUM weights = (N/#clusters)/|cluster|. -/
namespace EaselModel.Weights
open WNum

/-- a partition of 0..n-1 into non-empty clusters (what `singleLinkage_inv` provides) -/
structure IsPartition (cls : List (List Nat)) (n : Nat) : Prop where
  perm : cls.flatten.Perm (List.range n)
  ne : ∀ cl ∈ cls, cl ≠ []

namespace IsPartition
variable {cls : List (List Nat)} {n : Nat}

theorem nodup (h : IsPartition cls n) : cls.flatten.Nodup := h.perm.nodup_iff.mpr List.nodup_range

theorem mem_flatten (h : IsPartition cls n) {u : Nat} : u ∈ cls.flatten ↔ u < n := by
  rw [h.perm.mem_iff, List.mem_range]

theorem index_of_mem (h : IsPartition cls n) {k : Nat} (hk : k < cls.length) {u : Nat} (hu : u ∈ cls[k]) :
    clusterIndex cls u = k := by
  have hfl : u ∈ cls.flatten := List.mem_flatten.mpr ⟨_, List.getElem_mem hk, hu⟩
  obtain ⟨_, _, huu⟩ := clusterIndex_spec cls h.nodup u hfl
  exact (huu k hk hu).symm

theorem index_lt (h : IsPartition cls n) {u : Nat} (hu : u < n) : clusterIndex cls u < cls.length := by
  obtain ⟨hl, _, _⟩ := clusterIndex_spec cls h.nodup u (h.mem_flatten.mpr hu)
  exact hl

theorem mem_own (h : IsPartition cls n) {u : Nat} (hu : u < n) :
    u ∈ cls[clusterIndex cls u]'(h.index_lt hu) := by
  obtain ⟨_, hm, _⟩ := clusterIndex_spec cls h.nodup u (h.mem_flatten.mpr hu)
  exact hm

theorem filter_perm (h : IsPartition cls n) {k : Nat} (hk : k < cls.length) :
    ((List.range n).filter fun u => clusterIndex cls u == k).Perm cls[k] := by
  have hndk : cls[k].Nodup := (List.nodup_flatten.mp h.nodup).1 _ (List.getElem_mem hk)
  rw [List.perm_ext_iff_of_nodup (List.nodup_range.filter _) hndk]
  intro u
  simp only [List.mem_filter, List.mem_range, beq_iff_eq]
  constructor
  · rintro ⟨hu, he⟩
    have := h.mem_own hu
    simpa [he] using this
  · intro hu
    have hfl : u ∈ cls.flatten := List.mem_flatten.mpr ⟨_, List.getElem_mem hk, hu⟩
    exact ⟨h.mem_flatten.mp hfl, h.index_of_mem hk hu⟩

/-- `nin[k]` (counted from the assignment array as the C code does) = size of cluster k -/
theorem clusterSizes_getElem (h : IsPartition cls n) {k : Nat} (hk : k < cls.length) :
    (clusterSizes (assignment cls n) cls.length).getD k 0 = cls[k].length := by
  unfold clusterSizes assignment
  rw [List.getD_eq_getElem?_getD, List.getElem?_map, List.getElem?_range hk]
  simp only [Option.map_some, Option.getD_some, List.countP_map]
  rw [List.countP_eq_length_filter]
  exact (h.filter_perm hk).length_eq

theorem sizes_sum (h : IsPartition cls n) : (cls.map List.length).sum = n := by
  have := h.perm.length_eq
  rw [List.length_flatten, List.length_range] at this
  exact this

theorem index_surj (h : IsPartition cls n) {k : Nat} (hk : k < cls.length) : ∃ u, u < n ∧ clusterIndex cls u = k := by
  obtain ⟨u, hu⟩ := List.exists_mem_of_ne_nil _ (h.ne _ (List.getElem_mem hk))
  exact ⟨u, h.mem_flatten.mp (List.mem_flatten.mpr ⟨_, List.getElem_mem hk, hu⟩), h.index_of_mem hk hu⟩

/-- vertices that all carry the same cluster number: there is one cluster, and it holds them all -/
theorem one_cluster (h : IsPartition cls n) (hn : 0 < n)
    (hall : ∀ u w, u < n → w < n → clusterIndex cls u = clusterIndex cls w) : ∃ c, cls = [c] ∧ c.length = n := by
  have hlen : cls.length = 1 := by
    have h0 := h.index_lt hn
    by_contra hne
    obtain ⟨u0, hu0, e0⟩ := h.index_surj (k := 0) (by omega)
    obtain ⟨u1, hu1, e1⟩ := h.index_surj (k := 1) (by omega)
    have := hall u0 u1 hu0 hu1
    omega
  obtain ⟨c, hc⟩ := List.length_eq_one_iff.mp hlen
  refine ⟨c, hc, ?_⟩
  have := h.sizes_sum
  rw [hc] at this; simpa using this

/-- the un-normalised BLOSUM weight of a vertex: 1 / size of its cluster -/
noncomputable def rawW (cls : List (List Nat)) (u : Nat) : ℚ := 1 / ((cls.getD (clusterIndex cls u) []).length : ℚ)

theorem sum_rawW_cluster (h : IsPartition cls n) {cl : List Nat} (hcl : cl ∈ cls) :
    (cl.map (rawW cls)).sum = 1 := by
  obtain ⟨k, hk, rfl⟩ := List.mem_iff_getElem.mp hcl
  have hne := h.ne _ hcl
  have hall : ∀ x ∈ (cls[k].map (rawW cls)), x = 1 / (cls[k].length : ℚ) := by
    intro x hx
    obtain ⟨u, hu, rfl⟩ := List.mem_map.mp hx
    unfold rawW
    rw [h.index_of_mem hk hu, List.getD_eq_getElem?_getD, List.getElem?_eq_getElem hk]
    rfl
  rw [List.sum_eq_card_nsmul _ _ hall, List.length_map]
  have : (cls[k].length : ℚ) ≠ 0 := by
    have : cls[k].length ≠ 0 := by simpa using hne
    exact_mod_cast this
  simp only [nsmul_eq_mul]
  field_simp

theorem sum_rawW (h : IsPartition cls n) : ((List.range n).map (rawW cls)).sum = cls.length := by
  rw [← (h.perm.map (rawW cls)).sum_eq, List.map_flatten, List.sum_flatten, List.map_map]
  have hall : ∀ x ∈ (cls.map (List.sum ∘ List.map (rawW cls))), x = (1 : ℚ) := by
    intro x hx
    obtain ⟨cl, hcl, rfl⟩ := List.mem_map.mp hx
    exact h.sum_rawW_cluster hcl
  rw [List.sum_eq_card_nsmul _ _ hall, List.length_map]
  simp

end IsPartition

theorem singleLinkage_isPartition {link : Nat → Nat → Bool} (hsym : ∀ x y, link x y = link y x) (n : Nat) :
    IsPartition (singleLinkage link n) n := by
  have inv := singleLinkage_inv hsym n
  exact ⟨by simpa using inv.perm, inv.ne⟩

theorem msaSingleLinkage_isPartition (m : Mode) (maxid : ℚ) (rows : List Row) :
    IsPartition (msaSingleLinkage m maxid rows) rows.length :=
  singleLinkage_isPartition (fun x y => linked_comm m maxid _ _) rows.length

theorem blosum_raw_eq (cls : List (List Nat)) (n : Nat) (h : IsPartition cls n) :
    ((assignment cls n).map fun c => (ofNat 1 : ℚ) / ofNat ((clusterSizes (assignment cls n) cls.length).getD c 0)) =
      (List.range n).map (IsPartition.rawW cls) := by
  unfold assignment
  rw [List.map_map]
  apply List.map_congr_left
  intro u hu
  have hu' := List.mem_range.mp hu
  simp only [Function.comp, ofNat_rat, Nat.cast_one, IsPartition.rawW]
  have hk := h.index_lt hu'
  have := h.clusterSizes_getElem hk
  unfold assignment at this
  rw [this, List.getD_eq_getElem?_getD, List.getElem?_eq_getElem hk]
  rfl

/-- BLOSUM weights are `finishW` of the raw weights 1 / size of the own cluster -/
theorem blosum_eq_rawW (m : Mode) (maxid : ℚ) (rows : List Row) :
    blosum m maxid rows = finishW ((List.range rows.length).map (IsPartition.rawW (msaSingleLinkage m maxid rows))) := by
  unfold blosum finishW
  simp only []
  rw [blosum_raw_eq _ _ (msaSingleLinkage_isPartition m maxid rows)]
  simp only [beq_iff_eq, List.length_map, List.length_range, ofNat_rat, Nat.cast_one]

theorem blosum_getElem (m : Mode) (maxid : ℚ) (rows : List Row) (hn : rows.length ≠ 1) (i : Nat) (hi : i < rows.length)
    (hi' : i < (blosum m maxid rows).length) :
    (blosum m maxid rows)[i] =
      (rows.length : ℚ) / (msaSingleLinkage m maxid rows).length /
        ((msaSingleLinkage m maxid rows).getD (clusterIndex (msaSingleLinkage m maxid rows) i) []).length := by
  have hp := msaSingleLinkage_isPartition m maxid rows
  have e : blosum m maxid rows = normalizeToN ((List.range rows.length).map (IsPartition.rawW (msaSingleLinkage m maxid rows))) := by
    rw [blosum_eq_rawW, finishW, if_neg (by simpa using hn)]
  simp only [e]
  rw [normalizeToN_getElem _ i (by simpa using hi)]
  have hs := hp.sum_rawW
  have hnc : ((msaSingleLinkage m maxid rows).length : ℚ) ≠ 0 := by
    have hk := hp.index_lt hi
    have : (msaSingleLinkage m maxid rows).length ≠ 0 := by omega
    exact_mod_cast this
  rw [hs, if_neg hnc]
  simp only [List.getElem_map, List.getElem_range, List.length_map, List.length_range, IsPartition.rawW]
  field_simp

theorem blosum_sum (m : Mode) (maxid : ℚ) (rows : List Row) (hne : rows ≠ []) :
    (blosum m maxid rows).sum = rows.length := by
  rw [blosum_eq_rawW, finishW_sum _ (by simpa using hne), List.length_map, List.length_range]

theorem blosum_nonneg (m : Mode) (maxid : ℚ) (rows : List Row) : ∀ w ∈ blosum m maxid rows, 0 ≤ w := by
  rw [blosum_eq_rawW]
  apply finishW_nonneg
  intro x hx
  obtain ⟨u, _, rfl⟩ := List.mem_map.mp hx
  unfold IsPartition.rawW
  positivity

theorem length_one_of_all_eq {l : List Nat} {a : Nat} (hnd : l.Nodup) (hne : l ≠ []) (hall : ∀ w ∈ l, w = a) : l.length = 1 := by
  match l, hnd, hne, hall with
  | [x], _, _, _ => rfl
  | x :: y :: t, hnd, _, hall =>
    have hx := hall x (by simp)
    have hy := hall y (by simp)
    have : x ≠ y := by
      have := (List.nodup_cons.mp hnd).1
      intro e; apply this; simp [e]
    exact absurd (hx.trans hy.symm) this

theorem reach_eq_of_no_link {link : Nat → Nat → Bool} {n i w : Nat} (hno : ∀ k, k < n → link i k = false)
    (h : Reach link n i w) : w = i := by
  induction h with
  | refl => rfl
  | step _ _ hz hl ih => subst ih; rw [hno _ hz] at hl; exact absurd hl (by simp)

end EaselModel.Weights
