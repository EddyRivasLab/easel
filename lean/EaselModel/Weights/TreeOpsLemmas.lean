import EaselModel.Weights.TreeOps
import EaselModel.Weights.Sort
import EaselModel.Random.Lemmas
import EaselModel.Core.ListLookup
/-! `esl_tree_Simulate` stays inside its arrays, for every generator state.

  The C code indexes `T->parent[node]`, `T->left/right/ld/rd[branchpapa[bidx]]`, `branchpapa/branchside[bidx]`,
  `[nactive-1]`, `[nactive]` without any check. `SimOK` is what the loop keeps true (nactive = node+1 ≤ N, every active
  branch hangs off an existing node); from it every one of those indices is in range (`simStep_in_bounds`,
  `simFinish_in_bounds`), and it is kept for EVERY sequence of draws whose branch index is an active branch
  (`simRun_ok`) — which `esl_rnd_Roll(r, nactive)` guarantees for every generator state (`roll_lt`). -/
namespace EaselModel.Weights
open WNum EaselModel.Random

theorem roll_lt (r : Rng) (n fuel v : Nat) (r' : Rng) (h : r.roll n fuel = some (v, r')) : v < n :=
  Rng.roll_lt n fuel r v r' h

theorem swapIB_lt {a : Array Nat} {i j n v : Nat} (hi : i < n) (hj : j < n) (hn : n ≤ a.size)
    (h : ∀ b, b < n → a.getD b 0 < v) (b : Nat) (hb : b < n) : (a.swapIfInBounds i j).getD b 0 < v := by
  rw [swapIfInBounds_getD a i j b (by omega) (by omega)]
  split
  · exact h i hi
  · split
    · exact h j hj
    · exact h b hb

section sim
variable {α : Type} [WNum α]

/-- all five arrays of the tree have their `N-1` entries -/
structure TSz (N : Nat) (T : ETree α) : Prop where
  p : T.parent.size = N - 1
  l : T.left.size = N - 1
  r : T.right.size = N - 1
  ld : T.ld.size = N - 1
  rd : T.rd.size = N - 1

theorem simAdd_sz {N : Nat} {T : ETree α} (h : TSz N T) (papa side : Array Nat) (b : Nat) (d : α) :
    TSz N (simAdd T papa side b d) := by
  unfold simAdd
  split
  · exact ⟨h.p, h.l, h.r, by simp [h.ld], h.rd⟩
  · exact ⟨h.p, h.l, h.r, h.ld, by simp [h.rd]⟩

theorem foldl_simAdd_sz {N : Nat} (papa side : Array Nat) (d : α) (l : List Nat) {T : ETree α} (h : TSz N T) :
    TSz N (l.foldl (fun T b => simAdd T papa side b d) T) := by
  induction l generalizing T with
  | nil => exact h
  | cons b l ih => exact ih (simAdd_sz h papa side b d)

/-- what the loop of `esl_tree_Simulate` keeps true -/
structure SimOK (N : Nat) (s : SimSt α) : Prop where
  act : s.nactive = s.node + 1
  le : s.nactive ≤ N
  one : 1 ≤ s.node
  papaSz : s.papa.size = N
  sideSz : s.side.size = N
  sz : TSz N s.T
  papaLt : ∀ b, b < s.nactive → s.papa.getD b 0 < s.node

theorem simInit_ok (N : Nat) (hN : 2 ≤ N) : SimOK N (simInit (α := α) N) := by
  refine ⟨rfl, hN, Nat.le_refl 1, by simp [simInit], by simp [simInit], ⟨?_, ?_, ?_, ?_, ?_⟩, ?_⟩
  all_goals try (simp [simInit, ETree.create])
  intro b _
  simp [Array.getD_eq_getD_getElem?, Array.getElem?_replicate]
  split <;> simp

theorem simStep_in_bounds {N : Nat} {s : SimSt α} (h : SimOK N s) (hlt : s.nactive < N) {bidx : Nat}
    (hb : bidx < s.nactive) :
    s.node < s.T.parent.size ∧                                   -- T->parent[node]
    bidx < s.papa.size ∧ bidx < s.side.size ∧                    -- branchpapa[bidx], branchside[bidx]
    s.papa.getD bidx 0 < s.T.left.size ∧ s.papa.getD bidx 0 < s.T.right.size ∧
    s.papa.getD bidx 0 < s.T.ld.size ∧ s.papa.getD bidx 0 < s.T.rd.size ∧
    s.nactive - 1 < s.papa.size ∧ s.nactive < s.papa.size ∧     -- the swap and the two new branches
    (∀ b, b < s.nactive - 1 →                                    -- the `for (bidx = 0; bidx < nactive-1; bidx++)` loop
      (s.papa.swapIfInBounds bidx (s.nactive - 1)).getD b 0 < s.T.ld.size) := by
  have h1 := h.act
  have hz := h.sz
  have hnode : s.node < N - 1 := by omega
  have hp : s.papa.getD bidx 0 < N - 1 := Nat.lt_trans (h.papaLt bidx hb) hnode
  have hbN : bidx < N := Nat.lt_trans hb hlt
  rw [hz.p, hz.l, hz.r, hz.ld, hz.rd, h.papaSz, h.sideSz]
  refine ⟨hnode, hbN, hbN, hp, hp, hp, hp, by omega, hlt, fun b hb' => ?_⟩
  have hsz : s.nactive ≤ s.papa.size := by rw [h.papaSz]; exact Nat.le_of_lt hlt
  exact Nat.lt_trans (swapIB_lt hb (by omega) hsz h.papaLt b (by omega)) hnode

theorem simStep_nactive (s : SimSt α) (d : α) (bidx : Nat) : (simStep s d bidx).nactive = s.nactive + 1 := rfl
theorem simStep_node (s : SimSt α) (d : α) (bidx : Nat) : (simStep s d bidx).node = s.node + 1 := rfl
theorem simStep_papa (s : SimSt α) (d : α) (bidx : Nat) : (simStep s d bidx).papa =
    ((s.papa.swapIfInBounds bidx (s.nactive - 1)).setIfInBounds (s.nactive - 1) s.node).setIfInBounds s.nactive s.node := by
  simp only [simStep]
theorem simStep_side (s : SimSt α) (d : α) (bidx : Nat) : (simStep s d bidx).side =
    ((s.side.swapIfInBounds bidx (s.nactive - 1)).setIfInBounds (s.nactive - 1) 0).setIfInBounds s.nactive 1 := by
  simp only [simStep]

theorem simStep_ok {N : Nat} {s : SimSt α} (h : SimOK N s) (hlt : s.nactive < N) (d : α) {bidx : Nat}
    (hb : bidx < s.nactive) : SimOK N (simStep s d bidx) ∧ (simStep s d bidx).nactive = s.nactive + 1 := by
  have h1 := h.act; have h2 := h.papaSz; have h3 := h.sideSz
  refine ⟨⟨?_, ?_, ?_, ?_, ?_, ?_, ?_⟩, rfl⟩
  · rw [simStep_nactive, simStep_node, h1]
  · rw [simStep_nactive]; exact hlt
  · rw [simStep_node]; exact Nat.le_succ_of_le h.one
  · rw [simStep_papa]; simp [h2]
  · rw [simStep_side]; simp [h3]
  · unfold simStep
    apply foldl_simAdd_sz
    apply simAdd_sz
    have hz := h.sz
    split
    · exact ⟨by simp [hz.p], by simp [hz.l], hz.r, hz.ld, hz.rd⟩
    · exact ⟨by simp [hz.p], hz.l, by simp [hz.r], hz.ld, hz.rd⟩
  · intro b hb'
    rw [simStep_nactive] at hb'
    have hsw := swapIB_lt (j := s.nactive - 1) hb (by omega) (by omega) h.papaLt b
    rw [simStep_papa, simStep_node, getD_setIfInBounds, getD_setIfInBounds]
    split
    · exact Nat.lt_succ_self _
    · split
      · exact Nat.lt_succ_self _
      · rename_i hn hn1
        simp only [Array.size_setIfInBounds, Array.size_swapIfInBounds, h2] at hn hn1
        exact Nat.lt_succ_of_lt (hsw (by omega))

/-- the branch index of the k-th draw names an active branch (k-th turn: nactive = first + k) -/
def drawsOK : Nat → List (α × Nat) → Prop
  | _, [] => True
  | na, x :: rest => x.2 < na ∧ drawsOK (na + 1) rest

theorem simRun_ok {N : Nat} (draws : List (α × Nat)) {s : SimSt α} (h : SimOK N s)
    (hlen : s.nactive + draws.length ≤ N) (hd : drawsOK s.nactive draws) :
    SimOK N (draws.foldl (fun s x => simStep s x.1 x.2) s) ∧
      (draws.foldl (fun s x => simStep s x.1 x.2) s).nactive = s.nactive + draws.length := by
  induction draws generalizing s with
  | nil => exact ⟨h, rfl⟩
  | cons x rest ih =>
    simp only [List.length_cons] at hlen
    obtain ⟨hx, hrest⟩ := hd
    obtain ⟨hok, hna⟩ := simStep_ok h (by omega) x.1 hx
    have := ih hok (by rw [hna]; omega) (by rw [hna]; exact hrest)
    simp only [List.foldl_cons, List.length_cons]
    refine ⟨this.1, ?_⟩
    rw [this.2, hna]; omega

theorem simFinish_in_bounds {N : Nat} {s : SimSt α} (h : SimOK N s) (hN : s.nactive = N) (b : Nat) (hb : b < N) :
    b < s.papa.size ∧ b < s.side.size ∧ s.papa.getD b 0 < s.T.left.size ∧ s.papa.getD b 0 < s.T.right.size ∧
      s.papa.getD b 0 < s.T.ld.size ∧ s.papa.getD b 0 < s.T.rd.size := by
  have := h.papaLt b (by omega)
  have h1 := h.act
  have hz := h.sz
  exact ⟨by rw [h.papaSz]; exact hb, by rw [h.sideSz]; exact hb, by rw [hz.l]; omega, by rw [hz.r]; omega,
    by rw [hz.ld]; omega, by rw [hz.rd]; omega⟩

end sim

section compare
variable {α : Type}

/-- the link tables of the tree agree: a taxon child names this node as its `taxaparent` (as `esl_tree_SetTaxaParents` computes
    it), an internal child has a larger number (parents before children) and names this node as its `parent` -/
def ChildOK (t : ETree α) (g : Nat) (c : Int) : Prop :=
  (c ≤ 0 → (eTaxaParents t).getD (-c).toNat 0 = (g : Int)) ∧
  (0 < c → g < c.toNat ∧ c.toNat < t.N - 1 ∧ t.parent.getD c.toNat 0 = (g : Int))

def LinksAgree (t : ETree α) : Prop := ∀ g, g < t.N - 1 → ChildOK t g (t.l g) ∧ ChildOK t g (t.r g)

/-- one node of the postorder pass of `esl_tree_Compare` (the body of `eCompare`'s fold) -/
def cmpStep (t t2 : ETree α) (tp2 : Array Int) (acc : Option (Array Int)) (g : Nat) : Option (Array Int) :=
  match acc with
  | none => none
  | some Mg =>
    let a := if t.l g ≤ 0 then tp2.getD (-(t.l g)).toNat 0 else t2.parent.getD (Mg.getD (t.l g).toNat 0).toNat 0
    let b := if t.r g ≤ 0 then tp2.getD (-(t.r g)).toNat 0 else t2.parent.getD (Mg.getD (t.r g).toNat 0).toNat 0
    if a != b then none else some (Mg.setIfInBounds g a)

theorem eCompare_eq (t t2 : ETree α) :
    eCompare t t2 = ((List.range (t.N - 1)).reverse.foldl (cmpStep t t2 (eTaxaParents t2))
      (some (Array.replicate (t.N - 1) 0))).isSome := rfl

theorem cmp_child (t : ETree α) (g : Nat) (c : Int) (h : ChildOK t g c) (Mg : Array Int)
    (hM : ∀ x, g < x → x < t.N - 1 → Mg.getD x 0 = (x : Int)) :
    (if c ≤ 0 then (eTaxaParents t).getD (-c).toNat 0 else t.parent.getD (Mg.getD c.toNat 0).toNat 0) = (g : Int) := by
  by_cases hc : c ≤ 0
  · rw [if_pos hc]; exact h.1 hc
  · rw [if_neg hc]
    obtain ⟨h1, h2, h3⟩ := h.2 (by omega)
    rw [hM _ h1 h2, Int.toNat_natCast]
    exact h3

theorem cmp_fold_self (t : ETree α) (h : LinksAgree t) (k : Nat) (hk : k ≤ t.N - 1) (Mg : Array Int)
    (hsz : Mg.size = t.N - 1) (hM : ∀ x, k ≤ x → x < t.N - 1 → Mg.getD x 0 = (x : Int)) :
    ((List.range k).reverse.foldl (cmpStep t t (eTaxaParents t)) (some Mg)).isSome = true := by
  induction k generalizing Mg with
  | zero => rfl
  | succ k ih =>
    rw [List.range_succ, List.reverse_append, List.reverse_singleton, List.singleton_append, List.foldl_cons]
    obtain ⟨hl, hr⟩ := h k (by omega)
    have ha := cmp_child t k (t.l k) hl Mg (fun x hx hx' => hM x (by omega) hx')
    have hb := cmp_child t k (t.r k) hr Mg (fun x hx hx' => hM x (by omega) hx')
    have hstep : cmpStep t t (eTaxaParents t) (some Mg) k = some (Mg.setIfInBounds k (k : Int)) := by
      unfold cmpStep
      simp only [ha, hb, bne_self_eq_false, Bool.false_eq_true, ↓reduceIte]
    rw [hstep]
    apply ih (by omega) _ (by simp [hsz])
    intro x hx hx'
    simp only [Array.getD_eq_getD_getElem?, Array.getElem?_setIfInBounds]
    by_cases e : k = x
    · subst e; simp [hsz, hx']
    · have := hM x (by omega) hx'
      simp only [Array.getD_eq_getD_getElem?] at this
      simp [e, this]

theorem eCompare_self (t : ETree α) (h : LinksAgree t) : eCompare t t = true := by
  rw [eCompare_eq]
  exact cmp_fold_self t h (t.N - 1) (Nat.le_refl _) _ (by simp) (fun x hx hx' => absurd hx' (by omega))

end compare

end EaselModel.Weights
