import EaselModel.Weights.PBCounts
import EaselModel.Weights.Adv
import Mathlib.Data.List.Range
/-! the consensus-column selection of `esl_msaweight_PB_adv` / `esl_msaweight_IDFilter_adv`
    (`consensus_by_rf`, `consensus_by_all`, `consensus_by_sample`) selects EXACTLY the columns meeting the documented rule. -/
namespace EaselModel.Weights

/-- gap symbols a column receives: rows that count the column (a full-length row always, a fragment only between its first and
    last residue) and have the gap code `K` there -/
def colGap (abc : Abc) (infos : List RowInfo) (apos : Nat) : Nat :=
  infos.countP fun ri => ri.counted apos && ((ri.row.getD apos 0).toNat == abc.K)

/-- residues + gaps a column receives: counted rows whose code is below `Kp-2` (canonical, gap or degenerate; not `*`, `~`) -/
def colTot (abc : Abc) (infos : List RowInfo) (apos : Nat) : Nat :=
  infos.countP fun ri => ri.counted apos && decide ((ri.row.getD apos 0).toNat < abc.Kp - 2)

theorem countP_range_eq (w v : Nat) : (List.range w).countP (fun a => some v == some a) = if v < w then 1 else 0 := by
  induction w with
  | zero => simp
  | succ w ih =>
    rw [List.range_succ, List.countP_append, ih]
    by_cases h1 : v < w
    · have h2 : v ≠ w := by omega
      have h3 : v < w + 1 := by omega
      simp [h1, h2, h3]
    · by_cases h2 : v = w
      · subst h2; simp
      · have : ¬ v < w + 1 := by omega
        simp [h1, this, h2]

theorem sum_colCounts (w : Nat) (col : List (Option Nat)) :
    ((List.range w).map fun a => col.countP (· == some a)).sum =
      col.countP fun o => match o with | some v => decide (v < w) | none => false := by
  induction col with
  | nil => simp
  | cons o col ih =>
    simp only [List.countP_cons]
    rw [← ih]
    have : ((List.range w).map fun a => List.countP (fun x => x == some a) col + if (o == some a) = true then 1 else 0).sum =
        ((List.range w).map fun a => List.countP (fun x => x == some a) col).sum +
        ((List.range w).map fun a => if (o == some a) = true then 1 else 0).sum := by
      induction (List.range w) with
      | nil => simp
      | cons x xs ihx => simp only [List.map_cons, List.sum_cons, ihx]; omega
    rw [this]
    congr 1
    cases o with
    | none => simp
    | some v =>
      have e : ((List.range w).map fun a => if (some v == some a) = true then 1 else 0).sum =
          (List.range w).countP (fun a => some v == some a) := by
        induction (List.range w) with
        | nil => simp
        | cons x xs ihx =>
          simp only [List.map_cons, List.sum_cons, List.countP_cons, ihx]; omega
      rw [e, countP_range_eq]
      by_cases h : v < w <;> simp [h]

theorem foldl_add_nat (l : List Nat) (init : Nat) : l.foldl (· + ·) init = init + l.sum := by
  induction l generalizing init with
  | nil => simp
  | cons x xs ih => simp only [List.foldl_cons, List.sum_cons, ih]; omega

theorem digCol_gap (abc : Abc) (infos : List RowInfo) (apos : Nat) (hK : abc.K < abc.Kp) :
    (colCounts abc.Kp (digCol infos apos)).getD abc.K 0 = colGap abc infos apos := by
  rw [colCounts_getD abc.Kp abc.K hK]
  unfold digCol colGap
  rw [List.countP_map]
  congr 1
  funext ri
  simp only [Function.comp]
  cases ri.counted apos <;> simp

theorem digCol_tot (abc : Abc) (infos : List RowInfo) (apos : Nat) :
    ((colCounts abc.Kp (digCol infos apos)).take (abc.Kp - 2)).foldl (· + ·) 0 = colTot abc infos apos := by
  rw [foldl_add_nat, Nat.zero_add]
  unfold colCounts
  rw [← List.map_take, List.take_range, Nat.min_eq_left (Nat.sub_le _ _), sum_colCounts]
  unfold digCol colTot
  rw [List.countP_map]
  congr 1
  funext ri
  simp only [Function.comp]
  cases ri.counted apos <;> simp

theorem consByAll_mem (abc : Abc) (rule : Nat → Nat → Bool) (infos : List RowInfo) (alen apos : Nat) (hK : abc.K < abc.Kp) :
    apos ∈ consByAll abc rule infos alen ↔ apos < alen ∧ rule (colGap abc infos apos) (colTot abc infos apos) = true := by
  unfold consByAll
  simp only [List.mem_filter, List.mem_range]
  rw [digCol_gap abc infos apos hK, digCol_tot abc infos apos]

theorem consByRf_mem (rf : Row) (alen apos : Nat) :
    apos ∈ consByRf rf alen ↔ apos < alen ∧ isGapChar (rf.getD apos 45) = false := by
  unfold consByRf
  simp [List.mem_filter, List.mem_range]

theorem filter_range_sorted (p : Nat → Bool) (n : Nat) : ((List.range n).filter p).Pairwise (· < ·) :=
  List.Pairwise.sublist List.filter_sublist (List.pairwise_lt_range)

theorem consByAll_sorted (abc : Abc) (rule : Nat → Nat → Bool) (infos : List RowInfo) (alen : Nat) :
    (consByAll abc rule infos alen).Pairwise (· < ·) := filter_range_sorted _ _

theorem consByRf_sorted (rf : Row) (alen : Nat) : (consByRf rf alen).Pairwise (· < ·) := filter_range_sorted _ _

theorem pbConsensusAdv_cols_no_sampling (abc : Abc) (cfg : WCfg) (deal : Nat → Nat → List Nat) (rf : Option Row)
    (rows : List Row) (h : (cfg.allowSamp && decide ((rows.length : Int) > cfg.sampthresh)) = false) :
    (pbConsensusAdv abc cfg deal rf rows).cols =
      (pbConsensus abc cfg.rule (if cfg.ignoreRf then none else rf) (rows.map (rowInfo abc cfg.minspan)) (alenOf rows)).cols := by
  unfold pbConsensusAdv pbConsensus consWay
  cases hrf : (if cfg.ignoreRf then none else rf) with
  | none => simp [h]
  | some r => simp

end EaselModel.Weights
