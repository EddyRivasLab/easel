import EaselModel.Weights.PB
import Mathlib.Data.List.Perm.Basic
/-! PB weights are attached to the rows, not to their positions: listing the rows in another
    order gives every row the same weight. -/
namespace EaselModel.Weights
open WNum

theorem colCounts_perm (width : Nat) {c1 c2 : List (Option Nat)} (h : c1.Perm c2) : colCounts width c1 = colCounts width c2 := by
  unfold colCounts
  apply List.map_congr_left
  intro a _
  exact h.countP_eq _

theorem digCol_perm {i1 i2 : List RowInfo} (h : i1.Perm i2) (apos : Nat) : (digCol i1 apos).Perm (digCol i2 apos) :=
  h.map _

theorem digStats_perm (abc : Abc) {i1 i2 : List RowInfo} (h : i1.Perm i2) (cols : List Nat) :
    digStats abc i1 cols = digStats abc i2 cols := by
  unfold digStats mkStat
  apply List.map_congr_left
  intro apos _
  simp only [colCounts_perm _ (digCol_perm h apos)]

theorem consByAll_perm (abc : Abc) (rule : Nat → Nat → Bool) {i1 i2 : List RowInfo} (h : i1.Perm i2) (alen : Nat) :
    consByAll abc rule i1 alen = consByAll abc rule i2 alen := by
  unfold consByAll
  apply List.filter_congr
  intro apos _
  simp only [colCounts_perm _ (digCol_perm h apos)]

theorem pbConsensus_perm (abc : Abc) (rule : Nat → Nat → Bool) (rf : Option Row) {i1 i2 : List RowInfo} (h : i1.Perm i2)
    (alen : Nat) : (pbConsensus abc rule rf i1 alen).cols = (pbConsensus abc rule rf i2 alen).cols := by
  unfold pbConsensus
  simp only [consByAll_perm abc rule h alen]

theorem alenOf_eq {rows : List Row} {L : Nat} (hne : rows ≠ []) (hrect : ∀ row ∈ rows, row.length = L) : alenOf rows = L := by
  cases rows with
  | nil => exact absurd rfl hne
  | cons r rs => simpa [alenOf] using hrect r (by simp)

theorem txtStats_perm {rows rows' : List Row} (hp : rows.Perm rows') (hne : rows ≠ []) (L : Nat)
    (hrect : ∀ row ∈ rows, row.length = L) : txtStats rows' = txtStats rows := by
  have hne' : rows' ≠ [] := fun h => hne (List.Perm.eq_nil (h ▸ hp))
  have hrect' : ∀ row ∈ rows', row.length = L := fun row hr => hrect row (hp.mem_iff.mpr hr)
  unfold txtStats mkStat
  rw [alenOf_eq hne hrect, alenOf_eq hne' hrect']
  apply List.map_congr_left
  intro apos _
  simp only [colCounts_perm _ ((hp.symm.map _))]

end EaselModel.Weights
