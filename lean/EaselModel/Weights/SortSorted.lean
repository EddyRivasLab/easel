import EaselModel.Weights.Sort
/-! `esl_quicksort` SORTS — for every comparison function that is reflexive, total and transitive on
    the indices it is given (e.g. `sort_doubles_decreasing` on any vector of rationals), `sorted_at[]` is in non-decreasing
    order of the comparison. Hoare partition with the pivot parked at `lo`; the model's fuel never runs out. -/
namespace EaselModel.Weights

theorem aswap_size (a : Array Nat) (i j : Nat) : (aswap a i j).size = a.size := by
  unfold aswap; simp

theorem aget_aswap (a : Array Nat) (i j k : Nat) (hi : i < a.size) (hj : j < a.size) :
    aget (aswap a i j) k = if k = j then aget a i else if k = i then aget a j else aget a k :=
  swapIfInBounds_getD a i j k hi hj

/-- `ord'` has the size of `ord`, agrees with it outside [lo,hi], and every value inside came from inside -/
structure SegPerm (lo hi : Nat) (ord ord' : Array Nat) : Prop where
  size : ord'.size = ord.size
  frame : ∀ k, (k < lo ∨ hi < k) → aget ord' k = aget ord k
  inside : ∀ k, lo ≤ k → k ≤ hi → ∃ k0, lo ≤ k0 ∧ k0 ≤ hi ∧ aget ord' k = aget ord k0

theorem SegPerm.refl (lo hi : Nat) (ord : Array Nat) : SegPerm lo hi ord ord :=
  ⟨rfl, fun _ _ => rfl, fun k h1 h2 => ⟨k, h1, h2, rfl⟩⟩

theorem SegPerm.trans {lo hi : Nat} {a b c : Array Nat} (h1 : SegPerm lo hi a b) (h2 : SegPerm lo hi b c) : SegPerm lo hi a c := by
  refine ⟨h2.size.trans h1.size, fun k hk => (h2.frame k hk).trans (h1.frame k hk), ?_⟩
  intro k hk1 hk2
  obtain ⟨k1, a1, a2, e1⟩ := h2.inside k hk1 hk2
  obtain ⟨k0, b1, b2, e0⟩ := h1.inside k1 a1 a2
  exact ⟨k0, b1, b2, e1.trans e0⟩

theorem SegPerm.widen {lo hi lo' hi' : Nat} {a b : Array Nat} (h : SegPerm lo' hi' a b) (h1 : lo ≤ lo') (h2 : hi' ≤ hi) :
    SegPerm lo hi a b := by
  refine ⟨h.size, fun k hk => h.frame k (by omega), ?_⟩
  intro k hk1 hk2
  by_cases hin : lo' ≤ k ∧ k ≤ hi'
  · obtain ⟨k0, a1, a2, e⟩ := h.inside k hin.1 hin.2
    exact ⟨k0, by omega, by omega, e⟩
  · exact ⟨k, hk1, hk2, h.frame k (by omega)⟩

theorem SegPerm.swap (lo hi : Nat) (ord : Array Nat) (i j : Nat) (hi1 : lo ≤ i) (hi2 : i ≤ hi) (hj1 : lo ≤ j) (hj2 : j ≤ hi)
    (hsz : hi < ord.size) : SegPerm lo hi ord (aswap ord i j) := by
  refine ⟨aswap_size _ _ _, ?_, ?_⟩
  · intro k hk
    rw [aget_aswap ord i j k (by omega) (by omega), if_neg (by omega), if_neg (by omega)]
  · intro k hk1 hk2
    rw [aget_aswap ord i j k (by omega) (by omega)]
    by_cases h1 : k = j
    · exact ⟨i, hi1, hi2, by rw [if_pos h1]⟩
    · by_cases h2 : k = i
      · exact ⟨j, hj1, hj2, by rw [if_neg h1, if_pos h2]⟩
      · exact ⟨k, hk1, hk2, by rw [if_neg h1, if_neg h2]⟩

section
variable (cmp : Nat → Nat → Int)

theorem qsUp_spec (ord : Array Nat) (lo hi : Nat) : ∀ fuel i, hi + 1 ≤ i + fuel →
    i < qsUp cmp ord lo hi i fuel ∧ (i ≤ hi → qsUp cmp ord lo hi i fuel ≤ hi + 1) ∧
    (∀ k, i < k → k < qsUp cmp ord lo hi i fuel → cmp (aget ord k) (aget ord lo) < 0) ∧
    (qsUp cmp ord lo hi i fuel ≤ hi → ¬ cmp (aget ord (qsUp cmp ord lo hi i fuel)) (aget ord lo) < 0) := by
  intro fuel
  induction fuel with
  | zero =>
    intro i h
    simp only [qsUp]
    exact ⟨by omega, fun _ => by omega, fun k h1 h2 => by omega, fun h' => by omega⟩
  | succ fuel ih =>
    intro i h
    simp only [qsUp]
    by_cases hc : (decide (i + 1 ≤ hi) && decide (cmp (aget ord (i + 1)) (aget ord lo) < 0)) = true
    · rw [if_pos hc]
      simp only [Bool.and_eq_true, decide_eq_true_eq] at hc
      obtain ⟨a1, a2, a3, a4⟩ := ih (i + 1) (by omega)
      refine ⟨by omega, fun _ => a2 hc.1, ?_, a4⟩
      intro k h1 h2
      by_cases hk : k = i + 1
      · subst hk; exact hc.2
      · exact a3 k (by omega) h2
    · rw [if_neg hc]
      simp only [Bool.and_eq_true, decide_eq_true_eq, not_and] at hc
      exact ⟨by omega, fun _ => by omega, fun k h1 h2 => by omega, fun h' => hc h'⟩

theorem qsDown_spec (ord : Array Nat) (lo : Nat) (hrefl : ¬ cmp (aget ord lo) (aget ord lo) > 0) : ∀ j, lo < j →
    lo ≤ qsDown cmp ord lo j ∧ qsDown cmp ord lo j < j ∧
    (∀ k, qsDown cmp ord lo j < k → k < j → cmp (aget ord k) (aget ord lo) > 0) ∧
    ¬ cmp (aget ord (qsDown cmp ord lo j)) (aget ord lo) > 0 := by
  intro j
  induction j with
  | zero => intro h; omega
  | succ j ih =>
    intro h
    simp only [qsDown]
    by_cases hc : cmp (aget ord j) (aget ord lo) > 0
    · rw [if_pos hc]
      have hne : j ≠ lo := fun e => hrefl (by rw [e] at hc; exact hc)
      obtain ⟨a1, a2, a3, a4⟩ := ih (by omega)
      refine ⟨a1, by omega, ?_, a4⟩
      intro k h1 h2
      by_cases hk : k = j
      · subst hk; exact hc
      · exact a3 k h1 (by omega)
    · rw [if_neg hc]
      exact ⟨by omega, by omega, fun k h1 h2 => by omega, hc⟩

/-- what the partition loop keeps true: everything right of the pivot up to `i` is ≤ pivot, everything from `j` on is ≥ pivot -/
structure LoopInv (lo hi : Nat) (ord0 ord : Array Nat) (i j : Nat) : Prop where
  seg : SegPerm (lo + 1) hi ord0 ord
  ilo : lo ≤ i
  ij : i < j
  jhi : j ≤ hi + 1
  left : ∀ k, lo < k → k ≤ i → cmp (aget ord k) (aget ord lo) ≤ 0
  right : ∀ k, j ≤ k → k ≤ hi → 0 ≤ cmp (aget ord k) (aget ord lo)

theorem qsLoop_spec (lo hi : Nat) (ord0 : Array Nat) (hrefl : ¬ cmp (aget ord0 lo) (aget ord0 lo) > 0) :
    ∀ fuel (ord : Array Nat) (i j : Nat), LoopInv cmp lo hi ord0 ord i j → hi < ord.size → hi + 2 ≤ i + fuel →
    SegPerm (lo + 1) hi ord0 (qsLoop cmp lo hi fuel ord i j).1 ∧
    lo ≤ (qsLoop cmp lo hi fuel ord i j).2 ∧ (qsLoop cmp lo hi fuel ord i j).2 ≤ hi ∧
    (∀ k, lo < k → k ≤ (qsLoop cmp lo hi fuel ord i j).2 →
      cmp (aget (qsLoop cmp lo hi fuel ord i j).1 k) (aget ord0 lo) ≤ 0) ∧
    (∀ k, (qsLoop cmp lo hi fuel ord i j).2 < k → k ≤ hi →
      0 ≤ cmp (aget (qsLoop cmp lo hi fuel ord i j).1 k) (aget ord0 lo)) := by
  intro fuel
  induction fuel with
  | zero =>
    intro ord i j inv hsz hf
    have := inv.ij; have := inv.jhi; omega
  | succ fuel ih =>
    intro ord i j inv hsz hf
    have hP : aget ord lo = aget ord0 lo := inv.seg.frame lo (by omega)
    have hrefl' : ¬ cmp (aget ord lo) (aget ord lo) > 0 := by rw [hP]; exact hrefl
    have hihi : i ≤ hi := by have := inv.ij; have := inv.jhi; omega
    obtain ⟨u1, u2, u3, u4⟩ := qsUp_spec cmp ord lo hi (hi + 1) i (by omega)
    obtain ⟨d1, d2, d3, d4⟩ := qsDown_spec cmp ord lo hrefl' j (by have := inv.ilo; have := inv.ij; omega)
    simp only [qsLoop]
    generalize hi' : qsUp cmp ord lo hi i (hi + 1) = i' at u1 u2 u3 u4
    generalize hj' : qsDown cmp ord lo j = j' at d1 d2 d3 d4
    have u2' := u2 hihi
    by_cases hgt : j' > i'
    · rw [if_pos hgt]
      have hj'hi : j' ≤ hi := by have := inv.jhi; omega
      have hi'hi : i' ≤ hi := by omega
      have hilo : lo < i' := by have := inv.ilo; omega
      have hsw : ∀ k, aget (aswap ord j' i') k = if k = i' then aget ord j' else if k = j' then aget ord i' else aget ord k :=
        fun k => aget_aswap ord j' i' k (by omega) (by omega)
      have hP2 : aget (aswap ord j' i') lo = aget ord lo := by rw [hsw, if_neg (by omega), if_neg (by omega)]
      refine ih (aswap ord j' i') i' j' ⟨?_, by omega, hgt, by omega, ?_, ?_⟩ (by rw [aswap_size]; exact hsz) (by omega)
      · exact inv.seg.trans (SegPerm.swap (lo + 1) hi ord j' i' (by omega) hj'hi (by omega) hi'hi hsz)
      · intro k h1 h2
        rw [hP2, hsw]
        by_cases hk : k = i'
        · rw [if_pos hk]; omega
        · rw [if_neg hk, if_neg (by omega)]
          by_cases hki : k ≤ i
          · exact inv.left k h1 hki
          · have := u3 k (by omega) (by omega); omega
      · intro k h1 h2
        rw [hP2, hsw]
        by_cases hk : k = j'
        · rw [if_neg (by omega), if_pos hk]
          have := u4 hi'hi; omega
        · rw [if_neg (by omega), if_neg hk]
          by_cases hkj : j ≤ k
          · exact inv.right k hkj h2
          · have := d3 k (by omega) (by omega); omega
    · rw [if_neg hgt]
      have hj'hi : j' ≤ hi := by have := inv.jhi; omega
      refine ⟨inv.seg, d1, hj'hi, ?_, ?_⟩
      · intro k h1 h2
        show cmp (aget ord k) (aget ord0 lo) ≤ 0
        rw [← hP]
        by_cases hki : k ≤ i
        · exact inv.left k h1 hki
        · by_cases hk : k < i'
          · have := u3 k (by omega) hk; omega
          · have : k = j' := by omega
            subst this; omega
      · intro k h1 h2
        show 0 ≤ cmp (aget ord k) (aget ord0 lo)
        rw [← hP]
        by_cases hkj : j ≤ k
        · exact inv.right k hkj h2
        · have := d3 k h1 (by omega); omega
end

/-- what is asked of the comparison function on the index set `S` -/
structure CmpOK (cmp : Nat → Nat → Int) (S : Nat → Prop) : Prop where
  refl : ∀ a, cmp a a = 0
  anti : ∀ a b, 0 ≤ cmp a b → cmp b a ≤ 0
  trans : ∀ a b c, S a → S b → S c → cmp a b ≤ 0 → cmp b c ≤ 0 → cmp a c ≤ 0

/-- `ord[lo..hi]` is in order -/
def SortedSeg (cmp : Nat → Nat → Int) (ord : Array Nat) (lo hi : Nat) : Prop :=
  ∀ x y, lo ≤ x → x < y → y ≤ hi → cmp (aget ord x) (aget ord y) ≤ 0

/-- the segment is partitioned around position `j` -/
structure Part (cmp : Nat → Nat → Int) (ord : Array Nat) (lo j hi : Nat) : Prop where
  left : ∀ k, lo ≤ k → k < j → cmp (aget ord k) (aget ord j) ≤ 0
  right : ∀ k, j < k → k ≤ hi → 0 ≤ cmp (aget ord k) (aget ord j)

theorem Part.of_seg {cmp : Nat → Nat → Int} {ord ord' : Array Nat} {lo j hi a b : Nat} (h : Part cmp ord lo j hi)
    (hs : SegPerm a b ord ord') (hab : lo ≤ a ∧ b ≤ hi) (hd : b < j ∨ j < a) : Part cmp ord' lo j hi := by
  have hj : aget ord' j = aget ord j := hs.frame j (by omega)
  refine ⟨?_, ?_⟩
  · intro k h1 h2
    rw [hj]
    by_cases hk : a ≤ k ∧ k ≤ b
    · obtain ⟨k0, a1, a2, e⟩ := hs.inside k hk.1 hk.2
      rw [e]; exact h.left k0 (by omega) (by omega)
    · rw [hs.frame k (by omega)]; exact h.left k h1 h2
  · intro k h1 h2
    rw [hj]
    by_cases hk : a ≤ k ∧ k ≤ b
    · obtain ⟨k0, a1, a2, e⟩ := hs.inside k hk.1 hk.2
      rw [e]; exact h.right k0 (by omega) (by omega)
    · rw [hs.frame k (by omega)]; exact h.right k h1 h2

theorem SegPerm.pres {lo hi : Nat} {ord ord' : Array Nat} (hs : SegPerm lo hi ord ord') {S : Nat → Prop}
    (hS : ∀ k, lo ≤ k → k ≤ hi → S (aget ord k)) (k : Nat) (h1 : lo ≤ k) (h2 : k ≤ hi) : S (aget ord' k) := by
  obtain ⟨k0, a1, a2, e⟩ := hs.inside k h1 h2
  rw [e]; exact hS k0 a1 a2

theorem SortedSeg.of_frame {cmp : Nat → Nat → Int} {ord ord' : Array Nat} {lo hi a b : Nat} (h : SortedSeg cmp ord lo hi)
    (hs : SegPerm a b ord ord') (hd : hi < a ∨ b < lo) : SortedSeg cmp ord' lo hi := by
  intro x y h1 h2 h3
  rw [hs.frame x (by omega), hs.frame y (by omega)]; exact h x y h1 h2 h3

theorem sorted_of_part {cmp : Nat → Nat → Int} {S : Nat → Prop} (hc : CmpOK cmp S) {ord : Array Nat} {lo j hi : Nat}
    (hS : ∀ k, lo ≤ k → k ≤ hi → S (aget ord k)) (hj1 : lo ≤ j) (hj2 : j ≤ hi) (hp : Part cmp ord lo j hi)
    (hl : SortedSeg cmp ord lo (j - 1)) (hr : SortedSeg cmp ord (j + 1) hi) : SortedSeg cmp ord lo hi := by
  intro x y h1 h2 h3
  by_cases hyj : y < j
  · exact hl x y h1 h2 (by omega)
  · by_cases hxj : j < x
    · exact hr x y hxj h2 h3
    · by_cases hxe : x = j
      · subst hxe
        exact hc.anti _ _ (hp.right y (by omega) h3)
      · have hxl := hp.left x h1 (by omega)
        by_cases hye : y = j
        · subst hye; exact hxl
        · have hyr := hc.anti _ _ (hp.right y (by omega) h3)
          exact hc.trans _ _ _ (hS x h1 (by omega)) (hS j hj1 hj2) (hS y (by omega) h3) hxl hyr

/-- with more fuel than elements, `partition(lo, hi)` rearranges `ord[lo..hi]` within itself into order (values in `S`) -/
def QsSorts (cmp : Nat → Nat → Int) (S : Nat → Prop) (fuel : Nat) : Prop :=
  ∀ (ord : Array Nat) (lo hi : Nat), lo ≤ hi → hi < ord.size → hi - lo < fuel → (∀ k, lo ≤ k → k ≤ hi → S (aget ord k)) →
    SegPerm lo hi ord (qsPartition cmp fuel ord lo hi) ∧ SortedSeg cmp (qsPartition cmp fuel ord lo hi) lo hi

/-- `if (b - a > 1) partition(a, b)` on a stretch beside the pivot's final position `j`: the stretch comes out in order (one
    of at most one element is in order as it stands), the partition around `j` stands, and so does the order of any
    stretch disjoint from this one -/
theorem qsSub_sorted {cmp : Nat → Nat → Int} {S : Nat → Prop} {fuel : Nat}
    (ih : QsSorts cmp S fuel)
    (c : Prop) [Decidable c] {ord0 ord r : Array Nat} {lo j hi : Nat} (a b : Nat)
    (hS : ∀ k, lo ≤ k → k ≤ hi → S (aget ord0 k))
    (hc : c → lo ≤ a ∧ a ≤ b ∧ b ≤ hi ∧ (b < j ∨ j < a) ∧ b - a < fuel) (hn : ¬ c → b ≤ a)
    (sa : SegPerm lo hi ord0 ord) (pa : Part cmp ord lo j hi) (hsz : hi < ord.size)
    (hr : r = if c then qsPartition cmp fuel ord a b else ord) :
    SegPerm lo hi ord0 r ∧ Part cmp r lo j hi ∧ hi < r.size ∧ SortedSeg cmp r a b ∧
      ∀ x y, (y < a ∨ b < x) → SortedSeg cmp ord x y → SortedSeg cmp r x y := by
  by_cases h : c
  · obtain ⟨h1, h2, h3, h4, h5⟩ := hc h
    rw [if_pos h] at hr
    obtain ⟨s, o⟩ := ih ord a b h2 (by omega) h5 fun k k1 k2 => sa.pres hS k (by omega) (by omega)
    rw [← hr] at s o
    exact ⟨sa.trans (s.widen h1 h3), pa.of_seg s ⟨h1, h3⟩ h4, by rw [s.size]; exact hsz, o, fun x y hd hxy => hxy.of_frame s hd⟩
  · rw [if_neg h] at hr
    subst hr
    exact ⟨sa, pa, hsz, fun x y h1 h2 h3 => by have := hn h; omega, fun _ _ _ hxy => hxy⟩

theorem qsSides_sorted {cmp : Nat → Nat → Int} {S : Nat → Prop} (hc : CmpOK cmp S) {fuel : Nat}
    (ih : QsSorts cmp S fuel)
    {ord0 ord : Array Nat} {lo j hi : Nat} (hS : ∀ k, lo ≤ k → k ≤ hi → S (aget ord0 k)) (hj1 : lo ≤ j) (hj2 : j ≤ hi)
    (hf : hi - lo < fuel + 1) (sa : SegPerm lo hi ord0 ord) (pa : Part cmp ord lo j hi) (hsz : hi < ord.size) :
    (∀ r1 r2, r1 = (if j - lo > 1 then qsPartition cmp fuel ord lo (j - 1) else ord) →
      r2 = (if hi - j > 1 then qsPartition cmp fuel r1 (j + 1) hi else r1) →
      SegPerm lo hi ord0 r2 ∧ SortedSeg cmp r2 lo hi) ∧
    (∀ r1 r2, r1 = (if hi - j > 1 then qsPartition cmp fuel ord (j + 1) hi else ord) →
      r2 = (if j - lo > 1 then qsPartition cmp fuel r1 lo (j - 1) else r1) →
      SegPerm lo hi ord0 r2 ∧ SortedSeg cmp r2 lo hi) := by
  have hl : j - lo > 1 → lo ≤ lo ∧ lo ≤ j - 1 ∧ j - 1 ≤ hi ∧ (j - 1 < j ∨ j < lo) ∧ j - 1 - lo < fuel := by omega
  have hr : hi - j > 1 → lo ≤ j + 1 ∧ j + 1 ≤ hi ∧ hi ≤ hi ∧ (hi < j ∨ j < j + 1) ∧ hi - (j + 1) < fuel := by omega
  have hl' : ¬ j - lo > 1 → j - 1 ≤ lo := by omega
  have hr' : ¬ hi - j > 1 → hi ≤ j + 1 := by omega
  constructor <;> intro r1 r2 e1 e2
  · obtain ⟨sa1, pa1, hz1, ol, _⟩ := qsSub_sorted ih (j - lo > 1) lo (j - 1) hS hl hl' sa pa hsz e1
    obtain ⟨sa2, pa2, _, or, keep⟩ := qsSub_sorted ih (hi - j > 1) (j + 1) hi hS hr hr' sa1 pa1 hz1 e2
    exact ⟨sa2, sorted_of_part hc (sa2.pres hS) hj1 hj2 pa2 (keep _ _ (by omega) ol) or⟩
  · obtain ⟨sa1, pa1, hz1, or, _⟩ := qsSub_sorted ih (hi - j > 1) (j + 1) hi hS hr hr' sa pa hsz e1
    obtain ⟨sa2, pa2, _, ol, keep⟩ := qsSub_sorted ih (j - lo > 1) lo (j - 1) hS hl hl' sa1 pa1 hz1 e2
    exact ⟨sa2, sorted_of_part hc (sa2.pres hS) hj1 hj2 pa2 ol (keep _ _ (by omega) or)⟩

theorem qsPartition_sorted {cmp : Nat → Nat → Int} {S : Nat → Prop} (hc : CmpOK cmp S) : ∀ fuel, QsSorts cmp S fuel := by
  intro fuel
  induction fuel with
  | zero => intro ord lo hi _ _ h; omega
  | succ fuel ih =>
    intro ord lo hi hlh hsz hf hS
    simp only [qsPartition]
    generalize hp : (if cmp (aget ord (lo + (hi - lo) / 2)) (aget ord lo) < 0 then lo
      else if cmp (aget ord (lo + (hi - lo) / 2)) (aget ord hi) > 0 then hi else lo + (hi - lo) / 2) = pivot
    have hpiv : lo ≤ pivot ∧ pivot ≤ hi := by
      rw [← hp]; split
      · omega
      · split <;> omega
    have s1 : SegPerm lo hi ord (aswap ord pivot lo) := SegPerm.swap lo hi ord pivot lo hpiv.1 hpiv.2 (Nat.le_refl _) hlh hsz
    have hsz1 : hi < (aswap ord pivot lo).size := by rw [aswap_size]; exact hsz
    have hrefl : ¬ cmp (aget (aswap ord pivot lo) lo) (aget (aswap ord pivot lo) lo) > 0 := by rw [hc.refl]; omega
    have inv0 : LoopInv cmp lo hi (aswap ord pivot lo) (aswap ord pivot lo) lo (hi + 1) :=
      ⟨SegPerm.refl _ _ _, Nat.le_refl _, by omega, Nat.le_refl _, fun k h1 h2 => by omega, fun k h1 h2 => by omega⟩
    obtain ⟨l1, l2, l3, l4, l5⟩ := qsLoop_spec cmp lo hi (aswap ord pivot lo) hrefl (hi + 2) (aswap ord pivot lo) lo (hi + 1)
      inv0 hsz1 (by omega)
    generalize hq : qsLoop cmp lo hi (hi + 2) (aswap ord pivot lo) lo (hi + 1) = q at l1 l2 l3 l4 l5
    obtain ⟨o2, j⟩ := q
    simp only at l1 l2 l3 l4 l5 ⊢
    have hsz2 : hi < o2.size := by rw [l1.size]; exact hsz1
    have hPlo : aget o2 lo = aget (aswap ord pivot lo) lo := l1.frame lo (by omega)
    have s2 : SegPerm lo hi ord o2 := s1.trans (l1.widen (by omega) (Nat.le_refl _))
    have s3 : SegPerm lo hi ord (aswap o2 lo j) := s2.trans (SegPerm.swap lo hi o2 lo j (Nat.le_refl _) hlh l2 l3 hsz2)
    have hsw : ∀ k, aget (aswap o2 lo j) k = if k = j then aget o2 lo else if k = lo then aget o2 j else aget o2 k :=
      fun k => aget_aswap o2 lo j k (by omega) (by omega)
    have hpart : Part cmp (aswap o2 lo j) lo j hi := by
      have hj : aget (aswap o2 lo j) j = aget (aswap ord pivot lo) lo := by rw [hsw, if_pos rfl, hPlo]
      refine ⟨?_, ?_⟩
      · intro k h1 h2
        rw [hj, hsw, if_neg (by omega)]
        by_cases hk : k = lo
        · rw [if_pos hk]; exact l4 j (by omega) (Nat.le_refl _)
        · rw [if_neg hk]; exact l4 k (by omega) (by omega)
      · intro k h1 h2
        rw [hj, hsw, if_neg (by omega), if_neg (by omega)]
        exact l5 k h1 h2
    have hsz3 : hi < (aswap o2 lo j).size := by rw [aswap_size]; exact hsz2
    have sides := qsSides_sorted hc ih hS l2 l3 hf s3 hpart hsz3
    split
    · exact sides.1 _ _ rfl rfl
    · exact sides.2 _ _ rfl rfl

theorem quicksort_sorted {cmp : Nat → Nat → Int} {n : Nat} (hc : CmpOK cmp (· < n)) (x y : Nat) (hxy : x < y) (hy : y < n) :
    cmp ((quicksort cmp n).getD x 0) ((quicksort cmp n).getD y 0) ≤ 0 := by
  unfold quicksort
  have hn : n > 1 := by omega
  simp only [if_pos hn]
  have hS : ∀ k, 0 ≤ k → k ≤ n - 1 → aget (Array.range n) k < n := by
    intro k _ hk
    unfold aget
    rw [Array.getD_eq_getD_getElem?, Array.getElem?_eq_getElem (by simp; omega)]
    simp; omega
  obtain ⟨_, r2⟩ := qsPartition_sorted hc (n + 1) (Array.range n) 0 (n - 1) (by omega) (by simp; omega) (by omega) hS
  have := r2 x y (by omega) hxy (by omega)
  unfold aget at this
  rw [List.getD_eq_getElem?_getD, List.getD_eq_getElem?_getD, Array.getElem?_toList, Array.getElem?_toList,
    ← Array.getD_eq_getD_getElem?, ← Array.getD_eq_getD_getElem?]
  exact this

end EaselModel.Weights
