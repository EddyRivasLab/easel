import EaselModel.Weights.TreeLemmas
import Mathlib.Data.List.Perm.Basic
import Mathlib.Data.List.Nodup
import Mathlib.Data.List.Forall2
import Mathlib.Data.List.Range
/-! GSC weights follow the rows under relisting when no pass of UPGMA has a tie for the minimum.

  Two runs are compared: A on `rows`, B on `p.map (rows.getD · [])` for a permutation `p` of 0..n-1. Cluster numbers of B
  are translated into those of A by `relab` (taxon x of B is taxon p[x] of A; internal nodes keep their number). The relation
  `Rel` between the two states is static in the distances (they are keyed by cluster identity, rows are append-only) and in
  the size and height stores (`TabRel`: the same table read through `relab`; so are the tables of the two traversals); the
  only moving part is the table of active clusters, which need only agree as a multiset. -/
namespace EaselModel.Weights
open WNum

def relab (n : Nat) (p : List Nat) (x : Nat) : Nat := if x < n then p.getD x 0 else x

/-- a store of run B against the same store of run A: equally long, and B reads at `x` what A reads at the cluster `x` stands
    for. The stores are keyed by cluster number and only ever appended to, so pushing equal values keeps this -/
structure TabRel {β : Type} (n : Nat) (p : List Nat) (d : β) (xa xb : Array β) : Prop where
  size : xb.size = xa.size
  get : ∀ x, xb.getD x d = xa.getD (relab n p x) d

section relab
variable {n : Nat} {p : List Nat} (hp : p.Perm (List.range n))
include hp

theorem p_length : p.length = n := by simpa using hp.length_eq

theorem p_getD_lt {x : Nat} (hx : x < n) : p.getD x 0 < n := by
  have hl := p_length hp
  rw [List.getD_eq_getElem?_getD, List.getElem?_eq_getElem (by omega)]
  simp only [Option.getD_some]
  exact List.mem_range.mp (hp.mem_iff.mp (List.getElem_mem _))

theorem relab_lt {x : Nat} (hx : x < n) : relab n p x < n := by
  unfold relab; rw [if_pos hx]; exact p_getD_lt hp hx

theorem relab_ge {x : Nat} (hx : n ≤ x) : relab n p x = x := by
  unfold relab; rw [if_neg (by omega)]

theorem relab_ge_iff {x : Nat} : n ≤ relab n p x ↔ n ≤ x := by
  by_cases hx : x < n
  · have := relab_lt hp hx; omega
  · rw [relab_ge hp (by omega)]

theorem relab_lt_of_lt {x m : Nat} (hm : n ≤ m) (hx : x < m) : relab n p x < m := by
  by_cases h : x < n
  · have := relab_lt hp h; omega
  · rw [relab_ge hp (by omega)]; exact hx

theorem relab_inj {x y : Nat} (h : relab n p x = relab n p y) : x = y := by
  have hl := p_length hp
  have hnd : p.Nodup := hp.nodup_iff.mpr List.nodup_range
  by_cases hx : x < n <;> by_cases hy : y < n
  · unfold relab at h
    rw [if_pos hx, if_pos hy, List.getD_eq_getElem?_getD, List.getD_eq_getElem?_getD,
      List.getElem?_eq_getElem (by omega), List.getElem?_eq_getElem (by omega)] at h
    simp only [Option.getD_some] at h
    exact (hnd.getElem_inj_iff).mp h
  · have := relab_lt hp hx; rw [h, relab_ge hp (by omega)] at this; omega
  · have := relab_lt hp hy; rw [← h, relab_ge hp (by omega)] at this; omega
  · rw [relab_ge hp (by omega), relab_ge hp (by omega)] at h; exact h

theorem relab_eq_iff {b a x : Nat} (e : relab n p b = a) : b = x ↔ a = relab n p x := by
  rw [← e]; exact ⟨fun h => by rw [h], fun h => relab_inj hp h⟩

theorem map_relab_range : (List.range n).map (relab n p) = p := by
  have hl := p_length hp
  apply List.ext_getElem
  · simp [hl]
  · intro i h1 h2
    simp only [List.getElem_map, List.getElem_range]
    have hi : i < n := by simpa using h1
    unfold relab
    rw [if_pos hi, List.getD_eq_getElem?_getD, List.getElem?_eq_getElem h2]
    rfl

theorem TabRel.replicate {β : Type} (v d : β) : TabRel n p d (Array.replicate n v) (Array.replicate n v) := by
  refine ⟨rfl, fun x => ?_⟩
  rw [getD_replicate, getD_replicate]
  by_cases h : x < n
  · rw [if_pos h, if_pos (relab_lt hp h)]
  · rw [relab_ge hp (by omega)]

theorem TabRel.push {β : Type} {d : β} {xa xb : Array β} (h : TabRel n p d xa xb) (hn : n ≤ xa.size) (v : β) :
    TabRel n p d (xa.push v) (xb.push v) := by
  have hs := h.size
  refine ⟨by simp [hs], fun x => ?_⟩
  rcases Nat.lt_trichotomy x xb.size with hx | hx | hx
  · rw [getD_push_lt _ _ _ hx, getD_push_lt _ _ _ (relab_lt_of_lt hp hn (by omega))]
    exact h.get x
  · subst hx
    rw [getD_push_eq, relab_ge hp (by omega), hs, getD_push_eq]
  · rw [getD_push_gt _ _ _ hx, relab_ge hp (by omega), getD_push_gt _ _ _ (by omega)]
end relab

/-- no pass of UPGMA on this state has a tie for the minimum: every other pair of active positions is strictly farther -/
def UniqueMin (A : KState ℚ) : Prop :=
  ∀ r c, r < c → c < A.act.size → ¬ (r = kPosI A ∧ c = kPosJ A) →
    kdist A.rows (kI A) (kJ A) < kdist A.rows (A.act.getD r 0) (A.act.getD c 0)

theorem UniqueMin.pair {A : KState ℚ} (hU : UniqueMin A) {x y : Nat}
    (hx : x ∈ A.act.toList) (hy : y ∈ A.act.toList) (hxy : x ≠ y)
    (hle : kdist A.rows x y ≤ kdist A.rows (kI A) (kJ A)) :
    (x = kI A ∧ y = kJ A) ∨ (x = kJ A ∧ y = kI A) := by
  obtain ⟨r, hr, rfl⟩ := pos_of_mem A.act hx
  obtain ⟨c, hc, rfl⟩ := pos_of_mem A.act hy
  have hrc : r ≠ c := fun e => hxy (by rw [e])
  rcases Nat.lt_or_gt_of_ne hrc with h | h
  · by_cases he : r = kPosI A ∧ c = kPosJ A
    · left; rw [he.1, he.2]; exact ⟨rfl, rfl⟩
    · exact absurd (hU r c h hc he) (not_lt.mpr hle)
  · by_cases he : c = kPosI A ∧ r = kPosJ A
    · right; rw [he.1, he.2]; exact ⟨rfl, rfl⟩
    · rw [kdist_comm A.rows hxy] at hle
      exact absurd (hU c r h hr he) (not_lt.mpr hle)

def NodeRel (n : Nat) (p : List Nat) (a b : KNode ℚ) : Prop :=
  (relab n p b.I = a.I ∧ relab n p b.J = a.J ∧ b.l = a.l ∧ b.r = a.r) ∨
  (relab n p b.I = a.J ∧ relab n p b.J = a.I ∧ b.l = a.r ∧ b.r = a.l)

/-- what relates the run B on the relisted rows to the run A, beyond each being a state of the engine (`KStruct`) -/
structure Rel (n : Nat) (p : List Nat) (A B : KState ℚ) : Prop where
  act : (B.act.toList.map (relab n p)).Perm A.act.toList
  dist : ∀ x ∈ B.act.toList, ∀ y ∈ B.act.toList, x ≠ y →
    kdist B.rows x y = kdist A.rows (relab n p x) (relab n p y)
  size : TabRel n p 0 A.size B.size
  hgt : TabRel n p 0 A.hgt B.hgt
  nodes : List.Forall₂ (NodeRel n p) A.nodes B.nodes

theorem NodesOK.ne {n : Nat} : ∀ {nodes : List (KNode ℚ)}, NodesOK n nodes → ∀ nd ∈ nodes, nd.I ≠ nd.J
  | [], _, _, h => absurd h List.not_mem_nil
  | _ :: _, hok, nd, h => by
    rcases List.mem_cons.mp h with rfl | h'
    · exact hok.2.2.1
    · exact NodesOK.ne hok.2.2.2 nd h'

section rel
variable {n k : Nat} {p : List Nat} (hp : p.Perm (List.range n)) {A B : KState ℚ} (R : Rel n p A B)
  (hA : KStruct n k A) (hB : KStruct n k B)
include hp R hA hB

omit hp hA hB in
theorem Rel.mem_AB {x : Nat} (hx : x ∈ B.act.toList) : relab n p x ∈ A.act.toList :=
  R.act.mem_iff.mp (List.mem_map_of_mem hx)

omit hp hA hB in
theorem Rel.mem_BA {y : Nat} (hy : y ∈ A.act.toList) : ∃ x ∈ B.act.toList, relab n p x = y := by
  have := R.act.mem_iff.mpr hy
  simpa using this

/-- with a unique minimum in A, B finds the same minimum at the corresponding pair (possibly in the other orientation) -/
theorem Rel.min_corr (hk : k + 2 ≤ n) (hU : UniqueMin A) {LA LB : List Nat} (jA : Joined A LA) (jB : Joined B LB) :
    (kMin B).1 = (kMin A).1 ∧
    ((relab n p (kI B) = kI A ∧ relab n p (kJ B) = kJ A) ∨ (relab n p (kI B) = kJ A ∧ relab n p (kJ B) = kI A)) := by
  have hN : 2 ≤ A.act.size := by have := hA.asize; omega
  have hNB : 2 ≤ B.act.size := by have := hB.asize; omega
  have hrne : relab n p (kI B) ≠ relab n p (kJ B) := fun e => jB.ne (relab_inj hp e)
  have h1 : (kMin A).1 ≤ (kMin B).1 := by
    rw [jB.min, R.dist _ jB.memI _ jB.memJ jB.ne]
    exact kfindMin_le_pair A.rows A.act hN (R.mem_AB jB.memI) (R.mem_AB jB.memJ) hrne
  obtain ⟨x, hx, hxI⟩ := R.mem_BA jA.memI
  obtain ⟨y, hy, hyJ⟩ := R.mem_BA jA.memJ
  have hxy : x ≠ y := by
    intro e; apply jA.ne; rw [← hxI, ← hyJ, e]
  have h2 : (kMin B).1 ≤ (kMin A).1 := by
    rw [jA.min, ← hxI, ← hyJ, ← R.dist _ hx _ hy hxy]
    exact kfindMin_le_pair B.rows B.act hNB hx hy hxy
  have heq : (kMin B).1 = (kMin A).1 := le_antisymm h2 h1
  refine ⟨heq, ?_⟩
  apply hU.pair (R.mem_AB jB.memI) (R.mem_AB jB.memJ) hrne
  rw [← R.dist _ jB.memI _ jB.memJ jB.ne, ← jB.min, heq, jA.min]

end rel

/-- `kbranch` reads the height table only at an internal node: below `n` the two tables need not agree -/
theorem kbranch_eq (n : Nat) (h : ℚ) (hA hB : Array ℚ) (cA cB : Nat) (hge : n ≤ cB ↔ n ≤ cA)
    (hv : n ≤ cB → hB.getD cB 0 = hA.getD cA 0) : kbranch n h hB cB = kbranch n h hA cA := by
  unfold kbranch vget
  by_cases hc : n ≤ cB
  · simp only [ofNat_rat, Nat.cast_zero, ge_iff_le, hc, hge.mp hc, hv hc]
  · rw [if_neg hc, if_neg (fun h' => hc (hge.mpr h'))]

theorem kbranch_congr (n : Nat) (h : ℚ) (hA hB : Array ℚ) (cA cB : Nat) (hge : n ≤ cB ↔ n ≤ cA)
    (hv : n ≤ cB → cB = cA ∧ hB.getD cB 0 = hA.getD cA 0) : kbranch n h hB cB = kbranch n h hA cA :=
  kbranch_eq n h hA hB cA cB hge fun hc => (hv hc).2

section relstep
variable {n k : Nat} {p : List Nat} (hp : p.Perm (List.range n)) {A B : KState ℚ} (R : Rel n p A B)
  (hA : KStruct n k A) (hB : KStruct n k B)
include hp R hA hB

theorem Rel.step (hk : k + 2 ≤ n) (hU : UniqueMin A) : Rel n p (kstep n A) (kstep n B) := by
  obtain ⟨LA, jA⟩ := kAct_join A (by have := hA.asize; omega) hA.nd
  obtain ⟨LB, jB⟩ := kAct_join B (by have := hB.asize; omega) hB.nd
  obtain ⟨heq, hor⟩ := R.min_corr hp hA hB hk hU jA jB
  have ltA : ∀ x ∈ B.act.toList, relab n p x < A.rows.size := fun x hx => by
    rw [hA.rsize]; exact hA.alt _ (R.mem_AB hx)
  -- the kept parts correspond
  have hL : (LB.map (relab n p)).Perm LA := by
    have h1 : ((LB ++ [kI B, kJ B]).map (relab n p)).Perm (LA ++ [kI A, kJ A]) :=
      ((jB.perm.map _).trans R.act).trans jA.perm.symm
    simp only [List.map_append, List.map_cons, List.map_nil] at h1
    rcases hor with ⟨e1, e2⟩ | ⟨e1, e2⟩
    · rw [e1, e2] at h1
      exact (List.perm_append_right_iff _).mp h1
    · rw [e1, e2] at h1
      have h2 : (LA ++ [kI A, kJ A]).Perm (LA ++ [kJ A, kI A]) := List.Perm.append_left LA (List.Perm.swap _ _ _)
      exact (List.perm_append_right_iff _).mp (h1.trans h2)
  have hmB : relab n p B.rows.size = A.rows.size := by rw [hB.rsize, hA.rsize, relab_ge hp (by omega)]
  -- merged distances correspond
  have hmerge : ∀ y ∈ B.act.toList, y ≠ kI B → y ≠ kJ B →
      kmerged B.rows (B.size.getD (kI B) 0) (B.size.getD (kJ B) 0) (kI B) (kJ B) y =
        kmerged A.rows (A.size.getD (kI A) 0) (A.size.getD (kJ A) 0) (kI A) (kJ A) (relab n p y) := by
    intro y hyB hy1 hy2
    unfold kmerged
    rw [R.dist _ jB.memI _ hyB (Ne.symm hy1), R.dist _ jB.memJ _ hyB (Ne.symm hy2), R.size.get, R.size.get]
    rcases hor with ⟨e1, e2⟩ | ⟨e1, e2⟩
    · rw [e1, e2]
    · rw [e1, e2]
      simp only [ofNat_rat]; push_cast; ring
  have hsum : B.size.getD (kI B) 0 + B.size.getD (kJ B) 0 = A.size.getD (kI A) 0 + A.size.getD (kJ A) 0 := by
    rw [R.size.get, R.size.get]
    rcases hor with ⟨e1, e2⟩ | ⟨e1, e2⟩
    · rw [e1, e2]
    · rw [e1, e2]; omega
  have hH : kH B = kH A := by unfold kH; rw [heq]
  refine { act := ?_, dist := ?_, size := ?_, hgt := ?_, nodes := ?_ }
  · show ((kAct B).toList.map (relab n p)).Perm (kAct A).toList
    rw [jB.act, jA.act, List.map_append]
    simp only [List.map_cons, List.map_nil, hmB]
    exact List.Perm.append_right _ hL
  · refine lstep_dist (fun x y v => v = kdist (A.rows.push (kRow A)) (relab n p x) (relab n p y)) .upgma n k B hB hk
      (fun x hx y hy hxy => by rw [kdist_push _ _ (ltA x hx) (ltA y hy)]; exact R.dist x hx y hy hxy)
      (fun y hy h1 h2 => ?_)
    rw [hmB, (kdist_push_new A.rows (kRow A) (ltA y hy)).1, (kdist_push_new A.rows (kRow A) (ltA y hy)).2,
      kRow_getD A (ltA y hy)]
    exact ⟨hmerge y hy h1 h2, hmerge y hy h1 h2⟩
  · show TabRel n p 0 (A.size.push _) (B.size.push _)
    rw [hsum]; exact R.size.push hp (by rw [hA.ssize]; omega) _
  · show TabRel n p 0 (A.hgt.push (kH A)) (B.hgt.push (kH B))
    rw [hH]; exact R.hgt.push hp (by rw [hA.hsize]; omega) _
  · show List.Forall₂ (NodeRel n p) (_ :: A.nodes) (_ :: B.nodes)
    refine List.Forall₂.cons ?_ R.nodes
    rw [hH]
    have kb : ∀ cA cB, relab n p cB = cA → kbranch n (kH A) B.hgt cB = kbranch n (kH A) A.hgt cA := fun cA cB e =>
      kbranch_eq n _ _ _ _ _ (by rw [← e]; exact (relab_ge_iff hp).symm) (fun _ => by rw [← e]; exact R.hgt.get cB)
    rcases hor with ⟨e1, e2⟩ | ⟨e1, e2⟩
    · exact Or.inl ⟨e1, e2, kb _ _ e1, kb _ _ e2⟩
    · exact Or.inr ⟨e1, e2, kb _ _ e1, kb _ _ e2⟩

end relstep

theorem kinit_kdist (m : Mode) (rws : List Row) {x y : Nat} (hxy : x ≠ y) (hx : x < rws.length) (hy : y < rws.length) :
    kdist (kinit (α := ℚ) m rws).rows x y = 1 - pid (α := ℚ) m (rws.getD x []) (rws.getD y []) := by
  rw [kinit_eq_kinitMx]
  rcases Nat.lt_or_gt_of_ne hxy with h | h
  · rw [kinitMx_kdist _ _ h hy, ofNat_rat, Nat.cast_one]
  · rw [kdist_comm _ hxy, kinitMx_kdist _ _ h hx, ofNat_rat, Nat.cast_one, pid_comm]

theorem getD_map_perm (rws : List Row) (p : List Nat) {x : Nat} (hx : x < p.length) :
    (p.map (fun i => rws.getD i [])).getD x [] = rws.getD (p.getD x 0) [] := by
  rw [List.getD_eq_getElem?_getD, List.getElem?_map, List.getElem?_eq_getElem hx, List.getD_eq_getElem?_getD (l := p),
    List.getElem?_eq_getElem hx]
  rfl


theorem Rel.init (m : Mode) (rws : List Row) (p : List Nat) (hp : p.Perm (List.range rws.length)) :
    Rel rws.length p (kinit (α := ℚ) m rws) (kinit (α := ℚ) m (p.map fun i => rws.getD i [])) := by
  have hl := p_length hp
  have hlB : (p.map fun i => rws.getD i []).length = rws.length := by simp [hl]
  refine { act := ?_, dist := ?_, size := ?_, hgt := ?_, nodes := List.Forall₂.nil }
  · show ((Array.range (p.map fun i => rws.getD i []).length).toList.map (relab rws.length p)).Perm (Array.range rws.length).toList
    rw [hlB, Array.toList_range, map_relab_range hp]
    exact hp
  · intro x hx y hy hxy
    have hx' : x < rws.length := by simpa [kinit, hl] using hx
    have hy' : y < rws.length := by simpa [kinit, hl] using hy
    have ex : relab rws.length p x = p.getD x 0 := by unfold relab; rw [if_pos hx']
    have ey : relab rws.length p y = p.getD y 0 := by unfold relab; rw [if_pos hy']
    rw [kinit_kdist m _ hxy (by rw [hlB]; exact hx') (by rw [hlB]; exact hy'), getD_map_perm rws p (by omega),
      getD_map_perm rws p (by omega), ← ex, ← ey,
      kinit_kdist m rws (fun e => hxy (relab_inj hp e)) (relab_lt hp hx') (relab_lt hp hy')]
  · show TabRel _ p 0 (Array.replicate _ 1) (Array.replicate _ 1)
    rw [hlB]; exact TabRel.replicate hp 1 0
  · show TabRel _ p 0 (Array.replicate _ (ofNat 0 : ℚ)) (Array.replicate _ (ofNat 0 : ℚ))
    rw [hlB]; exact TabRel.replicate hp _ 0

/-- no pass of UPGMA on this alignment has a tie for the minimum -/
def TieFree (m : Mode) (rws : List Row) : Prop :=
  ∀ k, k + 1 < rws.length → UniqueMin (krun rws.length (kinit (α := ℚ) m rws) k)

theorem krun_struct (m : Mode) (rws : List Row) (k : Nat) (hk : k + 1 ≤ rws.length) :
    KStruct rws.length k (krun rws.length (kinit (α := ℚ) m rws) k) := by
  rw [kinit_eq_kinitMx, ← lrun_upgma]; exact lrun_struct .upgma _ _ k hk

theorem Rel.run (m : Mode) (rws : List Row) (p : List Nat) (hp : p.Perm (List.range rws.length))
    (htf : TieFree m rws) (k : Nat) (hk : k + 1 ≤ rws.length) :
    Rel rws.length p (krun rws.length (kinit (α := ℚ) m rws) k)
      (krun rws.length (kinit (α := ℚ) m (p.map fun i => rws.getD i [])) k) := by
  have hlB : (p.map fun i => rws.getD i []).length = rws.length := by simp [p_length hp]
  induction k with
  | zero => exact Rel.init m rws p hp
  | succ k ih =>
    have hB := krun_struct m (p.map fun i => rws.getD i []) k (by omega)
    rw [hlB] at hB
    exact (ih (by omega)).step hp (krun_struct m rws k (by omega)) hB (by omega) (htf k (by omega))

section trav
variable {n : Nat} {p : List Nat} (hp : p.Perm (List.range n))
include hp

theorem push_fold_rel {β : Type} (d : β) (f : Array β → KNode ℚ → β)
    (hf : ∀ a b xa xb, NodeRel n p a b → TabRel n p d xa xb → f xb b = f xa a)
    (la lb : List (KNode ℚ)) (h : List.Forall₂ (NodeRel n p) la lb) :
    ∀ (xa xb : Array β), TabRel n p d xa xb → n ≤ xa.size →
      TabRel n p d (la.foldl (fun xs nd => xs.push (f xs nd)) xa) (lb.foldl (fun xs nd => xs.push (f xs nd)) xb) := by
  induction h with
  | nil => intro xa xb hr _; exact hr
  | @cons a b la' lb' hab _ ih =>
    intro xa xb hr hn
    simp only [List.foldl_cons]
    rw [hf a b xa xb hab hr]
    exact ih _ _ (hr.push hp hn _) (by simp; omega)

theorem clades_rel (la lb : List (KNode ℚ)) (h : List.Forall₂ (NodeRel n p) la lb) :
    TabRel n p 0 (kclades n la) (kclades n lb) := by
  refine push_fold_rel hp 0 (fun cs nd => cs.getD nd.I 0 + cs.getD nd.J 0) (fun a b ca cb hab hr => ?_) la lb h _ _
    (TabRel.replicate hp 1 0) (by simp)
  rw [hr.get b.I, hr.get b.J]
  rcases hab with ⟨e1, e2, _, _⟩ | ⟨e1, e2, _, _⟩
  · rw [e1, e2]
  · rw [e1, e2, Nat.add_comm]

theorem kside_rel {xsA xsB : Array ℚ} (hxs : ∀ x, xsB.getD x 0 = xsA.getD (relab n p x) 0) (d : ℚ) {cA cB : Nat}
    (e : relab n p cB = cA) : kside n xsB d cB = kside n xsA d cA := by
  have hv : vget xsB cB = vget xsA (relab n p cB) := by unfold vget; simpa using hxs cB
  have g : cB ≥ n ↔ cA ≥ n := by rw [← e]; exact (relab_ge_iff hp).symm
  unfold kside
  rw [hv, e]; simp only [g]

omit hp in
theorem kside_comm (xs : Array ℚ) (d : ℚ) (i j : Nat) : kside n xs (kside n xs d i) j = kside n xs (kside n xs d j) i := by
  unfold kside
  split_ifs <;> ring

theorem up_rel (la lb : List (KNode ℚ)) (h : List.Forall₂ (NodeRel n p) la lb) : TabRel n p 0 (kup n la) (kup n lb) := by
  refine push_fold_rel hp 0 (fun xs nd => kside n xs (kside n xs (nd.l + nd.r) nd.I) nd.J) (fun a b xa xb hab hr => ?_)
    la lb h _ _ (TabRel.replicate hp (ofNat 0 : ℚ) 0) (by simp)
  rcases hab with ⟨e1, e2, e3, e4⟩ | ⟨e1, e2, e3, e4⟩
  · rw [kside_rel hp hr.get _ e2, kside_rel hp hr.get _ e1, e3, e4]
  · rw [kside_rel hp hr.get _ e2, kside_rel hp hr.get _ e1, e3, e4, kside_comm, add_comm]

omit hp in
theorem lookupD_cons (k : Nat) (v : ℚ) (l : List (Nat × ℚ)) (x : Nat) :
    lookupD ((k, v) :: l) x = if k = x then v else lookupD l x := by
  unfold lookupD
  by_cases h : k = x
  · subst h; simp [List.find?_cons]
  · have hb : ((k, v).1 == x) = false := by simpa using h
    rw [List.find?_cons, hb, if_neg h]

theorem down_rel (csA csB : Array Nat) (xsA xsB : Array ℚ)
    (hcs : ∀ x, csB.getD x 0 = csA.getD (relab n p x) 0) (hxs : ∀ x, xsB.getD x 0 = xsA.getD (relab n p x) 0)
    (la lb : List (KNode ℚ)) (h : List.Forall₂ (NodeRel n p) la lb) (hne : ∀ nd ∈ la, nd.I ≠ nd.J) :
    ∀ (abA abB : List (Nat × ℚ)) (c : Nat), n + la.length ≤ c + 1 →
      (∀ x, lookupD abB x = lookupD abA (relab n p x)) →
      ∀ x, lookupD (lb.foldl (kdownStep n csB xsB) (abB, c)).1 x =
           lookupD (la.foldl (kdownStep n csA xsA) (abA, c)).1 (relab n p x) := by
  induction h with
  | nil => intro abA abB c _ hr; simpa using hr
  | @cons a b la' lb' hab _ ih =>
    intro abA abB c hc hr
    simp only [List.foldl_cons]
    have hcn : n ≤ c := by simp only [List.length_cons] at hc; omega
    have hneab : a.I ≠ a.J := hne a (by simp)
    unfold kdownStep
    simp only []
    apply ih (fun nd hnd => hne nd (by simp [hnd]))
    · simp only [List.length_cons] at hc; omega
    · intro x
      have hxi : lookupD abB c = lookupD abA c := by rw [hr c, relab_ge hp hcn]
      have hshare : ∀ (cA cB : Nat) (xi mine total : ℚ), relab n p cB = cA →
          kshare n csB cB c xi mine total = kshare n csA cA c xi mine total := by
        intro cA cB xi mine total e
        unfold kshare
        have g : cB ≥ n ↔ cA ≥ n := by rw [← e]; exact (relab_ge_iff hp).symm
        have hc' : csB.getD c 0 = csA.getD c 0 := by rw [hcs c, relab_ge hp hcn]
        rw [hcs cB, e, hc']; simp only [g]
      rw [lookupD_cons, lookupD_cons, lookupD_cons, lookupD_cons, hxi]
      rcases hab with ⟨e1, e2, e3, e4⟩ | ⟨e1, e2, e3, e4⟩
      · rw [kside_rel hp hxs b.l e1, kside_rel hp hxs b.r e2, hshare a.J b.J _ _ _ e2, hshare a.I b.I _ _ _ e1, e3, e4]
        simp only [relab_eq_iff hp e1, relab_eq_iff hp e2]
        rw [hr x]
      · rw [kside_rel hp hxs b.l e1, kside_rel hp hxs b.r e2, hshare a.I b.J _ _ _ e2, hshare a.J b.I _ _ _ e1, e3, e4]
        simp only [relab_eq_iff hp e1, relab_eq_iff hp e2]
        rw [hr x, add_comm (kside n xsA a.r a.J) (kside n xsA a.l a.I)]
        by_cases h1 : a.I = relab n p x
        · have h2 : ¬ a.J = relab n p x := fun e => hneab (h1.trans e.symm)
          simp [h1, h2]
        · simp [h1]

end trav

/-- the shares handed down by the preorder pass on the tree UPGMA builds for `rws` -/
def gscAbove (m : Mode) (rws : List Row) : List (Nat × ℚ) :=
  let n := rws.length
  let st := krun n (kinit (α := ℚ) m rws) (n - 1)
  kdown n (kclades n st.nodes.reverse) (kup n st.nodes.reverse) st.nodes

theorem gscRaw_eq (m : Mode) (rws : List Row) :
    gscRaw (α := ℚ) m rws = (List.range rws.length).map (lookupD (gscAbove m rws)) := rfl

theorem gscAbove_perm (m : Mode) (rws : List Row) (p : List Nat) (hp : p.Perm (List.range rws.length))
    (htf : TieFree m rws) (hn : 1 ≤ rws.length) (x : Nat) :
    lookupD (gscAbove m (p.map fun i => rws.getD i [])) x = lookupD (gscAbove m rws) (relab rws.length p x) := by
  have hl := p_length hp
  have hlB : (p.map fun i => rws.getD i []).length = rws.length := by simp [hl]
  have R := Rel.run m rws p hp htf (rws.length - 1) (by omega)
  have hne := NodesOK.ne (krun_struct m rws (rws.length - 1) (by omega)).ok
  unfold gscAbove
  simp only [hlB]
  generalize krun rws.length (kinit (α := ℚ) m rws) (rws.length - 1) = stA at R hne
  generalize krun rws.length (kinit (α := ℚ) m (p.map fun i => rws.getD i [])) (rws.length - 1) = stB at R
  have hrev : List.Forall₂ (NodeRel rws.length p) stA.nodes.reverse stB.nodes.reverse :=
    List.forall₂_reverse_iff.mpr R.nodes
  have hlen : stB.nodes.length = stA.nodes.length := R.nodes.length_eq.symm
  unfold kdown
  rw [hlen]
  exact down_rel hp _ _ _ _ (clades_rel hp _ _ hrev).get (up_rel hp _ _ hrev).get _ _ R.nodes hne [] [] _ (by omega)
    (fun _ => rfl) x

theorem gscRaw_perm (m : Mode) (rws : List Row) (p : List Nat) (hp : p.Perm (List.range rws.length))
    (htf : TieFree m rws) :
    gscRaw (α := ℚ) m (p.map fun i => rws.getD i []) = p.map (lookupD (gscAbove m rws)) := by
  have hlB : (p.map fun i => rws.getD i []).length = rws.length := by simp [p_length hp]
  rw [gscRaw_eq, hlB]
  conv_rhs => rw [← map_relab_range hp]
  rw [List.map_map]
  apply List.map_congr_left
  intro x hx
  exact gscAbove_perm m rws p hp htf (by have := List.mem_range.mp hx; omega) x

theorem gsc_perm (m : Mode) (rws : List Row) (p : List Nat) (hp : p.Perm (List.range rws.length))
    (htf : TieFree m rws) :
    gsc (α := ℚ) m (p.map fun i => rws.getD i []) = p.map (fun i => (gsc (α := ℚ) m rws).getD i 0) := by
  obtain ⟨f, h1, h2⟩ := finishW_relist (lookupD (gscAbove m rws)) hp.symm
  rw [gsc_eq_finish, gsc_eq_finish, gscRaw_perm m rws p hp htf, gscRaw_eq, h1, h2]
  apply List.map_congr_left
  intro i hi
  have hi' : i < rws.length := List.mem_range.mp (hp.mem_iff.mp hi)
  rw [List.getD_eq_getElem?_getD, List.getElem?_map, List.getElem?_range hi']
  rfl

def swapIdx (i j x : Nat) : Nat := if x = i then j else if x = j then i else x

theorem swapIdx_invol (i j x : Nat) : swapIdx i j (swapIdx i j x) = x := by
  unfold swapIdx; split_ifs <;> omega

theorem swapIdx_perm (n i j : Nat) (hi : i < n) (hj : j < n) : ((List.range n).map (swapIdx i j)).Perm (List.range n) := by
  have hinj : Function.Injective (swapIdx i j) := fun a b h => by
    have := congrArg (swapIdx i j) h
    rwa [swapIdx_invol, swapIdx_invol] at this
  rw [List.perm_ext_iff_of_nodup (List.nodup_range.map hinj) List.nodup_range]
  intro x
  simp only [List.mem_map, List.mem_range]
  constructor
  · rintro ⟨y, hy, rfl⟩
    unfold swapIdx; split_ifs <;> omega
  · intro hx
    refine ⟨swapIdx i j x, ?_, swapIdx_invol i j x⟩
    unfold swapIdx; split_ifs <;> omega

/-- executable form of `UniqueMin` -/
def uniqueMinB (A : KState ℚ) : Bool :=
  (upperPairs A.act.size).all fun rc =>
    decide (rc.1 = kPosI A ∧ rc.2 = kPosJ A) ||
      decide (kdist A.rows (kI A) (kJ A) < kdist A.rows (A.act.getD rc.1 0) (A.act.getD rc.2 0))

theorem uniqueMin_of_check (A : KState ℚ) (h : uniqueMinB A = true) : UniqueMin A := by
  intro r c hrc hc hne
  unfold uniqueMinB at h
  rw [List.all_eq_true] at h
  have := h (r, c) (mem_upperPairs.mpr ⟨hrc, hc⟩)
  simp only [Bool.or_eq_true, decide_eq_true_eq] at this
  rcases this with h1 | h1
  · exact absurd h1 hne
  · exact h1

/-- executable form of `TieFree` -/
def tieFreeB (m : Mode) (rws : List Row) : Bool :=
  (List.range (rws.length - 1)).all fun k => uniqueMinB (krun rws.length (kinit (α := ℚ) m rws) k)

theorem tieFree_of_check (m : Mode) (rws : List Row) (h : tieFreeB m rws = true) : TieFree m rws := by
  intro k hk
  unfold tieFreeB at h
  rw [List.all_eq_true] at h
  exact uniqueMin_of_check _ (h k (List.mem_range.mpr (by omega)))

end EaselModel.Weights
