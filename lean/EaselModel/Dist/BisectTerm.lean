import EaselModel.Dist.RealInst
import EaselModel.Dist.Bisect
import Mathlib.Tactic.Linarith
import Mathlib.Tactic.Ring
/-! The bracketing + bisection loops (`Dist/Bisect.lean`, the generic form of the four generated `esl_*_invcdf` functions)
    over `ℝ`: where they end, that they end, how wide the final bracket is and how accurate its midpoint.
    The loop of `esl_sxp/hxp/gam_invcdf` can only continue while the bracket is wider than `1e-6 · (x1 + x2 − 2μ)`, so it stops
    when `cdf < p` on some `[μ, μ+δ]`; **without that hypothesis (e.g. `p = 0`) the real-number loop never stops**: the defect
    repaired in /repo by 3a05169, where `esl_hxp_invcdf` / `esl_sxp_invcdf` hung for quantiles within about `1e6` ulp of `μ` (the
    repaired code also breaks when the midpoint stops moving, a binary64 event that has no counterpart over `ℝ`).
    The loop of `esl_mixgev_invcdf` has an absolute floor in its stop rule and stops for every cdf. -/
noncomputable section
namespace EaselModel.Dist.BisectTerm
open EaselModel.Dist EaselModel.Dist.Bisect

/-- The shape the bracketing loops share: move by `step`, go on while `go` holds of the new point. -/
def iterUntil (step : ℝ → ℝ) (go : ℝ → Prop) [DecidablePred go] : ℕ → ℝ → Option ℝ
  | 0, _ => none
  | n + 1, x => if go (step x) then iterUntil step go n (step x) else some (step x)

section
variable {step : ℝ → ℝ} {go : ℝ → Prop} [DecidablePred go]

theorem iterUntil_eq_some : ∀ {n : ℕ} {x r : ℝ}, iterUntil step go n x = some r → ∃ k, k < n ∧ r = step^[k + 1] x ∧ ¬ go r
  | 0, _, _, h => by simp [iterUntil] at h
  | n + 1, x, r, h => by
    rw [iterUntil] at h
    split_ifs at h with hg
    · obtain ⟨k, hk, hr, hgo⟩ := iterUntil_eq_some h
      exact ⟨k + 1, by omega, hr, hgo⟩
    · obtain rfl := Option.some.inj h
      exact ⟨0, by omega, rfl, hg⟩

/-- once `go` fails at some iterate, the loop returns the first such iterate for every larger fuel -/
theorem iterUntil_stops : ∀ {k : ℕ} {x : ℝ}, ¬ go (step^[k + 1] x) →
    ∃ j, j ≤ k ∧ ¬ go (step^[j + 1] x) ∧ ∀ n, j < n → iterUntil step go n x = some (step^[j + 1] x)
  | k, x, h => by
    by_cases hg : go (step x)
    · obtain ⟨k, rfl⟩ : ∃ k', k = k' + 1 := Nat.exists_eq_succ_of_ne_zero (fun h0 => by subst h0; exact h hg)
      obtain ⟨j, hj, hgo, hn⟩ := iterUntil_stops (k := k) (x := step x) h
      refine ⟨j + 1, by omega, hgo, fun n hjn => ?_⟩
      obtain ⟨n, rfl⟩ : ∃ n', n = n' + 1 := Nat.exists_eq_succ_of_ne_zero (by omega)
      rw [iterUntil, if_pos hg]; exact hn n (by omega)
    · refine ⟨0, by omega, hg, fun n hn => ?_⟩
      obtain ⟨n, rfl⟩ : ∃ n', n = n' + 1 := Nat.exists_eq_succ_of_ne_zero (by omega)
      rw [iterUntil, if_neg hg]; rfl

theorem iterUntil_none (h : ∀ x, go x) : ∀ (n : ℕ) (x : ℝ), iterUntil step go n x = none
  | 0, _ => rfl
  | n + 1, x => by rw [iterUntil, if_pos (h _)]; exact iterUntil_none h n _
end

/-! the three bracketing loops: `x2 ← x2 + 2 (x2 − x1)` (the reach `x2 − x1` triples), its mirror image to the left, and
    gamma's `x2 ← 2 x2` -/

theorem bracketRight_eq (cdf : ℝ → ℝ) (p x1 : ℝ) : ∀ (n : ℕ) (x2 : ℝ),
    bracketRight cdf p x1 n x2 = iterUntil (fun x => x + 2 * (x - x1)) (fun x => cdf x < p) n x2
  | 0, _ => rfl
  | n + 1, x2 => by simp only [bracketRight, iterUntil, lit_two, bracketRight_eq cdf p x1 n]

theorem bracketLeft_eq (cdf : ℝ → ℝ) (p x2 : ℝ) : ∀ (n : ℕ) (x1 : ℝ),
    bracketLeft cdf p x2 n x1 = iterUntil (fun x => x - 2 * (x2 - x)) (fun x => p < cdf x) n x1
  | 0, _ => rfl
  | n + 1, x1 => by simp only [bracketLeft, iterUntil, lit_two, bracketLeft_eq cdf p x2 n]

theorem bracketGam_eq (cdf : ℝ → ℝ) (p mu : ℝ) : ∀ (n : ℕ) (x2 : ℝ),
    bracketGam cdf p mu n x2 = iterUntil (fun x => x * 2) (fun x => cdf (mu + x) < p) n x2
  | 0, _ => rfl
  | n + 1, x2 => by simp only [bracketGam, iterUntil, lit_two, bracketGam_eq cdf p mu n]

theorem tripleRight_iterate (x1 x2 : ℝ) : ∀ k : ℕ, (fun x => x + 2 * (x - x1))^[k] x2 = x1 + 3 ^ k * (x2 - x1)
  | 0 => by simp
  | k + 1 => by rw [Function.iterate_succ_apply', tripleRight_iterate x1 x2 k, pow_succ]; ring

theorem tripleLeft_iterate (x1 x2 : ℝ) : ∀ k : ℕ, (fun x => x - 2 * (x2 - x))^[k] x1 = x2 - 3 ^ k * (x2 - x1)
  | 0 => by simp
  | k + 1 => by rw [Function.iterate_succ_apply', tripleLeft_iterate x1 x2 k, pow_succ]; ring

theorem double_iterate (x : ℝ) : ∀ k : ℕ, (fun x : ℝ => x * 2)^[k] x = 2 ^ k * x
  | 0 => by simp
  | k + 1 => by rw [Function.iterate_succ_apply', double_iterate x k, pow_succ]; ring

section
variable {cdf : ℝ → ℝ} {p x1 x2 mu X r : ℝ} {n : ℕ}

theorem bracketRight_spec (h12 : x1 ≤ x2) (h : bracketRight cdf p x1 n x2 = some r) : x2 ≤ r ∧ p ≤ cdf r := by
  rw [bracketRight_eq] at h
  obtain ⟨k, _, rfl, hgo⟩ := iterUntil_eq_some h
  rw [tripleRight_iterate] at hgo ⊢
  exact ⟨by linarith [le_mul_of_one_le_left (sub_nonneg.mpr h12) (one_le_pow₀ (by norm_num : (1 : ℝ) ≤ 3) (n := k + 1))],
    not_lt.mp hgo⟩

theorem bracketRight_stops (hX : ∀ x, X ≤ x → p ≤ cdf x) (h12 : x1 ≤ x2) (h : X ≤ x1 + 3 ^ (n + 1) * (x2 - x1)) :
    ∃ r, (∀ fuel, n + 1 ≤ fuel → bracketRight cdf p x1 fuel x2 = some r) ∧ x2 ≤ r ∧ p ≤ cdf r ∧
      r - x1 ≤ 3 ^ (n + 1) * (x2 - x1) := by
  obtain ⟨j, hj, hgo, hn⟩ := iterUntil_stops (step := fun x => x + 2 * (x - x1)) (go := fun x => cdf x < p) (k := n) (x := x2)
    (by rw [tripleRight_iterate]; exact not_lt.mpr (hX _ h))
  rw [tripleRight_iterate] at hgo hn
  refine ⟨_, fun fuel hf => by rw [bracketRight_eq]; exact hn fuel (by omega), ?_, not_lt.mp hgo, ?_⟩
  · linarith [le_mul_of_one_le_left (sub_nonneg.mpr h12) (one_le_pow₀ (by norm_num : (1 : ℝ) ≤ 3) (n := j + 1))]
  · rw [add_sub_cancel_left]
    exact mul_le_mul_of_nonneg_right (pow_le_pow_right₀ (by norm_num) (by omega)) (sub_nonneg.mpr h12)

/-- when `p` lies above every value of the cdf the right bracketing loop never ends, whatever the fuel
    (e.g. a mixture whose coefficients sum to `1 − 2⁻⁵³`, `p = 1`: `esl_hxp_invcdf` / `esl_mixgev_invcdf` did not return on such
    input until 55bbf88 added the `x2 < eslINFINITY` test to their loop, `Bisect.bracketRightLim`) -/
theorem bracketRight_never (h : ∀ x, cdf x < p) (n : ℕ) (x2 : ℝ) : bracketRight cdf p x1 n x2 = none := by
  rw [bracketRight_eq]; exact iterUntil_none h n x2

theorem bracketLeft_spec (h12 : x1 ≤ x2) (h : bracketLeft cdf p x2 n x1 = some r) : r ≤ x1 ∧ cdf r ≤ p := by
  rw [bracketLeft_eq] at h
  obtain ⟨k, _, rfl, hgo⟩ := iterUntil_eq_some h
  rw [tripleLeft_iterate] at hgo ⊢
  exact ⟨by linarith [le_mul_of_one_le_left (sub_nonneg.mpr h12) (one_le_pow₀ (by norm_num : (1 : ℝ) ≤ 3) (n := k + 1))],
    not_lt.mp hgo⟩

theorem bracketLeft_stops (hX : ∀ x, x ≤ X → cdf x ≤ p) (h12 : x1 ≤ x2) (h : x2 - 3 ^ (n + 1) * (x2 - x1) ≤ X) :
    ∃ r, (∀ fuel, n + 1 ≤ fuel → bracketLeft cdf p x2 fuel x1 = some r) ∧ r ≤ x1 ∧ cdf r ≤ p ∧
      x2 - r ≤ 3 ^ (n + 1) * (x2 - x1) := by
  obtain ⟨j, hj, hgo, hn⟩ := iterUntil_stops (step := fun x => x - 2 * (x2 - x)) (go := fun x => p < cdf x) (k := n) (x := x1)
    (by rw [tripleLeft_iterate]; exact not_lt.mpr (hX _ h))
  rw [tripleLeft_iterate] at hgo hn
  refine ⟨_, fun fuel hf => by rw [bracketLeft_eq]; exact hn fuel (by omega), ?_, not_lt.mp hgo, ?_⟩
  · linarith [le_mul_of_one_le_left (sub_nonneg.mpr h12) (one_le_pow₀ (by norm_num : (1 : ℝ) ≤ 3) (n := j + 1))]
  · rw [sub_sub_cancel]
    exact mul_le_mul_of_nonneg_right (pow_le_pow_right₀ (by norm_num) (by omega)) (sub_nonneg.mpr h12)

theorem bracketGam_spec (h0 : 0 ≤ x2) (h : bracketGam cdf p mu n x2 = some r) : 0 ≤ r ∧ p ≤ cdf (mu + r) := by
  rw [bracketGam_eq] at h
  obtain ⟨k, _, rfl, hgo⟩ := iterUntil_eq_some h
  rw [double_iterate] at hgo ⊢
  exact ⟨mul_nonneg (pow_pos two_pos _).le h0, not_lt.mp hgo⟩

theorem bracketGam_stops (hX : ∀ x, X ≤ x → p ≤ cdf x) (h0 : 0 ≤ x2) (h : X ≤ mu + 2 ^ (n + 1) * x2) :
    ∃ r, (∀ fuel, n + 1 ≤ fuel → bracketGam cdf p mu fuel x2 = some r) ∧ 0 ≤ r ∧ p ≤ cdf (mu + r) ∧ r ≤ 2 ^ (n + 1) * x2 := by
  obtain ⟨j, hj, hgo, hn⟩ := iterUntil_stops (step := fun x : ℝ => x * 2) (go := fun x => cdf (mu + x) < p) (k := n) (x := x2)
    (by rw [double_iterate]; exact not_lt.mpr (hX _ h))
  rw [double_iterate] at hgo hn
  exact ⟨_, fun fuel hf => by rw [bracketGam_eq]; exact hn fuel (by omega), mul_nonneg (pow_pos two_pos _).le h0, not_lt.mp hgo,
    mul_le_mul_of_nonneg_right (pow_le_pow_right₀ (by norm_num) (by omega)) h0⟩

end

/-- on ℝ the `x2 < eslINFINITY` test of the hxp / mixgev bracketing loop is always true -/
theorem bracketRightLim_real (cdf : ℝ → ℝ) (p x1 : ℝ) : ∀ (n : Nat) (x2 : ℝ),
    bracketRightLim cdf p x1 n x2 = bracketRight cdf p x1 n x2
  | 0, _ => rfl
  | n + 1, x2 => by simp only [bracketRightLim, bracketRight, num_ltInf, and_true, bracketRightLim_real cdf p x1 n]

theorem invcdfRightLim_real (fuel : Nat) (cdf : ℝ → ℝ) (p mu : ℝ) : invcdfRightLim fuel cdf p mu = invcdfRight fuel cdf p mu := by
  simp only [invcdfRightLim, invcdfRight, bracketRightLim_real]

theorem lit_tol : (1.0e-6 : ℝ) = 1e-6 := by norm_num
theorem lit_eps : (1.0e-9 : ℝ) = 1e-9 := by norm_num

theorem mid_mem {x1 x2 : ℝ} (h : x1 ≤ x2) : x1 ≤ (x1 + x2) / 2 ∧ (x1 + x2) / 2 ≤ x2 := by
  constructor <;> linarith

/-- result of the `sxp/hxp/gam` bisection: midpoint of a final bracket inside the entry bracket whose width obeys the
    stop rule (`a = b` covers the exact hit and the no-progress `break`) -/
def Final (cdf : ℝ → ℝ) (p mu x1 x2 r : ℝ) : Prop :=
  ∃ a b, x1 ≤ a ∧ a ≤ b ∧ b ≤ x2 ∧ cdf a ≤ p ∧ p ≤ cdf b ∧ r = (a + b) / 2 ∧ b - a ≤ 1e-6 * ((a + b) - 2 * mu)

/-- result of the `mixgev` bisection: stop rule `(b − a) ≤ 1e-6 (|a| + |b| + 1e-9)` -/
def FinalMix (cdf : ℝ → ℝ) (p x1 x2 r : ℝ) : Prop :=
  ∃ a b, x1 ≤ a ∧ a ≤ b ∧ b ≤ x2 ∧ cdf a ≤ p ∧ p ≤ cdf b ∧ r = (a + b) / 2 ∧ b - a ≤ 1e-6 * ((|a| + |b|) + 1e-9)

/-! Over `ℝ` the two bisection loops are ONE loop with two continue tests: the no-progress `break` of `Bisect.bisect` fires only on
    a bracket of width `0`, where every branch returns that point anyway (`bisect_eq`). -/

/-- halve; keep the half on whose ends `cdf` brackets `p`; go on while `go` holds of it, else return its midpoint -/
def bis (cdf : ℝ → ℝ) (p : ℝ) (go : ℝ → ℝ → Prop) [DecidableRel go] : ℕ → ℝ → ℝ → Option ℝ
  | 0, _, _ => none
  | n + 1, x1, x2 =>
    if p < cdf ((x1 + x2) / 2) then
      (if go x1 ((x1 + x2) / 2) then bis cdf p go n x1 ((x1 + x2) / 2) else some ((x1 + (x1 + x2) / 2) / 2))
    else if cdf ((x1 + x2) / 2) < p then
      (if go ((x1 + x2) / 2) x2 then bis cdf p go n ((x1 + x2) / 2) x2 else some (((x1 + x2) / 2 + x2) / 2))
    else some ((x1 + x2) / 2)

/-- continue test of `esl_sxp/hxp/gam_invcdf` -/
abbrev goRel (mu a b : ℝ) : Prop := 1e-6 < (b - a) / ((a + b) - 2 * mu)
/-- continue test of `esl_mixgev_invcdf` -/
abbrev goAbs (a b : ℝ) : Prop := 1e-6 * ((|a| + |b|) + 1e-9) < b - a

theorem goRel_self (mu a : ℝ) : ¬ goRel mu a a := by rw [goRel, sub_self, zero_div]; norm_num

theorem goAbs_self (a : ℝ) : ¬ goAbs a a := by
  have := abs_nonneg a
  simp only [goAbs, sub_self, not_lt]; linarith

theorem bisectMix_eq (cdf : ℝ → ℝ) (p : ℝ) : ∀ (n : ℕ) (x1 x2 : ℝ), bisectMix cdf p n x1 x2 = bis cdf p goAbs n x1 x2
  | 0, _, _ => rfl
  | n + 1, x1, x2 => by
    simp only [bisectMix, bis, goAbs, lit_two, lit_tol, lit_eps, num_fabs, bisectMix_eq cdf p n]

theorem bisect_eq (cdf : ℝ → ℝ) (p mu : ℝ) : ∀ (n : ℕ) (x1 x2 : ℝ), x1 ≤ x2 →
    bisect cdf p mu n x1 x2 = bis cdf p (goRel mu) n x1 x2
  | 0, _, _, _ => rfl
  | n + 1, x1, x2, h12 => by
    obtain ⟨hm1, hm2⟩ := mid_mem h12
    simp only [bisect, bis, lit_two, lit_tol, bisect_eq cdf p mu n _ _ hm1, bisect_eq cdf p mu n _ _ hm2]
    rcases h12.eq_or_lt with rfl | hlt
    · have e : (x1 + x1) / 2 = x1 := by ring
      have g : ¬ goRel mu x1 x1 := goRel_self mu x1
      simp only [e, le_refl, or_self, if_neg g, ite_self]
    · rw [if_neg (not_or.mpr ⟨not_le.mpr (by linarith), not_le.mpr (by linarith)⟩)]

section
variable {cdf : ℝ → ℝ} {p : ℝ} {go : ℝ → ℝ → Prop} [DecidableRel go]

/-- One pass on `[x1, x2]`: it either goes on with a half `[a, b]` that passed the continue test, or returns the midpoint of a
    sub-bracket `[a, b]` on which the test failed (an exact hit is `a = b`).  Ends that bracketed `p` still do. -/
theorem bis_pass (cdf : ℝ → ℝ) (p : ℝ) (hgo0 : ∀ a, ¬ go a a) {x1 x2 : ℝ} (h12 : x1 ≤ x2) :
    ∃ a b, x1 ≤ a ∧ a ≤ b ∧ b ≤ x2 ∧ (cdf x1 ≤ p → cdf a ≤ p) ∧ (p ≤ cdf x2 → p ≤ cdf b) ∧
      ((b - a = (x2 - x1) / 2 ∧ go a b ∧ ∀ n, bis cdf p go (n + 1) x1 x2 = bis cdf p go n a b) ∨
        (¬ go a b ∧ ∀ n, bis cdf p go (n + 1) x1 x2 = some ((a + b) / 2))) := by
  obtain ⟨hm1, hm2⟩ := mid_mem h12
  by_cases hgt : p < cdf ((x1 + x2) / 2)
  · refine ⟨x1, (x1 + x2) / 2, le_rfl, hm1, hm2, id, fun _ => hgt.le, ?_⟩
    by_cases hc : go x1 ((x1 + x2) / 2)
    · exact Or.inl ⟨by ring, hc, fun n => by rw [bis, if_pos hgt, if_pos hc]⟩
    · exact Or.inr ⟨hc, fun n => by rw [bis, if_pos hgt, if_neg hc]⟩
  by_cases hlt : cdf ((x1 + x2) / 2) < p
  · refine ⟨(x1 + x2) / 2, x2, hm1, hm2, le_rfl, fun _ => hlt.le, id, ?_⟩
    by_cases hc : go ((x1 + x2) / 2) x2
    · exact Or.inl ⟨by ring, hc, fun n => by rw [bis, if_neg hgt, if_pos hlt, if_pos hc]⟩
    · exact Or.inr ⟨hc, fun n => by rw [bis, if_neg hgt, if_pos hlt, if_neg hc]⟩
  · exact ⟨(x1 + x2) / 2, (x1 + x2) / 2, hm1, le_rfl, hm2, fun _ => not_lt.mp hgt, fun _ => not_lt.mp hlt,
      Or.inr ⟨hgo0 _, fun n => by rw [bis, if_neg hgt, if_neg hlt, add_self_div_two]⟩⟩

theorem bis_final (hgo0 : ∀ a, ¬ go a a) : ∀ (n : ℕ) (x1 x2 r : ℝ), x1 ≤ x2 → cdf x1 ≤ p → p ≤ cdf x2 →
    bis cdf p go n x1 x2 = some r →
    ∃ a b, x1 ≤ a ∧ a ≤ b ∧ b ≤ x2 ∧ cdf a ≤ p ∧ p ≤ cdf b ∧ r = (a + b) / 2 ∧ ¬ go a b
  | 0, _, _, _, _, _, _, h => by simp [bis] at h
  | n + 1, x1, x2, r, h12, h1, h2, h => by
    obtain ⟨a, b, ha, hab, hb, hca, hcb, hpass⟩ := bis_pass cdf p hgo0 h12
    rcases hpass with ⟨_, _, heq⟩ | ⟨hw, heq⟩
    · rw [heq] at h
      obtain ⟨a', b', ha', hab', hb', hca', hcb', hr, hw⟩ := bis_final hgo0 n a b r hab (hca h1) (hcb h2) h
      exact ⟨a', b', ha.trans ha', hab', hb'.trans hb, hca', hcb', hr, hw⟩
    · rw [heq] at h
      exact ⟨a, b, ha, hab, hb, hca h1, hcb h2, (Option.some.inj h).symm, hw⟩

/-- every pass halves the bracket, and the loop can only go on while the bracket is wider than `w`.  `H` is whether the right
    end is known to reach `p`, which right ends then keep: the floor of the relative rule needs it (`H := True`), that of the
    absolute rule does not (`H := False`). -/
theorem bis_stops (hgo0 : ∀ a, ¬ go a a) {L w : ℝ} {H : Prop} (hfloor : ∀ a b, L ≤ a → (H → p ≤ cdf b) → go a b → w < b - a) :
    ∀ (n : ℕ) (x1 x2 : ℝ), L ≤ x1 → x1 ≤ x2 → (H → p ≤ cdf x2) → x2 - x1 ≤ w * 2 ^ n →
      ∃ r, ∀ m, n + 1 ≤ m → bis cdf p go m x1 x2 = some r
  | n, x1, x2, hL, h12, h2, hw => by
    obtain ⟨a, b, ha, hab, _, _, hcb, hpass⟩ := bis_pass cdf p hgo0 h12
    rcases hpass with ⟨hhalf, hgo, heq⟩ | ⟨_, heq⟩
    · have hwid := hfloor a b (hL.trans ha) (fun h => hcb (h2 h)) hgo
      match n, hw with
      | 0, hw =>
        rw [pow_zero, mul_one] at hw
        exact absurd hw (not_le.mpr (by linarith only [hwid, hhalf, h12]))
      | n + 1, hw =>
        rw [pow_succ] at hw
        obtain ⟨r, hr⟩ := bis_stops hgo0 hfloor n a b (hL.trans ha) hab (fun h => hcb (h2 h)) (by linarith only [hw, hhalf])
        exact ⟨r, fun m hm => by obtain ⟨m, rfl⟩ : ∃ k, m = k + 1 := ⟨m - 1, by omega⟩; rw [heq]; exact hr m (by omega)⟩
    · exact ⟨_, fun m hm => by obtain ⟨m, rfl⟩ : ∃ k, m = k + 1 := ⟨m - 1, by omega⟩; exact heq m⟩
end

theorem stop_width {a b mu : ℝ} (hmu : mu ≤ a) (hab : a ≤ b) (h : ¬ goRel mu a b) : b - a ≤ 1e-6 * ((a + b) - 2 * mu) := by
  rcases (show (0 : ℝ) ≤ (a + b) - 2 * mu by linarith).eq_or_lt with h0 | hD
  · linarith
  · have := not_lt.mp h
    rwa [div_le_iff₀ hD] at this

theorem bisect_final (cdf : ℝ → ℝ) (p mu : ℝ) (n : Nat) (x1 x2 r : ℝ) (hmu : mu ≤ x1) (h12 : x1 ≤ x2) (h1 : cdf x1 ≤ p)
    (h2 : p ≤ cdf x2) (h : bisect cdf p mu n x1 x2 = some r) : Final cdf p mu x1 x2 r := by
  rw [bisect_eq cdf p mu n x1 x2 h12] at h
  obtain ⟨a, b, ha, hab, hb, hca, hcb, hr, hw⟩ := bis_final (goRel_self mu) n x1 x2 r h12 h1 h2 h
  exact ⟨a, b, ha, hab, hb, hca, hcb, hr, stop_width (hmu.trans ha) hab hw⟩

theorem final_accuracy {cdf : ℝ → ℝ} {p mu x1 x2 r q : ℝ} (hf : Final cdf p mu x1 x2 r)
    (hlo : ∀ x, x < q → cdf x < p) (hhi : ∀ x, q < x → p < cdf x) : |r - q| ≤ 1e-6 * (r - mu) := by
  obtain ⟨a, b, _, _, _, hca, hcb, hr, hw⟩ := hf
  have haq : a ≤ q := not_lt.mp fun h => absurd (hhi a h) (not_lt.mpr hca)
  have hqb : q ≤ b := not_lt.mp fun h => absurd (hlo b h) (not_lt.mpr hcb)
  rw [abs_le]; subst hr
  constructor <;> linarith


theorem go_width {a b mu δ : ℝ} (hδ : 0 < δ) (hD : δ < (a + b) - 2 * mu) (h : 1e-6 < (b - a) / ((a + b) - 2 * mu)) :
    1e-6 * δ < b - a := by
  rw [lt_div_iff₀ (hδ.trans hD)] at h
  exact (mul_lt_mul_of_pos_left hD (by norm_num)).trans h


/-- the relative rule can only go on while the bracket is wider than `1e-6 · δ` (`go_width`) -/
theorem bisect_stops {cdf : ℝ → ℝ} {p mu δ : ℝ} (hδ : 0 < δ) (hlow : ∀ x, x ≤ mu + δ → cdf x < p) (n : Nat) (x1 x2 : ℝ)
    (hmu : mu ≤ x1) (h12 : x1 ≤ x2) (h2 : p ≤ cdf x2) (hw : x2 - x1 ≤ 1e-6 * δ * 2 ^ n) :
    ∃ r, ∀ m, n + 1 ≤ m → bisect cdf p mu m x1 x2 = some r := by
  obtain ⟨r, hr⟩ := bis_stops (goRel_self mu) (L := mu) (w := 1e-6 * δ) (H := True) (fun a b ha hb hgo => by
    have : mu + δ < b := not_le.mp fun h => absurd (hlow b h) (not_lt.mpr (hb trivial))
    exact go_width hδ (by linarith only [this, ha]) hgo) n x1 x2 hmu h12 (fun _ => h2) hw
  exact ⟨r, fun m hm => by rw [bisect_eq cdf p mu m x1 x2 h12]; exact hr m hm⟩

theorem bisectMix_final (cdf : ℝ → ℝ) (p : ℝ) (n : Nat) (x1 x2 r : ℝ) (h12 : x1 ≤ x2) (h1 : cdf x1 ≤ p) (h2 : p ≤ cdf x2)
    (h : bisectMix cdf p n x1 x2 = some r) : FinalMix cdf p x1 x2 r := by
  rw [bisectMix_eq] at h
  obtain ⟨a, b, ha, hab, hb, hca, hcb, hr, hw⟩ := bis_final goAbs_self n x1 x2 r h12 h1 h2 h
  exact ⟨a, b, ha, hab, hb, hca, hcb, hr, not_lt.mp hw⟩

theorem finalMix_accuracy {cdf : ℝ → ℝ} {p x1 x2 r q : ℝ} (hf : FinalMix cdf p x1 x2 r)
    (hlo : ∀ x, x < q → cdf x < p) (hhi : ∀ x, q < x → p < cdf x) : |r - q| ≤ 1.01e-6 * (|r| + 1e-9) := by
  obtain ⟨a, b, _, hab, _, hca, hcb, hr, hw⟩ := hf
  have haq : a ≤ q := not_lt.mp fun h => absurd (hhi a h) (not_lt.mpr hca)
  have hqb : q ≤ b := not_lt.mp fun h => absurd (hlo b h) (not_lt.mpr hcb)
  -- |a|, |b| ≤ |r| + (b-a)/2
  have h1 : |a| ≤ |r| + (b - a) / 2 := by
    rw [abs_le]; constructor <;> linarith only [le_abs_self r, neg_abs_le r, hr, hab]
  have h2 : |b| ≤ |r| + (b - a) / 2 := by
    rw [abs_le]; constructor <;> linarith only [le_abs_self r, neg_abs_le r, hr, hab]
  have hwid : b - a ≤ 2.02e-6 * (|r| + 1e-9) := by linarith only [h1, h2, hw, abs_nonneg r]
  rw [abs_le]
  constructor <;> linarith only [hwid, haq, hqb, hr]


/-- for EVERY function `cdf` and every bracket: the stop rule has the absolute floor `1e-6 · 1e-9` -/
theorem bisectMix_stops (cdf : ℝ → ℝ) (p : ℝ) (n : Nat) (x1 x2 : ℝ) (h12 : x1 ≤ x2)
    (hw : x2 - x1 ≤ 1e-15 * 2 ^ n) : ∃ r, ∀ m, n + 1 ≤ m → bisectMix cdf p m x1 x2 = some r := by
  obtain ⟨r, hr⟩ := bis_stops goAbs_self (L := x1) (w := 1e-15) (H := False) (fun a b _ _ hgo => by
    have := abs_nonneg a; have := abs_nonneg b; simp only [goAbs] at hgo; linarith) n x1 x2 le_rfl h12 False.elim hw
  exact ⟨r, fun m hm => by rw [bisectMix_eq]; exact hr m hm⟩

theorem invcdfRight_never {cdf : ℝ → ℝ} {p mu : ℝ} (h : ∀ x, cdf x < p) (fuel : Nat) : invcdfRight fuel cdf p mu = none := by
  unfold invcdfRight; rw [bracketRight_never h]

theorem invcdfRight_final {fuel : Nat} {cdf : ℝ → ℝ} {p mu r : ℝ} (h0 : cdf mu ≤ p) (h : invcdfRight fuel cdf p mu = some r) :
    ∃ x2, Final cdf p mu mu x2 r := by
  unfold invcdfRight at h
  split at h
  · exact absurd h (by simp)
  · rename_i x2 hb
    obtain ⟨k1, k2⟩ := bracketRight_spec (by norm_num) hb
    exact ⟨x2, bisect_final cdf p mu fuel mu x2 r (le_refl _) (le_trans (by norm_num) k1) h0 k2 h⟩

theorem invcdfGam_final {fuel : Nat} {cdf : ℝ → ℝ} {p mu l t r : ℝ} (h0 : cdf mu ≤ p) (hlt : 0 ≤ t / l)
    (h : invcdfGam fuel cdf p mu l t = some r) : ∃ x2, Final cdf p mu mu x2 r := by
  unfold invcdfGam at h
  split at h
  · exact absurd h (by simp)
  · rename_i x2 hb
    obtain ⟨k1, k2⟩ := bracketGam_spec hlt hb
    exact ⟨x2 + mu, bisect_final cdf p mu fuel mu (x2 + mu) r (le_refl _) (by linarith) h0 (by rwa [add_comm] at k2) h⟩

theorem invcdfMix_final {fuel : Nat} {cdf : ℝ → ℝ} {p m r : ℝ} (h : invcdfMix fuel cdf p m = some r) :
    ∃ x1 x2, FinalMix cdf p x1 x2 r := by
  unfold invcdfMix at h
  simp only [bracketRightLim_real] at h
  split at h
  · exact absurd h (by simp)
  · rename_i x1 hb1
    obtain ⟨k1, k2⟩ := bracketLeft_spec (by norm_num) hb1
    have hx1m : x1 ≤ m := le_trans k1 (by norm_num)
    split at h
    · exact absurd h (by simp)
    · rename_i x2 hb2
      obtain ⟨j1, j2⟩ := bracketRight_spec hx1m hb2
      exact ⟨x1, x2, bisectMix_final cdf p fuel x1 x2 r (le_trans hx1m j1) k2 j2 h⟩

theorem Final.brackets {cdf : ℝ → ℝ} {p mu x1 x2 r : ℝ} (hf : Final cdf p mu x1 x2 r) :
    ∃ a b, x1 ≤ a ∧ a ≤ r ∧ r ≤ b ∧ cdf a ≤ p ∧ p ≤ cdf b := by
  obtain ⟨a, b, ha, hab, _, hca, hcb, rfl, _⟩ := hf
  exact ⟨a, b, ha, (mid_mem hab).1, (mid_mem hab).2, hca, hcb⟩

theorem invcdfMix_brackets {fuel : Nat} {cdf : ℝ → ℝ} {p m r : ℝ} (h : invcdfMix fuel cdf p m = some r) :
    ∃ a b, a ≤ r ∧ r ≤ b ∧ cdf a ≤ p ∧ p ≤ cdf b := by
  obtain ⟨_, _, a, b, _, hab, _, hca, hcb, rfl, _⟩ := invcdfMix_final h
  exact ⟨a, b, (mid_mem hab).1, (mid_mem hab).2, hca, hcb⟩

theorem invcdfRight_stops {cdf : ℝ → ℝ} {p mu δ X : ℝ} {N1 N2 : Nat} (hδ : 0 < δ)
    (hlow : ∀ x, x ≤ mu + δ → cdf x < p) (hX : ∀ x, X ≤ x → p ≤ cdf x) (h1 : X ≤ mu + 3 ^ (N1 + 1))
    (h2 : (3 : ℝ) ^ (N1 + 1) ≤ 1e-6 * δ * 2 ^ N2) :
    ∃ r, ∀ fuel, N1 + 1 ≤ fuel → N2 + 1 ≤ fuel → invcdfRight fuel cdf p mu = some r := by
  have e1 : mu + 1.0 - mu = (1 : ℝ) := by norm_num
  obtain ⟨x2, hx2, k1, k2, hreach⟩ := bracketRight_stops (x1 := mu) (x2 := mu + 1.0) (n := N1) hX (by norm_num)
    (by rwa [e1, mul_one])
  rw [e1, mul_one] at hreach
  obtain ⟨r, hr⟩ := bisect_stops hδ hlow N2 mu x2 le_rfl (le_trans (by norm_num) k1) k2 (hreach.trans h2)
  exact ⟨r, fun fuel hf1 hf2 => by unfold invcdfRight; rw [hx2 fuel hf1]; exact hr fuel hf2⟩

theorem invcdfGam_stops {cdf : ℝ → ℝ} {p mu l t δ X : ℝ} {N1 N2 : Nat} (hδ : 0 < δ) (hlt : 0 ≤ t / l)
    (hlow : ∀ x, x ≤ mu + δ → cdf x < p) (hX : ∀ x, X ≤ x → p ≤ cdf x) (h1 : X ≤ mu + 2 ^ (N1 + 1) * (t / l))
    (h2 : (2 : ℝ) ^ (N1 + 1) * (t / l) ≤ 1e-6 * δ * 2 ^ N2) :
    ∃ r, ∀ fuel, N1 + 1 ≤ fuel → N2 + 1 ≤ fuel → invcdfGam fuel cdf p mu l t = some r := by
  obtain ⟨x2, hx2, k1, k2, hreach⟩ := bracketGam_stops (n := N1) hX hlt h1
  obtain ⟨r, hr⟩ := bisect_stops hδ hlow N2 mu (x2 + mu) le_rfl (by linarith only [k1]) (by rwa [add_comm] at k2)
    (by linarith only [hreach, h2])
  exact ⟨r, fun fuel hf1 hf2 => by unfold invcdfGam; rw [hx2 fuel hf1]; exact hr fuel hf2⟩

theorem invcdfMix_stops {cdf : ℝ → ℝ} {p m XL XR : ℝ} {N0 N1 N2 : Nat}
    (hL : ∀ x, x ≤ XL → cdf x ≤ p) (hR : ∀ x, XR ≤ x → p ≤ cdf x) (h0 : m - 3 ^ (N0 + 1) ≤ XL)
    (h1 : XR ≤ m + 3 ^ (N1 + 1) - 1) (h2 : (3 : ℝ) ^ (N1 + 1) * 3 ^ (N0 + 1) ≤ 1e-15 * 2 ^ N2) :
    ∃ r, ∀ fuel, N0 + 1 ≤ fuel → N1 + 1 ≤ fuel → N2 + 1 ≤ fuel → invcdfMix fuel cdf p m = some r := by
  have e1 : m - (m - 1.0) = (1 : ℝ) := by norm_num
  obtain ⟨x1, hx1, k1, k2, hreachL⟩ := bracketLeft_stops (x1 := m - 1.0) (x2 := m) (n := N0) hL (by linarith only [e1])
    (by rwa [e1, mul_one])
  rw [e1, mul_one] at hreachL
  have hx1m : x1 ≤ m - 1 := by linarith only [k1, e1]
  have h3 : (1 : ℝ) ≤ 3 ^ (N1 + 1) := one_le_pow₀ (by norm_num)
  -- `x1 + 3^(N1+1) (m - x1) = m + (3^(N1+1) - 1) (m - x1)` and `m - x1 ≥ 1`
  obtain ⟨x2, hx2, j1, j2, hreachR⟩ := bracketRight_stops (x1 := x1) (x2 := m) (n := N1) hR (by linarith only [hx1m])
    (by linarith only [h1, mul_nonneg (sub_nonneg.mpr h3) (show (0 : ℝ) ≤ m - x1 - 1 by linarith only [hx1m])])
  obtain ⟨r, hr⟩ := bisectMix_stops cdf p N2 x1 x2 (by linarith only [hx1m, j1])
    (hreachR.trans ((mul_le_mul_of_nonneg_left hreachL (zero_le_one.trans h3)).trans h2))
  exact ⟨r, fun fuel hf0 hf1 hf2 => by
    unfold invcdfMix; rw [hx1 fuel hf0]; simp only []; rw [bracketRightLim_real, hx2 fuel hf1]; exact hr fuel hf2⟩

end EaselModel.Dist.BisectTerm
