import EaselModel.Dist.GevThm
import EaselModel.Dist.GumbelThm
import EaselModel.Dist.MixGen
/-! Gumbel-vs-GEV distance inside the Gumbel branch (`α ≠ 0`, `|α y| < 1e-12`): the code returns the Gumbel value; the GEV
    with the actual `α` differs from it by at most `4e-12·|y|·e^{-y}` (cdf), resp. that plus the `2.3e-16` of the survival
    switch — all from the distance `GevThm.gumbel_branch_exp_dist` of `e^{-y}` to the GEV's `e^{-s}`, `s = log(1+αy)/α`. -/
noncomputable section
namespace EaselModel.Dist.GevDist
open Real EaselModel.Dist EaselModel.Dist.Gen EaselModel.Dist.Spec

theorem gumbel_branch_cdf_dist {x μ l α : ℝ} (hα : α ≠ 0) (hg : |l * (x - μ) * α| < 1e-12) (hy : |l * (x - μ)| ≤ 1e11) :
    |esl_gev_cdf x μ l α - gevCdf μ l α x| ≤ 4e-12 * |l * (x - μ)| * exp (-(l * (x - μ))) := by
  have hd := GevThm.gumbel_branch_logcdf_dist hα hg hy
  have hpos := GevThm.gevCdf_pos_in (GevThm.gumbel_branch_arg_pos hg)
  have e1 : esl_gev_cdf x μ l α = exp (esl_gev_logcdf x μ l α) := by
    rw [GevThm.gumbel_branch_cdf hg, GevThm.gumbel_branch_logcdf hg, GumbelThm.code_cdf, GumbelThm.code_logcdf,
      exp_log (GumbelThm.gumbelCdf_pos μ l x)]
  have hn1 : esl_gev_logcdf x μ l α ≤ 0 := by
    rw [GevThm.gumbel_branch_logcdf hg, GumbelThm.code_logcdf]
    exact log_nonpos (GumbelThm.gumbelCdf_pos μ l x).le (GumbelThm.gumbelCdf_lt_one μ l x).le
  rw [e1, ← exp_log hpos]
  exact (abs_exp_sub_exp_le hn1 (log_nonpos hpos.le (GevThm.gevCdf_le_one μ l α x))).trans hd

theorem gumbel_branch_surv_dist {x μ l α : ℝ} (hα : α ≠ 0) (hg : |l * (x - μ) * α| < 1e-12) (hy : |l * (x - μ)| ≤ 1e11) :
    |esl_gev_surv x μ l α - gevSurv μ l α x| ≤ 2.3e-16 + 4e-12 * |l * (x - μ)| * exp (-(l * (x - μ))) := by
  have h2 := gumbel_branch_cdf_dist hα hg hy
  rw [GevThm.gumbel_branch_cdf hg, GumbelThm.code_cdf, ← sub_sub_sub_cancel_left _ _ 1, abs_sub_comm] at h2
  exact (abs_sub_le _ (gumbelSurv μ l x) _).trans (add_le_add (GevThm.gumbel_branch_surv hg) h2)

theorem gumbel_branch_logpdf_dist {x μ l α : ℝ} (hl : 0 < l) (hα : α ≠ 0) (hg : |l * (x - μ) * α| < 1e-12) (hy : |l * (x - μ)| ≤ 1e11) :
    |esl_gev_logpdf x μ l α - log (gevPdf μ l α x)| ≤
      2e-12 * |l * (x - μ)| + 4e-12 * |l * (x - μ)| * exp (-(l * (x - μ))) + 2e-12 := by
  have hs := GevThm.gumbel_branch_exponent hα hg
  have hc := GevThm.gumbel_branch_exp_dist hα hg hy
  have hlog : |log (1 + α * (l * (x - μ)))| ≤ 2e-12 := by
    have hu : |α * (l * (x - μ))| < 1e-12 := by rwa [mul_comm]
    have := abs_log_one_add_le (u := α * (l * (x - μ))) (by linarith)
    linarith
  rw [GevThm.gumbel_branch_logpdf hg, GumbelThm.code_logpdf hl]
  unfold gumbelPdf gevPdf
  rw [if_neg (not_le.mpr (GevThm.gumbel_branch_arg_pos hg)), log_mul hl.ne' (exp_ne_zero _), log_exp,
    log_mul hl.ne' (exp_ne_zero _), log_exp, show gevArg μ l α x = 1 + α * (l * (x - μ)) from rfl]
  have e1 : (1 + 1 / α) * log (1 + α * (l * (x - μ))) = log (1 + α * (l * (x - μ))) / α + log (1 + α * (l * (x - μ))) := by
    rw [one_add_mul, one_div_mul_eq_div, add_comm]
  rw [neg_mul, e1, show ∀ y s L e₁ e₂ : ℝ, log l + (-y - e₁) - (log l + (-(s + L) - e₂)) = (s - y) + -(e₁ - e₂) + L by
    intros; ring]
  refine (abs_add_le _ _).trans (add_le_add ((abs_add_le _ _).trans (add_le_add hs ?_)) hlog)
  rwa [abs_neg]

theorem gumbel_branch_pdf_dist {x μ l α : ℝ} (hl : 0 < l) (hα : α ≠ 0) (hg : |l * (x - μ) * α| < 1e-12) (hy : |l * (x - μ)| ≤ 1e11) :
    |esl_gev_pdf x μ l α - gevPdf μ l α x| ≤
      (exp (2e-12 * |l * (x - μ)| + 4e-12 * |l * (x - μ)| * exp (-(l * (x - μ))) + 2e-12) - 1) * gevPdf μ l α x := by
  have hd := gumbel_branch_logpdf_dist hl hα hg hy
  have hpos := GevThm.gevPdf_pos_in hl (GevThm.gumbel_branch_arg_pos hg)
  have hgp : 0 < gumbelPdf μ l x := mul_pos hl (exp_pos _)
  have e1 : esl_gev_pdf x μ l α = exp (esl_gev_logpdf x μ l α) := by
    rw [GevThm.gumbel_branch_pdf hg, GevThm.gumbel_branch_logpdf hg, GumbelThm.code_pdf, GumbelThm.code_logpdf hl, exp_log hgp]
  have e2 : exp (esl_gev_logpdf x μ l α) = gevPdf μ l α x * exp (esl_gev_logpdf x μ l α - log (gevPdf μ l α x)) := by
    rw [exp_sub, exp_log hpos, mul_div_cancel₀ _ hpos.ne']
  rw [e1, e2]
  exact abs_mul_exp_sub_le hpos.le hd

/-- log survival: the code is within `3e-8` of the Gumbel's `log surv` (its own three-way switch), and the GEV's `log surv`
    with the actual `α` is within `7e-12·|y|` of the Gumbel's: a relative distance `η = 4e-12·|y| ≤ 0.4` of `e^{-y}` and
    `e^{-s}` moves `log (1 - exp(-·))` by at most `η / (1 - η)`. -/
theorem gumbel_branch_logsurv_dist {x μ l α : ℝ} (hα : α ≠ 0) (hg : |l * (x - μ) * α| < 1e-12) (hy : |l * (x - μ)| ≤ 1e11) :
    |esl_gev_logsurv x μ l α - log (gevSurv μ l α x)| ≤ 3e-8 + 7e-12 * |l * (x - μ)| := by
  have hη : 4e-12 * |l * (x - μ)| ≤ 0.4 := by linarith
  have h2 := abs_log_one_sub_exp_neg_sub_of_rel (exp_pos _) (by linarith) (GevThm.gumbel_branch_exp_dist hα hg hy)
  have h3 : 4e-12 * |l * (x - μ)| / (1 - 4e-12 * |l * (x - μ)|) ≤ 7e-12 * |l * (x - μ)| := by
    rw [div_le_iff₀ (by linarith)]
    linarith [mul_le_mul_of_nonneg_left hη (abs_nonneg (l * (x - μ))), abs_nonneg (l * (x - μ))]
  have hS : gevSurv μ l α x = 1 - exp (-exp (-(log (1 + α * (l * (x - μ))) / α))) := by
    unfold gevSurv gevCdf; rw [if_neg (not_le.mpr (GevThm.gumbel_branch_arg_pos hg))]; rfl
  rw [hS]
  exact (abs_sub_le _ (log (gumbelSurv μ l x)) _).trans (add_le_add (GevThm.gumbel_branch_logsurv hg) (h2.trans h3))

end EaselModel.Dist.GevDist

/-! Mixture of GEVs at EVERY argument (no `GevBranch` hypothesis): a component inside its `|α y| < 1e-12` Gumbel sliver
    contributes the Gumbel-vs-GEV distance above, a component outside it contributes nothing, so the
    translated mixture cdf is within `Σ_k q_k · 4e-12·|y_k|·e^{-y_k}` of the textbook mixture cdf, the survival within that
    plus `2.3e-16·Σq`. -/
namespace EaselModel.Dist.MixgevAll
open Real Finset EaselModel.Dist EaselModel.Dist.Gen EaselModel.Dist.Spec EaselModel.Dist.MixGen

/-- standardised argument of component `k` -/
def yk (g : ESL_MIXGEV ℝ) (x : ℝ) (k : ℕ) : ℝ := gl g k * (x - gm g k)

theorem gev_cdf_close_any {x μ l α : ℝ} (hl : 0 < l) (hα : α ≠ 0) (hy : |l * (x - μ)| ≤ 1e11) :
    |esl_gev_cdf x μ l α - gevCdf μ l α x| ≤ 4e-12 * |l * (x - μ)| * exp (-(l * (x - μ))) := by
  by_cases hg : |l * (x - μ) * α| < 1e-12
  · exact GevDist.gumbel_branch_cdf_dist hα hg hy
  · rw [GevThm.code_cdf hl hg, sub_self, abs_zero]; positivity

theorem gev_surv_close_any {x μ l α : ℝ} (hl : 0 < l) (hα : α ≠ 0) (hy : |l * (x - μ)| ≤ 1e11) :
    |esl_gev_surv x μ l α - gevSurv μ l α x| ≤ 2.3e-16 + 4e-12 * |l * (x - μ)| * exp (-(l * (x - μ))) := by
  by_cases hg : |l * (x - μ) * α| < 1e-12
  · exact GevDist.gumbel_branch_surv_dist hα hg hy
  · have := GevThm.code_surv (x := x) (μ := μ) (α := α) hl hg
    have h0 : 0 ≤ 4e-12 * |l * (x - μ)| * exp (-(l * (x - μ))) := by positivity
    linarith

theorem mixgev_close_everywhere {g : ESL_MIXGEV ℝ} (ok : MixgevOK g) {x : ℝ} (hy : ∀ k < g.K, |yk g x k| ≤ 1e11) :
    |esl_mixgev_cdf x g - mixgevCdf g x| ≤ ∑ k ∈ range g.K, gq g k * (4e-12 * |yk g x k| * exp (-(yk g x k))) ∧
    |esl_mixgev_surv x g - mixgevSurv g x| ≤
      2.3e-16 * mixgevQ g + ∑ k ∈ range g.K, gq g k * (4e-12 * |yk g x k| * exp (-(yk g x k))) := by
  constructor
  · rw [mixgev_cdf_sum]; unfold mixgevCdf
    rw [← sum_sub_distrib]
    refine (abs_sum_le_sum_abs _ _).trans (sum_le_sum fun k hk => ?_)
    have hk' := mem_range.mp hk
    rw [← mul_sub, abs_mul, abs_of_nonneg (ok k hk').1]
    exact mul_le_mul_of_nonneg_left (gev_cdf_close_any (ok k hk').2.1 (ok k hk').2.2 (hy k hk')) (ok k hk').1
  · rw [mixgev_surv_sum]; unfold mixgevSurv mixgevQ
    rw [← sum_sub_distrib, mul_sum, ← sum_add_distrib]
    refine (abs_sum_le_sum_abs _ _).trans (sum_le_sum fun k hk => ?_)
    have hk' := mem_range.mp hk
    rw [← mul_sub, abs_mul, abs_of_nonneg (ok k hk').1]
    have := mul_le_mul_of_nonneg_left (gev_surv_close_any (ok k hk').2.1 (ok k hk').2.2 (hy k hk')) (ok k hk').1
    unfold yk; linarith

end EaselModel.Dist.MixgevAll
