import EaselModel.Dist.RealInst
import EaselModel.Dist.Spec
import EaselModel.Dist.Lemmas
import EaselModel.Generated.Dist
import Mathlib.Analysis.SpecialFunctions.Log.Deriv
import Mathlib.Tactic.Ring
import Mathlib.Tactic.FieldSimp
/-! Weibull distribution: L2 and L1 (translated `esl_wei_*` at `ℝ`; the small-argument guard is `exp(tly) < eslSMALLX1`). -/
noncomputable section
namespace EaselModel.Dist.WeiThm
open Real EaselModel.Dist EaselModel.Dist.Gen EaselModel.Dist.Spec

theorem weiZ_pos (μ l τ x : ℝ) : 0 < weiZ μ l τ x := exp_pos _

theorem weiCdf_add_weiSurv (μ l τ x : ℝ) : weiCdf μ l τ x + weiSurv μ l τ x = 1 := by
  unfold weiCdf weiSurv; split_ifs <;> ring

theorem weiCdf_nonneg (μ l τ x : ℝ) : 0 ≤ weiCdf μ l τ x := by
  unfold weiCdf; split_ifs
  · exact le_refl _
  · have : exp (-weiZ μ l τ x) ≤ 1 := by rw [exp_le_one_iff]; have := weiZ_pos μ l τ x; linarith
    linarith

theorem weiCdf_lt_one (μ l τ x : ℝ) : weiCdf μ l τ x < 1 := by
  unfold weiCdf; split_ifs
  · exact one_pos
  · have := exp_pos (-weiZ μ l τ x); linarith

theorem weiCdf_mono {μ l τ : ℝ} (hl : 0 < l) (hτ : 0 ≤ τ) : Monotone (weiCdf μ l τ) := by
  intro a b hab
  unfold weiCdf
  split_ifs with h1 h2 h2
  · exact le_refl _
  · have := weiCdf_nonneg μ l τ b; unfold weiCdf at this; rw [if_neg h2] at this; exact this
  · exfalso; linarith
  · have ha : 0 < l * (a - μ) := mul_pos hl (by linarith)
    have hb : l * (a - μ) ≤ l * (b - μ) := mul_le_mul_of_nonneg_left (by linarith) hl.le
    have hlog : log (l * (a - μ)) ≤ log (l * (b - μ)) := log_le_log ha hb
    have hz : weiZ μ l τ a ≤ weiZ μ l τ b := by
      unfold weiZ; exact exp_le_exp.mpr (mul_le_mul_of_nonneg_left hlog hτ)
    have : exp (-weiZ μ l τ b) ≤ exp (-weiZ μ l τ a) := exp_le_exp.mpr (by linarith)
    linarith

theorem weiInvCdf_weiCdf {μ l τ x : ℝ} (hl : 0 < l) (hτ : τ ≠ 0) (hx : μ < x) : weiInvCdf μ l τ (weiCdf μ l τ x) = x := by
  unfold weiInvCdf weiCdf
  rw [if_neg (not_le.mpr hx)]
  have h1 : (1 : ℝ) - (1 - exp (-weiZ μ l τ x)) = exp (-weiZ μ l τ x) := by ring
  have hy : 0 < l * (x - μ) := mul_pos hl (by linarith)
  rw [h1, log_exp, neg_neg]
  unfold weiZ
  rw [log_exp, mul_div_cancel_left₀ _ hτ, exp_log hy]
  field_simp; ring

theorem weiCdf_hasDerivAt {μ l τ x : ℝ} (hl : 0 < l) (hx : μ < x) : HasDerivAt (weiCdf μ l τ) (weiPdf μ l τ x) x := by
  have hy : 0 < l * (x - μ) := mul_pos hl (by linarith)
  have h0 : HasDerivAt (fun z : ℝ => l * (z - μ)) l x := by
    simpa using ((hasDerivAt_id x).sub_const μ).const_mul l
  have h3 := (((h0.log hy.ne').const_mul τ).exp.neg.exp).const_sub 1
  simp only [Pi.neg_apply] at h3
  have hev : weiCdf μ l τ =ᶠ[nhds x] fun z => 1 - exp (-exp (τ * log (l * (z - μ)))) := by
    filter_upwards [lt_mem_nhds hx] with z hz
    simp [weiCdf, weiZ, not_le.mpr hz]
  refine (h3.congr_of_eventuallyEq hev).congr_deriv ?_
  unfold weiPdf weiZ
  -- `e^{(τ-1) log y} = e^{τ log y} / y`
  rw [if_neg (not_le.mpr hx), sub_mul, one_mul, exp_sub, exp_log hy]
  field_simp

theorem code_surv (x μ l τ : ℝ) : esl_wei_surv x μ l τ = weiSurv μ l τ x := by
  unfold esl_wei_surv weiSurv weiZ; split_ifs <;> simp

theorem code_cdf (x μ l τ : ℝ) : |esl_wei_cdf x μ l τ - weiCdf μ l τ x| ≤ 2.5e-17 := by
  unfold esl_wei_cdf weiCdf weiZ
  simp only [num_exp, num_log, lit_one, lit_zero]
  by_cases h1 : x ≤ μ
  · rw [if_pos h1, if_pos h1]; norm_num
  · rw [if_neg h1, if_neg h1]
    exact (one_sub_exp_neg_switch (ε := 5.0e-9) (by norm_num) fun h => by rw [abs_of_pos (exp_pos _)]; exact h.le).trans
      (by norm_num)

theorem code_cdf_add_surv (x μ l τ : ℝ) : |esl_wei_cdf x μ l τ + esl_wei_surv x μ l τ - 1| ≤ 2.5e-17 := by
  have h := code_cdf x μ l τ
  rw [code_surv]
  have e : esl_wei_cdf x μ l τ + weiSurv μ l τ x - 1 = esl_wei_cdf x μ l τ - weiCdf μ l τ x := by
    have := weiCdf_add_weiSurv μ l τ x; linarith
  rw [e]; exact h

theorem code_logsurv (x μ l τ : ℝ) : esl_wei_logsurv x μ l τ = log (weiSurv μ l τ x) := by
  unfold esl_wei_logsurv weiSurv weiZ; split_ifs <;> simp

theorem code_logcdf {x μ : ℝ} (l τ : ℝ) (hx : μ < x) : |esl_wei_logcdf x μ l τ - log (weiCdf μ l τ x)| ≤ 1e-8 := by
  unfold esl_wei_logcdf weiCdf weiZ
  simp only [num_exp, num_log, num_fabs, lit_one]
  rw [if_neg (not_le.mpr hx), if_neg (not_le.mpr hx)]
  exact log_one_sub_exp_neg_switch (ε₁ := 5.0e-9) (ε₂ := 5.0e-9) (exp_pos _) (log_exp _) (fun h => h.le)
    (fun h => by rw [abs_of_pos (exp_pos _)] at h; exact h.le) (by norm_num) (by norm_num) (by norm_num) (by norm_num)

theorem code_invcdf (p μ l τ : ℝ) : esl_wei_invcdf p μ l τ = weiInvCdf μ l τ p := by
  unfold esl_wei_invcdf weiInvCdf; simp only [num_exp, num_log, lit_one]; ring_nf

theorem code_pdf {x μ : ℝ} (l τ : ℝ) (hx : x ≠ μ) : esl_wei_pdf x μ l τ = weiPdf μ l τ x := by
  unfold esl_wei_pdf weiPdf weiZ
  simp only [num_exp, num_log, num_eqb, lit_one, lit_zero]
  rcases lt_or_gt_of_ne hx with h | h
  · rw [if_pos h, if_pos (le_of_lt h)]
  · rw [if_neg (not_lt.mpr h.le), if_neg hx, if_neg (not_le.mpr h)]

theorem code_logpdf {x μ l τ : ℝ} (hl : 0 < l) (hτ : 0 < τ) (hx : μ < x) :
    esl_wei_logpdf x μ l τ = log (weiPdf μ l τ x) := by
  have hxm : 0 < x - μ := by linarith
  have hy : 0 < l * (x - μ) := mul_pos hl hxm
  unfold esl_wei_logpdf weiPdf weiZ
  simp only [num_exp, num_log, num_eqb, lit_one]
  rw [if_neg (not_lt.mpr hx.le), if_neg (ne_of_gt hx), if_neg (not_le.mpr hx)]
  rw [log_mul (by positivity) (exp_ne_zero _), log_mul (by positivity) (exp_ne_zero _), log_mul (ne_of_gt hl) (ne_of_gt hτ),
    log_exp, log_exp, log_mul (ne_of_gt hl) (ne_of_gt hxm)]
  ring

end EaselModel.Dist.WeiThm

/-! The values the code returns AT the support edge are the right-hand limits of the textbook density.
    Weibull (`weiPdf μ λ τ x = λ τ (λ(x−μ))^{τ−1} e^{−(λ(x−μ))^τ}` on `x > μ`): as `x ↓ μ` the density tends to `+∞` for `τ < 1`,
    to `λ` for `τ = 1`, to `0` for `τ > 1` — exactly `esl_wei_pdf(μ) = +inf / λ / 0`. -/
namespace EaselModel.Dist.EdgeLimits
open Real Filter Topology EaselModel.Dist.Spec

theorem arg_tendsto {μ l : ℝ} (hl : 0 < l) : Tendsto (fun x : ℝ => l * (x - μ)) (𝓝[>] μ) (𝓝[>] 0) := by
  refine tendsto_nhdsWithin_of_tendsto_nhds_of_eventually_within _ ?_ ?_
  · have : Tendsto (fun x : ℝ => l * (x - μ)) (𝓝 μ) (𝓝 (l * (μ - μ))) := by
      apply Continuous.tendsto; fun_prop
    rw [sub_self, mul_zero] at this
    exact this.mono_left nhdsWithin_le_nhds
  · filter_upwards [self_mem_nhdsWithin] with x hx
    exact mul_pos hl (sub_pos.mpr hx)

theorem log_arg_tendsto {μ l : ℝ} (hl : 0 < l) : Tendsto (fun x : ℝ => log (l * (x - μ))) (𝓝[>] μ) atBot :=
  tendsto_log_nhdsGT_zero.comp (arg_tendsto hl)

theorem tail_tendsto {μ l τ : ℝ} (hl : 0 < l) (hτ : 0 < τ) :
    Tendsto (fun x : ℝ => exp (-exp (τ * log (l * (x - μ))))) (𝓝[>] μ) (𝓝 1) := by
  have h1 : Tendsto (fun x : ℝ => exp (τ * log (l * (x - μ)))) (𝓝[>] μ) (𝓝 0) :=
    tendsto_exp_atBot.comp ((log_arg_tendsto hl).const_mul_atBot hτ)
  have h2 : Tendsto (fun x : ℝ => exp (-exp (τ * log (l * (x - μ))))) (𝓝[>] μ) (𝓝 (exp (-0))) :=
    (continuous_exp.tendsto (-0)).comp h1.neg
  rwa [neg_zero, exp_zero] at h2

theorem weiPdf_interior {μ l τ x : ℝ} (hx : μ < x) :
    weiPdf μ l τ x = l * τ * exp ((τ - 1) * log (l * (x - μ))) * exp (-exp (τ * log (l * (x - μ)))) := by
  simp [weiPdf, weiZ, not_le.mpr hx]

theorem weiPdf_edge_zero {μ l τ : ℝ} (hl : 0 < l) (hτ : 1 < τ) : Tendsto (weiPdf μ l τ) (𝓝[>] μ) (𝓝 0) := by
  have h1 : Tendsto (fun x : ℝ => exp ((τ - 1) * log (l * (x - μ)))) (𝓝[>] μ) (𝓝 0) :=
    tendsto_exp_atBot.comp ((log_arg_tendsto hl).const_mul_atBot (by linarith))
  have h2 := ((h1.const_mul (l * τ)).mul (tail_tendsto (μ := μ) hl (by linarith : 0 < τ)))
  rw [mul_zero, zero_mul] at h2
  refine h2.congr' ?_
  filter_upwards [self_mem_nhdsWithin] with x hx
  exact (weiPdf_interior hx).symm

theorem weiPdf_edge_one {μ l : ℝ} (hl : 0 < l) : Tendsto (weiPdf μ l 1) (𝓝[>] μ) (𝓝 l) := by
  have h2 := (tail_tendsto (μ := μ) hl (by norm_num : (0 : ℝ) < 1)).const_mul l
  rw [mul_one] at h2
  refine h2.congr' ?_
  filter_upwards [self_mem_nhdsWithin] with x hx
  rw [weiPdf_interior hx]; simp

theorem weiPdf_edge_top {μ l τ : ℝ} (hl : 0 < l) (hτ0 : 0 < τ) (hτ : τ < 1) : Tendsto (weiPdf μ l τ) (𝓝[>] μ) atTop := by
  have h1 : Tendsto (fun x : ℝ => exp ((τ - 1) * log (l * (x - μ)))) (𝓝[>] μ) atTop :=
    tendsto_exp_atTop.comp ((log_arg_tendsto hl).const_mul_atBot_of_neg (by linarith))
  have h2 : Tendsto (fun x : ℝ => exp ((τ - 1) * log (l * (x - μ))) * exp (-exp (τ * log (l * (x - μ))))) (𝓝[>] μ) atTop :=
    h1.atTop_mul_pos one_pos (tail_tendsto hl hτ0)
  have h3 := h2.const_mul_atTop (mul_pos hl hτ0)
  refine h3.congr' ?_
  filter_upwards [self_mem_nhdsWithin] with x hx
  rw [weiPdf_interior hx]; ring

end EaselModel.Dist.EdgeLimits
