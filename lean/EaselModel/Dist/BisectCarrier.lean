import EaselModel.Dist.Bisect
/-! The repaired right bracketing loop of `esl_hxp_invcdf` / `esl_mixgev_invcdf` (55bbf88:
    `do { x2 = x2 + 2.*(x2-x1); f2 = cdf(x2); } while (f2 < p && x2 < eslINFINITY);`) RETURNS on every carrier whose
    tripling sequence `x2 ← x2 + 2·(x2 − x1)` reaches, within the fuel, a point that is not below `eslINFINITY` —
    whatever the cdf does, in particular when `cdf < p` everywhere (`p` above the largest value the cdf attains), the
    case in which the unguarded loop (and the ℝ reading of the guarded one, `BisectTerm.invcdfRight_never`) runs forever.
    The carrier facts are hypotheses, never assumed: (R) `reach`: `Num.ltInf (tripled^[k+1] x2) = false` for some `k < fuel`;
    (A) `absorb`: `x2 ≤ (x1 + x2) / 2` at that point (in binary64 `(x1 + inf)/2 = inf`).  `reachInf` computes the `k` of (R)
    and the driver evaluates it, and (A), at `Float` against the C loop (`bracketlim` op) — the non-vacuity check for
    binary64.  Core Lean only (imported by the driver). -/
set_option linter.unusedSectionVars false
namespace EaselModel.Dist.BisectCarrier
open EaselModel.Dist EaselModel.Dist.Bisect
variable {α : Type} [Add α] [Sub α] [Mul α] [Div α] [Neg α] [OfScientific α] [LT α] [LE α]
  [DecidableLT α] [DecidableLE α] [Num α]

/-- one pass of the loop body: `x2 = x2 + 2.*(x2-x1)` -/
def triple (x1 x2 : α) : α := x2 + 2.0 * (x2 - x1)

/-- the bracket after `n` passes -/
def tripled (x1 : α) : Nat → α → α
  | 0, x2 => x2
  | n + 1, x2 => tripled x1 n (triple x1 x2)

/-- number of passes (counted from 0) after which the bracket is no longer below `eslINFINITY`; `none` = not within `fuel` -/
def reachInf (x1 : α) : Nat → α → Option Nat
  | 0, _ => none
  | n + 1, x2 =>
    if Num.ltInf (triple x1 x2) = true then (reachInf x1 n (triple x1 x2)).map (· + 1) else some 0

theorem reachInf_spec (x1 : α) : ∀ (fuel : Nat) (x2 : α) (k : Nat), reachInf x1 fuel x2 = some k →
    k < fuel ∧ Num.ltInf (tripled x1 (k + 1) x2) = false ∧ ∀ j < k, Num.ltInf (tripled x1 (j + 1) x2) = true := by
  intro fuel
  induction fuel with
  | zero => intro x2 k h; simp [reachInf] at h
  | succ n ih =>
    intro x2 k h
    simp only [reachInf] at h
    split at h
    · rename_i hlt
      cases hr : reachInf x1 n (triple x1 x2) with
      | none => simp [hr] at h
      | some k' =>
        simp only [hr, Option.map_some, Option.some.injEq] at h
        subst h
        obtain ⟨h1, h2, h3⟩ := ih _ _ hr
        refine ⟨by omega, h2, ?_⟩
        intro j hj
        cases j with
        | zero => exact hlt
        | succ j => exact h3 j (by omega)
    · rename_i hlt
      simp only [Option.some.injEq] at h
      subst h
      exact ⟨by omega, by simpa [tripled] using hlt, fun j hj => absurd hj (by omega)⟩

theorem bracketRightLim_returns (cdf : α → α) (p x1 : α) : ∀ (fuel k : Nat) (x2 : α), k < fuel →
    Num.ltInf (tripled x1 (k + 1) x2) = false →
    ∃ j r, j ≤ k ∧ r = tripled x1 (j + 1) x2 ∧ bracketRightLim cdf p x1 fuel x2 = some r ∧
      (¬ cdf r < p ∨ Num.ltInf r = false) := by
  intro fuel
  induction fuel with
  | zero => intro k x2 hk; omega
  | succ n ih =>
    intro k x2 hk hinf
    simp only [bracketRightLim]
    by_cases hc : cdf (x2 + 2.0 * (x2 - x1)) < p ∧ Num.ltInf (x2 + 2.0 * (x2 - x1)) = true
    · rw [if_pos hc]
      cases k with
      | zero => exact absurd hc.2 (by simpa [tripled, triple] using hinf)
      | succ k =>
        obtain ⟨j, r, hj, hr, hb, hstop⟩ := ih k (x2 + 2.0 * (x2 - x1)) (by omega) (by simpa [tripled, triple] using hinf)
        exact ⟨j + 1, r, by omega, by simpa [tripled, triple] using hr, hb, hstop⟩
    · rw [if_neg hc]
      refine ⟨0, _, by omega, by simp [tripled, triple], rfl, ?_⟩
      by_cases h1 : cdf (x2 + 2.0 * (x2 - x1)) < p
      · right
        cases hb : Num.ltInf (x2 + 2.0 * (x2 - x1)) with
        | false => rfl
        | true => exact absurd ⟨h1, hb⟩ hc
      · left; exact h1

theorem bracketRightLim_above_sup (cdf : α → α) (p x1 : α) (hsup : ∀ x, cdf x < p) : ∀ (fuel k : Nat) (x2 : α),
    reachInf x1 fuel x2 = some k → bracketRightLim cdf p x1 fuel x2 = some (tripled x1 (k + 1) x2) := by
  intro fuel
  induction fuel with
  | zero => intro k x2 h; simp [reachInf] at h
  | succ n ih =>
    intro k x2 h
    simp only [reachInf] at h
    simp only [bracketRightLim]
    split at h
    · rename_i hlt
      cases hr : reachInf x1 n (triple x1 x2) with
      | none => simp [hr] at h
      | some k' =>
        simp only [hr, Option.map_some, Option.some.injEq] at h
        subst h
        rw [if_pos ⟨hsup _, hlt⟩]
        exact ih k' _ hr
    · rename_i hlt
      simp only [Option.some.injEq] at h
      subst h
      rw [if_neg (fun hc => hlt hc.2)]
      simp [tripled, triple]

/-- the bisection that follows stops in its first pass when the midpoint is not below the right end (carrier fact (A):
    in binary64 `(x1 + inf)/2 = inf`) — the C loop's no-progress `break` -/
theorem bisect_absorbed (cdf : α → α) (p mu x1 x2 : α) (n : Nat) (h : x2 ≤ (x1 + x2) / 2.0) :
    bisect cdf p mu (n + 1) x1 x2 = some ((x1 + x2) / 2.0) := by
  simp only [bisect]; rw [if_pos (Or.inr h)]

/-- **`esl_hxp_invcdf`'s generic form returns where the unguarded loop hung**: `cdf < p` everywhere, carrier facts (R)
    (as computed by `reachInf`) and (A) at the point reached ⇒ the result is the midpoint of `[mu, that point]`
    (binary64: `+inf`, the quantile of a `p` no finite `x` attains). -/
theorem invcdfRightLim_above_sup (cdf : α → α) (p mu : α) (hsup : ∀ x, cdf x < p) {fuel k : Nat}
    (hreach : reachInf mu (fuel + 1) (mu + 1.0) = some k)
    (habsorb : tripled mu (k + 1) (mu + 1.0) ≤ (mu + tripled mu (k + 1) (mu + 1.0)) / 2.0) :
    invcdfRightLim (fuel + 1) cdf p mu = some ((mu + tripled mu (k + 1) (mu + 1.0)) / 2.0) := by
  unfold invcdfRightLim
  rw [bracketRightLim_above_sup cdf p mu hsup _ _ _ hreach]
  exact bisect_absorbed cdf p mu mu _ fuel habsorb

/-! ### a four-point carrier on which the hypotheses hold (kernel-checked non-vacuity; binary64 is checked by the driver)

`Sat4 = {0, 1, 2, ∞}` with saturating addition, `x − y = x` when `y = 0`, `∞` otherwise absorbing; every other operation is
irrelevant to the loop and set to a constant. -/

/-- numbers `0, 1, 2` and `3 = ∞` -/
structure Sat4 where
  v : Fin 4
deriving DecidableEq, Repr

namespace Sat4
def sat (n : Nat) : Sat4 := ⟨⟨min n 3, by omega⟩⟩
instance : Add Sat4 := ⟨fun a b => sat (a.v.val + b.v.val)⟩
instance : Sub Sat4 := ⟨fun a b => if a.v.val = 3 then a else sat (a.v.val - b.v.val)⟩
instance : Mul Sat4 := ⟨fun a b => sat (a.v.val * b.v.val)⟩
instance : Div Sat4 := ⟨fun a b => if a.v.val = 3 then a else sat (a.v.val / max b.v.val 1)⟩
instance : Neg Sat4 := ⟨fun a => a⟩
instance : OfScientific Sat4 := ⟨fun m s e => if s then sat (m / 10 ^ e) else sat (m * 10 ^ e)⟩
instance : LT Sat4 := ⟨fun a b => a.v.val < b.v.val⟩
instance : LE Sat4 := ⟨fun a b => a.v.val ≤ b.v.val⟩
instance : DecidableLT Sat4 := fun a b => inferInstanceAs (Decidable (a.v.val < b.v.val))
instance : DecidableLE Sat4 := fun a b => inferInstanceAs (Decidable (a.v.val ≤ b.v.val))
instance : Num Sat4 where
  exp := id
  log := id
  log1p := id
  expm1 := id
  pow := fun a _ => a
  sqrt := id
  floor := id
  fabs := id
  erfc := id
  eqb := fun a b => decide (a = b)
  inf := sat 3
  ltInf := fun a => decide (a.v.val < 3)
  logGamma := id
  incGammaP := fun a _ => a
  incGammaQ := fun a _ => a
end Sat4

/-- non-vacuity of `invcdfRightLim_above_sup`: on `Sat4`, `mu = 0`, the constant cdf `0 < p = 1`: one pass reaches `∞`,
    (A) holds there, and the guarded inverse returns `∞` with fuel 1 -/
example : invcdfRightLim 1 (fun _ : Sat4 => (0.0 : Sat4)) 1.0 0.0 = some (Sat4.sat 3) := by
  have h := invcdfRightLim_above_sup (fun _ : Sat4 => (0.0 : Sat4)) 1.0 0.0 (fun _ => by decide) (fuel := 0) (k := 0)
    (by decide) (by decide)
  rw [h]; decide

end EaselModel.Dist.BisectCarrier
