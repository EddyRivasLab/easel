import EaselModel.Generated.Dist
import EaselModel.Dist.Mix
import EaselModel.Dist.RealInst
/-! `esl_gam_Sample` is TRANSLATED (translate/c2lean.py: a primitive draw inside a `do … while` loop makes the
    generator parameter the stream `u : Nat → α` of variates, iteration `i` reads `u i`).  The generated function IS the
    redraw loop `Mix.gamSample` (its hand-written specification) run on the first `fuel` variates of the stream — for every carrier — and over `ℝ` it
    returns `μ + u i / λ` for the FIRST index `i` whose value differs from `μ`. -/
set_option linter.unusedSectionVars false
namespace EaselModel.Dist.GamSampleGen
open EaselModel.Dist EaselModel.Dist.Gen

section generic
variable {α : Type} [Add α] [Sub α] [Mul α] [Div α] [Neg α] [OfScientific α] [LT α] [LE α]
  [DecidableLT α] [DecidableLE α] [Num α]

theorem loop_eq (fuel : Nat) (u : Nat → α) (mu l t : α) : ∀ gas, gas ≤ fuel →
    esl_gam_Sample_loop1 fuel u mu l t gas = Mix.gamSample mu l ((List.range' (fuel - gas) gas).map u) := by
  intro gas
  induction gas with
  | zero => intro _; rfl
  | succ g ih =>
    intro hg
    have e : fuel - g = (fuel - (g + 1)) + 1 := by omega
    simp only [esl_gam_Sample_loop1, esl_gam_Sample_exit1, List.range'_succ, List.map_cons, Mix.gamSample]
    rw [ih (by omega), e]

theorem gam_sample_eq (fuel : Nat) (u : Nat → α) (mu l t : α) :
    esl_gam_Sample fuel u mu l t = Mix.gamSample mu l ((List.range fuel).map u) := by
  unfold esl_gam_Sample
  rw [loop_eq fuel u mu l t fuel (le_refl _), Nat.sub_self, List.range_eq_range']

end generic

theorem gamSample_first {μ l : ℝ} : ∀ (ts : List ℝ) (x : ℝ), Mix.gamSample μ l ts = some x →
    ∃ i, ∃ h : i < ts.length, x = μ + ts[i] / l ∧ x ≠ μ ∧ ∀ j, ∀ hj : j < i, μ + ts[j]'(Nat.lt_trans hj h) / l = μ := by
  intro ts
  induction ts with
  | nil => intro x h; simp [Mix.gamSample] at h
  | cons t ts ih =>
    intro x h
    simp only [Mix.gamSample, num_eqb] at h
    split at h
    · rename_i heq
      have heq' : μ + t / l = μ := by simpa using heq
      obtain ⟨i, hi, h1, h2, h3⟩ := ih x h
      refine ⟨i + 1, by simp; omega, by simpa using h1, h2, ?_⟩
      intro j hj
      cases j with
      | zero => simpa using heq'
      | succ j => simpa using h3 j (by omega)
    · rename_i hne
      have hne' : μ + t / l ≠ μ := by simpa using hne
      simp only [Option.some.injEq] at h
      subst h
      exact ⟨0, by simp, by simp, hne', fun j hj => absurd hj (Nat.not_lt_zero _)⟩

theorem gamSample_none {μ l : ℝ} : ∀ (ts : List ℝ), Mix.gamSample μ l ts = none ↔ ∀ t ∈ ts, μ + t / l = μ := by
  intro ts
  induction ts with
  | nil => simp [Mix.gamSample]
  | cons t ts ih =>
    simp only [Mix.gamSample, num_eqb, List.mem_cons, forall_eq_or_imp]
    split
    · rename_i heq
      have heq' : μ + t / l = μ := by simpa using heq
      rw [ih]; exact ⟨fun h => ⟨heq', h⟩, fun h => h.2⟩
    · rename_i hne
      have hne' : μ + t / l ≠ μ := by simpa using hne
      simp [hne']

/-- the TRANSLATED `esl_gam_Sample` over `ℝ`: `some x` ⇒ `x = μ + u i / λ ≠ μ` for the first such index `i < fuel`;
    `none` (the C loop would draw again) ⇔ every one of the first `fuel` variates is absorbed (`μ + u i / λ = μ`,
    over `ℝ`: `u i = 0`) -/
theorem gam_sample_real {μ l τ : ℝ} (fuel : Nat) (u : Nat → ℝ) :
    (∀ x, esl_gam_Sample fuel u μ l τ = some x →
      ∃ i, i < fuel ∧ x = μ + u i / l ∧ x ≠ μ ∧ ∀ j, j < i → μ + u j / l = μ) ∧
    (esl_gam_Sample fuel u μ l τ = none ↔ ∀ i, i < fuel → μ + u i / l = μ) := by
  rw [gam_sample_eq]
  constructor
  · intro x h
    obtain ⟨i, hi, h1, h2, h3⟩ := gamSample_first _ x h
    have hi' : i < fuel := by simpa using hi
    refine ⟨i, hi', by simpa using h1, h2, fun j hj => ?_⟩
    have := h3 j hj
    simpa using this
  · rw [gamSample_none]
    simp only [List.mem_map, List.mem_range, forall_exists_index, and_imp]
    exact ⟨fun h i hi => h (u i) i hi rfl, fun h t i hi e => e ▸ h i hi⟩

end EaselModel.Dist.GamSampleGen
