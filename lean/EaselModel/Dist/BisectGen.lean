import EaselModel.Generated.Dist
import EaselModel.Dist.Bisect
/-! The four bracketing + bisection inverses as TRANSLATED from the working tree (`Generated/Dist.lean`:
    `esl_{sxp,gam,hxp,mixgev}_invcdf` with their `_loop<k>` / `_exit<k>` helpers) are the instances of the generic
    definitions of `Dist/Bisect.lean` at their own cdf — for every carrier (so also at `Float`, where the driver runs the
    generated functions against the C code).  If a loop of the C source changes, these equalities stop being provable
    and the run reports a failed obligation.  Core Lean only. -/
set_option linter.unusedSectionVars false
namespace EaselModel.Dist.BisectGen
open EaselModel.Dist EaselModel.Dist.Gen EaselModel.Dist.Bisect
variable {α : Type} [Add α] [Sub α] [Mul α] [Div α] [Neg α] [OfScientific α] [LT α] [LE α]
  [DecidableLT α] [DecidableLE α] [Num α]

theorem sxp_loop2 (fuel : Nat) (p mu l t : α) : ∀ (n : Nat) (x1 x2 : α),
    esl_sxp_invcdf_loop2 fuel p mu l t 1.0e-6 x1 x2 n = bisect (fun x => esl_sxp_cdf x mu l t) p mu n x1 x2 := by
  intro n
  induction n with
  | zero => intro x1 x2; rfl
  | succ n ih => intro x1 x2; simp only [esl_sxp_invcdf_loop2, esl_sxp_invcdf_exit2, bisect, ih]

theorem sxp_loop1 (fuel : Nat) (p mu l t x1 : α) : ∀ (n : Nat) (x2 : α),
    esl_sxp_invcdf_loop1 fuel p mu l t 1.0e-6 x1 x2 n =
      (bracketRight (fun x => esl_sxp_cdf x mu l t) p x1 n x2).bind
        fun x2 => bisect (fun x => esl_sxp_cdf x mu l t) p mu fuel x1 x2 := by
  intro n
  induction n with
  | zero => intro x2; rfl
  | succ n ih =>
    intro x2
    simp only [esl_sxp_invcdf_loop1, esl_sxp_invcdf_exit1, bracketRight, ih, sxp_loop2]
    split <;> rfl

theorem sxp_invcdf (fuel : Nat) (p mu l t : α) :
    esl_sxp_invcdf fuel p mu l t = invcdfRight fuel (fun x => esl_sxp_cdf x mu l t) p mu := by
  simp only [esl_sxp_invcdf, sxp_loop1, invcdfRight]
  cases bracketRight (fun x => esl_sxp_cdf x mu l t) p mu fuel (mu + 1.0) <;> rfl

theorem gam_loop2 (fuel : Nat) (p mu l t : α) : ∀ (n : Nat) (x1 x2 : α),
    esl_gam_invcdf_loop2 fuel p mu l t 1.0e-6 x1 x2 n = bisect (fun x => esl_gam_cdf x mu l t) p mu n x1 x2 := by
  intro n
  induction n with
  | zero => intro x1 x2; rfl
  | succ n ih => intro x1 x2; simp only [esl_gam_invcdf_loop2, esl_gam_invcdf_exit2, bisect, ih]

theorem gam_loop1 (fuel : Nat) (p mu l t x1 : α) : ∀ (n : Nat) (x2 : α),
    esl_gam_invcdf_loop1 fuel p mu l t 1.0e-6 x1 x2 n =
      (bracketGam (fun x => esl_gam_cdf x mu l t) p mu n x2).bind
        fun x2 => bisect (fun x => esl_gam_cdf x mu l t) p mu fuel x1 (x2 + mu) := by
  intro n
  induction n with
  | zero => intro x2; rfl
  | succ n ih =>
    intro x2
    simp only [esl_gam_invcdf_loop1, esl_gam_invcdf_exit1, bracketGam, ih, gam_loop2]
    split <;> rfl

theorem gam_invcdf (fuel : Nat) (p mu l t : α) :
    esl_gam_invcdf fuel p mu l t = invcdfGam fuel (fun x => esl_gam_cdf x mu l t) p mu l t := by
  simp only [esl_gam_invcdf, gam_loop1, invcdfGam]
  cases bracketGam (fun x => esl_gam_cdf x mu l t) p mu fuel (t / l) <;> rfl

theorem hxp_loop2 (fuel : Nat) (p : α) (h : ESL_HYPEREXP α) : ∀ (n : Nat) (x1 x2 : α),
    esl_hxp_invcdf_loop2 fuel p h 1.0e-6 x1 x2 n = bisect (fun x => esl_hxp_cdf x h) p h.mu n x1 x2 := by
  intro n
  induction n with
  | zero => intro x1 x2; rfl
  | succ n ih => intro x1 x2; simp only [esl_hxp_invcdf_loop2, esl_hxp_invcdf_exit2, bisect, ih]

theorem hxp_loop1 (fuel : Nat) (p : α) (h : ESL_HYPEREXP α) (x1 : α) : ∀ (n : Nat) (x2 : α),
    esl_hxp_invcdf_loop1 fuel p h 1.0e-6 x1 x2 n =
      (bracketRightLim (fun x => esl_hxp_cdf x h) p x1 n x2).bind fun x2 => bisect (fun x => esl_hxp_cdf x h) p h.mu fuel x1 x2 := by
  intro n
  induction n with
  | zero => intro x2; rfl
  | succ n ih =>
    intro x2
    simp only [esl_hxp_invcdf_loop1, esl_hxp_invcdf_exit1, bracketRightLim, ih, hxp_loop2]
    split <;> rfl

theorem hxp_invcdf (fuel : Nat) (p : α) (h : ESL_HYPEREXP α) :
    esl_hxp_invcdf fuel p h = invcdfRightLim fuel (fun x => esl_hxp_cdf x h) p h.mu := by
  simp only [esl_hxp_invcdf, hxp_loop1, invcdfRightLim]
  cases bracketRightLim (fun x => esl_hxp_cdf x h) p h.mu fuel (h.mu + 1.0) <;> rfl

theorem mixgev_loop3 (fuel : Nat) (p : α) (mg : ESL_MIXGEV α) : ∀ (n : Nat) (x1 x2 : α),
    esl_mixgev_invcdf_loop3 fuel p mg 1.0e-6 x2 x1 n = bisectMix (fun x => esl_mixgev_cdf x mg) p n x1 x2 := by
  intro n
  induction n with
  | zero => intro x1 x2; rfl
  | succ n ih => intro x1 x2; simp only [esl_mixgev_invcdf_loop3, esl_mixgev_invcdf_exit3, bisectMix, ih]

theorem mixgev_loop2 (fuel : Nat) (p : α) (mg : ESL_MIXGEV α) (x1 : α) : ∀ (n : Nat) (x2 : α),
    esl_mixgev_invcdf_loop2 fuel p mg 1.0e-6 x2 x1 n =
      (bracketRightLim (fun x => esl_mixgev_cdf x mg) p x1 n x2).bind fun x2 => bisectMix (fun x => esl_mixgev_cdf x mg) p fuel x1 x2 := by
  intro n
  induction n with
  | zero => intro x2; rfl
  | succ n ih =>
    intro x2
    simp only [esl_mixgev_invcdf_loop2, esl_mixgev_invcdf_exit2, bracketRightLim, ih, mixgev_loop3]
    split <;> rfl

theorem mixgev_loop1 (fuel : Nat) (p : α) (mg : ESL_MIXGEV α) (x2 : α) : ∀ (n : Nat) (x1 : α),
    esl_mixgev_invcdf_loop1 fuel p mg 1.0e-6 x2 x1 n =
      (bracketLeft (fun x => esl_mixgev_cdf x mg) p x2 n x1).bind fun x1 =>
        (bracketRightLim (fun x => esl_mixgev_cdf x mg) p x1 fuel x2).bind fun x2 => bisectMix (fun x => esl_mixgev_cdf x mg) p fuel x1 x2 := by
  intro n
  induction n with
  | zero => intro x1; rfl
  | succ n ih =>
    intro x1
    simp only [esl_mixgev_invcdf_loop1, esl_mixgev_invcdf_exit1, bracketLeft, ih, mixgev_loop2]
    split <;> rfl

theorem mixgev_invcdf (fuel : Nat) (p : α) (mg : ESL_MIXGEV α) :
    esl_mixgev_invcdf fuel p mg = invcdfMix fuel (fun x => esl_mixgev_cdf x mg) p (esl_vec_DMin mg.mu mg.K) := by
  simp only [esl_mixgev_invcdf, mixgev_loop1, invcdfMix]
  cases bracketLeft (fun x => esl_mixgev_cdf x mg) p (esl_vec_DMin mg.mu mg.K) fuel (esl_vec_DMin mg.mu mg.K - 1.0) with
  | none => rfl
  | some x1 =>
    simp only [Option.bind]
    cases bracketRightLim (fun x => esl_mixgev_cdf x mg) p x1 fuel (esl_vec_DMin mg.mu mg.K) <;> rfl

theorem generic_invcdf_forward (fuel : Nat) (p : α) (v : List α) (h : ESL_HYPEREXP α) (mg : ESL_MIXGEV α) :
    esl_sxp_generic_invcdf fuel p v = esl_sxp_invcdf fuel p (v.getD 0 0.0) (v.getD 1 0.0) (v.getD 2 0.0) ∧
    esl_gam_generic_invcdf fuel p v = esl_gam_invcdf fuel p (v.getD 0 0.0) (v.getD 1 0.0) (v.getD 2 0.0) ∧
    esl_hxp_generic_invcdf fuel p h = esl_hxp_invcdf fuel p h ∧ esl_mixgev_generic_invcdf fuel p mg = esl_mixgev_invcdf fuel p mg :=
  ⟨rfl, rfl, rfl, rfl⟩

end EaselModel.Dist.BisectGen
