import EaselModel.Dist.IncGammaInt
import EaselModel.Dist.SpecialFamThm
import EaselModel.Dist.IntegralThm
/-! Gamma and stretched-exponential families: the textbook forms, built on the incomplete gamma function defined as an
    INTEGRAL (`Dist/IncGammaInt.lean`, over Mathlib's Gamma kernel), satisfy the laws of the property (L2, no hypothesis on
    any special function); and the translated `esl_gam_*` / `esl_sxp_*` differ from those textbook forms ONLY through the
    two function symbols: density = textbook × `e^{log Γ(a) − esl_stats_LogGamma(a)}`, cdf/surv = textbook +
    (`esl_stats_IncompleteGamma(a, y)` − `(P a y, Q a y)`) — unconditional identities; the size of those two
    discrepancies is L0 (monitored against mpmath), and enters the `…_close` theorems as explicit `ε`, `δ`. -/
noncomputable section
namespace EaselModel.Dist.GamSxpThm
open Real Filter EaselModel.Dist EaselModel.Dist.Gen EaselModel.Dist.IncGammaInt

def gamCdf (μ l τ x : ℝ) : ℝ := if x ≤ μ then 0 else P τ (l * (x - μ))
def gamSurv (μ l τ x : ℝ) : ℝ := if x ≤ μ then 1 else Q τ (l * (x - μ))
/-- `λ^τ (x−μ)^{τ−1} e^{−λ(x−μ)} / Γ(τ)` on `x > μ` -/
def gamPdf (μ l τ x : ℝ) : ℝ := if x ≤ μ then 0 else l ^ τ * (x - μ) ^ (τ - 1) * exp (-(l * (x - μ))) / Gamma τ

theorem gamCdf_add_surv {l τ : ℝ} (hl : 0 < l) (hτ : 0 < τ) (μ x : ℝ) : gamCdf μ l τ x + gamSurv μ l τ x = 1 := by
  unfold gamCdf gamSurv
  split_ifs with h
  · norm_num
  · exact P_add_Q hτ (mul_nonneg hl.le (by linarith))

theorem gamCdf_range {l τ : ℝ} (hl : 0 < l) (hτ : 0 < τ) (μ x : ℝ) : 0 ≤ gamCdf μ l τ x ∧ gamCdf μ l τ x ≤ 1 := by
  unfold gamCdf
  split_ifs with h
  · exact ⟨le_rfl, zero_le_one⟩
  · exact ⟨P_nonneg hτ, P_le_one hτ (mul_nonneg hl.le (by linarith))⟩

theorem gamCdf_tendsto_one {l τ : ℝ} (hl : 0 < l) (hτ : 0 < τ) (μ : ℝ) : Tendsto (gamCdf μ l τ) atTop (nhds 1) := by
  have h : Tendsto (fun x => l * (x - μ)) atTop atTop :=
    (tendsto_atTop_add_const_right _ (-μ) tendsto_id).const_mul_atTop hl
  refine ((P_tendsto_atTop hτ).comp h).congr' ?_
  filter_upwards [eventually_gt_atTop μ] with x hx
  simp [gamCdf, not_le.mpr hx]

theorem kern_scaled {l τ y : ℝ} (hl : 0 < l) (hy : 0 < y) :
    kern τ (l * y) / Gamma τ * l = l ^ τ * y ^ (τ - 1) * exp (-(l * y)) / Gamma τ := by
  unfold kern
  rw [mul_rpow hl.le hy.le]
  have : l ^ τ = l ^ (τ - 1) * l := by
    rw [← rpow_add_one hl.ne']; ring_nf
  rw [this]; ring

theorem gamCdf_hasDerivAt {μ l τ x : ℝ} (hl : 0 < l) (hτ : 0 < τ) (hx : μ < x) : HasDerivAt (gamCdf μ l τ) (gamPdf μ l τ x) x := by
  have hy : 0 < l * (x - μ) := mul_pos hl (by linarith)
  have hin : HasDerivAt (fun u => l * (u - μ)) (l * 1) x := ((hasDerivAt_id x).sub_const μ).const_mul l
  have h := (P_hasDerivAt hτ hy).comp x hin
  have e : gamCdf μ l τ =ᶠ[nhds x] (P τ ∘ fun u => l * (u - μ)) := by
    filter_upwards [lt_mem_nhds hx] with u hu
    simp [gamCdf, not_le.mpr hu]
  refine (h.congr_of_eventuallyEq e).congr_deriv ?_
  rw [gamPdf, if_neg (not_le.mpr hx), mul_one, kern_scaled hl (by linarith)]

theorem gamPdf_nonneg {l τ : ℝ} (hl : 0 < l) (hτ : 0 < τ) (μ x : ℝ) : 0 ≤ gamPdf μ l τ x := by
  unfold gamPdf
  split_ifs with h
  · exact le_rfl
  · exact div_nonneg (mul_nonneg (mul_nonneg (rpow_nonneg hl.le _) (rpow_nonneg (by linarith) _)) (exp_pos _).le) (Gamma_pos_of_pos hτ).le

theorem gam_integral_pdf {μ l τ a b : ℝ} (hl : 0 < l) (hτ : 0 < τ) (ha : μ < a) (hab : a ≤ b) :
    ∫ x in a..b, gamPdf μ l τ x = gamCdf μ l τ b - gamCdf μ l τ a :=
  IntegralThm.ftc_of_nonneg hab (fun _ hx => gamCdf_hasDerivAt hl hτ (lt_of_lt_of_le ha hx.1)) fun x _ => gamPdf_nonneg hl hτ μ x

theorem gam_code_vs_textbook {x μ l τ : ℝ} (hl : 0 < l) (hτ : 0 < τ) (hx : μ < x) :
    esl_gam_pdf x μ l τ = gamPdf μ l τ x * exp (log (Gamma τ) - Num.logGamma τ) ∧
    esl_gam_cdf x μ l τ - gamCdf μ l τ x = Num.incGammaP τ (l * (x - μ)) - P τ (l * (x - μ)) ∧
    esl_gam_surv x μ l τ - gamSurv μ l τ x = Num.incGammaQ τ (l * (x - μ)) - Q τ (l * (x - μ)) := by
  have hy : 0 < l * (x - μ) := mul_pos hl (by linarith)
  have hG := Gamma_pos_of_pos hτ
  refine ⟨?_, ?_, ?_⟩
  · have h := SpecialFamThm.gam_pdf_closed (τ := τ) hl hx
    have he : esl_gam_pdf x μ l τ = l ^ τ * (x - μ) ^ (τ - 1) * exp (-(l * (x - μ))) * exp (-Num.logGamma τ) := by
      rw [← h, mul_assoc, ← exp_add, add_neg_cancel, exp_zero, mul_one]
    rw [he, gamPdf, if_neg (not_le.mpr hx), exp_sub, exp_log hG, exp_neg]
    have := exp_ne_zero (Num.logGamma τ)
    field_simp
    rw [mul_assoc, ← exp_add, neg_add_cancel, exp_zero, mul_one]
  · rw [(SpecialFamThm.gam_cdf_closed hy).1, gamCdf, if_neg (not_le.mpr hx)]
  · rw [(SpecialFamThm.gam_cdf_closed hy).2, gamSurv, if_neg (not_le.mpr hx)]

theorem gam_code_close {x μ l τ ε δ : ℝ} (hl : 0 < l) (hτ : 0 < τ) (hx : μ < x)
    (hLG : |Num.logGamma τ - log (Gamma τ)| ≤ ε)
    (hP : |Num.incGammaP τ (l * (x - μ)) - P τ (l * (x - μ))| ≤ δ) (hQ : |Num.incGammaQ τ (l * (x - μ)) - Q τ (l * (x - μ))| ≤ δ) :
    |esl_gam_pdf x μ l τ - gamPdf μ l τ x| ≤ (exp ε - 1) * gamPdf μ l τ x ∧ |esl_gam_cdf x μ l τ - gamCdf μ l τ x| ≤ δ ∧
    |esl_gam_surv x μ l τ - gamSurv μ l τ x| ≤ δ ∧ |esl_gam_cdf x μ l τ + esl_gam_surv x μ l τ - 1| ≤ 2 * δ := by
  obtain ⟨h1, h2, h3⟩ := gam_code_vs_textbook hl hτ hx
  refine ⟨?_, h2 ▸ hP, h3 ▸ hQ, ?_⟩
  · rw [h1]; exact abs_mul_exp_sub_le (gamPdf_nonneg hl hτ μ x) (by rwa [abs_sub_comm])
  · exact abs_add_sub_one_le (gamCdf_add_surv hl hτ μ x) (h2 ▸ hP) (h3 ▸ hQ)

def sxpCdf (μ l τ x : ℝ) : ℝ := if x ≤ μ then 0 else P (1 / τ) ((l * (x - μ)) ^ τ)
def sxpSurv (μ l τ x : ℝ) : ℝ := if x ≤ μ then 1 else Q (1 / τ) ((l * (x - μ)) ^ τ)
/-- `λ τ e^{−(λ(x−μ))^τ} / Γ(1/τ)` on `x > μ` -/
def sxpPdf (μ l τ x : ℝ) : ℝ := if x ≤ μ then 0 else l * τ * exp (-(l * (x - μ)) ^ τ) / Gamma (1 / τ)

theorem sxpCdf_add_surv {l τ : ℝ} (hl : 0 < l) (hτ : 0 < τ) (μ x : ℝ) : sxpCdf μ l τ x + sxpSurv μ l τ x = 1 := by
  unfold sxpCdf sxpSurv
  split_ifs with h
  · norm_num
  · exact P_add_Q (one_div_pos.mpr hτ) (rpow_nonneg (mul_nonneg hl.le (by linarith)) τ)

theorem sxpCdf_range {l τ : ℝ} (hl : 0 < l) (hτ : 0 < τ) (μ x : ℝ) : 0 ≤ sxpCdf μ l τ x ∧ sxpCdf μ l τ x ≤ 1 := by
  unfold sxpCdf
  split_ifs with h
  · exact ⟨le_rfl, zero_le_one⟩
  · exact ⟨P_nonneg (one_div_pos.mpr hτ), P_le_one (one_div_pos.mpr hτ) (rpow_nonneg (mul_nonneg hl.le (by linarith)) τ)⟩

theorem sxpCdf_tendsto_one {l τ : ℝ} (hl : 0 < l) (hτ : 0 < τ) (μ : ℝ) : Tendsto (sxpCdf μ l τ) atTop (nhds 1) := by
  have h : Tendsto (fun x => l * (x - μ)) atTop atTop :=
    (tendsto_atTop_add_const_right _ (-μ) tendsto_id).const_mul_atTop hl
  have h2 : Tendsto (fun x => (l * (x - μ)) ^ τ) atTop atTop := (tendsto_rpow_atTop hτ).comp h
  refine ((P_tendsto_atTop (one_div_pos.mpr hτ)).comp h2).congr' ?_
  filter_upwards [eventually_gt_atTop μ] with x hx
  simp [sxpCdf, not_le.mpr hx]

theorem sxpCdf_hasDerivAt {μ l τ x : ℝ} (hl : 0 < l) (hτ : 0 < τ) (hx : μ < x) : HasDerivAt (sxpCdf μ l τ) (sxpPdf μ l τ x) x := by
  have hy : 0 < l * (x - μ) := mul_pos hl (by linarith)
  have hz : 0 < (l * (x - μ)) ^ τ := rpow_pos_of_pos hy τ
  have hin : HasDerivAt (fun u => l * (u - μ)) (l * 1) x := ((hasDerivAt_id x).sub_const μ).const_mul l
  have hpow : HasDerivAt (fun u => (l * (u - μ)) ^ τ) (l * 1 * τ * (l * (x - μ)) ^ (τ - 1)) x :=
    hin.rpow_const (Or.inl hy.ne')
  have h := (P_hasDerivAt (one_div_pos.mpr hτ) hz).comp x hpow
  have e : sxpCdf μ l τ =ᶠ[nhds x] (P (1 / τ) ∘ fun u => (l * (u - μ)) ^ τ) := by
    filter_upwards [lt_mem_nhds hx] with u hu
    simp [sxpCdf, not_le.mpr hu]
  refine (h.congr_of_eventuallyEq e).congr_deriv ?_
  rw [sxpPdf, if_neg (not_le.mpr hx)]
  unfold kern
  have e1 : ((l * (x - μ)) ^ τ) ^ (1 / τ - 1) = (l * (x - μ)) ^ (1 - τ) := by
    rw [← rpow_mul hy.le]; congr 1; field_simp
  have e2 : (l * (x - μ)) ^ (1 - τ) * (l * (x - μ)) ^ (τ - 1) = 1 := by
    rw [← rpow_add hy]; simp
  rw [e1]
  calc exp (-(l * (x - μ)) ^ τ) * (l * (x - μ)) ^ (1 - τ) / Gamma (1 / τ) * (l * 1 * τ * (l * (x - μ)) ^ (τ - 1))
      = l * τ * exp (-(l * (x - μ)) ^ τ) / Gamma (1 / τ) * ((l * (x - μ)) ^ (1 - τ) * (l * (x - μ)) ^ (τ - 1)) := by ring
    _ = l * τ * exp (-(l * (x - μ)) ^ τ) / Gamma (1 / τ) := by rw [e2, mul_one]

theorem sxpPdf_nonneg {l τ : ℝ} (hl : 0 < l) (hτ : 0 < τ) (μ x : ℝ) : 0 ≤ sxpPdf μ l τ x := by
  unfold sxpPdf
  split_ifs with h
  · exact le_rfl
  · exact div_nonneg (mul_nonneg (mul_nonneg hl.le hτ.le) (exp_pos _).le) (Gamma_pos_of_pos (one_div_pos.mpr hτ)).le

theorem sxp_integral_pdf {μ l τ a b : ℝ} (hl : 0 < l) (hτ : 0 < τ) (ha : μ < a) (hab : a ≤ b) :
    ∫ x in a..b, sxpPdf μ l τ x = sxpCdf μ l τ b - sxpCdf μ l τ a :=
  IntegralThm.ftc_of_nonneg hab (fun _ hx => sxpCdf_hasDerivAt hl hτ (lt_of_lt_of_le ha hx.1)) fun x _ => sxpPdf_nonneg hl hτ μ x

theorem sxp_code_vs_textbook {x μ l τ : ℝ} (hl : 0 < l) (hτ : 0 < τ) (hx : μ < x) :
    esl_sxp_pdf x μ l τ = sxpPdf μ l τ x * exp (log (Gamma (1 / τ)) - Num.logGamma (1 / τ)) ∧
    esl_sxp_cdf x μ l τ - sxpCdf μ l τ x = Num.incGammaP (1 / τ) ((l * (x - μ)) ^ τ) - P (1 / τ) ((l * (x - μ)) ^ τ) ∧
    esl_sxp_surv x μ l τ - sxpSurv μ l τ x = Num.incGammaQ (1 / τ) ((l * (x - μ)) ^ τ) - Q (1 / τ) ((l * (x - μ)) ^ τ) := by
  have hy : 0 < l * (x - μ) := mul_pos hl (by linarith)
  have hG := Gamma_pos_of_pos (one_div_pos.mpr hτ)
  refine ⟨?_, ?_, ?_⟩
  · have h := SpecialFamThm.sxp_pdf_closed (τ := τ) hl hx
    have he : esl_sxp_pdf x μ l τ = l * τ * exp (-(l * (x - μ)) ^ τ) * exp (-Num.logGamma (1 / τ)) := by
      rw [← h, mul_assoc, ← exp_add, add_neg_cancel, exp_zero, mul_one]
    rw [he, sxpPdf, if_neg (not_le.mpr hx), exp_sub, exp_log hG, exp_neg]
    have := exp_ne_zero (Num.logGamma (1 / τ))
    field_simp
    rw [← exp_add, neg_add_cancel, exp_zero]
  · rw [(SpecialFamThm.sxp_cdf_closed hl hx).1, sxpCdf, if_neg (not_le.mpr hx)]
  · rw [(SpecialFamThm.sxp_cdf_closed hl hx).2, sxpSurv, if_neg (not_le.mpr hx)]

theorem sxp_code_close {x μ l τ ε δ : ℝ} (hl : 0 < l) (hτ : 0 < τ) (hx : μ < x)
    (hLG : |Num.logGamma (1 / τ) - log (Gamma (1 / τ))| ≤ ε)
    (hP : |Num.incGammaP (1 / τ) ((l * (x - μ)) ^ τ) - P (1 / τ) ((l * (x - μ)) ^ τ)| ≤ δ)
    (hQ : |Num.incGammaQ (1 / τ) ((l * (x - μ)) ^ τ) - Q (1 / τ) ((l * (x - μ)) ^ τ)| ≤ δ) :
    |esl_sxp_pdf x μ l τ - sxpPdf μ l τ x| ≤ (exp ε - 1) * sxpPdf μ l τ x ∧ |esl_sxp_cdf x μ l τ - sxpCdf μ l τ x| ≤ δ ∧
    |esl_sxp_surv x μ l τ - sxpSurv μ l τ x| ≤ δ ∧ |esl_sxp_cdf x μ l τ + esl_sxp_surv x μ l τ - 1| ≤ 2 * δ := by
  obtain ⟨h1, h2, h3⟩ := sxp_code_vs_textbook hl hτ hx
  refine ⟨?_, h2 ▸ hP, h3 ▸ hQ, ?_⟩
  · rw [h1]; exact abs_mul_exp_sub_le (sxpPdf_nonneg hl hτ μ x) (by rwa [abs_sub_comm])
  · exact abs_add_sub_one_le (sxpCdf_add_surv hl hτ μ x) (h2 ▸ hP) (h3 ▸ hQ)

end EaselModel.Dist.GamSxpThm
