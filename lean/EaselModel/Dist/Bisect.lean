import EaselModel.Dist.Num
/-! Generic form of the bracketing + bisection inverses `esl_sxp_invcdf`, `esl_hxp_invcdf`, `esl_gam_invcdf`,
    `esl_mixgev_invcdf`, with the cdf as a parameter.  Since round 3 the four C functions themselves are TRANSLATED on
    every run (`Generated/Dist.lean`: `esl_*_invcdf`, `…_loop<k>`, `…_exit<k>`); `Dist/BisectGen.lean` proves that each
    generated function IS the instance of these definitions at its own cdf, so the theorems proved once here
    (`BisectTerm`) are theorems about the current C source.
    Each C `do { … } while (c)` is a function recursing on fuel (`none` = fuel exhausted: the C loop would still be
    running); statements and tests in the C order.  Core Lean only. -/
namespace EaselModel.Dist.Bisect
variable {α : Type} [Add α] [Sub α] [Mul α] [Div α] [Neg α] [OfScientific α] [LT α] [LE α]
  [DecidableLT α] [DecidableLE α] [Num α]

/-- `do { x2 = x2 + 2.*(x2-x1); f2 = cdf(x2); } while (f2 < p);` (sxp) -/
def bracketRight (cdf : α → α) (p x1 : α) : Nat → α → Option α
  | 0, _ => none
  | n + 1, x2 =>
    let x2 := x2 + 2.0 * (x2 - x1)
    if cdf x2 < p then bracketRight cdf p x1 n x2 else some x2

/-- `do { x2 = x2 + 2.*(x2-x1); f2 = cdf(x2); } while (f2 < p && x2 < eslINFINITY);` (hxp, mixgev since 55bbf88:
    in binary64 the loop stops at `+inf` when `p` exceeds the largest value the cdf attains).  On ℝ the second test is
    always true (`BisectTerm.bracketRightLim_real`). -/
def bracketRightLim (cdf : α → α) (p x1 : α) : Nat → α → Option α
  | 0, _ => none
  | n + 1, x2 =>
    let x2 := x2 + 2.0 * (x2 - x1)
    if cdf x2 < p ∧ Num.ltInf x2 = true then bracketRightLim cdf p x1 n x2 else some x2

/-- `do { x1 = x1 - 2.*(x2-x1); f1 = cdf(x1); } while (f1 > p);` (mixgev, left side) -/
def bracketLeft (cdf : α → α) (p x2 : α) : Nat → α → Option α
  | 0, _ => none
  | n + 1, x1 =>
    let x1 := x1 - 2.0 * (x2 - x1)
    if p < cdf x1 then bracketLeft cdf p x2 n x1 else some x1

/-- `do { x2 = x2*2.; f2 = cdf(mu+x2); } while (f2 < p);` (gamma: `x2` relative to `mu`) -/
def bracketGam (cdf : α → α) (p mu : α) : Nat → α → Option α
  | 0, _ => none
  | n + 1, x2 =>
    let x2 := x2 * 2.0
    if cdf (mu + x2) < p then bracketGam cdf p mu n x2 else some x2

/-- the bisection loop of sxp / hxp / gam (with the no-progress `break`), followed by `xm = (x1+x2)/2; return xm` -/
def bisect (cdf : α → α) (p mu : α) : Nat → α → α → Option α
  | 0, _, _ => none
  | n + 1, x1, x2 =>
    let xm := (x1 + x2) / 2.0
    if xm ≤ x1 ∨ x2 ≤ xm then some ((x1 + x2) / 2.0)
    else
      let fm := cdf xm
      if p < fm then
        (if 1.0e-6 < (xm - x1) / ((x1 + xm) - 2.0 * mu) then bisect cdf p mu n x1 xm else some ((x1 + xm) / 2.0))
      else if fm < p then
        (if 1.0e-6 < (x2 - xm) / ((xm + x2) - 2.0 * mu) then bisect cdf p mu n xm x2 else some ((xm + x2) / 2.0))
      else some xm

/-- the bisection loop of mixgev (no `break`; stop rule `(x2-x1) > tol*(|x1|+|x2|+1e-9)`) -/
def bisectMix (cdf : α → α) (p : α) : Nat → α → α → Option α
  | 0, _, _ => none
  | n + 1, x1, x2 =>
    let xm := (x1 + x2) / 2.0
    let fm := cdf xm
    if p < fm then
      (if 1.0e-6 * ((Num.fabs x1 + Num.fabs xm) + 1.0e-9) < xm - x1 then bisectMix cdf p n x1 xm else some ((x1 + xm) / 2.0))
    else if fm < p then
      (if 1.0e-6 * ((Num.fabs xm + Num.fabs x2) + 1.0e-9) < x2 - xm then bisectMix cdf p n xm x2 else some ((xm + x2) / 2.0))
    else some xm

/-- iteration allowance per loop used by the driver.  In binary64 a bracketing loop cannot run more than ~2100 times
    (its reach doubles or triples from at least the smallest subnormal until `cdf(+inf) = 1 ≥ p`), a bisection no more than
    ~2100 times (the bracket halves until the midpoint equals an endpoint); `BisectTotal` has the real-number bounds. -/
def defaultFuel : Nat := 5000

/-- `esl_sxp_invcdf`: `x1 = mu; x2 = mu + 1.;` bracket right, bisect -/
def invcdfRight (fuel : Nat) (cdf : α → α) (p mu : α) : Option α :=
  match bracketRight cdf p mu fuel (mu + 1.0) with
  | none => none
  | some x2 => bisect cdf p mu fuel mu x2

/-- `esl_hxp_invcdf`: the same with the `x2 < eslINFINITY` test in the bracketing loop -/
def invcdfRightLim (fuel : Nat) (cdf : α → α) (p mu : α) : Option α :=
  match bracketRightLim cdf p mu fuel (mu + 1.0) with
  | none => none
  | some x2 => bisect cdf p mu fuel mu x2

/-- `esl_gam_invcdf`: `x1 = mu; x2 = tau/lambda;` bracket (relative), `x2 += mu;` bisect -/
def invcdfGam (fuel : Nat) (cdf : α → α) (p mu lambda tau : α) : Option α :=
  match bracketGam cdf p mu fuel (tau / lambda) with
  | none => none
  | some x2 => bisect cdf p mu fuel mu (x2 + mu)

/-- `esl_mixgev_invcdf`: `x2 = min mu_k; x1 = x2 - 1.;` bracket left, bracket right, bisect -/
def invcdfMix (fuel : Nat) (cdf : α → α) (p mumin : α) : Option α :=
  match bracketLeft cdf p mumin fuel (mumin - 1.0) with
  | none => none
  | some x1 =>
    match bracketRightLim cdf p x1 fuel mumin with
    | none => none
    | some x2 => bisectMix cdf p fuel x1 x2

/-- `esl_vec_DMin` (n ≥ 1) -/
def dmin : List α → α
  | [] => 0.0
  | v :: vs => vs.foldl (fun best w => if w < best then w else best) v

end EaselModel.Dist.Bisect
