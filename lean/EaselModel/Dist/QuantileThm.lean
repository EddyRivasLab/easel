import EaselModel.Dist.GamSxpThm
import EaselModel.Dist.BisectTotal
import EaselModel.Dist.MixGen
/-! Gamma and stretched exponential: the incomplete gamma INTEGRAL `P a` is `BisectTotal.Edged` (continuous, strictly increasing from
    `0`, limit `1`), and the two textbook cdfs are `P a` after a change of variable that carries `(μ, ∞)` increasingly onto `(0, ∞)`;
    so every `p ∈ (0,1)` has exactly one quantile `q > μ`, which the bracketing + bisection finds. -/
noncomputable section
namespace EaselModel.Dist.QuantileThm
open Real EaselModel.Dist EaselModel.Dist.Gen EaselModel.Dist.IncGammaInt EaselModel.Dist.GamSxpThm

theorem P_edged {a : ℝ} (ha : 0 < a) : BisectTotal.Edged (P a) 0 1 :=
  .of_tendsto (fun x hx => by simp [P, Set.Ioc_eq_empty (not_lt.mpr hx)]) (fun _ _ => P_strictMono ha)
    (fun _ => P_continuousOn ha) (P_tendsto_atTop ha)

theorem gam_edged {μ l τ : ℝ} (hl : 0 < l) (hτ : 0 < τ) : BisectTotal.Edged (gamCdf μ l τ) μ 1 :=
  (P_edged hτ).comp (g := fun x => l * (x - μ)) (fun _ hx => mul_pos hl (sub_pos.mpr hx))
    (fun _ _ _ hst => mul_lt_mul_of_pos_left (by linarith) hl)
    fun y hy => ⟨μ + y / l, by have := div_pos hy hl; linarith, by field_simp; ring⟩

theorem sxp_edged {μ l τ : ℝ} (hl : 0 < l) (hτ : 0 < τ) : BisectTotal.Edged (sxpCdf μ l τ) μ 1 :=
  (P_edged (one_div_pos.mpr hτ)).comp (g := fun x => (l * (x - μ)) ^ τ) (fun _ hx => rpow_pos_of_pos (mul_pos hl (sub_pos.mpr hx)) τ)
    (fun _ _ hs hst => rpow_lt_rpow (mul_pos hl (sub_pos.mpr hs)).le (mul_lt_mul_of_pos_left (by linarith) hl) hτ)
    fun y hy => ⟨μ + y ^ (1 / τ) / l, by have := div_pos (rpow_pos_of_pos hy (1 / τ)) hl; linarith, by
      rw [show l * (μ + y ^ (1 / τ) / l - μ) = y ^ (1 / τ) by field_simp; ring, ← rpow_mul hy.le, one_div, inv_mul_cancel₀ hτ.ne', rpow_one]⟩

theorem gamCdf_strictMonoOn {μ l τ : ℝ} (hl : 0 < l) (hτ : 0 < τ) {s t : ℝ} (hs : μ ≤ s) (hst : s < t) :
    gamCdf μ l τ s < gamCdf μ l τ t := (gam_edged hl hτ).strict s t hs hst

theorem sxpCdf_strictMonoOn {μ l τ : ℝ} (hl : 0 < l) (hτ : 0 < τ) {s t : ℝ} (hs : μ ≤ s) (hst : s < t) :
    sxpCdf μ l τ s < sxpCdf μ l τ t := (sxp_edged hl hτ).strict s t hs hst

theorem _root_.EaselModel.Dist.IncGammaInt.P_quantile {a p : ℝ} (ha : 0 < a) (hp0 : 0 < p) (hp1 : p < 1) :
    ∃! y, 0 < y ∧ P a y = p := (P_edged ha).unique hp0 hp1

theorem _root_.EaselModel.Dist.GamSxpThm.gamCdf_mono {l τ : ℝ} (hl : 0 < l) (hτ : 0 < τ) (μ : ℝ) : Monotone (gamCdf μ l τ) :=
  (gam_edged hl hτ).mono

theorem _root_.EaselModel.Dist.GamSxpThm.sxpCdf_mono {l τ : ℝ} (hl : 0 < l) (hτ : 0 < τ) (μ : ℝ) : Monotone (sxpCdf μ l τ) :=
  (sxp_edged hl hτ).mono

end EaselModel.Dist.QuantileThm

/-! Hyperexponential, "the inverse cdf inverts the cdf" at L2, any `K`: with rates `> 0`, coefficients `≥ 0` and at least one
    `> 0`, the textbook mixture cdf is continuous and strictly increasing on `[μ, ∞)` from `0` to `Σq`; every `p ∈ (0, Σq)`
    has exactly one quantile `q > μ`; the bracketing + bisection algorithm of `esl_hxp_invcdf` run on the textbook cdf
    terminates for all sufficiently large fuel within `1e-6·(r − μ)` of it. -/
namespace EaselModel.Dist.HxpQuantile
open Real Finset Set EaselModel.Dist EaselModel.Dist.Gen EaselModel.Dist.Spec EaselModel.Dist.MixGen

theorem expCdf_strictMono {μ l s t : ℝ} (hl : 0 < l) (hs : μ ≤ s) (hst : s < t) : expCdf μ l s < expCdf μ l t := by
  unfold expCdf
  rw [if_neg (not_lt.mpr hs), if_neg (not_lt.mpr (hs.trans hst.le))]
  have : exp (-(l * (t - μ))) < exp (-(l * (s - μ))) := exp_lt_exp.mpr (by nlinarith)
  linarith

theorem hxpCdf_strictMono {h : ESL_HYPEREXP ℝ} (ok : HxpOK h) (hsome : ∃ k < h.K, 0 < hq h k) {s t : ℝ} (hs : h.mu ≤ s) (hst : s < t) :
    hxpCdf h s < hxpCdf h t := by
  obtain ⟨k0, hk0, hq0⟩ := hsome
  unfold hxpCdf
  refine sum_lt_sum (fun k hk => mul_le_mul_of_nonneg_left (ExpThm.expCdf_mono (ok k (mem_range.mp hk)).2.le hst.le) (ok k (mem_range.mp hk)).1)
    ⟨k0, mem_range.mpr hk0, mul_lt_mul_of_pos_left (expCdf_strictMono (ok k0 hk0).2 hs hst) hq0⟩

theorem hxpCdf_continuousOn (h : ESL_HYPEREXP ℝ) (X : ℝ) : ContinuousOn (hxpCdf h) (Icc h.mu X) := by
  have hc : Continuous fun x : ℝ => ∑ k ∈ range h.K, hq h k * (1 - exp (-(hl h k * (x - h.mu)))) := by fun_prop
  refine hc.continuousOn.congr fun x hx => ?_
  unfold hxpCdf
  refine sum_congr rfl fun k _ => ?_
  unfold expCdf; rw [if_neg (not_lt.mpr hx.1)]

theorem hxpCdf_at_mu (h : ESL_HYPEREXP ℝ) : hxpCdf h h.mu = 0 := by
  unfold hxpCdf
  refine sum_eq_zero fun k _ => ?_
  unfold expCdf; rw [if_neg (lt_irrefl _)]; simp

theorem hxp_edged {h : ESL_HYPEREXP ℝ} (ok : HxpOK h) (hsome : ∃ k < h.K, 0 < hq h k) :
    BisectTotal.Edged (hxpCdf h) h.mu (hxpQ h) :=
  .of_tendsto (fun x hx => hx.lt_or_eq.elim ((hxp_textbook_laws ok).2.1 x) fun e => e ▸ hxpCdf_at_mu h)
    (fun _ _ => hxpCdf_strictMono ok hsome) (fun X _ => hxpCdf_continuousOn h X) (hxp_textbook_laws ok).2.2.2.1

end EaselModel.Dist.HxpQuantile
