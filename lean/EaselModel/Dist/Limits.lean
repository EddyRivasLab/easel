import EaselModel.Dist.MixGen
import EaselModel.Dist.WeiThm
import EaselModel.Dist.GumbelThm
import EaselModel.Dist.BisectTotal
import EaselModel.Dist.InvTotal
/-! "The cdf is non-decreasing FROM 0 TO 1" — the limits of the Weibull cdf (`→ 1`; it is `0` at and
    below `μ`), of the GEV with either sign of `α` (`→ 0` at `−∞`, `→ 1` at `+∞`; on the bounded side the value is attained), of the GEV
    mixture for every number of components (`→ 0`, `→ Σq`); and what the limits give for the GEV mixture's inverse: the
    bracketing + bisection of `esl_mixgev_invcdf` run on the textbook mixture cdf is total for every `p ∈ (0, Σq)`. -/
noncomputable section
namespace EaselModel.Dist.Limits
open Real Filter Finset EaselModel.Dist EaselModel.Dist.Gen EaselModel.Dist.Spec EaselModel.Dist.MixGen

theorem weiCdf_tendsto_one {μ l τ : ℝ} (hl : 0 < l) (hτ : 0 < τ) : Tendsto (weiCdf μ l τ) atTop (nhds 1) := by
  have h1 := GumbelThm.lin_tendsto_atTop (μ := μ) hl
  have h2 : Tendsto (fun x : ℝ => τ * log (l * (x - μ))) atTop atTop := (tendsto_log_atTop.comp h1).const_mul_atTop hτ
  have h3 : Tendsto (fun x : ℝ => exp (-exp (τ * log (l * (x - μ))))) atTop (nhds 0) :=
    tendsto_exp_neg_atTop_nhds_zero.comp (tendsto_exp_atTop.comp h2)
  have h4 : Tendsto (fun x : ℝ => 1 - exp (-exp (τ * log (l * (x - μ))))) atTop (nhds (1 - 0)) := tendsto_const_nhds.sub h3
  rw [sub_zero] at h4
  refine h4.congr' ?_
  filter_upwards [eventually_gt_atTop μ] with x hx
  simp [weiCdf, weiZ, not_le.mpr hx]

theorem arg_atTop_pos {μ l α : ℝ} (hl : 0 < l) (hα : 0 < α) : Tendsto (gevArg μ l α) atTop atTop := by
  unfold gevArg
  exact tendsto_atTop_add_const_left _ _ ((GumbelThm.lin_tendsto_atTop (μ := μ) hl).const_mul_atTop hα)

theorem arg_atBot_pos {μ l α : ℝ} (hl : 0 < l) (hα : 0 < α) : Tendsto (gevArg μ l α) atBot atBot := by
  unfold gevArg
  exact tendsto_atBot_add_const_left _ _ ((GumbelThm.lin_tendsto_atBot (μ := μ) hl).const_mul_atBot hα)

theorem arg_atTop_neg {μ l α : ℝ} (hl : 0 < l) (hα : α < 0) : Tendsto (gevArg μ l α) atTop atBot := by
  unfold gevArg
  exact tendsto_atBot_add_const_left _ _ ((GumbelThm.lin_tendsto_atTop (μ := μ) hl).const_mul_atTop_of_neg hα)

theorem arg_atBot_neg {μ l α : ℝ} (hl : 0 < l) (hα : α < 0) : Tendsto (gevArg μ l α) atBot atTop := by
  unfold gevArg
  exact tendsto_atTop_add_const_left _ _ ((GumbelThm.lin_tendsto_atBot (μ := μ) hl).const_mul_atBot_of_neg hα)

theorem gevCdf_tendsto_one {μ l α : ℝ} (hl : 0 < l) (hα : α ≠ 0) : Tendsto (gevCdf μ l α) atTop (nhds 1) := by
  rcases lt_or_gt_of_ne hα with hneg | hpos
  · refine (tendsto_const_nhds (x := (1 : ℝ))).congr' ?_
    filter_upwards [(arg_atTop_neg (μ := μ) hl hneg).eventually (eventually_le_atBot 0)] with x hx
    simp [gevCdf, hx, not_lt.mpr hneg.le]
  · have h1 := arg_atTop_pos (μ := μ) hl hpos
    have h2 : Tendsto (fun x : ℝ => log (gevArg μ l α x) / α) atTop atTop :=
      (tendsto_log_atTop.comp h1).atTop_div_const hpos
    have h3 : Tendsto (fun x : ℝ => exp (-exp (-(log (gevArg μ l α x) / α)))) atTop (nhds (exp (-0))) :=
      (continuous_exp.tendsto _).comp (tendsto_exp_neg_atTop_nhds_zero.comp h2).neg
    rw [neg_zero, exp_zero] at h3
    refine h3.congr' ?_
    filter_upwards [h1.eventually (eventually_gt_atTop 0)] with x hx
    simp [gevCdf, not_le.mpr hx]

theorem gevCdf_tendsto_zero {μ l α : ℝ} (hl : 0 < l) (hα : α ≠ 0) : Tendsto (gevCdf μ l α) atBot (nhds 0) := by
  rcases lt_or_gt_of_ne hα with hneg | hpos
  · have h1 := arg_atBot_neg (μ := μ) hl hneg
    have h2 : Tendsto (fun x : ℝ => -(log (gevArg μ l α x) / α)) atBot atTop := by
      have : Tendsto (fun x : ℝ => log (gevArg μ l α x) * (-α)⁻¹) atBot atTop :=
        (tendsto_log_atTop.comp h1).atTop_mul_const (inv_pos.mpr (neg_pos.mpr hneg))
      refine this.congr fun x => ?_
      rw [inv_neg, mul_neg, div_eq_mul_inv]
    have h3 : Tendsto (fun x : ℝ => exp (-exp (-(log (gevArg μ l α x) / α)))) atBot (nhds 0) :=
      tendsto_exp_neg_atTop_nhds_zero.comp (tendsto_exp_atTop.comp h2)
    refine h3.congr' ?_
    filter_upwards [h1.eventually (eventually_gt_atTop 0)] with x hx
    simp [gevCdf, not_le.mpr hx]
  · refine (tendsto_const_nhds (x := (0 : ℝ))).congr' ?_
    filter_upwards [(arg_atBot_pos (μ := μ) hl hpos).eventually (eventually_le_atBot 0)] with x hx
    simp [gevCdf, hx, hpos]

theorem mixgevCdf_tendsto {g : ESL_MIXGEV ℝ} (ok : MixgevOK g) :
    Tendsto (mixgevCdf g) atBot (nhds 0) ∧ Tendsto (mixgevCdf g) atTop (nhds (mixgevQ g)) := by
  constructor
  · have := wsum_tendsto g.K (gq g) (fun k => gevCdf (gm g k) (gl g k) (ga g k)) 0 atBot
      fun k hk => gevCdf_tendsto_zero (ok k hk).2.1 (ok k hk).2.2
    simp only [mul_zero, sum_const_zero] at this
    exact this
  · have := wsum_tendsto g.K (gq g) (fun k => gevCdf (gm g k) (gl g k) (ga g k)) 1 atTop
      fun k hk => gevCdf_tendsto_one (ok k hk).2.1 (ok k hk).2.2
    simp only [mul_one] at this
    exact this

theorem mixgev_bisection_total {g : ESL_MIXGEV ℝ} (ok : MixgevOK g) {p : ℝ} (hp0 : 0 < p) (hp1 : p < mixgevQ g) (m : ℝ) :
    ∃ XL XR r, (∀ x, x ≤ XL → mixgevCdf g x ≤ p) ∧ (∀ x, XR ≤ x → p ≤ mixgevCdf g x) ∧
      (∀ fuel, BisectTotal.fuelMix (m - XL) (XR - m) ≤ fuel → Bisect.invcdfMix fuel (mixgevCdf g) p m = some r) ∧
      ∃ a b, a ≤ b ∧ r = (a + b) / 2 ∧ mixgevCdf g a ≤ p ∧ p ≤ mixgevCdf g b ∧ b - a ≤ 1e-6 * ((|a| + |b|) + 1e-9) := by
  obtain ⟨h0, h1⟩ := mixgevCdf_tendsto ok
  obtain ⟨hmono, _, _⟩ := mixgev_textbook_laws ok
  obtain ⟨XL, hXL⟩ := (h0.eventually (gt_mem_nhds hp0)).exists
  obtain ⟨XR, hXR⟩ := (h1.eventually (lt_mem_nhds hp1)).exists
  have hL : ∀ x, x ≤ XL → mixgevCdf g x ≤ p := fun x hx => (hmono hx).trans hXL.le
  have hR : ∀ x, XR ≤ x → p ≤ mixgevCdf g x := fun x hx => hXR.le.trans (hmono hx)
  obtain ⟨r, hr, x1, x2, a, b, _, hab, _, hca, hcb, hrm, hw⟩ := BisectTotal.invcdfMix_total (cdf := mixgevCdf g) (p := p) (m := m) hL hR
  exact ⟨XL, XR, r, hL, hR, hr, a, b, hab, hrm, hca, hcb, hw⟩

theorem branch_eventually {μ l α : ℝ} (hα : α ≠ 0) {F : Filter ℝ} (h : Tendsto (fun x : ℝ => |l * (x - μ)|) F atTop) :
    ∀ᶠ x in F, ¬ |l * (x - μ) * α| < 1e-12 := by
  filter_upwards [(h.atTop_mul_const (abs_pos.mpr hα)).eventually (eventually_ge_atTop 1)] with x hx
  rw [abs_mul]; exact not_lt.mpr (le_trans (by norm_num) hx)

/-- far enough out on either side every component is in its GEV branch, where the translated mixture cdf IS the textbook one -/
theorem gevBranch_eventually {g : ESL_MIXGEV ℝ} (ok : MixgevOK g) :
    (∀ᶠ x in atBot, GevBranch g x) ∧ (∀ᶠ x in atTop, GevBranch g x) := by
  have key : ∀ F : Filter ℝ, (∀ k < g.K, Tendsto (fun x : ℝ => |gl g k * (x - gm g k)|) F atTop) → ∀ᶠ x in F, GevBranch g x :=
    fun F h => by
      have := (eventually_all_finset (range g.K)).mpr fun k hk =>
        branch_eventually (ok k (mem_range.mp hk)).2.2 (h k (mem_range.mp hk))
      filter_upwards [this] with x hx k hk using hx k (mem_range.mpr hk)
  exact ⟨key _ fun k hk => tendsto_abs_atBot_atTop.comp (GumbelThm.lin_tendsto_atBot (ok k hk).2.1),
    key _ fun k hk => tendsto_abs_atTop_atTop.comp (GumbelThm.lin_tendsto_atTop (ok k hk).2.1)⟩

theorem mixgev_invcdf_total_all {g : ESL_MIXGEV ℝ} (ok : MixgevOK g) {p : ℝ} (hp0 : 0 < p) (hp1 : p < mixgevQ g) :
    ∃ XL XR r, (∀ x, x ≤ XL → esl_mixgev_cdf x g ≤ p) ∧ (∀ x, XR ≤ x → p ≤ esl_mixgev_cdf x g) ∧
      (∀ fuel, BisectTotal.fuelMix (esl_vec_DMin g.mu g.K - XL) (XR - esl_vec_DMin g.mu g.K) ≤ fuel →
        esl_mixgev_invcdf fuel p g = some r) ∧
      ∃ a b, a ≤ b ∧ r = (a + b) / 2 ∧ esl_mixgev_cdf a g ≤ p ∧ p ≤ esl_mixgev_cdf b g ∧ b - a ≤ 1e-6 * ((|a| + |b|) + 1e-9) := by
  obtain ⟨h0, h1⟩ := mixgevCdf_tendsto ok
  obtain ⟨b0, b1⟩ := gevBranch_eventually ok
  obtain ⟨XL, hXL⟩ := eventually_atBot.mp ((h0.eventually (gt_mem_nhds hp0)).and b0)
  obtain ⟨XR, hXR⟩ := eventually_atTop.mp ((h1.eventually (lt_mem_nhds hp1)).and b1)
  have hL : ∀ x, x ≤ XL → esl_mixgev_cdf x g ≤ p := fun x hx => by
    rw [(mixgev_code_eq_textbook ok (hXL x hx).2).1]; exact (hXL x hx).1.le
  have hR : ∀ x, XR ≤ x → p ≤ esl_mixgev_cdf x g := fun x hx => by
    rw [(mixgev_code_eq_textbook ok (hXR x hx).2).1]; exact (hXR x hx).1.le
  obtain ⟨r, hr, hfin⟩ := InvTotal.mixgev_invcdf_total g hL hR
  exact ⟨XL, XR, r, hL, hR, hr, hfin⟩

end EaselModel.Dist.Limits
