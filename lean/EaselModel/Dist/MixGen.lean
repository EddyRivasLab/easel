import EaselModel.Dist.ExpThm
import EaselModel.Dist.GevThm
import Mathlib.Algebra.BigOperators.Group.Finset.Basic
import Mathlib.Algebra.Order.BigOperators.Group.Finset
import Mathlib.Topology.Algebra.Monoid
/-! The mixture code as TRANSLATED from the working tree (`Generated/Dist.lean`: `esl_hxp_*`, `esl_mixgev_*`,
    `esl_vec_DMax/DMin/DLogSum`; their counted loops are `List.foldl`s over `List.range`) read over `ℝ`.
    First part: the loops are finite sums `Σ_{k<K} q_k · f_k(x)`, so convex combinations inherit the component laws
    (`wsum_*`, `hxp_*`, `mixgev_*`).  Second part, for the log versions of the mixtures: `esl_vec_DMax` / `DMin` return an entry that
    bounds all (`foldl_best_spec`, `vec_dmax_dmin`), and `esl_vec_DLogSum` is below `log Σ exp v_i` by at most `e^{-500}` per entry it
    drops (`ndrop`, `Lost`, `dlogsum_lost`).  The same three C functions are also translated by `translate/vec2lean.py` for C20
    (`Generated/VectorOps.lean`); `Vec/Real.lean` (`foldl_best_spec`) and `Vec/XReal.lean` (`logsum_bound`) prove the like about that
    translation, over its own carrier. -/
noncomputable section
namespace EaselModel.Dist.MixGen
open Real Finset EaselModel.Dist EaselModel.Dist.Gen EaselModel.Dist.Spec

theorem fold_sum (g : ℕ → ℝ) (n : ℕ) (a : ℝ) : (List.range n).foldl (fun acc k => acc + g k) a = a + ∑ k ∈ range n, g k := by
  induction n with
  | zero => simp
  | succ n ih => rw [List.range_succ, List.foldl_append, ih, sum_range_succ]; simp; ring

/-- coefficients, rates … of component `k` (the C arrays, read like the translated code reads them) -/
abbrev hq (h : ESL_HYPEREXP ℝ) (k : ℕ) : ℝ := h.q.getD k 0
abbrev hl (h : ESL_HYPEREXP ℝ) (k : ℕ) : ℝ := h.lambda.getD k 0
abbrev gq (g : ESL_MIXGEV ℝ) (k : ℕ) : ℝ := g.q.getD k 0
abbrev gm (g : ESL_MIXGEV ℝ) (k : ℕ) : ℝ := g.mu.getD k 0
abbrev gl (g : ESL_MIXGEV ℝ) (k : ℕ) : ℝ := g.lambda.getD k 0
abbrev ga (g : ESL_MIXGEV ℝ) (k : ℕ) : ℝ := g.alpha.getD k 0

theorem hxp_pdf_sum (x : ℝ) (h : ESL_HYPEREXP ℝ) :
    esl_hxp_pdf x h = if x < h.mu then 0 else ∑ k ∈ range h.K, hq h k * esl_exp_pdf x h.mu (hl h k) := by
  simp only [esl_hxp_pdf, fold_sum, lit_zero, zero_add]
theorem hxp_cdf_sum (x : ℝ) (h : ESL_HYPEREXP ℝ) :
    esl_hxp_cdf x h = if x < h.mu then 0 else ∑ k ∈ range h.K, hq h k * esl_exp_cdf x h.mu (hl h k) := by
  simp only [esl_hxp_cdf, fold_sum, lit_zero, zero_add]
theorem hxp_surv_sum (x : ℝ) (h : ESL_HYPEREXP ℝ) :
    esl_hxp_surv x h = if x < h.mu then 1 else ∑ k ∈ range h.K, hq h k * esl_exp_surv x h.mu (hl h k) := by
  simp only [esl_hxp_surv, fold_sum, lit_zero, lit_one, zero_add]
theorem mixgev_pdf_sum (x : ℝ) (g : ESL_MIXGEV ℝ) :
    esl_mixgev_pdf x g = ∑ k ∈ range g.K, gq g k * esl_gev_pdf x (gm g k) (gl g k) (ga g k) := by
  simp only [esl_mixgev_pdf, fold_sum, lit_zero, zero_add]
theorem mixgev_cdf_sum (x : ℝ) (g : ESL_MIXGEV ℝ) :
    esl_mixgev_cdf x g = ∑ k ∈ range g.K, gq g k * esl_gev_cdf x (gm g k) (gl g k) (ga g k) := by
  simp only [esl_mixgev_cdf, fold_sum, lit_zero, zero_add]
theorem mixgev_surv_sum (x : ℝ) (g : ESL_MIXGEV ℝ) :
    esl_mixgev_surv x g = ∑ k ∈ range g.K, gq g k * esl_gev_surv x (gm g k) (gl g k) (ga g k) := by
  simp only [esl_mixgev_surv, fold_sum, lit_zero, zero_add]

theorem wsum_close (n : ℕ) (q c t : ℕ → ℝ) (ε : ℝ) (hq : ∀ k < n, 0 ≤ q k) (hc : ∀ k < n, |c k - t k| ≤ ε) :
    |∑ k ∈ range n, q k * c k - ∑ k ∈ range n, q k * t k| ≤ ε * ∑ k ∈ range n, q k := by
  rw [← sum_sub_distrib, mul_sum]
  refine le_trans (abs_sum_le_sum_abs _ _) (sum_le_sum fun k hk => ?_)
  have hk' := mem_range.mp hk
  rw [← mul_sub, abs_mul, abs_of_nonneg (hq k hk'), mul_comm ε]
  exact mul_le_mul_of_nonneg_left (hc k hk') (hq k hk')

theorem wsum_add_close (n : ℕ) (q c s : ℕ → ℝ) (ε : ℝ) (hq : ∀ k < n, 0 ≤ q k) (hc : ∀ k < n, |c k + s k - 1| ≤ ε) :
    |∑ k ∈ range n, q k * c k + ∑ k ∈ range n, q k * s k - ∑ k ∈ range n, q k| ≤ ε * ∑ k ∈ range n, q k := by
  have e : ∑ k ∈ range n, q k * c k + ∑ k ∈ range n, q k * s k = ∑ k ∈ range n, q k * (c k + s k) := by
    rw [← sum_add_distrib]; exact sum_congr rfl fun k _ => by ring
  have e1 : ∑ k ∈ range n, q k = ∑ k ∈ range n, q k * 1 := by simp
  rw [e]; nth_rewrite 1 [e1]
  exact wsum_close n q (fun k => c k + s k) (fun _ => 1) ε hq hc

theorem wsum_mono (n : ℕ) (q : ℕ → ℝ) (c : ℕ → ℝ → ℝ) (hq : ∀ k < n, 0 ≤ q k) (hc : ∀ k < n, Monotone (c k)) :
    Monotone fun x => ∑ k ∈ range n, q k * c k x := fun _ _ hab =>
  sum_le_sum fun k hk => mul_le_mul_of_nonneg_left (hc k (mem_range.mp hk) hab) (hq k (mem_range.mp hk))

theorem wsum_tendsto (n : ℕ) (q : ℕ → ℝ) (c : ℕ → ℝ → ℝ) (L : ℝ) (F : Filter ℝ)
    (hc : ∀ k < n, Filter.Tendsto (c k) F (nhds L)) :
    Filter.Tendsto (fun x => ∑ k ∈ range n, q k * c k x) F (nhds (∑ k ∈ range n, q k * L)) :=
  tendsto_finsetSum _ fun k hk => (hc k (mem_range.mp hk)).const_mul (q k)

/-- the textbook hyperexponential: `Σ q_k · Exp(μ, λ_k)` -/
def hxpCdf (h : ESL_HYPEREXP ℝ) (x : ℝ) : ℝ := ∑ k ∈ range h.K, hq h k * expCdf h.mu (hl h k) x
def hxpSurv (h : ESL_HYPEREXP ℝ) (x : ℝ) : ℝ := ∑ k ∈ range h.K, hq h k * expSurv h.mu (hl h k) x
def hxpPdf (h : ESL_HYPEREXP ℝ) (x : ℝ) : ℝ := ∑ k ∈ range h.K, hq h k * expPdf h.mu (hl h k) x
def hxpQ (h : ESL_HYPEREXP ℝ) : ℝ := ∑ k ∈ range h.K, hq h k

/-- admissible parameters: non-negative coefficients, positive rates (for the `K` components in use) -/
def HxpOK (h : ESL_HYPEREXP ℝ) : Prop := ∀ k < h.K, 0 ≤ hq h k ∧ 0 < hl h k

theorem hxp_cdf_add_surv {h : ESL_HYPEREXP ℝ} (ok : HxpOK h) (x : ℝ) :
    (x < h.mu → esl_hxp_cdf x h + esl_hxp_surv x h = 1) ∧
      (h.mu ≤ x → |esl_hxp_cdf x h + esl_hxp_surv x h - hxpQ h| ≤ 2.5e-17 * hxpQ h) := by
  rw [hxp_cdf_sum, hxp_surv_sum]
  constructor
  · intro hx; rw [if_pos hx, if_pos hx]; norm_num
  · intro hx
    rw [if_neg (not_lt.mpr hx), if_neg (not_lt.mpr hx)]
    exact wsum_add_close h.K (hq h) _ _ 2.5e-17 (fun k hk => (ok k hk).1) fun k hk => ExpThm.code_cdf_add_surv (ok k hk).2.le x

/-- `2.5e-17` is the switch error of the components' `esl_exp_cdf` (`ExpThm.code_cdf`), weighted by the coefficients -/
theorem hxp_code_eq_textbook {h : ESL_HYPEREXP ℝ} (ok : HxpOK h) (x : ℝ) :
    |esl_hxp_cdf x h - hxpCdf h x| ≤ 2.5e-17 * hxpQ h ∧ esl_hxp_surv x h = (if x < h.mu then 1 else hxpSurv h x) ∧
      esl_hxp_pdf x h = hxpPdf h x := by
  refine ⟨?_, ?_, ?_⟩
  · rw [hxp_cdf_sum]
    have hQ : 0 ≤ hxpQ h := sum_nonneg fun k hk => (ok k (mem_range.mp hk)).1
    split_ifs with hx
    · have : hxpCdf h x = 0 := by
        unfold hxpCdf; apply sum_eq_zero; intro k _; rw [ExpThm.expCdf_below hx]; ring
      rw [this]; simp only [sub_self, abs_zero]; positivity
    · exact wsum_close h.K (hq h) _ _ 2.5e-17 (fun k hk => (ok k hk).1) fun k hk => ExpThm.code_cdf (ok k hk).2.le x
  · rw [hxp_surv_sum]; unfold hxpSurv; simp only [ExpThm.code_surv]
  · rw [hxp_pdf_sum]; unfold hxpPdf; simp only [ExpThm.code_pdf]
    split_ifs with hx
    · symm; apply sum_eq_zero; intro k _; unfold expPdf; rw [if_pos hx]; ring
    · rfl

theorem hxp_textbook_laws {h : ESL_HYPEREXP ℝ} (ok : HxpOK h) :
    Monotone (hxpCdf h) ∧ (∀ x, x < h.mu → hxpCdf h x = 0) ∧ (∀ x, 0 ≤ hxpCdf h x ∧ hxpCdf h x ≤ hxpQ h) ∧
      Filter.Tendsto (hxpCdf h) Filter.atTop (nhds (hxpQ h)) ∧ (∀ x, hxpCdf h x + hxpSurv h x = hxpQ h) := by
  refine ⟨wsum_mono h.K (hq h) _ (fun k hk => (ok k hk).1) fun k hk => ExpThm.expCdf_mono (ok k hk).2.le, ?_, ?_, ?_, ?_⟩
  · intro x hx; unfold hxpCdf; apply sum_eq_zero; intro k _; rw [ExpThm.expCdf_below hx]; ring
  · intro x
    constructor
    · exact sum_nonneg fun k hk => mul_nonneg (ok k (mem_range.mp hk)).1 (ExpThm.expCdf_nonneg (ok k (mem_range.mp hk)).2.le x)
    · unfold hxpCdf hxpQ
      refine sum_le_sum fun k hk => ?_
      have := (ExpThm.expCdf_lt_one h.mu (hl h k) x).le
      have hq0 := (ok k (mem_range.mp hk)).1
      nlinarith
  · have := wsum_tendsto h.K (hq h) (fun k => expCdf h.mu (hl h k)) 1 Filter.atTop fun k hk => ExpThm.expCdf_tendsto_one (ok k hk).2
    have e : (∑ k ∈ range h.K, hq h k * 1) = hxpQ h := by unfold hxpQ; simp
    rw [e] at this; exact this
  · intro x; unfold hxpCdf hxpSurv hxpQ
    rw [← sum_add_distrib]; refine sum_congr rfl fun k _ => ?_
    rw [← mul_add, ExpThm.expCdf_add_expSurv, mul_one]

/-- the cdf at the support edge is `0`: the entry condition `cdf μ ≤ p` of `esl_hxp_invcdf` holds for every `p ≥ 0` -/
theorem hxp_cdf_at_mu (h : ESL_HYPEREXP ℝ) : esl_hxp_cdf h.mu h = 0 := by
  rw [hxp_cdf_sum, if_neg (lt_irrefl _)]
  apply sum_eq_zero; intro k _
  have : esl_exp_cdf h.mu h.mu (hl h k) = 0 := by
    unfold esl_exp_cdf; simp only [sub_self, mul_zero, lt_irrefl, if_false]; norm_num
  rw [this]; ring

def mixgevCdf (g : ESL_MIXGEV ℝ) (x : ℝ) : ℝ := ∑ k ∈ range g.K, gq g k * gevCdf (gm g k) (gl g k) (ga g k) x
def mixgevSurv (g : ESL_MIXGEV ℝ) (x : ℝ) : ℝ := ∑ k ∈ range g.K, gq g k * gevSurv (gm g k) (gl g k) (ga g k) x
def mixgevPdf (g : ESL_MIXGEV ℝ) (x : ℝ) : ℝ := ∑ k ∈ range g.K, gq g k * gevPdf (gm g k) (gl g k) (ga g k) x
def mixgevQ (g : ESL_MIXGEV ℝ) : ℝ := ∑ k ∈ range g.K, gq g k

/-- admissible parameters: non-negative coefficients, positive scales, shapes `≠ 0` -/
def MixgevOK (g : ESL_MIXGEV ℝ) : Prop := ∀ k < g.K, 0 ≤ gq g k ∧ 0 < gl g k ∧ ga g k ≠ 0

/-- `x` is in the GEV branch of every component (`¬ |α_k λ_k (x − μ_k)| < 1e-12`; inside that sliver the code evaluates
    the Gumbel, see `gev_gumbel_branch_distance`) -/
def GevBranch (g : ESL_MIXGEV ℝ) (x : ℝ) : Prop := ∀ k < g.K, ¬ |gl g k * (x - gm g k) * ga g k| < 1e-12

theorem mixgev_textbook_laws {g : ESL_MIXGEV ℝ} (ok : MixgevOK g) :
    Monotone (mixgevCdf g) ∧ (∀ x, 0 ≤ mixgevCdf g x ∧ mixgevCdf g x ≤ mixgevQ g) ∧
      (∀ x, mixgevCdf g x + mixgevSurv g x = mixgevQ g) := by
  refine ⟨wsum_mono g.K (gq g) _ (fun k hk => (ok k hk).1) fun k hk => GevThm.gevCdf_mono (ok k hk).2.1 (ok k hk).2.2, ?_, ?_⟩
  · intro x
    constructor
    · exact sum_nonneg fun k hk => mul_nonneg (ok k (mem_range.mp hk)).1 (GevThm.gevCdf_nonneg _ _ _ x)
    · unfold mixgevCdf mixgevQ
      refine sum_le_sum fun k hk => ?_
      have := GevThm.gevCdf_le_one (gm g k) (gl g k) (ga g k) x
      have hq0 := (ok k (mem_range.mp hk)).1
      nlinarith
  · intro x; unfold mixgevCdf mixgevSurv mixgevQ
    rw [← sum_add_distrib]; refine sum_congr rfl fun k _ => ?_
    rw [← mul_add, GevThm.gevCdf_add_gevSurv, mul_one]

/-- `2.3e-16` is the switch error of the components' `esl_gev_surv` (`GevThm.code_surv`), weighted by the coefficients -/
theorem mixgev_code_eq_textbook {g : ESL_MIXGEV ℝ} (ok : MixgevOK g) {x : ℝ} (hb : GevBranch g x) :
    esl_mixgev_cdf x g = mixgevCdf g x ∧ esl_mixgev_pdf x g = mixgevPdf g x ∧
      |esl_mixgev_surv x g - mixgevSurv g x| ≤ 2.3e-16 * mixgevQ g ∧
      |esl_mixgev_cdf x g + esl_mixgev_surv x g - mixgevQ g| ≤ 2.3e-16 * mixgevQ g := by
  have hc : esl_mixgev_cdf x g = mixgevCdf g x := by
    rw [mixgev_cdf_sum]; exact sum_congr rfl fun k hk => by rw [GevThm.code_cdf (ok k (mem_range.mp hk)).2.1 (hb k (mem_range.mp hk))]
  have hs : |esl_mixgev_surv x g - mixgevSurv g x| ≤ 2.3e-16 * mixgevQ g := by
    rw [mixgev_surv_sum]
    exact wsum_close g.K (gq g) _ _ 2.3e-16 (fun k hk => (ok k hk).1) fun k hk => GevThm.code_surv (ok k hk).2.1 (hb k hk)
  refine ⟨hc, ?_, hs, ?_⟩
  · rw [mixgev_pdf_sum]; exact sum_congr rfl fun k hk => by rw [GevThm.code_pdf (hb k (mem_range.mp hk))]
  · have e := (mixgev_textbook_laws ok).2.2 x
    rw [hc]
    have : mixgevCdf g x + esl_mixgev_surv x g - mixgevQ g = esl_mixgev_surv x g - mixgevSurv g x := by rw [← e]; ring
    rw [this]; exact hs

theorem foldl_range'_succ {β : Type} (f : β → ℕ → β) (a : β) (s m : ℕ) :
    (List.range' s (m + 1)).foldl f a = f ((List.range' s m).foldl f a) (s + m) := by
  rw [List.range'_concat, List.foldl_append]; simp

/-- the running best of a scan that replaces `best` by an entry `w` whenever `lt best w` (`best < w` for the maximum,
    `w < best` for the minimum): it is an entry, and no entry beats it -/
theorem foldl_best_spec (lt : ℝ → ℝ → Prop) [DecidableRel lt] (hirr : ∀ a, ¬ lt a a)
    (hnt : ∀ a b c, lt a b → ¬ lt a c → ¬ lt b c) (v : ℕ → ℝ) : ∀ m : ℕ,
    let r := (List.range' 1 m).foldl (fun best i => if lt best (v i) then v i else best) (v 0)
    (∀ i ≤ m, ¬ lt r (v i)) ∧ ∃ i ≤ m, r = v i := by
  intro m
  induction m with
  | zero => exact ⟨fun i hi => by rw [Nat.le_zero.mp hi]; exact hirr _, 0, le_rfl, rfl⟩
  | succ m ih =>
    simp only [foldl_range'_succ]
    obtain ⟨h1, i0, hi0, h2⟩ := ih
    generalize (List.range' 1 m).foldl (fun best i => if lt best (v i) then v i else best) (v 0) = r at h1 h2 ⊢
    have hlast : ∀ i ≤ m + 1, ¬ i < m + 1 → i = 1 + m := fun i hi hge => by omega
    split_ifs with hc
    · refine ⟨fun i hi => ?_, 1 + m, by omega, rfl⟩
      by_cases hlt : i < m + 1
      · exact hnt _ _ _ hc (h1 i (by omega))
      · rw [hlast i hi hlt]; exact hirr _
    · refine ⟨fun i hi => ?_, i0, by omega, h2⟩
      by_cases hlt : i < m + 1
      · exact h1 i (by omega)
      · rw [hlast i hi hlt]; exact hc

theorem vec_dmax_dmin (vec : List ℝ) {n : ℕ} (hn : 1 ≤ n) :
    ((∀ i < n, vec.getD i 0 ≤ esl_vec_DMax vec n) ∧ ∃ i < n, esl_vec_DMax vec n = vec.getD i 0) ∧
    ((∀ i < n, esl_vec_DMin vec n ≤ vec.getD i 0) ∧ ∃ i < n, esl_vec_DMin vec n = vec.getD i 0) := by
  obtain ⟨a1, i1, hi1, a2⟩ := foldl_best_spec (fun best w => best < w) lt_irrefl
    (fun a b c hab hac => not_lt.mpr ((not_lt.mp hac).trans hab.le)) (fun i => vec.getD i 0) (n - 1)
  obtain ⟨b1, j1, hj1, b2⟩ := foldl_best_spec (fun best w => w < best) lt_irrefl
    (fun a b c hab hac => not_lt.mpr (hab.le.trans (not_lt.mp hac))) (fun i => vec.getD i 0) (n - 1)
  simp only [esl_vec_DMax, esl_vec_DMin, lit_zero]
  exact ⟨⟨fun i hi => not_lt.mp (a1 i (by omega)), i1, by omega, a2⟩,
    ⟨fun i hi => not_lt.mp (b1 i (by omega)), j1, by omega, b2⟩⟩

theorem lit_500 : (500.0 : ℝ) = 500 := by norm_num

theorem fold_filter (v : ℕ → ℝ) (m : ℝ) (n : ℕ) (a : ℝ) :
    (List.range n).foldl (fun s i => if m - 500 < v i then s + exp (v i - m) else s) a =
      a + ∑ i ∈ range n, (if m - 500 < v i then exp (v i - m) else 0) := by
  induction n with
  | zero => simp
  | succ n ih =>
    rw [List.range_succ, List.foldl_append, ih, sum_range_succ]
    simp only [List.foldl_cons, List.foldl_nil]
    split_ifs <;> ring

/-! ## what `esl_vec_DLogSum` loses

The code adds `exp (v_i − max)` only for the entries inside the 500-window below the maximum.  Each dropped entry costs at most
`e^{-500}` (relative to the largest term, which is always inside), so the result is below `log Σ exp v_i` by at most
`ndrop · e^{-500}`: nothing when all entries lie within 500 of each other, at most `n · e^{-500}` whatever the vector. -/

/-- number of entries `esl_vec_DLogSum` drops: those at least `500` below another entry -/
def ndrop (v : ℕ → ℝ) (n : ℕ) : ℕ := ((range n).filter fun i => ∃ j < n, v i ≤ v j - 500).card

theorem ndrop_le (v : ℕ → ℝ) (n : ℕ) : ndrop v n ≤ n := (card_filter_le _ _).trans_eq (card_range n)

theorem ndrop_eq_zero {v : ℕ → ℝ} {n : ℕ} (hwin : ∀ i < n, ∀ j < n, v j - 500 < v i) : ndrop v n = 0 :=
  card_eq_zero.mpr (filter_eq_empty_iff.mpr fun i hi ⟨j, hj, h⟩ => absurd h (not_le.mpr (hwin i (mem_range.mp hi) j hj)))

theorem ndrop_congr {v w : ℕ → ℝ} {n : ℕ} (h : ∀ i < n, v i = w i) : ndrop v n = ndrop w n := by
  unfold ndrop
  congr 1
  refine filter_congr fun i hi => ?_
  rw [h i (mem_range.mp hi)]
  exact exists_congr fun j => and_congr_right fun hj => by rw [h j hj]

/-- `a` is below `b` by at most `e^{-500}` per dropped entry of `v` -/
def Lost (v : ℕ → ℝ) (n : ℕ) (a b : ℝ) : Prop := a ≤ b ∧ b ≤ a + ndrop v n * exp (-500)

theorem Lost.eq {v : ℕ → ℝ} {n : ℕ} {a b : ℝ} (h : Lost v n a b) (hwin : ∀ i < n, ∀ j < n, v j - 500 < v i) : a = b := by
  have := h.2; rw [ndrop_eq_zero hwin, Nat.cast_zero, zero_mul, add_zero] at this
  exact le_antisymm h.1 this

theorem Lost.congr {v w : ℕ → ℝ} {n : ℕ} {a b : ℝ} (hv : ∀ i < n, v i = w i) (h : Lost v n a b) : Lost w n a b := by
  rwa [Lost, ← ndrop_congr hv]

theorem Lost.all {v : ℕ → ℝ} {n : ℕ} {a b : ℝ} (h : Lost v n a b) : a ≤ b ∧ b ≤ a + n * exp (-500) :=
  ⟨h.1, h.2.trans (add_le_add_right
    (mul_le_mul_of_nonneg_right (Nat.cast_le.mpr (ndrop_le v n)) (exp_pos _).le) _)⟩

/-- …and with a further distance `ε` from `b` to `c` (the components' switch error) -/
theorem Lost.dist_le {v : ℕ → ℝ} {n : ℕ} {a b c ε : ℝ} (h : Lost v n a b) (hc : |b - c| ≤ ε) :
    |a - c| ≤ ε + ndrop v n * exp (-500) := by
  have h0 : (0 : ℝ) ≤ ndrop v n * exp (-500) := by positivity
  rw [_root_.abs_le] at hc ⊢
  constructor <;> linarith [h.1, h.2, hc.1, hc.2]

theorem abs_le_of_window {v : ℕ → ℝ} {n : ℕ} {x ε : ℝ} (h : |x| ≤ ε + ndrop v n * exp (-500))
    (hwin : ∀ i < n, ∀ j < n, v j - 500 < v i) : |x| ≤ ε := by
  rwa [ndrop_eq_zero hwin, Nat.cast_zero, zero_mul, add_zero] at h

theorem abs_le_all {v : ℕ → ℝ} {n : ℕ} {x ε : ℝ} (h : |x| ≤ ε + ndrop v n * exp (-500)) : |x| ≤ ε + n * exp (-500) :=
  h.trans (add_le_add_right (mul_le_mul_of_nonneg_right (Nat.cast_le.mpr (ndrop_le v n)) (exp_pos _).le) _)

/-- `log Σ exp v_i` against the sum over the 500-window below a value `M` that some `v_j` attains, taken relative to `M`: the
    window sum is at least `1` (it holds `v_j`), each term outside it is at most `e^{-500}`, and `log (S + T) ≤ log S + T`
    for `S ≥ 1`, `T ≥ 0`. -/
theorem log_sum_exp_window (v : ℕ → ℝ) {n j : ℕ} {M : ℝ} (hj : j < n) (hjm : v j = M) :
    Lost v n (log (∑ i ∈ range n, if M - 500 < v i then exp (v i - M) else 0) + M) (log (∑ i ∈ range n, exp (v i))) := by
  have hSin1 : 1 ≤ ∑ i ∈ range n, if M - 500 < v i then exp (v i - M) else 0 := by
    have hterm : (if M - 500 < v j then exp (v j - M) else 0) = 1 := by
      rw [hjm, if_pos (by linarith), sub_self, exp_zero]
    exact hterm.symm.trans_le (single_le_sum (f := fun i => if M - 500 < v i then exp (v i - M) else 0)
      (fun i _ => by positivity) (mem_range.mpr hj))
  have hSout0 : 0 ≤ ∑ i ∈ range n, if M - 500 < v i then 0 else exp (v i - M) := sum_nonneg fun i _ => by positivity
  have hSoutN : (∑ i ∈ range n, if M - 500 < v i then 0 else exp (v i - M)) ≤ ndrop v n * exp (-500) := by
    rw [ndrop, ← nsmul_eq_mul, ← sum_const, sum_filter]
    refine sum_le_sum fun i _ => ?_
    by_cases h : M - 500 < v i
    · rw [if_pos h]; positivity
    · -- a dropped entry is `500` below `v_j`
      rw [if_neg h, if_pos ⟨j, hj, by rw [hjm]; exact not_lt.mp h⟩]
      exact exp_le_exp.mpr (by linarith [not_lt.mp h])
  have htot : ∑ i ∈ range n, exp (v i) = exp M * ((∑ i ∈ range n, if M - 500 < v i then exp (v i - M) else 0) +
      ∑ i ∈ range n, if M - 500 < v i then 0 else exp (v i - M)) := by
    rw [← sum_add_distrib, mul_sum]
    refine sum_congr rfl fun i _ => ?_
    split_ifs
    · rw [add_zero, ← exp_add, add_sub_cancel]
    · rw [zero_add, ← exp_add, add_sub_cancel]
  generalize (∑ i ∈ range n, if M - 500 < v i then exp (v i - M) else 0) = Sin at *
  generalize (∑ i ∈ range n, if M - 500 < v i then 0 else exp (v i - M)) = Sout at *
  have hSinpos : 0 < Sin := zero_lt_one.trans_le hSin1
  rw [Lost, htot, log_mul (exp_ne_zero _) (ne_of_gt (by linarith)), log_exp]
  constructor
  · linarith [log_le_log hSinpos (show Sin ≤ Sin + Sout by linarith)]
  · -- `log (Sin + Sout) = log Sin + log (1 + Sout/Sin) ≤ log Sin + Sout/Sin ≤ log Sin + Sout`
    have hq : 0 ≤ Sout / Sin := div_nonneg hSout0 hSinpos.le
    have e : Sin + Sout = Sin * (1 + Sout / Sin) := by rw [mul_add, mul_one, mul_div_cancel₀ _ hSinpos.ne']
    rw [e, log_mul hSinpos.ne' (ne_of_gt (by linarith))]
    linarith [log_le_sub_one_of_pos (show 0 < 1 + Sout / Sin by linarith), div_le_self hSout0 hSin1]

theorem dlogsum_lost (vec : List ℝ) {n : ℕ} (hn : 1 ≤ n) (hfin : esl_vec_DMax vec n ≠ (Num.inf : ℝ)) :
    Lost (fun i => vec.getD i 0) n (esl_vec_DLogSum vec n) (log (∑ i ∈ range n, exp (vec.getD i 0))) := by
  obtain ⟨⟨_, j, hj, hjm⟩, _⟩ := vec_dmax_dmin vec hn
  have hcode : esl_vec_DLogSum vec n = log (∑ i ∈ range n, if esl_vec_DMax vec n - 500 < vec.getD i 0
      then exp (vec.getD i 0 - esl_vec_DMax vec n) else 0) + esl_vec_DMax vec n := by
    simp only [esl_vec_DLogSum, num_eqb, num_exp, num_log, lit_zero, lit_500]
    rw [if_neg hfin, fold_filter (fun i => vec.getD i 0) _ n 0, zero_add]
  rw [hcode]
  exact log_sum_exp_window (fun i => vec.getD i 0) hj hjm.symm

theorem vec_dlogsum (vec : List ℝ) {n : ℕ} (hn : 1 ≤ n) (hfin : esl_vec_DMax vec n ≠ (Num.inf : ℝ))
    (hwin : ∀ i < n, esl_vec_DMax vec n - 500 < vec.getD i 0) :
    esl_vec_DLogSum vec n = log (∑ i ∈ range n, exp (vec.getD i 0)) :=
  (dlogsum_lost vec hn hfin).eq fun i hi j hj => by linarith [hwin i hi, (vec_dmax_dmin vec hn).1.1 j hj]

end EaselModel.Dist.MixGen
