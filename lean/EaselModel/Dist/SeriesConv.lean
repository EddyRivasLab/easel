import EaselModel.Dist.SpecialFamThm
import Mathlib.Tactic.Positivity
import Mathlib.Tactic.FieldSimp
/-! One of the named special-function hypotheses DISCHARGED on half of its domain.
    `esl_stats_IncompleteGamma(a, x)` uses the series `Σ_n x^n / (a (a+1) ⋯ (a+n))` for `x ≤ a + 1` and stops when the last
    term is below `1e-7` of the sum (at most 9999 terms).  Over `ℝ`, for `0 < a ≤ 20` (the property's shape range: `τ` for
    the gamma, `1/τ` for the stretched exponential, `τ ∈ [0.05, 20]`) and `0 ≤ x ≤ a + 1` the loop RETURNS within 45 terms:
    the `k`-th term relative to the sum is at most `Π_{j≤k} x/(a+j)`, every factor is `≤ 1` and from `j = 22` on `≤ 1/2`.
    So `(realIncGamma a x).isSome` there, and `esl_gam_cdf + esl_gam_surv = 1`, `esl_sxp_cdf + esl_sxp_surv = 1` hold
    UNCONDITIONALLY on that part of the support (left of the series / continued-fraction switch). -/
noncomputable section
namespace EaselModel.Dist.SeriesConv
open Real EaselModel.Dist EaselModel.Dist.Gen

/-- bound on `a · val_k` -/
def beta (k : ℕ) : ℝ := if k ≤ 21 then 1 else (1 / 2) ^ (k - 21)

theorem beta_pos (k : ℕ) : 0 < beta k := by unfold beta; split_ifs <;> positivity

theorem beta_step (k : ℕ) {c : ℝ} (_hc0 : 0 ≤ c) (hc1 : c ≤ 1) (hc2 : 22 ≤ k + 1 → c ≤ 1 / 2) : beta k * c ≤ beta (k + 1) := by
  unfold beta
  by_cases h : k + 1 ≤ 21
  · rw [if_pos (by omega), if_pos h]; linarith
  · have h22 : 22 ≤ k + 1 := by omega
    rw [if_neg h]
    by_cases hk : k ≤ 21
    · rw [if_pos hk]
      have : k + 1 - 21 = 1 := by omega
      rw [this, pow_one, one_mul]; exact hc2 h22
    · rw [if_neg hk]
      have : k + 1 - 21 = (k - 21) + 1 := by omega
      rw [this, pow_succ]
      exact mul_le_mul_of_nonneg_left (hc2 h22) (by positivity)

theorem beta_45 : beta 45 < 1e-7 := by
  unfold beta; norm_num

theorem lit7 : (1.0e-7 : ℝ) = 1e-7 := by norm_num

/-- one pass of the series loop multiplies the term `val` by `c = x / (a + it)`: the invariant `val ≥ 0`, `p ≥ 1/a`,
    `a · val ≤ β` is kept (with `β' ≥ β c`), and the new term relative to the new sum is at most `β'` -/
theorem series_step {a val p c β β' : ℝ} (ha : 0 < a) (hval : 0 ≤ val) (hp : 1 / a ≤ p) (hb : a * val ≤ β) (hc0 : 0 ≤ c)
    (hβ : β * c ≤ β') (hβ' : 0 < β') :
    0 ≤ val * c ∧ 1 / a ≤ p + val * c ∧ a * (val * c) ≤ β' ∧ |val * c / (p + val * c)| ≤ β' := by
  have hval' : 0 ≤ val * c := mul_nonneg hval hc0
  have hp' : 1 / a ≤ p + val * c := by linarith
  have hb' : a * (val * c) ≤ β' := by rw [← mul_assoc]; exact (mul_le_mul_of_nonneg_right hb hc0).trans hβ
  have hppos : 0 < p + val * c := (one_div_pos.mpr ha).trans_le hp'
  refine ⟨hval', hp', hb', ?_⟩
  rw [abs_of_nonneg (div_nonneg hval' hppos.le), div_le_iff₀ hppos]
  -- `val c ≤ β' / a ≤ β' (p + val c)`
  calc val * c ≤ β' * (1 / a) := by rw [mul_one_div, le_div_iff₀ ha, mul_comm]; exact hb'
    _ ≤ β' * (p + val * c) := mul_le_mul_of_nonneg_left hp' hβ'.le

/-- the series loop returns: invariant `it = k + 1`, `val ≥ 0`, `p ≥ 1/a`, `a · val ≤ beta k` -/
theorem series_returns {a x : ℝ} (ha : 0 < a) (ha20 : a ≤ 20) (hx0 : 0 ≤ x) (hx : x ≤ a + 1) :
    ∀ (n k : ℕ) (val p : ℝ), k ≤ 44 → 45 ≤ n + k → 0 ≤ val → 1 / a ≤ p → a * val ≤ beta k →
      (Special.seriesLoop (fun t : ℝ => |t|) a x n ((k : ℝ) + 1) val p).isSome := by
  intro n
  induction n with
  | zero => intro k _ _ hk hnk; omega
  | succ n ih =>
    intro k val p hk hnk hval hp hb
    have hk0 : (0 : ℝ) ≤ k := Nat.cast_nonneg k
    have hden : 0 < a + ((k : ℝ) + 1) := by linarith
    have hc0 : 0 ≤ x / (a + ((k : ℝ) + 1)) := div_nonneg hx0 hden.le
    have hc1 : x / (a + ((k : ℝ) + 1)) ≤ 1 := by rw [div_le_one hden]; linarith
    have hc2 : 22 ≤ k + 1 → x / (a + ((k : ℝ) + 1)) ≤ 1 / 2 := by
      intro h22
      rw [div_le_iff₀ hden]
      have : (22 : ℝ) ≤ (k : ℝ) + 1 := by exact_mod_cast h22
      linarith
    obtain ⟨hval', hp', hb', hrel⟩ := series_step ha hval hp hb hc0 (beta_step k hc0 hc1 hc2) (beta_pos (k + 1))
    simp only [Special.seriesLoop, lit7]
    split_ifs with htest
    · rfl
    · -- the test failed: the relative term is still ≥ 1e-7, so `k + 1 < 45`
      have hk1 : k + 1 ≤ 44 := by
        by_contra hcon
        have h45 : k + 1 = 45 := by omega
        rw [h45] at hrel
        exact htest (lt_of_le_of_lt hrel beta_45)
      have e : (k : ℝ) + 1 + 1.0 = ((k + 1 : ℕ) : ℝ) + 1 := by push_cast; norm_num
      rw [e]
      exact ih (k + 1) _ _ hk1 (by omega) hval' hp' hb'

theorem realIncGamma_isSome_series {a x : ℝ} (ha : 0 < a) (ha20 : a ≤ 20) (hx0 : 0 ≤ x) (hx : x ≤ a + 1) :
    (realIncGamma a x).isSome := by
  have hs := series_returns ha ha20 hx0 hx 9999 0 (1 / a) (1 / a) (by norm_num) (by norm_num) (by positivity) le_rfl
    (by rw [mul_one_div, div_self (ne_of_gt ha)]; unfold beta; norm_num)
  have e : ((0 : ℕ) : ℝ) + 1 = 1.0 := by norm_num
  rw [e] at hs
  obtain ⟨p, hp⟩ := Option.isSome_iff_exists.mp hs
  unfold realIncGamma Special.incGamma
  have l0 : (0.0 : ℝ) = 0 := by norm_num
  have l1 : (1.0 : ℝ) = 1 := by norm_num
  simp only [l0]
  rw [if_neg (not_le.mpr ha), if_neg (not_lt.mpr hx0), if_neg (by rw [l1]; exact not_lt.mpr hx)]
  have hp' : Special.seriesLoop (fun t : ℝ => |t|) a x 9999 1.0 (1.0 / a) (1.0 / a) = some p := by
    rw [l1] at hp ⊢; exact hp
  rw [hp']
  rfl

theorem gam_cdf_add_surv_series {x μ l τ : ℝ} (hτ : 0 < τ) (hτ20 : τ ≤ 20) (hy : l * (x - μ) ≤ τ + 1) :
    esl_gam_cdf x μ l τ + esl_gam_surv x μ l τ = 1 :=
  SpecialFamThm.gam_cdf_add_surv fun h => realIncGamma_isSome_series hτ hτ20 h.le hy

theorem sxp_cdf_add_surv_series {x μ l τ : ℝ} (hτ : 0 < τ) (hτ20 : 1 / τ ≤ 20)
    (hy : μ < x → exp (τ * log (l * (x - μ))) ≤ 1 / τ + 1) :
    esl_sxp_cdf x μ l τ + esl_sxp_surv x μ l τ = 1 :=
  SpecialFamThm.sxp_cdf_add_surv fun h => realIncGamma_isSome_series (one_div_pos.mpr hτ) hτ20 (exp_pos _).le (hy h)

end EaselModel.Dist.SeriesConv
