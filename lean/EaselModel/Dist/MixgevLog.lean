import EaselModel.Dist.MixLogGen
/-! Log versions of the TRANSLATED mixture of GEVs (`esl_mixgev_logpdf`, `_logcdf`, `_logsurv`): the loop stores
    `log q_k + esl_gev_log*(x; μ_k, λ_k, α_k)` into `mg->wrk`, `esl_vec_DLogSum` sums.  At every `x` in all components'
    GEV branch and inside all supports, with positive coefficients: `logcdf`, `logpdf` are the logarithms of the textbook mixture
    cdf / pdf up to what `esl_vec_DLogSum` drops (`MixGen.Lost`), `logsurv` within `3e-8` of `log surv` plus that. -/
noncomputable section
namespace EaselModel.Dist.MixgevLog
open Real Finset EaselModel.Dist EaselModel.Dist.Gen EaselModel.Dist.Spec EaselModel.Dist.MixGen EaselModel.Dist.MixLogGen

/-- what the loop body stores for component `k` -/
def entryG (g : ESL_MIXGEV ℝ) (f : ℕ → ℝ) (k : ℕ) : ℝ :=
  if gq g k = 0 then -(Num.inf : ℝ) else log (gq g k) + f k

theorem fold_struct_g (g : ESL_MIXGEV ℝ) (F : ℝ → ℝ → ℝ → ℝ) (n : ℕ) :
    (List.range n).foldl (fun (mg : ESL_MIXGEV ℝ) k =>
        if (Num.eqb (mg.q.getD k 0.0) (0.0) = true) then { mg with wrk := mg.wrk.set k (-Num.inf) }
        else { mg with wrk := mg.wrk.set k ((Num.log (mg.q.getD k 0.0)) +
          F (mg.mu.getD k 0.0) (mg.lambda.getD k 0.0) (mg.alpha.getD k 0.0)) }) g =
      { g with wrk := (List.range n).foldl (fun w k => w.set k (entryG g (fun k => F (gm g k) (gl g k) (ga g k)) k)) g.wrk } := by
  induction n with
  | zero => rfl
  | succ n ih =>
    rw [List.range_succ, List.foldl_append, List.foldl_append, ih]
    simp only [List.foldl_cons, List.foldl_nil, entryG, gq, gm, gl, ga, num_eqb, num_log, lit_zero]
    split_ifs <;> rfl

theorem set_set_getD (w : List ℝ) (n : ℕ) (a b : ℝ) (h : n < w.length) :
    (w.set n a).set n ((w.set n a).getD n 0 + b) = w.set n (a + b) := by
  rw [List.set_set]; congr 1
  rw [List.getD_eq_getElem?_getD, List.getElem?_set_self h]; rfl

/-- the loop of `esl_mixgev_logsurv` (`wrk[k] = log q[k]; wrk[k] += …;`, no `q == 0` test): the same stored vector, provided
    the scratch vector really has `K` slots (the read-back `wrk[k]` must see the value just written) and `q_k ≠ 0` -/
theorem fold_struct_g2 (g : ESL_MIXGEV ℝ) (F : ℝ → ℝ → ℝ → ℝ) : ∀ n, n ≤ g.wrk.length → (∀ k < n, gq g k ≠ 0) →
    (List.range n).foldl (fun (mg : ESL_MIXGEV ℝ) k =>
        { mg with wrk := (mg.wrk.set k (Num.log (mg.q.getD k 0.0))).set k ((mg.wrk.set k (Num.log (mg.q.getD k 0.0))).getD k 0.0 + F (mg.mu.getD k 0.0) (mg.lambda.getD k 0.0) (mg.alpha.getD k 0.0)) }) g =
      { g with wrk := (List.range n).foldl (fun w k => w.set k (entryG g (fun k => F (gm g k) (gl g k) (ga g k)) k)) g.wrk } := by
  intro n
  induction n with
  | zero => intro _ _; rfl
  | succ n ih =>
    intro hn hq
    rw [List.range_succ, List.foldl_append, List.foldl_append, ih (by omega) (fun k hk => hq k (by omega))]
    simp only [List.foldl_cons, List.foldl_nil, entryG, gq, gm, gl, ga, num_log, lit_zero]
    have hlen := fold_set_length (entryG g (fun k => F (gm g k) (gl g k) (ga g k))) n g.wrk
    have hq' : ¬ g.q.getD n 0 = 0 := hq n (by omega)
    rw [if_neg hq']
    simp only [entryG, gq, gm, gl, ga] at hlen
    revert hlen
    generalize List.foldl (fun w k => w.set k (if g.q.getD k 0 = 0 then -(Num.inf : ℝ) else
      log (g.q.getD k 0) + F (g.mu.getD k 0) (g.lambda.getD k 0) (g.alpha.getD k 0))) g.wrk (List.range n) = W
    intro hlen
    rw [set_set_getD W n _ _ (by omega)]

theorem mixgev_lsum (g : ESL_MIXGEV ℝ) (c : ℕ → ℝ) (hK : 1 ≤ g.K) (hw : g.K ≤ g.wrk.length)
    (hpos : ∀ k < g.K, 0 < gq g k) (hfin : ∀ k < g.K, entryG g c k ≠ (Num.inf : ℝ)) :
    Lost (entryG g c) g.K
      (esl_vec_DLogSum ({ g with wrk := (List.range g.K).foldl (fun w k => w.set k (entryG g c k)) g.wrk } : ESL_MIXGEV ℝ).wrk g.K)
      (log (∑ k ∈ range g.K, gq g k * exp (c k))) :=
  dlogsum_stored g.wrk (entryG g c) (fun k => gq g k * exp (c k)) hK hw hfin fun k hk => by
    rw [entryG, if_neg (hpos k hk).ne', exp_add, exp_log (hpos k hk)]

/-- hypotheses shared by the three statements: all components in their GEV branch and `x` inside every support,
    coefficients and scales positive -/
structure Inside (g : ESL_MIXGEV ℝ) (x : ℝ) : Prop where
  K1 : 1 ≤ g.K
  wrk : g.K ≤ g.wrk.length
  pos : ∀ k < g.K, 0 < gq g k ∧ 0 < gl g k
  branch : GevBranch g x
  supp : ∀ k < g.K, 0 < gevArg (gm g k) (gl g k) (ga g k) x

theorem wsum_exp_logcdf {g : ESL_MIXGEV ℝ} {x : ℝ} (hi : Inside g x) :
    ∑ k ∈ range g.K, gq g k * exp (esl_gev_logcdf x (gm g k) (gl g k) (ga g k)) = mixgevCdf g x := by
  unfold mixgevCdf
  refine sum_congr rfl fun k hk => ?_
  have hk' := mem_range.mp hk
  rw [GevThm.code_logcdf (hi.branch k hk') (hi.supp k hk'), exp_log (GevThm.gevCdf_pos_in (hi.supp k hk'))]

theorem wsum_exp_logpdf {g : ESL_MIXGEV ℝ} {x : ℝ} (hi : Inside g x) :
    ∑ k ∈ range g.K, gq g k * exp (esl_gev_logpdf x (gm g k) (gl g k) (ga g k)) = mixgevPdf g x := by
  unfold mixgevPdf
  refine sum_congr rfl fun k hk => ?_
  have hk' := mem_range.mp hk
  rw [GevThm.code_logpdf (hi.pos k hk').2 (hi.branch k hk') (hi.supp k hk'), exp_log (GevThm.gevPdf_pos_in (hi.pos k hk').2 (hi.supp k hk'))]

theorem mixgev_logcdf {g : ESL_MIXGEV ℝ} {x : ℝ} (hi : Inside g x)
    (hfin : ∀ k < g.K, entryG g (fun k => esl_gev_logcdf x (gm g k) (gl g k) (ga g k)) k ≠ (Num.inf : ℝ)) :
    Lost (entryG g fun k => esl_gev_logcdf x (gm g k) (gl g k) (ga g k)) g.K (esl_mixgev_logcdf x g) (log (mixgevCdf g x)) := by
  simp only [esl_mixgev_logcdf]
  rw [fold_struct_g g (fun m l a => esl_gev_logcdf x m l a) g.K, ← wsum_exp_logcdf hi]
  exact mixgev_lsum g _ hi.K1 hi.wrk (fun k hk => (hi.pos k hk).1) hfin

theorem mixgev_logpdf {g : ESL_MIXGEV ℝ} {x : ℝ} (hi : Inside g x)
    (hfin : ∀ k < g.K, entryG g (fun k => esl_gev_logpdf x (gm g k) (gl g k) (ga g k)) k ≠ (Num.inf : ℝ)) :
    Lost (entryG g fun k => esl_gev_logpdf x (gm g k) (gl g k) (ga g k)) g.K (esl_mixgev_logpdf x g) (log (mixgevPdf g x)) := by
  simp only [esl_mixgev_logpdf]
  rw [fold_struct_g g (fun m l a => esl_gev_logpdf x m l a) g.K, ← wsum_exp_logpdf hi]
  exact mixgev_lsum g _ hi.K1 hi.wrk (fun k hk => (hi.pos k hk).1) hfin

theorem mixgev_logsurv {g : ESL_MIXGEV ℝ} {x : ℝ} (hi : Inside g x)
    (hfin : ∀ k < g.K, entryG g (fun k => esl_gev_logsurv x (gm g k) (gl g k) (ga g k)) k ≠ (Num.inf : ℝ)) :
    |esl_mixgev_logsurv x g - log (mixgevSurv g x)| ≤
      3e-8 + ndrop (entryG g fun k => esl_gev_logsurv x (gm g k) (gl g k) (ga g k)) g.K * exp (-500) := by
  refine Lost.dist_le ?_ (MixLogClose.log_wsum_close g.K hi.K1 (gq g) (fun k => esl_gev_logsurv x (gm g k) (gl g k) (ga g k))
    (fun k => gevSurv (gm g k) (gl g k) (ga g k) x) 3e-8 (fun k hk => (hi.pos k hk).1) (fun k hk => GevThm.gevSurv_pos_in (hi.supp k hk))
    fun k hk => GevThm.code_logsurv (hi.branch k hk) (hi.supp k hk))
  simp only [esl_mixgev_logsurv]
  rw [fold_struct_g2 g (fun m l a => esl_gev_logsurv x m l a) g.K hi.wrk (fun k hk => ne_of_gt (hi.pos k hk).1)]
  exact mixgev_lsum g _ hi.K1 hi.wrk (fun k hk => (hi.pos k hk).1) hfin

end EaselModel.Dist.MixgevLog
