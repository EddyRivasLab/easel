import EaselModel.Dist.ExpThm
import EaselModel.Dist.GumbelThm
import EaselModel.Dist.WeiThm
import EaselModel.Dist.GevThm
/-! The other direction of "the inverse cdf inverts the cdf": `cdf (invcdf p) = p` for `p ∈ (0,1)` (the closed-form families),
    hence a sample made by inversion from the deviate `u ∈ (0,1)` sits where the cdf is `u` (exponential: where the survival
    is `u`, the sampler uses `log u`): the pointwise identity behind inverse-transform sampling (nothing is said here about
    distributions). -/
noncomputable section
namespace EaselModel.Dist.InvRight
open Real EaselModel.Dist EaselModel.Dist.Gen EaselModel.Dist.Spec

theorem neg_log_one_sub_pos {p : ℝ} (hp0 : 0 < p) (hp1 : p < 1) : 0 < -log (1 - p) := by
  have : log (1 - p) < 0 := log_neg (by linarith) (by linarith)
  linarith

theorem neg_log_pos {p : ℝ} (hp0 : 0 < p) (hp1 : p < 1) : 0 < -log p := by
  have : log p < 0 := log_neg hp0 hp1
  linarith

theorem exp_cdf_invcdf {μ l p : ℝ} (hl : 0 < l) (hp0 : 0 < p) (hp1 : p < 1) : expCdf μ l (expInvCdf μ l p) = p := by
  have h := neg_log_one_sub_pos hp0 hp1
  have hx : ¬ expInvCdf μ l p < μ := by
    unfold expInvCdf; have := div_pos h hl; rw [neg_div] at this; linarith
  unfold expCdf; rw [if_neg hx]; unfold expInvCdf
  have e : -(l * (μ - log (1 - p) / l - μ)) = log (1 - p) := by field_simp; ring
  rw [e, exp_log (by linarith)]; ring

theorem exp_surv_invsurv {μ l p : ℝ} (hl : 0 < l) (hp0 : 0 < p) (hp1 : p < 1) : expSurv μ l (expInvSurv μ l p) = p := by
  have h := neg_log_pos hp0 hp1
  have hx : ¬ expInvSurv μ l p < μ := by
    unfold expInvSurv; have := div_pos h hl; rw [neg_div] at this; linarith
  unfold expSurv; rw [if_neg hx]; unfold expInvSurv
  have e : -(l * (μ - log p / l - μ)) = log p := by field_simp; ring
  rw [e, exp_log hp0]

theorem gumbel_cdf_invcdf {μ l p : ℝ} (hl : l ≠ 0) (hp0 : 0 < p) (hp1 : p < 1) : gumbelCdf μ l (gumbelInvCdf μ l p) = p := by
  have h := neg_log_pos hp0 hp1
  unfold gumbelCdf gumbelInvCdf
  have e : -(l * (μ - log (-log p) / l - μ)) = log (-log p) := by field_simp; ring
  rw [e, exp_log h, neg_neg, exp_log hp0]

theorem wei_cdf_invcdf {μ l τ p : ℝ} (hl : 0 < l) (hτ : τ ≠ 0) (hp0 : 0 < p) (hp1 : p < 1) : weiCdf μ l τ (weiInvCdf μ l τ p) = p := by
  have h := neg_log_one_sub_pos hp0 hp1
  have hpos : 0 < exp (log (-log (1 - p)) / τ) / l := div_pos (exp_pos _) hl
  have hx : ¬ weiInvCdf μ l τ p ≤ μ := by unfold weiInvCdf; linarith
  unfold weiCdf; rw [if_neg hx]; unfold weiZ weiInvCdf
  have e : l * (μ + exp (log (-log (1 - p)) / τ) / l - μ) = exp (log (-log (1 - p)) / τ) := by field_simp; ring
  rw [e, log_exp]
  have e2 : τ * (log (-log (1 - p)) / τ) = log (-log (1 - p)) := by field_simp
  rw [e2, exp_log h, neg_neg, exp_log (by linarith)]; ring

theorem gev_cdf_invcdf {μ l α p : ℝ} (hl : 0 < l) (hα : α ≠ 0) (hp0 : 0 < p) (hp1 : p < 1) : gevCdf μ l α (gevInvCdf μ l α p) = p := by
  have h := neg_log_pos hp0 hp1
  have harg : gevArg μ l α (gevInvCdf μ l α p) = exp (-α * log (-log p)) := by
    unfold gevArg gevInvCdf; field_simp; ring
  unfold gevCdf
  rw [harg, if_neg (not_le.mpr (exp_pos _)), log_exp]
  have e : -(-α * log (-log p) / α) = log (-log p) := by field_simp
  rw [e, exp_log h, neg_neg, exp_log hp0]

theorem samples_at_deviate {μ l t u : ℝ} (hl : 0 < l) (hu0 : 0 < u) (hu1 : u < 1) :
    expSurv μ l (esl_exp_Sample u μ l) = u ∧ gumbelCdf μ l (esl_gumbel_Sample u μ l) = u ∧
    (t ≠ 0 → weiCdf μ l t (esl_wei_Sample u μ l t) = u) ∧ (¬ |t| < 1e-12 → gevCdf μ l t (esl_gev_Sample u μ l t) = u) := by
  refine ⟨?_, ?_, fun ht => ?_, fun ht => ?_⟩
  · rw [ExpThm.code_sample, ExpThm.code_invsurv]; exact exp_surv_invsurv hl hu0 hu1
  · show gumbelCdf μ l (esl_gumbel_invcdf u μ l) = u
    rw [GumbelThm.code_invcdf]; exact gumbel_cdf_invcdf hl.ne' hu0 hu1
  · show weiCdf μ l t (esl_wei_invcdf u μ l t) = u
    rw [WeiThm.code_invcdf]; exact wei_cdf_invcdf hl ht hu0 hu1
  · show gevCdf μ l t (esl_gev_invcdf u μ l t) = u
    rw [GevThm.code_invcdf ht]
    exact gev_cdf_invcdf hl (fun h0 => ht (by rw [h0]; norm_num)) hu0 hu1

end EaselModel.Dist.InvRight
