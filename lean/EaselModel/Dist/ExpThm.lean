import EaselModel.Dist.RealInst
import EaselModel.Dist.Spec
import EaselModel.Dist.Lemmas
import EaselModel.Generated.Dist
import Mathlib.Analysis.SpecialFunctions.ExpDeriv
import Mathlib.Tactic.Ring
import Mathlib.Tactic.FieldSimp
/-! Exponential distribution: L2 (textbook laws) and L1 (translated `esl_exp_*` at `ℝ` vs textbook). -/
noncomputable section
namespace EaselModel.Dist.ExpThm
open Real EaselModel.Dist EaselModel.Dist.Gen EaselModel.Dist.Spec

theorem expCdf_add_expSurv (μ l x : ℝ) : expCdf μ l x + expSurv μ l x = 1 := by
  unfold expCdf expSurv; split_ifs <;> ring

theorem expCdf_mono {μ l : ℝ} (hl : 0 ≤ l) : Monotone (expCdf μ l) := by
  intro a b hab
  unfold expCdf
  split_ifs with h1 h2 h2
  · exact le_refl _
  · have : 0 ≤ l * (b - μ) := mul_nonneg hl (by linarith)
    have : exp (-(l * (b - μ))) ≤ 1 := by rw [exp_le_one_iff]; linarith
    linarith
  · exfalso; linarith
  · have : l * (a - μ) ≤ l * (b - μ) := mul_le_mul_of_nonneg_left (by linarith) hl
    have : exp (-(l * (b - μ))) ≤ exp (-(l * (a - μ))) := exp_le_exp.mpr (by linarith)
    linarith

theorem expCdf_nonneg {μ l : ℝ} (hl : 0 ≤ l) (x : ℝ) : 0 ≤ expCdf μ l x := by
  unfold expCdf; split_ifs with h
  · exact le_refl _
  · have : 0 ≤ l * (x - μ) := mul_nonneg hl (by linarith)
    have : exp (-(l * (x - μ))) ≤ 1 := by rw [exp_le_one_iff]; linarith
    linarith

theorem expCdf_lt_one (μ l x : ℝ) : expCdf μ l x < 1 := by
  unfold expCdf; split_ifs
  · exact one_pos
  · have := exp_pos (-(l * (x - μ))); linarith

theorem expCdf_below {μ l x : ℝ} (h : x < μ) : expCdf μ l x = 0 := by simp [expCdf, h]

theorem expCdf_tendsto_one {μ l : ℝ} (hl : 0 < l) : Filter.Tendsto (expCdf μ l) Filter.atTop (nhds 1) := by
  have h1 : Filter.Tendsto (fun x : ℝ => l * (x - μ)) Filter.atTop Filter.atTop :=
    Filter.Tendsto.const_mul_atTop hl (Filter.tendsto_atTop_add_const_right _ _ Filter.tendsto_id)
  have h2 : Filter.Tendsto (fun x : ℝ => exp (-(l * (x - μ)))) Filter.atTop (nhds 0) :=
    Real.tendsto_exp_neg_atTop_nhds_zero.comp h1
  have h3 : Filter.Tendsto (fun x : ℝ => 1 - exp (-(l * (x - μ)))) Filter.atTop (nhds (1 - 0)) :=
    tendsto_const_nhds.sub h2
  rw [sub_zero] at h3
  refine h3.congr' ?_
  filter_upwards [Filter.eventually_ge_atTop μ] with x hx
  simp [expCdf, not_lt.mpr hx]

theorem expInvCdf_expCdf {μ l x : ℝ} (hl : l ≠ 0) (hx : μ ≤ x) : expInvCdf μ l (expCdf μ l x) = x := by
  unfold expInvCdf expCdf
  rw [if_neg (not_lt.mpr hx)]
  have : (1 : ℝ) - (1 - exp (-(l * (x - μ)))) = exp (-(l * (x - μ))) := by ring
  rw [this, log_exp]; field_simp; ring

theorem expInvSurv_expSurv {μ l x : ℝ} (hl : l ≠ 0) (hx : μ ≤ x) : expInvSurv μ l (expSurv μ l x) = x := by
  unfold expInvSurv expSurv
  rw [if_neg (not_lt.mpr hx), log_exp]; field_simp; ring

theorem expCdf_hasDerivAt {μ l x : ℝ} (hx : μ < x) : HasDerivAt (expCdf μ l) (expPdf μ l x) x := by
  have hd := ((((hasDerivAt_id x).sub_const μ).const_mul l).neg.exp).const_sub 1
  simp only [Pi.neg_apply, id] at hd
  have hev : (expCdf μ l) =ᶠ[nhds x] (fun x : ℝ => 1 - exp (-(l * (x - μ)))) := by
    filter_upwards [lt_mem_nhds hx] with z hz
    simp [expCdf, not_lt.mpr (le_of_lt hz)]
  refine (hd.congr_of_eventuallyEq hev).congr_deriv ?_
  rw [expPdf, if_neg (not_lt.mpr hx.le)]; ring

theorem expCdf_hasDerivAt_below {μ l x : ℝ} (hx : x < μ) : HasDerivAt (expCdf μ l) (expPdf μ l x) x := by
  have hev : (expCdf μ l) =ᶠ[nhds x] (fun _ : ℝ => (0 : ℝ)) := by
    filter_upwards [gt_mem_nhds hx] with z hz
    simp [expCdf, hz]
  have hp : expPdf μ l x = 0 := by simp [expPdf, hx]
  rw [hp]; exact (hasDerivAt_const x (0 : ℝ)).congr_of_eventuallyEq hev

theorem code_pdf (x μ l : ℝ) : esl_exp_pdf x μ l = expPdf μ l x := by
  unfold esl_exp_pdf expPdf; split_ifs <;> simp [neg_mul]

theorem code_surv (x μ l : ℝ) : esl_exp_surv x μ l = expSurv μ l x := by
  unfold esl_exp_surv expSurv; split_ifs <;> simp [neg_mul]

theorem code_cdf {μ l : ℝ} (hl : 0 ≤ l) (x : ℝ) : |esl_exp_cdf x μ l - expCdf μ l x| ≤ 2.5e-17 := by
  unfold esl_exp_cdf expCdf
  simp only [num_exp, lit_one, lit_zero]
  by_cases h1 : x < μ
  · rw [if_pos h1, if_pos h1]; norm_num
  · rw [if_neg h1, if_neg h1]
    have hy0 : 0 ≤ l * (x - μ) := mul_nonneg hl (by linarith)
    exact (one_sub_exp_neg_switch (ε := 5.0e-9) (by norm_num) fun h => by rw [abs_of_nonneg hy0]; exact h.le).trans
      (by norm_num)

theorem code_cdf_add_surv {μ l : ℝ} (hl : 0 ≤ l) (x : ℝ) :
    |esl_exp_cdf x μ l + esl_exp_surv x μ l - 1| ≤ 2.5e-17 := by
  have h := code_cdf (μ := μ) hl x
  rw [code_surv]
  have e : esl_exp_cdf x μ l + expSurv μ l x - 1 = esl_exp_cdf x μ l - expCdf μ l x := by
    have := expCdf_add_expSurv μ l x; linarith
  rw [e]; exact h

theorem code_logsurv {μ l x : ℝ} (hx : μ ≤ x) : esl_exp_logsurv x μ l = log (expSurv μ l x) := by
  unfold esl_exp_logsurv expSurv
  rw [if_neg (not_lt.mpr hx), if_neg (not_lt.mpr hx), log_exp]; ring

theorem code_logsurv_below {μ l x : ℝ} (hx : x < μ) : esl_exp_logsurv x μ l = log (expSurv μ l x) := by
  unfold esl_exp_logsurv expSurv
  rw [if_pos hx, if_pos hx]; simp

theorem code_logpdf {μ l x : ℝ} (hl : 0 < l) (hfin : l ≠ (Num.inf : ℝ)) (hx : μ ≤ x) :
    esl_exp_logpdf x μ l = log (expPdf μ l x) := by
  unfold esl_exp_logpdf expPdf
  rw [if_neg (not_lt.mpr hx), if_neg (not_lt.mpr hx)]
  rw [if_neg (by simpa using hfin)]
  simp only [num_log]
  rw [log_mul (ne_of_gt hl) (exp_ne_zero _), log_exp]; ring

theorem code_logcdf {μ l x : ℝ} (hl : 0 < l) (hx : μ < x) :
    |esl_exp_logcdf x μ l - log (expCdf μ l x)| ≤ 1e-8 := by
  have hy : 0 < l * (x - μ) := mul_pos hl (by linarith)
  unfold esl_exp_logcdf expCdf
  simp only [num_exp, num_log, lit_one, lit_zero]
  rw [if_neg (not_lt.mpr (le_of_lt hx)), if_neg (not_lt.mpr (le_of_lt hx))]
  rw [if_neg (by rw [num_eqb]; exact ne_of_gt hy)]
  exact log_one_sub_exp_neg_switch (ε₁ := 5.0e-9) (ε₂ := 5.0e-9) hy rfl (fun h => h.le) (fun h => h.le)
    (by norm_num) (by norm_num) (by norm_num) (by norm_num)

theorem code_invcdf {μ l : ℝ} (p : ℝ) : esl_exp_invcdf p μ l = expInvCdf μ l p := by
  unfold esl_exp_invcdf expInvCdf; simp only [num_log, lit_one]; ring

theorem code_invsurv {μ l : ℝ} (p : ℝ) : esl_exp_invsurv p μ l = expInvSurv μ l p := by
  unfold esl_exp_invsurv expInvSurv; simp only [num_log, lit_one]; ring

theorem code_sample (u μ l : ℝ) : esl_exp_Sample u μ l = esl_exp_invsurv u μ l := rfl

end EaselModel.Dist.ExpThm
