import EaselModel.Dist.RealInst
import EaselModel.Dist.Edge
import EaselModel.Generated.Dist
import Mathlib.Analysis.SpecialFunctions.Log.Basic
/-! The EXACT values of every translated x-function at the support edge `x == μ` of the three families whose density
    has a shape-dependent edge (gamma, Weibull, stretched exponential), for `τ < 1`, `τ = 1`, `τ > 1` — the code's own branch
    values (`esl_gam_pdf`, `esl_wei_pdf`: `+inf`, `λ`, `0`; their log versions `+inf`, `log λ`, `-inf`; `esl_sxp_pdf = λτ/e^{LogGamma(1/τ)}`)
    — and `logpdf = log pdf` there wherever the density is finite and positive. -/
set_option linter.unusedSectionVars false
noncomputable section
namespace EaselModel.Dist.EdgeAtMu
open Real EaselModel.Dist EaselModel.Dist.Gen

section generic
variable {α : Type} [Add α] [Sub α] [Mul α] [Div α] [Neg α] [OfScientific α] [LT α] [LE α]
  [DecidableLT α] [DecidableLE α] [Num α]

/-- every carrier: what the code's `x == mu` branch returns (hypotheses = the tests the C code makes, as it makes them) -/
theorem gam_pdf_edge {x mu l t : α} (hy : ¬ l * (x - mu) < 0.0) (he : Num.eqb x mu = true) :
    (t < 1.0 → esl_gam_pdf x mu l t = Num.inf ∧ esl_gam_logpdf x mu l t = Num.inf) ∧
    (¬ t < 1.0 → 1.0 < t → esl_gam_pdf x mu l t = 0.0 ∧ esl_gam_logpdf x mu l t = -Num.inf) ∧
    (¬ t < 1.0 → ¬ 1.0 < t → Num.eqb t 1.0 = true → esl_gam_pdf x mu l t = l ∧ esl_gam_logpdf x mu l t = Num.log l) := by
  refine ⟨fun h => ?_, fun h1 h2 => ?_, fun h1 h2 h3 => ?_⟩ <;> simp [esl_gam_pdf, esl_gam_logpdf, *]

theorem wei_pdf_edge {x mu l t : α} (hx : ¬ x < mu) (he : Num.eqb x mu = true) :
    (t < 1.0 → esl_wei_pdf x mu l t = Num.inf ∧ esl_wei_logpdf x mu l t = Num.inf) ∧
    (¬ t < 1.0 → 1.0 < t → esl_wei_pdf x mu l t = 0.0 ∧ esl_wei_logpdf x mu l t = -Num.inf) ∧
    (¬ t < 1.0 → ¬ 1.0 < t → Num.eqb t 1.0 = true → esl_wei_pdf x mu l t = l ∧ esl_wei_logpdf x mu l t = Num.log l) := by
  refine ⟨fun h => ?_, fun h1 h2 => ?_, fun h1 h2 h3 => ?_⟩ <;> simp [esl_wei_pdf, esl_wei_logpdf, *]

theorem sxp_pdf_edge {x mu l t : α} (hx : ¬ x < mu) (he : Num.eqb x mu = true) :
    esl_sxp_pdf x mu l t = (l * t) / Num.exp (Num.logGamma (1.0 / t)) ∧
    esl_sxp_logpdf x mu l t = (Num.log l + Num.log t) - Num.logGamma (1.0 / t) := by
  simp [esl_sxp_pdf, esl_sxp_logpdf, *]

end generic

/-- the three shape branches of `gam_pdf_edge` / `wei_pdf_edge` read over `ℝ`, for any density / log-density pair of values -/
theorem at_mu_of_edge {pdf lpdf l τ : ℝ}
    (h : (τ < 1.0 → pdf = Num.inf ∧ lpdf = Num.inf) ∧ (¬ τ < 1.0 → 1.0 < τ → pdf = 0.0 ∧ lpdf = -Num.inf) ∧
      (¬ τ < 1.0 → ¬ 1.0 < τ → Num.eqb τ 1.0 = true → pdf = l ∧ lpdf = Num.log l)) :
    (τ < 1 → pdf = Num.inf ∧ lpdf = Num.inf) ∧ (1 < τ → pdf = 0 ∧ lpdf = -Num.inf) ∧
    (τ = 1 → pdf = l ∧ lpdf = log l ∧ (0 < l → lpdf = log pdf)) := by
  obtain ⟨a, b, c⟩ := h
  refine ⟨fun h => a (by simpa using h), fun h => ?_, fun h => ?_⟩
  · have := b (by simp; linarith) (by simpa using h); simpa using this
  · subst h
    have := c (by simp) (by simp) (by simp)
    exact ⟨this.1, by simpa using this.2, fun _ => by rw [this.1]; simpa using this.2⟩

theorem gam_at_mu (μ l τ : ℝ) :
    (τ < 1 → esl_gam_pdf μ μ l τ = Num.inf ∧ esl_gam_logpdf μ μ l τ = Num.inf) ∧
    (1 < τ → esl_gam_pdf μ μ l τ = 0 ∧ esl_gam_logpdf μ μ l τ = -Num.inf) ∧
    (τ = 1 → esl_gam_pdf μ μ l τ = l ∧ esl_gam_logpdf μ μ l τ = log l ∧ (0 < l → esl_gam_logpdf μ μ l τ = log (esl_gam_pdf μ μ l τ))) ∧
    (esl_gam_cdf μ μ l τ = 0 ∧ esl_gam_surv μ μ l τ = 1 ∧ esl_gam_logcdf μ μ l τ = -Num.inf ∧ esl_gam_logsurv μ μ l τ = 0) := by
  obtain ⟨a, b, c⟩ := at_mu_of_edge (gam_pdf_edge (x := μ) (mu := μ) (l := l) (t := τ) (by simp) (by simp))
  have h0 : l * (μ - μ) ≤ (0.0 : ℝ) := by simp
  exact ⟨a, b, c, by simpa using Edge.gam_cdf_below (t := τ) h0, by simpa using Edge.gam_surv_below (t := τ) h0,
    Edge.gam_logcdf_below h0, by simpa using Edge.gam_logsurv_below (t := τ) h0⟩

theorem wei_at_mu (μ l τ : ℝ) :
    (τ < 1 → esl_wei_pdf μ μ l τ = Num.inf ∧ esl_wei_logpdf μ μ l τ = Num.inf) ∧
    (1 < τ → esl_wei_pdf μ μ l τ = 0 ∧ esl_wei_logpdf μ μ l τ = -Num.inf) ∧
    (τ = 1 → esl_wei_pdf μ μ l τ = l ∧ esl_wei_logpdf μ μ l τ = log l ∧ (0 < l → esl_wei_logpdf μ μ l τ = log (esl_wei_pdf μ μ l τ))) :=
  at_mu_of_edge (wei_pdf_edge (x := μ) (mu := μ) (l := l) (t := τ) (lt_irrefl μ) (by simp))

theorem sxp_at_mu {μ l τ : ℝ} (hl : 0 < l) (hτ : 0 < τ) :
    esl_sxp_pdf μ μ l τ = l * τ / exp (Num.logGamma (1 / τ)) ∧
    esl_sxp_logpdf μ μ l τ = log l + log τ - Num.logGamma (1 / τ) ∧
    esl_sxp_logpdf μ μ l τ = log (esl_sxp_pdf μ μ l τ) ∧ 0 < esl_sxp_pdf μ μ l τ := by
  obtain ⟨a, b⟩ := sxp_pdf_edge (l := l) (t := τ) (lt_irrefl μ) (by simp : Num.eqb μ μ = true)
  have a' : esl_sxp_pdf μ μ l τ = l * τ / exp (Num.logGamma (1 / τ)) := by simpa using a
  have b' : esl_sxp_logpdf μ μ l τ = log l + log τ - Num.logGamma (1 / τ) := by simpa using b
  refine ⟨a', b', ?_, by rw [a']; positivity⟩
  rw [a', b', log_div (by positivity) (exp_ne_zero _), log_mul (ne_of_gt hl) (ne_of_gt hτ), log_exp]

end EaselModel.Dist.EdgeAtMu
