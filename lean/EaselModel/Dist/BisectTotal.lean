import EaselModel.Dist.BisectTerm
import Mathlib.Analysis.SpecialFunctions.Log.Base
/-! The bracketing + bisection inverses as TOTAL functions over `ℝ`: the number of loop passes is bounded by an explicit
    function of the bracket and of the tolerance of the code's own stop rule, so for every `fuel ≥ fuelRight reach δ` (resp.
    `fuelGam`, `fuelMix`) the translated function returns `some r`, with ONE `r` for all such fuels.  The cdf in use (the
    translated code's own) need not be monotone: it is compared with a monotone reference `F` (the textbook cdf) within `ε`. -/
noncomputable section
namespace EaselModel.Dist.BisectTotal
open Real EaselModel.Dist EaselModel.Dist.Bisect EaselModel.Dist.BisectTerm

/-- number of passes after which a reach multiplied by `b` per pass has grown by the factor `R`: `⌈log_b R⌉` -/
def passes (b R : ℝ) : ℕ := ⌈Real.logb b R⌉₊

theorem le_pow_passes {b R : ℝ} (hb : 1 < b) : R ≤ b ^ passes b R := by
  rcases le_or_gt R 0 with h | h
  · exact h.trans (pow_pos (by linarith) _).le
  · have h1 : Real.logb b R ≤ (passes b R : ℝ) := Nat.le_ceil _
    calc R = b ^ (Real.logb b R) := (Real.rpow_logb (by linarith) (by linarith) h).symm
      _ ≤ b ^ ((passes b R : ℕ) : ℝ) := Real.rpow_le_rpow_of_exponent_le hb.le h1
      _ = b ^ passes b R := Real.rpow_natCast _ _

theorem le_pow_passes_succ {b R : ℝ} (hb : 1 < b) : R ≤ b ^ (passes b R + 1) :=
  (le_pow_passes hb).trans (pow_le_pow_right₀ hb.le (Nat.le_succ _))

theorem le_mul_pow_passes {A w : ℝ} (hw : 0 < w) : A ≤ w * 2 ^ passes 2 (A / w) := by
  have := le_pow_passes (b := 2) (R := A / w) (by norm_num)
  rwa [div_le_iff₀ hw, mul_comm] at this

/-- fuel that suffices for `esl_sxp_invcdf` / `esl_hxp_invcdf`: `reach` = distance from `μ` to a point from which on
    `p ≤ cdf`; `δ` = a distance from `μ` on which `cdf < p`; `1e-6` = the tolerance of the C stop rule -/
def fuelRight (reach δ : ℝ) : ℕ :=
  max (passes 3 reach) (passes 2 (3 ^ (passes 3 reach + 1) / (1e-6 * δ))) + 1

/-- fuel that suffices for `esl_gam_invcdf` (`s = τ/λ`, the starting reach, doubled per pass) -/
def fuelGam (reach δ s : ℝ) : ℕ :=
  max (passes 2 (reach / s)) (passes 2 (2 ^ (passes 2 (reach / s) + 1) * s / (1e-6 * δ))) + 1

/-- fuel that suffices for `esl_mixgev_invcdf` (`left`/`right` = distances from `min μ_k` to points left / right of which the
    cdf is on the correct side of `p`; `1e-15` = `1e-6 · 1e-9`, the absolute floor of its stop rule) -/
def fuelMix (left right : ℝ) : ℕ :=
  max (passes 3 left) (max (passes 3 (right + 1))
    (passes 2 (3 ^ (passes 3 (right + 1) + 1) * 3 ^ (passes 3 left + 1) / 1e-15))) + 1

/-- what the returned value satisfies, relative to the monotone reference `F` -/
def Result (F : ℝ → ℝ) (p μ ε r : ℝ) : Prop :=
  ∃ a b, μ ≤ a ∧ a ≤ b ∧ r = (a + b) / 2 ∧ b - a ≤ 1e-6 * ((a + b) - 2 * μ) ∧ F a ≤ p + ε ∧ p - ε ≤ F b

theorem result_of_final {cdf F : ℝ → ℝ} {p μ ε x2 r : ℝ} (hclose : ∀ x, |cdf x - F x| ≤ ε) (hf : Final cdf p μ μ x2 r) :
    Result F p μ ε r := by
  obtain ⟨a, b, ha, hab, _, hca, hcb, hr, hw⟩ := hf
  have h1 := abs_le.mp (hclose a)
  have h2 := abs_le.mp (hclose b)
  exact ⟨a, b, ha, hab, hr, hw, by linarith, by linarith⟩

theorem low_of_close {cdf F : ℝ → ℝ} {p ε c : ℝ} (hclose : ∀ x, |cdf x - F x| ≤ ε) (hF : Monotone F) (h : F c < p - ε) :
    ∀ x, x ≤ c → cdf x < p := fun x hx => by
  have h1 := abs_le.mp (hclose x)
  have := hF hx
  linarith

theorem high_of_close {cdf F : ℝ → ℝ} {p ε X : ℝ} (hclose : ∀ x, |cdf x - F x| ≤ ε) (hF : Monotone F) (h : p + ε ≤ F X) :
    ∀ x, X ≤ x → p ≤ cdf x := fun x hx => by
  have h1 := abs_le.mp (hclose x)
  have := hF hx
  linarith

theorem invcdfRight_returns {cdf : ℝ → ℝ} {μ p δ X : ℝ} (h0 : cdf μ ≤ p) (hδ : 0 < δ)
    (hlow : ∀ x, x ≤ μ + δ → cdf x < p) (hX : ∀ x, X ≤ x → p ≤ cdf x) :
    ∃ r, (∀ fuel, fuelRight (X - μ) δ ≤ fuel → invcdfRight fuel cdf p μ = some r) ∧ ∃ x2, Final cdf p μ μ x2 r := by
  obtain ⟨r, hr⟩ := invcdfRight_stops (N1 := passes 3 (X - μ)) (N2 := passes 2 (3 ^ (passes 3 (X - μ) + 1) / (1e-6 * δ)))
    hδ hlow hX (by linarith [le_pow_passes_succ (b := 3) (R := X - μ) (by norm_num)])
    (le_mul_pow_passes (mul_pos (by norm_num) hδ))
  have hret : ∀ fuel, fuelRight (X - μ) δ ≤ fuel → invcdfRight fuel cdf p μ = some r := fun fuel hf =>
    hr fuel (by unfold fuelRight at hf; omega) (by unfold fuelRight at hf; omega)
  exact ⟨r, hret, invcdfRight_final h0 (hret _ le_rfl)⟩

theorem invcdfRight_total {cdf F : ℝ → ℝ} {μ p ε δ X : ℝ} (hclose : ∀ x, |cdf x - F x| ≤ ε) (hF : Monotone F)
    (h0 : cdf μ ≤ p) (hδ : 0 < δ) (hlow : F (μ + δ) < p - ε) (hX : p + ε ≤ F X) :
    ∃ r, (∀ fuel, fuelRight (X - μ) δ ≤ fuel → invcdfRight fuel cdf p μ = some r) ∧ Result F p μ ε r := by
  obtain ⟨r, hr, x2, hfin⟩ := invcdfRight_returns h0 hδ (low_of_close hclose hF hlow) (high_of_close hclose hF hX)
  exact ⟨r, hr, result_of_final hclose hfin⟩

theorem invcdfRight_inverts {cdf : ℝ → ℝ} {μ p q : ℝ} (hq : μ < q) (h0 : cdf μ ≤ p) (hqp : p ≤ cdf q)
    (hlo : ∀ x, x < q → cdf x < p) (hhi : ∀ x, q < x → p < cdf x) :
    ∃ N : Nat, ∀ fuel, N ≤ fuel → ∃ r, invcdfRight fuel cdf p μ = some r ∧ |r - q| ≤ 1e-6 * (r - μ) := by
  obtain ⟨r, hr, x2, hfin⟩ := invcdfRight_returns (δ := (q - μ) / 2) (X := q) h0 (by linarith) (fun x hx => hlo x (by linarith))
    fun x hx => hx.eq_or_lt.elim (fun e => e ▸ hqp) fun h => (hhi x h).le
  exact ⟨_, fun fuel hf => ⟨r, hr fuel hf, final_accuracy hfin hlo hhi⟩⟩

theorem invcdfGam_returns {cdf : ℝ → ℝ} {μ l t p δ X : ℝ} (h0 : cdf μ ≤ p) (hs : 0 < t / l) (hδ : 0 < δ)
    (hlow : ∀ x, x ≤ μ + δ → cdf x < p) (hX : ∀ x, X ≤ x → p ≤ cdf x) :
    ∃ r, (∀ fuel, fuelGam (X - μ) δ (t / l) ≤ fuel → invcdfGam fuel cdf p μ l t = some r) ∧ ∃ x2, Final cdf p μ μ x2 r := by
  have s1 := (div_le_iff₀ hs).mp (le_pow_passes_succ (b := 2) (R := (X - μ) / (t / l)) (by norm_num))
  obtain ⟨r, hr⟩ := invcdfGam_stops (N1 := passes 2 ((X - μ) / (t / l)))
    (N2 := passes 2 (2 ^ (passes 2 ((X - μ) / (t / l)) + 1) * (t / l) / (1e-6 * δ))) hδ hs.le hlow hX (by linarith)
    (le_mul_pow_passes (mul_pos (by norm_num) hδ))
  have hret : ∀ fuel, fuelGam (X - μ) δ (t / l) ≤ fuel → invcdfGam fuel cdf p μ l t = some r := fun fuel hf =>
    hr fuel (by unfold fuelGam at hf; omega) (by unfold fuelGam at hf; omega)
  exact ⟨r, hret, invcdfGam_final h0 hs.le (hret _ le_rfl)⟩

theorem invcdfGam_total {cdf F : ℝ → ℝ} {μ l t p ε δ X : ℝ} (hclose : ∀ x, |cdf x - F x| ≤ ε) (hF : Monotone F)
    (h0 : cdf μ ≤ p) (hs : 0 < t / l) (hδ : 0 < δ) (hlow : F (μ + δ) < p - ε) (hX : p + ε ≤ F X) :
    ∃ r, (∀ fuel, fuelGam (X - μ) δ (t / l) ≤ fuel → invcdfGam fuel cdf p μ l t = some r) ∧ Result F p μ ε r := by
  obtain ⟨r, hr, x2, hfin⟩ := invcdfGam_returns h0 hs hδ (low_of_close hclose hF hlow) (high_of_close hclose hF hX)
  exact ⟨r, hr, result_of_final hclose hfin⟩

theorem invcdfGam_inverts {cdf : ℝ → ℝ} {μ l t p q : ℝ} (hs : 0 < t / l) (hq : μ < q) (h0 : cdf μ ≤ p) (hqp : p ≤ cdf q)
    (hlo : ∀ x, x < q → cdf x < p) (hhi : ∀ x, q < x → p < cdf x) :
    ∃ N : Nat, ∀ fuel, N ≤ fuel → ∃ r, invcdfGam fuel cdf p μ l t = some r ∧ |r - q| ≤ 1e-6 * (r - μ) := by
  obtain ⟨r, hr, x2, hfin⟩ := invcdfGam_returns (δ := (q - μ) / 2) (X := q) h0 hs (by linarith) (fun x hx => hlo x (by linarith))
    fun x hx => hx.eq_or_lt.elim (fun e => e ▸ hqp) fun h => (hhi x h).le
  exact ⟨_, fun fuel hf => ⟨r, hr fuel hf, final_accuracy hfin hlo hhi⟩⟩

/-- A cdf with a support edge at `μ`: `0` up to `μ`, strictly increasing from there, taking every value of `(0, Q)`.  Its quantiles
    are unique, separate the cdf values, and are what the bracketing + bisection finds. -/
structure Edged (F : ℝ → ℝ) (μ Q : ℝ) : Prop where
  zero : ∀ x, x ≤ μ → F x = 0
  strict : ∀ s t, μ ≤ s → s < t → F s < F t
  quant : ∀ p, 0 < p → p < Q → ∃ q, μ < q ∧ F q = p

namespace Edged

/-- from continuity and the limit `Q` at `+∞`: intermediate values -/
theorem of_tendsto {F : ℝ → ℝ} {μ Q : ℝ} (hzero : ∀ x, x ≤ μ → F x = 0) (hstrict : ∀ s t, μ ≤ s → s < t → F s < F t)
    (hcont : ∀ X, μ ≤ X → ContinuousOn F (Set.Icc μ X)) (htend : Filter.Tendsto F Filter.atTop (nhds Q)) : Edged F μ Q where
  zero := hzero
  strict := hstrict
  quant p hp0 hp1 := by
    obtain ⟨X, hXp, hX⟩ := ((htend.eventually (lt_mem_nhds hp1)).and (Filter.eventually_ge_atTop μ)).exists
    obtain ⟨y, hy, hyp⟩ := intermediate_value_Icc hX (hcont X hX) (show p ∈ Set.Icc (F μ) (F X) by
      rw [hzero μ le_rfl]; exact ⟨hp0.le, hXp.le⟩)
    refine ⟨y, hy.1.lt_or_eq.resolve_right fun e => ?_, hyp⟩
    rw [← e, hzero μ le_rfl] at hyp; linarith

/-- an edged `G` (edge `0`) after a change of variable `g` that carries `(μ, ∞)` increasingly onto `(0, ∞)` -/
theorem comp {G g : ℝ → ℝ} {μ Q : ℝ} (E : Edged G 0 Q) (hg0 : ∀ x, μ < x → 0 < g x) (hg : ∀ s t, μ < s → s < t → g s < g t)
    (hsurj : ∀ y, 0 < y → ∃ x, μ < x ∧ g x = y) : Edged (fun x => if x ≤ μ then 0 else G (g x)) μ Q where
  zero x hx := if_pos hx
  strict s t hs hst := by
    have ht := hs.trans_lt hst
    simp only [if_neg (not_le.mpr ht)]
    rcases hs.eq_or_lt with rfl | h
    · rw [if_pos le_rfl, ← E.zero 0 le_rfl]; exact E.strict 0 _ le_rfl (hg0 t ht)
    · rw [if_neg (not_le.mpr h)]; exact E.strict _ _ (hg0 s h).le (hg s t h hst)
  quant p hp0 hp1 := by
    obtain ⟨y, hy, hyp⟩ := E.quant p hp0 hp1
    obtain ⟨x, hx, hxy⟩ := hsurj y hy
    exact ⟨x, hx, by simp only [if_neg (not_le.mpr hx), hxy, hyp]⟩

variable {F : ℝ → ℝ} {μ Q p q : ℝ} (E : Edged F μ Q)
include E

theorem mono : Monotone F := fun s t hst => by
  rcases le_or_gt s μ with hs | hs
  · rw [E.zero s hs]
    rcases le_or_gt t μ with ht | ht
    · rw [E.zero t ht]
    · rw [← E.zero μ le_rfl]; exact (E.strict μ t le_rfl ht).le
  · exact hst.eq_or_lt.elim (fun e => e ▸ le_rfl) fun h => (E.strict s t hs.le h).le

theorem unique (hp0 : 0 < p) (hp1 : p < Q) : ∃! q, μ < q ∧ F q = p := by
  obtain ⟨q, hq, hqp⟩ := E.quant p hp0 hp1
  refine ⟨q, ⟨hq, hqp⟩, ?_⟩
  rintro z ⟨hz, hzp⟩
  rcases lt_trichotomy z q with h | h | h
  · have := E.strict z q hz.le h; linarith
  · exact h
  · have := E.strict q z hq.le h; linarith

theorem separates (hp0 : 0 < p) (hq : μ < q) (hqp : F q = p) : (∀ x, x < q → F x < p) ∧ (∀ x, q < x → p < F x) := by
  refine ⟨fun x hx => ?_, fun x hx => hqp ▸ E.strict q x hq.le hx⟩
  rcases le_or_gt x μ with h | h
  · rw [E.zero x h]; exact hp0
  · exact hqp ▸ E.strict x q h.le hx

theorem right_inverts (hp0 : 0 < p) (hp1 : p < Q) :
    ∃ q, (μ < q ∧ F q = p) ∧ ∃ N : Nat, ∀ fuel, N ≤ fuel →
      ∃ r, invcdfRight fuel F p μ = some r ∧ |r - q| ≤ 1e-6 * (r - μ) := by
  obtain ⟨q, hq, hqp⟩ := E.quant p hp0 hp1
  have hs := E.separates hp0 hq hqp
  exact ⟨q, ⟨hq, hqp⟩, invcdfRight_inverts hq (by rw [E.zero μ le_rfl]; exact hp0.le) hqp.ge hs.1 hs.2⟩

theorem gam_inverts {l t : ℝ} (hlt : 0 < t / l) (hp0 : 0 < p) (hp1 : p < Q) :
    ∃ q, (μ < q ∧ F q = p) ∧ ∃ N : Nat, ∀ fuel, N ≤ fuel →
      ∃ r, invcdfGam fuel F p μ l t = some r ∧ |r - q| ≤ 1e-6 * (r - μ) := by
  obtain ⟨q, hq, hqp⟩ := E.quant p hp0 hp1
  have hs := E.separates hp0 hq hqp
  exact ⟨q, ⟨hq, hqp⟩, invcdfGam_inverts hlt hq (by rw [E.zero μ le_rfl]; exact hp0.le) hqp.ge hs.1 hs.2⟩

end Edged

/-- no edge hypothesis and no reference cdf: the stop rule of `esl_mixgev_invcdf` has an absolute floor -/
theorem invcdfMix_total {cdf : ℝ → ℝ} {p m XL XR : ℝ} (hL : ∀ x, x ≤ XL → cdf x ≤ p) (hR : ∀ x, XR ≤ x → p ≤ cdf x) :
    ∃ r, (∀ fuel, fuelMix (m - XL) (XR - m) ≤ fuel → invcdfMix fuel cdf p m = some r) ∧
      ∃ x1 x2, FinalMix cdf p x1 x2 r := by
  have a0 := le_pow_passes_succ (b := 3) (R := m - XL) (by norm_num)
  have a1 := le_pow_passes_succ (b := 3) (R := XR - m + 1) (by norm_num)
  obtain ⟨r, hr⟩ := invcdfMix_stops (cdf := cdf) (p := p) (m := m) (XL := XL) (XR := XR) (N0 := passes 3 (m - XL))
    (N1 := passes 3 (XR - m + 1)) (N2 := passes 2 (3 ^ (passes 3 (XR - m + 1) + 1) * 3 ^ (passes 3 (m - XL) + 1) / 1e-15))
    hL hR (by linarith) (by linarith) (le_mul_pow_passes (by norm_num))
  have hret : ∀ fuel, fuelMix (m - XL) (XR - m) ≤ fuel → invcdfMix fuel cdf p m = some r := fun fuel hf =>
    hr fuel (by unfold fuelMix at hf; omega) (by unfold fuelMix at hf; omega) (by unfold fuelMix at hf; omega)
  exact ⟨r, hret, invcdfMix_final (hret _ le_rfl)⟩

theorem result_band {F : ℝ → ℝ} {p μ ε r qlo qhi : ℝ} (hres : Result F p μ ε r)
    (hstrict : ∀ s t, μ ≤ s → s < t → F s < F t) (_hqlo : μ ≤ qlo) (hlo : F qlo = p - ε) (hqhi : μ ≤ qhi) (hhi : F qhi = p + ε) :
    qlo - 1e-6 * (r - μ) ≤ r ∧ r ≤ qhi + 1e-6 * (r - μ) ∧ μ ≤ r := by
  obtain ⟨a, b, ha, hab, hr, hw, hFa, hFb⟩ := hres
  have haq : a ≤ qhi := not_lt.mp fun h => by
    have := hstrict qhi a hqhi h
    linarith
  have hbq : qlo ≤ b := not_lt.mp fun h => by
    have := hstrict b qlo (ha.trans hab) h
    linarith
  subst hr
  refine ⟨by linarith, by linarith, by linarith⟩

theorem passes_le {b R : ℝ} {n : ℕ} (hb : 1 < b) (hR : 0 < R) (h : R ≤ b ^ n) : passes b R ≤ n := by
  unfold passes
  rw [Nat.ceil_le, Real.logb_le_iff_le_rpow hb hR, Real.rpow_natCast]
  exact h

set_option exponentiation.threshold 4000 in
theorem pow_facts : (2 : ℝ) ^ 1024 ≤ 3 ^ 647 ∧ (3 : ℝ) ^ 648 ≤ 2 ^ 1028 := by
  constructor
  · exact_mod_cast (by norm_num : (2 : ℕ) ^ 1024 ≤ 3 ^ 647)
  · exact_mod_cast (by norm_num : (3 : ℕ) ^ 648 ≤ 2 ^ 1028)

theorem pos_of_one_le_mul_pow {t : ℝ} {n : ℕ} (h : 1 ≤ t * 2 ^ n) : 0 < t :=
  (mul_pos_iff_of_pos_right (pow_pos two_pos n)).mp (zero_lt_one.trans_le h)

theorem passes_div_le {A w : ℝ} {k j : ℕ} (hA0 : 0 < A) (hw0 : 0 < w) (hA : A ≤ 2 ^ k) (hw : 1 ≤ w * 2 ^ j) :
    passes 2 (A / w) ≤ k + j := by
  refine passes_le (by norm_num) (div_pos hA0 hw0) ?_
  rw [div_le_iff₀ hw0, pow_add, mul_assoc, mul_comm (2 ^ j)]
  calc A ≤ 2 ^ k := hA
    _ = 2 ^ k * 1 := (mul_one _).symm
    _ ≤ 2 ^ k * (w * 2 ^ j) := mul_le_mul_of_nonneg_left hw (pow_pos two_pos k).le

/-- the tolerance `1e-6 · δ` of the stop rule with `δ ≥ 2^-1074` is at least `2^-1094` (`1e6 ≤ 2^20`) -/
theorem tol_floor {δ : ℝ} (hδ : 1 ≤ δ * 2 ^ 1074) : 1 ≤ 1e-6 * δ * 2 ^ 1094 := by
  rw [show (1094 : ℕ) = 20 + 1074 from rfl, pow_add, ← mul_mul_mul_comm]
  exact one_le_mul_of_one_le_of_one_le (by norm_num) hδ

/-- a bracket that fits binary64 — reach at most `2^1024` (the largest finite double is below it), distance `δ` from the
    support edge at least `2^-1074` (the smallest positive double) — needs at most `2123` passes per loop: the driver's
    `Bisect.defaultFuel = 5000` is enough for `esl_sxp_invcdf` / `esl_hxp_invcdf` on every such input -/
theorem fuelRight_le {reach δ : ℝ} (h0 : 0 < reach) (hr : reach ≤ 2 ^ 1024) (hδ : 1 ≤ δ * 2 ^ 1074) :
    fuelRight reach δ ≤ 2123 ∧ fuelRight reach δ ≤ Bisect.defaultFuel := by
  obtain ⟨f1, f2⟩ := pow_facts
  have hN1 : passes 3 reach ≤ 647 := passes_le (by norm_num) h0 (hr.trans f1)
  have h3 : (3 : ℝ) ^ (passes 3 reach + 1) ≤ 3 ^ 648 := pow_le_pow_right₀ (by norm_num) (by omega)
  have hN2 := passes_div_le (pow_pos (by norm_num) _) (mul_pos (by norm_num) (pos_of_one_le_mul_pow hδ)) (h3.trans f2)
    (tol_floor hδ)
  have hle : fuelRight reach δ ≤ 2123 := by unfold fuelRight; omega
  exact ⟨hle, hle.trans (by unfold Bisect.defaultFuel; omega)⟩

theorem fuelMix_le {left right : ℝ} (hl0 : 0 < left) (hl : left ≤ 2 ^ 1024) (hr0 : 0 ≤ right) (hr : right + 1 ≤ 2 ^ 1024) :
    fuelMix left right ≤ 2107 ∧ fuelMix left right ≤ Bisect.defaultFuel := by
  obtain ⟨f1, f2⟩ := pow_facts
  have hN0 : passes 3 left ≤ 647 := passes_le (by norm_num) hl0 (hl.trans f1)
  have hN1 : passes 3 (right + 1) ≤ 647 := passes_le (by norm_num) (by linarith) (hr.trans f1)
  have h30 : (3 : ℝ) ^ (passes 3 left + 1) ≤ 3 ^ 648 := pow_le_pow_right₀ (by norm_num) (by omega)
  have h31 : (3 : ℝ) ^ (passes 3 (right + 1) + 1) ≤ 3 ^ 648 := pow_le_pow_right₀ (by norm_num) (by omega)
  have hN2 : passes 2 (3 ^ (passes 3 (right + 1) + 1) * 3 ^ (passes 3 left + 1) / 1e-15) ≤ 1028 + 1028 + 50 :=
    passes_div_le (mul_pos (pow_pos (by norm_num) _) (pow_pos (by norm_num) _)) (by norm_num)
      (by rw [pow_add (2 : ℝ) 1028 1028]; exact mul_le_mul (h31.trans f2) (h30.trans f2) (by positivity) (by positivity)) (by norm_num)
  have hle : fuelMix left right ≤ 2107 := by unfold fuelMix; omega
  exact ⟨hle, hle.trans (by unfold Bisect.defaultFuel; omega)⟩

theorem pow_passes_le {b R : ℝ} (hb : 1 < b) (hR : 0 < R) : b ^ passes b R ≤ 1 + b * R := by
  have hb0 : 0 < b := by linarith
  rcases le_or_gt (Real.logb b R) 0 with h | h
  · have : passes b R = 0 := by unfold passes; exact Nat.ceil_eq_zero.mpr h
    rw [this, pow_zero]; nlinarith
  · have h1 : ((passes b R : ℕ) : ℝ) < Real.logb b R + 1 := Nat.ceil_lt_add_one h.le
    calc b ^ passes b R = b ^ ((passes b R : ℕ) : ℝ) := (Real.rpow_natCast _ _).symm
      _ ≤ b ^ (Real.logb b R + 1) := Real.rpow_le_rpow_of_exponent_le hb.le h1.le
      _ = R * b := by rw [Real.rpow_add hb0, Real.rpow_logb hb0 (ne_of_gt hb) hR, Real.rpow_one]
      _ ≤ 1 + b * R := by nlinarith

theorem fuelGam_le {reach δ s : ℝ} (h0 : 0 < reach) (hr : reach ≤ 2 ^ 1024) (hδ : 1 ≤ δ * 2 ^ 1074)
    (hs1 : 1 ≤ s * 2 ^ 1074) (hs2 : s ≤ 2 ^ 1024) :
    fuelGam reach δ s ≤ 2122 ∧ fuelGam reach δ s ≤ Bisect.defaultFuel := by
  have hs0 := pos_of_one_le_mul_pow hs1
  have hq : 0 < reach / s := div_pos h0 hs0
  have hN1 : passes 2 (reach / s) ≤ 1024 + 1074 := passes_div_le h0 hs0 hr hs1
  have hnum : (2 : ℝ) ^ (passes 2 (reach / s) + 1) * s ≤ 2 ^ 1027 := by
    have h1 := pow_passes_le (b := 2) (R := reach / s) (by norm_num) hq
    have h2 : (2 : ℝ) ^ (passes 2 (reach / s) + 1) * s = 2 * (2 ^ passes 2 (reach / s) * s) := by rw [pow_succ]; ring
    have h3 : (2 : ℝ) ^ passes 2 (reach / s) * s ≤ s + 2 * reach := by
      have := mul_le_mul_of_nonneg_right h1 hs0.le
      have e : (1 + 2 * (reach / s)) * s = s + 2 * reach := by field_simp
      linarith
    have e27 : (2 : ℝ) ^ 1027 = 8 * 2 ^ 1024 := by rw [show (1027 : ℕ) = 3 + 1024 by norm_num, pow_add]; norm_num
    have key : ∀ T : ℝ, reach ≤ T → s ≤ T → 2 * (s + 2 * reach) ≤ 8 * T := fun T a b => by linarith
    rw [h2, e27]
    exact (mul_le_mul_of_nonneg_left h3 (by norm_num)).trans (key _ hr hs2)
  have hN2 := passes_div_le (mul_pos (pow_pos two_pos _) hs0) (mul_pos (by norm_num) (pos_of_one_le_mul_pow hδ)) hnum
    (tol_floor hδ)
  have hle : fuelGam reach δ s ≤ 2122 := by unfold fuelGam; omega
  exact ⟨hle, hle.trans (by unfold Bisect.defaultFuel; omega)⟩

end EaselModel.Dist.BisectTotal
