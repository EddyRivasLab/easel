import EaselModel.Dist.MixGen
/-! Log versions of the TRANSLATED hyperexponential: the counted loop stores `log q_k + log f_k(x)` into the scratch vector
    `h->wrk` (a fold over the structure value), `esl_vec_DLogSum` sums it. -/
noncomputable section
namespace EaselModel.Dist.MixLogGen
open Real Finset EaselModel.Dist EaselModel.Dist.Gen EaselModel.Dist.Spec EaselModel.Dist.MixGen

/-- what the loop body stores for component `k` -/
def entry (h : ESL_HYPEREXP ℝ) (f : ℝ → ℝ) (k : ℕ) : ℝ :=
  if hq h k = 0 then -(Num.inf : ℝ) else log (hq h k) + f (hl h k)

theorem fold_struct (h : ESL_HYPEREXP ℝ) (F : ℝ → ℝ → ℝ) (n : ℕ) :
    (List.range n).foldl (fun (h : ESL_HYPEREXP ℝ) k =>
        if (Num.eqb (h.q.getD k 0.0) (0.0) = true) then { h with wrk := h.wrk.set k (-Num.inf) }
        else { h with wrk := h.wrk.set k ((Num.log (h.q.getD k 0.0)) + F h.mu (h.lambda.getD k 0.0)) }) h =
      { h with wrk := (List.range n).foldl (fun w k => w.set k (entry h (F h.mu) k)) h.wrk } := by
  induction n with
  | zero => rfl
  | succ n ih =>
    rw [List.range_succ, List.foldl_append, List.foldl_append, ih]
    simp only [List.foldl_cons, List.foldl_nil, entry, hq, hl, num_eqb, num_log, lit_zero]
    split_ifs <;> rfl

theorem fold_set_length (v : ℕ → ℝ) (n : ℕ) (w : List ℝ) : ((List.range n).foldl (fun w k => w.set k (v k)) w).length = w.length := by
  induction n with
  | zero => rfl
  | succ n ih => rw [List.range_succ, List.foldl_append]; simp [ih]

theorem fold_set_getD (v : ℕ → ℝ) (w : List ℝ) : ∀ n, n ≤ w.length → ∀ i < n,
    ((List.range n).foldl (fun w k => w.set k (v k)) w).getD i 0 = v i := by
  intro n
  induction n with
  | zero => intro _ i hi; omega
  | succ n ih =>
    intro hn i hi
    rw [List.range_succ, List.foldl_append]
    simp only [List.foldl_cons, List.foldl_nil]
    have hlen := fold_set_length v n w
    rw [List.getD_eq_getElem?_getD, List.getElem?_set]
    by_cases hin : n = i
    · subst hin
      have : n < ((List.range n).foldl (fun w k => w.set k (v k)) w).length := by rw [hlen]; omega
      simp [this]
    · rw [if_neg hin, ← List.getD_eq_getElem?_getD]; exact ih (by omega) i (by omega)

theorem dlogsum_stored (w0 : List ℝ) (e t : ℕ → ℝ) {K : ℕ} (hK : 1 ≤ K) (hw : K ≤ w0.length)
    (hfin : ∀ k < K, e k ≠ (Num.inf : ℝ)) (ht : ∀ k < K, exp (e k) = t k) :
    Lost e K (esl_vec_DLogSum ((List.range K).foldl (fun w k => w.set k (e k)) w0) K) (log (∑ k ∈ range K, t k)) := by
  have hget := fold_set_getD e w0 K hw
  obtain ⟨⟨_, j, hj, hmax⟩, _⟩ := vec_dmax_dmin ((List.range K).foldl (fun w k => w.set k (e k)) w0) hK
  rw [hget j hj] at hmax
  have hb := (dlogsum_lost _ hK (by rw [hmax]; exact hfin j hj)).congr hget
  rwa [sum_congr rfl fun k hk => by rw [hget k (mem_range.mp hk), ht k (mem_range.mp hk)]] at hb

theorem hxp_lsum (h : ESL_HYPEREXP ℝ) (f g : ℝ → ℝ) (hK : 1 ≤ h.K) (hw : h.K ≤ h.wrk.length)
    (hpos : ∀ k < h.K, 0 < hq h k ∧ 0 < g (hl h k) ∧ f (hl h k) = log (g (hl h k)))
    (hfin : ∀ k < h.K, entry h f k ≠ (Num.inf : ℝ)) :
    Lost (entry h f) h.K
      (esl_vec_DLogSum ({ h with wrk := (List.range h.K).foldl (fun w k => w.set k (entry h f k)) h.wrk } : ESL_HYPEREXP ℝ).wrk h.K)
      (log (∑ k ∈ range h.K, hq h k * g (hl h k))) :=
  dlogsum_stored h.wrk (entry h f) (fun k => hq h k * g (hl h k)) hK hw hfin fun k hk => by
    obtain ⟨h1, h2, h3⟩ := hpos k hk
    rw [entry, if_neg h1.ne', h3, exp_add, exp_log h1, exp_log h2]

theorem exp_surv_comp {x μ l : ℝ} (hx : μ ≤ x) : 0 < esl_exp_surv x μ l ∧ esl_exp_logsurv x μ l = log (esl_exp_surv x μ l) := by
  rw [ExpThm.code_logsurv hx, ExpThm.code_surv]
  exact ⟨by unfold expSurv; rw [if_neg (not_lt.mpr hx)]; exact exp_pos _, rfl⟩

theorem exp_pdf_comp {x μ l : ℝ} (hx : μ ≤ x) (hl : 0 < l) (hfin : l ≠ (Num.inf : ℝ)) :
    0 < esl_exp_pdf x μ l ∧ esl_exp_logpdf x μ l = log (esl_exp_pdf x μ l) := by
  rw [ExpThm.code_logpdf hl hfin hx, ExpThm.code_pdf]
  exact ⟨by unfold expPdf; rw [if_neg (not_lt.mpr hx)]; exact mul_pos hl (exp_pos _), rfl⟩

theorem hxp_logsurv {h : ESL_HYPEREXP ℝ} {x : ℝ} (hx : h.mu ≤ x) (hK : 1 ≤ h.K) (hw : h.K ≤ h.wrk.length)
    (hpos : ∀ k < h.K, 0 < hq h k)
    (hfin : ∀ k < h.K, entry h (fun l => esl_exp_logsurv x h.mu l) k ≠ (Num.inf : ℝ)) :
    Lost (entry h fun l => esl_exp_logsurv x h.mu l) h.K (esl_hxp_logsurv x h) (log (esl_hxp_surv x h)) := by
  rw [hxp_surv_sum, if_neg (not_lt.mpr hx)]
  simp only [esl_hxp_logsurv]
  rw [if_neg (not_lt.mpr hx), fold_struct h (fun m l => esl_exp_logsurv x m l) h.K]
  exact hxp_lsum h _ (fun l => esl_exp_surv x h.mu l) hK hw (fun k hk => ⟨hpos k hk, exp_surv_comp hx⟩) hfin

theorem hxp_logpdf {h : ESL_HYPEREXP ℝ} {x : ℝ} (hx : h.mu ≤ x) (hK : 1 ≤ h.K) (hw : h.K ≤ h.wrk.length)
    (hpos : ∀ k < h.K, 0 < hq h k ∧ 0 < hl h k ∧ hl h k ≠ (Num.inf : ℝ))
    (hfin : ∀ k < h.K, entry h (fun l => esl_exp_logpdf x h.mu l) k ≠ (Num.inf : ℝ)) :
    Lost (entry h fun l => esl_exp_logpdf x h.mu l) h.K (esl_hxp_logpdf x h) (log (esl_hxp_pdf x h)) := by
  rw [hxp_pdf_sum, if_neg (not_lt.mpr hx)]
  simp only [esl_hxp_logpdf]
  rw [if_neg (not_lt.mpr hx), fold_struct h (fun m l => esl_exp_logpdf x m l) h.K]
  exact hxp_lsum h _ (fun l => esl_exp_pdf x h.mu l) hK hw
    (fun k hk => ⟨(hpos k hk).1, exp_pdf_comp hx (hpos k hk).2.1 (hpos k hk).2.2⟩) hfin

end EaselModel.Dist.MixLogGen

/-! `esl_hxp_logcdf` (TRANSLATED; the loop stores `log q_k + esl_exp_logcdf(x, μ, λ_k)`, `esl_vec_DLogSum` sums): within `1e-8`
    of the logarithm of the textbook mixture cdf (plus what `esl_vec_DLogSum` drops) — log-sum-exp is 1-Lipschitz in the sup norm, so the components'
    `1e-8` (their `eslSMALLX1` switches) is inherited, not accumulated. -/
namespace EaselModel.Dist.MixLogClose
open Real Finset EaselModel.Dist EaselModel.Dist.Gen EaselModel.Dist.Spec EaselModel.Dist.MixGen EaselModel.Dist.MixLogGen

theorem log_wsum_le (n : ℕ) (hn : 1 ≤ n) (q s t : ℕ → ℝ) (ε : ℝ) (hq : ∀ k < n, 0 < q k) (hs : ∀ k < n, 0 < s k)
    (ht : ∀ k < n, 0 < t k) (h : ∀ k < n, log (s k) ≤ ε + log (t k)) :
    log (∑ k ∈ range n, q k * s k) ≤ ε + log (∑ k ∈ range n, q k * t k) := by
  have hne : (range n).Nonempty := nonempty_range_iff.mpr (by omega)
  have hT : 0 < ∑ k ∈ range n, q k * t k := sum_pos (fun k hk => mul_pos (hq k (mem_range.mp hk)) (ht k (mem_range.mp hk))) hne
  have hS : 0 < ∑ k ∈ range n, q k * s k := sum_pos (fun k hk => mul_pos (hq k (mem_range.mp hk)) (hs k (mem_range.mp hk))) hne
  have hup : ∑ k ∈ range n, q k * s k ≤ exp ε * ∑ k ∈ range n, q k * t k := by
    rw [mul_sum]
    refine sum_le_sum fun k hk => ?_
    have hk' := mem_range.mp hk
    have h2 : s k ≤ exp ε * t k := by
      rw [← exp_log (hs k hk'), ← exp_log (ht k hk'), ← exp_add]; exact exp_le_exp.mpr (h k hk')
    calc q k * s k ≤ q k * (exp ε * t k) := mul_le_mul_of_nonneg_left h2 (hq k hk').le
      _ = exp ε * (q k * t k) := by ring
  have h1 := log_le_log hS hup
  rwa [log_mul (exp_pos _).ne' hT.ne', log_exp] at h1

theorem log_wsum_close (n : ℕ) (hn : 1 ≤ n) (q c t : ℕ → ℝ) (ε : ℝ) (hq : ∀ k < n, 0 < q k) (ht : ∀ k < n, 0 < t k)
    (hc : ∀ k < n, |c k - log (t k)| ≤ ε) :
    |log (∑ k ∈ range n, q k * exp (c k)) - log (∑ k ∈ range n, q k * t k)| ≤ ε := by
  have h1 := log_wsum_le n hn q (fun k => exp (c k)) t ε hq (fun _ _ => exp_pos _) ht fun k hk => by
    rw [log_exp]; linarith [(abs_le.mp (hc k hk)).2]
  have h2 := log_wsum_le n hn q t (fun k => exp (c k)) ε hq ht (fun _ _ => exp_pos _) fun k hk => by
    rw [log_exp]; linarith [(abs_le.mp (hc k hk)).1]
  rw [abs_le]; constructor <;> linarith

theorem log_wsum_logcdf_close {h : ESL_HYPEREXP ℝ} {x : ℝ} (hx : h.mu < x) (hK : 1 ≤ h.K)
    (hpos : ∀ k < h.K, 0 < hq h k ∧ 0 < hl h k) :
    |log (∑ k ∈ range h.K, hq h k * exp (esl_exp_logcdf x h.mu (hl h k))) - log (hxpCdf h x)| ≤ 1e-8 := by
  unfold hxpCdf
  refine log_wsum_close h.K hK (hq h) (fun k => esl_exp_logcdf x h.mu (hl h k)) (fun k => expCdf h.mu (hl h k) x) 1e-8
    (fun k hk => (hpos k hk).1) (fun k hk => ?_) (fun k hk => ExpThm.code_logcdf (hpos k hk).2 hx)
  unfold expCdf
  rw [if_neg (not_lt.mpr hx.le)]
  exact one_sub_exp_neg_pos (mul_pos (hpos k hk).2 (sub_pos.mpr hx))

theorem hxp_logcdf {h : ESL_HYPEREXP ℝ} {x : ℝ} (hx : h.mu < x) (hK : 1 ≤ h.K) (hw : h.K ≤ h.wrk.length)
    (hpos : ∀ k < h.K, 0 < hq h k ∧ 0 < hl h k)
    (hfin : ∀ k < h.K, entry h (fun l => esl_exp_logcdf x h.mu l) k ≠ (Num.inf : ℝ)) :
    |esl_hxp_logcdf x h - log (hxpCdf h x)| ≤ 1e-8 + ndrop (entry h fun l => esl_exp_logcdf x h.mu l) h.K * exp (-500) := by
  refine Lost.dist_le ?_ (log_wsum_logcdf_close hx hK hpos)
  simp only [esl_hxp_logcdf]
  rw [if_neg (not_lt.mpr hx.le), fold_struct h (fun m l => esl_exp_logcdf x m l) h.K]
  exact hxp_lsum h _ (fun l => exp (esl_exp_logcdf x h.mu l)) hK hw
    (fun k hk => ⟨(hpos k hk).1, exp_pos _, (log_exp _).symm⟩) hfin

end EaselModel.Dist.MixLogClose
