import EaselModel.Dist.SpecialFamThm
import EaselModel.Dist.IntegralThm
import Mathlib.Analysis.Real.Pi.Bounds
/-! The normal family with `erfc` interpreted as the complementary error function (`Dist/ErfcGauss.lean`):
    textbook `Φ(x) = ½ erfc(−(x−μ)/(σ√2))`, density `e^{−z²/2}/(σ√(2π))`; L2 laws, and L1: the translated
    `esl_normal_cdf`/`surv` ARE the textbook functions, `esl_normal_pdf` differs only by the decimal literal
    `eslCONST_PI` standing for `π`. -/
noncomputable section
namespace EaselModel.Dist.NormalThm
open Real Filter EaselModel.Dist EaselModel.Dist.Gen

def normalCdf (μ σ x : ℝ) : ℝ := ErfcGauss.erfc (-((x - μ) / σ / √2)) / 2
def normalSurv (μ σ x : ℝ) : ℝ := ErfcGauss.erfc ((x - μ) / σ / √2) / 2
def normalPdf (μ σ x : ℝ) : ℝ := exp (-((x - μ) / σ) ^ 2 / 2) / (σ * √(2 * π))

theorem sqrt2_pos : (0 : ℝ) < √2 := sqrt_pos.mpr two_pos

theorem normalCdf_add_surv (μ σ x : ℝ) : normalCdf μ σ x + normalSurv μ σ x = 1 := by
  unfold normalCdf normalSurv; rw [ErfcGauss.erfc_neg]; ring

theorem normalCdf_mono {μ σ : ℝ} (hσ : 0 < σ) : Monotone (normalCdf μ σ) := by
  intro a b hab
  unfold normalCdf
  have h1 : (a - μ) / σ / √2 ≤ (b - μ) / σ / √2 :=
    div_le_div_of_nonneg_right (div_le_div_of_nonneg_right (by linarith) hσ.le) sqrt2_pos.le
  have := ErfcGauss.erfc_antitone (neg_le_neg h1)
  linarith

theorem arg_tendsto_atTop {μ σ : ℝ} (hσ : 0 < σ) : Tendsto (fun x : ℝ => (x - μ) / σ / √2) atTop atTop := by
  have h : Tendsto (fun x : ℝ => x - μ) atTop atTop := tendsto_atTop_add_const_right _ _ tendsto_id
  exact (h.atTop_div_const hσ).atTop_div_const sqrt2_pos

theorem arg_tendsto_atBot {μ σ : ℝ} (hσ : 0 < σ) : Tendsto (fun x : ℝ => (x - μ) / σ / √2) atBot atBot := by
  have h : Tendsto (fun x : ℝ => x - μ) atBot atBot := tendsto_atBot_add_const_right _ _ tendsto_id
  exact (h.atBot_div_const hσ).atBot_div_const sqrt2_pos

theorem normalCdf_tendsto_one {μ σ : ℝ} (hσ : 0 < σ) : Tendsto (normalCdf μ σ) atTop (nhds 1) := by
  have h := (ErfcGauss.erfc_tendsto_atBot.comp (tendsto_neg_atTop_atBot.comp (arg_tendsto_atTop (μ := μ) hσ))).div_const 2
  have e : normalCdf μ σ = fun a => ErfcGauss.erfc (-((a - μ) / σ / √2)) / 2 := rfl
  rw [e]; simpa [Function.comp] using h

theorem normalCdf_tendsto_zero {μ σ : ℝ} (hσ : 0 < σ) : Tendsto (normalCdf μ σ) atBot (nhds 0) := by
  have h := (ErfcGauss.erfc_tendsto_atTop.comp (tendsto_neg_atBot_atTop.comp (arg_tendsto_atBot (μ := μ) hσ))).div_const 2
  have e : normalCdf μ σ = fun a => ErfcGauss.erfc (-((a - μ) / σ / √2)) / 2 := rfl
  rw [e]; simpa [Function.comp] using h

theorem normalCdf_range (μ σ x : ℝ) : 0 ≤ normalCdf μ σ x ∧ normalCdf μ σ x ≤ 1 := by
  have h1 : 0 ≤ normalCdf μ σ x := div_nonneg (ErfcGauss.erfc_nonneg _) zero_le_two
  have h2 : 0 ≤ normalSurv μ σ x := div_nonneg (ErfcGauss.erfc_nonneg _) zero_le_two
  have := normalCdf_add_surv μ σ x
  exact ⟨h1, by linarith⟩

theorem normalCdf_hasDerivAt {μ σ : ℝ} (hσ : σ ≠ 0) (x : ℝ) : HasDerivAt (normalCdf μ σ) (normalPdf μ σ x) x := by
  have h0 := ((((hasDerivAt_id x).sub_const μ).div_const σ).div_const (√2)).neg
  have h1 := ((ErfcGauss.erfc_hasDerivAt (-((x - μ) / σ / √2))).comp x h0).div_const 2
  have e : normalPdf μ σ x = -(2 / √π) * ErfcGauss.gauss (-((x - μ) / σ / √2)) * -(1 / σ / √2) / 2 := by
    unfold normalPdf ErfcGauss.gauss
    have hs2 : √2 ≠ 0 := ne_of_gt sqrt2_pos
    have hsp : √π ≠ 0 := ne_of_gt ErfcGauss.sqrt_pi_pos
    have e1 : √(2 * π) = √2 * √π := Real.sqrt_mul zero_le_two π
    have e2 : -(-((x - μ) / σ / √2)) ^ 2 = -((x - μ) / σ) ^ 2 / 2 := by
      rw [neg_sq, div_pow, Real.sq_sqrt zero_le_two]; ring
    rw [e1, e2]
    field_simp
  rw [e]; exact h1

theorem normalPdf_nonneg {μ σ : ℝ} (hσ : 0 ≤ σ) (x : ℝ) : 0 ≤ normalPdf μ σ x :=
  div_nonneg (exp_pos _).le (mul_nonneg hσ (Real.sqrt_nonneg _))

theorem normal_integral_pdf {μ σ a b : ℝ} (hσ : 0 < σ) (hab : a ≤ b) :
    ∫ x in a..b, normalPdf μ σ x = normalCdf μ σ b - normalCdf μ σ a :=
  IntegralThm.ftc_of_nonneg hab (fun x _ => normalCdf_hasDerivAt (ne_of_gt hσ) x) fun x _ => normalPdf_nonneg hσ.le x

theorem code_cdf (x μ σ : ℝ) : esl_normal_cdf x μ σ = normalCdf μ σ x := by
  unfold esl_normal_cdf normalCdf
  simp only [num_erfc, num_sqrt, lit_one, lit_two]
  have e : -1 * ((x - μ) / σ) / √2 = -((x - μ) / σ / √2) := by ring
  rw [e]; norm_num; ring

theorem code_surv (x μ σ : ℝ) : esl_normal_surv x μ σ = normalSurv μ σ x := by
  unfold esl_normal_surv normalSurv
  simp only [num_erfc, num_sqrt, lit_two]
  norm_num; ring

/-- the decimal literal `eslCONST_PI` is within `1e-20` of `π` -/
theorem pi_literal : |(3.14159265358979323846264338328 : ℝ) - π| ≤ 1e-20 := by
  have h1 := Real.pi_gt_d20
  have h2 := Real.pi_lt_d20
  rw [abs_le]; constructor <;> norm_num at h1 h2 ⊢ <;> linarith

theorem code_pdf (x μ σ : ℝ) :
    esl_normal_pdf x μ σ * √(2 * 3.14159265358979323846264338328) = normalPdf μ σ x * √(2 * π) := by
  unfold esl_normal_pdf normalPdf
  simp only [num_exp, num_sqrt, lit_two]
  have h1 : (0 : ℝ) < √(2 * 3.14159265358979323846264338328) := sqrt_pos.mpr (by norm_num)
  have h2 : (0 : ℝ) < √(2 * π) := sqrt_pos.mpr (by positivity)
  have e : -((x - μ) / σ) * ((x - μ) / σ) * 0.5 = -((x - μ) / σ) ^ 2 / 2 := by ring
  rw [e]
  by_cases hσ : σ = 0
  · subst hσ; simp
  · field_simp

/-! ## log-normal: `X = e^N`, cdf `Φ((ln x − μ)/σ)` on `x > 0` (the C library has only its density) -/

def lognormalCdf (μ σ x : ℝ) : ℝ := normalCdf μ σ (log x)
def lognormalPdf (μ σ x : ℝ) : ℝ := normalPdf μ σ (log x) / x

theorem lognormalCdf_hasDerivAt {μ σ x : ℝ} (hσ : σ ≠ 0) (hx : 0 < x) :
    HasDerivAt (lognormalCdf μ σ) (lognormalPdf μ σ x) x := by
  have h := (normalCdf_hasDerivAt (μ := μ) hσ (log x)).comp x (Real.hasDerivAt_log (ne_of_gt hx))
  have e : lognormalPdf μ σ x = normalPdf μ σ (log x) * x⁻¹ := by unfold lognormalPdf; rw [div_eq_mul_inv]
  rw [e]; exact h

theorem lognormalCdf_mono_on {μ σ : ℝ} (hσ : 0 < σ) : MonotoneOn (lognormalCdf μ σ) (Set.Ioi 0) := by
  intro a ha b _ hab
  exact normalCdf_mono hσ (Real.log_le_log ha hab)

theorem lognormal_integral_pdf {μ σ a b : ℝ} (hσ : 0 < σ) (ha : 0 < a) (hab : a ≤ b) :
    ∫ x in a..b, lognormalPdf μ σ x = lognormalCdf μ σ b - lognormalCdf μ σ a :=
  IntegralThm.ftc_of_nonneg hab (fun x hx => lognormalCdf_hasDerivAt (ne_of_gt hσ) (lt_of_lt_of_le ha hx.1))
    fun x hx => div_nonneg (normalPdf_nonneg hσ.le _) (le_trans ha.le hx.1)

theorem code_lognormal_pdf {x μ σ : ℝ} (hx : 0 < x) :
    esl_lognormal_pdf x μ σ * √(2 * 3.14159265358979323846264338328) = lognormalPdf μ σ x * √(2 * π) := by
  have e : esl_lognormal_pdf x μ σ = esl_normal_pdf (log x) μ σ / x := by
    unfold esl_lognormal_pdf esl_normal_pdf
    simp only [num_log, num_eqb, lit_zero]
    rw [if_neg hx.ne', div_div]; congr 1; ring
  rw [e, lognormalPdf, div_mul_eq_mul_div, code_pdf, mul_div_right_comm]

end EaselModel.Dist.NormalThm
