import EaselModel.Dist.RealInst
import EaselModel.Dist.Spec
import EaselModel.Dist.Lemmas
import EaselModel.Generated.Dist
import Mathlib.Analysis.SpecialFunctions.Log.Deriv
import Mathlib.Tactic.Ring
import Mathlib.Tactic.FieldSimp
/-! Generalised extreme value distribution: L2 and L1 of the translated `esl_gev_*` at `ℝ`, outside the
    `|α y| < 1e-12` Gumbel branch (inside it the code IS the Gumbel code, see `gumbel_branch_*`). -/
noncomputable section
namespace EaselModel.Dist.GevThm
open Real EaselModel.Dist EaselModel.Dist.Gen EaselModel.Dist.Spec

/-- below/above the support the side is decided equally by `x < μ` (code) and by the sign of `α` (textbook) -/
theorem side_iff {μ l α x : ℝ} (hl : 0 < l) (h : gevArg μ l α x ≤ 0) : x < μ ↔ 0 < α := by
  unfold gevArg at h
  constructor
  · intro hx
    by_contra hα
    have h1 : l * (x - μ) < 0 := mul_neg_of_pos_of_neg hl (by linarith)
    have : 0 ≤ α * (l * (x - μ)) := mul_nonneg_of_nonpos_of_nonpos (not_lt.mp hα) h1.le
    linarith
  · intro hα
    by_contra hx
    have h1 : 0 ≤ l * (x - μ) := mul_nonneg hl.le (by linarith)
    have : 0 ≤ α * (l * (x - μ)) := mul_nonneg hα.le h1
    linarith

theorem gevCdf_add_gevSurv (μ l α x : ℝ) : gevCdf μ l α x + gevSurv μ l α x = 1 := by unfold gevSurv; ring

theorem gevInvCdf_gevCdf {μ l α x : ℝ} (hl : l ≠ 0) (hα : α ≠ 0) (hx : 0 < gevArg μ l α x) :
    gevInvCdf μ l α (gevCdf μ l α x) = x := by
  unfold gevInvCdf gevCdf
  rw [if_neg (not_le.mpr hx), log_exp, neg_neg, log_exp]
  have e : -α * -(log (gevArg μ l α x) / α) = log (gevArg μ l α x) := by field_simp
  rw [e, exp_log hx]
  unfold gevArg; field_simp; ring

theorem gevCdf_nonneg (μ l α x : ℝ) : 0 ≤ gevCdf μ l α x := by
  unfold gevCdf; split_ifs <;> first | exact le_refl _ | exact zero_le_one | exact (exp_pos _).le

theorem gevCdf_le_one (μ l α x : ℝ) : gevCdf μ l α x ≤ 1 := by
  unfold gevCdf; split_ifs
  · exact zero_le_one
  · exact le_refl _
  · rw [exp_le_one_iff]; have := exp_pos (-(log (gevArg μ l α x) / α)); linarith

theorem gevCdf_pos_in {μ l α x : ℝ} (h : 0 < gevArg μ l α x) : 0 < gevCdf μ l α x := by
  unfold gevCdf; rw [if_neg (not_le.mpr h)]; exact exp_pos _
theorem gevPdf_pos_in {μ l α x : ℝ} (hl : 0 < l) (h : 0 < gevArg μ l α x) : 0 < gevPdf μ l α x := by
  unfold gevPdf; rw [if_neg (not_le.mpr h)]; exact mul_pos hl (exp_pos _)
theorem gevSurv_pos_in {μ l α x : ℝ} (h : 0 < gevArg μ l α x) : 0 < gevSurv μ l α x := by
  unfold gevSurv gevCdf; rw [if_neg (not_le.mpr h)]
  have : exp (-exp (-(log (gevArg μ l α x) / α))) < 1 := by rw [exp_lt_one_iff]; have := exp_pos (-(log (gevArg μ l α x) / α)); linarith
  linarith

theorem gevCdf_le_of_exponent_le {μ l α a b : ℝ} (ha : 0 < gevArg μ l α a) (hb : 0 < gevArg μ l α b)
    (h : log (gevArg μ l α a) / α ≤ log (gevArg μ l α b) / α) : gevCdf μ l α a ≤ gevCdf μ l α b := by
  unfold gevCdf
  rw [if_neg (not_le.mpr ha), if_neg (not_le.mpr hb)]
  exact exp_le_exp.mpr (neg_le_neg (exp_le_exp.mpr (neg_le_neg h)))

theorem gevCdf_mono {μ l α : ℝ} (hl : 0 < l) (hα : α ≠ 0) : Monotone (gevCdf μ l α) := by
  intro a b hab
  have hlin : l * (a - μ) ≤ l * (b - μ) := mul_le_mul_of_nonneg_left (by linarith) hl.le
  rcases lt_or_gt_of_ne hα with hneg | hpos
  · -- α < 0: the argument 1 + α y decreases; right of the support the cdf is 1
    have harg : gevArg μ l α b ≤ gevArg μ l α a := by
      unfold gevArg; have := mul_le_mul_of_nonpos_left hlin hneg.le; linarith
    by_cases hb : gevArg μ l α b ≤ 0
    · have : gevCdf μ l α b = 1 := by unfold gevCdf; rw [if_pos hb, if_neg (not_lt.mpr hneg.le)]
      rw [this]; exact gevCdf_le_one μ l α a
    · have hb' : 0 < gevArg μ l α b := not_le.mp hb
      exact gevCdf_le_of_exponent_le (hb'.trans_le harg) hb' (div_le_div_of_nonpos_of_le hneg.le (log_le_log hb' harg))
  · -- α > 0: the argument increases; left of the support the cdf is 0
    have harg : gevArg μ l α a ≤ gevArg μ l α b := by
      unfold gevArg; have := mul_le_mul_of_nonneg_left hlin hpos.le; linarith
    by_cases ha : gevArg μ l α a ≤ 0
    · have : gevCdf μ l α a = 0 := by unfold gevCdf; rw [if_pos ha, if_pos hpos]
      rw [this]; exact gevCdf_nonneg μ l α b
    · have ha' : 0 < gevArg μ l α a := not_le.mp ha
      exact gevCdf_le_of_exponent_le ha' (ha'.trans_le harg) (div_le_div_of_nonneg_right (log_le_log ha' harg) hpos.le)

theorem gevCdf_hasDerivAt {μ l α x : ℝ} (hα : α ≠ 0) (hx : 0 < gevArg μ l α x) :
    HasDerivAt (gevCdf μ l α) (gevPdf μ l α x) x := by
  have hx' : 0 < 1 + α * (l * (x - μ)) := hx
  have h0 : HasDerivAt (fun z : ℝ => 1 + α * (l * (z - μ))) (α * l) x := by
    simpa using ((((hasDerivAt_id x).sub_const μ).const_mul l).const_mul α).const_add 1
  have h4 := ((h0.log hx'.ne').div_const α).neg.exp.neg.exp
  simp only [Pi.neg_apply] at h4
  have hev : gevCdf μ l α =ᶠ[nhds x] fun z => exp (-exp (-(log (1 + α * (l * (z - μ))) / α))) := by
    filter_upwards [h0.continuousAt.eventually (lt_mem_nhds hx')] with z hz
    simp [gevCdf, gevArg, not_le.mpr hz]
  refine (h4.congr_of_eventuallyEq hev).congr_deriv ?_
  -- the density, with `e^{-(1+1/α) L} = e^{-L} e^{-L/α}` and `e^{-L} = 1/(1+αy)`, `L = log(1+αy)`
  unfold gevPdf
  rw [if_neg (not_le.mpr hx), show gevArg μ l α x = 1 + α * (l * (x - μ)) from rfl]
  have e1 : -(1 + 1 / α) * log (1 + α * (l * (x - μ))) - exp (-(log (1 + α * (l * (x - μ))) / α)) =
      -log (1 + α * (l * (x - μ))) + (-(log (1 + α * (l * (x - μ))) / α) + -exp (-(log (1 + α * (l * (x - μ))) / α))) := by
    field_simp; ring
  rw [e1, exp_add, exp_add, exp_neg (log _), exp_log hx']
  field_simp

section
variable {x μ l α : ℝ}

theorem code_cdf (hl : 0 < l) (hg : ¬ |l * (x - μ) * α| < 1e-12) : esl_gev_cdf x μ l α = gevCdf μ l α x := by
  unfold esl_gev_cdf gevCdf
  simp only [num_exp, num_log, num_log1p, num_expm1, num_fabs, lit_one, lit_zero]
  rw [if_neg (by norm_num at hg ⊢; exact hg)]
  by_cases h : gevArg μ l α x ≤ 0
  · have h' : 1 + α * (l * (x - μ)) ≤ 0 := h
    rw [if_pos h', if_pos h]
    by_cases hx : x < μ
    · rw [if_pos hx, if_pos ((side_iff hl h).mp hx)]
    · rw [if_neg hx, if_neg (fun hα => hx ((side_iff hl h).mpr hα))]
  · have h' : ¬ 1 + α * (l * (x - μ)) ≤ 0 := h
    rw [if_neg h', if_neg h]
    unfold gevArg; rw [neg_div]

theorem code_logcdf (hg : ¬ |l * (x - μ) * α| < 1e-12) (hx : 0 < gevArg μ l α x) :
    esl_gev_logcdf x μ l α = log (gevCdf μ l α x) := by
  unfold esl_gev_logcdf gevCdf
  simp only [num_exp, num_log, num_log1p, num_expm1, num_fabs, lit_one, lit_zero]
  rw [if_neg (by norm_num at hg ⊢; exact hg)]
  have h' : ¬ 1 + α * (l * (x - μ)) ≤ 0 := not_le.mpr hx
  rw [if_neg h', if_neg (not_le.mpr hx), log_exp]
  unfold gevArg; rw [neg_div]

theorem code_pdf (hg : ¬ |l * (x - μ) * α| < 1e-12) : esl_gev_pdf x μ l α = gevPdf μ l α x := by
  unfold esl_gev_pdf gevPdf
  simp only [num_exp, num_log, num_log1p, num_expm1, num_fabs, lit_one, lit_zero]
  rw [if_neg (by norm_num at hg ⊢; exact hg)]
  by_cases h : gevArg μ l α x ≤ 0
  · have h' : 1 + α * (l * (x - μ)) ≤ 0 := h
    rw [if_pos h', if_pos h]
  · have h' : ¬ 1 + α * (l * (x - μ)) ≤ 0 := h
    rw [if_neg h', if_neg h]
    unfold gevArg; rw [neg_div]

theorem code_logpdf (hl : 0 < l) (hg : ¬ |l * (x - μ) * α| < 1e-12) (hx : 0 < gevArg μ l α x) :
    esl_gev_logpdf x μ l α = log (gevPdf μ l α x) := by
  unfold esl_gev_logpdf gevPdf
  simp only [num_exp, num_log, num_log1p, num_expm1, num_fabs, lit_one, lit_zero]
  rw [if_neg (by norm_num at hg ⊢; exact hg)]
  have h' : ¬ 1 + α * (l * (x - μ)) ≤ 0 := not_le.mpr hx
  rw [if_neg h', if_neg (not_le.mpr hx), log_mul (ne_of_gt hl) (exp_ne_zero _), log_exp]
  unfold gevArg; rw [neg_div]; ring

/-- `e^{2.9} ≥ 17` and `e^{-17} ≤ 5e-8`: numbers behind the `lya1 < -2.9` switch of `esl_gev_logsurv` -/
theorem exp_29_ge : (17 : ℝ) ≤ exp 2.9 := by
  have h2 : (1 : ℝ) + 0.29 + 0.29 ^ 2 / 2 ≤ exp 0.29 := Real.quadratic_le_exp_of_nonneg (by norm_num)
  have h3 : ((1 : ℝ) + 0.29 + 0.29 ^ 2 / 2) ^ 10 ≤ exp 0.29 ^ 10 := pow_le_pow_left₀ (by norm_num) h2 10
  have h4 : exp 0.29 ^ 10 = exp 2.9 := by rw [← exp_nat_mul]; norm_num
  rw [← h4]; refine le_trans ?_ h3; norm_num

theorem exp_neg_17_le : exp (-17 : ℝ) ≤ 5e-8 := by
  have h2 : (1 : ℝ) + 0.17 + 0.17 ^ 2 / 2 ≤ exp 0.17 := Real.quadratic_le_exp_of_nonneg (by norm_num)
  have h3 : ((1 : ℝ) + 0.17 + 0.17 ^ 2 / 2) ^ 100 ≤ exp 0.17 ^ 100 := pow_le_pow_left₀ (by norm_num) h2 100
  have h4 : exp 0.17 ^ 100 = exp 17 := by rw [← exp_nat_mul]; norm_num
  have h5 : (2e7 : ℝ) ≤ exp 17 := by rw [← h4]; refine le_trans ?_ h3; norm_num
  rw [exp_neg, inv_le_comm₀ (exp_pos _) (by norm_num)]
  refine le_trans ?_ h5; norm_num

/-- beyond the switch point `-0.5 log(DBL_EPSILON)` of `esl_gev_surv` and `esl_gev_logsurv`, `t = e^{-s}` satisfies
    `t² < DBL_EPSILON`, so `t < 1.5e-8` -/
theorem beyond_switch {s : ℝ} (h : -0.5 * log 2.2204460492503131e-16 < s) : exp (-s) < 1.5e-8 := by
  have hε : (0 : ℝ) < 2.2204460492503131e-16 := by norm_num
  have hsq : exp (-s) ^ 2 < 2.2204460492503131e-16 := by
    rw [sq, ← exp_add, ← exp_log hε]; exact exp_lt_exp.mpr (by linarith)
  exact lt_of_pow_lt_pow_left₀ 2 (by norm_num) (hsq.trans (by norm_num))

theorem below_switch {s : ℝ} (h : s < -2.9) : exp (-exp (-s)) ≤ 5e-8 :=
  (exp_le_exp.mpr (neg_le_neg (exp_29_ge.trans (exp_le_exp.mpr (by linarith))))).trans exp_neg_17_le

/-- The survival switch of `esl_gev_surv`, the same in its Gumbel and GEV branches, as a function of the exponent `s`
    (`y`, resp. `log(1+αy)/α`): beyond the switch it returns `e^{-s}` for `1 - exp(-e^{-s})`. -/
theorem surv_switch (s : ℝ) :
    |(if -0.5 * log 2.2204460492503131e-16 < s then exp (-s) else 1 - exp (-exp (-s))) - (1 - exp (-exp (-s)))|
      ≤ 2.3e-16 :=
  (one_sub_exp_neg_switch (ε := 1.5e-8) (by norm_num)
    fun h => by rw [abs_of_pos (exp_pos _)]; exact (beyond_switch h).le).trans (by norm_num)

/-- The three-way switch of `esl_gev_logsurv`, the same in its Gumbel and GEV branches, as a function of the exponent `s`:
    `-s` beyond `-½ log DBL_EPSILON`; `-exp(-e^{-s})` below `-2.9`; the plain formula between. -/
theorem logsurv_switch (s : ℝ) :
    |(if -0.5 * log 2.2204460492503131e-16 < s then -s else if s < -2.9 then -exp (-exp (-s))
        else log (1 - exp (-exp (-s)))) - log (1 - exp (-exp (-s)))| ≤ 3e-8 :=
  log_one_sub_exp_neg_switch (ε₁ := 1.5e-8) (ε₂ := 5e-8) (exp_pos _) (log_exp _) (fun h => (beyond_switch h).le) below_switch
    (by norm_num) (by norm_num) (by norm_num) (by norm_num)

theorem code_surv (hl : 0 < l) (hg : ¬ |l * (x - μ) * α| < 1e-12) : |esl_gev_surv x μ l α - gevSurv μ l α x| ≤ 2.3e-16 := by
  unfold esl_gev_surv gevSurv gevCdf
  simp only [num_exp, num_log, num_log1p, num_expm1, num_fabs, lit_one, lit_zero]
  rw [if_neg (by norm_num at hg ⊢; exact hg)]
  by_cases h : gevArg μ l α x ≤ 0
  · have h' : 1 + α * (l * (x - μ)) ≤ 0 := h
    rw [if_pos h', if_pos h]
    by_cases hx : x < μ
    · rw [if_pos hx, if_pos ((side_iff hl h).mp hx)]; norm_num
    · rw [if_neg hx, if_neg (fun hα => hx ((side_iff hl h).mpr hα))]; norm_num
  · have h' : ¬ 1 + α * (l * (x - μ)) ≤ 0 := h
    rw [if_neg h', if_neg h]
    exact surv_switch _

theorem code_logsurv (hg : ¬ |l * (x - μ) * α| < 1e-12) (hx : 0 < gevArg μ l α x) :
    |esl_gev_logsurv x μ l α - log (gevSurv μ l α x)| ≤ 3e-8 := by
  unfold esl_gev_logsurv gevSurv gevCdf
  simp only [num_exp, num_log, num_log1p, num_fabs, lit_one, lit_zero]
  rw [if_neg (by norm_num at hg ⊢; exact hg)]
  have h' : ¬ 1 + α * (l * (x - μ)) ≤ 0 := not_le.mpr hx
  rw [if_neg h', if_neg (not_le.mpr hx)]
  exact logsurv_switch _

theorem code_invcdf {p : ℝ} (hα : ¬ |α| < 1e-12) : esl_gev_invcdf p μ l α = gevInvCdf μ l α p := by
  unfold esl_gev_invcdf gevInvCdf
  simp only [num_exp, num_log, num_expm1, num_fabs, lit_one]
  rw [if_neg (by norm_num at hα ⊢; exact hα)]

end

theorem gumbel_branch_cdf {x μ l α : ℝ} (hg : |l * (x - μ) * α| < 1e-12) : esl_gev_cdf x μ l α = esl_gumbel_cdf x μ l := by
  unfold esl_gev_cdf esl_gumbel_cdf
  simp only [num_exp, num_fabs]
  rw [if_pos (by norm_num at hg ⊢; exact hg)]

theorem gumbel_branch_logcdf {x μ l α : ℝ} (hg : |l * (x - μ) * α| < 1e-12) : esl_gev_logcdf x μ l α = esl_gumbel_logcdf x μ l := by
  unfold esl_gev_logcdf esl_gumbel_logcdf
  simp only [num_exp, num_fabs]
  rw [if_pos (by norm_num at hg ⊢; exact hg)]

theorem gumbel_branch_pdf {x μ l α : ℝ} (hg : |l * (x - μ) * α| < 1e-12) : esl_gev_pdf x μ l α = esl_gumbel_pdf x μ l := by
  unfold esl_gev_pdf esl_gumbel_pdf
  simp only [num_exp, num_fabs]
  rw [if_pos (by norm_num at hg ⊢; exact hg)]

theorem gumbel_branch_logpdf {x μ l α : ℝ} (hg : |l * (x - μ) * α| < 1e-12) : esl_gev_logpdf x μ l α = esl_gumbel_logpdf x μ l := by
  unfold esl_gev_logpdf esl_gumbel_logpdf
  simp only [num_exp, num_log, num_fabs]
  rw [if_pos (by norm_num at hg ⊢; exact hg)]

theorem gumbel_branch_surv {x μ l α : ℝ} (hg : |l * (x - μ) * α| < 1e-12) :
    |esl_gev_surv x μ l α - gumbelSurv μ l x| ≤ 2.3e-16 := by
  unfold esl_gev_surv gumbelSurv gumbelCdf
  simp only [num_exp, num_log, num_fabs, lit_one]
  rw [if_pos (by norm_num at hg ⊢; exact hg)]
  exact surv_switch _

theorem gumbel_branch_logsurv {x μ l α : ℝ} (hg : |l * (x - μ) * α| < 1e-12) :
    |esl_gev_logsurv x μ l α - log (gumbelSurv μ l x)| ≤ 3e-8 := by
  unfold esl_gev_logsurv gumbelSurv gumbelCdf
  simp only [num_exp, num_log, num_fabs, lit_one]
  rw [if_pos (by norm_num at hg ⊢; exact hg)]
  exact logsurv_switch _

theorem gumbel_branch_arg_pos {x μ l α : ℝ} (hg : |l * (x - μ) * α| < 1e-12) : 0 < gevArg μ l α x := by
  have := (abs_lt.mp hg).1
  unfold gevArg; linarith

theorem gumbel_branch_exponent {y α : ℝ} (hα : α ≠ 0) (hg : |y * α| < 1e-12) :
    |log (1 + α * y) / α - y| ≤ 2e-12 * |y| := by
  have hu : |α * y| < 1e-12 := by rwa [mul_comm]
  have h := log_one_add_approx (u := α * y) (by linarith)
  have e : log (1 + α * y) / α - y = (log (1 + α * y) - α * y) / α := by rw [sub_div, mul_div_cancel_left₀ y hα]
  rw [e, abs_div, div_le_iff₀ (abs_pos.mpr hα)]
  -- `2 (αy)² = 2 |αy| |y| |α|`
  have h2 : 2 * (α * y) ^ 2 = 2 * |α * y| * (|y| * |α|) := by rw [← sq_abs, abs_mul]; ring
  have h3 := mul_le_mul_of_nonneg_right hu.le (mul_nonneg (abs_nonneg y) (abs_nonneg α))
  linarith

theorem gumbel_branch_exp_dist {y α : ℝ} (hα : α ≠ 0) (hg : |y * α| < 1e-12) (hy : |y| ≤ 1e11) :
    |exp (-y) - exp (-(log (1 + α * y) / α))| ≤ 4e-12 * |y| * exp (-y) := by
  have hd := gumbel_branch_exponent hα hg
  have := abs_exp_neg_sub_exp_neg_le (y := y) (s := log (1 + α * y) / α) (by linarith)
  have := mul_le_mul_of_nonneg_right hd (exp_pos (-y)).le
  linarith

theorem gumbel_branch_logcdf_dist {x μ l α : ℝ} (hα : α ≠ 0) (hg : |l * (x - μ) * α| < 1e-12) (hy : |l * (x - μ)| ≤ 1e11) :
    |esl_gev_logcdf x μ l α - log (gevCdf μ l α x)| ≤ 4e-12 * |l * (x - μ)| * exp (-(l * (x - μ))) := by
  rw [gumbel_branch_logcdf hg]
  unfold esl_gumbel_logcdf gevCdf
  simp only [num_exp]
  rw [if_neg (not_le.mpr (gumbel_branch_arg_pos hg)), log_exp, neg_sub_neg, abs_sub_comm]
  exact gumbel_branch_exp_dist hα hg hy

theorem gumbel_branch_invcdf {p μ l α : ℝ} (hα : |α| < 1e-12) : esl_gev_invcdf p μ l α = esl_gumbel_invcdf p μ l := by
  unfold esl_gev_invcdf esl_gumbel_invcdf
  simp only [num_exp, num_log, num_fabs]
  rw [if_pos (by norm_num at hα ⊢; exact hα)]

end EaselModel.Dist.GevThm
