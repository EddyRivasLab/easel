import EaselModel.Dist.QuantileThm
import EaselModel.Dist.BisectGen
import EaselModel.Dist.Edge
import EaselModel.Dist.GamSxpThm
/-! The four TRANSLATED bracketing + bisection inverses (`esl_hxp_invcdf`, `esl_sxp_invcdf`, `esl_gam_invcdf`,
    `esl_mixgev_invcdf`, each with its own TRANSLATED cdf) as total functions over `ℝ` with an explicit fuel bound
    (`BisectTotal.fuelRight / fuelGam / fuelMix`), and the accuracy of the returned quantile relative to the TEXTBOOK cdf.

* hyperexponential: unconditional (`|esl_hxp_cdf − textbook| ≤ 2.5e-17·Σq` is proved);
* stretched exponential, gamma: conditional on ONE named special-function fact, `IncGammaPWithin a δ`
  (`esl_stats_IncompleteGamma`'s `P`, read over `ℝ`, is within `δ` of the regularised incomplete gamma integral on `y > 0`);
* GEV mixture: for its own cdf given two bracketing points (no edge hypothesis is needed there). -/
noncomputable section
namespace EaselModel.Dist.InvTotal
open Real EaselModel.Dist EaselModel.Dist.Gen EaselModel.Dist.Bisect EaselModel.Dist.BisectTotal EaselModel.Dist.MixGen
  EaselModel.Dist.GamSxpThm

theorem sxp_cdf_mu (μ l τ : ℝ) : esl_sxp_cdf μ μ l τ = 0 := by rw [Edge.sxp_cdf_below le_rfl, lit_zero]

theorem gam_cdf_mu (μ l τ : ℝ) : esl_gam_cdf μ μ l τ = 0 := by rw [Edge.gam_cdf_below (by simp), lit_zero]

/-- on ℝ the translated `esl_hxp_invcdf` (whose bracketing loop also tests `x2 < eslINFINITY` since 55bbf88) is the
    unguarded generic inverse: every real number is below +infinity -/
theorem hxp_invcdf_real (fuel : Nat) (p : ℝ) (h : ESL_HYPEREXP ℝ) :
    esl_hxp_invcdf fuel p h = invcdfRight fuel (fun x => esl_hxp_cdf x h) p h.mu :=
  (BisectGen.hxp_invcdf fuel p h).trans (BisectTerm.invcdfRightLim_real fuel _ p h.mu)

theorem sxp_invcdf_final {p μ l τ r : ℝ} {fuel : Nat} (hp : 0 ≤ p) (h : esl_sxp_invcdf fuel p μ l τ = some r) :
    ∃ x2, BisectTerm.Final (fun x => esl_sxp_cdf x μ l τ) p μ μ x2 r :=
  BisectTerm.invcdfRight_final ((sxp_cdf_mu μ l τ).trans_le hp) (BisectGen.sxp_invcdf fuel p μ l τ ▸ h)

theorem gam_invcdf_final {p μ l τ r : ℝ} {fuel : Nat} (hp : 0 ≤ p) (hlt : 0 ≤ τ / l) (h : esl_gam_invcdf fuel p μ l τ = some r) :
    ∃ x2, BisectTerm.Final (fun x => esl_gam_cdf x μ l τ) p μ μ x2 r :=
  BisectTerm.invcdfGam_final ((gam_cdf_mu μ l τ).trans_le hp) hlt (BisectGen.gam_invcdf fuel p μ l τ ▸ h)

theorem hxp_invcdf_final {p r : ℝ} {fuel : Nat} {h : ESL_HYPEREXP ℝ} (hp : 0 ≤ p) (hr : esl_hxp_invcdf fuel p h = some r) :
    ∃ x2, BisectTerm.Final (fun x => esl_hxp_cdf x h) p h.mu h.mu x2 r :=
  BisectTerm.invcdfRight_final ((hxp_cdf_at_mu h).trans_le hp) (hxp_invcdf_real fuel p h ▸ hr)

theorem mixgev_invcdf_final {p r : ℝ} {fuel : Nat} {mg : ESL_MIXGEV ℝ} (hr : esl_mixgev_invcdf fuel p mg = some r) :
    ∃ x1 x2, BisectTerm.FinalMix (fun x => esl_mixgev_cdf x mg) p x1 x2 r :=
  BisectTerm.invcdfMix_final (BisectGen.mixgev_invcdf fuel p mg ▸ hr)

/-- From "total, with `Result`" to the six-digit band: a reference `F` that is strictly increasing right of `μ` and takes
    every value in `(0, Q)` there has quantiles `d`, `q₋`, `q₊` of `(p−ε)/2`, `p − ε`, `p + ε`; an inverse that is total for the
    edge distance `d − μ` and the bracketing point `q₊` (`P` = what its totality theorem says about the fuel) returns an
    `r` with `q₋ − 1e-6 (r−μ) ≤ r ≤ q₊ + 1e-6 (r−μ)`. -/
theorem band_of_total {F : ℝ → ℝ} {μ p ε Q : ℝ} {P : ℝ → ℝ → ℝ → Prop} (hε : 0 ≤ ε) (hp0 : ε < p) (hp1 : p + ε < Q)
    (hquant : ∀ p', 0 < p' → p' < Q → ∃ q, μ < q ∧ F q = p') (hstrict : ∀ s t, μ ≤ s → s < t → F s < F t)
    (htotal : ∀ δ X, 0 < δ → F (μ + δ) < p - ε → p + ε ≤ F X → ∃ r, P δ X r ∧ Result F p μ ε r) :
    ∃ d qlo qhi r, (μ < d ∧ F d = (p - ε) / 2) ∧ (μ < qlo ∧ F qlo = p - ε) ∧ (μ < qhi ∧ F qhi = p + ε) ∧
      P (d - μ) qhi r ∧ qlo - 1e-6 * (r - μ) ≤ r ∧ r ≤ qhi + 1e-6 * (r - μ) ∧ μ ≤ r := by
  obtain ⟨d, hd, hFd⟩ := hquant ((p - ε) / 2) (by linarith) (by linarith)
  obtain ⟨qlo, hqlo, hFlo⟩ := hquant (p - ε) (by linarith) (by linarith)
  obtain ⟨qhi, hqhi, hFhi⟩ := hquant (p + ε) (by linarith) hp1
  obtain ⟨r, hr, hres⟩ := htotal (d - μ) qhi (by linarith) (by rw [add_sub_cancel, hFd]; linarith) hFhi.ge
  exact ⟨d, qlo, qhi, r, ⟨hd, hFd⟩, ⟨hqlo, hFlo⟩, ⟨hqhi, hFhi⟩, hr, result_band hres hstrict hqlo.le hFlo hqhi.le hFhi⟩

/-- the discrepancy bound of `hxp_code_eq_textbook` -/
def hxpEps (h : ESL_HYPEREXP ℝ) : ℝ := 2.5e-17 * hxpQ h

theorem hxp_invcdf_total {h : ESL_HYPEREXP ℝ} (ok : HxpOK h) (hsome : ∃ k < h.K, 0 < hq h k) {p : ℝ}
    (hp0 : hxpEps h < p) (hp1 : p + hxpEps h < hxpQ h) :
    ∃ d qlo qhi r, (h.mu < d ∧ hxpCdf h d = (p - hxpEps h) / 2) ∧ (h.mu < qlo ∧ hxpCdf h qlo = p - hxpEps h) ∧
      (h.mu < qhi ∧ hxpCdf h qhi = p + hxpEps h) ∧
      (∀ fuel, fuelRight (qhi - h.mu) (d - h.mu) ≤ fuel → esl_hxp_invcdf fuel p h = some r) ∧
      qlo - 1e-6 * (r - h.mu) ≤ r ∧ r ≤ qhi + 1e-6 * (r - h.mu) ∧ h.mu ≤ r := by
  have hε : 0 ≤ hxpEps h :=
    mul_nonneg (by norm_num) (Finset.sum_nonneg fun k hk => (ok k (Finset.mem_range.mp hk)).1)
  refine band_of_total (P := fun δ X r => ∀ fuel, fuelRight (X - h.mu) δ ≤ fuel → esl_hxp_invcdf fuel p h = some r)
    hε hp0 hp1 (HxpQuantile.hxp_edged ok hsome).quant (HxpQuantile.hxp_edged ok hsome).strict fun δ X hδ hlow hX => ?_
  obtain ⟨r, hr, hres⟩ := invcdfRight_total (cdf := fun x => esl_hxp_cdf x h) (fun x => (hxp_code_eq_textbook ok x).1)
    (hxp_textbook_laws ok).1 ((hxp_cdf_at_mu h).trans_le (hε.trans hp0.le)) hδ hlow hX
  exact ⟨r, fun fuel hf => by rw [hxp_invcdf_real]; exact hr fuel hf, hres⟩

/-- NAMED special-function hypothesis: the `P` that the algorithm of `esl_stats_IncompleteGamma` (hand model, read over `ℝ`)
    yields at shape `a` is within `δ` of the regularised lower incomplete gamma function (the integral `IncGammaInt.P`) for
    every argument `y > 0`. -/
def IncGammaPWithin (a δ : ℝ) : Prop := ∀ y, 0 < y → |Num.incGammaP a y - IncGammaInt.P a y| ≤ δ

theorem IncGammaPWithin.nonneg {a δ : ℝ} (h : IncGammaPWithin a δ) : 0 ≤ δ := (abs_nonneg _).trans (h 1 one_pos)

theorem gam_cdf_close {μ l τ δ : ℝ} (hl : 0 < l) (hτ : 0 < τ) (hIG : IncGammaPWithin τ δ) (x : ℝ) :
    |esl_gam_cdf x μ l τ - gamCdf μ l τ x| ≤ δ := by
  rcases le_or_gt x μ with hx | hx
  · have h0 : l * (x - μ) ≤ (0.0 : ℝ) := by
      have : l * (x - μ) ≤ 0 := mul_nonpos_of_nonneg_of_nonpos hl.le (by linarith)
      norm_num; exact this
    rw [Edge.gam_cdf_below h0, gamCdf, if_pos hx]; norm_num; exact hIG.nonneg
  · rw [(gam_code_vs_textbook hl hτ hx).2.1]; exact hIG _ (mul_pos hl (by linarith))

theorem sxp_cdf_close {μ l τ δ : ℝ} (hl : 0 < l) (hτ : 0 < τ) (hIG : IncGammaPWithin (1 / τ) δ) (x : ℝ) :
    |esl_sxp_cdf x μ l τ - sxpCdf μ l τ x| ≤ δ := by
  rcases le_or_gt x μ with hx | hx
  · rw [Edge.sxp_cdf_below hx, sxpCdf, if_pos hx]; norm_num; exact hIG.nonneg
  · rw [(sxp_code_vs_textbook hl hτ hx).2.1]; exact hIG _ (rpow_pos_of_pos (mul_pos hl (by linarith)) τ)

theorem sxp_invcdf_total {μ l τ p ε : ℝ} (hl : 0 < l) (hτ : 0 < τ) (hIG : IncGammaPWithin (1 / τ) ε) (hp0 : ε < p) (hp1 : p + ε < 1) :
    ∃ d qlo qhi r, (μ < d ∧ sxpCdf μ l τ d = (p - ε) / 2) ∧ (μ < qlo ∧ sxpCdf μ l τ qlo = p - ε) ∧
      (μ < qhi ∧ sxpCdf μ l τ qhi = p + ε) ∧
      (∀ fuel, fuelRight (qhi - μ) (d - μ) ≤ fuel → esl_sxp_invcdf fuel p μ l τ = some r) ∧
      qlo - 1e-6 * (r - μ) ≤ r ∧ r ≤ qhi + 1e-6 * (r - μ) ∧ μ ≤ r := by
  refine band_of_total (P := fun δ X r => ∀ fuel, fuelRight (X - μ) δ ≤ fuel → esl_sxp_invcdf fuel p μ l τ = some r)
    hIG.nonneg hp0 hp1 (QuantileThm.sxp_edged hl hτ).quant (QuantileThm.sxp_edged hl hτ).strict fun δ X hδ hlow hX => ?_
  obtain ⟨r, hr, hres⟩ := invcdfRight_total (cdf := fun x => esl_sxp_cdf x μ l τ) (sxp_cdf_close hl hτ hIG) (QuantileThm.sxp_edged hl hτ).mono
    ((sxp_cdf_mu μ l τ).trans_le (hIG.nonneg.trans hp0.le)) hδ hlow hX
  exact ⟨r, fun fuel hf => by rw [BisectGen.sxp_invcdf]; exact hr fuel hf, hres⟩

theorem gam_invcdf_total {μ l τ p ε : ℝ} (hl : 0 < l) (hτ : 0 < τ) (hIG : IncGammaPWithin τ ε) (hp0 : ε < p) (hp1 : p + ε < 1) :
    ∃ d qlo qhi r, (μ < d ∧ gamCdf μ l τ d = (p - ε) / 2) ∧ (μ < qlo ∧ gamCdf μ l τ qlo = p - ε) ∧
      (μ < qhi ∧ gamCdf μ l τ qhi = p + ε) ∧
      (∀ fuel, fuelGam (qhi - μ) (d - μ) (τ / l) ≤ fuel → esl_gam_invcdf fuel p μ l τ = some r) ∧
      qlo - 1e-6 * (r - μ) ≤ r ∧ r ≤ qhi + 1e-6 * (r - μ) ∧ μ ≤ r := by
  refine band_of_total (P := fun δ X r => ∀ fuel, fuelGam (X - μ) δ (τ / l) ≤ fuel → esl_gam_invcdf fuel p μ l τ = some r)
    hIG.nonneg hp0 hp1 (QuantileThm.gam_edged hl hτ).quant (QuantileThm.gam_edged hl hτ).strict fun δ X hδ hlow hX => ?_
  obtain ⟨r, hr, hres⟩ := invcdfGam_total (cdf := fun x => esl_gam_cdf x μ l τ) (gam_cdf_close hl hτ hIG) (QuantileThm.gam_edged hl hτ).mono
    ((gam_cdf_mu μ l τ).trans_le (hIG.nonneg.trans hp0.le)) (div_pos hτ hl) hδ
    hlow hX
  exact ⟨r, fun fuel hf => by rw [BisectGen.gam_invcdf]; exact hr fuel hf, hres⟩

theorem mixgev_invcdf_total (mg : ESL_MIXGEV ℝ) {p XL XR : ℝ} (hL : ∀ x, x ≤ XL → esl_mixgev_cdf x mg ≤ p)
    (hR : ∀ x, XR ≤ x → p ≤ esl_mixgev_cdf x mg) :
    ∃ r, (∀ fuel, fuelMix (esl_vec_DMin mg.mu mg.K - XL) (XR - esl_vec_DMin mg.mu mg.K) ≤ fuel → esl_mixgev_invcdf fuel p mg = some r) ∧
      ∃ a b, a ≤ b ∧ r = (a + b) / 2 ∧ esl_mixgev_cdf a mg ≤ p ∧ p ≤ esl_mixgev_cdf b mg ∧ b - a ≤ 1e-6 * ((|a| + |b|) + 1e-9) := by
  obtain ⟨r, hr, x1, x2, a, b, _, hab, _, hca, hcb, hrm, hw⟩ := invcdfMix_total (cdf := fun x => esl_mixgev_cdf x mg) (p := p)
    (m := esl_vec_DMin mg.mu mg.K) hL hR
  exact ⟨r, fun fuel hf => by rw [BisectGen.mixgev_invcdf]; exact hr fuel hf, a, b, hab, hrm, hca, hcb, hw⟩

end EaselModel.Dist.InvTotal
