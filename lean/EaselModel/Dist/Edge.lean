import EaselModel.Generated.Dist
/-! Support-edge behaviour of the translated code, for EVERY carrier (`Float` included, as far as its `<`, `≤` go):
    outside the support the density is `0`, the cdf `0` or `1`, the log versions `-inf`/`0` — exactly, by the
    branch the code takes.  Core Lean only. -/
set_option linter.unusedSectionVars false
namespace EaselModel.Dist.Edge
open EaselModel.Dist EaselModel.Dist.Gen
variable {α : Type} [Add α] [Sub α] [Mul α] [Div α] [Neg α] [OfScientific α] [LT α] [LE α]
  [DecidableLT α] [DecidableLE α] [Num α]

theorem exp_pdf_below {x mu l : α} (h : x < mu) : esl_exp_pdf x mu l = 0.0 := by simp [esl_exp_pdf, h]
theorem exp_logpdf_below {x mu l : α} (h : x < mu) : esl_exp_logpdf x mu l = -Num.inf := by simp [esl_exp_logpdf, h]
theorem exp_cdf_below {x mu l : α} (h : x < mu) : esl_exp_cdf x mu l = 0.0 := by simp [esl_exp_cdf, h]
theorem exp_logcdf_below {x mu l : α} (h : x < mu) : esl_exp_logcdf x mu l = -Num.inf := by simp [esl_exp_logcdf, h]
theorem exp_surv_below {x mu l : α} (h : x < mu) : esl_exp_surv x mu l = 1.0 := by simp [esl_exp_surv, h]
theorem exp_logsurv_below {x mu l : α} (h : x < mu) : esl_exp_logsurv x mu l = 0.0 := by simp [esl_exp_logsurv, h]

/-! Weibull: `x ≤ μ` for the distribution functions, `x < μ` for the density -/
theorem wei_pdf_below {x mu l t : α} (h : x < mu) : esl_wei_pdf x mu l t = 0.0 := by simp [esl_wei_pdf, h]
theorem wei_logpdf_below {x mu l t : α} (h : x < mu) : esl_wei_logpdf x mu l t = -Num.inf := by simp [esl_wei_logpdf, h]
theorem wei_cdf_below {x mu l t : α} (h : x ≤ mu) : esl_wei_cdf x mu l t = 0.0 := by simp [esl_wei_cdf, h]
theorem wei_logcdf_below {x mu l t : α} (h : x ≤ mu) : esl_wei_logcdf x mu l t = -Num.inf := by simp [esl_wei_logcdf, h]
theorem wei_surv_below {x mu l t : α} (h : x ≤ mu) : esl_wei_surv x mu l t = 1.0 := by simp [esl_wei_surv, h]
theorem wei_logsurv_below {x mu l t : α} (h : x ≤ mu) : esl_wei_logsurv x mu l t = 0.0 := by simp [esl_wei_logsurv, h]

/-! GEV: outside the Gumbel branch (`¬ |α y| < 1e-12`) with `1 + α y ≤ 0`: Fréchet side (`x < μ`) and Weibull side -/
section gev
variable {x mu l a : α}
local notation "y" => l * (x - mu)
theorem gev_pdf_out (hg : ¬ Num.fabs (y * a) < 1.0e-12) (h : 1.0 + a * y ≤ 0.0) : esl_gev_pdf x mu l a = 0.0 := by
  simp [esl_gev_pdf, hg, h]
theorem gev_logpdf_out (hg : ¬ Num.fabs (y * a) < 1.0e-12) (h : 1.0 + a * y ≤ 0.0) : esl_gev_logpdf x mu l a = -Num.inf := by
  simp [esl_gev_logpdf, hg, h]
theorem gev_cdf_frechet (hg : ¬ Num.fabs (y * a) < 1.0e-12) (h : 1.0 + a * y ≤ 0.0) (hx : x < mu) : esl_gev_cdf x mu l a = 0.0 := by
  simp [esl_gev_cdf, hg, h, hx]
theorem gev_cdf_weibull (hg : ¬ Num.fabs (y * a) < 1.0e-12) (h : 1.0 + a * y ≤ 0.0) (hx : ¬ x < mu) : esl_gev_cdf x mu l a = 1.0 := by
  simp [esl_gev_cdf, hg, h, hx]
theorem gev_logcdf_frechet (hg : ¬ Num.fabs (y * a) < 1.0e-12) (h : 1.0 + a * y ≤ 0.0) (hx : x < mu) : esl_gev_logcdf x mu l a = -Num.inf := by
  simp [esl_gev_logcdf, hg, h, hx]
theorem gev_logcdf_weibull (hg : ¬ Num.fabs (y * a) < 1.0e-12) (h : 1.0 + a * y ≤ 0.0) (hx : ¬ x < mu) : esl_gev_logcdf x mu l a = 0.0 := by
  simp [esl_gev_logcdf, hg, h, hx]
theorem gev_surv_frechet (hg : ¬ Num.fabs (y * a) < 1.0e-12) (h : 1.0 + a * y ≤ 0.0) (hx : x < mu) : esl_gev_surv x mu l a = 1.0 := by
  simp [esl_gev_surv, hg, h, hx]
theorem gev_surv_weibull (hg : ¬ Num.fabs (y * a) < 1.0e-12) (h : 1.0 + a * y ≤ 0.0) (hx : ¬ x < mu) : esl_gev_surv x mu l a = 0.0 := by
  simp [esl_gev_surv, hg, h, hx]
/-- the repaired defect (DESIGN §7 item 13): below a Fréchet lower bound `log surv = 0`, not `1` -/
theorem gev_logsurv_frechet (hg : ¬ Num.fabs (y * a) < 1.0e-12) (h : 1.0 + a * y ≤ 0.0) (hx : x < mu) : esl_gev_logsurv x mu l a = 0.0 := by
  simp [esl_gev_logsurv, hg, h, hx]
theorem gev_logsurv_weibull (hg : ¬ Num.fabs (y * a) < 1.0e-12) (h : 1.0 + a * y ≤ 0.0) (hx : ¬ x < mu) : esl_gev_logsurv x mu l a = -Num.inf := by
  simp [esl_gev_logsurv, hg, h, hx]
end gev

/-! gamma: outside `y = λ(x-μ) ≥ 0` (`esl_gam_logpdf` tests `y`, not `x`) -/
theorem gam_pdf_below {x mu l t : α} (h : l * (x - mu) < 0.0) : esl_gam_pdf x mu l t = 0.0 := by simp [esl_gam_pdf, h]
theorem gam_logpdf_below {x mu l t : α} (h : l * (x - mu) < 0.0) : esl_gam_logpdf x mu l t = -Num.inf := by simp [esl_gam_logpdf, h]
theorem gam_cdf_below {x mu l t : α} (h : l * (x - mu) ≤ 0.0) : esl_gam_cdf x mu l t = 0.0 := by simp [esl_gam_cdf, h]
theorem gam_logcdf_below {x mu l t : α} (h : l * (x - mu) ≤ 0.0) : esl_gam_logcdf x mu l t = -Num.inf := by simp [esl_gam_logcdf, h]
theorem gam_surv_below {x mu l t : α} (h : l * (x - mu) ≤ 0.0) : esl_gam_surv x mu l t = 1.0 := by simp [esl_gam_surv, h]
theorem gam_logsurv_below {x mu l t : α} (h : l * (x - mu) ≤ 0.0) : esl_gam_logsurv x mu l t = 0.0 := by simp [esl_gam_logsurv, h]

/-! stretched exponential: `x < μ` for the density, `x ≤ μ` for the distribution functions -/
theorem sxp_pdf_below {x mu l t : α} (h : x < mu) : esl_sxp_pdf x mu l t = 0.0 := by simp [esl_sxp_pdf, h]
theorem sxp_logpdf_below {x mu l t : α} (h : x < mu) : esl_sxp_logpdf x mu l t = -Num.inf := by simp [esl_sxp_logpdf, h]
theorem sxp_cdf_below {x mu l t : α} (h : x ≤ mu) : esl_sxp_cdf x mu l t = 0.0 := by simp [esl_sxp_cdf, h]
theorem sxp_logcdf_below {x mu l t : α} (h : x ≤ mu) : esl_sxp_logcdf x mu l t = -Num.inf := by simp [esl_sxp_logcdf, h]
theorem sxp_surv_below {x mu l t : α} (h : x ≤ mu) : esl_sxp_surv x mu l t = 1.0 := by simp [esl_sxp_surv, h]
theorem sxp_logsurv_below {x mu l t : α} (h : x ≤ mu) : esl_sxp_logsurv x mu l t = 0.0 := by simp [esl_sxp_logsurv, h]

theorem lognormal_pdf_zero {x mu s : α} (h : Num.eqb x 0.0 = true) : esl_lognormal_pdf x mu s = 0.0 := by simp [esl_lognormal_pdf, h]
theorem lognormal_logpdf_zero {x mu s : α} (h : Num.eqb x 0.0 = true) : esl_lognormal_logpdf x mu s = -Num.inf := by simp [esl_lognormal_logpdf, h]

/-! the inversion samplers are the inverse cdf (exponential: the inverse survival, `log u` for `log (1-u)`) of the positive
    uniform deviate the generator yields, by definition -/
theorem exp_sample (u mu l : α) : esl_exp_Sample u mu l = esl_exp_invsurv u mu l := rfl
theorem gumbel_sample (u mu l : α) : esl_gumbel_Sample u mu l = esl_gumbel_invcdf u mu l := rfl
theorem gev_sample (u mu l a : α) : esl_gev_Sample u mu l a = esl_gev_invcdf u mu l a := rfl
theorem wei_sample (u mu l t : α) : esl_wei_Sample u mu l t = esl_wei_invcdf u mu l t := rfl

end EaselModel.Dist.Edge
