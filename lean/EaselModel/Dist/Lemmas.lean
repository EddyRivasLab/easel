import Mathlib.Analysis.SpecialFunctions.Exp
import Mathlib.Analysis.SpecialFunctions.Log.Basic
import Mathlib.Tactic.Linarith
import Mathlib.Tactic.NormNum
import Mathlib.Tactic.Positivity
import Mathlib.Tactic.Ring
/-! Real-analysis facts behind the small-argument switches of the distribution code (`eslSMALLX1` branches): first-order
    approximations of `exp` and `log` with explicit error, and the two switch idioms of the C code (`t` for `1 - e^{-t}`;
    `log t`, `-e^{-t}` or the plain formula for `log (1 - e^{-t})`) with the error they commit. -/
namespace EaselModel.Dist
open Real

theorem abs_add_sub_one_le {c s C S δ : ℝ} (hCS : C + S = 1) (hc : |c - C| ≤ δ) (hs : |s - S| ≤ δ) : |c + s - 1| ≤ 2 * δ := by
  rw [show c + s - 1 = (c - C) + (s - S) by rw [← hCS]; ring]
  exact (abs_add_le _ _).trans (by linarith)

theorem one_sub_exp_neg_approx {t : ℝ} (ht : |t| ≤ 1) : |t - (1 - exp (-t))| ≤ t ^ 2 := by
  have h := Real.abs_exp_sub_one_sub_id_le (x := -t) (by rwa [abs_neg])
  rwa [neg_sq, sub_neg_eq_add, show exp (-t) - 1 + t = t - (1 - exp (-t)) by ring] at h

theorem one_sub_exp_neg_pos {t : ℝ} (ht : 0 < t) : 0 < 1 - exp (-t) :=
  sub_pos.mpr (exp_lt_one_iff.mpr (neg_neg_of_pos ht))

theorem one_sub_exp_neg_le {t : ℝ} : 1 - exp (-t) ≤ t := by
  have := add_one_le_exp (-t); linarith

theorem abs_exp_sub_exp_le {a b : ℝ} (ha : a ≤ 0) (hb : b ≤ 0) : |exp a - exp b| ≤ |a - b| := by
  wlog h : a ≤ b generalizing a b
  · rw [abs_sub_comm, abs_sub_comm a]; exact this hb ha (le_of_not_ge h)
  have h2 : exp b ≤ 1 := exp_le_one_iff.mpr hb
  have h3 : 1 - exp (a - b) ≤ b - a := by have := add_one_le_exp (a - b); linarith
  have h4 : exp b - exp a = exp b * (1 - exp (a - b)) := by rw [mul_sub, mul_one, ← exp_add, add_sub_cancel]
  have h5 : 0 ≤ 1 - exp (a - b) := sub_nonneg.mpr (exp_le_one_iff.mpr (sub_nonpos.mpr h))
  rw [abs_sub_comm, abs_of_nonneg (sub_nonneg.mpr (exp_le_exp.mpr h)), abs_sub_comm, abs_of_nonneg (sub_nonneg.mpr h), h4]
  exact (mul_le_of_le_one_left h5 h2).trans h3

theorem abs_exp_sub_one_le_of_abs_le {d ε : ℝ} (h : |d| ≤ ε) : |exp d - 1| ≤ exp ε - 1 := by
  have h1 : exp d ≤ exp ε := exp_le_exp.mpr ((le_abs_self d).trans h)
  have h2 : exp (-d) ≤ exp ε := exp_le_exp.mpr ((neg_le_abs d).trans h)
  have h3 := add_one_le_exp d
  have h4 := add_one_le_exp (-d)
  rw [abs_le]; constructor <;> linarith

theorem abs_mul_exp_sub_le {f d ε : ℝ} (hf : 0 ≤ f) (hd : |d| ≤ ε) : |f * exp d - f| ≤ (exp ε - 1) * f := by
  rw [← mul_sub_one, abs_mul, abs_of_nonneg hf, mul_comm]
  exact mul_le_mul_of_nonneg_right (abs_exp_sub_one_le_of_abs_le hd) hf

theorem abs_exp_neg_sub_exp_neg_le {y s : ℝ} (h : |s - y| ≤ 1) : |exp (-y) - exp (-s)| ≤ 2 * |s - y| * exp (-y) := by
  have e : exp (-y) - exp (-s) = -(exp (-y) * (exp (-(s - y)) - 1)) := by
    rw [mul_sub, ← exp_add, mul_one]; ring_nf
  rw [e, abs_neg, abs_mul, abs_of_pos (exp_pos _), mul_comm (exp (-y)), ← abs_neg (s - y)]
  exact mul_le_mul_of_nonneg_right (Real.abs_exp_sub_one_le (by rwa [abs_neg])) (exp_pos _).le

/-! ## `log` near `1`, all from `1 - 1/x ≤ log x ≤ x - 1` -/

theorem log_one_add_approx {u : ℝ} (hu : |u| ≤ 1 / 2) : |log (1 + u) - u| ≤ 2 * u ^ 2 := by
  have hu' := abs_le.mp hu
  have hpos : 0 < 1 + u := by linarith
  have hup : log (1 + u) ≤ (1 + u) - 1 := log_le_sub_one_of_pos hpos
  have hlo : 1 - (1 + u)⁻¹ ≤ log (1 + u) := one_sub_inv_le_log_of_pos hpos
  have hinv : (1 + u)⁻¹ ≤ 1 - u + 2 * u ^ 2 := by
    rw [inv_le_iff_one_le_mul₀ hpos]
    -- `(1 + u) (1 - u + 2u²) = 1 + u² (1 + 2u)`
    linarith [mul_nonneg (sq_nonneg u) (show (0 : ℝ) ≤ 1 + 2 * u by linarith)]
  rw [abs_le]; constructor <;> linarith [sq_nonneg u]

theorem log_one_sub_approx {c : ℝ} (hc : |c| ≤ 1 / 2) : |log (1 - c) + c| ≤ 2 * c ^ 2 := by
  have h := log_one_add_approx (u := -c) (by rwa [abs_neg])
  rwa [← sub_eq_add_neg, sub_neg_eq_add, neg_sq] at h

theorem abs_log_one_add_le {u : ℝ} (hu : |u| ≤ 1 / 2) : |log (1 + u)| ≤ 2 * |u| := by
  have h := log_one_add_approx hu
  have h2 : 2 * u ^ 2 ≤ |u| := by
    rw [← sq_abs]; linarith [mul_nonneg (abs_nonneg u) (show (0 : ℝ) ≤ 1 - 2 * |u| by linarith)]
  calc |log (1 + u)| = |(log (1 + u) - u) + u| := by rw [sub_add_cancel]
    _ ≤ |log (1 + u) - u| + |u| := abs_add_le _ _
    _ ≤ 2 * |u| := by linarith

/-- `log a − log b ≤ a / b − 1` -/
theorem abs_log_sub_log_le {a b ε : ℝ} (hb : 0 < b) (hba : b ≤ a) (h : a ≤ (1 + ε) * b) : |log a - log b| ≤ ε := by
  have ha := hb.trans_le hba
  rw [← log_div ha.ne' hb.ne', abs_of_nonneg (log_nonneg ((one_le_div₀ hb).mpr hba))]
  refine (log_le_sub_one_of_pos (div_pos ha hb)).trans ?_
  rwa [sub_le_iff_le_add, div_le_iff₀ hb, add_comm]

theorem log_one_sub_exp_neg_approx {t : ℝ} (ht : 0 < t) (ht2 : t ≤ 1 / 2) :
    |log t - log (1 - exp (-t))| ≤ 2 * t := by
  have hlow : t - t ^ 2 ≤ 1 - exp (-t) := by
    have := (abs_le.mp (one_sub_exp_neg_approx (t := t) (by rw [abs_of_pos ht]; linarith))).2; linarith
  refine abs_log_sub_log_le (one_sub_exp_neg_pos ht) one_sub_exp_neg_le ?_
  -- `(1 + 2t) (t - t²) = t + t² (1 - 2t)`
  have := mul_le_mul_of_nonneg_left hlow (show (0 : ℝ) ≤ 1 + 2 * t by linarith)
  linarith [mul_nonneg (sq_nonneg t) (show (0 : ℝ) ≤ 1 - 2 * t by linarith)]

theorem log_neg_log_one_sub_approx {p : ℝ} (hp : 0 < p) (hp2 : p ≤ 1 / 2) : |log p - log (-log (1 - p))| ≤ 2 * p := by
  have hq : p ≤ -log (1 - p) := by have := log_le_sub_one_of_pos (show 0 < 1 - p by linarith); linarith
  have hq2 : -log (1 - p) ≤ p + 2 * p ^ 2 := by
    have := (abs_le.mp (log_one_sub_approx (c := p) (by rwa [abs_of_pos hp]))).1; linarith
  rw [abs_sub_comm]
  exact abs_log_sub_log_le hp hq (by linarith [show (1 + 2 * p) * p = p + 2 * p ^ 2 by ring])

/-- the derivative `1/(e^t − 1)` of `t ↦ log(1 − e^{−t})` is at most `1/t` -/
theorem abs_log_one_sub_exp_neg_sub {a b : ℝ} (ha : 0 < a) (hb : 0 < b) :
    |log (1 - exp (-a)) - log (1 - exp (-b))| ≤ |a - b| / min a b := by
  wlog h : a ≤ b generalizing a b
  · rw [abs_sub_comm, abs_sub_comm a, min_comm]; exact this hb ha (le_of_not_ge h)
  rw [min_eq_left h]
  have hA := one_sub_exp_neg_pos ha
  have hB := one_sub_exp_neg_pos hb
  have hmono : 1 - exp (-a) ≤ 1 - exp (-b) := sub_le_sub_left (exp_le_exp.mpr (neg_le_neg h)) 1
  rw [abs_sub_comm, abs_sub_comm a, abs_of_nonneg (sub_nonneg.mpr h)]
  refine abs_log_sub_log_le hA hmono ?_
  have hpos := exp_pos (-a)
  -- `e^{-a} - e^{-b} = e^{-a} (1 - e^{-(b-a)}) ≤ e^{-a} (b - a)` and `a e^{-a} ≤ 1 - e^{-a}`
  have hnum : exp (-a) - exp (-b) ≤ exp (-a) * (b - a) := by
    have e : exp (-b) = exp (-a) * exp (-(b - a)) := by rw [← exp_add]; ring_nf
    have := mul_le_mul_of_nonneg_left (one_sub_exp_neg_le (t := b - a)) hpos.le
    rw [e]; linarith
  have hden : exp (-a) * a ≤ 1 - exp (-a) := by
    have e : exp (-a) * exp a = 1 := by rw [← exp_add, neg_add_cancel, exp_zero]
    have := mul_le_mul_of_nonneg_left (add_one_le_exp a) hpos.le
    linarith
  have h2 : exp (-a) * (b - a) ≤ (b - a) / a * (1 - exp (-a)) := by
    rw [div_mul_eq_mul_div, le_div_iff₀ ha]
    have := mul_le_mul_of_nonneg_left hden (sub_nonneg.mpr h); linarith
  rw [one_add_mul]; linarith

theorem abs_log_one_sub_exp_neg_sub_of_rel {a b η : ℝ} (ha : 0 < a) (hη : η < 1) (hab : |a - b| ≤ η * a) :
    |log (1 - exp (-a)) - log (1 - exp (-b))| ≤ η / (1 - η) := by
  have h1 : 0 < 1 - η := sub_pos.mpr hη
  have hba : (1 - η) * a ≤ b := by have := (abs_le.mp hab).2; linarith
  have hηa : 0 ≤ η * a := (abs_nonneg _).trans hab
  have hmin : (1 - η) * a ≤ min a b := le_min (by linarith) hba
  have hm : 0 < (1 - η) * a := mul_pos h1 ha
  refine (abs_log_one_sub_exp_neg_sub ha (hm.trans_le hba)).trans ?_
  rw [div_le_div_iff₀ (hm.trans_le hmin) h1]
  calc |a - b| * (1 - η) ≤ η * a * (1 - η) := mul_le_mul_of_nonneg_right hab h1.le
    _ = η * ((1 - η) * a) := by ring
    _ ≤ η * min a b := mul_le_mul_of_nonneg_left hmin (nonneg_of_mul_nonneg_left hηa ha)

/-- Two-way switch for `1 - e^{-t}`: where a test `b` guarantees `|t| ≤ ε` the code returns `t` itself, committing at
    most `ε²`. -/
theorem one_sub_exp_neg_switch {t ε : ℝ} {b : Prop} [Decidable b] (hε : ε ≤ 1) (hb : b → |t| ≤ ε) :
    |(if b then t else 1 - exp (-t)) - (1 - exp (-t))| ≤ ε ^ 2 := by
  split_ifs with h
  · exact (one_sub_exp_neg_approx ((hb h).trans hε)).trans
      (by rw [← sq_abs t]; exact pow_le_pow_left₀ (abs_nonneg t) (hb h) 2)
  · rw [sub_self, abs_zero]; exact sq_nonneg ε

/-- Three-way switch for `log (1 - e^{-t})`, `t > 0`: `u = log t` where a test `b` guarantees `t ≤ ε₁`, else `-e^{-t}` where
    a test `c` guarantees `e^{-t} ≤ ε₂`, else the formula itself; the error is at most `2ε₁`, resp. `2ε₂²`. -/
theorem log_one_sub_exp_neg_switch {t u ε₁ ε₂ δ : ℝ} {b c : Prop} [Decidable b] [Decidable c] (ht : 0 < t) (hu : log t = u)
    (hb : b → t ≤ ε₁) (hc : c → exp (-t) ≤ ε₂) (h₁ : ε₁ ≤ 1 / 2) (h₂ : ε₂ ≤ 1 / 2) (hδ₁ : 2 * ε₁ ≤ δ) (hδ₂ : 2 * ε₂ ^ 2 ≤ δ) :
    |(if b then u else if c then -exp (-t) else log (1 - exp (-t))) - log (1 - exp (-t))| ≤ δ := by
  split_ifs with hb' hc'
  · have := log_one_sub_exp_neg_approx ht ((hb hb').trans h₁)
    rw [hu] at this; linarith [hb hb']
  · have h0 := (exp_pos (-t)).le
    have := log_one_sub_approx (c := exp (-t)) (by rw [abs_of_nonneg h0]; exact (hc hc').trans h₂)
    rw [← neg_add', abs_neg, add_comm]
    linarith [pow_le_pow_left₀ h0 (hc hc') 2]
  · rw [sub_self, abs_zero]; linarith [sq_nonneg ε₂]

end EaselModel.Dist
