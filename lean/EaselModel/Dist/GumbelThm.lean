import EaselModel.Dist.RealInst
import EaselModel.Dist.Spec
import EaselModel.Dist.Lemmas
import EaselModel.Generated.Dist
import Mathlib.Analysis.SpecialFunctions.ExpDeriv
import Mathlib.Tactic.Ring
import Mathlib.Tactic.FieldSimp
/-! Gumbel distribution: L2 (textbook laws) and L1 (translated `esl_gumbel_*` at `ℝ` vs textbook). -/
noncomputable section
namespace EaselModel.Dist.GumbelThm
open Real EaselModel.Dist EaselModel.Dist.Gen EaselModel.Dist.Spec

theorem gumbelCdf_pos (μ l x : ℝ) : 0 < gumbelCdf μ l x := exp_pos _
theorem gumbelCdf_lt_one (μ l x : ℝ) : gumbelCdf μ l x < 1 := by
  unfold gumbelCdf; rw [exp_lt_one_iff]; have := exp_pos (-(l * (x - μ))); linarith

theorem gumbelCdf_mono {μ l : ℝ} (hl : 0 ≤ l) : Monotone (gumbelCdf μ l) := by
  intro a b hab
  unfold gumbelCdf
  apply exp_le_exp.mpr
  have : l * (a - μ) ≤ l * (b - μ) := mul_le_mul_of_nonneg_left (by linarith) hl
  have : exp (-(l * (b - μ))) ≤ exp (-(l * (a - μ))) := exp_le_exp.mpr (by linarith)
  linarith

theorem gumbelCdf_add_surv (μ l x : ℝ) : gumbelCdf μ l x + gumbelSurv μ l x = 1 := by unfold gumbelSurv; ring

theorem lin_tendsto_atTop {μ l : ℝ} (hl : 0 < l) : Filter.Tendsto (fun x : ℝ => l * (x - μ)) Filter.atTop Filter.atTop :=
  Filter.Tendsto.const_mul_atTop hl (Filter.tendsto_atTop_add_const_right _ _ Filter.tendsto_id)

theorem lin_tendsto_atBot {μ l : ℝ} (hl : 0 < l) : Filter.Tendsto (fun x : ℝ => l * (x - μ)) Filter.atBot Filter.atBot :=
  Filter.Tendsto.const_mul_atBot hl (Filter.tendsto_atBot_add_const_right _ _ Filter.tendsto_id)

theorem gumbelCdf_tendsto_one {μ l : ℝ} (hl : 0 < l) : Filter.Tendsto (gumbelCdf μ l) Filter.atTop (nhds 1) := by
  have h2 : Filter.Tendsto (fun x : ℝ => exp (-(l * (x - μ)))) Filter.atTop (nhds 0) :=
    Real.tendsto_exp_neg_atTop_nhds_zero.comp (lin_tendsto_atTop hl)
  have h3 : Filter.Tendsto (fun x : ℝ => exp (-exp (-(l * (x - μ))))) Filter.atTop (nhds (exp (-0))) :=
    (Real.continuous_exp.tendsto _).comp h2.neg
  have e : gumbelCdf μ l = fun x : ℝ => exp (-exp (-(l * (x - μ)))) := rfl
  rw [e]; simpa using h3

theorem gumbelCdf_tendsto_zero {μ l : ℝ} (hl : 0 < l) : Filter.Tendsto (gumbelCdf μ l) Filter.atBot (nhds 0) := by
  have h1 : Filter.Tendsto (fun x : ℝ => -(l * (x - μ))) Filter.atBot Filter.atTop :=
    Filter.tendsto_neg_atBot_atTop.comp (lin_tendsto_atBot hl)
  have h2 : Filter.Tendsto (fun x : ℝ => exp (-(l * (x - μ)))) Filter.atBot Filter.atTop :=
    Real.tendsto_exp_atTop.comp h1
  exact Real.tendsto_exp_neg_atTop_nhds_zero.comp h2

theorem gumbelCdf_hasDerivAt (μ l x : ℝ) : HasDerivAt (gumbelCdf μ l) (gumbelPdf μ l x) x := by
  have h := (((hasDerivAt_id x).sub_const μ).const_mul l).neg.exp.neg.exp
  simp only [Pi.neg_apply, id] at h
  refine h.congr_deriv ?_
  unfold gumbelPdf
  rw [sub_eq_add_neg (-(l * (x - μ))), exp_add]; ring

theorem gumbelInvCdf_cdf {μ l : ℝ} (hl : l ≠ 0) (x : ℝ) : gumbelInvCdf μ l (gumbelCdf μ l x) = x := by
  unfold gumbelInvCdf gumbelCdf
  rw [log_exp, neg_neg, log_exp]; field_simp; ring

theorem gumbelInvSurv_surv {μ l : ℝ} (hl : l ≠ 0) (x : ℝ) : gumbelInvSurv μ l (gumbelSurv μ l x) = x := by
  unfold gumbelInvSurv gumbelSurv
  have : (1 : ℝ) - (1 - gumbelCdf μ l x) = gumbelCdf μ l x := by ring
  rw [this]; exact gumbelInvCdf_cdf hl x

theorem code_cdf (x μ l : ℝ) : esl_gumbel_cdf x μ l = gumbelCdf μ l x := by
  unfold esl_gumbel_cdf gumbelCdf; simp

theorem code_pdf (x μ l : ℝ) : esl_gumbel_pdf x μ l = gumbelPdf μ l x := by
  unfold esl_gumbel_pdf gumbelPdf; simp

theorem code_logcdf (x μ l : ℝ) : esl_gumbel_logcdf x μ l = log (gumbelCdf μ l x) := by
  unfold esl_gumbel_logcdf gumbelCdf; simp

theorem code_logpdf {l : ℝ} (hl : 0 < l) (x μ : ℝ) : esl_gumbel_logpdf x μ l = log (gumbelPdf μ l x) := by
  unfold esl_gumbel_logpdf gumbelPdf
  simp only [num_log, num_exp]
  rw [log_mul (ne_of_gt hl) (exp_ne_zero _), log_exp]; ring

theorem code_surv (x μ l : ℝ) : |esl_gumbel_surv x μ l - gumbelSurv μ l x| ≤ 2.5e-17 := by
  unfold esl_gumbel_surv gumbelSurv gumbelCdf
  simp only [num_exp, num_fabs, lit_one, neg_neg, abs_neg]
  exact (one_sub_exp_neg_switch (ε := 5.0e-9) (by norm_num) fun h => h.le).trans (by norm_num)

theorem code_logsurv (x μ l : ℝ) : |esl_gumbel_logsurv x μ l - log (gumbelSurv μ l x)| ≤ 1e-8 := by
  unfold esl_gumbel_logsurv gumbelSurv gumbelCdf
  simp only [num_exp, num_fabs, num_log, lit_one, abs_neg]
  exact log_one_sub_exp_neg_switch (ε₁ := 5.0e-9) (ε₂ := 5.0e-9) (exp_pos _) (log_exp _)
    (fun h => by rw [abs_of_pos (exp_pos _)] at h; exact h.le) (fun h => by rw [abs_of_pos (exp_pos _)] at h; exact h.le)
    (by norm_num) (by norm_num) (by norm_num) (by norm_num)

theorem code_invcdf (p μ l : ℝ) : esl_gumbel_invcdf p μ l = gumbelInvCdf μ l p := by
  unfold esl_gumbel_invcdf gumbelInvCdf; simp

theorem code_invsurv {p μ l : ℝ} (hl : 0 < l) (hp : 0 < p) : |esl_gumbel_invsurv p μ l - gumbelInvSurv μ l p| ≤ 1e-8 / l := by
  unfold esl_gumbel_invsurv gumbelInvSurv
  simp only [num_log, lit_one]
  split_ifs with h
  · have hp1 : p ≤ 5e-9 := by norm_num at h ⊢; first | exact h | exact le_of_lt h
    have := log_neg_log_one_sub_approx hp (by linarith)
    have e : μ - log p / l - (μ - log (-log (1 - p)) / l) = -((log p - log (-log (1 - p))) / l) := by ring
    rw [e, abs_neg, abs_div, abs_of_pos hl]
    apply div_le_div_of_nonneg_right _ hl.le
    linarith
  · have e : (-1 : ℝ) * log (1 - p) = -log (1 - p) := by ring
    rw [e, sub_self, abs_zero]; positivity

end EaselModel.Dist.GumbelThm
