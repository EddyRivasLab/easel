import EaselModel.Dist.GumbelThm
import EaselModel.Dist.ExpThm
import EaselModel.Dist.WeiThm
import EaselModel.Dist.GevThm
import EaselModel.Dist.MixGen
import Mathlib.MeasureTheory.Integral.IntervalIntegral.FundThmCalculus
/-! "The pdf integrates to cdf differences": fundamental theorem of calculus on the proved `HasDerivAt cdf pdf`. -/
noncomputable section
namespace EaselModel.Dist.IntegralThm
open Real EaselModel.Dist.Spec

theorem gumbelPdf_continuous (μ l : ℝ) : Continuous (gumbelPdf μ l) := by
  unfold gumbelPdf; fun_prop

theorem gumbel_integral_pdf (μ l a b : ℝ) : ∫ x in a..b, gumbelPdf μ l x = gumbelCdf μ l b - gumbelCdf μ l a :=
  intervalIntegral.integral_eq_sub_of_hasDerivAt (fun x _ => GumbelThm.gumbelCdf_hasDerivAt μ l x)
    ((gumbelPdf_continuous μ l).intervalIntegrable a b)

theorem exp_integral_pdf {μ l a b : ℝ} (ha : μ < a) (hab : a ≤ b) :
    ∫ x in a..b, expPdf μ l x = expCdf μ l b - expCdf μ l a := by
  have hderiv : ∀ x ∈ Set.uIcc a b, HasDerivAt (expCdf μ l) (expPdf μ l x) x := by
    intro x hx
    rw [Set.uIcc_of_le hab] at hx
    exact ExpThm.expCdf_hasDerivAt (lt_of_lt_of_le ha hx.1)
  have hcont : ContinuousOn (expPdf μ l) (Set.uIcc a b) := by
    have h1 : ContinuousOn (fun x : ℝ => l * exp (-(l * (x - μ)))) (Set.uIcc a b) := by fun_prop
    refine h1.congr ?_
    intro x hx
    rw [Set.uIcc_of_le hab] at hx
    simp [expPdf, not_lt.mpr (le_of_lt (lt_of_lt_of_le ha hx.1))]
  exact intervalIntegral.integral_eq_sub_of_hasDerivAt hderiv hcont.intervalIntegrable

/-- FTC for a cdf with a non-negative density: `HasDerivAt F (f x) x` and `0 ≤ f x` on `[a, b]` give
    `∫_a^b f = F b − F a` (a non-negative derivative is automatically integrable). -/
theorem ftc_of_nonneg {F f : ℝ → ℝ} {a b : ℝ} (hab : a ≤ b) (hd : ∀ x ∈ Set.Icc a b, HasDerivAt F (f x) x)
    (h0 : ∀ x ∈ Set.Icc a b, 0 ≤ f x) : ∫ x in a..b, f x = F b - F a := by
  have hd' : ∀ x ∈ Set.uIcc a b, HasDerivAt F (f x) x := by rwa [Set.uIcc_of_le hab]
  have hcont : ContinuousOn F (Set.uIcc a b) := fun x hx => (hd' x hx).continuousAt.continuousWithinAt
  refine intervalIntegral.integral_eq_sub_of_hasDerivAt hd' (intervalIntegral.intervalIntegrable_deriv_of_nonneg hcont ?_ ?_)
  · intro x hx; rw [min_eq_left hab, max_eq_right hab] at hx; exact hd x (Set.Ioo_subset_Icc_self hx)
  · intro x hx; rw [min_eq_left hab, max_eq_right hab] at hx; exact h0 x (Set.Ioo_subset_Icc_self hx)

theorem weiPdf_nonneg {μ l τ : ℝ} (hl : 0 ≤ l) (hτ : 0 ≤ τ) (x : ℝ) : 0 ≤ weiPdf μ l τ x := by
  unfold weiPdf; split_ifs
  · exact le_refl _
  · exact mul_nonneg (mul_nonneg (mul_nonneg hl hτ) (exp_pos _).le) (exp_pos _).le

/-- `μ < a`: the density is unbounded at `μ` for `τ < 1` -/
theorem wei_integral_pdf {μ l τ a b : ℝ} (hl : 0 < l) (hτ : 0 ≤ τ) (ha : μ < a) (hab : a ≤ b) :
    ∫ x in a..b, weiPdf μ l τ x = weiCdf μ l τ b - weiCdf μ l τ a :=
  ftc_of_nonneg hab (fun _ hx => WeiThm.weiCdf_hasDerivAt hl (lt_of_lt_of_le ha hx.1)) fun x _ => weiPdf_nonneg hl.le hτ x

theorem gevPdf_nonneg {μ l α : ℝ} (hl : 0 ≤ l) (x : ℝ) : 0 ≤ gevPdf μ l α x := by
  unfold gevPdf; split_ifs
  · exact le_refl _
  · exact mul_nonneg hl (exp_pos _).le

/-- the support is an interval: the affine `gevArg`, positive at both ends of `[a, b]`, is positive inside -/
theorem gevArg_pos_of_mem_Icc {μ l α a b x : ℝ} (ha : 0 < gevArg μ l α a) (hb : 0 < gevArg μ l α b) (hx : x ∈ Set.Icc a b) :
    0 < gevArg μ l α x := by
  unfold gevArg at ha hb ⊢
  obtain ⟨h1, h2⟩ := hx
  rcases le_total 0 (α * l) with hs | hs
  · have := mul_le_mul_of_nonneg_left (sub_le_sub_right h1 μ) hs; nlinarith
  · have := mul_le_mul_of_nonpos_left (sub_le_sub_right h2 μ) hs; nlinarith

theorem gev_integral_pdf {μ l α a b : ℝ} (hl : 0 ≤ l) (hα : α ≠ 0) (hab : a ≤ b) (ha : 0 < gevArg μ l α a) (hb : 0 < gevArg μ l α b) :
    ∫ x in a..b, gevPdf μ l α x = gevCdf μ l α b - gevCdf μ l α a :=
  ftc_of_nonneg hab (fun _ hx => GevThm.gevCdf_hasDerivAt hα (gevArg_pos_of_mem_Icc ha hb hx)) fun x _ => gevPdf_nonneg hl x

theorem expPdf_nonneg {μ l : ℝ} (hl : 0 ≤ l) (x : ℝ) : 0 ≤ expPdf μ l x := by
  unfold expPdf; split_ifs
  · exact le_refl _
  · exact mul_nonneg hl (exp_pos _).le

open Finset EaselModel.Dist.MixGen in
theorem hxp_hasDerivAt (h : EaselModel.Dist.Gen.ESL_HYPEREXP ℝ) {x : ℝ} (hx : h.mu < x) : HasDerivAt (hxpCdf h) (hxpPdf h x) x := by
  unfold hxpCdf hxpPdf
  exact HasDerivAt.fun_sum fun k _ => (ExpThm.expCdf_hasDerivAt hx).const_mul (hq h k)

open Finset EaselModel.Dist.MixGen in
theorem hxp_integral_pdf {h : EaselModel.Dist.Gen.ESL_HYPEREXP ℝ} (ok : HxpOK h) {a b : ℝ} (ha : h.mu < a) (hab : a ≤ b) :
    ∫ x in a..b, hxpPdf h x = hxpCdf h b - hxpCdf h a :=
  ftc_of_nonneg hab (fun _ hx => hxp_hasDerivAt h (lt_of_lt_of_le ha hx.1)) fun x _ =>
    sum_nonneg fun k hk => mul_nonneg (ok k (mem_range.mp hk)).1 (expPdf_nonneg (ok k (mem_range.mp hk)).2.le x)

open Finset EaselModel.Dist.MixGen in
theorem mixgev_integral_pdf {g : EaselModel.Dist.Gen.ESL_MIXGEV ℝ} (ok : MixgevOK g) {a b : ℝ} (hab : a ≤ b)
    (hs : ∀ k < g.K, 0 < gevArg (gm g k) (gl g k) (ga g k) a ∧ 0 < gevArg (gm g k) (gl g k) (ga g k) b) :
    ∫ x in a..b, mixgevPdf g x = mixgevCdf g b - mixgevCdf g a := by
  refine ftc_of_nonneg hab (fun x hx => ?_) fun x _ =>
    sum_nonneg fun k hk => mul_nonneg (ok k (mem_range.mp hk)).1 (gevPdf_nonneg (ok k (mem_range.mp hk)).2.1.le x)
  unfold mixgevCdf mixgevPdf
  exact HasDerivAt.fun_sum fun k hk => (GevThm.gevCdf_hasDerivAt (ok k (mem_range.mp hk)).2.2
    (gevArg_pos_of_mem_Icc (hs k (mem_range.mp hk)).1 (hs k (mem_range.mp hk)).2 hx)).const_mul (gq g k)

end EaselModel.Dist.IntegralThm

/-! Mixtures, every `K`: the pdf is the derivative of the cdf at every point that is not a support boundary of a component
    (outside a component's support its cdf is locally constant and its density `0`). -/
namespace EaselModel.Dist.MixDeriv
open Real Filter Finset EaselModel.Dist EaselModel.Dist.Gen EaselModel.Dist.Spec EaselModel.Dist.MixGen

theorem gevCdf_hasDerivAt_outside {μ l α x : ℝ} (hx : gevArg μ l α x < 0) : HasDerivAt (gevCdf μ l α) (gevPdf μ l α x) x := by
  have hcont : ContinuousAt (fun z : ℝ => gevArg μ l α z) x := by unfold gevArg; fun_prop
  have hev : gevCdf μ l α =ᶠ[nhds x] fun _ => (if 0 < α then (0 : ℝ) else 1) := by
    filter_upwards [hcont.eventually (gt_mem_nhds hx)] with z hz
    simp [gevCdf, le_of_lt hz]
  have hp : gevPdf μ l α x = 0 := by simp [gevPdf, hx.le]
  rw [hp]
  exact (hasDerivAt_const x _).congr_of_eventuallyEq hev

theorem gevCdf_hasDerivAt_ne {μ l α x : ℝ} (hα : α ≠ 0) (hx : gevArg μ l α x ≠ 0) : HasDerivAt (gevCdf μ l α) (gevPdf μ l α x) x :=
  (lt_or_gt_of_ne hx).elim gevCdf_hasDerivAt_outside (GevThm.gevCdf_hasDerivAt hα)

theorem mixgev_hasDerivAt {g : ESL_MIXGEV ℝ} (ok : MixgevOK g) {x : ℝ}
    (hx : ∀ k < g.K, gevArg (gm g k) (gl g k) (ga g k) x ≠ 0) : HasDerivAt (mixgevCdf g) (mixgevPdf g x) x := by
  unfold mixgevCdf mixgevPdf
  exact HasDerivAt.fun_sum fun k hk =>
    (gevCdf_hasDerivAt_ne (ok k (mem_range.mp hk)).2.2 (hx k (mem_range.mp hk))).const_mul (gq g k)

theorem hxp_hasDerivAt_ne (h : ESL_HYPEREXP ℝ) {x : ℝ} (hx : x ≠ h.mu) : HasDerivAt (hxpCdf h) (hxpPdf h x) x := by
  rcases lt_or_gt_of_ne hx with hlt | hgt
  · unfold hxpCdf hxpPdf
    exact HasDerivAt.fun_sum fun k _ => (ExpThm.expCdf_hasDerivAt_below hlt).const_mul (hq h k)
  · exact IntegralThm.hxp_hasDerivAt h hgt

end EaselModel.Dist.MixDeriv
