import EaselModel.Dist.RealInst
import EaselModel.Dist.Lemmas
import EaselModel.Generated.Dist
import Mathlib.Analysis.SpecialFunctions.Sqrt
import Mathlib.Tactic.Ring
import Mathlib.Tactic.FieldSimp
/-! Families built on the special functions (`esl_gam_*`, `esl_sxp_*`, `esl_normal_*`, `esl_lognormal_*`), translated
    code at `ℝ`.  What is proved is what follows from the *structure* of the code: cdf + surv = 1 (the code forms
    `Q = 1 - P` / `P = 1 - Q`; for the normal, given `erfc (-t) = 2 - erfc t`), the log versions are the logarithms,
    monotonicity of the normal cdf given antitone `erfc`.  That `incGamma`/`erfc` approximate the true special
    functions is NOT proved (L0 monitors only). -/
noncomputable section
namespace EaselModel.Dist.SpecialFamThm
open Real EaselModel.Dist EaselModel.Dist.Gen

theorem gam_cdf_add_surv {x μ l τ : ℝ} (h : 0 < l * (x - μ) → (realIncGamma τ (l * (x - μ))).isSome) :
    esl_gam_cdf x μ l τ + esl_gam_surv x μ l τ = 1 := by
  unfold esl_gam_cdf esl_gam_surv
  simp only [lit_zero, lit_one]
  split_ifs with hy
  · norm_num
  · exact incGammaP_add_Q (h (not_le.mp hy))

theorem gam_logcdf {x μ l τ : ℝ} (hy : 0 < l * (x - μ)) : esl_gam_logcdf x μ l τ = log (esl_gam_cdf x μ l τ) := by
  unfold esl_gam_logcdf esl_gam_cdf
  simp only [lit_zero, num_log]
  rw [if_neg (not_le.mpr hy), if_neg (not_le.mpr hy)]

theorem gam_logsurv {x μ l τ : ℝ} : esl_gam_logsurv x μ l τ = log (esl_gam_surv x μ l τ) := by
  unfold esl_gam_logsurv esl_gam_surv
  simp only [lit_zero, lit_one, num_log]
  split_ifs <;> simp

theorem gam_pdf_eq_exp_logpdf {x μ l τ : ℝ} (hy : 0 < l * (x - μ)) :
    esl_gam_pdf x μ l τ = exp (esl_gam_logpdf x μ l τ) := by
  have hx : x ≠ μ := by
    intro h; rw [h, sub_self, mul_zero] at hy; exact lt_irrefl _ hy
  unfold esl_gam_pdf esl_gam_logpdf
  simp only [lit_zero, lit_one, num_log, num_exp, num_eqb]
  rw [if_neg (not_lt.mpr hy.le), if_neg (not_lt.mpr hy.le), if_neg hx, if_neg hx]

/-- at the support edge `x = μ` with `τ = 1` (the exponential case) the density is `λ` and the log density `log λ`
    (repaired: was `0·log 0 = NaN`) -/
theorem gam_pdf_at_mu_tau1 (μ l : ℝ) : esl_gam_pdf μ μ l 1 = l ∧ esl_gam_logpdf μ μ l 1 = log l := by
  unfold esl_gam_pdf esl_gam_logpdf
  simp [lit_zero, lit_one]

theorem sxp_cdf_add_surv {x μ l τ : ℝ}
    (h : μ < x → (realIncGamma (1 / τ) (exp (τ * log (l * (x - μ))))).isSome) :
    esl_sxp_cdf x μ l τ + esl_sxp_surv x μ l τ = 1 := by
  unfold esl_sxp_cdf esl_sxp_surv
  simp only [lit_zero, lit_one, num_exp, num_log]
  split_ifs with hx
  · norm_num
  · exact incGammaP_add_Q (h (not_le.mp hx))

theorem sxp_logcdf {x μ l τ : ℝ} (hx : μ < x) : esl_sxp_logcdf x μ l τ = log (esl_sxp_cdf x μ l τ) := by
  unfold esl_sxp_logcdf esl_sxp_cdf
  simp only [lit_one, num_log, num_exp]
  rw [if_neg (not_le.mpr hx), if_neg (not_le.mpr hx)]

theorem sxp_logsurv {x μ l τ : ℝ} : esl_sxp_logsurv x μ l τ = log (esl_sxp_surv x μ l τ) := by
  unfold esl_sxp_logsurv esl_sxp_surv
  simp only [lit_zero, lit_one, num_log, num_exp]
  split_ifs <;> simp

theorem sxp_logpdf {x μ l τ : ℝ} (hl : 0 < l) (hτ : 0 < τ) (hx : μ ≤ x) :
    esl_sxp_logpdf x μ l τ = log (esl_sxp_pdf x μ l τ) := by
  unfold esl_sxp_logpdf esl_sxp_pdf
  simp only [lit_one, num_log, num_exp, num_eqb]
  rw [if_neg (not_lt.mpr hx), if_neg (not_lt.mpr hx)]
  have hlt : l * τ ≠ 0 := ne_of_gt (mul_pos hl hτ)
  split_ifs
  · rw [log_div hlt (exp_ne_zero _), log_mul (ne_of_gt hl) (ne_of_gt hτ), log_exp]
  · rw [log_mul (div_ne_zero hlt (exp_ne_zero _)) (exp_ne_zero _), log_div hlt (exp_ne_zero _),
      log_mul (ne_of_gt hl) (ne_of_gt hτ), log_exp, log_exp]; ring

theorem gam_pdf_closed {x μ l τ : ℝ} (hl : 0 < l) (hx : μ < x) :
    esl_gam_pdf x μ l τ * exp (Num.logGamma τ) = l ^ τ * (x - μ) ^ (τ - 1) * exp (-(l * (x - μ))) := by
  have hy : 0 < l * (x - μ) := mul_pos hl (by linarith)
  have hxm : 0 < x - μ := by linarith
  unfold esl_gam_pdf
  simp only [lit_zero, lit_one, num_log, num_exp, num_eqb]
  rw [if_neg (not_lt.mpr hy.le), if_neg (ne_of_gt hx)]
  rw [Real.rpow_def_of_pos hl, Real.rpow_def_of_pos hxm, ← exp_add, ← exp_add, ← exp_add]
  congr 1; ring

theorem sxp_pdf_closed {x μ l τ : ℝ} (hl : 0 < l) (hx : μ < x) :
    esl_sxp_pdf x μ l τ * exp (Num.logGamma (1 / τ)) = l * τ * exp (-(l * (x - μ)) ^ τ) := by
  have hy : 0 < l * (x - μ) := mul_pos hl (by linarith)
  unfold esl_sxp_pdf
  simp only [lit_one, num_log, num_exp, num_eqb]
  rw [if_neg (not_lt.mpr hx.le), if_neg (ne_of_gt hx), Real.rpow_def_of_pos hy]
  have he : exp (Num.logGamma (1 / τ)) ≠ 0 := exp_ne_zero _
  field_simp

theorem gam_cdf_closed {x μ l τ : ℝ} (hy : 0 < l * (x - μ)) :
    esl_gam_cdf x μ l τ = Num.incGammaP τ (l * (x - μ)) ∧ esl_gam_surv x μ l τ = Num.incGammaQ τ (l * (x - μ)) := by
  unfold esl_gam_cdf esl_gam_surv; simp only [lit_zero]
  rw [if_neg (not_le.mpr hy), if_neg (not_le.mpr hy)]; exact ⟨rfl, rfl⟩

theorem sxp_cdf_closed {x μ l τ : ℝ} (hl : 0 < l) (hx : μ < x) :
    esl_sxp_cdf x μ l τ = Num.incGammaP (1 / τ) ((l * (x - μ)) ^ τ) ∧
      esl_sxp_surv x μ l τ = Num.incGammaQ (1 / τ) ((l * (x - μ)) ^ τ) := by
  unfold esl_sxp_cdf esl_sxp_surv; simp only [lit_one, num_exp, num_log]
  rw [if_neg (not_le.mpr hx), if_neg (not_le.mpr hx), Real.rpow_def_of_pos (mul_pos hl (sub_pos.mpr hx)), mul_comm τ]
  exact ⟨rfl, rfl⟩

/-! ## `esl_stats_IncompleteGamma`: what needs no analysis -/

/-- the C function throws `eslERANGE` for `a ≤ 0` or `x < 0` (the model yields `none`) -/
theorem realIncGamma_range_error {a x : ℝ} (h : a ≤ 0 ∨ x < 0) : realIncGamma a x = none := by
  unfold realIncGamma Special.incGamma
  rcases h with h | h
  · simp only [lit_zero]; rw [if_pos h]
  · simp only [lit_zero]; split_ifs <;> rfl

/-- a result implies valid arguments; which of the two it forms as `1 −` the other depends on the branch `x > a + 1` -/
theorem realIncGamma_branches {a x P Q : ℝ} (h : realIncGamma a x = some (P, Q)) :
    0 < a ∧ 0 ≤ x ∧ P + Q = 1 ∧ (a + 1 < x → P = 1 - Q) ∧ (¬ a + 1 < x → Q = 1 - P) := by
  have hs := realIncGamma_sum h
  refine ⟨?_, ?_, hs, fun _ => by linarith, fun _ => by linarith⟩
  · by_contra hc
    rw [realIncGamma_range_error (Or.inl (not_lt.mp hc))] at h; exact absurd h (by simp)
  · by_contra hc
    rw [realIncGamma_range_error (Or.inr (not_le.mp hc))] at h; exact absurd h (by simp)

theorem normal_cdf_add_surv (herfc : ∀ t : ℝ, Num.erfc (-t) = 2 - Num.erfc t) (x μ σ : ℝ) :
    esl_normal_cdf x μ σ + esl_normal_surv x μ σ = 1 := by
  unfold esl_normal_cdf esl_normal_surv
  simp only [lit_one, num_sqrt]
  have e : -1 * ((x - μ) / σ) / √2.0 = -((x - μ) / σ / √2.0) := by ring
  rw [e, herfc]; ring

theorem normal_cdf_mono (hanti : Antitone (Num.erfc : ℝ → ℝ)) {μ σ : ℝ} (hσ : 0 < σ) : Monotone (fun x => esl_normal_cdf x μ σ) := by
  intro a b hab
  unfold esl_normal_cdf
  simp only [lit_one, num_sqrt]
  have hs : (0 : ℝ) < √2.0 := by rw [Real.sqrt_pos]; norm_num
  have h1 : (a - μ) / σ ≤ (b - μ) / σ := div_le_div_of_nonneg_right (by linarith) hσ.le
  have h2 : -1 * ((b - μ) / σ) / √2.0 ≤ -1 * ((a - μ) / σ) / √2.0 :=
    div_le_div_of_nonneg_right (by linarith) hs.le
  have := hanti h2
  linarith

theorem normal_logpdf {x μ σ : ℝ} (hσ : 0 < σ) : esl_normal_logpdf x μ σ = log (esl_normal_pdf x μ σ) := by
  unfold esl_normal_logpdf esl_normal_pdf
  simp only [num_log, num_exp, num_sqrt]
  have hs : (0 : ℝ) < √(2.0 * 3.14159265358979323846264338328) := by rw [Real.sqrt_pos]; norm_num
  rw [log_div (exp_ne_zero _) (ne_of_gt (mul_pos hσ hs)), log_exp, log_mul (ne_of_gt hσ) (ne_of_gt hs)]; ring

theorem lognormal_logpdf {x μ σ : ℝ} (hx : 0 < x) (hσ : 0 < σ) : esl_lognormal_logpdf x μ σ = log (esl_lognormal_pdf x μ σ) := by
  unfold esl_lognormal_logpdf esl_lognormal_pdf
  simp only [num_log, num_exp, num_sqrt, num_eqb, lit_zero]
  rw [if_neg (ne_of_gt hx), if_neg (ne_of_gt hx)]
  have hc : (0 : ℝ) < 2.0 * 3.14159265358979323846264338328 := by norm_num
  have hs : (0 : ℝ) < √(2.0 * 3.14159265358979323846264338328) := Real.sqrt_pos.mpr hc
  have hxs : 0 < x * σ := mul_pos hx hσ
  rw [log_div (exp_ne_zero _) (ne_of_gt (mul_pos hxs hs)), log_exp, log_mul (ne_of_gt hxs) (ne_of_gt hs),
    Real.log_sqrt hc.le]; ring

end EaselModel.Dist.SpecialFamThm
