import EaselModel.Dist.GamSxpThm
import EaselModel.Dist.NormalThm
import EaselModel.Dist.GamSampleGen
/-! The samplers that do not go by inversion of a uniform deviate — `esl_sxp_Sample` (change of variable from a Gamma
    variate), `esl_lognormal_Sample` (exponential of a Gaussian variate), `esl_gam_Sample` (location-scale of a Gamma
    variate, with a redraw loop): the TRANSLATED function applied to the primitive variate `t` the generator yields lands
    at the point whose cdf equals the primitive family's cdf at `t` — the transformation is the right one, so the sample
    has the family's distribution whenever the primitive variate has its own. -/
noncomputable section
namespace EaselModel.Dist.SampleThm
open Real EaselModel.Dist EaselModel.Dist.Gen EaselModel.Dist.IncGammaInt EaselModel.Dist.GamSxpThm

theorem sxp_sample_eq {t μ l τ : ℝ} (ht : 0 < t) : esl_sxp_Sample t μ l τ = μ + 1 / l * t ^ (1 / τ) := by
  unfold esl_sxp_Sample
  simp only [lit_one, num_exp, num_log]
  rw [Real.rpow_def_of_pos ht, mul_comm (1 / τ)]

/-- stretched exponential: the sample made from the Gamma(1/τ) variate `t` sits where the sxp cdf equals the
    Gamma(1/τ) cdf at `t`: `F_sxp(Sample t) = P(1/τ, t)` (textbook), and the same for the translated cdf:
    `esl_sxp_cdf (Sample t) = esl_gam_cdf t 0 1 (1/τ)`. -/
theorem sxp_sample_cdf {t μ l τ : ℝ} (ht : 0 < t) (hl : 0 < l) (hτ : 0 < τ) :
    sxpCdf μ l τ (esl_sxp_Sample t μ l τ) = P (1 / τ) t ∧ μ < esl_sxp_Sample t μ l τ ∧
    esl_sxp_cdf (esl_sxp_Sample t μ l τ) μ l τ = esl_gam_cdf t 0 1 (1 / τ) := by
  have hp : 0 < t ^ (1 / τ) := rpow_pos_of_pos ht _
  have hx : μ < esl_sxp_Sample t μ l τ := by
    rw [sxp_sample_eq ht]; have := mul_pos (one_div_pos.mpr hl) hp; linarith
  have hy : l * (esl_sxp_Sample t μ l τ - μ) = t ^ (1 / τ) := by
    rw [sxp_sample_eq ht]; field_simp; ring
  have hz : (t ^ (1 / τ)) ^ τ = t := by
    rw [← rpow_mul ht.le, one_div, inv_mul_cancel₀ hτ.ne', rpow_one]
  refine ⟨?_, hx, ?_⟩
  · rw [sxpCdf, if_neg (not_le.mpr hx), hy, hz]
  · rw [(SpecialFamThm.sxp_cdf_closed hl hx).1, hy, hz, (SpecialFamThm.gam_cdf_closed (by simpa using ht)).1, one_mul, sub_zero]

/-- log-normal: `esl_lognormal_Sample g = e^{μ + σ g}` and the textbook log-normal cdf there is the standard normal cdf at
    the Gaussian variate `g` -/
theorem lognormal_sample_cdf {g μ σ : ℝ} (hσ : 0 < σ) :
    esl_lognormal_Sample g μ σ = exp (μ + σ * g) ∧ 0 < esl_lognormal_Sample g μ σ ∧
    NormalThm.lognormalCdf μ σ (esl_lognormal_Sample g μ σ) = NormalThm.normalCdf 0 1 g := by
  have e : esl_lognormal_Sample g μ σ = exp (μ + σ * g) := by unfold esl_lognormal_Sample; simp only [num_exp]
  refine ⟨e, e ▸ exp_pos _, ?_⟩
  rw [e, NormalThm.lognormalCdf, log_exp, NormalThm.normalCdf, NormalThm.normalCdf]
  congr 3
  field_simp; ring

/-- gamma (`Mix.gamSample`, the redraw loop that the TRANSLATED `esl_gam_Sample` is, `GamSampleGen`): the result is `μ + t/λ` for the FIRST variate `t` of the stream with
    `μ + t/λ ≠ μ` — never `μ` itself — and the textbook gamma cdf there is `P(τ, t)`, the Gamma(τ) cdf at that variate. -/
theorem gam_sample_spec {μ l : ℝ} (ts : List ℝ) (x : ℝ) (h : Mix.gamSample μ l ts = some x) :
    x ≠ μ ∧ ∃ t ∈ ts, x = μ + t / l := by
  obtain ⟨i, hi, h1, h2, _⟩ := GamSampleGen.gamSample_first ts x h
  exact ⟨h2, ts[i], List.getElem_mem hi, h1⟩

theorem gam_sample_cdf {t μ l τ : ℝ} (ht : 0 < t) (hl : 0 < l) : gamCdf μ l τ (μ + t / l) = P τ t := by
  have hx : μ < μ + t / l := by have := div_pos ht hl; linarith
  rw [gamCdf, if_neg (not_le.mpr hx)]
  congr 1; field_simp; ring

end EaselModel.Dist.SampleThm
