import EaselModel.Random.Deal64Fuel
/-! # `esl_rand64_Deal` / `vitter_a` over an ABSTRACT floating-point carrier (C09). Core Lean only, no Mathlib.

`F` is any type with the vocabulary `VOps F`; `add sub mul div neg exp log round floorI lt le` are ARBITRARY functions.
No field law is assumed: not associativity, not distributivity, not `(-X)/n + 1 = Vprime`, not `n * (m/n) = m` — the
identities that hold over ℝ and that rounding breaks (the defect repaired by ba43348 lived exactly in the gap between
"`Vprime <= 1.` was tested" and "`floor(n * Vprime) < n`").  What is assumed is the list `FloatFacts F B`: sign and
monotonicity facts of single rounded operations, exactness of integers of magnitude `≤ B` (`B = 2^53` for binary64), the sign
facts of libm's `exp`/`log`, and NaN propagation for `*`.  Each item is valid for IEEE-754 binary64 with round-to-nearest
for ALL operand values including `±0`, `±inf` and NaN (`le`/`lt` are C's `<=`/`<`, false on NaN) — the comment at each field
says why.  Everything else the proof uses is a test the code itself performs:
`S < qu1` (d64FindS), `Vprime <= 1.` (d64Accept), `quot > U` (vaSkip), `if (S >= n) S = n-1` (final step).

Result (`deal64Core_abs`): for every `1 ≤ m ≤ n ≤ B`, every generator state and every fuel, a returned deal is exactly `m`
strictly increasing values in `[0, n)`.  `n ≤ B` is used by method D (`nreal = (double) n` exact, `fl(n·w) ∈ [0,n]`) and by
`vitter_a` (its skip loop stops because the integer-valued double `top` reaches exactly 0).  Pre-fix behaviour:
`deal64PreFix_out_of_range`. -/
namespace EaselModel.Random
open VOps

section
variable {F : Type} [VOps F]

/-- C's `a <= b` / `a < b` on the carrier -/
abbrev LE (a b : F) : Prop := VOps.le a b = true
abbrev LT (a b : F) : Prop := VOps.lt a b = true
/-- `(double) k` -/
abbrev I (k : Int) : F := VOps.ofInt k
/-- `0.0` -/
abbrev fz : F := VOps.ofInt 0

theorem one_eq_I : (VOps.one : F) = I 1 := rfl

/-- what the structure proof uses about the floating-point operations; `B` bounds the exactly represented integers -/
structure FloatFacts (F : Type) [VOps F] (B : Int) : Prop where
  /- comparisons (total order on non-NaN values; every comparison with NaN is false, so the premises exclude NaN) -/
  le_trans : ∀ a b c : F, LE a b → LE b c → LE a c
  lt_le : ∀ a b : F, LT a b → LE a b
  lt_lt_le_absurd : ∀ a b c : F, LT a b → LT b c → LE c a → False
  /- integers of magnitude ≤ B convert exactly; their sums and differences are exact (x - x = +0 = (double) 0) -/
  add_int : ∀ a b : Int, -B ≤ a → a ≤ B → -B ≤ b → b ≤ B → -B ≤ a + b → a + b ≤ B → VOps.add (I a) (I b) = (I (a + b) : F)
  sub_int : ∀ a b : Int, -B ≤ a → a ≤ B → -B ≤ b → b ≤ B → -B ≤ a - b → a - b ≤ B → VOps.sub (I a) (I b) = (I (a - b) : F)
  round_int : ∀ a : Int, 0 ≤ a → a ≤ B → VOps.round (I a) = (I a : F)
  /- esl_rand64_double = k·2^-53 (k < 2^53) ∈ [0,1); esl_rand64_double_open = (k+0.5)·2^-52 (k < 2^52) ∈ (0,1): exact products -/
  dbl_unit : ∀ w : UInt64, LE fz (VOps.dbl w : F) ∧ LT (VOps.dbl w : F) VOps.one
  dblOpen_unit : ∀ w : UInt64, LT fz (VOps.dblOpen w : F) ∧ LT (VOps.dblOpen w : F) VOps.one
  /- libm: log(±0) = -inf, log(1) = +0, log(u) < 0 on (0,1); exp(-inf) = +0, exp(x) ∈ (0,1] for x ≤ 0; exp is never negative -/
  log_nonpos : ∀ u : F, LE fz u → LE u VOps.one → LE (VOps.log u) fz
  exp_le_one : ∀ x : F, LE x fz → LE (VOps.exp x) VOps.one
  exp_nonneg : ∀ x c : F, LE (VOps.exp x) c → LE fz (VOps.exp x)
  /- (1/k)·x for x ∈ [-inf, 0]: 1/k is finite and positive, the product is ≤ 0 (possibly -0 or -inf) -/
  mul_inv_nonpos : ∀ (k : Int) (x : F), 1 ≤ k → k ≤ B → LE x fz → LE (VOps.mul (VOps.div VOps.one (I k)) x) fz
  /- v ∈ [0,1] ⇒ -v + 1 ∈ [0,1] (rounding is monotone; -1+1 = +0, -0+1 = 1) -/
  one_sub_unit : ∀ v : F, LE fz v → LE v VOps.one → LE fz (VOps.add (VOps.neg v) VOps.one) ∧ LE (VOps.add (VOps.neg v) VOps.one) VOps.one
  /- n·w for an exact positive integer n: w ∈ [0,1] ⇒ fl(n·w) ∈ [0,n] (monotone rounding, n·1 = n exactly) -/
  mul_int_unit : ∀ (n : Int) (w : F), 1 ≤ n → n ≤ B → LE fz w → LE w VOps.one → LE fz (VOps.mul (I n) w) ∧ LE (VOps.mul (I n) w) (I n)
  /- u < 1 means u ≤ 1-2^-53; n·(1-2^-53) lies at or below the midpoint of pred(n) and n (equal only for n a power of two, where
     it is pred(n) itself), so round-to-nearest gives fl(n·u) ≤ pred(n) < n -/
  mul_int_lt : ∀ (n : Int) (u : F), 1 ≤ n → n ≤ B → LE fz u → LT u VOps.one → LT (VOps.mul (I n) u) (I n)
  /- q ∈ [0,1], t an exact integer ≥ 0: fl(q·t) ∈ [0,t] (q·0 = ±0) -/
  mul_unit_int : ∀ (q : F) (t : Int), LE fz q → LE q VOps.one → 0 ≤ t → t ≤ B → LE fz (VOps.mul q (I t)) ∧ LE (VOps.mul q (I t)) (I t)
  /- a product of two non-negative values that is not NaN (it is comparable with some c) is non-negative; inf·0 = NaN is excluded -/
  mul_nonneg : ∀ a b c : F, LE fz a → LE fz b → LE (VOps.mul a b) c → LE fz (VOps.mul a b)
  /- NaN propagates through `*`: a non-NaN product has a non-NaN left factor -/
  mul_left_notnan : ∀ a b c : F, LE (VOps.mul a b) c → LE a a
  neg_antitone : ∀ a b : F, LE a b → LE (VOps.neg b) (VOps.neg a)
  /- division by an exact positive integer is monotone (also at ±inf) -/
  div_mono : ∀ (n : Int) (a b : F), 1 ≤ n → n ≤ B → LE a b → LE (VOps.div a (I n)) (VOps.div b (I n))
  /- (-n)/n = -1 exactly -/
  div_neg_self : ∀ n : Int, 1 ≤ n → n ≤ B → LE (I (-1) : F) (VOps.div (VOps.neg (I n)) (I n))
  div_int_nonneg : ∀ a b : Int, 0 ≤ a → a ≤ B → 1 ≤ b → b ≤ B → LE (fz : F) (VOps.div (I a) (I b))
  div_int_le_one : ∀ a b : Int, 0 ≤ a → a ≤ b → 1 ≤ b → b ≤ B → LE (VOps.div (I a) (I b) : F) VOps.one
  div_zero_nonpos : ∀ b : Int, 1 ≤ b → b ≤ B → LE (VOps.div (I 0) (I b) : F) fz
  add_one_mono : ∀ a b : F, LE a b → LE (VOps.add a VOps.one) (VOps.add b VOps.one)
  /- `(int64_t) floor(x)` for 0 ≤ x ≤ n ≤ B (in range of int64: no undefined conversion) -/
  floor_range : ∀ (x : F) (n : Int), 0 ≤ n → n ≤ B → LE fz x → LE x (I n) → 0 ≤ VOps.floorI x ∧ VOps.floorI x ≤ n
  floor_lt : ∀ (x : F) (n : Int), 1 ≤ n → n ≤ B → LE fz x → LT x (I n) → VOps.floorI x < n

/-! Consequences of the list (proved, not assumed): the lower halves of `exp_unit`, `mul_int_lt'`, `floor_lt'` follow from
    `exp_nonneg`, `mul_int_unit`, `floor_range` and `lt_le`. -/
theorem FloatFacts.exp_unit {B : Int} (ff : FloatFacts F B) (x : F) (h : LE x fz) :
    LE fz (VOps.exp x) ∧ LE (VOps.exp x) VOps.one :=
  ⟨ff.exp_nonneg x VOps.one (ff.exp_le_one x h), ff.exp_le_one x h⟩

theorem FloatFacts.mul_int_lt' {B : Int} (ff : FloatFacts F B) (n : Int) (u : F) (h1 : 1 ≤ n) (hB : n ≤ B) (h0 : LE fz u)
    (hu : LT u VOps.one) : LE fz (VOps.mul (I n) u) ∧ LT (VOps.mul (I n) u) (I n) :=
  ⟨(ff.mul_int_unit n u h1 hB h0 (ff.lt_le _ _ hu)).1, ff.mul_int_lt n u h1 hB h0 hu⟩

theorem FloatFacts.floor_lt' {B : Int} (ff : FloatFacts F B) (x : F) (n : Int) (h1 : 1 ≤ n) (hB : n ≤ B) (h0 : LE fz x)
    (hx : LT x (I n)) : 0 ≤ VOps.floorI x ∧ VOps.floorI x < n :=
  ⟨(ff.floor_range x n (by omega) hB h0 (ff.lt_le _ _ hx)).1, ff.floor_lt x n h1 hB h0 hx⟩

variable {B : Int} {σ : Type}

/-- `add_int` with its six range conditions as one hypothesis (one arithmetic goal at each use) -/
theorem FloatFacts.add_int' (ff : FloatFacts F B) (a b : Int)
    (h : -B ≤ a ∧ a ≤ B ∧ -B ≤ b ∧ b ≤ B ∧ -B ≤ a + b ∧ a + b ≤ B) : VOps.add (I a) (I b) = (I (a + b) : F) :=
  ff.add_int a b h.1 h.2.1 h.2.2.1 h.2.2.2.1 h.2.2.2.2.1 h.2.2.2.2.2

theorem FloatFacts.sub_one (ff : FloatFacts F B) (a : Int) (h1 : 1 ≤ a) (hB : a ≤ B) :
    VOps.sub (I a) VOps.one = (I (a - 1) : F) :=
  ff.sub_int a 1 (by omega) hB (by omega) (by omega) (by omega) (by omega)

/-- `0 ≤ v ≤ 1` in the carrier's comparison -/
def Unit01 (v : F) : Prop := LE fz v ∧ LE v VOps.one

theorem powU_unit_abs (ff : FloatFacts F B) (k : Int) (hk1 : 1 ≤ k) (hkB : k ≤ B) (u : F) (hu : Unit01 u) :
    Unit01 (VOps.powU (VOps.div VOps.one (I k)) u) :=
  ff.exp_unit _ (ff.mul_inv_nonpos k _ hk1 hkB (ff.log_nonpos u hu.1 hu.2))

theorem dblOpen_unit01 (ff : FloatFacts F B) (w : UInt64) : Unit01 (VOps.dblOpen w : F) :=
  ⟨ff.lt_le _ _ (ff.dblOpen_unit w).1, ff.lt_le _ _ (ff.dblOpen_unit w).2⟩

theorem dbl_unit01 (ff : FloatFacts F B) (w : UInt64) : Unit01 (VOps.dbl w : F) :=
  ⟨(ff.dbl_unit w).1, ff.lt_le _ _ (ff.dbl_unit w).2⟩

/-- a `minv` / `mmin1inv` value: `1.0 / (double) k` for an integer `1 ≤ k ≤ B` -/
def IsInv (B : Int) (x : F) : Prop := ∃ k : Int, 1 ≤ k ∧ k ≤ B ∧ x = VOps.div VOps.one (I k)

theorem powU_unit_inv (ff : FloatFacts F B) (x : F) (hx : IsInv B x) (u : F) (hu : Unit01 u) : Unit01 (VOps.powU x u) := by
  obtain ⟨k, h1, h2, rfl⟩ := hx
  exact powU_unit_abs ff k h1 h2 u hu

theorem d64FindS_abs (ff : FloatFacts F B) (next : σ → UInt64 × σ) (n : Int) (hn1 : 1 ≤ n) (hnB : n ≤ B) (minv : F)
    (hminv : IsInv B minv) (qu1 : Int) (fuel : Nat) (V : F) (s : σ) (hV : Unit01 V) (X : F) (S : Int) (s' : σ)
    (h : d64FindS next (I n) minv qu1 V s fuel = some (X, S, s')) :
    S < qu1 ∧ 0 ≤ S ∧ LE fz X ∧ LE X (I n) := by
  induction fuel generalizing V s with
  | zero => simp [d64FindS] at h
  | succ fuel ih =>
    simp only [d64FindS] at h
    split at h
    · rename_i hlt
      simp only [Option.some.injEq, Prod.mk.injEq] at h
      obtain ⟨hX, hS, _⟩ := h
      subst hX; subst hS
      obtain ⟨w0, w1⟩ := ff.one_sub_unit V hV.1 hV.2
      obtain ⟨x0, x1⟩ := ff.mul_int_unit n _ hn1 hnB w0 w1
      obtain ⟨f0, _⟩ := ff.floor_range _ n (by omega) hnB x0 x1
      exact ⟨hlt, f0, x0, x1⟩
    · exact ih _ _ (powU_unit_inv ff minv hminv _ (dblOpen_unit01 ff _)) h

structure CtxOKA (B : Int) (c : D64Ctx F) : Prop where
  n_pos : 1 ≤ c.n
  n_le : c.n ≤ B
  qu1_pos : 1 ≤ c.qu1
  qu1_le : c.qu1 ≤ c.n
  nreal_eq : c.nreal = I c.n
  qu1real_eq : c.qu1real = I c.qu1
  minv_inv : IsInv B c.minv
  mmin1inv_inv : IsInv B c.mmin1inv

theorem d64Accept_abs (ff : FloatFacts F B) (next : σ → UInt64 × σ) (c : D64Ctx F) (hc : CtxOKA B c)
    (fuel : Nat) (V : F) (s : σ) (hV : Unit01 V) (S : Int) (V1 : F) (s' : σ)
    (h : d64Accept next c V s fuel = some (S, V1, s')) :
    0 ≤ S ∧ S < c.qu1 ∧ Unit01 V1 := by
  induction fuel generalizing V s with
  | zero => simp [d64Accept] at h
  | succ fuel ih =>
    simp only [d64Accept] at h
    cases hfind : d64FindS next c.nreal c.minv c.qu1 V s (fuel+1) with
    | none => rw [hfind] at h; cases h
    | some r =>
      obtain ⟨X, S0, s1⟩ := r
      rw [hfind] at h
      simp only [] at h
      have hfind' := hfind
      rw [hc.nreal_eq] at hfind'
      obtain ⟨hlt, hS0, hX0, hX1⟩ := d64FindS_abs ff next c.n hc.n_pos hc.n_le c.minv hc.minv_inv c.qu1 _ V s hV X S0 s1 hfind'
      have hB1 : 1 ≤ B := Int.le_trans hc.n_pos hc.n_le
      have hu3 := dblOpen_unit01 (F := F) ff (next (next s1).2).1
      split at h
      · rename_i hle
        simp only [Option.some.injEq, Prod.mk.injEq] at h
        obtain ⟨hS, hV1, _⟩ := h
        subst hS; subst hV1
        refine ⟨hS0, hlt, ?_, hle⟩
        -- V1 = (y1 * A) * Q is not NaN (it passed `<= 1.`), so neither is y1 * A, so neither is y1 = exp(..) ≥ 0
        have hP' := ff.mul_left_notnan _ _ _ hle
        have hy' := ff.mul_left_notnan _ _ _ hP'
        have hy := ff.exp_nonneg _ _ hy'
        -- A = (-X)/nreal + 1 ≥ 0 from 0 ≤ X ≤ nreal, by monotonicity of each rounded operation
        have hA : LE fz (VOps.add (VOps.div (VOps.neg X) c.nreal) VOps.one) := by
          rw [hc.nreal_eq]
          have a1 := ff.neg_antitone _ _ hX1
          have a2 := ff.div_mono c.n _ _ hc.n_pos hc.n_le a1
          have a3 := ff.le_trans _ _ _ (ff.div_neg_self c.n hc.n_pos hc.n_le) a2
          have a4 := ff.add_one_mono _ _ a3
          rw [one_eq_I, ff.add_int' (-1) 1 (by omega)] at a4
          exact a4
        have hP := ff.mul_nonneg _ _ _ hy hA hP'
        -- Q = qu1real / (negSreal + qu1real) = qu1 / (qu1 - S) with 1 ≤ qu1 - S
        have hQ : LE fz (VOps.div c.qu1real (VOps.add (VOps.ofInt (-S0)) c.qu1real)) := by
          rw [hc.qu1real_eq]
          have hq1 := hc.qu1_pos; have hq2 := hc.qu1_le; have hn2 := hc.n_le
          rw [ff.add_int' (-S0) c.qu1 (by omega)]
          exact ff.div_int_nonneg c.qu1 (-S0 + c.qu1) (by omega) (by omega) (by omega) (by omega)
        exact ff.mul_nonneg _ _ _ hP hQ hle
      · split at h
        · simp only [Option.some.injEq, Prod.mk.injEq] at h
          obtain ⟨hS, hV1, _⟩ := h
          subst hS; subst hV1
          exact ⟨hS0, hlt, powU_unit_inv ff _ hc.mmin1inv_inv _ hu3⟩
        · exact ih _ _ (powU_unit_inv ff _ hc.minv_inv _ hu3) h

/-- `deal[0..i-1]` (newest first): strictly decreasing, every entry in `0..j` -/
def AccOKz (acc : List Int) (j : Int) : Prop := acc.Pairwise (· > ·) ∧ ∀ a ∈ acc, 0 ≤ a ∧ a ≤ j

theorem AccOKz.push {acc : List Int} {j : Int} (h : AccOKz acc j) (hj : -1 ≤ j) (S : Int) (hS : 0 ≤ S) :
    AccOKz ((j + (S + 1)) :: acc) (j + (S + 1)) := by
  refine ⟨List.pairwise_cons.2 ⟨fun a ha => ?_, h.1⟩, fun a ha => ?_⟩
  · have := h.2 a ha; omega
  · rcases List.mem_cons.1 ha with rfl | ha
    · omega
    · have := h.2 a ha; omega

structure StInvA (B m0 n0 : Int) (st : D64St F) : Prop where
  m_pos : 1 ≤ st.m
  m_le : st.m ≤ st.n
  qu1_eq : st.qu1 = st.n - st.m + 1
  mreal_eq : st.mreal = I st.m
  nreal_eq : st.nreal = I st.n
  qu1real_eq : st.qu1real = I st.qu1
  minv_inv : IsInv B st.minv
  V_unit : Unit01 st.V
  jn : st.j + st.n = n0 - 1
  len : (st.acc.length : Int) + st.m = m0
  j_lb : -1 ≤ st.j
  acc_ok : AccOKz st.acc st.j

theorem StInvA.ctxOK {m0 n0 : Int} {st : D64St F} (ff : FloatFacts F B) (hn0 : n0 ≤ B) (hinv : StInvA B m0 n0 st)
    (hm2 : 2 ≤ st.m) : CtxOKA B st.ctx := by
  have hml := hinv.m_le; have hq := hinv.qu1_eq; have hjn := hinv.jn; have hj := hinv.j_lb
  refine ⟨by show 1 ≤ st.n; omega, by show st.n ≤ B; omega, by show 1 ≤ st.qu1; omega, by show st.qu1 ≤ st.n; omega,
    hinv.nreal_eq, hinv.qu1real_eq, hinv.minv_inv, st.m - 1, by omega, by omega, ?_⟩
  show VOps.div VOps.one (VOps.add (VOps.ofInt (-1)) st.mreal) = VOps.div VOps.one (I (st.m - 1))
  rw [hinv.mreal_eq, ff.add_int' (-1) st.m (by omega), Int.add_comm, ← Int.sub_eq_add_neg]

theorem StInvA.advance {m0 n0 : Int} {st : D64St F} (ff : FloatFacts F B) (hn0 : n0 ≤ B) (hinv : StInvA B m0 n0 st)
    (hm2 : 2 ≤ st.m) (S : Int) (V1 : F) (hS0 : 0 ≤ S) (hSlt : S < st.qu1) (hV1 : Unit01 V1) :
    StInvA B m0 n0 (st.advance S V1) := by
  have hml := hinv.m_le; have hq := hinv.qu1_eq; have hjn := hinv.jn; have hj := hinv.j_lb; have hlen := hinv.len
  refine ⟨by show 1 ≤ st.m - 1; omega, by show st.m - 1 ≤ st.n - S - 1; omega,
    by show st.qu1 - S = st.n - S - 1 - (st.m - 1) + 1; omega, ?_, ?_, ?_, (hinv.ctxOK ff hn0 hm2).mmin1inv_inv, hV1,
    by show st.j + (S + 1) + (st.n - S - 1) = n0 - 1; omega, ?_, by show -1 ≤ st.j + (S + 1); omega,
    hinv.acc_ok.push hj S hS0⟩
  · show VOps.sub st.mreal VOps.one = I (st.m - 1)
    rw [hinv.mreal_eq, ff.sub_one st.m (by omega) (by omega)]
  · show VOps.sub (VOps.add st.nreal (VOps.ofInt (-S))) VOps.one = I (st.n - S - 1)
    rw [hinv.nreal_eq, ff.add_int' st.n (-S) (by omega), ff.sub_one (st.n + -S) (by omega) (by omega), ← Int.sub_eq_add_neg]
  · show VOps.add st.qu1real (VOps.ofInt (-S)) = I (st.qu1 - S)
    rw [hinv.qu1real_eq, ff.add_int' st.qu1 (-S) (by omega), ← Int.sub_eq_add_neg]
  · show (((st.j + (S + 1)) :: st.acc).length : Int) + (st.m - 1) = m0
    simp only [List.length_cons, Int.natCast_add, Int.natCast_one]; omega

theorem d64Main_abs (ff : FloatFacts F B) (next : σ → UInt64 × σ) (fuel : Nat) (m0 n0 : Int) (hn0 : n0 ≤ B) (k : Nat)
    (st : D64St F) (s : σ) (hinv : StInvA B m0 n0 st) (st' : D64St F) (s' : σ)
    (h : d64Main next fuel k st s = some (st', s')) : StInvA B m0 n0 st' := by
  induction k generalizing st s with
  | zero =>
    simp only [d64Main] at h
    split at h
    · cases h
    · cases h; exact hinv
  | succ k ih =>
    simp only [d64Main] at h
    split at h
    · rename_i hcond
      cases hacc : d64Accept next st.ctx st.V s fuel with
      | none => rw [hacc] at h; cases h
      | some r =>
        obtain ⟨S, V1, s1⟩ := r
        rw [hacc] at h
        have hm2 : 2 ≤ st.m := by omega
        obtain ⟨hS0, hSlt, hV1⟩ := d64Accept_abs ff next _ (hinv.ctxOK ff hn0 hm2) fuel st.V s hinv.V_unit S V1 s1 hacc
        exact ih _ _ (hinv.advance ff hn0 hm2 S V1 hS0 hSlt hV1) h
    · cases h; exact hinv

/-- the skip loop runs at most `t` rounds: the integer-valued double `top` reaches exactly 0, which makes `quot ≤ 0 < U` -/
theorem vaSkip_total (ff : FloatFacts F B) (U : F) (hU : LT fz U) (fuel : Nat) (quot top nreal : F) (S t r : Int)
    (ht : 0 ≤ t) (htr : t < r) (hrB : r ≤ B) (htop : top = I t) (hnr : nreal = I r) (hq01 : Unit01 quot)
    (hq : t = 0 → LE quot fz) (hfuel : t < fuel) :
    ∃ k : Int, 0 ≤ k ∧ k ≤ t ∧ vaSkip U fuel quot top nreal S = some (S + k, I (t - k), I (r - k)) := by
  induction fuel generalizing quot top nreal S t r with
  | zero => omega
  | succ fuel ih =>
    simp only [vaSkip]
    split
    · rename_i hlt
      -- `quot > U > 0` excludes `t = 0`; the next `quot = (quot * (t-1)) / (r-1)` is again in `[0,1]`, and `≤ 0` once `t - 1 = 0`
      have ht1 : 1 ≤ t := Classical.byContradiction fun hc => ff.lt_lt_le_absurd _ _ _ hU hlt (hq (by omega))
      obtain ⟨m0, m1⟩ := ff.mul_unit_int quot (t - 1) hq01.1 hq01.2 (by omega) (by omega)
      have d1 := ff.div_mono (r - 1) _ _ (by omega) (by omega) m1
      rw [htop, hnr, ff.sub_one t ht1 (by omega), ff.sub_one r (by omega) hrB]
      obtain ⟨k, hk0, hk1, e⟩ := ih _ _ _ (S + 1) (t - 1) (r - 1) (by omega) (by omega) (by omega) rfl rfl
        ⟨ff.le_trans _ _ _ (ff.div_int_nonneg 0 (r - 1) (by omega) (by omega) (by omega) (by omega))
            (ff.div_mono (r - 1) _ _ (by omega) (by omega) m0),
          ff.le_trans _ _ _ d1 (ff.div_int_le_one (t - 1) (r - 1) (by omega) (by omega) (by omega) (by omega))⟩
        (fun ht0 => by rw [ht0] at d1 ⊢; exact ff.le_trans _ _ _ d1 (ff.div_zero_nonpos (r - 1) (by omega) (by omega))) (by omega)
      refine ⟨k + 1, by omega, by omega, ?_⟩
      rw [e, show S + 1 + k = S + (k + 1) by omega, show t - 1 - k = t - (k + 1) by omega, show r - 1 - k = r - (k + 1) by omega]
    · exact ⟨0, Int.le_refl _, ht, by rw [htop, hnr]; simp⟩

theorem AccOKz.append {acc new : List Int} {j hi : Int} (h : AccOKz acc j) (hj : -1 ≤ j) (hjhi : j ≤ hi) (hp : new.Pairwise (· > ·))
    (hr : ∀ a ∈ new, j < a ∧ a ≤ hi) : AccOKz (new ++ acc) hi := by
  refine ⟨List.pairwise_append.2 ⟨hp, h.1, fun a ha b hb => ?_⟩, fun a ha => ?_⟩
  · have := hr a ha; have := h.2 b hb; omega
  · rcases List.mem_append.1 ha with ha | ha
    · have := hr a ha; omega
    · have := h.2 a ha; omega

/-- method A (`vitter_a`) from any `j`, `acc`, for EVERY generator state, no probability: with fuel `> r - m` it returns, and what it puts
    before `acc` is `m` values, newest first, strictly decreasing, all in `(j, j + r]` -/
theorem vaLoop_total (ff : FloatFacts F B) (next : σ → UInt64 × σ) (fuel : Nat) (k : Nat) (m j r : Int) (top nreal : F)
    (acc : List Int) (s : σ) (hm : 1 ≤ m) (hmr : m ≤ r) (hrB : r ≤ B) (htop : top = I (r - m)) (hnr : nreal = I r)
    (hk : m ≤ k) (hfuel : r - m < fuel) :
    ∃ new s', vaLoop next fuel k m j top nreal acc s = some (new ++ acc, s') ∧ (new.length : Int) = m ∧ new.Pairwise (· > ·) ∧
      ∀ a ∈ new, j < a ∧ a ≤ j + r := by
  induction k generalizing m j r top nreal acc s with
  | zero => omega
  | succ k ih =>
    simp only [vaLoop]
    split
    · rename_i hm2
      subst htop; subst hnr
      obtain ⟨S, hS0, hS1, e⟩ := vaSkip_total ff _ (ff.dblOpen_unit (next s).1).1 fuel _ _ _ 0 (r - m) r (by omega) (by omega) hrB rfl rfl
        ⟨ff.div_int_nonneg (r - m) r (by omega) (by omega) (by omega) hrB, ff.div_int_le_one (r - m) r (by omega) (by omega) (by omega) hrB⟩
        (fun h0 => by rw [h0]; exact ff.div_zero_nonpos r (by omega) hrB) (by omega)
      rw [e]
      simp only [Int.zero_add]
      rw [ff.sub_one (r - S) (by omega) (by omega)]
      obtain ⟨new, s', e', hl, hp, hr⟩ := ih (m - 1) (j + (S + 1)) (r - S - 1) (I (r - m - S)) _ ((j + (S + 1)) :: acc) (next s).2
        (by omega) (by omega) (by omega) (by congr 1; omega) rfl (by omega) (by omega)
      refine ⟨new ++ [j + (S + 1)], s', ?_, ?_, ?_, fun a ha => ?_⟩
      · rw [e', List.append_assoc]; rfl
      · simp only [List.length_append, List.length_cons, List.length_nil, Int.natCast_add]; omega
      · exact List.pairwise_append.2 ⟨hp, List.pairwise_singleton _ _, fun a ha b hb => by
          have := hr a ha; rw [List.mem_singleton.1 hb]; omega⟩
      · rcases List.mem_append.1 ha with ha | ha
        · have := hr a ha; omega
        · rw [List.mem_singleton.1 ha]; omega
    · rename_i hm2
      have hu := ff.dbl_unit (F := F) (next s).1
      have hS : 0 ≤ VOps.floorI (VOps.mul (VOps.round nreal) (VOps.dbl (next s).1 : F)) ∧
                VOps.floorI (VOps.mul (VOps.round nreal) (VOps.dbl (next s).1 : F)) < r := by
        rw [hnr, ff.round_int r (by omega) hrB]
        obtain ⟨x0, x1⟩ := ff.mul_int_lt' r _ (by omega) hrB hu.1 hu.2
        exact ff.floor_lt' _ r (by omega) hrB x0 x1
      exact ⟨[j + (VOps.floorI (VOps.mul (VOps.round nreal) (VOps.dbl (next s).1 : F)) + 1)], _, rfl, by simp; omega,
        List.pairwise_singleton _ _, fun a ha => by rw [List.mem_singleton.1 ha]; omega⟩

theorem vaLoop_terminates (ff : FloatFacts F B) (next : σ → UInt64 × σ) (fuel : Nat) (k : Nat) (m j r : Int) (top nreal : F)
    (acc : List Int) (s : σ) (hm : 1 ≤ m) (hmr : m ≤ r) (hrB : r ≤ B) (htop : top = I (r - m)) (hnr : nreal = I r)
    (hk : m ≤ k) (hfuel : r - m < fuel) : (vaLoop next fuel k m j top nreal acc s).isSome := by
  obtain ⟨new, s', e, _⟩ := vaLoop_total ff next fuel k m j r top nreal acc s hm hmr hrB htop hnr hk hfuel
  rw [e]; rfl

/-- exactly `m` strictly increasing values in `0..hi` -/
def DealOKz (out : List Int) (m hi : Int) : Prop :=
  (out.length : Int) = m ∧ out.Pairwise (· < ·) ∧ ∀ a ∈ out, 0 ≤ a ∧ a ≤ hi

theorem AccOKz.dealOK {acc : List Int} {j m : Int} (h : AccOKz acc j) (hl : (acc.length : Int) = m) : DealOKz acc.reverse m j :=
  ⟨by simpa using hl, by rw [List.pairwise_reverse]; exact h.1, fun a ha => h.2 a (List.mem_reverse.1 ha)⟩

theorem d64LastSkip_abs (ff : FloatFacts F B) (n : Int) (hn : 1 ≤ n) (hnB : n ≤ B) (V : F) (hV : Unit01 V) :
    0 ≤ d64LastSkip n V ∧ d64LastSkip n V < n := by
  obtain ⟨x0, x1⟩ := ff.mul_int_unit n V hn hnB hV.1 hV.2
  have hf : 0 ≤ VOps.floorI (VOps.mul (VOps.ofInt n) V) ∧ VOps.floorI (VOps.mul (VOps.ofInt n) V) ≤ n :=
    ff.floor_range _ n (by omega) hnB x0 x1
  obtain ⟨f0, f1⟩ := hf
  simp only [d64LastSkip]
  split <;> omega

theorem d64Init_inv (ff : FloatFacts F B) (m n : Int) (hm : 1 ≤ m) (hmn : m ≤ n) (hnB : n ≤ B) (w : UInt64) :
    StInvA B m n (d64Init m n w : D64St F) := by
  refine ⟨hm, hmn, rfl, rfl, rfl, ?_, ⟨m, hm, by omega, rfl⟩, powU_unit_abs ff m hm (by omega) _ (dbl_unit01 ff _),
    by show (-1 : Int) + n = n - 1; omega, by simp [d64Init], Int.le_refl _, ⟨List.Pairwise.nil, by simp [d64Init]⟩⟩
  show VOps.add (VOps.sub (VOps.ofInt n) (VOps.ofInt m)) VOps.one = I (n - m + 1)
  rw [one_eq_I, ff.sub_int n m (by omega) (by omega) (by omega) (by omega) (by omega) (by omega), ff.add_int' (n - m) 1 (by omega)]

theorem deal64Core_abs (ff : FloatFacts F B) (next : σ → UInt64 × σ) (fuel : Nat) (m n : Int) (hm : 1 ≤ m) (hmn : m ≤ n)
    (hnB : n ≤ B) (s : σ) (out : List Int) (v : Option F) (s' : σ) (h : deal64Core next fuel m n s = some (out, v, s')) :
    DealOKz out m (n - 1) ∧ ∀ x, v = some x → Unit01 x := by
  -- a result is the result for every larger fuel: enough of it for method A, which then returns for certain
  replace h := deal64Core_mono next fuel (max fuel n.toNat) (Nat.le_max_left _ _) m n s _ h
  have hfuel : n ≤ (max fuel n.toNat : Nat) := by have := Nat.le_max_right fuel n.toNat; omega
  revert h hfuel
  generalize max fuel n.toNat = fuel
  intro h hfuel
  simp only [deal64Core] at h
  have hinv0 := d64Init_inv (F := F) ff m n hm hmn hnB (next s).1
  revert h
  generalize (d64Init m n (next s).1 : D64St F) = st0 at hinv0 ⊢
  intro h
  cases hmain : d64Main next fuel m.toNat st0 (next s).2 with
  | none => rw [hmain] at h; cases h
  | some q =>
    obtain ⟨st, s1⟩ := q
    rw [hmain] at h
    simp only [] at h
    have hinv := d64Main_abs ff next fuel m n hnB _ st0 _ hinv0 st s1 hmain
    have hjn := hinv.jn; have hjl := hinv.j_lb; have hml := hinv.m_le; have hmp := hinv.m_pos
    split at h
    · obtain ⟨new, s2, e, hl, hp, hr⟩ := vaLoop_total ff next fuel st.m.toNat st.m st.j st.n _ _ st.acc s1 hmp hml (by omega) rfl rfl
        (by omega) (by omega)
      rw [vitterA, e] at h
      simp only [Option.some.injEq, Prod.mk.injEq] at h
      obtain ⟨h1, h2, _⟩ := h
      subst h1; subst h2
      refine ⟨(hinv.acc_ok.append hjl (by omega) hp (fun a ha => by have := hr a ha; omega)).dealOK ?_, fun x hx => nomatch hx⟩
      have := hinv.len
      simp only [List.length_append, Int.natCast_add]; omega
    · rename_i hm1
      have hm1' : st.m = 1 := by have := hinv.m_pos; omega
      simp only [Option.some.injEq, Prod.mk.injEq] at h
      obtain ⟨h1, h2, _⟩ := h
      subst h1; subst h2
      have hnB' : st.n ≤ B := by have := hinv.jn; have := hinv.j_lb; omega
      obtain ⟨hS0, hS1⟩ := d64LastSkip_abs ff st.n (by have := hinv.m_le; omega) hnB' st.V hinv.V_unit
      have hp := hinv.acc_ok.push hinv.j_lb _ hS0
      have hl : ((((st.j + (d64LastSkip st.n st.V + 1)) :: st.acc).length : Nat) : Int) = m := by
        have := hinv.len
        simp only [List.length_cons, Int.natCast_add, Int.natCast_one]; omega
      have hd := hp.dealOK hl
      have hjn := hinv.jn
      refine ⟨⟨hd.1, hd.2.1, fun a ha => ?_⟩, fun x hx => Option.some.inj hx ▸ hinv.V_unit⟩
      have := hd.2.2 a ha; omega

/-- `esl_rand64_Deal` as it was before ba43348: the final step is `S = floor(n * Vprime); j += S+1;` without `if (S >= n) S = n-1` -/
def deal64PreFix (next : σ → UInt64 × σ) (fuel : Nat) (m n : Int) (s : σ) : Option (List Int × σ) :=
  let p0 := next s
  let st0 : D64St F := d64Init m n p0.1
  match d64Main next fuel m.toNat st0 p0.2 with
  | none => none
  | some (st, s1) =>
    if st.m > 1 then
      match vitterA (F := F) next fuel st.m st.n st.j st.acc s1 with
      | none => none
      | some (acc, s2) => some (acc.reverse, s2)
    else
      let S := VOps.floorI (VOps.mul (VOps.ofInt st.n) st.V)
      some (((st.j + (S + 1)) :: st.acc).reverse, s1)

theorem deal64PreFix_one (next : σ → UInt64 × σ) (fuel : Nat) (n : Int) (s : σ) :
    deal64PreFix (F := F) next fuel 1 n s =
      some ([-1 + (VOps.floorI (VOps.mul (VOps.ofInt n) (VOps.powU (VOps.div VOps.one (VOps.ofInt 1)) (VOps.dbl (next s).1 : F))) + 1)],
            (next s).2) := by
  simp [deal64PreFix, d64Main, d64Init]

theorem deal64PreFix_out_of_range (next : σ → UInt64 × σ) (fuel : Nat) (n : Int) (s : σ)
    (h1 : VOps.floorI (VOps.mul (VOps.ofInt n) (VOps.powU (VOps.div VOps.one (VOps.ofInt 1)) (VOps.dbl (next s).1 : F))) = n) :
    deal64PreFix (F := F) next fuel 1 n s = some ([n], (next s).2) ∧ ¬ DealOKz [n] 1 (n - 1) := by
  rw [deal64PreFix_one, h1]
  refine ⟨by congr 2; simp; omega, fun h => ?_⟩
  have := (h.2.2 n (by simp)).2
  omega


/-! ## `esl_rand64_Deal(m, n)` terminates for EVERY generator state when `n ≤ 13·m`

For `n ≤ 13·m` the method-D loop `while (m > 1 && n > threshold)` is not entered: the sample is produced by `vitter_a` (method A,
which terminates for every state: `vaLoop_terminates`) or, for `m = 1`, by the final `floor(n·Vprime)` step.  No probability. -/
theorem d64Main_not_entered (next : σ → UInt64 × σ) (fuel k : Nat) (st : D64St F) (s : σ) (h : ¬ (st.m > 1 ∧ st.n > st.threshold)) :
    d64Main next fuel k st s = some (st, s) := by
  cases k <;> simp only [d64Main, h, ↓reduceIte]

theorem deal64Core_small_terminates (ff : FloatFacts F B) (next : σ → UInt64 × σ) (fuel : Nat) (m n : Int) (hm : 1 ≤ m) (hmn : m ≤ n)
    (hsmall : n ≤ 13 * m) (hnB : n ≤ B) (hfuel : n - m < fuel) (s : σ) : (deal64Core (F := F) next fuel m n s).isSome := by
  unfold deal64Core
  simp only []
  rw [d64Main_not_entered next fuel _ _ _ (by simp only [d64Init]; omega)]
  simp only [d64Init]
  by_cases hm1 : m > 1
  · simp only [hm1, ↓reduceIte]
    have h := vaLoop_terminates ff next fuel m.toNat m (-1) n _ _ [] (next s).2 hm hmn hnB rfl rfl (by omega) hfuel
    unfold vitterA
    cases hv : vaLoop (F := F) next fuel m.toNat m (-1) (ofInt (n - m)) (ofInt n) [] (next s).2 with
    | none => rw [hv] at h; cases h
    | some q => rfl
  · simp only [hm1, ↓reduceIte]
    rfl

/-! ## The `int64_t` skeleton of `esl_rand64_Deal` never leaves the `int64_t` range

The model keeps `m, n, j, qu1, threshold, S` in `Int`.  Here: for `1 ≤ m ≤ n ≤ B` every value these variables take in any pass of
the method-D loop lies in `[-1, 13·m]` resp. `[-1, n]` — `threshold = 13·m'` for the current `m'`, `1 ≤ m' ≤ n' ≤ n`,
`1 ≤ qu1 = n' - m' + 1 ≤ n`, `-1 ≤ j < n`, every accepted skip `0 ≤ S < qu1` — so with `B = 2^53` all of them (and every sum or
difference of two of them the C code forms: `n - m + 1`, `n - S - 1`, `qu1 - S`, `j + S + 1`, `n - S`, `-S`, `threshold - 13`) are
below `2^57` in magnitude: the `Int` model and the `int64_t` code compute the same values, no wrap-around is reachable. -/
theorem d64Main_threshold (next : σ → UInt64 × σ) (fuel k : Nat) : ∀ (st : D64St F) (s : σ) (st' : D64St F) (s' : σ),
    st.threshold = 13 * st.m → d64Main next fuel k st s = some (st', s') → st'.threshold = 13 * st'.m := by
  induction k with
  | zero =>
    intro st s st' s' h0 h
    simp only [d64Main] at h
    split at h
    · cases h
    · cases h; exact h0
  | succ k ih =>
    intro st s st' s' h0 h
    simp only [d64Main] at h
    split at h
    · cases hacc : d64Accept next st.ctx st.V s fuel with
      | none => rw [hacc] at h; cases h
      | some r =>
        obtain ⟨S, V1, s1⟩ := r
        rw [hacc] at h
        apply ih _ _ _ _ _ h
        show st.threshold + (-13) = 13 * (st.m - 1)
        omega
    · cases h; exact h0

theorem d64_state_in_range (ff : FloatFacts F B) (next : σ → UInt64 × σ) (fuel k : Nat) (m n : Int) (hm : 1 ≤ m) (hmn : m ≤ n)
    (hnB : n ≤ B) (w : UInt64) (s : σ) (st : D64St F) (s' : σ) (h : d64Main next fuel k (d64Init m n w) s = some (st, s')) :
    1 ≤ st.m ∧ st.m ≤ st.n ∧ st.n ≤ n ∧ -1 ≤ st.j ∧ st.j < n ∧ st.qu1 = st.n - st.m + 1 ∧
    st.threshold = 13 * st.m ∧ st.m ≤ m ∧ (∀ a ∈ st.acc, 0 ≤ a ∧ a < n) := by
  have hinv := d64Main_abs ff next fuel m n hnB k _ s (d64Init_inv ff m n hm hmn hnB w) st s' h
  have hth := d64Main_threshold next fuel k _ s st s' (by rfl) h
  have h1 := hinv.m_pos; have h2 := hinv.m_le; have h3 := hinv.qu1_eq; have h4 := hinv.jn; have h5 := hinv.j_lb
  have h6 := hinv.len
  have hl : (0 : Int) ≤ (st.acc.length : Int) := Int.natCast_nonneg _
  refine ⟨h1, h2, by omega, h5, by omega, h3, hth, by omega, fun a ha => ?_⟩
  have := hinv.acc_ok.2 a ha
  omega

theorem d64_skip_in_range (ff : FloatFacts F B) (next : σ → UInt64 × σ) (fuel : Nat) (m0 n0 : Int) (hn0 : n0 ≤ B) (st : D64St F)
    (hinv : StInvA B m0 n0 st) (hm2 : 2 ≤ st.m) (s : σ) (S : Int) (V1 : F) (s1 : σ)
    (hacc : d64Accept next st.ctx st.V s fuel = some (S, V1, s1)) : 0 ≤ S ∧ S < st.qu1 ∧ st.qu1 ≤ n0 := by
  obtain ⟨hS0, hSlt, _⟩ := d64Accept_abs ff next _ (hinv.ctxOK ff hn0 hm2) fuel st.V s hinv.V_unit S V1 s1 hacc
  have := hinv.qu1_eq; have := hinv.jn; have := hinv.j_lb; have := hinv.m_pos
  exact ⟨hS0, hSlt, by omega⟩

end
end EaselModel.Random
