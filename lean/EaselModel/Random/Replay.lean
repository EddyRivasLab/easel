import EaselModel.Random.Samplers
/-! # Replay: every derived sampler is a function of the raw word stream (C09). Core Lean only.

If two sources are related by a relation `R` that `next` preserves and under which `next` yields the same word
(a bisimulation), then every sampler of `Samplers.lean` gives related results: the same value (or the same `nofuel` /
`fault`) and related final states.  Instances: a re-initialised generator of any history vs a fresh generator of the
same seed (`Rng.SameStream`), for both generator kinds. -/
namespace EaselModel.Random
open SOps
variable {σ₁ σ₂ : Type} {F : Type} [SOps F]

def Bisim (n1 : σ₁ → UInt32 × σ₁) (n2 : σ₂ → UInt32 × σ₂) (R : σ₁ → σ₂ → Prop) : Prop :=
  ∀ s1 s2, R s1 s2 → (n1 s1).1 = (n2 s2).1 ∧ R (n1 s1).2 (n2 s2).2

/-- same outcome: equal values and related states, or the same failure -/
def RelS (R : σ₁ → σ₂ → Prop) {α : Type} : SRes (α × σ₁) → SRes (α × σ₂) → Prop
  | .ok (a, s1), .ok (b, s2) => a = b ∧ R s1 s2
  | .nofuel, .nofuel => True
  | .fault, .fault => True
  | _, _ => False

variable {R : σ₁ → σ₂ → Prop}

theorem RelS.ok {α : Type} {a : α} {s1 : σ₁} {s2 : σ₂} (h : R s1 s2) : RelS R (SRes.ok (a, s1)) (SRes.ok (a, s2)) :=
  ⟨rfl, h⟩

theorem RelS.bind {α β : Type} {x : SRes (α × σ₁)} {y : SRes (α × σ₂)} {f : α × σ₁ → SRes (β × σ₁)}
    {g : α × σ₂ → SRes (β × σ₂)} (h : RelS R x y) (hfg : ∀ a s1 s2, R s1 s2 → RelS R (f (a, s1)) (g (a, s2))) :
    RelS R (x.bind f) (y.bind g) := by
  cases x with
  | ok p =>
    cases y with
    | ok q =>
      obtain ⟨a, s1⟩ := p; obtain ⟨b, s2⟩ := q
      obtain ⟨hab, hs⟩ := h
      subst hab
      exact hfg a s1 s2 hs
    | nofuel => exact h.elim
    | fault => exact h.elim
  | nofuel => cases y <;> first | exact h.elim | trivial
  | fault => cases y <;> first | exact h.elim | trivial

/-- a state-free step (table read) that is the same on both sides -/
theorem RelS.bind_pure {α β : Type} (x : SRes α) {f : α → SRes (β × σ₁)} {g : α → SRes (β × σ₂)}
    (hfg : ∀ a, RelS R (f a) (g a)) : RelS R (x.bind f) (x.bind g) := by
  cases x with
  | ok a => exact hfg a
  | nofuel => trivial
  | fault => trivial

variable {n1 : σ₁ → UInt32 × σ₁} {n2 : σ₂ → UInt32 × σ₂}

theorem uniPos_rel (hb : Bisim n1 n2 R) (f : Nat) (s1 : σ₁) (s2 : σ₂) (h : R s1 s2) :
    RelS R (uniPos (F := F) n1 s1 f) (uniPos n2 s2 f) := by
  induction f generalizing s1 s2 with
  | zero => trivial
  | succ f ih =>
    obtain ⟨hw, hR⟩ := hb s1 s2 h
    simp only [uniPos, hw]
    by_cases hc : (n2 s2).1 = 0
    · simp only [hc, ↓reduceIte]; exact ih _ _ hR
    · simp only [hc, ↓reduceIte]; exact RelS.ok hR

theorem gaussCenter_rel (hb : Bisim n1 n2 R) (fu : Nat) (T : GaussTables F) (i : Nat) (aa : F) (f : Nat)
    (ph : GPhase F) (s1 : σ₁) (s2 : σ₂) (h : R s1 s2) :
    RelS R (gaussCenter n1 fu T i aa ph s1 f) (gaussCenter n2 fu T i aa ph s2 f) := by
  induction f generalizing ph s1 s2 with
  | zero => cases ph <;> trivial
  | succ f ih =>
    cases ph with
    | p40 ustar =>
      simp only [gaussCenter]
      apply RelS.bind_pure; intro ti
      by_cases hc : le ustar ti = true
      · simp only [hc, ↓reduceIte]
        apply RelS.bind (uniPos_rel hb fu s1 s2 h); intro u t1 t2 ht
        apply RelS.bind_pure; intro ai
        exact ih _ _ _ ht
      · simp only [hc]
        apply RelS.bind_pure; intro hi
        exact RelS.ok h
    | p80 ustar tt w =>
      simp only [gaussCenter]
      by_cases hc : lt tt ustar = true
      · simp only [hc, ↓reduceIte]; exact RelS.ok h
      · simp only [hc]
        apply RelS.bind (uniPos_rel hb fu s1 s2 h); intro u t1 t2 ht
        apply RelS.bind (uniPos_rel hb fu t1 t2 ht); intro u2 t3 t4 ht2
        by_cases hc2 : le u ustar = true
        · simp only [hc2, ↓reduceIte]; exact ih _ _ _ ht2
        · simp only [hc2]; exact ih _ _ _ ht2

theorem gaussTail_rel (hb : Bisim n1 n2 R) (fu : Nat) (T : GaussTables F) (i : Nat) (aa : F) (f : Nat)
    (ph : TPhase F) (s1 : σ₁) (s2 : σ₂) (h : R s1 s2) :
    RelS R (gaussTail n1 fu T i aa ph s1 f) (gaussTail n2 fu T i aa ph s2 f) := by
  induction f generalizing ph s1 s2 with
  | zero => cases ph <;> trivial
  | succ f ih =>
    cases ph with
    | p140 u =>
      simp only [gaussTail]
      apply RelS.bind_pure; intro di
      exact ih _ _ _ h
    | p160 tt w =>
      simp only [gaussTail]
      apply RelS.bind (uniPos_rel hb fu s1 s2 h); intro us t1 t2 ht
      by_cases hc : lt tt us = true
      · simp only [hc, ↓reduceIte]; exact RelS.ok ht
      · simp only [hc]
        apply RelS.bind (uniPos_rel hb fu t1 t2 ht); intro u2 t3 t4 ht2
        by_cases hc2 : le u2 us = true
        · simp only [hc2, ↓reduceIte]; exact ih _ _ _ ht2
        · simp only [hc2]
          apply RelS.bind (uniPos_rel hb fu t3 t4 ht2); intro u3 t5 t6 ht3
          exact ih _ _ _ ht3

theorem gaussian_rel (hb : Bisim n1 n2 R) (fu fuel : Nat) (T : GaussTables F) (mean sd : F) (s1 : σ₁) (s2 : σ₂)
    (h : R s1 s2) : RelS R (gaussian n1 fu fuel T mean sd s1) (gaussian n2 fu fuel T mean sd s2) := by
  simp only [gaussian, gaussSnorm]
  refine RelS.bind ?_ (by intro a t1 t2 ht; exact RelS.ok ht)
  apply RelS.bind (uniPos_rel hb fu s1 s2 h); intro u0 t1 t2 ht
  simp only [gaussBody]
  by_cases hc : gaussIndex (gaussScale u0) = 0
  · simp only [hc, ↓reduceIte]
    apply RelS.bind_pure; intro a31
    apply RelS.bind_pure; intro r
    apply RelS.bind (gaussTail_rel hb fu T _ _ fuel _ t1 t2 ht); intro w t3 t4 ht2
    exact RelS.ok ht2
  · simp only [hc, ↓reduceIte]
    apply RelS.bind_pure; intro aa
    apply RelS.bind (gaussCenter_rel hb fu T _ _ fuel _ t1 t2 ht); intro w t3 t4 ht2
    exact RelS.ok ht2

theorem gammaIntU_rel (hb : Bisim n1 n2 R) (fu : Nat) (a : Nat) (U : F) (s1 : σ₁) (s2 : σ₂) (h : R s1 s2) :
    RelS R (gammaIntU n1 fu a U s1) (gammaIntU n2 fu a U s2) := by
  induction a generalizing U s1 s2 with
  | zero => exact RelS.ok h
  | succ a ih =>
    simp only [gammaIntU]
    apply RelS.bind (uniPos_rel hb fu s1 s2 h); intro u t1 t2 ht
    exact ih _ _ _ ht

theorem ahrensCand_rel (hb : Bisim n1 n2 R) (a : F) (f : Nat) (s1 : σ₁) (s2 : σ₂) (h : R s1 s2) :
    RelS R (ahrensCand n1 a s1 f) (ahrensCand n2 a s2 f) := by
  induction f generalizing s1 s2 with
  | zero => trivial
  | succ f ih =>
    obtain ⟨hw, hR⟩ := hb s1 s2 h
    simp only [ahrensCand, hw]
    split
    · exact ih _ _ hR
    · exact RelS.ok hR

theorem gammaAhrens_rel (hb : Bisim n1 n2 R) (a : F) (f : Nat) (s1 : σ₁) (s2 : σ₂) (h : R s1 s2) :
    RelS R (gammaAhrens n1 a s1 f) (gammaAhrens n2 a s2 f) := by
  induction f generalizing s1 s2 with
  | zero => trivial
  | succ f ih =>
    simp only [gammaAhrens]
    apply RelS.bind (ahrensCand_rel hb a (f+1) s1 s2 h); intro c t1 t2 ht
    obtain ⟨hw, hR⟩ := hb t1 t2 ht
    simp only [hw]
    split
    · exact ih _ _ hR
    · exact RelS.ok hR

theorem gammaFraction_rel (hb : Bisim n1 n2 R) (fu : Nat) (a : F) (f : Nat) (s1 : σ₁) (s2 : σ₂) (h : R s1 s2) :
    RelS R (gammaFraction n1 fu a s1 f) (gammaFraction n2 fu a s2 f) := by
  induction f generalizing s1 s2 with
  | zero => trivial
  | succ f ih =>
    obtain ⟨hw, hR⟩ := hb s1 s2 h
    simp only [gammaFraction, hw]
    apply RelS.bind (uniPos_rel hb fu _ _ hR); intro V t1 t2 ht
    obtain ⟨hw2, hR2⟩ := hb t1 t2 ht
    simp only [hw2]
    split
    · exact ih _ _ hR2
    · exact RelS.ok hR2

theorem gamma_rel (hb : Bisim n1 n2 R) (fu fuel : Nat) (a : F) (s1 : σ₁) (s2 : σ₂) (h : R s1 s2) :
    RelS R (gamma n1 fu fuel a s1) (gamma n2 fu fuel a s2) := by
  simp only [gamma, gammaInteger]
  split
  · refine RelS.bind (gammaIntU_rel hb fu _ _ s1 s2 h) ?_
    intro a t1 t2 ht; exact RelS.ok ht
  · split
    · exact gammaAhrens_rel hb a fuel s1 s2 h
    · split
      · exact gammaFraction_rel hb fu a fuel s1 s2 h
      · refine RelS.bind (RelS.bind (gammaIntU_rel hb fu _ _ s1 s2 h) ?_) ?_
        · intro a t1 t2 ht; exact RelS.ok ht
        intro g1 t1 t2 ht
        apply RelS.bind (gammaFraction_rel hb fu _ fuel t1 t2 ht); intro g2 t3 t4 ht2
        exact RelS.ok ht2

theorem dirichletDraw_rel (hb : Bisim n1 n2 R) (fu fuel : Nat) (alpha acc : List F) (norm : F) (s1 : σ₁) (s2 : σ₂)
    (h : R s1 s2) : RelS R (dirichletDraw n1 fu fuel alpha acc norm s1) (dirichletDraw n2 fu fuel alpha acc norm s2) := by
  induction alpha generalizing acc norm s1 s2 with
  | nil => exact RelS.ok h
  | cons al rest ih =>
    simp only [dirichletDraw]
    apply RelS.bind (gamma_rel hb fu fuel al s1 s2 h); intro g t1 t2 ht
    exact ih _ _ _ _ ht

theorem dirichlet_rel (hb : Bisim n1 n2 R) (fu fuel : Nat) (alpha : List F) (s1 : σ₁) (s2 : σ₂) (h : R s1 s2) :
    RelS R (dirichlet n1 fu fuel alpha s1) (dirichlet n2 fu fuel alpha s2) := by
  simp only [dirichlet]
  refine RelS.bind (dirichletDraw_rel hb fu fuel alpha [] _ s1 s2 h) ?_
  intro a t1 t2 ht; exact RelS.ok ht

theorem rollS_rel (hb : Bisim n1 n2 R) (n : Nat) (f : Nat) (s1 : σ₁) (s2 : σ₂) (h : R s1 s2) :
    RelS R (rollS n1 n s1 f) (rollS n2 n s2 f) := by
  induction f generalizing s1 s2 with
  | zero => trivial
  | succ f ih =>
    obtain ⟨hw, hR⟩ := hb s1 s2 h
    simp only [rollS, hw]
    split
    · exact RelS.ok hR
    · exact ih _ _ hR

theorem rndMem_rel (hb : Bisim n1 n2 R) (fu n : Nat) (acc : List Nat) (s1 : σ₁) (s2 : σ₂) (h : R s1 s2) :
    RelS R (rndMem n1 fu n acc s1) (rndMem n2 fu n acc s2) := by
  induction n generalizing acc s1 s2 with
  | zero => exact RelS.ok h
  | succ n ih =>
    simp only [rndMem]
    apply RelS.bind (rollS_rel hb 256 fu s1 s2 h); intro v t1 t2 ht
    exact ih _ _ _ ht

theorem rndDigits_rel (hb : Bisim n1 n2 R) (fu k : Nat) (acc : List Char) (s1 : σ₁) (s2 : σ₂) (h : R s1 s2) :
    RelS R (rndDigits n1 fu k acc s1) (rndDigits n2 fu k acc s2) := by
  induction k generalizing acc s1 s2 with
  | zero => exact RelS.ok h
  | succ k ih =>
    simp only [rndDigits]
    apply RelS.bind (rollS_rel hb 10 fu s1 s2 h); intro v t1 t2 ht
    exact ih _ _ _ ht

theorem floatString_rel (hb : Bisim n1 n2 R) (fu : Nat) (s1 : σ₁) (s2 : σ₂) (h : R s1 s2) :
    RelS R (floatString n1 fu s1) (floatString n2 fu s2) := by
  simp only [floatString]
  apply RelS.bind (rollS_rel hb 2 fu s1 s2 h); intro sg t1 t2 ht
  apply RelS.bind (rollS_rel hb 7 fu t1 t2 ht); intro nl t3 t4 ht2
  apply RelS.bind
  · split
    · exact RelS.ok ht2
    · apply RelS.bind (rollS_rel hb 9 fu t3 t4 ht2); intro d1 t5 t6 ht3
      exact rndDigits_rel hb fu _ _ t5 t6 ht3
  intro ip t5 t6 ht3
  apply RelS.bind (rollS_rel hb 2 fu t5 t6 ht3); intro fr t7 t8 ht4
  apply RelS.bind
  · split
    · apply RelS.bind (rollS_rel hb 7 fu t7 t8 ht4); intro fl t9 t10 ht5
      exact rndDigits_rel hb fu _ _ t9 t10 ht5
    · exact RelS.ok ht4
  intro fp t9 t10 ht5
  apply RelS.bind (rollS_rel hb 2 fu t9 t10 ht5); intro ex t11 t12 ht6
  split
  · apply RelS.bind (rollS_rel hb 41 fu t11 t12 ht6); intro ev t13 t14 ht7
    exact RelS.ok ht7
  · exact RelS.ok ht6

/-! ## the 32-bit generator: the draw stream depends only on `kind` and on the table (Mersenne) resp. `x` (fast) -/
def Rng.SameStream (r1 r2 : Rng) : Prop :=
  r1.kind = r2.kind ∧ (r1.kind = .mersenne → r1.st = r2.st) ∧ (r1.kind = .fast → r1.x = r2.x)

theorem Rng.sameStream_bisim : Bisim Rng.next Rng.next Rng.SameStream := by
  intro r1 r2 ⟨hk, hs, hx⟩
  cases h1 : r1.kind with
  | mersenne =>
    have h2 : r2.kind = .mersenne := by rw [← hk]; exact h1
    simp [Rng.next, Rng.SameStream, h1, h2, hs h1]
  | fast =>
    have h2 : r2.kind = .fast := by rw [← hk]; exact h1
    simp [Rng.next, Rng.SameStream, h1, h2, hx h1]

theorem Rng.initWith_sameStream (r : Rng) (seed : UInt32) :
    Rng.SameStream (r.initWith seed) (Rng.create r.kind seed) := by
  cases h : r.kind with
  | mersenne => simp [Rng.SameStream, Rng.initWith, Rng.create, h]
  | fast => simp [Rng.SameStream, Rng.initWith, Rng.create, h]

end EaselModel.Random
