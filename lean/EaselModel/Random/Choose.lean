/-! `esl_rnd_DChoose` / `FChoose` / `DChooseCDF` over an abstract floating type (C09).
    The executable instance is binary64 (`Float`); the theorem needs only `x + 0 = x` and that the first test
    fails on an empty running sum. -/
namespace EaselModel.Random

class FOps (F : Type) where
  add : F → F → F
  div : F → F → F
  lt : F → F → Bool
  zero : F

instance : FOps Float := ⟨(· + ·), (· / ·), (fun a b => a < b), 0.0⟩

variable {F : Type} [FOps F]

/-- the second loop of `esl_rnd_DChoose`: running sum, first index with `roll < sum/norm` -/
def chooseGo (roll norm : F) : List F → F → Nat → Option Nat
  | [], _, _ => none       -- "unreached code was reached": esl_fatal
  | q :: rest, sum, i =>
    let sum' := FOps.add sum q
    if FOps.lt roll (FOps.div sum' norm) then some i else chooseGo roll norm rest sum' (i+1)

def dchoose (roll : F) (p : List F) : Option Nat :=
  let norm := p.foldl FOps.add FOps.zero
  chooseGo roll norm p FOps.zero 0

def dchooseCDFgo (roll last : F) : List F → Nat → Option Nat
  | [], _ => none
  | c :: rest, i => if FOps.lt roll (FOps.div c last) then some i else dchooseCDFgo roll last rest (i+1)

theorem chooseGo_nonzero (hadd : ∀ x : F, FOps.add x FOps.zero = x) (roll norm : F) (p : List F) (sum : F) (i0 : Nat)
    (hinv : FOps.lt roll (FOps.div sum norm) = false) (r : Nat) (h : chooseGo roll norm p sum i0 = some r) :
    i0 ≤ r ∧ ∃ q, p[r - i0]? = some q ∧ q ≠ FOps.zero := by
  induction p generalizing sum i0 with
  | nil => simp [chooseGo] at h
  | cons q rest ih =>
    simp only [chooseGo] at h
    split at h
    · rename_i hlt
      cases h
      refine ⟨Nat.le_refl _, q, by simp, ?_⟩
      intro hq
      rw [hq, hadd] at hlt
      rw [hinv] at hlt
      cases hlt
    · rename_i hnlt
      have hnlt' : FOps.lt roll (FOps.div (FOps.add sum q) norm) = false := by simpa using hnlt
      obtain ⟨hle, q', hq', hne⟩ := ih _ _ hnlt' h
      refine ⟨by omega, q', ?_, hne⟩
      have : r - i0 = (r - (i0+1)) + 1 := by omega
      rw [this]; simpa using hq'

/-- when every test of the loop fails, in particular the LAST one failed, and its running sum is the complete sum -/
theorem chooseGo_none (roll norm : F) (p : List F) (hp : p ≠ []) (sum : F) (i0 : Nat)
    (h : chooseGo roll norm p sum i0 = none) : FOps.lt roll (FOps.div (p.foldl FOps.add sum) norm) = false := by
  induction p generalizing sum i0 with
  | nil => exact absurd rfl hp
  | cons q rest ih =>
    simp only [chooseGo] at h
    split at h
    · cases h
    · rename_i hnlt
      cases rest with
      | nil => simpa using hnlt
      | cons q2 rest2 => exact ih (by simp) _ _ h

theorem dchoose_returns (roll : F) (p : List F) (hp : p ≠ [])
    (h1 : FOps.lt roll (FOps.div (p.foldl FOps.add FOps.zero) (p.foldl FOps.add FOps.zero)) = true) :
    ∃ r, dchoose roll p = some r := by
  cases h : dchoose roll p with
  | some r => exact ⟨r, rfl⟩
  | none =>
    have := chooseGo_none roll _ p hp FOps.zero 0 h
    rw [this] at h1
    cases h1

/-- `esl_rnd_DChooseCDF`'s loop is a search for the first `cdf` entry with `roll < cdf[i]/last` -/
theorem dchooseCDFgo_eq (roll last : F) (cdf : List F) (i0 : Nat) :
    dchooseCDFgo roll last cdf i0 = (cdf.findIdx? fun c => FOps.lt roll (FOps.div c last)).map (· + i0) := by
  induction cdf generalizing i0 with
  | nil => rfl
  | cons c rest ih =>
    simp only [dchooseCDFgo, List.findIdx?_cons, ih]
    split
    · simp
    · simp [Option.map_map, Function.comp_def, Nat.add_assoc, Nat.add_comm 1]

theorem dchooseCDF_nonzero (roll last : F) (cdf : List F) (hroll : FOps.lt roll (FOps.div FOps.zero last) = false) (r : Nat)
    (h : dchooseCDFgo roll last cdf 0 = some r) :
    ∃ c, cdf[r]? = some c ∧ (r = 0 → c ≠ FOps.zero) ∧ (∀ c', 0 < r → cdf[r - 1]? = some c' → c ≠ c') := by
  rw [dchooseCDFgo_eq] at h
  simp only [Nat.add_zero, Option.map_id'] at h
  obtain ⟨hr, hlt, hprev⟩ := List.findIdx?_eq_some_iff_getElem.1 h
  refine ⟨cdf[r], List.getElem?_eq_getElem hr, fun _ hz => ?_, fun c' hpos hc' he => ?_⟩
  · rw [hz, hroll] at hlt; cases hlt
  · have h1 : r - 1 < cdf.length := by omega
    rw [List.getElem?_eq_getElem h1] at hc'
    cases hc'
    exact hprev (r - 1) (by omega) (he ▸ hlt)

theorem dchooseCDF_returns (roll last : F) (cdf : List F) (i0 : Nat) (hl : cdf.getLast? = some last)
    (h1 : FOps.lt roll (FOps.div last last) = true) : ∃ r, dchooseCDFgo roll last cdf i0 = some r := by
  rw [dchooseCDFgo_eq]
  cases h : cdf.findIdx? fun c => FOps.lt roll (FOps.div c last) with
  | some i => exact ⟨i + i0, rfl⟩
  | none => rw [List.findIdx?_eq_none_iff.1 h last (List.mem_of_getLast? hl)] at h1; cases h1

end EaselModel.Random
