/-! # Generic Mersenne-Twister table refill (C09)

The in-place sequential update of a length-`N` table that `mersenne_fill_table` and `mt64_fill_table` perform (`fillUpTo`,
executable on arrays: `fillA`) turns block `j` of the reference stream `x (k+N) = g (x k) (x (k+1)) (x (k+M))` (`spec`) into
block `j+1`, for every word type, twist `g` and `0 < M < N` (`fill_correct`). -/
namespace EaselModel.MTP
variable {α : Type} (g : α → α → α → α)   -- g (t[z]) (t[z+1]) (t[z+M]) = new t[z]
variable (N M : Nat)

/-- reference stream: x (k+N) = g (x k) (x (k+1)) (x (k+M)), given the first N values -/
def spec (hM : 0 < M ∧ M < N ∧ 2 ≤ N) (init : Nat → α) (k : Nat) : α :=
  if h : k < N then init k else
    g (spec hM init (k - N)) (spec hM init (k - N + 1)) (spec hM init (k - N + M))
termination_by k
decreasing_by all_goals omega

def upd (t : Nat → α) (i : Nat) (v : α) : Nat → α := fun j => if j = i then v else t j

def step (t : Nat → α) (z : Nat) : Nat → α :=
  upd t z (g (t z) (t ((z+1) % N)) (t ((z+M) % N)))

def fillUpTo (t : Nat → α) : Nat → (Nat → α)
  | 0 => t
  | z+1 => step g N M (fillUpTo t z) z

theorem fill_inv (hM : 0 < M ∧ M < N ∧ 2 ≤ N) (init t : Nat → α) (j : Nat)
    (ht : ∀ i, i < N → t i = spec g N M hM init (N*j + i)) :
    ∀ z, z ≤ N → ∀ i, i < N →
      fillUpTo g N M t z i = if i < z then spec g N M hM init (N*(j+1) + i) else spec g N M hM init (N*j + i) := by
  intro z
  induction z with
  | zero => intro _ i hi; simp [fillUpTo, ht i hi]
  | succ z ih =>
    intro hz i hi
    have ihz := ih (by omega)
    simp only [fillUpTo, step, upd]
    by_cases hiz : i = z
    · subst hiz
      -- the cell `d` places on (cyclically) still holds, or already holds, `x (N*j + i + d)`
      have read : ∀ d, d < N → fillUpTo g N M t i ((i+d) % N) = spec g N M hM init (N*j + i + d) := by
        intro d hd
        by_cases h : i + d < N
        · rw [Nat.mod_eq_of_lt h, ihz (i+d) h, if_neg (by omega), Nat.add_assoc]
        · rw [Nat.mod_eq_sub_mod (by omega), Nat.mod_eq_of_lt (by omega), ihz (i+d-N) (by omega), if_pos (by omega)]
          congr 1; rw [Nat.mul_succ]; omega
      have r0 := read 0 (by omega)
      rw [Nat.add_zero, Nat.mod_eq_of_lt hi, Nat.add_zero] at r0
      simp only [↓reduceIte, show i < i + 1 by omega]
      rw [spec.eq_1 (k := N*(j+1)+i), dif_neg (by rw [Nat.mul_succ]; omega), show N*(j+1)+i - N = N*j + i by rw [Nat.mul_succ]; omega,
        r0, read 1 (by omega), read M (by omega)]
    · simp only [hiz, ↓reduceIte]
      rw [ihz i hi]
      by_cases h : i < z
      · simp [h, show i < z + 1 by omega]
      · simp [h, show ¬ i < z + 1 by omega]

theorem fill_correct (hM : 0 < M ∧ M < N ∧ 2 ≤ N) (init t : Nat → α) (j : Nat)
    (ht : ∀ i, i < N → t i = spec g N M hM init (N*j + i)) :
    ∀ i, i < N → fillUpTo g N M t N i = spec g N M hM init (N*(j+1) + i) := by
  intro i hi
  have := fill_inv g N M hM init t j ht N (Nat.le_refl _) i hi
  simpa [hi] using this

variable [Inhabited α]

def toFn (a : Array α) : Nat → α := fun i => a.getD i default

/-- executable step; `i1 z`, `iM z` are the index expressions the C code uses in its three loops -/
def stepA (i1 iM : Nat → Nat) (a : Array α) (z : Nat) : Array α :=
  a.setIfInBounds z (g (a.getD z default) (a.getD (i1 z) default) (a.getD (iM z) default))

def fillA (i1 iM : Nat → Nat) (a : Array α) : Array α :=
  (List.range N).foldl (stepA g i1 iM) a

theorem toFn_set (a : Array α) (z : Nat) (v : α) (hz : z < a.size) :
    toFn (a.setIfInBounds z v) = upd (toFn a) z v := by
  funext j
  simp only [toFn, upd, Array.getD_eq_getD_getElem?, Array.getElem?_setIfInBounds]
  by_cases h : j = z
  · subst h; simp [hz]
  · have : ¬ z = j := fun e => h e.symm
    simp [h, this]

theorem size_stepA (i1 iM : Nat → Nat) (a : Array α) (z : Nat) : (stepA g i1 iM a z).size = a.size := by
  simp [stepA]

theorem size_fillA (i1 iM : Nat → Nat) (a : Array α) : (fillA g N i1 iM a).size = a.size := by
  unfold fillA
  generalize List.range N = l
  induction l generalizing a with
  | nil => rfl
  | cons z l ih => simp only [List.foldl_cons]; rw [ih, size_stepA]

theorem foldl_range_succ {β : Type} (f : β → Nat → β) (b : β) (n : Nat) :
    (List.range (n+1)).foldl f b = f ((List.range n).foldl f b) n := by
  simp [List.range_succ, List.foldl_append]

theorem fillA_prefix (i1 iM : Nat → Nat) (hi1 : ∀ z, z < N → i1 z = (z+1) % N) (hiM : ∀ z, z < N → iM z = (z+M) % N)
    (a : Array α) (ha : a.size = N) :
    ∀ n, n ≤ N → ((List.range n).foldl (stepA g i1 iM) a).size = N ∧
      toFn ((List.range n).foldl (stepA g i1 iM) a) = fillUpTo g N M (toFn a) n := by
  intro n
  induction n with
  | zero => intro _; simp [fillUpTo, ha]
  | succ n ih =>
    intro hn
    obtain ⟨hs, hf⟩ := ih (by omega)
    rw [foldl_range_succ]
    refine ⟨by rw [size_stepA]; exact hs, ?_⟩
    simp only [fillUpTo, step]
    rw [stepA, toFn_set _ _ _ (by omega), hf, hi1 n (by omega), hiM n (by omega)]
    have e : ∀ (b : Array α) (k : Nat), b.getD k default = toFn b k := fun _ _ => rfl
    simp only [e, hf]

theorem fillA_toFn (i1 iM : Nat → Nat) (hi1 : ∀ z, z < N → i1 z = (z+1) % N) (hiM : ∀ z, z < N → iM z = (z+M) % N)
    (a : Array α) (ha : a.size = N) :
    (fillA g N i1 iM a).size = N ∧ toFn (fillA g N i1 iM a) = fillUpTo g N M (toFn a) N :=
  fillA_prefix g N M i1 iM hi1 hiM a ha N (Nat.le_refl _)

end EaselModel.MTP

/-! ## Generic generator: seeding by iteration, draw = refill-if-exhausted then temper -/
namespace EaselModel.MTP
variable {α : Type} [Inhabited α]

/-- value at position `z+i` of the seeding recurrence, given value `x` at position `z`; `f z x` = value at `z+1` -/
def iterFrom (f : Nat → α → α) (z : Nat) (x : α) : Nat → α
  | 0 => x
  | i+1 => iterFrom f (z+1) (f z x) i

def iterList (f : Nat → α → α) : Nat → Nat → α → List α
  | 0, _, _ => []
  | n+1, z, x => x :: iterList f n (z+1) (f z x)

theorem iterList_length (f : Nat → α → α) (n z : Nat) (x : α) : (iterList f n z x).length = n := by
  induction n generalizing z x with
  | zero => rfl
  | succ n ih => simp [iterList, ih]

theorem iterList_getD (f : Nat → α → α) (n z : Nat) (x : α) (i : Nat) (hi : i < n) :
    (iterList f n z x).getD i default = iterFrom f z x i := by
  induction n generalizing z x i with
  | zero => omega
  | succ n ih =>
    cases i with
    | zero => simp [iterList, iterFrom]
    | succ i => simp only [iterList, List.getD_cons_succ, iterFrom]; exact ih _ _ _ (by omega)

structure Params (α : Type) where
  N : Nat
  M : Nat
  hM : 0 < M ∧ M < N ∧ 2 ≤ N
  g : α → α → α → α
  temper : α → α
  seedf : Nat → α → α         -- seeding recurrence: value at z+1 from value at z
  i1 : Nat → Nat              -- index expressions as the C loops write them
  iM : Nat → Nat
  hi1 : ∀ z, z < N → i1 z = (z+1) % N
  hiM : ∀ z, z < N → iM z = (z+M) % N

structure St (α : Type) where
  mt : Array α
  mti : Nat

variable (P : Params α)

def seedTable (seed : α) : Array α := (iterList P.seedf P.N 0 seed).toArray
def refill (a : Array α) : Array α := fillA P.g P.N P.i1 P.iM a
/-- `esl_randomness_Init` / `esl_rand64_Init` for a non-zero seed: seed the table, refill once -/
def init (seed : α) : St α := { mt := refill P (seedTable P seed), mti := 0 }
/-- `mersenne_twister` / `esl_rand64` -/
def next (s : St α) : α × St α :=
  let s' : St α := if s.mti ≥ P.N then { mt := refill P s.mt, mti := 0 } else s
  (P.temper (s'.mt.getD s'.mti default), { s' with mti := s'.mti + 1 })

def draws (s : St α) : Nat → List α × St α
  | 0 => ([], s)
  | k+1 => let (x, s1) := next P s; let (xs, s2) := draws s1 k; (x :: xs, s2)

/-- the reference word sequence for a seed -/
def ref (seed : α) (k : Nat) : α := spec P.g P.N P.M P.hM (iterFrom P.seedf 0 seed) k

/-- invariant: the table holds block `j+1` of the reference sequence and `k` words have been drawn -/
def Inv (seed : α) (s : St α) (k : Nat) : Prop :=
  ∃ j, s.mt.size = P.N ∧ (∀ i, i < P.N → toFn s.mt i = ref P seed (P.N*(j+1) + i)) ∧
    s.mti ≤ P.N ∧ P.N*j + s.mti = k

theorem ref_step (seed : α) (k : Nat) :
    ref P seed (k + P.N) = P.g (ref P seed k) (ref P seed (k + 1)) (ref P seed (k + P.M)) := by
  unfold ref
  rw [spec.eq_1]
  have : ¬ (k + P.N < P.N) := by omega
  simp only [this, ↓reduceDIte]
  have e : k + P.N - P.N = k := by omega
  rw [e]

theorem seedTable_spec (seed : α) :
    (seedTable P seed).size = P.N ∧ ∀ i, i < P.N → toFn (seedTable P seed) i = ref P seed (P.N*0 + i) := by
  refine ⟨by simp [seedTable, iterList_length], ?_⟩
  intro i hi
  simp only [toFn, seedTable, ref, Nat.mul_zero, Nat.zero_add]
  rw [spec.eq_1]
  simp only [hi, ↓reduceDIte]
  rw [← iterList_getD P.seedf P.N 0 seed i hi]
  simp [Array.getD_eq_getD_getElem?, List.getD_eq_getElem?_getD]

theorem refill_spec (seed : α) (a : Array α) (j : Nat) (ha : a.size = P.N)
    (h : ∀ i, i < P.N → toFn a i = ref P seed (P.N*j + i)) :
    (refill P a).size = P.N ∧ ∀ i, i < P.N → toFn (refill P a) i = ref P seed (P.N*(j+1) + i) := by
  obtain ⟨hs, hf⟩ := fillA_toFn P.g P.N P.M P.i1 P.iM P.hi1 P.hiM a ha
  refine ⟨hs, ?_⟩
  intro i hi
  unfold refill
  rw [hf]
  exact fill_correct P.g P.N P.M P.hM _ (toFn a) j h i hi

theorem init_inv (seed : α) : Inv P seed (init P seed) 0 := by
  obtain ⟨hs, hf⟩ := seedTable_spec P seed
  obtain ⟨hs', hf'⟩ := refill_spec P seed _ 0 hs hf
  exact ⟨0, hs', hf', Nat.zero_le _, by simp [init]⟩

theorem next_spec (seed : α) (s : St α) (k : Nat) (h : Inv P seed s k) :
    (next P s).1 = P.temper (ref P seed (P.N + k)) ∧ Inv P seed (next P s).2 (k+1) := by
  obtain ⟨j, hsz, hblk, hle, hk⟩ := h
  have hN : 2 ≤ P.N := P.hM.2.2
  have m1 : P.N * (j+1) = P.N * j + P.N := Nat.mul_succ _ _
  have m2 : P.N * (j+1+1) = P.N * j + P.N + P.N := by rw [Nat.mul_succ, Nat.mul_succ]
  by_cases hfull : s.mti ≥ P.N
  · have hmti : s.mti = P.N := by omega
    obtain ⟨hs', hf'⟩ := refill_spec P seed s.mt (j+1) hsz hblk
    have e : (next P s) = (P.temper ((refill P s.mt).getD 0 default), { mt := refill P s.mt, mti := 1 }) := by
      simp [next, hfull]
    rw [e]
    refine ⟨?_, ⟨j+1, hs', hf', by show 1 ≤ P.N; omega, ?_⟩⟩
    · have := hf' 0 (by omega)
      simp only [toFn] at this
      show P.temper ((refill P s.mt).getD 0 default) = _
      rw [this]
      have : P.N * (j + 1 + 1) + 0 = P.N + k := by omega
      rw [this]
    · show P.N * (j+1) + 1 = k + 1
      omega
  · have hlt : s.mti < P.N := by omega
    have e : (next P s) = (P.temper (s.mt.getD s.mti default), { s with mti := s.mti + 1 }) := by
      simp [next, hfull]
    rw [e]
    refine ⟨?_, ⟨j, hsz, hblk, by show s.mti + 1 ≤ P.N; omega, by show P.N * j + (s.mti + 1) = k + 1; omega⟩⟩
    have := hblk s.mti hlt
    simp only [toFn] at this
    show P.temper (s.mt.getD s.mti default) = _
    rw [this]
    have : P.N * (j + 1) + s.mti = P.N + k := by omega
    rw [this]

theorem draws_spec (seed : α) (s : St α) (k0 : Nat) (h : Inv P seed s k0) (k : Nat) :
    (draws P s k).1 = (List.range k).map (fun i => P.temper (ref P seed (P.N + k0 + i))) ∧
    Inv P seed (draws P s k).2 (k0 + k) := by
  induction k generalizing s k0 with
  | zero => simp [draws]; exact h
  | succ k ih =>
    obtain ⟨h1, h2⟩ := next_spec P seed s k0 h
    obtain ⟨h3, h4⟩ := ih (next P s).2 (k0+1) h2
    simp only [draws]
    refine ⟨?_, ?_⟩
    · rw [h3, h1, List.range_succ_eq_map]
      simp only [List.map_cons, List.map_map, Nat.add_zero, List.cons.injEq, true_and]
      apply List.map_congr_left
      intro i _
      simp only [Function.comp]
      congr 2; omega
    · have : k0 + (k+1) = k0 + 1 + k := by omega
      rw [this]; exact h4

theorem stream_eq_spec (seed : α) (k : Nat) :
    (draws P (init P seed) k).1 = (List.range k).map (fun i => P.temper (ref P seed (P.N + i))) := by
  have := (draws_spec P seed (init P seed) 0 (init_inv P seed) k).1
  simpa using this

end EaselModel.MTP
