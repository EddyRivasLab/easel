import EaselModel.Random.SamplersLen
import Mathlib.Analysis.SpecialFunctions.Log.Basic
import Mathlib.Analysis.SpecialFunctions.Pow.Real
import Mathlib.Algebra.Order.Floor.Ring
import Mathlib.Algebra.BigOperators.Group.List.Basic
import Mathlib.Tactic.Linarith
import Mathlib.Tactic.Positivity
import Mathlib.Tactic.NormNum
/-! # Support theorems for the samplers of esl_random.c over `ℝ` (C09)

`ℝ` instance of `SOps` with the real `exp`, `log`, `sqrt`, `tan`, `rpow`; `eslCONST_PI`, `eslCONST_E` are the decimal
literals of easel.h (rational numbers).  Positivity of `esl_rnd_Gamma` rests only on the accept tests the loops perform. -/
namespace EaselModel.Random
open SOps

noncomputable instance realSOps : SOps ℝ where
  ofNat n := (n : ℝ)
  add := (· + ·)
  sub := (· - ·)
  mul := (· * ·)
  div := (· / ·)
  neg := fun x => -x
  lt := fun a b => decide (a < b)
  le := fun a b => decide (a ≤ b)
  beq := fun a b => decide (a = b)
  floor := fun x => ((⌊x⌋ : ℤ) : ℝ)
  toNat := fun x => ⌊x⌋₊
  exp := Real.exp
  log := Real.log
  sqrt := Real.sqrt
  tan := Real.tan
  pow := fun x y => x ^ y
  pi := 3.14159265358979323846264338328
  e := 2.71828182845904523536028747135

@[simp] theorem r_ofNat (n : ℕ) : (SOps.ofNat n : ℝ) = (n : ℝ) := rfl
@[simp] theorem r_add (a b : ℝ) : SOps.add a b = a + b := rfl
@[simp] theorem r_sub (a b : ℝ) : SOps.sub a b = a - b := rfl
@[simp] theorem r_mul (a b : ℝ) : SOps.mul a b = a * b := rfl
@[simp] theorem r_div (a b : ℝ) : SOps.div a b = a / b := rfl
@[simp] theorem r_neg (a : ℝ) : SOps.neg a = -a := rfl
@[simp] theorem r_lt (a b : ℝ) : (SOps.lt a b = true) ↔ a < b := by simp [SOps.lt]
@[simp] theorem r_le (a b : ℝ) : (SOps.le a b = true) ↔ a ≤ b := by simp [SOps.le]
@[simp] theorem r_beq (a b : ℝ) : (SOps.beq a b = true) ↔ a = b := by simp [SOps.beq]
@[simp] theorem r_floor (a : ℝ) : SOps.floor a = ((⌊a⌋ : ℤ) : ℝ) := rfl
@[simp] theorem r_toNat (a : ℝ) : SOps.toNat a = ⌊a⌋₊ := rfl
@[simp] theorem r_exp (a : ℝ) : SOps.exp a = Real.exp a := rfl
@[simp] theorem r_log (a : ℝ) : SOps.log a = Real.log a := rfl
@[simp] theorem r_pow (a b : ℝ) : SOps.pow a b = a ^ b := rfl
@[simp] theorem r_zero : (SOps.zero : ℝ) = 0 := by simp [SOps.zero]
@[simp] theorem r_one : (SOps.one : ℝ) = 1 := by simp [SOps.one]
@[simp] theorem r_two : (SOps.two : ℝ) = 2 := by simp [SOps.two]

variable {σ : Type}

theorem uni_unit (x : UInt32) : 0 ≤ (uni x : ℝ) ∧ (uni x : ℝ) < 1 := by
  have h : (x.toNat : ℝ) < 4294967296 := by exact_mod_cast UInt32.toNat_lt x
  simp only [uni, r_div, r_ofNat]
  constructor
  · positivity
  · rw [div_lt_one (by norm_num)]; exact_mod_cast h

theorem uni_pos (x : UInt32) (hx : x ≠ 0) : 0 < (uni x : ℝ) := by
  have h : 0 < x.toNat := by
    rcases Nat.eq_zero_or_pos x.toNat with h0 | h0
    · exact absurd (UInt32.toNat_inj.1 (by simpa using h0)) hx
    · exact h0
  simp only [uni, r_div, r_ofNat]
  have : (0:ℝ) < (x.toNat : ℝ) := by exact_mod_cast h
  positivity

theorem uniPos_unit (next : σ → UInt32 × σ) (s : σ) (f : ℕ) (u : ℝ) (s' : σ)
    (h : uniPos next s f = .ok (u, s')) : 0 < u ∧ u < 1 := by
  obtain ⟨x, hne, rfl⟩ := uniPos_ok next s f u s' h
  exact ⟨uni_pos _ hne, (uni_unit _).2⟩

theorem gammaIntU_le (next : σ → UInt32 × σ) (fu : ℕ) (a : ℕ) (U : ℝ) (s : σ) (U' : ℝ) (s' : σ)
    (hU : 0 < U) (h : gammaIntU next fu a U s = .ok (U', s')) : 0 < U' ∧ U' ≤ U ∧ (1 ≤ a → U' < U) := by
  induction a generalizing U s with
  | zero =>
    simp only [gammaIntU, SRes.ok.injEq, Prod.mk.injEq] at h
    rw [← h.1]; exact ⟨hU, le_refl U, fun h => absurd h (by omega)⟩
  | succ a ih =>
    simp only [gammaIntU] at h
    obtain ⟨⟨u, s1⟩, hu, hrest⟩ := SRes.bind_ok h
    obtain ⟨u0, u1⟩ := uniPos_unit next s fu u s1 hu
    obtain ⟨p0, p1, _⟩ := ih (U * u) s1 (mul_pos hU u0) hrest
    have hlt : U' < U := lt_of_le_of_lt p1 (mul_lt_of_lt_one_right hU u1)
    exact ⟨p0, hlt.le, fun _ => hlt⟩

theorem gammaInteger_pos (next : σ → UInt32 × σ) (fu : ℕ) (a : ℕ) (ha : 1 ≤ a) (s : σ) (x : ℝ) (s' : σ)
    (h : gammaInteger next fu a s = .ok (x, s')) : 0 < x := by
  simp only [gammaInteger] at h
  obtain ⟨⟨U, s1⟩, hU, hrest⟩ := SRes.bind_ok h
  simp only [SRes.ok.injEq, Prod.mk.injEq] at hrest
  obtain ⟨p0, _, p1⟩ := gammaIntU_le next fu a 1 s U s1 one_pos (by simpa using hU)
  rw [← hrest.1]
  simp only [r_neg, r_log]
  have := Real.log_neg p0 (p1 ha)
  linarith

theorem ahrensCand_pos (next : σ → UInt32 × σ) (a : ℝ) (s : σ) (f : ℕ) (Y X : ℝ) (s' : σ)
    (h : ahrensCand next a s f = .ok ((Y, X), s')) : 0 < X := by
  induction f generalizing s with
  | zero => simp [ahrensCand] at h
  | succ f ih =>
    simp only [ahrensCand] at h
    split at h
    · exact ih _ h
    · rename_i hle
      simp only [SRes.ok.injEq, Prod.mk.injEq] at h
      rw [← h.1.2]
      simpa using hle

/-- `gamma_ahrens` returns a positive value: the candidate loop's exit test is `X > 0` -/
theorem gammaAhrens_pos (next : σ → UInt32 × σ) (a : ℝ) (s : σ) (f : ℕ) (x : ℝ) (s' : σ)
    (h : gammaAhrens next a s f = .ok (x, s')) : 0 < x := by
  induction f generalizing s with
  | zero => simp [gammaAhrens] at h
  | succ f ih =>
    simp only [gammaAhrens] at h
    obtain ⟨⟨⟨Y, X⟩, s1⟩, hc, hrest⟩ := SRes.bind_ok h
    have hX := ahrensCand_pos next a s (f+1) Y X s1 hc
    simp only [] at hrest
    split at hrest
    · exact ih _ hrest
    · simp only [SRes.ok.injEq, Prod.mk.injEq] at hrest
      rw [← hrest.1]; exact hX

theorem gammaFraction_pos (next : σ → UInt32 × σ) (fu : ℕ) (a : ℝ) (s : σ) (f : ℕ) (x : ℝ) (s' : σ)
    (h : gammaFraction next fu a s f = .ok (x, s')) : 0 < x := by
  induction f generalizing s with
  | zero => simp [gammaFraction] at h
  | succ f ih =>
    simp only [gammaFraction] at h
    obtain ⟨⟨V, s1⟩, hV, hrest⟩ := SRes.bind_ok h
    obtain ⟨v0, v1⟩ := uniPos_unit next _ fu V s1 hV
    simp only [] at hrest
    split at hrest
    · exact ih _ hrest
    · simp only [SRes.ok.injEq, Prod.mk.injEq] at hrest
      rw [← hrest.1]
      unfold fracXq
      split
      · simp only [r_pow]; exact Real.rpow_pos_of_pos v0 _
      · simp only [r_sub, r_one, r_log]
        have := Real.log_neg v0 v1
        linarith

theorem gamma_pos (next : σ → UInt32 × σ) (fu fuel : ℕ) (a : ℝ) (ha : 0 < a) (s : σ) (x : ℝ) (s' : σ)
    (h : gamma next fu fuel a s = .ok (x, s')) : 0 < x := by
  simp only [gamma] at h
  split at h
  · rename_i hint
    simp only [Bool.and_eq_true, r_beq, r_floor] at hint
    have h1 : 1 ≤ ⌊a⌋₊ := by
      have hz : (0:ℤ) < ⌊a⌋ := by
        have : (0:ℝ) < ((⌊a⌋ : ℤ) : ℝ) := by rw [← hint.1]; exact ha
        exact_mod_cast this
      have : (1:ℝ) ≤ a := by
        rw [hint.1]; exact_mod_cast (show (1:ℤ) ≤ ⌊a⌋ by omega)
      exact Nat.le_floor (by simpa using this)
    exact gammaInteger_pos next fu _ h1 s x s' h
  · split at h
    · exact gammaAhrens_pos next a s fuel x s' h
    · split at h
      · exact gammaFraction_pos next fu a s fuel x s' h
      · rename_i h3 h1
        obtain ⟨⟨g1, s1⟩, hg1, hrest⟩ := SRes.bind_ok h
        obtain ⟨⟨g2, s2⟩, hg2, hrest2⟩ := SRes.bind_ok hrest
        simp only [SRes.ok.injEq, Prod.mk.injEq] at hrest2
        have ha1 : (1:ℝ) ≤ a := by simpa using h1
        have hfl : 1 ≤ ⌊((⌊a⌋ : ℤ) : ℝ)⌋₊ := by
          apply Nat.le_floor
          have : (1:ℤ) ≤ ⌊a⌋ := Int.le_floor.2 (by simpa using ha1)
          simpa using (show ((1:ℤ):ℝ) ≤ ((⌊a⌋ : ℤ) : ℝ) by exact_mod_cast this)
        have p1 := gammaInteger_pos next fu _ hfl s g1 s1 (by simpa using hg1)
        have p2 := gammaFraction_pos next fu _ s1 fuel g2 s2 hg2
        rw [← hrest2.1]
        simp only [r_add]
        linarith

theorem dirichletDraw_spec (next : σ → UInt32 × σ) (fu fuel : ℕ) (alpha acc : List ℝ) (norm : ℝ) (s : σ)
    (hal : ∀ a ∈ alpha, 0 < a) (hacc : ∀ x ∈ acc, 0 < x) (hnorm : norm = acc.sum)
    (acc' : List ℝ) (norm' : ℝ) (s' : σ) (h : dirichletDraw next fu fuel alpha acc norm s = .ok ((acc', norm'), s')) :
    (∀ x ∈ acc', 0 < x) ∧ norm' = acc'.sum ∧ acc'.length = acc.length + alpha.length := by
  induction alpha generalizing acc norm s with
  | nil =>
    simp only [dirichletDraw, SRes.ok.injEq, Prod.mk.injEq] at h
    obtain ⟨⟨h1, h2⟩, _⟩ := h
    subst h1; subst h2
    exact ⟨hacc, hnorm, by simp⟩
  | cons al rest ih =>
    simp only [dirichletDraw] at h
    obtain ⟨⟨g, s1⟩, hg, hrest⟩ := SRes.bind_ok h
    have gp := gamma_pos next fu fuel al (hal al (by simp)) s g s1 hg
    obtain ⟨q1, q2, q3⟩ := ih (g :: acc) (norm + g) s1 (fun a ha => hal a (by simp [ha]))
      (fun x hx => by rcases List.mem_cons.1 hx with rfl | hx; exact gp; exact hacc x hx)
      (by simp [hnorm]; ring) hrest
    exact ⟨q1, q2, by simp at q3 ⊢; omega⟩

/-- `esl_rnd_Dirichlet`: for positive `alpha` (K ≥ 1), every component is `> 0`, there are `K` of them, and they sum to 1
    (exact arithmetic: before rounding) -/
theorem dirichlet_simplex (next : σ → UInt32 × σ) (fu fuel : ℕ) (alpha : List ℝ) (hK : alpha ≠ [])
    (hal : ∀ a ∈ alpha, 0 < a) (s : σ) (p : List ℝ) (s' : σ) (h : dirichlet next fu fuel alpha s = .ok (p, s')) :
    p.length = alpha.length ∧ (∀ x ∈ p, 0 < x) ∧ p.sum = 1 := by
  simp only [dirichlet] at h
  obtain ⟨⟨⟨acc, norm⟩, s1⟩, hd, hrest⟩ := SRes.bind_ok h
  obtain ⟨q1, q2, q3⟩ := dirichletDraw_spec next fu fuel alpha [] 0 s hal (by simp) (by simp) acc norm s1 (by simpa using hd)
  simp only [SRes.ok.injEq, Prod.mk.injEq] at hrest
  have hlen : 0 < acc.length := by
    rw [q3]; simp; exact List.length_pos_iff.2 hK
  have hnpos : 0 < norm := by
    rw [q2]
    exact List.sum_pos acc q1 (List.ne_nil_of_length_pos hlen)
  rw [← hrest.1]
  refine ⟨by simp [q3], ?_, ?_⟩
  · intro x hx
    simp only [List.mem_map, List.mem_reverse, r_div] at hx
    obtain ⟨y, hy, rfl⟩ := hx
    exact div_pos (q1 y hy) hnpos
  · have : (List.map (fun x => SOps.div x norm) acc.reverse).sum = acc.reverse.sum / norm := by
      simp only [r_div, div_eq_mul_inv]
      rw [List.sum_map_mul_right]
      simp
    rw [this, List.sum_reverse, ← q2]
    exact div_self (ne_of_gt hnpos)

end EaselModel.Random
