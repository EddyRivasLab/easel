import EaselModel.Random.Deal64
/-! Fuel of the rejection loops of `esl_rand64_Deal` (C09): a result obtained with some fuel is the result for every larger
    fuel — the model returns the FIRST accepted draw of each loop whenever one exists, independently of the bound.
    Core Lean only; holds for every numeric vocabulary (in particular binary64). -/
namespace EaselModel.Random
open VOps
variable {σ F : Type} [VOps F]

theorem d64FindS_mono (next : σ → UInt64 × σ) (nreal minv : F) (qu1 : Int) (f : Nat) (V : F) (s : σ) (r)
    (h : d64FindS next nreal minv qu1 V s f = some r) : d64FindS next nreal minv qu1 V s (f+1) = some r := by
  induction f generalizing V s with
  | zero => simp [d64FindS] at h
  | succ f ih =>
    rw [d64FindS] at h ⊢
    simp only [] at h ⊢
    split
    · rename_i hc; rw [if_pos hc] at h; exact h
    · rename_i hc; rw [if_neg hc] at h; exact ih _ _ h

theorem d64Accept_mono (next : σ → UInt64 × σ) (c : D64Ctx F) (f : Nat) (V : F) (s : σ) (r)
    (h : d64Accept next c V s f = some r) : d64Accept next c V s (f+1) = some r := by
  induction f generalizing V s with
  | zero => simp [d64Accept] at h
  | succ f ih =>
    rw [d64Accept] at h ⊢
    cases hfind : d64FindS next c.nreal c.minv c.qu1 V s (f+1) with
    | none => rw [hfind] at h; cases h
    | some x =>
      rw [hfind] at h
      rw [d64FindS_mono next c.nreal c.minv c.qu1 (f+1) V s x hfind]
      obtain ⟨X, S, s1⟩ := x
      simp only [] at h ⊢
      split
      · rename_i hc; rw [if_pos hc] at h; exact h
      · rename_i hc
        rw [if_neg hc] at h
        split
        · rename_i hc2; rw [if_pos hc2] at h; exact h
        · rename_i hc2; rw [if_neg hc2] at h; exact ih _ _ h

theorem d64Main_mono (next : σ → UInt64 × σ) (f k : Nat) (st : D64St F) (s : σ) (r)
    (h : d64Main next f k st s = some r) : d64Main next (f+1) k st s = some r := by
  induction k generalizing st s with
  | zero => simpa [d64Main] using h
  | succ k ih =>
    rw [d64Main] at h ⊢
    split
    · rename_i hc
      rw [if_pos hc] at h
      cases hacc : d64Accept next st.ctx st.V s f with
      | none => rw [hacc] at h; cases h
      | some x =>
        rw [hacc] at h
        rw [d64Accept_mono next st.ctx f st.V s x hacc]
        obtain ⟨S, V1, s1⟩ := x
        exact ih _ _ h
    · rename_i hc; rw [if_neg hc] at h; exact h

theorem vaSkip_mono (U : F) (f : Nat) (quot top nreal : F) (S : Int) (r)
    (h : vaSkip U f quot top nreal S = some r) : vaSkip U (f+1) quot top nreal S = some r := by
  induction f generalizing quot top nreal S with
  | zero => simp [vaSkip] at h
  | succ f ih =>
    rw [vaSkip] at h ⊢
    split
    · rename_i hc; rw [if_pos hc] at h; exact ih _ _ _ _ h
    · rename_i hc; rw [if_neg hc] at h; exact h

theorem vaLoop_mono (next : σ → UInt64 × σ) (f k : Nat) (m j : Int) (top nreal : F) (acc : List Int) (s : σ) (r)
    (h : vaLoop next f k m j top nreal acc s = some r) : vaLoop next (f+1) k m j top nreal acc s = some r := by
  induction k generalizing m j top nreal acc s with
  | zero => simp [vaLoop] at h
  | succ k ih =>
    rw [vaLoop] at h ⊢
    split
    · rename_i hc
      rw [if_pos hc] at h
      simp only [] at h ⊢
      cases hsk : vaSkip (dblOpen (next s).1 : F) f (div top nreal) top nreal 0 with
      | none => rw [hsk] at h; cases h
      | some x =>
        rw [hsk] at h
        rw [vaSkip_mono _ f _ _ _ _ x hsk]
        obtain ⟨S, top', nreal'⟩ := x
        exact ih _ _ _ _ _ _ h
    · rename_i hc; rw [if_neg hc] at h; exact h

theorem deal64Core_mono_succ (next : σ → UInt64 × σ) (f : Nat) (m n : Int) (s : σ) (r : List Int × Option F × σ)
    (h : deal64Core next f m n s = some r) : deal64Core next (f+1) m n s = some r := by
  simp only [deal64Core] at h ⊢
  cases hmain : d64Main next f m.toNat (d64Init m n (next s).1 : D64St F) (next s).2 with
  | none => rw [hmain] at h; cases h
  | some x =>
    rw [hmain] at h
    rw [d64Main_mono next f _ _ _ x hmain]
    obtain ⟨st, s1⟩ := x
    simp only [] at h ⊢
    split
    · rename_i hc
      rw [if_pos hc] at h
      cases hva : vitterA (F := F) next f st.m st.n st.j st.acc s1 with
      | none => rw [hva] at h; cases h
      | some y =>
        rw [hva] at h
        have : vitterA (F := F) next (f+1) st.m st.n st.j st.acc s1 = some y := vaLoop_mono next f _ _ _ _ _ _ _ y hva
        rw [this]; exact h
    · rename_i hc; rw [if_neg hc] at h; exact h

theorem deal64Core_mono (next : σ → UInt64 × σ) (f f' : Nat) (hf : f ≤ f') (m n : Int) (s : σ)
    (r : List Int × Option F × σ) (h : deal64Core next f m n s = some r) : deal64Core next f' m n s = some r := by
  induction f' with
  | zero => have : f = 0 := by omega
            subst this; exact h
  | succ f' ih =>
    by_cases hff : f = f' + 1
    · subst hff; exact h
    · exact deal64Core_mono_succ next f' m n s r (ih (by omega))

end EaselModel.Random
