import EaselModel.Random.RollTerm
/-! # `esl_rnd_Roll` / `esl_rand64_Roll` as TOTAL functions of the reference stream (C09)

A roll returns the rejection map of the first accepted word of the generator's stream (`Rng.roll_first`); on the stream of a seed
an accepted word exists among the next 19999 (`mt32_top_clear_within`), so there is a first one and fuel 19999 always suffices. -/
namespace EaselModel.Random
open EaselModel.MTP

theorem exists_first {p : ℕ → Prop} {b : ℕ} (h : ∃ i, i ≤ b ∧ p i) : ∃ i, i ≤ b ∧ (∀ j, j < i → ¬ p j) ∧ p i := by
  classical
  obtain ⟨i, hi, hp⟩ := h
  exact ⟨Nat.find ⟨i, hp⟩, (Nat.find_min' ⟨i, hp⟩ hp).trans hi, fun j hj => Nat.find_min ⟨i, hp⟩ hj, Nat.find_spec ⟨i, hp⟩⟩

theorem first_accepted {β : Type} {acc : ℕ → Option β} {x : ℕ → ℕ} {b : ℕ} (h : ∃ i, i ≤ b ∧ ∃ v, acc (x i) = some v) :
    ∃ i v, i ≤ b ∧ (∀ j, j < i → acc (x j) = none) ∧ acc (x i) = some v := by
  obtain ⟨i, hi, hrej, v, hv⟩ := exists_first h
  exact ⟨i, v, hi, fun j hj => Option.eq_none_iff_forall_ne_some.2 fun w hw => hrej j hj ⟨w, hw⟩, hv⟩

theorem Rng.roll_of_accept (r : Rng) (n i : Nat) (h : ∃ v, rollWord n (Src.word Rng.next r i).toNat = some v) (fuel : Nat)
    (hf : i < fuel) : ∃ v r', r.roll n fuel = some (v, r') := by
  obtain ⟨i', v, hi', hrej, hv⟩ := first_accepted (acc := rollWord n) (x := fun i => (Src.word Rng.next r i).toNat) ⟨i, Nat.le_refl i, h⟩
  exact ⟨v, _, Rng.roll_first n v i' r hrej hv fuel (by omega)⟩

/-- the `j`-th output from stream position `k` of the MT19937 stream of `seed` -/
def out32 (seed : UInt32) (k j : Nat) : Nat := (temper32 (ref P32 seed (624 + k + j))).toNat
def out64 (seed : UInt64) (k j : Nat) : Nat := (temper64 (ref P64 seed (312 + k + j))).toNat

theorem Rng.OnStream.word {r : Rng} {seed : UInt32} {k : Nat} (h : r.OnStream seed k) (j : Nat) :
    (Src.word Rng.next r j).toNat = out32 seed k j := by
  rw [(Rng.follows seed).word h, out32, Nat.add_assoc]; rfl

theorem Rng64.OnStream.word {r : Rng64} {seed : UInt64} {k : Nat} (h : r.OnStream seed k) (j : Nat) :
    (Src.word Rng64.next r j).toNat = out64 seed k j := by
  rw [(Rng64.follows seed).word h, out64, Nat.add_assoc]; rfl

theorem Rng.OnStream.roll_first {r : Rng} {seed : UInt32} {k : Nat} (h : r.OnStream seed k) (n v i : Nat)
    (hrej : ∀ j, j < i → rollWord n (out32 seed k j) = none) (hv : rollWord n (out32 seed k i) = some v) (fuel : Nat)
    (hf : i < fuel) : r.roll n fuel = some (v, (r.draws (i + 1)).2) :=
  Rng.roll_first n v i r (fun j hj => by rw [h.word]; exact hrej j hj) (by rw [h.word]; exact hv) fuel hf

theorem Rng64.OnStream.roll_first {r : Rng64} {seed : UInt64} {k : Nat} (h : r.OnStream seed k) (n v i : Nat)
    (hrej : ∀ j, j < i → rollWord64 n (out64 seed k j) = none) (hv : rollWord64 n (out64 seed k i) = some v) (fuel : Nat)
    (hf : i < fuel) : r.roll n fuel = some (v, (r.draws (i + 1)).2) :=
  Rng64.roll_first n v i r (fun j hj => by rw [h.word]; exact hrej j hj) (by rw [h.word]; exact hv) fuel hf

theorem first_accepted32 (seed : UInt32) (k n : Nat) (hn : 0 < n) (hn' : n < 2 ^ 32) :
    ∃ i v, i ≤ 19998 ∧ (∀ j, j < i → rollWord n (out32 seed k j) = none) ∧ rollWord n (out32 seed k i) = some v :=
  let ⟨i, hi, hlt⟩ := mt32_top_clear_within seed (624 + k)
  first_accepted ⟨i, hi, rollWord_small n _ hn hn' hlt⟩

theorem first_accepted64 (seed : UInt64) (k n : Nat) (hn : 0 < n) (hn' : n < 2 ^ 64) :
    ∃ i v, i ≤ 19998 ∧ (∀ j, j < i → rollWord64 n (out64 seed k j) = none) ∧ rollWord64 n (out64 seed k i) = some v :=
  let ⟨i, hi, hlt⟩ := mt64_top_clear_within seed (312 + k)
  first_accepted ⟨i, hi, rollWord64_small n _ hn hn' hlt⟩

theorem Rng.roll_terminates_onStream (r : Rng) (seed : UInt32) (k : Nat) (h : r.OnStream seed k) (n : Nat) (hn : 0 < n)
    (hn' : n < 2 ^ 32) (fuel : Nat) (hf : 19999 ≤ fuel) : ∃ v r', r.roll n fuel = some (v, r') := by
  obtain ⟨i, v, hi, hrej, hv⟩ := first_accepted32 seed k n hn hn'
  exact ⟨v, _, h.roll_first n v i hrej hv fuel (by omega)⟩

theorem Rng64.roll_terminates_onStream (r : Rng64) (seed : UInt64) (k : Nat) (h : r.OnStream seed k) (n : Nat) (hn : 0 < n)
    (hn' : n < 2 ^ 64) (fuel : Nat) (hf : 19999 ≤ fuel) : ∃ v r', r.roll n fuel = some (v, r') := by
  obtain ⟨i, v, hi, hrej, hv⟩ := first_accepted64 seed k n hn hn'
  exact ⟨v, _, h.roll_first n v i hrej hv fuel (by omega)⟩

/-! ## `esl_rnd_Roll` terminates on the legacy LCG for every state

`x ↦ 69069·x + 1` iterated `2^31` times is `x ↦ x + 2^31` (thirty-one squarings of the affine map, checked by `decide` on the two
coefficients), so of any two outputs `2^31` draws apart exactly one has its top bit clear, and that one is accepted by every roll. -/
def lcgStep (x : UInt32) : UInt32 := x * 69069 + 1

/-- coefficients of the `2^j`-fold iterate `x ↦ a·x + c` -/
def lcgPow : Nat → UInt32 × UInt32
  | 0 => (69069, 1)
  | j + 1 => let (a, c) := lcgPow j; (a * a, a * c + c)

theorem lcgStep_iter_pow (j : Nat) (x : UInt32) : lcgStep^[2 ^ j] x = (lcgPow j).1 * x + (lcgPow j).2 := by
  induction j generalizing x with
  | zero => simp [lcgPow, lcgStep, UInt32.mul_comm]
  | succ j ih =>
    have e : 2 ^ (j + 1) = 2 ^ j + 2 ^ j := by rw [Nat.pow_succ]; omega
    rw [e, Function.iterate_add_apply, ih, ih]
    simp only [lcgPow]
    rw [UInt32.mul_add, ← UInt32.mul_assoc, UInt32.add_assoc]

theorem lcgPow_31 : lcgPow 31 = (1, 2147483648) := by decide +kernel

theorem lcg_eq_iter (x0 : UInt32) (k : Nat) : lcg x0 k = lcgStep^[k] x0 := by
  induction k with
  | zero => rfl
  | succ k ih => rw [Function.iterate_succ_apply', ← ih]; rfl

theorem lcg_half_period (x0 : UInt32) (k : Nat) : lcg x0 (k + 2 ^ 31) = lcg x0 k + 2147483648 := by
  rw [lcg_eq_iter, Nat.add_comm, Function.iterate_add_apply, lcgStep_iter_pow, lcgPow_31, ← lcg_eq_iter]
  simp

theorem lcg_top_clear_within (x0 : UInt32) (k : Nat) : ∃ i, i ≤ 2 ^ 31 ∧ (lcg x0 (k + i)).toNat < 2 ^ 31 := by
  by_cases h : (lcg x0 k).toNat < 2 ^ 31
  · exact ⟨0, by omega, h⟩
  · refine ⟨2 ^ 31, Nat.le_refl _, ?_⟩
    rw [lcg_half_period, UInt32.toNat_add]
    have := (lcg x0 k).toNat_lt
    have e : (2147483648 : UInt32).toNat = 2 ^ 31 := by decide
    rw [e]
    omega

theorem Rng.roll_terminates_fast (r : Rng) (hk : r.kind = .fast) (n : Nat) (hn : 0 < n) (hn' : n < 2 ^ 32) (fuel : Nat)
    (hf : 2 ^ 31 + 1 ≤ fuel) : ∃ v r', r.roll n fuel = some (v, r') := by
  obtain ⟨i, hi, hlt⟩ := lcg_top_clear_within r.x 1
  rw [Nat.add_comm 1 i, ← Rng.word_fast i r hk] at hlt
  exact Rng.roll_of_accept r n i (rollWord_small n _ hn hn' hlt) fuel (by omega)

end EaselModel.Random
