import EaselModel.Random.Deal64Abs
import Mathlib.Algebra.Order.Floor.Ring
import Mathlib.Algebra.Order.Round
import Mathlib.Algebra.Order.Field.Basic
import Mathlib.Tactic.Linarith
import Mathlib.Tactic.Ring
import Mathlib.Tactic.FieldSimp
import Mathlib.Tactic.Positivity
import Mathlib.Tactic.NormNum
/-! # Structure theorems for `esl_rand64_Deal` / `vitter_a` over an arbitrary ordered field (C09)

`F` is any linearly ordered field with a floor; the transcendental functions are ARBITRARY oracles (`Oracles F`)
about which only three facts are assumed (`OracleOK`): `0 ≤ exp x`, `x ≤ 0 → exp x ≤ 1`, `0 ≤ u ≤ 1 → log u ≤ 0`.
Everything else the proofs use is a test the code itself performs (`S < qu1`, `Vprime <= 1.`, `quot > U`). -/
set_option linter.unusedSectionVars false
namespace EaselModel.Random
open VOps

class Oracles (F : Type) where
  exp : F → F
  log : F → F

section
variable {F : Type} [Field F] [LinearOrder F] [IsStrictOrderedRing F] [FloorRing F] [Oracles F]

instance fieldVOps : VOps F where
  ofInt i := (i : F)
  add := (· + ·)
  sub := (· - ·)
  mul := (· * ·)
  div := (· / ·)
  neg := fun x => -x
  lt := fun a b => decide (a < b)
  le := fun a b => decide (a ≤ b)
  floorI := fun x => ⌊x⌋
  round := fun x => ((round x : ℤ) : F)
  exp := Oracles.exp
  log := Oracles.log

structure OracleOK (F : Type) [Field F] [LinearOrder F] [IsStrictOrderedRing F] [FloorRing F] [Oracles F] : Prop where
  exp_nonneg : ∀ x : F, 0 ≤ Oracles.exp x
  exp_le_one : ∀ x : F, x ≤ 0 → Oracles.exp x ≤ 1
  log_nonpos : ∀ u : F, 0 ≤ u → u ≤ 1 → Oracles.log u ≤ 0

@[simp] theorem v_ofInt (i : ℤ) : (VOps.ofInt i : F) = (i : F) := rfl
@[simp] theorem v_add (a b : F) : VOps.add a b = a + b := rfl
@[simp] theorem v_sub (a b : F) : VOps.sub a b = a - b := rfl
@[simp] theorem v_mul (a b : F) : VOps.mul a b = a * b := rfl
@[simp] theorem v_div (a b : F) : VOps.div a b = a / b := rfl
@[simp] theorem v_neg (a : F) : VOps.neg a = -a := rfl
@[simp] theorem v_lt (a b : F) : (VOps.lt a b = true) ↔ a < b := by simp [VOps.lt]
@[simp] theorem v_le (a b : F) : (VOps.le a b = true) ↔ a ≤ b := by simp [VOps.le]
@[simp] theorem v_floorI (a : F) : VOps.floorI a = ⌊a⌋ := rfl
@[simp] theorem v_round (a : F) : VOps.round a = ((round a : ℤ) : F) := rfl
@[simp] theorem v_one : (VOps.one : F) = 1 := by simp [VOps.one]
theorem v_powU (a u : F) : VOps.powU a u = Oracles.exp (a * Oracles.log u) := rfl

theorem shr_lt (x k : UInt64) (hk : k.toNat < 64) : (x >>> k).toNat < 2 ^ (64 - k.toNat) := by
  rw [UInt64.toNat_shiftRight, Nat.mod_eq_of_lt hk, Nat.shiftRight_eq_div_pow]
  apply Nat.div_lt_of_lt_mul
  rw [← Nat.pow_add, Nat.add_sub_cancel' (Nat.le_of_lt hk)]
  exact x.toNat_lt

theorem shr11_lt (x : UInt64) : (x >>> 11).toNat < 2^53 := shr_lt x 11 (by decide)
theorem shr12_lt (x : UInt64) : (x >>> 12).toNat < 2^52 := shr_lt x 12 (by decide)

theorem dbl_unit (x : UInt64) : 0 ≤ (VOps.dbl x : F) ∧ (VOps.dbl x : F) < 1 := by
  have h := shr11_lt x
  have hk : (((x >>> 11).toNat : ℕ) : F) < 9007199254740992 := by exact_mod_cast h
  have hk0 : (0 : F) ≤ (((x >>> 11).toNat : ℕ) : F) := Nat.cast_nonneg _
  simp only [VOps.dbl, v_mul, v_ofInt, v_div, v_one, Int.cast_natCast, Int.cast_ofNat]
  constructor
  · positivity
  · rw [mul_one_div, div_lt_one (by norm_num)]; exact hk

theorem dblOpen_unit (x : UInt64) : 0 < (VOps.dblOpen x : F) ∧ (VOps.dblOpen x : F) < 1 := by
  have h := shr12_lt x
  have hk : (((x >>> 12).toNat : ℕ) : F) + 1 ≤ 4503599627370496 := by
    have : (x >>> 12).toNat + 1 ≤ 4503599627370496 := by omega
    exact_mod_cast this
  have hk0 : (0 : F) ≤ (((x >>> 12).toNat : ℕ) : F) := Nat.cast_nonneg _
  simp only [VOps.dblOpen, v_mul, v_add, v_ofInt, v_div, v_one, Int.cast_natCast, Int.cast_ofNat]
  constructor
  · positivity
  · rw [mul_one_div, div_lt_one (by norm_num)]; linarith

/-- exactly `m` strictly increasing values in `0..hi` -/
def DealOK (out : List ℤ) (m hi : ℤ) : Prop :=
  (out.length : ℤ) = m ∧ out.Pairwise (· < ·) ∧ ∀ a ∈ out, 0 ≤ a ∧ a ≤ hi

theorem unit01_iff (v : F) : Unit01 v ↔ 0 ≤ v ∧ v ≤ 1 := by simp [Unit01, fz]

/-- every linearly ordered field with a floor whose oracles satisfy `OracleOK` is a carrier satisfying `FloatFacts`, for EVERY
    bound `B` (the converse direction is the point of `FloatFacts`: binary64 satisfies it without being a field) -/
theorem fieldFloatFacts (ok : OracleOK F) (B : ℤ) : FloatFacts F B where
  le_trans := by intro a b c h1 h2; simp only [LE, v_le] at h1 h2 ⊢; exact le_trans h1 h2
  lt_le := by intro a b h; simp only [LE, LT, v_le, v_lt] at h ⊢; exact le_of_lt h
  lt_lt_le_absurd := by intro a b c h1 h2 h3; simp only [LE, LT, v_le, v_lt] at h1 h2 h3; exact not_lt.2 h3 (lt_trans h1 h2)
  add_int := by intro a b _ _ _ _ _ _; exact (Int.cast_add a b).symm
  sub_int := by intro a b _ _ _ _ _ _; exact (Int.cast_sub a b).symm
  round_int := by intro a _ _; exact congrArg Int.cast (round_intCast a)
  dbl_unit := by intro w; simp only [LE, LT, v_le, v_lt, fz, v_ofInt, v_one, Int.cast_zero]; exact dbl_unit w
  dblOpen_unit := by intro w; simp only [LT, v_lt, fz, v_ofInt, v_one, Int.cast_zero]; exact dblOpen_unit w
  log_nonpos := by
    intro u h0 h1; simp only [LE, v_le, fz, v_ofInt, v_one, Int.cast_zero] at h0 h1 ⊢; exact ok.log_nonpos u h0 h1
  exp_le_one := by
    intro x h; simp only [LE, v_le, fz, v_ofInt, v_one, Int.cast_zero] at h ⊢
    exact ok.exp_le_one x h
  exp_nonneg := by intro x c _; simp only [LE, v_le, fz, v_ofInt, Int.cast_zero]; exact ok.exp_nonneg x
  mul_inv_nonpos := by
    intro k x hk _ hx
    simp only [LE, v_le, fz, v_ofInt, v_one, v_mul, v_div, I, Int.cast_zero] at hx ⊢
    exact mul_nonpos_of_nonneg_of_nonpos (one_div_nonneg.2 (Int.cast_nonneg (by omega))) hx
  one_sub_unit := by
    intro v h0 h1; simp only [LE, v_le, fz, v_ofInt, v_one, v_add, v_neg, Int.cast_zero, neg_add_eq_sub] at h0 h1 ⊢
    exact ⟨sub_nonneg.2 h1, sub_le_self 1 h0⟩
  mul_int_unit := by
    intro n w hn _ h0 h1
    simp only [LE, v_le, fz, v_ofInt, v_one, v_mul, I, Int.cast_zero] at h0 h1 ⊢
    have hn' : (0:F) ≤ (n : F) := Int.cast_nonneg (by omega)
    exact ⟨mul_nonneg hn' h0, mul_le_of_le_one_right hn' h1⟩
  mul_int_lt := by
    intro n u hn _ h0 h1
    simp only [LT, v_lt, v_ofInt, v_one, v_mul, I] at h1 ⊢
    exact mul_lt_of_lt_one_right (Int.cast_pos.2 (by omega)) h1
  mul_unit_int := by
    intro q t h0 h1 ht _
    simp only [LE, v_le, fz, v_ofInt, v_one, v_mul, I, Int.cast_zero] at h0 h1 ⊢
    have ht' : (0:F) ≤ (t : F) := Int.cast_nonneg ht
    exact ⟨mul_nonneg h0 ht', mul_le_of_le_one_left ht' h1⟩
  mul_nonneg := by
    intro a b c ha hb _; simp only [LE, v_le, fz, v_ofInt, v_mul, Int.cast_zero] at ha hb ⊢; exact mul_nonneg ha hb
  mul_left_notnan := by intro a b c _; simp only [LE, v_le]; exact le_refl a
  neg_antitone := by intro a b h; simp only [LE, v_le, v_neg] at h ⊢; exact neg_le_neg h
  div_mono := by
    intro n a b hn _ h
    simp only [LE, v_le, v_div, v_ofInt, I] at h ⊢
    exact div_le_div_of_nonneg_right h (Int.cast_nonneg (by omega))
  div_neg_self := by
    intro n hn _
    simp only [LE, v_le, v_div, v_neg, v_ofInt, I]
    rw [neg_div, div_self (ne_of_gt (Int.cast_pos.2 (by omega))), Int.cast_neg, Int.cast_one]
  div_int_nonneg := by
    intro a b ha _ hb _
    simp only [LE, v_le, fz, v_div, v_ofInt, I, Int.cast_zero]
    exact div_nonneg (Int.cast_nonneg ha) (Int.cast_nonneg (by omega))
  div_int_le_one := by
    intro a b _ hab hb _
    simp only [LE, v_le, v_div, v_ofInt, v_one, I]
    exact (div_le_one (Int.cast_pos.2 (by omega))).2 (Int.cast_le.2 hab)
  div_zero_nonpos := by intro b _ _; simp only [LE, v_le, fz, v_div, v_ofInt, I, Int.cast_zero, zero_div, le_refl]
  add_one_mono := by intro a b h; simp only [LE, v_le, v_add, v_one] at h ⊢; exact add_le_add_left h 1
  floor_range := by
    intro x n _ _ h0 h1
    simp only [LE, v_le, fz, v_ofInt, v_floorI, I, Int.cast_zero] at h0 h1 ⊢
    exact ⟨Int.floor_nonneg.2 h0, Int.cast_le.1 (le_trans (Int.floor_le x) h1)⟩
  floor_lt := by
    intro x n _ _ h0 h1
    simp only [LT, v_lt, v_ofInt, v_floorI, I] at h1 ⊢
    exact Int.floor_lt.2 h1

variable {σ : Type}

theorem deal64Core_spec (ok : OracleOK F) (next : σ → UInt64 × σ) (fuel : ℕ) (m n : ℤ) (hm : 1 ≤ m) (hmn : m ≤ n)
    (s : σ) (out : List ℤ) (v : Option F) (s' : σ) (h : deal64Core next fuel m n s = some (out, v, s')) :
    DealOK out m (n - 1) ∧ (∀ x, v = some x → 0 ≤ x ∧ x ≤ 1) := by
  -- the field is a carrier for every bound, in particular for `n` itself
  obtain ⟨hd, hv⟩ := deal64Core_abs (fieldFloatFacts ok n) next fuel m n hm hmn (le_refl n) s out v s' h
  exact ⟨hd, fun x hx => (unit01_iff x).1 (hv x hx)⟩

end
end EaselModel.Random
