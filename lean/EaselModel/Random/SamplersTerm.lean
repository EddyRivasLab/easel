import EaselModel.Random.UniPosTerm
import EaselModel.Random.SamplersLen
/-! # Samplers built only from `esl_rnd_Roll` / `esl_rnd_UniformPositive` terminate for EVERY seed (C09)

`esl_rnd_mem`, `esl_rnd_floatstring` (rolls only), `esl_rnd_UniformPositive` on any numeric carrier, `gamma_integer` and hence
`esl_rnd_Gamma(a)` for integral `a < 12` and `esl_rnd_Dirichlet` on such `alpha` (in particular `alpha = NULL`): on the Mersenne
Twister their models never answer `nofuel` (nor `fault`) once the fuel is `≥ 19999`, for every (non-zero) seed and any history —
consequences of `Rng.roll_terminates_onStream` / `Rng.uniPos_terminates_onStream`. -/
namespace EaselModel.Random
open SOps

/-- the sampler returns, and leaves the generator on the stream of `seed` -/
def Tot (seed : UInt32) {α : Type} (x : SRes (α × Rng)) : Prop := ∃ a r' k', x = .ok (a, r') ∧ r'.OnStream seed k'

theorem tot_bind (seed : UInt32) {α β : Type} (x : SRes (α × Rng)) (f : α × Rng → SRes (β × Rng)) (hx : Tot seed x)
    (hf : ∀ a r' k', r'.OnStream seed k' → Tot seed (f (a, r'))) : Tot seed (x.bind f) := by
  obtain ⟨a, r', k', rfl, hs⟩ := hx
  exact hf a r' k' hs

theorem tot_ok (seed : UInt32) {α : Type} (a : α) (r : Rng) (k : Nat) (h : r.OnStream seed k) : Tot seed (SRes.ok (a, r)) :=
  ⟨a, r, k, rfl, h⟩

theorem rollS_eq (n : Nat) (f : Nat) (r : Rng) :
    rollS Rng.next n r f = (match r.roll n f with | some p => SRes.ok p | none => SRes.nofuel) := by
  rw [rollS_eq_firstAcc, Rng.roll_eq]
  cases Src.firstAcc Rng.next (fun x => rollWord n x.toNat) f r <;> rfl

theorem rollS_tot (seed : UInt32) (r : Rng) (k : Nat) (h : r.OnStream seed k) (n : Nat) (hn : 0 < n) (hn' : n < 2 ^ 32)
    (fu : Nat) (hf : 19999 ≤ fu) : Tot seed (rollS Rng.next n r fu) := by
  obtain ⟨v, r', hr⟩ := Rng.roll_terminates_onStream r seed k h n hn hn' fu hf
  obtain ⟨k', _, _, hs⟩ := Rng.onStream_roll seed n fu r k v r' h hr
  rw [rollS_eq, hr]
  exact ⟨v, r', k', rfl, hs⟩

theorem rndMem_tot (seed : UInt32) (fu : Nat) (hf : 19999 ≤ fu) (n : Nat) : ∀ (acc : List Nat) (r : Rng) (k : Nat),
    r.OnStream seed k → Tot seed (rndMem Rng.next fu n acc r) := by
  induction n with
  | zero => intro acc r k h; exact tot_ok seed _ r k h
  | succ n ih =>
    intro acc r k h
    simp only [rndMem]
    exact tot_bind seed _ _ (rollS_tot seed r k h 256 (by omega) (by norm_num) fu hf) (fun a r' k' hs => ih _ r' k' hs)

theorem rndDigits_tot (seed : UInt32) (fu : Nat) (hf : 19999 ≤ fu) (n : Nat) : ∀ (acc : List Char) (r : Rng) (k : Nat),
    r.OnStream seed k → Tot seed (rndDigits Rng.next fu n acc r) := by
  induction n with
  | zero => intro acc r k h; exact tot_ok seed _ r k h
  | succ n ih =>
    intro acc r k h
    simp only [rndDigits]
    exact tot_bind seed _ _ (rollS_tot seed r k h 10 (by omega) (by norm_num) fu hf) (fun a r' k' hs => ih _ r' k' hs)

theorem floatString_tot (seed : UInt32) (fu : Nat) (hf : 19999 ≤ fu) (r : Rng) (k : Nat) (h : r.OnStream seed k) :
    Tot seed (floatString Rng.next fu r) := by
  have R : ∀ (n : Nat), 0 < n → n < 2 ^ 32 → ∀ (r : Rng) (k : Nat), r.OnStream seed k → Tot seed (rollS Rng.next n r fu) :=
    fun n h0 h1 r k hs => rollS_tot seed r k hs n h0 h1 fu hf
  unfold floatString
  refine tot_bind seed _ _ (R 2 (by omega) (by norm_num) r k h) (fun sg r1 k1 h1 => ?_)
  refine tot_bind seed _ _ (R 7 (by omega) (by norm_num) r1 k1 h1) (fun nl r2 k2 h2 => ?_)
  refine tot_bind seed _ _ ?_ (fun ip r3 k3 h3 => ?_)
  · show Tot seed (if nl = 0 then _ else _)
    split
    · exact tot_ok seed _ r2 k2 h2
    · exact tot_bind seed _ _ (R 9 (by omega) (by norm_num) r2 k2 h2) (fun d1 r' k' hs => rndDigits_tot seed fu hf _ _ r' k' hs)
  refine tot_bind seed _ _ (R 2 (by omega) (by norm_num) r3 k3 h3) (fun fr r4 k4 h4 => ?_)
  refine tot_bind seed _ _ ?_ (fun fp r5 k5 h5 => ?_)
  · show Tot seed (if fr ≠ 0 then _ else _)
    split
    · exact tot_bind seed _ _ (R 7 (by omega) (by norm_num) r4 k4 h4) (fun fl r' k' hs => rndDigits_tot seed fu hf _ _ r' k' hs)
    · exact tot_ok seed _ r4 k4 h4
  refine tot_bind seed _ _ (R 2 (by omega) (by norm_num) r5 k5 h5) (fun ex r6 k6 h6 => ?_)
  show Tot seed (if ex ≠ 0 then _ else _)
  split
  · exact tot_bind seed _ _ (R 41 (by omega) (by norm_num) r6 k6 h6) (fun ev r' k' hs => tot_ok seed _ r' k' hs)
  · exact tot_ok seed _ r6 k6 h6

variable {F : Type} [SOps F]

/-- `uniPos` on a generator is `Rng.uniformPositive` with the numerator divided by `2^32` -/
theorem uniPos_eq_uniformPositive (f : Nat) (r : Rng) :
    uniPos (F := F) Rng.next r f
      = SRes.ofOption ((r.uniformPositive f).map fun p => (div (ofNat p.1) (ofNat 4294967296), p.2)) := by
  rw [uniPos_eq_firstAcc, Rng.uniformPositive_eq, ← Src.firstAcc_map (fun k : Nat => (div (ofNat k) (ofNat 4294967296) : F))]
  congr 2
  funext w
  by_cases h : w = 0
  · rw [if_pos h, if_pos (h ▸ rfl)]; rfl
  · rw [if_neg h, if_neg (show ¬ w.toNat = 0 from fun h0 => h (UInt32.toNat_inj.1 h0))]; rfl

theorem uniPos_tot (seed : UInt32) (hs : seed ≠ 0) (r : Rng) (k : Nat) (h : r.OnStream seed k) (fu : Nat) (hf : 624 ≤ fu) :
    Tot seed (uniPos (F := F) Rng.next r fu) := by
  obtain ⟨x, r', hr⟩ := Rng.uniPos_terminates_onStream r seed hs k h fu hf
  obtain ⟨k', _, _, hs'⟩ := Rng.onStream_uniformPositive seed fu r k x r' h hr
  rw [uniPos_eq_uniformPositive, hr]
  exact ⟨_, r', k', rfl, hs'⟩

theorem gammaIntU_tot (seed : UInt32) (hs : seed ≠ 0) (fu : Nat) (hf : 624 ≤ fu) (a : Nat) : ∀ (U : F) (r : Rng) (k : Nat),
    r.OnStream seed k → Tot seed (gammaIntU Rng.next fu a U r) := by
  induction a with
  | zero => intro U r k h; exact tot_ok seed _ r k h
  | succ a ih =>
    intro U r k h
    simp only [gammaIntU]
    exact tot_bind seed _ _ (uniPos_tot seed hs r k h fu hf) (fun u r' k' hs' => ih _ r' k' hs')

theorem gammaInteger_tot (seed : UInt32) (hs : seed ≠ 0) (fu : Nat) (hf : 624 ≤ fu) (a : Nat) (r : Rng) (k : Nat)
    (h : r.OnStream seed k) : Tot seed (gammaInteger (F := F) Rng.next fu a r) := by
  unfold gammaInteger
  exact tot_bind seed _ _ (gammaIntU_tot seed hs fu hf a one r k h) (fun u r' k' hs' => tot_ok seed _ r' k' hs')

theorem gamma_integer_branch_tot (seed : UInt32) (hs : seed ≠ 0) (fu fuel : Nat) (hf : 624 ≤ fu) (a : F)
    (ha : (beq a (floor a) && lt a (ofNat 12)) = true) (r : Rng) (k : Nat) (h : r.OnStream seed k) :
    Tot seed (gamma Rng.next fu fuel a r) := by
  unfold gamma
  simp only [ha, ↓reduceIte]
  exact gammaInteger_tot seed hs fu hf _ r k h

theorem dirichletDraw_tot (seed : UInt32) (hs : seed ≠ 0) (fu fuel : Nat) (hf : 624 ≤ fu) (alpha : List F)
    (hal : ∀ a ∈ alpha, (beq a (floor a) && lt a (ofNat 12)) = true) : ∀ (acc : List F) (norm : F) (r : Rng) (k : Nat),
    r.OnStream seed k → Tot seed (dirichletDraw Rng.next fu fuel alpha acc norm r) := by
  induction alpha with
  | nil => intro acc norm r k h; exact tot_ok seed _ r k h
  | cons a rest ih =>
    intro acc norm r k h
    simp only [dirichletDraw]
    exact tot_bind seed _ _ (gamma_integer_branch_tot seed hs fu fuel hf a (hal a (by simp)) r k h)
      (fun g r' k' hs' => ih (fun b hb => hal b (by simp [hb])) _ _ r' k' hs')

theorem dirichlet_integer_tot (seed : UInt32) (hs : seed ≠ 0) (fu fuel : Nat) (hf : 624 ≤ fu) (alpha : List F)
    (hal : ∀ a ∈ alpha, (beq a (floor a) && lt a (ofNat 12)) = true) (r : Rng) (k : Nat) (h : r.OnStream seed k) :
    Tot seed (dirichlet Rng.next fu fuel alpha r) := by
  unfold dirichlet
  exact tot_bind seed _ _ (dirichletDraw_tot seed hs fu fuel hf alpha hal [] zero r k h) (fun p r' k' hs' => tot_ok seed _ r' k' hs')

end EaselModel.Random
