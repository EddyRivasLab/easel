import EaselModel.Random.SamplersThm
import Mathlib.Tactic.Ring
import Mathlib.Tactic.FieldSimp
/-! # `esl_rnd_Gaussian` never indexes its tables out of bounds (C09)

Over `ℝ`, for every source state, all fuels and ANY tables of the declared sizes `a[32] d[31] t[31] h[31]`:
the model's bounds-checked table reads never yield `fault`.  The tail loop `S110: aa += d[i-1]; i += 1` starts at `i = 6`
and doubles `u` until `u ≥ 1`; because a uniform deviate is `x/2^32` with `x ≥ 1`, `u ≥ 2^-26` on entry and `i` ends
at most at 31 — the bound is tight (reached for `x = 1`), it is what `ESL_DASSERT1(( i <= 31 ))` asserts. -/
namespace EaselModel.Random
open SOps
variable {σ : Type}

theorem SRes.bind_fault {α β : Type} {x : SRes α} {f : α → SRes β} (h : x.bind f = .fault) :
    x = .fault ∨ ∃ a, x = .ok a ∧ f a = .fault := by
  cases x with
  | ok a => exact Or.inr ⟨a, rfl, h⟩
  | nofuel => cases h
  | fault => exact Or.inl rfl

theorem uniPos_grain (next : σ → UInt32 × σ) (s : σ) (f : ℕ) (u : ℝ) (s' : σ)
    (h : uniPos next s f = .ok (u, s')) : ∃ x : ℕ, 1 ≤ x ∧ x < 4294967296 ∧ u = (x : ℝ) / 4294967296 := by
  obtain ⟨x, hne, rfl⟩ := uniPos_ok next s f u s' h
  exact ⟨x.toNat, Nat.pos_of_ne_zero fun h0 => hne (UInt32.toNat_inj.1 h0), UInt32.toNat_lt _, by simp [uni]⟩

theorem tget_ok (T : Array ℝ) (i : ℕ) (hi : i < T.size) : tget T i ≠ .fault := by
  simp only [tget]
  rw [Array.getElem?_eq_getElem hi]
  simp

structure TablesOK (T : GaussTables ℝ) : Prop where
  a : T.a.size = 32
  d : T.d.size = 31
  t : T.t.size = 31
  h : T.h.size = 31

theorem tget_cases (T : Array ℝ) (i : ℕ) (hi : i < T.size) : ∃ x, tget T i = .ok x := by
  simp only [tget]
  rw [Array.getElem?_eq_getElem hi]
  exact ⟨_, rfl⟩

theorem gaussCenter_no_fault (next : σ → UInt32 × σ) (fu : ℕ) (T : GaussTables ℝ) (hT : TablesOK T) (i : ℕ)
    (hi1 : 1 ≤ i) (hi : i ≤ 31) (aa : ℝ) (ph : GPhase ℝ) (s : σ) (f : ℕ) :
    gaussCenter next fu T i aa ph s f ≠ .fault := by
  induction f generalizing ph s with
  | zero => cases ph <;> simp [gaussCenter]
  | succ f ih =>
    obtain ⟨ti, hti⟩ := tget_cases T.t (i-1) (by rw [hT.t]; omega)
    obtain ⟨ai, hai⟩ := tget_cases T.a i (by rw [hT.a]; omega)
    obtain ⟨hi', hhi⟩ := tget_cases T.h (i-1) (by rw [hT.h]; omega)
    cases ph with
    | p40 ustar =>
      simp only [gaussCenter, hti, SRes.bind]
      split
      · intro hf
        rcases SRes.bind_fault hf with h1 | ⟨us, _, h2⟩
        · exact uniPos_no_fault _ _ _ h1
        · simp only [hai, SRes.bind] at h2
          exact ih _ _ h2
      · simp [hhi, SRes.bind]
    | p80 ustar tt w =>
      simp only [gaussCenter]
      split
      · simp
      · intro hf
        rcases SRes.bind_fault hf with h1 | ⟨us, _, h2⟩
        · exact uniPos_no_fault _ _ _ h1
        · rcases SRes.bind_fault h2 with h3 | ⟨us2, _, h4⟩
          · exact uniPos_no_fault _ _ _ h3
          · split at h4
            · exact ih _ _ h4
            · exact ih _ _ h4

theorem gaussTail_no_fault (next : σ → UInt32 × σ) (fu : ℕ) (T : GaussTables ℝ) (hT : TablesOK T) (i : ℕ)
    (hi1 : 1 ≤ i) (hi : i ≤ 31) (aa : ℝ) (ph : TPhase ℝ) (s : σ) (f : ℕ) :
    gaussTail next fu T i aa ph s f ≠ .fault := by
  induction f generalizing ph s with
  | zero => cases ph <;> simp [gaussTail]
  | succ f ih =>
    obtain ⟨di, hdi⟩ := tget_cases T.d (i-1) (by rw [hT.d]; omega)
    cases ph with
    | p140 u =>
      simp only [gaussTail, hdi, SRes.bind]
      exact ih _ _
    | p160 tt w =>
      simp only [gaussTail]
      intro hf
      rcases SRes.bind_fault hf with h1 | ⟨us, _, h2⟩
      · exact uniPos_no_fault _ _ _ h1
      · split at h2
        · cases h2
        · rcases SRes.bind_fault h2 with h3 | ⟨us2, _, h4⟩
          · exact uniPos_no_fault _ _ _ h3
          · split at h4
            · exact ih _ _ h4
            · rcases SRes.bind_fault h4 with h5 | ⟨us3, _, h6⟩
              · exact uniPos_no_fault _ _ _ h5
              · exact ih _ _ h6

theorem gaussTailIdx_spec (T : GaussTables ℝ) (hT : TablesOK T) (u aa : ℝ) (i f : ℕ) (hi6 : 1 ≤ i) (hi : i ≤ 31)
    (hu : 1 ≤ u * 2 ^ (32 - i)) :
    gaussTailIdx T u aa i f ≠ .fault ∧
    ∀ u' aa' i', gaussTailIdx T u aa i f = .ok (u', aa', i') → i ≤ i' ∧ i' ≤ 31 := by
  induction f generalizing u aa i with
  | zero => simp [gaussTailIdx]
  | succ f ih =>
    simp only [gaussTailIdx, r_add, r_lt, r_one, r_sub]
    split
    · rename_i hlt
      have hi30 : i ≤ 30 := by
        by_contra hc
        have hi31 : i = 31 := by omega
        rw [hi31] at hu
        norm_num at hu
        linarith
      obtain ⟨di, hdi⟩ := tget_cases T.d (i-1) (by rw [hT.d]; omega)
      have hpow : (2:ℝ) ^ (32 - i) = 2 * 2 ^ (32 - (i+1)) := by
        have : 32 - i = (32 - (i+1)) + 1 := by omega
        rw [this, pow_succ]; ring
      have hu' : 1 ≤ (u + u) * 2 ^ (32 - (i+1)) := by
        rw [hpow] at hu; linarith
      obtain ⟨q1, q2⟩ := ih (u + u) (aa + di) (i+1) (by omega) (by omega) hu'
      simp only [hdi, SRes.bind]
      exact ⟨q1, fun u' aa' i' h => by have := q2 u' aa' i' h; omega⟩
    · refine ⟨by simp, fun u' aa' i' h => ?_⟩
      simp only [SRes.ok.injEq, Prod.mk.injEq] at h
      omega

theorem gaussScale_bounds (x : ℕ) (hx1 : 1 ≤ x) (hx2 : x < 4294967296) :
    1 ≤ gaussScale ((x : ℝ) / 4294967296) * 2 ^ 26 ∧ gaussScale ((x : ℝ) / 4294967296) ≤ 32 := by
  have hxr : (1:ℝ) ≤ (x:ℝ) := by exact_mod_cast hx1
  have hxr2 : (x:ℝ) + 1 ≤ 4294967296 := by exact_mod_cast (show x + 1 ≤ 4294967296 by omega)
  simp only [gaussScale, gaussSgn, r_mul, r_add, r_sub, r_ofNat, r_lt, SOps.half, r_div, r_one, r_zero, Nat.cast_ofNat,
    Nat.cast_one]
  split
  · rename_i hgt
    have hx3 : (2147483648:ℝ) < (x:ℝ) := by
      rw [lt_div_iff₀ (by norm_num)] at hgt; linarith
    have hx4 : (2147483649:ℝ) ≤ (x:ℝ) := by
      have : 2147483648 < x := by exact_mod_cast hx3
      exact_mod_cast (show 2147483649 ≤ x by omega)
    constructor
    · have : (32:ℝ) * ((x:ℝ) / 4294967296 + ((x:ℝ) / 4294967296 - 1)) * 2 ^ 26 = (x:ℝ) - 2147483648 := by ring
      rw [this]; linarith
    · have : (x:ℝ) / 4294967296 < 1 := by rw [div_lt_one (by norm_num)]; linarith
      linarith
  · rename_i hle
    have hx3 : (x:ℝ) / 4294967296 ≤ 1 / 2 := le_of_not_gt hle
    constructor
    · have : (32:ℝ) * ((x:ℝ) / 4294967296 + ((x:ℝ) / 4294967296 - 0)) * 2 ^ 26 = (x:ℝ) := by ring
      rw [this]; exact hxr
    · linarith

theorem gaussIndex_le (u : ℝ) (hu : u ≤ 32) : gaussIndex u ≤ 31 := by
  have hi32 : ⌊u⌋₊ ≤ 32 := Nat.floor_le_of_le (by simpa using hu)
  simp only [gaussIndex, r_toNat]
  split <;> omega

theorem gaussBody_no_fault (next : σ → UInt32 × σ) (fu fuel : ℕ) (T : GaussTables ℝ) (hT : TablesOK T) (sgn u : ℝ)
    (i : ℕ) (hi : i ≤ 31) (hu : 1 ≤ u * 2 ^ 26) (s : σ) : gaussBody next fu fuel T sgn u i s ≠ .fault := by
  simp only [gaussBody]
  intro h2
  split at h2
  · obtain ⟨a31, ha31⟩ := tget_cases T.a 31 (by rw [hT.a]; omega)
    simp only [ha31, SRes.bind] at h2
    obtain ⟨q1, q2⟩ := gaussTailIdx_spec T hT u a31 6 fuel (by omega) (by omega) (by simpa using hu)
    rcases SRes.bind_fault h2 with h3 | ⟨⟨u', aa', i'⟩, hidx, h4⟩
    · exact q1 h3
    · obtain ⟨hlo, hhi⟩ := q2 u' aa' i' hidx
      rcases SRes.bind_fault h4 with h5 | ⟨ws, _, h6⟩
      · exact gaussTail_no_fault next fu T hT i' (by omega) hhi aa' _ _ _ h5
      · cases h6
  · obtain ⟨aa, haa⟩ := tget_cases T.a (i-1) (by rw [hT.a]; omega)
    simp only [haa, SRes.bind] at h2
    rcases SRes.bind_fault h2 with h5 | ⟨ws, _, h6⟩
    · exact gaussCenter_no_fault next fu T hT i (by omega) hi aa _ _ _ h5
    · cases h6

theorem gaussSnorm_no_fault (next : σ → UInt32 × σ) (fu fuel : ℕ) (T : GaussTables ℝ) (hT : TablesOK T) (s : σ) :
    gaussSnorm next fu fuel T s ≠ .fault := by
  simp only [gaussSnorm]
  intro hf
  rcases SRes.bind_fault hf with h1 | ⟨⟨u0, s1⟩, hu0, h2⟩
  · exact uniPos_no_fault _ _ _ h1
  obtain ⟨x, hx1, hx2, hxe⟩ := uniPos_grain next s fu u0 s1 hu0
  subst hxe
  obtain ⟨b1, b2⟩ := gaussScale_bounds x hx1 hx2
  exact gaussBody_no_fault next fu fuel T hT _ _ _ (gaussIndex_le _ b2) b1 s1 h2

theorem gaussian_no_fault (next : σ → UInt32 × σ) (fu fuel : ℕ) (T : GaussTables ℝ) (hT : TablesOK T) (mean sd : ℝ)
    (s : σ) : gaussian next fu fuel T mean sd s ≠ .fault := by
  simp only [gaussian]
  intro hf
  rcases SRes.bind_fault hf with h1 | ⟨r, _, h2⟩
  · exact gaussSnorm_no_fault next fu fuel T hT s h1
  · cases h2

end EaselModel.Random
