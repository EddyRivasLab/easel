import EaselModel.Random.Model
import EaselModel.Generated.RandTables
/-! # The hand model's generator constants ARE the values regenerated from the working tree (C09)

`Generated/RandTables.lean` holds the constants that `translate/rand_tables.py` derives on every run by probing the compiled
`mersenne_twister / mersenne_fill_table / mersenne_seed_table / knuth / esl_rand64 / mt64_fill_table / mt64_seed_table` of the
working tree.  Here: the model's `P32`, `twist32`, `temper32`, `P64`, `twist64`, `temper64`, `Rng.next` (LCG) are the MT / LCG
with exactly those values — so a constant changed in the C source (however it is spelled there) makes this file fail to check,
and no constant of the model is taken on trust from the model source. -/
namespace EaselModel.Random
open EaselModel.MTP EaselModel.Generated.RandTables

/-- the MT twist `mt[z+M] ^ (y >> 1) ^ mag01[y & 1]`, `y = (mt[z] & UM) | (mt[z+1] & LM)`, with explicit constants -/
def twistOf32 (A UM LM : UInt32) (a b c : UInt32) : UInt32 :=
  let y := (a &&& UM) ||| (b &&& LM)
  c ^^^ (y >>> 1) ^^^ (if y &&& 1 = 0 then 0 else A)

def twistOf64 (A UM LM : UInt64) (a b c : UInt64) : UInt64 :=
  let y := (a &&& UM) ||| (b &&& LM)
  c ^^^ (y >>> 1) ^^^ (if y &&& 1 = 0 then 0 else A)

def c32 (i : Nat) : Nat := mt32Consts.getD i 0
def c64 (i : Nat) : Nat := mt64Consts.getD i 0

/-- MT19937 of the model = MT with the regenerated `N, M, A, UM, LM`, seeding multiplier, and tempering (given by its images of
    the 32 basis words; the prober checks that the C tempering is XOR-linear) -/
theorem model_uses_generated32 :
    P32.N = c32 0 ∧ P32.M = c32 1 ∧
    (∀ a b c, twist32 a b c = twistOf32 (UInt32.ofNat (c32 2)) (UInt32.ofNat (c32 3)) (UInt32.ofNat (c32 4)) a b c) ∧
    (∀ z x, P32.seedf z x = UInt32.ofNat (c32 5) * x) ∧
    (List.range 32).map (fun i => (temper32 ((1 : UInt32) <<< UInt32.ofNat i)).toNat) = mt32TemperBasis ∧
    mt32Consts.length = 6 :=
  ⟨rfl, rfl, fun _ _ _ => rfl, fun _ _ => rfl, by decide, rfl⟩

theorem model_uses_generated64 :
    P64.N = c64 0 ∧ P64.M = c64 1 ∧
    (∀ a b c, twist64 a b c = twistOf64 (UInt64.ofNat (c64 2)) (UInt64.ofNat (c64 3)) (UInt64.ofNat (c64 4)) a b c) ∧
    (∀ z x, P64.seedf z x = UInt64.ofNat (c64 5) * (x ^^^ (x >>> UInt64.ofNat (c64 6))) + UInt64.ofNat (z + 1)) ∧
    (List.range 64).map (fun i => (temper64 ((1 : UInt64) <<< UInt64.ofNat i)).toNat) = mt64TemperBasis ∧
    mt64Consts.length = 7 :=
  ⟨rfl, rfl, fun _ _ _ => rfl, fun _ _ => rfl, by decide, rfl⟩

theorem model_uses_generated_lcg (r : Rng) (h : r.kind = .fast) :
    (r.next).1 = r.x * UInt32.ofNat (lcgConsts.getD 0 0) + UInt32.ofNat (lcgConsts.getD 1 0) ∧ lcgConsts.length = 2 := by
  refine ⟨?_, rfl⟩
  simp only [Rng.next, h]
  rfl

/-! ## Tempering is XOR-linear (so its images of the basis words `1 <<< i` determine it: every word is the XOR of its bits) -/
theorem bv_and_xor {w : Nat} (a b m : BitVec w) : (a ^^^ b) &&& m = (a &&& m) ^^^ (b &&& m) := by
  ext i hi
  simp only [BitVec.getElem_and, BitVec.getElem_xor]
  cases a[i] <;> cases b[i] <;> cases m[i] <;> rfl
theorem and_xor32 (a b m : UInt32) : (a ^^^ b) &&& m = (a &&& m) ^^^ (b &&& m) := by
  apply UInt32.eq_of_toBitVec_eq
  simp [bv_and_xor]
theorem and_xor64 (a b m : UInt64) : (a ^^^ b) &&& m = (a &&& m) ^^^ (b &&& m) := by
  apply UInt64.eq_of_toBitVec_eq
  simp [bv_and_xor]
theorem xor4_32 (a b c d : UInt32) : (a ^^^ b) ^^^ (c ^^^ d) = (a ^^^ c) ^^^ (b ^^^ d) := by ac_rfl
theorem xor4_64 (a b c d : UInt64) : (a ^^^ b) ^^^ (c ^^^ d) = (a ^^^ c) ^^^ (b ^^^ d) := by ac_rfl

def stR32 (k m : UInt32) (x : UInt32) : UInt32 := x ^^^ ((x >>> k) &&& m)
def stL32 (k m : UInt32) (x : UInt32) : UInt32 := x ^^^ ((x <<< k) &&& m)
theorem stR32_xor (k m a b : UInt32) : stR32 k m (a ^^^ b) = stR32 k m a ^^^ stR32 k m b := by
  simp only [stR32, UInt32.shiftRight_xor, and_xor32]; exact xor4_32 _ _ _ _
theorem stL32_xor (k m a b : UInt32) : stL32 k m (a ^^^ b) = stL32 k m a ^^^ stL32 k m b := by
  simp only [stL32, UInt32.shiftLeft_xor, and_xor32]; exact xor4_32 _ _ _ _
theorem temper32_stages (x : UInt32) :
    temper32 x = stR32 18 0xffffffff (stL32 15 0xefc60000 (stL32 7 0x9d2c5680 (stR32 11 0xffffffff x))) := by
  have h : ∀ y : UInt32, y &&& 0xffffffff = y := by
    intro y; apply UInt32.eq_of_toBitVec_eq; show y.toBitVec &&& BitVec.allOnes 32 = y.toBitVec; exact BitVec.and_allOnes
  simp only [temper32, stR32, stL32, h]
theorem temper32_xor (a b : UInt32) : temper32 (a ^^^ b) = temper32 a ^^^ temper32 b := by
  simp only [temper32_stages, stR32_xor, stL32_xor]

def stR64 (k m : UInt64) (x : UInt64) : UInt64 := x ^^^ ((x >>> k) &&& m)
def stL64 (k m : UInt64) (x : UInt64) : UInt64 := x ^^^ ((x <<< k) &&& m)
theorem stR64_xor (k m a b : UInt64) : stR64 k m (a ^^^ b) = stR64 k m a ^^^ stR64 k m b := by
  simp only [stR64, UInt64.shiftRight_xor, and_xor64]; exact xor4_64 _ _ _ _
theorem stL64_xor (k m a b : UInt64) : stL64 k m (a ^^^ b) = stL64 k m a ^^^ stL64 k m b := by
  simp only [stL64, UInt64.shiftLeft_xor, and_xor64]; exact xor4_64 _ _ _ _
theorem temper64_stages (x : UInt64) :
    temper64 x = stR64 43 0xffffffffffffffff (stL64 37 0xFFF7EEE000000000 (stL64 17 0x71D67FFFEDA60000 (stR64 29 0x5555555555555555 x))) := by
  have h : ∀ y : UInt64, y &&& 0xffffffffffffffff = y := by
    intro y; apply UInt64.eq_of_toBitVec_eq; show y.toBitVec &&& BitVec.allOnes 64 = y.toBitVec; exact BitVec.and_allOnes
  simp only [temper64, stR64, stL64, h]
theorem temper64_xor (a b : UInt64) : temper64 (a ^^^ b) = temper64 a ^^^ temper64 b := by
  simp only [temper64_stages, stR64_xor, stL64_xor]

theorem temper32_zero : temper32 0 = 0 := by decide
theorem temper64_zero : temper64 0 = 0 := by decide

end EaselModel.Random
