import EaselModel.Random.Samplers
import EaselModel.Random.Lemmas
/-! `esl_rnd_mem` writes exactly `n` bytes; `esl_rnd_floatstring` writes at most 19 characters before the NUL (the caller's
    buffer is documented as 20) — for every source state and fuel; `rollS` and `uniPos` as `Src.firstAcc`. Core Lean only. -/
namespace EaselModel.Random
variable {σ : Type}

theorem SRes.bind_ok {α β : Type} {x : SRes α} {f : α → SRes β} {b : β} (h : x.bind f = .ok b) :
    ∃ a, x = .ok a ∧ f a = .ok b := by
  cases x with
  | ok a => exact ⟨a, rfl, h⟩
  | nofuel => cases h
  | fault => cases h

/-- an exhausted loop is `nofuel` -/
def SRes.ofOption {α : Type} : Option α → SRes α
  | some a => .ok a
  | none => .nofuel

theorem SRes.ofOption_ok {α : Type} {o : Option α} {a : α} (h : SRes.ofOption o = .ok a) : o = some a := by
  cases o with
  | none => cases h
  | some b => cases h; rfl

/-- `rollS` and `uniPos` are the rejection loop `Src.firstAcc` -/
theorem rollS_eq_firstAcc (next : σ → UInt32 × σ) (n f : Nat) : ∀ s : σ,
    rollS next n s f = SRes.ofOption (Src.firstAcc next (fun x => rollWord n x.toNat) f s) := by
  induction f with
  | zero => intro s; rfl
  | succ f ih => intro s; simp only [rollS, Src.firstAcc, ih]; cases rollWord n (next s).1.toNat <;> rfl

theorem uniPos_eq_firstAcc {F : Type} [SOps F] (next : σ → UInt32 × σ) (f : Nat) : ∀ s : σ,
    uniPos (F := F) next s f = SRes.ofOption (Src.firstAcc next (fun x => if x = 0 then none else some (uni x)) f s) := by
  induction f with
  | zero => intro s; rfl
  | succ f ih => intro s; simp only [uniPos, Src.firstAcc, ih]; split <;> rfl

/-- what `uniPos` returns: `x/2^32` for the first non-zero word `x` -/
theorem uniPos_ok {F : Type} [SOps F] (next : σ → UInt32 × σ) (s : σ) (f : Nat) (u : F) (s' : σ)
    (h : uniPos next s f = .ok (u, s')) : ∃ x : UInt32, x ≠ 0 ∧ u = uni x := by
  rw [uniPos_eq_firstAcc] at h
  obtain ⟨i, _, _, hv, _⟩ := Src.firstAcc_some f s (SRes.ofOption_ok h)
  split at hv
  · cases hv
  · cases hv; exact ⟨_, ‹_›, rfl⟩

theorem uniPos_no_fault {F : Type} [SOps F] (next : σ → UInt32 × σ) (s : σ) (f : Nat) : uniPos (F := F) next s f ≠ .fault := by
  rw [uniPos_eq_firstAcc]
  generalize Src.firstAcc next _ f s = o
  cases o <;> exact fun h => nomatch h

theorem rollS_lt (next : σ → UInt32 × σ) (n : Nat) (s : σ) (f : Nat) (v : Nat) (s' : σ)
    (h : rollS next n s f = .ok (v, s')) : v < n := by
  rw [rollS_eq_firstAcc] at h
  obtain ⟨i, _, _, hv, _⟩ := Src.firstAcc_some f s (SRes.ofOption_ok h)
  exact rollWord_lt _ _ _ hv

theorem rndMem_spec (next : σ → UInt32 × σ) (fu n : Nat) (acc : List Nat) (s : σ) (bs : List Nat) (s' : σ)
    (hacc : ∀ b ∈ acc, b < 256) (h : rndMem next fu n acc s = .ok (bs, s')) :
    bs.length = acc.length + n ∧ ∀ b ∈ bs, b < 256 := by
  induction n generalizing acc s with
  | zero =>
    simp only [rndMem, SRes.ok.injEq, Prod.mk.injEq] at h
    rw [← h.1]
    exact ⟨by simp, fun b hb => hacc b (List.mem_reverse.1 hb)⟩
  | succ n ih =>
    simp only [rndMem] at h
    obtain ⟨⟨v, s1⟩, hv, hrest⟩ := SRes.bind_ok h
    have hlt := rollS_lt next 256 s fu v s1 hv
    obtain ⟨q1, q2⟩ := ih (v :: acc) s1 (fun b hb => by
      rcases List.mem_cons.1 hb with rfl | hb
      · exact hlt
      · exact hacc b hb) hrest
    exact ⟨by simp at q1 ⊢; omega, q2⟩

theorem rndDigits_len (next : σ → UInt32 × σ) (fu k : Nat) (acc : List Char) (s : σ) (cs : List Char) (s' : σ)
    (h : rndDigits next fu k acc s = .ok (cs, s')) : cs.length = acc.length + k := by
  induction k generalizing acc s with
  | zero => simp only [rndDigits, SRes.ok.injEq, Prod.mk.injEq] at h; rw [← h.1]; simp
  | succ k ih =>
    simp only [rndDigits] at h
    obtain ⟨⟨v, s1⟩, _, hrest⟩ := SRes.bind_ok h
    have := ih _ _ hrest
    simp at this ⊢; omega

theorem expLen : ∀ k : Fin 41, (toString ((k.val : Int) - 20)).toList.length ≤ 3 := by decide

theorem floatString_len (next : σ → UInt32 × σ) (fu : Nat) (s : σ) (cs : List Char) (s' : σ)
    (h : floatString next fu s = .ok (cs, s')) : 1 ≤ cs.length ∧ cs.length ≤ 19 := by
  simp only [floatString] at h
  obtain ⟨⟨sg, s1⟩, _, h⟩ := SRes.bind_ok h
  obtain ⟨⟨nl, s2⟩, hnl, h⟩ := SRes.bind_ok h
  have hnl7 := rollS_lt next 7 _ fu nl s2 hnl
  obtain ⟨⟨ip, s3⟩, hip, h⟩ := SRes.bind_ok h
  -- integer part: 1..6 digits after an optional sign
  have hsg : (if sg ≠ 0 then ['-'] else ([] : List Char)).length ≤ 1 := by split <;> simp
  have hipl : 1 ≤ ip.length ∧ ip.length ≤ 7 := by
    simp only [] at hip
    split at hip
    · simp only [SRes.ok.injEq, Prod.mk.injEq] at hip
      rw [← hip.1]; simp only [List.length_append, List.length_cons, List.length_nil]; omega
    · obtain ⟨⟨d1, s2'⟩, _, hip⟩ := SRes.bind_ok hip
      have := rndDigits_len next fu _ _ _ _ _ hip
      rw [this]; simp only [List.length_append, List.length_cons, List.length_nil]; omega
  obtain ⟨⟨fr, s4⟩, _, h⟩ := SRes.bind_ok h
  obtain ⟨⟨fp, s5⟩, hfp, h⟩ := SRes.bind_ok h
  have hfpl : ip.length ≤ fp.length ∧ fp.length ≤ ip.length + 8 := by
    simp only [] at hfp
    split at hfp
    · obtain ⟨⟨fl, s4'⟩, hfl, hfp⟩ := SRes.bind_ok hfp
      have hfl7 := rollS_lt next 7 _ fu fl s4' hfl
      have := rndDigits_len next fu _ _ _ _ _ hfp
      rw [this]; simp only [List.length_append, List.length_cons, List.length_nil]; omega
    · simp only [SRes.ok.injEq, Prod.mk.injEq] at hfp
      rw [← hfp.1]; omega
  obtain ⟨⟨ex, s6⟩, _, h⟩ := SRes.bind_ok h
  simp only [] at h
  split at h
  · obtain ⟨⟨ev, s7⟩, hev, h⟩ := SRes.bind_ok h
    have hev41 := rollS_lt next 41 _ fu ev s7 hev
    simp only [SRes.ok.injEq, Prod.mk.injEq] at h
    rw [← h.1]
    have := expLen ⟨ev, hev41⟩
    simp only [List.length_append, List.length_cons, List.length_nil]
    simp only [] at this
    omega
  · simp only [SRes.ok.injEq, Prod.mk.injEq] at h
    rw [← h.1]; omega

end EaselModel.Random
