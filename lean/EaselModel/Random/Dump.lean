import EaselModel.Random.Lemmas
/-! # Seed selection with an explicit environment, `esl_rand64_Init`, and the two `Dump` functions (C09). Core Lean only.

* `Rng.initEnv / createEnv / Rng64.initEnv / createEnv`: `esl_randomness_Init`, `_Create`, `_CreateFast`,
  `_CreateTimeseeded`, `esl_rand64_Init`, `esl_rand64_Create` for ANY seed including 0; the three words that
  `choose_arbitrary_seed()` reads (`time()`, `getpid()`, `clock()`) are the explicit input `env`.
* `Rng.dump`, `Rng64.dump`: the text `esl_randomness_Dump` / `esl_rand64_Dump` write; every table read goes through a
  bounds-checked accessor (`none` = out-of-bounds read = the defect repaired by 6211f3f at `mti == 624`). -/
namespace EaselModel.Random
open EaselModel.MTP

abbrev Env := UInt32 × UInt32 × UInt32

/-- `esl_randomness_Init(r, seed)`, any seed -/
def Rng.initEnv (r : Rng) (seed : UInt32) (env : Env) : Rng := r.initWith (effSeed32 seed env)
/-- `esl_randomness_Create(seed)` / `esl_randomness_CreateFast(seed)`, any seed -/
def Rng.createEnv (k : Kind) (seed : UInt32) (env : Env) : Rng := Rng.create k (effSeed32 seed env)
/-- `esl_randomness_CreateTimeseeded()` = `esl_randomness_Create(0)` -/
def Rng.createTimeseeded (env : Env) : Rng := Rng.createEnv .mersenne 0 env

/-- `esl_rand64_Init(rng, seed)` for a non-zero seed: the whole state is replaced -/
def Rng64.initWith (_r : Rng64) (seed : UInt64) : Rng64 := Rng64.create seed
def Rng64.initEnv (r : Rng64) (seed : UInt64) (env : Env) : Rng64 := r.initWith (effSeed64 seed env)
def Rng64.createEnv (seed : UInt64) (env : Env) : Rng64 := Rng64.create (effSeed64 seed env)

/-- `printf("%<w>d")` of a non-negative number / `%<w>u`: right-justified in `w` columns -/
def padLeft (w : Nat) (s : String) : String := String.ofList (List.replicate (w - s.length) ' ') ++ s

/-- read `mt[i], …, mt[i+k-1]`, each through the bounds check -/
def readCells {α : Type} (mt : Array α) : Nat → Nat → Option (List α)
  | _, 0 => some []
  | i, k+1 =>
    match mt[i]? with
    | none => none
    | some w => (readCells mt (i+1) k).map (w :: ·)

theorem readCells_isSome {α : Type} (mt : Array α) (i k : Nat) (h : i + k ≤ mt.size) : (readCells mt i k).isSome := by
  induction k generalizing i with
  | zero => rfl
  | succ k ih =>
    have hi : i < mt.size := by omega
    simp only [readCells, Array.getElem?_eq_getElem hi]
    have := ih (i+1) (by omega)
    cases h' : readCells mt (i+1) k with
    | none => rw [h'] at this; cases this
    | some l => rfl

/-- the table loop of `esl_randomness_Dump`: `"%11u "` per word, after every 20th `"\n%6d: "` with the next index -/
def dumpRows32 : List UInt32 → Nat → Nat → String → String
  | [], _, _, acc => acc
  | w :: ws, i, j, acc =>
    let acc := acc ++ padLeft 11 (toString w.toNat) ++ " "
    if j + 1 = 20 then dumpRows32 ws (i+1) 0 (acc ++ "\n" ++ padLeft 6 (toString (i+1)) ++ ": ")
    else dumpRows32 ws (i+1) (j+1) acc

/-- `esl_randomness_Dump(fp, r)`: the text written, or `none` for a read outside `mt[0..623]` -/
def Rng.dump (r : Rng) : Option String :=
  match r.kind with
  | .fast => some ("type  = knuth\n" ++ s!"state = {r.x.toNat}\n" ++ s!"seed  = {r.seed.toNat}\n")
  | .mersenne =>
    let head := "type    = mersenne twister\n" ++ s!"mti     = {r.st.mti} (0..623)\n"
    let cur : Option String :=
      if r.st.mti < 624 then (r.st.mt[r.st.mti]?).map fun w => s!"mt[mti] = {w.toNat}\n"
      else some "mt[mti] = (table exhausted)\n"
    match cur, readCells r.st.mt 0 624 with
    | some c, some cells => some (head ++ c ++ dumpRows32 cells 0 0 (padLeft 6 "0" ++ ": ") ++ "\n")
    | _, _ => none

/-- the table loop of `esl_rand64_Dump`: `"%20lu  "` per word, `"\n"` after every 10th -/
def dumpRows64 : List UInt64 → Nat → String → String
  | [], _, acc => acc
  | w :: ws, i, acc =>
    let acc := acc ++ padLeft 20 (toString w.toNat) ++ "  "
    dumpRows64 ws (i+1) (if i % 10 = 9 then acc ++ "\n" else acc)

/-- `esl_rand64_Dump(fp, rng)` -/
def Rng64.dump (r : Rng64) : Option String :=
  match readCells r.st.mt 0 312 with
  | some cells =>
    some ("MT19937-64 RNG state:\n" ++ s!"mti     = {r.st.mti} (0..311)\n" ++ s!"seed    = {r.seed.toNat}\n"
          ++ dumpRows64 cells 0 "" ++ "\n")
  | none => none

/-! ## Well-formed generator states: what every history of Create / Init / draws reaches -/
def Rng.WF (r : Rng) : Prop := r.kind = .mersenne → r.st.mt.size = 624 ∧ r.st.mti ≤ 624
def Rng64.WF (r : Rng64) : Prop := r.st.mt.size = 312 ∧ r.st.mti ≤ 312

theorem Rng.OnStream.wf {r : Rng} {seed : UInt32} {k : Nat} (h : r.OnStream seed k) : r.WF :=
  fun _ => let ⟨_, hs, _, hm, _⟩ := h.2; ⟨hs, hm⟩

theorem Rng64.OnStream.wf {r : Rng64} {seed : UInt64} {k : Nat} (h : r.OnStream seed k) : r.WF :=
  let ⟨_, hs, _, hm, _⟩ := h; ⟨hs, hm⟩

theorem next_size {α : Type} [Inhabited α] (P : Params α) (s : St α) (hs : s.mt.size = P.N) (hm : s.mti ≤ P.N) :
    (MTP.next P s).2.mt.size = P.N ∧ (MTP.next P s).2.mti ≤ P.N ∧ 1 ≤ (MTP.next P s).2.mti := by
  have hN : 2 ≤ P.N := P.hM.2.2
  by_cases hfull : s.mti ≥ P.N
  · have e : (MTP.next P s).2 = { mt := refill P s.mt, mti := 1 } := by simp [MTP.next, hfull]
    rw [e]
    exact ⟨(fillA_toFn P.g P.N P.M P.i1 P.iM P.hi1 P.hiM s.mt hs).1, by show 1 ≤ P.N; omega, Nat.le_refl _⟩
  · have e : (MTP.next P s).2 = { s with mti := s.mti + 1 } := by simp [MTP.next, hfull]
    rw [e]
    exact ⟨hs, by show s.mti + 1 ≤ P.N; omega, by show 1 ≤ s.mti + 1; omega⟩

/-- a draw keeps ANY well-formed state well formed (poked tables included), not only the states on a seed's stream -/
theorem Rng.wf_next (r : Rng) (h : r.WF) : (r.next).2.WF := by
  intro hk
  have hkind : r.kind = .mersenne := (Rng.next_kind r).symm.trans hk
  obtain ⟨h1, h2⟩ := h hkind
  rw [Rng.next_mersenne r hkind]
  exact ⟨(next_size P32 r.st h1 h2).1, (next_size P32 r.st h1 h2).2.1⟩

theorem Rng64.wf_next (r : Rng64) (h : r.WF) : (r.next).2.WF := by
  obtain ⟨a, b, _⟩ := next_size P64 r.st h.1 h.2
  exact ⟨a, b⟩

theorem Rng.wf_draws (r : Rng) (h : r.WF) (k : Nat) : (r.draws k).2.WF := by
  induction k generalizing r with
  | zero => exact h
  | succ k ih => simp only [Rng.draws]; exact ih _ (Rng.wf_next r h)

theorem Rng64.wf_draws (r : Rng64) (h : r.WF) (k : Nat) : (r.draws k).2.WF := by
  induction k generalizing r with
  | zero => exact h
  | succ k ih => simp only [Rng64.draws]; exact ih _ (Rng64.wf_next r h)

theorem Rng.wf_initWith_draws (r : Rng) (seed : UInt32) (k : Nat) : ((r.initWith seed).draws k).2.WF :=
  Rng.wf_draws _ (fun hm => (Rng.onStream_initWith r ((Rng.initWith_kind r seed).symm.trans hm) seed).wf hm) k

theorem Rng.dump_isSome (r : Rng) (h : r.WF) : r.dump.isSome := by
  unfold Rng.dump
  cases hk : r.kind with
  | fast => rfl
  | mersenne =>
    obtain ⟨h1, h2⟩ := h hk
    have hc := readCells_isSome r.st.mt 0 624 (by omega)
    simp only []
    cases hrc : readCells r.st.mt 0 624 with
    | none => rw [hrc] at hc; cases hc
    | some cells =>
      by_cases hm : r.st.mti < 624
      · have hi : r.st.mti < r.st.mt.size := by omega
        simp [hm, Array.getElem?_eq_getElem hi]
      · simp [hm]

theorem Rng64.dump_isSome (r : Rng64) (h : r.WF) : r.dump.isSome := by
  unfold Rng64.dump
  have hc := readCells_isSome r.st.mt 0 312 (by have := h.1; omega)
  cases hrc : readCells r.st.mt 0 312 with
  | none => rw [hrc] at hc; cases hc
  | some cells => rfl

/-- the pre-fix `esl_randomness_Dump` read `mt[mti]` unconditionally: out of bounds exactly when the table is used up -/
def Rng.dumpCurPreFix (r : Rng) : Option UInt32 := r.st.mt[r.st.mti]?

theorem Rng.dumpCurPreFix_fault (r : Rng) (hs : r.st.mt.size = 624) (hm : r.st.mti = 624) : r.dumpCurPreFix = none := by
  simp [Rng.dumpCurPreFix, hm, hs]

theorem Rng.mti_draws (r : Rng) (hk : r.kind = .mersenne) (k : Nat) (h : r.st.mti + k ≤ 624) :
    (r.draws k).2.st.mti = r.st.mti + k ∧ (r.draws k).2.kind = .mersenne := by
  induction k generalizing r with
  | zero => exact ⟨rfl, hk⟩
  | succ k ih =>
    have hlt : ¬ (r.st.mti ≥ P32.N) := by show ¬ (r.st.mti ≥ 624); omega
    have e : (r.next).2 = { r with st := { r.st with mti := r.st.mti + 1 } } := by
      simp [Rng.next, hk, MTP.next, hlt]
    simp only [Rng.draws]
    obtain ⟨a, b⟩ := ih (r.next).2 (by rw [e]; exact hk) (by rw [e]; show r.st.mti + 1 + k ≤ 624; omega)
    rw [a, e]
    exact ⟨by show r.st.mti + 1 + k = r.st.mti + (k + 1); omega, by rw [e] at b; exact b⟩

end EaselModel.Random
