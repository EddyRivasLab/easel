import EaselModel.Random.Deal64Abs
import EaselModel.Random.DealF
import EaselModel.Random.Deal64Thm
import Mathlib.Analysis.SpecialFunctions.Log.Basic
/-! Concrete carriers of the `esl_rand64_Deal` / `esl_rnd_Deal` theorems (C09): by `fieldFloatFacts` every ordered field with sign-correct
oracles satisfies `FloatFacts` (and `DealFact`) for EVERY bound `B` — `ℝ` with the real `exp`, `log` (`realOracleOK`), and `ℚ` with the constant
oracles `exp ≡ 1`, `log ≡ 0`, on which the facts and the tests the code performs do not exclude `Vprime = 1` at the final step (the carrier of the
pre-fix counter-example).  On `ℚ` the `double` test of `esl_rnd_Deal` is the exact comparison, so the exact-arithmetic model `Rng.deal` is `dealF` at
that carrier (`Rng.deal_eq_dealF`). -/
set_option linter.unusedSectionVars false
namespace EaselModel.Random
open VOps

section
variable {F : Type} [Field F] [LinearOrder F] [IsStrictOrderedRing F] [FloorRing F] [Oracles F]
/-- non-vacuity of `DealFact`: exact arithmetic satisfies it for every bound -/
theorem fieldDealFact (B : ℕ) : DealFact F B := by
  intro a x ha _
  simp only [uni32, v_lt, v_mul, v_div, v_ofInt, Int.cast_natCast, Int.cast_ofNat]
  have hx : ((x.toNat : ℕ) : F) < 4294967296 := by exact_mod_cast UInt32.toNat_lt x
  have ha' : (0:F) < (a : F) := by exact_mod_cast ha
  have : ((x.toNat : ℕ) : F) / 4294967296 < 1 := by rw [div_lt_one (by norm_num)]; exact hx
  exact mul_lt_of_lt_one_right ha' this
end

noncomputable instance realOracles : Oracles ℝ := ⟨Real.exp, Real.log⟩

theorem realOracleOK : OracleOK ℝ :=
  ⟨fun x => (Real.exp_pos x).le, fun _ hx => Real.exp_le_one_iff.2 hx, fun _ h0 h1 => Real.log_nonpos h0 h1⟩

section
variable {F : Type} [Field F] [LinearOrder F] [IsStrictOrderedRing F] [FloorRing F] [Oracles F] {σ : Type}

theorem deal64Core_one (next : σ → UInt64 × σ) (fuel : ℕ) (n : ℤ) (s : σ) :
    deal64Core (F := F) next fuel 1 n s =
      some ([-1 + (d64LastSkip n (Oracles.exp ((1 / ((1 : ℤ) : F)) * Oracles.log (VOps.dbl (next s).1))) + 1)],
            some (Oracles.exp ((1 / ((1 : ℤ) : F)) * Oracles.log (VOps.dbl (next s).1))), (next s).2) := by
  simp [deal64Core, d64Main, d64Init, v_powU]

theorem deal64Core_one_vprime_one (next : σ → UInt64 × σ) (fuel : ℕ) (n : ℤ) (s : σ)
    (h1 : Oracles.exp ((1 / ((1 : ℤ) : F)) * Oracles.log (VOps.dbl (next s).1 : F)) = 1) :
    ⌊(n : F) * 1⌋ = n ∧ deal64Core (F := F) next fuel 1 n s = some ([n - 1], some 1, (next s).2) := by
  rw [deal64Core_one, h1]
  simp [d64LastSkip]
  omega
end

/-- `ℝ` with the real `exp`/`log` is a carrier (any bound) -/
theorem realFloatFacts (B : ℤ) : FloatFacts ℝ B := fieldFloatFacts realOracleOK B

end EaselModel.Random

namespace EaselModel.Random
open VOps

/-- the constant oracles `exp ≡ 1`, `log ≡ 0` over `ℚ` -/
@[reducible] def constOracles : Oracles ℚ := ⟨fun _ => 1, fun _ => 0⟩

theorem prefix_defect_on_a_carrier (B : ℤ) {σ : Type} (next : σ → UInt64 × σ) (fuel : ℕ) (n : ℤ) (s : σ) :
    letI : Oracles ℚ := constOracles
    FloatFacts ℚ B ∧ deal64PreFix (F := ℚ) next fuel 1 n s = some ([n], (next s).2) ∧ ¬ DealOKz [n] 1 (n - 1) := by
  let _ : Oracles ℚ := constOracles
  have ok : OracleOK ℚ := ⟨fun _ => zero_le_one, fun _ _ => le_refl _, fun _ _ _ => le_refl _⟩
  refine ⟨fieldFloatFacts ok B, deal64PreFix_out_of_range next fuel n s ?_⟩
  show ⌊(n : ℚ) * (1 : ℚ)⌋ = n
  simp

/-- over `ℚ` the test `(double)(n-j) * esl_random() < (double)(m-i)` is the exact comparison `(n-j)·x < (m-i)·2^32` -/
theorem dealTest_rat (a b : Nat) (x : UInt32) :
    letI : Oracles ℚ := constOracles
    VOps.lt (VOps.mul (VOps.ofInt (a : Int)) (uni32 x : ℚ)) (VOps.ofInt (b : Int)) = true ↔ a * x.toNat < b * 2 ^ 32 := by
  let _ : Oracles ℚ := constOracles
  simp only [uni32, v_lt, v_mul, v_div, v_ofInt, Int.cast_natCast, Int.cast_ofNat]
  rw [mul_div_assoc', div_lt_iff₀ (by norm_num)]
  exact_mod_cast Iff.rfl

/-- so the exact-arithmetic model `Rng.deal` is `dealF` on the carrier `ℚ` -/
theorem dealLoop_eq_dealLoopF (n m fuel : Nat) : ∀ (j i : Nat) (r : Rng) (acc : List Nat),
    letI : Oracles ℚ := constOracles
    dealLoop n m j i r acc fuel = dealLoopF (F := ℚ) Rng.next n m j i r acc fuel := by
  let _ : Oracles ℚ := constOracles
  induction fuel with
  | zero => intro j i r acc; rfl
  | succ f ih =>
    intro j i r acc
    simp only [dealLoop, dealLoopF, Rng.randomNum, ih, ← dealTest_rat]

theorem Rng.deal_eq_dealF (r : Rng) (m n : Nat) :
    letI : Oracles ℚ := constOracles
    r.deal m n = dealF (F := ℚ) Rng.next m n r := dealLoop_eq_dealLoopF n m (n + 1) 0 0 r []

end EaselModel.Random
