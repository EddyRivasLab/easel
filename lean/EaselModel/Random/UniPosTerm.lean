import EaselModel.Random.RollSpec
import EaselModel.Random.Consts
/-! # `esl_rnd_UniformPositive` terminates for every non-zero seed within 624 draws (C09)

A full table of zero words is a fixed point of the MT19937 refill, but it is not reachable: the refill recurrence can be run
backwards on a run of 624 zero words (`twist32_zero`: a zero new word over a zero `mt[z+M]` forces the top bit of `mt[z]` and the
low 31 bits of `mt[z+1]` to zero), so a zero run anywhere would reach back to the seeding block, where `x 1 = 69069·seed ≠ 0`.
Tempering is injective at 0 (`temper32_eq_zero`), so 624 consecutive outputs are never all `0.0`.
The legacy LCG: after `x = 0` comes `x = 1`. -/
namespace EaselModel.Random
open EaselModel.MTP

theorem u32_eq_zero_of_bits (x : UInt32) (h : ∀ i, i < 32 → x.toNat.testBit i = false) : x = 0 := by
  rw [← UInt32.toNat_inj]
  apply Nat.eq_of_testBit_eq
  intro i
  by_cases hi : i < 32
  · rw [h i hi]; simp
  · rw [tb_hi32 x i (by omega)]; simp

theorem twist32_zero (a b : UInt32) (h : twist32 a b 0 = 0) :
    a.toNat.testBit 31 = false ∧ ∀ i, i < 31 → b.toNat.testBit i = false := by
  have hb : ∀ j, (twistNat 0x80000000 0x7fffffff 0x9908b0df a.toNat b.toNat (0 : UInt32).toNat).testBit j = false := by
    intro j; rw [← twist32_toNat, h]; simp
  have h31 := hb 31
  rw [twistNat_testBit masks32] at h31
  have eA : Nat.testBit 0x9908b0df 31 = true := by decide
  have b0 : b.toNat.testBit 0 = false := by simpa [eA] using h31
  have hy : ∀ j, ((a.toNat.testBit (j+1) && (decide (31 ≤ j+1) && decide (j+1 < 32))) || (b.toNat.testBit (j+1) && decide (j+1 < 31))) = false := by
    intro j
    have := hb j
    rw [twistNat_testBit masks32, b0] at this
    simpa using this
  refine ⟨?_, ?_⟩
  · have := hy 30
    simpa using this
  · intro i hi
    cases i with
    | zero => exact b0
    | succ i =>
      have := hy i
      have h1 : ¬ (31 ≤ i + 1) := by omega
      simpa [h1, hi] using this

theorem zero_run_back (seed : UInt32) (a : Nat) (ha : 1 ≤ a) (h : ∀ i, 1 ≤ i → i ≤ 624 → ref P32 seed (a + i) = 0) :
    ref P32 seed a = 0 := by
  have e1 := ref32_step seed a
  rw [h 624 (by omega) (by omega), h 1 (by omega) (by omega), h 397 (by omega) (by omega)] at e1
  obtain ⟨htop, _⟩ := twist32_zero _ _ e1.symm
  obtain ⟨a', rfl⟩ : ∃ a', a = a' + 1 := ⟨a - 1, by omega⟩
  have e2 := ref32_step seed a'
  have i1 : a' + 624 = a' + 1 + 623 := by omega
  have i2 : a' + 397 = a' + 1 + 396 := by omega
  rw [i1, i2, h 623 (by omega) (by omega), h 396 (by omega) (by omega)] at e2
  obtain ⟨_, hlow⟩ := twist32_zero _ _ e2.symm
  apply u32_eq_zero_of_bits
  intro i hi
  by_cases h31 : i = 31
  · subst h31; exact htop
  · exact hlow i (by omega)

theorem zero_run_to_one (seed : UInt32) (a : Nat) (h : ∀ i, i < 624 → ref P32 seed (a + 1 + i) = 0) :
    ∀ i, i < 624 → ref P32 seed (1 + i) = 0 := by
  induction a with
  | zero => simpa using h
  | succ a ih =>
    apply ih
    intro i hi
    cases i with
    | zero =>
      apply zero_run_back seed (a + 1) (by omega)
      intro j hj1 hj2
      have := h (j - 1) (by omega)
      have e : a + 1 + 1 + (j - 1) = a + 1 + j := by omega
      rw [e] at this; exact this
    | succ i =>
      have := h i (by omega)
      have e : a + 1 + 1 + i = a + 1 + (i + 1) := by omega
      rw [e] at this; exact this

theorem ref32_one (seed : UInt32) : ref P32 seed 1 = 69069 * seed := by
  unfold ref
  rw [spec.eq_1]
  have : (1 : Nat) < P32.N := by show 1 < 624; omega
  simp only [this, ↓reduceDIte]
  rfl

theorem mul69069_inj (x : UInt32) (h : 69069 * x = 0) : x = 0 := by
  have e : (2783094533 : UInt32) * 69069 = 1 := by decide
  calc x = (2783094533 * 69069) * x := by rw [e, UInt32.one_mul]
    _ = 2783094533 * (69069 * x) := by rw [UInt32.mul_assoc]
    _ = 0 := by rw [h, UInt32.mul_zero]

theorem mt32_nonzero_word_within (seed : UInt32) (hs : seed ≠ 0) (a : Nat) : ∃ i, i < 624 ∧ ref P32 seed (a + 1 + i) ≠ 0 := by
  by_contra hno
  have hall : ∀ i, i < 624 → ref P32 seed (a + 1 + i) = 0 := by
    intro i hi
    by_contra hne
    exact hno ⟨i, hi, hne⟩
  have h1 := zero_run_to_one seed a hall 0 (by omega)
  rw [ref32_one] at h1
  exact hs (mul69069_inj seed h1)

theorem stR32_eq_zero (k : UInt32) (m x : UInt32) (hk : 1 ≤ k.toNat % 32) (h : stR32 k m x = 0) : x = 0 := by
  have hb : ∀ j, x.toNat.testBit j = (x.toNat.testBit (k.toNat % 32 + j) && m.toNat.testBit j) := by
    intro j
    have : (stR32 k m x).toNat.testBit j = false := by rw [h]; simp
    simp only [stR32, UInt32.toNat_xor, Nat.testBit_xor, UInt32.toNat_and, Nat.testBit_and, UInt32.toNat_shiftRight,
      Nat.testBit_shiftRight] at this
    revert this
    cases x.toNat.testBit j <;> cases (x.toNat.testBit (k.toNat % 32 + j) && m.toNat.testBit j) <;> simp
  apply u32_eq_zero_of_bits
  have key : ∀ n j, 32 ≤ j + n → x.toNat.testBit j = false := by
    intro n
    induction n with
    | zero => intro j hj; exact tb_hi32 x j (by omega)
    | succ n ih =>
      intro j hj
      rw [hb j, ih (k.toNat % 32 + j) (by omega)]
      rfl
  intro i _
  exact key 32 i (by omega)

theorem stL32_eq_zero (k : UInt32) (m x : UInt32) (hk : 1 ≤ k.toNat % 32) (h : stL32 k m x = 0) : x = 0 := by
  have hb : ∀ j, j < 32 → x.toNat.testBit j = ((decide (j ≥ k.toNat % 32) && x.toNat.testBit (j - k.toNat % 32)) && m.toNat.testBit j) := by
    intro j hj
    have : (stL32 k m x).toNat.testBit j = false := by rw [h]; simp
    simp only [stL32, UInt32.toNat_xor, Nat.testBit_xor, UInt32.toNat_and, Nat.testBit_and, UInt32.toNat_shiftLeft,
      Nat.testBit_mod_two_pow, Nat.testBit_shiftLeft, hj, decide_true, Bool.true_and] at this
    revert this
    cases x.toNat.testBit j <;> cases ((decide (j ≥ k.toNat % 32) && x.toNat.testBit (j - k.toNat % 32)) && m.toNat.testBit j) <;> simp
  apply u32_eq_zero_of_bits
  intro i
  induction i using Nat.strong_induction_on with
  | _ i ih =>
    intro hi
    rw [hb i hi]
    by_cases hge : i ≥ k.toNat % 32
    · rw [ih (i - k.toNat % 32) (by omega) (by omega)]; simp
    · simp [hge]

theorem temper32_eq_zero (x : UInt32) (h : temper32 x = 0) : x = 0 := by
  rw [temper32_stages] at h
  have h1 := stR32_eq_zero 18 _ _ (by decide) h
  have h2 := stL32_eq_zero 15 _ _ (by decide) h1
  have h3 := stL32_eq_zero 7 _ _ (by decide) h2
  exact stR32_eq_zero 11 _ _ (by decide) h3

theorem first_nonzero32 (seed : UInt32) (hs : seed ≠ 0) (k : Nat) :
    ∃ i, i < 624 ∧ (∀ j, j < i → out32 seed k j = 0) ∧ out32 seed k i ≠ 0 := by
  obtain ⟨i, hi, hne⟩ := mt32_nonzero_word_within seed hs (623 + k)
  have e : 623 + k + 1 + i = 624 + k + i := by omega
  rw [e] at hne
  obtain ⟨i, hi, hz, hnz⟩ := exists_first (p := fun i => out32 seed k i ≠ 0) (b := 623)
    ⟨i, by omega, fun h0 => hne (temper32_eq_zero _ (UInt32.toNat_inj.1 h0))⟩
  exact ⟨i, by omega, fun j hj => Classical.not_not.1 (hz j hj), hnz⟩

theorem Rng.OnStream.uniPos_first {r : Rng} {seed : UInt32} {k : Nat} (h : r.OnStream seed k) (i : Nat)
    (hz : ∀ j, j < i → out32 seed k j = 0) (hne : out32 seed k i ≠ 0) (fuel : Nat) (hf : i < fuel) :
    r.uniformPositive fuel = some (out32 seed k i, (r.draws (i + 1)).2) := by
  rw [← h.word i] at hne ⊢
  exact Rng.uniPos_first i r (fun j hj => by rw [h.word]; exact hz j hj) hne fuel hf

theorem Rng.uniPos_terminates_onStream (r : Rng) (seed : UInt32) (hs : seed ≠ 0) (k : Nat) (h : r.OnStream seed k) (fuel : Nat)
    (hf : 624 ≤ fuel) : ∃ x r', r.uniformPositive fuel = some (x, r') := by
  obtain ⟨i, hi, hz, hne⟩ := first_nonzero32 seed hs k
  exact ⟨_, _, h.uniPos_first i hz hne fuel (by omega)⟩

theorem Rng.uniPos_terminates_fast (r : Rng) (hk : r.kind = .fast) (fuel : Nat) (hf : 2 ≤ fuel) :
    ∃ x r', r.uniformPositive fuel = some (x, r') := by
  by_cases h0 : (Src.word Rng.next r 0).toNat = 0
  · have h1 : (Src.word Rng.next r 1).toNat ≠ 0 := by
      have e : lcg r.x 1 = 0 := by rw [← Rng.word_fast 0 r hk]; exact UInt32.toNat_inj.1 h0
      rw [Rng.word_fast 1 r hk, lcg, e]
      decide
    have hz : ∀ j, j < 1 → (Src.word Rng.next r j).toNat = 0 := fun j hj => (show j = 0 by omega) ▸ h0
    exact ⟨_, _, Rng.uniPos_first 1 r hz h1 fuel (by omega)⟩
  · exact ⟨_, _, Rng.uniPos_first 0 r (fun j hj => absurd hj (Nat.not_lt_zero j)) h0 fuel (by omega)⟩

end EaselModel.Random
