import EaselModel.Random.Deal64
/-! # `esl_rnd_Deal` with its `double` comparison, over the abstract floating-point vocabulary `VOps` (C09). Core Lean only.

`for (j = 0; j < n && i < m; j++) if (((double)(n-j)) * esl_random(rng) < (double)(m-i)) deal[i++] = j;`

`Random/Model.lean: dealLoop` decides the test in exact integer arithmetic (`(n-j)·x < (m-i)·2^32`); that equals the binary64
test only while the product `(n-j)·x < 2^53` is representable (`n ≤ 2^21`); for larger `n` rounding can turn `<` into `=`
(`n-j = 2^31-1`, `m-i = 2^30`, `x = 2147483649`: the product is `2^30 - 2^-32`, which rounds to `2^30`).  Here the loop is
written with the carrier's own `mul` and `lt` (the `Float` instance = what C computes, run by the driver), and the structure
theorem needs ONE fact about them: a positive integer times a uniform deviate `x/2^32 ∈ [0,1)` compares below that integer
(`DealFact`; for binary64: `u ≤ 1-2^-32`, so `fl(a·u) ≤ a·(1-2^-32) < a`).  That is what makes "when as many candidates remain
as samples are wanted, every candidate is taken" true, hence exactly `m` values. -/
namespace EaselModel.Random
open VOps

variable {F : Type} [VOps F]

/-- `esl_random`: `(double) x / 4294967296.0` -/
def uni32 (x : UInt32) : F := VOps.div (VOps.ofInt (x.toNat : Int)) (VOps.ofInt 4294967296)

/-- the loop of `esl_rnd_Deal` over a word source `next`; `fuel` = `n` suffices -/
def dealLoopF {σ : Type} (next : σ → UInt32 × σ) (n m : Nat) : Nat → Nat → σ → List Nat → Nat → List Nat × σ
  | _, _, s, acc, 0 => (acc.reverse, s)
  | j, i, s, acc, fuel+1 =>
    if j < n ∧ i < m then
      let p := next s
      if VOps.lt (VOps.mul (VOps.ofInt ((n - j : Nat) : Int)) (uni32 p.1 : F)) (VOps.ofInt ((m - i : Nat) : Int)) then
        dealLoopF next n m (j+1) (i+1) p.2 (j :: acc) fuel
      else dealLoopF next n m (j+1) i p.2 acc fuel
    else (acc.reverse, s)

def dealF {σ : Type} (next : σ → UInt32 × σ) (m n : Nat) (s : σ) : List Nat × σ :=
  dealLoopF (F := F) next n m 0 0 s [] (n+1)

/-- the one floating-point fact: `(double) a * esl_random() < (double) a` for every integer `1 ≤ a ≤ B` and every raw word -/
def DealFact (F : Type) [VOps F] (B : Nat) : Prop :=
  ∀ (a : Nat) (x : UInt32), 1 ≤ a → a ≤ B →
    VOps.lt (VOps.mul (VOps.ofInt (a : Int)) (uni32 x : F)) (VOps.ofInt (a : Int)) = true

theorem dealLoopF_spec {σ : Type} (hf : DealFact F B) (next : σ → UInt32 × σ) (n m : Nat) (hnB : n ≤ B)
    (fuel j i : Nat) (s : σ) (acc : List Nat)
    (hj : j ≤ n) (hi : i ≤ m) (hrem : m - i ≤ n - j) (hfuel : n - j < fuel)
    (hlen : acc.length = i) (hlt : ∀ a ∈ acc, a < j) (hsorted : acc.Pairwise (· > ·)) :
    let out := (dealLoopF (F := F) next n m j i s acc fuel).1
    out.length = m ∧ (∀ a ∈ out, a < n) ∧ out.Pairwise (· < ·) := by
  induction fuel generalizing j i s acc with
  | zero => omega
  | succ fuel ih =>
    simp only [dealLoopF]
    split
    · rename_i hc
      obtain ⟨hjn, him⟩ := hc
      split
      · apply ih (j+1) (i+1) _ (j :: acc) (by omega) (by omega) (by omega) (by omega) (by simp [hlen])
        · intro a ha
          rcases List.mem_cons.1 ha with rfl | ha
          · omega
          · have := hlt a ha; omega
        · exact List.pairwise_cons.2 ⟨fun a ha => hlt a ha, hsorted⟩
      · rename_i hno
        -- not taken: then strictly more candidates than wanted samples remain (otherwise `DealFact` forces the test)
        have hne : m - i ≠ n - j := by
          intro he
          rw [he] at hno
          exact hno (hf (n - j) (next s).1 (by omega) (by omega))
        apply ih (j+1) i _ acc (by omega) hi (by omega) (by omega) hlen
        · intro a ha; have := hlt a ha; omega
        · exact hsorted
    · rename_i hc
      have hdone : i = m := by omega
      refine ⟨by simp [hlen, hdone], fun a ha => ?_, by rw [List.pairwise_reverse]; exact hsorted⟩
      have := hlt a (List.mem_reverse.1 ha); omega

theorem dealF_spec {σ : Type} (hf : DealFact F B) (next : σ → UInt32 × σ) (m n : Nat) (h : m ≤ n) (hnB : n ≤ B) (s : σ) :
    let out := (dealF (F := F) next m n s).1
    out.length = m ∧ (∀ a ∈ out, a < n) ∧ out.Pairwise (· < ·) :=
  dealLoopF_spec hf next n m hnB (n+1) 0 0 s [] (by omega) (by omega) (by omega) (by omega) rfl (by simp) List.Pairwise.nil

end EaselModel.Random
