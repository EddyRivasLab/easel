import Mathlib.Algebra.Polynomial.AlgebraMap
import Mathlib.Algebra.Polynomial.Degree.Lemmas
import Mathlib.Data.ZMod.Basic
import Mathlib.Algebra.CharP.Two
/-! # A run of ones in a bit of a Mersenne-Twister stream is bounded (C09, termination of the rejection loops)

Pure algebra over `ZMod 2`, no generator in sight.  Bit sequences are functions `ℕ → ZMod 2`, the shift `E` acts on them, and
`(ZMod 2)[X]` acts through `aeval E` (a commutative family of operators).

`window`: if `p(E) b = 0` and `p(1) = 1` then `b` cannot be `1` on `natDegree p + 1` consecutive positions (evaluate
`p(E) b` at the start of the run: it is the sum of the coefficients of `p`, i.e. `p(1)`).

`BitSystem`: the shape of the MT recurrence written bit by bit — `W + 1` bit sequences `s 0 … s W` (one per bit of the word) with
`(E^N + E^M) s j = E^(δ j) s (j+1) + A j • E s 0` and `(E^N + E^M) s W = A W • E s 0` — has the common annihilator
`X^(d W) * ψ`, `ψ(1) = A W` (`1 + 1 = 0` kills every other term), `natDegree ψ ≤ N·(W+1)`.  No irreducibility, no
primitivity, no period is used: only that the recurrence is linear and its top twist coefficient is 1. -/
namespace EaselModel.Random.LinRec
open Polynomial

abbrev Sq := ℕ → ZMod 2

/-- the shift on sequences -/
def E : Module.End (ZMod 2) Sq where
  toFun c := fun k => c (k + 1)
  map_add' := by intros; rfl
  map_smul' := by intros; rfl

theorem E_pow_apply (i : ℕ) (c : Sq) (k : ℕ) : (E ^ i) c k = c (k + i) := by
  induction i generalizing c k with
  | zero => simp
  | succ i ih =>
    rw [pow_succ, Module.End.mul_apply, ih]
    show c (k + i + 1) = c (k + (i + 1))
    rfl

/-- `p(E)` -/
noncomputable abbrev T (p : (ZMod 2)[X]) : Module.End (ZMod 2) Sq := aeval E p

theorem T_apply (p : (ZMod 2)[X]) (n : ℕ) (h : p.natDegree < n) (c : Sq) (k : ℕ) :
    T p c k = ∑ i ∈ Finset.range n, p.coeff i * c (k + i) := by
  have e : T p = ∑ i ∈ Finset.range n, p.coeff i • E ^ i := by
    unfold T
    conv_lhs => rw [as_sum_range' p n h]
    simp only [map_sum, aeval_monomial]
    apply Finset.sum_congr rfl
    intro i _
    rw [Algebra.smul_def]
  rw [e]
  simp only [LinearMap.sum_apply, Finset.sum_apply, LinearMap.smul_apply, Pi.smul_apply, E_pow_apply, smul_eq_mul]

theorem zmod2_ne_zero (x : ZMod 2) (h : x ≠ 0) : x = 1 := by
  revert x; decide

theorem window (p : (ZMod 2)[X]) (b : Sq) (hann : T p b = 0) (h1 : p.eval 1 = 1) (D : ℕ) (hD : p.natDegree ≤ D) (k : ℕ) :
    ∃ i, i ≤ D ∧ b (k + i) = 0 := by
  by_contra hno
  have hone : ∀ i, i ≤ D → b (k + i) = 1 := by
    intro i hi
    apply zmod2_ne_zero
    intro h0
    exact hno ⟨i, hi, h0⟩
  have h0 : T p b k = 0 := by rw [hann]; rfl
  rw [T_apply p (D + 1) (by omega) b k] at h0
  have h2 : p.eval 1 = ∑ i ∈ Finset.range (D + 1), p.coeff i * 1 ^ i := eval_eq_sum_range' (by omega) 1
  have h3 : ∑ i ∈ Finset.range (D + 1), p.coeff i * b (k + i) = ∑ i ∈ Finset.range (D + 1), p.coeff i * 1 ^ i := by
    apply Finset.sum_congr rfl
    intro i hi
    rw [hone i (by have := Finset.mem_range.mp hi; omega), one_pow]
  rw [h3, ← h2, h1] at h0
  exact one_ne_zero h0

theorem sq_add_self (x : Sq) : x + x = 0 := by
  funext k
  exact CharTwo.add_self_eq_zero (x k)

theorem T_mul_apply (p q : (ZMod 2)[X]) (c : Sq) : T (p * q) c = T p (T q c) := by
  unfold T; rw [map_mul]; rfl

theorem T_comm (p q : (ZMod 2)[X]) (c : Sq) : T p (T q c) = T q (T p c) := by
  rw [← T_mul_apply, ← T_mul_apply, mul_comm]

theorem T_X_pow (i : ℕ) (c : Sq) : T (X ^ i) c = (E ^ i) c := by
  unfold T; rw [map_pow, aeval_X]

theorem T_E_pow (p : (ZMod 2)[X]) (i : ℕ) (c : Sq) : T p ((E ^ i) c) = (E ^ i) (T p c) := by
  rw [← T_X_pow, T_comm, T_X_pow]

theorem T_C_mul (a : ZMod 2) (p : (ZMod 2)[X]) (c : Sq) : T (C a * p) c = a • T p c := by
  unfold T; rw [map_mul, aeval_C]; rfl

section system
variable (N M : ℕ) (A : ℕ → ZMod 2) (d : ℕ → ℕ)

noncomputable def Pp : (ZMod 2)[X] := X ^ N + X ^ M

/-- `R 0 = 1`, `R (j+1) = (X^N + X^M) R j + A j X^(d j + 1)`; `ψ = R (W+1)` -/
noncomputable def R : ℕ → (ZMod 2)[X]
  | 0 => 1
  | j + 1 => Pp N M * R j + C (A j) * X ^ (d j + 1)

theorem Pp_eval_one : (Pp N M).eval 1 = 0 := by
  simp only [Pp, eval_add, eval_pow, eval_X, one_pow]
  exact CharTwo.add_self_eq_zero 1

theorem R_eval_one (j : ℕ) : (R N M A d (j + 1)).eval 1 = A j := by
  simp [R, Pp_eval_one]

theorem Pp_natDegree (hM : M ≤ N) : (Pp N M).natDegree ≤ N := by
  unfold Pp
  refine (natDegree_add_le _ _).trans ?_
  simp only [natDegree_X_pow]
  omega

theorem R_natDegree (hM : M ≤ N) (hN : 1 ≤ N) (hd : ∀ j, d j ≤ j) (j : ℕ) : (R N M A d j).natDegree ≤ N * j := by
  induction j with
  | zero => simp [R]
  | succ j ih =>
    simp only [R]
    refine (natDegree_add_le _ _).trans ?_
    apply max_le
    · refine natDegree_mul_le.trans ?_
      have := Pp_natDegree N M hM
      rw [Nat.mul_succ]; omega
    · refine (natDegree_C_mul_X_pow_le _ _).trans ?_
      have := hd j
      rw [Nat.mul_succ]
      have : j ≤ N * j := Nat.le_mul_of_pos_left j hN
      omega

variable (s : ℕ → Sq) (W : ℕ)

/-- the MT recurrence, bit by bit: bit `j` of the new word is bit `j` of the word `M` places on, plus bit `j+1` of the combined
    word (taken `d (j+1) - d j ∈ {0,1}` places on), plus `A j` times bit 0 of the next word; the top bit has no `j+1` -/
structure BitSystem : Prop where
  d0 : d 0 = 0
  mono : ∀ j, d j ≤ d (j + 1)
  rel : ∀ j, j < W → T (Pp N M) (s j) = (E ^ (d (j + 1) - d j)) (s (j + 1)) + A j • E (s 0)
  top : T (Pp N M) (s W) = A W • E (s 0)

variable {N M A d s W}

/-- the recursion of `R` read as operators -/
theorem T_R_succ (j : ℕ) (c : Sq) :
    T (R N M A d (j + 1)) c = T (Pp N M) (T (R N M A d j) c) + A j • (E ^ (d j + 1)) c := by
  show T (Pp N M * R N M A d j + C (A j) * X ^ (d j + 1)) c = _
  rw [← T_mul_apply, ← T_X_pow, ← T_C_mul]
  unfold T; rw [map_add]; rfl

theorem BitSystem.shifted (h : BitSystem N M A d s W) (j : ℕ) (hj : j ≤ W) : (E ^ d j) (s j) = T (R N M A d j) (s 0) := by
  induction j with
  | zero => simp [h.d0, R, T]
  | succ j ih =>
    have e : d (j + 1) = d j + (d (j + 1) - d j) := by have := h.mono j; omega
    -- `1 + 1 = 0` moves the twist term of `rel` to the other side
    rw [T_R_succ, ← ih (by omega), T_E_pow, h.rel j (by omega), map_add, map_smul, add_assoc, ← Module.End.mul_apply (E ^ d j) E,
      ← pow_succ, sq_add_self, add_zero, ← Module.End.mul_apply, ← pow_add, ← e]

theorem BitSystem.psi_zero (h : BitSystem N M A d s W) : T (R N M A d (W + 1)) (s 0) = 0 := by
  rw [T_R_succ, ← h.shifted W (Nat.le_refl _), T_E_pow, h.top, map_smul, ← Module.End.mul_apply, ← pow_succ]
  exact sq_add_self _

theorem BitSystem.annihilated (h : BitSystem N M A d s W) (j : ℕ) (hj : j ≤ W) (D : ℕ) (hD : d j ≤ D) :
    T (X ^ D * R N M A d (W + 1)) (s j) = 0 := by
  have e : (X : (ZMod 2)[X]) ^ D * R N M A d (W + 1) = (X ^ (D - d j) * R N M A d (W + 1)) * X ^ d j := by
    rw [mul_assoc, mul_comm (R N M A d (W + 1)), ← mul_assoc, ← pow_add]
    congr 2; omega
  rw [e, T_mul_apply, T_X_pow, h.shifted j hj, ← T_mul_apply, mul_assoc, mul_comm (R N M A d (W + 1)), ← mul_assoc,
    T_mul_apply, h.psi_zero, map_zero]

end system
end EaselModel.Random.LinRec
