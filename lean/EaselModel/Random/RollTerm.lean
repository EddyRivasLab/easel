import EaselModel.Random.LinRec
import EaselModel.Random.Lemmas
/-! # Among any 19999 consecutive outputs of MT19937 / MT19937-64 one has its top bit clear, for EVERY seed (C09)

A rejected roll word has its top bit set (`n·⌊W/n⌋ > W/2`), so such an output is accepted by every roll.  The top bit of the
tempered output is the XOR of four state bits; the refill recurrence read bit by bit is a `LinRec.BitSystem`, so every state bit
sequence is annihilated by one polynomial `ψ` in the shift with `ψ(1) = 1` (the top bit of the twist constant `A`) and degree
`≤ 19998`; hence the top output bit cannot be 1 at 19999 consecutive positions (`LinRec.window`).  The bound is structural, not
an equidistribution statement, and involves no computation over seeds. -/
namespace EaselModel.Random
open EaselModel.MTP LinRec Polynomial

def bz (b : Bool) : ZMod 2 := if b then 1 else 0

theorem bz_xor (a b : Bool) : bz (a ^^ b) = bz a + bz b := by cases a <;> cases b <;> decide
theorem bz_and (a b : Bool) : bz (a && b) = bz a * bz b := by cases a <;> cases b <;> decide
theorem bz_cancel (c u v : Bool) : bz ((c ^^ u) ^^ v) + bz c = bz u + bz v := by cases c <;> cases u <;> cases v <;> decide
theorem bz_false_of_zero (a : Bool) (h : bz a = 0) : a = false := by cases a <;> simp_all [bz]

theorem roll_accepts_small (Wd n x h : Nat) (hn : 0 < n) (hnW : n ≤ Wd) (hW : Wd + 1 = 2 * h) (hx : x < h) :
    x / (Wd / n) < n := by
  have hf : 0 < Wd / n := Nat.div_pos hnW hn
  have hdm := Nat.div_add_mod Wd n
  have hr := Nat.mod_lt Wd hn
  by_cases hc : n ≤ h
  · apply (Nat.div_lt_iff_lt_mul hf).mpr
    omega
  · have : Wd / n < 2 := (Nat.div_lt_iff_lt_mul hn).mpr (by omega)
    have : Wd / n = 1 := by omega
    rw [this, Nat.div_one]
    omega

theorem rollWord_small (n x : Nat) (hn : 0 < n) (hn' : n < 2 ^ 32) (hx : x < 2 ^ 31) : ∃ v, rollWord n x = some v := by
  have := roll_accepts_small (2 ^ 32 - 1) n x (2 ^ 31) hn (by omega) (by decide) hx
  exact ⟨x / ((2 ^ 32 - 1) / n), by simp only [rollWord, this, ↓reduceIte]⟩

theorem rollWord64_small (n x : Nat) (hn : 0 < n) (hn' : n < 2 ^ 64) (hx : x < 2 ^ 63) : ∃ v, rollWord64 n x = some v := by
  have := roll_accepts_small (2 ^ 64 - 1) n x (2 ^ 63) hn (by omega) (by decide) hx
  exact ⟨x / ((2 ^ 64 - 1) / n), by simp only [rollWord64, this, ↓reduceIte]⟩

theorem and_one_eq_zero32 (y : UInt32) : (y &&& 1 = 0) ↔ y.toNat.testBit 0 = false := by
  rw [← UInt32.toNat_inj]
  simp only [UInt32.toNat_and]
  have : (1 : UInt32).toNat = 1 := by decide
  rw [this, Nat.and_one_is_mod, Nat.testBit_zero]
  simp

theorem ref32_step (seed : UInt32) (k : Nat) :
    ref P32 seed (k + 624) = twist32 (ref P32 seed k) (ref P32 seed (k + 1)) (ref P32 seed (k + 397)) := ref_step P32 seed k

/-- the delays `d` of `LinRec.BitSystem` for a twister: bit `j + 1` of the combined word `y` comes from the NEXT state word for
    `j + 1 ≤ 30` (lower mask: one place on) and from the word itself above that (upper mask: no shift), so `d j = min j 30` -/
def dmin (j : Nat) : Nat := min j 30

theorem T_Pp_apply (N M : Nat) (c : Sq) (k : Nat) : T (Pp N M) c k = c (k + N) + c (k + M) := by
  unfold Pp T
  simp only [map_add, map_pow, aeval_X, LinearMap.add_apply, Pi.add_apply, E_pow_apply]

/-- `mt[z+M] ^ (y >> 1) ^ mag01[y & 1]`, `y = (mt[z] & U) | (mt[z+1] & L)`, on the numbers behind the words -/
def twistNat (U L A a b c : Nat) : Nat :=
  let y := (a &&& U) ||| (b &&& L)
  c ^^^ (y >>> 1) ^^^ (if y % 2 = 0 then 0 else A)

/-- `U` = bits `31 … w-1`, `L` = bits `0 … 30` -/
structure Masks (w U L : Nat) : Prop where
  upper : ∀ i, U.testBit i = (decide (31 ≤ i) && decide (i < w))
  lower : ∀ i, L.testBit i = decide (i < 31)

theorem twistNat_testBit {w U L : Nat} (hm : Masks w U L) (A a b c j : Nat) :
    (twistNat U L A a b c).testBit j
      = ((c.testBit j ^^ ((a.testBit (j+1) && (decide (31 ≤ j+1) && decide (j+1 < w))) || (b.testBit (j+1) && decide (j+1 < 31))))
          ^^ (b.testBit 0 && A.testBit j)) := by
  have hy : ∀ i, ((a &&& U) ||| (b &&& L)).testBit i
      = ((a.testBit i && (decide (31 ≤ i) && decide (i < w))) || (b.testBit i && decide (i < 31))) := by
    intro i; rw [Nat.testBit_or, Nat.testBit_and, Nat.testBit_and, hm.upper, hm.lower]
  have h0 : ((a &&& U) ||| (b &&& L)) % 2 = 0 ↔ b.testBit 0 = false := by
    have := hy 0
    rw [Nat.testBit_zero] at this
    rw [show decide (31 ≤ 0) = false from rfl, Bool.false_and, Bool.and_false, Bool.false_or, show decide (0 < 31) = true from rfl,
      Bool.and_true] at this
    rw [← this, decide_eq_false_iff_not]; omega
  unfold twistNat
  simp only [Nat.testBit_xor, Nat.testBit_shiftRight, hy, Nat.add_comm 1 j]
  by_cases hb : b.testBit 0 = false
  · rw [if_pos (h0.2 hb), hb]; simp
  · rw [if_neg (fun h => hb (h0.1 h))]
    have hb' : b.testBit 0 = true := by simpa using hb
    rw [hb']; simp

theorem bitSystem_of_twist {N M w U L A : Nat} (hm : Masks w U L) (hw : 32 ≤ w) (x : Nat → Nat)
    (hx : ∀ k, x (k + N) = twistNat U L A (x k) (x (k + 1)) (x (k + M))) :
    BitSystem N M (fun j => bz (A.testBit j)) dmin (fun j k => bz ((x k).testBit j)) (w - 1) where
  d0 := rfl
  mono := by intro j; unfold dmin; omega
  rel := by
    intro j hj
    funext k
    rw [T_Pp_apply]
    show _ = ((E ^ (dmin (j + 1) - dmin j)) (fun k => bz ((x k).testBit (j + 1)))) k + bz (A.testBit j) * bz ((x (k + 1)).testBit 0)
    rw [E_pow_apply, hx, twistNat_testBit hm, bz_cancel, bz_and, mul_comm]
    congr 2
    by_cases h30 : j < 30
    · have : dmin (j + 1) - dmin j = 1 := by unfold dmin; omega
      rw [this]
      have h1 : ¬ (31 ≤ j + 1) := by omega
      have h2 : j + 1 < 31 := by omega
      simp [h1, h2]
    · have : dmin (j + 1) - dmin j = 0 := by unfold dmin; omega
      rw [this]
      have h1 : 31 ≤ j + 1 := by omega
      have h2 : ¬ (j + 1 < 31) := by omega
      have h3 : j + 1 < w := by omega
      simp [h1, h2, h3]
  top := by
    funext k
    rw [T_Pp_apply]
    show _ = bz (A.testBit (w - 1)) * bz ((x (k + 1)).testBit 0)
    rw [hx, twistNat_testBit hm, bz_cancel, bz_and, mul_comm]
    have h1 : ¬ (w - 1 + 1 < w) := by omega
    have h2 : ¬ (w - 1 + 1 < 31) := by omega
    simp [h1, h2, bz]

theorem masks32 : Masks 32 0x80000000 0x7fffffff where
  upper := by
    intro i
    rw [show (0x80000000 : Nat) = 2 ^ 31 from rfl, Nat.testBit_two_pow]
    by_cases h : 31 = i <;> simp [h] <;> omega
  lower := fun i => by rw [show (0x7fffffff : Nat) = 2 ^ 31 - 1 from rfl, Nat.testBit_two_pow_sub_one]

theorem twist32_toNat (a b c : UInt32) :
    (twist32 a b c).toNat = twistNat 0x80000000 0x7fffffff 0x9908b0df a.toNat b.toNat c.toNat := by
  unfold twist32 twistNat
  simp only [UInt32.toNat_xor, UInt32.toNat_shiftRight, UInt32.toNat_or, UInt32.toNat_and, apply_ite UInt32.toNat,
    and_one_eq_zero32, Nat.mod_two_eq_zero_iff_testBit_zero]
  rfl

theorem tb_hi32 (x : UInt32) (i : Nat) (h : 32 ≤ i) : x.toNat.testBit i = false :=
  Nat.testBit_lt_two_pow (Nat.lt_of_lt_of_le x.toNat_lt (Nat.pow_le_pow_right (by decide) h))

theorem temper32_top (x : UInt32) :
    (temper32 x).toNat.testBit 31 = (((x.toNat.testBit 31 ^^ x.toNat.testBit 24) ^^ x.toNat.testBit 16) ^^ x.toNat.testBit 27) := by
  unfold temper32
  simp only [UInt32.toNat_xor, Nat.testBit_xor, UInt32.toNat_shiftRight, Nat.testBit_shiftRight, UInt32.toNat_and, Nat.testBit_and,
    UInt32.toNat_shiftLeft, Nat.testBit_mod_two_pow, Nat.testBit_shiftLeft]
  have e1 : Nat.testBit 2636928640 31 = true := by decide
  have e2 : Nat.testBit 4022730752 31 = true := by decide
  have e3 : Nat.testBit 2636928640 16 = false := by decide
  simp [tb_hi32, e1, e2, e3]

theorem lt_of_top_clear (x h : Nat) (hx : x < 2 * h) (hb : (x / h) % 2 ≠ 1) (hh : 0 < h) : x < h := by
  have h2 : x / h < 2 := (Nat.div_lt_iff_lt_mul hh).mpr hx
  have h0 : x / h = 0 := by
    generalize x / h = q at h2 hb
    omega
  exact (Nat.div_eq_zero_iff_lt hh).mp h0

/-- the polynomial of the window argument for a `w`-bit twister -/
noncomputable def psi (N M : Nat) (A : Nat → ZMod 2) (W : Nat) : (ZMod 2)[X] := X ^ 30 * R N M A dmin (W + 1)

theorem psi_natDegree (N M : Nat) (A : Nat → ZMod 2) (W : Nat) (hM : M ≤ N) (hN : 1 ≤ N) :
    (psi N M A W).natDegree ≤ 30 + N * (W + 1) := by
  unfold psi
  refine natDegree_mul_le.trans ?_
  have := R_natDegree N M A dmin hM hN (by intro j; unfold dmin; omega) (W + 1)
  simp only [natDegree_X_pow]
  omega

theorem psi_eval_one (N M : Nat) (A : Nat → ZMod 2) (W : Nat) : (psi N M A W).eval 1 = A W := by
  simp [psi, R_eval_one]

/-- `psi` annihilates the XOR of four state bit sequences (the top bit of a tempered word, `temper32_top` / `temper64_top`) -/
theorem psi_annihilates4 {N M : Nat} {A : Nat → ZMod 2} {s : Nat → Sq} {W : Nat} (h : BitSystem N M A dmin s W)
    (j1 j2 j3 j4 : Nat) (h1 : j1 ≤ W) (h2 : j2 ≤ W) (h3 : j3 ≤ W) (h4 : j4 ≤ W) :
    T (psi N M A W) (s j1 + s j2 + s j3 + s j4) = 0 := by
  have d : ∀ j, dmin j ≤ 30 := by intro j; unfold dmin; omega
  unfold psi
  rw [map_add, map_add, map_add, h.annihilated j1 h1 30 (d _), h.annihilated j2 h2 30 (d _), h.annihilated j3 h3 30 (d _),
    h.annihilated j4 h4 30 (d _)]
  simp

theorem top_clear_within (N M : Nat) (A : Nat → ZMod 2) (W : Nat) (b : Sq) (x : Nat → Nat)
    (hb : ∀ k, b k = bz ((x k).testBit W)) (hann : T (psi N M A W) b = 0) (hA : A W = 1) (hM : M ≤ N) (hN : 1 ≤ N)
    (hdeg : 30 + N * (W + 1) ≤ 19998) (hx : ∀ k, x k < 2 ^ (W + 1)) (k : Nat) : ∃ i, i ≤ 19998 ∧ x (k + i) < 2 ^ W := by
  obtain ⟨i, hi, h0⟩ := window _ b hann ((psi_eval_one N M A W).trans hA) 19998 ((psi_natDegree N M A W hM hN).trans hdeg) k
  refine ⟨i, hi, ?_⟩
  rw [hb] at h0
  have hbit := bz_false_of_zero _ h0
  rw [Nat.testBit_eq_decide_div_mod_eq] at hbit
  exact lt_of_top_clear _ (2 ^ W) (by rw [← Nat.pow_succ']; exact hx _) (by simpa using hbit) (Nat.two_pow_pos W)

/-- a `w`-bit twister whose output's top bit is the XOR of four state bits: among any 19999 consecutive outputs one has its top bit
    clear (the bits of the state words form a `BitSystem`, `psi` annihilates the four, `window`) -/
theorem twister_top_clear_within {N M w U L A : Nat} (hm : Masks w U L) (hw : 32 ≤ w) (x y : Nat → Nat)
    (hx : ∀ k, x (k + N) = twistNat U L A (x k) (x (k + 1)) (x (k + M)))
    (j1 j2 j3 j4 : Nat) (h1 : j1 < w) (h2 : j2 < w) (h3 : j3 < w) (h4 : j4 < w)
    (hy : ∀ k, (y k).testBit (w - 1) = ((((x k).testBit j1 ^^ (x k).testBit j2) ^^ (x k).testBit j3) ^^ (x k).testBit j4))
    (hA : A.testBit (w - 1) = true) (hM : M ≤ N) (hN : 1 ≤ N) (hdeg : 30 + N * w ≤ 19998) (hylt : ∀ k, y k < 2 ^ w) (k : Nat) :
    ∃ i, i ≤ 19998 ∧ y (k + i) < 2 ^ (w - 1) := by
  have hs := bitSystem_of_twist hm hw x hx
  have e : w - 1 + 1 = w := by omega
  exact top_clear_within N M _ (w - 1) _ y (fun k => by rw [hy, bz_xor, bz_xor, bz_xor]; rfl)
    (psi_annihilates4 hs j1 j2 j3 j4 (Nat.le_sub_one_of_lt h1) (Nat.le_sub_one_of_lt h2) (Nat.le_sub_one_of_lt h3) (Nat.le_sub_one_of_lt h4))
    (by rw [hA]; rfl) hM hN (e ▸ hdeg) (e ▸ hylt) k

theorem mt32_top_clear_within (seed : UInt32) (k : Nat) :
    ∃ i, i ≤ 19998 ∧ (temper32 (ref P32 seed (k + i))).toNat < 2 ^ 31 :=
  twister_top_clear_within (N := 624) (M := 397) (A := 0x9908b0df) masks32 (Nat.le_refl 32) (fun k => (ref P32 seed k).toNat)
    (fun k => (temper32 (ref P32 seed k)).toNat) (fun k => by rw [ref32_step, twist32_toNat]) 31 24 16 27 (by omega) (by omega) (by omega)
    (by omega) (fun _ => temper32_top _) (by decide) (by omega) (by omega) (by norm_num) (fun _ => UInt32.toNat_lt _) k

theorem and_one_eq_zero64 (y : UInt64) : (y &&& 1 = 0) ↔ y.toNat.testBit 0 = false := by
  rw [← UInt64.toNat_inj]
  simp only [UInt64.toNat_and]
  have : (1 : UInt64).toNat = 1 := by decide
  rw [this, Nat.and_one_is_mod, Nat.testBit_zero]
  simp

theorem ref64_step (seed : UInt64) (k : Nat) :
    ref P64 seed (k + 312) = twist64 (ref P64 seed k) (ref P64 seed (k + 1)) (ref P64 seed (k + 156)) := ref_step P64 seed k

theorem tb_hi64 (x : UInt64) (i : Nat) (h : 64 ≤ i) : x.toNat.testBit i = false :=
  Nat.testBit_lt_two_pow (Nat.lt_of_lt_of_le x.toNat_lt (Nat.pow_le_pow_right (by decide) h))

theorem masks64 : Masks 64 0xFFFFFFFF80000000 0x7FFFFFFF where
  upper := by
    intro i
    rw [show (0xFFFFFFFF80000000 : Nat) = (2 ^ 33 - 1) <<< 31 from by decide, Nat.testBit_shiftLeft, Nat.testBit_two_pow_sub_one]
    by_cases h : 31 ≤ i <;> simp [h]; omega
  lower := fun i => by rw [show (0x7FFFFFFF : Nat) = 2 ^ 31 - 1 from rfl, Nat.testBit_two_pow_sub_one]

theorem twist64_toNat (a b c : UInt64) :
    (twist64 a b c).toNat = twistNat 0xFFFFFFFF80000000 0x7FFFFFFF 0xB5026F5AA96619E9 a.toNat b.toNat c.toNat := by
  unfold twist64 twistNat
  simp only [UInt64.toNat_xor, UInt64.toNat_shiftRight, UInt64.toNat_or, UInt64.toNat_and, apply_ite UInt64.toNat,
    and_one_eq_zero64, Nat.mod_two_eq_zero_iff_testBit_zero]
  rfl

theorem temper64_top (x : UInt64) :
    (temper64 x).toNat.testBit 63 = (((x.toNat.testBit 63 ^^ x.toNat.testBit 26) ^^ x.toNat.testBit 55) ^^ x.toNat.testBit 9) := by
  unfold temper64
  simp only [UInt64.toNat_xor, Nat.testBit_xor, UInt64.toNat_shiftRight, Nat.testBit_shiftRight, UInt64.toNat_and, Nat.testBit_and,
    UInt64.toNat_shiftLeft, Nat.testBit_mod_two_pow, Nat.testBit_shiftLeft]
  have e1 : Nat.testBit 8202884508482404352 63 = false := by decide
  have e2 : Nat.testBit 6148914691236517205 26 = true := by decide
  have e3 : Nat.testBit 6148914691236517205 9 = false := by decide
  have e4 : Nat.testBit 8202884508482404352 26 = true := by decide
  have e5 : Nat.testBit 18444473444759240704 63 = true := by decide
  simp [tb_hi64, e1, e2, e3, e4, e5]

theorem mt64_top_clear_within (seed : UInt64) (k : Nat) :
    ∃ i, i ≤ 19998 ∧ (temper64 (ref P64 seed (k + i))).toNat < 2 ^ 63 :=
  twister_top_clear_within (N := 312) (M := 156) (A := 0xB5026F5AA96619E9) masks64 (by decide) (fun k => (ref P64 seed k).toNat)
    (fun k => (temper64 (ref P64 seed k)).toNat) (fun k => by rw [ref64_step, twist64_toNat]) 63 26 55 9 (by omega) (by omega) (by omega)
    (by omega) (fun _ => temper64_top _) (by decide) (by omega) (by omega) (by norm_num) (fun _ => UInt64.toNat_lt _) k

end EaselModel.Random
