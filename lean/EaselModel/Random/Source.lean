/-! # Word sources and rejection loops (C09). Core Lean only.

A generator is used through `next : σ → ω × σ` alone; every rejection loop of esl_random.c / esl_rand64.c is `firstAcc`: it returns the
image of the FIRST accepted word and leaves the source just behind it.  `Follows next P x`: the states `P k` sit at position `k` of
the word sequence `x`. -/
namespace EaselModel.Random.Src
variable {σ ω β : Type} (next : σ → ω × σ)

def after : Nat → σ → σ
  | 0, s => s
  | k+1, s => after k (next s).2

def word (s : σ) (j : Nat) : ω := (next (after next j s)).1

def firstAcc (acc : ω → Option β) : Nat → σ → Option (β × σ)
  | 0, _ => none
  | f+1, s =>
    match acc (next s).1 with
    | some v => some (v, (next s).2)
    | none => firstAcc acc f (next s).2

variable {next}

theorem firstAcc_first {acc : ω → Option β} {v : β} (i : Nat) : ∀ (s : σ), (∀ j, j < i → acc (word next s j) = none) →
    acc (word next s i) = some v → ∀ fuel, i < fuel → firstAcc next acc fuel s = some (v, after next (i + 1) s) := by
  induction i with
  | zero =>
    intro s _ hv fuel hf
    obtain ⟨f, rfl⟩ : ∃ f, fuel = f + 1 := ⟨fuel - 1, by omega⟩
    have hv' : acc (next s).1 = some v := hv
    simp only [firstAcc, hv']
    rfl
  | succ i ih =>
    intro s hrej hv fuel hf
    obtain ⟨f, rfl⟩ : ∃ f, fuel = f + 1 := ⟨fuel - 1, by omega⟩
    have h0 : acc (next s).1 = none := hrej 0 (by omega)
    simp only [firstAcc, h0]
    exact ih (next s).2 (fun j hj => hrej (j + 1) (by omega)) hv f (by omega)

theorem firstAcc_some {acc : ω → Option β} {v : β} {s' : σ} (fuel : Nat) : ∀ (s : σ), firstAcc next acc fuel s = some (v, s') →
    ∃ i, i < fuel ∧ (∀ j, j < i → acc (word next s j) = none) ∧ acc (word next s i) = some v ∧ s' = after next (i + 1) s := by
  induction fuel with
  | zero => intro s h; cases h
  | succ f ih =>
    intro s h
    simp only [firstAcc] at h
    split at h
    · rename_i v0 hv0
      cases h
      exact ⟨0, by omega, fun j hj => absurd hj (Nat.not_lt_zero j), hv0, rfl⟩
    · rename_i h0
      obtain ⟨i, hi, hrej, hv, hs⟩ := ih _ h
      refine ⟨i + 1, by omega, fun j hj => ?_, hv, hs⟩
      cases j with
      | zero => exact h0
      | succ j => exact hrej j (by omega)

theorem firstAcc_none {acc : ω → Option β} (fuel : Nat) : ∀ s : σ,
    firstAcc next acc fuel s = none ↔ ∀ j, j < fuel → acc (word next s j) = none := by
  induction fuel with
  | zero => intro s; exact ⟨fun _ j hj => absurd hj (Nat.not_lt_zero j), fun _ => rfl⟩
  | succ f ih =>
    intro s
    simp only [firstAcc]
    cases h0 : acc (next s).1 with
    | some v => exact ⟨fun h => (nomatch h), fun h => (nomatch h0.symm.trans (h 0 (by omega)))⟩
    | none =>
      refine (ih _).trans ⟨fun h j hj => ?_, fun h j hj => h (j + 1) (by omega)⟩
      cases j with
      | zero => exact h0
      | succ j => exact h j (by omega)

theorem firstAcc_map {γ : Type} (g : β → γ) (acc : ω → Option β) (fuel : Nat) : ∀ s : σ,
    firstAcc next (fun w => (acc w).map g) fuel s = (firstAcc next acc fuel s).map fun p => (g p.1, p.2) := by
  induction fuel with
  | zero => intro s; rfl
  | succ f ih => intro s; simp only [firstAcc, ih]; cases acc (next s).1 <;> rfl

/-- the states `P k` sit at position `k` of the word sequence `x`: a draw returns `x k` and moves one position on -/
def Follows (next : σ → ω × σ) (P : Nat → σ → Prop) (x : Nat → ω) : Prop :=
  ∀ k s, P k s → (next s).1 = x k ∧ P (k + 1) (next s).2

namespace Follows
variable {P : Nat → σ → Prop} {x : Nat → ω} (h : Follows next P x)
include h

theorem after {k : Nat} {s : σ} (hs : P k s) (j : Nat) : P (k + j) (after next j s) := by
  induction j generalizing k s with
  | zero => exact hs
  | succ j ih =>
    rw [← Nat.add_assoc, Nat.add_right_comm]
    exact ih (h k s hs).2

theorem word {k : Nat} {s : σ} (hs : P k s) (j : Nat) : word next s j = x (k + j) := (h _ _ (h.after hs j)).1

/-- a rejection loop leaves the source further on the sequence, at most `fuel` positions -/
theorem firstAcc_advances {acc : ω → Option β} {v : β} {k : Nat} {s s' : σ} (hs : P k s) {fuel : Nat}
    (hr : firstAcc next acc fuel s = some (v, s')) : ∃ k', k < k' ∧ k' ≤ k + fuel ∧ P k' s' := by
  obtain ⟨i, hi, _, _, rfl⟩ := Src.firstAcc_some fuel s hr
  exact ⟨k + (i + 1), by omega, by omega, h.after hs (i + 1)⟩

end Follows
end EaselModel.Random.Src
