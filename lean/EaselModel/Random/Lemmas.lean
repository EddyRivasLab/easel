import EaselModel.Random.Model
import EaselModel.Random.Source
/-! # The generators of esl_random.c / esl_rand64.c as word sources (C09). Core Lean only.

`Rng.roll`, `Rng64.roll`, `Rng.uniformPositive` are `Src.firstAcc` on the generator's own words; a Mersenne state *on the stream of a seed*
(`Rng.OnStream`) yields the reference words in order (`Rng.follows`) and every operation of the API keeps it there; the arithmetic of the
roll map (`roll_preimage_gen`). -/
namespace EaselModel.Random
open EaselModel.MTP

def Rng.draws (r : Rng) : Nat → List UInt32 × Rng
  | 0 => ([], r)
  | k+1 => let (x, r1) := r.next; let (xs, r2) := Rng.draws r1 k; (x :: xs, r2)

def Rng64.draws (r : Rng64) : Nat → List UInt64 × Rng64
  | 0 => ([], r)
  | k+1 => let (x, r1) := r.next; let (xs, r2) := Rng64.draws r1 k; (x :: xs, r2)

theorem Rng.next_mersenne (r : Rng) (h : r.kind = .mersenne) :
    r.next = ((MTP.next P32 r.st).1, { r with st := (MTP.next P32 r.st).2 }) := by
  simp [Rng.next, h]

theorem Rng.next_fast (r : Rng) (h : r.kind = .fast) : r.next = (r.x * 69069 + 1, { r with x := r.x * 69069 + 1 }) := by
  simp [Rng.next, h]

theorem Rng.kind_mk (k : Kind) (st : St UInt32) (x seed : UInt32) : (Rng.mk k st x seed).kind = k := rfl

/- Through `kind_mk`, not by `rfl`: asked whether `{ r with x := r.x * 69069 + 1 }.kind` and `r.kind` agree, the kernel first tries
   to identify the two records, and refutes `r.x * 69069 + 1 = r.x` only after unfolding the multiplication by the literal. The
   legacy generator is therefore used through the three projections `next_kind`, `next_fast_fst`, `next_fast_x` below. -/
theorem Rng.next_kind (r : Rng) : r.next.2.kind = r.kind := by
  cases hk : r.kind with
  | mersenne => rw [Rng.next_mersenne r hk]; exact (Rng.kind_mk _ _ _ _).trans hk
  | fast => rw [Rng.next_fast r hk]; exact (Rng.kind_mk _ _ _ _).trans hk

theorem Rng.next_fast_fst (r : Rng) (h : r.kind = .fast) : r.next.1 = r.x * 69069 + 1 := by rw [Rng.next_fast r h]
theorem Rng.next_fast_x (r : Rng) (h : r.kind = .fast) : r.next.2.x = r.x * 69069 + 1 := by rw [Rng.next_fast r h]

theorem Rng.draws_mersenne (r : Rng) (h : r.kind = .mersenne) (k : Nat) :
    (r.draws k).1 = (MTP.draws P32 r.st k).1 := by
  induction k generalizing r with
  | zero => rfl
  | succ k ih =>
    simp only [Rng.draws, MTP.draws, Rng.next_mersenne r h]
    rw [ih _ (by simp [h])]

theorem Rng64.draws_eq (r : Rng64) (k : Nat) : (r.draws k).1 = (MTP.draws P64 r.st k).1 := by
  induction k generalizing r with
  | zero => rfl
  | succ k ih =>
    simp only [Rng64.draws, MTP.draws, Rng64.next]
    rw [ih]

/-- the LCG sequence x ↦ 69069·x + 1 -/
def lcg (x0 : UInt32) : Nat → UInt32
  | 0 => x0
  | k+1 => lcg x0 k * 69069 + 1

theorem lcg_shift (x0 : UInt32) (k : Nat) : lcg (x0 * 69069 + 1) k = lcg x0 (k+1) := by
  induction k with
  | zero => rfl
  | succ k ih => simp only [lcg] at *; rw [ih]

theorem Rng.draws_fast (r : Rng) (h : r.kind = .fast) (k : Nat) :
    (r.draws k).1 = (List.range k).map (fun i => lcg r.x (i+1)) := by
  induction k generalizing r with
  | zero => rfl
  | succ k ih =>
    simp only [Rng.draws, Rng.next_fast r h]
    rw [ih _ (by simp [h]), List.range_succ_eq_map]
    simp only [List.map_cons, List.map_map, lcg, List.cons.injEq, true_and]
    apply List.map_congr_left
    intro i _
    simp only [Function.comp]
    exact lcg_shift r.x (i+1)

theorem Rng.draws_snd (r : Rng) (k : Nat) : (r.draws k).2 = Src.after Rng.next k r := by
  induction k generalizing r with
  | zero => rfl
  | succ k ih => exact ih r.next.2

theorem Rng64.draws_snd (r : Rng64) (k : Nat) : (r.draws k).2 = Src.after Rng64.next k r := by
  induction k generalizing r with
  | zero => rfl
  | succ k ih => exact ih r.next.2

/-- `esl_rnd_Roll`, `esl_rand64_Roll`, `esl_rnd_UniformPositive` are rejection loops on the generator's own words -/
theorem Rng.roll_eq (n fuel : Nat) : ∀ r : Rng, r.roll n fuel = Src.firstAcc Rng.next (fun x => rollWord n x.toNat) fuel r := by
  induction fuel with
  | zero => intro r; rfl
  | succ f ih => intro r; simp only [Rng.roll, Src.firstAcc, ih]; cases rollWord n r.next.1.toNat <;> rfl

theorem Rng64.roll_eq (n fuel : Nat) : ∀ r : Rng64, r.roll n fuel = Src.firstAcc Rng64.next (fun x => rollWord64 n x.toNat) fuel r := by
  induction fuel with
  | zero => intro r; rfl
  | succ f ih => intro r; simp only [Rng64.roll, Src.firstAcc, ih]; cases rollWord64 n r.next.1.toNat <;> rfl

theorem Rng.uniformPositive_eq (fuel : Nat) : ∀ r : Rng,
    r.uniformPositive fuel = Src.firstAcc Rng.next (fun x => if x.toNat = 0 then none else some x.toNat) fuel r := by
  induction fuel with
  | zero => intro r; rfl
  | succ f ih =>
    intro r
    simp only [Rng.uniformPositive, Rng.randomNum, Src.firstAcc, ih]
    split <;> rfl

theorem Rng.roll_first (n v i : Nat) (r : Rng) (hrej : ∀ j, j < i → rollWord n (Src.word Rng.next r j).toNat = none)
    (hv : rollWord n (Src.word Rng.next r i).toNat = some v) (fuel : Nat) (hf : i < fuel) :
    r.roll n fuel = some (v, (r.draws (i + 1)).2) := by
  rw [Rng.roll_eq, Rng.draws_snd]
  exact Src.firstAcc_first i r hrej hv fuel hf

theorem Rng64.roll_first (n v i : Nat) (r : Rng64) (hrej : ∀ j, j < i → rollWord64 n (Src.word Rng64.next r j).toNat = none)
    (hv : rollWord64 n (Src.word Rng64.next r i).toNat = some v) (fuel : Nat) (hf : i < fuel) :
    r.roll n fuel = some (v, (r.draws (i + 1)).2) := by
  rw [Rng64.roll_eq, Rng64.draws_snd]
  exact Src.firstAcc_first i r hrej hv fuel hf

theorem Rng.uniPos_first (i : Nat) (r : Rng) (hz : ∀ j, j < i → (Src.word Rng.next r j).toNat = 0)
    (hne : (Src.word Rng.next r i).toNat ≠ 0) (fuel : Nat) (hf : i < fuel) :
    r.uniformPositive fuel = some ((Src.word Rng.next r i).toNat, (r.draws (i + 1)).2) := by
  rw [Rng.uniformPositive_eq, Rng.draws_snd]
  exact Src.firstAcc_first i r (fun j hj => if_pos (hz j hj)) (if_neg hne) fuel hf

theorem Rng.word_fast (j : Nat) : ∀ r : Rng, r.kind = .fast → Src.word Rng.next r j = lcg r.x (j + 1) := by
  induction j with
  | zero => intro r h; exact Rng.next_fast_fst r h
  | succ j ih =>
    intro r h
    show Src.word Rng.next r.next.2 j = _
    rw [ih _ ((Rng.next_kind r).trans h), Rng.next_fast_x r h]
    exact lcg_shift r.x (j + 1)

theorem rollWord_lt (n x v : Nat) (h : rollWord n x = some v) : v < n := by
  unfold rollWord at h
  simp only at h
  split at h
  · cases h; assumption
  · cases h

theorem rollWord64_lt (n x v : Nat) (h : rollWord64 n x = some v) : v < n := by
  unfold rollWord64 at h
  simp only at h
  split at h
  · cases h; assumption
  · cases h

theorem div_eq_iff_interval (x f v : Nat) (hf : 0 < f) : x / f = v ↔ v * f ≤ x ∧ x < (v+1) * f := by
  constructor
  · intro h; subst h
    refine ⟨Nat.div_mul_le_self x f, ?_⟩
    rw [Nat.add_mul, Nat.one_mul]
    exact Nat.lt_div_mul_add hf
  · intro ⟨h1, h2⟩
    apply Nat.div_eq_of_lt_le
    · simpa [Nat.mul_comm] using h1
    · simpa [Nat.mul_comm] using h2

theorem roll_preimage_gen (W n : Nat) (hn : 0 < n) (hW : n ≤ W) (v : Nat) (hv : v < n) (x : Nat) :
    (let f := W / n; let u := x / f; if u < n then some u else none) = some v
      ↔ v * (W / n) ≤ x ∧ x < (v+1) * (W / n) := by
  have hf : 0 < W / n := Nat.div_pos hW hn
  simp only
  constructor
  · intro h
    split at h
    · cases h; exact (div_eq_iff_interval x _ _ hf).1 rfl
    · cases h
  · intro h
    have := (div_eq_iff_interval x _ v hf).2 h
    simp [this, hv]

theorem roll_intervals_fit (W n : Nat) (hn : 0 < n) (v : Nat) (hv : v < n) : (v+1) * (W / n) ≤ W := by
  calc (v+1) * (W / n) ≤ n * (W / n) := Nat.mul_le_mul_right _ (by omega)
    _ ≤ W := Nat.mul_div_le W n

/-- a generator state is *on the stream of `seed` at position `k`*: Mersenne kind, table = a block of the reference sequence -/
def Rng.OnStream (r : Rng) (seed : UInt32) (k : Nat) : Prop := r.kind = .mersenne ∧ Inv P32 seed r.st k
def Rng64.OnStream (r : Rng64) (seed : UInt64) (k : Nat) : Prop := Inv P64 seed r.st k

theorem Rng.follows (seed : UInt32) :
    Src.Follows Rng.next (fun k r => r.OnStream seed k) (fun k => temper32 (ref P32 seed (P32.N + k))) := by
  intro k r h
  rw [Rng.next_mersenne r h.1]
  exact ⟨(next_spec P32 seed r.st k h.2).1, h.1, (next_spec P32 seed r.st k h.2).2⟩

theorem Rng64.follows (seed : UInt64) :
    Src.Follows Rng64.next (fun k r => r.OnStream seed k) (fun k => temper64 (ref P64 seed (P64.N + k))) :=
  fun k r h => next_spec P64 seed r.st k h

theorem Rng.onStream_initWith (r : Rng) (hk : r.kind = .mersenne) (seed : UInt32) : (r.initWith seed).OnStream seed 0 := by
  unfold Rng.initWith
  simp only [hk]
  exact ⟨rfl, init_inv P32 seed⟩

theorem Rng64.onStream_create (seed : UInt64) : (Rng64.create seed).OnStream seed 0 := init_inv P64 seed

theorem Rng.onStream_next (r : Rng) (seed : UInt32) (k : Nat) (h : r.OnStream seed k) : (r.next).2.OnStream seed (k + 1) :=
  (Rng.follows seed k r h).2

theorem Rng.onStream_draws (r : Rng) (seed : UInt32) (k : Nat) (h : r.OnStream seed k) (m : Nat) :
    (r.draws m).2.OnStream seed (k + m) := by
  rw [Rng.draws_snd]; exact (Rng.follows seed).after h m

theorem Rng64.onStream_draws (r : Rng64) (seed : UInt64) (k : Nat) (h : r.OnStream seed k) (m : Nat) :
    (r.draws m).2.OnStream seed (k + m) := by
  rw [Rng64.draws_snd]; exact (Rng64.follows seed).after h m

theorem Rng.onStream_initWith_draws (r : Rng) (hk : r.kind = .mersenne) (seed : UInt32) (k : Nat) :
    ((r.initWith seed).draws k).2.OnStream seed k := by
  have := Rng.onStream_draws _ seed 0 (Rng.onStream_initWith r hk seed) k
  rwa [Nat.zero_add] at this

theorem Rng64.onStream_create_draws (seed : UInt64) (k : Nat) : ((Rng64.create seed).draws k).2.OnStream seed k := by
  have := Rng64.onStream_draws _ seed 0 (Rng64.onStream_create seed) k
  rwa [Nat.zero_add] at this

theorem Rng.draws_kind (r : Rng) (k : Nat) : (r.draws k).2.kind = r.kind := by
  induction k generalizing r with
  | zero => rfl
  | succ k ih => exact (ih _).trans (Rng.next_kind r)

theorem Rng.initWith_kind (r : Rng) (seed : UInt32) : (r.initWith seed).kind = r.kind := by
  unfold Rng.initWith; split <;> simp_all

theorem Rng.onStream_roll (seed : UInt32) (n fuel : Nat) (r : Rng) (k v : Nat) (r' : Rng) (h : r.OnStream seed k)
    (hr : r.roll n fuel = some (v, r')) : ∃ k', k < k' ∧ k' ≤ k + fuel ∧ r'.OnStream seed k' :=
  (Rng.follows seed).firstAcc_advances h ((Rng.roll_eq n fuel r).symm.trans hr)

theorem Rng64.onStream_roll (seed : UInt64) (n fuel : Nat) (r : Rng64) (k v : Nat) (r' : Rng64) (h : r.OnStream seed k)
    (hr : r.roll n fuel = some (v, r')) : ∃ k', k < k' ∧ k' ≤ k + fuel ∧ r'.OnStream seed k' :=
  (Rng64.follows seed).firstAcc_advances h ((Rng64.roll_eq n fuel r).symm.trans hr)

theorem Rng.roll_lt (n fuel : Nat) (r : Rng) (v : Nat) (r' : Rng) (h : r.roll n fuel = some (v, r')) : v < n := by
  rw [Rng.roll_eq] at h
  obtain ⟨i, _, _, hv, _⟩ := Src.firstAcc_some fuel r h
  exact rollWord_lt _ _ _ hv

theorem Rng64.roll_lt (n fuel : Nat) : ∀ (r : Rng64) (v : Nat) (r' : Rng64), r.roll n fuel = some (v, r') → v < n := by
  intro r v r' h
  rw [Rng64.roll_eq] at h
  obtain ⟨i, _, _, hv, _⟩ := Src.firstAcc_some fuel r h
  exact rollWord64_lt _ _ _ hv

theorem Rng.onStream_uniformPositive (seed : UInt32) (fuel : Nat) (r : Rng) (k x : Nat) (r' : Rng) (h : r.OnStream seed k)
    (hr : r.uniformPositive fuel = some (x, r')) : ∃ k', k < k' ∧ k' ≤ k + fuel ∧ r'.OnStream seed k' :=
  (Rng.follows seed).firstAcc_advances h ((Rng.uniformPositive_eq fuel r).symm.trans hr)

theorem Rng.onStream_dealLoop (seed : UInt32) (n m fuel : Nat) : ∀ (j i : Nat) (r : Rng) (acc : List Nat) (k : Nat), r.OnStream seed k →
    ∃ k', k ≤ k' ∧ (dealLoop n m j i r acc fuel).2.OnStream seed k' := by
  induction fuel with
  | zero => intro j i r acc k h; exact ⟨k, Nat.le_refl _, h⟩
  | succ f ih =>
    intro j i r acc k h
    simp only [dealLoop]
    split
    · have hr : r.randomNum = ((r.next).1.toNat, (r.next).2) := rfl
      have hs' := Rng.onStream_next r seed k h
      simp only [hr]
      split
      · obtain ⟨k', h1, h2⟩ := ih (j + 1) (i + 1) _ (j :: acc) (k + 1) hs'
        exact ⟨k', by omega, h2⟩
      · obtain ⟨k', h1, h2⟩ := ih (j + 1) i _ acc (k + 1) hs'
        exact ⟨k', by omega, h2⟩
    · exact ⟨k, Nat.le_refl _, h⟩

theorem Rng.onStream_deal (seed : UInt32) (r : Rng) (k : Nat) (h : r.OnStream seed k) (m n : Nat) :
    ∃ k', k ≤ k' ∧ (r.deal m n).2.OnStream seed k' := Rng.onStream_dealLoop seed n m (n + 1) 0 0 r [] k h

end EaselModel.Random
