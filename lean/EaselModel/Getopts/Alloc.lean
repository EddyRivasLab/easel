import EaselModel.Getopts.Sources
/-! # C14 — the allocation layer of `set_option` (`do_alloc`, `g->valloc[]`, buffer reuse)

`set_option(g, opti, optarg, setby, do_alloc)` stores `optarg` in one of two ways.  Command line, environment and
spoofed command line pass `do_alloc = FALSE`: `g->val[opti]` simply points at the caller's string.  A config file
passes `do_alloc = TRUE` (the line buffer is volatile): the string is copied into a heap block owned by the object,
whose size is remembered in `g->valloc[opti]`, and that block is **reused** by the next config file when it is large
enough (`if (g->valloc[opti] < arglen+1) (re)allocate; strcpy(g->val[opti], optarg)`).

This file models that code byte by byte: a value is `NULL`, `(char*)1`, a pointer to memory that outlives the object,
or a heap block given by its bytes (`malloc` delivers junk without a terminator, `realloc` keeps the old bytes);
`strcpy` writes the argument and its terminator over the front of the block and leaves the tail alone; reading a
value back (`esl_opt_GetString`, `atoi`, …) is reading a C string from the block.  The model of `Model.lean` (values
as abstract strings) is the *erasure* `GC.abs` of this one; `AllocLemmas.lean` proves that the erasure commutes with
`set_option` and with every source, and that no block is ever overrun or read without terminator; `AllocHist.lean` carries this over
every history (`runAllC_abs`) and says what `valloc` is after a call (`setOptionC_ok_valloc`).

Core Lean only (imported by the driver). -/
namespace EaselModel.Getopts

def NUL : Char := '\x00'
/-- what `malloc` leaves in fresh memory: anything — the worst case is "no terminator" -/
def JUNK : Char := '\x01'

/-- `g->val[i]` as the C code has it -/
inductive CV
  | null                      -- NULL
  | one                       -- (char *) TRUE
  | stat (s : Str)            -- pointer into argv / the environment / the option table
  | heap (buf : List Char)    -- pointer to a malloc'ed block with these bytes
  deriving DecidableEq, Repr, Inhabited

def CV.isNull : CV → Bool
  | .null => true
  | _ => false

/-- the C string at the start of a block -/
def cstr (buf : List Char) : Str := buf.takeWhile (· != NUL)

/-- can the C string be read without leaving the block? (`false` = ASan heap-buffer-overflow on read) -/
def terminated (buf : List Char) : Bool := buf.contains NUL

/-- what the getters see -/
def CV.abs : CV → Val
  | .null => .null
  | .one => .one
  | .stat s => .str s
  | .heap b => .str (cstr b)

def CV.block : CV → List Char
  | .heap b => b
  | _ => []

def malloc (n : Nat) : List Char := List.replicate n JUNK

/-- `realloc(p, n)`: the old bytes (as many as fit), then junk -/
def realloc (old : List Char) (n : Nat) : List Char := old.take n ++ List.replicate (n - old.length) JUNK

/-- `strcpy(block, s)`; `none` = the copy (with its terminator) does not fit: heap-buffer-overflow -/
def strcpy? (block : List Char) (s : Str) : Option (List Char) :=
  if s.length + 1 ≤ block.length then some (s ++ NUL :: block.drop (s.length + 1)) else none

structure GC where
  opts : List Opt
  val : List CV
  setby : List Nat
  valloc : List Nat
  argv : List Str := []
  optind : Nat := 1
  nfiles : Nat := 0
  spoofed : Bool := false
  deriving DecidableEq, Repr, Inhabited

def GC.opt (c : GC) (i : Nat) : Opt := c.opts.getD i default
def GC.valOf (c : GC) (i : Nat) : CV := c.val.getD i .null
def GC.setter (c : GC) (i : Nat) : Nat := c.setby.getD i 0
def GC.vallocOf (c : GC) (i : Nat) : Nat := c.valloc.getD i 0

/-- erasure of the allocation layer -/
def GC.abs (c : GC) : G :=
  { opts := c.opts, val := c.val.map CV.abs, setby := c.setby, argv := c.argv, optind := c.optind, nfiles := c.nfiles,
    spoofed := c.spoofed }

inductive RC
  | done (c : GC) (st : Status) (msg : Bool)
  | fault
  deriving DecidableEq, Repr, Inhabited

def RC.abs : RC → R
  | .done c st m => .done c.abs st m
  | .fault => .fault

/-- `if (g->valloc[t] > 0) { free(g->val[t]); g->valloc[t] = 0; }  g->val[t] = v;` -/
def GC.freeAndPoint (c : GC) (t : Nat) (v : CV) : GC :=
  { c with val := c.val.set t v, valloc := c.valloc.set t 0 }

/-- the toggle loop at the end of `set_option` -/
def toggleLoopC (c : GC) (i src : Nat) : List Str → RC
  | [] => .done c .ok false
  | e :: es =>
    match optlistResolve c.opts e with
    | none => .done c .einval false
    | some t =>
      if t == i then toggleLoopC c i src es
      else if (c.valOf t).isNull then toggleLoopC c i src es
      else if c.setter t == src then .done c .esyntax true
      else toggleLoopC ({ c with setby := c.setby.set t src }.freeAndPoint t .null) i src es

/-- the middle of `set_option`: store the value; `none` = a block is overrun -/
def storeC (c : GC) (i : Nat) (arg : Option Str) (doAlloc : Bool) : Option GC :=
  if (c.opt i).type == 0 then
    some { c with val := c.val.set i (match (c.opt i).defval with | some d => .stat d | none => .one) }
  else
    match doAlloc, arg with
    | true, some a =>
      -- arglen = strlen(optarg); if (valloc < arglen+1) { ALLOC or RALLOC (arglen+1); valloc = arglen+1; } strcpy
      let arglen := a.length
      let grown := c.vallocOf i < arglen + 1
      let block := if grown then (if c.vallocOf i == 0 then malloc (arglen + 1) else realloc (c.valOf i).block (arglen + 1))
                   else (c.valOf i).block
      let va := if grown then arglen + 1 else c.vallocOf i
      match strcpy? block a with
      | none => none
      | some b => some { c with val := c.val.set i (.heap b), valloc := c.valloc.set i va }
    | _, some a => some (c.freeAndPoint i (.stat a))
    | _, none => some (c.freeAndPoint i .null)

/-- `set_option(g, opti, optarg, setby, do_alloc)` -/
def setOptionC (c : GC) (i : Nat) (arg : Option Str) (src : Nat) (doAlloc : Bool) : RC :=
  if c.setter i == src then .done c .esyntax true
  else match verifyTypeRange (c.opt i) arg src with
    | .fault => .fault
    | .exc => .done c .esyntax false
    | .bad => .done c .esyntax true
    | .good =>
      match storeC { c with setby := c.setby.set i src } i arg doAlloc with
      | none => .fault
      | some c1 => toggleLoopC c1 i src (optlistElems (c.opt i).toggle)

/-! ## the sources: the table-only parses of `Sources.lean`, run on the concrete object -/

def runEvsC (da : Bool) : GC → List Ev → RC
  | c, [] => .done c .ok false
  | c, e :: es =>
    match setOptionC c e.i e.arg e.src da with
    | .fault => .fault
    | .done c' .ok _ => runEvsC da c' es
    | .done c' st m => .done c' st m

def runCfgC (src : Nat) : GC → List CfgItem → RC
  | c, [] => .done { c with nfiles := c.nfiles + 1 } .ok false
  | c, .usage :: _ => .done c .esyntax true
  | c, .set i arg :: is =>
    match setOptionC c i arg src true with
    | .fault => .fault
    | .done c' .ok _ => runCfgC src c' is
    | .done c' st m => .done c' st m

def runCmdC (F : GC → RC) : GC → List CmdItem → RC
  | c, [] => F c
  | c, .stop st m k :: _ => .done { c with optind := k } st m
  | c, .set i arg kf :: is =>
    match setOptionC c i arg byCmdline false with
    | .fault => .fault
    | .done c' .ok _ => runCmdC F c' is
    | .done c' st m => .done { c' with optind := kf } st m

/-- `esl_opt_ProcessCmdline` (`do_alloc = FALSE`: values point into `argv`) -/
def processCmdlineC (c : GC) (argv : List Str) : RC :=
  runCmdC (fun c' => .done c' .ok false) { c with argv := argv, optind := 1 } (parseCmd c.opts 1 (argv.drop 1) false)

/-- `esl_opt_ProcessSpoof` (values point into the object's own copy of the command line) -/
def processSpoofC (c : GC) (cmdline : Str) : RC :=
  if c.spoofed then .done c .einval true
  else processCmdlineC { c with spoofed := true } (spoofTokens (cmdline.length + 1) cmdline)

/-- `esl_opt_ProcessEnvironment` (`do_alloc = FALSE`: values point into the environment) -/
def processEnvironmentC (c : GC) (env : Str → Option Str) : RC := runEvsC false c (envEvents env 0 c.opts)

/-- `esl_opt_ProcessConfigfile` (`do_alloc = TRUE`: the line buffer is volatile) -/
def processConfigfileC (c : GC) (content : Str) : RC :=
  runCfgC (byCfgfile + c.nfiles) c ((fileLines content).filterMap (cfgItem c.opts))

/-- `esl_getopts_Create` -/
def createC (opts : List Opt) : Option GC :=
  if opts.all (fun o => o.name.head? == some '-') && createLoop opts then
    some { opts := opts, val := opts.map (fun o => match o.defval with | some d => CV.stat d | none => CV.null),
           setby := opts.map (fun _ => byDefault), valloc := opts.map (fun _ => 0) }
  else none

/-- `esl_getopts_Reuse`: every block is freed, everything back to the state after `Create` -/
def reuseC (c : GC) : GC :=
  { opts := c.opts, val := c.opts.map (fun o => match o.defval with | some d => CV.stat d | none => CV.null),
    setby := c.opts.map (fun _ => byDefault), valloc := c.opts.map (fun _ => 0) }

/-- can every stored value be read back as a C string (no getter runs off a block)? -/
def GC.readable (c : GC) : Bool :=
  c.val.all (fun v => match v with | .heap b => terminated b | _ => true)

end EaselModel.Getopts
