import EaselModel.Getopts.Alloc
import EaselModel.Core.ListLookup
/-! The byte-level `set_option` against the model of `Model.lean`: under `InvC` (every heap block is recorded with its size and
terminated) each `…C` function of `Alloc.lean` commutes with the erasure `GC.abs` and keeps `InvC` (`storeC_spec` for the copy into a
block, then `setOptionC_abs`, the four sources, `reuseC`, `createC`); `InvC.readable`: no getter runs off a block. -/
namespace EaselModel.Getopts

def NulFree (a : Str) : Prop := ∀ ch ∈ a, ch ≠ NUL

theorem cstr_append_nul (a rest : List Char) (h : NulFree a) : cstr (a ++ NUL :: rest) = a := by
  unfold cstr
  induction a with
  | nil => simp [NUL]
  | cons x xs ih =>
    have hx : x ≠ NUL := h x List.mem_cons_self
    simp only [List.cons_append, List.takeWhile_cons, bne_iff_ne, ne_eq, hx, not_false_eq_true, ↓reduceIte, List.cons.injEq, true_and]
    exact ih (fun ch hc => h ch (List.mem_cons_of_mem _ hc))

theorem strcpy_spec {block b' : List Char} {a : Str} (h : strcpy? block a = some b') :
    b' = a ++ NUL :: block.drop (a.length + 1) ∧ b'.length = block.length ∧ terminated b' = true := by
  unfold strcpy? at h
  split at h
  · rename_i hl
    simp at h
    subst h
    refine ⟨rfl, ?_, ?_⟩
    · simp; omega
    · simp [terminated]
  · cases h

theorem strcpy_fits {block : List Char} {a : Str} (h : a.length + 1 ≤ block.length) : ∃ b', strcpy? block a = some b' := by
  unfold strcpy?; simp [h]

theorem malloc_length (n : Nat) : (malloc n).length = n := by simp [malloc]
theorem realloc_length (old : List Char) (n : Nat) (h : old.length ≤ n) : (realloc old n).length = n := by
  simp [realloc]; omega


/-- option `i`'s cell: a heap block is recorded with its true size, is terminated, and belongs to an
    argument-taking option; anything else owns no block -/
def CellOk (o : Opt) (v : CV) (n : Nat) : Prop :=
  match v with
  | .heap b => n = b.length ∧ terminated b = true ∧ o.type ≠ 0
  | _ => n = 0

/-- `valloc` runs parallel to `val`, and each entry is the true size of the block its value owns (`CellOk`) -/
structure InvC (c : GC) : Prop where
  len : c.valloc.length = c.val.length
  cell : ∀ i, CellOk (c.opt i) (c.valOf i) (c.vallocOf i)

/-- `InvC` of the object a call hands back (`fault` hands back none) -/
def RC.Inv : RC → Prop
  | .done c _ _ => InvC c
  | .fault => True

@[simp] theorem abs_opts (c : GC) : c.abs.opts = c.opts := rfl
@[simp] theorem abs_setby (c : GC) : c.abs.setby = c.setby := rfl
@[simp] theorem abs_opt (c : GC) (i : Nat) : c.abs.opt i = c.opt i := rfl
@[simp] theorem abs_setter (c : GC) (i : Nat) : c.abs.setter i = c.setter i := rfl
theorem abs_valOf (c : GC) (i : Nat) : c.abs.valOf i = (c.valOf i).abs := by
  simp only [G.valOf, GC.valOf, GC.abs, List.getD_eq_getElem?_getD, List.getElem?_map]
  cases c.val[i]? <;> rfl
theorem abs_isNull (v : CV) : v.abs.isNull = v.isNull := by cases v <;> rfl

theorem cellOk_nonheap {o : Opt} {v : CV} (h : ∀ b, v ≠ .heap b) : CellOk o v 0 := by
  cases v with
  | heap b => exact absurd rfl (h b)
  | _ => rfl

theorem InvC.freeAndPoint {c : GC} (h : InvC c) (t : Nat) (v : CV) (hv : ∀ b, v ≠ .heap b) : InvC (c.freeAndPoint t v) := by
  refine ⟨by simp [GC.freeAndPoint, h.len], ?_⟩
  intro j
  have hc := h.cell j
  simp only [GC.freeAndPoint, GC.valOf, GC.vallocOf, GC.opt, getD_set, h.len] at hc ⊢
  by_cases hj : t = j ∧ t < c.val.length
  · rw [if_pos hj, if_pos hj]; exact cellOk_nonheap hv
  · rw [if_neg hj, if_neg hj]; exact hc

theorem abs_freeAndPoint (c : GC) (t : Nat) (v : CV) : (c.freeAndPoint t v).abs = { c.abs with val := c.abs.val.set t v.abs } := by
  simp [GC.freeAndPoint, GC.abs, List.map_set]


theorem InvC.setCell {c : GC} (h : InvC c) (i : Nat) (v : CV) (n : Nat) (hv : CellOk (c.opt i) v n) :
    InvC { c with val := c.val.set i v, valloc := c.valloc.set i n } := by
  refine ⟨by simp [h.len], ?_⟩
  intro j
  have hc := h.cell j
  simp only [GC.valOf, GC.vallocOf, GC.opt, getD_set, h.len] at hc hv ⊢
  by_cases hj : i = j ∧ i < c.val.length
  · rw [if_pos hj, if_pos hj]; rw [← hj.1]; exact hv
  · rw [if_neg hj, if_neg hj]; exact hc

theorem InvC.setVal {c : GC} (h : InvC c) (i : Nat) (v : CV) (hv : CellOk (c.opt i) v (c.vallocOf i)) :
    InvC { c with val := c.val.set i v } := by
  refine ⟨by simp [h.len], ?_⟩
  intro j
  have hc := h.cell j
  simp only [GC.valOf, GC.vallocOf, GC.opt, getD_set] at hc hv ⊢
  by_cases hj : i = j ∧ i < c.val.length
  · rw [if_pos hj]; rw [← hj.1]; exact hv
  · rw [if_neg hj]; exact hc

theorem abs_setCell (c : GC) (i : Nat) (v : CV) (n : Nat) :
    ({ c with val := c.val.set i v, valloc := c.valloc.set i n } : GC).abs = { c.abs with val := c.abs.val.set i v.abs } := by
  simp [GC.abs, List.map_set]

theorem abs_setVal (c : GC) (i : Nat) (v : CV) :
    ({ c with val := c.val.set i v } : GC).abs = { c.abs with val := c.abs.val.set i v.abs } := by
  simp [GC.abs, List.map_set]

/-- `g->valloc[i]` after the store step -/
def storeValloc (o : Opt) (old : Nat) (arg : Option Str) (da : Bool) : Nat :=
  if o.type == 0 then old
  else match da, arg with
    | true, some a => max old (a.length + 1)
    | _, _ => 0

theorem vallocOf_setCell (c : GC) (i : Nat) (v : CV) (n : Nat) (hi : i < c.valloc.length) :
    ({ c with val := c.val.set i v, valloc := c.valloc.set i n } : GC).vallocOf i = n := by
  simp [GC.vallocOf, hi]

theorem storeC_spec {c : GC} (hinv : InvC c) (i : Nat) (arg : Option Str) (da : Bool)
    (hnf : da = true → ∀ a, arg = some a → NulFree a) :
    ∃ c1, storeC c i arg da = some c1 ∧ InvC c1 ∧
      c1.abs = { c.abs with val := c.abs.val.set i (newVal (c.opt i) arg) } ∧
      c1.setby = c.setby ∧ c1.opts = c.opts ∧
      (i < c.val.length → c1.vallocOf i = storeValloc (c.opt i) (c.vallocOf i) arg da) := by
  have hcell := hinv.cell i
  unfold storeC
  by_cases ht : (c.opt i).type = 0
  · have ht' : ((c.opt i).type == 0) = true := by simp [ht]
    simp only [ht', ↓reduceIte]
    have hz : ∀ v : CV, (∀ b, v ≠ .heap b) → CellOk (c.opt i) v (c.vallocOf i) := by
      intro v hv
      cases hcv : c.valOf i with
      | heap b => rw [hcv] at hcell; exact absurd ht hcell.2.2
      | null => rw [hcv] at hcell; have : c.vallocOf i = 0 := hcell; rw [this]; exact cellOk_nonheap hv
      | one => rw [hcv] at hcell; have : c.vallocOf i = 0 := hcell; rw [this]; exact cellOk_nonheap hv
      | stat s => rw [hcv] at hcell; have : c.vallocOf i = 0 := hcell; rw [this]; exact cellOk_nonheap hv
    refine ⟨_, rfl, hinv.setVal i _ (hz _ ?_), ?_, rfl, rfl, ?_⟩
    · intro b; cases (c.opt i).defval <;> simp
    · rw [abs_setVal]; simp only [newVal, ht']; cases (c.opt i).defval <;> rfl
    · intro hi; simp [storeValloc, ht', GC.vallocOf]
  · have ht' : ((c.opt i).type == 0) = false := by simp [ht]
    simp only [ht', Bool.false_eq_true, ↓reduceIte]
    have hnv : ∀ a, newVal (c.opt i) (some a) = .str a := by intro a; simp [newVal, ht']
    have hnn : newVal (c.opt i) none = .null := by simp [newVal, ht']
    cases da with
    | false =>
      cases arg with
      | none =>
        refine ⟨_, rfl, hinv.freeAndPoint i .null (by intro b; simp), ?_, rfl, rfl, ?_⟩
        · rw [abs_freeAndPoint, hnn]; rfl
        · intro hi; rw [GC.freeAndPoint, vallocOf_setCell _ _ _ _ (by rw [hinv.len]; exact hi)]; simp [storeValloc, ht']
      | some a =>
        refine ⟨_, rfl, hinv.freeAndPoint i (.stat a) (by intro b; simp), ?_, rfl, rfl, ?_⟩
        · rw [abs_freeAndPoint, hnv]; rfl
        · intro hi; rw [GC.freeAndPoint, vallocOf_setCell _ _ _ _ (by rw [hinv.len]; exact hi)]; simp [storeValloc, ht']
    | true =>
      cases arg with
      | none =>
        refine ⟨_, rfl, hinv.freeAndPoint i .null (by intro b; simp), ?_, rfl, rfl, ?_⟩
        · rw [abs_freeAndPoint, hnn]; rfl
        · intro hi; rw [GC.freeAndPoint, vallocOf_setCell _ _ _ _ (by rw [hinv.len]; exact hi)]; simp [storeValloc, ht']
      | some a =>
        simp only
        have hblk : (c.valOf i).block.length = c.vallocOf i := by
          cases hcv : c.valOf i with
          | heap b => rw [hcv] at hcell; simp [CV.block, hcell.1]
          | null => rw [hcv] at hcell; have : c.vallocOf i = 0 := hcell; simp [CV.block, this]
          | one => rw [hcv] at hcell; have : c.vallocOf i = 0 := hcell; simp [CV.block, this]
          | stat s => rw [hcv] at hcell; have : c.vallocOf i = 0 := hcell; simp [CV.block, this]
        have hlen : (if c.vallocOf i < a.length + 1 then (if c.vallocOf i == 0 then malloc (a.length + 1) else realloc (c.valOf i).block (a.length + 1))
                     else (c.valOf i).block).length = max (c.vallocOf i) (a.length + 1) := by
          by_cases hg : c.vallocOf i < a.length + 1
          · simp only [hg, ↓reduceIte]
            by_cases hz : c.vallocOf i = 0
            · simp [hz, malloc_length]
            · have hz' : (c.vallocOf i == 0) = false := by simp [hz]
              simp only [hz', Bool.false_eq_true, ↓reduceIte]
              rw [realloc_length _ _ (by omega)]; omega
          · simp only [hg, ↓reduceIte, hblk]; omega
        have hva : (if c.vallocOf i < a.length + 1 then a.length + 1 else c.vallocOf i) = max (c.vallocOf i) (a.length + 1) := by
          by_cases hg : c.vallocOf i < a.length + 1
          · simp only [hg, ↓reduceIte]; omega
          · simp only [hg, ↓reduceIte]; omega
        obtain ⟨b', hb'⟩ := strcpy_fits (block := (if c.vallocOf i < a.length + 1 then (if c.vallocOf i == 0 then malloc (a.length + 1) else realloc (c.valOf i).block (a.length + 1))
                     else (c.valOf i).block)) (a := a) (by rw [hlen]; omega)
        obtain ⟨he, hl, htm⟩ := strcpy_spec hb'
        rw [hb']
        simp only [hva]
        refine ⟨_, rfl, hinv.setCell i (.heap b') _ ⟨by rw [hl, hlen], htm, ht⟩, ?_, rfl, rfl, ?_⟩
        · rw [abs_setCell, hnv]
          have : (CV.heap b').abs = .str a := by
            simp only [CV.abs]; rw [he, cstr_append_nul _ _ (hnf rfl a rfl)]
          rw [this]
        · intro hi; rw [vallocOf_setCell _ _ _ _ (by rw [hinv.len]; exact hi)]; simp [storeValloc, ht']


theorem InvC.withSetby {c : GC} (h : InvC c) (sb : List Nat) : InvC { c with setby := sb } := ⟨h.len, h.cell⟩

theorem toggleLoopC_abs {i src : Nat} : ∀ (es : List Str) (c : GC), InvC c →
    (toggleLoopC c i src es).abs = toggleLoop c.abs i src es ∧ (toggleLoopC c i src es).Inv := by
  intro es
  induction es with
  | nil => intro c h; exact ⟨rfl, h⟩
  | cons e es ih =>
    intro c h
    unfold toggleLoopC toggleLoop
    simp only [abs_opts]
    cases optlistResolve c.opts e with
    | none => exact ⟨rfl, h⟩
    | some t =>
      simp only [abs_valOf, abs_isNull, abs_setter]
      by_cases h1 : (t == i) = true
      · simp only [h1, ↓reduceIte]; exact ih c h
      · simp only [h1, Bool.false_eq_true, ↓reduceIte]
        by_cases h2 : (c.valOf t).isNull = true
        · simp only [h2, ↓reduceIte]; exact ih c h
        · simp only [h2, Bool.false_eq_true, ↓reduceIte]
          by_cases h3 : (c.setter t == src) = true
          · simp only [h3, ↓reduceIte]; exact ⟨rfl, h⟩
          · simp only [h3, Bool.false_eq_true, ↓reduceIte]
            have hinv' : InvC ({ c with setby := c.setby.set t src }.freeAndPoint t .null) :=
              (h.withSetby _).freeAndPoint t .null (by intro b; simp)
            have habs : ({ c with setby := c.setby.set t src }.freeAndPoint t .null).abs = c.abs.put t .null src := by
              simp [GC.freeAndPoint, GC.abs, G.put, List.map_set, CV.abs]
            have := ih _ hinv'
            rw [habs] at this
            exact this

/-- **erasure commutes with `set_option`**: on an object satisfying the allocation invariant, the byte-level
    `set_option` (either `do_alloc` mode) does exactly what the abstract one does — in particular it never overruns or
    over-reads a block — and re-establishes the invariant.  With `do_alloc` the argument must be a C string. -/
theorem setOptionC_abs {c : GC} (hinv : InvC c) (i : Nat) (arg : Option Str) (src : Nat) (da : Bool)
    (hnf : da = true → ∀ a, arg = some a → NulFree a) :
    (setOptionC c i arg src da).abs = setOption c.abs i arg src ∧ (setOptionC c i arg src da).Inv := by
  unfold setOptionC setOption
  simp only [abs_setter, abs_opt]
  by_cases hs : (c.setter i == src) = true
  · simp only [hs, ↓reduceIte]; exact ⟨rfl, hinv⟩
  · simp only [hs, Bool.false_eq_true, ↓reduceIte]
    cases verifyTypeRange (c.opt i) arg src with
    | fault => exact ⟨rfl, trivial⟩
    | exc => exact ⟨rfl, hinv⟩
    | bad => exact ⟨rfl, hinv⟩
    | good =>
      simp only
      obtain ⟨c1, h1, hinv1, habs1, _, _, _⟩ := storeC_spec (hinv.withSetby (c.setby.set i src)) i arg da hnf
      rw [h1]
      simp only
      have := toggleLoopC_abs (i := i) (src := src) (optlistElems (c.opt i).toggle) c1 hinv1
      rw [habs1] at this
      exact this


/-- `afterSet` on the byte-level object -/
def afterSetC (upd : GC → GC) (k : GC → RC) : RC → RC
  | .fault => .fault
  | .done c' .ok _ => k c'
  | .done c' st m => .done (upd c') st m

/-- erasure commutes with the step after a `set_option` call, if it does with the call and with what the step may do -/
theorem afterSetC_abs {upd : GC → GC} {updA : G → G} {k : GC → RC} {kA : G → R} {rc : RC} {r : R} (hrc : rc.abs = r ∧ rc.Inv)
    (hupd : ∀ c, InvC c → (upd c).abs = updA c.abs ∧ InvC (upd c)) (hk : ∀ c, InvC c → (k c).abs = kA c.abs ∧ (k c).Inv) :
    (afterSetC upd k rc).abs = afterSet updA kA r ∧ (afterSetC upd k rc).Inv := by
  obtain ⟨rfl, hi⟩ := hrc
  cases rc with
  | fault => exact ⟨rfl, trivial⟩
  | done c' st m =>
    cases st with
    | ok => exact hk c' hi
    | esyntax => exact ⟨congrArg (R.done · _ _) (hupd c' hi).1, (hupd c' hi).2⟩
    | einval => exact ⟨congrArg (R.done · _ _) (hupd c' hi).1, (hupd c' hi).2⟩

theorem runEvsC_abs : ∀ (es : List Ev) (c : GC), InvC c →
    (runEvsC false c es).abs = runEvs c.abs es ∧ (runEvsC false c es).Inv := by
  intro es
  induction es with
  | nil => intro c h; exact ⟨rfl, h⟩
  | cons e es ih =>
    intro c h
    exact afterSetC_abs (upd := id) (updA := id) (setOptionC_abs h e.i e.arg e.src false (by intro hh; cases hh))
      (fun _ hc => ⟨rfl, hc⟩) ih

/-- every argument a config file hands to `set_option` is a C string -/
def CfgArgsOk (is : List CfgItem) : Prop := ∀ i a, CfgItem.set i (some a) ∈ is → NulFree a

theorem runCfgC_abs (src : Nat) : ∀ (is : List CfgItem) (c : GC), InvC c → CfgArgsOk is →
    (runCfgC src c is).abs = runCfg src c.abs is ∧ (runCfgC src c is).Inv := by
  intro is
  induction is with
  | nil => intro c h _; exact ⟨rfl, ⟨h.len, h.cell⟩⟩
  | cons it is ih =>
    intro c h hok
    cases it with
    | usage => exact ⟨rfl, h⟩
    | set i arg =>
      exact afterSetC_abs (upd := id) (updA := id)
        (setOptionC_abs h i arg src true (by intro _ a harg; subst harg; exact hok i a List.mem_cons_self))
        (fun _ hc => ⟨rfl, hc⟩) fun c' hc' => ih c' hc' fun i' a hm => hok i' a (List.mem_cons_of_mem _ hm)

theorem InvC.withOptind {c : GC} (h : InvC c) (k : Nat) : InvC { c with optind := k } := ⟨h.len, h.cell⟩

theorem runCmdC_abs {F : GC → RC} {F' : G → R} (hF : ∀ c, InvC c → (F c).abs = F' c.abs ∧ (F c).Inv) :
    ∀ (is : List CmdItem) (c : GC), InvC c → (runCmdC F c is).abs = runCmd F' c.abs is ∧ (runCmdC F c is).Inv := by
  intro is
  induction is with
  | nil => intro c h; exact hF c h
  | cons it is ih =>
    intro c h
    cases it with
    | stop st m k => exact ⟨rfl, h.withOptind k⟩
    | set i arg kf =>
      exact afterSetC_abs (upd := fun c' => { c' with optind := kf }) (updA := fun g' => { g' with optind := kf })
        (setOptionC_abs h i arg byCmdline false (by intro hh; cases hh)) (fun _ hc => ⟨rfl, hc.withOptind kf⟩) ih

theorem processCmdlineC_abs {c : GC} (h : InvC c) (argv : List Str) :
    (processCmdlineC c argv).abs = processCmdline c.abs argv ∧ (processCmdlineC c argv).Inv := by
  rw [processCmdline_eq]
  exact runCmdC_abs (F := fun c' => RC.done c' .ok false) (F' := fun g' => R.done g' .ok false) (fun c' h' => ⟨rfl, h'⟩) _
    { c with argv := argv, optind := 1 } ⟨h.len, h.cell⟩

theorem processSpoofC_abs {c : GC} (h : InvC c) (cmdline : Str) :
    (processSpoofC c cmdline).abs = processSpoof c.abs cmdline ∧ (processSpoofC c cmdline).Inv := by
  unfold processSpoofC processSpoof
  by_cases hs : c.spoofed = true
  · have : c.abs.spoofed = true := hs
    simp only [hs, this, ↓reduceIte]; exact ⟨rfl, h⟩
  · have : c.abs.spoofed = false := by show c.spoofed = false; simpa using hs
    simp only [hs, this, Bool.false_eq_true, ↓reduceIte]
    exact processCmdlineC_abs (c := { c with spoofed := true }) ⟨h.len, h.cell⟩ _

theorem processEnvironmentC_abs {c : GC} (h : InvC c) (env : Str → Option Str) :
    (processEnvironmentC c env).abs = processEnvironment c.abs env ∧ (processEnvironmentC c env).Inv := by
  rw [processEnvironment_eq]
  exact runEvsC_abs _ c h

theorem processConfigfileC_abs {c : GC} (h : InvC c) (content : Str)
    (hok : CfgArgsOk ((fileLines content).filterMap (cfgItem c.opts))) :
    (processConfigfileC c content).abs = processConfigfile c.abs content ∧ (processConfigfileC c content).Inv := by
  rw [processConfigfile_eq]
  exact runCfgC_abs _ _ c h hok

theorem reuseC_abs (c : GC) : (reuseC c).abs = reuse c.abs := by
  simp [reuseC, reuse, GC.abs, CV.abs, List.map_map, Function.comp_def]
  intro o _; cases o.defval <;> rfl

/-- `createC opts`, where it succeeds, is literally `reuseC` of any object with these `opts` (`reuseC` reads nothing else of it): the empty
    object stands in, here and in `createC_inv`, and the facts about `Reuse` serve `Create`. -/
theorem createC_abs (opts : List Opt) : (createC opts).map GC.abs = create opts := by
  unfold createC create
  split
  · exact congrArg some (reuseC_abs { opts := opts, val := [], setby := [], valloc := [] })
  · rfl

theorem reuseC_inv (c : GC) : InvC (reuseC c) := by
  refine ⟨by simp [reuseC], ?_⟩
  intro i
  simp only [reuseC, GC.valOf, GC.vallocOf, List.getD_eq_getElem?_getD, List.getElem?_map]
  cases c.opts[i]? with
  | none => rfl
  | some o => simp only [Option.map_some, Option.getD_some]; cases o.defval <;> exact rfl

theorem createC_inv {opts : List Opt} {c : GC} (h : createC opts = some c) : InvC c := by
  unfold createC at h
  split at h
  · cases h
    exact reuseC_inv { opts := opts, val := [], setby := [], valloc := [] }
  · cases h

theorem reuseC_eq_createC (c : GC) : createC c.opts = some (reuseC c) ∨ createC c.opts = none := by
  unfold createC reuseC
  split
  · left; rfl
  · right; rfl

/-- the invariant makes every stored value readable: no getter runs off a block -/
theorem InvC.readable {c : GC} (h : InvC c) : c.readable = true := by
  simp only [GC.readable, List.all_eq_true]
  intro v hv
  obtain ⟨i, hi, rfl⟩ := List.getElem_of_mem hv
  have := h.cell i
  simp only [GC.valOf, List.getD_eq_getElem?_getD, List.getElem?_eq_getElem hi, Option.getD_some] at this
  cases hc : c.val[i] with
  | heap b => rw [hc] at this; exact this.2.1
  | _ => rfl

end EaselModel.Getopts
