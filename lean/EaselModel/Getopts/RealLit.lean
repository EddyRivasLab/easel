import EaselModel.Getopts.Ranges
/-! # C14 — `strtod`/`atof` on a plain decimal literal followed by something else (the lower bound at the start of a
    two-sided real range string), and acceptance of plain decimal literals as real arguments. -/
namespace EaselModel.Getopts

/-- a decimal literal without exponent: optional `-`, integer digits, optionally `.` and fraction digits; at least
    one digit overall -/
structure RealLit (s : Str) (neg : Bool) (ip fp : Str) (dot : Bool) : Prop where
  hip : ∀ d ∈ ip, isDigit d = true
  hfp : ∀ d ∈ fp, isDigit d = true
  some_digit : ip ≠ [] ∨ fp ≠ []
  nodot : dot = false → fp = []
  spell : s = (if neg then ['-'] else []) ++ ip ++ (if dot then '.' :: fp else [])

/-- what may follow the literal: nothing, or a character that cannot continue a number -/
def EndsNumber (tail : Str) : Prop :=
  ∀ c, tail.head? = some c → isDigit c = false ∧ c ≠ '.' ∧ c ≠ 'e' ∧ c ≠ 'E'

theorem expOf_none {t : Str} (h : ∀ c, t.head? = some c → c ≠ 'e' ∧ c ≠ 'E') : expOf t = (0, t) := by
  cases t with
  | nil => rfl
  | cons c r =>
    obtain ⟨h1, h2⟩ := h c rfl
    have : (c == 'e' || c == 'E') = false := by simp [h1, h2]
    simp only [expOf, this, Bool.false_eq_true, ↓reduceIte]

theorem fracOf_nodot {t : Str} (h : t.head? ≠ some '.') : fracOf t = ([], t) := by
  unfold fracOf
  split
  · rename_i r; simp at h
  · rfl

/-- `strtod` on a number spelled out — blanks, sign, integer digits, optionally a point and fraction digits, at least one
    digit — followed by `tail`, which starts with neither a digit nor a point: the decimal read so far, and exponent and rest
    as `expOf` reads them off `tail`. -/
theorem strtod_parts {ws1 sign ip fp tail : Str} {dot : Bool} (hw1 : ∀ c ∈ ws1, isSpace c = true)
    (hsign : sign = [] ∨ sign = ['-'] ∨ sign = ['+']) (hip : ∀ d ∈ ip, isDigit d = true) (hfp : ∀ d ∈ fp, isDigit d = true)
    (hdig : ip ≠ [] ∨ fp ≠ []) (hnodot : dot = false → fp = [])
    (htail : ∀ c, tail.head? = some c → isDigit c = false ∧ c ≠ '.') :
    strtod (ws1 ++ sign ++ ip ++ (if dot then '.' :: fp else []) ++ tail) =
      some ({ neg := sign == ['-'], mant := digitsVal (ip ++ fp), exp := - (fp.length : Int) + (expOf tail).1 }, (expOf tail).2) := by
  have hfrac : fracOf ((if dot then '.' :: fp else []) ++ tail) = (fp, tail) := by
    cases dot with
    | true =>
      have := takeWhile_digits' fp tail hfp (fun c hc => (htail c hc).1)
      simp only [↓reduceIte, List.cons_append, fracOf, this.1, this.2]
    | false =>
      rw [hnodot rfl]
      exact fracOf_nodot fun hc => (htail '.' hc).2 rfl
  have hnone : (ip.isEmpty && fp.isEmpty) = false := by
    rcases hdig with h | h
    · cases ip with
      | nil => exact absurd rfl h
      | cons _ _ => rfl
    · cases fp with
      | nil => exact absurd rfl h
      | cons _ _ => simp
  obtain ⟨body, hbody⟩ : ∃ b : Str, b = ip ++ ((if dot then '.' :: fp else []) ++ tail) := ⟨_, rfl⟩
  have hip_tw : body.takeWhile isDigit = ip ∧ body.dropWhile isDigit = (if dot then '.' :: fp else []) ++ tail := by
    rw [hbody]
    refine takeWhile_digits' ip _ hip fun c hc => ?_
    cases dot with
    | true => rw [show c = '.' by simpa using hc.symm]; decide
    | false => exact (htail c (by simpa using hc)).1
  -- the number proper starts with a digit or the point: no blank, no sign
  have hfirst : ∀ c, body.head? = some c → isSpace c = false ∧ c ≠ '-' ∧ c ≠ '+' := by
    intro c hc
    cases ip with
    | cons d ip' =>
      have hd := hip d List.mem_cons_self
      have : c = d := by simpa [hbody] using hc.symm
      subst this
      refine ⟨not_space_of_digit hd, ?_, ?_⟩ <;> (intro e; subst e; simp [isDigit] at hd)
    | nil =>
      cases dot with
      | true =>
        rw [show c = '.' by simpa [hbody] using hc.symm]
        exact ⟨by decide, by decide, by decide⟩
      | false => exact absurd (hnodot rfl) (hdig.resolve_left fun h => h rfl)
  have hsignOf : signOf body = (false, body) := by
    cases hb : body with
    | nil => rfl
    | cons c r =>
      obtain ⟨_, h1, h2⟩ := hfirst c (by rw [hb]; rfl)
      unfold signOf
      split
      · rename_i r' heq; injection heq with e1 _; exact absurd e1 h1
      · rename_i r' heq; injection heq with e1 _; exact absurd e1 h2
      · rfl
  have hbdrop : body.dropWhile isSpace = body := by
    cases hb : body with
    | nil => rfl
    | cons c r =>
      have := (hfirst c (by rw [hb]; rfl)).1
      simp only [List.dropWhile_cons, this, Bool.false_eq_true, ↓reduceIte]
  have hst : signOf ((ws1 ++ sign ++ ip ++ (if dot then '.' :: fp else []) ++ tail).dropWhile isSpace) = (sign == ['-'], body) := by
    have e : ws1 ++ sign ++ ip ++ (if dot then '.' :: fp else []) ++ tail = ws1 ++ (sign ++ body) := by simp [hbody, List.append_assoc]
    rw [e]
    rcases hsign with rfl | rfl | rfl
    · rw [List.nil_append, dropWhile_space_prefix ws1 body hw1 hbdrop, hsignOf]; rfl
    · rw [dropWhile_space_prefix ws1 _ hw1 (by simp [isSpace])]; rfl
    · rw [dropWhile_space_prefix ws1 _ hw1 (by simp [isSpace])]; rfl
  unfold strtod
  simp only [hst, hip_tw.1, hip_tw.2, hfrac, hnone, Bool.false_eq_true, ↓reduceIte]

theorem strtod_lit {s : Str} {neg : Bool} {ip fp : Str} {dot : Bool} (h : RealLit s neg ip fp dot) (tail : Str) (ht : EndsNumber tail) :
    strtod (s ++ tail) = some ({ neg := neg, mant := digitsVal (ip ++ fp), exp := - (fp.length : Int) }, tail) := by
  obtain ⟨hip, hfp, hsome, hnodot, rfl⟩ := h
  have := strtod_parts (ws1 := []) (sign := if neg then ['-'] else []) (tail := tail) (dot := dot) (by simp)
    (by cases neg <;> simp) hip hfp hsome hnodot fun c hc => ⟨(ht c hc).1, (ht c hc).2.1⟩
  rw [expOf_none fun c hc => ⟨(ht c hc).2.2.1, (ht c hc).2.2.2⟩] at this
  rw [List.nil_append] at this
  rw [this]
  cases neg <;> simp

theorem endsNumber_nil : EndsNumber [] := by intro c h; simp at h
theorem endsNumber_lt (r : Str) : EndsNumber ('<' :: r) := by
  intro c h
  have : c = '<' := by simpa using h.symm
  subst this
  exact ⟨by decide, by decide, by decide, by decide⟩

theorem atof_lit_append {lo : Str} {neg : Bool} {ip fp : Str} {dot : Bool} (h : RealLit lo neg ip fp dot) (r : Str) :
    atof (lo ++ '<' :: r) = atof lo := by
  have h1 := strtod_lit h ('<' :: r) (endsNumber_lt r)
  have h2 := strtod_lit h [] endsNumber_nil
  simp only [List.append_nil] at h2
  unfold atof
  rw [h1, h2]

theorem isReal_lit {s : Str} {neg : Bool} {ip fp : Str} {dot : Bool} (h : RealLit s neg ip fp dot) : isReal s = true := by
  have h2 := strtod_lit h [] endsNumber_nil
  simp only [List.append_nil] at h2
  unfold isReal
  rw [h2]
  rfl

theorem realLit_no_marker {lo : Str} {neg : Bool} {ip fp : Str} {dot : Bool} (h : RealLit lo neg ip fp dot) : 'x' ∉ lo := by
  obtain ⟨hip, hfp, _, _, rfl⟩ := h
  intro hm
  rcases List.mem_append.mp hm with hm | hm
  · rcases List.mem_append.mp hm with hm | hm
    · cases neg <;> simp at hm
    · have := hip 'x' hm; simp [isDigit] at this
  · cases dot with
    | true =>
      rcases List.mem_cons.mp hm with hm | hm
      · cases hm
      · have := hfp 'x' hm; simp [isDigit] at this
    | false => simp at hm

/-- blanks, optional sign, digits with an optional point (at least one digit), optional exponent `e[sign]digits`, blanks -/
def RealSyntax (s : Str) : Prop :=
  ∃ (ws1 sign ip dotfp ex ws2 : Str),
    (∀ c ∈ ws1, isSpace c = true) ∧ (sign = [] ∨ sign = ['-'] ∨ sign = ['+']) ∧
    (∀ d ∈ ip, isDigit d = true) ∧
    (dotfp = [] ∨ ∃ fp, dotfp = '.' :: fp ∧ ∀ d ∈ fp, isDigit d = true) ∧
    (ip ≠ [] ∨ ∃ fp, dotfp = '.' :: fp ∧ fp ≠ []) ∧
    (ex = [] ∨ ∃ (c : Char) (sg ed : Str), ex = c :: (sg ++ ed) ∧ (c = 'e' ∨ c = 'E') ∧ (sg = [] ∨ sg = ['-'] ∨ sg = ['+']) ∧
        ed ≠ [] ∧ ∀ d ∈ ed, isDigit d = true) ∧
    (∀ c ∈ ws2, isSpace c = true) ∧
    s = ws1 ++ sign ++ ip ++ dotfp ++ ex ++ ws2

theorem fracOf_spec (t1 : Str) :
    (fracOf t1 = ([], t1)) ∨
    (∃ r, t1 = '.' :: r ∧ fracOf t1 = (r.takeWhile isDigit, r.dropWhile isDigit)) := by
  unfold fracOf
  split
  · rename_i r; right; exact ⟨r, rfl, rfl⟩
  · left; rfl

theorem expOf_spec (t2 : Str) :
    (expOf t2 = (0, t2)) ∨
    (∃ (c : Char) (r : Str), t2 = c :: r ∧ (c = 'e' ∨ c = 'E') ∧ (signOf r).2.takeWhile isDigit ≠ [] ∧
      (expOf t2).2 = (signOf r).2.dropWhile isDigit) := by
  cases t2 with
  | nil => left; rfl
  | cons c r =>
    by_cases hc : (c == 'e' || c == 'E') = true
    · by_cases he : ((signOf r).2.takeWhile isDigit).isEmpty = true
      · left; simp only [expOf, hc, he, ↓reduceIte]
      · right
        refine ⟨c, r, rfl, by simpa using hc, ?_, ?_⟩
        · intro h; rw [h] at he; exact he rfl
        · simp only [expOf, hc, he, Bool.false_eq_true, ↓reduceIte]
    · left
      have : (c == 'e' || c == 'E') = false := by simpa using hc
      simp only [expOf, this, Bool.false_eq_true, ↓reduceIte]

theorem isReal_sound (s : Str) (h : isReal s = true) : RealSyntax s := by
  unfold isReal at h
  cases hst : strtod s with
  | none => simp [hst] at h
  | some r =>
    obtain ⟨v, rest⟩ := r
    simp only [hst] at h
    have hws2 : ∀ c ∈ rest, isSpace c = true := fun c hc => List.all_eq_true.mp h c hc
    unfold strtod at hst
    simp only at hst
    split at hst
    · cases hst
    · rename_i hne
      injection hst with hst
      have hrest : (expOf (fracOf ((signOf (s.dropWhile isSpace)).2.dropWhile isDigit)).2).2 = rest := congrArg Prod.snd hst
      obtain ⟨sign, hsign, ht⟩ := signOf_spec (s.dropWhile isSpace)
      generalize hT : (signOf (s.dropWhile isSpace)).2 = t at *
      have h1 : s = s.takeWhile isSpace ++ s.dropWhile isSpace := (List.takeWhile_append_dropWhile).symm
      have h2 : t = t.takeWhile isDigit ++ t.dropWhile isDigit := (List.takeWhile_append_dropWhile).symm
      generalize hT1 : t.dropWhile isDigit = t1 at *
      have hfrac : ∃ dotfp, t1 = dotfp ++ (fracOf t1).2 ∧ (dotfp = [] ∨ ∃ fp, dotfp = '.' :: fp ∧ ∀ d ∈ fp, isDigit d = true) ∧
          (dotfp = [] → (fracOf t1).1 = []) ∧ (∀ fp, dotfp = '.' :: fp → (fracOf t1).1 = fp) := by
        rcases fracOf_spec t1 with hf | ⟨r, hr, hf⟩
        · exact ⟨[], by simp [hf], Or.inl rfl, (fun _ => by simp [hf]), (fun fp h => by cases h)⟩
        · refine ⟨'.' :: r.takeWhile isDigit, ?_, Or.inr ⟨_, rfl, fun _ => mem_takeWhile_imp⟩, (fun h => by cases h), ?_⟩
          · rw [hf, hr]; simp [List.takeWhile_append_dropWhile]
          · intro fp hfp; injection hfp with _ hfp; rw [hf]; exact hfp
      obtain ⟨dotfp, hd1, hd2, hd3, hd4⟩ := hfrac
      generalize hT2 : (fracOf t1).2 = t2 at *
      have hexp : ∃ ex, t2 = ex ++ rest ∧ (ex = [] ∨ ∃ (c : Char) (sg ed : Str), ex = c :: (sg ++ ed) ∧ (c = 'e' ∨ c = 'E') ∧
          (sg = [] ∨ sg = ['-'] ∨ sg = ['+']) ∧ ed ≠ [] ∧ ∀ d ∈ ed, isDigit d = true) := by
        rcases expOf_spec t2 with he | ⟨c, r, hr, hc, hne', he⟩
        · refine ⟨[], ?_, Or.inl rfl⟩
          have : t2 = rest := by rw [he] at hrest; exact hrest
          simpa using this
        · obtain ⟨sg, hsg, hsr⟩ := signOf_spec r
          refine ⟨c :: (sg ++ (signOf r).2.takeWhile isDigit), ?_, Or.inr ⟨c, sg, _, rfl, hc, hsg, hne', fun _ => mem_takeWhile_imp⟩⟩
          rw [he] at hrest
          rw [hr, ← hrest]
          conv => lhs; rw [hsr]
          have := (List.takeWhile_append_dropWhile (p := isDigit) (l := (signOf r).2)).symm
          conv => lhs; rw [this]
          simp [List.append_assoc]
      obtain ⟨ex, he1, he2⟩ := hexp
      refine ⟨s.takeWhile isSpace, sign, t.takeWhile isDigit, dotfp, ex, rest, fun _ => mem_takeWhile_imp, hsign, fun _ => mem_takeWhile_imp, hd2, ?_, he2, hws2, ?_⟩
      · by_cases hip : t.takeWhile isDigit = []
        · right
          rcases hd2 with hd | ⟨fp, hfp, _⟩
          · have := hd3 hd
            rw [hip, this] at hne
            exact absurd rfl hne
          · refine ⟨fp, hfp, ?_⟩
            intro hfp0
            have := hd4 fp hfp
            rw [hip, this, hfp0] at hne
            exact absurd rfl hne
        · left; exact hip
      · conv => lhs; rw [h1, ht, h2, hd1, he1]
        simp [List.append_assoc]

theorem space_not_special {c : Char} (h : isSpace c = true) : isDigit c = false ∧ c ≠ '.' ∧ c ≠ 'e' ∧ c ≠ 'E' ∧ c ≠ '-' ∧ c ≠ '+' := by
  refine ⟨not_digit_of_space h, ?_, ?_, ?_, ?_, ?_⟩ <;> (intro e; subst e; simp [isSpace] at h)

/-- the exponent part (possibly absent) followed by blanks -/
def ExpPart (ex : Str) : Prop :=
  ex = [] ∨ ∃ (c : Char) (sg ed : Str), ex = c :: (sg ++ ed) ∧ (c = 'e' ∨ c = 'E') ∧ (sg = [] ∨ sg = ['-'] ∨ sg = ['+']) ∧
    ed ≠ [] ∧ ∀ d ∈ ed, isDigit d = true

theorem exp_tail_head {ex ws2 : Str} (hex : ExpPart ex) (hw2 : ∀ c ∈ ws2, isSpace c = true) :
    ∀ c, (ex ++ ws2).head? = some c → isDigit c = false ∧ c ≠ '.' := by
  intro c hc
  rcases hex with rfl | ⟨c', sg, ed, rfl, hc', _, _, _⟩
  · cases ws2 with
    | nil => simp at hc
    | cons x xs =>
      have : c = x := by simpa using hc.symm
      subst this
      have := space_not_special (hw2 c List.mem_cons_self)
      exact ⟨this.1, this.2.1⟩
  · have : c = c' := by simpa using hc.symm
    subst this
    rcases hc' with rfl | rfl <;> exact ⟨by decide, by decide⟩

theorem expOf_part {ex ws2 : Str} (hex : ExpPart ex) (hw2 : ∀ c ∈ ws2, isSpace c = true) : (expOf (ex ++ ws2)).2 = ws2 := by
  rcases hex with rfl | ⟨c, sg, ed, rfl, hc, hsg, hne, hed⟩
  · rw [List.nil_append, expOf_none]
    intro c hc
    cases ws2 with
    | nil => simp at hc
    | cons x xs =>
      have : c = x := by simpa using hc.symm
      subst this
      have := space_not_special (hw2 c List.mem_cons_self)
      exact ⟨this.2.2.1, this.2.2.2.1⟩
  · have hce : (c == 'e' || c == 'E') = true := by rcases hc with rfl | rfl <;> decide
    have htw := takeWhile_digits' ed ws2 hed (fun x hx => by
      cases ws2 with
      | nil => simp at hx
      | cons y ys =>
        have : x = y := by simpa using hx.symm
        subst this
        exact not_digit_of_space (hw2 x List.mem_cons_self))
    obtain ⟨d, ed', rfl⟩ := List.exists_cons_of_ne_nil hne
    have hd := hed d List.mem_cons_self
    have hsign : (signOf (sg ++ (d :: ed') ++ ws2)).2 = (d :: ed') ++ ws2 := by
      rcases hsg with rfl | rfl | rfl
      · simp only [List.nil_append, List.cons_append]; rw [signOf_digit _ hd]
      · rfl
      · rfl
    have e1 : c :: (sg ++ d :: ed') ++ ws2 = c :: (sg ++ (d :: ed') ++ ws2) := by simp
    rw [e1]
    simp only [expOf, hce, ↓reduceIte, hsign, htw.1, htw.2, List.isEmpty_cons, Bool.false_eq_true]

theorem isReal_complete (s : Str) (h : RealSyntax s) : isReal s = true := by
  obtain ⟨ws1, sign, ip, dotfp, ex, ws2, hw1, hsign, hip, hdot, hdig, hex, hw2, rfl⟩ := h
  have hexp : ExpPart ex := hex
  obtain ⟨dot, fp, rfl, hfp, hnodot, hdig'⟩ : ∃ (dot : Bool) (fp : Str), dotfp = (if dot then '.' :: fp else []) ∧
      (∀ d ∈ fp, isDigit d = true) ∧ (dot = false → fp = []) ∧ (ip ≠ [] ∨ fp ≠ []) := by
    rcases hdot with rfl | ⟨fp, rfl, hfp⟩
    · exact ⟨false, [], rfl, by simp, fun _ => rfl, hdig.imp id fun ⟨_, h, _⟩ => (nomatch h)⟩
    · exact ⟨true, fp, rfl, hfp, fun h => (nomatch h), hdig.imp id fun ⟨fp', h, hne⟩ => by injection h with _ h; rwa [h]⟩
  have := strtod_parts hw1 hsign hip hfp hdig' hnodot (exp_tail_head hexp hw2)
  unfold isReal
  rw [List.append_assoc _ ex ws2, this, expOf_part hexp hw2]
  exact List.all_eq_true.mpr hw2

theorem isReal_iff (s : Str) : isReal s = true ↔ RealSyntax s := ⟨isReal_sound s, isReal_complete s⟩

end EaselModel.Getopts
