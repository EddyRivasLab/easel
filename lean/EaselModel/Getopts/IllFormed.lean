import EaselModel.Getopts.Lemmas
/-! # C14 — option tables that are NOT well formed

`esl_getopts_Create` checks two things only: every name starts with `-`, and every non-NULL default passes its own
type/range check.  Everything else that can be wrong with a table (duplicate names, option lists naming unknown
options, a range on a string option, an unknown type code with a NULL default) is found when it is first used and
reported as `eslEINVAL` (`ESL_EXCEPTION`) or — for type problems met inside `set_option` — as `eslESYNTAX` without
a message.  No hypothesis on the table anywhere in this file. -/
namespace EaselModel.Getopts

def defaultVal (o : Opt) : Val := match o.defval with | some d => .str d | none => .null

theorem verify_default_never_faults (o : Opt) : verifyTypeRange o o.defval byDefault ≠ .fault :=
  fun h => (verify_fault_only o _ _ h).2.2 rfl

theorem createLoop_eq_all (opts : List Opt) :
    createLoop opts = opts.all (fun o => verifyTypeRange o o.defval byDefault == .good) := by
  induction opts with
  | nil => rfl
  | cons o os ih => simp [createLoop, ih]

/-- **`esl_getopts_Create` on any table whatsoever**: it returns NULL (`eslEINVAL`) exactly when some name does not
    start with `-` or some default fails its own type/range check (wrong type, out of range, two characters for a
    character option, malformed range string, a range on a string option, unknown type code); otherwise it returns
    the object with every option at its default, no file processed, no spoofed command line.  It has no other outcome
    (the model's `create` cannot crash: `verify_default_never_faults`). -/
theorem create_any_table (opts : List Opt) :
    (create opts = none ↔ (∃ o ∈ opts, o.name.head? ≠ some '-') ∨ (∃ o ∈ opts, verifyTypeRange o o.defval byDefault ≠ .good)) ∧
    (∀ g, create opts = some g → g.opts = opts ∧ g.val = opts.map defaultVal ∧ g.setby = opts.map (fun _ => byDefault) ∧
      g.nfiles = 0 ∧ g.spoofed = false ∧ g.optind = 1 ∧ g.argv = []) := by
  constructor
  · unfold create
    rw [createLoop_eq_all]
    by_cases h1 : (opts.all fun o => o.name.head? == some '-') = true
    · by_cases h2 : (opts.all fun o => verifyTypeRange o o.defval byDefault == .good) = true
      · simp only [h1, h2, Bool.and_self, ↓reduceIte]
        simp only [List.all_eq_true, beq_iff_eq] at h1 h2
        constructor
        · intro h; cases h
        · intro h
          rcases h with ⟨o, ho, hn⟩ | ⟨o, ho, hn⟩
          · exact absurd (h1 o ho) hn
          · exact absurd (h2 o ho) hn
      · simp only [h1, h2, Bool.and_false, Bool.false_eq_true, ↓reduceIte, true_iff]
        right
        obtain ⟨o, ho, hn⟩ := List.all_eq_false.mp (Bool.eq_false_iff.mpr h2)
        exact ⟨o, ho, by simpa using hn⟩
    · simp only [h1, Bool.false_and, Bool.false_eq_true, ↓reduceIte, true_iff]
      left
      obtain ⟨o, ho, hn⟩ := List.all_eq_false.mp (Bool.eq_false_iff.mpr h1)
      exact ⟨o, ho, by simpa using hn⟩
  · intro g h
    unfold create at h
    split at h
    · simp at h; subst h; exact ⟨rfl, rfl, rfl, rfl, rfl, rfl, rfl⟩
    · cases h

/-- duplicate names, unknown names in option lists, ranges on string options with NULL default are NOT seen by
    `Create`: such a table is accepted -/
theorem create_accepts_unchecked_defects (opts : List Opt) (h1 : ∀ o ∈ opts, o.name.head? = some '-')
    (h2 : ∀ o ∈ opts, o.defval = none) : (create opts).isSome = true := by
  cases hc : create opts with
  | some g => rfl
  | none =>
    rcases (create_any_table opts).1.mp hc with ⟨o, ho, hn⟩ | ⟨o, ho, hn⟩
    · exact absurd (h1 o ho) hn
    · exfalso; apply hn; unfold verifyTypeRange; simp [h2 o ho, byDefault]

/-- an option list (toggle, required, incompatible) naming an unknown option is reported as `eslEINVAL` when the list
    is walked — by `set_option` … -/
theorem unknown_toggle_name_is_einval (g : G) (i src : Nat) (e : Str) (es : List Str) (h : optlistResolve g.opts e = none) :
    toggleLoop g i src (e :: es) = .done g .einval false := by
  simp [toggleLoop, h]

/-- … and by `esl_opt_VerifyConfig` -/
theorem unknown_required_name_is_einval (g : G) (e : Str) (es : List Str) (h : optlistResolve g.opts e = none) :
    reqLoop g (e :: es) = some (.einval, false) ∧ ∀ i, incLoop g i (e :: es) = some (.einval, false) := by
  simp [reqLoop, incLoop, h]

/-- on any table, `set_option` can crash in one situation only: a character option given no argument by a source
    other than the defaults (`strlen(NULL)`) — which no source does (command line and environment always pass a
    string, the config-file reader refuses the line since fix 8d4fde4) -/
theorem set_option_any_table_no_fault (g : G) (i : Nat) (arg : Option Str) (src : Nat) (h : arg.isSome ∨ (g.opt i).type ≠ 3) :
    setOption g i arg src ≠ .fault := by
  intro hf
  have out := setOption_out g i arg src
  rw [hf] at out
  cases out with
  | fault _ hv => exact verifyTypeRange_nofault h hv

end EaselModel.Getopts
