import EaselModel.Getopts.AllocLemmas
import EaselModel.Getopts.Histories
/-! The erasure `GC.abs` over whole histories: a config-file text without NUL yields only NUL-free arguments (`cfgArgsOk_of_text`: every
character of a token is one of the text), so each source, and by induction every list of sources, commutes with the erasure and keeps
`InvC` (`applySrcC_abs`, `runAllC_abs`); `setOptionC_ok_valloc`: what `valloc[i]` is after a successful `set_option`. -/
namespace EaselModel.Getopts

theorem strtok_mem (s delim : Str) (ch : Char) :
    (ch ∈ (strtok s delim).1.getD [] ∨ ch ∈ (strtok s delim).2) → ch ∈ s := by
  unfold strtok
  simp only
  have hd : ∀ x, x ∈ s.dropWhile (fun c => delim.contains c) → x ∈ s := fun x hx => (List.dropWhile_sublist _).subset hx
  cases ht : s.dropWhile (fun c => delim.contains c) with
  | nil => simp
  | cons a t =>
    simp only
    rw [ht] at hd
    cases ht2 : (a :: t).dropWhile (fun c => !delim.contains c) with
    | nil =>
      simp only [Option.getD_some, List.not_mem_nil, or_false]
      intro h; exact hd _ ((List.takeWhile_sublist _).subset h)
    | cons b r =>
      simp only [Option.getD_some]
      intro h
      rcases h with h | h
      · exact hd _ ((List.takeWhile_sublist _).subset h)
      · have : ch ∈ (a :: t).dropWhile (fun c => !delim.contains c) := by rw [ht2]; exact List.mem_cons_of_mem _ h
        exact hd _ ((List.dropWhile_sublist _).subset this)

theorem cfgTokens_arg_mem (line : Str) (a : Str) (h : (cfgTokens line).2.1 = some a) : ∀ ch ∈ a, ch ∈ line := by
  intro ch hch
  unfold cfgTokens at h
  simp only at h
  have h1 := strtok_mem line wsDelim
  by_cases hq : ((strtok line wsDelim).2.head? == some '"') = true
  · simp only [hq, ↓reduceIte] at h
    have h2 := strtok_mem (strtok line wsDelim).2 ['"'] ch (Or.inl (by rw [h]; exact hch))
    exact h1 ch (Or.inr h2)
  · simp only [hq, Bool.false_eq_true, ↓reduceIte] at h
    have h2 := strtok_mem (strtok line wsDelim).2 wsDelim ch (Or.inl (by rw [h]; exact hch))
    exact h1 ch (Or.inr h2)

theorem cfgItem_arg_mem (opts : List Opt) (line : Str) (i : Nat) (a : Str) (h : cfgItem opts line = some (.set i (some a))) :
    ∀ ch ∈ a, ch ∈ line := by
  obtain ⟨_, _, harg, _, _⟩ := cfgItem_set h
  exact cfgTokens_arg_mem line a harg

theorem fileLinesAux_mem : ∀ (r acc : Str) (l : Str), l ∈ fileLinesAux r acc → ∀ ch ∈ l, ch ∈ r ∨ ch ∈ acc := by
  intro r
  induction r with
  | nil =>
    intro acc l hl ch hch
    unfold fileLinesAux at hl
    split at hl
    · cases hl
    · simp at hl; subst hl; right; exact List.mem_reverse.mp hch
  | cons c r ih =>
    intro acc l hl ch hch
    unfold fileLinesAux at hl
    split at hl
    · rcases List.mem_cons.mp hl with h | h
      · subst h
        have : ch ∈ c :: acc := List.mem_reverse.mp hch
        rcases List.mem_cons.mp this with h | h
        · left; rw [h]; exact List.mem_cons_self
        · right; exact h
      · rcases ih [] l h ch hch with h | h
        · left; exact List.mem_cons_of_mem _ h
        · cases h
    · rcases ih (c :: acc) l hl ch hch with h | h
      · left; exact List.mem_cons_of_mem _ h
      · rcases List.mem_cons.mp h with h | h
        · left; rw [h]; exact List.mem_cons_self
        · right; exact h

theorem cfgArgsOk_of_text (opts : List Opt) (content : Str) (h : NulFree content) :
    CfgArgsOk ((fileLines content).filterMap (cfgItem opts)) := by
  intro i a hm
  obtain ⟨line, hl, hit⟩ := List.mem_filterMap.mp hm
  intro ch hch
  have h1 := cfgItem_arg_mem opts line i a hit ch hch
  rcases fileLinesAux_mem content [] line hl ch h1 with h2 | h2
  · exact h ch h2
  · cases h2


def applySrcC (c : GC) : Src → RC
  | .cmdline argv => processCmdlineC c argv
  | .spoof s => processSpoofC c s
  | .env e => processEnvironmentC c e
  | .cfg t => processConfigfileC c t

def runAllC : GC → List Src → Option (List (Status × Bool) × GC)
  | c, [] => some ([], c)
  | c, s :: ss =>
    match applySrcC c s with
    | .fault => none
    | .done c' st m => (runAllC c' ss).map (fun r => ((st, m) :: r.1, r.2))

/-- config files are texts (a NUL byte would end the line for the C code; the model's strings have none) -/
def SrcText : Src → Prop
  | .cfg t => NulFree t
  | _ => True

theorem applySrcC_abs {c : GC} (h : InvC c) (s : Src) (hs : SrcText s) :
    (applySrcC c s).abs = applySrc c.abs s ∧ (applySrcC c s).Inv := by
  cases s with
  | cmdline argv => exact processCmdlineC_abs h argv
  | spoof t => exact processSpoofC_abs h t
  | env e => exact processEnvironmentC_abs h e
  | cfg t => exact processConfigfileC_abs h t (cfgArgsOk_of_text c.opts t hs)

/-- **erasure commutes with every history**: any sequence of sources run on the byte-level object gives the same
    statuses and — after erasing the allocation layer — the same object as the abstract model; the allocation invariant
    holds afterwards -/
theorem runAllC_abs : ∀ (ss : List Src) (c : GC), InvC c → (∀ s ∈ ss, SrcText s) →
    (runAllC c ss).map (fun r => (r.1, r.2.abs)) = runAll c.abs ss ∧
    ∀ outs c', runAllC c ss = some (outs, c') → InvC c' := by
  intro ss
  induction ss with
  | nil =>
    intro c h _
    refine ⟨rfl, ?_⟩
    intro outs c' hr; simp [runAllC] at hr; rw [← hr.2]; exact h
  | cons s ss ih =>
    intro c h htxt
    obtain ⟨ha, hi⟩ := applySrcC_abs h s (htxt s List.mem_cons_self)
    unfold runAllC runAll
    rw [← ha]
    cases hs : applySrcC c s with
    | fault => exact ⟨rfl, by intro outs c' hr; cases hr⟩
    | done c1 st m =>
      rw [hs] at hi
      obtain ⟨ih1, ih2⟩ := ih c1 hi (fun s' hs' => htxt s' (List.mem_cons_of_mem _ hs'))
      simp only [RC.abs]
      refine ⟨?_, ?_⟩
      · rw [← ih1]; cases runAllC c1 ss <;> rfl
      · intro outs c' hr
        cases hr2 : runAllC c1 ss with
        | none => rw [hr2] at hr; cases hr
        | some r =>
          rw [hr2] at hr
          simp at hr
          exact ih2 r.1 r.2 (by rw [hr2]) |> fun x => by rw [← hr.2]; exact x

theorem toggleLoopC_self {i src : Nat} : ∀ (es : List Str) (c c' : GC) (st : Status) (m : Bool),
    toggleLoopC c i src es = .done c' st m →
    c'.vallocOf i = c.vallocOf i ∧ c'.valOf i = c.valOf i := by
  intro es
  induction es with
  | nil => intro c c' st m h; simp [toggleLoopC] at h; rw [← h.1]; exact ⟨rfl, rfl⟩
  | cons e es ih =>
    intro c c' st m h
    unfold toggleLoopC at h
    split at h
    · simp at h; rw [← h.1]; exact ⟨rfl, rfl⟩
    · rename_i t _
      split at h
      · exact ih _ _ _ _ h
      · rename_i hti
        split at h
        · exact ih _ _ _ _ h
        · split at h
          · simp at h; rw [← h.1]; exact ⟨rfl, rfl⟩
          · obtain ⟨a, b⟩ := ih _ _ _ _ h
            have hne : ¬ (t = i ∧ t < c.valloc.length) := fun hh => hti (by simp [hh.1])
            have hne' : ¬ (t = i ∧ t < c.val.length) := fun hh => hti (by simp [hh.1])
            refine ⟨a.trans ?_, b.trans ?_⟩
            · simp only [GC.freeAndPoint, GC.vallocOf, getD_set]; rw [if_neg hne]
            · simp only [GC.freeAndPoint, GC.valOf, getD_set]; rw [if_neg hne']

/-- `g->valloc[i]` after a successful `set_option`: a config-file argument leaves `max(old, strlen+1)` — the block
    is reused when large enough and grown otherwise, never shrunk; every other way of setting frees the block -/
theorem setOptionC_ok_valloc {c c' : GC} (hinv : InvC c) {i : Nat} (hi : i < c.val.length) {arg : Option Str} {src : Nat} {da : Bool}
    {st : Status} {m : Bool} (hnf : da = true → ∀ a, arg = some a → NulFree a)
    (h : setOptionC c i arg src da = .done c' st m) (hgood : verifyTypeRange (c.opt i) arg src = .good) (hs : c.setter i ≠ src) :
    c'.vallocOf i = storeValloc (c.opt i) (c.vallocOf i) arg da := by
  unfold setOptionC at h
  have hs' : (c.setter i == src) = false := by simp [hs]
  simp only [hs', Bool.false_eq_true, ↓reduceIte, hgood] at h
  obtain ⟨c1, h1, _, _, _, _, hv⟩ := storeC_spec (hinv.withSetby (c.setby.set i src)) i arg da hnf
  rw [h1] at h
  simp only at h
  obtain ⟨a, _⟩ := toggleLoopC_self _ _ _ _ _ h
  rw [a]
  exact hv hi

end EaselModel.Getopts
