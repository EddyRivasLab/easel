import EaselModel.Getopts.Round
import Mathlib.Tactic.Ring
/-! `roundDiv` (nearest, ties to even) is within half a unit, exact on multiples and monotone in the fraction; `toDbl` is `roundDiv` on the
grid of the floor's binade (`toDbl_val`, `gridRound`), hence exact on fractions that are doubles (`toDbl_exact`) and monotone across binades
(`toDbl_mono`); the order test on rounded values (`dblLe`) is monotone in either argument. -/
namespace EaselModel.Getopts

theorem roundDiv_cases (n d : Nat) :
    (roundDiv n d = n / d ∧ (2 * (n % d) < d ∨ (2 * (n % d) = d ∧ (n / d) % 2 = 0))) ∨
    (roundDiv n d = n / d + 1 ∧ (d < 2 * (n % d) ∨ (2 * (n % d) = d ∧ (n / d) % 2 = 1))) := by
  unfold roundDiv
  simp only
  by_cases h1 : 2 * (n % d) < d
  · simp [h1]
  · by_cases h2 : d < 2 * (n % d)
    · simp [h1, h2]
    · have h3 : 2 * (n % d) = d := by omega
      simp only [h1, h2, ↓reduceIte]
      by_cases h4 : (n / d) % 2 = 0
      · simp [h4, h3]
      · have : (n / d) % 2 = 1 := by omega
        simp [this, h3]

theorem div_le_roundDiv (n d : Nat) : n / d ≤ roundDiv n d := by
  rcases roundDiv_cases n d with ⟨e, _⟩ | ⟨e, _⟩ <;> omega
theorem roundDiv_le_succ (n d : Nat) : roundDiv n d ≤ n / d + 1 := by
  rcases roundDiv_cases n d with ⟨e, _⟩ | ⟨e, _⟩ <;> omega

theorem roundDiv_nearest (n d : Nat) (hd : 0 < d) :
    2 * n ≤ 2 * (roundDiv n d * d) + d ∧ 2 * (roundDiv n d * d) ≤ 2 * n + d := by
  have h := Nat.div_add_mod n d
  have hr := Nat.mod_lt n hd
  have hc : n / d * d = d * (n / d) := Nat.mul_comm _ _
  have hs : (n / d + 1) * d = d * (n / d) + d := by rw [Nat.succ_mul, hc]
  rcases roundDiv_cases n d with ⟨e, c⟩ | ⟨e, c⟩
  · rw [e, hc]; omega
  · rw [e, hs]; omega

theorem roundDiv_mul (q d : Nat) (hd : 0 < d) : roundDiv (q * d) d = q := by
  unfold roundDiv
  simp [Nat.mul_div_cancel q hd, hd]

theorem roundDiv_mono (n n' d : Nat) (hd : 0 < d) (h : n ≤ n') : roundDiv n d ≤ roundDiv n' d := by
  have hq : n / d ≤ n' / d := Nat.div_le_div_right h
  have e1 := Nat.div_add_mod n d
  have e2 := Nat.div_add_mod n' d
  have hr := Nat.mod_lt n hd
  have hr' := Nat.mod_lt n' hd
  rcases Nat.lt_or_eq_of_le hq with hlt | heq
  · exact Nat.le_trans (roundDiv_le_succ n d) (Nat.le_trans hlt (div_le_roundDiv n' d))
  · have hrr : n % d ≤ n' % d := by
      rw [heq] at e1
      omega
    rcases roundDiv_cases n d with ⟨e, c⟩ | ⟨e, c⟩ <;> rcases roundDiv_cases n' d with ⟨e', c'⟩ | ⟨e', c'⟩ <;> omega

theorem roundDiv_scale (n d c : Nat) (hc : 0 < c) : roundDiv (n * c) (d * c) = roundDiv n d := by
  have e1 : n * c / (d * c) = n / d := Nat.mul_div_mul_right n d hc
  have e2 : n * c % (d * c) = (n % d) * c := Nat.mul_mod_mul_right c n d
  have k1 : (2 * (n % d * c) < d * c) ↔ (2 * (n % d) < d) := by rw [← Nat.mul_assoc]; exact Nat.mul_lt_mul_right hc
  have k2 : (d * c < 2 * (n % d * c)) ↔ (d < 2 * (n % d)) := by rw [← Nat.mul_assoc]; exact Nat.mul_lt_mul_right hc
  unfold roundDiv
  simp only [e1, e2, k1, k2]

theorem roundDiv_mono_frac (n d n' d' : Nat) (hd : 0 < d) (hd' : 0 < d') (h : n * d' ≤ n' * d) :
    roundDiv n d ≤ roundDiv n' d' := by
  rw [← roundDiv_scale n d d' hd', ← roundDiv_scale n' d' d hd, Nat.mul_comm d' d]
  exact roundDiv_mono _ _ _ (Nat.mul_pos hd hd') h

theorem log2_mono {a b : Nat} (h : a ≤ b) : a.log2 ≤ b.log2 := by
  by_cases ha : a = 0
  · subst ha; have : Nat.log2 0 = 0 := by decide
    rw [this]; exact Nat.zero_le _
  · have hb : b ≠ 0 := by omega
    have h1 : a < 2 ^ (b.log2 + 1) := Nat.lt_of_le_of_lt h Nat.lt_log2_self
    have := (Nat.log2_lt ha).mpr h1
    omega

theorem floor_mono (A D A' D' : Nat) (hD : 0 < D) (hD' : 0 < D') (h : A * D' ≤ A' * D) : A / D ≤ A' / D' := by
  rw [Nat.le_div_iff_mul_le hD']
  have h1 : A / D * D ≤ A := Nat.div_mul_le_self A D
  have h2 : A / D * D' * D ≤ A' * D := by
    calc A / D * D' * D = A / D * D * D' := by ring
      _ ≤ A * D' := Nat.mul_le_mul_right _ h1
      _ ≤ A' * D := h
  exact Nat.le_of_mul_le_mul_right h2 hD

/-! The conversion, stated for a variable `A` in place of the scaled numerator `N · 2^SCALE` (goals that contain the
    literal power are slow to check).  A floor `t = A/D` is rounded on the grid of step `2^s`, `s = binadeShift t`:
    53 significant bits, but no finer than `2^52`. -/

def binadeShift (t : Nat) : Nat := max (t.log2 - 52) 52

def gridRound (A D : Nat) : Nat := roundDiv A (D * 2 ^ binadeShift (A / D)) * 2 ^ binadeShift (A / D)

theorem toDbl_val (N D : Nat) : (toDbl N D).1 * 2 ^ (toDbl N D).2 = gridRound (N * 2 ^ SCALE) D := by
  simp only [toDbl, shiftOf, gridRound, binadeShift]

theorem binadeShift_ge (t : Nat) : 52 ≤ binadeShift t := Nat.le_max_right _ _

theorem binadeShift_mono {t t' : Nat} (h : t ≤ t') : binadeShift t ≤ binadeShift t' := by
  have : t.log2 ≤ t'.log2 := log2_mono h
  unfold binadeShift
  omega

theorem lt_pow_binadeShift (t : Nat) : t < 2 ^ (53 + binadeShift t) :=
  Nat.lt_of_lt_of_le Nat.lt_log2_self (Nat.pow_le_pow_right (by decide) (by unfold binadeShift; omega))

theorem pow_binadeShift_le {t : Nat} (h : 52 < binadeShift t) : 2 ^ (52 + binadeShift t) ≤ t := by
  have hl : 52 + binadeShift t = t.log2 := by unfold binadeShift at h ⊢; omega
  have hne : t ≠ 0 := by
    rintro rfl
    have : Nat.log2 0 = 0 := by decide
    omega
  rw [hl]
  exact Nat.log2_self_le hne

theorem binadeShift_le {q s : Nat} (hq : q < 2 ^ 53) (hs : 52 ≤ s) : binadeShift (q * 2 ^ s) ≤ s := by
  have h : q * 2 ^ s < 2 ^ (53 + s) := by
    rw [Nat.pow_add]; exact Nat.mul_lt_mul_of_lt_of_le hq (Nat.le_refl _) (Nat.two_pow_pos _)
  have : (q * 2 ^ s).log2 < 53 + s ∨ (q * 2 ^ s).log2 = 0 := by
    by_cases hz : q * 2 ^ s = 0
    · right; rw [hz]; decide
    · left; exact (Nat.log2_lt hz).mpr h
  unfold binadeShift
  omega

/-- the significand of a floor below `2^(53+s)` is at most `2^53` (reached by a carry) -/
theorem roundDiv_le_of_lt {A D s : Nat} (h : A / D < 2 ^ (53 + s)) : roundDiv A (D * 2 ^ s) ≤ 2 ^ 53 := by
  have : A / (D * 2 ^ s) < 2 ^ 53 := by
    rw [← Nat.div_div_eq_div_mul, Nat.div_lt_iff_lt_mul (Nat.two_pow_pos _), ← Nat.pow_add]
    exact h
  have := roundDiv_le_succ A (D * 2 ^ s)
  omega

theorem le_roundDiv_of_le {A D s : Nat} (h : 2 ^ (52 + s) ≤ A / D) : 2 ^ 52 ≤ roundDiv A (D * 2 ^ s) := by
  have : 2 ^ 52 ≤ A / (D * 2 ^ s) := by
    rw [← Nat.div_div_eq_div_mul, Nat.le_div_iff_mul_le (Nat.two_pow_pos _), ← Nat.pow_add]
    exact h
  exact Nat.le_trans this (div_le_roundDiv _ _)

theorem gridRound_exact {A D q s : Nat} (hD : 0 < D) (hq : q < 2 ^ 53) (hs : 52 ≤ s) (h : A = q * 2 ^ s * D) :
    gridRound A D = q * 2 ^ s := by
  have ht : A / D = q * 2 ^ s := by rw [h]; exact Nat.mul_div_cancel _ hD
  unfold gridRound
  rw [ht]
  have hsh := binadeShift_le hq hs
  generalize binadeShift (q * 2 ^ s) = e at hsh
  obtain ⟨j, rfl⟩ : ∃ j, s = e + j := ⟨s - e, by omega⟩
  have hA : A = q * 2 ^ j * (D * 2 ^ e) := by rw [h, Nat.pow_add]; ring
  rw [hA, roundDiv_mul _ _ (Nat.mul_pos hD (Nat.two_pow_pos _)), Nat.pow_add]
  ring

theorem gridRound_mono {A D A' D' : Nat} (hD : 0 < D) (hD' : 0 < D') (h : A * D' ≤ A' * D) :
    gridRound A D ≤ gridRound A' D' := by
  have hs := binadeShift_mono (floor_mono A D A' D' hD hD' h)
  unfold gridRound
  rcases Nat.lt_or_eq_of_le hs with hlt | heq
  · -- different grids: the smaller result is at most 2^(53+s), the larger at least 2^(52+s')
    have hq := roundDiv_le_of_lt (lt_pow_binadeShift (A / D))
    have hq' := le_roundDiv_of_le (pow_binadeShift_le (Nat.lt_of_le_of_lt (binadeShift_ge _) hlt))
    generalize binadeShift (A / D) = e at *
    generalize binadeShift (A' / D') = e' at *
    calc roundDiv A (D * 2 ^ e) * 2 ^ e
        ≤ 2 ^ 53 * 2 ^ e := Nat.mul_le_mul_right _ hq
      _ = 2 ^ (53 + e) := (Nat.pow_add _ _ _).symm
      _ ≤ 2 ^ (52 + e') := Nat.pow_le_pow_right (by decide) (by omega)
      _ = 2 ^ 52 * 2 ^ e' := Nat.pow_add _ _ _
      _ ≤ roundDiv A' (D' * 2 ^ e') * 2 ^ e' := Nat.mul_le_mul_right _ hq'
  · -- one grid: rounding is monotone in the value
    rw [← heq]
    generalize binadeShift (A / D) = e
    apply Nat.mul_le_mul_right
    apply roundDiv_mono_frac _ _ _ _ (Nat.mul_pos hD (Nat.two_pow_pos _)) (Nat.mul_pos hD' (Nat.two_pow_pos _))
    calc A * (D' * 2 ^ e) = A * D' * 2 ^ e := (Nat.mul_assoc _ _ _).symm
      _ ≤ A' * D * 2 ^ e := Nat.mul_le_mul_right _ h
      _ = A' * (D * 2 ^ e) := Nat.mul_assoc _ _ _

theorem toDbl_exact (N D q0 s0 : Nat) (hD : 0 < D) (hq : q0 < 2 ^ 53) (hs : 52 ≤ s0) (h : N * 2 ^ SCALE = q0 * 2 ^ s0 * D) :
    (toDbl N D).1 * 2 ^ (toDbl N D).2 = q0 * 2 ^ s0 := by
  rw [toDbl_val]
  exact gridRound_exact hD hq hs h

theorem toDbl_mono (N D N' D' : Nat) (hD : 0 < D) (hD' : 0 < D') (h : N * D' ≤ N' * D) :
    (toDbl N D).1 * 2 ^ (toDbl N D).2 ≤ (toDbl N' D').1 * 2 ^ (toDbl N' D').2 := by
  rw [toDbl_val, toDbl_val]
  apply gridRound_mono hD hD'
  generalize 2 ^ SCALE = P
  calc N * P * D' = N * D' * P := by ring
    _ ≤ N' * D * P := Nat.mul_le_mul_right _ h
    _ = N' * P * D := by ring

/-- the value of the double for the non-negative fraction `N/D`, scaled by `2^1126` -/
def dblVal (f : Nat × Nat) : Nat := (toDbl f.1 f.2).1 * 2 ^ (toDbl f.1 f.2).2

/-- `lo <= x` as `verify_real_range` tests it: on the rounded doubles -/
def dblLe (a b : Nat × Nat) : Bool := dblVal a ≤ dblVal b

theorem dblLe_mono_right (lo x y : Nat × Nat) (hx : 0 < x.2) (hy : 0 < y.2) (hxy : x.1 * y.2 ≤ y.1 * x.2)
    (h : dblLe lo x = true) : dblLe lo y = true := by
  simp only [dblLe, decide_eq_true_eq] at h ⊢
  exact Nat.le_trans h (toDbl_mono x.1 x.2 y.1 y.2 hx hy hxy)

theorem dblLe_mono_left (hi x y : Nat × Nat) (hx : 0 < x.2) (hy : 0 < y.2) (hxy : x.1 * y.2 ≤ y.1 * x.2)
    (h : dblLe y hi = true) : dblLe x hi = true := by
  simp only [dblLe, decide_eq_true_eq] at h ⊢
  exact Nat.le_trans (toDbl_mono x.1 x.2 y.1 y.2 hx hy hxy) h

theorem dblLe_of_le (lo x : Nat × Nat) (hl : 0 < lo.2) (hx : 0 < x.2) (h : lo.1 * x.2 ≤ x.1 * lo.2) : dblLe lo x = true := by
  simp only [dblLe, decide_eq_true_eq]
  exact toDbl_mono lo.1 lo.2 x.1 x.2 hl hx h

end EaselModel.Getopts
