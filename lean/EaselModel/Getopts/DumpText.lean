import EaselModel.Getopts.Help
/-! # C14 — `esl_getopts_Dump`: the configuration as a table (option, setting, who set it), after the argument list.
    Modelled line by line; compared byte for byte with the real output (`dumptext` op).  Core Lean only. -/
namespace EaselModel.Getopts

def natStr (n : Nat) : Str := (toString n).toList
/-- `%-12s` -/
def padRight (s : Str) (n : Nat) : Str := s ++ spaces (n - s.length)
/-- `%12s`, `%2d` -/
def padLeft (s : Str) (n : Nat) : Str := spaces (n - s.length) ++ s

/-- the last column: who set the option -/
def setterText (k : Nat) : Str :=
  if k == byDefault then "(default) ".toList
  else if k == byCmdline then "cmdline   ".toList
  else if k == byEnv then "environ   ".toList
  else "cfgfile   ".toList

/-- the middle column; `none` = the C code would print through a wild pointer (`(char*)1` as a string) -/
def settingText (g : G) (i : Nat) : Option Str :=
  if (g.opt i).type == 0 then some (if (g.valOf i).isNull then "off".toList else "on".toList)
  else match g.valOf i with
    | .str v => some v
    | .null => some "(null)".toList          -- glibc's rendering of `printf("%s", NULL)`
    | .one => none

def dumpOptLine (g : G) (i : Nat) : Option Str :=
  (settingText g i).map fun st => padRight (g.opt i).name 12 ++ [' '] ++ padRight st 12 ++ [' '] ++ setterText (g.setter i) ++ ['\n']

/-- the argument block: printed only once a command line has been processed (`g->argv != NULL`) -/
def dumpArgs (g : G) : Str :=
  match g.argv with
  | [] => []
  | a0 :: _ =>
    "argv[0]:                ".toList ++ a0 ++ ['\n'] ++
    ((List.range (g.argv.length - g.optind)).flatMap fun k =>
      "argument ".toList ++ padLeft (natStr (k + 1)) 2 ++ " (argv[".toList ++ padLeft (natStr (g.optind + k)) 2 ++ "]): ".toList ++
        g.argv.getD (g.optind + k) [] ++ ['\n']) ++ ['\n']

def dumpHeader : Str :=
  padLeft "Option".toList 12 ++ [' '] ++ padLeft "Setting".toList 12 ++ [' '] ++ padLeft "Set by".toList 9 ++ ['\n'] ++
  "------------ ------------ ---------\n".toList

/-- `esl_getopts_Dump(ofp, g)` -/
def dumpText (g : G) : Option Str :=
  let ls := (List.range g.opts.length).map (dumpOptLine g)
  if ls.all Option.isSome then some (dumpArgs g ++ dumpHeader ++ (ls.filterMap id).flatten) else none

theorem setterText_default_iff (k : Nat) : setterText k = "(default) ".toList ↔ k = byDefault := by
  unfold setterText
  constructor
  · intro h
    by_cases h0 : (k == byDefault) = true
    · simpa using h0
    · simp only [h0, Bool.false_eq_true, ↓reduceIte] at h
      split at h
      · exact absurd h (by decide)
      · split at h
        · exact absurd h (by decide)
        · exact absurd h (by decide)
  · intro h; subst h; rfl

theorem settingText_boolean (g : G) (i : Nat) (ht : (g.opt i).type = 0) :
    settingText g i = some (if isOn g i then "on".toList else "off".toList) := by
  unfold settingText isOn
  simp only [ht, beq_self_eq_true, ↓reduceIte]
  cases (g.valOf i).isNull <;> rfl

theorem settingText_isSome (g : G) (i : Nat) (h : (g.opt i).type ≠ 0 → g.valOf i ≠ .one) : (settingText g i).isSome = true := by
  unfold settingText
  split
  · rfl
  · rename_i ht
    cases hv : g.valOf i with
    | str v => rfl
    | null => rfl
    | one => exact absurd hv (h (by simpa using ht))

theorem dumpText_total (g : G) (hval : ∀ i, (g.opt i).type ≠ 0 → g.valOf i ≠ .one) : (dumpText g).isSome = true := by
  have : ((List.range g.opts.length).map (dumpOptLine g)).all Option.isSome = true := by
    rw [List.all_map, List.all_eq_true]
    intro i _
    simp only [Function.comp, dumpOptLine, Option.isSome_map, settingText_isSome g i (hval i)]
  unfold dumpText
  simp only [this, ↓reduceIte, Option.isSome_some]

end EaselModel.Getopts
