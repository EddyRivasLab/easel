import EaselModel.Getopts.Lemmas
/-! # C14 — the well-formedness hypothesis `WF` is decidable by a plain Boolean function (`wfB`), so it can be
    computed for concrete tables; the driver evaluates the stricter `wfStrictB` below (of which `wfB` is the first conjunct) on every
    generated table. Core Lean only. -/
namespace EaselModel.Getopts

def resolvesAll (opts : List Opt) (s : Option Str) : Bool :=
  (optlistElems s).all (fun e => (optlistResolve opts e).isSome)

def wfOptB (opts : List Opt) (o : Opt) : Bool :=
  decide (o.type ≤ 6) && (!isStringy o.type || o.range.isNone) &&
  resolvesAll opts o.toggle && resolvesAll opts o.required && resolvesAll opts o.incompat

def wfB (opts : List Opt) : Bool := opts.all (wfOptB opts)

theorem resolvesAll_iff (opts : List Opt) (s : Option Str) :
    resolvesAll opts s = true ↔ ∀ e ∈ optlistElems s, (optlistResolve opts e).isSome := by
  simp [resolvesAll, List.all_eq_true]

theorem wfOptB_iff (opts : List Opt) (o : Opt) : wfOptB opts o = true ↔ WFOpt opts o := by
  constructor
  · intro h
    simp only [wfOptB, Bool.and_eq_true, decide_eq_true_eq, Bool.or_eq_true, Bool.not_eq_true'] at h
    obtain ⟨⟨⟨⟨h1, h2⟩, h3⟩, h4⟩, h5⟩ := h
    refine ⟨h1, ?_, (resolvesAll_iff _ _).mp h3, (resolvesAll_iff _ _).mp h4, (resolvesAll_iff _ _).mp h5⟩
    intro hs
    rcases h2 with h2 | h2
    · rw [hs] at h2; cases h2
    · cases hr : o.range with
      | none => rfl
      | some _ => rw [hr] at h2; cases h2
  · intro h
    simp only [wfOptB, Bool.and_eq_true, decide_eq_true_eq, Bool.or_eq_true, Bool.not_eq_true']
    refine ⟨⟨⟨⟨h.type_le, ?_⟩, (resolvesAll_iff _ _).mpr h.tog⟩, (resolvesAll_iff _ _).mpr h.req⟩, (resolvesAll_iff _ _).mpr h.inc⟩
    cases hs : isStringy o.type with
    | false => left; rfl
    | true => right; rw [h.norange hs]; rfl

theorem wfB_iff (opts : List Opt) : wfB opts = true ↔ WF opts := by
  simp only [wfB, List.all_eq_true, WF]
  constructor
  · intro h o ho; exact (wfOptB_iff opts o).mp (h o ho)
  · intro h o ho; exact (wfOptB_iff opts o).mpr (h o ho)

/-- `-c` (one character, not `-`) or `--word` (no `=`, `,`, blank) -/
def nameShape (n : Str) : Bool :=
  match n with
  | ['-', c] => c != '-'
  | '-' :: '-' :: r => !r.isEmpty && r.all (fun c => c != '=' && c != ',' && !isSpace c)
  | _ => false

/-- every element of the list resolves to the option of exactly that name -/
def exactList (opts : List Opt) (s : Option Str) : Bool :=
  (optlistElems s).all fun e =>
    match optlistResolve opts e with
    | some j => (opts.getD j default).name == e
    | none => false

/-- toggle lists name only boolean / string options ("toggle-tying an integer, real-valued, or char option will
    result in undefined behavior") -/
def togglable (opts : List Opt) (s : Option Str) : Bool :=
  (optlistElems s).all fun e =>
    match optlistResolve opts e with
    | some j => (opts.getD j default).type == 0 || isStringy (opts.getD j default).type
    | none => false

def distinctNames : List Opt → Bool
  | [] => true
  | o :: os => !(os.any (fun p => p.name == o.name)) && distinctNames os

def wfStrictB (opts : List Opt) : Bool :=
  wfB opts && distinctNames opts && opts.all (fun o => nameShape o.name) &&
  opts.all (fun o => exactList opts o.toggle && exactList opts o.required && exactList opts o.incompat && togglable opts o.toggle) &&
  createLoop opts

theorem wfStrictB_wf {opts : List Opt} (h : wfStrictB opts = true) : WF opts := by
  simp only [wfStrictB, Bool.and_eq_true] at h
  exact (wfB_iff opts).mp h.1.1.1.1

end EaselModel.Getopts
