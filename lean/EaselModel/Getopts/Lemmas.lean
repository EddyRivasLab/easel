import EaselModel.Getopts.Model
/-! # C14 — what `set_option` and its toggle loop can answer, as two relations (`ToggleOut`, `SetOut`) proved once against the model
    functions (`toggleLoop_out`, `setOption_out`); the facts about `set_option` that the other files use are case splits on them.
    Before that the object invariant `Inv` and what `G.put` changes; after it well-formed tables (`WF`), `Good`, and that an abbreviation
    resolves to a row of the table (`optidxAbbrev_lt`, for `Stops.lean`).  Core Lean only. -/
namespace EaselModel.Getopts

/-- the shape invariant of an `ESL_GETOPTS` object: one value and one setter per option -/
structure Inv (g : G) : Prop where
  hv : g.val.length = g.opts.length
  hs : g.setby.length = g.opts.length

theorem Inv.congr {g g' : G} (h : Inv g) (ho : g'.opts = g.opts) (hv : g'.val = g.val) (hs : g'.setby = g.setby) : Inv g' :=
  ⟨by rw [hv, ho]; exact h.hv, by rw [hs, ho]; exact h.hs⟩

@[simp] theorem put_opts (g : G) (i : Nat) (v : Val) (s : Nat) : (g.put i v s).opts = g.opts := rfl
@[simp] theorem put_argv (g : G) (i : Nat) (v : Val) (s : Nat) : (g.put i v s).argv = g.argv := rfl
@[simp] theorem put_optind (g : G) (i : Nat) (v : Val) (s : Nat) : (g.put i v s).optind = g.optind := rfl
@[simp] theorem put_nfiles (g : G) (i : Nat) (v : Val) (s : Nat) : (g.put i v s).nfiles = g.nfiles := rfl
@[simp] theorem put_spoofed (g : G) (i : Nat) (v : Val) (s : Nat) : (g.put i v s).spoofed = g.spoofed := rfl
@[simp] theorem put_opt (g : G) (i : Nat) (v : Val) (s : Nat) (j : Nat) : (g.put i v s).opt j = g.opt j := rfl

theorem put_inv {g : G} (h : Inv g) (i : Nat) (v : Val) (s : Nat) : Inv (g.put i v s) :=
  ⟨by simp [G.put, h.hv], by simp [G.put, h.hs]⟩

theorem put_valOf_same {g : G} {i : Nat} (h : i < g.val.length) (v : Val) (s : Nat) : (g.put i v s).valOf i = v := by
  simp [G.put, G.valOf, List.getD_eq_getElem?_getD, List.getElem?_set_self h]

theorem put_setter_same {g : G} {i : Nat} (h : i < g.setby.length) (v : Val) (s : Nat) : (g.put i v s).setter i = s := by
  simp [G.put, G.setter, List.getD_eq_getElem?_getD, List.getElem?_set_self h]

theorem put_valOf_ne {g : G} {i j : Nat} (h : i ≠ j) (v : Val) (s : Nat) : (g.put i v s).valOf j = g.valOf j := by
  simp [G.put, G.valOf, List.getD_eq_getElem?_getD, List.getElem?_set_ne h]

theorem put_setter_ne {g : G} {i j : Nat} (h : i ≠ j) (v : Val) (s : Nat) : (g.put i v s).setter j = g.setter j := by
  simp [G.put, G.setter, List.getD_eq_getElem?_getD, List.getElem?_set_ne h]

theorem findIdx?_lt {α : Type} {p : α → Bool} {l : List α} {i : Nat} (h : l.findIdx? p = some i) : i < l.length :=
  (List.findIdx?_eq_some_iff_findIdx_eq.mp h).1

theorem optlistResolve_lt {opts : List Opt} {e : Str} {t : Nat} (h : optlistResolve opts e = some t) : t < opts.length :=
  findIdx?_lt h

/-- the indices a comma-separated option list denotes (elements that do not resolve are dropped; in a
    well-formed table every element resolves) -/
def listIdx (opts : List Opt) (s : Option Str) : List Nat := (optlistElems s).filterMap (optlistResolve opts)

/-- value and setter of option `j` after the toggle loop for option `i` over the indices `ts` -/
def toggleSpec (g : G) (i src : Nat) (ts : List Nat) (j : Nat) : Val × Nat :=
  if j ≠ i ∧ j ∈ ts ∧ (g.valOf j).isNull = false then (.null, src) else (g.valOf j, g.setter j)

/-- frame: what no `set_option` call touches -/
def SameFrame (g g' : G) : Prop :=
  g'.opts = g.opts ∧ g'.argv = g.argv ∧ g'.optind = g.optind ∧ g'.nfiles = g.nfiles ∧ g'.spoofed = g.spoofed

theorem SameFrame.opts {g g' : G} (h : SameFrame g g') : g'.opts = g.opts := h.1
theorem SameFrame.argv {g g' : G} (h : SameFrame g g') : g'.argv = g.argv := h.2.1
theorem SameFrame.nfiles {g g' : G} (h : SameFrame g g') : g'.nfiles = g.nfiles := h.2.2.2.1
theorem SameFrame.refl (g : G) : SameFrame g g := ⟨rfl, rfl, rfl, rfl, rfl⟩
theorem SameFrame.trans {a b c : G} (h1 : SameFrame a b) (h2 : SameFrame b c) : SameFrame a c :=
  ⟨h2.1.trans h1.1, h2.2.1.trans h1.2.1, h2.2.2.1.trans h1.2.2.1, h2.2.2.2.1.trans h1.2.2.2.1, h2.2.2.2.2.trans h1.2.2.2.2⟩
theorem put_sameFrame (g : G) (i : Nat) (v : Val) (s : Nat) : SameFrame g (g.put i v s) := ⟨rfl, rfl, rfl, rfl, rfl⟩

/-- a toggle conflict: another member of the toggle list is on and was set (or toggled) by this very source -/
def Conflict (g : G) (i src : Nat) (ts : List Nat) : Prop :=
  ∃ j ∈ ts, j ≠ i ∧ (g.valOf j).isNull = false ∧ g.setter j = src

theorem conflict_cons {g : G} {i src t : Nat} {ts : List Nat} :
    Conflict g i src (t :: ts) ↔ (t ≠ i ∧ (g.valOf t).isNull = false ∧ g.setter t = src) ∨ Conflict g i src ts := by
  simp [Conflict]

theorem valOf_on_lt {g : G} {t : Nat} (hon : (g.valOf t).isNull = false) : t < g.val.length := by
  refine Nat.lt_of_not_le fun h => ?_
  rw [G.valOf, List.getD_eq_getElem?_getD, List.getElem?_eq_none h] at hon
  cases hon

/-- switching off an option that another source had set neither makes nor removes a conflict -/
theorem conflict_put {g : G} {i src t : Nat} {ts : List Nat} (hon : (g.valOf t).isNull = false) (hs : g.setter t ≠ src) :
    Conflict (g.put t .null src) i src ts ↔ Conflict g i src ts := by
  refine exists_congr fun j => and_congr_right fun _ => and_congr_right fun _ => ?_
  by_cases hjt : t = j
  · subst hjt; rw [put_valOf_same (valOf_on_lt hon)]; simp [Val.isNull, hs]
  · rw [put_valOf_ne hjt, put_setter_ne hjt]

theorem toggleSpec_cons (g : G) (i src t : Nat) (ts : List Nat) (j : Nat) :
    toggleSpec g i src (t :: ts) j =
      if j = t ∧ t ≠ i ∧ (g.valOf t).isNull = false then (.null, src) else toggleSpec g i src ts j := by
  unfold toggleSpec
  by_cases hjt : j = t
  · subst hjt
    by_cases h : j ≠ i ∧ (g.valOf j).isNull = false
    · simp [h]
    · rw [if_neg (fun x => h ⟨x.1, x.2.2⟩), if_neg (fun x => h x.2), if_neg (fun x => h ⟨x.1, x.2.2⟩)]
  · simp [hjt]

/-- What the toggle loop of `set_option(i, …, src)` over the list `es` can answer when started in `g`.  Only the final values
    need `Inv g` (a `setby` shorter than `val` would swallow the setter's write); which answer comes does not. -/
inductive ToggleOut (g : G) (i src : Nat) (es : List Str) (g' : G) : Status → Bool → Prop
  | ok : (∀ e ∈ es, (optlistResolve g.opts e).isSome) → ¬ Conflict g i src (es.filterMap (optlistResolve g.opts)) →
      (Inv g → ∀ j, (g'.valOf j, g'.setter j) = toggleSpec g i src (es.filterMap (optlistResolve g.opts)) j) →
      ToggleOut g i src es g' .ok false
  | conflict : Conflict g i src (es.filterMap (optlistResolve g.opts)) → ToggleOut g i src es g' .esyntax true
  | unknown : (∃ e ∈ es, optlistResolve g.opts e = none) → ToggleOut g i src es g' .einval false

/-- an element that is option `i` itself, or an option that is off, is passed over -/
theorem ToggleOut.skip {g g' : G} {i src t : Nat} {e : Str} {es : List Str} {st : Status} {m : Bool}
    (hr : optlistResolve g.opts e = some t) (h : t = i ∨ (g.valOf t).isNull = true)
    (out : ToggleOut g i src es g' st m) : ToggleOut g i src (e :: es) g' st m := by
  have hno : ¬ (t ≠ i ∧ (g.valOf t).isNull = false) := by
    rintro ⟨h1, h2⟩; rcases h with h | h
    · exact h1 h
    · rw [h] at h2; cases h2
  cases out with
  | ok hres hc hsp =>
    refine .ok (List.forall_mem_cons.mpr ⟨by rw [hr]; rfl, hres⟩) ?_ fun hinv j => ?_
    · rw [List.filterMap_cons, hr, conflict_cons]
      rintro (⟨h1, h2, _⟩ | hc')
      · exact hno ⟨h1, h2⟩
      · exact hc hc'
    · rw [List.filterMap_cons, hr, toggleSpec_cons, if_neg (fun x => hno x.2)]; exact hsp hinv j
  | conflict hc => exact .conflict (by rw [List.filterMap_cons, hr, conflict_cons]; exact .inr hc)
  | unknown hu => obtain ⟨e', he', hn⟩ := hu; exact .unknown ⟨e', List.mem_cons_of_mem _ he', hn⟩

/-- an option that is on and was set by another source is switched off, and the loop goes on from there -/
theorem ToggleOut.off {g g' : G} {i src t : Nat} {e : Str} {es : List Str} {st : Status} {m : Bool}
    (hr : optlistResolve g.opts e = some t) (hti : t ≠ i) (hon : (g.valOf t).isNull = false) (hs : g.setter t ≠ src)
    (out : ToggleOut (g.put t .null src) i src es g' st m) : ToggleOut g i src (e :: es) g' st m := by
  cases out with
  | ok hres hc hsp =>
    refine .ok (List.forall_mem_cons.mpr ⟨by rw [hr]; rfl, hres⟩) ?_ fun hinv j => ?_
    · rw [List.filterMap_cons, hr, conflict_cons]
      rintro (⟨_, _, h3⟩ | hc')
      · exact hs h3
      · exact hc ((conflict_put hon hs).mpr hc')
    · rw [hsp (put_inv hinv _ _ _) j, put_opts, List.filterMap_cons, hr, toggleSpec_cons]
      unfold toggleSpec
      by_cases hjt : j = t
      · subst hjt
        rw [put_valOf_same (valOf_on_lt hon), put_setter_same (by rw [hinv.hs, ← hinv.hv]; exact valOf_on_lt hon)]
        rw [if_pos (show j = j ∧ j ≠ i ∧ (g.valOf j).isNull = false from ⟨rfl, hti, hon⟩)]
        exact ite_self _
      · rw [put_valOf_ne (Ne.symm hjt), put_setter_ne (Ne.symm hjt)]; simp [hjt]
  | conflict hc =>
    exact .conflict (by rw [List.filterMap_cons, hr, conflict_cons]; exact .inr ((conflict_put hon hs).mp hc))
  | unknown hu => obtain ⟨e', he', hn⟩ := hu; exact .unknown ⟨e', List.mem_cons_of_mem _ he', hn⟩

/-- what a run of the toggle loop from `g` to `g'` comes with, whatever it answers -/
structure ToggleRun (g : G) (i src : Nat) (es : List Str) (g' : G) (st : Status) (m : Bool) : Prop where
  frame : SameFrame g g'
  inv : Inv g → Inv g'
  out : ToggleOut g i src es g' st m

theorem toggleLoop_out {i src : Nat} : ∀ (es : List Str) (g : G),
    ∃ g' st m, toggleLoop g i src es = .done g' st m ∧ ToggleRun g i src es g' st m := by
  intro es
  induction es with
  | nil =>
    intro g
    exact ⟨g, .ok, false, rfl, .refl g, id, .ok nofun (fun ⟨_, h, _⟩ => nomatch h) fun _ j => by simp [toggleSpec]⟩
  | cons e es ih =>
    intro g
    unfold toggleLoop
    cases hr : optlistResolve g.opts e with
    | none => exact ⟨g, _, _, rfl, .refl g, id, .unknown ⟨e, List.mem_cons_self, hr⟩⟩
    | some t =>
      simp only
      have pass : (t = i ∨ (g.valOf t).isNull = true) →
          ∃ g' st m, toggleLoop g i src es = .done g' st m ∧ ToggleRun g i src (e :: es) g' st m :=
        fun h => let ⟨g', st, m, h1, run⟩ := ih g; ⟨g', st, m, h1, run.frame, run.inv, run.out.skip hr h⟩
      split
      · rename_i hti; exact pass (.inl (by simpa using hti))
      · rename_i hti
        split
        · rename_i hn; exact pass (.inr hn)
        · rename_i hn
          have hon : (g.valOf t).isNull = false := by simpa using hn
          have hti' : t ≠ i := by simpa using hti
          split
          · rename_i hs
            exact ⟨g, _, _, rfl, .refl g, id,
              .conflict (by rw [List.filterMap_cons, hr, conflict_cons]; exact .inl ⟨hti', hon, by simpa using hs⟩)⟩
          · rename_i hs
            obtain ⟨g', st, m, h1, run⟩ := ih (g.put t .null src)
            exact ⟨g', st, m, h1, (put_sameFrame _ _ _ _).trans run.frame, fun hinv => run.inv (put_inv hinv _ _ _),
              run.out.off hr hti' hon (by simpa using hs)⟩

/-- a toggle loop that succeeds met no list element it could not resolve -/
theorem toggleLoop_ok_resolves {g g' : G} {i src : Nat} {es : List Str} {m : Bool} (h : toggleLoop g i src es = .done g' .ok m) :
    ∀ e ∈ es, (optlistResolve g.opts e).isSome := by
  obtain ⟨g1, st, m1, h1, run⟩ := toggleLoop_out (i := i) (src := src) es g
  rw [h] at h1
  cases h1
  cases run.out with
  | ok hres _ _ => exact hres

/-- value and setter of option `j` after a successful `set_option(i, arg, src)`: the option itself takes the new
    value, every *other* option of its toggle list that was on is switched off, both record `src`; the rest is
    unchanged -/
def setSpec (g : G) (i : Nat) (arg : Option Str) (src : Nat) (j : Nat) : Val × Nat :=
  if j = i then (newVal (g.opt i) arg, src)
  else if j ∈ listIdx g.opts (g.opt i).toggle ∧ (g.valOf j).isNull = false then (.null, src)
  else (g.valOf j, g.setter j)

/-- What `set_option(i, arg, src)` can answer in state `g`: the four early exits of the C function, or the value is stored
    and the toggle loop decides. -/
inductive SetOut (g : G) (i : Nat) (arg : Option Str) (src : Nat) : R → Prop
  | again : g.setter i = src → SetOut g i arg src (.done g .esyntax true)
  | bad : g.setter i ≠ src → verifyTypeRange (g.opt i) arg src = .bad → SetOut g i arg src (.done g .esyntax true)
  | exc : g.setter i ≠ src → verifyTypeRange (g.opt i) arg src = .exc → SetOut g i arg src (.done g .esyntax false)
  | fault : g.setter i ≠ src → verifyTypeRange (g.opt i) arg src = .fault → SetOut g i arg src .fault
  | stored {g' : G} {st : Status} {m : Bool} : g.setter i ≠ src → verifyTypeRange (g.opt i) arg src = .good →
      SameFrame g g' → (Inv g → Inv g') →
      ToggleOut (g.put i (newVal (g.opt i) arg) src) i src (optlistElems (g.opt i).toggle) g' st m →
      SetOut g i arg src (.done g' st m)

theorem setOption_out (g : G) (i : Nat) (arg : Option Str) (src : Nat) : SetOut g i arg src (setOption g i arg src) := by
  unfold setOption
  by_cases hs : g.setter i = src
  · rw [if_pos (by simpa using hs)]; exact .again hs
  · rw [if_neg (by simpa using hs)]
    cases hv : verifyTypeRange (g.opt i) arg src with
    | fault => exact .fault hs hv
    | exc => exact .exc hs hv
    | bad => exact .bad hs hv
    | good =>
      obtain ⟨g', st, m, h1, run⟩ :=
        toggleLoop_out (i := i) (src := src) (optlistElems (g.opt i).toggle) (g.put i (newVal (g.opt i) arg) src)
      simp only [h1]
      exact .stored hs hv ((put_sameFrame _ _ _ _).trans run.frame) (fun hinv => run.inv (put_inv hinv _ _ _)) run.out

theorem setOption_frame {g g' : G} {i src : Nat} {arg : Option Str} {st : Status} {m : Bool}
    (h : setOption g i arg src = .done g' st m) : SameFrame g g' := by
  have out := setOption_out g i arg src
  rw [h] at out
  cases out with
  | again _ => exact .refl _
  | bad _ _ => exact .refl _
  | exc _ _ => exact .refl _
  | stored _ _ hf _ _ => exact hf

/-- what a successful `set_option(i, arg, src)` from `g` to `g'` comes with -/
structure SetDone (g g' : G) (i : Nat) (arg : Option Str) (src : Nat) : Prop where
  inv : Inv g'
  frame : SameFrame g g'
  fresh : g.setter i ≠ src
  good : verifyTypeRange (g.opt i) arg src = .good
  resolves : ∀ e ∈ optlistElems (g.opt i).toggle, (optlistResolve g.opts e).isSome
  spec : ∀ j, (g'.valOf j, g'.setter j) = setSpec g i arg src j

theorem setOption_ok {g g' : G} {i src : Nat} {arg : Option Str} {m : Bool} (hinv : Inv g) (hi : i < g.opts.length)
    (h : setOption g i arg src = .done g' .ok m) : m = false ∧ SetDone g g' i arg src := by
  have out := setOption_out g i arg src
  rw [h] at out
  cases out with
  | stored hs hv hf hi' ht =>
    cases ht with
    | ok hres _ hsp =>
      refine ⟨rfl, hi' hinv, hf, hs, hv, hres, fun j => ?_⟩
      rw [hsp (put_inv hinv _ _ _) j]
      simp only [toggleSpec, setSpec, put_opts, listIdx]
      by_cases hji : j = i
      · subst hji
        simp [put_valOf_same (show j < g.val.length by rw [hinv.hv]; exact hi), put_setter_same (show j < g.setby.length by rw [hinv.hs]; exact hi)]
      · have hne : i ≠ j := fun h => hji h.symm
        simp [hji, put_valOf_ne hne, put_setter_ne hne]

theorem setOption_rejected {g : G} {i src : Nat} {arg : Option Str}
    (h : g.setter i = src ∨ verifyTypeRange (g.opt i) arg src = .bad) :
    setOption g i arg src = .done g .esyntax true := by
  have out := setOption_out g i arg src
  generalize setOption g i arg src = r at out
  cases out with
  | again _ => rfl
  | bad _ _ => rfl
  | exc hs hv => exact (h.elim hs fun hb => nomatch hv.symm.trans hb).elim
  | fault hs hv => exact (h.elim hs fun hb => nomatch hv.symm.trans hb).elim
  | stored hs hv _ _ _ => exact (h.elim hs fun hb => nomatch hv.symm.trans hb).elim

/-- what makes a table row usable: a known type, no range on string types, option lists whose elements resolve -/
structure WFOpt (opts : List Opt) (o : Opt) : Prop where
  type_le : o.type ≤ 6
  norange : isStringy o.type = true → o.range = none
  tog : ∀ e ∈ optlistElems o.toggle, (optlistResolve opts e).isSome
  req : ∀ e ∈ optlistElems o.required, (optlistResolve opts e).isSome
  inc : ∀ e ∈ optlistElems o.incompat, (optlistResolve opts e).isSome

def WF (opts : List Opt) : Prop := ∀ o ∈ opts, WFOpt opts o

/-- the two acceptable outcomes of an API call: success without message, usage error with message -/
def Clean (st : Status) (m : Bool) : Prop := (st = .ok ∧ m = false) ∨ (st = .esyntax ∧ m = true)

theorem good_or_bad {p q : Prop} [Decidable p] [Decidable q] {r : V} (h : (if p then V.bad else if q then .bad else .good) = r) :
    r = .good ∨ r = .bad := by
  subst h
  split
  · exact .inr rfl
  · split
    · exact .inr rfl
    · exact .inl rfl

/-- the four answers of `verify_type_and_range` with what the two irregular ones need; type codes as in `Opt.type`: 3 is `eslARG_CHAR`,
    4 to 6 are the unchecked string types (`isStringy`), above 6 there is no type -/
theorem verifyTypeRange_cases {o : Opt} {val : Option Str} {src : Nat} {r : V} (hr : verifyTypeRange o val src = r) :
    r = .good ∨ r = .bad ∨ (r = .fault ∧ o.type = 3 ∧ val = none ∧ src ≠ byDefault) ∨
    (r = .exc ∧ (6 < o.type ∨ (isStringy o.type = true ∧ o.range.isSome = true))) := by
  have stringy : isStringy o.type = true → (if o.range.isSome = true then V.exc else V.good) = r →
      r = .good ∨ r = .bad ∨ (r = .fault ∧ o.type = 3 ∧ val = none ∧ src ≠ byDefault) ∨
      (r = .exc ∧ (6 < o.type ∨ (isStringy o.type = true ∧ o.range.isSome = true))) := by
    intro hs h
    split at h
    · rename_i hrange; exact .inr (.inr (.inr ⟨h.symm, .inr ⟨hs, hrange⟩⟩))
    · exact .inl h.symm
  unfold verifyTypeRange at hr
  split at hr
  · exact .inl hr.symm
  rename_i hdef
  split at hr
  · exact .inl hr.symm
  · split at hr
    · exact .inr (.inl hr.symm)
    · exact (good_or_bad hr).imp id .inl
  · split at hr
    · exact .inr (.inl hr.symm)
    · exact (good_or_bad hr).imp id .inl
  · rename_i ht
    split at hr
    · refine .inr (.inr (.inl ⟨hr.symm, ht, rfl, fun hs => hdef (by simp [hs])⟩))
    · exact (good_or_bad hr).imp id .inl
  · rename_i ht; exact stringy (by rw [ht]; rfl) hr
  · rename_i ht; exact stringy (by rw [ht]; rfl) hr
  · rename_i ht; exact stringy (by rw [ht]; rfl) hr
  · rename_i h0 h1 h2 h3 h4 h5 h6
    simp only [imp_false] at h0 h1 h2 h3 h4 h5 h6
    exact .inr (.inr (.inr ⟨hr.symm, .inl (by omega)⟩))
theorem verifyTypeRange_noexc {opts : List Opt} {o : Opt} (h : WFOpt opts o) (val : Option Str) (src : Nat) :
    verifyTypeRange o val src ≠ .exc := by
  intro he
  rcases verifyTypeRange_cases he with h' | h' | ⟨h', _⟩ | ⟨_, h6 | ⟨hs, hr⟩⟩
  · cases h'
  · cases h'
  · cases h'
  · have := h.type_le; omega
  · rw [h.norange hs] at hr; cases hr

/-- verifying a default never dereferences NULL: the only crash site of `verify_type_and_range` (`strlen(NULL)` for a
    character option) is behind the "NULL default is fine" exit -/
theorem verify_fault_only (o : Opt) (val : Option Str) (src : Nat) (h : verifyTypeRange o val src = .fault) :
    o.type = 3 ∧ val = none ∧ src ≠ byDefault := by
  rcases verifyTypeRange_cases h with h' | h' | ⟨_, h'⟩ | ⟨h', _⟩
  · cases h'
  · cases h'
  · exact h'
  · cases h'

theorem verifyTypeRange_nofault {o : Opt} {val : Option Str} {src : Nat} (h : val.isSome ∨ o.type ≠ 3) :
    verifyTypeRange o val src ≠ .fault := by
  intro hf
  obtain ⟨ht, hv, _⟩ := verify_fault_only o val src hf
  rcases h with h | h
  · rw [hv] at h; cases h
  · exact h ht

theorem setOption_total {g : G} {i src : Nat} {arg : Option Str} (hinv : Inv g) (hw : WFOpt g.opts (g.opt i))
    (harg : arg.isSome ∨ (g.opt i).type ≠ 3) :
    ∃ g' st m, setOption g i arg src = .done g' st m ∧ Clean st m ∧ Inv g' ∧ SameFrame g g' := by
  have out := setOption_out g i arg src
  generalize setOption g i arg src = r at out
  cases out with
  | again _ => exact ⟨g, _, _, rfl, .inr ⟨rfl, rfl⟩, hinv, .refl g⟩
  | bad _ _ => exact ⟨g, _, _, rfl, .inr ⟨rfl, rfl⟩, hinv, .refl g⟩
  | exc _ hv => exact absurd hv (verifyTypeRange_noexc hw _ _)
  | fault _ hv => exact absurd hv (verifyTypeRange_nofault harg)
  | stored _ _ hf hi' ht =>
    refine ⟨_, _, _, rfl, ?_, hi' hinv, hf⟩
    cases ht with
    | ok _ _ _ => exact .inl ⟨rfl, rfl⟩
    | conflict _ => exact .inr ⟨rfl, rfl⟩
    | unknown hu =>
      obtain ⟨e, he, hn⟩ := hu
      have := hw.tog e he
      rw [put_opts] at hn
      rw [hn] at this; cases this

/-- **exactly when a setting succeeds**: the option was not yet set by this source, the argument has the right type
    and lies in range, and no other member of its toggle list that is on was set or toggled by this same source
    ("an option's state may only be changed once by [a source], even indirectly through toggle-tying"). In every
    other case the call is a usage error with a message. -/
theorem setOption_ok_iff {g : G} {i src : Nat} {arg : Option Str}
    (hw : WFOpt g.opts (g.opt i)) (harg : arg.isSome ∨ (g.opt i).type ≠ 3) :
    ((∃ g', setOption g i arg src = .done g' .ok false) ↔
      (g.setter i ≠ src ∧ verifyTypeRange (g.opt i) arg src = .good ∧ ¬ Conflict g i src (listIdx g.opts (g.opt i).toggle))) ∧
    ((∃ g', setOption g i arg src = .done g' .esyntax true) ↔
      ¬ (g.setter i ≠ src ∧ verifyTypeRange (g.opt i) arg src = .good ∧ ¬ Conflict g i src (listIdx g.opts (g.opt i).toggle))) := by
  -- conflicts are the same before and after option `i` itself is stored (they concern j ≠ i only)
  have hCput : Conflict (g.put i (newVal (g.opt i) arg) src) i src (listIdx g.opts (g.opt i).toggle) ↔
      Conflict g i src (listIdx g.opts (g.opt i).toggle) := by
    refine exists_congr fun j => and_congr_right fun _ => and_congr_right fun hj => ?_
    rw [put_valOf_ne (Ne.symm hj), put_setter_ne (Ne.symm hj)]
  -- the two answers exclude each other, so it is enough to say which one each side of the condition gives
  suffices h : ∀ r, SetOut g i arg src r →
      ((g.setter i ≠ src ∧ verifyTypeRange (g.opt i) arg src = .good ∧ ¬ Conflict g i src (listIdx g.opts (g.opt i).toggle)) →
        ∃ g', r = .done g' .ok false) ∧
      (¬ (g.setter i ≠ src ∧ verifyTypeRange (g.opt i) arg src = .good ∧ ¬ Conflict g i src (listIdx g.opts (g.opt i).toggle)) →
        ∃ g', r = .done g' .esyntax true) by
    obtain ⟨h1, h2⟩ := h _ (setOption_out g i arg src)
    refine ⟨⟨fun ⟨g', e⟩ => Classical.byContradiction fun hn => ?_, h1⟩, ⟨fun ⟨g', e⟩ hp => ?_, h2⟩⟩
    · obtain ⟨g'', e'⟩ := h2 hn; rw [e] at e'; cases e'
    · obtain ⟨g'', e'⟩ := h1 hp; rw [e] at e'; cases e'
  intro r out
  cases out with
  | again hs => exact ⟨fun hp => absurd hs hp.1, fun _ => ⟨g, rfl⟩⟩
  | bad _ hv => exact ⟨fun hp => (nomatch hv.symm.trans hp.2.1), fun _ => ⟨g, rfl⟩⟩
  | exc _ hv => exact absurd hv (verifyTypeRange_noexc hw _ _)
  | fault _ hv => exact absurd hv (verifyTypeRange_nofault harg)
  | stored hs hv _ _ ht =>
    cases ht with
    | ok _ hc _ => exact ⟨fun _ => ⟨_, rfl⟩, fun hn => absurd ⟨hs, hv, fun c => hc (hCput.mpr c)⟩ hn⟩
    | conflict hc => exact ⟨fun hp => absurd (hCput.mp hc) hp.2.2, fun _ => ⟨_, rfl⟩⟩
    | unknown hu =>
      obtain ⟨e, he, hn⟩ := hu
      have := hw.tog e he
      rw [put_opts] at hn
      rw [hn] at this; cases this

theorem opt_mem {g : G} {i : Nat} (h : i < g.opts.length) : g.opt i ∈ g.opts := by
  unfold G.opt
  rw [List.getD_eq_getElem?_getD, List.getElem?_eq_getElem h]
  exact List.getElem_mem h

/-- outcome of a whole API call: ends cleanly, keeps the shape invariant and the table -/
def Good (g : G) (r : R) : Prop := ∃ g' st m, r = .done g' st m ∧ Clean st m ∧ Inv g' ∧ g'.opts = g.opts

theorem abbrevScan_last_lt (key : Str) : ∀ (os : List Opt) (i nab last : Nat),
    (abbrevScan key os i nab last).1 = nab ∧ (abbrevScan key os i nab last).2.2 = last ∨
    (nab < (abbrevScan key os i nab last).1 ∧ i ≤ (abbrevScan key os i nab last).2.2 ∧ (abbrevScan key os i nab last).2.2 < i + os.length) := by
  intro os
  induction os with
  | nil => intro i nab last; left; simp [abbrevScan]
  | cons o os ih =>
    intro i nab last
    unfold abbrevScan
    split
    · split
      · right; simp
      · rcases ih (i + 1) (nab + 1) i with h | h
        · right; rw [h.1, h.2]; simp
        · right; simp only [List.length_cons]; omega
    · rcases ih (i + 1) nab last with h | h
      · left; exact h
      · right; simp only [List.length_cons]; omega

theorem optidxAbbrev_lt {opts : List Opt} {key : Str} {i : Nat} (h : optidxAbbrev opts key = .found i) : i < opts.length := by
  unfold optidxAbbrev at h
  have := abbrevScan_last_lt key opts 0 0 0
  revert h this
  generalize abbrevScan key opts 0 0 0 = r
  obtain ⟨a, b, c⟩ := r
  intro h this
  simp only at h this
  split at h
  · simp at h
  · split at h
    · simp at h
    · rename_i h0
      simp at h
      subst h
      rcases this with ⟨h1, _⟩ | ⟨_, _, h3⟩
      · simp [h1] at h0
      · simpa using h3

end EaselModel.Getopts
