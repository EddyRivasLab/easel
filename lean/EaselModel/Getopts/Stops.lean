import EaselModel.Getopts.Sources
/-! # C14 — what a command line parses to (`ElemParse` for one element, `CmdParse` for the whole), and from it where a successful
    command line stops: at the end of argv, at a non-option word, or right after `--`. -/
namespace EaselModel.Getopts

/-- What one argv element parses to: `set_option` calls on table rows (each with an argument unless the row is a flag),
    closed by a usage-error stop (`.stop st m k`: status, message written, `optind`) exactly when parsing ends there (second component `none`).  `some b`: parsing goes on,
    and `b` says whether the following argv element was consumed as an argument, which happens only if there is one. -/
inductive ElemParse (opts : List Opt) (next : Option Str) : List CmdItem × Option Bool → Prop
  | nil : ElemParse opts next ([], some false)
  | stop (k : Nat) : ElemParse opts next ([.stop .esyntax true k], none)
  | setNext {i : Nat} {a : Option Str} (h : SetOk opts i a) (k : Nat) (hn : next.isSome) :
      ElemParse opts next ([.set i a k], some true)
  | cons {i : Nat} {a : Option Str} (h : SetOk opts i a) (k : Nat) {r : List CmdItem × Option Bool} :
      ElemParse opts next r → ElemParse opts next (.set i a k :: r.1, r.2)

theorem parseStd_elem (opts : List Opt) (k : Nat) : ∀ (cs : Str) (next : Option Str),
    ElemParse opts next (parseStd opts k cs next) := by
  intro cs
  induction cs with
  | nil => intro next; exact .nil
  | cons c cs ih =>
    intro next
    unfold parseStd
    cases hf : findShort opts c with
    | none => exact .stop _
    | some i =>
      have hi : i < opts.length := findIdx?_lt hf
      simp only
      split
      · split
        · exact .cons ⟨hi, .inl rfl⟩ _ .nil
        · cases next with
          | none => exact .stop _
          | some a =>
            simp only
            split
            · exact .stop _
            · exact .setNext ⟨hi, .inl rfl⟩ _ rfl
      · rename_i ht
        have hflag : SetOk opts i none := ⟨hi, .inr (by simpa using ht)⟩
        split
        · exact .cons hflag _ .nil
        · exact .cons hflag _ (ih next)

theorem parseLong_elem (opts : List Opt) (k : Nat) (w : Str) (next : Option Str) :
    ElemParse opts next (parseLong opts k w next) := by
  unfold parseLong
  cases ha : optidxAbbrev opts (splitEq w).1 with
  | ambiguous => exact .stop _
  | notfound => exact .stop _
  | found i =>
    have hi : i < opts.length := optidxAbbrev_lt ha
    simp only
    split
    · cases (splitEq w).2 with
      | some a => exact .cons ⟨hi, .inl rfl⟩ _ .nil
      | none =>
        cases next with
        | none => exact .stop _
        | some a =>
          simp only
          split
          · exact .stop _
          · exact .setNext ⟨hi, .inl rfl⟩ _ rfl
    · rename_i ht
      cases (splitEq w).2 with
      | some a => exact .stop _
      | none => exact .cons ⟨hi, .inr (by simpa using ht)⟩ _ .nil

theorem parseOpt_elem (opts : List Opt) (k : Nat) (w : Str) (next : Option Str) :
    ElemParse opts next (parseOpt opts k w next) := by
  unfold parseOpt
  split
  · exact parseLong_elem opts k _ next
  · exact parseStd_elem opts k _ next

theorem ElemParse.next_isSome {opts : List Opt} {next : Option Str} {r : List CmdItem × Option Bool} (h : ElemParse opts next r)
    (hr : r.2 = some true) : next.isSome := by
  induction h with
  | nil => cases hr
  | stop k => cases hr
  | setNext h k hn => exact hn
  | cons h k _ ih => exact ih hr

/-- the stopping rule, for a stop at optind `k'` when `ws[0]` is `argv[k0]` -/
def StopsAt (k0 : Nat) (ws : List Str) (k' : Nat) : Prop :=
  k0 ≤ k' ∧ k' - k0 ≤ ws.length ∧
  (k' - k0 = ws.length ∨ (∃ w, ws[k' - k0]? = some w ∧ isArgWord w = true) ∨ (1 ≤ k' - k0 ∧ ws[k' - k0 - 1]? = some ['-', '-']))

theorem StopsAt.cons {k0 : Nat} {w : Str} {tl : List Str} {k' : Nat} (h : StopsAt (k0 + 1) tl k') : StopsAt k0 (w :: tl) k' := by
  obtain ⟨h1, h2, h3⟩ := h
  refine ⟨by omega, by simp only [List.length_cons]; omega, ?_⟩
  have e : k' - k0 = (k' - (k0 + 1)) + 1 := by omega
  rcases h3 with h3 | ⟨w', h3, h4⟩ | ⟨h3, h4⟩
  · left; simp only [List.length_cons]; omega
  · right; left; exact ⟨w', by rw [e, List.getElem?_cons_succ]; exact h3, h4⟩
  · right; right
    refine ⟨by omega, ?_⟩
    have e2 : k' - k0 - 1 = (k' - (k0 + 1) - 1) + 1 := by omega
    rw [e2, List.getElem?_cons_succ]; exact h4

/-- A command line parsed from `ws`, where `ws[0]` is `argv[k0]`: `set_option` calls on table rows, closed by one stop, which is a
    usage error or the end of the options at a place the stopping rule allows. -/
inductive CmdParse (opts : List Opt) (k0 : Nat) (ws : List Str) : List CmdItem → Prop
  | usage (k : Nat) : CmdParse opts k0 ws [.stop .esyntax true k]
  | ends {k' : Nat} : StopsAt k0 ws k' → CmdParse opts k0 ws [.stop .ok false k']
  | set {i : Nat} {a : Option Str} (kf : Nat) {is : List CmdItem} :
      SetOk opts i a → CmdParse opts k0 ws is → CmdParse opts k0 ws (.set i a kf :: is)

theorem CmdParse.cons {opts : List Opt} {k0 : Nat} {w : Str} {tl : List Str} {is : List CmdItem}
    (h : CmdParse opts (k0 + 1) tl is) : CmdParse opts k0 (w :: tl) is := by
  induction h with
  | usage k => exact .usage k
  | ends hs => exact .ends hs.cons
  | set kf hok _ ih => exact .set kf hok ih

/-- the items of one element, followed by the parse of the rest unless the element ended the parsing -/
theorem ElemParse.seq {opts : List Opt} {next : Option Str} {r : List CmdItem × Option Bool} {k0 : Nat} {ws : List Str}
    {rest : Bool → List CmdItem} (h : ElemParse opts next r) (hrest : ∀ b, r.2 = some b → CmdParse opts k0 ws (rest b)) :
    CmdParse opts k0 ws (match r.2 with | none => r.1 | some b => r.1 ++ rest b) := by
  induction h with
  | nil => exact hrest false rfl
  | stop k => exact .usage k
  | setNext hok k _ => exact .set k hok (hrest true rfl)
  | cons hok k _ ih =>
    have := ih hrest
    revert this
    rename_i r _
    cases r.2 <;> exact fun this => .set k hok this

/-- `skip = true`: the first word of `ws` was already consumed as the argument of the option before it (so there is such a
    word, and it is `argv[k - 1]`). -/
theorem parseCmd_shape (opts : List Opt) : ∀ (ws : List Str) (k : Nat) (skip : Bool), (skip = true → ws ≠ [] ∧ 1 ≤ k) →
    CmdParse opts (k - (if skip then 1 else 0)) ws (parseCmd opts k ws skip) := by
  intro ws
  induction ws with
  | nil =>
    intro k skip hs
    cases skip with
    | true => exact absurd rfl (hs rfl).1
    | false => exact .ends ⟨Nat.le_refl _, by simp, .inl (by simp)⟩
  | cons w tl ih =>
    intro k skip hs
    cases skip with
    | true =>
      have := ih k false (by simp)
      have e : k - (if false = true then 1 else 0) = (k - 1) + 1 := by have := (hs rfl).2; simp; omega
      rw [e] at this
      simpa [parseCmd] using this.cons
    | false =>
      unfold parseCmd
      simp only [Bool.false_eq_true, ↓reduceIte, Nat.sub_zero]
      split
      · rename_i h1; exact .ends ⟨Nat.le_refl _, by simp, .inr (.inl ⟨w, by simp, h1⟩)⟩
      · split
        · rename_i h2
          have hw : w = ['-', '-'] := by simpa using h2
          exact .ends ⟨by omega, by simp, .inr (.inr ⟨by omega, by simp [hw]⟩)⟩
        · refine (parseOpt_elem opts k w tl.head?).seq (rest := fun extra => parseCmd opts (k + 1 + (if extra then 1 else 0)) tl extra)
            fun extra hr => ?_
          have := ih (k + 1 + (if extra then 1 else 0)) extra fun he => by
            subst he
            have := (parseOpt_elem opts k w tl.head?).next_isSome hr
            exact ⟨fun htl => by simp [htl] at this, by omega⟩
          have e : k + 1 + (if extra = true then 1 else 0) - (if extra = true then 1 else 0) = k + 1 := by cases extra <;> simp
          rw [e] at this
          exact this.cons

/-- a parsed command line that is processed successfully stops where the stopping rule says, and `argv` is kept -/
theorem runCmd_stops {opts : List Opt} {k0 : Nat} {ws : List Str} {is : List CmdItem} {F : G → R} (h : CmdParse opts k0 ws is) :
    ∀ (g g' : G) (m : Bool), runCmd F g is = .done g' .ok m → StopsAt k0 ws g'.optind ∧ g'.argv = g.argv := by
  induction h with
  | usage k => intro g g' m h; cases h
  | ends hs => intro g g' m h; cases h; exact ⟨hs, rfl⟩
  | @set i a kf is _ _ ih =>
    intro g g' m h
    obtain ⟨g1, _, hs, hk⟩ := afterSet_ok (upd := fun g' => { g' with optind := kf }) (k := fun g' => runCmd F g' is) h
    exact (ih g1 g' m hk).imp id (·.trans (setOption_frame hs).argv)

theorem cmdLoop_stops (g g' : G) (k : Nat) (ws : List Str) (m : Bool) (h : cmdLoop g k ws false = .done g' .ok m) :
    StopsAt k ws g'.optind := by
  rw [cmdLoop_eq] at h
  exact (runCmd_stops (parseCmd_shape g.opts ws k false (by simp)) g g' m h).1

theorem runCmd_frame : ∀ (is : List CmdItem) (g g' : G) (st : Status) (m : Bool),
    runCmd (fun g' => .done g' .ok false) g is = .done g' st m → g'.argv = g.argv ∧ g'.opts = g.opts := by
  intro is
  induction is with
  | nil => intro g g' st m h; cases h; exact ⟨rfl, rfl⟩
  | cons it is ih =>
    intro g g' st m h
    cases it with
    | stop st' m' k => cases h; exact ⟨rfl, rfl⟩
    | set i arg kf =>
      simp only [runCmd] at h
      cases hs : setOption g i arg byCmdline with
      | fault => rw [hs] at h; cases h
      | done g1 st1 m1 =>
        have hf := setOption_frame hs
        rw [hs] at h
        cases st1 with
        | ok => exact (ih g1 g' st m h).imp (·.trans hf.argv) (·.trans hf.opts)
        | esyntax => cases h; exact ⟨hf.argv, hf.opts⟩
        | einval => cases h; exact ⟨hf.argv, hf.opts⟩

theorem processCmdline_stops (g g' : G) (argv : List Str) (m : Bool) (h : processCmdline g argv = .done g' .ok m) :
    g'.argv = argv ∧ StopsAt 1 (argv.drop 1) g'.optind := by
  unfold processCmdline at h
  rw [cmdLoop_eq] at h
  exact (runCmd_stops (parseCmd_shape g.opts _ 1 false (by simp)) _ g' m h).symm

end EaselModel.Getopts
