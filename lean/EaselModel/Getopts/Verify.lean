import EaselModel.Getopts.Lemmas
/-! # C14 — `esl_opt_VerifyConfig`, end of options, argument retrieval, queries, creation. -/
namespace EaselModel.Getopts

/-- `reqLoop` and `incLoop` are one scan of an option list: an element that does not resolve is `eslEINVAL`, the first
    one resolving to a row that `bad` holds of is a usage error. -/
def listScan (opts : List Opt) (bad : Nat → Bool) : List Str → Option (Status × Bool)
  | [] => none
  | e :: es =>
    match optlistResolve opts e with
    | none => some (.einval, false)
    | some r => if bad r then some (.esyntax, true) else listScan opts bad es

theorem reqLoop_eq (g : G) (es : List Str) : reqLoop g es = listScan g.opts (fun r => (g.valOf r).isNull) es := by
  induction es with
  | nil => rfl
  | cons e es ih => simp only [reqLoop, listScan, ih]; rfl

theorem incLoop_eq (g : G) (i : Nat) (es : List Str) :
    incLoop g i es = listScan g.opts (fun c => c != i && g.isSetOn c) es := by
  induction es with
  | nil => rfl
  | cons e es ih => simp only [incLoop, listScan, ih]; rfl

theorem listScan_spec (opts : List Opt) (bad : Nat → Bool) : ∀ (es : List Str), (∀ e ∈ es, (optlistResolve opts e).isSome) →
    (listScan opts bad es = none ∧ ∀ r ∈ es.filterMap (optlistResolve opts), bad r = false) ∨
    (listScan opts bad es = some (.esyntax, true) ∧ ∃ r ∈ es.filterMap (optlistResolve opts), bad r = true) := by
  intro es
  induction es with
  | nil => intro _; left; simp [listScan]
  | cons e es ih =>
    intro hres
    have hre := hres e List.mem_cons_self
    cases hr : optlistResolve opts e with
    | none => simp [hr] at hre
    | some r =>
      unfold listScan
      simp only [hr, List.filterMap_cons]
      cases hb : bad r with
      | true => right; exact ⟨by simp, r, by simp, hb⟩
      | false =>
        simp only [Bool.false_eq_true, ↓reduceIte]
        rcases ih (fun e' he' => hres e' (List.mem_cons_of_mem _ he')) with ⟨h1, h2⟩ | ⟨h1, r', h2, h3⟩
        · left
          refine ⟨h1, ?_⟩
          intro r' hr'
          rcases List.mem_cons.mp hr' with rfl | hr'
          · exact hb
          · exact h2 r' hr'
        · right; exact ⟨h1, r', List.mem_cons_of_mem _ h2, h3⟩

/-- the requirement of option `i` holds: every option of its `required_opts` list is on -/
def ReqOk (g : G) (i : Nat) : Prop := ∀ r ∈ listIdx g.opts (g.opt i).required, (g.valOf r).isNull = false
/-- the incompatibilities of option `i` hold: no *other* option of its `incompat_opts` list is set and on -/
def IncOk (g : G) (i : Nat) : Prop := ∀ c ∈ listIdx g.opts (g.opt i).incompat, c ≠ i → g.isSetOn c = false

theorem reqLoop_spec (g : G) (hw : WF g.opts) (j : Nat) (hj : j < g.opts.length) :
    (reqLoop g (optlistElems (g.opt j).required) = none ∧ ReqOk g j) ∨
    (reqLoop g (optlistElems (g.opt j).required) = some (.esyntax, true) ∧ ¬ ReqOk g j) := by
  rw [reqLoop_eq]
  rcases listScan_spec g.opts _ _ (hw _ (opt_mem hj)).req with ⟨h1, h2⟩ | ⟨h1, r, h2, h3⟩
  · exact .inl ⟨h1, h2⟩
  · exact .inr ⟨h1, fun hok => Bool.false_ne_true ((hok r h2).symm.trans h3)⟩

theorem incLoop_spec (g : G) (hw : WF g.opts) (j : Nat) (hj : j < g.opts.length) :
    (incLoop g j (optlistElems (g.opt j).incompat) = none ∧ IncOk g j) ∨
    (incLoop g j (optlistElems (g.opt j).incompat) = some (.esyntax, true) ∧ ¬ IncOk g j) := by
  rw [incLoop_eq]
  rcases listScan_spec g.opts (fun c => c != j && g.isSetOn c) _ (hw _ (opt_mem hj)).inc with ⟨h1, h2⟩ | ⟨h1, c, h2, h3⟩
  · exact .inl ⟨h1, fun c hc hne => by simpa [hne] using h2 c hc⟩
  · simp only [Bool.and_eq_true, bne_iff_ne] at h3
    exact .inr ⟨h1, fun hok => Bool.false_ne_true ((hok c h2 h3.1).symm.trans h3.2)⟩

/-- `verifyReq` and `verifyInc` are one search through the table: the first row that is set and on and fails its check -/
def rowFind (g : G) (check : Nat → Opt → Option (Status × Bool)) (i : Nat) (os : List Opt) : Option (Status × Bool) :=
  (os.zipIdx i).findSome? fun p => if g.isSetOn p.2 then check p.2 p.1 else none

theorem verifyReq_eq (g : G) : ∀ (os : List Opt) (i : Nat),
    verifyReq g i os = rowFind g (fun _ o => reqLoop g (optlistElems o.required)) i os := by
  intro os
  induction os with
  | nil => intro i; rfl
  | cons o os ih =>
    intro i
    simp only [verifyReq, rowFind, List.zipIdx_cons, List.findSome?_cons, ih]
    split
    · cases reqLoop g (optlistElems o.required) <;> rfl
    · rfl

theorem verifyInc_eq (g : G) : ∀ (os : List Opt) (i : Nat),
    verifyInc g i os = rowFind g (fun i o => incLoop g i (optlistElems o.incompat)) i os := by
  intro os
  induction os with
  | nil => intro i; rfl
  | cons o os ih =>
    intro i
    simp only [verifyInc, rowFind, List.zipIdx_cons, List.findSome?_cons, ih]
    split
    · cases incLoop g i (optlistElems o.incompat) <;> rfl
    · rfl

/-- if `check` on row `j` decides `Ok j`, the search succeeds iff `Ok` holds of every row that is set and on -/
theorem rowFind_spec (g : G) (check : Nat → Opt → Option (Status × Bool)) (Ok : Nat → Prop)
    (hcheck : ∀ j, j < g.opts.length →
      (check j (g.opt j) = none ∧ Ok j) ∨ (check j (g.opt j) = some (.esyntax, true) ∧ ¬ Ok j)) :
    (rowFind g check 0 g.opts = none ∧ ∀ j, j < g.opts.length → g.isSetOn j = true → Ok j) ∨
    (rowFind g check 0 g.opts = some (.esyntax, true) ∧ ∃ j, j < g.opts.length ∧ g.isSetOn j = true ∧ ¬ Ok j) := by
  have hopt : ∀ {o : Opt} {j : Nat}, g.opts[j]? = some o → j < g.opts.length ∧ g.opt j = o := fun h =>
    ⟨(List.getElem?_eq_some_iff.mp h).1, by simp [G.opt, List.getD_eq_getElem?_getD, h]⟩
  cases h : rowFind g check 0 g.opts with
  | none =>
    refine .inl ⟨rfl, fun j hj hs => ?_⟩
    have := List.findSome?_eq_none_iff.mp h (g.opts[j], j) (List.mem_zipIdx_iff_getElem?.mpr (List.getElem?_eq_getElem hj))
    rw [if_pos hs, ← (hopt (List.getElem?_eq_getElem hj)).2] at this
    rcases hcheck j hj with ⟨_, hok⟩ | ⟨h1, _⟩
    · exact hok
    · rw [this] at h1; cases h1
  | some x =>
    obtain ⟨⟨o, j⟩, hm, hx⟩ := List.exists_of_findSome?_eq_some h
    obtain ⟨hj, ho⟩ := hopt (List.mem_zipIdx_iff_getElem?.mp hm)
    split at hx
    · rename_i hs
      rcases hcheck j hj with ⟨h1, _⟩ | ⟨h1, hbad⟩
      · rw [ho, hx] at h1; cases h1
      · rw [ho, hx] at h1; exact .inr ⟨h1, j, hj, hs, hbad⟩
    · cases hx

/-- `esl_opt_VerifyConfig` succeeds exactly when every option that is set and on has all its required options on
    and none of its incompatible options set and on; otherwise it is a usage error with a message. -/
theorem verifyConfig_spec (g : G) (hw : WF g.opts) :
    (verifyConfig g = (.ok, false) ∧ ∀ j, j < g.opts.length → g.isSetOn j = true → ReqOk g j ∧ IncOk g j) ∨
    (verifyConfig g = (.esyntax, true) ∧ ∃ j, j < g.opts.length ∧ g.isSetOn j = true ∧ (¬ ReqOk g j ∨ ¬ IncOk g j)) := by
  unfold verifyConfig
  rw [verifyReq_eq, verifyInc_eq]
  rcases rowFind_spec g (fun _ o => reqLoop g (optlistElems o.required)) (ReqOk g) (reqLoop_spec g hw) with ⟨h1, h2⟩ | ⟨h1, j, h3, h4, h5⟩
  · rcases rowFind_spec g (fun i o => incLoop g i (optlistElems o.incompat)) (IncOk g) (incLoop_spec g hw) with ⟨e1, e2⟩ | ⟨e1, j, e3, e4, e5⟩
    · left; simp only [h1, e1]
      exact ⟨trivial, fun j hj hs => ⟨h2 j hj hs, e2 j hj hs⟩⟩
    · right; simp only [h1, e1]
      exact ⟨trivial, j, e3, e4, Or.inr e5⟩
  · right; simp only [h1]
    exact ⟨trivial, j, h3, h4, Or.inl h5⟩

theorem cmdLoop_dashdash (g : G) (k : Nat) (rest : List Str) :
    cmdLoop g k (['-', '-'] :: rest) false = .done { g with optind := k + 1 } .ok false := by
  simp [cmdLoop, isArgWord, startsWithDash]

theorem cmdLoop_argword (g : G) (k : Nat) (w : Str) (rest : List Str) (h : isArgWord w = true) :
    cmdLoop g k (w :: rest) false = .done { g with optind := k } .ok false := by
  simp [cmdLoop, h]

theorem plus_is_argword (r : Str) : isArgWord ('+' :: r) = true := by
  simp [isArgWord, startsWithDash]

theorem getArg_spec (g : G) (n : Nat) :
    getArg g ((n : Int) + 1) = if g.optind + n < g.argc then g.argv[g.optind + n]? else none := by
  unfold getArg
  have h1 : ¬ ((n : Int) + 1 ≤ 0) := by omega
  simp only [h1, ↓reduceIte]
  by_cases h : g.optind + n < g.argc
  · have : ¬ ((g.optind : Int) + ((n : Int) + 1) - 1 ≥ g.argc) := by omega
    simp only [this, h, ↓reduceIte]
    have : ((n : Int) + 1).toNat = n + 1 := by omega
    rw [this]
    congr 1
  · have : ((g.optind : Int) + ((n : Int) + 1) - 1 ≥ g.argc) := by omega
    simp [this, h]

theorem getArg_nonpos (g : G) (w : Int) (h : w ≤ 0) : getArg g w = none := by simp [getArg, h]

theorem getArg_of_split (g : G) (pre rest : List Str) (hargv : g.argv = pre ++ rest) (hk : g.optind = pre.length) (n : Nat) :
    getArg g ((n : Int) + 1) = rest[n]? ∧ argNumber g = rest.length := by
  refine ⟨?_, ?_⟩
  · rw [getArg_spec]
    simp only [G.argc, hargv, hk, List.length_append]
    by_cases h : n < rest.length
    · have : pre.length + n < pre.length + rest.length := by omega
      simp only [this, ↓reduceIte]
      rw [List.getElem?_append_right (by omega)]
      congr 1; omega
    · have : ¬ (pre.length + n < pre.length + rest.length) := by omega
      simp only [this, ↓reduceIte]
      rw [List.getElem?_eq_none (by omega)]
  · simp [argNumber, G.argc, hargv, hk]; omega

theorem isUsed_eq (g : G) (i : Nat) : isUsed g i = (!isDefault g i && isOn g i) := by
  unfold isUsed isOn
  cases isDefault g i <;> cases (g.valOf i).isNull <;> rfl

theorem isDefault_of_setter (g : G) (i : Nat) (h : g.setter i = byDefault) : isDefault g i = true := by
  simp [isDefault, h]

theorem setter_of_not_default (g : G) (i : Nat) (h : isDefault g i = false) : g.setter i ≠ byDefault := by
  intro hs; rw [isDefault_of_setter g i hs] at h; cases h

theorem create_spec {opts : List Opt} {g : G} (h : create opts = some g) :
    g.opts = opts ∧ Inv g ∧ g.spoofed = false ∧ g.nfiles = 0 ∧
    ∀ i, i < opts.length → g.setter i = byDefault ∧ isDefault g i = true ∧
      g.valOf i = (match (g.opt i).defval with | some d => Val.str d | none => Val.null) := by
  unfold create at h
  split at h
  · injection h with h
    subst h
    refine ⟨rfl, ⟨by simp, by simp⟩, rfl, rfl, ?_⟩
    intro i hi
    have hs : G.setter { opts := opts, val := opts.map (fun o => match o.defval with | some d => Val.str d | none => Val.null),
                         setby := opts.map (fun _ => byDefault) } i = byDefault := by
      simp [G.setter, List.getD_eq_getElem?_getD, hi]
    refine ⟨hs, isDefault_of_setter _ _ hs, ?_⟩
    simp [G.valOf, G.opt, List.getD_eq_getElem?_getD, hi]
    cases opts[i].defval <;> rfl
  · cases h

theorem reuse_eq_create {opts : List Opt} {g0 g : G} (h : create opts = some g0) (hg : g.opts = opts) : reuse g = g0 := by
  unfold create at h
  split at h
  · injection h with h
    subst h
    simp [reuse, hg]
  · cases h

theorem getArg_drop (g : G) (n : Nat) : getArg g ((n : Int) + 1) = (g.argv.drop g.optind)[n]? := by
  rw [getArg_spec]
  by_cases h : g.optind + n < g.argc
  · simp [h, List.getElem?_drop]
  · have : g.argv.length ≤ g.optind + n := by simpa [G.argc] using h
    simp [h, List.getElem?_drop, List.getElem?_eq_none this]

end EaselModel.Getopts
