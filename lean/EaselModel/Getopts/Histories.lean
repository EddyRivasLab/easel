import EaselModel.Getopts.Stops
/-! # C14 — successful runs of every source are `set_option` histories, and the settings a source parses are calls on rows of the
    table, each with an argument unless the row is a flag (`SetOk`): the index hypothesis of the history theorems is discharged for
    real sources.  Then sequences of API calls (`runAll`), and how option lists are read. -/
namespace EaselModel.Getopts

/-- the settings of a parsed config file, up to the first usage error -/
def cfgEvs (src : Nat) : List CfgItem → List Ev
  | [] => []
  | .usage :: _ => []
  | .set i arg :: is => ⟨i, arg, src⟩ :: cfgEvs src is

/-- the settings of a parsed command line, up to the item at which parsing stops -/
def cmdEvs : List CmdItem → List Ev
  | [] => []
  | .stop _ _ _ :: _ => []
  | .set i arg _ :: is => ⟨i, arg, byCmdline⟩ :: cmdEvs is

theorem runCfg_ok_runSets (src : Nat) : ∀ (is : List CfgItem) (g g' : G) (m : Bool), runCfg src g is = .done g' .ok m →
    ∃ g0, runSets g (cfgEvs src is) = some g0 ∧ g' = { g0 with nfiles := g0.nfiles + 1 } := by
  intro is
  induction is with
  | nil => intro g g' m h; cases h; exact ⟨g, rfl, rfl⟩
  | cons it is ih =>
    intro g g' m h
    cases it with
    | usage => cases h
    | set i arg =>
      obtain ⟨g1, m1, hs, hk⟩ := afterSet_ok (upd := id) (k := fun g' => runCfg src g' is) h
      simp only [cfgEvs, runSets, hs]
      exact ih g1 g' m hk

theorem runCmd_ok_runSets : ∀ (is : List CmdItem) (g g' : G) (m : Bool),
    runCmd (fun g' => .done g' .ok false) g is = .done g' .ok m →
    ∃ g0, runSets g (cmdEvs is) = some g0 ∧ g'.val = g0.val ∧ g'.setby = g0.setby ∧ g'.opts = g0.opts := by
  intro is
  induction is with
  | nil => intro g g' m h; cases h; exact ⟨g, rfl, rfl, rfl, rfl⟩
  | cons it is ih =>
    intro g g' m h
    cases it with
    | stop st m' k => cases h; exact ⟨g, rfl, rfl, rfl, rfl⟩
    | set i arg kf =>
      obtain ⟨g1, m1, hs, hk⟩ := afterSet_ok (upd := fun g' => { g' with optind := kf }) (k := fun g' => runCmd _ g' is) h
      simp only [cmdEvs, runSets, hs]
      exact ih g1 g' m hk

theorem CmdParse.evs_idx {opts : List Opt} {k0 : Nat} {ws : List Str} {is : List CmdItem} (h : CmdParse opts k0 ws is) :
    ∀ e ∈ cmdEvs is, e.i < opts.length := by
  induction h with
  | usage k => intro e he; cases he
  | ends _ => intro e he; cases he
  | set kf hok _ ih =>
    intro e he
    rcases List.mem_cons.mp he with rfl | he
    · exact hok.1
    · exact ih e he

theorem cmdline_events_in_table (opts : List Opt) (ws : List Str) (k : Nat) :
    ∀ e ∈ cmdEvs (parseCmd opts k ws false), e.i < opts.length :=
  (parseCmd_shape opts ws k false (by simp)).evs_idx

theorem cfgItem_idx {opts : List Opt} {line : Str} {i : Nat} {arg : Option Str} (h : cfgItem opts line = some (.set i arg)) :
    i < opts.length := by
  obtain ⟨_, _, _, hi, _⟩ := cfgItem_set h
  exact findIdx?_lt hi

theorem cfgEvs_idx (src n : Nat) : ∀ (is : List CfgItem), (∀ i arg, CfgItem.set i arg ∈ is → i < n) → ∀ e ∈ cfgEvs src is, e.i < n := by
  intro is
  induction is with
  | nil => intro _ e h; simp [cfgEvs] at h
  | cons it is ih =>
    intro hok e h
    cases it with
    | usage => simp [cfgEvs] at h
    | set i arg =>
      simp only [cfgEvs] at h
      rcases List.mem_cons.mp h with rfl | h
      · exact hok i arg List.mem_cons_self
      · exact ih (fun j a hj => hok j a (List.mem_cons_of_mem _ hj)) e h

theorem cfgfile_events_in_table (opts : List Opt) (src : Nat) (lines : List Str) :
    ∀ e ∈ cfgEvs src (lines.filterMap (cfgItem opts)), e.i < opts.length := by
  apply cfgEvs_idx
  intro i arg h
  obtain ⟨l, _, hl⟩ := List.mem_filterMap.mp h
  exact cfgItem_idx hl

theorem envEvents_idx (env : Str → Option Str) : ∀ (os : List Opt) (i : Nat), ∀ e ∈ envEvents env i os, i ≤ e.i ∧ e.i < i + os.length ∧ e.arg.isSome := by
  intro os
  induction os with
  | nil => intro i e h; simp [envEvents] at h
  | cons o os ih =>
    intro i e h
    unfold envEvents at h
    have step : ∀ e ∈ envEvents env (i + 1) os, i ≤ e.i ∧ e.i < i + (o :: os).length ∧ e.arg.isSome := by
      intro e he
      obtain ⟨h1, h2, h3⟩ := ih (i + 1) e he
      simp only [List.length_cons]
      exact ⟨by omega, by omega, h3⟩
    split at h
    · exact step e h
    · split at h
      · exact step e h
      · rcases List.mem_cons.mp h with rfl | h
        · simp
        · exact step e h

theorem env_events_in_table (env : Str → Option Str) (opts : List Opt) : ∀ e ∈ envEvents env 0 opts, e.i < opts.length := by
  intro e h
  have := (envEvents_idx env opts 0 e h).2.1
  omega

/-- one configuration source handed to the API -/
inductive Src
  | cmdline (argv : List Str)
  | spoof (s : Str)
  | env (e : Str → Option Str)
  | cfg (content : Str)

def applySrc (g : G) : Src → R
  | .cmdline argv => processCmdline g argv
  | .spoof s => processSpoof g s
  | .env e => processEnvironment g e
  | .cfg c => processConfigfile g c

/-- process sources one after the other, whatever each returns (an application may go on after a usage error);
    `none` = the C code crashed -/
def runAll : G → List Src → Option (List (Status × Bool) × G)
  | g, [] => some ([], g)
  | g, s :: ss =>
    match applySrc g s with
    | .fault => none
    | .done g' st m => (runAll g' ss).map (fun r => ((st, m) :: r.1, r.2))

/-- an element of a toggle / required / incompatible list denotes the option of exactly that name, provided no
    earlier table row has a name that merely starts with it (`process_optlist` takes the first prefix match:
    "optlists are not user input, so the answer to this problem is: don't do that") -/
theorem optlistResolve_named {opts : List Opt} {i : Nat} {o : Opt} (hi : opts[i]? = some o)
    (hfirst : ∀ (j : Nat) (o' : Opt), j < i → opts[j]? = some o' → o.name.isPrefixOf o'.name = false) :
    optlistResolve opts o.name = some i := by
  unfold optlistResolve
  obtain ⟨hlt, heq⟩ := List.getElem?_eq_some_iff.mp hi
  rw [List.findIdx?_eq_some_iff_getElem]
  refine ⟨hlt, ?_, ?_⟩
  · rw [heq]; simp [List.isPrefixOf_iff_prefix]
  · intro j hj
    have := hfirst j opts[j] hj (by simp [Nat.lt_trans hj hlt])
    simp [this]

def joinComma : List Str → Str
  | [] => []
  | [n] => n
  | n :: m :: ns => n ++ ',' :: joinComma (m :: ns)

theorem optlistElemsAux_skip : ∀ (n rest acc : Str), ',' ∉ n →
    optlistElemsAux (n ++ rest) acc = optlistElemsAux rest (n.reverse ++ acc) := by
  intro n
  induction n with
  | nil => intro rest acc _; rfl
  | cons c n ih =>
    intro rest acc h
    have hc : (c == ',') = false := by
      cases hq : c == ',' with
      | false => rfl
      | true => exact absurd (by simp [show c = ',' by simpa using hq]) h
    have hn : ',' ∉ n := fun e => h (List.mem_cons_of_mem _ e)
    simp only [List.cons_append, optlistElemsAux, hc, Bool.false_eq_true, ↓reduceIte]
    rw [ih rest (c :: acc) hn]
    simp

theorem optlistElems_joinComma : ∀ (names : List Str), (∀ n ∈ names, ',' ∉ n ∧ n ≠ []) →
    optlistElems (some (joinComma names)) = names := by
  intro names
  induction names with
  | nil => intro _; rfl
  | cons n ns ih =>
    intro h
    obtain ⟨hn1, hn2⟩ := h n List.mem_cons_self
    have hns : ∀ m ∈ ns, ',' ∉ m ∧ m ≠ [] := fun m hm => h m (List.mem_cons_of_mem _ hm)
    cases ns with
    | nil =>
      have := optlistElemsAux_skip n [] [] hn1
      simp only [List.append_nil] at this
      simp only [optlistElems, joinComma, this, optlistElemsAux]
      have : n.reverse.isEmpty = false := by
        cases n with
        | nil => exact absurd rfl hn2
        | cons a b => simp
      simp [this]
    | cons m ms =>
      have h1 := optlistElemsAux_skip n (',' :: joinComma (m :: ms)) [] hn1
      have ih' := ih hns
      simp only [optlistElems] at ih' ⊢
      simp only [joinComma, h1, List.append_nil, optlistElemsAux, beq_self_eq_true, ↓reduceIte, List.reverse_reverse, ih']

end EaselModel.Getopts
