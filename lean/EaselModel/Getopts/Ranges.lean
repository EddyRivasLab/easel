import EaselModel.Getopts.Model
import EaselModel.Core.ListWhile
/-! # C14 — what a documented range string means: `parse_rangestring` on the three documented forms, and the
    resulting integer / character range tests; `strtol` on a number spelled out, and with it what `esl_str_IsInteger` accepts. -/
namespace EaselModel.Getopts

theorem getD_append_add {α : Type} (d : α) : ∀ (l r : List α) (k : Nat), (l ++ r).getD (l.length + k) d = r.getD k d := by
  intro l
  induction l with
  | nil => intro r k; simp
  | cons a l ih =>
    intro r k
    have : (a :: l).length + k = (l.length + k) + 1 := by simp; omega
    rw [this, List.cons_append, List.getD_cons_succ]
    exact ih r k

theorem idxOf_append (c : Char) : ∀ (pre rest : Str), c ∉ pre → idxOf c (pre ++ c :: rest) = some pre.length := by
  intro pre
  induction pre with
  | nil => intro rest _; simp [idxOf]
  | cons a pre ih =>
    intro rest h
    have ha : a ≠ c := fun e => h (by simp [e])
    have hp : c ∉ pre := fun e => h (List.mem_cons_of_mem _ e)
    simp [idxOf, ha, ih rest hp]

theorem parseRange_lower (c : Char) (b : Str) (incl : Bool) (h : incl = false → b.head? ≠ some '=') :
    parseRange (c :: '>' :: ((if incl then ['='] else []) ++ b)) c =
      some { lower := some b, geq := incl, upper := none, leq := false } := by
  cases incl with
  | true => simp [parseRange, idxOf]
  | false =>
    cases b with
    | nil => simp [parseRange, idxOf]
    | cons x b =>
      have hx : x ≠ '=' := by simpa using h rfl
      simp [parseRange, idxOf, hx]

theorem parseRange_upper (c : Char) (b : Str) (incl : Bool) (h : incl = false → b.head? ≠ some '=') :
    parseRange (c :: '<' :: ((if incl then ['='] else []) ++ b)) c =
      some { lower := none, geq := false, upper := some b, leq := incl } := by
  cases incl with
  | true => simp [parseRange, idxOf]
  | false =>
    cases b with
    | nil => simp [parseRange, idxOf]
    | cons x b =>
      have hx : x ≠ '=' := by simpa using h rfl
      simp [parseRange, idxOf, hx]

/-- spelling of the two-sided form `lo<[=]c<[=]hi` -/
def twoSided (c : Char) (lo : Str) (geq leq : Bool) (hi : Str) : Str :=
  lo ++ ('<' :: ((if geq then ['='] else []) ++ (c :: '<' :: ((if leq then ['='] else []) ++ hi))))

theorem parseRange_mid (c : Char) (lo rest : Str) (geq : Bool) (hc : c ∉ lo) (hc1 : c ≠ '<') (hc2 : c ≠ '=') :
    parseRange (lo ++ '<' :: ((if geq then ['='] else []) ++ c :: '<' :: rest)) c =
      some { lower := some (lo ++ '<' :: ((if geq then ['='] else []) ++ c :: '<' :: rest)), geq := geq,
             upper := some (if rest.getD 0 '\x00' == '=' then rest.drop 1 else rest), leq := rest.getD 0 '\x00' == '=' } := by
  cases geq
  · have hidx := idxOf_append c (lo ++ ['<']) ('<' :: rest) (by simp [hc, hc1])
    have hform : lo ++ '<' :: ((if false then ['='] else []) ++ c :: '<' :: rest) = (lo ++ ['<']) ++ c :: '<' :: rest := by simp
    have hlen : (lo ++ ['<']).length = lo.length + 1 := by simp
    rw [hform]
    generalize hR : (lo ++ ['<']) ++ c :: '<' :: rest = R at *
    have g1 : (R.getD (lo.length + 1 + 1) '\x00' != '<') = false := by
      rw [← hR, ← hlen, getD_append_add]; rfl
    have g2 : R.getD (lo.length + 1 + 2) '\x00' = rest.getD 0 '\x00' := by
      rw [← hR, ← hlen, getD_append_add]; rfl
    have hq : lo.length + 1 - 1 = lo.length + 0 := by omega
    have g3 : (R.getD (lo.length + 1 - 1) '\x00' == '=') = false := by
      rw [← hR, hq, List.append_assoc, getD_append_add]; rfl
    have g4 : (R.getD (lo.length + 1 - 1) '\x00' != '<') = false := by
      rw [← hR, hq, List.append_assoc, getD_append_add]; rfl
    have d1 : R.drop (lo.length + 1 + 2) = rest := by
      rw [← hR, ← hlen, List.drop_length_add_append]; rfl
    have d2 : R.drop (lo.length + 1 + 3) = rest.drop 1 := by
      rw [← hR, ← hlen, List.drop_length_add_append]; rfl
    have p0 : (lo.length + 1 == 0) = false := by simp
    unfold parseRange
    rw [hidx, hlen]
    simp only [p0, g1, g2, g3, g4, d1, d2, Bool.false_eq_true, ↓reduceIte, Bool.false_and]
  · have hidx := idxOf_append c (lo ++ ['<', '=']) ('<' :: rest) (by simp [hc, hc1, hc2])
    have hform : lo ++ '<' :: ((if true then ['='] else []) ++ c :: '<' :: rest) = (lo ++ ['<', '=']) ++ c :: '<' :: rest := by simp
    have hlen : (lo ++ ['<', '=']).length = lo.length + 2 := by simp
    rw [hform]
    generalize hR : (lo ++ ['<', '=']) ++ c :: '<' :: rest = R at *
    have g1 : (R.getD (lo.length + 2 + 1) '\x00' != '<') = false := by
      rw [← hR, ← hlen, getD_append_add]; rfl
    have g2 : R.getD (lo.length + 2 + 2) '\x00' = rest.getD 0 '\x00' := by
      rw [← hR, ← hlen, getD_append_add]; rfl
    have g3 : (R.getD (lo.length + 2 - 1) '\x00' == '=') = true := by
      have : lo.length + 2 - 1 = lo.length + 1 := by omega
      rw [← hR, this, List.append_assoc, getD_append_add]; rfl
    have g4 : (R.getD (lo.length + 2 - 1 - 1) '\x00' != '<') = false := by
      have : lo.length + 2 - 1 - 1 = lo.length + 0 := by omega
      rw [← hR, this, List.append_assoc, getD_append_add]; rfl
    have d1 : R.drop (lo.length + 2 + 2) = rest := by
      rw [← hR, ← hlen, List.drop_length_add_append]; rfl
    have d2 : R.drop (lo.length + 2 + 3) = rest.drop 1 := by
      rw [← hR, ← hlen, List.drop_length_add_append]; rfl
    have p0 : (lo.length + 2 == 0) = false := by simp
    have q0 : (lo.length + 2 - 1 == 0) = false := by simp
    unfold parseRange
    rw [hidx, hlen]
    simp only [p0, q0, g1, g2, g3, g4, d1, d2, Bool.false_eq_true, ↓reduceIte, Bool.and_false]

theorem parseRange_twoSided (c : Char) (lo hi : Str) (geq leq : Bool) (hc : c ∉ lo) (hc1 : c ≠ '<') (hc2 : c ≠ '=')
    (hhi : leq = false → hi.head? ≠ some '=') :
    parseRange (twoSided c lo geq leq hi) c =
      some { lower := some (twoSided c lo geq leq hi), geq := geq, upper := some hi, leq := leq } := by
  unfold twoSided
  rw [parseRange_mid c lo _ geq hc hc1 hc2]
  cases leq
  · have hx : (hi.getD 0 '\x00' == '=') = false := by
      cases hi with
      | nil => rfl
      | cons y hi =>
        have : y ≠ '=' := by simpa using hhi rfl
        simp [this]
    simp only [Bool.false_eq_true, ↓reduceIte, List.nil_append, hx]
  · simp

theorem not_space_of_digit {c : Char} (h : isDigit c = true) : isSpace c = false := by
  simp only [isDigit, Bool.and_eq_true, decide_eq_true_eq] at h
  have key : ∀ x : Char, x < '0' → (c == x) = false := by
    intro x hx
    cases hcx : c == x with
    | false => rfl
    | true =>
      have : c = x := by simpa using hcx
      subst this
      exact absurd h.1 (Char.not_le.mpr hx)
  simp [isSpace, key ' ' (by decide), key '\t' (by decide), key '\n' (by decide), key '\x0b' (by decide),
    key '\x0c' (by decide), key '\r' (by decide)]

/-- an integer literal as it appears in a range string or a default: optional `-`, then digits -/
def IntLit (s : Str) : Prop :=
  ∃ (neg : Bool) (ds : Str), ds ≠ [] ∧ (∀ d ∈ ds, isDigit d = true) ∧ s = (if neg then ['-'] else []) ++ ds

theorem takeWhile_digits' (ds tail : Str) (hds : ∀ d ∈ ds, isDigit d = true) (ht : ∀ c, tail.head? = some c → isDigit c = false) :
    (ds ++ tail).takeWhile isDigit = ds ∧ (ds ++ tail).dropWhile isDigit = tail := by
  induction ds with
  | nil =>
    cases tail with
    | nil => exact ⟨rfl, rfl⟩
    | cons c r =>
      have := ht c rfl
      simp only [List.nil_append, List.takeWhile_cons, List.dropWhile_cons, this, Bool.false_eq_true, ↓reduceIte, and_self]
  | cons d ds ih =>
    have hd := hds d List.mem_cons_self
    have := ih (fun x hx => hds x (List.mem_cons_of_mem _ hx))
    simp only [List.cons_append, List.takeWhile_cons, List.dropWhile_cons, hd, ↓reduceIte, this.1, this.2, and_self]

theorem takeWhile_digits (ds : Str) (c : Char) (rest : Str) (hds : ∀ d ∈ ds, isDigit d = true) (hc : isDigit c = false) :
    (ds ++ c :: rest).takeWhile isDigit = ds ∧ (ds ++ c :: rest).dropWhile isDigit = c :: rest :=
  takeWhile_digits' ds (c :: rest) hds fun _ hx => Option.some.inj hx ▸ hc

theorem signOf_digit {d : Char} (r : Str) (hd : isDigit d = true) : signOf (d :: r) = (false, d :: r) := by
  have hd1 : d ≠ '-' := by intro e; subst e; simp [isDigit] at hd
  have hd2 : d ≠ '+' := by intro e; subst e; simp [isDigit] at hd
  unfold signOf
  split
  · rename_i r' heq; injection heq with h1 _; exact absurd h1 hd1
  · rename_i r' heq; injection heq with h1 _; exact absurd h1 hd2
  · rfl

theorem dropWhile_space_prefix : ∀ (ws x : Str), (∀ c ∈ ws, isSpace c = true) → (x.dropWhile isSpace = x) →
    (ws ++ x).dropWhile isSpace = x := by
  intro ws
  induction ws with
  | nil => intro x _ hx; simpa using hx
  | cons a ws ih =>
    intro x h hx
    simp only [List.cons_append, List.dropWhile_cons, h a List.mem_cons_self, ↓reduceIte]
    exact ih x (fun c hc => h c (List.mem_cons_of_mem _ hc)) hx

/-- `strtol` on an integer spelled out — blanks, sign, at least one digit — followed by `tail`, which does not start with a digit -/
theorem strtol_parts {ws1 sign ds tail : Str} (hw1 : ∀ c ∈ ws1, isSpace c = true) (hsign : sign = [] ∨ sign = ['-'] ∨ sign = ['+'])
    (hne : ds ≠ []) (hds : ∀ d ∈ ds, isDigit d = true) (ht : ∀ c, tail.head? = some c → isDigit c = false) :
    strtol (ws1 ++ sign ++ ds ++ tail) =
      some ((if sign == ['-'] then - (digitsVal ds : Int) else (digitsVal ds : Int)), tail) := by
  obtain ⟨d, ds', rfl⟩ := List.exists_cons_of_ne_nil hne
  have hd := hds d List.mem_cons_self
  have htw := takeWhile_digits' (d :: ds') tail hds ht
  have hst : signOf ((ws1 ++ sign ++ (d :: ds') ++ tail).dropWhile isSpace) = (sign == ['-'], (d :: ds') ++ tail) := by
    have e : ws1 ++ sign ++ (d :: ds') ++ tail = ws1 ++ (sign ++ ((d :: ds') ++ tail)) := by simp [List.append_assoc]
    rw [e]
    rcases hsign with rfl | rfl | rfl
    · rw [List.nil_append, dropWhile_space_prefix ws1 _ hw1 (by simp [not_space_of_digit hd])]; exact signOf_digit _ hd
    · rw [dropWhile_space_prefix ws1 _ hw1 (by simp [isSpace])]; rfl
    · rw [dropWhile_space_prefix ws1 _ hw1 (by simp [isSpace])]; rfl
  unfold strtol
  simp only [hst, htw.1, htw.2, List.isEmpty_cons, Bool.false_eq_true, ↓reduceIte]

theorem atoi_lit_append {lo : Str} (h : IntLit lo) (c : Char) (rest : Str) (hc : isDigit c = false) :
    atoi (lo ++ c :: rest) = atoi lo := by
  obtain ⟨neg, ds, hne, hds, rfl⟩ := h
  have hs : (if neg then ['-'] else []) = [] ∨ (if neg then ['-'] else []) = ['-'] ∨ (if neg then ['-'] else []) = ['+'] := by
    cases neg <;> simp
  have h1 := strtol_parts (ws1 := []) (tail := c :: rest) (by simp) hs hne hds fun x hx => Option.some.inj hx ▸ hc
  have h2 := strtol_parts (ws1 := []) (tail := []) (by simp) hs hne hds fun x hx => nomatch hx
  simp only [List.nil_append, List.append_nil] at h1 h2
  unfold atoi
  rw [h1, h2]

theorem intLit_no_marker {lo : Str} (h : IntLit lo) : 'n' ∉ lo := by
  obtain ⟨neg, ds, _, hds, rfl⟩ := h
  intro hm
  rcases List.mem_append.mp hm with hm | hm
  · cases neg <;> simp at hm
  · have := hds 'n' hm; simp [isDigit] at this

theorem intRangeOk_twoSided (v lo hi : Str) (geq leq : Bool) (hlo : IntLit lo) (hhi : leq = false → hi.head? ≠ some '=') :
    intRangeOk v (some (twoSided 'n' lo geq leq hi)) =
      ((if geq then decide (atoi v ≥ atoi lo) else decide (atoi v > atoi lo)) &&
       (if leq then decide (atoi v ≤ atoi hi) else decide (atoi v < atoi hi))) := by
  have hp := parseRange_twoSided 'n' lo hi geq leq (intLit_no_marker hlo) (by decide) (by decide) hhi
  have ha : atoi (twoSided 'n' lo geq leq hi) = atoi lo := by
    unfold twoSided
    exact atoi_lit_append hlo '<' _ (by decide)
  unfold intRangeOk
  simp only [hp, ha]

theorem intRangeOk_lower (v a : Str) (incl : Bool) (h : incl = false → a.head? ≠ some '=') :
    intRangeOk v (some ('n' :: '>' :: ((if incl then ['='] else []) ++ a))) =
      (if incl then decide (atoi v ≥ atoi a) else decide (atoi v > atoi a)) := by
  simp [intRangeOk, parseRange_lower 'n' a incl h]

theorem intRangeOk_upper (v b : Str) (incl : Bool) (h : incl = false → b.head? ≠ some '=') :
    intRangeOk v (some ('n' :: '<' :: ((if incl then ['='] else []) ++ b))) =
      (if incl then decide (atoi v ≤ atoi b) else decide (atoi v < atoi b)) := by
  simp [intRangeOk, parseRange_upper 'n' b incl h]

theorem charRangeOk_twoSided (v lo hi : Str) (geq leq : Bool) (hc : 'c' ∉ lo) (hne : lo ≠ []) (hhi : leq = false → hi.head? ≠ some '=') :
    charRangeOk v (some (twoSided 'c' lo geq leq hi)) =
      ((if geq then decide ((v.getD 0 '\x00').toNat ≥ (lo.getD 0 '\x00').toNat) else decide ((v.getD 0 '\x00').toNat > (lo.getD 0 '\x00').toNat)) &&
       (if leq then decide ((v.getD 0 '\x00').toNat ≤ (hi.getD 0 '\x00').toNat) else decide ((v.getD 0 '\x00').toNat < (hi.getD 0 '\x00').toNat))) := by
  have hp := parseRange_twoSided 'c' lo hi geq leq hc (by decide) (by decide) hhi
  have h0 : (twoSided 'c' lo geq leq hi).getD 0 '\x00' = lo.getD 0 '\x00' := by
    obtain ⟨x, lo', rfl⟩ := List.exists_cons_of_ne_nil hne
    simp [twoSided]
  unfold charRangeOk
  simp only [hp, h0]

/-- what `esl_str_IsInteger` accepts: blanks, an optional sign, at least one digit, blanks -/
def IntSyntax (s : Str) : Prop :=
  ∃ (ws1 sign ds ws2 : Str), (∀ c ∈ ws1, isSpace c = true) ∧ (sign = [] ∨ sign = ['-'] ∨ sign = ['+']) ∧ ds ≠ [] ∧
    (∀ d ∈ ds, isDigit d = true) ∧ (∀ c ∈ ws2, isSpace c = true) ∧ s = ws1 ++ sign ++ ds ++ ws2

theorem not_digit_of_space {c : Char} (h : isSpace c = true) : isDigit c = false := by
  cases hd : isDigit c with
  | false => rfl
  | true => rw [not_space_of_digit hd] at h; cases h

theorem signOf_spec (t : Str) : ∃ sign, (sign = [] ∨ sign = ['-'] ∨ sign = ['+']) ∧ t = sign ++ (signOf t).2 := by
  unfold signOf
  split
  · exact ⟨['-'], Or.inr (Or.inl rfl), rfl⟩
  · exact ⟨['+'], Or.inr (Or.inr rfl), rfl⟩
  · exact ⟨[], Or.inl rfl, rfl⟩

theorem isInteger_sound (s : Str) (h : isInteger s = true) : IntSyntax s := by
  unfold isInteger at h
  cases hst : strtol s with
  | none => simp [hst] at h
  | some r =>
    obtain ⟨v, rest⟩ := r
    simp only [hst] at h
    unfold strtol at hst
    simp only at hst
    split at hst
    · cases hst
    · rename_i hne
      injection hst with hst
      obtain ⟨sign, hsign, ht⟩ := signOf_spec (s.dropWhile isSpace)
      have hrest : (signOf (s.dropWhile isSpace)).2.dropWhile isDigit = rest := congrArg Prod.snd hst
      refine ⟨s.takeWhile isSpace, sign, (signOf (s.dropWhile isSpace)).2.takeWhile isDigit, rest, fun _ => mem_takeWhile_imp, hsign, ?_,
        fun _ => mem_takeWhile_imp, ?_, ?_⟩
      · intro he; rw [he] at hne; exact hne rfl
      · intro c hc; exact List.all_eq_true.mp h c hc
      · have h1 : s = s.takeWhile isSpace ++ s.dropWhile isSpace := (List.takeWhile_append_dropWhile).symm
        have h2 : (signOf (s.dropWhile isSpace)).2 = (signOf (s.dropWhile isSpace)).2.takeWhile isDigit ++ rest := by
          rw [← hrest]; exact (List.takeWhile_append_dropWhile).symm
        conv => lhs; rw [h1, ht, h2]
        simp [List.append_assoc]

theorem isInteger_complete (s : Str) (h : IntSyntax s) : isInteger s = true := by
  obtain ⟨ws1, sign, ds, ws2, hw1, hsign, hne, hds, hw2, rfl⟩ := h
  unfold isInteger
  rw [strtol_parts hw1 hsign hne hds fun c hc => not_digit_of_space (hw2 c (List.mem_of_mem_head? hc))]
  exact List.all_eq_true.mpr hw2

/-- **"a value of the wrong type", integers**: an argument is accepted as an integer iff it consists of optional
    blanks, an optional sign, at least one decimal digit, and optional blanks -/
theorem isInteger_iff (s : Str) : isInteger s = true ↔ IntSyntax s := ⟨isInteger_sound s, isInteger_complete s⟩

end EaselModel.Getopts
