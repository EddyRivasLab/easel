import EaselModel.Getopts.RealRound
import EaselModel.Getopts.RoundLemmas
import EaselModel.Getopts.RealLit
/-! # C14 — meaning of the real range strings over the ROUNDED values (no restriction on the number of digits) -/
namespace EaselModel.Getopts

/-- **two-sided real range on doubles**: `lo<[=]x<[=]hi` accepts the argument iff the double `atof` makes of it lies
    between the doubles `atof` makes of the bounds, inclusively or exclusively as the `=` signs say — for arguments
    and bounds of any length -/
theorem realRangeOkD_twoSided (v lo hi : Str) (geq leq : Bool) (hc : 'x' ∉ lo) (hhi : leq = false → hi.head? ≠ some '=') :
    realRangeOkD v (some (twoSided 'x' lo geq leq hi)) =
      ((if geq then Dec.dle (atof (twoSided 'x' lo geq leq hi)) (atof v) else Dec.dlt (atof (twoSided 'x' lo geq leq hi)) (atof v)) &&
       (if leq then Dec.dle (atof v) (atof hi) else Dec.dlt (atof v) (atof hi))) := by
  have hp := parseRange_twoSided 'x' lo hi geq leq hc (by decide) (by decide) hhi
  unfold realRangeOkD
  simp only [hp]

theorem realRangeOkD_twoSided_lit (v lo hi : Str) (geq leq : Bool) {neg : Bool} {ip fp : Str} {dot : Bool}
    (hlo : RealLit lo neg ip fp dot) (hhi : leq = false → hi.head? ≠ some '=') :
    realRangeOkD v (some (twoSided 'x' lo geq leq hi)) =
      ((if geq then Dec.dle (atof lo) (atof v) else Dec.dlt (atof lo) (atof v)) &&
       (if leq then Dec.dle (atof v) (atof hi) else Dec.dlt (atof v) (atof hi))) := by
  have := realRangeOkD_twoSided v lo hi geq leq (realLit_no_marker hlo) hhi
  have ha : atof (twoSided 'x' lo geq leq hi) = atof lo := by
    unfold twoSided
    exact atof_lit_append hlo _
  rw [ha] at this
  exact this

theorem realRangeOkD_lower (v a : Str) (incl : Bool) (h : incl = false → a.head? ≠ some '=') :
    realRangeOkD v (some ('x' :: '>' :: ((if incl then ['='] else []) ++ a))) =
      (if incl then Dec.dle (atof a) (atof v) else Dec.dlt (atof a) (atof v)) := by
  simp [realRangeOkD, parseRange_lower 'x' a incl h]

theorem realRangeOkD_upper (v b : Str) (incl : Bool) (h : incl = false → b.head? ≠ some '=') :
    realRangeOkD v (some ('x' :: '<' :: ((if incl then ['='] else []) ++ b))) =
      (if incl then Dec.dle (atof v) (atof b) else Dec.dlt (atof v) (atof b)) := by
  simp [realRangeOkD, parseRange_upper 'x' b incl h]

theorem frac_den_pos (d : Dec) : 0 < d.frac.2 := by
  unfold Dec.frac
  split
  · exact Nat.one_pos
  · exact Nat.pow_pos (by decide)

/-- **rounding never reorders magnitudes**: for two non-zero decimals inside the exponent window, `|a| ≤ |b|` as exact
    values implies the same for the doubles (clamping at infinity included) -/
theorem dmag_mono (a b : Dec) (ha : a.mant ≠ 0) (hb : b.mant ≠ 0) (ha1 : ¬ a.exp > 5000) (ha2 : ¬ a.exp < -5000)
    (hb1 : ¬ b.exp > 5000) (hb2 : ¬ b.exp < -5000) (h : a.frac.1 * b.frac.2 ≤ b.frac.1 * a.frac.2) : a.dmag ≤ b.dmag := by
  have hm := toDbl_mono a.frac.1 a.frac.2 b.frac.1 b.frac.2 (frac_den_pos a) (frac_den_pos b) h
  have ha' : (a.mant == 0) = false := by simpa using ha
  have hb' : (b.mant == 0) = false := by simpa using hb
  unfold Dec.dmag
  simp only [ha', hb', ha1, ha2, hb1, hb2, Bool.false_eq_true, ↓reduceIte]
  generalize (toDbl a.frac.1 a.frac.2).1 * 2 ^ (toDbl a.frac.1 a.frac.2).2 = A at hm ⊢
  generalize (toDbl b.frac.1 b.frac.2).1 * 2 ^ (toDbl b.frac.1 b.frac.2).2 = B at hm ⊢
  generalize INFMAG = I
  by_cases h1 : A ≥ I <;> by_cases h2 : B ≥ I <;> simp only [h1, h2, ↓reduceIte] <;> omega

theorem dle_mono_right (lo x y : Dec) (hxn : x.neg = false) (hyn : y.neg = false) (h : x.dmag ≤ y.dmag)
    (hacc : Dec.dle lo x = true) : Dec.dle lo y = true := by
  simp only [Dec.dle, Dec.dkey, hxn, hyn, Bool.false_eq_true, ↓reduceIte, decide_eq_true_eq] at hacc ⊢
  omega

end EaselModel.Getopts
