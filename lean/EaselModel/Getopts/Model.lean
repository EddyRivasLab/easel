/-! # C14 — executable model of `esl_getopts.c`

Hand model (kind H), written function by function after the C code (pinned tree + the three `fix:` changes
named below).  Strings are `List Char` (one `Char` per C byte; the generator stays in ASCII), option values are
`Val` = `NULL` | `(char*)1` | a string, exactly the three shapes `g->val[i]` can have.

Covered C functions: `esl_getopts_Create` (default verification), `esl_getopts_Reuse`, `set_option`, `get_optidx_exactly`,
`get_optidx_abbrev`, `esl_getopts`, `process_longopt`, `process_stdopt`, `esl_opt_ProcessCmdline`,
`esl_opt_ProcessSpoof`, `esl_opt_ProcessEnvironment`, `esl_opt_ProcessConfigfile`, `esl_opt_VerifyConfig`,
`process_optlist`, `verify_type_and_range`, `verify_integer_range`, `verify_real_range`, `verify_char_range`,
`parse_rangestring`, `esl_str_IsInteger`, `esl_str_IsReal`, `esl_strtok`, and the queries `IsDefault IsOn IsUsed
GetSetter` (`G.setter`) `GetArg ArgNumber`; the value getters read `G.valOf` (`getInteger` stands in `HelpLemmas.lean`).

Behaviour after the landed `fix:` commits (DESIGN §7 item 2; 8d4fde4; df08745):
* `process_stdopt`: only a single-character option `-c` matches the option character `c` of a cluster;
* `esl_opt_ProcessConfigfile`: an option that takes an argument and has none on its line is a usage error;
* a second `esl_opt_ProcessSpoof` on one object returns `eslEINVAL` with a message and leaves the object untouched.

Core Lean only (imported by the driver). -/
namespace EaselModel.Getopts

abbrev Str := List Char

inductive Status | ok | esyntax | einval
  deriving DecidableEq, Repr, Inhabited

/-- one row of the `ESL_OPTIONS` array (help string and docgroup do not influence processing) -/
structure Opt where
  name : Str
  type : Nat                 -- 0 NONE, 1 INT, 2 REAL, 3 CHAR, 4 STRING, 5 INFILE, 6 OUTFILE
  defval : Option Str := none
  envvar : Option Str := none
  range : Option Str := none
  toggle : Option Str := none
  required : Option Str := none
  incompat : Option Str := none
  deriving DecidableEq, Repr, Inhabited

/-- `g->val[i]`: `NULL`, the marker `(char *) TRUE`, or a C string -/
inductive Val | null | one | str (s : Str)
  deriving DecidableEq, Repr, Inhabited

def Val.isNull : Val → Bool
  | .null => true
  | _ => false

/-- setter codes -/
def byDefault : Nat := 0
def byCmdline : Nat := 1
def byEnv : Nat := 2
def byCfgfile : Nat := 3

structure G where
  opts : List Opt
  val : List Val
  setby : List Nat
  argv : List Str := []     -- argv of the last ProcessCmdline, including argv[0]
  optind : Nat := 1
  nfiles : Nat := 0
  spoofed : Bool := false
  deriving DecidableEq, Repr, Inhabited

def G.argc (g : G) : Nat := g.argv.length
def G.opt (g : G) (i : Nat) : Opt := g.opts.getD i default
def G.valOf (g : G) (i : Nat) : Val := g.val.getD i .null
def G.setter (g : G) (i : Nat) : Nat := g.setby.getD i 0

/-- outcome of one API call: new state, status, "errbuf was written"; or a crash of the C code -/
inductive R
  | done (g : G) (st : Status) (msg : Bool)
  | fault
  deriving DecidableEq, Repr, Inhabited

def isStringy (t : Nat) : Bool := t == 4 || t == 5 || t == 6

/-! ## libc pieces: `isspace`, `strtol`, `strtod` (decimal forms), `esl_strtok` -/

def isSpace (c : Char) : Bool :=
  c == ' ' || c == '\t' || c == '\n' || c == '\x0b' || c == '\x0c' || c == '\r'

def isDigit (c : Char) : Bool := '0' ≤ c && c ≤ '9'
def digitVal (c : Char) : Nat := c.toNat - 48

def digitsVal (ds : Str) : Nat := ds.foldl (fun a c => 10 * a + digitVal c) 0

/-- split off an optional sign -/
def signOf : Str → Bool × Str
  | '-' :: r => (true, r)
  | '+' :: r => (false, r)
  | t => (false, t)

/-- `strtol(s, &endp, 10)`: `none` when no conversion is possible (`endp == s`), else the exact value and the
    unconverted rest. -/
def strtol (s : Str) : Option (Int × Str) :=
  let st := signOf (s.dropWhile isSpace)
  let ds := st.2.takeWhile isDigit
  if ds.isEmpty then none
  else some ((if st.1 then - (digitsVal ds : Int) else (digitsVal ds : Int)), st.2.dropWhile isDigit)

/-- `esl_str_IsInteger` (`s == NULL` is the caller's `none`) -/
def isInteger (s : Str) : Bool :=
  match strtol s with
  | none => false
  | some (_, rest) => rest.all isSpace

/-- `(int) strtol(...)` as glibc's `atoi` computes it: clamp to `long`, truncate to 32 bits -/
def wrapInt (v : Int) : Int :=
  let v := if v > 9223372036854775807 then 9223372036854775807 else if v < -9223372036854775808 then -9223372036854775808 else v
  let m := v % 4294967296
  if m ≥ 2147483648 then m - 4294967296 else m

def atoi (s : Str) : Int :=
  match strtol s with
  | none => 0
  | some (v, _) => wrapInt v

/-- an exact decimal: `neg`, mantissa, power of ten -/
structure Dec where
  neg : Bool
  mant : Nat
  exp : Int
  deriving DecidableEq, Repr, Inhabited

/-- the fraction of a decimal literal, read after the integer digits: `(fraction digits, what follows)`.
    A `.` is consumed even when no digit follows it (`5.`). -/
def fracOf (t1 : Str) : Str × Str :=
  match t1 with
  | '.' :: r => (r.takeWhile isDigit, r.dropWhile isDigit)
  | _ => ([], t1)

/-- the exponent of a decimal literal: `e`/`E`, optional sign, at least one digit — otherwise nothing is consumed -/
def expOf (t2 : Str) : Int × Str :=
  match t2 with
  | c :: r =>
    if c == 'e' || c == 'E' then
      let sg := signOf r
      let ed := sg.2.takeWhile isDigit
      if ed.isEmpty then (0, t2)
      else ((if sg.1 then - (digitsVal ed : Int) else (digitsVal ed : Int)), sg.2.dropWhile isDigit)
    else (0, t2)
  | [] => (0, t2)

/-- `strtod` restricted to the decimal grammar `ws* [+-]? (d+ (. d*)? | . d+) ([eE] [+-]? d+)?`; `none` when no
    conversion.  (Hexadecimal, `inf`, `nan` forms are outside the model; the generator does not produce them.) -/
def strtod (s : Str) : Option (Dec × Str) :=
  let st := signOf (s.dropWhile isSpace)
  let ip := st.2.takeWhile isDigit
  let fr := fracOf (st.2.dropWhile isDigit)
  if ip.isEmpty && fr.1.isEmpty then none
  else
    let ex := expOf fr.2
    some ({ neg := st.1, mant := digitsVal (ip ++ fr.1), exp := - (fr.1.length : Int) + ex.1 }, ex.2)

/-- `esl_str_IsReal` -/
def isReal (s : Str) : Bool :=
  match strtod s with
  | none => false
  | some (_, rest) => rest.all isSpace

def atof (s : Str) : Dec :=
  match strtod s with
  | none => { neg := false, mant := 0, exp := 0 }
  | some (d, _) => d

/-- exact comparison of two decimals: sign of `a - b` scaled by a positive power of ten -/
def Dec.cmpKey (a b : Dec) : Int :=
  let e := min a.exp b.exp
  let sa : Int := (if a.neg then -1 else 1) * (a.mant * 10 ^ (a.exp - e).toNat : Nat)
  let sb : Int := (if b.neg then -1 else 1) * (b.mant * 10 ^ (b.exp - e).toNat : Nat)
  sa - sb

def Dec.lt (a b : Dec) : Bool := Dec.cmpKey a b < 0
def Dec.le (a b : Dec) : Bool := Dec.cmpKey a b ≤ 0

/-- `esl_strtok(&s, delim, &tok)`: `(tok, new s)`; when there is no token `s` is left unchanged -/
def strtok (s : Str) (delim : Str) : Option Str × Str :=
  let t := s.dropWhile (fun c => delim.contains c)
  match t with
  | [] => (none, s)
  | _ =>
    let tok := t.takeWhile (fun c => !delim.contains c)
    match t.dropWhile (fun c => !delim.contains c) with
    | [] => (some tok, [])
    | _ :: r => (some tok, r)

def wsDelim : Str := [' ', '\t', '\n']

/-! ## range strings -/

structure Range where
  lower : Option Str
  geq : Bool
  upper : Option Str
  leq : Bool
  deriving Repr, DecidableEq, Inhabited

def idxOf (c : Char) : Str → Option Nat
  | [] => none
  | d :: r => if d == c then some 0 else (idxOf c r).map (· + 1)

/-- `parse_rangestring(range, c, ...)`; `none` = `eslEINVAL` (malformed range string) -/
def parseRange (range : Str) (c : Char) : Option Range :=
  match idxOf c range with
  | none => none
  | some p =>
    if p == 0 then
      -- "c>=a", "c>a", "c<=b", "c<b"
      let r1 := range.getD 1 '\x00'
      let r2 := range.getD 2 '\x00'
      if r1 == '>' then
        if r2 == '=' then some { lower := some (range.drop 3), geq := true, upper := none, leq := false }
        else some { lower := some (range.drop 2), geq := false, upper := none, leq := false }
      else if r1 == '<' then
        if r2 == '=' then some { lower := none, geq := false, upper := some (range.drop 3), leq := true }
        else some { lower := none, geq := false, upper := some (range.drop 2), leq := false }
      else none
    else
      -- "a<=c<=b": upper bound after c, lower bound = start of the string
      if range.getD (p + 1) '\x00' != '<' then none
      else
        let leq := range.getD (p + 2) '\x00' == '='
        let upper := if leq then range.drop (p + 3) else range.drop (p + 2)
        -- ptr--; if (*ptr == '=') { geq; ptr--; } if (*ptr != '<') EINVAL
        let q := p - 1
        let geq := range.getD q '\x00' == '='
        if geq && q == 0 then none      -- would read before the string: malformed table
        else
          let q' := if geq then q - 1 else q
          if range.getD q' '\x00' != '<' then none
          else some { lower := some range, geq := geq, upper := some upper, leq := leq }

/-- `verify_integer_range`: `true` = `eslOK` -/
def intRangeOk (arg : Str) (range : Option Str) : Bool :=
  match range with
  | none => true
  | some r =>
    let n := atoi arg
    match parseRange r 'n' with
    | none => false
    | some rg =>
      (match rg.lower with
        | none => true
        | some lp => if rg.geq then n ≥ atoi lp else n > atoi lp) &&
      (match rg.upper with
        | none => true
        | some up => if rg.leq then n ≤ atoi up else n < atoi up)

/-- `verify_real_range` -/
def realRangeOk (arg : Str) (range : Option Str) : Bool :=
  match range with
  | none => true
  | some r =>
    let x := atof arg
    match parseRange r 'x' with
    | none => false
    | some rg =>
      (match rg.lower with
        | none => true
        | some lp => if rg.geq then Dec.le (atof lp) x else Dec.lt (atof lp) x) &&
      (match rg.upper with
        | none => true
        | some up => if rg.leq then Dec.le x (atof up) else Dec.lt x (atof up))

/-- `verify_char_range` (`c = *arg`, the NUL for an empty string) -/
def charRangeOk (arg : Str) (range : Option Str) : Bool :=
  match range with
  | none => true
  | some r =>
    let c := (arg.getD 0 '\x00').toNat
    match parseRange r 'c' with
    | none => false
    | some rg =>
      (match rg.lower with
        | none => true
        | some lp => let l := (lp.getD 0 '\x00').toNat; if rg.geq then c ≥ l else c > l) &&
      (match rg.upper with
        | none => true
        | some up => let u := (up.getD 0 '\x00').toNat; if rg.leq then c ≤ u else c < u)

/-- result of `verify_type_and_range` -/
inductive V | good | bad | exc | fault
  deriving DecidableEq, Repr

/-- `verify_type_and_range(g, i, val, setby)`; `bad` = `eslESYNTAX` with a message, `exc` = `ESL_EXCEPTION`
    (malformed table), `fault` = the C code dereferences NULL (`strlen(NULL)`) -/
def verifyTypeRange (o : Opt) (val : Option Str) (src : Nat) : V :=
  if src == byDefault && val.isNone then .good
  else match o.type with
  | 0 => .good
  | 1 => match val with
    | none => .bad
    | some v => if !isInteger v then .bad else if !intRangeOk v o.range then .bad else .good
  | 2 => match val with
    | none => .bad
    | some v => if !isReal v then .bad else if !realRangeOk v o.range then .bad else .good
  | 3 => match val with
    | none => .fault
    | some v => if v.length > 1 then .bad else if !charRangeOk v o.range then .bad else .good
  | 4 | 5 | 6 => if o.range.isSome then .exc else .good
  | _ => .exc

/-! ## option lookup -/

/-- `get_optidx_exactly` -/
def optidxExactly (opts : List Opt) (name : Str) : Option Nat :=
  opts.findIdx? (fun o => o.name == name)

inductive Abbrev | found (i : Nat) | notfound | ambiguous
  deriving DecidableEq, Repr

/-- the scan loop of `get_optidx_abbrev`: `(nabbrev, nexact, last matching index)` -/
def abbrevScan (key : Str) : List Opt → Nat → Nat → Nat → Nat × Nat × Nat
  | [], _, nab, last => (nab, 0, last)
  | o :: os, i, nab, last =>
    if key.isPrefixOf o.name then
      if key.length == o.name.length then (nab + 1, 1, i)
      else abbrevScan key os (i + 1) (nab + 1) i
    else abbrevScan key os (i + 1) nab last

/-- `get_optidx_abbrev(g, optname, n, &opti)` with `key` = the first `n` characters of `optname` -/
def optidxAbbrev (opts : List Opt) (key : Str) : Abbrev :=
  let (nab, nex, last) := abbrevScan key opts 0 0 0
  if nex != 1 && nab > 1 then .ambiguous
  else if nab == 0 then .notfound
  else .found last

/-- the elements `process_optlist` walks through in a comma-separated list -/
def optlistElemsAux : Str → Str → List Str
  | [], acc => if acc.isEmpty then [] else [acc.reverse]
  | c :: r, acc => if c == ',' then acc.reverse :: optlistElemsAux r [] else optlistElemsAux r (c :: acc)

def optlistElems (s : Option Str) : List Str :=
  match s with
  | none => []
  | some s => optlistElemsAux s []

/-- `process_optlist` lookup: first option whose name starts with the element -/
def optlistResolve (opts : List Opt) (e : Str) : Option Nat :=
  opts.findIdx? (fun o => e.isPrefixOf o.name)

/-! ## `set_option` -/

def G.put (g : G) (i : Nat) (v : Val) (src : Nat) : G :=
  { g with val := g.val.set i v, setby := g.setby.set i src }

/-- the toggle loop at the end of `set_option` -/
def toggleLoop (g : G) (i src : Nat) : List Str → R
  | [] => .done g .ok false
  | e :: es =>
    match optlistResolve g.opts e with
    | none => .done g .einval false
    | some t =>
      if t == i then toggleLoop g i src es
      else if (g.valOf t).isNull then toggleLoop g i src es
      else if g.setter t == src then .done g .esyntax true
      else toggleLoop (g.put t .null src) i src es

/-- the value `set_option` stores -/
def newVal (o : Opt) (arg : Option Str) : Val :=
  if o.type == 0 then (match o.defval with | some d => .str d | none => .one)
  else match arg with
    | some a => .str a
    | none => .null

/-- `set_option(g, opti, optarg, setby, do_alloc)` on abstract values (the allocation layer is `Alloc.lean`, whose erasure this is) -/
def setOption (g : G) (i : Nat) (arg : Option Str) (src : Nat) : R :=
  if g.setter i == src then .done g .esyntax true
  else match verifyTypeRange (g.opt i) arg src with
    | .fault => .fault
    | .exc => .done g .esyntax false      -- `if (verify_type_and_range(...) != eslOK) return eslESYNTAX;` — the exception's eslEINVAL is not passed on, errbuf is not written
    | .bad => .done g .esyntax true
    | .good => toggleLoop (g.put i (newVal (g.opt i) arg) src) i src (optlistElems (g.opt i).toggle)

/-! ## command line -/

def startsWithDash (s : Str) : Bool :=
  match s with
  | '-' :: _ => true
  | _ => false

/-- `process_stdopt` (fixed): only `-c` matches option character `c` -/
def findShort (opts : List Opt) (c : Char) : Option Nat :=
  opts.findIdx? (fun o => o.name == ['-', c])

/-- outcome of working through one argv element -/
inductive Step
  | cont (g : G) (extra : Bool)                              -- go on; `extra` = the next argv element was consumed too
  | stop (g : G) (st : Status) (msg : Bool) (adv : Nat)      -- return from ProcessCmdline; optind advanced by `adv`
  | fault
  deriving Repr

/-- one optstring `-abc…` : `cs` = option characters still to do, `next` = the following argv element -/
def stdLoop (g : G) : Str → Option Str → Step
  | [], _ => .cont g false
  | c :: cs, next =>
    match findShort g.opts c with
    | none => .stop g .esyntax true 1
    | some i =>
      if (g.opt i).type != 0 then
        if !cs.isEmpty then
          match setOption g i (some cs) byCmdline with
          | .fault => .fault
          | .done g' .ok _ => .cont g' false
          | .done g' st m => .stop g' st m 1
        else match next with
          | none => .stop g .esyntax true 1
          | some a =>
            if isStringy (g.opt i).type && startsWithDash a then .stop g .esyntax true 2
            else match setOption g i (some a) byCmdline with
              | .fault => .fault
              | .done g' .ok _ => .cont g' true
              | .done g' st m => .stop g' st m 2
      else
        match setOption g i none byCmdline with
        | .fault => .fault
        | .done g' .ok _ => if cs.isEmpty then .cont g' false else stdLoop g' cs next
        | .done g' st m => .stop g' st m 1

/-- split `--foo=arg` at the first `=` -/
def splitEq : Str → Str × Option Str
  | [] => ([], none)
  | c :: r => if c == '=' then ([], some r) else let (a, b) := splitEq r; (c :: a, b)

/-- `process_longopt` followed by `set_option` -/
def longOpt (g : G) (w : Str) (next : Option Str) : Step :=
  let (key, argptr) := splitEq w
  match optidxAbbrev g.opts key with
  | .ambiguous => .stop g .esyntax true 0
  | .notfound => .stop g .esyntax true 0
  | .found i =>
    if (g.opt i).type != 0 then
      match argptr with
      | some a =>
        (match setOption g i (some a) byCmdline with
          | .fault => .fault
          | .done g' .ok _ => .cont g' false
          | .done g' st m => .stop g' st m 1)
      | none =>
        match next with
        | none => .stop g .esyntax true 1
        | some a =>
          if isStringy (g.opt i).type && startsWithDash a then .stop g .esyntax true 2
          else match setOption g i (some a) byCmdline with
            | .fault => .fault
            | .done g' .ok _ => .cont g' true
            | .done g' st m => .stop g' st m 2
    else
      match argptr with
      | some _ => .stop g .esyntax true 1
      | none =>
        match setOption g i none byCmdline with
        | .fault => .fault
        | .done g' .ok _ => .cont g' false
        | .done g' st m => .stop g' st m 1

/-- one option element of argv: `--long…` goes to `process_longopt`, anything else to `process_stdopt` -/
def optStep (g : G) (w : Str) (next : Option Str) : Step :=
  match w with
  | '-' :: '-' :: _ => longOpt g w next
  | _ => stdLoop g (w.drop 1) next

/-- is this argv element the end of the options (`esl_getopts` returns `eslEOD` without consuming it)? -/
def isArgWord (w : Str) : Bool := !startsWithDash w || w == ['-']

/-- the `while (esl_getopts(...) == eslOK) set_option(...)` loop of `esl_opt_ProcessCmdline`.
    `k` = `optind`, the list = `argv[k..]`, `skip` = the head element was consumed as an option argument. -/
def cmdLoop (g : G) : Nat → List Str → Bool → R
  | k, [], _ => .done { g with optind := k } .ok false
  | k, _ :: tl, true => cmdLoop g k tl false
  | k, w :: tl, false =>
    if isArgWord w then .done { g with optind := k } .ok false
    else if w == ['-', '-'] then .done { g with optind := k + 1 } .ok false
    else
      match optStep g w tl.head? with
      | .fault => .fault
      | .stop g' st m adv => .done { g' with optind := k + adv } st m
      | .cont g' extra => cmdLoop g' (k + 1 + (if extra then 1 else 0)) tl extra

/-- `esl_opt_ProcessCmdline(g, argc, argv)` -/
def processCmdline (g : G) (argv : List Str) : R :=
  cmdLoop { g with argv := argv, optind := 1 } 1 (argv.drop 1) false

/-- tokenizer of `esl_opt_ProcessSpoof` -/
def spoofTokens : Nat → Str → List Str
  | 0, _ => []
  | fuel + 1, s =>
    match s with
    | [] => []
    | c :: _ =>
      let (tok, s') := if c == '"' then strtok s ['"'] else strtok s wsDelim
      match tok with
      | none => []
      | some t => t :: spoofTokens fuel s'

/-- `esl_opt_ProcessSpoof` -/
def processSpoof (g : G) (cmdline : Str) : R :=
  if g.spoofed then .done g .einval true
  else processCmdline { g with spoofed := true } (spoofTokens (cmdline.length + 1) cmdline)

/-! ## environment, config files -/

/-- `esl_opt_ProcessEnvironment`: `env` = the process environment as a lookup -/
def envLoop (env : Str → Option Str) (g : G) : Nat → List Opt → R
  | _, [] => .done g .ok false
  | i, o :: os =>
    match o.envvar with
    | none => envLoop env g (i + 1) os
    | some name =>
      match env name with
      | none => envLoop env g (i + 1) os
      | some v =>
        match setOption g i (some v) byEnv with
        | .fault => .fault
        | .done g' .ok _ => envLoop env g' (i + 1) os
        | .done g' st m => .done g' st m

def processEnvironment (g : G) (env : Str → Option Str) : R := envLoop env g 0 g.opts

/-- the lines `esl_fgets` delivers (each with its `\n`, except possibly the last) -/
def fileLinesAux : Str → Str → List Str
  | [], acc => if acc.isEmpty then [] else [acc.reverse]
  | c :: r, acc => if c == '\n' then (c :: acc).reverse :: fileLinesAux r [] else fileLinesAux r (c :: acc)

def fileLines (content : Str) : List Str := fileLinesAux content []

/-- the three tokens `esl_opt_ProcessConfigfile` takes from a line: option name, argument, rest-of-line token -/
def cfgTokens (line : Str) : Option Str × Option Str × Option Str :=
  let (optname, s) := strtok line wsDelim
  let (optarg, s) := if s.head? == some '"' then strtok s ['"'] else strtok s wsDelim
  let (comment, _) := strtok s wsDelim
  (optname, optarg, comment)

/-- one data line of a config file; `none` = line skipped -/
def cfgLine (g : G) (line : Str) : Option R :=
  match cfgTokens line with
  | (none, _, _) => none
  | (some name, optarg, comment) =>
    if name.head? == some '#' then none
    else if name.head? != some '-' then some (.done g .esyntax true)
    else if comment.isSome && (comment.bind List.head?) != some '#' then some (.done g .esyntax true)
    else match optidxExactly g.opts name with
      | none => some (.done g .esyntax true)
      | some i =>
        -- fix 8d4fde4: an option that takes an argument must have one on its line
        if (g.opt i).type != 0 && optarg.isNone then some (.done g .esyntax true)
        else some (setOption g i optarg (byCfgfile + g.nfiles))

def cfgLoop (g : G) : List Str → R
  | [] => .done { g with nfiles := g.nfiles + 1 } .ok false
  | l :: ls =>
    match cfgLine g l with
    | none => cfgLoop g ls
    | some .fault => .fault
    | some (.done g' .ok _) => cfgLoop g' ls
    | some (.done g' st m) => .done g' st m

/-- `esl_opt_ProcessConfigfile` on a file with the given content -/
def processConfigfile (g : G) (content : Str) : R := cfgLoop g (fileLines content)

/-! ## `esl_opt_VerifyConfig` -/

def G.isSetOn (g : G) (i : Nat) : Bool := g.setter i != byDefault && !(g.valOf i).isNull

/-- requirement loop for option `i` : `none` = all fine, `some st` = return with that status -/
def reqLoop (g : G) : List Str → Option (Status × Bool)
  | [] => none
  | e :: es =>
    match optlistResolve g.opts e with
    | none => some (.einval, false)
    | some r => if (g.valOf r).isNull then some (.esyntax, true) else reqLoop g es

def incLoop (g : G) (i : Nat) : List Str → Option (Status × Bool)
  | [] => none
  | e :: es =>
    match optlistResolve g.opts e with
    | none => some (.einval, false)
    | some c => if c != i && g.isSetOn c then some (.esyntax, true) else incLoop g i es

def verifyReq (g : G) : Nat → List Opt → Option (Status × Bool)
  | _, [] => none
  | i, o :: os =>
    if g.isSetOn i then
      match reqLoop g (optlistElems o.required) with
      | some r => some r
      | none => verifyReq g (i + 1) os
    else verifyReq g (i + 1) os

def verifyInc (g : G) : Nat → List Opt → Option (Status × Bool)
  | _, [] => none
  | i, o :: os =>
    if g.isSetOn i then
      match incLoop g i (optlistElems o.incompat) with
      | some r => some r
      | none => verifyInc g (i + 1) os
    else verifyInc g (i + 1) os

def verifyConfig (g : G) : Status × Bool :=
  match verifyReq g 0 g.opts with
  | some r => r
  | none =>
    match verifyInc g 0 g.opts with
    | some r => r
    | none => (.ok, false)

/-! ## creation and queries -/

def createLoop : List Opt → Bool
  | [] => true
  | o :: os => verifyTypeRange o o.defval byDefault == .good && createLoop os

/-- `esl_getopts_Create`: `none` = NULL returned (invalid defaults or names) -/
def create (opts : List Opt) : Option G :=
  if opts.all (fun o => o.name.head? == some '-') && createLoop opts then
    some { opts := opts, val := opts.map (fun o => match o.defval with | some d => Val.str d | none => Val.null),
           setby := opts.map (fun _ => byDefault) }
  else none

/-- `esl_getopts_Reuse`: back to the state `esl_getopts_Create` produced -/
def reuse (g : G) : G :=
  { opts := g.opts, val := g.opts.map (fun o => match o.defval with | some d => Val.str d | none => Val.null),
    setby := g.opts.map (fun _ => byDefault) }

def isDefault (g : G) (i : Nat) : Bool :=
  if g.setter i == byDefault then true
  else match g.valOf i, (g.opt i).defval with
    | .null, none => true
    | .str v, some d => v == d
    | _, _ => false

def isOn (g : G) (i : Nat) : Bool := !(g.valOf i).isNull

def isUsed (g : G) (i : Nat) : Bool :=
  if isDefault g i then false else if (g.valOf i).isNull then false else true

/-- `esl_opt_ArgNumber` -/
def argNumber (g : G) : Int := (g.argc : Int) - g.optind

/-- `esl_opt_GetArg(g, which)` -/
def getArg (g : G) (which : Int) : Option Str :=
  if which ≤ 0 then none
  else if (g.optind : Int) + which - 1 ≥ g.argc then none
  else g.argv[(g.optind + which.toNat - 1)]?

/-- canonical form of a real value for the protocol: `m × 10^e` with `m` not divisible by ten -/
def Dec.normAux : Nat → Nat → Int → Nat × Int
  | 0, m, e => (m, e)
  | fuel + 1, m, e => if m != 0 && m % 10 == 0 then Dec.normAux fuel (m / 10) (e + 1) else (m, e)

def Dec.canon (d : Dec) : String :=
  if d.mant == 0 then "0"
  else
    let (m, e) := Dec.normAux 400 d.mant d.exp
    (if d.neg then "-" else "") ++ toString m ++ "e" ++ toString e

end EaselModel.Getopts
