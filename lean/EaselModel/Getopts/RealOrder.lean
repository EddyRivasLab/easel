import EaselModel.Getopts.Ranges
import EaselModel.Getopts.RealLit
import Mathlib.Algebra.Order.Field.Rat
import Mathlib.Tactic.Ring
import Mathlib.Tactic.Linarith
/-! # C14 — the comparison used for real-valued ranges is the order of the rationals the decimals denote.
    (Mathlib; not imported by the driver.) -/
namespace EaselModel.Getopts

/-- the rational number a decimal denotes -/
noncomputable def Dec.value (d : Dec) : ℚ := (if d.neg then -1 else 1) * (d.mant : ℚ) * (10 : ℚ) ^ d.exp

theorem Dec.value_sub (a b : Dec) :
    a.value - b.value = ((Dec.cmpKey a b : Int) : ℚ) * (10 : ℚ) ^ (min a.exp b.exp) := by
  have h10 : (10 : ℚ) ≠ 0 := by norm_num
  have split : ∀ e m : Int, m ≤ e → (10 : ℚ) ^ e = (10 : ℚ) ^ (e - m).toNat * (10 : ℚ) ^ m := by
    intro e m h
    rw [← zpow_natCast, ← zpow_add₀ h10, Int.toNat_of_nonneg (by omega), sub_add_cancel]
  unfold Dec.value Dec.cmpKey
  simp only
  rw [split a.exp _ (min_le_left _ _), split b.exp _ (min_le_right _ _)]
  push_cast [Int.cast_ite]
  ring

theorem pow10_pos (e : Int) : (0 : ℚ) < (10 : ℚ) ^ e := zpow_pos (by norm_num) e

theorem Dec.lt_iff (a b : Dec) : Dec.lt a b = true ↔ a.value < b.value := by
  rw [← sub_neg, Dec.value_sub, ← not_le, mul_nonneg_iff_of_pos_right (pow10_pos _), not_le, Int.cast_lt_zero]
  unfold Dec.lt
  exact decide_eq_true_iff

theorem Dec.le_iff (a b : Dec) : Dec.le a b = true ↔ a.value ≤ b.value := by
  rw [← sub_nonpos, Dec.value_sub, ← not_lt, mul_pos_iff_of_pos_right (pow10_pos _), not_lt, Int.cast_nonpos]
  unfold Dec.le
  exact decide_eq_true_iff

theorem realRangeOk_twoSided_iff (v lo hi : Str) (geq leq : Bool) (hc : 'x' ∉ lo) (hhi : leq = false → hi.head? ≠ some '=') :
    realRangeOk v (some (twoSided 'x' lo geq leq hi)) = true ↔
      ((if geq then (atof (twoSided 'x' lo geq leq hi)).value ≤ (atof v).value
                else (atof (twoSided 'x' lo geq leq hi)).value < (atof v).value) ∧
       (if leq then (atof v).value ≤ (atof hi).value else (atof v).value < (atof hi).value)) := by
  have hp := parseRange_twoSided 'x' lo hi geq leq hc (by decide) (by decide) hhi
  unfold realRangeOk
  simp only [hp, Bool.and_eq_true]
  cases geq <;> cases leq <;> simp [Dec.lt_iff, Dec.le_iff]

theorem realRangeOk_lower_iff (v a : Str) (incl : Bool) (h : incl = false → a.head? ≠ some '=') :
    realRangeOk v (some ('x' :: '>' :: ((if incl then ['='] else []) ++ a))) = true ↔
      (if incl then (atof a).value ≤ (atof v).value else (atof a).value < (atof v).value) := by
  simp only [realRangeOk, parseRange_lower 'x' a incl h]
  cases incl <;> simp [Dec.le_iff, Dec.lt_iff]

theorem realRangeOk_upper_iff (v b : Str) (incl : Bool) (h : incl = false → b.head? ≠ some '=') :
    realRangeOk v (some ('x' :: '<' :: ((if incl then ['='] else []) ++ b))) = true ↔
      (if incl then (atof v).value ≤ (atof b).value else (atof v).value < (atof b).value) := by
  simp only [realRangeOk, parseRange_upper 'x' b incl h]
  cases incl <;> simp [Dec.le_iff, Dec.lt_iff]

theorem realRangeOk_twoSided_lit (v lo hi : Str) (geq leq : Bool) {neg : Bool} {ip fp : Str} {dot : Bool}
    (hlo : RealLit lo neg ip fp dot) (hhi : leq = false → hi.head? ≠ some '=') :
    realRangeOk v (some (twoSided 'x' lo geq leq hi)) = true ↔
      ((if geq then (atof lo).value ≤ (atof v).value else (atof lo).value < (atof v).value) ∧
       (if leq then (atof v).value ≤ (atof hi).value else (atof v).value < (atof hi).value)) := by
  have := realRangeOk_twoSided_iff v lo hi geq leq (realLit_no_marker hlo) hhi
  have ha : atof (twoSided 'x' lo geq leq hi) = atof lo := by
    unfold twoSided
    exact atof_lit_append hlo _
  rw [ha] at this
  exact this

theorem value_of_lit {s : Str} {neg : Bool} {ip fp : Str} {dot : Bool} (h : RealLit s neg ip fp dot) :
    (atof s).value = (if neg then -1 else 1) * (digitsVal (ip ++ fp) : ℚ) * (10 : ℚ) ^ (-(fp.length : Int)) := by
  have h2 := strtod_lit h [] endsNumber_nil
  simp only [List.append_nil] at h2
  unfold atof
  rw [h2]
  rfl

end EaselModel.Getopts
