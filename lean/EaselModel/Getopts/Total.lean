import EaselModel.Getopts.Histories
/-! # C14 — every source-processing call on a well-formed table ends cleanly: success without message or a usage error
    (`eslESYNTAX`) with a message; never a crash (`R.fault`).  The one other answer is the documented one: a second
    `esl_opt_ProcessSpoof` on the same object gives `eslEINVAL` with a message (hence `g.spoofed = false` in `processSpoof_good`,
    and `(.einval, true)` beside `Clean` in `runAll_clean`).  `setOption_good` says it of one call; each kind of run carries it
    along by `Good.afterSet`. -/
namespace EaselModel.Getopts

theorem setOption_good {g : G} {i : Nat} {arg : Option Str} (hinv : Inv g) (hw : WF g.opts) (h : SetOk g.opts i arg) (src : Nat) :
    ∃ g' st m, setOption g i arg src = .done g' st m ∧ Clean st m ∧ Inv g' ∧ SameFrame g g' := by
  -- only a character option (type 3) without argument can crash `set_option`; a call without argument is on a flag (type 0)
  refine setOption_total hinv (hw _ (opt_mem h.1)) (h.2.imp id fun h0 => ?_)
  have : (g.opt i).type = 0 := h0
  omega

/-- The step every run takes after a `set_option` call that `setOption_good` covers (`hr`): the source's answer is good if going on
    is.  `upd` may touch what `Inv` does not read (`optind`). -/
theorem Good.afterSet {g : G} {r : R} {upd : G → G} {k : G → R}
    (hr : ∃ g' st m, r = .done g' st m ∧ Clean st m ∧ Inv g' ∧ SameFrame g g')
    (hupd : ∀ g', (upd g').opts = g'.opts ∧ (upd g').val = g'.val ∧ (upd g').setby = g'.setby)
    (hk : ∀ g', Inv g' → g'.opts = g.opts → Good g' (k g')) : Good g (afterSet upd k r) := by
  obtain ⟨g', st, m, rfl, h2, h3, h4⟩ := hr
  cases st with
  | ok =>
    obtain ⟨g'', st, m, e1, e2, e3, e4⟩ := hk g' h3 h4.opts
    exact ⟨g'', st, m, e1, e2, e3, e4.trans h4.opts⟩
  | esyntax => exact ⟨_, _, _, rfl, h2, h3.congr (hupd g').1 (hupd g').2.1 (hupd g').2.2, (hupd g').1.trans h4.opts⟩
  | einval => rcases h2 with ⟨h, _⟩ | ⟨h, _⟩ <;> cases h

theorem runEvs_good : ∀ (es : List Ev) (g : G), Inv g → WF g.opts → (∀ e ∈ es, SetOk g.opts e.i e.arg) → Good g (runEvs g es) := by
  intro es
  induction es with
  | nil => intro g hinv _ _; exact ⟨g, .ok, false, rfl, Or.inl ⟨rfl, rfl⟩, hinv, rfl⟩
  | cons e es ih =>
    intro g hinv hw hes
    exact Good.afterSet (setOption_good hinv hw (hes e List.mem_cons_self) e.src) (fun _ => ⟨rfl, rfl, rfl⟩)
      fun g' h3 ho => ih g' h3 (ho ▸ hw) (ho ▸ fun e he => hes e (List.mem_cons_of_mem _ he))

theorem runCfg_good (src : Nat) : ∀ (is : List CfgItem) (g : G), Inv g → WF g.opts →
    (∀ i arg, CfgItem.set i arg ∈ is → SetOk g.opts i arg) → Good g (runCfg src g is) := by
  intro is
  induction is with
  | nil => intro g hinv _ _; exact ⟨_, .ok, false, rfl, Or.inl ⟨rfl, rfl⟩, hinv.congr rfl rfl rfl, rfl⟩
  | cons it is ih =>
    intro g hinv hw his
    cases it with
    | usage => exact ⟨g, .esyntax, true, rfl, Or.inr ⟨rfl, rfl⟩, hinv, rfl⟩
    | set i arg =>
      exact Good.afterSet (setOption_good hinv hw (his i arg List.mem_cons_self) src) (fun _ => ⟨rfl, rfl, rfl⟩)
        fun g' h3 ho => ih g' h3 (ho ▸ hw) (ho ▸ fun j a hj => his j a (List.mem_cons_of_mem _ hj))

theorem runCmd_good {opts : List Opt} {k0 : Nat} {ws : List Str} {is : List CmdItem} {F : G → R} (h : CmdParse opts k0 ws is) :
    ∀ (g : G), Inv g → WF g.opts → g.opts = opts → Good g (runCmd F g is) := by
  induction h with
  | usage k => intro g hinv _ _; exact ⟨_, _, _, rfl, .inr ⟨rfl, rfl⟩, hinv.congr rfl rfl rfl, rfl⟩
  | ends _ => intro g hinv _ _; exact ⟨_, _, _, rfl, .inl ⟨rfl, rfl⟩, hinv.congr rfl rfl rfl, rfl⟩
  | @set i a kf _ hok _ ih =>
    intro g hinv hw ho
    exact Good.afterSet (setOption_good hinv hw (ho ▸ hok) byCmdline) (fun _ => ⟨rfl, rfl, rfl⟩)
      fun g' h3 ho' => ih g' h3 (ho' ▸ hw) (ho'.trans ho)

theorem processCmdline_good (g : G) (argv : List Str) (hinv : Inv g) (hw : WF g.opts) : Good g (processCmdline g argv) := by
  rw [processCmdline_eq]
  exact runCmd_good (parseCmd_shape g.opts _ 1 false (by simp)) { g with argv := argv, optind := 1 } (hinv.congr rfl rfl rfl) hw rfl

theorem processSpoof_good (g : G) (s : Str) (hinv : Inv g) (hw : WF g.opts) (hs : g.spoofed = false) : Good g (processSpoof g s) := by
  unfold processSpoof
  simp only [hs]
  exact processCmdline_good { g with spoofed := true } _ (hinv.congr rfl rfl rfl) hw

theorem processEnvironment_good (g : G) (env : Str → Option Str) (hinv : Inv g) (hw : WF g.opts) : Good g (processEnvironment g env) := by
  rw [processEnvironment_eq]
  refine runEvs_good _ g hinv hw fun e he => ?_
  obtain ⟨_, h2, h3⟩ := envEvents_idx env g.opts 0 e he
  exact ⟨by omega, .inl h3⟩

theorem processConfigfile_good (g : G) (content : Str) (hinv : Inv g) (hw : WF g.opts) : Good g (processConfigfile g content) := by
  rw [processConfigfile_eq]
  refine runCfg_good _ _ g hinv hw fun i arg h => ?_
  obtain ⟨l, _, hl⟩ := List.mem_filterMap.mp h
  obtain ⟨_, _, _, hi, harg⟩ := cfgItem_set hl
  exact ⟨findIdx?_lt hi, harg⟩

theorem runAll_clean : ∀ (ss : List Src) (g : G), Inv g → WF g.opts →
    ∃ outs g', runAll g ss = some (outs, g') ∧ outs.length = ss.length ∧ Inv g' ∧ g'.opts = g.opts ∧
      ∀ o ∈ outs, Clean o.1 o.2 ∨ o = (.einval, true) := by
  intro ss
  induction ss with
  | nil => intro g hinv _; exact ⟨[], g, rfl, rfl, hinv, rfl, by simp⟩
  | cons s ss ih =>
    intro g hinv hw
    have hstep : ∃ g1 st m, applySrc g s = .done g1 st m ∧ (Clean st m ∨ (st, m) = (.einval, true)) ∧ Inv g1 ∧ g1.opts = g.opts := by
      cases s with
      | cmdline argv =>
        obtain ⟨g1, st, m, h1, h2, h3, h4⟩ := processCmdline_good g argv hinv hw
        exact ⟨g1, st, m, h1, Or.inl h2, h3, h4⟩
      | spoof t =>
        by_cases hs : g.spoofed = false
        · obtain ⟨g1, st, m, h1, h2, h3, h4⟩ := processSpoof_good g t hinv hw hs
          exact ⟨g1, st, m, h1, Or.inl h2, h3, h4⟩
        · have hs' : g.spoofed = true := by simpa using hs
          exact ⟨g, .einval, true, by simp [applySrc, processSpoof, hs'], Or.inr rfl, hinv, rfl⟩
      | env e =>
        obtain ⟨g1, st, m, h1, h2, h3, h4⟩ := processEnvironment_good g e hinv hw
        exact ⟨g1, st, m, h1, Or.inl h2, h3, h4⟩
      | cfg c =>
        obtain ⟨g1, st, m, h1, h2, h3, h4⟩ := processConfigfile_good g c hinv hw
        exact ⟨g1, st, m, h1, Or.inl h2, h3, h4⟩
    obtain ⟨g1, st, m, h1, h2, h3, h4⟩ := hstep
    obtain ⟨outs, g', e1, e2, e3, e4, e5⟩ := ih g1 h3 (by rw [h4]; exact hw)
    refine ⟨(st, m) :: outs, g', by simp [runAll, h1, e1], by simp [e2], e3, e4.trans h4, ?_⟩
    intro o ho
    rcases List.mem_cons.mp ho with rfl | ho
    · exact h2
    · exact e5 o ho

end EaselModel.Getopts
