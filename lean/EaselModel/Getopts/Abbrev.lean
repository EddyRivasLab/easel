import EaselModel.Getopts.Model
/-! # C14 — `get_optidx_abbrev`: an abbreviation resolves iff it equals a name or is a prefix of exactly one name. -/
namespace EaselModel.Getopts

def isAbbr (key : Str) (o : Opt) : Bool := key.isPrefixOf o.name

theorem isAbbr_self (o : Opt) : isAbbr o.name o = true := by
  simp [isAbbr, List.isPrefixOf_iff_prefix]

theorem isAbbr_len_eq {key : Str} {o : Opt} (h : isAbbr key o = true) (hl : key.length = o.name.length) : o.name = key := by
  have := (List.isPrefixOf_iff_prefix.mp h).eq_of_length hl
  exact this.symm

/-- index of the last abbreviated option (offset `i`), `last` if there is none -/
def scanLast (key : Str) : List Opt → Nat → Nat → Nat
  | [], _, last => last
  | o :: os, i, last => scanLast key os (i + 1) (if isAbbr key o then i else last)

/-- without an exact match the scan counts every abbreviated option and remembers the last one -/
theorem abbrevScan_noexact (key : Str) : ∀ (os : List Opt) (i nab last : Nat), (∀ o ∈ os, o.name ≠ key) →
    abbrevScan key os i nab last = (nab + os.countP (isAbbr key), 0, scanLast key os i last) := by
  intro os
  induction os with
  | nil => intro i nab last _; simp [abbrevScan, scanLast]
  | cons o os ih =>
    intro i nab last hne
    have hne' : ∀ o' ∈ os, o'.name ≠ key := fun o' ho' => hne o' (List.mem_cons_of_mem _ ho')
    have ho : o.name ≠ key := hne o List.mem_cons_self
    unfold abbrevScan
    by_cases hp : key.isPrefixOf o.name = true
    · have hp' : isAbbr key o = true := hp
      have hl : (key.length == o.name.length) = false := by
        cases h : key.length == o.name.length with
        | false => rfl
        | true => exact absurd (isAbbr_len_eq hp' (by simpa using h)) ho
      simp only [hp, hl, ↓reduceIte, Bool.false_eq_true]
      rw [ih (i + 1) (nab + 1) i hne']
      simp [scanLast, hp']
      omega
    · have hp' : isAbbr key o = false := by
        cases hq : isAbbr key o with
        | false => rfl
        | true => exact absurd hq hp
      simp only [hp]
      rw [ih (i + 1) nab last hne']
      simp [scanLast, hp']

/-- with an exact match at position `e` (the first one) the scan stops there -/
theorem abbrevScan_exact (key : Str) : ∀ (os : List Opt) (e i nab last : Nat) (o : Opt), os[e]? = some o → o.name = key →
    (∀ j o', j < e → os[j]? = some o' → o'.name ≠ key) →
    ∃ a, nab < a ∧ abbrevScan key os i nab last = (a, 1, i + e) := by
  intro os
  induction os with
  | nil => intro e i nab last o h; simp at h
  | cons h t ih =>
    intro e i nab last o he hname hfirst
    unfold abbrevScan
    cases e with
    | zero =>
      simp at he
      subst he
      have hp : key.isPrefixOf h.name = true := by rw [← hname]; exact isAbbr_self h
      have hl : (key.length == h.name.length) = true := by simp [hname]
      simp only [hp, hl, ↓reduceIte]
      exact ⟨nab + 1, by omega, by simp⟩
    | succ e =>
      have hh : h.name ≠ key := hfirst 0 h (by omega) (by simp)
      have he' : t[e]? = some o := by simpa using he
      have hfirst' : ∀ j o', j < e → t[j]? = some o' → o'.name ≠ key := by
        intro j o' hj hjo
        exact hfirst (j + 1) o' (by omega) (by simpa using hjo)
      by_cases hp : key.isPrefixOf h.name = true
      · have hl : (key.length == h.name.length) = false := by
          cases hq : key.length == h.name.length with
          | false => rfl
          | true => exact absurd (isAbbr_len_eq hp (by simpa using hq)) hh
        simp only [hp, hl, ↓reduceIte, Bool.false_eq_true]
        obtain ⟨a, ha, hs⟩ := ih e (i + 1) (nab + 1) i o he' hname hfirst'
        exact ⟨a, by omega, by rw [hs]; simp; omega⟩
      · simp only [hp]
        obtain ⟨a, ha, hs⟩ := ih e (i + 1) nab last o he' hname hfirst'
        exact ⟨a, ha, by rw [hs]; simp; omega⟩

/-- (c1) a name that is spelled out in full always resolves to (the first) option of that name, whatever else it
    is a prefix of -/
theorem abbrev_exact {opts : List Opt} {key : Str} {e : Nat} {o : Opt} (he : opts[e]? = some o) (hname : o.name = key)
    (hfirst : ∀ j o', j < e → opts[j]? = some o' → o'.name ≠ key) : optidxAbbrev opts key = .found e := by
  obtain ⟨a, ha, hs⟩ := abbrevScan_exact key opts e 0 0 0 o he hname hfirst
  unfold optidxAbbrev
  rw [hs]
  have : (a == 0) = false := by simp; omega
  simp [this]

theorem scanLast_unique (key : Str) : ∀ (os : List Opt) (u i last : Nat) (o : Opt), os[u]? = some o → isAbbr key o = true →
    (∀ j o', os[j]? = some o' → isAbbr key o' = true → j = u) →
    os.countP (isAbbr key) = 1 ∧ scanLast key os i last = i + u := by
  intro os
  induction os with
  | nil => intro u i last o h; simp at h
  | cons h t ih =>
    intro u i last o hu hp huniq
    cases u with
    | zero =>
      simp at hu
      subst hu
      have hnone : ∀ o' ∈ t, isAbbr key o' = false := by
        intro o' ho'
        obtain ⟨j, hj, hjo⟩ := List.mem_iff_getElem.mp ho'
        cases hq : isAbbr key o' with
        | false => rfl
        | true =>
          have := huniq (j + 1) o' (by simp [← hjo, hj]) hq
          omega
      have hc : t.countP (isAbbr key) = 0 := by
        rw [List.countP_eq_zero]
        intro o' ho'; simp [hnone o' ho']
      have hl : ∀ (i last : Nat), scanLast key t i last = last := by
        clear ih huniq hc
        induction t with
        | nil => intro i last; rfl
        | cons x xs ihx =>
          intro i last
          have hx : isAbbr key x = false := hnone x List.mem_cons_self
          simp only [scanLast, hx, Bool.false_eq_true, ↓reduceIte]
          exact ihx (fun o' ho' => hnone o' (List.mem_cons_of_mem _ ho')) (i + 1) last
      simp [hp, hc, scanLast, hl]
    | succ u =>
      have hh : isAbbr key h = false := by
        cases hq : isAbbr key h with
        | false => rfl
        | true => have := huniq 0 h (by simp) hq; omega
      have hu' : t[u]? = some o := by simpa using hu
      obtain ⟨h1, h2⟩ := ih u (i + 1) last o hu' hp (by
        intro j o' hj hq
        have := huniq (j + 1) o' (by simpa using hj) hq
        omega)
      simp only [List.countP_cons, hh, scanLast, Bool.false_eq_true, ↓reduceIte, h1]
      refine ⟨by simp, ?_⟩
      rw [h2]; omega

/-- (c2) an abbreviation that is no option's full name resolves when exactly one option name starts with it -/
theorem abbrev_unique {opts : List Opt} {key : Str} {u : Nat} {o : Opt} (hne : ∀ o' ∈ opts, o'.name ≠ key)
    (hu : opts[u]? = some o) (hp : isAbbr key o = true)
    (huniq : ∀ j o', opts[j]? = some o' → isAbbr key o' = true → j = u) : optidxAbbrev opts key = .found u := by
  obtain ⟨h1, h2⟩ := scanLast_unique key opts u 0 0 o hu hp huniq
  unfold optidxAbbrev
  rw [abbrevScan_noexact key opts 0 0 0 hne, h1, h2]
  simp

/-- (c3) … is unknown when no option name starts with it -/
theorem abbrev_none {opts : List Opt} {key : Str} (hnone : ∀ o ∈ opts, isAbbr key o = false) : optidxAbbrev opts key = .notfound := by
  have hne : ∀ o' ∈ opts, o'.name ≠ key := by
    intro o' ho' h
    have := hnone o' ho'
    rw [← h, isAbbr_self] at this
    cases this
  have hc : opts.countP (isAbbr key) = 0 := by
    rw [List.countP_eq_zero]
    intro o' ho'; simp [hnone o' ho']
  unfold optidxAbbrev
  rw [abbrevScan_noexact key opts 0 0 0 hne, hc]
  simp

theorem countP_two {α : Type} (p : α → Bool) : ∀ (l : List α) (i j : Nat) (a b : α), i < j → l[i]? = some a → l[j]? = some b →
    p a = true → p b = true → 2 ≤ l.countP p := by
  intro l
  induction l with
  | nil => intro i j a b _ h; simp at h
  | cons x xs ih =>
    intro i j a b hij hi hj pa pb
    cases j with
    | zero => omega
    | succ j =>
      have hj' : xs[j]? = some b := by simpa using hj
      cases i with
      | zero =>
        simp at hi
        subst hi
        have : 1 ≤ xs.countP p := by
          have hb : b ∈ xs := List.mem_of_getElem? hj'
          exact List.countP_pos_iff.mpr ⟨b, hb, pb⟩
        rw [List.countP_cons]; simp only [pa, ↓reduceIte]; omega
      | succ i =>
        have := ih i j a b (by omega) (by simpa using hi) hj' pa pb
        simp only [List.countP_cons]; omega

/-- (c4) … and is ambiguous when two different option names start with it -/
theorem abbrev_ambiguous {opts : List Opt} {key : Str} {i j : Nat} {a b : Opt} (hne : ∀ o' ∈ opts, o'.name ≠ key)
    (hij : i < j) (hi : opts[i]? = some a) (hj : opts[j]? = some b) (pa : isAbbr key a = true) (pb : isAbbr key b = true) :
    optidxAbbrev opts key = .ambiguous := by
  have := countP_two (isAbbr key) opts i j a b hij hi hj pa pb
  unfold optidxAbbrev
  rw [abbrevScan_noexact key opts 0 0 0 hne]
  have h1 : decide (0 + List.countP (isAbbr key) opts > 1) = true := by simp; omega
  simp only [h1]
  simp

theorem trichotomy {α : Type} (p : α → Bool) : ∀ (l : List α),
    (∀ x ∈ l, p x = false) ∨
    (∃ (u : Nat) (a : α), l[u]? = some a ∧ p a = true ∧ ∀ (j : Nat) (b : α), l[j]? = some b → p b = true → j = u) ∨
    (∃ (i j : Nat) (a b : α), i < j ∧ l[i]? = some a ∧ l[j]? = some b ∧ p a = true ∧ p b = true) := by
  intro l
  induction l with
  | nil => left; simp
  | cons x xs ih =>
    cases hx : p x with
    | false =>
      rcases ih with h | ⟨u, a, h1, h2, h3⟩ | ⟨i, j, a, b, h1, h2, h3, h4, h5⟩
      · left
        intro y hy
        rcases List.mem_cons.mp hy with rfl | hy
        · exact hx
        · exact h y hy
      · right; left
        refine ⟨u + 1, a, by simpa using h1, h2, ?_⟩
        intro j b hj hb
        cases j with
        | zero => simp at hj; subst hj; rw [hx] at hb; cases hb
        | succ j => have := h3 j b (by simpa using hj) hb; omega
      · right; right
        exact ⟨i + 1, j + 1, a, b, by omega, by simpa using h2, by simpa using h3, h4, h5⟩
    | true =>
      rcases ih with h | ⟨u, a, h1, h2, _⟩ | ⟨i, j, a, b, h1, h2, h3, h4, h5⟩
      · right; left
        refine ⟨0, x, by simp, hx, ?_⟩
        intro j b hj hb
        cases j with
        | zero => rfl
        | succ j =>
          have hj' : xs[j]? = some b := by simpa using hj
          have := h b (List.mem_of_getElem? hj')
          rw [this] at hb; cases hb
      · right; right
        exact ⟨0, u + 1, x, a, by omega, by simp, by simpa using h1, hx, h2⟩
      · right; right
        exact ⟨i + 1, j + 1, a, b, by omega, by simpa using h2, by simpa using h3, h4, h5⟩

/-- (c) for an abbreviation that is not itself a full option name: it resolves to option `u` **iff** `u` is the
    one and only option whose name starts with it -/
theorem abbrev_resolves_iff {opts : List Opt} {key : Str} (hne : ∀ o' ∈ opts, o'.name ≠ key) (u : Nat) :
    optidxAbbrev opts key = .found u ↔
    ∃ o, opts[u]? = some o ∧ isAbbr key o = true ∧ ∀ (j : Nat) (o' : Opt), opts[j]? = some o' → isAbbr key o' = true → j = u := by
  constructor
  · intro h
    rcases trichotomy (isAbbr key) opts with h0 | ⟨u', a, h1, h2, h3⟩ | ⟨i, j, a, b, h1, h2, h3, h4, h5⟩
    · rw [abbrev_none h0] at h; cases h
    · rw [abbrev_unique hne h1 h2 h3] at h
      injection h with h
      subst h
      exact ⟨a, h1, h2, h3⟩
    · rw [abbrev_ambiguous hne h1 h2 h3 h4 h5] at h; cases h
  · rintro ⟨o, h1, h2, h3⟩
    exact abbrev_unique hne h1 h2 h3

/-- … it is reported as ambiguous **iff** at least two option names start with it -/
theorem abbrev_ambiguous_iff {opts : List Opt} {key : Str} (hne : ∀ o' ∈ opts, o'.name ≠ key) :
    optidxAbbrev opts key = .ambiguous ↔
    ∃ (i j : Nat) (a b : Opt), i < j ∧ opts[i]? = some a ∧ opts[j]? = some b ∧ isAbbr key a = true ∧ isAbbr key b = true := by
  constructor
  · intro h
    rcases trichotomy (isAbbr key) opts with h0 | ⟨u', a, h1, h2, h3⟩ | h2
    · rw [abbrev_none h0] at h; cases h
    · rw [abbrev_unique hne h1 h2 h3] at h; cases h
    · exact h2
  · rintro ⟨i, j, a, b, h1, h2, h3, h4, h5⟩
    exact abbrev_ambiguous hne h1 h2 h3 h4 h5

/-- … and as unknown **iff** no option name starts with it -/
theorem abbrev_notfound_iff {opts : List Opt} {key : Str} :
    optidxAbbrev opts key = .notfound ↔ ∀ o ∈ opts, isAbbr key o = false := by
  constructor
  · intro h
    by_cases hex : ∃ o ∈ opts, o.name = key
    · -- an exact match resolves, so `notfound` is impossible
      obtain ⟨o, ho, hname⟩ := hex
      -- take the first option of that name
      have : ∃ (e : Nat) (o' : Opt), opts[e]? = some o' ∧ o'.name = key ∧ ∀ (j : Nat) (o'' : Opt), j < e → opts[j]? = some o'' → o''.name ≠ key := by
        have hf : (opts.findIdx? (fun o => o.name == key)).isSome := by
          rw [List.findIdx?_isSome]; exact List.any_eq_true.mpr ⟨o, ho, by simp [hname]⟩
        obtain ⟨e, he⟩ := Option.isSome_iff_exists.mp hf
        obtain ⟨hlt, hpe, hbefore⟩ := List.findIdx?_eq_some_iff_getElem.mp he
        refine ⟨e, opts[e], by simp [hlt], by simpa using hpe, ?_⟩
        intro j o'' hj hjo
        have hjlt : j < opts.length := by omega
        have := hbefore j hj
        rw [List.getElem?_eq_getElem hjlt] at hjo
        injection hjo with hjo
        subst hjo
        simpa using this
      obtain ⟨e, o', h1, h2, h3⟩ := this
      rw [abbrev_exact h1 h2 h3] at h; cases h
    · have hne : ∀ o' ∈ opts, o'.name ≠ key := fun o' ho' hn => hex ⟨o', ho', hn⟩
      rcases trichotomy (isAbbr key) opts with h0 | ⟨u', a, h1, h2, h3⟩ | ⟨i, j, a, b, h1, h2, h3, h4, h5⟩
      · exact h0
      · rw [abbrev_unique hne h1 h2 h3] at h; cases h
      · rw [abbrev_ambiguous hne h1 h2 h3 h4 h5] at h; cases h
  · exact abbrev_none

end EaselModel.Getopts
