import EaselModel.Getopts.History
/-! # C14 — every source is a *parse* that looks only at the option table, followed by a run of `set_option`
    calls in order that stops at the first usage error ("one setter shared by all sources"). -/
namespace EaselModel.Getopts

/-- What every source does with the answer of a `set_option` call: a crash is a crash, success goes on with `k`, any other answer
    is the source's answer (the command line records `optind` first: `upd`).  In `.done g st m`, `m` says that `errbuf` was written. -/
def afterSet (upd : G → G) (k : G → R) : R → R
  | .fault => .fault
  | .done g' .ok _ => k g'
  | .done g' st m => .done (upd g') st m

theorem afterSet_ok {upd : G → G} {k : G → R} {r : R} {g' : G} {m : Bool} (h : afterSet upd k r = .done g' .ok m) :
    ∃ g1 m1, r = .done g1 .ok m1 ∧ k g1 = .done g' .ok m := by
  cases r with
  | fault => cases h
  | done g1 st m1 =>
    cases st with
    | ok => exact ⟨g1, m1, rfl, h⟩
    | esyntax => cases h
    | einval => cases h

theorem afterSet_congr {upd : G → G} {k k' : G → R} {r : R} (h : ∀ g1 m1, r = .done g1 .ok m1 → k g1 = k' g1) :
    afterSet upd k r = afterSet upd k' r := by
  cases r with
  | fault => rfl
  | done g1 st m =>
    cases st with
    | ok => exact h g1 m rfl
    | esyntax => rfl
    | einval => rfl

/-- run a list of settings, stopping at the first one that does not succeed; its `cons` case is
    `afterSet id (runEvs · es) (setOption g e.i e.arg e.src)` by `rfl`, and so are those of `runCfg` and `runCmd` below -/
def runEvs : G → List Ev → R
  | g, [] => .done g .ok false
  | g, e :: es =>
    match setOption g e.i e.arg e.src with
    | .fault => .fault
    | .done g' .ok _ => runEvs g' es
    | .done g' st m => .done g' st m

theorem runEvs_ok_runSets : ∀ (es : List Ev) (g g' : G) (m : Bool), runEvs g es = .done g' .ok m → runSets g es = some g' := by
  intro es
  induction es with
  | nil => intro g g' m h; cases h; rfl
  | cons e es ih =>
    intro g g' m h
    obtain ⟨g1, m1, hs, hk⟩ := afterSet_ok (upd := id) (k := fun g' => runEvs g' es) h
    simp only [runSets, hs]
    exact ih g1 g' m hk

/-- the settings the environment asks for, in table order -/
def envEvents (env : Str → Option Str) : Nat → List Opt → List Ev
  | _, [] => []
  | i, o :: os =>
    match o.envvar with
    | none => envEvents env (i + 1) os
    | some name =>
      match env name with
      | none => envEvents env (i + 1) os
      | some v => ⟨i, some v, byEnv⟩ :: envEvents env (i + 1) os

theorem envLoop_eq (env : Str → Option Str) : ∀ (os : List Opt) (g : G) (i : Nat),
    envLoop env g i os = runEvs g (envEvents env i os) := by
  intro os
  induction os with
  | nil => intro g i; rfl
  | cons o os ih =>
    intro g i
    unfold envLoop envEvents
    cases o.envvar with
    | none => exact ih g (i + 1)
    | some name =>
      simp only
      cases env name with
      | none => exact ih g (i + 1)
      | some v => exact afterSet_congr (upd := id) fun g1 _ _ => ih g1 (i + 1)

/-- `esl_opt_ProcessEnvironment` = run the environment's settings in table order -/
theorem processEnvironment_eq (g : G) (env : Str → Option Str) :
    processEnvironment g env = runEvs g (envEvents env 0 g.opts) := envLoop_eq env g.opts g 0

inductive CfgItem
  | set (i : Nat) (arg : Option Str)
  | usage
  deriving Repr, DecidableEq

/-- what one line of a config file asks for — a function of the option table alone -/
def cfgItem (opts : List Opt) (line : Str) : Option CfgItem :=
  match cfgTokens line with
  | (none, _, _) => none
  | (some name, optarg, comment) =>
    if name.head? == some '#' then none
    else if name.head? != some '-' then some .usage
    else if comment.isSome && (comment.bind List.head?) != some '#' then some .usage
    else match optidxExactly opts name with
      | none => some .usage
      | some i => if (opts.getD i default).type != 0 && optarg.isNone then some .usage else some (.set i optarg)

/-- a `set_option` call as the parsers issue it: on a row of the table, with an argument unless the row is a flag -/
def SetOk (opts : List Opt) (i : Nat) (arg : Option Str) : Prop :=
  i < opts.length ∧ (arg.isSome ∨ (opts.getD i default).type = 0)

theorem cfgItem_set {opts : List Opt} {line : Str} {i : Nat} {arg : Option Str} (h : cfgItem opts line = some (.set i arg)) :
    ∃ name, (cfgTokens line).1 = some name ∧ (cfgTokens line).2.1 = arg ∧ optidxExactly opts name = some i ∧
      (arg.isSome ∨ (opts.getD i default).type = 0) := by
  unfold cfgItem at h
  rcases hc : cfgTokens line with ⟨_ | name, optarg, comment⟩
  · rw [hc] at h; cases h
  · rw [hc] at h
    simp only at h
    split at h
    · cases h
    split at h
    · cases h
    split at h
    · cases h
    split at h
    · cases h
    · rename_i j hj
      split at h
      · cases h
      · rename_i hguard
        injection h with h
        injection h with h1 h2
        subst h1 h2
        refine ⟨name, rfl, rfl, hj, ?_⟩
        cases optarg with
        | some a => exact .inl rfl
        | none => exact .inr (by simpa using hguard)

def runCfg (src : Nat) : G → List CfgItem → R
  | g, [] => .done { g with nfiles := g.nfiles + 1 } .ok false
  | g, .usage :: _ => .done g .esyntax true
  | g, .set i arg :: is =>
    match setOption g i arg src with
    | .fault => .fault
    | .done g' .ok _ => runCfg src g' is
    | .done g' st m => .done g' st m

theorem cfgLine_eq (g : G) (line : Str) :
    cfgLine g line = (cfgItem g.opts line).map (fun it => match it with
      | .usage => R.done g .esyntax true
      | .set i arg => setOption g i arg (byCfgfile + g.nfiles)) := by
  unfold cfgLine cfgItem
  rcases cfgTokens line with ⟨_ | name, optarg, comment⟩
  · rfl
  · simp only
    by_cases h1 : (name.head? == some '#') = true
    · simp only [h1, ↓reduceIte, Option.map_none]
    · by_cases h2 : (name.head? != some '-') = true
      · simp only [h1, h2, Bool.false_eq_true, ↓reduceIte, Option.map_some]
      · by_cases h3 : (comment.isSome && (comment.bind List.head?) != some '#') = true
        · simp only [h1, h2, h3, Bool.false_eq_true, ↓reduceIte, Option.map_some]
        · simp only [h1, h2, h3, Bool.false_eq_true, ↓reduceIte]
          cases h4 : optidxExactly g.opts name with
          | none => rfl
          | some i =>
            simp only [G.opt]
            by_cases h5 : ((g.opts.getD i default).type != 0 && optarg.isNone) = true
            · simp only [h5, ↓reduceIte, Option.map_some]
            · simp only [h5, Bool.false_eq_true, ↓reduceIte, Option.map_some]

theorem cfgLoop_eq : ∀ (ls : List Str) (g : G) (src : Nat), src = byCfgfile + g.nfiles →
    cfgLoop g ls = runCfg src g (ls.filterMap (cfgItem g.opts)) := by
  intro ls
  induction ls with
  | nil => intro g src _; rfl
  | cons l ls ih =>
    intro g src hsrc
    unfold cfgLoop
    rw [cfgLine_eq, List.filterMap_cons]
    cases hi : cfgItem g.opts l with
    | none => simpa using ih g src hsrc
    | some it =>
      cases it with
      | usage => simp [runCfg]
      | set i arg =>
        simp only [Option.map_some, runCfg, ← hsrc]
        cases hs : setOption g i arg src with
        | fault => rfl
        | done g1 st m =>
          have hf := setOption_frame hs
          cases st with
          | ok =>
            simp only
            rw [ih g1 src (by rw [hf.nfiles]; exact hsrc), hf.opts]
          | esyntax => rfl
          | einval => rfl

/-- `esl_opt_ProcessConfigfile` = parse every line against the table, then run the settings with this file's
    setter code, stopping at the first usage error; the file counter advances only on success -/
theorem processConfigfile_eq (g : G) (content : Str) :
    processConfigfile g content = runCfg (byCfgfile + g.nfiles) g ((fileLines content).filterMap (cfgItem g.opts)) :=
  cfgLoop_eq _ g _ rfl

inductive CmdItem
  | set (i : Nat) (arg : Option Str) (kfail : Nat)   -- a `set_option` call; `kfail` = optind if it fails
  | stop (st : Status) (msg : Bool) (k : Nat)          -- parsing ends: end of options (`ok`) or usage error, optind `k`
  deriving Repr, DecidableEq

/-- parse one optstring; second component: `some extra` = go on (next element consumed?), `none` = stopped -/
def parseStd (opts : List Opt) (k : Nat) : Str → Option Str → List CmdItem × Option Bool
  | [], _ => ([], some false)
  | c :: cs, next =>
    match findShort opts c with
    | none => ([.stop .esyntax true (k + 1)], none)
    | some i =>
      if (opts.getD i default).type != 0 then
        if !cs.isEmpty then ([.set i (some cs) (k + 1)], some false)
        else match next with
          | none => ([.stop .esyntax true (k + 1)], none)
          | some a =>
            if isStringy (opts.getD i default).type && startsWithDash a then ([.stop .esyntax true (k + 2)], none)
            else ([.set i (some a) (k + 2)], some true)
      else if cs.isEmpty then ([.set i none (k + 1)], some false)
      else let r := parseStd opts k cs next; (.set i none (k + 1) :: r.1, r.2)

def parseLong (opts : List Opt) (k : Nat) (w : Str) (next : Option Str) : List CmdItem × Option Bool :=
  match optidxAbbrev opts (splitEq w).1 with
  | .ambiguous => ([.stop .esyntax true k], none)
  | .notfound => ([.stop .esyntax true k], none)
  | .found i =>
    if (opts.getD i default).type != 0 then
      match (splitEq w).2 with
      | some a => ([.set i (some a) (k + 1)], some false)
      | none =>
        match next with
        | none => ([.stop .esyntax true (k + 1)], none)
        | some a =>
          if isStringy (opts.getD i default).type && startsWithDash a then ([.stop .esyntax true (k + 2)], none)
          else ([.set i (some a) (k + 2)], some true)
    else
      match (splitEq w).2 with
      | some _ => ([.stop .esyntax true (k + 1)], none)
      | none => ([.set i none (k + 1)], some false)

def parseOpt (opts : List Opt) (k : Nat) (w : Str) (next : Option Str) : List CmdItem × Option Bool :=
  match w with
  | '-' :: '-' :: _ => parseLong opts k w next
  | _ => parseStd opts k (w.drop 1) next

/-- parse a whole command line (from `argv[k]` on) against the table -/
def parseCmd (opts : List Opt) : Nat → List Str → Bool → List CmdItem
  | k, [], _ => [.stop .ok false k]
  | k, _ :: tl, true => parseCmd opts k tl false
  | k, w :: tl, false =>
    if isArgWord w then [.stop .ok false k]
    else if w == ['-', '-'] then [.stop .ok false (k + 1)]
    else
      let r := parseOpt opts k w tl.head?
      match r.2 with
      | none => r.1
      | some extra => r.1 ++ parseCmd opts (k + 1 + (if extra then 1 else 0)) tl extra

/-- run parsed command-line items; `F` = what to do when the items are exhausted -/
def runCmd (F : G → R) : G → List CmdItem → R
  | g, [] => F g
  | g, .stop st m k :: _ => .done { g with optind := k } st m
  | g, .set i arg kf :: is =>
    match setOption g i arg byCmdline with
    | .fault => .fault
    | .done g' .ok _ => runCmd F g' is
    | .done g' st m => .done { g' with optind := kf } st m

/-- what `cmdLoop` does with the outcome of one argv element -/
def afterStep (k : Nat) (F : G → Bool → R) : Step → R
  | .fault => .fault
  | .stop g' st m adv => .done { g' with optind := k + adv } st m
  | .cont g' extra => F g' extra

theorem runCmd_congr {F F' : G → R} {opts : List Opt} (hF : ∀ g, g.opts = opts → F g = F' g) :
    ∀ (is : List CmdItem) (g : G), g.opts = opts → runCmd F g is = runCmd F' g is := by
  intro is
  induction is with
  | nil => intro g hg; exact hF g hg
  | cons it is ih =>
    intro g hg
    cases it with
    | stop st m k => rfl
    | set i arg kf => exact afterSet_congr fun g1 _ hs => ih g1 ((setOption_frame hs).opts.trans hg)

theorem runCmd_append (F : G → R) : ∀ (a b : List CmdItem) (g : G), runCmd F g (a ++ b) = runCmd (fun g' => runCmd F g' b) g a := by
  intro a
  induction a with
  | nil => intro b g; rfl
  | cons it a ih =>
    intro b g
    cases it with
    | stop st m k => rfl
    | set i arg kf => exact afterSet_congr (upd := fun g' => { g' with optind := kf }) fun g1 _ _ => ih b g1

/-- a parsed element, run: either stops, or continues with `F g' extra` -/
def runParsed (F : G → Bool → R) (g : G) (r : List CmdItem × Option Bool) : R :=
  match r.2 with
  | none => runCmd (fun g' => .done g' .ok false) g r.1
  | some extra => runCmd (fun g' => F g' extra) g r.1

/-- the three-way exit after a `set_option` call in the command-line code is the run of that one setting -/
theorem afterStep_set (k : Nat) (F : G → Bool → R) (g : G) (i : Nat) (a : Option Str) (extra : Bool) (adv : Nat) :
    afterStep k F (match setOption g i a byCmdline with
      | .fault => .fault
      | .done g' .ok _ => .cont g' extra
      | .done g' st m => .stop g' st m adv) =
    runParsed F g ([.set i a (k + adv)], some extra) := by
  simp only [runParsed, runCmd]
  cases setOption g i a byCmdline with
  | fault => rfl
  | done g1 st m => cases st <;> rfl

theorem stdLoop_eq (k : Nat) (F : G → Bool → R) : ∀ (cs : Str) (g : G) (next : Option Str),
    afterStep k F (stdLoop g cs next) = runParsed F g (parseStd g.opts k cs next) := by
  intro cs
  induction cs with
  | nil => intro g next; rfl
  | cons c cs ih =>
    intro g next
    unfold stdLoop parseStd
    cases findShort g.opts c with
    | none => rfl
    | some i =>
      simp only [G.opt]
      by_cases ht : ((g.opts.getD i default).type != 0) = true
      · simp only [ht, ↓reduceIte]
        by_cases hc : cs.isEmpty = true
        · simp only [hc, Bool.not_true, Bool.false_eq_true, ↓reduceIte]
          cases next with
          | none => rfl
          | some a =>
            simp only
            by_cases hd : (isStringy (g.opts.getD i default).type && startsWithDash a) = true
            · simp only [hd, ↓reduceIte]; rfl
            · simp only [hd, Bool.false_eq_true, ↓reduceIte]
              exact afterStep_set k F g i _ true 2
        · simp only [hc, Bool.not_false, ↓reduceIte]
          exact afterStep_set k F g i _ false 1
      · simp only [ht, Bool.false_eq_true, ↓reduceIte]
        by_cases hc : cs.isEmpty = true
        · simp only [hc, ↓reduceIte]
          exact afterStep_set k F g i none false 1
        · -- a flag inside a cluster: the rest of the cluster is parsed, and run, after it
          simp only [hc, Bool.false_eq_true, ↓reduceIte]
          cases hs : setOption g i none byCmdline with
          | fault => cases hr : (parseStd g.opts k cs next).2 <;> simp [runParsed, runCmd, hs, afterStep]
          | done g1 st m =>
            cases st with
            | ok =>
              simp only
              rw [ih g1 next, (setOption_frame hs).opts]
              cases hr : (parseStd g.opts k cs next).2 <;> simp [runParsed, runCmd, hs, hr]
            | esyntax => cases hr : (parseStd g.opts k cs next).2 <;> simp [runParsed, runCmd, hs, afterStep]
            | einval => cases hr : (parseStd g.opts k cs next).2 <;> simp [runParsed, runCmd, hs, afterStep]

theorem longOpt_eq (k : Nat) (F : G → Bool → R) (g : G) (w : Str) (next : Option Str) :
    afterStep k F (longOpt g w next) = runParsed F g (parseLong g.opts k w next) := by
  unfold longOpt parseLong
  simp only
  cases optidxAbbrev g.opts (splitEq w).1 with
  | ambiguous => rfl
  | notfound => rfl
  | found i =>
    simp only [G.opt]
    by_cases ht : ((g.opts.getD i default).type != 0) = true
    · simp only [ht, ↓reduceIte]
      cases (splitEq w).2 with
      | some a => exact afterStep_set k F g i _ false 1
      | none =>
        cases next with
        | none => rfl
        | some a =>
          simp only
          by_cases hd : (isStringy (g.opts.getD i default).type && startsWithDash a) = true
          · simp only [hd, ↓reduceIte]; rfl
          · simp only [hd, Bool.false_eq_true, ↓reduceIte]
            exact afterStep_set k F g i _ true 2
    · simp only [ht, Bool.false_eq_true, ↓reduceIte]
      cases (splitEq w).2 with
      | some a => rfl
      | none => exact afterStep_set k F g i none false 1

theorem optStep_eq (k : Nat) (F : G → Bool → R) (g : G) (w : Str) (next : Option Str) :
    afterStep k F (optStep g w next) = runParsed F g (parseOpt g.opts k w next) := by
  unfold optStep parseOpt
  split
  · exact longOpt_eq k F g _ next
  · rename_i hne
    split
    · rename_i tail; exact absurd rfl (hne tail)
    · exact stdLoop_eq k F _ g next

theorem cmdLoop_afterStep (g : G) (k : Nat) (w : Str) (tl : List Str) (h1 : isArgWord w = false) (h2 : (w == ['-', '-']) = false) :
    cmdLoop g k (w :: tl) false =
      afterStep k (fun g' extra => cmdLoop g' (k + 1 + (if extra then 1 else 0)) tl extra) (optStep g w tl.head?) := by
  conv => lhs; unfold cmdLoop
  simp only [h1, h2, Bool.false_eq_true, ↓reduceIte]
  cases optStep g w tl.head? <;> rfl

/-- a word `--r` other than `--` itself goes to `process_longopt` -/
theorem cmdLoop_long (g : G) (k : Nat) (r : Str) (tl : List Str) (hr : r ≠ []) :
    cmdLoop g k (('-' :: '-' :: r) :: tl) false =
      afterStep k (fun g' extra => cmdLoop g' (k + 1 + (if extra then 1 else 0)) tl extra) (longOpt g ('-' :: '-' :: r) tl.head?) := by
  obtain ⟨a, b, rfl⟩ := List.exists_cons_of_ne_nil hr
  exact cmdLoop_afterStep g k _ tl (by simp [isArgWord, startsWithDash]) rfl

theorem cmdLoop_eq : ∀ (ws : List Str) (g : G) (k : Nat) (skip : Bool),
    cmdLoop g k ws skip = runCmd (fun g' => .done g' .ok false) g (parseCmd g.opts k ws skip) := by
  intro ws
  induction ws with
  | nil => intro g k skip; simp [cmdLoop, parseCmd, runCmd]
  | cons w tl ih =>
    intro g k skip
    cases skip with
    | true => simpa [cmdLoop, parseCmd] using ih g k false
    | false =>
      by_cases h1 : isArgWord w = true
      · simp [cmdLoop, parseCmd, h1, runCmd]
      · have h1' : isArgWord w = false := by simpa using h1
        by_cases h2 : (w == ['-', '-']) = true
        · simp [cmdLoop, parseCmd, h1', h2, runCmd]
        · have h2' : (w == ['-', '-']) = false := by simpa using h2
          rw [cmdLoop_afterStep g k w tl h1' h2', optStep_eq]
          unfold parseCmd
          simp only [h1', h2', Bool.false_eq_true, ↓reduceIte, runParsed]
          cases hr : (parseOpt g.opts k w tl.head?).2 with
          | none => rfl
          | some extra =>
            simp only
            rw [runCmd_append]
            apply runCmd_congr (opts := g.opts) _ _ g rfl
            intro g' hg'
            rw [ih g' _ extra, hg']

/-- `esl_opt_ProcessCmdline` = parse `argv` against the table, then run the settings in order.  The continuation handed to `runCmd`
    is never reached: a parse ends in a stop (`parseCmd_shape`). -/
theorem processCmdline_eq (g : G) (argv : List Str) :
    processCmdline g argv = runCmd (fun g' => .done g' .ok false) { g with argv := argv, optind := 1 }
      (parseCmd g.opts 1 (argv.drop 1) false) := by
  unfold processCmdline
  exact cmdLoop_eq _ _ _ _

end EaselModel.Getopts
