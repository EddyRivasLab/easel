import EaselModel.Getopts.Verify
/-! # C14 — histories of settings: the last source that set (or toggled) an option decides its value. -/
namespace EaselModel.Getopts

/-- one `set_option` call: option index, argument, setter code (`1` command line, `2` environment, `3+k` config file `k`) -/
structure Ev where
  i : Nat
  arg : Option Str
  src : Nat
  deriving Repr, DecidableEq

/-- a history of `set_option` calls all of which succeed -/
def runSets : G → List Ev → Option G
  | g, [] => some g
  | g, e :: es =>
    match setOption g e.i e.arg e.src with
    | .done g' .ok _ => runSets g' es
    | _ => none

/-- does the call `e` possibly change option `j`: it sets `j`, or `j` is in the toggle list of the option it sets -/
def touches (opts : List Opt) (e : Ev) (j : Nat) : Bool :=
  e.i == j || (listIdx opts (opts.getD e.i default).toggle).contains j

theorem runSets_cons_some {g g' : G} {e : Ev} {es : List Ev} (h : runSets g (e :: es) = some g') :
    ∃ g1 m, setOption g e.i e.arg e.src = .done g1 .ok m ∧ runSets g1 es = some g' := by
  unfold runSets at h
  split at h
  · rename_i g1 m hs; exact ⟨g1, m, hs, h⟩
  · cases h

theorem setOption_untouched {g g' : G} {e : Ev} {m : Bool} {j : Nat} (hinv : Inv g) (hi : e.i < g.opts.length)
    (h : setOption g e.i e.arg e.src = .done g' .ok m) (ht : touches g.opts e j = false) :
    g'.valOf j = g.valOf j ∧ g'.setter j = g.setter j := by
  have := (setOption_ok hinv hi h).2.spec j
  simp only [touches, Bool.or_eq_false_iff, beq_eq_false_iff_ne, ne_eq] at ht
  have h1 : ¬ j = e.i := fun hh => ht.1 hh.symm
  have h2 : j ∉ listIdx g.opts (g.opt e.i).toggle := by
    have := ht.2
    simpa [G.opt] using this
  simp only [setSpec, h1, h2, false_and, ↓reduceIte] at this
  exact ⟨congrArg Prod.fst this, congrArg Prod.snd this⟩

/-- (a, default part) an option that no call of the history touches keeps value and setter — in particular an
    option never set by any source stays at its default -/
theorem runSets_untouched : ∀ (es : List Ev) (g g' : G) (j : Nat), Inv g → (∀ e ∈ es, e.i < g.opts.length) →
    runSets g es = some g' → (∀ e ∈ es, touches g.opts e j = false) →
    g'.valOf j = g.valOf j ∧ g'.setter j = g.setter j ∧ Inv g' ∧ g'.opts = g.opts := by
  intro es
  induction es with
  | nil => intro g g' j hinv _ h _; simp [runSets] at h; subst h; exact ⟨rfl, rfl, hinv, rfl⟩
  | cons e es ih =>
    intro g g' j hinv hi h ht
    obtain ⟨g1, m, hs, hr⟩ := runSets_cons_some h
    have hei := hi e List.mem_cons_self
    have hd := (setOption_ok hinv hei hs).2
    obtain ⟨a, b⟩ := setOption_untouched hinv hei hs (ht e List.mem_cons_self)
    obtain ⟨c, d, e1, e2⟩ := ih g1 g' j hd.inv (by intro e' he'; rw [hd.frame.opts]; exact hi e' (List.mem_cons_of_mem _ he')) hr
      (by intro e' he'; rw [hd.frame.opts]; exact ht e' (List.mem_cons_of_mem _ he'))
    exact ⟨c.trans a, d.trans b, e1, e2.trans hd.frame.opts⟩

theorem runSets_frame : ∀ (es : List Ev) (g g' : G), Inv g → (∀ e ∈ es, e.i < g.opts.length) →
    runSets g es = some g' → Inv g' ∧ g'.opts = g.opts := by
  intro es
  induction es with
  | nil => intro g g' hinv _ h; simp [runSets] at h; subst h; exact ⟨hinv, rfl⟩
  | cons e es ih =>
    intro g g' hinv hi h
    obtain ⟨g1, m, hs, hr⟩ := runSets_cons_some h
    have hd := (setOption_ok hinv (hi e List.mem_cons_self) hs).2
    obtain ⟨a, b⟩ := ih g1 g' hd.inv (by intro e' he'; rw [hd.frame.opts]; exact hi e' (List.mem_cons_of_mem _ he')) hr
    exact ⟨a, b.trans hd.frame.opts⟩

theorem runSets_append {g g' : G} : ∀ (pre post : List Ev), runSets g (pre ++ post) = some g' →
    ∃ g1, runSets g pre = some g1 ∧ runSets g1 post = some g' := by
  intro pre
  induction pre generalizing g with
  | nil => intro post h; exact ⟨g, rfl, h⟩
  | cons e es ih =>
    intro post h
    obtain ⟨g1, m, hs, hr⟩ := runSets_cons_some (by simpa using h)
    obtain ⟨g2, h2, h3⟩ := ih post hr
    exact ⟨g2, by simp [runSets, hs, h2], h3⟩

theorem runSets_last_touch (pre post : List Ev) (e : Ev) (j : Nat) (g g' : G) (hinv : Inv g)
    (hi : ∀ e' ∈ pre ++ e :: post, e'.i < g.opts.length)
    (h : runSets g (pre ++ e :: post) = some g') (hlast : ∀ e' ∈ post, touches g.opts e' j = false) :
    ∃ g1, runSets g pre = some g1 ∧ g1.opts = g.opts ∧ (g'.valOf j, g'.setter j) = setSpec g1 e.i e.arg e.src j := by
  obtain ⟨g1, h1, h2⟩ := runSets_append pre (e :: post) h
  obtain ⟨hinv1, ho1⟩ := runSets_frame pre g g1 hinv (fun e' he' => hi e' (List.mem_append_left _ he')) h1
  obtain ⟨g2, m, hs, hr⟩ := runSets_cons_some h2
  have hei : e.i < g1.opts.length := by rw [ho1]; exact hi e (by simp)
  have hd := (setOption_ok hinv1 hei hs).2
  obtain ⟨a, b, _, _⟩ := runSets_untouched post g2 g' j hd.inv
    (by intro e' he'; rw [hd.frame.opts, ho1]; exact hi e' (by simp [he'])) hr
    (by intro e' he'; rw [hd.frame.opts, ho1]; exact hlast e' he')
  exact ⟨g1, h1, ho1, by rw [a, b]; exact hd.spec j⟩

/-- (a) **the last source that set an option decides**: after any history in which `e` is the last call touching
    option `e.i`, that option has the value `e` gave it and names `e`'s source as its setter -/
theorem runSets_last_set (pre post : List Ev) (e : Ev) (g g' : G) (hinv : Inv g)
    (hi : ∀ e' ∈ pre ++ e :: post, e'.i < g.opts.length)
    (h : runSets g (pre ++ e :: post) = some g') (hlast : ∀ e' ∈ post, touches g.opts e' e.i = false) :
    g'.valOf e.i = newVal (g.opt e.i) e.arg ∧ g'.setter e.i = e.src := by
  obtain ⟨g1, _, ho1, hspec⟩ := runSets_last_touch pre post e e.i g g' hinv hi h hlast
  simp only [setSpec, ↓reduceIte] at hspec
  have hopt : g1.opt e.i = g.opt e.i := by simp [G.opt, ho1]
  rw [← hopt]
  exact ⟨congrArg Prod.fst hspec, congrArg Prod.snd hspec⟩

/-- (b) **toggle**: after any history in which `e` is the last call touching option `j`, where `j` is another
    member of the toggle list of the option `e` sets, option `j` is off; if it was on before `e`, its setter is
    `e`'s source, otherwise value and setter are what they were before `e` -/
theorem runSets_toggled (pre post : List Ev) (e : Ev) (j : Nat) (g g' : G) (hinv : Inv g)
    (hi : ∀ e' ∈ pre ++ e :: post, e'.i < g.opts.length)
    (h : runSets g (pre ++ e :: post) = some g') (hj : j ≠ e.i) (hmem : j ∈ listIdx g.opts (g.opt e.i).toggle)
    (hlast : ∀ e' ∈ post, touches g.opts e' j = false) :
    isOn g' j = false ∧
    ∃ g1, runSets g pre = some g1 ∧ (if isOn g1 j then g'.setter j = e.src else g'.setter j = g1.setter j) := by
  obtain ⟨g1, h1, ho1, hspec⟩ := runSets_last_touch pre post e j g g' hinv hi h hlast
  have hmem1 : j ∈ listIdx g1.opts (g1.opt e.i).toggle := by simpa [G.opt, ho1] using hmem
  simp only [setSpec, hj, hmem1, true_and, ↓reduceIte] at hspec
  cases hn : (g1.valOf j).isNull with
  | false =>
    simp only [hn, ↓reduceIte] at hspec
    have hv : g'.valOf j = .null := congrArg Prod.fst hspec
    have hst : g'.setter j = e.src := congrArg Prod.snd hspec
    exact ⟨by simp [isOn, hv, Val.isNull], g1, h1, by simp [isOn, hn, hst]⟩
  | true =>
    simp only [hn, Bool.true_eq_false, ↓reduceIte] at hspec
    have hv : g'.valOf j = g1.valOf j := congrArg Prod.fst hspec
    have hst : g'.setter j = g1.setter j := congrArg Prod.snd hspec
    exact ⟨by simp [isOn, hv, hn], g1, h1, by simp [isOn, hn, hst]⟩

/-- (a, second half) once a source has set an option, a second setting of the same option by the same source is a
    usage error that changes nothing -/
theorem same_source_twice {g g1 : G} {i src : Nat} {arg arg' : Option Str} {m : Bool} (hinv : Inv g) (hi : i < g.opts.length)
    (h : setOption g i arg src = .done g1 .ok m) : setOption g1 i arg' src = .done g1 .esyntax true := by
  have := (setOption_ok hinv hi h).2.spec i
  simp only [setSpec, ↓reduceIte] at this
  exact setOption_rejected (Or.inl (congrArg Prod.snd this))

/-- … and so is setting an option that the same source has just toggled off -/
theorem set_after_toggle_same_source {g g1 : G} {i j src : Nat} {arg arg' : Option Str} {m : Bool} (hinv : Inv g) (hi : i < g.opts.length)
    (h : setOption g i arg src = .done g1 .ok m) (hj : j ≠ i) (hmem : j ∈ listIdx g.opts (g.opt i).toggle)
    (hon : (g.valOf j).isNull = false) : setOption g1 j arg' src = .done g1 .esyntax true := by
  have := (setOption_ok hinv hi h).2.spec j
  simp only [setSpec, hj, hmem, hon, and_self, ↓reduceIte] at this
  exact setOption_rejected (Or.inl (congrArg Prod.snd this))

end EaselModel.Getopts
