import EaselModel.Getopts.Sources
import EaselModel.Core.ListWhile
/-! # C14 — tokenizers: a spoofed command line of plain words is that list of words; a config-file line
    `name arg` / `name` is the setting it spells. -/
namespace EaselModel.Getopts

/-- a word made of non-delimiter characters only -/
def Plain (delim : Str) (w : Str) : Prop := w ≠ [] ∧ ∀ c ∈ w, delim.contains c = false

theorem dropWhile_delim_plain {delim w rest : Str} (h : Plain delim w) :
    (w ++ rest).dropWhile (fun c => delim.contains c) = w ++ rest := by
  obtain ⟨a, w', rfl⟩ := List.exists_cons_of_ne_nil h.1
  exact dropWhile_head_stop _ fun c hc => by cases hc; exact h.2 _ List.mem_cons_self

theorem Plain.not_delim {delim w : Str} (h : Plain delim w) : ∀ c ∈ w, (!delim.contains c) = true :=
  fun c hc => by rw [h.2 c hc]; rfl

theorem strtok_word {delim w rest : Str} {d : Char} (h : Plain delim w) (hd : delim.contains d = true) :
    strtok (w ++ d :: rest) delim = (some w, rest) := by
  have hd' : (!delim.contains d) = false := by rw [hd]; rfl
  have h1 := dropWhile_delim_plain (rest := d :: rest) h
  have h2 := takeWhile_app_stop w d rest h.not_delim hd'
  have h3 := dropWhile_app_stop w d rest h.not_delim hd'
  obtain ⟨a, w', rfl⟩ := List.exists_cons_of_ne_nil h.1
  unfold strtok
  simp only [h1, h2, h3]
  rfl

theorem strtok_last {delim w : Str} (h : Plain delim w) : strtok w delim = (some w, []) := by
  have h1 := dropWhile_delim_plain (rest := []) h
  rw [List.append_nil] at h1
  obtain ⟨a, w', rfl⟩ := List.exists_cons_of_ne_nil h.1
  unfold strtok
  simp only [h1, takeWhile_all _ h.not_delim, dropWhile_all _ h.not_delim]

/-- words joined by single blanks -/
def joinSp : List Str → Str
  | [] => []
  | [w] => w
  | w :: v :: ws => w ++ ' ' :: joinSp (v :: ws)

/-- a command-line word as it can appear unquoted in a spoofed command line -/
def SpoofWord (w : Str) : Prop := Plain wsDelim w ∧ w.head? ≠ some '"'

theorem spoofTokens_joinSp : ∀ (ws : List Str) (fuel : Nat), (∀ w ∈ ws, SpoofWord w) → ws.length ≤ fuel →
    spoofTokens fuel (joinSp ws) = ws := by
  intro ws
  induction ws with
  | nil => intro fuel _ _; cases fuel <;> rfl
  | cons w ws ih =>
    intro fuel hw hf
    obtain ⟨hp, hq⟩ := hw w List.mem_cons_self
    have hws : ∀ v ∈ ws, SpoofWord v := fun v hv => hw v (List.mem_cons_of_mem _ hv)
    cases fuel with
    | zero => simp at hf
    | succ f =>
      obtain ⟨a, w', rfl⟩ := List.exists_cons_of_ne_nil hp.1
      have ha : (a == '"') = false := by
        cases h : a == '"' with
        | false => rfl
        | true => exact absurd (by simp [show a = '"' by simpa using h]) hq
      cases ws with
      | nil =>
        simp only [joinSp, spoofTokens, ha, Bool.false_eq_true, ↓reduceIte, strtok_last hp]
        cases f <;> rfl
      | cons v vs =>
        have e : joinSp ((a :: w') :: v :: vs) = (a :: w') ++ ' ' :: joinSp (v :: vs) := rfl
        have hst := strtok_word (rest := joinSp (v :: vs)) hp (show wsDelim.contains ' ' = true by decide)
        rw [e]
        simp only [List.cons_append] at hst ⊢
        simp only [spoofTokens, ha, Bool.false_eq_true, ↓reduceIte, hst]
        rw [ih f hws (by simp at hf ⊢; omega)]

theorem joinSp_length : ∀ (ws : List Str), (∀ w ∈ ws, w ≠ []) → ws.length ≤ (joinSp ws).length + 1 := by
  intro ws
  induction ws with
  | nil => intro _; simp
  | cons w ws ih =>
    intro h
    cases ws with
    | nil => simp [joinSp]
    | cons v vs =>
      have := ih (fun x hx => h x (List.mem_cons_of_mem _ hx))
      have hw : 1 ≤ w.length := by
        have := h w List.mem_cons_self
        cases w with
        | nil => exact absurd rfl this
        | cons _ _ => simp
      simp only [joinSp, List.length_append, List.length_cons] at this ⊢
      omega

theorem processSpoof_words (g : G) (ws : List Str) (hs : g.spoofed = false) (hw : ∀ w ∈ ws, SpoofWord w) :
    processSpoof g (joinSp ws) = processCmdline { g with spoofed := true } ws := by
  unfold processSpoof
  simp only [hs, Bool.false_eq_true, ↓reduceIte]
  rw [spoofTokens_joinSp ws _ hw (joinSp_length ws (fun w h => (hw w h).1.1))]

theorem cfgTokens_name_arg {name arg : Str} (hn : Plain wsDelim name) (ha : Plain wsDelim arg) (hq : arg.head? ≠ some '"') :
    cfgTokens (name ++ ' ' :: (arg ++ ['\n'])) = (some name, some arg, none) := by
  unfold cfgTokens
  have h1 := strtok_word (rest := arg ++ ['\n']) hn (show wsDelim.contains ' ' = true by decide)
  have h2 := strtok_word (rest := []) ha (show wsDelim.contains '\n' = true by decide)
  obtain ⟨a, arg', rfl⟩ := List.exists_cons_of_ne_nil ha.1
  have hq' : ((a :: arg' ++ ['\n']).head? == some '"') = false := by
    have : a ≠ '"' := by simpa using hq
    simp [this]
  simp only [h1, hq', Bool.false_eq_true, ↓reduceIte, h2]
  rfl

theorem cfgTokens_name {name : Str} (hn : Plain wsDelim name) :
    cfgTokens (name ++ ['\n']) = (some name, none, none) := by
  unfold cfgTokens
  have h1 := strtok_word (rest := []) hn (show wsDelim.contains '\n' = true by decide)
  simp only [h1]
  rfl

theorem cfgItem_name_arg {opts : List Opt} {name arg : Str} {i : Nat} (hn : Plain wsDelim name) (ha : Plain wsDelim arg)
    (hq : arg.head? ≠ some '"') (hdash : name.head? = some '-') (hi : optidxExactly opts name = some i) :
    cfgItem opts (name ++ ' ' :: (arg ++ ['\n'])) = some (.set i (some arg)) := by
  unfold cfgItem
  rw [cfgTokens_name_arg hn ha hq]
  simp [hdash, hi]

theorem cfgItem_flag {opts : List Opt} {name : Str} {i : Nat} (hn : Plain wsDelim name) (hdash : name.head? = some '-')
    (hi : optidxExactly opts name = some i) (ht : (opts.getD i default).type = 0) :
    cfgItem opts (name ++ ['\n']) = some (.set i none) := by
  unfold cfgItem
  rw [cfgTokens_name hn]
  have ht' := ht
  simp only [List.getD_eq_getElem?_getD] at ht'
  simp [hdash, hi, ht']

/-- a line naming an argument-taking option without an argument is a usage error (fix 8d4fde4) -/
theorem cfgItem_missing_arg {opts : List Opt} {name : Str} {i : Nat} (hn : Plain wsDelim name) (hdash : name.head? = some '-')
    (hi : optidxExactly opts name = some i) (ht : (opts.getD i default).type ≠ 0) :
    cfgItem opts (name ++ ['\n']) = some .usage := by
  unfold cfgItem
  rw [cfgTokens_name hn]
  have ht' := ht
  simp only [List.getD_eq_getElem?_getD] at ht'
  simp [hdash, hi, ht']

/-- a line whose first word is not an option name of the table is a usage error (no abbreviations in config files) -/
theorem cfgItem_unknown {opts : List Opt} {name : Str} (hn : Plain wsDelim name) (hdash : name.head? = some '-')
    (hi : optidxExactly opts name = none) : cfgItem opts (name ++ ['\n']) = some .usage := by
  unfold cfgItem
  rw [cfgTokens_name hn]
  simp [hdash, hi]

theorem splitEq_eq : ∀ (name v : Str), '=' ∉ name → splitEq (name ++ '=' :: v) = (name, some v) := by
  intro name
  induction name with
  | nil => intro v _; simp [splitEq]
  | cons c name ih =>
    intro v h
    have hc : (c == '=') = false := by
      cases hq : c == '=' with
      | false => rfl
      | true => exact absurd (by simp [show c = '=' by simpa using hq]) h
    have := ih v (fun e => h (List.mem_cons_of_mem _ e))
    simp only [List.cons_append, splitEq, hc, Bool.false_eq_true, ↓reduceIte, this]

theorem splitEq_none : ∀ (w : Str), '=' ∉ w → splitEq w = (w, none) := by
  intro w
  induction w with
  | nil => intro _; rfl
  | cons c w ih =>
    intro h
    have hc : (c == '=') = false := by
      cases hq : c == '=' with
      | false => rfl
      | true => exact absurd (by simp [show c = '=' by simpa using hq]) h
    have := ih (fun e => h (List.mem_cons_of_mem _ e))
    simp only [splitEq, hc, Bool.false_eq_true, ↓reduceIte, this]

/-- `--name=value` -/
theorem parseLong_eq_form {opts : List Opt} {name v : Str} {i : Nat} (k : Nat) (next : Option Str) (hne : '=' ∉ name)
    (hi : optidxAbbrev opts name = .found i) (ht : (opts.getD i default).type ≠ 0) :
    parseLong opts k (name ++ '=' :: v) next = ([.set i (some v) (k + 1)], some false) := by
  have ht' : ((opts.getD i default).type != 0) = true := bne_iff_ne.mpr ht
  unfold parseLong
  simp only [splitEq_eq name v hne, hi, ht', ↓reduceIte]

/-- `--name value` (the value must not look like an option when the type is unchecked) -/
theorem parseLong_sep_form {opts : List Opt} {name v : Str} {i : Nat} (k : Nat) (hne : '=' ∉ name)
    (hi : optidxAbbrev opts name = .found i) (ht : (opts.getD i default).type ≠ 0)
    (hv : (isStringy (opts.getD i default).type && startsWithDash v) = false) :
    parseLong opts k name (some v) = ([.set i (some v) (k + 2)], some true) := by
  have ht' : ((opts.getD i default).type != 0) = true := bne_iff_ne.mpr ht
  unfold parseLong
  simp only [splitEq_none name hne, hi, ht', hv, Bool.false_eq_true, ↓reduceIte]

/-- `--flag` -/
theorem parseLong_flag {opts : List Opt} {name : Str} {i : Nat} (k : Nat) (next : Option Str) (hne : '=' ∉ name)
    (hi : optidxAbbrev opts name = .found i) (ht : (opts.getD i default).type = 0) :
    parseLong opts k name next = ([.set i none (k + 1)], some false) := by
  have ht' : ((opts.getD i default).type != 0) = false := by rw [ht]; rfl
  unfold parseLong
  simp only [splitEq_none name hne, hi, ht', Bool.false_eq_true, ↓reduceIte]

/-- `-Wvalue`: the rest of the word is the argument -/
theorem parseStd_attached {opts : List Opt} {c : Char} {v : Str} {i : Nat} (k : Nat) (next : Option Str)
    (hf : findShort opts c = some i) (ht : (opts.getD i default).type ≠ 0) (hv : v ≠ []) :
    parseStd opts k (c :: v) next = ([.set i (some v) (k + 1)], some false) := by
  have ht' : ((opts.getD i default).type != 0) = true := bne_iff_ne.mpr ht
  have hv' : (!v.isEmpty) = true := by cases v with
    | nil => exact absurd rfl hv
    | cons _ _ => rfl
  unfold parseStd
  simp only [hf, ht', hv', ↓reduceIte]

/-- `-W value` -/
theorem parseStd_sep {opts : List Opt} {c : Char} {v : Str} {i : Nat} (k : Nat)
    (hf : findShort opts c = some i) (ht : (opts.getD i default).type ≠ 0)
    (hv : (isStringy (opts.getD i default).type && startsWithDash v) = false) :
    parseStd opts k [c] (some v) = ([.set i (some v) (k + 2)], some true) := by
  have ht' : ((opts.getD i default).type != 0) = true := bne_iff_ne.mpr ht
  unfold parseStd
  simp only [hf, ht', hv, List.isEmpty_nil, Bool.not_true, Bool.false_eq_true, ↓reduceIte]

/-- `-abc`: a boolean inside a cluster is switched on and the cluster goes on (`-abc` = `-a -b -c`) -/
theorem parseStd_cluster_flag {opts : List Opt} {c : Char} {cs : Str} {i : Nat} (k : Nat) (next : Option Str)
    (hf : findShort opts c = some i) (ht : (opts.getD i default).type = 0) (hcs : cs ≠ []) :
    parseStd opts k (c :: cs) next = (.set i none (k + 1) :: (parseStd opts k cs next).1, (parseStd opts k cs next).2) := by
  have ht' : ((opts.getD i default).type != 0) = false := by rw [ht]; rfl
  have hc : cs.isEmpty = false := by cases cs with
    | nil => exact absurd rfl hcs
    | cons _ _ => rfl
  conv => lhs; unfold parseStd
  simp only [hf, ht', hc, Bool.false_eq_true, ↓reduceIte]

/-- the last boolean of a cluster -/
theorem parseStd_last_flag {opts : List Opt} {c : Char} {i : Nat} (k : Nat) (next : Option Str)
    (hf : findShort opts c = some i) (ht : (opts.getD i default).type = 0) :
    parseStd opts k [c] next = ([.set i none (k + 1)], some false) := by
  have ht' : ((opts.getD i default).type != 0) = false := by rw [ht]; rfl
  unfold parseStd
  simp only [hf, ht', List.isEmpty_nil, Bool.false_eq_true, ↓reduceIte]

theorem fileLinesAux_skip : ∀ (l rest acc : Str), '\n' ∉ l →
    fileLinesAux (l ++ '\n' :: rest) acc = (acc.reverse ++ l ++ ['\n']) :: fileLinesAux rest [] := by
  intro l
  induction l with
  | nil => intro rest acc _; simp [fileLinesAux]
  | cons c l ih =>
    intro rest acc h
    have hc : (c == '\n') = false := by
      cases hq : c == '\n' with
      | false => rfl
      | true => exact absurd (by simp [show c = '\n' by simpa using hq]) h
    have hl : '\n' ∉ l := fun e => h (List.mem_cons_of_mem _ e)
    simp only [List.cons_append, fileLinesAux, hc, Bool.false_eq_true, ↓reduceIte]
    rw [ih rest (c :: acc) hl]
    simp

theorem fileLines_join : ∀ (lines : List Str), (∀ l ∈ lines, '\n' ∉ l) →
    fileLines (lines.flatMap (fun l => l ++ ['\n'])) = lines.map (fun l => l ++ ['\n']) := by
  intro lines
  induction lines with
  | nil => intro _; rfl
  | cons l ls ih =>
    intro h
    have hl := h l List.mem_cons_self
    have := ih (fun x hx => h x (List.mem_cons_of_mem _ hx))
    unfold fileLines at this ⊢
    simp only [List.flatMap_cons, List.map_cons, List.append_assoc, List.singleton_append]
    rw [fileLinesAux_skip l _ [] hl, this]
    simp

/-- one intended setting of a config file: option index, its name, and the argument (if the option takes one) -/
structure CfgEntry where
  i : Nat
  name : Str
  arg : Option Str

def CfgEntry.line (e : CfgEntry) : Str :=
  match e.arg with
  | some a => e.name ++ ' ' :: a
  | none => e.name

/-- the entry is spelled correctly for the table: exact option name, plain words, an argument iff the option takes one -/
structure CfgEntry.Good (opts : List Opt) (e : CfgEntry) : Prop where
  name_plain : Plain wsDelim e.name
  dash : e.name.head? = some '-'
  resolves : optidxExactly opts e.name = some e.i
  arg_ok : match e.arg with
    | some a => Plain wsDelim a ∧ a.head? ≠ some '"' ∧ (opts.getD e.i default).type ≠ 0
    | none => (opts.getD e.i default).type = 0

theorem plain_no_newline {w : Str} (h : Plain wsDelim w) : '\n' ∉ w := by
  intro hm
  have := h.2 '\n' hm
  simp [wsDelim] at this

theorem cfgItem_entry {opts : List Opt} {e : CfgEntry} (h : e.Good opts) :
    cfgItem opts (e.line ++ ['\n']) = some (.set e.i e.arg) := by
  obtain ⟨hn, hd, hr, ha⟩ := h
  unfold CfgEntry.line
  cases harg : e.arg with
  | none =>
    simp only [harg] at ha
    exact cfgItem_flag hn hd hr ha
  | some a =>
    simp only [harg] at ha
    have := cfgItem_name_arg hn ha.1 ha.2.1 hd hr
    simpa [List.append_assoc] using this

theorem entry_line_no_newline {opts : List Opt} {e : CfgEntry} (h : e.Good opts) : '\n' ∉ e.line := by
  obtain ⟨hn, _, _, ha⟩ := h
  unfold CfgEntry.line
  cases harg : e.arg with
  | none => exact plain_no_newline hn
  | some a =>
    simp only [harg] at ha
    intro hm
    rcases List.mem_append.mp hm with hm | hm
    · exact plain_no_newline hn hm
    · rcases List.mem_cons.mp hm with hm | hm
      · cases hm
      · exact plain_no_newline ha.1 hm

theorem cfgfile_items (opts : List Opt) (es : List CfgEntry) (h : ∀ e ∈ es, e.Good opts) :
    (fileLines (es.flatMap (fun e => e.line ++ ['\n']))).filterMap (cfgItem opts) = es.map (fun e => CfgItem.set e.i e.arg) := by
  have h1 : es.flatMap (fun e => e.line ++ ['\n']) = (es.map CfgEntry.line).flatMap (fun l => l ++ ['\n']) := by
    simp [List.flatMap_map]
  rw [h1, fileLines_join _ (by
    intro l hl
    obtain ⟨e, he, rfl⟩ := List.mem_map.mp hl
    exact entry_line_no_newline (h e he))]
  rw [List.map_map]
  induction es with
  | nil => rfl
  | cons e es ih =>
    simp only [List.map_cons, List.filterMap_cons, Function.comp]
    rw [cfgItem_entry (h e List.mem_cons_self)]
    simp only
    rw [ih (fun x hx => h x (List.mem_cons_of_mem _ hx))
      (by simp [List.flatMap_map])]

end EaselModel.Getopts
