import EaselModel.Getopts.Help
import EaselModel.Getopts.History
/-! Four topics around the parsed object. `esl_opt_DisplayHelp`: when it fails, and that each selected option gets one line within the
text width (`displayHelp_none_iff`, `displayHelp_some`, `displayHelp_documented`). `esl_opt_SpoofCmdline`: which options are listed and
that it returns (`spoofOptWords_listed_iff`, `spoofCmdline_total`). `esl_opt_GetInteger` (`getInteger`) reads an accepted value as the
range check read it (`accepted_integer_read_consistently`). `esl_getopts_CreateDefaultApp` returns an object exactly when every stage
succeeded and `-h` is off (`createDefaultApp_returns_iff`). -/
namespace EaselModel.Getopts

theorem le_maxOf (f : HelpRow → Nat) : ∀ (rows : List HelpRow) (m : Nat) (r : HelpRow), r ∈ rows → f r ≤ rows.foldl (fun m r => max m (f r)) m := by
  intro rows
  induction rows with
  | nil => intro m r h; cases h
  | cons x xs ih =>
    intro m r h
    simp only [List.foldl_cons]
    rcases List.mem_cons.mp h with h | h
    · subst h
      have : ∀ (l : List HelpRow) (a : Nat), a ≤ l.foldl (fun m r => max m (f r)) a := by
        intro l
        induction l with
        | nil => intro a; exact Nat.le_refl _
        | cons y ys ih2 => intro a; simp only [List.foldl_cons]; exact Nat.le_trans (Nat.le_max_left _ _) (ih2 _)
      exact Nat.le_trans (Nat.le_max_right _ _) (this xs _)
    · exact ih _ r h

theorem mem_le_maxOf (f : HelpRow → Nat) (rows : List HelpRow) (r : HelpRow) (h : r ∈ rows) : f r ≤ maxOf f rows :=
  le_maxOf f rows 0 r h

theorem foldl_max_mono (f g : HelpRow → Nat) (hfg : ∀ r, f r ≤ g r) : ∀ (rows : List HelpRow) (a b : Nat), a ≤ b →
    rows.foldl (fun m r => max m (f r)) a ≤ rows.foldl (fun m r => max m (g r)) b := by
  intro rows
  induction rows with
  | nil => intro a b h; exact h
  | cons x xs ih =>
    intro a b h
    simp only [List.foldl_cons]
    apply ih
    have := hfg x
    omega

theorem maxOf_mono (f g : HelpRow → Nat) (hfg : ∀ r, f r ≤ g r) (rows : List HelpRow) : maxOf f rows ≤ maxOf g rows :=
  foldl_max_mono f g hfg rows 0 0 (Nat.le_refl _)

theorem w2_le_w1 (r : HelpRow) : r.w2 ≤ r.w1 := by unfold HelpRow.w1; omega
theorem w1_le_w0 (r : HelpRow) : r.w1 ≤ r.w0 := by unfold HelpRow.w0; omega

/-- `esl_opt_DisplayHelp` fails (`eslEINVAL`, nothing printed) exactly when even the barest layout — option names and
    help strings — does not fit the text width -/
theorem displayHelp_none_iff (rows : List HelpRow) (docgroup indent textwidth : Nat) :
    displayHelp rows docgroup indent textwidth = none ↔
      textwidth < indent + maxOf HelpRow.optWidth (rows.filter (·.selected docgroup)) + maxOf HelpRow.w2 (rows.filter (·.selected docgroup)) := by
  have h21 := maxOf_mono _ _ w2_le_w1 (rows.filter (·.selected docgroup))
  have h10 := maxOf_mono _ _ w1_le_w0 (rows.filter (·.selected docgroup))
  unfold displayHelp
  simp only
  split
  · constructor
    · intro h; cases h
    · intro h; omega
  · split
    · constructor
      · intro h; cases h
      · intro h; omega
    · split
      · constructor
        · intro h; cases h
        · intro h; omega
      · constructor
        · intro _; omega
        · intro _; rfl

/-- the layout decision is taken once, for all options: the output is the selected rows, in table order, each
    formatted with the same column width and the same two show-flags -/
theorem displayHelp_some (rows : List HelpRow) (docgroup indent textwidth : Nat) (lines : List Str)
    (h : displayHelp rows docgroup indent textwidth = some lines) :
    ∃ showDef showRange, lines = (rows.filter (·.selected docgroup)).map
        (helpLine indent (maxOf HelpRow.optWidth (rows.filter (·.selected docgroup))) showDef showRange) ∧
      (showRange = true → showDef = true) ∧
      indent + maxOf HelpRow.optWidth (rows.filter (·.selected docgroup)) +
        maxOf (fun r => if showRange then r.w0 else if showDef then r.w1 else r.w2) (rows.filter (·.selected docgroup)) ≤ textwidth := by
  unfold displayHelp at h
  simp only at h
  split at h
  · rename_i hc; exact ⟨true, true, (Option.some.inj h).symm, fun _ => rfl, by simpa using hc⟩
  · split at h
    · rename_i hc; exact ⟨true, false, (Option.some.inj h).symm, by simp, by simpa using hc⟩
    · split at h
      · rename_i hc; exact ⟨false, false, (Option.some.inj h).symm, by simp, by simpa using hc⟩
      · cases h

theorem argTag_length_le (t : Nat) : (argTag t).length ≤ (if t != 0 then 4 else 0) := by
  unfold argTag
  split <;> simp

theorem spaces_length (n : Nat) : (spaces n).length = n := by simp [spaces]

theorem head_length_le {r : HelpRow} {ow : Nat} (h : r.optWidth ≤ ow) : (r.name ++ argTag r.type).length ≤ ow := by
  have := argTag_length_le r.type
  simp only [HelpRow.optWidth] at h
  simp only [List.length_append]
  omega

/-- one line per option: the `:` separators stand in the same column `indent + optwidth + 1` on every line … -/
theorem helpLine_prefix (indent ow : Nat) (sd sr : Bool) (r : HelpRow) (h : r.optWidth ≤ ow) :
    (helpLine indent ow sd sr r).take (indent + ow + 2) =
      spaces indent ++ (r.name ++ argTag r.type) ++ spaces (ow - (r.name ++ argTag r.type).length) ++ [' ', ':'] := by
  have hl := head_length_le h
  have hP : (spaces indent ++ (r.name ++ argTag r.type) ++ spaces (ow - (r.name ++ argTag r.type).length) ++ [' ', ':']).length = indent + ow + 2 := by
    simp only [List.length_append, spaces_length, List.length_cons, List.length_nil] at hl ⊢
    omega
  have : helpLine indent ow sd sr r =
      (spaces indent ++ (r.name ++ argTag r.type) ++ spaces (ow - (r.name ++ argTag r.type).length) ++ [' ', ':']) ++
        (helpPart r ++ (defPart sd r ++ rangePart sr r)) := by
    unfold helpLine; simp only [List.append_assoc]
  rw [this, List.take_left' hP]

theorem helpPart_length_le (r : HelpRow) : (helpPart r).length ≤ r.w2 := by
  unfold helpPart HelpRow.w2; cases r.help <;> simp
theorem defPart_length_le (sd : Bool) (r : HelpRow) :
    (defPart sd r).length ≤ (if sd then (match r.defval with | some d => d.length + 4 | none => 0) else 0) := by
  unfold defPart
  cases r.defval with
  | none => cases sd <;> simp
  | some d =>
    cases sd with
    | false => simp
    | true => simp only [Bool.true_and, ↓reduceIte]; split <;> simp <;> omega
theorem rangePart_length_le (sr : Bool) (r : HelpRow) :
    (rangePart sr r).length ≤ (if sr then (match r.range with | some g => g.length + 4 | none => 0) else 0) := by
  unfold rangePart
  cases r.range with
  | none => cases sr <;> simp
  | some g => cases sr <;> simp <;> omega

/-- … and no line is longer than the column part plus the width the layout decision counted for it, plus the two
    characters of the separator, which the code's width computation leaves out when there is a help string -/
theorem helpLine_length_le (indent ow : Nat) (sd sr : Bool) (r : HelpRow) (h : r.optWidth ≤ ow) (hsr : sr = true → sd = true) :
    (helpLine indent ow sd sr r).length ≤ indent + ow + 2 + (if sr then r.w0 else if sd then r.w1 else r.w2) := by
  have hl := head_length_le h
  have e1 := helpPart_length_le r
  have e2 := defPart_length_le sd r
  have e3 := rangePart_length_le sr r
  have hw1 : r.w1 = r.w2 + (match r.defval with | some d => d.length + 4 | none => 0) := rfl
  have hw0 : r.w0 = r.w1 + (match r.range with | some g => g.length + 4 | none => 0) := rfl
  unfold helpLine
  simp only [List.length_append, spaces_length, List.length_cons, List.length_nil] at hl ⊢
  cases sd with
  | false =>
    have : sr = false := by cases sr with | false => rfl | true => exact absurd (hsr rfl) (by simp)
    subst this
    simp only [Bool.false_eq_true, ↓reduceIte] at e2 e3 ⊢
    omega
  | true =>
    cases sr with
    | false => simp only [Bool.false_eq_true, ↓reduceIte] at e2 e3 ⊢; omega
    | true => simp only [↓reduceIte] at e2 e3 ⊢; omega


theorem displayHelp_documented (rows : List HelpRow) (docgroup indent textwidth : Nat) (lines : List Str)
    (h : displayHelp rows docgroup indent textwidth = some lines) :
    lines.length = (rows.filter (·.selected docgroup)).length ∧
    (∀ l ∈ lines, l.length ≤ textwidth + 2) ∧
    ∃ showDef showRange, ∀ k (hk : k < (rows.filter (·.selected docgroup)).length),
      lines[k]? = some (helpLine indent (maxOf HelpRow.optWidth (rows.filter (·.selected docgroup))) showDef showRange
                          ((rows.filter (·.selected docgroup))[k])) ∧
      (helpLine indent (maxOf HelpRow.optWidth (rows.filter (·.selected docgroup))) showDef showRange
          ((rows.filter (·.selected docgroup))[k])).take (indent + maxOf HelpRow.optWidth (rows.filter (·.selected docgroup)) + 2) =
        spaces indent ++ (((rows.filter (·.selected docgroup))[k]).name ++ argTag ((rows.filter (·.selected docgroup))[k]).type) ++
          spaces (maxOf HelpRow.optWidth (rows.filter (·.selected docgroup)) -
                    (((rows.filter (·.selected docgroup))[k]).name ++ argTag ((rows.filter (·.selected docgroup))[k]).type).length) ++ [' ', ':'] := by
  obtain ⟨sd, sr, hl, hsr, hw⟩ := displayHelp_some rows docgroup indent textwidth lines h
  refine ⟨by rw [hl, List.length_map], ?_, sd, sr, ?_⟩
  · intro l hl'
    rw [hl] at hl'
    obtain ⟨r, hr, rfl⟩ := List.mem_map.mp hl'
    have h1 := mem_le_maxOf HelpRow.optWidth _ r hr
    have h2 := mem_le_maxOf (fun r => if sr then r.w0 else if sd then r.w1 else r.w2) _ r hr
    have h3 := helpLine_length_le indent _ sd sr r h1 hsr
    have h2' : (if sr then r.w0 else if sd then r.w1 else r.w2) ≤
        maxOf (fun r => if sr then r.w0 else if sd then r.w1 else r.w2) (rows.filter (·.selected docgroup)) := h2
    omega
  · intro k hk
    refine ⟨by rw [hl, List.getElem?_map, List.getElem?_eq_getElem hk]; rfl, ?_⟩
    exact helpLine_prefix indent _ sd sr _ (mem_le_maxOf HelpRow.optWidth _ _ (List.getElem_mem hk))

/-- option `i` is listed in the spoofed command line iff a source set it and it is on (fix af97bd9: an option that
    its toggle partner switched off is not listed) -/
theorem spoofOptWords_listed_iff (g : G) (i : Nat) (ws : List Str) (h : spoofOptWords g i = some ws) :
    ws ≠ [] ↔ (g.setter i ≠ byDefault ∧ isOn g i = true) := by
  unfold spoofOptWords at h
  by_cases hc : (g.setter i != byDefault && !(g.valOf i).isNull) = true
  · simp only [hc, ↓reduceIte] at h
    have hc' : g.setter i ≠ byDefault ∧ isOn g i = true := by
      simp only [Bool.and_eq_true, bne_iff_ne, ne_eq, Bool.not_eq_eq_eq_not, Bool.not_true] at hc
      exact ⟨hc.1, by simp [isOn, hc.2]⟩
    split at h
    · simp at h; subst h; simp [hc']
    · split at h
      · simp at h; subst h; simp [hc']
      · cases h
  · simp only [hc, Bool.false_eq_true, ↓reduceIte] at h
    simp at h; subst h
    simp only [ne_eq, not_true_eq_false, false_iff]
    intro hh
    apply hc
    have h2 : (g.valOf i).isNull = false := by have := hh.2; simpa [isOn] using this
    simp [hh.1, h2]

/-- `esl_opt_SpoofCmdline` does not crash once a command line with a program name has been processed and no
    argument-taking option holds the boolean marker (which no `set_option` call stores: `newVal`) -/
theorem spoofCmdline_total (g : G) (hargv : g.argv ≠ []) (hval : ∀ i, (g.opt i).type ≠ 0 → g.valOf i ≠ .one) :
    (spoofCmdline g).isSome = true := by
  unfold spoofCmdline
  cases ha : g.argv with
  | nil => exact absurd ha hargv
  | cons a0 rest =>
    simp only
    have : ((List.range g.opts.length).map (spoofOptWords g)).all Option.isSome = true := by
      simp only [List.all_eq_true, List.mem_map, forall_exists_index, and_imp]
      intro x i _ hx
      subst hx
      unfold spoofOptWords
      split
      · split
        · rfl
        · rename_i ht
          cases hv : g.valOf i with
          | str v => rfl
          | null => rename_i hc; simp [hv, Val.isNull] at hc
          | one => exact absurd hv (hval i (by simpa using ht))
      · rfl
    simp [this]

/-- `esl_opt_GetInteger`: `atoi` of the stored string -/
def getInteger (g : G) (i : Nat) : Int := match g.valOf i with | .str s => atoi s | _ => 0

/-- **a value that passed the range check satisfies the range as `esl_opt_GetInteger` returns it**: the check and
    the getter read the stored string with the same `atoi` — also for digit strings beyond the range of `int`, where
    `atoi` keeps the low 32 bits of the clamped `long` -/
theorem accepted_integer_read_consistently {g g' : G} {i src : Nat} {v : Str} {m : Bool} (hinv : Inv g) (hi : i < g.opts.length)
    (ht : (g.opt i).type = 1) (h : setOption g i (some v) src = .done g' .ok m) :
    g'.valOf i = .str v ∧ getInteger g' i = atoi v ∧ isInteger v = true ∧ intRangeOk v (g.opt i).range = true := by
  have hd := (setOption_ok hinv hi h).2
  have hgood := hd.good
  have hv : g'.valOf i = .str v := by
    have := hd.spec i
    simp only [setSpec, ↓reduceIte] at this
    have h1 := congrArg Prod.fst this
    simp only [newVal, ht] at h1
    exact h1
  refine ⟨hv, by simp [getInteger, hv], ?_⟩
  unfold verifyTypeRange at hgood
  simp only [ht] at hgood
  split at hgood
  · rename_i hc; simp at hc
  · by_cases h1 : isInteger v = true
    · by_cases h2 : intRangeOk v (g.opt i).range = true
      · exact ⟨h1, h2⟩
      · simp [h1, h2] at hgood
    · simp [h1] at hgood

theorem createDefaultApp_returns_iff (opts : List Opt) (nargs : Int) (argv : List Str) (g : G) :
    createDefaultApp opts nargs argv = some (.returned g) ↔
      ∃ g0 m i, create opts = some g0 ∧ processCmdline g0 argv = .done g .ok m ∧ (verifyConfig g).1 = .ok ∧
        optidxExactly opts ['-', 'h'] = some i ∧ (g.opt i).type = 0 ∧ (g.valOf i).isNull = true ∧
        (nargs = -1 ∨ argNumber g = nargs) := by
  unfold createDefaultApp
  constructor
  · intro h
    cases hc : create opts with
    | none => simp [hc] at h
    | some g0 =>
      simp only [hc] at h
      cases hp : processCmdline g0 argv with
      | fault => simp [hp] at h
      | done g1 st m =>
        simp only [hp] at h
        by_cases hst : st = .ok
        · subst hst
          simp only [bne_self_eq_false, Bool.false_eq_true, ↓reduceIte] at h
          by_cases hv : (verifyConfig g1).1 = .ok
          · simp only [hv, bne_self_eq_false, Bool.false_eq_true, ↓reduceIte] at h
            cases hi : optidxExactly opts ['-', 'h'] with
            | none => simp [hi] at h
            | some i =>
              simp only [hi] at h
              by_cases ht : (g1.opt i).type = 0
              · simp only [ht, bne_self_eq_false, Bool.false_eq_true, ↓reduceIte] at h
                by_cases hn : (g1.valOf i).isNull = true
                · simp only [hn, Bool.not_true, Bool.false_eq_true, ↓reduceIte] at h
                  by_cases hk : (nargs != -1 && argNumber g1 != nargs) = true
                  · simp [hk] at h
                  · simp only [hk, Bool.false_eq_true, ↓reduceIte, Option.some.injEq, AppOutcome.returned.injEq] at h
                    subst h
                    refine ⟨g0, m, i, rfl, hp, hv, rfl, ht, hn, ?_⟩
                    simp only [Bool.and_eq_true, bne_iff_ne, ne_eq, not_and, Decidable.not_not] at hk
                    by_cases h1 : nargs = -1
                    · exact Or.inl h1
                    · exact Or.inr (hk h1)
                · simp [hn] at h
              · have : ((g1.opt i).type != 0) = true := by simpa using ht
                simp [this] at h
          · have : ((verifyConfig g1).1 != .ok) = true := by simpa using hv
            simp [this] at h
        · have : (st != .ok) = true := by simpa using hst
          simp [this] at h
  · rintro ⟨g0, m, i, hc, hp, hv, hi, ht, hn, hk⟩
    simp only [hc, hp, bne_self_eq_false, Bool.false_eq_true, ↓reduceIte, hv, hi, ht, hn, Bool.not_true]
    have : (nargs != -1 && argNumber g != nargs) = false := by
      rcases hk with hk | hk
      · simp [hk]
      · simp [hk]
    simp [this]


end EaselModel.Getopts
