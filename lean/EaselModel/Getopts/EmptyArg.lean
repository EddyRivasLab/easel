import EaselModel.Getopts.Tokens
/-! # C14 — `--name=` : a long option with an EMPTY attached value

`process_longopt` splits the word at the first `=`; what follows (`argptr`), possibly nothing, is the argument.
So `--flag=` is "an argument to an option that takes none" (usage error), and `--name=` hands the empty string to
`set_option` and consumes no further word: refused by the integer and real syntax checks, stored as `""` by the
unchecked types, and for a character option the "character" is the terminator. -/
namespace EaselModel.Getopts

theorem parseLong_flag_empty_value {opts : List Opt} {name : Str} {i : Nat} (k : Nat) (next : Option Str) (hne : '=' ∉ name)
    (hi : optidxAbbrev opts name = .found i) (ht : (opts.getD i default).type = 0) :
    parseLong opts k (name ++ ['=']) next = ([.stop .esyntax true (k + 1)], none) := by
  have ht' : ((opts.getD i default).type != 0) = false := by rw [ht]; rfl
  unfold parseLong
  simp only [splitEq_eq name [] hne, hi, ht', Bool.false_eq_true, ↓reduceIte]

theorem parseLong_empty_value {opts : List Opt} {name : Str} {i : Nat} (k : Nat) (next : Option Str) (hne : '=' ∉ name)
    (hi : optidxAbbrev opts name = .found i) (ht : (opts.getD i default).type ≠ 0) :
    parseLong opts k (name ++ ['=']) next = ([.set i (some []) (k + 1)], some false) := parseLong_eq_form k next hne hi ht

/-- on the whole command line the element after `--name=` is parsed as an element of its own -/
theorem parseCmd_empty_value {opts : List Opt} {r : Str} {i : Nat} (k : Nat) (tl : List Str) (hr : r ≠ []) (hne : '=' ∉ r)
    (hi : optidxAbbrev opts ('-' :: '-' :: r) = .found i) (ht : (opts.getD i default).type ≠ 0) :
    parseCmd opts k (('-' :: '-' :: r ++ ['=']) :: tl) false = .set i (some []) (k + 1) :: parseCmd opts (k + 1) tl false := by
  have hne' : '=' ∉ ('-' :: '-' :: r) := by
    intro h
    rcases List.mem_cons.mp h with h | h
    · cases h
    · rcases List.mem_cons.mp h with h | h
      · cases h
      · exact hne h
  have h2 : (('-' :: '-' :: r ++ ['=']) == ['-', '-']) = false := by
    cases r with
    | nil => exact absurd rfl hr
    | cons a b => cases b <;> simp
  have hp := parseLong_empty_value (opts := opts) k tl.head? hne' hi ht
  conv => lhs; unfold parseCmd
  simp only [isArgWord, startsWithDash]
  have h1 : (('-' :: '-' :: r ++ ['=']) == ['-']) = false := by simp
  simp only [List.cons_append] at h1 h2 hp ⊢
  simp only [h1, h2, Bool.false_eq_true, ↓reduceIte, parseOpt, hp]
  simp

/-- what `set_option`'s type check makes of the empty string: integers and reals need a digit -/
theorem empty_value_not_a_number (o : Opt) (src : Nat) (hs : src ≠ byDefault) (ht : o.type = 1 ∨ o.type = 2) :
    verifyTypeRange o (some []) src = .bad := by
  have hb : (src == byDefault && (some ([] : Str)).isNone) = false := by simp
  unfold verifyTypeRange
  rcases ht with ht | ht
  · simp only [hb, Bool.false_eq_true, ↓reduceIte, ht]; rfl
  · simp only [hb, Bool.false_eq_true, ↓reduceIte, ht]; rfl

theorem empty_value_is_a_string (o : Opt) (src : Nat) (ht : o.type = 4 ∨ o.type = 5 ∨ o.type = 6) (hr : o.range = none) :
    verifyTypeRange o (some []) src = .good ∧ newVal o (some []) = .str [] := by
  unfold verifyTypeRange newVal
  rcases ht with ht | ht | ht <;> simp [ht, hr]

theorem empty_value_char (o : Opt) (src : Nat) (ht : o.type = 3) :
    verifyTypeRange o (some []) src = (if charRangeOk [] o.range then .good else .bad) := by
  have hb : (src == byDefault && (some ([] : Str)).isNone) = false := by simp
  unfold verifyTypeRange
  simp only [hb, Bool.false_eq_true, ↓reduceIte, ht]
  cases charRangeOk [] o.range <;> simp

end EaselModel.Getopts
