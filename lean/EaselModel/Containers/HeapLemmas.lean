import EaselModel.Containers.Heap
import EaselModel.Core.ListLookup
/-! # esl_heap.c — functional correctness of the executable model

Proved here (core Lean only, no axioms beyond the kernel's): every operation of the binary-heap model
keeps the heap order and the allocation invariant, never faults on a well-formed heap, preserves the
multiset of stored values, and `extractTop` returns an optimum; hence "insert all, then drain" sorts. -/
namespace EaselModel.Containers.Heap

theorem better_irrefl (mx : Bool) (a : Int) : ¬ better mx a a = true := by
  cases mx <;> simp [better]

theorem better_trans (mx : Bool) {a b c : Int} (h1 : better mx a b = true)
    (h2 : better mx b c = true) : better mx a c = true := by
  cases mx <;> simp [better] at * <;> omega

theorem better_asymm (mx : Bool) {a b : Int} (h1 : better mx a b = true) :
    ¬ better mx b a = true := by
  cases mx <;> simp [better] at * <;> omega

theorem not_better_trans (mx : Bool) {a b c : Int} (h1 : ¬ better mx a b = true)
    (h2 : ¬ better mx b c = true) : ¬ better mx a c = true := by
  cases mx <;> simp [better] at * <;> omega

theorem not_better_of_better_of_not (mx : Bool) {a b c : Int} (h1 : better mx a b = true)
    (h2 : ¬ better mx c b = true) : ¬ better mx c a = true := by
  cases mx <;> simp [better] at * <;> omega

theorem better_total (mx : Bool) (a b : Int) :
    better mx a b = true ∨ a = b ∨ better mx b a = true := by
  cases mx <;> simp [better] <;> omega

theorem getElem?_eq_some_iff' (d : Array Int) (i : Nat) (p : Int) :
    d[i]? = some p ↔ i < d.size ∧ d[i]! = p := by
  constructor
  · intro h
    obtain ⟨hlt, he⟩ := Array.getElem?_eq_some_iff.1 h
    refine ⟨hlt, ?_⟩
    simp [hlt, he]
  · rintro ⟨hlt, he⟩
    simp [hlt] at he
    simp [hlt, he]

theorem count_cons' (a : Int) (l : List Int) (x : Int) :
    (a :: l).count x = l.count x + [a].count x := by
  simp [List.count_cons]

theorem list_count_set (l : List Int) (i : Nat) (v : Int) (hi : i < l.length) (x : Int) :
    (l.set i v).count x + [l[i]].count x = l.count x + [v].count x := by
  induction l generalizing i with
  | nil => simp at hi
  | cons a t ih =>
    cases i with
    | zero => simp [List.count_cons]; omega
    | succ i =>
      have := ih i (by simpa using hi)
      simp [List.count_cons] at this ⊢
      omega

theorem count_set! (d : Array Int) (i : Nat) (v : Int) (hi : i < d.size) (x : Int) :
    (d.set! i v).toList.count x + [d[i]!].count x = d.toList.count x + [v].count x := by
  have := list_count_set d.toList i v (by simpa using hi) x
  simpa [hi] using this

/-- heap order of an array: no element is strictly better than its parent -/
def HO (mx : Bool) (d : Array Int) : Prop :=
  ∀ i, 0 < i → i < d.size → ¬ better mx (d[i]!) (d[parent i]!) = true

theorem parent_lt {i : Nat} (h : 0 < i) : parent i < i := by
  unfold parent; omega

theorem HO_root {mx : Bool} {d : Array Int} (h : HO mx d) :
    ∀ i, i < d.size → ¬ better mx (d[i]!) (d[0]!) = true := by
  intro i
  induction i using Nat.strongRecOn with
  | _ i ih =>
    intro hi
    by_cases h0 : i = 0
    · subst h0; exact better_irrefl _ _
    · have hp := parent_lt (Nat.pos_of_ne_zero h0)
      exact not_better_trans mx (h i (Nat.pos_of_ne_zero h0) hi) (ih _ hp (by omega))

/-- `d` is a heap as far as position `k` is not concerned: every edge that does not touch `k` holds, and the children of `k`
    are in order with its parent. Both sift loops move such a hole, up or down, until the value they carry fits. -/
structure Hole (mx : Bool) (d : Array Int) (k : Nat) : Prop where
  edge : ∀ i, 0 < i → i < d.size → i ≠ k → parent i ≠ k → ¬ better mx (d[i]!) (d[parent i]!) = true
  skip : ∀ c, 0 < c → c < d.size → parent c = k → 0 < k → ¬ better mx (d[c]!) (d[parent k]!) = true

theorem HO.hole {mx : Bool} {d : Array Int} (h : HO mx d) (k : Nat) : Hole mx d k where
  edge i hi0 hi _ _ := h i hi0 hi
  skip c hc0 hc hpc hk := by
    have := parent_lt hc0
    exact not_better_trans mx (hpc ▸ h c hc0 hc) (h k hk (by omega))

/-- the value at the hole fits: not better than the parent, no child better than it -/
theorem Hole.ho {mx : Bool} {d : Array Int} {k : Nat} (h : Hole mx d k)
    (hup : 0 < k → ¬ better mx (d[k]!) (d[parent k]!) = true)
    (hdn : ∀ c, 0 < c → c < d.size → parent c = k → ¬ better mx (d[c]!) (d[k]!) = true) : HO mx d := by
  intro i hi0 hi
  by_cases hik : i = k
  · exact hik ▸ hup (hik ▸ hi0)
  · by_cases hpk : parent i = k
    · exact hpk ▸ hdn i hi0 hi hpk
    · exact h.edge i hi0 hi hik hpk

/-- what stands at the hole does not matter -/
theorem Hole.set {mx : Bool} {d : Array Int} {k : Nat} (h : Hole mx d k) (v : Int) : Hole mx (d.set! k v) k where
  edge i hi0 hi hik hpk := by
    rw [Array.getElem!_set!_ne _ _ _ _ (Ne.symm hik), Array.getElem!_set!_ne _ _ _ _ (Ne.symm hpk)]
    exact h.edge i hi0 (by simpa using hi) hik hpk
  skip c hc0 hc hpc hk := by
    have h1 := parent_lt hc0
    have h2 := parent_lt hk
    rw [Array.getElem!_set!_ne _ _ _ _ (by omega), Array.getElem!_set!_ne _ _ _ _ (by omega)]
    exact h.skip c hc0 (by simpa using hc) hpc hk

theorem Hole.fill {mx : Bool} {d : Array Int} {k : Nat} (h : Hole mx d k) (hk : k < d.size) (v : Int)
    (hup : 0 < k → ¬ better mx v (d[parent k]!) = true)
    (hdn : ∀ c, 0 < c → c < d.size → parent c = k → ¬ better mx (d[c]!) v = true) : HO mx (d.set! k v) := by
  refine (h.set v).ho (fun hk0 => ?_) (fun c hc0 hc hpc => ?_)
  · have := parent_lt hk0
    rw [Array.getElem!_set!_self _ _ _ hk, Array.getElem!_set!_ne _ _ _ _ (by omega)]; exact hup hk0
  · have := parent_lt hc0
    rw [Array.getElem!_set!_self _ _ _ hk, Array.getElem!_set!_ne _ _ _ _ (by omega)]; exact hdn c hc0 (by simpa using hc) hpc

/-- sift-up: the parent's value comes down into the hole, the hole goes up -/
theorem Hole.up {mx : Bool} {d : Array Int} {k : Nat} (h : Hole mx d k) (hk : k < d.size) (hk0 : 0 < k) :
    Hole mx (d.set! k (d[parent k]!)) (parent k) where
  edge i hi0 hi hij hpj := by
    have hi : i < d.size := by simpa using hi
    have hik : i ≠ k := fun e => hpj (e ▸ rfl)
    rw [Array.getElem!_set!_ne _ _ _ _ (Ne.symm hik)]
    by_cases hpk : parent i = k
    · rw [hpk, Array.getElem!_set!_self _ _ _ hk]; exact h.skip i hi0 hi hpk hk0
    · rw [Array.getElem!_set!_ne _ _ _ _ (Ne.symm hpk)]; exact h.edge i hi0 hi hik hpk
  skip c hc0 hc hpc hj := by
    have hc : c < d.size := by simpa using hc
    have h1 := parent_lt hk0
    have h2 := parent_lt hj
    have hj' := h.edge (parent k) hj (by omega) (by omega) (by omega)
    rw [Array.getElem!_set!_ne _ _ (parent (parent k)) _ (by omega)]
    by_cases hck : c = k
    · rw [hck, Array.getElem!_set!_self _ _ _ hk]; exact hj'
    · rw [Array.getElem!_set!_ne _ _ _ _ (Ne.symm hck)]
      exact not_better_trans mx (hpc ▸ h.edge c hc0 hc hck (by omega)) hj'

/-- sift-down: the child `b` that no child of the hole beats comes up into the hole, the hole goes down to `b` -/
theorem Hole.down {mx : Bool} {d : Array Int} {k b : Nat} (h : Hole mx d k) (hk : k < d.size) (hb : b < d.size) (hb0 : 0 < b)
    (hpb : parent b = k) (hsib : ∀ c, 0 < c → c < d.size → parent c = k → ¬ better mx (d[c]!) (d[b]!) = true) :
    Hole mx (d.set! k (d[b]!)) b where
  edge i hi0 hi hib hpb' := by
    have hi : i < d.size := by simpa using hi
    have h1 := parent_lt hb0
    by_cases hik : i = k
    · have h2 := parent_lt (hik ▸ hi0 : 0 < k)
      rw [hik, Array.getElem!_set!_self _ _ _ hk, Array.getElem!_set!_ne _ _ _ _ (by omega)]
      exact h.skip b hb0 hb hpb (hik ▸ hi0)
    · rw [Array.getElem!_set!_ne _ _ _ _ (Ne.symm hik)]
      by_cases hpk : parent i = k
      · rw [hpk, Array.getElem!_set!_self _ _ _ hk]; exact hsib i hi0 hi hpk
      · rw [Array.getElem!_set!_ne _ _ _ _ (Ne.symm hpk)]; exact h.edge i hi0 hi hik hpk
  skip c hc0 hc hpc _ := by
    have hc : c < d.size := by simpa using hc
    have h1 := parent_lt hb0
    have h2 := parent_lt hc0
    rw [hpb, Array.getElem!_set!_self _ _ _ hk, Array.getElem!_set!_ne _ _ _ _ (by omega)]
    exact hpc ▸ h.edge c hc0 hc (by omega) (by omega)

theorem siftUp_spec (mx : Bool) (val : Int) (fuel : Nat) (d : Array Int) (idx : Nat)
    (hf : idx < fuel) (hidx : idx < d.size) (hh : Hole mx d idx)
    (hb : ∀ c, 0 < c → c < d.size → parent c = idx → ¬ better mx (d[c]!) val = true) :
    ∃ d', siftUp mx val fuel d idx = some d' ∧ HO mx d' ∧ d'.size = d.size ∧
      ∀ x, d'.toList.count x + [d[idx]!].count x = d.toList.count x + [val].count x := by
  induction fuel generalizing d idx with
  | zero => omega
  | succ fuel ih =>
    unfold siftUp
    by_cases h0 : idx = 0
    · subst h0
      exact ⟨d.set! 0 val, by simp [hidx], hh.fill hidx val (fun h => absurd h (Nat.lt_irrefl 0)) hb, Array.size_set! _ _ _,
        count_set! d 0 val hidx⟩
    · have hpos : 0 < idx := Nat.pos_of_ne_zero h0
      have hpl := parent_lt hpos
      have hps : parent idx < d.size := by omega
      have hp : d[parent idx]? = some (d[parent idx]!) :=
        (getElem?_eq_some_iff' _ _ _).2 ⟨hps, rfl⟩
      simp only [h0, if_false, hp, hidx, if_true]
      by_cases hbt : better mx val (d[parent idx]!) = true
      · simp only [hbt, if_true]
        obtain ⟨d', he, hho, hsz, hcnt⟩ := ih (d.set! idx (d[parent idx]!)) (parent idx)
          (by omega) (by rw [Array.size_set!]; exact hps) (hh.up hidx hpos)
          (by
            intro c hc0 hc hpc
            rw [Array.size_set!] at hc
            by_cases hci : c = idx
            · subst hci
              rw [Array.getElem!_set!_self _ _ _ hidx]; exact better_asymm mx hbt
            · rw [Array.getElem!_set!_ne _ _ _ _ (Ne.symm hci)]
              exact not_better_of_better_of_not mx hbt (hpc ▸ hh.edge c hc0 hc hci (by omega)))
        refine ⟨d', he, hho, by rw [hsz, Array.size_set!], ?_⟩
        intro x
        have h1 := hcnt x
        rw [Array.getElem!_set!_ne _ _ _ _ (by omega)] at h1
        have h2 := count_set! d idx (d[parent idx]!) hidx x
        omega
      · simp only [hbt]
        exact ⟨d.set! idx val, by simp, hh.fill hidx val (fun _ => hbt) hb, Array.size_set! _ _ _, count_set! d idx val hidx⟩

def Inv (h : Heap) : Prop :=
  (∀ i, 0 < i → i < h.data.size →
    ¬ better h.isMax (h.data[i]!) (h.data[parent i]!) = true) ∧
  h.data.size ≤ h.nalloc ∧ 0 < h.nalloc

theorem inv_create (mx : Bool) : Inv (create mx) := by
  refine ⟨?_, ?_, ?_⟩ <;> simp [create]

theorem get_push_lt (d : Array Int) (v : Int) (i : Nat) (h : i < d.size) :
    (d.push v)[i]! = d[i]! := by
  simp [Array.getElem!_eq_getD, Array.getD_eq_getD_getElem?, Array.getElem?_push, Nat.ne_of_lt h]

theorem get_push_eq (d : Array Int) (v : Int) : (d.push v)[d.size]! = v := by
  simp

/-- a new last cell is a hole under which nothing hangs -/
theorem HO.push {mx : Bool} {d : Array Int} (h : HO mx d) (v : Int) : Hole mx (d.push v) d.size where
  edge i hi0 hi hin _ := by
    have h1 : i < d.size := by simp at hi; omega
    rw [get_push_lt _ _ _ h1, get_push_lt _ _ _ (by have := parent_lt hi0; omega)]
    exact h i hi0 h1
  skip c hc0 hc hpc _ := by
    have := parent_lt hc0
    simp at hc; omega

theorem insert_spec (h : Heap) (v : Int) (hi : Inv h) :
    ∃ h', insert h v = some h' ∧ Inv h' ∧ h'.isMax = h.isMax ∧
      h'.data.toList.Perm (v :: h.data.toList) := by
  obtain ⟨hho, hsz, hpos⟩ := hi
  have hna : ¬ (h.data.size + 1 > if (h.data.size == h.nalloc) = true then h.nalloc * 2 else h.nalloc) := by
    by_cases he : h.data.size = h.nalloc
    · simp [he]; omega
    · simp [he]; omega
  obtain ⟨d', he, hho', hsz', hcnt⟩ := siftUp_spec h.isMax v ((h.data.push v).size + 1) (h.data.push v)
    ((h.data.push v).size - 1) (by omega) (by simp) (by simpa using HO.push (mx := h.isMax) hho v)
    (by
      intro c hc0 hc hpc
      have := parent_lt hc0
      simp at hc hpc
      omega)
  unfold insert
  simp only [hna, if_false, he]
  refine ⟨_, rfl, ⟨hho', ?_, ?_⟩, rfl, ?_⟩
  · simp only [hsz', Array.size_push]
    by_cases he : h.data.size = h.nalloc
    · simp [he]; omega
    · simp [he]; omega
  · by_cases he : h.data.size = h.nalloc
    · simp [he]; omega
    · simp [he]; omega
  · refine List.perm_iff_count.2 fun x => ?_
    have h1 := hcnt x
    simp only [Array.size_push, Nat.add_sub_cancel, get_push_eq, Array.toList_push,
      List.count_append] at h1
    show d'.toList.count x = _
    rw [count_cons']
    omega

/-- the "best of node and its two children" selection of `iheapify`, over abstract child reads -/
def pick (mx : Bool) (idx l r : Nat) (x : Int) (ol or : Option Int) : Nat × Int :=
  let (best, bestv) := match ol with
    | some y => if better mx y x then (l, y) else (idx, x)
    | none => (idx, x)
  match or with
    | some z => if better mx z bestv then (r, z) else (best, bestv)
    | none => (best, bestv)

theorem heapify_succ (mx : Bool) (fuel : Nat) (d : Array Int) (idx : Nat) :
    heapify mx (fuel+1) d idx =
      match d[idx]? with
      | none => if d.size = 0 ∧ idx = 0 then some d else none
      | some x =>
        let p := pick mx idx (left idx) (left idx + 1) x d[left idx]? d[left idx + 1]?
        if p.1 = idx then some d else heapify mx fuel ((d.set! idx p.2).set! p.1 x) p.1 := by
  rfl

theorem pick_spec (mx : Bool) (idx l r : Nat) (x : Int) (ol or : Option Int) :
    (pick mx idx l r x ol or = (idx, x) ∨
      ((pick mx idx l r x ol or).1 = l ∧ ol = some (pick mx idx l r x ol or).2 ∧
        better mx (pick mx idx l r x ol or).2 x = true) ∨
      ((pick mx idx l r x ol or).1 = r ∧ or = some (pick mx idx l r x ol or).2 ∧
        better mx (pick mx idx l r x ol or).2 x = true)) ∧
    (∀ y, ol = some y → ¬ better mx y (pick mx idx l r x ol or).2 = true) ∧
    (∀ z, or = some z → ¬ better mx z (pick mx idx l r x ol or).2 = true) := by
  rcases ol with _ | y <;> rcases or with _ | z
  · simp [pick]
  · by_cases h : better mx z x = true
    · simp [pick, h, better_irrefl]
    · simp [pick, h]
  · by_cases h : better mx y x = true
    · simp [pick, h, better_irrefl]
    · simp [pick, h]
  · by_cases h : better mx y x = true
    · by_cases h2 : better mx z y = true
      · simp [pick, h, h2, better_irrefl, better_trans mx h2 h, better_asymm mx h2]
      · simp [pick, h, h2, better_irrefl]
    · by_cases h2 : better mx z x = true
      · simp [pick, h, h2, better_irrefl]
        simpa using not_better_of_better_of_not mx h2 h
      · simp [pick, h, h2]

theorem child_of_parent_eq {c idx : Nat} (hc : 0 < c) (h : parent c = idx) :
    c = left idx ∨ c = left idx + 1 := by
  unfold parent at h; unfold left; omega

theorem parent_left (idx : Nat) : parent (left idx) = idx := by
  unfold parent left; omega

theorem parent_left_succ (idx : Nat) : parent (left idx + 1) = idx := by
  unfold parent left; omega

theorem heapify_spec (mx : Bool) (fuel : Nat) (d : Array Int) (idx : Nat)
    (hidx : idx < d.size) (hf : d.size ≤ fuel + idx) (hh : Hole mx d idx)
    (hup : 0 < idx → ¬ better mx (d[idx]!) (d[parent idx]!) = true) :
    ∃ d', heapify mx fuel d idx = some d' ∧ HO mx d' ∧ d'.size = d.size ∧
      ∀ x, d'.toList.count x = d.toList.count x := by
  induction fuel generalizing d idx with
  | zero => omega
  | succ fuel ih =>
    rw [heapify_succ]
    have hx : d[idx]? = some (d[idx]!) := (getElem?_eq_some_iff' _ _ _).2 ⟨hidx, rfl⟩
    simp only [hx]
    obtain ⟨hcase, hl, hr⟩ :=
      pick_spec mx idx (left idx) (left idx + 1) (d[idx]!) d[left idx]? d[left idx + 1]?
    generalize pick mx idx (left idx) (left idx + 1) (d[idx]!) d[left idx]? d[left idx + 1]? = p
      at hcase hl hr
    obtain ⟨b, bv⟩ := p
    simp only at hcase hl hr ⊢
    have hsib : ∀ c, 0 < c → c < d.size → parent c = idx → ¬ better mx (d[c]!) bv = true := by
      intro c hc0 hc hpc
      rcases child_of_parent_eq hc0 hpc with h | h
      · exact hl _ (by rw [← h]; exact (getElem?_eq_some_iff' _ _ _).2 ⟨hc, rfl⟩)
      · exact hr _ (by rw [← h]; exact (getElem?_eq_some_iff' _ _ _).2 ⟨hc, rfl⟩)
    -- the better child comes up, the hole goes down to it, and the value carried fits under what came up
    have hrec : ∀ (hb_lt : b < d.size) (hpb : parent b = idx) (hb0 : 0 < b) (hbv : d[b]! = bv)
        (hbt : better mx bv (d[idx]!) = true),
        ∃ d', (if b = idx then some d else
            heapify mx fuel ((d.set! idx bv).set! b (d[idx]!)) b) = some d' ∧ HO mx d' ∧
          d'.size = d.size ∧ ∀ x, d'.toList.count x = d.toList.count x := by
      intro hb_lt hpb hb0 hbv hbt
      subst hbv
      have hib : idx < b := by have := parent_lt hb0; omega
      have hsz : ((d.set! idx (d[b]!)).set! b (d[idx]!)).size = d.size := by
        rw [Array.size_set!, Array.size_set!]
      obtain ⟨d', he, hho, hsz', hcnt⟩ := ih ((d.set! idx (d[b]!)).set! b (d[idx]!)) b
        (by rw [hsz]; exact hb_lt) (by rw [hsz]; omega) ((hh.down hidx hb_lt hb0 hpb hsib).set _)
        (fun _ => by
          rw [hpb, Array.getElem!_set!_self _ _ _ (by rw [Array.size_set!]; exact hb_lt), Array.getElem!_set!_ne _ _ _ _ (by omega),
            Array.getElem!_set!_self _ _ _ hidx]
          exact better_asymm mx hbt)
      refine ⟨d', ?_, hho, by rw [hsz', hsz], fun x => ?_⟩
      · rw [if_neg (by omega)]; exact he
      · have h1 := count_set! d idx (d[b]!) hidx x
        have h2 := count_set! (d.set! idx (d[b]!)) b (d[idx]!) (by rw [Array.size_set!]; exact hb_lt) x
        rw [Array.getElem!_set!_ne _ _ _ _ (by omega)] at h2
        rw [hcnt x]; omega
    rcases hcase with h | ⟨h1, h2, h3⟩ | ⟨h1, h2, h3⟩
    · obtain ⟨rfl, rfl⟩ := Prod.mk.inj h
      exact ⟨d, by simp, hh.ho hup hsib, rfl, fun _ => rfl⟩
    · obtain ⟨hlt, hv⟩ := (getElem?_eq_some_iff' _ _ _).1 h2
      subst h1
      exact hrec hlt (parent_left idx) (by unfold left; omega) hv h3
    · obtain ⟨hlt, hv⟩ := (getElem?_eq_some_iff' _ _ _).1 h2
      subst h1
      exact hrec hlt (parent_left_succ idx) (by omega) hv h3

theorem heapify_root_spec (mx : Bool) (d : Array Int) (hh : Hole mx d 0) :
    ∃ d', heapify mx (d.size + 1) d 0 = some d' ∧ HO mx d' ∧ d'.size = d.size ∧
      ∀ x, d'.toList.count x = d.toList.count x := by
  by_cases h0 : d.size = 0
  · refine ⟨d, ?_, ?_, rfl, fun _ => rfl⟩
    · rw [heapify_succ]
      simp [h0]
    · intro i _ hi; omega
  · exact heapify_spec mx (d.size + 1) d 0 (by omega) (by omega) hh (fun h => absurd h (Nat.lt_irrefl 0))

theorem pop_push_last (e : Array Int) (h : 0 < e.size) : e.pop.push (e[e.size-1]!) = e := by
  apply Array.ext
  · simp; omega
  · intro i h1 h2
    simp [Array.getElem_push]
    split
    · rfl
    · have : i = e.size - 1 := by simp at h1; omega
      subst this
      exact getElem!_pos e _ h2

theorem count_pop (e : Array Int) (h : 0 < e.size) (x : Int) :
    e.toList.count x = e.pop.toList.count x + [e[e.size-1]!].count x := by
  conv => lhs; rw [← pop_push_last e h]
  rw [Array.toList_push, List.count_append]

theorem get_pop_lt (e : Array Int) (i : Nat) (h : i < e.size - 1) : e.pop[i]! = e[i]! := by
  simp only [Array.getElem!_eq_getD, Array.getD_eq_getD_getElem?, Array.getElem?_pop, h, if_true]

theorem Hole.pop {mx : Bool} {d : Array Int} {k : Nat} (h : Hole mx d k) : Hole mx d.pop k where
  edge i hi0 hi hik hpk := by
    have hi : i < d.size - 1 := by simpa using hi
    rw [get_pop_lt _ _ hi, get_pop_lt _ _ (by have := parent_lt hi0; omega)]
    exact h.edge i hi0 (by omega) hik hpk
  skip c hc0 hc hpc hk := by
    have hc : c < d.size - 1 := by simpa using hc
    have h1 := parent_lt hc0
    have h2 := parent_lt hk
    rw [get_pop_lt _ _ hc, get_pop_lt _ _ (by omega)]
    exact h.skip c hc0 (by omega) hpc hk

theorem mem_toList_iff_get (d : Array Int) (x : Int) :
    x ∈ d.toList ↔ ∃ i, i < d.size ∧ d[i]! = x := by
  rw [← Array.mem_def, Array.mem_iff_getElem]
  constructor
  · rintro ⟨i, h, he⟩; exact ⟨i, h, by rw [getElem!_pos d i h]; exact he⟩
  · rintro ⟨i, h, he⟩; exact ⟨i, h, by rw [getElem!_pos d i h] at he; exact he⟩

theorem extractTop_empty (h : Heap) (he : h.data.size = 0) :
    extractTop h = some (h, false, 0) := by
  simp [extractTop, he]

theorem extractTop_spec (h : Heap) (hi : Inv h) (hne : 0 < h.data.size) :
    ∃ h' v, extractTop h = some (h', true, v) ∧ Inv h' ∧ h'.isMax = h.isMax ∧
      (v :: h'.data.toList).Perm h.data.toList ∧
      (∀ x ∈ h.data.toList, ¬ better h.isMax x v = true) := by
  obtain ⟨hho, hsz, hpos⟩ := hi
  have h0 : h.data[0]? = some (h.data[0]!) := (getElem?_eq_some_iff' _ _ _).2 ⟨hne, rfl⟩
  have hl : h.data[h.data.size - 1]? = some (h.data[h.data.size - 1]!) :=
    (getElem?_eq_some_iff' _ _ _).2 ⟨by omega, rfl⟩
  have hesz : (h.data.set! 0 (h.data[h.data.size - 1]!)).size = h.data.size := Array.size_set! _ _ _
  have hdsz : ((h.data.set! 0 (h.data[h.data.size - 1]!)).pop).size = h.data.size - 1 := by
    rw [Array.size_pop, hesz]
  obtain ⟨d', he, hho', hsz', hcnt⟩ := heapify_root_spec h.isMax
    ((h.data.set! 0 (h.data[h.data.size - 1]!)).pop) ((HO.hole (mx := h.isMax) hho 0).set _).pop
  refine ⟨{ h with data := d' }, h.data[0]!, ?_, ⟨hho', ?_, hpos⟩, rfl, ?_, ?_⟩
  · unfold extractTop
    simp only [Nat.ne_of_gt hne, if_false, h0, hl, he]
  · show d'.size ≤ h.nalloc
    rw [hsz', hdsz]; omega
  · refine List.perm_iff_count.2 fun x => ?_
    show (h.data[0]! :: d'.toList).count x = _
    rw [count_cons', hcnt x]
    have h1 := count_pop (h.data.set! 0 (h.data[h.data.size - 1]!)) (by rw [hesz]; exact hne) x
    have h2 := count_set! h.data 0 (h.data[h.data.size - 1]!) hne x
    have h3 : (h.data.set! 0 (h.data[h.data.size - 1]!))[
        (h.data.set! 0 (h.data[h.data.size - 1]!)).size - 1]! = h.data[h.data.size - 1]! := by
      rw [hesz, Array.set!_eq_setIfInBounds, bang_setIfInBounds]
      by_cases hc : 0 = h.data.size - 1
      · simp [hc]
      · simp [hc]
    rw [h3] at h1
    omega
  · intro x hx
    obtain ⟨i, hi, rfl⟩ := (mem_toList_iff_get _ _).1 hx
    exact HO_root hho i hi

/-- sortedness in the heap's direction: no later element is strictly better than an earlier one -/
def SortedBy (mx : Bool) (l : List Int) : Prop :=
  l.Pairwise (fun a b => ¬ better mx b a = true)

theorem drain_spec_aux (n : Nat) (h : Heap) (hi : Inv h) (hn : h.data.size = n) :
    ∃ l, drain n h = some l ∧ l.Perm h.data.toList ∧ SortedBy h.isMax l := by
  induction n generalizing h with
  | zero =>
    refine ⟨[], by simp [drain, hn], ?_, List.Pairwise.nil⟩
    have : h.data.toList = [] := by
      apply List.eq_nil_of_length_eq_zero; simpa using hn
    rw [this]
  | succ n ih =>
    obtain ⟨h', v, he, hi', hmx, hperm, htop⟩ := extractTop_spec h hi (by omega)
    have hlen := hperm.length_eq
    simp only [List.length_cons, Array.length_toList] at hlen
    obtain ⟨l, hd, hp, hs⟩ := ih h' hi' (by omega)
    refine ⟨v :: l, ?_, ?_, ?_⟩
    · simp [drain, he, hd]
    · exact (List.Perm.cons v hp).trans hperm
    · refine List.Pairwise.cons ?_ (hmx ▸ hs)
      intro b hb
      exact htop b (hperm.subset (List.mem_cons_of_mem _ (hp.subset hb)))

theorem drain_spec (h : Heap) (hi : Inv h) :
    ∃ l, drain h.data.size h = some l ∧ l.Perm h.data.toList ∧ SortedBy h.isMax l :=
  drain_spec_aux _ h hi rfl

theorem insertAll_spec (h : Heap) (vs : List Int) (hi : Inv h) :
    ∃ h', insertAll h vs = some h' ∧ Inv h' ∧ h'.isMax = h.isMax ∧
      h'.data.toList.Perm (vs.reverse ++ h.data.toList) := by
  induction vs generalizing h with
  | nil => exact ⟨h, rfl, hi, rfl, by simp⟩
  | cons v vs ih =>
    obtain ⟨h1, he1, hi1, hmx1, hp1⟩ := insert_spec h v hi
    obtain ⟨h2, he2, hi2, hmx2, hp2⟩ := ih h1 hi1
    refine ⟨h2, by simp [insertAll, he1, he2], hi2, hmx2.trans hmx1, ?_⟩
    refine hp2.trans ?_
    rw [List.reverse_cons, List.append_assoc]
    exact List.Perm.append_left _ hp1

theorem heapsort_spec (mx : Bool) (vs : List Int) :
    ∃ h l, insertAll (create mx) vs = some h ∧ drain h.data.size h = some l ∧ l.Perm vs ∧
      SortedBy mx l := by
  obtain ⟨h, he, hi, hmx, hp⟩ := insertAll_spec (create mx) vs (inv_create mx)
  obtain ⟨l, hd, hpl, hs⟩ := drain_spec h hi
  refine ⟨h, l, he, hd, ?_, ?_⟩
  · refine hpl.trans (hp.trans ?_)
    simp [create]
  · rw [hmx] at hs; exact hs

theorem sortedBy_min (l : List Int) : SortedBy false l ↔ l.Pairwise (· ≤ ·) := by
  unfold SortedBy
  constructor <;> intro h <;> refine h.imp ?_ <;> intro a b hab <;> simp [better] at * <;> omega

theorem sortedBy_max (l : List Int) : SortedBy true l ↔ l.Pairwise (· ≥ ·) := by
  unfold SortedBy
  constructor <;> intro h <;> refine h.imp ?_ <;> intro a b hab <;> simp [better] at * <;> omega

theorem validate_child (mx : Bool) (d : Array Int) (c : Nat) (x : Int) :
    (match d[c]? with | some y => !(better mx y x) | none => true) = true ↔
      (c < d.size → ¬ better mx (d[c]!) x = true) := by
  by_cases hc : c < d.size
  · have : d[c]? = some (d[c]!) := (getElem?_eq_some_iff' _ _ _).2 ⟨hc, rfl⟩
    rw [this]; simp [hc]
  · have : d[c]? = none := by simp; omega
    rw [this]; simp [hc]

theorem validate_iff (h : Heap) :
    validate h = true ↔
      (∀ i, 0 < i → i < h.data.size →
        ¬ better h.isMax (h.data[i]!) (h.data[parent i]!) = true) := by
  unfold validate
  simp only [List.all_eq_true, List.mem_range, Bool.and_eq_true]
  constructor
  · intro hv i hi0 hi
    have hpl := parent_lt hi0
    obtain ⟨h1, h2⟩ := hv (parent i) (by omega)
    have h1 := (validate_child h.isMax h.data _ _).1 h1
    have h2 := (validate_child h.isMax h.data _ _).1 h2
    rcases child_of_parent_eq hi0 rfl with hc | hc
    · rw [← hc] at h1; exact h1 hi
    · rw [← hc] at h2; exact h2 hi
  · intro hh idx _
    refine ⟨(validate_child h.isMax h.data _ _).2 fun hc => ?_,
      (validate_child h.isMax h.data _ _).2 fun hc => ?_⟩
    · have := hh (left idx) (by unfold left; omega) hc
      rw [parent_left] at this; exact this
    · have := hh (left idx + 1) (by omega) hc
      rw [parent_left_succ] at this; exact this

/-- `heap_grow(hp)`: `ESL_REALLOC(hp->idata, sizeof(int) * (hp->nalloc*2)); hp->nalloc += hp->nalloc;` — the `n` used cells
    keep their content, the allocation doubles -/
def grow (h : Heap) : Heap := { h with nalloc := h.nalloc + h.nalloc }

theorem grow_inv (h : Heap) (hi : Inv h) :
    Inv (grow h) ∧ (grow h).data = h.data ∧ (grow h).isMax = h.isMax ∧ (grow h).nalloc = 2 * h.nalloc ∧
      h.data.size < (grow h).nalloc := by
  obtain ⟨h1, h2, h3⟩ := hi
  refine ⟨⟨h1, ?_, ?_⟩, rfl, rfl, ?_, ?_⟩ <;> simp only [grow] <;> omega

/-- `esl_heap_IInsert` on a full heap is `heap_grow` followed by the insertion into the grown heap; and it grows only then -/
theorem insert_full_eq (h : Heap) (v : Int) (hi : Inv h) (hfull : h.data.size = h.nalloc) : insert h v = insert (grow h) v := by
  obtain ⟨_, _, hpos⟩ := hi
  have e1 : (h.data.size == h.nalloc) = true := by simpa using hfull
  have e2 : (h.data.size == h.nalloc + h.nalloc) = false := by simp; omega
  have e3 : h.nalloc * 2 = h.nalloc + h.nalloc := by omega
  simp only [insert, grow, e1, e2, e3, ↓reduceIte, Bool.false_eq_true]

theorem insert_nalloc (h h' : Heap) (v : Int) (hi : insert h v = some h') :
    h'.nalloc = if h.data.size = h.nalloc then 2 * h.nalloc else h.nalloc := by
  obtain ⟨d', hd⟩ : ∃ d', h' = { h with data := d', nalloc := if h.data.size == h.nalloc then h.nalloc * 2 else h.nalloc } := by
    unfold insert at hi
    simp only at hi
    by_cases hgt : h.data.size + 1 > (if h.data.size == h.nalloc then h.nalloc * 2 else h.nalloc)
    · rw [if_pos hgt] at hi; cases hi
    · rw [if_neg hgt] at hi
      cases hsu : siftUp h.isMax v ((h.data.push v).size + 1) (h.data.push v) ((h.data.push v).size - 1) with
      | none => rw [hsu] at hi; cases hi
      | some d' => rw [hsu] at hi; exact ⟨d', (Option.some.inj hi).symm⟩
  subst hd
  show (if (h.data.size == h.nalloc) = true then h.nalloc * 2 else h.nalloc) = _
  by_cases he : h.data.size = h.nalloc
  · have e : (h.data.size == h.nalloc) = true := by simpa using he
    rw [if_pos e, if_pos he]; omega
  · have e : (h.data.size == h.nalloc) = false := by simpa using he
    rw [if_neg (by simp [e]), if_neg he]

theorem insert_nalloc_le (h h' : Heap) (v : Int) (B : Nat) (hi : insert h v = some h')
    (hs : h.data.size ≤ B) (hn : h.nalloc ≤ max 128 (2 * B)) : h'.nalloc ≤ max 128 (2 * B) := by
  rw [insert_nalloc h h' v hi]
  split <;> omega

end EaselModel.Containers.Heap
