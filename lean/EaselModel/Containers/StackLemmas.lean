import EaselModel.Containers.Stack
/-! Lemmas about the stack model: LIFO, discards, shuffle keeps the multiset, no faults. -/
namespace EaselModel.Containers.Stack
open EaselModel.Random
variable {α : Type}

/-- allocation invariant: `n ≤ nalloc`, `nalloc > 0` -/
def Inv (s : Stack α) : Prop := s.data.size ≤ s.nalloc ∧ 0 < s.nalloc

theorem inv_create : Inv (create : Stack α) := by simp [Inv, create]

theorem push_spec (s : Stack α) (x : α) (h : Inv s) :
    ∃ s', push s x = some s' ∧ Inv s' ∧ s'.data = s.data.push x := by
  obtain ⟨h1, h2⟩ := h
  unfold push
  by_cases he : s.data.size = s.nalloc
  · have e : (s.data.size == s.nalloc) = true := by simpa using he
    simp only [e, ↓reduceIte]
    have hlt : s.data.size < s.nalloc + s.nalloc := by omega
    simp only [hlt, ↓reduceIte]
    refine ⟨_, rfl, ?_, rfl⟩
    simp only [Inv, Array.size_push]; omega
  · have e : (s.data.size == s.nalloc) = false := by simpa using he
    simp only [e]
    have hlt : s.data.size < s.nalloc := by omega
    simp only [Bool.false_eq_true, ↓reduceIte, hlt]
    refine ⟨_, rfl, ?_, rfl⟩
    simp only [Inv, Array.size_push]; omega

/-- `Pop` as one record equation: on the empty stack `data.pop` is `data` and `back?` is `none` -/
theorem pop_eq (s : Stack α) : pop s = ({ s with data := s.data.pop }, s.data.back?) := by
  unfold pop
  cases hb : s.data.back? with
  | none =>
    obtain ⟨d, n⟩ := s
    cases (by simpa using hb : d = #[]); rfl
  | some x => rfl

theorem toList_of_back? {d : Array α} {x : α} (h : d.back? = some x) : d.toList = d.pop.toList ++ [x] := by
  obtain ⟨ys, rfl⟩ := Array.back?_eq_some_iff.mp h
  simp

theorem pop_push (s s' : Stack α) (x : α) (h : s'.data = s.data.push x) :
    pop s' = ({ s' with data := s.data }, some x) := by
  simp [pop_eq, h]

theorem pop_empty (s : Stack α) (h : s.data.size = 0) : pop s = (s, none) := by
  obtain ⟨d, n⟩ := s
  cases (Array.eq_empty_of_size_eq_zero h : d = #[]); rfl

theorem pop_inv (s : Stack α) (h : Inv s) : Inv (pop s).1 := by
  simp only [pop_eq, Inv, Array.size_pop] at *; omega

theorem pop_some_toList (s s' : Stack α) (x : α) (h : pop s = (s', some x)) :
    s.data.toList = s'.data.toList ++ [x] ∧ s'.nalloc = s.nalloc := by
  rw [pop_eq] at h
  obtain ⟨rfl, hb⟩ := Prod.mk.inj h
  exact ⟨toList_of_back? hb, rfl⟩

theorem pop_none_eq (s s' : Stack α) (h : pop s = (s', none)) : s' = s ∧ s.data.size = 0 := by
  rw [pop_eq] at h
  obtain ⟨rfl, hb⟩ := Prod.mk.inj h
  obtain ⟨d, n⟩ := s
  cases (by simpa using hb : d = #[]); exact ⟨rfl, rfl⟩

theorem pushAll_spec (s : Stack α) (xs : List α) (h : Inv s) :
    ∃ s', pushAll s xs = some s' ∧ Inv s' ∧ s'.data = s.data ++ xs.toArray := by
  induction xs generalizing s with
  | nil => exact ⟨s, rfl, h, by simp⟩
  | cons x xs ih =>
    obtain ⟨s1, h1, hi1, hd1⟩ := push_spec s x h
    obtain ⟨s2, h2, hi2, hd2⟩ := ih s1 hi1
    refine ⟨s2, ?_, hi2, ?_⟩
    · simp [pushAll, h1, h2]
    · rw [hd2, hd1]; simp

theorem popAll_pushAll (s s' : Stack α) (xs : List α) (h : s'.data = s.data ++ xs.toArray) :
    popAll s' = xs.reverse ++ popAll s := by
  simp [popAll, h]

theorem popAll_cons_of_pop (s : Stack α) (x : α) (s' : Stack α) (h : pop s = (s', some x)) :
    popAll s = x :: popAll s' := by
  simp [popAll, (pop_some_toList s s' x h).1]

theorem popAll_nil_of_pop (s : Stack α) (s' : Stack α) (h : pop s = (s', none)) : popAll s = [] ∧ s' = s := by
  obtain ⟨rfl, h0⟩ := pop_none_eq s s' h
  simp [popAll, Array.eq_empty_of_size_eq_zero h0]

theorem discardTopN_toList (s : Stack α) (n : Nat) :
    (discardTopN s n).data.toList = s.data.toList.take (s.data.size - n) := by
  unfold discardTopN
  split
  · simp
  · have : s.data.size - n = 0 := by omega
    simp [this]

/-- the compaction keeps what it has written (`take npos`) and appends what it keeps of the part still to be read -/
theorem discardLoop_spec (discard : α → Bool) (todo : Nat) (d : Array α) (opos npos : Nat)
    (hle : npos ≤ opos) (hto : opos + todo = d.size) :
    ∃ d' npos', discardLoop discard todo d opos npos = some (d', npos') ∧ d'.size = d.size ∧
      d'.toList.take npos' = d.toList.take npos ++ (d.toList.drop opos).filter (fun x => !discard x) := by
  induction todo generalizing d opos npos with
  | zero => exact ⟨d, npos, rfl, rfl, by simp [List.drop_eq_nil_of_le, ← hto]⟩
  | succ todo ih =>
    have hop : opos < d.size := by omega
    have hdrop : d.toList.drop opos = d[opos] :: d.toList.drop (opos + 1) := by
      rw [List.drop_eq_getElem_cons (by simpa using hop)]; simp
    simp only [discardLoop, Array.getElem?_eq_getElem hop, hdrop]
    by_cases hdx : discard d[opos] = true
    · simp only [hdx, ↓reduceIte]
      obtain ⟨d', npos', h1, h2, h3⟩ := ih d (opos+1) npos (by omega) (by omega)
      exact ⟨d', npos', h1, h2, by simp [h3, hdx]⟩
    · have hdx' : discard d[opos] = false := by simpa using hdx
      have hnp : npos < d.size := by omega
      simp only [hdx', Bool.false_eq_true, ↓reduceIte, hnp]
      obtain ⟨d', npos', h1, h2, h3⟩ := ih (d.set! npos d[opos]) (opos+1) (npos+1) (by omega) (by simp; omega)
      refine ⟨d', npos', h1, by simpa using h2, ?_⟩
      rw [h3]
      simp only [Array.set!_eq_setIfInBounds, Array.toList_setIfInBounds]
      rw [List.drop_set_of_lt (by omega), List.take_add_one]
      simp [List.take_set_of_le, hnp, hdx']
theorem discardSelected_spec (s : Stack α) (discard : α → Bool) :
    ∃ s', discardSelected s discard = some s' ∧ s'.nalloc = s.nalloc ∧
      s'.data.toList = s.data.toList.filter (fun x => !discard x) := by
  obtain ⟨d', npos', h1, h2, h3⟩ := discardLoop_spec discard s.data.size s.data 0 0 (by omega) (by omega)
  refine ⟨{ s with data := d'.extract 0 npos' }, ?_, rfl, ?_⟩
  · simp [discardSelected, h1]
  · simp [Array.toList_extract, h3]

theorem swapAt_perm (d d' : Array α) (i j : Nat) (h : swapAt d i j = some d') :
    d'.toList.Perm d.toList ∧ d'.size = d.size := by
  unfold swapAt at h
  cases hi : d[i]? with
  | none => simp [hi] at h
  | some x =>
    cases hj : d[j]? with
    | none => simp [hi, hj] at h
    | some y =>
      obtain ⟨hil, rfl⟩ := Array.getElem?_eq_some_iff.mp hi
      obtain ⟨hjl, rfl⟩ := Array.getElem?_eq_some_iff.mp hj
      simp only [hi, hj, Option.some.injEq] at h
      subst h
      -- the two writes of `ESL_SWAP` are `Array.swap`
      have : (d.set! i d[j]).set! j d[i] = d.swap i j hil hjl := by
        simp [Array.swap_def, Array.set!_eq_setIfInBounds, Array.setIfInBounds, hil, hjl]
      rw [this]
      exact ⟨Array.perm_iff_toList_perm.mp (Array.swap_perm hil hjl), Array.size_swap ..⟩

theorem shuffleLoop_perm (rollFuel n : Nat) (r : Rng) (d d' : Array α) (r' : Rng)
    (h : shuffleLoop rollFuel n r d = some (d', r')) : d'.toList.Perm d.toList ∧ d'.size = d.size := by
  induction n generalizing r d with
  | zero =>
    simp only [shuffleLoop, Option.some.injEq, Prod.mk.injEq] at h
    obtain ⟨rfl, _⟩ := h; exact ⟨List.Perm.refl _, rfl⟩
  | succ n ih =>
    cases n with
    | zero =>
      have h : some (d, r) = some (d', r') := h
      simp only [Option.some.injEq, Prod.mk.injEq] at h
      obtain ⟨rfl, _⟩ := h; exact ⟨List.Perm.refl _, rfl⟩
    | succ n =>
      simp only [shuffleLoop] at h
      cases hroll : r.roll (n + 1 + 1) rollFuel with
      | none => simp [hroll] at h
      | some wr =>
        obtain ⟨w, r1⟩ := wr
        simp only [hroll] at h
        cases hs : swapAt d w (n + 1) with
        | none => simp [hs] at h
        | some d1 =>
          simp only [hs] at h
          obtain ⟨p1, s1⟩ := swapAt_perm _ _ _ _ hs
          obtain ⟨p2, s2⟩ := ih r1 d1 h
          exact ⟨p2.trans p1, s2.trans s1⟩

theorem shuffle_perm (rollFuel : Nat) (r r' : Rng) (s s' : Stack α) (h : shuffle rollFuel r s = some (s', r')) :
    s'.data.toList.Perm s.data.toList ∧ s'.nalloc = s.nalloc := by
  unfold shuffle at h
  split at h
  · cases h
  · rename_i d r1 hl
    simp only [Option.some.injEq, Prod.mk.injEq] at h
    obtain ⟨rfl, _⟩ := h
    exact ⟨(shuffleLoop_perm _ _ _ _ _ _ hl).1, rfl⟩

theorem convert2String_eq (s : Stack UInt8) (h : (0 : UInt8) ∉ s.data.toList) : convert2String s = s.data.toList := by
  unfold convert2String
  generalize s.data.toList = l at h
  induction l with
  | nil => rfl
  | cons a t ih =>
    have ha : a ≠ 0 := by intro h0; subst h0; exact h (by simp)
    have ht : (0 : UInt8) ∉ t := by intro h0; exact h (by simp [h0])
    simp [List.takeWhile_cons, ha, ih ht]

theorem push_nalloc_le (s s' : Stack α) (x : α) (B : Nat) (h : push s x = some s')
    (hs : s.data.size ≤ B) (hn : s.nalloc ≤ max 128 (2 * B)) : s'.nalloc ≤ max 128 (2 * B) := by
  unfold push at h
  by_cases he : s.data.size = s.nalloc
  · have e : (s.data.size == s.nalloc) = true := by simpa using he
    simp only [e, ↓reduceIte] at h
    split at h
    · cases h; show s.nalloc + s.nalloc ≤ _; omega
    · cases h
  · have e : (s.data.size == s.nalloc) = false := by simpa using he
    simp only [e, Bool.false_eq_true, ↓reduceIte] at h
    split at h
    · cases h; exact hn
    · cases h

end EaselModel.Containers.Stack
