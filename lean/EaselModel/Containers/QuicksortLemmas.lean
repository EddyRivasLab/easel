import EaselModel.Containers.Quicksort
import EaselModel.Core.ListLookup

/-! # esl_quicksort.c — the fault-tracking model inside the array: a read or write at an index below `ord.size` succeeds
(`rd_ok`, `wr_ok`), the three-assignment swap is `sw` (`swap_ok`), the first "swap" of `partition` changes nothing
(`noop_swap`); the code before the guard `if (n > 1)` reads `ord[-1]` for `n = 0`. That the result is in order:
`QuicksortPure.lean`. -/
namespace EaselModel.Containers.Quicksort

/-- the comparison callback is a total preorder on the identifiers (−/0/+ convention) -/
structure TotalPreorder (cmp : Nat → Nat → Int) : Prop where
  antisymm_sign : ∀ a b, cmp a b < 0 ↔ cmp b a > 0
  trans_le : ∀ a b c, cmp a b ≤ 0 → cmp b c ≤ 0 → cmp a c ≤ 0

theorem TotalPreorder.refl {cmp : Nat → Nat → Int} (hc : TotalPreorder cmp) (a : Nat) : cmp a a = 0 := by
  have h := hc.antisymm_sign a a
  omega

theorem TotalPreorder.flip {cmp : Nat → Nat → Int} (hc : TotalPreorder cmp) {a b : Nat}
    (h : 0 ≤ cmp b a) : cmp a b ≤ 0 := by
  have h' := hc.antisymm_sign b a
  omega

@[simp] theorem bind_ok {α β : Type} (a : α) (f : α → Out β) : (Out.ok a >>= f) = f a := rfl
@[simp] theorem bind_fault {α β : Type} (f : α → Out β) : ((Out.fault : Out α) >>= f) = .fault := rfl
@[simp] theorem bind_nofuel {α β : Type} (f : α → Out β) : ((Out.nofuel : Out α) >>= f) = .nofuel := rfl
@[simp] theorem pure_eq_ok {α : Type} (a : α) : (pure a : Out α) = .ok a := rfl

theorem rd_ok (ord : Array Nat) (k : Nat) (hk : k < ord.size) : rd ord (k : Int) = .ok ord[k]! := by
  unfold rd
  have h1 : ¬ ((k : Int) < 0) := by omega
  simp [h1, hk]

theorem wr_ok (ord : Array Nat) (k : Nat) (v : Nat) (hk : k < ord.size) :
    wr ord (k : Int) v = .ok (ord.setIfInBounds k v) := by
  unfold wr
  have h1 : ¬ ((k : Int) < 0) := by omega
  simp [h1, hk]

/-- the three-assignment swap `t = ord[i]; ord[i] = ord[j]; ord[j] = t` as the model performs it -/
def sw (ord : Array Nat) (i j : Nat) : Array Nat :=
  (ord.setIfInBounds j ord[i]!).setIfInBounds i ord[j]!

theorem sw_size (ord : Array Nat) (i j : Nat) : (sw ord i j).size = ord.size := by
  simp [sw]

theorem sw_get (ord : Array Nat) (i j k : Nat) (hi : i < ord.size) (hj : j < ord.size) :
    (sw ord i j)[k]! = if k = i then ord[j]! else if k = j then ord[i]! else ord[k]! := by
  simp only [sw, bang_setIfInBounds, Array.size_setIfInBounds]
  by_cases h1 : k = i
  · subst h1; simp [hi]
  · by_cases h2 : k = j
    · subst h2
      have : ¬ i = k := fun h => h1 h.symm
      simp [hj, this, h1]
    · have a : ¬ i = k := fun h => h1 h.symm
      have b : ¬ j = k := fun h => h2 h.symm
      simp [h1, h2, a, b]

theorem sw_perm (ord : Array Nat) (i j : Nat) (hi : i < ord.size) (hj : j < ord.size) :
    (sw ord i j).toList.Perm ord.toList := by
  have e1 : ord[i]! = ord.toList[i]'(by simpa using hi) := by simp [hi]
  have e2 : ord[j]! = ord.toList[j]'(by simpa using hj) := by simp [hj]
  simp only [sw, Array.toList_setIfInBounds, e1, e2]
  exact List.set_set_perm (by simpa using hj) (by simpa using hi)

theorem swap_ok {β : Type} (ord : Array Nat) (i j : Nat) (hi : i < ord.size) (hj : j < ord.size)
    (k : Array Nat → Out β) :
    (do let oi ← rd ord (i : Int)
        let oj ← rd ord (j : Int)
        let ord' ← wr ord (j : Int) oi
        let ord'' ← wr ord' (i : Int) oj
        k ord'') = k (sw ord i j) := by
  rw [rd_ok _ _ hi, rd_ok _ _ hj]
  simp only [bind_ok]
  rw [wr_ok _ _ _ hj]
  simp only [bind_ok]
  rw [wr_ok _ _ _ (by simpa using hi)]
  rfl

/-- same swap, the two reads in the other order (as in the pivot swap and the final swap) -/
theorem swap_ok' {β : Type} (ord : Array Nat) (i j : Nat) (hi : i < ord.size) (hj : j < ord.size)
    (k : Array Nat → Out β) :
    (do let oj ← rd ord (j : Int)
        let oi ← rd ord (i : Int)
        let ord' ← wr ord (j : Int) oi
        let ord'' ← wr ord' (i : Int) oj
        k ord'') = k (sw ord i j) := by
  rw [rd_ok _ _ hi, rd_ok _ _ hj]
  simp only [bind_ok]
  rw [wr_ok _ _ _ hj]
  simp only [bind_ok]
  rw [wr_ok _ _ _ (by simpa using hi)]
  rfl

/-- `b` is obtained from `a` by permuting the positions `lo ≤ k < hi` only -/
structure SegPerm (lo hi : Nat) (a b : Array Nat) : Prop where
  size : b.size = a.size
  perm : b.toList.Perm a.toList
  outside : ∀ k, k < lo ∨ hi ≤ k → b[k]! = a[k]!
  pres : ∀ P : Nat → Prop, (∀ k, lo ≤ k → k < hi → P a[k]!) → ∀ k, lo ≤ k → k < hi → P b[k]!

theorem SegPerm.rfl' (lo hi : Nat) (a : Array Nat) : SegPerm lo hi a a :=
  ⟨rfl, List.Perm.refl _, fun _ _ => rfl, fun _ h => h⟩

theorem SegPerm.trans {lo hi : Nat} {a b c : Array Nat} (h1 : SegPerm lo hi a b) (h2 : SegPerm lo hi b c) :
    SegPerm lo hi a c :=
  ⟨h2.size.trans h1.size, h2.perm.trans h1.perm,
   fun k hk => (h2.outside k hk).trans (h1.outside k hk),
   fun P hP => h2.pres P (h1.pres P hP)⟩

theorem SegPerm.mono {lo hi lo' hi' : Nat} {a b : Array Nat} (h : SegPerm lo' hi' a b)
    (hlo : lo ≤ lo') (hhi : hi' ≤ hi) : SegPerm lo hi a b := by
  refine ⟨h.size, h.perm, fun k hk => h.outside k (by omega), fun P hP k h1 h2 => ?_⟩
  by_cases hk : lo' ≤ k ∧ k < hi'
  · exact h.pres P (fun k' a1 a2 => hP k' (by omega) (by omega)) k hk.1 hk.2
  · rw [h.outside k (by omega)]
    exact hP k h1 h2

theorem SegPerm.sw (lo hi : Nat) (a : Array Nat) (i j : Nat) (hi' : i < a.size) (hj : j < a.size)
    (h1 : lo ≤ i) (h2 : i < hi) (h3 : lo ≤ j) (h4 : j < hi) : SegPerm lo hi a (sw a i j) := by
  refine ⟨sw_size _ _ _, sw_perm _ _ _ hi' hj, fun k hk => ?_, fun P hP k k1 k2 => ?_⟩
  · rw [sw_get _ _ _ _ hi' hj]
    have a1 : ¬ k = i := by omega
    have a2 : ¬ k = j := by omega
    simp [a1, a2]
  · rw [sw_get _ _ _ _ hi' hj]
    split
    · exact hP j h3 h4
    · split
      · exact hP i h1 h2
      · exact hP k k1 k2


theorem quicksort_zero_faults (cmp : Nat → Nat → Int) (fuel : Nat) : quicksortUnguarded cmp 0 (fuel+1) = .fault := by
  unfold quicksortUnguarded partition
  have : rd (Array.range 0) ((0 : Nat) - 1 : Int) = .fault := by
    unfold rd; simp
  rw [this]; rfl

theorem noop_swap (ord : Array Nat) (hi : Nat) (v : Nat) (hhi : hi < ord.size) :
    (do let ord' ← wr ord (hi : Int) v
        wr ord' (hi : Int) ord[hi]!) = Out.ok ord := by
  rw [wr_ok _ _ _ hhi]
  simp only [bind_ok]
  rw [wr_ok _ _ _ (by simpa using hhi)]
  congr 1
  apply Array.ext_getElem?
  intro k
  simp only [Array.getElem?_setIfInBounds, Array.size_setIfInBounds]
  by_cases h : hi = k
  · subst h; simp [hhi]
  · simp [h]

end EaselModel.Containers.Quicksort
