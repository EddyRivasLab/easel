import EaselModel.Containers.RedBlack

/-! # esl_red_black.c — proofs about the executable model `EaselModel.Containers.RedBlack`

Key type `Int` throughout (as in the driver). Insertion is treated in two independent halves: order / membership (no
colour hypothesis) and colour / black height (which also gives "never `esl_fatal`"). At the end: histories of insertions and lookups answer as the
set of inserted keys (`runRb_spec`). -/
namespace EaselModel.Containers.RedBlack

namespace Tree

@[simp] theorem toList_nil : toList (.nil : Tree Int) = [] := rfl
@[simp] theorem toList_node (c : Color) (a : Tree Int) (x : Int) (b : Tree Int) :
    toList (.node c a x b) = toList a ++ x :: toList b := rfl

@[simp] theorem toList_setColor (c : Color) (t : Tree Int) : toList (t.setColor c) = toList t := by
  cases t <;> rfl

theorem toLinkedDesc_eq (t : Tree Int) (acc : List Int) :
    toLinkedDesc t acc = acc ++ (toList t).reverse := by
  induction t generalizing acc with
  | nil => simp [toLinkedDesc]
  | node c a x b iha ihb => simp [toLinkedDesc, iha, ihb, List.append_assoc]

theorem lookup_iff (t : Tree Int) (h : (toList t).Pairwise (· < ·)) (k : Int) :
    lookup k t = true ↔ k ∈ toList t := by
  induction t with
  | nil => simp [lookup]
  | node c a x b iha ihb =>
    simp only [toList_node, List.pairwise_append, List.pairwise_cons, List.mem_cons] at h
    obtain ⟨ha, ⟨hxb, hb⟩, hab⟩ := h
    have iha := iha ha
    have ihb := ihb hb
    simp only [lookup, toList_node, List.mem_append, List.mem_cons]
    by_cases hxk : x = k
    · simp [hxk]
    · by_cases hlt : x < k
      · simp only [hxk, hlt, if_true, if_false, ihb]
        constructor
        · intro hk; exact Or.inr (Or.inr hk)
        · rintro (hk | hk | hk)
          · have := hab k hk x (Or.inl rfl); omega
          · exact absurd hk.symm hxk
          · exact hk
      · simp only [hxk, hlt, if_false, iha]
        constructor
        · intro hk; exact Or.inl hk
        · rintro (hk | hk | hk)
          · exact hk
          · exact absurd hk.symm hxk
          · have := hxb k hk; omega

theorem rotate_toList {gs : Tree Int} {gk : Int} {gl : Tree Int} {sp sn : Side} {t' : Tree Int}
    (h : rotate gs gk gl sp sn = some t') : toList t' = toList gs ++ gk :: toList gl := by
  unfold rotate at h
  split at h
  · split at h
    · cases h; simp [List.append_assoc]
    · cases h
  · split at h
    · cases h; simp [List.append_assoc]
    · cases h
  · split at h
    · cases h; simp [List.append_assoc]
    · cases h
  · split at h
    · cases h; simp [List.append_assoc]
    · cases h

end Tree

/-- the tree carried by a result (`dup`, `fatal` carry none) -/
def Res.tree? : Res Int → Option (Tree Int)
  | .dup => none
  | .fatal => none
  | .done t => some t
  | .check t => some t
  | .viol t _ => some t

namespace Tree

def withChild (c : Color) (a : Tree Int) (x : Int) (b : Tree Int) (s : Side) (t : Tree Int) : Tree Int :=
  match s with
  | .small => .node c t x b
  | .large => .node c a x t

theorem up_tree (c : Color) (a : Tree Int) (x : Int) (b : Tree Int) (s : Side) (r : Res Int)
    (t : Tree Int) (hr : r.tree? = some t) :
    up c a x b s r = .fatal ∨
      ∃ t', (up c a x b s r).tree? = some t' ∧ toList t' = toList (withChild c a x b s t) := by
  cases r with
  | dup => cases hr
  | fatal => cases hr
  | done t0 =>
    cases hr
    cases s <;> exact Or.inr ⟨_, rfl, rfl⟩
  | check t0 =>
    cases hr
    cases s <;> (simp only [up]; split) <;> exact Or.inr ⟨_, rfl, rfl⟩
  | viol t0 sn =>
    cases hr
    cases s
    · simp only [up]
      split
      · exact Or.inr ⟨_, rfl, by simp [withChild]⟩
      · cases hrot : rotate t x b .small sn with
        | none => exact Or.inl rfl
        | some t' => exact Or.inr ⟨_, rfl, by simp [withChild, rotate_toList hrot]⟩
    · simp only [up]
      split
      · exact Or.inr ⟨_, rfl, by simp [withChild]⟩
      · cases hrot : rotate a x t .large sn with
        | none => exact Or.inl rfl
        | some t' => exact Or.inr ⟨_, rfl, by simp [withChild, rotate_toList hrot]⟩

@[simp] theorem up_dup (c : Color) (a : Tree Int) (x : Int) (b : Tree Int) (s : Side) :
    up c a x b s .dup = .dup := rfl
@[simp] theorem up_fatal (c : Color) (a : Tree Int) (x : Int) (b : Tree Int) (s : Side) :
    up c a x b s .fatal = .fatal := rfl

/-- what the order half says about a result of `ins k` on a tree with in-order list `l`: a new key goes to its place -/
def OrdInv (k : Int) (l : List Int) (r : Res Int) : Prop :=
  r = .fatal ∨ (r = .dup ∧ k ∈ l) ∨
    ∃ t' l₁ l₂, r.tree? = some t' ∧ l = l₁ ++ l₂ ∧ toList t' = l₁ ++ k :: l₂ ∧ (∀ y ∈ l₁, y < k) ∧ ∀ y ∈ l₂, k < y

/-- a node above passes the result of its `s`-child on: `pre`, `post` are what it has in order before and after that child -/
theorem OrdInv.up {k : Int} {l : List Int} {r : Res Int} (h : OrdInv k l r) (c : Color) (a : Tree Int) (x : Int) (b : Tree Int)
    (s : Side) (pre post : List Int) (hw : ∀ t, toList (withChild c a x b s t) = pre ++ (toList t ++ post))
    (hpre : ∀ y ∈ pre, y < k) (hpost : ∀ y ∈ post, k < y) : OrdInv k (pre ++ (l ++ post)) (Tree.up c a x b s r) := by
  rcases h with rfl | ⟨rfl, hk⟩ | ⟨t', l₁, l₂, ht', rfl, ht, h₁, h₂⟩
  · exact Or.inl rfl
  · exact Or.inr (Or.inl ⟨rfl, by simp [hk]⟩)
  · rcases up_tree c a x b s _ t' ht' with hf | ⟨t'', ht'', hl⟩
    · exact Or.inl hf
    · exact Or.inr (Or.inr ⟨t'', pre ++ l₁, l₂ ++ post, ht'', by simp, by simp [hl, hw, ht],
        fun y hy => (List.mem_append.mp hy).elim (hpre y) (h₁ y), fun y hy => (List.mem_append.mp hy).elim (h₂ y) (hpost y)⟩)

theorem ins_ord (k : Int) (t : Tree Int) (h : (toList t).Pairwise (· < ·)) :
    OrdInv k (toList t) (ins k t) := by
  induction t with
  | nil => exact Or.inr (Or.inr ⟨_, [], [], rfl, rfl, rfl, nofun, nofun⟩)
  | node c a x b iha ihb =>
    simp only [toList_node, List.pairwise_append, List.pairwise_cons, List.mem_cons] at h
    obtain ⟨ha, ⟨hxb, hb⟩, hab⟩ := h
    simp only [ins]
    split
    next hlt =>
      have := (ihb hb).up c a x b .large (toList a ++ [x]) [] (fun t => by simp [withChild])
        (fun y hy => by
          rcases List.mem_append.mp hy with hy | hy
          · have := hab y hy x (Or.inl rfl); omega
          · simp at hy; omega)
        nofun
      simpa using this
    next hnlt =>
      split
      next hlt =>
        have := (iha ha).up c a x b .small [] (x :: toList b) (fun t => by simp [withChild]) nofun
          (fun y hy => by
            rcases List.mem_cons.mp hy with rfl | hy
            · exact hlt
            · have := hxb y hy; omega)
        simpa using this
      next hnlt' =>
        have : x = k := by omega
        exact Or.inr (Or.inl ⟨rfl, by simp [this]⟩)

/-- read off a result that carries a tree: the key was new, order is kept, exactly the key is added -/
theorem OrdInv.tree {k : Int} {l : List Int} {r : Res Int} {t' : Tree Int} (h : OrdInv k l r) (hl : l.Pairwise (· < ·))
    (ht : r.tree? = some t') : k ∉ l ∧ (toList t').Pairwise (· < ·) ∧ ∀ x, x ∈ toList t' ↔ x = k ∨ x ∈ l := by
  rcases h with rfl | ⟨rfl, _⟩ | ⟨t'', l₁, l₂, ht'', rfl, e, h₁, h₂⟩
  · cases ht
  · cases ht
  · rw [ht''] at ht; cases ht
    simp only [List.pairwise_append] at hl
    obtain ⟨p₁, p₂, p₁₂⟩ := hl
    refine ⟨fun hm => (List.mem_append.mp hm).elim (fun m => Int.lt_irrefl _ (h₁ k m)) (fun m => Int.lt_irrefl _ (h₂ k m)),
      ?_, fun x => by simp [e, or_left_comm]⟩
    rw [e]
    simp only [List.pairwise_append, List.pairwise_cons, List.mem_cons]
    exact ⟨p₁, ⟨h₂, p₂⟩, fun y hy z hz => hz.elim (· ▸ h₁ y hy) (p₁₂ y hy z)⟩

/-- red-black shape: no red node has a red child, and every root-to-nil path has `n` black nodes.
    `Balanced t c n`: `c` is the root colour, `n` the black height. -/
inductive Balanced : Tree Int → Color → Nat → Prop
  | nil : Balanced .nil .black 0
  | red {a x b n} : Balanced a .black n → Balanced b .black n → Balanced (.node .red a x b) .red n
  | black {a x b c₁ c₂ n} : Balanced a c₁ n → Balanced b c₂ n → Balanced (.node .black a x b) .black (n+1)

theorem Balanced.color_eq {t : Tree Int} {c : Color} {n : Nat} (h : Balanced t c n) : t.color = c := by
  cases h <;> rfl

theorem Balanced.blacken {t : Tree Int} {n : Nat} (h : Balanced t .red n) :
    Balanced (t.setColor .black) .black (n+1) := by
  cases h with
  | red ha hb => exact .black ha hb

theorem Balanced.setColor_red {t : Tree Int} {n : Nat} (h : Balanced t .red n) : t.setColor .red = t := by
  cases h; rfl

theorem Balanced.of_color_red {t : Tree Int} {c : Color} {n : Nat} (h : Balanced t c n)
    (hc : t.color = .red) : Balanced t .red n := by
  have := h.color_eq
  rw [hc] at this
  subst this
  exact h

theorem Balanced.of_color_ne_red {t : Tree Int} {c : Color} {n : Nat} (h : Balanced t c n)
    (hc : ¬ t.color = .red) : Balanced t .black n := by
  have := h.color_eq
  cases c with
  | red => exact absurd this hc
  | black => exact h

/-- what the colour half says about a result of `ins k` on a `Balanced t c n` tree -/
def BalInv (c : Color) (n : Nat) : Res Int → Prop
  | .dup => True
  | .fatal => False
  | .done t' => Balanced t' c n
  | .check t' => c = .black ∧ Balanced t' .red n
  | .viol t' s => c = .red ∧ ∃ a x b, t' = .node .red a x b ∧
      match s with
      | .small => Balanced a .red n ∧ Balanced b .black n
      | .large => Balanced a .black n ∧ Balanced b .red n

/-- the uncle-is-black rotations, parent on the small side -/
theorem rotate_small_bal {p : Tree Int} {x : Int} {u : Tree Int} {sn : Side} {n : Nat} {pa pb : Tree Int} {px : Int}
    (hp : p = .node .red pa px pb)
    (hch : match sn with
      | .small => Balanced pa .red n ∧ Balanced pb .black n
      | .large => Balanced pa .black n ∧ Balanced pb .red n)
    (hu : Balanced u .black n) :
    ∃ t', rotate p x u .small sn = some t' ∧ Balanced t' .black (n+1) := by
  subst hp
  cases sn with
  | small =>
    obtain ⟨h1, h2⟩ := hch
    refine ⟨_, rfl, ?_⟩
    rw [h1.setColor_red]
    exact .black h1 (.red h2 hu)
  | large =>
    obtain ⟨h1, h2⟩ := hch
    cases h2 with
    | red hns hnl => exact ⟨_, rfl, .black (.red h1 hns) (.red hnl hu)⟩

/-- the uncle-is-black rotations, parent on the large side -/
theorem rotate_large_bal {p : Tree Int} {x : Int} {u : Tree Int} {sn : Side} {n : Nat} {pa pb : Tree Int} {px : Int}
    (hp : p = .node .red pa px pb)
    (hch : match sn with
      | .small => Balanced pa .red n ∧ Balanced pb .black n
      | .large => Balanced pa .black n ∧ Balanced pb .red n)
    (hu : Balanced u .black n) :
    ∃ t', rotate u x p .large sn = some t' ∧ Balanced t' .black (n+1) := by
  subst hp
  cases sn with
  | small =>
    obtain ⟨h1, h2⟩ := hch
    cases h1 with
    | red hns hnl => exact ⟨_, rfl, .black (.red hu hns) (.red hnl h2)⟩
  | large =>
    obtain ⟨h1, h2⟩ := hch
    refine ⟨_, rfl, ?_⟩
    rw [h2.setColor_red]
    exact .black (.red hu h1) h2

theorem up_bal_red {a b : Tree Int} {x : Int} {n : Nat} (s : Side) (r : Res Int)
    (ha : Balanced a .black n) (hb : Balanced b .black n) (hr : BalInv .black n r) :
    BalInv .red n (up .red a x b s r) := by
  cases r with
  | dup => trivial
  | fatal => exact hr
  | done t' =>
    cases s
    · exact Balanced.red hr hb
    · exact Balanced.red ha hr
  | check t' =>
    obtain ⟨_, ht⟩ := hr
    cases s
    · exact ⟨rfl, _, _, _, rfl, ht, hb⟩
    · exact ⟨rfl, _, _, _, rfl, ha, ht⟩
  | viol t' sn => exact absurd hr.1 (by decide)

theorem up_bal_black_small {a b : Tree Int} {x : Int} {c₁ c₂ : Color} {n : Nat} (r : Res Int)
    (hb : Balanced b c₂ n) (hr : BalInv c₁ n r) :
    BalInv .black (n+1) (up .black a x b .small r) := by
  cases r with
  | dup => trivial
  | fatal => exact hr
  | done t' => exact Balanced.black hr hb
  | check t' => exact Balanced.black hr.2 hb
  | viol t' sn =>
    obtain ⟨_, pa, px, pb, hp, hch⟩ := hr
    simp only [up]
    split
    next hred => exact ⟨rfl, .red (by subst hp; cases sn <;> exact .black hch.1 hch.2) (hb.of_color_red hred).blacken⟩
    next hblk =>
      obtain ⟨t'', hrot, hbal⟩ := rotate_small_bal (x := x) hp hch (hb.of_color_ne_red hblk)
      simp only [hrot]
      exact hbal

theorem up_bal_black_large {a b : Tree Int} {x : Int} {c₁ c₂ : Color} {n : Nat} (r : Res Int)
    (ha : Balanced a c₁ n) (hr : BalInv c₂ n r) :
    BalInv .black (n+1) (up .black a x b .large r) := by
  cases r with
  | dup => trivial
  | fatal => exact hr
  | done t' => exact Balanced.black ha hr
  | check t' => exact Balanced.black ha hr.2
  | viol t' sn =>
    obtain ⟨_, pa, px, pb, hp, hch⟩ := hr
    simp only [up]
    split
    next hred => exact ⟨rfl, .red (ha.of_color_red hred).blacken (by subst hp; cases sn <;> exact .black hch.1 hch.2)⟩
    next hblk =>
      obtain ⟨t'', hrot, hbal⟩ := rotate_large_bal (x := x) hp hch (ha.of_color_ne_red hblk)
      simp only [hrot]
      exact hbal

/-- colour half of `ins`; in particular `ins` never answers `fatal` on a balanced tree -/
theorem ins_bal (k : Int) {t : Tree Int} {c : Color} {n : Nat} (h : Balanced t c n) :
    BalInv c n (ins k t) := by
  induction h with
  | nil => exact ⟨rfl, .red .nil .nil⟩
  | @red a x b n ha hb iha ihb =>
    simp only [ins]
    split
    · exact up_bal_red .large _ ha hb ihb
    · split
      · exact up_bal_red .small _ ha hb iha
      · trivial
  | @black a x b c₁ c₂ n ha hb iha ihb =>
    simp only [ins]
    split
    · exact up_bal_black_large _ ha ihb
    · split
      · exact up_bal_black_small _ hb iha
      · trivial

/-- order half of `insert` (no colour hypothesis): unless the model hits `esl_fatal` (excluded by `insert_balanced`),
    BST order is preserved, duplicates are detected exactly, and exactly the key is added -/
theorem insert_order (t : Tree Int) (k : Int) (h : (toList t).Pairwise (· < ·)) :
    insert t k = none ∨
    ∃ t' b, insert t k = some (t', b) ∧ (toList t').Pairwise (· < ·) ∧
      (b = false ↔ k ∈ toList t) ∧ (k ∈ toList t → t' = t) ∧
      (∀ x, x ∈ toList t' ↔ x = k ∨ x ∈ toList t) := by
  have ho := ins_ord k t h
  unfold insert
  cases hr : ins k t with
  | fatal => exact Or.inl rfl
  | viol t' s => exact Or.inl rfl
  | dup =>
    rw [hr] at ho
    rcases ho with hf | ⟨_, hk⟩ | ⟨_, _, _, ht', _⟩
    · cases hf
    · exact Or.inr ⟨t, false, rfl, h, by simp [hk], fun _ => rfl, fun x => ⟨Or.inr, fun hx => hx.elim (· ▸ hk) id⟩⟩
    · cases ht'
  | done t' =>
    obtain ⟨hk, hp, hm⟩ := (hr ▸ ho).tree h rfl
    exact Or.inr ⟨t', true, rfl, hp, by simp [hk], fun hk' => absurd hk' hk, hm⟩
  | check t' =>
    obtain ⟨hk, hp, hm⟩ := (hr ▸ ho).tree h rfl
    exact Or.inr ⟨t'.setColor .black, true, rfl, by rw [toList_setColor]; exact hp, by simp [hk],
      fun hk' => absurd hk' hk, fun x => by rw [toList_setColor]; exact hm x⟩

/-- colour half of `insert`: on a black-rooted balanced tree insertion never hits the `esl_fatal` branches and
    the result is again black-rooted and balanced (black height unchanged or one more) -/
theorem insert_balanced (t : Tree Int) (k : Int) {n : Nat} (h : Balanced t .black n) :
    ∃ t' b, insert t k = some (t', b) ∧ (Balanced t' .black n ∨ Balanced t' .black (n+1)) := by
  have hb := ins_bal k h
  unfold insert
  cases hr : ins k t with
  | fatal => rw [hr] at hb; exact hb.elim
  | viol t' s => rw [hr] at hb; exact absurd hb.1 (by decide)
  | dup => exact ⟨t, false, rfl, Or.inl h⟩
  | done t' => rw [hr] at hb; exact ⟨t', true, rfl, Or.inl hb⟩
  | check t' => rw [hr] at hb; exact ⟨_, true, rfl, Or.inr hb.2.blacken⟩

/-- the whole invariant of a tree built by insertions: BST order (in-order list strictly increasing), root black,
    no red-red, equal black height -/
def WF (t : Tree Int) : Prop := (toList t).Pairwise (· < ·) ∧ ∃ n, Balanced t .black n

theorem wf_nil : WF (.nil : Tree Int) := ⟨List.Pairwise.nil, 0, .nil⟩

theorem insert_spec (t : Tree Int) (k : Int) (h : WF t) :
    ∃ t' b, insert t k = some (t', b) ∧ WF t' ∧
      (b = false ↔ k ∈ toList t) ∧
      (k ∈ toList t → t' = t) ∧
      (∀ x, x ∈ toList t' ↔ x = k ∨ x ∈ toList t) := by
  obtain ⟨hp, n, hbal⟩ := h
  obtain ⟨t', b, hins, hb'⟩ := insert_balanced t k hbal
  rcases insert_order t k hp with hnone | ⟨t'', b'', hins', hp', hdup, hsame, hmem⟩
  · rw [hnone] at hins; cases hins
  · rw [hins] at hins'
    cases hins'
    refine ⟨t', b, hins, ⟨hp', ?_⟩, hdup, hsame, hmem⟩
    rcases hb' with hb' | hb'
    · exact ⟨_, hb'⟩
    · exact ⟨_, hb'⟩

theorem insertAll_spec' (ks : List Int) (t : Tree Int) (h : WF t) :
    ∃ t', insertAll t ks = some t' ∧ WF t' ∧ ∀ x, x ∈ toList t' ↔ x ∈ ks ∨ x ∈ toList t := by
  induction ks generalizing t with
  | nil => exact ⟨t, rfl, h, by simp⟩
  | cons k ks ih =>
    obtain ⟨t1, b, hins, hwf1, _, _, hmem1⟩ := insert_spec t k h
    obtain ⟨t2, hall, hwf2, hmem2⟩ := ih t1 hwf1
    refine ⟨t2, ?_, hwf2, ?_⟩
    · simp only [insertAll, hins]; exact hall
    · intro x
      rw [hmem2, hmem1, List.mem_cons]
      constructor
      · rintro (h | h | h)
        · exact Or.inl (Or.inr h)
        · exact Or.inl (Or.inl h)
        · exact Or.inr h
      · rintro ((h | h) | h)
        · exact Or.inr (Or.inl h)
        · exact Or.inl h
        · exact Or.inr (Or.inr h)

theorem insertAll_spec (ks : List Int) :
    ∃ t, insertAll .nil ks = some t ∧ WF t ∧ ∀ x, x ∈ toList t ↔ x ∈ ks := by
  obtain ⟨t, h1, h2, h3⟩ := insertAll_spec' ks .nil wf_nil
  exact ⟨t, h1, h2, by simpa using h3⟩

theorem linked_sorted (t : Tree Int) (h : WF t) :
    (toLinkedDesc t []).Pairwise (· > ·) ∧ ∀ x, x ∈ toLinkedDesc t [] ↔ x ∈ toList t := by
  rw [toLinkedDesc_eq]
  refine ⟨?_, fun x => ?_⟩
  · rw [List.nil_append, List.pairwise_reverse]
    exact h.1
  · rw [List.nil_append, List.mem_reverse]

theorem insertAll_linked (ks : List Int) :
    ∃ t, insertAll .nil ks = some t ∧ (toLinkedDesc t []).Pairwise (· > ·) ∧
      ∀ x, x ∈ toLinkedDesc t [] ↔ x ∈ ks := by
  obtain ⟨t, h1, h2, h3⟩ := insertAll_spec ks
  obtain ⟨h4, h5⟩ := linked_sorted t h2
  exact ⟨t, h1, h4, fun x => (h5 x).trans (h3 x)⟩

def size : Tree Int → Nat
  | .nil => 0
  | .node _ a _ b => size a + size b + 1

def height : Tree Int → Nat
  | .nil => 0
  | .node _ a _ b => max (height a) (height b) + 1

theorem size_eq_length (t : Tree Int) : size t = (toList t).length := by
  induction t with
  | nil => rfl
  | node c a x b iha ihb => simp [size, iha, ihb]; omega

theorem Balanced.size_ge {t : Tree Int} {c : Color} {n : Nat} (h : Balanced t c n) : 2 ^ n ≤ size t + 1 := by
  induction h with
  | nil => simp [size]
  | red ha hb iha ihb => simp only [size]; omega
  | black ha hb iha ihb => simp only [size, Nat.pow_succ]; omega

theorem Balanced.height_le {t : Tree Int} {c : Color} {n : Nat} (h : Balanced t c n) :
    height t ≤ 2 * n + (if c = .red then 1 else 0) := by
  induction h with
  | nil => simp [height]
  | red ha hb iha ihb =>
    simp only [height] at *
    simp at iha ihb ⊢
    omega
  | @black a x b c₁ c₂ n ha hb iha ihb =>
    simp only [height]
    have h1 : height a ≤ 2 * n + 1 := by split at iha <;> omega
    have h2 : height b ≤ 2 * n + 1 := by split at ihb <;> omega
    simp
    omega

theorem WF.height_le {t : Tree Int} (h : WF t) : 2 ^ ((height t + 1) / 2) ≤ size t + 1 := by
  obtain ⟨_, n, hb⟩ := h
  have h1 := hb.height_le
  have h2 := hb.size_ge
  simp at h1
  have h3 : (height t + 1) / 2 ≤ n := by omega
  exact Nat.le_trans (Nat.pow_le_pow_right (by decide) h3) h2

end Tree

open Tree

inductive RbOp | insert (k : Int) | lookup (k : Int)

/-- answers: `insert` ↦ "was inserted" (`false`: the C function returned NULL, duplicate), `lookup` ↦ "found" -/
def runRb : Tree Int → List RbOp → Option (List Bool)
  | _, [] => some []
  | t, .insert k :: r =>
    match Tree.insert t k with
    | none => none
    | some (t', b) => (runRb t' r).map (b :: ·)
  | t, .lookup k :: r => (runRb t r).map (Tree.lookup k t :: ·)

/-- the abstract type: the set of inserted keys (kept as a duplicate-free list) -/
def specRunRb : List Int → List RbOp → List Bool
  | _, [] => []
  | s, .insert k :: r => (!decide (k ∈ s)) :: specRunRb (if k ∈ s then s else k :: s) r
  | s, .lookup k :: r => decide (k ∈ s) :: specRunRb s r

theorem runRb_spec (ops : List RbOp) : ∀ (t : Tree Int) (s : List Int), WF t → (∀ x, x ∈ toList t ↔ x ∈ s) →
    runRb t ops = some (specRunRb s ops) := by
  induction ops with
  | nil => intro t s _ _; rfl
  | cons op rest ih =>
    intro t s hwf hs
    cases op with
    | insert k =>
      obtain ⟨t', b, h1, h2, h3, _, h5⟩ := insert_spec t k hwf
      have hb : b = !decide (k ∈ s) := by
        cases b with
        | false => have := (hs k).mp (h3.mp rfl); simp [this]
        | true =>
          have : ¬ k ∈ s := fun hk => by have := h3.mpr ((hs k).mpr hk); cases this
          simp [this]
      have hs' : ∀ x, x ∈ toList t' ↔ x ∈ (if k ∈ s then s else k :: s) := by
        intro x
        rw [h5 x, hs x]
        by_cases hk : k ∈ s
        · simp only [hk, ↓reduceIte]
          constructor
          · rintro (rfl | h)
            · exact hk
            · exact h
          · exact Or.inr
        · simp [hk]
      simp only [runRb, h1, specRunRb, ih t' _ h2 hs', Option.map_some, hb]
    | lookup k =>
      have : Tree.lookup k t = decide (k ∈ s) := by
        have h := lookup_iff t hwf.1 k
        by_cases hk : k ∈ s
        · simp [hk, h.mpr ((hs k).mpr hk)]
        · have : ¬ Tree.lookup k t = true := fun hl => hk ((hs k).mp (h.mp hl))
          simp [hk, this]
      simp only [runRb, specRunRb, ih t s hwf hs, Option.map_some, this]

end EaselModel.Containers.RedBlack
