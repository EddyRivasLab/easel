import EaselModel.Containers.KeyhashFixed
import EaselModel.Containers.KeyhashLemmas
import EaselModel.Containers.KeyhashApiLemmas
import EaselModel.Containers.KeyhashBounds
/-! # Lemmas: the repaired chained hash table refines the insertion-ordered list of distinct keys — for ARBITRARY byte
strings (embedded NULs included), any hash function into `[0, size)`, any history. -/
namespace EaselModel.Containers.Keyhash

/-! ## the arena is the concatenation of the keys, each followed by one NUL -/
def flat (keys : List Key) : List UInt8 := keys.flatMap (fun k => k ++ [0])

/-- where key `i` starts -/
def offOf (keys : List Key) (i : Nat) : Nat := (flat (keys.take i)).length

theorem flat_append (a b : List Key) : flat (a ++ b) = flat a ++ flat b := by simp [flat]

theorem flat_length (keys : List Key) : (flat keys).length = (keys.map (fun k => k.length + 1)).sum := by
  induction keys with
  | nil => rfl
  | cons k t ih =>
    have : flat (k :: t) = k ++ [0] ++ flat t := by simp [flat]
    rw [this]; simp [ih]; omega

theorem flat_split (keys : List Key) (i : Nat) (k : Key) (h : keys[i]? = some k) :
    flat keys = flat (keys.take i) ++ (k ++ ([0] ++ flat (keys.drop (i+1)))) := by
  have hil : i < keys.length := by
    apply Classical.byContradiction; intro hn; rw [List.getElem?_eq_none (by omega)] at h; cases h
  have hk : keys[i] = k := by simpa [hil] using h
  have h1 : keys = keys.take i ++ k :: keys.drop (i+1) := by
    rw [← hk, ← List.drop_eq_getElem_cons hil, List.take_append_drop]
  conv => lhs; rw [h1]
  rw [flat_append]
  simp [flat]

theorem offOf_succ (keys : List Key) (i : Nat) (k : Key) (h : keys[i]? = some k) :
    offOf keys (i+1) = offOf keys i + k.length + 1 := by
  unfold offOf
  rw [List.take_add_one, h, flat_append]
  simp [flat]; omega

theorem offOf_length (keys : List Key) : offOf keys keys.length = (flat keys).length := by
  unfold offOf; rw [List.take_length]

theorem offOf_append (keys more : List Key) (i : Nat) (h : i ≤ keys.length) : offOf (keys ++ more) i = offOf keys i := by
  unfold offOf; rw [List.take_append_of_le_length h]

theorem offOf_bound (keys : List Key) (i : Nat) (k : Key) (h : keys[i]? = some k) :
    offOf keys i + k.length + 1 ≤ (flat keys).length := by
  have := congrArg List.length (flat_split keys i k h)
  simp only [List.length_append, List.length_cons, List.length_nil] at this
  unfold offOf; omega

theorem flat_slice (keys : List Key) (i : Nat) (k : Key) (h : keys[i]? = some k) :
    ((flat keys).drop (offOf keys i)).take k.length = k := by
  rw [flat_split keys i k h]
  unfold offOf
  rw [List.drop_left', List.take_left']
  · rfl
  · rfl

structure InvF (H : Key → Nat → Nat) (kh : KH) (keys : List Key) : Prop where
  nkeys : kh.nkeys = keys.length
  size_pos : 0 < kh.hashsize
  ko_size : kh.keyOffset.size = kh.kalloc
  nxt_size : kh.nxt.size = kh.kalloc
  kalloc_ge : kh.nkeys ≤ kh.kalloc
  kalloc_pos : 0 < kh.kalloc
  salloc_pos : 0 < kh.salloc
  sn_le : kh.smem.size ≤ kh.salloc
  arena : kh.smem.toList = flat keys
  off : ∀ i, i < keys.length → kh.keyOffset[i]? = some (offOf keys i)
  nodup : keys.Nodup
  linked : Linked H keys kh.hashsize kh.hashtable kh.nxt kh.nkeys

theorem InvF.sn_eq {H : Key → Nat → Nat} {kh : KH} {keys : List Key} (hi : InvF H kh keys) :
    kh.smem.size = (keys.map (fun k => k.length + 1)).sum := by
  rw [← flat_length, ← hi.arena]; simp

theorem InvF.table {H : Key → Nat → Nat} {kh : KH} {keys : List Key} (hi : InvF H kh keys) : Table H kh keys := { hi with }

theorem Table.invF {H : Key → Nat → Nat} {kh : KH} {keys : List Key} (ht : Table H kh keys)
    (arena : kh.smem.toList = flat keys) (off : ∀ i, i < keys.length → kh.keyOffset[i]? = some (offOf keys i)) :
    InvF H kh keys := { ht with arena := arena, off := off }

theorem invF_create (H : Key → Nat → Nat) (size kalloc salloc : Nat) (h1 : 0 < size) (h2 : 0 < kalloc) (h3 : 0 < salloc) :
    InvF H (create size kalloc salloc) [] :=
  (table_create H size kalloc salloc h1 h2 h3).invF (by simp [create, flat]) (by intro i h; simp at h)

/-- the facts about the arena and the offsets that `key_length` / `key_matches` / the re-hash use -/
structure ArenaOK (kh : KH) (keys : List Key) : Prop where
  nkeys : kh.nkeys = keys.length
  arena : kh.smem.toList = flat keys
  off : ∀ i, i < keys.length → kh.keyOffset[i]? = some (offOf keys i)

theorem InvF.arenaOK {H : Key → Nat → Nat} {kh : KH} {keys : List Key} (hi : InvF H kh keys) : ArenaOK kh keys :=
  ⟨hi.nkeys, hi.arena, hi.off⟩

theorem keyLen_inv {kh : KH} {keys : List Key} (hi : ArenaOK kh keys) (i : Nat) (k : Key)
    (h : keys[i]? = some k) : keyLen kh i = some (offOf keys i, (k.length : Int)) := by
  have hil : i < keys.length := by
    apply Classical.byContradiction; intro hn; rw [List.getElem?_eq_none (by omega)] at h; cases h
  have hs := offOf_succ keys i k h
  unfold keyLen
  rw [hi.off i hil]
  by_cases hn : i + 1 < kh.nkeys
  · have hn' : i + 1 < keys.length := by rw [← hi.nkeys]; exact hn
    simp only [hn, ↓reduceIte, hi.off (i+1) hn', hs]
    congr 2; omega
  · have he : i + 1 = keys.length := by rw [hi.nkeys] at hn; omega
    have hsz : kh.smem.size = offOf keys (i+1) := by
      rw [he, offOf_length, ← hi.arena]; simp
    simp only [hn, ↓reduceIte, hsz, hs]
    congr 2; omega

theorem slice_inv {kh : KH} {keys : List Key} (hi : ArenaOK kh keys) (i : Nat) (k : Key)
    (h : keys[i]? = some k) :
    offOf keys i + k.length ≤ kh.smem.size ∧ (kh.smem.extract (offOf keys i) (offOf keys i + k.length)).toList = k := by
  have hb := offOf_bound keys i k h
  have hsz : kh.smem.size = (flat keys).length := by rw [← hi.arena]; simp
  refine ⟨by omega, ?_⟩
  rw [Array.toList_extract, List.extract_eq_take_drop, hi.arena]
  have : offOf keys i + k.length - offOf keys i = k.length := by omega
  rw [this]
  exact flat_slice keys i k h

theorem keyMatches_inv {kh : KH} {keys : List Key} (hi : ArenaOK kh keys) (i : Nat) (k : Key)
    (h : keys[i]? = some k) (key : Key) : keyMatches kh i key = some (decide (key = k)) := by
  unfold keyMatches
  rw [keyLen_inv hi i k h]
  obtain ⟨hle, hsl⟩ := slice_inv hi i k h
  by_cases hlen : (k.length : Int) = (key.length : Int)
  · have hlen' : k.length = key.length := by omega
    simp only [hlen, ne_eq, not_true_eq_false, ↓reduceIte]
    by_cases hz : key.length = 0
    · have hk0 : key = [] := List.length_eq_zero_iff.mp hz
      have hk1 : k = [] := List.length_eq_zero_iff.mp (by omega)
      simp [hk0, hk1]
    · rw [← hlen']
      simp only [show ¬ k.length = 0 by omega, ↓reduceIte, hle, hsl]
      congr 1
      by_cases he : key = k
      · subst he; simp
      · have : (k == key) = false := by simpa using fun h => he h.symm
        simp [this, he]
  · have hne : key ≠ k := by intro he; subst he; exact hlen rfl
    simp [hlen, hne]

theorem keyBytes_inv {kh : KH} {keys : List Key} (hi : ArenaOK kh keys) (i : Nat) (k : Key)
    (h : keys[i]? = some k) : keyBytes kh i = some k := by
  unfold keyBytes
  rw [keyLen_inv hi i k h]
  obtain ⟨hle, hsl⟩ := slice_inv hi i k h
  have h1 : ¬ ((k.length : Int) = -1) := by omega
  have h2 : ¬ ((k.length : Int) < 0) := by omega
  simp only [h1, h2, ↓reduceIte, Int.toNat_natCast, hle, hsl]

theorem getF_spec {H : Key → Nat → Nat} {kh : KH} {keys : List Key} (hi : InvF H kh keys) (i : Nat) :
    getF kh i = keys[i]? := by
  unfold getF
  by_cases h : i < kh.nkeys
  · have hl : i < keys.length := by rw [← hi.nkeys]; exact h
    have hk : keys[i]? = some keys[i] := by simp [hl]
    obtain ⟨hle, hsl⟩ := slice_inv hi.arenaOK i keys[i] hk
    rw [keyLen_inv hi.arenaOK i keys[i] hk]
    have h0 : (0 : Int) ≤ (keys[i].length : Int) := by omega
    simp only [h, ↓reduceIte, h0, Int.toNat_natCast, hle, and_self, hsl]
    simp [hl]
  · have hl : keys.length ≤ i := by rw [← hi.nkeys]; omega
    simp [h, List.getElem?_eq_none hl]

theorem walkF_none (kh : KH) (key : Key) (fuel : Nat) : walkF kh key fuel none = some none := by
  cases fuel <;> rfl

theorem walkF_inv {H : Key → Nat → Nat} {kh : KH} {keys : List Key} (hi : InvF H kh keys) (hH : HashOK H) (key : Key) :
    ∃ head, kh.hashtable[H key kh.hashsize]? = some head ∧
      walkF kh key kh.nkeys head = some (if key ∈ keys then some (keys.idxOf key) else none) :=
  hi.table.walk_find hH key (walkF_none kh key) (fun f i nx hil hn => by
    simp only [walkF, keyMatches_inv hi.arenaOK i keys[i] (by simp [hil]) key, hn]
    by_cases hkey : key = keys[i] <;> simp [hkey])

theorem lookupF_spec {H : Key → Nat → Nat} {kh : KH} {keys : List Key} (hi : InvF H kh keys) (hH : HashOK H) (key : Key) :
    lookupF H kh key = some (if key ∈ keys then (.ok, keys.idxOf key) else (.enotfound, 0)) := by
  obtain ⟨hd, h1, h2⟩ := walkF_inv hi hH key
  unfold lookupF
  simp only [h1, h2]
  by_cases hm : key ∈ keys <;> simp [hm]

theorem rehashLoopF_spec (H : Key → Nat → Nat) (hH : HashOK H) (keys : List Key) (c i : Nat) (kh : KH)
    (hn : i + c = keys.length) (hpos : 0 < kh.hashsize) (hk : ArenaOK kh keys)
    (hnx : keys.length ≤ kh.nxt.size) (hl : Linked H keys kh.hashsize kh.hashtable kh.nxt i) :
    ∃ ht nx, rehashLoopF H c i kh = some { kh with hashtable := ht, nxt := nx } ∧ nx.size = kh.nxt.size ∧
      Linked H keys kh.hashsize ht nx (i + c) :=
  rehash_spec hH keys (stp := rehashStepF H) (lp := rehashLoopF H) (fun _ _ => rfl) (fun _ _ _ => rfl)
    (A := fun kh => ArenaOK kh keys) (fun _ _ _ h => ⟨h.nkeys, h.arena, h.off⟩)
    (fun kh i head hil ha hh hin => by simp [rehashStepF, keyBytes_inv ha i keys[i] (by simp [hil]), hh, hin])
    c i kh hn hpos hk hnx hl

theorem upsizeF_spec_full {H : Key → Nat → Nat} {kh : KH} {keys : List Key} (hi : InvF H kh keys) (hH : HashOK H) :
    ∃ kh', upsizeF H kh = some kh' ∧ InvF H kh' keys ∧ SameAlloc kh kh' := by
  unfold upsizeF
  by_cases hbig : kh.hashsize ≥ 2^28
  · exact ⟨kh, by simp [hbig], hi, rfl, rfl, rfl, rfl, Or.inl rfl⟩
  · simp only [hbig, ↓reduceIte]
    have hnk := hi.nkeys
    obtain ⟨ht, nx, h1, h2, h3⟩ := rehashLoopF_spec H hH keys kh.nkeys 0
      { kh with hashsize := kh.hashsize * 8, hashtable := Array.replicate (kh.hashsize * 8) none }
      (by omega) (by have := hi.size_pos; show 0 < kh.hashsize * 8; omega) ⟨hi.nkeys, hi.arena, hi.off⟩
      (by show keys.length ≤ kh.nxt.size; rw [hi.nxt_size, ← hi.nkeys]; exact hi.kalloc_ge)
      (linked_empty H keys _ _)
    exact ⟨_, h1, (hi.table.rehashed h2 (by simpa using h3)).invF hi.arena hi.off, rfl, rfl, rfl, rfl,
      Or.inr ⟨by omega, rfl⟩⟩

theorem storeF_new_unfold (H : Key → Nat → Nat) (kh : KH) (key : Key) (head : Option Nat)
    (hh : kh.hashtable[H key kh.hashsize]? = some head) (hw : walkF kh key kh.nkeys head = some none) :
    storeF H kh key = storeNew (upsizeF H) kh key (H key kh.hashsize) head := by
  unfold storeF
  simp only [hh, hw]
  rfl

theorem growK_invF {H : Key → Nat → Nat} {kh : KH} {keys : List Key} (hi : InvF H kh keys) : InvF H (growK kh) keys := by
  obtain ⟨_, hsm, _⟩ := growK_fields kh
  refine hi.table.growK.1.invF (by rw [hsm]; exact hi.arena) (fun i hil => ?_)
  have ho := hi.off i hil
  rw [growK_keyOffset kh i (Array.getElem?_eq_some_iff.mp ho).1]; exact ho

theorem linkNew_invF {H : Key → Nat → Nat} {kh : KH} {keys : List Key} (hi : InvF H kh keys) (key : Key)
    (hlt : kh.nkeys < kh.kalloc) (hnew : key ∉ keys) (head : Option Nat)
    (hh : kh.hashtable[H key kh.hashsize]? = some head) (salloc : Nat) (hs : kh.smem.size + key.length + 1 ≤ salloc) :
    InvF H (linkNew kh key (H key kh.hashsize) head salloc) (keys ++ [key]) := by
  refine (hi.table.linkNew key hlt hnew head hh salloc hs).invF ?_ (fun i hil => ?_)
  · show (kh.smem ++ key.toArray ++ #[0]).toList = flat (keys ++ [key])
    rw [flat_append]; simp [hi.arena, flat]
  · show (kh.keyOffset.set! kh.nkeys kh.smem.size)[i]? = some (offOf (keys ++ [key]) i)
    rw [Array.set!_eq_setIfInBounds, Array.getElem?_setIfInBounds]
    by_cases hi' : i < keys.length
    · have : kh.nkeys ≠ i := by rw [hi.nkeys]; omega
      rw [offOf_append keys [key] i (by omega)]
      simp [this, hi.off i hi']
    · have hie : i = keys.length := by simp at hil; omega
      subst hie
      have hsz : kh.smem.size = offOf (keys ++ [key]) keys.length := by
        rw [offOf_append keys [key] keys.length (Nat.le_refl _), offOf_length, ← hi.arena]; simp
      have hlt' : keys.length < kh.keyOffset.size := by rw [hi.ko_size, ← hi.nkeys]; exact hlt
      simp [hi.nkeys, hlt', hsz]

theorem storeF_spec_full {H : Key → Nat → Nat} {kh : KH} {keys : List Key} (hi : InvF H kh keys) (hH : HashOK H) (key : Key) :
    (key ∈ keys → storeF H kh key = some (kh, .edup, keys.idxOf key)) ∧
    (key ∉ keys → ∃ kh', storeF H kh key = some (kh', .ok, keys.length) ∧ InvF H kh' (keys ++ [key]) ∧ AllocStep kh kh' key) := by
  obtain ⟨head, hh, hw⟩ := walkF_inv hi hH key
  refine ⟨fun hm => ?_, fun hm => ?_⟩
  · simp only [hm, ↓reduceIte] at hw
    unfold storeF
    simp only [hh, hw]
  · simp only [hm, ↓reduceIte] at hw
    rw [storeF_new_unfold H kh key head hh hw]
    obtain ⟨_, _, ghs, ght, _⟩ := growK_fields kh
    refine storeNew_spec hi.table (fun salloc hs => ?_) (fun kh1 h1 => upsizeF_spec_full h1 hH)
    have := linkNew_invF (growK_invF hi) key hi.table.growK.2 hm head (by rw [ght, ghs]; exact hh) salloc hs
    rwa [ghs] at this

theorem reuse_invF {H : Key → Nat → Nat} {kh : KH} {keys : List Key} (hi : InvF H kh keys) : InvF H (reuse kh) [] :=
  hi.table.reuse.invF (by show (#[] : Array UInt8).toList = _; simp [flat]) (by intro i h; simp at h)

theorem clone_invF {H : Key → Nat → Nat} {kh : KH} {keys : List Key} (hi : InvF H kh keys) : InvF H (clone kh) keys :=
  hi.table.clone.invF hi.arena (fun i hil => by
    rw [clone_keyOffset hi.table i (by rw [hi.nkeys]; exact hil)]; exact hi.off i hil)

theorem stepF_eq (H : Key → Nat → Nat) (kh : KH) (op : Op) : stepF H kh op = stepWith (storeF H) (lookupF H) getF kh op := by
  cases op <;> rfl

theorem refines_invF {H : Key → Nat → Nat} (hH : HashOK H) :
    Refines (InvF H) (fun _ => True) (fun _ => True) (storeF H) (lookupF H) getF where
  store_old key hi _ := (storeF_spec_full hi hH key).1
  store_new key hi _ hm _ := by
    obtain ⟨kh', h1, h2, _⟩ := (storeF_spec_full hi hH key).2 hm
    exact ⟨kh', h1, h2⟩
  lookup key hi := lookupF_spec hi hH key
  get i hi := getF_spec hi i
  nkeys hi := hi.nkeys
  on_reuse hi := reuse_invF hi
  on_clone hi := clone_invF hi
  cstr _ := trivial

theorem runF_spec {H : Key → Nat → Nat} (hH : HashOK H) (ops : List Op) (kh : KH) (keys : List Key) (hi : InvF H kh keys) :
    runF H kh ops = specRun keys ops :=
  run_refines (Ok := fun _ => True) (fun _ => rfl) (fun _ _ _ => rfl)
    (fun kh _ op hi _ => by rw [stepF_eq]; exact (refines_invF hH).step hi op (fun _ _ => trivial))
    ops kh keys hi (fun _ _ => trivial)

theorem upsizeF_spec {H : Key → Nat → Nat} {kh : KH} {keys : List Key} (hi : InvF H kh keys) (hH : HashOK H) :
    ∃ kh', upsizeF H kh = some kh' ∧ InvF H kh' keys := by
  obtain ⟨kh', h1, h2, _⟩ := upsizeF_spec_full hi hH
  exact ⟨kh', h1, h2⟩

theorem lookupStrCF_eq (H Hs : Key → Nat → Nat) (hs : ∀ k sz, Hs k sz = H (cstrOf k) sz) (kh : KH) (k : Key) :
    lookupStrCF Hs kh k = lookupF H kh (cstrOf k) := by
  unfold lookupStrCF lookupF
  simp only [hs, take_strlen]

theorem storeStrCF_eq (H Hs : Key → Nat → Nat) (hs : ∀ k sz, Hs k sz = H (cstrOf k) sz) (kh : KH) (k : Key) :
    storeStrCF Hs H kh k = storeF H kh (cstrOf k) := by
  unfold storeStrCF
  rw [take_strlen]
  congr 1
  funext k' sz
  split
  · next h => rw [hs, h.1]
  · rfl

theorem dumpF_spec {H : Key → Nat → Nat} {kh : KH} {keys : List Key} (hi : InvF H kh keys) :
    ∃ d, dump kh = some d ∧ d.nkeys = keys.length ∧ d.hashsize = kh.hashsize ∧ d.sn = (keys.map (fun k => k.length + 1)).sum := by
  rw [← hi.sn_eq]; exact hi.table.dump

theorem runF_within {H : Key → Nat → Nat} (hH : HashOK H) (ops : List Op) (kh : KH) (keys : List Key) (hi : InvF H kh keys)
    (hw : Within kh) (hf : FitsRun keys ops) (kh' : KH) (h : finalKhF H kh ops = some kh') :
    Within kh' ∧ kh'.nkeys ≤ B30 ∧ kh'.smem.size ≤ B30 := by
  have R := (refines_invF hH).within (fun key hi _ hm => (storeF_spec_full hi hH key).2 hm) (fun hi => hi.sn_eq)
  obtain ⟨keys', ⟨hi', hw'⟩, hf'⟩ := final_refines (I := fun kh keys => InvF H kh keys ∧ Within kh) (Ok := fun _ => True)
    (fun _ => rfl) (fun _ _ _ => rfl)
    (fun kh _ op hi _ => by rw [stepF_eq]; exact R.step hi op (fun _ _ => trivial))
    ops kh keys ⟨hi, hw⟩ (fun _ _ => trivial) hf kh' h
  rw [hi'.nkeys, hi'.sn_eq]
  exact ⟨hw', hf'⟩

/-! ## `esl_keyhash_Get` read as a C string (what a caller without the length sees): the bytes of the key before its first
NUL; the read never leaves the key's own `length + 1` bytes of the arena -/
theorem cstrLoop_prefix (m : Array UInt8) (pos : Nat) (k rest : List UInt8) (f : Nat)
    (hm : m.toList.drop pos = k ++ 0 :: rest) (hf : k.length < f) : cstrLoop m f pos = some (cstrOf k) := by
  induction k generalizing pos f with
  | nil =>
    cases f with
    | zero => simp at hf
    | succ f =>
      have h0 : m[pos]? = some 0 := by
        have := congrArg (fun l => l[0]?) hm
        simpa [List.getElem?_drop] using this
      simp [cstrLoop, h0, cstrOf]
  | cons a k ih =>
    cases f with
    | zero => simp at hf
    | succ f =>
      have h0 : m[pos]? = some a := by
        have := congrArg (fun l => l[0]?) hm
        simpa [List.getElem?_drop] using this
      have hm' : m.toList.drop (pos + 1) = k ++ 0 :: rest := by
        have := congrArg (fun l => l.drop 1) hm
        simpa [List.drop_drop, Nat.add_comm] using this
      simp only [cstrLoop, h0]
      by_cases ha : a = 0
      · subst ha; simp [cstrOf]
      · have : (a == 0) = false := by simpa using ha
        simp only [this, Bool.false_eq_true, ↓reduceIte]
        rw [ih (pos+1) f hm' (by simp at hf; omega)]
        simp [cstrOf, ha]

theorem get_cstr_spec {H : Key → Nat → Nat} {kh : KH} {keys : List Key} (hi : InvF H kh keys) (i : Nat) :
    get kh i = (keys[i]?).map cstrOf := by
  unfold get
  by_cases h : i < kh.nkeys
  · have hl : i < keys.length := by rw [← hi.nkeys]; exact h
    have hk : keys[i]? = some keys[i] := by simp [hl]
    have hb := offOf_bound keys i keys[i] hk
    have hsz : kh.smem.size = (flat keys).length := by rw [← hi.arena]; simp
    have hm : kh.smem.toList.drop (offOf keys i) = keys[i] ++ 0 :: flat (keys.drop (i+1)) := by
      rw [hi.arena, flat_split keys i keys[i] hk]
      unfold offOf
      rw [List.drop_left']
      · rfl
      · rfl
    simp only [h, ↓reduceIte, hi.off i hl, cstrAt]
    rw [cstrLoop_prefix kh.smem (offOf keys i) keys[i] _ _ hm (by omega)]
    simp [hl]
  · have hl : keys.length ≤ i := by rw [← hi.nkeys]; omega
    simp [h, List.getElem?_eq_none hl]

end EaselModel.Containers.Keyhash
