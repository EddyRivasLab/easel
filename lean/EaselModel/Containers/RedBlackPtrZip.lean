import EaselModel.Containers.RedBlackPtrInsert
/-! # The pointer tree with its `parent` pointers, and the path from a record up to the root

`Repr` (RedBlackPtrLemmas) follows `small`/`large` only. `esl_red_black_doublekey_rebalance` climbs the `parent` pointers,
so here the layout predicate `ReprP` also fixes every record's `parent`, and the part of the tree ABOVE a record is a list
of frames (`Frame`, innermost first: the record's parent, its grandparent, …) laid out by `ReprCtx`. `zip` puts a subtree
back into its path; `upPath` is the unwinding of `RedBlack.Tree.ins` along the path (one `up` per frame). -/
namespace EaselModel.Containers.RedBlackPtr
open EaselModel.Containers.RedBlack

/-- `Repr` + parent pointers: the root record of the (sub)tree has `parent = par`, every other record points at the record
    it hangs under -/
def ReprP (st : Store) : Shape → Ptr → Ptr → Prop
  | .nil, p, _ => p = none
  | .node a i b, p, par => p = some i ∧ ∃ nd, rd st i = some nd ∧ nd.parent = par ∧
      ReprP st a nd.small (some i) ∧ ReprP st b nd.large (some i)

theorem ReprP.toRepr {st : Store} : ∀ {t : Shape} {p par : Ptr}, ReprP st t p par → Repr st t p
  | .nil, _, _, h => h
  | .node _ _ _, _, _, ⟨hp, nd, hr, _, ha, hb⟩ => ⟨hp, nd, hr, ha.toRepr, hb.toRepr⟩

theorem ReprP.congr {st st' : Store} : ∀ {t : Shape} {p par : Ptr}, (∀ i ∈ t.ids, rd st' i = rd st i) →
    ReprP st t p par → ReprP st' t p par
  | .nil, _, _, _, h => h
  | .node a i b, _, _, hc, ⟨hp, nd, hr, hpar, ha, hb⟩ => by
    refine ⟨hp, nd, ?_, hpar, ?_, ?_⟩
    · rw [hc i (by simp [Shape.ids])]; exact hr
    · exact ReprP.congr (fun j hj => hc j (by simp [Shape.ids, hj])) ha
    · exact ReprP.congr (fun j hj => hc j (by simp [Shape.ids, hj])) hb

theorem ReprP.root_mem {st : Store} {t : Shape} {x : Nat} {par : Ptr} (h : ReprP st t (some x) par) : x ∈ t.ids := by
  cases t with
  | nil => cases h
  | node a i b =>
    obtain ⟨hp, _⟩ := h
    cases hp
    simp [Shape.ids]

theorem ReprP.reparent {st st' : Store} {t : Shape} {q par par' : Ptr} (hn : t.ids.Nodup) (h : ReprP st t q par)
    (hc : ∀ j ∈ t.ids, rd st' j = if q = some j then (rd st j).map (fun nd => { nd with parent := par' }) else rd st j) :
    ReprP st' t q par' := by
  cases t with
  | nil => exact h
  | node a i b =>
    obtain ⟨hp, nd, hr, _, ha, hb⟩ := h
    subst hp
    simp only [Shape.ids, List.nodup_append, List.nodup_cons] at hn
    obtain ⟨_, ⟨hib, _⟩, hdisj⟩ := hn
    have hia : i ∉ a.ids := fun h => hdisj i h i (List.mem_cons_self) rfl
    have hi := hc i (by simp [Shape.ids])
    simp only [↓reduceIte, hr, Option.map_some] at hi
    refine ⟨rfl, _, hi, rfl, ?_, ?_⟩
    · refine ReprP.congr (fun j hj => ?_) ha
      have hji : j ≠ i := fun e => hia (e ▸ hj)
      have := hc j (by simp [Shape.ids, hj])
      simpa [Option.some.injEq, Ne.symm hji] using this
    · refine ReprP.congr (fun j hj => ?_) hb
      have hji : j ≠ i := fun e => hib (e ▸ hj)
      have := hc j (by simp [Shape.ids, hj])
      simpa [Option.some.injEq, Ne.symm hji] using this

/-- one step of the path: the hole is the `small` child of record `i` (whose `large` subtree is `b`), or the `large` child -/
inductive Frame
  | L (i : Nat) (b : Shape)
  | R (a : Shape) (i : Nat)

namespace Frame
def id : Frame → Nat
  | L i _ => i
  | R _ i => i
def sib : Frame → Shape
  | L _ b => b
  | R a _ => a
def fill : Frame → Shape → Shape
  | L i b, s => .node s i b
  | R a i, s => .node a i s
def ids (f : Frame) : List Nat := f.id :: f.sib.ids
def side : Frame → Side
  | L _ _ => .small
  | R _ _ => .large
/-- the child pointer of the frame's record on the hole's side / on the sibling's side -/
def hole : Frame → Node → Ptr
  | L _ _, nd => nd.small
  | R _ _, nd => nd.large
def sibPtr : Frame → Node → Ptr
  | L _ _, nd => nd.large
  | R _ _, nd => nd.small
/-- the frame's record with a new pointer on the hole's side -/
def setHole : Frame → Node → Ptr → Node
  | L _ _, nd, q => { nd with small := q }
  | R _ _, nd, q => { nd with large := q }
/-- which way a key goes at the frame's record (whose key is the second argument) -/
def dir : Frame → Int → Int → Prop
  | L _ _, key, k => key < k
  | R _ _, key, k => k < key

theorem hole_setHole (f : Frame) (nd : Node) (q : Ptr) : f.hole (f.setHole nd q) = q := by cases f <;> rfl
theorem sibPtr_setHole (f : Frame) (nd : Node) (q : Ptr) : f.sibPtr (f.setHole nd q) = f.sibPtr nd := by cases f <;> rfl
theorem parent_setHole (f : Frame) (nd : Node) (q : Ptr) : (f.setHole nd q).parent = nd.parent := by cases f <;> rfl
end Frame

def pathIds : List Frame → List Nat
  | [] => []
  | f :: fs => f.ids ++ pathIds fs

theorem mem_pathIds_id {f : Frame} {fs : List Frame} : f.id ∈ pathIds (f :: fs) := by simp [pathIds, Frame.ids]

theorem mem_pathIds_sib {f : Frame} {fs : List Frame} {j : Nat} (hj : j ∈ f.sib.ids) : j ∈ pathIds (f :: fs) := by
  simp [pathIds, Frame.ids, hj]

theorem mem_pathIds_tail {f : Frame} {fs : List Frame} {j : Nat} (hj : j ∈ pathIds fs) : j ∈ pathIds (f :: fs) := by
  simp [pathIds, hj]

def zip : Shape → List Frame → Shape
  | s, [] => s
  | s, f :: fs => zip (f.fill s) fs

theorem fill_ids_perm (f : Frame) (s : Shape) : (f.fill s).ids.Perm (s.ids ++ f.ids) := by
  cases f with
  | L i b => simp only [Frame.fill, Shape.ids, Frame.ids, Frame.id, Frame.sib]; exact List.Perm.refl _
  | R a i =>
    simp only [Frame.fill, Shape.ids, Frame.ids, Frame.id, Frame.sib]
    exact List.perm_middle.trans ((List.Perm.cons i List.perm_append_comm).trans List.perm_middle.symm)

theorem zip_ids_perm : ∀ (fs : List Frame) (s : Shape), (zip s fs).ids.Perm (s.ids ++ pathIds fs)
  | [], s => by simp [zip, pathIds]
  | f :: fs, s => by
    simp only [zip, pathIds]
    refine (zip_ids_perm fs (f.fill s)).trans ?_
    rw [← List.append_assoc]
    exact List.Perm.append_right _ (fill_ids_perm f s)

/-- the layout of the path above a hole: `hp` = the pointer stored where the hole is, `par` = what the `parent` field of the
    record in the hole must be, `root` = the tree's root pointer (`hp` itself when the path is empty) -/
def ReprCtx (st : Store) : List Frame → Ptr → Ptr → Ptr → Prop
  | [], hp, par, root => par = none ∧ root = hp
  | .L i b :: fs, hp, par, root => par = some i ∧ ∃ nd, rd st i = some nd ∧ nd.small = hp ∧
      ReprP st b nd.large (some i) ∧ ReprCtx st fs (some i) nd.parent root
  | .R a i :: fs, hp, par, root => par = some i ∧ ∃ nd, rd st i = some nd ∧ nd.large = hp ∧
      ReprP st a nd.small (some i) ∧ ReprCtx st fs (some i) nd.parent root

/-- `ReprCtx` and `ReprP` at a frame, read through `Frame.hole`/`Frame.sibPtr`: one statement for both sides -/
theorem reprCtx_cons {st : Store} {f : Frame} {fs : List Frame} {hp par root : Ptr} :
    ReprCtx st (f :: fs) hp par root ↔ (par = some f.id ∧ ∃ nd, rd st f.id = some nd ∧ f.hole nd = hp ∧
      ReprP st f.sib (f.sibPtr nd) (some f.id) ∧ ReprCtx st fs (some f.id) nd.parent root) := by
  cases f <;> exact Iff.rfl

theorem reprP_fill {st : Store} {f : Frame} {s : Shape} {q par : Ptr} :
    ReprP st (f.fill s) q par ↔ (q = some f.id ∧ ∃ nd, rd st f.id = some nd ∧ nd.parent = par ∧
      ReprP st s (f.hole nd) (some f.id) ∧ ReprP st f.sib (f.sibPtr nd) (some f.id)) := by
  cases f with
  | L i b => exact Iff.rfl
  | R a i =>
    constructor
    · rintro ⟨h1, nd, h2, h3, h4, h5⟩; exact ⟨h1, nd, h2, h3, h5, h4⟩
    · rintro ⟨h1, nd, h2, h3, h4, h5⟩; exact ⟨h1, nd, h2, h3, h5, h4⟩

theorem ReprCtx.congr {st st' : Store} : ∀ {fs : List Frame} {hp par root : Ptr}, (∀ i ∈ pathIds fs, rd st' i = rd st i) →
    ReprCtx st fs hp par root → ReprCtx st' fs hp par root
  | [], _, _, _, _, h => h
  | f :: fs, _, _, _, hc, h => by
    obtain ⟨hp, nd, hr, hs, hb, hrest⟩ := reprCtx_cons.mp h
    exact reprCtx_cons.mpr ⟨hp, nd, (hc _ mem_pathIds_id).trans hr, hs, ReprP.congr (fun j hj => hc j (mem_pathIds_sib hj)) hb,
      ReprCtx.congr (fun j hj => hc j (mem_pathIds_tail hj)) hrest⟩

theorem zip_repr {st : Store} : ∀ {fs : List Frame} {s : Shape} {hp par root : Ptr},
    ReprP st s hp par → ReprCtx st fs hp par root → ReprP st (zip s fs) root none
  | [], _, _, _, _, hs, ⟨hpar, hroot⟩ => by subst hpar; subst hroot; exact hs
  | f :: fs, s, _, _, _, hs, h => by
    obtain ⟨hpar, nd, hr, hsm, hb, hrest⟩ := reprCtx_cons.mp h
    subst hpar
    exact zip_repr (s := f.fill s) (reprP_fill.mpr ⟨rfl, nd, hr, rfl, hsm ▸ hs, hb⟩) hrest

theorem ReprCtx.rehole {st st' : Store} {f : Frame} {fs : List Frame} {hp hp' par root : Ptr}
    (h : ReprCtx st (f :: fs) hp par root) (hnd : (pathIds (f :: fs)).Nodup)
    (hc : ∀ j ∈ pathIds (f :: fs), j ≠ f.id → rd st' j = rd st j)
    (hf : ∀ nd, rd st f.id = some nd → rd st' f.id = some (f.setHole nd hp')) :
    ReprCtx st' (f :: fs) hp' par root := by
  simp only [pathIds, Frame.ids, List.cons_append, List.nodup_cons, List.mem_append, not_or] at hnd
  obtain ⟨⟨hsib, hrest⟩, _⟩ := hnd
  obtain ⟨hpar, nd, hr, hs, hb, hrst⟩ := reprCtx_cons.mp h
  refine reprCtx_cons.mpr ⟨hpar, _, hf nd hr, f.hole_setHole nd hp', ?_, ?_⟩
  · rw [f.sibPtr_setHole]
    exact ReprP.congr (fun j hj => hc j (mem_pathIds_sib hj) (fun e => hsib (e ▸ hj))) hb
  · rw [f.parent_setHole]
    exact ReprCtx.congr (fun j hj => hc j (mem_pathIds_tail hj) (fun e => hrest (e ▸ hj))) hrst

/-- what the record of frame `f` does with the result coming up from the hole (`RedBlack.Tree.up`) -/
def upFrame (st : Store) (f : Frame) (r : Res Int) : Res Int :=
  match f with
  | .L i b => match rd st i with
    | some nd => Tree.up nd.color .nil nd.key (absTree st b) .small r
    | none => .fatal
  | .R a i => match rd st i with
    | some nd => Tree.up nd.color (absTree st a) nd.key .nil .large r
    | none => .fatal

def upPath (st : Store) : List Frame → Res Int → Res Int
  | [], r => r
  | f :: fs, r => upPath st fs (upFrame st f r)

theorem up_small_indep (c : Color) (a a' : Tree Int) (x : Int) (b : Tree Int) (r : Res Int) :
    Tree.up c a x b .small r = Tree.up c a' x b .small r := by
  cases r <;> rfl

theorem up_large_indep (c : Color) (a : Tree Int) (x : Int) (b b' : Tree Int) (r : Res Int) :
    Tree.up c a x b .large r = Tree.up c a x b' .large r := by
  cases r <;> rfl

/-- `upFrame` without the case split on the frame: the subtree on the hole's side is not looked at -/
theorem upFrame_eq (st : Store) (f : Frame) (r : Res Int) :
    upFrame st f r = match rd st f.id with
      | some nd => Tree.up nd.color (absTree st f.sib) nd.key (absTree st f.sib) f.side r
      | none => .fatal := by
  cases f with
  | L i b =>
    simp only [upFrame, Frame.id, Frame.sib, Frame.side]
    cases rd st i with
    | none => rfl
    | some nd => exact up_small_indep _ _ _ _ _ _
  | R a i =>
    simp only [upFrame, Frame.id, Frame.sib, Frame.side]
    cases rd st i with
    | none => rfl
    | some nd => exact up_large_indep _ _ _ _ _ _

theorem upFrame_done {st : Store} {f : Frame} {nd : Node} (s : Shape) (hr : rd st f.id = some nd) :
    upFrame st f (.done (absTree st s)) = .done (absTree st (f.fill s)) := by
  cases f <;> simp only [Frame.id] at hr <;> simp only [upFrame, hr, Tree.up, Frame.fill, absTree]

/-- the key's descent follows the path: at an `L` frame the key is smaller than the record's, at an `R` frame larger -/
def PathDir (st : Store) (key : Int) : List Frame → Prop
  | [] => True
  | .L i _ :: fs => (∃ nd, rd st i = some nd ∧ key < nd.key) ∧ PathDir st key fs
  | .R _ i :: fs => (∃ nd, rd st i = some nd ∧ nd.key < key) ∧ PathDir st key fs

theorem pathDir_cons {st : Store} {key : Int} {f : Frame} {fs : List Frame} :
    PathDir st key (f :: fs) ↔ (∃ nd, rd st f.id = some nd ∧ f.dir key nd.key) ∧ PathDir st key fs := by
  cases f <;> exact Iff.rfl

theorem ins_zip {st : Store} {key : Int} : ∀ {fs : List Frame} {s : Shape}, PathDir st key fs →
    Tree.ins key (absTree st (zip s fs)) = upPath st fs (Tree.ins key (absTree st s))
  | [], _, _ => rfl
  | .L i b :: fs, s, ⟨⟨nd, hr, hlt⟩, hrest⟩ => by
    simp only [zip, upPath]
    rw [ins_zip hrest]
    congr 1
    have h1 : ¬ nd.key < key := by omega
    simp only [Frame.fill, absTree, hr, Tree.ins, h1, hlt, ↓reduceIte, upFrame]
    exact up_small_indep _ _ _ _ _ _
  | .R a i :: fs, s, ⟨⟨nd, hr, hlt⟩, hrest⟩ => by
    simp only [zip, upPath]
    rw [ins_zip hrest]
    congr 1
    simp only [Frame.fill, absTree, hr, Tree.ins, hlt, ↓reduceIte, upFrame]
    exact up_large_indep _ _ _ _ _ _

theorem PathDir.congr {st st' : Store} {key : Int} : ∀ {fs : List Frame},
    (∀ f ∈ fs, ∀ nd, rd st f.id = some nd → ∃ nd', rd st' f.id = some nd' ∧ nd'.key = nd.key) →
    PathDir st key fs → PathDir st' key fs
  | [], _, _ => trivial
  | f :: fs, hc, h => by
    obtain ⟨⟨nd, hr, hlt⟩, hrest⟩ := pathDir_cons.mp h
    obtain ⟨nd', hr', hk⟩ := hc f List.mem_cons_self nd hr
    exact pathDir_cons.mpr ⟨⟨nd', hr', hk ▸ hlt⟩, PathDir.congr (fun f hf => hc f (List.mem_cons_of_mem _ hf)) hrest⟩

theorem upPath_done {st : Store} : ∀ {fs : List Frame} {s : Shape} {hp par root : Ptr}, ReprCtx st fs hp par root →
    upPath st fs (.done (absTree st s)) = .done (absTree st (zip s fs))
  | [], _, _, _, _, _ => rfl
  | f :: fs, s, _, _, _, h => by
    obtain ⟨_, nd, hr, _, _, hrest⟩ := reprCtx_cons.mp h
    simp only [upPath, zip, upFrame_done s hr]
    exact upPath_done hrest

theorem upPath_dup (st : Store) : ∀ (fs : List Frame), (∀ f ∈ fs, (rd st f.id).isSome = true) → upPath st fs .dup = .dup
  | [], _ => rfl
  | f :: fs, h => by
    obtain ⟨nd, hr⟩ := Option.isSome_iff_exists.mp (h f List.mem_cons_self)
    simp only [upPath, upFrame_eq, hr, Tree.up_dup]
    exact upPath_dup st fs (fun f hf => h f (List.mem_cons_of_mem _ hf))

theorem upPath_congr {st st' : Store} : ∀ {fs : List Frame} (r : Res Int),
    (∀ i ∈ pathIds fs, ∃ nd nd', rd st i = some nd ∧ rd st' i = some nd' ∧ nd'.key = nd.key ∧ nd'.color = nd.color) →
    (∀ f ∈ fs, absTree st' f.sib = absTree st f.sib) →
    upPath st' fs r = upPath st fs r
  | [], _, _, _ => rfl
  | f :: fs, r, h, hs => by
    obtain ⟨nd, nd', hr, hr', hk, hcol⟩ := h f.id mem_pathIds_id
    simp only [upPath, upFrame_eq, hr, hr', hk, hcol, hs f List.mem_cons_self]
    exact upPath_congr _ (fun j hj => h j (mem_pathIds_tail hj)) (fun f hf => hs f (List.mem_cons_of_mem _ hf))

theorem sib_ids_sub {f : Frame} {fs : List Frame} (hf : f ∈ fs) : ∀ j ∈ f.sib.ids, j ∈ pathIds fs := by
  induction fs with
  | nil => cases hf
  | cons g gs ih =>
    intro j hj
    simp only [pathIds, List.mem_append]
    rcases List.mem_cons.mp hf with rfl | h
    · exact Or.inl (by simp [Frame.ids, hj])
    · exact Or.inr (ih h j hj)

theorem upPath_congr_eq {st st' : Store} {fs : List Frame} {hp par root : Ptr} (r : Res Int)
    (hctx : ReprCtx st fs hp par root) (h : ∀ i ∈ pathIds fs, rd st' i = rd st i) : upPath st' fs r = upPath st fs r := by
  induction fs generalizing hp par r with
  | nil => rfl
  | cons f fs ih =>
    obtain ⟨_, nd, hr, _, _, hrest⟩ := reprCtx_cons.mp hctx
    have hb : absTree st' f.sib = absTree st f.sib := absTree_congr (fun j hj => h j (mem_pathIds_sib hj))
    simp only [upPath, upFrame_eq, h _ mem_pathIds_id, hb]
    exact ih _ hrest (fun j hj => h j (mem_pathIds_tail hj))

end EaselModel.Containers.RedBlackPtr
