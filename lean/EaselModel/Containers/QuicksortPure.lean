import EaselModel.Weights.SortSorted
import EaselModel.Containers.QuicksortLemmas
/-! `esl_quicksort` in the fault-tracking model (`Quicksort.lean`: `Int` indices, reads and writes that can fault, fuel that can
    run out) computes, on a segment inside the array and with enough fuel, exactly what the pure model does (`Weights/Model.lean`:
    `Nat` indices, `getD`), for every comparison with `cmp a a = 0`. That the result is a permutation in order is proved once,
    for the pure model (`Weights/SortSorted.lean`). -/
namespace EaselModel.Containers.Quicksort
open EaselModel.Weights (aget aswap qsUp qsDown qsLoop qsPartition)

theorem getElem!_eq_aget (ord : Array Nat) (k : Nat) : ord[k]! = aget ord k := by
  unfold aget
  rw [getElem!_def, Array.getD_eq_getD_getElem?]
  rfl

/-- `f` is the fuel of the fault-tracking scan, `f'` that of the pure one; the two models hand their inner loops different
    amounts (`ord.size + 2` in `Quicksort.lean`; `hi + 1` to `qsUp`, `hi + 2` to `qsLoop` in `Weights/Model.lean`), so the
    lemmas about the loops hold for any two amounts that are enough -/
theorem scanUp_pure (cmp : Nat → Nat → Int) (ord : Array Nat) (lo hi : Nat) (hlo : lo < ord.size) (hhi : hi < ord.size) :
    ∀ f f' i, 1 ≤ f → hi + 1 ≤ i + f → hi + 1 ≤ i + f' →
      scanUp cmp ord (lo : Int) (hi : Int) f (i : Int) = .ok ((qsUp cmp ord lo hi i f' : Nat) : Int) := by
  intro f
  induction f with
  | zero => intro f' i h; omega
  | succ f ih =>
    intro f' i _ h2 h3
    have e : ((i : Int) + 1) = ((i + 1 : Nat) : Int) := by omega
    unfold scanUp
    simp only [e]
    by_cases hc : i + 1 ≤ hi
    · obtain ⟨g, rfl⟩ : ∃ g, f' = g + 1 := ⟨f' - 1, by omega⟩
      rw [if_pos (by omega), rd_ok _ _ (by omega), rd_ok _ _ hlo]
      simp only [bind_ok, pure_eq_ok, getElem!_eq_aget, qsUp, hc, decide_true, Bool.true_and, decide_eq_true_eq]
      split
      · exact ih g (i + 1) (by omega) (by omega) (by omega)
      · rfl
    · rw [if_neg (by omega)]
      cases f' with
      | zero => rfl
      | succ g => simp only [qsUp, hc, decide_false, Bool.false_and, pure_eq_ok]; rfl

/-- the downward scan stops at `lo` at the latest, where it compares the pivot with itself; so it never reads `ord[-1]` -/
theorem scanDown_pure (cmp : Nat → Nat → Int) (ord : Array Nat) (lo : Nat) (hlo : lo < ord.size)
    (hrefl : ¬ cmp (aget ord lo) (aget ord lo) > 0) :
    ∀ j f, lo < j → j ≤ ord.size → j ≤ lo + f →
      scanDown cmp ord (lo : Int) f (j : Int) = .ok ((qsDown cmp ord lo j : Nat) : Int) := by
  intro j
  induction j with
  | zero => intro f h; omega
  | succ j ih =>
    intro f h1 h2 h3
    obtain ⟨g, rfl⟩ : ∃ g, f = g + 1 := ⟨f - 1, by omega⟩
    have e : (((j + 1 : Nat) : Int) - 1) = (j : Int) := by omega
    unfold scanDown
    simp only [e]
    rw [rd_ok _ _ (by omega), rd_ok _ _ hlo]
    simp only [bind_ok, pure_eq_ok, getElem!_eq_aget, qsDown]
    split
    · rename_i hc
      have hne : j ≠ lo := fun e' => hrefl (by rw [e'] at hc; exact hc)
      exact ih g (by omega) (by omega) (by omega)
    · rfl

theorem sw_eq_aswap (ord : Array Nat) (i j : Nat) (hi : i < ord.size) (hj : j < ord.size) : sw ord i j = aswap ord j i := by
  apply Array.ext_getElem?
  intro k
  by_cases hk : k < ord.size
  · have h1 : (sw ord i j)[k]! = aget (aswap ord j i) k := by
      rw [sw_get _ _ _ _ hi hj, EaselModel.Weights.aget_aswap _ _ _ _ hj hi]
      simp only [getElem!_eq_aget]
    rw [getElem!_def, aget, Array.getD_eq_getD_getElem?,
      Array.getElem?_eq_getElem (by rw [sw_size]; exact hk),
      Array.getElem?_eq_getElem (by rw [EaselModel.Weights.aswap_size]; exact hk)] at h1
    rw [Array.getElem?_eq_getElem (by rw [sw_size]; exact hk),
      Array.getElem?_eq_getElem (by rw [EaselModel.Weights.aswap_size]; exact hk)]
    simpa using h1
  · rw [Array.getElem?_eq_none (by rw [sw_size]; omega),
      Array.getElem?_eq_none (by rw [EaselModel.Weights.aswap_size]; omega)]

/-- fuels `f`, `f'` as in `scanUp_pure`. The comparison is only asked not to put the pivot after itself (`ord[lo]` stays where
    it is during the loop); `partition_pure` asks `cmp a a = 0` of every `a` because each recursive call has another pivot -/
theorem partLoop_pure (cmp : Nat → Nat → Int) (lo hi : Nat) :
    ∀ f f' (ord : Array Nat) (i j : Nat), lo ≤ i → i < j → j ≤ hi + 1 → hi < ord.size →
      ¬ cmp (aget ord lo) (aget ord lo) > 0 → j ≤ i + f → j ≤ i + f' →
      partLoop cmp (lo : Int) (hi : Int) f ord (i : Int) (j : Int) =
        .ok ((qsLoop cmp lo hi f' ord i j).1, (((qsLoop cmp lo hi f' ord i j).2 : Nat) : Int)) := by
  intro f
  induction f with
  | zero => intro f' ord i j; omega
  | succ f ih =>
    intro f' ord i j h1 h2 h3 hsz hrefl hf hf'
    obtain ⟨g, rfl⟩ : ∃ g, f' = g + 1 := ⟨f' - 1, by omega⟩
    obtain ⟨u1, u2, _, _⟩ := EaselModel.Weights.qsUp_spec cmp ord lo hi (hi + 1) i (by omega)
    obtain ⟨d1, d2, _, _⟩ := EaselModel.Weights.qsDown_spec cmp ord lo hrefl j (by omega)
    unfold partLoop
    rw [scanUp_pure cmp ord lo hi (by omega) hsz (ord.size + 2) (hi + 1) i (by omega) (by omega) (by omega)]
    simp only [bind_ok]
    rw [scanDown_pure cmp ord lo (by omega) hrefl j (ord.size + 2) (by omega) (by omega) (by omega)]
    simp only [bind_ok, qsLoop]
    generalize qsUp cmp ord lo hi i (hi + 1) = i' at u1 u2 ⊢
    generalize qsDown cmp ord lo j = j' at d1 d2 ⊢
    have u2' := u2 (by omega)
    by_cases hc : j' > i'
    · rw [if_pos (by omega), if_pos hc, swap_ok ord i' j' (by omega) (by omega), sw_eq_aswap ord i' j' (by omega) (by omega)]
      have hP : aget (aswap ord j' i') lo = aget ord lo := by
        rw [EaselModel.Weights.aget_aswap _ _ _ _ (by omega) (by omega), if_neg (by omega), if_neg (by omega)]
      exact ih g _ i' j' (by omega) hc (by omega) (by rw [EaselModel.Weights.aswap_size]; exact hsz) (by rw [hP]; exact hrefl)
        (by omega) (by omega)
    · rw [if_neg (by omega), if_neg hc]; rfl

theorem qsPartition_size (cmp : Nat → Nat → Int) (f : Nat) (ord : Array Nat) (lo hi : Nat) :
    (qsPartition cmp f ord lo hi).size = ord.size := by
  have := EaselModel.Weights.qsPartition_perm cmp f ord lo hi
  rw [Array.perm_iff_toList_perm] at this
  simpa using this.length_eq

/-- with fuel `f`, `partition` on a segment inside the array returns what `qsPartition` returns (what the induction on `f` carries) -/
def PartitionAgrees (cmp : Nat → Nat → Int) (f : Nat) : Prop :=
  ∀ (ord : Array Nat) (lo hi : Nat), lo ≤ hi → hi < ord.size → hi - lo < f →
    partition cmp f ord (lo : Int) (hi : Int) = .ok (qsPartition cmp f ord lo hi)

/-- `if (b - a > 1) partition(a, b)` -/
theorem sub_pure {cmp : Nat → Nat → Int} {f : Nat} (ih : PartitionAgrees cmp f) (ord : Array Nat) (a b : Nat) (ai bi : Int)
    (c c' : Prop) [Decidable c] [Decidable c'] (hcc : c ↔ c')
    (h : c' → ai = a ∧ bi = b ∧ a ≤ b ∧ b < ord.size ∧ b - a < f) :
    (if c then partition cmp f ord ai bi else Out.ok ord) = .ok (if c' then qsPartition cmp f ord a b else ord) := by
  by_cases hc : c'
  · obtain ⟨rfl, rfl, h1, h2, h3⟩ := h hc
    rw [if_pos (hcc.mpr hc), if_pos hc]; exact ih ord a b h1 h2 h3
  · rw [if_neg (fun x => hc (hcc.mp x)), if_neg hc]

/-- the two recursive calls, shorter side first -/
theorem sides_pure {cmp : Nat → Nat → Int} {f : Nat} (ih : PartitionAgrees cmp f) (o : Array Nat) (lo jn hi : Nat) (h1 : lo ≤ jn)
    (h2 : jn ≤ hi) (h3 : hi < o.size) (hf : hi - lo < f + 1) :
    (if (jn : Int) - (lo : Int) < (hi : Int) - (jn : Int) then do
        let ord ← (if (jn : Int) - (lo : Int) > 1 then partition cmp f o (lo : Int) ((jn : Int) - 1) else Out.ok o)
        if (hi : Int) - (jn : Int) > 1 then partition cmp f ord ((jn : Int) + 1) (hi : Int) else Out.ok ord
      else do
        let ord ← (if (hi : Int) - (jn : Int) > 1 then partition cmp f o ((jn : Int) + 1) (hi : Int) else Out.ok o)
        if (jn : Int) - (lo : Int) > 1 then partition cmp f ord (lo : Int) ((jn : Int) - 1) else Out.ok ord) =
      .ok (if jn - lo < hi - jn then
          (if hi - jn > 1 then qsPartition cmp f (if jn - lo > 1 then qsPartition cmp f o lo (jn - 1) else o) (jn + 1) hi
           else if jn - lo > 1 then qsPartition cmp f o lo (jn - 1) else o)
        else
          (if jn - lo > 1 then qsPartition cmp f (if hi - jn > 1 then qsPartition cmp f o (jn + 1) hi else o) lo (jn - 1)
           else if hi - jn > 1 then qsPartition cmp f o (jn + 1) hi else o)) := by
  have ssub : ∀ (c : Prop) [Decidable c] (a b : Nat), (if c then qsPartition cmp f o a b else o).size = o.size := by
    intro c _ a b; split
    · exact qsPartition_size _ _ _ _ _
    · rfl
  have left : ∀ o' : Array Nat, o'.size = o.size →
      (if (jn : Int) - (lo : Int) > 1 then partition cmp f o' (lo : Int) ((jn : Int) - 1) else Out.ok o') =
        .ok (if jn - lo > 1 then qsPartition cmp f o' lo (jn - 1) else o') :=
    fun o' ho => sub_pure ih o' lo (jn - 1) _ _ _ _ (by omega) (fun h => ⟨rfl, by omega, by omega, by omega, by omega⟩)
  have right : ∀ o' : Array Nat, o'.size = o.size →
      (if (hi : Int) - (jn : Int) > 1 then partition cmp f o' ((jn : Int) + 1) (hi : Int) else Out.ok o') =
        .ok (if hi - jn > 1 then qsPartition cmp f o' (jn + 1) hi else o') :=
    fun o' ho => sub_pure ih o' (jn + 1) hi _ _ _ _ (by omega) (fun h => ⟨by omega, rfl, by omega, by omega, by omega⟩)
  by_cases hside : jn - lo < hi - jn
  · rw [if_pos (by omega), if_pos hside, left _ rfl]
    exact right _ (ssub _ _ _)
  · rw [if_neg (by omega), if_neg hside, right _ rfl]
    exact left _ (ssub _ _ _)

theorem partition_pure {cmp : Nat → Nat → Int} (hrefl : ∀ a, cmp a a = 0) : ∀ f, PartitionAgrees cmp f := by
  intro f
  induction f with
  | zero => intro ord lo hi _ _ h; omega
  | succ f ih =>
    intro ord lo hi hlh hhi hf
    have hlo : lo < ord.size := by omega
    unfold partition
    rw [rd_ok _ _ hhi, rd_ok _ _ hlo]
    simp only [bind_ok, noop_swap ord hi _ hhi, pure_eq_ok, ite_self]
    have emid : ((lo : Int) + ((hi : Int) - (lo : Int)) / 2) = ((lo + (hi - lo) / 2 : Nat) : Int) := by omega
    rw [emid, rd_ok _ _ (show lo + (hi - lo) / 2 < ord.size by omega), rd_ok _ _ hhi, rd_ok _ _ hlo]
    simp only [bind_ok, getElem!_eq_aget, qsPartition]
    generalize hpn : (if cmp (aget ord (lo + (hi - lo) / 2)) (aget ord lo) < 0 then lo
      else if cmp (aget ord (lo + (hi - lo) / 2)) (aget ord hi) > 0 then hi else lo + (hi - lo) / 2) = pn
    have hp : (if cmp (aget ord (lo + (hi - lo) / 2)) (aget ord lo) < 0 then (lo : Int)
        else if cmp (aget ord (lo + (hi - lo) / 2)) (aget ord hi) > 0 then (hi : Int)
        else ((lo + (hi - lo) / 2 : Nat) : Int)) = (pn : Int) := by
      rw [← hpn]; split
      · rfl
      · split <;> rfl
    have hpb : lo ≤ pn ∧ pn ≤ hi := by
      rw [← hpn]; split
      · omega
      · split <;> omega
    have hpsz : pn < ord.size := by omega
    rw [hp, rd_ok _ _ hpsz]
    -- `omega` splits on every `if` among the hypotheses: the pivot's two equations go before the arithmetic below
    clear hp hpn emid
    simp only [bind_ok]
    rw [wr_ok _ _ _ hpsz]
    simp only [bind_ok]
    rw [wr_ok _ _ _ (by simpa using hlo)]
    simp only [bind_ok, getElem!_eq_aget]
    have esw : (ord.setIfInBounds pn (aget ord lo)).setIfInBounds lo (aget ord pn) = aswap ord pn lo := by
      rw [← sw_eq_aswap ord lo pn hlo hpsz, sw, getElem!_eq_aget, getElem!_eq_aget]
    rw [esw]
    have s1 : (aswap ord pn lo).size = ord.size := EaselModel.Weights.aswap_size _ _ _
    have e1 : ((hi : Int) + 1) = ((hi + 1 : Nat) : Int) := by omega
    have hr1 : ¬ cmp (aget (aswap ord pn lo) lo) (aget (aswap ord pn lo) lo) > 0 := by rw [hrefl]; omega
    rw [e1, partLoop_pure cmp lo hi ((aswap ord pn lo).size + 2) (hi + 2) (aswap ord pn lo) lo (hi + 1) (Nat.le_refl _) (by omega)
      (Nat.le_refl _) (by omega) hr1 (by omega) (by omega)]
    have inv0 : EaselModel.Weights.LoopInv cmp lo hi (aswap ord pn lo) (aswap ord pn lo) lo (hi + 1) :=
      ⟨EaselModel.Weights.SegPerm.refl _ _ _, Nat.le_refl _, by omega, Nat.le_refl _, fun k h1 h2 => by omega, fun k h1 h2 => by omega⟩
    obtain ⟨l1, l2, l3, _, _⟩ := EaselModel.Weights.qsLoop_spec cmp lo hi (aswap ord pn lo) hr1 (hi + 2) (aswap ord pn lo) lo
      (hi + 1) inv0 (by omega) (by omega)
    generalize qsLoop cmp lo hi (hi + 2) (aswap ord pn lo) lo (hi + 1) = q at l1 l2 l3 ⊢
    obtain ⟨o2, jn⟩ := q
    simp only [bind_ok] at l1 l2 l3 ⊢
    have s2 : o2.size = ord.size := l1.size.trans s1
    rw [swap_ok' o2 jn lo (by omega) (by omega), sw_eq_aswap o2 jn lo (by omega) (by omega)]
    exact sides_pure ih _ lo jn hi l2 l3 (by rw [EaselModel.Weights.aswap_size]; omega) hf

theorem TotalPreorder.cmpOK {cmp : Nat → Nat → Int} (hc : TotalPreorder cmp) (S : Nat → Prop) : EaselModel.Weights.CmpOK cmp S :=
  ⟨hc.refl, fun _ _ h => hc.flip h, fun a b c _ _ _ => hc.trans_le a b c⟩

/-- for every n ≥ 1, any fuel ≥ n: no fault, no fuel exhaustion, the result has size n, is a
permutation of 0..n-1, and orders the data -/
theorem quicksortUnguarded_spec (cmp : Nat → Nat → Int) (hc : TotalPreorder cmp) (n : Nat) (hn : 1 ≤ n)
    (fuel : Nat) (hf : n ≤ fuel) :
    ∃ ord, quicksortUnguarded cmp n fuel = .ok ord ∧ ord.size = n ∧ ord.toList.Perm (List.range n) ∧
      ∀ i j, i < j → j < n → cmp (ord[i]!) (ord[j]!) ≤ 0 := by
  have e : ((n : Int) - 1) = ((n - 1 : Nat) : Int) := by omega
  have hsz : n - 1 < (Array.range n).size := by rw [Array.size_range]; omega
  have hp := EaselModel.Weights.qsPartition_perm cmp fuel (Array.range n) 0 (n - 1)
  obtain ⟨_, r2⟩ := EaselModel.Weights.qsPartition_sorted (hc.cmpOK fun _ => True) fuel (Array.range n) 0 (n - 1) (by omega) hsz
    (by omega) (fun _ _ _ => trivial)
  refine ⟨qsPartition cmp fuel (Array.range n) 0 (n - 1), ?_, by rw [qsPartition_size, Array.size_range], ?_, fun i j h1 h2 => ?_⟩
  · unfold quicksortUnguarded
    rw [e]; exact partition_pure hc.refl fuel (Array.range n) 0 (n - 1) (by omega) hsz (by omega)
  · rw [Array.perm_iff_toList_perm, Array.toList_range] at hp; exact hp
  · rw [getElem!_eq_aget, getElem!_eq_aget]; exact r2 i j (by omega) h1 (by omega)

theorem quicksort_spec (cmp : Nat → Nat → Int) (hc : TotalPreorder cmp) (n : Nat) (fuel : Nat) (hf : n ≤ fuel) :
    ∃ ord, quicksort cmp n fuel = .ok ord ∧ ord.size = n ∧ ord.toList.Perm (List.range n) ∧
      ∀ i j, i < j → j < n → cmp (ord[i]!) (ord[j]!) ≤ 0 := by
  by_cases hn : n > 1
  · have := quicksortUnguarded_spec cmp hc n (by omega) fuel hf
    unfold quicksort; rw [if_pos hn]; exact this
  · unfold quicksort; rw [if_neg hn]
    refine ⟨Array.range n, rfl, by simp, by simp [Array.toList_range], ?_⟩
    intro i j h1 h2; omega

end EaselModel.Containers.Quicksort
