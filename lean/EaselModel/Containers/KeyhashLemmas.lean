import EaselModel.Containers.Keyhash
/-! # Lemmas: the chained hash table refines the insertion-ordered list of distinct keys
Everything is generic in the hash function `H`; the only hypothesis used is `H k sz < sz` for `0 < sz`.
The code after the repair of the embedded-NUL defect (`KeyhashFixed.lean`) differs only in how it delimits a stored key in
the arena; what does not depend on that (`Table`, `chain_find`, `storeNew`, `Refines`) is stated here for both versions. -/
namespace EaselModel.Containers.Keyhash

/-- key `k` (NUL-free) sits at offset `off` of the arena and is followed by a NUL -/
def KeyAt (m : Array UInt8) (off : Nat) (k : Key) : Prop :=
  (∀ j c, k[j]? = some c → m[off + j]? = some c) ∧ m[off + k.length]? = some 0 ∧ (0 : UInt8) ∉ k

theorem keyAt_append {m : Array UInt8} {off : Nat} {k : Key} (x : Array UInt8) (h : KeyAt m off k) :
    KeyAt (m ++ x) off k := by
  obtain ⟨h1, h2, h3⟩ := h
  have lift : ∀ (i : Nat) (c : UInt8), m[i]? = some c → (m ++ x)[i]? = some c := by
    intro i c hc
    have : i < m.size := by
      apply Classical.byContradiction; intro hn
      rw [Array.getElem?_eq_none (by omega)] at hc; cases hc
    rw [Array.getElem?_append_left this]; exact hc
  exact ⟨fun j c hj => lift _ _ (h1 j c hj), lift _ _ h2, h3⟩

theorem keyAt_new (m : Array UInt8) (k : Key) (h0 : (0 : UInt8) ∉ k) :
    KeyAt (m ++ k.toArray ++ #[0]) m.size k := by
  refine ⟨?_, ?_, h0⟩
  · intro j c hj
    have hjl : j < k.length := by
      apply Classical.byContradiction; intro hn
      rw [List.getElem?_eq_none (by omega)] at hj; cases hj
    rw [Array.getElem?_append_left (by simp; omega), Array.getElem?_append]
    simp [hj]
  · rw [Array.getElem?_append]
    simp

theorem keyAt_tail {m : Array UInt8} {off : Nat} {a : UInt8} {k : Key} (h : KeyAt m off (a :: k)) :
    m[off]? = some a ∧ a ≠ 0 ∧ KeyAt m (off + 1) k := by
  obtain ⟨h1, h2, h3⟩ := h
  refine ⟨by simpa using h1 0 a (by simp), ?_, ?_, ?_, ?_⟩
  · intro h; subst h; exact h3 (by simp)
  · intro j c hj
    have := h1 (j+1) c (by simpa using hj)
    rw [← this]; congr 1; omega
  · rw [← h2]; congr 1; simp; omega
  · intro h; exact h3 (by simp [h])

theorem memstrcmpAt_of_keyAt (p : Key) (m : Array UInt8) (off : Nat) (k : Key) (h : KeyAt m off k) :
    memstrcmpAt p m off = some (decide (p = k)) := by
  induction p generalizing off k with
  | nil =>
    cases k with
    | nil =>
      have := h.2.1; simp at this
      simp [memstrcmpAt, this]
    | cons a k =>
      obtain ⟨h1, h2, _⟩ := keyAt_tail h
      simp [memstrcmpAt, h1, h2]
  | cons c rest ih =>
    cases k with
    | nil =>
      have := h.2.1; simp at this
      simp [memstrcmpAt, this]
    | cons a k =>
      obtain ⟨h1, h2, h3⟩ := keyAt_tail h
      simp only [memstrcmpAt, h1]
      have : (a == 0) = false := by simpa using h2
      simp only [this, Bool.false_eq_true, ↓reduceIte]
      by_cases hca : c = a
      · subst hca
        simp [ih _ _ h3]
      · have : (c != a) = true := by simpa using hca
        simp [this, hca]

theorem cstrLoop_of_keyAt (m : Array UInt8) (k : Key) (off f : Nat) (h : KeyAt m off k) (hf : k.length < f) :
    cstrLoop m f off = some k := by
  induction k generalizing off f with
  | nil =>
    have := h.2.1; simp at this
    cases f with
    | zero => omega
    | succ f => simp [cstrLoop, this]
  | cons a k ih =>
    obtain ⟨h1, h2, h3⟩ := keyAt_tail h
    cases f with
    | zero => omega
    | succ f =>
      have : (a == 0) = false := by simpa using h2
      simp only [cstrLoop, h1, this, Bool.false_eq_true, ↓reduceIte]
      rw [ih (off+1) f h3 (by simp at hf; omega)]; rfl

theorem cstrAt_of_keyAt (m : Array UInt8) (off : Nat) (k : Key) (h : KeyAt m off k) : cstrAt m off = some k := by
  have hsz : off + k.length < m.size := by
    apply Classical.byContradiction; intro hn
    have h2 := h.2.1
    rw [Array.getElem?_eq_none (by omega)] at h2; cases h2
  exact cstrLoop_of_keyAt m k off _ h (by omega)

/-- `l` = the indices visited from `start` following `nxt`; each is smaller than the previous one and than `b` -/
inductive Chain (nxt : Array (Option Nat)) : Option Nat → Nat → List Nat → Prop
  | nil (b : Nat) : Chain nxt none b []
  | cons (i b : Nat) (l : List Nat) (nx : Option Nat) :
      i < b → nxt[i]? = some nx → Chain nxt nx i l → Chain nxt (some i) b (i :: l)

theorem Chain.mem_lt {nxt s b l} (h : Chain nxt s b l) : ∀ i ∈ l, i < b := by
  induction h with
  | nil b => intro i hi; cases hi
  | cons i b l nx hib _ _ ih =>
    intro j hj
    cases hj with
    | head => exact hib
    | tail _ hj => have := ih j hj; omega

theorem Chain.mono {nxt s b l} (h : Chain nxt s b l) {b' : Nat} (hb : b ≤ b') : Chain nxt s b' l := by
  cases h with
  | nil b => exact .nil _
  | cons i b l nx hib hn hc => exact .cons i b' l nx (by omega) hn hc

theorem Chain.length_le {nxt s b l} (h : Chain nxt s b l) : l.length ≤ b := by
  induction h with
  | nil b => simp
  | cons i b l nx hib _ _ ih => simp; omega

theorem Chain.congr {nxt nxt' s b l} (h : Chain nxt s b l) (he : ∀ i, i < b → nxt'[i]? = nxt[i]?) :
    Chain nxt' s b l := by
  induction h with
  | nil b => exact .nil _
  | cons i b l nx hib hn _ ih =>
    exact .cons i b l nx hib (by rw [he i hib]; exact hn) (ih (fun j hj => he j (by omega)))

theorem Chain.set {nxt s b l} (h : Chain nxt s b l) (m : Nat) (v : Option Nat) (hm : b ≤ m) :
    Chain (nxt.set! m v) s b l :=
  h.congr (fun i hi => by
    rw [Array.set!_eq_setIfInBounds, Array.getElem?_setIfInBounds]
    have : m ≠ i := by omega
    simp [this])

theorem Chain.nxt_size {nxt s b l} (h : Chain nxt s b l) : ∀ i ∈ l, i < nxt.size := by
  induction h with
  | nil b => intro i hi; cases hi
  | cons i b l nx hib hn _ ih =>
    intro j hj
    cases hj with
    | head =>
      apply Classical.byContradiction; intro hc
      rw [Array.getElem?_eq_none (by omega)] at hn; cases hn
    | tail _ hj => exact ih j hj

/-- the first `m` keys are linked into the buckets of a table of `size` slots according to `H` -/
def Linked (H : Key → Nat → Nat) (keys : List Key) (size : Nat) (ht nxt : Array (Option Nat)) (m : Nat) : Prop :=
  ht.size = size ∧
  ∀ b, b < size → ∃ head l, ht[b]? = some head ∧ Chain nxt head m l ∧
    ∀ j, j ∈ l ↔ (j < m ∧ ∃ k, keys[j]? = some k ∧ H k size = b)

theorem linked_empty (H : Key → Nat → Nat) (keys : List Key) (size : Nat) (nxt : Array (Option Nat)) :
    Linked H keys size (Array.replicate size none) nxt 0 := by
  refine ⟨by simp, fun b hb => ⟨none, [], by simp [hb], .nil _, ?_⟩⟩
  intro j; simp

theorem linked_step {H : Key → Nat → Nat} {keys : List Key} {size : Nat} {ht nxt : Array (Option Nat)} {m : Nat}
    (h : Linked H keys size ht nxt m) (k : Key) (hk : keys[m]? = some k) (head : Option Nat)
    (hhead : ht[H k size]? = some head) (hm : m < nxt.size) :
    Linked H keys size (ht.set! (H k size) (some m)) (nxt.set! m head) (m+1) := by
  obtain ⟨hsz, hb⟩ := h
  have hv : H k size < size := by
    apply Classical.byContradiction; intro hn
    rw [Array.getElem?_eq_none (by omega)] at hhead; cases hhead
  refine ⟨by simp [hsz], ?_⟩
  intro b hbs
  obtain ⟨hd, l, h1, h2, h3⟩ := hb b hbs
  by_cases hbv : b = H k size
  · subst hbv
    rw [hhead] at h1; cases h1
    refine ⟨some m, m :: l, ?_, ?_, ?_⟩
    · rw [Array.set!_eq_setIfInBounds, Array.getElem?_setIfInBounds]; simp [hsz, hbs]
    · refine .cons m (m+1) l head (by omega) ?_ (h2.set m head (Nat.le_refl _))
      rw [Array.set!_eq_setIfInBounds, Array.getElem?_setIfInBounds]; simp [hm]
    · intro j
      simp only [List.mem_cons, h3]
      constructor
      · rintro (rfl | ⟨hj, hk'⟩)
        · exact ⟨by omega, k, hk, rfl⟩
        · exact ⟨by omega, hk'⟩
      · rintro ⟨hj, hk'⟩
        by_cases hjm : j = m
        · exact Or.inl hjm
        · exact Or.inr ⟨by omega, hk'⟩
  · refine ⟨hd, l, ?_, (h2.set m head (Nat.le_refl _)).mono (by omega), ?_⟩
    · rw [Array.set!_eq_setIfInBounds, Array.getElem?_setIfInBounds]
      have : H k size ≠ b := fun h => hbv h.symm
      simp [this, h1]
    · intro j
      rw [h3]
      constructor
      · rintro ⟨hj, hk'⟩; exact ⟨by omega, hk'⟩
      · rintro ⟨hj, k', hk', hH⟩
        refine ⟨?_, k', hk', hH⟩
        apply Classical.byContradiction; intro hn
        have : j = m := by omega
        subst this
        rw [hk] at hk'; cases hk'
        exact hbv hH.symm

theorem linked_keys_append {H : Key → Nat → Nat} {keys : List Key} {size : Nat} {ht nxt : Array (Option Nat)} {m : Nat}
    (h : Linked H keys size ht nxt m) (hm : m ≤ keys.length) (extra : List Key) :
    Linked H (keys ++ extra) size ht nxt m := by
  obtain ⟨hsz, hb⟩ := h
  refine ⟨hsz, fun b hbs => ?_⟩
  obtain ⟨hd, l, h1, h2, h3⟩ := hb b hbs
  refine ⟨hd, l, h1, h2, fun j => ?_⟩
  rw [h3]
  constructor
  · rintro ⟨hj, k, hk, hH⟩
    exact ⟨hj, k, by rw [List.getElem?_append_left (by omega)]; exact hk, hH⟩
  · rintro ⟨hj, k, hk, hH⟩
    exact ⟨hj, k, by rw [List.getElem?_append_left (by omega)] at hk; exact hk, hH⟩

structure Inv (H : Key → Nat → Nat) (kh : KH) (keys : List Key) : Prop where
  nkeys : kh.nkeys = keys.length
  size_pos : 0 < kh.hashsize
  ko_size : kh.keyOffset.size = kh.kalloc
  nxt_size : kh.nxt.size = kh.kalloc
  kalloc_ge : kh.nkeys ≤ kh.kalloc
  kalloc_pos : 0 < kh.kalloc
  salloc_pos : 0 < kh.salloc
  sn_le : kh.smem.size ≤ kh.salloc
  sn_eq : kh.smem.size = (keys.map (fun k => k.length + 1)).sum
  keyAt : ∀ (i : Nat) (k : Key), keys[i]? = some k → ∃ off, kh.keyOffset[i]? = some off ∧ KeyAt kh.smem off k
  nodup : keys.Nodup
  linked : Linked H keys kh.hashsize kh.hashtable kh.nxt kh.nkeys

def HashOK (H : Key → Nat → Nat) : Prop := ∀ k sz, 0 < sz → H k sz < sz

/-- the part of the invariant that does not speak of the key bytes (the two versions of the code differ only in how they
    delimit a stored key in the arena): sizes, allocations, distinct keys, buckets -/
structure Table (H : Key → Nat → Nat) (kh : KH) (keys : List Key) : Prop where
  nkeys : kh.nkeys = keys.length
  size_pos : 0 < kh.hashsize
  ko_size : kh.keyOffset.size = kh.kalloc
  nxt_size : kh.nxt.size = kh.kalloc
  kalloc_ge : kh.nkeys ≤ kh.kalloc
  kalloc_pos : 0 < kh.kalloc
  salloc_pos : 0 < kh.salloc
  sn_le : kh.smem.size ≤ kh.salloc
  nodup : keys.Nodup
  linked : Linked H keys kh.hashsize kh.hashtable kh.nxt kh.nkeys

theorem Inv.table {H : Key → Nat → Nat} {kh : KH} {keys : List Key} (hi : Inv H kh keys) : Table H kh keys := { hi with }

theorem Table.inv {H : Key → Nat → Nat} {kh : KH} {keys : List Key} (ht : Table H kh keys)
    (sn_eq : kh.smem.size = (keys.map (fun k => k.length + 1)).sum)
    (keyAt : ∀ (i : Nat) (k : Key), keys[i]? = some k → ∃ off, kh.keyOffset[i]? = some off ∧ KeyAt kh.smem off k) :
    Inv H kh keys := { ht with sn_eq := sn_eq, keyAt := keyAt }

theorem table_create (H : Key → Nat → Nat) (size kalloc salloc : Nat) (h1 : 0 < size) (h2 : 0 < kalloc) (h3 : 0 < salloc) :
    Table H (create size kalloc salloc) [] where
  nkeys := rfl
  size_pos := h1
  ko_size := by simp [create]
  nxt_size := by simp [create]
  kalloc_ge := Nat.zero_le _
  kalloc_pos := h2
  salloc_pos := h3
  sn_le := by simp [create]
  nodup := List.nodup_nil
  linked := linked_empty H [] size _

theorem inv_create (H : Key → Nat → Nat) (size kalloc salloc : Nat) (h1 : 0 < size) (h2 : 0 < kalloc) (h3 : 0 < salloc) :
    Inv H (create size kalloc salloc) [] :=
  (table_create H size kalloc salloc h1 h2 h3).inv (by simp [create]) (by intro i k h; simp at h)

/-- a chain walk that decides `key = keys[i]` at every index `i` it visits returns, along a chain, the first index holding
    `key` — however the comparison reads the stored key -/
theorem chain_find (keys : List Key) (key : Key) {nxt : Array (Option Nat)} {w : Nat → Option Nat → Option (Option Nat)}
    (w_none : ∀ f, w f none = some none)
    (w_step : ∀ f i nx, (h : i < keys.length) → nxt[i]? = some nx →
      w (f+1) (some i) = if key = keys[i] then some (some i) else w f nx)
    {start : Option Nat} {b : Nat} {l : List Nat} (hc : Chain nxt start b l) (hl : ∀ i ∈ l, i < keys.length)
    (fuel : Nat) (hf : l.length ≤ fuel) :
    w fuel start = some (l.find? (fun i => decide (keys[i]? = some key))) := by
  induction hc generalizing fuel with
  | nil b => simp [w_none]
  | cons i b l nx hib hn _ ih =>
    cases fuel with
    | zero => simp at hf
    | succ f =>
      have hil : i < keys.length := hl i (by simp)
      rw [w_step f i nx hil hn]
      by_cases hkey : key = keys[i]
      · subst hkey
        simp [hil]
      · rw [if_neg hkey, ih (fun j hj => hl j (by simp [hj])) f (by simp at hf; omega)]
        have : decide (keys[i]? = some key) = false := by
          simp [hil]; exact fun h => hkey h.symm
        simp [this]

theorem walk_none (kh : KH) (key : Key) (fuel : Nat) : walk kh key fuel none = some none := by
  cases fuel <;> rfl

theorem find_spec (H : Key → Nat → Nat) (keys : List Key) (key : Key) (size : Nat) (l : List Nat) (hnd : keys.Nodup)
    (hl : ∀ j, j ∈ l ↔ (j < keys.length ∧ ∃ k, keys[j]? = some k ∧ H k size = H key size)) :
    l.find? (fun i => decide (keys[i]? = some key)) = if key ∈ keys then some (keys.idxOf key) else none := by
  by_cases hm : key ∈ keys
  · simp only [hm, ↓reduceIte]
    have hj0 : keys.idxOf key < keys.length := List.idxOf_lt_length_iff.mpr hm
    have hk0 : keys[keys.idxOf key]? = some key := by simp [hj0]
    have hin : keys.idxOf key ∈ l := (hl _).mpr ⟨hj0, key, hk0, rfl⟩
    cases hf : l.find? (fun i => decide (keys[i]? = some key)) with
    | none =>
      have := List.find?_eq_none.mp hf _ hin
      simp [hk0] at this
    | some x =>
      have hp := List.find?_some hf
      simp only [decide_eq_true_eq] at hp
      have : keys[x]? = keys[keys.idxOf key]? := by rw [hp, hk0]
      have hx : x < keys.length := by
        apply Classical.byContradiction; intro hn
        rw [List.getElem?_eq_none (by omega)] at hp; cases hp
      rw [(List.getElem?_inj hx hnd).mp this]
  · simp only [hm, ↓reduceIte]
    apply List.find?_eq_none.mpr
    intro x _ hp
    simp only [decide_eq_true_eq] at hp
    exact hm (List.mem_of_getElem? hp)

theorem Table.walk_find {H : Key → Nat → Nat} {kh : KH} {keys : List Key} (ht : Table H kh keys) (hH : HashOK H) (key : Key)
    {w : Nat → Option Nat → Option (Option Nat)} (w_none : ∀ f, w f none = some none)
    (w_step : ∀ f i nx, (h : i < keys.length) → kh.nxt[i]? = some nx →
      w (f+1) (some i) = if key = keys[i] then some (some i) else w f nx) :
    ∃ head, kh.hashtable[H key kh.hashsize]? = some head ∧
      w kh.nkeys head = some (if key ∈ keys then some (keys.idxOf key) else none) := by
  obtain ⟨hd, l, h1, h2, h3⟩ := ht.linked.2 (H key kh.hashsize) (hH _ _ ht.size_pos)
  refine ⟨hd, h1, ?_⟩
  have hlt : ∀ i ∈ l, i < keys.length := fun i h => by have := h2.mem_lt i h; rw [ht.nkeys] at this; exact this
  rw [chain_find keys key w_none w_step h2 hlt kh.nkeys h2.length_le, find_spec H keys key kh.hashsize l ht.nodup]
  intro j; rw [h3, ht.nkeys]

theorem walk_inv {H : Key → Nat → Nat} {kh : KH} {keys : List Key} (hi : Inv H kh keys) (hH : HashOK H) (key : Key) :
    ∃ head, kh.hashtable[H key kh.hashsize]? = some head ∧
      walk kh key kh.nkeys head = some (if key ∈ keys then some (keys.idxOf key) else none) :=
  hi.table.walk_find hH key (walk_none kh key) (fun f i nx hil hn => by
    obtain ⟨off, ho, hka⟩ := hi.keyAt i keys[i] (by simp [hil])
    simp only [walk, ho, memstrcmpAt_of_keyAt key _ _ _ hka, hn]
    by_cases hkey : key = keys[i] <;> simp [hkey])

theorem lookup_spec {H : Key → Nat → Nat} {kh : KH} {keys : List Key} (hi : Inv H kh keys) (hH : HashOK H) (key : Key) :
    lookup H kh key = some (if key ∈ keys then (.ok, keys.idxOf key) else (.enotfound, 0)) := by
  obtain ⟨hd, h1, h2⟩ := walk_inv hi hH key
  unfold lookup
  simp only [h1, h2]
  by_cases hm : key ∈ keys <;> simp [hm]

theorem get_spec {H : Key → Nat → Nat} {kh : KH} {keys : List Key} (hi : Inv H kh keys) (i : Nat) :
    get kh i = keys[i]? := by
  unfold get
  by_cases h : i < kh.nkeys
  · have hl : i < keys.length := by rw [← hi.nkeys]; exact h
    obtain ⟨off, ho, hka⟩ := hi.keyAt i keys[i] (by simp [hl])
    simp [h, ho, cstrAt_of_keyAt _ _ _ hka, hl]
  · have hl : keys.length ≤ i := by rw [← hi.nkeys]; omega
    simp [h, List.getElem?_eq_none hl]

/-- the re-store loop of `key_upsize`, as a loop `lp` over a step `stp`: if on the states satisfying `A` (what the version
    needs to read key `i` again; relinking does not disturb it) the step links key `i` at the head of its bucket, the loop
    links all keys -/
theorem rehash_spec {H : Key → Nat → Nat} (hH : HashOK H) (keys : List Key) {stp : KH → Nat → Option KH}
    {lp : Nat → Nat → KH → Option KH} (lp_zero : ∀ i kh, lp 0 i kh = some kh)
    (lp_succ : ∀ c i kh, lp (c+1) i kh = match stp kh i with | none => none | some kh' => lp c (i+1) kh')
    {A : KH → Prop} (hA : ∀ kh tbl nx, A kh → A { kh with nxt := nx, hashtable := tbl })
    (hstp : ∀ kh i head (hil : i < keys.length), A kh → kh.hashtable[H keys[i] kh.hashsize]? = some head →
      i < kh.nxt.size → stp kh i = some { kh with
        nxt := kh.nxt.set! i head, hashtable := kh.hashtable.set! (H keys[i] kh.hashsize) (some i) })
    (c i : Nat) (kh : KH) (hn : i + c = keys.length) (hpos : 0 < kh.hashsize) (ha : A kh)
    (hnx : keys.length ≤ kh.nxt.size) (hl : Linked H keys kh.hashsize kh.hashtable kh.nxt i) :
    ∃ tbl nx, lp c i kh = some { kh with hashtable := tbl, nxt := nx } ∧ nx.size = kh.nxt.size ∧
      Linked H keys kh.hashsize tbl nx (i + c) := by
  induction c generalizing i kh with
  | zero => exact ⟨kh.hashtable, kh.nxt, lp_zero i kh, rfl, hl⟩
  | succ c ih =>
    have hil : i < keys.length := by omega
    have hv := hH keys[i] kh.hashsize hpos
    obtain ⟨head, _, hh, _, _⟩ := hl.2 _ hv
    have hin : i < kh.nxt.size := by omega
    have hl' := linked_step hl keys[i] (by simp [hil]) head hh hin
    obtain ⟨tbl, nx, h1, h2, h3⟩ := ih (i+1) { kh with
        nxt := kh.nxt.set! i head, hashtable := kh.hashtable.set! (H keys[i] kh.hashsize) (some i) }
      (by omega) hpos (hA kh _ _ ha) (by simpa using hnx) hl'
    refine ⟨tbl, nx, ?_, by simpa using h2, ?_⟩
    · rw [lp_succ, hstp kh i head hil ha hh hin]; exact h1
    · have : i + (c + 1) = i + 1 + c := by omega
      rw [this]; exact h3

theorem rehashLoop_spec (H : Key → Nat → Nat) (hH : HashOK H) (keys : List Key) (c i : Nat) (kh : KH)
    (hn : i + c = keys.length) (hpos : 0 < kh.hashsize)
    (hk : ∀ (i : Nat) (k : Key), keys[i]? = some k → ∃ off, kh.keyOffset[i]? = some off ∧ KeyAt kh.smem off k)
    (hnx : keys.length ≤ kh.nxt.size) (hl : Linked H keys kh.hashsize kh.hashtable kh.nxt i) :
    ∃ ht nx, rehashLoop H c i kh = some { kh with hashtable := ht, nxt := nx } ∧ nx.size = kh.nxt.size ∧
      Linked H keys kh.hashsize ht nx (i + c) :=
  rehash_spec hH keys (stp := rehashStep H) (lp := rehashLoop H) (fun _ _ => rfl) (fun _ _ _ => rfl)
    (A := fun kh => ∀ (i : Nat) (k : Key), keys[i]? = some k → ∃ off, kh.keyOffset[i]? = some off ∧ KeyAt kh.smem off k)
    (fun _ _ _ h => h)
    (fun kh i head hil ha hh hin => by
      obtain ⟨off, ho, hka⟩ := ha i keys[i] (by simp [hil])
      simp [rehashStep, ho, cstrAt_of_keyAt _ _ _ hka, hh, hin])
    c i kh hn hpos hk hnx hl

/-- what `key_upsize` leaves alone, and how far the table size can go -/
def SameAlloc (kh kh' : KH) : Prop :=
  kh'.salloc = kh.salloc ∧ kh'.kalloc = kh.kalloc ∧ kh'.smem = kh.smem ∧ kh'.nkeys = kh.nkeys ∧
  (kh'.hashsize = kh.hashsize ∨ (kh.hashsize < 2^28 ∧ kh'.hashsize = kh.hashsize * 8))

theorem Table.rehashed {H : Key → Nat → Nat} {kh : KH} {keys : List Key} (ht : Table H kh keys) {tbl nx : Array (Option Nat)}
    (hnx : nx.size = kh.nxt.size) (hl : Linked H keys (kh.hashsize * 8) tbl nx kh.nkeys) :
    Table H { kh with hashsize := kh.hashsize * 8, hashtable := tbl, nxt := nx } keys :=
  { ht with
    size_pos := by have := ht.size_pos; show 0 < kh.hashsize * 8; omega
    nxt_size := by show nx.size = kh.kalloc; rw [hnx]; exact ht.nxt_size
    linked := hl }

theorem upsize_spec_full {H : Key → Nat → Nat} {kh : KH} {keys : List Key} (hi : Inv H kh keys) (hH : HashOK H) :
    ∃ kh', upsize H kh = some kh' ∧ Inv H kh' keys ∧ SameAlloc kh kh' := by
  unfold upsize
  by_cases hbig : kh.hashsize ≥ 2^28
  · exact ⟨kh, by simp [hbig], hi, rfl, rfl, rfl, rfl, Or.inl rfl⟩
  · simp only [hbig, ↓reduceIte]
    have hnk := hi.nkeys
    obtain ⟨tbl, nx, h1, h2, h3⟩ := rehashLoop_spec H hH keys kh.nkeys 0
      { kh with hashsize := kh.hashsize * 8, hashtable := Array.replicate (kh.hashsize * 8) none }
      (by omega) (by have := hi.size_pos; show 0 < kh.hashsize * 8; omega) hi.keyAt
      (by show keys.length ≤ kh.nxt.size; rw [hi.nxt_size, ← hi.nkeys]; exact hi.kalloc_ge)
      (linked_empty H keys _ _)
    exact ⟨_, h1, (hi.table.rehashed h2 (by simpa using h3)).inv hi.sn_eq hi.keyAt, rfl, rfl, rfl, rfl, Or.inr ⟨by omega, rfl⟩⟩

theorem upsize_spec {H : Key → Nat → Nat} {kh : KH} {keys : List Key} (hi : Inv H kh keys) (hH : HashOK H) :
    ∃ kh', upsize H kh = some kh' ∧ Inv H kh' keys := by
  obtain ⟨kh', h1, h2, _⟩ := upsize_spec_full hi hH
  exact ⟨kh', h1, h2⟩

theorem growTo_le (need f a r : Nat) (h : growTo need f a = some r) : r = a ∨ r < 2 * need := by
  induction f generalizing a with
  | zero =>
    by_cases hn : need ≤ a
    · simp [growTo, hn] at h; exact Or.inl h.symm
    · simp [growTo, hn] at h
  | succ f ih =>
    by_cases hn : need ≤ a
    · simp [growTo, hn] at h; exact Or.inl h.symm
    · simp only [growTo, hn, ↓reduceIte] at h
      rcases ih (2*a) h with h1 | h1
      · right; omega
      · exact Or.inr h1

theorem growTo_spec (need f a : Nat) (ha : 1 ≤ a) (hf : need ≤ a + f) :
    ∃ r, growTo need f a = some r ∧ need ≤ r ∧ a ≤ r := by
  induction f generalizing a with
  | zero => exact ⟨a, by simp [growTo]; omega, by omega, Nat.le_refl _⟩
  | succ f ih =>
    by_cases h : need ≤ a
    · exact ⟨a, by simp [growTo, h], h, Nat.le_refl _⟩
    · obtain ⟨r, h1, h2, h3⟩ := ih (2*a) (by omega) (by omega)
      exact ⟨r, by simp [growTo, h, h1], h2, by omega⟩

/-- the key-index reallocation of `Store` -/
def growK (kh : KH) : KH :=
  if kh.nkeys == kh.kalloc then
    { kh with keyOffset := kh.keyOffset ++ Array.replicate kh.kalloc 0,
              nxt := kh.nxt ++ Array.replicate kh.kalloc none, kalloc := kh.kalloc * 2 }
  else kh

/-- copy the key, assign its index, link it at the head of its bucket -/
def linkNew (kh : KH) (key : Key) (val : Nat) (head : Option Nat) (salloc : Nat) : KH :=
  { kh with salloc := salloc, keyOffset := kh.keyOffset.set! kh.nkeys kh.smem.size,
            smem := kh.smem ++ key.toArray ++ #[0], nkeys := kh.nkeys + 1,
            nxt := kh.nxt.set! kh.nkeys head, hashtable := kh.hashtable.set! val (some kh.nkeys) }

theorem growK_fields (kh : KH) :
    (growK kh).salloc = kh.salloc ∧ (growK kh).smem = kh.smem ∧ (growK kh).hashsize = kh.hashsize ∧
    (growK kh).hashtable = kh.hashtable ∧ (growK kh).nkeys = kh.nkeys ∧
    ((growK kh).kalloc = kh.kalloc ∨ (growK kh).kalloc = 2 * kh.nkeys) := by
  unfold growK
  split
  · next e =>
    have he : kh.nkeys = kh.kalloc := by simpa using e
    exact ⟨rfl, rfl, rfl, rfl, rfl, Or.inr (by show kh.kalloc * 2 = 2 * kh.nkeys; omega)⟩
  · exact ⟨rfl, rfl, rfl, rfl, rfl, Or.inl rfl⟩

theorem growK_keyOffset (kh : KH) (i : Nat) (h : i < kh.keyOffset.size) : (growK kh).keyOffset[i]? = kh.keyOffset[i]? := by
  unfold growK
  split
  · exact Array.getElem?_append_left h
  · rfl

theorem Table.growK {H : Key → Nat → Nat} {kh : KH} {keys : List Key} (ht : Table H kh keys) :
    Table H (growK kh) keys ∧ (growK kh).nkeys < (growK kh).kalloc := by
  have hkp := ht.kalloc_pos
  have hge := ht.kalloc_ge
  unfold Keyhash.growK
  split
  · next e =>
    have he : kh.nkeys = kh.kalloc := by simpa using e
    refine ⟨{ ht with
      ko_size := by show (kh.keyOffset ++ Array.replicate kh.kalloc 0).size = kh.kalloc * 2; simp [ht.ko_size]; omega
      nxt_size := by show (kh.nxt ++ Array.replicate kh.kalloc none).size = kh.kalloc * 2; simp [ht.nxt_size]; omega
      kalloc_ge := by show kh.nkeys ≤ kh.kalloc * 2; omega
      kalloc_pos := by show 0 < kh.kalloc * 2; omega
      linked := ?_ }, by show kh.nkeys < kh.kalloc * 2; omega⟩
    obtain ⟨hsz, hb⟩ := ht.linked
    refine ⟨hsz, fun b hbs => ?_⟩
    obtain ⟨hd, l, h1, h2, h3⟩ := hb b hbs
    refine ⟨hd, l, h1, h2.congr (fun i hil => ?_), h3⟩
    show (kh.nxt ++ Array.replicate kh.kalloc none)[i]? = kh.nxt[i]?
    rw [Array.getElem?_append_left (by rw [ht.nxt_size]; omega)]
  · next e =>
    have he : ¬ kh.nkeys = kh.kalloc := by simpa using e
    exact ⟨ht, by omega⟩

theorem growK_inv {H : Key → Nat → Nat} {kh : KH} {keys : List Key} (hi : Inv H kh keys) : Inv H (growK kh) keys := by
  obtain ⟨_, hsm, _⟩ := growK_fields kh
  refine hi.table.growK.1.inv (by rw [hsm]; exact hi.sn_eq) (fun i k hk => ?_)
  obtain ⟨off, ho, hka⟩ := hi.keyAt i k hk
  exact ⟨off, by rw [growK_keyOffset kh i (Array.getElem?_eq_some_iff.mp ho).1]; exact ho, by rw [hsm]; exact hka⟩

theorem Table.linkNew {H : Key → Nat → Nat} {kh : KH} {keys : List Key} (ht : Table H kh keys) (key : Key)
    (hlt : kh.nkeys < kh.kalloc) (hnew : key ∉ keys) (head : Option Nat)
    (hh : kh.hashtable[H key kh.hashsize]? = some head) (salloc : Nat) (hs : kh.smem.size + key.length + 1 ≤ salloc) :
    Table H (linkNew kh key (H key kh.hashsize) head salloc) (keys ++ [key]) where
  nkeys := by show kh.nkeys + 1 = (keys ++ [key]).length; simp [ht.nkeys]
  size_pos := ht.size_pos
  ko_size := by show (kh.keyOffset.set! kh.nkeys kh.smem.size).size = kh.kalloc; simp [ht.ko_size]
  nxt_size := by show (kh.nxt.set! kh.nkeys head).size = kh.kalloc; simp [ht.nxt_size]
  kalloc_ge := by show kh.nkeys + 1 ≤ kh.kalloc; omega
  kalloc_pos := ht.kalloc_pos
  salloc_pos := by show 0 < salloc; omega
  sn_le := by show (kh.smem ++ key.toArray ++ #[0]).size ≤ salloc; simp; omega
  nodup := by
    rw [List.nodup_append]
    refine ⟨ht.nodup, by simp, ?_⟩
    intro a ha b hb
    simp at hb; subst hb
    intro h; subst h; exact hnew ha
  linked := by
    show Linked H (keys ++ [key]) kh.hashsize (kh.hashtable.set! (H key kh.hashsize) (some kh.nkeys))
      (kh.nxt.set! kh.nkeys head) (kh.nkeys + 1)
    have hl := linked_keys_append ht.linked (by rw [ht.nkeys]; exact Nat.le_refl _) [key]
    exact linked_step hl key (by rw [ht.nkeys]; simp) head hh (by rw [ht.nxt_size]; exact hlt)

theorem linkNew_inv {H : Key → Nat → Nat} {kh : KH} {keys : List Key} (hi : Inv H kh keys) (key : Key)
    (hlt : kh.nkeys < kh.kalloc) (hnew : key ∉ keys) (h0 : (0 : UInt8) ∉ key) (head : Option Nat)
    (hh : kh.hashtable[H key kh.hashsize]? = some head) (salloc : Nat) (hs : kh.smem.size + key.length + 1 ≤ salloc) :
    Inv H (linkNew kh key (H key kh.hashsize) head salloc) (keys ++ [key]) := by
  refine (hi.table.linkNew key hlt hnew head hh salloc hs).inv ?_ (fun i k hk => ?_)
  · show (kh.smem ++ key.toArray ++ #[0]).size = ((keys ++ [key]).map (fun k => k.length + 1)).sum
    simp [hi.sn_eq]
  · show ∃ off, (kh.keyOffset.set! kh.nkeys kh.smem.size)[i]? = some off ∧ KeyAt (kh.smem ++ key.toArray ++ #[0]) off k
    rw [Array.set!_eq_setIfInBounds, Array.getElem?_setIfInBounds]
    by_cases hil : i < keys.length
    · rw [List.getElem?_append_left hil] at hk
      obtain ⟨off, ho, hka⟩ := hi.keyAt i k hk
      have : kh.nkeys ≠ i := by rw [hi.nkeys]; omega
      exact ⟨off, by simp [this, ho], keyAt_append _ (keyAt_append _ hka)⟩
    · have hie : i = keys.length := by
        have := (List.getElem?_eq_some_iff.mp hk).1
        simp at this; omega
      subst hie
      simp at hk; subst hk
      refine ⟨kh.smem.size, ?_, keyAt_new _ _ h0⟩
      simp [hi.nkeys, hi.ko_size]; rw [← hi.nkeys]; exact hlt

/-- how the allocations and the table size of a Store's result relate to the old ones: they stay, or are less than twice
    what the new content needs; the table grows 8-fold only from below `2^28` -/
def AllocStep (kh kh' : KH) (key : Key) : Prop :=
  (kh'.salloc = kh.salloc ∨ kh'.salloc < 2 * (kh.smem.size + key.length + 1)) ∧
  (kh'.kalloc = kh.kalloc ∨ kh'.kalloc = 2 * kh.nkeys) ∧
  (kh'.hashsize = kh.hashsize ∨ (kh.hashsize < 2^28 ∧ kh'.hashsize = kh.hashsize * 8))

/-- `Store` once the chain walk has not found the key: reallocation, copy, linking at the head of bucket `val`, growth
    (`up` is the version's `key_upsize`) -/
def storeNew (up : KH → Option KH) (kh : KH) (key : Key) (val : Nat) (head : Option Nat) : Option (KH × Status × Nat) :=
  match growTo ((growK kh).smem.size + key.length + 1) ((growK kh).smem.size + key.length + 1) (growK kh).salloc with
  | none => none
  | some salloc =>
    if ¬ ((growK kh).nkeys < (growK kh).keyOffset.size ∧ (growK kh).nkeys < (growK kh).nxt.size ∧
          (growK kh).smem.size + key.length + 1 ≤ salloc) then none
    else
      if (linkNew (growK kh) key val head salloc).nkeys > 3 * (linkNew (growK kh) key val head salloc).hashsize then
        match up (linkNew (growK kh) key val head salloc) with
        | none => none
        | some kh' => some (kh', .ok, (growK kh).nkeys)
      else some (linkNew (growK kh) key val head salloc, .ok, (growK kh).nkeys)

theorem store_new_unfold (H : Key → Nat → Nat) (kh : KH) (key : Key) (head : Option Nat)
    (hh : kh.hashtable[H key kh.hashsize]? = some head) (hw : walk kh key kh.nkeys head = some none) :
    store H kh key = storeNew (upsize H) kh key (H key kh.hashsize) head := by
  unfold store
  simp only [hh, hw]
  rfl

theorem storeNew_spec {I : KH → List Key → Prop} {H : Key → Nat → Nat} {kh : KH} {keys : List Key} {key : Key}
    {head : Option Nat} {up : KH → Option KH} (ht : Table H kh keys)
    (hlink : ∀ salloc, (growK kh).smem.size + key.length + 1 ≤ salloc →
      I (linkNew (growK kh) key (H key kh.hashsize) head salloc) (keys ++ [key]))
    (hup : ∀ kh1, I kh1 (keys ++ [key]) → ∃ kh', up kh1 = some kh' ∧ I kh' (keys ++ [key]) ∧ SameAlloc kh1 kh') :
    ∃ kh', storeNew up kh key (H key kh.hashsize) head = some (kh', .ok, keys.length) ∧ I kh' (keys ++ [key]) ∧
      AllocStep kh kh' key := by
  obtain ⟨ht1, hlt⟩ := ht.growK
  obtain ⟨gsa, gsm, ghs, _, gnk, hka⟩ := growK_fields kh
  obtain ⟨salloc, hg, hneed, _⟩ := growTo_spec ((growK kh).smem.size + key.length + 1)
    ((growK kh).smem.size + key.length + 1) (growK kh).salloc ht1.salloc_pos (by omega)
  have hle := growTo_le _ _ _ _ hg
  rw [gsa, gsm] at hle
  have hc : (growK kh).nkeys < (growK kh).keyOffset.size ∧ (growK kh).nkeys < (growK kh).nxt.size ∧
      (growK kh).smem.size + key.length + 1 ≤ salloc := by
    rw [ht1.ko_size, ht1.nxt_size]; exact ⟨hlt, hlt, hneed⟩
  have hidx : (growK kh).nkeys = keys.length := by rw [gnk]; exact ht.nkeys
  have hi2 := hlink salloc hneed
  unfold storeNew
  simp only [hg, hc, and_self, not_true_eq_false, ↓reduceIte]
  rw [hidx]
  by_cases hbig : (linkNew (growK kh) key (H key kh.hashsize) head salloc).nkeys >
      3 * (linkNew (growK kh) key (H key kh.hashsize) head salloc).hashsize
  · obtain ⟨kh', hu, hi3, a1, a2, _, _, a5⟩ := hup _ hi2
    refine ⟨kh', by simp only [hbig, ↓reduceIte, hu], hi3, ?_, ?_, ?_⟩
    · rw [a1]; exact hle
    · rw [a2]; exact hka
    · rcases a5 with h | ⟨h1, h2⟩
      · left; rw [h]; exact ghs
      · right; exact ⟨by rw [← ghs]; exact h1, by rw [h2]; congr 1⟩
  · exact ⟨_, by simp only [hbig, ↓reduceIte], hi2, hle, hka, Or.inl ghs⟩

theorem store_spec_full {H : Key → Nat → Nat} {kh : KH} {keys : List Key} (hi : Inv H kh keys) (hH : HashOK H) (key : Key)
    (h0 : (0 : UInt8) ∉ key) :
    (key ∈ keys → store H kh key = some (kh, .edup, keys.idxOf key)) ∧
    (key ∉ keys → ∃ kh', store H kh key = some (kh', .ok, keys.length) ∧ Inv H kh' (keys ++ [key]) ∧ AllocStep kh kh' key) := by
  obtain ⟨head, hh, hw⟩ := walk_inv hi hH key
  refine ⟨fun hm => ?_, fun hm => ?_⟩
  · simp only [hm, ↓reduceIte] at hw
    unfold store
    simp only [hh, hw]
  · simp only [hm, ↓reduceIte] at hw
    rw [store_new_unfold H kh key head hh hw]
    obtain ⟨_, _, ghs, ght, _⟩ := growK_fields kh
    refine storeNew_spec hi.table (fun salloc hs => ?_) (fun kh1 h1 => upsize_spec_full h1 hH)
    have := linkNew_inv (growK_inv hi) key hi.table.growK.2 hm h0 head (by rw [ght, ghs]; exact hh) salloc hs
    rwa [ghs] at this

theorem store_spec {H : Key → Nat → Nat} {kh : KH} {keys : List Key} (hi : Inv H kh keys) (hH : HashOK H) (key : Key)
    (h0 : (0 : UInt8) ∉ key) :
    (key ∈ keys → store H kh key = some (kh, .edup, keys.idxOf key)) ∧
    (key ∉ keys → ∃ kh', store H kh key = some (kh', .ok, keys.length) ∧ Inv H kh' (keys ++ [key])) := by
  obtain ⟨h1, h2⟩ := store_spec_full hi hH key h0
  refine ⟨h1, fun hm => ?_⟩
  obtain ⟨kh', a, b, _⟩ := h2 hm
  exact ⟨kh', a, b⟩

theorem Table.reuse {H : Key → Nat → Nat} {kh : KH} {keys : List Key} (ht : Table H kh keys) : Table H (reuse kh) [] :=
  { ht with
    nkeys := rfl
    kalloc_ge := Nat.zero_le _
    sn_le := by show (#[] : Array UInt8).size ≤ kh.salloc; simp
    nodup := List.nodup_nil
    linked := linked_empty H [] _ _ }

theorem reuse_inv {H : Key → Nat → Nat} {kh : KH} {keys : List Key} (hi : Inv H kh keys) : Inv H (reuse kh) [] :=
  hi.table.reuse.inv (by show (#[] : Array UInt8).size = _; simp) (by intro i k h; simp at h)

theorem clone_prefix {α : Type} (a : Array α) (n kalloc : Nat) (v : α) (i : Nat) (hi : i < n) (hn : n ≤ a.size) :
    ((a.extract 0 n) ++ ((Array.replicate kalloc v).extract n (Array.replicate kalloc v).size))[i]? = a[i]? := by
  rw [Array.getElem?_append_left (by simp; omega), Array.getElem?_extract]
  simp; omega

theorem clone_prefix_size {α : Type} (a : Array α) (n kalloc : Nat) (v : α) (hn : n ≤ kalloc) (ha : a.size = kalloc) :
    ((a.extract 0 n) ++ ((Array.replicate kalloc v).extract n (Array.replicate kalloc v).size)).size = kalloc := by
  simp; omega

theorem Table.clone {H : Key → Nat → Nat} {kh : KH} {keys : List Key} (ht : Table H kh keys) : Table H (clone kh) keys :=
  { ht with
    ko_size := clone_prefix_size kh.keyOffset kh.nkeys kh.kalloc 0 ht.kalloc_ge ht.ko_size
    nxt_size := clone_prefix_size kh.nxt kh.nkeys kh.kalloc none ht.kalloc_ge ht.nxt_size
    linked := by
      obtain ⟨hsz, hb⟩ := ht.linked
      refine ⟨hsz, fun b hbs => ?_⟩
      obtain ⟨hd, l, h1, h2, h3⟩ := hb b hbs
      exact ⟨hd, l, h1, h2.congr (fun i hil =>
        clone_prefix kh.nxt kh.nkeys kh.kalloc none i hil (by rw [ht.nxt_size]; exact ht.kalloc_ge)), h3⟩ }

theorem clone_keyOffset {H : Key → Nat → Nat} {kh : KH} {keys : List Key} (ht : Table H kh keys) (i : Nat) (hi : i < kh.nkeys) :
    (clone kh).keyOffset[i]? = kh.keyOffset[i]? :=
  clone_prefix kh.keyOffset kh.nkeys kh.kalloc 0 i hi (by rw [ht.ko_size]; exact ht.kalloc_ge)

theorem clone_inv {H : Key → Nat → Nat} {kh : KH} {keys : List Key} (hi : Inv H kh keys) : Inv H (clone kh) keys := by
  refine hi.table.clone.inv hi.sn_eq (fun i k hk => ?_)
  obtain ⟨off, ho, hka⟩ := hi.keyAt i k hk
  have hil : i < kh.nkeys := by rw [hi.nkeys]; exact (List.getElem?_eq_some_iff.mp hk).1
  exact ⟨off, by rw [clone_keyOffset hi.table i hil]; exact ho, hka⟩

/-- keys given by explicit length must not contain a NUL: the code modelled in `Keyhash.lean` (before the repair, see
    `KeyhashFixed.lean`) delimits a stored key by its NUL; C strings (`storeStr`, `lookupStr`) are free -/
def Op.NulFree : Op → Prop
  | .store k => (0 : UInt8) ∉ k
  | .lookup k => (0 : UInt8) ∉ k
  | _ => True

theorem cstrOf_nulfree (k : Key) : (0 : UInt8) ∉ cstrOf k := by
  unfold cstrOf
  induction k with
  | nil => simp
  | cons a t ih =>
    by_cases ha : a = 0
    · subst ha; simp
    · simp only [List.takeWhile_cons, bne_iff_ne, ne_eq, ha, not_false_eq_true, ↓reduceIte, List.mem_cons, not_or]
      exact ⟨fun h => ha h.symm, ih⟩

theorem cstrOf_eq_self (k : Key) (h : (0 : UInt8) ∉ k) : cstrOf k = k := by
  unfold cstrOf
  induction k with
  | nil => rfl
  | cons a t ih =>
    have ha : a ≠ 0 := by intro h0; subst h0; exact h (by simp)
    have ht : (0 : UInt8) ∉ t := by intro h0; exact h (by simp [h0])
    simp [ha, ih ht]

/-! Both versions of the code run a history through the same `step`; they differ in the `Store`, `Lookup` and `Get` it
calls. That histories refine the abstract type holds for any three such functions that answer as `Refines` says. -/

/-- `step` (and `stepF`) with the three calls as parameters -/
def stepWith (st : KH → Key → Option (KH × Status × Nat)) (lk : KH → Key → Option (Status × Nat))
    (gt : KH → Nat → Option Key) (kh : KH) : Op → Option (KH × Out)
  | .store k => (st kh k).map fun (kh', s, idx) => (kh', .stored (s == .edup) idx)
  | .lookup k => (lk kh k).map fun (s, idx) => (kh, if s == .ok then .found idx else .notfound)
  | .get i => (gt kh i).map fun k => (kh, .key k)
  | .number => some (kh, .num kh.nkeys)
  | .reuse => some (reuse kh, .done)
  | .clone => some (clone kh, .done)
  | .storeStr k => (st kh (cstrOf k)).map fun (kh', s, idx) => (kh', .stored (s == .edup) idx)
  | .lookupStr k => (lk kh (cstrOf k)).map fun (s, idx) => (kh, if s == .ok then .found idx else .notfound)

theorem step_eq (H : Key → Nat → Nat) (kh : KH) (op : Op) : step H kh op = stepWith (store H) (lookup H) get kh op := by
  cases op <;> rfl

/-- `Store`, `Lookup`, `Get` answer as the abstract type on the states related to a key list by `I`: for stored keys
    satisfying `P`, and as long as the new content satisfies `Q` (`True`, or the bound under which no C field overflows) -/
structure Refines (I : KH → List Key → Prop) (P : Key → Prop) (Q : List Key → Prop)
    (st : KH → Key → Option (KH × Status × Nat)) (lk : KH → Key → Option (Status × Nat)) (gt : KH → Nat → Option Key) :
    Prop where
  store_old : ∀ {kh keys} key, I kh keys → P key → key ∈ keys → st kh key = some (kh, .edup, keys.idxOf key)
  store_new : ∀ {kh keys} key, I kh keys → P key → key ∉ keys → Q (keys ++ [key]) →
    ∃ kh', st kh key = some (kh', .ok, keys.length) ∧ I kh' (keys ++ [key])
  lookup : ∀ {kh keys} key, I kh keys →
    lk kh key = some (if key ∈ keys then (.ok, keys.idxOf key) else (.enotfound, 0))
  get : ∀ {kh keys} i, I kh keys → gt kh i = keys[i]?
  nkeys : ∀ {kh keys}, I kh keys → kh.nkeys = keys.length
  on_reuse : ∀ {kh keys}, I kh keys → I (reuse kh) []
  on_clone : ∀ {kh keys}, I kh keys → I (clone kh) keys
  cstr : ∀ k, P (cstrOf k)

/-- the result `r` of a step answers as `specStep` does (a fault exactly where the abstract type is undefined) and re-establishes
    `I`, provided the new content satisfies `Q` -/
def StepOk (I : KH → List Key → Prop) (Q : List Key → Prop) (r : Option (KH × Out)) (keys : List Key) (op : Op) : Prop :=
  match specStep keys op with
  | none => r = none
  | some (keys', o) => Q keys' → ∃ kh', r = some (kh', o) ∧ I kh' keys'

theorem Refines.step {I P Q st lk gt} (R : Refines I P Q st lk gt) {kh : KH} {keys : List Key} (hi : I kh keys) (op : Op)
    (hop : ∀ k, op = .store k → P k) : StepOk I Q (stepWith st lk gt kh op) keys op := by
  have stored : ∀ key, P key → StepOk I Q (stepWith st lk gt kh (.store key)) keys (.store key) := by
    intro key hp
    unfold StepOk
    by_cases hm : key ∈ keys
    · simp only [specStep, hm, ↓reduceIte]
      exact fun _ => ⟨kh, by simp [stepWith, R.store_old key hi hp hm], hi⟩
    · simp only [specStep, hm, ↓reduceIte]
      intro hq
      obtain ⟨kh', h1, h2⟩ := R.store_new key hi hp hm hq
      exact ⟨kh', by simp [stepWith, h1], h2⟩
  have looked : ∀ key, StepOk I Q (stepWith st lk gt kh (.lookup key)) keys (.lookup key) := by
    intro key
    unfold StepOk
    by_cases hm : key ∈ keys <;> simp only [specStep, hm, ↓reduceIte] <;>
      exact fun _ => ⟨kh, by simp [stepWith, R.lookup key hi, hm], hi⟩
  -- the string calls are the buffer calls on `cstrOf k`, in the code and in the abstract type
  cases op with
  | store k => exact stored k (hop k rfl)
  | storeStr k => exact stored (cstrOf k) (R.cstr k)
  | lookup k => exact looked k
  | lookupStr k => exact looked (cstrOf k)
  | get i =>
    unfold StepOk
    cases hk : keys[i]? with
    | none => simp [specStep, stepWith, hk, R.get i hi]
    | some k =>
      simp only [specStep, hk, Option.map_some]
      exact fun _ => ⟨kh, by simp [stepWith, R.get i hi, hk], hi⟩
  | number => exact fun _ => ⟨kh, by simp [stepWith, R.nkeys hi], hi⟩
  | reuse => exact fun _ => ⟨reuse kh, rfl, R.on_reuse hi⟩
  | clone => exact fun _ => ⟨clone kh, rfl, R.on_clone hi⟩

theorem run_refines {I : KH → List Key → Prop} {Ok : Op → Prop} {stp : KH → Op → Option (KH × Out)}
    {rn : KH → List Op → Option (List Out)} (rn_nil : ∀ kh, rn kh [] = some [])
    (rn_cons : ∀ kh op rest, rn kh (op :: rest) =
      match stp kh op with | none => none | some (kh', o) => (rn kh' rest).map (o :: ·))
    (hstep : ∀ kh keys op, I kh keys → Ok op → StepOk I (fun _ => True) (stp kh op) keys op)
    (ops : List Op) (kh : KH) (keys : List Key) (hi : I kh keys) (hops : ∀ op ∈ ops, Ok op) :
    rn kh ops = specRun keys ops := by
  induction ops generalizing kh keys with
  | nil => exact rn_nil kh
  | cons op rest ih =>
    have hs := hstep kh keys op hi (hops op (by simp))
    unfold StepOk at hs
    rw [rn_cons]
    simp only [specRun]
    cases hsp : specStep keys op with
    | none => simp only [hsp] at hs; simp [hs]
    | some r =>
      obtain ⟨keys', o⟩ := r
      simp only [hsp] at hs
      obtain ⟨kh', h1, h2⟩ := hs trivial
      simp only [h1]
      rw [ih kh' keys' h2 (fun op h => hops op (by simp [h]))]

theorem refines_inv {H : Key → Nat → Nat} (hH : HashOK H) :
    Refines (Inv H) (fun k => (0 : UInt8) ∉ k) (fun _ => True) (store H) (lookup H) get where
  store_old key hi h0 := (store_spec hi hH key h0).1
  store_new key hi h0 hm _ := (store_spec hi hH key h0).2 hm
  lookup key hi := lookup_spec hi hH key
  get i hi := get_spec hi i
  nkeys hi := hi.nkeys
  on_reuse hi := reuse_inv hi
  on_clone hi := clone_inv hi
  cstr := cstrOf_nulfree

theorem step_spec {H : Key → Nat → Nat} {kh : KH} {keys : List Key} (hi : Inv H kh keys) (hH : HashOK H) (op : Op)
    (hop : ∀ k, op = .store k → (0 : UInt8) ∉ k) : StepOk (Inv H) (fun _ => True) (step H kh op) keys op := by
  rw [step_eq]; exact (refines_inv hH).step hi op hop

theorem run_spec {H : Key → Nat → Nat} (hH : HashOK H) (ops : List Op) (kh : KH) (keys : List Key) (hi : Inv H kh keys)
    (hops : ∀ op ∈ ops, op.NulFree) : run H kh ops = specRun keys ops :=
  run_refines (fun _ => rfl) (fun _ _ _ => rfl)
    (fun _ _ op hi hop => step_spec hi hH op (fun k e => by subst e; exact hop)) ops kh keys hi hops

theorem specRun_isSome_of_no_get (ops : List Op) (keys : List Key) (h : ∀ op ∈ ops, ∀ i, op ≠ .get i) :
    (specRun keys ops).isSome = true := by
  induction ops generalizing keys with
  | nil => rfl
  | cons op rest ih =>
    have hr : ∀ op ∈ rest, ∀ i, op ≠ .get i := fun o ho => h o (by simp [ho])
    cases op with
    | store k =>
      by_cases hk : k ∈ keys <;> simp [specRun, specStep, hk, ih _ hr]
    | lookup k =>
      by_cases hk : k ∈ keys <;> simp [specRun, specStep, hk, ih _ hr]
    | get i => exact absurd rfl (h (.get i) (by simp) i)
    | number => simp [specRun, specStep, ih _ hr]
    | reuse => simp [specRun, specStep, ih _ hr]
    | clone => simp [specRun, specStep, ih _ hr]
    | storeStr k =>
      by_cases hk : cstrOf k ∈ keys <;> simp [specRun, specStep, hk, ih _ hr]
    | lookupStr k =>
      by_cases hk : cstrOf k ∈ keys <;> simp [specRun, specStep, hk, ih _ hr]

theorem jenkins_ok : HashOK jenkins := by
  intro k sz hsz
  unfold jenkins
  have := @Nat.and_le_right (jenkinsFinal (List.foldl jenkinsStep 0 k)).toNat (sz - 1)
  omega

end EaselModel.Containers.Keyhash
