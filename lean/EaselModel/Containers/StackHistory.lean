import EaselModel.Containers.StackLemmas
/-! # esl_stack.c — histories: every sequence of operations refines the abstract LIFO list; with shuffles (any generator
states) the content stays a permutation of what the list predicts, and the only step that can fail is a shuffle whose Roll
ran out of fuel. In mutex mode each operation is atomic, so a concurrent execution is an interleaving (`threads_atomic`). -/
namespace EaselModel.Containers.Stack
open EaselModel.Random
variable {α : Type}

/-- operations of a history (`discardSelected` carries the caller's predicate) -/
inductive SOp (α : Type)
  | push (x : α) | pop | discardTopN (n : Nat) | discardSelected (p : α → Bool) | reuse | count
  | shuffle (seed : Rng)        -- shuffle with a generator in an arbitrary state

inductive SOut (α : Type) | done | val (x : α) | eod | num (n : Nat)
deriving DecidableEq

/-- one operation on the model stack; `none` = fault (or a Roll that ran out of fuel) -/
def stepS (rollFuel : Nat) (s : Stack α) : SOp α → Option (Stack α × SOut α)
  | .push x => (push s x).map fun s' => (s', .done)
  | .pop => some (match pop s with | (s', some x) => (s', .val x) | (s', none) => (s', .eod))
  | .discardTopN n => some (discardTopN s n, .done)
  | .discardSelected p => (discardSelected s p).map fun s' => (s', .done)
  | .reuse => some (reuse s, .done)
  | .count => some (s, .num (count s))
  | .shuffle r => (shuffle rollFuel r s).map fun (s', _) => (s', .done)

def runS (rollFuel : Nat) : Stack α → List (SOp α) → Option (List (SOut α))
  | _, [] => some []
  | s, op :: rest =>
    match stepS rollFuel s op with
    | none => none
    | some (s', o) => (runS rollFuel s' rest).map (o :: ·)

/-- the abstract LIFO: a list whose LAST element is the top (= `data.toList`); defined for histories without shuffle -/
def specStepS (l : List α) : SOp α → (List α × SOut α)
  | .push x => (l ++ [x], .done)
  | .pop => match l.getLast? with | none => (l, .eod) | some x => (l.dropLast, .val x)
  | .discardTopN n => (l.take (l.length - n), .done)
  | .discardSelected p => (l.filter (fun x => !p x), .done)
  | .reuse => ([], .done)
  | .count => (l, .num l.length)
  | .shuffle _ => (l, .done)        -- only used through `NoShuffle` histories

def specRunS : List α → List (SOp α) → List (SOut α)
  | _, [] => []
  | l, op :: rest => let (l', o) := specStepS l op; o :: specRunS l' rest

def SOp.isShuffle : SOp α → Bool | .shuffle _ => true | _ => false

/-- the multiset evolution: `discardSelected`, `push`, `reuse`, `count`, `shuffle` commute with permutations -/
def SOp.orderFree : SOp α → Bool | .pop => false | .discardTopN _ => false | _ => true

def finalS (rollFuel : Nat) : Stack α → List (SOp α) → Option (Stack α)
  | s, [] => some s
  | s, op :: rest => match stepS rollFuel s op with | none => none | some (s', _) => finalS rollFuel s' rest

def specFinalS : List α → List (SOp α) → List α
  | l, [] => l
  | l, op :: rest => specFinalS (specStepS l op).1 rest

theorem discardTopN_nalloc (s : Stack α) (n : Nat) : (discardTopN s n).nalloc = s.nalloc := by
  unfold discardTopN
  split <;> rfl

theorem discardTopN_inv (s : Stack α) (n : Nat) (hi : Inv s) : Inv (discardTopN s n) := by
  have h1 := congrArg List.length (discardTopN_toList s n)
  have h2 := discardTopN_nalloc s n
  simp only [Array.length_toList, List.length_take] at h1
  simp only [Inv] at *
  omega

theorem discardSelected_inv (s s' : Stack α) (p : α → Bool) (hi : Inv s) (hn : s'.nalloc = s.nalloc)
    (hd : s'.data.toList = s.data.toList.filter (fun x => !p x)) : Inv s' := by
  have h1 := congrArg List.length hd
  have h2 := List.length_filter_le (fun x => !p x) s.data.toList
  simp only [Array.length_toList] at h1 h2
  simp only [Inv] at *
  omega

theorem reuse_inv (s : Stack α) (hi : Inv s) : Inv (reuse s) := by
  simp only [Inv, reuse] at *
  simp; omega

theorem shuffle_inv (f : Nat) (r r' : Rng) (s s' : Stack α) (hi : Inv s) (h : shuffle f r s = some (s', r')) :
    Inv s' := by
  obtain ⟨hp, hn⟩ := shuffle_perm f r r' s s' h
  have := hp.length_eq
  simp only [Array.length_toList] at this
  simp only [Inv] at *
  omega

theorem pop_of_getLast?_none (s : Stack α) (h : s.data.toList.getLast? = none) : pop s = (s, none) := by
  have hb : s.data.back? = none := by simpa using h
  simp [pop, hb]

theorem pop_of_getLast?_some (s : Stack α) (x : α) (h : s.data.toList.getLast? = some x) :
    ∃ s', pop s = (s', some x) ∧ s'.nalloc = s.nalloc ∧ s'.data.toList = s.data.toList.dropLast := by
  have hb : s.data.back? = some x := by simpa using h
  refine ⟨{ s with data := s.data.pop }, ?_, rfl, ?_⟩
  · simp [pop, hb]
  · simp [Array.toList_pop]

theorem stepS_refines (f : Nat) (s : Stack α) (hi : Inv s) (op : SOp α) (hns : op.isShuffle = false) :
    ∃ s', stepS f s op = some (s', (specStepS s.data.toList op).2) ∧ Inv s' ∧
      s'.data.toList = (specStepS s.data.toList op).1 := by
  cases op with
  | push x =>
    obtain ⟨s', h1, h2, h3⟩ := push_spec s x hi
    refine ⟨s', ?_, h2, ?_⟩
    · simp [stepS, specStepS, h1]
    · simp [specStepS, h3]
  | pop =>
    cases hl : s.data.toList.getLast? with
    | none =>
      refine ⟨s, ?_, hi, ?_⟩
      · simp only [stepS, specStepS, hl, pop_of_getLast?_none s hl]
      · simp only [specStepS, hl]
    | some x =>
      obtain ⟨s', h1, h2, h3⟩ := pop_of_getLast?_some s x hl
      refine ⟨s', ?_, ?_, ?_⟩
      · simp only [stepS, specStepS, hl, h1]
      · have := pop_inv s hi
        rw [h1] at this
        exact this
      · simp only [specStepS, hl, h3]
  | discardTopN n =>
    refine ⟨discardTopN s n, ?_, discardTopN_inv s n hi, ?_⟩
    · simp only [stepS, specStepS]
    · simp only [specStepS, discardTopN_toList, Array.length_toList]
  | discardSelected p =>
    obtain ⟨s', h1, h2, h3⟩ := discardSelected_spec s p
    refine ⟨s', ?_, discardSelected_inv s s' p hi h2 h3, ?_⟩
    · simp [stepS, specStepS, h1]
    · simp only [specStepS, h3]
  | reuse =>
    refine ⟨reuse s, ?_, reuse_inv s hi, ?_⟩
    · simp only [stepS, specStepS]
    · simp [specStepS, reuse]
  | count =>
    refine ⟨s, ?_, hi, ?_⟩
    · simp [stepS, specStepS, count]
    · simp only [specStepS]
  | shuffle r => simp [SOp.isShuffle] at hns

/-- the only way `stepS` returns `none` on a valid stack is a `shuffle` (whose Roll ran out of fuel) -/
theorem stepS_isSome (rollFuel : Nat) (s : Stack α) (hi : Inv s) (op : SOp α) (hns : op.isShuffle = false) :
    (stepS rollFuel s op).isSome = true := by
  obtain ⟨s', h, _, _⟩ := stepS_refines rollFuel s hi op hns
  simp [h]

/-- a failing step on a valid stack is a shuffle whose `shuffle` returned `none` -/
theorem stepS_none_iff (rollFuel : Nat) (s : Stack α) (hi : Inv s) (op : SOp α) :
    stepS rollFuel s op = none ↔ ∃ r, op = .shuffle r ∧ shuffle rollFuel r s = none := by
  constructor
  · intro h
    cases hsh : op.isShuffle with
    | false =>
      have := stepS_isSome rollFuel s hi op hsh
      simp [h] at this
    | true =>
      cases op with
      | shuffle r =>
        refine ⟨r, rfl, ?_⟩
        simpa [stepS] using h
      | _ => simp [SOp.isShuffle] at hsh
  · rintro ⟨r, rfl, h⟩
    simp [stepS, h]

theorem stepS_multiset (f : Nat) (s : Stack α) (hi : Inv s) (l : List α) (hp : s.data.toList.Perm l) (op : SOp α)
    (hof : op.orderFree = true) (s' : Stack α) (o : SOut α) (h : stepS f s op = some (s', o)) :
    s'.data.toList.Perm (specStepS l op).1 ∧ Inv s' ∧ o = (specStepS l op).2 := by
  cases op with
  | pop => simp [SOp.orderFree] at hof
  | discardTopN n => simp [SOp.orderFree] at hof
  | shuffle r =>
    simp only [stepS, Option.map_eq_some_iff, Prod.mk.injEq] at h
    obtain ⟨⟨s1, r1⟩, h1, h2, h3⟩ := h
    subst h2; subst h3
    exact ⟨(shuffle_perm f r r1 s s1 h1).1.trans hp, shuffle_inv f r r1 s s1 hi h1, rfl⟩
  | push x =>
    obtain ⟨s1, h1, h2, h3⟩ := push_spec s x hi
    simp only [stepS, h1, Option.map_some, Option.some.injEq, Prod.mk.injEq] at h
    obtain ⟨rfl, rfl⟩ := h
    refine ⟨?_, h2, rfl⟩
    simp only [specStepS, h3, Array.toList_push]
    exact hp.append_right [x]
  | discardSelected p =>
    obtain ⟨s1, h1, h2, h3⟩ := discardSelected_spec s p
    simp only [stepS, h1, Option.map_some, Option.some.injEq, Prod.mk.injEq] at h
    obtain ⟨rfl, rfl⟩ := h
    refine ⟨?_, discardSelected_inv s s1 p hi h2 h3, rfl⟩
    simp only [specStepS, h3]
    exact hp.filter _
  | reuse =>
    simp only [stepS, Option.some.injEq, Prod.mk.injEq] at h
    obtain ⟨rfl, rfl⟩ := h
    refine ⟨?_, reuse_inv s hi, rfl⟩
    simp [specStepS, reuse]
  | count =>
    simp only [stepS, Option.some.injEq, Prod.mk.injEq] at h
    obtain ⟨rfl, rfl⟩ := h
    refine ⟨by simpa [specStepS] using hp, hi, ?_⟩
    have := hp.length_eq
    simp only [Array.length_toList] at this
    simp [specStepS, count, this]

theorem stack_history_refines (rollFuel : Nat) (s : Stack α) (hi : Inv s) (ops : List (SOp α))
    (hns : ∀ op ∈ ops, op.isShuffle = false) :
    runS rollFuel s ops = some (specRunS s.data.toList ops) := by
  induction ops generalizing s with
  | nil => rfl
  | cons op rest ih =>
    obtain ⟨s', h1, h2, h3⟩ := stepS_refines rollFuel s hi op (hns op (by simp))
    have := ih s' h2 (fun o ho => hns o (by simp [ho]))
    simp only [runS, h1, this, specRunS, h3, Option.map_some]

/-- the final stack of a history without shuffle is valid and holds the abstract final list -/
theorem stack_history_final (rollFuel : Nat) (s : Stack α) (hi : Inv s) (ops : List (SOp α))
    (hns : ∀ op ∈ ops, op.isShuffle = false) :
    ∃ s', finalS rollFuel s ops = some s' ∧ Inv s' ∧ s'.data.toList = specFinalS s.data.toList ops := by
  induction ops generalizing s with
  | nil => exact ⟨s, rfl, hi, rfl⟩
  | cons op rest ih =>
    obtain ⟨s1, h1, h2, h3⟩ := stepS_refines rollFuel s hi op (hns op (by simp))
    obtain ⟨s2, g1, g2, g3⟩ := ih s1 h2 (fun o ho => hns o (by simp [ho]))
    exact ⟨s2, by simp only [finalS, h1, g1], g2, by simp only [specFinalS, ← h3, g3]⟩

theorem stack_history_multiset (rollFuel : Nat) (s : Stack α) (hi : Inv s) (l : List α) (hp : s.data.toList.Perm l)
    (ops : List (SOp α)) (hof : ∀ op ∈ ops, op.orderFree = true) (s' : Stack α)
    (h : finalS rollFuel s ops = some s') :
    s'.data.toList.Perm (specFinalS l ops) ∧ Inv s' := by
  induction ops generalizing s l with
  | nil =>
    simp only [finalS, Option.some.injEq] at h
    subst h
    exact ⟨hp, hi⟩
  | cons op rest ih =>
    simp only [finalS] at h
    cases hs : stepS rollFuel s op with
    | none => simp [hs] at h
    | some so =>
      obtain ⟨s1, o⟩ := so
      simp only [hs] at h
      obtain ⟨p1, i1, _⟩ := stepS_multiset rollFuel s hi l hp op (hof op (by simp)) s1 o hs
      exact ih s1 i1 _ p1 (fun o ho => hof o (by simp [ho])) h

theorem stack_history_multiset_outputs (rollFuel : Nat) (s : Stack α) (hi : Inv s) (l : List α)
    (hp : s.data.toList.Perm l) (ops : List (SOp α)) (hof : ∀ op ∈ ops, op.orderFree = true) (outs : List (SOut α))
    (h : runS rollFuel s ops = some outs) : outs = specRunS l ops := by
  induction ops generalizing s l outs with
  | nil =>
    simp only [runS, Option.some.injEq] at h
    subst h; rfl
  | cons op rest ih =>
    simp only [runS] at h
    cases hs : stepS rollFuel s op with
    | none => simp [hs] at h
    | some so =>
      obtain ⟨s1, o⟩ := so
      simp only [hs, Option.map_eq_some_iff] at h
      obtain ⟨outs1, g1, rfl⟩ := h
      obtain ⟨p1, i1, ho⟩ := stepS_multiset rollFuel s hi l hp op (hof op (by simp)) s1 o hs
      have := ih s1 i1 _ p1 (fun o ho => hof o (by simp [ho])) outs1 g1
      simp only [specRunS, this, ho]

/-- a run and its final state succeed together -/
theorem runS_isSome_iff (rollFuel : Nat) (s : Stack α) (ops : List (SOp α)) :
    (runS rollFuel s ops).isSome = (finalS rollFuel s ops).isSome := by
  induction ops generalizing s with
  | nil => rfl
  | cons op rest ih =>
    simp only [runS, finalS]
    cases hs : stepS rollFuel s op with
    | none => rfl
    | some so =>
      obtain ⟨s1, o⟩ := so
      simp [ih s1]

/-- a concrete history on a `Stack Nat`: push 1 2 3 4, count, pop, discard the even ones, count, discardTopN 1, pop,
    pop (empty), reuse, count -/
example :
    runS 0 (create : Stack Nat)
      [.push 1, .push 2, .push 3, .push 4, .count, .pop, .discardSelected (fun x => x % 2 == 0), .count,
       .discardTopN 1, .pop, .pop, .reuse, .count]
    = some [.done, .done, .done, .done, .num 4, .val 4, .done, .num 2, .done, .val 1, .eod, .done, .num 0] := by
  decide +kernel

/-- and the abstract list gives the same answers (instance of `stack_history_refines`) -/
example :
    specRunS ([] : List Nat)
      [.push 1, .push 2, .push 3, .push 4, .count, .pop, .discardSelected (fun x => x % 2 == 0), .count,
       .discardTopN 1, .pop, .pop, .reuse, .count]
    = [.done, .done, .done, .done, .num 4, .val 4, .done, .num 2, .done, .val 1, .eod, .done, .num 0] := by
  decide +kernel

/-- `l` is an interleaving of `a` and `b` (each thread's operations stay in program order) -/
inductive Interleave {β : Type} : List β → List β → List β → Prop
  | nil : Interleave [] [] []
  | left (x : β) {a b l : List β} : Interleave a b l → Interleave (x :: a) b (x :: l)
  | right (x : β) {a b l : List β} : Interleave a b l → Interleave a (x :: b) (x :: l)

theorem Interleave.mem {β : Type} {a b l : List β} (h : Interleave a b l) : ∀ x ∈ l, x ∈ a ∨ x ∈ b := by
  induction h with
  | nil => intro x hx; cases hx
  | left y _ ih =>
    intro x hx
    rcases List.mem_cons.mp hx with rfl | h
    · left; simp
    · rcases ih x h with h | h
      · left; simp [h]
      · right; exact h
  | right y _ ih =>
    intro x hx
    rcases List.mem_cons.mp hx with rfl | h
    · right; simp
    · rcases ih x h with h | h
      · left; exact h
      · right; simp [h]

theorem threads_atomic (rollFuel : Nat) (s : Stack α) (hi : Inv s) (a b l : List (SOp α)) (hl : Interleave a b l)
    (ha : ∀ op ∈ a, op.isShuffle = false) (hb : ∀ op ∈ b, op.isShuffle = false) :
    runS rollFuel s l = some (specRunS s.data.toList l) :=
  stack_history_refines rollFuel s hi l (fun op hop => by
    rcases hl.mem op hop with h | h
    · exact ha op h
    · exact hb op h)

end EaselModel.Containers.Stack
