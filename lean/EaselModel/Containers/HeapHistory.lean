import EaselModel.Containers.HeapLemmas
/-! # esl_heap.c — every history of operations refines the sorted-list priority queue -/
namespace EaselModel.Containers.Heap

inductive HOp | insert (v : Int) | extract | extractNull | top | count | reuse
deriving Repr

inductive HOut | done | val (v : Int) | eod | num (n : Nat)
deriving DecidableEq, Repr

/-- one operation on the model heap; `none` = fault -/
def stepH (h : Heap) : HOp → Option (Heap × HOut)
  | .insert v => (insert h v).map fun h' => (h', .done)
  | .extract => (extractTop h).map fun (h', ok, v) => (h', if ok then .val v else .eod)
  | .extractNull => (extractTopNull h).map fun (h', ok) => (h', if ok then .done else .eod)
  | .top => some (h, .val (topVal h))
  | .count => some (h, .num h.data.size)
  | .reuse => some (reuse h, .done)

def runH : Heap → List HOp → Option (List HOut)
  | _, [] => some []
  | h, op :: rest =>
    match stepH h op with
    | none => none
    | some (h', o) => (runH h' rest).map (o :: ·)

/-- the abstract type: the multiset kept as a list sorted best-first
    (`isMax = false`: ascending, `true`: descending) -/
def specInsert (isMax : Bool) (v : Int) : List Int → List Int
  | [] => [v]
  | x :: xs => if better isMax x v then x :: specInsert isMax v xs else v :: x :: xs

def specStepH (isMax : Bool) (l : List Int) : HOp → (List Int × HOut)
  | .insert v => (specInsert isMax v l, .done)
  | .extract => match l with | [] => ([], .eod) | x :: xs => (xs, .val x)
  | .extractNull => match l with | [] => ([], .eod) | _ :: xs => (xs, .done)
  | .top => (l, .val (match l with | [] => 0 | x :: _ => x))
  | .count => (l, .num l.length)
  | .reuse => ([], .done)

def specRunH (isMax : Bool) : List Int → List HOp → List HOut
  | _, [] => []
  | l, op :: rest => let (l', o) := specStepH isMax l op; o :: specRunH isMax l' rest

/-- the heap is valid and holds, as a multiset, the best-first sorted list `l` of the abstract priority queue -/
def Rel (h : Heap) (l : List Int) : Prop := Inv h ∧ h.data.toList.Perm l ∧ SortedBy h.isMax l

theorem eq_of_not_better (mx : Bool) {a b : Int} (h1 : ¬ better mx a b = true)
    (h2 : ¬ better mx b a = true) : a = b := by
  cases mx <;> simp [better] at * <;> omega

theorem specInsert_perm (mx : Bool) (v : Int) (l : List Int) :
    (specInsert mx v l).Perm (v :: l) := by
  induction l with
  | nil => exact List.Perm.refl _
  | cons x xs ih =>
    unfold specInsert
    split
    · exact (List.Perm.cons x ih).trans (List.Perm.swap v x xs)
    · exact List.Perm.refl _

theorem specInsert_sorted (mx : Bool) (v : Int) (l : List Int) (hs : SortedBy mx l) :
    SortedBy mx (specInsert mx v l) := by
  induction l with
  | nil => exact List.pairwise_singleton _ _
  | cons x xs ih =>
    obtain ⟨hx, hxs⟩ := List.pairwise_cons.1 hs
    unfold specInsert
    split
    · rename_i hb
      refine List.pairwise_cons.2 ⟨?_, ih hxs⟩
      intro y hy
      rcases List.mem_cons.1 ((specInsert_perm mx v xs).mem_iff.1 hy) with rfl | hy
      · exact better_asymm mx hb
      · exact hx y hy
    · rename_i hb
      refine List.pairwise_cons.2 ⟨?_, hs⟩
      intro y hy
      rcases List.mem_cons.1 hy with rfl | hy
      · exact hb
      · exact not_better_trans mx (hx y hy) hb

theorem best_eq_head (mx : Bool) (x v : Int) (xs : List Int) (hs : SortedBy mx (x :: xs))
    (hv : v ∈ x :: xs) (hb : ∀ y ∈ x :: xs, ¬ better mx y v = true) : v = x := by
  obtain ⟨hx, _⟩ := List.pairwise_cons.1 hs
  rcases List.mem_cons.1 hv with rfl | hv
  · rfl
  · exact eq_of_not_better mx (hx v hv) (hb x (List.mem_cons_self))

theorem rel_nil_size {h : Heap} (hr : Rel h []) : h.data.size = 0 := by
  have := hr.2.1.length_eq
  simpa using this

theorem rel_cons_size {h : Heap} {x : Int} {xs : List Int} (hr : Rel h (x :: xs)) :
    0 < h.data.size := by
  have := hr.2.1.length_eq
  simp at this; omega

theorem topVal_eq_head {h : Heap} {x : Int} {xs : List Int} (hr : Rel h (x :: xs)) :
    topVal h = x := by
  have hne := rel_cons_size hr
  obtain ⟨hi, hp, hs⟩ := hr
  have h0 : h.data[0]? = some (h.data[0]!) := (getElem?_eq_some_iff' _ _ _).2 ⟨hne, rfl⟩
  have ht : topVal h = h.data[0]! := by unfold topVal; rw [h0]
  rw [ht]
  apply best_eq_head h.isMax x _ xs hs
  · exact hp.mem_iff.1 ((mem_toList_iff_get _ _).2 ⟨0, hne, rfl⟩)
  · intro y hy
    obtain ⟨i, hi', he⟩ := (mem_toList_iff_get _ _).1 (hp.mem_iff.2 hy)
    rw [← he]
    exact HO_root (mx := h.isMax) (d := h.data) hi.1 i hi'

theorem extract_cons {h : Heap} {x : Int} {xs : List Int} (hr : Rel h (x :: xs)) :
    ∃ h', extractTop h = some (h', true, x) ∧ h'.isMax = h.isMax ∧ Rel h' xs := by
  have hne := rel_cons_size hr
  obtain ⟨hi, hp, hs⟩ := hr
  obtain ⟨h', v, he, hi', hmx, hpv, hbest⟩ := extractTop_spec h hi hne
  have hvx : v = x := by
    apply best_eq_head h.isMax x v xs hs
    · exact hp.mem_iff.1 (hpv.mem_iff.1 List.mem_cons_self)
    · intro y hy; exact hbest y (hp.mem_iff.2 hy)
  subst hvx
  refine ⟨h', he, hmx, hi', (hpv.trans hp).cons_inv, ?_⟩
  rw [hmx]
  exact (List.pairwise_cons.1 hs).2

theorem stepH_refines (h : Heap) (l : List Int) (hr : Rel h l) (op : HOp) :
    ∃ h', stepH h op = some (h', (specStepH h.isMax l op).2) ∧ h'.isMax = h.isMax ∧
      Rel h' (specStepH h.isMax l op).1 := by
  cases op with
  | insert v =>
    obtain ⟨hi, hp, hs⟩ := hr
    obtain ⟨h', he, hi', hmx, hp'⟩ := insert_spec h v hi
    refine ⟨h', by simp [stepH, specStepH, he], hmx, hi', ?_, ?_⟩
    · exact (hp'.trans (List.Perm.cons v hp)).trans (specInsert_perm h.isMax v l).symm
    · rw [hmx]; exact specInsert_sorted h.isMax v l hs
  | extract =>
    cases l with
    | nil =>
      refine ⟨h, ?_, rfl, hr⟩
      simp [stepH, specStepH, extractTop_empty h (rel_nil_size hr)]
    | cons x xs =>
      obtain ⟨h', he, hmx, hr'⟩ := extract_cons hr
      exact ⟨h', by simp [stepH, specStepH, he], hmx, hr'⟩
  | extractNull =>
    cases l with
    | nil =>
      refine ⟨h, ?_, rfl, hr⟩
      simp [stepH, specStepH, extractTopNull, extractTop_empty h (rel_nil_size hr)]
    | cons x xs =>
      obtain ⟨h', he, hmx, hr'⟩ := extract_cons hr
      exact ⟨h', by simp [stepH, specStepH, extractTopNull, he], hmx, hr'⟩
  | top =>
    refine ⟨h, ?_, rfl, hr⟩
    cases l with
    | nil =>
      have h0 := rel_nil_size hr
      have : h.data[0]? = none := by simp [h0]
      simp [stepH, specStepH, topVal, this]
    | cons x xs =>
      simp [stepH, specStepH, topVal_eq_head hr]
  | count =>
    refine ⟨h, ?_, rfl, hr⟩
    have := hr.2.1.length_eq
    simp at this
    simp [stepH, specStepH, this]
  | reuse =>
    refine ⟨reuse h, rfl, rfl, ?_, ?_, List.Pairwise.nil⟩
    · obtain ⟨_, _, hpos⟩ := hr.1
      refine ⟨?_, ?_, hpos⟩ <;> simp [reuse]
    · simp [reuse, specStepH]

theorem runH_refines (ops : List HOp) (h : Heap) (l : List Int) (hr : Rel h l) :
    runH h ops = some (specRunH h.isMax l ops) := by
  induction ops generalizing h l with
  | nil => rfl
  | cons op rest ih =>
    obtain ⟨h', he, hmx, hr'⟩ := stepH_refines h l hr op
    have := ih h' _ hr'
    simp only [runH, he, this, specRunH, hmx, Option.map_some]

theorem heap_history_refines (isMax : Bool) (ops : List HOp) :
    runH (create isMax) ops = some (specRunH isMax [] ops) := by
  have hr : Rel (create isMax) [] :=
    ⟨inv_create isMax, by simp [create], List.Pairwise.nil⟩
  exact runH_refines ops (create isMax) [] hr

example : runH (create false)
    [.insert 5, .insert 3, .top, .extract, .extractNull, .extract, .count] =
    some [.done, .done, .val 3, .val 3, .done, .eod, .num 0] := by decide +kernel

example : runH (create true)
    [.insert 5, .insert 3, .insert 9, .top, .extract, .count, .reuse, .count, .extractNull] =
    some [.done, .done, .done, .val 9, .val 9, .num 2, .done, .num 0, .eod] := by decide +kernel

end EaselModel.Containers.Heap
