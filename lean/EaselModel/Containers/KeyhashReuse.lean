import EaselModel.Containers.KeyhashSlots
import EaselModel.Containers.KeyhashFixedLemmas
/-! # `esl_keyhash_Reuse`: every slot is empty afterwards, at any fill -/
namespace EaselModel.Containers.Keyhash

theorem foldl_zero_replicate (n : Nat) (acc : SlotStats) :
    (List.replicate n SlotStats.zero).foldl SlotStats.add acc = acc := by
  induction n with
  | zero => rfl
  | succ n ih =>
    simp only [List.replicate_succ, List.foldl_cons]
    have : acc.add SlotStats.zero = acc := by cases acc; simp [SlotStats.add, SlotStats.zero]
    rw [this]; exact ih

theorem reuse_slots_empty (kh : KH) :
    (reuse kh).hashtable.size = kh.hashsize ∧ (reuse kh).hashsize = kh.hashsize ∧ (reuse kh).nkeys = 0 ∧
    (reuse kh).smem.size = 0 ∧ ∀ i, i < kh.hashsize → (reuse kh).hashtable[i]? = some none := by
  refine ⟨by simp [reuse], rfl, rfl, rfl, fun i hi => ?_⟩
  simp [reuse, hi]

theorem reuse_slotStats (kh : KH) : slotStats (reuse kh) = SlotStats.zero := by
  simp only [slotStats, reuse, Array.toList_replicate, List.map_replicate, slotStat]
  exact foldl_zero_replicate _ _

theorem reuse_lookup_notfound (H : Key → Nat → Nat) (hH : HashOK H) (kh : KH) (h0 : 0 < kh.hashsize) (key : Key) :
    lookupF H (reuse kh) key = some (.enotfound, 0) := by
  have hv : H key kh.hashsize < kh.hashsize := hH key kh.hashsize h0
  have hs : (reuse kh).hashtable[H key (reuse kh).hashsize]? = some none := (reuse_slots_empty kh).2.2.2.2 _ hv
  simp only [lookupF, hs, walkF]

end EaselModel.Containers.Keyhash
