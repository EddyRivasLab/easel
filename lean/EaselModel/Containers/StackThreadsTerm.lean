import EaselModel.Containers.StackThreadsLemmas
/-! # After `esl_stack_ReleaseCond` every thread can run to completion (no deadlock, no endless waiting) -/
namespace EaselModel.Containers.StackThreads
open EaselModel.Containers.Stack
variable {α : Type}

/-- twice the number of calls still to be made plus the number of items on the stack: every critical section executed
    after the release makes it smaller -/
def mu (st : TS α) : Nat := 2 * (st.threads.map (fun th => th.prog.length)).sum + st.stack.data.size

theorem sum_map_set (f : Thread α → Nat) : ∀ (l : List (Thread α)) (t : Nat) (a b : Thread α), l[t]? = some a →
    ((l.set t b).map f).sum + f a = (l.map f).sum + f b
  | [], t, a, b, h => by simp at h
  | x :: l, 0, a, b, h => by
    simp at h; subst h
    simp only [List.set_cons_zero, List.map_cons, List.sum_cons]; omega
  | x :: l, t+1, a, b, h => by
    have := sum_map_set f l t a b (by simpa using h)
    simp only [List.set_cons_succ, List.map_cons, List.sum_cons]; omega

theorem runSched_append (st : TS α) (a b : List Act) :
    runSched st (a ++ b) = (runSched st a).bind (fun s => runSched s b) := by
  induction a generalizing st with
  | nil => rfl
  | cons x xs ih =>
    simp only [List.cons_append, runSched]
    cases fire st x with
    | none => rfl
    | some s => exact ih s

/-- with `do_cond` clear a critical section cannot go to sleep: it uses up a call, or (the worker loop) an item -/
theorem Body.decreases {st st' : TS α} {th th' : Thread α} (h : Body st th st' th') (hd : st.doCond = false) :
    2 * th'.prog.length + st'.stack.data.size < 2 * th.prog.length + st.stack.data.size := by
  cases h with
  | push hp hs hdat hi => simp only [hp, hdat, Array.size_push, List.length_cons]; omega
  | sleep hp hop hd' he => rw [hd] at hd'; cases hd'
  | @val s' x again hp hpop =>
    have hsz : st.stack.data.size = s'.data.size + 1 := by
      have := congrArg List.length (pop_some_toList _ _ _ hpop).1; simpa using this
    rcases hp with hp | ⟨rfl, _⟩
    · simp only [hp, List.length_cons]; omega
    · simp only; omega
  | eod hp hop hd' he => simp only [hp, List.length_cons]; omega
  | release hp hd' => rw [hd] at hd'; cases hd'
  | esys hp hd' => simp only [hp, List.length_cons]; omega

theorem body_decreases {base all : List α} (st : TS α) (hw : WF base all st) (hd : st.doCond = false) (u : Nat)
    (hl : st.lock = some u) :
    ∃ st', fire st (.body u) = some st' ∧ mu st' < mu st ∧ st'.doCond = false := by
  obtain ⟨th, st1, th1, hthu, hB, e⟩ := body_fires st hw u hl
  obtain ⟨e1, _, e3⟩ := hB.frame
  refine ⟨_, e, ?_, ?_⟩
  · have hs := sum_map_set (fun th => th.prog.length) st.threads u th th1 hthu
    have := hB.decreases hd
    simp only [mu, e1]
    omega
  · cases h : st1.doCond with
    | false => rfl
    | true => rw [e3 h] at hd; cases hd

theorem fire_keeps {st st' : TS α} (a : Act) (h : fire st a = some st') (hnb : ∀ u, a ≠ .body u) :
    mu st' = mu st ∧ st'.doCond = st.doCond := by
  cases a with
  | body u => exact absurd rfl (hnb u)
  | acquire t =>
    simp only [fire] at h
    split at h
    · rename_i th hth hlock
      split at h
      · simp only [Option.some.injEq] at h; subst h
        have hs := sum_map_set (fun th => th.prog.length) st.threads t th { th with phase := .holding } hth
        simp only [mu] at hs ⊢
        exact ⟨by omega, by first | rfl | trivial⟩
      · cases h
    · cases h
  | wake t =>
    simp only [fire] at h
    split at h
    · rename_i th hth
      split at h
      · simp only [Option.some.injEq] at h; subst h
        have hs := sum_map_set (fun th => th.prog.length) st.threads t th { th with phase := .start } hth
        simp only [mu] at hs ⊢
        exact ⟨by omega, by first | rfl | trivial⟩
      · cases h
    · cases h

/-- one more call completes: from any reachable state with `do_cond` clear and a thread that has calls left, a short
    schedule is enabled that decreases the measure -/
theorem step_decreases {base all : List α} (st : TS α) (hw : WF base all st) (hd : st.doCond = false) (hnf : ¬ finished st) :
    ∃ acts st', runSched st acts = some st' ∧ mu st' < mu st ∧ st'.doCond = false := by
  cases hl : st.lock with
  | some u =>
    obtain ⟨st', h1, h2, h3⟩ := body_decreases st hw hd u hl
    exact ⟨[.body u], st', by simp [runSched, h1], h2, h3⟩
  | none =>
    obtain ⟨t, th, hth, hp⟩ := exists_unfinished hnf
    -- bring thread `t` to the point where it holds the mutex
    have hacq : ∀ (s : TS α) (thh : Thread α), WF base all s → s.doCond = false → s.lock = none → s.threads[t]? = some thh →
        thh.phase = .start → thh.prog ≠ [] → mu s = mu st →
        ∃ acts st', runSched s acts = some st' ∧ mu st' < mu st ∧ st'.doCond = false := by
      intro s thh hws hds hls hths hphs hps hmu
      have f1 : fire s (.acquire t) = some { s with lock := some t, threads := s.threads.set t { thh with phase := .holding } } := by
        simp [fire, hths, hls, hphs, hps]
      have hw1 := fire_wf (.acquire t) hws f1
      obtain ⟨k1, k2⟩ := fire_keeps (.acquire t) f1 (fun u h => by cases h)
      obtain ⟨st', h1, h2, h3⟩ := body_decreases _ hw1 (by rw [k2]; exact hds) t rfl
      exact ⟨[.acquire t, .body t], st', by simp [runSched, f1, h1], by omega, h3⟩
    rcases hw.idle hl hth with hph | hph
    · exact hacq st _ hw hd hl hth hph hp rfl
    · have f0 : fire st (.wake t) = some { st with threads := st.threads.set t { th with phase := .start } } := by
        simp [fire, hth, hph]
      have hw0 := fire_wf (.wake t) hw f0
      obtain ⟨k1, k2⟩ := fire_keeps (.wake t) f0 (fun u h => by cases h)
      have g1 := getElem?_set_of_getElem? st.threads t th { th with phase := .start } hth
      obtain ⟨acts, st', h1, h2, h3⟩ := hacq _ { th with phase := .start } hw0 (by rw [k2]; exact hd) hl g1 rfl hp k1
      exact ⟨.wake t :: acts, st', by simp [runSched, f0, h1], h2, h3⟩

theorem completes_after_release {base all : List α} : ∀ (n : Nat) (st : TS α), mu st ≤ n → WF base all st → st.doCond = false →
    ∃ acts st', runSched st acts = some st' ∧ finished st'
  | 0, st, hn, hw, hd => by
    by_cases hf : finished st
    · exact ⟨[], st, rfl, hf⟩
    · obtain ⟨acts, st', _, h2, _⟩ := step_decreases st hw hd hf
      omega
  | n+1, st, hn, hw, hd => by
    by_cases hf : finished st
    · exact ⟨[], st, rfl, hf⟩
    · obtain ⟨acts, st1, h1, h2, h3⟩ := step_decreases st hw hd hf
      obtain ⟨acts2, st2, h4, h5⟩ := completes_after_release n st1 (by omega) (runSched_wf acts hw h1) h3
      exact ⟨acts ++ acts2, st2, by rw [runSched_append, h1]; exact h4, h5⟩

end EaselModel.Containers.StackThreads
