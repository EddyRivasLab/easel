import EaselModel.Containers.StackLemmas
/-! # esl_stack.c in thread-communication mode (`esl_stack_UseMutex` + `esl_stack_UseCond` + `esl_stack_ReleaseCond`)
as an interleaving transition system (core Lean only, executable)

Every `Push`/`Pop`/`ReleaseCond` of the C code is `pthread_mutex_lock; <body>; pthread_mutex_unlock`, and the body of `Pop`
starts with `while (do_cond && n == 0) pthread_cond_wait(cond, mutex)`, which atomically gives the mutex up and puts the
thread to sleep; woken up (by `pthread_cond_signal` of a `Push`, by `pthread_cond_broadcast` of `ReleaseCond`, or spuriously —
POSIX allows that) it takes the mutex again and re-tests the loop condition.

Threads run programs (`TOp` lists). A global state is the shared stack, `do_cond`, the owner of the mutex and one record per
thread. The scheduler picks actions: `acquire t` (thread `t` gets the free mutex: `pthread_mutex_lock` returns),
`body t` (the thread holding the mutex runs the code up to the point where it gives the mutex up again: either the
`pthread_mutex_unlock` at the end of the call, or the `pthread_cond_wait`), `wake t` (a sleeping thread leaves
`pthread_cond_wait`'s sleep; it still has to re-acquire the mutex). `wake` is enabled at any time: every real execution
(signals, broadcasts, spurious wake-ups) is a schedule of this system, so what holds for ALL schedules holds for the code.
MODELLING ASSUMPTIONS: the pthread primitives behave as POSIX says (mutual exclusion; `cond_wait` releases and re-acquires);
`ReleaseCond`'s unlocked pre-test of `do_cond` is evaluated inside its critical section. Liveness (a signal really wakes a
sleeper) is outside this model: it is exercised by the multi-threaded harness op `st_threads` under a watchdog. -/
namespace EaselModel.Containers.StackThreads
open EaselModel.Containers.Stack

/-- a call a thread makes: `Push(x)`, `Pop`, `while (Pop(&x) == eslOK) …` (a worker that drains until `eslEOD`),
    `esl_stack_ReleaseCond` -/
inductive TOp (α : Type)
  | push (x : α) | pop | drain | release

inductive Phase | start | holding | waiting
deriving DecidableEq, Repr

inductive TOut (α : Type) | done | val (x : α) | eod | esys
deriving DecidableEq, Repr

structure Thread (α : Type) where
  prog : List (TOp α)        -- remaining calls; the head is the call in progress
  phase : Phase
  outs : List (TOut α)       -- what the calls returned so far

structure TS (α : Type) where
  stack : Stack α
  doCond : Bool
  lock : Option Nat          -- owner of the mutex
  threads : List (Thread α)
  pushed : List α            -- ghost: every value a Push has stored, in the order of the critical sections
  popped : List α            -- ghost: every value a Pop has returned

inductive Act | acquire (t : Nat) | body (t : Nat) | wake (t : Nat)
deriving Repr

variable {α : Type}

def initial (s : Stack α) (progs : List (List (TOp α))) : TS α :=
  { stack := s, doCond := true, lock := none, threads := progs.map fun p => ⟨p, .start, []⟩, pushed := [], popped := [] }

/-- the code a thread runs while it holds the mutex; result: the new global state and this thread's new record.
    `none`: out-of-bounds access in `Push` (fault) -/
def bodyOf (st : TS α) (th : Thread α) : Option (TS α × Thread α) :=
  match th.prog with
  | [] => none
  | .push x :: rest =>
    -- `if (n == nalloc) realloc; data[n] = x; n++; if (do_cond) pthread_cond_signal; unlock`
    match push st.stack x with
    | none => none
    | some s' => some ({ st with stack := s', lock := none, pushed := st.pushed ++ [x] }, ⟨rest, .start, th.outs ++ [.done]⟩)
  | .pop :: rest =>
    -- `while (do_cond && n == 0) pthread_cond_wait(cond, mutex);`
    if st.doCond && st.stack.data.size == 0 then
      some ({ st with lock := none }, { th with phase := .waiting })
    else
      match pop st.stack with
      | (s', some x) => some ({ st with stack := s', lock := none, popped := st.popped ++ [x] }, ⟨rest, .start, th.outs ++ [.val x]⟩)
      | (s', none) => some ({ st with stack := s', lock := none }, ⟨rest, .start, th.outs ++ [.eod]⟩)
  | .drain :: rest =>
    if st.doCond && st.stack.data.size == 0 then
      some ({ st with lock := none }, { th with phase := .waiting })
    else
      match pop st.stack with
      | (s', some x) =>          -- got one: the worker loop calls Pop again
        some ({ st with stack := s', lock := none, popped := st.popped ++ [x] }, ⟨.drain :: rest, .start, th.outs ++ [.val x]⟩)
      | (s', none) => some ({ st with stack := s', lock := none }, ⟨rest, .start, th.outs ++ [.eod]⟩)
  | .release :: rest =>
    -- `if (!do_cond) ESL_EXCEPTION(eslESYS); lock; do_cond = FALSE; broadcast; unlock`
    if st.doCond then some ({ st with doCond := false, lock := none }, ⟨rest, .start, th.outs ++ [.done]⟩)
    else some ({ st with lock := none }, ⟨rest, .start, th.outs ++ [.esys]⟩)

/-- one scheduler action; `none`: the action is not enabled in this state (or `Push` faulted) -/
def fire (st : TS α) : Act → Option (TS α)
  | .acquire t =>
    match st.threads[t]?, st.lock with
    | some th, none =>
      if th.phase = .start ∧ th.prog ≠ [] then some { st with lock := some t, threads := st.threads.set t { th with phase := .holding } }
      else none
    | _, _ => none
  | .wake t =>
    match st.threads[t]? with
    | some th => if th.phase = .waiting then some { st with threads := st.threads.set t { th with phase := .start } } else none
    | none => none
  | .body t =>
    match st.threads[t]? with
    | some th =>
      if th.phase = .holding ∧ st.lock = some t then
        match bodyOf st th with
        | none => none
        | some (st', th') => some { st' with threads := st'.threads.set t th' }
      else none
    | none => none

def runSched : TS α → List Act → Option (TS α)
  | st, [] => some st
  | st, a :: rest => match fire st a with | none => none | some st' => runSched st' rest

/-- the values a program still pushes -/
def pushesOf : List (TOp α) → List α
  | [] => []
  | .push x :: rest => x :: pushesOf rest
  | _ :: rest => pushesOf rest

def pending (ths : List (Thread α)) : List α := ths.flatMap fun th => pushesOf th.prog

def finished (st : TS α) : Prop := ∀ th ∈ st.threads, th.prog = []

/-! ## a deterministic scheduler for the driver: it repeatedly gives every thread that can move one action, in the
order of a priority list (used to compute what the multi-threaded harness op must report; by the invariant `WF.cons`
(StackThreadsLemmas.lean; `Props.C19.stack_threads_conservation`) every other schedule reports the same multiset) -/
def moveOf (st : TS α) (t : Nat) : Option Act :=
  match st.threads[t]? with
  | none => none
  | some th =>
    match th.phase with
    | .holding => some (.body t)
    | .start => if th.prog.isEmpty then none else if st.lock.isNone then some (.acquire t) else none
    | .waiting => if st.doCond && st.stack.data.size == 0 then none else some (.wake t)

/-- run thread `t` until it cannot move (finished, or asleep with nothing to wake it) -/
def runThread : Nat → Nat → TS α → TS α
  | 0, _, st => st
  | f+1, t, st =>
    match moveOf st t with
    | none => st
    | some a => match fire st a with | none => st | some st' => runThread f t st'

def runOrder (fuel : Nat) (st : TS α) (order : List Nat) : TS α := order.foldl (fun s t => runThread fuel t s) st

end EaselModel.Containers.StackThreads
