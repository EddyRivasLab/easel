import EaselModel.Containers.RedBlackPtrHistory
/-! # Pointer histories with the node pool: take a record from the free list, write the key, insert; a refused record
(duplicate key) goes back to the free list and is the next one taken. No record is lost, none is handed out twice. -/
namespace EaselModel.Containers.RedBlackPtr
open EaselModel.Containers.RedBlack

/-- the free list: a `large`-chain of records that are not linked into any tree (`parent == NULL`) -/
def FreeList (st : Store) : Ptr → List Nat → Prop
  | p, [] => p = none
  | p, n :: l => p = some n ∧ ∃ nd, rd st n = some nd ∧ nd.parent = none ∧ FreeList st nd.large l

theorem FreeList.congr {st st' : Store} : ∀ {l : List Nat} {p : Ptr}, (∀ i ∈ l, rd st' i = rd st i) → FreeList st p l → FreeList st' p l
  | [], _, _, h => h
  | n :: l, _, hc, ⟨hp, nd, hr, hpar, hrest⟩ =>
    ⟨hp, nd, by rw [hc n List.mem_cons_self]; exact hr, hpar, FreeList.congr (fun i hi => hc i (List.mem_cons_of_mem _ hi)) hrest⟩

theorem poolGive_take {st : Store} {pool : Ptr} {n : Nat} {nd : Node} (hr : rd st n = some nd) :
    ∃ st', poolGive st pool n = some (st', some n) ∧ poolTake st' (some n) = some (n, pool) ∧
      (∀ j, j ≠ n → rd st' j = rd st j) ∧ rd st' n = some { nd with large := pool } := by
  obtain ⟨st', hw⟩ : ∃ st', wr st n (fun nd => { nd with large := pool }) = some st' := ⟨_, wr_of_rd _ hr⟩
  have hrn := rd_wr_same hw hr
  refine ⟨st', by simp [poolGive, hw], by simp [poolTake, hrn], fun j hj => rd_wr_ne hw hj, hrn⟩

/-- the caller's loop with a pool -/
def insertPool (st : Store) (tree pool : Ptr) : List Int → Option (Store × Ptr × Ptr)
  | [] => some (st, tree, pool)
  | k :: ks =>
    match poolTake st pool with
    | none => none
    | some (n, pool') =>
      match wr st n (fun nd => { nd with key := k }) with
      | none => none
      | some st1 =>
        match insert st1 tree n with
        | none => none
        | some (st2, none) =>
          match poolGive st2 pool' n with
          | none => none
          | some (st3, pool'') => insertPool st3 tree pool'' ks
        | some (st2, some r) => insertPool st2 (some r) pool' ks

/-- EVERY HISTORY THROUGH THE POOL: for any well-formed tree laid out in the store, any free list of distinct unlinked records
    disjoint from it, and any key list no longer than the free list: the loop never fails; afterwards the store lays out exactly
    `Tree.insertAll` of the keys, the free list is again a chain of unlinked records, and tree records + free records are a
    PERMUTATION of what they were before — no record is lost, none is in the tree and in the pool at once, none is handed out
    twice; a refused record is the next one taken; nothing else is written -/
theorem insertPool_refines : ∀ (ks : List Int) (st : Store) (tree pool : Ptr) (t : Shape) (l : List Nat),
    ReprP st t tree none → (t.ids ++ l).Nodup → Tree.WF (absTree st t) → FreeList st pool l → ks.length ≤ l.length →
    ∃ st' tree' pool' t' l', insertPool st tree pool ks = some (st', tree', pool') ∧ ReprP st' t' tree' none ∧
      FreeList st' pool' l' ∧ (t'.ids ++ l').Perm (t.ids ++ l) ∧
      Tree.insertAll (absTree st t) ks = some (absTree st' t') ∧ Tree.WF (absTree st' t') ∧
      (∀ j, j ∉ t.ids ++ l → rd st' j = rd st j)
  | [], st, tree, pool, t, l, hrep, _, hwf, hfree, _ =>
    ⟨st, tree, pool, t, l, rfl, hrep, hfree, List.Perm.refl _, rfl, hwf, fun _ _ => rfl⟩
  | k :: ks, st, tree, pool, t, [], _, _, _, _, hlen => by simp at hlen
  | k :: ks, st, tree, pool, t, n :: l', hrep, hnd, hwf, hfree, hlen => by
    obtain ⟨hpool, nd, hr, hpar, hrest⟩ := hfree
    subst hpool
    obtain ⟨hnt, hnl, hndt, hndl, hdisj⟩ := nodup_mid hnd
    have hw := wr_of_rd (fun nd => { nd with key := k }) hr
    have hn1 : rd (st.setIfInBounds n { nd with key := k }) n = some { nd with key := k } := rd_set_same _ hr
    have hoth : ∀ j, j ≠ n → rd (st.setIfInBounds n { nd with key := k }) j = rd st j := fun j hj => rd_set_ne st _ hj
    generalize hst1 : st.setIfInBounds n { nd with key := k } = st1 at hw hn1 hoth
    have hids1 : ∀ i ∈ t.ids, rd st1 i = rd st i := fun i hi => hoth i (fun e => hnt (e ▸ hi))
    have hrep1 : ReprP st1 t tree none := ReprP.congr hids1 hrep
    have habs1 : absTree st1 t = absTree st t := absTree_congr hids1
    have hl1 : ∀ i ∈ l', rd st1 i = rd st i := fun i hi => hoth i (fun e => hnl (e ▸ hi))
    obtain ⟨T1, b, hins1, hwf1, hcase⟩ := insert_step hrep1 hndt (habs1 ▸ hwf) hnt hn1 (fun _ => hpar)
    have hins : Tree.insert (absTree st t) k = some (T1, b) := by rw [← habs1]; exact hins1
    have step : ∃ st2 tree2 pool2 t2 l2, insertPool st tree (some n) (k :: ks) = insertPool st2 tree2 pool2 ks ∧
        ReprP st2 t2 tree2 none ∧ FreeList st2 pool2 l2 ∧ (t2.ids ++ l2).Perm (t.ids ++ n :: l') ∧ absTree st2 t2 = T1 ∧
        (∀ j, j ∉ t.ids ++ n :: l' → rd st2 j = rd st j) ∧ ks.length ≤ l2.length := by
      have hnotin : ∀ j, j ∉ t.ids ++ n :: l' → j ≠ n := fun j hj e => hj (by simp [e])
      rcases hcase with ⟨_, hT, st2, h1, h2, hn2⟩ | ⟨_, st2, root1, t1, h1, h2, h3, h4, h5⟩
      · obtain ⟨st3, g1, _, g3, g4⟩ := poolGive_take (pool := nd.large) hn2
        have hall : ∀ j, j ≠ n → rd st3 j = rd st j := fun j hj => by rw [g3 j hj, h2 j hj, hoth j hj]
        refine ⟨st3, tree, some n, t, n :: l', by simp only [insertPool, poolTake, hr, Option.map_some, hw, h1, g1],
          ReprP.congr (fun i hi => hall i (fun e => hnt (e ▸ hi))) hrep,
          ⟨rfl, _, g4, hpar, FreeList.congr (fun i hi => hall i (fun e => hnl (e ▸ hi))) hrest⟩, List.Perm.refl _, ?_,
          fun j hj => hall j (hnotin j hj), by simp at hlen ⊢; omega⟩
        rw [absTree_congr (fun i hi => hall i (fun e => hnt (e ▸ hi))), hT, habs1]
      · have hl2 : ∀ i ∈ l', rd st2 i = rd st i := fun i hi => by
          rw [h5 i (by
            simp only [List.mem_cons, not_or]
            exact ⟨fun e => hnl (e ▸ hi), fun h => hdisj i h hi⟩), hl1 i hi]
        refine ⟨st2, some root1, nd.large, t1, l', by simp only [insertPool, poolTake, hr, Option.map_some, hw, h1], h2,
          FreeList.congr hl2 hrest, ?_, h3, fun j hj => ?_, by simp at hlen ⊢; omega⟩
        · exact (h4.append_right l').trans (by simpa using (List.perm_middle (l₁ := t.ids) (l₂ := l') (a := n)).symm)
        · have hj1 : j ∉ n :: t.ids := fun h => hj (by
            rcases List.mem_cons.mp h with e | e
            · simp [e]
            · simp [e])
          rw [h5 j hj1, hoth j (hnotin j hj)]
    obtain ⟨st2, tree2, pool2, t2, l2, e1, hrep2, hfree2, hperm2, habs2, hout2, hlen2⟩ := step
    have hnd2 : (t2.ids ++ l2).Nodup := hperm2.nodup_iff.mpr hnd
    obtain ⟨st', tree', pool', t', l', k1, k2, k3, k4, k5, k6, k7⟩ :=
      insertPool_refines ks st2 tree2 pool2 t2 l2 hrep2 hnd2 (habs2 ▸ hwf1) hfree2 hlen2
    refine ⟨st', tree', pool', t', l', e1.trans k1, k2, k3, k4.trans hperm2, ?_, k6, fun j hj => ?_⟩
    · simp only [Tree.insertAll, hins]
      rw [← habs2]; exact k5
    · rw [k7 j (fun h => hj (hperm2.mem_iff.mp h)), hout2 j hj]


theorem freeList_block (st : Store) (number : Nat) : ∀ (k j : Nat), j + k = number →
    FreeList (poolCreate st number).1 (if j < number then some (st.size + j) else none) (List.range' (st.size + j) k)
  | 0, j, h => by
    have : ¬ j < number := by omega
    simp [FreeList, this]
  | k+1, j, h => by
    have hj : j < number := by omega
    simp only [hj, ↓reduceIte, List.range'_succ]
    refine ⟨rfl, _, rd_poolCreate_new st number j hj, rfl, ?_⟩
    have := freeList_block st number k (j + 1) (by omega)
    simpa [Nat.add_assoc] using this

theorem poolCreate_ptr (st : Store) (number : Nat) :
    (poolCreate st number).2 = if 0 < number then some (st.size + 0) else none := by
  unfold poolCreate
  by_cases h : number = 0
  · simp [h]
  · have : 0 < number := by omega
    simp [h, this]

theorem pool_giveback_history (st : Store) (ks : List Int) :
    ∃ st' tree' pool' t' l', insertPool (poolCreate st ks.length).1 none (poolCreate st ks.length).2 ks = some (st', tree', pool') ∧
      ReprP st' t' tree' none ∧ FreeList st' pool' l' ∧ (t'.ids ++ l').Perm (List.range' st.size ks.length) ∧
      Tree.insertAll .nil ks = some (absTree st' t') ∧ Tree.WF (absTree st' t') ∧ (∀ j, j < st.size → rd st' j = rd st j) := by
  have hfree := freeList_block st ks.length ks.length 0 (by omega)
  rw [← poolCreate_ptr] at hfree
  simp only [Nat.add_zero] at hfree
  obtain ⟨st', tree', pool', t', l', h1, h2, h3, h4, h5, h6, h7⟩ :=
    insertPool_refines ks (poolCreate st ks.length).1 none (poolCreate st ks.length).2 .nil (List.range' st.size ks.length)
      rfl (by simpa [Shape.ids] using (List.nodup_range' (s := st.size) (n := ks.length))) Tree.wf_nil hfree (by simp)
  refine ⟨st', tree', pool', t', l', h1, h2, h3, by simpa [Shape.ids] using h4, h5, h6, fun j hj => ?_⟩
  rw [h7 j (by
    simp only [Shape.ids, List.nil_append]
    intro h
    have := (List.mem_range'_1.mp h).1
    omega), rd_poolCreate_old st _ j hj]

end EaselModel.Containers.RedBlackPtr
