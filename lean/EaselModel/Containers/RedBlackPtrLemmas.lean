import EaselModel.Containers.RedBlackPtr
import EaselModel.Containers.RedBlackLemmas
/-! # Lemmas about the pointer-level red-black model: the store, the representation of a tree in it, the pool,
lookup, and `convert_to_sorted_linked` (the tree becomes a consistently doubly linked, NULL-terminated list in key order). -/
namespace EaselModel.Containers.RedBlackPtr
open EaselModel.Containers.RedBlack (Color Tree)

theorem wr_eq_some {st st' : Store} {i : Nat} {f : Node → Node} (h : wr st i f = some st') :
    ∃ nd, rd st i = some nd ∧ st' = st.setIfInBounds i (f nd) := by
  unfold wr at h
  unfold rd
  cases hr : st[i]? with
  | none => rw [hr] at h; cases h
  | some nd => rw [hr] at h; exact ⟨nd, rfl, (Option.some.inj h).symm⟩

theorem wr_of_rd {st : Store} {i : Nat} {nd : Node} (f : Node → Node) (h : rd st i = some nd) :
    wr st i f = some (st.setIfInBounds i (f nd)) := by
  unfold rd at h
  unfold wr
  rw [h]

theorem rd_set_same {st : Store} {i : Nat} {nd : Node} (v : Node) (h : rd st i = some nd) :
    rd (st.setIfInBounds i v) i = some v := by
  unfold rd at *
  have hi : i < st.size := by
    apply Classical.byContradiction; intro hn
    rw [Array.getElem?_eq_none (by omega)] at h; cases h
  simp [Array.getElem?_setIfInBounds, hi]

theorem rd_set_ne (st : Store) {i j : Nat} (v : Node) (h : j ≠ i) : rd (st.setIfInBounds i v) j = rd st j := by
  unfold rd
  rw [Array.getElem?_setIfInBounds]
  simp [Ne.symm h]

theorem rd_wr_same {st st' : Store} {i : Nat} {f : Node → Node} {nd : Node} (h : wr st i f = some st') (hr : rd st i = some nd) :
    rd st' i = some (f nd) := by
  rw [wr_of_rd f hr] at h
  cases h
  exact rd_set_same _ hr

theorem rd_wr_ne {st st' : Store} {i j : Nat} {f : Node → Node} (h : wr st i f = some st') (hj : j ≠ i) : rd st' j = rd st j := by
  obtain ⟨nd, _, rfl⟩ := wr_eq_some h
  exact rd_set_ne st _ hj

theorem size_wr {st st' : Store} {i : Nat} {f : Node → Node} (h : wr st i f = some st') : st'.size = st.size := by
  obtain ⟨nd, _, rfl⟩ := wr_eq_some h
  simp

theorem rd_lt {st : Store} {i : Nat} {nd : Node} (h : rd st i = some nd) : i < st.size := by
  unfold rd at h
  apply Classical.byContradiction; intro hn
  rw [Array.getElem?_eq_none (by omega)] at h; cases h

/-- the shape of a pointer tree: which record is where -/
inductive Shape
  | nil
  | node (small : Shape) (id : Nat) (large : Shape)

namespace Shape
/-- record ids in order (small subtree, node, large subtree) -/
def ids : Shape → List Nat
  | nil => []
  | node a i b => ids a ++ i :: ids b

def height : Shape → Nat
  | nil => 0
  | node a _ b => max (height a) (height b) + 1

theorem height_le_length : ∀ t : Shape, t.height ≤ t.ids.length
  | nil => Nat.le_refl _
  | node a i b => by
    have := height_le_length a; have := height_le_length b
    simp only [height, ids, List.length_append, List.length_cons]; omega
end Shape

/-- pointer `p` of store `st` is the root of a tree of shape `t`: following `small`/`large` from `p` visits exactly the
    records of `t`, `NULL` exactly at its leaves -/
def Repr (st : Store) : Shape → Ptr → Prop
  | .nil, p => p = none
  | .node a i b, p => p = some i ∧ ∃ nd, rd st i = some nd ∧ Repr st a nd.small ∧ Repr st b nd.large

theorem Repr.congr {st st' : Store} : ∀ {t : Shape} {p : Ptr}, (∀ i ∈ t.ids, rd st' i = rd st i) → Repr st t p → Repr st' t p
  | .nil, _, _, h => h
  | .node a i b, _, hc, ⟨hp, nd, hr, ha, hb⟩ => by
    refine ⟨hp, nd, ?_, ?_, ?_⟩
    · rw [hc i (by simp [Shape.ids])]; exact hr
    · exact Repr.congr (fun j hj => hc j (by simp [Shape.ids, hj])) ha
    · exact Repr.congr (fun j hj => hc j (by simp [Shape.ids, hj])) hb

theorem Repr.rd_some {st : Store} : ∀ {t : Shape} {p : Ptr}, Repr st t p → ∀ i ∈ t.ids, (rd st i).isSome = true
  | .nil, _, _, i, hi => by simp [Shape.ids] at hi
  | .node a j b, _, ⟨_, nd, hr, ha, hb⟩, i, hi => by
    simp only [Shape.ids, List.mem_append, List.mem_cons] at hi
    rcases hi with h | rfl | h
    · exact ha.rd_some i h
    · simp [hr]
    · exact hb.rd_some i h

theorem nodup_length_le : ∀ (n : Nat) (l : List Nat), l.Nodup → (∀ x ∈ l, x < n) → l.length ≤ n
  | 0, l, _, hl => by
    cases l with
    | nil => simp
    | cons a t => exact absurd (hl a (by simp)) (by omega)
  | n+1, l, hn, hl => by
    have h1 : (l.erase n).Nodup := hn.erase n
    have h2 : ∀ x ∈ l.erase n, x < n := by
      intro x hx
      have hx' := (List.Nodup.mem_erase_iff hn).mp hx
      have := hl x hx'.2
      omega
    have h3 := nodup_length_le n (l.erase n) h1 h2
    have h4 : l.length ≤ (l.erase n).length + 1 := by
      by_cases hm : n ∈ l
      · rw [List.length_erase_of_mem hm]; omega
      · rw [List.erase_of_not_mem hm]; omega
    omega

/-- the records of a laid-out tree are distinct addresses of the store -/
theorem Repr.length_le_size {st : Store} {t : Shape} {p : Ptr} (h : Repr st t p) (hn : t.ids.Nodup) : t.ids.length ≤ st.size :=
  nodup_length_le st.size t.ids hn (fun x hx => by
    obtain ⟨nd, hr⟩ := Option.isSome_iff_exists.mp (h.rd_some x hx)
    exact rd_lt hr)

theorem Repr.height_le_size {st : Store} {t : Shape} {p : Ptr} (h : Repr st t p) (hn : t.ids.Nodup) : t.height ≤ st.size :=
  Nat.le_trans (Shape.height_le_length t) (h.length_le_size hn)

theorem rd_poolCreate_old (st : Store) (number i : Nat) (hi : i < st.size) :
    rd (poolCreate st number).1 i = rd st i := by
  unfold poolCreate rd
  split
  · rfl
  · simp [Array.getElem?_append_left hi]

theorem rd_poolCreate_new (st : Store) (number j : Nat) (hj : j < number) :
    rd (poolCreate st number).1 (st.size + j) =
      some { key := 0, color := .red, parent := none, small := none,
             large := if j + 1 < number then some (st.size + j + 1) else none } := by
  unfold poolCreate rd
  have hn : number ≠ 0 := by omega
  simp only [hn, ↓reduceIte]
  rw [Array.getElem?_append_right (by omega)]
  simp [hj]

/-- `k` successive takes from the free list (`poolTake`): the records taken, in order, and the head of what is left -/
def takeN (st : Store) : Nat → Ptr → Option (List Nat × Ptr)
  | 0, p => some ([], p)
  | k+1, p =>
    match poolTake st p with
    | none => none
    | some (n, p') => (takeN st k p').map fun (l, q) => (n :: l, q)

/-- taking `k ≤ number` records from a fresh block yields the block's records in address order -/
theorem takeN_fresh (st : Store) (number : Nat) (k j : Nat) (hk : j + k ≤ number) (hj : j < number ∨ k = 0) :
    takeN (poolCreate st number).1 k (if j < number then some (st.size + j) else none) =
      some ((List.range' (st.size + j) k), if j + k < number then some (st.size + j + k) else none) := by
  induction k generalizing j with
  | zero => simp [takeN]
  | succ k ih =>
    have hjn : j < number := by omega
    simp only [takeN, hjn, ↓reduceIte, poolTake, rd_poolCreate_new st number j hjn, Option.map_some]
    have := ih (j+1) (by omega) (by omega)
    have e : st.size + j + 1 = st.size + (j + 1) := by omega
    rw [e, this]
    simp only [Option.map_some, List.range'_succ]
    congr 2
    · have : j + 1 + k = j + (k + 1) := by omega
      rw [this]
      have : st.size + (j + 1) + k = st.size + j + (k + 1) := by omega
      rw [this]

theorem pool_take_all (st : Store) (number : Nat) (hn : 0 < number) :
    (poolCreate st number).2 = some st.size ∧
    ∃ l, takeN (poolCreate st number).1 number (poolCreate st number).2 = some (l, none) ∧
      l = List.range' st.size number ∧ l.Nodup ∧ l.length = number ∧ ∀ x ∈ l, st.size ≤ x := by
  have h2 : (poolCreate st number).2 = some st.size := by
    unfold poolCreate; simp [Nat.ne_of_gt hn]
  refine ⟨h2, List.range' st.size number, ?_, rfl, List.nodup_range', by simp, ?_⟩
  · have := takeN_fresh st number number 0 (by omega) (Or.inl hn)
    simp only [hn, ↓reduceIte, Nat.add_zero, Nat.zero_add, Nat.lt_irrefl] at this
    rw [h2]; exact this
  · intro x hx
    have := List.mem_range'_1.mp hx
    omega

/-- the abstract tree (keys and colours) a laid-out shape stands for -/
def absTree (st : Store) : Shape → Tree Int
  | .nil => .nil
  | .node a i b =>
    match rd st i with
    | some nd => .node nd.color (absTree st a) nd.key (absTree st b)
    | none => .nil

theorem lookup_repr {st : Store} (key : Int) : ∀ {t : Shape} {p : Ptr} (fuel : Nat), Repr st t p → t.height ≤ fuel →
    ∃ r, lookup st key fuel p = some r ∧ (r.isSome = Tree.lookup key (absTree st t)) ∧
      (∀ i, r = some i → i ∈ t.ids ∧ ∃ nd, rd st i = some nd ∧ nd.key = key)
  | .nil, p, fuel, h, _ => by
    cases h
    cases fuel <;> exact ⟨none, rfl, rfl, fun i hi => by cases hi⟩
  | .node a i b, p, fuel, ⟨hp, nd, hr, ha, hb⟩, hf => by
    cases fuel with
    | zero => simp [Shape.height] at hf
    | succ f =>
      subst hp
      simp only [Shape.height] at hf
      simp only [lookup, hr, absTree, Tree.lookup]
      by_cases h1 : nd.key = key
      · simp only [h1, ↓reduceIte]
        exact ⟨some i, rfl, rfl, fun j hj => by cases hj; exact ⟨by simp [Shape.ids], nd, hr, h1⟩⟩
      · simp only [h1, ↓reduceIte]
        by_cases h2 : key > nd.key
        · have h2' : nd.key < key := h2
          simp only [h2, h2', ↓reduceIte]
          obtain ⟨r, e1, e2, e3⟩ := lookup_repr key f hb (by omega)
          exact ⟨r, e1, e2, fun j hj => ⟨by simp [Shape.ids, (e3 j hj).1], (e3 j hj).2⟩⟩
        · have h2' : ¬ nd.key < key := h2
          simp only [h2, h2', ↓reduceIte]
          obtain ⟨r, e1, e2, e3⟩ := lookup_repr key f ha (by omega)
          exact ⟨r, e1, e2, fun j hj => ⟨by simp [Shape.ids, (e3 j hj).1], (e3 j hj).2⟩⟩

def largeOf (st : Store) (i : Nat) : Option Ptr := (rd st i).map (·.large)
def smallOf (st : Store) (i : Nat) : Option Ptr := (rd st i).map (·.small)

/-- consecutive records of the list point at each other: `a.large = b` and `b.small = a` -/
def Linked (st : Store) : List Nat → Prop
  | [] => True
  | [_] => True
  | a :: b :: r => largeOf st a = some (some b) ∧ smallOf st b = some (some a) ∧ Linked st (b :: r)

theorem Linked.congr {st st' : Store} : ∀ {l : List Nat}, Linked st l → (∀ x ∈ l, largeOf st' x = largeOf st x) →
    (∀ x ∈ l.tail, smallOf st' x = smallOf st x) → Linked st' l
  | [], _, _, _ => trivial
  | [_], _, _, _ => trivial
  | a :: b :: r, ⟨h1, h2, h3⟩, hl, hs => by
    refine ⟨by rw [hl a (by simp)]; exact h1, by rw [hs b (by simp)]; exact h2, ?_⟩
    exact Linked.congr h3 (fun x hx => hl x (by simp [hx])) (fun x hx => hs x (by simp at hx ⊢; exact Or.inr hx))

/-- only link fields differ: same size, every record keeps key, colour and parent -/
def SameData (st st' : Store) : Prop :=
  st'.size = st.size ∧ ∀ i nd, rd st i = some nd → ∃ nd', rd st' i = some nd' ∧ nd'.key = nd.key ∧ nd'.color = nd.color ∧ nd'.parent = nd.parent

theorem SameData.refl (st : Store) : SameData st st := ⟨rfl, fun _ nd h => ⟨nd, h, rfl, rfl, rfl⟩⟩

theorem SameData.trans {a b c : Store} (h1 : SameData a b) (h2 : SameData b c) : SameData a c := by
  refine ⟨h2.1.trans h1.1, fun i nd h => ?_⟩
  obtain ⟨n1, r1, k1, c1, p1⟩ := h1.2 i nd h
  obtain ⟨n2, r2, k2, c2, p2⟩ := h2.2 i n1 r1
  exact ⟨n2, r2, k2.trans k1, c2.trans c1, p2.trans p1⟩

theorem SameData.isSome {a b : Store} (h : SameData a b) {i : Nat} (hi : (rd a i).isSome = true) : (rd b i).isSome = true := by
  cases hr : rd a i with
  | none => rw [hr] at hi; cases hi
  | some nd => obtain ⟨n', r', _⟩ := h.2 i nd hr; simp [r']

theorem sameData_wr {st st' : Store} {i : Nat} {f : Node → Node} (h : wr st i f = some st')
    (hf : ∀ nd, (f nd).key = nd.key ∧ (f nd).color = nd.color ∧ (f nd).parent = nd.parent) : SameData st st' := by
  refine ⟨size_wr h, fun j nd hj => ?_⟩
  by_cases e : j = i
  · subst e
    exact ⟨f nd, rd_wr_same h hj, (hf nd).1, (hf nd).2.1, (hf nd).2.2⟩
  · exact ⟨nd, by rw [rd_wr_ne h e]; exact hj, rfl, rfl, rfl⟩

theorem linkTail_spec {st : Store} {i : Nat} {nd : Node} (tail : Ptr) (hr : rd st i = some nd)
    (ht : ∀ q, tail = some q → q ≠ i ∧ (rd st q).isSome = true) :
    ∃ st2, linkTail st i tail = some st2 ∧ SameData st st2 ∧
      (∀ j, j ≠ i → tail ≠ some j → rd st2 j = rd st j) ∧
      smallOf st2 i = smallOf st i ∧ (tail = none → st2 = st) ∧
      (∀ q, tail = some q → largeOf st2 i = some (some q) ∧ smallOf st2 q = some (some i) ∧ largeOf st2 q = largeOf st q) := by
  cases tail with
  | none =>
    exact ⟨st, rfl, SameData.refl st, fun _ _ _ => rfl, rfl, fun _ => rfl, fun q hq => by cases hq⟩
  | some q =>
    obtain ⟨hqi, hqs⟩ := ht q rfl
    cases hrq : rd st q with
    | none => rw [hrq] at hqs; cases hqs
    | some nq =>
      have w1 := wr_of_rd (fun nd => { nd with large := some q }) hr
      have hq1 : rd (st.setIfInBounds i { nd with large := some q }) q = some nq := by
        rw [rd_set_ne st _ hqi]; exact hrq
      have w2 := wr_of_rd (fun n => { n with small := some i }) hq1
      refine ⟨_, (by simp only [linkTail]; rw [w1]; exact w2), ?_, ?_, ?_, ?_, ?_⟩
      · exact (sameData_wr w1 (fun _ => ⟨rfl, rfl, rfl⟩)).trans (sameData_wr w2 (fun _ => ⟨rfl, rfl, rfl⟩))
      · intro j hji hjq
        have hjq' : j ≠ q := fun e => hjq (by rw [e])
        rw [rd_set_ne _ _ hjq', rd_set_ne _ _ hji]
      · unfold smallOf
        rw [rd_set_ne _ _ (Ne.symm hqi), rd_set_same _ hr, hr]
        rfl
      · intro h; cases h
      · intro q' hq'
        cases hq'
        refine ⟨?_, ?_, ?_⟩
        · unfold largeOf; rw [rd_set_ne _ _ (Ne.symm hqi), rd_set_same _ hr]; rfl
        · unfold smallOf; rw [rd_set_same _ hq1]; rfl
        · unfold largeOf; rw [rd_set_same _ hq1, hrq]; rfl

theorem Repr.of_ids_nil {st : Store} {t : Shape} {p : Ptr} (h : Repr st t p) (hn : t.ids = []) : p = none := by
  cases t with
  | nil => exact h
  | node a i b => simp [Shape.ids] at hn

theorem getLast?_cons_ite (i : Nat) (Q : List Nat) :
    (if Q.getLast? = none then some i else Q.getLast?) = (i :: Q).getLast? := by
  cases Q with
  | nil => simp
  | cons q r => simp [List.getLast?_cons_cons]

theorem getLast?_append_cons (A : List Nat) (i : Nat) (B : List Nat) : (A ++ i :: B).getLast? = (i :: B).getLast? := by
  induction A with
  | nil => rfl
  | cons x A ih =>
    cases h : A ++ i :: B with
    | nil => simp at h
    | cons y r => rw [List.cons_append, h, List.getLast?_cons_cons, ← h, ih]

theorem rd_eq_largeOf {st st' : Store} {i : Nat} (h : rd st' i = rd st i) : largeOf st' i = largeOf st i := by
  unfold largeOf; rw [h]
theorem rd_eq_smallOf {st st' : Store} {i : Nat} (h : rd st' i = rd st i) : smallOf st' i = smallOf st i := by
  unfold smallOf; rw [h]

theorem nodup_mid {A B : List Nat} {n : Nat} (h : (A ++ n :: B).Nodup) :
    n ∉ A ∧ n ∉ B ∧ A.Nodup ∧ B.Nodup ∧ ∀ x ∈ A, x ∉ B := by
  simp only [List.nodup_append, List.nodup_cons, List.mem_cons] at h
  obtain ⟨hA, ⟨hnB, hB⟩, hAB⟩ := h
  exact ⟨fun hx => hAB n hx n (Or.inl rfl) rfl, hnB, hA, hB, fun x hx hb => hAB x hx x (Or.inr hb) rfl⟩

/-- the pointer to the converted part once the records `l` stand in front of it -/
def tailAfter : List Nat → Ptr → Ptr
  | [], tail => tail
  | x :: _, _ => some x

/-- what the conversion does to the store: from the right, each record of `l` is linked in front of what has been converted -/
def linkAll (st : Store) : List Nat → Ptr → Option Store
  | [], _ => some st
  | x :: l, tail => (linkAll st l tail).bind fun st1 => linkTail st1 x (tailAfter l tail)

theorem tailAfter_none (l : List Nat) : tailAfter l none = l.head? := by cases l <;> rfl

theorem tailAfter_append (A B : List Nat) (tail : Ptr) : tailAfter (A ++ B) tail = tailAfter A (tailAfter B tail) := by
  cases A <;> rfl

theorem linkAll_append (st : Store) (tail : Ptr) (B : List Nat) : ∀ A : List Nat,
    linkAll st (A ++ B) tail = (linkAll st B tail).bind fun st1 => linkAll st1 A (tailAfter B tail)
  | [] => by simp [linkAll]
  | x :: A => by
    simp only [List.cons_append, linkAll, linkAll_append st tail B A, tailAfter_append, Option.bind_assoc]

/-- linking a duplicate-free list of records: they become a doubly linked list; only link fields of these records (and the
    `small` of the old tail) change; the first keeps its `small`, the last (nothing behind it) its `large`; the old tail keeps
    its `large`, and it and the last record point at each other -/
theorem linkAll_spec : ∀ (l : List Nat) (st : Store) (tail : Ptr), l.Nodup → (∀ x ∈ l, (rd st x).isSome = true) →
    (∀ q, tail = some q → q ∉ l ∧ (rd st q).isSome = true) →
    ∃ st', linkAll st l tail = some st' ∧ Linked st' l ∧ SameData st st' ∧
      (∀ j, j ∉ l → tail ≠ some j → rd st' j = rd st j) ∧
      (∀ m, l.head? = some m → smallOf st' m = smallOf st m) ∧
      (tail = none → ∀ m, l.getLast? = some m → largeOf st' m = largeOf st m) ∧
      (∀ q, tail = some q → largeOf st' q = largeOf st q ∧
        ∀ m, l.getLast? = some m → largeOf st' m = some (some q) ∧ smallOf st' q = some (some m))
  | [], st, tail, _, _, _ =>
    ⟨st, rfl, trivial, SameData.refl st, fun _ _ _ => rfl, fun _ h => (by cases h), fun _ _ h => (by cases h),
      fun _ _ => ⟨rfl, fun _ h => (by cases h)⟩⟩
  | x :: l, st, tail, hnd, hrd, htl => by
    obtain ⟨hxl, hndl⟩ := List.nodup_cons.mp hnd
    obtain ⟨st1, e1, L1, D1, F1, S1, G1, T1⟩ := linkAll_spec l st tail hndl (fun y hy => hrd y (List.mem_cons_of_mem _ hy))
      (fun q hq => ⟨fun h => (htl q hq).1 (List.mem_cons_of_mem _ h), (htl q hq).2⟩)
    have hx1 : rd st1 x = rd st x := F1 x hxl (fun h => (htl x h).1 List.mem_cons_self)
    obtain ⟨nd, hr⟩ := Option.isSome_iff_exists.mp (hrd x List.mem_cons_self)
    have hta : ∀ q, tailAfter l tail = some q → q ≠ x ∧ (rd st1 q).isSome = true := by
      intro q hq
      cases l with
      | nil => exact ⟨fun e => (htl q hq).1 (by simp [e]), D1.isSome (htl q hq).2⟩
      | cons y r =>
        cases hq
        exact ⟨fun e => hxl (by simp [e]), D1.isSome (hrd q (by simp))⟩
    obtain ⟨st2, e2, D2, F2, S2, N2, Q2⟩ := linkTail_spec (tailAfter l tail) (hx1.trans hr) hta
    have hnt : ∀ j, j ∉ l → tail ≠ some j → tailAfter l tail ≠ some j := by
      intro j hj htj
      cases l with
      | nil => exact htj
      | cons y r => exact fun e => hj (by cases e; simp)
    refine ⟨st2, by simp only [linkAll, e1, Option.bind_some, e2], ?_, D1.trans D2, fun j hj htj => ?_, fun m hm => ?_,
      fun ht m hm => ?_, fun q hq => ?_⟩
    · cases l with
      | nil => trivial
      | cons y r =>
        obtain ⟨q1, q2, q3⟩ := Q2 y rfl
        have hyr := (List.nodup_cons.mp hndl).1
        refine ⟨q1, q2, Linked.congr L1 (fun z hz => ?_) (fun z hz => ?_)⟩
        · rcases List.mem_cons.mp hz with rfl | hz'
          · exact q3
          · exact rd_eq_largeOf (F2 z (fun e => hxl (e ▸ hz)) (fun e => hyr (Option.some.inj e ▸ hz')))
        · simp only [List.tail_cons] at hz
          exact rd_eq_smallOf (F2 z (fun e => hxl (e ▸ List.mem_cons_of_mem _ hz)) (fun e => hyr (Option.some.inj e ▸ hz)))
    · simp only [List.mem_cons, not_or] at hj
      rw [F2 j hj.1 (hnt j hj.2 htj), F1 j hj.2 htj]
    · cases hm
      rw [S2, rd_eq_smallOf hx1]
    · cases l with
      | nil =>
        simp only [List.getLast?_singleton, Option.some.injEq] at hm
        subst hm
        rw [N2 ht, rd_eq_largeOf hx1]
      | cons y r =>
        rw [List.getLast?_cons_cons] at hm
        have hml : m ∈ y :: r := List.mem_of_getLast? hm
        have hmx : m ≠ x := fun e => hxl (e ▸ hml)
        rw [← G1 ht m hm]
        by_cases hmy : m = y
        · subst hmy; exact (Q2 m rfl).2.2
        · exact rd_eq_largeOf (F2 m hmx (fun e => hmy (Option.some.inj e).symm))
    · -- the old tail `q` keeps its `large`; the last record of `x :: l` and `q` point at each other
      obtain ⟨t1, t2⟩ := T1 q hq
      cases l with
      | nil =>
        obtain ⟨q1, q2, q3⟩ := Q2 q hq
        refine ⟨q3.trans t1, fun m hm => ?_⟩
        simp only [List.getLast?_singleton, Option.some.injEq] at hm
        subst hm
        exact ⟨q1, q2⟩
      | cons y r =>
        have hqn := (htl q hq).1
        have hq2 : rd st2 q = rd st1 q :=
          F2 q (fun e => hqn (by simp [e])) (fun e => hqn (by cases e; simp))
        refine ⟨(rd_eq_largeOf hq2).trans t1, fun m hm => ?_⟩
        rw [List.getLast?_cons_cons] at hm
        obtain ⟨t3, t4⟩ := t2 m hm
        have hmx : m ≠ x := fun e => hxl (e ▸ List.mem_of_getLast? hm)
        refine ⟨?_, (rd_eq_smallOf hq2).trans t4⟩
        rw [← t3]
        by_cases hmy : m = y
        · subst hmy; exact (Q2 m rfl).2.2
        · exact rd_eq_largeOf (F2 m hmx (fun e => hmy (Option.some.inj e).symm))

/-- the leftmost record of a tree has no `small` child, the rightmost no `large` child -/
theorem Repr.ends {st : Store} : ∀ {t : Shape} {p : Ptr}, Repr st t p →
    (∀ m, t.ids.head? = some m → smallOf st m = some none) ∧ (∀ m, t.ids.getLast? = some m → largeOf st m = some none)
  | .nil, _, _ => ⟨fun _ h => by simp [Shape.ids] at h, fun _ h => by simp [Shape.ids] at h⟩
  | .node a i b, _, ⟨_, nd, hr, ha, hb⟩ => by
    refine ⟨fun m hm => ?_, fun m hm => ?_⟩
    · cases hA : a.ids with
      | nil =>
        simp only [Shape.ids, hA, List.nil_append, List.head?_cons, Option.some.injEq] at hm
        subst hm
        simp [smallOf, hr, ha.of_ids_nil hA]
      | cons x xs => exact ha.ends.1 m (by simpa [Shape.ids, hA] using hm)
    · simp only [Shape.ids] at hm
      rw [getLast?_append_cons] at hm
      cases hB : b.ids with
      | nil =>
        simp only [hB, List.getLast?_singleton, Option.some.injEq] at hm
        subst hm
        simp [largeOf, hr, hb.of_ids_nil hB]
      | cons y ys =>
        rw [hB, List.getLast?_cons_cons] at hm
        exact hb.ends.2 m (by rw [hB]; exact hm)

/-- the recursion visits the records in descending order: on the store it is `linkAll` of the in-order list -/
theorem convRec_eq : ∀ (t : Shape) (fuel : Nat) (st : Store) (root head tail : Ptr), Repr st t root → t.ids.Nodup →
    t.height ≤ fuel → (∀ q, tail = some q → q ∉ t.ids ∧ (rd st q).isSome = true) →
    ∃ st', linkAll st t.ids tail = some st' ∧
      convRec fuel st root head tail = some (st', if head = none then t.ids.getLast? else head, tailAfter t.ids tail)
  | .nil, fuel, st, root, head, tail, hrep, _, _, _ => by
    cases hrep
    refine ⟨st, rfl, ?_⟩
    cases fuel <;> cases head <;> rfl
  | .node a i b, fuel, st, root, head, tail, ⟨hroot, nd, hr, ha, hb⟩, hnd, hf, htl => by
    subst hroot
    cases fuel with
    | zero => simp [Shape.height] at hf
    | succ f =>
    simp only [Shape.height] at hf
    simp only [Shape.ids] at hnd htl ⊢
    obtain ⟨hia, hib, hndA, hndB, hAB⟩ := nodup_mid hnd
    have htlB : ∀ q, tail = some q → q ∉ b.ids ∧ (rd st q).isSome = true := fun q hq =>
      ⟨fun h => (htl q hq).1 (by simp [h]), (htl q hq).2⟩
    -- the large subtree, then the node in front of it
    obtain ⟨st1, e1, c1⟩ := convRec_eq b f st nd.large head tail hb hndB (by omega) htlB
    have hndiB : (i :: b.ids).Nodup := List.nodup_cons.mpr ⟨hib, hndB⟩
    obtain ⟨st2, e2, _, D2, F2, S2, _, _⟩ := linkAll_spec (i :: b.ids) st tail hndiB
      (fun x hx => by
        rcases List.mem_cons.mp hx with rfl | h
        · simp [hr]
        · exact hb.rd_some x h)
      (fun q hq => ⟨fun h => (htl q hq).1 (by simp [List.mem_cons.mp h]), (htl q hq).2⟩)
    simp only [linkAll, e1, Option.bind_some] at e2
    obtain ⟨nd2, hri2, _, _, _⟩ := D2.2 i nd hr
    have hsmall2 : nd2.small = nd.small := by
      have := S2 i rfl; unfold smallOf at this; rw [hri2, hr] at this; simpa using this
    -- the small subtree
    have hA2 : ∀ x ∈ a.ids, rd st2 x = rd st x := fun x hx =>
      F2 x (fun h => by
        rcases List.mem_cons.mp h with e | h
        · exact hia (e ▸ hx)
        · exact hAB x hx h) (fun h => (htl x h).1 (by simp [hx]))
    obtain ⟨st3, e3, c3⟩ := convRec_eq a f st2 nd.small
      (if (if head = none then b.ids.getLast? else head) = none then some i else (if head = none then b.ids.getLast? else head))
      (some i) (Repr.congr hA2 ha) hndA (by omega) (fun q hq => by cases hq; exact ⟨hia, by simp [hri2]⟩)
    refine ⟨st3, ?_, ?_⟩
    · rw [linkAll_append]
      simp only [linkAll, e1, Option.bind_some, e2]
      exact e3
    · simp only [convRec, hr, c1, e2, hri2, hsmall2, c3, tailAfter_append]
      rw [getLast?_append_cons, ← getLast?_cons_ite]
      cases head with
      | some h => rfl
      | none => cases b.ids.getLast? <;> rfl

theorem Linked.get {st : Store} : ∀ {l : List Nat}, Linked st l → ∀ k (h : k + 1 < l.length),
    largeOf st l[k] = some (some l[k+1]) ∧ smallOf st l[k+1] = some (some l[k])
  | [], _, k, h => by simp at h
  | [_], _, k, h => by simp at h
  | a :: b :: r, ⟨h1, h2, h3⟩, k, h => by
    cases k with
    | zero => exact ⟨h1, h2⟩
    | succ k => exact Linked.get h3 k (by simp at h ⊢; omega)

theorem follow_none (st : Store) (next : Node → Ptr) (fuel : Nat) : follow st next fuel none = [] := by
  cases fuel <;> rfl

theorem follow_large {st : Store} : ∀ (l : List Nat) (x : Nat) (fuel : Nat), Linked st (x :: l) →
    largeOf st ((x :: l).getLast (by simp)) = some none → l.length < fuel →
    follow st (·.large) fuel (some x) = x :: l
  | [], x, fuel, _, hend, hf => by
    cases fuel with
    | zero => simp at hf
    | succ f =>
      simp only [List.getLast_singleton, largeOf] at hend
      cases hr : rd st x with
      | none => rw [hr] at hend; cases hend
      | some nd =>
        rw [hr] at hend
        have : nd.large = none := by simpa using hend
        simp [follow, hr, this, follow_none]
  | y :: r, x, fuel, ⟨h1, _, h3⟩, hend, hf => by
    cases fuel with
    | zero => simp at hf
    | succ f =>
      unfold largeOf at h1
      cases hr : rd st x with
      | none => rw [hr] at h1; cases h1
      | some nd =>
        rw [hr] at h1
        have hl : nd.large = some y := by simpa using h1
        simp only [follow, hr, hl]
        rw [follow_large r y f h3 (by simpa using hend) (by simp at hf; omega)]

theorem follow_small {st : Store} {l : List Nat} (hL : Linked st l) (h0 : ∀ h : 0 < l.length, smallOf st l[0] = some none) :
    ∀ (k : Nat) (hk : k < l.length) (fuel : Nat), k < fuel → follow st (·.small) fuel (some l[k]) = (l.take (k+1)).reverse
  | 0, hk, fuel, hf => by
    cases fuel with
    | zero => omega
    | succ f =>
      have := h0 hk
      unfold smallOf at this
      cases hr : rd st l[0] with
      | none => rw [hr] at this; cases this
      | some nd =>
        rw [hr] at this
        have hs : nd.small = none := Option.some.inj this
        simp only [follow, hr, hs, follow_none]
        cases l with
        | nil => simp at hk
        | cons a r => simp
  | k+1, hk, fuel, hf => by
    cases fuel with
    | zero => omega
    | succ f =>
      have := (hL.get k hk).2
      unfold smallOf at this
      cases hr : rd st l[k+1] with
      | none => rw [hr] at this; cases this
      | some nd =>
        rw [hr] at this
        have hs : nd.small = some l[k] := Option.some.inj this
        simp only [follow, hr, hs]
        rw [follow_small hL h0 k (by omega) f (by omega)]
        have e : l.take (k+1+1) = l.take (k+1) ++ [l[k+1]] := by
          rw [List.take_succ, List.getElem?_eq_getElem hk]; rfl
        rw [e, List.reverse_append]
        rfl

theorem filterMap_congr' {f g : Nat → Option Int} : ∀ (l : List Nat), (∀ x ∈ l, f x = g x) → l.filterMap f = l.filterMap g
  | [], _ => rfl
  | a :: r, h => by
    simp only [List.filterMap_cons, h a (by simp)]
    rw [filterMap_congr' r (fun x hx => h x (by simp [hx]))]

theorem ids_keys {st : Store} : ∀ {t : Shape} {p : Ptr}, Repr st t p →
    t.ids.filterMap (fun i => (rd st i).map (·.key)) = Tree.toList (absTree st t)
  | .nil, _, _ => rfl
  | .node a i b, _, ⟨_, nd, hr, ha, hb⟩ => by
    simp only [Shape.ids, List.filterMap_append, List.filterMap_cons, hr, Option.map_some, absTree, Tree.toList]
    rw [ids_keys ha, ids_keys hb]

theorem convert_spec {st : Store} {t : Shape} {root : Nat} (hrep : Repr st t (some root)) (hnd : t.ids.Nodup) :
    ∃ st' head tail, convert st (some root) = some (some (st', some head, some tail)) ∧
      t.ids.getLast? = some head ∧ t.ids.head? = some tail ∧
      follow st' (·.large) (st'.size + 1) (some tail) = t.ids ∧
      follow st' (·.small) (st'.size + 1) (some head) = t.ids.reverse ∧
      Linked st' t.ids ∧ smallOf st' tail = some none ∧ largeOf st' head = some none ∧
      SameData st st' ∧ (∀ j, j ∉ t.ids → rd st' j = rd st j) ∧
      t.ids.filterMap (fun i => (rd st' i).map (·.key)) = Tree.toList (absTree st t) := by
  obtain ⟨st', e0, e⟩ := convRec_eq t (st.size + 1) st (some root) none none hrep hnd
    (by have := hrep.height_le_size hnd; omega) (fun q hq => by cases hq)
  obtain ⟨_, e0', L, D, F, S, G, _⟩ := linkAll_spec t.ids st none hnd hrep.rd_some (fun q hq => by cases hq)
  rw [e0] at e0'; cases e0'
  have MS : ∀ m, t.ids.head? = some m → smallOf st' m = some none := fun m hm => (S m hm).trans (hrep.ends.1 m hm)
  have ML : ∀ m, t.ids.getLast? = some m → largeOf st' m = some none := fun m hm => (G rfl m hm).trans (hrep.ends.2 m hm)
  have hne : t.ids ≠ [] := by
    cases t with
    | nil => cases hrep
    | node a i b => simp [Shape.ids]
  obtain ⟨tail, l, hl⟩ := List.exists_cons_of_ne_nil hne
  have hlen := hrep.length_le_size hnd
  have hhead : t.ids.getLast? = some (t.ids.getLast hne) := List.getLast?_eq_some_getLast hne
  have htail : t.ids.head? = some tail := by rw [hl]; rfl
  refine ⟨st', t.ids.getLast hne, tail, ?_, hhead, htail, ?_, ?_, L, MS tail htail, ML _ hhead, D,
    fun j hj => F j hj (by simp), ?_⟩
  · simp only [convert, e, tailAfter_none, hhead, htail, ↓reduceIte, Option.map_some]
  · have := follow_large (st := st') l tail (st'.size + 1) (by rw [← hl]; exact L)
      (by have := ML _ hhead; simpa [hl] using this) (by rw [D.1]; rw [hl] at hlen; simp at hlen; omega)
    rw [this, hl]
  · have hk : t.ids.length - 1 < t.ids.length := by
      have : 0 < t.ids.length := by rw [hl]; simp
      omega
    have hget : t.ids.getLast hne = t.ids[t.ids.length - 1] := List.getLast_eq_getElem ..
    rw [hget, follow_small L (fun h => by
        have : t.ids[0] = tail := by simp [hl]
        rw [this]; exact MS tail htail) (t.ids.length - 1) hk (st'.size + 1) (by rw [D.1]; omega)]
    have : t.ids.length - 1 + 1 = t.ids.length := by omega
    rw [this, List.take_length]
  · rw [← ids_keys hrep]
    apply filterMap_congr'
    intro i hi
    have := hrep.rd_some i hi
    cases hr : rd st i with
    | none => rw [hr] at this; cases this
    | some nd =>
      obtain ⟨nd', r', k', _⟩ := D.2 i nd hr
      simp [r', k']

/-- keys strictly increase along the list -/
def AscKeys (st : Store) : List Nat → Prop
  | [] => True
  | [_] => True
  | a :: b :: r => (∃ na nb, rd st a = some na ∧ rd st b = some nb ∧ na.key < nb.key) ∧ AscKeys st (b :: r)

theorem AscKeys.get {st : Store} : ∀ {l : List Nat}, AscKeys st l → ∀ k (h : k + 1 < l.length),
    ∃ na nb, rd st l[k] = some na ∧ rd st l[k+1] = some nb ∧ na.key < nb.key
  | [], _, k, h => by simp at h
  | [_], _, k, h => by simp at h
  | a :: b :: r, ⟨h1, h2⟩, k, h => by
    cases k with
    | zero => exact h1
    | succ k => exact AscKeys.get h2 k (by simp at h ⊢; omega)

theorem ascKeys_of_pairwise {st : Store} : ∀ (l : List Nat), (∀ x ∈ l, (rd st x).isSome = true) →
    (l.filterMap (fun i => (rd st i).map (·.key))).Pairwise (· < ·) → AscKeys st l
  | [], _, _ => trivial
  | [_], _, _ => trivial
  | a :: b :: r, hs, hp => by
    cases ha : rd st a with
    | none => have := hs a (by simp); rw [ha] at this; cases this
    | some na =>
      cases hb : rd st b with
      | none => have := hs b (by simp); rw [hb] at this; cases this
      | some nb =>
        simp only [List.filterMap_cons, ha, hb, Option.map_some] at hp
        refine ⟨⟨na, nb, ha, hb, ?_⟩, ?_⟩
        · exact (List.pairwise_cons.mp hp).1 nb.key (by simp)
        · apply ascKeys_of_pairwise (b :: r) (fun x hx => hs x (by simp [List.mem_cons.mp hx]))
          simp only [List.filterMap_cons, hb, Option.map_some]
          exact (List.pairwise_cons.mp hp).2

theorem testUp_none (st : Store) (fuel cnt : Nat) (prev : Ptr) : testUp st fuel none cnt prev = some (.inr (cnt, prev)) := by
  cases fuel <;> rfl
theorem testDown_none (st : Store) (fuel cnt : Nat) (prev : Ptr) : testDown st fuel none cnt prev = some (.inr (cnt, prev)) := by
  cases fuel <;> rfl

theorem testUp_linked {st : Store} : ∀ (l : List Nat) (x : Nat) (fuel cnt : Nat) (prev : Ptr), Linked st (x :: l) → AscKeys st (x :: l) →
    largeOf st ((x :: l).getLast (by simp)) = some none → l.length < fuel →
    testUp st fuel (some x) cnt prev = some (.inr (cnt + l.length + 1, some ((x :: l).getLast (by simp))))
  | [], x, fuel, cnt, prev, _, _, hend, hf => by
    cases fuel with
    | zero => simp at hf
    | succ f =>
      simp only [List.getLast_singleton, largeOf] at hend
      cases hr : rd st x with
      | none => rw [hr] at hend; cases hend
      | some nd =>
        rw [hr] at hend
        have : nd.large = none := by simpa using hend
        simp [testUp, hr, this, testUp_none]
  | y :: r, x, fuel, cnt, prev, ⟨h1, h2, h3⟩, ⟨⟨na, nb, ra, rb, hk⟩, hk2⟩, hend, hf => by
    cases fuel with
    | zero => simp at hf
    | succ f =>
      unfold largeOf at h1
      unfold smallOf at h2
      rw [ra] at h1
      rw [rb] at h2
      have hl : na.large = some y := by simpa using h1
      have hs : nb.small = some x := by simpa using h2
      have hk' : ¬ nb.key ≤ na.key := by omega
      simp only [testUp, ra, hl, rb, hk', hs, ↓reduceIte, ne_eq, not_true_eq_false]
      rw [testUp_linked r y f (cnt+1) (some x) h3 hk2 (by simpa using hend) (by simp at hf; omega)]
      simp only [List.length_cons, List.getLast_cons_cons]
      congr 3
      omega

theorem testDown_linked {st : Store} {l : List Nat} (hL : Linked st l) (hK : AscKeys st l)
    (h0 : ∀ h : 0 < l.length, smallOf st l[0] = some none) :
    ∀ (k : Nat) (hk : k < l.length) (fuel cnt : Nat) (prev : Ptr), k < fuel →
      testDown st fuel (some l[k]) cnt prev = some (.inr (cnt + k + 1, some (l[0]'(by omega))))
  | 0, hk, fuel, cnt, prev, hf => by
    cases fuel with
    | zero => omega
    | succ f =>
      have := h0 hk
      unfold smallOf at this
      cases hr : rd st l[0] with
      | none => rw [hr] at this; cases this
      | some nd =>
        rw [hr] at this
        have hs : nd.small = none := Option.some.inj this
        simp [testDown, hr, hs, testDown_none]
  | k+1, hk, fuel, cnt, prev, hf => by
    cases fuel with
    | zero => omega
    | succ f =>
      obtain ⟨hlg, hsm⟩ := hL.get k hk
      obtain ⟨na, nb, ra, rb, hlt⟩ := hK.get k hk
      unfold largeOf at hlg
      unfold smallOf at hsm
      rw [ra] at hlg
      rw [rb] at hsm
      have hl : na.large = some l[k+1] := Option.some.inj hlg
      have hs : nb.small = some l[k] := Option.some.inj hsm
      have hk' : ¬ na.key ≥ nb.key := by omega
      simp only [testDown, rb, hs, ra, hk', hl, ↓reduceIte, ne_eq, not_true_eq_false]
      rw [testDown_linked hL hK h0 k (by omega) f (cnt+1) (some l[k+1]) (by omega)]
      congr 3
      omega

theorem linkedListTest_ok {st : Store} {l : List Nat} (hne : l ≠ []) (hL : Linked st l) (hK : AscKeys st l)
    (hs : smallOf st (l.head hne) = some none) (hg : largeOf st (l.getLast hne) = some none) (hlen : l.length ≤ st.size) :
    linkedListTest st (some (l.getLast hne)) (some (l.head hne)) = some .ok := by
  obtain ⟨x, r, rfl⟩ := List.exists_cons_of_ne_nil hne
  have hup := testUp_linked r x (st.size + 1) 0 none hL hK hg (by simp at hlen; omega)
  have hk : (x :: r).length - 1 < (x :: r).length := by simp
  have hdown := testDown_linked hL hK (fun _ => by simpa using hs) ((x :: r).length - 1) hk (st.size + 1) 0 none (by omega)
  have hget : (x :: r).getLast hne = (x :: r)[(x :: r).length - 1] := List.getLast_eq_getElem ..
  rw [← hget] at hdown
  simp only [linkedListTest, List.head_cons, hup, hdown]
  simp

theorem convert_then_test {st : Store} {t : Shape} {root : Nat} (hrep : Repr st t (some root)) (hnd : t.ids.Nodup)
    (hbst : (Tree.toList (absTree st t)).Pairwise (· < ·)) :
    ∃ st' head tail, convert st (some root) = some (some (st', some head, some tail)) ∧
      linkedListTest st' (some head) (some tail) = some .ok := by
  obtain ⟨st', head, tail, e, hh, ht, _, _, L, hs, hg, D, _, hkeys⟩ := convert_spec hrep hnd
  refine ⟨st', head, tail, e, ?_⟩
  have hne : t.ids ≠ [] := by intro h; rw [h] at hh; cases hh
  have hsome : ∀ x ∈ t.ids, (rd st' x).isSome = true := fun x hx => D.isSome (hrep.rd_some x hx)
  have hK : AscKeys st' t.ids := ascKeys_of_pairwise t.ids hsome (by rw [hkeys]; exact hbst)
  have e1 : t.ids.getLast hne = head := by
    have := List.getLast?_eq_some_getLast hne
    rw [hh] at this; exact (Option.some.inj this).symm
  have e2 : t.ids.head hne = tail := by
    have := List.head?_eq_some_head hne
    rw [ht] at this; exact (Option.some.inj this).symm
  have hlen : t.ids.length ≤ st'.size := by rw [D.1]; exact hrep.length_le_size hnd
  have := linkedListTest_ok hne L hK (by rw [e2]; exact hs) (by rw [e1]; exact hg) hlen
  rw [e1, e2] at this
  exact this

end EaselModel.Containers.RedBlackPtr
