import EaselModel.Containers.KeyhashLemmas
/-! # The C `int` / `uint32_t` fields of ESL_KEYHASH stay in range

The model computes in `Nat`; the C code keeps `nkeys`, `kalloc`, `salloc`, `sn` in `int` and `hashsize` in `uint32_t`.
This file discharges the "no overflow" assumption to an explicit hypothesis on the ABSTRACT content: as long as the table
never holds more than `2^30 - 1` keys nor more than `2^30 - 1` arena bytes (Σ (length + 1)), every field stays `≤ 2^31 - 1`
(so `kalloc *= 2`, `salloc *= 2`, `sn += n+1`, `hashsize << 3` never overflow), for every history. The `uint32_t` product
`3*hashsize` can wrap from `hashsize > (2^32-1)/3` on; there `key_upsize` no longer grows the table, see `KeyhashInt32.lean`. -/
namespace EaselModel.Containers.Keyhash

def B30 : Nat := 2^30 - 1
def M31 : Nat := 2^31 - 1

/-- the abstract content fits: at most `2^30-1` keys and at most `2^30-1` arena bytes -/
def Fits (keys : List Key) : Prop := keys.length ≤ B30 ∧ (keys.map (fun k => k.length + 1)).sum ≤ B30

def FitsRun : List Key → List Op → Prop
  | keys, [] => Fits keys
  | keys, op :: rest =>
    Fits keys ∧ (match specStep keys op with | none => True | some (keys', _) => FitsRun keys' rest)

def Within (kh : KH) : Prop := kh.salloc ≤ M31 ∧ kh.kalloc ≤ M31 ∧ kh.hashsize ≤ M31

/-- state after a history (`none` = fault) -/
def finalKh (H : Key → Nat → Nat) : KH → List Op → Option KH
  | kh, [] => some kh
  | kh, op :: rest => match step H kh op with | none => none | some (kh', _) => finalKh H kh' rest

theorem AllocStep.within {kh kh' : KH} {keys : List Key} {key : Key} (ha : AllocStep kh kh' key) (hw : Within kh)
    (hsn : kh.smem.size = (keys.map (fun k => k.length + 1)).sum) (hnk : kh.nkeys = keys.length)
    (hf : Fits (keys ++ [key])) : Within kh' := by
  obtain ⟨a1, a2, a3⟩ := ha
  obtain ⟨hl, hs⟩ := hf
  simp only [List.map_append, List.sum_append, List.map_cons, List.map_nil, List.sum_cons, List.sum_nil,
    List.length_append, List.length_cons, List.length_nil, B30] at hl hs
  simp only [Within, M31] at hw ⊢
  refine ⟨?_, ?_, ?_⟩
  · rcases a1 with h | h
    · rw [h]; exact hw.1
    · omega
  · rcases a2 with h | h
    · rw [h]; exact hw.2.1
    · omega
  · rcases a3 with h | ⟨h, h'⟩
    · rw [h]; exact hw.2.2
    · omega

theorem Refines.within {I P st lk gt} (R : Refines I P (fun _ => True) st lk gt)
    (hstore : ∀ {kh keys} key, I kh keys → P key → key ∉ keys →
      ∃ kh', st kh key = some (kh', .ok, keys.length) ∧ I kh' (keys ++ [key]) ∧ AllocStep kh kh' key)
    (hsn : ∀ {kh keys}, I kh keys → kh.smem.size = (keys.map (fun k => k.length + 1)).sum) :
    Refines (fun kh keys => I kh keys ∧ Within kh) P Fits st lk gt where
  store_old key hi hp hm := R.store_old key hi.1 hp hm
  store_new key hi hp hm hf := by
    obtain ⟨kh', h1, h2, h3⟩ := hstore key hi.1 hp hm
    exact ⟨kh', h1, h2, h3.within hi.2 (hsn hi.1) (R.nkeys hi.1) hf⟩
  lookup key hi := R.lookup key hi.1
  get i hi := R.get i hi.1
  nkeys hi := R.nkeys hi.1
  on_reuse hi := ⟨R.on_reuse hi.1, hi.2⟩
  on_clone hi := ⟨R.on_clone hi.1, hi.2⟩
  cstr := R.cstr

theorem final_refines {I : KH → List Key → Prop} {Ok : Op → Prop} {stp : KH → Op → Option (KH × Out)}
    {fin : KH → List Op → Option KH} (fin_nil : ∀ kh, fin kh [] = some kh)
    (fin_cons : ∀ kh op rest, fin kh (op :: rest) = match stp kh op with | none => none | some (kh', _) => fin kh' rest)
    (hstep : ∀ kh keys op, I kh keys → Ok op → StepOk I Fits (stp kh op) keys op)
    (ops : List Op) (kh : KH) (keys : List Key) (hi : I kh keys) (hops : ∀ op ∈ ops, Ok op) (hf : FitsRun keys ops)
    (kh' : KH) (h : fin kh ops = some kh') : ∃ keys', I kh' keys' ∧ Fits keys' := by
  induction ops generalizing kh keys with
  | nil =>
    rw [fin_nil] at h; cases h
    exact ⟨keys, hi, hf⟩
  | cons op rest ih =>
    have hs := hstep kh keys op hi (hops op (by simp))
    unfold StepOk at hs
    obtain ⟨_, hf2⟩ := hf
    rw [fin_cons] at h
    cases hsp : specStep keys op with
    | none =>
      simp only [hsp] at hs
      simp [hs] at h
    | some r =>
      obtain ⟨keys', o⟩ := r
      simp only [hsp] at hs hf2
      have hfk : Fits keys' := by
        cases rest with
        | nil => exact hf2
        | cons _ _ => exact hf2.1
      obtain ⟨kh1, h1, h2⟩ := hs hfk
      simp only [h1] at h
      exact ih kh1 keys' h2 (fun op h => hops op (by simp [h])) hf2 h

theorem run_within {H : Key → Nat → Nat} (hH : HashOK H) (ops : List Op) (kh : KH) (keys : List Key) (hi : Inv H kh keys)
    (hops : ∀ op ∈ ops, op.NulFree) (hw : Within kh) (hf : FitsRun keys ops) (kh' : KH) (h : finalKh H kh ops = some kh') :
    Within kh' ∧ kh'.nkeys ≤ B30 ∧ kh'.smem.size ≤ B30 := by
  have R := (refines_inv hH).within (fun key hi h0 hm => (store_spec_full hi hH key h0).2 hm) (fun hi => hi.sn_eq)
  obtain ⟨keys', ⟨hi', hw'⟩, hf'⟩ := final_refines (I := fun kh keys => Inv H kh keys ∧ Within kh)
    (fun _ => rfl) (fun _ _ _ => rfl)
    (fun kh _ op hi hop => by rw [step_eq]; exact R.step hi op (fun k e => by subst e; exact hop))
    ops kh keys ⟨hi, hw⟩ hops hf kh' h
  rw [hi'.nkeys, hi'.sn_eq]
  exact ⟨hw', hf'⟩

end EaselModel.Containers.Keyhash
