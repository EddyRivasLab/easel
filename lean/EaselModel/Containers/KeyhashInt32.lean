import EaselModel.Containers.KeyhashLemmas
/-! # ESL_KEYHASH at the edge of `int`: what the C arithmetic does AT the bound

`Keyhash.lean` computes in `Nat`; `KeyhashBounds.lean` shows that below `2^30 - 1` keys / arena bytes no C field overflows.
This file models the three places where the C types matter, in the C types, and says what happens at and beyond the bound:

* `while (kh->sn + n + 1 > kh->salloc) { ESL_REALLOC(kh->smem, sizeof(char) * kh->salloc * 2); kh->salloc *= 2; }`
  — `need = sn + n + 1` is 64-bit (`esl_pos_t`), the `realloc` size is `size_t`, `kh->salloc` is an `int`: the doubling is a
  signed 32-bit multiplication (`growC`);
* `if (kh->nkeys == kh->kalloc) { …; kh->kalloc *= 2; }` — the same for the index arrays (`doubleC`);
* `if (kh->nkeys > 3*kh->hashsize) key_upsize(kh)` and `kh->hashsize << 3` — `uint32_t` arithmetic, growth stops at
  `hashsize >= 2^28` ("quasi-success"): no wrap-around can change what the `Nat` model computes (`upsize_trigger_exact`,
  `upsize_shift_exact`; for `hashsize >= 2^28` `upsize` is the identity whatever the wrapped comparison says).

`guarded = true` is the code with `if (kh->salloc > INT_MAX / 2) ESL_XEXCEPTION(eslEMEM, …)` in front of the doubling. -/
namespace EaselModel.Containers.Keyhash

def INT_MAX : Nat := 2147483647

inductive GrowC where
  | ok (salloc : Nat)        -- the loop is left with this `salloc` (`need ≤ salloc`)
  | overflow (salloc : Nat)  -- `kh->salloc *= 2` is executed with this value and `2*salloc > INT_MAX`: signed overflow (UB)
  | emem (salloc : Nat)      -- guarded code: `eslEMEM` thrown, `salloc` unchanged
  | nofuel
deriving DecidableEq, Repr

/-- the arena growth loop of `esl_keyhash_Store` in C arithmetic -/
def growC (guarded : Bool) (need : Nat) : Nat → Nat → GrowC
  | 0, _ => .nofuel
  | fuel+1, s =>
    if need > s then
      if guarded && decide (s > INT_MAX / 2) then .emem s
      else if s * 2 > INT_MAX then .overflow s
      else growC guarded need fuel (s * 2)
    else .ok s

/-- the index-array doubling of `esl_keyhash_Store` in C arithmetic -/
def doubleC (guarded : Bool) (kalloc : Nat) : GrowC :=
  if guarded && decide (kalloc > INT_MAX / 2) then .emem kalloc
  else if kalloc * 2 > INT_MAX then .overflow kalloc
  else .ok (kalloc * 2)

theorem pow_step (s k : Nat) : s * 2 * 2 ^ k = s * 2 ^ (k + 1) := by
  rw [Nat.mul_assoc, Nat.pow_succ, Nat.mul_comm 2]

theorem growC_char (g : Bool) (need : Nat) : ∀ (fuel s : Nat), 0 < s → s ≤ INT_MAX → INT_MAX < s * 2 ^ fuel →
    (∃ k, growC g need fuel s = .ok (s * 2 ^ k) ∧ need ≤ s * 2 ^ k ∧ s * 2 ^ k ≤ INT_MAX ∧ ∀ j, j < k → s * 2 ^ j < need) ∨
    (∃ k, growC g need fuel s = (if g then .emem (s * 2 ^ k) else .overflow (s * 2 ^ k)) ∧ s * 2 ^ k < need ∧
      s * 2 ^ k ≤ INT_MAX ∧ INT_MAX < s * 2 ^ (k + 1))
  | 0, s, _, h1, h2 => by simp at h2; omega
  | fuel+1, s, h0, h1, h2 => by
    by_cases hn : need > s
    · by_cases ho : s * 2 > INT_MAX
      · refine Or.inr ⟨0, ?_, by simpa using hn, by simpa using h1, by simpa using ho⟩
        have hg : s > INT_MAX / 2 := by simp only [INT_MAX] at ho ⊢; omega
        cases g
        · simp [growC, hn, ho]
        · simp [growC, hn, hg]
      · have hg : ¬ s > INT_MAX / 2 := by simp only [INT_MAX] at ho ⊢; omega
        have hrec : growC g need (fuel + 1) s = growC g need fuel (s * 2) := by
          simp [growC, hn, ho, hg]
        have h2' : INT_MAX < s * 2 * 2 ^ fuel := by rw [pow_step]; exact h2
        rcases growC_char g need fuel (s * 2) (by omega) (by omega) h2' with ⟨k, e1, e2, e3, e4⟩ | ⟨k, e1, e2, e3, e4⟩
        · refine Or.inl ⟨k + 1, ?_, ?_, ?_, fun j hj => ?_⟩
          · rw [hrec, e1, pow_step]
          · rw [← pow_step]; exact e2
          · rw [← pow_step]; exact e3
          · cases j with
            | zero => simpa using hn
            | succ j => rw [← pow_step]; exact e4 j (by omega)
        · refine Or.inr ⟨k + 1, ?_, ?_, ?_, ?_⟩
          · rw [hrec, e1, pow_step]
          · rw [← pow_step]; exact e2
          · rw [← pow_step]; exact e3
          · rw [← pow_step]; exact e4
    · exact Or.inl ⟨0, by simp [growC, hn], by simp; omega, by simpa using h1, fun j hj => by omega⟩

theorem growC_ok_model (g : Bool) (need : Nat) : ∀ (fuel s r : Nat), growC g need fuel s = .ok r → growTo need fuel s = some r
  | 0, s, r, h => by simp [growC] at h
  | fuel+1, s, r, h => by
    by_cases hn : need > s
    · have hle : ¬ need ≤ s := by omega
      simp only [growC, hn, ↓reduceIte] at h
      simp only [growTo, hle, ↓reduceIte]
      split at h
      · cases h
      · split at h
        · cases h
        · rw [Nat.mul_comm]; exact growC_ok_model g need fuel (s * 2) r h
    · have hle : need ≤ s := by omega
      simp only [growC, hn, ↓reduceIte] at h
      cases h
      simp [growTo, hle]


theorem growC_ok_of_fits (g : Bool) (need s : Nat) (h0 : 0 < s) (h1 : s ≤ INT_MAX)
    (hfit : ∃ k, need ≤ s * 2 ^ k ∧ s * 2 ^ k ≤ INT_MAX) :
    ∃ r, growC g need 32 s = .ok r ∧ growTo need 32 s = some r ∧ need ≤ r ∧ r ≤ INT_MAX := by
  have hbig : INT_MAX < s * 2 ^ 32 := by
    have : 2 ^ 32 ≤ s * 2 ^ 32 := Nat.le_mul_of_pos_left _ h0
    simp only [INT_MAX]; omega
  rcases growC_char g need 32 s h0 h1 hbig with ⟨k, e1, e2, e3, _⟩ | ⟨k', _, e2, _, e4⟩
  · exact ⟨_, e1, growC_ok_model g need 32 s _ e1, e2, e3⟩
  · exfalso
    obtain ⟨k, f1, f2⟩ := hfit
    have hlt : s * 2 ^ k' < s * 2 ^ k := by omega
    have hpow : 2 ^ k' < 2 ^ k := Nat.lt_of_mul_lt_mul_left hlt
    have hk : k' < k := (Nat.pow_lt_pow_iff_right (by omega)).mp hpow
    have hle : 2 ^ (k' + 1) ≤ 2 ^ k := Nat.pow_le_pow_right (by omega) hk
    have := Nat.mul_le_mul_left s hle
    omega

theorem doubleC_char (g : Bool) (kalloc : Nat) :
    (kalloc * 2 ≤ INT_MAX → doubleC g kalloc = .ok (kalloc * 2)) ∧
    (INT_MAX < kalloc * 2 → doubleC g kalloc = if g then .emem kalloc else .overflow kalloc) := by
  constructor
  · intro h
    have hg : ¬ kalloc > INT_MAX / 2 := by simp only [INT_MAX] at h ⊢; omega
    have ho : ¬ kalloc * 2 > INT_MAX := by omega
    simp [doubleC, hg, ho]
  · intro h
    have hg : kalloc > INT_MAX / 2 := by simp only [INT_MAX] at h ⊢; omega
    cases g
    · simp [doubleC, h]
    · simp [doubleC, hg]


theorem growC_guarded_no_overflow (need : Nat) : ∀ (fuel s r : Nat), growC true need fuel s ≠ .overflow r
  | 0, _, _ => by simp [growC]
  | fuel+1, s, r => by
    simp only [growC, Bool.true_and]
    by_cases hn : need > s
    · by_cases hg : s > INT_MAX / 2
      · simp [hn, hg]
      · have ho : ¬ s * 2 > INT_MAX := by simp only [INT_MAX] at hg ⊢; omega
        simp only [hn, hg, ho, ↓reduceIte, decide_false, Bool.false_eq_true]
        exact growC_guarded_no_overflow need fuel (s * 2) r
    · simp [hn]

theorem doubleC_guarded_no_overflow (kalloc r : Nat) : doubleC true kalloc ≠ .overflow r := by
  by_cases hg : kalloc > INT_MAX / 2
  · simp [doubleC, hg]
  · have ho : ¬ kalloc * 2 > INT_MAX := by simp only [INT_MAX] at hg ⊢; omega
    simp [doubleC, hg, ho]

theorem upsize_trigger_exact (h : UInt32) (hh : h.toNat < 2 ^ 28) : (3 * h).toNat = 3 * h.toNat := by
  rw [UInt32.toNat_mul]
  have : (3 : UInt32).toNat = 3 := rfl
  rw [this]
  exact Nat.mod_eq_of_lt (by omega)

theorem upsize_shift_exact (h : UInt32) (hh : h.toNat < 2 ^ 28) : (h <<< 3).toNat = 8 * h.toNat ∧ 8 * h.toNat < 2 ^ 31 := by
  refine ⟨?_, by omega⟩
  rw [UInt32.toNat_shiftLeft]
  have : (3 : UInt32).toNat % 32 = 3 := rfl
  rw [this, Nat.shiftLeft_eq]
  rw [Nat.mod_eq_of_lt (by omega)]
  omega

theorem upsize_stops (H : Key → Nat → Nat) (kh : KH) (h : 2 ^ 28 ≤ kh.hashsize) : upsize H kh = some kh := by
  simp [upsize, h]

end EaselModel.Containers.Keyhash
