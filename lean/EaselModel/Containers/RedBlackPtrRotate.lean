import EaselModel.Containers.RedBlackPtrRebalance
/-! # The four rotations of `esl_red_black_doublekey_rebalance` (uncle black) on the pointer structure -/
namespace EaselModel.Containers.RedBlackPtr
open EaselModel.Containers.RedBlack

/-- what the records read after a rotation that puts `p` in `g`'s place and moves the sibling subtree `PS` (root pointer `q`)
    under `g`: `n`, `g`, `p` their new contents; the subtrees below `n` and the uncle subtree as before; the root of `PS`
    reparented; the path above relinked to `p`; nothing else written -/
structure SingleRead (st s' : Store) (gpar q : Ptr) (n p g : Nat) (a b PS U : Shape) (fs : List Frame) (nn' gn' pn' : Node) :
    Prop where
  rd_n : rd s' n = some nn'
  rd_g : rd s' g = some gn'
  rd_p : rd s' p = some pn'
  in_a : ∀ j ∈ a.ids, rd s' j = rd st j
  in_b : ∀ j ∈ b.ids, rd s' j = rd st j
  in_U : ∀ j ∈ U.ids, rd s' j = rd st j
  in_PS : ∀ j ∈ PS.ids, rd s' j = if q = some j then (rd st j).map (fun nd => { nd with parent := some g }) else rd st j
  ctx : CtxUpd st s' fs gpar g p
  frame : ∀ j, j ∉ (a.ids ++ n :: b.ids) ++ ((p :: PS.ids) ++ ((g :: U.ids) ++ pathIds fs)) → rd s' j = rd st j

theorem RotIds.single {st s' : Store} {gpar : Ptr} {n p g : Nat} {a b PS U : Shape} {fs : List Frame}
    (D : RotIds st gpar n p g a b PS U fs) {q par : Ptr} (hPS : ReprP st PS q par) {nn' gn' pn' : Node}
    (F : ∀ j, rd s' j =
      if j = n then some nn' else if j = g then some gn' else if j = p then some pn'
      else if gpar = some j then (rd st j).map (replaceFn g p)
      else if q = some j then (rd st j).map (fun nd => { nd with parent := some g })
      else rd st j) :
    SingleRead st s' gpar q n p g a b PS U fs nn' gn' pn' := by
  have hq := hPS.ptr_mem
  have same : ∀ j, Apart n p g fs j → j ∉ PS.ids → rd s' j = rd st j := fun j A h5 => by
    have h6 : ¬ gpar = some j := fun e => A.not_fs (D.gpar_fs j e).2
    have h7 : ¬ q = some j := fun e => h5 (hq j e).1
    rw [F]; simp [A.ne_n, A.ne_g, A.ne_p, h6, h7]
  refine ⟨by rw [F]; simp, by rw [F]; simp [Ne.symm D.ng], by rw [F]; simp [Ne.symm D.np, D.pg],
    fun j hj => same j (D.in_a j hj) (D.a_PS j hj), fun j hj => same j (D.in_b j hj) (D.b_PS j hj),
    fun j hj => same j (D.in_U j hj) (fun h => D.PS_U j h hj), fun j hj => ?_, fun j hj => ?_, fun j hj => ?_⟩
  · have A := D.in_PS j hj
    have h6 : ¬ gpar = some j := fun e => A.not_fs (D.gpar_fs j e).2
    rw [F]; simp [A.ne_n, A.ne_g, A.ne_p, h6]
  · have h1 : j ≠ n := fun e => D.n_fs (e ▸ hj)
    have h2 : j ≠ g := fun e => D.g_fs (e ▸ hj)
    have h3 : j ≠ p := fun e => D.p_fs (e ▸ hj)
    have h7 : ¬ q = some j := fun e => (D.in_PS j (hq j e).1).not_fs hj
    rw [F]; simp [h1, h2, h3, h7]
  · simp only [List.mem_append, List.mem_cons, not_or] at hj
    obtain ⟨⟨_, h1, _⟩, ⟨h3, h5⟩, ⟨h2, _⟩, h4⟩ := hj
    exact same j ⟨h1, h3, h2, h4⟩ h5

/-- what the records read after a rotation that puts `n` in `g`'s place and moves its subtrees `a`, `b` (root pointers `qa`, `qb`)
    under `ra`, `rb` (one of them `g`, the other `p`): `n`, `g`, `p` their new contents; the sibling and uncle subtrees as
    before; the roots of `a`, `b` reparented; the path above relinked to `n`; nothing else written -/
structure DoubleRead (st s' : Store) (gpar qa qb : Ptr) (ra rb n p g : Nat) (a b PS U : Shape) (fs : List Frame)
    (nn' gn' pn' : Node) : Prop where
  rd_n : rd s' n = some nn'
  rd_g : rd s' g = some gn'
  rd_p : rd s' p = some pn'
  in_PS : ∀ j ∈ PS.ids, rd s' j = rd st j
  in_U : ∀ j ∈ U.ids, rd s' j = rd st j
  in_a : ∀ j ∈ a.ids, rd s' j = if qa = some j then (rd st j).map (fun nd => { nd with parent := some ra }) else rd st j
  in_b : ∀ j ∈ b.ids, rd s' j = if qb = some j then (rd st j).map (fun nd => { nd with parent := some rb }) else rd st j
  ctx : CtxUpd st s' fs gpar g n
  frame : ∀ j, j ∉ (a.ids ++ n :: b.ids) ++ ((p :: PS.ids) ++ ((g :: U.ids) ++ pathIds fs)) → rd s' j = rd st j

theorem RotIds.double {st s' : Store} {gpar : Ptr} {n p g : Nat} {a b PS U : Shape} {fs : List Frame}
    (D : RotIds st gpar n p g a b PS U fs) {qa qb pa pb : Ptr} (ha : ReprP st a qa pa) (hb : ReprP st b qb pb)
    {ra rb : Nat} {nn' gn' pn' : Node}
    (F : ∀ j, rd s' j =
      if j = n then some nn' else if j = g then some gn' else if j = p then some pn'
      else if gpar = some j then (rd st j).map (replaceFn g n)
      else if qa = some j then (rd st j).map (fun nd => { nd with parent := some ra })
      else if qb = some j then (rd st j).map (fun nd => { nd with parent := some rb })
      else rd st j) :
    DoubleRead st s' gpar qa qb ra rb n p g a b PS U fs nn' gn' pn' := by
  have hqa := ha.ptr_mem
  have hqb := hb.ptr_mem
  have same : ∀ j, Apart n p g fs j → j ∉ a.ids → j ∉ b.ids → rd s' j = rd st j := fun j A h5 h6 => by
    have h7 : ¬ gpar = some j := fun e => A.not_fs (D.gpar_fs j e).2
    have h8 : ¬ qa = some j := fun e => h5 (hqa j e).1
    have h9 : ¬ qb = some j := fun e => h6 (hqb j e).1
    rw [F]; simp [A.ne_n, A.ne_g, A.ne_p, h7, h8, h9]
  refine ⟨by rw [F]; simp, by rw [F]; simp [Ne.symm D.ng], by rw [F]; simp [Ne.symm D.np, D.pg],
    fun j hj => same j (D.in_PS j hj) (fun h => D.a_PS j h hj) (fun h => D.b_PS j h hj),
    fun j hj => same j (D.in_U j hj) (fun h => D.a_U j h hj) (fun h => D.b_U j h hj), fun j hj => ?_, fun j hj => ?_,
    fun j hj => ?_, fun j hj => ?_⟩
  · have A := D.in_a j hj
    have h6 : ¬ gpar = some j := fun e => A.not_fs (D.gpar_fs j e).2
    have h7 : ¬ qb = some j := fun e => D.a_b j hj (hqb j e).1
    rw [F]; simp [A.ne_n, A.ne_g, A.ne_p, h6, h7]
  · have A := D.in_b j hj
    have h6 : ¬ gpar = some j := fun e => A.not_fs (D.gpar_fs j e).2
    have h7 : ¬ qa = some j := fun e => D.a_b j (hqa j e).1 hj
    rw [F]; simp [A.ne_n, A.ne_g, A.ne_p, h6, h7]
  · have h1 : j ≠ n := fun e => D.n_fs (e ▸ hj)
    have h2 : j ≠ g := fun e => D.g_fs (e ▸ hj)
    have h3 : j ≠ p := fun e => D.p_fs (e ▸ hj)
    have h7 : ¬ qa = some j := fun e => (D.in_a j (hqa j e).1).not_fs hj
    have h8 : ¬ qb = some j := fun e => (D.in_b j (hqb j e).1).not_fs hj
    rw [F]; simp [h1, h2, h3, h7, h8]
  · simp only [List.mem_append, List.mem_cons, not_or] at hj
    obtain ⟨⟨h5, h1, h6⟩, ⟨h3, _⟩, ⟨h2, _⟩, h4⟩ := hj
    exact same j ⟨h1, h3, h2, h4⟩ h5 h6

/-- node small of parent, parent small of grandparent: the parent becomes the subtree root -/
theorem rot_LL {st : Store} {fuel tree n p g : Nat} {nn pn gn : Node} {a b PS U : Shape} {fs : List Frame}
    (hn : rd st n = some nn) (hp : rd st p = some pn) (hg : rd st g = some gn)
    (hnpar : nn.parent = some p) (hpsm : pn.small = some n) (hppar : pn.parent = some g)
    (hgsm : gn.small = some p)
    (ha : ReprP st a nn.small (some n)) (hb : ReprP st b nn.large (some n))
    (hPS : ReprP st PS pn.large (some p)) (hU : ReprP st U gn.large (some g))
    (D : RotIds st gn.parent n p g a b PS U fs)
    (hub : (absTree st U).color = .black) :
    ∃ st', rebalance (fuel+1) st tree n = some (st', rootAfter gn.parent p tree) ∧
      ReprP st' (.node (.node a n b) p (.node PS g U)) (some p) gn.parent ∧ CtxUpd st st' fs gn.parent g p ∧
      absTree st' (.node (.node a n b) p (.node PS g U)) =
        .node .black (.node .red (absTree st a) nn.key (absTree st b)) pn.key
          (.node .red (absTree st PS) gn.key (absTree st U)) ∧
      (∀ j, j ∉ (a.ids ++ n :: b.ids) ++ ((p :: PS.ids) ++ ((g :: U.ids) ++ pathIds fs)) → rd st' j = rd st j) := by
  obtain ⟨hqn, hqp, hqg, hqgg⟩ := D.ptr_apart hPS D.in_PS
  have hunc : ¬ gn.large = some p := fun e => (D.in_U p (hU.ptr_mem p e).1).ne_p rfl
  have ln := live_of_rd hn
  have lp := live_of_rd hp
  have lg := live_of_rd hg
  have lq : Live st pn.large := live_of_isSome fun c hc => (hPS.ptr_mem c hc).2
  have lgg : Live st gn.parent := live_of_isSome fun c hc => (D.gpar_fs c hc).1
  obtain ⟨s', hs'⟩ : ∃ s', s' = upd (upd (upd (upd (upd (upd (upd st
      (some g) fun nd => { nd with small := pn.large }) pn.large fun nd => { nd with parent := some g })
      (some p) fun nd => { nd with large := some g }) gn.parent (replaceFn g p))
      (some p) fun nd => { nd with parent := gn.parent, color := .black })
      (some g) fun nd => { nd with parent := some p, color := .red }) (some n) fun nd => { nd with color := .red } := ⟨_, rfl⟩
  have F : ∀ j, rd s' j =
      if j = n then some { nn with color := .red }
      else if j = g then some { gn with small := pn.large, parent := some p, color := .red }
      else if j = p then some { pn with large := some g, parent := gn.parent, color := .black }
      else if gn.parent = some j then (rd st j).map (replaceFn g p)
      else if pn.large = some j then (rd st j).map (fun nd => { nd with parent := some g })
      else rd st j := by
    intro j
    simp only [hs', rd_upd, Option.some.injEq]
    by_cases h1 : j = n
    · subst h1; simp [hqn, Ne.symm D.np, Ne.symm D.ng, hn, D.gpar_n]
    · by_cases h2 : j = g
      · subst h2; simp [hqg, D.pg, D.ng, Ne.symm D.ng, hg, D.gpar_g]
      · by_cases h3 : j = p
        · subst h3; simp [hqp, Ne.symm D.pg, D.pg, D.np, Ne.symm D.np, hp, D.gpar_p]
        · have h1' : ¬ n = j := fun e => h1 e.symm
          have h2' : ¬ g = j := fun e => h2 e.symm
          have h3' : ¬ p = j := fun e => h3 e.symm
          by_cases h4 : gn.parent = some j
          · simp [h1, h2, h3, h1', h2', h3', h4, hqgg j h4]
          · simp [h1, h2, h3, h1', h2', h3', h4]
  have R := D.single hPS F
  refine ⟨s', ?_, ?_, R.ctx, ?_, R.frame⟩
  · rcases uncle_cases hU hub with hun | ⟨u, un, hun, hur, hucol⟩
    · rcases hgp : gn.parent with _ | gg
      · simp only [hgp] at hs'
        simp only [rebalance, hn, hnpar, hp, hppar, hg, hun, reduceCtorEq, hpsm, hgsm, ↓reduceIte, wr_upd, setParentIf_upd, live_upd,
          ln, lp, lg, lq, hgp, Option.map_some, rootAfter, hs', upd_none]
      · simp only [hgp] at hs' lgg
        simp only [rebalance, hn, hnpar, hp, hppar, hg, hun, reduceCtorEq, hpsm, hgsm, ↓reduceIte, wr_upd, setParentIf_upd, replaceChild_upd,
          live_upd, ln, lp, lg, lq, lgg, hgp, Option.map_some, rootAfter, hs']
    · have hup : ¬ u = p := fun e => hunc (by rw [hun, e])
      rcases hgp : gn.parent with _ | gg
      · simp only [hgp] at hs'
        simp only [rebalance, hn, hnpar, hp, hppar, hg, hun, Option.some.injEq, hup, hur, hucol, hpsm, hgsm, ↓reduceIte, wr_upd,
          setParentIf_upd, live_upd, ln, lp, lg, lq, hgp, Option.map_some, rootAfter, hs', upd_none]
      · simp only [hgp] at hs' lgg
        simp only [rebalance, hn, hnpar, hp, hppar, hg, hun, Option.some.injEq, hup, hur, hucol, hpsm, hgsm, ↓reduceIte, wr_upd,
          setParentIf_upd, replaceChild_upd, live_upd, ln, lp, lg, lq, lgg, hgp, Option.map_some, rootAfter, hs']
  · refine ⟨rfl, _, R.rd_p, rfl, ?_, ?_⟩
    · show ReprP s' (.node a n b) pn.small (some p)
      rw [hpsm]
      exact ⟨rfl, _, R.rd_n, hnpar, ReprP.congr R.in_a ha, ReprP.congr R.in_b hb⟩
    · show ReprP s' (.node PS g U) (some g) (some p)
      exact ⟨rfl, _, R.rd_g, rfl, ReprP.reparent D.nodup_PS hPS R.in_PS, ReprP.congr R.in_U hU⟩
  · simp only [absTree, R.rd_p, R.rd_n, R.rd_g, absTree_congr R.in_a, absTree_congr R.in_b, absTree_congr R.in_U, absTree_reparent R.in_PS]


/-- node large of parent, parent large of grandparent: the parent becomes the subtree root -/
theorem rot_RR {st : Store} {fuel tree n p g : Nat} {nn pn gn : Node} {a b PS U : Shape} {fs : List Frame}
    (hn : rd st n = some nn) (hp : rd st p = some pn) (hg : rd st g = some gn)
    (hnpar : nn.parent = some p) (hplg : pn.large = some n) (hppar : pn.parent = some g)
    (hglg : gn.large = some p)
    (ha : ReprP st a nn.small (some n)) (hb : ReprP st b nn.large (some n))
    (hPS : ReprP st PS pn.small (some p)) (hU : ReprP st U gn.small (some g))
    (D : RotIds st gn.parent n p g a b PS U fs)
    (hub : (absTree st U).color = .black) :
    ∃ st', rebalance (fuel+1) st tree n = some (st', rootAfter gn.parent p tree) ∧
      ReprP st' (.node (.node U g PS) p (.node a n b)) (some p) gn.parent ∧ CtxUpd st st' fs gn.parent g p ∧
      absTree st' (.node (.node U g PS) p (.node a n b)) =
        .node .black (.node .red (absTree st U) gn.key (absTree st PS)) pn.key
          (.node .red (absTree st a) nn.key (absTree st b)) ∧
      (∀ j, j ∉ (a.ids ++ n :: b.ids) ++ ((p :: PS.ids) ++ ((g :: U.ids) ++ pathIds fs)) → rd st' j = rd st j) := by
  obtain ⟨hqn, hqp, hqg, hqgg⟩ := D.ptr_apart hPS D.in_PS
  have hunc : ¬ gn.small = some p := fun e => (D.in_U p (hU.ptr_mem p e).1).ne_p rfl
  have ln := live_of_rd hn
  have lp := live_of_rd hp
  have lg := live_of_rd hg
  have lq : Live st pn.small := live_of_isSome fun c hc => (hPS.ptr_mem c hc).2
  have lgg : Live st gn.parent := live_of_isSome fun c hc => (D.gpar_fs c hc).1
  obtain ⟨s', hs'⟩ : ∃ s', s' = upd (upd (upd (upd (upd (upd (upd st
      gn.parent (replaceFn g p)) (some p) fun nd => { nd with parent := gn.parent })
      (some g) fun nd => { nd with large := pn.small }) pn.small fun nd => { nd with parent := some g })
      (some p) fun nd => { nd with small := some g, color := .black })
      (some g) fun nd => { nd with parent := some p, color := .red }) (some n) fun nd => { nd with color := .red } := ⟨_, rfl⟩
  have F : ∀ j, rd s' j =
      if j = n then some { nn with color := .red }
      else if j = g then some { gn with large := pn.small, parent := some p, color := .red }
      else if j = p then some { pn with small := some g, parent := gn.parent, color := .black }
      else if gn.parent = some j then (rd st j).map (replaceFn g p)
      else if pn.small = some j then (rd st j).map (fun nd => { nd with parent := some g })
      else rd st j := by
    intro j
    simp only [hs', rd_upd, Option.some.injEq]
    by_cases h1 : j = n
    · subst h1; simp [hqn, Ne.symm D.np, Ne.symm D.ng, hn, D.gpar_n]
    · by_cases h2 : j = g
      · subst h2; simp [hqg, D.pg, D.ng, Ne.symm D.ng, hg, D.gpar_g]
      · by_cases h3 : j = p
        · subst h3; simp [hqp, Ne.symm D.pg, D.pg, D.np, Ne.symm D.np, hp, D.gpar_p]
        · have h1' : ¬ n = j := fun e => h1 e.symm
          have h2' : ¬ g = j := fun e => h2 e.symm
          have h3' : ¬ p = j := fun e => h3 e.symm
          by_cases h4 : gn.parent = some j
          · simp [h1, h2, h3, h1', h2', h3', h4, hqgg j h4]
          · simp [h1, h2, h3, h1', h2', h3', h4]
  have R := D.single hPS F
  refine ⟨s', ?_, ?_, R.ctx, ?_, R.frame⟩
  · rcases uncle_cases hU hub with hun | ⟨u, un, hun, hur, hucol⟩
    · rcases hgp : gn.parent with _ | gg
      · simp only [hgp] at hs'
        simp only [rebalance, hn, hnpar, hp, hppar, hg, hglg, hun, reduceCtorEq, hqn, ↓reduceIte, wr_upd, setParentIf_upd, live_upd,
          ln, lp, lg, lq, hgp, Option.map_some, rootAfter, hs', upd_none]
      · simp only [hgp] at hs' lgg
        simp only [rebalance, hn, hnpar, hp, hppar, hg, hglg, hun, reduceCtorEq, hqn, ↓reduceIte, wr_upd, setParentIf_upd, replaceChild_upd,
          live_upd, ln, lp, lg, lq, lgg, hgp, Option.map_some, rootAfter, hs']
    · have hup : ¬ u = p := fun e => hunc (by rw [hun, e])
      rcases hgp : gn.parent with _ | gg
      · simp only [hgp] at hs'
        simp only [rebalance, hn, hnpar, hp, hppar, hg, hun, Option.some.injEq, hup, hur, hucol, hglg, hqn, ↓reduceIte, wr_upd,
          setParentIf_upd, live_upd, ln, lp, lg, lq, hgp, Option.map_some, rootAfter, hs', upd_none]
      · simp only [hgp] at hs' lgg
        simp only [rebalance, hn, hnpar, hp, hppar, hg, hun, Option.some.injEq, hup, hur, hucol, hglg, hqn, ↓reduceIte, wr_upd,
          setParentIf_upd, replaceChild_upd, live_upd, ln, lp, lg, lq, lgg, hgp, Option.map_some, rootAfter, hs']
  · refine ⟨rfl, _, R.rd_p, rfl, ?_, ?_⟩
    · show ReprP s' (.node U g PS) (some g) (some p)
      exact ⟨rfl, _, R.rd_g, rfl, ReprP.congr R.in_U hU, ReprP.reparent D.nodup_PS hPS R.in_PS⟩
    · show ReprP s' (.node a n b) pn.large (some p)
      rw [hplg]
      exact ⟨rfl, _, R.rd_n, hnpar, ReprP.congr R.in_a ha, ReprP.congr R.in_b hb⟩
  · simp only [absTree, R.rd_p, R.rd_n, R.rd_g, absTree_congr R.in_a, absTree_congr R.in_b, absTree_congr R.in_U, absTree_reparent R.in_PS]


/-- node small of parent, parent large of grandparent: the node becomes the subtree root -/
theorem rot_LR {st : Store} {fuel tree n p g : Nat} {nn pn gn : Node} {a b PS U : Shape} {fs : List Frame}
    (hn : rd st n = some nn) (hp : rd st p = some pn) (hg : rd st g = some gn)
    (hnpar : nn.parent = some p) (hpX : pn.small = some n) (hppar : pn.parent = some g)
    (hgY : gn.large = some p)
    (ha : ReprP st a nn.small (some n)) (hb : ReprP st b nn.large (some n))
    (hPS : ReprP st PS pn.large (some p)) (hU : ReprP st U gn.small (some g))
    (D : RotIds st gn.parent n p g a b PS U fs)
    (hub : (absTree st U).color = .black) :
    ∃ st', rebalance (fuel+1) st tree n = some (st', rootAfter gn.parent n tree) ∧
      ReprP st' (.node (.node U g a) n (.node b p PS)) (some n) gn.parent ∧ CtxUpd st st' fs gn.parent g n ∧
      absTree st' (.node (.node U g a) n (.node b p PS)) = .node .black (.node .red (absTree st U) gn.key (absTree st a)) nn.key (.node .red (absTree st b) pn.key (absTree st PS)) ∧
      (∀ j, j ∉ (a.ids ++ n :: b.ids) ++ ((p :: PS.ids) ++ ((g :: U.ids) ++ pathIds fs)) → rd st' j = rd st j) := by
  obtain ⟨hqan, hqap, hqag, hqagg⟩ := D.ptr_apart ha D.in_a
  obtain ⟨hqbn, hqbp, hqbg, hqbgg⟩ := D.ptr_apart hb D.in_b
  have hqab : ∀ j, nn.small = some j → nn.large ≠ some j := fun j e1 e2 =>
    D.a_b j (ha.ptr_mem j e1).1 (hb.ptr_mem j e2).1
  have hunc : ¬ gn.small = some p := fun e => (D.in_U p (hU.ptr_mem p e).1).ne_p rfl
  have ln := live_of_rd hn
  have lp := live_of_rd hp
  have lg := live_of_rd hg
  have la : Live st nn.small := live_of_isSome fun c hc => (ha.ptr_mem c hc).2
  have lb : Live st nn.large := live_of_isSome fun c hc => (hb.ptr_mem c hc).2
  have lgg : Live st gn.parent := live_of_isSome fun c hc => (D.gpar_fs c hc).1
  obtain ⟨s', hs'⟩ : ∃ s', s' = upd (upd (upd (upd (upd (upd (upd (upd (upd st
      gn.parent (replaceFn g n)) (some n) fun nd => { nd with parent := gn.parent })
      (some g) fun nd => { nd with large := nn.small }) nn.small fun nd => { nd with parent := some g })
      (some p) fun nd => { nd with small := nn.large }) nn.large fun nd => { nd with parent := some p })
      (some n) fun nd => { nd with small := some g, large := some p, color := .black })
      (some g) fun nd => { nd with parent := some n, color := .red })
      (some p) fun nd => { nd with parent := some n, color := .red } := ⟨_, rfl⟩
  have F : ∀ j, rd s' j =
      if j = n then some { nn with parent := gn.parent, small := some g, large := some p, color := .black }
      else if j = g then some { gn with large := nn.small, parent := some n, color := .red }
      else if j = p then some { pn with small := nn.large, parent := some n, color := .red }
      else if gn.parent = some j then (rd st j).map (replaceFn g n)
      else if nn.small = some j then (rd st j).map (fun nd => { nd with parent := some g })
      else if nn.large = some j then (rd st j).map (fun nd => { nd with parent := some p })
      else rd st j := by
    intro j
    simp only [hs', rd_upd, Option.some.injEq]
    by_cases h1 : j = n
    · subst h1; simp [hqan, hqbn, Ne.symm D.np, Ne.symm D.ng, hn, D.gpar_n]
    · by_cases h2 : j = g
      · subst h2; simp [hqag, hqbg, D.pg, D.ng, Ne.symm D.ng, hg, D.gpar_g]
      · by_cases h3 : j = p
        · subst h3; simp [hqap, hqbp, Ne.symm D.pg, D.pg, D.np, Ne.symm D.np, hp, D.gpar_p]
        · have h1' : ¬ n = j := fun e => h1 e.symm
          have h2' : ¬ g = j := fun e => h2 e.symm
          have h3' : ¬ p = j := fun e => h3 e.symm
          by_cases h4 : gn.parent = some j
          · simp [h1, h2, h3, h1', h2', h3', h4, hqagg j h4, hqbgg j h4]
          · by_cases h5 : nn.small = some j
            · simp [h1, h2, h3, h1', h2', h3', h4, h5, hqab j h5]
            · simp [h1, h2, h3, h1', h2', h3', h4, h5]
  have R := D.double ha hb F
  refine ⟨s', ?_, ?_, R.ctx, ?_, R.frame⟩
  · rcases uncle_cases hU hub with hun | ⟨u, un, hun, hur, hucol⟩
    · rcases hgp : gn.parent with _ | gg
      · simp only [hgp] at hs'
        simp only [rebalance, hn, hnpar, hp, hppar, hg, hgY, hun, reduceCtorEq, hpX, ↓reduceIte, wr_upd, setParentIf_upd, live_upd,
          ln, lp, lg, la, lb, hgp, Option.map_some, rootAfter, hs', upd_none]
      · simp only [hgp] at hs' lgg
        simp only [rebalance, hn, hnpar, hp, hppar, hg, hgY, hun, reduceCtorEq, hpX, ↓reduceIte, wr_upd, setParentIf_upd,
          replaceChild_upd, live_upd, ln, lp, lg, la, lb, lgg, hgp, Option.map_some, rootAfter, hs']
    · have hup : ¬ u = p := fun e => hunc (by rw [hun, e])
      rcases hgp : gn.parent with _ | gg
      · simp only [hgp] at hs'
        simp only [rebalance, hn, hnpar, hp, hppar, hg, hgY, hun, Option.some.injEq, hup, hur, hucol, hpX, ↓reduceIte, wr_upd,
          setParentIf_upd, live_upd, ln, lp, lg, la, lb, hgp, Option.map_some, rootAfter, hs', upd_none]
      · simp only [hgp] at hs' lgg
        simp only [rebalance, hn, hnpar, hp, hppar, hg, hgY, hun, Option.some.injEq, hup, hur, hucol, hpX, ↓reduceIte, wr_upd,
          setParentIf_upd, replaceChild_upd, live_upd, ln, lp, lg, la, lb, lgg, hgp, Option.map_some, rootAfter, hs']
  · refine ⟨rfl, _, R.rd_n, rfl, ?_, ?_⟩
    · show ReprP s' (.node U g a) (some g) (some n)
      exact ⟨rfl, _, R.rd_g, rfl, ReprP.congr R.in_U hU, ReprP.reparent D.nodup_a ha R.in_a⟩
    · show ReprP s' (.node b p PS) (some p) (some n)
      exact ⟨rfl, _, R.rd_p, rfl, ReprP.reparent D.nodup_b hb R.in_b, ReprP.congr R.in_PS hPS⟩
  · simp only [absTree, R.rd_p, R.rd_n, R.rd_g, absTree_reparent R.in_a, absTree_reparent R.in_b, absTree_congr R.in_U, absTree_congr R.in_PS]


/-- node large of parent, parent small of grandparent: the node becomes the subtree root -/
theorem rot_RL {st : Store} {fuel tree n p g : Nat} {nn pn gn : Node} {a b PS U : Shape} {fs : List Frame}
    (hn : rd st n = some nn) (hp : rd st p = some pn) (hg : rd st g = some gn)
    (hnpar : nn.parent = some p) (hpX : pn.large = some n) (hppar : pn.parent = some g)
    (hgY : gn.small = some p)
    (ha : ReprP st a nn.small (some n)) (hb : ReprP st b nn.large (some n))
    (hPS : ReprP st PS pn.small (some p)) (hU : ReprP st U gn.large (some g))
    (D : RotIds st gn.parent n p g a b PS U fs)
    (hub : (absTree st U).color = .black) :
    ∃ st', rebalance (fuel+1) st tree n = some (st', rootAfter gn.parent n tree) ∧
      ReprP st' (.node (.node PS p a) n (.node b g U)) (some n) gn.parent ∧ CtxUpd st st' fs gn.parent g n ∧
      absTree st' (.node (.node PS p a) n (.node b g U)) = .node .black (.node .red (absTree st PS) pn.key (absTree st a)) nn.key (.node .red (absTree st b) gn.key (absTree st U)) ∧
      (∀ j, j ∉ (a.ids ++ n :: b.ids) ++ ((p :: PS.ids) ++ ((g :: U.ids) ++ pathIds fs)) → rd st' j = rd st j) := by
  obtain ⟨hqan, hqap, hqag, hqagg⟩ := D.ptr_apart ha D.in_a
  obtain ⟨hqbn, hqbp, hqbg, hqbgg⟩ := D.ptr_apart hb D.in_b
  have hqab : ∀ j, nn.small = some j → nn.large ≠ some j := fun j e1 e2 =>
    D.a_b j (ha.ptr_mem j e1).1 (hb.ptr_mem j e2).1
  have hunc : ¬ gn.large = some p := fun e => (D.in_U p (hU.ptr_mem p e).1).ne_p rfl
  have hpsn : ¬ pn.small = some n := fun e => (D.in_PS n (hPS.ptr_mem n e).1).ne_n rfl
  have ln := live_of_rd hn
  have lp := live_of_rd hp
  have lg := live_of_rd hg
  have la : Live st nn.small := live_of_isSome fun c hc => (ha.ptr_mem c hc).2
  have lb : Live st nn.large := live_of_isSome fun c hc => (hb.ptr_mem c hc).2
  have lgg : Live st gn.parent := live_of_isSome fun c hc => (D.gpar_fs c hc).1
  obtain ⟨s', hs'⟩ : ∃ s', s' = upd (upd (upd (upd (upd (upd (upd (upd (upd st
      gn.parent (replaceFn g n)) (some n) fun nd => { nd with parent := gn.parent })
      (some g) fun nd => { nd with small := nn.large }) nn.large fun nd => { nd with parent := some g })
      (some p) fun nd => { nd with large := nn.small }) nn.small fun nd => { nd with parent := some p })
      (some n) fun nd => { nd with large := some g, small := some p, color := .black })
      (some g) fun nd => { nd with parent := some n, color := .red })
      (some p) fun nd => { nd with parent := some n, color := .red } := ⟨_, rfl⟩
  have F : ∀ j, rd s' j =
      if j = n then some { nn with parent := gn.parent, large := some g, small := some p, color := .black }
      else if j = g then some { gn with small := nn.large, parent := some n, color := .red }
      else if j = p then some { pn with large := nn.small, parent := some n, color := .red }
      else if gn.parent = some j then (rd st j).map (replaceFn g n)
      else if nn.small = some j then (rd st j).map (fun nd => { nd with parent := some p })
      else if nn.large = some j then (rd st j).map (fun nd => { nd with parent := some g })
      else rd st j := by
    intro j
    simp only [hs', rd_upd, Option.some.injEq]
    by_cases h1 : j = n
    · subst h1; simp [hqan, hqbn, Ne.symm D.np, Ne.symm D.ng, hn, D.gpar_n]
    · by_cases h2 : j = g
      · subst h2; simp [hqag, hqbg, D.pg, D.ng, Ne.symm D.ng, hg, D.gpar_g]
      · by_cases h3 : j = p
        · subst h3; simp [hqap, hqbp, Ne.symm D.pg, D.pg, D.np, Ne.symm D.np, hp, D.gpar_p]
        · have h1' : ¬ n = j := fun e => h1 e.symm
          have h2' : ¬ g = j := fun e => h2 e.symm
          have h3' : ¬ p = j := fun e => h3 e.symm
          by_cases h4 : gn.parent = some j
          · simp [h1, h2, h3, h1', h2', h3', h4, hqagg j h4, hqbgg j h4]
          · by_cases h5 : nn.small = some j
            · simp [h1, h2, h3, h1', h2', h3', h4, h5, hqab j h5]
            · simp [h1, h2, h3, h1', h2', h3', h4, h5]
  have R := D.double ha hb F
  refine ⟨s', ?_, ?_, R.ctx, ?_, R.frame⟩
  · rcases uncle_cases hU hub with hun | ⟨u, un, hun, hur, hucol⟩
    · rcases hgp : gn.parent with _ | gg
      · simp only [hgp] at hs'
        simp only [rebalance, hn, hnpar, hp, hppar, hg, hgY, hun, reduceCtorEq, hpsn, ↓reduceIte, wr_upd, setParentIf_upd, live_upd,
          ln, lp, lg, la, lb, hgp, Option.map_some, rootAfter, hs', upd_none]
      · simp only [hgp] at hs' lgg
        simp only [rebalance, hn, hnpar, hp, hppar, hg, hgY, hun, reduceCtorEq, hpsn, ↓reduceIte, wr_upd, setParentIf_upd,
          replaceChild_upd, live_upd, ln, lp, lg, la, lb, lgg, hgp, Option.map_some, rootAfter, hs']
    · have hup : ¬ u = p := fun e => hunc (by rw [hun, e])
      rcases hgp : gn.parent with _ | gg
      · simp only [hgp] at hs'
        simp only [rebalance, hn, hnpar, hp, hppar, hg, hgY, hun, Option.some.injEq, hup, hur, hucol, hpsn, ↓reduceIte, wr_upd,
          setParentIf_upd, live_upd, ln, lp, lg, la, lb, hgp, Option.map_some, rootAfter, hs', upd_none]
      · simp only [hgp] at hs' lgg
        simp only [rebalance, hn, hnpar, hp, hppar, hg, hgY, hun, Option.some.injEq, hup, hur, hucol, hpsn, ↓reduceIte, wr_upd,
          setParentIf_upd, replaceChild_upd, live_upd, ln, lp, lg, la, lb, lgg, hgp, Option.map_some, rootAfter, hs']
  · refine ⟨rfl, _, R.rd_n, rfl, ?_, ?_⟩
    · show ReprP s' (.node PS p a) (some p) (some n)
      exact ⟨rfl, _, R.rd_p, rfl, ReprP.congr R.in_PS hPS, ReprP.reparent D.nodup_a ha R.in_a⟩
    · show ReprP s' (.node b g U) (some g) (some n)
      exact ⟨rfl, _, R.rd_g, rfl, ReprP.reparent D.nodup_b hb R.in_b, ReprP.congr R.in_U hU⟩
  · simp only [absTree, R.rd_p, R.rd_n, R.rd_g, absTree_reparent R.in_a, absTree_reparent R.in_b, absTree_congr R.in_U, absTree_congr R.in_PS]

end EaselModel.Containers.RedBlackPtr
