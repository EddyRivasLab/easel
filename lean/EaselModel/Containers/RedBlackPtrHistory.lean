import EaselModel.Containers.RedBlackPtrRefine
/-! # Histories of `esl_red_black_doublekey_insert` on the pointer structure refine the inductive tree -/
namespace EaselModel.Containers.RedBlackPtr
open EaselModel.Containers.RedBlack

/-- `insert_refines` phrased with `Tree.insert` (the function the order/balance theorems are about) -/
theorem insert_refines_insert {st : Store} {t : Shape} {root node : Nat} {nn : Node}
    (hrep : ReprP st t (some root) none) (hnd : t.ids.Nodup) (hnode : node ∉ t.ids) (hr : rd st node = some nn) :
    (Tree.insert (absTree st t) nn.key = none → insert st (some root) node = none) ∧
    (∀ T', Tree.insert (absTree st t) nn.key = some (T', false) →
      T' = absTree st t ∧ ∃ st', insert st (some root) node = some (st', none) ∧ (∀ j, j ≠ node → rd st' j = rd st j) ∧
        rd st' node = some { nn with color := .red, small := none, large := none }) ∧
    (∀ T', Tree.insert (absTree st t) nn.key = some (T', true) →
      ∃ st' root' t', insert st (some root) node = some (st', some root') ∧ ReprP st' t' (some root') none ∧
        absTree st' t' = T' ∧ t'.ids.Perm (node :: t.ids) ∧ (∀ j, j ∉ node :: t.ids → rd st' j = rd st j)) := by
  obtain ⟨hA, hB⟩ := insert_refines hrep hnd hnode hr
  cases hins : Tree.ins nn.key (absTree st t) with
  | dup =>
    simp only [Tree.insert, hins]
    refine ⟨fun h => (by cases h), fun T' h => ?_, fun T' h => (by cases h)⟩
    simp only [Option.some.injEq, Prod.mk.injEq, and_true] at h
    exact ⟨h.symm, hA hins⟩
  | done t1 =>
    obtain ⟨_, hB2⟩ := hB (by rw [hins]; simp)
    simp only [Tree.insert, hins]
    refine ⟨fun h => (by cases h), fun T' h => (by simp at h), fun T' h => ?_⟩
    simp only [Option.some.injEq, Prod.mk.injEq, and_true] at h
    exact hB2 T' (by rw [hins]; simp [finish, h])
  | check t1 =>
    obtain ⟨_, hB2⟩ := hB (by rw [hins]; simp)
    simp only [Tree.insert, hins]
    refine ⟨fun h => (by cases h), fun T' h => (by simp at h), fun T' h => ?_⟩
    simp only [Option.some.injEq, Prod.mk.injEq, and_true] at h
    exact hB2 T' (by rw [hins]; simp [finish, h])
  | viol t1 sd =>
    obtain ⟨hB1, _⟩ := hB (by rw [hins]; simp)
    simp only [Tree.insert, hins]
    exact ⟨fun _ => hB1 (by rw [hins]; rfl), fun T' h => (by cases h), fun T' h => (by cases h)⟩
  | fatal =>
    obtain ⟨hB1, _⟩ := hB (by rw [hins]; simp)
    simp only [Tree.insert, hins]
    exact ⟨fun _ => hB1 (by rw [hins]; rfl), fun T' h => (by cases h), fun T' h => (by cases h)⟩

/-- one call `ret = insert(tree, node)` of the callers' loops, for any tree pointer (`NULL`: the record becomes the root) on a
    well-formed tree: either the key is refused and only the offered record is written, or the store lays out `Tree.insert` -/
theorem insert_step {st : Store} {t : Shape} {tree : Ptr} {node : Nat} {nn : Node}
    (hrep : ReprP st t tree none) (hnd : t.ids.Nodup) (hwf : Tree.WF (absTree st t)) (hnode : node ∉ t.ids)
    (hr : rd st node = some nn) (hpar : tree = none → nn.parent = none) :
    ∃ T1 b, Tree.insert (absTree st t) nn.key = some (T1, b) ∧ Tree.WF T1 ∧
      ((b = false ∧ T1 = absTree st t ∧ ∃ st1, insert st tree node = some (st1, none) ∧ (∀ j, j ≠ node → rd st1 j = rd st j) ∧
          rd st1 node = some { nn with color := .red, small := none, large := none }) ∨
       (b = true ∧ ∃ st1 root1 t1, insert st tree node = some (st1, some root1) ∧ ReprP st1 t1 (some root1) none ∧
          absTree st1 t1 = T1 ∧ t1.ids.Perm (node :: t.ids) ∧ (∀ j, j ∉ node :: t.ids → rd st1 j = rd st j))) := by
  obtain ⟨T1, b, hins, hwf1, _⟩ := Tree.insert_spec (absTree st t) nn.key hwf
  refine ⟨T1, b, hins, hwf1, ?_⟩
  cases tree with
  | none =>
    have ht : t = .nil := by cases t with
      | nil => rfl
      | node a i b => obtain ⟨h, _⟩ := hrep; cases h
    subst ht
    obtain ⟨st1, h1, h2, h3⟩ := insert_empty hr
    have : Tree.insert (absTree st .nil) nn.key = some (.node .black .nil nn.key .nil, true) := rfl
    rw [this] at hins
    simp only [Option.some.injEq, Prod.mk.injEq] at hins
    obtain ⟨rfl, rfl⟩ := hins
    exact Or.inr ⟨rfl, st1, node, .node .nil node .nil, h1, ⟨rfl, _, h3, hpar rfl, rfl, rfl⟩, by simp only [absTree, h3],
      by simp [Shape.ids], fun j hj => h2 j (fun e => hj (by simp [e]))⟩
  | some root =>
    obtain ⟨_, hdupc, hnewc⟩ := insert_refines_insert hrep hnd hnode hr
    cases b with
    | false =>
      obtain ⟨hT, h⟩ := hdupc T1 hins
      exact Or.inl ⟨rfl, hT, h⟩
    | true => exact Or.inr ⟨rfl, hnewc T1 hins⟩

/-- the caller's loop: `ret = insert(tree, node); if (ret != NULL) tree = ret;` for each offered record in turn -/
def insertAllPtr (st : Store) (tree : Ptr) : List Nat → Option (Store × Ptr)
  | [] => some (st, tree)
  | n :: ns =>
    match insert st tree n with
    | none => none
    | some (st', none) => insertAllPtr st' tree ns
    | some (st', some r) => insertAllPtr st' (some r) ns

def keysOf (st : Store) (nodes : List Nat) : List Int :=
  nodes.map fun n => match rd st n with
    | some nd => nd.key
    | none => 0

theorem keysOf_congr {st st' : Store} {nodes : List Nat} (h : ∀ n ∈ nodes, rd st' n = rd st n) :
    keysOf st' nodes = keysOf st nodes := by
  unfold keysOf
  exact List.map_congr_left (fun n hn => by rw [h n hn])

theorem insertAllPtr_refines : ∀ (nodes : List Nat) (st : Store) (tree : Ptr) (t : Shape),
    ReprP st t tree none → t.ids.Nodup → Tree.WF (absTree st t) → nodes.Nodup → (∀ n ∈ nodes, n ∉ t.ids) →
    (∀ n ∈ nodes, ∃ nd, rd st n = some nd ∧ nd.parent = none) →
    ∃ st' tree' t', insertAllPtr st tree nodes = some (st', tree') ∧ ReprP st' t' tree' none ∧ t'.ids.Nodup ∧
      Tree.insertAll (absTree st t) (keysOf st nodes) = some (absTree st' t') ∧ Tree.WF (absTree st' t') ∧
      (∀ j ∈ t'.ids, j ∈ t.ids ∨ j ∈ nodes) ∧ (∀ j, j ∉ t.ids → j ∉ nodes → rd st' j = rd st j)
  | [], st, tree, t, hrep, hnd, hwf, _, _, _ =>
    ⟨st, tree, t, rfl, hrep, hnd, rfl, hwf, fun j hj => Or.inl hj, fun _ _ _ => rfl⟩
  | n :: ns, st, tree, t, hrep, hnd, hwf, hnodes, hfresh, hread => by
    obtain ⟨nd, hr, hpar⟩ := hread n List.mem_cons_self
    have hnt : n ∉ t.ids := hfresh n List.mem_cons_self
    obtain ⟨hnns, hns⟩ := List.nodup_cons.mp hnodes
    obtain ⟨T1, b, hins, hwf1, hcase⟩ := insert_step hrep hnd hwf hnt hr (fun _ => hpar)
    have hkeys : keysOf st (n :: ns) = nd.key :: keysOf st ns := by simp only [keysOf, List.map_cons, hr]
    have step : ∃ st1 tree1 t1, (insertAllPtr st tree (n :: ns) = insertAllPtr st1 tree1 ns) ∧ ReprP st1 t1 tree1 none ∧
        t1.ids.Nodup ∧ absTree st1 t1 = T1 ∧ (∀ j ∈ t1.ids, j ∈ t.ids ∨ j = n) ∧ (∀ j, j ∉ t.ids → j ≠ n → rd st1 j = rd st j) := by
      rcases hcase with ⟨_, hT, st1, h1, h2, _⟩ | ⟨_, st1, root1, t1, h1, h2, h3, h4, h5⟩
      · have hids : ∀ i ∈ t.ids, rd st1 i = rd st i := fun i hi => h2 i (fun e => hnt (e ▸ hi))
        exact ⟨st1, tree, t, by simp only [insertAllPtr, h1], ReprP.congr hids hrep, hnd,
          by rw [absTree_congr hids, hT], fun j hj => Or.inl hj, fun j _ hj => h2 j hj⟩
      · refine ⟨st1, some root1, t1, by simp only [insertAllPtr, h1], h2,
          h4.nodup_iff.mpr (List.nodup_cons.mpr ⟨hnt, hnd⟩), h3, fun j hj => ?_, fun j h6 h7 => h5 j ?_⟩
        · rcases List.mem_cons.mp (h4.mem_iff.mp hj) with h | h
          · exact Or.inr h
          · exact Or.inl h
        · simp only [List.mem_cons, not_or]; exact ⟨h7, h6⟩
    obtain ⟨st1, tree1, t1, e1, hrep1, hnd1, habs1, hsub1, hsame1⟩ := step
    have hsame_ns : ∀ m ∈ ns, rd st1 m = rd st m := fun m hm =>
      hsame1 m (hfresh m (List.mem_cons_of_mem _ hm)) (fun e => hnns (e ▸ hm))
    obtain ⟨st', tree', t', k1, k2, k3, k4, k5, k6, k7⟩ := insertAllPtr_refines ns st1 tree1 t1 hrep1 hnd1 (habs1 ▸ hwf1) hns
      (fun m hm hmt => by
        rcases hsub1 m hmt with h | h
        · exact hfresh m (List.mem_cons_of_mem _ hm) h
        · exact hnns (h ▸ hm))
      (fun m hm => by
        obtain ⟨md, hmr, hmp⟩ := hread m (List.mem_cons_of_mem _ hm)
        exact ⟨md, by rw [hsame_ns m hm]; exact hmr, hmp⟩)
    refine ⟨st', tree', t', e1.trans k1, k2, k3, ?_, k5, fun j hj => ?_, fun j h1 h2 => ?_⟩
    · rw [hkeys]
      simp only [Tree.insertAll, hins]
      rw [← habs1, ← keysOf_congr hsame_ns]
      exact k4
    · rcases k6 j hj with h | h
      · rcases hsub1 j h with h' | h'
        · exact Or.inl h'
        · exact Or.inr (by simp [h'])
      · exact Or.inr (List.mem_cons_of_mem _ h)
    · have h3 : j ≠ n := fun e => h2 (by simp [e])
      have h4 : j ∉ ns := fun h => h2 (List.mem_cons_of_mem _ h)
      have h5 : j ∉ t1.ids := fun h => by
        rcases hsub1 j h with h' | h'
        · exact h1 h'
        · exact h3 h'
      rw [k7 j h5 h4, hsame1 j h1 h3]


/-- the caller writes the keys into the records it took: `node->key = k` -/
def setKeys (st : Store) : List Nat → List Int → Store
  | n :: ns, k :: ks =>
    setKeys (match wr st n (fun nd => { nd with key := k }) with
             | some st' => st'
             | none => st) ns ks
  | _, _ => st

theorem rd_setKeys_notin : ∀ (l : List Nat) (ks : List Int) (st : Store) (j : Nat), j ∉ l → rd (setKeys st l ks) j = rd st j
  | [], _, _, _, _ => by simp [setKeys]
  | _ :: _, [], _, _, _ => by simp [setKeys]
  | n :: ns, k :: ks, st, j, hj => by
    simp only [List.mem_cons, not_or] at hj
    simp only [setKeys]
    rw [rd_setKeys_notin ns ks _ j hj.2]
    cases hw : wr st n (fun nd => { nd with key := k }) with
    | none => rfl
    | some st' => exact rd_wr_ne hw hj.1

theorem setKeys_spec : ∀ (l : List Nat) (ks : List Int) (st : Store), l.Nodup → l.length = ks.length →
    (∀ n ∈ l, ∃ nd, rd st n = some nd ∧ nd.parent = none) →
    keysOf (setKeys st l ks) l = ks ∧ ∀ n ∈ l, ∃ nd, rd (setKeys st l ks) n = some nd ∧ nd.parent = none
  | [], [], _, _, _, _ => ⟨rfl, fun _ h => by cases h⟩
  | [], _ :: _, _, _, h, _ => by simp at h
  | _ :: _, [], _, _, h, _ => by simp at h
  | n :: ns, k :: ks, st, hnd, hlen, hread => by
    obtain ⟨hn, hns⟩ := List.nodup_cons.mp hnd
    obtain ⟨nd, hr, hp⟩ := hread n List.mem_cons_self
    have hw := wr_of_rd (fun nd => { nd with key := k }) hr
    have hrn : rd (st.setIfInBounds n { nd with key := k }) n = some { nd with key := k } := rd_set_same _ hr
    have hother : ∀ m, m ≠ n → rd (st.setIfInBounds n { nd with key := k }) m = rd st m := fun m hm => rd_set_ne st _ hm
    obtain ⟨ih1, ih2⟩ := setKeys_spec ns ks (st.setIfInBounds n { nd with key := k }) hns (by simpa using hlen)
      (fun m hm => by
        obtain ⟨md, h1, h2⟩ := hread m (List.mem_cons_of_mem _ hm)
        exact ⟨md, by rw [hother m (fun e => hn (e ▸ hm))]; exact h1, h2⟩)
    have hfin : rd (setKeys st (n :: ns) (k :: ks)) n = some { nd with key := k } := by
      simp only [setKeys, hw]
      rw [rd_setKeys_notin ns ks _ n hn]; exact hrn
    refine ⟨?_, fun m hm => ?_⟩
    · have : keysOf (setKeys st (n :: ns) (k :: ks)) (n :: ns) = k :: keysOf (setKeys st (n :: ns) (k :: ks)) ns := by
        simp only [keysOf, List.map_cons, hfin]
      rw [this]
      congr 1
      simp only [setKeys, hw]
      exact ih1
    · rcases List.mem_cons.mp hm with rfl | h
      · exact ⟨_, hfin, hp⟩
      · simp only [setKeys, hw]; exact ih2 m h

theorem pool_history (st : Store) (ks : List Int) :
    ∃ st' tree' t', insertAllPtr (setKeys (poolCreate st ks.length).1 (List.range' st.size ks.length) ks) none
        (List.range' st.size ks.length) = some (st', tree') ∧ ReprP st' t' tree' none ∧ t'.ids.Nodup ∧
      Tree.insertAll .nil ks = some (absTree st' t') ∧ Tree.WF (absTree st' t') ∧
      (∀ x, x ∈ Tree.toList (absTree st' t') ↔ x ∈ ks) ∧ (∀ j, j < st.size → rd st' j = rd st j) := by
  have hnd : (List.range' st.size ks.length).Nodup := List.nodup_range'
  have hread : ∀ n ∈ List.range' st.size ks.length, ∃ nd, rd (poolCreate st ks.length).1 n = some nd ∧ nd.parent = none := by
    intro n hn
    obtain ⟨h1, h2⟩ := List.mem_range'_1.mp hn
    have := rd_poolCreate_new st ks.length (n - st.size) (by omega)
    rw [show st.size + (n - st.size) = n by omega] at this
    exact ⟨_, this, rfl⟩
  obtain ⟨e1, e2⟩ := setKeys_spec _ ks (poolCreate st ks.length).1 hnd (by simp) hread
  obtain ⟨st', tree', t', h1, h2, h3, h4, h5, h6, h7⟩ :=
    insertAllPtr_refines _ (setKeys (poolCreate st ks.length).1 (List.range' st.size ks.length) ks) none .nil rfl List.nodup_nil
      Tree.wf_nil hnd (fun _ _ h => by cases h) e2
  rw [e1] at h4
  have h4' : Tree.insertAll .nil ks = some (absTree st' t') := h4
  obtain ⟨T, f1, _, f3⟩ := Tree.insertAll_spec ks
  have hT : T = absTree st' t' := by rw [f1] at h4'; exact Option.some.inj h4'
  refine ⟨st', tree', t', h1, h2, h3, h4', h5, hT ▸ f3, fun j hj => ?_⟩
  have hjn : j ∉ List.range' st.size ks.length := fun h => by
    have := (List.mem_range'_1.mp h).1; omega
  rw [h7 j (fun h => by cases h) hjn, rd_setKeys_notin _ _ _ j hjn, rd_poolCreate_old st _ j hj]

end EaselModel.Containers.RedBlackPtr
