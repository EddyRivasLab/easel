import EaselModel.Containers.KeyhashApi
import EaselModel.Containers.KeyhashLemmas
/-! # Lemmas for the complete key hash API: the `n = -1` paths are the buffer paths on the bytes before the first NUL;
histories mixing both APIs; which calls the embedded-NUL finding affects; the observers never fault. -/
namespace EaselModel.Containers.Keyhash

theorem take_strlen (k : Key) : k.take (strlen k) = cstrOf k := by
  unfold cstrOf
  induction k with
  | nil => rfl
  | cons a t ih =>
    by_cases ha : a = 0
    · subst ha; simp [strlen]
    · have : (a == 0) = false := by simp [ha]
      simp [strlen, this, ha, ih]

theorem strlen_eq (k : Key) : strlen k = (cstrOf k).length := by
  unfold cstrOf
  induction k with
  | nil => rfl
  | cons a t ih =>
    by_cases ha : a = 0
    · subst ha; simp [strlen]
    · have : (a == 0) = false := by simp [ha]
      simp [strlen, this, ha, ih]

theorem jenkinsStrLoop_eq (v : UInt32) (k : Key) : jenkinsStrLoop v k = (cstrOf k).foldl jenkinsStep v := by
  unfold cstrOf
  induction k generalizing v with
  | nil => rfl
  | cons a t ih =>
    by_cases ha : a = 0
    · subst ha; simp [jenkinsStrLoop]
    · have : (a == 0) = false := by simp [ha]
      simp [jenkinsStrLoop, this, ha, ih]

/-- the string version of `jenkins_hash` is the buffer version on the bytes before the first NUL -/
theorem jenkinsStr_eq (k : Key) (sz : Nat) : jenkinsStr k sz = jenkins (cstrOf k) sz := by
  unfold jenkinsStr jenkins
  rw [jenkinsStrLoop_eq]

/-- `strcmp(key, s) == 0` is `esl_memstrcmp(key, strlen(key), s)` -/
theorem strcmpAt_eq (k : Key) (m : Array UInt8) (pos : Nat) : strcmpAt k m pos = memstrcmpAt (cstrOf k) m pos := by
  unfold cstrOf
  induction k generalizing pos with
  | nil => rfl
  | cons a t ih =>
    by_cases ha : a = 0
    · subst ha
      simp only [strcmpAt, List.takeWhile_cons, bne_self_eq_false, Bool.false_eq_true, ↓reduceIte, memstrcmpAt, beq_self_eq_true]
      cases m[pos]? <;> rfl
    · have h1 : (a == 0) = false := by simp [ha]
      have h2 : (a != 0) = true := by simp [ha]
      simp only [strcmpAt, List.takeWhile_cons, h2, ↓reduceIte, memstrcmpAt, h1, Bool.false_eq_true]
      cases hm : m[pos]? with
      | none => rfl
      | some s =>
        simp only
        by_cases hs : s = 0
        · subst hs; simp [ha]
        · have : (s == 0) = false := by simp [hs]
          simp only [this, Bool.false_eq_true, ↓reduceIte]
          rw [ih]

theorem walkStr_eq (kh : KH) (k : Key) (f : Nat) (s : Option Nat) : walkStr kh k f s = walk kh (cstrOf k) f s := by
  induction f generalizing s with
  | zero => cases s <;> rfl
  | succ f ih =>
    cases s with
    | none => rfl
    | some idx =>
      simp only [walkStr, walk, strcmpAt_eq]
      cases kh.keyOffset[idx]? with
      | none => rfl
      | some off =>
        simp only
        cases memstrcmpAt (cstrOf k) kh.smem off with
        | none => rfl
        | some b =>
          cases b with
          | true => rfl
          | false =>
            simp only
            cases kh.nxt[idx]? with
            | none => rfl
            | some nx => exact ih nx

theorem lookupStrC_eq (H Hs : Key → Nat → Nat) (hs : ∀ k sz, Hs k sz = H (cstrOf k) sz) (kh : KH) (k : Key) :
    lookupStrC Hs kh k = lookup H kh (cstrOf k) := by
  unfold lookupStrC lookup
  simp only [hs, walkStr_eq]
  rfl

theorem storeStrC_eq (H Hs : Key → Nat → Nat) (hs : ∀ k sz, Hs k sz = H (cstrOf k) sz) (kh : KH) (k : Key) :
    storeStrC Hs H kh k = store H kh (cstrOf k) := by
  unfold storeStrC
  rw [take_strlen]
  congr 1
  funext k' sz
  split
  · next h => rw [hs, h.1]
  · rfl

theorem lookupStrC_jenkins (kh : KH) (k : Key) : lookupStrC jenkinsStr kh k = lookup jenkins kh (cstrOf k) :=
  lookupStrC_eq jenkins jenkinsStr jenkinsStr_eq kh k

theorem storeStrC_jenkins (kh : KH) (k : Key) : storeStrC jenkinsStr jenkins kh k = store jenkins kh (cstrOf k) :=
  storeStrC_eq jenkins jenkinsStr jenkinsStr_eq kh k

/-- only a `Store` BY LENGTH of a key containing a NUL is excluded; lookups by length may carry any bytes -/
def Op.StoreNulFree : Op → Prop
  | .store k => (0 : UInt8) ∉ k
  | _ => True

theorem inv_keys_nulfree {H : Key → Nat → Nat} {kh : KH} {keys : List Key} (hi : Inv H kh keys) :
    ∀ k ∈ keys, (0 : UInt8) ∉ k := by
  intro k hk
  obtain ⟨i, hil, rfl⟩ := List.getElem_of_mem hk
  obtain ⟨off, _, h⟩ := hi.keyAt i keys[i] (by simp [hil])
  exact h.2.2

theorem run_spec_mixed {H : Key → Nat → Nat} (hH : HashOK H) (ops : List Op) (kh : KH) (keys : List Key) (hi : Inv H kh keys)
    (hops : ∀ op ∈ ops, op.StoreNulFree) : run H kh ops = specRun keys ops :=
  run_refines (fun _ => rfl) (fun _ _ _ => rfl)
    (fun _ _ op hi hop => step_spec hi hH op (fun k e => by subst e; exact hop)) ops kh keys hi hops

theorem store_nul_answer {H : Key → Nat → Nat} {kh : KH} {keys : List Key} (hi : Inv H kh keys) (hH : HashOK H) (key : Key)
    (h0 : (0 : UInt8) ∈ key) (r : KH × Status × Nat) (hr : store H kh key = some r) :
    key ∉ keys ∧ r.2 = (.ok, keys.length) := by
  have hm : key ∉ keys := fun hk => inv_keys_nulfree hi key hk h0
  refine ⟨hm, ?_⟩
  obtain ⟨head, hh, hw⟩ := walk_inv hi hH key
  simp only [hm, ↓reduceIte] at hw
  rw [store_new_unfold H kh key head hh hw] at hr
  obtain ⟨_, _, _, _, hnk, _⟩ := growK_fields kh
  have hidx : (growK kh).nkeys = keys.length := by rw [hnk]; exact hi.nkeys
  unfold storeNew at hr
  split at hr
  · cases hr
  · split at hr
    · cases hr
    · split at hr
      · split at hr
        · cases hr
        · cases hr; simp [hidx]
      · cases hr; simp [hidx]

theorem chainLen_chain (kh : KH) {s : Option Nat} {b : Nat} {l : List Nat} (h : Chain kh.nxt s b l) (f : Nat) (hf : l.length ≤ f) :
    chainLen kh f s = some l.length := by
  induction h generalizing f with
  | nil => cases f <;> rfl
  | cons i b l nx hi hn _ ih =>
    cases f with
    | zero => simp at hf
    | succ f =>
      simp only [chainLen, hn, List.length_cons]
      rw [ih f (by simpa using hf)]
      rfl

theorem Table.dumpLoop_isSome {H : Key → Nat → Nat} {kh : KH} {keys : List Key} (ht : Table H kh keys) (c h nempty : Nat)
    (mx mn : Int) (hc : h + c ≤ kh.hashsize) : (dumpLoop kh c h nempty mx mn).isSome = true := by
  induction c generalizing h nempty mx mn with
  | zero => rfl
  | succ c ih =>
    obtain ⟨hd, l, h1, h2, _⟩ := ht.linked.2 h (by omega)
    simp only [dumpLoop, h1, chainLen_chain kh h2 kh.nkeys h2.length_le]
    exact ih _ _ _ _ (by omega)

theorem Table.dump {H : Key → Nat → Nat} {kh : KH} {keys : List Key} (ht : Table H kh keys) :
    ∃ d, dump kh = some d ∧ d.nkeys = keys.length ∧ d.hashsize = kh.hashsize ∧ d.sn = kh.smem.size := by
  unfold Keyhash.dump
  have := ht.dumpLoop_isSome kh.hashsize 0 0 (-1) 2147483647 (by omega)
  cases hd : dumpLoop kh kh.hashsize 0 0 (-1) 2147483647 with
  | none => rw [hd] at this; cases this
  | some r =>
    obtain ⟨a, b, c⟩ := r
    exact ⟨_, rfl, ht.nkeys, rfl, rfl⟩

theorem dump_spec {H : Key → Nat → Nat} {kh : KH} {keys : List Key} (hi : Inv H kh keys) :
    ∃ d, dump kh = some d ∧ d.nkeys = keys.length ∧ d.hashsize = kh.hashsize ∧ d.sn = (keys.map (fun k => k.length + 1)).sum := by
  rw [← hi.sn_eq]; exact hi.table.dump

end EaselModel.Containers.Keyhash
