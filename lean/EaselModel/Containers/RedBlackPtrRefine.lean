import EaselModel.Containers.RedBlackPtrRotate
/-! # The pointer-level `esl_red_black_doublekey_insert` (descent, linking, `rebalance` with its recursion up the `parent`
pointers, recolouring, the four rotations) refines `RedBlack.Tree.insert` on the inductive tree — for every tree laid out
in the store, every key, every path into `rebalance`. -/
namespace EaselModel.Containers.RedBlackPtr
open EaselModel.Containers.RedBlack

/-- what `insert` / the recolouring branch of `rebalance` do once record `g` is red and linked: nothing above it (`g` is the
    root: colour it black), a black parent (done), or a red parent (`rebalance(tree, g)`) -/
def fixup (fuel : Nat) (st : Store) (tree g : Nat) : Option (Store × Nat) :=
  match rd st g with
  | none => none
  | some gn =>
    match gn.parent with
    | none => (wr st g (fun nd => { nd with color := .black })).map fun st => (st, tree)
    | some gg =>
      match rd st gg with
      | none => none
      | some ggn => if ggn.color = .red then rebalance fuel st tree g else some (st, tree)

/-- how `insert` turns the result of the unwinding into the new tree -/
def finish : Res Int → Option (Tree Int)
  | .done t => some t
  | .check t => some (t.setColor .black)
  | _ => none

/-- the recolouring branch (red uncle): parent and uncle black, grandparent red, then go on from the grandparent -/
theorem recolour {st : Store} {fuel tree n p g u : Nat} {nn pn gn un : Node}
    (hn : rd st n = some nn) (hp : rd st p = some pn) (hg : rd st g = some gn) (hu : rd st u = some un)
    (hnpar : nn.parent = some p) (hppar : pn.parent = some g)
    (hunc : (if gn.large = some p then gn.small else gn.large) = some u) (hured : un.color = .red)
    (hpu : p ≠ u) (hpg : p ≠ g) (hug : u ≠ g) :
    ∃ st3, rebalance (fuel+1) st tree n = fixup fuel st3 tree g ∧
      ∀ j, rd st3 j = if j = g then some { gn with color := .red } else if j = u then some { un with color := .black }
        else if j = p then some { pn with color := .black } else rd st j := by
  obtain ⟨s3, hs3⟩ : ∃ s3, s3 = upd (upd (upd st (some p) fun nd => { nd with color := .black })
      (some u) fun nd => { nd with color := .black }) (some g) fun nd => { nd with color := .red } := ⟨_, rfl⟩
  have F : ∀ j, rd s3 j = if j = g then some { gn with color := .red } else if j = u then some { un with color := .black }
        else if j = p then some { pn with color := .black } else rd st j := by
    intro j
    simp only [hs3, rd_upd, Option.some.injEq]
    by_cases h1 : j = g
    · subst h1; simp [hug, hpg, hg]
    · by_cases h2 : j = u
      · subst h2; simp [h1, Ne.symm hug, hpu, hu]
      · by_cases h3 : j = p
        · subst h3; simp [h1, h2, Ne.symm hpg, Ne.symm hpu, hp]
        · simp [h1, h2, h3, show ¬ g = j from fun e => h1 e.symm, show ¬ u = j from fun e => h2 e.symm,
            show ¬ p = j from fun e => h3 e.symm]
  refine ⟨s3, ?_, F⟩
  have Fg : rd s3 g = some { gn with color := .red } := by rw [F]; simp
  simp only [rebalance, hn, hnpar, hp, hppar, hg, hunc, hu, Option.map_some, hured, wr_upd, live_upd, live_of_rd hp,
    live_of_rd hu, live_of_rd hg, ← hs3, fixup, Fg]
  rcases hgp : gn.parent with _ | gg
  · rfl
  · simp only
    cases rd s3 gg <;> rfl

theorem ReprP.congr_ptr {st st' : Store} : ∀ {t : Shape} {p par : Ptr},
    (∀ i ∈ t.ids, ∀ nd, rd st i = some nd → ∃ nd', rd st' i = some nd' ∧ nd'.parent = nd.parent ∧ nd'.small = nd.small ∧
      nd'.large = nd.large) → ReprP st t p par → ReprP st' t p par
  | .nil, _, _, _, h => h
  | .node a i b, _, _, hc, ⟨hp, nd, hr, hpar, ha, hb⟩ => by
    obtain ⟨nd', hr', e1, e2, e3⟩ := hc i (by simp [Shape.ids]) nd hr
    refine ⟨hp, nd', hr', e1 ▸ hpar, ?_, ?_⟩
    · rw [e2]; exact ReprP.congr_ptr (fun j hj => hc j (by simp [Shape.ids, hj])) ha
    · rw [e3]; exact ReprP.congr_ptr (fun j hj => hc j (by simp [Shape.ids, hj])) hb

theorem absTree_recolour_root {st st' : Store} {x : Shape} {i : Nat} {y : Shape} {nd : Node} {c : Color}
    (hr : rd st i = some nd) (hr' : rd st' i = some { nd with color := c })
    (hx : ∀ j ∈ x.ids, rd st' j = rd st j) (hy : ∀ j ∈ y.ids, rd st' j = rd st j) :
    absTree st' (.node x i y) = (absTree st (.node x i y)).setColor c := by
  simp only [absTree, hr, hr', absTree_congr hx, absTree_congr hy, Tree.setColor]


theorem upFrame_check {st : Store} {f : Frame} {nd : Node} (s : Shape) (hr : rd st f.id = some nd) :
    upFrame st f (.check (absTree st s)) =
      if nd.color = .red then .viol (absTree st (f.fill s)) f.side else .done (absTree st (f.fill s)) := by
  cases f <;> simp only [Frame.id] at hr <;> simp only [upFrame, hr, Tree.up, Frame.fill, absTree, Frame.side]

theorem upFrame_viol_red {st : Store} {f : Frame} {nd : Node} (t : Tree Int) (sd : Side) (hr : rd st f.id = some nd)
    (hred : (absTree st f.sib).color = .red) :
    upFrame st f (.viol t sd) = .check (match f with
      | .L _ _ => .node .red (t.setColor .black) nd.key ((absTree st f.sib).setColor .black)
      | .R _ _ => .node .red ((absTree st f.sib).setColor .black) nd.key (t.setColor .black)) := by
  cases f <;> simp only [Frame.id] at hr <;> simp only [Frame.sib] at hred <;>
    simp only [upFrame, hr, Tree.up, hred, ↓reduceIte, Frame.sib]

/-- empty path: the record is the root and is coloured black -/
theorem fixup_root {st : Store} {fuel : Nat} {a : Shape} {n : Nat} {b : Shape} {par root : Ptr} {tree : Nat} {nn : Node}
    (hfoc : ReprP st (.node a n b) (some n) par) (hctx : ReprCtx st [] (some n) par root) (hroot : root = some tree)
    (hnd : ((Shape.node a n b).ids ++ pathIds []).Nodup) (hn : rd st n = some nn) :
    ∃ st', fixup fuel st tree n = some (st', tree) ∧ ReprP st' (.node a n b) (some tree) none ∧
      absTree st' (.node a n b) = (absTree st (.node a n b)).setColor .black ∧
      (∀ j, j ≠ n → rd st' j = rd st j) := by
  obtain ⟨hpar, hr⟩ := hctx
  subst hpar
  rw [hroot] at hr
  cases hr
  obtain ⟨_, nd, hr, hpn, ha, hb⟩ := hfoc
  rw [hn] at hr; cases hr
  obtain ⟨st', hw, R⟩ := wr_ex (st := st) (i := n) (fun nd => { nd with color := .black }) (by simp [hn])
  simp only [pathIds, List.append_nil, Shape.ids] at hnd
  obtain ⟨h1, h2, _, _, _⟩ := nodup_mid hnd
  have sa : ∀ j ∈ a.ids, rd st' j = rd st j := fun j hj => by
    have : j ≠ n := fun e => h1 (e ▸ hj)
    rw [R]; simp [this]
  have sb : ∀ j ∈ b.ids, rd st' j = rd st j := fun j hj => by
    have : j ≠ n := fun e => h2 (e ▸ hj)
    rw [R]; simp [this]
  have Fn : rd st' n = some { nn with color := .black } := by rw [R]; simp [hn]
  refine ⟨st', by simp only [fixup, hn, hpn, hw, Option.map_some], ?_, ?_, fun j hj => by rw [R]; simp [hj]⟩
  · exact ⟨rfl, _, Fn, hpn, ReprP.congr sa ha, ReprP.congr sb hb⟩
  · exact absTree_recolour_root hn Fn sa sb

/-- the refinement statement for one call of `fixup`: `R` is what the unwinding of `Tree.ins` answers at the root -/
def SimGoal (fuel : Nat) (st : Store) (tree n : Nat) (R : Res Int) (ids : List Nat) : Prop :=
  (finish R = none → fixup fuel st tree n = none) ∧
  (∀ T', finish R = some T' → ∃ st' root' t', fixup fuel st tree n = some (st', root') ∧ ReprP st' t' (some root') none ∧
     absTree st' t' = T' ∧ t'.ids.Perm ids ∧ (∀ j, j ∉ ids → rd st' j = rd st j))

theorem sim_root {st : Store} {fuel : Nat} {s : Shape} {n : Nat} {par root : Ptr} {tree : Nat} {nn : Node}
    (hfoc : ReprP st s (some n) par) (hctx : ReprCtx st [] (some n) par root) (hroot : root = some tree)
    (hnd : (s.ids ++ pathIds []).Nodup) (hn : rd st n = some nn) :
    SimGoal fuel st tree n (upPath st [] (.check (absTree st s))) (s.ids ++ pathIds []) := by
  cases s with
  | nil => cases hfoc
  | node a m b =>
    have hm : m = n := by obtain ⟨h, _⟩ := hfoc; cases h; rfl
    subst hm
    obtain ⟨st', h1, h2, h3, h4⟩ := fixup_root (fuel := fuel) hfoc hctx hroot hnd hn
    refine ⟨fun h => by simp [upPath, finish] at h, fun T' hT => ?_⟩
    simp only [upPath, finish, Option.some.injEq] at hT
    subst hT
    refine ⟨st', tree, _, h1, h2, h3, by simp [pathIds], fun j hj => h4 j (fun e => hj (by simp [e, Shape.ids]))⟩

theorem sim_black {st : Store} {fuel : Nat} {s : Shape} {n : Nat} {par root : Ptr} {tree : Nat} {nn pn : Node}
    {f1 : Frame} {rest : List Frame}
    (hfoc : ReprP st s (some n) par) (hctx : ReprCtx st (f1 :: rest) (some n) par root) (hroot : root = some tree)
    (hn : rd st n = some nn) (hnpar : nn.parent = some f1.id) (hp : rd st f1.id = some pn) (hpc : ¬ pn.color = .red) :
    SimGoal fuel st tree n (upPath st (f1 :: rest) (.check (absTree st s))) (s.ids ++ pathIds (f1 :: rest)) := by
  obtain ⟨_, pn', hp', _, _, hctx2⟩ := reprCtx_cons.mp hctx
  have hR : upPath st (f1 :: rest) (.check (absTree st s)) = .done (absTree st (zip s (f1 :: rest))) := by
    simp only [upPath, upFrame_check s hp, hpc, ↓reduceIte]
    exact upPath_done hctx2
  rw [hR]
  refine ⟨fun h => by simp [finish] at h, fun T' hT => ?_⟩
  simp only [finish, Option.some.injEq] at hT
  subst hT
  refine ⟨st, tree, zip s (f1 :: rest), ?_, hroot ▸ zip_repr hfoc hctx, rfl, zip_ids_perm _ _, fun _ _ => rfl⟩
  simp only [fixup, hn, hnpar, hp, hpc, ↓reduceIte]

theorem sim_red_root {st : Store} {fuel : Nat} {s : Shape} {n : Nat} {par root : Ptr} {tree : Nat} {nn pn : Node}
    {f1 : Frame}
    (hctx : ReprCtx st [f1] (some n) par root)
    (hn : rd st n = some nn) (hnpar : nn.parent = some f1.id) (hp : rd st f1.id = some pn) (hpc : pn.color = .red) :
    SimGoal fuel st tree n (upPath st [f1] (.check (absTree st s))) (s.ids ++ pathIds [f1]) := by
  obtain ⟨_, pn', hp', _, _, hctx2⟩ := reprCtx_cons.mp hctx
  rw [hp] at hp'; cases hp'
  obtain ⟨hppar, _⟩ := hctx2
  have hR : upPath st [f1] (.check (absTree st s)) = .viol (absTree st (f1.fill s)) f1.side := by
    simp only [upPath, upFrame_check s hp, hpc, ↓reduceIte]
  rw [hR]
  refine ⟨fun _ => ?_, fun T' hT => by simp [finish] at hT⟩
  simp only [fixup, hn, hnpar, hp, hpc, ↓reduceIte]
  cases fuel with
  | zero => rfl
  | succ f => simp only [rebalance, hn, hnpar, hp, hppar]

theorem rot_conclude {fuel : Nat} {st st' : Store} {tree n x g : Nat} {S' : Shape} {T : Tree Int} {ids : List Nat}
    {fs : List Frame} {gpar root : Ptr} {R : Res Int}
    (hfix : fixup fuel st tree n = rebalance fuel st tree n)
    (hreb : rebalance fuel st tree n = some (st', rootAfter gpar x tree))
    (hR : R = upPath st fs (.done T))
    (hctx : ReprCtx st fs (some g) gpar root) (hroot : root = some tree) (hD : (pathIds fs).Nodup) (hgD : g ∉ pathIds fs)
    (hrep : ReprP st' S' (some x) gpar) (hupd : CtxUpd st st' fs gpar g x) (habs : absTree st' S' = T)
    (hperm : (S'.ids ++ pathIds fs).Perm ids) (hout : ∀ j, j ∉ ids → rd st' j = rd st j) :
    SimGoal fuel st tree n R ids := by
  -- the rotated subtree is put back into the path above the grandparent
  have hctx' := CtxUpd.repr hctx hroot hD hgD hupd
  have h1 : finish (upPath st fs (.done T)) = some (absTree st' (zip S' fs)) := by
    rw [← CtxUpd.upPath_eq hctx hD hupd, ← habs, upPath_done hctx']
    rfl
  have h2 := zip_repr hrep hctx'
  rw [hR]
  refine ⟨fun h => (by rw [h1] at h; cases h), fun T' hT => ?_⟩
  rw [h1] at hT
  cases hT
  exact ⟨st', _, _, hfix.trans hreb, h2, rfl, (zip_ids_perm fs S').trans hperm, hout⟩


theorem absTree_recolour_fill {st st' : Store} {f : Frame} {s : Shape} {nd : Node} {c : Color}
    (hr : rd st f.id = some nd) (hr' : rd st' f.id = some { nd with color := c })
    (hs : ∀ j ∈ s.ids, rd st' j = rd st j) (hsib : ∀ j ∈ f.sib.ids, rd st' j = rd st j) :
    absTree st' (f.fill s) = (absTree st (f.fill s)).setColor c := by
  cases f with
  | L i b => exact absTree_recolour_root hr hr' hs hsib
  | R a i => exact absTree_recolour_root hr hr' hsib hs

/-- the recolouring step: after it the grandparent subtree is the red focus one level up -/
theorem sim_recolour {f : Nat}
    (ih : ∀ (fs : List Frame) (st : Store) (s : Shape) (n : Nat) (par root : Ptr) (tree : Nat) (nn : Node),
      fs.length ≤ 2 * f → ReprP st s (some n) par → ReprCtx st fs (some n) par root → root = some tree →
      (s.ids ++ pathIds fs).Nodup → rd st n = some nn → nn.color = .red →
      SimGoal f st tree n (upPath st fs (.check (absTree st s))) (s.ids ++ pathIds fs))
    {st : Store} {s : Shape} {n : Nat} {par root : Ptr} {tree : Nat} {nn pn gn : Node} {f1 f2 : Frame} {fs : List Frame}
    (hlen : (f1 :: f2 :: fs).length ≤ 2 * (f + 1))
    (hfoc : ReprP st s (some n) par) (hctx : ReprCtx st (f1 :: f2 :: fs) (some n) par root) (hroot : root = some tree)
    (hnd : (s.ids ++ pathIds (f1 :: f2 :: fs)).Nodup) (hn : rd st n = some nn)
    (hnpar : nn.parent = some f1.id) (hp : rd st f1.id = some pn) (hpc : pn.color = .red) (hg : rd st f2.id = some gn)
    (hu : (absTree st f2.sib).color = .red) :
    SimGoal (f + 1) st tree n (upPath st (f1 :: f2 :: fs) (.check (absTree st s))) (s.ids ++ pathIds (f1 :: f2 :: fs)) := by
  obtain ⟨hpar, pn', hp', hhole, hPS, hctx2⟩ := reprCtx_cons.mp hctx
  rw [hp] at hp'; cases hp'
  obtain ⟨hppar, gn', hg', hhole2, hU, hctx3⟩ := reprCtx_cons.mp hctx2
  rw [hg] at hg'; cases hg'
  obtain ⟨ua, u, ub, un, hUeq, hup, hur, hucol⟩ := uncle_cases_red hU hu
  have hnd' := hnd
  simp only [pathIds, Frame.ids] at hnd'
  have N := nodup4 hnd'
  have hpB : f1.id ∈ f1.id :: f1.sib.ids := by simp
  have hgC : f2.id ∈ f2.id :: f2.sib.ids := by simp
  have huC : u ∈ f2.id :: f2.sib.ids := List.mem_cons_of_mem _ (hU.ptr_mem u hup).1
  have hnA : n ∈ s.ids := hfoc.root_mem
  have hpu : f1.id ≠ u := fun e => N.BC _ hpB (e ▸ huC)
  have hpg : f1.id ≠ f2.id := fun e => N.BC _ hpB (e ▸ hgC)
  have hug : u ≠ f2.id := fun e => by
    have h1 := (hU.ptr_mem u hup).1
    exact (List.nodup_cons.mp N.nd_C).1 (e ▸ h1)
  have hunc : (if gn.large = some f1.id then gn.small else gn.large) = some u := by
    cases f2 with
    | L g U =>
      simp only [Frame.hole, Frame.sibPtr] at hhole2 hup
      rw [if_neg (fun e => hpu (by rw [hup] at e; exact (Option.some.inj e).symm))]; exact hup
    | R U g =>
      simp only [Frame.hole, Frame.sibPtr] at hhole2 hup
      rw [if_pos hhole2]; exact hup
  obtain ⟨st3, hreb, F3⟩ := recolour (fuel := f) (tree := tree) hn hp hg hur hnpar hppar hunc hucol hpu hpg hug
  have same3 : ∀ j, j ≠ f2.id → j ≠ u → j ≠ f1.id → rd st3 j = rd st j := fun j h1 h2 h3 => by
    rw [F3]; simp [h1, h2, h3]
  have Fg : rd st3 f2.id = some { gn with color := .red } := by rw [F3]; simp
  have Fu : rd st3 u = some { un with color := .black } := by rw [F3]; simp [hug]
  have Fp : rd st3 f1.id = some { pn with color := .black } := by rw [F3]; simp [hpg, hpu]
  have ptrs : ∀ i nd, rd st i = some nd → ∃ nd', rd st3 i = some nd' ∧ nd'.parent = nd.parent ∧ nd'.small = nd.small ∧
      nd'.large = nd.large := fun i nd hr => by
    by_cases h1 : i = f2.id
    · subst h1; rw [hg] at hr; cases hr; exact ⟨_, Fg, rfl, rfl, rfl⟩
    · by_cases h2 : i = u
      · subst h2; rw [hur] at hr; cases hr; exact ⟨_, Fu, rfl, rfl, rfl⟩
      · by_cases h3 : i = f1.id
        · subst h3; rw [hp] at hr; cases hr; exact ⟨_, Fp, rfl, rfl, rfl⟩
        · exact ⟨nd, by rw [same3 i h1 h2 h3]; exact hr, rfl, rfl, rfl⟩
  have hS1 : ReprP st (f1.fill s) (some f1.id) (some f2.id) :=
    reprP_fill.mpr ⟨rfl, pn, hp, hppar, by rw [hhole, ← hpar]; exact hfoc, hPS⟩
  have hS2 : ReprP st (f2.fill (f1.fill s)) (some f2.id) gn.parent :=
    reprP_fill.mpr ⟨rfl, gn, hg, rfl, by rw [hhole2]; exact hS1, hU⟩
  have hS3 : ReprP st3 (f2.fill (f1.fill s)) (some f2.id) gn.parent :=
    ReprP.congr_ptr (fun i _ nd hr => ptrs i nd hr) hS2
  have sD : ∀ j ∈ pathIds fs, rd st3 j = rd st j := fun j hj =>
    same3 j (fun e => N.CD _ hgC (e ▸ hj)) (fun e => N.CD _ huC (e ▸ hj)) (fun e => N.BD _ hpB (e ▸ hj))
  have hctx3' : ReprCtx st3 fs (some f2.id) gn.parent root := ReprCtx.congr sD hctx3
  have hperm : ((f2.fill (f1.fill s)).ids ++ pathIds fs).Perm (s.ids ++ pathIds (f1 :: f2 :: fs)) := by
    have h1 := fill_ids_perm f2 (f1.fill s)
    have h2 := fill_ids_perm f1 s
    have := (h1.trans (h2.append_right _)).append_right (pathIds fs)
    simpa [pathIds, List.append_assoc] using this
  have hnd3 : ((f2.fill (f1.fill s)).ids ++ pathIds fs).Nodup := hperm.nodup_iff.mpr hnd
  have hlen' : fs.length ≤ 2 * f := by simp only [List.length_cons] at hlen; omega
  have IH := ih fs st3 (f2.fill (f1.fill s)) f2.id gn.parent root tree _ hlen' hS3 hctx3' hroot hnd3 Fg rfl
  have sA : ∀ j ∈ s.ids, rd st3 j = rd st j := fun j hj =>
    same3 j (fun e => N.AC j hj (e ▸ hgC)) (fun e => N.AC j hj (e ▸ huC)) (fun e => N.AB j hj (e ▸ hpB))
  have sPS : ∀ j ∈ f1.sib.ids, rd st3 j = rd st j := fun j hj =>
    have hjB : j ∈ f1.id :: f1.sib.ids := List.mem_cons_of_mem _ hj
    same3 j (fun e => N.BC j hjB (e ▸ hgC)) (fun e => N.BC j hjB (e ▸ huC)) (fun e => (List.nodup_cons.mp N.nd_B).1 (e ▸ hj))
  have e1 : absTree st3 (f1.fill s) = (absTree st (f1.fill s)).setColor .black := absTree_recolour_fill hp Fp sA sPS
  have hUnd : f2.sib.ids.Nodup := (List.nodup_cons.mp N.nd_C).2
  have e2 : absTree st3 f2.sib = (absTree st f2.sib).setColor .black := by
    rw [hUeq] at hUnd ⊢
    simp only [Shape.ids] at hUnd
    obtain ⟨k1, k2, _, _, _⟩ := nodup_mid hUnd
    have hsub : ∀ j, j ∈ (Shape.node ua u ub).ids → j ∈ f2.id :: f2.sib.ids := fun j hj => by
      rw [hUeq]; exact List.mem_cons_of_mem _ hj
    refine absTree_recolour_root hur Fu (fun j hj => ?_) (fun j hj => ?_)
    · have hjC := hsub j (by simp [Shape.ids, hj])
      exact same3 j (fun e => (List.nodup_cons.mp N.nd_C).1 (by rw [← e, hUeq]; simp [Shape.ids, hj])) (fun e => k1 (e ▸ hj))
        (fun e => N.BC _ hpB (e ▸ hjC))
    · have hjC := hsub j (by simp [Shape.ids, hj])
      exact same3 j (fun e => (List.nodup_cons.mp N.nd_C).1 (by rw [← e, hUeq]; simp [Shape.ids, hj])) (fun e => k2 (e ▸ hj))
        (fun e => N.BC _ hpB (e ▸ hjC))
  have hR : upPath st (f1 :: f2 :: fs) (.check (absTree st s)) =
      upPath st3 fs (.check (absTree st3 (f2.fill (f1.fill s)))) := by
    rw [upPath_congr_eq _ hctx3 sD]
    simp only [upPath, upFrame_check s hp, hpc, ↓reduceIte, upFrame_viol_red _ _ hg hu]
    congr 2
    generalize f1.fill s = S1 at e1 ⊢
    cases f2 <;> simp only [Frame.fill, Frame.sib, Frame.id] at e2 Fg ⊢ <;> simp only [absTree, Fg, e1, e2]
  have hfix : fixup (f + 1) st tree n = fixup f st3 tree f2.id := by
    rw [← hreb]
    simp only [fixup, hn, hnpar, hp, hpc, ↓reduceIte]
  rw [hR]
  refine ⟨fun h => by rw [hfix]; exact IH.1 h, fun T' hT => ?_⟩
  obtain ⟨st', root', t', k1, k2, k3, k4, k5⟩ := IH.2 T' hT
  refine ⟨st', root', t', by rw [hfix]; exact k1, k2, k3, k4.trans hperm, fun j hj => ?_⟩
  have hj' : j ∉ (f2.fill (f1.fill s)).ids ++ pathIds fs := fun h => hj (hperm.mem_iff.mp h)
  rw [k5 j hj']
  have hmem : ∀ x, x ∈ s.ids ++ (f1.id :: f1.sib.ids ++ (f2.id :: f2.sib.ids ++ pathIds fs)) →
      x ∈ s.ids ++ pathIds (f1 :: f2 :: fs) := fun x hx => by simpa [pathIds, Frame.ids] using hx
  exact same3 j (fun e => hj (hmem _ (by simp [e]))) (fun e => hj (hmem _ (by
      have := huC; simp only [List.mem_cons] at this; rcases this with h | h <;> simp [e, h])))
    (fun e => hj (hmem _ (by simp [e])))


/-- the rotation step (black uncle), all four cases: afterwards the tree is finished -/
theorem sim_rotate {f : Nat} {st : Store} {a : Shape} {n : Nat} {b : Shape} {par root : Ptr} {tree : Nat} {nn pn gn : Node}
    {f1 f2 : Frame} {fs : List Frame}
    (hfoc : ReprP st (.node a n b) (some n) par) (hctx : ReprCtx st (f1 :: f2 :: fs) (some n) par root)
    (hroot : root = some tree) (hnd : ((Shape.node a n b).ids ++ pathIds (f1 :: f2 :: fs)).Nodup)
    (hn : rd st n = some nn) (hred : nn.color = .red) (hnpar : nn.parent = some f1.id) (hp : rd st f1.id = some pn)
    (hpc : pn.color = .red) (hg : rd st f2.id = some gn) (hu : (absTree st f2.sib).color = .black) :
    SimGoal (f + 1) st tree n (upPath st (f1 :: f2 :: fs) (.check (absTree st (.node a n b))))
      ((Shape.node a n b).ids ++ pathIds (f1 :: f2 :: fs)) := by
  obtain ⟨_, nn', hn', _, ha, hb⟩ := hfoc
  rw [hn] at hn'; cases hn'
  have hfix : fixup (f + 1) st tree n = rebalance (f + 1) st tree n := by
    simp only [fixup, hn, hnpar, hp, hpc, ↓reduceIte]
  obtain ⟨_, pn', hp', hhole, hPS, hctx2⟩ := reprCtx_cons.mp hctx
  rw [hp] at hp'; cases hp'
  obtain ⟨hppar, gn', hg', hhole2, hU, hctx3⟩ := reprCtx_cons.mp hctx2
  rw [hg] at hg'; cases hg'
  have D : RotIds st gn.parent n f1.id f2.id a b f1.sib f2.sib fs := RotIds.of_nodup hctx3 hnd
  cases f1 with
  | L p PS =>
    cases f2 with
    | L g U =>
      obtain ⟨st', hreb, hrep, hupd, habs, hout⟩ :=
        rot_LL (fuel := f) (tree := tree) hn hp hg hnpar hhole hppar hhole2 ha hb hPS hU D hu
      simp only [Frame.id, Frame.sib] at hp hg hu
      refine rot_conclude hfix hreb ?_ hctx3 hroot D.nodup_fs D.g_fs hrep hupd habs ?_ hout
      · simp only [upPath, upFrame, Frame.sib, hp, hg, Tree.up, hpc, hu, absTree, hn, hred, Tree.rotate, Tree.setColor,
          reduceCtorEq, ↓reduceIte]
      · exact List.perm_iff_count.mpr (fun x => by
          simp only [Shape.ids, pathIds, Frame.ids, Frame.id, Frame.sib, List.count_append, List.count_cons]; omega)
    | R U g =>
      obtain ⟨st', hreb, hrep, hupd, habs, hout⟩ :=
        rot_LR (fuel := f) (tree := tree) hn hp hg hnpar hhole hppar hhole2 ha hb hPS hU D hu
      simp only [Frame.id, Frame.sib] at hp hg hu
      refine rot_conclude hfix hreb ?_ hctx3 hroot D.nodup_fs D.g_fs hrep hupd habs ?_ hout
      · simp only [upPath, upFrame, Frame.sib, hp, hg, Tree.up, hpc, hu, absTree, hn, hred, Tree.rotate,
          reduceCtorEq, ↓reduceIte]
      · exact List.perm_iff_count.mpr (fun x => by
          simp only [Shape.ids, pathIds, Frame.ids, Frame.id, Frame.sib, List.count_append, List.count_cons]; omega)
  | R PS p =>
    cases f2 with
    | L g U =>
      obtain ⟨st', hreb, hrep, hupd, habs, hout⟩ :=
        rot_RL (fuel := f) (tree := tree) hn hp hg hnpar hhole hppar hhole2 ha hb hPS hU D hu
      simp only [Frame.id, Frame.sib] at hp hg hu
      refine rot_conclude hfix hreb ?_ hctx3 hroot D.nodup_fs D.g_fs hrep hupd habs ?_ hout
      · simp only [upPath, upFrame, Frame.sib, hp, hg, Tree.up, hpc, hu, absTree, hn, hred, Tree.rotate,
          reduceCtorEq, ↓reduceIte]
      · exact List.perm_iff_count.mpr (fun x => by
          simp only [Shape.ids, pathIds, Frame.ids, Frame.id, Frame.sib, List.count_append, List.count_cons]; omega)
    | R U g =>
      obtain ⟨st', hreb, hrep, hupd, habs, hout⟩ :=
        rot_RR (fuel := f) (tree := tree) hn hp hg hnpar hhole hppar hhole2 ha hb hPS hU D hu
      simp only [Frame.id, Frame.sib] at hp hg hu
      refine rot_conclude hfix hreb ?_ hctx3 hroot D.nodup_fs D.g_fs hrep hupd habs ?_ hout
      · simp only [upPath, upFrame, Frame.sib, hp, hg, Tree.up, hpc, hu, absTree, hn, hred, Tree.rotate, Tree.setColor,
          reduceCtorEq, ↓reduceIte]
      · exact List.perm_iff_count.mpr (fun x => by
          simp only [Shape.ids, pathIds, Frame.ids, Frame.id, Frame.sib, List.count_append, List.count_cons]; omega)


theorem fixup_sim : ∀ (fuel : Nat) (fs : List Frame) (st : Store) (s : Shape) (n : Nat) (par root : Ptr) (tree : Nat)
    (nn : Node), fs.length ≤ 2 * fuel → ReprP st s (some n) par → ReprCtx st fs (some n) par root → root = some tree →
    (s.ids ++ pathIds fs).Nodup → rd st n = some nn → nn.color = .red →
    SimGoal fuel st tree n (upPath st fs (.check (absTree st s))) (s.ids ++ pathIds fs) := by
  intro fuel
  induction fuel with
  | zero =>
    intro fs st s n par root tree nn hlen hfoc hctx hroot hnd hn hred
    have : fs = [] := List.eq_nil_of_length_eq_zero (by omega)
    subst this
    exact sim_root hfoc hctx hroot hnd hn
  | succ f ih =>
    intro fs st s n par root tree nn hlen hfoc hctx hroot hnd hn hred
    cases fs with
    | nil => exact sim_root hfoc hctx hroot hnd hn
    | cons f1 rest =>
      obtain ⟨hpar, pn, hp, _, _, hctx2⟩ := reprCtx_cons.mp hctx
      have hnpar : nn.parent = some f1.id := by
        cases s with
        | nil => cases hfoc
        | node a m b =>
          obtain ⟨h, nd, hr, hpp, _⟩ := hfoc
          cases h; rw [hn] at hr; cases hr; rw [hpp, hpar]
      by_cases hpc : pn.color = .red
      · cases rest with
        | nil => exact sim_red_root hctx hn hnpar hp hpc
        | cons f2 fs' =>
          obtain ⟨_, gn, hg, _, _, _⟩ := reprCtx_cons.mp hctx2
          cases hu : (absTree st f2.sib).color with
          | red => exact sim_recolour ih hlen hfoc hctx hroot hnd hn hnpar hp hpc hg hu
          | black =>
            cases s with
            | nil => cases hfoc
            | node a m b =>
              have : m = n := by obtain ⟨h, _⟩ := hfoc; cases h; rfl
              subst this
              exact sim_rotate hfoc hctx hroot hnd hn hred hnpar hp hpc hg hu
      · exact sim_black hfoc hctx hroot hn hnpar hp hpc

theorem PathDir.isSome {st : Store} {key : Int} : ∀ {fs : List Frame}, PathDir st key fs → ∀ f ∈ fs, (rd st f.id).isSome = true
  | [], _, f, hf => by cases hf
  | g :: fs, h, f, hf => by
    obtain ⟨⟨nd, hr, _⟩, hrest⟩ := pathDir_cons.mp h
    rcases List.mem_cons.mp hf with rfl | h
    · simp [hr]
    · exact PathDir.isSome hrest f h

/-- the descent loop of `insert` on a tree laid out with its path: an equal key ⇒ `Tree.ins` answers `dup`; otherwise the
    loop stops at the record `p` under which the hole for the new record is, and the path from that hole up to the root is
    the path the key's comparisons take -/
theorem descend_zip {st : Store} {key : Int} {root : Ptr} : ∀ (fuel : Nat) (s : Shape) (i : Nat) (fs0 : List Frame) (par : Ptr)
    (r : Option Nat), ReprP st s (some i) par → ReprCtx st fs0 (some i) par root → PathDir st key fs0 →
    descend st key fuel i = some r →
    (r = none → Tree.ins key (absTree st (zip s fs0)) = .dup) ∧
    (∀ p, r = some p → ∃ f fs, f.id = p ∧ ReprCtx st (f :: fs) none (some p) root ∧ zip .nil (f :: fs) = zip s fs0 ∧
      PathDir st key (f :: fs))
  | 0, _, _, _, _, _, _, _, _, h => by simp [descend] at h
  | fuel+1, .nil, _, _, _, _, h, _, _, _ => by cases h
  | fuel+1, .node a i' b, i, fs0, par, r, hfoc, hctx, hdir, hdesc => by
    obtain ⟨hi, nd, hr, hpar, ha, hb⟩ := hfoc
    cases hi
    simp only [descend, hr] at hdesc
    by_cases h2 : key > nd.key
    · simp only [h2, ↓reduceIte] at hdesc
      cases b with
      | nil =>
        have hl : nd.large = none := hb
        simp only [hl, Option.some.injEq] at hdesc
        subst hdesc
        refine ⟨fun h => (by cases h), fun p hp => ?_⟩
        cases hp
        exact ⟨.R a i', fs0, rfl, ⟨rfl, nd, hr, hl, ha, hpar ▸ hctx⟩, rfl, ⟨⟨nd, hr, h2⟩, hdir⟩⟩
      | node b1 j b2 =>
        have hl : nd.large = some j := hb.1
        simp only [hl] at hdesc
        have := descend_zip fuel (.node b1 j b2) j (.R a i' :: fs0) (some i') r (hl ▸ hb)
          ⟨rfl, nd, hr, hl, ha, hpar ▸ hctx⟩ ⟨⟨nd, hr, h2⟩, hdir⟩ hdesc
        exact this
    · by_cases h3 : key < nd.key
      · simp only [h2, h3, ↓reduceIte] at hdesc
        cases a with
        | nil =>
          have hl : nd.small = none := ha
          simp only [hl, Option.some.injEq] at hdesc
          subst hdesc
          refine ⟨fun h => (by cases h), fun p hp => ?_⟩
          cases hp
          exact ⟨.L i' b, fs0, rfl, ⟨rfl, nd, hr, hl, hb, hpar ▸ hctx⟩, rfl, ⟨⟨nd, hr, h3⟩, hdir⟩⟩
        | node a1 j a2 =>
          have hl : nd.small = some j := ha.1
          simp only [hl] at hdesc
          have := descend_zip fuel (.node a1 j a2) j (.L i' b :: fs0) (some i') r (hl ▸ ha)
            ⟨rfl, nd, hr, hl, hb, hpar ▸ hctx⟩ ⟨⟨nd, hr, h3⟩, hdir⟩ hdesc
          exact this
      · simp only [h2, h3, ↓reduceIte, Option.some.injEq] at hdesc
        subst hdesc
        refine ⟨fun _ => ?_, fun p hp => by cases hp⟩
        rw [ins_zip hdir]
        have h4 : ¬ nd.key < key := h2
        have : Tree.ins key (absTree st (.node a i' b)) = .dup := by
          simp only [absTree, hr, Tree.ins, h4, h3, ↓reduceIte]
        rw [this]
        exact upPath_dup st fs0 (PathDir.isSome hdir)

theorem length_le_pathIds : ∀ (fs : List Frame), fs.length ≤ (pathIds fs).length
  | [] => Nat.le_refl _
  | f :: fs => by
    have := length_le_pathIds fs
    simp only [pathIds, Frame.ids, List.length_cons, List.length_append]; omega



theorem up_ne_dup (c : Color) (a : Tree Int) (x : Int) (b : Tree Int) (sd : Side) (r : Res Int) (h : r ≠ .dup) :
    Tree.up c a x b sd r ≠ .dup := by
  cases r with
  | dup => exact absurd rfl h
  | fatal => simp
  | done t => cases sd <;> simp [Tree.up]
  | check t => simp only [Tree.up]; split <;> simp
  | viol t sn =>
    cases sd <;> simp only [Tree.up] <;> split <;> (try simp) <;> split <;> simp

theorem upPath_ne_dup (st : Store) : ∀ (fs : List Frame) (r : Res Int), r ≠ .dup → upPath st fs r ≠ .dup
  | [], _, h => h
  | f :: fs, r, h => by
    simp only [upPath, upFrame_eq]
    cases rd st f.id with
    | none => exact upPath_ne_dup st fs _ (by simp)
    | some nd => exact upPath_ne_dup st fs _ (up_ne_dup _ _ _ _ _ _ h)

/-- the linking step of `insert` writes the hole's side of the parent -/
theorem link_eq {st : Store} {f : Frame} {key : Int} {pn : Node} (node : Nat) (hd : f.dir key pn.key) :
    (if key < pn.key then wr st f.id (fun nd => { nd with small := some node })
      else wr st f.id (fun nd => { nd with large := some node })) = wr st f.id (fun nd => f.setHole nd (some node)) := by
  cases f with
  | L i b => exact if_pos hd
  | R a i => exact if_neg (by simp only [Frame.dir] at hd; omega)

theorem insert_link {st st1 : Store} {r0 node : Nat} {nn pn : Node} {f : Frame} {fs : List Frame}
    (w1 : wr st node (fun nd => { nd with color := .red, small := none, large := none }) = some st1)
    (hn1 : rd st1 node = some { nn with color := .red, small := none, large := none })
    (e1 : descend st1 nn.key (st1.size + 1) r0 = some (some f.id))
    (hp : rd st1 f.id = some pn) (hpn : f.id ≠ node) (hdir : PathDir st1 nn.key (f :: fs)) :
    ∃ st3, (∀ j, rd st3 j = if j = f.id then some (f.setHole pn (some node))
              else if j = node then some { nn with color := .red, small := none, large := none, parent := some f.id }
              else rd st1 j) ∧ st3.size = st1.size ∧
      insert st (some r0) node = (fixup (st3.size + 1) st3 r0 node).map (fun x => (x.1, some x.2)) := by
  obtain ⟨s2, w2, R2⟩ := wr_ex (st := st1) (i := node) (fun nd => { nd with parent := some f.id }) (by simp [hn1])
  have hp2 : rd s2 f.id = some pn := by rw [R2]; simp [hpn, hp]
  obtain ⟨⟨nd, hr, hd⟩, _⟩ := pathDir_cons.mp hdir
  rw [hp] at hr; cases hr
  obtain ⟨s3, w3, R3⟩ := wr_ex (st := s2) (i := f.id) (fun nd => f.setHole nd (some node)) (by simp [hp2])
  have F : ∀ j, rd s3 j = if j = f.id then some (f.setHole pn (some node))
      else if j = node then some { nn with color := .red, small := none, large := none, parent := some f.id }
      else rd st1 j := fun j => by
    by_cases h1 : j = f.id
    · subst h1; simp [R3, hp2]
    · by_cases h2 : j = node
      · subst h2; simp [R3, R2, h1, hn1]
      · simp [R3, R2, h1, h2]
  refine ⟨s3, F, (size_wr w3).trans (size_wr w2), ?_⟩
  have Fn := F node
  simp only [Ne.symm hpn, ↓reduceIte] at Fn
  have Fp := F f.id
  simp only [↓reduceIte] at Fp
  have hpar : (f.setHole pn (some node)).color = pn.color := by cases f <;> rfl
  simp only [insert, w1, hn1, e1, w2, hp2, link_eq node hd, w3, fixup, Fn, Fp, hpar]
  by_cases hc : pn.color = .red
  · simp only [hc, ↓reduceIte]
  · simp only [hc, ↓reduceIte, Option.map_some]


theorem insert_refines {st : Store} {t : Shape} {root node : Nat} {nn : Node}
    (hrep : ReprP st t (some root) none) (hnd : t.ids.Nodup) (hnode : node ∉ t.ids) (hr : rd st node = some nn) :
    (Tree.ins nn.key (absTree st t) = .dup →
      ∃ st', insert st (some root) node = some (st', none) ∧ (∀ j, j ≠ node → rd st' j = rd st j) ∧
        rd st' node = some { nn with color := .red, small := none, large := none }) ∧
    (Tree.ins nn.key (absTree st t) ≠ .dup →
      (finish (Tree.ins nn.key (absTree st t)) = none → insert st (some root) node = none) ∧
      (∀ T', finish (Tree.ins nn.key (absTree st t)) = some T' →
        ∃ st' root' t', insert st (some root) node = some (st', some root') ∧ ReprP st' t' (some root') none ∧
          absTree st' t' = T' ∧ t'.ids.Perm (node :: t.ids) ∧ (∀ j, j ∉ node :: t.ids → rd st' j = rd st j))) := by
  obtain ⟨st1, w1, R1⟩ := wr_ex (st := st) (i := node)
    (fun nd => { nd with color := .red, small := none, large := none }) (by simp [hr])
  have hsame1 : ∀ j, j ≠ node → rd st1 j = rd st j := fun j hj => by rw [R1]; simp [hj]
  have hids1 : ∀ i ∈ t.ids, rd st1 i = rd st i := fun i hi => hsame1 i (fun e => hnode (e ▸ hi))
  have hrep1 : ReprP st1 t (some root) none := ReprP.congr hids1 hrep
  have habs1 : absTree st1 t = absTree st t := absTree_congr hids1
  have hn1 : rd st1 node = some { nn with color := .red, small := none, large := none } := by rw [R1]; simp [hr]
  have hsz1 := size_wr w1
  cases t with
  | nil => cases hrep
  | node a r0 b =>
  have hr0 : r0 = root := by obtain ⟨h, _⟩ := hrep; cases h; rfl
  subst hr0
  have hh := hrep1.toRepr.height_le_size hnd
  obtain ⟨r, e1, _, _⟩ := descend_repr nn.key (st1.size + 1) hrep1.toRepr (by omega)
  obtain ⟨d1, d2⟩ := descend_zip (root := some r0) (st1.size + 1) (.node a r0 b) r0 [] none r hrep1 ⟨rfl, rfl⟩ trivial e1
  simp only [zip] at d1 d2
  rw [← habs1]
  cases r with
  | none =>
    have hdup := d1 rfl
    refine ⟨fun _ => ⟨st1, ?_, hsame1, hn1⟩, fun h => absurd hdup h⟩
    simp only [insert, w1, hn1, e1]
  | some p =>
    obtain ⟨f, fs, hfid, hctx, hzip, hdir⟩ := d2 p rfl
    subst hfid
    have hzip : zip Shape.nil (f :: fs) = Shape.node a r0 b := hzip
    have hins : Tree.ins nn.key (absTree st1 (.node a r0 b)) =
        upPath st1 (f :: fs) (.check (.node .red .nil nn.key .nil)) := by
      rw [← hzip, ins_zip hdir]; rfl
    obtain ⟨_, pn, hp, _, _, _⟩ := reprCtx_cons.mp hctx
    have hperm0 : (Shape.node a r0 b).ids.Perm (pathIds (f :: fs)) := by
      have := zip_ids_perm (f :: fs) .nil
      rw [hzip] at this
      simpa [Shape.ids] using this
    have hndP : (pathIds (f :: fs)).Nodup := hperm0.nodup_iff.mp hnd
    have hnodeP : node ∉ pathIds (f :: fs) := fun h => hnode (hperm0.mem_iff.mpr h)
    have hpn : f.id ≠ node := fun e => hnodeP (e ▸ mem_pathIds_id)
    obtain ⟨st3, F3, hsz3, hinsert⟩ := insert_link (fs := fs) w1 hn1 e1 hp hpn hdir
    have Fn : rd st3 node = some { nn with color := .red, small := none, large := none, parent := some f.id } := by
      rw [F3]; simp [Ne.symm hpn]
    have same3 : ∀ j, j ≠ f.id → j ≠ node → rd st3 j = rd st1 j := fun j h1 h2 => by rw [F3]; simp [h1, h2]
    have hfoc3 : ReprP st3 (.node .nil node .nil) (some node) (some f.id) := ⟨rfl, _, Fn, rfl, rfl, rfl⟩
    have hctx3 : ReprCtx st3 (f :: fs) (some node) (some f.id) (some r0) :=
      ReprCtx.rehole hctx hndP (fun j hj hne => same3 j hne (fun e => hnodeP (e ▸ hj))) (fun nd hr' => by
        rw [hp] at hr'; cases hr'
        rw [F3, if_pos rfl])
    have hnd3 : ((Shape.node .nil node .nil).ids ++ pathIds (f :: fs)).Nodup := by
      simp only [Shape.ids, List.nil_append, List.cons_append]
      exact List.nodup_cons.mpr ⟨hnodeP, hndP⟩
    have hlen : (f :: fs).length ≤ 2 * (st3.size + 1) := by
      have h1 := length_le_pathIds (f :: fs)
      have h2 := hperm0.length_eq
      have h3 := hrep.toRepr.length_le_size hnd
      omega
    have sim := fixup_sim (st3.size + 1) (f :: fs) st3 (.node .nil node .nil) node (some f.id) (some r0) r0 _ hlen hfoc3
      hctx3 rfl hnd3 Fn rfl
    have hup : upPath st3 (f :: fs) (.check (absTree st3 (.node .nil node .nil))) =
        upPath st1 (f :: fs) (.check (.node .red .nil nn.key .nil)) := by
      have : absTree st3 (.node .nil node .nil) = .node .red .nil nn.key .nil := by simp only [absTree, Fn]
      rw [this]
      refine upPath_congr _ (fun i hi => ?_) (fun f' hf' => ?_)
      · by_cases h1 : i = f.id
        · subst h1
          refine ⟨pn, f.setHole pn (some node), hp, by rw [F3, if_pos rfl], ?_, ?_⟩ <;> cases f <;> rfl
        · have h2 : i ≠ node := fun e => hnodeP (e ▸ hi)
          obtain ⟨nd, hnd'⟩ := Option.isSome_iff_exists.mp (hrep1.toRepr.rd_some i (hperm0.mem_iff.mpr hi))
          exact ⟨nd, nd, hnd', by rw [same3 i h1 h2]; exact hnd', rfl, rfl⟩
      · refine absTree_congr (fun j hj => ?_)
        have hjP : j ∈ f.sib.ids ++ pathIds fs := by
          rcases List.mem_cons.mp hf' with rfl | h
          · exact List.mem_append_left _ hj
          · exact List.mem_append_right _ (sib_ids_sub h j hj)
        have hjP' : j ∈ pathIds (f :: fs) := by simp only [pathIds, Frame.ids, List.cons_append]; exact List.mem_cons_of_mem _ hjP
        have hndP' := hndP
        simp only [pathIds, Frame.ids, List.cons_append] at hndP'
        exact same3 j (fun e => (List.nodup_cons.mp hndP').1 (e ▸ hjP)) (fun e => hnodeP (e ▸ hjP'))
    rw [hup, ← hins] at sim
    have hpermF : ((Shape.node .nil node .nil).ids ++ pathIds (f :: fs)).Perm (node :: (Shape.node a r0 b).ids) := by
      simp only [Shape.ids, List.nil_append, List.cons_append]
      exact List.Perm.cons node hperm0.symm
    refine ⟨fun h => ?_, fun _ => ⟨fun h => ?_, fun T' hT => ?_⟩⟩
    · rw [hins] at h
      exact absurd h (upPath_ne_dup st1 (f :: fs) _ (by simp))
    · rw [hinsert, sim.1 h]; rfl
    · obtain ⟨st', root', t', k1, k2, k3, k4, k5⟩ := sim.2 T' hT
      refine ⟨st', root', t', by rw [hinsert, k1]; rfl, k2, k3, k4.trans hpermF, fun j hj => ?_⟩
      have hj' : j ∉ (Shape.node .nil node .nil).ids ++ pathIds (f :: fs) := fun h => hj (hpermF.mem_iff.mp h)
      rw [k5 j hj']
      have h1 : j ≠ node := fun e => hj (by simp [e])
      have h2 : j ≠ f.id := fun e => hj (List.mem_cons_of_mem _ (hperm0.mem_iff.mpr (e ▸ mem_pathIds_id)))
      rw [same3 j h2 h1, hsame1 j h1]

end EaselModel.Containers.RedBlackPtr
