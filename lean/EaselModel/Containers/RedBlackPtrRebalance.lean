import EaselModel.Containers.RedBlackPtrZip
/-! # `esl_red_black_doublekey_rebalance` on the pointer structure: what the rotations share

A write cannot fail on a record that exists, and no write changes the size of the store: `upd` is the store after a write,
`Live` what the write needs, `rd_upd` what each record reads afterwards; a sequence of writes is one term.
`CtxUpd`: how the path above the grandparent reads once another record has taken the grandparent's place, and that it still
lays out the path and unwinds as before. `RotIds`: the records a rotation touches are apart, derived once from the
duplicate-freeness of the laid-out tree. -/
namespace EaselModel.Containers.RedBlackPtr
open EaselModel.Containers.RedBlack

/-- `if (gg->small == g) gg->small = x; else gg->large = x;` as a record update -/
def replaceFn (g x : Nat) (nd : Node) : Node :=
  if nd.small = some g then { nd with small := some x } else { nd with large := some x }

theorem replaceFn_key (g x : Nat) (nd : Node) : (replaceFn g x nd).key = nd.key := by unfold replaceFn; split <;> rfl
theorem replaceFn_color (g x : Nat) (nd : Node) : (replaceFn g x nd).color = nd.color := by unfold replaceFn; split <;> rfl

/-- the store after `q->field = …` for a pointer `q` (`NULL`: nothing written) -/
def upd (st : Store) (q : Ptr) (f : Node → Node) : Store :=
  match q with
  | none => st
  | some i => match st[i]? with
    | none => st
    | some nd => st.setIfInBounds i (f nd)

theorem upd_none (st : Store) (f : Node → Node) : upd st none f = st := rfl

/-- `q` is `NULL` or the address of a record -/
def Live (st : Store) (q : Ptr) : Prop := ∀ c, q = some c → c < st.size

theorem upd_size (st : Store) (q : Ptr) (f : Node → Node) : (upd st q f).size = st.size := by
  unfold upd; split
  · rfl
  · split <;> simp

theorem live_upd {st : Store} {q q' : Ptr} {f : Node → Node} : Live (upd st q' f) q ↔ Live st q := by
  simp only [Live, upd_size]

theorem live_of_rd {st : Store} {i : Nat} {nd : Node} (h : rd st i = some nd) : Live st (some i) :=
  fun c e => by cases e; exact rd_lt h

theorem rd_upd (st : Store) (q : Ptr) (f : Node → Node) (j : Nat) :
    rd (upd st q f) j = if q = some j then (rd st j).map f else rd st j := by
  cases q with
  | none => simp [upd]
  | some i =>
    by_cases hj : i = j
    · subst hj
      simp only [upd, ↓reduceIte]
      cases hr : st[i]? with
      | none => simp [rd, hr]
      | some nd => simp only []; rw [rd_set_same _ (by simpa [rd] using hr)]; simp [rd, hr]
    · simp only [upd, Option.some.injEq, hj, ↓reduceIte]
      cases hr : st[i]? with
      | none => rfl
      | some nd => exact rd_set_ne st _ (Ne.symm hj)

theorem wr_upd {st : Store} {i : Nat} (f : Node → Node) (h : Live st (some i)) : wr st i f = some (upd st (some i) f) := by
  have hi := h i rfl
  simp [wr, upd, Array.getElem?_eq_getElem hi]

theorem setParentIf_upd {st : Store} {q : Ptr} (g : Nat) (h : Live st q) :
    setParentIf st q g = some (upd st q (fun nd => { nd with parent := some g })) := by
  cases q with
  | none => rfl
  | some c => exact wr_upd _ h

theorem replaceChild_upd {st : Store} {gg : Nat} (g x : Nat) (h : Live st (some gg)) :
    replaceChild st gg g x = some (upd st (some gg) (replaceFn g x)) := by
  have hi := h gg rfl
  have hr : rd st gg = some st[gg] := by simp [rd, Array.getElem?_eq_getElem hi]
  by_cases hs : st[gg].small = some g
  · simp [replaceChild, hr, hs, wr, upd, Array.getElem?_eq_getElem hi, replaceFn]
  · simp [replaceChild, hr, hs, wr, upd, Array.getElem?_eq_getElem hi, replaceFn]

theorem live_of_isSome {st : Store} {q : Ptr} (h : ∀ c, q = some c → (rd st c).isSome = true) : Live st q :=
  fun c e => by
    obtain ⟨nd, hr⟩ := Option.isSome_iff_exists.mp (h c e)
    exact rd_lt hr

/-- one write, and what every record reads after it -/
theorem wr_ex {st : Store} {i : Nat} (f : Node → Node) (h : (rd st i).isSome = true) :
    ∃ st', wr st i f = some st' ∧ ∀ j, rd st' j = if j = i then (rd st i).map f else rd st j :=
  ⟨_, wr_upd f (live_of_isSome fun c e => Option.some.inj e ▸ h), fun j => by
    rw [rd_upd]; by_cases hj : j = i
    · subst hj; simp
    · simp [hj, show ¬ i = j from fun e => hj e.symm]⟩

/-- the tree's root after record `x` took the place of `g`: `x` itself if `g` was the root -/
def rootAfter (gpar : Ptr) (x tree : Nat) : Nat :=
  match gpar with
  | none => x
  | some _ => tree

theorem uncle_cases {st : Store} {U : Shape} {q par : Ptr} (h : ReprP st U q par) (hb : (absTree st U).color = .black) :
    q = none ∨ ∃ u un, q = some u ∧ rd st u = some un ∧ un.color = .black := by
  cases U with
  | nil => exact Or.inl h
  | node ua u ub =>
    obtain ⟨hq, un, hr, _⟩ := h
    refine Or.inr ⟨u, un, hq, hr, ?_⟩
    simpa only [absTree, hr, Tree.color] using hb

theorem uncle_cases_red {st : Store} {U : Shape} {q par : Ptr} (h : ReprP st U q par) (hb : (absTree st U).color = .red) :
    ∃ ua u ub un, U = .node ua u ub ∧ q = some u ∧ rd st u = some un ∧ un.color = .red := by
  cases U with
  | nil => simp [absTree, Tree.color] at hb
  | node ua u ub =>
    obtain ⟨hq, un, hr, _⟩ := h
    refine ⟨ua, u, ub, un, rfl, hq, hr, ?_⟩
    simpa only [absTree, hr, Tree.color] using hb

/-- the abstract tree depends on key and colour of the records only -/
theorem absTree_congr_kc {st st' : Store} : ∀ {t : Shape},
    (∀ i ∈ t.ids, (rd st' i).map (fun nd => (nd.key, nd.color)) = (rd st i).map (fun nd => (nd.key, nd.color))) →
    absTree st' t = absTree st t
  | .nil, _ => rfl
  | .node a i b, hc => by
    have hi := hc i (by simp [Shape.ids])
    have ha := absTree_congr_kc (t := a) (fun j hj => hc j (by simp [Shape.ids, hj]))
    have hb := absTree_congr_kc (t := b) (fun j hj => hc j (by simp [Shape.ids, hj]))
    simp only [absTree, ha, hb]
    cases h1 : rd st i with
    | none => rw [h1] at hi; cases h2 : rd st' i with
      | none => rfl
      | some nd' => rw [h2] at hi; cases hi
    | some nd =>
      rw [h1] at hi
      cases h2 : rd st' i with
      | none => rw [h2] at hi; cases hi
      | some nd' =>
        rw [h2] at hi
        simp only [Option.map_some, Option.some.injEq, Prod.mk.injEq] at hi
        simp only [hi.1, hi.2]

/-- … so not on the `parent` field of a subtree's root -/
theorem absTree_reparent {st st' : Store} {t : Shape} {q par' : Ptr}
    (hc : ∀ j ∈ t.ids, rd st' j = if q = some j then (rd st j).map (fun nd => { nd with parent := par' }) else rd st j) :
    absTree st' t = absTree st t :=
  absTree_congr_kc (fun j hj => by
    rw [hc j hj]; split
    · cases rd st j <;> rfl
    · rfl)

/-- how the records of the path above the grandparent `g` read after `x` took `g`'s place -/
def CtxUpd (st st' : Store) (fs : List Frame) (gpar : Ptr) (g x : Nat) : Prop :=
  ∀ j ∈ pathIds fs, rd st' j = if gpar = some j then (rd st j).map (replaceFn g x) else rd st j

theorem CtxUpd.repr {st st' : Store} {fs : List Frame} {gpar root : Ptr} {g x tree : Nat}
    (hctx : ReprCtx st fs (some g) gpar root) (hroot : root = some tree) (hnd : (pathIds fs).Nodup) (hg : g ∉ pathIds fs)
    (hu : CtxUpd st st' fs gpar g x) :
    ReprCtx st' fs (some x) gpar (some (rootAfter gpar x tree)) := by
  cases fs with
  | nil =>
    obtain ⟨hpar, _⟩ := hctx
    subst hpar
    exact ⟨rfl, rfl⟩
  | cons f rest =>
    obtain ⟨hfid, nd0, hr0, hs, ha, _⟩ := reprCtx_cons.mp hctx
    subst hfid
    subst hroot
    refine ReprCtx.rehole hctx hnd (fun j hj hne => ?_) (fun nd hr => ?_)
    · have := hu j hj
      have hne' : ¬ f.id = j := fun e => hne e.symm
      simpa [hne'] using this
    · have := hu f.id mem_pathIds_id
      simp only [↓reduceIte, hr, Option.map_some] at this
      rw [hr0] at hr; cases hr
      rw [this]
      cases f with
      | L i b => simp [replaceFn, Frame.setHole, show nd0.small = some g from hs]
      | R a i =>
        have : nd0.small ≠ some g := fun e => by
          have ha' : ReprP st a nd0.small (some i) := ha
          rw [e] at ha'
          exact hg (mem_pathIds_sib ha'.root_mem)
        simp [replaceFn, Frame.setHole, this]

theorem CtxUpd.upPath_eq {st st' : Store} {fs : List Frame} {gpar root : Ptr} {g x : Nat}
    (hctx : ReprCtx st fs (some g) gpar root) (hnd : (pathIds fs).Nodup)
    (hu : CtxUpd st st' fs gpar g x) (r : Res Int) : upPath st' fs r = upPath st fs r := by
  cases fs with
  | nil => rfl
  | cons f rest =>
    obtain ⟨hfid, nd, hr, _, _, hrst⟩ := reprCtx_cons.mp hctx
    subst hfid
    have hsame : ∀ j ∈ pathIds (f :: rest), j ≠ f.id → rd st' j = rd st j := fun j hj hne => by
      have := hu j hj
      have hne' : ¬ f.id = j := fun e => hne e.symm
      simpa [hne'] using this
    have hf : (rd st' f.id) = (rd st f.id).map (replaceFn g x) := by
      have := hu f.id mem_pathIds_id
      simpa using this
    simp only [pathIds, Frame.ids, List.cons_append, List.nodup_cons, List.mem_append, not_or] at hnd
    obtain ⟨⟨hsib, hrest⟩, _⟩ := hnd
    have hb : absTree st' f.sib = absTree st f.sib :=
      absTree_congr (fun j hj => hsame j (mem_pathIds_sib hj) (fun e => hsib (e ▸ hj)))
    simp only [upPath, upFrame_eq, hf, hr, Option.map_some, hb, replaceFn_key, replaceFn_color]
    exact upPath_congr_eq _ hrst (fun j hj => hsame j (mem_pathIds_tail hj) (fun e => hrest (e ▸ hj)))

theorem ReprCtx.gpar_isSome {st : Store} {fs : List Frame} {hp gpar root : Ptr} (hctx : ReprCtx st fs hp gpar root) :
    ∀ gg, gpar = some gg → (rd st gg).isSome = true ∧ gg ∈ pathIds fs := by
  intro gg hgg
  cases fs with
  | nil => obtain ⟨h, _⟩ := hctx; rw [h] at hgg; cases hgg
  | cons f rest =>
    obtain ⟨h, nd, hr, _⟩ := reprCtx_cons.mp hctx
    rw [h] at hgg; cases hgg
    exact ⟨by simp [hr], mem_pathIds_id⟩

theorem ReprP.ptr_mem {st : Store} {t : Shape} {q par : Ptr} (h : ReprP st t q par) : ∀ c, q = some c → c ∈ t.ids ∧ (rd st c).isSome = true := by
  intro c hc
  subst hc
  refine ⟨h.root_mem, ?_⟩
  cases t with
  | nil => cases h
  | node a i b =>
    obtain ⟨hp, nd, hr, _⟩ := h
    cases hp
    simp [hr]

/-- what `(A ++ B ++ C ++ D).Nodup` says, by name: each list duplicate-free, any two apart (`nodup4`) -/
structure Nodup4 (A B C D : List Nat) : Prop where
  nd_A : A.Nodup
  nd_B : B.Nodup
  nd_C : C.Nodup
  nd_D : D.Nodup
  AB : ∀ x ∈ A, x ∉ B
  AC : ∀ x ∈ A, x ∉ C
  AD : ∀ x ∈ A, x ∉ D
  BC : ∀ x ∈ B, x ∉ C
  BD : ∀ x ∈ B, x ∉ D
  CD : ∀ x ∈ C, x ∉ D

theorem nodup4 {A B C D : List Nat} (h : (A ++ (B ++ (C ++ D))).Nodup) : Nodup4 A B C D := by
  simp only [List.nodup_append, List.mem_append] at h
  obtain ⟨hA, ⟨hB, ⟨hC, hD, hCD⟩, hBCD⟩, hABCD⟩ := h
  exact ⟨hA, hB, hC, hD, fun x hx hb => hABCD x hx x (Or.inl hb) rfl, fun x hx hb => hABCD x hx x (Or.inr (Or.inl hb)) rfl,
    fun x hx hb => hABCD x hx x (Or.inr (Or.inr hb)) rfl, fun x hx hb => hBCD x hx x (Or.inl hb) rfl,
    fun x hx hb => hBCD x hx x (Or.inr hb) rfl, fun x hx hb => hCD x hx x hb rfl⟩

/-- record `j` is none of the records `n`, `p`, `g` a rotation relinks, and not on the path above them -/
structure Apart (n p g : Nat) (fs : List Frame) (j : Nat) : Prop where
  ne_n : j ≠ n
  ne_p : j ≠ p
  ne_g : j ≠ g
  not_fs : j ∉ pathIds fs

/-- the records a rotation touches are apart: `n`, `p`, `g`, the subtrees `a`, `b` below `n`, the sibling subtree `PS`, the
    uncle subtree `U`, and the path above `g` (which holds the great-grandparent `gpar`, if any) -/
structure RotIds (st : Store) (gpar : Ptr) (n p g : Nat) (a b PS U : Shape) (fs : List Frame) : Prop where
  np : n ≠ p
  ng : n ≠ g
  pg : p ≠ g
  n_fs : n ∉ pathIds fs
  p_fs : p ∉ pathIds fs
  g_fs : g ∉ pathIds fs
  gpar_n : gpar ≠ some n
  gpar_p : gpar ≠ some p
  gpar_g : gpar ≠ some g
  gpar_fs : ∀ gg, gpar = some gg → (rd st gg).isSome = true ∧ gg ∈ pathIds fs
  nodup_a : a.ids.Nodup
  nodup_b : b.ids.Nodup
  nodup_PS : PS.ids.Nodup
  nodup_fs : (pathIds fs).Nodup
  in_a : ∀ j ∈ a.ids, Apart n p g fs j
  in_b : ∀ j ∈ b.ids, Apart n p g fs j
  in_PS : ∀ j ∈ PS.ids, Apart n p g fs j
  in_U : ∀ j ∈ U.ids, Apart n p g fs j
  a_b : ∀ j ∈ a.ids, j ∉ b.ids
  a_PS : ∀ j ∈ a.ids, j ∉ PS.ids
  a_U : ∀ j ∈ a.ids, j ∉ U.ids
  b_PS : ∀ j ∈ b.ids, j ∉ PS.ids
  b_U : ∀ j ∈ b.ids, j ∉ U.ids
  PS_U : ∀ j ∈ PS.ids, j ∉ U.ids

theorem RotIds.of_nodup {st : Store} {gpar hp root : Ptr} {n p g : Nat} {a b PS U : Shape} {fs : List Frame}
    (hctx : ReprCtx st fs hp gpar root)
    (hnd : ((a.ids ++ n :: b.ids) ++ ((p :: PS.ids) ++ ((g :: U.ids) ++ pathIds fs))).Nodup) :
    RotIds st gpar n p g a b PS U fs := by
  have N := nodup4 hnd
  obtain ⟨hna, hnb, hAa, hAb, hab⟩ := nodup_mid N.nd_A
  obtain ⟨hpPS, hPS⟩ := List.nodup_cons.mp N.nd_B
  have hgU := (List.nodup_cons.mp N.nd_C).1
  have hnA : n ∈ a.ids ++ n :: b.ids := by simp
  have hpB : p ∈ p :: PS.ids := List.mem_cons_self
  have hgC : g ∈ g :: U.ids := List.mem_cons_self
  have inA1 : ∀ j ∈ a.ids, j ∈ a.ids ++ n :: b.ids := fun j hj => by simp [hj]
  have inA2 : ∀ j ∈ b.ids, j ∈ a.ids ++ n :: b.ids := fun j hj => by simp [hj]
  have inB : ∀ j ∈ PS.ids, j ∈ p :: PS.ids := fun j hj => List.mem_cons_of_mem _ hj
  have inC : ∀ j ∈ U.ids, j ∈ g :: U.ids := fun j hj => List.mem_cons_of_mem _ hj
  have hgg := hctx.gpar_isSome
  exact {
    np := fun e => N.AB n hnA (e ▸ hpB)
    ng := fun e => N.AC n hnA (e ▸ hgC)
    pg := fun e => N.BC p hpB (e ▸ hgC)
    n_fs := N.AD n hnA
    p_fs := N.BD p hpB
    g_fs := N.CD g hgC
    gpar_n := fun e => N.AD n hnA (hgg n e).2
    gpar_p := fun e => N.BD p hpB (hgg p e).2
    gpar_g := fun e => N.CD g hgC (hgg g e).2
    gpar_fs := hgg
    nodup_a := hAa
    nodup_b := hAb
    nodup_PS := hPS
    nodup_fs := N.nd_D
    in_a := fun j hj => ⟨fun e => hna (e ▸ hj), fun e => N.AB j (inA1 j hj) (e ▸ hpB), fun e => N.AC j (inA1 j hj) (e ▸ hgC),
      N.AD j (inA1 j hj)⟩
    in_b := fun j hj => ⟨fun e => hnb (e ▸ hj), fun e => N.AB j (inA2 j hj) (e ▸ hpB), fun e => N.AC j (inA2 j hj) (e ▸ hgC),
      N.AD j (inA2 j hj)⟩
    in_PS := fun j hj => ⟨fun e => N.AB n hnA (e ▸ inB j hj), fun e => hpPS (e ▸ hj), fun e => N.BC j (inB j hj) (e ▸ hgC),
      N.BD j (inB j hj)⟩
    in_U := fun j hj => ⟨fun e => N.AC n hnA (e ▸ inC j hj), fun e => N.BC p hpB (e ▸ inC j hj), fun e => hgU (e ▸ hj),
      N.CD j (inC j hj)⟩
    a_b := hab
    a_PS := fun j hj h => N.AB j (inA1 j hj) (inB j h)
    a_U := fun j hj h => N.AC j (inA1 j hj) (inC j h)
    b_PS := fun j hj h => N.AB j (inA2 j hj) (inB j h)
    b_U := fun j hj h => N.AC j (inA2 j hj) (inC j h)
    PS_U := fun j hj h => N.BC j (inB j hj) (inC j h) }

theorem RotIds.ptr_apart {st : Store} {gpar : Ptr} {n p g : Nat} {a b PS U : Shape} {fs : List Frame}
    (D : RotIds st gpar n p g a b PS U fs) {T : Shape} {q par : Ptr} (hT : ReprP st T q par)
    (hin : ∀ j ∈ T.ids, Apart n p g fs j) :
    q ≠ some n ∧ q ≠ some p ∧ q ≠ some g ∧ ∀ j, gpar = some j → q ≠ some j :=
  ⟨fun e => (hin n (hT.ptr_mem n e).1).ne_n rfl, fun e => (hin p (hT.ptr_mem p e).1).ne_p rfl,
    fun e => (hin g (hT.ptr_mem g e).1).ne_g rfl,
    fun j e1 e2 => (hin j (hT.ptr_mem j e2).1).not_fs (D.gpar_fs j e1).2⟩

end EaselModel.Containers.RedBlackPtr
