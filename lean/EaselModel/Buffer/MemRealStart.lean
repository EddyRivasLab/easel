import EaselModel.Buffer.MemRealLemmas
/-! `esl_mem_IsReal` after the repair `C05-mem-isreal-garbage.patch`: after the blanks and one sign the number must START
(`if (! n || ! (isdigit(*p) || (*p == '.' && n > 1 && isdigit(p[1])))) return FALSE;`), the scan loop is unchanged. Selected by the
constant `MemConsts.isRealStart` (`true`: the tree has the repair). Core Lean only (the driver links this file).

Specification of the repaired function: `isRealSpecL p = isRealSpec p && startsNum (stripSign (p.dropWhile isspaceB))`, and
`startsNum` is exactly "strtod()/atof() converts a non-empty prefix here" for decimal numbers (a digit, or `.` and a digit). -/
namespace EaselModel.Buffer.Mem
open EaselModel.Buffer

/-- the added statement: `some false` = `return FALSE`; `p[1]` is bounds-checked (guarded by `n > 1` in the code) -/
def realStart (p : Bytes) (i : Nat) : Option Bool :=
  if i < p.length then
    match p[i]? with
    | none => none
    | some c =>
      if isdigitB c then some true
      else if c = 46 ∧ i + 1 < p.length then (p[i + 1]?).map isdigitB
      else some false
  else some false

/-- everything after the sign in the code as it was: scan loop, trailing blanks, verdict -/
def realTail (p : Bytes) (i : Nat) : Option Bool :=
  match realLoop p i false false false with
  | none => none
  | some none => some false
  | some (some (i, gr)) =>
    match wsLoop p i with
    | none => none
    | some i => some (i == p.length && gr)

/-- `esl_mem_IsReal` with the start test -/
def memIsRealL (p : Option Bytes) : Option Bool :=
  match p with
  | none => some false
  | some p =>
    if p.length = 0 then some false else
    match wsLoop p 0 with
    | none => none
    | some i =>
      match (if i < p.length then (p[i]?).map (fun c => if c = 45 ∨ c = 43 then i + 1 else i) else some i) with
      | none => none
      | some i =>
        match realStart p i with
        | none => none
        | some false => some false
        | some true => realTail p i

/-- "a decimal number starts here" = `strtod` converts a non-empty prefix: a digit, or `.` followed by a digit -/
def startsNum : Bytes → Bool
  | c :: cs => isdigitB c || (c == 46 && (match cs with | d :: _ => isdigitB d | [] => false))
  | [] => false

/-- what the repaired `esl_mem_IsReal` accepts -/
def isRealSpecL (p : Bytes) : Bool := isRealSpec p && startsNum (stripSign (p.dropWhile isspaceB))

theorem memIsReal_tail (p : Bytes) :
    memIsReal (some p) =
      (if p.length = 0 then some false else
       match wsLoop p 0 with
       | none => none
       | some i =>
         match (if i < p.length then (p[i]?).map (fun c => if c = 45 ∨ c = 43 then i + 1 else i) else some i) with
         | none => none
         | some i => realTail p i) := rfl

theorem realStart_eq (p : Bytes) (i : Nat) : realStart p i = some (startsNum (p.drop i)) := by
  unfold realStart
  by_cases hlt : i < p.length
  · have hg : p[i]? = some p[i] := List.getElem?_eq_getElem hlt
    have hd := drop_of_get hg
    rw [if_pos hlt, hg, hd]
    simp only [startsNum]
    by_cases h1 : isdigitB p[i] = true
    · simp [h1]
    · simp only [h1, Bool.false_eq_true, if_false, Bool.false_or]
      by_cases h2 : p[i] = 46
      · by_cases hlt2 : i + 1 < p.length
        · have hg2 : p[i + 1]? = some p[i + 1] := List.getElem?_eq_getElem hlt2
          rw [if_pos ⟨h2, hlt2⟩, hg2, drop_of_get hg2]
          simp [h2]
        · have hnil : p.drop (i + 1) = [] := drop_nil_of_ge hlt2
          rw [if_neg (by intro h; exact hlt2 h.2), hnil]
          simp
      · rw [if_neg (by intro h; exact h2 h.1)]
        simp [h2]
  · rw [if_neg hlt, drop_nil_of_ge hlt]; rfl

theorem memIsRealL_eq (p : Bytes) : memIsRealL (some p) = some (isRealSpecL p) := by
  have hold := memIsReal_eq p
  rw [memIsReal_tail] at hold
  unfold memIsRealL isRealSpecL
  simp only []
  by_cases hp : p.length = 0
  · have : p = [] := List.eq_nil_of_length_eq_zero hp
    subst this; simp [isRealSpec]
  · rw [if_neg hp] at hold ⊢
    rw [wsLoop_eq p p 0 (by simp), Nat.zero_add] at hold ⊢
    simp only [] at hold ⊢
    obtain ⟨i1, h1, _, hdrop⟩ := sign_step_real p (runLen isspaceB p) (runLen_le _ _)
    rw [h1] at hold ⊢
    simp only [] at hold ⊢
    rw [drop_runLen] at hdrop
    rw [realStart_eq, hdrop]
    cases hs : startsNum (stripSign (p.dropWhile isspaceB))
    · simp
    · simp only [hold, Bool.and_true]

theorem memIsRealL_ne_none (p : Option Bytes) : memIsRealL p ≠ none := by
  cases p with
  | none => simp [memIsRealL]
  | some p => rw [memIsRealL_eq]; simp

theorem memIsRealL_true_starts (p : Bytes) (h : memIsRealL (some p) = some true) :
    startsNum (stripSign (p.dropWhile isspaceB)) = true := by
  rw [memIsRealL_eq] at h
  simp only [Option.some.injEq, isRealSpecL, Bool.and_eq_true] at h
  exact h.2

theorem memIsRealL_le (p : Bytes) (h : memIsRealL (some p) = some true) : memIsReal (some p) = some true := by
  rw [memIsRealL_eq] at h; rw [memIsReal_eq]
  simp only [Option.some.injEq, isRealSpecL, Bool.and_eq_true] at h
  simp [h.1]

end EaselModel.Buffer.Mem
