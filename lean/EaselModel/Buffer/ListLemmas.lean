import EaselModel.Buffer.Spec
/-! List-level facts about the scanning primitives (`runLen`, `memnewline`). -/
namespace EaselModel.Buffer

theorem runLen_le (p : UInt8 → Bool) (l : Bytes) : runLen p l ≤ l.length := by
  induction l with
  | nil => simp [runLen]
  | cons c cs ih => simp only [runLen]; split <;> simp <;> omega

theorem runLen_spec_lt (p : UInt8 → Bool) (l : Bytes) (i : Nat) (h : i < runLen p l) :
    ∃ c, l[i]? = some c ∧ p c = true := by
  induction l generalizing i with
  | nil => simp [runLen] at h
  | cons c cs ih =>
    simp only [runLen] at h
    split at h
    · cases i with
      | zero => exact ⟨c, by simp, by assumption⟩
      | succ j => simpa using ih j (by omega)
    · omega

theorem runLen_spec_at (p : UInt8 → Bool) (l : Bytes) (h : runLen p l < l.length) :
    ∃ c, l[runLen p l]? = some c ∧ p c = false := by
  induction l with
  | nil => simp at h
  | cons c cs ih =>
    simp only [runLen] at h ⊢
    split
    · rename_i hc
      simp only [hc, if_true] at h
      simpa using ih (by simpa using h)
    · rename_i hc
      exact ⟨c, by simp, by simpa using hc⟩

theorem runLen_append (p : UInt8 → Bool) (l r : Bytes) :
    runLen p (l ++ r) = if runLen p l = l.length then l.length + runLen p r else runLen p l := by
  induction l with
  | nil => simp [runLen]
  | cons c cs ih =>
    simp only [List.cons_append, runLen]
    by_cases hc : p c = true
    · simp only [hc, if_true, List.length_cons, ih]
      split <;> split <;> omega
    · simp [hc]

theorem runLen_eq_length_iff (p : UInt8 → Bool) (l : Bytes) :
    runLen p l = l.length ↔ ∀ c ∈ l, p c = true := by
  induction l with
  | nil => simp [runLen]
  | cons c cs ih =>
    simp only [runLen, List.length_cons, List.mem_cons, forall_eq_or_imp]
    by_cases hc : p c = true
    · simp [hc, ih]
    · simp [hc]

theorem runLen_take_self (p : UInt8 → Bool) (l : Bytes) :
    runLen p (l.take (runLen p l)) = runLen p l := by
  induction l with
  | nil => simp [runLen]
  | cons c cs ih =>
    simp only [runLen]
    by_cases hc : p c = true
    · simp [hc, runLen, ih]
    · simp [hc, runLen]

/-- `memnewline` only looks at the part of its argument up to and including the first LF -/
theorem memnewline_append_found (m r : Bytes) (h : runLen notLF m < m.length) :
    memnewline (m ++ r) = memnewline m := by
  have hl := runLen_le notLF m
  have e : runLen notLF (m ++ r) = runLen notLF m := by
    rw [runLen_append]; split <;> omega
  simp only [memnewline, e, List.length_append]
  have h1 : ¬ runLen notLF m = m.length + r.length := by omega
  have h2 : ¬ runLen notLF m = m.length := by omega
  simp only [h1, h2, if_false]
  have e2 : (m ++ r)[runLen notLF m - 1]? = m[runLen notLF m - 1]? := by
    rw [List.getElem?_append]; split
    · rfl
    · omega
  rw [e2]

theorem memnewline_nolf (m : Bytes) (h : runLen notLF m = m.length) : memnewline m = (m.length, 0) := by
  simp [memnewline, h]

theorem memnewline_snd_eq_zero_iff (m : Bytes) : (memnewline m).2 = 0 ↔ runLen notLF m = m.length := by
  simp only [memnewline]
  split
  · simp [*]
  · split <;> simp [*]

theorem memnewline_bound (m : Bytes) : (memnewline m).1 + (memnewline m).2 ≤ m.length := by
  have hl := runLen_le notLF m
  simp only [memnewline]
  split
  · simp
  · split
    · rename_i h1 h2; simp only []; omega
    · simp only []; omega

/-- splitting off an LF-free prefix `p` (the part already scanned by `buffer_countline`) -/
theorem memnewline_split (p m : Bytes) (hp : runLen notLF p = p.length) (hlf : runLen notLF m < m.length)
    (hcr : runLen notLF m = 0 → p.getLast? ≠ some CR) :
    memnewline (p ++ m) = (p.length + (memnewline m).1, (memnewline m).2) := by
  have hl := runLen_le notLF m
  have e : runLen notLF (p ++ m) = p.length + runLen notLF m := by
    rw [runLen_append]; simp [hp]
  simp only [memnewline, e, List.length_append]
  have h1 : ¬ p.length + runLen notLF m = p.length + m.length := by omega
  have h2 : ¬ runLen notLF m = m.length := by omega
  simp only [h1, h2, if_false]
  by_cases hi : runLen notLF m = 0
  · -- LF is the first byte of `m`
    have hcr' := hcr hi
    simp only [hi, Nat.add_zero, Nat.lt_irrefl, false_and, if_false]
    have : ¬ (0 < p.length ∧ (p ++ m)[p.length - 1]? = some CR) := by
      rintro ⟨hpos, hget⟩
      apply hcr'
      rw [List.getElem?_append] at hget
      have : p.length - 1 < p.length := by omega
      simp only [this, if_true] at hget
      rw [List.getLast?_eq_getElem?]; exact hget
    simp [this]
  · have e2 : (p ++ m)[p.length + runLen notLF m - 1]? = m[runLen notLF m - 1]? := by
      rw [List.getElem?_append]
      have : ¬ p.length + runLen notLF m - 1 < p.length := by omega
      simp only [this, if_false]
      congr 1; omega
    rw [e2]
    have hpos : 0 < p.length + runLen notLF m := by omega
    have hpos' : 0 < runLen notLF m := by omega
    simp only [hpos, hpos', true_and]
    split
    · simp only []; congr 1; omega
    · rfl

theorem runLen_take (p : UInt8 → Bool) (l : Bytes) (k : Nat) (hk : k ≤ runLen p l) : runLen p (l.take k) = k := by
  induction l generalizing k with
  | nil => simp [runLen] at hk; simp [hk, runLen]
  | cons c cs ih =>
    cases k with
    | zero => simp [runLen]
    | succ j =>
      simp only [runLen] at hk
      by_cases hc : p c = true
      · simp only [hc, if_true] at hk
        simp [List.take_succ_cons, runLen, hc, ih j (by omega)]
      · simp [hc] at hk

theorem runLen_drop (p : UInt8 → Bool) (l : Bytes) (k : Nat) (hk : k ≤ runLen p l) :
    runLen p (l.drop k) = runLen p l - k := by
  induction l generalizing k with
  | nil => simp [runLen]
  | cons c cs ih =>
    cases k with
    | zero => simp
    | succ j =>
      simp only [runLen] at hk ⊢
      by_cases hc : p c = true
      · simp only [hc, if_true] at hk ⊢
        simp only [List.drop_succ_cons]
        rw [ih j (by omega)]; omega
      · simp [hc] at hk

/-- `memnewline` of a string whose first `k` bytes are known to be LF-free, from the scan of the rest -/
theorem memnewline_drop (w : Bytes) (k : Nat) (hk : k ≤ runLen notLF w) (hlf : runLen notLF w < w.length)
    (hcr : runLen notLF w = k → k = 0 ∨ w[k-1]? ≠ some CR) :
    memnewline w = (k + (memnewline (w.drop k)).1, (memnewline (w.drop k)).2) := by
  have hl := runLen_le notLF w
  have hkl : k ≤ w.length := by omega
  have hw : w = w.take k ++ w.drop k := (List.take_append_drop k w).symm
  have hlen : (w.take k).length = k := by simp [List.length_take]; omega
  have hd := runLen_drop notLF w k hk
  have := memnewline_split (w.take k) (w.drop k) (by rw [runLen_take _ _ _ hk, hlen])
    (by rw [hd, List.length_drop]; omega)
    (by
      intro h0
      have hk' : runLen notLF w = k := by omega
      rcases Nat.eq_zero_or_pos k with h2 | h2
      · subst h2; simp
      · rcases hcr hk' with h1 | h1
        · omega
        · rw [List.getLast?_eq_getElem?, hlen, List.getElem?_take]
          have : k - 1 < k := by omega
          simp only [this, if_true]; exact h1)
  rw [← hw, hlen] at this
  exact this

end EaselModel.Buffer
