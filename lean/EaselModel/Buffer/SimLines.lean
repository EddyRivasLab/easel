import EaselModel.Buffer.SimBasic
/-! Simulation of the line operations and the binary read. -/
namespace EaselModel.Buffer

theorem fetchLine_p (b : Buf) (asStr : Bool) : (fetchLine b asStr).1.p = none := by
  unfold fetchLine
  dsimp only
  split
  · split
    · split
      · rfl
      · split <;> rfl
    · rfl
  · rfl

theorem read_p (b : Buf) (k : Nat) : (read b k).1.p = none := by
  unfold read
  split
  · rfl
  · split
    · split
      · rfl
      · dsimp only
        split <;> rfl
    · rfl

theorem setOffset_p (b : Buf) (o : Nat) : (setOffset b o).1.p = none := by
  unfold setOffset
  split
  · split <;> rfl
  · split <;> rfl
  · split <;> rfl
  · split
    · rfl
    · split
      · dsimp only
        split
        · rfl
        · split <;> rfl
      · split
        · rfl
        · split
          · dsimp only
            split <;> rfl
          · rfl

theorem set_p (b : Buf) (p : Option Nat) (k : Nat) : (set b p k).1.p = none := by
  unfold set
  rfl

theorem fetchToken_p (b : Buf) (sep : Bytes) (asStr : Bool) : (fetchToken b sep asStr).1.p = none := by
  unfold fetchToken
  split
  · split
    · dsimp only
      split
      · split
        · split
          · rfl
          · split
            · rfl
            · split <;> rfl
        · rfl
      · rfl
    · rfl
  · rfl

theorem getLine_p (b : Buf) (h : WF b) :
    ((getLine b).1.st = .ok → ∃ i, (getLine b).1.p = some i ∧ (getLine b).2.base + i = b.base + b.pos) ∧
    ((getLine b).1.st ≠ .ok → (getLine b).1.p = none) := by
  obtain ⟨b1, _, _, s2, hrun⟩ := getLine_run b h
  obtain ⟨_, _, e⟩ | ⟨_, b2, b3, b4, nc, nskip, st3, run⟩ := hrun
  · rw [e]
    exact ⟨(fun hh => by cases hh), (fun _ => rfl)⟩
  · rw [run.out]
    refine ⟨fun _ => ⟨b4.pos, rfl, ?_⟩, fun hh => absurd rfl hh⟩
    show b4.base + b4.pos = b.base + b.pos
    rw [((run.fr12.trans run.post.frame).trans run.ao34.frame).off]
    exact s2.frame.off

theorem specGetLine_cur (a : Abs) :
    a.cur ≤ (specGetLine a).2.2.cur ∧ (specGetLine a).2.2.src = a.src := by
  by_cases hs : a.suffix = []
  · rw [specGetLine_eof a hs]; exact ⟨Nat.le_refl _, rfl⟩
  · rw [specGetLine_ok a hs]
    exact ⟨Nat.le_add_right _ _, rfl⟩

theorem specRead_cur (a : Abs) (k : Nat) :
    a.cur ≤ (specRead a k).2.2.cur ∧ (specRead a k).2.2.src = a.src := by
  unfold specRead
  split
  · exact ⟨Nat.le_refl _, rfl⟩
  · exact ⟨Nat.le_add_right _ _, rfl⟩

/-- common part of the simulation of an operation that refines a specification function `f` on `Abs` and whose effect on
    the anchor record is `X` / `a0` -/
theorem sim_of_refinesX {P : Nat} {a a0 : AState} {s s' : Sess} {o : Out} {spec : St × Bytes × Abs} {lp : Option Nat}
    {X : Option Nat} (r : R P a s) (wf : WF s'.b) (pg : PG s'.b) (k : KeepX X s.b s'.b) (aok : AnchOK s'.b)
    (hX : s.b.hasfp = true → X = a0.anchor) (hXn : s.b.hasfp = false → X = none)
    (h0src : a0.src = a.src) (hsub : ∀ A, a0.anchor = some A → a.anchor = some A)
    (hnan : a0.anchor ≠ none → a0.nanchor = a.nanchor)
    (e : (o.st, o.bytes, s'.b.abs) = spec)
    (hc : a.cur ≤ spec.2.2.cur ∧ spec.2.2.src = a.src)
    (hlp : s'.lastp.map (s'.b.base + ·) = lp) (hlple : ∀ p, lp = some p → a.cur ≤ p ∧ p ≤ spec.2.2.cur) :
    (⟨o.st, o.bytes, s'.b.base + s'.b.pos⟩ : Obs) = ⟨spec.1, spec.2.1, spec.2.2.cur⟩ ∧
    R P { a0 with cur := spec.2.2.cur, lastp := lp } s' := by
  have e1 : o.st = spec.1 := congrArg Prod.fst e
  have e2 : o.bytes = spec.2.1 := congrArg (fun x => x.2.1) e
  have e3 : s'.b.abs = spec.2.2 := congrArg (fun x => x.2.2) e
  have e4 : s'.b.base + s'.b.pos = spec.2.2.cur := by rw [← e3]; rfl
  refine ⟨by rw [e1, e2, e4], ?_⟩
  exact r.of_keepX (a' := { a0 with cur := spec.2.2.cur, lastp := lp }) wf pg k aok hX hXn h0src hsub hnan e4 hlp
    (fun p hp => (hlple p hp).2)

/-- common part of the simulation of an operation that refines a specification function `f` on `Abs` and keeps the
    anchor record -/
theorem sim_of_refines {P : Nat} {a : AState} {s s' : Sess} {o : Out} {spec : St × Bytes × Abs} {lp : Option Nat}
    (r : R P a s) (wf : WF s'.b) (pg : PG s'.b) (k : KeepA s.b s'.b) (aok : AnchOK s'.b)
    (e : (o.st, o.bytes, s'.b.abs) = spec)
    (hc : a.cur ≤ spec.2.2.cur ∧ spec.2.2.src = a.src)
    (hlp : s'.lastp.map (s'.b.base + ·) = lp) (hlple : ∀ p, lp = some p → a.cur ≤ p ∧ p ≤ spec.2.2.cur) :
    (⟨o.st, o.bytes, s'.b.base + s'.b.pos⟩ : Obs) = ⟨spec.1, spec.2.1, spec.2.2.cur⟩ ∧
    R P { a with cur := spec.2.2.cur, lastp := lp } s' :=
  sim_of_refinesX (a0 := a) r wf pg k.toKeepX aok (fun hf => (r.anch hf).1)
    (fun hf => (absAnchor_eq_none s.b).mpr (r.nfa hf)) rfl (fun _ h => h) (fun _ => rfl) e hc hlp hlple

/-- the anchor record that the bracket at offset `base + p` leaves, model and specification side -/
theorem R.brk_at {P : Nat} {a : AState} {s : Sess} (r : R P a s) (b : Buf) (hb : b.absAnchor = s.b.absAnchor)
    (hf : s.b.hasfp = true) : b.brkAnchor = (aBrk a (b.base + b.pos)).anchor := by
  have h1 := (r.anch hf).1
  rw [← hb] at h1
  cases hba : b.anchor with
  | none =>
    have ha : a.anchor = none := by rw [← h1]; simp [Buf.absAnchor, hba]
    simp only [Buf.brkAnchor, aBrk, hba, ha]
  | some x =>
    have ha : a.anchor = some (b.base + x) := by rw [← h1]; simp [Buf.absAnchor, hba]
    simp only [Buf.brkAnchor, aBrk, hba, ha]
    by_cases hle : x ≤ b.pos
    · rw [if_pos hle, if_pos (by omega)]; exact ha.symm
    · rw [if_neg hle, if_neg (by omega)]

theorem brkAnchor_nofp {b : Buf} (h : b.anchor = none) : b.brkAnchor = none := by
  unfold Buf.brkAnchor; rw [h]

theorem aBrk_nanchor (a : AState) (t : Nat) (h : (aBrk a t).anchor ≠ none) : (aBrk a t).nanchor = a.nanchor := by
  cases hA : (aBrk a t).anchor with
  | none => exact absurd hA h
  | some A => exact (aBrk_sub a t A hA).2.2

theorem sim_getLine (P : Nat) : SimStep P .getLine := by
  intro a s r _
  obtain ⟨w, e, _, pg⟩ := getLine_refines s.b r.wf (r.pg.loaded r.wf)
  rw [r.abs_eq] at e
  obtain ⟨k, ok⟩ := getLine_keepX s.b r.wf r.aok r.nfa
  obtain ⟨p1, p2⟩ := getLine_p s.b r.wf
  have hc := specGetLine_cur a.abs
  have e1 : (getLine s.b).1.st = (specGetLine a.abs).1 := congrArg Prod.fst e
  refine sim_of_refinesX (a0 := aBrk a a.cur) (s' := (s.step .getLine).2) (o := (getLine s.b).1) (spec := specGetLine a.abs)
    (lp := if (specGetLine a.abs).1 = .ok then some a.cur else none) r w pg k ok
    (fun hf => by rw [← r.cur]; exact r.brk_at s.b rfl hf) (fun hf => brkAnchor_nofp (r.nfa hf)) (aBrk_src a _)
    (fun A hA => (aBrk_sub a _ A hA).1) (aBrk_nanchor a _) e hc ?_ ?_
  · show ((getLine s.b).1.p).map ((getLine s.b).2.base + ·) = _
    by_cases hok : (specGetLine a.abs).1 = .ok
    · rw [if_pos hok]
      obtain ⟨i, hi1, hi2⟩ := p1 (by rw [e1]; exact hok)
      rw [hi1]; show some ((getLine s.b).2.base + i) = _
      rw [hi2, r.cur]
    · rw [if_neg hok, p2 (by rw [e1]; exact hok)]; rfl
  · intro p hp
    split at hp
    · cases hp; exact ⟨Nat.le_refl _, hc.1⟩
    · cases hp

theorem sim_fetchLine_gen (P : Nat) (asStr : Bool) (op : Op) (hop : op = .fetchLine ∨ op = .fetchLineStr)
    (hrun : ∀ b lp, opRun b lp op = fetchLine b asStr) : SimStep P op := by
  intro a s r _
  obtain ⟨w, e, _, pg, _⟩ := fetchLine_refines s.b asStr r.wf (r.pg.loaded r.wf)
  rw [r.abs_eq] at e
  obtain ⟨k, ok⟩ := fetchLine_keepX s.b asStr r.wf r.aok r.nfa
  have hc := specGetLine_cur a.abs
  have hb : (s.step op).2.b = (fetchLine s.b asStr).2 := by rw [step_b, hrun]
  have hl : (s.step op).2.lastp = none := by rw [step_lastp, hrun]; exact fetchLine_p s.b asStr
  have ho : (s.step op).1 = (fetchLine s.b asStr).1 := by rw [step_out, hrun]
  have hne : op ≠ .get := by rcases hop with h | h <;> rw [h] <;> intro hh <;> cases hh
  have := sim_of_refinesX (a0 := aBrk a a.cur) (s' := (s.step op).2) (o := (fetchLine s.b asStr).1) (spec := specGetLine a.abs) (lp := none)
    r (by rw [hb]; exact w) (by rw [hb]; exact pg) (by rw [hb]; exact k) (by rw [hb]; exact ok)
    (fun hf => by rw [← r.cur]; exact r.brk_at s.b rfl hf) (fun hf => brkAnchor_nofp (r.nfa hf)) (aBrk_src a _)
    (fun A hA => (aBrk_sub a _ A hA).1) (aBrk_nanchor a _) (by rw [hb]; exact e) hc
    (by rw [hl]; rfl) (fun p hp => by cases hp)
  have hspec : specStep a op = (⟨(specGetLine a.abs).1, (specGetLine a.abs).2.1, (specGetLine a.abs).2.2.cur⟩,
      { aBrk a a.cur with cur := (specGetLine a.abs).2.2.cur, lastp := none }) := by
    rcases hop with h | h <;> rw [h] <;> rfl
  rw [hspec]
  refine ⟨?_, this.2⟩
  show (⟨(s.step op).1.st, if op = .get then [] else (s.step op).1.bytes, _⟩ : Obs) = _
  rw [if_neg hne, ho]; exact this.1

theorem sim_fetchLine (P : Nat) : SimStep P .fetchLine :=
  sim_fetchLine_gen P false .fetchLine (Or.inl rfl) (fun _ _ => rfl)

theorem sim_fetchLineStr (P : Nat) : SimStep P .fetchLineStr :=
  sim_fetchLine_gen P true .fetchLineStr (Or.inr rfl) (fun _ _ => rfl)

theorem sim_read (P : Nat) (n : Nat) : SimStep P (.read n) := by
  intro a s r _
  obtain ⟨w, e, _, pg⟩ := read_refines s.b n r.wf
  rw [r.abs_eq] at e
  obtain ⟨k, ok⟩ := read_keep s.b n r.aok
  have hc := specRead_cur a.abs n
  exact sim_of_refines (s' := (s.step (.read n)).2) (o := (read s.b n).1) (spec := specRead a.abs n) (lp := none)
    r w pg k.toKeepA ok e hc (by show ((read s.b n).1.p).map _ = none; rw [read_p]; rfl) (fun p hp => by cases hp)

end EaselModel.Buffer
