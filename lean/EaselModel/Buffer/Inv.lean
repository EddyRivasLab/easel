import EaselModel.Buffer.Model
/-! # Invariants closed under the primitive steps hold along every operation

Every operation of `esl_buffer.c` is a composition of `buffer_refill`, moves of the cursor, `SetAnchor` and `RaiseAnchor`
(`SetOffset` adds two window resets, `SetStableAnchor` is a step of its own). So a predicate on `ESL_BUFFER` states that
survives these steps survives every operation, with any arguments, from any state (no well-formedness hypothesis).
`Scans P`: `P` survives refills and cursor moves, hence the scanning loops, `Read` and `Set`. `Brackets Φ Ψ`: the line and token
operations set an anchor on entry and raise it before they return; `Φ` holds up to that `RaiseAnchor`, `Ψ` from there on
(`opRun_brackets`). `Closed Φ` is the case of one predicate closed under all seven steps (`closed_step`). Instances of `Brackets`:
`I true g`, `I false g` (Pinned.lean: the promise of a stable anchor) and `Q b`, `Q b` (Quiet.lean: the memory generation and
stream state of a start state `b` that is `Quiet`, i.e. has nothing left to read); of `Scans`: `Keep b` (Tokens.lean). -/
namespace EaselModel.Buffer

theorem setAnchor_nofp (b : Buf) (o : Nat) (h : b.hasfp = false) : setAnchor b o = (.ok, b) := by
  unfold setAnchor; simp [h]

theorem setAnchor_new (b : Buf) (o : Nat) (hf : b.hasfp = true) (h1 : b.base ≤ o) (h2 : o ≤ b.base + b.n)
    (hc : b.anchor = none ∨ ∃ a0, b.anchor = some a0 ∧ o - b.base < a0) :
    setAnchor b o = (.ok, { b with anchor := some (o - b.base), nanchor := 1 }) := by
  unfold setAnchor
  have g : ¬ (o < b.base ∨ o > b.base + b.n) := by omega
  simp only [hf, Bool.not_true, Bool.false_eq_true, if_false, g]
  rcases hc with hc | ⟨a0, hc, hlt⟩
  · rw [hc]
  · rw [hc]; simp only []; rw [if_pos hlt]

theorem setAnchor_same (b : Buf) (o a0 : Nat) (hf : b.hasfp = true) (h1 : b.base ≤ o) (h2 : o ≤ b.base + b.n)
    (hc : b.anchor = some a0) (he : o - b.base = a0) :
    setAnchor b o = (.ok, { b with nanchor := b.nanchor + 1 }) := by
  unfold setAnchor
  have g : ¬ (o < b.base ∨ o > b.base + b.n) := by omega
  simp only [hf, Bool.not_true, Bool.false_eq_true, if_false, g]
  rw [hc]; simp only []
  rw [if_neg (by omega), if_pos he]

theorem setAnchor_right (b : Buf) (o a0 : Nat) (hf : b.hasfp = true) (h1 : b.base ≤ o) (h2 : o ≤ b.base + b.n)
    (hc : b.anchor = some a0) (hgt : a0 < o - b.base) : setAnchor b o = (.ok, b) := by
  unfold setAnchor
  have g : ¬ (o < b.base ∨ o > b.base + b.n) := by omega
  simp only [hf, Bool.not_true, Bool.false_eq_true, if_false, g]
  rw [hc]; simp only []
  rw [if_neg (by omega), if_neg (by omega)]

/-- `SetAnchor` at an offset of the window of a stream leaves an anchor at or before that offset: the new one or the old one -/
theorem setAnchor_in (b : Buf) (o : Nat) (hf : b.hasfp = true) (h1 : b.base ≤ o) (h2 : o ≤ b.base + b.n) :
    ∃ x n, setAnchor b o = (.ok, { b with anchor := some x, nanchor := n }) ∧ x ≤ o - b.base ∧
      (x = o - b.base ∨ b.anchor = some x) := by
  cases hc : b.anchor with
  | none => exact ⟨_, _, setAnchor_new b o hf h1 h2 (Or.inl hc), Nat.le_refl _, Or.inl rfl⟩
  | some a0 =>
    rcases Nat.lt_trichotomy (o - b.base) a0 with h | h | h
    · exact ⟨_, _, setAnchor_new b o hf h1 h2 (Or.inr ⟨a0, hc, h⟩), Nat.le_refl _, Or.inl rfl⟩
    · exact ⟨a0, _, by rw [setAnchor_same b o a0 hf h1 h2 hc h, ← hc], by omega, Or.inr rfl⟩
    · exact ⟨a0, b.nanchor, by rw [setAnchor_right b o a0 hf h1 h2 hc h, ← hc], by omega, Or.inr rfl⟩

theorem setAnchor_outside (b : Buf) (o : Nat) (hf : b.hasfp = true) (h : o < b.base ∨ b.base + b.n < o) :
    setAnchor b o = (.einval, b) := by
  unfold setAnchor
  have g : (o < b.base ∨ o > b.base + b.n) := by omega
  simp only [hf, Bool.not_true, Bool.false_eq_true, if_false, g, if_true]

theorem setAnchor_shape (b : Buf) (o : Nat) :
    ∃ a n, (setAnchor b o).2 = { b with anchor := a, nanchor := n } ∧ (a = none → b.anchor = none) := by
  rcases Bool.eq_false_or_eq_true b.hasfp with hf | hf
  · by_cases h : o < b.base ∨ b.base + b.n < o
    · rw [setAnchor_outside b o hf h]; exact ⟨_, _, rfl, id⟩
    · obtain ⟨x, n, e, _⟩ := setAnchor_in b o hf (by omega) (by omega)
      rw [e]; exact ⟨_, _, rfl, fun e => nomatch e⟩
  · rw [setAnchor_nofp b o hf]; exact ⟨_, _, rfl, id⟩

theorem setStableAnchor_nofp (b : Buf) (o : Nat) (h : b.hasfp = false) : setStableAnchor b o = (.ok, b) := by
  unfold setStableAnchor; simp [h]

/-- `SetStableAnchor`: nothing without a stream, `eslEINVAL` outside the window, else `SetAnchor` and then the window rebased
    (`ndel = ESL_MIN(anchor, pos)` dropped in front, `bf->stable` set) -/
theorem setStableAnchor_cases (b : Buf) (o : Nat) :
    (b.hasfp = false ∧ setStableAnchor b o = (.ok, b)) ∨
    (b.hasfp = true ∧ (o < b.base ∨ b.base + b.n < o) ∧ setStableAnchor b o = (.einval, b)) ∨
    (b.hasfp = true ∧ ∃ b1 a1, setAnchor b o = (.ok, b1) ∧ b1.anchor = some a1 ∧ setStableAnchor b o =
      (.ok, { dropFront { b1 with anchor := some (a1 - min a1 b1.pos) } (min a1 b1.pos) with stab := true })) := by
  rcases Bool.eq_false_or_eq_true b.hasfp with hf | hf
  · by_cases h : o < b.base ∨ b.base + b.n < o
    · refine Or.inr (Or.inl ⟨hf, h, ?_⟩)
      unfold setStableAnchor
      simp only [hf, Bool.not_true, Bool.false_eq_true, if_false, setAnchor_outside b o hf h]
    · obtain ⟨x, n, e, _⟩ := setAnchor_in b o hf (by omega) (by omega)
      refine Or.inr (Or.inr ⟨hf, _, x, e, rfl, ?_⟩)
      unfold setStableAnchor
      simp only [hf, Bool.not_true, Bool.false_eq_true, if_false, e]
      by_cases hle : x ≤ b.pos
      · rw [if_pos hle, Nat.min_eq_left hle, Nat.sub_self]
      · rw [if_neg hle, Nat.min_eq_right (by omega)]
  · exact Or.inl ⟨hf, setStableAnchor_nofp b o hf⟩

theorem raiseAnchor_none (b : Buf) (o : Nat) (h : b.anchor = none) : raiseAnchor b o = b := by
  unfold raiseAnchor; simp only [h]

theorem raiseAnchor_miss (b : Buf) (o a : Nat) (h : b.anchor = some a) (hne : b.base + a ≠ o) :
    raiseAnchor b o = b := by
  unfold raiseAnchor; simp only [h]
  rw [if_neg]; omega

theorem raiseAnchor_last (b : Buf) (o a : Nat) (h : b.anchor = some a) (he : b.base + a = o)
    (hn : b.nanchor - 1 = 0) : raiseAnchor b o = { b with nanchor := 0, anchor := none, stab := false } := by
  unfold raiseAnchor; simp only [h]
  rw [if_pos (by omega), if_pos hn]

theorem raiseAnchor_more (b : Buf) (o a : Nat) (h : b.anchor = some a) (he : b.base + a = o)
    (hn : b.nanchor - 1 ≠ 0) : raiseAnchor b o = { b with nanchor := b.nanchor - 1 } := by
  unfold raiseAnchor; simp only [h]
  rw [if_pos (by omega), if_neg hn]

theorem raiseAnchor_shape (b : Buf) (o : Nat) :
    ∃ a n s, raiseAnchor b o = { b with anchor := a, nanchor := n, stab := s } ∧ (a ≠ none → a = b.anchor ∧ s = b.stab) := by
  cases hc : b.anchor with
  | none => rw [raiseAnchor_none b o hc]; exact ⟨_, _, _, rfl, fun _ => ⟨hc, rfl⟩⟩
  | some a0 =>
    by_cases he : b.base + a0 = o
    · by_cases hn : b.nanchor - 1 = 0
      · rw [raiseAnchor_last b o a0 hc he hn]; exact ⟨_, _, _, rfl, fun h => absurd rfl h⟩
      · rw [raiseAnchor_more b o a0 hc he hn]; exact ⟨_, _, _, rfl, fun _ => ⟨hc, rfl⟩⟩
    · rw [raiseAnchor_miss b o a0 hc he]; exact ⟨_, _, _, rfl, fun _ => ⟨hc, rfl⟩⟩

/-- `buffer_refill` either returns at once or runs its three stages: shift left, grow, read one page -/
theorem refill_stages (C : Buf → Prop) (b : Buf) (k : Nat) (h0 : C b)
    (hs : ∀ b1, shiftLeft b = some b1 → C (fread (grow b1) (grow b1).pagesize)) : C (refill b k).2 := by
  unfold refill
  split
  · exact h0
  · split
    · exact h0
    · split
      · exact h0
      · cases h1 : shiftLeft b with
        | none => exact h0
        | some b1 => exact hs b1 h1

/-- the shift either does nothing, or (never under `bf->stable`) drops `nd` bytes in front of the anchor: window positions, the
    anchor's among them, become `nd` less -/
theorem shiftLeft_shape {b b1 : Buf} (h : shiftLeft b = some b1) :
    b1 = b ∨ (pinned b = false ∧ ∃ a nd, b1 = dropFront { b with anchor := a } nd ∧
      a = b.anchor.map (· - nd) ∧ ∀ x, b.anchor = some x → nd ≤ x) := by
  unfold shiftLeft at h
  split at h
  · exact Or.inl (Option.some.inj h).symm
  · rename_i hp
    unfold shiftLeft0 at h
    split at h
    · refine Or.inr ⟨Bool.eq_false_iff.mpr hp, ?_⟩
      split at h
      · rename_i ha
        exact ⟨b.anchor, _, (Option.some.inj h).symm, by rw [ha]; rfl, fun x hx => by rw [ha] at hx; cases hx⟩
      · rename_i a ha
        split at h
        · refine ⟨_, _, (Option.some.inj h).symm, by rw [ha, Option.map_some, Nat.sub_self], fun x hx => ?_⟩
          rw [ha] at hx; cases hx; exact Nat.le_refl _
        · refine ⟨_, _, (Option.some.inj h).symm, by rw [ha]; rfl, fun x hx => ?_⟩
          rw [ha] at hx; cases hx; omega
    · exact Or.inl (Option.some.inj h).symm

theorem grow_shape (b : Buf) : ∃ ba g, grow b = { b with balloc := ba, memgen := g } ∧ (pinned b = true → g = b.memgen) := by
  unfold grow
  split
  · unfold growR; split
    · exact ⟨_, _, rfl, fun _ => rfl⟩
    · exact ⟨_, _, rfl, fun _ => rfl⟩
  · rename_i hp
    unfold grow0; split
    · exact ⟨_, _, rfl, fun h => absurd h hp⟩
    · exact ⟨_, _, rfl, fun _ => rfl⟩

/-- under `bf->stable` a refill neither shifts nor frees: the anchor, the memory generation, the flag and the window start stay, and
    the loaded bytes are still there at the same place -/
theorem refill_pinned (b : Buf) (nmin : Nat) (hpin : pinned b = true) :
    (refill b nmin).2.anchor = b.anchor ∧ (refill b nmin).2.memgen = b.memgen ∧ (refill b nmin).2.stab = b.stab ∧
      (refill b nmin).2.base = b.base ∧ b.mem <+: (refill b nmin).2.mem := by
  refine refill_stages (fun b' => b'.anchor = b.anchor ∧ b'.memgen = b.memgen ∧ b'.stab = b.stab ∧ b'.base = b.base ∧ b.mem <+: b'.mem)
    b nmin ⟨rfl, rfl, rfl, rfl, List.prefix_refl _⟩ (fun b1 h1 => ?_)
  obtain rfl | ⟨hnp, _⟩ := shiftLeft_shape h1
  · obtain ⟨ba, g, eg, hg⟩ := grow_shape b1
    rw [eg]
    exact ⟨rfl, hg hpin, rfl, rfl, List.prefix_append _ _⟩
  · rw [hpin] at hnp; cases hnp

def AnchorOnly (b b' : Buf) : Prop := ∃ a n t, b' = { b with anchor := a, nanchor := n, stab := t }

theorem setAnchor_anchorOnly (b : Buf) (o : Nat) : AnchorOnly b (setAnchor b o).2 :=
  let ⟨a, n, e, _⟩ := setAnchor_shape b o
  ⟨a, n, b.stab, e⟩

theorem raiseAnchor_anchorOnly (b : Buf) (o : Nat) : AnchorOnly b (raiseAnchor b o) :=
  let ⟨a, n, t, e, _⟩ := raiseAnchor_shape b o
  ⟨a, n, t, e⟩

/-- `P` survives `buffer_refill` and a move of the cursor: all that the scanning loops, `Read` and `Set` do to the state -/
structure Scans (P : Buf → Prop) : Prop where
  refill : ∀ b k, P b → P (refill b k).2
  pos : ∀ b p, P b → P { b with pos := p }

/-- The line and token operations set an anchor on entry and raise it before they return: `Φ` is what holds up to that
    `RaiseAnchor`, `Ψ` what holds from there on (for most invariants the two are the same predicate). -/
structure Brackets (Φ Ψ : Buf → Prop) : Prop where
  pre : Scans Φ
  post : Scans Ψ
  setA : ∀ b o, Φ b → Φ (setAnchor b o).2
  raise : ∀ b o, Φ b → Ψ (raiseAnchor b o)
  /-- for the error exits that return before any `RaiseAnchor` -/
  weaken : ∀ b, Φ b → Ψ b

section loops
variable {P : Buf → Prop} (hP : Scans P)
include hP

theorem countlineLoop_scans (fuel : Nat) : ∀ (b : Buf) (nc : Nat), P b → P (countlineLoop fuel b nc).2.1 := by
  induction fuel with
  | zero => intro b nc h; exact h
  | succ fuel ih =>
    intro b nc h
    rw [countlineLoop]
    split
    · exact h
    · split
      · exact h
      · dsimp only
        split
        · exact h
        · have hr := fun k => hP.refill b k h
          split
          · exact hr _
          · split
            · exact ih _ _ (hr _)
            · exact hr _

theorem countline_scans (b : Buf) (h : P b) : P (countline b).2.1 := by
  unfold countline
  split
  · exact h
  · split
    · exact h
    · have hl := countlineLoop_scans hP (b.rest.length + 2) b 0 h
      generalize countlineLoop (b.rest.length + 2) b 0 = r at hl ⊢
      obtain ⟨st, b', nc, nterm⟩ := r
      dsimp only
      split
      · exact hl
      · split <;> exact hl

theorem skipsepLoop_scans (sep : Bytes) (fuel : Nat) : ∀ (b : Buf), P b → P (skipsepLoop sep fuel b).2 := by
  induction fuel with
  | zero => intro b h; exact h
  | succ fuel ih =>
    intro b h
    rw [skipsepLoop]
    split
    · exact h
    · dsimp only
      have h1 := hP.pos b (b.pos + runLen (isSep sep) (b.mem.drop b.pos)) h
      split
      · exact h1
      · have h2 := hP.refill _ 0 h1
        split
        · exact h2
        · split
          · exact ih _ h2
          · exact h2

theorem skipsep_scans (b : Buf) (sep : Bytes) (h : P b) : P (skipsep b sep).2 :=
  skipsepLoop_scans hP sep _ b h

theorem newline_scans (b : Buf) (h : P b) : P (newline b).2 := by
  unfold newline
  split
  · exact h
  · split
    · exact h
    · extract_lets r0 b0 nl r2
      have h0 : P r0.2 := by
        unfold r0
        split
        · exact hP.refill b 1 h
        · exact h
      have h2 : P r2.2 := hP.refill _ 0 (hP.pos b0 _ h0)
      split
      · exact h0
      · split <;> exact h2

theorem counttokLoop_scans (sep : Bytes) (fuel : Nat) :
    ∀ (b : Buf) (nc : Nat), P b → P (counttokLoop sep fuel b nc).2.1 := by
  induction fuel with
  | zero => intro b nc h; exact h
  | succ fuel ih =>
    intro b nc h
    rw [counttokLoop]
    split
    · exact h
    · dsimp only
      split
      · exact h
      · have hr := fun k => hP.refill b k h
        split
        · exact hr _
        · split
          · exact ih _ _ (hr _)
          · exact hr _

theorem counttok_scans (b : Buf) (sep : Bytes) (h : P b) : P (counttok b sep).2.1 := by
  unfold counttok
  split
  · exact h
  · have hl := counttokLoop_scans hP sep (b.rest.length + 2) b 1 h
    generalize counttokLoop sep (b.rest.length + 2) b 1 = r at hl ⊢
    split
    · split <;> exact hl
    · exact hl

theorem readLoop_scans (k : Nat) (fuel : Nat) : ∀ (b : Buf), P b → P (readLoop k fuel b).2 := by
  induction fuel with
  | zero => intro b h; exact h
  | succ fuel ih =>
    intro b h
    rw [readLoop]
    split
    · have hr := hP.refill b k h
      dsimp only
      split
      · exact hr
      · split
        · exact hr
        · split
          · exact hr
          · exact ih _ hr
    · exact h

theorem ffwdLoop_scans (o : Nat) (fuel : Nat) : ∀ (b : Buf), P b → P (ffwdLoop o fuel b).2 := by
  induction fuel with
  | zero => intro b h; exact h
  | succ fuel ih =>
    intro b h
    rw [ffwdLoop]
    split
    · have h2 := hP.refill _ 0 (hP.pos b b.n h)
      dsimp only
      split
      · exact h2
      · split
        · exact h2
        · split
          · exact h2
          · exact ih _ h2
    · exact h

theorem read_scans (b : Buf) (k : Nat) (h : P b) : P (read b k).2 := by
  unfold read
  split
  · exact h
  · have q1 := readLoop_scans hP k (b.rest.length + 2) b h
    generalize readLoop k (b.rest.length + 2) b = r at q1 ⊢
    split
    · split
      · exact q1
      · have q2 := fun p => hP.refill _ 0 (hP.pos _ p q1)
        dsimp only
        split <;> exact q2 _
    · exact q1

theorem set_scans (b : Buf) (p : Option Nat) (k : Nat) (h : P b) : P (set b p k).2 := by
  unfold set
  cases p with
  | none => exact hP.refill b 0 h
  | some i => exact hP.refill _ 0 (hP.pos b _ h)

end loops

section operations
variable {Φ Ψ : Buf → Prop} (hB : Brackets Φ Ψ)
include hB

theorem getLine_brackets (b : Buf) (h : Φ b) : Ψ (getLine b).2 := by
  unfold getLine
  dsimp only
  have q1 := hB.setA b (b.base + b.pos) h
  generalize setAnchor b (b.base + b.pos) = r1 at q1 ⊢
  obtain ⟨st1, b1⟩ := r1
  cases st1 with
  | ok =>
    dsimp only
    have q2 := countline_scans hB.pre _ q1
    generalize countline b1 = r2 at q2 ⊢
    obtain ⟨st2, b2, nc, nskip⟩ := r2
    cases st2 with
    | ok =>
      dsimp only
      have q3 := hB.raise _ (b.base + b.pos) (hB.pre.refill _ nskip q2)
      split
      · exact q3
      · split
        · exact q3
        · split
          · exact hB.post.pos _ _ q3
          · exact q3
    | _ => exact hB.raise _ _ q2
  | _ => exact hB.weaken _ q1

theorem fetchLine_brackets (b : Buf) (asStr : Bool) (h : Φ b) : Ψ (fetchLine b asStr).2 := by
  unfold fetchLine
  dsimp only
  have q1 := hB.setA b (b.base + b.pos) h
  generalize setAnchor b (b.base + b.pos) = r1 at q1 ⊢
  obtain ⟨st1, b1⟩ := r1
  cases st1 with
  | ok =>
    dsimp only
    have q2 := countline_scans hB.pre _ q1
    generalize countline b1 = r2 at q2 ⊢
    obtain ⟨st2, b2, nc, nskip⟩ := r2
    cases st2 with
    | ok =>
      dsimp only
      split
      · exact hB.weaken _ q2
      · have q3 := hB.post.refill _ 0 (hB.raise _ (b.base + b.pos) (hB.pre.pos _ (b2.pos + nskip) q2))
        split <;> exact q3
    | _ => exact hB.raise _ _ q2
  | _ => exact hB.weaken _ q1

theorem getToken_brackets (b : Buf) (sep : Bytes) (h : Φ b) : Ψ (getToken b sep).2 := by
  unfold getToken
  have q1 := skipsep_scans hB.pre b sep h
  generalize skipsep b sep = r1 at q1 ⊢
  obtain ⟨st1, b1⟩ := r1
  cases st1 with
  | ok =>
    dsimp only
    have q2 := newline_scans hB.pre _ q1
    generalize newline b1 = r2 at q2 ⊢
    obtain ⟨st2, b2⟩ := r2
    cases st2 with
    | ok =>
      dsimp only
      have q3 := hB.setA _ (b2.base + b2.pos) q2
      generalize setAnchor b2 (b2.base + b2.pos) = r3 at q3 ⊢
      obtain ⟨st3, b3⟩ := r3
      cases st3 with
      | ok =>
        dsimp only
        have q4 := counttok_scans hB.pre _ sep q3
        generalize counttok b3 sep = r4 at q4 ⊢
        obtain ⟨st4, b4, nc⟩ := r4
        cases st4 with
        | ok =>
          dsimp only
          have q6 := skipsep_scans hB.pre _ sep (hB.pre.pos _ (b4.pos + nc) q4)
          split
          · exact hB.raise _ _ q6
          · have q7 := hB.pre.refill _ 0 q6
            split
            · exact hB.raise _ _ q7
            · split
              · exact hB.weaken _ q7
              · split
                · exact hB.weaken _ q7
                · exact hB.raise _ _ q7
        | _ => exact hB.raise _ _ q4
      | _ => exact hB.weaken _ q3
    | _ => exact hB.weaken _ q2
  | _ => exact hB.weaken _ q1

theorem fetchToken_brackets (b : Buf) (sep : Bytes) (asStr : Bool) (h : Φ b) : Ψ (fetchToken b sep asStr).2 := by
  unfold fetchToken
  have q1 := skipsep_scans hB.pre b sep h
  generalize skipsep b sep = r1 at q1 ⊢
  obtain ⟨st1, b1⟩ := r1
  cases st1 with
  | ok =>
    dsimp only
    have q2 := newline_scans hB.pre _ q1
    generalize newline b1 = r2 at q2 ⊢
    obtain ⟨st2, b2⟩ := r2
    cases st2 with
    | ok =>
      dsimp only
      have q3 := hB.setA _ (b2.base + b2.pos) q2
      generalize setAnchor b2 (b2.base + b2.pos) = r3 at q3 ⊢
      obtain ⟨st3, b3⟩ := r3
      cases st3 with
      | ok =>
        dsimp only
        have q4 := counttok_scans hB.pre _ sep q3
        generalize counttok b3 sep = r4 at q4 ⊢
        obtain ⟨st4, b4, nc⟩ := r4
        cases st4 with
        | ok =>
          dsimp only
          split
          · exact hB.weaken _ q4
          · have q6 := skipsep_scans hB.post _ sep (hB.raise _ (b2.base + b2.pos) (hB.pre.pos _ (b4.pos + nc) q4))
            split
            · exact q6
            · have q7 := hB.post.refill _ 0 q6
              split <;> exact q7
        | _ => exact hB.raise _ _ q4
      | _ => exact hB.weaken _ q3
    | _ => exact hB.weaken _ q2
  | _ => exact hB.weaken _ q1

end operations

/-- `SetOffset`: besides cursor moves and refills, the in-memory modes reset `base`, and an unanchored FILE is repositioned
    with `fseeko`, which empties the window -/
theorem setOffset_scans {P : Buf → Prop} (hP : Scans P) (b : Buf) (o : Nat) (h : P b)
    (rebase : P { b with base := 0, pos := o })
    (seek : b.mode = .file ∧ b.anchor = none →
      P { b with rest := b.src.drop o, fed := o, eof := false, base := o, mem := [], pos := 0, memgen := b.memgen + 1 }) :
    P (setOffset b o).2 := by
  unfold setOffset
  split
  · split
    · exact h
    · exact rebase
  · split
    · exact h
    · exact rebase
  · split
    · exact h
    · exact rebase
  · split
    · exact hP.pos b _ h
    · split
      · rename_i hf
        have q := hP.refill _ 0 (seek hf)
        dsimp only
        split
        · exact q
        · split <;> exact q
      · split
        · exact h
        · have q1 := ffwdLoop_scans hP o (b.rest.length + 2) b h
          generalize ffwdLoop o (b.rest.length + 2) b = r at q1 ⊢
          obtain ⟨st, b1⟩ := r
          cases st with
          | ok =>
            dsimp only
            have q3 := hP.refill _ 0 (hP.pos _ (o - b1.base) q1)
            split <;> exact q3
          | _ => exact q1

/-- every operation (`lp` is `Sess.lastp`, the pointer of the last `Get*`, read by `Set` only): `SetOffset` and
    `SetStableAnchor` are left to the invariant at hand -/
theorem opRun_brackets {Φ Ψ : Buf → Prop} (hB : Brackets Φ Ψ) (b : Buf) (lp : Option Nat) (op : Op) (h : Φ b)
    (hso : ∀ o, op = .setOffset o → Ψ (setOffset b o).2)
    (hst : ∀ o, op = .setStableAnchor o → Ψ (setStableAnchor b o).2) : Ψ (opRun b lp op).2 := by
  cases op with
  | getLine => exact getLine_brackets hB b h
  | fetchLine => exact fetchLine_brackets hB b false h
  | fetchLineStr => exact fetchLine_brackets hB b true h
  | getToken sep => exact getToken_brackets hB b sep h
  | fetchToken sep => exact fetchToken_brackets hB b sep false h
  | fetchTokenStr sep => exact fetchToken_brackets hB b sep true h
  | read k => exact hB.weaken _ (read_scans hB.pre b k h)
  | get => show Ψ (get b).2; unfold get; split <;> exact hB.weaken _ h
  | set k => exact hB.weaken _ (set_scans hB.pre b lp k h)
  | getOffset => exact hB.weaken _ h
  | setOffset o => exact hso o rfl
  | setAnchor o => exact hB.weaken _ (hB.setA b o h)
  | setStableAnchor o => exact hst o rfl
  | raiseAnchor o => exact hB.raise b o h

structure Closed (Φ : Buf → Prop) : Prop where
  refill : ∀ b k, Φ b → Φ (refill b k).2
  pos : ∀ b p, Φ b → Φ { b with pos := p }
  setA : ∀ b o, Φ b → Φ (setAnchor b o).2
  raise : ∀ b o, Φ b → Φ (raiseAnchor b o)
  rebase : ∀ b o, Φ b → Φ { b with base := 0, pos := o }
  seek : ∀ b o, Φ b → Φ { b with rest := b.src.drop o, fed := o, eof := false, base := o, mem := [], pos := 0, memgen := b.memgen + 1 }
  stable : ∀ b o, Φ b → Φ (setStableAnchor b o).2

theorem Closed.scans {Φ : Buf → Prop} (hΦ : Closed Φ) : Scans Φ := ⟨hΦ.refill, hΦ.pos⟩

theorem Closed.brackets {Φ : Buf → Prop} (hΦ : Closed Φ) : Brackets Φ Φ :=
  ⟨hΦ.scans, hΦ.scans, hΦ.setA, hΦ.raise, fun _ h => h⟩

theorem closed_step {Φ : Buf → Prop} (hΦ : Closed Φ) (b : Buf) (lp : Option Nat) (op : Op) (h : Φ b) : Φ (opRun b lp op).2 :=
  opRun_brackets hΦ.brackets b lp op h
    (fun o _ => setOffset_scans hΦ.scans b o h (hΦ.rebase b o h) (fun _ => hΦ.seek b o h))
    (fun o _ => hΦ.stable b o h)

end EaselModel.Buffer
