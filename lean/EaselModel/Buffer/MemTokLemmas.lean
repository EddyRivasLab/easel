import EaselModel.Buffer.MemLemmas
/-! `esl_memspn`, `esl_memcspn`, `esl_memtok`: the loops of `Mem.lean` against `takeWhile`/`dropWhile`. Core Lean only. -/
namespace EaselModel.Buffer.Mem
open EaselModel.Buffer

theorem runLen_eq_takeWhile (q : UInt8 → Bool) (l : Bytes) : runLen q l = (l.takeWhile q).length := by
  induction l with
  | nil => rfl
  | cons c cs ih => simp only [runLen, List.takeWhile_cons]; split <;> simp [ih]

theorem drop_runLen (q : UInt8 → Bool) (l : Bytes) : l.drop (runLen q l) = l.dropWhile q := by
  induction l with
  | nil => rfl
  | cons c cs ih => simp only [runLen, List.dropWhile_cons]; split <;> simp [ih]

theorem take_runLen (q : UInt8 → Bool) (l : Bytes) : l.take (runLen q l) = l.takeWhile q := by
  induction l with
  | nil => rfl
  | cons c cs ih => simp only [runLen, List.takeWhile_cons]; split <;> simp [ih]

theorem takeWhile_cz (s : Bytes) : (cz s).takeWhile (· != 0) = cstr s := by
  unfold cz cstr
  induction s with
  | nil => simp
  | cons c cs ih => simp only [List.cons_append, List.takeWhile_cons]; split <;> simp [ih]

theorem zero_mem_cz (s : Bytes) : (0 : UInt8) ∈ cz s := by simp [cz]

/-- `strchr` on the terminated memory scans exactly the C string -/
theorem strchrLoop_eq (m : Bytes) (c : UInt8) : ∀ (l : Bytes) (j : Nat), m.drop j = l → (0 : UInt8) ∈ l →
    strchrLoop m c j = some (c == 0 || (l.takeWhile (· != 0)).contains c) := by
  intro l
  induction l with
  | nil => intro j _ h; simp at h
  | cons d l ih =>
    intro j hj h0
    obtain ⟨hg, hd, hlt⟩ := get_of_drop hj
    rw [strchrLoop]
    simp only [hg]
    by_cases h1 : d = c
    · subst h1
      by_cases h2 : d = 0 <;> simp [h2]
    · by_cases h2 : d = 0
      · subst h2
        have : ¬ c = 0 := fun e => h1 e.symm
        simp [h1, this]
      · have h0' : (0 : UInt8) ∈ l := by
          rcases List.mem_cons.mp h0 with h | h
          · exact absurd h.symm h2
          · exact h
        simp only [h1, h2, if_false, hlt, if_true]
        rw [ih (j + 1) hd h0']
        have h1' : ¬ c = d := fun e => h1 e.symm
        simp [h2, h1']

theorem strchr_eq (set : Bytes) (c : UInt8) : strchr set c = some (inSet set c) := by
  unfold strchr
  rw [strchrLoop_eq (cz set) c (cz set) 0 (by simp) (zero_mem_cz set), takeWhile_cz]
  rfl

theorem spanLoop_eq (set : Bytes) (want : Bool) (p : Bytes) : ∀ (l : Bytes) (so : Nat), p.drop so = l →
    spanLoop set want p so = some (so + runLen (fun c => inSet set c == want) l) := by
  intro l
  induction l with
  | nil =>
    intro so h
    have : ¬ so < p.length := by
      intro hlt; rw [List.drop_eq_getElem_cons hlt] at h; cases h
    rw [spanLoop]; simp [this, runLen]
  | cons c cs ih =>
    intro so h
    obtain ⟨hg, hd, hlt⟩ := get_of_drop h
    rw [spanLoop]; simp only [hlt, if_true, hg, strchr_eq, runLen]
    by_cases hw : inSet set c = want
    · simp only [hw, if_true, beq_self_eq_true]; rw [ih (so + 1) hd]; congr 1; omega
    · simp [hw]

theorem beq_true_fun (set : Bytes) : (fun c => inSet set c == true) = inSet set := by funext c; simp
theorem beq_false_fun (set : Bytes) : (fun c => inSet set c == false) = (fun c => !inSet set c) := by funext c; simp

theorem tok_nil_iff (q : UInt8 → Bool) (l : Bytes) :
    (l.dropWhile q).takeWhile (fun c => !q c) = [] ↔ runLen q l = l.length := by
  induction l with
  | nil => simp [runLen]
  | cons c cs ih =>
    by_cases hq : q c = true
    · simp only [List.dropWhile_cons, hq, if_true, runLen, List.length_cons]; rw [ih]; omega
    · simp [hq, runLen]

theorem len_split (q : UInt8 → Bool) (l : Bytes) : l.length = (l.takeWhile q).length + (l.dropWhile q).length := by
  rw [← List.length_append, List.takeWhile_append_dropWhile]

theorem memspn_eq (p set : Bytes) : memspn p set = some (p.takeWhile (inSet set)).length := by
  unfold memspn; rw [spanLoop_eq set true p p 0 (by simp), beq_true_fun, runLen_eq_takeWhile]; simp

theorem memcspn_eq (p set : Bytes) : memcspn p set = some (p.takeWhile (fun c => !inSet set c)).length := by
  unfold memcspn; rw [spanLoop_eq set false p p 0 (by simp), beq_false_fun, runLen_eq_takeWhile]; simp

theorem memtok_eq (p delim : Bytes) : memtok p delim = some (tokSpec delim p) := by
  unfold memtok
  rw [spanLoop_eq delim true p p 0 (by simp), beq_true_fun, Nat.zero_add]
  simp only []
  rw [spanLoop_eq delim false p _ _ rfl, beq_false_fun]
  simp only []
  rw [spanLoop_eq delim true p _ _ rfl, beq_true_fun]
  simp only []
  unfold tokSpec tokSplit
  simp only []
  rw [← List.drop_drop, drop_runLen (inSet delim) p, drop_runLen (fun c => !inSet delim c)]
  have hnil := tok_nil_iff (inSet delim) p
  have L1 := len_split (inSet delim) p
  have L2 := len_split (fun c => !inSet delim c) (p.dropWhile (inSet delim))
  have L3 := len_split (inSet delim) ((p.dropWhile (inSet delim)).dropWhile (fun c => !inSet delim c))
  simp only [runLen_eq_takeWhile] at hnil ⊢
  by_cases h : (p.takeWhile (inSet delim)).length = p.length
  · rw [if_pos h, if_pos (hnil.mpr h)]
  · rw [if_neg h, if_neg (fun e => h (hnil.mp e))]
    congr 2
    · congr 2; omega
    · omega


theorem mem_takeWhile_true (q : UInt8 → Bool) (l : Bytes) : ∀ c ∈ l.takeWhile q, q c = true := by
  induction l with
  | nil => intro c h; simp at h
  | cons d ds ih =>
    intro c h
    rw [List.takeWhile_cons] at h
    split at h
    · rcases List.mem_cons.mp h with h | h
      · subst h; assumption
      · exact ih c h
    · simp at h

theorem head_dropWhile_false (q : UInt8 → Bool) (l : Bytes) (c : UInt8) (h : (l.dropWhile q).head? = some c) : q c = false := by
  have := List.head?_dropWhile_not q l
  rw [h] at this; exact this

theorem tokSplit_concat (delim p : Bytes) :
    (tokSplit delim p).skipped ++ (tokSplit delim p).tok ++ (tokSplit delim p).trail ++ (tokSplit delim p).rest = p := by
  unfold tokSplit
  simp only [List.append_assoc, List.takeWhile_append_dropWhile]

theorem tokSplit_classes (delim p : Bytes) :
    (∀ c ∈ (tokSplit delim p).skipped, inSet delim c = true) ∧
    (∀ c ∈ (tokSplit delim p).tok, inSet delim c = false) ∧
    (∀ c ∈ (tokSplit delim p).trail, inSet delim c = true) ∧
    (∀ c, ((tokSplit delim p).trail ++ (tokSplit delim p).rest).head? = some c → inSet delim c = true) ∧
    (∀ c, (tokSplit delim p).rest.head? = some c → inSet delim c = false) := by
  unfold tokSplit
  refine ⟨mem_takeWhile_true _ _, ?_, mem_takeWhile_true _ _, ?_, fun c h => head_dropWhile_false _ _ c h⟩
  · intro c h; simpa using mem_takeWhile_true _ _ c h
  · intro c h
    simp only [List.takeWhile_append_dropWhile] at h
    simpa using head_dropWhile_false _ _ c h

theorem tokSplit_tok_nil_iff (delim p : Bytes) : (tokSplit delim p).tok = [] ↔ ∀ c ∈ p, inSet delim c = true := by
  unfold tokSplit
  simp only []
  rw [tok_nil_iff, runLen_eq_length_iff]

theorem tokSplit_slices (delim p : Bytes) :
    (p.drop (tokSplit delim p).skipped.length).take (tokSplit delim p).tok.length = (tokSplit delim p).tok ∧
    p.drop ((tokSplit delim p).skipped.length + (tokSplit delim p).tok.length + (tokSplit delim p).trail.length) = (tokSplit delim p).rest := by
  have h := tokSplit_concat delim p
  generalize tokSplit delim p = S at *
  subst h
  constructor
  · simp [List.append_assoc]
  · have : S.skipped.length + S.tok.length + S.trail.length = (S.skipped ++ S.tok ++ S.trail).length := by simp; omega
    rw [this, List.drop_left]

end EaselModel.Buffer.Mem
