import EaselModel.Buffer.Inv
/-! # Pointers handed out under a stable anchor stay valid until it is raised — whole histories

For the repaired `buffer_refill` (fix 188d0b6; `pinned b` = the working tree has the repair and
`bf->stable` is set). `memgen` counts the events that invalidate a pointer into the window (memmove over a non-zero
distance, realloc/free of the block, window reset after `fseeko`).

`I true g b`  : an anchor is set, the flag is set, and `memgen = g`;
`I false g b` : the same, unless the anchor is gone (the last anchor was raised: the promise has ended).
`buffer_refill` and cursor moves map `I c g` to `I c g`; `SetAnchor` maps `I true g` to itself (not `I false g`: where no
anchor is left it sets one that nothing protects); `RaiseAnchor` maps `I c g` to `I false g`. That is `I.brackets`, an instance
of `Brackets` (Inv.lean). No well-formedness hypothesis is needed. -/
namespace EaselModel.Buffer

def I (c : Bool) (g : Nat) (b : Buf) : Prop :=
  (c = true ∨ b.anchor ≠ none) → (b.anchor ≠ none ∧ b.memgen = g ∧ pinned b = true)

theorem I.weaken {c : Bool} {g : Nat} {b : Buf} (h : I true g b) : I c g b := fun _ => h (Or.inl rfl)
/-- while an anchor is still set the conditional promise is the full one: the step from one operation of a history to the next -/
theorem I.str {c : Bool} {g : Nat} {b : Buf} (h : I c g b) (ha : b.anchor ≠ none) : I true g b := fun _ => h (Or.inr ha)

theorem I.step {c : Bool} {g : Nat} {b b' : Buf} (h : I c g b)
    (hp : pinned b = true → b'.anchor = b.anchor ∧ b'.memgen = b.memgen ∧ b'.stab = b.stab)
    (hn : b.anchor = none → b'.anchor = none) : I c g b' := by
  intro hc
  have hb : b.anchor ≠ none := by
    rcases hc with hc | hc
    · exact (h (Or.inl hc)).1
    · intro e; exact hc (hn e)
  obtain ⟨h1, h2, h3⟩ := h (Or.inr hb)
  obtain ⟨e1, e2, e3⟩ := hp h3
  refine ⟨by rw [e1]; exact h1, by rw [e2]; exact h2, ?_⟩
  unfold pinned at h3 ⊢; rw [e3]; exact h3

theorem refill_anchor_none (b : Buf) (k : Nat) (h : b.anchor = none) : (refill b k).2.anchor = none := by
  refine refill_stages (fun b' => b'.anchor = none) b k h (fun b1 h1 => ?_)
  obtain ⟨ba, g, eg, _⟩ := grow_shape b1
  rw [eg]
  obtain rfl | ⟨_, a, nd, rfl, ha, _⟩ := shiftLeft_shape h1
  · exact h
  · rw [ha, h]; rfl

theorem refill_I {c : Bool} {g : Nat} (b : Buf) (k : Nat) (h : I c g b) : I c g (refill b k).2 :=
  h.step (fun hp => have q := refill_pinned b k hp; ⟨q.1, q.2.1, q.2.2.1⟩) (refill_anchor_none b k)

theorem setpos_I {c : Bool} {g : Nat} (b : Buf) (p : Nat) (h : I c g b) : I c g { b with pos := p } :=
  h.step (fun _ => ⟨rfl, rfl, rfl⟩) (fun e => e)

theorem setAnchor_I {g : Nat} (b : Buf) (o : Nat) (h : I true g b) : I true g (setAnchor b o).2 := by
  obtain ⟨a, n, e, ha⟩ := setAnchor_shape b o
  obtain ⟨h1, h2, h3⟩ := h (Or.inl rfl)
  rw [e]
  exact fun _ => ⟨fun ea => h1 (ha ea), h2, h3⟩

theorem raiseAnchor_I {c : Bool} {g : Nat} (b : Buf) (o : Nat) (h : I c g b) : I false g (raiseAnchor b o) := by
  obtain ⟨a, n, s, e, hk⟩ := raiseAnchor_shape b o
  rw [e]
  intro hc
  have ha : a ≠ none := hc.resolve_left Bool.false_ne_true
  obtain ⟨ea, es⟩ := hk ha
  subst ea es
  obtain ⟨_, h2, h3⟩ := h (Or.inr ha)
  exact ⟨ha, h2, h3⟩

theorem I.scans (c : Bool) (g : Nat) : Scans (I c g) := ⟨refill_I, setpos_I⟩

theorem I.brackets (g : Nat) : Brackets (I true g) (I false g) where
  pre := I.scans true g
  post := I.scans false g
  setA := setAnchor_I
  raise := raiseAnchor_I
  weaken _ h := h.weaken

theorem pinned_step {g : Nat} (b : Buf) (lp : Option Nat) (op : Op) (h : I true g b) (h1 : ∀ o, op ≠ .setStableAnchor o) :
    I false g (opRun b lp op).2 :=
  -- an anchor is set, so `SetOffset` never repositions the stream with `fseeko`
  opRun_brackets (I.brackets g) b lp op h
    (fun o _ => (setOffset_scans (I.scans true g) b o h (h.step (fun _ => ⟨rfl, rfl, rfl⟩) id)
      (fun hf => absurd hf.2 (h (Or.inl rfl)).1)).weaken)
    (fun o ho => absurd ho (h1 o))

def runS : Sess → List Op → Sess
  | s, [] => s
  | s, op :: ops => runS (s.step op).2 ops

/-- "the anchor has not been raised yet": after every operation of the history an anchor is still set -/
def Anchored : Sess → List Op → Prop
  | _, [] => True
  | s, op :: ops => (s.step op).2.b.anchor ≠ none ∧ Anchored (s.step op).2 ops

theorem pinned_history {g : Nat} : ∀ (ops : List Op) (s : Sess), I true g s.b →
    (∀ op ∈ ops, ∀ o, op ≠ .setStableAnchor o) → Anchored s ops → I true g (runS s ops).b := by
  intro ops
  induction ops with
  | nil => intro s h _ _; exact h
  | cons op ops ih =>
    intro s h hno ha
    have h1 : I false g (s.step op).2.b := pinned_step s.b s.lastp op h (hno op (List.mem_cons_self ..))
    exact ih (s.step op).2 (h1.str ha.1) (fun op' hm => hno op' (List.mem_cons_of_mem _ hm)) ha.2

theorem setStableAnchor_I (b : Buf) (o : Nat) (hr : BufConsts.stableRetire = true) (hf : b.hasfp = true)
    (hok : (setStableAnchor b o).1 = .ok) : I true (setStableAnchor b o).2.memgen (setStableAnchor b o).2 := by
  intro _
  rcases setStableAnchor_cases b o with ⟨hf', _⟩ | ⟨_, _, e⟩ | ⟨_, b1, a1, _, _, e⟩
  · rw [hf] at hf'; cases hf'
  · rw [e] at hok; cases hok
  · rw [e]; exact ⟨by simp [dropFront], rfl, by simp [pinned, hr]⟩

end EaselModel.Buffer
