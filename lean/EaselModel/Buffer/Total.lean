import EaselModel.Buffer.History
import EaselModel.Buffer.Safe
/-! # Histories OUTSIDE the API contract: what `esl_buffer.c` does with them, totally

`history_spec` needs `ValidHist` (the API contract). Here the contract is discharged: for every operation from every
state reached so far, the model of the code either simulates the specification step, or answers the documented
`eslEINVAL` and leaves a state that is described exactly (`Total`). What is still asked of the caller is `CallerOk`:
one clause (`Set(p, nused)` stays within the bytes the preceding `Get*` exposed — undefined by the documentation, unchecked
by the code; violating it leaves the cursor outside the window and later calls read out of bounds: `unsafe_set_beyond_window`
in `Props/C05.lean`; the real code dies under ASan on the same history). Anchors ahead of the cursor and in-window rewinds
to before the anchor are inside the theorem (the code copes with them since b86a62d). -/
namespace EaselModel.Buffer

/-- **What one operation may do, contract or not** (`a` = specification state before, then the observation and the
    specification state after):
* `sim`: the specification step;
* `whole_input`: the specification step, the anchor record forgotten (whole-input modes: anchors are documented no-ops);
* `rewind_refused`: `SetOffset` to an offset behind the cursor that no anchor protects and that has left the window:
  `eslEINVAL`, nothing changes;
* `beyond_end`: `SetOffset` beyond the end of a stream: `eslEINVAL`, the stream has been read to its end and the cursor
  stands there;
* `beyond_end_seek`: `SetOffset` at/after the end of an unanchored FILE (`fseeko` branch): `eslEINVAL`, the cursor stands
  at the requested offset, nothing is loaded (every read answers `eslEOF`);
* `beyond_end_whole`: `SetOffset` beyond the end of a whole-input buffer: `eslEINVAL`, nothing changes (since 4515997);
* `anchor_outside` / `stable_anchor_outside`: anchor requested outside the window: `eslEINVAL`, nothing changes.
Every error alternative carries a guard that contradicts the contract `Valid`: inside the contract only `sim` happens
(`step_simulates`). -/
inductive Total (a : AState) : Op → Obs → AState → Prop
  | sim (op : Op) : Total a op (specStep a op).1 (specStep a op).2
  | whole_input (op : Op) : Total a op (specStep a op).1 { (specStep a op).2 with anchor := none, nanchor := 0 }
  | rewind_refused (o : Nat) (h1 : o < a.cur) (h2 : ∀ A, a.anchor = some A → o < A) :
      Total a (.setOffset o) ⟨.einval, [], a.cur⟩ { a with lastp := none }
  | beyond_end (o : Nat) (h1 : a.src.length < o) (h2 : a.cur ≤ o) :
      Total a (.setOffset o) ⟨.einval, [], max a.cur a.src.length⟩ { a with cur := max a.cur a.src.length, lastp := none }
  | beyond_end_seek (o : Nat) (h1 : a.src.length ≤ o) (h2 : a.anchor = none) :
      Total a (.setOffset o) ⟨.einval, [], o⟩ { a with cur := o, lastp := none }
  | beyond_end_whole (o : Nat) (h1 : a.src.length < o) :
      Total a (.setOffset o) ⟨.einval, [], a.cur⟩ { a with lastp := none }
  | anchor_outside (o : Nat) (h : a.cur < o ∨ (o < a.cur ∧ ∀ A, a.anchor = some A → o < A)) :
      Total a (.setAnchor o) ⟨.einval, [], a.cur⟩ { a with lastp := none }
  | stable_anchor_outside (o : Nat) (h : a.cur < o ∨ (o < a.cur ∧ ∀ A, a.anchor = some A → o < A)) :
      Total a (.setStableAnchor o) ⟨.einval, [], a.cur⟩ { a with lastp := none }

theorem Total.st {a a' : AState} {op : Op} {o : Obs} (h : Total a op o a') :
    o.st = .ok ∨ o.st = .eof ∨ o.st = .eol ∨ o.st = .einval := by
  cases h with
  | sim | whole_input =>
    rcases specStep_st a op with h | h | h
    · exact Or.inl h
    · exact Or.inr (Or.inl h)
    · exact Or.inr (Or.inr (Or.inl h))
  | rewind_refused | beyond_end | beyond_end_seek | beyond_end_whole | anchor_outside | stable_anchor_outside =>
    exact Or.inr (Or.inr (Or.inr rfl))

theorem Total.error_outside {P : Nat} {a a' : AState} {op : Op} {o : Obs} (h : Total a op o a') (he : o.st = .einval) :
    ¬ Valid P a op := by
  cases h with
  | sim | whole_input => rcases specStep_st a op with h | h | h <;> rw [h] at he <;> cases he
  | rewind_refused o h1 h2 =>
    rintro ⟨_, h | ⟨A, hA, hle⟩⟩
    · omega
    · have := h2 A hA; omega
  | beyond_end o h1 h2 | beyond_end_whole o h1 =>
    rintro ⟨h | ⟨h, _⟩, _⟩ <;> omega
  | beyond_end_seek o h1 h2 =>
    rintro ⟨h | ⟨_, h⟩, _⟩
    · omega
    · exact h h2
  | anchor_outside o h | stable_anchor_outside o h =>
    rintro ⟨h1, h2⟩
    rcases h with h | ⟨h, h3⟩
    · omega
    · rcases h2 with h2 | ⟨A, hA, hle⟩
      · omega
      · have := h3 A hA; omega

/-- the step of `op` from `s` is one of the outcomes `Total a op` lists, and `R` holds again -/
def TStep (P : Nat) (a : AState) (s : Sess) (op : Op) : Prop :=
  ∃ a', Total a op (obsOf op (s.step op).1 (s.step op).2) a' ∧ R P a' (s.step op).2

theorem TStep.of_sim {P : Nat} {a : AState} {s : Sess} {op : Op}
    (h : obsOf op (s.step op).1 (s.step op).2 = (specStep a op).1 ∧ R P (specStep a op).2 (s.step op).2) : TStep P a s op :=
  ⟨_, by rw [h.1]; exact Total.sim op, h.2⟩

theorem total_set (P k : Nat) (a : AState) (s : Sess) (r : R P a s) (hs : CallerOk s (.set k)) : TStep P a s (.set k) :=
  TStep.of_sim (sim_set_callerOk P k a s r hs)

/-- the whole-input modes: `R` does not look at the anchor record of the specification state -/
theorem R.forget_anchor {P : Nat} {a : AState} {s : Sess} (r : R P a s) (hf : s.b.hasfp = false) :
    R P { a with anchor := none, nanchor := 0 } s :=
  ⟨r.wf, r.pg, r.aok, r.nfa, r.src, r.cur, r.ps, r.modefp, r.base0, (fun h => by rw [hf] at h; cases h),
   (fun A hA => by cases hA), r.lastp, r.lastp_le⟩

theorem setStableAnchor_outside (b : Buf) (o : Nat) (hf : b.hasfp = true) (h : o < b.base ∨ b.base + b.n < o) :
    setStableAnchor b o = (.einval, b) := by
  unfold setStableAnchor
  simp only [hf, Bool.not_true, Bool.false_eq_true, if_false, setAnchor_outside b o hf h]

/-- `SetAnchor` and `SetStableAnchor` (`op`, acting on the buffer as `run`), contract or not: a documented no-op without a
    stream; `eslEINVAL` and nothing changed for an offset outside the window; the specification step otherwise. -/
theorem total_anchorOp (P o : Nat) (op : Op) (run : Buf → St × Buf) (a : AState) (s : Sess) (r : R P a s)
    (hobs : obsOf op (s.step op).1 (s.step op).2 = ⟨(run s.b).1, [], (run s.b).2.base + (run s.b).2.pos⟩)
    (hb : (s.step op).2.b = (run s.b).2) (hl : (s.step op).2.lastp = none)
    (hspec : specStep a op = (⟨.ok, [], a.cur⟩, { aSetAnchor a o with lastp := none }))
    (hnofp : s.b.hasfp = false → run s.b = (.ok, s.b))
    (hout : s.b.hasfp = true → o < s.b.base ∨ s.b.base + s.b.n < o → run s.b = (.einval, s.b))
    (hT : (a.cur < o ∨ (o < a.cur ∧ ∀ A, a.anchor = some A → o < A)) → Total a op ⟨.einval, [], a.cur⟩ { a with lastp := none })
    (hsim : (s.b.hasfp = true → o ≤ s.b.base + s.b.n) → (s.b.hasfp = true → s.b.base ≤ o) →
      obsOf op (s.step op).1 (s.step op).2 = (specStep a op).1 ∧ R P (specStep a op).2 (s.step op).2) :
    TStep P a s op := by
  cases hf : s.b.hasfp with
  | false =>
    -- documented no-op
    have e := hnofp hf
    refine ⟨{ (specStep a op).2 with anchor := none, nanchor := 0 }, ?_, ?_⟩
    · have : obsOf op (s.step op).1 (s.step op).2 = (specStep a op).1 := by rw [hobs, hspec, e, r.cur]
      rw [this]; exact Total.whole_input _
    · have r1 : R P { a with lastp := none } (s.step op).2 := r.unchanged (by rw [hb, e]) hl
      have r2 := r1.forget_anchor (by rw [hb, e]; exact hf)
      have hsp : ({ (specStep a op).2 with anchor := none, nanchor := 0 } : AState) =
          { ({ a with lastp := none } : AState) with anchor := none, nanchor := 0 } := by
        rw [hspec]
        show ({ ({ aSetAnchor a o with lastp := none } : AState) with anchor := none, nanchor := 0 } : AState) = _
        unfold aSetAnchor
        cases a.anchor with
        | none => rfl
        | some A => simp only []; split <;> first | rfl | (split <;> rfl)
      rw [hsp]; exact r2
  | true =>
    have hp := r.wf.hpos
    by_cases hw : o < s.b.base ∨ s.b.base + s.b.n < o
    · have e := hout hf hw
      obtain ⟨r1, _⟩ := r.anch hf
      refine ⟨{ a with lastp := none }, ?_, r.unchanged (by rw [hb, e]) hl⟩
      rw [hobs, e, r.cur]
      refine hT ?_
      rcases hw with h | h
      · right
        refine ⟨by rw [← r.cur]; omega, fun A hA => ?_⟩
        obtain ⟨a0, _, hb⟩ := absAnchor_some (by rw [r1]; exact hA : s.b.absAnchor = some A)
        omega
      · left; rw [← r.cur]; omega
    · exact TStep.of_sim (hsim (fun _ => by omega) (fun _ => by omega))

theorem total_setAnchor (P o : Nat) (a : AState) (s : Sess) (r : R P a s) (hs : CallerOk s (.setAnchor o)) :
    TStep P a s (.setAnchor o) :=
  total_anchorOp P o (.setAnchor o) (setAnchor · o) a s r rfl rfl rfl rfl (setAnchor_nofp s.b o)
    (setAnchor_outside s.b o) (Total.anchor_outside o) (sim_setAnchor' P o a s r)

theorem total_setStableAnchor (P o : Nat) (a : AState) (s : Sess) (r : R P a s) (hs : CallerOk s (.setStableAnchor o)) :
    TStep P a s (.setStableAnchor o) :=
  total_anchorOp P o (.setStableAnchor o) (setStableAnchor · o) a s r rfl rfl rfl rfl
    (setStableAnchor_nofp s.b o) (setStableAnchor_outside s.b o) (Total.stable_anchor_outside o)
    (sim_setStableAnchor' P o a s r)

theorem total_setOffset (P o : Nat) (a : AState) (s : Sess) (r : R P a s) : TStep P a s (.setOffset o) := by
  obtain ⟨_, h⟩ | ⟨_, h1, h, hr⟩ | ⟨_, _, hn, h1, h, hr⟩ | ⟨_, h1, h2, h, hr⟩ | ⟨_, _, h1, h2, h, hr⟩ := setOffset_run P o a s r
  · exact TStep.of_sim h
  · exact ⟨_, by rw [h]; exact Total.beyond_end_whole o h1, hr⟩
  · exact ⟨_, by rw [h]; exact Total.beyond_end_seek o h1 hn, hr⟩
  · exact ⟨_, by rw [h]; exact Total.rewind_refused o h1 h2, hr⟩
  · exact ⟨_, by rw [h]; exact Total.beyond_end o h1 h2, hr⟩

theorem step_beyond_end_deterministic (P o : Nat) (a : AState) (s : Sess) (r : R P a s) (hm : ¬ memMode s.b.mode)
    (hnf : ¬ (s.b.mode = .file ∧ s.b.anchor = none)) (hlen : a.src.length < o) (hcur : a.cur < o) :
    obsOf (.setOffset o) (s.step (.setOffset o)).1 (s.step (.setOffset o)).2 = ⟨.einval, [], max a.cur a.src.length⟩ ∧
    R P { a with cur := max a.cur a.src.length, lastp := none } (s.step (.setOffset o)).2 := by
  obtain ⟨h, _⟩ | ⟨h, _⟩ | ⟨_, h, _⟩ | ⟨_, h, _⟩ | ⟨_, _, _, _, h⟩ := setOffset_run P o a s r
  · omega
  · exact absurd h hm
  · exact absurd h hnf
  · omega
  · exact h

end EaselModel.Buffer
