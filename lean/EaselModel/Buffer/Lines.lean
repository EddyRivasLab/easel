import EaselModel.Buffer.Refill
import EaselModel.Buffer.Inv
/-! `buffer_countline` computes `esl_memnewline` of the whole rest of the input, whatever the page size. -/
namespace EaselModel.Buffer

/-- the loaded bytes after the cursor -/
@[reducible] def Buf.win (b : Buf) : Bytes := b.mem.drop b.pos

theorem win_length (b : Buf) : b.win.length = b.n - b.pos := by simp [Buf.win, Buf.n]

theorem WF.suffix_win {b : Buf} (h : WF b) : b.src.drop (b.base + b.pos) = b.win ++ b.rest := h.suffix

theorem suffix_nil_of {b : Buf} (h : WF b) (h1 : b.pos = b.n) (h2 : b.rest = []) : b.abs.suffix = [] := by
  show b.src.drop (b.base + b.pos) = []
  rw [h.suffix_win, h2]
  have : b.win = [] := by apply List.eq_nil_of_length_eq_zero; rw [win_length]; omega
  rw [this]; rfl

theorem suffix_ne_nil {b : Buf} (h : WF b) (hlt : b.pos < b.n) : b.abs.suffix ≠ [] := by
  show b.src.drop (b.base + b.pos) ≠ []
  rw [h.suffix_win]
  intro hh
  have := congrArg List.length hh
  simp only [List.length_append, win_length, List.length_nil] at this
  omega

theorem WF.setPos {b : Buf} (h : WF b) {p : Nat} (hp : p ≤ b.n) : WF { b with pos := p } :=
  ⟨h.hwin, hp, h.hanch, h.hps, h.heof, h.hnofp⟩

theorem advance_wf {b : Buf} (h : WF b) (k : Nat) (hk : b.pos + k ≤ b.n) : WF { b with pos := b.pos + k } := h.setPos hk

/-- steps that keep the frame only append to the loaded bytes after the cursor, taking them from the stream -/
theorem window_extend {b b' : Buf} (h : WF b) (h' : WF b') (fr : Frame b b') :
    ∃ x, b'.win = b.win ++ x ∧ b.rest = x ++ b'.rest := by
  have e : b'.win ++ b'.rest = b.win ++ b.rest := by
    rw [← h'.suffix_win, ← h.suffix_win, fr.src, fr.off]
  have hl : b.win.length ≤ b'.win.length := by rw [win_length, win_length]; exact fr.avail
  rcases List.append_eq_append_iff.mp e with ⟨a, h1, h2⟩ | ⟨c, h1, h2⟩
  · -- b.win = b'.win ++ a : then a = []
    have : a = [] := by
      have := congrArg List.length h1
      simp only [List.length_append] at this
      apply List.eq_nil_of_length_eq_zero; omega
    subst this
    exact ⟨[], by simpa using h1.symm, by simpa using h2.symm⟩
  · exact ⟨c, h1, h2⟩

/-- A refill that asks for at least what is loaded: the bytes behind the cursor are extended by some `x` taken from the
    stream. Either they are more than before and the stream got shorter, or nothing was read because the stream was empty. -/
theorem refill_more_or_done {b : Buf} (h : WF b) (k : Nat) (hk : b.n - b.pos ≤ k) :
    ∃ x, (refill b k).2.win = b.win ++ x ∧ b.rest = x ++ (refill b k).2.rest ∧
      ((b.n - b.pos < (refill b k).2.n - (refill b k).2.pos ∧ (refill b k).2.rest.length < b.rest.length) ∨
       ((refill b k).2.n - (refill b k).2.pos = b.n - b.pos ∧ b.rest = [] ∧ (refill b k).2.rest = [])) := by
  have hr := refill_post b k h
  obtain ⟨x, hx1, hx2⟩ := window_extend h hr.wf hr.frame
  refine ⟨x, hx1, hx2, ?_⟩
  rcases Nat.lt_or_ge (b.n - b.pos) ((refill b k).2.n - (refill b k).2.pos) with hlt | hge
  · exact Or.inl ⟨hlt, hr.prog hlt⟩
  · have heq := Nat.le_antisymm hge hr.frame.avail
    have hrest' := hr.noprog heq (by have := h.hps; omega)
    have hx : x = [] := by
      have := congrArg List.length hx1
      simp only [List.length_append, win_length] at this
      exact List.eq_nil_of_length_eq_zero (by omega)
    refine Or.inr ⟨heq, ?_, hrest'⟩
    rw [hx2, hx, hrest']; rfl

theorem countlineLoop_spec (fuel : Nat) : ∀ (b : Buf) (nc : Nat), WF b → b.rest.length + 1 ≤ fuel →
    nc ≤ b.win.length → nc ≤ runLen notLF b.win →
    WF (countlineLoop fuel b nc).2.1 ∧ Frame b (countlineLoop fuel b nc).2.1 ∧
    ((countlineLoop fuel b nc).1 = .ok ∨ (countlineLoop fuel b nc).1 = .eof) ∧
    ((countlineLoop fuel b nc).2.2.1, (countlineLoop fuel b nc).2.2.2) = memnewline (b.src.drop (b.base + b.pos)) ∧
    (countlineLoop fuel b nc).2.2.1 + (countlineLoop fuel b nc).2.2.2 ≤ (countlineLoop fuel b nc).2.1.win.length := by
  induction fuel with
  | zero => intro b nc _ hf; omega
  | succ fuel ih =>
    intro b nc h hfuel hnc hfree
    have hp := h.hpos
    have hwl := win_length b
    have hrl := runLen_le notLF b.win
    -- the back-up step
    obtain ⟨nc1, hback, hnc1, hcr⟩ : ∃ nc1, backUp b nc = some nc1 ∧ nc1 ≤ nc ∧
        (runLen notLF (b.win.drop nc1) = 0 → nc1 = 0 ∨ b.win[nc1 - 1]? ≠ some CR) := by
      unfold backUp
      by_cases h0 : nc = 0
      · exact ⟨nc, by simp [h0], Nat.le_refl _, fun _ => Or.inl h0⟩
      · have hlt : b.pos + nc - 1 < b.mem.length := by simp only [Buf.n] at *; omega
        have hget : b.mem[b.pos + nc - 1]? = some (b.mem[b.pos + nc - 1]) := List.getElem?_eq_getElem hlt
        have hwget : b.win[nc - 1]? = some (b.mem[b.pos + nc - 1]) := by
          rw [Buf.win, List.getElem?_drop, ← hget]; congr 1; omega
        simp only [h0, if_false, hget]
        by_cases hc : b.mem[b.pos + nc - 1] = CR
        · refine ⟨nc - 1, by simp [hc], by omega, ?_⟩
          intro hz
          exfalso
          -- the byte at nc-1 is CR, which is not LF, so the run from nc-1 is at least 1
          have hlt2 : nc - 1 < b.win.length := by omega
          have : b.win.drop (nc - 1) = b.mem[b.pos + nc - 1] :: b.win.drop (nc - 1 + 1) := by
            rw [List.drop_eq_getElem_cons hlt2]
            congr 1
            have := List.getElem?_eq_getElem hlt2
            rw [hwget] at this
            exact (Option.some.inj this).symm
          rw [this, hc] at hz
          simp [runLen, notLF, CR, LF] at hz
        · refine ⟨nc, by simp [hc], Nat.le_refl _, ?_⟩
          intro _; right
          rw [hwget]; simpa using hc
    have e1 : countlineLoop (fuel + 1) b nc =
        (if b.pos + nc1 > b.n then (.fault, b, nc1, 0) else
          let (nc2, nterm) := memnewline (b.mem.drop (b.pos + nc1))
          let nc' := nc1 + nc2
          if nterm ≠ 0 then (.ok, b, nc', nterm)
          else
            let (st, b') := refill b nc'
            if st ≠ .ok ∧ st ≠ .eof then (st, b', nc', 0)
            else if b'.n - b'.pos > nc' then countlineLoop fuel b' nc'
            else (st, b', nc', 0)) := by
      rw [countlineLoop, hback]
    rw [e1]
    have hnot : ¬ b.pos + nc1 > b.n := by omega
    simp only [hnot, if_false]
    have hm : b.mem.drop (b.pos + nc1) = b.win.drop nc1 := by rw [Buf.win, List.drop_drop]
    rw [hm]
    have hk : nc1 ≤ runLen notLF b.win := by omega
    have hd := runLen_drop notLF b.win nc1 hk
    have hmb := memnewline_bound (b.win.drop nc1)
    have hml : (b.win.drop nc1).length = b.win.length - nc1 := List.length_drop
    generalize hmn : memnewline (b.win.drop nc1) = mn at *
    obtain ⟨nc2, nterm⟩ := mn
    simp only []
    by_cases hnt : nterm = 0
    · -- no LF in the loaded bytes: refill, then loop or stop
      simp only [hnt, ne_eq, not_true_eq_false, if_false]
      have hall : runLen notLF (b.win.drop nc1) = (b.win.drop nc1).length := by
        have := (memnewline_snd_eq_zero_iff (b.win.drop nc1)).mp (by rw [hmn]; exact hnt)
        exact this
      have hnc2 : nc2 = (b.win.drop nc1).length := by
        have := memnewline_nolf _ hall
        rw [hmn] at this; exact (Prod.mk.inj this).1
      have hnc' : nc1 + nc2 = b.win.length := by rw [hnc2, hml]; omega
      have hwfree : runLen notLF b.win = b.win.length := by omega
      rw [hnc']
      have hr := refill_post b b.win.length h
      have hmd := refill_more_or_done h b.win.length (by rw [win_length]; exact Nat.le_refl _)
      generalize hrf : refill b b.win.length = rf at *
      obtain ⟨st, b'⟩ := rf
      simp only [] at hr hmd ⊢
      have hst : ¬ (st ≠ .ok ∧ st ≠ .eof) := by
        rcases hr.status with h1 | h1 <;> simp [h1]
      simp only [hst, if_false]
      obtain ⟨x, hx1, hx2, hcase⟩ := hmd
      have hw'l := win_length b'
      rcases hcase with ⟨hlt, hprog⟩ | ⟨heq, hrest, hrest'⟩
      · have hmore : b'.n - b'.pos > b.win.length := by omega
        simp only [hmore, if_true]
        have hfree' : b.win.length ≤ runLen notLF b'.win := by
          rw [hx1, runLen_append]; simp only [hwfree, if_true]; omega
        have := ih b' b.win.length hr.wf (by omega) (by omega) hfree'
        obtain ⟨i1, i2, i3, i4, i5⟩ := this
        refine ⟨i1, hr.frame.trans i2, i3, ?_, i5⟩
        rw [i4, hr.frame.src, hr.frame.off]
      · have hmore : ¬ b'.n - b'.pos > b.win.length := by omega
        simp only [hmore, if_false]
        refine ⟨hr.wf, hr.frame, hr.status, ?_, ?_⟩
        · rw [h.suffix_win, hrest]
          simp only [List.append_nil]
          exact (memnewline_nolf _ hwfree).symm
        · omega
    · -- LF found in the loaded bytes
      simp only [hnt, ne_eq, not_false_eq_true, if_true]
      have hlf : runLen notLF (b.win.drop nc1) < (b.win.drop nc1).length := by
        have := mt (memnewline_snd_eq_zero_iff (b.win.drop nc1)).mpr (by rw [hmn]; exact hnt)
        have := runLen_le notLF (b.win.drop nc1)
        omega
      have hlfw : runLen notLF b.win < b.win.length := by omega
      have hcr' : runLen notLF b.win = nc1 → nc1 = 0 ∨ b.win[nc1 - 1]? ≠ some CR := by
        intro hh; apply hcr; omega
      have hmd := memnewline_drop b.win nc1 hk hlfw hcr'
      rw [hmn] at hmd
      refine ⟨h, Frame.refl b, by simp, ?_, ?_⟩
      · rw [h.suffix_win, memnewline_append_found _ _ hlfw, hmd]
      · omega

theorem AnchorOnly.frame {b b' : Buf} (h : AnchorOnly b b') : Frame b b' := by
  obtain ⟨a, n, t, rfl⟩ := h; exact ⟨rfl, rfl, rfl, rfl, rfl, Nat.le_refl _⟩

theorem AnchorOnly.wf {b b' : Buf} (h : AnchorOnly b b') (hw : WF b) (ha : ∀ a, b'.anchor = some a → a ≤ b.pos) : WF b' := by
  obtain ⟨a, n, t, rfl⟩ := h
  exact ⟨hw.hwin, hw.hpos, fun x hx => Nat.le_trans (ha x hx) hw.hpos, hw.hps, hw.heof, hw.hnofp⟩

theorem AnchorOnly.wf' {b b' : Buf} (h : AnchorOnly b b') (hw : WF b) (ha : ∀ a, b'.anchor = some a → a ≤ b.n) : WF b' := by
  obtain ⟨a, n, t, rfl⟩ := h
  exact ⟨hw.hwin, hw.hpos, ha, hw.hps, hw.heof, hw.hnofp⟩

theorem AnchorOnly.mem_eq {b b' : Buf} (h : AnchorOnly b b') : b'.mem = b.mem := by obtain ⟨a, n, t, rfl⟩ := h; rfl
theorem AnchorOnly.pos_eq {b b' : Buf} (h : AnchorOnly b b') : b'.pos = b.pos := by obtain ⟨a, n, t, rfl⟩ := h; rfl
theorem AnchorOnly.base_eq {b b' : Buf} (h : AnchorOnly b b') : b'.base = b.base := by obtain ⟨a, n, t, rfl⟩ := h; rfl
theorem AnchorOnly.rest_eq {b b' : Buf} (h : AnchorOnly b b') : b'.rest = b.rest := by obtain ⟨a, n, t, rfl⟩ := h; rfl
theorem AnchorOnly.src_eq {b b' : Buf} (h : AnchorOnly b b') : b'.src = b.src := by obtain ⟨a, n, t, rfl⟩ := h; rfl

theorem setAnchor_spec (b : Buf) (o : Nat) (h : WF b) (h1 : b.base ≤ o) (h2 : o ≤ b.base + b.pos) :
    (setAnchor b o).1 = .ok ∧ AnchorOnly b (setAnchor b o).2 ∧ WF (setAnchor b o).2 := by
  have hp := h.hpos
  cases hf : b.hasfp with
  | false => rw [setAnchor_nofp b o hf]; exact ⟨rfl, ⟨b.anchor, b.nanchor, b.stab, rfl⟩, h⟩
  | true =>
    obtain ⟨x, n, e, hx, _⟩ := setAnchor_in b o hf h1 (by omega)
    rw [e]
    exact ⟨rfl, ⟨_, _, _, rfl⟩, AnchorOnly.wf ⟨_, _, b.stab, rfl⟩ h (by intro a ha; cases ha; omega)⟩

theorem raiseAnchor_spec (b : Buf) (o : Nat) (h : WF b) :
    AnchorOnly b (raiseAnchor b o) ∧ WF (raiseAnchor b o) := by
  refine ⟨raiseAnchor_anchorOnly b o, (raiseAnchor_anchorOnly b o).wf' h ?_⟩
  -- an anchor that is left is the old one
  obtain ⟨a, n, t, e, hk⟩ := raiseAnchor_shape b o
  rw [e]
  intro x hx
  have ha : a ≠ none := by intro e0; rw [e0] at hx; cases hx
  exact h.hanch x ((hk ha).1 ▸ hx)

theorem memnewline_zero (m : Bytes) (h : memnewline m = (0, 0)) : m = [] := by
  have h2 : (memnewline m).2 = 0 := by rw [h]
  have := memnewline_nolf m ((memnewline_snd_eq_zero_iff m).mp h2)
  rw [h] at this
  exact List.eq_nil_of_length_eq_zero (Prod.mk.inj this).1.symm

theorem specLine_eq (s : Bytes) (hs : s ≠ []) :
    specLine s = some (s.take (memnewline s).1, (memnewline s).1 + (memnewline s).2) := by
  unfold specLine memnewline
  simp only [hs, if_false]
  split
  · simp
  · split
    · rename_i h1 h2; simp only []; congr 2; omega
    · rfl

/-- `buffer_countline` on a well-formed buffer: end of window ⇒ `eslEOF`; otherwise `(nc, nskip)` is
    `esl_memnewline` of the whole rest of the input and the line with its terminator is loaded. -/
theorem countline_spec (b : Buf) (h : WF b) :
    WF (countline b).2.1 ∧ Frame b (countline b).2.1 ∧
    (b.pos = b.n → countline b = (.eof, b, 0, 0)) ∧
    (b.pos < b.n → (countline b).1 = .ok ∧
      (countline b).2.2.1 = (memnewline (b.src.drop (b.base + b.pos))).1 ∧
      (countline b).2.2.2 = (memnewline (b.src.drop (b.base + b.pos))).1 + (memnewline (b.src.drop (b.base + b.pos))).2 ∧
      (countline b).2.2.2 ≤ (countline b).2.1.win.length) := by
  have hp := h.hpos
  by_cases he : b.pos = b.n
  · have e : countline b = (.eof, b, 0, 0) := by unfold countline; simp [he]
    rw [e]
    exact ⟨h, Frame.refl b, fun _ => rfl, fun hh => by omega⟩
  · have hlt : b.pos < b.n := by omega
    have hng : ¬ b.pos > b.n := by omega
    obtain ⟨l1, l2, l3, l4, l5⟩ := countlineLoop_spec (b.rest.length + 2) b 0 h (by omega) (Nat.zero_le _) (Nat.zero_le _)
    generalize hcl : countlineLoop (b.rest.length + 2) b 0 = r at *
    obtain ⟨st, b', nc, nterm⟩ := r
    simp only [] at l1 l2 l3 l4 l5
    have hs : b.src.drop (b.base + b.pos) ≠ [] := suffix_ne_nil h hlt
    have hnz : ¬ (nc = 0 ∧ nterm = 0) := by
      rintro ⟨h1, h2⟩
      subst h1; subst h2
      exact hs (memnewline_zero _ l4.symm)
    have e : countline b = (.ok, b', nc, nc + nterm) := by
      unfold countline
      simp only [he, hng, if_false, hcl]
      have h1 : ¬ (st ≠ .ok ∧ st ≠ .eof) := by rcases l3 with h3 | h3 <;> simp [h3]
      have h2 : ¬ (st = .eof ∧ nc = 0 ∧ nterm = 0) := fun hh => hnz hh.2
      simp only [h1, h2, if_false]
    rw [e]
    refine ⟨l1, l2, fun hh => by omega, fun _ => ⟨rfl, ?_, ?_, l5⟩⟩
    · simp only []; rw [← l4]
    · simp only []; rw [← l4]

end EaselModel.Buffer
