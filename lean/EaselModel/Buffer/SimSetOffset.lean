import EaselModel.Buffer.SimAnchors
import EaselModel.Buffer.TokenSim
import EaselModel.Buffer.Safe
/-! `Set` and `SetOffset` from a state related to the specification, in the guards of the code (`sim_set_callerOk`, `setOffset_run`);
inside the contract they simulate the specification step. -/
namespace EaselModel.Buffer

/-- `R.of_keepA` after an operation that hands out no pointer -/
theorem R.of_keepA_noPtr {P : Nat} {a a' : AState} {s s' : Sess} (r : R P a s)
    (wf : WF s'.b) (pg : PG s'.b) (k : KeepA s.b s'.b) (aok : AnchOK s'.b)
    (hsrc : a'.src = a.src) (hanch : a'.anchor = a.anchor) (hnanch : a'.nanchor = a.nanchor)
    (hcur : s'.b.base + s'.b.pos = a'.cur)
    (hlp : s'.lastp = none) (hlp' : a'.lastp = none) : R P a' s' :=
  r.of_keepA wf pg k aok hsrc hanch hnanch hcur (by rw [hlp, hlp']; rfl) (fun p hp => by rw [hlp'] at hp; cases hp)

theorem anchor_le_of_abs {b : Buf} (i : Nat) (h : ∀ A, b.absAnchor = some A → A ≤ b.base + i) :
    ∀ x, b.anchor = some x → x ≤ i := by
  intro x hx
  have : b.absAnchor = some (b.base + x) := by simp [Buf.absAnchor, hx]
  have := h _ this
  omega

theorem R.anchor_le {P : Nat} {a : AState} {s : Sess} (r : R P a s) (i : Nat)
    (h : ∀ A, a.anchor = some A → A ≤ s.b.base + i) : ∀ x, s.b.anchor = some x → x ≤ i := by
  cases hf : s.b.hasfp with
  | false => intro x hx; rw [r.nfa hf] at hx; cases hx
  | true => exact anchor_le_of_abs i (fun A hA => h A (by rw [← (r.anch hf).1]; exact hA))

theorem R.loaded_ge {P : Nat} {a : AState} {s : Sess} (r : R P a s) :
    min P (a.src.length - a.cur) ≤ s.b.n - s.b.pos := by
  have hs : s.b.abs.suffix.length = (s.b.n - s.b.pos) + s.b.rest.length := suffix_length r.wf
  rw [r.abs_eq] at hs
  have hl : a.abs.suffix.length = a.src.length - a.cur := abs_suffix_length a.abs
  have := r.ps
  rcases r.pg with g | g
  · omega
  · rw [g] at hs; simp only [List.length_nil] at hs; omega

theorem set_tail {P : Nat} {a : AState} {s : Sess} (r : R P a s) (k : Nat) (b1 : Buf) (c : Nat)
    (w1 : WF b1) (k1 : Keep s.b b1) (hcur1 : b1.base + b1.pos = c)
    (e : set s.b s.lastp k = (({ st := if okOrEof (refill b1 0).1 then .ok else (refill b1 0).1 } : Out), (refill b1 0).2))
    (es : specStep a (.set k) = (⟨.ok, [], c⟩, { a with cur := c, lastp := none })) :
    obsOf (.set k) (s.step (.set k)).1 (s.step (.set k)).2 = (specStep a (.set k)).1 ∧
    R P (specStep a (.set k)).2 (s.step (.set k)).2 := by
  have hr := refill_post b1 0 w1
  have hk := refill_keep b1 0
  have hst : okOrEof (refill b1 0).1 = true := okOrEof_of hr.status
  rw [hst] at e
  rw [es]
  have hb : (s.step (.set k)).2.b = (refill b1 0).2 := by rw [step_b]; show (set s.b s.lastp k).2 = _; rw [e]
  have ho : (s.step (.set k)).1 = ({ st := .ok } : Out) := by rw [step_out]; show (set s.b s.lastp k).1 = _; rw [e]; rfl
  have hoff : (refill b1 0).2.base + (refill b1 0).2.pos = c := by rw [hr.frame.off]; exact hcur1
  refine ⟨?_, ?_⟩
  · show (⟨(s.step (.set k)).1.st, [], (s.step (.set k)).2.b.base + (s.step (.set k)).2.b.pos⟩ : Obs) = _
    rw [ho, hb, hoff]
  · refine r.of_keepA_noPtr (s' := (s.step (.set k)).2) (a' := { a with cur := c, lastp := none })
      (by rw [hb]; exact hr.wf) ?_ (by rw [hb]; exact (k1.trans hk).toKeepA) (by rw [hb]; exact r.aok.keep (k1.trans hk))
      rfl rfl rfl (by rw [hb]; exact hoff) ?_ rfl
    · rw [hb]; exact hr.pg (Nat.zero_le _)
    · rw [step_lastp]; show (set s.b s.lastp k).1.p = none; exact set_p _ _ _

theorem valid_safe {P : Nat} {a : AState} {s : Sess} (r : R P a s) (op : Op) (hv : Valid P a op) : CallerOk s op := by
  have hp := r.wf.hpos
  cases op with
  | set k =>
    intro i hi
    have hal : a.lastp = some (s.b.base + i) := by rw [← r.lastp, hi]; rfl
    have hv' : s.b.base + i + k ≤ a.cur + min P (a.src.length - a.cur) := hv _ hal
    have hld := r.loaded_ge
    have := r.cur; omega
  | setOffset o | setAnchor o | setStableAnchor o | getLine | fetchLine | fetchLineStr | getToken sep | fetchToken sep
  | fetchTokenStr sep | read k | get | getOffset | raiseAnchor o => trivial

/-- `Set` inside `CallerOk` simulates the specification step (more than the contract `Valid` grants: any `nused` that stays
    within the loaded bytes) -/
theorem sim_set_callerOk (P k : Nat) (a : AState) (s : Sess) (r : R P a s) (hs : CallerOk s (.set k)) :
    obsOf (.set k) (s.step (.set k)).1 (s.step (.set k)).2 = (specStep a (.set k)).1 ∧
    R P (specStep a (.set k)).2 (s.step (.set k)).2 := by
  have hp := r.wf.hpos
  cases hl : s.lastp with
  | none =>
    have hal : a.lastp = none := by rw [← r.lastp, hl]; rfl
    refine set_tail r k s.b a.cur r.wf (Keep.refl _) r.cur (by rw [hl]; rfl) ?_
    unfold specStep; simp only [hal]
  | some i =>
    have hal : a.lastp = some (s.b.base + i) := by rw [← r.lastp, hl]; rfl
    have hik : i + k ≤ s.b.n := hs i hl
    refine set_tail r k { s.b with pos := i + k } (s.b.base + i + k) ?_ (setpos_keep s.b _) ?_ (by rw [hl]; rfl) ?_
    · exact r.wf.setPos hik
    · show s.b.base + (i + k) = _; omega
    · unfold specStep; simp only [hal]

theorem sim_set (P : Nat) (k : Nat) : SimStep P (.set k) := fun a s r hv =>
  sim_set_callerOk P k a s r (valid_safe r (.set k) hv)

theorem setOffset_mem (b : Buf) (o : Nat) (h : memMode b.mode) (hle : o ≤ b.n) :
    setOffset b o = (({ st := .ok } : Out), { b with base := 0, pos := o }) := by
  unfold setOffset
  rcases h with h | h | h <;> rw [h] <;> simp only [] <;> rw [if_neg (by omega)]

/-- beyond the end of a whole-input buffer `SetOffset` answers `eslEINVAL` and changes nothing (the check at esl_buffer.c:641) -/
theorem setOffset_mem_beyond (b : Buf) (o : Nat) (h : memMode b.mode) (hgt : b.n < o) :
    setOffset b o = (({ st := .einval } : Out), b) := by
  unfold setOffset
  rcases h with h | h | h <;> rw [h] <;> simp only [] <;> rw [if_pos (by omega)]

/-- the streaming branch of `SetOffset` -/
def setOffsetStream (b : Buf) (offset : Nat) : Out × Buf :=
  if b.base ≤ offset ∧ offset < b.base + b.pos then ({ st := .ok }, { b with pos := offset - b.base })
  else if b.mode = .file ∧ b.anchor = none then
    let b1 := { b with rest := b.src.drop offset, fed := offset, eof := false,
                       base := offset, mem := [], pos := 0, memgen := b.memgen + 1 }
    let (st, b2) := refill b1 0
    if st = .eof then ({ st := .einval }, b2)
    else if st ≠ .ok then ({ st := st }, b2)
    else ({ st := .ok }, b2)
  else if offset < b.base then ({ st := .einval }, b)
  else
    match ffwdLoop offset (b.rest.length + 2) b with
    | (.ok, b1) =>
      let b2 := { b1 with pos := offset - b1.base }
      let (st, b3) := refill b2 0
      if st ≠ .eof ∧ st ≠ .ok then ({ st := st }, b3) else ({ st := .ok }, b3)
    | (st, b1) => ({ st := st }, b1)

theorem setOffset_stream (b : Buf) (o : Nat) (h : ¬ memMode b.mode) : setOffset b o = setOffsetStream b o := by
  unfold setOffset setOffsetStream
  cases hm : b.mode with
  | stream => rfl
  | cmdpipe => rfl
  | file => rfl
  | allfile => exact absurd (Or.inl hm) h
  | mmap => exact absurd (Or.inr (Or.inl hm)) h
  | string => exact absurd (Or.inr (Or.inr hm)) h

theorem exhausted_le {b : Buf} (h : WF b) (hr : b.rest = []) : b.src.length ≤ b.base + b.n := by
  have := congrArg List.length h.hwin
  rw [hr, List.append_nil, List.length_drop] at this
  simp only [Buf.n]; omega

theorem ffwdLoop_succ (o : Nat) (fuel : Nat) (b : Buf) :
    ffwdLoop o (fuel + 1) b =
      if o ≥ b.base + b.n then
        if (refill { b with pos := b.n } 0).1 = .eof ∧ o = (refill { b with pos := b.n } 0).2.base + (refill { b with pos := b.n } 0).2.n
        then (.ok, (refill { b with pos := b.n } 0).2)
        else if (refill { b with pos := b.n } 0).1 = .eof then (.einval, (refill { b with pos := b.n } 0).2)
        else if (refill { b with pos := b.n } 0).1 ≠ .ok then ((refill { b with pos := b.n } 0).1, (refill { b with pos := b.n } 0).2)
        else ffwdLoop o fuel (refill { b with pos := b.n } 0).2
      else (.ok, b) := by
  rw [ffwdLoop]

theorem WF.end_le {b : Buf} (h : WF b) : b.base + b.n ≤ max (b.base + b.pos) b.src.length := by
  have := congrArg List.length h.hwin
  simp only [List.length_drop, List.length_append] at this
  simp only [Buf.n]
  have hp := h.hpos
  simp only [Buf.n] at hp
  omega

theorem max_eq_of_le_max {c c' l : Nat} (h1 : c ≤ c') (h2 : c' ≤ max c l) : max c' l = max c l := by omega

/-- The fast-forward loop of `SetOffset`, for every target `o` at or ahead of the cursor. Up to the end of the input (or
    the cursor, if that is further) it loads the window that holds `o`; beyond, it reads the stream to its end, leaves the
    cursor there and answers `eslEINVAL`. -/
theorem ffwdLoop_total (o : Nat) (fuel : Nat) : ∀ (b : Buf), WF b → b.rest.length + 1 ≤ fuel → b.base + b.pos ≤ o →
    WF (ffwdLoop o fuel b).2 ∧
    b.base + b.pos ≤ (ffwdLoop o fuel b).2.base + (ffwdLoop o fuel b).2.pos ∧
    (o ≤ max (b.base + b.pos) b.src.length →
      (ffwdLoop o fuel b).1 = .ok ∧ (ffwdLoop o fuel b).2.base + (ffwdLoop o fuel b).2.pos ≤ o ∧
      o ≤ (ffwdLoop o fuel b).2.base + (ffwdLoop o fuel b).2.n) ∧
    (max (b.base + b.pos) b.src.length < o →
      (ffwdLoop o fuel b).1 = .einval ∧ (ffwdLoop o fuel b).2.pos = (ffwdLoop o fuel b).2.n ∧
      (ffwdLoop o fuel b).2.rest = [] ∧
      (ffwdLoop o fuel b).2.base + (ffwdLoop o fuel b).2.pos ≤ max (b.base + b.pos) b.src.length) := by
  induction fuel with
  | zero => intro b _ hf; omega
  | succ fuel ih =>
    intro b h hfuel hlo
    have hp := h.hpos
    have hend := h.end_le
    rw [ffwdLoop_succ]
    by_cases hout : o ≥ b.base + b.n
    · rw [if_pos hout]
      have hwf1 : WF { b with pos := b.n } :=
        h.setPos (Nat.le_refl _)
      have hr := refill_post { b with pos := b.n } 0 hwf1
      have hlt := (refill_run { b with pos := b.n } 0 hwf1).2
      generalize hrf : refill { b with pos := b.n } 0 = rf at *
      obtain ⟨st, b2⟩ := rf
      simp only [] at hr hlt ⊢
      have hoff2 : b2.base + b2.pos = b.base + b.n := hr.frame.off
      have hsrc2 : b2.src = b.src := hr.frame.src
      rcases hr.status with hok | heof
      · subst hok
        have c1 : ¬ (St.ok = St.eof ∧ o = b2.base + b2.n) := by intro hh; cases hh.1
        have c2 : ¬ (St.ok = St.eof) := by intro hh; cases hh
        have c3 : ¬ (St.ok ≠ St.ok) := by intro hh; exact hh rfl
        rw [if_neg c1, if_neg c2, if_neg c3]
        have hlt2 := hlt rfl
        have hav1 : ({ b with pos := b.n } : Buf).n - ({ b with pos := b.n } : Buf).pos = 0 := by show b.n - b.n = 0; omega
        have hprog := hr.prog (by rw [hav1]; omega)
        have hrest1 : ({ b with pos := b.n } : Buf).rest = b.rest := rfl
        rw [hrest1] at hprog
        obtain ⟨i1, i3, i4, i5⟩ := ih b2 hr.wf (by omega) (by omega)
        -- the window ends within the input (or at the cursor), so the bound is the same for `b2`
        have hmax : max (b2.base + b2.pos) b.src.length = max (b.base + b.pos) b.src.length :=
          max_eq_of_le_max (by rw [hoff2]; omega) (by rw [hoff2]; exact hend)
        rw [hsrc2, hmax] at i4 i5
        exact ⟨i1, by omega, i4, i5⟩
      · subst heof
        obtain ⟨e1, e2⟩ := hr.eof_imp rfl
        have hex := exhausted_le hr.wf e2
        rw [hsrc2] at hex
        by_cases heq : o = b2.base + b2.n
        · -- exactly the end of the stream
          rw [if_pos ⟨rfl, heq⟩]
          exact ⟨hr.wf, by show b.base + b.pos ≤ b2.base + b2.pos; omega,
            fun _ => ⟨rfl, by show b2.base + b2.pos ≤ o; omega, by show o ≤ b2.base + b2.n; omega⟩, fun hgt => by omega⟩
        · rw [if_neg (fun hh => heq hh.2), if_pos rfl]
          exact ⟨hr.wf, by show b.base + b.pos ≤ b2.base + b2.pos; omega, fun hle => by omega,
            fun _ => ⟨rfl, e1, e2, by show b2.base + b2.pos ≤ _; omega⟩⟩
    · rw [if_neg hout]
      exact ⟨h, Nat.le_refl _, fun _ => ⟨rfl, hlo, by show o ≤ b.base + b.n; omega⟩, fun hgt => by omega⟩

/-- `SetOffset` beyond the end of the input, ahead of the cursor, on a buffer that reads in pages and cannot `fseeko`: `eslEINVAL`,
    the stream has been read to its end and the cursor stands there -/
theorem setOffset_beyond_end_paged (b : Buf) (o : Nat) (h : WF b) (hm : ¬ memMode b.mode)
    (hnf : ¬ (b.mode = .file ∧ b.anchor = none)) (hlen : b.src.length < o) (hcur : b.base + b.pos < o) :
    (setOffset b o).1.st = .einval ∧ (setOffset b o).1.bytes = [] ∧ WF (setOffset b o).2 ∧ Keep b (setOffset b o).2 ∧
    (setOffset b o).2.pos = (setOffset b o).2.n ∧ (setOffset b o).2.rest = [] ∧
    b.base + b.pos ≤ (setOffset b o).2.base + (setOffset b o).2.pos ∧
    (setOffset b o).2.base + (setOffset b o).2.pos ≤ max (b.base + b.pos) b.src.length := by
  obtain ⟨f2, f6, _, hout⟩ := ffwdLoop_total o (b.rest.length + 2) b h (by omega) (by omega)
  obtain ⟨f1, f4, f5, f7⟩ := hout (by omega)
  have f3 := ffwdLoop_scans (Keep.scans b) o (b.rest.length + 2) b (Keep.refl b)
  have key : setOffset b o = (({ st := (ffwdLoop o (b.rest.length + 2) b).1 } : Out), (ffwdLoop o (b.rest.length + 2) b).2) := by
    rw [setOffset_stream b o hm]; unfold setOffsetStream
    rw [if_neg (by omega), if_neg hnf, if_neg (by omega)]
    generalize ffwdLoop o (b.rest.length + 2) b = r at f1 ⊢
    obtain ⟨st, b1⟩ := r
    dsimp only at f1; subst f1; rfl
  rw [key]
  exact ⟨f1, rfl, f2, f3, f4, f5, f6, f7⟩

/-- an operation that answers `eslEINVAL` and leaves the buffer as it was -/
theorem R.unchanged {P : Nat} {a : AState} {s s' : Sess} (r : R P a s) (hb : s'.b = s.b) (hl : s'.lastp = none) :
    R P { a with lastp := none } s' :=
  r.of_keepA_noPtr (s' := s') (a' := { a with lastp := none }) (by rw [hb]; exact r.wf) (by rw [hb]; exact r.pg)
    (by rw [hb]; exact KeepA.refl _) (by rw [hb]; exact r.aok) rfl rfl rfl (by rw [hb]; exact r.cur) hl rfl

/-- `R` after a `SetOffset` that failed but moved the cursor forward (the anchor record is kept) -/
theorem R.moved {P : Nat} {a : AState} {s s' : Sess} (r : R P a s) (c : Nat)
    (wf : WF s'.b) (pg : PG s'.b) (k : Keep s.b s'.b) (hcur : s'.b.base + s'.b.pos = c)
    (hlp : s'.lastp = none) : R P { a with cur := c, lastp := none } s' :=
  r.of_keepA_noPtr (s' := s') (a' := { a with cur := c, lastp := none }) wf pg k.toKeepA (r.aok.keep k) rfl rfl rfl hcur hlp rfl

/-- What `SetOffset o` does from a state reached so far, by the guards of the code: it arrives (`o` is at most
    `max cur |src|`), or answers `eslEINVAL` in one of four ways, each with the state it leaves. -/
theorem setOffset_run (P o : Nat) (a : AState) (s : Sess) (r : R P a s) :
    (o ≤ max a.cur a.src.length ∧
      obsOf (.setOffset o) (s.step (.setOffset o)).1 (s.step (.setOffset o)).2 = ⟨.ok, [], o⟩ ∧
      R P { a with cur := o, lastp := none } (s.step (.setOffset o)).2) ∨
    (memMode s.b.mode ∧ a.src.length < o ∧
      obsOf (.setOffset o) (s.step (.setOffset o)).1 (s.step (.setOffset o)).2 = ⟨.einval, [], a.cur⟩ ∧
      R P { a with lastp := none } (s.step (.setOffset o)).2) ∨
    (¬ memMode s.b.mode ∧ (s.b.mode = .file ∧ s.b.anchor = none) ∧ a.anchor = none ∧ a.src.length ≤ o ∧
      obsOf (.setOffset o) (s.step (.setOffset o)).1 (s.step (.setOffset o)).2 = ⟨.einval, [], o⟩ ∧
      R P { a with cur := o, lastp := none } (s.step (.setOffset o)).2) ∨
    (¬ memMode s.b.mode ∧ o < a.cur ∧ (∀ A, a.anchor = some A → o < A) ∧
      obsOf (.setOffset o) (s.step (.setOffset o)).1 (s.step (.setOffset o)).2 = ⟨.einval, [], a.cur⟩ ∧
      R P { a with lastp := none } (s.step (.setOffset o)).2) ∨
    (¬ memMode s.b.mode ∧ ¬ (s.b.mode = .file ∧ s.b.anchor = none) ∧ a.src.length < o ∧ a.cur ≤ o ∧
      obsOf (.setOffset o) (s.step (.setOffset o)).1 (s.step (.setOffset o)).2 = ⟨.einval, [], max a.cur a.src.length⟩ ∧
      R P { a with cur := max a.cur a.src.length, lastp := none } (s.step (.setOffset o)).2) := by
  have hp := r.wf.hpos
  have hlp : (s.step (.setOffset o)).2.lastp = none := by
    rw [step_lastp]; show (setOffset s.b o).1.p = none; exact setOffset_p _ _
  have hobs : ∀ st b', setOffset s.b o = (({ st := st } : Out), b') →
      obsOf (.setOffset o) (s.step (.setOffset o)).1 (s.step (.setOffset o)).2 = ⟨st, [], b'.base + b'.pos⟩ ∧
      (s.step (.setOffset o)).2.b = b' := by
    intro st b' e
    have hb : (s.step (.setOffset o)).2.b = b' := by rw [step_b]; show (setOffset s.b o).2 = _; rw [e]
    have ho : (s.step (.setOffset o)).1 = ({ st := st } : Out) := by rw [step_out]; show (setOffset s.b o).1 = _; rw [e]
    refine ⟨?_, hb⟩
    unfold obsOf
    rw [if_neg (by intro hh; cases hh), ho, hb]
  -- the cursor stands at `c` afterwards and the anchor record is kept
  have fin : ∀ st b' c, setOffset s.b o = (({ st := st } : Out), b') → WF b' → PG b' → Keep s.b b' → b'.base + b'.pos = c →
      obsOf (.setOffset o) (s.step (.setOffset o)).1 (s.step (.setOffset o)).2 = ⟨st, [], c⟩ ∧
      R P { a with cur := c, lastp := none } (s.step (.setOffset o)).2 := by
    intro st b' c e w pg k hc
    obtain ⟨h1, hb⟩ := hobs _ _ e
    exact ⟨by rw [h1, hc], r.moved (s' := (s.step (.setOffset o)).2) c (by rw [hb]; exact w) (by rw [hb]; exact pg)
      (by rw [hb]; exact k) (by rw [hb]; exact hc) hlp⟩
  by_cases hm : memMode s.b.mode
  · -- whole input in memory: the cursor goes anywhere up to the end
    have hf : s.b.hasfp = false := r.modefp.mpr hm
    have hb0 := r.base0 hf
    have hrest := r.wf.hnofp hf
    have hnone := r.nfa hf
    have hn : s.b.n = a.src.length := by
      have := congrArg List.length r.wf.hwin
      rw [hrest, hb0, List.append_nil, List.drop_zero, r.src] at this
      simp only [Buf.n]; omega
    by_cases hgt : s.b.n < o
    · obtain ⟨h1, hb⟩ := hobs _ _ (setOffset_mem_beyond s.b o hm hgt)
      exact Or.inr (Or.inl ⟨hm, by omega, by rw [h1, r.cur], r.unchanged hb hlp⟩)
    · refine Or.inl ⟨by omega, fin _ { s.b with base := 0, pos := o } o (setOffset_mem s.b o hm (by omega)) ?_ (Or.inr hrest) ?_
        (by show 0 + o = o; omega)⟩
      · refine ⟨?_, by show o ≤ s.b.n; omega, ?_, r.wf.hps, r.wf.heof, r.wf.hnofp⟩
        · show s.b.src.drop 0 = s.b.mem ++ s.b.rest
          rw [← hb0]; exact r.wf.hwin
        · intro x hx
          have : s.b.anchor = some x := hx
          rw [hnone] at this; cases this
      · refine ⟨rfl, rfl, rfl, rfl, ?_, rfl, fun _ => ⟨hb0.symm, rfl⟩⟩
        show ({ s.b with base := 0, pos := o } : Buf).absAnchor = s.b.absAnchor
        simp [Buf.absAnchor, hnone]
  · have hf : s.b.hasfp = true := by
      cases hh : s.b.hasfp with
      | true => rfl
      | false => exact absurd (r.modefp.mp hh) hm
    obtain ⟨r1, r2⟩ := r.anch hf
    have est := setOffset_stream s.b o hm
    by_cases hwin : s.b.base ≤ o ∧ o < s.b.base + s.b.pos
    · -- rewind inside the window (possibly to before the anchor, which is then ahead of the cursor)
      have e : setOffset s.b o = (({ st := .ok } : Out), { s.b with pos := o - s.b.base }) := by
        rw [est]; unfold setOffsetStream; rw [if_pos hwin]
      refine Or.inl ⟨by rw [← r.cur]; omega, fin _ _ o e ?_ ?_ (setpos_keep s.b _) (by show s.b.base + (o - s.b.base) = o; omega)⟩
      · exact r.wf.setPos (by omega)
      · rcases r.pg with g | g
        · left; show s.b.pagesize ≤ s.b.n - (o - s.b.base); omega
        · right; exact g
    · by_cases hseek : s.b.mode = .file ∧ s.b.anchor = none
      · -- fseeko
        have hanone : a.anchor = none := by rw [← r1]; exact (absAnchor_eq_none s.b).mpr hseek.2
        generalize hb1 : ({ s.b with rest := s.b.src.drop o, fed := o, eof := false, base := o, mem := [], pos := 0, memgen := s.b.memgen + 1 } : Buf) = b1
        have w1 : WF b1 := by
          rw [← hb1]
          refine ⟨by show s.b.src.drop o = [] ++ s.b.src.drop o; rfl, Nat.le_refl _, ?_, r.wf.hps, ?_, ?_⟩
          · intro x hx; have : s.b.anchor = some x := hx; rw [hseek.2] at this; cases this
          · intro hh; cases hh
          · intro hh; have : s.b.hasfp = false := hh; rw [hf] at this; cases this
        have k1 : Keep s.b b1 := by
          rw [← hb1]
          refine ⟨rfl, rfl, rfl, rfl, ?_, rfl, fun hh => by rw [hf] at hh; cases hh⟩
          simp [Buf.absAnchor, hseek.2]
        have hr := refill_post b1 0 w1
        have hk := refill_keep b1 0
        have hoff : (refill b1 0).2.base + (refill b1 0).2.pos = o := by
          rw [hr.frame.off, ← hb1]; show o + 0 = o; omega
        have hpg : PG (refill b1 0).2 := hr.pg (Nat.zero_le _)
        have hsrcb1 : b1.src = a.src := by rw [← hb1]; exact r.src
        rcases hr.status with hok | heof
        · have e : setOffset s.b o = (({ st := .ok } : Out), (refill b1 0).2) := by
            rw [est]; unfold setOffsetStream; rw [if_neg hwin, if_pos hseek]
            simp only [hb1, hok]
            rfl
          -- something was loaded at `o`
          have hlt := (refill_run b1 0 w1).2 hok
          have hend := hr.wf.end_le
          rw [hoff, hr.frame.src, hsrcb1] at hend
          refine Or.inl ⟨?_, fin _ _ o e hr.wf hpg (k1.trans hk) hoff⟩
          have hp2 := hr.wf.hpos
          omega
        · -- at or beyond the end of the file
          obtain ⟨e1, e2⟩ := hr.eof_imp heof
          have hex := exhausted_le hr.wf e2
          rw [hr.frame.src] at hex
          have hlen : a.src.length ≤ o := by rw [hsrcb1] at hex; omega
          have e : setOffset s.b o = (({ st := .einval } : Out), (refill b1 0).2) := by
            rw [est]; unfold setOffsetStream; rw [if_neg hwin, if_pos hseek]
            simp only [hb1, heof]
            rfl
          exact Or.inr (Or.inr (Or.inl ⟨hm, hseek, hanone, hlen, fin _ _ o e hr.wf hpg (k1.trans hk) hoff⟩))
      · by_cases hbase : o < s.b.base
        · -- the stream has moved past the target
          have e : setOffset s.b o = (({ st := .einval } : Out), s.b) := by
            rw [est]; unfold setOffsetStream; rw [if_neg hwin, if_neg hseek, if_pos hbase]
          obtain ⟨h1, hb⟩ := hobs _ _ e
          refine Or.inr (Or.inr (Or.inr (Or.inl ⟨hm, by rw [← r.cur]; omega, fun A hA => ?_, by rw [h1, r.cur], r.unchanged hb hlp⟩)))
          obtain ⟨a0, _, hb'⟩ := absAnchor_some (by rw [r1]; exact hA : s.b.absAnchor = some A)
          omega
        · have hahead : s.b.base + s.b.pos ≤ o := by omega
          obtain ⟨f2, f6, hin, hout⟩ := ffwdLoop_total o (s.b.rest.length + 2) s.b r.wf (by omega) hahead
          have f3 := ffwdLoop_scans (Keep.scans s.b) o (s.b.rest.length + 2) s.b (Keep.refl s.b)
          generalize hff : ffwdLoop o (s.b.rest.length + 2) s.b = ff at *
          obtain ⟨stf, bf⟩ := ff
          simp only [] at f2 f3 f6 hin hout
          by_cases hlen : o ≤ max a.cur a.src.length
          · obtain ⟨f1, f4, f5⟩ := hin (by rw [r.src, r.cur]; exact hlen)
            subst f1
            have hp' := f2.hpos
            have w2 : WF { bf with pos := o - bf.base } :=
              f2.setPos (by omega)
            have hr := refill_post { bf with pos := o - bf.base } 0 w2
            have hk := refill_keep { bf with pos := o - bf.base } 0
            have hst : ¬ ((refill { bf with pos := o - bf.base } 0).1 ≠ .eof ∧ (refill { bf with pos := o - bf.base } 0).1 ≠ .ok) := by
              rcases hr.status with h3 | h3 <;> simp [h3]
            have e : setOffset s.b o = (({ st := .ok } : Out), (refill { bf with pos := o - bf.base } 0).2) := by
              rw [est]; unfold setOffsetStream; rw [if_neg hwin, if_neg hseek, if_neg hbase, hff]
              simp only [hst, if_false]
            refine Or.inl ⟨hlen, fin _ _ o e hr.wf (hr.pg (Nat.zero_le _)) ((f3.trans (setpos_keep bf _)).trans hk) ?_⟩
            · rw [hr.frame.off]; show bf.base + (o - bf.base) = o; omega
          · -- beyond the end of the stream: it has been read to its end and the cursor stands there
            obtain ⟨f1, f4, f5, f7⟩ := hout (by rw [r.src, r.cur]; omega)
            subst f1
            have e : setOffset s.b o = (({ st := .einval } : Out), bf) := by
              rw [est]; unfold setOffsetStream; rw [if_neg hwin, if_neg hseek, if_neg hbase, hff]
            have hex := exhausted_le f2 f5
            rw [f3.src, r.src] at hex
            rw [r.src, r.cur] at f7
            rw [r.cur] at f6
            have hc : bf.base + bf.pos = max a.cur a.src.length := by
              have : bf.base + bf.pos = bf.base + bf.n := by rw [f4]
              omega
            exact Or.inr (Or.inr (Or.inr (Or.inr ⟨hm, hseek, by omega, by rw [← r.cur]; exact hahead,
              fin _ _ _ e f2 (Or.inr f5) f3 hc⟩)))

/-- inside the contract only the first outcome is possible -/
theorem sim_setOffset (P : Nat) (o : Nat) : SimStep P (.setOffset o) := by
  intro a s r hv
  obtain ⟨hvend, hvalt⟩ : (o < a.src.length ∨ (o = a.src.length ∧ a.anchor ≠ none)) ∧
      (a.cur ≤ o ∨ ∃ A, a.anchor = some A ∧ A ≤ o) := hv
  obtain ⟨_, h⟩ | ⟨_, h, _⟩ | ⟨_, _, hn, h, _⟩ | ⟨_, h1, h2, _⟩ | ⟨_, _, h, _⟩ := setOffset_run P o a s r
  · exact h
  · omega
  · rcases hvend with g | ⟨_, g⟩
    · omega
    · exact absurd hn g
  · rcases hvalt with g | ⟨A, hA, g⟩
    · omega
    · have := h2 A hA; omega
  · omega

end EaselModel.Buffer
