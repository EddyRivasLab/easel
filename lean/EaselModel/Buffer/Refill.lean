import EaselModel.Buffer.ListLemmas
/-! Well-formedness of the window and the contract of `buffer_refill`. -/
namespace EaselModel.Buffer

/-- The window invariant: `mem` is the slice of the input that starts at `base`, `rest` is what follows it;
    the cursor is inside the window; the anchor is inside the window (at or before the cursor in every history inside
    the API contract, but `esl_buffer_SetAnchor` accepts any offset of the window and an in-window rewind may go before
    the anchor: since b86a62d the code copes with an anchor ahead of the cursor, and so does this invariant); the
    end-of-file flag and a missing stream both mean that nothing is left to read. -/
structure WF (b : Buf) : Prop where
  hwin : b.src.drop b.base = b.mem ++ b.rest
  hpos : b.pos ≤ b.n
  hanch : ∀ a, b.anchor = some a → a ≤ b.n
  hps : 0 < b.pagesize
  heof : b.eof = true → b.rest = []
  hnofp : b.hasfp = false → b.rest = []

/-- What the steps inside an operation never change (or only grow). -/
structure Frame (b b' : Buf) : Prop where
  src : b'.src = b.src
  ps : b'.pagesize = b.pagesize
  mode : b'.mode = b.mode
  hasfp : b'.hasfp = b.hasfp
  off : b'.base + b'.pos = b.base + b.pos
  avail : b.n - b.pos ≤ b'.n - b'.pos

theorem Frame.refl (b : Buf) : Frame b b := ⟨rfl, rfl, rfl, rfl, rfl, Nat.le_refl _⟩

theorem Frame.trans {a b c : Buf} (h1 : Frame a b) (h2 : Frame b c) : Frame a c :=
  ⟨h2.src.trans h1.src, h2.ps.trans h1.ps, h2.mode.trans h1.mode, h2.hasfp.trans h1.hasfp,
   h2.off.trans h1.off, Nat.le_trans h1.avail h2.avail⟩

theorem WF.suffix {b : Buf} (h : WF b) : b.src.drop (b.base + b.pos) = b.mem.drop b.pos ++ b.rest := by
  have := h.hpos
  rw [← List.drop_drop, h.hwin, List.drop_append]
  have : b.pos - b.mem.length = 0 := by simp only [Buf.n] at *; omega
  simp [this]

theorem WF.suffix_at {b : Buf} (h : WF b) (k : Nat) (hk : k ≤ b.n) :
    b.src.drop (b.base + k) = b.mem.drop k ++ b.rest := by
  rw [← List.drop_drop, h.hwin, List.drop_append]
  have : k - b.mem.length = 0 := by simp only [Buf.n] at *; omega
  simp [this]

theorem dropFront_wf {b : Buf} (h : WF b) (ndel : Nat) (hd : ndel ≤ b.pos)
    (ha : ∀ a, b.anchor = some a → a + ndel ≤ b.n) : WF (dropFront b ndel) := by
  have hp := h.hpos
  refine ⟨?_, ?_, ?_, h.hps, h.heof, h.hnofp⟩
  · show b.src.drop (b.base + ndel) = b.mem.drop ndel ++ b.rest
    exact h.suffix_at ndel (by omega)
  · show b.pos - ndel ≤ (b.mem.drop ndel).length
    simp only [List.length_drop, Buf.n] at *; omega
  · intro a haa
    show a ≤ (b.mem.drop ndel).length
    have := ha a haa
    simp only [List.length_drop, Buf.n] at *; omega

theorem dropFront_frame (b : Buf) (ndel : Nat) (hd : ndel ≤ b.pos) (hp : b.pos ≤ b.n) : Frame b (dropFront b ndel) := by
  refine ⟨rfl, rfl, rfl, rfl, ?_, ?_⟩
  · show b.base + ndel + (b.pos - ndel) = b.base + b.pos
    omega
  · show b.n - b.pos ≤ (b.mem.drop ndel).length - (b.pos - ndel)
    simp only [List.length_drop, Buf.n] at *; omega

theorem dropFront_avail (b : Buf) (ndel : Nat) (hd : ndel ≤ b.pos) (hp : b.pos ≤ b.n) :
    (dropFront b ndel).n - (dropFront b ndel).pos = b.n - b.pos := by
  show (b.mem.drop ndel).length - (b.pos - ndel) = b.n - b.pos
  simp only [List.length_drop, Buf.n] at *; omega

theorem fread_wf {b : Buf} (h : WF b) (k : Nat) : WF (fread b k) := by
  refine ⟨?_, ?_, ?_, h.hps, ?_, ?_⟩
  · show b.src.drop b.base = (b.mem ++ b.rest.take k) ++ b.rest.drop k
    rw [List.append_assoc, List.take_append_drop]; exact h.hwin
  · show b.pos ≤ (b.mem ++ b.rest.take k).length
    have := h.hpos; simp only [List.length_append, Buf.n] at *; omega
  · intro a ha
    show a ≤ (b.mem ++ b.rest.take k).length
    have := h.hanch a ha; simp only [List.length_append, Buf.n] at *; omega
  · intro he
    show b.rest.drop k = []
    simp only [fread, Bool.or_eq_true, decide_eq_true_eq, List.length_take] at he
    rcases he with he | he
    · simp [h.heof he]
    · apply List.drop_eq_nil_of_le; omega
  · intro hf
    show b.rest.drop k = []
    simp [h.hnofp hf]

theorem fread_frame (b : Buf) (k : Nat) : Frame b (fread b k) := by
  refine ⟨rfl, rfl, rfl, rfl, rfl, ?_⟩
  show b.n - b.pos ≤ (b.mem ++ b.rest.take k).length - b.pos
  simp only [List.length_append, Buf.n]; omega

theorem fread_n (b : Buf) (k : Nat) : (fread b k).n = b.n + min k b.rest.length := by
  show (b.mem ++ b.rest.take k).length = _
  simp [List.length_append, List.length_take, Buf.n]

theorem shiftLeft_spec {b : Buf} (h : WF b) :
    ∃ b1, shiftLeft b = some b1 ∧ WF b1 ∧ Frame b b1 ∧ b1.rest = b.rest ∧ b1.n - b1.pos = b.n - b.pos := by
  have hp := h.hpos
  unfold shiftLeft
  by_cases hpin : pinned b = true
  · rw [if_pos hpin]; exact ⟨b, rfl, h, Frame.refl b, rfl, rfl⟩
  rw [if_neg hpin]
  unfold shiftLeft0
  split
  · cases ha : b.anchor with
    | none =>
      exact ⟨_, rfl, dropFront_wf h b.pos (Nat.le_refl _) (by simp [ha]), dropFront_frame b b.pos (Nat.le_refl _) hp, rfl,
        dropFront_avail b b.pos (Nat.le_refl _) hp⟩
    | some a =>
      have han := h.hanch a ha
      by_cases hap : a ≤ b.pos
      · simp only [hap, if_true]
        have hwf0 : WF { b with anchor := some 0 } :=
          ⟨h.hwin, h.hpos, by intro x hx; simp at hx; omega, h.hps, h.heof, h.hnofp⟩
        have hfr0 : Frame b { b with anchor := some 0 } := ⟨rfl, rfl, rfl, rfl, rfl, Nat.le_refl _⟩
        exact ⟨_, rfl, dropFront_wf hwf0 a hap (by intro x hx; simp at hx; show x + a ≤ b.n; omega),
          hfr0.trans (dropFront_frame { b with anchor := some 0 } a hap hp), rfl,
          dropFront_avail { b with anchor := some 0 } a hap hp⟩
      · -- an anchor ahead of the cursor (b86a62d): everything from the cursor on is kept, the anchor moves with it
        simp only [hap, if_false]
        have hwf0 : WF { b with anchor := some (a - b.pos) } :=
          ⟨h.hwin, h.hpos, by intro x hx; simp at hx; show x ≤ b.n; omega, h.hps, h.heof, h.hnofp⟩
        have hfr0 : Frame b { b with anchor := some (a - b.pos) } := ⟨rfl, rfl, rfl, rfl, rfl, Nat.le_refl _⟩
        exact ⟨_, rfl, dropFront_wf hwf0 b.pos (Nat.le_refl _) (by intro x hx; simp at hx; show x + b.pos ≤ b.n; omega),
          hfr0.trans (dropFront_frame { b with anchor := some (a - b.pos) } b.pos (Nat.le_refl _) hp), rfl,
          dropFront_avail { b with anchor := some (a - b.pos) } b.pos (Nat.le_refl _) hp⟩
  · exact ⟨b, rfl, h, Frame.refl b, rfl, rfl⟩

theorem grow_spec {b : Buf} (h : WF b) :
    WF (grow b) ∧ Frame b (grow b) ∧ (grow b).rest = b.rest ∧ (grow b).mem = b.mem ∧ (grow b).pos = b.pos
      ∧ (grow b).pagesize = b.pagesize := by
  unfold grow
  by_cases hpin : pinned b = true
  · rw [if_pos hpin]
    unfold growR
    split
    · exact ⟨⟨h.hwin, h.hpos, h.hanch, h.hps, h.heof, h.hnofp⟩, ⟨rfl, rfl, rfl, rfl, rfl, Nat.le_refl _⟩, rfl, rfl, rfl, rfl⟩
    · exact ⟨h, Frame.refl b, rfl, rfl, rfl, rfl⟩
  rw [if_neg hpin]
  unfold grow0
  split
  · exact ⟨⟨h.hwin, h.hpos, h.hanch, h.hps, h.heof, h.hnofp⟩, ⟨rfl, rfl, rfl, rfl, rfl, Nat.le_refl _⟩, rfl, rfl, rfl, rfl⟩
  · exact ⟨h, Frame.refl b, rfl, rfl, rfl, rfl⟩

/-- Contract of `buffer_refill` on a well-formed buffer. -/
structure RefillPost (b : Buf) (nmin : Nat) (st : St) (b' : Buf) : Prop where
  wf : WF b'
  frame : Frame b b'
  status : st = .ok ∨ st = .eof
  /-- `eslEOF` means: nothing loaded after the cursor and nothing left in the stream -/
  eof_imp : st = .eof → b'.pos = b'.n ∧ b'.rest = []
  /-- one call is enough to restore the page guarantee when `nmin` bytes were already there -/
  guarantee : nmin ≤ b.n - b.pos → nmin + b'.pagesize ≤ b'.n - b'.pos ∨ b'.rest = []
  /-- no progress, although more was wanted, only if the stream is exhausted -/
  noprog : b'.n - b'.pos = b.n - b.pos → b.n - b.pos < nmin + b.pagesize → b'.rest = []
  /-- the stream only shrinks -/
  restle : b'.rest.length ≤ b.rest.length
  /-- progress consumes the stream -/
  prog : b.n - b.pos < b'.n - b'.pos → b'.rest.length < b.rest.length

theorem load_post {b : Buf} (h : WF b) : RefillPost b 0 (load b).1 (load b).2
    ∧ (load b).2.n - (load b).2.pos = b.n - b.pos + min b.pagesize b.rest.length
    ∧ (load b).2.rest = b.rest.drop b.pagesize
    ∧ ((load b).1 = .ok → (load b).2.pos < (load b).2.n) := by
  have hp := h.hpos
  have hps := h.hps
  have hn3 := fread_n b b.pagesize
  have hpos3 : (fread b b.pagesize).pos = b.pos := rfl
  have hrest3 : (fread b b.pagesize).rest = b.rest.drop b.pagesize := rfl
  have hps3 : (fread b b.pagesize).pagesize = b.pagesize := rfl
  have e1 : (load b).1 = if min b.pagesize b.rest.length = 0 ∧ (fread b b.pagesize).pos = (fread b b.pagesize).n then St.eof else St.ok := rfl
  have e2 : (load b).2 = fread b b.pagesize := rfl
  rw [e1, e2]
  refine ⟨⟨fread_wf h _, fread_frame b _, ?_, ?_, ?_, ?_, ?_, ?_⟩, ?_, hrest3, ?_⟩
  · split <;> simp
  · split
    · rename_i hc
      intro _
      refine ⟨hc.2, ?_⟩
      rw [hrest3]
      have : b.rest.length = 0 := by have := hc.1; omega
      simp [List.eq_nil_of_length_eq_zero this]
    · intro hh; cases hh
  · intro _
    rw [hn3, hpos3, hrest3, hps3]
    by_cases hfull : b.pagesize ≤ b.rest.length
    · left
      rw [Nat.min_eq_left hfull]; omega
    · right; apply List.drop_eq_nil_of_le; omega
  · intro heq _
    rw [hn3, hpos3] at heq
    rw [hrest3]
    have : b.rest.length = 0 := by omega
    simp [List.eq_nil_of_length_eq_zero this]
  · rw [hrest3]; simp
  · intro hlt
    rw [hn3, hpos3] at hlt
    rw [hrest3]
    simp only [List.length_drop]; omega
  · rw [hn3, hpos3]; omega
  · -- `eslOK`: something was read, or bytes were left behind the cursor
    intro hok
    split at hok
    · cases hok
    · rename_i hc
      rw [hn3, hpos3] at hc ⊢
      by_cases hz : min b.pagesize b.rest.length = 0
      · have : ¬ b.pos = b.n + min b.pagesize b.rest.length := fun hh => hc ⟨hz, hh⟩
        omega
      · omega

/-- the contract of `buffer_refill`; and `eslOK` means that a byte is loaded behind the cursor -/
theorem refill_run (b : Buf) (nmin : Nat) (h : WF b) : RefillPost b nmin (refill b nmin).1 (refill b nmin).2 ∧
    ((refill b nmin).1 = .ok → (refill b nmin).2.pos < (refill b nmin).2.n) := by
  have hp := h.hpos
  have hps := h.hps
  unfold refill
  split
  · -- no stream, or stream at EOF
    rename_i hc
    have hrest : b.rest = [] := by
      simp only [Bool.or_eq_true, Bool.not_eq_true'] at hc
      rcases hc with hc | hc
      · exact h.hnofp hc
      · exact h.heof hc
    dsimp only
    refine ⟨⟨h, Frame.refl b, ?_, ?_, (fun _ => Or.inr hrest), (fun _ _ => hrest), Nat.le_refl _, (fun hh => by omega)⟩, ?_⟩
    · split <;> simp
    · split
      · intro hh; cases hh
      · intro _; exact ⟨by omega, hrest⟩
    · split
      · intro _; assumption
      · intro hh; cases hh
  · split
    · -- enough data already
      rename_i hc
      dsimp only
      exact ⟨⟨h, Frame.refl b, Or.inl rfl, (fun hh => by cases hh), (fun _ => Or.inl hc.1), (fun _ hlt => by omega), Nat.le_refl _,
        (fun hh => by omega)⟩, fun _ => by omega⟩
    · split
      · omega
      · -- the reading path
        obtain ⟨b1, hb1, hwf1, hfr1, hrest1, hav1⟩ := shiftLeft_spec h
        rw [hb1]
        dsimp only
        obtain ⟨hwf2, hfr2, hr2, hm2, hpos2, hps2⟩ := grow_spec hwf1
        obtain ⟨hl, hln, hlr, hlok⟩ := load_post hwf2
        have hav2 : (grow b1).n - (grow b1).pos = b.n - b.pos := by
          have : (grow b1).n = b1.n := by simp [Buf.n, hm2]
          rw [this, hpos2]; exact hav1
        have hpsb : (grow b1).pagesize = b.pagesize := by rw [hps2]; exact hfr1.ps
        have hrb : (grow b1).rest = b.rest := by rw [hr2, hrest1]
        have hps2' := hwf2.hps
        refine ⟨⟨hl.wf, (hfr1.trans hfr2).trans hl.frame, hl.status, hl.eof_imp, ?_, ?_, ?_, ?_⟩, hlok⟩
        · intro hmin
          rw [hln, hlr, hl.frame.ps, hav2]
          by_cases hfull : (grow b1).pagesize ≤ (grow b1).rest.length
          · left; rw [Nat.min_eq_left hfull]; omega
          · right; apply List.drop_eq_nil_of_le; omega
        · intro heq _
          rw [hln, hav2] at heq
          rw [hlr]
          have : (grow b1).rest.length = 0 := by omega
          simp [List.eq_nil_of_length_eq_zero this]
        · have := hl.restle; rw [hrb] at this; exact this
        · intro hlt
          have := hl.prog (by rw [hav2]; exact hlt)
          rw [hrb] at this; exact this

theorem refill_post (b : Buf) (nmin : Nat) (h : WF b) : RefillPost b nmin (refill b nmin).1 (refill b nmin).2 :=
  (refill_run b nmin h).1

theorem refill_wf (b : Buf) (nmin : Nat) (h : WF b) : WF (refill b nmin).2 := (refill_post b nmin h).wf

end EaselModel.Buffer
