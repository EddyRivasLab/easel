import EaselModel.Buffer.TotalHist
import EaselModel.Buffer.MemSpecStep
import EaselModel.Buffer.Quiet
/-! # The whole-input modes, exactly, for EVERY history

In the modes that hold the whole input (`OpenMem` string, slurped file, mmap, short pipe: `fp == NULL`) nothing depends on
what happens to be loaded, so the outcome of every call with every argument is a function of "bytes + cursor" alone:
`memStep`. Anchors are documented no-ops, `SetOffset` goes anywhere up to the end of the input and answers `eslEINVAL`
beyond it (4515997). Here the relation `Total` of `history_total` collapses to an equation, without any API contract. -/
namespace EaselModel.Buffer

/-- simulation relation of the whole-input modes: `R`, no stream, no anchor record -/
structure RM (P : Nat) (a : AState) (s : Sess) : Prop where
  r : R P a s
  nofp : s.b.hasfp = false
  noanch : a.anchor = none

theorem nofp_step (s : Sess) (op : Op) (hf : s.b.hasfp = false) (hm : s.b.mode ≠ .file) : (s.step op).2.b.hasfp = false := by
  rw [step_b]
  by_cases hst : ∃ o, op = .setStableAnchor o
  · obtain ⟨o, rfl⟩ := hst
    show (setStableAnchor s.b o).2.hasfp = false
    rw [setStableAnchor_nofp s.b o hf]; exact hf
  · have key := quiet_step_q s.b s.lastp op (Or.inl hf) (fun o ho => hst ⟨o, ho⟩) (fun o _ hh => hm hh.1)
    rw [key.fp]; exact hf

theorem specStep_anchor_none (a : AState) (op : Op) (h : a.anchor = none)
    (hop : ∀ o, op ≠ .setAnchor o ∧ op ≠ .setStableAnchor o) : (specStep a op).2.anchor = none := by
  have hb : ∀ t, aBrk a t = a := fun t => aBrk_of_le a t (fun A hA => by rw [h] at hA; cases hA)
  cases op with
  | getLine | fetchLine | fetchLineStr => show (aBrk a a.cur).anchor = none; rw [hb]; exact h
  | getToken sep | fetchToken sep | fetchTokenStr sep =>
    -- the bracket is taken only on `eslOK`, and it changes nothing here
    simp only [specStep, hb]
    split <;> exact h
  | read k | set k | getOffset | setOffset o => exact h
  | get => show (if a.cur < a.src.length then _ else _ : Obs × AState).2.anchor = none; split <;> exact h
  | setAnchor o => exact absurd rfl (hop o).1
  | setStableAnchor o => exact absurd rfl (hop o).2
  | raiseAnchor o => show (aRaise a o).anchor = none; rw [aRaise_none a o h]; exact h

theorem R.mem_len {P : Nat} {a : AState} {s : Sess} (r : R P a s) (hf : s.b.hasfp = false) : s.b.n = a.src.length := by
  have hb0 := r.base0 hf
  have hrest := r.wf.hnofp hf
  have := congrArg List.length r.wf.hwin
  rw [hrest, hb0, List.append_nil, List.drop_zero, r.src] at this
  simp only [Buf.n]; omega

/-- **One step in a whole-input mode, any argument**: the observation and the next state are `memStep`'s. -/
theorem mem_step (P : Nat) (op : Op) (a : AState) (s : Sess) (m : RM P a s) (hs : CallerOk s op) :
    obsOf op (s.step op).1 (s.step op).2 = (memStep a op).1 ∧ RM P (memStep a op).2 (s.step op).2 := by
  have r := m.r
  have hf := m.nofp
  have hmm : memMode s.b.mode := r.modefp.mp hf
  have hmode : s.b.mode ≠ .file := by rcases hmm with h | h | h <;> rw [h] <;> intro hh <;> cases hh
  have hfp' := nofp_step s op hf hmode
  -- the operations whose specification is `specStep` and whose contract is empty (or `CallerOk`)
  have viaSim : memStep a op = specStep a op → (∀ o, op ≠ .setAnchor o ∧ op ≠ .setStableAnchor o) →
      (obsOf op (s.step op).1 (s.step op).2 = (specStep a op).1 ∧ R P (specStep a op).2 (s.step op).2) →
      obsOf op (s.step op).1 (s.step op).2 = (memStep a op).1 ∧ RM P (memStep a op).2 (s.step op).2 := by
    intro e hop h
    rw [e]
    exact ⟨h.1, h.2, hfp', specStep_anchor_none a op m.noanch hop⟩
  cases op with
  | getLine | fetchLine | fetchLineStr | getToken sep | fetchToken sep | fetchTokenStr sep | read k | get | getOffset =>
    exact viaSim rfl (fun _ => ⟨(fun h => by cases h), (fun h => by cases h)⟩) (sim_all P _ a s r trivial)
  | set k => exact viaSim rfl (fun _ => ⟨(fun h => by cases h), (fun h => by cases h)⟩) (sim_set_callerOk P k a s r hs)
  | raiseAnchor o =>
    have h := sim_raiseAnchor P o a s r trivial
    have e : specStep a (.raiseAnchor o) = (⟨.ok, [], a.cur⟩, { a with lastp := none }) := by
      show ((⟨.ok, [], a.cur⟩ : Obs), ({ aRaise a o with lastp := none } : AState)) = _
      rw [aRaise_none a o m.noanch]
    rw [e] at h
    exact ⟨h.1, h.2, hfp', m.noanch⟩
  | setAnchor o =>
    have e : setAnchor s.b o = (.ok, s.b) := setAnchor_nofp s.b o hf
    refine ⟨?_, r.unchanged (by show (setAnchor s.b o).2 = s.b; rw [e]) rfl, hfp', m.noanch⟩
    show (⟨(setAnchor s.b o).1, [], (setAnchor s.b o).2.base + (setAnchor s.b o).2.pos⟩ : Obs) = ⟨.ok, [], a.cur⟩
    rw [e, r.cur]
  | setStableAnchor o =>
    have e : setStableAnchor s.b o = (.ok, s.b) := setStableAnchor_nofp s.b o hf
    refine ⟨?_, r.unchanged (by show (setStableAnchor s.b o).2 = s.b; rw [e]) rfl, hfp', m.noanch⟩
    show (⟨(setStableAnchor s.b o).1, [], (setStableAnchor s.b o).2.base + (setStableAnchor s.b o).2.pos⟩ : Obs) = ⟨.ok, [], a.cur⟩
    rw [e, r.cur]
  | setOffset o =>
    have hcur : a.cur ≤ a.src.length := by
      have := r.mem_len hf; have := r.base0 hf; have := r.cur; have := r.wf.hpos; omega
    obtain ⟨hle, h, hr⟩ | ⟨_, hgt, h, hr⟩ | ⟨hn, _⟩ | ⟨hn, _⟩ | ⟨hn, _⟩ := setOffset_run P o a s r
    · have em : memStep a (.setOffset o) = (⟨.ok, [], o⟩, { a with cur := o, lastp := none }) := by
        show (if a.src.length < o then _ else _) = _; rw [if_neg (by omega)]
      rw [em]; exact ⟨h, hr, hfp', m.noanch⟩
    · have em : memStep a (.setOffset o) = (⟨.einval, [], a.cur⟩, { a with lastp := none }) := by
        show (if a.src.length < o then _ else _) = _; rw [if_pos hgt]
      rw [em]; exact ⟨h, hr, hfp', m.noanch⟩
    · exact absurd hmm hn
    · exact absurd hmm hn
    · exact absurd hmm hn

theorem mem_run (P : Nat) (ops : List Op) : ∀ (a : AState) (s : Sess), RM P a s → CallerOkRun s ops → obsRun s ops = memRun a ops := by
  induction ops with
  | nil => intro _ _ _ _; rfl
  | cons op ops ih =>
    intro a s m hs
    obtain ⟨h1, h2⟩ := mem_step P op a s m hs.1
    show _ :: _ = _ :: _
    rw [h1, ih _ _ h2 hs.2]

def wholeInput (mode : Mode) (ps : Nat) (src : Bytes) : Prop :=
  mode = .string ∨ mode = .mmap ∨ mode = .allfile ∨ (mode = .cmdpipe ∧ src.length < ps)

theorem open_nofp (mode : Mode) (ps : Nat) (src : Bytes) (h : wholeInput mode ps src) : (openBuf mode ps src).hasfp = false := by
  rcases h with h | h | h | ⟨h, hl⟩
  · rw [h]; rfl
  · rw [h]; rfl
  · rw [h]; rfl
  · rw [h]
    unfold openBuf
    dsimp only
    have : (openPaged src ps .cmdpipe).n < ps := by
      show (([] : Bytes) ++ src.take ps).length < ps
      simp only [List.nil_append, List.length_take]; omega
    rw [if_pos this]

/-- **Whole-input modes, every history, no API contract**: the observations are `memRun`'s — a function of the input bytes
    and the history alone. -/
theorem history_memory_exact (mode : Mode) (ps : Nat) (src : Bytes) (hps : 0 < ps) (hm : wholeInput mode ps src) (ops : List Op)
    (hs : CallerOkRun { b := openBuf mode ps src } ops) :
    obsRun { b := openBuf mode ps src } ops = memRun (AState.init src) ops :=
  mem_run ps ops _ _ ⟨open_R mode ps src hps ps (Nat.le_refl _), open_nofp mode ps src hm, rfl⟩ hs

end EaselModel.Buffer
