import EaselModel.Buffer.MemStrLemmas
/-! `esl_mem_IsReal`: the loops of `Mem.lean` against `isRealSpec` (MemSpec.lean). Core Lean only. -/
namespace EaselModel.Buffer.Mem
open EaselModel.Buffer

theorem digit_class {c : UInt8} (h : isdigitB c = true) : isspaceB c = false ∧ c ≠ 46 ∧ c ≠ 101 ∧ c ≠ 69 := by
  unfold isdigitB at h; unfold isspaceB
  simp at h
  refine ⟨?_, ?_, ?_, ?_⟩
  · simp; omega
  · intro e; subst e; simp at h
  · intro e; subst e; simp at h
  · intro e; subst e; simp at h

theorem dot_e_nospace {c : UInt8} (h : c = 46 ∨ c = 101 ∨ c = 69) : isspaceB c = false := by
  rcases h with h | h | h <;> subst h <;> decide

theorem realLoop_eq (p : Bytes) : ∀ (l : Bytes) (i : Nat) (gd ge gr : Bool), p.drop i = l →
    realLoop p i gd ge gr =
      some (if realBodyOK gd ge (l.takeWhile (fun c => !isspaceB c)) then
              some (i + (l.takeWhile (fun c => !isspaceB c)).length, gr || (l.takeWhile (fun c => !isspaceB c)).any isdigitB)
            else none) := by
  intro l
  induction l with
  | nil =>
    intro i gd ge gr h
    have : ¬ i < p.length := by
      intro hlt; rw [List.drop_eq_getElem_cons hlt] at h; cases h
    rw [realLoop]; simp [this, realBodyOK]
  | cons c cs ih =>
    intro i gd ge gr h
    obtain ⟨hg, hd, hlt⟩ := get_of_drop h
    rw [realLoop]
    simp only [hlt, if_true, hg]
    by_cases h1 : isdigitB c = true
    · obtain ⟨hs, h46, h101, h69⟩ := digit_class h1
      have hE : isE c = false := by simp [isE, h101, h69]
      simp only [h1, if_true, List.takeWhile_cons, hs, Bool.not_false, realBodyOK, h46, if_false, hE, Bool.false_eq_true,
        List.length_cons, List.any_cons, Bool.true_or, Bool.or_true]
      rw [ih (i + 1) gd ge true hd]
      simp only [Bool.true_or, Nat.add_assoc, Nat.add_comm 1]
    · simp only [h1, Bool.false_eq_true, if_false]
      by_cases h2 : c = 46
      · have hs := dot_e_nospace (Or.inl h2)
        simp only [h2, if_true, List.takeWhile_cons] at hs ⊢
        simp only [hs, Bool.not_false, if_true, realBodyOK]
        cases gd <;> cases ge <;> simp only [Bool.false_eq_true, if_false, if_true, Bool.not_true, Bool.not_false, Bool.false_and, Bool.true_and, Bool.and_false]
        · rw [ih (i + 1) true false gr hd]
          subst h2
          simp [Nat.add_assoc, Nat.add_comm 1, isdigitB]
      · simp only [h2, if_false]
        by_cases h3 : c = 101 ∨ c = 69
        · have hs := dot_e_nospace (Or.inr h3)
          have hE : isE c = true := by rcases h3 with h | h <;> subst h <;> decide
          simp only [h3, if_true, List.takeWhile_cons, hs, Bool.not_false, realBodyOK, h2, if_false, hE]
          cases ge <;> simp only [Bool.false_eq_true, if_false, if_true, Bool.not_true, Bool.not_false, Bool.false_and, Bool.true_and]
          · rw [ih (i + 1) gd true gr hd]
            simp [Nat.add_assoc, Nat.add_comm 1, h1]
        · have hE : isE c = false := by
            simp only [isE]; simp only [not_or] at h3; simp [h3.1, h3.2]
          simp only [h3, if_false]
          by_cases h4 : isspaceB c = true
          · simp [h4, realBodyOK]
          · simp only [List.takeWhile_cons, Bool.not_eq_true] at *
            simp only [h4, Bool.not_false, if_true, realBodyOK, h2, if_false, hE, Bool.false_eq_true]
            rw [ih (i + 1) gd ge gr hd]
            simp [Nat.add_assoc, Nat.add_comm 1, h1]

theorem sign_step_real (p : Bytes) (i0 : Nat) (h0 : i0 ≤ p.length) :
    ∃ i1, (if i0 < p.length then (p[i0]?).map (fun c => if c = 45 ∨ c = 43 then i0 + 1 else i0) else some i0) = some i1 ∧
      i1 ≤ p.length ∧
      p.drop i1 = stripSign (p.drop i0) := by
  by_cases hlt : i0 < p.length
  · have hg : p[i0]? = some p[i0] := List.getElem?_eq_getElem hlt
    have hd := drop_of_get hg
    rw [if_pos hlt, hg, hd]
    by_cases hc : p[i0] = 45 ∨ p[i0] = 43
    · refine ⟨i0 + 1, by simp only [Option.map_some, if_pos hc], by omega, ?_⟩
      show _ = (if p[i0] = 45 ∨ p[i0] = 43 then _ else _); rw [if_pos hc]
    · refine ⟨i0, by simp only [Option.map_some, if_neg hc], by omega, ?_⟩
      show _ = (if p[i0] = 45 ∨ p[i0] = 43 then _ else _); rw [if_neg hc]; exact hd
  · exact ⟨i0, by simp [hlt], h0, by simp [drop_nil_of_ge hlt, stripSign]⟩

theorem memIsReal_eq (p : Bytes) : memIsReal (some p) = some (isRealSpec p) := by
  unfold memIsReal isRealSpec
  simp only []
  by_cases hp : p.length = 0
  · have : p = [] := List.eq_nil_of_length_eq_zero hp
    subst this; simp
  · have hne : p.isEmpty = false := by cases p <;> simp at hp ⊢
    rw [if_neg hp, wsLoop_eq p p 0 (by simp), Nat.zero_add]
    simp only []
    obtain ⟨i1, h1, hle, hdrop⟩ := sign_step_real p (runLen isspaceB p) (runLen_le _ _)
    rw [h1]
    simp only []
    rw [drop_runLen] at hdrop
    rw [← hdrop, realLoop_eq p _ i1 false false false rfl]
    by_cases hb : realBodyOK false false ((p.drop i1).takeWhile (fun c => !isspaceB c)) = true
    · simp only [hb, if_true, Bool.false_or]
      rw [wsLoop_eq p _ _ rfl]
      simp only []
      have e1 : p.drop (i1 + ((p.drop i1).takeWhile (fun c => !isspaceB c)).length) = (p.drop i1).dropWhile (fun c => !isspaceB c) := by
        rw [← List.drop_drop, ← runLen_eq_takeWhile, drop_runLen]
      rw [e1]
      have hl1 := len_split (fun c => !isspaceB c) (p.drop i1)
      have hl2 : (p.drop i1).length = p.length - i1 := List.length_drop
      have hiff := runLen_eq_length_iff isspaceB ((p.drop i1).dropWhile (fun c => !isspaceB c))
      have hall : (i1 + ((p.drop i1).takeWhile (fun c => !isspaceB c)).length + runLen isspaceB ((p.drop i1).dropWhile (fun c => !isspaceB c)) == p.length)
          = ((p.drop i1).dropWhile (fun c => !isspaceB c)).all isspaceB := by
        rw [Bool.eq_iff_iff]
        simp only [beq_iff_eq, List.all_eq_true]
        rw [← hiff]; omega
      rw [hall, hne]
      simp [Bool.and_comm]
    · simp only [Bool.not_eq_true] at hb
      simp [hb, hne]

theorem memIsReal_ne_none (p : Option Bytes) : memIsReal p ≠ none := by
  cases p with
  | none => simp [memIsReal]
  | some p => rw [memIsReal_eq]; simp

end EaselModel.Buffer.Mem
