import EaselModel.Buffer.Model
/-! What is still asked of a caller of `esl_buffer.c` once the API contract is dropped: `CallerOk`, one clause, as a
proposition and as the executable test that the driver (and, on the real `ESL_BUFFER`, the harness) applies before a
`tryset` operation. Core Lean only (the driver links this file). -/
namespace EaselModel.Buffer

/-- **The only call whose outcome the documentation leaves undefined**: `esl_buffer_Set(bf, p, nused)` with `p + nused`
    beyond the bytes that the preceding `Get*` call exposed (documented: "the caller has parsed `nused` bytes of
    `p[0..n-1]`"; the code does not check it: in a stream it answers `eslEINCONCEIVABLE` from `buffer_refill` and leaves
    the cursor outside the window, in a whole-input buffer it answers `eslOK` with the cursor beyond the end; the next
    read copies from outside the buffer). Every other call of the 14 operations has an outcome defined by the code for
    every argument: anchors anywhere (`eslEINVAL` outside the window; ahead of the cursor the code copes since b86a62d),
    `SetOffset` anywhere (`eslEINVAL` beyond the end since 4515997, or for a rewind that has left the window),
    `RaiseAnchor` of any offset, `Read` of any count, tokens with any separator set. -/
def CallerOk (s : Sess) : Op → Prop
  | .set k => ∀ i, s.lastp = some i → i + k ≤ s.b.n
  | _ => True

/-- executable form (the driver and the harness evaluate the same predicate on their own state before a `tryset`) -/
def callerOkB (s : Sess) : Op → Bool
  | .set k => match s.lastp with
    | some i => decide (i + k ≤ s.b.n)
    | none => true
  | _ => true

theorem callerOkB_iff (s : Sess) (op : Op) : callerOkB s op = true ↔ CallerOk s op := by
  cases op with
  | set k =>
    simp only [callerOkB, CallerOk]
    cases s.lastp with
    | none => simp
    | some i => simp
  | setOffset o | setAnchor o | setStableAnchor o | getLine | fetchLine | fetchLineStr | getToken sep | fetchToken sep
  | fetchTokenStr sep | read k | get | getOffset | raiseAnchor o => simp [callerOkB, CallerOk]

instance (s : Sess) (op : Op) : Decidable (CallerOk s op) := decidable_of_iff _ (callerOkB_iff s op)

end EaselModel.Buffer
