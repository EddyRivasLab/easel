import EaselModel.Buffer.SimSetOffset
/-! Whole histories: the model follows the specification; mode and page-size independence. -/
namespace EaselModel.Buffer

theorem sim_all (P : Nat) (op : Op) : SimStep P op := by
  cases op with
  | getLine => exact sim_getLine P
  | fetchLine => exact sim_fetchLine P
  | fetchLineStr => exact sim_fetchLineStr P
  | getToken sep => exact sim_getToken P sep
  | fetchToken sep => exact sim_fetchToken P sep
  | fetchTokenStr sep => exact sim_fetchTokenStr P sep
  | read k => exact sim_read P k
  | get => exact sim_get P
  | set k => exact sim_set P k
  | getOffset => exact sim_getOffset P
  | setOffset o => exact sim_setOffset P o
  | setAnchor o => exact sim_setAnchor P o
  | setStableAnchor o => exact sim_setStableAnchor P o
  | raiseAnchor o => exact sim_raiseAnchor P o

theorem history_refines (P : Nat) (ops : List Op) : ∀ (a : AState) (s : Sess), R P a s → ValidHist P a ops →
    obsRun s ops = specRun a ops := by
  induction ops with
  | nil => intro a s _ _; rfl
  | cons op ops ih =>
    intro a s r hv
    obtain ⟨h1, h2⟩ := sim_all P op a s r hv.1
    show _ :: _ = _ :: _
    rw [h1, ih _ _ h2 hv.2]

theorem open_R (mode : Mode) (ps : Nat) (src : Bytes) (hps : 0 < ps) (P : Nat) (hP : P ≤ ps) :
    R P (AState.init src) { b := openBuf mode ps src } := by
  obtain ⟨w, g, ab⟩ := openBuf_wf mode ps src hps
  have hsrc : (openBuf mode ps src).src = src := congrArg Abs.src ab
  have hcur : (openBuf mode ps src).base + (openBuf mode ps src).pos = 0 := congrArg Abs.cur ab
  have hfacts : (openBuf mode ps src).anchor = none ∧ (openBuf mode ps src).pagesize = ps ∧ (openBuf mode ps src).base = 0 ∧
      ((openBuf mode ps src).hasfp = false ↔ memMode (openBuf mode ps src).mode) := by
    cases mode with
    | string => exact ⟨rfl, rfl, rfl, ⟨fun _ => Or.inr (Or.inr rfl), fun _ => rfl⟩⟩
    | mmap => exact ⟨rfl, rfl, rfl, ⟨fun _ => Or.inr (Or.inl rfl), fun _ => rfl⟩⟩
    | allfile => exact ⟨rfl, rfl, rfl, ⟨fun _ => Or.inl rfl, fun _ => rfl⟩⟩
    | stream =>
      refine ⟨rfl, rfl, rfl, ⟨(fun h => by cases h), (fun h => ?_)⟩⟩
      rcases h with h | h | h <;> cases h
    | file =>
      refine ⟨rfl, rfl, rfl, ⟨(fun h => by cases h), (fun h => ?_)⟩⟩
      rcases h with h | h | h <;> cases h
    | cmdpipe =>
      unfold openBuf
      dsimp only
      split
      · exact ⟨rfl, rfl, rfl, ⟨fun _ => Or.inl rfl, fun _ => rfl⟩⟩
      · refine ⟨rfl, rfl, rfl, ⟨(fun h => by cases h), (fun h => ?_)⟩⟩
        rcases h with h | h | h <;> cases h
  obtain ⟨f1, f2, f3, f4⟩ := hfacts
  refine ⟨w, g, ?_, fun _ => f1, hsrc, hcur, by rw [f2]; exact hP, f4, fun _ => f3, ?_, ?_, rfl, ?_⟩
  · intro x hx; rw [f1] at hx; cases hx
  · intro _
    refine ⟨?_, fun hh => absurd rfl hh⟩
    show (openBuf mode ps src).absAnchor = none
    simp [Buf.absAnchor, f1]
  · intro A hA; cases hA
  · intro p hp; cases hp

/-- **Refinement of whole histories.** For every input, every opening mode, every page size `ps ≥ 1`, and every
    operation history within the API contract (for the smallest page size `P ≤ ps` in play): the statuses, returned
    bytes and offsets observed on the model of `esl_buffer.c` are exactly those of the specification
    "bytes + cursor" — no bound on the input, the page size or the length of the history. -/
theorem history_spec (mode : Mode) (ps : Nat) (src : Bytes) (hps : 0 < ps) (P : Nat) (hP : P ≤ ps)
    (ops : List Op) (hv : ValidHist P (AState.init src) ops) :
    obsRun { b := openBuf mode ps src } ops = specRun (AState.init src) ops :=
  history_refines P ops _ _ (open_R mode ps src hps P hP) hv

/-- **Mode and page-size independence** of whole histories. -/
theorem history_mode_independent (src : Bytes) (m₁ m₂ : Mode) (ps₁ ps₂ P : Nat) (h₁ : 0 < ps₁) (h₂ : 0 < ps₂)
    (hP₁ : P ≤ ps₁) (hP₂ : P ≤ ps₂) (ops : List Op) (hv : ValidHist P (AState.init src) ops) :
    obsRun { b := openBuf m₁ ps₁ src } ops = obsRun { b := openBuf m₂ ps₂ src } ops := by
  rw [history_spec m₁ ps₁ src h₁ P hP₁ ops hv, history_spec m₂ ps₂ src h₂ P hP₂ ops hv]

theorem specGetLine_st (a : Abs) : (specGetLine a).1 = .ok ∨ (specGetLine a).1 = .eof := by
  unfold specGetLine
  cases specLine a.suffix with
  | none => exact Or.inr rfl
  | some x => exact Or.inl rfl

theorem specRead_st (a : Abs) (k : Nat) : (specRead a k).1 = .ok ∨ (specRead a k).1 = .eof := by
  unfold specRead
  split
  · exact Or.inr rfl
  · exact Or.inl rfl

theorem specToken_st (a : Abs) (sep : Bytes) :
    (specToken a sep).1 = .ok ∨ (specToken a sep).1 = .eof ∨ (specToken a sep).1 = .eol := by
  have e : (specToken a sep).1 = (specTok sep a.suffix).1 := rfl
  rw [e]
  unfold specTok
  simp only []
  split
  · exact Or.inr (Or.inl rfl)
  · split
    · exact Or.inr (Or.inr rfl)
    · exact Or.inl rfl

theorem specStep_st (a : AState) (op : Op) :
    (specStep a op).1.st = .ok ∨ (specStep a op).1.st = .eof ∨ (specStep a op).1.st = .eol := by
  cases op with
  | getLine | fetchLine | fetchLineStr =>
    rcases specGetLine_st a.abs with h | h
    · exact Or.inl h
    · exact Or.inr (Or.inl h)
  | getToken sep | fetchToken sep | fetchTokenStr sep => exact specToken_st a.abs sep
  | read k => rcases specRead_st a.abs k with h | h; exact Or.inl h; exact Or.inr (Or.inl h)
  | get =>
    by_cases hc : a.cur < a.src.length
    · left; show (if a.cur < a.src.length then _ else _ : Obs × AState).1.st = .ok
      rw [if_pos hc]
    · right; left; show (if a.cur < a.src.length then _ else _ : Obs × AState).1.st = .eof
      rw [if_neg hc]
  | set k | getOffset | setOffset o | setAnchor o | setStableAnchor o | raiseAnchor o => exact Or.inl rfl

theorem specRun_st (ops : List Op) : ∀ (a : AState), ∀ o ∈ specRun a ops, o.st = .ok ∨ o.st = .eof ∨ o.st = .eol := by
  induction ops with
  | nil => intro a o ho; cases ho
  | cons op ops ih =>
    intro a o ho
    rcases List.mem_cons.mp ho with h | h
    · rw [h]; exact specStep_st a op
    · exact ih _ o h

/-- Along every valid history no operation of the model ends in `fault` (an out-of-bounds access, a cursor outside the
    window, a loop out of fuel) or in an internal error status: the statuses are `eslOK`, `eslEOF`, `eslEOL` only. -/
theorem history_no_fault (mode : Mode) (ps : Nat) (src : Bytes) (hps : 0 < ps) (P : Nat) (hP : P ≤ ps)
    (ops : List Op) (hv : ValidHist P (AState.init src) ops) :
    ∀ o ∈ obsRun { b := openBuf mode ps src } ops, o.st = .ok ∨ o.st = .eof ∨ o.st = .eol := by
  rw [history_spec mode ps src hps P hP ops hv]
  exact specRun_st ops _

/-- **Re-reading under an anchor.** While an anchor is set at offset `A`, every `SetOffset o` with `A ≤ o` inside the
    input is within the contract, succeeds, and the bytes then read at `o` are the bytes of the input at `o`. -/
theorem reread_under_anchor (P : Nat) (a : AState) (s : Sess) (r : R P a s) (A o k : Nat)
    (hA : a.anchor = some A) (hle : A ≤ o) (hlt : o ≤ a.src.length) :
    Valid P a (.setOffset o) ∧
    obsOf (.setOffset o) (s.step (.setOffset o)).1 (s.step (.setOffset o)).2 = ⟨.ok, [], o⟩ ∧
    (let s' := (s.step (.setOffset o)).2
     ((s'.step (.read k)).1.st, (s'.step (.read k)).1.bytes) =
       ((specRead ⟨a.src, o⟩ k).1, (specRead ⟨a.src, o⟩ k).2.1)) := by
  have hv : Valid P a (.setOffset o) := by
    refine ⟨?_, Or.inr ⟨A, hA, hle⟩⟩
    rcases Nat.lt_or_ge o a.src.length with h | h
    · exact Or.inl h
    · exact Or.inr ⟨by omega, by rw [hA]; intro hh; cases hh⟩
  obtain ⟨h1, h2⟩ := sim_setOffset P o a s r hv
  refine ⟨hv, h1, ?_⟩
  obtain ⟨g1, _⟩ := sim_read P k _ _ h2 trivial
  have e1 := congrArg Obs.st g1
  have e2 := congrArg Obs.bytes g1
  show (_, _) = (_, _)
  have hb : (if (Op.read k) = .get then ([] : Bytes) else (((s.step (.setOffset o)).2).step (.read k)).1.bytes) =
      (((s.step (.setOffset o)).2).step (.read k)).1.bytes := by
    rw [if_neg (by intro hh; cases hh)]
  have e2' : (((s.step (.setOffset o)).2).step (.read k)).1.bytes = (specRead ⟨a.src, o⟩ k).2.1 := by
    rw [← hb]; exact e2
  have e1' : (((s.step (.setOffset o)).2).step (.read k)).1.st = (specRead ⟨a.src, o⟩ k).1 := e1
  rw [e1', e2']

/-- What `esl_buffer_Get` exposes in a state reached by a valid history: a non-empty prefix of the rest of the input,
    at least one guaranteed page of it unless the input ends first (the page guarantee of esl_buffer.h). -/
theorem get_prefix {P : Nat} {a : AState} {s : Sess} (r : R P a s) (hlt : a.cur < a.src.length) :
    (get s.b).1.st = .ok ∧ (get s.b).1.bytes = a.abs.suffix.take (get s.b).1.n ∧ 0 < (get s.b).1.n ∧
    min P (a.src.length - a.cur) ≤ (get s.b).1.n := by
  have hpos := r.at_end_iff.mpr hlt
  have e : get s.b = (({ st := .ok, bytes := s.b.mem.drop s.b.pos, n := s.b.n - s.b.pos, p := some s.b.pos } : Out), s.b) := by
    unfold get; rw [if_pos hpos]
  rw [e]
  refine ⟨rfl, ?_, by show 0 < s.b.n - s.b.pos; omega, r.loaded_ge⟩
  show s.b.win = a.abs.suffix.take (s.b.n - s.b.pos)
  rw [← r.abs_eq]
  show s.b.win = (s.b.src.drop (s.b.base + s.b.pos)).take (s.b.n - s.b.pos)
  rw [r.wf.suffix_win, ← win_length, List.take_left']
  rfl

end EaselModel.Buffer
