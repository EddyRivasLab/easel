import EaselModel.Buffer.SpecHist
import EaselModel.Buffer.TokenOps
import EaselModel.Buffer.KeepLines
import EaselModel.Buffer.ReadFetch
import EaselModel.Buffer.Open
/-! # The simulation relation between the specification state and a session

`R P a s` relates a state `a` of the specification with anchors (`AState`, `specStep`, `Valid`: SpecHist.lean) to a session on the
model of `ESL_BUFFER`. -/
namespace EaselModel.Buffer

/-- observable part of a concrete step (the bytes `Get` exposes depend on how much is loaded, so only its status and
    the offset are compared; `get_prefix` says what the bytes are) -/
def obsOf (op : Op) (o : Out) (s' : Sess) : Obs :=
  ⟨o.st, if op = .get then [] else o.bytes, s'.b.base + s'.b.pos⟩

def memMode (m : Mode) : Prop := m = .allfile ∨ m = .mmap ∨ m = .string

/-- simulation relation between the specification state and a session on the model of `ESL_BUFFER`; `P` is the lower bound of
    the page size that the contract `Valid P` speaks of. It does
    NOT say that the anchor is at or before the cursor (`esl_buffer_SetAnchor` accepts any offset of the window, an in-window
    rewind may go before the anchor; the code copes since b86a62d): it holds along every history inside `CallerOk`. -/
structure R (P : Nat) (a : AState) (s : Sess) : Prop where
  wf : WF s.b
  pg : PG s.b
  aok : AnchOK s.b
  nfa : NoFpNoAnchor s.b
  src : s.b.src = a.src
  cur : s.b.base + s.b.pos = a.cur
  ps : P ≤ s.b.pagesize
  modefp : s.b.hasfp = false ↔ memMode s.b.mode
  base0 : s.b.hasfp = false → s.b.base = 0
  anch : s.b.hasfp = true → s.b.absAnchor = a.anchor ∧ (a.anchor ≠ none → s.b.nanchor = a.nanchor)
  aanch : ∀ A, a.anchor = some A → 1 ≤ a.nanchor
  lastp : s.lastp.map (s.b.base + ·) = a.lastp
  lastp_le : ∀ p, a.lastp = some p → p ≤ a.cur

/-- inside the contract, `op` from `R`-related states yields the specification's observation and `R`-related states again -/
def SimStep (P : Nat) (op : Op) : Prop :=
  ∀ (a : AState) (s : Sess), R P a s → Valid P a op →
    obsOf op (s.step op).1 (s.step op).2 = (specStep a op).1 ∧ R P (specStep a op).2 (s.step op).2

theorem step_out (s : Sess) (op : Op) : (s.step op).1 = (opRun s.b s.lastp op).1 := rfl
theorem step_b (s : Sess) (op : Op) : (s.step op).2.b = (opRun s.b s.lastp op).2 := rfl
theorem step_lastp (s : Sess) (op : Op) : (s.step op).2.lastp = (opRun s.b s.lastp op).1.p := rfl

def specRun : AState → List Op → List Obs
  | _, [] => []
  | a, op :: ops => (specStep a op).1 :: specRun (specStep a op).2 ops

def ValidHist (P : Nat) : AState → List Op → Prop
  | _, [] => True
  | a, op :: ops => Valid P a op ∧ ValidHist P (specStep a op).2 ops

def obsRun : Sess → List Op → List Obs
  | _, [] => []
  | s, op :: ops => obsOf op (s.step op).1 (s.step op).2 :: obsRun (s.step op).2 ops

theorem abs_suffix_length (a : Abs) : a.suffix.length = a.src.length - a.cur := by
  simp [Abs.suffix]

/-- Rebuild the simulation relation after an operation whose effect on the anchor record is `X` (in input coordinates). -/
theorem R.of_keepX {P : Nat} {a a' : AState} {s s' : Sess} {X : Option Nat} (r : R P a s)
    (wf : WF s'.b) (pg : PG s'.b) (k : KeepX X s.b s'.b) (aok : AnchOK s'.b)
    (hX : s.b.hasfp = true → X = a'.anchor) (hXn : s.b.hasfp = false → X = none)
    (hsrc : a'.src = a.src) (hsub : ∀ A, a'.anchor = some A → a.anchor = some A)
    (hnanch : a'.anchor ≠ none → a'.nanchor = a.nanchor)
    (hcur : s'.b.base + s'.b.pos = a'.cur)
    (hlp : s'.lastp.map (s'.b.base + ·) = a'.lastp)
    (hlple : ∀ p, a'.lastp = some p → p ≤ a'.cur) : R P a' s' := by
  refine ⟨wf, pg, aok, ?_, by rw [k.src, r.src, hsrc], hcur, by rw [k.ps]; exact r.ps, ?_, ?_, ?_, ?_, hlp, hlple⟩
  · intro hf
    rw [k.hasfp] at hf
    exact (absAnchor_eq_none s'.b).mp (by rw [k.anch]; exact hXn hf)
  · rw [k.hasfp, k.mode]; exact r.modefp
  · intro hf
    rw [k.hasfp] at hf
    rw [(k.nofp hf).1]; exact r.base0 hf
  · intro hf
    rw [k.hasfp] at hf
    obtain ⟨r1, r2⟩ := r.anch hf
    refine ⟨by rw [k.anch, hX hf], fun hne => ?_⟩
    have hXne : X ≠ none := by rw [hX hf]; exact hne
    rw [k.nanch hXne, hnanch hne]
    apply r2
    cases ha' : a'.anchor with
    | none => exact absurd ha' hne
    | some A => rw [hsub A ha']; simp
  · intro A hA
    have hne : a'.anchor ≠ none := by rw [hA]; simp
    rw [hnanch hne]
    exact r.aanch A (hsub A hA)

/-- Rebuild the simulation relation after an operation that keeps the anchor (in input coordinates) and its count. -/
theorem R.of_keepA {P : Nat} {a a' : AState} {s s' : Sess} (r : R P a s)
    (wf : WF s'.b) (pg : PG s'.b) (k : KeepA s.b s'.b) (aok : AnchOK s'.b)
    (hsrc : a'.src = a.src) (hanch : a'.anchor = a.anchor) (hnanch : a'.nanchor = a.nanchor)
    (hcur : s'.b.base + s'.b.pos = a'.cur)
    (hlp : s'.lastp.map (s'.b.base + ·) = a'.lastp)
    (hlple : ∀ p, a'.lastp = some p → p ≤ a'.cur) : R P a' s' :=
  r.of_keepX wf pg k.toKeepX aok (fun hf => by rw [(r.anch hf).1, hanch])
    (fun hf => (absAnchor_eq_none s.b).mpr (r.nfa hf)) hsrc (fun A hA => by rw [← hanch]; exact hA) (fun _ => hnanch) hcur hlp hlple

theorem R.abs_eq {P : Nat} {a : AState} {s : Sess} (r : R P a s) : s.b.abs = a.abs := by
  simp only [Buf.abs, AState.abs, r.src, r.cur]

theorem sim_getOffset (P : Nat) : SimStep P .getOffset := by
  intro a s r _
  refine ⟨?_, ?_⟩
  · show (⟨St.ok, [], s.b.base + s.b.pos⟩ : Obs) = ⟨.ok, [], a.cur⟩
    rw [r.cur]
  · exact r.of_keepA (s' := (s.step .getOffset).2) (a' := { a with lastp := none }) r.wf r.pg (KeepA.refl _) r.aok rfl rfl rfl r.cur
      rfl (fun p hp => by cases hp)

theorem R.at_end_iff {P : Nat} {a : AState} {s : Sess} (r : R P a s) : s.b.pos < s.b.n ↔ a.cur < a.src.length := by
  have hs : s.b.abs.suffix.length = (s.b.n - s.b.pos) + s.b.rest.length := suffix_length r.wf
  rw [r.abs_eq] at hs
  have hl : a.abs.suffix.length = a.src.length - a.cur := abs_suffix_length a.abs
  have hp := r.wf.hpos
  have hps := r.wf.hps
  constructor
  · intro h; omega
  · intro h
    rcases r.pg with g | g
    · omega
    · rw [g] at hs; simp only [List.length_nil] at hs; omega

theorem sim_get (P : Nat) : SimStep P .get := by
  intro a s r _
  have hiff := r.at_end_iff
  by_cases hlt : s.b.pos < s.b.n
  · have hlt' := hiff.mp hlt
    have e : get s.b = (({ st := .ok, bytes := s.b.mem.drop s.b.pos, n := s.b.n - s.b.pos, p := some s.b.pos } : Out), s.b) := by
      unfold get; rw [if_pos hlt]
    have es : specStep a .get = (⟨.ok, [], a.cur⟩, { a with lastp := some a.cur }) := by
      show (if a.cur < a.src.length then _ else _) = _
      rw [if_pos hlt']
    rw [es]
    refine ⟨?_, ?_⟩
    · show (⟨(get s.b).1.st, [], (get s.b).2.base + (get s.b).2.pos⟩ : Obs) = _
      rw [e, r.cur]
    · have hb : (s.step .get).2.b = s.b := by rw [step_b]; show (get s.b).2 = _; rw [e]
      have hp : (s.step .get).2.lastp = some s.b.pos := by rw [step_lastp]; show (get s.b).1.p = _; rw [e]
      refine r.of_keepA (s' := (s.step .get).2) (by rw [hb]; exact r.wf) (by rw [hb]; exact r.pg) (by rw [hb]; exact KeepA.refl _)
        (by rw [hb]; exact r.aok) rfl rfl rfl (by rw [hb]; exact r.cur) ?_ ?_
      · rw [hp, hb]; show some (s.b.base + s.b.pos) = some a.cur; rw [r.cur]
      · intro p hp'
        show p ≤ a.cur
        cases hp'; exact Nat.le_refl _
  · have hlt' : ¬ a.cur < a.src.length := fun h => hlt (hiff.mpr h)
    have e : get s.b = (({ st := .eof } : Out), s.b) := by unfold get; rw [if_neg hlt]
    have es : specStep a .get = (⟨.eof, [], a.cur⟩, { a with lastp := none }) := by
      show (if a.cur < a.src.length then _ else _) = _
      rw [if_neg hlt']
    rw [es]
    refine ⟨?_, ?_⟩
    · show (⟨(get s.b).1.st, [], (get s.b).2.base + (get s.b).2.pos⟩ : Obs) = _
      rw [e, r.cur]
    · have hb : (s.step .get).2.b = s.b := by rw [step_b]; show (get s.b).2 = _; rw [e]
      have hp : (s.step .get).2.lastp = none := by rw [step_lastp]; show (get s.b).1.p = _; rw [e]
      refine r.of_keepA (s' := (s.step .get).2) (by rw [hb]; exact r.wf) (by rw [hb]; exact r.pg) (by rw [hb]; exact KeepA.refl _)
        (by rw [hb]; exact r.aok) rfl rfl rfl (by rw [hb]; exact r.cur) (by rw [hp]; rfl)
        (fun p hp' => by cases hp')

end EaselModel.Buffer
