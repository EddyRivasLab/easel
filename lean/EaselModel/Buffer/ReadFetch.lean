import EaselModel.Buffer.GetLine
/-! `esl_buffer_FetchLine`/`FetchLineAsStr` refine `specGetLine`; `esl_buffer_Read` refines `specRead`. -/
namespace EaselModel.Buffer

theorem suffix_length {b : Buf} (h : WF b) : b.abs.suffix.length = (b.n - b.pos) + b.rest.length := by
  show (b.src.drop (b.base + b.pos)).length = _
  rw [h.suffix_win, List.length_append, win_length]

/-- One run of `FetchLine` that returns a line (`b1`, `b2` as in `GetLineRun`): the cursor steps over the line in `b2` before the anchor
    is raised (`b4`) and the final refill gives `b5`; the line is copied out of `b2`. -/
structure FetchLineRun (asStr : Bool) (b b1 b2 b4 b5 : Buf) (nc nskip : Nat) (st5 : St) : Prop where
  counted : countline b1 = (.ok, b2, nc, nskip)
  raised : raiseAnchor { b2 with pos := b2.pos + nskip } (b.base + b.pos) = b4
  refilled : refill b4 0 = (st5, b5)
  wf2 : WF b2
  fr12 : Frame b1 b2
  fits : b2.pos + nskip ≤ b2.n
  ao24 : AnchorOnly { b2 with pos := b2.pos + nskip } b4
  wf4 : WF b4
  post : RefillPost b4 0 st5 b5
  nc_eq : nc = (memnewline b.abs.suffix).1
  nskip_eq : nskip = (memnewline b.abs.suffix).1 + (memnewline b.abs.suffix).2
  out : fetchLine b asStr =
    (({ st := .ok, bytes := (b2.src.drop (b2.base + b2.pos)).take nc, n := nc, z := asStr } : Out), b5)

theorem fetchLine_run (b : Buf) (asStr : Bool) (h : WF b) :
    ∃ b1, setAnchor b (b.base + b.pos) = (.ok, b1) ∧ WF b1 ∧ AnchorOnly b b1 ∧
    ((b.pos = b.n ∧ countline b1 = (.eof, b1, 0, 0) ∧
        fetchLine b asStr = ({ st := .eof }, raiseAnchor b1 (b.base + b.pos))) ∨
     (b.pos < b.n ∧ ∃ (b2 b4 b5 : Buf) (nc nskip : Nat) (st5 : St), FetchLineRun asStr b b1 b2 b4 b5 nc nskip st5)) := by
  obtain ⟨b1, hsa, s3, s2, hd⟩ := line_head b h
  refine ⟨b1, hsa, s3, s2, ?_⟩
  obtain ⟨he, hcl⟩ | ⟨hlt, b2, nc, nskip, hcl, c1, c2, d2, d3, d4⟩ := hd
  · exact Or.inl ⟨he, hcl, by unfold fetchLine; simp only [hsa, hcl]⟩
  · have hsl := slice_eq c1 nc (by omega)
    have hfit : b2.pos + nskip ≤ b2.n := by
      have := c1.hpos
      rw [win_length] at d4; omega
    have hr4 := raiseAnchor_spec { b2 with pos := b2.pos + nskip } (b.base + b.pos) (advance_wf c1 nskip hfit)
    generalize hb4 : raiseAnchor { b2 with pos := b2.pos + nskip } (b.base + b.pos) = b4 at *
    have hr5 := refill_post b4 0 hr4.2
    generalize hrf : refill b4 0 = rf at *
    obtain ⟨st5, b5⟩ := rf
    simp only [] at hr5
    have hst5 : ¬ (st5 ≠ .eof ∧ st5 ≠ .ok) := by rcases hr5.status with h3 | h3 <;> simp [h3]
    have e : fetchLine b asStr =
        (({ st := .ok, bytes := (b2.src.drop (b2.base + b2.pos)).take nc, n := nc, z := asStr } : Out), b5) := by
      unfold fetchLine; simp only [hsa, hcl, hsl, hb4, hrf, hst5, if_false]
    exact Or.inr ⟨hlt, b2, b4, b5, nc, nskip, st5, hcl, hb4, hrf, c1, c2, hfit, hr4.1, hr4.2, hr5, d2, d3, e⟩

theorem fetchLine_refines (b : Buf) (asStr : Bool) (h : WF b) (hl : Loaded b) :
    WF (fetchLine b asStr).2 ∧
    ((fetchLine b asStr).1.st, (fetchLine b asStr).1.bytes, (fetchLine b asStr).2.abs) = specGetLine b.abs ∧
    (fetchLine b asStr).1.n = (fetchLine b asStr).1.bytes.length ∧ PG (fetchLine b asStr).2 ∧
    ((fetchLine b asStr).1.st = .ok → (fetchLine b asStr).1.z = asStr) := by
  have hp := h.hpos
  obtain ⟨b1, _, s3, s2, hrun⟩ := fetchLine_run b asStr h
  have habs1 : b1.abs = b.abs := abs_of_frame s2.frame
  have hsuf : b.abs.suffix = b1.src.drop (b1.base + b1.pos) := by
    simp [Abs.suffix, Buf.abs, s2.src_eq, s2.base_eq, s2.pos_eq]
  obtain ⟨he, _, e⟩ | ⟨hlt, b2, b4, b5, nc, nskip, st5, run⟩ := hrun
  · -- end of input
    have hr := raiseAnchor_spec b1 (b.base + b.pos) s3
    rw [e]
    have hs : b.abs.suffix = [] := suffix_nil_of h he (hl he)
    refine ⟨hr.2, ?_, rfl, Or.inr ?_, (fun hh => by simp at hh)⟩
    · rw [specGetLine_eof _ hs, abs_of_frame hr.1.frame, habs1]
    · rw [hr.1.rest_eq, s2.rest_eq]; exact hl he
  · rw [run.out]
    have hfit := run.fits
    have := run.nc_eq
    have := run.nskip_eq
    have hsuf2 : b.abs.suffix = b2.win ++ b2.rest := by rw [hsuf, ← run.fr12.src, ← run.fr12.off, run.wf2.suffix_win]
    have hwl2 := win_length b2
    have habs3 : Buf.abs { b2 with pos := b2.pos + nskip } = { src := b.src, cur := b.base + b.pos + nskip } := by
      have hs := run.fr12.src
      have ho := run.fr12.off
      simp only [s2.src_eq, s2.base_eq, s2.pos_eq] at hs ho
      simp only [Buf.abs, hs]
      congr 1
      omega
    have hsne : b.abs.suffix ≠ [] := suffix_ne_nil h hlt
    have hsrc2 : b2.src.drop (b2.base + b2.pos) = b.abs.suffix := by
      rw [hsuf, run.fr12.src, run.fr12.off]
    refine ⟨run.post.wf, ?_, ?_, ?_, (fun _ => rfl)⟩
    · rw [specGetLine_ok _ hsne, hsrc2, ← run.nskip_eq, ← run.nc_eq]
      simp only [Prod.mk.injEq, true_and]
      rw [abs_of_frame run.post.frame, abs_of_frame run.ao24.frame, habs3]
      rfl
    · simp only [List.length_take]
      rw [hsrc2, hsuf2]
      simp only [List.length_append]
      omega
    · exact run.post.pg (Nat.zero_le _)

/-- the `while (n - pos < nbytes)` loop: it stops with `nbytes` bytes loaded exactly when the input has that
    many left; otherwise it answers `eslEOF` with the stream exhausted. -/
theorem readLoop_spec (k : Nat) (fuel : Nat) : ∀ (b : Buf), WF b → b.rest.length + 1 ≤ fuel →
    WF (readLoop k fuel b).2 ∧ Frame b (readLoop k fuel b).2 ∧
    (k ≤ b.abs.suffix.length → (readLoop k fuel b).1 = .ok ∧ k ≤ (readLoop k fuel b).2.n - (readLoop k fuel b).2.pos) ∧
    (b.abs.suffix.length < k → (readLoop k fuel b).1 = .eof ∧ (readLoop k fuel b).2.rest = []) := by
  induction fuel with
  | zero => intro b _ hf; omega
  | succ fuel ih =>
    intro b h hfuel
    have hsl := suffix_length h
    by_cases hlt : b.n - b.pos < k
    · have hr := refill_post b k h
      have hsl1 := suffix_length hr.wf
      rw [abs_of_frame hr.frame] at hsl1
      generalize hrf : refill b k = rf at *
      obtain ⟨st, b1⟩ := rf
      simp only [] at hr hsl1
      by_cases hst : st = .eof
      · have e : readLoop k (fuel + 1) b = (.eof, b1) := by
          rw [readLoop]; simp only [hlt, if_true, hrf, hst]
        rw [e]
        obtain ⟨q1, q2⟩ := hr.eof_imp hst
        refine ⟨hr.wf, hr.frame, (fun hk => ?_), (fun _ => ⟨rfl, q2⟩)⟩
        rw [q2] at hsl1
        simp only [List.length_nil] at hsl1
        omega
      · have hok : st = .ok := by rcases hr.status with h1 | h1 <;> simp_all
        subst hok
        by_cases hnp : b1.n - b1.pos = b.n - b.pos
        · have e : readLoop k (fuel + 1) b = (.eof, b1) := by
            rw [readLoop]; simp only [hlt, if_true, hrf, hnp]; simp
          rw [e]
          have q2 := hr.noprog hnp (by omega)
          refine ⟨hr.wf, hr.frame, (fun hk => ?_), (fun _ => ⟨rfl, q2⟩)⟩
          rw [q2] at hsl1
          simp only [List.length_nil] at hsl1
          omega
        · have e : readLoop k (fuel + 1) b = readLoop k fuel b1 := by
            rw [readLoop]; simp only [hlt, if_true, hrf, hnp]; simp
          rw [e]
          have hprog := hr.prog (by have := hr.frame.avail; omega)
          obtain ⟨i1, i2, i3, i4⟩ := ih b1 hr.wf (by omega)
          rw [abs_of_frame hr.frame] at i3 i4
          exact ⟨i1, hr.frame.trans i2, i3, i4⟩
    · have e : readLoop k (fuel + 1) b = (.ok, b) := by
        rw [readLoop]; simp only [hlt, if_false]
      rw [e]
      exact ⟨h, Frame.refl b, (fun _ => ⟨rfl, by show k ≤ b.n - b.pos; omega⟩), (fun hk => by omega)⟩

theorem read_refines (b : Buf) (k : Nat) (h : WF b) :
    WF (read b k).2 ∧
    ((read b k).1.st, (read b k).1.bytes, (read b k).2.abs) = specRead b.abs k ∧
    (read b k).1.n = (read b k).1.bytes.length ∧ PG (read b k).2 := by
  have hp := h.hpos
  have hng : ¬ b.pos > b.n := by omega
  have hsl := suffix_length h
  obtain ⟨l1, l2, l3, l4⟩ := readLoop_spec k (b.rest.length + 2) b h (by omega)
  generalize hrl : readLoop k (b.rest.length + 2) b = r at *
  obtain ⟨st1, b1⟩ := r
  simp only [] at l1 l2 l3 l4
  by_cases hk : k ≤ b.abs.suffix.length
  · obtain ⟨o1, o2⟩ := l3 hk
    subst o1
    clear l3 l4
    have hslice := slice_eq l1 k (by rw [win_length]; exact o2)
    have hfit : b1.pos + k ≤ b1.n := by have := l1.hpos; omega
    have hw2 := advance_wf l1 k hfit
    have habs2 : Buf.abs { b1 with pos := b1.pos + k } = { src := b.src, cur := b.base + b.pos + k } := by
      have hs := l2.src
      have ho := l2.off
      simp only [Buf.abs, hs]
      congr 1
      omega
    have hsrc1 : b1.src.drop (b1.base + b1.pos) = b.abs.suffix := by
      rw [l2.src, l2.off]; rfl
    generalize hb2 : ({ b1 with pos := b1.pos + k } : Buf) = b2 at *
    have hr3 := refill_post b2 0 hw2
    generalize hrf : refill b2 0 = rf at *
    obtain ⟨st3, b3⟩ := rf
    simp only [] at hr3
    have hst3 : ¬ (st3 ≠ .ok ∧ st3 ≠ .eof) := by rcases hr3.status with h3 | h3 <;> simp [h3]
    have e : read b k =
        (({ st := .ok, bytes := (b1.src.drop (b1.base + b1.pos)).take k, n := k } : Out), b3) := by
      unfold read; simp only [hng, if_false, hrl, hslice, hb2, hrf, hst3]
    rw [e]
    refine ⟨hr3.wf, ?_, ?_, ?_⟩
    · have hnlt : ¬ b.abs.suffix.length < k := by omega
      simp only [specRead, hnlt, if_false, hsrc1, Prod.mk.injEq, true_and]
      rw [abs_of_frame hr3.frame, habs2]
      rfl
    · simp only [List.length_take]
      rw [hsrc1]
      omega
    · exact hr3.pg (Nat.zero_le _)
  · have hlt : b.abs.suffix.length < k := by omega
    obtain ⟨o1, o2⟩ := l4 hlt
    subst o1
    have e : read b k = ({ st := .eof }, b1) := by
      unfold read; simp only [hng, if_false, hrl]
    rw [e]
    refine ⟨l1, ?_, rfl, Or.inr o2⟩
    simp only [specRead, hlt, if_true, Prod.mk.injEq, true_and]
    exact abs_of_frame l2

end EaselModel.Buffer
