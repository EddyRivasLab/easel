import EaselModel.Buffer.OpenFile
import EaselModel.Buffer.History
import EaselModel.Buffer.ReadFetch
import EaselModel.Buffer.TokenOps
/-! The opening and closing logic of `OpenFile.lean` against its documentation; at the end the strings of
`FetchLineAsStr` / `FetchTokenAsStr`. -/
namespace EaselModel.Buffer.OpenFile
open EaselModel.Buffer EaselModel.Buffer.OpenConsts

/-- the directories listed in the variable (`[]` when `envvar` is NULL or the variable is not set) -/
def listedDirs (env : Env) (envvar : Option CStr) : List CStr :=
  match envvar with
  | none => []
  | some v =>
    match getenv env v with
    | none => []
    | some s => splitColon s

/-- the candidate paths in the order of the documentation: `filename` itself (current directory), then `d/filename`
    for each listed directory `d` -/
def candidates (env : Env) (filename : CStr) (envvar : Option CStr) : List CStr :=
  filename :: (listedDirs env envvar).map (fun d => envPath d filename)

theorem envLoop_eq_find (fs : FS) (fname : CStr) (ds : List CStr) :
    envLoop fs fname ds = (ds.map (fun d => envPath d fname)).find? (fun p => fileExists fs p) := by
  induction ds with
  | nil => rfl
  | cons d ds ih =>
    simp only [envLoop, List.map_cons, List.find?_cons]
    cases h : fileExists fs (envPath d fname) <;> simp [ih]

theorem fileEnvOpen_eq_find (fs : FS) (env : Env) (fname : CStr) (envvar : Option CStr) :
    (fileEnvOpen fs env fname envvar).1 =
      ((listedDirs env envvar).map (fun d => envPath d fname)).find? (fun p => fileExists fs p) := by
  unfold fileEnvOpen listedDirs
  cases envvar with
  | none => rfl
  | some v =>
    simp only []
    cases hg : getenv env v with
    | none => rfl
    | some s =>
      simp only []
      rw [← envLoop_eq_find]
      cases envLoop fs fname (splitColon s) <;> rfl

theorem findPath_eq_find (fs : FS) (env : Env) (filename : CStr) (envvar : Option CStr) :
    (findPath fs env filename envvar).1 = (candidates env filename envvar).find? (fun p => fileExists fs p) := by
  unfold findPath candidates
  rw [List.find?_cons]
  cases h : fileExists fs filename
  · simp only [Bool.false_eq_true, if_false]; exact fileEnvOpen_eq_find fs env filename envvar
  · simp

theorem findPath_isSome_iff (fs : FS) (env : Env) (filename : CStr) (envvar : Option CStr) :
    (findPath fs env filename envvar).1.isSome = true ↔ ∃ p ∈ candidates env filename envvar, fileExists fs p = true := by
  rw [findPath_eq_find, List.find?_isSome]

theorem findPath_exists (fs : FS) (env : Env) (filename : CStr) (envvar : Option CStr) (p : CStr)
    (h : (findPath fs env filename envvar).1 = some p) : fileExists fs p = true ∧ p ∈ candidates env filename envvar := by
  rw [findPath_eq_find] at h
  exact ⟨by simpa using List.find?_some h, List.mem_of_find?_eq_some h⟩

theorem findPath_cwd (fs : FS) (env : Env) (filename : CStr) (envvar : Option CStr) (h : fileExists fs filename = true) :
    (findPath fs env filename envvar).1 = some filename := by
  unfold findPath; simp [h]

theorem splitColon_ne_nil (s : CStr) : splitColon s ≠ [] := by
  induction s with
  | nil => simp [splitColon]
  | cons c cs ih =>
    unfold splitColon
    split
    · simp
    · split <;> simp

theorem splitColon_cons_ne (c : UInt8) (cs : CStr) (h : c ≠ COLON) :
    ∃ d ds, splitColon cs = d :: ds ∧ splitColon (c :: cs) = (c :: d) :: ds := by
  cases hs : splitColon cs with
  | nil => exact absurd hs (splitColon_ne_nil cs)
  | cons d ds =>
    refine ⟨d, ds, rfl, ?_⟩
    rw [splitColon.eq_2]
    simp [h, hs]

theorem splitColon_spec (s : CStr) :
    (∀ d ∈ splitColon s, COLON ∉ d) ∧ List.intercalate [COLON] (splitColon s) = s := by
  induction s with
  | nil => simp [splitColon, List.intercalate]
  | cons c cs ih =>
    by_cases hc : c = COLON
    · have e : splitColon (c :: cs) = [] :: splitColon cs := by rw [splitColon.eq_2]; simp [hc]
      rw [e]
      refine ⟨?_, ?_⟩
      · intro d hd
        rcases List.mem_cons.mp hd with h | h
        · subst h; simp
        · exact ih.1 d h
      · obtain ⟨d, ds, hs⟩ := List.exists_cons_of_ne_nil (splitColon_ne_nil cs)
        have := ih.2
        rw [hs] at this ⊢
        simp [List.intercalate, List.intersperse] at this ⊢
        exact ⟨hc.symm, this⟩
    · obtain ⟨d, ds, hs, e⟩ := splitColon_cons_ne c cs hc
      rw [e]
      refine ⟨?_, ?_⟩
      · intro x hx
        rcases List.mem_cons.mp hx with h | h
        · subst h
          have := ih.1 d (by rw [hs]; simp)
          intro hm
          rcases List.mem_cons.mp hm with h1 | h1
          · exact hc h1.symm
          · exact this h1
        · exact ih.1 x (by rw [hs]; exact List.mem_cons_of_mem _ h)
      · rw [List.intercalate_cons_cons_left, ← hs, ih.2]

theorem slurpSize_val : slurpSize = 4194304 := by decide
theorem pageSize_val : pageSize = 4096 := by decide
theorem clampLo_val : clampLo = 512 := by decide
theorem clampHi_val : clampHi = 4194304 := by decide

theorem clampPs_eq (blk : Nat) : clampPs blk = max 512 (min blk 4194304) := by
  unfold clampPs
  rw [clampLo_val, clampHi_val]
  simp only []
  split <;> split <;> omega

theorem filePs_pos (cfg : Cfg) : 0 < filePs cfg := by
  unfold filePs
  split
  · assumption
  · split
    · rw [clampPs_eq]; omega
    · rw [pageSize_val]; omega

theorem createPs_pos (cfg : Cfg) : 0 < createPs cfg := by
  unfold createPs
  split
  · assumption
  · rw [pageSize_val]; omega

theorem chooseMode_posix (n : Nat) :
    chooseMode true (n : Int) = if n ≤ 4194304 then Mode.allfile else Mode.mmap := by
  unfold chooseMode
  rw [slurpSize_val]
  by_cases h : n ≤ 4194304
  · have h1 : (n : Int) ≠ -1 ∧ (n : Int) ≤ ((4194304 : Nat) : Int) := ⟨by omega, by omega⟩
    rw [if_pos h1, if_pos h]
  · have h1 : ¬ ((n : Int) ≠ -1 ∧ (n : Int) ≤ ((4194304 : Nat) : Int)) := by omega
    have h2 : (true = true) ∧ (n : Int) > ((4194304 : Nat) : Int) := ⟨rfl, by omega⟩
    rw [if_neg h1, if_pos h2, if_neg h]

theorem chooseMode_noposix : chooseMode false (-1) = Mode.file := by
  unfold chooseMode; simp

theorem openFile_not_found (cfg : Cfg) (fs : FS) (f : CStr) (h : fsRead fs f = none) :
    openFile cfg fs f = { st := .enotfound, c := some (unsetErr pageSize), trace := [.acq .bf] } := by
  unfold openFile; rw [h]

/-- natural path on a POSIX system: slurped up to `eslBUFFER_SLURPSIZE` bytes, memory mapped above -/
theorem openFile_posix (cfg : Cfg) (fs : FS) (f : CStr) (src : Bytes) (h : fsRead fs f = some src)
    (hf : cfg.force = none) (hp : cfg.posix = true) :
    (openFile cfg fs f).st = .ok ∧
    (openFile cfg fs f).b = some (openBuf (if src.length ≤ 4194304 then Mode.allfile else Mode.mmap) (filePs cfg) src, src) ∧
    (openFile cfg fs f).c = some { mode_is := if src.length ≤ 4194304 then ModeIs.allfile else ModeIs.mmap,
                                   mem := decide (0 < src.length), filename := some f, pagesize := filePs cfg } := by
  unfold openFile
  rw [h]
  simp only [hf, hp, if_true, ite_self, chooseMode_posix]
  by_cases hle : src.length ≤ 4194304
  · simp only [if_pos hle]; refine ⟨?_, ?_, ?_⟩ <;> first | rfl | trivial
  · simp only [if_neg hle]
    have hne : ¬ src.length = 0 := by omega
    rw [if_neg hne]
    refine ⟨rfl, rfl, ?_⟩
    have : decide (0 < src.length) = true := by simp; omega
    rw [this]

/-- without `fstat` (no `_POSIX_VERSION`): a paged stream on the file, default page size -/
theorem openFile_noposix (cfg : Cfg) (fs : FS) (f : CStr) (src : Bytes) (h : fsRead fs f = some src)
    (hp : cfg.posix = false) :
    (openFile cfg fs f).st = .ok ∧ (openFile cfg fs f).b = some (openBuf .file (filePs cfg) src, src) := by
  unfold openFile
  rw [h]
  simp [hp, chooseMode_noposix]

/-- whatever the configuration (hooks included): a successful OpenFile delivers the file's bytes through one of the
    existing openers with a page size ≥ 1 -/
theorem openFile_shape (cfg : Cfg) (fs : FS) (f : CStr) (b : Buf) (src : Bytes)
    (h : (openFile cfg fs f).b = some (b, src)) :
    fsRead fs f = some src ∧ ∃ m, b = openBuf m (filePs cfg) src := by
  unfold openFile at h
  cases hr : fsRead fs f with
  | none => rw [hr] at h; simp at h
  | some s =>
    rw [hr] at h
    simp only [] at h
    split at h
    · simp only [Option.some.injEq, Prod.mk.injEq] at h; exact ⟨by rw [h.2], .allfile, by rw [← h.1, h.2]⟩
    · split at h
      · simp at h
      · simp only [Option.some.injEq, Prod.mk.injEq] at h; exact ⟨by rw [h.2], .mmap, by rw [← h.1, h.2]⟩
    · simp only [Option.some.injEq, Prod.mk.injEq] at h; exact ⟨by rw [h.2], .file, by rw [← h.1, h.2]⟩

theorem openPipe_not_found (cfg : Cfg) (fs : FS) (run : Bytes → Bytes × Bool) (f : CStr) (h : fsRead fs f = none) :
    openPipe cfg fs run (some f) = { st := .enotfound, c := some (unsetErr (createPs cfg)), trace := [.acq .bf] } := by
  unfold openPipe; simp only [h]

theorem openPipe_found (cfg : Cfg) (fs : FS) (run : Bytes → Bytes × Bool) (f : CStr) (input : Bytes)
    (h : fsRead fs f = some input) :
    let out := (run input).1
    let ps := createPs cfg
    (out.length < ps ∧ (run input).2 = false →
        (openPipe cfg fs run (some f)).st = .fail ∧ (openPipe cfg fs run (some f)).c = some (unsetErr ps) ∧
        (openPipe cfg fs run (some f)).b = none) ∧
    (¬ (out.length < ps ∧ (run input).2 = false) →
        (openPipe cfg fs run (some f)).st = .ok ∧ (openPipe cfg fs run (some f)).b = some (openBuf .cmdpipe ps out, out) ∧
        (openPipe cfg fs run (some f)).c =
          some { mode_is := (if out.length < ps then ModeIs.allfile else ModeIs.cmdpipe),
                 mem := true, fp := decide (¬ out.length < ps), filename := some f, cmdline := true, pagesize := ps }) := by
  intro out ps
  unfold openPipe
  simp only [h]
  have hmin : (min (createPs cfg) (run input).1.length < createPs cfg) ↔ (run input).1.length < createPs cfg := by omega
  by_cases hs : (run input).1.length < createPs cfg
  · by_cases he : (run input).2 = false
    · refine ⟨fun _ => ?_, fun hn => absurd ⟨hs, he⟩ hn⟩
      simp [hmin, hs, he, ps]
    · have he' : (run input).2 = true := by simpa using he
      refine ⟨fun hh => absurd hh.2 he, fun _ => ?_⟩
      simp [hmin, hs, he', out, ps]
  · refine ⟨fun hh => absurd hh.1 hs, fun _ => ?_⟩
    simp [hmin, hs, out, ps]

theorem openPipe_shape (cfg : Cfg) (fs : FS) (run : Bytes → Bytes × Bool) (f : CStr) (b : Buf) (src : Bytes)
    (h : (openPipe cfg fs run (some f)).b = some (b, src)) :
    ∃ input, fsRead fs f = some input ∧ src = (run input).1 ∧ b = openBuf .cmdpipe (createPs cfg) src := by
  cases hr : fsRead fs f with
  | none => rw [openPipe_not_found cfg fs run f hr] at h; simp at h
  | some input =>
    refine ⟨input, rfl, ?_⟩
    obtain ⟨h1, h2⟩ := openPipe_found cfg fs run f input hr
    by_cases hc : (run input).1.length < createPs cfg ∧ (run input).2 = false
    · rw [(h1 hc).2.2] at h; simp at h
    · rw [(h2 hc).2.1] at h
      simp only [Option.some.injEq, Prod.mk.injEq] at h
      exact ⟨h.2.symm, by rw [← h.1, h.2]⟩

/-- what `esl_buffer_Open` does once it has settled on `path` -/
def dispatch (usesPath : Bool) (cfg : Cfg) (fs : FS) (gunzip : Bytes → Bytes × Bool) (filename path : CStr) : OpenOut :=
  match gzTest usesPath filename path with
  | none => { st := .fault }
  | some true => openPipe cfg fs gunzip (some path)
  | some false => openFile cfg fs path

theorem fileExists_false (fs : FS) (p : CStr) (h : fileExists fs p = false) : fsRead fs p = none := by
  unfold fileExists at h
  cases hr : fsRead fs p with
  | none => rfl
  | some x => rw [hr] at h; simp at h

theorem openAny_stdin (usesPath : Bool) (cfg : Cfg) (fs : FS) (env : Env) (gunzip : Bytes → Bytes × Bool) (stdin : Bytes)
    (envvar : Option CStr) : openAny usesPath cfg fs env gunzip stdin dash envvar = openStream cfg stdin := by
  unfold openAny; simp

theorem openAny_found (usesPath : Bool) (cfg : Cfg) (fs : FS) (env : Env) (gunzip : Bytes → Bytes × Bool) (stdin : Bytes)
    (filename : CStr) (envvar : Option CStr) (hd : filename ≠ dash) (p : CStr)
    (h : (findPath fs env filename envvar).1 = some p) :
    (openAny usesPath cfg fs env gunzip stdin filename envvar).st = (dispatch usesPath cfg fs gunzip filename p).st ∧
    (openAny usesPath cfg fs env gunzip stdin filename envvar).c = (dispatch usesPath cfg fs gunzip filename p).c ∧
    (openAny usesPath cfg fs env gunzip stdin filename envvar).b = (dispatch usesPath cfg fs gunzip filename p).b := by
  unfold openAny dispatch
  rw [if_neg hd]
  rcases hfp : findPath fs env filename envvar with ⟨o, t⟩
  rw [hfp] at h
  simp only [] at h
  subst h
  simp only []
  cases gzTest usesPath filename p with
  | none => exact ⟨rfl, rfl, rfl⟩
  | some g => cases g <;> exact ⟨rfl, rfl, rfl⟩

theorem openAny_not_found (usesPath : Bool) (cfg : Cfg) (fs : FS) (env : Env) (gunzip : Bytes → Bytes × Bool) (stdin : Bytes)
    (filename : CStr) (envvar : Option CStr) (hd : filename ≠ dash)
    (h : (findPath fs env filename envvar).1 = none) :
    (openAny usesPath cfg fs env gunzip stdin filename envvar).st = .enotfound ∧
    (openAny usesPath cfg fs env gunzip stdin filename envvar).c = some (unsetErr pageSize) ∧
    (openAny usesPath cfg fs env gunzip stdin filename envvar).b = none := by
  have hx : fileExists fs filename = false := by
    cases hf : fileExists fs filename with
    | false => rfl
    | true => rw [findPath_cwd fs env filename envvar hf] at h; simp at h
  have hr := openFile_not_found cfg fs filename (fileExists_false fs filename hx)
  unfold openAny
  rw [if_neg hd]
  rcases hfp : findPath fs env filename envvar with ⟨o, t⟩
  rw [hfp] at h
  simp only [] at h
  subst h
  simp only [hr]
  refine ⟨?_, ?_, ?_⟩ <;> first | rfl | trivial

theorem openBuf_pagesize (m : Mode) (ps : Nat) (src : Bytes) : (openBuf m ps src).pagesize = ps := by
  cases m <;> try rfl
  show (if (openPaged src ps .cmdpipe).n < ps then _ else _ : Buf).pagesize = ps
  split <;> rfl

theorem openAny_shape (usesPath : Bool) (cfg : Cfg) (fs : FS) (env : Env) (gunzip : Bytes → Bytes × Bool) (stdin : Bytes)
    (filename : CStr) (envvar : Option CStr) (b : Buf) (src : Bytes)
    (h : (openAny usesPath cfg fs env gunzip stdin filename envvar).b = some (b, src)) :
    ∃ m ps, 0 < ps ∧ b = openBuf m ps src := by
  by_cases hd : filename = dash
  · subst hd
    rw [openAny_stdin] at h
    simp only [openStream, Option.some.injEq, Prod.mk.injEq] at h
    exact ⟨.stream, createPs cfg, createPs_pos cfg, by rw [← h.1, h.2]⟩
  · cases hf : (findPath fs env filename envvar).1 with
    | none => rw [(openAny_not_found usesPath cfg fs env gunzip stdin filename envvar hd hf).2.2] at h; simp at h
    | some p =>
      rw [(openAny_found usesPath cfg fs env gunzip stdin filename envvar hd p hf).2.2] at h
      unfold dispatch at h
      cases hg : gzTest usesPath filename p with
      | none => rw [hg] at h; simp at h
      | some g =>
        rw [hg] at h
        cases g with
        | true =>
          obtain ⟨_, _, _, hb⟩ := openPipe_shape cfg fs gunzip p b src h
          exact ⟨.cmdpipe, createPs cfg, createPs_pos cfg, hb⟩
        | false =>
          obtain ⟨_, m, hb⟩ := openFile_shape cfg fs p b src h
          exact ⟨m, filePs cfg, filePs_pos cfg, hb⟩

theorem openAny_src (usesPath : Bool) (cfg : Cfg) (fs : FS) (env : Env) (gunzip : Bytes → Bytes × Bool) (stdin : Bytes)
    (filename : CStr) (envvar : Option CStr) (hd : filename ≠ dash) (b : Buf) (src : Bytes)
    (h : (openAny usesPath cfg fs env gunzip stdin filename envvar).b = some (b, src)) :
    ∃ p raw, (findPath fs env filename envvar).1 = some p ∧ fsRead fs p = some raw ∧
      ((gzTest usesPath filename p = some true ∧ src = (gunzip raw).1) ∨
       (gzTest usesPath filename p = some false ∧ src = raw)) := by
  cases hf : (findPath fs env filename envvar).1 with
  | none => rw [(openAny_not_found usesPath cfg fs env gunzip stdin filename envvar hd hf).2.2] at h; simp at h
  | some p =>
    rw [(openAny_found usesPath cfg fs env gunzip stdin filename envvar hd p hf).2.2] at h
    unfold dispatch at h
    cases hg : gzTest usesPath filename p with
    | none => rw [hg] at h; simp at h
    | some g =>
      rw [hg] at h
      cases g with
      | true =>
        obtain ⟨raw, hr, hs, _⟩ := openPipe_shape cfg fs gunzip p b src h
        exact ⟨p, raw, rfl, hr, Or.inl ⟨hg, hs⟩⟩
      | false =>
        obtain ⟨hr, _⟩ := openFile_shape cfg fs p b src h
        exact ⟨p, src, rfl, hr, Or.inr ⟨hg, rfl⟩⟩

theorem openAny_semantics (usesPath : Bool) (cfg : Cfg) (fs : FS) (env : Env) (gunzip : Bytes → Bytes × Bool) (stdin : Bytes)
    (filename : CStr) (envvar : Option CStr) (b : Buf) (src : Bytes)
    (h : (openAny usesPath cfg fs env gunzip stdin filename envvar).b = some (b, src))
    (P : Nat) (hP : P ≤ b.pagesize) (ops : List Op) (hv : ValidHist P (AState.init src) ops) :
    obsRun { b := b } ops = specRun (AState.init src) ops := by
  obtain ⟨m, ps, hps, hb⟩ := openAny_shape usesPath cfg fs env gunzip stdin filename envvar b src h
  subst hb
  rw [openBuf_pagesize] at hP
  exact history_spec m ps src hps P hP ops hv

/-- the object `s ++ [0]` read at `i ≤ |s|`: a byte is there, and behind a non-NUL byte the object goes on -/
theorem cstr_at (s : CStr) (i : Nat) (hi : i ≤ s.length) :
    ∃ a l, (s ++ [(0 : UInt8)])[i]? = some a ∧ s.drop i ++ [0] = a :: l ∧
      (a ≠ 0 → i + 1 ≤ s.length ∧ l = s.drop (i + 1) ++ [0]) := by
  rcases Nat.lt_or_ge i s.length with h | h
  · refine ⟨s[i], s.drop (i + 1) ++ [0], ?_, ?_, fun _ => ⟨h, rfl⟩⟩
    · rw [List.getElem?_append_left h, List.getElem?_eq_getElem h]
    · rw [List.drop_eq_getElem_cons h]; rfl
  · have e : i = s.length := by omega
    subst e
    refine ⟨0, [], by simp, by simp, fun hne => absurd rfl hne⟩

theorem strcmpLoop_oob (s : CStr) (i : Nat) (c : UInt8) (cs : Bytes) (h : s.length < i) :
    strcmpLoop (s ++ [0]) i (c :: cs) = none := by
  rw [strcmpLoop, List.getElem?_eq_none (by simp; omega)]

/-- starting inside the object `s ++ [0]`, `strcmp` never leaves it (it stops at the terminator at the latest) -/
theorem strcmpLoop_inb (s : CStr) : ∀ (t : Bytes) (i : Nat), i ≤ s.length → strcmpLoop (s ++ [0]) i t ≠ none := by
  intro t
  induction t with
  | nil => intro i _; simp [strcmpLoop]
  | cons c cs ih =>
    intro i hi
    obtain ⟨a, l, hg, _, hnext⟩ := cstr_at s i hi
    rw [strcmpLoop, hg]
    simp only []
    by_cases hac : a ≠ c
    · rw [if_pos hac]; simp
    · rw [if_neg hac]
      by_cases hc0 : c = 0
      · rw [if_pos hc0]; simp
      · rw [if_neg hc0]
        exact ih (i + 1) (hnext (by rw [Decidable.not_not.mp hac]; exact hc0)).1

theorem strcmpLoop_true_cons (mem : Bytes) (i : Nat) (c : UInt8) (cs : Bytes)
    (h : strcmpLoop mem i (c :: cs) = some true) :
    mem[i]? = some c ∧ (c = 0 ∨ strcmpLoop mem (i + 1) cs = some true) := by
  rw [strcmpLoop] at h
  cases hget : mem[i]? with
  | none => rw [hget] at h; cases h
  | some a =>
    rw [hget] at h
    simp only [] at h
    by_cases hac : a ≠ c
    · rw [if_pos hac] at h; cases h
    · rw [if_neg hac] at h
      refine ⟨by rw [Decidable.not_not.mp hac], ?_⟩
      by_cases hc0 : c = 0
      · exact Or.inl hc0
      · rw [if_neg hc0] at h; exact Or.inr h

/-- `strcmp(s + i, t) == 0` started inside the object: whether `t` and its terminator lie at `s + i` -/
theorem strcmpLoop_eq (s : CStr) : ∀ (t : CStr) (i : Nat), (0 : UInt8) ∉ t → i ≤ s.length →
    strcmpLoop (s ++ [0]) i (t ++ [0]) = some (decide (t ++ [0] <+: s.drop i ++ [0])) := by
  intro t
  induction t with
  | nil =>
    intro i _ hi
    obtain ⟨a, l, hg, hl, _⟩ := cstr_at s i hi
    rw [List.nil_append, strcmpLoop, hg, hl]
    by_cases ha : a = 0
    · subst ha; simp
    · have : ¬ (0 : UInt8) = a := fun e => ha e.symm
      simp [ha, this]
  | cons c cs ih =>
    intro i ht hi
    have hc : ¬ c = 0 := fun e => ht (by rw [e]; exact List.mem_cons_self)
    have hcs : (0 : UInt8) ∉ cs := fun h => ht (List.mem_cons_of_mem _ h)
    obtain ⟨a, l, hg, hl, hnext⟩ := cstr_at s i hi
    rw [List.cons_append, strcmpLoop, hg, hl]
    by_cases hac : a = c
    · subst hac
      obtain ⟨hi1, rfl⟩ := hnext hc
      simp only [ne_eq, not_true, if_false, hc, ih (i + 1) hcs hi1, List.cons_prefix_cons, true_and]
    · have : ¬ c = a := fun e => hac e.symm
      simp [hac, this]

theorem strcmpEqAt_eq (s t : CStr) (i : Nat) (ht : (0 : UInt8) ∉ t) :
    strcmpEqAt s i t = if s.length < i then none else some (decide (t ++ [0] <+: s.drop i ++ [0])) := by
  unfold strcmpEqAt
  split
  · rename_i h
    obtain ⟨c, cs, e⟩ : ∃ c cs, t ++ [(0 : UInt8)] = c :: cs := by cases t <;> exact ⟨_, _, rfl⟩
    rw [e, strcmpLoop_oob s i c cs h]
  · exact strcmpLoop_eq s t i ht (by omega)

theorem strcmpEqAt_none_iff (s : CStr) (i : Nat) (t : CStr) : strcmpEqAt s i t = none ↔ s.length < i := by
  unfold strcmpEqAt
  constructor
  · intro h
    rcases Nat.lt_or_ge s.length i with h1 | h1
    · exact h1
    · exact absurd h (strcmpLoop_inb s (t ++ [0]) i h1)
  · intro h
    obtain ⟨c, cs, e⟩ : ∃ c cs, t ++ [(0 : UInt8)] = c :: cs := by cases t <;> exact ⟨_, _, rfl⟩
    rw [e]; exact strcmpLoop_oob s i c cs h

theorem dotGz_prefix_len (l : Bytes) (h : dotGz ++ [0] <+: l ++ [0]) : 3 ≤ l.length := by
  have := h.length_le
  simp [dotGz] at this; omega

theorem dotGz_prefix_iff (l : Bytes) (hl : l.length = 3) : dotGz ++ [0] <+: l ++ [0] ↔ l = dotGz := by
  constructor
  · intro h
    exact (List.append_cancel_right (h.eq_of_length (by simp [dotGz, hl]))).symm
  · intro h; rw [h]; exact List.prefix_refl _

theorem dotGz_nonul : (0 : UInt8) ∉ dotGz := by decide

/-- the test of `esl_buffer_Open`, on `filename` (the code before the repair) or on `path` (the repaired code;
    `OpenConsts.gzTestUsesPath` says which one the tree has), `n = strlen(path)`:
    the read starts outside the string tested exactly if that string is shorter than `n - 3` -/
theorem gzTest_eq (usesPath : Bool) (filename path : CStr) :
    gzTest usesPath filename path =
      if 3 < path.length then
        if (if usesPath then path else filename).length < path.length - 3 then none
        else some (decide (dotGz ++ [0] <+: (if usesPath then path else filename).drop (path.length - 3) ++ [0]))
      else some false := by
  unfold gzTest
  simp only [gt_iff_lt, strcmpEqAt_eq _ _ _ dotGz_nonul]

theorem gzTest_none_iff (filename path : CStr) :
    gzTest false filename path = none ↔ 3 < path.length ∧ filename.length < path.length - 3 := by
  rw [gzTest_eq]
  simp only [Bool.false_eq_true, if_false]
  split
  · split <;> simp [*]
  · simp [*]

theorem gzTest_self (usesPath : Bool) (s : CStr) :
    gzTest usesPath s s = some (decide (3 < s.length ∧ s.drop (s.length - 3) = dotGz)) := by
  rw [gzTest_eq, ite_self]
  by_cases h3 : 3 < s.length
  · have hl : (s.drop (s.length - 3)).length = 3 := by rw [List.length_drop]; omega
    rw [if_pos h3, if_neg (by omega)]
    simp only [dotGz_prefix_iff _ hl, h3, true_and]
  · rw [if_neg h3]; simp [h3]

theorem gzTest_fixed (filename path : CStr) :
    gzTest true filename path = some (decide (3 < path.length ∧ path.drop (path.length - 3) = dotGz)) := by
  rw [← gzTest_self true path, gzTest_eq, gzTest_eq]; rfl

theorem gzTest_fixed_ne_none (filename path : CStr) : gzTest true filename path ≠ none := by
  rw [gzTest_fixed]; exact fun h => nomatch h

theorem gzTest_cwd_ne_none (usesPath : Bool) (filename : CStr) : gzTest usesPath filename filename ≠ none := by
  rw [gzTest_self]; exact fun h => nomatch h

theorem envPath_length (d f : CStr) : (envPath d f).length = d.length + 1 + f.length := by
  simp [envPath]; omega

/-- the test on `filename` (the code before the repair) on a file found through the directory list: out of bounds for a directory name of
    3 bytes or more, and `false` otherwise — it never says "gzip" -/
theorem gzTest_env (d filename : CStr) :
    gzTest false filename (envPath d filename) = if 3 ≤ d.length then none else some false := by
  rw [gzTest_eq, envPath_length]
  simp only [Bool.false_eq_true, if_false]
  by_cases hd : 3 ≤ d.length
  · rw [if_pos hd, if_pos (by omega), if_pos (by omega)]
  · rw [if_neg hd]
    split
    · rw [if_neg (by omega)]
      have : ¬ dotGz ++ [0] <+: filename.drop (d.length + 1 + filename.length - 3) ++ [0] := fun h => by
        have := dotGz_prefix_len _ h
        rw [List.length_drop] at this; omega
      simp [this]
    · rfl

theorem openFile_st (cfg : Cfg) (fs : FS) (f : CStr) : (openFile cfg fs f).st ≠ .fault := by
  unfold openFile
  cases fsRead fs f with
  | none => simp
  | some src =>
    simp only []
    split
    · simp
    · split <;> simp
    · simp

theorem openPipe_st (cfg : Cfg) (fs : FS) (run : Bytes → Bytes × Bool) (f : Option CStr) :
    (openPipe cfg fs run f).st ≠ .fault := by
  unfold openPipe
  cases f with
  | none =>
    simp only []
    split
    · split <;> simp
    · simp
  | some f =>
    simp only []
    cases fsRead fs f with
    | none => simp
    | some input =>
      simp only []
      split
      · split <;> simp
      · simp

theorem dispatch_fault_iff (usesPath : Bool) (cfg : Cfg) (fs : FS) (gunzip : Bytes → Bytes × Bool) (filename p : CStr) :
    (dispatch usesPath cfg fs gunzip filename p).st = .fault ↔ gzTest usesPath filename p = none := by
  unfold dispatch
  cases hg : gzTest usesPath filename p with
  | none => simp
  | some g =>
    cases g with
    | true => simp only []; exact ⟨fun h => absurd h (openPipe_st _ _ _ _), fun h => by simp at h⟩
    | false => simp only []; exact ⟨fun h => absurd h (openFile_st _ _ _), fun h => by simp at h⟩

theorem openAny_fault_iff (usesPath : Bool) (cfg : Cfg) (fs : FS) (env : Env) (gunzip : Bytes → Bytes × Bool) (stdin : Bytes)
    (filename : CStr) (envvar : Option CStr) :
    (openAny usesPath cfg fs env gunzip stdin filename envvar).st = .fault ↔
      filename ≠ dash ∧ ∃ p, (findPath fs env filename envvar).1 = some p ∧ gzTest usesPath filename p = none := by
  by_cases hd : filename = dash
  · subst hd
    rw [openAny_stdin]
    simp [openStream]
  · cases hf : (findPath fs env filename envvar).1 with
    | none =>
      rw [(openAny_not_found usesPath cfg fs env gunzip stdin filename envvar hd hf).1]
      simp
    | some p =>
      rw [(openAny_found usesPath cfg fs env gunzip stdin filename envvar hd p hf).1, dispatch_fault_iff]
      simp [hd]

/-! ## esl_buffer_Close: every resource exactly once -/

theorem runActs_append (live : List Rsrc) (t1 t2 : List Act) :
    runActs live (t1 ++ t2) = (runActs live t1).bind (fun l => runActs l t2) := by
  induction t1 generalizing live with
  | nil => rfl
  | cons a t ih =>
    cases a with
    | acq r =>
      simp only [List.cons_append, runActs]
      split
      · rfl
      · exact ih _
    | rel r =>
      simp only [List.cons_append, runActs]
      split
      · exact ih _
      · rfl

theorem balanced_iff (t : List Act) : balanced t = true ↔ runActs [] t = some [] := by
  unfold balanced; exact beq_iff_eq

/-- OpenFile then Close, started with `live` = nothing or the caller's `path` (released by Open between the two) -/
theorem openFile_close (cfg : Cfg) (fs : FS) (f : CStr) :
    runActs [] ((openFile cfg fs f).trace ++ closeOpt (openFile cfg fs f).c) = some [] ∧
    runActs [.path] ((openFile cfg fs f).trace ++ ([.rel .path] ++ closeOpt (openFile cfg fs f).c)) = some [] := by
  unfold openFile
  cases fsRead fs f with
  | none => exact ⟨rfl, rfl⟩
  | some src =>
    simp only []
    split
    · by_cases h0 : 0 < src.length
      · simp only [h0, if_true, decide_true]; exact ⟨rfl, rfl⟩
      · simp only [h0, if_false, decide_false]; exact ⟨rfl, rfl⟩
    · split
      · exact ⟨rfl, rfl⟩
      · exact ⟨rfl, rfl⟩
    · exact ⟨rfl, rfl⟩

theorem openPipe_close (cfg : Cfg) (fs : FS) (run : Bytes → Bytes × Bool) (f : Option CStr) :
    runActs [] ((openPipe cfg fs run f).trace ++ closeOpt (openPipe cfg fs run f).c) = some [] ∧
    runActs [.path] ((openPipe cfg fs run f).trace ++ ([.rel .path] ++ closeOpt (openPipe cfg fs run f).c)) = some [] := by
  unfold openPipe
  cases f with
  | none =>
    simp only []
    split
    · split <;> exact ⟨rfl, rfl⟩
    · exact ⟨rfl, rfl⟩
  | some f =>
    simp only []
    cases fsRead fs f with
    | none => exact ⟨rfl, rfl⟩
    | some input =>
      simp only []
      split
      · split <;> exact ⟨rfl, rfl⟩
      · exact ⟨rfl, rfl⟩

theorem openStream_close (cfg : Cfg) (stream : Bytes) :
    runActs [] ((openStream cfg stream).trace ++ closeOpt (openStream cfg stream).c) = some [] := rfl

theorem openMem_close (cfg : Cfg) (p : Bytes) :
    runActs [] ((openMem cfg p).trace ++ closeOpt (openMem cfg p).c) = some [] := rfl

theorem fileEnvOpen_trace (fs : FS) (env : Env) (fname : CStr) (envvar : Option CStr) (o : Option CStr) (t : List Act)
    (h : fileEnvOpen fs env fname envvar = (o, t)) :
    runActs [] t = some (if o.isSome then [.path] else []) := by
  unfold fileEnvOpen at h
  split at h
  · cases h; rfl
  · split at h
    · cases h; rfl
    · split at h <;> (cases h; rfl)

/-- the search leaves exactly `path` live when it finds the file, and nothing otherwise -/
theorem findPath_trace (fs : FS) (env : Env) (filename : CStr) (envvar : Option CStr) :
    runActs [] (findPath fs env filename envvar).2 =
      some (if (findPath fs env filename envvar).1.isSome then [.path] else []) := by
  unfold findPath
  split
  · rfl
  · exact fileEnvOpen_trace fs env filename envvar _ _ rfl

theorem openAny_close (usesPath : Bool) (cfg : Cfg) (fs : FS) (env : Env) (gunzip : Bytes → Bytes × Bool) (stdin : Bytes)
    (filename : CStr) (envvar : Option CStr)
    (hst : (openAny usesPath cfg fs env gunzip stdin filename envvar).st ≠ .fault) :
    runActs [] ((openAny usesPath cfg fs env gunzip stdin filename envvar).trace ++
                closeOpt (openAny usesPath cfg fs env gunzip stdin filename envvar).c) = some [] := by
  by_cases hd : filename = dash
  · subst hd; rw [openAny_stdin]; rfl
  · have ht := findPath_trace fs env filename envvar
    unfold openAny at hst ⊢
    rw [if_neg hd] at hst ⊢
    rcases hfp : findPath fs env filename envvar with ⟨o, t⟩
    rw [hfp] at ht hst
    simp only [] at ht hst
    cases o with
    | none =>
      simp only [Option.isSome_none, Bool.false_eq_true, if_false] at ht
      simp only [List.append_assoc]
      rw [runActs_append, ht]
      exact (openFile_close cfg fs filename).1
    | some p =>
      simp only [Option.isSome_some, if_true] at ht
      simp only [] at hst ⊢
      cases hg : gzTest usesPath filename p with
      | none => rw [hg] at hst; exact absurd rfl hst
      | some g =>
        cases g with
        | true =>
          simp only [List.append_assoc]
          rw [runActs_append, ht]
          exact (openPipe_close cfg fs gunzip (some p)).2
        | false =>
          simp only [List.append_assoc]
          rw [runActs_append, ht]
          exact (openFile_close cfg fs p).2

/-! ## the strings of FetchLineAsStr / FetchTokenAsStr -/

theorem asStrAlloc_spec (l : Bytes) :
    (asStrAlloc l).length = l.length + 1 ∧ (asStrAlloc l)[l.length]? = some 0 ∧ (asStrAlloc l).take l.length = l ∧
    (asStrAlloc l).getLast? = some 0 := by
  unfold asStrAlloc
  refine ⟨by simp, by simp, by simp, by simp⟩

theorem strlenIn_cons (c : UInt8) (cs : Bytes) :
    strlenIn (c :: cs) = if c = 0 then some 0 else (strlenIn cs).map (· + 1) := rfl

theorem strlen_asStr_iff (l : Bytes) : strlenIn (asStrAlloc l) = some l.length ↔ (0 : UInt8) ∉ l := by
  unfold asStrAlloc
  induction l with
  | nil => simp [strlenIn]
  | cons c cs ih =>
    rw [List.cons_append, strlenIn_cons]
    by_cases hc : c = 0
    · rw [if_pos hc]; subst hc; simp
    · rw [if_neg hc]
      have : (0 : UInt8) ∉ c :: cs ↔ (0 : UInt8) ∉ cs := by
        simp only [List.mem_cons, not_or]
        exact ⟨fun h => h.2, fun h => ⟨fun e => hc e.symm, h⟩⟩
      rw [this, ← ih]
      cases strlenIn (cs ++ [0]) with
      | none => simp
      | some k => simp

theorem strlen_asStr_le (l : Bytes) : ∃ k, strlenIn (asStrAlloc l) = some k ∧ k ≤ l.length ∧ (asStrAlloc l)[k]? = some 0 := by
  unfold asStrAlloc
  induction l with
  | nil => exact ⟨0, rfl, Nat.le_refl _, rfl⟩
  | cons c cs ih =>
    rw [List.cons_append, strlenIn_cons]
    by_cases hc : c = 0
    · rw [if_pos hc]; subst hc; exact ⟨0, rfl, Nat.zero_le _, rfl⟩
    · rw [if_neg hc]
      obtain ⟨k, h1, h2, h3⟩ := ih
      refine ⟨k + 1, by rw [h1]; rfl, by simp; omega, ?_⟩
      simpa using h3

theorem fetchLineAsStr_spec (b : Buf) (h : WF b) (hl : Loaded b) :
    ((fetchLineAsStr b).1, (fetchLineAsStr b).2.2.2.abs) = ((specGetLine b.abs).1, (specGetLine b.abs).2.2) ∧
    ((fetchLineAsStr b).1 = .ok →
        (fetchLineAsStr b).2.1 = some ((specGetLine b.abs).2.1 ++ [0]) ∧
        (fetchLineAsStr b).2.2.1 = (specGetLine b.abs).2.1.length) ∧
    ((fetchLineAsStr b).1 ≠ .ok → (fetchLineAsStr b).2.1 = none ∧ (fetchLineAsStr b).2.2.1 = 0) := by
  obtain ⟨_, hs, hn, _, _⟩ := fetchLine_refines b true h hl
  have h1 : (fetchLine b true).1.st = (specGetLine b.abs).1 := by rw [← hs]
  have h2 : (fetchLine b true).1.bytes = (specGetLine b.abs).2.1 := by rw [← hs]
  have h3 : (fetchLine b true).2.abs = (specGetLine b.abs).2.2 := by rw [← hs]
  unfold fetchLineAsStr
  by_cases hok : (fetchLine b true).1.st = .ok
  · simp only [hok, if_true]
    refine ⟨by rw [← h1, hok, h3], fun _ => ⟨by rw [← h2]; rfl, by rw [hn, h2]⟩, fun hne => absurd rfl hne⟩
  · simp only [hok, if_false]
    exact ⟨by rw [h1, h3], fun e => e.elim, by simp⟩

theorem fetchTokenAsStr_spec (b : Buf) (sep : Bytes) (h : WF b) :
    ((fetchTokenAsStr b sep).1, (fetchTokenAsStr b sep).2.2.2.abs) = ((specToken b.abs sep).1, (specToken b.abs sep).2.2) ∧
    ((fetchTokenAsStr b sep).1 = .ok →
        (fetchTokenAsStr b sep).2.1 = some ((specToken b.abs sep).2.1 ++ [0]) ∧
        (fetchTokenAsStr b sep).2.2.1 = (specToken b.abs sep).2.1.length) ∧
    ((fetchTokenAsStr b sep).1 ≠ .ok → (fetchTokenAsStr b sep).2.1 = none ∧ (fetchTokenAsStr b sep).2.2.1 = 0) := by
  obtain ⟨_, hs, hn, _, _⟩ := fetchToken_refines b sep true h
  have h1 : (fetchToken b sep true).1.st = (specToken b.abs sep).1 := by rw [← hs]
  have h2 : (fetchToken b sep true).1.bytes = (specToken b.abs sep).2.1 := by rw [← hs]
  have h3 : (fetchToken b sep true).2.abs = (specToken b.abs sep).2.2 := by rw [← hs]
  unfold fetchTokenAsStr
  by_cases hok : (fetchToken b sep true).1.st = .ok
  · simp only [hok, if_true]
    refine ⟨by rw [← h1, hok, h3], fun _ => ⟨by rw [← h2]; rfl, by rw [hn, h2]⟩, fun hne => absurd rfl hne⟩
  · simp only [hok, if_false]
    exact ⟨by rw [h1, h3], fun e => e.elim, by simp⟩

end EaselModel.Buffer.OpenFile
