import EaselModel.Buffer.Spec
/-! # The specification of whole histories: abstract state with anchors, the 14 operations, the API contract.
Depends on `Spec.lean` only (the driver links it). -/
namespace EaselModel.Buffer

structure AState where
  src : Bytes
  cur : Nat
  anchor : Option Nat := none
  nanchor : Nat := 0
  lastp : Option Nat := none
  deriving DecidableEq, Repr

def AState.abs (a : AState) : Abs := ⟨a.src, a.cur⟩
def AState.init (src : Bytes) : AState := { src := src, cur := 0 }

/-- what a caller observes of one operation: status, bytes, offset afterwards -/
structure Obs where
  st : St
  bytes : Bytes
  off : Nat
  deriving DecidableEq, Repr

def aSetAnchor (a : AState) (o : Nat) : AState :=
  match a.anchor with
  | none => { a with anchor := some o, nanchor := 1 }
  | some A =>
    if o < A then { a with anchor := some o, nanchor := 1 }
    else if o = A then { a with nanchor := a.nanchor + 1 }
    else a

def aRaise (a : AState) (o : Nat) : AState :=
  match a.anchor with
  | none => a
  | some A =>
    if A = o then
      if a.nanchor - 1 = 0 then { a with anchor := none, nanchor := 0 } else { a with nanchor := a.nanchor - 1 }
    else a

/-- The bracket `SetAnchor(t) … RaiseAnchor(t)` that the line and token calls put around their work (`t` = start of the
    line/token): an anchor at or before `t` is untouched; an anchor AHEAD of `t` — `esl_buffer_SetAnchor` accepts any
    offset of the current window, and an in-window rewind may go before the anchor — is replaced by the bracket's own
    anchor and is gone when the call returns. Inside the API contract (`Valid`) the anchor is never ahead of the cursor. -/
def aBrk (a : AState) (t : Nat) : AState :=
  match a.anchor with
  | some A => if A ≤ t then a else { a with anchor := none, nanchor := 0 }
  | none => a

/-- specification of the 14 operations -/
def specStep (a : AState) (op : Op) : Obs × AState :=
  match op with
  | .getLine =>
    let r := specGetLine a.abs
    (⟨r.1, r.2.1, r.2.2.cur⟩, { aBrk a a.cur with cur := r.2.2.cur, lastp := if r.1 = .ok then some a.cur else none })
  | .fetchLine | .fetchLineStr =>
    let r := specGetLine a.abs
    (⟨r.1, r.2.1, r.2.2.cur⟩, { aBrk a a.cur with cur := r.2.2.cur, lastp := none })
  | .getToken sep =>
    let r := specToken a.abs sep
    let t := a.cur + runLen (isSep sep) a.abs.suffix
    (⟨r.1, r.2.1, r.2.2.cur⟩,
     { (if r.1 = .ok then aBrk a t else a) with cur := r.2.2.cur, lastp := if r.1 = .ok then some t else none })
  | .fetchToken sep | .fetchTokenStr sep =>
    let r := specToken a.abs sep
    let t := a.cur + runLen (isSep sep) a.abs.suffix
    (⟨r.1, r.2.1, r.2.2.cur⟩, { (if r.1 = .ok then aBrk a t else a) with cur := r.2.2.cur, lastp := none })
  | .read k =>
    let r := specRead a.abs k
    (⟨r.1, r.2.1, r.2.2.cur⟩, { a with cur := r.2.2.cur, lastp := none })
  | .get =>
    if a.cur < a.src.length then (⟨.ok, [], a.cur⟩, { a with lastp := some a.cur })
    else (⟨.eof, [], a.cur⟩, { a with lastp := none })
  | .set k =>
    let c := match a.lastp with
      | some p => p + k
      | none => a.cur
    (⟨.ok, [], c⟩, { a with cur := c, lastp := none })
  | .getOffset => (⟨.ok, [], a.cur⟩, { a with lastp := none })
  | .setOffset o => (⟨.ok, [], o⟩, { a with cur := o, lastp := none })
  | .setAnchor o | .setStableAnchor o => (⟨.ok, [], a.cur⟩, { aSetAnchor a o with lastp := none })
  | .raiseAnchor o => (⟨.ok, [], a.cur⟩, { aRaise a o with lastp := none })

/-- The API contract. `P` bounds the page size from below; it only limits how far `Set` may advance past what the
    last `Get*` call is guaranteed to have left in the window.
    * `Set(p, k)`: `p + k` is at most one guaranteed page past the cursor;
    * `SetOffset o`: a byte position of the input — or, while an anchor is set, also the position just after the last
      byte (rewinding/forwarding to the very end of the input, legal since 70e58ff) — ahead of the cursor or at/after
      the active anchor;
    * `SetAnchor o` / `SetStableAnchor o`: at the cursor, or between the active anchor and the cursor. -/
def Valid (P : Nat) (a : AState) : Op → Prop
  | .set k => ∀ p, a.lastp = some p → p + k ≤ a.cur + min P (a.src.length - a.cur)
  | .setOffset o => (o < a.src.length ∨ (o = a.src.length ∧ a.anchor ≠ none)) ∧
      (a.cur ≤ o ∨ ∃ A, a.anchor = some A ∧ A ≤ o)
  | .setAnchor o => o ≤ a.cur ∧ (o = a.cur ∨ ∃ A, a.anchor = some A ∧ A ≤ o)
  | .setStableAnchor o => o ≤ a.cur ∧ (o = a.cur ∨ ∃ A, a.anchor = some A ∧ A ≤ o)
  | _ => True

/-- executable form of the contract (used by the driver to certify that generated histories are inside it) -/
def validB (P : Nat) (a : AState) : Op → Bool
  | .set k => match a.lastp with
    | some p => decide (p + k ≤ a.cur + min P (a.src.length - a.cur))
    | none => true
  | .setOffset o => (decide (o < a.src.length) || (decide (o = a.src.length) && a.anchor.isSome)) && (decide (a.cur ≤ o) || match a.anchor with
    | some A => decide (A ≤ o)
    | none => false)
  | .setAnchor o => decide (o ≤ a.cur) && (decide (o = a.cur) || match a.anchor with
    | some A => decide (A ≤ o)
    | none => false)
  | .setStableAnchor o => decide (o ≤ a.cur) && (decide (o = a.cur) || match a.anchor with
    | some A => decide (A ≤ o)
    | none => false)
  | _ => true

theorem aBrk_src (a : AState) (t : Nat) : (aBrk a t).src = a.src := by
  unfold aBrk; cases a.anchor with
  | none => rfl
  | some A => simp only []; split <;> rfl

theorem aBrk_cur (a : AState) (t : Nat) : (aBrk a t).cur = a.cur := by
  unfold aBrk; cases a.anchor with
  | none => rfl
  | some A => simp only []; split <;> rfl

theorem aBrk_lastp (a : AState) (t : Nat) : (aBrk a t).lastp = a.lastp := by
  unfold aBrk; cases a.anchor with
  | none => rfl
  | some A => simp only []; split <;> rfl

theorem aBrk_of_le (a : AState) (t : Nat) (h : ∀ A, a.anchor = some A → A ≤ t) : aBrk a t = a := by
  unfold aBrk; cases ha : a.anchor with
  | none => rfl
  | some A => simp only []; rw [if_pos (h A ha)]

theorem aBrk_sub (a : AState) (t : Nat) (A : Nat) (h : (aBrk a t).anchor = some A) :
    a.anchor = some A ∧ A ≤ t ∧ (aBrk a t).nanchor = a.nanchor := by
  unfold aBrk at h ⊢; cases ha : a.anchor with
  | none => rw [ha] at h; simp only [] at h; rw [ha] at h; cases h
  | some A0 =>
    rw [ha] at h; simp only [] at h ⊢
    split at h
    · rename_i hle; rw [ha] at h; cases h; rw [if_pos hle]; exact ⟨rfl, hle, rfl⟩
    · cases h

theorem anchor_ex_iff (a : AState) (o : Nat) :
    (match a.anchor with
      | some A => decide (A ≤ o)
      | none => false) = true ↔ ∃ A, a.anchor = some A ∧ A ≤ o := by
  cases a.anchor with
  | none => simp
  | some A => simp

theorem validB_iff (P : Nat) (a : AState) (op : Op) : validB P a op = true ↔ Valid P a op := by
  cases op with
  | set k =>
    simp only [validB, Valid]
    cases a.lastp with
    | none => simp
    | some p => simp
  | setOffset o =>
    have hs : a.anchor.isSome = true ↔ a.anchor ≠ none := by cases a.anchor <;> simp
    simp only [validB, Valid, Bool.and_eq_true, Bool.or_eq_true, decide_eq_true_eq, anchor_ex_iff, hs]
  | setAnchor o | setStableAnchor o =>
    simp only [validB, Valid, Bool.and_eq_true, Bool.or_eq_true, decide_eq_true_eq, anchor_ex_iff]
  | getLine | fetchLine | fetchLineStr | getToken sep | fetchToken sep | fetchTokenStr sep | read k | get | getOffset
  | raiseAnchor o => simp [validB, Valid]

end EaselModel.Buffer
