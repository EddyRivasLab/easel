import EaselModel.Buffer.Model
/-! # Stable anchors: exactly when a refill keeps the pointers valid; plain anchors do not promise it

`memgen` counts the events that invalidate pointers into the window (a `memmove` by a non-zero distance, a `realloc`). -/
namespace EaselModel.Buffer

theorem pinned_of_not_stab {b : Buf} (h : b.stab = false) : pinned b = false := by
  unfold pinned; rw [h]; exact Bool.and_false _

theorem shiftLeft_stable (b : Buf) (ha : b.anchor = some 0) :
    ∃ b1, shiftLeft b = some b1 ∧ b1.memgen = b.memgen ∧ b1.n = b.n ∧ b1.pagesize = b.pagesize ∧ b1.balloc = b.balloc ∧
      b1.stab = b.stab := by
  unfold shiftLeft
  by_cases hpin : pinned b = true
  · rw [if_pos hpin]; exact ⟨b, rfl, rfl, rfl, rfl, rfl, rfl⟩
  rw [if_neg hpin]
  unfold shiftLeft0
  split
  · rw [ha]
    simp only [Nat.zero_le, if_true]
    refine ⟨_, rfl, ?_, ?_, rfl, rfl, rfl⟩
    · show (if 0 < 0 ∧ 0 < b.n then b.memgen + 1 else b.memgen) = b.memgen
      rw [if_neg (by omega)]
    · show (b.mem.drop 0).length = b.mem.length
      rw [List.drop_zero]
  · exact ⟨b, rfl, rfl, rfl, rfl, rfl, rfl⟩

theorem refill_stable_room (b : Buf) (nmin : Nat) (ha : b.anchor = some 0) (hroom : b.n + b.pagesize ≤ b.balloc) :
    (refill b nmin).2.memgen = b.memgen := by
  unfold refill
  split
  · rfl
  · split
    · rfl
    · split
      · rfl
      · have hs : shiftLeft b = some b := by
          unfold shiftLeft shiftLeft0
          have : ¬ (b.balloc - b.n < b.pagesize ∧ 0 < b.pos) := by omega
          simp [this]
        rw [hs]
        show (load (grow b)).2.memgen = b.memgen
        have hg : grow b = b := by
          unfold grow growR grow0
          have : ¬ (b.n + b.pagesize > b.balloc) := by omega
          simp [this]
        rw [hg]; rfl

theorem grow_pinned_bound (b : Buf) (hpin : pinned b = true) :
    (grow b).balloc ≤ max b.balloc (2 * (b.n + b.pagesize)) ∧ b.n + b.pagesize ≤ max b.balloc (grow b).balloc ∧
      (b.balloc < (grow b).balloc → 2 * b.balloc ≤ (grow b).balloc) := by
  unfold grow; rw [if_pos hpin]; unfold growR
  split
  · show max (b.n + b.pagesize) (2 * b.balloc) ≤ _ ∧ _ ≤ max b.balloc (max (b.n + b.pagesize) (2 * b.balloc)) ∧
      (b.balloc < max (b.n + b.pagesize) (2 * b.balloc) → 2 * b.balloc ≤ max (b.n + b.pagesize) (2 * b.balloc))
    omega
  · omega

theorem refill_stable_iff (b : Buf) (nmin : Nat) (hnp : pinned b = false) (hp : b.pos ≤ b.n) (ha : b.anchor = some 0) :
    (refill b nmin).2.memgen = b.memgen ↔
      (b.hasfp = false ∨ b.eof = true ∨ nmin + b.pagesize ≤ b.n - b.pos ∨ b.n + b.pagesize ≤ b.balloc) := by
  obtain ⟨b1, hs, hg1, hn1, hps1, hba1, hst1⟩ := shiftLeft_stable b ha
  have hnp1 : pinned b1 = false := by unfold pinned at hnp ⊢; rw [hst1]; exact hnp
  unfold refill
  by_cases h1 : (!b.hasfp || b.eof) = true
  · rw [if_pos h1]
    refine ⟨fun _ => ?_, fun _ => rfl⟩
    cases hf : b.hasfp with
    | false => exact Or.inl rfl
    | true => rw [hf] at h1; simp at h1; exact Or.inr (Or.inl h1)
  · rw [if_neg h1]
    have hf : b.hasfp = true ∧ b.eof = false := by
      cases hf : b.hasfp <;> cases he : b.eof <;> simp [hf, he] at h1 ⊢
    by_cases h2 : b.n - b.pos ≥ nmin + b.pagesize ∧ b.pos ≤ b.n
    · rw [if_pos h2]
      exact ⟨fun _ => Or.inr (Or.inr (Or.inl h2.1)), fun _ => rfl⟩
    · rw [if_neg h2, if_neg (by omega : ¬ b.pos > b.n), hs]
      show (load (grow b1)).2.memgen = b.memgen ↔ _
      have hl : (load (grow b1)).2.memgen = (grow b1).memgen := rfl
      rw [hl]
      unfold grow
      rw [if_neg (by rw [hnp1]; decide)]
      unfold grow0
      rw [hn1, hps1, hba1]
      by_cases h3 : b.n + b.pagesize > b.balloc
      · rw [if_pos h3]
        show b1.memgen + 1 = b.memgen ↔ _
        rw [hg1]
        constructor
        · intro h; omega
        · rintro (h | h | h | h)
          · rw [hf.1] at h; cases h
          · rw [hf.2] at h; cases h
          · omega
          · omega
      · rw [if_neg h3, hg1]
        exact ⟨fun _ => Or.inr (Or.inr (Or.inr (by omega))), fun _ => rfl⟩

theorem refill_eq_refill0 (b : Buf) (nmin : Nat) (hnp : b.stab = false) : refill b nmin = refill0 b nmin := by
  have hp : pinned b = false := pinned_of_not_stab hnp
  unfold refill refill0
  have hs : shiftLeft b = shiftLeft0 b := by unfold shiftLeft; rw [if_neg (by rw [hp]; decide)]
  have hst : ∀ b1, shiftLeft0 b = some b1 → b1.stab = false := by
    intro b1 h1
    unfold shiftLeft0 at h1
    split at h1
    · cases ha : b.anchor with
      | none => rw [ha] at h1; cases h1; exact hnp
      | some a =>
        rw [ha] at h1; dsimp only at h1
        split at h1 <;> (cases h1; exact hnp)
    · cases h1; exact hnp
  rw [hs]
  cases hsl : shiftLeft0 b with
  | none => rfl
  | some b1 =>
    have hg : grow b1 = grow0 b1 := by
      unfold grow pinned; rw [hst b1 hsl, Bool.and_false]; rfl
    simp only [hg]

theorem plain_anchor_moves (b : Buf) (nmin a : Nat) (hnp : pinned b = false) (hf : b.hasfp = true) (he : b.eof = false) (ha : b.anchor = some a)
    (ha0 : 0 < a) (hap : a ≤ b.pos) (hpn : b.pos < b.n) (hneed : b.n - b.pos < nmin + b.pagesize)
    (hfull : b.balloc - b.n < b.pagesize) : (refill b nmin).2.memgen ≠ b.memgen := by
  unfold refill
  rw [if_neg (by simp [hf, he]), if_neg (by omega), if_neg (by omega : ¬ b.pos > b.n)]
  have hs : shiftLeft b = some (dropFront { b with anchor := some 0 } a) := by
    unfold shiftLeft
    rw [if_neg (by rw [hnp]; decide)]
    unfold shiftLeft0
    rw [if_pos ⟨hfull, by omega⟩, ha]
    simp only [hap, if_true]
  rw [hs]
  show (load (grow (dropFront { b with anchor := some 0 } a))).2.memgen ≠ b.memgen
  have hl : ∀ x : Buf, (load (grow x)).2.memgen = (grow x).memgen := fun _ => rfl
  rw [hl]
  have hd : (dropFront { b with anchor := some 0 } a).memgen = b.memgen + 1 := by
    show (if 0 < a ∧ a < b.n then b.memgen + 1 else b.memgen) = b.memgen + 1
    rw [if_pos ⟨ha0, by omega⟩]
  have hnp1 : pinned (dropFront { b with anchor := some 0 } a) = false := hnp
  unfold grow
  rw [if_neg (by rw [hnp1]; decide)]
  unfold grow0
  split
  · show (dropFront { b with anchor := some 0 } a).memgen + 1 ≠ b.memgen
    rw [hd]; omega
  · rw [hd]; omega

/-- a stable anchor on the 2-byte window of a 4-byte stream, page size 2 -/
def stableWitness : Buf :=
  (setStableAnchor (openBuf .stream 2 [97, 98, 99, 100]) 0).2

/-- the stream "abcdefgh" with page size 2 after `Read 1, Read 1, SetAnchor 2`, the cursor one byte past the anchor
    (as inside the next `Read 1`, just before its refill) -/
def plainWitness : Buf :=
  let b := (setAnchor (read (read (openBuf .stream 2 [97, 98, 99, 100, 101, 102, 103, 104]) 1).2 1).2 2).2
  { b with pos := b.pos + 1 }

end EaselModel.Buffer
