import EaselModel.Buffer.Tokens
/-! `esl_buffer_FetchToken`, `FetchTokenAsStr`, `GetToken` refine `specToken`. -/
namespace EaselModel.Buffer

theorem okOrEof_of {st : St} (h : st = .ok ∨ st = .eof) : okOrEof st = true := by
  rcases h with h | h <;> simp [okOrEof, h]

theorem suffix_of_off {b b' : Buf} (hs : b'.src = b.src) (k : Nat) (ho : b'.base + b'.pos = b.base + b.pos + k) :
    b'.abs.suffix = b.abs.suffix.drop k := by
  show b'.src.drop (b'.base + b'.pos) = (b.src.drop (b.base + b.pos)).drop k
  rw [hs, ho, List.drop_drop]

theorem suffix_length_ge {b : Buf} (h : WF b) : b.win.length ≤ b.abs.suffix.length := by
  show _ ≤ (b.src.drop (b.base + b.pos)).length
  rw [h.suffix_win, List.length_append]; omega

theorem specToken_eof (a : Abs) (sep : Bytes) (h : a.suffix.drop (runLen (isSep sep) a.suffix) = []) :
    specToken a sep = (.eof, [], { a with cur := a.cur + runLen (isSep sep) a.suffix }) := by
  simp [specToken, specTok, h]

theorem specToken_eol (a : Abs) (sep : Bytes) (h : a.suffix.drop (runLen (isSep sep) a.suffix) ≠ [])
    (hn : nlLen (a.suffix.drop (runLen (isSep sep) a.suffix)) ≠ 0) :
    specToken a sep = (.eol, [], { a with cur := a.cur + (runLen (isSep sep) a.suffix +
      nlLen (a.suffix.drop (runLen (isSep sep) a.suffix))) }) := by
  simp [specToken, specTok, h, hn]

theorem specToken_ok (a : Abs) (sep : Bytes) (h : a.suffix.drop (runLen (isSep sep) a.suffix) ≠ [])
    (hn : nlLen (a.suffix.drop (runLen (isSep sep) a.suffix)) = 0) :
    specToken a sep = (.ok, (a.suffix.drop (runLen (isSep sep) a.suffix)).take
        (tokLen sep (a.suffix.drop (runLen (isSep sep) a.suffix))),
      { a with cur := a.cur + (runLen (isSep sep) a.suffix + tokLen sep (a.suffix.drop (runLen (isSep sep) a.suffix)) +
          runLen (isSep sep) ((a.suffix.drop (runLen (isSep sep) a.suffix)).drop
            (tokLen sep (a.suffix.drop (runLen (isSep sep) a.suffix))))) }) := by
  simp [specToken, specTok, h, hn]

theorem setAnchor_prot (b : Buf) (h : WF b) : Prot (setAnchor b (b.base + b.pos)).2 (b.base + b.pos) := by
  have hp := h.hpos
  cases hf : b.hasfp with
  | false => rw [setAnchor_nofp b _ hf]; exact ⟨Nat.le_add_right _ _, fun hh => by rw [hf] at hh; cases hh⟩
  | true =>
    obtain ⟨x, n, e, hx, _⟩ := setAnchor_in b (b.base + b.pos) hf (Nat.le_add_right _ _) (by omega)
    rw [e]
    exact ⟨Nat.le_add_right _ _, fun _ => ⟨b.base + x, rfl, by omega⟩⟩

theorem slice_at {b : Buf} (h : WF b) (o nc : Nat) (ho : b.base ≤ o) (hfit : o + nc ≤ b.base + b.n) :
    slice b (o - b.base) nc = some ((b.src.drop o).take nc) := by
  unfold slice
  have : o - b.base + nc ≤ b.n := by omega
  rw [if_pos this]
  have e := h.suffix_at (o - b.base) (by omega)
  have e2 : b.base + (o - b.base) = o := by omega
  rw [e2] at e
  rw [e, List.take_append_of_le_length]
  simp only [List.length_drop, Buf.n] at *; omega

/-- The common head of `GetToken` and `FetchToken` (`skipsep; newline; SetAnchor; counttok`), by what follows the leading
    separators (`s1`): nothing, a newline, or a token. In the last case `b2` is the state at the token start, where the
    anchor is set, and `b4` the state with the `nc` bytes of the token loaded. -/
theorem token_head (b : Buf) (sep : Bytes) (h : WF b) :
    let k := runLen (isSep sep) b.abs.suffix
    let s1 := b.abs.suffix.drop k
    (s1 = [] ∧ ∃ b1, skipsep b sep = (.eof, b1) ∧ WF b1 ∧ Keep b b1 ∧ PG b1 ∧ b1.base + b1.pos = b.base + b.pos + k) ∨
    (s1 ≠ [] ∧ ∃ b1 b2, skipsep b sep = (.ok, b1) ∧ WF b2 ∧ Keep b b2 ∧
      ((nlLen s1 ≠ 0 ∧ newline b1 = (.eol, b2) ∧ PG b2 ∧ b2.base + b2.pos = b.base + b.pos + (k + nlLen s1)) ∨
       (nlLen s1 = 0 ∧ newline b1 = (.ok, b2) ∧ b2.base + b2.pos = b.base + b.pos + k ∧ b2.abs.suffix = s1 ∧
         ∃ b3 b4 nc, setAnchor b2 (b2.base + b2.pos) = (.ok, b3) ∧ counttok b3 sep = (.ok, b4, nc) ∧
           AnchorOnly b2 b3 ∧ WF b4 ∧ Frame b3 b4 ∧ Keep b3 b4 ∧ nc = tokLen sep s1 ∧ nc ≤ b4.win.length ∧
           b4.abs.suffix = s1))) := by
  obtain ⟨w1, o1, c1⟩ := skipsep_spec b sep h
  have k1 := skipsep_keep b sep
  have hsuf1 := suffix_of_off k1.src (runLen (isSep sep) b.abs.suffix) o1
  simp only []
  generalize runLen (isSep sep) b.abs.suffix = k at *
  generalize b.abs.suffix.drop k = s1 at *
  generalize hsk : skipsep b sep = r1 at *
  obtain ⟨st1, b1⟩ := r1
  simp only [] at w1 k1 o1 hsuf1 c1
  rcases c1 with ⟨cst, clt⟩ | ⟨cst, ceq, crest⟩
  case inr =>
    subst cst
    exact Or.inl ⟨by rw [← hsuf1]; exact suffix_nil_of w1 ceq crest, b1, rfl, w1, k1, Or.inr crest, o1⟩
  · have cs : s1 ≠ [] := by rw [← hsuf1]; exact suffix_ne_nil w1 clt
    subst cst
    obtain ⟨w2, pg2, st2e, o2, lt2⟩ := newline_spec b1 w1 clt
    have k2 := newline_keep b1
    rw [hsuf1] at st2e o2 lt2
    generalize hnl : newline b1 = r2 at *
    obtain ⟨st2, b2⟩ := r2
    simp only [] at w2 k2 pg2 st2e o2 lt2
    refine Or.inr ⟨cs, b1, b2, rfl, w2, k1.trans k2, ?_⟩
    by_cases hn : nlLen s1 = 0
    · -- a token
      have hst2 : st2 = .ok := by rw [st2e]; simp [hn]
      subst hst2
      have lt2' := lt2 hn
      rw [hn, Nat.add_zero] at o2
      have hsuf2 : b2.abs.suffix = s1 := by
        rw [suffix_of_off (k2.src) 0 (by rw [o2]; rfl), hsuf1]; rfl
      obtain ⟨a1, a2, a3⟩ := setAnchor_spec b2 (b2.base + b2.pos) w2 (by omega) (Nat.le_refl _)
      generalize hsa : setAnchor b2 (b2.base + b2.pos) = r3 at *
      obtain ⟨st3, b3⟩ := r3
      simp only [] at a1 a2 a3
      subst a1
      have lt3 : b3.pos < b3.n := by simp only [Buf.n, a2.mem_eq, a2.pos_eq] at *; exact lt2'
      have hsuf3 : b3.abs.suffix = s1 := by rw [abs_of_frame a2.frame]; exact hsuf2
      obtain ⟨t1, t2, t3, t5, t6⟩ := counttok_spec b3 sep a3 lt3
      have t4 := counttok_keep b3 sep
      rw [hsuf3] at t5
      generalize hct : counttok b3 sep = r4 at *
      obtain ⟨st4, b4, nc⟩ := r4
      simp only [] at t1 t2 t3 t4 t5 t6
      subst t1
      have hsuf4 : b4.abs.suffix = s1 := by rw [abs_of_frame t3]; exact hsuf3
      exact Or.inr ⟨hn, hnl, by omega, hsuf2, b3, b4, nc, rfl, hct, a2, t2, t3, t4, t5, t6, hsuf4⟩
    · -- a newline
      have hst2 : st2 = .eol := by rw [st2e]; simp [hn]
      subst hst2
      exact Or.inl ⟨hn, hnl, pg2, by omega⟩

/-- The common tail of `GetToken` and `FetchToken`: skip the separators behind the token, then restore the page guarantee. -/
theorem token_tail (b5 : Buf) (sep : Bytes) (w5 : WF b5) :
    ∃ st6 b6 st7 b7, skipsep b5 sep = (st6, b6) ∧ okOrEof st6 = true ∧ refill b6 0 = (st7, b7) ∧ okOrEof st7 = true ∧
      Keep b5 b7 ∧ WF b7 ∧ PG b7 ∧ b7.src = b5.src ∧
      b7.base + b7.pos = b5.base + b5.pos + runLen (isSep sep) b5.abs.suffix := by
  obtain ⟨w6, o6, c6⟩ := skipsep_spec b5 sep w5
  have k6 := skipsep_keep b5 sep
  generalize hsk6 : skipsep b5 sep = r6 at *
  obtain ⟨st6, b6⟩ := r6
  simp only [] at w6 k6 o6 c6
  have hst6 : okOrEof st6 = true := okOrEof_of (by rcases c6 with c | c; exact Or.inl c.1; exact Or.inr c.1)
  have hr7 := refill_post b6 0 w6
  have k67 := refill_keep b6 0
  generalize hrf : refill b6 0 = r7 at *
  obtain ⟨st7, b7⟩ := r7
  simp only [] at hr7 k67
  refine ⟨st6, b6, st7, b7, rfl, hst6, hrf, okOrEof_of hr7.status, k6.trans k67, hr7.wf, hr7.pg (Nat.zero_le _), ?_, ?_⟩
  · rw [hr7.frame.src, k6.src]
  · rw [hr7.frame.off]; exact o6

/-- What a run of `GetToken`/`FetchToken` that returns a token has in common (`k` leading separators, then `s1`): `b2` stands at the token
    start, `b7` is the state after the separators behind the token and the last refill. -/
structure TokenRun (b : Buf) (sep : Bytes) (k : Nat) (s1 : Bytes) (b2 b7 : Buf) (nc : Nat) : Prop where
  wf2 : WF b2
  keep2 : Keep b b2
  off2 : b2.base + b2.pos = b.base + b.pos + k
  wf7 : WF b7
  pg7 : PG b7
  src7 : b7.src = b.src
  off7 : b7.base + b7.pos = b.base + b.pos + (k + nc + runLen (isSep sep) (s1.drop nc))
  nc_eq : nc = tokLen sep s1
  nc_le : nc ≤ s1.length

/-- The run of `FetchToken` from a well-formed state, by what follows the leading separators (`s1`): nothing, a newline, or
    a token; then `b2` is the state at the token start (where the anchor is set and raised) and `b7` the final state. -/
theorem fetchToken_run (b : Buf) (sep : Bytes) (asStr : Bool) (h : WF b) :
    let k := runLen (isSep sep) b.abs.suffix
    let s1 := b.abs.suffix.drop k
    (s1 = [] ∧ ∃ b1, fetchToken b sep asStr = ({ st := .eof }, b1) ∧ WF b1 ∧ Keep b b1 ∧ PG b1 ∧
        b1.base + b1.pos = b.base + b.pos + k) ∨
    (s1 ≠ [] ∧ nlLen s1 ≠ 0 ∧ ∃ b2, fetchToken b sep asStr = ({ st := .eol }, b2) ∧ WF b2 ∧ Keep b b2 ∧ PG b2 ∧
        b2.base + b2.pos = b.base + b.pos + (k + nlLen s1)) ∨
    (s1 ≠ [] ∧ nlLen s1 = 0 ∧ ∃ (b2 b4 b7 : Buf) (nc : Nat),
        fetchToken b sep asStr = (({ st := .ok, bytes := s1.take nc, n := nc, z := asStr } : Out), b7) ∧
        Keep (setAnchor b2 (b2.base + b2.pos)).2 { b4 with pos := b4.pos + nc } ∧
        Keep (raiseAnchor { b4 with pos := b4.pos + nc } (b2.base + b2.pos)) b7 ∧
        TokenRun b sep k s1 b2 b7 nc) := by
  have hd := token_head b sep h
  simp only [] at hd ⊢
  generalize runLen (isSep sep) b.abs.suffix = k at *
  generalize b.abs.suffix.drop k = s1 at *
  obtain ⟨cs, b1, hsk, w1, k1, cpg, o1⟩ | ⟨cs, b1, b2, hsk, w2, k2, hd⟩ := hd
  · exact Or.inl ⟨cs, b1, by unfold fetchToken; simp only [hsk], w1, k1, cpg, o1⟩
  obtain ⟨hn, hnl, pg2, o2⟩ | ⟨hn, hnl, o2, hsuf2, b3, b4, nc, hsa, hct, a2, t2, t3, t4, t5, t6, hsuf4⟩ := hd
  · exact Or.inr (Or.inl ⟨cs, hn, b2, by unfold fetchToken; simp only [hsk, hnl], w2, k2, pg2, o2⟩)
  have hsl := slice_eq t2 nc t6
  have hsl' : slice b4 b4.pos nc = some (s1.take nc) := by rw [hsl]; exact congrArg (fun l => some (List.take nc l)) hsuf4
  have hp4 := t2.hpos
  have hwl4 := win_length b4
  have w5a := advance_wf t2 nc (by omega)
  obtain ⟨r5a, w5⟩ := raiseAnchor_spec { b4 with pos := b4.pos + nc } (b2.base + b2.pos) w5a
  generalize hb5 : raiseAnchor { b4 with pos := b4.pos + nc } (b2.base + b2.pos) = b5 at *
  have hsuf5 : b5.abs.suffix = s1.drop nc := by
    rw [← hsuf4]
    have q5' : b5.src = b4.src := r5a.src_eq
    have q32 : b5.base + b5.pos = b4.base + b4.pos + nc := by
      rw [r5a.base_eq, r5a.pos_eq]; show b4.base + (b4.pos + nc) = _; omega
    exact suffix_of_off q5' nc q32
  obtain ⟨st6, b6, st7, b7, hsk6, hst6, hrf, hst7, k57, w7, pg7, src7, o7⟩ := token_tail b5 sep w5
  rw [hsuf5] at o7
  have e : fetchToken b sep asStr = (({ st := .ok, bytes := s1.take nc, n := nc, z := asStr } : Out), b7) := by
    unfold fetchToken
    simp only [hsk, hnl, hsa, hct, hsl', hb5, hsk6, hst6, hrf, hst7, Bool.not_true, Bool.false_eq_true, if_false]
  refine Or.inr (Or.inr ⟨cs, hn, b2, b4, b7, nc, e, ?_, by rw [hb5]; exact k57, w2, k2, o2, w7, pg7, ?_, ?_, t5, ?_⟩)
  · rw [hsa]; exact t4.trans (setpos_keep b4 _)
  · rw [src7, r5a.src_eq]; show b4.src = _; rw [t3.src, a2.src_eq, k2.src]
  · have f2 : b5.base + b5.pos = b4.base + (b4.pos + nc) := by rw [r5a.base_eq, r5a.pos_eq]
    have f3 := t3.off
    have f4 : b3.base + b3.pos = b2.base + b2.pos := by rw [a2.base_eq, a2.pos_eq]
    clear e; omega
  · have := suffix_length_ge t2
    rw [hsuf4] at this
    omega

theorem fetchToken_refines (b : Buf) (sep : Bytes) (asStr : Bool) (h : WF b) :
    WF (fetchToken b sep asStr).2 ∧
    ((fetchToken b sep asStr).1.st, (fetchToken b sep asStr).1.bytes, (fetchToken b sep asStr).2.abs) = specToken b.abs sep ∧
    (fetchToken b sep asStr).1.n = (fetchToken b sep asStr).1.bytes.length ∧ PG (fetchToken b sep asStr).2 ∧
    ((fetchToken b sep asStr).1.st = .ok → (fetchToken b sep asStr).1.z = asStr) := by
  obtain ⟨cs, b1, e, w1, k1, pg1, o1⟩ | ⟨cs, hn, b2, e, w2, k2, pg2, o2⟩ |
      ⟨cs, hn, b2, b4, b7, nc, e, _, _, run⟩ := fetchToken_run b sep asStr h
  · rw [e, specToken_eof _ _ cs]
    refine ⟨w1, ?_, rfl, pg1, fun hh => by cases hh⟩
    simp only [Buf.abs, k1.src, o1]
  · rw [e, specToken_eol _ _ cs hn]
    refine ⟨w2, ?_, rfl, pg2, fun hh => by cases hh⟩
    simp only [Buf.abs, k2.src, o2]
  · rw [e, specToken_ok _ _ cs hn, ← run.nc_eq]
    refine ⟨run.wf7, ?_, ?_, run.pg7, fun _ => rfl⟩
    · simp only [Buf.abs, run.src7, run.off7]
    · show nc = (List.take nc _).length
      have := run.nc_le
      rw [List.length_take]; omega

/-- The run of `GetToken`, as `fetchToken_run`; the token is handed out as a pointer into the final window, which the anchor
    set at the token start has kept in place (`b7.base ≤` token start). -/
theorem getToken_run (b : Buf) (sep : Bytes) (h : WF b) :
    let k := runLen (isSep sep) b.abs.suffix
    let s1 := b.abs.suffix.drop k
    (s1 = [] ∧ ∃ b1, getToken b sep = ({ st := .eof }, b1) ∧ WF b1 ∧ Keep b b1 ∧ PG b1 ∧
        b1.base + b1.pos = b.base + b.pos + k) ∨
    (s1 ≠ [] ∧ nlLen s1 ≠ 0 ∧ ∃ b2, getToken b sep = ({ st := .eol }, b2) ∧ WF b2 ∧ Keep b b2 ∧ PG b2 ∧
        b2.base + b2.pos = b.base + b.pos + (k + nlLen s1)) ∨
    (s1 ≠ [] ∧ nlLen s1 = 0 ∧ ∃ (b2 b7 : Buf) (nc : Nat),
        getToken b sep = (({ st := .ok, bytes := s1.take nc, n := nc, p := some (b2.base + b2.pos - b7.base) } : Out),
          raiseAnchor b7 (b2.base + b2.pos)) ∧
        Keep (setAnchor b2 (b2.base + b2.pos)).2 b7 ∧ b7.base ≤ b2.base + b2.pos ∧
        TokenRun b sep k s1 b2 b7 nc) := by
  have hd := token_head b sep h
  simp only [] at hd ⊢
  generalize runLen (isSep sep) b.abs.suffix = k at *
  generalize b.abs.suffix.drop k = s1 at *
  obtain ⟨cs, b1, hsk, w1, k1, cpg, o1⟩ | ⟨cs, b1, b2, hsk, w2, k2, hd⟩ := hd
  · exact Or.inl ⟨cs, b1, by unfold getToken; simp only [hsk], w1, k1, cpg, o1⟩
  obtain ⟨hn, hnl, pg2, o2⟩ | ⟨hn, hnl, o2, hsuf2, b3, b4, nc, hsa, hct, a2, t2, t3, t4, t5, t6, hsuf4⟩ := hd
  · exact Or.inr (Or.inl ⟨cs, hn, b2, by unfold getToken; simp only [hsk, hnl], w2, k2, pg2, o2⟩)
  have hp4 := t2.hpos
  have hwl4 := win_length b4
  have w5 := advance_wf t2 nc (by omega)
  generalize hb5 : ({ b4 with pos := b4.pos + nc } : Buf) = b5 at *
  have q5 : b5.src = b4.src := by rw [← hb5]
  have q32 : b5.base + b5.pos = b4.base + b4.pos + nc := by rw [← hb5]; show b4.base + (b4.pos + nc) = _; omega
  have k45 : Keep b4 b5 := by rw [← hb5]; exact setpos_keep b4 _
  have hsuf5 : b5.abs.suffix = s1.drop nc := by
    rw [← hsuf4]; exact suffix_of_off q5 nc q32
  obtain ⟨st6, b6, st7, b7, hsk6, hst6, hrf, hst7, k57, w7, pg7, src7, o7⟩ := token_tail b5 sep w5
  rw [hsuf5] at o7
  -- the anchor set at the token start has kept the token in the window
  have hprot3 : Prot b3 (b2.base + b2.pos) := by
    have := setAnchor_prot b2 w2
    rw [hsa] at this; exact this
  have k37 : Keep b3 b7 := (t4.trans k45).trans k57
  have hprot7 : Prot b7 (b2.base + b2.pos) := hprot3.keep k37
  have hbase7 : ¬ (b2.base + b2.pos < b7.base) := by have := hprot7.1; omega
  have hoff7 : b7.base + b7.pos = b2.base + b2.pos + nc + runLen (isSep sep) (s1.drop nc) := by
    have f3 := t3.off
    have f4 : b3.base + b3.pos = b2.base + b2.pos := by rw [a2.base_eq, a2.pos_eq]
    omega
  have hsrc7 : b7.src = b2.src := by
    rw [src7, q5, t3.src, a2.src_eq]
  have hsl' : slice b7 (b2.base + b2.pos - b7.base) nc = some (s1.take nc) := by
    have hp7 := w7.hpos
    rw [slice_at w7 (b2.base + b2.pos) nc hprot7.1 (by omega), hsrc7]
    have : b2.src.drop (b2.base + b2.pos) = s1 := hsuf2
    rw [this]
  have e : getToken b sep = (({ st := .ok, bytes := s1.take nc, n := nc, p := some (b2.base + b2.pos - b7.base) } : Out),
      raiseAnchor b7 (b2.base + b2.pos)) := by
    unfold getToken
    simp only [hsk, hnl, hsa, hct, hb5, hsk6, hst6, hrf, hst7, Bool.not_true, Bool.false_eq_true, if_false, hbase7, hsl']
  refine Or.inr (Or.inr ⟨cs, hn, b2, b7, nc, e, by rw [hsa]; exact k37, hprot7.1, w2, k2, o2, w7, pg7, ?_, ?_, t5, ?_⟩)
  · rw [hsrc7, k2.src]
  · clear e; omega
  · have := suffix_length_ge t2
    rw [hsuf4] at this
    omega

theorem getToken_refines (b : Buf) (sep : Bytes) (h : WF b) :
    WF (getToken b sep).2 ∧
    ((getToken b sep).1.st, (getToken b sep).1.bytes, (getToken b sep).2.abs) = specToken b.abs sep ∧
    (getToken b sep).1.n = (getToken b sep).1.bytes.length ∧ PG (getToken b sep).2 := by
  obtain ⟨cs, b1, e, w1, k1, pg1, o1⟩ | ⟨cs, hn, b2, e, w2, k2, pg2, o2⟩ |
      ⟨cs, hn, b2, b7, nc, e, _, _, run⟩ := getToken_run b sep h
  · rw [e, specToken_eof _ _ cs]
    refine ⟨w1, ?_, rfl, pg1⟩
    simp only [Buf.abs, k1.src, o1]
  · rw [e, specToken_eol _ _ cs hn]
    refine ⟨w2, ?_, rfl, pg2⟩
    simp only [Buf.abs, k2.src, o2]
  · -- raising the anchor changes neither the window nor the cursor
    obtain ⟨r8, w8⟩ := raiseAnchor_spec b7 (b2.base + b2.pos) run.wf7
    rw [e, specToken_ok _ _ cs hn, ← run.nc_eq]
    refine ⟨w8, ?_, ?_, ?_⟩
    · simp only [Buf.abs, r8.src_eq, r8.base_eq, r8.pos_eq, run.src7, run.off7]
    · show nc = (List.take nc _).length
      have := run.nc_le
      rw [List.length_take]; omega
    · have zn : (raiseAnchor b7 (b2.base + b2.pos)).n = b7.n := by simp [Buf.n, r8.mem_eq]
      have zp : (raiseAnchor b7 (b2.base + b2.pos)).pagesize = b7.pagesize := r8.frame.ps
      rcases run.pg7 with g | g
      · left; rw [zn, zp, r8.pos_eq]; exact g
      · right; rw [r8.rest_eq]; exact g

end EaselModel.Buffer
