import EaselModel.Buffer.History
import EaselModel.Buffer.Partition
/-! Reading a whole input line by line (`while (esl_buffer_GetLine(...) == eslOK)`) yields exactly `specLines src`,
    on every opener and page size. This is the line reader the alignment/sequence-file models (C01, C02, …) assume. -/
namespace EaselModel.Buffer

def isLineOp (op : Op) : Prop := op = .getLine ∨ op = .fetchLine ∨ op = .fetchLineStr

/-- `while (op(bf, &p, &n) == eslOK) collect p[0..n)` with any mix of the three line operations chosen by `pick` -/
def readLines (pick : Nat → Op) : Nat → Sess → List Bytes
  | 0, _ => []
  | fuel + 1, s =>
    let r := s.step (pick fuel)
    if r.1.st = .ok then r.1.bytes :: readLines pick fuel r.2 else []

theorem specStep_line (a : AState) (op : Op) (h : isLineOp op) :
    (specStep a op).1 = ⟨(specGetLine a.abs).1, (specGetLine a.abs).2.1, (specGetLine a.abs).2.2.cur⟩ ∧
    (specStep a op).2.src = a.src ∧ (specStep a op).2.cur = (specGetLine a.abs).2.2.cur := by
  rcases h with h | h | h <;> rw [h] <;> exact ⟨rfl, aBrk_src a a.cur, rfl⟩

theorem valid_line (P : Nat) (a : AState) (op : Op) (h : isLineOp op) : Valid P a op := by
  rcases h with h | h | h <;> rw [h] <;> trivial

theorem lineOp_ne_get (op : Op) (h : isLineOp op) : op ≠ .get := by
  rcases h with h | h | h <;> rw [h] <;> intro hh <;> cases hh

theorem readLines_spec (P : Nat) (pick : Nat → Op) (hpick : ∀ i, isLineOp (pick i)) (fuel : Nat) :
    ∀ (a : AState) (s : Sess), R P a s →
    readLines pick fuel s = (specLinesAux fuel a.abs.suffix).map (·.body) := by
  induction fuel with
  | zero => intro a s _; rfl
  | succ fuel ih =>
    intro a s r
    have hop := hpick fuel
    obtain ⟨h1, h2⟩ := sim_all P (pick fuel) a s r (valid_line P a _ hop)
    obtain ⟨e1, e2, e3⟩ := specStep_line a (pick fuel) hop
    have hst : (s.step (pick fuel)).1.st = (specGetLine a.abs).1 := by
      have := congrArg Obs.st h1
      rw [e1] at this; exact this
    have hby : (s.step (pick fuel)).1.bytes = (specGetLine a.abs).2.1 := by
      have := congrArg Obs.bytes h1
      rw [e1] at this
      have hb : (obsOf (pick fuel) (s.step (pick fuel)).1 (s.step (pick fuel)).2).bytes = (s.step (pick fuel)).1.bytes := by
        show (if pick fuel = .get then [] else (s.step (pick fuel)).1.bytes) = _
        rw [if_neg (lineOp_ne_get _ hop)]
      rw [hb] at this; exact this
    show (if (s.step (pick fuel)).1.st = .ok then (s.step (pick fuel)).1.bytes :: readLines pick fuel (s.step (pick fuel)).2 else []) = _
    rw [hst, hby, ih _ _ h2]
    -- unfold one step of the specification's line list
    rw [specLinesAux]
    unfold specGetLine
    cases hl : specLine a.abs.suffix with
    | none => simp
    | some x =>
      obtain ⟨line, nskip⟩ := x
      simp only [if_true, List.map_cons]
      congr 2
      -- the new specification state's suffix is the old one with the line stepped over
      have : (specStep a (pick fuel)).2.abs.suffix = a.abs.suffix.drop nskip := by
        show (specStep a (pick fuel)).2.src.drop (specStep a (pick fuel)).2.cur = (a.src.drop a.cur).drop nskip
        rw [e2, e3]
        unfold specGetLine
        rw [hl]
        show a.src.drop (a.cur + nskip) = _
        rw [List.drop_drop]
      rw [this]

/-- **Reading a whole input line by line.** For every input, opener, page size ≥ 1 and any mix of `GetLine`, `FetchLine`,
    `FetchLineAsStr`: the lines returned until the first non-OK status are exactly the bodies of `specLines src` — the
    maximal LF/CRLF-free runs that `lines_partition` characterises. -/
theorem readLines_eq_specLines (mode : Mode) (ps : Nat) (src : Bytes) (hps : 0 < ps) (pick : Nat → Op)
    (hpick : ∀ i, isLineOp (pick i)) :
    readLines pick (src.length + 1) { b := openBuf mode ps src } = (specLines src).map (·.body) := by
  have r := open_R mode ps src hps ps (Nat.le_refl _)
  rw [readLines_spec ps pick hpick (src.length + 1) _ _ r]
  rfl

/-- In the modes that hold the whole input (string, slurped file, mmap, short pipe) `Get` exposes all the rest of it. -/
theorem get_all_in_memory {P : Nat} {a : AState} {s : Sess} (r : R P a s) (hf : s.b.hasfp = false)
    (hlt : a.cur < a.src.length) :
    (get s.b).1.st = .ok ∧ (get s.b).1.bytes = a.abs.suffix ∧ (get s.b).1.n = a.src.length - a.cur := by
  obtain ⟨g1, g2, _, _⟩ := get_prefix r hlt
  have hpos := r.at_end_iff.mpr hlt
  have e : (get s.b).1.n = s.b.n - s.b.pos := by unfold get; rw [if_pos hpos]
  have hs : s.b.abs.suffix.length = (s.b.n - s.b.pos) + s.b.rest.length := suffix_length r.wf
  rw [r.abs_eq, r.wf.hnofp hf] at hs
  have hl : a.abs.suffix.length = a.src.length - a.cur := abs_suffix_length a.abs
  simp only [List.length_nil, Nat.add_zero] at hs
  refine ⟨g1, ?_, by rw [e]; omega⟩
  rw [g2, e, ← hs, List.take_length]

end EaselModel.Buffer
