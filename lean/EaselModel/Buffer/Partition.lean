import EaselModel.Buffer.ListLemmas
/-! # C05 — `specLines` partitions the input into LF-free bodies and LF / CRLF terminators -/
namespace EaselModel.Buffer

theorem LF_not_mem_of_runLen_full (l : Bytes) (h : runLen notLF l = l.length) : LF ∉ l := by
  intro hm
  have := (runLen_eq_length_iff notLF l).1 h LF hm
  simp [notLF] at this

theorem LF_not_mem_take (s : Bytes) (k : Nat) (hk : k ≤ runLen notLF s) : LF ∉ s.take k := by
  apply LF_not_mem_of_runLen_full
  have := runLen_le notLF s
  rw [runLen_take _ _ _ hk, List.length_take]
  omega

theorem getElem?_runLen_notLF (s : Bytes) (h : runLen notLF s < s.length) :
    s[runLen notLF s]? = some LF := by
  obtain ⟨c, hc, hp⟩ := runLen_spec_at notLF s h
  have : c = LF := by simpa [notLF] using hp
  rw [hc, this]

theorem take_drop_one (s : Bytes) (i : Nat) (c : UInt8) (h : s[i]? = some c) :
    (s.take (i + 1)).drop i = [c] := by
  have hi : i < s.length := by
    rcases Nat.lt_or_ge i s.length with h1 | h1
    · exact h1
    · rw [List.getElem?_eq_none h1] at h; cases h
  have hc : s[i] = c := by
    rw [List.getElem?_eq_getElem hi] at h; exact Option.some.inj h
  rw [List.drop_take, List.drop_eq_getElem_cons hi, hc]
  have : i + 1 - i = 1 := by omega
  rw [this]; rfl

theorem take_drop_two (s : Bytes) (i : Nat) (c d : UInt8) (h : s[i]? = some c) (h' : s[i+1]? = some d) :
    (s.take (i + 2)).drop i = [c, d] := by
  have hi : i + 1 < s.length := by
    rcases Nat.lt_or_ge (i + 1) s.length with h1 | h1
    · exact h1
    · rw [List.getElem?_eq_none h1] at h'; cases h'
  have hi0 : i < s.length := by omega
  have hc : s[i] = c := by
    rw [List.getElem?_eq_getElem hi0] at h; exact Option.some.inj h
  have hd : s[i+1] = d := by
    rw [List.getElem?_eq_getElem hi] at h'; exact Option.some.inj h'
  rw [List.drop_take, List.drop_eq_getElem_cons hi0, List.drop_eq_getElem_cons hi, hc, hd]
  have : i + 2 - i = 2 := by omega
  rw [this]; rfl

structure LineOK (s line : Bytes) (nskip : Nat) : Prop where
  pos : 0 < nskip
  le : nskip ≤ s.length
  len_le : line.length ≤ nskip
  pre : line = s.take line.length
  nolf : LF ∉ line
  term : (s.take nskip).drop line.length = [LF] ∨ (s.take nskip).drop line.length = [CR, LF] ∨
    ((s.take nskip).drop line.length = [] ∧ nskip = s.length)
  nocr : (s.take nskip).drop line.length = [LF] → line.getLast? ≠ some CR
  nonempty : 0 < (line ++ (s.take nskip).drop line.length).length

theorem specLine_ok (s line : Bytes) (nskip : Nat) (h : specLine s = some (line, nskip)) :
    LineOK s line nskip := by
  have hl := runLen_le notLF s
  unfold specLine at h
  split at h
  · cases h
  · rename_i hne
    have hpos : 0 < s.length := by
      cases s with
      | nil => exact absurd rfl hne
      | cons c cs => simp
    simp only [] at h
    split at h
    · -- last line, no terminator
      rename_i hfull
      cases h
      have ht : (s.take s.length).drop s.length = [] := by simp
      refine ⟨hpos, Nat.le_refl _, Nat.le_refl _, by simp, LF_not_mem_of_runLen_full s hfull,
        Or.inr (Or.inr ⟨ht, rfl⟩), (fun h => by rw [ht] at h; cases h), ?_⟩
      rw [List.length_append]; omega
    · rename_i hnf
      have hlt : runLen notLF s < s.length := by omega
      have hLF := getElem?_runLen_notLF s hlt
      split at h
      · -- CRLF
        rename_i hcr
        cases h
        obtain ⟨hi, hcr⟩ := hcr
        have hlen : (s.take (runLen notLF s - 1)).length = runLen notLF s - 1 := by
          rw [List.length_take]; omega
        have ht : (s.take (runLen notLF s + 1)).drop (s.take (runLen notLF s - 1)).length = [CR, LF] := by
          rw [hlen]
          have e : runLen notLF s + 1 = (runLen notLF s - 1) + 2 := by omega
          rw [e]
          apply take_drop_two _ _ _ _ hcr
          have e2 : runLen notLF s - 1 + 1 = runLen notLF s := by omega
          rw [e2]; exact hLF
        refine ⟨by omega, by omega, by rw [hlen]; omega, by rw [hlen], LF_not_mem_take s _ (by omega),
          Or.inr (Or.inl ht), (fun h => by rw [ht] at h; cases h), ?_⟩
        rw [ht, List.length_append]; simp
      · -- bare LF
        rename_i hncr
        cases h
        have hlen : (s.take (runLen notLF s)).length = runLen notLF s := by
          rw [List.length_take]; omega
        have ht : (s.take (runLen notLF s + 1)).drop (s.take (runLen notLF s)).length = [LF] := by
          rw [hlen]; exact take_drop_one _ _ _ hLF
        refine ⟨by omega, by omega, by rw [hlen]; omega, by rw [hlen], LF_not_mem_take s _ (Nat.le_refl _),
          Or.inl ht, (fun _ hlast => hncr ?_), ?_⟩
        · rw [List.getLast?_eq_getElem?, hlen, List.getElem?_take] at hlast
          rcases Nat.eq_zero_or_pos (runLen notLF s) with h0 | h0
          · rw [h0] at hlast; simp at hlast
          · have : runLen notLF s - 1 < runLen notLF s := by omega
            simp only [this, if_true] at hlast
            exact ⟨h0, hlast⟩
        · rw [ht, List.length_append]; simp

theorem LineOK.body_term (h : LineOK s line nskip) :
    line ++ (s.take nskip).drop line.length = s.take nskip := by
  have e : line = (s.take nskip).take line.length := by
    rw [List.take_take, Nat.min_eq_left h.len_le]; exact h.pre
  have := List.take_append_drop line.length (s.take nskip)
  rw [← e] at this
  exact this

/-- The invariant, generalised over the fuel. -/
theorem specLinesAux_ok (fuel : Nat) (s : Bytes) (hf : s.length < fuel) :
    (specLinesAux fuel s).flatMap (fun l => l.body ++ l.term) = s ∧
    (∀ l ∈ specLinesAux fuel s, LF ∉ l.body ∧ (l.term = [LF] ∨ l.term = [CR, LF] ∨ l.term = [])) ∧
    (∀ l ∈ specLinesAux fuel s, l.term = [LF] → l.body.getLast? ≠ some CR) ∧
    (∀ i, i + 1 < (specLinesAux fuel s).length → ∀ l, (specLinesAux fuel s)[i]? = some l → l.term ≠ []) ∧
    (∀ l ∈ specLinesAux fuel s, 0 < (l.body ++ l.term).length) := by
  induction fuel generalizing s with
  | zero => omega
  | succ fuel ih =>
    unfold specLinesAux
    split
    · rename_i hnone
      have : s = [] := by
        unfold specLine at hnone
        split at hnone
        · assumption
        · simp only [] at hnone
          split at hnone
          · cases hnone
          · split at hnone <;> cases hnone
      subst this
      simp
    · rename_i line nskip hsome
      have ok := specLine_ok s line nskip hsome
      have hdl : (s.drop nskip).length < fuel := by
        rw [List.length_drop]
        have := ok.pos; have := ok.le
        omega
      obtain ⟨ih1, ih2, ih3, ih4, ih5⟩ := ih (s.drop nskip) hdl
      refine ⟨?_, ?_, ?_, ?_, ?_⟩
      · rw [List.flatMap_cons, ih1]
        show (line ++ (s.take nskip).drop line.length) ++ s.drop nskip = s
        rw [ok.body_term, List.take_append_drop]
      · intro l hl
        rcases List.mem_cons.1 hl with rfl | hl
        · refine ⟨ok.nolf, ?_⟩
          rcases ok.term with h | h | ⟨h, _⟩
          · exact Or.inl h
          · exact Or.inr (Or.inl h)
          · exact Or.inr (Or.inr h)
        · exact ih2 l hl
      · intro l hl
        rcases List.mem_cons.1 hl with rfl | hl
        · exact ok.nocr
        · exact ih3 l hl
      · intro i hi l hget
        cases i with
        | zero =>
          simp only [List.getElem?_cons_zero] at hget
          cases hget
          show (s.take nskip).drop line.length ≠ []
          intro hnil
          rcases ok.term with h | h | ⟨_, h⟩
          · rw [hnil] at h; cases h
          · rw [hnil] at h; cases h
          · -- nothing is left, so there is no further line
            have hd : s.drop nskip = [] := by rw [h]; simp
            rw [hd] at hi
            have : specLinesAux fuel [] = [] := by
              cases fuel with
              | zero => rfl
              | succ f => simp [specLinesAux, specLine]
            rw [this] at hi
            simp at hi
        | succ j =>
          simp only [List.getElem?_cons_succ] at hget
          simp only [List.length_cons] at hi
          exact ih4 j (by omega) l hget
      · intro l hl
        rcases List.mem_cons.1 hl with rfl | hl
        · exact ok.nonempty
        · exact ih5 l hl

/-- Lines and their terminators partition the input exactly; bodies are LF-free; terminators are LF, CRLF, or
    (only for the last line) nothing; a body never ends in CR when the terminator is a bare LF (the CR belongs to the
    terminator), so lines are the maximal runs between LF/CRLF terminators. -/
theorem lines_partition (src : Bytes) :
    (specLines src).flatMap (fun l => l.body ++ l.term) = src ∧
    (∀ l ∈ specLines src, LF ∉ l.body ∧ (l.term = [LF] ∨ l.term = [CR, LF] ∨ l.term = [])) ∧
    (∀ l ∈ specLines src, l.term = [LF] → l.body.getLast? ≠ some CR) ∧
    (∀ i, i + 1 < (specLines src).length → ∀ l, (specLines src)[i]? = some l → l.term ≠ []) := by
  obtain ⟨h1, h2, h3, h4, _⟩ := specLinesAux_ok (src.length + 1) src (Nat.lt_succ_self _)
  exact ⟨h1, h2, h3, h4⟩

/-- no line is empty-with-empty-terminator: every element of specLines consumes at least one byte -/
theorem lines_nonempty (src : Bytes) : ∀ l ∈ specLines src, 0 < (l.body ++ l.term).length :=
  (specLinesAux_ok (src.length + 1) src (Nat.lt_succ_self _)).2.2.2.2

end EaselModel.Buffer
