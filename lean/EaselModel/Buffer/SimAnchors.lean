import EaselModel.Buffer.SimBasic
/-! Simulation of `SetAnchor`, `SetStableAnchor`, `RaiseAnchor`. -/
namespace EaselModel.Buffer

theorem AnchorOnly.pg {b b' : Buf} (h : AnchorOnly b b') (p : PG b) : PG b' := by
  obtain ⟨a, n, t, rfl⟩ := h; exact p

theorem R.of_anchorOnly {P : Nat} {a a' : AState} {s s' : Sess} (r : R P a s) (ao : AnchorOnly s.b s'.b)
    (hsrc : a'.src = a.src) (hcur : a'.cur = a.cur) (hlp : a'.lastp = none) (hslp : s'.lastp = none)
    (wf : WF s'.b) (aok : AnchOK s'.b) (nfa : NoFpNoAnchor s'.b)
    (anch : s'.b.hasfp = true → s'.b.absAnchor = a'.anchor ∧ (a'.anchor ≠ none → s'.b.nanchor = a'.nanchor))
    (aanch : ∀ A, a'.anchor = some A → 1 ≤ a'.nanchor) : R P a' s' := by
  have fr := ao.frame
  refine ⟨wf, ao.pg r.pg, aok, nfa, by rw [ao.src_eq, r.src, hsrc], by rw [ao.base_eq, ao.pos_eq, r.cur, hcur],
    by rw [fr.ps]; exact r.ps, by rw [fr.hasfp, fr.mode]; exact r.modefp, ?_, anch, aanch, by rw [hslp, hlp]; rfl, ?_⟩
  · intro hf; rw [fr.hasfp] at hf; rw [ao.base_eq]; exact r.base0 hf
  · intro p hp; rw [hlp] at hp; cases hp

/-- the flag `bf->stable` is invisible to the simulation relation -/
theorem R.set_stab {P : Nat} {a : AState} {b : Buf} {st : Option Nat} (r : R P a { b := b, lastp := none, stable := st })
    (hlp : a.lastp = none) (v : Bool) : R P a { b := { b with stab := v }, lastp := none, stable := st } :=
  r.of_anchorOnly (s' := { b := { b with stab := v }, lastp := none, stable := st }) (a' := a)
    ⟨b.anchor, b.nanchor, v, rfl⟩ rfl rfl hlp rfl
    ⟨r.wf.hwin, r.wf.hpos, r.wf.hanch, r.wf.hps, r.wf.heof, r.wf.hnofp⟩ r.aok r.nfa r.anch r.aanch

theorem aRaise_none (a : AState) (o : Nat) (h : a.anchor = none) : aRaise a o = a := by
  unfold aRaise; rw [h]
theorem aRaise_miss (a : AState) (o A : Nat) (h : a.anchor = some A) (hne : A ≠ o) : aRaise a o = a := by
  unfold aRaise; rw [h]; simp only []; rw [if_neg hne]
theorem aRaise_last (a : AState) (o A : Nat) (h : a.anchor = some A) (he : A = o) (hl : a.nanchor - 1 = 0) :
    aRaise a o = { a with anchor := none, nanchor := 0 } := by
  unfold aRaise; rw [h]; simp only []; rw [if_pos he, if_pos hl]
theorem aRaise_more (a : AState) (o A : Nat) (h : a.anchor = some A) (he : A = o) (hl : a.nanchor - 1 ≠ 0) :
    aRaise a o = { a with nanchor := a.nanchor - 1 } := by
  unfold aRaise; rw [h]; simp only []; rw [if_pos he, if_neg hl]

theorem bracket_free_aok (b : Buf) (o : Nat) (ha : AnchOK b) : AnchOK (raiseAnchor b o) := by
  cases hca : b.anchor with
  | none => rw [raiseAnchor_none b o hca]; exact ha
  | some a0 =>
    by_cases he : b.base + a0 = o
    · by_cases hl : b.nanchor - 1 = 0
      · rw [raiseAnchor_last b o a0 hca he hl]; intro x hx; cases hx
      · rw [raiseAnchor_more b o a0 hca he hl]; intro x _; show 1 ≤ b.nanchor - 1; omega
    · rw [raiseAnchor_miss b o a0 hca he]; exact ha

theorem sim_raiseAnchor (P : Nat) (o : Nat) : SimStep P (.raiseAnchor o) := by
  intro a s r _
  obtain ⟨ao, wf⟩ := raiseAnchor_spec s.b o r.wf
  have hobs : obsOf (.raiseAnchor o) (s.step (.raiseAnchor o)).1 (s.step (.raiseAnchor o)).2 = ⟨.ok, [], a.cur⟩ := by
    show (⟨St.ok, [], (raiseAnchor s.b o).base + (raiseAnchor s.b o).pos⟩ : Obs) = _
    rw [ao.base_eq, ao.pos_eq, r.cur]
  refine ⟨hobs, ?_⟩
  show R P { aRaise a o with lastp := none } (s.step (.raiseAnchor o)).2
  have hb : (s.step (.raiseAnchor o)).2.b = raiseAnchor s.b o := rfl
  have hfp : (raiseAnchor s.b o).hasfp = s.b.hasfp := ao.frame.hasfp
  -- the abstract side
  have hA : ∀ A, (aRaise a o).anchor = some A → 1 ≤ (aRaise a o).nanchor := by
    intro A hA
    cases han : a.anchor with
    | none => rw [aRaise_none a o han] at hA ⊢; exact r.aanch A hA
    | some A0 =>
      have x2 := r.aanch A0 han
      by_cases hAo : A0 = o
      · by_cases hlast : a.nanchor - 1 = 0
        · rw [aRaise_last a o A0 han hAo hlast] at hA; cases hA
        · rw [aRaise_more a o A0 han hAo hlast]
          show 1 ≤ a.nanchor - 1; omega
      · rw [aRaise_miss a o A0 han hAo] at hA ⊢; exact r.aanch A hA
  have hsrc : (aRaise a o).src = a.src ∧ (aRaise a o).cur = a.cur := by
    cases han : a.anchor with
    | none => rw [aRaise_none a o han]; exact ⟨rfl, rfl⟩
    | some A0 =>
      by_cases hAo : A0 = o
      · by_cases hlast : a.nanchor - 1 = 0
        · rw [aRaise_last a o A0 han hAo hlast]; exact ⟨rfl, rfl⟩
        · rw [aRaise_more a o A0 han hAo hlast]; exact ⟨rfl, rfl⟩
      · rw [aRaise_miss a o A0 han hAo]; exact ⟨rfl, rfl⟩
  refine r.of_anchorOnly (s' := (s.step (.raiseAnchor o)).2) (a' := { aRaise a o with lastp := none }) ao hsrc.1 hsrc.2 rfl rfl wf
    ?_ ?_ ?_ (by intro A h'; exact hA A h')
  · -- AnchOK
    rw [hb]
    exact (bracket_free_aok s.b o r.aok)
  · rw [hb]; intro hf
    rw [hfp] at hf
    rw [raiseAnchor_none s.b o (r.nfa hf)]; exact r.nfa hf
  · rw [hb]; intro hf
    rw [hfp] at hf
    obtain ⟨r1, r2⟩ := r.anch hf
    show (raiseAnchor s.b o).absAnchor = (aRaise a o).anchor ∧ ((aRaise a o).anchor ≠ none → (raiseAnchor s.b o).nanchor = (aRaise a o).nanchor)
    cases han : a.anchor with
    | none =>
      have hcn : s.b.anchor = none := (absAnchor_eq_none s.b).mp (by rw [r1, han])
      rw [raiseAnchor_none s.b o hcn]
      rw [aRaise_none a o han]; exact ⟨r1, r2⟩
    | some A0 =>
      obtain ⟨a0, hca, hcb⟩ := absAnchor_some (by rw [r1, han] : s.b.absAnchor = some A0)
      have hn := r2 (by rw [han]; intro hh; cases hh)
      by_cases hAo : A0 = o
      · by_cases hlast : a.nanchor - 1 = 0
        · rw [raiseAnchor_last s.b o a0 hca (by omega) (by rw [hn]; exact hlast)]
          rw [aRaise_last a o A0 han hAo hlast]
          exact ⟨rfl, fun hh => absurd rfl hh⟩
        · rw [raiseAnchor_more s.b o a0 hca (by omega) (by rw [hn]; exact hlast)]
          rw [aRaise_more a o A0 han hAo hlast]
          refine ⟨?_, fun _ => by show s.b.nanchor - 1 = a.nanchor - 1; rw [hn]⟩
          show s.b.absAnchor = a.anchor
          exact r1
      · rw [raiseAnchor_miss s.b o a0 hca (by omega)]
        rw [aRaise_miss a o A0 han hAo]; exact ⟨r1, r2⟩

theorem aSetAnchor_none (a : AState) (o : Nat) (h : a.anchor = none) :
    aSetAnchor a o = { a with anchor := some o, nanchor := 1 } := by
  unfold aSetAnchor; rw [h]
theorem aSetAnchor_left (a : AState) (o A : Nat) (h : a.anchor = some A) (hlt : o < A) :
    aSetAnchor a o = { a with anchor := some o, nanchor := 1 } := by
  unfold aSetAnchor; rw [h]; simp only []; rw [if_pos hlt]
theorem aSetAnchor_same (a : AState) (o A : Nat) (h : a.anchor = some A) (he : o = A) :
    aSetAnchor a o = { a with nanchor := a.nanchor + 1 } := by
  unfold aSetAnchor; rw [h]; simp only []; rw [if_neg (by omega), if_pos he]
theorem aSetAnchor_right (a : AState) (o A : Nat) (h : a.anchor = some A) (hgt : A < o) : aSetAnchor a o = a := by
  unfold aSetAnchor; rw [h]; simp only []; rw [if_neg (by omega), if_neg (by omega)]

theorem aSetAnchor_cur (a : AState) (o : Nat) : (aSetAnchor a o).cur = a.cur := by
  cases han : a.anchor with
  | none => rw [aSetAnchor_none a o han]
  | some A0 =>
    rcases Nat.lt_trichotomy o A0 with h | h | h
    · rw [aSetAnchor_left a o A0 han h]
    · rw [aSetAnchor_same a o A0 han h]
    · rw [aSetAnchor_right a o A0 han h]

/-- `SetAnchor` inside the window of a stream, code and specification side by side: it leaves an anchor at a window position `x` with a
    count `n ≥ 1`, and the specification has the same count at the same place of the input -/
theorem setAnchor_joint {b : Buf} {a : AState} (o : Nat) (hf : b.hasfp = true) (h1 : b.base ≤ o) (h2 : o ≤ b.base + b.n)
    (hw : ∀ x, b.anchor = some x → x ≤ b.n) (hk : AnchOK b) (r1 : b.absAnchor = a.anchor)
    (r2 : a.anchor ≠ none → b.nanchor = a.nanchor) :
    ∃ x n, setAnchor b o = (.ok, { b with anchor := some x, nanchor := n }) ∧ x ≤ b.n ∧ 1 ≤ n ∧
      (aSetAnchor a o).anchor = some (b.base + x) ∧ (aSetAnchor a o).nanchor = n := by
  have enew : some o = some (b.base + (o - b.base)) := by congr 1; omega
  cases han : a.anchor with
  | none =>
    have hcn : b.anchor = none := (absAnchor_eq_none b).mp (by rw [r1, han])
    rw [aSetAnchor_none a o han]
    exact ⟨o - b.base, 1, setAnchor_new b o hf h1 h2 (Or.inl hcn), by omega, Nat.le_refl _, enew, rfl⟩
  | some A0 =>
    obtain ⟨a0, hca, hcb⟩ := absAnchor_some (by rw [r1, han] : b.absAnchor = some A0)
    have hn := r2 (by rw [han]; intro hh; cases hh)
    have ha0 := hw a0 hca
    rcases Nat.lt_trichotomy o A0 with h | h | h
    · rw [aSetAnchor_left a o A0 han h]
      exact ⟨o - b.base, 1, setAnchor_new b o hf h1 h2 (Or.inr ⟨a0, hca, by omega⟩), by omega, Nat.le_refl _, enew, rfl⟩
    · rw [aSetAnchor_same a o A0 han h, setAnchor_same b o a0 hf h1 h2 hca (by omega)]
      refine ⟨a0, b.nanchor + 1, by rw [← hca], ha0, by omega, by rw [hcb]; exact han, by rw [hn]⟩
    · rw [aSetAnchor_right a o A0 han h, setAnchor_right b o a0 hf h1 h2 hca (by omega)]
      exact ⟨a0, b.nanchor, by rw [← hca], ha0, hk a0 hca, by rw [hcb]; exact han, hn.symm⟩

/-- the buffer-level content of `sim_setAnchor`, shared with `SetStableAnchor` -/
theorem setAnchor_sim' {P : Nat} {a : AState} {s : Sess} (r : R P a s) (o : Nat) (st : Option Nat)
    (hwin : s.b.hasfp = true → o ≤ s.b.base + s.b.n) (hbs : s.b.hasfp = true → s.b.base ≤ o) :
    (setAnchor s.b o).1 = .ok ∧
    R P { aSetAnchor a o with lastp := none } { b := (setAnchor s.b o).2, lastp := none, stable := st } ∧
    (∃ A', (aSetAnchor a o).anchor = some A') := by
  have hp := r.wf.hpos
  -- abstract side: the new anchor record is fine
  have habs : (aSetAnchor a o).src = a.src ∧ (aSetAnchor a o).cur = a.cur ∧
      (∀ A, (aSetAnchor a o).anchor = some A → 1 ≤ (aSetAnchor a o).nanchor) ∧
      (∃ A', (aSetAnchor a o).anchor = some A') := by
    cases han : a.anchor with
    | none =>
      rw [aSetAnchor_none a o han]
      exact ⟨rfl, rfl, (fun A _ => Nat.le_refl _), ⟨o, rfl⟩⟩
    | some A0 =>
      have x2 := r.aanch A0 han
      rcases Nat.lt_trichotomy o A0 with h | h | h
      · rw [aSetAnchor_left a o A0 han h]
        exact ⟨rfl, rfl, (fun A _ => Nat.le_refl _), ⟨o, rfl⟩⟩
      · rw [aSetAnchor_same a o A0 han h]
        refine ⟨rfl, rfl, (fun A _ => ?_), ⟨A0, han⟩⟩
        show 1 ≤ a.nanchor + 1; omega
      · rw [aSetAnchor_right a o A0 han h]
        exact ⟨rfl, rfl, (fun A hA => r.aanch A hA), ⟨A0, han⟩⟩
  obtain ⟨hs1, hs2, hs3, hs4⟩ := habs
  cases hf : s.b.hasfp with
  | false =>
    rw [setAnchor_nofp s.b o hf]
    refine ⟨rfl, ?_, hs4⟩
    exact r.of_anchorOnly (s' := { b := s.b, lastp := none, stable := st }) (a' := { aSetAnchor a o with lastp := none })
      ⟨s.b.anchor, s.b.nanchor, s.b.stab, rfl⟩ hs1 hs2 rfl rfl r.wf r.aok r.nfa (fun hh => by rw [hf] at hh; cases hh)
      (by intro A hA; exact hs3 A hA)
  | true =>
    obtain ⟨r1, r2⟩ := r.anch hf
    obtain ⟨x, n, e, hx, hn, ea, en⟩ := setAnchor_joint (a := a) o hf (hbs hf) (hwin hf) r.wf.hanch r.aok r1 r2
    rw [e]
    refine ⟨rfl, ?_, hs4⟩
    exact r.of_anchorOnly (s' := { b := { s.b with anchor := some x, nanchor := n }, lastp := none, stable := st })
      (a' := { aSetAnchor a o with lastp := none }) ⟨_, _, _, rfl⟩ hs1 hs2 rfl rfl
      (AnchorOnly.wf' ⟨_, _, _, rfl⟩ r.wf (by intro y hy; cases hy; exact hx)) (fun _ _ => hn)
      (fun hh => by rw [hf] at hh; cases hh) (fun _ => ⟨ea.symm, fun _ => en.symm⟩) (by intro A hA; exact hs3 A hA)

/-- inside the contract -/
theorem setAnchor_sim {P : Nat} {a : AState} {s : Sess} (r : R P a s) (o : Nat) (st : Option Nat)
    (hv : o ≤ a.cur ∧ (o = a.cur ∨ ∃ A, a.anchor = some A ∧ A ≤ o)) :
    (setAnchor s.b o).1 = .ok ∧
    R P { aSetAnchor a o with lastp := none } { b := (setAnchor s.b o).2, lastp := none, stable := st } ∧
    (∃ A', (aSetAnchor a o).anchor = some A') := by
  refine setAnchor_sim' r o st (fun _ => by have := hv.1; have := r.cur; have := r.wf.hpos; omega) (fun hf => ?_)
  obtain ⟨r1, _⟩ := r.anch hf
  rcases hv.2 with h | ⟨A, hA, hle⟩
  · rw [h, ← r.cur]; omega
  · obtain ⟨a0, _, hb⟩ := absAnchor_some (by rw [r1]; exact hA : s.b.absAnchor = some A)
    omega

theorem R.stable_irrel {P : Nat} {a : AState} {s s' : Sess} (r : R P a s) (hb : s'.b = s.b) (hl : s'.lastp = s.lastp) :
    R P a s' := by
  refine ⟨by rw [hb]; exact r.wf, by rw [hb]; exact r.pg, by rw [hb]; exact r.aok, by rw [hb]; exact r.nfa,
    by rw [hb]; exact r.src, by rw [hb]; exact r.cur, by rw [hb]; exact r.ps, by rw [hb]; exact r.modefp,
    by rw [hb]; exact r.base0, by rw [hb]; exact r.anch, r.aanch, by rw [hb, hl]; exact r.lastp, r.lastp_le⟩

theorem valid_anchor_base {P : Nat} {a : AState} {s : Sess} (r : R P a s) (o : Nat)
    (hv : o ≤ a.cur ∧ (o = a.cur ∨ ∃ A, a.anchor = some A ∧ A ≤ o)) (hf : s.b.hasfp = true) : s.b.base ≤ o := by
  obtain ⟨r1, _⟩ := r.anch hf
  rcases hv.2 with h | ⟨A, hA, hle⟩
  · rw [h, ← r.cur]; omega
  · obtain ⟨a0, _, hb⟩ := absAnchor_some (by rw [r1]; exact hA : s.b.absAnchor = some A)
    omega

/-- `SetAnchor` at an offset of the window at or before the cursor simulates the specification step
    (this is more than the contract `Valid` grants: also offsets left of the active anchor) -/
theorem sim_setAnchor' (P : Nat) (o : Nat) (a : AState) (s : Sess) (r : R P a s)
    (hwin : s.b.hasfp = true → o ≤ s.b.base + s.b.n) (hbs : s.b.hasfp = true → s.b.base ≤ o) :
    obsOf (.setAnchor o) (s.step (.setAnchor o)).1 (s.step (.setAnchor o)).2 = (specStep a (.setAnchor o)).1 ∧
    R P (specStep a (.setAnchor o)).2 (s.step (.setAnchor o)).2 := by
  obtain ⟨h1, h2, _⟩ := setAnchor_sim' r o none hwin hbs
  have hcur := h2.cur
  refine ⟨?_, h2.stable_irrel rfl rfl⟩
  show (⟨(setAnchor s.b o).1, [], (setAnchor s.b o).2.base + (setAnchor s.b o).2.pos⟩ : Obs) = ⟨.ok, [], a.cur⟩
  rw [h1]
  have : (setAnchor s.b o).2.base + (setAnchor s.b o).2.pos = (aSetAnchor a o).cur := hcur
  rw [this]
  have hc := aSetAnchor_cur a o
  rw [hc]

theorem sim_setAnchor (P : Nat) (o : Nat) : SimStep P (.setAnchor o) := fun a s r hv =>
  sim_setAnchor' P o a s r (fun _ => by have := hv.1; have := r.cur; have := r.wf.hpos; omega) (valid_anchor_base r o hv)

/-- rebasing the window (the `memmove` of `esl_buffer_SetStableAnchor`: `ndel = ESL_MIN(anchor, pos); anchor -= ndel`, b86a62d)
    keeps the simulation -/
theorem R.rebase {P : Nat} {a : AState} {b1 : Buf} {st st' : Option Nat} (r1 : R P a { b := b1, lastp := none, stable := st })
    (hf : b1.hasfp = true) (a1 : Nat) (ha1 : b1.anchor = some a1) (nd : Nat) (hna : nd ≤ a1) (hnp : nd ≤ b1.pos) :
    R P a { b := dropFront { b1 with anchor := some (a1 - nd) } nd, lastp := none, stable := st' } := by
  have w1 : WF b1 := r1.wf
  have han : a1 ≤ b1.n := w1.hanch a1 ha1
  have hp : b1.pos ≤ b1.n := w1.hpos
  have hwf0 : WF { b1 with anchor := some (a1 - nd) } :=
    ⟨w1.hwin, w1.hpos, by intro x hx; simp at hx; show x ≤ b1.n; omega, w1.hps, w1.heof, w1.hnofp⟩
  have fr := dropFront_frame { b1 with anchor := some (a1 - nd) } nd hnp hp
  have av := dropFront_avail { b1 with anchor := some (a1 - nd) } nd hnp hp
  have hfp : (dropFront { b1 with anchor := some (a1 - nd) } nd).hasfp = true := hf
  have hanch := r1.anch hf
  refine ⟨dropFront_wf hwf0 nd hnp (by intro x hx; simp at hx; show x + nd ≤ b1.n; omega), ?_, ?_, ?_, r1.src, ?_, r1.ps,
    r1.modefp, ?_, ?_, r1.aanch, r1.lastp, r1.lastp_le⟩
  · show (dropFront { b1 with anchor := some (a1 - nd) } nd).pagesize ≤ (dropFront { b1 with anchor := some (a1 - nd) } nd).n -
      (dropFront { b1 with anchor := some (a1 - nd) } nd).pos ∨ (dropFront { b1 with anchor := some (a1 - nd) } nd).rest = []
    rw [av]
    exact r1.pg
  · intro x _
    show 1 ≤ b1.nanchor
    exact r1.aok a1 ha1
  · intro hh; rw [hfp] at hh; cases hh
  · show (dropFront { b1 with anchor := some (a1 - nd) } nd).base + (dropFront { b1 with anchor := some (a1 - nd) } nd).pos = a.cur
    rw [fr.off]; exact r1.cur
  · intro hh; rw [hfp] at hh; cases hh
  · intro _
    show (dropFront { b1 with anchor := some (a1 - nd) } nd).absAnchor = a.anchor ∧ (a.anchor ≠ none → b1.nanchor = a.nanchor)
    refine ⟨?_, hanch.2⟩
    rw [← hanch.1]
    simp only [Buf.absAnchor, dropFront, ha1, Option.map_some]
    congr 1; omega

theorem sim_setStableAnchor' (P : Nat) (o : Nat) (a : AState) (s : Sess) (r : R P a s)
    (hwin : s.b.hasfp = true → o ≤ s.b.base + s.b.n) (hbs : s.b.hasfp = true → s.b.base ≤ o) :
    obsOf (.setStableAnchor o) (s.step (.setStableAnchor o)).1 (s.step (.setStableAnchor o)).2 = (specStep a (.setStableAnchor o)).1 ∧
    R P (specStep a (.setStableAnchor o)).2 (s.step (.setStableAnchor o)).2 := by
  obtain ⟨_, h2, _⟩ := setAnchor_sim' r o (s.step (.setStableAnchor o)).2.stable hwin hbs
  have hc := aSetAnchor_cur a o
  rcases setStableAnchor_cases s.b o with ⟨hf, e⟩ | ⟨hf, hout, _⟩ | ⟨hf, b1, a1, hsa, ha1, e⟩
  · rw [setAnchor_nofp s.b o hf] at h2
    refine ⟨?_, ?_⟩
    · show (⟨(setStableAnchor s.b o).1, [], (setStableAnchor s.b o).2.base + (setStableAnchor s.b o).2.pos⟩ : Obs) = ⟨.ok, [], a.cur⟩
      rw [e, r.cur]
    · refine h2.stable_irrel ?_ rfl
      show (setStableAnchor s.b o).2 = s.b
      rw [e]
  · have := hwin hf; have := hbs hf; omega
  · rw [hsa] at h2
    have hf1 : b1.hasfp = true := by
      have := (setAnchor_anchorOnly s.b o).frame.hasfp
      rw [hsa] at this; rw [this]; exact hf
    have r2 := (h2.rebase (st' := (s.step (.setStableAnchor o)).2.stable) hf1 a1 ha1 (min a1 b1.pos) (Nat.min_le_left _ _)
      (Nat.min_le_right _ _)).set_stab rfl true
    refine ⟨?_, ?_⟩
    · show (⟨(setStableAnchor s.b o).1, [], (setStableAnchor s.b o).2.base + (setStableAnchor s.b o).2.pos⟩ : Obs) = ⟨.ok, [], a.cur⟩
      rw [e]
      have := r2.cur
      simp only [] at this ⊢
      rw [this, hc]
    · refine r2.stable_irrel ?_ rfl
      show (setStableAnchor s.b o).2 = _
      rw [e]

theorem sim_setStableAnchor (P : Nat) (o : Nat) : SimStep P (.setStableAnchor o) := fun a s r hv =>
  sim_setStableAnchor' P o a s r (fun _ => by have := hv.1; have := r.cur; have := r.wf.hpos; omega) (valid_anchor_base r o hv)

end EaselModel.Buffer
