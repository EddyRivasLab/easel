import EaselModel.Buffer.Tokens
import EaselModel.Buffer.ReadFetch
/-! The line and read operations leave the anchor record (in absolute input coordinates) and its reference
    count as they found it. -/
namespace EaselModel.Buffer

def AnchOK (b : Buf) : Prop := ∀ a, b.anchor = some a → 1 ≤ b.nanchor

/-- without a stream `setAnchor` is a no-op, so no anchor is ever set -/
def NoFpNoAnchor (b : Buf) : Prop := b.hasfp = false → b.anchor = none

/-- like `Keep`, but the count only matters while an anchor is set -/
structure KeepA (b b' : Buf) : Prop where
  src : b'.src = b.src
  ps : b'.pagesize = b.pagesize
  mode : b'.mode = b.mode
  hasfp : b'.hasfp = b.hasfp
  anch : b'.absAnchor = b.absAnchor
  nanch : b.anchor ≠ none → b'.nanchor = b.nanchor
  nofp : b.hasfp = false → b'.base = b.base ∧ b'.mem = b.mem

theorem absAnchor_some {b : Buf} {A : Nat} (h : b.absAnchor = some A) : ∃ a, b.anchor = some a ∧ b.base + a = A := by
  simp only [Buf.absAnchor, Option.map_eq_some_iff] at h
  exact h

theorem KeepA.refl (b : Buf) : KeepA b b := ⟨rfl, rfl, rfl, rfl, rfl, fun _ => rfl, fun _ => ⟨rfl, rfl⟩⟩

theorem Keep.toKeepA {b b' : Buf} (h : Keep b b') : KeepA b b' :=
  ⟨h.src, h.ps, h.mode, h.hasfp, h.anch, fun _ => h.nanch, h.nofp⟩

theorem AnchOK.keep {b b' : Buf} (ha : AnchOK b) (k : Keep b b') : AnchOK b' := by
  intro a' ha'
  have : b.anchor ≠ none := by
    intro hb
    have := (anchor_none_of_abs k.anch).mpr hb
    rw [ha'] at this; cases this
  cases hb : b.anchor with
  | none => exact absurd hb this
  | some a => rw [k.nanch]; exact ha a hb

theorem NoFpNoAnchor.keepA {b b' : Buf} (hn : NoFpNoAnchor b) (k : KeepA b b') : NoFpNoAnchor b' := by
  intro hf
  rw [k.hasfp] at hf
  exact (anchor_none_of_abs k.anch).mpr (hn hf)

theorem NoFpNoAnchor.keep {b b' : Buf} (hn : NoFpNoAnchor b) (k : Keep b b') : NoFpNoAnchor b' :=
  hn.keepA k.toKeepA

/-- the anchor record that survives the bracket `SetAnchor(cursor) … RaiseAnchor(cursor)` of the line and token calls:
    an anchor at or before the cursor is untouched; an anchor AHEAD of the cursor (legal for `esl_buffer_SetAnchor`,
    which accepts any offset of the window, and reachable by an in-window rewind) is replaced by the bracket's own
    anchor and disappears with it -/
def Buf.brkAnchor (b : Buf) : Option Nat :=
  match b.anchor with
  | some a => if a ≤ b.pos then some (b.base + a) else none
  | none => none

/-- like `KeepA`, relative to a prescribed anchor record `A` -/
structure KeepX (A : Option Nat) (b b' : Buf) : Prop where
  src : b'.src = b.src
  ps : b'.pagesize = b.pagesize
  mode : b'.mode = b.mode
  hasfp : b'.hasfp = b.hasfp
  anch : b'.absAnchor = A
  nanch : A ≠ none → b'.nanchor = b.nanchor
  nofp : b.hasfp = false → b'.base = b.base ∧ b'.mem = b.mem

theorem KeepX.toKeepA {b b' : Buf} (k : KeepX b.absAnchor b b') : KeepA b b' :=
  ⟨k.src, k.ps, k.mode, k.hasfp, k.anch, fun hne => k.nanch (fun h => hne ((absAnchor_eq_none b).mp h)), k.nofp⟩

theorem KeepA.toKeepX {b b' : Buf} (k : KeepA b b') : KeepX b.absAnchor b b' :=
  ⟨k.src, k.ps, k.mode, k.hasfp, k.anch, fun hne => k.nanch (fun h => hne ((absAnchor_eq_none b).mpr h)), k.nofp⟩

theorem KeepX.transA {A : Option Nat} {a b c : Buf} (h1 : KeepX A a b) (h2 : KeepA b c) : KeepX A a c :=
  ⟨h2.src.trans h1.src, h2.ps.trans h1.ps, h2.mode.trans h1.mode, h2.hasfp.trans h1.hasfp,
   h2.anch.trans h1.anch,
   fun hne => (h2.nanch (fun hb => hne (by rw [← h1.anch]; exact (absAnchor_eq_none b).mpr hb))).trans (h1.nanch hne),
   nofp_trans h1.hasfp h1.nofp h2.nofp⟩

theorem KeepA.trans {a b c : Buf} (h1 : KeepA a b) (h2 : KeepA b c) : KeepA a c :=
  (h1.toKeepX.transA h2).toKeepA

theorem KeepA.transX {A : Option Nat} {a b c : Buf} (h1 : KeepA a b) (h2 : KeepX A b c) (hA : A ≠ none → a.anchor ≠ none) :
    KeepX A a c :=
  ⟨h2.src.trans h1.src, h2.ps.trans h1.ps, h2.mode.trans h1.mode, h2.hasfp.trans h1.hasfp, h2.anch,
   fun hne => (h2.nanch hne).trans (h1.nanch (hA hne)),
   nofp_trans h1.hasfp h1.nofp h2.nofp⟩

/-- `brkAnchor` as a function of the anchor `A` in input coordinates (`absAnchor`) and the offset `t` of the bracket (`brkAnchor_eq_brkAt`) -/
def brkAt (A : Option Nat) (t : Nat) : Option Nat :=
  match A with
  | some x => if x ≤ t then some x else none
  | none => none

theorem brkAnchor_eq_brkAt (b : Buf) : b.brkAnchor = brkAt b.absAnchor (b.base + b.pos) := by
  unfold Buf.brkAnchor brkAt Buf.absAnchor
  cases b.anchor with
  | none => rfl
  | some a =>
    simp only [Option.map_some]
    by_cases h : a ≤ b.pos
    · rw [if_pos h, if_pos (by omega)]
    · rw [if_neg h, if_neg (by omega)]

theorem brkAt_ne_none {A : Option Nat} {t : Nat} (h : brkAt A t ≠ none) : A ≠ none := by
  intro hA; rw [hA] at h; exact h rfl

theorem brkAnchor_of_le {b : Buf} (hle : ∀ a, b.anchor = some a → a ≤ b.pos) : b.brkAnchor = b.absAnchor := by
  unfold Buf.brkAnchor Buf.absAnchor
  cases ha : b.anchor with
  | none => rfl
  | some a => simp [hle a ha]

theorem brkAnchor_of_ahead {b : Buf} {a : Nat} (ha : b.anchor = some a) (hlt : b.pos < a) : b.brkAnchor = none := by
  unfold Buf.brkAnchor; simp only [ha]; rw [if_neg (by omega)]

theorem countline_keep (b : Buf) : Keep b (countline b).2.1 := countline_scans (Keep.scans b) b (Keep.refl b)

/-- The bracket `SetAnchor(cursor) … RaiseAnchor(cursor)` around steps that keep the anchor record: afterwards the anchor record is
    `brkAnchor`, i.e. what it was before unless the anchor stood ahead of the cursor. -/
theorem bracketX (b b3 : Buf) (h : WF b) (ha : AnchOK b) (hn : NoFpNoAnchor b)
    (hk : Keep (setAnchor b (b.base + b.pos)).2 b3) :
    KeepX b.brkAnchor b (raiseAnchor b3 (b.base + b.pos)) ∧ AnchOK (raiseAnchor b3 (b.base + b.pos)) := by
  have hp := h.hpos
  have f := setAnchor_anchorOnly b (b.base + b.pos)
  have g := raiseAnchor_anchorOnly b3 (b.base + b.pos)
  have core : (raiseAnchor b3 (b.base + b.pos)).absAnchor = b.brkAnchor ∧
      (b.brkAnchor ≠ none → (raiseAnchor b3 (b.base + b.pos)).nanchor = b.nanchor) ∧
      AnchOK (raiseAnchor b3 (b.base + b.pos)) := by
    cases hfp : b.hasfp with
    | false =>
      have e : (setAnchor b (b.base + b.pos)).2 = b := by rw [setAnchor_nofp b _ hfp]
      rw [e] at hk
      have h3 : b3.anchor = none := (anchor_none_of_abs hk.anch).mpr (hn hfp)
      rw [raiseAnchor_none b3 _ h3]
      have hbk : b.brkAnchor = b.absAnchor := brkAnchor_of_le (fun a haa => by rw [hn hfp] at haa; cases haa)
      rw [hbk]
      exact ⟨hk.anch, fun _ => hk.nanch, ha.keep hk⟩
    | true =>
      have hb1 : b.base ≤ b.base + b.pos := Nat.le_add_right _ _
      have hb2 : b.base + b.pos ≤ b.base + b.n := by omega
      have hsub : b.base + b.pos - b.base = b.pos := by omega
      cases han : b.anchor with
      | none =>
        have e : (setAnchor b (b.base + b.pos)).2 = { b with anchor := some b.pos, nanchor := 1 } := by
          rw [setAnchor_new b _ hfp hb1 hb2 (Or.inl han), hsub]
        rw [e] at hk
        have hA : b3.absAnchor = some (b.base + b.pos) := hk.anch
        have hN : b3.nanchor = 1 := hk.nanch
        obtain ⟨a3, h3, h3e⟩ := absAnchor_some hA
        rw [raiseAnchor_last b3 _ a3 h3 h3e (by omega)]
        refine ⟨?_, fun hne => absurd ?_ hne, ?_⟩
        · simp [Buf.absAnchor, Buf.brkAnchor, han]
        · simp [Buf.brkAnchor, han]
        · intro a haa; simp at haa
      | some a =>
        by_cases hap : a ≤ b.pos
        case neg =>
          -- an anchor ahead of the cursor: `SetAnchor(cursor)` replaces it (`r < anchor`), `RaiseAnchor(cursor)` removes that
          have hbk : b.brkAnchor = none := brkAnchor_of_ahead han (by omega)
          have e : (setAnchor b (b.base + b.pos)).2 = { b with anchor := some b.pos, nanchor := 1 } := by
            rw [setAnchor_new b _ hfp hb1 hb2 (Or.inr ⟨a, han, by omega⟩), hsub]
          rw [e] at hk
          have hA : b3.absAnchor = some (b.base + b.pos) := hk.anch
          have hN : b3.nanchor = 1 := hk.nanch
          obtain ⟨a3, h3, h3e⟩ := absAnchor_some hA
          rw [raiseAnchor_last b3 _ a3 h3 h3e (by omega), hbk]
          refine ⟨?_, fun hne => absurd rfl hne, ?_⟩
          · simp [Buf.absAnchor]
          · intro a haa; simp at haa
        have hbk : b.brkAnchor = b.absAnchor := brkAnchor_of_le (fun x hx => by rw [han] at hx; cases hx; exact hap)
        rw [hbk]
        have hbA : b.absAnchor = some (b.base + a) := by simp [Buf.absAnchor, han]
        by_cases hae : a = b.pos
        · have e : (setAnchor b (b.base + b.pos)).2 = { b with nanchor := b.nanchor + 1 } := by
            rw [setAnchor_same b _ a hfp hb1 hb2 han (by omega)]
          rw [e] at hk
          have hA : b3.absAnchor = b.absAnchor := hk.anch
          have hN : b3.nanchor = b.nanchor + 1 := hk.nanch
          obtain ⟨a3, h3, h3e⟩ := absAnchor_some (hA.trans hbA)
          have h1 := ha a han
          rw [raiseAnchor_more b3 _ a3 h3 (by omega) (by omega)]
          refine ⟨hA, fun _ => ?_, fun _ _ => ?_⟩
          · show b3.nanchor - 1 = b.nanchor; omega
          · show 1 ≤ b3.nanchor - 1; omega
        · have e : (setAnchor b (b.base + b.pos)).2 = b := by
            rw [setAnchor_right b _ a hfp hb1 hb2 han (by omega)]
          rw [e] at hk
          obtain ⟨a3, h3, h3e⟩ := absAnchor_some (hk.anch.trans hbA)
          rw [raiseAnchor_miss b3 _ a3 h3 (by omega)]
          exact ⟨hk.anch, fun _ => hk.nanch, ha.keep hk⟩
  refine ⟨⟨g.frame.src.trans (hk.src.trans f.frame.src), g.frame.ps.trans (hk.ps.trans f.frame.ps),
    g.frame.mode.trans (hk.mode.trans f.frame.mode), g.frame.hasfp.trans (hk.hasfp.trans f.frame.hasfp),
    core.1, core.2.1, fun hf => ?_⟩, core.2.2⟩
  obtain ⟨y1, y2⟩ := hk.nofp (by rw [f.frame.hasfp]; exact hf)
  exact ⟨g.base_eq.trans (y1.trans f.base_eq), g.mem_eq.trans (y2.trans f.mem_eq)⟩

/-- the bracket when the anchor is at or before the cursor (every history inside the API contract) -/
theorem bracket (b b3 : Buf) (h : WF b) (ha : AnchOK b) (hn : NoFpNoAnchor b) (hle : ∀ a, b.anchor = some a → a ≤ b.pos)
    (hk : Keep (setAnchor b (b.base + b.pos)).2 b3) :
    KeepA b (raiseAnchor b3 (b.base + b.pos)) ∧ AnchOK (raiseAnchor b3 (b.base + b.pos)) := by
  obtain ⟨k, a⟩ := bracketX b b3 h ha hn hk
  rw [brkAnchor_of_le hle] at k
  exact ⟨k.toKeepA, a⟩

theorem KeepX.setpos {A : Option Nat} {b b4 : Buf} (k : KeepX A b b4) (p : Nat) : KeepX A b { b4 with pos := p } :=
  k.transA (setpos_keep b4 p).toKeepA

theorem KeepA.setpos {b b4 : Buf} (k : KeepA b b4) (p : Nat) : KeepA b { b4 with pos := p } :=
  k.trans (setpos_keep b4 p).toKeepA

theorem getLine_keepX (b : Buf) (h : WF b) (ha : AnchOK b) (hn : NoFpNoAnchor b) :
    KeepX b.brkAnchor b (getLine b).2 ∧ AnchOK (getLine b).2 := by
  obtain ⟨b1, hsa, s3, _, hrun⟩ := getLine_run b h
  have hbr := fun b3 => bracketX b b3 h ha hn
  rw [hsa] at hbr
  have ck := countline_keep b1
  obtain ⟨_, hcl, e⟩ | ⟨_, b2, b3, b4, nc, nskip, st3, run⟩ := hrun
  · rw [e]
    exact hbr b1 (Keep.refl b1)
  · have hk3 := refill_keep b2 nskip
    rw [run.counted] at ck
    rw [run.refilled] at hk3
    obtain ⟨k4, a4⟩ := hbr b3 (ck.trans hk3)
    rw [run.out, ← run.raised]
    exact ⟨k4.setpos _, a4⟩

theorem getLine_keep (b : Buf) (h : WF b) (ha : AnchOK b) (hn : NoFpNoAnchor b) (hle : ∀ a, b.anchor = some a → a ≤ b.pos) :
    KeepA b (getLine b).2 ∧ AnchOK (getLine b).2 := by
  obtain ⟨k, a⟩ := getLine_keepX b h ha hn
  rw [brkAnchor_of_le hle] at k
  exact ⟨k.toKeepA, a⟩

theorem fetchLine_keepX (b : Buf) (asStr : Bool) (h : WF b) (ha : AnchOK b) (hn : NoFpNoAnchor b) :
    KeepX b.brkAnchor b (fetchLine b asStr).2 ∧ AnchOK (fetchLine b asStr).2 := by
  obtain ⟨b1, hsa, s3, _, hrun⟩ := fetchLine_run b asStr h
  have hbr := fun b3 => bracketX b b3 h ha hn
  rw [hsa] at hbr
  have ck := countline_keep b1
  obtain ⟨_, hcl, e⟩ | ⟨_, b2, b4, b5, nc, nskip, st5, run⟩ := hrun
  · rw [e]
    exact hbr b1 (Keep.refl b1)
  · rw [run.counted] at ck
    obtain ⟨k4, a4⟩ := hbr { b2 with pos := b2.pos + nskip } (ck.trans (setpos_keep b2 _))
    rw [run.raised] at k4 a4
    have hk5 := refill_keep b4 0
    rw [run.refilled] at hk5
    rw [run.out]
    exact ⟨k4.transA hk5.toKeepA, a4.keep hk5⟩

theorem fetchLine_keep (b : Buf) (asStr : Bool) (h : WF b) (ha : AnchOK b) (hn : NoFpNoAnchor b)
    (hle : ∀ a, b.anchor = some a → a ≤ b.pos) : KeepA b (fetchLine b asStr).2 ∧ AnchOK (fetchLine b asStr).2 := by
  obtain ⟨k, a⟩ := fetchLine_keepX b asStr h ha hn
  rw [brkAnchor_of_le hle] at k
  exact ⟨k.toKeepA, a⟩

theorem read_keep (b : Buf) (k : Nat) (ha : AnchOK b) : Keep b (read b k).2 ∧ AnchOK (read b k).2 :=
  have hk := read_scans (Keep.scans b) b k (Keep.refl b)
  ⟨hk, ha.keep hk⟩

end EaselModel.Buffer
