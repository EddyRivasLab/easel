import EaselModel.Buffer.Model
/-! # C05 (round 4) — executable model of the string/number helpers of `esl_mem.c`

Mirrors, statement by statement: `esl_mem_strtoi32` / `esl_mem_strtoi64` / `esl_mem_strtoi` (one model, parametrised by
the bounds `lo hi` of the integer type), `esl_memtok`, `esl_memspn`, `esl_memcspn`, `esl_memstrcmp`, `esl_memstrpfx`,
`esl_memstrcontains`, `esl_memstrcmp_case`, `esl_memstrpfx_case`, `esl_memstrdup`, `esl_memstrcpy`, `esl_mem_IsReal`.
(`esl_memnewline` is `EaselModel.Buffer.memnewline`.) Core Lean only (the driver links this file).

Conventions
* the memory line `p[0..n)` is a `Bytes`; `n = p.length` (the harness hands the code an exactly sized block);
* a C string argument (`delim`, `allow`, `s`) is given by its bytes *before* the implicit terminating NUL; the code sees
  `cz s = s ++ [0]`, and reading behind that NUL is an out-of-bounds access;
* every data-dependent index goes through `l[i]?`; `none` is the outcome *fault* (a function returning `Option` answers
  `none` for it). Signed overflow of the C integer type (undefined behaviour) is a fault too (`ck`).
* `char` is signed: bytes ≥ 0x80 are negative, and in the C locale belong to no `<ctype.h>` class. -/
namespace EaselModel.Buffer.Mem
open EaselModel.Buffer

inductive MSt where
  | ok | eol | eformat | erange | einval | fault
  deriving DecidableEq, Repr, Inhabited

/-! ## `<ctype.h>` in the C locale -/
def isspaceB (c : UInt8) : Bool := c.toNat == 32 || (9 ≤ c.toNat && c.toNat ≤ 13)
def isdigitB (c : UInt8) : Bool := 48 ≤ c.toNat && c.toNat ≤ 57
def isupperB (c : UInt8) : Bool := 65 ≤ c.toNat && c.toNat ≤ 90
def islowerB (c : UInt8) : Bool := 97 ≤ c.toNat && c.toNat ≤ 122
def toupperB (c : UInt8) : UInt8 := if islowerB c then c - 32 else c

/-- the `if isdigit … else if isupper … else if islower … else break` cascade: the digit value, `none` = `break` -/
def digitOf (c : UInt8) : Option Int :=
  if isdigitB c then some ((c.toNat : Int) - 48)
  else if isupperB c then some (10 + ((c.toNat : Int) - 65))
  else if islowerB c then some (10 + ((c.toNat : Int) - 97))
  else none

/-- the C string seen by the code: the bytes up to the first NUL (the implicit terminator if there is none before) -/
def cstr (s : Bytes) : Bytes := s.takeWhile (· != 0)
/-- the memory behind a `const char *` argument: the given bytes and the terminating NUL -/
def cz (s : Bytes) : Bytes := s ++ [0]

/-! ## esl_mem_strtoi32 / strtoi64 / strtoi -/

structure IRes where
  st : MSt
  /-- `*opt_nc`; `none` = not written by the call -/
  nc : Option Nat
  /-- `*opt_val`; `none` = not written by the call -/
  val : Option Int
  deriving DecidableEq, Repr, Inhabited

/-- arithmetic in the C integer type `[lo, hi]`: a result outside it is signed overflow (undefined behaviour → fault) -/
def ck (lo hi v : Int) : Option Int := if lo ≤ v ∧ v ≤ hi then some v else none

/-- `while (i < n && isspace(p[i])) i++;` -/
def wsLoop (p : Bytes) (i : Nat) : Option Nat :=
  if i < p.length then
    match p[i]? with
    | none => none
    | some c => if isspaceB c then wsLoop p (i + 1) else some i
  else some i
termination_by p.length - i

/-- `if (i < n && p[i] == '-') { sign = -1; i++; }` : `(sign, i)` -/
def signStep (p : Bytes) (i : Nat) : Option (Int × Nat) :=
  if i < p.length then
    match p[i]? with
    | none => none
    | some c => if c = 45 then some (-1, i + 1) else some (1, i)
  else some (1, i)

/-- `(base == 0 || base == 16) && i < n-1 && p[i] == '0' && p[i+1] == 'x'` (short-circuit evaluation; `n-1` is signed) -/
def hexPfx (p : Bytes) (base : Int) (i : Nat) : Option Bool :=
  if (base = 0 ∨ base = 16) ∧ (i : Int) < (p.length : Int) - 1 then
    match p[i]? with
    | none => none
    | some c0 =>
      if c0 = 48 then
        match p[i+1]? with
        | none => none
        | some c1 => some (c1 == 120)
      else some false
  else some false

/-- `base == 0 && i < n && p[i] == '0'` -/
def octPfx (p : Bytes) (base : Int) (i : Nat) : Option Bool :=
  if base = 0 ∧ i < p.length then
    match p[i]? with
    | none => none
    | some c0 => some (c0 == 48)
  else some false

/-- the normal exit: `*opt_nc = ndigits ? i : 0; *opt_val = currval; return ndigits ? eslOK : eslEFORMAT` -/
def fin (i nd : Nat) (cv : Int) : IRes :=
  ⟨if nd ≠ 0 then .ok else .eformat, some (if nd ≠ 0 then i else 0), some cv⟩

/-- `for (; i < n; i++, ndigits++) { … }` and the normal exit -/
def digLoop (lo hi : Int) (p : Bytes) (base sign : Int) (i nd : Nat) (cv : Int) : Option IRes :=
  if i < p.length then
    match p[i]? with
    | none => none
    | some c =>
      match digitOf c with
      | none => some (fin i nd cv)                                   -- break
      | some d =>
        if d ≥ base then some (fin i nd cv)                         -- break
        else if sign = 1 then
          match ck lo hi (hi - d) with
          | none => none
          | some t =>
            if cv > t.tdiv base then some ⟨.erange, some (i + 1), some hi⟩
            else
              match ck lo hi (cv * base) with
              | none => none
              | some m =>
                match ck lo hi (m + d) with
                | none => none
                | some v => digLoop lo hi p base sign (i + 1) (nd + 1) v
        else
          match ck lo hi (lo + d) with
          | none => none
          | some t =>
            if cv < t.tdiv base then some ⟨.erange, some (i + 1), some lo⟩
            else
              match ck lo hi (cv * base) with
              | none => none
              | some m =>
                match ck lo hi (m - d) with
                | none => none
                | some v => digLoop lo hi p base sign (i + 1) (nd + 1) v
  else some (fin i nd cv)
termination_by p.length - i

/-- `esl_mem_strtoi*(p, n, base, &nc, &val)` for the integer type `[lo, hi]`; `none` = fault.
    `ESL_EXCEPTION(eslEINVAL, …)` returns at once: neither `*opt_nc` nor `*opt_val` is written. -/
def strtoiO (lo hi : Int) (p : Bytes) (base : Int) : Option IRes :=
  if base < 0 ∨ base = 1 ∨ base > 36 then some ⟨.einval, none, none⟩ else
  match wsLoop p 0 with
  | none => none
  | some i0 =>
    match signStep p i0 with
    | none => none
    | some (sign, i) =>
      match hexPfx p base i with
      | none => none
      | some true => digLoop lo hi p 16 sign (i + 2) 0 0
      | some false =>
        match octPfx p base i with
        | none => none
        | some true => digLoop lo hi p 8 sign (i + 1) 1 0
        | some false =>
          if base = 0 then digLoop lo hi p 10 sign i 0 0
          else digLoop lo hi p base sign i 0 0

def faultRes : IRes := ⟨.fault, none, none⟩
def strtoi (lo hi : Int) (p : Bytes) (base : Int) : IRes := (strtoiO lo hi p base).getD faultRes

def i32min : Int := -2147483648
def i32max : Int := 2147483647
def i64min : Int := -9223372036854775808
def i64max : Int := 9223372036854775807
def strtoi32 (p : Bytes) (base : Int) : IRes := strtoi i32min i32max p base
def strtoi64 (p : Bytes) (base : Int) : IRes := strtoi i64min i64max p base

/-! ## esl_memspn / esl_memcspn / esl_memtok -/

/-- `strchr(delim, c) != NULL` evaluated on the memory `cz delim`: scan up to the first byte equal to `c` or NUL -/
def strchrLoop (m : Bytes) (c : UInt8) (j : Nat) : Option Bool :=
  match m[j]? with
  | none => none                         -- ran past the terminator
  | some d => if d = c then some true else if d = 0 then some false
              else if j < m.length then strchrLoop m c (j + 1) else none
termination_by m.length - j

def strchr (delim : Bytes) (c : UInt8) : Option Bool := strchrLoop (cz delim) c 0

/-- `for (; so < n; so++) if ((strchr(set, p[so]) != NULL) != want) break;` : the final `so` -/
def spanLoop (set : Bytes) (want : Bool) (p : Bytes) (so : Nat) : Option Nat :=
  if so < p.length then
    match p[so]? with
    | none => none
    | some c =>
      match strchr set c with
      | none => none
      | some b => if b = want then spanLoop set want p (so + 1) else some so
  else some so
termination_by p.length - so

def memspn (p set : Bytes) : Option Nat := spanLoop set true p 0
def memcspn (p set : Bytes) : Option Nat := spanLoop set false p 0

structure TokRes where
  st : MSt
  /-- `*ret_tok - s` and `*ret_toklen`; `none` = `NULL`/0 -/
  tok : Option (Nat × Nat)
  /-- `*p - s` afterwards -/
  adv : Nat
  /-- `*n` afterwards -/
  n : Nat
  deriving DecidableEq, Repr, Inhabited

/-- `esl_memtok(&p, &n, delim, &tok, &toklen)` -/
def memtok (p delim : Bytes) : Option TokRes :=
  match spanLoop delim true p 0 with
  | none => none
  | some so =>
    match spanLoop delim false p so with
    | none => none
    | some xo =>
      match spanLoop delim true p xo with
      | none => none
      | some eo =>
        if so = p.length then some ⟨.eol, none, 0, p.length⟩
        else some ⟨.ok, some (so, xo - so), eo, p.length - eo⟩

/-! ## esl_memstrcmp / esl_memstrpfx / esl_memstrcontains (+ _case) -/

/-- `for (pos = 0; pos < n && s[pos] != '\0'; pos++) if (f(p[pos]) != f(s[pos])) return FALSE;`
    `some (some pos)` = loop left normally at `pos`; `some none` = returned FALSE; `none` = fault.
    `p` is read at `off + pos` (`off = 0` except in `esl_memstrcontains`), `sz` is the memory of `s`. -/
def cmpLoop (f : UInt8 → UInt8) (p sz : Bytes) (off pos : Nat) : Option (Option Nat) :=
  if off + pos < p.length then
    match sz[pos]? with
    | none => none
    | some sc =>
      if sc ≠ 0 then
        match p[off + pos]? with
        | none => none
        | some pc => if f pc ≠ f sc then some none else cmpLoop f p sz off (pos + 1)
      else some (some pos)
  else some (some pos)
termination_by p.length - (off + pos)

/-- `esl_memstrcmp` (`f = id`) / `esl_memstrcmp_case` (`f = toupper`); `p = none`: `p == NULL` (then `n = 0`), `s = none`: `s == NULL` -/
def memstrcmpF (f : UInt8 → UInt8) (p s : Option Bytes) : Option Bool :=
  match p, s with
  | none, none => some true                                       -- p == NULL && n == 0 && s == NULL
  | none, some s => match (cz s)[0]? with                         -- … || s[0] == '\0'
    | none => none
    | some c => some (c == 0)                                     -- else `!p` → FALSE
  | some _, none => some false                                    -- !s
  | some p, some s =>
    match cmpLoop f p (cz s) 0 0 with
    | none => none
    | some none => some false
    | some (some pos) =>
      if pos ≠ p.length then some false
      else match (cz s)[pos]? with
        | none => none
        | some c => some (c == 0)

/-- `esl_memstrpfx` / `esl_memstrpfx_case` -/
def memstrpfxF (f : UInt8 → UInt8) (p s : Option Bytes) : Option Bool :=
  match p, s with
  | some p, some s =>
    match cmpLoop f p (cz s) 0 0 with
    | none => none
    | some none => some false
    | some (some pos) =>
      match (cz s)[pos]? with
      | none => none
      | some c => some (c == 0)
  | _, _ => some false

def memstrcmp := memstrcmpF id
def memstrcmp_case := memstrcmpF toupperB
def memstrpfx := memstrpfxF id
def memstrpfx_case := memstrpfxF toupperB

/-- inner loop of `esl_memstrcontains`: `for (pos = 0; s0+pos < n && s[pos] != '\0'; pos++) if (p[s0+pos] != s[pos]) break;` : final `pos` -/
def inLoop (p sz : Bytes) (s0 pos : Nat) : Option Nat :=
  if s0 + pos < p.length then
    match sz[pos]? with
    | none => none
    | some sc =>
      if sc ≠ 0 then
        match p[s0 + pos]? with
        | none => none
        | some pc => if pc ≠ sc then some pos else inLoop p sz s0 (pos + 1)
      else some pos
  else some pos
termination_by p.length - (s0 + pos)

/-- `for (s0 = 0; s0 < n; s0++) { inner; if (s[pos] == '\0') return TRUE; } return FALSE;` -/
def containsLoop (p sz : Bytes) (s0 : Nat) : Option Bool :=
  if s0 < p.length then
    match inLoop p sz s0 0 with
    | none => none
    | some pos =>
      match sz[pos]? with
      | none => none
      | some c => if c = 0 then some true else containsLoop p sz (s0 + 1)
  else some false
termination_by p.length - s0

def memstrcontains (p s : Option Bytes) : Option Bool :=
  match p, s with
  | some p, some s => containsLoop p (cz s) 0
  | _, _ => some false

/-! ## esl_memstrdup / esl_memstrcpy -/

/-- `memcpy(s, p, n); s[n] = '\0'` into a block of `n+1` bytes: the block afterwards (`none` = a write outside it) -/
def copyZ (p : Bytes) (balloc : Nat) : Option Bytes :=
  if p.length < balloc then some (p ++ [0] ++ List.replicate (balloc - (p.length + 1)) 0) else none

/-- `esl_memstrdup(p, n, &s)`: `some none` = `*ret_s = NULL` (for `p == NULL`), else the allocated block of `n+1` bytes -/
def memstrdup (p : Option Bytes) : Option (Option Bytes) :=
  match p with
  | none => some none
  | some p => (copyZ p (p.length + 1)).map some

/-- `esl_memstrcpy(p, n, dest)` with `dest` of exactly `n+1` bytes (the documented minimum) -/
def memstrcpy (p : Bytes) : Option Bytes := copyZ p (p.length + 1)

/-! ## esl_mem_IsReal -/

/-- `while (n && isspace(*p)) { p++; n--; }` as an index loop -/
def realWs (p : Bytes) (i : Nat) : Option Nat := wsLoop p i

/-- the middle loop: `(gotdecimal, gotexp, gotreal)`; `some none` = `return FALSE`; else the index at which it stopped -/
def realLoop (p : Bytes) (i : Nat) (gd ge gr : Bool) : Option (Option (Nat × Bool)) :=
  if i < p.length then
    match p[i]? with
    | none => none
    | some c =>
      if isdigitB c then realLoop p (i + 1) gd ge true
      else if c = 46 then
        if gd then some none else if ge then some none else realLoop p (i + 1) true ge gr
      else if c = 101 ∨ c = 69 then
        if ge then some none else realLoop p (i + 1) gd true gr
      else if isspaceB c then some (some (i, gr))
      else realLoop p (i + 1) gd ge gr            -- any other byte: no branch taken, `p++; n--;`
  else some (some (i, gr))
termination_by p.length - i

def memIsReal (p : Option Bytes) : Option Bool :=
  match p with
  | none => some false
  | some p =>
    if p.length = 0 then some false else
    match wsLoop p 0 with
    | none => none
    | some i =>
      match (if i < p.length then (p[i]?).map (fun c => if c = 45 ∨ c = 43 then i + 1 else i) else some i) with
      | none => none
      | some i =>
        match realLoop p i false false false with
        | none => none
        | some none => some false
        | some (some (i, gr)) =>
          match wsLoop p i with
          | none => none
          | some i => some (i == p.length && gr)

/-! ### `esl_mem_IsReal` with a stricter scan loop, a repair that did not land (see `MemConsts.isRealStrict`, which is `false`, so
the driver never runs it; executable only). The repair the tree has is `memIsRealL` (MemRealStart.lean); `memIsReal` above is the
function before it (no start test). -/

/-- the middle loop with the two added branches: `+`/`-` directly after the `e`/`E`, and `else return FALSE` -/
def realLoopS (p : Bytes) (i : Nat) (gd ge gr : Bool) : Option (Option (Nat × Bool)) :=
  if i < p.length then
    match p[i]? with
    | none => none
    | some c =>
      if isdigitB c then realLoopS p (i + 1) gd ge true
      else if c = 46 then
        if gd then some none else if ge then some none else realLoopS p (i + 1) true ge gr
      else if c = 101 ∨ c = 69 then
        if ge then some none else realLoopS p (i + 1) gd true gr
      else if isspaceB c then some (some (i, gr))
      else if (c = 45 ∨ c = 43) ∧ ge = true then
        -- `p[-1] == 'e' || p[-1] == 'E'` (bounds-checked; `gotexp` implies `i ≥ 1`)
        if i = 0 then none else
        match p[i - 1]? with
        | none => none
        | some d => if d = 101 ∨ d = 69 then realLoopS p (i + 1) gd ge gr else some none
      else some none
  else some (some (i, gr))
termination_by p.length - i

def memIsRealS (p : Option Bytes) : Option Bool :=
  match p with
  | none => some false
  | some p =>
    if p.length = 0 then some false else
    match wsLoop p 0 with
    | none => none
    | some i =>
      match (if i < p.length then (p[i]?).map (fun c => if c = 45 ∨ c = 43 then i + 1 else i) else some i) with
      | none => none
      | some i =>
        match realLoopS p i false false false with
        | none => none
        | some none => some false
        | some (some (i, gr)) =>
          match wsLoop p i with
          | none => none
          | some i => some (i == p.length && gr)


end EaselModel.Buffer.Mem
