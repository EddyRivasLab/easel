import EaselModel.Buffer.Lines
/-! `esl_buffer_GetLine` refines `specGetLine` (`getLine_run`, `getLine_refines`). `line_head` is the head it shares with
`FetchLine` / `FetchLineAsStr`, which stand in ReadFetch.lean. -/
namespace EaselModel.Buffer

/-- the data invariant the line functions rely on: an exhausted window means an exhausted stream
    (a consequence of the page guarantee `n - pos ≥ pagesize ∨ nothing left`) -/
def Loaded (b : Buf) : Prop := b.pos = b.n → b.rest = []

/-- the page guarantee of esl_buffer.h: "n - pos ≥ pagesize", unless the stream is exhausted -/
def PG (b : Buf) : Prop := b.pagesize ≤ b.n - b.pos ∨ b.rest = []

/-- a refill that found `nmin` bytes loaded leaves the page guarantee in force -/
theorem RefillPost.pg {b b' : Buf} {nmin : Nat} {st : St} (hr : RefillPost b nmin st b') (hn : nmin ≤ b.n - b.pos) : PG b' := by
  rcases hr.guarantee hn with g | g
  · left; omega
  · right; exact g

theorem PG.loaded {b : Buf} (h : PG b) (hw : WF b) : Loaded b := by
  intro he
  rcases h with h | h
  · have := hw.hps; omega
  · exact h

theorem slice_eq {b : Buf} (h : WF b) (nc : Nat) (hnc : nc ≤ b.win.length) :
    slice b b.pos nc = some ((b.src.drop (b.base + b.pos)).take nc) := by
  have hp := h.hpos
  have hwl := win_length b
  unfold slice
  have : b.pos + nc ≤ b.n := by omega
  simp only [this, if_true]
  rw [h.suffix_win, List.take_append_of_le_length hnc]

theorem abs_of_frame {b b' : Buf} (fr : Frame b b') : b'.abs = b.abs := by
  simp only [Buf.abs, fr.src, fr.off]

theorem specGetLine_eof (a : Abs) (h : a.suffix = []) : specGetLine a = (.eof, [], a) := by
  simp [specGetLine, specLine, h]

theorem specGetLine_ok (a : Abs) (h : a.suffix ≠ []) :
    specGetLine a = (.ok, a.suffix.take (memnewline a.suffix).1,
      { a with cur := a.cur + ((memnewline a.suffix).1 + (memnewline a.suffix).2) }) := by
  simp [specGetLine, specLine_eq _ h]

/-- The common head of `GetLine` and `FetchLine`: the anchor is set at the cursor (`b1`) and the line is counted. At the end of
    the input `buffer_countline` answers `eslEOF`; otherwise `b2` has the line of `nc` bytes, `nskip` with its terminator, loaded. -/
theorem line_head (b : Buf) (h : WF b) :
    ∃ b1, setAnchor b (b.base + b.pos) = (.ok, b1) ∧ WF b1 ∧ AnchorOnly b b1 ∧
    ((b.pos = b.n ∧ countline b1 = (.eof, b1, 0, 0)) ∨
     (b.pos < b.n ∧ ∃ (b2 : Buf) (nc nskip : Nat), countline b1 = (.ok, b2, nc, nskip) ∧ WF b2 ∧ Frame b1 b2 ∧
        nc = (memnewline b.abs.suffix).1 ∧ nskip = (memnewline b.abs.suffix).1 + (memnewline b.abs.suffix).2 ∧
        nskip ≤ b2.win.length)) := by
  have hp := h.hpos
  obtain ⟨s1, s2, s3⟩ := setAnchor_spec b (b.base + b.pos) h (by omega) (Nat.le_refl _)
  generalize hsa : setAnchor b (b.base + b.pos) = sa at *
  obtain ⟨st1, b1⟩ := sa
  simp only [] at s1 s2 s3
  subst s1
  refine ⟨b1, rfl, s3, s2, ?_⟩
  obtain ⟨c1, c2, c3, c4⟩ := countline_spec b1 s3
  have hsuf : b.abs.suffix = b1.src.drop (b1.base + b1.pos) := by
    simp [Abs.suffix, Buf.abs, s2.src_eq, s2.base_eq, s2.pos_eq]
  by_cases he : b.pos = b.n
  · have he1 : b1.pos = b1.n := by simp [Buf.n, s2.mem_eq, s2.pos_eq]; exact he
    exact Or.inl ⟨he, c3 he1⟩
  · have hlt1 : b1.pos < b1.n := by simp only [Buf.n, s2.mem_eq, s2.pos_eq] at *; omega
    obtain ⟨d1, d2, d3, d4⟩ := c4 hlt1
    generalize hcl : countline b1 = cl at *
    obtain ⟨st2, b2, nc, nskip⟩ := cl
    simp only [] at c1 c2 d1 d2 d3 d4
    subst d1
    rw [← hsuf] at d2 d3
    exact Or.inr ⟨by omega, b2, nc, nskip, rfl, c1, c2, d2, d3, d4⟩

/-- One run of `GetLine` that returns a line (`b1`: the anchor set at the cursor): `b2` after the line is counted, `b3` after the
    refill, `b4` after the anchor is raised; the line is handed out as a pointer into `b4`. -/
structure GetLineRun (b b1 b2 b3 b4 : Buf) (nc nskip : Nat) (st3 : St) : Prop where
  counted : countline b1 = (.ok, b2, nc, nskip)
  refilled : refill b2 nskip = (st3, b3)
  raised : raiseAnchor b3 (b.base + b.pos) = b4
  wf2 : WF b2
  fr12 : Frame b1 b2
  post : RefillPost b2 nskip st3 b3
  ao34 : AnchorOnly b3 b4
  wf4 : WF b4
  nc_eq : nc = (memnewline b.abs.suffix).1
  nskip_eq : nskip = (memnewline b.abs.suffix).1 + (memnewline b.abs.suffix).2
  loaded : nskip ≤ b2.win.length
  fits : b4.pos + nskip ≤ b4.n
  out : getLine b = (({ st := .ok, bytes := (b4.src.drop (b4.base + b4.pos)).take nc, n := nc, p := some b4.pos } : Out),
    { b4 with pos := b4.pos + nskip })

/-- The run of `GetLine` from a well-formed state: at the end of the input `eslEOF` and the anchor raised again, else `GetLineRun`. -/
theorem getLine_run (b : Buf) (h : WF b) :
    ∃ b1, setAnchor b (b.base + b.pos) = (.ok, b1) ∧ WF b1 ∧ AnchorOnly b b1 ∧
    ((b.pos = b.n ∧ countline b1 = (.eof, b1, 0, 0) ∧ getLine b = ({ st := .eof }, raiseAnchor b1 (b.base + b.pos))) ∨
     (b.pos < b.n ∧ ∃ (b2 b3 b4 : Buf) (nc nskip : Nat) (st3 : St), GetLineRun b b1 b2 b3 b4 nc nskip st3)) := by
  obtain ⟨b1, hsa, s3, s2, hd⟩ := line_head b h
  refine ⟨b1, hsa, s3, s2, ?_⟩
  obtain ⟨he, hcl⟩ | ⟨hlt, b2, nc, nskip, hcl, c1, c2, d2, d3, d4⟩ := hd
  · exact Or.inl ⟨he, hcl, by unfold getLine; simp only [hsa, hcl]⟩
  · have hr3 := refill_post b2 nskip c1
    generalize hrf : refill b2 nskip = rf at *
    obtain ⟨st3, b3⟩ := rf
    simp only [] at hr3
    have hst3 : ¬ (st3 ≠ .eof ∧ st3 ≠ .ok) := by rcases hr3.status with h3 | h3 <;> simp [h3]
    have hr4 := raiseAnchor_spec b3 (b.base + b.pos) hr3.wf
    generalize hb4 : raiseAnchor b3 (b.base + b.pos) = b4 at *
    have hw4 : nskip ≤ b4.win.length := by
      have a1 := hr3.frame.avail
      have a2 := hr4.1.frame.avail
      rw [win_length] at d4 ⊢; omega
    have hsl := slice_eq hr4.2 nc (by omega)
    have hfit : b4.pos + nskip ≤ b4.n := by
      have := hr4.2.hpos
      rw [win_length] at hw4; omega
    have e : getLine b = (({ st := .ok, bytes := (b4.src.drop (b4.base + b4.pos)).take nc, n := nc, p := some b4.pos } : Out),
        { b4 with pos := b4.pos + nskip }) := by
      unfold getLine; simp only [hsa, hcl, hrf, hst3, if_false, hb4, hsl, hfit, if_true]
    exact Or.inr ⟨hlt, b2, b3, b4, nc, nskip, st3, hcl, hrf, hb4, c1, c2, hr3, hr4.1, hr4.2, d2, d3, d4, hfit, e⟩

theorem getLine_refines (b : Buf) (h : WF b) (hl : Loaded b) :
    WF (getLine b).2 ∧
    ((getLine b).1.st, (getLine b).1.bytes, (getLine b).2.abs) = specGetLine b.abs ∧
    (getLine b).1.n = (getLine b).1.bytes.length ∧ PG (getLine b).2 := by
  have hp := h.hpos
  obtain ⟨b1, _, s3, s2, hrun⟩ := getLine_run b h
  have habs1 : b1.abs = b.abs := abs_of_frame s2.frame
  have hsuf : b.abs.suffix = b1.src.drop (b1.base + b1.pos) := by
    simp [Abs.suffix, Buf.abs, s2.src_eq, s2.base_eq, s2.pos_eq]
  obtain ⟨he, _, e⟩ | ⟨hlt, b2, b3, b4, nc, nskip, st3, run⟩ := hrun
  · -- end of input
    have hr := raiseAnchor_spec b1 (b.base + b.pos) s3
    rw [e]
    have hs : b.abs.suffix = [] := suffix_nil_of h he (hl he)
    refine ⟨hr.2, ?_, rfl, Or.inr ?_⟩
    · rw [specGetLine_eof _ hs, abs_of_frame hr.1.frame, habs1]
    · rw [hr.1.rest_eq, s2.rest_eq]; exact hl he
  · rw [run.out]
    have hsuf2 : b.abs.suffix = b2.win ++ b2.rest := by rw [hsuf, ← run.fr12.src, ← run.fr12.off, run.wf2.suffix_win]
    have hfr14 : Frame b1 b4 := (run.fr12.trans run.post.frame).trans run.ao34.frame
    have hsne : b.abs.suffix ≠ [] := suffix_ne_nil h hlt
    have hsrc4 : b4.src.drop (b4.base + b4.pos) = b.abs.suffix := by
      rw [hsuf, hfr14.src, hfr14.off]
    have hld := run.loaded
    refine ⟨?_, ?_, ?_, ?_⟩
    · exact run.wf4.setPos run.fits
    · rw [specGetLine_ok _ hsne, hsrc4, ← run.nskip_eq, ← run.nc_eq]
      simp only [Buf.abs, Prod.mk.injEq, true_and]
      have := hfr14.off
      have hs := hfr14.src
      simp only [s2.src_eq, s2.base_eq, s2.pos_eq] at this hs
      rw [hs]
      congr 1
      omega
    · have := run.nc_eq
      have := run.nskip_eq
      simp only [List.length_take]
      rw [hsrc4, hsuf2]
      simp only [List.length_append]
      omega
    · have hps4 : b4.pagesize = b3.pagesize := run.ao34.frame.ps
      have hn4 : b4.n = b3.n := by simp [Buf.n, run.ao34.mem_eq]
      rcases run.post.guarantee (by rw [win_length] at hld; exact hld) with g | g
      · left
        show b4.pagesize ≤ b4.n - (b4.pos + nskip)
        rw [hps4, hn4, run.ao34.pos_eq]; omega
      · right
        show b4.rest = []
        rw [run.ao34.rest_eq]; exact g

end EaselModel.Buffer
