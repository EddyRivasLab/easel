import EaselModel.Buffer.Inv
import EaselModel.Buffer.Total
import EaselModel.Buffer.History
/-! # `history_spec` beyond the API contract, where the outcome is deterministic

The contract `Valid` excludes `SetOffset` to an offset beyond the end of the input. On a stream or a pipe that is read in pages
the outcome of such a call (ahead of the cursor) is nevertheless the same for every page size and window
(`step_beyond_end_deterministic`), so the specification can say it: `specStepX`. `history_spec_x` is `history_spec` for the
larger class `ValidHistX` of histories. -/
namespace EaselModel.Buffer

theorem closed_mode (m : Mode) (f : Bool) : Closed (fun b => b.mode = m ∧ b.hasfp = f) := by
  have setA : ∀ b o, (b.mode = m ∧ b.hasfp = f) → (setAnchor b o).2.mode = m ∧ (setAnchor b o).2.hasfp = f := by
    intro b o h
    obtain ⟨a, n, e, _⟩ := setAnchor_shape b o
    rw [e]; exact h
  refine ⟨?_, fun _ _ h => h, setA, ?_, fun _ _ h => h, fun _ _ h => h, ?_⟩
  · intro b k h
    have hk := refill_keep b k
    exact ⟨hk.mode.trans h.1, hk.hasfp.trans h.2⟩
  · intro b o h
    obtain ⟨a, n, s, e, _⟩ := raiseAnchor_shape b o
    rw [e]; exact h
  · intro b o h
    rcases setStableAnchor_cases b o with ⟨_, e⟩ | ⟨_, _, e⟩ | ⟨_, b1, a1, hsa, _, e⟩ <;> rw [e]
    · exact h
    · exact h
    · have h1 := setA b o h
      rw [hsa] at h1; exact h1

theorem step_mode (s : Sess) (op : Op) (m : Mode) (f : Bool) (h : s.b.mode = m ∧ s.b.hasfp = f) :
    (s.step op).2.b.mode = m ∧ (s.step op).2.b.hasfp = f :=
  closed_step (closed_mode m f) s.b s.lastp op h

/-- the calls the extended contract adds: `SetOffset` beyond the end of the input, ahead of the cursor -/
def XOp (a : AState) : Op → Prop
  | .setOffset o => a.src.length < o ∧ a.cur < o
  | _ => False

instance (a : AState) (op : Op) : Decidable (XOp a op) := by
  cases op <;> unfold XOp <;> infer_instance

/-- the specification, extended: such a call answers `eslEINVAL` and leaves the cursor at the end of the input -/
def specStepX (a : AState) (op : Op) : Obs × AState :=
  if XOp a op then (⟨.einval, [], max a.cur a.src.length⟩, { a with cur := max a.cur a.src.length, lastp := none })
  else specStep a op

def ValidHistX (P : Nat) : AState → List Op → Prop
  | _, [] => True
  | a, op :: ops => (XOp a op ∨ Valid P a op) ∧ ValidHistX P (specStepX a op).2 ops

def specRunX : AState → List Op → List Obs
  | _, [] => []
  | a, op :: ops => (specStepX a op).1 :: specRunX (specStepX a op).2 ops

/-- One step of the extended specification. A `SetOffset` beyond the end of the input, ahead of the cursor, is simulated
    wherever the buffer reads in pages and does not reposition with `fseeko`. -/
theorem sim_stepX (P : Nat) (op : Op) (a : AState) (s : Sess) (r : R P a s) (hfp : s.b.hasfp = true)
    (hv : (XOp a op ∧ ¬ (s.b.mode = .file ∧ s.b.anchor = none)) ∨ (¬ XOp a op ∧ Valid P a op)) :
    obsOf op (s.step op).1 (s.step op).2 = (specStepX a op).1 ∧ R P (specStepX a op).2 (s.step op).2 := by
  unfold specStepX
  rcases hv with ⟨hx, hnf⟩ | ⟨hx, hval⟩
  · rw [if_pos hx]
    cases op with
    | setOffset o =>
      have hnm : ¬ memMode s.b.mode := by
        intro hmm
        have := r.modefp.mpr hmm
        rw [hfp] at this; cases this
      exact step_beyond_end_deterministic P o a s r hnm hnf hx.1 hx.2
    | _ => exact absurd hx (by unfold XOp; exact fun h => h)
  · rw [if_neg hx]
    exact sim_all P op a s r hval

theorem history_refines_x (P : Nat) (m : Mode) (hm : m = .stream ∨ m = .cmdpipe) (ops : List Op) :
    ∀ (a : AState) (s : Sess), R P a s → s.b.mode = m ∧ s.b.hasfp = true → ValidHistX P a ops →
    obsRun s ops = specRunX a ops := by
  induction ops with
  | nil => intro a s _ _ _; rfl
  | cons op ops ih =>
    intro a s r hmode hv
    -- a stream or a pipe never repositions with `fseeko`
    have hnf : ¬ (s.b.mode = .file ∧ s.b.anchor = none) := by
      rw [hmode.1]; rintro ⟨h, _⟩; rcases hm with e | e <;> rw [e] at h <;> cases h
    obtain ⟨h1, h2⟩ := sim_stepX P op a s r hmode.2
      (if hx : XOp a op then Or.inl ⟨hx, hnf⟩ else Or.inr ⟨hx, hv.1.resolve_left hx⟩)
    show _ :: _ = _ :: _
    rw [h1, ih _ _ h2 (step_mode s op m true hmode) hv.2]

/-! ## The same on every paged opener, FILE included

A FILE that is read in pages repositions with `fseeko` when no anchor is set, and then a `SetOffset` beyond the end leaves the
cursor at the requested offset (`Total.beyond_end_seek`) — a different, mode-specific outcome. While an anchor IS set the FILE
fast-forwards like a stream, so `specStepX` applies to all three paged openers for the class `ValidHistXA`: the contract, or
`SetOffset` beyond the end of the input, ahead of the cursor, while an anchor is set (what a parser that keeps a record anchored
does). -/

def ValidHistXA (P : Nat) : AState → List Op → Prop
  | _, [] => True
  | a, op :: ops => ((XOp a op ∧ a.anchor ≠ none) ∨ Valid P a op) ∧ ValidHistXA P (specStepX a op).2 ops

theorem ValidHistXA.toX (P : Nat) : ∀ (ops : List Op) (a : AState), ValidHistXA P a ops → ValidHistX P a ops := by
  intro ops
  induction ops with
  | nil => intro a _; trivial
  | cons op ops ih =>
    intro a h
    exact ⟨h.1.elim (fun hx => Or.inl hx.1) Or.inr, ih _ h.2⟩

theorem history_refines_xa (P : Nat) (ops : List Op) :
    ∀ (a : AState) (s : Sess), R P a s → s.b.hasfp = true → ValidHistXA P a ops →
    obsRun s ops = specRunX a ops := by
  induction ops with
  | nil => intro a s _ _ _; rfl
  | cons op ops ih =>
    intro a s r hfp hv
    have hstep : (XOp a op ∧ ¬ (s.b.mode = .file ∧ s.b.anchor = none)) ∨ (¬ XOp a op ∧ Valid P a op) := by
      by_cases hx : XOp a op
      · refine Or.inl ⟨hx, fun hn => ?_⟩
        -- the anchor of the specification state is the anchor of the buffer
        have hanch : a.anchor ≠ none := by
          rcases hv.1 with h | h
          · exact h.2
          · -- inside the contract a `SetOffset` target is not beyond the end of the input
            cases op with
            | setOffset o => rcases h.1 with h1 | ⟨h1, _⟩ <;> have := hx.1 <;> omega
            | _ => exact absurd hx (by unfold XOp; exact fun h => h)
        have h1 := (r.anch hfp).1
        unfold Buf.absAnchor at h1
        rw [hn.2] at h1
        exact hanch h1.symm
      · exact Or.inr ⟨hx, hv.1.elim (fun h => absurd h.1 hx) id⟩
    obtain ⟨h1, h2⟩ := sim_stepX P op a s r hfp hstep
    show _ :: _ = _ :: _
    rw [h1, ih _ _ h2 (step_mode s op s.b.mode true ⟨rfl, hfp⟩).2 hv.2]

end EaselModel.Buffer
