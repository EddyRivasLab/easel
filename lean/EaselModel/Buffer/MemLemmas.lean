import EaselModel.Buffer.MemSpec
import EaselModel.Buffer.ListLemmas
/-! Lemmas tying the loops of `Mem.lean` (integer parsers) to the specification `MemSpec.lean`. Core Lean only. -/
namespace EaselModel.Buffer.Mem
open EaselModel.Buffer

theorem drop_of_get {p : Bytes} {i : Nat} {c : UInt8} (h : p[i]? = some c) : p.drop i = c :: p.drop (i + 1) := by
  obtain ⟨hlt, rfl⟩ := List.getElem?_eq_some_iff.mp h
  exact List.drop_eq_getElem_cons hlt

theorem get_of_drop {p : Bytes} {i : Nat} {c : UInt8} {cs : Bytes} (h : p.drop i = c :: cs) :
    p[i]? = some c ∧ p.drop (i + 1) = cs ∧ i < p.length := by
  have hlt : i < p.length := by
    apply Classical.byContradiction; intro hn
    rw [List.drop_of_length_le (by omega)] at h; cases h
  rw [List.drop_eq_getElem_cons hlt] at h
  injection h with h1 h2
  exact ⟨by rw [List.getElem?_eq_getElem hlt, h1], h2, hlt⟩

theorem drop_nil_of_ge {p : Bytes} {i : Nat} (h : ¬ i < p.length) : p.drop i = [] :=
  List.drop_of_length_le (by omega)

theorem pos_guard (hi d base cv : Int) (hb : 2 ≤ base) (hd : d ≤ hi) :
    cv > (hi - d).tdiv base ↔ cv * base + d > hi := by
  have hx : 0 ≤ hi - d := by omega
  rw [Int.tdiv_eq_ediv_of_nonneg hx]
  have h := Int.le_ediv_iff_mul_le (a := cv) (b := hi - d) (c := base) (by omega)
  constructor
  · intro h1
    have : ¬ cv * base ≤ hi - d := fun h2 => by have := h.mpr h2; omega
    omega
  · intro h1
    have : ¬ cv ≤ (hi - d) / base := fun h2 => by have := h.mp h2; omega
    omega

theorem neg_guard (lo d base cv : Int) (hb : 2 ≤ base) (hd : lo + d ≤ 0) :
    cv < (lo + d).tdiv base ↔ cv * base - d < lo := by
  have e : lo + d = -(-(lo + d)) := by omega
  rw [e, Int.neg_tdiv, Int.tdiv_eq_ediv_of_nonneg (by omega)]
  have h := Int.ediv_lt_iff_lt_mul (a := -(lo + d)) (b := -cv) (c := base) (by omega)
  have hm : -cv * base = -(cv * base) := Int.neg_mul cv base
  constructor
  · intro h1
    have := h.mp (by omega)
    omega
  · intro h1
    have := h.mpr (by omega)
    omega

theorem digitOf_range {c : UInt8} {d : Int} (h : digitOf c = some d) : 0 ≤ d ∧ d ≤ 35 := by
  unfold digitOf isdigitB isupperB islowerB at h
  split at h
  · rename_i h1; simp at h1; injection h with h; omega
  · split at h
    · rename_i h1; simp at h1; injection h with h; omega
    · split at h
      · rename_i h1; simp at h1; injection h with h; omega
      · cases h

theorem wsLoop_eq (p : Bytes) : ∀ (l : Bytes) (i : Nat), p.drop i = l → wsLoop p i = some (i + runLen isspaceB l) := by
  intro l
  induction l with
  | nil =>
    intro i h
    have : ¬ i < p.length := by
      intro hlt; rw [List.drop_eq_getElem_cons hlt] at h; cases h
    rw [wsLoop]; simp [this, runLen]
  | cons c cs ih =>
    intro i h
    obtain ⟨hg, hd, hlt⟩ := get_of_drop h
    rw [wsLoop]; simp only [hlt, if_true, hg, runLen]
    split
    · rw [ih (i + 1) hd]; congr 1; omega
    · rfl

theorem signStep_eq (p : Bytes) (i : Nat) :
    signStep p i = some (if (p.drop i).head? == some 45 then (-1, i + 1) else (1, i)) := by
  unfold signStep
  by_cases hlt : i < p.length
  · have hg : p[i]? = some p[i] := List.getElem?_eq_getElem hlt
    simp only [hlt, if_true, hg, drop_of_get hg, List.head?_cons]
    by_cases hc : p[i] = 45 <;> simp [hc]
  · simp [hlt, drop_nil_of_ge hlt]

theorem getElem?_of_drop (p : Bytes) (i j : Nat) : p[i + j]? = (p.drop i)[j]? := by
  rw [List.getElem?_drop]

theorem hexPfx_eq (p : Bytes) (base : Int) (i : Nat) (hi : i ≤ p.length) :
    hexPfx p base i = some (decide ((base = 0 ∨ base = 16) ∧ (p.drop i).take 2 = [48, 120])) := by
  unfold hexPfx
  have h0 : p[i]? = (p.drop i)[0]? := getElem?_of_drop p i 0
  have h1 : p[i + 1]? = (p.drop i)[1]? := getElem?_of_drop p i 1
  have hl : (p.length : Int) = i + ((p.drop i).length : Int) := by
    have := List.length_drop (i := i) (l := p); omega
  rw [h0, h1, hl]
  generalize p.drop i = l
  by_cases hb : base = 0 ∨ base = 16
  · match l with
    | [] => simp [hb]; omega
    | [x] => simp [hb]
    | x :: y :: r =>
      have : (i : Int) < ↑i + ↑(x :: y :: r).length - 1 := by simp; omega
      simp only [hb, this, and_self, if_true, true_and]
      by_cases hx : x = 48 <;> by_cases hy : y = 120 <;> simp [hx, hy]
  · simp [hb]

theorem octPfx_eq (p : Bytes) (base : Int) (i : Nat) :
    octPfx p base i = some (decide (base = 0 ∧ (p.drop i).head? = some 48)) := by
  unfold octPfx
  by_cases hlt : i < p.length
  · have hg : p[i]? = some p[i] := List.getElem?_eq_getElem hlt
    by_cases hb : base = 0
    · simp only [hb, hlt, and_self, if_true, hg, drop_of_get hg, List.head?_cons, true_and]
      by_cases hc : p[i] = 48 <;> simp [hc]
    · simp [hb]
  · simp [hlt, drop_nil_of_ge hlt]

theorem digLoop_nil {lo hi : Int} {p : Bytes} {base sign : Int} {i nd : Nat} {cv : Int} (h : ¬ i < p.length) :
    digLoop lo hi p base sign i nd cv = some (fin i nd cv) := by
  rw [digLoop]; simp [h]

theorem ck_of_fits {lo hi v : Int} (h1 : lo ≤ v) (h2 : v ≤ hi) : ck lo hi v = some v := by
  unfold ck; simp [h1, h2]

theorem digLoop_break1 {lo hi : Int} {p : Bytes} {base sign : Int} {i nd : Nat} {cv : Int} {c : UInt8}
    (hg : p[i]? = some c) (hd : digitOf c = none) : digLoop lo hi p base sign i nd cv = some (fin i nd cv) := by
  obtain ⟨hlt, hc⟩ := List.getElem?_eq_some_iff.mp hg
  subst hc
  rw [digLoop]; simp [hlt, hd]

theorem digLoop_break2 {lo hi : Int} {p : Bytes} {base sign : Int} {i nd : Nat} {cv : Int} {c : UInt8} {d : Int}
    (hg : p[i]? = some c) (hd : digitOf c = some d) (hdb : ¬ d < base) :
    digLoop lo hi p base sign i nd cv = some (fin i nd cv) := by
  obtain ⟨hlt, hc⟩ := List.getElem?_eq_some_iff.mp hg
  subst hc
  have : d ≥ base := by omega
  rw [digLoop]; simp [hlt, hd, this]

theorem digLoop_pos {lo hi : Int} (hlo : lo ≤ 0) (hhi : 35 ≤ hi) {p : Bytes} {base : Int} (hb : 2 ≤ base) {i nd : Nat} {a : Int}
    {c : UInt8} {d : Int} (hg : p[i]? = some c) (hd : digitOf c = some d) (hdb : d < base) (ha : 0 ≤ a) (hah : a ≤ hi) :
    digLoop lo hi p base 1 i nd a =
      if a * base + d > hi then some ⟨.erange, some (i + 1), some hi⟩
      else digLoop lo hi p base 1 (i + 1) (nd + 1) (a * base + d) := by
  obtain ⟨hlt, hc⟩ := List.getElem?_eq_some_iff.mp hg
  subst hc
  have hg' : p[i]? = some p[i] := hg
  have hr := digitOf_range hd
  have h1 : ¬ d ≥ base := by omega
  have hc1 : ck lo hi (hi - d) = some (hi - d) := ck_of_fits (by omega) (by omega)
  have hab : 0 ≤ a * base := Int.mul_nonneg ha (by omega)
  rw [digLoop]
  simp only [hlt, if_true, hg', hd, h1, if_false, hc1, pos_guard hi d base a hb (by omega)]
  by_cases hgd : a * base + d > hi
  · simp [hgd]
  · have hc2 : ck lo hi (a * base) = some (a * base) := ck_of_fits (by omega) (by omega)
    have hc3 : ck lo hi (a * base + d) = some (a * base + d) := ck_of_fits (by omega) (by omega)
    simp [hgd, hc2, hc3]

theorem digLoop_neg {lo hi : Int} (hlo : lo ≤ -36) (hhi : 0 ≤ hi) {p : Bytes} {base : Int} (hb : 2 ≤ base) {i nd : Nat} {a : Int}
    {c : UInt8} {d : Int} (hg : p[i]? = some c) (hd : digitOf c = some d) (hdb : d < base) (ha : 0 ≤ a) (hal : lo ≤ -a) :
    digLoop lo hi p base (-1) i nd (-a) =
      if -(a * base + d) < lo then some ⟨.erange, some (i + 1), some lo⟩
      else digLoop lo hi p base (-1) (i + 1) (nd + 1) (-(a * base + d)) := by
  obtain ⟨hlt, hc⟩ := List.getElem?_eq_some_iff.mp hg
  subst hc
  have hg' : p[i]? = some p[i] := hg
  have hr := digitOf_range hd
  have h1 : ¬ d ≥ base := by omega
  have h2 : ¬ ((-1 : Int) = 1) := by omega
  have hc1 : ck lo hi (lo + d) = some (lo + d) := ck_of_fits (by omega) (by omega)
  have hab : 0 ≤ a * base := Int.mul_nonneg ha (by omega)
  have hm : -a * base = -(a * base) := Int.neg_mul a base
  rw [digLoop]
  simp only [hlt, if_true, hg', hd, h1, h2, if_false, hc1, neg_guard lo d base (-a) hb (by omega), hm]
  have e : -(a * base) - d = -(a * base + d) := by omega
  rw [e]
  by_cases hgd : -(a * base + d) < lo
  · simp [hgd]
  · have hc2 : ck lo hi (-(a * base)) = some (-(a * base)) := ck_of_fits (by omega) (by omega)
    have hc3 : ck lo hi (-(a * base + d)) = some (-(a * base + d)) := ck_of_fits (by omega) (by omega)
    simp only [hgd, if_false, hc2, e, hc3]

/-- one digit, either sign: the loop goes on exactly if the new running value fits -/
theorem digLoop_step {lo hi : Int} (hlo : lo ≤ -36) (hhi : 35 ≤ hi) {p : Bytes} {base : Int} (hb : 2 ≤ base) {i nd : Nat} {a : Int}
    {c : UInt8} {d : Int} (hg : p[i]? = some c) (hd : digitOf c = some d) (hdb : d < base) (ha : 0 ≤ a) (neg : Bool)
    (hf : Fits lo hi (sval neg a)) :
    digLoop lo hi p base (if neg then -1 else 1) i nd (sval neg a) =
      if Fits lo hi (sval neg (a * base + d)) then
        digLoop lo hi p base (if neg then -1 else 1) (i + 1) (nd + 1) (sval neg (a * base + d))
      else some ⟨.erange, some (i + 1), some (if neg then lo else hi)⟩ := by
  have hr := digitOf_range hd
  have hab : 0 ≤ a * base := Int.mul_nonneg ha (by omega)
  cases neg with
  | false =>
    simp only [sval, Bool.false_eq_true, if_false] at hf ⊢
    rw [digLoop_pos (by omega) hhi hb hg hd hdb ha hf.2]
    by_cases hgd : a * base + d > hi
    · rw [if_pos hgd, if_neg (fun h => by have := h.2; omega)]
    · rw [if_neg hgd, if_pos ⟨by omega, by omega⟩]
  | true =>
    simp only [sval, if_true] at hf ⊢
    rw [digLoop_neg hlo (by omega) hb hg hd hdb ha hf.1]
    by_cases hgd : -(a * base + d) < lo
    · rw [if_pos hgd, if_neg (fun h => by have := h.1; omega)]
    · rw [if_neg hgd, if_pos ⟨by omega, by omega⟩]

theorem digLoop_spec {lo hi : Int} (hlo : lo ≤ -36) (hhi : 35 ≤ hi) (p : Bytes) {base : Int} (hb : 2 ≤ base) (neg : Bool) :
    ∀ (l : Bytes) (i nd : Nat) (a : Int), p.drop i = l → 0 ≤ a → Fits lo hi (sval neg a) →
      digLoop lo hi p base (if neg then -1 else 1) i nd (sval neg a) =
        some (match firstBad lo hi neg base a (digitsOf base l) with
          | none => fin (i + (digitsOf base l).length) (nd + (digitsOf base l).length) (sval neg (valFrom base a (digitsOf base l)))
          | some k => ⟨.erange, some (i + k), some (if neg then lo else hi)⟩) := by
  intro l
  induction l with
  | nil =>
    intro i nd a h _ _
    have : ¬ i < p.length := by
      intro hlt; rw [List.drop_eq_getElem_cons hlt] at h; cases h
    rw [digLoop_nil this]; simp [digitsOf, firstBad, valFrom]
  | cons c cs ih =>
    intro i nd a h ha hf
    obtain ⟨hg, hdrop, hlt⟩ := get_of_drop h
    cases hd : digitOf c with
    | none => rw [digLoop_break1 hg hd]; simp [digitsOf, hd, firstBad, valFrom]
    | some d =>
      by_cases hdb : d < base
      · have hr := digitOf_range hd
        have hab : 0 ≤ a * base := Int.mul_nonneg ha (by omega)
        have hds : digitsOf base (c :: cs) = d :: digitsOf base cs := by simp [digitsOf, hd, hdb]
        rw [hds, digLoop_step hlo hhi hb hg hd hdb ha neg hf]
        by_cases hfit : Fits lo hi (sval neg (a * base + d))
        · rw [if_pos hfit, ih (i + 1) (nd + 1) (a * base + d) hdrop (by omega) hfit]
          simp only [firstBad, hfit, if_true, valFrom, List.foldl_cons, List.length_cons]
          cases firstBad lo hi neg base (a * base + d) (digitsOf base cs) with
          | none => simp only [Option.map_none]; congr 2 <;> omega
          | some k => simp only [Option.map_some]; congr 3; omega
        · rw [if_neg hfit]; simp [firstBad, hfit]
      · rw [digLoop_break2 hg hd hdb]; simp [digitsOf, hd, hdb, firstBad, valFrom]

theorem sval_zero (neg : Bool) : sval neg 0 = 0 := by cases neg <;> rfl

theorem firstBad_some_ne_nil {lo hi : Int} {neg : Bool} {base a : Int} {ds : List Int} {k : Nat}
    (h : firstBad lo hi neg base a ds = some k) : ds ≠ [] := by
  intro e; subst e; simp [firstBad] at h

/-- normal exit / range exit of the loop, restated as the documented case distinction -/
theorem finish_eq (lo hi : Int) (neg : Bool) (b : Int) (start z : Nat) (digs : List Int) (bound : Int) :
    (match firstBad lo hi neg b 0 digs with
      | none => fin (start + digs.length) (z + digs.length) (sval neg (valFrom b 0 digs))
      | some k => (⟨.erange, some (start + k), some bound⟩ : IRes)) =
    (if z + digs.length = 0 then ⟨.eformat, some 0, some 0⟩
     else match firstBad lo hi neg b 0 digs with
      | some k => ⟨.erange, some (start + k), some bound⟩
      | none => ⟨.ok, some (start + digs.length), some (sval neg (valFrom b 0 digs))⟩) := by
  cases digs with
  | nil =>
    simp only [firstBad, List.length_nil, Nat.add_zero, valFrom, List.foldl_nil, sval_zero, fin]
    by_cases hz : z = 0 <;> simp [hz]
  | cons d ds =>
    have hne : ¬ (z + (d :: ds).length = 0) := by simp
    rw [if_neg hne]
    cases firstBad lo hi neg b 0 (d :: ds) with
    | none =>
      have : z + (d :: ds).length ≠ 0 := hne
      simp only [fin, this, ne_eq, not_false_eq_true, if_true]
    | some k => rfl

theorem tail_spec {lo hi : Int} (hlo : lo ≤ -36) (hhi : 35 ≤ hi) (p : Bytes) (base : Int) (hvb : ValidBase base)
    (ws : Nat) (neg : Bool) (i : Nat) (hi' : i = ws + (if neg then 1 else 0)) (hile : i ≤ p.length) :
    (match hexPfx p base i with
      | none => none
      | some true => digLoop lo hi p 16 (if neg then -1 else 1) (i + 2) 0 0
      | some false =>
        match octPfx p base i with
        | none => none
        | some true => digLoop lo hi p 8 (if neg then -1 else 1) (i + 1) 1 0
        | some false =>
          if base = 0 then digLoop lo hi p 10 (if neg then -1 else 1) i 0 0
          else digLoop lo hi p base (if neg then -1 else 1) i 0 0) =
    some (let P := parseTail ws neg base (p.drop i)
          if P.ndigits = 0 then ⟨.eformat, some 0, some 0⟩
          else match firstBad lo hi P.neg P.base 0 P.digs with
            | some k => ⟨.erange, some (P.start + k), some (if P.neg then lo else hi)⟩
            | none => ⟨.ok, some (P.start + P.digs.length), some P.value⟩) := by
  have hf0 : Fits lo hi (sval neg 0) := by rw [sval_zero]; exact ⟨by omega, by omega⟩
  have key : ∀ (b : Int) (hb : 2 ≤ b) (j z : Nat),
      digLoop lo hi p b (if neg then -1 else 1) j z 0 =
        some (match firstBad lo hi neg b 0 (digitsOf b (p.drop j)) with
          | none => fin (j + (digitsOf b (p.drop j)).length) (z + (digitsOf b (p.drop j)).length) (sval neg (valFrom b 0 (digitsOf b (p.drop j))))
          | some k => ⟨.erange, some (j + k), some (if neg then lo else hi)⟩) := by
    intro b hb j z
    have := digLoop_spec hlo hhi p hb neg (p.drop j) j z 0 rfl (by omega) hf0
    rw [sval_zero] at this
    exact this
  subst hi'
  rw [hexPfx_eq p base _ hile, octPfx_eq]
  by_cases h1 : (base = 0 ∨ base = 16) ∧ (p.drop (ws + if neg then 1 else 0)).take 2 = [48, 120]
  · have e : parseTail ws neg base (p.drop (ws + if neg then 1 else 0)) =
        ⟨ws, neg, 16, 2, false, digitsOf 16 ((p.drop (ws + if neg then 1 else 0)).drop 2)⟩ := by
      unfold parseTail; rw [if_pos h1]
    rw [e, decide_eq_true h1]
    dsimp only
    rw [key 16 (by omega), List.drop_drop, finish_eq lo hi neg 16 _ 0]
    simp [Parsed.ndigits, Parsed.start, Parsed.value]
  · by_cases h2 : base = 0 ∧ (p.drop (ws + if neg then 1 else 0)).head? = some 48
    · have e : parseTail ws neg base (p.drop (ws + if neg then 1 else 0)) =
          ⟨ws, neg, 8, 1, true, digitsOf 8 ((p.drop (ws + if neg then 1 else 0)).drop 1)⟩ := by
        unfold parseTail; rw [if_neg h1, if_pos h2]
      rw [e, decide_eq_false h1, decide_eq_true h2]
      dsimp only
      rw [key 8 (by omega), List.drop_drop, finish_eq lo hi neg 8 _ 1]
      simp [Parsed.ndigits, Parsed.start, Parsed.value]
    · by_cases h3 : base = 0
      · have e : parseTail ws neg base (p.drop (ws + if neg then 1 else 0)) =
            ⟨ws, neg, 10, 0, false, digitsOf 10 (p.drop (ws + if neg then 1 else 0))⟩ := by
          unfold parseTail; rw [if_neg h1, if_neg h2, if_pos h3]
        rw [e, decide_eq_false h1, decide_eq_false h2, if_pos h3]
        dsimp only
        rw [key 10 (by omega), finish_eq lo hi neg 10 _ 0]
        simp [Parsed.ndigits, Parsed.start, Parsed.value]
      · have hb : 2 ≤ base := by unfold ValidBase at hvb; omega
        have e : parseTail ws neg base (p.drop (ws + if neg then 1 else 0)) =
            ⟨ws, neg, base, 0, false, digitsOf base (p.drop (ws + if neg then 1 else 0))⟩ := by
          unfold parseTail; rw [if_neg h1, if_neg h2, if_neg h3]
        rw [e, decide_eq_false h1, decide_eq_false h2, if_neg h3]
        dsimp only
        rw [key base hb, finish_eq lo hi neg base _ 0]
        simp [Parsed.ndigits, Parsed.start, Parsed.value]

theorem sign_split (neg : Bool) (w : Nat) :
    (if neg = true then ((-1 : Int), w + 1) else (1, w)) = ((if neg then -1 else 1), w + (if neg then 1 else 0)) := by
  cases neg <;> rfl

theorem drop_split (neg : Bool) (w : Nat) (p : Bytes) :
    (if neg = true then (p.drop w).drop 1 else p.drop w) = p.drop (w + if neg then 1 else 0) := by
  cases neg <;> simp [List.drop_drop]

/-- **`esl_mem_strtoi*` computes the specification** (for every byte string, every base; in particular it never faults) -/
theorem strtoiO_eq_spec {lo hi : Int} (hlo : lo ≤ -36) (hhi : 35 ≤ hi) (p : Bytes) (base : Int) :
    strtoiO lo hi p base = some (specRes lo hi p base) := by
  unfold strtoiO specRes
  by_cases hv : base < 0 ∨ base = 1 ∨ base > 36
  · have : ¬ ValidBase base := by unfold ValidBase; omega
    simp [hv, this]
  · have hvb : ValidBase base := by unfold ValidBase; omega
    rw [if_neg hv, if_neg (by simpa using hvb), wsLoop_eq p p 0 (by simp), Nat.zero_add]
    simp only []
    rw [signStep_eq]
    unfold parse
    simp only []
    have hws := runLen_le isspaceB p
    have hile : runLen isspaceB p + (if ((p.drop (runLen isspaceB p)).head? == some 45) = true then 1 else 0) ≤ p.length := by
      cases hneg : ((p.drop (runLen isspaceB p)).head? == some 45)
      · simpa using hws
      · have : runLen isspaceB p < p.length := by
          apply Classical.byContradiction; intro hn
          rw [List.drop_of_length_le (by omega)] at hneg; simp at hneg
        simp; omega
    simp only [sign_split, drop_split]
    exact tail_spec hlo hhi p base hvb (runLen isspaceB p) _ _ rfl hile

theorem strtoi_eq_spec {lo hi : Int} (hlo : lo ≤ -36) (hhi : 35 ≤ hi) (p : Bytes) (base : Int) :
    strtoi lo hi p base = specRes lo hi p base := by
  unfold strtoi; rw [strtoiO_eq_spec hlo hhi]; rfl

/-! ## what `firstBad` means: the running value is monotone, so it is about the value itself -/

theorem valFrom_cons (base a d : Int) (ds : List Int) : valFrom base a (d :: ds) = valFrom base (a * base + d) ds := rfl

theorem valFrom_ge {base : Int} (hb : 1 ≤ base) : ∀ (ds : List Int) (a : Int), 0 ≤ a → (∀ d ∈ ds, 0 ≤ d) → a ≤ valFrom base a ds := by
  intro ds
  induction ds with
  | nil => intro a _ _; simp [valFrom]
  | cons d ds ih =>
    intro a ha hd
    have h1 : a * 1 ≤ a * base := Int.mul_le_mul_of_nonneg_left hb ha
    have hd0 : 0 ≤ d := hd d (by simp)
    have := ih (a * base + d) (by omega) (fun x hx => hd x (by simp [hx]))
    rw [valFrom_cons]; omega

theorem digitsOf_nonneg (base : Int) : ∀ (l : Bytes), ∀ d ∈ digitsOf base l, 0 ≤ d := by
  intro l
  induction l with
  | nil => intro d hd; simp [digitsOf] at hd
  | cons c cs ih =>
    intro d hd
    unfold digitsOf at hd
    split at hd
    · rename_i d' hd'
      split at hd
      · rcases List.mem_cons.mp hd with h | h
        · subst h; exact (digitOf_range hd').1
        · exact ih d h
      · simp at hd
    · simp at hd

theorem firstBad_none_iff {lo hi : Int} (hlo : lo ≤ 0) (hhi : 0 ≤ hi) (neg : Bool) {base : Int} (hb : 1 ≤ base) :
    ∀ (ds : List Int) (a : Int), 0 ≤ a → (∀ d ∈ ds, 0 ≤ d) → Fits lo hi (sval neg a) →
      (firstBad lo hi neg base a ds = none ↔ Fits lo hi (sval neg (valFrom base a ds))) := by
  intro ds
  induction ds with
  | nil => intro a _ _ hf; simp [firstBad, valFrom, hf]
  | cons d ds ih =>
    intro a ha hd hf
    have hd0 : 0 ≤ d := hd d (by simp)
    have hab : 0 ≤ a * base := Int.mul_nonneg ha (by omega)
    have hds : ∀ x ∈ ds, 0 ≤ x := fun x hx => hd x (by simp [hx])
    rw [valFrom_cons]
    unfold firstBad
    by_cases hf' : Fits lo hi (sval neg (a * base + d))
    · rw [if_pos hf', Option.map_eq_none_iff]
      exact ih (a * base + d) (by omega) hds hf'
    · rw [if_neg hf']
      have hge := valFrom_ge hb ds (a * base + d) (by omega) hds
      constructor
      · intro h; cases h
      · intro h; exfalso; apply hf'
        cases neg
        · simp only [sval, Bool.false_eq_true, if_false, Fits] at h ⊢; omega
        · simp only [sval, if_true, Fits] at h ⊢; omega

/-- `firstBad = some k`: `k` is the number of digits after which the running value is out of range for the first time -/
theorem firstBad_some {lo hi : Int} (neg : Bool) (base : Int) :
    ∀ (ds : List Int) (a : Int) (k : Nat), Fits lo hi (sval neg a) → firstBad lo hi neg base a ds = some k →
      1 ≤ k ∧ k ≤ ds.length ∧ ¬ Fits lo hi (sval neg (valFrom base a (ds.take k))) ∧
      ∀ j, j < k → Fits lo hi (sval neg (valFrom base a (ds.take j))) := by
  intro ds
  induction ds with
  | nil => intro a k _ h; simp [firstBad] at h
  | cons d ds ih =>
    intro a k hf h
    unfold firstBad at h
    by_cases hf' : Fits lo hi (sval neg (a * base + d))
    · rw [if_pos hf'] at h
      obtain ⟨k', hk', rfl⟩ := Option.map_eq_some_iff.mp h
      obtain ⟨h1, h2, h3, h4⟩ := ih (a * base + d) k' hf' hk'
      refine ⟨by omega, by simp; omega, ?_, ?_⟩
      · simpa [List.take_succ_cons, valFrom_cons] using h3
      · intro j hj
        cases j with
        | zero => simpa [valFrom] using hf
        | succ j => simpa [List.take_succ_cons, valFrom_cons] using h4 j (by omega)
    · rw [if_neg hf'] at h
      injection h with h; subst h
      refine ⟨by omega, by simp, ?_, ?_⟩
      · simpa [valFrom] using hf'
      · intro j hj
        have : j = 0 := by omega
        subst this; simpa [valFrom] using hf

theorem parseTail_facts (ws : Nat) (neg : Bool) (base : Int) (r2 : Bytes) (hvb : ValidBase base) :
    2 ≤ (parseTail ws neg base r2).base ∧ (parseTail ws neg base r2).base ≤ 36 ∧ (parseTail ws neg base r2).neg = neg ∧
    (parseTail ws neg base r2).ws = ws ∧ ∀ d ∈ (parseTail ws neg base r2).digs, 0 ≤ d := by
  unfold parseTail
  unfold ValidBase at hvb
  split
  · exact ⟨by dsimp only; omega, by dsimp only; omega, rfl, rfl, digitsOf_nonneg _ _⟩
  · split
    · exact ⟨by dsimp only; omega, by dsimp only; omega, rfl, rfl, digitsOf_nonneg _ _⟩
    · split
      · exact ⟨by dsimp only; omega, by dsimp only; omega, rfl, rfl, digitsOf_nonneg _ _⟩
      · exact ⟨by dsimp only; omega, by dsimp only; omega, rfl, rfl, digitsOf_nonneg _ _⟩

/-- **Specification theorem of `esl_mem_strtoi32/64/strtoi`**, for every byte string and every base. -/
theorem strtoi_spec {lo hi : Int} (hlo : lo ≤ -36) (hhi : 35 ≤ hi) (p : Bytes) (base : Int) :
    StrtoiSpec lo hi p base (strtoi lo hi p base) := by
  unfold StrtoiSpec
  rw [strtoi_eq_spec hlo hhi]
  unfold specRes
  by_cases hvb : ValidBase base
  · have hP := parseTail_facts (runLen isspaceB p) ((p.drop (runLen isspaceB p)).head? == some 45) base
      (if ((p.drop (runLen isspaceB p)).head? == some 45) = true then (p.drop (runLen isspaceB p)).drop 1 else p.drop (runLen isspaceB p)) hvb
    change 2 ≤ (parse p base).base ∧ (parse p base).base ≤ 36 ∧ _ ∧ _ ∧ ∀ d ∈ (parse p base).digs, 0 ≤ d at hP
    obtain ⟨hb2, _, _, _, hdn⟩ := hP
    generalize parse p base = P at *
    have hf0 : Fits lo hi (sval P.neg 0) := by rw [sval_zero]; exact ⟨by omega, by omega⟩
    have hiff := firstBad_none_iff (lo := lo) (hi := hi) (by omega) (by omega) P.neg (base := P.base) (by omega) P.digs 0 (by omega) hdn hf0
    simp only [hvb, not_true, if_false, forall_const, false_implies, true_and]
    by_cases hnd : P.ndigits = 0
    · simp [hnd]
    · simp only [hnd, if_false, false_implies, not_false_eq_true, forall_const, ne_eq]
      cases hfb : firstBad lo hi P.neg P.base 0 P.digs with
      | none =>
        have hfit : Fits lo hi P.value := hiff.mp hfb
        simp [hfit]
      | some k =>
        have hnf : ¬ Fits lo hi P.value := fun h => by have := hiff.mpr h; rw [hfb] at this; cases this
        obtain ⟨h1, h2, h3, h4⟩ := firstBad_some P.neg P.base P.digs 0 k hf0 hfb
        simp only [hnf, not_false_eq_true, false_implies, forall_const, true_and, reduceCtorEq]
        exact ⟨k, h1, h2, h3, h4, rfl⟩
  · simp [hvb]

end EaselModel.Buffer.Mem
