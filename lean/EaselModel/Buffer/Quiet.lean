import EaselModel.Buffer.Inv
/-! # Pointer stability where it does hold

`memgen` (bumped by every `memmove` over a non-zero distance, every `realloc`, and the window reset after `fseeko`)
never changes once nothing can be read any more: in the modes that hold the whole input (string, slurped file, mmap,
short pipe: `hasfp = false`) and on a stream that has reported end-of-file. So in those states every pointer handed
out by a `Get*` call stays valid — with or without a stable anchor — until `SetStableAnchor` rebases the window or
`SetOffset` repositions an unanchored FILE. (On a stream that can still deliver data a refill may move or reallocate the
window; there only a stable anchor keeps the pointers valid: Pinned.lean.) -/
namespace EaselModel.Buffer

/-- nothing can be read any more -/
def Quiet (b : Buf) : Prop := b.hasfp = false ∨ b.eof = true

/-- what every step from a quiet state `b` keeps -/
structure Q (b b' : Buf) : Prop where
  gen : b'.memgen = b.memgen
  fp : b'.hasfp = b.hasfp
  eof : b'.eof = b.eof
  mode : b'.mode = b.mode

theorem Q.refl (b : Buf) : Q b b := ⟨rfl, rfl, rfl, rfl⟩
theorem Q.trans {a b c : Buf} (h1 : Q a b) (h2 : Q b c) : Q a c :=
  ⟨h2.gen.trans h1.gen, h2.fp.trans h1.fp, h2.eof.trans h1.eof, h2.mode.trans h1.mode⟩
theorem Quiet.of_q {b b' : Buf} (q : Quiet b) (h : Q b b') : Quiet b' := by
  unfold Quiet at *; rw [h.fp, h.eof]; exact q

theorem refill_quiet (b : Buf) (k : Nat) (q : Quiet b) : (refill b k).2 = b := by
  unfold refill
  have : (!b.hasfp || b.eof) = true := by
    rcases q with h | h <;> simp [h]
  rw [if_pos this]

theorem setpos_q (b : Buf) (p : Nat) : Q b { b with pos := p } := ⟨rfl, rfl, rfl, rfl⟩

theorem setAnchor_q (b : Buf) (o : Nat) : Q b (setAnchor b o).2 := by
  obtain ⟨a, n, e, _⟩ := setAnchor_shape b o
  rw [e]; exact ⟨rfl, rfl, rfl, rfl⟩

theorem raiseAnchor_q (b : Buf) (o : Nat) : Q b (raiseAnchor b o) := by
  obtain ⟨a, n, s, e, _⟩ := raiseAnchor_shape b o
  rw [e]; exact ⟨rfl, rfl, rfl, rfl⟩

/-- a refill does nothing in a quiet state, so from a quiet `b` the scanning loops stay within `Q b` -/
theorem Q.scans {b : Buf} (q : Quiet b) : Scans (Q b) where
  refill b' k h := by rw [refill_quiet b' k (q.of_q h)]; exact h
  pos b' p h := h.trans (setpos_q b' p)

theorem Q.brackets {b : Buf} (q : Quiet b) : Brackets (Q b) (Q b) where
  pre := Q.scans q
  post := Q.scans q
  setA b' o h := h.trans (setAnchor_q b' o)
  raise b' o h := h.trans (raiseAnchor_q b' o)
  weaken _ h := h

theorem quiet_step_q (b : Buf) (lp : Option Nat) (op : Op) (q : Quiet b)
    (h1 : ∀ o, op ≠ .setStableAnchor o) (h2 : ∀ o, op = .setOffset o → ¬ (b.mode = .file ∧ b.anchor = none)) :
    Q b (opRun b lp op).2 :=
  opRun_brackets (Q.brackets q) b lp op (Q.refl b)
    (fun o ho => setOffset_scans (Q.scans q) b o (Q.refl b) ⟨rfl, rfl, rfl, rfl⟩ (fun hf => absurd hf (h2 o ho)))
    (fun o ho => absurd ho (h1 o))

theorem quiet_step (b : Buf) (lp : Option Nat) (op : Op) (q : Quiet b)
    (h1 : ∀ o, op ≠ .setStableAnchor o) (h2 : ∀ o, op = .setOffset o → ¬ (b.mode = .file ∧ b.anchor = none)) :
    (opRun b lp op).2.memgen = b.memgen ∧ Quiet (opRun b lp op).2 :=
  have key := quiet_step_q b lp op q h1 h2
  ⟨key.gen, q.of_q key⟩

/-- the openers whose result is quiet from the start: the three whole-input modes, and any paged mode when the input
    is shorter than a page (the first `fread` is short, so the stream is at end-of-file) -/
theorem open_quiet (mode : Mode) (ps : Nat) (src : Bytes)
    (h : mode = .string ∨ mode = .mmap ∨ mode = .allfile ∨ src.length < ps) : Quiet (openBuf mode ps src) := by
  have paged : ∀ m, src.length < ps → (openPaged src ps m).eof = true := by
    intro m hl
    show (false || decide ((src.take ps).length < ps)) = true
    simp only [List.length_take, Bool.false_or, decide_eq_true_eq]
    omega
  cases mode with
  | string => exact Or.inl rfl
  | mmap => exact Or.inl rfl
  | allfile => exact Or.inl rfl
  | stream =>
    rcases h with h | h | h | h
    · cases h
    · cases h
    · cases h
    · exact Or.inr (paged .stream h)
  | file =>
    rcases h with h | h | h | h
    · cases h
    · cases h
    · cases h
    · exact Or.inr (paged .file h)
  | cmdpipe =>
    rcases h with h | h | h | h
    · cases h
    · cases h
    · cases h
    · unfold openBuf
      dsimp only
      split
      · exact Or.inl rfl
      · exact Or.inr (paged .cmdpipe h)

end EaselModel.Buffer
