import EaselModel.Buffer.SimLines
/-! Anchor preservation and returned pointer of the token functions; their simulation. -/
namespace EaselModel.Buffer

/-- what the token calls do to the anchor record: with status `eslOK` the bracket at the token start (an anchor ahead
    of it is dropped), otherwise nothing -/
theorem fetchToken_keepX (b : Buf) (sep : Bytes) (asStr : Bool) (h : WF b) (ha : AnchOK b) (hnf : NoFpNoAnchor b) :
    ((fetchToken b sep asStr).1.st = .ok →
      KeepX (brkAt b.absAnchor (b.base + b.pos + runLen (isSep sep) b.abs.suffix)) b (fetchToken b sep asStr).2) ∧
    ((fetchToken b sep asStr).1.st ≠ .ok → KeepA b (fetchToken b sep asStr).2) ∧ AnchOK (fetchToken b sep asStr).2 := by
  obtain ⟨_, b1, e, _, k1, _, _⟩ | ⟨_, _, b2, e, _, k2, _, _⟩ |
      ⟨_, _, b2, b4, b7, nc, e, k24, k57, run⟩ := fetchToken_run b sep asStr h
  · rw [e]
    exact ⟨(fun hh => by cases hh), (fun _ => k1.toKeepA), ha.keep k1⟩
  · rw [e]
    exact ⟨(fun hh => by cases hh), (fun _ => k2.toKeepA), ha.keep k2⟩
  · rw [e]
    have hbr := bracketX b2 { b4 with pos := b4.pos + nc } run.wf2 (ha.keep run.keep2) (hnf.keep run.keep2) k24
    have hbk : b2.brkAnchor = brkAt b.absAnchor (b.base + b.pos + runLen (isSep sep) b.abs.suffix) := by
      rw [brkAnchor_eq_brkAt, run.keep2.anch, run.off2]
    rw [hbk] at hbr
    exact ⟨(fun _ => (run.keep2.toKeepA.transX hbr.1
        (fun hne => fun hb => brkAt_ne_none hne ((absAnchor_eq_none b).mpr hb))).transA k57.toKeepA),
      (fun hh => absurd rfl hh), hbr.2.keep k57⟩

theorem getToken_keep_pX (b : Buf) (sep : Bytes) (h : WF b) (ha : AnchOK b) (hnf : NoFpNoAnchor b) :
    ((getToken b sep).1.st = .ok →
      KeepX (brkAt b.absAnchor (b.base + b.pos + runLen (isSep sep) b.abs.suffix)) b (getToken b sep).2) ∧
    ((getToken b sep).1.st ≠ .ok → KeepA b (getToken b sep).2) ∧ AnchOK (getToken b sep).2 ∧
    ((getToken b sep).1.st = .ok → ∃ i, (getToken b sep).1.p = some i ∧
        (getToken b sep).2.base + i = b.base + b.pos + runLen (isSep sep) b.abs.suffix) ∧
    ((getToken b sep).1.st ≠ .ok → (getToken b sep).1.p = none) := by
  obtain ⟨_, b1, e, _, k1, _, _⟩ | ⟨_, _, b2, e, _, k2, _, _⟩ |
      ⟨_, _, b2, b7, nc, e, k27, hbase, run⟩ := getToken_run b sep h
  · rw [e]
    exact ⟨(fun hh => by cases hh), (fun _ => k1.toKeepA), ha.keep k1, (fun hh => by cases hh), (fun _ => rfl)⟩
  · rw [e]
    exact ⟨(fun hh => by cases hh), (fun _ => k2.toKeepA), ha.keep k2, (fun hh => by cases hh), (fun _ => rfl)⟩
  · rw [e]
    have hbr := bracketX b2 b7 run.wf2 (ha.keep run.keep2) (hnf.keep run.keep2) k27
    have hbk : b2.brkAnchor = brkAt b.absAnchor (b.base + b.pos + runLen (isSep sep) b.abs.suffix) := by
      rw [brkAnchor_eq_brkAt, run.keep2.anch, run.off2]
    rw [hbk] at hbr
    have o2 := run.off2
    have r8 := (raiseAnchor_spec b7 (b2.base + b2.pos) run.wf7).1
    refine ⟨(fun _ => run.keep2.toKeepA.transX hbr.1
        (fun hne => fun hb => brkAt_ne_none hne ((absAnchor_eq_none b).mpr hb))), (fun hh => absurd rfl hh), hbr.2,
      (fun _ => ⟨b2.base + b2.pos - b7.base, rfl, ?_⟩), (fun hh => absurd rfl hh)⟩
    show (raiseAnchor b7 (b2.base + b2.pos)).base + (b2.base + b2.pos - b7.base) = _
    rw [r8.base_eq]; omega

theorem getElem?_some_lt {l : Bytes} {i : Nat} {c : UInt8} (h : l[i]? = some c) : i < l.length := by
  rcases Nat.lt_or_ge i l.length with h1 | h1
  · exact h1
  · rw [List.getElem?_eq_none h1] at h; cases h

theorem nlLen_le (s : Bytes) : nlLen s ≤ s.length := by
  unfold nlLen
  split
  · rename_i h; have := getElem?_some_lt h; omega
  · split
    · rename_i h; have := getElem?_some_lt h.2; omega
    · omega

theorem tokLen_le (sep : Bytes) (s : Bytes) (hs : s ≠ []) : tokLen sep s ≤ s.length := by
  unfold tokLen
  have h1 := runLen_le (isTok sep) (s.drop 1)
  have h2 : (s.drop 1).length = s.length - 1 := List.length_drop
  have h3 : 0 < s.length := List.length_pos_iff.mpr hs
  simp only []
  split <;> omega

theorem specTok_used (sep : Bytes) (s : Bytes) :
    (specTok sep s).2.2 ≤ s.length ∧ ((specTok sep s).1 = .ok → runLen (isSep sep) s ≤ (specTok sep s).2.2) := by
  unfold specTok
  have hk := runLen_le (isSep sep) s
  have hl : (s.drop (runLen (isSep sep) s)).length = s.length - runLen (isSep sep) s := List.length_drop
  simp only []
  split
  · exact ⟨hk, fun hh => by cases hh⟩
  · rename_i hne
    split
    · have := nlLen_le (s.drop (runLen (isSep sep) s))
      exact ⟨by show _ + _ ≤ _; omega, fun hh => by cases hh⟩
    · have h1 := tokLen_le sep _ hne
      have h2 := runLen_le (isSep sep) ((s.drop (runLen (isSep sep) s)).drop (tokLen sep (s.drop (runLen (isSep sep) s))))
      have h3 : ((s.drop (runLen (isSep sep) s)).drop (tokLen sep (s.drop (runLen (isSep sep) s)))).length =
          (s.drop (runLen (isSep sep) s)).length - tokLen sep (s.drop (runLen (isSep sep) s)) := List.length_drop
      exact ⟨by show _ + _ + _ ≤ _; omega, fun _ => by show _ ≤ _ + _ + _; omega⟩

theorem specToken_cur (a : Abs) (sep : Bytes) :
    a.cur ≤ (specToken a sep).2.2.cur ∧ (specToken a sep).2.2.src = a.src ∧
    ((specToken a sep).1 = .ok → a.cur + runLen (isSep sep) a.suffix ≤ (specToken a sep).2.2.cur) := by
  have hu := specTok_used sep a.suffix
  have hl := abs_suffix_length a
  have e1 : (specToken a sep).1 = (specTok sep a.suffix).1 := rfl
  have e2 : (specToken a sep).2.2.cur = a.cur + (specTok sep a.suffix).2.2 := rfl
  have e3 : (specToken a sep).2.2.src = a.src := rfl
  rw [e1, e2, e3]
  exact ⟨Nat.le_add_right _ _, rfl, fun hh => by have := hu.2 hh; omega⟩

theorem aBrk_anchor (a : AState) (t : Nat) : (aBrk a t).anchor = brkAt a.anchor t := by
  unfold aBrk brkAt
  cases ha : a.anchor with
  | none => simp only []; exact ha
  | some A => simp only []; split
              · exact ha
              · rfl

/-- the anchor effect of a token call (`ok` = the call returned a token starting at offset `t`), packaged for `sim_of_refinesX` -/
theorem R.tok_anchor {P : Nat} {a : AState} {s : Sess} (r : R P a s) (ok : Prop) [Decidable ok] (t : Nat) {b' : Buf}
    (k1 : ok → KeepX (brkAt s.b.absAnchor t) s.b b') (k2 : ¬ ok → KeepA s.b b') :
    KeepX (if ok then brkAt s.b.absAnchor t else s.b.absAnchor) s.b b' ∧
    (s.b.hasfp = true → (if ok then brkAt s.b.absAnchor t else s.b.absAnchor) = (if ok then aBrk a t else a).anchor) ∧
    (s.b.hasfp = false → (if ok then brkAt s.b.absAnchor t else s.b.absAnchor) = none) ∧
    (if ok then aBrk a t else a).src = a.src ∧
    (∀ A, (if ok then aBrk a t else a).anchor = some A → a.anchor = some A) ∧
    ((if ok then aBrk a t else a).anchor ≠ none → (if ok then aBrk a t else a).nanchor = a.nanchor) := by
  have hn : s.b.hasfp = false → s.b.absAnchor = none := fun hf => (absAnchor_eq_none s.b).mpr (r.nfa hf)
  by_cases h : ok
  · have e1 : (if ok then brkAt s.b.absAnchor t else s.b.absAnchor) = brkAt s.b.absAnchor t := if_pos h
    have e2 : (if ok then aBrk a t else a) = aBrk a t := if_pos h
    rw [e1, e2]
    refine ⟨k1 h, (fun hf => by rw [(r.anch hf).1, aBrk_anchor]), (fun hf => by rw [hn hf]; rfl), aBrk_src a t,
      (fun A hA => (aBrk_sub a t A hA).1), aBrk_nanchor a t⟩
  · have e1 : (if ok then brkAt s.b.absAnchor t else s.b.absAnchor) = s.b.absAnchor := if_neg h
    have e2 : (if ok then aBrk a t else a) = a := if_neg h
    rw [e1, e2]
    exact ⟨(k2 h).toKeepX, (fun hf => (r.anch hf).1), hn, rfl, (fun _ hA => hA), (fun _ => rfl)⟩

theorem sim_getToken (P : Nat) (sep : Bytes) : SimStep P (.getToken sep) := by
  intro a s r _
  obtain ⟨w, e, _, pg⟩ := getToken_refines s.b sep r.wf
  rw [r.abs_eq] at e
  obtain ⟨kx, ka, ok, p1, p2⟩ := getToken_keep_pX s.b sep r.wf r.aok r.nfa
  rw [r.abs_eq] at p1 kx
  rw [r.cur] at kx
  have hc := specToken_cur a.abs sep
  have e1 : (getToken s.b sep).1.st = (specToken a.abs sep).1 := congrArg Prod.fst e
  rw [e1] at kx ka
  obtain ⟨t1, t2, t3, t4, t5, t6⟩ := r.tok_anchor ((specToken a.abs sep).1 = .ok) (a.cur + runLen (isSep sep) a.abs.suffix) kx ka
  refine sim_of_refinesX (s' := (s.step (.getToken sep)).2) (o := (getToken s.b sep).1) (spec := specToken a.abs sep)
    (lp := if (specToken a.abs sep).1 = .ok then some (a.cur + runLen (isSep sep) a.abs.suffix) else none)
    r w pg t1 ok t2 t3 t4 t5 t6 e ⟨hc.1, hc.2.1⟩ ?_ ?_
  · show ((getToken s.b sep).1.p).map ((getToken s.b sep).2.base + ·) = _
    by_cases hok : (specToken a.abs sep).1 = .ok
    · rw [if_pos hok]
      obtain ⟨i, hi1, hi2⟩ := p1 (by rw [e1]; exact hok)
      rw [hi1]; show some ((getToken s.b sep).2.base + i) = _
      rw [hi2, r.cur]
    · rw [if_neg hok, p2 (by rw [e1]; exact hok)]; rfl
  · intro p hp
    split at hp
    · rename_i hok
      cases hp
      exact ⟨Nat.le_add_right _ _, hc.2.2 hok⟩
    · cases hp

theorem sim_fetchToken_gen (P : Nat) (sep : Bytes) (asStr : Bool) (op : Op)
    (hop : op = .fetchToken sep ∨ op = .fetchTokenStr sep)
    (hrun : ∀ b lp, opRun b lp op = fetchToken b sep asStr) : SimStep P op := by
  intro a s r _
  obtain ⟨w, e, _, pg, _⟩ := fetchToken_refines s.b sep asStr r.wf
  rw [r.abs_eq] at e
  obtain ⟨kx, ka, ok⟩ := fetchToken_keepX s.b sep asStr r.wf r.aok r.nfa
  rw [r.abs_eq, r.cur] at kx
  have e1 : (fetchToken s.b sep asStr).1.st = (specToken a.abs sep).1 := congrArg Prod.fst e
  rw [e1] at kx ka
  obtain ⟨t1, t2, t3, t4, t5, t6⟩ := r.tok_anchor ((specToken a.abs sep).1 = .ok) (a.cur + runLen (isSep sep) a.abs.suffix) kx ka
  have hc := specToken_cur a.abs sep
  have hb : (s.step op).2.b = (fetchToken s.b sep asStr).2 := by rw [step_b, hrun]
  have hl : (s.step op).2.lastp = none := by rw [step_lastp, hrun]; exact fetchToken_p s.b sep asStr
  have ho : (s.step op).1 = (fetchToken s.b sep asStr).1 := by rw [step_out, hrun]
  have hne : op ≠ .get := by rcases hop with h | h <;> rw [h] <;> intro hh <;> cases hh
  have := sim_of_refinesX (s' := (s.step op).2) (o := (fetchToken s.b sep asStr).1) (spec := specToken a.abs sep) (lp := none)
    r (by rw [hb]; exact w) (by rw [hb]; exact pg) (by rw [hb]; exact t1) (by rw [hb]; exact ok) t2 t3 t4 t5 t6 (by rw [hb]; exact e)
    ⟨hc.1, hc.2.1⟩ (by rw [hl]; rfl) (fun p hp => by cases hp)
  have hspec : specStep a op = (⟨(specToken a.abs sep).1, (specToken a.abs sep).2.1, (specToken a.abs sep).2.2.cur⟩,
      { (if (specToken a.abs sep).1 = .ok then aBrk a (a.cur + runLen (isSep sep) a.abs.suffix) else a) with
        cur := (specToken a.abs sep).2.2.cur, lastp := none }) := by
    rcases hop with h | h <;> rw [h] <;> rfl
  rw [hspec]
  refine ⟨?_, this.2⟩
  show (⟨(s.step op).1.st, if op = .get then [] else (s.step op).1.bytes, _⟩ : Obs) = _
  rw [if_neg hne, ho]; exact this.1

theorem sim_fetchToken (P : Nat) (sep : Bytes) : SimStep P (.fetchToken sep) :=
  sim_fetchToken_gen P sep false (.fetchToken sep) (Or.inl rfl) (fun _ _ => rfl)

theorem sim_fetchTokenStr (P : Nat) (sep : Bytes) : SimStep P (.fetchTokenStr sep) :=
  sim_fetchToken_gen P sep true (.fetchTokenStr sep) (Or.inr rfl) (fun _ _ => rfl)

end EaselModel.Buffer
