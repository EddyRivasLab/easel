import EaselModel.Buffer.Model
/-! # The blocks of `bf->mem` and `bf->retired`: every block is freed exactly once, none while a stable anchor needs it

What `buffer_refill` (after fix 188d0b6) does to the allocator, as a function of the `ESL_BUFFER` state it is called in — the
same conditions, in the same order, as the model `refill` (Model.lean) — and what `esl_buffer_Close` frees. Blocks are numbered
in allocation order. The theorems quantify over EVERY sequence of `buffer_refill` calls in ANY states (a superset of what the 14
operations can issue, so they hold along every history): no double free, no leak, and nothing is freed by a refill that runs
under `bf->stable`. (`realloc` is modelled as free + malloc, which is what ASan's allocator does; `SetStableAnchor` and
`RaiseAnchor` only flip the flag.) Tie of this file: ASan (double free, use after free) and LeakSanitizer on every case. -/
namespace EaselModel.Buffer

structure Heap where
  /-- the block `bf->mem` points to -/
  live : Nat
  /-- `bf->retired[0..nretired)` -/
  retired : List Nat
  /-- blocks handed back to the allocator, in order -/
  freed : List Nat
  /-- number of blocks allocated so far (the next block gets this number) -/
  next : Nat
  deriving Repr, DecidableEq

/-- after `esl_buffer_OpenStream/OpenPipe/buffer_init_file_basic`: one page allocated -/
def Heap.init : Heap := ⟨0, [], [], 1⟩

def Heap.all (h : Heap) : List Nat := h.live :: (h.retired ++ h.freed)

/-- no block is in two places, and the blocks in play are exactly the ones allocated so far: the blocks, in whatever order,
    are `0, …, next-1` -/
def Heap.OK (h : Heap) : Prop := h.all.Perm (List.range h.next)

/-- `while (bf->nretired) free(bf->retired[--bf->nretired]);` (the order within one sweep is not recorded) -/
def freeRetired (h : Heap) : Heap := { h with freed := h.freed ++ h.retired, retired := [] }

/-- `ESL_ALLOC(newmem, …); memcpy; bf->retired[bf->nretired++] = bf->mem; bf->mem = newmem;` -/
def retire (h : Heap) : Heap := { h with retired := h.retired ++ [h.live], live := h.next, next := h.next + 1 }

/-- `ESL_REALLOC(bf->mem, …)` (moving: free + malloc) -/
def reallocH (h : Heap) : Heap := { h with freed := h.freed ++ [h.live], live := h.next, next := h.next + 1 }

/-- the allocator side of `buffer_refill(bf, nmin)` called in state `b` -/
def refillH (b : Buf) (nmin : Nat) (h : Heap) : Heap :=
  if !b.hasfp || b.eof then h
  else if b.n - b.pos ≥ nmin + b.pagesize ∧ b.pos ≤ b.n then h
  else if b.pos > b.n then h
  else
    let h1 := if pinned b then h else freeRetired h
    match shiftLeft b with
    | none => h1
    | some b1 => if b1.n + b1.pagesize > b1.balloc then (if pinned b1 then retire h1 else reallocH h1) else h1

/-- what has been freed once `esl_buffer_Close` has run: the retired blocks, then `bf->mem` -/
def closeH (h : Heap) : List Nat := h.freed ++ h.retired ++ [h.live]

def runH : List (Buf × Nat) → Heap → Heap
  | [], h => h
  | (b, nmin) :: cs, h => runH cs (refillH b nmin h)

theorem init_ok : Heap.init.OK := List.Perm.refl [0]

theorem Heap.OK.move {h h' : Heap} (ok : h.OK) (hp : h'.all.Perm h.all) (hn : h'.next = h.next) : h'.OK := by
  unfold Heap.OK; rw [hn]; exact hp.trans ok

theorem Heap.OK.alloc {h h' : Heap} (ok : h.OK) (hp : h'.all.Perm (h.next :: h.all)) (hn : h'.next = h.next + 1) : h'.OK := by
  unfold Heap.OK
  rw [hn, List.range_succ]
  exact hp.trans ((ok.cons h.next).trans (List.perm_append_singleton _ _).symm)

theorem freeRetired_ok {h : Heap} (ok : h.OK) : (freeRetired h).OK := by
  refine ok.move ?_ rfl
  show (h.live :: (h.freed ++ h.retired)).Perm (h.live :: (h.retired ++ h.freed))
  exact List.perm_append_comm.cons h.live

theorem retire_ok {h : Heap} (ok : h.OK) : (retire h).OK := by
  refine ok.alloc (List.Perm.cons h.next ?_) rfl
  show (h.retired ++ [h.live] ++ h.freed).Perm (h.live :: (h.retired ++ h.freed))
  rw [List.append_assoc]; exact List.perm_middle

theorem reallocH_ok {h : Heap} (ok : h.OK) : (reallocH h).OK := by
  refine ok.alloc (List.Perm.cons h.next ?_) rfl
  show (h.retired ++ (h.freed ++ [h.live])).Perm (h.live :: (h.retired ++ h.freed))
  rw [← List.append_assoc]; exact List.perm_append_singleton _ _

theorem refillH_ok (b : Buf) (nmin : Nat) {h : Heap} (ok : h.OK) : (refillH b nmin h).OK := by
  unfold refillH
  split
  · exact ok
  · split
    · exact ok
    · split
      · exact ok
      · dsimp only
        have ok1 : (if pinned b then h else freeRetired h).OK := by
          split
          · exact ok
          · exact freeRetired_ok ok
        generalize (if pinned b then h else freeRetired h) = h1 at ok1 ⊢
        split
        · exact ok1
        · split
          · split
            · exact retire_ok ok1
            · exact reallocH_ok ok1
          · exact ok1

theorem runH_ok : ∀ (cs : List (Buf × Nat)) {h : Heap}, h.OK → (runH cs h).OK
  | [], _, ok => ok
  | (b, nmin) :: cs, _, ok => runH_ok cs (refillH_ok b nmin ok)

theorem refillH_pinned (b : Buf) (nmin : Nat) (h : Heap) (hp : pinned b = true) :
    (refillH b nmin h).freed = h.freed ∧ ∀ x, x ∈ h.live :: h.retired → x ∈ (refillH b nmin h).live :: (refillH b nmin h).retired := by
  have hs : shiftLeft b = some b := by unfold shiftLeft; rw [if_pos hp]
  unfold refillH
  rw [hs]
  simp only [hp, if_true]
  split
  · exact ⟨rfl, fun x hx => hx⟩
  · split
    · exact ⟨rfl, fun x hx => hx⟩
    · split
      · exact ⟨rfl, fun x hx => hx⟩
      · split
        · refine ⟨rfl, fun x hx => ?_⟩
          show x ∈ h.next :: (h.retired ++ [h.live])
          rcases List.mem_cons.1 hx with e | hx
          · exact List.mem_cons_of_mem _ (List.mem_append_right _ (List.mem_singleton.2 e))
          · exact List.mem_cons_of_mem _ (List.mem_append_left _ hx)
        · exact ⟨rfl, fun x hx => hx⟩

theorem close_frees_exactly_once (cs : List (Buf × Nat)) :
    (closeH (runH cs Heap.init)).Nodup ∧ ∀ x, x ∈ closeH (runH cs Heap.init) ↔ x < (runH cs Heap.init).next := by
  have ok := runH_ok cs init_ok
  generalize runH cs Heap.init = h at ok ⊢
  have hp : (closeH h).Perm (List.range h.next) :=
    ((List.perm_append_singleton _ _).trans (List.perm_append_comm.cons h.live)).trans ok
  exact ⟨hp.nodup_iff.2 List.nodup_range, fun x => hp.mem_iff.trans List.mem_range⟩

end EaselModel.Buffer
