import EaselModel.Buffer.BufConsts
/-! # C05 — executable model of `esl_buffer.c` (hand-written, kind H)

Mirrors, statement by statement, `buffer_refill`, `buffer_countline`, `buffer_skipsep`, `buffer_newline`,
`buffer_counttok`, `esl_memnewline` (esl_mem.c) and the public operations of `esl_buffer.c`, plus the initial
states produced by the openers. Core Lean only (the driver links this file).

Conventions
* `mem` is the valid part `mem[0..n)` of the C buffer (`n = mem.length`); `balloc` is the allocated size.
* the stream behind `fp` is `src`; `fed` bytes have been consumed by `fread`, `rest = src.drop fed` is what is
  left (kept as a field so that a read costs O(page)); `eof` is the stream's end-of-file flag;
  `fread(k)` returns `min k rest.length` bytes and sets `eof` on a short count.
* `memgen` is bumped whenever bytes that were handed out may have moved: a `memmove` by a non-zero distance, a
  `realloc`, or an overwrite of the window after `fseeko`. Pointer validity = `memgen` unchanged.
* every data-dependent memory access is bounds-checked; a failed check is the outcome `St.fault`.
* loops that call `buffer_refill` take fuel `rest.length + 2` (each further iteration consumes ≥ 1 byte of
  `rest`); running out of fuel is `St.fault` and is proved unreachable.
-/
namespace EaselModel.Buffer

abbrev Bytes := List UInt8

inductive Mode where
  | stream | cmdpipe | file | allfile | mmap | string
  deriving DecidableEq, Repr, Inhabited

/-- Easel status codes that the buffer API can return, plus `fault` (memory-safety precondition violated). -/
inductive St where
  | ok | eof | eol | einval | einconceivable | fault
  deriving DecidableEq, Repr, Inhabited

structure Buf where
  src : Bytes
  rest : Bytes
  fed : Nat
  hasfp : Bool
  eof : Bool
  mem : Bytes
  balloc : Nat
  pos : Nat
  base : Nat
  anchor : Option Nat
  nanchor : Nat
  pagesize : Nat
  mode : Mode
  memgen : Nat
  /-- `bf->stable` (fix C05-stable-anchor-keep-oldmem, round 6): TRUE from a successful `SetStableAnchor` on a stream until the
      last anchor is raised. Ghost state (never read) when `BufConsts.stableRetire = false`, i.e. on a tree without the fix. -/
  stab : Bool
  deriving DecidableEq, Repr, Inhabited

namespace Buf
@[reducible] def n (b : Buf) : Nat := b.mem.length
/-- `esl_buffer_GetOffset` -/
@[reducible] def offset (b : Buf) : Nat := b.base + b.pos
end Buf

def LF : UInt8 := 10
def CR : UInt8 := 13

/-! ## scanning primitives (the inner `for`/`memchr` loops) -/

/-- length of the longest prefix all of whose bytes satisfy `p` -/
def runLen (p : UInt8 → Bool) : Bytes → Nat
  | [] => 0
  | c :: cs => if p c then runLen p cs + 1 else 0

/-- `strchr(sep, c) != NULL` for a C string `sep`: the terminating NUL matches `c = 0`. -/
def isSep (sep : Bytes) (c : UInt8) : Bool := c == 0 || sep.contains c

def notLF (c : UInt8) : Bool := c != LF
/-- byte that continues a token: not in `sep`, not LF -/
def isTok (sep : Bytes) (c : UInt8) : Bool := !isSep sep c && c != LF

/-- `esl_memnewline(m, n, &nline, &nterm)`: `(nline, nterm)` -/
def memnewline (m : Bytes) : Nat × Nat :=
  let i := runLen notLF m                 -- memchr(m, '\n', n)
  if i = m.length then (m.length, 0)
  else if 0 < i ∧ m[i-1]? = some CR then (i - 1, 2)
  else (i, 1)

/-! ## fread and buffer_refill -/

/-- `fread(mem+n, 1, k, fp)` appended to the window -/
def fread (b : Buf) (k : Nat) : Buf :=
  let chunk := b.rest.take k
  { b with mem := b.mem ++ chunk, rest := b.rest.drop k, fed := b.fed + chunk.length,
           eof := b.eof || decide (chunk.length < k) }

/-- the "relocation, shift left" block of `buffer_refill` (also used by `SetStableAnchor`):
    drop `ndel` bytes from the front of the window -/
def dropFront (b : Buf) (ndel : Nat) : Buf :=
  { b with mem := b.mem.drop ndel, pos := b.pos - ndel, base := b.base + ndel,
           memgen := if 0 < ndel ∧ ndel < b.n then b.memgen + 1 else b.memgen }

/-- "Relocation, shift left to conserve memory". Since b86a62d an anchor ahead of the cursor keeps everything from the
    cursor on (`ndel = pos; anchor -= ndel`); before that fix `pos` went negative. The result is always `some` (the
    `Option` is kept for the callers' `match`). -/
def shiftLeft0 (b : Buf) : Option Buf :=
  if b.balloc - b.n < b.pagesize ∧ 0 < b.pos then
    match b.anchor with
    | none => some (dropFront b b.pos)
    | some a => if a ≤ b.pos then some (dropFront { b with anchor := some 0 } a)
                else some (dropFront { b with anchor := some (a - b.pos) } b.pos)
  else some b

/-- the repaired `buffer_refill` is in force and a stable anchor holds: `bf->stable` (the field exists only in the repaired tree;
    `BufConsts.stableRetire = true` says that the model is the repaired tree) -/
def pinned (b : Buf) : Bool := BufConsts.stableRetire && b.stab

/-- `if (bf->balloc - bf->n < bf->pagesize && bf->pos > 0 && ! bf->stable) { … }`: never shift under a stable anchor -/
def shiftLeft (b : Buf) : Option Buf := if pinned b then some b else shiftLeft0 b

/-- `ESL_REALLOC(bf->mem, n + pagesize)` when the next page does not fit -/
def grow0 (b : Buf) : Buf :=
  if b.n + b.pagesize > b.balloc then { b with balloc := b.n + b.pagesize, memgen := b.memgen + 1 } else b

/-- under a stable anchor (repaired code): `newalloc = ESL_MAX(n + pagesize, 2*balloc)`, a NEW block is allocated, the window copied,
    and the old block kept on `bf->retired` until the anchor is gone — no pointer handed out is invalidated, so `memgen` stays.
    (The C condition also asks `bf->mem != NULL`, which holds whenever a stream is open: every paged opener allocates a page.) -/
def growR (b : Buf) : Buf :=
  if b.n + b.pagesize > b.balloc then { b with balloc := max (b.n + b.pagesize) (2 * b.balloc) } else b

def grow (b : Buf) : Buf := if pinned b then growR b else grow0 b

/-- `nread = fread(mem+n, 1, pagesize, fp); n += nread; return (nread == 0 && pos == n) ? eslEOF : eslOK` -/
def load (b : Buf) : St × Buf :=
  let b3 := fread b b.pagesize
  (if min b.pagesize b.rest.length = 0 ∧ b3.pos = b3.n then .eof else .ok, b3)

def refill (b : Buf) (nmin : Nat) : St × Buf :=
  if !b.hasfp || b.eof then (if b.pos < b.n then .ok else .eof, b)
  else if b.n - b.pos ≥ nmin + b.pagesize ∧ b.pos ≤ b.n then (.ok, b)
  else if b.pos > b.n then (.einconceivable, b)
  else
    match shiftLeft b with
    | none => (.fault, b)
    | some b1 => load (grow b1)

/-- `buffer_refill` as it was BEFORE fix 188d0b6 (no `bf->stable`: shift and `ESL_REALLOC` whatever anchor is set); kept for
    the regression theorems `stable_ptr_valid_fails_at` / `stable_ptr_valid_iff` (Props/C05.lean) about that variant -/
def refill0 (b : Buf) (nmin : Nat) : St × Buf :=
  if !b.hasfp || b.eof then (if b.pos < b.n then .ok else .eof, b)
  else if b.n - b.pos ≥ nmin + b.pagesize ∧ b.pos ≤ b.n then (.ok, b)
  else if b.pos > b.n then (.einconceivable, b)
  else
    match shiftLeft0 b with
    | none => (.fault, b)
    | some b1 => load (grow0 b1)

/-! ## anchors -/

def setAnchor (b : Buf) (offset : Nat) : St × Buf :=
  if !b.hasfp then (.ok, b)
  else if offset < b.base ∨ offset > b.base + b.n then (.einval, b)
  else
    let r := offset - b.base
    match b.anchor with
    | none => (.ok, { b with anchor := some r, nanchor := 1 })
    | some a =>
      if r < a then (.ok, { b with anchor := some r, nanchor := 1 })
      else if r = a then (.ok, { b with nanchor := b.nanchor + 1 })
      else (.ok, b)

def raiseAnchor (b : Buf) (offset : Nat) : Buf :=
  match b.anchor with
  | none => b
  | some a =>
    if b.base ≤ offset ∧ a = offset - b.base then
      if b.nanchor - 1 = 0 then { b with nanchor := 0, anchor := none, stab := false }
      else { b with nanchor := b.nanchor - 1 }
    else b

def setStableAnchor (b : Buf) (offset : Nat) : St × Buf :=
  if !b.hasfp then (.ok, b)
  else
    match setAnchor b offset with
    | (.ok, b1) =>
      match b1.anchor with
      | none => (.fault, b1)            -- cannot happen: SetAnchor leaves an anchor
      | some a =>
        -- ndel = ESL_MIN(anchor, pos); anchor -= ndel   (b86a62d; before, an anchor ahead of the cursor made pos negative)
        -- `bf->stable = TRUE`
        if a ≤ b1.pos then (.ok, { dropFront { b1 with anchor := some 0 } a with stab := true })
        else (.ok, { dropFront { b1 with anchor := some (a - b1.pos) } b1.pos with stab := true })
    | (st, b1) => (st, b1)

/-! ## lines -/

/-- `if (nc && mem[pos+nc-1] == '\r') nc--;` (bounds-checked) -/
def backUp (b : Buf) (nc : Nat) : Option Nat :=
  if nc = 0 then some nc
  else match b.mem[b.pos + nc - 1]? with
       | none => none
       | some c => some (if c = CR then nc - 1 else nc)

/-- the `do … while` loop of `buffer_countline`; result `(status, b, nc, nterm)` -/
def countlineLoop : Nat → Buf → Nat → St × Buf × Nat × Nat
  | 0, b, nc => (.fault, b, nc, 0)
  | fuel + 1, b, nc =>
    match backUp b nc with
    | none => (.fault, b, nc, 0)
    | some nc1 =>
      if b.pos + nc1 > b.n then (.fault, b, nc1, 0) else
      let (nc2, nterm) := memnewline (b.mem.drop (b.pos + nc1))
      let nc' := nc1 + nc2
      if nterm ≠ 0 then (.ok, b, nc', nterm)
      else
        let (st, b') := refill b nc'
        if st ≠ .ok ∧ st ≠ .eof then (st, b', nc', 0)
        else if b'.n - b'.pos > nc' then countlineLoop fuel b' nc'
        else (st, b', nc', 0)

/-- `buffer_countline`: `(status, b, nc, nskip)` -/
def countline (b : Buf) : St × Buf × Nat × Nat :=
  if b.pos = b.n then (.eof, b, 0, 0)
  else if b.pos > b.n then (.fault, b, 0, 0)
  else
    match countlineLoop (b.rest.length + 2) b 0 with
    | (st, b', nc, nterm) =>
      if st ≠ .ok ∧ st ≠ .eof then (st, b', 0, 0)
      else if st = .eof ∧ nc = 0 ∧ nterm = 0 then (.eof, b', 0, 0)
      else (.ok, b', nc, nc + nterm)

/-- result of an operation: status, bytes returned (through a pointer or a copy), their count,
    index in `mem` of a pointer handed out (for a following `Set`), NUL-terminated flag -/
structure Out where
  st : St
  bytes : Bytes := []
  n : Nat := 0
  p : Option Nat := none
  z : Bool := false
  deriving DecidableEq, Repr, Inhabited

/-- read `k` bytes at `mem+i` (bounds-checked) -/
def slice (b : Buf) (i k : Nat) : Option Bytes :=
  if i + k ≤ b.n then some ((b.mem.drop i).take k) else none

def anchStatus (st : St) : St := if st = .einval then .einconceivable else st

def getLine (b : Buf) : Out × Buf :=
  let anch := b.base + b.pos
  match setAnchor b anch with
  | (.ok, b1) =>
    match countline b1 with
    | (.ok, b2, nc, nskip) =>
      let (st, b3) := refill b2 nskip
      if st ≠ .eof ∧ st ≠ .ok then ({ st := st }, raiseAnchor b3 anch)
      else
        let b4 := raiseAnchor b3 anch
        match slice b4 b4.pos nc with
        | none => ({ st := .fault }, b4)
        | some line =>
          if b4.pos + nskip ≤ b4.n then
            ({ st := .ok, bytes := line, n := nc, p := some b4.pos }, { b4 with pos := b4.pos + nskip })
          else ({ st := .fault }, b4)
    | (st, b2, _, _) => ({ st := st }, raiseAnchor b2 anch)
  | (st, b1) => ({ st := anchStatus st }, b1)

/-- `esl_buffer_FetchLine` / `esl_buffer_FetchLineAsStr` (`asStr` only changes the NUL terminator) -/
def fetchLine (b : Buf) (asStr : Bool) : Out × Buf :=
  let anch := b.base + b.pos
  match setAnchor b anch with
  | (.ok, b1) =>
    match countline b1 with
    | (.ok, b2, nc, nskip) =>
      match slice b2 b2.pos nc with
      | none => ({ st := .fault }, b2)
      | some line =>
        let b3 := { b2 with pos := b2.pos + nskip }
        let b4 := raiseAnchor b3 anch
        let (st, b5) := refill b4 0
        if st ≠ .eof ∧ st ≠ .ok then ({ st := st }, b5)
        else ({ st := .ok, bytes := line, n := nc, z := asStr }, b5)
    | (st, b2, _, _) => ({ st := st }, raiseAnchor b2 anch)
  | (st, b1) => ({ st := anchStatus st }, b1)

/-! ## tokens -/

/-- `buffer_skipsep`: `(status, b)` -/
def skipsepLoop (sep : Bytes) : Nat → Buf → St × Buf
  | 0, b => (.fault, b)
  | fuel + 1, b =>
    if b.pos > b.n then (.fault, b) else
    let k := runLen (isSep sep) (b.mem.drop b.pos)
    let b1 := { b with pos := b.pos + k }
    if b1.pos < b1.n then (.ok, b1)                       -- goto DONE on a non-separator
    else
      let (st, b2) := refill b1 0
      if st ≠ .ok ∧ st ≠ .eof then (st, b2)
      else if b2.n > b2.pos then skipsepLoop sep fuel b2
      else (if b2.pos = b2.n then .eof else .ok, b2)

def skipsep (b : Buf) (sep : Bytes) : St × Buf := skipsepLoop sep (b.rest.length + 2) b

/-- `buffer_newline`: on LF or CRLF step over it and answer `eslEOL`, else `eslOK`; a CR that is the last loaded
    byte first gets one more page loaded behind it; the page guarantee is restored before returning. -/
def newline (b : Buf) : St × Buf :=
  if b.pos > b.n then (.fault, b) else
  if b.n - b.pos = 0 then (.eol, b)
  else
    -- if (nc == 1 && mem[pos] == '\r') { refill(bf, 1); nc = n - pos; }
    let r0 : St × Buf := if b.n - b.pos = 1 ∧ b.mem[b.pos]? = some CR then refill b 1 else (.ok, b)
    if r0.1 ≠ .eof ∧ r0.1 ≠ .ok then r0 else
    let b0 := r0.2
    -- length of the newline at the cursor (0 = none): is_newline = (nl != 0); pos += nl
    let nl : Nat :=
      if b0.n - b0.pos ≥ 1 ∧ b0.mem[b0.pos]? = some LF then 1
      else if b0.n - b0.pos ≥ 2 ∧ b0.mem[b0.pos]? = some CR ∧ b0.mem[b0.pos + 1]? = some LF then 2
      else 0
    let r2 := refill { b0 with pos := b0.pos + nl } 0
    if r2.1 ≠ .eof ∧ r2.1 ≠ .ok then r2 else (if nl ≠ 0 then .eol else .ok, r2.2)

/-- the `do … while` loop of `buffer_counttok`: `(status, b, nc)` -/
def counttokLoop (sep : Bytes) : Nat → Buf → Nat → St × Buf × Nat
  | 0, b, nc => (.fault, b, nc)
  | fuel + 1, b, nc =>
    if b.pos + nc > b.n then (.fault, b, nc) else
    let nc' := nc + runLen (isTok sep) (b.mem.drop (b.pos + nc))
    if nc' < b.n - b.pos then (.ok, b, nc')
    else
      let (st, b1) := refill b nc'
      if st ≠ .ok ∧ st ≠ .eof then (st, b1, 0)
      else if b1.n - b1.pos > nc' then counttokLoop sep fuel b1 nc'
      else (.ok, b1, nc')

def counttok (b : Buf) (sep : Bytes) : St × Buf × Nat :=
  if b.pos ≥ b.n then (.fault, b, 0) else      -- the caller guarantees mem[pos] exists
  match counttokLoop sep (b.rest.length + 2) b 1 with
  | (.ok, b1, nc) =>
    if b1.pos + nc < b1.n ∧ b1.mem[b1.pos + nc]? = some LF ∧ b1.mem[b1.pos + nc - 1]? = some CR
    then (.ok, b1, nc - 1) else (.ok, b1, nc)
  | r => r

def okOrEof (st : St) : Bool := st = .ok || st = .eof

def getToken (b : Buf) (sep : Bytes) : Out × Buf :=
  match skipsep b sep with
  | (.ok, b1) =>
    match newline b1 with
    | (.ok, b2) =>
      let anch := b2.base + b2.pos
      match setAnchor b2 anch with
      | (.ok, b3) =>
        match counttok b3 sep with
        | (.ok, b4, nc) =>
          let b5 := { b4 with pos := b4.pos + nc }
          let (st6, b6) := skipsep b5 sep
          if !okOrEof st6 then ({ st := st6 }, raiseAnchor b6 anch) else
          let (st7, b7) := refill b6 0
          if !okOrEof st7 then ({ st := st7 }, raiseAnchor b7 anch) else
          if anch < b7.base then ({ st := .fault }, b7) else
          match slice b7 (anch - b7.base) nc with
          | none => ({ st := .fault }, b7)
          | some tok => ({ st := .ok, bytes := tok, n := nc, p := some (anch - b7.base) }, raiseAnchor b7 anch)
        | (st, b4, _) => ({ st := st }, raiseAnchor b4 anch)
      | (st, b3) => ({ st := anchStatus st }, b3)
    | (st, b2) => ({ st := st }, b2)
  | (st, b1) => ({ st := st }, b1)

/-- `esl_buffer_FetchToken` / `esl_buffer_FetchTokenAsStr` -/
def fetchToken (b : Buf) (sep : Bytes) (asStr : Bool) : Out × Buf :=
  match skipsep b sep with
  | (.ok, b1) =>
    match newline b1 with
    | (.ok, b2) =>
      let anch := b2.base + b2.pos
      match setAnchor b2 anch with
      | (.ok, b3) =>
        match counttok b3 sep with
        | (.ok, b4, nc) =>
          match slice b4 b4.pos nc with
          | none => ({ st := .fault }, b4)
          | some tok =>
            let b5 := raiseAnchor { b4 with pos := b4.pos + nc } anch
            let (st6, b6) := skipsep b5 sep
            if !okOrEof st6 then ({ st := st6 }, b6) else
            let (st7, b7) := refill b6 0
            if !okOrEof st7 then ({ st := st7 }, b7) else
            ({ st := .ok, bytes := tok, n := nc, z := asStr }, b7)
        | (st, b4, _) => ({ st := st }, raiseAnchor b4 anch)
      | (st, b3) => ({ st := anchStatus st }, b3)
    | (st, b2) => ({ st := st }, b2)
  | (st, b1) => ({ st := st }, b1)

/-! ## binary read, raw access -/

/-- the `while (n - pos < nbytes)` loop of `esl_buffer_Read` -/
def readLoop (nbytes : Nat) : Nat → Buf → St × Buf
  | 0, b => (.fault, b)
  | fuel + 1, b =>
    if b.n - b.pos < nbytes then
      let navail := b.n - b.pos
      let (st, b1) := refill b nbytes
      if st = .eof then (.eof, b1)
      else if st ≠ .ok then (st, b1)
      else if b1.n - b1.pos = navail then (.eof, b1)
      else readLoop nbytes fuel b1
    else (.ok, b)

def read (b : Buf) (nbytes : Nat) : Out × Buf :=
  if b.pos > b.n then ({ st := .fault }, b) else
  match readLoop nbytes (b.rest.length + 2) b with
  | (.ok, b1) =>
    match slice b1 b1.pos nbytes with
    | none => ({ st := .fault }, b1)
    | some bytes =>
      let (st, b2) := refill { b1 with pos := b1.pos + nbytes } 0
      if st ≠ .ok ∧ st ≠ .eof then ({ st := st }, b2)
      else ({ st := .ok, bytes := bytes, n := nbytes }, b2)
  | (st, b1) => ({ st := st }, b1)

def get (b : Buf) : Out × Buf :=
  if b.pos < b.n then ({ st := .ok, bytes := b.mem.drop b.pos, n := b.n - b.pos, p := some b.pos }, b)
  else ({ st := .eof }, b)

/-- `esl_buffer_Set(bf, p, nused)`; `p = none` is the NULL pointer -/
def set (b : Buf) (p : Option Nat) (nused : Nat) : Out × Buf :=
  let b1 := match p with
    | some i => { b with pos := i + nused }
    | none => b
  let (st, b2) := refill b1 0
  ({ st := if okOrEof st then .ok else st }, b2)

/-! ## repositioning -/

/-- fast-forward loop of `esl_buffer_SetOffset` -/
def ffwdLoop (offset : Nat) : Nat → Buf → St × Buf
  | 0, b => (.fault, b)
  | fuel + 1, b =>
    if offset ≥ b.base + b.n then
      let b1 := { b with pos := b.n }
      let (st, b2) := refill b1 0
      if st = .eof ∧ offset = b2.base + b2.n then (.ok, b2)      -- exactly the end of the stream: legal
      else if st = .eof then (.einval, b2)
      else if st ≠ .ok then (st, b2)
      else ffwdLoop offset fuel b2
    else (.ok, b)

def setOffset (b : Buf) (offset : Nat) : Out × Buf :=
  match b.mode with
  | .allfile | .mmap | .string =>
    -- since 4515997: if (offset < 0 || offset > bf->n) ESL_EXCEPTION(eslEINVAL, ...)
    if offset > b.n then ({ st := .einval }, b) else ({ st := .ok }, { b with base := 0, pos := offset })
  | _ =>
    if b.base ≤ offset ∧ offset < b.base + b.pos then ({ st := .ok }, { b with pos := offset - b.base })
    else if b.mode = .file ∧ b.anchor = none then
      -- fseeko(fp, offset, SEEK_SET); baseoffset = offset; n = 0; pos = 0
      let b1 := { b with rest := b.src.drop offset, fed := offset, eof := false,
                         base := offset, mem := [], pos := 0, memgen := b.memgen + 1 }
      let (st, b2) := refill b1 0
      if st = .eof then ({ st := .einval }, b2)
      else if st ≠ .ok then ({ st := st }, b2)
      else ({ st := .ok }, b2)
    else if offset < b.base then ({ st := .einval }, b)
    else
      match ffwdLoop offset (b.rest.length + 2) b with
      | (.ok, b1) =>
        let b2 := { b1 with pos := offset - b1.base }
        let (st, b3) := refill b2 0
        if st ≠ .eof ∧ st ≠ .ok then ({ st := st }, b3) else ({ st := .ok }, b3)
      | (st, b1) => ({ st := st }, b1)

/-! ## openers -/

def mkBuf (src : Bytes) (ps : Nat) (mode : Mode) : Buf :=
  { src := src, rest := src, fed := 0, hasfp := true, eof := false, mem := [], balloc := 0, pos := 0, base := 0,
    anchor := none, nanchor := 0, pagesize := ps, mode := mode, memgen := 0, stab := false }

/-- whole input in memory (`OpenMem`, slurped file, mmap) -/
def openWhole (src : Bytes) (ps : Nat) (mode : Mode) (balloc : Nat) : Buf :=
  { mkBuf src ps mode with rest := [], fed := src.length, hasfp := false, mem := src, balloc := balloc }

/-- first page read (`OpenStream`, `buffer_init_file_basic`, `OpenPipe`) -/
def openPaged (src : Bytes) (ps : Nat) (mode : Mode) : Buf :=
  fread { mkBuf src ps mode with balloc := ps } ps

def openBuf (mode : Mode) (ps : Nat) (src : Bytes) : Buf :=
  match mode with
  | .string => openWhole src ps .string 0
  | .mmap => openWhole src ps .mmap 0
  | .allfile => openWhole src ps .allfile src.length
  | .stream => openPaged src ps .stream
  | .file => openPaged src ps .file
  | .cmdpipe =>
    let b := openPaged src ps .cmdpipe
    -- short first read: pclose, fp = NULL, balloc = 0, mode ALLFILE
    if b.n < ps then { b with hasfp := false, balloc := 0, mode := .allfile } else b

/-! ## sessions and operation histories -/

inductive Op where
  | getLine | fetchLine | fetchLineStr
  | getToken (sep : Bytes) | fetchToken (sep : Bytes) | fetchTokenStr (sep : Bytes)
  | read (k : Nat) | get | set (nused : Nat) | getOffset
  | setOffset (o : Nat) | setAnchor (o : Nat) | setStableAnchor (o : Nat) | raiseAnchor (o : Nat)
  deriving DecidableEq, Repr

/-- buffer plus what the caller holds: the pointer returned by the last `Get*` call (usable by the next `Set`),
    and the value of `memgen` when the active stable anchor was set -/
structure Sess where
  b : Buf
  lastp : Option Nat := none
  stable : Option Nat := none
  deriving Repr

/-- the buffer-level effect of one operation -/
def opRun (b : Buf) (lastp : Option Nat) (op : Op) : Out × Buf :=
  match op with
  | .getLine => getLine b
  | .fetchLine => fetchLine b false
  | .fetchLineStr => fetchLine b true
  | .getToken sep => getToken b sep
  | .fetchToken sep => fetchToken b sep false
  | .fetchTokenStr sep => fetchToken b sep true
  | .read k => read b k
  | .get => get b
  | .set k => set b lastp k
  | .getOffset => ({ st := .ok }, b)
  | .setOffset o => setOffset b o
  | .setAnchor o => ({ st := (setAnchor b o).1 }, (setAnchor b o).2)
  | .setStableAnchor o => ({ st := (setStableAnchor b o).1 }, (setStableAnchor b o).2)
  | .raiseAnchor o => ({ st := .ok }, raiseAnchor b o)

def Sess.step (s : Sess) (op : Op) : Out × Sess :=
  let r := opRun s.b s.lastp op
  let o := r.1
  let b' := r.2
  let stable' : Option Nat :=
    match op with
    | .setStableAnchor _ => if o.st = .ok ∧ b'.hasfp then (match s.stable with | none => some b'.memgen | some g => some g) else s.stable
    | _ => s.stable
  let stable'' := if b'.anchor = none then none else stable'
  (o, { b := b', lastp := o.p, stable := stable'' })

/-- has the window moved since the active stable anchor was set? -/
def Sess.moved (s : Sess) : Bool :=
  match s.stable with
  | some g => g != s.b.memgen
  | none => false

def run : Sess → List Op → List (Out × Nat)
  | _, [] => []
  | s, op :: ops => let (o, s') := s.step op; (o, s'.b.offset) :: run s' ops

end EaselModel.Buffer
