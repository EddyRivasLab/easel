import EaselModel.Buffer.GetLine
/-! The anchor in input coordinates and what no internal step changes (`Keep`, an instance of `Scans`); then `buffer_skipsep`,
`buffer_newline`, `buffer_counttok` against the byte string behind the cursor. -/
namespace EaselModel.Buffer

/-- the anchor as an offset in the input -/
def Buf.absAnchor (b : Buf) : Option Nat := b.anchor.map (b.base + ·)

theorem dropFront_absAnchor0 (b : Buf) (a : Nat) :
    (dropFront { b with anchor := some 0 } a).absAnchor = some (b.base + a) := by
  simp [Buf.absAnchor, dropFront]

/-- The bytes from input offset `o` on stay loaded: the window starts at or before `o`, and if there is a stream
    (so that refills can discard bytes) an anchor at or before `o` protects them. -/
def Prot (b : Buf) (o : Nat) : Prop :=
  b.base ≤ o ∧ (b.hasfp = true → ∃ A, b.absAnchor = some A ∧ A ≤ o)

/-- What no internal step changes: input, page size, mode, stream presence, the anchor (in input coordinates) and its
    count; and in the modes without a stream, the window itself. -/
structure Keep (b b' : Buf) : Prop where
  src : b'.src = b.src
  ps : b'.pagesize = b.pagesize
  mode : b'.mode = b.mode
  hasfp : b'.hasfp = b.hasfp
  anch : b'.absAnchor = b.absAnchor
  nanch : b'.nanchor = b.nanchor
  nofp : b.hasfp = false → b'.base = b.base ∧ b'.mem = b.mem

theorem Keep.refl (b : Buf) : Keep b b := ⟨rfl, rfl, rfl, rfl, rfl, rfl, fun _ => ⟨rfl, rfl⟩⟩

/-- without a stream two steps keep the window if each does -/
theorem nofp_trans {a b c : Buf} (hfp : b.hasfp = a.hasfp) (h1 : a.hasfp = false → b.base = a.base ∧ b.mem = a.mem)
    (h2 : b.hasfp = false → c.base = b.base ∧ c.mem = b.mem) (hf : a.hasfp = false) : c.base = a.base ∧ c.mem = a.mem := by
  obtain ⟨x1, x2⟩ := h1 hf
  obtain ⟨y1, y2⟩ := h2 (by rw [hfp]; exact hf)
  exact ⟨y1.trans x1, y2.trans x2⟩

theorem Keep.trans {a b c : Buf} (h1 : Keep a b) (h2 : Keep b c) : Keep a c :=
  ⟨h2.src.trans h1.src, h2.ps.trans h1.ps, h2.mode.trans h1.mode, h2.hasfp.trans h1.hasfp,
   h2.anch.trans h1.anch, h2.nanch.trans h1.nanch,
   nofp_trans h1.hasfp h1.nofp h2.nofp⟩

/-- from any state: `buffer_refill` keeps the anchor where it is in the input (it may renumber it to window position 0) -/
theorem refill_keep (b : Buf) (nmin : Nat) : Keep b (refill b nmin).2 := by
  cases hfp : b.hasfp with
  | false =>
    have e : (refill b nmin).2 = b := by unfold refill; rw [hfp]; rfl
    rw [e]; exact Keep.refl b
  | true =>
    refine refill_stages (Keep b) b nmin (Keep.refl b) (fun b1 h1 => ?_)
    obtain ⟨ba, g, eg, _⟩ := grow_shape b1
    rw [eg]
    have nofp : b.hasfp = false → ∀ (x : Nat) (y : Bytes), x = b.base ∧ y = b.mem := fun hh => by rw [hfp] at hh; cases hh
    obtain rfl | ⟨_, a, nd, rfl, ha, hle⟩ := shiftLeft_shape h1
    · exact ⟨rfl, rfl, rfl, rfl, rfl, rfl, fun hh => nofp hh _ _⟩
    · -- `nd` bytes dropped: the window starts `nd` later and the anchor is `nd` less, `nd` at most the anchor
      refine ⟨rfl, rfl, rfl, rfl, ?_, rfl, fun hh => nofp hh _ _⟩
      show a.map (b.base + nd + ·) = b.anchor.map (b.base + ·)
      rw [ha]
      cases hx : b.anchor with
      | none => rfl
      | some x =>
        have := hle x hx
        show some (b.base + nd + (x - nd)) = some (b.base + x)
        congr 1; omega

theorem absAnchor_eq_none (b : Buf) : b.absAnchor = none ↔ b.anchor = none := by
  simp [Buf.absAnchor]

theorem anchor_none_of_abs {b b' : Buf} (h : b'.absAnchor = b.absAnchor) : b'.anchor = none ↔ b.anchor = none := by
  rw [← absAnchor_eq_none b', ← absAnchor_eq_none b, h]

/-- what `buffer_refill` does to the anchor and the window start -/
theorem refill_anchor (b : Buf) (nmin : Nat) (h : WF b) :
    (refill b nmin).2.absAnchor = b.absAnchor ∧ (refill b nmin).2.nanchor = b.nanchor ∧
    (b.anchor = none → (refill b nmin).2.anchor = none) ∧
    (b.hasfp = false → (refill b nmin).2 = b) ∧
    b.base ≤ (refill b nmin).2.base := by
  have k := refill_keep b nmin
  refine ⟨k.anch, k.nanch, (anchor_none_of_abs k.anch).mpr, fun hf => by unfold refill; rw [hf]; rfl, ?_⟩
  -- the window start only moves forward: the shift drops bytes in front
  refine refill_stages (fun b' => b.base ≤ b'.base) b nmin (Nat.le_refl _) (fun b1 h1 => ?_)
  obtain ⟨ba, g, eg, _⟩ := grow_shape b1
  rw [eg]
  obtain rfl | ⟨_, a, nd, rfl, _, _⟩ := shiftLeft_shape h1
  · exact Nat.le_refl _
  · exact Nat.le_add_right _ _

theorem setpos_keep (b : Buf) (p : Nat) : Keep b { b with pos := p } :=
  ⟨rfl, rfl, rfl, rfl, rfl, rfl, fun _ => ⟨rfl, rfl⟩⟩

/-- so what the scanning loops, `Read` and `Set` do keeps it too -/
theorem Keep.scans (b0 : Buf) : Scans (Keep b0) :=
  ⟨fun b k h => h.trans (refill_keep b k), fun b p h => h.trans (setpos_keep b p)⟩

theorem skipsep_keep (b : Buf) (sep : Bytes) : Keep b (skipsep b sep).2 := skipsep_scans (Keep.scans b) b sep (Keep.refl b)

theorem newline_keep (b : Buf) : Keep b (newline b).2 := newline_scans (Keep.scans b) b (Keep.refl b)

theorem counttok_keep (b : Buf) (sep : Bytes) : Keep b (counttok b sep).2.1 := counttok_scans (Keep.scans b) b sep (Keep.refl b)

theorem Prot.keep {b b' : Buf} {o : Nat} (hp : Prot b o) (k : Keep b b') : Prot b' o := by
  cases hfp : b.hasfp with
  | false =>
    refine ⟨by rw [(k.nofp hfp).1]; exact hp.1, fun hh => ?_⟩
    rw [k.hasfp, hfp] at hh; cases hh
  | true =>
    obtain ⟨A, hA, hle⟩ := hp.2 hfp
    have hA' : b'.absAnchor = some A := by rw [k.anch]; exact hA
    refine ⟨?_, fun _ => ⟨A, hA', hle⟩⟩
    simp only [Buf.absAnchor, Option.map_eq_some_iff] at hA'
    obtain ⟨a, _, hh⟩ := hA'
    omega

theorem refill_prot (b : Buf) (nmin : Nat) (h : WF b) (o : Nat) (hp : Prot b o) : Prot (refill b nmin).2 o :=
  hp.keep (refill_keep b nmin)

theorem skipsepLoop_succ (sep : Bytes) (fuel : Nat) (b : Buf) (hng : ¬ b.pos > b.n) :
    skipsepLoop sep (fuel + 1) b =
      if b.pos + runLen (isSep sep) b.win < b.n then (.ok, { b with pos := b.pos + runLen (isSep sep) b.win })
      else
        if (refill { b with pos := b.pos + runLen (isSep sep) b.win } 0).1 ≠ .ok ∧
           (refill { b with pos := b.pos + runLen (isSep sep) b.win } 0).1 ≠ .eof
        then refill { b with pos := b.pos + runLen (isSep sep) b.win } 0
        else if (refill { b with pos := b.pos + runLen (isSep sep) b.win } 0).2.n >
                (refill { b with pos := b.pos + runLen (isSep sep) b.win } 0).2.pos
        then skipsepLoop sep fuel (refill { b with pos := b.pos + runLen (isSep sep) b.win } 0).2
        else (if (refill { b with pos := b.pos + runLen (isSep sep) b.win } 0).2.pos =
                 (refill { b with pos := b.pos + runLen (isSep sep) b.win } 0).2.n then .eof else .ok,
              (refill { b with pos := b.pos + runLen (isSep sep) b.win } 0).2) := by
  rw [skipsepLoop]; simp only [hng, if_false]

theorem skipsepLoop_spec (sep : Bytes) (fuel : Nat) : ∀ (b : Buf), WF b → b.rest.length + 1 ≤ fuel →
    WF (skipsepLoop sep fuel b).2 ∧
    (skipsepLoop sep fuel b).2.base + (skipsepLoop sep fuel b).2.pos =
      b.base + b.pos + runLen (isSep sep) (b.src.drop (b.base + b.pos)) ∧
    (((skipsepLoop sep fuel b).1 = .ok ∧ (skipsepLoop sep fuel b).2.pos < (skipsepLoop sep fuel b).2.n) ∨
     ((skipsepLoop sep fuel b).1 = .eof ∧ (skipsepLoop sep fuel b).2.pos = (skipsepLoop sep fuel b).2.n ∧
        (skipsepLoop sep fuel b).2.rest = [])) := by
  induction fuel with
  | zero => intro b _ hf; omega
  | succ fuel ih =>
    intro b h hfuel
    have hp := h.hpos
    have hwl := win_length b
    have hrl := runLen_le (isSep sep) b.win
    have hng : ¬ b.pos > b.n := by omega
    rw [skipsepLoop_succ sep fuel b hng]
    by_cases hfound : b.pos + runLen (isSep sep) b.win < b.n
    · -- a non-separator is loaded
      rw [if_pos hfound]
      have hrun : runLen (isSep sep) (b.src.drop (b.base + b.pos)) = runLen (isSep sep) b.win := by
        have : ¬ runLen (isSep sep) b.win = b.win.length := by omega
        rw [h.suffix_win, runLen_append, if_neg this]
      refine ⟨h.setPos (Nat.le_of_lt hfound), ?_, Or.inl ⟨rfl, hfound⟩⟩
      show b.base + (b.pos + runLen (isSep sep) b.win) = _
      rw [hrun]; omega
    · rw [if_neg hfound]
      have hall : runLen (isSep sep) b.win = b.win.length := by omega
      have hposn : b.pos + runLen (isSep sep) b.win = b.n := by omega
      rw [hposn]
      have hwf1 : WF { b with pos := b.n } := h.setPos (Nat.le_refl _)
      have hr := refill_post { b with pos := b.n } 0 hwf1
      have hmd := refill_more_or_done hwf1 0 (by show b.n - b.n ≤ 0; omega)
      generalize hrf : refill { b with pos := b.n } 0 = rf at *
      obtain ⟨st, b2⟩ := rf
      simp only [] at hr hmd ⊢
      have hst : ¬ (st ≠ .ok ∧ st ≠ .eof) := by rcases hr.status with h1 | h1 <;> simp [h1]
      rw [if_neg hst]
      have hsuf : b.src.drop (b.base + b.pos) = b.win ++ b.rest := h.suffix_win
      have hrunall : runLen (isSep sep) (b.win ++ b.rest) = b.win.length + runLen (isSep sep) b.rest := by
        rw [runLen_append, if_pos hall]
      have hoff2 : b2.base + b2.pos = b.base + b.n := hr.frame.off
      have hsrc2 : b2.src = b.src := hr.frame.src
      have hsuf2 : b2.src.drop (b2.base + b2.pos) = b.rest := by
        rw [hsrc2, hoff2]
        have := h.suffix_at b.n (Nat.le_refl _)
        rw [this]; simp [Buf.n]
      have hav1 : ({ b with pos := b.n } : Buf).n - ({ b with pos := b.n } : Buf).pos = 0 := by
        show b.n - b.n = 0; omega
      obtain ⟨x, _, _, hcase⟩ := hmd
      rw [hav1] at hcase
      rcases hcase with ⟨hlt, hprog⟩ | ⟨heq, hrest1, hrest2⟩
      · have hmore : b2.n > b2.pos := by omega
        rw [if_pos hmore]
        have hrl2 : b2.rest.length + 1 ≤ fuel := by
          have : ({ b with pos := b.n } : Buf).rest = b.rest := rfl
          rw [this] at hprog; omega
        obtain ⟨i1, i3, i4⟩ := ih b2 hr.wf hrl2
        refine ⟨i1, ?_, i4⟩
        rw [i3, hsuf2, hsuf, hrunall, hoff2, hwl]
        clear hlt hprog hrl2 ih
        omega
      · -- nothing was read, so the stream was already empty
        have hp2 := hr.wf.hpos
        have hmore : ¬ b2.n > b2.pos := by omega
        rw [if_neg hmore]
        have heq2 : b2.pos = b2.n := by omega
        have hrest : b.rest = [] := hrest1
        refine ⟨hr.wf, ?_, Or.inr ⟨by rw [if_pos heq2], heq2, hrest2⟩⟩
        rw [hsuf, hrunall, hrest, hoff2, hwl]
        simp only [runLen]
        clear heq ih
        omega

/-- `buffer_skipsep` steps over exactly the leading separators of the rest of the input; `eslEOF` iff nothing follows. -/
theorem skipsep_spec (b : Buf) (sep : Bytes) (h : WF b) :
    WF (skipsep b sep).2 ∧
    (skipsep b sep).2.base + (skipsep b sep).2.pos = b.base + b.pos + runLen (isSep sep) b.abs.suffix ∧
    (((skipsep b sep).1 = .ok ∧ (skipsep b sep).2.pos < (skipsep b sep).2.n) ∨
     ((skipsep b sep).1 = .eof ∧ (skipsep b sep).2.pos = (skipsep b sep).2.n ∧ (skipsep b sep).2.rest = [])) :=
  skipsepLoop_spec sep (b.rest.length + 2) b h (by omega)

theorem counttokLoop_succ (sep : Bytes) (fuel : Nat) (b : Buf) (nc : Nat) (hng : ¬ b.pos + nc > b.n) :
    counttokLoop sep (fuel + 1) b nc =
      if nc + runLen (isTok sep) (b.win.drop nc) < b.n - b.pos then (.ok, b, nc + runLen (isTok sep) (b.win.drop nc))
      else
        if (refill b (nc + runLen (isTok sep) (b.win.drop nc))).1 ≠ .ok ∧
           (refill b (nc + runLen (isTok sep) (b.win.drop nc))).1 ≠ .eof
        then ((refill b (nc + runLen (isTok sep) (b.win.drop nc))).1, (refill b (nc + runLen (isTok sep) (b.win.drop nc))).2, 0)
        else if (refill b (nc + runLen (isTok sep) (b.win.drop nc))).2.n - (refill b (nc + runLen (isTok sep) (b.win.drop nc))).2.pos >
                nc + runLen (isTok sep) (b.win.drop nc)
        then counttokLoop sep fuel (refill b (nc + runLen (isTok sep) (b.win.drop nc))).2 (nc + runLen (isTok sep) (b.win.drop nc))
        else (.ok, (refill b (nc + runLen (isTok sep) (b.win.drop nc))).2, nc + runLen (isTok sep) (b.win.drop nc)) := by
  rw [counttokLoop]
  have : b.mem.drop (b.pos + nc) = b.win.drop nc := by rw [Buf.win, List.drop_drop]
  simp only [hng, if_false, this]

/-- the loop of `buffer_counttok`, started at `nc ≥ 1` with `win[1..nc)` known to be token bytes, returns
    1 + (number of token bytes after the first byte of the rest of the input) -/
theorem counttokLoop_spec (sep : Bytes) (fuel : Nat) : ∀ (b : Buf) (nc : Nat), WF b → b.rest.length + 1 ≤ fuel →
    1 ≤ nc → nc ≤ b.win.length → nc - 1 ≤ runLen (isTok sep) (b.win.drop 1) →
    (counttokLoop sep fuel b nc).1 = .ok ∧ WF (counttokLoop sep fuel b nc).2.1 ∧
    Frame b (counttokLoop sep fuel b nc).2.1 ∧
    (counttokLoop sep fuel b nc).2.2 = 1 + runLen (isTok sep) ((b.src.drop (b.base + b.pos)).drop 1) ∧
    ((counttokLoop sep fuel b nc).2.2 < (counttokLoop sep fuel b nc).2.1.win.length ∨
      ((counttokLoop sep fuel b nc).2.2 = (counttokLoop sep fuel b nc).2.1.win.length ∧
       (counttokLoop sep fuel b nc).2.1.rest = [])) := by
  induction fuel with
  | zero => intro b nc _ hf; omega
  | succ fuel ih =>
    intro b nc h hfuel h1 hnc htok
    have hp := h.hpos
    have hwl := win_length b
    have hng : ¬ b.pos + nc > b.n := by omega
    rw [counttokLoop_succ sep fuel b nc hng]
    -- T = number of token bytes after the first loaded byte
    have hdd : (b.win.drop 1).drop (nc - 1) = b.win.drop nc := by
      rw [List.drop_drop]; congr 1; omega
    have hT := runLen_drop (isTok sep) (b.win.drop 1) (nc - 1) htok
    rw [hdd] at hT
    have hTle := runLen_le (isTok sep) (b.win.drop 1)
    have hl1 : (b.win.drop 1).length = b.win.length - 1 := List.length_drop
    generalize hTdef : runLen (isTok sep) (b.win.drop 1) = T at *
    have hnc' : nc + runLen (isTok sep) (b.win.drop nc) = 1 + T := by omega
    rw [hnc']
    have hsuf : b.src.drop (b.base + b.pos) = b.win ++ b.rest := h.suffix_win
    have hsd : (b.win ++ b.rest).drop 1 = b.win.drop 1 ++ b.rest := by
      rw [List.drop_append]
      have : 1 - b.win.length = 0 := by omega
      rw [this]; rfl
    by_cases hin : 1 + T < b.n - b.pos
    · rw [if_pos hin]
      refine ⟨rfl, h, Frame.refl b, ?_, Or.inl (by show 1 + T < b.win.length; omega)⟩
      show 1 + T = _
      rw [hsuf, hsd, runLen_append, hTdef]
      have : ¬ T = (b.win.drop 1).length := by omega
      rw [if_neg this]
    · rw [if_neg hin]
      have hTall : T = (b.win.drop 1).length := by omega
      have h1T : 1 + T = b.win.length := by omega
      have hr := refill_post b (1 + T) h
      have hmd := refill_more_or_done h (1 + T) (by omega)
      generalize hrf : refill b (1 + T) = rf at *
      obtain ⟨st, b2⟩ := rf
      simp only [] at hr hmd ⊢
      have hst : ¬ (st ≠ .ok ∧ st ≠ .eof) := by rcases hr.status with h3 | h3 <;> simp [h3]
      rw [if_neg hst]
      obtain ⟨x, hx1, hx2, hcase⟩ := hmd
      have hwl2 := win_length b2
      rcases hcase with ⟨hlt, hprog⟩ | ⟨heq, hrest, hrest2⟩
      · have hmore : b2.n - b2.pos > 1 + T := by omega
        rw [if_pos hmore]
        have hd2 : b2.win.drop 1 = b.win.drop 1 ++ x := by
          rw [hx1, List.drop_append]
          have : 1 - b.win.length = 0 := by omega
          rw [this]; rfl
        have htok2 : 1 + T - 1 ≤ runLen (isTok sep) (b2.win.drop 1) := by
          rw [hd2, runLen_append, hTdef, if_pos hTall]; omega
        obtain ⟨i1, i2, i3, i5, i6⟩ := ih b2 (1 + T) hr.wf (by omega) (by omega) (by omega) htok2
        refine ⟨i1, i2, hr.frame.trans i3, ?_, i6⟩
        rw [i5, hr.frame.src, hr.frame.off]
      · have hmore : ¬ b2.n - b2.pos > 1 + T := by omega
        rw [if_neg hmore]
        refine ⟨rfl, hr.wf, hr.frame, ?_, Or.inr ⟨by show 1 + T = b2.win.length; omega, hrest2⟩⟩
        show 1 + T = _
        rw [hsuf, hsd, hrest, List.append_nil, hTdef]

theorem win_getElem? (b : Buf) (i : Nat) : b.mem[b.pos + i]? = b.win[i]? := by
  rw [Buf.win, List.getElem?_drop]

theorem suffix_getElem? {b : Buf} (h : WF b) (i : Nat) (hi : i < b.win.length) :
    b.abs.suffix[i]? = b.win[i]? := by
  show (b.src.drop (b.base + b.pos))[i]? = _
  rw [h.suffix_win, List.getElem?_append, if_pos hi]

theorem suffix_getElem?_none {b : Buf} (h : WF b) (i : Nat) (hi : b.win.length ≤ i) (hr : b.rest = []) :
    b.abs.suffix[i]? = none := by
  show (b.src.drop (b.base + b.pos))[i]? = _
  rw [h.suffix_win, hr, List.append_nil]
  exact List.getElem?_eq_none hi

/-- `buffer_newline` (after `buffer_skipsep` found a byte): steps over the LF/CRLF at the cursor if there is one —
    also when the CR is the last loaded byte — and restores the page guarantee. -/
theorem newline_spec (b : Buf) (h : WF b) (hlt : b.pos < b.n) :
    WF (newline b).2 ∧ PG (newline b).2 ∧
    (newline b).1 = (if nlLen b.abs.suffix ≠ 0 then .eol else .ok) ∧
    (newline b).2.base + (newline b).2.pos = b.base + b.pos + nlLen b.abs.suffix ∧
    (nlLen b.abs.suffix = 0 → (newline b).2.pos < (newline b).2.n) := by
  have hp := h.hpos
  have hwl := win_length b
  -- first make sure that the byte after a CR is loaded
  obtain ⟨st0, b0, hr0, hwf0, hfr0, hst0, hsee⟩ : ∃ st0 b0,
      (if b.n - b.pos = 1 ∧ b.mem[b.pos]? = some CR then refill b 1 else (.ok, b)) = (st0, b0) ∧
      WF b0 ∧ Frame b b0 ∧ (st0 = .ok ∨ st0 = .eof) ∧
      (2 ≤ b0.win.length ∨ b0.win[0]? ≠ some CR ∨ b0.rest = []) := by
    by_cases hc : b.n - b.pos = 1 ∧ b.mem[b.pos]? = some CR
    · have hr := refill_post b 1 h
      refine ⟨(refill b 1).1, (refill b 1).2, by rw [if_pos hc], hr.wf, hr.frame, hr.status, ?_⟩
      rcases hr.guarantee (by omega) with g | g
      · left
        have := hr.wf.hps
        rw [win_length]; omega
      · right; right; exact g
    · refine ⟨.ok, b, by rw [if_neg hc], h, Frame.refl b, Or.inl rfl, ?_⟩
      by_cases h2 : 2 ≤ b.win.length
      · exact Or.inl h2
      · right; left
        intro hcr
        apply hc
        refine ⟨by omega, ?_⟩
        have := win_getElem? b 0
        rw [Nat.add_zero] at this
        rw [this]; exact hcr
  have hwl0 := win_length b0
  have hav0 := hfr0.avail
  have hp0 := hwf0.hpos
  have hlt0 : 1 ≤ b0.win.length := by omega
  have hsuf : b0.abs.suffix = b.abs.suffix := by rw [abs_of_frame hfr0]
  -- the model's test = nlLen of the suffix
  have hnl : (if b0.n - b0.pos ≥ 1 ∧ b0.mem[b0.pos]? = some LF then 1
      else if b0.n - b0.pos ≥ 2 ∧ b0.mem[b0.pos]? = some CR ∧ b0.mem[b0.pos + 1]? = some LF then 2
      else 0) = nlLen b.abs.suffix := by
    rw [← hsuf]
    unfold nlLen
    have e0 : b0.mem[b0.pos]? = b0.abs.suffix[0]? := by
      rw [suffix_getElem? hwf0 0 (by omega), ← win_getElem? b0 0, Nat.add_zero]
    rw [e0]
    by_cases c1 : b0.abs.suffix[0]? = some LF
    · have : b0.n - b0.pos ≥ 1 ∧ b0.abs.suffix[0]? = some LF := ⟨by omega, c1⟩
      rw [if_pos this, if_pos c1]
    · have : ¬ (b0.n - b0.pos ≥ 1 ∧ b0.abs.suffix[0]? = some LF) := fun hh => c1 hh.2
      rw [if_neg this, if_neg c1]
      by_cases h2 : 2 ≤ b0.win.length
      · have e1 : b0.mem[b0.pos + 1]? = b0.abs.suffix[1]? := by
          rw [suffix_getElem? hwf0 1 (by omega), win_getElem? b0 1]
        rw [e1]
        by_cases c2 : b0.abs.suffix[0]? = some CR ∧ b0.abs.suffix[1]? = some LF
        · rw [if_pos c2, if_pos ⟨by omega, c2⟩]
        · rw [if_neg c2, if_neg (fun hh => c2 hh.2)]
      · have m : ¬ (b0.n - b0.pos ≥ 2 ∧ b0.abs.suffix[0]? = some CR ∧ b0.mem[b0.pos + 1]? = some LF) := by
          intro hh; omega
        rw [if_neg m]
        have s : ¬ (b0.abs.suffix[0]? = some CR ∧ b0.abs.suffix[1]? = some LF) := by
          rintro ⟨s0, s1⟩
          rcases hsee with g | g | g
          · omega
          · apply g; rw [← suffix_getElem? hwf0 0 (by omega)]; exact s0
          · rw [suffix_getElem?_none hwf0 1 (by omega) g] at s1; cases s1
        rw [if_neg s]
  have hnlle : nlLen b.abs.suffix ≤ b0.win.length := by
    rw [← hnl]
    split
    · omega
    · split
      · omega
      · omega
  have hwf1 := advance_wf hwf0 (nlLen b.abs.suffix) (by omega)
  have hr2 := refill_post { b0 with pos := b0.pos + nlLen b.abs.suffix } 0 hwf1
  have hst0' : ¬ (st0 ≠ .eof ∧ st0 ≠ .ok) := by rcases hst0 with h3 | h3 <;> simp [h3]
  have hst2 : ¬ ((refill { b0 with pos := b0.pos + nlLen b.abs.suffix } 0).1 ≠ .eof ∧
      (refill { b0 with pos := b0.pos + nlLen b.abs.suffix } 0).1 ≠ .ok) := by
    rcases hr2.status with h3 | h3 <;> simp [h3]
  have e : newline b = (if nlLen b.abs.suffix ≠ 0 then .eol else .ok,
      (refill { b0 with pos := b0.pos + nlLen b.abs.suffix } 0).2) := by
    unfold newline
    have g1 : ¬ b.pos > b.n := by omega
    have g2 : ¬ b.n - b.pos = 0 := by omega
    rw [if_neg g1, if_neg g2]
    simp only [hr0, hst0', if_false, hnl, hst2]
  rw [e]
  refine ⟨hr2.wf, hr2.pg (Nat.zero_le _), rfl, ?_, ?_⟩
  · show (refill { b0 with pos := b0.pos + nlLen b.abs.suffix } 0).2.base + (refill { b0 with pos := b0.pos + nlLen b.abs.suffix } 0).2.pos = _
    rw [hr2.frame.off]
    show b0.base + (b0.pos + nlLen b.abs.suffix) = _
    have := hfr0.off
    omega
  · intro hz
    show (refill { b0 with pos := b0.pos + nlLen b.abs.suffix } 0).2.pos < (refill { b0 with pos := b0.pos + nlLen b.abs.suffix } 0).2.n
    have hav := hr2.frame.avail
    have hp2 := hr2.wf.hpos
    have : ({ b0 with pos := b0.pos + nlLen b.abs.suffix } : Buf).n - ({ b0 with pos := b0.pos + nlLen b.abs.suffix } : Buf).pos
        = b0.n - b0.pos := by
      show b0.n - (b0.pos + nlLen b.abs.suffix) = _
      rw [hz]; rfl
    rw [this] at hav
    omega

theorem counttok_spec (b : Buf) (sep : Bytes) (h : WF b) (hlt : b.pos < b.n) :
    (counttok b sep).1 = .ok ∧ WF (counttok b sep).2.1 ∧ Frame b (counttok b sep).2.1 ∧
    (counttok b sep).2.2 = tokLen sep b.abs.suffix ∧ (counttok b sep).2.2 ≤ (counttok b sep).2.1.win.length := by
  have hwl := win_length b
  obtain ⟨l1, l2, l3, l5, l6⟩ := counttokLoop_spec sep (b.rest.length + 2) b 1 h (by omega) (Nat.le_refl _)
    (by omega) (Nat.zero_le _)
  generalize hcl : counttokLoop sep (b.rest.length + 2) b 1 = r at *
  obtain ⟨st, b1, nc⟩ := r
  simp only [] at l1 l2 l3 l5 l6
  subst l1
  have hsuf1 : b1.abs.suffix = b.abs.suffix := by rw [abs_of_frame l3]
  have hnc1 : 1 ≤ nc := by omega
  have hncw : nc ≤ b1.win.length := by rcases l6 with g | g <;> omega
  -- the model's CR test = the specification's
  have hcond : (b1.pos + nc < b1.n ∧ b1.mem[b1.pos + nc]? = some LF ∧ b1.mem[b1.pos + nc - 1]? = some CR) ↔
      (b.abs.suffix[nc]? = some LF ∧ b.abs.suffix[nc - 1]? = some CR) := by
    rw [← hsuf1]
    have hwl1 := win_length b1
    have hp1 := l2.hpos
    have em1 : b1.mem[b1.pos + nc - 1]? = b1.abs.suffix[nc - 1]? := by
      rw [suffix_getElem? l2 (nc - 1) (by omega), ← win_getElem? b1 (nc - 1)]
      congr 1; omega
    rw [em1]
    rcases l6 with g | ⟨g1, g2⟩
    · have e0 : b1.mem[b1.pos + nc]? = b1.abs.suffix[nc]? := by
        rw [suffix_getElem? l2 nc g, win_getElem? b1 nc]
      rw [e0]
      constructor
      · intro hh; exact hh.2
      · intro hh; exact ⟨by omega, hh⟩
    · have : b1.abs.suffix[nc]? = none := suffix_getElem?_none l2 nc (by omega) g2
      rw [this]
      constructor
      · intro hh; omega
      · intro hh; cases hh.1
  have htl : tokLen sep b.abs.suffix =
      if b.abs.suffix[nc]? = some LF ∧ b.abs.suffix[nc - 1]? = some CR then nc - 1 else nc := by
    unfold tokLen
    have : 1 + runLen (isTok sep) (b.abs.suffix.drop 1) = nc := l5.symm
    simp only [this]
  have hng : ¬ b.pos ≥ b.n := by omega
  by_cases hc : b.abs.suffix[nc]? = some LF ∧ b.abs.suffix[nc - 1]? = some CR
  · have e : counttok b sep = (.ok, b1, nc - 1) := by
      unfold counttok
      rw [if_neg hng, hcl]
      simp only [hcond.mpr hc, and_self, if_true]
    rw [e, htl, if_pos hc]
    exact ⟨rfl, l2, l3, rfl, by show nc - 1 ≤ b1.win.length; omega⟩
  · have e : counttok b sep = (.ok, b1, nc) := by
      unfold counttok
      rw [if_neg hng, hcl]
      have := mt hcond.mp hc
      simp only [this, if_false]
    rw [e, htl, if_neg hc]
    exact ⟨rfl, l2, l3, rfl, hncw⟩

end EaselModel.Buffer
