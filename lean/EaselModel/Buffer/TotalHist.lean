import EaselModel.Buffer.Total
/-! Whole histories without the API contract. -/
namespace EaselModel.Buffer

theorem step_total (P : Nat) (op : Op) (a : AState) (s : Sess) (r : R P a s) (hs : CallerOk s op) : TStep P a s op := by
  cases op with
  -- the contract asks nothing of these ten
  | getLine | fetchLine | fetchLineStr | getToken sep | fetchToken sep | fetchTokenStr sep | read k | get | getOffset
  | raiseAnchor o => exact TStep.of_sim (sim_all P _ a s r trivial)
  | set k => exact total_set P k a s r hs
  | setOffset o => exact total_setOffset P o a s r
  | setAnchor o => exact total_setAnchor P o a s r hs
  | setStableAnchor o => exact total_setStableAnchor P o a s r hs

/-- a history that satisfies `CallerOk` at every step of the run of the model -/
def CallerOkRun : Sess → List Op → Prop
  | _, [] => True
  | s, op :: ops => CallerOk s op ∧ CallerOkRun (s.step op).2 ops

/-- every step of the run is one of the outcomes of `Total`, threading the specification state -/
def TotalRun : AState → Sess → List Op → Prop
  | _, _, [] => True
  | a, s, op :: ops => ∃ a', Total a op (obsOf op (s.step op).1 (s.step op).2) a' ∧ TotalRun a' (s.step op).2 ops

theorem run_total (P : Nat) (ops : List Op) : ∀ (a : AState) (s : Sess), R P a s → CallerOkRun s ops → TotalRun a s ops := by
  induction ops with
  | nil => intro _ _ _ _; trivial
  | cons op ops ih =>
    intro a s r hs
    obtain ⟨a', h1, h2⟩ := step_total P op a s r hs.1
    exact ⟨a', h1, ih a' _ h2 hs.2⟩

/-- **Every history of the 14 operations, no API contract**: on every opener, every page size ≥ 1 and every input,
    each step either simulates the specification or answers the documented `eslEINVAL` leaving the described state. -/
theorem history_total (mode : Mode) (ps : Nat) (src : Bytes) (hps : 0 < ps) (ops : List Op)
    (hs : CallerOkRun { b := openBuf mode ps src } ops) : TotalRun (AState.init src) { b := openBuf mode ps src } ops :=
  run_total ps ops _ _ (open_R mode ps src hps ps (Nat.le_refl _)) hs

theorem totalRun_st (ops : List Op) : ∀ (a : AState) (s : Sess), TotalRun a s ops →
    ∀ o ∈ obsRun s ops, o.st = .ok ∨ o.st = .eof ∨ o.st = .eol ∨ o.st = .einval := by
  induction ops with
  | nil => intro _ _ _ o ho; cases ho
  | cons op ops ih =>
    intro a s ht o ho
    obtain ⟨a', h1, h2⟩ := ht
    rcases List.mem_cons.mp ho with h | h
    · rw [h]; exact h1.st
    · exact ih a' _ h2 o h

/-- … and never faults: no out-of-bounds access, no cursor outside the window, no loop out of fuel, no internal error. -/
theorem history_total_no_fault (mode : Mode) (ps : Nat) (src : Bytes) (hps : 0 < ps) (ops : List Op)
    (hs : CallerOkRun { b := openBuf mode ps src } ops) :
    ∀ o ∈ obsRun { b := openBuf mode ps src } ops, o.st = .ok ∨ o.st = .eof ∨ o.st = .eol ∨ o.st = .einval :=
  totalRun_st ops _ _ (history_total mode ps src hps ops hs)

/-- executable `CallerOkRun` -/
def callerOkRunB : Sess → List Op → Bool
  | _, [] => true
  | s, op :: ops => callerOkB s op && callerOkRunB (s.step op).2 ops

theorem callerOkRunB_iff (ops : List Op) : ∀ s, callerOkRunB s ops = true ↔ CallerOkRun s ops := by
  induction ops with
  | nil => intro s; simp [callerOkRunB, CallerOkRun]
  | cons op ops ih => intro s; simp only [callerOkRunB, CallerOkRun, Bool.and_eq_true, callerOkB_iff, ih]

theorem callerOkRun_of_no_set (ops : List Op) (h : ∀ op ∈ ops, ∀ k, op ≠ .set k) : ∀ s, CallerOkRun s ops := by
  induction ops with
  | nil => intro _; trivial
  | cons op ops ih =>
    intro s
    refine ⟨?_, ih (fun o ho => h o (List.mem_cons_of_mem _ ho)) _⟩
    cases op with
    | set k => exact absurd rfl (h (.set k) (List.mem_cons_self) k)
    | _ => trivial

end EaselModel.Buffer
