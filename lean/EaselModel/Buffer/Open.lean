import EaselModel.Buffer.GetLine
/-! Initial states of the six openers. -/
namespace EaselModel.Buffer

theorem openWhole_wf (src : Bytes) (ps : Nat) (m : Mode) (ba : Nat) (hps : 0 < ps) :
    WF (openWhole src ps m ba) ∧ PG (openWhole src ps m ba) ∧ (openWhole src ps m ba).abs = ⟨src, 0⟩ := by
  refine ⟨⟨?_, Nat.zero_le _, ?_, hps, fun _ => rfl, fun _ => rfl⟩, Or.inr rfl, rfl⟩
  · show src.drop 0 = src ++ []
    simp
  · intro a ha; simp [openWhole, mkBuf] at ha

theorem mkBuf_wf (src : Bytes) (ps : Nat) (m : Mode) (ba : Nat) (hps : 0 < ps) :
    WF { mkBuf src ps m with balloc := ba } := by
  refine ⟨?_, Nat.zero_le _, ?_, hps, ?_, ?_⟩
  · show src.drop 0 = [] ++ src
    simp
  · intro a ha; simp [mkBuf] at ha
  · intro he; simp [mkBuf] at he
  · intro he; simp [mkBuf] at he

theorem openPaged_wf (src : Bytes) (ps : Nat) (m : Mode) (hps : 0 < ps) :
    WF (openPaged src ps m) ∧ PG (openPaged src ps m) ∧ (openPaged src ps m).abs = ⟨src, 0⟩ := by
  have hw := fread_wf (mkBuf_wf src ps m ps hps) ps
  refine ⟨hw, ?_, rfl⟩
  have hn := fread_n { mkBuf src ps m with balloc := ps } ps
  show ps ≤ (openPaged src ps m).n - 0 ∨ src.drop ps = []
  by_cases hfull : ps ≤ src.length
  · left
    have : (openPaged src ps m).n = 0 + min ps src.length := hn
    rw [this, Nat.min_eq_left hfull]; omega
  · right; apply List.drop_eq_nil_of_le; omega

theorem openBuf_wf (mode : Mode) (ps : Nat) (src : Bytes) (hps : 0 < ps) :
    WF (openBuf mode ps src) ∧ PG (openBuf mode ps src) ∧ (openBuf mode ps src).abs = ⟨src, 0⟩ := by
  cases mode with
  | string => exact openWhole_wf src ps .string 0 hps
  | mmap => exact openWhole_wf src ps .mmap 0 hps
  | allfile => exact openWhole_wf src ps .allfile src.length hps
  | stream => exact openPaged_wf src ps .stream hps
  | file => exact openPaged_wf src ps .file hps
  | cmdpipe =>
    obtain ⟨w, g, a⟩ := openPaged_wf src ps .cmdpipe hps
    show WF (if (openPaged src ps .cmdpipe).n < ps then _ else _) ∧ PG (if (openPaged src ps .cmdpipe).n < ps then _ else _) ∧
      Buf.abs (if (openPaged src ps .cmdpipe).n < ps then _ else _) = _
    split
    · rename_i hshort
      -- a short first read means the pipe is exhausted
      have hrest : (openPaged src ps .cmdpipe).rest = [] := by
        have hps' : (openPaged src ps .cmdpipe).pagesize = ps := rfl
        have hpos' : (openPaged src ps .cmdpipe).pos = 0 := rfl
        rcases g with g | g
        · omega
        · exact g
      exact ⟨⟨w.hwin, w.hpos, w.hanch, w.hps, fun _ => hrest, fun _ => hrest⟩, Or.inr hrest, a⟩
    · exact ⟨w, g, a⟩

end EaselModel.Buffer
