import EaselModel.Buffer.MemTokLemmas
/-! `esl_memstrcmp`, `esl_memstrpfx`, `esl_memstrcontains` (+ `_case`), `esl_memstrdup`, `esl_memstrcpy`: the loops of
`Mem.lean` against list equality / prefix / infix. Core Lean only. -/
namespace EaselModel.Buffer.Mem
open EaselModel.Buffer

/-- how far the line and the C string agree under `f`: the steps the comparison loops take before they stop, at the end of the
    line, at the NUL, or at the first difference -/
def agree (f : UInt8 → UInt8) : Bytes → Bytes → Nat
  | pc :: lp, sc :: ls => if sc ≠ 0 ∧ f pc = f sc then agree f lp ls + 1 else 0
  | _, _ => 0

/-- the C string is read inside its memory, and it ends where the agreement ends exactly if it is a prefix of the line -/
theorem agree_spec (f : UInt8 → UInt8) : ∀ (lp ls : Bytes), (0 : UInt8) ∈ ls →
    agree f lp ls ≤ lp.length ∧ (∃ c, ls[agree f lp ls]? = some c) ∧
    (ls[agree f lp ls]? == some 0) = decide ((ls.takeWhile (· != 0)).map f <+: lp.map f) ∧
    (ls[agree f lp ls]? = some 0 → agree f lp ls = (ls.takeWhile (· != 0)).length) := by
  intro lp
  induction lp with
  | nil =>
    intro ls h0
    cases ls with
    | nil => simp at h0
    | cons sc ls => by_cases hz : sc = 0 <;> simp [agree, hz]
  | cons pc lp ih =>
    intro ls h0
    cases ls with
    | nil => simp at h0
    | cons sc ls =>
      by_cases hz : sc = 0
      · simp [agree, hz]
      · have h0' : (0 : UInt8) ∈ ls := (List.mem_cons.mp h0).resolve_left fun e => hz e.symm
        by_cases hne : f pc = f sc
        · obtain ⟨h1, h2, h3, h4⟩ := ih ls h0'
          simp only [agree, hz, ne_eq, not_false_eq_true, hne, and_self, if_true, List.getElem?_cons_succ, List.takeWhile_cons,
            bne_iff_ne, List.map_cons, List.cons_prefix_cons, true_and, List.length_cons]
          exact ⟨by omega, h2, h3, fun h => by rw [h4 h]⟩
        · have hne' : ¬ f sc = f pc := fun e => hne e.symm
          simp [agree, hz, hne, hne', List.cons_prefix_cons]

theorem cmpLoop_eq (f : UInt8 → UInt8) (p sz : Bytes) (off : Nat) : ∀ (lp ls : Bytes) (pos : Nat),
    p.drop (off + pos) = lp → sz.drop pos = ls → (0 : UInt8) ∈ ls →
    cmpLoop f p sz off pos =
      some (if agree f lp ls < lp.length ∧ ls[agree f lp ls]? ≠ some 0 then none else some (pos + agree f lp ls)) := by
  intro lp
  induction lp with
  | nil =>
    intro ls pos hp _ _
    have : ¬ off + pos < p.length := by
      intro hlt; rw [List.drop_eq_getElem_cons hlt] at hp; cases hp
    rw [cmpLoop]; simp [this, agree]
  | cons pc lp ih =>
    intro ls pos hp hs h0
    obtain ⟨hg, hd, hlt⟩ := get_of_drop hp
    cases ls with
    | nil => simp at h0
    | cons sc ls =>
      obtain ⟨hgs, hds, _⟩ := get_of_drop hs
      rw [cmpLoop]
      simp only [hlt, if_true, hgs, hg, agree]
      by_cases hz : sc = 0
      · simp [hz]
      · have h0' : (0 : UInt8) ∈ ls := (List.mem_cons.mp h0).resolve_left fun e => hz e.symm
        simp only [ne_eq, hz, not_false_eq_true, if_true, true_and]
        by_cases hne : f pc = f sc
        · simp only [hne, not_true, if_false, if_true, List.length_cons, List.getElem?_cons_succ, Nat.add_lt_add_iff_right]
          rw [ih ls (pos + 1) (by rw [← Nat.add_assoc]; exact hd) hds h0']
          simp only [Nat.add_assoc, Nat.add_comm 1]
        · simp [hne, hz]

theorem memstrcmpF_some (f : UInt8 → UInt8) (p s : Bytes) :
    memstrcmpF f (some p) (some s) = some (decide (p.map f = (cstr s).map f)) := by
  unfold memstrcmpF
  simp only []
  rw [cmpLoop_eq f p (cz s) 0 p (cz s) 0 (by simp) (by simp) (zero_mem_cz s)]
  obtain ⟨hle, ⟨c, hc⟩, hpfx, hlen⟩ := agree_spec f p (cz s) (zero_mem_cz s)
  rw [takeWhile_cz] at hpfx hlen
  rw [hc] at hpfx hlen
  simp only [hc, Nat.zero_add]
  -- the answer is `pos == n && s[pos] == '\0'` also when the loop returned early: it did so at a byte of `s` that is not NUL
  have key : (decide (agree f p (cz s) = p.length) && (some c == some (0 : UInt8))) = decide (p.map f = (cstr s).map f) := by
    rw [hpfx, ← Bool.decide_and, decide_eq_decide]
    constructor
    · rintro ⟨h1, h2⟩
      have hc0 : some c = some (0 : UInt8) := by simpa [h2] using hpfx
      exact (h2.eq_of_length (by simp [← hlen hc0, h1])).symm
    · intro h
      have h2 : (cstr s).map f <+: p.map f := by rw [h]; exact List.prefix_refl _
      have hc0 : some c = some (0 : UInt8) := by simpa [h2] using hpfx
      exact ⟨by rw [hlen hc0]; simpa using (congrArg List.length h).symm, h2⟩
  rw [← key]
  by_cases hk : agree f p (cz s) = p.length
  · rw [hk] at hc; simp [hk, hc]
  · have : agree f p (cz s) < p.length := by omega
    by_cases hz : c = 0 <;> simp [hk, this, hz]

theorem memstrpfxF_some (f : UInt8 → UInt8) (p s : Bytes) :
    memstrpfxF f (some p) (some s) = some (decide ((cstr s).map f <+: p.map f)) := by
  unfold memstrpfxF
  simp only []
  rw [cmpLoop_eq f p (cz s) 0 p (cz s) 0 (by simp) (by simp) (zero_mem_cz s)]
  obtain ⟨_, ⟨c, hc⟩, hpfx, _⟩ := agree_spec f p (cz s) (zero_mem_cz s)
  rw [takeWhile_cz, hc] at hpfx
  rw [← hpfx]
  simp only [hc, Nat.zero_add]
  by_cases hz : c = 0 <;> by_cases hk : agree f p (cz s) < p.length <;> simp [hz, hk, hc]

/-- the NULL conventions of `esl_memstrcmp`: a NULL line (of length 0) equals the NULL string and the empty string only -/
theorem memstrcmpF_null (f : UInt8 → UInt8) (p s : Bytes) :
    memstrcmpF f none none = some true ∧ memstrcmpF f none (some s) = some (decide (cstr s = [])) ∧
    memstrcmpF f (some p) none = some false := by
  refine ⟨rfl, ?_, rfl⟩
  unfold memstrcmpF cz cstr
  cases s with
  | nil => simp
  | cons c cs => by_cases hc : c = 0 <;> simp [hc]

theorem memstrpfxF_null (f : UInt8 → UInt8) (p s : Option Bytes) (h : p = none ∨ s = none) : memstrpfxF f p s = some false := by
  rcases h with h | h <;> subst h
  · rfl
  · cases p <;> rfl

theorem inLoop_eq (p sz : Bytes) (s0 : Nat) : ∀ (lp ls : Bytes) (pos : Nat),
    p.drop (s0 + pos) = lp → sz.drop pos = ls → (0 : UInt8) ∈ ls → inLoop p sz s0 pos = some (pos + agree id lp ls) := by
  intro lp
  induction lp with
  | nil =>
    intro ls pos hp _ _
    have : ¬ s0 + pos < p.length := by
      intro hlt; rw [List.drop_eq_getElem_cons hlt] at hp; cases hp
    rw [inLoop]; simp [this, agree]
  | cons pc lp ih =>
    intro ls pos hp hs h0
    obtain ⟨hg, hd, hlt⟩ := get_of_drop hp
    cases ls with
    | nil => simp at h0
    | cons sc ls =>
      obtain ⟨hgs, hds, _⟩ := get_of_drop hs
      rw [inLoop]
      simp only [hlt, if_true, hgs, hg, agree, id]
      by_cases hz : sc = 0
      · simp [hz]
      · have h0' : (0 : UInt8) ∈ ls := (List.mem_cons.mp h0).resolve_left fun e => hz e.symm
        simp only [ne_eq, hz, not_false_eq_true, if_true, true_and]
        by_cases hne : pc = sc
        · simp only [hne, not_true, if_false, if_true]
          rw [ih ls (pos + 1) (by rw [← Nat.add_assoc]; exact hd) hds h0']
          congr 1; omega
        · simp [hne]
theorem containsLoop_eq (p sz : Bytes) (h0 : (0 : UInt8) ∈ sz) : ∀ (lp : Bytes) (s0 : Nat), p.drop s0 = lp →
    containsLoop p sz s0 = some (decide (lp ≠ [] ∧ sz.takeWhile (· != 0) <:+: lp)) := by
  intro lp
  induction lp with
  | nil =>
    intro s0 hp
    have : ¬ s0 < p.length := by
      intro hlt; rw [List.drop_eq_getElem_cons hlt] at hp; cases hp
    rw [containsLoop]; simp [this]
  | cons pc lp ih =>
    intro s0 hp
    obtain ⟨_, hd, hlt⟩ := get_of_drop hp
    rw [containsLoop]
    simp only [hlt, if_true]
    rw [inLoop_eq p sz s0 (pc :: lp) sz 0 (by simpa using hp) (by simp) h0, Nat.zero_add]
    obtain ⟨_, ⟨c, hc⟩, h2, _⟩ := agree_spec id (pc :: lp) sz h0
    simp only [hc]
    rw [hc, List.map_id, List.map_id] at h2
    by_cases hz : c = 0
    · subst hz
      have : sz.takeWhile (· != 0) <+: pc :: lp := by simpa using h2
      simp [List.infix_cons_iff, this]
    · have hn : ¬ sz.takeWhile (· != 0) <+: pc :: lp := by
        intro hh
        have : (some c == some (0 : UInt8)) = true := by rw [h2]; simpa using hh
        simp at this; exact hz this
      rw [if_neg hz, ih (s0 + 1) hd]
      simp only [List.infix_cons_iff, hn, false_or, ne_eq, reduceCtorEq, not_false_eq_true, true_and]
      congr 1
      cases lp with
      | nil =>
        have : ¬ sz.takeWhile (· != 0) = [] := fun e => hn (by rw [e]; exact List.nil_prefix)
        simp [this]
      | cons x xs => simp

/-- **`esl_memstrcontains`** on two non-NULL arguments: the line is not empty and the C string occurs in it
    (on an empty line the code answers FALSE even for the empty string) -/
theorem memstrcontains_some (p s : Bytes) : memstrcontains (some p) (some s) = some (decide (p ≠ [] ∧ cstr s <:+: p)) := by
  unfold memstrcontains
  simp only []
  rw [containsLoop_eq p (cz s) (zero_mem_cz s) p 0 (by simp), takeWhile_cz]

theorem memstrcontains_null (p s : Option Bytes) (h : p = none ∨ s = none) : memstrcontains p s = some false := by
  rcases h with h | h <;> subst h
  · rfl
  · cases p <;> rfl

/-- **`esl_memstrdup`**: the new block holds the bytes and a terminating NUL, nothing is written outside it -/
theorem memstrdup_some (p : Bytes) : memstrdup (some p) = some (some (p ++ [0])) := by
  simp [memstrdup, copyZ]

theorem memstrdup_null : memstrdup none = some none := rfl

/-- **`esl_memstrcpy`** into a destination of the documented minimum size `n+1` -/
theorem memstrcpy_eq (p : Bytes) : memstrcpy p = some (p ++ [0]) := by
  simp [memstrcpy, copyZ]

end EaselModel.Buffer.Mem
