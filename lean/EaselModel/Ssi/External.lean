import EaselModel.Ssi.Writer
/-! # The external (on-disk) sort path emits the same bytes as the in-memory path. -/
namespace EaselModel.Ssi

theorem ofNat_digit_toNat (d : Nat) (h : d < 10) : (UInt8.ofNat (48 + d)).toNat = 48 + d := by
  simp [UInt8.toNat_ofNat']; omega

theorem isDigit_ofNat (d : Nat) (h : d < 10) : isDigit (UInt8.ofNat (48 + d)) = true := by
  unfold isDigit
  rw [ofNat_digit_toNat d h]
  simp; omega

theorem parseDecAux_decimal (n : Nat) : ∀ acc rest,
    parseDecAux acc (decimal n ++ rest) = parseDecAux (acc * 10 ^ (decimal n).length + n) rest := by
  induction n using Nat.strongRecOn with
  | _ n ih =>
    intro acc rest
    rw [decimal]
    by_cases h : n < 10
    · simp only [h, ↓reduceDIte, List.singleton_append, parseDecAux, isDigit_ofNat n h, ↓reduceIte,
        ofNat_digit_toNat n h, List.length_singleton, Nat.pow_one]
      congr 1; omega
    · simp only [h, ↓reduceDIte, List.append_assoc, List.singleton_append, List.length_append, List.length_singleton]
      rw [ih (n / 10) (by omega)]
      have hd : n % 10 < 10 := Nat.mod_lt _ (by omega)
      simp only [parseDecAux, isDigit_ofNat _ hd, ↓reduceIte, ofNat_digit_toNat _ hd]
      congr 1
      rw [Nat.pow_succ]
      have := Nat.div_add_mod n 10
      have e : acc * (10 ^ (decimal (n / 10)).length * 10) = acc * 10 ^ (decimal (n / 10)).length * 10 := by
        rw [Nat.mul_assoc]
      omega

theorem parseDec_decimal (n : Nat) : parseDecAux 0 (decimal n) = n := by
  have := parseDecAux_decimal n 0 []
  simpa [parseDecAux] using this

theorem decimal_ne_nil (n : Nat) : decimal n ≠ [] := by
  rw [decimal]; split <;> simp

theorem decimal_digits (n : Nat) : ∀ c ∈ decimal n, isDigit c = true := by
  induction n using Nat.strongRecOn with
  | _ n ih =>
    intro c hc
    rw [decimal] at hc
    by_cases h : n < 10
    · simp only [h, ↓reduceDIte, List.mem_singleton] at hc
      subst hc; exact isDigit_ofNat n h
    · simp only [h, ↓reduceDIte, List.mem_append, List.mem_singleton] at hc
      rcases hc with hc | hc
      · exact ih (n / 10) (by omega) c hc
      · subst hc; exact isDigit_ofNat _ (Nat.mod_lt _ (by omega))

theorem not_delim_of_digit {c : UInt8} (h : isDigit c = true) : isDelim c = false := by
  simp only [isDigit, Bool.and_eq_true, decide_eq_true_eq] at h
  simp only [isDelim, Bool.or_eq_false_iff, beq_eq_false_iff_ne, ne_eq]
  constructor <;> (intro hc; subst hc; simp at h)

def NoDelim (t : Bytes) : Prop := ∀ c ∈ t, isDelim c = false

/-- a non-empty token without delimiters in front of `tail`, which is empty or starts with a delimiter: `esl_strtok` returns the
    token and consumes that delimiter -/
theorem strtok_tok (tok tail : Bytes) (hne : tok ≠ []) (hnd : NoDelim tok)
    (ht : ∀ c ∈ tail.head?, isDelim c = true) : strtok (tok ++ tail) = some (tok, tail.drop 1) := by
  obtain ⟨c, cs, rfl⟩ := List.exists_cons_of_ne_nil hne
  have hc : isDelim c = false := hnd c (by simp)
  have hall : ∀ a ∈ c :: cs, (!isDelim a) = true := by
    intro a ha; simp [hnd a ha]
  have h0 : List.dropWhile isDelim ((c :: cs) ++ tail) = (c :: cs) ++ tail := by
    simp [List.dropWhile_cons, hc]
  have h1 : List.takeWhile (fun c => !isDelim c) ((c :: cs) ++ tail) = c :: cs := by
    rw [List.takeWhile_append_of_pos hall]
    cases tail with
    | nil => simp
    | cons d ds => simp [ht d (by simp)]
  have h2 : List.dropWhile (fun c => !isDelim c) ((c :: cs) ++ tail) = tail := by
    rw [List.dropWhile_append_of_pos hall]
    cases tail with
    | nil => simp
    | cons d ds => simp [ht d (by simp)]
  unfold strtok
  rw [h0]
  simp only [h1, h2]
  simp

theorem strtok_mid (tok rest : Bytes) (hne : tok ≠ []) (hnd : NoDelim tok) : strtok (tok ++ 9 :: rest) = some (tok, rest) :=
  strtok_tok tok (9 :: rest) hne hnd (by simp [isDelim])

theorem strtok_last (tok : Bytes) (hne : tok ≠ []) (hnd : NoDelim tok) : strtok tok = some (tok, []) := by
  simpa using strtok_tok tok [] hne hnd (by simp)

theorem noDelim_decimal (n : Nat) : NoDelim (decimal n) := fun c hc => not_delim_of_digit (decimal_digits n c hc)

/-- `parse_pkey` recovers what `AddKey`/`activate_external_sort` printed -/
theorem parsePKey_line (k : PKey) (hne : k.key ≠ []) (hnd : NoDelim k.key) (hf : k.fnum < 65536)
    (hr : k.roff < 2^64) (hdo : k.doff < 2^64) (hl : k.len < 2^64) : parsePKey (pkeyLine k) = .ok k := by
  have e : pkeyLine k = k.key ++ 9 :: (decimal k.fnum ++ 9 :: (decimal k.roff ++ 9 :: (decimal k.doff ++ 9 :: decimal k.len))) := by
    simp [pkeyLine, List.append_assoc]
  unfold parsePKey
  rw [e]
  simp only [strtok_mid _ _ hne hnd, strtok_mid _ _ (decimal_ne_nil _) (noDelim_decimal _),
    strtok_last _ (decimal_ne_nil _) (noDelim_decimal _)]
  simp only [atoiU16, strtoull, parseDec_decimal]
  have h1 : k.fnum % 65536 = k.fnum := Nat.mod_eq_of_lt hf
  have h2 : min k.roff (2^64 - 1) = k.roff := Nat.min_eq_left (by omega)
  have h3 : min k.doff (2^64 - 1) = k.doff := Nat.min_eq_left (by omega)
  have h4 : min k.len (2^64 - 1) = k.len := Nat.min_eq_left (by omega)
  rw [h1, h2, h3, h4]

/-- `parse_skey` recovers what `AddAlias` printed -/
theorem parseSKey_line (k : SKey) (hne : k.key ≠ []) (hnd : NoDelim k.key) (hne2 : k.pkey ≠ []) (hnd2 : NoDelim k.pkey) :
    parseSKey (skeyLine k) = .ok k := by
  have e : skeyLine k = k.key ++ 9 :: k.pkey := by simp [skeyLine]
  unfold parseSKey
  rw [e]
  simp only [strtok_mid _ _ hne hnd, strtok_last _ hne2 hnd2]

/-- every byte sorts above TAB and is not a newline (printable non-blank characters do) -/
def KeyChars (t : Bytes) : Prop := ∀ c ∈ t, 10 < c.toNat

theorem KeyChars.noDelim {t : Bytes} (h : KeyChars t) : NoDelim t := by
  intro c hc
  have := h c hc
  simp only [isDelim, Bool.or_eq_false_iff, beq_eq_false_iff_ne, ne_eq]
  constructor <;> (intro h9; subst h9; simp at this)

/-- if `a < b` as keys then `a ++ TAB ++ x < b ++ TAB ++ y` as lines, whatever follows the TAB -/
theorem line_lt_of_key_lt (a b x y : Bytes) (hb : KeyChars b) (h : strcmp a b = .lt) :
    strcmp (a ++ 9 :: x) (b ++ 9 :: y) = .lt := by
  induction a generalizing b with
  | nil =>
    cases b with
    | nil => simp [strcmp] at h
    | cons c cs =>
      have := hb c (by simp)
      simp only [List.nil_append, List.cons_append, strcmp]
      have h9 : (9 : UInt8).toNat = 9 := rfl
      rw [h9]
      simp [show 9 < c.toNat by omega]
  | cons p ps ih =>
    cases b with
    | nil => simp [strcmp] at h
    | cons c cs =>
      simp only [List.cons_append, strcmp] at h ⊢
      by_cases h1 : p.toNat < c.toNat
      · simp [h1]
      · by_cases h2 : c.toNat < p.toNat
        · simp [h1, h2] at h
        · simp only [h1, h2, ↓reduceIte] at h ⊢
          exact ih cs (fun z hz => hb z (by simp [hz])) h

theorem keyLe_of_lineLe (a b x y : Bytes) (ha : KeyChars a) (h : lineLe (a ++ 9 :: x) (b ++ 9 :: y) = true) :
    keyLe a b = true := by
  rcases strcmp_cases a b with h1 | h1 | h1
  · exact keyLe_iff.mpr (.inl h1)
  · exact keyLe_iff.mpr (.inr h1)
  · have := line_lt_of_key_lt b a y x ha h1
    have hgt : strcmp (a ++ 9 :: x) (b ++ 9 :: y) = .gt := strcmp_gt_iff.mpr this
    simp [lineLe, hgt] at h

theorem writePKeys_map {α : Type} (get : α → Except St PKey) (g : α → PKey) (plen : Nat) (pk : Bytes) (l : List α)
    (hg : ∀ x ∈ l, get x = .ok (g x)) :
    writePKeys get plen pk l = writePKeys (fun k => Except.ok k) plen pk (l.map g) := by
  induction l generalizing pk with
  | nil => simp [writePKeys]
  | cons x xs ih =>
    simp only [writePKeys, List.map_cons, hg x (by simp)]
    split
    · rfl
    · rw [ih _ (fun y hy => hg y (by simp [hy]))]

theorem writeSKeys_map {α : Type} (get : α → Except St SKey) (g : α → SKey) (plen slen : Nat) (sk : Bytes) (l : List α)
    (hg : ∀ x ∈ l, get x = .ok (g x)) :
    writeSKeys get plen slen sk l = writeSKeys (fun k => Except.ok k) plen slen sk (l.map g) := by
  induction l generalizing sk with
  | nil => simp [writeSKeys]
  | cons x xs ih =>
    simp only [writeSKeys, List.map_cons, hg x (by simp)]
    split
    · rfl
    · rw [ih _ (fun y hy => hg y (by simp [hy]))]

theorem crossDup_map {α β : Type} (getP : α → Except St PKey) (gP : α → PKey) (getS : β → Except St SKey) (gS : β → SKey)
    (lp : List α) (ls : List β) (hP : ∀ x ∈ lp, getP x = .ok (gP x)) (hS : ∀ y ∈ ls, getS y = .ok (gS y)) :
    crossDup getP getS lp ls = crossDup (fun k => Except.ok k) (fun k => Except.ok k) (lp.map gP) (ls.map gS) := by
  generalize hn : lp.length + ls.length = n
  induction n using Nat.strongRecOn generalizing lp ls with
  | _ n ih =>
    cases lp with
    | nil => simp [crossDup]
    | cons x xs =>
      cases ls with
      | nil => simp [crossDup]
      | cons y ys =>
        rw [List.map_cons, List.map_cons, crossDup, crossDup]
        simp only [hP x (by simp), hS y (by simp)]
        rcases hc : strcmp (gP x).key (gS y).key with _ | _ | _
        · simp only []
          rw [ih (xs.length + (y :: ys).length) (by subst hn; simp) xs (y :: ys)
            (fun a ha => hP a (by simp [ha])) hS rfl, List.map_cons]
        · rfl
        · simp only []
          rw [ih ((x :: xs).length + ys.length) (by subst hn; simp) (x :: xs) ys hP
            (fun a ha => hS a (by simp [ha])) rfl, List.map_cons]

theorem crossDup_any_sorted (P L : List PKey) (S M : List SKey) (hp : L.Perm P) (hs : M.Perm S)
    (hL : L.Pairwise (fun a b => keyLe a.key b.key = true)) (hM : M.Pairwise (fun a b => keyLe a.key b.key = true)) :
    crossDup (fun k => Except.ok k) (fun k => Except.ok k) L M
      = crossDup (fun k => Except.ok k) (fun k => Except.ok k) (sortPKeys P) (sortSKeys S) := by
  rw [crossDup_spec L M hL hM, crossDup_spec _ _ (sortPKeys_sorted P) (sortSKeys_sorted S)]
  have e1 := NoCommon.perm hp hs
  have e2 := NoCommon.perm (sortPKeys_perm P) (sortSKeys_perm S)
  by_cases hh : NoCommon P S <;> simp [hh, e1, e2]

theorem sorted_arrangement_unique {α : Type} (key : α → Bytes) (P L S : List α) (hL : L.Perm P) (hS : S.Perm P)
    (sL : L.Pairwise (fun a b => keyLe (key a) (key b) = true)) (sS : S.Pairwise (fun a b => keyLe (key a) (key b) = true))
    (hn : (P.map key).Nodup) : L = S := by
  apply List.Perm.eq_of_pairwise (le := fun a b => keyLe (key a) (key b) = true) _ sL sS (hL.trans hS.symm)
  intro a b ha hb hab hba
  have hkey : key a = key b := by
    rcases keyLe_iff.mp hab with h1 | h1
    · rcases keyLe_iff.mp hba with h2 | h2
      · exact absurd h2 (strcmp_lt_asymm h1)
      · exact h2.symm
    · exact h1
  exact eq_of_nodup_map key P hn (hL.mem_iff.mp ha) (hS.mem_iff.mp hb) hkey

theorem writePKeys_any_sorted (plen : Nat) (P L : List PKey) (hperm : L.Perm P)
    (hsorted : L.Pairwise (fun a b => keyLe a.key b.key = true))
    (hgood : ∀ k ∈ P, k.key ≠ [] ∧ (0 : UInt8) ∉ k.key ∧ k.key.length < plen) :
    writePKeys (fun k => Except.ok k) plen (strncpy plen []) L
      = writePKeys (fun k => Except.ok k) plen (strncpy plen []) (sortPKeys P) := by
  by_cases hn : (P.map (·.key)).Nodup
  · rw [sorted_arrangement_unique (·.key) P L _ hperm (sortPKeys_perm P) hsorted (sortPKeys_sorted P) hn]
  · have hgL : ∀ k ∈ L, (0 : UInt8) ∉ k.key ∧ k.key.length < plen := fun k hk => (hgood k (hperm.mem_iff.mp hk)).2
    have hgS : ∀ k ∈ sortPKeys P, (0 : UInt8) ∉ k.key ∧ k.key.length < plen :=
      fun k hk => (hgood k ((sortPKeys_perm P).mem_iff.mp hk)).2
    rw [writePKeys_spec plen _ L hgL, writePKeys_spec plen _ _ hgS, cstr_strncpy_nil]
    have n1 := mt (noAdjDup_arrangement (·.key) P L hperm hsorted (fun k hk => (hgood k hk).1)).mp hn
    have n2 := mt (noAdjDup_arrangement (·.key) P _ (sortPKeys_perm P) (sortPKeys_sorted P) (fun k hk => (hgood k hk).1)).mp hn
    simp [n1, n2]

theorem writeSKeys_any_sorted (plen slen : Nat) (P L : List SKey) (hperm : L.Perm P)
    (hsorted : L.Pairwise (fun a b => keyLe a.key b.key = true))
    (hgood : ∀ k ∈ P, k.key ≠ [] ∧ (0 : UInt8) ∉ k.key ∧ k.key.length < slen) :
    writeSKeys (fun k => Except.ok k) plen slen (strncpy slen []) L
      = writeSKeys (fun k => Except.ok k) plen slen (strncpy slen []) (sortSKeys P) := by
  by_cases hn : (P.map (·.key)).Nodup
  · rw [sorted_arrangement_unique (·.key) P L _ hperm (sortSKeys_perm P) hsorted (sortSKeys_sorted P) hn]
  · have hgL : ∀ k ∈ L, (0 : UInt8) ∉ k.key ∧ k.key.length < slen := fun k hk => (hgood k (hperm.mem_iff.mp hk)).2
    have hgS : ∀ k ∈ sortSKeys P, (0 : UInt8) ∉ k.key ∧ k.key.length < slen :=
      fun k hk => (hgood k ((sortSKeys_perm P).mem_iff.mp hk)).2
    rw [writeSKeys_spec plen slen _ L hgL, writeSKeys_spec plen slen _ _ hgS, cstr_strncpy_nil]
    have n1 := mt (noAdjDup_arrangement (·.key) P L hperm hsorted (fun k hk => (hgood k hk).1)).mp hn
    have n2 := mt (noAdjDup_arrangement (·.key) P _ (sortSKeys_perm P) (sortSKeys_sorted P) (fun k hk => (hgood k hk).1)).mp hn
    simp [n1, n2]

/-- the same index after `activate_external_sort`: keys live in the tmp files -/
def NewSsi.toExternal (ns : NewSsi) : NewSsi :=
  { ns with ptmp := ns.pkeys.map pkeyLine, stmp := ns.skeys.map skeyLine, pkeys := [], skeys := [], external := true }

/-- what the external path additionally needs: key bytes sort above TAB and are not newlines (printable non-blank
    characters), alias targets are non-empty words without TAB/newline -/
structure NewSsi.ExtOK (ns : NewSsi) : Prop where
  pchars : ∀ k ∈ ns.pkeys, KeyChars k.key
  schars : ∀ a ∈ ns.skeys, KeyChars a.key ∧ a.pkey ≠ [] ∧ NoDelim a.pkey

theorem lineLe_eq_keyLe : lineLe = keyLe := rfl

theorem sortLines_sorted (l : List Bytes) : (sortLines l).Pairwise (fun a b => lineLe a b = true) :=
  List.pairwise_mergeSort (le := lineLe) (fun _ _ _ h1 h2 => by rw [lineLe_eq_keyLe] at *; exact keyLe_trans h1 h2)
    (fun a b => by rw [lineLe_eq_keyLe]; exact keyLe_total a b) l

theorem sortLines_perm (l : List Bytes) : (sortLines l).Perm l := List.mergeSort_perm l _

def unP (line : Bytes) : PKey := match parsePKey line with | .ok k => k | .error _ => default
def unS (line : Bytes) : SKey := match parseSKey line with | .ok k => k | .error _ => default

theorem pkeyLine_split (k : PKey) : ∃ x, pkeyLine k = k.key ++ 9 :: x :=
  ⟨decimal k.fnum ++ 9 :: (decimal k.roff ++ 9 :: (decimal k.doff ++ 9 :: decimal k.len)), by simp [pkeyLine, List.append_assoc]⟩

theorem skeyLine_split (k : SKey) : skeyLine k = k.key ++ 9 :: k.pkey := by simp [skeyLine]

/-- a tmp file with one line per record (`key TAB …`), sorted bytewise and parsed line by line: every line parses, and the
    parsed stream is a `strcmp`-sorted rearrangement of the records -/
theorem sorted_lines {α : Type} (keyOf : α → Bytes) (line : α → Bytes) (parse : Bytes → Except St α) (un : Bytes → α)
    (L : List α) (hline : ∀ k ∈ L, parse (line k) = .ok k) (hun : ∀ k ∈ L, un (line k) = k)
    (hsplit : ∀ k ∈ L, ∃ x, line k = keyOf k ++ 9 :: x) (hchars : ∀ k ∈ L, KeyChars (keyOf k)) :
    (∀ x ∈ sortLines (L.map line), parse x = .ok (un x)) ∧
    ((sortLines (L.map line)).map un).Perm L ∧
    ((sortLines (L.map line)).map un).Pairwise (fun a b => keyLe (keyOf a) (keyOf b) = true) := by
  have hmemS : ∀ x ∈ sortLines (L.map line), ∃ k ∈ L, x = line k := by
    intro x hxm
    obtain ⟨k, hk, rfl⟩ := List.mem_map.mp ((sortLines_perm _).mem_iff.mp hxm)
    exact ⟨k, hk, rfl⟩
  refine ⟨?_, ?_, ?_⟩
  · intro x hxm
    obtain ⟨k, hk, rfl⟩ := hmemS x hxm
    rw [hun k hk, hline k hk]
  · have p2 : (L.map line).map un = L := by
      rw [List.map_map]
      conv => rhs; rw [← List.map_id L]
      exact List.map_congr_left (fun k hk => by simp [hun k hk])
    have p1 := (sortLines_perm (L.map line)).map un
    rwa [p2] at p1
  · rw [List.pairwise_map]
    apply List.Pairwise.imp_of_mem _ (sortLines_sorted _)
    intro a b ha hb hab
    obtain ⟨ka, hka, rfl⟩ := hmemS a ha
    obtain ⟨kb, hkb, rfl⟩ := hmemS b hb
    rw [hun ka hka, hun kb hkb]
    obtain ⟨xa, ea⟩ := hsplit ka hka
    obtain ⟨xb, eb⟩ := hsplit kb hkb
    rw [ea, eb] at hab
    exact keyLe_of_lineLe _ _ _ _ (hchars ka hka) hab

theorem ext_plines {ns : NewSsi} (h : ns.WF) (hx : ns.ExtOK) :
    (∀ x ∈ sortLines (ns.pkeys.map pkeyLine), parsePKey x = .ok (unP x)) ∧
    ((sortLines (ns.pkeys.map pkeyLine)).map unP).Perm ns.pkeys ∧
    ((sortLines (ns.pkeys.map pkeyLine)).map unP).Pairwise (fun a b => keyLe a.key b.key = true) := by
  have hline : ∀ k ∈ ns.pkeys, parsePKey (pkeyLine k) = .ok k := by
    intro k hk
    have w := h.pkey k hk
    exact parsePKey_line k w.1 (hx.pchars k hk).noDelim w.2.2.2.1 w.2.2.2.2.1 w.2.2.2.2.2.1 w.2.2.2.2.2.2
  exact sorted_lines (·.key) pkeyLine parsePKey unP ns.pkeys hline (fun k hk => by simp [unP, hline k hk])
    (fun k _ => pkeyLine_split k) hx.pchars

theorem ext_slines {ns : NewSsi} (h : ns.WF) (hx : ns.ExtOK) :
    (∀ x ∈ sortLines (ns.skeys.map skeyLine), parseSKey x = .ok (unS x)) ∧
    ((sortLines (ns.skeys.map skeyLine)).map unS).Perm ns.skeys ∧
    ((sortLines (ns.skeys.map skeyLine)).map unS).Pairwise (fun a b => keyLe a.key b.key = true) := by
  have hline : ∀ k ∈ ns.skeys, parseSKey (skeyLine k) = .ok k := by
    intro k hk
    have c := hx.schars k hk
    exact parseSKey_line k (h.skey k hk).1 c.1.noDelim c.2.1 c.2.2
  exact sorted_lines (·.key) skeyLine parseSKey unS ns.skeys hline (fun k hk => by simp [unS, hline k hk])
    (fun k _ => ⟨k.pkey, skeyLine_split k⟩) (fun k hk => (hx.schars k hk).1)

theorem ext_psec {ns : NewSsi} (h : ns.WF) (hx : ns.ExtOK) :
    writePKeys parsePKey ns.plen (strncpy ns.plen []) (sortLines (ns.pkeys.map pkeyLine))
      = writePKeys (fun k => Except.ok k) ns.plen (strncpy ns.plen []) (sortPKeys ns.pkeys) := by
  obtain ⟨p1, p2, p3⟩ := ext_plines h hx
  rw [writePKeys_map parsePKey unP _ _ _ p1]
  exact writePKeys_any_sorted ns.plen ns.pkeys _ p2 p3 (fun k hk => ⟨(h.pkey k hk).1, (h.pkey k hk).2.1, (h.pkey k hk).2.2.1⟩)

theorem ext_ssec {ns : NewSsi} (h : ns.WF) (hx : ns.ExtOK) :
    writeSKeys parseSKey ns.plen ns.slen (strncpy ns.slen []) (sortLines (ns.skeys.map skeyLine))
      = writeSKeys (fun k => Except.ok k) ns.plen ns.slen (strncpy ns.slen []) (sortSKeys ns.skeys) := by
  obtain ⟨s1, s2, s3⟩ := ext_slines h hx
  rw [writeSKeys_map parseSKey unS _ _ _ _ s1]
  exact writeSKeys_any_sorted ns.plen ns.slen ns.skeys _ s2 s3 (fun k hk => h.skey k hk)

theorem ext_cross {ns : NewSsi} (h : ns.WF) (hx : ns.ExtOK) :
    crossDup parsePKey parseSKey (sortLines (ns.pkeys.map pkeyLine)) (sortLines (ns.skeys.map skeyLine))
      = crossDup (fun k => Except.ok k) (fun k => Except.ok k) (sortPKeys ns.pkeys) (sortSKeys ns.skeys) := by
  obtain ⟨p1, p2, p3⟩ := ext_plines h hx
  obtain ⟨s1, s2, s3⟩ := ext_slines h hx
  rw [crossDup_map parsePKey unP parseSKey unS _ _ p1 s1]
  exact crossDup_any_sorted ns.pkeys _ ns.skeys _ p2 s2 p3 s3

/-- **internal bytes = external bytes**: `Write` after the switch to the on-disk sort returns the same status and
    emits the same file as `Write` of the in-memory index, duplicates included -/
theorem writeBytes_toExternal (ns : NewSsi) (h : ns.WF) (hx : ns.ExtOK) : ns.toExternal.writeBytes = ns.writeBytes := by
  unfold NewSsi.writeBytes
  simp only [NewSsi.toExternal, h.internal, ↓reduceIte, Bool.false_eq_true, ext_psec h hx, ext_ssec h hx, ext_cross h hx]
  rfl

theorem write_toExternal (ns : NewSsi) (h : ns.WF) (hx : ns.ExtOK) (cur : Option Bytes) :
    (ns.toExternal.write cur).2 = (ns.write cur).2 := by
  have hw := writeBytes_toExternal ns h hx
  unfold NewSsi.write
  rw [hw]
  simp only [NewSsi.toExternal]
  by_cases c1 : ns.nsecondary > 0 ∧ ns.slen = 0
  · simp only [c1, and_self, ↓reduceIte]
  · by_cases c2 : ns.written = true
    · simp only [c1, c2, ↓reduceIte]
    · simp only [c1, c2, ↓reduceIte]
      cases ns.writeBytes <;> rfl

end EaselModel.Ssi
