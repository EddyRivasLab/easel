import EaselModel.Ssi.History
/-! # The automatic switch to the external sort
    (`!ns->external && current_newssi_size(ns) >= ns->max_ram` at the start of every `AddKey`/`AddAlias`).
    At the end, for `Props/C06.open_rejects`: three headers `esl_ssi_Open` refuses on any bytes (`open_short`, `open_bad_magic`,
    `open_bad_offsz`). -/
namespace EaselModel.Ssi

theorem maybeExternal_external (ns : NewSsi) :
    ns.maybeExternal.external = (ns.external || decide ((ns.currentSize : Int) ≥ ns.maxRam)) := by
  unfold NewSsi.maybeExternal NewSsi.activateExternal
  cases he : ns.external <;> by_cases hs : (ns.currentSize : Int) ≥ ns.maxRam <;> simp [he, hs]

theorem appendKey_external (ns : NewSsi) (k : PKey) : (ns.appendKey k).external = ns.external := by
  unfold NewSsi.appendKey
  by_cases hc : k.key.length + 1 > ns.plen <;> cases he : ns.external <;> simp [hc, he]

theorem appendAlias_external (ns : NewSsi) (k : SKey) : (ns.appendAlias k).external = ns.external := by
  unfold NewSsi.appendAlias
  by_cases hc : k.key.length + 1 > ns.slen <;> cases he : ns.external <;> simp [hc, he]

theorem addKey_external (ns ns' : NewSsi) (key : Bytes) (fh r d l : Nat) (h : ns.addKey key fh r d l = .ok ns') :
    ns'.external = (ns.external || decide ((ns.currentSize : Int) ≥ ns.maxRam)) := by
  unfold NewSsi.addKey at h
  split at h
  · cases h
  · split at h
    · cases h
    · cases h
      rw [appendKey_external, maybeExternal_external]

theorem addAlias_external (ns ns' : NewSsi) (a k : Bytes) (h : ns.addAlias a k = .ok ns') :
    ns'.external = (ns.external || decide ((ns.currentSize : Int) ≥ ns.maxRam)) := by
  unfold NewSsi.addAlias at h
  split at h
  · cases h
  · cases h
    rw [appendAlias_external, maybeExternal_external]

/-- `current_newssi_size`: the size of the index file that would be written now, in whole MB -/
theorem currentSize_eq (ns : NewSsi) :
    ns.currentSize = (78 + (16 + ns.flen) * ns.files.length + (26 + ns.plen) * ns.nprimary
                        + (ns.slen + ns.plen) * ns.nsecondary) / 1048576 := rfl

theorem step_external_mono (ns : NewSsi) (op : Op) (h : ns.external = true) : (step ns op).external = true := by
  cases op with
  | addFile name fmt =>
    by_cases hc : ns.nfiles ≥ MAXFILES <;> simp [step, NewSsi.addFile, hc, h]
  | setSubseq fh bpl rpl =>
    by_cases hc : fh ≥ ns.nfiles
    · simp [step, NewSsi.setSubseq, hc, h]
    · by_cases hc2 : bpl = 0 ∨ rpl = 0 <;> simp [step, NewSsi.setSubseq, hc, hc2, h]
  | addKey key fh r d l =>
    simp only [step]
    cases hk : ns.addKey key fh r d l with
    | error e => simpa using h
    | ok ns' => simp [addKey_external ns ns' key fh r d l hk, h]
  | addAlias a k =>
    simp only [step]
    cases hk : ns.addAlias a k with
    | error e => simpa using h
    | ok ns' => simp [addAlias_external ns ns' a k hk, h]
  | setMaxRam m => simpa [step] using h

theorem open_short (d : Array UInt8) (h : d.size < 12) : Ssi.open d = .error .eformat := by
  have hnone : readFields d 0 [4, 4, 4] = none := by
    simp only [readFields, readU, readAt]
    by_cases h1 : 0 + 4 ≤ d.size
    · by_cases h2 : 0 + 4 + 4 ≤ d.size
      · have h3 : ¬ (0 + 4 + 4 + 4 ≤ d.size) := by omega
        simp [h1, h2, h3]
      · simp [h1, h2]
    · simp [h1]
  unfold Ssi.open
  rw [hnone]

theorem open_bad_magic (d : Array UInt8) (magic flags offsz : Nat) (h : readFields d 0 [4, 4, 4] = some [magic, flags, offsz])
    (hm : magic ≠ V30MAGIC ∧ magic ≠ V30SWAP) : Ssi.open d = .error .eformat := by
  unfold Ssi.open
  rw [h]
  simp [hm]

theorem open_bad_offsz (d : Array UInt8) (magic flags offsz : Nat) (h : readFields d 0 [4, 4, 4] = some [magic, flags, offsz])
    (hm : magic = V30MAGIC ∨ magic = V30SWAP) (ho : offsz ≠ 4 ∧ offsz ≠ 8) : Ssi.open d = .error .erange := by
  have hm' : ¬ (magic ≠ V30MAGIC ∧ magic ≠ V30SWAP) := by
    rcases hm with h1 | h1 <;> simp [h1]
  unfold Ssi.open
  rw [h]
  simp only [hm', ↓reduceIte]
  rw [if_pos ho]

end EaselModel.Ssi
