import EaselModel.Ssi.Model
/-! # `strcmp` is a strict total order, integer codecs, `binary_search`. -/
namespace EaselModel.Ssi

theorem strcmp_self (a : Bytes) : strcmp a a = .eq := by
  induction a with
  | nil => rfl
  | cons x xs ih => simp [strcmp, ih]

theorem strcmp_eq_iff {a b : Bytes} : strcmp a b = .eq ↔ a = b := by
  constructor
  · intro h
    induction a generalizing b with
    | nil => cases b <;> simp_all [strcmp]
    | cons x xs ih =>
      cases b with
      | nil => simp [strcmp] at h
      | cons y ys =>
        simp only [strcmp] at h
        split at h
        · cases h
        · split at h
          · cases h
          · have : x = y := UInt8.toNat_inj.mp (by omega)
            rw [this, ih h]
  · rintro rfl; exact strcmp_self a

theorem strcmp_gt_iff {a b : Bytes} : strcmp a b = .gt ↔ strcmp b a = .lt := by
  induction a generalizing b with
  | nil => cases b <;> simp [strcmp]
  | cons x xs ih =>
    cases b with
    | nil => simp [strcmp]
    | cons y ys =>
      simp only [strcmp]
      by_cases h1 : x.toNat < y.toNat
      · have : ¬ y.toNat < x.toNat := by omega
        simp [h1, this]
      · by_cases h2 : y.toNat < x.toNat
        · simp [h1, h2]
        · simp [h1, h2, ih]

theorem strcmp_lt_trans {a b c : Bytes} (h1 : strcmp a b = .lt) (h2 : strcmp b c = .lt) : strcmp a c = .lt := by
  induction a generalizing b c with
  | nil =>
    cases c with
    | nil => cases b <;> simp [strcmp] at h1 h2
    | cons z zs => simp [strcmp]
  | cons x xs ih =>
    cases b with
    | nil => simp [strcmp] at h1
    | cons y ys =>
      cases c with
      | nil => simp [strcmp] at h2
      | cons z zs =>
        simp only [strcmp] at h1 h2 ⊢
        by_cases hxy : x.toNat < y.toNat
        · by_cases hyz : y.toNat < z.toNat
          · have : x.toNat < z.toNat := by omega
            simp [this]
          · by_cases hzy : z.toNat < y.toNat
            · simp [hyz, hzy] at h2
            · have : x.toNat < z.toNat := by omega
              simp [this]
        · by_cases hyx : y.toNat < x.toNat
          · simp [hxy, hyx] at h1
          · simp only [hxy, hyx, ↓reduceIte] at h1
            by_cases hyz : y.toNat < z.toNat
            · have : x.toNat < z.toNat := by omega
              simp [this]
            · by_cases hzy : z.toNat < y.toNat
              · simp [hyz, hzy] at h2
              · simp only [hyz, hzy, ↓reduceIte] at h2
                have h3 : ¬ x.toNat < z.toNat := by omega
                have h4 : ¬ z.toNat < x.toNat := by omega
                simp only [h3, h4, ↓reduceIte]
                exact ih h1 h2

theorem strcmp_lt_irrefl (a : Bytes) : strcmp a a ≠ .lt := by simp [strcmp_self]

theorem strcmp_lt_ne {a b : Bytes} (h : strcmp a b = .lt) : a ≠ b := by
  rintro rfl; simp [strcmp_self] at h

theorem strcmp_lt_asymm {a b : Bytes} (h : strcmp a b = .lt) : strcmp b a ≠ .lt := by
  intro h2; exact strcmp_lt_irrefl a (strcmp_lt_trans h h2)

theorem strcmp_cases (a b : Bytes) : strcmp a b = .lt ∨ a = b ∨ strcmp b a = .lt := by
  cases h : strcmp a b with
  | lt => exact .inl rfl
  | eq => exact .inr (.inl (strcmp_eq_iff.mp h))
  | gt => exact .inr (.inr (strcmp_gt_iff.mp h))

theorem leBytes_length (k n : Nat) : (leBytes k n).length = k := by
  induction k generalizing n with
  | zero => rfl
  | succ k ih => simp [leBytes, ih]

theorem leVal_leBytes (k n : Nat) : leVal (leBytes k n) = n % 256 ^ k := by
  induction k generalizing n with
  | zero => simp [leBytes, leVal, Nat.mod_one]
  | succ k ih =>
    simp only [leBytes, leVal, ih]
    have h1 : (UInt8.ofNat (n % 256)).toNat = n % 256 := by
      simp [UInt8.toNat_ofNat']
    rw [h1, Nat.pow_succ, Nat.mul_comm (256 ^ k) 256, Nat.mod_mul]

theorem byteswap2 (a b : UInt8) : byteswap [a, b] = [b, a] := by
  simp [byteswap, List.range, List.range.loop]
theorem byteswap4 (a b c d : UInt8) : byteswap [a, b, c, d] = [d, c, b, a] := by
  simp [byteswap, List.range, List.range.loop]
theorem byteswap8 (a b c d e f g h : UInt8) : byteswap [a, b, c, d, e, f, g, h] = [h, g, f, e, d, c, b, a] := by
  simp [byteswap, List.range, List.range.loop]

/-- on 2-, 4- and 8-byte objects `esl_byteswap` reverses the bytes -/
theorem byteswap_eq_reverse (bs : Bytes) (h : bs.length = 2 ∨ bs.length = 4 ∨ bs.length = 8) : byteswap bs = bs.reverse := by
  rcases h with h | h | h
  · match bs, h with
    | [a, b], _ => simp [byteswap2]
  · match bs, h with
    | [a, b, c, d], _ => simp [byteswap4]
  · match bs, h with
    | [a, b, c, d, e, f, g, i], _ => simp [byteswap8]

theorem hton_length (k n : Nat) (hk : k = 2 ∨ k = 4 ∨ k = 8) : (hton k n).length = k := by
  unfold hton
  rw [byteswap_eq_reverse _ (by simpa [leBytes_length] using hk)]
  simp [leBytes_length]

/-- what `esl_fread_uNN` returns for the bytes `esl_fwrite_uNN` wrote -/
theorem ntoh_hton (k n : Nat) (hk : k = 2 ∨ k = 4 ∨ k = 8) : ntoh (hton k n) = n % 256 ^ k := by
  unfold ntoh hton
  have hl : (leBytes k n).length = 2 ∨ (leBytes k n).length = 4 ∨ (leBytes k n).length = 8 := by
    simpa [leBytes_length] using hk
  rw [byteswap_eq_reverse _ hl, byteswap_eq_reverse _ (by simpa using hl), List.reverse_reverse, leVal_leBytes]

theorem hton_eq_be (k n : Nat) (hk : k = 2 ∨ k = 4 ∨ k = 8) : hton k n = (leBytes k n).reverse := by
  unfold hton
  exact byteswap_eq_reverse _ (by simpa [leBytes_length] using hk)

/-- what the loop of `binary_search` sees: record `i` holds `keys[i]` -/
def ReadsKeys (rdName : Nat → Except St Bytes) (keys : List Bytes) : Prop :=
  ∀ i (h : i < keys.length), rdName i = .ok keys[i]

/-- strictly increasing in `strcmp` order -/
def StrictSorted (keys : List Bytes) : Prop := keys.Pairwise (fun a b => strcmp a b = .lt)

theorem StrictSorted.lt_of_lt {keys : List Bytes} (hs : StrictSorted keys) {i j : Nat} (hi : i < keys.length)
    (hj : j < keys.length) (hij : i < j) : strcmp keys[i] keys[j] = .lt :=
  (List.pairwise_iff_getElem.mp hs) i j hi hj hij

theorem StrictSorted.nodup {keys : List Bytes} (hs : StrictSorted keys) : keys.Nodup :=
  List.nodup_iff_pairwise_ne.mpr (hs.imp strcmp_lt_ne)

theorem StrictSorted.below {keys : List Bytes} (hs : StrictSorted keys) {key : Bytes} {m i : Nat} (hm : m < keys.length)
    (hc : strcmp keys[m] key = .lt) (hi : i < keys.length) (him : i ≤ m) : strcmp keys[i] key = .lt := by
  by_cases h : i = m
  · subst h; exact hc
  · exact strcmp_lt_trans (hs.lt_of_lt hi hm (by omega)) hc

theorem StrictSorted.above {keys : List Bytes} (hs : StrictSorted keys) {key : Bytes} {m i : Nat} (hm : m < keys.length)
    (hc : strcmp key keys[m] = .lt) (hi : i < keys.length) (hmi : m ≤ i) : strcmp key keys[i] = .lt := by
  by_cases h : i = m
  · subst h; exact hc
  · exact strcmp_lt_trans hc (hs.lt_of_lt hm hi (by omega))

/-- The loop invariant of `binary_search`: everything left of `left` is smaller than `key`, everything right of
    `right` is larger. Under it the loop returns the position of `key`, or `eslENOTFOUND` when `key` is absent. -/
theorem bsearchLoop_spec (rdName : Nat → Except St Bytes) (keys : List Bytes) (key : Bytes)
    (hr : ReadsKeys rdName keys) (hs : StrictSorted keys) (left right : Nat)
    (hlr : left ≤ right + 1) (hrn : right < keys.length)
    (hL : ∀ i (h : i < keys.length), i < left → strcmp keys[i] key = .lt)
    (hR : ∀ i (h : i < keys.length), right < i → strcmp key keys[i] = .lt) :
    (∃ j, ∃ h : j < keys.length, keys[j] = key ∧ bsearchLoop rdName key left right = .ok j) ∨
    (key ∉ keys ∧ bsearchLoop rdName key left right = .error .enotfound) := by
  -- a key that every stored key is strictly below or strictly above is not stored
  have absent_of (hlt : ∀ i (h : i < keys.length), strcmp keys[i] key = .lt ∨ strcmp key keys[i] = .lt) : key ∉ keys := by
    intro hmem
    obtain ⟨i, hi, rfl⟩ := List.getElem_of_mem hmem
    rcases hlt i hi with h | h <;> simp [strcmp_self] at h
  have probe (l r : Nat) (hrn : r < keys.length) (hlr : l ≤ r + 1) (name : Bytes) (h : rdName ((l + r) / 2) = .ok name) :
      ∃ hmid : (l + r) / 2 < keys.length, name = keys[(l + r) / 2] := by
    have hmid : (l + r) / 2 < keys.length := by omega
    exact ⟨hmid, Except.ok.inj (h.symm.trans (hr _ hmid))⟩
  fun_induction bsearchLoop rdName key left right with
  | case1 l r mid e he =>
    have hmid : mid < keys.length := by omega
    rw [hr _ hmid] at he; cases he
  | case2 l r mid name hn hc =>
    obtain ⟨hmid, rfl⟩ := probe l r hrn hlr name hn
    exact .inl ⟨mid, hmid, strcmp_eq_iff.mp hc, rfl⟩
  | case3 l r mid name hn hc hge =>
    obtain ⟨hmid, rfl⟩ := probe l r hrn hlr name hn
    refine .inr ⟨absent_of fun i hi => ?_, rfl⟩
    by_cases h1 : i ≤ mid
    · exact .inl (hs.below hmid hc hi h1)
    · exact .inr (hR i hi (by omega))
  | case4 l r mid name hn hc hge ih =>
    obtain ⟨hmid, rfl⟩ := probe l r hrn hlr name hn
    exact ih (by omega) hrn (fun i hi hlt => hs.below hmid hc hi (by omega)) hR
  | case5 l r mid name hn hc hge =>
    obtain ⟨hmid, rfl⟩ := probe l r hrn hlr name hn
    refine .inr ⟨absent_of fun i hi => ?_, rfl⟩
    by_cases h1 : i < mid
    · exact .inl (hL i hi (by omega))
    · exact .inr (hs.above hmid (strcmp_gt_iff.mp hc) hi (by omega))
  | case6 l r mid name hn hc hge h0 =>
    obtain ⟨hmid, rfl⟩ := probe l r hrn hlr name hn
    exact .inr ⟨absent_of fun i hi => .inr (hs.above hmid (strcmp_gt_iff.mp hc) hi (by omega)), rfl⟩
  | case7 l r mid name hn hc hge h0 ih =>
    obtain ⟨hmid, rfl⟩ := probe l r hrn hlr name hn
    exact ih (by omega) (by omega) hL (fun i hi hlt => hs.above hmid (strcmp_gt_iff.mp hc) hi (by omega))

theorem bsearchLoop_correct (rdName : Nat → Except St Bytes) (keys : List Bytes) (key : Bytes)
    (hr : ReadsKeys rdName keys) (hs : StrictSorted keys) (hne : 0 < keys.length) :
    (∃ j, ∃ h : j < keys.length, keys[j] = key ∧ bsearchLoop rdName key 0 (keys.length - 1) = .ok j) ∨
    (key ∉ keys ∧ bsearchLoop rdName key 0 (keys.length - 1) = .error .enotfound) :=
  bsearchLoop_spec rdName keys key hr hs 0 (keys.length - 1) (by omega) (by omega)
    (by intro i _ h; omega) (by intro i hi h; omega)

end EaselModel.Ssi
