import EaselModel.Ssi.Lemmas
/-! # Reading back what was laid out (files as byte lists, fixed-width records). -/
namespace EaselModel.Ssi

theorem readAt_toArray (l : Bytes) (off n : Nat) (hn : 0 < n) (h : off + n ≤ l.length) :
    readAt l.toArray off n = some ((l.drop off).take n) := by
  unfold readAt
  have : n ≠ 0 := by omega
  simp [this, h]

theorem readAt_locate (data pre x post : Bytes) (off : Nat) (hd : data = pre ++ x ++ post) (hoff : off = pre.length)
    (hx : x ≠ []) : readAt data.toArray off x.length = some x := by
  subst hd hoff
  have hpos : 0 < x.length := List.length_pos_iff.mpr hx
  rw [readAt_toArray _ _ _ hpos (by simp)]
  simp [List.append_assoc]

theorem readAt_zero (d : Array UInt8) (off : Nat) : readAt d off 0 = some [] := by simp [readAt]

/-- `fields` laid out one after the other -/
def encAll : List Nat → List Nat → Bytes
  | w :: ws, v :: vs => hton w v ++ encAll ws vs
  | _, _ => []

def Widths (ws : List Nat) : Prop := ∀ w ∈ ws, w = 2 ∨ w = 4 ∨ w = 8

theorem hton_ne_nil (k n : Nat) (hk : k = 2 ∨ k = 4 ∨ k = 8) : hton k n ≠ [] := by
  intro h
  have := hton_length k n hk
  rw [h] at this
  simp at this
  omega

def Fits : List Nat → List Nat → Prop
  | [], [] => True
  | w :: ws, v :: vs => v < 256 ^ w ∧ Fits ws vs
  | _, _ => False

theorem readFields_encAll (ws vs : List Nat) (hw : Widths ws) (hf : Fits ws vs) (pre post : Bytes) :
    readFields (pre ++ encAll ws vs ++ post).toArray pre.length ws = some vs := by
  induction ws generalizing vs pre with
  | nil => cases vs <;> simp_all [readFields, Fits]
  | cons w ws ih =>
    cases vs with
    | nil => exact hf.elim
    | cons v vs =>
      have hwk : w = 2 ∨ w = 4 ∨ w = 8 := hw w (by simp)
      have hl := hton_length w v hwk
      simp only [readFields, encAll, readU]
      have h1 : readAt (pre ++ (hton w v ++ encAll ws vs) ++ post).toArray pre.length w = some (hton w v) := by
        have := readAt_locate (pre ++ (hton w v ++ encAll ws vs) ++ post) pre (hton w v) (encAll ws vs ++ post) pre.length
          (by simp [List.append_assoc]) rfl (hton_ne_nil w v hwk)
        rwa [hl] at this
      rw [h1]
      simp only [Option.map_some, ntoh_hton w v hwk, Nat.mod_eq_of_lt hf.1]
      have h2 := ih vs (fun x hx => hw x (by simp [hx])) hf.2 (pre ++ hton w v)
      have h3 : pre ++ (hton w v ++ encAll ws vs) ++ post = pre ++ hton w v ++ encAll ws vs ++ post := by
        simp [List.append_assoc]
      have h4 : (pre ++ hton w v).length = pre.length + w := by simp [hl]
      rw [h3, ← h4, h2]
      simp

theorem readFields_locate (data pre post : Bytes) (ws vs : List Nat) (off : Nat)
    (hd : data = pre ++ encAll ws vs ++ post) (hoff : off = pre.length) (hw : Widths ws) (hf : Fits ws vs) :
    readFields data.toArray off ws = some vs := by
  subst hd hoff
  exact readFields_encAll ws vs hw hf pre post

theorem flatten_length_uniform (chunks : List Bytes) (r : Nat) (h : ∀ c ∈ chunks, c.length = r) :
    chunks.flatten.length = chunks.length * r := by
  induction chunks with
  | nil => simp
  | cons c cs ih =>
    simp only [List.flatten_cons, List.length_append, List.length_cons]
    rw [ih (fun c hc => h c (by simp [hc])), h c (by simp), Nat.succ_mul]
    omega

theorem chunk_split (chunks : List Bytes) (i : Nat) (hi : i < chunks.length) :
    chunks.flatten = (chunks.take i).flatten ++ chunks[i] ++ (chunks.drop (i + 1)).flatten := by
  have h1 : chunks = chunks.take i ++ chunks[i] :: chunks.drop (i + 1) := by
    rw [← List.drop_eq_getElem_cons hi, List.take_append_drop]
  calc chunks.flatten = (chunks.take i ++ chunks[i] :: chunks.drop (i + 1)).flatten := by rw [← h1]
    _ = _ := by rw [List.flatten_append, List.flatten_cons, List.append_assoc]

theorem take_flatten_length (chunks : List Bytes) (r i : Nat) (h : ∀ c ∈ chunks, c.length = r) (hi : i ≤ chunks.length) :
    (chunks.take i).flatten.length = i * r := by
  rw [flatten_length_uniform (chunks.take i) r (fun c hc => h c (List.mem_of_mem_take hc))]
  simp [Nat.min_eq_left hi]

theorem locate_in_chunk (pre post : Bytes) (chunks : List Bytes) (r i : Nat) (hr : ∀ c ∈ chunks, c.length = r)
    (hi : i < chunks.length) (a x b : Bytes) (hc : chunks[i] = a ++ x ++ b) :
    ∃ pre' post', pre ++ chunks.flatten ++ post = pre' ++ x ++ post' ∧ pre'.length = pre.length + i * r + a.length := by
  refine ⟨pre ++ (chunks.take i).flatten ++ a, b ++ (chunks.drop (i + 1)).flatten ++ post, ?_, ?_⟩
  · rw [chunk_split chunks i hi, hc]
    simp [List.append_assoc]
  · simp [take_flatten_length chunks r i hr (by omega)]; omega

theorem readAt_in_chunk (pre post : Bytes) (chunks : List Bytes) (r i : Nat) (hr : ∀ c ∈ chunks, c.length = r)
    (hi : i < chunks.length) (a x b : Bytes) (hc : chunks[i] = a ++ x ++ b) (hx : x ≠ []) (off n : Nat)
    (hoff : off = pre.length + i * r + a.length) (hn : n = x.length) :
    readAt (pre ++ chunks.flatten ++ post).toArray off n = some x := by
  obtain ⟨pre', post', h1, h2⟩ := locate_in_chunk pre post chunks r i hr hi a x b hc
  subst hn
  exact readAt_locate _ pre' x post' off h1 (by omega) hx

theorem readFields_in_chunk (pre post : Bytes) (chunks : List Bytes) (r i : Nat) (hr : ∀ c ∈ chunks, c.length = r)
    (hi : i < chunks.length) (a b : Bytes) (ws vs : List Nat) (hc : chunks[i] = a ++ encAll ws vs ++ b)
    (hw : Widths ws) (hf : Fits ws vs) (off : Nat) (hoff : off = pre.length + i * r + a.length) :
    readFields (pre ++ chunks.flatten ++ post).toArray off ws = some vs := by
  obtain ⟨pre', post', h1, h2⟩ := locate_in_chunk pre post chunks r i hr hi a (encAll ws vs) b hc
  exact readFields_locate _ pre' post' ws vs off h1 (by omega) hw hf

theorem read_record (pre post : Bytes) (recs : List Bytes) (r i : Nat) (hr : ∀ c ∈ recs, c.length = r) (hi : i < recs.length)
    (name : Bytes) (ws vs : List Nat) (hrec : recs[i] = name ++ encAll ws vs) (hne : name ≠ []) (hw : Widths ws)
    (hf : Fits ws vs) :
    readAt (pre ++ recs.flatten ++ post).toArray (pre.length + i * r) name.length = some name ∧
    readFields (pre ++ recs.flatten ++ post).toArray (pre.length + i * r + name.length) ws = some vs :=
  ⟨readAt_in_chunk pre post recs r i hr hi [] name (encAll ws vs) (by simpa using hrec) hne _ _ (by simp) rfl,
   readFields_in_chunk pre post recs r i hr hi name [] ws vs (by simpa using hrec) hw hf _ rfl⟩

end EaselModel.Ssi
