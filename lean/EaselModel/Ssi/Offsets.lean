import EaselModel.Ssi.Robust
/-! # Header offsets that point beyond the end of the file (63-bit and 64-bit patterns
included: an `off_t` ≥ 2^63 is negative, `fseeko` refuses it; the model reads beyond the end — both are `eslEFORMAT`). -/
namespace EaselModel.Ssi

theorem readAt_beyond (d : Array UInt8) (off k : Nat) (hk : 0 < k) (ho : d.size ≤ off) : readAt d off k = none := by
  unfold readAt
  have h1 : k ≠ 0 := by omega
  have h2 : ¬ (off + k ≤ d.size) := by omega
  simp [h1, h2]

/-- a key section that starts at or beyond the end of the file: the very first probe of `binary_search` is a failed read -/
theorem bsearch_beyond (d : Array UInt8) (key : Bytes) (klen base recsize maxidx : Nat) (hm : 0 < maxidx) (hk : 0 < klen)
    (hb : d.size ≤ base) : bsearch d key klen base recsize maxidx = .error .eformat := by
  have h0 : maxidx ≠ 0 := by omega
  have hr : rdNameAt d klen base recsize ((0 + (maxidx - 1)) / 2) = .error .eformat := by
    unfold rdNameAt
    rw [readAt_beyond d _ klen hk (by omega)]
  unfold bsearch
  simp only [h0, ↓reduceIte]
  rw [bsearchLoop]
  simp only [hr]

theorem findName_poffset_beyond (s : Ssi) (hn : 0 < s.nprimary) (hp : 0 < s.plen) (hb : s.data.size ≤ s.poffset)
    (fuel : Nat) (key : Bytes) : s.findNameAux (fuel + 1) key = .error .eformat := by
  rw [Ssi.findNameAux, bsearch_beyond s.data key s.plen s.poffset s.precsize s.nprimary hn hp hb]

theorem findName_soffset_beyond (s : Ssi) (hn : 0 < s.nsecondary) (hl : 0 < s.slen) (hb : s.data.size ≤ s.soffset)
    (fuel : Nat) (key : Bytes) (hnp : bsearch s.data key s.plen s.poffset s.precsize s.nprimary = .error .enotfound) :
    s.findNameAux (fuel + 1) key = .error .eformat := by
  rw [Ssi.findNameAux, hnp]
  simp only [hn, ↓reduceIte, bsearch_beyond s.data key s.slen s.soffset s.srecsize s.nsecondary hn hl hb]

theorem findNumber_poffset_beyond (s : Ssi) (hp : 0 < s.plen) (hb : s.data.size ≤ s.poffset) (i : Nat) (hi : i < s.nprimary) :
    s.findNumber (i : Int) = .error .eformat := by
  unfold Ssi.findNumber
  have h1 : ¬ ((i : Int) < 0) := by omega
  have h2 : ¬ (i ≥ s.nprimary) := by omega
  simp only [h1, ↓reduceIte, Int.toNat_natCast, h2]
  rw [readAt_beyond s.data _ s.plen hp (by omega)]

end EaselModel.Ssi
