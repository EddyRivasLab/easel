import EaselModel.Ssi.Robust
/-! # A TRUNCATED index never returns a wrong record.

`Sub d' d`: every read that succeeds on `d'` returns what the same read returns on `d` (a prefix of a file is the
instance that matters: `sub_take`). Everything the reader does is monotone in that relation, so an `eslOK` answer on the
damaged file is an `eslOK` answer made of the intact file's records; on a written index those are the stored records. -/
namespace EaselModel.Ssi

/-- every successful read on `d'` agrees with `d` -/
def Sub (d' d : Array UInt8) : Prop := ∀ off k x, readAt d' off k = some x → readAt d off k = some x

theorem sub_take (l : Bytes) (n : Nat) : Sub (l.take n).toArray l.toArray := by
  intro off k x h
  by_cases hk : k = 0
  · subst hk
    simp only [readAt, ↓reduceIte] at h ⊢
    exact h
  · have hle : off + k ≤ (l.take n).length := by
      unfold readAt at h
      simp only [hk, ↓reduceIte] at h
      split at h
      · rename_i hsz; simpa using hsz
      · cases h
    rw [readAt_toArray _ _ _ (by omega) hle] at h
    have hlt : (l.take n).length = min n l.length := List.length_take
    have hn : off + k ≤ n := by omega
    rw [readAt_toArray l off k (by omega) (by omega)]
    have e : ((l.take n).drop off).take k = (l.drop off).take k := by
      rw [List.drop_take, List.take_take]
      congr 1
      omega
    rw [← h, e]

theorem Sub.mono_readU {d' d : Array UInt8} (hs : Sub d' d) (off k v : Nat) (h : readU d' off k = some v) : readU d off k = some v := by
  unfold readU at h ⊢
  cases hr : readAt d' off k with
  | none => simp [hr] at h
  | some x =>
    rw [hs off k x hr]
    simpa [hr] using h

theorem Sub.mono_readFields {d' d : Array UInt8} (hs : Sub d' d) (ws : List Nat) (pos : Nat) (vs : List Nat)
    (h : readFields d' pos ws = some vs) : readFields d pos ws = some vs := by
  induction ws generalizing pos vs with
  | nil => simpa [readFields] using h
  | cons w ws ih =>
    simp only [readFields] at h ⊢
    cases hr : readU d' pos w with
    | none => simp [hr] at h
    | some v =>
      simp only [hr] at h
      rw [hs.mono_readU pos w v hr]
      cases hrest : readFields d' (pos + w) ws with
      | none => simp [hrest] at h
      | some rest =>
        simp only [hrest, Option.map_some] at h
        simp only [ih (pos + w) rest hrest, Option.map_some]
        exact h

theorem Sub.mono_openFiles {d' d : Array UInt8} (hs : Sub d' d) (flen frecsize foffset n i : Nat) (l : List SsiFile)
    (h : openFiles d' flen frecsize foffset n i = .ok l) : openFiles d flen frecsize foffset n i = .ok l := by
  induction n generalizing i l with
  | zero => simpa [openFiles] using h
  | succ n ih =>
    rw [openFiles] at h ⊢
    cases hr : readAt d' (foffset + i * frecsize % 4294967296) flen with
    | none => simp [hr] at h
    | some name =>
      simp only [hr] at h
      simp only [hs _ _ _ hr]
      cases hf : readFields d' (foffset + i * frecsize % 4294967296 + flen) [4, 4, 4, 4] with
      | none => simp [hf] at h
      | some vs =>
        rw [hf] at h
        rw [hs.mono_readFields _ _ _ hf]
        split at h
        · rename_i fmt fl bpl rpl
          cases hrest : openFiles d' flen frecsize foffset n (i + 1) with
          | error e => simp [hrest] at h
          | ok rest =>
            simp only [hrest] at h
            simp only [ih (i + 1) rest hrest]
            exact h
        · cases h

theorem Sub.mono_open {d' d : Array UInt8} (hs : Sub d' d) (s' : Ssi) (h : Ssi.open d' = .ok s') :
    Ssi.open d = .ok { s' with data := d } := by
  obtain ⟨magic, o⟩ := open_ok d' s' h
  exact open_eq_ok (s := { s' with data := d }) ⟨hs.mono_readFields _ _ _ o.head, o.magic, o.offsz,
    hs.mono_readFields _ _ _ o.rest, o.nfiles, Sub.mono_openFiles hs _ _ _ _ _ _ o.files, rfl⟩

theorem Sub.mono_rdNameAt {d' d : Array UInt8} (hs : Sub d' d) (klen base recsize j : Nat) (key : Bytes)
    (h : rdNameAt d' klen base recsize j = .ok key) : rdNameAt d klen base recsize j = .ok key := by
  unfold rdNameAt at h ⊢
  cases hr : readAt d' (base + recsize * j) klen with
  | none => simp [hr] at h
  | some buf =>
    rw [hs _ _ _ hr]
    simpa [hr] using h

theorem Sub.mono_readHit {s' s : Ssi} (hs : Sub s'.data s.data) (ho : s'.offsz = s.offsz) (pos : Nat) (hit : Hit)
    (h : readHit s' pos = .ok hit) : readHit s pos = .ok hit := by
  unfold readHit at h ⊢
  cases hr : readFields s'.data pos [2, s'.offsz, s'.offsz, 8] with
  | none => simp [hr] at h
  | some vs =>
    rw [hr] at h
    rw [← ho, hs.mono_readFields _ _ _ hr]
    exact h

/-- same header, less data -/
structure SameGeometry (s' s : Ssi) : Prop where
  sub : Sub s'.data s.data
  offsz : s'.offsz = s.offsz
  nprimary : s'.nprimary = s.nprimary
  nsecondary : s'.nsecondary = s.nsecondary
  plen : s'.plen = s.plen
  slen : s'.slen = s.slen
  precsize : s'.precsize = s.precsize
  srecsize : s'.srecsize = s.srecsize
  poffset : s'.poffset = s.poffset
  soffset : s'.soffset = s.soffset

theorem SameGeometry.resolves {s' s : Ssi} (g : SameGeometry s' s) (key : Bytes) (hit : Hit) (h : s'.Resolves key hit) :
    s.Resolves key hit := by
  induction h with
  | primary j key hit hp =>
    obtain ⟨hj, hrd, hh⟩ := hp
    refine .primary j key hit ⟨by rw [← g.nprimary]; exact hj, ?_, ?_⟩
    · rw [← g.plen, ← g.poffset, ← g.precsize]; exact g.sub.mono_rdNameAt _ _ _ _ _ hrd
    · rw [← g.plen, ← g.poffset, ← g.precsize]; exact Sub.mono_readHit g.sub g.offsz _ _ hh
  | alias j key target hit ha _ ih =>
    obtain ⟨hj, hrd, buf, hbuf, hcs⟩ := ha
    refine .alias j key target hit ⟨by rw [← g.nsecondary]; exact hj, ?_, buf, ?_, hcs⟩ ih
    · rw [← g.slen, ← g.soffset, ← g.srecsize]; exact g.sub.mono_rdNameAt _ _ _ _ _ hrd
    · rw [← g.slen, ← g.soffset, ← g.srecsize, ← g.plen]; exact g.sub _ _ _ hbuf

theorem SameGeometry.findNumber {s' s : Ssi} (g : SameGeometry s' s) (i : Int) (r : Hit × Bytes)
    (h : s'.findNumber i = .ok r) : s.findNumber i = .ok r := by
  unfold Ssi.findNumber at h ⊢
  simp only [g.nprimary, g.plen, g.poffset, g.precsize] at h
  generalize (if i < 0 then (i + 18446744073709551616).toNat else i.toNat) = u at h ⊢
  by_cases hge : u ≥ s.nprimary
  · simp [hge] at h
  · simp only [hge, ↓reduceIte] at h ⊢
    cases hr : readAt s'.data (s.poffset + s.precsize * u) s.plen with
    | none => simp [hr] at h
    | some buf =>
      simp only [hr] at h
      simp only [g.sub _ _ _ hr]
      cases hh : readHit s' (s.poffset + s.precsize * u + s.plen) with
      | error e => simp [hh] at h
      | ok hit =>
        simp only [hh] at h
        simp only [Sub.mono_readHit g.sub g.offsz _ _ hh]
        exact h

/-- on the image of a well-formed index with distinct keys and registered alias targets, `key` resolves only to the
    record stored for it: its own (primary key) or its target's (alias) -/
theorem resolves_image {ns : NewSsi} (h : ns.WF) (hd : ns.Distinct) (htg : ∀ a ∈ ns.skeys, ∃ k ∈ ns.pkeys, a.pkey = k.key)
    (key : Bytes) (hit : Hit) (hr : ns.opened.Resolves key hit) :
    ∃ k ∈ ns.pkeys, hit = hitOf k ∧ (k.key = key ∨ ∃ a ∈ ns.skeys, a.key = key ∧ a.pkey = k.key) := by
  induction hr with
  | primary j key hit hp =>
    obtain ⟨hj, hkey, hhit⟩ := primaryRec_image h hp
    exact ⟨_, sortP_mem h (List.getElem_mem hj), hhit.symm, .inl hkey⟩
  | alias j key target hit ha _ ih =>
    obtain ⟨hj, hkey, htgt⟩ := aliasRec_image h ha
    have hmem : (sortSKeys ns.skeys)[j] ∈ ns.skeys := sortS_mem h (List.getElem_mem hj)
    obtain ⟨k0, hk0, hak0⟩ := htg _ hmem
    have hpk := h.pkey k0 hk0
    rw [hak0, cstr_strncpy _ _ hpk.2.1 hpk.2.2.1] at htgt
    obtain ⟨k, hkm, hhit, hcase⟩ := ih
    rcases hcase with hk | ⟨a', ha', hakey, _⟩
    · exact ⟨k, hkm, hhit, .inr ⟨_, hmem, hkey, by rw [hak0, htgt, hk]⟩⟩
    · exact absurd (htgt.trans hakey.symm) (hd.2.2 k0 hk0 a' ha')

theorem trunc_geometry {ns : NewSsi} (h : ns.WF) (n : Nat) (s' : Ssi) (ho : Ssi.open (ns.image.take n).toArray = .ok s') :
    SameGeometry s' ns.opened ∧ ns.opened = { s' with data := ns.image.toArray } := by
  have hsub := sub_take ns.image n
  have hopen := hsub.mono_open s' ho
  rw [open_image h] at hopen
  have e : ns.opened = { s' with data := ns.image.toArray } := by injection hopen
  have hdata : s'.data = (ns.image.take n).toArray := ((open_status _).2 s' ho).1
  exact ⟨{ sub := by rw [hdata]; exact hsub
           offsz := by rw [e], nprimary := by rw [e], nsecondary := by rw [e], plen := by rw [e], slen := by rw [e],
           precsize := by rw [e], srecsize := by rw [e], poffset := by rw [e], soffset := by rw [e] }, e⟩

theorem trunc_fileInfo {ns : NewSsi} (h : ns.WF) (n : Nat) (s' : Ssi) (ho : Ssi.open (ns.image.take n).toArray = .ok s')
    (fh : Nat) : s'.fileInfo fh = ns.opened.fileInfo fh := by
  have e := (trunc_geometry h n s' ho).2
  unfold Ssi.fileInfo
  rw [e]

end EaselModel.Ssi
