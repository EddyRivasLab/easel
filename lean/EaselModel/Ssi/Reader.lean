import EaselModel.Ssi.Writer
/-! # Reopening the written image (`esl_ssi_Open`, lookups). -/
namespace EaselModel.Ssi

@[simp] theorem enc16_length (n : Nat) : (enc16 n).length = 2 := hton_length 2 n (by simp)
@[simp] theorem enc32_length (n : Nat) : (enc32 n).length = 4 := hton_length 4 n (by simp)
@[simp] theorem enc64_length (n : Nat) : (enc64 n).length = 8 := hton_length 8 n (by simp)

theorem header_eq (ns : NewSsi) :
    ns.header = encAll [4, 4, 4] [V30MAGIC, 0, 8] ++
      encAll [2, 8, 8, 4, 4, 4, 4, 4, 4, 8, 8, 8]
        [ns.nfiles, ns.nprimary, ns.nsecondary, ns.flen, ns.plen, ns.slen, frecsizeOf ns.flen, precsizeOf ns.plen,
         ns.slen + ns.plen, HDRSIZE, HDRSIZE + frecsizeOf ns.flen * ns.nfiles,
         HDRSIZE + frecsizeOf ns.flen * ns.nfiles + precsizeOf ns.plen * ns.nprimary] := by
  simp [NewSsi.header, encAll, enc16, enc32, enc64, List.append_assoc]

theorem header_length (ns : NewSsi) : ns.header.length = 78 := by
  simp [NewSsi.header]

theorem fileRecord_eq (flen : Nat) (f : FileRec) :
    fileRecord flen f = strncpy flen f.name ++ encAll [4, 4, 4, 4] [f.fmt, if f.bpl > 0 ∧ f.rpl > 0 then 1 else 0, f.bpl, f.rpl] := by
  simp [fileRecord, encAll, enc32, List.append_assoc]

theorem fileRecord_length (flen : Nat) (f : FileRec) (h : f.name.length ≤ flen) : (fileRecord flen f).length = 16 + flen := by
  simp [fileRecord, strncpy_length flen f.name]; omega

theorem precOf_eq (plen : Nat) (k : PKey) :
    precOf plen k = strncpy plen k.key ++ encAll [2, 8, 8, 8] [k.fnum, k.roff, k.doff, k.len] := by
  simp [precOf, pkeyRecord, encAll, enc16, enc64, List.append_assoc]

theorem precOf_length (plen : Nat) (k : PKey) (h : k.key.length ≤ plen) : (precOf plen k).length = 26 + plen := by
  simp [precOf, pkeyRecord, strncpy_length plen k.key]; omega

theorem srecOf_length (plen slen : Nat) (k : SKey) :
    (srecOf plen slen k).length = slen + plen := by
  simp [srecOf, strncpy_length slen k.key, strncpy_length plen k.pkey]

def toSsiFile (flen : Nat) (f : FileRec) : SsiFile :=
  { name := strncpy flen f.name, format := f.fmt, flags := if f.bpl > 0 ∧ f.rpl > 0 then 1 else 0, bpl := f.bpl, rpl := f.rpl }

/-- the `ESL_SSI` that `esl_ssi_Open` builds from the image of `ns` -/
def NewSsi.opened (ns : NewSsi) : Ssi :=
  { data := ns.image.toArray, flags := 0, offsz := 8, nfiles := ns.files.length, nprimary := ns.pkeys.length,
    nsecondary := ns.skeys.length, flen := ns.flen, plen := ns.plen, slen := ns.slen,
    frecsize := 16 + ns.flen, precsize := 26 + ns.plen, srecsize := ns.slen + ns.plen,
    foffset := 78, poffset := 78 + (16 + ns.flen) * ns.files.length,
    soffset := 78 + (16 + ns.flen) * ns.files.length + (26 + ns.plen) * ns.pkeys.length,
    files := ns.files.map (toSsiFile ns.flen) }

theorem fchunks_len {ns : NewSsi} (h : ns.WF) : ∀ c ∈ ns.files.map (fileRecord ns.flen), c.length = 16 + ns.flen := by
  intro c hc
  obtain ⟨f, hf, rfl⟩ := List.mem_map.mp hc
  exact fileRecord_length _ _ (by have := (h.fname f hf).2.1; omega)

theorem pchunks_len {ns : NewSsi} (h : ns.WF) : ∀ c ∈ (sortPKeys ns.pkeys).map (precOf ns.plen), c.length = 26 + ns.plen := by
  intro c hc
  obtain ⟨k, hk, rfl⟩ := List.mem_map.mp hc
  have := h.pkey k ((sortPKeys_perm ns.pkeys).mem_iff.mp hk)
  exact precOf_length _ _ (by omega)

theorem schunks_len {ns : NewSsi} (h : ns.WF) :
    ∀ c ∈ (sortSKeys ns.skeys).map (srecOf ns.plen ns.slen), c.length = ns.slen + ns.plen := by
  intro c hc
  obtain ⟨k, hk, rfl⟩ := List.mem_map.mp hc
  exact srecOf_length _ _ _

theorem fsec_length {ns : NewSsi} (h : ns.WF) : ns.fsec.length = (16 + ns.flen) * ns.files.length := by
  unfold NewSsi.fsec
  rw [flatten_length_uniform _ _ (fchunks_len h)]
  simp [Nat.mul_comm]

theorem psec_length {ns : NewSsi} (h : ns.WF) : ns.psec.length = (26 + ns.plen) * ns.pkeys.length := by
  unfold NewSsi.psec
  rw [flatten_length_uniform _ _ (pchunks_len h)]
  simp [Nat.mul_comm, (sortPKeys_perm ns.pkeys).length_eq]

theorem openFiles_image {ns : NewSsi} (h : ns.WF) (n i : Nat) (hni : i + n = ns.files.length) :
    openFiles ns.image.toArray ns.flen (16 + ns.flen) 78 n i = .ok ((ns.files.drop i).map (toSsiFile ns.flen)) := by
  induction n generalizing i with
  | zero =>
    have : ns.files.length ≤ i := by omega
    simp [openFiles, List.drop_of_length_le this]
  | succ n ih =>
    have hi : i < ns.files.length := by omega
    have hfl : ns.flen ≠ 0 := by have := WF.flen_pos h; omega
    have hfl2 := h.flen_lt
    have hnf := h.nfiles
    have hmod : (i * (16 + ns.flen)) % 4294967296 = i * (16 + ns.flen) := by
      apply Nat.mod_eq_of_lt
      calc i * (16 + ns.flen) < 32768 * 65552 := by
            apply Nat.mul_lt_mul'' <;> omega
        _ < 4294967296 := by decide
    have himg : ns.image = ns.header ++ (ns.files.map (fileRecord ns.flen)).flatten ++ (ns.psec ++ ns.ssec) := by
      simp [NewSsi.image, NewSsi.fsec, List.append_assoc]
    have hfi := h.fname ns.files[i] (List.getElem_mem hi)
    obtain ⟨hname, hflds⟩ := read_record ns.header (ns.psec ++ ns.ssec) (ns.files.map (fileRecord ns.flen)) (16 + ns.flen) i
      (fchunks_len h) (by simpa using hi) (strncpy ns.flen ns.files[i].name) [4, 4, 4, 4] _
      (by rw [List.getElem_map, fileRecord_eq]) (strncpy_ne_nil hfl _)
      (by intro w hw; simp at hw; omega) (by simp only [Fits, and_true]; split <;> omega)
    rw [← himg, header_length, strncpy_length] at hname hflds
    rw [openFiles]
    simp only [hfl, ↓reduceIte, hmod, hname, hflds]
    rw [ih (i + 1) (by omega)]
    simp only [List.drop_eq_getElem_cons hi, List.map_cons, toSsiFile]

/-- `s` is what `esl_ssi_Open` builds from `d`: its fields are what the two header reads and the file loop return -/
structure OpenOk (d : Array UInt8) (s : Ssi) (magic : Nat) : Prop where
  head : readFields d 0 [4, 4, 4] = some [magic, s.flags, s.offsz]
  magic : magic = V30MAGIC ∨ magic = V30SWAP
  offsz : s.offsz = 4 ∨ s.offsz = 8
  rest : readFields d 12 [2, 8, 8, 4, 4, 4, 4, 4, 4, s.offsz, s.offsz, s.offsz] =
    some [s.nfiles, s.nprimary, s.nsecondary, s.flen, s.plen, s.slen, s.frecsize, s.precsize, s.srecsize, s.foffset, s.poffset,
          s.soffset]
  nfiles : s.nfiles ≠ 0
  files : openFiles d s.flen s.frecsize s.foffset s.nfiles 0 = .ok s.files
  data : s.data = d

theorem open_eq_ok {d : Array UInt8} {s : Ssi} {magic : Nat} (o : OpenOk d s magic) : Ssi.open d = .ok s := by
  unfold Ssi.open
  rw [o.head]
  dsimp only
  rw [if_neg (fun h => o.magic.elim h.1 h.2), if_neg (fun h => o.offsz.elim h.1 h.2), o.rest]
  dsimp only
  rw [if_neg o.nfiles, o.files, ← o.data]

theorem openFiles_status (d : Array UInt8) (flen frecsize foffset n i : Nat) (e : St)
    (h : openFiles d flen frecsize foffset n i = .error e) : e = .eformat := by
  induction n generalizing i with
  | zero => simp [openFiles] at h
  | succ n ih =>
    rw [openFiles] at h
    split at h
    · injection h with h; exact h.symm
    · split at h
      · split at h
        · rename_i e' he
          injection h with h
          subst h
          exact ih _ he
        · cases h
      · injection h with h; exact h.symm

/-- what `esl_ssi_Open` can answer: such an index, or one of its two error statuses -/
theorem open_out (d : Array UInt8) :
    (∃ s magic, Ssi.open d = .ok s ∧ OpenOk d s magic) ∨ Ssi.open d = .error .eformat ∨ Ssi.open d = .error .erange := by
  unfold Ssi.open
  split
  · rename_i magic flags offsz h1
    split
    · exact .inr (.inl rfl)
    · rename_i hm
      split
      · exact .inr (.inr rfl)
      · rename_i ho
        split
        · rename_i h2
          split
          · exact .inr (.inl rfl)
          · rename_i hnf
            split
            · rename_i e he
              rw [openFiles_status _ _ _ _ _ _ _ he]
              exact .inr (.inl rfl)
            · rename_i files h3
              exact .inl ⟨_, magic, rfl, h1, by omega, by dsimp only; omega, h2, hnf, h3, rfl⟩
        · exact .inr (.inl rfl)
  · exact .inr (.inl rfl)

theorem open_ok (d : Array UInt8) (s : Ssi) (h : Ssi.open d = .ok s) : ∃ magic, OpenOk d s magic := by
  rcases open_out d with ⟨s', magic, hs, o⟩ | he | he
  · cases hs.symm.trans h
    exact ⟨magic, o⟩
  · cases he.symm.trans h
  · cases he.symm.trans h

theorem nfiles_eq (ns : NewSsi) : ns.nfiles = ns.files.length := rfl

theorem open_image {ns : NewSsi} (h : ns.WF) : Ssi.open ns.image.toArray = .ok ns.opened := by
  have hnf := h.nfiles
  have hfl := h.flen_lt
  have hpl := h.plen_lt
  have hsl := h.slen_lt
  have hnp := h.np_lt
  have hns := h.nsec_lt
  have hfne : ns.files.length ≠ 0 := by
    intro h0; exact h.files_ne (List.length_eq_zero_iff.mp h0)
  have hprod1 : (16 + ns.flen) * ns.files.length < 32768 * 65552 := by
    rw [Nat.mul_comm]; apply Nat.mul_lt_mul'' <;> omega
  have hprod2 : (26 + ns.plen) * ns.pkeys.length < 65562 * 2 ^ 40 := by
    apply Nat.mul_lt_mul'' <;> omega
  have himg : ns.image = encAll [4, 4, 4] [V30MAGIC, 0, 8] ++
      encAll [2, 8, 8, 4, 4, 4, 4, 4, 4, 8, 8, 8]
        [ns.files.length, ns.pkeys.length, ns.skeys.length, ns.flen, ns.plen, ns.slen, 16 + ns.flen, 26 + ns.plen,
         ns.slen + ns.plen, 78, 78 + (16 + ns.flen) * ns.files.length,
         78 + (16 + ns.flen) * ns.files.length + (26 + ns.plen) * ns.pkeys.length] ++ (ns.fsec ++ ns.psec ++ ns.ssec) := by
    simp [NewSsi.image, header_eq, List.append_assoc, nfiles_eq, h.nprimary, h.nsecondary, frecsizeOf, precsizeOf, HDRSIZE]
  have h1 : readFields ns.image.toArray 0 [4, 4, 4] = some [V30MAGIC, 0, 8] :=
    readFields_locate ns.image [] _ _ _ 0 (by rw [himg, List.append_assoc]; rfl) rfl (by intro w hw; simp at hw; omega)
      (by simp only [Fits, V30MAGIC, and_true]; omega)
  have h2 := readFields_locate ns.image _ _ _ _ 12 himg (by simp [encAll, hton_length]) (by intro w hw; simp at hw; omega)
    (by simp only [Fits, and_true]; omega)
  exact open_eq_ok ⟨h1, .inl rfl, .inr rfl, h2, hfne, openFiles_image h ns.files.length 0 (by omega), rfl⟩

theorem bsearch_section (d : Array UInt8) (keys : List Bytes) (klen base recsize : Nat)
    (hr : ReadsKeys (rdNameAt d klen base recsize) keys) (hs : StrictSorted keys) (hk : keys ≠ [] → klen ≠ 0) (key : Bytes) :
    (∃ j, ∃ h : j < keys.length, keys[j] = key ∧
        bsearch d key klen base recsize keys.length = .ok (base + recsize * j + klen)) ∨
    (key ∉ keys ∧ bsearch d key klen base recsize keys.length = .error .enotfound) := by
  unfold bsearch
  by_cases h0 : keys.length = 0
  · right
    have : keys = [] := List.length_eq_zero_iff.mp h0
    subst this
    simp
  · have hne : keys ≠ [] := fun h => h0 (by simp [h])
    simp only [h0, ↓reduceIte, hk hne]
    rcases bsearchLoop_correct _ keys key hr hs (by omega) with ⟨j, hj, hkj, hres⟩ | ⟨habs, hres⟩
    · left; exact ⟨j, hj, hkj, by simp [hres]⟩
    · right; exact ⟨habs, by simp [hres]⟩

theorem bsearch_arrangement {α : Type} (keyOf : α → Bytes) (P S : List α) (hperm : S.Perm P) (d : Array UInt8)
    (klen base recsize : Nat) (hr : ReadsKeys (rdNameAt d klen base recsize) (S.map keyOf)) (hs : StrictSorted (S.map keyOf))
    (hk : P ≠ [] → klen ≠ 0) (key : Bytes) :
    (∃ j, ∃ hj : j < S.length, S[j] ∈ P ∧ keyOf S[j] = key ∧
        bsearch d key klen base recsize P.length = .ok (base + recsize * j + klen)) ∨
    ((∀ x ∈ P, keyOf x ≠ key) ∧ bsearch d key klen base recsize P.length = .error .enotfound) := by
  have hlen : (S.map keyOf).length = P.length := by rw [List.length_map, hperm.length_eq]
  have hkl : S.map keyOf ≠ [] → klen ≠ 0 := fun hne => hk (fun hP => hne (List.length_eq_zero_iff.mp (by rw [hlen, hP]; rfl)))
  rcases bsearch_section d _ klen base recsize hr hs hkl key with ⟨j, hj, hkj, hres⟩ | ⟨habs, hres⟩ <;> rw [hlen] at hres
  · have hj' : j < S.length := by simpa using hj
    exact .inl ⟨j, hj', hperm.mem_iff.mp (List.getElem_mem hj'), by simpa using hkj, hres⟩
  · exact .inr ⟨fun x hx hkey => habs (List.mem_map.mpr ⟨x, hperm.mem_iff.mpr hx, hkey⟩), hres⟩

def hitOf (k : PKey) : Hit := { fh := k.fnum, roff := k.roff, doff := k.doff, len := k.len }

section image
variable {ns : NewSsi} (h : ns.WF)
include h

theorem image_p : ns.image = (ns.header ++ ns.fsec) ++ ((sortPKeys ns.pkeys).map (precOf ns.plen)).flatten ++ ns.ssec := by
  simp [NewSsi.image, NewSsi.psec]

theorem image_s : ns.image = (ns.header ++ ns.fsec ++ ns.psec) ++ ((sortSKeys ns.skeys).map (srecOf ns.plen ns.slen)).flatten ++ [] := by
  simp [NewSsi.image, NewSsi.ssec]

theorem pre_p_length : (ns.header ++ ns.fsec).length = 78 + (16 + ns.flen) * ns.files.length := by
  simp [header_length, fsec_length h]

theorem pre_s_length : (ns.header ++ ns.fsec ++ ns.psec).length
    = 78 + (16 + ns.flen) * ns.files.length + (26 + ns.plen) * ns.pkeys.length := by
  simp [header_length, fsec_length h, psec_length h]; omega

theorem sortP_len : (sortPKeys ns.pkeys).length = ns.pkeys.length := (sortPKeys_perm ns.pkeys).length_eq
theorem sortS_len : (sortSKeys ns.skeys).length = ns.skeys.length := (sortSKeys_perm ns.skeys).length_eq

theorem sortP_mem {k : PKey} (hk : k ∈ sortPKeys ns.pkeys) : k ∈ ns.pkeys := (sortPKeys_perm ns.pkeys).mem_iff.mp hk
theorem sortS_mem {k : SKey} (hk : k ∈ sortSKeys ns.skeys) : k ∈ ns.skeys := (sortSKeys_perm ns.skeys).mem_iff.mp hk

theorem read_prec (i : Nat) (hi : i < (sortPKeys ns.pkeys).length) :
    readAt ns.image.toArray (78 + (16 + ns.flen) * ns.files.length + (26 + ns.plen) * i) ns.plen
      = some (strncpy ns.plen (sortPKeys ns.pkeys)[i].key) ∧
    readFields ns.image.toArray (78 + (16 + ns.flen) * ns.files.length + (26 + ns.plen) * i + ns.plen) [2, 8, 8, 8]
      = some [(sortPKeys ns.pkeys)[i].fnum, (sortPKeys ns.pkeys)[i].roff, (sortPKeys ns.pkeys)[i].doff,
              (sortPKeys ns.pkeys)[i].len] := by
  have hk := h.pkey _ (sortP_mem h (List.getElem_mem hi))
  have := read_record (ns.header ++ ns.fsec) ns.ssec _ (26 + ns.plen) i (pchunks_len h) (by simpa using hi)
    (strncpy ns.plen (sortPKeys ns.pkeys)[i].key) [2, 8, 8, 8] _ (by rw [List.getElem_map, precOf_eq])
    (strncpy_ne_nil (by omega) _)
    (by intro w hw; simp at hw; omega) (by simp only [Fits, and_true]; omega)
  rwa [← image_p h, pre_p_length h, strncpy_length, Nat.mul_comm i] at this

theorem read_pname (i : Nat) (hi : i < (sortPKeys ns.pkeys).length) :
    readAt ns.image.toArray (78 + (16 + ns.flen) * ns.files.length + (26 + ns.plen) * i) ns.plen
      = some (strncpy ns.plen (sortPKeys ns.pkeys)[i].key) := (read_prec h i hi).1

theorem read_phit (i : Nat) (hi : i < (sortPKeys ns.pkeys).length) :
    readFields ns.image.toArray (78 + (16 + ns.flen) * ns.files.length + (26 + ns.plen) * i + ns.plen) [2, 8, 8, 8]
      = some [(sortPKeys ns.pkeys)[i].fnum, (sortPKeys ns.pkeys)[i].roff, (sortPKeys ns.pkeys)[i].doff,
              (sortPKeys ns.pkeys)[i].len] := (read_prec h i hi).2

theorem readHit_image (i : Nat) (hi : i < (sortPKeys ns.pkeys).length) :
    readHit ns.opened (78 + (16 + ns.flen) * ns.files.length + (26 + ns.plen) * i + ns.plen)
      = .ok (hitOf (sortPKeys ns.pkeys)[i]) := by
  unfold readHit
  simp only [NewSsi.opened]
  rw [read_phit h i hi]
  rfl

theorem read_sname (i : Nat) (hi : i < (sortSKeys ns.skeys).length) :
    readAt ns.image.toArray
      (78 + (16 + ns.flen) * ns.files.length + (26 + ns.plen) * ns.pkeys.length + (ns.slen + ns.plen) * i) ns.slen
      = some (strncpy ns.slen (sortSKeys ns.skeys)[i].key) := by
  have hk := h.skey _ (sortS_mem h (List.getElem_mem hi))
  have hnl : (strncpy ns.slen (sortSKeys ns.skeys)[i].key).length = ns.slen := strncpy_length _ _
  rw [image_s h]
  apply readAt_in_chunk _ _ _ (ns.slen + ns.plen) i (schunks_len h) (by simpa using hi) []
    (strncpy ns.slen (sortSKeys ns.skeys)[i].key) (strncpy ns.plen (sortSKeys ns.skeys)[i].pkey)
  · rw [List.getElem_map]; simp [srecOf]
  · exact strncpy_ne_nil (by omega) _
  · rw [pre_s_length h]; simp [Nat.mul_comm]
  · exact hnl.symm

theorem read_spkey (i : Nat) (hi : i < (sortSKeys ns.skeys).length) (hpl : ns.plen ≠ 0) :
    readAt ns.image.toArray
      (78 + (16 + ns.flen) * ns.files.length + (26 + ns.plen) * ns.pkeys.length + (ns.slen + ns.plen) * i + ns.slen) ns.plen
      = some (strncpy ns.plen (sortSKeys ns.skeys)[i].pkey) := by
  have hk := h.skey _ (sortS_mem h (List.getElem_mem hi))
  have hnl : (strncpy ns.slen (sortSKeys ns.skeys)[i].key).length = ns.slen := strncpy_length _ _
  have hnl2 : (strncpy ns.plen (sortSKeys ns.skeys)[i].pkey).length = ns.plen := strncpy_length _ _
  rw [image_s h]
  apply readAt_in_chunk _ _ _ (ns.slen + ns.plen) i (schunks_len h) (by simpa using hi)
    (strncpy ns.slen (sortSKeys ns.skeys)[i].key) (strncpy ns.plen (sortSKeys ns.skeys)[i].pkey) []
  · rw [List.getElem_map]; simp [srecOf]
  · exact strncpy_ne_nil hpl _
  · rw [pre_s_length h, hnl]; simp [Nat.mul_comm]
  · exact hnl2.symm

end image

section lookups
variable {ns : NewSsi} (h : ns.WF) (hd : ns.Distinct)
include h hd

theorem pkeys_strict : StrictSorted ((sortPKeys ns.pkeys).map (·.key)) := by
  rw [strictSorted_iff_nodup _ (List.pairwise_map.mpr (sortPKeys_sorted ns.pkeys))]
  exact ((sortPKeys_perm ns.pkeys).map _).nodup_iff.mpr hd.1

theorem skeys_strict : StrictSorted ((sortSKeys ns.skeys).map (·.key)) := by
  rw [strictSorted_iff_nodup _ (List.pairwise_map.mpr (sortSKeys_sorted ns.skeys))]
  exact ((sortSKeys_perm ns.skeys).map _).nodup_iff.mpr hd.2.1

omit hd in
theorem reads_pkeys : ReadsKeys (rdNameAt ns.image.toArray ns.plen (78 + (16 + ns.flen) * ns.files.length) (26 + ns.plen))
    ((sortPKeys ns.pkeys).map (·.key)) := by
  intro i hi
  have hi' : i < (sortPKeys ns.pkeys).length := by simpa using hi
  have hk := h.pkey _ (sortP_mem h (List.getElem_mem hi'))
  unfold rdNameAt
  rw [read_pname h i hi']
  simp only [cstr_strncpy _ _ hk.2.1 hk.2.2.1]
  simp

omit hd in
theorem reads_skeys : ReadsKeys (rdNameAt ns.image.toArray ns.slen
      (78 + (16 + ns.flen) * ns.files.length + (26 + ns.plen) * ns.pkeys.length) (ns.slen + ns.plen))
    ((sortSKeys ns.skeys).map (·.key)) := by
  intro i hi
  have hi' : i < (sortSKeys ns.skeys).length := by simpa using hi
  have hk := h.skey _ (sortS_mem h (List.getElem_mem hi'))
  unfold rdNameAt
  rw [read_sname h i hi']
  simp only [cstr_strncpy _ _ hk.2.1 hk.2.2]
  simp

theorem bsearch_primary (key : Bytes) :
    (∃ k ∈ ns.pkeys, k.key = key ∧ ∃ pos,
        bsearch ns.image.toArray key ns.plen (78 + (16 + ns.flen) * ns.files.length) (26 + ns.plen) ns.pkeys.length = .ok pos ∧
        readHit ns.opened pos = .ok (hitOf k)) ∨
    ((∀ k ∈ ns.pkeys, k.key ≠ key) ∧
        bsearch ns.image.toArray key ns.plen (78 + (16 + ns.flen) * ns.files.length) (26 + ns.plen) ns.pkeys.length
          = .error .enotfound) := by
  rcases bsearch_arrangement (·.key) ns.pkeys _ (sortPKeys_perm _) _ ns.plen _ _ (reads_pkeys h) (pkeys_strict h hd)
      (fun hne => by obtain ⟨k, hk⟩ := List.exists_mem_of_ne_nil _ hne; have := (h.pkey k hk).2.2.1; omega) key with
    ⟨j, hj, hmem, hkj, hres⟩ | hno
  · exact .inl ⟨_, hmem, hkj, _, hres, readHit_image h j hj⟩
  · exact .inr hno

theorem bsearch_secondary (key : Bytes) :
    (∃ a ∈ ns.skeys, a.key = key ∧ ∃ pos,
        bsearch ns.image.toArray key ns.slen (78 + (16 + ns.flen) * ns.files.length + (26 + ns.plen) * ns.pkeys.length)
          (ns.slen + ns.plen) ns.skeys.length = .ok pos ∧
        (ns.plen ≠ 0 → readAt ns.image.toArray pos ns.plen = some (strncpy ns.plen a.pkey))) ∨
    ((∀ a ∈ ns.skeys, a.key ≠ key) ∧
        bsearch ns.image.toArray key ns.slen (78 + (16 + ns.flen) * ns.files.length + (26 + ns.plen) * ns.pkeys.length)
          (ns.slen + ns.plen) ns.skeys.length = .error .enotfound) := by
  rcases bsearch_arrangement (·.key) ns.skeys _ (sortSKeys_perm _) _ ns.slen _ _ (reads_skeys h) (skeys_strict h hd)
      (fun hne => by obtain ⟨a, ha⟩ := List.exists_mem_of_ne_nil _ hne; have := (h.skey a ha).2.2; omega) key with
    ⟨j, hj, hmem, hkj, hres⟩ | hno
  · exact .inl ⟨_, hmem, hkj, _, hres, fun hpl => read_spkey h j hj hpl⟩
  · exact .inr hno

theorem findName_primary (k : PKey) (hk : k ∈ ns.pkeys) (fuel : Nat) :
    ns.opened.findNameAux (fuel + 1) k.key = .ok (hitOf k) := by
  rcases bsearch_primary h hd k.key with ⟨k', hk', hkey, pos, hb, hr⟩ | ⟨habs, _⟩
  · have : k' = k := eq_of_nodup_map (·.key) ns.pkeys hd.1 hk' hk hkey
    subst this
    simp only [Ssi.findNameAux, NewSsi.opened] at hb ⊢
    rw [hb]
    exact hr
  · exact absurd rfl (habs k hk)

theorem findName_absent (key : Bytes) (hp : ∀ k ∈ ns.pkeys, k.key ≠ key) (hs : ∀ a ∈ ns.skeys, a.key ≠ key) (fuel : Nat) :
    ns.opened.findNameAux (fuel + 1) key = .error .enotfound := by
  rcases bsearch_primary h hd key with ⟨k', hk', hkey, _⟩ | ⟨_, hb⟩
  · exact absurd hkey (hp k' hk')
  · simp only [Ssi.findNameAux, NewSsi.opened] at hb ⊢
    rw [hb]
    by_cases hn : ns.skeys.length > 0
    · simp only [hn, ↓reduceIte]
      rcases bsearch_secondary h hd key with ⟨a, ha, hkey, _⟩ | ⟨_, hb2⟩
      · exact absurd hkey (hs a ha)
      · rw [hb2]
    · simp [hn]

/-- `FindName` of an alias whose target is a stored primary key returns the target's record (the alias is not itself
    a primary key: `Write` reports that as a duplicate) -/
theorem findName_alias (a : SKey) (ha : a ∈ ns.skeys)
    (k : PKey) (hk : k ∈ ns.pkeys) (hak : a.pkey = k.key) (fuel : Nat) :
    ns.opened.findNameAux (fuel + 2) a.key = .ok (hitOf k) := by
  have hnp : ∀ k ∈ ns.pkeys, k.key ≠ a.key := fun k' hk' => hd.2.2 k' hk' a ha
  rcases bsearch_primary h hd a.key with ⟨k', hk', hkey, _⟩ | ⟨_, hb⟩
  · exact absurd hkey (hnp k' hk')
  · have hrec := findName_primary h hd k hk fuel
    simp only [Ssi.findNameAux, NewSsi.opened] at hb hrec ⊢
    rw [hb]
    have hn : ns.skeys.length > 0 := List.length_pos_of_mem ha
    simp only [hn, ↓reduceIte]
    rcases bsearch_secondary h hd a.key with ⟨a', ha', hkey, pos, hb2, hrd⟩ | ⟨habs, _⟩
    · have : a' = a := eq_of_nodup_map (·.key) ns.skeys hd.2.1 ha' ha hkey
      subst this
      have hpk := h.pkey k hk
      have hpl : ns.plen ≠ 0 := by omega
      rw [hb2]
      simp only [hrd hpl, hak, cstr_strncpy _ _ hpk.2.1 hpk.2.2.1]
      simp only [hn, ↓reduceIte] at hrec
      exact hrec
    · exact absurd rfl (habs a ha)

/-- lookups in any bytes that open as `ns.opened` (the written file: `written_opens`) -/
theorem findName_primary_of_open {d : Array UInt8} (ho : Ssi.open d = .ok ns.opened) (k : PKey) (hk : k ∈ ns.pkeys) :
    (Ssi.open d).bind (·.findName k.key) = .ok ⟨k.fnum, k.roff, k.doff, k.len⟩ := by
  rw [ho]; exact findName_primary h hd k hk (FUEL - 1)

theorem findName_alias_of_open {d : Array UInt8} (ho : Ssi.open d = .ok ns.opened) (a : SKey) (ha : a ∈ ns.skeys)
    (k : PKey) (hk : k ∈ ns.pkeys) (hak : a.pkey = k.key) :
    (Ssi.open d).bind (·.findName a.key) = .ok ⟨k.fnum, k.roff, k.doff, k.len⟩ := by
  rw [ho]; exact findName_alias h hd a ha k hk hak (FUEL - 2)

theorem findName_absent_of_open {d : Array UInt8} (ho : Ssi.open d = .ok ns.opened) (key : Bytes)
    (hp : ∀ k ∈ ns.pkeys, k.key ≠ key) (hs : ∀ a ∈ ns.skeys, a.key ≠ key) :
    (Ssi.open d).bind (·.findName key) = .error .enotfound := by
  rw [ho]; exact findName_absent h hd key hp hs (FUEL - 1)

end lookups

/-- Stated about `bytes`, so that no proof substitutes `ns.image` for it: `subst` and the `rfl` pattern first bring the image
    to weak head normal form, which unfolds the whole writer. -/
theorem written_opens (ns : NewSsi) (h : ns.WF) (cur : Option Bytes) (bytes : Bytes) (hw : (ns.write cur).2.2 = some bytes) :
    ns.Distinct ∧ bytes = ns.image ∧ Ssi.open bytes.toArray = .ok ns.opened := by
  obtain ⟨hd, hb⟩ := written_file ns h cur bytes hw
  exact ⟨hd, hb, hb ▸ open_image h⟩

theorem findNumber_image {ns : NewSsi} (h : ns.WF) (i : Nat) (hi : i < (sortPKeys ns.pkeys).length) :
    ns.opened.findNumber (i : Int) =
      .ok (hitOf (sortPKeys ns.pkeys)[i], strncpy ns.plen (sortPKeys ns.pkeys)[i].key) := by
  have hk := h.pkey _ (sortP_mem h (List.getElem_mem hi))
  have hpl : ns.plen ≠ 0 := by omega
  have hlt : ¬ (i ≥ ns.pkeys.length) := by rw [sortP_len h] at hi; omega
  have hneg : ¬ ((i : Int) < 0) := by omega
  unfold Ssi.findNumber
  simp only [hneg, ↓reduceIte, Int.toNat_natCast, NewSsi.opened, hlt, hpl, read_pname h i hi]
  unfold readHit
  simp only [read_phit h i hi]
  rfl

theorem findNumber_out_of_range {ns : NewSsi} (h : ns.WF) (i : Int) (hi : i < 0 ∨ i ≥ ns.pkeys.length)
    (hi2 : -(2:Int)^63 ≤ i) : ns.opened.findNumber i = .error .enotfound := by
  have hnp := h.np_lt
  unfold Ssi.findNumber
  by_cases hneg : i < 0
  · have : (i + 18446744073709551616).toNat ≥ ns.pkeys.length := by omega
    simp [hneg, NewSsi.opened, this]
  · have : i.toNat ≥ ns.pkeys.length := by omega
    simp [hneg, NewSsi.opened, this]

theorem fileInfo_image {ns : NewSsi} (fh : Nat) (hfh : fh < ns.files.length) :
    ns.opened.fileInfo fh = .ok (toSsiFile ns.flen ns.files[fh]) := by
  unfold Ssi.fileInfo
  have : ¬ (fh ≥ ns.files.length) := by omega
  simp [NewSsi.opened, this, hfh]

theorem fileInfo_bad {ns : NewSsi} (fh : Nat) (hfh : fh ≥ ns.files.length) :
    ns.opened.fileInfo fh = .error .einval := by
  unfold Ssi.fileInfo
  simp [NewSsi.opened, hfh]

/-- the documented outcome of `esl_ssi_FindSubseq` for a record `(fh, roff, doff, L)` in a file with line geometry
    `(bpl, rpl)`: case 4/3 (no data offset, or no fast-subseq geometry): start of the data, residue 1; case 1
    (`bpl = rpl+1`): the exact byte of residue `start`; case 2: the start of the line that holds residue `start`. -/
def subseqSpec (k : PKey) (f : FileRec) (start : Nat) : SubHit :=
  if k.doff = 0 ∨ ¬ (f.bpl > 0 ∧ f.rpl > 0) then { hit := hitOf k, doff := k.doff, actual := 1 }
  else
    let l := (start - 1) / f.rpl
    if f.bpl = f.rpl + 1 then { hit := hitOf k, doff := (k.doff + l * f.bpl + (start - 1) % f.rpl) % 2^64, actual := start }
    else { hit := hitOf k, doff := (k.doff + l * f.bpl) % 2^64, actual := (1 + l * f.rpl) % 2^64 }

theorem toSigned_of_lt {n : Nat} (h : n < 2^63) : toSigned n = (n : Int) := by
  unfold toSigned
  have : ¬ (n ≥ 2^63) := by omega
  simp [this]

/-- whatever name `FindName` resolves to the record of the stored key `k`: `FindSubseq` computes the documented outcome
    from `k`'s record and the line geometry of `k`'s file -/
theorem findSubseq_of_hit {ns : NewSsi} (key : Bytes) (k : PKey) (hfind : ns.opened.findName key = .ok (hitOf k))
    (hfh : k.fnum < ns.files.length) (start : Nat) (h1 : 1 ≤ start) (h2 : start ≤ k.len) (hL : k.len < 2^63) :
    ns.opened.findSubseq key (start : Int) = .ok (subseqSpec k ns.files[k.fnum] start) := by
  have hsg := toSigned_of_lt hL
  have hrange : ¬ ((start : Int) < 1 ∨ (start : Int) > toSigned k.len) := by
    rw [hsg]; omega
  have hfile : ns.opened.files[(hitOf k).fh]? = some (toSsiFile ns.flen ns.files[k.fnum]) := by
    simp [NewSsi.opened, hitOf, hfh]
  have hnf : ¬ ((hitOf k).fh ≥ ns.opened.nfiles) := by
    simp only [NewSsi.opened, hitOf]; omega
  unfold Ssi.findSubseq
  rw [hfind]
  simp only [hitOf] at hrange hfile hnf ⊢
  simp only [hrange, hnf, ↓reduceIte, hfile, toSsiFile, Int.toNat_natCast]
  unfold subseqSpec
  by_cases hfast : ns.files[k.fnum].bpl > 0 ∧ ns.files[k.fnum].rpl > 0
  · have hr : ns.files[k.fnum].rpl ≠ 0 := by omega
    have hb : ns.files[k.fnum].bpl ≠ 0 := by omega
    by_cases hdo : k.doff = 0
    · simp [hdo, hitOf]
    · by_cases hbr : ns.files[k.fnum].bpl = ns.files[k.fnum].rpl + 1
      · simp [hfast, hdo, hr, hbr, hitOf]
      · simp [hfast, hdo, hr, hb, hbr, hitOf]
  · simp [hfast, hitOf]

theorem findSubseq_range_of_hit {ns : NewSsi} (key : Bytes) (k : PKey) (hfind : ns.opened.findName key = .ok (hitOf k))
    (start : Int) (hr : start < 1 ∨ start > (k.len : Int)) (hL : k.len < 2^63) :
    ns.opened.findSubseq key start = .error .erange := by
  have hsg := toSigned_of_lt hL
  unfold Ssi.findSubseq
  rw [hfind]
  simp only [hitOf, hsg, hr, ↓reduceIte]

theorem findSubseq_of_error (s : Ssi) (key : Bytes) (start : Int) (e : St) (hfind : s.findName key = .error e) :
    s.findSubseq key start = .error e := by
  unfold Ssi.findSubseq
  rw [hfind]

theorem findSubseq_primary {ns : NewSsi} (h : ns.WF) (hd : ns.Distinct) (k : PKey) (hk : k ∈ ns.pkeys)
    (hfh : k.fnum < ns.files.length) (start : Nat) (h1 : 1 ≤ start) (h2 : start ≤ k.len) (hL : k.len < 2^63) :
    ns.opened.findSubseq k.key (start : Int) = .ok (subseqSpec k ns.files[k.fnum] start) :=
  findSubseq_of_hit k.key k (findName_primary h hd k hk (FUEL - 1)) hfh start h1 h2 hL

theorem findSubseq_range {ns : NewSsi} (h : ns.WF) (hd : ns.Distinct) (k : PKey) (hk : k ∈ ns.pkeys)
    (start : Int) (hr : start < 1 ∨ start > (k.len : Int)) (hL : k.len < 2^63) :
    ns.opened.findSubseq k.key start = .error .erange :=
  findSubseq_range_of_hit k.key k (findName_primary h hd k hk (FUEL - 1)) start hr hL

end EaselModel.Ssi
