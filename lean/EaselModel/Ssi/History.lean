import EaselModel.Ssi.External
/-! # Every insertion history, with the switch to the external sort at any point,
    ends in a state that represents its *logical content* (the in-memory index built by the same calls), and that
    content is well-formed. -/
namespace EaselModel.Ssi

/-- calls on an `ESL_NEWSSI` (and the assignment to its public field `max_ram` that forces the external sort) -/
inductive Op where
  | addFile (name : Bytes) (fmt : Nat)
  | setSubseq (fh bpl rpl : Nat)
  | addKey (key : Bytes) (fh roff doff len : Nat)
  | addAlias (alias key : Bytes)
  | setMaxRam (m : Int)

/-- one call; a call that returns an error status leaves the index unchanged -/
def step (ns : NewSsi) : Op → NewSsi
  | .addFile name fmt => match ns.addFile name fmt with | .ok (ns', _) => ns' | .error _ => ns
  | .setSubseq fh bpl rpl => match ns.setSubseq fh bpl rpl with | .ok ns' => ns' | .error _ => ns
  | .addKey key fh r d l => match ns.addKey key fh r d l with | .ok ns' => ns' | .error _ => ns
  | .addAlias a k => match ns.addAlias a k with | .ok ns' => ns' | .error _ => ns
  | .setMaxRam m => { ns with maxRam := m }

def run (ops : List Op) : NewSsi := ops.foldl step {}

/-- the same call on the logical content: keys are simply appended in memory -/
def stepL (l : NewSsi) : Op → NewSsi
  | .addFile name fmt =>
    if l.nfiles ≥ MAXFILES then l
    else { l with flen := if name.length + 1 > l.flen then name.length + 1 else l.flen,
                  files := l.files ++ [{ name := fileTail name, fmt := fmt, bpl := 0, rpl := 0 }] }
  | .setSubseq fh bpl rpl =>
    if fh ≥ l.nfiles then l else if bpl = 0 ∨ rpl = 0 then l
    else { l with files := l.files.modify fh (fun f => { f with bpl := bpl, rpl := rpl }) }
  | .addKey key fh r d len =>
    if fh ≥ MAXFILES then l else if l.nprimary ≥ MAXKEYS then l
    else { l with plen := if key.length + 1 > l.plen then key.length + 1 else l.plen,
                  pkeys := l.pkeys ++ [{ key := key, fnum := fh, roff := r, doff := d, len := len }],
                  nprimary := l.nprimary + 1 }
  | .addAlias a k =>
    if l.nsecondary ≥ MAXKEYS then l
    else { l with slen := if a.length + 1 > l.slen then a.length + 1 else l.slen,
                  skeys := l.skeys ++ [{ key := a, pkey := k }], nsecondary := l.nsecondary + 1 }
  | .setMaxRam _ => l

def logical (ops : List Op) : NewSsi := ops.foldl stepL {}

/-- `ns` holds the logical content `l`, in memory or in the tmp files -/
structure Rep (ns l : NewSsi) : Prop where
  lint : l.external = false
  files : ns.files = l.files
  flen : ns.flen = l.flen
  plen : ns.plen = l.plen
  slen : ns.slen = l.slen
  nprimary : ns.nprimary = l.nprimary
  nsecondary : ns.nsecondary = l.nsecondary
  written : ns.written = l.written
  body : (ns.external = false ∧ ns.pkeys = l.pkeys ∧ ns.skeys = l.skeys) ∨
         (ns.external = true ∧ ns.ptmp = l.pkeys.map pkeyLine ∧ ns.stmp = l.skeys.map skeyLine)

theorem rep_init : Rep {} {} := ⟨rfl, rfl, rfl, rfl, rfl, rfl, rfl, rfl, .inl ⟨rfl, rfl, rfl⟩⟩

theorem rep_maybeExternal (ns l : NewSsi) (h : Rep ns l) : Rep ns.maybeExternal l := by
  unfold NewSsi.maybeExternal
  split
  · unfold NewSsi.activateExternal
    split
    · exact h
    · rename_i hne
      rcases h.body with ⟨e1, e2, e3⟩ | ⟨e1, _, _⟩
      · exact { h with body := .inr ⟨rfl, by simp [e2], by simp [e3]⟩ }
      · exact absurd e1 hne
  · exact h

theorem rep_appendKey (ns l : NewSsi) (k : PKey) (h : Rep ns l) :
    Rep (ns.appendKey k)
      { l with plen := if k.key.length + 1 > l.plen then k.key.length + 1 else l.plen,
               pkeys := l.pkeys ++ [k], nprimary := l.nprimary + 1 } := by
  obtain ⟨h0, h1, h2, h3, h4, h5, h6, h7, h8⟩ := h
  cases ns with
  | mk external' maxRam' files' flen' pkeys' plen' nprimary' ptmp' skeys' slen' nsecondary' stmp' written' =>
  simp only at h1 h2 h3 h4 h5 h6 h7 h8
  subst h3
  rcases h8 with ⟨e1, e2, e3⟩ | ⟨e1, e2, e3⟩
  · subst e1
    by_cases hc : k.key.length + 1 > l.plen <;>
      simp only [NewSsi.appendKey, hc, ↓reduceIte, Bool.false_eq_true] <;>
      exact ⟨h0, h1, h2, rfl, h4, by simp [h5], h6, h7, .inl ⟨rfl, by simp [e2], e3⟩⟩
  · subst e1
    by_cases hc : k.key.length + 1 > l.plen <;>
      simp only [NewSsi.appendKey, hc, ↓reduceIte] <;>
      exact ⟨h0, h1, h2, rfl, h4, by simp [h5], h6, h7, .inr ⟨rfl, by simp [e2], e3⟩⟩

theorem rep_appendAlias (ns l : NewSsi) (k : SKey) (h : Rep ns l) :
    Rep (ns.appendAlias k)
      { l with slen := if k.key.length + 1 > l.slen then k.key.length + 1 else l.slen,
               skeys := l.skeys ++ [k], nsecondary := l.nsecondary + 1 } := by
  obtain ⟨h0, h1, h2, h3, h4, h5, h6, h7, h8⟩ := h
  cases ns with
  | mk external' maxRam' files' flen' pkeys' plen' nprimary' ptmp' skeys' slen' nsecondary' stmp' written' =>
  simp only at h1 h2 h3 h4 h5 h6 h7 h8
  subst h4
  rcases h8 with ⟨e1, e2, e3⟩ | ⟨e1, e2, e3⟩
  · subst e1
    by_cases hc : k.key.length + 1 > l.slen <;>
      simp only [NewSsi.appendAlias, hc, ↓reduceIte, Bool.false_eq_true] <;>
      exact ⟨h0, h1, h2, h3, rfl, h5, by simp [h6], h7, .inl ⟨rfl, e2, by simp [e3]⟩⟩
  · subst e1
    by_cases hc : k.key.length + 1 > l.slen <;>
      simp only [NewSsi.appendAlias, hc, ↓reduceIte] <;>
      exact ⟨h0, h1, h2, h3, rfl, h5, by simp [h6], h7, .inr ⟨rfl, e2, by simp [e3]⟩⟩

theorem rep_step (ns l : NewSsi) (op : Op) (h : Rep ns l) : Rep (step ns op) (stepL l op) := by
  have hme := rep_maybeExternal ns l h
  have h1 := h.files
  have h5 := h.nprimary
  have h6 := h.nsecondary
  cases op with
  | addFile name fmt =>
    by_cases hc : ns.files.length ≥ MAXFILES
    · have hc' : l.files.length ≥ MAXFILES := by rw [← h1]; exact hc
      simp only [step, stepL, NewSsi.addFile, NewSsi.nfiles, hc, hc', ↓reduceIte]
      exact h
    · have hc' : ¬ l.files.length ≥ MAXFILES := by rw [← h1]; exact hc
      simp only [step, stepL, NewSsi.addFile, NewSsi.nfiles, hc, hc', ↓reduceIte]
      exact { h with files := by simp [h1], flen := by simp [h.flen] }
  | setSubseq fh bpl rpl =>
    by_cases hc : fh ≥ ns.files.length
    · have hc' : fh ≥ l.files.length := by rw [← h1]; exact hc
      simp only [step, stepL, NewSsi.setSubseq, NewSsi.nfiles, hc, hc', ↓reduceIte]
      exact h
    · have hc' : ¬ fh ≥ l.files.length := by rw [← h1]; exact hc
      by_cases hc2 : bpl = 0 ∨ rpl = 0
      · simp only [step, stepL, NewSsi.setSubseq, NewSsi.nfiles, hc, hc', hc2, ↓reduceIte]
        exact h
      · simp only [step, stepL, NewSsi.setSubseq, NewSsi.nfiles, hc, hc', hc2, ↓reduceIte]
        exact { h with files := by simp [h1] }
  | addKey key fh r d len =>
    by_cases hc : fh ≥ MAXFILES
    · simp only [step, stepL, NewSsi.addKey, hc, ↓reduceIte]
      exact h
    · by_cases hc2 : ns.nprimary ≥ MAXKEYS
      · have hc2' : l.nprimary ≥ MAXKEYS := by rw [← h5]; exact hc2
        simp only [step, stepL, NewSsi.addKey, hc, hc2, hc2', ↓reduceIte]
        exact h
      · have hc2' : ¬ l.nprimary ≥ MAXKEYS := by rw [← h5]; exact hc2
        simp only [step, stepL, NewSsi.addKey, hc, hc2, hc2', ↓reduceIte]
        exact rep_appendKey _ l _ hme
  | addAlias a k =>
    by_cases hc2 : ns.nsecondary ≥ MAXKEYS
    · have hc2' : l.nsecondary ≥ MAXKEYS := by rw [← h6]; exact hc2
      simp only [step, stepL, NewSsi.addAlias, hc2, hc2', ↓reduceIte]
      exact h
    · have hc2' : ¬ l.nsecondary ≥ MAXKEYS := by rw [← h6]; exact hc2
      simp only [step, stepL, NewSsi.addAlias, hc2, hc2', ↓reduceIte]
      exact rep_appendAlias _ l _ hme
  | setMaxRam m =>
    simp only [step, stepL]
    exact { h with }

theorem rep_run (ops : List Op) : Rep (run ops) (logical ops) := by
  unfold run logical
  suffices ∀ ns l, Rep ns l → Rep (ops.foldl step ns) (ops.foldl stepL l) from this _ _ rep_init
  induction ops with
  | nil => intro ns l h; exact h
  | cons op ops ih => intro ns l h; exact ih _ _ (rep_step ns l op h)

theorem rep_writeBytes (ns l : NewSsi) (h : Rep ns l) :
    ns.writeBytes = if ns.external then l.toExternal.writeBytes else l.writeBytes := by
  obtain ⟨h0, h1, h2, h3, h4, h5, h6, h7, h8⟩ := h
  cases ns with
  | mk external' maxRam' files' flen' pkeys' plen' nprimary' ptmp' skeys' slen' nsecondary' stmp' written' =>
  cases l with
  | mk external maxRam files flen pkeys plen nprimary ptmp skeys slen nsecondary stmp written =>
  simp only at h0 h1 h2 h3 h4 h5 h6 h7 h8
  subst h0 h1 h2 h3 h4 h5 h6 h7
  rcases h8 with ⟨e1, e2, e3⟩ | ⟨e1, e2, e3⟩
  · subst e1 e2 e3
    simp only [Bool.false_eq_true, ↓reduceIte]
    rfl
  · subst e1 e2 e3
    simp only [↓reduceIte]
    rfl

theorem rep_write (ns l : NewSsi) (h : Rep ns l) (hl : ns.external = true → l.toExternal.writeBytes = l.writeBytes)
    (cur : Option Bytes) : (ns.write cur).2 = (l.write cur).2 := by
  have hw : ns.writeBytes = l.writeBytes := by
    rw [rep_writeBytes ns l h]
    cases he : ns.external
    · simp
    · simp [hl he]
  unfold NewSsi.write
  rw [h.nsecondary, h.slen, h.written, hw]
  split
  · rfl
  · split
    · rfl
    · split <;> rfl

/-- arguments in range: names and keys are NUL-free C strings shorter than 64 KB, keys and aliases are non-empty
    words over bytes above TAB/newline (printable non-blank characters are), numbers fit their C types -/
def Op.Valid : Op → Prop
  | .addFile name fmt => (0 : UInt8) ∉ name ∧ name.length < 65535 ∧ fmt < 2^32
  | .setSubseq _ bpl rpl => bpl < 2^32 ∧ rpl < 2^32
  | .addKey key _ r d len => key ≠ [] ∧ KeyChars key ∧ key.length < 65535 ∧ r < 2^64 ∧ d < 2^64 ∧ len < 2^64
  | .addAlias a k => a ≠ [] ∧ KeyChars a ∧ a.length < 65535 ∧ k ≠ [] ∧ KeyChars k
  | .setMaxRam _ => True

theorem KeyChars.no_nul {t : Bytes} (h : KeyChars t) : (0 : UInt8) ∉ t := by
  intro h0
  have := h 0 h0
  simp at this

theorem fileTail_aux (p acc : Bytes) :
    (∀ c ∈ p.foldl (fun (acc : Bytes) c => if c == 47 then [] else c :: acc) acc, c ∈ p ∨ c ∈ acc) ∧
    (p.foldl (fun (acc : Bytes) c => if c == 47 then [] else c :: acc) acc).length ≤ p.length + acc.length := by
  induction p generalizing acc with
  | nil => simp
  | cons x xs ih =>
    simp only [List.foldl_cons, List.length_cons]
    by_cases hx : (x == 47) = true
    · simp only [hx, ↓reduceIte]
      have := ih []
      constructor
      · intro c hc
        rcases this.1 c hc with h | h
        · exact .inl (by simp [h])
        · simp at h
      · have := this.2; simp only [List.length_nil] at this; omega
    · simp only [hx, Bool.false_eq_true, ↓reduceIte]
      have := ih (x :: acc)
      constructor
      · intro c hc
        rcases this.1 c hc with h | h
        · exact .inl (by simp [h])
        · rcases List.mem_cons.mp h with h | h
          · exact .inl (by simp [h])
          · exact .inr h
      · have := this.2; simp only [List.length_cons] at this; omega

theorem fileTail_mem (p : Bytes) : ∀ c ∈ fileTail p, c ∈ p := by
  intro c hc
  unfold fileTail at hc
  rw [List.mem_reverse] at hc
  rcases (fileTail_aux p []).1 c hc with h | h
  · exact h
  · simp at h

theorem fileTail_length (p : Bytes) : (fileTail p).length ≤ p.length := by
  unfold fileTail
  rw [List.length_reverse]
  have := (fileTail_aux p []).2
  simpa using this

theorem mem_modify {α : Type} (l : List α) (i : Nat) (f : α → α) : ∀ x ∈ l.modify i f, x ∈ l ∨ ∃ y ∈ l, x = f y := by
  induction l generalizing i with
  | nil => simp
  | cons a as ih =>
    intro x hx
    cases i with
    | zero =>
      simp only [List.modify_zero_cons, List.mem_cons] at hx
      rcases hx with rfl | hx
      · exact .inr ⟨a, by simp, rfl⟩
      · exact .inl (by simp [hx])
    | succ i =>
      simp only [List.modify_succ_cons, List.mem_cons] at hx
      rcases hx with rfl | hx
      · exact .inl (by simp)
      · rcases ih i x hx with h | ⟨y, hy, rfl⟩
        · exact .inl (by simp [h])
        · exact .inr ⟨y, by simp [hy], rfl⟩

/-- reduce projections of structure literals, then linear arithmetic -/
macro "dom" : tactic => `(tactic| ((try dsimp only at *); omega))

/-- invariant of the logical content after `n` valid calls -/
structure Inv (l : NewSsi) (n : Nat) : Prop where
  internal : l.external = false
  notWritten : l.written = false
  nprimary : l.nprimary = l.pkeys.length
  nsecondary : l.nsecondary = l.skeys.length
  nfiles : l.files.length ≤ 32767
  fname : ∀ f ∈ l.files, (0 : UInt8) ∉ f.name ∧ f.name.length < l.flen ∧ f.fmt < 2^32 ∧ f.bpl < 2^32 ∧ f.rpl < 2^32
  pkey : ∀ k ∈ l.pkeys, k.key ≠ [] ∧ KeyChars k.key ∧ k.key.length < l.plen ∧ k.fnum < 65536 ∧
            k.roff < 2^64 ∧ k.doff < 2^64 ∧ k.len < 2^64
  skey : ∀ a ∈ l.skeys, a.key ≠ [] ∧ KeyChars a.key ∧ a.key.length < l.slen ∧ a.pkey ≠ [] ∧ KeyChars a.pkey
  flen_le : l.flen ≤ 65535
  plen_le : l.plen ≤ 65535
  slen_le : l.slen ≤ 65535
  np_le : l.pkeys.length ≤ n
  nsec_le : l.skeys.length ≤ n

theorem inv_init : Inv {} 0 :=
  { internal := rfl, notWritten := rfl, nprimary := rfl, nsecondary := rfl, nfiles := (by simp),
    fname := (by intro f hf; cases hf), pkey := (by intro f hf; cases hf), skey := (by intro f hf; cases hf),
    flen_le := (by decide), plen_le := (by decide), slen_le := (by decide), np_le := (by simp), nsec_le := (by simp) }

theorem Inv.succ {l : NewSsi} {n : Nat} (h : Inv l n) : Inv l (n + 1) :=
  { h with np_le := Nat.le_succ_of_le h.np_le, nsec_le := Nat.le_succ_of_le h.nsec_le }

theorem inv_step (l : NewSsi) (n : Nat) (op : Op) (hv : op.Valid) (h : Inv l n) : Inv (stepL l op) (n + 1) := by
  cases op with
  | addFile name fmt =>
    obtain ⟨v1, v2, v3⟩ := hv
    by_cases hc : l.files.length ≥ MAXFILES
    · simp only [stepL, NewSsi.nfiles, hc, ↓reduceIte]
      exact h.succ
    · simp only [stepL, NewSsi.nfiles, hc, ↓reduceIte]
      have hfl := h.flen_le
      refine { internal := h.internal, notWritten := h.notWritten, nprimary := h.nprimary, nsecondary := h.nsecondary,
               nfiles := ?_, fname := ?_, pkey := h.pkey, skey := h.skey, flen_le := ?_, plen_le := h.plen_le,
               slen_le := h.slen_le, np_le := Nat.le_succ_of_le h.np_le, nsec_le := Nat.le_succ_of_le h.nsec_le }
      · simp only [MAXFILES] at hc; simp; omega
      · intro f hf
        simp only [List.mem_append, List.mem_singleton] at hf
        rcases hf with hf | rfl
        · have := h.fname f hf
          refine ⟨this.1, ?_, this.2.2⟩
          split <;> dom
        · refine ⟨fun h0 => v1 (fileTail_mem name 0 h0), ?_, v3, by dom, by dom⟩
          have := fileTail_length name
          simp only
          split <;> dom
      · simp only; split <;> dom
  | setSubseq fh bpl rpl =>
    obtain ⟨v1, v2⟩ := hv
    by_cases hc : fh ≥ l.files.length
    · simp only [stepL, NewSsi.nfiles, hc, ↓reduceIte]
      exact h.succ
    · by_cases hc2 : bpl = 0 ∨ rpl = 0
      · simp only [stepL, NewSsi.nfiles, hc, hc2, ↓reduceIte]
        exact h.succ
      · simp only [stepL, NewSsi.nfiles, hc, hc2, ↓reduceIte]
        refine { internal := h.internal, notWritten := h.notWritten, nprimary := h.nprimary, nsecondary := h.nsecondary,
                 nfiles := ?_, fname := ?_, pkey := h.pkey, skey := h.skey, flen_le := h.flen_le, plen_le := h.plen_le,
                 slen_le := h.slen_le, np_le := Nat.le_succ_of_le h.np_le, nsec_le := Nat.le_succ_of_le h.nsec_le }
        · simp; exact h.nfiles
        · intro f hf
          rcases mem_modify _ _ _ f hf with hf | ⟨g, hg, rfl⟩
          · exact h.fname f hf
          · have := h.fname g hg
            exact ⟨this.1, this.2.1, this.2.2.1, v1, v2⟩
  | addKey key fh r d len =>
    obtain ⟨v1, v2, v3, v4, v5, v6⟩ := hv
    by_cases hc : fh ≥ MAXFILES
    · simp only [stepL, hc, ↓reduceIte]
      exact h.succ
    · by_cases hc2 : l.nprimary ≥ MAXKEYS
      · simp only [stepL, hc, hc2, ↓reduceIte]
        exact h.succ
      · simp only [stepL, hc, hc2, ↓reduceIte]
        have hpl := h.plen_le
        refine { internal := h.internal, notWritten := h.notWritten, nprimary := ?_, nsecondary := h.nsecondary,
                 nfiles := h.nfiles, fname := h.fname, pkey := ?_, skey := h.skey, flen_le := h.flen_le, plen_le := ?_,
                 slen_le := h.slen_le, np_le := ?_, nsec_le := Nat.le_succ_of_le h.nsec_le }
        · simp [h.nprimary]
        · intro k hk
          simp only [List.mem_append, List.mem_singleton] at hk
          rcases hk with hk | rfl
          · have := h.pkey k hk
            refine ⟨this.1, this.2.1, ?_, this.2.2.2⟩
            split <;> dom
          · simp only [MAXFILES] at hc
            refine ⟨v1, v2, ?_, by dom, v4, v5, v6⟩
            simp only; split <;> dom
        · simp only; split <;> dom
        · have := h.np_le; simp; omega
  | addAlias a k =>
    obtain ⟨v1, v2, v3, v4, v5⟩ := hv
    by_cases hc2 : l.nsecondary ≥ MAXKEYS
    · simp only [stepL, hc2, ↓reduceIte]
      exact h.succ
    · simp only [stepL, hc2, ↓reduceIte]
      have hsl := h.slen_le
      refine { internal := h.internal, notWritten := h.notWritten, nprimary := h.nprimary, nsecondary := ?_,
               nfiles := h.nfiles, fname := h.fname, pkey := h.pkey, skey := ?_, flen_le := h.flen_le, plen_le := h.plen_le,
               slen_le := ?_, np_le := Nat.le_succ_of_le h.np_le, nsec_le := ?_ }
      · simp [h.nsecondary]
      · intro x hx
        simp only [List.mem_append, List.mem_singleton] at hx
        rcases hx with hx | rfl
        · have := h.skey x hx
          refine ⟨this.1, this.2.1, ?_, this.2.2.2⟩
          split <;> dom
        · refine ⟨v1, v2, ?_, v4, v5⟩
          simp only; split <;> dom
      · simp only; split <;> dom
      · have := h.nsec_le; simp; omega
  | setMaxRam m =>
    simp only [stepL]
    exact h.succ

theorem inv_logical (ops : List Op) (hv : ∀ op ∈ ops, op.Valid) : Inv (logical ops) ops.length := by
  unfold logical
  suffices ∀ l n, Inv l n → Inv (ops.foldl stepL l) (n + ops.length) by
    have := this _ _ inv_init
    simpa using this
  induction ops with
  | nil => intro l n h; exact h
  | cons op ops ih =>
    intro l n h
    have := ih (fun o ho => hv o (by simp [ho])) _ _ (inv_step l n op (hv op (by simp)) h)
    simp only [List.foldl_cons, List.length_cons]
    have e : n + (ops.length + 1) = n + 1 + ops.length := by omega
    rw [e]; exact this

theorem Inv.wf {l : NewSsi} {n : Nat} (h : Inv l n) (hf : l.files ≠ []) (hn : n < 2^40) : l.WF :=
  { internal := h.internal, notWritten := h.notWritten, nprimary := h.nprimary, nsecondary := h.nsecondary,
    files_ne := hf, nfiles := (by have := h.nfiles; omega), fname := h.fname,
    pkey := fun k hk => ⟨(h.pkey k hk).1, (h.pkey k hk).2.1.no_nul, (h.pkey k hk).2.2⟩,
    skey := fun a ha => ⟨(h.skey a ha).1, (h.skey a ha).2.1.no_nul, (h.skey a ha).2.2.1⟩,
    flen_lt := (by have := h.flen_le; omega), plen_lt := (by have := h.plen_le; omega), slen_lt := (by have := h.slen_le; omega),
    np_lt := (by have := h.np_le; omega), nsec_lt := (by have := h.nsec_le; omega) }

theorem Inv.extOK {l : NewSsi} {n : Nat} (h : Inv l n) : l.ExtOK :=
  { pchars := fun k hk => (h.pkey k hk).2.1,
    schars := fun a ha => ⟨(h.skey a ha).2.1, (h.skey a ha).2.2.2.1, (h.skey a ha).2.2.2.2.noDelim⟩ }

/-- **every history**: whatever the order of the calls and wherever the switch to the external sort happens, `Write`
    returns the status and leaves the file that `Write` of the in-memory logical content does -/
theorem run_write_eq_logical (ops : List Op) (hv : ∀ op ∈ ops, op.Valid) (hf : (logical ops).files ≠ [])
    (hn : ops.length < 2^40) (cur : Option Bytes) :
    (logical ops).WF ∧ ((run ops).write cur).2 = ((logical ops).write cur).2 := by
  have hi := inv_logical ops hv
  have hwf := hi.wf hf hn
  exact ⟨hwf, rep_write _ _ (rep_run ops) (fun _ => writeBytes_toExternal _ hwf hi.extOK) cur⟩

end EaselModel.Ssi
