import EaselModel.Ssi.Reader
/-! # The reader on ANY file contents (truncated, corrupted, unsorted)

Nothing here assumes that the bytes were produced by `esl_newssi_Write`: `d : Array UInt8` / `s : Ssi` are arbitrary. -/
namespace EaselModel.Ssi

theorem bsearchLoop_sound (rdName : Nat → Except St Bytes) (key : Bytes) (left right j : Nat)
    (h : bsearchLoop rdName key left right = .ok j) : rdName j = .ok key ∧ j ≤ max left right := by
  fun_induction bsearchLoop rdName key left right with
  | case1 | case3 | case5 | case6 => cases h
  | case2 l r mid name hr hc =>
    rw [← Except.ok.inj h]
    exact ⟨strcmp_eq_iff.mp hc ▸ hr, by omega⟩
  | case4 l r mid _ _ _ _ ih => exact ⟨(ih h).1, by have := (ih h).2; omega⟩
  | case7 l r mid _ _ _ _ _ ih => exact ⟨(ih h).1, by have := (ih h).2; omega⟩

theorem bsearchLoop_error (rdName : Nat → Except St Bytes) (key : Bytes) (left right : Nat) (e : St)
    (h : bsearchLoop rdName key left right = .error e) : e = .enotfound ∨ ∃ m, m ≤ max left right ∧ rdName m = .error e := by
  fun_induction bsearchLoop rdName key left right with
  | case1 l r mid e' hr => cases h; exact .inr ⟨mid, by omega, hr⟩
  | case2 => cases h
  | case3 | case5 | case6 => cases h; exact .inl rfl
  | case4 l r mid _ _ _ _ ih => exact (ih h).imp_right fun ⟨m, hm, hr⟩ => ⟨m, by omega, hr⟩
  | case7 l r mid _ _ _ _ _ ih => exact (ih h).imp_right fun ⟨m, hm, hr⟩ => ⟨m, by omega, hr⟩

theorem rdNameAt_error (d : Array UInt8) (klen base recsize mid : Nat) (e : St)
    (h : rdNameAt d klen base recsize mid = .error e) : e = .eformat ∧ readAt d (base + recsize * mid) klen = none := by
  unfold rdNameAt at h
  cases hr : readAt d (base + recsize * mid) klen with
  | none =>
    simp only [hr] at h
    injection h with h; exact ⟨h.symm, rfl⟩
  | some buf => simp [hr] at h

theorem bsearch_sound (d : Array UInt8) (key : Bytes) (klen base recsize maxidx pos : Nat)
    (h : bsearch d key klen base recsize maxidx = .ok pos) :
    ∃ j, j < maxidx ∧ rdNameAt d klen base recsize j = .ok key ∧ pos = base + recsize * j + klen := by
  unfold bsearch at h
  by_cases h0 : maxidx = 0
  · simp [h0] at h
  · simp only [h0, ↓reduceIte] at h
    cases hl : bsearchLoop (rdNameAt d klen base recsize) key 0 (maxidx - 1) with
    | error e => simp [hl] at h
    | ok mid =>
      simp only [hl] at h
      have := bsearchLoop_sound _ key 0 (maxidx - 1) mid hl
      injection h with h
      exact ⟨mid, by omega, this.1, h.symm⟩

theorem bsearch_error (d : Array UInt8) (key : Bytes) (klen base recsize maxidx : Nat) (e : St)
    (h : bsearch d key klen base recsize maxidx = .error e) :
    e = .enotfound ∨ (e = .eformat ∧ ∃ j, j < maxidx ∧ readAt d (base + recsize * j) klen = none) := by
  unfold bsearch at h
  by_cases h0 : maxidx = 0
  · simp only [h0, ↓reduceIte] at h
    left; injection h with h; exact h.symm
  · simp only [h0, ↓reduceIte] at h
    cases hl : bsearchLoop (rdNameAt d klen base recsize) key 0 (maxidx - 1) with
    | ok mid => simp [hl] at h
    | error e' =>
      simp only [hl] at h
      have he : e' = e := by injection h
      subst he
      rcases bsearchLoop_error _ key 0 (maxidx - 1) e' hl with h1 | ⟨m, hm1, hm2⟩
      · exact .inl h1
      · have := rdNameAt_error d klen base recsize m e' hm2
        exact .inr ⟨this.1, m, by omega, this.2⟩

/-- record `j` of the primary section holds the key `key` and the numbers `hit` -/
def Ssi.PrimaryRec (s : Ssi) (j : Nat) (key : Bytes) (hit : Hit) : Prop :=
  j < s.nprimary ∧ rdNameAt s.data s.plen s.poffset s.precsize j = .ok key ∧
    readHit s (s.poffset + s.precsize * j + s.plen) = .ok hit

/-- record `j` of the secondary section holds the alias `alias` and names the primary key `target` -/
def Ssi.AliasRec (s : Ssi) (j : Nat) (alias target : Bytes) : Prop :=
  j < s.nsecondary ∧ rdNameAt s.data s.slen s.soffset s.srecsize j = .ok alias ∧
    ∃ buf, readAt s.data (s.soffset + s.srecsize * j + s.slen) s.plen = some buf ∧ cstr buf = target

/-- `key` leads to the numbers `hit` through stored records only: a primary record carrying `key`, or an alias record
    carrying `key` whose target does -/
inductive Ssi.Resolves (s : Ssi) : Bytes → Hit → Prop
  | primary (j : Nat) (key : Bytes) (hit : Hit) : s.PrimaryRec j key hit → Ssi.Resolves s key hit
  | alias (j : Nat) (key target : Bytes) (hit : Hit) : s.AliasRec j key target → Ssi.Resolves s target hit →
      Ssi.Resolves s key hit

/-- the string `FindName` recurses on: `key` is not a primary key but an alias record carrying it is found, and that
    record's target field can be read -/
def Ssi.next (s : Ssi) (key : Bytes) : Option Bytes :=
  match bsearch s.data key s.plen s.poffset s.precsize s.nprimary with
  | .error .enotfound =>
    if s.nsecondary > 0 then
      match bsearch s.data key s.slen s.soffset s.srecsize s.nsecondary with
      | .ok pos =>
        match readAt s.data pos s.plen with
        | some buf => some (cstr buf)
        | none => none
      | .error _ => none
    else none
  | _ => none

/-- the answer `FindName` gives when it does not recurse -/
def Ssi.direct (s : Ssi) (key : Bytes) : Except St Hit :=
  match bsearch s.data key s.plen s.poffset s.precsize s.nprimary with
  | .ok pos => readHit s pos
  | .error .enotfound =>
    if s.nsecondary > 0 then
      match bsearch s.data key s.slen s.soffset s.srecsize s.nsecondary with
      | .error e => .error e
      | .ok pos =>
        match readAt s.data pos s.plen with
        | none => .error .eformat
        | some _ => .error .nohalt      -- not used: `next` is `some` here
    else .error .enotfound
  | .error e => .error e

/-- one level of `esl_ssi_FindName`: recurse on `next`, or answer `direct` -/
theorem findNameAux_step (s : Ssi) (fuel : Nat) (key : Bytes) :
    s.findNameAux (fuel + 1) key = match s.next key with
      | some k' => s.findNameAux fuel k'
      | none => s.direct key := by
  rw [Ssi.findNameAux]
  unfold Ssi.next Ssi.direct
  cases hb : bsearch s.data key s.plen s.poffset s.precsize s.nprimary with
  | ok pos => rfl
  | error e =>
    cases e
    case enotfound =>
      simp only []
      by_cases hn : s.nsecondary > 0
      · simp only [hn, ↓reduceIte]
        cases hb2 : bsearch s.data key s.slen s.soffset s.srecsize s.nsecondary with
        | error e2 => rfl
        | ok pos =>
          simp only []
          cases hr : readAt s.data pos s.plen <;> rfl
      · simp only [hn, ↓reduceIte]
    all_goals rfl

theorem readHit_error (s : Ssi) (pos : Nat) (e : St) (h : readHit s pos = .error e) : e = .eformat := by
  unfold readHit at h
  split at h
  · cases h
  · injection h with h; exact h.symm

theorem next_some (s : Ssi) (key t : Bytes) (h : s.next key = some t) : ∃ j, s.AliasRec j key t := by
  unfold Ssi.next at h
  split at h
  · split at h
    · split at h
      · rename_i pos hb2
        obtain ⟨j, hj, hrd, rfl⟩ := bsearch_sound _ _ _ _ _ _ _ hb2
        split at h
        · rename_i buf hra
          cases h
          exact ⟨j, hj, hrd, buf, hra, rfl⟩
        · cases h
      · cases h
    · cases h
  · cases h

theorem direct_ok (s : Ssi) (key : Bytes) (hit : Hit) (h : s.direct key = .ok hit) : ∃ j, s.PrimaryRec j key hit := by
  unfold Ssi.direct at h
  split at h
  · rename_i pos hb
    obtain ⟨j, hj, hrd, rfl⟩ := bsearch_sound _ _ _ _ _ _ _ hb
    exact ⟨j, hj, hrd, h⟩
  · split at h
    · split at h
      · cases h
      · split at h <;> cases h
    · cases h
  · cases h

theorem direct_error (s : Ssi) (key : Bytes) (e : St) (hn : s.next key = none) (h : s.direct key = .error e) :
    e = .enotfound ∨ e = .eformat := by
  unfold Ssi.next at hn
  unfold Ssi.direct at h
  split at h
  · exact .inr (readHit_error s _ e h)
  · rename_i hb
    rw [hb] at hn
    dsimp only at hn
    split at h
    · rename_i hpos
      rw [if_pos hpos] at hn
      split at h
      · rename_i e2 hb2
        cases h
        rcases bsearch_error _ _ _ _ _ _ _ hb2 with h1 | ⟨h1, _⟩
        · exact .inl h1
        · exact .inr h1
      · rename_i pos hb2
        rw [hb2] at hn
        dsimp only at hn
        split at h
        · cases h; exact .inr rfl
        · rename_i buf hra
          rw [hra] at hn
          cases hn
    · cases h; exact .inl rfl
  · rename_i e1 hne hb
    cases h
    rcases bsearch_error _ _ _ _ _ _ _ hb with h1 | ⟨h1, _⟩
    · exact .inl h1
    · exact .inr h1

theorem findName_sound (s : Ssi) (fuel : Nat) (key : Bytes) (hit : Hit) (h : s.findNameAux fuel key = .ok hit) :
    s.Resolves key hit := by
  induction fuel generalizing key with
  | zero => cases h
  | succ fuel ih =>
    rw [findNameAux_step] at h
    cases hn : s.next key with
    | some t =>
      rw [hn] at h
      obtain ⟨j, hrec⟩ := next_some s key t hn
      exact .alias j key t hit hrec (ih t h)
    | none =>
      rw [hn] at h
      obtain ⟨j, hrec⟩ := direct_ok s key hit h
      exact .primary j key hit hrec

theorem findName_status (s : Ssi) (fuel : Nat) (key : Bytes) (e : St) (h : s.findNameAux fuel key = .error e) :
    e = .enotfound ∨ e = .eformat ∨ e = .nohalt := by
  induction fuel generalizing key with
  | zero => cases h; exact .inr (.inr rfl)
  | succ fuel ih =>
    rw [findNameAux_step] at h
    cases hn : s.next key with
    | some t => rw [hn] at h; exact ih t h
    | none =>
      rw [hn] at h
      exact (direct_error s key e hn h).imp_right .inl

/-- no stored alias names another stored alias (the documented precondition of `AddAlias`, read off the bytes) -/
def Ssi.NoAliasChain (s : Ssi) : Prop :=
  ∀ j a t, s.AliasRec j a t → ∀ j' t', ¬ s.AliasRec j' t t'

/-- **termination**: when no stored alias names another stored alias, the recursion of `esl_ssi_FindName` is at most
    one level deep — two units of fuel are enough, whatever else the bytes are -/
theorem findName_halts (s : Ssi) (hc : s.NoAliasChain) (fuel : Nat) (key : Bytes) :
    s.findNameAux (fuel + 2) key ≠ .error .nohalt := by
  intro h
  have stop (k : Bytes) (hk : s.next k = none) (hd : s.direct k = .error .nohalt) : False := by
    rcases direct_error s k _ hk hd with h1 | h1 <;> cases h1
  rw [findNameAux_step] at h
  cases hn : s.next key with
  | none => rw [hn] at h; exact stop key hn h
  | some t =>
    rw [hn] at h
    dsimp only at h
    rw [findNameAux_step] at h
    obtain ⟨j, hrec⟩ := next_some s key t hn
    cases hn2 : s.next t with
    | none => rw [hn2] at h; exact stop t hn2 h
    | some t' =>
      obtain ⟨j', hrec'⟩ := next_some s t t' hn2
      exact hc j key t hrec j' t' hrec'

theorem openFiles_length (d : Array UInt8) (flen frecsize foffset n i : Nat) (l : List SsiFile)
    (h : openFiles d flen frecsize foffset n i = .ok l) : l.length = n := by
  induction n generalizing i l with
  | zero => simp [openFiles] at h; simp [← h]
  | succ n ih =>
    rw [openFiles] at h
    split at h
    · cases h
    · split at h
      · split at h
        · cases h
        · rename_i rest hrest
          injection h with h
          subst h
          simp [ih _ _ hrest]
      · cases h

theorem open_status (d : Array UInt8) :
    (∀ e, Ssi.open d = .error e → e = .eformat ∨ e = .erange) ∧
    (∀ s, Ssi.open d = .ok s → s.data = d ∧ 0 < s.nfiles ∧ s.files.length = s.nfiles ∧ (s.offsz = 4 ∨ s.offsz = 8)) := by
  constructor
  · intro e h
    rcases open_out d with ⟨s, _, hs, _⟩ | he | he
    · cases hs.symm.trans h
    · exact .inl (Except.error.inj (h.symm.trans he))
    · exact .inr (Except.error.inj (h.symm.trans he))
  · intro s h
    obtain ⟨_, o⟩ := open_ok d s h
    exact ⟨o.data, Nat.pos_of_ne_zero o.nfiles, openFiles_length _ _ _ _ _ _ _ o.files, o.offsz⟩

theorem findNumber_status (s : Ssi) (i : Int) (hlo : -(2:Int)^63 ≤ i) (hhi : i < (2:Int)^63) (hn : s.nprimary < 2^63) :
    (s.findNumber i = .error .enotfound ↔ (i < 0 ∨ (s.nprimary : Int) ≤ i)) ∧
    (∀ e, s.findNumber i = .error e → e = .enotfound ∨ e = .eformat) := by
  unfold Ssi.findNumber
  by_cases hneg : i < 0
  · have : (i + 18446744073709551616).toNat ≥ s.nprimary := by omega
    simp [hneg, this]
  · simp only [hneg, ↓reduceIte, false_or]
    by_cases hge : i.toNat ≥ s.nprimary
    · have : (s.nprimary : Int) ≤ i := by omega
      simp [hge, this]
    · have hlt : ¬ ((s.nprimary : Int) ≤ i) := by omega
      simp only [hge, ↓reduceIte, hlt, iff_false]
      cases hra : readAt s.data (s.poffset + s.precsize * i.toNat) s.plen with
      | none => simp
      | some buf =>
        simp only []
        cases hh : readHit s (s.poffset + s.precsize * i.toNat + s.plen) with
        | ok hit => simp
        | error e' =>
          have := readHit_error s _ e' hh
          subst this
          simp

theorem fileInfo_total (d : Array UInt8) (s : Ssi) (h : Ssi.open d = .ok s) (fh : Nat) :
    (fh < s.nfiles → ∃ f, s.fileInfo fh = .ok f ∧ s.files[fh]? = some f) ∧
    (s.nfiles ≤ fh → s.fileInfo fh = .error .einval) := by
  obtain ⟨_, _, hlen, _⟩ := (open_status d).2 s h
  unfold Ssi.fileInfo
  constructor
  · intro hlt
    have h1 : ¬ (fh ≥ s.nfiles) := by omega
    have h2 : fh < s.files.length := by omega
    simp [h1, List.getElem?_eq_getElem h2]
  · intro hge
    simp [hge]

theorem findSubseq_status (s : Ssi) (hfl : s.files.length = s.nfiles) (key : Bytes) (start : Int) (e : St)
    (h : s.findSubseq key start = .error e) :
    (s.findName key = .error e) ∨ e = .erange ∨ e = .eformat ∨ e = .einval := by
  unfold Ssi.findSubseq at h
  split at h
  · rename_i e' hf
    exact .inl (Except.error.inj h ▸ hf)
  · rename_i hit hf
    -- `if_pos` / `if_neg`, not `split`: `split` walks through the `let`s of the last branch at every level
    by_cases h1 : start < 1 ∨ start > toSigned hit.len
    · rw [if_pos h1] at h; exact .inr (.inl (Except.error.inj h).symm)
    rw [if_neg h1] at h
    by_cases h2 : hit.fh ≥ s.nfiles
    · rw [if_pos h2] at h; exact .inr (.inr (.inl (Except.error.inj h).symm))
    have hlt : hit.fh < s.files.length := by omega
    rw [if_neg h2, List.getElem?_eq_getElem hlt] at h
    dsimp only at h
    generalize s.files[hit.fh] = f at h
    by_cases h3 : hit.doff = 0 ∨ f.flags % 2 = 0
    · rw [if_pos h3] at h; cases h
    rw [if_neg h3] at h
    by_cases h4 : f.rpl = 0 ∨ f.bpl = 0
    · rw [if_pos h4] at h; exact .inr (.inr (.inr (Except.error.inj h).symm))
    rw [if_neg h4] at h
    split at h <;> cases h

section image
variable {ns : NewSsi} (h : ns.WF)
include h

/-- the primary records of the image as the reader sees them: record `j` holds the `j`-th key in sorted order -/
theorem primaryRec_image {j : Nat} {key : Bytes} {hit : Hit} (hp : ns.opened.PrimaryRec j key hit) :
    ∃ hj : j < (sortPKeys ns.pkeys).length, (sortPKeys ns.pkeys)[j].key = key ∧ hitOf (sortPKeys ns.pkeys)[j] = hit := by
  obtain ⟨hj, hrd, hh⟩ := hp
  have hj' : j < (sortPKeys ns.pkeys).length := by rw [sortP_len h]; exact hj
  have hk := reads_pkeys h j (by simpa using hj')
  have hhit := readHit_image h j hj'
  simp only [NewSsi.opened] at hrd hh hhit
  rw [hk] at hrd
  rw [hhit] at hh
  exact ⟨hj', by simpa using Except.ok.inj hrd, Except.ok.inj hh⟩

/-- the alias records of the image as the reader sees them: record `j` holds the `j`-th alias in sorted order and names what
    the `plen`-byte field keeps of its target -/
theorem aliasRec_image {j : Nat} {alias target : Bytes} (ha : ns.opened.AliasRec j alias target) :
    ∃ hj : j < (sortSKeys ns.skeys).length, (sortSKeys ns.skeys)[j].key = alias ∧
      cstr (strncpy ns.plen (sortSKeys ns.skeys)[j].pkey) = target := by
  obtain ⟨hj, hrd, buf, hbuf, hcs⟩ := ha
  have hj' : j < (sortSKeys ns.skeys).length := by rw [sortS_len h]; exact hj
  have hk := reads_skeys h j (by simpa using hj')
  simp only [NewSsi.opened] at hrd hbuf
  rw [hk] at hrd
  refine ⟨hj', by simpa using Except.ok.inj hrd, ?_⟩
  by_cases hpl : ns.plen = 0
  · rw [hpl, readAt_zero] at hbuf
    rw [← hcs, ← Option.some.inj hbuf, hpl]
    simp [strncpy]
  · rw [read_spkey h j hj' hpl] at hbuf
    rw [← hcs, ← Option.some.inj hbuf]

theorem image_noAliasChain (hd : ns.Distinct)
    (htg : ∀ a ∈ ns.skeys, ∃ k ∈ ns.pkeys, a.pkey = k.key) : ns.opened.NoAliasChain := by
  intro j a t hrec j' t' hrec'
  obtain ⟨hj, -, ht⟩ := aliasRec_image h hrec
  obtain ⟨hj', ht', -⟩ := aliasRec_image h hrec'
  -- the target of record j is a registered primary key; record j' carries it as an alias
  obtain ⟨k, hk, hak⟩ := htg _ (sortS_mem h (List.getElem_mem hj))
  have hpk := h.pkey k hk
  rw [hak, cstr_strncpy _ _ hpk.2.1 hpk.2.2.1] at ht
  exact hd.2.2 k hk _ (sortS_mem h (List.getElem_mem hj')) (ht.trans ht'.symm)

end image

end EaselModel.Ssi
