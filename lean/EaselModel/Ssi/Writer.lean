import EaselModel.Ssi.Layout
/-! # What `esl_newssi_Write` emits (sorting, duplicate detection, record bytes). -/
namespace EaselModel.Ssi

theorem strncpy_length (n : Nat) (k : Bytes) : (strncpy n k).length = n := by
  simp [strncpy]; omega

theorem strncpy_ne_nil {n : Nat} (hn : n ≠ 0) (k : Bytes) : strncpy n k ≠ [] :=
  fun h => hn (by rw [← strncpy_length n k, h]; rfl)

theorem cstr_strncpy (n : Nat) (k : Bytes) (h0 : (0 : UInt8) ∉ k) (hl : k.length < n) : cstr (strncpy n k) = k := by
  unfold cstr strncpy
  rw [List.take_of_length_le (by omega)]
  have hall : ∀ a ∈ k, (a != 0) = true := by
    intro a ha
    simp only [bne_iff_ne, ne_eq]
    rintro rfl; exact h0 ha
  rw [List.takeWhile_append_of_pos hall]
  obtain ⟨m, hm⟩ : ∃ m, n - k.length = m + 1 := ⟨n - k.length - 1, by omega⟩
  simp [hm, List.replicate_succ]

theorem cstr?_strncpy (n : Nat) (k : Bytes) (h0 : (0 : UInt8) ∉ k) (hl : k.length < n) : cstr? (strncpy n k) = some k := by
  have hmem : (0 : UInt8) ∈ strncpy n k := by
    obtain ⟨m, hm⟩ : ∃ m, n - k.length = m + 1 := ⟨n - k.length - 1, by omega⟩
    unfold strncpy
    rw [hm, List.replicate_succ]
    simp
  simp [cstr?, hmem, cstr_strncpy n k h0 hl]

theorem cstr_strncpy_nil (n : Nat) : cstr (strncpy n []) = [] := by
  cases n <;> simp [cstr, strncpy, List.replicate_succ]

theorem eq_of_nodup_map {α β : Type} (f : α → β) (l : List α) (hn : (l.map f).Nodup) {x y : α} (hx : x ∈ l) (hy : y ∈ l)
    (hxy : f x = f y) : x = y := by
  induction l with
  | nil => cases hx
  | cons a as ih =>
    rw [List.map_cons, List.nodup_cons] at hn
    rcases List.mem_cons.mp hx with rfl | hx' <;> rcases List.mem_cons.mp hy with rfl | hy'
    · rfl
    · exact absurd (List.mem_map.mpr ⟨y, hy', hxy.symm⟩) hn.1
    · exact absurd (List.mem_map.mpr ⟨x, hx', hxy⟩) hn.1
    · exact ih hn.2 hx' hy'

theorem keyLe_total (a b : Bytes) : (keyLe a b || keyLe b a) = true := by
  unfold keyLe
  rcases strcmp_cases a b with h | h | h
  · simp [h]
  · subst h; simp [strcmp_self]
  · simp [h]

theorem keyLe_iff {a b : Bytes} : keyLe a b = true ↔ strcmp a b = .lt ∨ a = b := by
  unfold keyLe
  rcases strcmp_cases a b with h | h | h
  · simp [h]
  · subst h; simp [strcmp_self]
  · have hgt : strcmp a b = .gt := strcmp_gt_iff.mpr h
    constructor
    · intro hk; simp [hgt] at hk
    · rintro (h' | rfl)
      · rw [hgt] at h'; cases h'
      · simp [strcmp_self] at h

theorem keyLe_trans {a b c : Bytes} (h1 : keyLe a b = true) (h2 : keyLe b c = true) : keyLe a c = true := by
  rw [keyLe_iff] at *
  rcases h1 with h1 | rfl
  · rcases h2 with h2 | rfl
    · exact .inl (strcmp_lt_trans h1 h2)
    · exact .inl h1
  · exact h2

theorem lt_of_keyLe_ne {a b : Bytes} (h : keyLe a b = true) (hne : a ≠ b) : strcmp a b = .lt := by
  rcases keyLe_iff.mp h with h | h
  · exact h
  · exact absurd h hne

/-- no key equals its predecessor (`p` = the string in the `pk` buffer before the loop) -/
def NoAdjDup : Bytes → List Bytes → Prop
  | _, [] => True
  | p, k :: ks => p ≠ k ∧ NoAdjDup k ks

instance : ∀ p l, Decidable (NoAdjDup p l)
  | _, [] => isTrue trivial
  | p, k :: ks => by
    unfold NoAdjDup
    have := instDecidableNoAdjDup k ks
    exact inferInstance

theorem strictSorted_of_noAdjDup (p : Bytes) (l : List Bytes) (hs : l.Pairwise (fun a b => keyLe a b = true))
    (h : NoAdjDup p l) : StrictSorted l := by
  induction l generalizing p with
  | nil => exact List.Pairwise.nil
  | cons k ks ih =>
    obtain ⟨_, h2⟩ := h
    rw [List.pairwise_cons] at hs
    have ihk := ih k hs.2 h2
    refine List.Pairwise.cons ?_ ihk
    intro x hx
    cases ks with
    | nil => simp at hx
    | cons k' ks' =>
      have hkk' : strcmp k k' = .lt := lt_of_keyLe_ne (hs.1 k' (by simp)) h2.1
      rcases List.mem_cons.mp hx with rfl | hx'
      · exact hkk'
      · exact strcmp_lt_trans hkk' ((List.pairwise_cons.mp ihk).1 x hx')

theorem noAdjDup_of_strictSorted (p : Bytes) (l : List Bytes) (hs : StrictSorted l) (hp : ∀ k ∈ l, p ≠ k) : NoAdjDup p l := by
  induction l generalizing p with
  | nil => trivial
  | cons k ks ih =>
    have hs' := List.pairwise_cons.mp hs
    exact ⟨hp k (by simp), ih k hs'.2 (fun x hx => strcmp_lt_ne (hs'.1 x hx))⟩

theorem strictSorted_iff_nodup (l : List Bytes) (hs : l.Pairwise (fun a b => keyLe a b = true)) :
    StrictSorted l ↔ l.Nodup := by
  constructor
  · exact StrictSorted.nodup
  · intro hn
    have := (List.nodup_iff_pairwise_ne.mp hn)
    exact (hs.and this).imp (fun ⟨h1, h2⟩ => lt_of_keyLe_ne h1 h2)

/-- on a `qsort`ed stream of non-empty keys the neighbour test of `Write` sees a duplicate iff there is one -/
theorem noAdjDup_iff_nodup (l : List Bytes) (hs : l.Pairwise (fun a b => keyLe a b = true)) (hne : ∀ k ∈ l, k ≠ []) :
    NoAdjDup [] l ↔ l.Nodup := by
  rw [← strictSorted_iff_nodup l hs]
  exact ⟨strictSorted_of_noAdjDup [] l hs, fun h => noAdjDup_of_strictSorted [] l h (fun k hk => (hne k hk).symm)⟩

def precOf (plen : Nat) (k : PKey) : Bytes := pkeyRecord (strncpy plen k.key) k
def srecOf (plen slen : Nat) (k : SKey) : Bytes := strncpy slen k.key ++ strncpy plen k.pkey

theorem writePKeys_spec (plen : Nat) (pk : Bytes) (l : List PKey)
    (hk : ∀ k ∈ l, (0 : UInt8) ∉ k.key ∧ k.key.length < plen) :
    writePKeys (fun k => Except.ok k) plen pk l =
      if NoAdjDup (cstr pk) (l.map (·.key)) then .ok (l.map (precOf plen)).flatten else .error .edup := by
  induction l generalizing pk with
  | nil => simp [writePKeys, NoAdjDup]
  | cons k ks ih =>
    have hk1 := hk k (by simp)
    simp only [writePKeys, List.map_cons, NoAdjDup, List.flatten_cons]
    by_cases heq : cstr pk = k.key
    · simp [heq, strcmp_self]
    · have hne : (strcmp (cstr pk) k.key == Ordering.eq) = false := by
        simp only [beq_eq_false_iff_ne, ne_eq]
        intro h; exact heq (strcmp_eq_iff.mp h)
      rw [hne]
      simp only [Bool.false_eq_true, ↓reduceIte]
      rw [ih (strncpy plen k.key) (fun x hx => hk x (by simp [hx])), cstr_strncpy plen k.key hk1.1 hk1.2]
      by_cases hn : NoAdjDup k.key (ks.map (·.key)) <;> simp [hn, heq, precOf]

theorem writeSKeys_spec (plen slen : Nat) (sk : Bytes) (l : List SKey)
    (hk : ∀ k ∈ l, (0 : UInt8) ∉ k.key ∧ k.key.length < slen) :
    writeSKeys (fun k => Except.ok k) plen slen sk l =
      if NoAdjDup (cstr sk) (l.map (·.key)) then .ok (l.map (srecOf plen slen)).flatten else .error .edup := by
  induction l generalizing sk with
  | nil => simp [writeSKeys, NoAdjDup]
  | cons k ks ih =>
    have hk1 := hk k (by simp)
    simp only [writeSKeys, List.map_cons, NoAdjDup, List.flatten_cons]
    by_cases heq : cstr sk = k.key
    · simp [heq, strcmp_self]
    · have hne : (strcmp (cstr sk) k.key == Ordering.eq) = false := by
        simp only [beq_eq_false_iff_ne, ne_eq]
        intro h; exact heq (strcmp_eq_iff.mp h)
      rw [hne]
      simp only [Bool.false_eq_true, ↓reduceIte]
      rw [ih (strncpy slen k.key) (fun x hx => hk x (by simp [hx])), cstr_strncpy slen k.key hk1.1 hk1.2]
      by_cases hn : NoAdjDup k.key (ks.map (·.key)) <;> simp [hn, heq, srecOf, List.append_assoc]

/-- no primary key is also an alias -/
def NoCommon (P : List PKey) (S : List SKey) : Prop := ∀ p ∈ P, ∀ s ∈ S, p.key ≠ s.key

instance (P : List PKey) (S : List SKey) : Decidable (NoCommon P S) := by unfold NoCommon; exact inferInstance

theorem NoCommon.perm {P P' : List PKey} {S S' : List SKey} (hp : P'.Perm P) (hs : S'.Perm S) :
    NoCommon P' S' ↔ NoCommon P S := by
  unfold NoCommon
  constructor
  · intro h p hpm s hsm; exact h p (hp.mem_iff.mpr hpm) s (hs.mem_iff.mpr hsm)
  · intro h p hpm s hsm; exact h p (hp.mem_iff.mp hpm) s (hs.mem_iff.mp hsm)

/-- the merge pass over two `strcmp`-sorted streams (repeated keys allowed) reports `eslEDUP` iff some key occurs in
    both -/
theorem crossDup_spec (P : List PKey) (S : List SKey)
    (hP : P.Pairwise (fun a b => keyLe a.key b.key = true)) (hS : S.Pairwise (fun a b => keyLe a.key b.key = true)) :
    crossDup (fun k => Except.ok k) (fun k => Except.ok k) P S = if NoCommon P S then .ok () else .error .edup := by
  generalize hn : P.length + S.length = n
  induction n using Nat.strongRecOn generalizing P S with
  | _ n ih =>
    cases P with
    | nil => simp [crossDup, NoCommon]
    | cons x xs =>
      cases S with
      | nil => simp [crossDup, NoCommon]
      | cons y ys =>
        have hP' := List.pairwise_cons.mp hP
        have hS' := List.pairwise_cons.mp hS
        rw [crossDup]
        simp only []
        rcases hc : strcmp x.key y.key with _ | _ | _
        · -- x < y: x is below every remaining alias
          simp only []
          rw [ih (xs.length + (y :: ys).length) (by subst hn; simp) xs (y :: ys) hP'.2 hS rfl]
          have hx : ∀ s ∈ y :: ys, x.key ≠ s.key := by
            intro s hs
            rcases List.mem_cons.mp hs with rfl | hs
            · exact strcmp_lt_ne hc
            · rcases keyLe_iff.mp (hS'.1 s hs) with h1 | h1
              · exact strcmp_lt_ne (strcmp_lt_trans hc h1)
              · rw [← h1]; exact strcmp_lt_ne hc
          have e : NoCommon (x :: xs) (y :: ys) ↔ NoCommon xs (y :: ys) := by
            unfold NoCommon
            constructor
            · intro h p hp; exact h p (by simp [hp])
            · intro h p hp
              rcases List.mem_cons.mp hp with rfl | hp
              · exact hx
              · exact h p hp
          by_cases hh : NoCommon xs (y :: ys) <;> simp [hh, e]
        · -- equal
          have : x.key = y.key := strcmp_eq_iff.mp hc
          have hno : ¬ NoCommon (x :: xs) (y :: ys) := fun h => h x (by simp) y (by simp) this
          simp [hno]
        · -- x > y: y is below every remaining primary key
          simp only []
          have hc' : strcmp y.key x.key = .lt := strcmp_gt_iff.mp hc
          rw [ih ((x :: xs).length + ys.length) (by subst hn; simp) (x :: xs) ys hP hS'.2 rfl]
          have hy : ∀ p ∈ x :: xs, p.key ≠ y.key := by
            intro p hp
            rcases List.mem_cons.mp hp with rfl | hp
            · exact (strcmp_lt_ne hc').symm
            · rcases keyLe_iff.mp (hP'.1 p hp) with h1 | h1
              · exact (strcmp_lt_ne (strcmp_lt_trans hc' h1)).symm
              · rw [← h1]; exact (strcmp_lt_ne hc').symm
          have e : NoCommon (x :: xs) (y :: ys) ↔ NoCommon (x :: xs) ys := by
            unfold NoCommon
            constructor
            · intro h p hp s hs; exact h p hp s (by simp [hs])
            · intro h p hp s hs
              rcases List.mem_cons.mp hs with rfl | hs
              · exact hy p hp
              · exact h p hp s hs
          by_cases hh : NoCommon (x :: xs) ys <;> simp [hh, e]

theorem sortPKeys_sorted (l : List PKey) : (sortPKeys l).Pairwise (fun a b => keyLe a.key b.key = true) :=
  List.pairwise_mergeSort (le := fun (a b : PKey) => keyLe a.key b.key)
    (fun _ _ _ h1 h2 => keyLe_trans h1 h2) (fun a b => keyLe_total a.key b.key) l

theorem sortSKeys_sorted (l : List SKey) : (sortSKeys l).Pairwise (fun a b => keyLe a.key b.key = true) :=
  List.pairwise_mergeSort (le := fun (a b : SKey) => keyLe a.key b.key)
    (fun _ _ _ h1 h2 => keyLe_trans h1 h2) (fun a b => keyLe_total a.key b.key) l

theorem sortPKeys_perm (l : List PKey) : (sortPKeys l).Perm l := List.mergeSort_perm l _
theorem sortSKeys_perm (l : List SKey) : (sortSKeys l).Perm l := List.mergeSort_perm l _

/-- Well-formed index under construction, in-memory form: what `AddFile/SetSubseq/AddKey/AddAlias` build from
    non-empty NUL-free keys and in-range numbers (`inv_logical`, `Inv.wf` in `Ssi/History.lean`), with generous size bounds
    (names and keys shorter than 64 KB, fewer than 2^40 keys). -/
structure NewSsi.WF (ns : NewSsi) : Prop where
  internal : ns.external = false
  notWritten : ns.written = false
  nprimary : ns.nprimary = ns.pkeys.length
  nsecondary : ns.nsecondary = ns.skeys.length
  files_ne : ns.files ≠ []
  nfiles : ns.files.length < 32768
  fname : ∀ f ∈ ns.files, (0 : UInt8) ∉ f.name ∧ f.name.length < ns.flen ∧ f.fmt < 2^32 ∧ f.bpl < 2^32 ∧ f.rpl < 2^32
  pkey : ∀ k ∈ ns.pkeys, k.key ≠ [] ∧ (0 : UInt8) ∉ k.key ∧ k.key.length < ns.plen ∧ k.fnum < 65536 ∧
            k.roff < 2^64 ∧ k.doff < 2^64 ∧ k.len < 2^64
  skey : ∀ a ∈ ns.skeys, a.key ≠ [] ∧ (0 : UInt8) ∉ a.key ∧ a.key.length < ns.slen
  flen_lt : ns.flen < 65536
  plen_lt : ns.plen < 65536
  slen_lt : ns.slen < 65536
  np_lt : ns.pkeys.length < 2^40
  nsec_lt : ns.skeys.length < 2^40

def NewSsi.fsec (ns : NewSsi) : Bytes := (ns.files.map (fileRecord ns.flen)).flatten
def NewSsi.psec (ns : NewSsi) : Bytes := ((sortPKeys ns.pkeys).map (precOf ns.plen)).flatten
def NewSsi.ssec (ns : NewSsi) : Bytes := ((sortSKeys ns.skeys).map (srecOf ns.plen ns.slen)).flatten
/-- the index file of a well-formed index with distinct keys -/
def NewSsi.image (ns : NewSsi) : Bytes := ns.header ++ ns.fsec ++ ns.psec ++ ns.ssec

/-- all keys of the index are distinct: no repeated primary key, no repeated alias, no alias that is also a primary key -/
def NewSsi.Distinct (ns : NewSsi) : Prop :=
  (ns.pkeys.map (·.key)).Nodup ∧ (ns.skeys.map (·.key)).Nodup ∧ NoCommon ns.pkeys ns.skeys

theorem NewSsi.distinct_iff_nodup (ns : NewSsi) :
    ns.Distinct ↔ (ns.pkeys.map (·.key) ++ ns.skeys.map (·.key)).Nodup := by
  unfold NewSsi.Distinct NoCommon
  rw [List.nodup_append]
  constructor
  · rintro ⟨h1, h2, h3⟩
    refine ⟨h1, h2, ?_⟩
    intro a ha b hb
    obtain ⟨p, hp, rfl⟩ := List.mem_map.mp ha
    obtain ⟨s, hs, rfl⟩ := List.mem_map.mp hb
    exact h3 p hp s hs
  · rintro ⟨h1, h2, h3⟩
    exact ⟨h1, h2, fun p hp s hs => h3 _ (List.mem_map.mpr ⟨p, hp, rfl⟩) _ (List.mem_map.mpr ⟨s, hs, rfl⟩)⟩

theorem WF.flen_pos {ns : NewSsi} (h : ns.WF) : 0 < ns.flen := by
  obtain ⟨f, hf⟩ := List.exists_mem_of_ne_nil _ h.files_ne
  have := (h.fname f hf).2.1
  omega

theorem noAdjDup_arrangement {α : Type} (key : α → Bytes) (P L : List α) (hL : L.Perm P)
    (sL : L.Pairwise (fun a b => keyLe (key a) (key b) = true)) (hne : ∀ k ∈ P, key k ≠ []) :
    NoAdjDup [] (L.map key) ↔ (P.map key).Nodup := by
  have hneL : ∀ k ∈ L.map key, k ≠ [] := by
    intro k hk; obtain ⟨x, hx, rfl⟩ := List.mem_map.mp hk; exact hne x (hL.mem_iff.mp hx)
  exact (noAdjDup_iff_nodup (L.map key) (List.pairwise_map.mpr sL) hneL).trans (hL.map _).nodup_iff

theorem pkeys_noAdjDup_iff {ns : NewSsi} (h : ns.WF) :
    NoAdjDup [] ((sortPKeys ns.pkeys).map (·.key)) ↔ (ns.pkeys.map (·.key)).Nodup :=
  noAdjDup_arrangement (·.key) ns.pkeys _ (sortPKeys_perm _) (sortPKeys_sorted _) (fun k hk => (h.pkey k hk).1)

theorem skeys_noAdjDup_iff {ns : NewSsi} (h : ns.WF) :
    NoAdjDup [] ((sortSKeys ns.skeys).map (·.key)) ↔ (ns.skeys.map (·.key)).Nodup :=
  noAdjDup_arrangement (·.key) ns.skeys _ (sortSKeys_perm _) (sortSKeys_sorted _) (fun k hk => (h.skey k hk).1)

theorem cross_internal (ns : NewSsi) :
    crossDup (fun k => Except.ok k) (fun k => Except.ok k) (sortPKeys ns.pkeys) (sortSKeys ns.skeys)
      = if NoCommon ns.pkeys ns.skeys then .ok () else .error .edup := by
  rw [crossDup_spec _ _ (sortPKeys_sorted ns.pkeys) (sortSKeys_sorted ns.skeys)]
  have := NoCommon.perm (sortPKeys_perm ns.pkeys) (sortSKeys_perm ns.skeys)
  by_cases hh : NoCommon ns.pkeys ns.skeys <;> simp [hh, this]

/-- what `esl_newssi_Write` does with an in-memory index: `eslEDUP` iff some key occurs twice (within a class, or as a
    primary key and as an alias), else the image -/
theorem writeBytes_internal (ns : NewSsi) (h : ns.WF) [Decidable ns.Distinct] :
    ns.writeBytes = if ns.Distinct then .ok ns.image else .error .edup := by
  have hfl : ns.flen ≠ 0 := by have := WF.flen_pos h; omega
  have hp : ∀ k ∈ sortPKeys ns.pkeys, (0 : UInt8) ∉ k.key ∧ k.key.length < ns.plen := by
    intro k hk
    have := h.pkey k ((sortPKeys_perm ns.pkeys).mem_iff.mp hk)
    exact ⟨this.2.1, this.2.2.1⟩
  have hs : ∀ k ∈ sortSKeys ns.skeys, (0 : UInt8) ∉ k.key ∧ k.key.length < ns.slen := by
    intro k hk
    have := h.skey k ((sortSKeys_perm ns.skeys).mem_iff.mp hk)
    exact ⟨this.2.1, this.2.2⟩
  unfold NewSsi.writeBytes
  simp only [hfl, ↓reduceIte, h.internal, Bool.false_eq_true, cross_internal]
  by_cases h0 : NoCommon ns.pkeys ns.skeys
  · simp only [h0, ↓reduceIte]
    rw [writePKeys_spec ns.plen _ _ hp, writeSKeys_spec ns.plen ns.slen _ _ hs, cstr_strncpy_nil, cstr_strncpy_nil]
    by_cases h1 : (ns.pkeys.map (·.key)).Nodup
    · by_cases h2 : (ns.skeys.map (·.key)).Nodup
      · have hd : ns.Distinct := ⟨h1, h2, h0⟩
        simp only [(pkeys_noAdjDup_iff h).mpr h1, (skeys_noAdjDup_iff h).mpr h2, hd, ↓reduceIte]
        rfl
      · have hd : ¬ ns.Distinct := fun hd => h2 hd.2.1
        have h2' : ¬ NoAdjDup [] ((sortSKeys ns.skeys).map (·.key)) := fun x => h2 ((skeys_noAdjDup_iff h).mp x)
        simp only [(pkeys_noAdjDup_iff h).mpr h1, h2', hd, ↓reduceIte]
    · have hd : ¬ ns.Distinct := fun hd => h1 hd.1
      have h1' : ¬ NoAdjDup [] ((sortPKeys ns.pkeys).map (·.key)) := fun x => h1 ((pkeys_noAdjDup_iff h).mp x)
      simp only [h1', hd, ↓reduceIte]
  · have hd : ¬ ns.Distinct := fun hd => h0 hd.2.2
    simp only [h0, hd, ↓reduceIte]

/-- `Write`'s first test (`nsecondary > 0 && slen == 0`: aliases but no room for them) never fires on an index the `Add*` calls
    built: every alias is shorter than `slen` -/
theorem slen_pos_of_aliases (ns : NewSsi) (h : ns.WF) : ¬ (ns.nsecondary > 0 ∧ ns.slen = 0) := by
  rintro ⟨ha, hb⟩
  rw [h.nsecondary] at ha
  obtain ⟨a, hmem⟩ := List.exists_mem_of_length_pos ha
  have := (h.skey a hmem).2.2
  omega

/-- `esl_newssi_Write` on an index the `Add*` calls built: status and file left on disk -/
theorem write_eq (ns : NewSsi) (h : ns.WF) (cur : Option Bytes) [Decidable ns.Distinct] :
    (ns.write cur).2 = if ns.Distinct then (none, some ns.image) else (some .edup, none) := by
  have h1 := slen_pos_of_aliases ns h
  unfold NewSsi.write
  simp only [h1, ↓reduceIte, h.notWritten, Bool.false_eq_true, writeBytes_internal ns h]
  by_cases hd : ns.Distinct <;> simp [hd]

theorem write_of_distinct (ns : NewSsi) (h : ns.WF) (cur : Option Bytes) (hd : ns.Distinct) :
    (ns.write cur).2 = (none, some ns.image) := by
  classical
  rw [write_eq ns h cur, if_pos hd]

theorem write_of_dup (ns : NewSsi) (h : ns.WF) (cur : Option Bytes) (hd : ¬ ns.Distinct) :
    (ns.write cur).2 = (some .edup, none) := by
  classical
  rw [write_eq ns h cur, if_neg hd]

/-- whenever `Write` leaves a file, the keys were distinct and the file is the image -/
theorem written_file (ns : NewSsi) (h : ns.WF) (cur : Option Bytes) (bytes : Bytes) (hw : (ns.write cur).2.2 = some bytes) :
    ns.Distinct ∧ bytes = ns.image := by
  by_cases hd : ns.Distinct
  · rw [write_of_distinct ns h cur hd] at hw; exact ⟨hd, (Option.some.inj hw).symm⟩
  · rw [write_of_dup ns h cur hd] at hw; cases hw

end EaselModel.Ssi
