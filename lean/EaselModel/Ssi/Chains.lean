import EaselModel.Ssi.Robust
/-! # What `esl_ssi_FindName` does on alias → alias chains and cycles (hand-made files)

`esl_ssi_FindName(key)` either answers without recursion (`direct`: a primary hit, `eslENOTFOUND`, `eslEFORMAT`) or finds
`key` in the secondary section and calls itself on the string stored there (`next`). The call tree is therefore a path
`key, next key, next (next key), …`; it ends after `d` links, or never (a cycle): the model's `nohalt` for every fuel, a stack
overflow in C. -/
namespace EaselModel.Ssi

/-- the `d`-th link of the path that starts at `key` (`none`: the path has ended before) -/
def Ssi.link (s : Ssi) (key : Bytes) : Nat → Option Bytes
  | 0 => some key
  | d + 1 => (s.link key d).bind s.next

theorem link_succ_of_next (s : Ssi) (key k' : Bytes) (h : s.next key = some k') (d : Nat) :
    s.link key (d + 1) = s.link k' d := by
  induction d with
  | zero => simp [Ssi.link, h]
  | succ d ih => rw [Ssi.link, ih, Ssi.link]

/-- **recursion depth.** If the path `key, next key, …` ends at its `d`-th link `last` (`next last = none`), then
    `FindName key` recurses exactly `d` levels deep and answers what the non-recursive lookup of `last` answers: every fuel
    above `d` gives that answer, every fuel up to `d` is exhausted. -/
theorem findName_depth (s : Ssi) (d : Nat) (key last : Bytes) (hl : s.link key d = some last) (he : s.next last = none) :
    (∀ fuel, d < fuel → s.findNameAux fuel key = s.direct last) ∧
    (∀ fuel, fuel ≤ d → s.findNameAux fuel key = .error .nohalt) := by
  induction d generalizing key with
  | zero =>
    simp only [Ssi.link, Option.some.injEq] at hl
    subst hl
    constructor
    · intro fuel hf
      obtain ⟨f, rfl⟩ : ∃ f, fuel = f + 1 := ⟨fuel - 1, by omega⟩
      rw [findNameAux_step, he]
    · intro fuel hf
      have : fuel = 0 := by omega
      subst this
      rfl
  | succ d ih =>
    cases hn : s.next key with
    | none =>
      -- the path ended at once: there is no `d+1`-th link
      have : s.link key (d + 1) = none := by
        clear hl ih
        induction d with
        | zero => simp [Ssi.link, hn]
        | succ d ihd => rw [Ssi.link, ihd]; rfl
      rw [this] at hl
      cases hl
    | some k' =>
      rw [link_succ_of_next s key k' hn d] at hl
      obtain ⟨h1, h2⟩ := ih k' hl
      constructor
      · intro fuel hf
        obtain ⟨f, rfl⟩ : ∃ f, fuel = f + 1 := ⟨fuel - 1, by omega⟩
        rw [findNameAux_step, hn]
        exact h1 f (by omega)
      · intro fuel hf
        cases fuel with
        | zero => rfl
        | succ f =>
          rw [findNameAux_step, hn]
          exact h2 f (by omega)

theorem findName_diverges (s : Ssi) (key : Bytes) (h : ∀ d, ∃ k, s.link key d = some k ∧ (s.next k).isSome) (fuel : Nat) :
    s.findNameAux fuel key = .error .nohalt := by
  induction fuel generalizing key with
  | zero => rfl
  | succ f ih =>
    obtain ⟨k0, hk0, hs0⟩ := h 0
    simp only [Ssi.link, Option.some.injEq] at hk0
    subst hk0
    obtain ⟨k', hk'⟩ := Option.isSome_iff_exists.mp hs0
    rw [findNameAux_step, hk']
    apply ih k'
    intro d
    obtain ⟨k, hk, hs⟩ := h (d + 1)
    rw [link_succ_of_next s key k' hk' d] at hk
    exact ⟨k, hk, hs⟩

theorem link_add (s : Ssi) (key k : Bytes) (n : Nat) (hn : s.link key n = some k) (m : Nat) :
    s.link key (n + m) = s.link k m := by
  induction m with
  | zero => simpa [Ssi.link] using hn
  | succ m ih => rw [← Nat.add_assoc, Ssi.link, ih, Ssi.link]

theorem cycle_never_ends (s : Ssi) (key : Bytes) (n : Nat) (hpos : 0 < n) (hc : s.link key n = some key) :
    ∀ d, ∃ k, s.link key d = some k ∧ (s.next k).isSome := by
  -- every link of a cycle exists
  have hall : ∀ d, (s.link key d).isSome := by
    intro d
    induction d using Nat.strongRecOn with
    | _ d ih =>
      by_cases hd : d < n
      · -- a prefix of the path up to the `n`-th link, which exists
        have : ∀ j, j ≤ n → (s.link key (n - j)).isSome := by
          intro j hj
          induction j with
          | zero => simp [hc]
          | succ j ihj =>
            have hprev := ihj (by omega)
            have e : n - j = (n - (j + 1)) + 1 := by omega
            rw [e, Ssi.link] at hprev
            cases hx : s.link key (n - (j + 1)) with
            | none => simp [hx] at hprev
            | some _ => rfl
        have := this (n - d) (by omega)
        have e : n - (n - d) = d := by omega
        rwa [e] at this
      · have e : d = n + (d - n) := by omega
        rw [e, link_add s key key n hc]
        exact ih (d - n) (by omega)
  intro d
  have h1 := hall d
  have h2 := hall (d + 1)
  obtain ⟨k, hk⟩ := Option.isSome_iff_exists.mp h1
  refine ⟨k, hk, ?_⟩
  rw [Ssi.link, hk] at h2
  simpa using h2

end EaselModel.Ssi
