import EaselModel.Sqio.Model
/-! # The block loader is a cursor over the file bytes, for every block size `B ≥ 1` (C04 block-size independence, C02 no fault)

`WF a`: block mode, no recording, the buffer is the window `[boff, boff+nc)` of the file that ends where the next `fread`
starts. `pos a = boff + bpos` is the absolute position of the cursor. `nextchar` moves it by exactly one byte and returns
`file[pos+1]`, or reports `eslEOF` exactly at the end of the file — whatever `B` is — and never touches memory outside the
buffer (`Status.fault` is not among the outcomes). -/
namespace EaselModel.Sqio.Refine

structure WF (a : Ascii) : Prop where
  block : a.linebased = false
  norec : a.recording ≠ 1
  bpos1 : 1 ≤ a.B
  full : a.mpos = a.mn
  moff0 : 0 ≤ a.moff
  fposEq : a.moff + a.mn = a.fpos
  fposLe : a.fpos ≤ a.file.size
  ncLe : a.nc ≤ a.mn
  boffEq : a.boff = a.moff + a.mn - a.nc
  bposLe : a.bpos ≤ a.nc

/-- absolute file position of the cursor -/
def pos (a : Ascii) : Int := a.boff + a.bpos

/-- state in which the next `loadbuf` must `fread` (after open / Position): nothing buffered -/
structure Pre (a : Ascii) : Prop where
  block : a.linebased = false
  norec : a.recording ≠ 1
  bpos1 : 1 ≤ a.B
  full : a.mpos ≥ a.mn
  fposLe : a.fpos ≤ a.file.size

/-- the block bookkeeping apart from the cursor -/
def blk (a : Ascii) : Bytes × Nat × Nat × Int × Nat × Nat × Int × Bool × Int × Nat :=
  (a.file, a.B, a.fpos, a.moff, a.mn, a.mpos, a.recording, a.linebased, a.boff, a.nc)

/-- well-formedness is a matter of the block bookkeeping and the cursor -/
theorem WF_of_blk {a b : Ascii} (h : blk b = blk a) (w : WF a) (hb : b.bpos ≤ b.nc) : WF b := by
  simp only [blk, Prod.mk.injEq] at h
  obtain ⟨h1, h2, h3, h4, h5, h6, h7, h8, h9, h10⟩ := h
  exact ⟨by rw [h8]; exact w.block, by rw [h7]; exact w.norec, by rw [h2]; exact w.bpos1, by rw [h6, h5]; exact w.full,
    by rw [h4]; exact w.moff0, by rw [h4, h5, h3]; exact w.fposEq, by rw [h3, h1]; exact w.fposLe, by rw [h10, h5]; exact w.ncLe,
    by rw [h9, h4, h5, h10]; exact w.boffEq, hb⟩

/-- a handle with the block bookkeeping of a well-formed one is about to `fread` (the cursor does not matter) -/
theorem Pre_of_blk {a b : Ascii} (h : blk b = blk a) (w : WF a) : Pre b := by
  simp only [blk, Prod.mk.injEq] at h
  obtain ⟨h1, h2, h3, _, h5, h6, h7, h8, _, _⟩ := h
  exact ⟨by rw [h8]; exact w.block, by rw [h7]; exact w.norec, by rw [h2]; exact w.bpos1,
    by rw [h6, h5, w.full]; exact Nat.le_refl _, by rw [h3, h1]; exact w.fposLe⟩

/-- what `loadbuf` does in block mode when `mem` is used up: one `fread` of `min B (size − fpos)` bytes at `fpos`. The right-hand
    side is the model's text with the three tests decided and nothing else done: `+ ((0 : Nat) : Int)`, `- 0`, `0 + …` are the
    model's offsets from the new `mpos = 0`, left so that the proof is one `simp`; the users simplify them away (`loadbuf_wf`,
    `WindowSpec.loadbuf_next`). -/
theorem loadbuf_block (a : Ascii) (h1 : a.linebased = false) (h2 : a.recording ≠ 1) (h3 : a.mpos ≥ a.mn) :
    loadbuf a =
      ({ a with memValid := true, recording := -1, moff := a.fpos, mn := min a.B (a.file.size - a.fpos),
                fpos := a.fpos + min a.B (a.file.size - a.fpos), boff := (a.fpos : Int) + ((0 : Nat) : Int), bpos := 0,
                nc := min a.B (a.file.size - a.fpos) - 0, mpos := 0 + (min a.B (a.file.size - a.fpos) - 0) },
       if (min a.B (a.file.size - a.fpos) - 0 == 0) = true then Status.eof else Status.ok) := by
  have h2' : (a.recording == 1) = false := by simpa using h2
  simp [loadbuf, loadmem, h1, h2', h3]

theorem loadbuf_wf (a : Ascii) (h : Pre a) : WF (loadbuf a).1 ∧ (loadbuf a).1.bpos = 0 ∧ (loadbuf a).1.file = a.file ∧
    (loadbuf a).1.B = a.B ∧ pos (loadbuf a).1 = a.fpos ∧
    ((loadbuf a).2 = .ok ∧ 0 < (loadbuf a).1.nc ∧ a.fpos < a.file.size ∨
     (loadbuf a).2 = .eof ∧ (loadbuf a).1.nc = 0 ∧ a.fpos = a.file.size) := by
  rw [loadbuf_block a h.block h.norec h.full]
  have hB := h.bpos1
  have hf := h.fposLe
  refine ⟨⟨h.block, by simp, hB, by simp, by simp, by simp, ?_, by simp, by simp, by simp⟩, rfl, rfl, rfl, by simp [pos], ?_⟩
  · simp only; omega
  · by_cases hz : min a.B (a.file.size - a.fpos) = 0
    · right; simp [hz]; omega
    · left; simp [hz]; omega

theorem bufGet_window (a : Ascii) (h : WF a) (i : Nat) (hi : i < a.nc) :
    ∃ x, a.bufGet i = some x ∧ a.file[(a.boff.toNat + i)]? = some x ∧ a.boff.toNat + i < a.file.size := by
  have h1 := h.fposEq; have h2 := h.fposLe; have h3 := h.ncLe; have h4 := h.boffEq; have h5 := h.moff0
  have hlt : a.boff.toNat + i < a.file.size := by omega
  refine ⟨a.file[a.boff.toNat + i], ?_, ?_, hlt⟩
  · simp [Ascii.bufGet, h.block, hi, hlt]
  · simp [hlt]

/-- `WF` states are `Pre` states once the buffer is exhausted (`mpos = mn` always holds in block mode) -/
theorem WF.toPre {a : Ascii} (h : WF a) : Pre a :=
  ⟨h.block, h.norec, h.bpos1, by rw [h.full]; exact Nat.le_refl _, h.fposLe⟩

theorem nextchar_eq_load (a : Ascii) (c : UInt8) (hc : a.nc = a.bpos + 1) :
    nextchar a c =
      (if (loadbuf { a with bpos := a.bpos + 1 }).2 != .ok then
         ((loadbuf { a with bpos := a.bpos + 1 }).1, (loadbuf { a with bpos := a.bpos + 1 }).2, c)
       else match (loadbuf { a with bpos := a.bpos + 1 }).1.bufGet (loadbuf { a with bpos := a.bpos + 1 }).1.bpos with
         | some x => ((loadbuf { a with bpos := a.bpos + 1 }).1, .ok, x)
         | none => ((loadbuf { a with bpos := a.bpos + 1 }).1, .fault, c)) := by
  unfold nextchar
  have hcond : (({ a with bpos := a.bpos + 1 } : Ascii).nc == ({ a with bpos := a.bpos + 1 } : Ascii).bpos) = true := by
    show (a.nc == a.bpos + 1) = true
    simp [hc]
  simp only [hcond, if_true]
  rfl

theorem nextchar_eq_stay (a : Ascii) (c : UInt8) (hc : a.nc ≠ a.bpos + 1) :
    nextchar a c =
      (match ({ a with bpos := a.bpos + 1 } : Ascii).bufGet (a.bpos + 1) with
       | some x => ({ a with bpos := a.bpos + 1 }, .ok, x)
       | none => ({ a with bpos := a.bpos + 1 }, .fault, c)) := by
  unfold nextchar
  have hcond : (({ a with bpos := a.bpos + 1 } : Ascii).nc == ({ a with bpos := a.bpos + 1 } : Ascii).bpos) = false := by
    show (a.nc == a.bpos + 1) = false
    simp [hc]
  simp only [hcond, Bool.false_eq_true, if_false]
  rfl

/-- **`nextchar` is "advance the cursor by one byte", for every `B ≥ 1`.** From a state whose cursor is on a byte of the
    buffer: either `eslOK`, the cursor is on the next byte of the *file* (possibly in a freshly read block) and that byte is
    returned; or `eslEOF`, exactly when the cursor was on the last byte of the file. `fault` is impossible. -/
theorem nextchar_refines (a : Ascii) (c : UInt8) (h : WF a) (hb : a.bpos < a.nc) :
    WF (nextchar a c).1 ∧ (nextchar a c).1.file = a.file ∧ (nextchar a c).1.B = a.B ∧
    (((nextchar a c).2.1 = .ok ∧ (nextchar a c).1.bpos < (nextchar a c).1.nc ∧ pos (nextchar a c).1 = pos a + 1 ∧
        a.file[(pos a + 1).toNat]? = some (nextchar a c).2.2) ∨
     ((nextchar a c).2.1 = .eof ∧ (nextchar a c).2.2 = c ∧ pos a + 1 = a.file.size ∧ (nextchar a c).1.nc = 0 ∧
        (nextchar a c).1.bpos = 0 ∧ pos (nextchar a c).1 = pos a + 1)) := by
  have hpos0 : 0 ≤ a.boff := by have := h.boffEq; have := h.ncLe; have := h.moff0; omega
  by_cases hlast : a.nc = a.bpos + 1
  · -- the buffer is used up: one fread
    have hpre : Pre { a with bpos := a.bpos + 1 } :=
      ⟨h.block, h.norec, h.bpos1, by show a.mpos ≥ a.mn; rw [h.full]; exact Nat.le_refl _, h.fposLe⟩
    obtain ⟨hwf, hbp, hfile, hB, hp, hcase⟩ := loadbuf_wf { a with bpos := a.bpos + 1 } hpre
    have hfp : ((a.fpos : Nat) : Int) = pos a + 1 := by
      have := h.fposEq; have := h.boffEq; have := h.ncLe; simp only [pos]; omega
    rw [nextchar_eq_load a c hlast]
    generalize loadbuf { a with bpos := a.bpos + 1 } = l at hwf hbp hfile hB hp hcase
    obtain ⟨a', st⟩ := l
    simp only at hwf hbp hfile hB hp hcase
    have hfile' : a'.file = a.file := hfile
    have hB' : a'.B = a.B := hB
    have hp' : pos a' = (a.fpos : Int) := hp
    rcases hcase with ⟨hst, hnc, hlt⟩ | ⟨hst, hnc, heq⟩
    · obtain ⟨x, hx1, hx2, _⟩ := bufGet_window a' hwf 0 (by omega)
      subst hst
      simp only [hbp, hx1, bne_self_eq_false, Bool.false_eq_true, if_false]
      refine ⟨hwf, hfile', hB', Or.inl ⟨trivial, ?_, ?_, ?_⟩⟩
      · omega
      · omega
      · have hboff : a'.boff = a.fpos := by simp only [pos, hbp] at hp'; simpa using hp'
        rw [hfile', hboff] at hx2
        have : (pos a + 1).toNat = a.fpos + 0 := by omega
        simp only [this]; simpa using hx2
    · subst hst
      simp only [bne_iff_ne, ne_eq, reduceCtorEq, not_false_eq_true, if_true]
      have hsz : (a.fpos : Int) = a.file.size := by exact_mod_cast heq
      refine ⟨hwf, hfile', hB', Or.inr ⟨trivial, trivial, ?_, hnc, hbp, ?_⟩⟩
      · omega
      · show pos a' = pos a + 1
        omega
  · -- stays inside the buffer
    have hlt : a.bpos + 1 < a.nc := by omega
    have hwf : WF { a with bpos := a.bpos + 1 } :=
      WF_of_blk (a := a) rfl h (by show a.bpos + 1 ≤ a.nc; omega)
    obtain ⟨x, hx1, hx2, _⟩ := bufGet_window _ hwf (a.bpos + 1) (by show a.bpos + 1 < a.nc; omega)
    rw [nextchar_eq_stay a c hlast]
    simp only [hx1]
    refine ⟨hwf, trivial, trivial, Or.inl ⟨trivial, by show a.bpos + 1 < a.nc; omega, by simp only [pos]; omega, ?_⟩⟩
    have hbo : ({ a with bpos := a.bpos + 1 } : Ascii).boff = a.boff := rfl
    have hfi : ({ a with bpos := a.bpos + 1 } : Ascii).file = a.file := rfl
    rw [hbo, hfi] at hx2
    have : (pos a + 1).toNat = a.boff.toNat + (a.bpos + 1) := by simp only [pos]; omega
    simp only [this]; exact hx2

end EaselModel.Sqio.Refine
