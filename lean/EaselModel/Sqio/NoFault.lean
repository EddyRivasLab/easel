import EaselModel.Sqio.Refine
import EaselModel.Sqio.Frame
import EaselModel.Sqio.Inmap
/-! # The buffer scanners never leave the buffer (C02) -/
namespace EaselModel.Sqio.NoFault
open EaselModel.Sqio.Refine

/-- every position inside the buffer is readable -/
def Rd (a : Ascii) : Prop := ∀ i, i < a.nc → ∃ x, a.bufGet i = some x

theorem WF.rd {a : Ascii} (h : WF a) : Rd a := fun i hi =>
  let ⟨x, hx, _, _⟩ := bufGet_window a h i hi; ⟨x, hx⟩

theorem inmap_get (m : Bytes) (hm : m.size = 128) (sym : UInt8) (hs : ¬ sym ≥ 128) : ∃ x, m[sym.toNat]? = some x := by
  have : sym.toNat < m.size := by
    rw [hm]
    have : sym < 128 := by simpa using hs
    exact this
  exact ⟨m[sym.toNat], by simp [this]⟩

theorem seebufLoop_safe (a : Ascii) (hr : Rd a) (hm : a.inmap.size = 128) (maxn bpos nres nres2 le : Nat) (trk : Track) (ln : Int)
    (hb : bpos ≤ a.nc) :
    (seebufLoop a maxn bpos nres nres2 le trk ln).1 ≠ .fault ∧
    bpos ≤ (seebufLoop a maxn bpos nres nres2 le trk ln).2.2.1 ∧ (seebufLoop a maxn bpos nres nres2 le trk ln).2.2.1 ≤ a.nc := by
  fun_induction seebufLoop a maxn bpos nres nres2 le trk ln
  case case1 => exfalso; rename_i h hx; obtain ⟨y, hy⟩ := hr _ h.2; simp [hy] at hx
  case case2 => refine ⟨by simp, Nat.le_refl _, ?_⟩; omega
  case case3 => exfalso; rename_i sym _ hlt hnone; obtain ⟨y, hy⟩ := inmap_get a.inmap hm sym hlt; simp [hy] at hnone
  case case4 => rename_i ih; have h3 := ih (by omega); exact ⟨h3.1, by omega, h3.2.2⟩
  case case5 => rename_i ih; simp only [dite_eq_ite] at ih; have h3 := ih (by omega); exact ⟨h3.1, by omega, h3.2.2⟩
  case case6 => refine ⟨by simp, Nat.le_refl _, ?_⟩; omega
  case case7 => refine ⟨by simp, Nat.le_refl _, ?_⟩; omega
  case case8 => refine ⟨by simp, Nat.le_refl _, ?_⟩; omega
  case case9 => rename_i ih; have h3 := ih (by omega); exact ⟨h3.1, by omega, h3.2.2⟩
  case case10 => refine ⟨by simp, Nat.le_refl _, ?_⟩; omega

theorem seebuf_loop (a : Ascii) (maxn : Option Nat) :
    (seebuf a maxn).2.st = (seebufLoop a (match maxn with | none => a.nc | some m => m) a.bpos 0 0 a.bpos a.trk a.linenumber).1 ∧
    (seebuf a maxn).2.endpos = (seebufLoop a (match maxn with | none => a.nc | some m => m) a.bpos 0 0 a.bpos a.trk a.linenumber).2.2.1 := by
  cases maxn <;> (simp only [seebuf]; split <;> simp)

/-- `seebuf()` never faults and stops inside the buffer, in either mode -/
theorem seebuf_nofault (a : Ascii) (hr : Rd a) (hm : a.inmap.size = 128) (hb : a.bpos ≤ a.nc) (maxn : Option Nat) :
    (seebuf a maxn).2.st ≠ .fault ∧ a.bpos ≤ (seebuf a maxn).2.endpos ∧ (seebuf a maxn).2.endpos ≤ a.nc := by
  have key := seebufLoop_safe a hr hm (match maxn with | none => a.nc | some m => m) a.bpos 0 0 a.bpos a.trk a.linenumber hb
  obtain ⟨f1, f2⟩ := seebuf_loop a maxn
  exact ⟨by rw [f1]; exact key.1, by rw [f2]; exact key.2.1, by rw [f2]; exact key.2.2⟩

/-- `seebuf()` itself: never a fault, `endpos` inside the buffer, and only bookkeeping fields change -/
theorem seebuf_safe (a : Ascii) (h : WF a) (hm : a.inmap.size = 128) (maxn : Option Nat) :
    (seebuf a maxn).2.st ≠ .fault ∧ a.bpos ≤ (seebuf a maxn).2.endpos ∧ (seebuf a maxn).2.endpos ≤ a.nc ∧
    WF (seebuf a maxn).1 ∧ (seebuf a maxn).1.bpos = a.bpos ∧ (seebuf a maxn).1.nc = a.nc ∧ (seebuf a maxn).1.boff = a.boff ∧
    (seebuf a maxn).1.file = a.file := by
  obtain ⟨k1, k2, k3⟩ := seebuf_nofault a (WF.rd h) hm h.bposLe maxn
  have e := Frame.seebuf_eq a maxn
  have f3 : (seebuf a maxn).1.bpos = a.bpos := (congrArg Ascii.bpos e).trans rfl
  have f4 : (seebuf a maxn).1.nc = a.nc := (congrArg Ascii.nc e).trans rfl
  exact ⟨k1, k2, k3, WF_of_blk (a := a) ((congrArg blk e).trans rfl) h (by rw [f3, f4]; exact h.bposLe), f3, f4,
    (congrArg Ascii.boff e).trans rfl, (congrArg Ascii.file e).trans rfl⟩

/-- residues for `seebuf` are residues for `addbuf`, and what `seebuf` skips `addbuf` skips: the digital-mode `addbuf` uses the
    alphabet's own input map while `seebuf` used the file's (`inmapFasta_digital`) -/
theorem tables_residue_class_agree :
    ∀ abc ∈ [1, 2, 3], ∀ c : Fin 128,
      ((inmapFasta abc).getD c.val 0 ≤ 127 → (abcInmap abc).getD c.val 255 ≤ 127) ∧
      (((inmapFasta abc).getD c.val 0 = Tables.dsqIgnored ∨ (inmapFasta abc).getD c.val 0 = Tables.dsqEol) → (abcInmap abc).getD c.val 0 > 127) ∧
      (inmapFasta abc).size = 128 := fun abc habc c =>
  ⟨(inmapFasta_digital abc habc c.val c.isLt 0 255).2.1, (inmapFasta_digital abc habc c.val c.isLt 0 0).2.2, inmapFasta_size abc⟩

theorem inmapFasta_text_size : (inmapFasta 0).size = 128 := inmapFasta_size 0

end EaselModel.Sqio.NoFault
