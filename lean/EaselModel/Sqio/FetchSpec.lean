import EaselModel.Sqio.WindowSpec
import EaselModel.Sqio.EchoSpec
import EaselModel.Sqio.Geometry
import EaselModel.Sqio.ScanRecord
/-! # `sqascii_FetchSubseq` = a slice of the record the sequential scan yields, for every block size (C07 clause 3) -/
namespace EaselModel.Sqio.FetchSpec
open EaselModel.Sqio EaselModel.Sqio.Refine EaselModel.Sqio.Fold EaselModel.Sqio.DataScan EaselModel.Sqio.Cursor
open EaselModel.Sqio.BodySpec EaselModel.Sqio.HeaderSpec EaselModel.Sqio.ReadSpec EaselModel.Sqio.ParseFasta
open EaselModel.Sqio.WindowSpec

theorem resOf_extract (inmap map : Bytes) (d : List UInt8) (i j : Nat) :
    (resOf inmap map d).extract i j =
      ((((d.filter (isRes inmap)).drop i).take (j - i)).map (fun c => map.getD c.toNat 0)).toArray := by
  simp [resOf, List.extract_toArray, List.extract_eq_take_drop, List.map_take, List.map_drop]

theorem window_slice (inmap map : Bytes) (lt D : List UInt8) (k p nres : Nat) (hn : 1 ≤ nres)
    (hland : ((lt.takeWhile (isData inmap)).filter (isRes inmap)).drop k = (D.filter (isRes inmap)).drop p)
    (hlen : p + nres ≤ (D.filter (isRes inmap)).length) :
    nresOf inmap (splitRes inmap lt (k + nres)).1 = k + nres ∧
    (resOf inmap map (splitRes inmap lt (k + nres)).1).extract k (nresOf inmap (splitRes inmap lt (k + nres)).1) =
      (resOf inmap map D).extract p (p + nres) := by
  have hl := congrArg List.length hland
  simp only [List.length_drop] at hl
  have hnr : nresOf inmap (splitRes inmap lt (k + nres)).1 = k + nres := by
    unfold nresOf
    rw [splitRes_filter, List.length_take]
    omega
  refine ⟨hnr, ?_⟩
  rw [hnr, resOf_extract, resOf_extract, splitRes_filter, List.drop_take, hland]
  have e1 : k + nres - k = nres := by omega
  have e2 : p + nres - p = nres := by omega
  rw [e1, e2, List.take_take, Nat.min_self]

/-- the offset `j` into the data `D` of a record (the file bytes from its `doff` on) LANDS, with `k` residues to skip, on residue
    index `p`: only data bytes lie in front of it, and its residues from the `k`-th on are the record's from the `p`-th on -/
def Lands (inmap : Bytes) (D : List UInt8) (j k p : Nat) : Prop :=
  (∀ c ∈ D.take j, isData inmap c = true) ∧
  (((D.drop j).takeWhile (isData inmap)).filter (isRes inmap)).drop k =
    ((D.takeWhile (isData inmap)).filter (isRes inmap)).drop p

theorem Lands.zero (inmap : Bytes) (D : List UInt8) (k : Nat) : Lands inmap D 0 k k :=
  ⟨fun _ hc => (nomatch hc), rfl⟩

/-- a stretch `X` of data bytes in front moves the offset by its length and the residue index by its residues -/
theorem Lands.append {inmap : Bytes} {X D : List UInt8} {j k p : Nat} (hX : ∀ c ∈ X, isData inmap c = true)
    (h : Lands inmap D j k p) : Lands inmap (X ++ D) (X.length + j) k ((X.filter (isRes inmap)).length + p) := by
  refine ⟨fun c hc => ?_, ?_⟩
  · rw [List.take_length_add_append] at hc
    exact (List.mem_append.mp hc).elim (hX c) (h.1 c)
  · rw [List.drop_length_add_append, List.takeWhile_append_of_pos hX, List.filter_append, ← List.drop_drop, List.drop_left]
    exact h.2

theorem Lands.lines {inmap : Bytes} {b r : Nat} {lines : List (List UInt8)} (hfull : Geometry.FullLines (isRes inmap) b r lines)
    (hdat : ∀ c ∈ lines.flatten, isData inmap c = true) (tail : List UInt8) (k : Nat) :
    Lands inmap (lines.flatten ++ tail) (lines.length * b) k (lines.length * r + k) := by
  have := Lands.append hdat (Lands.zero inmap tail k)
  rwa [hfull.length_flatten, hfull.count_flatten] at this

theorem Lands.lines_res {inmap : Bytes} {b r : Nat} {lines : List (List UInt8)} (hfull : Geometry.FullLines (isRes inmap) b r lines)
    (hdat : ∀ c ∈ lines.flatten, isData inmap c = true) {res : List UInt8} (hres : ∀ c ∈ res, isRes inmap c = true)
    (tail : List UInt8) {i : Nat} (hi : i ≤ res.length) :
    Lands inmap (lines.flatten ++ (res ++ tail)) (lines.length * b + i) 0 (lines.length * r + i) := by
  have hr : ∀ c ∈ res.take i, isRes inmap c = true := fun c hc => hres c (List.mem_of_mem_take hc)
  have h1 := Lands.append (fun c hc => isRes_isData inmap c (hr c hc)) (Lands.zero inmap (res.drop i ++ tail) 0)
  rw [List.filter_eq_self.mpr hr, List.length_take, Nat.min_eq_left hi, ← List.append_assoc, List.take_append_drop] at h1
  have := Lands.append hdat h1
  rwa [hfull.length_flatten, hfull.count_flatten] at this

/-- what `sqascii_Position(off)` returns for `off` inside the file: `eslOK` and a live cursor on the file bytes from `off` on, the
    rest of the handle as it was -/
structure Positioned (a : Ascii) (off : Nat) (r : Ascii × Status) : Prop where
  ok : r.2 = .ok
  cur : Cur r.1
  live : Sim.Live r.1
  rest : fileFrom r.1 = a.file.toList.drop off
  stat_eq : stat r.1 = stat a
  B_eq : r.1.B = a.B

theorem position_full (a : Ascii) (off : Nat) (hb : a.linebased = false) (hr : a.recording ≠ 1) (hB : 1 ≤ a.B)
    (hoff : off < a.file.size) : Positioned a off (position a off) := by
  obtain ⟨a1, hp, blk, ho⟩ := EchoSpec.position_block a off hb hr hB hoff
  have hpre : Pre { a with fpos := off, trk := a.trk.reset, linenumber := if off == 0 then 1 else -1, L := -1, mpos := a.mn } :=
    ⟨hb, hr, hB, Nat.le_refl _, Nat.le_of_lt hoff⟩
  have hrest : (position a off).1.trk = a.trk.reset ∧ stat (position a off).1 = stat a := by
    show (loadbuf _).1.trk = _ ∧ stat (loadbuf _).1 = _
    rw [loadbuf_block _ hpre.block hpre.norec hpre.full]
    exact ⟨rfl, rfl⟩
  rw [hp] at hrest ⊢
  have hlive : Sim.Live a1 := by unfold Sim.Live; have := blk.ncPos; have := blk.bpos0; omega
  have htok : Track.Ok a1.trk := by
    rw [hrest.1]; exact Track.Ok.of_inactive _ (by simp [Track.reset]) (by simp [Track.reset]) (Or.inl (by simp [Track.reset]))
  refine ⟨rfl, ⟨blk.wf, Or.inl hlive, htok⟩, hlive, ?_, hrest.2, blk.BEq⟩
  show (a1.file.toList.drop _) = _
  rw [blk.fileEq]
  congr 1
  simp only [pos, ho, blk.bpos0]
  omega

/-- **`Position` at a landing offset, then `read_nres`.** `s` is a record of the sequential scan and `off = s.doff + j` lands
    (`Lands`). Then on any block-mode handle on the file, `Position(off)` succeeds and `read_nres(k, n)` into an empty `ESL_SQ` with
    room for `n` residues returns `eslOK` and residues `p .. p + n` of the record. -/
theorem readNres_lands (bytes : Bytes) (abc : Nat) (habc : abc ∈ [0, 1, 2, 3]) (s : Sq) (hs : s ∈ (parseFasta abc bytes).1)
    (a : Ascii) (hf : a.file = bytes) (hb : a.linebased = false) (hr : a.recording ≠ 1) (hB : 1 ≤ a.B)
    (hi : a.inmap = inmapFasta abc) (heof : a.eofIsOk = true)
    (off j k p n : Nat) (hn : 1 ≤ n) (hpn : ((p + n : Nat) : Int) ≤ s.L) (hj : off = s.doff.toNat + j)
    (hl : Lands (inmapFasta abc) (bytes.toList.drop s.doff.toNat) j k p)
    (SQ : Sq) (hdig : SQ.digital = (abc != 0)) (hsabc : SQ.abc = abc) (hseq : SQ.seq = #[])
    (hcap : n + (if SQ.digital then 2 else 1) ≤ SQ.salloc) :
    (position a off).2 = .ok ∧
    readNres (position a off).1 SQ k n =
      ((readNres (position a off).1 SQ k n).1, { SQ with seq := s.seq.extract p (p + n) }, .ok, n) := by
  subst hf
  obtain ⟨hpre, hland⟩ := hl
  rw [List.drop_drop, ← hj] at hland
  have hin : a.file.toList.drop s.doff.toNat = (a.file.toList.drop s.doff.toNat).take j ++ a.file.toList.drop off := by
    rw [hj, ← List.drop_drop, List.take_append_drop]
  have R := record_shape a.file abc s hs
  have hL : s.L = ((((a.file.toList.drop s.doff.toNat).takeWhile (isData (inmapFasta abc))).filter (isRes (inmapFasta abc))).length : Int) := by
    rw [R.len, R.seq, resOf_size]
  -- the residues go on behind `off`, so `off` is inside the file
  have hoff : off < a.file.size := by
    have hl := congrArg List.length hland
    simp only [List.length_drop] at hl
    by_cases k : off < a.file.size
    · exact k
    · exfalso
      have : a.file.toList.drop off = [] := List.drop_eq_nil_of_le (by simp; omega)
      rw [this] at hl
      simp at hl
      omega
  have P := position_full a off hb hr hB hoff
  have p4 := P.rest
  have hi1 : (position a off).1.inmap = inmapFasta abc := (stat_inmap P.stat_eq).trans hi
  have hmap : mapOf (position a off).1 SQ = mapFor (inmapFasta abc) (freshSq abc) := by
    simp only [mapOf, mapFor, hi1, hdig, hsabc, freshSq]
    rfl
  obtain ⟨w1, w2⟩ := window_slice (inmapFasta abc) (mapFor (inmapFasta abc) (freshSq abc)) (a.file.toList.drop off)
    ((a.file.toList.drop s.doff.toNat).takeWhile (isData (inmapFasta abc))) k p n hn hland (by omega)
  obtain ⟨z1, z2, z3, _⟩ := readNres_spec (position a off).1 SQ k n P.cur.wf P.cur.tok (by rw [hi1]; exact inmapFasta_size abc)
    ((stat_eofIsOk P.stat_eq).trans heof) (by rw [hmap, hi1]; exact mapOk_fasta abc habc)
    (by rw [hi1, p4]; exact Clean_of_data_append _ _ _ hpre (by rw [← hin]; exact R.clean))
    (by rw [hseq]; simpa using hcap) (by rw [hi1, p4, w1]; omega)
  simp only [hi1, p4, hmap] at z2 z3
  rw [w2, ← R.seq, hseq] at z3
  rw [w1] at z2
  refine ⟨P.ok, Prod.ext rfl (Prod.ext ?_ (Prod.ext z1 ?_))⟩
  · rw [z3]; simp
  · rw [z2]; simp

theorem fetchSubseq_unfold (a : Ascii) (ssi : Ssi) (sq : Sq) (source : Bytes) (start end_ roff doff len actualStart : Int)
    (hfs : findSubseq ssi source start = .ok (roff, doff, len, actualStart))
    (he0 : end_ ≠ 0) (hse : start ≤ end_) (hlen : end_ ≤ len) (hlen0 : 0 < len) (hr0 : 0 ≤ roff)
    (a1 : Ascii) (hp1 : position a roff.toNat = (a1, .ok)) (a2 : Ascii) (sq1 : Sq) (hh : parseHeader a1 sq = (a2, sq1, .ok))
    (hd0 : doff ≠ 0) (a3 : Ascii) (hp3 : position a2 doff.toNat = (a3, .ok))
    (a4 : Ascii) (sq4 : Sq) (n : Nat)
    (hrn : readNres a3 (sq1.growTo (end_ - start + 1).toNat) (start - actualStart).toNat (end_ - start + 1).toNat = (a4, sq4, .ok, n))
    (hn : ¬ (n : Int) < end_ - start + 1) :
    fetchSubseq a ssi sq source start end_ =
      (a4, { sq4 with start := start, end_ := end_, C := 0, W := sq4.n, L := len,
                      name := source ++ #[47] ++ decBytes start ++ #[45] ++ decBytes end_, source := source }, .ok) := by
  have e1 : (Status.ok != Status.ok) = false := by decide
  have e2 : (Status.ok == Status.eof) = false := by decide
  have e3 : (Status.ok == Status.fault) = false := by decide
  have e4 : (Status.ok == Status.eformat) = false := by decide
  have h1 : (end_ == 0) = false := by simpa using he0
  have h2 : ¬ start > end_ := by omega
  have h3 : ¬ end_ > len := by omega
  have h4 : ¬ roff < 0 := by omega
  have h5 : (doff != 0) = true := by simpa using hd0
  unfold fetchSubseq
  simp only [hfs, h1, h2, h3, h4, h5, hp1, hh, hp3, hrn, hn, hlen0, e1, e2, e3, e4, Bool.false_eq_true, if_false, if_true,
    decide_false, decide_true, Bool.and_false, Bool.or_false]

/-- **`sqascii_FetchSubseq` = a slice of the scanned record, whenever the index lands.** `s` is a record of the sequential scan of
    the file; `findSubseq` returns the record's `roff`, its length, and some data offset `s.doff + rel` / `actualStart` that lands
    (`Lands`) with `start - actualStart` residues to skip on residue index `start - 1`. Then, for every block
    size, on any block-mode handle on the file, the fetch returns `eslOK` and residues `start..end_` of the record, with the
    coordinates, length, description, source and name `esl-sfetch` reports. -/
theorem fetchSubseq_of_lands (bytes : Bytes) (abc : Nat) (habc : abc ∈ [0, 1, 2, 3]) (s : Sq) (hs : s ∈ (parseFasta abc bytes).1)
    (ssi : Ssi) (key : Bytes) (start end_ rel actualStart : Int)
    (hfs : findSubseq ssi key start = .ok (s.roff, s.doff + rel, s.L, actualStart))
    (a : Ascii) (hf : a.file = bytes) (hb : a.linebased = false) (hr : a.recording ≠ 1) (hB : 1 ≤ a.B)
    (hi : a.inmap = inmapFasta abc) (hfmt : a.fmt = 1) (heof : a.eofIsOk = true)
    (sq : Sq) (hdig : sq.digital = (abc != 0)) (hsabc : sq.abc = abc) (hseq : sq.seq = #[]) (hna : 2 ≤ sq.nalloc) (hda : 2 ≤ sq.dalloc)
    (h1 : 1 ≤ start) (h2 : start ≤ end_) (h3 : end_ ≤ s.L) (hrel : 0 ≤ rel)
    (hl : Lands (inmapFasta abc) (bytes.toList.drop s.doff.toNat) rel.toNat (start - actualStart).toNat (start - 1).toNat) :
    (fetchSubseq a ssi sq key start end_).2.2 = .ok ∧
    (fetchSubseq a ssi sq key start end_).2.1.seq = s.seq.extract (start - 1).toNat end_.toNat ∧
    (fetchSubseq a ssi sq key start end_).2.1.start = start ∧ (fetchSubseq a ssi sq key start end_).2.1.end_ = end_ ∧
    (fetchSubseq a ssi sq key start end_).2.1.L = s.L ∧ (fetchSubseq a ssi sq key start end_).2.1.desc = s.desc ∧
    (fetchSubseq a ssi sq key start end_).2.1.source = key ∧
    (fetchSubseq a ssi sq key start end_).2.1.name = key ++ #[47] ++ decBytes start ++ #[45] ++ decBytes end_ := by
  subst hf
  have R := record_shape a.file abc s hs
  have r1 := R.roff_nonneg
  have r3 := R.doff_pos
  have P := position_full a s.roff.toNat hb hr hB (by have := R.roff_lt; omega)
  generalize hP1 : position a s.roff.toNat = P1 at P
  obtain ⟨a1, st1⟩ := P1
  obtain rfl : st1 = .ok := P.ok
  have p4 : fileFrom a1 = a.file.toList.drop s.roff.toNat := P.rest
  have p5 : stat a1 = stat a := P.stat_eq
  have hfile1 : a1.file = a.file := stat_file p5
  obtain ⟨q1, q2, _, _⟩ := headerFasta_spec a1 sq P.cur P.live hna hda
  rw [p4, hfile1] at q1 q2
  obtain ⟨g1, g2, _⟩ := R.header sq
  obtain ⟨c1, _, c3⟩ := q2 g1
  obtain ⟨k1, k2, k3, k4, _⟩ := headerL_keeps a.file.size sq (a.file.toList.drop s.roff.toNat)
  have hph : parseHeader a1 sq = ((headerFasta a1 sq).1, (headerL a.file.size sq (a.file.toList.drop s.roff.toNat)).2.1, .ok) := by
    rw [parseHeader_fasta a1 sq ((stat_fmt p5).trans hfmt)]
    have : headerFasta a1 sq = ((headerFasta a1 sq).1, (headerFasta a1 sq).2) := rfl
    rw [this, q1, g1]
  generalize (headerL a.file.size sq (a.file.toList.drop s.roff.toNat)).2.1 = sq1 at hph g2 k1 k2 k3 k4
  generalize headerFasta a1 sq = HF at hph c1 c3
  obtain ⟨a2, hf2⟩ := HF
  simp only at hph c1 c3
  have hst2 : stat a2 = stat a := c3.trans p5
  have hgrow := growTo_eq sq1 (end_ - start + 1).toNat
  obtain ⟨t1, hrn⟩ := readNres_lands a.file abc habc s hs a2 (stat_file hst2) c1.wf.block c1.wf.norec c1.wf.bpos1
    ((stat_inmap hst2).trans hi) ((stat_eofIsOk hst2).trans heof) (s.doff + rel).toNat rel.toNat (start - actualStart).toNat
    (start - 1).toNat (end_ - start + 1).toNat (by omega) (by omega) (Int.toNat_add (Int.le_of_lt r3) hrel) hl (sq1.growTo (end_ - start + 1).toNat)
    (by rw [hgrow]; exact k1.trans hdig) (by rw [hgrow]; exact k2.trans hsabc) (by rw [hgrow]; exact k3.trans hseq)
    (by rw [hgrow]; exact Nat.le_max_right _ _)
  rw [fetchSubseq_unfold a ssi sq key start end_ s.roff (s.doff + rel) s.L actualStart hfs (by omega) h2 h3 (by omega) r1 a1 hP1 a2 sq1 hph
    (by omega) _ (Prod.ext rfl t1) _ _ _ hrn (by omega)]
  have hend : (start - 1).toNat + (end_ - start + 1).toNat = end_.toNat := by omega
  refine ⟨rfl, ?_, rfl, rfl, rfl, ?_, rfl, rfl⟩
  · show s.seq.extract _ _ = _
    rw [hend]
  · show (sq1.growTo (end_ - start + 1).toNat).desc = s.desc
    rw [hgrow]; exact g2

/-- `esl_ssi_FindSubseq` for a start inside `1..L`: the addressing cases as one chain -/
theorem findSubseq_in_range (s : Ssi) (key : Bytes) (start : Int) (e : SsiEntry) (h : s.findName key = some e)
    (h1 : 1 ≤ start) (h2 : start ≤ e.len) :
    findSubseq s key start =
      if e.doff = 0 ∨ s.fast = false then .ok (e.roff, e.doff, e.len, 1)
      else if s.rpl = 0 ∨ s.bpl = 0 then .error .einval
      else if s.bpl = s.rpl + 1 then .ok (e.roff, e.doff + (start - 1) / s.rpl * s.bpl + (start - 1) % s.rpl, e.len, start)
      else .ok (e.roff, e.doff + (start - 1) / s.rpl * s.bpl, e.len, 1 + (start - 1) / s.rpl * s.rpl) := by
  have hn : (decide (start < 1) || decide (start > e.len)) = false := by simp; omega
  simp only [findSubseq, h, hn]
  simp

theorem findSubseq_brute (ssi : Ssi) (key : Bytes) (start : Int) (e : SsiEntry) (he : ssi.findName key = some e)
    (hfast : ssi.fast = false) (h1 : 1 ≤ start) (h2 : start ≤ e.len) :
    findSubseq ssi key start = .ok (e.roff, e.doff, e.len, 1) := by
  rw [findSubseq_in_range ssi key start e he h1 h2]; simp [hfast]

theorem findSubseq_line (ssi : Ssi) (key : Bytes) (start : Int) (e : SsiEntry) (he : ssi.findName key = some e)
    (hfast : ssi.fast = true) (hd : e.doff ≠ 0) (hr : ssi.rpl ≠ 0) (hb : ssi.bpl ≠ 0) (hne : ssi.bpl ≠ ssi.rpl + 1)
    (h1 : 1 ≤ start) (h2 : start ≤ e.len) :
    findSubseq ssi key start =
      .ok (e.roff, e.doff + (start - 1) / ssi.rpl * ssi.bpl, e.len, 1 + (start - 1) / ssi.rpl * ssi.rpl) := by
  rw [findSubseq_in_range ssi key start e he h1 h2]; simp [hfast, hd, hr, hb, hne]

theorem findSubseq_residue (ssi : Ssi) (key : Bytes) (start : Int) (e : SsiEntry) (he : ssi.findName key = some e)
    (hfast : ssi.fast = true) (hd : e.doff ≠ 0) (hr : ssi.rpl ≠ 0) (hb0 : ssi.bpl ≠ 0) (hb : ssi.bpl = ssi.rpl + 1)
    (h1 : 1 ≤ start) (h2 : start ≤ e.len) :
    findSubseq ssi key start =
      .ok (e.roff, e.doff + (start - 1) / ssi.rpl * ssi.bpl + (start - 1) % ssi.rpl, e.len, start) := by
  rw [findSubseq_in_range ssi key start e he h1 h2, if_neg (by simp [hfast, hd]), if_neg (by simp [hr, hb0]), if_pos hb]

theorem div_mod_cast (start : Int) (h1 : 1 ≤ start) (r : Nat) :
    (start - 1) / (r : Int) = (((start.toNat - 1) / r : Nat) : Int) ∧ (start - 1) % (r : Int) = (((start.toNat - 1) % r : Nat) : Int) := by
  have e1 : start - 1 = ((start.toNat - 1 : Nat) : Int) := by omega
  rw [e1]
  exact ⟨(Int.natCast_ediv _ _).symm, (Int.natCast_emod _ _).symm⟩

/-- **landing under line addressing.** The data `D` of a record begin with `(start−1)/r` complete lines of `b` bytes holding `r`
    residues each, all of them data bytes. Then the offset `(start−1)/r·b` that `esl_ssi_FindSubseq` / `subseqOffset` compute lands,
    with `actualStart = 1 + (start−1)/r·r`. -/
theorem lands_line (inmap : Bytes) (D : List UInt8) (start : Int) (h1 : 1 ≤ start) (b r : Nat)
    (lines : List (List UInt8)) (tail : List UInt8) (hgeo : D = lines.flatten ++ tail)
    (hfull : Geometry.FullLines (isRes inmap) b r lines) (hdat : ∀ c ∈ lines.flatten, isData inmap c = true)
    (hl : lines.length = (start.toNat - 1) / r) :
    0 ≤ (start - 1) / (r : Int) * (b : Int) ∧
    Lands inmap D ((start - 1) / (r : Int) * (b : Int)).toNat (start - (1 + (start - 1) / (r : Int) * (r : Int))).toNat
      (start - 1).toNat := by
  have hle : lines.length * r ≤ start.toNat - 1 := by rw [hl]; exact Nat.div_mul_le_self _ _
  have hk : (start - (1 + ((lines.length * r : Nat) : Int))).toNat = start.toNat - 1 - lines.length * r := by omega
  have hp : (start - 1).toNat = lines.length * r + (start.toNat - 1 - lines.length * r) := by omega
  rw [(div_mod_cast start h1 r).1, ← hl, ← Int.natCast_mul, ← Int.natCast_mul, Int.toNat_natCast, hk, hp, hgeo]
  exact ⟨Int.natCast_nonneg _, Lands.lines hfull hdat tail _⟩

/-- **landing under residue addressing** (`b = r + 1`): moreover the line holding residue `start` begins with at least
    `(start−1) % r` residues `res`; the offset `(start−1)/r·(r+1) + (start−1) % r` lands exactly on residue `start` -/
theorem lands_residue (inmap : Bytes) (D : List UInt8) (start : Int) (h1 : 1 ≤ start) (r : Nat)
    (lines : List (List UInt8)) (res tail : List UInt8) (hgeo : D = lines.flatten ++ (res ++ tail))
    (hfull : Geometry.FullLines (isRes inmap) (r + 1) r lines) (hdat : ∀ c ∈ lines.flatten, isData inmap c = true)
    (hres : ∀ c ∈ res, isRes inmap c = true) (hj : (start.toNat - 1) % r ≤ res.length) (hl : lines.length = (start.toNat - 1) / r) :
    0 ≤ (start - 1) / (r : Int) * ((r + 1 : Nat) : Int) + (start - 1) % (r : Int) ∧
    Lands inmap D ((start - 1) / (r : Int) * ((r + 1 : Nat) : Int) + (start - 1) % (r : Int)).toNat (start - start).toNat
      (start - 1).toNat := by
  obtain ⟨hq, hm⟩ := div_mod_cast start h1 r
  have hdm := Nat.div_add_mod (start.toNat - 1) r
  have hp : (start - 1).toNat = lines.length * r + (start.toNat - 1) % r := by rw [hl, Nat.mul_comm]; omega
  rw [hq, hm, ← hl, ← Int.natCast_mul, ← Int.natCast_add, Int.toNat_natCast, Int.sub_self, Int.toNat_zero, hp, hgeo]
  exact ⟨Int.natCast_nonneg _, Lands.lines_res hfull hdat hres tail hj⟩

theorem fetchSubseq_erange (a : Ascii) (ssi : Ssi) (sq : Sq) (key : Bytes) (start end_ roff doff len actualStart : Int)
    (hfs : findSubseq ssi key start = .ok (roff, doff, len, actualStart)) (he0 : end_ ≠ 0)
    (h : start > end_ ∨ (0 < len ∧ end_ > len)) :
    (fetchSubseq a ssi sq key start end_).2.2 = .erange := by
  have h1 : (end_ == 0) = false := by simpa using he0
  unfold fetchSubseq
  simp only [hfs, h1, Bool.false_eq_true, if_false]
  by_cases hc : start > end_
  · simp only [hc, if_true]
  · simp only [hc, if_false]
    rcases h with k | ⟨k1, k2⟩
    · exact absurd k hc
    · simp [k1, k2]

/-! ## non-vacuity: `>a\nACGT\nACGT\nAC\n` and `>a\nACGT \nACGT \nAC\n`, fetched through 2-byte blocks -/

def demoA : Bytes := #[62, 97, 10, 65, 67, 71, 84, 10, 65, 67, 71, 84, 10, 65, 67, 10]
def demoB : Bytes := #[62, 97, 10, 65, 67, 71, 84, 32, 10, 65, 67, 71, 84, 32, 10, 65, 67, 10]
def demoEntry : SsiEntry := ⟨#[97], 0, 3, 10⟩
def hA : Ascii := { file := demoA, B := 2, inmap := inmapFasta 0, fmt := 1, eofIsOk := true }
def hB : Ascii := { file := demoB, B := 2, inmap := inmapFasta 0, fmt := 1, eofIsOk := true }

/-- the scan of `demoA`, evaluated once (over the written-out text-mode map, as in all evaluations below) -/
theorem demoA_scan : ((parseFasta 0 demoA).1.map fun s => (s.roff, s.doff, s.L, s.seq)) =
    [(0, 3, 10, #[65, 67, 71, 84, 65, 67, 71, 84, 65, 67])] := by
  rw [parseFasta, inmapFasta_text]; decide +kernel

example : ((parseFasta 0 demoA).1.map fun s => (s.roff, s.doff, s.L, s.seq)) = [(0, 3, 10, #[65, 67, 71, 84, 65, 67, 71, 84, 65, 67])] ∧
    ((parseFasta 0 demoB).1.map fun s => (s.roff, s.doff, s.L)) = [(0, 3, 10)] :=
  ⟨demoA_scan, by rw [parseFasta, inmapFasta_text]; decide +kernel⟩

/-- brute force, residue addressing (`bpl = 5 = rpl + 1`) and line addressing (`bpl = 6`, `rpl = 4`): residues 3..7 / 6..9 -/
example : ((fetchSubseq hA { prim := #[demoEntry] } {} #[97] 3 7).2.2, (fetchSubseq hA { prim := #[demoEntry] } {} #[97] 3 7).2.1.seq) =
    (Status.ok, #[71, 84, 65, 67, 71]) := by rw [hA, inmapFasta_text]; decide +kernel
example : ((fetchSubseq hA { prim := #[demoEntry], fast := true, bpl := 5, rpl := 4 } {} #[97] 3 7).2.2,
    (fetchSubseq hA { prim := #[demoEntry], fast := true, bpl := 5, rpl := 4 } {} #[97] 3 7).2.1.seq) =
    (Status.ok, #[71, 84, 65, 67, 71]) := by rw [hA, inmapFasta_text]; decide +kernel
example : ((fetchSubseq hB { prim := #[demoEntry], fast := true, bpl := 6, rpl := 4 } {} #[97] 6 9).2.2,
    (fetchSubseq hB { prim := #[demoEntry], fast := true, bpl := 6, rpl := 4 } {} #[97] 6 9).2.1.seq) =
    (Status.ok, #[67, 71, 84, 65]) := by rw [hB, inmapFasta_text]; decide +kernel
example : (fetchSubseq hA { prim := #[demoEntry] } {} #[97] 3 11).2.2 = .erange := by rw [hA, inmapFasta_text]; decide +kernel

/-- the geometry hypothesis of `Props.C07.fetchSubseq_eq_scan_slice_line` for `demoB`, `start = 6`: one complete line `ACGT \n` -/
example : Geometry.FullLines (isRes (inmapFasta 0)) 6 4 [[65, 67, 71, 84, 32, 10]] ∧ [[65, 67, 71, 84, 32, 10]].length = ((6 : Int).toNat - 1) / 4 ∧
    demoB.toList.drop 3 = [[65, 67, 71, 84, 32, 10]].flatten ++ [65, 67, 71, 84, 32, 10, 65, 67, 10] := by
  rw [inmapFasta_text]
  refine ⟨⟨?_, ?_⟩, by decide, by decide⟩ <;> (intro ln h; simp at h; subst h; decide +kernel)

end EaselModel.Sqio.FetchSpec
