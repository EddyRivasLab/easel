import EaselModel.Sqio.WindowSpec
import EaselModel.Sqio.WinSpecPure
/-! # Forward `sqascii_ReadWindow` series = the declarative windows of the residues that `sqascii_Read` returns (C04)

`winTail`: the part of `sqascii_ReadWindow` (forward strand) after the header has been parsed (first call) or the context has been slid
to the front (later calls): `GrowTo(C+W)`, `read_nres(0, W)`, `L += nres`, end-of-data handling. `winTail_out` says what it does on
any bytes; the step of the series on clean data (`winTail_step`, on the invariant `InWin`) and totality (`WindowTotal.winTail_total`)
are read off it. -/
namespace EaselModel.Sqio.WindowSeries
open EaselModel.Sqio.Refine EaselModel.Sqio.Fold EaselModel.Sqio.DataScan EaselModel.Sqio.Cursor EaselModel.Sqio.BodySpec
open EaselModel.Sqio.HeaderSpec EaselModel.Sqio.ReadSpec EaselModel.Sqio.WindowSpec EaselModel.Sqio.WinSpecPure

/-- where `splitRes` cuts relative to the run of data bytes, for any `l` -/
theorem sr_prefix (inmap : Bytes) (l : List UInt8) (n : Nat) :
    ∃ t, l.takeWhile (isData inmap) = (splitRes inmap l n).1 ++ t ∧ (splitRes inmap l n).2 = t ++ l.dropWhile (isData inmap) ∧
      nresOf inmap (splitRes inmap l n).1 ≤ n ∧ (nresOf inmap (splitRes inmap l n).1 < n → t = []) := by
  have h1 := splitRes_append_eq inmap l n
  have h2 := splitRes_data inmap l n
  have a1 := List.takeWhile_append_of_pos (l₂ := (splitRes inmap l n).2) h2
  have a2 := List.dropWhile_append_of_pos (l₂ := (splitRes inmap l n).2) h2
  rw [h1] at a1 a2
  refine ⟨(splitRes inmap l n).2.takeWhile (isData inmap), a1, ?_, splitRes_nres_le inmap l n, fun hlt => ?_⟩
  · rw [a2]; exact (List.takeWhile_append_dropWhile).symm
  · obtain ⟨e1, _⟩ := splitRes_lt inmap l n hlt
    rw [← e1] at a1
    have := congrArg List.length a1
    simp only [List.length_append] at this
    exact List.eq_nil_of_length_eq_zero (by omega)

/-- `sqascii_ReadWindow`, forward strand, from `esl_sq_GrowTo(sq, C+W)` on: the text of `readWindow` from `if C < 0 || W < 0` to its
    end, tied to it by `readWindow_first` and `readWindow_next` -/
def winTail (a : Ascii) (sq : Sq) (C W : Int) : Ascii × Sq × Status :=
  if C < 0 || W < 0 then (a, sq, .fault) else
  let sq := sq.growTo (C + W).toNat
  let (a, sq, st, nres) := readNres a sq 0 W.toNat
  let a := { a with L := a.L + nres }
  if st == .eod then
    let (a, sq, st) := parseEnd a sq
    if st != .ok then (a, sq, st) else
    let a :=
      if a.nc > 0 then { a with bookmarkOff := a.boff + a.bpos }
      else { a with bookmarkOff := 0, bookmarkLine := 0 }
    if !(if sq.digital then 1 < sq.salloc else 0 < sq.salloc) then (a, sq, .fault) else
    (a, { sq with start := 0, end_ := 0, C := 0, W := 0, L := a.L, seq := #[] }, .eod)
  else if st == .ok then
    (a, { sq with end_ := sq.start + sq.C + nres - 1, W := nres }, .ok)
  else (a, sq, st)

/-- the end-of-record part of `winTail` (after `parseEnd`) -/
def wtEnd (r : Ascii × Sq × Status) : Ascii × Sq × Status :=
  if r.2.2 != .ok then r else
  if !(if r.2.1.digital then 1 < r.2.1.salloc else 0 < r.2.1.salloc) then
    ((if r.1.nc > 0 then { r.1 with bookmarkOff := r.1.boff + r.1.bpos } else { r.1 with bookmarkOff := 0, bookmarkLine := 0 }),
     r.2.1, .fault)
  else
    ((if r.1.nc > 0 then { r.1 with bookmarkOff := r.1.boff + r.1.bpos } else { r.1 with bookmarkOff := 0, bookmarkLine := 0 }),
     { r.2.1 with start := 0, end_ := 0, C := 0, W := 0,
                  L := (if r.1.nc > 0 then ({ r.1 with bookmarkOff := r.1.boff + r.1.bpos } : Ascii)
                        else { r.1 with bookmarkOff := 0, bookmarkLine := 0 }).L, seq := #[] }, .eod)

/-- what `winTail` does with the result `r` of its `read_nres` (`winTail_eq`) -/
def wtAfter (r : Ascii × Sq × Status × Nat) : Ascii × Sq × Status :=
  if r.2.2.1 == .eod then wtEnd (parseEnd { r.1 with L := r.1.L + r.2.2.2 } r.2.1)
  else if r.2.2.1 == .ok then
    ({ r.1 with L := r.1.L + r.2.2.2 }, { r.2.1 with end_ := r.2.1.start + r.2.1.C + r.2.2.2 - 1, W := r.2.2.2 }, .ok)
  else ({ r.1 with L := r.1.L + r.2.2.2 }, r.2.1, r.2.2.1)

theorem winTail_eq (a : Ascii) (sq : Sq) (C W : Int) : winTail a sq C W =
    if C < 0 || W < 0 then (a, sq, .fault) else wtAfter (readNres a (sq.growTo (C + W).toNat) 0 W.toNat) := by
  unfold winTail wtAfter
  by_cases hc : (decide (C < 0) || decide (W < 0)) = true
  · simp only [hc, if_true]
  simp only [hc, Bool.false_eq_true, if_false]
  generalize readNres a (sq.growTo (C + W).toNat) 0 W.toNat = r
  obtain ⟨a1, q, st, n⟩ := r
  simp only []
  by_cases h1 : (st == Status.eod) = true
  · simp only [h1, if_true]
    generalize parseEnd { a1 with L := a1.L + (n : Int) } q = e
    obtain ⟨a2, q2, s2⟩ := e
    unfold wtEnd
    simp only []
  · simp only [h1, Bool.false_eq_true, if_false]

/-- first call on a record (`sq->start == 0`, as after `esl_sq_Reuse`): parse the header, then the common tail -/
theorem readWindow_first (a : Ascii) (sq : Sq) (C W : Int) (hW : 0 ≤ W) (hs : sq.start = 0) (hnc : a.nc ≠ 0) :
    readWindow a sq C W =
      if (parseHeader a sq).2.2 != .ok then parseHeader a sq else
      winTail { (parseHeader a sq).1 with L := 0 }
        { (parseHeader a sq).2.1 with start := 1, C := 0, L := -1, source := cstr (parseHeader a sq).2.1.name } C W := by
  have h1 : ¬ W < 0 := by omega
  have h2 : (a.nc == 0) = false := by simpa using hnc
  rcases hph : parseHeader a sq with ⟨a1, sq1, st1⟩
  unfold readWindow winTail
  simp only [h1, if_false, hs, beq_self_eq_true, if_true, h2, Bool.false_eq_true, hph]
  by_cases hst : (st1 != .ok) = true
  · simp only [hst, if_true]
  · simp only [hst, Bool.false_eq_true, if_false]

/-- later calls: slide the context to the front, then the common tail -/
theorem readWindow_next (a : Ascii) (sq : Sq) (C W : Int) (hW : 0 ≤ W) (hs : sq.start ≠ 0) :
    readWindow a sq C W =
      winTail a { sq with C := (fwdSlide C sq.n a.L sq.start).1,
                          seq := sq.seq.extract (sq.n - (fwdSlide C sq.n a.L sq.start).2.2) sq.n,
                          start := (fwdSlide C sq.n a.L sq.start).2.1 } C W := by
  have h1 : ¬ W < 0 := by omega
  have h2 : (sq.start == 0) = false := by simpa using hs
  unfold readWindow winTail
  simp only [h1, if_false, h2, Bool.false_eq_true]


/-- what the window calls need of the handle between two calls on one record. Of `Cur` it has `wf` and `tok` but not `cur`: the cursor
    may stand at the very end of the buffer, which happens when a window ends with the last byte of a block -/
structure HOk (a : Ascii) : Prop where
  w : WF a
  tok : Track.Ok a.trk
  hm : a.inmap.size = 128
  eofOk : a.eofIsOk = true
  fmt : a.fmt = 1
  eodGt : EodGt a.inmap

theorem HOk.of_stat {a b : Ascii} (h : HOk a) (w : WF b) (tok : Track.Ok b.trk) (hs : stat b = stat a) : HOk b :=
  ⟨w, tok, by rw [stat_inmap hs]; exact h.hm, by rw [stat_eofIsOk hs]; exact h.eofOk, by rw [stat_fmt hs]; exact h.fmt,
   by rw [stat_inmap hs]; exact h.eodGt⟩

theorem mapOf_growTo (a : Ascii) (sq : Sq) (k : Nat) : mapOf a (sq.growTo k) = mapOf a sq := by
  rw [growTo_eq]; rfl

/-- the fields of the `ESL_SQ` that the window calls never touch after the header -/
def hdrOf (s : Sq) : Bool × Nat × Bytes × Bytes × Bytes × Nat × Nat × Int × Int × Int :=
  (s.digital, s.abc, s.name, s.acc, s.desc, s.nalloc, s.dalloc, s.roff, s.hoff, s.doff)

/-- what the common tail has done when it returns, whatever the bytes; `sq` is the `ESL_SQ` after `esl_sq_GrowTo`, and `s` (in
    `winTail_out`: `splitRes a.inmap (fileFrom a) W`) is what `read_nres` takes and leaves. It fails for the reasons `read_nres` fails
    (`Bad`), or because the record's data do not end at a `>` -/
structure WinOut (a : Ascii) (sq : Sq) (s : List UInt8 × List UInt8) (W : Nat) (r : Ascii × Sq × Status) : Prop where
  wf : WF r.1
  st : stat r.1 = stat a
  exc : r.1.exc = a.exc
  cases : r.2.2 = .ok ∨ r.2.2 = .eod ∨ r.2.2 = .eformat
  ok : r.2.2 = .ok → 0 < nresOf a.inmap s.1 ∧
    r.2.1 = { sq with seq := sq.seq ++ resOf a.inmap (mapOf a sq) s.1,
                      end_ := sq.start + sq.C + (nresOf a.inmap s.1 : Int) - 1,
                      W := (nresOf a.inmap s.1 : Int) } ∧
    Track.Ok r.1.trk ∧ fileFrom r.1 = s.2 ∧
    r.1.L = a.L + (nresOf a.inmap s.1 : Int)
  eod : r.2.2 = .eod → nresOf a.inmap s.1 = 0 ∧ r.2.1.seq = #[] ∧ r.2.1.L = a.L ∧ r.2.1.start = 0 ∧
    hdrOf r.2.1 = hdrOf sq ∧ (0 < W → Cur r.1) ∧ fileFrom r.1 = s.2
  bad : r.2.2 = .eformat → r.1.haveErr = true ∧
    (Bad a.inmap a.eofIsOk s W ∨
     (nresOf a.inmap s.1 = 0 ∧ ∃ c t, s.2 = c :: t ∧ c ≠ chGt))

/-- **the common tail on any bytes** -/
theorem winTail_out (a : Ascii) (sq : Sq) (C W : Int) (w : WF a) (tok : Track.Ok a.trk) (hm : a.inmap.size = 128) (hfmt : a.fmt = 1)
    (hmap : MapOk a.inmap (mapOf a sq)) (hC : 0 ≤ C) (hW : 0 ≤ W) (hcap : sq.seq.size ≤ C.toNat) :
    WinOut a (sq.growTo (C + W).toNat) (splitRes a.inmap (fileFrom a) W.toNat) W.toNat (winTail a sq C W) := by
  have hk : (C + W).toNat = C.toNat + W.toNat := by omega
  have hcapN : (sq.growTo (C + W).toNat).seq.size + W.toNat + (if (sq.growTo (C + W).toNat).digital then 2 else 1) ≤
      (sq.growTo (C + W).toNat).salloc := by
    rw [growTo_eq, hk]
    show sq.seq.size + W.toNat + (if sq.digital then 2 else 1) ≤ max sq.salloc (C.toNat + W.toNat + (if sq.digital then 2 else 1))
    omega
  -- the terminator of the empty record fits: `esl_sq_GrowTo` made the room
  have hsal : (if (sq.growTo (C + W).toNat).digital = true then decide (1 < (sq.growTo (C + W).toNat).salloc)
      else decide (0 < (sq.growTo (C + W).toNat).salloc)) = true := by
    rw [growTo_eq, hk]
    show (if sq.digital = true then decide (1 < max sq.salloc (C.toNat + W.toNat + (if sq.digital then 2 else 1)))
          else decide (0 < max sq.salloc (C.toNat + W.toNat + (if sq.digital then 2 else 1)))) = true
    cases sq.digital <;> simp <;> omega
  obtain ⟨o, okp⟩ := readNres_zero_out a (sq.growTo (C + W).toNat) W.toNat w tok hm (by rw [mapOf_growTo]; exact hmap) hcapN
  have hneg : (decide (C < 0) || decide (W < 0)) = false := by simp; omega
  rw [winTail_eq]
  simp only [hneg, Bool.false_eq_true, if_false]
  generalize sq.growTo (C + W).toNat = sqg at o okp hsal ⊢
  generalize splitRes a.inmap (fileFrom a) W.toNat = s at o ⊢
  generalize readNres a sqg 0 W.toNat = R at o okp ⊢
  obtain ⟨a1, sq1, st1, n1⟩ := R
  have hL : a1.L = a.L := keep_L okp
  have hwL : WF { a1 with L := a1.L + (n1 : Int) } := WF_L a1 _ o.wf
  have hwB : ∀ b : Ascii, blk b = blk { a1 with L := a1.L + (n1 : Int) } → b.bpos ≤ b.nc → WF b := fun b h hb => WF_of_blk h hwL hb
  have hstat : stat { a1 with L := a1.L + (n1 : Int) } = stat a := (keep_stat okp : stat a1 = stat a)
  have hexc : ({ a1 with L := a1.L + (n1 : Int) } : Ascii).exc = a.exc := (keep_exc okp : a1.exc = a.exc)
  rcases o.alt with d | ⟨hb, h1, h2, _, _⟩
  · have d1 := d.sq_eq
    have d2 := d.act
    have d3 := d.st
    have d5 := d.tok
    have d6 := d.ff
    have d8 := d.cur
    simp only [Nat.zero_add] at d1 d2 d3 d5 d6 d8
    subst d1
    by_cases hz : nresOf a.inmap s.1 = 0
    · -- no residue left: the record must end here
      have hn0 : n1 = 0 := by rw [d2, hz]
      subst hn0
      simp only [hz, if_true] at d3
      subst d3
      unfold wtAfter wtEnd
      simp only [beq_self_eq_true, if_true]
      rw [parseEnd_fasta _ _ (show ({ a1 with L := a1.L + ((0 : Nat) : Int) } : Ascii).fmt = 1 from (stat_fmt hstat).trans hfmt)]
      have b2 : (Status.ok != Status.ok) = false := by decide
      have hL0 : a1.L + ((0 : Nat) : Int) = a.L := by rw [hL]; simp
      by_cases hl : a1.bpos < a1.nc
      · obtain ⟨x, hx, hfx⟩ := fileFrom_live _ hwL hl
        rw [show fileFrom { a1 with L := a1.L + ((0 : Nat) : Int) } = _ from d6] at hfx
        have hnc : a1.nc > 0 := by omega
        by_cases hxg : x = chGt
        · -- on the end-of-data byte `>`
          have b0 : (chGt != chGt) = false := by simp
          unfold endFasta
          simp only [hl, if_true, hx, hxg, b0, Bool.false_eq_true, if_false, b2, hnc, hsal, Bool.not_true]
          exact ⟨hwB _ rfl hwL.bposLe, hstat, hexc, Or.inr (Or.inl rfl), nofun,
            fun _ => ⟨hz, rfl, hL0, rfl, rfl, fun _ => ⟨hwB _ rfl hwL.bposLe, Or.inl hl, d5⟩, d6⟩, nofun⟩
        · -- on another byte: `end_fasta` refuses it
          have b0 : (x != chGt) = true := by simpa using hxg
          have b3 : (Status.eformat != Status.ok) = true := by decide
          unfold endFasta
          simp only [hl, if_true, hx, b0, b3]
          exact ⟨hwB _ rfl hwL.bposLe, hstat, hexc, Or.inr (Or.inr rfl),
            nofun, nofun, fun _ => ⟨rfl, Or.inr ⟨hz, x, _, hfx, hxg⟩⟩⟩
      · -- not on a byte (the end of the file if `read_nres` looked for a residue; with `W = 0` it may be the end of a buffer):
        -- `end_fasta` has nothing to check
        unfold endFasta
        simp only [hl, if_false, b2, Bool.false_eq_true, hsal, Bool.not_true]
        refine ⟨by split; exact hwB _ rfl hwL.bposLe; exact hwB _ rfl hwL.bposLe, by split <;> exact hstat, by split <;> exact hexc,
          Or.inr (Or.inl rfl), nofun, fun _ => ⟨hz, rfl, by split <;> exact hL0, rfl, rfl, fun hW0 => ?_, by split <;> exact d6⟩, nofun⟩
        rcases d8 (by omega) with hl' | ⟨⟨e1, e2⟩, e3⟩
        · exact absurd hl' hl
        · have hnc : ¬ a1.nc > 0 := by omega
          simp only [hnc, if_false]
          exact ⟨hwB _ rfl hwL.bposLe, Or.inr ⟨⟨e1, e2⟩, e3⟩, d5⟩
    · -- a window
      simp only [hz, if_false] at d3
      subst d3
      have b1 : (Status.ok == Status.eod) = false := by decide
      unfold wtAfter
      simp only [b1, Bool.false_eq_true, if_false, beq_self_eq_true, if_true]
      exact ⟨hwL, hstat, hexc, Or.inl rfl, fun _ => ⟨by omega, by rw [d2], d5, d6, by show a1.L + _ = _; rw [hL, d2]⟩, nofun, nofun⟩
  · -- `read_nres` gave up
    simp only [] at h1 h2
    subst h1
    have b1 : (Status.eformat == Status.eod) = false := by decide
    have b2 : (Status.eformat == Status.ok) = false := by decide
    unfold wtAfter
    simp only [b1, b2, Bool.false_eq_true, if_false]
    exact ⟨hwL, hstat, hexc, Or.inr (Or.inr rfl), nofun, nofun, fun _ => ⟨h2, Or.inl hb⟩⟩

/-- a window of the residues `R1 ++ S ++ R2`: the last `c` of `R1` as context, then the new ones `S` -/
theorem extract_grow (R1 S R2 : Bytes) (c : Nat) :
    (R1 ++ S ++ R2).extract (R1.size - c) R1.size ++ S = (R1 ++ S ++ R2).extract (R1.size - c) (R1.size + S.size) := by
  have h : (R1 ++ S ++ R2).extract R1.size (R1.size + S.size) = S := by
    rw [Array.append_assoc, Array.extract_append]; simp
  conv => lhs; rhs; rw [← h]
  rw [Array.extract_append_extract]
  congr 1 <;> omega

/-- between two window calls of one record whose data bytes are `D = D1 ++ D2` (`D1` consumed, `D2` to come), followed by `rest0`;
    `R = resOf inmap map D` are the record's residues; the `ESL_SQ` holds the last `sq.seq.size` residues delivered -/
structure InWin (a : Ascii) (sq : Sq) (inmap map : Bytes) (D D1 D2 rest0 : List UInt8) : Prop where
  H : HOk a
  im : a.inmap = inmap
  mp : mapOf a sq = map
  hmap : MapOk inmap map
  split : D = D1 ++ D2
  ff : fileFrom a = D2 ++ rest0
  hD : ∀ c ∈ D2, isData inmap c = true
  hr : ∀ c t, rest0 = c :: t → isEod inmap c = true
  hL : a.L = (nresOf inmap D1 : Int)
  nle : sq.seq.size ≤ nresOf inmap D1
  hseq : sq.seq = (resOf inmap map D).extract (nresOf inmap D1 - sq.seq.size) (nresOf inmap D1)
  hstart : sq.start = (nresOf inmap D1 : Int) - (sq.seq.size : Int) + 1

/-- the common tail from a state whose `ESL_SQ` holds exactly `c` residues of context (`c ≤ C`): either a window with `w = min W (left)`
    new residues — exactly the declarative window — and the invariant again, or (nothing left) `eslEOD` with the record's `L`. -/
theorem winTail_step (a : Ascii) (sq : Sq) (C W : Int) (inmap map : Bytes) (D D1 D2 rest0 : List UInt8)
    (I : InWin a sq inmap map D D1 D2 rest0) (hC : 0 ≤ C) (hW : 1 ≤ W) (hc : sq.seq.size ≤ C.toNat) (hsC : sq.C = (sq.seq.size : Int)) :
    (0 < min W.toNat (nresOf inmap D2) →
      (winTail a sq C W).2.2 = .ok ∧
      toWin (winTail a sq C W).2.1 =
        ⟨(nresOf inmap D1 : Int) - (sq.seq.size : Nat) + 1, ((nresOf inmap D1 + min W.toNat (nresOf inmap D2) : Nat) : Int), (sq.seq.size : Nat),
         (min W.toNat (nresOf inmap D2) : Nat),
         (resOf inmap map D).extract (nresOf inmap D1 - sq.seq.size) (nresOf inmap D1 + min W.toNat (nresOf inmap D2))⟩ ∧
      hdrOf (winTail a sq C W).2.1 = hdrOf sq ∧
      (winTail a sq C W).2.1.seq.size = sq.seq.size + min W.toNat (nresOf inmap D2) ∧
      stat (winTail a sq C W).1 = stat a ∧
      ∃ D1' D2', InWin (winTail a sq C W).1 (winTail a sq C W).2.1 inmap map D D1' D2' rest0 ∧
        nresOf inmap D1' = nresOf inmap D1 + min W.toNat (nresOf inmap D2) ∧
        nresOf inmap D2' = nresOf inmap D2 - min W.toNat (nresOf inmap D2)) ∧
    (min W.toNat (nresOf inmap D2) = 0 →
      (winTail a sq C W).2.2 = .eod ∧ (winTail a sq C W).2.1.seq = #[] ∧ (winTail a sq C W).2.1.L = (nresOf inmap D1 : Int) ∧
      (winTail a sq C W).2.1.start = 0 ∧ hdrOf (winTail a sq C W).2.1 = hdrOf sq ∧
      Cur (winTail a sq C W).1 ∧ fileFrom (winTail a sq C W).1 = rest0 ∧ stat (winTail a sq C W).1 = stat a) := by
  obtain ⟨H, im, mp, hmap, split, ff, hD, hr, hL, nle, hseq, hstart⟩ := I
  subst im
  -- `read_nres` takes `S1`, the shortest prefix of the data left that holds `W` residues (all of `D2` if it has fewer)
  obtain ⟨hsp, hnil⟩ := splitRes_record a.inmap D2 rest0 W.toNat hD hr
  have q1 : D2 = (splitRes a.inmap D2 W.toNat).1 ++ (splitRes a.inmap D2 W.toNat).2 := (splitRes_append_eq a.inmap D2 W.toNat).symm
  have q2 : nresOf a.inmap (splitRes a.inmap D2 W.toNat).1 = min W.toNat (nresOf a.inmap D2) := by
    rw [splitRes_nres, takeWhile_all D2 hD]
  have o := winTail_out a sq C W H.w H.tok H.hm H.fmt (by rw [mp]; exact hmap) hC (by omega) hc
  rw [ff, hsp] at o
  have k6 := o.st
  have ocases := o.cases
  have ook := o.ok
  have oeod := o.eod
  have obad := o.bad
  simp only [Bad, q2, mapOf_growTo, mp] at ook oeod obad
  rw [q2] at hnil
  generalize (splitRes a.inmap D2 W.toNat).1 = S1 at q1 q2 ook
  generalize (splitRes a.inmap D2 W.toNat).2 = D2' at q1 hnil ook oeod obad
  generalize hw : min W.toNat (nresOf a.inmap D2) = w at *
  -- the data are clean: what follows them is the end of the file or a `>`
  have nobad : (winTail a sq C W).2.2 ≠ .eformat := by
    intro k
    rcases (obad k).2 with ⟨hlt, ⟨c, t', hs, he⟩ | ⟨_, he⟩⟩ | ⟨hz, c, t', hs, hne⟩
    · rw [hnil hlt, List.nil_append] at hs
      rw [hr c t' hs] at he; cases he
    · rw [H.eofOk] at he; cases he
    · rw [hnil (by omega), List.nil_append] at hs
      exact hne (H.eodGt c (hr c t' hs))
  refine ⟨fun hpos => ?_, fun hz => ?_⟩
  · have k1 : (winTail a sq C W).2.2 = .ok := by
      rcases ocases with k | k | k
      · exact k
      · exact absurd (oeod k).1 (by omega)
      · exact absurd k nobad
    obtain ⟨_, j2, j3, k4, k5⟩ := ook k1
    have k2 : (winTail a sq C W).2.1 = { sq.growTo (C + W).toNat with
        seq := sq.seq ++ resOf a.inmap map S1, end_ := sq.start + sq.C + (w : Int) - 1, W := (w : Int) } := by rw [j2, growTo_eq]
    have k3 := HOk.of_stat H o.wf j3 k6
    -- the residues: R = resOf D1 ++ resOf S1 ++ resOf D2'
    have hR : resOf a.inmap map D = resOf a.inmap map D1 ++ resOf a.inmap map S1 ++ resOf a.inmap map D2' := by
      rw [split, q1, resOf_append, resOf_append, Array.append_assoc]
    have hs1sz : (resOf a.inmap map S1).size = w := by rw [resOf_size]; exact q2
    have hd1sz : (resOf a.inmap map D1).size = nresOf a.inmap D1 := resOf_size _ _ _
    have hseq' : (winTail a sq C W).2.1.seq =
        (resOf a.inmap map D).extract (nresOf a.inmap D1 - sq.seq.size) (nresOf a.inmap D1 + w) := by
      have := extract_grow (resOf a.inmap map D1) (resOf a.inmap map S1) (resOf a.inmap map D2') sq.seq.size
      rw [← hR, hd1sz, hs1sz, ← hseq] at this
      rw [k2]; exact this
    have hsz : (winTail a sq C W).2.1.seq.size = sq.seq.size + w := by
      rw [k2]; show (sq.seq ++ resOf a.inmap map S1).size = _
      rw [Array.size_append, hs1sz]
    have hst : (winTail a sq C W).2.1.start = sq.start := by rw [k2, growTo_eq]
    have hCC : (winTail a sq C W).2.1.C = sq.C := by rw [k2, growTo_eq]
    have hEnd : (winTail a sq C W).2.1.end_ = sq.start + sq.C + (w : Int) - 1 := by rw [k2]
    have hWW : (winTail a sq C W).2.1.W = (w : Int) := by rw [k2]
    have hmp' : mapOf (winTail a sq C W).1 (winTail a sq C W).2.1 = map := by
      rw [← mp, k2, growTo_eq]
      simp only [mapOf, stat_inmap k6]
    have e : nresOf a.inmap (D1 ++ S1) = nresOf a.inmap D1 + w := by
      have : nresOf a.inmap (D1 ++ S1) = nresOf a.inmap D1 + nresOf a.inmap S1 := by
        simp only [nresOf, List.filter_append, List.length_append]
      omega
    refine ⟨k1, ?_, by rw [k2, growTo_eq]; rfl, hsz, k6, D1 ++ S1, D2', ?_, ?_, ?_⟩
    · unfold toWin
      rw [hEnd, hst, hCC, hWW, hseq', hstart, hsC]
      congr 1
      omega
    · refine ⟨k3, stat_inmap k6, hmp', hmap, by rw [split, q1, List.append_assoc], k4, fun c hc' => hD c (by rw [q1]; simp [hc']), hr, ?_, ?_, ?_, ?_⟩
      · rw [k5, hL, e, Int.natCast_add]
      · rw [hsz, e]; exact Nat.add_le_add_right nle w
      · rw [e, hsz, hseq', Nat.add_sub_add_right]
      · rw [e, hsz, hst, hstart, Int.natCast_add, Int.natCast_add, Int.add_sub_add_right]
    · exact e
    · have e2 : nresOf a.inmap D2 = nresOf a.inmap S1 + nresOf a.inmap D2' := by
        rw [q1]; simp only [nresOf, List.filter_append, List.length_append]
      rw [e2, q2, Nat.add_sub_cancel_left]
  · have k1 : (winTail a sq C W).2.2 = .eod := by
      rcases ocases with k | k | k
      · exact absurd (ook k).1 (by omega)
      · exact k
      · exact absurd k nobad
    obtain ⟨_, e2, e3, e4, e5, e6, e7⟩ := oeod k1
    rw [hnil (by omega), List.nil_append] at e7
    exact ⟨k1, e2, by rw [e3, hL], e4, by rw [e5, growTo_eq]; rfl, e6 (by omega), e7, k6⟩


theorem fwdSlide_eq (C : Int) (n : Nat) (L start : Int) (hC : 0 ≤ C) (hst : start = L - (n : Int) + 1) :
    fwdSlide C n L start = (((min C.toNat n : Nat) : Int), L - ((min C.toNat n : Nat) : Int) + 1, min C.toNat n) := by
  unfold fwdSlide
  by_cases h : C ≤ (n : Int)
  · have e1 : min C (n : Int) = C := by omega
    have e2 : min C.toNat n = C.toNat := by omega
    have e3 : ((C.toNat : Nat) : Int) = C := by omega
    simp only [e1, e2, e3, ge_iff_le, Int.le_refl, if_true]
  · have e1 : min C (n : Int) = (n : Int) := by omega
    have e2 : min C.toNat n = n := by omega
    have e4 : ¬ (n : Int) ≥ C := by omega
    simp only [e1, e2, e4, if_false, hst]

/-- sliding the context: the last `c` of the `n` residues before position `d` are the `c` residues before `d` -/
theorem extract_slide (R : Bytes) (d n c : Nat) (hn : n ≤ d) (hd : d ≤ R.size) (hc : c ≤ n) :
    (R.extract (d - n) d).extract (n - c) n = R.extract (d - c) d := by
  rw [Array.extract_extract]
  congr 1 <;> omega

theorem resOf_total (inmap map : Bytes) (D D1 D2 : List UInt8) (h : D = D1 ++ D2) :
    (resOf inmap map D).size = nresOf inmap D1 + nresOf inmap D2 := by
  rw [resOf_size, h]; simp only [nresOf, List.filter_append, List.length_append]

/-- a later call is "slide the context to the front, then the common tail": the slid state is an `InWin` state again and holds
    exactly the `min C n` residues of context -/
theorem readWindow_slide (a : Ascii) (sq : Sq) (C W : Int) (inmap map : Bytes) (D D1 D2 rest0 : List UInt8)
    (I : InWin a sq inmap map D D1 D2 rest0) (hC : 0 ≤ C) (hW : 1 ≤ W) :
    ∃ sq', readWindow a sq C W = winTail a sq' C W ∧ InWin a sq' inmap map D D1 D2 rest0 ∧
      sq'.seq.size = min C.toNat sq.seq.size ∧ sq'.C = (sq'.seq.size : Int) ∧ hdrOf sq' = hdrOf sq := by
  have hs0 : sq.start ≠ 0 := by have := I.hstart; have := I.nle; omega
  have hst : sq.start = a.L - ((sq.n : Nat) : Int) + 1 := by rw [I.hstart, I.hL]; rfl
  rw [readWindow_next a sq C W (by omega) hs0, fwdSlide_eq C sq.n a.L sq.start hC hst]
  simp only []
  have hn : sq.n = sq.seq.size := rfl
  rw [hn]
  generalize hc : min C.toNat sq.seq.size = c
  have hsz' : (sq.seq.extract (sq.seq.size - c) sq.seq.size).size = c := by
    rw [Array.size_extract]; omega
  refine ⟨_, rfl, ⟨I.H, I.im, I.mp, I.hmap, I.split, I.ff, I.hD, I.hr, I.hL, ?_, ?_, ?_⟩, hsz', ?_, rfl⟩
  · show (sq.seq.extract (sq.seq.size - c) sq.seq.size).size ≤ _
    rw [hsz']; have := I.nle; omega
  · show sq.seq.extract (sq.seq.size - c) sq.seq.size = _
    have hRs := resOf_total inmap map D D1 D2 I.split
    have := extract_slide (resOf inmap map D) (nresOf inmap D1) sq.seq.size c I.nle (by omega) (by omega)
    rw [← I.hseq] at this
    rw [hsz']; exact this
  · show a.L - (c : Int) + 1 = _
    rw [hsz', I.hL]
  · show (c : Int) = ((sq.seq.extract (sq.seq.size - c) sq.seq.size).size : Int)
    rw [hsz']

/-- the client loop over the windows of ONE record: `while ((st = esl_sqio_ReadWindow(sqfp, C_k, W_k, sq)) == eslOK) { use the window }`;
    returns the windows (the `ESL_SQ` after every successful call), the handle, the `ESL_SQ` and the status after the last call -/
def readWindowsM (req : Nat → Int × Int) : Nat → Nat → Ascii → Sq → List Sq × Ascii × Sq × Status
  | 0, _, a, sq => ([], a, sq, .fault)
  | fuel + 1, k, a, sq =>
    if (readWindow a sq (req k).1 (req k).2).2.2 == .ok then
      ((readWindow a sq (req k).1 (req k).2).2.1 ::
          (readWindowsM req fuel (k + 1) (readWindow a sq (req k).1 (req k).2).1 (readWindow a sq (req k).1 (req k).2).2.1).1,
       (readWindowsM req fuel (k + 1) (readWindow a sq (req k).1 (req k).2).1 (readWindow a sq (req k).1 (req k).2).2.1).2)
    else ([], (readWindow a sq (req k).1 (req k).2).1, (readWindow a sq (req k).1 (req k).2).2.1, (readWindow a sq (req k).1 (req k).2).2.2)

theorem readWindowsM_succ (req : Nat → Int × Int) (fuel k : Nat) (a : Ascii) (sq : Sq) :
    readWindowsM req (fuel + 1) k a sq =
    if (readWindow a sq (req k).1 (req k).2).2.2 == .ok then
      ((readWindow a sq (req k).1 (req k).2).2.1 ::
          (readWindowsM req fuel (k + 1) (readWindow a sq (req k).1 (req k).2).1 (readWindow a sq (req k).1 (req k).2).2.1).1,
       (readWindowsM req fuel (k + 1) (readWindow a sq (req k).1 (req k).2).1 (readWindow a sq (req k).1 (req k).2).2.1).2)
    else ([], (readWindow a sq (req k).1 (req k).2).1, (readWindow a sq (req k).1 (req k).2).2.1, (readWindow a sq (req k).1 (req k).2).2.2) := rfl

/-- **a window series from a call that is "prepare, then `winTail`"** (the first call after its header, a later call after its slide):
    the windows are the declarative ones from `d = nresOf D1` on, and the series ends with `eslEOD`, `L` = the number of residues of
    the record, the cursor on what follows the record's data -/
theorem series_of_tail (req : Nat → Int × Int) (hreq : ∀ k, 0 ≤ (req k).1 ∧ 1 ≤ (req k).2) (inmap map : Bytes) (D rest0 : List UInt8) :
    ∀ (fuel k : Nat) (a a' : Ascii) (sq sq' : Sq) (D1 D2 : List UInt8) (nPrev : Nat),
      readWindow a sq (req k).1 (req k).2 = winTail a' sq' (req k).1 (req k).2 → InWin a' sq' inmap map D D1 D2 rest0 →
      sq'.seq.size = min (req k).1.toNat nPrev → sq'.C = (sq'.seq.size : Int) → nresOf inmap D2 < fuel →
      (readWindowsM req fuel k a sq).1.map toWin = specWindows (resOf inmap map D) req fuel k (nresOf inmap D1) nPrev ∧
      (readWindowsM req fuel k a sq).2.2.2 = .eod ∧ (readWindowsM req fuel k a sq).2.2.1.seq = #[] ∧
      (readWindowsM req fuel k a sq).2.2.1.L = ((resOf inmap map D).size : Int) ∧ (readWindowsM req fuel k a sq).2.2.1.start = 0 ∧
      hdrOf (readWindowsM req fuel k a sq).2.2.1 = hdrOf sq' ∧
      Cur (readWindowsM req fuel k a sq).2.1 ∧ fileFrom (readWindowsM req fuel k a sq).2.1 = rest0 ∧
      stat (readWindowsM req fuel k a sq).2.1 = stat a' := by
  intro fuel
  induction fuel with
  | zero => intro k a a' sq sq' D1 D2 nPrev _ _ _ _ h; omega
  | succ fuel ih =>
    intro k a a' sq sq' D1 D2 nPrev hrw I hc hsC hf
    obtain ⟨hC, hW⟩ := hreq k
    obtain ⟨s1, s2⟩ := winTail_step a' sq' (req k).1 (req k).2 inmap map D D1 D2 rest0 I hC hW (by rw [hc]; omega) hsC
    rw [← hrw] at s1 s2
    rw [hc] at s1
    have hRs := resOf_total inmap map D D1 D2 I.split
    have hleft : (resOf inmap map D).size - nresOf inmap D1 = nresOf inmap D2 := by omega
    simp only [readWindowsM]
    rw [specWindows_succ]
    by_cases hz : min (req k).2.toNat (nresOf inmap D2) = 0
    · obtain ⟨k1, k2, k3, k4, k5, k6, k7, k8⟩ := s2 hz
      have hb : ((readWindow a sq (req k).1 (req k).2).2.2 == Status.ok) = false := by rw [k1]; decide
      have hd0 : nresOf inmap D2 = 0 := by omega
      have hle : (resOf inmap map D).size ≤ nresOf inmap D1 := by omega
      simp only [hb, Bool.false_eq_true, if_false, hle, if_true, List.map_nil]
      exact ⟨trivial, k1, k2, by rw [k3]; omega, k4, k5, k6, k7, k8⟩
    · obtain ⟨k1, k2, k3, k4, k5, D1', D2', I', e1, e2⟩ := s1 (by omega)
      have hb : ((readWindow a sq (req k).1 (req k).2).2.2 == Status.ok) = true := by rw [k1]; decide
      have hle : ¬ (resOf inmap map D).size ≤ nresOf inmap D1 := by omega
      simp only [hb, if_true, hle, if_false, List.map_cons]
      obtain ⟨sq'', hrw', I'', hc', hsC', hh⟩ := readWindow_slide _ _ (req (k + 1)).1 (req (k + 1)).2 inmap map D D1' D2' rest0 I'
        (hreq (k + 1)).1 (hreq (k + 1)).2
      obtain ⟨j1, j2, j3, j4, j5, j6, j7, j8, j9⟩ := ih (k + 1) _ _ _ sq'' D1' D2' _ hrw' I'' hc' hsC' (by omega)
      rw [hleft]
      refine ⟨?_, j2, j3, j4, j5, (j6.trans hh).trans k3, j7, j8, j9.trans k5⟩
      rw [j1, k2, e1, k4]


/-- the fields of an `ESL_SQ` that identify the record (what `ReadWindow` reports besides the window itself) -/
def idOf (s : Sq) : Bytes × Bytes × Bytes × Int × Int × Int := (s.name, s.acc, s.desc, s.roff, s.hoff, s.doff)

theorem idOf_of_hdrOf {s t : Sq} (h : hdrOf s = hdrOf t) : idOf s = idOf t := by
  simp only [hdrOf, Prod.mk.injEq] at h
  obtain ⟨_, _, h3, h4, h5, _, _, h8, h9, h10⟩ := h
  simp only [idOf, h3, h4, h5, h8, h9, h10]

/-- **Forward windows = the declarative windows of the residues `sqascii_Read` returns — for every file, cursor position, block size
    `B ≥ 1` and every request stream `(C_k ≥ 0, W_k ≥ 1)`.** From a ready handle and an `ESL_SQ` as after `esl_sq_Reuse`, if the
    whole-record read succeeds with residues `R`, then the window loop on the same handle returns exactly `specWindows R req` (context
    `min C_k (previous window size)`, `min W_k (left)` new residues, 1-based contiguous coordinates, the residues `R[start..end]`), then
    `eslEOD` with `L = |R|`, the same name / accession / description / `roff` / `hoff` / `doff`, and leaves the cursor where `Read` leaves it. -/
theorem windows_eq_read (a : Ascii) (sq : Sq) (R : Ready a sq) (hs : sq.seq = #[]) (hst : sq.start = 0)
    (hok : (read a sq).2.2 = .ok) (req : Nat → Int × Int) (hreq : ∀ k, 0 ≤ (req k).1 ∧ 1 ≤ (req k).2)
    (F : Nat) (hF : (read a sq).2.1.seq.size + 2 ≤ F) :
    (readWindowsM req F 0 a sq).1.map toWin =
      specWindows (read a sq).2.1.seq req F 0 0 0 ∧
    (readWindowsM req F 0 a sq).2.2.2 = .eod ∧
    (readWindowsM req F 0 a sq).2.2.1.seq = #[] ∧
    (readWindowsM req F 0 a sq).2.2.1.L = (read a sq).2.1.L ∧
    (readWindowsM req F 0 a sq).2.2.1.start = 0 ∧
    hdrOf (readWindowsM req F 0 a sq).2.2.1 = hdrOf (read a sq).2.1 ∧
    Cur (readWindowsM req F 0 a sq).2.1 ∧
    fileFrom (readWindowsM req F 0 a sq).2.1 = fileFrom (read a sq).1 ∧
    stat (readWindowsM req F 0 a sq).2.1 = stat a := by
  obtain ⟨q1, q2, _, _⟩ := read_spec a sq R
  rw [q1] at hok
  obtain ⟨m1, _, m3, _⟩ := q2 hok
  have hl : Sim.Live a := by
    rcases R.cur.cur with hl | ⟨_, e3⟩
    · exact hl
    · exfalso
      have := fileFrom_eof a e3
      rw [this] at hok
      simp [recL] at hok
  have hnc : a.nc ≠ 0 := by unfold Sim.Live at hl; omega
  obtain ⟨_, hH, erec⟩ := recL_of_ok _ _ _ _ hok
  obtain ⟨h1, h2, _, _⟩ := headerFasta_spec a sq R.cur hl R.nalloc R.dalloc
  obtain ⟨u1, u2, u3, _, _⟩ := headerL_keeps a.file.size sq (fileFrom a)
  rw [m1, m3]
  rw [m1] at hF
  rw [erec] at hok hF ⊢
  obtain ⟨c1, c2, c3⟩ := h2 hH
  generalize headerL a.file.size sq (fileFrom a) = HL at *
  obtain ⟨hstt, hsq, l0⟩ := HL
  simp only [] at h1 hH c1 c2 c3 u1 u2 u3 hok hF ⊢
  subst hH
  have hsplit : l0 = l0.takeWhile (isData a.inmap) ++ l0.dropWhile (isData a.inmap) := (List.takeWhile_append_dropWhile).symm
  obtain ⟨ebody, hrest⟩ := bodyL_of_ok _ _ _ _ _ hok
  have hseqR : (bodyL a.inmap (mapFor a.inmap sq) a.file.size hsq l0).2.1.seq = resOf a.inmap (mapFor a.inmap sq) (l0.takeWhile (isData a.inmap)) ∧
      (bodyL a.inmap (mapFor a.inmap sq) a.file.size hsq l0).2.1.L = ((resOf a.inmap (mapFor a.inmap sq) (l0.takeWhile (isData a.inmap))).size : Int) ∧
      (bodyL a.inmap (mapFor a.inmap sq) a.file.size hsq l0).2.2 = l0.dropWhile (isData a.inmap) ∧
      hdrOf (bodyL a.inmap (mapFor a.inmap sq) a.file.size hsq l0).2.1 = hdrOf hsq := by
    rw [ebody]
    simp [Sq.setWhole, stored, u3, hs, Sq.n, hdrOf]
  obtain ⟨g1, g2, g3, g4⟩ := hseqR
  rw [g1, g2, g3, g4]
  rw [g1] at hF
  generalize hD : l0.takeWhile (isData a.inmap) = D at *
  generalize hr0 : l0.dropWhile (isData a.inmap) = rest0 at *
  have hph : parseHeader a sq = headerFasta a sq := parseHeader_fasta a sq R.fmt
  generalize hhf : headerFasta a sq = HF at *
  obtain ⟨a1, sq1, st1⟩ := HF
  simp only [] at h1 c1 c2 c3
  obtain ⟨rfl, rfl⟩ := Prod.mk.inj h1
  obtain ⟨hC0, hW0⟩ := hreq 0
  have hfirst := readWindow_first a sq (req 0).1 (req 0).2 (by omega) hst hnc
  rw [hph] at hfirst
  have b1 : (Status.ok != Status.ok) = false := by decide
  simp only [b1, Bool.false_eq_true, if_false] at hfirst
  have hi1 : a1.inmap = a.inmap := stat_inmap c3
  have I : InWin { a1 with L := 0 } { sq1 with start := 1, C := 0, L := -1, source := cstr sq1.name } a.inmap (mapFor a.inmap sq)
      D [] D rest0 := by
    refine ⟨HOk.of_stat ⟨R.cur.wf, R.cur.tok, R.hm, R.eofOk, R.fmt, R.eodGt⟩ (WF_L a1 0 c1.wf) c1.tok c3, hi1, ?_, R.mapOk, rfl, ?_, ?_,
      hrest, rfl, ?_, ?_, ?_⟩
    · show (if sq1.digital then abcInmap sq1.abc else a1.inmap) = _
      rw [u1, u2, hi1]; rfl
    · show fileFrom a1 = D ++ rest0
      rw [c2]; exact hsplit
    · intro c hc; rw [← hD] at hc; exact mem_takeWhile_imp hc
    · show sq1.seq.size ≤ _
      rw [u3, hs]; simp
    · show sq1.seq = _
      rw [u3, hs]; simp [nresOf]
    · show (1 : Int) = _
      rw [u3, hs]; simp [nresOf]
  have hRs : (resOf a.inmap (mapFor a.inmap sq) D).size = nresOf a.inmap D := resOf_size _ _ _
  obtain ⟨j1, j2, j3, j4, j5, j6, j7, j8, j9⟩ := series_of_tail req hreq a.inmap (mapFor a.inmap sq) D rest0 F 0 a _ sq _ [] D 0 hfirst I
    (by show sq1.seq.size = _; rw [u3, hs]; simp) (by show (0 : Int) = (sq1.seq.size : Int); rw [u3, hs]; rfl) (by omega)
  exact ⟨j1, j2, j3, j4, j5, j6, j7, j8, j9.trans c3⟩


/-- **`windows_concat_eq_read`: the windows deliver the residues of `Read`** — the new (non-context) parts of the windows, concatenated
    in order, are exactly the residue array that the whole-record read returns; for every file, block size and request stream. -/
theorem windows_concat_eq_read (a : Ascii) (sq : Sq) (R : Ready a sq) (hs : sq.seq = #[]) (hst : sq.start = 0)
    (hok : (read a sq).2.2 = .ok) (req : Nat → Int × Int) (hreq : ∀ k, 0 ≤ (req k).1 ∧ 1 ≤ (req k).2) :
    ((readWindowsM req ((read a sq).2.1.seq.size + 2) 0 a sq).1.map toWin).foldl (fun acc x => acc ++ newPart x) #[] =
      (read a sq).2.1.seq := by
  rw [(windows_eq_read a sq R hs hst hok req hreq _ (Nat.le_refl _)).1,
    specWindows_concat (read a sq).2.1.seq req (fun k => (hreq k).2) _ 0 0 0 #[] (Nat.le_refl _) (by omega)]
  simp

/-- every window returned is `[start .. end]`, 1-based, inside `1..L`, holds exactly `C + W = end − start + 1` residues -/
theorem windows_coords (a : Ascii) (sq : Sq) (R : Ready a sq) (hs : sq.seq = #[]) (hst : sq.start = 0)
    (hok : (read a sq).2.2 = .ok) (req : Nat → Int × Int) (hreq : ∀ k, 0 ≤ (req k).1 ∧ 1 ≤ (req k).2) :
    ∀ x ∈ (readWindowsM req ((read a sq).2.1.seq.size + 2) 0 a sq).1.map toWin,
      x.end_ - x.start + 1 = x.C + x.W ∧ (x.seq.size : Int) = x.C + x.W ∧ 1 ≤ x.start ∧
      x.end_ ≤ ((read a sq).2.1.seq.size : Int) ∧ 0 ≤ x.C := by
  rw [(windows_eq_read a sq R hs hst hok req hreq _ (Nat.le_refl _)).1]
  exact specWindows_coords _ req _ 0 0 0 (Nat.le_refl _)

end EaselModel.Sqio.WindowSeries
