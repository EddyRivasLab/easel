import EaselModel.Sqio.Refine
import EaselModel.Sqio.Frame
/-! # Block-size independence by simulation (C04, C02)

Two handles on the same file, possibly with different read-block sizes `B₁`, `B₂`, are *similar* when both are well formed, their
cursors are on the same absolute file position and everything that is not block bookkeeping is equal. `nextchar` — and hence every
`while (status == eslOK && p(c)) status = nextchar(sqfp, &c)` loop the header parsers are made of — maps similar handles to similar
handles and returns the same status and character. So what a header parser sees and stores does not depend on where the block
boundaries fall. -/
namespace EaselModel.Sqio.Sim
open EaselModel.Sqio.Refine

/-- cursor on a byte of the buffer, or end of file reached (`nc = 0`) -/
def Live (a : Ascii) : Prop := a.bpos < a.nc
def AtEof (a : Ascii) : Prop := a.nc = 0 ∧ a.bpos = 0

structure Sim (a1 a2 : Ascii) : Prop where
  wf1 : WF a1
  wf2 : WF a2
  rest : payload a1 = payload a2
  pos : pos a1 = pos a2
  cur : (Live a1 ∧ Live a2) ∨ (AtEof a1 ∧ AtEof a2)

theorem payload_bpos (a : Ascii) (b : Nat) : payload { a with bpos := b } = payload a := rfl

/-- **`nextchar` respects similarity**: same status, same character, similar handles; on `eslOK` both cursors are on a byte, otherwise
    both handles are at end of file. -/
theorem nextchar_sim (a1 a2 : Ascii) (c : UInt8) (h : Sim a1 a2) (h1 : Live a1) (h2 : Live a2) :
    (nextchar a1 c).2.1 = (nextchar a2 c).2.1 ∧ (nextchar a1 c).2.2 = (nextchar a2 c).2.2 ∧
    Sim (nextchar a1 c).1 (nextchar a2 c).1 ∧
    ((nextchar a1 c).2.1 = .ok ∧ Live (nextchar a1 c).1 ∧ Live (nextchar a2 c).1 ∨
     (nextchar a1 c).2.1 = .eof ∧ AtEof (nextchar a1 c).1 ∧ AtEof (nextchar a2 c).1) := by
  obtain ⟨w1, f1, _, r1⟩ := nextchar_refines a1 c h.wf1 h1
  obtain ⟨w2, f2, _, r2⟩ := nextchar_refines a2 c h.wf2 h2
  have hfile : a1.file = a2.file := congrArg (·.1) h.rest
  have hrest : payload (nextchar a1 c).1 = payload (nextchar a2 c).1 := by
    rw [Frame.nextchar_payload, Frame.nextchar_payload]; exact h.rest
  have hp := h.pos
  rcases r1 with ⟨s1, l1, p1, g1⟩ | ⟨s1, c1, e1, n1, b1, q1⟩
  · rcases r2 with ⟨s2, l2, p2, g2⟩ | ⟨s2, c2, e2, n2, b2, q2⟩
    · have hc : (nextchar a1 c).2.2 = (nextchar a2 c).2.2 := by
        rw [hfile, hp] at g1; rw [g1] at g2; exact Option.some.inj g2
      exact ⟨by rw [s1, s2], hc, ⟨w1, w2, hrest, by rw [p1, p2, hp], Or.inl ⟨l1, l2⟩⟩, Or.inl ⟨s1, l1, l2⟩⟩
    · -- a1 finds a byte at pos+1 but a2 is at the end of the same file: impossible
      exfalso
      have hlt : (pos a1 + 1).toNat < a1.file.size := by
        by_cases hh : (pos a1 + 1).toNat < a1.file.size
        · exact hh
        · simp [hh] at g1
      have hsz : a1.file.size = a2.file.size := by rw [hfile]
      have hnn : 0 ≤ pos a1 + 1 := by
        have := h.wf1.boffEq; have := h.wf1.ncLe; have := h.wf1.moff0; simp only [pos]; omega
      omega
  · rcases r2 with ⟨s2, l2, p2, g2⟩ | ⟨s2, c2, e2, n2, b2, q2⟩
    · exfalso
      have hlt : (pos a2 + 1).toNat < a2.file.size := by
        by_cases hh : (pos a2 + 1).toNat < a2.file.size
        · exact hh
        · simp [hh] at g2
      have hsz : a1.file.size = a2.file.size := by rw [hfile]
      have hnn : 0 ≤ pos a2 + 1 := by
        have := h.wf2.boffEq; have := h.wf2.ncLe; have := h.wf2.moff0; simp only [pos]; omega
      omega
    · have hpe : pos (nextchar a1 c).1 = pos (nextchar a2 c).1 := by rw [q1, q2, hp]
      exact ⟨by rw [s1, s2], by rw [c1, c2], ⟨w1, w2, hrest, hpe, Or.inr ⟨⟨n1, b1⟩, ⟨n2, b2⟩⟩⟩, Or.inr ⟨s1, ⟨n1, b1⟩, ⟨n2, b2⟩⟩⟩

theorem storeWhile_sim (p : UInt8 → Bool) (fuel : Nat) (a1 a2 : Ascii) (st : Status) (c : UInt8) (acc : Bytes) (alloc : Nat)
    (h : Sim a1 a2) (hl : st = .ok → Live a1 ∧ Live a2) :
    (storeWhile p fuel a1 st c acc alloc).2 = (storeWhile p fuel a2 st c acc alloc).2 ∧
    Sim (storeWhile p fuel a1 st c acc alloc).1 (storeWhile p fuel a2 st c acc alloc).1 ∧
    ((storeWhile p fuel a1 st c acc alloc).2.1 = .ok → Live (storeWhile p fuel a1 st c acc alloc).1 ∧ Live (storeWhile p fuel a2 st c acc alloc).1) := by
  induction fuel generalizing a1 a2 st c acc alloc with
  | zero =>
    refine ⟨rfl, h, ?_⟩
    intro hok
    by_cases hc : (st == .ok && p c) = true
    · simp [storeWhile, hc] at hok
    · have : (storeWhile p 0 a1 st c acc alloc).2.1 = st := by simp [storeWhile, hc]
      exact hl (by rw [← this]; exact hok)
  | succ fuel ih =>
    rw [storeWhile_succ, storeWhile_succ]
    by_cases hc : (st == .ok && p c) = true
    · simp only [hc, if_true]
      by_cases ha : acc.size < alloc
      · simp only [ha, if_true]
        have hst : st = .ok := eq_of_beq ((Bool.and_eq_true _ _).mp hc).1
        obtain ⟨l1, l2⟩ := hl hst
        obtain ⟨e1, e2, hs, hcase⟩ := nextchar_sim a1 a2 c h l1 l2
        rw [e1, e2]
        apply ih _ _ _ _ _ _ hs
        intro hok
        rcases hcase with ⟨_, q1, q2⟩ | ⟨q0, _, _⟩
        · exact ⟨q1, q2⟩
        · rw [e1] at q0; rw [q0] at hok; cases hok
      · simp only [ha, if_false]
        exact ⟨by first | rfl | trivial, h, fun hok => by cases hok⟩
    · simp only [hc, Bool.false_eq_true, if_false]
      exact ⟨by first | rfl | trivial, h, fun hok => hl hok⟩

/-- **Every header loop is block-size independent**: `while (status == eslOK && p(c)) status = nextchar(sqfp, &c)` run from similar
    handles with the same status and character ends with the same status and character on similar handles. -/
theorem skipWhile_sim (p : UInt8 → Bool) (fuel : Nat) (a1 a2 : Ascii) (st : Status) (c : UInt8) (h : Sim a1 a2)
    (hl : st = .ok → Live a1 ∧ Live a2) :
    (skipWhile p fuel a1 st c).2.1 = (skipWhile p fuel a2 st c).2.1 ∧
    (skipWhile p fuel a1 st c).2.2 = (skipWhile p fuel a2 st c).2.2 ∧
    Sim (skipWhile p fuel a1 st c).1 (skipWhile p fuel a2 st c).1 ∧
    ((skipWhile p fuel a1 st c).2.1 = .ok → Live (skipWhile p fuel a1 st c).1 ∧ Live (skipWhile p fuel a2 st c).1) := by
  obtain ⟨e, hs, hl'⟩ := storeWhile_sim p fuel a1 a2 st c #[] 2 h hl
  rw [skipWhile_eq_store p fuel a1 st c #[] 2 (by decide), skipWhile_eq_store p fuel a2 st c #[] 2 (by decide)]
  exact ⟨congrArg (·.1) e, congrArg (·.2.1) e, hs, hl'⟩

/-- **The simulation starts at open / Position**: two handles on the same file with nothing buffered and the same `FILE*` position
    (any two block sizes) are similar after their first `loadbuf`, with the same status. -/
theorem loadbuf_sim (a1 a2 : Ascii) (h1 : Pre a1) (h2 : Pre a2) (hp : payload a1 = payload a2) (hf : a1.fpos = a2.fpos) :
    (loadbuf a1).2 = (loadbuf a2).2 ∧ Sim (loadbuf a1).1 (loadbuf a2).1 := by
  obtain ⟨w1, b1, f1, _, p1, c1⟩ := loadbuf_wf a1 h1
  obtain ⟨w2, b2, f2, _, p2, c2⟩ := loadbuf_wf a2 h2
  have hfile : a1.file = a2.file := congrArg (·.1) hp
  have hr : payload (loadbuf a1).1 = payload (loadbuf a2).1 := by rw [Frame.loadbuf_payload, Frame.loadbuf_payload]; exact hp
  have hpos : pos (loadbuf a1).1 = pos (loadbuf a2).1 := by rw [p1, p2, hf]
  rcases c1 with ⟨s1, n1, l1⟩ | ⟨s1, n1, e1⟩
  · rcases c2 with ⟨s2, n2, l2⟩ | ⟨s2, n2, e2⟩
    · exact ⟨by rw [s1, s2], ⟨w1, w2, hr, hpos, Or.inl ⟨by unfold Live; omega, by unfold Live; omega⟩⟩⟩
    · exfalso; rw [hfile, hf] at l1; omega
  · rcases c2 with ⟨s2, n2, l2⟩ | ⟨s2, n2, e2⟩
    · exfalso; rw [hfile, hf] at e1; omega
    · exact ⟨by rw [s1, s2], ⟨w1, w2, hr, hpos, Or.inr ⟨⟨n1, b1⟩, ⟨n2, b2⟩⟩⟩⟩

theorem Sim.fileEq {a1 a2 : Ascii} (h : Sim a1 a2) : a1.file = a2.file := congrArg (·.1) h.rest
theorem Sim.fuelEq {a1 a2 : Ascii} (h : Sim a1 a2) : fuelOf a2 = fuelOf a1 := by simp [fuelOf, h.fileEq]

theorem Sim.fail {a1 a2 : Ascii} (h : Sim a1 a2) : Sim a1.fail a2.fail := by
  obtain ⟨w1, w2, hr, hp, hc⟩ := h
  refine ⟨WF_of_blk (a := a1) rfl w1 w1.bposLe, WF_of_blk (a := a2) rfl w2 w2.bposLe, ?_, hp, hc⟩
  simp only [payload, Ascii.fail, Prod.mk.injEq] at hr ⊢
  obtain ⟨r1, r2, r3, r4, r5, r6, r7, r8, _, r10, r11, r12⟩ := hr
  exact ⟨r1, r2, r3, r4, r5, r6, r7, r8, trivial, r10, r11, r12⟩

theorem Sim.curByte {a1 a2 : Ascii} (h : Sim a1 a2) (l1 : Live a1) (l2 : Live a2) :
    ∃ x, a1.bufGet a1.bpos = some x ∧ a2.bufGet a2.bpos = some x := by
  obtain ⟨x1, g1, f1, _⟩ := bufGet_window a1 h.wf1 a1.bpos l1
  obtain ⟨x2, g2, f2, _⟩ := bufGet_window a2 h.wf2 a2.bpos l2
  have hp := h.pos
  have n1 : 0 ≤ a1.boff := by have := h.wf1.boffEq; have := h.wf1.ncLe; have := h.wf1.moff0; omega
  have n2 : 0 ≤ a2.boff := by have := h.wf2.boffEq; have := h.wf2.ncLe; have := h.wf2.moff0; omega
  have e : a1.boff.toNat + a1.bpos = a2.boff.toNat + a2.bpos := by simp only [Refine.pos] at hp; omega
  rw [h.fileEq, e, f2] at f1
  exact ⟨x1, g1, by rw [g2, f1]⟩

theorem Sim.offEq {a1 a2 : Ascii} (h : Sim a1 a2) : a1.boff + (a1.bpos : Int) = a2.boff + (a2.bpos : Int) := h.pos

theorem Sim.newRecord {a1 a2 : Ascii} (h : Sim a1 a2) :
    Sim { a1 with trk := { a1.trk with prvrpl := -1, prvbpl := -1, currpl := 0, curbpl := 0 }, linenumber := a1.linenumber + 1 }
        { a2 with trk := { a2.trk with prvrpl := -1, prvbpl := -1, currpl := 0, curbpl := 0 }, linenumber := a2.linenumber + 1 } := by
  obtain ⟨w1, w2, hr, hp, hc⟩ := h
  refine ⟨WF_of_blk (a := a1) rfl w1 w1.bposLe, WF_of_blk (a := a2) rfl w2 w2.bposLe, ?_, hp, hc⟩
  simp only [payload, Prod.mk.injEq] at hr ⊢
  obtain ⟨r1, r2, r3, r4, r5, r6, r7, r8, r9, r10, r11, r12⟩ := hr
  exact ⟨r1, r2, by rw [r3], by rw [r4], r5, r6, r7, r8, r9, r10, r11, r12⟩

theorem hfEnd_sim (a1 a2 : Ascii) (sq : Sq) (st : Status) (c : UInt8) (h : Sim a1 a2) (hl : st = .ok → Live a1 ∧ Live a2) :
    (hfEnd a1 sq st c).2 = (hfEnd a2 sq st c).2 ∧ Sim (hfEnd a1 sq st c).1 (hfEnd a2 sq st c).1 := by
  unfold hfEnd
  rw [h.fuelEq]
  have s1 := skipWhile_sim (fun c => c != chNl && c != chCr) (fuelOf a1) a1 a2 st c h hl
  generalize skipWhile (fun c => c != chNl && c != chCr) (fuelOf a1) a1 st c = r1 at s1 ⊢
  generalize skipWhile (fun c => c != chNl && c != chCr) (fuelOf a1) a2 st c = r2 at s1 ⊢
  obtain ⟨b1, st1, c1⟩ := r1
  obtain ⟨b2, st2, c2⟩ := r2
  simp only at s1 ⊢
  obtain ⟨rfl, rfl, hs, hl1⟩ := s1
  rw [hs.fuelEq]
  have s2 := skipWhile_sim (fun c => c == chNl || c == chCr) (fuelOf b1) b1 b2 st1 c1 hs hl1
  generalize skipWhile (fun c => c == chNl || c == chCr) (fuelOf b1) b1 st1 c1 = q1 at s2 ⊢
  generalize skipWhile (fun c => c == chNl || c == chCr) (fuelOf b1) b2 st1 c1 = q2 at s2 ⊢
  obtain ⟨d1, t1, e1⟩ := q1
  obtain ⟨d2, t2, e2⟩ := q2
  simp only at s2 ⊢
  obtain ⟨rfl, rfl, hs2, _⟩ := s2
  have ho1 := hs.offEq
  have ho2 := hs2.offEq
  rw [ho1, ho2]
  by_cases k1 : (t1 == Status.fault) = true
  · simp only [k1, if_true]; exact ⟨trivial, hs2⟩
  · by_cases k2 : (t1 != Status.ok && t1 != Status.eof) = true
    · simp only [k1, k2, if_true, Bool.false_eq_true, if_false]; exact ⟨trivial, hs2.fail⟩
    · simp only [k1, k2, Bool.false_eq_true, if_false]; exact ⟨trivial, hs2.newRecord⟩

theorem hfDesc_sim (a1 a2 : Ascii) (sq : Sq) (st : Status) (c : UInt8) (h : Sim a1 a2) (hl : st = .ok → Live a1 ∧ Live a2) :
    (hfDesc a1 sq st c).2 = (hfDesc a2 sq st c).2 ∧ Sim (hfDesc a1 sq st c).1 (hfDesc a2 sq st c).1 := by
  unfold hfDesc
  rw [h.fuelEq]
  have s1 := skipWhile_sim isBlankTab (fuelOf a1) a1 a2 st c h hl
  generalize skipWhile isBlankTab (fuelOf a1) a1 st c = r1 at s1 ⊢
  generalize skipWhile isBlankTab (fuelOf a1) a2 st c = r2 at s1 ⊢
  obtain ⟨b1, st1, c1⟩ := r1
  obtain ⟨b2, st2, c2⟩ := r2
  simp only at s1 ⊢
  obtain ⟨rfl, rfl, hs, hl1⟩ := s1
  rw [hs.fuelEq]
  have s2 := storeWhile_sim (fun c => c != chNl && c != chCr && c != 1) (fuelOf b1) b1 b2 st1 c1 #[] sq.dalloc hs hl1
  generalize storeWhile (fun c => c != chNl && c != chCr && c != 1) (fuelOf b1) b1 st1 c1 #[] sq.dalloc = q1 at s2 ⊢
  generalize storeWhile (fun c => c != chNl && c != chCr && c != 1) (fuelOf b1) b2 st1 c1 #[] sq.dalloc = q2 at s2 ⊢
  obtain ⟨d1, t1, e1, ds1, al1⟩ := q1
  obtain ⟨d2, t2, e2, ds2, al2⟩ := q2
  simp only [Prod.mk.injEq] at s2 ⊢
  obtain ⟨⟨rfl, rfl, rfl, rfl⟩, hs2, hl2⟩ := s2
  by_cases k1 : (t1 == Status.fault) = true
  · simp only [k1, if_true]; exact ⟨trivial, hs2⟩
  · by_cases k2 : (!decide (ds1.size < al1)) = true
    · simp only [k1, k2, if_true, Bool.false_eq_true, if_false]; exact ⟨trivial, hs2⟩
    · simp only [k1, k2, Bool.false_eq_true, if_false]
      exact hfEnd_sim d1 d2 _ t1 e1 hs2 hl2

theorem hfName_sim (a1 a2 : Ascii) (sq : Sq) (st : Status) (c : UInt8) (h : Sim a1 a2) (hl : st = .ok → Live a1 ∧ Live a2) :
    (hfName a1 sq st c).2 = (hfName a2 sq st c).2 ∧ Sim (hfName a1 sq st c).1 (hfName a2 sq st c).1 := by
  unfold hfName
  rw [h.fuelEq]
  have s1 := skipWhile_sim isBlankTab (fuelOf a1) a1 a2 st c h hl
  generalize skipWhile isBlankTab (fuelOf a1) a1 st c = r1 at s1 ⊢
  generalize skipWhile isBlankTab (fuelOf a1) a2 st c = r2 at s1 ⊢
  obtain ⟨b1, st1, c1⟩ := r1
  obtain ⟨b2, st2, c2⟩ := r2
  simp only at s1 ⊢
  obtain ⟨rfl, rfl, hs, hl1⟩ := s1
  rw [hs.fuelEq]
  have s2 := storeWhile_sim (fun c => !isSpace c) (fuelOf b1) b1 b2 st1 c1 #[] sq.nalloc hs hl1
  generalize storeWhile (fun c => !isSpace c) (fuelOf b1) b1 st1 c1 #[] sq.nalloc = q1 at s2 ⊢
  generalize storeWhile (fun c => !isSpace c) (fuelOf b1) b2 st1 c1 #[] sq.nalloc = q2 at s2 ⊢
  obtain ⟨d1, t1, e1, ds1, al1⟩ := q1
  obtain ⟨d2, t2, e2, ds2, al2⟩ := q2
  simp only [Prod.mk.injEq] at s2 ⊢
  obtain ⟨⟨rfl, rfl, rfl, rfl⟩, hs2, hl2⟩ := s2
  by_cases k1 : (t1 == Status.fault) = true
  · simp only [k1, if_true]; exact ⟨trivial, hs2⟩
  · by_cases k0 : (ds1.size == 0) = true
    · simp only [k1, k0, if_true, Bool.false_eq_true, if_false]; exact ⟨trivial, hs2.fail⟩
    · by_cases k2 : (!decide (ds1.size < al1)) = true
      · simp only [k1, k0, k2, if_true, Bool.false_eq_true, if_false]; exact ⟨trivial, hs2⟩
      · simp only [k1, k0, k2, Bool.false_eq_true, if_false]
        exact hfDesc_sim d1 d2 _ t1 e1 hs2 hl2

theorem hfGt_sim (a1 a2 : Ascii) (sq : Sq) (st : Status) (c : UInt8) (h : Sim a1 a2) (hl : st = .ok → Live a1 ∧ Live a2) :
    (hfGt a1 sq st c).2 = (hfGt a2 sq st c).2 ∧ Sim (hfGt a1 sq st c).1 (hfGt a2 sq st c).1 := by
  unfold hfGt
  by_cases k1 : (st == Status.eof) = true
  · simp only [k1, if_true]; exact ⟨trivial, h⟩
  · by_cases k2 : (st == Status.ok && c != chGt) = true
    · simp only [k1, k2, if_true, Bool.false_eq_true, if_false]; exact ⟨trivial, h.fail⟩
    · by_cases k3 : (st != Status.ok && c != chGt) = true
      · simp only [k1, k2, k3, if_true, Bool.false_eq_true, if_false]; exact ⟨trivial, h.fail⟩
      · by_cases k4 : (st != Status.ok) = true
        · have k5 : (c != chGt) = false := by
            cases hh : (c != chGt) with
            | false => rfl
            | true => rw [k4, hh] at k3; exact absurd rfl k3
          simp only [k1, k2, k4, k5, Bool.and_false, Bool.true_and, if_true, Bool.false_eq_true, if_false]; exact ⟨trivial, h⟩
        · simp only [k1, k2, k3, k4, Bool.false_eq_true, if_false]
          have hst : st = .ok := by
            cases st <;> simp_all
          obtain ⟨l1, l2⟩ := hl hst
          obtain ⟨e1, e2, hs, hcase⟩ := nextchar_sim a1 a2 c h l1 l2
          rw [h.offEq, e1, e2]
          simp only [Bool.false_and, Bool.false_eq_true, if_false]
          apply hfName_sim _ _ _ _ _ hs
          intro hok
          rcases hcase with ⟨_, q1, q2⟩ | ⟨q0, _, _⟩
          · exact ⟨q1, q2⟩
          · rw [e1] at q0; rw [q0] at hok; cases hok

/-- **`header_fasta` is block-size independent**: from similar handles whose cursors are on a byte (the state at the start of every
    record), the parser returns the same status and the same `ESL_SQ` — name, description, `roff`, `hoff`, `doff`, allocations —
    and leaves similar handles (same absolute position, same line number and line-geometry bookkeeping). -/
theorem headerFasta_sim (a1 a2 : Ascii) (sq : Sq) (h : Sim a1 a2) (l1 : Live a1) (l2 : Live a2) :
    (headerFasta a1 sq).2 = (headerFasta a2 sq).2 ∧ Sim (headerFasta a1 sq).1 (headerFasta a2 sq).1 := by
  have hn1 : (a1.nc == a1.bpos) = false := by simp only [Live] at l1; simp; omega
  have hn2 : (a2.nc == a2.bpos) = false := by simp only [Live] at l2; simp; omega
  obtain ⟨x, hx1, hx2⟩ := h.curByte l1 l2
  unfold headerFasta
  simp only [hn1, hn2, Bool.false_eq_true, if_false, hx1, hx2]
  simp only [bne_self_eq_false, Bool.false_eq_true, if_false]
  rw [h.fuelEq]
  have s1 := skipWhile_sim isSpace (fuelOf a1) a1 a2 .ok x h (fun _ => ⟨l1, l2⟩)
  generalize skipWhile isSpace (fuelOf a1) a1 .ok x = r1 at s1 ⊢
  generalize skipWhile isSpace (fuelOf a1) a2 .ok x = r2 at s1 ⊢
  obtain ⟨b1, st1, c1⟩ := r1
  obtain ⟨b2, st2, c2⟩ := r2
  simp only at s1 ⊢
  obtain ⟨rfl, rfl, hs, hl1⟩ := s1
  exact hfGt_sim b1 b2 sq st1 c1 hs hl1

end EaselModel.Sqio.Sim
