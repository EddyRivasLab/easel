import EaselModel.Sqio.WindowSeries
/-! # `read_nres` and the forward `sqascii_ReadWindow` are total: any bytes give a normal outcome (C02)

`WindowSpec.readNres_zero_out` says what `read_nres` does on any bytes (`Out`: the closed form, or `eslEFORMAT` on `Bad` bytes). `Tot`
is what is left of it when one does not ask which: the outcome is `eslOK`, `eslEOD` or `eslEFORMAT` (with a message) — never `fault`,
never an exception — the handle stays well formed, and the `ESL_SQ` only grows by at most the requested number of residues. -/
namespace EaselModel.Sqio.WindowTotal
open EaselModel.Sqio EaselModel.Sqio.Refine EaselModel.Sqio.Fold EaselModel.Sqio.DataScan EaselModel.Sqio.Cursor
open EaselModel.Sqio.BodySpec EaselModel.Sqio.WindowSpec EaselModel.Sqio.WindowSeries EaselModel.Sqio.HeaderSpec EaselModel.Sqio.ReadSpec

structure Tot (a0 : Ascii) (sq0 : Sq) (m actual0 : Nat) (r : Ascii × Sq × Status × Nat) : Prop where
  st : r.2.2.1 = .ok ∨ r.2.2.1 = .eod ∨ r.2.2.1 = .eformat
  err : r.2.2.1 = .eformat → r.1.haveErr = true
  tok : r.2.2.1 ≠ .eformat → Track.Ok r.1.trk
  wf : WF r.1
  kp : keep r.1 = keep a0
  sq_eq : ∃ d : Bytes, r.2.1 = { sq0 with seq := sq0.seq ++ d } ∧ d.size ≤ m
  act : r.2.2.2 ≤ actual0 + m

theorem Tot.of_out {a0 : Ascii} {sq0 : Sq} {m act : Nat} {r : Ascii × Sq × Status × Nat}
    (o : Out a0.inmap (mapOf a0 sq0) a0.eofIsOk (splitRes a0.inmap (fileFrom a0) m) sq0 m act r) (kp : keep r.1 = keep a0) :
    Tot a0 sq0 m act r := by
  rcases o.alt with d | ⟨_, h1, h2, h3, d, h4, h5⟩
  · have hle := splitRes_nres_le a0.inmap (fileFrom a0) m
    refine ⟨?_, ?_, fun _ => d.tok, o.wf, kp, ⟨_, d.sq_eq, by rw [resOf_size]; exact hle⟩, by rw [d.act]; omega⟩
    · rw [d.st]; split
      · exact Or.inr (Or.inl rfl)
      · exact Or.inl rfl
    · intro k; rw [d.st] at k; split at k <;> cases k
  · exact ⟨Or.inr (Or.inr h1), fun _ => h2, fun k => absurd h1 k, o.wf, kp, ⟨d, h4, h5⟩, by rw [h3]; omega⟩

/-- **`read_nres` with `nskip = 0` is total, for every byte string and every block size**: the outcome is `eslOK`, `eslEOD` or
    `eslEFORMAT` (then with a message) — never a fault, never an exception; the handle stays well formed on the same file; the
    `ESL_SQ` only gets at most `W` residues appended; at most `W` residues are reported. No hypothesis on the data, on `eofIsOk` or on `W`
    (`W = 0` included; `readWindow_fwd_total` asks `1 ≤ W` only because the property's statement does). -/
theorem readNres_zero_total (a : Ascii) (sq : Sq) (W : Nat) (w : WF a) (tok : Track.Ok a.trk) (hm : a.inmap.size = 128)
    (hmap : MapOk a.inmap (mapOf a sq)) (hcap : sq.seq.size + W + (if sq.digital then 2 else 1) ≤ sq.salloc) :
    let r := readNres a sq 0 W
    (r.2.2.1 = .ok ∨ r.2.2.1 = .eod ∨ r.2.2.1 = .eformat) ∧
    (r.2.2.1 = .eformat → r.1.haveErr = true) ∧
    (r.2.2.1 ≠ .eformat → Track.Ok r.1.trk) ∧
    WF r.1 ∧ stat r.1 = stat a ∧ r.1.exc = a.exc ∧ r.1.L = a.L ∧ r.1.bookmarkOff = a.bookmarkOff ∧ r.1.bookmarkLine = a.bookmarkLine ∧
    (∃ d : Bytes, r.2.1 = { sq with seq := sq.seq ++ d } ∧ d.size ≤ W) ∧ r.2.1.seq.size ≤ sq.seq.size + W ∧ r.2.2.2 ≤ W := by
  have t := Tot.of_out (readNres_zero_out a sq W w tok hm hmap hcap).1 (readNres_zero_out a sq W w tok hm hmap hcap).2
  obtain ⟨d, e1, e2⟩ := t.sq_eq
  have k := t.kp
  simp only [keep, Prod.mk.injEq] at k
  obtain ⟨_, _, _, _, _, k6, k7, k8, k9⟩ := k
  refine ⟨t.st, t.err, t.tok, t.wf, keep_stat t.kp, k7, k6, k8, k9, ⟨d, e1, e2⟩, ?_, by simpa using t.act⟩
  rw [e1]; simp only [Array.size_append]; omega

/-- an illegal byte in the first buffer: `read_nres` returns what `seebuf` left, nothing appended -/
theorem readNres_zero_eformat (a : Ascii) (sq : Sq) (W : Nat) (hst : (seebuf a (some W)).2.st = .eformat) :
    readNres a sq 0 W = ((seebuf a (some W)).1, sq, .eformat, 0) := by
  rw [readNres_zero_eq a sq W (Or.inr (Or.inr hst)), hst, show fuelOf (seebuf a (some W)).1 = (seebuf a (some W)).1.file.size + 1 + 1 from rfl,
    nresAddLoop_succ, if_neg (by simp), finishT_eq, finish_eformat]

theorem endFasta_total (a : Ascii) (sq : Sq) (w : WF a) :
    ((endFasta a sq).2.2 = .ok ∨ (endFasta a sq).2.2 = .eformat) ∧ ((endFasta a sq).2.2 = .eformat → (endFasta a sq).1.haveErr = true) ∧
    ((endFasta a sq).2.2 = .ok → (endFasta a sq).1 = a ∧ (endFasta a sq).2.1.digital = sq.digital ∧ (endFasta a sq).2.1.salloc = sq.salloc) ∧
    (endFasta a sq).1.exc = a.exc ∧ stat (endFasta a sq).1 = stat a ∧ WF (endFasta a sq).1 := by
  by_cases hlt : a.bpos < a.nc
  · obtain ⟨x, hx, _⟩ := bufGet_window a w a.bpos hlt
    by_cases hc : (x != chGt) = true
    · have e : endFasta a sq = (a.fail, sq, .eformat) := by
        unfold endFasta; simp only [hlt, if_true, hx, hc]
      rw [e]
      exact ⟨Or.inr rfl, fun _ => rfl, fun k => (by cases k), rfl, rfl, WF_of_blk (a := a) rfl w w.bposLe⟩
    · have e : endFasta a sq = (a, { sq with eoff := a.boff + a.bpos - 1 }, .ok) := by
        unfold endFasta; simp only [hlt, if_true, hx, hc, Bool.false_eq_true, if_false]
      rw [e]
      exact ⟨Or.inl rfl, fun k => (by cases k), fun _ => ⟨rfl, rfl, rfl⟩, rfl, rfl, w⟩
  · have e : endFasta a sq = (a, sq, .ok) := by
      unfold endFasta; simp only [hlt, if_false]
    rw [e]
    exact ⟨Or.inl rfl, fun k => (by cases k), fun _ => ⟨rfl, rfl, rfl⟩, rfl, rfl, w⟩

/-- outcome `r` of a forward window call from `a`, for any bytes: a documented status, a message on `eslEFORMAT`, no exception -/
structure WTot (a : Ascii) (r : Ascii × Sq × Status) : Prop where
  st : r.2.2 = .ok ∨ r.2.2 = .eod ∨ r.2.2 = .eof ∨ r.2.2 = .eformat
  err : r.2.2 = .eformat → r.1.haveErr = true
  exc : r.1.exc = a.exc

theorem WTot.of_three {a : Ascii} {r : Ascii × Sq × Status} (st : r.2.2 = .ok ∨ r.2.2 = .eod ∨ r.2.2 = .eformat)
    (err : r.2.2 = .eformat → r.1.haveErr = true) (exc : r.1.exc = a.exc) : WTot a r :=
  ⟨st.elim Or.inl fun k => Or.inr (k.elim Or.inl fun k => Or.inr (Or.inr k)), err, exc⟩

/-- the common tail is total, and never returns `eslEOF` -/
theorem winTail_total (a : Ascii) (sq : Sq) (C W : Int) (w : WF a) (tok : Track.Ok a.trk) (hm : a.inmap.size = 128)
    (hfmt : a.fmt = 1) (hmap : MapOk a.inmap (mapOf a sq)) (hC : 0 ≤ C) (hW : 0 ≤ W) (hcap : sq.seq.size ≤ C.toNat) :
    ((winTail a sq C W).2.2 = .ok ∨ (winTail a sq C W).2.2 = .eod ∨ (winTail a sq C W).2.2 = .eformat) ∧
    ((winTail a sq C W).2.2 = .eformat → (winTail a sq C W).1.haveErr = true) ∧
    (winTail a sq C W).1.exc = a.exc ∧ WF (winTail a sq C W).1 ∧ stat (winTail a sq C W).1 = stat a :=
  have o := winTail_out a sq C W w tok hm hfmt hmap hC hW hcap
  ⟨o.cases, fun k => (o.bad k).1, o.exc, o.wf, o.st⟩

/-- **a later window call on a record is total** (`sq.start ≠ 0`, the second alternative of `readWindow_fwd_total`): whatever `sq.seq` holds, the context slide keeps at most
    `C` residues and `esl_sq_GrowTo(C+W)` gives the room -/
theorem readWindow_next_total (a : Ascii) (sq : Sq) (C W : Int) (hC : 0 ≤ C) (hW : 0 ≤ W) (hs : sq.start ≠ 0) (w : WF a)
    (tok : Track.Ok a.trk) (hm : a.inmap.size = 128) (hfmt : a.fmt = 1) (hmap : MapOk a.inmap (mapOf a sq)) :
    ((readWindow a sq C W).2.2 = .ok ∨ (readWindow a sq C W).2.2 = .eod ∨ (readWindow a sq C W).2.2 = .eformat) ∧
    ((readWindow a sq C W).2.2 = .eformat → (readWindow a sq C W).1.haveErr = true) ∧
    (readWindow a sq C W).1.exc = a.exc ∧ WF (readWindow a sq C W).1 ∧ stat (readWindow a sq C W).1 = stat a := by
  rw [readWindow_next a sq C W hW hs]
  refine winTail_total a _ C W w tok hm hfmt hmap hC hW ?_
  show (sq.seq.extract (sq.n - (fwdSlide C sq.n a.L sq.start).2.2) sq.n).size ≤ C.toNat
  have hk : (fwdSlide C sq.n a.L sq.start).2.2 ≤ C.toNat ∨ (fwdSlide C sq.n a.L sq.start).2.2 = sq.n ∧ sq.n ≤ C.toNat := by
    unfold fwdSlide
    simp only []
    split
    · left; show (min C (sq.n : Int)).toNat ≤ C.toNat; omega
    · right; exact ⟨rfl, by omega⟩
  simp only [Array.size_extract, Sq.n] at hk ⊢
  omega

/-- **the first window call on a record is total** (`sq.start = 0`, the first alternative of `readWindow_fwd_total`): from a ready handle
    and a reused `ESL_SQ`, for every byte string -/
theorem readWindow_first_total (a : Ascii) (sq : Sq) (C W : Int) (hC : 0 ≤ C) (hW : 0 ≤ W) (R : Ready a sq) (hs : sq.start = 0)
    (hseq : sq.seq = #[]) : WTot a (readWindow a sq C W) := by
  by_cases hnc : a.nc = 0
  · have e : readWindow a sq C W = (a, sq, .eof) := by
      have h1 : ¬ W < 0 := by omega
      unfold readWindow
      simp [h1, hs, hnc]
    rw [e]
    exact ⟨Or.inr (Or.inr (Or.inl rfl)), fun k => (by cases k), rfl⟩
  · have hl : Sim.Live a := by
      rcases R.cur.cur with l | ⟨⟨e1, _⟩, _⟩
      · exact l
      · exact absurd e1 hnc
    rw [readWindow_first a sq C W hW hs hnc, parseHeader_fasta a sq R.fmt]
    obtain ⟨q1, q2, q3, _⟩ := headerFasta_spec a sq R.cur hl R.nalloc R.dalloc
    have hexc : (headerFasta a sq).1.exc = a.exc := (Frame.headerFasta_frame a sq).exc
    have hstat := Totality.headerL_status a.file.size sq (fileFrom a)
    obtain ⟨k1, k2, k3, _, _⟩ := headerL_keeps a.file.size sq (fileFrom a)
    generalize headerL a.file.size sq (fileFrom a) = H at q1 q2 q3 hstat k1 k2 k3
    obtain ⟨hst, hsq, hrest⟩ := H
    generalize headerFasta a sq = r0 at q1 q2 q3 hexc ⊢
    obtain ⟨a1, sq1, st1⟩ := r0
    simp only [] at q1 q2 q3 hexc hstat k1 k2 k3 ⊢
    obtain ⟨rfl, rfl⟩ := Prod.mk.inj q1
    rcases hstat with h | h | h
    · subst h
      obtain ⟨c1, _, c3⟩ := q2 rfl
      have b1 : (Status.ok != Status.ok) = false := by decide
      simp only [b1, Bool.false_eq_true, if_false]
      have hi : a1.inmap = a.inmap := stat_inmap c3
      obtain ⟨t1, t2, t3, _, _⟩ := winTail_total { a1 with L := 0 }
        { sq1 with start := 1, C := 0, L := -1, source := cstr sq1.name } C W (WF_L a1 0 c1.wf) c1.tok
        (by show a1.inmap.size = 128; rw [hi]; exact R.hm) ((stat_fmt c3).trans R.fmt)
        (by show MapOk a1.inmap (mapOf a1 sq1)
            have : mapOf a1 sq1 = mapOf a sq := by simp only [mapOf, k1, k2, hi]
            rw [this, hi]; exact R.mapOk)
        hC hW (by show sq1.seq.size ≤ C.toNat; rw [k3, hseq]; simp)
      exact WTot.of_three t1 t2 (t3.trans hexc)
    · subst h
      have b1 : (Status.eof != Status.ok) = true := by decide
      simp only [b1, if_true]
      exact ⟨Or.inr (Or.inr (Or.inl rfl)), nofun, hexc⟩
    · subst h
      have b1 : (Status.eformat != Status.ok) = true := by decide
      simp only [b1, if_true]
      exact ⟨Or.inr (Or.inr (Or.inr rfl)), fun _ => q3 rfl, hexc⟩

/-- **the forward `sqascii_ReadWindow` is total** (both cases in one statement) -/
theorem readWindow_fwd_total (a : Ascii) (sq : Sq) (C W : Int) (hC : 0 ≤ C) (hW : 1 ≤ W)
    (h : (sq.start = 0 ∧ sq.seq = #[] ∧ Ready a sq) ∨ (sq.start ≠ 0 ∧ HOk a ∧ MapOk a.inmap (mapOf a sq))) :
    WTot a (readWindow a sq C W) := by
  rcases h with ⟨h1, h2, R⟩ | ⟨h1, H, hmap⟩
  · exact readWindow_first_total a sq C W hC (by omega) R h1 h2
  · obtain ⟨t1, t2, t3, _, _⟩ := readWindow_next_total a sq C W hC (by omega) h1 H.w H.tok H.hm H.fmt hmap
    exact WTot.of_three t1 t2 t3

/-! ## non-vacuity: `>a\nAC1GT\n` (the `1` is an illegal byte), 2-byte blocks -/

def demoBad : Bytes := #[62, 97, 10, 65, 67, 49, 71, 84, 10]

example : ((readWindow (ParseFasta.openFasta demoBad 2 0) (freshSq 0).reuse 0 3).2.2,
    (readWindow (ParseFasta.openFasta demoBad 2 0) (freshSq 0).reuse 0 3).1.haveErr,
    (readWindow (ParseFasta.openFasta demoBad 2 0) (freshSq 0).reuse 0 3).1.exc) = (Status.eformat, true, false) := by
  rw [ParseFasta.openFasta, inmapFasta_text]; decide +kernel

example : ((readWindow (ParseFasta.openFasta demoBad 2 0) (freshSq 0).reuse 0 2).2.2,
    (readWindow (ParseFasta.openFasta demoBad 2 0) (freshSq 0).reuse 0 2).2.1.seq) = (Status.ok, #[65, 67]) := by
  rw [ParseFasta.openFasta, inmapFasta_text]; decide +kernel

/-- the hypotheses of the first alternative hold for the handle `esl_sqfile_Open` returns -/
example : (readWindow (ParseFasta.openFasta demoBad 2 0) (freshSq 0).reuse 0 3).1.exc = (ParseFasta.openFasta demoBad 2 0).exc :=
  (readWindow_fwd_total _ _ 0 3 (by decide) (by decide)
    (Or.inl ⟨rfl, rfl, (ParseFasta.openFasta_ready demoBad 2 0 (by decide) (by decide)).1⟩)).exc

end EaselModel.Sqio.WindowTotal
