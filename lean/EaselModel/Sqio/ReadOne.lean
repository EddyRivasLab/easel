import EaselModel.Sqio.SpecFasta
/-! # One `sqascii_Read` from a ready handle against the declarative `specOne`

What a loop over the records of a file (`ReadBlock`, the window loop) needs of one turn, in one statement. -/
namespace EaselModel.Sqio.ReadOne
open EaselModel.Sqio.DataScan EaselModel.Sqio.Cursor EaselModel.Sqio.ReadSpec EaselModel.Sqio.SpecFasta

/-- a successful `sqascii_Read`: it returned the record `r`, stands on `rest`, and handle and `ESL_SQ` are fit for the next call -/
structure Took (a : Ascii) (sq : Sq) (r : Record) (rest : List UInt8) : Prop where
  record : toRecord (read a sq).2.1 = r
  cur : Cur (read a sq).1
  ff : fileFrom (read a sq).1 = rest
  stat : stat (read a sq).1 = stat a
  dig : (read a sq).2.1.digital = sq.digital
  abc : (read a sq).2.1.abc = sq.abc
  nalloc : sq.nalloc ≤ (read a sq).2.1.nalloc
  dalloc : sq.dalloc ≤ (read a sq).2.1.dalloc
  lt : rest.length < (fileFrom a).length

theorem read_specOne (a : Ascii) (sq : Sq) (R : Ready a sq) (hs : sq.seq = #[]) (st : Status) (o : Option Record) (rest : List UInt8)
    (h : specOne a.inmap (mapFor a.inmap sq) a.file.size (fileFrom a) = (st, o, rest)) :
    (read a sq).2.2 = st ∧ st ≠ .fault ∧ (st = .ok → ∃ r, o = some r ∧ Took a sq r rest) := by
  obtain ⟨q1, q2, _, _⟩ := read_spec a sq R
  obtain ⟨e1, e2⟩ := recL_eq_specOne a.inmap a.file.size sq (fileFrom a) hs
  rw [h] at e1 e2
  simp only [] at e1 e2
  refine ⟨q1.trans e1, ?_, fun hok => ?_⟩
  · rw [← e1]
    rcases Totality.recL_status a.inmap a.file.size sq (fileFrom a) with k | k | k <;> rw [k] <;> decide
  · have hrok := e1.trans hok
    obtain ⟨m1, m2, m3, m4⟩ := q2 hrok
    obtain ⟨f1, f2⟩ := e2 hrok
    obtain ⟨k1, k2, k3, k4⟩ := ParseFasta.recL_keeps a.inmap a.file.size sq (fileFrom a) hrok
    have hlt := (Totality.recL_wf a.inmap a.file.size sq (fileFrom a) (by have := R.cur.len; omega) R.nalloc R.dalloc hrok).2
    rw [← m1] at f1 k1 k2 k3 k4
    exact ⟨_, f1, rfl, m2, m3.trans f2, m4, k1, k2, k3, k4, by rw [← f2]; exact hlt⟩

end EaselModel.Sqio.ReadOne
