import EaselModel.Sqio.MsaSeqLemmas
import EaselModel.Sqio.MsaSeqSto
/-! # `ModeOk`: every reader delivers alignments in the mode of the handle. Per format, the reader's `…Read_mode`
(`Msafile/ReadMode.lean`; Stockholm / Pfam: `Sqio/MsaSeqSto.lean`) read at the configuration of the opened file; then `modeOk_every`.
Every alphabet selection, every name width, every list of lines. -/
namespace EaselModel.Sqio.MsaSeq
open EaselModel.Msafile

theorem modeOf_of_cfg (fmt : Fmt) (abc : Option AbcType) (nw : Nat) (m : Msa)
    (hd : m.digital = (cfgOf fmt (abc.map abcOfType)).digital) (hk : m.kp = (cfgOf fmt (abc.map abcOfType)).kp)
    (hcd : (cfgOf fmt (abc.map abcOfType)).digital = abc.isSome)
    (hck : ∀ t, abc = some t → (cfgOf fmt (abc.map abcOfType)).kp = (abcOfType t).kp) : ModeOf ⟨fmt, abc, nw⟩ m :=
  ⟨by rw [hd, hcd], fun t ht => by rw [hk]; exact hck t ht⟩

theorem cfg_digital (fmt : Fmt) (abc : Option AbcType) : (cfgOf fmt (abc.map abcOfType)).digital = abc.isSome := by
  cases fmt <;> cases abc <;> rfl

theorem cfg_kp (fmt : Fmt) (abc : Option AbcType) (t : AbcType) (h : abc = some t) :
    (cfgOf fmt (abc.map abcOfType)).kp = (abcOfType t).kp := by
  subst h; cases fmt <;> rfl

/-- a reader that returns alignments in the mode of its configuration, read at the configuration of `⟨fmt, abc, nw⟩` -/
theorem modeOk_of_modeIs (fmt : Fmt) (abc : Option AbcType) (nw : Nat)
    (h : ∀ lines, ModeIs (cfgOf fmt (abc.map abcOfType)) ((⟨fmt, abc, nw⟩ : Opened).read lines).1) : ModeOk ⟨fmt, abc, nw⟩ :=
  fun lines m e => modeOf_of_cfg fmt abc nw m (h lines m e).1 (h lines m e).2 (cfg_digital _ _) (cfg_kp _ _)

theorem modeOk_stockholm (abc : Option AbcType) (nw : Nat) : ModeOk ⟨.stockholm, abc, nw⟩ :=
  modeOk_of_modeIs .stockholm abc nw (C02Sto.stockholmRead_mode _)

theorem modeOk_pfam (abc : Option AbcType) (nw : Nat) : ModeOk ⟨.pfam, abc, nw⟩ :=
  modeOk_of_modeIs .pfam abc nw (C02Sto.stockholmRead_mode _)

theorem modeOk_afa (abc : Option AbcType) (nw : Nat) : ModeOk ⟨.afa, abc, nw⟩ :=
  modeOk_of_modeIs .afa abc nw (afaRead_mode _)

theorem modeOk_a2m (abc : Option AbcType) (nw : Nat) : ModeOk ⟨.a2m, abc, nw⟩ :=
  modeOk_of_modeIs .a2m abc nw (a2mRead_mode _)

theorem modeOk_clustal (abc : Option AbcType) (nw : Nat) : ModeOk ⟨.clustal, abc, nw⟩ :=
  modeOk_of_modeIs .clustal abc nw (clustalRead_mode false _)

theorem modeOk_clustallike (abc : Option AbcType) (nw : Nat) : ModeOk ⟨.clustallike, abc, nw⟩ :=
  modeOk_of_modeIs .clustallike abc nw (clustalRead_mode true _)

theorem modeOk_psiblast (abc : Option AbcType) (nw : Nat) : ModeOk ⟨.psiblast, abc, nw⟩ :=
  modeOk_of_modeIs .psiblast abc nw (psiblastRead_mode _)

theorem modeOk_selex (abc : Option AbcType) (nw : Nat) : ModeOk ⟨.selex, abc, nw⟩ :=
  modeOk_of_modeIs .selex abc nw (selexRead_mode _)

theorem modeOk_phylip_any (abc : Option AbcType) (nw : Nat) : ModeOk ⟨.phylip, abc, nw⟩ :=
  modeOk_of_modeIs .phylip abc nw (phylipReadW_mode nw false _)

theorem modeOk_phylips_any (abc : Option AbcType) (nw : Nat) : ModeOk ⟨.phylips, abc, nw⟩ :=
  modeOk_of_modeIs .phylips abc nw (phylipReadW_mode nw true _)

/-- PHYLIP (interleaved and sequential) with the default name width (a declared format: `afp->fmtd.namewidth = 0`, i.e. 10) -/
theorem modeOk_phylip (abc : Option AbcType) : ModeOk ⟨.phylip, abc, 0⟩ := modeOk_phylip_any abc 0

theorem modeOk_phylips (abc : Option AbcType) : ModeOk ⟨.phylips, abc, 0⟩ := modeOk_phylips_any abc 0

/-- **every reader delivers alignments in the handle's mode: all ten formats, every alphabet, every name width; no hypothesis on the reader** -/
theorem modeOk_every (o : Opened) : ModeOk o := by
  obtain ⟨fmt, abc, nw⟩ := o
  cases fmt
  · exact modeOk_stockholm abc nw
  · exact modeOk_pfam abc nw
  · exact modeOk_a2m abc nw
  · exact modeOk_psiblast abc nw
  · exact modeOk_selex abc nw
  · exact modeOk_afa abc nw
  · exact modeOk_clustal abc nw
  · exact modeOk_clustallike abc nw
  · exact modeOk_phylip_any abc nw
  · exact modeOk_phylips_any abc nw

/-- `modeOk_every` under a hypothesis it does not need (PHYLIP with the default name width) -/
theorem modeOk_all (o : Opened) (hnw : (o.fmt = .phylip ∨ o.fmt = .phylips) → o.namewidth = 0) : ModeOk o := modeOk_every o

end EaselModel.Sqio.MsaSeq
