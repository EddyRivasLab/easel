import EaselModel.Sqio.MsaSeqLemmas
/-! # `sqascii_ReadWindow` on an alignment file is total (C02): the copy / reverse-complement / annotation tail (`windowCopy`) never
leaves the row it slices, and the call as a whole answers ok / eod / eof / eformat / einval (reverse strand of a text sequence that is
not nucleic) from every consistent window state. -/
namespace EaselModel.Sqio.MsaSeq
open EaselModel.Msafile

/-- a window record as the alignment branch returns it -/
structure WinWF (c w : Int) (q : Sq) : Prop where
  name : q.name.size < q.nalloc
  desc : q.desc.size < q.dalloc
  room : (if q.digital then q.n + 2 else q.n + 1) ≤ q.salloc
  n : (q.n : Int) = c + w
  c : q.C = c
  w : q.W = w

/-- a window record before the annotation is copied: `c + w` residues with room for the terminator, mode and `L` of the caller's `sq`,
    ends `a`, `b`, context and width set. Slicing establishes it, reverse complement swaps the ends, the annotation keeps it. -/
structure Slice (sq : Sq) (c w a b : Int) (q : Sq) : Prop where
  n : (q.n : Int) = c + w
  room : (if q.digital then q.n + 2 else q.n + 1) ≤ q.salloc
  digital : q.digital = sq.digital
  abc : q.abc = sq.abc
  l : q.L = sq.L
  start : q.start = a
  end_ : q.end_ = b
  c : q.C = c
  w : q.W = w

/-- `windowSlice` field by field, for coordinates inside the row: exactly residues `st..en`, no padding -/
theorem windowSlice_fields (sq t : Sq) (c st en n w : Int) (hst : 1 ≤ st) (hn : 0 ≤ n) (hspan : st + n = en + 1) (hen : en ≤ (t.n : Int)) :
    (windowSlice sq t c st en n w).seq = t.seq.extract (st.toNat - 1) en.toNat ∧
    (windowSlice sq t c st en n w).seq.size = n.toNat ∧
    (windowSlice sq t c st en n w).digital = sq.digital ∧ (windowSlice sq t c st en n w).abc = sq.abc ∧
    (windowSlice sq t c st en n w).nalloc = sq.nalloc ∧ (windowSlice sq t c st en n w).dalloc = sq.dalloc ∧
    (if sq.digital then n.toNat + 2 else n.toNat + 1) ≤ (windowSlice sq t c st en n w).salloc ∧
    (windowSlice sq t c st en n w).L = sq.L ∧
    (windowSlice sq t c st en n w).start = st ∧ (windowSlice sq t c st en n w).end_ = en ∧
    (windowSlice sq t c st en n w).C = c ∧ (windowSlice sq t c st en n w).W = w := by
  have hidx : st.toNat - 1 + n.toNat = en.toNat := by omega
  have hsz : (t.seq.extract (st.toNat - 1) (st.toNat - 1 + n.toNat)).size = n.toNat := by
    rw [Array.size_extract, hidx]
    have : en.toNat ≤ t.seq.size := by simp only [Sq.n] at hen; omega
    omega
  have hfrag : (if (t.seq.extract (st.toNat - 1) (st.toNat - 1 + n.toNat)).size < n.toNat
      then t.seq.extract (st.toNat - 1) (st.toNat - 1 + n.toNat) ++
        (Array.range (n.toNat - (t.seq.extract (st.toNat - 1) (st.toNat - 1 + n.toNat)).size)).map (fun _ => if t.digital then (255 : UInt8) else 0)
      else t.seq.extract (st.toNat - 1) (st.toNat - 1 + n.toNat)) = t.seq.extract (st.toNat - 1) en.toNat := by
    rw [if_neg (by rw [hsz]; exact Nat.lt_irrefl _), hidx]
  unfold windowSlice
  refine ⟨hfrag, ?_, by rw [BodySpec.growTo_eq], by rw [BodySpec.growTo_eq], by rw [BodySpec.growTo_eq], by rw [BodySpec.growTo_eq],
    growTo_room sq n.toNat, by rw [BodySpec.growTo_eq], rfl, rfl, rfl, rfl⟩
  show (if _ then _ else _ : Array UInt8).size = n.toNat
  rw [hfrag, ← hidx]; exact hsz

theorem windowSlice_slice (sq t : Sq) (c st en n w : Int) (hst : 1 ≤ st) (hn : n = c + w) (hn0 : 0 ≤ n) (hspan : st + n = en + 1)
    (hen : en ≤ (t.n : Int)) :
    Slice sq c w st en (windowSlice sq t c st en n w) ∧ (windowSlice sq t c st en n w).seq = t.seq.extract (st.toNat - 1) en.toNat := by
  obtain ⟨hseq, hsize, hdig, habc, _, _, hroom, hl, hs, he, hc, hw⟩ := windowSlice_fields sq t c st en n w hst hn0 hspan hen
  exact ⟨⟨by rw [Sq.n, hsize]; omega, by rw [Sq.n, hsize, hdig]; exact hroom, hdig, habc, hl, hs, he, hc, hw⟩, hseq⟩

/-- `esl_sq_ReverseComplement` replaces the residues by as many and swaps the ends -/
theorem Slice.swap {sq q q' : Sq} {c w a b : Int} {s : Bytes} (h : Slice sq c w a b q)
    (e : q' = { q with seq := s, start := q.end_, end_ := q.start }) (hs : s.size = q.seq.size) : Slice sq c w b a q' := by
  subst e
  exact ⟨by rw [← h.n]; simp only [Sq.n, hs], by have := h.room; simpa only [Sq.n, hs] using this, h.digital, h.abc, h.l, h.end_, h.start,
    h.c, h.w⟩

/-- `copyAnnot` field by field: the strings fit their allocations, everything of the window is kept -/
theorem copyAnnot_fields (q t : Sq) :
    (copyAnnot q t).name.size < (copyAnnot q t).nalloc ∧ (copyAnnot q t).desc.size < (copyAnnot q t).dalloc ∧
    (copyAnnot q t).seq = q.seq ∧ (copyAnnot q t).digital = q.digital ∧ (copyAnnot q t).salloc = q.salloc ∧
    (copyAnnot q t).start = q.start ∧ (copyAnnot q t).end_ = q.end_ ∧ (copyAnnot q t).C = q.C ∧ (copyAnnot q t).W = q.W ∧
    (copyAnnot q t).L = q.L := by
  unfold copyAnnot
  refine ⟨?_, ?_, rfl, rfl, rfl, rfl, rfl, rfl, rfl, rfl⟩
  · show t.name.size < (if t.name.size ≥ q.nalloc then t.name.size + 1 else q.nalloc); split <;> omega
  · show t.desc.size < (if t.desc.size ≥ q.dalloc then t.desc.size + 1 else q.dalloc); split <;> omega

/-- "Copy annotation" keeps the window and makes the strings fit: the record is a well-formed window -/
theorem Slice.annot {sq q : Sq} {c w a b : Int} (h : Slice sq c w a b q) (t : Sq) :
    Slice sq c w a b (copyAnnot q t) ∧ WinWF c w (copyAnnot q t) ∧ (copyAnnot q t).seq = q.seq := by
  exact ⟨⟨h.n, h.room, h.digital, h.abc, h.l, h.start, h.end_, h.c, h.w⟩,
    ⟨(copyAnnot_fields q t).1, (copyAnnot_fields q t).2.1, h.room, h.n, h.c, h.w⟩, rfl⟩

/-- `esl_sq_ReverseComplement` on a text window: `eslOK` or `eslEINVAL` (a symbol that is not nucleic), no exception; only the residues
    change (same number) and `start` / `end` are swapped -/
theorem revcomp_text (sq : Sq) (hd : sq.digital = false) :
    ((revcomp sq).2.1 = .ok ∨ (revcomp sq).2.1 = .einval) ∧ (revcomp sq).2.2 = false ∧
    (revcomp sq).1 = { sq with seq := (revcomp sq).1.seq, start := sq.end_, end_ := sq.start } ∧
    (revcomp sq).1.seq.size = sq.seq.size := by
  unfold revcomp
  rw [if_pos (by simp [hd])]
  refine ⟨?_, rfl, rfl, by simp⟩
  show (if _ then Status.ok else Status.einval) = .ok ∨ (if _ then Status.ok else Status.einval) = .einval
  split
  · exact Or.inl rfl
  · exact Or.inr rfl

theorem revcomp_digital (sq : Sq) (hd : sq.digital = true) (ht : (abcComp sq.abc).size ≠ 0)
    (hc : ∀ x ∈ sq.seq.toList, x.toNat < (abcComp sq.abc).size) :
    (revcomp sq).2.1 = .ok ∧ (revcomp sq).2.2 = false ∧
    (revcomp sq).1 = { sq with seq := (revcomp sq).1.seq, start := sq.end_, end_ := sq.start } ∧
    (revcomp sq).1.seq.size = sq.seq.size := by
  have hall : (sq.seq.all fun x => decide (x.toNat < (abcComp sq.abc).size)) = true := by
    rw [Array.all_eq_true_iff_forall_mem]
    intro x hx
    exact decide_eq_true (hc x (by simpa using hx))
  unfold revcomp
  rw [if_neg (by simp [hd]), if_neg (by simpa using ht), if_pos hall]
  exact ⟨rfl, rfl, rfl, by simp⟩

/-- **the tail of the alignment branch of `sqascii_ReadWindow` is total**: with coordinates that the coordinate theorems guarantee
    (`1 ≤ start`, `start + n = end + 1 ≤ L + 1`, `n = C' + W'`, `W' ≥ 1`) the slice copied from the row lies inside it - never a fault -;
    forward: `eslOK` with exactly residues `start..end` of the dealigned row; reverse: `eslOK` with `start`/`end` swapped, or (text mode,
    a symbol that is not nucleic) `eslEINVAL` with a message; no exception; the handle's alignment, index and reader are untouched -/
theorem windowCopy_total (h : MsaH) (sq t : Sq) (W c st en n w : Int)
    (hn : n = c + w) (hc : 0 ≤ c) (hw : 1 ≤ w) (hst : 1 ≤ st) (hspan : st + n = en + 1) (hen : en ≤ (t.n : Int))
    (hrev : W < 0 → sq.digital = true → (abcComp sq.abc).size ≠ 0 ∧ ∀ x ∈ t.seq.toList, x.toNat < (abcComp sq.abc).size) :
    (windowCopy h sq t W c st en n w).1.msa = h.msa ∧ (windowCopy h sq t W c st en n w).1.idx = h.idx ∧
    (windowCopy h sq t W c st en n w).1.o = h.o ∧ (windowCopy h sq t W c st en n w).1.exc = h.exc ∧
    (((windowCopy h sq t W c st en n w).2.2 = .ok ∧ WinWF c w (windowCopy h sq t W c st en n w).2.1 ∧
        (windowCopy h sq t W c st en n w).2.1.digital = sq.digital ∧ (windowCopy h sq t W c st en n w).2.1.L = sq.L ∧
        (¬ W < 0 → (windowCopy h sq t W c st en n w).2.1.start = st ∧ (windowCopy h sq t W c st en n w).2.1.end_ = en ∧
           (windowCopy h sq t W c st en n w).2.1.seq = t.seq.extract (st.toNat - 1) en.toNat) ∧
        (W < 0 → (windowCopy h sq t W c st en n w).2.1.start = en ∧ (windowCopy h sq t W c st en n w).2.1.end_ = st)) ∨
     (W < 0 ∧ sq.digital = false ∧ (windowCopy h sq t W c st en n w).2.2 = .einval ∧
        (windowCopy h sq t W c st en n w).1.haveErr = true)) := by
  have hn0 : 0 ≤ n := by omega
  have hbound : (decide (n < 0) || decide (st < 1) || decide (st + n > (t.n : Int) + 2)) = false := by
    simp only [Bool.or_eq_false_iff, decide_eq_false_iff_not]; omega
  obtain ⟨hs, hseq⟩ := windowSlice_slice sq t c st en n w hst hn hn0 hspan hen
  unfold windowCopy
  rw [if_neg (by rw [hbound]; exact Bool.false_ne_true)]
  by_cases hWn : W < 0
  · rw [if_pos hWn]
    generalize windowSlice sq t c st en n w = q at hs hseq
    have hrc : ((revcomp q).2.1 = .ok ∨ ((revcomp q).2.1 = .einval ∧ sq.digital = false)) ∧ (revcomp q).2.2 = false ∧
        Slice sq c w en st (revcomp q).1 := by
      cases hd : sq.digital with
      | false =>
        obtain ⟨r1, r2, r3, r4⟩ := revcomp_text q (hs.digital.trans hd)
        exact ⟨r1.elim Or.inl (fun x => Or.inr ⟨x, rfl⟩), r2, hs.swap r3 r4⟩
      | true =>
        obtain ⟨ht, hcodes⟩ := hrev hWn hd
        obtain ⟨r1, r2, r3, r4⟩ := revcomp_digital q (hs.digital.trans hd) (by rw [hs.abc]; exact ht) (by
          intro x hx
          rw [hs.abc]
          rw [hseq, Array.toList_extract] at hx
          exact hcodes x (List.mem_of_mem_drop (List.mem_of_mem_take hx)))
        exact ⟨Or.inl r1, r2, hs.swap r3 r4⟩
    obtain ⟨r1, r2, r3⟩ := hrc
    generalize revcomp q = rr at r1 r2 r3
    obtain ⟨q', stR, excR⟩ := rr
    simp only at r1 r2 r3
    subst r2
    rcases r1 with r1 | ⟨r1, hdf⟩
    · subst r1
      obtain ⟨a1, a2, _⟩ := r3.annot t
      have e1 : (Status.ok == Status.fault) = false := rfl
      have e2 : (Status.ok != Status.ok) = false := rfl
      simp only [e1, e2, Bool.false_eq_true, if_false, Bool.or_false]
      exact ⟨trivial, trivial, trivial, trivial,
        Or.inl ⟨trivial, a2, a1.digital, a1.l, fun hx => absurd hWn hx, fun _ => ⟨a1.start, a1.end_⟩⟩⟩
    · subst r1
      have e1 : (Status.einval == Status.fault) = false := rfl
      have e2 : (Status.einval != Status.ok) = true := rfl
      simp only [e1, e2, Bool.false_eq_true, if_false, if_true, Bool.or_false]
      exact ⟨trivial, trivial, trivial, trivial, Or.inr ⟨hWn, hdf, trivial, trivial⟩⟩
  · rw [if_neg hWn]
    obtain ⟨a1, a2, a3⟩ := hs.annot t
    have e1 : (Status.ok == Status.fault) = false := rfl
    have e2 : (Status.ok != Status.ok) = false := rfl
    simp only [e1, e2, Bool.false_eq_true, if_false, Bool.or_false]
    exact ⟨trivial, trivial, trivial, trivial,
      Or.inl ⟨trivial, a2, a1.digital, a1.l, fun _ => ⟨a1.start, a1.end_, a3.trans hseq⟩, fun hx => absurd hx hWn⟩⟩

theorem adjIdx_fields (h : MsaH) (sq : Sq) (W : Int) :
    (adjIdx h sq W).msa = h.msa ∧ (adjIdx h sq W).o = h.o ∧ (adjIdx h sq W).exc = h.exc ∧ (adjIdx h sq W).haveErr = h.haveErr := by
  unfold adjIdx; split <;> exact ⟨rfl, rfl, rfl, rfl⟩

theorem compTable_size : (abcComp 1).size = (abcOfType .dna).kp ∧ (abcComp 2).size = (abcOfType .rna).kp ∧ (abcComp 1).size ≠ 0 ∧ (abcComp 2).size ≠ 0 := by
  decide

/-- **`sqascii_ReadWindow` on an alignment file is total, for every byte string, from every consistent window state**: the caller's
    `ESL_SQ` is fresh (after `esl_sq_Reuse` / `eslEOD`) or holds the previous window of the row being read (`FwdState` / `RevState`; for the
    reverse strand `sq->L` is the row's length, as the forward `eslEOD` left it). Then the call answers `eslOK` with a well-formed window
    (`n = C' + W'`, `0 ≤ C' ≤ C`, `1 ≤ W' ≤ |W|`, strings and residues inside their allocations) and a state the next call accepts,
    `eslEOD` with an empty record carrying `L ≥ 0`, `eslEOF`, `eslEFORMAT` with a message, or - reverse strand of a text-mode sequence
    holding a symbol that is not nucleic - `eslEINVAL` with a message. Never a fault, no exception; the handle invariant is kept. -/
theorem readWindow_total (h : MsaH) (sq : Sq) (C W : Int) (hi : Inv h) (hm : ModeOk h.o) (hsq : sq.digital = h.o.abc.isSome)
    (hC : 0 ≤ C) (hW0 : W ≠ 0) (hidx : 0 ≤ (adjIdx h sq W).idx)
    (hcomp : W < 0 → sq.digital = true → (sq.abc = 1 ∧ h.o.abc = some .dna) ∨ (sq.abc = 2 ∧ h.o.abc = some .rna))
    (hstate : ∀ t, (nextRow (adjIdx h sq W)).2.1 = some t →
        (0 < W → FwdState sq.n sq.start sq.end_ t.L) ∧ (W < 0 → RevState sq.n sq.start sq.end_ sq.L ∧ sq.L = t.L)) :
    Inv (readWindow h sq C W).1 ∧ (readWindow h sq C W).1.o = h.o ∧ (readWindow h sq C W).1.exc = h.exc ∧
    (((readWindow h sq C W).2.2 = .ok ∧ (readWindow h sq C W).2.1.digital = sq.digital ∧
        (∃ c w, WinWF c w (readWindow h sq C W).2.1 ∧ 0 ≤ c ∧ c ≤ C ∧ 1 ≤ w ∧ (0 < W → w ≤ W) ∧ (W < 0 → w ≤ -W)) ∧
        (∃ t, (nextRow (adjIdx h sq W)).2.1 = some t ∧
          (0 < W → FwdState (readWindow h sq C W).2.1.n (readWindow h sq C W).2.1.start (readWindow h sq C W).2.1.end_ t.L) ∧
          (W < 0 → RevState (readWindow h sq C W).2.1.n (readWindow h sq C W).2.1.start (readWindow h sq C W).2.1.end_ (readWindow h sq C W).2.1.L ∧
             (readWindow h sq C W).2.1.L = t.L))) ∨
     ((readWindow h sq C W).2.2 = .eod ∧ (readWindow h sq C W).2.1.seq = #[] ∧ (readWindow h sq C W).2.1.start = 0 ∧
        (readWindow h sq C W).2.1.end_ = 0 ∧ 0 ≤ (readWindow h sq C W).2.1.L) ∨
     (readWindow h sq C W).2.2 = .eof ∨
     ((readWindow h sq C W).2.2 = .eformat ∧ (readWindow h sq C W).1.haveErr = true) ∨
     (W < 0 ∧ sq.digital = false ∧ (readWindow h sq C W).2.2 = .einval ∧ (readWindow h sq C W).1.haveErr = true)) := by
  obtain ⟨j1, j2, j3, _⟩ := adjIdx_fields h sq W
  have hi1 : Inv (adjIdx h sq W) := by
    intro m hm'
    rw [j1] at hm'
    rw [j2]
    exact hi m hm'
  obtain ⟨n1, n2', n3', _, _, n6⟩ := nextRow_row (adjIdx h sq W) hi1 (by rw [j2]; exact hm) hidx
  have n2 := n2'.trans j2
  have n3 := n3'.trans j3
  clear n2' n3'
  unfold readWindow readWindowWith
  generalize nextRow (adjIdx h sq W) = r at n1 n2 n3 n6 hstate
  cases n6 with
  | row h' t m hmsa hwf hdg hnle =>
    rw [j2] at hdg
    simp only at n1 n2 n3 hstate
    obtain ⟨hsF, hsR⟩ := hstate t rfl
    have hd : (sq.digital != t.digital) = false := by rw [hsq, hdg]; simp
    have hLt : t.L = (t.n : Int) := hwf.l
    have hL0 : 0 ≤ t.L := by rw [hLt]; omega
    simp only [hd, Bool.false_eq_true, if_false]
    have hinvOf : ∀ x : MsaH, x.msa = h'.msa → x.o = h'.o → Inv x := fun x e1 e3 m' hm' => by
      rw [e1] at hm'
      rw [e3]
      exact n1 m' hm'
    -- a digital row of the handle's nucleic alphabet indexes the complement table of that alphabet
    have hcodes : ∀ (k : AbcType) (code : Nat), (abcComp code).size = (abcOfType k).kp → (abcComp code).size ≠ 0 →
        sq.abc = code → h.o.abc = some k →
        (abcComp sq.abc).size ≠ 0 ∧ ∀ x ∈ t.seq.toList, x.toNat < (abcComp sq.abc).size := by
      intro k code hsz hne ha ho
      rw [ha]
      refine ⟨hne, fun x hx => ?_⟩
      have := hwf.sym x hx
      rw [hdg, ho] at this
      simp only [Option.isSome_some, if_true] at this
      rw [hsz, ← (n1 m hmsa).2.2 k (by rw [n2]; exact ho)]
      exact this.1
    rcases Int.lt_or_gt_of_ne hW0 with hWn | hWp
    · -- reverse strand
      have hWnp : ¬ (W > 0) := by omega
      obtain ⟨hRS, hLL⟩ := hsR hWn
      have hLs : 0 ≤ sq.L := by rw [hLL]; exact hL0
      have hsyn : (!(decide (W > 0)) && sq.L == -1) = false := by
        have : (sq.L == -1) = false := by simp; omega
        rw [this]; simp
      simp only [hsyn, Bool.false_eq_true, if_false, if_neg hWnp]
      obtain ⟨c1, c2, _, _, c5, c6, c7, c8, c9, c10, c11, c12⟩ := revCoords_spec sq.n sq.start sq.end_ sq.L C W hLs hC (by omega) hRS
      generalize revCoords sq.n sq.start sq.end_ sq.L C W = rc at c1 c2 c5 c6 c7 c8 c9 c10 c11 c12
      by_cases hw0 : rc.2.2.2.2 = 0
      · simp only [hw0, beq_self_eq_true, if_true]
        refine ⟨n1, n2, n3, Or.inr (Or.inl ⟨trivial, trivial, trivial, trivial, hL0⟩)⟩
      · have hb : (rc.2.2.2.2 == 0) = false := by simpa using hw0
        simp only [hb, Bool.false_eq_true, if_false]
        obtain ⟨w1, w2, w3, w4, w5⟩ := windowCopy_total h' sq t W rc.1 rc.2.1 rc.2.2.1 rc.2.2.2.1 rc.2.2.2.2 c5 c1 (by omega) c9 c10
          (by rw [← hLt, ← hLL]; exact c11)
          (by
            intro _ hdt
            rcases hcomp hWn hdt with ⟨ha, ho⟩ | ⟨ha, ho⟩
            · exact hcodes .dna 1 compTable_size.1 compTable_size.2.2.1 ha ho
            · exact hcodes .rna 2 compTable_size.2.1 compTable_size.2.2.2 ha ho)
        have hinv := hinvOf _ w1 w3
        refine ⟨hinv, by rw [w3]; exact n2, by rw [w4]; exact n3, ?_⟩
        rcases w5 with ⟨o1, o2, o3, o4, _, o6⟩ | o
        · obtain ⟨q1, q2⟩ := o6 hWn
          refine Or.inl ⟨o1, o3, ⟨rc.1, rc.2.2.2.2, o2, c1, c2, by omega, fun hp => absurd hp hWnp, fun _ => c7⟩,
            ⟨t, rfl, fun hp => absurd hp hWnp, fun _ => ⟨?_, by rw [o4]; exact hLL⟩⟩⟩
          have hrs := c12 hw0
          rw [q1, q2, o4]
          have hnq : ((windowCopy h' sq t W rc.1 rc.2.1 rc.2.2.1 rc.2.2.2.1 rc.2.2.2.2).2.1.n : Int) = rc.2.2.2.1 := by rw [o2.n, c5]
          rw [hnq]; exact hrs
        · exact Or.inr (Or.inr (Or.inr (Or.inr o)))
    · -- forward strand
      have hsyn : (!(decide (W > 0)) && sq.L == -1) = false := by simp [hWp]
      simp only [hsyn, Bool.false_eq_true, if_false, if_pos hWp]
      obtain ⟨c1, c2, _, c4, c5, c6, c7, c8, c9, c10, _, c12⟩ := fwdCoords_spec sq.n sq.start sq.end_ t.L C W hL0 hC (by omega) (hsF hWp)
      generalize fwdCoords sq.n sq.end_ t.L C W = rc at c1 c2 c4 c5 c6 c7 c8 c9 c10 c12
      by_cases hw0 : rc.2.2.2.2 = 0
      · simp only [hw0, beq_self_eq_true, if_true]
        refine ⟨n1, n2, n3, Or.inr (Or.inl ⟨trivial, trivial, trivial, trivial, hL0⟩)⟩
      · have hb : (rc.2.2.2.2 == 0) = false := by simpa using hw0
        simp only [hb, Bool.false_eq_true, if_false]
        have hWnn : ¬ W < 0 := by omega
        obtain ⟨w1, w2, w3, w4, w5⟩ := windowCopy_total h' sq t W rc.1 rc.2.1 rc.2.2.1 rc.2.2.2.1 rc.2.2.2.2 c4 c1 (by omega) c8 c9
          (by rw [← hLt]; exact c10) (fun hx => absurd hx hWnn)
        have hinv := hinvOf _ w1 w3
        refine ⟨hinv, by rw [w3]; exact n2, by rw [w4]; exact n3, ?_⟩
        rcases w5 with ⟨o1, o2, o3, _, o5, _⟩ | o
        · obtain ⟨q1, q2, _⟩ := o5 hWnn
          refine Or.inl ⟨o1, o3, ⟨rc.1, rc.2.2.2.2, o2, c1, c2, by omega, fun _ => c6, fun hx => absurd hx hWnn⟩,
            ⟨t, rfl, fun _ => ?_, fun hx => absurd hx hWnn⟩⟩
          have hfs := c12 hw0
          rw [q1, q2]
          have hnq : ((windowCopy h' sq t W rc.1 rc.2.1 rc.2.2.1 rc.2.2.2.1 rc.2.2.2.2).2.1.n : Int) = rc.2.2.2.1 := by rw [o2.n, c4]
          rw [hnq]; exact hfs
        · exact absurd o.1 hWnn
  | eof h' => exact ⟨n1, n2, n3, Or.inr (Or.inr (Or.inl rfl))⟩
  | eformat h' herr => exact ⟨n1, n2, n3, Or.inr (Or.inr (Or.inr (Or.inl ⟨rfl, herr⟩)))⟩

end EaselModel.Sqio.MsaSeq
