import EaselModel.Sqio.Model
import EaselModel.Sqio.StatusEq
/-! # What the reading primitives leave of the handle

`Sim.payload a` is everything in the handle that is neither block bookkeeping nor cursor. The buffer primitives do not touch it, in
either mode and for every handle (`loadbuf_payload … storeWhile_payload`); `seebuf` writes three of its fields (`seebuf_eq`); a stage
of `header_fasta` starts a new record when it answers `eslOK` and otherwise touches the error flag at most (`HdrFrame`). At the
end, because every file of the directory can reach it here: `BodySpec.growTo_eq`, `esl_sq_GrowTo` in normal form; for the same reason
`Sim.skipWhile_eq_store` (a skipping header loop is a storing one with the store thrown away), from which `skipWhile_payload` is read.

**The tuples of handle fields.** "This call leaves these fields alone" is stated in this directory as an equation between two
tuples of fields. There are seven of the handle (and `WindowSeries.hdrOf`, ten fields of the `ESL_SQ`). The handle has 24 fields;
`memValid` and the cursor `bpos` stand in no tuple, `line` in `geoL` only.

| tuple | file | fields, in order |
|---|---|---|
| `Sim.payload` (12) | here | `file L linenumber trk inmap eofIsOk fmt abc haveErr exc bookmarkOff bookmarkLine` |
| `Refine.blk` (10) | Refine.lean | `file B fpos moff mn mpos recording linebased boff nc`: with `bpos`, all that `WF` and `Pre` speak of |
| `Cursor.stat` (5) | Cursor.lean | `file inmap eofIsOk fmt abc`: what no reading call writes |
| `WindowSpec.keep` (9) | WindowSpec.lean | `stat`, then `L exc bookmarkOff bookmarkLine`: `payload` without what `seebuf` writes |
| `LineSpec.keepP` (13) | LineSpec.lean | `payload` (with `eofIsOk` behind `abc`), then `linebased` |
| `LineSpec.keepL` (14) | LineSpec.lean | `keepP` with `B` in second place |
| `EmblSpec.geoL` (11) | EmblSpec.lean | the fields of `blk` in another order, then `line`: all that `LWF` speaks of |

An equation of one gives the equation of the next: `keepL` ⇒ `keepP` (`LineSpec.keepP_of_keepL`) ⇒ `payload` ⇒ `keep` ⇒ `stat`
(`Cursor.stat_of_payload`, `WindowSpec.keep_of_payload`, `WindowSpec.keep_stat`; `keepP` ⇒ `payload` is not stated, no proof
crosses there). `blk` and `geoL` are the block bookkeeping; of it the others hold `file` (and `keepL` `B`, `keepP` and `keepL`
`linebased`). No proof should read a tuple by position: what an equation says of one field is
a lemma named `<tuple>_<field>` next to the tuple (`Sim.payload_fmt` below, `Cursor.stat_inmap`, `WindowSpec.keep_exc`), stated for the fields the proofs ask for; a new one is one line. -/
namespace EaselModel.Sqio.Sim

/-- the part of the handle that is not block bookkeeping -/
def payload (a : Ascii) : Bytes × Int × Int × Track × Bytes × Bool × Nat × Nat × Bool × Bool × Int × Int :=
  (a.file, a.L, a.linenumber, a.trk, a.inmap, a.eofIsOk, a.fmt, a.abc, a.haveErr, a.exc, a.bookmarkOff, a.bookmarkLine)


/-! what an equation of payloads says of each field (the fields the proofs ask for) -/
theorem payload_file {a b : Ascii} (h : payload a = payload b) : a.file = b.file := congrArg (fun p => p.1) h
theorem payload_L {a b : Ascii} (h : payload a = payload b) : a.L = b.L := congrArg (fun p => p.2.1) h
theorem payload_linenumber {a b : Ascii} (h : payload a = payload b) : a.linenumber = b.linenumber := congrArg (fun p => p.2.2.1) h
theorem payload_trk {a b : Ascii} (h : payload a = payload b) : a.trk = b.trk := congrArg (fun p => p.2.2.2.1) h
theorem payload_inmap {a b : Ascii} (h : payload a = payload b) : a.inmap = b.inmap := congrArg (fun p => p.2.2.2.2.1) h
theorem payload_eofIsOk {a b : Ascii} (h : payload a = payload b) : a.eofIsOk = b.eofIsOk := congrArg (fun p => p.2.2.2.2.2.1) h
theorem payload_fmt {a b : Ascii} (h : payload a = payload b) : a.fmt = b.fmt := congrArg (fun p => p.2.2.2.2.2.2.1) h
theorem payload_exc {a b : Ascii} (h : payload a = payload b) : a.exc = b.exc := congrArg (fun p => p.2.2.2.2.2.2.2.2.2.1) h

/-! the two header loops unrolled once, and the one as the other -/
theorem skipWhile_succ (p : UInt8 → Bool) (fuel : Nat) (a : Ascii) (st : Status) (c : UInt8) :
    skipWhile p (fuel + 1) a st c =
      if (st == .ok && p c) = true then skipWhile p fuel (nextchar a c).1 (nextchar a c).2.1 (nextchar a c).2.2 else (a, st, c) := rfl

theorem storeWhile_succ (p : UInt8 → Bool) (fuel : Nat) (a : Ascii) (st : Status) (c : UInt8) (acc : Bytes) (alloc : Nat) :
    storeWhile p (fuel + 1) a st c acc alloc =
      if (st == .ok && p c) = true then
        if acc.size < alloc then
          storeWhile p fuel (nextchar a c).1 (nextchar a c).2.1 (nextchar a c).2.2 (acc.push c)
            (if (acc.push c).size == alloc - 1 then alloc * 2 else alloc)
        else (a, .fault, c, acc, alloc)
      else (a, st, c, acc, alloc) := rfl

/-- the store of a header loop keeps one byte of room (for the terminating NUL) -/
theorem room_push (acc : Bytes) (c : UInt8) (alloc : Nat) (h : acc.size + 1 < alloc) :
    (acc.push c).size + 1 < (if ((acc.push c).size == alloc - 1) = true then alloc * 2 else alloc) := by
  rw [Array.size_push]
  split
  · rename_i k; have := eq_of_beq k; omega
  · rename_i k; have : acc.size + 1 ≠ alloc - 1 := by simpa using k
    omega

/-- a skipping loop is a storing loop with the store thrown away (a store with room never faults): what is proved of `storeWhile`
    by induction holds of `skipWhile` by this equation -/
theorem skipWhile_eq_store (p : UInt8 → Bool) (fuel : Nat) : ∀ (a : Ascii) (st : Status) (c : UInt8) (acc : Bytes) (alloc : Nat),
    acc.size + 1 < alloc →
    skipWhile p fuel a st c = ((storeWhile p fuel a st c acc alloc).1, (storeWhile p fuel a st c acc alloc).2.1,
      (storeWhile p fuel a st c acc alloc).2.2.1) := by
  induction fuel with
  | zero => intro a st c acc alloc _; rfl
  | succ fuel ih =>
    intro a st c acc alloc h
    rw [skipWhile_succ, storeWhile_succ]
    split
    · rw [if_pos (by omega : acc.size < alloc)]
      exact ih _ _ _ _ _ (room_push acc c alloc h)
    · rfl

end EaselModel.Sqio.Sim

namespace EaselModel.Sqio.Frame
open EaselModel.Sqio.Sim

theorem loadmem_payload (a : Ascii) : payload (loadmem a).1 = payload a := by
  unfold loadmem
  split
  · split <;> rfl
  · rfl

theorem loadLineLoop_payload (fuel : Nat) : ∀ a : Ascii, payload (loadLineLoop fuel a).1 = payload a := by
  induction fuel with
  | zero => intro a; rfl
  | succ fuel ih =>
    intro a
    unfold loadLineLoop
    split
    · rfl
    · simp only
      split
      · rw [loadmem_payload]; rfl
      · rw [ih, loadmem_payload]; rfl

theorem loadbuf_payload (a : Ascii) : payload (loadbuf a).1 = payload a := by
  unfold loadbuf
  have h1 : payload (if a.mpos ≥ a.mn then (loadmem a).1 else a) = payload a := by split; exact loadmem_payload a; rfl
  generalize (if a.mpos ≥ a.mn then (loadmem a).1 else a) = a1 at h1 ⊢
  split
  · exact h1
  · dsimp only
    generalize hr : loadLineLoop _ _ = r
    have h2 : payload r.1 = payload a1 := by rw [← hr, loadLineLoop_payload]; rfl
    obtain ⟨a3, st, nl⟩ := r
    simp only at h2 ⊢
    split
    · exact h2.trans h1
    · cases nl <;> exact h2.trans h1

theorem nextchar_payload (a : Ascii) (c : UInt8) : payload (nextchar a c).1 = payload a := by
  unfold nextchar
  simp only
  split
  · have := loadbuf_payload { a with bpos := a.bpos + 1 }
    generalize loadbuf { a with bpos := a.bpos + 1 } = r at this
    obtain ⟨a1, st⟩ := r
    simp only at this ⊢
    split
    · exact this
    · split <;> exact this
  · split <;> rfl

theorem storeWhile_payload (p : UInt8 → Bool) (fuel : Nat) : ∀ (a : Ascii) (st : Status) (c : UInt8) (acc : Bytes) (alloc : Nat),
    payload (storeWhile p fuel a st c acc alloc).1 = payload a := by
  induction fuel with
  | zero => intro a st c acc alloc; rfl
  | succ fuel ih =>
    intro a st c acc alloc
    unfold storeWhile
    split
    · split
      · have := nextchar_payload a c
        generalize nextchar a c = r at this
        obtain ⟨a1, st1, c1⟩ := r
        exact (ih _ _ _ _ _).trans this
      · rfl
    · rfl

theorem skipWhile_payload (p : UInt8 → Bool) (fuel : Nat) (a : Ascii) (st : Status) (c : UInt8) :
    payload (skipWhile p fuel a st c).1 = payload a := by
  rw [skipWhile_eq_store p fuel a st c #[] 2 (by decide)]
  exact storeWhile_payload p fuel a st c #[] 2

/-- `seebuf` writes the tracker, the line number and the error flag, nothing else -/
theorem seebuf_eq (a : Ascii) (maxn : Option Nat) :
    (seebuf a maxn).1 = { a with trk := (seebuf a maxn).1.trk, linenumber := (seebuf a maxn).1.linenumber,
                                 haveErr := (seebuf a maxn).1.haveErr } := by
  cases maxn <;> (simp only [seebuf]; split <;> rfl)

/-- the handle `a` after a header stage that answered `st` and left the error flag `err`: with `eslOK` a new record has begun
    (`prv*`/`cur*` of the tracker reset, line number + 1) -/
def after (a : Ascii) (st : Status) (err : Bool) : Ascii :=
  if st = .ok then
    { a with trk := { a.trk with prvrpl := -1, prvbpl := -1, currpl := 0, curbpl := 0 }, linenumber := a.linenumber + 1, haveErr := err }
  else { a with haveErr := err }

/-- what a stage of `header_fasta`, started on `a`, leaves of the handle -/
def HdrFrame (a : Ascii) (r : Ascii × Sq × Status) : Prop := payload r.1 = payload (after a r.2.2 r.1.haveErr)

theorem payload_err {a b : Ascii} (h : payload b = payload a) (e : Bool) :
    payload { b with haveErr := e } = payload { a with haveErr := e } := by
  simp only [payload, Prod.mk.injEq] at h ⊢
  obtain ⟨h1, h2, h3, h4, h5, h6, h7, h8, _, h10, h11, h12⟩ := h
  exact ⟨h1, h2, h3, h4, h5, h6, h7, h8, trivial, h10, h11, h12⟩

theorem after_congr {a b : Ascii} (h : payload a = payload b) (st : Status) (err : Bool) :
    payload (after a st err) = payload (after b st err) := by
  simp only [payload, Prod.mk.injEq] at h
  obtain ⟨h1, h2, h3, h4, h5, h6, h7, h8, _, h10, h11, h12⟩ := h
  unfold after
  split <;> simp only [payload, h1, h2, h3, h4, h5, h6, h7, h8, h10, h11, h12]

/-- the stage ran on a handle with the payload of `a` -/
theorem HdrFrame.of_payload {a b : Ascii} {r : Ascii × Sq × Status} (h : HdrFrame b r) (e : payload b = payload a) : HdrFrame a r :=
  Eq.trans h (after_congr e _ _)

/-- the stage gave up on `b` (which has the payload of `a`), setting the error flag or not -/
theorem HdrFrame.giveUp {a b : Ascii} (sq : Sq) {st : Status} (e : payload b = payload a) (err : Bool) (hst : st ≠ .ok) :
    HdrFrame a ({ b with haveErr := err }, sq, st) := by
  unfold HdrFrame after
  rw [if_neg hst]
  exact payload_err e err

/-- whatever the outcome, every field but tracker, line number and error flag is as before -/
theorem HdrFrame.kept {a : Ascii} {r : Ascii × Sq × Status} (h : HdrFrame a r) :
    payload { r.1 with trk := a.trk, linenumber := a.linenumber, haveErr := a.haveErr } = payload a := by
  unfold HdrFrame after at h
  simp only [payload, Prod.mk.injEq] at h ⊢
  split at h <;> exact ⟨h.1, h.2.1, trivial, trivial, h.2.2.2.2.1, h.2.2.2.2.2.1, h.2.2.2.2.2.2.1, h.2.2.2.2.2.2.2.1, trivial,
    h.2.2.2.2.2.2.2.2.2.1, h.2.2.2.2.2.2.2.2.2.2.1, h.2.2.2.2.2.2.2.2.2.2.2⟩

theorem HdrFrame.fmt {a : Ascii} {r : Ascii × Sq × Status} (h : HdrFrame a r) : r.1.fmt = a.fmt := (payload_fmt h.kept :)
theorem HdrFrame.inmap {a : Ascii} {r : Ascii × Sq × Status} (h : HdrFrame a r) : r.1.inmap = a.inmap := (payload_inmap h.kept :)
theorem HdrFrame.exc {a : Ascii} {r : Ascii × Sq × Status} (h : HdrFrame a r) : r.1.exc = a.exc := (payload_exc h.kept :)

theorem HdrFrame.trk {a : Ascii} {r : Ascii × Sq × Status} (h : HdrFrame a r) :
    r.1.trk = if r.2.2 = .ok then { a.trk with prvrpl := -1, prvbpl := -1, currpl := 0, curbpl := 0 } else a.trk := by
  refine (payload_trk h).trans ?_
  unfold after
  split <;> rfl

theorem hfEnd_frame (a : Ascii) (sq : Sq) (st : Status) (c : UInt8) : HdrFrame a (hfEnd a sq st c) := by
  have k1 := skipWhile_payload (fun c => c != chNl && c != chCr) (fuelOf a) a st c
  unfold hfEnd
  simp only
  generalize skipWhile (fun c => c != chNl && c != chCr) (fuelOf a) a st c = r1 at k1 ⊢
  have k2 := (skipWhile_payload (fun c => c == chNl || c == chCr) (fuelOf r1.1) r1.1 r1.2.1 r1.2.2).trans k1
  generalize skipWhile (fun c => c == chNl || c == chCr) (fuelOf r1.1) r1.1 r1.2.1 r1.2.2 = r2 at k2 ⊢
  split
  · exact .giveUp _ k2 r2.1.haveErr (by decide)
  · split
    · exact .giveUp _ k2 true (by decide)
    · unfold HdrFrame after
      simp only [if_true]
      simp only [payload, Prod.mk.injEq] at k2 ⊢
      obtain ⟨h1, h2, h3, h4, h5, h6, h7, h8, _, h10, h11, h12⟩ := k2
      exact ⟨h1, h2, by rw [h3], by rw [h4], h5, h6, h7, h8, trivial, h10, h11, h12⟩

theorem hfDesc_frame (a : Ascii) (sq : Sq) (st : Status) (c : UInt8) : HdrFrame a (hfDesc a sq st c) := by
  have k1 := skipWhile_payload isBlankTab (fuelOf a) a st c
  unfold hfDesc
  simp only
  generalize skipWhile isBlankTab (fuelOf a) a st c = r1 at k1 ⊢
  have k2 := (storeWhile_payload (fun c => c != chNl && c != chCr && c != 1) (fuelOf r1.1) r1.1 r1.2.1 r1.2.2 #[] sq.dalloc).trans k1
  generalize storeWhile (fun c => c != chNl && c != chCr && c != 1) (fuelOf r1.1) r1.1 r1.2.1 r1.2.2 #[] sq.dalloc = r2 at k2 ⊢
  split
  · exact .giveUp _ k2 r2.1.haveErr (by decide)
  · split
    · exact .giveUp _ k2 r2.1.haveErr (by decide)
    · exact (hfEnd_frame _ _ _ _).of_payload k2

theorem hfName_frame (a : Ascii) (sq : Sq) (st : Status) (c : UInt8) : HdrFrame a (hfName a sq st c) := by
  have k1 := skipWhile_payload isBlankTab (fuelOf a) a st c
  unfold hfName
  simp only
  generalize skipWhile isBlankTab (fuelOf a) a st c = r1 at k1 ⊢
  have k2 := (storeWhile_payload (fun c => !isSpace c) (fuelOf r1.1) r1.1 r1.2.1 r1.2.2 #[] sq.nalloc).trans k1
  generalize storeWhile (fun c => !isSpace c) (fuelOf r1.1) r1.1 r1.2.1 r1.2.2 #[] sq.nalloc = r2 at k2 ⊢
  split
  · exact .giveUp _ k2 r2.1.haveErr (by decide)
  · split
    · exact .giveUp _ k2 true (by decide)
    · split
      · exact .giveUp _ k2 r2.1.haveErr (by decide)
      · exact (hfDesc_frame _ _ _ _).of_payload k2

theorem hfGt_frame (a : Ascii) (sq : Sq) (st : Status) (c : UInt8) : HdrFrame a (hfGt a sq st c) := by
  unfold hfGt
  split
  · exact .giveUp _ rfl a.haveErr (by decide)
  · split
    · exact .giveUp _ rfl true (by decide)
    · split
      · exact .giveUp _ rfl true (by decide)
      · split
        · rename_i hne
          exact .giveUp _ rfl a.haveErr (by simpa using hne)
        · exact (hfName_frame _ _ _ _).of_payload (nextchar_payload a c)

/-- **the frame of `header_fasta`**, for every handle -/
theorem headerFasta_frame (a : Ascii) (sq : Sq) : HdrFrame a (headerFasta a sq) := by
  unfold headerFasta
  have k0 : payload (if a.nc == a.bpos then loadbuf a else (a, Status.ok)).1 = payload a := by
    split
    · exact loadbuf_payload a
    · rfl
  generalize (if a.nc == a.bpos then loadbuf a else (a, Status.ok)) = r0 at k0 ⊢
  obtain ⟨a0, st0⟩ := r0
  simp only at k0 ⊢
  split
  · rename_i hne
    exact .giveUp _ k0 a0.haveErr (by simpa using hne)
  · cases hb : a0.bufGet a0.bpos with
    | none => exact .giveUp _ k0 a0.haveErr (by decide)
    | some c =>
      simp only
      exact (hfGt_frame _ _ _ _).of_payload ((skipWhile_payload _ _ _ _ _).trans k0)

end EaselModel.Sqio.Frame

namespace EaselModel.Sqio.BodySpec

/-- `esl_sq_GrowTo` in normal form: the allocation is the larger of what it was and what is asked for -/
theorem growTo_eq (s : Sq) (n : Nat) : s.growTo n = { s with salloc := max s.salloc (n + (if s.digital then 2 else 1)) } := by
  unfold Sq.growTo
  have e : (if s.digital = true then n + 2 else n + 1) = n + (if s.digital then 2 else 1) := by split <;> rfl
  simp only [e]
  by_cases h : n + (if s.digital then 2 else 1) > s.salloc
  · simp only [h, if_true]; congr 1; omega
  · simp only [h, if_false]
    have : max s.salloc (n + (if s.digital then 2 else 1)) = s.salloc := by omega
    rw [this]

end EaselModel.Sqio.BodySpec
