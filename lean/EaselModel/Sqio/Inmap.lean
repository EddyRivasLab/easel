import EaselModel.Sqio.Basic
import EaselModel.Core.ListLookup
/-! # The input map `inmap_fasta()` builds (and the text-mode map of `inmap_embl()`, written out)

`abc` selects the alphabet as in `Basic.abcInmap`: 0 = text mode, 1 = DNA, 2 = RNA, 3 = amino. `inmapFasta abc` is built by `setByte`s
over a 128-entry base map: six in text mode, seven in digital mode, where `-` is made illegal first. `inmapFasta_getD` reads off each
entry; with one pass over the alphabets' own input maps (`tables_abc`) it gives what the readers need of the table: its size, that
`>` alone ends the data, and that in digital mode its classes agree with the alphabet's. -/
namespace EaselModel.Sqio
open Tables

theorem getD_setByte (m : Bytes) (i j : Nat) (v d : UInt8) (hj : j < m.size) :
    (setByte m i v).getD j d = if j = i then v else m.getD j d := by
  unfold setByte
  rw [getD_setIfInBounds]
  by_cases h : j = i
  · subst h; simp [hj]
  · simp [h, Ne.symm h]

theorem size_setByte (m : Bytes) (i : Nat) (v : UInt8) : (setByte m i v).size = m.size := Array.size_setIfInBounds

theorem getD_map_range (f : Nat → UInt8) (n c : Nat) (d : UInt8) (hc : c < n) : ((Array.range n).map f).getD c d = f c := by
  simp [Array.getD, hc]

theorem inmapFasta_size (abc : Nat) : (inmapFasta abc).size = 128 := by
  unfold inmapFasta
  split <;> simp only [size_setByte, Array.size_map, Array.size_range]

/-- `inmap_fasta()` entry by entry: the special symbols, then the base map (letters in text mode, the alphabet's own map with `-` made
    illegal in digital mode) -/
theorem inmapFasta_getD (abc c : Nat) (d : UInt8) (hc : c < 128) :
    (inmapFasta abc).getD c d =
      if c = 62 then dsqEod else if c = 10 then dsqEol else if c = 13 then dsqIgnored else if c = 9 then dsqIgnored
      else if c = 32 then dsqIgnored else if c = 42 then 42
      else if abc = 0 then (if (65 ≤ c ∧ c ≤ 90) ∨ (97 ≤ c ∧ c ≤ 122) then UInt8.ofNat c else dsqIllegal)
      else if c = 45 then dsqIllegal else (abcInmap abc).getD c dsqIllegal := by
  unfold inmapFasta
  by_cases h0 : abc = 0
  · simp only [h0, beq_self_eq_true, if_true]
    rw [getD_setByte, getD_setByte, getD_setByte, getD_setByte, getD_setByte, getD_setByte, getD_map_range _ _ _ _ hc]
    · simp
    all_goals simp only [size_setByte, Array.size_map, Array.size_range]; exact hc
  · simp only [h0, beq_iff_eq, if_false]
    rw [getD_setByte, getD_setByte, getD_setByte, getD_setByte, getD_setByte, getD_setByte, getD_setByte, getD_map_range _ _ _ _ hc]
    all_goals simp only [size_setByte, Array.size_map, Array.size_range]; exact hc

/-- the input maps of the three standard alphabets (tables regenerated from `esl_alphabet.c` on every run): 128 entries, each a
    residue code or `eslDSQ_ILLEGAL`; white space is illegal and `*` is a residue -/
theorem tables_abc : ∀ abc ∈ [1, 2, 3], (abcInmap abc).size = 128 ∧
    (∀ x ∈ (abcInmap abc).toList, x ≤ 127 ∨ x = dsqIllegal) ∧
    (abcInmap abc)[9]? = some dsqIllegal ∧ (abcInmap abc)[10]? = some dsqIllegal ∧ (abcInmap abc)[13]? = some dsqIllegal ∧
    (abcInmap abc)[32]? = some dsqIllegal ∧ ∃ x, (abcInmap abc)[42]? = some x ∧ x ≤ 127 := by decide +kernel

/-- digital mode: `>` is the only end-of-data symbol, what `inmap_fasta()` calls a residue the alphabet calls a residue, and what it
    skips the alphabet does not accept -/
theorem inmapFasta_digital (abc : Nat) (habc : abc ∈ [1, 2, 3]) (c : Nat) (hc : c < 128) (d d' : UInt8) :
    ((inmapFasta abc).getD c d = dsqEod → c = 62) ∧
    ((inmapFasta abc).getD c d ≤ 127 → (abcInmap abc).getD c d' ≤ 127) ∧
    ((inmapFasta abc).getD c d = dsqIgnored ∨ (inmapFasta abc).getD c d = dsqEol → (abcInmap abc).getD c d' > 127) := by
  obtain ⟨hsz, hcode, h9, h10, h13, h32, x42, h42, hx42⟩ := tables_abc abc habc
  have hc' : c < (abcInmap abc).size := by rw [hsz]; exact hc
  have h0 : abc ≠ 0 := by rintro rfl; exact absurd habc (by decide)
  obtain ⟨x, hx⟩ : ∃ x, (abcInmap abc)[c]? = some x := ⟨_, Array.getElem?_eq_getElem hc'⟩
  have hxc := hcode x (Array.mem_toList_iff.2 (Array.mem_of_getElem? hx))
  rw [inmapFasta_getD abc c d hc, if_neg h0]
  simp only [Array.getD_eq_getD_getElem?, dsqEod, dsqEol, dsqIgnored, dsqIllegal]
  by_cases e : c = 62; · subst e; simp
  by_cases e : c = 10; · subst e; simp [h10, dsqIllegal]
  by_cases e : c = 13; · subst e; simp [h13, dsqIllegal]
  by_cases e : c = 9; · subst e; simp [h9, dsqIllegal]
  by_cases e : c = 32; · subst e; simp [h32, dsqIllegal]
  by_cases e : c = 42; · subst e; simpa [h42] using hx42
  by_cases e : c = 45; · subst e; simp
  simp only [*, if_false, Option.getD_some]
  rcases hxc with h | rfl
  · exact ⟨fun k => absurd h (by rw [k]; decide), fun _ => h, fun k => absurd h (by rcases k with k | k <;> (rw [k]; decide))⟩
  · simp [dsqIllegal]

theorem inmapFasta_text_eod (c : Nat) (hc : c < 128) (d : UInt8) (h : (inmapFasta 0).getD c d = dsqEod) : c = 62 := by
  rw [inmapFasta_getD 0 c d hc] at h
  simp only [if_true, dsqEod, dsqEol, dsqIgnored, dsqIllegal] at h
  by_cases e : c = 62; · exact e
  by_cases e : c = 10; · subst e; simp at h
  by_cases e : c = 13; · subst e; simp at h
  by_cases e : c = 9; · subst e; simp at h
  by_cases e : c = 32; · subst e; simp at h
  by_cases e : c = 42; · subst e; simp at h
  simp only [*, if_false] at h
  split at h
  · have := congrArg UInt8.toNat h
    simp at this
    omega
  · simp at h

/-! ## the two text-mode maps written out

Evaluating `Array.range 128 |>.map ..` is what a test vector on a text-mode handle spends most of its time on; with the tables
written out (checked once, here) the examples rewrite first and evaluate the reader only. The FASTA table is checked entry by entry
against `inmapFasta_getD`, which is cheaper than evaluating the array; `inmap_embl` has no such closed form here and is evaluated. -/

/-- a byte table is the written-out list `T` if it has its length and its entries -/
theorem table_eq (m : Bytes) (T : List UInt8) (hs : m.size = T.length) (h : ∀ c, c < T.length → m.getD c 0 = T.getD c 0) :
    m = T.toArray := by
  apply Array.ext (by simpa using hs)
  intro i h1 h2
  have := h i (by simpa using h2)
  simpa [Array.getD, h1, List.getD, (by simpa using h2 : i < T.length)] using this

theorem inmapFasta_text : inmapFasta 0 = #[
    254, 254, 254, 254, 254, 254, 254, 254, 254, 253, 252, 254, 254, 253, 254, 254, 254, 254, 254, 254, 254, 254, 254, 254, 254, 254, 254, 254, 254, 254, 254, 254,
    253, 254, 254, 254, 254, 254, 254, 254, 254, 254, 42, 254, 254, 254, 254, 254, 254, 254, 254, 254, 254, 254, 254, 254, 254, 254, 254, 254, 254, 254, 251, 254,
    254, 65, 66, 67, 68, 69, 70, 71, 72, 73, 74, 75, 76, 77, 78, 79, 80, 81, 82, 83, 84, 85, 86, 87, 88, 89, 90, 254, 254, 254, 254, 254,
    254, 97, 98, 99, 100, 101, 102, 103, 104, 105, 106, 107, 108, 109, 110, 111, 112, 113, 114, 115, 116, 117, 118, 119, 120, 121, 122, 254, 254, 254, 254, 254] := by
  refine table_eq _ _ (inmapFasta_size 0) fun c hc => ?_
  rw [inmapFasta_getD 0 c 0 hc, if_pos rfl]
  revert c
  decide +kernel

theorem inmapEmbl_text : inmapEmbl 0 = #[
    254, 254, 254, 254, 254, 254, 254, 254, 254, 253, 253, 254, 254, 253, 254, 254, 254, 254, 254, 254, 254, 254, 254, 254, 254, 254, 254, 254, 254, 254, 254, 254,
    253, 254, 254, 254, 254, 254, 254, 254, 254, 254, 42, 254, 254, 254, 254, 251, 253, 253, 253, 253, 253, 253, 253, 253, 253, 253, 254, 254, 254, 254, 254, 254,
    254, 65, 66, 67, 68, 69, 70, 71, 72, 73, 74, 75, 76, 77, 78, 79, 80, 81, 82, 83, 84, 85, 86, 87, 88, 89, 90, 254, 254, 254, 254, 254,
    254, 97, 98, 99, 100, 101, 102, 103, 104, 105, 106, 107, 108, 109, 110, 111, 112, 113, 114, 115, 116, 117, 118, 119, 120, 121, 122, 254, 254, 254, 254, 254] :=
  Array.toList_inj.mp (by decide +kernel)

end EaselModel.Sqio
