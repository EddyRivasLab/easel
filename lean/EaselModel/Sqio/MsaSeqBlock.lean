import EaselModel.Sqio.MsaSeqLemmas
import EaselModel.Msafile.GuessLemmas
/-! # `sqascii_ReadBlock` (short mode) and `sqascii_GuessAlphabet` on an alignment file are total (C02) -/
namespace EaselModel.Sqio.MsaSeq
open EaselModel.Msafile

/-- every slot of the block is an `ESL_SQ` of the handle's mode (`esl_sq_CreateBlock` / `esl_sq_CreateDigitalBlock`) -/
def SlotsOk (o : Opened) (l : Array Sq) : Prop := ∀ j (hj : j < l.size), l[j].digital = o.abc.isSome

theorem slotsOk_set (o : Opened) (l : Array Sq) (i : Nat) (q : Sq) (hl : SlotsOk o l) (hq : q.digital = o.abc.isSome) :
    SlotsOk o (l.setIfInBounds i q) := by
  intro j hj
  rw [Array.getElem_setIfInBounds]
  split
  · exact hq
  · exact hl j (by simpa using hj)

theorem blockLoop_total : ∀ (fuel : Nat) (h : MsaH) (l : Array Sq) (i size maxSeq : Nat),
    Inv h → ModeOk h.o → 0 ≤ h.idx → SlotsOk h.o l → maxSeq ≤ l.size →
    Inv (blockLoop fuel h l i size maxSeq).1 ∧ (blockLoop fuel h l i size maxSeq).1.o = h.o ∧
    (blockLoop fuel h l i size maxSeq).1.exc = h.exc ∧ 0 ≤ (blockLoop fuel h l i size maxSeq).1.idx ∧
    SlotsOk h.o (blockLoop fuel h l i size maxSeq).2.1 ∧ (blockLoop fuel h l i size maxSeq).2.1.size = l.size ∧
    ((blockLoop fuel h l i size maxSeq).2.2.2 = .ok ∨ (blockLoop fuel h l i size maxSeq).2.2.2 = .eof ∨
     ((blockLoop fuel h l i size maxSeq).2.2.2 = .eformat ∧ (blockLoop fuel h l i size maxSeq).1.haveErr = true)) := by
  intro fuel
  induction fuel with
  | zero =>
    intro h l i size maxSeq hi _ hidx hs _
    exact ⟨hi, rfl, rfl, hidx, hs, rfl, Or.inl rfl⟩
  | succ fuel ih =>
    intro h l i size maxSeq hi hm hidx hs hmax
    unfold blockLoop
    by_cases hc : (decide (i < maxSeq) && decide (size < maxResidueCount)) = true
    · rw [if_neg (by simp only [hc, Bool.not_true]; exact Bool.false_ne_true)]
      have hil : i < l.size := by
        simp only [Bool.and_eq_true, decide_eq_true_eq] at hc; omega
      rw [Array.getElem?_eq_getElem hil]
      simp only []
      obtain ⟨r1, r2, r3, r4, r5⟩ := read_total h l[i] hi hm hidx (hs i hil)
      generalize MsaSeq.read h l[i] = rr at r1 r2 r3 r4 r5
      obtain ⟨h', q, st⟩ := rr
      simp only at r1 r2 r3 r4 r5
      rcases r5 with ⟨hst, hqd, _⟩ | hst | ⟨hst, herr⟩
      · subst hst
        have e : (Status.ok != Status.ok) = false := rfl
        simp only [e, Bool.false_eq_true, if_false]
        have hs' : SlotsOk h'.o (l.setIfInBounds i q) := by
          rw [r2]; exact slotsOk_set h.o l i q hs (by rw [hqd]; exact hs i hil)
        obtain ⟨k1, k2, k3, k4, k5, k6, k7⟩ := ih h' (l.setIfInBounds i q) (i + 1) (size + q.n) maxSeq r1 (by rw [r2]; exact hm) r4 hs'
          (by simpa using hmax)
        refine ⟨k1, k2.trans r2, k3.trans r3, k4, by rw [← r2]; exact k5, by rw [k6]; simp, k7⟩
      · subst hst
        have e : (Status.eof != Status.ok) = true := rfl
        simp only [e, if_true]
        exact ⟨r1, r2, r3, r4, hs, trivial, Or.inr (Or.inl trivial)⟩
      · subst hst
        have e : (Status.eformat != Status.ok) = true := rfl
        simp only [e, if_true]
        exact ⟨r1, r2, r3, r4, hs, trivial, Or.inr (Or.inr ⟨trivial, herr⟩)⟩
    · rw [if_pos (by simp only [Bool.not_eq_true] at hc; simp only [hc, Bool.not_false])]
      exact ⟨hi, rfl, rfl, hidx, hs, rfl, Or.inl rfl⟩

/-- **`sqascii_ReadBlock` (`!long_target`) on an alignment file is total**: `eslOK` with a complete block, `eslEOF` (nothing read), or
    `eslEFORMAT` with a message; never a fault, no exception; every slot stays an `ESL_SQ` of the handle's mode; invariant kept -/
theorem readBlock_total (h : MsaH) (b : Block) (maxSeq : Int) (hi : Inv h) (hm : ModeOk h.o) (hidx : 0 ≤ h.idx)
    (hs : SlotsOk h.o b.list) (hls : b.listSize ≤ b.list.size) :
    Inv (readBlock h b maxSeq).1 ∧ (readBlock h b maxSeq).1.o = h.o ∧ (readBlock h b maxSeq).1.exc = h.exc ∧
    0 ≤ (readBlock h b maxSeq).1.idx ∧ SlotsOk h.o (readBlock h b maxSeq).2.1.list ∧
    (((readBlock h b maxSeq).2.2 = .ok ∧ (readBlock h b maxSeq).2.1.complete = true) ∨ (readBlock h b maxSeq).2.2 = .eof ∨
     ((readBlock h b maxSeq).2.2 = .eformat ∧ (readBlock h b maxSeq).1.haveErr = true)) := by
  unfold readBlock
  simp only []
  generalize hms : (if maxSeq < 1 || maxSeq > (b.listSize : Int) then b.listSize else maxSeq.toNat) = ms
  have hmsle : ms ≤ b.list.size := by
    rw [← hms]
    split
    · exact hls
    · rename_i hc
      simp only [Bool.or_eq_true, decide_eq_true_eq, not_or, Int.not_lt] at hc
      omega
  obtain ⟨k1, k2, k3, k4, k5, _, k7⟩ := blockLoop_total (ms + 1) h b.list 0 0 ms hi hm hidx hs hmsle
  generalize blockLoop (ms + 1) h b.list 0 0 ms = r at k1 k2 k3 k4 k5 k7
  obtain ⟨h', l, i, st⟩ := r
  simp only at k1 k2 k3 k4 k5 k7
  rcases k7 with hst | hst | ⟨hst, herr⟩
  · subst hst
    have e1 : (Status.ok == Status.fault) = false := rfl
    have e2 : (Status.ok != Status.ok) = false := rfl
    simp only [e1, e2, Bool.false_eq_true, if_false, Bool.false_and]
    exact ⟨k1, k2, k3, k4, k5, Or.inl ⟨trivial, trivial⟩⟩
  · subst hst
    have e1 : (Status.eof == Status.fault) = false := rfl
    have e2 : (Status.eof != Status.ok) = true := rfl
    have e3 : (Status.eof == Status.eof) = true := rfl
    simp only [e1, e2, e3, Bool.false_eq_true, if_false, Bool.true_and]
    by_cases hpos : i > 0
    · simp only [hpos, decide_true, Bool.not_true, Bool.and_false, Bool.false_eq_true, if_false]
      exact ⟨k1, k2, k3, k4, k5, Or.inl ⟨trivial, trivial⟩⟩
    · simp only [hpos, decide_false, Bool.not_false, Bool.and_true, if_true]
      exact ⟨k1, k2, k3, k4, k5, Or.inr (Or.inl trivial)⟩
  · subst hst
    have e1 : (Status.eformat == Status.fault) = false := rfl
    have e2 : (Status.eformat != Status.ok) = true := rfl
    have e3 : (Status.eformat == Status.eof) = false := rfl
    simp only [e1, e2, e3, Bool.false_eq_true, if_false, Bool.false_and, Bool.not_false, Bool.and_true, if_true]
    exact ⟨k1, k2, k3, k4, k5, Or.inr (Or.inr ⟨trivial, herr⟩)⟩

/-- **`sqascii_GuessAlphabet` on an alignment file** (= `esl_msafile_GuessAlphabet` on the lines not yet read) **is total**: an alphabet
    type or `eslENOALPHABET`; never a fault - whatever the lines, format and name width (C01 `guessAlphabet_no_fault`) -/
theorem guessAlphabet_total (h : MsaH) :
    (∃ t, guessAlphabet h.o.fmt h.o.namewidth h.lines = .ok t) ∨ guessAlphabet h.o.fmt h.o.namewidth h.lines = .fail := by
  have hnf := guessAlphabet_no_fault h.o.fmt h.o.namewidth h.lines
  cases hg : guessAlphabet h.o.fmt h.o.namewidth h.lines with
  | ok t => exact Or.inl ⟨t, rfl⟩
  | fail => exact Or.inr rfl
  | fault => exact absurd hg hnf

end EaselModel.Sqio.MsaSeq
