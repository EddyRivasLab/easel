import EaselModel.Sqio.TrackLemmas
import EaselModel.Sqio.TrackerExact
/-! # What the bytes/residues-per-line tracker of `seebuf` guarantees (C07, C04)

The tracker `seebuf_linegeometry()`: events of a scan, one per line (that the batched bookkeeping of `seebuf` over buffers is a
byte fold is `Fold.seebuf_fold`, that the byte fold is one update per line `TrackBytes.fold_record`). `tracker_sound`: if a scan of ANY file ends with
`rpl = p > 0`, `bpl = q > 0`, every record has the geometry `(q, p)`: each line followed by another line of its record has exactly
`q` bytes and `p` residues, no line (last, only, unterminated) has more than `p` residues or more ignored bytes than a full line.
It is the "only if" half of `TrackerExact.tracker_iff`, which is proved on lists of lines; `Rec.toLines` carries a record over. -/
namespace EaselModel.Sqio.Tracker
open EaselModel.Sqio

/-- the tracker-relevant events of a scan: a record header (`header_*` resets `prv*` to −1, `cur*` to 0), an end-of-line seen by
    `seebuf` with the line's bytes (newline included) and residues, and the end of `seebuf` on an unterminated stretch (the last
    line of a record that ends at EOF or at the EOD character) -/
inductive Ev
  | hdr
  | eol (b r : Int)
  | stop (b r : Int)
  deriving Repr, DecidableEq

def step (t : Track) : Ev → Track
  | .hdr => { t with prvrpl := -1, prvbpl := -1, currpl := 0, curbpl := 0 }
  | .eol b r => t.onEol b r
  | .stop b r => t.onStop b r

def run (t : Track) (evs : List Ev) : Track := evs.foldl step t

/-- the events of a file given as records of terminated lines -/
def events (recs : List (List (Int × Int))) : List Ev :=
  recs.flatMap fun lines => Ev.hdr :: lines.map fun ln => Ev.eol ln.1 ln.2

theorem run_append (t : Track) (a b : List Ev) : run t (a ++ b) = run (run t a) b := by
  simp [run, List.foldl_append]

/-- a line as (bytes, residues, ignored bytes: neither residue nor the newline) -/
abbrev Line := Int × Int × Int
/-- a terminated line given as (bytes incl. the newline, residues) -/
def tl (l : Int × Int) : Line := (l.1, l.2, l.1 - l.2 - 1)
/-- an unterminated line -/
def ul (l : Int × Int) : Line := (l.1, l.2, l.1 - l.2)

/-- one record as the scan sees it: terminated lines (bytes incl. the newline, residues), then possibly an unterminated last stretch
    (the record ends at EOF or at the EOD character without a newline) -/
structure Rec where
  lines : List (Int × Int)
  last : Option (Int × Int)
  deriving DecidableEq, Repr

def Rec.WF (rc : Rec) : Prop :=
  (∀ l ∈ rc.lines, 0 ≤ l.2 ∧ l.2 + 1 ≤ l.1) ∧ (∀ l, rc.last = some l → 0 ≤ l.2 ∧ l.2 ≤ l.1 ∧ 0 < l.1)

def Rec.events (rc : Rec) : List Ev :=
  Ev.hdr :: rc.lines.map (fun l => Ev.eol l.1 l.2) ++ (match rc.last with | none => [] | some l => [Ev.stop l.1 l.2])

/-- all lines of the record: (bytes, residues, ignored bytes) -/
def Rec.all (rc : Rec) : List Line := rc.lines.map tl ++ rc.last.toList.map ul

def scanRec (t : Track) (rc : Rec) : Track := run t rc.events

theorem run_eols (ls : List (Int × Int)) (t : Track) :
    run t (ls.map (fun l => Ev.eol l.1 l.2)) = ls.foldl (fun t l => t.onEol l.1 l.2) t := by
  induction ls generalizing t with
  | nil => rfl
  | cons l ls ih => simp only [List.map_cons, run, List.foldl_cons, step] at *; exact ih _

/-- the tracker over a whole file, from the state `esl_sqfile_Open` leaves -/
def scanFile (recs : List Rec) : Track := recs.foldl scanRec {}

theorem scanFile_eq_run (recs : List Rec) : scanFile recs = run {} (recs.flatMap Rec.events) := by
  unfold scanFile
  generalize ({} : Track) = t
  induction recs generalizing t with
  | nil => rfl
  | cons rc rs ih => rw [List.foldl_cons, List.flatMap_cons, run_append, ih]; rfl

/-- the line geometry `bpl = q`, `rpl = p` promises for a record: every line that is followed by another line of the record has
    exactly `q` bytes and `p` residues; no line has more than `p` residues or more ignored bytes than a full line (`q − p − 1`) -/
def Geom (q p : Int) (rc : Rec) : Prop :=
  (∀ l ∈ rc.all.dropLast, l.1 = q ∧ l.2.1 = p) ∧ (∀ l ∈ rc.all, l.2.1 ≤ p ∧ l.2.2 ≤ q - p - 1)

/-- the lines of a record for `TrackerExact`: the terminated ones, then the unterminated last stretch -/
def Rec.toLines (rc : Rec) : List TrackerExact.Line :=
  rc.lines.map (fun l => ⟨l.1, l.2, true⟩) ++ rc.last.toList.map (fun l => ⟨l.1, l.2, false⟩)

theorem scanRec_eq_runRec (t : Track) (rc : Rec) : scanRec t rc = TrackerExact.runRec t rc.toLines := by
  unfold scanRec run Rec.events Rec.toLines TrackerExact.runRec
  simp only [List.cons_append, List.foldl_cons, List.foldl_append, List.foldl_map]
  cases rc.last <;> rfl

theorem scanFile_eq_runFile (recs : List Rec) : scanFile recs = TrackerExact.runFile {} (recs.map Rec.toLines) := by
  unfold scanFile TrackerExact.runFile
  rw [List.foldl_map]
  congr 1
  funext t rc
  exact scanRec_eq_runRec t rc

theorem Rec.all_eq (rc : Rec) : rc.all = rc.toLines.map (fun l => (l.b, l.r, l.x)) := by
  unfold Rec.all Rec.toLines
  rw [List.map_append, List.map_map, List.map_map]
  congr 1
  exact List.map_congr_left (fun l _ => by simp [ul, TrackerExact.Line.x])

theorem Rec.toLines_ok (rc : Rec) (hw : rc.WF) :
    (∀ l ∈ rc.toLines, l.Ok) ∧ ∀ l ∈ rc.toLines.dropLast, l.eol = true := by
  obtain ⟨w1, w2⟩ := hw
  have hlines : ∀ l ∈ rc.lines.map (fun l => (⟨l.1, l.2, true⟩ : TrackerExact.Line)), l.Ok ∧ l.eol = true := by
    intro l hl
    obtain ⟨x, hx, rfl⟩ := List.mem_map.mp hl
    have := w1 x hx
    exact ⟨⟨by show 1 ≤ x.1; omega, this.1, by show 0 ≤ x.1 - x.2 - 1; omega⟩, rfl⟩
  unfold Rec.toLines
  cases hlast : rc.last with
  | none =>
    simp only [Option.toList_none, List.map_nil, List.append_nil]
    exact ⟨fun l hl => (hlines l hl).1, fun l hl => (hlines l ((List.dropLast_sublist _).subset hl)).2⟩
  | some x =>
    have := w2 x hlast
    simp only [Option.toList_some, List.map_cons, List.map_nil, List.dropLast_concat]
    refine ⟨fun l hl => ?_, fun l hl => (hlines l hl).2⟩
    rcases List.mem_append.mp hl with h | h
    · exact (hlines l h).1
    · rw [List.mem_singleton.mp h]
      exact ⟨by show 1 ≤ x.1; omega, this.1, by show 0 ≤ x.1 - x.2 - 0; omega⟩

/-- **Soundness of the line-geometry tracker (full).** If a scan of any file ends with `rpl = p > 0` and `bpl = q > 0`, EVERY
    record of the file has the geometry `(q, p)`: the "only if" half of `TrackerExact.tracker_iff`, read record by record. -/
theorem tracker_sound (recs : List Rec) (hw : ∀ rc ∈ recs, rc.WF) (p q : Int) (hp : 0 < p) (hq : 0 < q)
    (hr : (scanFile recs).rpl = p) (hb : (scanFile recs).bpl = q) : ∀ rc ∈ recs, Geom q p rc := by
  rw [scanFile_eq_runFile] at hr hb
  have hok : ∀ rec ∈ recs.map Rec.toLines, (∀ l ∈ rec, l.Ok) ∧ ∀ l ∈ rec.dropLast, l.eol = true := by
    intro rec hrec
    obtain ⟨rc, hrc, rfl⟩ := List.mem_map.mp hrec
    exact rc.toLines_ok (hw rc hrc)
  obtain ⟨_, hfull, hall⟩ := (TrackerExact.tracker_iff (recs.map Rec.toLines) (fun rec h => (hok rec h).1) (fun rec h => (hok rec h).2)
    p q hp hq).mp ⟨hr, hb⟩
  intro rc hrc
  have hmem := List.mem_map_of_mem (f := Rec.toLines) hrc
  unfold Geom
  rw [rc.all_eq, ← List.map_dropLast]
  constructor
  · intro l hl
    obtain ⟨x, hx, rfl⟩ := List.mem_map.mp hl
    exact hfull _ hmem x hx
  · intro l hl
    obtain ⟨x, hx, rfl⟩ := List.mem_map.mp hl
    exact hall _ hmem x hx

/-- formats whose data scanner never sees an end-of-line symbol (EMBL / UniProt / GenBank / DDBJ: the newline is an ignored byte):
    the tracker never establishes a width, so their index never carries the fast-subsequence flag (always brute-force addressing) -/
theorem no_eol_no_geometry (evs : List Ev) (h : ∀ e ∈ evs, e = Ev.hdr ∨ ∃ b r, e = Ev.stop b r) :
    (run {} evs).rpl = -1 ∧ (run {} evs).bpl = -1 := by
  suffices ∀ t : Track, t.rpl = -1 → t.bpl = -1 → t.prvrpl = -1 → t.prvbpl = -1 →
      (run t evs).rpl = -1 ∧ (run t evs).bpl = -1 by exact this {} rfl rfl rfl rfl
  induction evs with
  | nil => intro t h1 h2 _ _; exact ⟨h1, h2⟩
  | cons e es ih =>
    intro t h1 h2 h3 h4
    have he := h e (by simp)
    have hes : ∀ e' ∈ es, e' = Ev.hdr ∨ ∃ b r, e' = Ev.stop b r := fun e' h' => h e' (by simp [h'])
    show (run (step t e) es).rpl = -1 ∧ _
    rcases he with rfl | ⟨b, r, rfl⟩
    · exact ih hes _ h1 h2 rfl rfl
    · obtain ⟨g1, g2, g3, g4⟩ := lg_cur (t.advance b r) false
      have a3 : (t.advance b r).prvrpl = -1 := h3
      have a4 : (t.advance b r).prvbpl = -1 := h4
      have a1 : (t.advance b r).rpl = -1 := h1
      have a2 : (t.advance b r).bpl = -1 := h2
      have fR : (t.advance b r).R = -1 := by unfold Track.R Track.fullLine; rw [a3, a1]; simp
      have fB : (t.advance b r).Bq = -1 := by unfold Track.Bq Track.fullLine; rw [a3, a2]; simp
      have r1 := lg_rpl (t.advance b r) false
      have r2 := lg_bpl (t.advance b r) false
      rw [fR, fB, a1] at r1
      rw [fR, fB, a2] at r2
      have e1 : (step t (Ev.stop b r)).rpl = -1 := by
        show ((t.advance b r).lineGeometry false).rpl = -1
        rw [r1]; split <;> simp
      have e2 : (step t (Ev.stop b r)).bpl = -1 := by
        show ((t.advance b r).lineGeometry false).bpl = -1
        rw [r2]; split <;> simp
      exact ih hes _ e1 e2 (by show ((t.advance b r).lineGeometry false).prvrpl = -1; rw [g3]; exact a3)
        (by show ((t.advance b r).lineGeometry false).prvbpl = -1; rw [g4]; exact a4)

end EaselModel.Sqio.Tracker
