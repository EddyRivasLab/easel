import EaselModel.Sqio.EmblTotal
/-! # `sqascii_ReadInfo` on the line-based formats (EMBL / UniProt / GenBank / DDBJ) is total (C02)

`sqascii_ReadInfo` = `parse_header` + the residue loop WITHOUT storing (`scanLoop false`: `seebuf` only, `L += n`, `eoff`) + the record
end + the info-only coordinates (whose terminator store needs `salloc ≥ 1` / `2`: the header parsers and the loop never touch the
residue allocation). The declarations go on in the namespace `EmblTotal`, on its `BGood`, `Hdr` (`headerLine_hdr`), `scanLoop_line` and `RRes`. -/
namespace EaselModel.Sqio.EmblTotal
open EaselModel.Sqio EaselModel.Sqio.LineSpec EaselModel.Sqio.EmblSpec EaselModel.Sqio.EmblAll
open EaselModel.Sqio.Fold EaselModel.Sqio.BodySpec

theorem infoEnd_good (a : Ascii) (sq : Sq) (w : LWF a) (hb : a.bpos ≤ a.nc) (tok : Track.Ok a.trk) (hm : a.inmap.size = 128) (hf : LineFmt a)
    (hsa : 2 ≤ sq.salloc) :
    BGood a (DataScan.infoEnd (scanLoop false (fuelOf a) a sq)).1 ∧
    ((DataScan.infoEnd (scanLoop false (fuelOf a) a sq)).2.2 = .ok ∨ (DataScan.infoEnd (scanLoop false (fuelOf a) a sq)).2.2 = .eformat) ∧
    ((DataScan.infoEnd (scanLoop false (fuelOf a) a sq)).2.2 = .eformat →
      (DataScan.infoEnd (scanLoop false (fuelOf a) a sq)).1.haveErr = true) := by
  obtain ⟨g, hc⟩ := scanLoop_line false (fuelOf a) a sq w hb tok hm nofun (rl_lt_fuel a)
  unfold DataScan.infoEnd
  generalize scanLoop false (fuelOf a) a sq = r at g hc
  obtain ⟨b, q, st, ep⟩ := r
  simp only at g hc ⊢
  have gb : BGood a b := g.good
  have hq : 2 ≤ q.salloc := Nat.le_trans hsa g.same.salloc
  rcases hc with ⟨c1, c2⟩ | ⟨c1, _, _⟩
  · subst c1
    have e : (Status.eformat == Status.fault || Status.eformat == Status.eformat) = true := by decide
    simp only [e, if_true]
    exact ⟨gb, Or.inr trivial, fun _ => c2⟩
  · have e : (st == Status.fault || st == Status.eformat) = false := by rcases c1 with k | k <;> rw [k] <;> rfl
    simp only [e, Bool.false_eq_true, if_false]
    have hE : BGood a (DataScan.infoRecEnd (b, q, st, ep)).1 ∧
        ((DataScan.infoRecEnd (b, q, st, ep)).2.2 = .ok ∨ (DataScan.infoRecEnd (b, q, st, ep)).2.2 = .eformat) ∧
        ((DataScan.infoRecEnd (b, q, st, ep)).2.2 = .eformat → (DataScan.infoRecEnd (b, q, st, ep)).1.haveErr = true) ∧
        2 ≤ (DataScan.infoRecEnd (b, q, st, ep)).2.1.salloc := by
      unfold DataScan.infoRecEnd
      simp only
      have hb : LWF { b with bpos := ep } := (setBpos_lsim (lsim_refl gb.w) ep).w1
      rw [parseEnd_line { b with bpos := ep } q (hf.of_eq gb.fmt)]
      obtain ⟨y1, y2, y3, _⟩ := endEmbl_step { b with bpos := ep } q hb
      have y1' : BGood a (endEmbl { b with bpos := ep } q).1 :=
        gb.trans ⟨y1.good.fmt, y1.good.w, y1.good.exc, y1.good.inm, y1.good.file⟩
      rcases c1 with k | k
      · subst k
        have e1 : (Status.eod == Status.eof) = false := by decide
        simp only [e1, Bool.false_eq_true, if_false, beq_self_eq_true, if_true]
        exact ⟨y1', y2, y3, Nat.le_trans hq y1.same.salloc⟩
      · subst k
        simp only [beq_self_eq_true, if_true]
        split
        · exact ⟨gb.fail, Or.inr rfl, fun _ => rfl, hq⟩
        · exact ⟨gb, Or.inl rfl, fun k => (by cases k), hq⟩
    obtain ⟨z1, z2, z3, z4⟩ := hE
    generalize DataScan.infoRecEnd (b, q, st, ep) = r' at z1 z2 z3 z4
    obtain ⟨b', q', s'⟩ := r'
    simp only at z1 z2 z3 z4
    unfold DataScan.infoTail
    simp only []
    rcases z2 with k | k
    · subst k
      have e2 : (Status.ok != Status.ok) = false := by decide
      have hroom : (if q'.digital = true then decide (1 < q'.salloc) else decide (0 < q'.salloc)) = true := by
        split <;> simp <;> omega
      simp only [e2, Bool.false_eq_true, if_false, hroom, Bool.not_true]
      exact ⟨z1, Or.inl trivial, fun k => (by cases k)⟩
    · subst k
      have e2 : (Status.eformat != Status.ok) = true := by decide
      simp only [e2, if_true]
      exact ⟨z1, Or.inr trivial, fun _ => z3 rfl⟩

/-- **`sqascii_ReadInfo` on an EMBL / UniProt / GenBank / DDBJ file never faults**: for every byte string and every block size the
    outcome is `eslOK`, `eslEOF` or `eslEFORMAT` (then with a message); no exception; the handle stays a well-formed line-mode handle of
    the same format on the same file. The `ESL_SQ` only needs the two bytes every `esl_sq_Create*` allocates (`salloc ≥ 2`). -/
theorem readInfo_linebased_total (a : Ascii) (sq : Sq) (w : LWF a) (hf : LineFmt a) (tok : Track.Ok a.trk) (hm : a.inmap.size = 128)
    (hsa : 2 ≤ sq.salloc) :
    let r := readInfo a sq
    (r.2.2 = .ok ∨ r.2.2 = .eof ∨ r.2.2 = .eformat) ∧ (r.2.2 = .eformat → r.1.haveErr = true) ∧ r.1.exc = a.exc ∧ LWF r.1 ∧
    r.1.fmt = a.fmt ∧ r.1.file = a.file ∧ r.1.inmap = a.inmap := by
  rw [DataScan.readInfo_eq, parseHeader_line a sq hf]
  refine RRes.unpack ?_
  have H := headerLine_hdr true a sq w
  generalize headerLine true a sq = p at H
  obtain ⟨b, q, st⟩ := p
  have g : BGood a b := H.step.good
  simp only
  split
  · exact ⟨BGood.refl w, Or.inr (Or.inl rfl), fun k => (by cases k)⟩
  split
  · exact ⟨g, H.st, H.err⟩
  · rename_i hok
    have w0 : LWF { b with L := 0 } := (setL_lsim (lsim_refl g.w) 0).w1
    obtain ⟨x1, x2, x3⟩ := infoEnd_good { b with L := 0 } q w0 (H.bposLe (by simpa using hok)) (by rw [H.step.trk]; exact tok)
      (by rw [g.inm]; exact hm) (hf.of_eq g.fmt) (Nat.le_trans hsa H.step.same.salloc)
    exact ⟨g.trans ((⟨rfl, w0, rfl, rfl, rfl⟩ : BGood b { b with L := 0 }).trans x1), x2.elim Or.inl fun k => Or.inr (Or.inr k), x3⟩

end EaselModel.Sqio.EmblTotal
