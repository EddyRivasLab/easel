import EaselModel.Sqio.Model
import EaselModel.Core.ListWhile
/-! # The line loader of the line-based formats (EMBL / UniProt / GenBank / DDBJ) is block-size independent (C04)

In line mode one `loadbuf` delivers one line: the file bytes from the end of the previous line up to and including the next `\n`
(or to the end of the file). `loadbuf_line`: for EVERY read-block size `B ≥ 1` the line, its offset `boff` and its length `nc` are
functions of the file bytes and of the previous line end only; `fault` (running out of the loop's fuel) is not an outcome.
The loop's invariant `LI` is stated on the list of file bytes, like the conclusion: the line so far, which holds no `\n`, followed
by the unread bytes is the list behind the previous line; so the two exits of the loop are `nextLine_nl` and `nextLine_none`. -/
namespace EaselModel.Sqio.LineSpec
open EaselModel.Sqio

/-- the declarative next line: the bytes up to and including the first `\n` (all of `l` if there is none), and the rest -/
def nextLine (l : List UInt8) : List UInt8 × List UInt8 :=
  (l.takeWhile (· != 10) ++ (l.dropWhile (· != 10)).take 1, (l.dropWhile (· != 10)).drop 1)

theorem nextLine_nl (x y : List UInt8) (hx : ∀ c ∈ x, c ≠ 10) : nextLine (x ++ 10 :: y) = (x ++ [10], y) := by
  have hx' : ∀ c ∈ x, (c != 10) = true := fun c hc => by simpa using hx c hc
  simp only [nextLine, takeWhile_app_stop x 10 y hx' (by simp), dropWhile_app_stop x 10 y hx' (by simp)]
  simp

theorem nextLine_none (x : List UInt8) (hx : ∀ c ∈ x, c ≠ 10) : nextLine x = (x, []) := by
  have hx' : ∀ c ∈ x, (c != 10) = true := fun c hc => by simpa using hx c hc
  simp only [nextLine, takeWhile_all x hx', dropWhile_all x hx']
  simp

theorem nextLine_append (l : List UInt8) : (nextLine l).1 ++ (nextLine l).2 = l := by
  simp only [nextLine, List.append_assoc, List.take_append_drop, List.takeWhile_append_dropWhile]

theorem nextLine_fst_nil (l : List UInt8) (h : (nextLine l).1 = []) : l = [] := by
  have := @List.takeWhile_append_dropWhile _ (· != 10) l
  simp only [nextLine, List.append_eq_nil_iff, List.take_eq_nil_iff, Nat.succ_ne_zero, false_or] at h
  rw [h.1, h.2] at this
  exact this.symm

theorem findNl_spec (file : Bytes) (lo hi : Nat) :
    (∀ p, findNl file lo hi = some p → lo ≤ p ∧ p < hi ∧ file.getD p 0 = 10 ∧ ∀ i, lo ≤ i → i < p → file.getD i 0 ≠ 10) ∧
    (findNl file lo hi = none → ∀ i, lo ≤ i → i < hi → file.getD i 0 ≠ 10) := by
  fun_induction findNl file lo hi
  case case1 =>
    rename_i lo h hc
    have hc' : file.getD lo 0 = 10 := eq_of_beq hc
    refine ⟨fun p hp => ?_, fun k => (by cases k)⟩
    have := (Option.some.inj hp).symm
    subst this
    exact ⟨Nat.le_refl _, h, hc', fun i h1 h2 => by omega⟩
  case case2 =>
    rename_i lo h hc ih
    have hc' : file.getD lo 0 ≠ 10 := by
      intro k; apply hc; rw [k]; rfl
    refine ⟨fun p hp => ?_, fun hn i h1 h2 => ?_⟩
    · obtain ⟨i1, i2, i3, i4⟩ := ih.1 p hp
      refine ⟨by omega, i2, i3, fun i h1 h2 => ?_⟩
      by_cases e : i = lo
      · rw [e]; exact hc'
      · exact i4 i (by omega) h2
    · by_cases e : i = lo
      · rw [e]; exact hc'
      · exact ih.2 hn i (by omega) h2
  case case3 =>
    rename_i lo h
    exact ⟨fun p hp => (by cases hp), fun _ i h1 h2 => by omega⟩

theorem mem_extract (file : Bytes) (lo hi : Nat) (c : UInt8) (h : c ∈ (file.extract lo hi).toList) :
    ∃ i, lo ≤ i ∧ i < hi ∧ file.getD i 0 = c := by
  have h' : c ∈ file.extract lo hi := Array.mem_toList_iff.mp h
  obtain ⟨i, hi', e⟩ := Array.mem_iff_getElem.mp h'
  rw [Array.getElem_extract] at e
  have hs : i < min hi file.size - lo := by simpa [Array.size_extract] using hi'
  have hlt : lo + i < file.size := by omega
  refine ⟨lo + i, by omega, by omega, ?_⟩
  rw [← e]
  simp [Array.getD, hlt]

theorem toList_extract_drop_take (file : Bytes) (lo hi : Nat) : (file.extract lo hi).toList = (file.toList.drop lo).take (hi - lo) := by
  rw [Array.toList_extract, List.extract_eq_take_drop]

theorem extract_glue (f : Bytes) (i j k : Nat) (h1 : i ≤ j) (h2 : j ≤ k) :
    f.extract i j ++ f.extract j k = f.extract i k := by
  rw [Array.extract_append_extract]
  congr 1 <;> omega

/-- a stretch of the file without `\n`, as a piece of the list of its bytes -/
theorem drop_piece (f : Bytes) (i j : Nat) (hij : i ≤ j) (hno : ∀ k, i ≤ k → k < j → f.getD k 0 ≠ 10) :
    f.toList.drop i = (f.extract i j).toList ++ f.toList.drop j ∧ ∀ c ∈ (f.extract i j).toList, c ≠ 10 := by
  refine ⟨?_, fun c hc => ?_⟩
  · rw [toList_extract_drop_take]
    have : f.toList.drop j = (f.toList.drop i).drop (j - i) := by rw [List.drop_drop]; congr 1; omega
    rw [this, List.take_append_drop]
  · obtain ⟨k, k1, k2, k3⟩ := mem_extract f i j c hc
    rw [← k3]; exact hno k k1 k2

/-- the byte at `p` is a `\n`: the list from `p` on, and a stretch that ends with it -/
theorem drop_nl (f : Bytes) (i p : Nat) (hip : i ≤ p) (hp : p < f.size) (h10 : f.getD p 0 = 10) :
    f.toList.drop p = 10 :: f.toList.drop (p + 1) ∧ (f.extract i (p + 1)).toList = (f.extract i p).toList ++ [10] := by
  have e : f[p] = 10 := by rw [← h10]; simp [Array.getD, hp]
  have e1 : f.toList.drop p = 10 :: f.toList.drop (p + 1) := by
    rw [List.drop_eq_getElem_cons (by simpa using hp)]; simp [e]
  refine ⟨e1, ?_⟩
  rw [← extract_glue f i p (p + 1) hip (Nat.le_succ p), Array.toList_append]
  congr 1
  rw [toList_extract_drop_take, e1]
  simp

/-- invariant of a line-mode handle between two `loadbuf`s: the current line is `file[boff, boff+nc)`, and the next unread byte
    (in `mem`, or — when `mem` is used up, or before the very first read — at `fpos`) is the byte behind it -/
structure LWF (a : Ascii) : Prop where
  lb : a.linebased = true
  norec : a.recording ≠ 1
  bpos1 : 1 ≤ a.B
  fposLe : a.fpos ≤ a.file.size
  mposLe : a.mpos ≤ a.mn
  mem : a.mpos < a.mn → 0 ≤ a.moff ∧ a.moff + a.mn = a.fpos
  next : a.boff + a.nc = (if a.mpos < a.mn then a.moff + a.mpos else (a.fpos : Int))
  lineEq : a.line = a.file.extract a.boff.toNat (a.boff.toNat + a.nc)
  boff0 : 0 ≤ a.boff

/-- the fields the line loader never touches -/
def keepL (a : Ascii) : Bytes × Nat × Int × Int × Track × Bytes × Nat × Nat × Bool × Bool × Bool × Int × Int × Bool :=
  (a.file, a.B, a.L, a.linenumber, a.trk, a.inmap, a.fmt, a.abc, a.eofIsOk, a.haveErr, a.exc, a.bookmarkOff, a.bookmarkLine,
   a.linebased)

theorem keepL_file {a b : Ascii} (h : keepL a = keepL b) : a.file = b.file := congrArg (fun t => t.1) h
theorem keepL_B {a b : Ascii} (h : keepL a = keepL b) : a.B = b.B := congrArg (fun t => t.2.1) h
theorem keepL_linebased {a b : Ascii} (h : keepL a = keepL b) : a.linebased = b.linebased :=
  congrArg (fun t => t.2.2.2.2.2.2.2.2.2.2.2.2.2) h

theorem loadmem_norec (a : Ascii) (h : a.recording ≠ 1) :
    loadmem a = ({ a with memValid := true, recording := -1, mpos := 0, moff := a.fpos, mn := min a.B (a.file.size - a.fpos),
                          fpos := a.fpos + min a.B (a.file.size - a.fpos) },
                 if (min a.B (a.file.size - a.fpos) == 0) = true then Status.eof else Status.ok) := by
  have h' : (a.recording == 1) = false := by simpa using h
  simp [loadmem, h']

/-- append the rest of `mem` to the line (the body of the `while (nlp == NULL)` loop before its `loadmem`) -/
def eatMem (a : Ascii) : Ascii :=
  { a with line := a.line ++ a.file.extract (a.moff.toNat + a.mpos) (a.moff.toNat + a.mpos + (a.mn - a.mpos)),
           mpos := a.mpos + (a.mn - a.mpos), nc := a.nc + (a.mn - a.mpos) }

theorem loadLineLoop_succ (fuel : Nat) (a : Ascii) : loadLineLoop (fuel + 1) a =
    match findNl a.file (a.moff.toNat + a.mpos) (a.moff.toNat + a.mn) with
    | some p => (a, .ok, some p)
    | none => if ((loadmem (eatMem a)).2 == .eof) = true then ((loadmem (eatMem a)).1, .eof, none)
              else loadLineLoop fuel (loadmem (eatMem a)).1 := rfl

/-- the piece up to and including the `\n` that was found -/
def closeAt (a : Ascii) (p : Nat) : Ascii :=
  { a with line := a.line ++ a.file.extract (a.moff.toNat + a.mpos) (a.moff.toNat + a.mpos + (p - (a.moff.toNat + a.mpos) + 1)),
           mpos := a.mpos + (p - (a.moff.toNat + a.mpos) + 1), nc := a.nc + (p - (a.moff.toNat + a.mpos) + 1) }

def closeLine (a : Ascii) (nl : Option Nat) : Ascii :=
  match nl with
  | some p => closeAt a p
  | none => a

/-- `eatMem` followed by the `loadmem` of the next block -/
def afterLoad (a : Ascii) : Ascii :=
  { eatMem a with memValid := true, recording := -1, mpos := 0, moff := a.fpos, mn := min a.B (a.file.size - a.fpos),
                  fpos := a.fpos + min a.B (a.file.size - a.fpos) }

theorem loadmem_eat (a : Ascii) (h : a.recording ≠ 1) :
    loadmem (eatMem a) = (afterLoad a, if (min a.B (a.file.size - a.fpos) == 0) = true then Status.eof else Status.ok) :=
  loadmem_norec (eatMem a) h

/-- the state in which the line loop starts -/
def preLine (a : Ascii) : Ascii :=
  { (if a.mpos ≥ a.mn then (loadmem a).1 else a) with
      boff := (if a.mpos ≥ a.mn then (loadmem a).1 else a).moff + (if a.mpos ≥ a.mn then (loadmem a).1 else a).mpos,
      nc := 0, line := #[] }

/-- what `loadbuf` does with the result of the line loop -/
def lineTail (r : Ascii × Status × Option Nat) : Ascii × Status :=
  if r.2.1 == .fault then (r.1, .fault)
  else ({ closeLine r.1 r.2.2 with bpos := 0 }, if (closeLine r.1 r.2.2).nc == 0 then .eof else .ok)

theorem loadbuf_line_eq (a : Ascii) (hl : a.linebased = true) :
    loadbuf a = lineTail (loadLineLoop ((preLine a).file.size + 2) (preLine a)) := by
  unfold loadbuf
  simp only [hl, Bool.not_true, Bool.false_eq_true, if_false]
  rfl

/-- `mem` is `file[moff, moff + mn)` and ends at the `FILE*` position -/
structure MemOk (a : Ascii) : Prop where
  norec : a.recording ≠ 1
  bpos1 : 1 ≤ a.B
  fposLe : a.fpos ≤ a.file.size
  mposLe : a.mpos ≤ a.mn
  moff0 : 0 ≤ a.moff
  fposEq : a.moff + a.mn = a.fpos

/-- loop invariant: of the file bytes from `s` on the line has taken `nc`, none of them a `\n`; the rest starts at the unread part of `mem` -/
structure LI (a : Ascii) (s : Nat) : Prop where
  mem : MemOk a
  posEq : s + a.nc = a.moff.toNat + a.mpos
  split : a.line.toList ++ a.file.toList.drop (a.moff.toNat + a.mpos) = a.file.toList.drop s
  noNl : ∀ c ∈ a.line.toList, c ≠ 10

/-- what the loop and the closing piece establish: the line is the next line of the bytes from `s` on -/
structure LDone (a : Ascii) (s : Nat) : Prop where
  mem : MemOk a
  posEq : s + a.nc = a.moff.toNat + a.mpos
  next : nextLine (a.file.toList.drop s) = (a.line.toList, a.file.toList.drop (a.moff.toNat + a.mpos))

theorem closeAt_done {a : Ascii} {s p : Nat} (h : LI a s)
    (hp : findNl a.file (a.moff.toNat + a.mpos) (a.moff.toNat + a.mn) = some p) : LDone (closeAt a p) s := by
  have hmo := h.mem.moff0
  have hfe := h.mem.fposEq
  have hfl := h.mem.fposLe
  obtain ⟨g1, g2, g3, g4⟩ := (findNl_spec a.file (a.moff.toNat + a.mpos) (a.moff.toNat + a.mn)).1 p hp
  have e1 : a.moff.toNat + a.mpos + (p - (a.moff.toNat + a.mpos) + 1) = p + 1 := by omega
  obtain ⟨d1, d2⟩ := drop_piece a.file _ p g1 g4
  obtain ⟨n1, n2⟩ := drop_nl a.file (a.moff.toNat + a.mpos) p g1 (by omega) (by simpa using g3)
  have e_line : (closeAt a p).line.toList = (a.line.toList ++ (a.file.extract (a.moff.toNat + a.mpos) p).toList) ++ [10] := by
    show (a.line ++ a.file.extract (a.moff.toNat + a.mpos) (a.moff.toNat + a.mpos + (p - (a.moff.toNat + a.mpos) + 1))).toList = _
    rw [e1, Array.toList_append, n2, List.append_assoc]
  refine ⟨⟨h.mem.norec, h.mem.bpos1, hfl, ?_, hmo, hfe⟩, ?_, ?_⟩
  · show a.mpos + (p - (a.moff.toNat + a.mpos) + 1) ≤ a.mn
    omega
  · show s + (a.nc + (p - (a.moff.toNat + a.mpos) + 1)) = a.moff.toNat + (a.mpos + (p - (a.moff.toNat + a.mpos) + 1))
    have := h.posEq; omega
  · show nextLine (a.file.toList.drop s) = ((closeAt a p).line.toList, a.file.toList.drop (a.moff.toNat + (a.mpos + (p - (a.moff.toNat + a.mpos) + 1))))
    rw [e_line, ← h.split, d1, n1, ← List.append_assoc, nextLine_nl _ _ (fun c hc => (List.mem_append.mp hc).elim (h.noNl c) (d2 c))]
    congr 2; omega

theorem afterLoad_li {a : Ascii} {s : Nat} (h : LI a s)
    (hn : findNl a.file (a.moff.toNat + a.mpos) (a.moff.toNat + a.mn) = none) :
    LI (afterLoad a) s ∧ (min a.B (a.file.size - a.fpos) = 0 → LDone (afterLoad a) s) := by
  have hmo := h.mem.moff0
  have hfe := h.mem.fposEq
  have hfl := h.mem.fposLe
  have hml := h.mem.mposLe
  have hB := h.mem.bpos1
  have hnone := (findNl_spec a.file (a.moff.toNat + a.mpos) (a.moff.toNat + a.mn)).2 hn
  have e1 : a.moff.toNat + a.mpos + (a.mn - a.mpos) = a.fpos := by omega
  obtain ⟨d1, d2⟩ := drop_piece a.file (a.moff.toNat + a.mpos) a.fpos (by omega) (fun k k1 k2 => hnone k k1 (by omega))
  have e_line : (afterLoad a).line.toList = a.line.toList ++ (a.file.extract (a.moff.toNat + a.mpos) a.fpos).toList := by
    show (a.line ++ a.file.extract (a.moff.toNat + a.mpos) (a.moff.toNat + a.mpos + (a.mn - a.mpos))).toList = _
    rw [e1, Array.toList_append]
  have e_q : (afterLoad a).moff.toNat + (afterLoad a).mpos = a.fpos := by show ((a.fpos : Int)).toNat + 0 = a.fpos; omega
  have hmem : MemOk (afterLoad a) :=
    ⟨by show (-1 : Int) ≠ 1; omega, hB, by show a.fpos + min a.B (a.file.size - a.fpos) ≤ a.file.size; omega,
     by show 0 ≤ min a.B (a.file.size - a.fpos); omega, by show (0 : Int) ≤ (a.fpos : Int); omega,
     by show (a.fpos : Int) + ((min a.B (a.file.size - a.fpos) : Nat) : Int) = ((a.fpos + min a.B (a.file.size - a.fpos) : Nat) : Int); omega⟩
  have hpos : s + (afterLoad a).nc = (afterLoad a).moff.toNat + (afterLoad a).mpos := by
    rw [e_q]; show s + (a.nc + (a.mn - a.mpos)) = a.fpos; have := h.posEq; omega
  have hsplit : (afterLoad a).line.toList ++ a.file.toList.drop a.fpos = a.file.toList.drop s := by
    rw [e_line, List.append_assoc, ← d1]; exact h.split
  have hnonl : ∀ c ∈ (afterLoad a).line.toList, c ≠ 10 := by
    rw [e_line]; exact fun c hc => (List.mem_append.mp hc).elim (h.noNl c) (d2 c)
  refine ⟨⟨hmem, hpos, by rw [e_q]; exact hsplit, hnonl⟩, fun hz => ⟨hmem, hpos, ?_⟩⟩
  have hnil : a.file.toList.drop a.fpos = [] := List.drop_eq_nil_of_le (by simp only [Array.length_toList]; omega)
  show nextLine (a.file.toList.drop s) = ((afterLoad a).line.toList, a.file.toList.drop ((afterLoad a).moff.toNat + (afterLoad a).mpos))
  rw [e_q, hnil]
  rw [hnil, List.append_nil] at hsplit
  rw [← hsplit]
  exact nextLine_none _ hnonl

theorem loadLineLoop_done (fuel : Nat) : ∀ (a : Ascii) (s : Nat), LI a s → a.file.size - a.fpos + 2 ≤ fuel →
    (loadLineLoop fuel a).2.1 ≠ .fault ∧ LDone (closeLine (loadLineLoop fuel a).1 (loadLineLoop fuel a).2.2) s := by
  induction fuel with
  | zero => intro a s _ hf; omega
  | succ fuel ih =>
    intro a s h hf
    rw [loadLineLoop_succ]
    cases hfn : findNl a.file (a.moff.toNat + a.mpos) (a.moff.toNat + a.mn) with
    | some p => exact ⟨by simp, closeAt_done h hfn⟩
    | none =>
      obtain ⟨hli, hdone⟩ := afterLoad_li h hfn
      have hfl := h.mem.fposLe
      simp only []
      rw [loadmem_eat a h.mem.norec]
      by_cases hz : min a.B (a.file.size - a.fpos) = 0
      · have hb : (min a.B (a.file.size - a.fpos) == 0) = true := by simp [hz]
        have he : (Status.eof == Status.eof) = true := by decide
        simp only [hb, if_true, he]
        exact ⟨by simp, hdone hz⟩
      · have hb : (min a.B (a.file.size - a.fpos) == 0) = false := by simp [hz]
        have he : (Status.ok == Status.eof) = false := by decide
        simp only [hb, Bool.false_eq_true, if_false, he]
        exact ih _ s hli (by
          show a.file.size - (a.fpos + min a.B (a.file.size - a.fpos)) + 2 ≤ fuel
          omega)

/-- the line loop and the closing piece write `line`, `nc` and the `mem` bookkeeping only -/
theorem loadLineLoop_keep (fuel : Nat) : ∀ a : Ascii, a.recording ≠ 1 →
    keepL (closeLine (loadLineLoop fuel a).1 (loadLineLoop fuel a).2.2) = keepL a ∧
    (closeLine (loadLineLoop fuel a).1 (loadLineLoop fuel a).2.2).bpos = a.bpos ∧
    (closeLine (loadLineLoop fuel a).1 (loadLineLoop fuel a).2.2).boff = a.boff := by
  induction fuel with
  | zero => intro a _; exact ⟨rfl, rfl, rfl⟩
  | succ fuel ih =>
    intro a h
    rw [loadLineLoop_succ]
    cases findNl a.file (a.moff.toNat + a.mpos) (a.moff.toNat + a.mn) with
    | some p => exact ⟨rfl, rfl, rfl⟩
    | none =>
      simp only []
      rw [loadmem_eat a h]
      split
      · exact ⟨rfl, rfl, rfl⟩
      · exact ih (afterLoad a) (by show (-1 : Int) ≠ 1; omega)

/-! `preLine a` written out in its two cases: `mem` used up (`mpos ≥ mn`, a `loadmem` first) and not -/
def preGe (a : Ascii) : Ascii :=
  { a with memValid := true, recording := -1, mpos := 0, moff := a.fpos, mn := min a.B (a.file.size - a.fpos),
           fpos := a.fpos + min a.B (a.file.size - a.fpos), boff := (a.fpos : Int) + ((0 : Nat) : Int), nc := 0, line := #[] }

def preLt (a : Ascii) : Ascii := { a with boff := a.moff + a.mpos, nc := 0, line := #[] }

theorem preLine_li (a : Ascii) (h : LWF a) :
    LI (preLine a) (a.boff.toNat + a.nc) ∧ keepL (preLine a) = keepL a ∧ (preLine a).bpos = a.bpos ∧
    (preLine a).boff = ((a.boff.toNat + a.nc : Nat) : Int) := by
  have hb0 := h.boff0
  have hnext := h.next
  have hfl := h.fposLe
  have hB := h.bpos1
  by_cases hc : a.mpos ≥ a.mn
  · have hlt : ¬ a.mpos < a.mn := by omega
    simp only [hlt, if_false] at hnext
    have e : preLine a = preGe a := by
      unfold preLine preGe
      simp only [hc, if_true, loadmem_norec a h.norec]
    rw [e]
    have eq : (a.fpos : Int).toNat + 0 = a.boff.toNat + a.nc := by omega
    refine ⟨⟨⟨by show (-1 : Int) ≠ 1; omega, hB, by show a.fpos + min a.B (a.file.size - a.fpos) ≤ a.file.size; omega,
      by show 0 ≤ min a.B (a.file.size - a.fpos); omega, by show (0 : Int) ≤ (a.fpos : Int); omega,
      by show (a.fpos : Int) + ((min a.B (a.file.size - a.fpos) : Nat) : Int) = ((a.fpos + min a.B (a.file.size - a.fpos) : Nat) : Int); omega⟩,
      eq.symm, ?_, fun c hc => by cases hc⟩, rfl, rfl, by show (a.fpos : Int) + ((0 : Nat) : Int) = _; omega⟩
    show ([] : List UInt8) ++ a.file.toList.drop ((a.fpos : Int).toNat + 0) = _
    rw [eq]; rfl
  · have hlt : a.mpos < a.mn := by omega
    simp only [hlt, if_true] at hnext
    obtain ⟨m1, m2⟩ := h.mem hlt
    have e : preLine a = preLt a := by
      unfold preLine preLt
      simp only [hc, if_false]
    rw [e]
    have eq : a.moff.toNat + a.mpos = a.boff.toNat + a.nc := by omega
    refine ⟨⟨⟨h.norec, hB, hfl, h.mposLe, m1, m2⟩, eq.symm, ?_, fun c hc => by cases hc⟩, rfl, rfl,
      by show a.moff + (a.mpos : Int) = _; omega⟩
    show ([] : List UInt8) ++ a.file.toList.drop (a.moff.toNat + a.mpos) = _
    rw [eq]; rfl

/-- `r` is the next line of the file behind the current line of `a`, with its status: what `loadbuf a` returns in line mode -/
structure NextLine (a : Ascii) (r : Ascii × Status) : Prop where
  wf : LWF r.1
  keep : keepL r.1 = keepL a
  line : r.1.line.toList = (nextLine (a.file.toList.drop (a.boff.toNat + a.nc))).1
  nc : r.1.nc = (nextLine (a.file.toList.drop (a.boff.toNat + a.nc))).1.length
  boff : r.1.boff = a.boff + a.nc
  bpos : r.1.bpos = 0
  st : r.2 = (if a.file.toList.drop (a.boff.toNat + a.nc) = [] then .eof else .ok)
  rest : a.file.toList.drop (r.1.boff.toNat + r.1.nc) = (nextLine (a.file.toList.drop (a.boff.toNat + a.nc))).2

/-- **One `loadbuf` in line mode = the next line of the file, for every block size `B ≥ 1`.** The line delivered, its offset and its
    length are functions of the file bytes behind the previous line only; the status is `eslEOF` exactly when nothing is left;
    `fault` (the loop's fuel running out) is not an outcome; nothing but the block/line bookkeeping changes. -/
theorem loadbuf_line (a : Ascii) (h : LWF a) : NextLine a (loadbuf a) := by
  obtain ⟨p1, p2, p3, p4⟩ := preLine_li a h
  have hfile : (preLine a).file = a.file := keepL_file p2
  obtain ⟨q1, q2⟩ := loadLineLoop_done ((preLine a).file.size + 2) (preLine a) _ p1 (by omega)
  obtain ⟨k1, k2, k3⟩ := loadLineLoop_keep ((preLine a).file.size + 2) (preLine a) p1.mem.norec
  rw [loadbuf_line_eq a h.lb]
  generalize loadLineLoop ((preLine a).file.size + 2) (preLine a) = r at q1 q2 k1 k2 k3
  obtain ⟨a1, st, nl⟩ := r
  simp only at q1 q2 k1 k2 k3
  have hnf : (st == Status.fault) = false := by simpa using q1
  simp only [lineTail, hnf, Bool.false_eq_true, if_false]
  generalize closeLine a1 nl = A at q2 k1 k2 k3
  have hk : keepL A = keepL a := k1.trans p2
  have hAfile : A.file = a.file := keepL_file hk
  have hboff : A.boff = ((a.boff.toNat + a.nc : Nat) : Int) := k3.trans p4
  have hboffN : A.boff.toNat = a.boff.toNat + a.nc := by rw [hboff]; omega
  have posEq := q2.posEq
  have next := q2.next
  rw [hAfile] at next
  have split := nextLine_append (a.file.toList.drop (a.boff.toNat + a.nc))
  rw [next] at split
  have hlen : A.line.toList.length = A.nc := by
    have := congrArg List.length split
    have := q2.mem.fposLe; have := q2.mem.fposEq; have := q2.mem.moff0; have := q2.mem.mposLe
    simp only [List.length_append, List.length_drop, Array.length_toList, hAfile] at *
    omega
  have lineEq : A.line = a.file.extract (a.boff.toNat + a.nc) (a.boff.toNat + a.nc + A.nc) := by
    apply Array.ext'
    rw [toList_extract_drop_take, ← split, Nat.add_sub_cancel_left]
    exact (List.take_left' hlen).symm
  refine ⟨⟨(keepL_linebased hk).trans h.lb, q2.mem.norec, by rw [keepL_B hk]; exact h.bpos1, q2.mem.fposLe, q2.mem.mposLe,
    fun _ => ⟨q2.mem.moff0, q2.mem.fposEq⟩, ?_, ?_, by show 0 ≤ A.boff; omega⟩,
    hk, by rw [next], by rw [next]; exact hlen.symm, by rw [hboff]; have := h.boff0; omega, by first | rfl | trivial, ?_, ?_⟩
  · show A.boff + (A.nc : Int) = if A.mpos < A.mn then A.moff + (A.mpos : Int) else (A.fpos : Int)
    have := q2.mem.fposEq; have := q2.mem.moff0; have := q2.mem.mposLe
    split <;> omega
  · show A.line = A.file.extract A.boff.toNat (A.boff.toNat + A.nc)
    rw [hAfile, hboffN]; exact lineEq
  · show (if (A.nc == 0) = true then Status.eof else Status.ok) = _
    by_cases hz : A.nc = 0
    · have : a.file.toList.drop (a.boff.toNat + a.nc) = [] :=
        nextLine_fst_nil _ (by rw [next]; exact List.eq_nil_of_length_eq_zero (hlen.trans hz))
      simp [hz, this]
    · have hne : a.file.toList.drop (a.boff.toNat + a.nc) ≠ [] := by
        intro k; rw [k] at next
        have e : ([] : List UInt8) = A.line.toList := congrArg Prod.fst next
        rw [← e] at hlen; exact hz hlen.symm
      simp [hz, hne]
  · show a.file.toList.drop (A.boff.toNat + A.nc) = _
    rw [next, hboffN, posEq]

theorem extract_empty (f : Bytes) (i : Nat) : f.extract i (i + 0) = #[] := by
  apply Array.ext'
  rw [toList_extract_drop_take]
  simp

/-- a handle on which nothing has been read yet (as `esl_sqfile_Open` builds it before its first `loadbuf`) -/
theorem lwf_fresh (a : Ascii) (hl : a.linebased = true) (hr : a.recording ≠ 1) (hB : 1 ≤ a.B) (h1 : a.fpos = 0) (h2 : a.mn = 0)
    (h3 : a.mpos = 0) (h4 : a.boff = 0) (h5 : a.nc = 0) (h6 : a.line = #[]) : LWF a := by
  refine ⟨hl, hr, hB, by omega, by omega, fun k => by omega, ?_, ?_, by omega⟩
  · rw [h4, h5, h3, h2, h1]; simp
  · rw [h6, h4, h5]; exact (extract_empty _ _).symm

/-- **the state after open**: the first `loadbuf` of a line-based file delivers its first line, for every `B ≥ 1` -/
theorem open_line (file : Bytes) (B abc fmt : Nat) (eofOk : Bool) (inmap : Bytes) (hB : 1 ≤ B) :
    LWF (loadbuf { file := file, B := B, abc := abc, fmt := fmt, eofIsOk := eofOk, linebased := true, inmap := inmap }).1 ∧
    (loadbuf { file := file, B := B, abc := abc, fmt := fmt, eofIsOk := eofOk, linebased := true, inmap := inmap }).1.line.toList =
      (nextLine file.toList).1 ∧
    (loadbuf { file := file, B := B, abc := abc, fmt := fmt, eofIsOk := eofOk, linebased := true, inmap := inmap }).1.boff = 0 ∧
    (loadbuf { file := file, B := B, abc := abc, fmt := fmt, eofIsOk := eofOk, linebased := true, inmap := inmap }).2 =
      (if file.toList = [] then .eof else .ok) := by
  have w : LWF { file := file, B := B, abc := abc, fmt := fmt, eofIsOk := eofOk, linebased := true, inmap := inmap } :=
    lwf_fresh _ rfl (by show (0 : Int) ≠ 1; omega) hB rfl rfl rfl rfl rfl rfl
  have n := loadbuf_line _ w
  exact ⟨n.wf, n.line, n.boff, n.st⟩

/-- everything but the block bookkeeping -/
def keepP (a : Ascii) : Bytes × Int × Int × Track × Bytes × Nat × Nat × Bool × Bool × Bool × Int × Int × Bool :=
  (a.file, a.L, a.linenumber, a.trk, a.inmap, a.fmt, a.abc, a.eofIsOk, a.haveErr, a.exc, a.bookmarkOff, a.bookmarkLine, a.linebased)

theorem keepP_of_keepL {a b : Ascii} (h : keepL a = keepL b) : keepP a = keepP b := by
  simp only [keepL, Prod.mk.injEq] at h
  obtain ⟨h1, _, h3, h4, h5, h6, h7, h8, h9, h10, h11, h12, h13, h14⟩ := h
  simp only [keepP, h1, h3, h4, h5, h6, h7, h8, h9, h10, h11, h12, h13, h14]

/-- two line-mode handles on the same file, possibly with different block sizes, standing on the same line -/
structure LSim (a1 a2 : Ascii) : Prop where
  w1 : LWF a1
  w2 : LWF a2
  keep : keepP a1 = keepP a2
  boff : a1.boff = a2.boff
  nc : a1.nc = a2.nc
  line : a1.line = a2.line
  bpos : a1.bpos = a2.bpos

theorem LSim.file_eq {a1 a2 : Ascii} (h : LSim a1 a2) : a1.file = a2.file := congrArg (fun t => t.1) h.keep
theorem LSim.L_eq {a1 a2 : Ascii} (h : LSim a1 a2) : a1.L = a2.L := congrArg (fun t => t.2.1) h.keep
theorem LSim.inmap_eq {a1 a2 : Ascii} (h : LSim a1 a2) : a1.inmap = a2.inmap := congrArg (fun t => t.2.2.2.2.1) h.keep
theorem LSim.fmt_eq {a1 a2 : Ascii} (h : LSim a1 a2) : a1.fmt = a2.fmt := congrArg (fun t => t.2.2.2.2.2.1) h.keep
theorem LSim.eofIsOk_eq {a1 a2 : Ascii} (h : LSim a1 a2) : a1.eofIsOk = a2.eofIsOk := congrArg (fun t => t.2.2.2.2.2.2.2.1) h.keep

/-- **the line loader is block-size independent**: from two handles on the same line, `loadbuf` delivers the same next line, at
    the same offset, with the same status — whatever the two block sizes are -/
theorem loadbuf_lsim {a1 a2 : Ascii} (h : LSim a1 a2) : LSim (loadbuf a1).1 (loadbuf a2).1 ∧ (loadbuf a1).2 = (loadbuf a2).2 := by
  have n1 := loadbuf_line a1 h.w1
  have n2 := loadbuf_line a2 h.w2
  refine ⟨⟨n1.wf, n2.wf, ?_, by rw [n1.boff, n2.boff, h.boff, h.nc], by rw [n1.nc, n2.nc, h.file_eq, h.boff, h.nc], ?_, by rw [n1.bpos, n2.bpos]⟩,
    by rw [n1.st, n2.st, h.file_eq, h.boff, h.nc]⟩
  · exact (keepP_of_keepL n1.keep).trans (h.keep.trans (keepP_of_keepL n2.keep).symm)
  · apply Array.ext'
    rw [n1.line, n2.line, h.file_eq, h.boff, h.nc]

/-! ## non-vacuity: `ID x\nAC\n//` (no final newline) read with block sizes 1, 2 and 5 -/

def demoL : Bytes := #[73, 68, 32, 120, 10, 65, 67, 10, 47, 47]

/-- the first three lines and the status of the fourth `loadbuf` -/
def threeLines (B : Nat) : Bytes × Bytes × Bytes × Status × Status :=
  let a1 := (loadbuf { file := demoL, B := B, linebased := true }).1
  let a2 := (loadbuf a1).1
  let a3 := (loadbuf a2)
  (a1.line, a2.line, a3.1.line, a3.2, (loadbuf a3.1).2)

example : threeLines 1 = (#[73, 68, 32, 120, 10], #[65, 67, 10], #[47, 47], .ok, .eof) ∧
    threeLines 2 = threeLines 1 ∧ threeLines 5 = threeLines 1 := by decide +kernel

example : nextLine demoL.toList = ([73, 68, 32, 120, 10], [65, 67, 10, 47, 47]) := by decide

end EaselModel.Sqio.LineSpec
