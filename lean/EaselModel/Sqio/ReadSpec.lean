import EaselModel.Sqio.BodySpec
import EaselModel.Sqio.ReadInfo
import EaselModel.Sqio.HeaderSpec
/-! # One FASTA record in closed form (whole-reader refinement)

`recL` (header `headerL`, then body `bodyL`): what `sqascii_Read` returns when the cursor stands on the list `l` of
remaining file bytes — `dropWhile` / `takeWhile` / `filter` only, no buffer and no block size. `read_spec`: the model's call
(which runs through `loadbuf` at every block boundary) returns exactly that for every `B ≥ 1`, from a `Ready` handle, and leaves
the cursor on the remaining bytes the closed form says. `Status.fault` is not an outcome. The same for `ReadInfo` / `ReadSequence`
(`infoL`, `seqL`, `readInfo_spec`, `readSequence_spec`) stands in InfoSeqSpec.lean. -/
namespace EaselModel.Sqio.ReadSpec
open EaselModel.Sqio.Refine EaselModel.Sqio.Fold EaselModel.Sqio.DataScan EaselModel.Sqio.Cursor EaselModel.Sqio.BodySpec
open EaselModel.Sqio.HeaderSpec

/-- the only end-of-data byte of the FASTA input map is `>` -/
def EodGt (inmap : Bytes) : Prop := ∀ c : UInt8, isEod inmap c = true → c = chGt

/-- what a reading call needs of the handle and the `ESL_SQ` it is given -/
structure Ready (a : Ascii) (sq : Sq) : Prop where
  cur : Cur a
  fmt : a.fmt = 1
  eofOk : a.eofIsOk = true
  hm : a.inmap.size = 128
  mapOk : MapOk a.inmap (mapOf a sq)
  eodGt : EodGt a.inmap
  nalloc : 2 ≤ sq.nalloc
  dalloc : 2 ≤ sq.dalloc

/-- the data part of a record: consume `takeWhile isData`, keep the residues -/
def bodyL (inmap map : Bytes) (N : Nat) (sq : Sq) (l : List UInt8) : Status × Sq × List UInt8 :=
  match l.dropWhile (isData inmap) with
  | [] => (.ok, ({ stored true inmap map sq (l.takeWhile (isData inmap)) with eoff := offOf N [] - 1 }).setWhole, [])
  | c :: t =>
    if isEod inmap c then
      (.ok, ({ stored true inmap map sq (l.takeWhile (isData inmap)) with eoff := offOf N (c :: t) - 1 }).setWhole, c :: t)
    else (.eformat, sq, c :: t)

theorem Cur.at {A : Ascii} (E : Nat) (hw : ∃ b, WF { A with bpos := b }) (hE : E < A.nc) (tok : Track.Ok A.trk) :
    Cur { A with bpos := E } := by
  obtain ⟨b, w⟩ := hw
  exact ⟨WF_of_blk (a := { A with bpos := b }) rfl w (Nat.le_of_lt hE), Or.inl hE, tok⟩

theorem fileFrom_drop (a A : Ascii) (k : Nat) (hf : A.file = a.file) (hp : pos A = pos a + (k : Int)) (h0 : 0 ≤ pos a) :
    fileFrom A = (fileFrom a).drop k := by
  unfold fileFrom
  rw [hf, hp, List.drop_drop]
  congr 1
  omega

theorem offOf_drop (a : Ascii) (h : Cur a) (d r : List UInt8) (hl : d.length + r.length = (fileFrom a).length) :
    pos a + (d.length : Int) = offOf a.file.size r := by
  have e1 := h.posEq
  have e2 := h.len
  have e3 := h.posNonneg
  unfold offOf
  omega

theorem termOk_eoff (s : Sq) (e : Int) : ({ s with eoff := e } : Sq).termOk = s.termOk := rfl

theorem stored_termOk (inmap map : Bytes) (sq : Sq) (d : List UInt8) : (stored true inmap map sq d).termOk = true := by
  simp only [stored, if_true, Sq.termOk, Sq.n, Array.size_append, resOf_size, nresOf]
  cases sq.digital <;> simp <;> omega

/-- where the residue loop stops with `eslEOD` (the facts `scanLoop_spec` gives there): the cursor put on the stop position stands on
    the `>` that begins the next record, and `end_fasta` accepts it -/
theorem endFasta_at_eod {a A : Ascii} (S : Sq) {E : Nat} {c : UInt8} {t : List UInt8} (h : Cur a) (hfmt : a.fmt = 1)
    (hgt : EodGt a.inmap) (hr : (fileFrom a).dropWhile (isData a.inmap) = c :: t) (hce : isEod a.inmap c = true)
    (j3 : ∃ b, WF { A with bpos := b }) (j4 : Track.Ok A.trk) (j5 : stat A = stat a)
    (j7 : A.boff + (E : Int) = pos a + (((fileFrom a).takeWhile (isData a.inmap)).length : Int)) (j8 : E < A.nc) :
    Cur { A with bpos := E } ∧ fileFrom { A with bpos := E } = c :: t ∧
    parseEnd { A with bpos := E } S = ({ A with bpos := E }, { S with eoff := A.boff + (E : Int) - 1 }, .ok) := by
  have hcur : Cur { A with bpos := E } := Cur.at E j3 j8 j4
  have hff : fileFrom { A with bpos := E } = c :: t := by
    rw [fileFrom_drop a { A with bpos := E } ((fileFrom a).takeWhile (isData a.inmap)).length (stat_file j5) j7 h.posNonneg,
      drop_takeWhile_length, hr]
  obtain ⟨x, hx, hfx⟩ := fileFrom_live _ hcur.wf (show Sim.Live { A with bpos := E } from j8)
  rw [hff] at hfx
  have hxc : x = c := ((List.cons.inj hfx).1).symm
  refine ⟨hcur, hff, ?_⟩
  rw [parseEnd_fasta _ S (show ({ A with bpos := E } : Ascii).fmt = 1 from (stat_fmt j5).trans hfmt)]; unfold endFasta
  have hlt : ({ A with bpos := E } : Ascii).bpos < ({ A with bpos := E } : Ascii).nc := j8
  simp only [hlt, if_true, hx, hxc, hgt c hce]
  simp

/-- **the data part of `sqascii_Read` / `ReadSequence` = `bodyL`**, for every block size -/
theorem readBody_spec (a : Ascii) (sq : Sq) (h : Cur a) (hfmt : a.fmt = 1) (heof : a.eofIsOk = true) (hm : a.inmap.size = 128)
    (hmap : MapOk a.inmap (mapOf a sq)) (hgt : EodGt a.inmap) :
    Spec a (readBody a sq) (bodyL a.inmap (mapOf a sq) a.file.size sq (fileFrom a)) := by
  have hfuel : (fileFrom a).length + 1 < fuelOf a := by have := h.len; unfold fuelOf; omega
  obtain ⟨k1, k2, k3⟩ := scanLoop_spec true (fuelOf a) a sq h hm (fun _ => hmap) hfuel _ _ rfl rfl
  have hlen := length_takeWhile_add_dropWhile (isData a.inmap) (fileFrom a)
  unfold Spec readBody bodyL
  generalize scanLoop true (fuelOf a) a sq = R at k1 k2 k3 ⊢
  obtain ⟨A, S, T, E⟩ := R
  simp only [] at k1 k2 k3 ⊢
  cases hr : (fileFrom a).dropWhile (isData a.inmap) with
  | nil =>
    obtain ⟨j1, j2, j3, j4, j5, j6⟩ := k1 hr
    subst j1
    have hA : A.eofIsOk = true := by
      have : A.eofIsOk = a.eofIsOk := stat_eofIsOk j5
      rw [this]; exact heof
    have hAf : A.fmt = 1 := by
      have : A.fmt = a.fmt := stat_fmt j5
      rw [this]; exact hfmt
    obtain ⟨⟨n0, b0⟩, _⟩ := j3.eof_of_nil j4
    have hend : parseEnd A S = (A, S, .ok) := by
      rw [parseEnd_fasta A S hAf]; unfold endFasta
      have : ¬ A.bpos < A.nc := by omega
      simp [this]
    have b1 : (Status.eof == Status.fault || Status.eof == Status.eformat) = false := by decide
    simp only [b1, Bool.false_eq_true, if_false, beq_self_eq_true, if_true, hA, Bool.not_true, hend, bne_self_eq_false]
    have hoff : pos a + (((fileFrom a).takeWhile (isData a.inmap)).length : Int) - 1 = offOf a.file.size [] - 1 := by
      rw [offOf_drop a h _ [] (by rw [hr] at hlen; exact hlen)]
    rw [j2, hoff]
    simp only [termOk_eoff, stored_termOk, Bool.not_true, Bool.false_eq_true, if_false]
    exact ⟨trivial, fun _ => ⟨trivial, j3, j4, j5⟩, fun k => (by cases k), fun k => (by cases k)⟩
  | cons c t =>
    by_cases hce : isEod a.inmap c = true
    · obtain ⟨j1, j2, j3, j4, j5, j6, j7, j8⟩ := k2 c t hr hce
      subst j1
      obtain ⟨hcur, hff, hend⟩ := endFasta_at_eod S h hfmt hgt hr hce j3 j4 j5 j7 j8
      have b1 : (Status.eod == Status.fault || Status.eod == Status.eformat) = false := by decide
      have b3 : (Status.eod == Status.eof) = false := by decide
      simp only [b1, b3, Bool.false_eq_true, if_false, beq_self_eq_true, if_true, hend, bne_self_eq_false, hce]
      have hoff : pos a + (((fileFrom a).takeWhile (isData a.inmap)).length : Int) - 1 = offOf a.file.size (c :: t) - 1 := by
        rw [offOf_drop a h _ (c :: t) (by rw [hr] at hlen; exact hlen)]
      rw [j7, j2, hoff]
      simp only [termOk_eoff, stored_termOk, Bool.not_true, Bool.false_eq_true, if_false]
      exact ⟨trivial, fun _ => ⟨trivial, hcur, hff, j5⟩, fun k => (by cases k), fun k => (by cases k)⟩
    · have hce' : isEod a.inmap c = false := by simpa using hce
      obtain ⟨j1, j2⟩ := k3 c t hr hce'
      subst j1
      have b1 : (Status.eformat == Status.fault || Status.eformat == Status.eformat) = true := by decide
      simp only [b1, if_true, hce', Bool.false_eq_true, if_false]
      exact ⟨trivial, fun k => (by cases k), fun _ => j2, fun k => (by cases k)⟩


/-- the map `addbuf` uses: the alphabet's own input map in digital mode, else the file map -/
def mapFor (inmap : Bytes) (sq : Sq) : Bytes := if sq.digital then abcInmap sq.abc else inmap

/-- `sqascii_Read` on the remaining bytes `l` of a FASTA file of `N` bytes: status, record, remaining bytes -/
def recL (inmap : Bytes) (N : Nat) (sq : Sq) (l : List UInt8) : Status × Sq × List UInt8 :=
  if l.isEmpty then (.eof, sq, []) else
  if (headerL N sq l).1 == .ok then bodyL inmap (mapFor inmap sq) N (headerL N sq l).2.1 (headerL N sq l).2.2
  else headerL N sq l

theorem bodyL_of_ok (inmap map : Bytes) (N : Nat) (sq : Sq) (l : List UInt8) (h : (bodyL inmap map N sq l).1 = .ok) :
    bodyL inmap map N sq l =
      (.ok, ({ stored true inmap map sq (l.takeWhile (isData inmap)) with
                 eoff := offOf N (l.dropWhile (isData inmap)) - 1 }).setWhole, l.dropWhile (isData inmap)) ∧
    ∀ c t, l.dropWhile (isData inmap) = c :: t → isEod inmap c = true := by
  unfold bodyL at h ⊢
  cases hr : l.dropWhile (isData inmap) with
  | nil => exact ⟨rfl, fun c t k => by cases k⟩
  | cons c t =>
    rw [hr] at h
    by_cases he : isEod inmap c = true
    · simp only [he, if_true]
      exact ⟨trivial, fun c' t' k => by rw [← (List.cons.inj k).1]; exact he⟩
    · simp only [he, Bool.false_eq_true, if_false] at h
      cases h

theorem recL_of_ok (inmap : Bytes) (N : Nat) (sq : Sq) (l : List UInt8) (h : (recL inmap N sq l).1 = .ok) :
    l.isEmpty = false ∧ (headerL N sq l).1 = .ok ∧
    recL inmap N sq l = bodyL inmap (mapFor inmap sq) N (headerL N sq l).2.1 (headerL N sq l).2.2 := by
  unfold recL at h ⊢
  by_cases hne : l.isEmpty = true
  · simp only [hne, if_true] at h; cases h
  · by_cases hok : ((headerL N sq l).1 == .ok) = true
    · simp only [hne, hok, if_true, Bool.false_eq_true, if_false]
      exact ⟨by simpa using hne, eq_of_beq hok, trivial⟩
    · simp only [hne, hok, Bool.false_eq_true, if_false] at h
      rw [h] at hok; exact absurd rfl hok

theorem hfNameL_keeps (N : Nat) (sq : Sq) (l : List UInt8) (r : Sq × List UInt8) (h : hfNameL N sq l = some r) :
    r.1.digital = sq.digital ∧ r.1.abc = sq.abc ∧ r.1.seq = sq.seq ∧ r.1.salloc = sq.salloc ∧ r.1.acc = sq.acc ∧
    r.1.roff = sq.roff ∧ r.1.eoff = sq.eoff := by
  unfold hfNameL at h
  split at h
  · cases h
  · have := (Option.some.inj h).symm
    subst this
    simp [hfDescL, hfEndL]

theorem headerL_keeps (N : Nat) (sq : Sq) (l : List UInt8) :
    (headerL N sq l).2.1.digital = sq.digital ∧ (headerL N sq l).2.1.abc = sq.abc ∧ (headerL N sq l).2.1.seq = sq.seq ∧
    (headerL N sq l).2.1.salloc = sq.salloc ∧ (headerL N sq l).2.1.acc = sq.acc := by
  unfold headerL
  split
  · simp
  · split
    · simp
    · split
      · simp
      · rename_i r hr
        obtain ⟨k1, k2, k3, k4, k5, _⟩ := hfNameL_keeps _ _ _ r hr
        exact ⟨k1, k2, k3, k4, k5⟩

theorem mapOf_eq (a : Ascii) (sq : Sq) : mapOf a sq = mapFor a.inmap sq := rfl


theorem read_eq (a : Ascii) (sq : Sq) : read a sq =
    if a.nc == 0 then (a, sq, .eof) else
    if (parseHeader a sq).2.2 != .ok then parseHeader a sq else readBody (parseHeader a sq).1 (parseHeader a sq).2.1 := rfl

theorem readSequence_eq (a : Ascii) (sq : Sq) : readSequence a sq =
    if a.nc == 0 then (a, sq, .eof) else
    if (skipHeader a sq).2.2 != .ok then skipHeader a sq else readBody (skipHeader a sq).1 (skipHeader a sq).2.1 := rfl

/-- the handle and the record a successful header leaves are ready for the body -/
theorem Ready.afterHeader {a a1 : Ascii} {sq sq1 : Sq} (R : Ready a sq) (c3 : stat a1 = stat a)
    (u1 : sq1.digital = sq.digital) (u2 : sq1.abc = sq.abc) :
    a1.fmt = 1 ∧ a1.eofIsOk = true ∧ a1.inmap.size = 128 ∧ MapOk a1.inmap (mapOf a1 sq1) ∧ EodGt a1.inmap ∧
    a1.inmap = a.inmap ∧ a1.file = a.file ∧ mapOf a1 sq1 = mapFor a.inmap sq := by
  have hi : a1.inmap = a.inmap := stat_inmap c3
  have hm : mapOf a1 sq1 = mapFor a.inmap sq := by simp only [mapOf, mapFor, u1, u2, hi]
  exact ⟨(stat_fmt c3).trans R.fmt, (stat_eofIsOk c3).trans R.eofOk, by rw [hi]; exact R.hm, by rw [hm, hi]; exact R.mapOk,
    by rw [hi]; exact R.eodGt, hi, stat_file c3, hm⟩

/-- **`sqascii_Read` on a FASTA file = `recL` on the remaining file bytes, for every block size `B ≥ 1`.** -/
theorem read_spec (a : Ascii) (sq : Sq) (R : Ready a sq) : Spec a (read a sq) (recL a.inmap a.file.size sq (fileFrom a)) := by
  rw [read_eq, parseHeader_fasta a sq R.fmt]
  refine Spec.record R.cur (hdr := headerFasta) (body := readBody) (fun hl => headerFasta_spec a sq R.cur hl R.nalloc R.dalloc)
    fun hl hok => ?_
  obtain ⟨q1, q2, _, _⟩ := headerFasta_spec a sq R.cur hl R.nalloc R.dalloc
  obtain ⟨c1, c2, c3⟩ := q2 hok
  have e : (headerFasta a sq).2.1 = (headerL a.file.size sq (fileFrom a)).2.1 := congrArg Prod.fst q1
  obtain ⟨u1, u2, _⟩ := headerL_keeps a.file.size sq (fileFrom a)
  obtain ⟨k1, k2, k3, k4, k5, hi, hf, hmp⟩ := R.afterHeader c3 (e ▸ u1) (e ▸ u2)
  have := readBody_spec _ _ c1 k1 k2 k3 k4 k5
  rw [hmp, hi, hf, c2, e] at this
  rw [e]; exact this

end EaselModel.Sqio.ReadSpec
