import EaselModel.Sqio.EmblAll
import EaselModel.Sqio.WindowSeries
/-! # Forward windows and whole-sequence `ReadBlock` of the line-based formats are block-size independent (C04) -/
namespace EaselModel.Sqio.EmblWin
open EaselModel.Sqio EaselModel.Sqio.LineSpec EaselModel.Sqio.EmblSpec EaselModel.Sqio.EmblAll EaselModel.Sqio.WindowSeries
open EaselModel.Sqio.WindowSpec (rnDispatch rnGo rnTail readNres_staged)

theorem skipbufLoop_congr (a b : Ascii) (hnc : a.nc = b.nc) (hin : a.inmap = b.inmap)
    (hg : ∀ i, i < a.nc → a.bufGet i = b.bufGet i) (nskip bpos : Nat) :
    skipbufLoop a nskip bpos = skipbufLoop b nskip bpos := by
  fun_induction skipbufLoop a nskip bpos
  case case1 =>
    rename_i h
    conv => rhs; rw [skipbufLoop]
    simp only [h, if_true]
  case case6 =>
    rename_i h1 h
    rw [hnc] at h
    conv => rhs; rw [skipbufLoop]
    simp only [h1, h, dite_false, Bool.false_eq_true, if_false]
  all_goals (
    have h := ‹_ < a.nc›
    have hb := h
    rw [hnc] at hb
    have hgb := (hg _ h).symm
    have hin' := hin.symm
    clear hg hin
    conv => rhs; rw [skipbufLoop]
    simp only [hb, dite_true, hgb, hin']
    first
      | (simp only [*, if_true, if_false, Bool.false_eq_true]; done)
      | (simp only [*, if_true, if_false, Bool.false_eq_true]; assumption))

theorem skipbuf_fsim {k : Nat} {a1 a2 : Ascii} (h : FSim k a1 a2) (n : Nat) :
    FSim k (skipbuf a1 n).1 (skipbuf a2 n).1 ∧ (skipbuf a1 n).2 = (skipbuf a2 n).2 := by
  have k5 := h.inmap_eq
  unfold skipbuf
  rw [h.bpos, skipbufLoop_congr a1 a2 h.nc k5 (fun i hi => bufGet_lsim h.toLSim i hi)]
  exact ⟨⟨lsim_upd h.toLSim rfl rfl h.keep rfl, h.fmt⟩, rfl⟩

theorem raise_fsim {k : Nat} {a1 a2 : Ascii} (h : FSim k a1 a2) : FSim k a1.raise a2.raise := by
  obtain ⟨k1, k2, k3, k4, k5, k6, k7, k8, k9, k10, k11, k12, k13⟩ := keepP_fields h.keep
  refine ⟨lsim_upd h.toLSim rfl rfl ?_ h.bpos, h.fmt⟩
  simp only [keepP, Ascii.raise, k1, k2, k3, k4, k5, k6, k7, k8, k9, k11, k12, k13]

/-- two results of `read_nres`: handles related by `FSim k`, everything else equal -/
def Rel4 (k : Nat) (r1 r2 : Ascii × Sq × Status × Nat) : Prop := FSim k r1.1 r2.1 ∧ r1.2 = r2.2

theorem finish_fsim {k : Nat} {a1 a2 : Ascii} (h : FSim k a1 a2) (sq : Sq) (nres n actual epos : Nat) (st : Status) :
    Rel4 k (WindowSpec.finish a1 sq nres n actual epos st) (WindowSpec.finish a2 sq nres n actual epos st) := by
  unfold WindowSpec.finish
  obtain ⟨ha, hae⟩ := addbuf_fsim h sq (min nres (if st == .eof then 0 else n))
  rw [hae, h.eofIsOk_eq]
  refine fsim_ite ⟨h, rfl⟩ (fsim_ite ⟨fail_fsim h, rfl⟩ (fsim_ite ⟨h, rfl⟩ (fsim_ite ⟨ha, rfl⟩ (fsim_ite ⟨ha, rfl⟩ ⟨?_, rfl⟩))))
  show FSim k (if _ then _ else _) (if _ then _ else _)
  split
  · exact setBpos_fsim ha epos
  · exact ha

theorem nresAddLoop_fsim {k : Nat} (fuel : Nat) : ∀ {a1 a2 : Ascii} (sq : Sq) (nres n actual epos : Nat) (st : Status), FSim k a1 a2 →
    FSim k (nresAddLoop fuel a1 sq nres n actual epos st).1 (nresAddLoop fuel a2 sq nres n actual epos st).1 ∧
    (nresAddLoop fuel a1 sq nres n actual epos st).2 = (nresAddLoop fuel a2 sq nres n actual epos st).2 := by
  induction fuel with
  | zero => intro a1 a2 sq nres n actual epos st h; exact ⟨h, rfl⟩
  | succ fuel ih =>
    intro a1 a2 sq nres n actual epos st h
    rw [WindowSpec.nresAddLoop_succ, WindowSpec.nresAddLoop_succ]
    obtain ⟨ha, hae⟩ := addbuf_fsim h sq n
    obtain ⟨hl, hle⟩ := loadbuf_fsim ha
    obtain ⟨hs, hse⟩ := seebuf_fsim hl (some (nres - n))
    rw [hae, hle, hse]
    exact fsim_ite (fsim_ite ⟨ha, rfl⟩ (fsim_ite ⟨hl, rfl⟩ (ih _ _ _ _ _ _ hs))) ⟨h, rfl⟩

theorem nresSkipLoop_fsim {k : Nat} (fuel : Nat) : ∀ {a1 a2 : Ascii} (nskip nres : Nat) (see : See), FSim k a1 a2 →
    FSim k (nresSkipLoop fuel a1 nskip nres see).1 (nresSkipLoop fuel a2 nskip nres see).1 ∧
    (nresSkipLoop fuel a1 nskip nres see).2 = (nresSkipLoop fuel a2 nskip nres see).2 := by
  induction fuel with
  | zero => intro a1 a2 nskip nres see h; exact ⟨h, rfl⟩
  | succ fuel ih =>
    intro a1 a2 nskip nres see h
    rw [WindowSpec.nresSkipLoop_succ, WindowSpec.nresSkipLoop_succ]
    obtain ⟨hl, hle⟩ := loadbuf_fsim h
    obtain ⟨hs, hse⟩ := seebuf_fsim hl (some (nskip - see.nres + nres))
    rw [hle, hse]
    exact fsim_ite (fsim_ite ⟨hl, rfl⟩ (ih _ _ _ hs)) ⟨h, rfl⟩

theorem rnGo_fsim {k : Nat} {a1 a2 : Ascii} (h : FSim k a1 a2) (sq : Sq) (nskip nres : Nat) (see : See) (st : Status) (n : Nat) :
    Rel4 k (rnGo a1 sq nskip nres see st n) (rnGo a2 sq nskip nres see st n) := by
  unfold rnGo
  obtain ⟨hk, hke⟩ := skipbuf_fsim h nskip
  rw [hke, fuelOf_lsim hk.toLSim]
  obtain ⟨hn, hne⟩ := nresAddLoop_fsim (fuelOf (skipbuf a2 nskip).1) sq nres (n - nskip) 0 see.endpos st hk
  split
  · exact ⟨hk, rfl⟩
  · unfold WindowSpec.finishT
    rw [hne]
    exact finish_fsim hn _ _ _ _ _ _

theorem rnTail_fsim {k : Nat} {k1 k2 : Ascii × Nat × See × Status} (hk : FSim k k1.1 k2.1) (he : k1.2 = k2.2) (sq : Sq) (nres : Nat) :
    Rel4 k (rnTail k1 sq nres) (rnTail k2 sq nres) := by
  obtain ⟨a1, ns1, see1, st1⟩ := k1
  obtain ⟨a2, ns2, see2, st2⟩ := k2
  simp only at hk he
  obtain ⟨rfl, h2⟩ := Prod.mk.inj he
  obtain ⟨rfl, rfl⟩ := Prod.mk.inj h2
  unfold rnTail rnDispatch
  simp only []
  rw [hk.eofIsOk_eq]
  have hf := fail_fsim hk
  have hr := raise_fsim hk
  by_cases h0 : (st1 == Status.fault) = true
  · simp only [h0, if_true]; exact ⟨hk, rfl⟩
  simp only [h0, Bool.false_eq_true, if_false]
  by_cases h1 : (st1 == Status.eof) = true
  · simp only [h1, if_true]
    by_cases h2 : (!a2.eofIsOk) = true
    · simp only [h2, if_true]; exact ⟨hf, rfl⟩
    · simp only [h2, Bool.false_eq_true, if_false]
      by_cases h3 : ns1 > 0
      · simp only [h3, if_true]; exact ⟨hr, rfl⟩
      · simp only [h3, if_false]; exact rnGo_fsim hk _ _ _ _ _ _
  · simp only [h1, Bool.false_eq_true, if_false]
    by_cases h4 : (st1 == Status.eod) = true
    · simp only [h4, if_true]
      by_cases h5 : see1.nres < ns1
      · simp only [h5, if_true]; exact ⟨hr, rfl⟩
      · simp only [h5, if_false]; exact rnGo_fsim hk _ _ _ _ _ _
    · simp only [h4, Bool.false_eq_true, if_false]
      by_cases h6 : (st1 != Status.ok) = true
      · simp only [h6, if_true]; exact ⟨hk, rfl⟩
      · simp only [h6, Bool.false_eq_true, if_false]; exact rnGo_fsim hk _ _ _ _ _ _

theorem readNres_fsim {k : Nat} {a1 a2 : Ascii} (h : FSim k a1 a2) (sq : Sq) (nskip nres : Nat) :
    Rel4 k (readNres a1 sq nskip nres) (readNres a2 sq nskip nres) := by
  rw [readNres_staged, readNres_staged]
  obtain ⟨hs, hse⟩ := seebuf_fsim h (some (nskip + nres))
  rw [hse, fuelOf_lsim hs.toLSim]
  obtain ⟨hk, hke⟩ := nresSkipLoop_fsim (fuelOf (seebuf a2 (some (nskip + nres))).1) nskip nres (seebuf a2 (some (nskip + nres))).2 hs
  exact rnTail_fsim hk hke sq nres

theorem wtEnd_fsim {k : Nat} {r1 r2 : Ascii × Sq × Status} (h : RelF k r1 r2) : RelF k (wtEnd r1) (wtEnd r2) := by
  obtain ⟨k1, k2, k3, k4, k5, k6, k7, k8, k9, k10, k11, k12, k13⟩ := keepP_fields h.1.keep
  have hA : FSim k (if r1.1.nc > 0 then { r1.1 with bookmarkOff := r1.1.boff + r1.1.bpos } else { r1.1 with bookmarkOff := 0, bookmarkLine := 0 })
      (if r2.1.nc > 0 then { r2.1 with bookmarkOff := r2.1.boff + r2.1.bpos } else { r2.1 with bookmarkOff := 0, bookmarkLine := 0 }) := by
    rw [h.1.nc]
    split
    · refine ⟨lsim_upd h.1.toLSim rfl rfl ?_ h.1.bpos, h.1.fmt⟩
      simp only [keepP, k1, k2, k3, k4, k5, k6, k7, k8, k9, k10, k12, k13, h.1.boff, h.1.bpos]
    · refine ⟨lsim_upd h.1.toLSim rfl rfl ?_ h.1.bpos, h.1.fmt⟩
      simp only [keepP, k1, k2, k3, k4, k5, k6, k7, k8, k9, k10, k13]
  unfold wtEnd
  rw [h.2, hA.L_eq]
  exact fsim_ite h (fsim_ite ⟨hA, rfl⟩ ⟨hA, rfl⟩)

theorem wtAfter_fsim {k : Nat} {r1 r2 : Ascii × Sq × Status × Nat} (h : Rel4 k r1 r2) (hk : k = 2 ∨ k = 3 ∨ k = 4 ∨ k = 5) :
    RelF k (wtAfter r1) (wtAfter r2) := by
  have hl := setL_fsim h.1 (r2.1.L + (r2.2.2.2 : Int))
  unfold wtAfter
  rw [h.2, h.1.L_eq]
  exact fsim_ite (wtEnd_fsim (parseEnd_fsim _ hl hk)) (fsim_ite ⟨hl, rfl⟩ ⟨hl, rfl⟩)

theorem winTail_fsim {k : Nat} {a1 a2 : Ascii} (h : FSim k a1 a2) (hk : k = 2 ∨ k = 3 ∨ k = 4 ∨ k = 5) (sq : Sq) (C W : Int) :
    RelF k (WindowSeries.winTail a1 sq C W) (WindowSeries.winTail a2 sq C W) := by
  rw [winTail_eq, winTail_eq]
  exact fsim_ite ⟨h, rfl⟩ (wtAfter_fsim (readNres_fsim h _ _ _) hk)

/-- **the forward `sqascii_ReadWindow` on an EMBL / UniProt / GenBank / DDBJ file is block-size independent** (`W ≥ 0`): same
    status, same `ESL_SQ`, and the two handles again stand on the same line -/
theorem readWindow_fwd_fsim {k : Nat} {a1 a2 : Ascii} (h : FSim k a1 a2) (hk : k = 2 ∨ k = 3 ∨ k = 4 ∨ k = 5) (sq : Sq) (C W : Int) (hW : 0 ≤ W) :
    RelF k (readWindow a1 sq C W) (readWindow a2 sq C W) := by
  by_cases hs : sq.start = 0
  · by_cases hnc : a1.nc = 0
    · have hnc2 : a2.nc = 0 := by rw [← h.nc]; exact hnc
      have h1 : ¬ W < 0 := by omega
      have e1 : readWindow a1 sq C W = (a1, sq, .eof) := by unfold readWindow; simp [h1, hs, hnc]
      have e2 : readWindow a2 sq C W = (a2, sq, .eof) := by unfold readWindow; simp [h1, hs, hnc2]
      rw [e1, e2]; exact ⟨h, rfl⟩
    · have hnc2 : a2.nc ≠ 0 := by rw [← h.nc]; exact hnc
      rw [WindowSeries.readWindow_first a1 sq C W hW hs hnc, WindowSeries.readWindow_first a2 sq C W hW hs hnc2]
      have hp := parseHeader_fsim sq h hk
      rw [hp.2]
      exact fsim_ite hp (winTail_fsim (setL_fsim hp.1 0) hk _ C W)
  · rw [WindowSeries.readWindow_next a1 sq C W hW hs, WindowSeries.readWindow_next a2 sq C W hW hs,
      h.L_eq]
    exact winTail_fsim h hk _ C W

theorem readWindow_fwd_linebased_block_size_independent (a1 a2 : Ascii) (sq : Sq) (C W : Int) (h : LSim a1 a2) (hf : LineFmt a1)
    (hW : 0 ≤ W) :
    (readWindow a1 sq C W).2.2 = (readWindow a2 sq C W).2.2 ∧ (readWindow a1 sq C W).2.1 = (readWindow a2 sq C W).2.1 ∧
    LSim (readWindow a1 sq C W).1 (readWindow a2 sq C W).1 :=
  (readWindow_fwd_fsim (⟨h, rfl⟩ : FSim a1.fmt a1 a2) hf sq C W hW).unpack

theorem blockShortLoop_fsim {k : Nat} (hk : k = 2 ∨ k = 3 ∨ k = 4 ∨ k = 5) (fuel : Nat) : ∀ {a1 a2 : Ascii} (b : Block) (i size maxSeq : Nat) (st : Status), FSim k a1 a2 →
    FSim k (blockShortLoop fuel a1 b i size maxSeq st).1 (blockShortLoop fuel a2 b i size maxSeq st).1 ∧
    (blockShortLoop fuel a1 b i size maxSeq st).2 = (blockShortLoop fuel a2 b i size maxSeq st).2 := by
  induction fuel with
  | zero => intro a1 a2 b i size maxSeq st h; exact ⟨h, rfl⟩
  | succ fuel ih =>
    intro a1 a2 b i size maxSeq st h
    simp only [blockShortLoop]
    obtain ⟨hr, hre⟩ := read_fsim (b.list.getD i {}) h hk
    generalize read a1 (b.list.getD i {}) = r1 at hr hre
    generalize read a2 (b.list.getD i {}) = r2 at hr hre
    obtain ⟨c1, q1, s1⟩ := r1
    obtain ⟨c2, q2, s2⟩ := r2
    simp only at hr hre ⊢
    obtain ⟨rfl, rfl⟩ := Prod.mk.inj hre
    exact fsim_ite (fsim_ite ⟨hr, rfl⟩ (ih _ _ _ _ _ hr)) ⟨h, rfl⟩

theorem readBlock_short_linebased_block_size_independent (a1 a2 : Ascii) (b : Block) (maxRes maxSeq : Int) (maxInit : Bool)
    (h : LSim a1 a2) (hf : LineFmt a1) :
    (readBlock a1 b maxRes maxSeq maxInit false).2 = (readBlock a2 b maxRes maxSeq maxInit false).2 ∧
    LSim (readBlock a1 b maxRes maxSeq maxInit false).1 (readBlock a2 b maxRes maxSeq maxInit false).1 := by
  unfold readBlock
  simp only [Bool.not_false, if_true]
  rw [fuelOf_lsim h]
  obtain ⟨hs, he⟩ := blockShortLoop_fsim hf (fuelOf a2) { b with count := 0 } 0 0
    (if maxSeq < 1 || maxSeq > ({ b with count := 0 } : Block).listSize then ({ b with count := 0 } : Block).listSize else maxSeq.toNat)
    .ok (⟨h, rfl⟩ : FSim a1.fmt a1 a2)
  generalize blockShortLoop (fuelOf a2) a1 _ 0 0 _ Status.ok = r1 at hs he
  generalize blockShortLoop (fuelOf a2) a2 _ 0 0 _ Status.ok = r2 at hs he
  obtain ⟨c1, b1, i1, s1⟩ := r1
  obtain ⟨c2, b2, i2, s2⟩ := r2
  simp only at hs he ⊢
  obtain ⟨rfl, h2⟩ := Prod.mk.inj he
  obtain ⟨rfl, rfl⟩ := Prod.mk.inj h2
  split
  · exact ⟨rfl, hs.toLSim⟩
  · exact ⟨rfl, hs.toLSim⟩

end EaselModel.Sqio.EmblWin
