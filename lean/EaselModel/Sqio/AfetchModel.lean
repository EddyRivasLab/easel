import EaselModel.Msafile.Stockholm
import EaselModel.Ssi.History
import EaselModel.Generated.AfetchSrc
/-! # `esl-afetch`: indexing a Stockholm database and fetching a named alignment from it (C07, theorem 5)

Core Lean only (the driver imports this file).  A database is a byte string; `esl_buffer_GetLine` delivers the lines
`splitLinesT db []` (body, terminator) of `Msafile/Basic.lean`; the SSI index is the C06 model (`Ssi/*`): the calls
`esl_newssi_AddFile / AddKey / AddAlias / Write` are the history `indexOps`, the lookups are `Ssi.open` + `Ssi.findName`
on the bytes that history wrote.

Modelled line by line:
* `create_ssi_index()` of `miniapps/esl-afetch.c`: `while (esl_msafile_Read(afp,&msa) != eslEOF) { die unless eslOK; die unless
  msa->name; AddKey(name, fh, msa->offset, 0, 0); if (msa->acc) AddAlias(acc, name) }; Write`.
* `esl_msafile_Read()`: `msa->offset = esl_buffer_GetOffset(bf)` taken BEFORE the format reader runs — i.e. the offset just after the
  previous record's terminator line (0 for the first record), not the offset of the `# STOCKHOLM 1.0` line: blank and comment lines in
  front of a header belong to the record that follows them.
* `esl_msafile_stockholm_Read()` as far as the index depends on it (`scanStep`): skipping blank / comment lines up to the header, the
  `# STOCKHOLM 1.` test, per body line the skip of leading blanks and TABs, the `//` terminator test on what is left (so an indented
  terminator ends the record), `#=GF ID` / `#=GF AC` (`stockholm_parse_gf`: exact `#=GF` token, one-token rule, last line wins), a second
  `# STOCKHOLM 1.0` line, EOF inside a record.  All other line kinds (`#=GS/#=GC/#=GR`, comments, sequence lines) are assumed to be
  accepted by their parsers (that is the "well-formed record" hypothesis; the full reader is `Msafile/Stockholm.lean`, and the driver
  cross-checks this scanner against it on every database it sees).
* `esl_msafile_PositionByKey()`: `esl_ssi_FindName` then `esl_buffer_SetOffset(bf, roff)`.
* `regurgitate_one_stockholm_entry()`: copy line + `"\n"` until the first line whose text after the skipped bytes (blank and TAB, as in the parser) starts with `//`
  (an `isspace` skip, where the parser skips only blank and TAB, would truncate entries — `Props/C07.lean`, `regurg_stops_early_witness`; the form
  of the skip loop is regenerated from the source: `regurgSkip`).
* `onefetch()` without an index: sequential `esl_msafile_Read` until `strcmp(key, name) == 0 || (acc && strcmp(key, acc) == 0)`. -/
namespace EaselModel.Afetch
open EaselModel.Msafile (Bytes isSpace isBlankLine memstrpfx memstrcmp memtok blankTab splitLinesT bHash bSto bSto1 bSto10 bSlash bGF bID bAC)
open EaselModel.Ssi (Op NewSsi Hit St run)

/-- a line as `esl_buffer_GetLine` sees it: (body, terminator) -/
abbrev TLine := Bytes × Bytes

def TLine.size (l : TLine) : Nat := l.1.length + l.2.length

/-- what `create_ssi_index` takes from one `ESL_MSA` -/
structure Rec where
  off : Nat
  name : Bytes
  acc : Option Bytes
  deriving Repr, DecidableEq, Inhabited

/-- where `esl_msafile_stockholm_Read` is -/
inductive Mode where
  | lead                                  -- looking for the header
  | body (name acc : Option Bytes)        -- inside a record: msa->name, msa->acc so far
  deriving Repr, DecidableEq, Inhabited

structure Scan where
  pos : Nat := 0              -- esl_buffer_GetOffset(): offset of the next line
  start : Nat := 0            -- the offset at which the current esl_msafile_Read() began (becomes msa->offset)
  mode : Mode := .lead
  recs : List Rec := []
  dead : Bool := false        -- esl_msafile_ReadFailure() / esl_fatal(): the tool has ended
  deriving Repr, DecidableEq, Inhabited

/-- the parser's skip of leading blanks and TABs -/
def skipBlank (p : Bytes) : Bytes := p.dropWhile (fun c => c == 32 || c == 9)

/-- `stockholm_parse_gf` as far as `msa->name` / `msa->acc` are concerned; `none` = eslEFORMAT -/
def gfKeys (p : Bytes) (name acc : Option Bytes) : Option (Option Bytes × Option Bytes) :=
  match memtok p blankTab with
  | none => none
  | some (gf, p1) =>
    match memtok p1 blankTab with
    | none => none                                           -- "#=GF line is missing <tag>, annotation"
    | some (tag, p2) =>
      if !memstrcmp gf bGF then none                         -- "faux #=GF line?"
      else if memstrcmp tag bID then
        match memtok p2 blankTab with
        | none => none
        | some (tok, p3) => if !p3.isEmpty then none else some (some (Msafile.cstr tok), acc)
      else if memstrcmp tag bAC then
        match memtok p2 blankTab with
        | none => none
        | some (tok, p3) => if !p3.isEmpty then none else some (name, some (Msafile.cstr tok))
      else some (name, acc)

/-- one `esl_msafile_GetLine` of the indexing loop -/
def scanStep (s : Scan) (l : TLine) : Scan :=
  if s.dead then s else
  let pos' := s.pos + l.size
  match s.mode with
  | .lead =>
    if isBlankLine l.1 || (memstrpfx l.1 bHash && !memstrpfx l.1 bSto) then { s with pos := pos' }
    else if !memstrpfx l.1 bSto1 then { s with dead := true }                     -- "missing Stockholm header"
    else { s with pos := pos', mode := .body none none }
  | .body name acc =>
    let p := skipBlank l.1
    if memstrpfx p bSlash then
      match name with
      | none => { s with dead := true }                                           -- "Every alignment in file must have a name"
      | some nm => { s with pos := pos', start := pos', mode := .lead, recs := s.recs ++ [⟨s.start, nm, acc⟩] }
    else if memstrpfx p bGF then
      match gfKeys p name acc with
      | none => { s with dead := true }
      | some (n', a') => { s with pos := pos', mode := .body n' a' }
    else if memstrcmp p bSto10 then { s with dead := true }                       -- "two # STOCKHOLM 1.0 headers in a row?"
    else { s with pos := pos' }

def scanLines (s : Scan) (ls : List TLine) : Scan := ls.foldl scanStep s

/-- the records the indexing loop sees; `none` = the tool dies (format error, nameless alignment, EOF inside a record) -/
def scanEnd (s : Scan) : Option (List Rec) :=
  if s.dead then none else
  match s.mode with
  | .lead => some s.recs
  | .body _ _ => none                                                             -- "missing // terminator after MSA"

def scanDb (db : Bytes) : Option (List Rec) := scanEnd (scanLines {} (splitLinesT db []))

/-- the `esl_newssi_*` calls made for one alignment -/
def recOps (r : Rec) : List Op :=
  .addKey r.name 0 r.off 0 0 :: (match r.acc with | some a => [.addAlias a r.name] | none => [])

def fmtStockholm : Nat := 101      -- eslMSAFILE_STOCKHOLM

/-- the whole history of calls on the `ESL_NEWSSI` -/
def indexOps (fname : Bytes) (fmt : Nat) (recs : List Rec) : List Op := .addFile fname fmt :: recs.flatMap recOps

/-- `create_ssi_index()`: the bytes of `<msafile>.ssi`; `none` = the tool dies (scan failure, or `esl_newssi_Write` fails: duplicate keys) -/
def createIndex (fname db : Bytes) (fmt : Nat := fmtStockholm) : Option Bytes :=
  match scanDb db with
  | none => none
  | some recs =>
    match ((run (indexOps fname fmt recs)).write (some [])).2 with
    | (none, some bytes) => some bytes
    | _ => none

/-- `esl_msafile_PositionByKey()`: the offset the buffer is set to -/
def positionByKey (ssi : Bytes) (key : Bytes) : Except St Nat :=
  ((Ssi.Ssi.open ssi.toArray).bind (·.findName key)).map (·.roff)

/-- the bytes `regurgitate_one_stockholm_entry` skips at the start of a line before its `//` test; which of the three forms the
    working tree has is read from the source on every run (`Generated/AfetchSrc.lean`) -/
def regurgSkip (c : UInt8) : Bool :=
  match Generated.AfetchSrc.skipKind with
  | 0 => false
  | 1 => c == 32 || c == 9
  | _ => isSpace c

/-- does `regurgitate_one_stockholm_entry` stop after this line? -/
def regurgStop (body : Bytes) : Bool := memstrpfx (body.dropWhile regurgSkip) bSlash

/-- `regurgitate_one_stockholm_entry()`; `none` = "Reached end of file before finding // termination line" -/
def regurg : List TLine → Bytes → Option Bytes
  | [], _ => none
  | l :: ls, out =>
    let out' := out ++ l.1 ++ [10]
    if regurgStop l.1 then some out' else regurg ls out'

inductive FetchRes where
  | ok (out : Bytes)
  | notfound
  | fatal
  deriving Repr, DecidableEq, Inhabited

/-- `onefetch()` with an open index, Stockholm in and out -/
def onefetch (db ssi key : Bytes) : FetchRes :=
  match positionByKey ssi key with
  | .error .enotfound => .notfound
  | .error _ => .fatal
  | .ok off =>
    match regurg (splitLinesT (db.drop off) []) [] with
    | some out => .ok out
    | none => .fatal

/-- `onefetch()` without an index: the first alignment whose name or accession is the key -/
def seqFind (recs : List Rec) (key : Bytes) : Option Rec :=
  recs.find? (fun r => r.name == key || r.acc == some key)

/-! ## cross-check against the full Stockholm reader model (driver only) -/

/-- the indexing loop with the FULL reader of `Msafile/Stockholm.lean` in place of `scanStep` (names and accessions only; the reader works
    on line bodies and does not know offsets). Fuel = number of lines + 1. -/
def fullScan (cfg : Msafile.Cfg) : Nat → List Bytes → List (Bytes × Option Bytes) → Option (List (Bytes × Option Bytes))
  | 0, _, _ => none
  | fuel + 1, lines, acc =>
    match Msafile.stockholmRead cfg lines with
    | (.eof, _) => some acc.reverse
    | (.ok m, rest) =>
      match m.name with
      | none => none
      | some nm => fullScan cfg fuel rest ((nm, m.acc) :: acc)
    | _ => none

end EaselModel.Afetch
