import EaselModel.Sqio.Model
/-! # The declarative window series of a sequence (C04): what `esl_sqio_ReadWindow` must return, as a function of the residues

`specWindows R req`: the forward windows of a sequence with residues `R` for the request stream `req k = (C_k, W_k)`:
window `k` holds `c = min C_k (size of the previous window)` residues of context followed by `w = min W_k (residues left)` new ones,
`start = d − c + 1`, `end = d + w` (1-based; `d` = residues delivered before), and the series ends when nothing is left.
Core Lean only. -/
namespace EaselModel.Sqio.WinSpecPure

/-- what a client sees of one window -/
structure WinRec where
  start : Int
  end_ : Int
  C : Int
  W : Int
  seq : Bytes
  deriving DecidableEq, Repr

def toWin (s : Sq) : WinRec := ⟨s.start, s.end_, s.C, s.W, s.seq⟩

/-- the residues of a window behind its context -/
def newPart (x : WinRec) : Bytes := x.seq.extract x.C.toNat x.seq.size

def specWindows (R : Bytes) (req : Nat → Int × Int) : Nat → Nat → Nat → Nat → List WinRec
  | 0, _, _, _ => []
  | fuel + 1, k, d, nPrev =>
    if R.size ≤ d then [] else
    ⟨(d : Int) - (min (req k).1.toNat nPrev : Nat) + 1, ((d + min (req k).2.toNat (R.size - d) : Nat) : Int),
      (min (req k).1.toNat nPrev : Nat), (min (req k).2.toNat (R.size - d) : Nat),
      R.extract (d - min (req k).1.toNat nPrev) (d + min (req k).2.toNat (R.size - d))⟩ ::
      specWindows R req fuel (k + 1) (d + min (req k).2.toNat (R.size - d)) (min (req k).1.toNat nPrev + min (req k).2.toNat (R.size - d))

theorem specWindows_succ (R : Bytes) (req : Nat → Int × Int) (fuel k d nPrev : Nat) :
    specWindows R req (fuel + 1) k d nPrev =
    if R.size ≤ d then [] else
    ⟨(d : Int) - (min (req k).1.toNat nPrev : Nat) + 1, ((d + min (req k).2.toNat (R.size - d) : Nat) : Int),
      (min (req k).1.toNat nPrev : Nat), (min (req k).2.toNat (R.size - d) : Nat),
      R.extract (d - min (req k).1.toNat nPrev) (d + min (req k).2.toNat (R.size - d))⟩ ::
      specWindows R req fuel (k + 1) (d + min (req k).2.toNat (R.size - d)) (min (req k).1.toNat nPrev + min (req k).2.toNat (R.size - d)) := rfl

/-- **the windows tile the sequence**: the new parts, concatenated in order, are the residues `d+1 .. L` -/
theorem specWindows_concat (R : Bytes) (req : Nat → Int × Int) (hW : ∀ k, 1 ≤ (req k).2) :
    ∀ (fuel k d nPrev : Nat) (acc : Bytes), nPrev ≤ d → R.size - d < fuel →
      (specWindows R req fuel k d nPrev).foldl (fun acc x => acc ++ newPart x) acc = acc ++ R.extract d R.size := by
  intro fuel
  induction fuel with
  | zero => intro k d nPrev acc _ h; omega
  | succ fuel ih =>
    intro k d nPrev acc hn hf
    rw [specWindows_succ]
    by_cases hd : R.size ≤ d
    · simp only [hd, if_true, List.foldl_nil]
      rw [Array.extract_empty_of_stop_le_start hd]; simp
    · simp only [hd, if_false, List.foldl_cons]
      have hw1 : 1 ≤ (req k).2.toNat := by have := hW k; omega
      generalize hc : min (req k).1.toNat nPrev = c
      generalize hw : min (req k).2.toNat (R.size - d) = w
      have hcd : c ≤ d := by omega
      have hwpos : 1 ≤ w := by omega
      have hwle : d + w ≤ R.size := by omega
      rw [ih (k + 1) (d + w) (c + w) _ (by omega) (by omega)]
      have hnp : newPart ⟨(d : Int) - (c : Nat) + 1, ((d + w : Nat) : Int), (c : Nat), (w : Nat), R.extract (d - c) (d + w)⟩ = R.extract d (d + w) := by
        simp only [newPart, Int.toNat_natCast, Array.size_extract, Array.extract_extract]
        congr 1 <;> omega
      rw [hnp, Array.append_assoc, Array.extract_append_extract]
      congr 2 <;> omega

/-- coordinates: every window is `[start .. end]` with `end − start + 1 = C + W` residues, inside `1..|R|` (that the windows are contiguous is `specWindows_concat`) -/
theorem specWindows_coords (R : Bytes) (req : Nat → Int × Int) :
    ∀ (fuel k d nPrev : Nat), nPrev ≤ d →
      ∀ x ∈ specWindows R req fuel k d nPrev, x.end_ - x.start + 1 = x.C + x.W ∧ (x.seq.size : Int) = x.C + x.W ∧ 1 ≤ x.start ∧
        x.end_ ≤ (R.size : Int) ∧ 0 ≤ x.C := by
  intro fuel
  induction fuel with
  | zero => intro k d nPrev _ x hx; cases hx
  | succ fuel ih =>
    intro k d nPrev hn x hx
    rw [specWindows_succ] at hx
    by_cases hd : R.size ≤ d
    · simp only [hd, if_true] at hx; cases hx
    · simp only [hd, if_false] at hx
      rcases List.mem_cons.mp hx with e | e
      · subst e
        simp only [Array.size_extract]
        omega
      · exact ih _ _ _ (by omega) x e

end EaselModel.Sqio.WinSpecPure
