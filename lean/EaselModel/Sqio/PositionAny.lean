import EaselModel.Sqio.FetchWhole
/-! # `esl_sqfile_Position(off)` then the read loop = the declarative parser on the bytes from `off` (C04)

For EVERY offset inside the file, every block-mode FASTA handle on the file (any block size, cursor anywhere): after
`sqascii_Position(sqfp, off)` the read loop returns exactly `specAll … (bytes.drop off)` — the declarative FASTA parser of
`Sqio/SpecFasta.lean` run on the rest of the file, with offsets counted from the start of the file. `off = 0` is the rewind
(`rewind_read_all`); `off = roff` of a record is `esl_sqio_Fetch`'s positioning (`FetchWhole.fetch_eq_scan`). -/
namespace EaselModel.Sqio.PositionAny
open EaselModel.Sqio.Refine EaselModel.Sqio.DataScan EaselModel.Sqio.Cursor EaselModel.Sqio.BodySpec EaselModel.Sqio.HeaderSpec
open EaselModel.Sqio.ReadSpec EaselModel.Sqio.ParseFasta EaselModel.Sqio.FetchSpec EaselModel.Sqio.SpecFasta

/-- the residue map of a read in mode `abc` (0 text, 1 / 2 / 3 RNA / DNA / amino) -/
def mapOfMode (abc : Nat) : Bytes := if abc = 0 then inmapFasta 0 else abcInmap abc

theorem position_read_all (bytes : Bytes) (abc : Nat) (habc : abc ∈ [0, 1, 2, 3]) (off : Nat) (hoff : off < bytes.size)
    (a : Ascii) (hf : a.file = bytes) (hb : a.linebased = false) (hr : a.recording ≠ 1) (hB : 1 ≤ a.B)
    (hi : a.inmap = inmapFasta abc) (hfmt : a.fmt = 1) (heof : a.eofIsOk = true) (fuel : Nat) :
    (position a off).2 = .ok ∧
    ((readAllM fuel (position a off).1 (freshSq abc)).1.map toRecord, (readAllM fuel (position a off).1 (freshSq abc)).2) =
      specAll (inmapFasta abc) (mapOfMode abc) bytes.size fuel (bytes.toList.drop off) := by
  obtain ⟨p1, R, p4, _, p5⟩ := FetchWhole.position_ready bytes abc habc off hoff a hf hb hr hB hi hfmt heof (freshSq abc).reuse rfl rfl
    (by show 2 ≤ 32; decide) (by show 2 ≤ 128; decide)
  have hi1 : (position a off).1.inmap = inmapFasta abc := (stat_inmap p5).trans hi
  have hfile1 : (position a off).1.file = bytes := (stat_file p5).trans hf
  refine ⟨p1, ?_⟩
  rw [readAll_spec _ _ _ R, p4, hi1, hfile1, parseAllL_eq_specAll]
  have : mapFor (inmapFasta abc) (freshSq abc) = mapOfMode abc := by
    unfold mapOfMode
    by_cases h0 : abc = 0
    · subst h0; simp [mapFor, freshSq]
    · simp [mapFor, freshSq, h0]
  rw [this]

theorem rewind_read_all (bytes : Bytes) (abc : Nat) (habc : abc ∈ [0, 1, 2, 3]) (hne : 0 < bytes.size)
    (a : Ascii) (hf : a.file = bytes) (hb : a.linebased = false) (hr : a.recording ≠ 1) (hB : 1 ≤ a.B)
    (hi : a.inmap = inmapFasta abc) (hfmt : a.fmt = 1) (heof : a.eofIsOk = true) :
    (position a 0).2 = .ok ∧
    readAllM (bytes.size + 2) (position a 0).1 (freshSq abc) = parseFasta abc bytes := by
  obtain ⟨p1, R, p4, _, p5⟩ := FetchWhole.position_ready bytes abc habc 0 hne a hf hb hr hB hi hfmt heof (freshSq abc).reuse rfl rfl
    (by show 2 ≤ 32; decide) (by show 2 ≤ 128; decide)
  have hi1 : (position a 0).1.inmap = inmapFasta abc := (stat_inmap p5).trans hi
  have hfile1 : (position a 0).1.file = bytes := (stat_file p5).trans hf
  refine ⟨p1, ?_⟩
  rw [readAll_spec _ _ _ R, p4, hi1, hfile1]
  rfl

end EaselModel.Sqio.PositionAny
