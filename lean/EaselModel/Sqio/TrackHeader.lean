import EaselModel.Sqio.TrackReader
import EaselModel.Sqio.InfoSeqSpec
/-! # `header_fasta` changes nothing of the line-geometry tracker but `prv*` / `cur*` (C07)

The tracker field of `Frame.headerFasta_frame`: `loadbuf`, `nextchar` and the header loops never touch the tracker, and a successful
`header_fasta` ends with the reset of `prv*` to −1 and `cur*` to 0: `(headerFasta a sq).1.trk = Tracker.step a.trk Ev.hdr`. With
`TrackReader.infoBody_trk` this gives the tracker after one `sqascii_ReadInfo`-style pass over a record (`readInfo_trk`). -/
namespace EaselModel.Sqio.TrackHeader
open EaselModel.Sqio EaselModel.Sqio.Tracker EaselModel.Sqio.Refine EaselModel.Sqio.DataScan EaselModel.Sqio.Cursor
open EaselModel.Sqio.ReadSpec EaselModel.Sqio.HeaderSpec EaselModel.Sqio.BodySpec EaselModel.Sqio.Fold

/-- what `header_fasta` does to the tracker: the reset of `prv*` / `cur*` (`Tracker.step · Ev.hdr`) when it answers `eslOK`, nothing
    when it gives up -/
def ResetIfOk (t0 : Track) (r : Ascii × Sq × Status) : Prop :=
  r.1.trk = if r.2.2 = .ok then Tracker.step t0 Ev.hdr else t0

theorem ResetIfOk.ok {t0 : Track} {r : Ascii × Sq × Status} (h : ResetIfOk t0 r) (hok : r.2.2 = .ok) :
    r.1.trk = Tracker.step t0 Ev.hdr := by
  rw [h, if_pos hok]

theorem headerFasta_reset (a : Ascii) (sq : Sq) : ResetIfOk a.trk (headerFasta a sq) :=
  (Frame.headerFasta_frame a sq).trk

theorem headerFasta_trk (a : Ascii) (sq : Sq) (h : (headerFasta a sq).2.2 = .ok) :
    (headerFasta a sq).1.trk = Tracker.step a.trk Ev.hdr :=
  (headerFasta_reset a sq).ok h

theorem infoTail_fst (a : Ascii) (sq : Sq) (st : Status) : (infoTail a sq st).1 = a := by
  unfold infoTail
  split
  · rfl
  · split <;> (split <;> rfl)

theorem parseEnd_fasta_trk (b : Ascii) (q : Sq) (hb : b.fmt = 1) : (parseEnd b q).1.trk = b.trk := by
  unfold parseEnd
  rw [hb]
  show (endFasta b q).1.trk = b.trk
  unfold endFasta
  split
  · split
    · rfl
    · split <;> rfl
  · rfl

theorem infoEnd_trk (r : Ascii × Sq × Status × Nat) (hf : r.1.fmt = 1) : (infoEnd r).1.trk = r.1.trk := by
  unfold infoEnd infoRecEnd
  split
  · rfl
  · dsimp only
    rw [infoTail_fst]
    split
    · split <;> rfl
    · split
      · exact parseEnd_fasta_trk _ _ hf
      · rfl

theorem fileFrom_setL (a : Ascii) (x : Int) : fileFrom { a with L := x } = fileFrom a := rfl
theorem stat_setL (a : Ascii) (x : Int) : stat { a with L := x } = stat a := rfl

theorem readInfo_trk (a : Ascii) (sq : Sq) (R : Ready a sq) (hl : Sim.Live a) (hok : (readInfo a sq).2.2 = .ok) :
    (readInfo a sq).1.trk =
      scanRec a.trk (TrackReader.recOfData a.inmap (((headerL a.file.size sq (fileFrom a)).2.2).takeWhile (isData a.inmap))) := by
  have hn : (a.nc == 0) = false := by simp only [Sim.Live] at hl; simp; omega
  obtain ⟨q1, q2, _, _⟩ := headerFasta_spec a sq R.cur hl R.nalloc R.dalloc
  rw [DataScan.readInfo_eq, parseHeader_fasta a sq R.fmt] at hok ⊢
  simp only [hn, Bool.false_eq_true, if_false] at hok ⊢
  by_cases hh : ((headerFasta a sq).2.2 != Status.ok) = true
  · rw [if_pos hh] at hok
    rw [hok] at hh; exact absurd hh (by decide)
  rw [if_neg hh] at hok ⊢
  have hhok : (headerFasta a sq).2.2 = .ok := by simpa using hh
  have hLok : (headerL a.file.size sq (fileFrom a)).1 = .ok := by
    have := congrArg Prod.snd q1; simp only at this; rw [← this]; exact hhok
  obtain ⟨c1, c2, c3⟩ := q2 hLok
  have htrk := headerFasta_trk a sq hhok
  -- the handle the counting loop starts from
  generalize ha1 : ({ (headerFasta a sq).1 with L := 0 } : Ascii) = a1 at hok ⊢
  have w1 : WF a1 := by rw [← ha1]; exact WF_L _ 0 c1.wf
  have t1 : a1.trk = Tracker.step a.trk Ev.hdr := by rw [← ha1]; exact htrk
  have f1 : fileFrom a1 = (headerL a.file.size sq (fileFrom a)).2.2 := by rw [← ha1, fileFrom_setL]; exact c2
  have s1 : stat a1 = stat a := by rw [← ha1, stat_setL]; exact c3
  have m1 : a1.inmap = a.inmap := stat_inmap s1
  have fm1 : a1.fmt = 1 := (stat_fmt s1).trans R.fmt
  have fl1 : a1.file = a.file := stat_file s1
  have hm1 : a1.inmap.size = 128 := by rw [m1]; exact R.hm
  have hlen := (fileFrom_length a1 w1).1
  have hfuel : (fileFrom a1).length + 1 < fuelOf a1 := by unfold fuelOf; omega
  have tok1 : Track.Ok a1.trk := by rw [t1]; exact reset_ok _
  obtain ⟨k1, _, k3⟩ := scanLoop_info (fuelOf a1) a1 (headerFasta a sq).2.1 (fileFrom a1).length w1 tok1 hm1 (Nat.le_refl _)
    (by split <;> omega)
  -- the loop did not stop on an illegal character (ReadInfo would have failed)
  have hne : (dataFold a1 (fileFrom a1).length).2.2 ≠ .eformat := by
    intro he
    have hs : (scanLoop false (fuelOf a1) a1 (headerFasta a sq).2.1).2.2.1 = .eformat := by rw [k1, he]; rfl
    unfold infoEnd at hok
    simp only [hs] at hok
    simp at hok
  obtain ⟨_, hp, _, _⟩ := k3 hne
  have hfmt : (scanLoop false (fuelOf a1) a1 (headerFasta a sq).2.1).1.fmt = 1 := (Sim.payload_fmt hp :).trans fm1
  rw [infoEnd_trk _ hfmt, TrackReader.infoBody_trk a1 _ a.trk (fuelOf a1) w1 t1 hm1 hfuel hne, m1, f1]

end EaselModel.Sqio.TrackHeader
