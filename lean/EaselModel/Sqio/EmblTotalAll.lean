import EaselModel.Sqio.EmblTotal
/-! # Reading a whole line-based file never faults: every successful `sqascii_Read` / `sqascii_ReadSequence` consumes at least one
line, so the client loop and every history of such calls (each on the reused `ESL_SQ`) end with `eslOK`, `eslEOF` or `eslEFORMAT` (C02) -/
namespace EaselModel.Sqio.EmblTotalAll
open EaselModel.Sqio EaselModel.Sqio.LineSpec EaselModel.Sqio.EmblSpec EaselModel.Sqio.EmblAll EaselModel.Sqio.EmblTotal
open EaselModel.Sqio.Fold EaselModel.Sqio.BodySpec

theorem rl_fail (a : Ascii) : rl a.fail = rl a := rfl

/-- **reading a whole EMBL / UniProt / GenBank / DDBJ file never faults**: the client loop over `sqascii_Read` ends with `eslEOF` or
    `eslEFORMAT` — never by a fault, never by running out of its fuel: every successful call consumes at least one line -/
theorem read_all_linebased_total (fuel : Nat) : ∀ (a : Ascii) (sq : Sq), LWF a → LineFmt a → Track.Ok a.trk → a.inmap.size = 128 →
    MapOk a.inmap (mapOf a sq) → rl a < fuel →
    (ParseFasta.readAllM fuel a sq).2 = .eof ∨ (ParseFasta.readAllM fuel a sq).2 = .eformat := by
  induction fuel with
  | zero => intro a sq _ _ _ _ _ h; omega
  | succ fuel ih =>
    intro a sq w hf tok hm hmap hfu
    obtain ⟨ht, hmore⟩ := lineRecord_total true a sq.reuse ⟨w, tok, hm, hmap⟩ hf
    simp only [ParseFasta.readAllM]
    rw [read_line a sq.reuse hf]
    split
    · rename_i hok
      obtain ⟨m1, m2⟩ := hmore (by simpa using hok)
      exact ih _ _ m2.w (hf.of_eq ht.good.fmt) m2.tok m2.hm m2.hmap (by omega)
    · rename_i hne
      rcases ht.st with k | k | k
      · rw [k] at hne; exact absurd rfl hne
      · exact Or.inl k
      · exact Or.inr k

theorem openLine_ready (file : Bytes) (B abc fmt : Nat) (eofOk : Bool) (inmap0 inmap1 : Bytes) (hB : 1 ≤ B)
    (hf : fmt = 2 ∨ fmt = 3 ∨ fmt = 4 ∨ fmt = 5) (hm : inmap1.size = 128) (sq : Sq)
    (hmap : MapOk inmap1 (if sq.digital then abcInmap sq.abc else inmap1)) :
    BInv (openLine file B abc fmt eofOk inmap0 inmap1) sq ∧ LineFmt (openLine file B abc fmt eofOk inmap0 inmap1) ∧
    (openLine file B abc fmt eofOk inmap0 inmap1).exc = false ∧ (openLine file B abc fmt eofOk inmap0 inmap1).file = file := by
  obtain ⟨hl, hfmt⟩ := openLine_lsim file B B abc fmt eofOk inmap0 inmap1 hB hB
  have w0 : LWF { file := file, B := B, abc := abc, fmt := fmt, eofIsOk := eofOk, linebased := true, inmap := inmap0 } :=
    lwf_fresh _ rfl (by show (0 : Int) ≠ 1; omega) hB rfl rfl rfl rfl rfl rfl
  have g := (loadbuf_step _ w0 sq).1
  have htrk : (openLine file B abc fmt eofOk inmap0 inmap1).trk = ({} : Track) := g.trk
  exact ⟨⟨hl.w1, by rw [htrk]; exact ⟨by decide, by decide⟩, hm, hmap⟩, by unfold LineFmt; rw [hfmt]; exact hf, g.good.exc, g.good.file⟩

/-- from `esl_sqfile_Open` on, with the fuel `file.size + 2` the driver uses -/
theorem read_all_linebased_open_total (file : Bytes) (B abc fmt : Nat) (eofOk : Bool) (inmap0 inmap1 : Bytes) (hB : 1 ≤ B)
    (hf : fmt = 2 ∨ fmt = 3 ∨ fmt = 4 ∨ fmt = 5) (hm : inmap1.size = 128) (sq : Sq)
    (hmap : MapOk inmap1 (if sq.digital then abcInmap sq.abc else inmap1)) :
    (ParseFasta.readAllM (file.size + 2) (openLine file B abc fmt eofOk inmap0 inmap1) sq).2 = .eof ∨
    (ParseFasta.readAllM (file.size + 2) (openLine file B abc fmt eofOk inmap0 inmap1) sq).2 = .eformat := by
  obtain ⟨h, hfmt, _, hfile⟩ := openLine_ready file B abc fmt eofOk inmap0 inmap1 hB hf hm sq hmap
  refine read_all_linebased_total (file.size + 2) _ sq h.w hfmt h.tok h.hm h.hmap ?_
  have := rl_lt_fuel (openLine file B abc fmt eofOk inmap0 inmap1)
  unfold fuelOf at this
  rw [hfile] at this
  exact this

/-- a history of whole-record calls (`false` = `sqascii_Read`, `true` = `sqascii_ReadSequence`), each on the reused `ESL_SQ`; it stops
    at the first status that is not `eslOK` -/
def runCalls : List Bool → Ascii → Sq → Ascii × Status
  | [], a, _ => (a, .ok)
  | c :: cs, a, sq =>
    if (if c then readSequence a sq.reuse else read a sq.reuse).2.2 == Status.ok then
      runCalls cs (if c then readSequence a sq.reuse else read a sq.reuse).1 (if c then readSequence a sq.reuse else read a sq.reuse).2.1
    else ((if c then readSequence a sq.reuse else read a sq.reuse).1, (if c then readSequence a sq.reuse else read a sq.reuse).2.2)

theorem runCalls_total : ∀ (cs : List Bool) (a : Ascii) (sq : Sq), LWF a → LineFmt a → Track.Ok a.trk → a.inmap.size = 128 →
    MapOk a.inmap (mapOf a sq) →
    ((runCalls cs a sq).2 = .ok ∨ (runCalls cs a sq).2 = .eof ∨ (runCalls cs a sq).2 = .eformat) ∧
    ((runCalls cs a sq).2 = .eformat → (runCalls cs a sq).1.haveErr = true) ∧ (runCalls cs a sq).1.exc = a.exc := by
  intro cs
  induction cs with
  | nil => intro a sq _ _ _ _ _; exact ⟨Or.inl rfl, fun k => (by cases k), rfl⟩
  | cons c cs ih =>
    intro a sq w hf tok hm hmap
    have hcall : (if c then readSequence a sq.reuse else read a sq.reuse) = lineRecord (!c) a sq.reuse := by
      cases c
      · exact read_line a sq.reuse hf
      · exact readSequence_line a sq.reuse hf
    obtain ⟨ht, hmore⟩ := lineRecord_total (!c) a sq.reuse ⟨w, tok, hm, hmap⟩ hf
    unfold runCalls
    rw [hcall]
    split
    · rename_i hok
      obtain ⟨_, m2⟩ := hmore (by simpa using hok)
      obtain ⟨i1, i2, i3⟩ := ih _ _ m2.w (hf.of_eq ht.good.fmt) m2.tok m2.hm m2.hmap
      exact ⟨i1, i2, i3.trans ht.good.exc⟩
    · exact ⟨ht.st, ht.err, ht.good.exc⟩

theorem runCalls_open_total (file : Bytes) (B abc fmt : Nat) (eofOk : Bool) (inmap0 inmap1 : Bytes) (hB : 1 ≤ B)
    (hf : fmt = 2 ∨ fmt = 3 ∨ fmt = 4 ∨ fmt = 5) (hm : inmap1.size = 128) (sq : Sq)
    (hmap : MapOk inmap1 (if sq.digital then abcInmap sq.abc else inmap1)) (cs : List Bool) :
    ((runCalls cs (openLine file B abc fmt eofOk inmap0 inmap1) sq).2 = .ok ∨
     (runCalls cs (openLine file B abc fmt eofOk inmap0 inmap1) sq).2 = .eof ∨
     (runCalls cs (openLine file B abc fmt eofOk inmap0 inmap1) sq).2 = .eformat) ∧
    ((runCalls cs (openLine file B abc fmt eofOk inmap0 inmap1) sq).2 = .eformat →
      (runCalls cs (openLine file B abc fmt eofOk inmap0 inmap1) sq).1.haveErr = true) ∧
    (runCalls cs (openLine file B abc fmt eofOk inmap0 inmap1) sq).1.exc = false := by
  obtain ⟨h, hfmt, hexc, _⟩ := openLine_ready file B abc fmt eofOk inmap0 inmap1 hB hf hm sq hmap
  obtain ⟨r1, r2, r3⟩ := runCalls_total cs _ sq h.w hfmt h.tok h.hm h.hmap
  exact ⟨r1, r2, r3.trans hexc⟩

/-- non-vacuity: an EMBL file with two records, B = 3: ReadSequence then Read succeed, the third call answers `eslEOF` -/
example : (runCalls [true, false, false]
    (openLine (("ID   X\nSQ   \n  ac\n//\nID   Y\nSQ   \n  gt\n//\n").toUTF8.data) 3 0 2 false (inmapEmbl 0) (inmapEmbl 0)) {}).2 = .eof := by
  rw [inmapEmbl_text]; decide +kernel

/-- a damaged EMBL file: an illegal byte (`!`) in the sequence data -/
def demoBadE : Bytes := #[73, 68, 32, 32, 32, 88, 10, 83, 81, 32, 32, 32, 10, 32, 32, 97, 33, 99, 10, 47, 47, 10]

example : (ParseFasta.readAllM (demoBadE.size + 2) (openLine demoBadE 2 0 2 false (inmapEmbl 0) (inmapEmbl 0)) {}).2 = .eformat := by
  rw [inmapEmbl_text]; decide +kernel

theorem inmapEmbl_text_size : (inmapEmbl 0).size = 128 := by rw [inmapEmbl_text]; rfl

example : (inmapEmbl 0).size = 128 := inmapEmbl_text_size

/-- the hypotheses of `read_all_linebased_open_total` hold in text mode for the EMBL input map -/
example (file : Bytes) (B : Nat) (hB : 1 ≤ B) :
    (ParseFasta.readAllM (file.size + 2) (openLine file B 0 2 false (inmapEmbl 0) (inmapEmbl 0)) {}).2 = .eof ∨
    (ParseFasta.readAllM (file.size + 2) (openLine file B 0 2 false (inmapEmbl 0) (inmapEmbl 0)) {}).2 = .eformat :=
  read_all_linebased_open_total file B 0 2 false (inmapEmbl 0) (inmapEmbl 0) hB (Or.inl rfl) inmapEmbl_text_size {}
    (by rw [if_neg Bool.false_ne_true]; exact MapOk.self _ inmapEmbl_text_size)

end EaselModel.Sqio.EmblTotalAll
