import EaselModel.Sqio.ReadOne
/-! # `sqascii_ReadBlock` (whole-sequence mode) = the next records of the declarative parser (C04)

The block reader calls `sqascii_Read` on the slots of the block, each slot with its own allocations; it fills them with the records
of `specOne`, taken while fewer than `maxSeq` records and fewer than `MAX_RESIDUE_COUNT` residues have been read. -/
namespace EaselModel.Sqio.BlockSpec
open EaselModel.Sqio.Refine EaselModel.Sqio.DataScan EaselModel.Sqio.Cursor EaselModel.Sqio.BodySpec EaselModel.Sqio.HeaderSpec
open EaselModel.Sqio.ReadSpec EaselModel.Sqio.ParseFasta EaselModel.Sqio.SpecFasta

def specBlock (inmap map : Bytes) (N : Nat) : Nat → (i size maxSeq : Nat) → Status → List UInt8 → List Record × Status × List UInt8
  | 0, _, _, _, _, l => ([], .fault, l)
  | fuel + 1, i, size, maxSeq, st, l =>
    if i < maxSeq && size < maxResidueCount then
      match specOne inmap map N l with
      | (.ok, some r, rest) =>
        (r :: (specBlock inmap map N fuel (i + 1) (size + r.seq.length) maxSeq .ok rest).1,
         (specBlock inmap map N fuel (i + 1) (size + r.seq.length) maxSeq .ok rest).2)
      | (st', _, rest) => ([], st', rest)
    else ([], st, l)

theorem specBlock_prefix (inmap map : Bytes) (N : Nat) (fuel : Nat) : ∀ (i size maxSeq : Nat) (st : Status) (l : List UInt8),
    (specBlock inmap map N fuel i size maxSeq st l).1 <+: (specAll inmap map N fuel l).1 := by
  induction fuel with
  | zero => intro i size maxSeq st l; exact List.nil_prefix
  | succ fuel ih =>
    intro i size maxSeq st l
    simp only [specBlock, specAll]
    by_cases hc : (decide (i < maxSeq) && decide (size < maxResidueCount)) = true
    · simp only [hc, if_true]
      generalize specOne inmap map N l = S
      obtain ⟨s1, s2, s3⟩ := S
      cases s1 <;> try exact List.nil_prefix
      cases s2 with
      | none => exact List.nil_prefix
      | some r =>
        simp only []
        exact List.cons_prefix_cons.mpr ⟨rfl, ih _ _ _ _ _⟩
    · simp only [hc, Bool.false_eq_true, if_false]
      exact List.nil_prefix

/-- a slot of the block as `esl_sq_Reuse` / `esl_sq_CreateBlock` leaves it -/
structure SlotOk (dig : Bool) (abc : Nat) (s : Sq) : Prop where
  seq : s.seq = #[]
  nalloc : 2 ≤ s.nalloc
  dalloc : 2 ≤ s.dalloc
  dig : s.digital = dig
  abc : s.abc = abc

/-- what the block reader needs of the handle -/
structure HReady (a : Ascii) (map : Bytes) : Prop where
  cur : Cur a
  fmt : a.fmt = 1
  eofOk : a.eofIsOk = true
  hm : a.inmap.size = 128
  mapOk : MapOk a.inmap map
  eodGt : EodGt a.inmap

theorem blockShortLoop_succ (fuel : Nat) (a : Ascii) (b : Block) (i size maxSeq : Nat) (st : Status) :
    blockShortLoop (fuel + 1) a b i size maxSeq st =
    if i < maxSeq && size < maxResidueCount then
      if (read a (b.list.getD i {})).2.2 != .ok then
        ((read a (b.list.getD i {})).1, { b with list := b.list.setIfInBounds i (read a (b.list.getD i {})).2.1 }, i, (read a (b.list.getD i {})).2.2)
      else
        blockShortLoop fuel (read a (b.list.getD i {})).1
          { b with list := b.list.setIfInBounds i (read a (b.list.getD i {})).2.1, count := b.count + 1 } (i + 1)
          (size + (read a (b.list.getD i {})).2.1.n) maxSeq (read a (b.list.getD i {})).2.2
    else (a, b, i, st) := by
  simp only [blockShortLoop]

theorem getD_set_ne (arr : Array Sq) (i j : Nat) (v : Sq) (h : i ≠ j) : (arr.setIfInBounds i v).getD j {} = arr.getD j {} := by
  simp [Array.getD_eq_getD_getElem?, h]

theorem getD_set_eq (arr : Array Sq) (i : Nat) (v : Sq) (h : i < arr.size) : (arr.setIfInBounds i v).getD i {} = v := by
  simp [Array.getD_eq_getD_getElem?, h]

theorem blockShortLoop_spec (dig : Bool) (abc : Nat) (fuel : Nat) : ∀ (a : Ascii) (b : Block) (i size maxSeq : Nat) (st : Status),
    HReady a (if dig then abcInmap abc else a.inmap) → (∀ j, i ≤ j → j < maxSeq → SlotOk dig abc (b.list.getD j {})) →
    maxSeq ≤ b.list.size → (fileFrom a).length < fuel → st ≠ .fault →
    (blockShortLoop fuel a b i size maxSeq st).2.2.2 =
      (specBlock a.inmap (if dig then abcInmap abc else a.inmap) a.file.size fuel i size maxSeq st (fileFrom a)).2.1 ∧
    (blockShortLoop fuel a b i size maxSeq st).2.2.1 =
      i + (specBlock a.inmap (if dig then abcInmap abc else a.inmap) a.file.size fuel i size maxSeq st (fileFrom a)).1.length ∧
    (blockShortLoop fuel a b i size maxSeq st).2.1.count =
      b.count + (specBlock a.inmap (if dig then abcInmap abc else a.inmap) a.file.size fuel i size maxSeq st (fileFrom a)).1.length ∧
    (∀ k r, (specBlock a.inmap (if dig then abcInmap abc else a.inmap) a.file.size fuel i size maxSeq st (fileFrom a)).1[k]? = some r →
      toRecord ((blockShortLoop fuel a b i size maxSeq st).2.1.list.getD (i + k) {}) = r) ∧
    (∀ j, j < i → (blockShortLoop fuel a b i size maxSeq st).2.1.list.getD j {} = b.list.getD j {}) ∧
    (blockShortLoop fuel a b i size maxSeq st).2.1.list.size = b.list.size ∧
    (blockShortLoop fuel a b i size maxSeq st).2.1.complete = b.complete ∧
    (blockShortLoop fuel a b i size maxSeq st).2.2.2 ≠ .fault := by
  induction fuel with
  | zero => intro a b i size maxSeq st _ _ _ h _; omega
  | succ fuel ih =>
    intro a b i size maxSeq st H hslot hsz hf hstf
    rw [blockShortLoop_succ]
    simp only [specBlock]
    by_cases hc : (decide (i < maxSeq) && decide (size < maxResidueCount)) = true
    · simp only [hc, if_true]
      have hi : i < maxSeq := by
        have := (Bool.and_eq_true _ _).mp hc; exact of_decide_eq_true this.1
      have S := hslot i (Nat.le_refl _) hi
      generalize hsq : b.list.getD i {} = s at *
      have hmapeq : mapFor a.inmap s = (if dig then abcInmap abc else a.inmap) := by
        simp only [mapFor, S.dig, S.abc]
      have R : Ready a s := ⟨H.cur, H.fmt, H.eofOk, H.hm, by rw [mapOf_eq, hmapeq]; exact H.mapOk, H.eodGt, S.nalloc, S.dalloc⟩
      rcases hSO : specOne a.inmap (if dig then abcInmap abc else a.inmap) a.file.size (fileFrom a) with ⟨o1, o2, o3⟩
      obtain ⟨q, hnf, tk⟩ := ReadOne.read_specOne a s R S.seq o1 o2 o3 (by rw [hmapeq]; exact hSO)
      by_cases hok : o1 = .ok
      · subst hok
        obtain ⟨r, rfl, T⟩ := tk rfl
        have hb : ((read a s).2.2 != Status.ok) = false := by rw [q]; decide
        simp only [hb, Bool.false_eq_true, if_false]
        have hi1 : (read a s).1.inmap = a.inmap := stat_inmap T.stat
        have hf1 : (read a s).1.file = a.file := stat_file T.stat
        have H' : HReady (read a s).1 (if dig then abcInmap abc else (read a s).1.inmap) := by
          rw [hi1]
          exact ⟨T.cur, (stat_fmt T.stat).trans H.fmt, (stat_eofIsOk T.stat).trans H.eofOk, by rw [hi1]; exact H.hm,
            by rw [hi1]; exact H.mapOk, by rw [hi1]; exact H.eodGt⟩
        have key := ih (read a s).1 { b with list := b.list.setIfInBounds i (read a s).2.1, count := b.count + 1 } (i + 1)
          (size + (read a s).2.1.n) maxSeq (read a s).2.2 H'
          (fun j hj1 hj2 => by
            show SlotOk dig abc ((b.list.setIfInBounds i (read a s).2.1).getD j {})
            rw [getD_set_ne _ _ _ _ (by omega)]; exact hslot j (by omega) hj2)
          (by show maxSeq ≤ (b.list.setIfInBounds i (read a s).2.1).size; rw [Array.size_setIfInBounds]; exact hsz)
          (by rw [T.ff]; have := T.lt; omega) (by rw [q]; decide)
        rw [hi1, hf1, T.ff] at key
        have hn : (read a s).2.1.n = r.seq.length := by rw [← T.record]; simp [toRecord, Sq.n]
        rw [hn, q] at key ⊢
        obtain ⟨j1, j2, j3, j4, j5, j6, j7, j8⟩ := key
        refine ⟨j1, by rw [j2]; simp only [List.length_cons]; omega, by rw [j3]; simp only [List.length_cons]; omega, ?_, ?_, ?_, j7, j8⟩
        · intro k r' hk
          cases k with
          | zero =>
            simp only [List.getElem?_cons_zero, Option.some.injEq] at hk
            rw [show i + 0 = i from rfl, j5 i (by omega)]
            show toRecord ((b.list.setIfInBounds i _).getD i {}) = r'
            rw [getD_set_eq _ _ _ (by omega), T.record, hk]
          | succ k =>
            simp only [List.getElem?_cons_succ] at hk
            have := j4 k r' hk
            rw [show i + (k + 1) = i + 1 + k by omega]
            exact this
        · intro j hj
          rw [j5 j (by omega)]
          show (b.list.setIfInBounds i _).getD j {} = _
          rw [getD_set_ne _ _ _ _ (by omega)]
        · rw [j6]; show (b.list.setIfInBounds i _).size = _; rw [Array.size_setIfInBounds]
      · have hb : ((read a s).2.2 != Status.ok) = true := by rw [q]; simpa using hok
        simp only [hb, if_true]
        have hres : (match (o1, o2, o3) with
            | (Status.ok, some r, rest) =>
              (r :: (specBlock a.inmap (if dig then abcInmap abc else a.inmap) a.file.size fuel (i + 1) (size + r.seq.length) maxSeq .ok rest).1,
               (specBlock a.inmap (if dig then abcInmap abc else a.inmap) a.file.size fuel (i + 1) (size + r.seq.length) maxSeq .ok rest).2)
            | (st', _, rest) => (([] : List Record), st', rest)) = ([], o1, o3) := by
          cases o1 <;> first | exact absurd rfl hok | rfl
        rw [hres]
        simp only [List.length_nil, Nat.add_zero]
        refine ⟨q, trivial, trivial, fun k r hk => by simp at hk, fun j hj => ?_, ?_, trivial, by rw [q]; exact hnf⟩
        · show (b.list.setIfInBounds i _).getD j {} = _
          rw [getD_set_ne _ _ _ _ (by omega)]
        · show (b.list.setIfInBounds i _).size = _; rw [Array.size_setIfInBounds]
    · simp only [hc, Bool.false_eq_true, if_false, List.length_nil, Nat.add_zero]
      exact ⟨trivial, trivial, trivial, fun k r hk => by simp at hk, fun _ _ => trivial, trivial, trivial, hstf⟩


/-- the number of sequences `sqascii_ReadBlock` will read at most -/
def blockMaxSeq (b : Block) (maxSeq : Int) : Nat := if maxSeq < 1 || maxSeq > b.listSize then b.listSize else maxSeq.toNat

theorem readBlock_short_eq (a : Ascii) (b : Block) (maxRes maxSeq : Int) (maxInit : Bool) :
    readBlock a b maxRes maxSeq maxInit false =
      if (blockShortLoop (fuelOf a) a { b with count := 0 } 0 0 (blockMaxSeq b maxSeq) .ok).2.2.2 == .fault then
        ((blockShortLoop (fuelOf a) a { b with count := 0 } 0 0 (blockMaxSeq b maxSeq) .ok).1,
         (blockShortLoop (fuelOf a) a { b with count := 0 } 0 0 (blockMaxSeq b maxSeq) .ok).2.1, .fault)
      else
        ((blockShortLoop (fuelOf a) a { b with count := 0 } 0 0 (blockMaxSeq b maxSeq) .ok).1,
         { (blockShortLoop (fuelOf a) a { b with count := 0 } 0 0 (blockMaxSeq b maxSeq) .ok).2.1 with complete := true },
         if (blockShortLoop (fuelOf a) a { b with count := 0 } 0 0 (blockMaxSeq b maxSeq) .ok).2.2.2 == .eof &&
             (blockShortLoop (fuelOf a) a { b with count := 0 } 0 0 (blockMaxSeq b maxSeq) .ok).2.2.1 > 0 then .ok
         else (blockShortLoop (fuelOf a) a { b with count := 0 } 0 0 (blockMaxSeq b maxSeq) .ok).2.2.2) := by
  unfold readBlock blockMaxSeq
  simp only [Bool.not_false, if_true]

/-- **`sqascii_ReadBlock` (whole-sequence mode) delivers the next records of the sequential parse, for every block size.** From a ready
    handle and a block whose slots are as `esl_sq_Reuse` leaves them: the status is `eslOK` when at least one record was read (also
    when the end of the file was then met), `eslEOF` / `eslEFORMAT` otherwise; `count` records were stored; slot `k` holds — name,
    description, residues, offsets, `L` — the `k`-th record of `specBlock`, and these are a prefix of the records a `Read` loop yields
    from the same cursor (`specAll`, which is `specFasta`'s loop). Never `fault`. -/
theorem readBlock_short_spec (dig : Bool) (abc : Nat) (a : Ascii) (b : Block) (maxRes maxSeq : Int) (maxInit : Bool)
    (H : HReady a (if dig then abcInmap abc else a.inmap)) (hls : b.listSize ≤ b.list.size)
    (hslot : ∀ j, j < blockMaxSeq b maxSeq → SlotOk dig abc (b.list.getD j {})) :
    (readBlock a b maxRes maxSeq maxInit false).2.2 =
      (if (specBlock a.inmap (if dig then abcInmap abc else a.inmap) a.file.size (fuelOf a) 0 0 (blockMaxSeq b maxSeq) .ok (fileFrom a)).2.1 == .eof &&
          (specBlock a.inmap (if dig then abcInmap abc else a.inmap) a.file.size (fuelOf a) 0 0 (blockMaxSeq b maxSeq) .ok (fileFrom a)).1.length > 0
       then .ok
       else (specBlock a.inmap (if dig then abcInmap abc else a.inmap) a.file.size (fuelOf a) 0 0 (blockMaxSeq b maxSeq) .ok (fileFrom a)).2.1) ∧
    (readBlock a b maxRes maxSeq maxInit false).2.1.count =
      (specBlock a.inmap (if dig then abcInmap abc else a.inmap) a.file.size (fuelOf a) 0 0 (blockMaxSeq b maxSeq) .ok (fileFrom a)).1.length ∧
    (∀ k r, (specBlock a.inmap (if dig then abcInmap abc else a.inmap) a.file.size (fuelOf a) 0 0 (blockMaxSeq b maxSeq) .ok (fileFrom a)).1[k]? = some r →
      toRecord ((readBlock a b maxRes maxSeq maxInit false).2.1.list.getD k {}) = r) ∧
    (readBlock a b maxRes maxSeq maxInit false).2.1.complete = true ∧
    (readBlock a b maxRes maxSeq maxInit false).2.2 ≠ .fault ∧
    (specBlock a.inmap (if dig then abcInmap abc else a.inmap) a.file.size (fuelOf a) 0 0 (blockMaxSeq b maxSeq) .ok (fileFrom a)).1 <+:
      (specAll a.inmap (if dig then abcInmap abc else a.inmap) a.file.size (fuelOf a) (fileFrom a)).1 := by
  have hM : blockMaxSeq b maxSeq ≤ b.list.size := by
    unfold blockMaxSeq
    split
    · exact hls
    · rename_i h
      have : ¬ (maxSeq < 1 ∨ maxSeq > (b.listSize : Int)) := by simpa using h
      omega
  obtain ⟨j1, j2, j3, j4, _, _, _, j8⟩ := blockShortLoop_spec dig abc (fuelOf a) a { b with count := 0 } 0 0 (blockMaxSeq b maxSeq) .ok H
    (fun j _ hj => hslot j hj) hM H.cur.fuel (by decide)
  rw [readBlock_short_eq]
  have hnf : ((blockShortLoop (fuelOf a) a { b with count := 0 } 0 0 (blockMaxSeq b maxSeq) .ok).2.2.2 == Status.fault) = false := by
    simpa using j8
  simp only [hnf, Bool.false_eq_true, if_false]
  simp only [Nat.zero_add] at j2 j3 j4
  refine ⟨by rw [j1, j2], j3, j4, trivial, ?_, specBlock_prefix _ _ _ _ _ _ _ _ _⟩
  rw [j1, j2]
  by_cases hc : ((specBlock a.inmap (if dig then abcInmap abc else a.inmap) a.file.size (fuelOf a) 0 0 (blockMaxSeq b maxSeq) .ok (fileFrom a)).2.1 == .eof &&
          decide ((specBlock a.inmap (if dig then abcInmap abc else a.inmap) a.file.size (fuelOf a) 0 0 (blockMaxSeq b maxSeq) .ok (fileFrom a)).1.length > 0)) = true
  · simp only [hc, if_true]; decide
  · simp only [hc, Bool.false_eq_true, if_false]; rw [← j1]; exact j8

end EaselModel.Sqio.BlockSpec
