import EaselModel.Sqio.AfetchLemmas
/-! # `esl-afetch`: indexed fetch = sequential scan (composition of the scan, the C06 index theorems and the fetch path) -/
namespace EaselModel.Afetch
open EaselModel.Msafile (Bytes splitLinesT)
open EaselModel.Ssi hiding Bytes cstr

/-- hypotheses on the database: well-formed records, skipped lines after the last one, keys that can be stored, sizes in range -/
structure DbOk (fname : Bytes) (rs : List SRec) (trail : List TLine) : Prop where
  wf : ∀ r ∈ rs, r.WF
  trailOk : ∀ l ∈ trail, leadLine l.1 = true ∧ LineWF l
  fname : (0 : UInt8) ∉ fname ∧ fname.length < 65535
  keys : ∀ r ∈ rs, KeyOk r.name ∧ ∀ a, r.acc = some a → KeyOk a
  size : linesSize (dbLines rs trail) < 2^64
  count : rs.length < 2^38

theorem entries_mem (rs : List SRec) (p : Nat) : ∀ e ∈ entries p rs, ∃ r ∈ rs, e.1.name = r.name ∧ e.1.acc = r.acc := by
  induction rs generalizing p with
  | nil => intro e he; simp [entries] at he
  | cons r rs ih =>
    intro e he
    simp only [entries, List.mem_cons] at he
    rcases he with rfl | he
    · exact ⟨r, by simp, rfl, rfl⟩
    · obtain ⟨r', hr', h⟩ := ih _ e he
      exact ⟨r', by simp [hr'], h⟩

theorem entries_names (rs : List SRec) (p : Nat) : (entries p rs).map (·.1.name) = rs.map SRec.name := by
  induction rs generalizing p with
  | nil => rfl
  | cons r rs ih => simp [entries, ih]

theorem entries_accs (rs : List SRec) (p : Nat) : ((entries p rs).filterMap (fun e => toSKey e.1)).map (·.key) = rs.filterMap SRec.acc := by
  induction rs generalizing p with
  | nil => rfl
  | cons r rs ih =>
    have e : toSKey (⟨p, r.name, r.acc⟩ : Rec) = r.acc.map (fun a => ⟨a, r.name⟩) := rfl
    simp only [entries, List.filterMap_cons, e]
    cases hacc : r.acc with
    | none => simpa using ih _
    | some a => simpa using ih _

theorem entries_length (rs : List SRec) (p : Nat) : (entries p rs).length = rs.length := by
  induction rs generalizing p with
  | nil => rfl
  | cons r rs ih => simp [entries, ih]

theorem ops_ok (fname : Bytes) (rs : List SRec) (trail : List TLine) (h : DbOk fname rs trail) :
    let ops := indexOps fname fmtStockholm ((entries 0 rs).map (·.1))
    (∀ op ∈ ops, op.Valid) ∧ (logical ops).files ≠ [] ∧ ops.length < 2^40 ∧
    (logical ops).pkeys = ((entries 0 rs).map (·.1)).map toPKey ∧ (logical ops).skeys = ((entries 0 rs).map (·.1)).filterMap toSKey := by
  have hlen : ((entries 0 rs).map (·.1)).length = rs.length := by simp [entries_length]
  have hc := h.count
  obtain ⟨l1, l2, l3⟩ := logical_indexOps fname fmtStockholm ((entries 0 rs).map (·.1)) (by rw [hlen]; omega)
  refine ⟨?_, l3, ?_, l1, l2⟩
  · apply indexOps_valid fname fmtStockholm _ ⟨h.fname.1, h.fname.2, by decide⟩
    intro r hr
    simp only [List.mem_map] at hr
    obtain ⟨e, he, rfl⟩ := hr
    obtain ⟨r', hr', hn, ha⟩ := entries_mem rs 0 e he
    have hk := h.keys r' hr'
    refine ⟨by rw [hn]; exact hk.1, by intro a hacc; rw [ha] at hacc; exact hk.2 a hacc, ?_⟩
    have := (entries_off_ge rs 0 e he).2
    have hs := h.size
    simp only [dbLines, linesSize_append] at hs
    omega
  · have := indexOps_length fname fmtStockholm ((entries 0 rs).map (·.1))
    rw [hlen] at this
    omega

/-- the index the tool builds is what `Write` leaves for the logical content `L` of its `esl_newssi_*` calls: one primary key per
    alignment, one alias per accession -/
theorem createIndex_logical (fname : Bytes) (rs : List SRec) (trail : List TLine) (h : DbOk fname rs trail) :
    ∃ L : NewSsi, L.WF ∧ L.pkeys = ((entries 0 rs).map (·.1)).map toPKey ∧
      L.skeys = ((entries 0 rs).map (·.1)).filterMap toSKey ∧
      createIndex fname (dbBytes rs trail) =
        match (L.write (some [])).2 with
        | (none, some bytes) => some bytes
        | _ => none := by
  obtain ⟨hv, hf, hn, hp, hs⟩ := ops_ok fname rs trail h
  obtain ⟨hwf, heq⟩ := run_write_eq_logical _ hv hf hn (some [])
  refine ⟨_, hwf, hp, hs, ?_⟩
  unfold createIndex
  rw [scanDb_records rs trail h.wf h.trailOk]
  simp only [heq]
  rfl

theorem createIndex_isSome_iff (fname : Bytes) (rs : List SRec) (trail : List TLine) (h : DbOk fname rs trail) :
    (createIndex fname (dbBytes rs trail)).isSome = true ↔ (rs.map SRec.name ++ rs.filterMap SRec.acc).Nodup := by
  classical
  obtain ⟨L, hwf, hp, hs, hci⟩ := createIndex_logical fname rs trail h
  have hD : L.Distinct ↔ (rs.map SRec.name ++ rs.filterMap SRec.acc).Nodup := by
    rw [NewSsi.distinct_iff_nodup, hp, hs]
    have e1 : (((entries 0 rs).map (·.1)).map toPKey).map (·.key) = rs.map SRec.name := by
      rw [← entries_names rs 0]; simp [toPKey]
    have e2 : (((entries 0 rs).map (·.1)).filterMap toSKey).map (·.key) = rs.filterMap SRec.acc := by
      rw [← entries_accs rs 0, List.filterMap_map]; rfl
    rw [e1, e2]
  have hspec : (L.write (some [])).2 = if L.Distinct then (none, some L.image) else (some .edup, none) :=
    write_eq L hwf (some [])
  rw [hci, hspec, ← hD]
  by_cases hd : L.Distinct <;> simp [hd]

theorem onefetch_eq_seqFetch (fname : Bytes) (rs : List SRec) (trail : List TLine) (h : DbOk fname rs trail) (ssi : Bytes)
    (hc : createIndex fname (dbBytes rs trail) = some ssi) (key : Bytes) :
    onefetch (dbBytes rs trail) ssi key = match seqFetch rs key with | some t => .ok t | none => .notfound := by
  obtain ⟨L, hwf, hp, hs, hci⟩ := createIndex_logical fname rs trail h
  have hw : (L.write (some [])).2.2 = some ssi := by
    rw [hci] at hc
    revert hc
    generalize (L.write (some [])).2 = w
    obtain ⟨w1, w2⟩ := w
    cases w1 <;> cases w2 <;> simp
  obtain ⟨hd, -, ho⟩ := written_opens L hwf (some []) ssi hw
  have hreg : ∀ e ∈ entries 0 rs, regurg (splitLinesT ((dbBytes rs trail).drop e.1.off) []) [] = some e.2 := by
    have := regurg_at_entry rs h.wf trail (fun l hl => (h.trailOk l hl).2) []
    simpa [dbBytes, dbLines] using this
  unfold seqFetch
  cases hfind : (entries 0 rs).find? (fun e => e.1.name == key || e.1.acc == some key) with
  | some e =>
    have hmem := List.mem_of_find?_eq_some hfind
    have hpred := List.find?_some hfind
    simp only [Bool.or_eq_true, beq_iff_eq] at hpred
    have hkmem : toPKey e.1 ∈ L.pkeys := by
      rw [hp]; exact List.mem_map_of_mem (List.mem_map_of_mem hmem)
    have hpos : positionByKey ssi key = .ok e.1.off := by
      unfold positionByKey
      by_cases hname : e.1.name = key
      · have := findName_primary_of_open hwf hd ho (toPKey e.1) hkmem
        simp only [toPKey] at this
        rw [hname] at this
        rw [this]; rfl
      · have hacc : e.1.acc = some key := by rcases hpred with h1 | h1; exact absurd h1 hname; exact h1
        have hamem : (⟨key, e.1.name⟩ : SKey) ∈ L.skeys := by
          rw [hs, List.mem_filterMap]
          exact ⟨e.1, List.mem_map_of_mem hmem, by simp [toSKey, hacc]⟩
        have := findName_alias_of_open hwf hd ho ⟨key, e.1.name⟩ hamem (toPKey e.1) hkmem rfl
        simp only [toPKey] at this
        rw [this]; rfl
    simp only [Option.map_some, onefetch, hpos, hreg e hmem]
  | none =>
    have hall := List.find?_eq_none.mp hfind
    have hpos : positionByKey ssi key = .error .enotfound := by
      unfold positionByKey
      have := findName_absent_of_open hwf hd ho key ?_ ?_
      · rw [this]; rfl
      · intro k hk
        rw [hp] at hk
        simp only [List.mem_map] at hk
        obtain ⟨r', ⟨e', he', rfl⟩, rfl⟩ := hk
        have := hall e' he'
        simp only [Bool.or_eq_true, beq_iff_eq, not_or] at this
        exact this.1
      · intro a ha
        rw [hs, List.mem_filterMap] at ha
        obtain ⟨r', hr', hsk⟩ := ha
        simp only [List.mem_map] at hr'
        obtain ⟨e', he', rfl⟩ := hr'
        have := hall e' he'
        simp only [Bool.or_eq_true, beq_iff_eq, not_or] at this
        simp only [toSKey, Option.map_eq_some_iff] at hsk
        obtain ⟨a', ha', rfl⟩ := hsk
        intro hk
        simp only at hk
        exact this.2 (by rw [ha', hk])
    simp only [Option.map_none, onefetch, hpos]

end EaselModel.Afetch
