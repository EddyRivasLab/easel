import EaselModel.Sqio.Totality
/-! # `specFasta`: a small declarative FASTA parser over the list of file bytes, and `parseFasta = specFasta` (C04 / C02)

`Record` is what a client sees of a record: name, description, residues, the four offsets and `L` — no allocations, no buffer.
`specOne` parses one record from the remaining bytes of a file of `N` bytes with `dropWhile` / `takeWhile` / `filter` only;
`specFasta` iterates it. The closed form that the whole-reader refinement (`read_all_eq_parseFasta`) reaches for every block size,
projected to `Record`, IS `specFasta`; so `Read`-until-EOF = `specFasta` for every byte string and `B ≥ 1`. -/
namespace EaselModel.Sqio.SpecFasta
open EaselModel.Sqio.Cursor EaselModel.Sqio.BodySpec EaselModel.Sqio.HeaderSpec EaselModel.Sqio.ReadSpec EaselModel.Sqio.ParseFasta

structure Record where
  name : List UInt8
  desc : List UInt8
  seq : List UInt8
  roff : Int
  hoff : Int
  doff : Int
  eoff : Int
  L : Int
  deriving DecidableEq, Repr

/-- what a client sees of an `ESL_SQ` -/
def toRecord (s : Sq) : Record := ⟨s.name.toList, s.desc.toList, s.seq.toList, s.roff, s.hoff, s.doff, s.eoff, s.L⟩

/-- one FASTA record from the remaining bytes `l` of a file of `N` bytes. `inmap` classifies data bytes (residue / end of line /
    ignored / end of data `>` / illegal), `map` translates residues (identity-like in text mode, the alphabet's codes in digital mode).
    Returns the status (`eslOK`, `eslEOF` = only white space left, `eslEFORMAT`), the record, and the bytes that remain. -/
def specOne (inmap map : Bytes) (N : Nat) (l : List UInt8) : Status × Option Record × List UInt8 :=
  match l.dropWhile isSpace with
  | [] => (.eof, none, [])
  | c :: l2 =>
    if c != chGt then (.eformat, none, c :: l2) else
    let nameL := (l2.dropWhile isBlankTab).takeWhile pName
    if nameL.isEmpty then (.eformat, none, c :: l2) else
    let l4 := ((l2.dropWhile isBlankTab).dropWhile pName).dropWhile isBlankTab
    let descL := l4.takeWhile pDesc
    let l5 := (l4.dropWhile pDesc).dropWhile pNotEol      -- rest of the header line: hoff
    let l6 := l5.dropWhile pEol                           -- end-of-line characters: doff
    let data := l6.takeWhile (isData inmap)
    let rest := l6.dropWhile (isData inmap)
    let res := (data.filter (isRes inmap)).map (fun c => map.getD c.toNat 0)
    let r : Record := ⟨nameL, descL, res, offOf N (c :: l2), offOf N l5, offOf N l6, offOf N rest - 1, (res.length : Int)⟩
    match rest with
    | [] => (.ok, some r, [])
    | c' :: t => if isEod inmap c' then (.ok, some r, c' :: t) else (.eformat, none, c' :: t)

def specAll (inmap map : Bytes) (N : Nat) : Nat → List UInt8 → List Record × Status
  | 0, _ => ([], .fault)
  | fuel + 1, l =>
    match specOne inmap map N l with
    | (.ok, some r, rest) => (r :: (specAll inmap map N fuel rest).1, (specAll inmap map N fuel rest).2)
    | (st, _, _) => ([], st)

/-- the records of a FASTA file and the final status (`eslEOF` / `eslEFORMAT`), as a function of its bytes; `abc = 0` text mode,
    1 / 2 / 3 DNA / RNA / amino digital mode (`abcInmap`) -/
def specFasta (abc : Nat) (bytes : List UInt8) : List Record × Status :=
  specAll (inmapFasta abc) (if abc = 0 then inmapFasta 0 else abcInmap abc) bytes.length (bytes.length + 2) bytes

theorem recL_eq_specOne (inmap : Bytes) (N : Nat) (sq : Sq) (l : List UInt8) (hs : sq.seq = #[]) :
    (recL inmap N sq l).1 = (specOne inmap (mapFor inmap sq) N l).1 ∧
    ((recL inmap N sq l).1 = .ok →
      (specOne inmap (mapFor inmap sq) N l).2.1 = some (toRecord (recL inmap N sq l).2.1) ∧
      (recL inmap N sq l).2.2 = (specOne inmap (mapFor inmap sq) N l).2.2) := by
  unfold recL specOne
  by_cases he : l.isEmpty = true
  · have : l = [] := by simpa using he
    subst this
    simp
  · simp only [he, Bool.false_eq_true, if_false]
    unfold headerL
    cases hd : l.dropWhile isSpace with
    | nil => simp
    | cons c l2 =>
      simp only []
      by_cases hc : (c != chGt) = true
      · simp [hc]
      · simp only [hc, Bool.false_eq_true, if_false]
        unfold hfNameL
        by_cases hn : ((l2.dropWhile isBlankTab).takeWhile pName).isEmpty = true
        · simp [hn]
        · simp only [hn, Bool.false_eq_true, if_false, beq_self_eq_true, if_true]
          simp only [hfDescL, hfEndL, bodyL]
          cases hr : (((((l2.dropWhile isBlankTab).dropWhile pName).dropWhile isBlankTab).dropWhile pDesc).dropWhile pNotEol).dropWhile pEol
              |>.dropWhile (isData inmap) with
          | nil =>
            simp only []
            refine ⟨trivial, fun _ => ⟨?_, trivial⟩⟩
            simp [toRecord, Sq.setWhole, stored, hs, resOf, Sq.n, mapFor]
          | cons c' t =>
            simp only []
            by_cases hce : isEod inmap c' = true
            · simp only [hce, if_true]
              refine ⟨trivial, fun _ => ⟨?_, trivial⟩⟩
              simp [toRecord, Sq.setWhole, stored, hs, resOf, Sq.n, mapFor]
            · simp only [hce, Bool.false_eq_true, if_false]
              exact ⟨trivial, fun k => (by cases k)⟩

theorem parseAllL_eq_specAll (inmap : Bytes) (N : Nat) (fuel : Nat) : ∀ (sq : Sq) (l : List UInt8),
    ((parseAllL inmap N fuel sq l).1.map toRecord, (parseAllL inmap N fuel sq l).2) = specAll inmap (mapFor inmap sq) N fuel l := by
  induction fuel with
  | zero => intro sq l; rfl
  | succ fuel ih =>
    intro sq l
    have hm : mapFor inmap sq.reuse = mapFor inmap sq := rfl
    obtain ⟨q1, q2⟩ := recL_eq_specOne inmap N sq.reuse l rfl
    rw [hm] at q1 q2
    simp only [parseAllL, specAll]
    by_cases hok : (recL inmap N sq.reuse l).1 = .ok
    · obtain ⟨m1, m2⟩ := q2 hok
      have hb : ((recL inmap N sq.reuse l).1 == Status.ok) = true := by rw [hok]; rfl
      simp only [hb, if_true]
      obtain ⟨k1, k2, _, _⟩ := recL_keeps inmap N sq.reuse l hok
      have hm2 : mapFor inmap (recL inmap N sq.reuse l).2.1 = mapFor inmap sq := by
        simp only [mapFor, k1, k2]; rfl
      have i := ih (recL inmap N sq.reuse l).2.1 (recL inmap N sq.reuse l).2.2
      rw [hm2, m2] at i
      rw [m2]
      have hst : (specOne inmap (mapFor inmap sq) N l).1 = .ok := by rw [← q1]; exact hok
      generalize specOne inmap (mapFor inmap sq) N l = S at m1 hst i ⊢
      obtain ⟨s1, s2, s3⟩ := S
      simp only [] at m1 hst i ⊢
      subst m1 hst
      simp only [List.map_cons]
      have i1 := congrArg Prod.fst i
      have i2 := congrArg Prod.snd i
      simp only [] at i1 i2
      rw [i1, i2]
    · have hb : ((recL inmap N sq.reuse l).1 == Status.ok) = false := by simpa using hok
      simp only [hb, Bool.false_eq_true, if_false, List.map_nil]
      have hst : (specOne inmap (mapFor inmap sq) N l).1 ≠ .ok := by rw [← q1]; exact hok
      generalize specOne inmap (mapFor inmap sq) N l = S at q1 hst ⊢
      obtain ⟨s1, s2, s3⟩ := S
      simp only [] at q1 hst ⊢
      cases s1 <;> first | exact absurd rfl hst | (cases s2 <;> simp [q1])

/-- **`parseFasta` (the closed form of the reader) projected to `Record` is `specFasta`** -/
theorem parseFasta_eq_specFasta (abc : Nat) (bytes : Bytes) :
    ((parseFasta abc bytes).1.map toRecord, (parseFasta abc bytes).2) = specFasta abc bytes.toList := by
  unfold parseFasta specFasta
  rw [parseAllL_eq_specAll]
  have : mapFor (inmapFasta abc) (freshSq abc) = (if abc = 0 then inmapFasta 0 else abcInmap abc) := by
    by_cases h0 : abc = 0
    · subst h0; simp [mapFor, freshSq]
    · simp [mapFor, freshSq, h0]
  rw [this]
  simp

/-- **Whole-reader refinement against the declarative parser.** For every byte string, every alphabet selector and every read-block
    size `B ≥ 1`: reading records with `sqascii_Read` from `esl_sqfile_Open` on until the first non-`eslOK` status returns exactly the
    records (name, description, residues, `roff`, `hoff`, `doff`, `eoff`, `L`) and the final status of `specFasta`. -/
theorem read_all_eq_specFasta (bytes : Bytes) (B abc : Nat) (hB : 1 ≤ B) (habc : abc ∈ [0, 1, 2, 3]) :
    ((readAllM (bytes.size + 2) (openFasta bytes B abc) (freshSq abc)).1.map toRecord,
     (readAllM (bytes.size + 2) (openFasta bytes B abc) (freshSq abc)).2) = specFasta abc bytes.toList := by
  rw [read_all_eq_parseFasta bytes B abc hB habc]
  exact parseFasta_eq_specFasta abc bytes

end EaselModel.Sqio.SpecFasta
