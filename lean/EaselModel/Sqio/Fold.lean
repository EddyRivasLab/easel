import EaselModel.Sqio.TrackLemmas
/-! # `seebuf` is a byte-by-byte fold (C04 block-size independence of the data scan, C07 tracker)

`seebuf` keeps the line-geometry counters in a batched way (`lasteol`, `nres2`: it adds to `curbpl` / `currpl` only at an end of
line and when it stops). `stepByte` is the obvious one-byte-at-a-time bookkeeping (`stepByte_eq`: what it does, by the class of the
byte). `seebufLoop_fold`: what `seebuf` leaves in the
handle — tracker, line number, residue count, stop position and status — is what the byte fold gives on the same bytes. Because a
fold over `l₁ ++ l₂` is the fold over `l₁` continued over `l₂`, the result of scanning a record does not depend on how the bytes are
cut into buffers. -/
namespace EaselModel.Sqio.Fold
open Tables

/-- cur counters are "unset" (−1) or non-negative, and `seebuf_linegeometry()` has been applied to the current state (true after
    `header_*`, after `sqascii_Position` and after every `seebuf`) -/
def Track.Ok (t : Track) : Prop := -1 ≤ t.curbpl ∧ -1 ≤ t.currpl ∧ t.lineGeometry false = t

theorem Track.Ok.of_inactive (t : Track) (h1 : -1 ≤ t.curbpl) (h2 : -1 ≤ t.currpl) (h : t.curbpl ≤ 0 ∨ t.currpl = -1) : Track.Ok t :=
  ⟨h1, h2, lg_inactive t false h⟩

theorem onStop_onStop (t : Track) (a b c d : Int) (h : Track.Ok t) (ha : 0 ≤ a) (hb : 0 ≤ b) (hd : 0 ≤ d) (hc : d ≤ c) :
    (t.onStop a b).onStop c d = t.onStop (a + c) (b + d) :=
  onStop_then t a b c d false h.1 h.2.1 ha hb hd (by simpa using hc)

theorem onStop_ok (t : Track) (a b : Int) (h : Track.Ok t) (ha : 0 ≤ a) (hb : 0 ≤ b) : Track.Ok (t.onStop a b) := by
  obtain ⟨k1, k2⟩ := adv_bounds t a b h.1 h.2.1 ha hb
  obtain ⟨b1, b2⟩ := onStop_bounds t a b h.1 h.2.1 ha hb
  exact ⟨b1, b2, lg_idem _ k1 k2⟩

theorem onStop_zero (t : Track) (h : Track.Ok t) : t.onStop 0 0 = t := by
  unfold Track.onStop; rw [adv_zero]; exact h.2.2

theorem onStop_onEol (t : Track) (a b c d : Int) (h : Track.Ok t) (ha : 0 ≤ a) (hb : 0 ≤ b) (hd : 0 ≤ d) (hc : d + 1 ≤ c) :
    (t.onStop a b).onEol c d = t.onEol (a + c) (b + d) := by
  unfold Track.onEol
  rw [onStop_then t a b c d true h.1 h.2.1 ha hb hd (by simpa using hc)]

/-- what the byte fold carries: the tracker, the line number (−1 = unknown, as after `Position` into the middle of a file: it stays −1) and the residues seen so far -/
structure SS where
  trk : Track
  ln : Int
  nres : Nat
  deriving Repr

theorem onEol_ok (t : Track) (a b : Int) : Track.Ok (t.onEol a b) :=
  Track.Ok.of_inactive _ (by simp [Track.onEol]) (by simp [Track.onEol]) (Or.inl (by simp [Track.onEol]))

end EaselModel.Sqio.Fold

namespace EaselModel.Sqio.BodySpec
open Tables

/-- the input-map entry of a byte (`eslDSQ_ILLEGAL` for a byte ≥ 0x80) -/
def code (inmap : Bytes) (c : UInt8) : UInt8 := if c ≥ 128 then dsqIllegal else inmap.getD c.toNat dsqIllegal
/-- the data scanner counts this byte as a residue -/
def isRes (inmap : Bytes) (c : UInt8) : Bool := code inmap c ≤ 127
/-- the data scanner consumes this byte: residue, end of line, or ignored -/
def isData (inmap : Bytes) (c : UInt8) : Bool := code inmap c ≤ 127 || code inmap c == dsqEol || code inmap c == dsqIgnored
/-- the data scanner stops with `eslEOD` before this byte -/
def isEod (inmap : Bytes) (c : UInt8) : Bool := code inmap c == dsqEod

end EaselModel.Sqio.BodySpec

namespace EaselModel.Sqio.Fold
open Tables BodySpec

/-- one byte of sequence data, the way `seebuf` classifies it; `.ok` = consumed, `.eod` / `.eformat` / `.fault` = stop before it -/
def stepByte (inmap : Bytes) (s : SS) (c : UInt8) : SS × Status :=
  if c ≥ 128 then (s, .eformat) else
  match inmap[c.toNat]? with
  | none => (s, .fault)
  | some x =>
    if x ≤ 127 then ({ s with trk := s.trk.onStop 1 1, nres := s.nres + 1 }, .ok)
    else if x == dsqEol then ({ s with trk := s.trk.onEol 1 0, ln := if s.ln != -1 then s.ln + 1 else s.ln }, .ok)
    else if x == dsqIllegal then (s, .eformat)
    else if x == dsqEod then (s, .eod)
    else if x != dsqIgnored then (s, .eformat)
    else ({ s with trk := s.trk.onStop 1 0 }, .ok)

/-- **`stepByte` by the class of the byte.** A data byte (residue, end of line, ignored) is consumed; anything else stops the scan
    and leaves the state alone (`.fault`: the map has no entry for a byte < 0x80, which a map of 128 entries excludes). The
    tracker component is `TrackBytes.trkByte`; what is said of `stepByte` elsewhere is read off this equation. -/
theorem stepByte_eq (inmap : Bytes) (s : SS) (c : UInt8) :
    stepByte inmap s c =
      if isData inmap c then
        (⟨if isRes inmap c then s.trk.onStop 1 1 else if code inmap c == dsqEol then s.trk.onEol 1 0 else s.trk.onStop 1 0,
          if code inmap c == dsqEol && s.ln != -1 then s.ln + 1 else s.ln, s.nres + if isRes inmap c then 1 else 0⟩, .ok)
      else (s, if isEod inmap c then .eod else if c < 128 ∧ inmap.size ≤ c.toNat then .fault else .eformat) := by
  unfold stepByte isData isRes isEod code
  by_cases h1 : c ≥ 128
  · simp [h1, UInt8.not_lt.mpr h1, dsqIllegal, dsqEol, dsqIgnored, dsqEod]
  · simp only [h1, if_false]
    cases hx : inmap[c.toNat]? with
    | none =>
      have hsz : inmap.size ≤ c.toNat := by simpa using hx
      simp [Array.getD_eq_getD_getElem?, hsz, dsqIllegal, dsqEol, dsqIgnored, dsqEod, UInt8.not_le.mp h1]
    | some x =>
      have hsz : ¬ inmap.size ≤ c.toNat := by
        intro h; rw [Array.getElem?_eq_none h] at hx; cases hx
      simp only [Array.getD_eq_getD_getElem?, hx, Option.getD_some, hsz, and_false, if_false]
      by_cases h2 : x ≤ 127
      · simp [h2, show x ≠ dsqEol from fun e => absurd (e ▸ h2) (by decide)]
      · by_cases h3 : (x == dsqEol) = true
        · simp [h2, h3]
        · by_cases h4 : (x == dsqIllegal) = true
          · rw [eq_of_beq h4]; simp [dsqIllegal, dsqEol, dsqIgnored, dsqEod]
          · by_cases h5 : (x == dsqEod) = true
            · rw [eq_of_beq h5]; simp [dsqIllegal, dsqEol, dsqIgnored, dsqEod]
            · by_cases h6 : (x == dsqIgnored) = true
              · rw [eq_of_beq h6]; simp [dsqIllegal, dsqEol, dsqIgnored, dsqEod]
              · simp [h2, h3, h4, h5, h6, show x ≠ dsqIgnored by simpa using h6]

/-- fold `stepByte` over the bytes while fewer than `maxn` residues have been seen; returns the state, the number of bytes consumed
    and the status (`.ok` = ran out of bytes or reached the residue limit) -/
def scanBytes (inmap : Bytes) (maxn : Nat) : List UInt8 → SS → Nat → SS × Nat × Status
  | [], s, k => (s, k, .ok)
  | c :: rest, s, k =>
    if s.nres < maxn then
      match stepByte inmap s c with
      | (s', .ok) => scanBytes inmap maxn rest s' (k + 1)
      | (s', st) => (s', k, st)
    else (s, k, .ok)

theorem scanBytes_cons_full (inmap : Bytes) (M : Nat) (c : UInt8) (rest : List UInt8) (s : SS) (k : Nat) (h : ¬ s.nres < M) :
    scanBytes inmap M (c :: rest) s k = (s, k, .ok) := by
  simp [scanBytes, h]

theorem scanBytes_cons_ok (inmap : Bytes) (M : Nat) (c : UInt8) (rest : List UInt8) (s : SS) (k : Nat) (h : s.nres < M)
    (hs : (stepByte inmap s c).2 = .ok) :
    scanBytes inmap M (c :: rest) s k = scanBytes inmap M rest (stepByte inmap s c).1 (k + 1) := by
  rcases hstep : stepByte inmap s c with ⟨s', st⟩
  rw [hstep] at hs
  subst hs
  simp [scanBytes, h, hstep]

theorem scanBytes_cons_stop (inmap : Bytes) (M : Nat) (c : UInt8) (rest : List UInt8) (s : SS) (k : Nat) (h : s.nres < M)
    (hs : (stepByte inmap s c).2 ≠ .ok) :
    scanBytes inmap M (c :: rest) s k = ((stepByte inmap s c).1, k, (stepByte inmap s c).2) := by
  rcases hstep : stepByte inmap s c with ⟨s', st⟩
  rw [hstep] at hs
  cases st <;> simp_all [scanBytes]

end EaselModel.Sqio.Fold

namespace EaselModel.Sqio.DataScan
open EaselModel.Sqio.Fold EaselModel.Sqio.BodySpec

theorem stepByte_props (inmap : Bytes) (s : SS) (c : UInt8) :
    s.nres ≤ (stepByte inmap s c).1.nres ∧ (stepByte inmap s c).1.nres ≤ s.nres + 1 ∧
    (Track.Ok s.trk → Track.Ok (stepByte inmap s c).1.trk) ∧
    ((stepByte inmap s c).2 ≠ .ok → (stepByte inmap s c).1 = s) := by
  rw [stepByte_eq]
  by_cases hd : isData inmap c = true
  · rw [if_pos hd]
    refine ⟨Nat.le_add_right _ _, by dsimp only; split <;> omega, fun h => ?_, fun h => absurd rfl h⟩
    dsimp only
    split
    · exact onStop_ok _ _ _ h (by decide) (by decide)
    · split
      · exact onEol_ok _ _ _
      · exact onStop_ok _ _ _ h (by decide) (by decide)
  · rw [if_neg hd]
    exact ⟨Nat.le_refl _, Nat.le_succ _, id, fun _ => rfl⟩

theorem scanBytes_cons (inmap : Bytes) (M : Nat) (c : UInt8) (rest : List UInt8) (s : SS) (k : Nat) :
    (¬ s.nres < M ∧ scanBytes inmap M (c :: rest) s k = (s, k, .ok)) ∨
    (s.nres < M ∧ (stepByte inmap s c).2 = .ok ∧
      scanBytes inmap M (c :: rest) s k = scanBytes inmap M rest (stepByte inmap s c).1 (k + 1)) ∨
    (s.nres < M ∧ (stepByte inmap s c).2 ≠ .ok ∧
      scanBytes inmap M (c :: rest) s k = ((stepByte inmap s c).1, k, (stepByte inmap s c).2)) := by
  by_cases h : s.nres < M
  · by_cases hs : (stepByte inmap s c).2 = .ok
    · exact Or.inr (Or.inl ⟨h, hs, scanBytes_cons_ok inmap M c rest s k h hs⟩)
    · exact Or.inr (Or.inr ⟨h, hs, scanBytes_cons_stop inmap M c rest s k h hs⟩)
  · exact Or.inl ⟨h, scanBytes_cons_full inmap M c rest s k h⟩

end EaselModel.Sqio.DataScan

namespace EaselModel.Sqio.Fold
open Tables BodySpec

/-- scanning `l₁ ++ l₂` = scanning `l₁`, and if that neither stopped nor hit the residue limit, continuing over `l₂`: the cut between
    two buffers is invisible -/
theorem scanBytes_append (inmap : Bytes) (maxn : Nat) (l1 l2 : List UInt8) (s : SS) (k : Nat) :
    scanBytes inmap maxn (l1 ++ l2) s k =
      (if (scanBytes inmap maxn l1 s k).2.2 = .ok ∧ (scanBytes inmap maxn l1 s k).2.1 = k + l1.length then
         scanBytes inmap maxn l2 (scanBytes inmap maxn l1 s k).1 (k + l1.length)
       else scanBytes inmap maxn l1 s k) := by
  induction l1 generalizing s k with
  | nil => simp [scanBytes]
  | cons c rest ih =>
    rw [List.cons_append]
    by_cases hlim : s.nres < maxn
    · by_cases hs : (stepByte inmap s c).2 = .ok
      · rw [scanBytes_cons_ok _ _ _ _ _ _ hlim hs, scanBytes_cons_ok _ _ _ _ _ _ hlim hs, ih]
        have hl : k + 1 + rest.length = k + (c :: rest).length := by simp; omega
        rw [hl]
      · rw [scanBytes_cons_stop _ _ _ _ _ _ hlim hs, scanBytes_cons_stop _ _ _ _ _ _ hlim hs]
        simp [hs]
    · rw [scanBytes_cons_full _ _ _ _ _ _ hlim, scanBytes_cons_full _ _ _ _ _ _ hlim]
      simp

/-- the byte at buffer index `i` -/
def byteAt (a : Ascii) (i : Nat) : UInt8 := (a.bufGet i).getD 0

/-- the buffer from index `lo` to its end, as a list -/
def bufList (a : Ascii) (lo : Nat) : List UInt8 := (List.range' lo (a.nc - lo)).map (byteAt a)

theorem bufList_cons (a : Ascii) (lo : Nat) (h : lo < a.nc) : bufList a lo = byteAt a lo :: bufList a (lo + 1) := by
  unfold bufList
  have : a.nc - lo = (a.nc - (lo + 1)) + 1 := by omega
  rw [this, List.range'_succ]
  rfl

theorem bufList_nil (a : Ascii) (lo : Nat) (h : ¬ lo < a.nc) : bufList a lo = [] := by
  unfold bufList
  have : a.nc - lo = 0 := by omega
  simp [this]

/-- the tracker as it would stand if `seebuf` stopped now -/
def virt (trk : Track) (bpos nres nres2 le1 : Nat) : Track := trk.onStop ((bpos : Int) - (le1 : Int)) ((nres : Int) - (nres2 : Int))

theorem virt_res (trk : Track) (bpos nres nres2 le1 : Nat) (hle : le1 ≤ bpos) (hn2 : nres2 ≤ nres) (hok : Track.Ok trk) :
    (virt trk bpos nres nres2 le1).onStop 1 1 = virt trk (bpos + 1) (nres + 1) nres2 le1 := by
  unfold virt
  rw [onStop_onStop trk _ _ 1 1 hok (by omega) (by omega) (by omega) (by omega)]
  congr 1 <;> (push_cast; omega)

theorem virt_ign (trk : Track) (bpos nres nres2 le1 : Nat) (hle : le1 ≤ bpos) (hn2 : nres2 ≤ nres) (hok : Track.Ok trk) :
    (virt trk bpos nres nres2 le1).onStop 1 0 = virt trk (bpos + 1) nres nres2 le1 := by
  unfold virt
  rw [onStop_onStop trk _ _ 1 0 hok (by omega) (by omega) (by omega) (by omega)]
  congr 1 <;> (push_cast; omega)

theorem virt_eol (trk : Track) (bpos nres nres2 le1 : Nat) (hle : le1 ≤ bpos) (hn2 : nres2 ≤ nres) (hok : Track.Ok trk) :
    (virt trk bpos nres nres2 le1).onEol 1 0 =
      virt (trk.onEol ((bpos : Int) - (le1 : Int) + 1) ((nres : Int) - (nres2 : Int))) (bpos + 1) nres nres (bpos + 1) := by
  unfold virt
  rw [onStop_onEol trk _ _ 1 0 hok (by omega) (by omega) (by omega) (by omega)]
  have z1 : ((bpos + 1 : Nat) : Int) - ((bpos + 1 : Nat) : Int) = 0 := by omega
  have z2 : (nres : Int) - (nres : Int) = 0 := by omega
  rw [z1, z2, onStop_zero _ (onEol_ok _ _ _)]
  congr 1; omega

theorem scanBytes_step (a : Ascii) (maxn bpos : Nat) (s : SS) (c : UInt8) (h1 : s.nres < maxn) (h2 : bpos < a.nc)
    (hb : a.bufGet bpos = some c) :
    scanBytes a.inmap maxn (bufList a bpos) s bpos =
      (match stepByte a.inmap s c with
       | (s', .ok) => scanBytes a.inmap maxn (bufList a (bpos + 1)) s' (bpos + 1)
       | (s', st) => (s', bpos, st)) := by
  rw [bufList_cons a bpos h2]
  have : byteAt a bpos = c := by simp [byteAt, hb]
  rw [this]
  simp [scanBytes, h1]

theorem scanBytes_stop (a : Ascii) (maxn bpos : Nat) (s : SS) (h : ¬ (s.nres < maxn ∧ bpos < a.nc)) :
    scanBytes a.inmap maxn (bufList a bpos) s bpos = (s, bpos, .ok) := by
  by_cases h2 : bpos < a.nc
  · rw [bufList_cons a bpos h2]
    have : ¬ s.nres < maxn := fun h1 => h ⟨h1, h2⟩
    simp [scanBytes, this]
  · rw [bufList_nil a bpos h2]; rfl

theorem seebufLoop_fold (a : Ascii) (maxn bpos nres nres2 le1 : Nat) (trk : Track) (ln : Int)
    (hr : ∀ i, i < a.nc → ∃ x, a.bufGet i = some x) (hle : le1 ≤ bpos) (hn2 : nres2 ≤ nres) (hok : Track.Ok trk) :
    (seebufLoop a maxn bpos nres nres2 le1 trk ln).1 = (scanBytes a.inmap maxn (bufList a bpos) ⟨virt trk bpos nres nres2 le1, ln, nres⟩ bpos).2.2 ∧
    (seebufLoop a maxn bpos nres nres2 le1 trk ln).2.2.1 = (scanBytes a.inmap maxn (bufList a bpos) ⟨virt trk bpos nres nres2 le1, ln, nres⟩ bpos).2.1 ∧
    (seebufLoop a maxn bpos nres nres2 le1 trk ln).2.2.2.1 = (scanBytes a.inmap maxn (bufList a bpos) ⟨virt trk bpos nres nres2 le1, ln, nres⟩ bpos).1.nres ∧
    (seebufLoop a maxn bpos nres nres2 le1 trk ln).2.2.2.2.2.2.2 = (scanBytes a.inmap maxn (bufList a bpos) ⟨virt trk bpos nres nres2 le1, ln, nres⟩ bpos).1.ln ∧
    (let r := seebufLoop a maxn bpos nres nres2 le1 trk ln
     virt r.2.2.2.2.2.2.1 r.2.2.1 r.2.2.2.1 r.2.2.2.2.1 r.2.2.2.2.2.1) =
      (scanBytes a.inmap maxn (bufList a bpos) ⟨virt trk bpos nres nres2 le1, ln, nres⟩ bpos).1.trk := by
  fun_induction seebufLoop a maxn bpos nres nres2 le1 trk ln
  case case1 => exfalso; rename_i h hx; obtain ⟨y, hy⟩ := hr _ h.2; simp [hy] at hx
  case case2 =>
    rename_i h c hb hc
    rw [scanBytes_step a maxn _ _ c h.1 h.2 hb]
    simp [stepByte, hc]
  case case3 =>
    rename_i h c hb hc hnone
    rw [scanBytes_step a maxn _ _ c h.1 h.2 hb]
    simp [stepByte, hc, hnone]
  case case4 =>
    rename_i bpos nres nres2 le1 trk ln h c hb hc x hx hres ih
    rw [scanBytes_step a maxn bpos _ c h.1 h.2 hb]
    have hs : stepByte a.inmap ⟨virt trk bpos nres nres2 le1, ln, nres⟩ c = (⟨virt trk (bpos + 1) (nres + 1) nres2 le1, ln, nres + 1⟩, .ok) := by
      simp [stepByte, hc, hx, hres, virt_res trk bpos nres nres2 le1 hle hn2 hok]
    rw [hs]
    exact ih (by omega) (by omega) hok
  case case5 =>
    rename_i bpos nres nres2 le1 trk ln h c hb hc x hx hres heol trk' ih
    rw [scanBytes_step a maxn bpos _ c h.1 h.2 hb]
    have hs : stepByte a.inmap ⟨virt trk bpos nres nres2 le1, ln, nres⟩ c =
        (⟨virt (trk.onEol ((bpos : Int) - (le1 : Int) + 1) ((nres : Int) - (nres2 : Int))) (bpos + 1) nres nres (bpos + 1),
          (if ln != -1 then ln + 1 else ln), nres⟩, .ok) := by
      simp [stepByte, hc, hx, hres, heol, virt_eol trk bpos nres nres2 le1 hle hn2 hok]
    rw [hs]
    simp only [dite_eq_ite] at ih
    exact ih (Nat.le_refl _) (Nat.le_refl _) (onEol_ok _ _ _)
  case case6 =>
    rename_i bpos nres nres2 le1 trk ln h c hb hc x hx hres heol hill
    rw [scanBytes_step a maxn bpos _ c h.1 h.2 hb]
    simp [stepByte, hc, hx, hres, heol, hill]
  case case7 =>
    rename_i bpos nres nres2 le1 trk ln h c hb hc x hx hres heol hill heod
    rw [scanBytes_step a maxn bpos _ c h.1 h.2 hb]
    simp [stepByte, hc, hx, hres, heol, hill, heod]
  case case8 =>
    rename_i bpos nres nres2 le1 trk ln h c hb hc x hx hres heol hill heod hign
    rw [scanBytes_step a maxn bpos _ c h.1 h.2 hb]
    simp [stepByte, hc, hx, hres, heol, hill, heod, hign]
  case case9 =>
    rename_i bpos nres nres2 le1 trk ln h c hb hc x hx hres heol hill heod hign ih
    rw [scanBytes_step a maxn bpos _ c h.1 h.2 hb]
    have hs : stepByte a.inmap ⟨virt trk bpos nres nres2 le1, ln, nres⟩ c = (⟨virt trk (bpos + 1) nres nres2 le1, ln, nres⟩, .ok) := by
      simp [stepByte, hc, hx, hres, heol, hill, heod, hign, virt_ign trk bpos nres nres2 le1 hle hn2 hok]
    rw [hs]
    exact ih (by omega) hn2 hok
  case case10 =>
    rename_i bpos nres nres2 le1 trk ln h
    rw [scanBytes_stop a maxn bpos _ h]
    simp

/-- **`seebuf` is the byte fold** (for every residue limit): unless it fails, the status, the number of residues, the stop position,
    and the line-geometry tracker and line number it leaves in the handle are those of folding `stepByte` over the bytes of the
    buffer from the cursor on. -/
theorem seebuf_fold (a : Ascii) (maxn : Option Nat) (hr : ∀ i, i < a.nc → ∃ x, a.bufGet i = some x) (hok : Track.Ok a.trk) :
    let mx := match maxn with | none => a.nc | some m => m
    let f := scanBytes a.inmap mx (bufList a a.bpos) ⟨a.trk, a.linenumber, 0⟩ a.bpos
    (seebuf a maxn).2.st = f.2.2 ∧ (seebuf a maxn).2.endpos = f.2.1 ∧ (seebuf a maxn).2.nres = f.1.nres ∧
    (seebuf a maxn).1.linenumber = f.1.ln ∧
    ((seebuf a maxn).2.st ≠ .eformat → (seebuf a maxn).2.st ≠ .fault → (seebuf a maxn).1.trk = f.1.trk) := by
  intro mx f
  have key := seebufLoop_fold a mx a.bpos 0 0 a.bpos a.trk a.linenumber hr (Nat.le_refl _) (Nat.le_refl _) hok
  have hv : virt a.trk a.bpos 0 0 a.bpos = a.trk := by
    unfold virt
    have z1 : ((a.bpos : Nat) : Int) - ((a.bpos : Nat) : Int) = 0 := by omega
    have z2 : ((0 : Nat) : Int) - ((0 : Nat) : Int) = 0 := by omega
    rw [z1, z2, onStop_zero _ hok]
  rw [hv] at key
  obtain ⟨k1, k2, k3, k4, k5⟩ := key
  have hs : (seebuf a maxn).2.st = (seebufLoop a mx a.bpos 0 0 a.bpos a.trk a.linenumber).1 := by
    cases maxn <;> (simp only [seebuf]; split <;> rfl)
  have he : (seebuf a maxn).2.endpos = (seebufLoop a mx a.bpos 0 0 a.bpos a.trk a.linenumber).2.2.1 := by
    cases maxn <;> (simp only [seebuf]; split <;> rfl)
  have hn : (seebuf a maxn).2.nres = (seebufLoop a mx a.bpos 0 0 a.bpos a.trk a.linenumber).2.2.2.1 := by
    cases maxn <;> (simp only [seebuf]; split <;> rfl)
  have hl : (seebuf a maxn).1.linenumber = (seebufLoop a mx a.bpos 0 0 a.bpos a.trk a.linenumber).2.2.2.2.2.2.2 := by
    cases maxn <;> (simp only [seebuf]; split <;> rfl)
  refine ⟨by rw [hs, k1], by rw [he, k2], by rw [hn, k3], by rw [hl, k4], ?_⟩
  intro h1 h2
  rw [← k5]
  rw [hs] at h1 h2
  cases maxn <;> (simp only [seebuf]; split)
  all_goals first
    | rfl
    | (exfalso; rename_i hc; simp only [Bool.or_eq_true, beq_iff_eq] at hc
       rcases hc with hc | hc
       · exact h1 hc
       · exact h2 hc)

theorem stepByte_nres (inmap : Bytes) (t : Track) (ln : Int) (n0 : Nat) (c : UInt8) :
    stepByte inmap ⟨t, ln, n0⟩ c =
      (⟨(stepByte inmap ⟨t, ln, 0⟩ c).1.trk, (stepByte inmap ⟨t, ln, 0⟩ c).1.ln, (stepByte inmap ⟨t, ln, 0⟩ c).1.nres + n0⟩,
       (stepByte inmap ⟨t, ln, 0⟩ c).2) := by
  rw [stepByte_eq, stepByte_eq]
  by_cases hd : isData inmap c = true
  · rw [if_pos hd, if_pos hd]
    dsimp only
    rw [Nat.zero_add, Nat.add_comm]
  · rw [if_neg hd, if_neg hd]
    dsimp only
    rw [Nat.zero_add]

theorem scanBytes_limit (inmap : Bytes) (m1 m2 : Nat) (l : List UInt8) (s : SS) (k : Nat)
    (h1 : s.nres + l.length ≤ m1) (h2 : s.nres + l.length ≤ m2) :
    scanBytes inmap m1 l s k = scanBytes inmap m2 l s k := by
  induction l generalizing s k with
  | nil => rfl
  | cons c rest ih =>
    simp only [List.length_cons] at h1 h2
    have a1 : s.nres < m1 := by omega
    have a2 : s.nres < m2 := by omega
    have hn := (DataScan.stepByte_props inmap s c).2.1
    by_cases hs : (stepByte inmap s c).2 = .ok
    · rw [scanBytes_cons_ok _ _ _ _ _ _ a1 hs, scanBytes_cons_ok _ _ _ _ _ _ a2 hs]
      exact ih _ _ (by omega) (by omega)
    · rw [scanBytes_cons_stop _ _ _ _ _ _ a1 hs, scanBytes_cons_stop _ _ _ _ _ _ a2 hs]

theorem scanBytes_shift (inmap : Bytes) (m : Nat) (l : List UInt8) (t : Track) (ln : Int) (n d k e : Nat) (hd : d ≤ m) :
    scanBytes inmap m l ⟨t, ln, n + d⟩ (k + e) =
      (⟨(scanBytes inmap (m - d) l ⟨t, ln, n⟩ k).1.trk, (scanBytes inmap (m - d) l ⟨t, ln, n⟩ k).1.ln,
        (scanBytes inmap (m - d) l ⟨t, ln, n⟩ k).1.nres + d⟩,
       (scanBytes inmap (m - d) l ⟨t, ln, n⟩ k).2.1 + e, (scanBytes inmap (m - d) l ⟨t, ln, n⟩ k).2.2) := by
  induction l generalizing t ln n k with
  | nil => rfl
  | cons c rest ih =>
    have h1 := stepByte_nres inmap t ln (n + d) c
    have h2 := stepByte_nres inmap t ln n c
    by_cases hlim : n + d < m
    · have hlim' : n < m - d := by omega
      by_cases hs : (stepByte inmap ⟨t, ln, 0⟩ c).2 = .ok
      · rw [scanBytes_cons_ok _ _ _ _ _ _ hlim (by rw [h1]; exact hs), scanBytes_cons_ok _ _ _ _ _ _ hlim' (by rw [h2]; exact hs), h1, h2]
        have r1 : (stepByte inmap ⟨t, ln, 0⟩ c).1.nres + (n + d) = ((stepByte inmap ⟨t, ln, 0⟩ c).1.nres + n) + d := by omega
        have r2 : k + e + 1 = (k + 1) + e := by omega
        rw [r1, r2]
        exact ih _ _ _ (k + 1)
      · rw [scanBytes_cons_stop _ _ _ _ _ _ hlim (by rw [h1]; exact hs), scanBytes_cons_stop _ _ _ _ _ _ hlim' (by rw [h2]; exact hs), h1, h2]
        simp only [Nat.add_assoc]
    · have hlim' : ¬ n < m - d := by omega
      rw [scanBytes_cons_full _ _ _ _ _ _ hlim, scanBytes_cons_full _ _ _ _ _ _ hlim']

end EaselModel.Sqio.Fold
