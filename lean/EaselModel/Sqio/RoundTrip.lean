import EaselModel.Sqio.SpecFasta
/-! # Write + re-read (C04): the declarative parser applied to what `esl_sqascii_WriteFasta` writes returns the record

`fastaText name desc res`: the bytes `esl_sqascii_WriteFasta` writes for a text-mode record without accession (`writeFasta_text`).
`specOne_fastaText`: `specOne` on these bytes (followed by nothing or by the next record) returns name, description and residues
unchanged, the offsets of the layout, and stops exactly behind the record. With `C04.read_all_eq_specFasta` (reader = `specFasta` for
every block size) this is "writing a record out as FASTA and re-reading it reproduces it". -/
namespace EaselModel.Sqio.Spec

theorem chunk60_succ (l : List UInt8) (fuel : Nat) :
    chunk60 l (fuel + 1) = if l.isEmpty then [] else l.take 60 ++ [chNl] ++ chunk60 (l.drop 60) fuel := rfl

theorem chunk60_filter (fuel : Nat) (l : List UInt8) (hf : l.length < fuel) (hnl : ∀ x ∈ l, x ≠ chNl) :
    (chunk60 l fuel).filter (fun x => x != chNl) = l := by
  induction fuel generalizing l with
  | zero => omega
  | succ fuel ih =>
    rw [chunk60_succ]
    by_cases he : l.isEmpty = true
    · simp only [he, if_true]
      have : l = [] := List.isEmpty_iff.mp he
      simp [this]
    · have he' : l.isEmpty = false := by cases h : l.isEmpty <;> simp_all
      simp only [he', Bool.false_eq_true, if_false]
      have hne : l ≠ [] := fun h => he (by simp [h])
      have hlen : 0 < l.length := List.length_pos_iff.mpr hne
      have hdrop : (l.drop 60).length < fuel := by rw [List.length_drop]; omega
      have hnl' : ∀ x ∈ l.drop 60, x ≠ chNl := fun x hx => hnl x (List.mem_of_mem_drop hx)
      have htake : (l.take 60).filter (fun x => x != chNl) = l.take 60 :=
        List.filter_eq_self.mpr (fun x hx => by simpa using hnl x (List.mem_of_mem_take hx))
      rw [List.filter_append, List.filter_append, htake, ih _ hdrop hnl']
      simp [chNl]

/-- the first line written is the first 60 residues (all of them if there are fewer) and a newline -/
theorem chunk60_first_line (fuel : Nat) (l : List UInt8) (hne : l ≠ []) :
    ∃ rest, chunk60 l (fuel + 1) = l.take 60 ++ chNl :: rest := by
  rw [chunk60_succ]
  have : l.isEmpty = false := by cases l <;> simp_all
  simp [this]

end EaselModel.Sqio.Spec

namespace EaselModel.Sqio.RoundTrip
open EaselModel.Sqio.BodySpec EaselModel.Sqio.HeaderSpec EaselModel.Sqio.ReadSpec EaselModel.Sqio.SpecFasta

def fastaText (name desc res : List UInt8) : List UInt8 :=
  [chGt] ++ name ++ (if desc.isEmpty then [] else 32 :: desc) ++ [chNl] ++ chunk60 res (res.length + 1)

theorem dw_none (p : UInt8 → Bool) (l : List UInt8) (h : ∀ c t, l = c :: t → p c = false) : l.dropWhile p = l ∧ l.takeWhile p = [] := by
  cases l with
  | nil => exact ⟨rfl, rfl⟩
  | cons c t => have := h c t rfl; simp [this]

theorem tw_split (p : UInt8 → Bool) (l1 l2 : List UInt8) (h1 : ∀ c ∈ l1, p c = true) (h2 : ∀ c t, l2 = c :: t → p c = false) :
    (l1 ++ l2).takeWhile p = l1 ∧ (l1 ++ l2).dropWhile p = l2 := by
  rw [List.takeWhile_append_of_pos h1, List.dropWhile_append_of_pos h1, (dw_none p l2 h2).1, (dw_none p l2 h2).2, List.append_nil]
  exact ⟨rfl, rfl⟩

theorem chunk60_data (inmap : Bytes) (hnld : isData inmap chNl = true) (hnlr : isRes inmap chNl = false) :
    ∀ (fuel : Nat) (res : List UInt8), res.length < fuel → (∀ c ∈ res, isRes inmap c = true) →
      (∀ c ∈ chunk60 res fuel, isData inmap c = true) ∧ (chunk60 res fuel).filter (isRes inmap) = res ∧
      (∀ c t, chunk60 res fuel = c :: t → isRes inmap c = true) := by
  intro fuel
  induction fuel with
  | zero => intro res h; omega
  | succ fuel ih =>
    intro res hf hr
    rw [Spec.chunk60_succ]
    cases res with
    | nil => simp
    | cons x xs =>
      simp only [List.isEmpty_cons, Bool.false_eq_true, if_false]
      have hdrop : ((x :: xs).drop 60).length < fuel := by rw [List.length_drop]; simp at hf ⊢; omega
      obtain ⟨i1, i2, _⟩ := ih ((x :: xs).drop 60) hdrop (fun c hc => hr c (List.mem_of_mem_drop hc))
      have htk : ∀ c ∈ (x :: xs).take 60, isRes inmap c = true := fun c hc => hr c (List.mem_of_mem_take hc)
      refine ⟨?_, ?_, ?_⟩
      · intro c hc
        simp only [List.mem_append, List.mem_singleton] at hc
        rcases hc with (hc | hc) | hc
        · exact isRes_isData inmap c (htk c hc)
        · rw [hc]; exact hnld
        · exact i1 c hc
      · rw [List.filter_append, List.filter_append, i2, List.filter_eq_self.mpr htk]
        simp only [List.filter_cons, hnlr, Bool.false_eq_true, if_false, List.filter_nil, List.append_nil]
        exact List.take_append_drop 60 (x :: xs)
      · intro c t hc
        have : (x :: xs).take 60 = x :: xs.take 59 := rfl
        rw [this] at hc
        simp only [List.cons_append] at hc
        have := (List.cons.inj hc).1
        rw [← this]; exact hr x (by simp)

/-- **Re-reading what the writer wrote.** `specOne` on `fastaText name desc res ++ tail` (`tail` = nothing, or the next record). -/
theorem specOne_fastaText (inmap map : Bytes) (N : Nat) (name desc res tail : List UInt8)
    (hgt : EodGt inmap) (hnld : isData inmap chNl = true) (hnlr : isRes inmap chNl = false) (hcrr : isRes inmap chCr = false)
    (hn1 : name ≠ []) (hn2 : ∀ c ∈ name, isSpace c = false)
    (hd1 : ∀ c ∈ desc, pDesc c = true) (hd2 : ∀ c t, desc = c :: t → isBlankTab c = false)
    (hr : ∀ c ∈ res, isRes inmap c = true) (ht : ∀ c t, tail = c :: t → isEod inmap c = true) :
    specOne inmap map N (fastaText name desc res ++ tail) =
      (.ok, some ⟨name, desc, res.map (fun c => map.getD c.toNat 0),
                  offOf N (fastaText name desc res ++ tail),
                  offOf N ([chNl] ++ chunk60 res (res.length + 1) ++ tail),
                  offOf N (chunk60 res (res.length + 1) ++ tail),
                  offOf N tail - 1, ((res.map (fun c => map.getD c.toNat 0)).length : Int)⟩, tail) := by
  obtain ⟨k1, k2, k3⟩ := chunk60_data inmap hnld hnlr (res.length + 1) res (Nat.lt_succ_self _) hr
  generalize hch : chunk60 res (res.length + 1) = chunks at k1 k2 k3 ⊢
  have ht_nd : ∀ c t, tail = c :: t → isData inmap c = false := fun c t h => isEod_not_isData inmap c (ht c t h)
  have ht_ne : ∀ c t, tail = c :: t → pEol c = false := by
    intro c t h
    have := hgt c (ht c t h)
    rw [this]; decide
  have hct_ne : ∀ c t, chunks ++ tail = c :: t → pEol c = false := by
    intro c t h
    cases hc : chunks with
    | nil => rw [hc] at h; exact ht_ne c t h
    | cons x xs =>
      rw [hc] at h
      have hx : c = x := ((List.cons.inj h).1).symm
      have hxr := k3 x xs hc
      rw [hx]
      by_cases e1 : x = chNl
      · rw [e1, hnlr] at hxr; cases hxr
      · by_cases e2 : x = chCr
        · rw [e2, hcrr] at hxr; cases hxr
        · simp [pEol, e1, e2]
  have e6 : ([chNl] ++ chunks ++ tail).dropWhile pEol = chunks ++ tail := by
    have : pEol chNl = true := by decide
    simp only [List.cons_append, List.nil_append, List.dropWhile_cons_of_pos this]
    exact (dw_none pEol (chunks ++ tail) hct_ne).1
  obtain ⟨d1, d2⟩ := tw_split (isData inmap) chunks tail k1 ht_nd
  have hnl_notEol : ∀ c t, [chNl] ++ chunks ++ tail = c :: t → pNotEol c = false := by
    intro c t h; have := (List.cons.inj h).1; rw [← this]; decide
  have hnl_pDesc : ∀ c t, [chNl] ++ chunks ++ tail = c :: t → pDesc c = false := by
    intro c t h; have := (List.cons.inj h).1; rw [← this]; decide
  have eD : ∀ X, X = (if desc.isEmpty then [] else 32 :: desc) ++ ([chNl] ++ chunks ++ tail) →
      (X.dropWhile isBlankTab).takeWhile pDesc = desc ∧
      ((X.dropWhile isBlankTab).dropWhile pDesc).dropWhile pNotEol = [chNl] ++ chunks ++ tail ∧
      (∀ c t, X = c :: t → pName c = false) := by
    intro X hX
    cases hdc : desc with
    | nil =>
      rw [hdc] at hX
      simp only [List.isEmpty_nil, if_true, List.nil_append] at hX
      have hb : ∀ c t, X = c :: t → isBlankTab c = false := by
        intro c t h; rw [hX] at h; have := (List.cons.inj h).1; rw [← this]; decide
      rw [(dw_none isBlankTab X hb).1, hX, (dw_none pDesc _ hnl_pDesc).2, (dw_none pDesc _ hnl_pDesc).1, (dw_none pNotEol _ hnl_notEol).1]
      refine ⟨rfl, rfl, ?_⟩
      intro c t h; have := (List.cons.inj h).1; rw [← this]; decide
    | cons x xs =>
      rw [hdc] at hX
      simp only [List.isEmpty_cons, Bool.false_eq_true, if_false, List.cons_append] at hX
      have hb32 : isBlankTab 32 = true := by decide
      have hxb : isBlankTab x = false := hd2 x xs hdc
      have hxb' : ¬ isBlankTab x = true := by simp [hxb]
      have hX2 : X.dropWhile isBlankTab = (x :: xs) ++ ([chNl] ++ chunks ++ tail) := by
        rw [hX, List.dropWhile_cons_of_pos hb32]
        simp only [List.cons_append, List.dropWhile_cons_of_neg hxb']
      obtain ⟨t1, t2⟩ := tw_split pDesc (x :: xs) ([chNl] ++ chunks ++ tail) (by rw [← hdc]; exact hd1) hnl_pDesc
      rw [hX2, t1, t2, (dw_none pNotEol _ hnl_notEol).1]
      refine ⟨rfl, rfl, ?_⟩
      intro c t h; rw [hX] at h; have := (List.cons.inj h).1; rw [← this]; decide
  obtain ⟨n0, nt, hname⟩ : ∃ n0 nt, name = n0 :: nt := by
    cases name with
    | nil => exact absurd rfl hn1
    | cons a b => exact ⟨a, b, rfl⟩
  have hnameP : ∀ c ∈ name, pName c = true := fun c hc => by simp [pName, hn2 c hc]
  have hn0b : isBlankTab n0 = false := by
    have := hn2 n0 (by rw [hname]; simp)
    simp only [isSpace, Bool.or_eq_false_iff] at this
    simp only [isBlankTab, Bool.or_eq_false_iff]
    refine ⟨this.1, ?_⟩
    have h2 := this.2
    by_cases e : n0 = 9
    · subst e; revert h2; decide
    · simpa using e
  obtain ⟨D1, D2, D3⟩ := eD _ rfl
  have hl2 : ∀ Y, (name ++ Y).dropWhile isBlankTab = name ++ Y := by
    intro Y
    rw [hname]
    have : ¬ isBlankTab n0 = true := by simp [hn0b]
    simp only [List.cons_append, List.dropWhile_cons_of_neg this]
  obtain ⟨N1, N2⟩ := tw_split pName name ((if desc.isEmpty then [] else 32 :: desc) ++ ([chNl] ++ chunks ++ tail)) hnameP D3
  have hwhole : fastaText name desc res ++ tail =
      chGt :: (name ++ ((if desc.isEmpty then [] else 32 :: desc) ++ ([chNl] ++ chunks ++ tail))) := by
    simp only [fastaText, hch, List.append_assoc, List.cons_append, List.nil_append]
  have hsp : (fastaText name desc res ++ tail).dropWhile isSpace = fastaText name desc res ++ tail := by
    rw [hwhole]
    have : ¬ isSpace chGt = true := by decide
    exact List.dropWhile_cons_of_neg this
  unfold specOne
  rw [hsp]
  rw [hwhole]
  simp only []
  have hgtb : (chGt != chGt) = false := by simp
  simp only [hgtb, Bool.false_eq_true, if_false, hl2, N1, N2, D1, D2, e6, d1, d2, k2]
  have hne : name.isEmpty = false := by rw [hname]; rfl
  simp only [hne, Bool.false_eq_true, if_false]
  cases htl : tail with
  | nil => simp
  | cons c t =>
    have := ht c t htl
    simp [this]


/-- what the writer may be given: a non-empty name without white space, a description without end-of-line / ctrl-A bytes that does
    not start with a blank, residues the input map accepts -/
structure Good (inmap : Bytes) (r : List UInt8 × List UInt8 × List UInt8) : Prop where
  n1 : r.1 ≠ []
  n2 : ∀ c ∈ r.1, isSpace c = false
  d1 : ∀ c ∈ r.2.1, pDesc c = true
  d2 : ∀ c t, r.2.1 = c :: t → isBlankTab c = false
  res : ∀ c ∈ r.2.2, isRes inmap c = true

def allText : List (List UInt8 × List UInt8 × List UInt8) → List UInt8
  | [] => []
  | r :: rs => fastaText r.1 r.2.1 r.2.2 ++ allText rs

/-- the records a reader must return for `allText rs` as a file of `N` bytes -/
def expected (map : Bytes) (N : Nat) : List (List UInt8 × List UInt8 × List UInt8) → List Record
  | [] => []
  | r :: rs =>
    ⟨r.1, r.2.1, r.2.2.map (fun c => map.getD c.toNat 0), offOf N (fastaText r.1 r.2.1 r.2.2 ++ allText rs),
     offOf N ([chNl] ++ chunk60 r.2.2 (r.2.2.length + 1) ++ allText rs), offOf N (chunk60 r.2.2 (r.2.2.length + 1) ++ allText rs),
     offOf N (allText rs) - 1, ((r.2.2.map (fun c => map.getD c.toNat 0)).length : Int)⟩ :: expected map N rs

theorem allText_head (rs : List (List UInt8 × List UInt8 × List UInt8)) : ∀ c t, allText rs = c :: t → c = chGt := by
  intro c t h
  cases rs with
  | nil => cases h
  | cons r rs' =>
    simp only [allText, fastaText, List.append_assoc, List.cons_append, List.nil_append] at h
    exact ((List.cons.inj h).1).symm

theorem specAll_allText (inmap map : Bytes) (N : Nat) (hgt : EodGt inmap) (hgtE : isEod inmap chGt = true)
    (hnld : isData inmap chNl = true) (hnlr : isRes inmap chNl = false) (hcrr : isRes inmap chCr = false) :
    ∀ (rs : List (List UInt8 × List UInt8 × List UInt8)) (fuel : Nat), rs.length < fuel → (∀ r ∈ rs, Good inmap r) →
      specAll inmap map N fuel (allText rs) = (expected map N rs, .eof) := by
  intro rs
  induction rs with
  | nil =>
    intro fuel hf _
    cases fuel with
    | zero => simp at hf
    | succ fuel => simp [specAll, specOne, allText, expected]
  | cons r rs ih =>
    intro fuel hf hg
    cases fuel with
    | zero => simp at hf
    | succ fuel =>
      have G := hg r (by simp)
      have ht : ∀ c t, allText rs = c :: t → isEod inmap c = true := by
        intro c t h; rw [allText_head rs c t h]; exact hgtE
      have key := specOne_fastaText inmap map N r.1 r.2.1 r.2.2 (allText rs) hgt hnld hnlr hcrr G.n1 G.n2 G.d1 G.d2 G.res ht
      simp only [specAll, allText]
      rw [key]
      simp only []
      rw [ih fuel (by simp at hf; omega) (fun r' hr' => hg r' (by simp [hr']))]
      rfl

/-- `>` ends the data, a newline is consumed and is no residue, a carriage return is no residue: in every mode, because
    `inmap_fasta` sets these three bytes itself (the first three cases of `inmapFasta_getD`) -/
theorem fasta_marks (abc : Nat) : isEod (inmapFasta abc) chGt = true ∧ isData (inmapFasta abc) chNl = true ∧
    isRes (inmapFasta abc) chNl = false ∧ isRes (inmapFasta abc) chCr = false := by
  have c1 : code (inmapFasta abc) chGt = Tables.dsqEod := by
    rw [code, if_neg (by decide), inmapFasta_getD abc _ _ (by decide)]; rfl
  have c2 : code (inmapFasta abc) chNl = Tables.dsqEol := by
    rw [code, if_neg (by decide), inmapFasta_getD abc _ _ (by decide)]; rfl
  have c3 : code (inmapFasta abc) chCr = Tables.dsqIgnored := by
    rw [code, if_neg (by decide), inmapFasta_getD abc _ _ (by decide)]; rfl
  simp only [isEod, isData, isRes, c1, c2, c3]
  decide

theorem length_le_allText : ∀ (l : List (List UInt8 × List UInt8 × List UInt8)), l.length ≤ (allText l).length
  | [] => Nat.zero_le _
  | r :: l => by
    have := length_le_allText l
    simp only [allText, fastaText, List.length_append, List.length_cons, List.length_nil]; omega

/-- name, description and residues of `expected`: those of the records, the residues through the map -/
theorem expected_fields (map : Bytes) (N : Nat) : ∀ (rs : List (List UInt8 × List UInt8 × List UInt8)),
    (expected map N rs).map (fun x => (x.name, x.desc, x.seq)) =
      rs.map (fun r => (r.1, r.2.1, r.2.2.map (fun c => map.getD c.toNat 0)))
  | [] => rfl
  | r :: rs => by simp only [expected, List.map_cons, expected_fields map N rs]

/-- **Text mode: `specFasta (write rs) = rs`.** For every list of writable records, the FASTA text the writer produces parses back —
    by `specFasta 0`, which IS the reader for every block size (`C04.read_all_eq_specFasta`) — into exactly these records and `eslEOF`. -/
theorem specFasta_allText (rs : List (List UInt8 × List UInt8 × List UInt8)) (hg : ∀ r ∈ rs, Good (inmapFasta 0) r) :
    specFasta 0 (allText rs) = (expected (inmapFasta 0) (allText rs).length rs, .eof) := by
  obtain ⟨t2, t3, t4, t5⟩ := fasta_marks 0
  unfold specFasta
  simp only [if_true]
  refine specAll_allText (inmapFasta 0) (inmapFasta 0) _ (ParseFasta.eodGt_fasta 0 (by decide)) t2 t3 t4 t5 rs _ ?_ hg
  have := length_le_allText rs
  omega

/-- in text mode the residues are stored as they stand in the file: an entry of the map is a letter or `*` standing for itself, or
    one of the codes above 127 -/
theorem text_map_id (c : UInt8) (h : isRes (inmapFasta 0) c = true) : (inmapFasta 0).getD c.toNat 0 = c := by
  simp only [isRes, decide_eq_true_eq] at h
  obtain ⟨hlt, hc⟩ := ParseFasta.code_lt (inmapFasta 0) c (by intro k; rw [k] at h; revert h; decide)
  rw [hc, inmapFasta_getD 0 _ _ hlt] at h
  rw [inmapFasta_getD 0 _ _ hlt]
  simp only [if_true, Tables.dsqEod, Tables.dsqEol, Tables.dsqIgnored, Tables.dsqIllegal] at h ⊢
  by_cases e : c.toNat = 62; · simp [e] at h
  by_cases e : c.toNat = 10; · simp [e] at h
  by_cases e : c.toNat = 13; · simp [e] at h
  by_cases e : c.toNat = 9; · simp [e] at h
  by_cases e : c.toNat = 32; · simp [e] at h
  by_cases e : c.toNat = 42; · simp only [e, if_true]; exact UInt8.toNat_inj.mp e.symm
  simp only [*, if_false] at h ⊢
  split at h
  · rename_i hl; rw [if_pos hl]; exact UInt8.ofNat_toNat
  · exact absurd h (by decide)

theorem text_map_id_list (res : List UInt8) (h : ∀ c ∈ res, isRes (inmapFasta 0) c = true) :
    res.map (fun c => (inmapFasta 0).getD c.toNat 0) = res := by
  induction res with
  | nil => rfl
  | cons x xs ih =>
    simp only [List.map_cons, text_map_id x (h x (by simp)), ih (fun c hc => h c (by simp [hc]))]

/-- ... so in text mode `expected` gives the records back as they were written -/
theorem expected_fields_text (rs : List (List UInt8 × List UInt8 × List UInt8)) (hg : ∀ r ∈ rs, Good (inmapFasta 0) r) (N : Nat) :
    (expected (inmapFasta 0) N rs).map (fun x => (x.name, x.desc, x.seq)) = rs := by
  rw [expected_fields]
  conv => rhs; rw [← List.map_id rs]
  exact List.map_congr_left fun r hr => by rw [text_map_id_list r.2.2 (hg r hr).res]; rfl

/-- the bytes `esl_sqascii_WriteFasta` writes for a text-mode record without accession whose strings hold no NUL -/
theorem writeFasta_text (sq : Sq) (hd : sq.digital = false) (ha : cstr sq.acc = #[]) (hn : cstr sq.name = sq.name) (hds : cstr sq.desc = sq.desc) :
    writeFasta sq = fastaText sq.name.toList sq.desc.toList sq.seq.toList := by
  unfold writeFasta fastaText
  simp [hd, ha, hn, hds]


/-- the gap code `K` of the alphabet (written as `-`, which the FASTA reader does not accept as a residue) -/
def gapCode (abc : Nat) : Nat := if abc = 3 then 20 else 4

/-- what the writer prints for digital residues -/
def textize (abc : Nat) (codes : List UInt8) : List UInt8 := codes.map (fun x => (abcSym abc).getD x.toNat 63)

/-- the symbol and input tables of the three alphabets: every code below the alphabet size other than the gap is written as an
    ASCII symbol, none of those `inmap_fasta` overrides, which the alphabet's input map sends back to the code -/
theorem sym_tables : ∀ abc ∈ [1, 2, 3], (abcSym abc).size ≤ 32 ∧ ∀ x : Fin 32, x.val < (abcSym abc).size → x.val ≠ gapCode abc →
    ((abcSym abc).getD x.val 63).toNat < 128 ∧ ((abcSym abc).getD x.val 63).toNat ∉ [62, 10, 13, 9, 32, 45] ∧
    (abcInmap abc).getD ((abcSym abc).getD x.val 63).toNat 254 ≤ 127 ∧
    (abcInmap abc).getD ((abcSym abc).getD x.val 63).toNat 0 = UInt8.ofNat x.val := by decide +kernel

/-- such a symbol is a residue for the FASTA reader in digital mode: `inmap_fasta` takes its entry from the alphabet's map (`*` apart) -/
theorem sym_isRes (abc : Nat) (h0 : abc ≠ 0) (s : UInt8) (hs : s.toNat < 128) (hn : s.toNat ∉ [62, 10, 13, 9, 32, 45])
    (ha : (abcInmap abc).getD s.toNat 254 ≤ 127) : isRes (inmapFasta abc) s = true := by
  have hlt : ¬ s ≥ 128 := UInt8.not_le.mpr (UInt8.lt_iff_toNat_lt.mpr hs)
  simp only [List.mem_cons, List.not_mem_nil, or_false, not_or] at hn
  obtain ⟨n1, n2, n3, n4, n5, n6⟩ := hn
  simp only [isRes, code, if_neg hlt, decide_eq_true_eq]
  rw [inmapFasta_getD abc _ _ hs]
  simp only [n1, n2, n3, n4, n5, n6, h0, if_false]
  split
  · decide
  · exact ha

/-- a residue code the writer turns into a residue symbol: inside the alphabet and not the gap -/
def CodeOk (abc : Nat) (x : UInt8) : Prop := x.toNat < (abcSym abc).size ∧ x.toNat ≠ gapCode abc

theorem textize_ok (abc : Nat) (habc : abc ∈ [1, 2, 3]) (codes : List UInt8) (h : ∀ x ∈ codes, CodeOk abc x) :
    (∀ c ∈ textize abc codes, isRes (inmapFasta abc) c = true) ∧
    (textize abc codes).map (fun c => (abcInmap abc).getD c.toNat 0) = codes := by
  obtain ⟨h32, tab⟩ := sym_tables abc habc
  have h0 : abc ≠ 0 := by rintro rfl; exact absurd habc (by decide)
  induction codes with
  | nil => exact ⟨fun c hc => (by cases hc), rfl⟩
  | cons x xs ih =>
    obtain ⟨i1, i2⟩ := ih (fun y hy => h y (by simp [hy]))
    obtain ⟨k1, k2⟩ := h x (by simp)
    have hx32 : x.toNat < 32 := by omega
    obtain ⟨s1, s2, s3, t2⟩ := tab ⟨x.toNat, hx32⟩ k1 k2
    have t1 := sym_isRes abc h0 _ s1 s2 s3
    simp only [UInt8.ofNat_toNat] at t2
    refine ⟨?_, ?_⟩
    · intro c hc
      simp only [textize, List.map_cons, List.mem_cons] at hc
      rcases hc with hc | hc
      · rw [hc]; exact t1
      · exact i1 c hc
    · simp only [textize, List.map_cons] at i2 ⊢
      rw [t2, i2]

/-- **Digital mode: `specFasta abc (write rs) = rs`** (DNA / RNA / amino): records whose residues are codes of the alphabet other than the
    gap are written as symbols (`textize`) and parsed back — by the reader in the same digital mode — into the same codes. -/
theorem specFasta_allText_digital (abc : Nat) (habc : abc ∈ [1, 2, 3]) (rs : List (List UInt8 × List UInt8 × List UInt8))
    (hn : ∀ r ∈ rs, r.1 ≠ [] ∧ (∀ c ∈ r.1, isSpace c = false) ∧ (∀ c ∈ r.2.1, pDesc c = true) ∧
      (∀ c t, r.2.1 = c :: t → isBlankTab c = false) ∧ ∀ x ∈ r.2.2, CodeOk abc x) :
    specFasta abc (allText (rs.map fun r => (r.1, r.2.1, textize abc r.2.2))) =
      (expected (abcInmap abc) (allText (rs.map fun r => (r.1, r.2.1, textize abc r.2.2))).length
         (rs.map fun r => (r.1, r.2.1, textize abc r.2.2)), .eof) ∧
    (expected (abcInmap abc) (allText (rs.map fun r => (r.1, r.2.1, textize abc r.2.2))).length
       (rs.map fun r => (r.1, r.2.1, textize abc r.2.2))).map (fun x => (x.name, x.desc, x.seq)) = rs := by
  obtain ⟨t2, t3, t4, t5⟩ := fasta_marks abc
  have h0 : abc ≠ 0 := by intro k; subst k; simp at habc
  have habc' : abc ∈ [0, 1, 2, 3] := by simp at habc ⊢; omega
  have hg : ∀ r ∈ (rs.map fun r => (r.1, r.2.1, textize abc r.2.2)), Good (inmapFasta abc) r := by
    intro r hr
    obtain ⟨r0, hr0, rfl⟩ := List.mem_map.mp hr
    obtain ⟨g1, g2, g3, g4, g5⟩ := hn r0 hr0
    exact ⟨g1, g2, g3, g4, (textize_ok abc habc r0.2.2 g5).1⟩
  refine ⟨?_, ?_⟩
  · unfold specFasta
    simp only [h0, if_false]
    refine specAll_allText (inmapFasta abc) (abcInmap abc) _ (ParseFasta.eodGt_fasta abc habc') t2 t3 t4 t5 _ _ ?_ hg
    have := length_le_allText (rs.map fun r => (r.1, r.2.1, textize abc r.2.2))
    omega
  · rw [expected_fields, List.map_map]
    conv => rhs; rw [← List.map_id rs]
    exact List.map_congr_left fun r hr => by
      simp only [Function.comp, (textize_ok abc habc r.2.2 (hn r hr).2.2.2.2).2]; rfl

/-- the bytes `esl_sqascii_WriteFasta` writes for a digital record without accession whose strings hold no NUL -/
theorem writeFasta_digital (sq : Sq) (hd : sq.digital = true) (ha : cstr sq.acc = #[]) (hn : cstr sq.name = sq.name) (hds : cstr sq.desc = sq.desc) :
    writeFasta sq = fastaText sq.name.toList sq.desc.toList (textize sq.abc sq.seq.toList) := by
  unfold writeFasta fastaText textize
  simp [hd, ha, hn, hds]

end EaselModel.Sqio.RoundTrip
