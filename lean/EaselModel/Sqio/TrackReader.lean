import EaselModel.Sqio.TrackBytes
/-! # The reader loop leaves the tracker of the record's line counts (C07)

`scanLoop false` is the body loop of `sqascii_ReadInfo` — `loadbuf` / `seebuf` until the end of the record's data — i.e. what
`create_ssi_index` runs on every record. `DataScan.scanLoop_info` (C04): whatever the read-block size, it leaves the tracker of the byte
fold `dataFold` over the rest of the file. Here: that byte fold stops at the first byte that is not sequence data and is the fold of
`trkByte` over the record's data bytes (`scanBytes_trk`); every stretch of data bytes is terminated lines followed by an unterminated rest
(`splitEol`); so, with `TrackBytes.fold_record`, after `header_*` the loop leaves `scanRec` of the record's line counts (`infoBody_trk`):
the per-record step of `scanFile`, the object of `bplrpl_sound`. -/
namespace EaselModel.Sqio.TrackReader
open EaselModel.Sqio EaselModel.Sqio.Fold EaselModel.Sqio.BodySpec EaselModel.Sqio.Tracker EaselModel.Sqio.GeomBridge
open EaselModel.Sqio.TrackBytes EaselModel.Sqio.DataScan EaselModel.Sqio.Refine Tables

theorem stepByte_stop (inmap : Bytes) (s : SS) (c : UInt8) (hd : isData inmap c = false) : (stepByte inmap s c).2 ≠ .ok := by
  rw [stepByte_eq, if_neg (by rw [hd]; exact Bool.false_ne_true)]
  dsimp only
  split
  · decide
  · split <;> decide

theorem scanBytes_trk (inmap : Bytes) (hm : inmap.size = 128) (M : Nat) (l : List UInt8) :
    ∀ (s : SS) (k : Nat), s.nres + l.length ≤ M →
    (scanBytes inmap M l s k).1.trk = (l.takeWhile (isData inmap)).foldl (trkByte inmap) s.trk := by
  induction l with
  | nil => intro s k _; rfl
  | cons c rest ih =>
    intro s k hM
    simp only [List.length_cons] at hM
    have hlt : s.nres < M := by omega
    obtain ⟨_, p2, _, p4⟩ := stepByte_props inmap s c
    cases hd : isData inmap c
    · have hne := stepByte_stop inmap s c hd
      rw [scanBytes_cons_stop inmap M c rest s k hlt hne, p4 hne, List.takeWhile_cons_of_neg (by rw [hd]; exact Bool.false_ne_true)]
      rfl
    · obtain ⟨q1, q2⟩ := stepByte_trk inmap hm s c hd
      rw [scanBytes_cons_ok inmap M c rest s k hlt q1, ih _ (k + 1) (by omega), q2, List.takeWhile_cons_of_pos hd]
      rfl

/-- data bytes cut at their end-of-line bytes: terminated lines and the unterminated rest -/
def splitEol (inmap : Bytes) : List UInt8 → List UInt8 → List (List UInt8) × List UInt8
  | [], cur => ([], cur)
  | c :: t, cur =>
    if code inmap c == dsqEol then let r := splitEol inmap t []; ((cur ++ [c]) :: r.1, r.2)
    else splitEol inmap t (cur ++ [c])

theorem splitEol_spec (inmap : Bytes) (d : List UInt8) : ∀ cur : List UInt8, (∀ c ∈ cur, code inmap c ≠ dsqEol) →
    cur ++ d = (splitEol inmap d cur).1.flatten ++ (splitEol inmap d cur).2 ∧
    (∀ l ∈ (splitEol inmap d cur).1, Terminated inmap l) ∧ (∀ c ∈ (splitEol inmap d cur).2, code inmap c ≠ dsqEol) := by
  induction d with
  | nil => intro cur hc; exact ⟨by simp [splitEol], by simp [splitEol], by simpa [splitEol] using hc⟩
  | cons c t ih =>
    intro cur hc
    by_cases he : code inmap c = dsqEol
    · have hb : (code inmap c == dsqEol) = true := by simpa using he
      obtain ⟨i1, i2, i3⟩ := ih [] (by simp)
      simp only [splitEol, hb, if_true, List.flatten_cons, List.mem_cons]
      refine ⟨?_, ?_, i3⟩
      · simp only [List.nil_append] at i1
        rw [List.append_assoc, ← i1]; simp
      · intro l hl
        rcases hl with rfl | hl
        · exact ⟨cur, c, rfl, hc, he⟩
        · exact i2 l hl
    · have hb : (code inmap c == dsqEol) = false := by simpa using he
      have := ih (cur ++ [c]) (by
        intro x hx; rw [List.mem_append, List.mem_singleton] at hx
        rcases hx with hx | rfl
        · exact hc x hx
        · exact he)
      simp only [splitEol, hb, Bool.false_eq_true, if_false]
      simpa [List.append_assoc] using this

/-- the line counts of a stretch of data bytes, as the tracker sees them -/
def recOfData (inmap : Bytes) (d : List UInt8) : Rec :=
  recOf (isRes inmap) (splitEol inmap d []).1 (splitEol inmap d []).2

/-- **the byte fold over a record = `scanRec` of its line counts**: from the state `header_*` leaves (`Tracker.step t Ev.hdr`), the fold
    over the rest of the file `l` stops at the first non-data byte and leaves `scanRec t` of the data bytes' line counts -/
theorem scanBytes_record (inmap : Bytes) (hm : inmap.size = 128) (M : Nat) (l : List UInt8) (t : Track) (ln : Int) (hM : l.length ≤ M) :
    (scanBytes inmap M l ⟨Tracker.step t Ev.hdr, ln, 0⟩ 0).1.trk = scanRec t (recOfData inmap (l.takeWhile (isData inmap))) := by
  rw [scanBytes_trk inmap hm M l _ 0 (by simpa using hM)]
  obtain ⟨s1, s2, s3⟩ := splitEol_spec inmap (l.takeWhile (isData inmap)) [] (by simp)
  simp only [List.nil_append] at s1
  show List.foldl (trkByte inmap) (Tracker.step t Ev.hdr) (l.takeWhile (isData inmap)) = _
  conv => lhs; rw [s1]
  exact fold_record inmap _ _ s2 s3 t

/-- **the ReadInfo body loop, for every read-block size**: from a handle standing behind a record's header (`header_*` has just reset the
    tracker: `a.trk = step t hdr`), the loop `loadbuf`/`seebuf` to the end of the record's data leaves the tracker `scanRec t` of the
    line counts of the record's data bytes (the bytes from the cursor to the first byte that is not sequence data) -/
theorem infoBody_trk (a : Ascii) (sq : Sq) (t : Track) (fuel : Nat) (h : WF a) (ht : a.trk = Tracker.step t Ev.hdr)
    (hm : a.inmap.size = 128) (hfuel : (fileFrom a).length + 1 < fuel)
    (hst : (dataFold a (fileFrom a).length).2.2 ≠ .eformat) :
    (scanLoop false fuel a sq).1.trk = scanRec t (recOfData a.inmap ((fileFrom a).takeWhile (isData a.inmap))) := by
  have hok : Track.Ok a.trk := by rw [ht]; exact reset_ok t
  obtain ⟨_, _, k3⟩ := scanLoop_info fuel a sq (fileFrom a).length h hok hm (Nat.le_refl _) (by split <;> omega)
  obtain ⟨_, hp, _, _⟩ := k3 hst
  have htrk : (scanLoop false fuel a sq).1.trk = (dataFold a (fileFrom a).length).1.trk := congrArg (fun p => p.2.2.2.1) hp
  rw [htrk]
  unfold dataFold
  rw [ht]
  exact scanBytes_record a.inmap hm _ _ t _ (Nat.le_refl _)

end EaselModel.Sqio.TrackReader
