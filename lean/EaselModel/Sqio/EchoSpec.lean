import EaselModel.Sqio.Fetch
import EaselModel.Sqio.LineSpec
import EaselModel.Sqio.Refine
import EaselModel.Sqio.ScanRecord
/-! # `sqascii_Echo` regurgitates exactly the bytes `roff..eoff` of the file, for every block size `B ≥ 1` (C04 / C07)

`echo a sq` positions the handle at `sq.roff`, copies whole buffers while `boff + nc ≤ eoff`, then the first
`eoff - boff + 1` bytes of the last buffer, and re-positions at `roff`. The theorem `echo_eq_scan_bytes` says that
in block mode the output is `file[roff, eoff]` (inclusive), the status is `eslOK`, and the handle is left as a
well-formed cursor at `roff` with `linenumber` and `L` restored — whatever the block size. -/
namespace EaselModel.Sqio.EchoSpec
open EaselModel.Sqio EaselModel.Sqio.Refine

theorem echoLoop_succ (fuel : Nat) (a : Ascii) (eoff : Int) (out : Bytes) :
    echoLoop (fuel + 1) a eoff out =
      if a.boff + a.nc ≤ eoff then
        (if ((loadbuf a).2 != .ok) = true then
          ((loadbuf a).1.raise,
           out ++ (if a.linebased then a.line.extract 0 a.nc else a.file.extract a.boff.toNat (a.boff.toNat + a.nc)),
           Status.ecorrupt)
         else echoLoop fuel (loadbuf a).1 eoff
           (out ++ (if a.linebased then a.line.extract 0 a.nc else a.file.extract a.boff.toNat (a.boff.toNat + a.nc))))
      else (a, out, .ok) := rfl

/-- a block-mode handle on `file` whose buffer is a non-empty block beginning at the cursor -/
structure Block (file : Bytes) (B : Nat) (a : Ascii) : Prop where
  wf : WF a
  bpos0 : a.bpos = 0
  ncPos : 0 < a.nc
  fileEq : a.file = file
  BEq : a.B = B

/-- `loadbuf` when nothing is buffered and the file goes on: one `fread` of a non-empty block at `fpos` -/
theorem loadbuf_fresh {X : Ascii} (hpre : Pre X) (hlt : X.fpos < X.file.size) :
    ∃ a', loadbuf X = (a', .ok) ∧ Block X.file X.B a' ∧ a'.boff = (X.fpos : Int) ∧ a'.linenumber = X.linenumber ∧ a'.L = X.L := by
  obtain ⟨hwf, hbp, hfile, hB, hp, hcase⟩ := loadbuf_wf X hpre
  have hk := Frame.loadbuf_payload X
  rcases hcase with ⟨hst, hnc, _⟩ | ⟨_, _, heq⟩
  · refine ⟨(loadbuf X).1, Prod.ext rfl hst, ⟨hwf, hbp, hnc, hfile, hB⟩, ?_, congrArg (fun p => p.2.2.1) hk, congrArg (fun p => p.2.1) hk⟩
    simp only [pos, hbp] at hp
    simpa using hp
  · omega

/-- `sqascii_Position(off)` with `off` inside the file: one `fread` at `off`, never EOF -/
theorem position_block (a : Ascii) (off : Nat) (hb : a.linebased = false) (hr : a.recording ≠ 1) (hB : 1 ≤ a.B)
    (hoff : off < a.file.size) : ∃ a1, position a off = (a1, .ok) ∧ Block a.file a.B a1 ∧ a1.boff = (off : Int) := by
  have hpre : Pre { a with fpos := off, trk := a.trk.reset, linenumber := if off == 0 then 1 else -1, L := -1, mpos := a.mn } :=
    ⟨hb, hr, hB, Nat.le_refl _, Nat.le_of_lt hoff⟩
  obtain ⟨a1, h, hblk, ho, _⟩ := loadbuf_fresh hpre hoff
  exact ⟨a1, h, hblk, ho⟩

theorem next_block {file : Bytes} {B : Nat} {a : Ascii} (h : Block file B a) (hlt : a.boff + a.nc < (file.size : Int)) :
    ∃ a', loadbuf a = (a', .ok) ∧ Block file B a' ∧ a'.boff = a.boff + a.nc ∧ a'.linenumber = a.linenumber ∧ a'.L = a.L := by
  have hfpos : (a.fpos : Int) = a.boff + a.nc := by
    have := h.wf.fposEq; have := h.wf.boffEq; have := h.wf.ncLe; omega
  obtain ⟨a', e, hblk, ho, k⟩ := loadbuf_fresh h.wf.toPre (by rw [h.fileEq]; omega)
  exact ⟨a', e, h.fileEq ▸ h.BEq ▸ hblk, ho.trans hfpos, k⟩

theorem echoLoop_spec (file : Bytes) (B : Nat) (roff eoff : Int) (h0 : 0 ≤ roff) (h2 : eoff < (file.size : Int)) :
    ∀ (fuel : Nat) (a : Ascii), Block file B a → roff ≤ a.boff → a.boff ≤ eoff → file.size - a.boff.toNat < fuel →
      ∃ a', echoLoop fuel a eoff (file.extract roff.toNat a.boff.toNat) = (a', file.extract roff.toNat a'.boff.toNat, .ok) ∧
        Block file B a' ∧ roff ≤ a'.boff ∧ a'.boff ≤ eoff ∧ eoff < a'.boff + a'.nc ∧
        a'.linenumber = a.linenumber ∧ a'.L = a.L := by
  intro fuel
  induction fuel with
  | zero => intro a _ _ _ hf; omega
  | succ fuel ih =>
    intro a hb hlo hhi hf
    rw [echoLoop_succ]
    by_cases hc : a.boff + a.nc ≤ eoff
    · obtain ⟨a', hl, hb', hboff, k1, k2⟩ := next_block hb (by omega)
      have hglue : file.extract roff.toNat a.boff.toNat ++ a.file.extract a.boff.toNat (a.boff.toNat + a.nc)
          = file.extract roff.toNat a'.boff.toNat := by
        rw [hb.fileEq, hboff, show (a.boff + (a.nc : Int)).toNat = a.boff.toNat + a.nc by omega]
        exact LineSpec.extract_glue file _ _ _ (by omega) (by omega)
      have hne : (Status.ok != Status.ok) = false := by decide
      rw [if_pos hc, hl]
      simp only [hne, Bool.false_eq_true, if_false, hb.wf.block]
      rw [hglue]
      obtain ⟨a'', e, r⟩ := ih a' hb' (by omega) (by omega) (by have := hb.ncPos; omega)
      exact ⟨a'', e, k1 ▸ k2 ▸ r⟩
    · rw [if_neg hc]
      exact ⟨a, rfl, hb, hlo, hhi, by omega, rfl, rfl⟩

theorem echo_unfold (a : Ascii) (sq : Sq) (hne : (sq.roff == -1 || sq.eoff == -1) = false)
    (a1 : Ascii) (hp1 : position a sq.roff.toNat = (a1, .ok))
    (a2 : Ascii) (out : Bytes) (hl : echoLoop (fuelOf a1) a1 sq.eoff #[] = (a2, out, .ok))
    (hn : ¬ (sq.eoff - a2.boff + 1 < 0 ∨ sq.eoff - a2.boff + 1 > a2.nc)) (hlb : a2.linebased = false)
    (a3 : Ascii) (hp3 : position a2 sq.roff.toNat = (a3, .ok)) :
    echo a sq =
      ({ a3 with linenumber := a.linenumber, L := a.L,
                 trk := { a3.trk with currpl := a.trk.currpl, curbpl := a.trk.curbpl, prvrpl := a.trk.prvrpl,
                                      prvbpl := a.trk.prvbpl } },
       .ok, out ++ a2.file.extract a2.boff.toNat (a2.boff.toNat + (sq.eoff - a2.boff + 1).toNat)) := by
  have e1 : (Status.ok == Status.eof) = false := by decide
  have e2 : (Status.ok != Status.ok) = false := by decide
  have hn' : (decide (sq.eoff - a2.boff + 1 < 0) || decide (sq.eoff - a2.boff + 1 > a2.nc)) = false := by
    simpa using hn
  unfold echo
  simp only [hne, hp1, hl, hp3, e1, e2, hn', hlb, Bool.false_eq_true, if_false]

/-- For every block size `B ≥ 1`, `sqascii_Echo` returns `eslOK` and exactly the bytes `roff..eoff`
    (inclusive) of the file; the handle is left as a well-formed cursor on `roff` with a non-empty buffer, on the same
    file with the same block size, and with `linenumber` and `L` as they were before the call. -/
theorem echo_eq_scan_bytes (a : Ascii) (sq : Sq) (hb : a.linebased = false) (hr : a.recording ≠ 1) (hB : 1 ≤ a.B)
    (h0 : 0 ≤ sq.roff) (h1 : sq.roff ≤ sq.eoff) (h2 : sq.eoff < (a.file.size : Int)) :
    (echo a sq).2.1 = .ok ∧
    (echo a sq).2.2 = a.file.extract sq.roff.toNat (sq.eoff.toNat + 1) ∧
    Refine.WF (echo a sq).1 ∧ Refine.pos (echo a sq).1 = sq.roff ∧ (echo a sq).1.bpos = 0 ∧ 0 < (echo a sq).1.nc ∧
    (echo a sq).1.file = a.file ∧ (echo a sq).1.B = a.B ∧
    (echo a sq).1.linenumber = a.linenumber ∧ (echo a sq).1.L = a.L := by
  have hofflt : sq.roff.toNat < a.file.size := by omega
  have hne : (sq.roff == -1 || sq.eoff == -1) = false := by
    have : sq.roff ≠ -1 := by omega
    have : sq.eoff ≠ -1 := by omega
    simp [*]
  obtain ⟨a1, hp1, b1, o1⟩ := position_block a sq.roff.toNat hb hr hB hofflt
  have e1 : (#[] : Bytes) = a.file.extract sq.roff.toNat a1.boff.toNat := by rw [o1]; simp; omega
  obtain ⟨a2, hl, b2, lo2, hi2, gt2, _, _⟩ := echoLoop_spec a.file a.B sq.roff sq.eoff h0 h2 (fuelOf a1) a1 b1 (by omega) (by omega)
    (by show a.file.size - a1.boff.toNat < a1.file.size + 2; rw [b1.fileEq]; omega)
  rw [← e1] at hl
  obtain ⟨a3, hp3, b3, o3⟩ := position_block a2 sq.roff.toNat b2.wf.block b2.wf.norec b2.wf.bpos1 (by rw [b2.fileEq]; exact hofflt)
  have hwf3 := b3.wf
  rw [echo_unfold a sq hne a1 hp1 a2 _ hl (by omega) b2.wf.block a3 hp3]
  refine ⟨rfl, ?_, ⟨hwf3.block, hwf3.norec, hwf3.bpos1, hwf3.full, hwf3.moff0, hwf3.fposEq, hwf3.fposLe, hwf3.ncLe, hwf3.boffEq,
    hwf3.bposLe⟩, ?_, b3.bpos0, b3.ncPos, b3.fileEq.trans b2.fileEq, b3.BEq.trans b2.BEq, rfl, rfl⟩
  · show _ ++ a2.file.extract _ _ = _
    rw [b2.fileEq, show a2.boff.toNat + (sq.eoff - a2.boff + 1).toNat = sq.eoff.toNat + 1 by omega]
    exact LineSpec.extract_glue a.file _ _ _ (by omega) (by omega)
  · show a3.boff + (a3.bpos : Int) = sq.roff
    rw [o3, b3.bpos0]; omega

theorem echo_unset_offsets (a : Ascii) (sq : Sq) (h : sq.roff = -1 ∨ sq.eoff = -1) :
    (echo a sq).2.1 = .einval ∧ (echo a sq).2.2 = #[] := by
  have hc : (sq.roff == -1 || sq.eoff == -1) = true := by
    rcases h with h | h <;> simp [h]
  unfold echo
  rw [if_pos hc]
  exact ⟨rfl, rfl⟩

open EaselModel.Sqio.ReadSpec EaselModel.Sqio.HeaderSpec EaselModel.Sqio.ParseFasta in
/-- the end offset `recL` stores is the offset of a byte of the file (`eoff = offOf N rest - 1 < N`) -/
theorem recL_eoff_lt (inmap : Bytes) (N : Nat) (sq : Sq) (l : List UInt8) (h : (recL inmap N sq l).1 = .ok) :
    (recL inmap N sq l).2.1.eoff < (N : Int) := by
  obtain ⟨_, _, erec⟩ := recL_of_ok inmap N sq l h
  rw [erec, (FetchSpec.bodyL_ok _ _ _ _ _ (erec ▸ h)).eoff]
  simp only [offOf]; omega

open EaselModel.Sqio.ReadSpec EaselModel.Sqio.ParseFasta in
theorem parseAllL_eoff_lt (inmap : Bytes) (N : Nat) (fuel : Nat) : ∀ (sq : Sq) (l : List UInt8),
    ∀ s ∈ (parseAllL inmap N fuel sq l).1, s.eoff < (N : Int) := by
  intro sq l s hs
  obtain ⟨sq', l', _, _, _, hok, rfl⟩ := FetchSpec.parseAllL_mem inmap N fuel sq l s hs
  exact recL_eoff_lt inmap N sq'.reuse l' hok

/-- `Echo` of any record that the FASTA reader returned (for any block size — `parseFasta` is what
    `readAllM` returns from `esl_sqfile_Open` on, `read_all_eq_parseFasta`), on any block-mode handle on the same file with
    any block size `B ≥ 1`, returns `eslOK` and the bytes `roff..eoff` of the file. -/
theorem echo_of_scanned_record (bytes : Bytes) (abc : Nat) (s : Sq)
    (hs : s ∈ (ParseFasta.parseFasta abc bytes).1)
    (a : Ascii) (hf : a.file = bytes) (hb : a.linebased = false) (hr : a.recording ≠ 1) (hB : 1 ≤ a.B) :
    (echo a s).2.1 = .ok ∧ (echo a s).2.2 = bytes.extract s.roff.toNat (s.eoff.toNat + 1) := by
  obtain ⟨h0, h1, h2⟩ := FetchSpec.scanned_record_offsets bytes abc s hs
  subst hf
  obtain ⟨r1, r2, _⟩ := echo_eq_scan_bytes a s hb hr hB h0 h1 h2
  exact ⟨r1, r2⟩

/-- the same for the records `readAllM` returns from `esl_sqfile_Open` on, read with block size `B1`, echoed with `B2` -/
theorem echo_of_read_record (bytes : Bytes) (abc B1 : Nat) (hB1 : 1 ≤ B1) (habc : abc ∈ [0, 1, 2, 3]) (s : Sq)
    (hs : s ∈ (ParseFasta.readAllM (bytes.size + 2) (ParseFasta.openFasta bytes B1 abc) (freshSq abc)).1)
    (a : Ascii) (hf : a.file = bytes) (hb : a.linebased = false) (hr : a.recording ≠ 1) (hB : 1 ≤ a.B) :
    (echo a s).2.1 = .ok ∧ (echo a s).2.2 = bytes.extract s.roff.toNat (s.eoff.toNat + 1) := by
  rw [ParseFasta.read_all_eq_parseFasta bytes B1 abc hB1 habc] at hs
  exact echo_of_scanned_record bytes abc s hs a hf hb hr hB

/-! ## non-vacuity: `>a\nAC\n>b\nG\n` read through 2-byte blocks -/

def demoFile : Bytes := #[62, 97, 10, 65, 67, 10, 62, 98, 10, 71, 10]

example : (echo { file := demoFile, B := 2 } { roff := 0, eoff := 5 }).2 = (.ok, #[62, 97, 10, 65, 67, 10]) := by
  decide +kernel

example : (echo { file := demoFile, B := 2 } { roff := 6, eoff := 10 }).2 = (.ok, #[62, 98, 10, 71, 10]) := by
  decide +kernel

/-- the hypotheses of `echo_eq_scan_bytes` are satisfiable (and its conclusion is the evaluation above) -/
example : (echo { file := demoFile, B := 2 } { roff := 0, eoff := 5 }).2.2 = demoFile.extract 0 6 :=
  (echo_eq_scan_bytes { file := demoFile, B := 2 } { roff := 0, eoff := 5 } rfl (by decide) (by decide) (by decide) (by decide)
    (by decide)).2.1

/-- the reader finds two records in the demo file, at `[0,5]` and `[6,10]`: the hypothesis of `echo_of_scanned_record` -/
example : (ParseFasta.parseFasta 0 demoFile).1.map (fun s => (s.roff, s.eoff)) = [(0, 5), (6, 10)] := by
  rw [ParseFasta.parseFasta, inmapFasta_text]; decide +kernel

end EaselModel.Sqio.EchoSpec
