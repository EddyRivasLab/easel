import EaselModel.Sqio.TrackHeader
/-! # The whole index-building scan: `create_ssi_index`'s loop leaves `scanFile` of the records' line counts (C07)

`buildIndexLoop` = the `while (esl_sqio_ReadInfo(...) == eslOK)` loop of `create_ssi_index`. `buildIndex_trk`: from a ready FASTA
handle, for every read-block size, when the loop ends at EOF the widths and the two maxima of the handle's tracker (`core`; not
`prv*` / `cur*`) are those of the fold of `scanRec` over the line counts
`countsL` of the records found on the remaining file bytes — so `bpl`, `rpl` which the tool then reads off the handle are those of
`Tracker.scanFile`, the object of `bplrpl_sound`. -/
namespace EaselModel.Sqio.TrackIndex
open EaselModel.Sqio EaselModel.Sqio.Tracker EaselModel.Sqio.Refine EaselModel.Sqio.DataScan EaselModel.Sqio.Cursor
open EaselModel.Sqio.ReadSpec EaselModel.Sqio.HeaderSpec EaselModel.Sqio.BodySpec EaselModel.Sqio.Fold EaselModel.Sqio.InfoSeqSpec
open EaselModel.Sqio.TrackHeader

/-- the line counts of the records a `ReadInfo` loop finds on the bytes `l` -/
def countsL (inmap : Bytes) (N : Nat) : Nat → List UInt8 → List Rec
  | 0, _ => []
  | fuel + 1, l =>
    if (infoL inmap N ({} : Sq) l).1 == .ok then
      TrackReader.recOfData inmap (((headerL N ({} : Sq) l).2.2).takeWhile (isData inmap)) :: countsL inmap N fuel (infoL inmap N ({} : Sq) l).2.2
    else []

/-- the four fields of the tracker that outlive a record: the two widths and the two maxima (the fields of `TrackerExact.S4`) -/
def core (t : Track) : Int × Int × Int × Int := (t.rpl, t.bpl, t.maxrpl, t.maxxpl)

/-- the widths and maxima of the tracker do not depend on `prv*` / `cur*` having been reset -/
theorem core_of_reset {t0 : Track} {r : Ascii × Sq × Status} (h : ResetIfOk t0 r) : core r.1.trk = core t0 := by
  unfold ResetIfOk at h
  rw [h]
  split <;> rfl

theorem readInfo_eof_core (a : Ascii) (sq : Sq) (R : Ready a sq) (hsa : 2 ≤ sq.salloc) (he : (readInfo a sq).2.2 = .eof) :
    core (readInfo a sq).1.trk = core a.trk := by
  by_cases hn : (a.nc == 0) = true
  · rw [DataScan.readInfo_eq, if_pos hn]
  · have hl : Sim.Live a := by
      rcases R.cur.cur with h | ⟨⟨h1, _⟩, _⟩
      · exact h
      · exact absurd (by simpa using h1) hn
    obtain ⟨x, t, _, hf, _⟩ := abs_of_live a R.cur hl
    obtain ⟨q1, _, _, _⟩ := headerFasta_spec a sq R.cur hl R.nalloc R.dalloc
    obtain ⟨r1, _, _, _⟩ := readInfo_spec a sq R hsa
    by_cases hh : ((headerFasta a sq).2.2 != Status.ok) = true
    · rw [DataScan.readInfo_eq, if_neg hn, parseHeader_fasta a sq R.fmt, if_pos hh]
      exact core_of_reset (headerFasta_reset a sq)
    · -- header ok: the status is that of the body, never EOF
      exfalso
      have hhok : (headerFasta a sq).2.2 = .ok := by simpa using hh
      have hLok : (headerL a.file.size sq (fileFrom a)).1 = .ok := by
        have := congrArg Prod.snd q1; simp only at this; rw [← this]; exact hhok
      rw [r1] at he
      unfold infoL at he
      have hne : (fileFrom a).isEmpty = false := by rw [hf]; rfl
      simp only [hne, Bool.false_eq_true, if_false, hLok, beq_self_eq_true, if_true] at he
      unfold infoBodyL at he
      split at he
      · cases he
      · split at he <;> cases he

theorem buildIndex_trk (fuel : Nat) : ∀ (a : Ascii) (s : Ssi) (a' : Ascii) (s' : Ssi), Ready a ({} : Sq) →
    buildIndexLoop fuel a s = some (a', s') →
    core a'.trk = core ((countsL a.inmap a.file.size fuel (fileFrom a)).foldl scanRec a.trk) := by
  induction fuel with
  | zero => intro a s a' s' _ h; simp [buildIndexLoop] at h
  | succ fuel ih =>
    intro a s a' s' R h
    have hsa : 2 ≤ ({} : Sq).salloc := by decide
    obtain ⟨r1, r2, _, _⟩ := readInfo_spec a ({} : Sq) R hsa
    unfold buildIndexLoop at h
    rcases hri : readInfo a ({} : Sq) with ⟨a1, sq1, st1⟩
    rw [hri] at h r1 r2
    simp only at h r1 r2
    by_cases he : (st1 == Status.eof) = true
    · rw [if_pos he] at h
      have he' : st1 = .eof := by simpa using he
      cases h
      have hc := readInfo_eof_core a ({} : Sq) R hsa (by rw [hri]; exact he')
      rw [hri] at hc
      simp only at hc
      have hnok : ((infoL a.inmap a.file.size ({} : Sq) (fileFrom a)).1 == Status.ok) = false := by
        rw [← r1, he']; rfl
      simp only [countsL, hnok, Bool.false_eq_true, if_false, List.foldl_nil]
      exact hc
    · rw [if_neg he] at h
      by_cases hk : (st1 != Status.ok) = true
      · rw [if_pos hk] at h; cases h
      · rw [if_neg hk] at h
        have hok : st1 = .ok := by simpa using hk
        have hLok : (infoL a.inmap a.file.size ({} : Sq) (fileFrom a)).1 = .ok := by rw [← r1]; exact hok
        obtain ⟨m1, m2, m3, m4⟩ := r2 hLok
        have hl : Sim.Live a := by
          rcases R.cur.cur with hh | ⟨⟨h1, _⟩, _⟩
          · exact hh
          · exfalso
            have hn : (a.nc == 0) = true := by simp [h1]
            have : (readInfo a ({} : Sq)).2.2 = .eof := by rw [DataScan.readInfo_eq, if_pos hn]
            rw [hri] at this; simp only at this; rw [hok] at this; cases this
        have htrk := readInfo_trk a ({} : Sq) R hl (by rw [hri]; exact hok)
        rw [hri] at htrk
        simp only at htrk
        have R1 : Ready a1 ({} : Sq) := R.next m2 m4 rfl rfl (Nat.le_refl _) (Nat.le_refl _)
        have := ih a1 _ a' s' R1 h
        have hi : a1.inmap = a.inmap := congrArg (fun p => p.2.1) m4
        have hfile : a1.file = a.file := congrArg (fun p => p.1) m4
        rw [this, hi, hfile, m3, htrk]
        have hokb : ((infoL a.inmap a.file.size ({} : Sq) (fileFrom a)).1 == Status.ok) = true := by rw [hLok]; rfl
        simp only [countsL, hokb, if_true, List.foldl_cons]

theorem recOfData_wf (inmap : Bytes) (d : List UInt8) : (TrackReader.recOfData inmap d).WF := by
  obtain ⟨_, s2, _⟩ := TrackReader.splitEol_spec inmap d [] (by simp)
  unfold TrackReader.recOfData GeomBridge.recOf Rec.WF
  constructor
  · intro l hl
    simp only [List.mem_map] at hl
    obtain ⟨x, hx, rfl⟩ := hl
    obtain ⟨body, e, rfl, _, he⟩ := s2 x hx
    have hre : isRes inmap e = false := by simp [isRes, he, Tables.dsqEol]
    have hle := List.length_filter_le (isRes inmap) body
    simp only [GeomBridge.cnt, List.filter_append, List.filter_cons, hre, Bool.false_eq_true, if_false, List.filter_nil, List.append_nil,
      List.length_append, List.length_singleton]
    omega
  · intro l hl
    cases h : (TrackReader.splitEol inmap d []).2.isEmpty
    · simp only [h, Bool.false_eq_true, if_false, Option.some.injEq] at hl
      subst hl
      have hle := List.length_filter_le (isRes inmap) (TrackReader.splitEol inmap d []).2
      have hpos : 0 < (TrackReader.splitEol inmap d []).2.length := by
        cases hh : (TrackReader.splitEol inmap d []).2 with
        | nil => rw [hh] at h; simp at h
        | cons _ _ => simp
      simp only [GeomBridge.cnt]
      omega
    · simp [h] at hl

theorem countsL_wf (inmap : Bytes) (N : Nat) (fuel : Nat) : ∀ l, ∀ rc ∈ countsL inmap N fuel l, rc.WF := by
  induction fuel with
  | zero => intro l rc h; simp [countsL] at h
  | succ fuel ih =>
    intro l rc h
    unfold countsL at h
    split at h
    · rcases List.mem_cons.mp h with rfl | h
      · exact recOfData_wf _ _
      · exact ih _ rc h
    · simp at h

theorem buildIndex_sound (fuel : Nat) (a : Ascii) (s : Ssi) (a' : Ascii) (s' : Ssi) (R : Ready a ({} : Sq)) (h0 : a.trk = {})
    (h : buildIndexLoop fuel a s = some (a', s')) (p q : Int) (hp : 0 < p) (hq : 0 < q) (hr : a'.trk.rpl = p) (hb : a'.trk.bpl = q) :
    ∀ rc ∈ countsL a.inmap a.file.size fuel (fileFrom a), Geom q p rc := by
  have hc := buildIndex_trk fuel a s a' s' R h
  rw [h0] at hc
  simp only [core, Prod.mk.injEq] at hc
  exact tracker_sound _ (countsL_wf _ _ _ _) p q hp hq (by unfold scanFile; rw [← hc.1]; exact hr) (by unfold scanFile; rw [← hc.2.1]; exact hb)

end EaselModel.Sqio.TrackIndex
