import EaselModel.Sqio.ParseFasta
import EaselModel.Sqio.GeomBridge
/-! # The tracker over the BYTES of a record = the tracker over its per-line counts (C07)

`seebuf` is a byte fold (`Sqio/Fold.lean`: `seebuf_fold`, `stepByte`). Here: folding the tracker part of `stepByte` over the data bytes
of a record — terminated lines `segs` (each ending in its end-of-line byte) and an unterminated rest — from the state `header_*` leaves
is `scanRec` on the record's line counts `GeomBridge.recOf`: the object `bplrpl_sound` speaks about. -/
namespace EaselModel.Sqio.TrackBytes
open EaselModel.Sqio EaselModel.Sqio.Fold EaselModel.Sqio.BodySpec EaselModel.Sqio.Tracker EaselModel.Sqio.GeomBridge Tables

/-- what `stepByte` does to the tracker for a byte of sequence data -/
def trkByte (inmap : Bytes) (t : Track) (c : UInt8) : Track :=
  if isRes inmap c then t.onStop 1 1 else if code inmap c == dsqEol then t.onEol 1 0 else t.onStop 1 0

theorem stepByte_trk (inmap : Bytes) (hm : inmap.size = 128) (s : SS) (c : UInt8) (hd : isData inmap c = true) :
    (stepByte inmap s c).2 = .ok ∧ (stepByte inmap s c).1.trk = trkByte inmap s.trk c := by
  rw [stepByte_eq, if_pos hd]
  exact ⟨rfl, rfl⟩

/-- a stretch of data bytes without an end-of-line byte: one `onStop` with its length and residue count -/
theorem fold_body (inmap : Bytes) (body : List UInt8) (hb : ∀ c ∈ body, code inmap c ≠ dsqEol) :
    ∀ (t : Track), Track.Ok t →
    body.foldl (trkByte inmap) t = t.onStop (body.length : Int) ((body.filter (isRes inmap)).length : Int) := by
  induction body with
  | nil => intro t hok; simp [onStop_zero t hok]
  | cons c rest ih =>
    intro t hok
    have hle := List.length_filter_le (isRes inmap) rest
    -- a byte that is no end of line counts one byte and, if it is a residue, one residue
    have e : trkByte inmap t c = t.onStop 1 (if isRes inmap c then 1 else 0) := by
      have : (code inmap c == dsqEol) = false := by simpa using hb c (by simp)
      unfold trkByte; rw [this]; split <;> rfl
    have h01 : (0 : Int) ≤ (if isRes inmap c then 1 else 0) ∧ (if isRes inmap c then 1 else 0 : Int) ≤ 1 := by split <;> omega
    rw [List.foldl_cons, e, ih (fun x hx => hb x (by simp [hx])) _ (onStop_ok t 1 _ hok (by omega) h01.1),
      onStop_onStop t 1 _ _ _ hok (by omega) h01.1 (by omega) (by omega)]
    simp only [List.filter_cons, List.length_cons]
    congr 1
    · push_cast; omega
    · by_cases hr : isRes inmap c = true <;> simp only [hr, if_true, Bool.false_eq_true, if_false, List.length_cons] <;> (push_cast; omega)

/-- a terminated line `body ++ [eol]`: one `onEol` with the line's bytes (newline included) and residues -/
theorem fold_line (inmap : Bytes) (body : List UInt8) (e : UInt8) (hb : ∀ c ∈ body, code inmap c ≠ dsqEol) (he : code inmap e = dsqEol)
    (t : Track) (hok : Track.Ok t) :
    (body ++ [e]).foldl (trkByte inmap) t =
      t.onEol (((body ++ [e]).length : Nat) : Int) ((((body ++ [e]).filter (isRes inmap)).length : Nat) : Int) := by
  have hle := List.length_filter_le (isRes inmap) body
  have hre : isRes inmap e = false := by simp [isRes, he, dsqEol]
  rw [List.foldl_append, fold_body inmap body hb t hok]
  have e1 : trkByte inmap (t.onStop (body.length : Int) ((body.filter (isRes inmap)).length : Int)) e =
      (t.onStop (body.length : Int) ((body.filter (isRes inmap)).length : Int)).onEol 1 0 := by
    simp [trkByte, hre, he]
  simp only [List.foldl_cons, List.foldl_nil, e1]
  rw [onStop_onEol t _ _ 1 0 hok (by omega) (by omega) (by omega) (by omega)]
  simp only [List.filter_append, List.filter_cons, hre, Bool.false_eq_true, if_false, List.filter_nil, List.append_nil,
    List.length_append, List.length_singleton]
  congr 1 <;> (push_cast; omega)

/-- a terminated line: a stretch without end-of-line bytes, then one end-of-line byte -/
def Terminated (inmap : Bytes) (l : List UInt8) : Prop :=
  ∃ body e, l = body ++ [e] ∧ (∀ c ∈ body, code inmap c ≠ dsqEol) ∧ code inmap e = dsqEol

theorem fold_lines (inmap : Bytes) (segs : List (List UInt8)) (hs : ∀ l ∈ segs, Terminated inmap l) :
    ∀ (t : Track), Track.Ok t →
    segs.flatten.foldl (trkByte inmap) t = (segs.map (cnt (isRes inmap))).foldl (fun t l => t.onEol l.1 l.2) t ∧
    Track.Ok (segs.flatten.foldl (trkByte inmap) t) := by
  induction segs with
  | nil => intro t hok; exact ⟨rfl, hok⟩
  | cons l segs ih =>
    intro t hok
    obtain ⟨body, e, rfl, hb, he⟩ := hs l (by simp)
    have h1 := fold_line inmap body e hb he t hok
    have hok1 : Track.Ok ((body ++ [e]).foldl (trkByte inmap) t) := by rw [h1]; exact onEol_ok _ _ _
    obtain ⟨i1, i2⟩ := ih (fun x hx => hs x (by simp [hx])) _ hok1
    rw [List.flatten_cons, List.foldl_append]
    refine ⟨?_, i2⟩
    rw [i1, h1]
    rfl

/-- **the tracker over the bytes of a record = the tracker over its line counts**: folding the tracker part of `stepByte` over the data
    bytes `segs.flatten ++ rest` of a record, from the state `header_*` leaves, is `scanRec` on `recOf … segs rest` -/
theorem fold_record (inmap : Bytes) (segs : List (List UInt8)) (rest : List UInt8) (hs : ∀ l ∈ segs, Terminated inmap l)
    (hrest : ∀ c ∈ rest, code inmap c ≠ dsqEol) (t : Track) :
    (segs.flatten ++ rest).foldl (trkByte inmap) (Tracker.step t Ev.hdr) = scanRec t (recOf (isRes inmap) segs rest) := by
  have hok0 : Track.Ok (Tracker.step t Ev.hdr) := DataScan.reset_ok t
  obtain ⟨l1, l2⟩ := fold_lines inmap segs hs _ hok0
  have hbody := fold_body inmap rest hrest _ l2
  have hrun : run t [Ev.hdr] = Tracker.step t Ev.hdr := rfl
  have hcons : ∀ (X Y : List Ev), run t (Ev.hdr :: X ++ Y) = run (run (run t [Ev.hdr]) X) Y := by
    intro X Y
    rw [show (Ev.hdr :: X ++ Y) = [Ev.hdr] ++ (X ++ Y) from rfl, run_append, run_append]
  unfold scanRec Rec.events recOf
  simp only []
  cases h : rest.isEmpty
  · simp only [Bool.false_eq_true, if_false]
    rw [hcons, run_eols, List.foldl_append, hbody, hrun, ← l1]
    rfl
  · have hr : rest = [] := List.isEmpty_iff.mp h
    subst hr
    simp only [if_true]
    rw [hcons, run_eols, hrun, ← l1, List.append_nil]
    rfl

end EaselModel.Sqio.TrackBytes
