import EaselModel.Sqio.ParseFasta
/-! # What a record of the sequential FASTA scan is, in terms of the file bytes (C07, reverse windows of C04)

`parseFasta` is the scan as a function of the bytes (`recL` record after record). `scanned_at`: a record of the scan is `recL` run on
the bytes from its own `roff` on; `Scanned` (proved by `record_shape`), `scanned_record_offsets`: where its offsets point and what its
residues are. The declarations stand in the namespace `FetchSpec`, with their users. -/
namespace EaselModel.Sqio.FetchSpec
open EaselModel.Sqio EaselModel.Sqio.Refine EaselModel.Sqio.Fold EaselModel.Sqio.DataScan EaselModel.Sqio.Cursor
open EaselModel.Sqio.BodySpec EaselModel.Sqio.HeaderSpec EaselModel.Sqio.ReadSpec EaselModel.Sqio.ParseFasta

theorem headerL_dropSpace (N : Nat) (sq : Sq) (l : List UInt8) : headerL N sq (l.dropWhile isSpace) = headerL N sq l := by
  unfold headerL
  rw [dropWhile_dropWhile_of_imp isSpace isSpace (fun _ h => h) l]

theorem headerL_ok (N : Nat) (sq : Sq) (l : List UInt8) (h : (headerL N sq l).1 = .ok) :
    ∃ c l2, l.dropWhile isSpace = c :: l2 ∧ (headerL N sq l).2.1.roff = offOf N (c :: l2) ∧
      (headerL N sq l).2.1.doff = offOf N (headerL N sq l).2.2 ∧ (headerL N sq l).2.2 <:+ l2 ∧
      ∀ sq' : Sq, (headerL N sq' (c :: l2)).1 = .ok ∧ (headerL N sq' (c :: l2)).2.2 = (headerL N sq l).2.2 ∧
        (headerL N sq' (c :: l2)).2.1.desc = (headerL N sq l).2.1.desc ∧
        (headerL N sq' (c :: l2)).2.1.name = (headerL N sq l).2.1.name := by
  obtain ⟨l2, hc, _, e⟩ := headerL_of_ok N sq l h
  refine ⟨chGt, l2, hc, ?_, ?_, ?_, fun sq' => ?_⟩
  · rw [e sq]; simp [hfDescL, hfEndL]
  · rw [e sq]; simp [hfDescL, hfEndL]
  · rw [e sq]
    simp only [hfDescL, hfEndL]
    exact (List.dropWhile_suffix _).trans ((List.dropWhile_suffix _).trans ((List.dropWhile_suffix _).trans
      ((List.dropWhile_suffix _).trans ((List.dropWhile_suffix _).trans (List.dropWhile_suffix _)))))
  · rw [← hc, headerL_dropSpace, e sq', e sq]; simp [hfDescL, hfEndL]

theorem headerL_suffix (N : Nat) (sq : Sq) (l : List UInt8) : (headerL N sq l).2.2 <:+ l := by
  by_cases h : (headerL N sq l).1 = .ok
  · obtain ⟨c, l2, h1, _, _, h4, _⟩ := headerL_ok N sq l h
    have : c :: l2 <:+ l := by rw [← h1]; exact List.dropWhile_suffix _
    exact h4.trans ((List.suffix_cons c l2).trans this)
  · revert h
    unfold headerL
    split
    · intro _; exact List.nil_suffix
    · rename_i c l2 hc
      have : c :: l2 <:+ l := by rw [← hc]; exact List.dropWhile_suffix _
      split
      · intro _; exact this
      · split
        · intro _; exact this
        · intro k; exact absurd rfl k

theorem recL_suffix (inmap : Bytes) (N : Nat) (sq : Sq) (l : List UInt8) : (recL inmap N sq l).2.2 <:+ l := by
  unfold recL
  split
  · exact List.nil_suffix
  · split
    · unfold bodyL
      split
      · exact List.nil_suffix
      · rename_i c t hr
        have : c :: t <:+ (headerL N sq l).2.2 := by rw [← hr]; exact List.dropWhile_suffix _
        split
        · exact this.trans (headerL_suffix N sq l)
        · exact this.trans (headerL_suffix N sq l)
    · exact headerL_suffix N sq l

theorem parseAllL_mem (inmap : Bytes) (N : Nat) (fuel : Nat) : ∀ (sq : Sq) (l : List UInt8) (s : Sq),
    s ∈ (parseAllL inmap N fuel sq l).1 →
    ∃ (sq' : Sq) (l' : List UInt8), l' <:+ l ∧ sq'.digital = sq.digital ∧ sq'.abc = sq.abc ∧ (recL inmap N sq'.reuse l').1 = .ok ∧
      s = (recL inmap N sq'.reuse l').2.1 := by
  induction fuel with
  | zero => intro sq l s hs; cases hs
  | succ fuel ih =>
    intro sq l s
    simp only [parseAllL]
    by_cases hok : (recL inmap N sq.reuse l).1 = .ok
    · have hb : ((recL inmap N sq.reuse l).1 == Status.ok) = true := by rw [hok]; rfl
      simp only [hb, if_true]
      intro hs
      rcases List.mem_cons.mp hs with e | e
      · exact ⟨sq, l, List.suffix_refl l, rfl, rfl, hok, e⟩
      · obtain ⟨sq', l', i1, i2, i3, i4, i5⟩ := ih _ _ s e
        obtain ⟨k1, k2, _, _⟩ := recL_keeps inmap N sq.reuse l hok
        exact ⟨sq', l', i1.trans (recL_suffix inmap N sq.reuse l), i2.trans k1, i3.trans k2, i4, i5⟩
    · have hb : ((recL inmap N sq.reuse l).1 == Status.ok) = false := by simpa using hok
      simp only [hb, Bool.false_eq_true, if_false]
      intro hs; cases hs

/-- the record a successful `bodyL` returns, field by field -/
structure BodyOk (inmap map : Bytes) (N : Nat) (sq : Sq) (l : List UInt8) : Prop where
  seq : (bodyL inmap map N sq l).2.1.seq = sq.seq ++ resOf inmap map (l.takeWhile (isData inmap))
  len : (bodyL inmap map N sq l).2.1.L = ((bodyL inmap map N sq l).2.1.seq.size : Int)
  roff : (bodyL inmap map N sq l).2.1.roff = sq.roff
  doff : (bodyL inmap map N sq l).2.1.doff = sq.doff
  desc : (bodyL inmap map N sq l).2.1.desc = sq.desc
  name : (bodyL inmap map N sq l).2.1.name = sq.name
  eoff : (bodyL inmap map N sq l).2.1.eoff = offOf N (l.dropWhile (isData inmap)) - 1
  /-- the data end at the end of the input or at an end-of-data byte: `WindowSpec.Clean inmap l` -/
  clean : ∀ c t, l.dropWhile (isData inmap) = c :: t → isEod inmap c = true

theorem bodyL_ok (inmap map : Bytes) (N : Nat) (sq : Sq) (l : List UInt8) (h : (bodyL inmap map N sq l).1 = .ok) :
    BodyOk inmap map N sq l := by
  obtain ⟨e, hc⟩ := bodyL_of_ok inmap map N sq l h
  refine ⟨?_, ?_, ?_, ?_, ?_, ?_, ?_, hc⟩ <;> rw [e] <;> simp [Sq.setWhole, stored, Sq.n]

theorem recL_dropSpace (inmap : Bytes) (N : Nat) (sq : Sq) (l : List UInt8) (c : UInt8) (t : List UInt8)
    (h : l.dropWhile isSpace = c :: t) : recL inmap N sq (c :: t) = recL inmap N sq l := by
  have hne : l.isEmpty = false := by
    cases l with
    | nil => cases h
    | cons _ _ => rfl
  unfold recL
  rw [← h, headerL_dropSpace]
  simp [hne, h]

/-- a record of the scan is `recL` on the file bytes from its own `roff` (its `>`) on, into a reused `ESL_SQ` of the scan's mode -/
theorem scanned_at (bytes : Bytes) (abc : Nat) (s : Sq) (hs : s ∈ (parseFasta abc bytes).1) :
    ∃ (sq' : Sq) (c : UInt8) (l2 : List UInt8), mapFor (inmapFasta abc) sq'.reuse = mapFor (inmapFasta abc) (freshSq abc) ∧
      bytes.toList.drop s.roff.toNat = c :: l2 ∧ s.roff = offOf bytes.size (c :: l2) ∧ l2.length < bytes.size ∧
      (recL (inmapFasta abc) bytes.size sq'.reuse (c :: l2)).1 = .ok ∧
      s = (recL (inmapFasta abc) bytes.size sq'.reuse (c :: l2)).2.1 := by
  unfold parseFasta at hs
  obtain ⟨sq', l', suf, hd, ha, hok, hseq⟩ := parseAllL_mem (inmapFasta abc) bytes.size (bytes.size + 2) (freshSq abc) bytes.toList s hs
  obtain ⟨_, hhok, erec⟩ := recL_of_ok _ _ _ _ hok
  obtain ⟨c, l2, h1, h2, _⟩ := headerL_ok bytes.size sq'.reuse l' hhok
  have sgt : c :: l2 <:+ bytes.toList := by
    have : c :: l2 <:+ l' := by rw [← h1]; exact List.dropWhile_suffix _
    exact this.trans suf
  have hN : bytes.toList.length = bytes.size := Array.length_toList
  have lgt := sgt.length_le
  rw [hN, List.length_cons] at lgt
  have hroff : s.roff = offOf bytes.size (c :: l2) := by
    rw [hseq, erec, (bodyL_ok _ _ _ _ _ (erec ▸ hok)).roff, h2]
  have dgt : bytes.toList.drop s.roff.toNat = c :: l2 := by
    have := (List.suffix_iff_eq_drop.mp sgt).symm
    rw [hN] at this
    rw [hroff]; simpa [offOf] using this
  rw [← recL_dropSpace (inmapFasta abc) bytes.size sq'.reuse l' c l2 h1] at hok hseq
  refine ⟨sq', c, l2, ?_, dgt, hroff, by omega, hok, hseq⟩
  have e1 : sq'.reuse.digital = sq'.digital := rfl
  have e2 : sq'.reuse.abc = sq'.abc := rfl
  simp only [mapFor, e1, e2, hd, ha]

/-- **a record of the sequential scan, in terms of the file bytes**: its `roff` is the offset of a `>` at which `header_fasta`
    succeeds (into whatever `ESL_SQ`) with the same name and description, its `doff` the offset of its data, its residues are
    those of the data bytes from `doff` on, and the data end at the end of the file or at an end-of-data byte -/
structure Scanned (bytes : Bytes) (abc : Nat) (s : Sq) : Prop where
  roff_nonneg : 0 ≤ s.roff
  roff_lt : s.roff < (bytes.size : Int)
  doff_pos : 0 < s.doff
  doff_le : s.doff ≤ (bytes.size : Int)
  header : ∀ sq : Sq, (headerL bytes.size sq (bytes.toList.drop s.roff.toNat)).1 = .ok ∧
    (headerL bytes.size sq (bytes.toList.drop s.roff.toNat)).2.1.desc = s.desc ∧
    (headerL bytes.size sq (bytes.toList.drop s.roff.toNat)).2.1.name = s.name
  seq : s.seq = resOf (inmapFasta abc) (mapFor (inmapFasta abc) (freshSq abc))
    ((bytes.toList.drop s.doff.toNat).takeWhile (isData (inmapFasta abc)))
  len : s.L = (s.seq.size : Int)
  /-- the data end at the end of the file or at an end-of-data byte: `WindowSpec.Clean`, the hypothesis of `read_nres`' specification -/
  clean : ∀ c t, (bytes.toList.drop s.doff.toNat).dropWhile (isData (inmapFasta abc)) = c :: t → isEod (inmapFasta abc) c = true

theorem record_shape (bytes : Bytes) (abc : Nat) (s : Sq) (hs : s ∈ (parseFasta abc bytes).1) : Scanned bytes abc s := by
  obtain ⟨sq', c, l2, hmapeq, dgt, hroff, hlt, hok, hseq⟩ := scanned_at bytes abc s hs
  obtain ⟨_, hhok, erec⟩ := recL_of_ok _ _ _ _ hok
  obtain ⟨c', l2', h1, _, h3, h4, h5⟩ := headerL_ok bytes.size sq'.reuse (c :: l2) hhok
  obtain ⟨_, _, k3, _, _⟩ := headerL_keeps bytes.size sq'.reuse (c :: l2)
  rw [erec, hmapeq] at hok hseq
  have B := bodyL_ok _ _ _ _ _ hok
  have b4 : s.doff = (headerL bytes.size sq'.reuse (c :: l2)).2.1.doff := by rw [hseq]; exact B.doff
  have s6 : (headerL bytes.size sq'.reuse (c :: l2)).2.2 <:+ bytes.toList :=
    (headerL_suffix _ _ _).trans (dgt ▸ List.drop_suffix _ _)
  have hN : bytes.toList.length = bytes.size := Array.length_toList
  have l6le := s6.length_le
  have d6 : bytes.toList.drop s.doff.toNat = (headerL bytes.size sq'.reuse (c :: l2)).2.2 := by
    have := (List.suffix_iff_eq_drop.mp s6).symm
    rw [hN] at this
    rw [b4, h3]; simpa [offOf] using this
  have hdoff : s.doff = offOf bytes.size (headerL bytes.size sq'.reuse (c :: l2)).2.2 := b4.trans h3
  have l2le : (headerL bytes.size sq'.reuse (c :: l2)).2.2.length ≤ l2'.length := h4.length_le
  have c2le := (h1 ▸ List.dropWhile_suffix isSpace : c' :: l2' <:+ c :: l2).length_le
  refine ⟨by rw [hroff]; exact Int.natCast_nonneg _, by rw [hroff]; simp only [offOf, List.length_cons]; omega,
    by rw [hdoff]; simp only [offOf, List.length_cons] at c2le ⊢; omega, by rw [hdoff]; simp only [offOf]; omega, fun sq => ?_, ?_, by rw [hseq]; exact B.len, ?_⟩
  · obtain ⟨g1, _, g3, g4⟩ := h5 sq
    rw [dgt, ← headerL_dropSpace, h1]
    exact ⟨g1, by rw [g3, hseq, B.desc], by rw [g4, hseq, B.name]⟩
  · rw [d6, hseq, B.seq, k3]; simp [Sq.reuse]
  · rw [d6]; exact B.clean

theorem scanned_record_offsets (bytes : Bytes) (abc : Nat) (s : Sq) (hs : s ∈ (parseFasta abc bytes).1) :
    0 ≤ s.roff ∧ s.roff ≤ s.eoff ∧ s.eoff < (bytes.size : Int) := by
  obtain ⟨sq', c, l2, _, _, hroff, hlt, hok, hsq⟩ := scanned_at bytes abc s hs
  obtain ⟨_, hhok, erec⟩ := recL_of_ok _ _ _ _ hok
  have he : s.eoff = offOf bytes.size ((headerL bytes.size sq'.reuse (c :: l2)).2.2.dropWhile (isData (inmapFasta abc))) - 1 := by
    rw [hsq, erec]; exact (bodyL_ok _ _ _ _ _ (erec ▸ hok)).eoff
  obtain ⟨c', l2', h1, _, _, h4, _⟩ := headerL_ok bytes.size sq'.reuse (c :: l2) hhok
  have k1 := (List.dropWhile_suffix (isData (inmapFasta abc)) (l := (headerL bytes.size sq'.reuse (c :: l2)).2.2)).length_le
  have k2 := h4.length_le
  have k3 := (h1 ▸ List.dropWhile_suffix isSpace : c' :: l2' <:+ c :: l2).length_le
  rw [he, hroff]
  simp only [offOf, List.length_cons] at k3 ⊢
  omega

end EaselModel.Sqio.FetchSpec
