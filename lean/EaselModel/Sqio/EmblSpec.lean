import EaselModel.Sqio.LineSpec
import EaselModel.Sqio.BodySpec
/-! # The EMBL / UniProt / GenBank / DDBJ readers are block-size independent (C04, line-based formats) -/
namespace EaselModel.Sqio.EmblSpec
open EaselModel.Sqio EaselModel.Sqio.LineSpec

/-! ## the buffer scanners see the handle only through `bufGet`, `nc` and `inmap` -/

theorem seebufLoop_congr (a b : Ascii) (hnc : a.nc = b.nc) (hin : a.inmap = b.inmap)
    (hg : ∀ i, i < a.nc → a.bufGet i = b.bufGet i) (maxn bpos nres nres2 le1 : Nat) (trk : Track) (ln : Int) :
    seebufLoop a maxn bpos nres nres2 le1 trk ln = seebufLoop b maxn bpos nres nres2 le1 trk ln := by
  fun_induction seebufLoop a maxn bpos nres nres2 le1 trk ln
  case case10 =>
    rename_i h
    conv => rhs; rw [seebufLoop]
    rw [hnc] at h
    simp only [h, dite_false]
  all_goals (
    have h := ‹_ < maxn ∧ _ < a.nc›
    have hb := h
    rw [hnc] at hb
    have hgb := (hg _ h.2).symm
    have hin' := hin.symm
    clear hg hin
    conv => rhs; rw [seebufLoop]
    simp only [hb, and_self, dite_true, hgb, hin']
    first
      | (simp only [*, if_true, if_false, Bool.false_eq_true]; done)
      | (simp only [*, if_true, if_false]; simp only [dite_eq_ite] at *; assumption))

/-- the fields `LWF` talks about -/
def geoL (a : Ascii) : Bool × Int × Nat × Nat × Bytes × Nat × Nat × Int × Int × Nat × Bytes :=
  (a.linebased, a.recording, a.B, a.fpos, a.file, a.mn, a.mpos, a.moff, a.boff, a.nc, a.line)

theorem LWF_of_geoL {a b : Ascii} (h : geoL b = geoL a) (w : LWF a) : LWF b := by
  simp only [geoL, Prod.mk.injEq] at h
  obtain ⟨h1, h2, h3, h4, h5, h6, h7, h8, h9, h10, h11⟩ := h
  exact ⟨by rw [h1]; exact w.lb, by rw [h2]; exact w.norec, by rw [h3]; exact w.bpos1, by rw [h4, h5]; exact w.fposLe,
    by rw [h7, h6]; exact w.mposLe, by rw [h7, h6, h8, h4]; exact w.mem, by rw [h9, h10, h7, h6, h8, h4]; exact w.next,
    by rw [h11, h5, h9, h10]; exact w.lineEq, by rw [h9]; exact w.boff0⟩

theorem lsim_upd {a1 a2 b1 b2 : Ascii} (h : LSim a1 a2) (g1 : geoL b1 = geoL a1) (g2 : geoL b2 = geoL a2)
    (hk : keepP b1 = keepP b2) (hb : b1.bpos = b2.bpos) : LSim b1 b2 := by
  have e1 := g1; have e2 := g2
  simp only [geoL, Prod.mk.injEq] at e1 e2
  obtain ⟨_, _, _, _, _, _, _, _, x9, x10, x11⟩ := e1
  obtain ⟨_, _, _, _, _, _, _, _, y9, y10, y11⟩ := e2
  exact ⟨LWF_of_geoL g1 h.w1, LWF_of_geoL g2 h.w2, hk, by rw [x9, y9, h.boff], by rw [x10, y10, h.nc], by rw [x11, y11, h.line], hb⟩

theorem keepP_fields {a b : Ascii} (h : keepP a = keepP b) :
    a.file = b.file ∧ a.L = b.L ∧ a.linenumber = b.linenumber ∧ a.trk = b.trk ∧ a.inmap = b.inmap ∧ a.fmt = b.fmt ∧ a.abc = b.abc ∧
    a.eofIsOk = b.eofIsOk ∧ a.haveErr = b.haveErr ∧ a.exc = b.exc ∧ a.bookmarkOff = b.bookmarkOff ∧
    a.bookmarkLine = b.bookmarkLine ∧ a.linebased = b.linebased := by
  simp only [keepP, Prod.mk.injEq] at h
  exact h

theorem fail_lsim {a1 a2 : Ascii} (h : LSim a1 a2) : LSim a1.fail a2.fail := by
  obtain ⟨k1, k2, k3, k4, k5, k6, k7, k8, k9, k10, k11, k12, k13⟩ := keepP_fields h.keep
  refine lsim_upd h rfl rfl ?_ h.bpos
  simp only [keepP, Ascii.fail, k1, k2, k3, k4, k5, k6, k7, k8, k10, k11, k12, k13]

theorem fuelOf_lsim {a1 a2 : Ascii} (h : LSim a1 a2) : fuelOf a1 = fuelOf a2 := by
  have := h.file_eq
  simp only [fuelOf, this]

/-- `LSim` with the format code `k` of the handles recorded. No reading call changes the code, and the end-of-record parser
    dispatches on it, so the readers are followed with this relation; `LSim` statements are read off at the end. -/
structure FSim (k : Nat) (a1 a2 : Ascii) : Prop extends LSim a1 a2 where
  fmt : a1.fmt = k

def RelF (k : Nat) (r1 r2 : Ascii × Sq × Status) : Prop := FSim k r1.1 r2.1 ∧ r1.2 = r2.2

theorem RelF.unpack {k : Nat} {r1 r2 : Ascii × Sq × Status} (h : RelF k r1 r2) :
    r1.2.2 = r2.2.2 ∧ r1.2.1 = r2.2.1 ∧ LSim r1.1 r2.1 := ⟨congrArg Prod.snd h.2, congrArg Prod.fst h.2, h.1.toLSim⟩

/-- the rule for `if`: once the two sides test the same condition, the relation is shown branch by branch. The walks below make the
    scrutinees of the two sides equal by rewriting and are then terms of this rule, one leaf per branch in the order of the function -/
theorem fsim_ite {k : Nat} {β : Type} {c : Prop} [Decidable c] {x x' y y' : Ascii × β}
    (hx : FSim k x.1 x'.1 ∧ x.2 = x'.2) (hy : FSim k y.1 y'.1 ∧ y.2 = y'.2) :
    FSim k (if c then x else y).1 (if c then x' else y').1 ∧ (if c then x else y).2 = (if c then x' else y').2 := by
  split
  · exact hx
  · exact hy

theorem loadbuf_fmt (a : Ascii) : (loadbuf a).1.fmt = a.fmt := congrArg (fun t => t.2.2.2.2.2.2.1) (Frame.loadbuf_payload a)

theorem loadbuf_fsim {k : Nat} {a1 a2 : Ascii} (h : FSim k a1 a2) :
    FSim k (loadbuf a1).1 (loadbuf a2).1 ∧ (loadbuf a1).2 = (loadbuf a2).2 :=
  ⟨⟨(loadbuf_lsim h.toLSim).1, (loadbuf_fmt a1).trans h.fmt⟩, (loadbuf_lsim h.toLSim).2⟩

theorem fail_fsim {k : Nat} {a1 a2 : Ascii} (h : FSim k a1 a2) : FSim k a1.fail a2.fail := ⟨fail_lsim h.toLSim, h.fmt⟩

theorem skipLinesWhile_fsim {k : Nat} (cond : Bytes → Bool) (fuel : Nat) : ∀ {a1 a2 : Ascii}, FSim k a1 a2 →
    FSim k (skipLinesWhile cond fuel a1).1 (skipLinesWhile cond fuel a2).1 ∧
    (skipLinesWhile cond fuel a1).2 = (skipLinesWhile cond fuel a2).2 := by
  induction fuel with
  | zero => intro a1 a2 h; exact ⟨h, rfl⟩
  | succ fuel ih =>
    intro a1 a2 h
    simp only [skipLinesWhile]
    obtain ⟨hs, he⟩ := loadbuf_fsim h
    rw [h.line, he]
    exact fsim_ite (fsim_ite ⟨hs, rfl⟩ (ih hs)) ⟨h, rfl⟩

theorem emblScan_fsim {k : Nat} (parse : Bool) (fuel : Nat) : ∀ {a1 a2 : Ascii} (sq : Sq), FSim k a1 a2 →
    RelF k (emblScan parse fuel a1 sq) (emblScan parse fuel a2 sq) := by
  induction fuel with
  | zero => intro a1 a2 sq h; exact ⟨h, rfl⟩
  | succ fuel ih =>
    intro a1 a2 sq h
    simp only [emblScan]
    obtain ⟨hs, he⟩ := loadbuf_fsim h
    rw [he, hs.line, hs.nc]
    refine fsim_ite ⟨hs, rfl⟩ (fsim_ite ⟨fail_fsim hs, rfl⟩ ?_)
    split
    · exact ⟨fail_fsim hs, rfl⟩
    · exact fsim_ite ⟨hs, rfl⟩ (ih _ hs)

/-- the common tail of `header_embl` / `header_genbank`: after the scan to the `SQ` / `ORIGIN` line, load the first data line -/
def hdrTail (r : Ascii × Sq × Status) : Ascii × Sq × Status :=
  if r.2.2 != .ok then r else
  if (loadbuf r.1).2 == .fault then ((loadbuf r.1).1, r.2.1, .fault) else
  if (loadbuf r.1).2 != .ok then ((loadbuf r.1).1.fail, r.2.1, .eformat) else
  ((loadbuf r.1).1, { r.2.1 with hoff := (loadbuf r.1).1.boff - 1, doff := (loadbuf r.1).1.boff }, .ok)

theorem hdrTail_fsim {k : Nat} {r1 r2 : Ascii × Sq × Status} (h : RelF k r1 r2) : RelF k (hdrTail r1) (hdrTail r2) := by
  obtain ⟨hl, hst⟩ := loadbuf_fsim h.1
  unfold hdrTail
  rw [h.2, hst, hl.boff]
  exact fsim_ite h (fsim_ite ⟨hl, rfl⟩ (fsim_ite ⟨fail_fsim hl, rfl⟩ ⟨hl, rfl⟩))

/-- `header_embl` after the blank lines were skipped -/
def emblId (parse : Bool) (a : Ascii) (sq : Sq) : Ascii × Sq × Status :=
  if !hasPrefix a.line "ID   " then (a.fail, sq, .eformat) else
  match (if parse then
      match strtok (cstrFrom a.line 5) [32, 59] with
      | none => none
      | some tok => some { sq with name := tok }
    else some sq : Option Sq) with
  | none => (a.fail, sq, .eformat)
  | some sq =>
    hdrTail (emblScan parse (fuelOf a) a
      (if parse then { sq with roff := a.boff } else { { sq with roff := a.boff } with name := #[], acc := #[], desc := #[] }))

/-- closes `(let (a, sq, st) := e; if st != ok … let (a, st) := loadbuf a …) = hdrTail e` after `e` is generalized -/
macro "hdr_tail_tac" e:ident : tactic => `(tactic| (
  obtain ⟨x, y, z⟩ := $e:ident
  unfold hdrTail
  simp only []))

theorem headerEmbl_eq (parse : Bool) (a : Ascii) (sq : Sq) : headerEmbl parse a sq =
    if a.nc == 0 then (a, sq, .eof) else
    if (skipLinesWhile isBlankStr (fuelOf a) a).2 != .ok then
      ((skipLinesWhile isBlankStr (fuelOf a) a).1, sq, (skipLinesWhile isBlankStr (fuelOf a) a).2)
    else emblId parse (skipLinesWhile isBlankStr (fuelOf a) a).1 sq := by
  unfold headerEmbl emblId
  by_cases h0 : (a.nc == 0) = true
  · simp only [h0, if_true]
  · simp only [h0, Bool.false_eq_true, if_false]
    generalize skipLinesWhile isBlankStr (fuelOf a) a = r
    obtain ⟨b, st⟩ := r
    simp only []
    by_cases hst : (st != Status.ok) = true
    · simp only [hst, if_true]
    · simp only [hst, Bool.false_eq_true, if_false]
      by_cases hid : (!hasPrefix b.line "ID   ") = true
      · simp only [hid, if_true]
      · simp only [hid, Bool.false_eq_true, if_false]
        cases parse
        · simp only [Bool.false_eq_true, if_false]
          generalize emblScan false (fuelOf b) b _ = e
          hdr_tail_tac e
        · simp only [if_true]
          cases hs : strtok (cstrFrom b.line 5) [32, 59] with
          | none => simp only []
          | some tok =>
            simp only []
            generalize emblScan true (fuelOf b) b _ = e
            hdr_tail_tac e

theorem emblId_fsim (parse : Bool) {k : Nat} {a1 a2 : Ascii} (sq : Sq) (h : FSim k a1 a2) : RelF k (emblId parse a1 sq) (emblId parse a2 sq) := by
  unfold emblId
  rw [h.line, h.boff, fuelOf_lsim h.toLSim]
  refine fsim_ite ⟨fail_fsim h, rfl⟩ ?_
  split
  · exact ⟨fail_fsim h, rfl⟩
  · exact hdrTail_fsim (emblScan_fsim parse _ _ h)

theorem headerEmbl_fsim (parse : Bool) {k : Nat} {a1 a2 : Ascii} (sq : Sq) (h : FSim k a1 a2) :
    RelF k (headerEmbl parse a1 sq) (headerEmbl parse a2 sq) := by
  rw [headerEmbl_eq, headerEmbl_eq, h.nc, fuelOf_lsim h.toLSim]
  obtain ⟨hs, he⟩ := skipLinesWhile_fsim isBlankStr (fuelOf a2) h
  rw [he]
  exact fsim_ite ⟨h, rfl⟩ (fsim_ite ⟨hs, rfl⟩ (emblId_fsim parse sq hs))

/-- **`header_embl` / `skip_embl` are block-size independent**: from two handles on the same file standing on the same line —
    whatever their block sizes `B₁, B₂ ≥ 1` — the same status, the same `ESL_SQ` (name, accession, description, `roff`, `hoff`,
    `doff`), and the two handles again stand on the same line. -/
theorem headerEmbl_block_size_independent (parse : Bool) (a1 a2 : Ascii) (sq : Sq) (h : LSim a1 a2) :
    (headerEmbl parse a1 sq).2.2 = (headerEmbl parse a2 sq).2.2 ∧ (headerEmbl parse a1 sq).2.1 = (headerEmbl parse a2 sq).2.1 ∧
    LSim (headerEmbl parse a1 sq).1 (headerEmbl parse a2 sq).1 :=
  (headerEmbl_fsim parse sq (⟨h, rfl⟩ : FSim a1.fmt a1 a2)).unpack

theorem genbankScan_fsim {k : Nat} (parse : Bool) (fuel : Nat) : ∀ {a1 a2 : Ascii} (sq : Sq), FSim k a1 a2 →
    RelF k (genbankScan parse fuel a1 sq) (genbankScan parse fuel a2 sq) := by
  induction fuel with
  | zero => intro a1 a2 sq h; exact ⟨h, rfl⟩
  | succ fuel ih =>
    intro a1 a2 sq h
    simp only [genbankScan]
    obtain ⟨hs, he⟩ := loadbuf_fsim h
    rw [he, hs.line, hs.nc]
    refine fsim_ite ⟨hs, rfl⟩ (fsim_ite ⟨fail_fsim hs, rfl⟩ ?_)
    split
    · exact ⟨fail_fsim hs, rfl⟩
    · exact fsim_ite ⟨hs, rfl⟩ (ih _ hs)

/-- `header_genbank` after the lines before `LOCUS` were skipped -/
def gbLocus (parse : Bool) (a : Ascii) (sq : Sq) : Ascii × Sq × Status :=
  match (if parse then
      if a.nc < 12 then none else
      match strtok (cstrFrom a.line 12) [32] with
      | none => none
      | some tok => some { sq with name := tok }
    else some sq : Option Sq) with
  | none => (a.fail, sq, .eformat)
  | some sq =>
    hdrTail (genbankScan parse (fuelOf a) a
      (if parse then { sq with roff := a.boff } else { { sq with roff := a.boff } with name := #[], acc := #[], desc := #[] }))

theorem headerGenbank_eq (parse : Bool) (a : Ascii) (sq : Sq) : headerGenbank parse a sq =
    if a.nc == 0 then (a, sq, .eof) else
    if (skipLinesWhile (fun l => !hasPrefix l "LOCUS   ") (fuelOf a) a).2 != .ok then
      ((skipLinesWhile (fun l => !hasPrefix l "LOCUS   ") (fuelOf a) a).1, sq,
       (skipLinesWhile (fun l => !hasPrefix l "LOCUS   ") (fuelOf a) a).2)
    else gbLocus parse (skipLinesWhile (fun l => !hasPrefix l "LOCUS   ") (fuelOf a) a).1 sq := by
  unfold headerGenbank gbLocus
  by_cases h0 : (a.nc == 0) = true
  · simp only [h0, if_true]
  · simp only [h0, Bool.false_eq_true, if_false]
    generalize skipLinesWhile (fun l => !hasPrefix l "LOCUS   ") (fuelOf a) a = r
    obtain ⟨b, st⟩ := r
    simp only []
    by_cases hst : (st != Status.ok) = true
    · simp only [hst, if_true]
    · simp only [hst, Bool.false_eq_true, if_false]
      cases parse
      · simp only [Bool.false_eq_true, if_false]
        generalize genbankScan false (fuelOf b) b _ = e
        hdr_tail_tac e
      · simp only [if_true]
        by_cases h12 : b.nc < 12
        · simp only [h12, if_true]
        · simp only [h12, if_false]
          cases hs : strtok (cstrFrom b.line 12) [32] with
          | none => simp only []
          | some tok =>
            simp only []
            generalize genbankScan true (fuelOf b) b _ = e
            hdr_tail_tac e

theorem gbLocus_fsim (parse : Bool) {k : Nat} {a1 a2 : Ascii} (sq : Sq) (h : FSim k a1 a2) : RelF k (gbLocus parse a1 sq) (gbLocus parse a2 sq) := by
  unfold gbLocus
  rw [h.line, h.boff, h.nc, fuelOf_lsim h.toLSim]
  split
  · exact ⟨fail_fsim h, rfl⟩
  · exact hdrTail_fsim (genbankScan_fsim parse _ _ h)

theorem headerGenbank_fsim (parse : Bool) {k : Nat} {a1 a2 : Ascii} (sq : Sq) (h : FSim k a1 a2) :
    RelF k (headerGenbank parse a1 sq) (headerGenbank parse a2 sq) := by
  rw [headerGenbank_eq, headerGenbank_eq, h.nc, fuelOf_lsim h.toLSim]
  obtain ⟨hs, he⟩ := skipLinesWhile_fsim (fun l => !hasPrefix l "LOCUS   ") (fuelOf a2) h
  rw [he]
  exact fsim_ite ⟨h, rfl⟩ (fsim_ite ⟨hs, rfl⟩ (gbLocus_fsim parse sq hs))

theorem headerGenbank_block_size_independent (parse : Bool) (a1 a2 : Ascii) (sq : Sq) (h : LSim a1 a2) :
    (headerGenbank parse a1 sq).2.2 = (headerGenbank parse a2 sq).2.2 ∧
    (headerGenbank parse a1 sq).2.1 = (headerGenbank parse a2 sq).2.1 ∧
    LSim (headerGenbank parse a1 sq).1 (headerGenbank parse a2 sq).1 :=
  (headerGenbank_fsim parse sq (⟨h, rfl⟩ : FSim a1.fmt a1 a2)).unpack

theorem addbufLoop_congr (a b : Ascii) (hnc : a.nc = b.nc) (hg : ∀ i, i < a.nc → a.bufGet i = b.bufGet i)
    (map : Bytes) (digital : Bool) (salloc nres bpos : Nat) (seq : Bytes) :
    addbufLoop a map digital salloc nres bpos seq = addbufLoop b map digital salloc nres bpos seq := by
  fun_induction addbufLoop a map digital salloc nres bpos seq
  case case1 =>
    rename_i h
    conv => rhs; rw [addbufLoop]
    simp only [h, if_true]
  case case7 =>
    rename_i h1 h
    rw [hnc] at h
    conv => rhs; rw [addbufLoop]
    simp only [h1, h, dite_false, Bool.false_eq_true, if_false]
  all_goals (
    have h := ‹_ < a.nc›
    have hb := h
    rw [hnc] at hb
    have hgb := (hg _ h).symm
    clear hg
    conv => rhs; rw [addbufLoop]
    simp only [hb, dite_true, hgb]
    try simp only [dite_eq_ite] at *
    first
      | (simp only [*, if_true, if_false, Bool.false_eq_true]; done)
      | (simp only [*, if_true, if_false, Bool.false_eq_true]; assumption))

theorem bufGet_lsim {a1 a2 : Ascii} (h : LSim a1 a2) (i : Nat) (hi : i < a1.nc) : a1.bufGet i = a2.bufGet i := by
  have hi2 : i < a2.nc := by rw [← h.nc]; exact hi
  simp only [Ascii.bufGet, h.w1.lb, h.w2.lb, if_true, hi, hi2, h.line]

theorem seebuf_lsim {a1 a2 : Ascii} (h : LSim a1 a2) (m : Option Nat) :
    LSim (seebuf a1 m).1 (seebuf a2 m).1 ∧ (seebuf a1 m).2 = (seebuf a2 m).2 := by
  obtain ⟨k1, k2, k3, k4, k5, k6, k7, k8, k9, k10, k11, k12, k13⟩ := keepP_fields h.keep
  -- the two calls run the same loop on the same inputs …
  have core : (seebuf a1 m).2 = (seebuf a2 m).2 ∧ (seebuf a1 m).1.trk = (seebuf a2 m).1.trk ∧
      (seebuf a1 m).1.linenumber = (seebuf a2 m).1.linenumber ∧ (seebuf a1 m).1.haveErr = (seebuf a2 m).1.haveErr := by
    have hloop := seebufLoop_congr a1 a2 h.nc k5 (fun i hi => bufGet_lsim h i hi)
    cases m <;> simp only [seebuf, h.nc, h.bpos, k4, k3, k9, hloop] <;> split <;> exact ⟨rfl, rfl, rfl, rfl⟩
  -- … and write nothing but these three fields
  have f1 := Frame.seebuf_eq a1 m
  have f2 := Frame.seebuf_eq a2 m
  refine ⟨lsim_upd h ((congrArg geoL f1).trans rfl) ((congrArg geoL f2).trans rfl) ?_
    ((congrArg Ascii.bpos f1).trans (h.bpos.trans (congrArg Ascii.bpos f2).symm)), core.1⟩
  rw [f1, f2]
  simp only [keepP, core.2.1, core.2.2.1, core.2.2.2, k1, k2, k5, k6, k7, k8, k10, k11, k12, k13]

theorem addbuf_lsim {a1 a2 : Ascii} (h : LSim a1 a2) (sq : Sq) (n : Nat) :
    LSim (addbuf a1 sq n).1 (addbuf a2 sq n).1 ∧ (addbuf a1 sq n).2 = (addbuf a2 sq n).2 := by
  obtain ⟨k1, k2, k3, k4, k5, k6, k7, k8, k9, k10, k11, k12, k13⟩ := keepP_fields h.keep
  rw [BodySpec.addbuf_eq, BodySpec.addbuf_eq, k5, h.bpos,
    addbufLoop_congr a1 a2 h.nc (fun i hi => bufGet_lsim h i hi)]
  refine ⟨lsim_upd h rfl rfl ?_ rfl, rfl⟩
  simp only [keepP, k1, k2, k3, k4, k6, k7, k8, k9, k10, k11, k12, k13]

theorem setL_lsim {a1 a2 : Ascii} (h : LSim a1 a2) (x : Int) : LSim { a1 with L := x } { a2 with L := x } := by
  obtain ⟨k1, k2, k3, k4, k5, k6, k7, k8, k9, k10, k11, k12, k13⟩ := keepP_fields h.keep
  refine lsim_upd h rfl rfl ?_ h.bpos
  simp only [keepP, k1, k3, k4, k5, k6, k7, k8, k9, k10, k11, k12, k13]

theorem setBpos_lsim {a1 a2 : Ascii} (h : LSim a1 a2) (x : Nat) : LSim { a1 with bpos := x } { a2 with bpos := x } :=
  lsim_upd h rfl rfl h.keep rfl

theorem seebuf_fsim {k : Nat} {a1 a2 : Ascii} (h : FSim k a1 a2) (m : Option Nat) :
    FSim k (seebuf a1 m).1 (seebuf a2 m).1 ∧ (seebuf a1 m).2 = (seebuf a2 m).2 :=
  ⟨⟨(seebuf_lsim h.toLSim m).1, (DataScan.seebuf_same a1 m).2.2.2.2.1.trans h.fmt⟩, (seebuf_lsim h.toLSim m).2⟩

theorem addbuf_fsim {k : Nat} {a1 a2 : Ascii} (h : FSim k a1 a2) (sq : Sq) (n : Nat) :
    FSim k (addbuf a1 sq n).1 (addbuf a2 sq n).1 ∧ (addbuf a1 sq n).2 = (addbuf a2 sq n).2 :=
  ⟨⟨(addbuf_lsim h.toLSim sq n).1, h.fmt⟩, (addbuf_lsim h.toLSim sq n).2⟩

theorem setL_fsim {k : Nat} {a1 a2 : Ascii} (h : FSim k a1 a2) (x : Int) : FSim k { a1 with L := x } { a2 with L := x } :=
  ⟨setL_lsim h.toLSim x, h.fmt⟩

theorem setBpos_fsim {k : Nat} {a1 a2 : Ascii} (h : FSim k a1 a2) (x : Nat) : FSim k { a1 with bpos := x } { a2 with bpos := x } :=
  ⟨setBpos_lsim h.toLSim x, h.fmt⟩

theorem endEmbl_fsim {k : Nat} {a1 a2 : Ascii} (sq : Sq) (h : FSim k a1 a2) : RelF k (endEmbl a1 sq) (endEmbl a2 sq) := by
  simp only [endEmbl]
  obtain ⟨hs, he⟩ := loadbuf_fsim h
  rw [h.line, h.boff, h.nc, he]
  exact fsim_ite ⟨fail_fsim h, rfl⟩ (fsim_ite ⟨hs, rfl⟩ ⟨hs, rfl⟩)

/-- `esl_sq_GrowTo` + `addbuf` when storing, nothing when counting: either way after the same `seebuf` -/
theorem adS_fsim {k : Nat} (store : Bool) {a1 a2 : Ascii} (h : FSim k a1 a2) (sq : Sq) :
    FSim k (BodySpec.adS store a1 sq).1 (BodySpec.adS store a2 sq).1 ∧ (BodySpec.adS store a1 sq).2 = (BodySpec.adS store a2 sq).2 := by
  obtain ⟨hs, he⟩ := seebuf_fsim h none
  cases store
  · exact ⟨hs, rfl⟩
  · simp only [BodySpec.adS, if_true, BodySpec.adOf]
    rw [he]
    exact addbuf_fsim hs _ _

theorem scanStep_fsim {k : Nat} (store : Bool) {a1 a2 : Ascii} (h : FSim k a1 a2) (sq : Sq) :
    FSim k (scanStep store a1 sq).1 (scanStep store a2 sq).1 ∧ (scanStep store a1 sq).2 = (scanStep store a2 sq).2 := by
  rw [BodySpec.scanStep_eq, BodySpec.scanStep_eq]
  obtain ⟨hs, he⟩ := seebuf_fsim h none
  obtain ⟨ha, hae⟩ := adS_fsim store h sq
  rw [he, hae]
  generalize (seebuf a1 none).1 = b1 at hs
  generalize (BodySpec.adS store a1 sq).1 = c1 at ha
  generalize seebuf a2 none = s2 at hs
  generalize BodySpec.adS store a2 sq = ad2 at ha
  have hl := setL_fsim ha (ad2.1.L + (s2.2.nres : Int))
  rw [ha.L_eq, ha.boff, (loadbuf_fsim hl).2]
  exact fsim_ite ⟨hs, rfl⟩ (fsim_ite ⟨hs, rfl⟩ (fsim_ite ⟨ha, rfl⟩ (fsim_ite ⟨hl, rfl⟩ (fsim_ite ⟨hl, rfl⟩ ⟨(loadbuf_fsim hl).1, rfl⟩))))

theorem scanLoop_fsim {k : Nat} (store : Bool) (fuel : Nat) : ∀ {a1 a2 : Ascii} (sq : Sq), FSim k a1 a2 →
    FSim k (scanLoop store fuel a1 sq).1 (scanLoop store fuel a2 sq).1 ∧
    (scanLoop store fuel a1 sq).2 = (scanLoop store fuel a2 sq).2 := by
  induction fuel with
  | zero => intro a1 a2 sq h; exact ⟨h, rfl⟩
  | succ fuel ih =>
    intro a1 a2 sq h
    rw [DataScan.scanLoop_succ, DataScan.scanLoop_succ]
    obtain ⟨hs, he⟩ := scanStep_fsim store h sq
    rw [he]
    exact fsim_ite (ih _ hs) ⟨hs, rfl⟩

theorem lsim_refl {a : Ascii} (w : LWF a) : LSim a a := ⟨w, w, rfl, rfl, rfl, rfl, rfl⟩

theorem parseEnd_line (a : Ascii) (sq : Sq) (h : a.fmt = 2 ∨ a.fmt = 3 ∨ a.fmt = 4 ∨ a.fmt = 5) : parseEnd a sq = endEmbl a sq := by
  unfold parseEnd
  rcases h with h | h | h | h <;> simp [h]

/-- the two stages of `readBody` after its residue loop returned `(b, q, st, ep)` (`readBody_eq`): `bodyEnd`, the end-of-record
    parser at `eslEOF` (if the format allows it) or at the stop position `ep` of `eslEOD`; `bodyFin`, the terminator check and
    the whole-sequence coordinates -/
def bodyEnd (b : Ascii) (q : Sq) (st : Status) (ep : Nat) : Ascii × Sq × Status :=
  if st == .eof then (if !b.eofIsOk then (b.fail, q, Status.eformat) else parseEnd b q)
  else if st == .eod then parseEnd { b with bpos := ep } q
  else (b, q, st)

def bodyFin (r : Ascii × Sq × Status) : Ascii × Sq × Status :=
  if r.2.2 != .ok then r else if !r.2.1.termOk then (r.1, r.2.1, .fault) else (r.1, r.2.1.setWhole, .ok)

theorem readBody_eq (a : Ascii) (sq : Sq) : readBody a sq =
    if ((scanLoop true (fuelOf a) a sq).2.2.1 == .fault || (scanLoop true (fuelOf a) a sq).2.2.1 == .eformat) = true then
      ((scanLoop true (fuelOf a) a sq).1, (scanLoop true (fuelOf a) a sq).2.1, (scanLoop true (fuelOf a) a sq).2.2.1)
    else bodyFin (bodyEnd (scanLoop true (fuelOf a) a sq).1 (scanLoop true (fuelOf a) a sq).2.1
      (scanLoop true (fuelOf a) a sq).2.2.1 (scanLoop true (fuelOf a) a sq).2.2.2) := by
  unfold readBody
  generalize scanLoop true (fuelOf a) a sq = r
  obtain ⟨b, q, s, e⟩ := r
  rfl

theorem FSim.fmt2 {k : Nat} {a1 a2 : Ascii} (h : FSim k a1 a2) : a2.fmt = k :=
  h.fmt_eq.symm.trans h.fmt

theorem parseEnd_fsim {k : Nat} {a1 a2 : Ascii} (sq : Sq) (h : FSim k a1 a2) (hk : k = 2 ∨ k = 3 ∨ k = 4 ∨ k = 5) :
    RelF k (parseEnd a1 sq) (parseEnd a2 sq) := by
  rw [parseEnd_line a1 sq (h.fmt ▸ hk), parseEnd_line a2 sq (h.fmt2 ▸ hk)]
  exact endEmbl_fsim sq h

theorem bodyEnd_fsim {k : Nat} {b1 b2 : Ascii} (q : Sq) (st : Status) (ep : Nat) (h : FSim k b1 b2)
    (hk : k = 2 ∨ k = 3 ∨ k = 4 ∨ k = 5) : RelF k (bodyEnd b1 q st ep) (bodyEnd b2 q st ep) := by
  unfold bodyEnd
  rw [show (!b1.eofIsOk) = !b2.eofIsOk by rw [h.eofIsOk_eq]]
  exact fsim_ite (fsim_ite ⟨fail_fsim h, rfl⟩ (parseEnd_fsim q h hk)) (fsim_ite (parseEnd_fsim q (setBpos_fsim h ep) hk) ⟨h, rfl⟩)

theorem bodyFin_fsim {k : Nat} {r1 r2 : Ascii × Sq × Status} (h : RelF k r1 r2) : RelF k (bodyFin r1) (bodyFin r2) := by
  unfold bodyFin
  rw [h.2]
  exact fsim_ite h (fsim_ite ⟨h.1, rfl⟩ ⟨h.1, rfl⟩)

theorem readBody_fsim {k : Nat} {a1 a2 : Ascii} (sq : Sq) (h : FSim k a1 a2) (hk : k = 2 ∨ k = 3 ∨ k = 4 ∨ k = 5) :
    RelF k (readBody a1 sq) (readBody a2 sq) := by
  rw [readBody_eq, readBody_eq, fuelOf_lsim h.toLSim]
  obtain ⟨hs, he⟩ := scanLoop_fsim true (fuelOf a2) sq h
  rw [he]
  exact fsim_ite ⟨hs, rfl⟩ (bodyFin_fsim (bodyEnd_fsim _ _ _ hs hk))

/-- the header reader of a line-based format: `header_embl` (EMBL, UniProt) or `header_genbank` (GenBank, DDBJ) -/
def headerLine (parse : Bool) (a : Ascii) (sq : Sq) : Ascii × Sq × Status :=
  if a.fmt == 2 || a.fmt == 5 then headerEmbl parse a sq else headerGenbank parse a sq

theorem parseHeader_line (a : Ascii) (sq : Sq) (h : a.fmt = 2 ∨ a.fmt = 3 ∨ a.fmt = 4 ∨ a.fmt = 5) :
    parseHeader a sq = headerLine true a sq := by
  unfold parseHeader headerLine
  rcases h with h | h | h | h <;> simp [h]

theorem skipHeader_line (a : Ascii) (sq : Sq) (h : a.fmt = 2 ∨ a.fmt = 3 ∨ a.fmt = 4 ∨ a.fmt = 5) :
    skipHeader a sq = headerLine false a sq := by
  unfold skipHeader headerLine
  rcases h with h | h | h | h <;> simp [h]

theorem headerLine_fsim (parse : Bool) {k : Nat} {a1 a2 : Ascii} (sq : Sq) (h : FSim k a1 a2) :
    RelF k (headerLine parse a1 sq) (headerLine parse a2 sq) := by
  unfold headerLine
  rw [h.fmt_eq]
  exact fsim_ite (headerEmbl_fsim parse sq h) (headerGenbank_fsim parse sq h)

theorem parseHeader_fsim {k : Nat} {a1 a2 : Ascii} (sq : Sq) (h : FSim k a1 a2) (hk : k = 2 ∨ k = 3 ∨ k = 4 ∨ k = 5) :
    RelF k (parseHeader a1 sq) (parseHeader a2 sq) := by
  rw [parseHeader_line a1 sq (h.fmt ▸ hk), parseHeader_line a2 sq (h.fmt2 ▸ hk)]
  exact headerLine_fsim true sq h

/-- the shape of `sqascii_Read`, `ReadSequence`, `ReadInfo`: `eslEOF` on an empty buffer, the header (result `p`), then the body -/
theorem record_fsim {k : Nat} {a1 a2 : Ascii} {sq : Sq} (h : FSim k a1 a2) {p1 p2 : Ascii × Sq × Status}
    {body : Ascii → Sq → Ascii × Sq × Status} (hp : RelF k p1 p2)
    (hb : ∀ {b1 b2 : Ascii} (q : Sq), FSim k b1 b2 → RelF k (body b1 q) (body b2 q)) :
    RelF k (if a1.nc == 0 then (a1, sq, .eof) else if p1.2.2 != .ok then p1 else body p1.1 p1.2.1)
      (if a2.nc == 0 then (a2, sq, .eof) else if p2.2.2 != .ok then p2 else body p2.1 p2.2.1) := by
  rw [h.nc, hp.2]
  exact fsim_ite ⟨h, rfl⟩ (fsim_ite hp (hb _ hp.1))

theorem read_fsim {k : Nat} {a1 a2 : Ascii} (sq : Sq) (h : FSim k a1 a2) (hk : k = 2 ∨ k = 3 ∨ k = 4 ∨ k = 5) :
    RelF k (read a1 sq) (read a2 sq) :=
  record_fsim h (parseHeader_fsim sq h hk) fun q hs => readBody_fsim q hs hk

/-- **`sqascii_Read` on an EMBL / UniProt / GenBank / DDBJ file is block-size independent**: from two handles on the same file
    standing on the same line, whatever their block sizes, the same status and the same `ESL_SQ` (every field), and the two
    handles again stand on the same line. -/
theorem read_embl_block_size_independent (a1 a2 : Ascii) (sq : Sq) (h : LSim a1 a2)
    (hf : a1.fmt = 2 ∨ a1.fmt = 3 ∨ a1.fmt = 4 ∨ a1.fmt = 5) :
    (read a1 sq).2.2 = (read a2 sq).2.2 ∧ (read a1 sq).2.1 = (read a2 sq).2.1 ∧ LSim (read a1 sq).1 (read a2 sq).1 :=
  (read_fsim sq (⟨h, rfl⟩ : FSim a1.fmt a1 a2) hf).unpack

theorem open_lsim (file : Bytes) (B1 B2 abc fmt : Nat) (eofOk : Bool) (inmap : Bytes) (h1 : 1 ≤ B1) (h2 : 1 ≤ B2) :
    LSim (loadbuf { file := file, B := B1, abc := abc, fmt := fmt, eofIsOk := eofOk, linebased := true, inmap := inmap }).1
      (loadbuf { file := file, B := B2, abc := abc, fmt := fmt, eofIsOk := eofOk, linebased := true, inmap := inmap }).1 ∧
    (loadbuf { file := file, B := B1, abc := abc, fmt := fmt, eofIsOk := eofOk, linebased := true, inmap := inmap }).2 =
      (loadbuf { file := file, B := B2, abc := abc, fmt := fmt, eofIsOk := eofOk, linebased := true, inmap := inmap }).2 := by
  apply loadbuf_lsim
  exact ⟨lwf_fresh _ rfl (by show (0 : Int) ≠ 1; omega) h1 rfl rfl rfl rfl rfl rfl,
    lwf_fresh _ rfl (by show (0 : Int) ≠ 1; omega) h2 rfl rfl rfl rfl rfl rfl, rfl, rfl, rfl, rfl, rfl⟩

/-- `ID   X\nSQ   \n     acgt\n//\n` -/
def demoE : Bytes := #[73, 68, 32, 32, 32, 88, 10, 83, 81, 32, 32, 32, 10, 32, 32, 32, 32, 32, 97, 99, 103, 116, 10, 47, 47, 10]

def readE (B : Nat) : Ascii × Sq × Status :=
  read (loadbuf { file := demoE, B := B, fmt := 2, linebased := true, inmap := inmapEmbl 0 }).1 {}

/-- the three runs of the reader on `demoE` (block sizes 1, 3, 64), evaluated once -/
theorem readE_runs : ((readE 1).2.2 = .ok ∧ (readE 1).2.1.name = #[88, 10] ∧ (readE 1).2.1.seq = #[97, 99, 103, 116] ∧ (readE 1).2.1.eoff = 25) ∧
    (readE 3).2.1.seq = #[97, 99, 103, 116] ∧ (readE 64).2.1.seq = #[97, 99, 103, 116] := by
  simp only [readE, inmapEmbl_text]; decide +kernel

example : (readE 1).2.2 = .ok := readE_runs.1.1
example : (readE 1).2.1.name = #[88, 10] := readE_runs.1.2.1
example : (readE 1).2.1.seq = #[97, 99, 103, 116] := readE_runs.1.2.2.1
example : (readE 1).2.1.eoff = 25 := readE_runs.1.2.2.2
example : (readE 3).2.1.seq = (readE 1).2.1.seq := readE_runs.2.1.trans readE_runs.1.2.2.1.symm
example : (readE 64).2.1.seq = (readE 1).2.1.seq := readE_runs.2.2.trans readE_runs.1.2.2.1.symm

/-- the instance of `read_embl_block_size_independent` behind the evaluation above -/
example : (read (loadbuf { file := demoE, B := 1, fmt := 2, linebased := true, inmap := inmapEmbl 0 }).1 ({} : Sq)).2 =
    (read (loadbuf { file := demoE, B := 64, fmt := 2, linebased := true, inmap := inmapEmbl 0 }).1 ({} : Sq)).2 := by
  have h := (open_lsim demoE 1 64 0 2 false (inmapEmbl 0) (by decide) (by decide)).1
  have hf : (loadbuf { file := demoE, B := 1, abc := 0, fmt := 2, eofIsOk := false, linebased := true, inmap := inmapEmbl 0 }).1.fmt = 2 :=
    loadbuf_fmt _
  exact (read_fsim ({} : Sq) (⟨h, rfl⟩ : FSim _ _ _) (Or.inl hf)).2

end EaselModel.Sqio.EmblSpec
