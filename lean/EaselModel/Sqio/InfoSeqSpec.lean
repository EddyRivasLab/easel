import EaselModel.Sqio.ParseFasta
/-! # `sqascii_ReadInfo` and `sqascii_ReadSequence` in closed form, and their agreement with `sqascii_Read` (C04)

On every input where `Read` succeeds, `ReadInfo` and `ReadSequence` succeed too, leave the cursor on the same byte, and agree field
by field (name, description, offsets, `L`; residues, `roff`, `doff`, `eoff`, `L`). -/
namespace EaselModel.Sqio.InfoSeqSpec
open EaselModel.Sqio.Refine EaselModel.Sqio.Fold EaselModel.Sqio.DataScan EaselModel.Sqio.Cursor EaselModel.Sqio.BodySpec
open EaselModel.Sqio.HeaderSpec EaselModel.Sqio.ReadSpec EaselModel.Sqio.ParseFasta

/-- what `sqascii_ReadInfo` leaves in the `ESL_SQ`: no residues, `L` = their number -/
def infoOf (s : Sq) (e L : Int) : Sq := { s with eoff := e, L := L, seq := #[], start := 0, end_ := 0, C := 0, W := 0 }

def infoBodyL (inmap : Bytes) (N : Nat) (sq : Sq) (l : List UInt8) : Status × Sq × List UInt8 :=
  match l.dropWhile (isData inmap) with
  | [] => (.ok, infoOf sq (offOf N [] - 1) (nresOf inmap (l.takeWhile (isData inmap))), [])
  | c :: t =>
    if isEod inmap c then (.ok, infoOf sq (offOf N (c :: t) - 1) (nresOf inmap (l.takeWhile (isData inmap))), c :: t)
    else (.eformat, sq, c :: t)

/-- `sqascii_ReadInfo` on the remaining bytes `l` -/
def infoL (inmap : Bytes) (N : Nat) (sq : Sq) (l : List UInt8) : Status × Sq × List UInt8 :=
  if l.isEmpty then (.eof, sq, []) else
  if (headerL N sq l).1 == .ok then infoBodyL inmap N (headerL N sq l).2.1 (headerL N sq l).2.2
  else headerL N sq l

/-- `sqascii_ReadSequence` on the remaining bytes `l` -/
def seqL (inmap : Bytes) (N : Nat) (sq : Sq) (l : List UInt8) : Status × Sq × List UInt8 :=
  if l.isEmpty then (.eof, sq, []) else
  if (skipL N sq l).1 == .ok then bodyL inmap (mapFor inmap sq) N (skipL N sq l).2.1 (skipL N sq l).2.2
  else skipL N sq l

theorem Cur.setL {a : Ascii} (h : Cur a) (x : Int) : Cur { a with L := x } := ⟨WF_L a x h.wf, h.cur, h.tok⟩

theorem infoBody_spec (a : Ascii) (sq : Sq) (h : Cur a) (hfmt : a.fmt = 1) (heof : a.eofIsOk = true) (hm : a.inmap.size = 128)
    (hgt : EodGt a.inmap) (hL : a.L = 0) (hsa : 2 ≤ sq.salloc) :
    Spec a (infoEnd (scanLoop false (fuelOf a) a sq)) (infoBodyL a.inmap a.file.size sq (fileFrom a)) := by
  have hfuel : (fileFrom a).length + 1 < fuelOf a := by have := h.len; unfold fuelOf; omega
  obtain ⟨k1, k2, k3⟩ := scanLoop_spec false (fuelOf a) a sq h hm (fun k => by cases k) hfuel _ _ rfl rfl
  have hlen := length_takeWhile_add_dropWhile (isData a.inmap) (fileFrom a)
  have halloc : (!(if sq.digital then decide (1 < sq.salloc) else decide (0 < sq.salloc))) = false := by
    cases sq.digital <;> simp <;> omega
  unfold Spec infoEnd infoRecEnd infoBodyL
  generalize scanLoop false (fuelOf a) a sq = R at k1 k2 k3 ⊢
  obtain ⟨A, S, T, E⟩ := R
  simp only [] at k1 k2 k3 ⊢
  cases hr : (fileFrom a).dropWhile (isData a.inmap) with
  | nil =>
    obtain ⟨j1, j2, j3, j4, j5, j6⟩ := k1 hr
    subst j1
    have hA : A.eofIsOk = true := (stat_eofIsOk j5).trans heof
    have b1 : (Status.eof == Status.fault || Status.eof == Status.eformat) = false := by decide
    have hoff : pos a + (((fileFrom a).takeWhile (isData a.inmap)).length : Int) - 1 = offOf a.file.size [] - 1 := by
      rw [offOf_drop a h _ [] (by rw [hr] at hlen; exact hlen)]
    simp only [b1, Bool.false_eq_true, if_false, beq_self_eq_true, if_true, hA, Bool.not_true, infoTail, bne_self_eq_false]
    rw [j2, hoff]
    simp only [stored, Bool.false_eq_true, if_false, halloc]
    refine ⟨trivial, fun _ => ⟨?_, j3, j4, j5⟩, fun k => (by cases k), fun k => (by cases k)⟩
    rw [j6, hL]; simp only [infoOf, Int.zero_add]
  | cons c t =>
    by_cases hce : isEod a.inmap c = true
    · obtain ⟨j1, j2, j3, j4, j5, j6, j7, j8⟩ := k2 c t hr hce
      subst j1
      obtain ⟨hcur, hff, hend⟩ := endFasta_at_eod S h hfmt hgt hr hce j3 j4 j5 j7 j8
      have b1 : (Status.eod == Status.fault || Status.eod == Status.eformat) = false := by decide
      have hoff : pos a + (((fileFrom a).takeWhile (isData a.inmap)).length : Int) - 1 = offOf a.file.size (c :: t) - 1 := by
        rw [offOf_drop a h _ (c :: t) (by rw [hr] at hlen; exact hlen)]
      have b3 : (Status.eod == Status.eof) = false := by decide
      simp only [b1, b3, Bool.false_eq_true, if_false, beq_self_eq_true, if_true, hend, infoTail, bne_self_eq_false, hce]
      rw [j7, j2, hoff]
      simp only [stored, Bool.false_eq_true, if_false, halloc]
      refine ⟨trivial, fun _ => ⟨?_, hcur, hff, j5⟩, fun k => (by cases k), fun k => (by cases k)⟩
      show infoOf sq (offOf a.file.size (c :: t) - 1) A.L = _
      rw [j6, hL]; simp only [Int.zero_add]
    · have hce' : isEod a.inmap c = false := by simpa using hce
      obtain ⟨j1, j2⟩ := k3 c t hr hce'
      subst j1
      have b1 : (Status.eformat == Status.fault || Status.eformat == Status.eformat) = true := by decide
      simp only [b1, if_true, hce', Bool.false_eq_true, if_false]
      exact ⟨trivial, fun k => (by cases k), fun _ => j2, fun k => (by cases k)⟩

/-- **`sqascii_ReadInfo` on a FASTA file = `infoL` on the remaining file bytes, for every block size.** -/
theorem readInfo_spec (a : Ascii) (sq : Sq) (R : Ready a sq) (hsa : 2 ≤ sq.salloc) :
    Spec a (readInfo a sq) (infoL a.inmap a.file.size sq (fileFrom a)) := by
  rw [readInfo_eq, parseHeader_fasta a sq R.fmt]
  refine Spec.record R.cur (hdr := headerFasta)
    (body := fun b q => infoEnd (scanLoop false (fuelOf { b with L := 0 }) { b with L := 0 } q))
    (fun hl => headerFasta_spec a sq R.cur hl R.nalloc R.dalloc) fun hl hok => ?_
  obtain ⟨q1, q2, _, _⟩ := headerFasta_spec a sq R.cur hl R.nalloc R.dalloc
  obtain ⟨c1, c2, c3⟩ := q2 hok
  have e : (headerFasta a sq).2.1 = (headerL a.file.size sq (fileFrom a)).2.1 := congrArg Prod.fst q1
  obtain ⟨u1, u2, _, u4, _⟩ := headerL_keeps a.file.size sq (fileFrom a)
  obtain ⟨k1, k2, k3, _, k5, hi, hf, _⟩ := R.afterHeader c3 (e ▸ u1) (e ▸ u2)
  -- the handle the counting loop starts from, named so that nothing has to see through the record update
  obtain ⟨X, hX⟩ : ∃ X, X = ({ (headerFasta a sq).1 with L := 0 } : Ascii) := ⟨_, rfl⟩
  have hs : stat X = stat (headerFasta a sq).1 := by rw [hX]; rfl
  have c2' : fileFrom X = (headerL a.file.size sq (fileFrom a)).2.2 := by rw [hX]; exact c2
  have := infoBody_spec X (headerFasta a sq).2.1 (by rw [hX]; exact Cur.setL c1 0) ((stat_fmt hs).trans k1) ((stat_eofIsOk hs).trans k2)
    (by rw [stat_inmap hs]; exact k3) (by rw [stat_inmap hs]; exact k5) (by rw [hX]) (by rw [e, u4]; exact hsa)
  rw [(stat_inmap hs).trans hi, (stat_file hs).trans hf, c2', e] at this
  show Spec _ (infoEnd (scanLoop false (fuelOf { (headerFasta a sq).1 with L := 0 }) { (headerFasta a sq).1 with L := 0 } _)) _
  rw [← hX, e]
  exact this.of_stat hs


theorem skipHeader_fasta (a : Ascii) (sq : Sq) (hf : a.fmt = 1) : skipHeader a sq = skipFasta a sq := by
  unfold skipHeader
  simp [hf]

theorem skipL_keeps (N : Nat) (sq : Sq) (l : List UInt8) :
    (skipL N sq l).2.1.digital = sq.digital ∧ (skipL N sq l).2.1.abc = sq.abc ∧ (skipL N sq l).2.1.seq = sq.seq ∧
    (skipL N sq l).2.1.salloc = sq.salloc := by
  unfold skipL
  split
  · simp
  · split <;> simp

/-- **`sqascii_ReadSequence` on a FASTA file = `seqL` on the remaining file bytes, for every block size.** -/
theorem readSequence_spec (a : Ascii) (sq : Sq) (R : Ready a sq) :
    Spec a (readSequence a sq) (seqL a.inmap a.file.size sq (fileFrom a)) := by
  rw [readSequence_eq, skipHeader_fasta a sq R.fmt]
  refine Spec.record R.cur (hdr := skipFasta) (body := readBody) (fun hl => skipFasta_spec a sq R.cur hl) fun hl hok => ?_
  obtain ⟨q1, q2, _, _⟩ := skipFasta_spec a sq R.cur hl
  obtain ⟨c1, c2, c3⟩ := q2 hok
  have e : (skipFasta a sq).2.1 = (skipL a.file.size sq (fileFrom a)).2.1 := congrArg Prod.fst q1
  obtain ⟨u1, u2, _⟩ := skipL_keeps a.file.size sq (fileFrom a)
  obtain ⟨k1, k2, k3, k4, k5, hi, hf, hmp⟩ := R.afterHeader c3 (e ▸ u1) (e ▸ u2)
  have := readBody_spec _ _ c1 k1 k2 k3 k4 k5
  rw [hmp, hi, hf, c2, e] at this
  rw [e]; exact this

/-- **Read / ReadInfo / ReadSequence agree, field by field** — on the closed forms, i.e. for every byte string and (through
    `read_spec`, `readInfo_spec`, `readSequence_spec`) for every block size. Whenever `Read` succeeds on the remaining bytes `l`
    (starting from an `ESL_SQ` without residues, as after `esl_sq_Reuse`): `ReadInfo` and `ReadSequence` succeed, leave the cursor on
    the same remaining bytes, and
    * `ReadInfo`: same name, description, `roff`, `hoff`, `doff`, `eoff`, and `L` = the number of residues `Read` returns;
    * `ReadSequence`: same residues, `roff`, `doff`, `eoff`, `L`, coordinates. -/
theorem info_seq_agree_L (inmap : Bytes) (N : Nat) (sq sq' : Sq) (l : List UInt8) (hs : sq.seq = #[])
    (hd' : sq'.digital = sq.digital) (ha' : sq'.abc = sq.abc) (hs' : sq'.seq = #[])
    (h : (recL inmap N sq l).1 = .ok) :
    (infoL inmap N sq l).1 = .ok ∧ (infoL inmap N sq l).2.2 = (recL inmap N sq l).2.2 ∧
    (infoL inmap N sq l).2.1.name = (recL inmap N sq l).2.1.name ∧ (infoL inmap N sq l).2.1.desc = (recL inmap N sq l).2.1.desc ∧
    (infoL inmap N sq l).2.1.roff = (recL inmap N sq l).2.1.roff ∧ (infoL inmap N sq l).2.1.hoff = (recL inmap N sq l).2.1.hoff ∧
    (infoL inmap N sq l).2.1.doff = (recL inmap N sq l).2.1.doff ∧ (infoL inmap N sq l).2.1.eoff = (recL inmap N sq l).2.1.eoff ∧
    (infoL inmap N sq l).2.1.L = (recL inmap N sq l).2.1.L ∧ (infoL inmap N sq l).2.1.L = ((recL inmap N sq l).2.1.seq.size : Int) ∧
    (seqL inmap N sq' l).1 = .ok ∧ (seqL inmap N sq' l).2.2 = (recL inmap N sq l).2.2 ∧
    (seqL inmap N sq' l).2.1.seq = (recL inmap N sq l).2.1.seq ∧ (seqL inmap N sq' l).2.1.roff = (recL inmap N sq l).2.1.roff ∧
    (seqL inmap N sq' l).2.1.doff = (recL inmap N sq l).2.1.doff ∧ (seqL inmap N sq' l).2.1.eoff = (recL inmap N sq l).2.1.eoff ∧
    (seqL inmap N sq' l).2.1.L = (recL inmap N sq l).2.1.L ∧ (seqL inmap N sq' l).2.1.start = (recL inmap N sq l).2.1.start ∧
    (seqL inmap N sq' l).2.1.end_ = (recL inmap N sq l).2.1.end_ := by
  unfold recL at h ⊢
  unfold infoL seqL
  by_cases hne : l.isEmpty = true
  · simp only [hne, if_true] at h; cases h
  · simp only [hne, Bool.false_eq_true, if_false] at h ⊢
    by_cases hok : ((headerL N sq l).1 == .ok) = true
    · simp only [hok, if_true] at h ⊢
      obtain ⟨g1, g2, g3, g4⟩ := headerL_skipL_agree N sq sq' l (eq_of_beq hok)
      obtain ⟨u1, u2, u3, _, _⟩ := headerL_keeps N sq l
      obtain ⟨v1, v2, v3, _⟩ := skipL_keeps N sq' l
      have hok2 : ((skipL N sq' l).1 == .ok) = true := by rw [g1]; rfl
      simp only [hok2, if_true]
      have hmf : mapFor inmap sq' = mapFor inmap sq := by simp only [mapFor, hd', ha']
      rw [g2, hmf]
      generalize (headerL N sq l).2.2 = l1 at h ⊢
      generalize (headerL N sq l).2.1 = s1 at h u1 u2 u3 g3 g4 ⊢
      generalize (skipL N sq' l).2.1 = s2 at v1 v2 v3 g3 g4 ⊢
      unfold bodyL at h ⊢
      unfold infoBodyL
      have hseq1 : s1.seq = #[] := u3.trans hs
      have hseq2 : s2.seq = #[] := v3.trans hs'
      cases hr : l1.dropWhile (isData inmap) with
      | nil =>
        simp only [Sq.setWhole, stored, if_true, infoOf, Sq.n, hseq1, hseq2, g3, g4, resOf_size, nresOf, Array.size_append]
        simp
      | cons c t =>
        rw [hr] at h
        simp only [] at h ⊢
        by_cases hce : isEod inmap c = true
        · simp only [hce, if_true, Sq.setWhole, stored, infoOf, Sq.n, hseq1, hseq2, g3, g4, resOf_size, nresOf, Array.size_append]
          simp
        · simp only [hce, Bool.false_eq_true, if_false] at h; cases h
    · have hok' : ((headerL N sq l).1 == .ok) = false := by simpa using hok
      simp only [hok', Bool.false_eq_true, if_false] at h
      rw [h] at hok; exact absurd rfl hok

end EaselModel.Sqio.InfoSeqSpec
