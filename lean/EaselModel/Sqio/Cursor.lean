import EaselModel.Sqio.DataScan
/-! # The block loader as a cursor over the list of remaining file bytes (C04 / C02 whole-reader refinement)

`Abs N a st c l`: the triple `(handle, status, c)` that every `while (status == eslOK && p(c)) status = nextchar(sqfp, &c)` loop
of `header_fasta` carries stands for the abstract cursor `l` on a file of `N` bytes (`st = eslOK` ⇒ `l = c :: _`; otherwise `st = eslEOF` and `l = []`).
Such a loop is `List.dropWhile` / `List.takeWhile` on `l`, wherever the block boundaries fall; `fault` is not an outcome.
`Spec a r R`: the outcome `r` of a reading call started on `a` is its closed form `R` on the remaining bytes; `Spec.record` composes
a header and a body. 
What this file takes from below. `Refine.WF a` (Refine.lean): the block bookkeeping of `a` is consistent and the cursor inside
the buffer; `Refine.Pre`: the same before a `loadbuf`, the buffer used up; `Refine.pos a`: the file offset of the cursor.
`Sim.Live a`: the cursor stands on a byte; `Sim.AtEof a`: the last `loadbuf` answered `eslEOF` (both Sim.lean). `Track.Ok`, the
line tracker's invariant, `SS` = (tracker, line number, residues so far), `scanBytes`, `seebuf`'s loop as a fold over a list
of bytes, and `bufList a i`, the bytes of the buffer from index `i` on: Fold.lean. `fileFrom a`, the bytes of the file from the
cursor on: DataScan.lean. Above them here: `Cur a` = `WF a`, `Live` or at the end of the file, `Track.Ok`: a handle between two
reading calls, the hypothesis of every closed form; `ReadSpec.Ready a sq` = `Cur a` with the format, the input map and the
allocations of `sq` that `sqascii_Read` needs; `BlockSpec.HReady`, `WindowSeries.HOk` say the same of the handle alone, for
callers that bring their own `ESL_SQ` (`HOk` without `MapOk` and with `WF` where the others have `Cur`: between two windows the cursor may stand
at the very end of the buffer). So `Ready` ⇒ `HReady` ⇒ `Cur` ⇒ `WF` and `HReady` ⇒ `HOk` ⇒ `WF`; `Pre` stands beside `WF`
(`loadbuf` turns it into `WF`: `Refine.loadbuf_wf`).
-/
namespace EaselModel.Sqio.Cursor
open EaselModel.Sqio.Refine EaselModel.Sqio.Fold EaselModel.Sqio.DataScan

/-- the fields of the handle that no reading call changes -/
def stat (a : Ascii) : Bytes × Bytes × Bool × Nat × Nat := (a.file, a.inmap, a.eofIsOk, a.fmt, a.abc)

/-! what an equation of `stat`s says of each field -/
theorem stat_file {a b : Ascii} (h : stat a = stat b) : a.file = b.file := congrArg (fun p => p.1) h
theorem stat_inmap {a b : Ascii} (h : stat a = stat b) : a.inmap = b.inmap := congrArg (fun p => p.2.1) h
theorem stat_eofIsOk {a b : Ascii} (h : stat a = stat b) : a.eofIsOk = b.eofIsOk := congrArg (fun p => p.2.2.1) h
theorem stat_fmt {a b : Ascii} (h : stat a = stat b) : a.fmt = b.fmt := congrArg (fun p => p.2.2.2.1) h

theorem stat_of_payload {a b : Ascii} (h : Sim.payload a = Sim.payload b) : stat a = stat b := by
  simp only [Sim.payload, Prod.mk.injEq] at h
  obtain ⟨r1, _, _, _, r5, r6, r7, r8, _⟩ := h
  simp only [stat, r1, r5, r6, r7, r8]

theorem stat_of_frame {a : Ascii} {r : Ascii × Sq × Status} (h : Frame.HdrFrame a r) : stat r.1 = stat a :=
  (stat_of_payload h.kept : stat { r.1 with trk := a.trk, linenumber := a.linenumber, haveErr := a.haveErr } = stat a)

structure Cur (a : Ascii) : Prop where
  wf : WF a
  cur : Sim.Live a ∨ (Sim.AtEof a ∧ pos a = (a.file.size : Int))
  tok : Track.Ok a.trk

theorem Cur.len {a : Ascii} (h : Cur a) : (fileFrom a).length + (pos a).toNat = a.file.size :=
  fileFrom_total a h.wf

theorem Cur.posNonneg {a : Ascii} (h : Cur a) : 0 ≤ pos a := by
  have := boff_nonneg a h.wf
  simp only [pos]; omega

theorem Cur.posEq {a : Ascii} (h : Cur a) : pos a = ((a.file.size - (fileFrom a).length : Nat) : Int) := by
  have h1 := h.len
  have h2 := h.posNonneg
  omega

theorem fileFrom_live (a : Ascii) (w : WF a) (l : Sim.Live a) :
    ∃ x, a.bufGet a.bpos = some x ∧ fileFrom a = x :: a.file.toList.drop ((pos a).toNat + 1) := by
  obtain ⟨x, g1, g2, g3⟩ := bufGet_window a w a.bpos l
  have l3 := pos_toNat a w
  refine ⟨x, g1, ?_⟩
  unfold fileFrom
  rw [l3]
  have hlt : a.boff.toNat + a.bpos < a.file.toList.length := by simpa using g3
  rw [List.drop_eq_getElem_cons hlt]
  congr 1
  rw [Array.getElem?_eq_getElem g3] at g2
  simpa using Option.some.inj g2

theorem fileFrom_eof (a : Ascii) (h : pos a = (a.file.size : Int)) : fileFrom a = [] := by
  unfold fileFrom
  apply List.drop_eq_nil_of_le
  simp only [Array.length_toList]
  omega

theorem Cur.live_of_cons {a : Ascii} (h : Cur a) {x : UInt8} {t : List UInt8} (e : fileFrom a = x :: t) : Sim.Live a := by
  rcases h.cur with l | ⟨_, p⟩
  · exact l
  · rw [fileFrom_eof a p] at e; cases e

theorem Cur.eof_of_nil {a : Ascii} (h : Cur a) (e : fileFrom a = []) : Sim.AtEof a ∧ pos a = (a.file.size : Int) := by
  rcases h.cur with l | r
  · obtain ⟨x, _, hx⟩ := fileFrom_live a h.wf l
    rw [hx] at e; cases e
  · exact r

structure Abs (N : Nat) (a : Ascii) (st : Status) (c : UInt8) (l : List UInt8) : Prop where
  cur : Cur a
  sz : a.file.size = N
  ff : fileFrom a = l
  okc : st = .ok → ∃ t, l = c :: t
  eofc : st ≠ .ok → st = .eof ∧ l = []

theorem Abs.st_cases {a : Ascii} {st : Status} {c : UInt8} {l : List UInt8} {N : Nat} (h : Abs N a st c l) : st = .ok ∨ st = .eof := by
  by_cases e : st = .ok
  · exact Or.inl e
  · exact Or.inr (h.eofc e).1

theorem Abs.ok_iff {a : Ascii} {st : Status} {c : UInt8} {l : List UInt8} {N : Nat} (h : Abs N a st c l) : st = .ok ↔ l ≠ [] := by
  constructor
  · intro e; obtain ⟨t, ht⟩ := h.okc e; rw [ht]; simp
  · intro e; by_cases k : st = .ok
    · exact k
    · exact absurd (h.eofc k).2 e

theorem nextchar_abs {N : Nat} (a : Ascii) (c : UInt8) (t : List UInt8) (h : Cur a) (hN : a.file.size = N) (e : fileFrom a = c :: t) :
    Abs N (nextchar a c).1 (nextchar a c).2.1 (nextchar a c).2.2 t := by
  have hl := h.live_of_cons e
  obtain ⟨w', hfile, _, hcase⟩ := nextchar_refines a c h.wf hl
  have hr := Frame.nextchar_payload a c
  have htrk : (nextchar a c).1.trk = a.trk := Sim.payload_trk hr
  obtain ⟨x, _, hx⟩ := fileFrom_live a h.wf hl
  rw [e] at hx
  have ht : t = a.file.toList.drop ((pos a).toNat + 1) := (List.cons.inj hx).2
  have hp0 := h.posNonneg
  have hff : pos (nextchar a c).1 = pos a + 1 → fileFrom (nextchar a c).1 = t := by
    intro hp
    unfold fileFrom
    rw [hfile, hp, ht]
    congr 1
    omega
  rcases hcase with ⟨s1, l1, p1, g1⟩ | ⟨s1, c1, e1, n1, b1, q1⟩
  · have hff' := hff p1
    obtain ⟨y, _, hy⟩ := fileFrom_live _ w' l1
    have hyc : y = (nextchar a c).2.2 := by
      have := hy
      unfold fileFrom at this
      rw [hfile, p1] at this
      have hlt : (pos a + 1).toNat < a.file.toList.length := by
        by_cases hh : (pos a + 1).toNat < a.file.toList.length
        · exact hh
        · rw [List.drop_eq_nil_of_le (by omega)] at this; cases this
      rw [List.drop_eq_getElem_cons hlt] at this
      have h1 := (List.cons.inj this).1
      have hlt' : (pos a + 1).toNat < a.file.size := by simpa using hlt
      rw [Array.getElem?_eq_getElem hlt'] at g1
      have h2 := Option.some.inj g1
      rw [← h1, ← h2]; simp
    refine ⟨⟨w', Or.inl l1, by rw [htrk]; exact h.tok⟩, by rw [hfile]; exact hN, hff', fun _ => ⟨_, by rw [← hff', hy, hyc]⟩, fun k => absurd s1 k⟩
  · have hpe : pos (nextchar a c).1 = ((nextchar a c).1.file.size : Int) := by rw [q1, hfile]; exact e1
    have hnil : t = [] := by rw [← hff q1]; exact fileFrom_eof _ hpe
    refine ⟨⟨w', Or.inr ⟨⟨n1, b1⟩, hpe⟩, by rw [htrk]; exact h.tok⟩, by rw [hfile]; exact hN, hff q1, fun k => ?_, fun _ => ⟨s1, hnil⟩⟩
    rw [s1] at k; cases k

/-- allocation after storing `n` more bytes into a string of `size` bytes held in `alloc` bytes (`if (pos == alloc-1) alloc *= 2`) -/
def allocGrow : Nat → Nat → Nat → Nat
  | alloc, _, 0 => alloc
  | alloc, size, n + 1 => allocGrow (if size + 1 == alloc - 1 then alloc * 2 else alloc) (size + 1) n

/-- **every storing loop (name, description) is `takeWhile` / `dropWhile`**; the store never leaves the allocation -/
theorem storeWhile_abs (p : UInt8 → Bool) (fuel : Nat) (a : Ascii) (st : Status) (c : UInt8) (l : List UInt8) (acc : Bytes) (alloc : Nat)
    {N : Nat} (h : Abs N a st c l) (hf : l.length < fuel) (ha : acc.size + 1 < alloc) :
    Abs N (storeWhile p fuel a st c acc alloc).1 (storeWhile p fuel a st c acc alloc).2.1 (storeWhile p fuel a st c acc alloc).2.2.1
      (l.dropWhile p) ∧
    (storeWhile p fuel a st c acc alloc).2.2.2.1 = acc ++ (l.takeWhile p).toArray ∧
    (storeWhile p fuel a st c acc alloc).2.2.2.1.size + 1 < (storeWhile p fuel a st c acc alloc).2.2.2.2 ∧
    (storeWhile p fuel a st c acc alloc).2.2.2.2 = allocGrow alloc acc.size (l.takeWhile p).length := by
  induction fuel generalizing a st c l acc alloc with
  | zero => omega
  | succ fuel ih =>
    rw [Sim.storeWhile_succ]
    by_cases hc : (st == .ok && p c) = true
    · simp only [hc, if_true]
      have ha' : acc.size < alloc := by omega
      simp only [ha', if_true]
      have hst : st = .ok := eq_of_beq ((Bool.and_eq_true _ _).mp hc).1
      have hpc : p c = true := ((Bool.and_eq_true _ _).mp hc).2
      obtain ⟨t, rfl⟩ := h.okc hst
      have h' := nextchar_abs a c t h.cur h.sz h.ff
      have hsz : (acc.push c).size = acc.size + 1 := by simp
      obtain ⟨i1, i2, i3, i4⟩ := ih _ _ _ t (acc.push c) _ h' (by simp at hf; omega) (Sim.room_push acc c alloc ha)
      rw [List.dropWhile_cons_of_pos hpc, List.takeWhile_cons_of_pos hpc]
      refine ⟨i1, ?_, i3, ?_⟩
      · rw [i2]; simp
      · rw [i4, hsz]; simp only [List.length_cons, allocGrow]
    · simp only [hc, Bool.false_eq_true, if_false]
      by_cases hst : st = .ok
      · obtain ⟨t, rfl⟩ := h.okc hst
        have hpc : ¬ p c = true := by
          intro k; apply hc; simp [hst, k]
        rw [List.dropWhile_cons_of_neg hpc, List.takeWhile_cons_of_neg hpc]
        exact ⟨h, by simp, ha, by simp [allocGrow]⟩
      · have := (h.eofc hst).2
        subst this
        exact ⟨h, by simp, ha, by simp [allocGrow]⟩

/-- **every skipping loop of the header parsers is `dropWhile` on the remaining file bytes**, for every block size -/
theorem skipWhile_abs (p : UInt8 → Bool) (fuel : Nat) (a : Ascii) (st : Status) (c : UInt8) (l : List UInt8)
    {N : Nat} (h : Abs N a st c l) (hf : l.length < fuel) :
    Abs N (skipWhile p fuel a st c).1 (skipWhile p fuel a st c).2.1 (skipWhile p fuel a st c).2.2 (l.dropWhile p) := by
  rw [Sim.skipWhile_eq_store p fuel a st c #[] 2 (by decide)]
  exact (storeWhile_abs p fuel a st c l #[] 2 h hf (by decide)).1

/-- the outcome `r` of a reading call started on the handle `a` is the closed form `R` (status, record, bytes left): same status; on
    `eslOK` the same record and the cursor on the bytes left; `eslEFORMAT` comes with a message; `eslEOF` leaves the cursor at the
    end of the file -/
def Spec (a : Ascii) (r : Ascii × Sq × Status) (R : Status × Sq × List UInt8) : Prop :=
  r.2.2 = R.1 ∧
  (R.1 = .ok → r.2.1 = R.2.1 ∧ Cur r.1 ∧ fileFrom r.1 = R.2.2 ∧ stat r.1 = stat a) ∧
  (R.1 = .eformat → r.1.haveErr = true) ∧
  (R.1 = .eof → Cur r.1 ∧ fileFrom r.1 = [] ∧ stat r.1 = stat a)

/-- the call ran on a handle with the fixed fields of `a` -/
theorem Spec.of_stat {a a' : Ascii} {r : Ascii × Sq × Status} {R : Status × Sq × List UInt8} (h : Spec a' r R) (hs : stat a' = stat a) :
    Spec a r R :=
  ⟨h.1, fun k => ⟨(h.2.1 k).1, (h.2.1 k).2.1, (h.2.1 k).2.2.1, (h.2.1 k).2.2.2.trans hs⟩, h.2.2.1,
    fun k => ⟨(h.2.2.2 k).1, (h.2.2.2 k).2.1, (h.2.2.2 k).2.2.trans hs⟩⟩

/-- **header, then body**: a call that answers `eslEOF` on an exhausted handle, else parses a header (`hdr`, closed form `H`) and, if
    that succeeds, a body (`body`, closed form `Bd`). `hH` is `Spec a (hdr a sq) H` in the words in which `headerFasta_spec` and
    `skipFasta_spec` (fixed statements) conclude it: they give the `ESL_SQ` on every outcome, `Spec` on `eslOK` only, and both
    fit here as they stand -/
theorem Spec.record {a : Ascii} {sq : Sq} (hc : Cur a) {hdr body : Ascii → Sq → Ascii × Sq × Status}
    {H Bd : Status × Sq × List UInt8}
    (hH : Sim.Live a → (hdr a sq).2 = (H.2.1, H.1) ∧
      (H.1 = .ok → Cur (hdr a sq).1 ∧ fileFrom (hdr a sq).1 = H.2.2 ∧ stat (hdr a sq).1 = stat a) ∧
      (H.1 = .eformat → (hdr a sq).1.haveErr = true) ∧
      (H.1 = .eof → Cur (hdr a sq).1 ∧ fileFrom (hdr a sq).1 = [] ∧ stat (hdr a sq).1 = stat a))
    (hB : Sim.Live a → H.1 = .ok → Spec (hdr a sq).1 (body (hdr a sq).1 (hdr a sq).2.1) Bd) :
    Spec a (if a.nc == 0 then (a, sq, .eof) else if (hdr a sq).2.2 != .ok then hdr a sq else body (hdr a sq).1 (hdr a sq).2.1)
      (if (fileFrom a).isEmpty then (.eof, sq, []) else if H.1 == .ok then Bd else H) := by
  rcases hc.cur with hl | ⟨⟨e1, _⟩, e3⟩
  · have hn : (a.nc == 0) = false := by simp only [Sim.Live] at hl; simp; omega
    obtain ⟨x, _, hf⟩ := fileFrom_live a hc.wf hl
    have hne : (fileFrom a).isEmpty = false := by rw [hf]; rfl
    obtain ⟨h1, h2, h3, h4⟩ := hH hl
    have hst : (hdr a sq).2.2 = H.1 := congrArg Prod.snd h1
    simp only [hn, hne, Bool.false_eq_true, if_false]
    by_cases hok : H.1 = .ok
    · have b1 : ((hdr a sq).2.2 != Status.ok) = false := by rw [hst, hok]; rfl
      have b2 : (H.1 == Status.ok) = true := by rw [hok]; rfl
      simp only [b1, b2, Bool.false_eq_true, if_false, if_true]
      exact (hB hl hok).of_stat (h2 hok).2.2
    · have b1 : ((hdr a sq).2.2 != Status.ok) = true := by rw [hst]; simpa using hok
      have b2 : (H.1 == Status.ok) = false := by simpa using hok
      simp only [b1, b2, if_true, Bool.false_eq_true, if_false]
      exact ⟨hst, fun k => absurd k hok, h3, h4⟩
  · have hn : (a.nc == 0) = true := by simp [e1]
    simp only [hn, if_true, fileFrom_eof a e3, List.isEmpty_nil]
    exact ⟨rfl, fun k => (by cases k), fun k => (by cases k), fun _ => ⟨hc, fileFrom_eof a e3, rfl⟩⟩

theorem Cur.fuel {a : Ascii} (h : Cur a) : (fileFrom a).length < fuelOf a := by
  have := h.len
  unfold fuelOf
  omega

end EaselModel.Sqio.Cursor
