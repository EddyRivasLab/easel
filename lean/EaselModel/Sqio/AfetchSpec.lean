import EaselModel.Sqio.AfetchModel
import EaselModel.Msafile.RoundTrip
/-! # Stockholm databases as text (the specification side of C07 theorem 5) and what the indexing scan, the line splitter and
    `regurgitate_one_stockholm_entry` do on them. -/
namespace EaselModel.Afetch
open EaselModel.Msafile (Bytes isSpace isBlankLine memstrpfx memstrcmp memtok blankTab splitLinesT bHash bSto bSto1 bSto10 bSlash bGF bID bAC
  lineOfAcc splitLinesT_line lineOfAcc_noCR inDelim)

/-- one alignment of the database as text: the lines the reader skips in front of the header, the header, the body, the terminator -/
structure SRec where
  lead : List TLine
  hdr : TLine
  body : List TLine
  term : TLine
  deriving Repr, DecidableEq, Inhabited

def SRec.lines (r : SRec) : List TLine := r.lead ++ r.hdr :: (r.body ++ [r.term])

/-- the bytes of a list of lines -/
def linesBytes (ls : List TLine) : Bytes := ls.flatMap (fun l => l.1 ++ l.2)

def linesSize (ls : List TLine) : Nat := (ls.map TLine.size).sum

/-- what `regurgitate_one_stockholm_entry` writes for these lines: every line followed by one LF -/
def linesText (ls : List TLine) : Bytes := ls.flatMap (fun l => l.1 ++ [10])

/-- a line the reader skips while it looks for the header -/
def leadLine (b : Bytes) : Bool := isBlankLine b || (memstrpfx b bHash && !memstrpfx b bSto)

/-- a body line on which the reader continues (as far as the index is concerned): not a terminator, a `#=GF` line parses,
    not a second `# STOCKHOLM 1.0` -/
def bodyLineOk (b : Bytes) : Bool :=
  let p := skipBlank b
  !memstrpfx p bSlash && (if memstrpfx p bGF then (gfKeys p none none).isSome else !memstrcmp p bSto10)

/-- `msa->name`, `msa->acc` after one more body line -/
def gfFold (k : Option Bytes × Option Bytes) (l : TLine) : Option Bytes × Option Bytes :=
  let p := skipBlank l.1
  if memstrpfx p bGF then (gfKeys p k.1 k.2).getD k else k

/-- name and accession of the alignment, as the reader sets them (last `#=GF ID` / `#=GF AC` line wins) -/
def SRec.keys (r : SRec) : Option Bytes × Option Bytes := r.body.foldl gfFold (none, none)

def SRec.name (r : SRec) : Bytes := r.keys.1.getD []
def SRec.acc (r : SRec) : Option Bytes := r.keys.2

/-- a line as it stands in a file: no LF inside, terminated by LF (then no CR at its end) or by CR LF -/
def LineWF (l : TLine) : Prop := (10 : UInt8) ∉ l.1 ∧ ((l.2 = [10] ∧ l.1.getLast? ≠ some 13) ∨ l.2 = [13, 10])

/-- a well-formed record.  `noStop` is the only clause about the fetch path: no body line may look like a terminator to
    `regurgitate_one_stockholm_entry` after its own skip (`regurgSkip`, read from the source); when that skip is the parser's,
    blank and TAB, the clause follows from `body` (`noStop_of_parser_skip`). -/
structure SRec.WF (r : SRec) : Prop where
  lines : ∀ l ∈ r.lines, LineWF l
  lead : ∀ l ∈ r.lead, leadLine l.1 = true
  hdr : memstrpfx r.hdr.1 bSto1 = true
  body : ∀ l ∈ r.body, bodyLineOk l.1 = true
  term : memstrpfx (skipBlank r.term.1) bSlash = true
  named : r.keys.1.isSome = true
  noStop : ∀ l ∈ r.body, regurgStop l.1 = false

/-- the records with their offsets and their text, as a sequential pass over the database meets them -/
def entries : Nat → List SRec → List (Rec × Bytes)
  | _, [] => []
  | p, r :: rs => (⟨p, r.name, r.acc⟩, linesText r.lines) :: entries (p + linesSize r.lines) rs

def dbLines (rs : List SRec) (trail : List TLine) : List TLine := rs.flatMap SRec.lines ++ trail

/-- the database file -/
def dbBytes (rs : List SRec) (trail : List TLine) : Bytes := linesBytes (dbLines rs trail)

/-- SPEC: what a sequential scan finds under `key`: the text of the first alignment whose name or accession is `key` -/
def seqFetch (rs : List SRec) (key : Bytes) : Option Bytes :=
  ((entries 0 rs).find? (fun e => e.1.name == key || e.1.acc == some key)).map (·.2)

theorem linesBytes_length (ls : List TLine) : (linesBytes ls).length = linesSize ls := by
  induction ls with
  | nil => rfl
  | cons l ls ih =>
    simp only [linesBytes, List.flatMap_cons, List.length_append, linesSize, List.map_cons, List.sum_cons, TLine.size] at ih ⊢
    omega

theorem linesBytes_append (a b : List TLine) : linesBytes (a ++ b) = linesBytes a ++ linesBytes b := by
  simp [linesBytes]

theorem linesSize_append (a b : List TLine) : linesSize (a ++ b) = linesSize a + linesSize b := by
  simp [linesSize]

theorem linesText_append (a b : List TLine) : linesText (a ++ b) = linesText a ++ linesText b := by
  simp [linesText]

theorem splitLinesT_wf_line (l : TLine) (h : LineWF l) (rest : Bytes) :
    splitLinesT (l.1 ++ l.2 ++ rest) [] = l :: splitLinesT rest [] := by
  obtain ⟨b, t⟩ := l
  obtain ⟨h10, h | h⟩ := h
  · obtain ⟨ht, hcr⟩ := h
    simp only at ht hcr h10 ⊢
    subst ht
    have := splitLinesT_line b rest [] h10
    simp only [List.append_nil] at this
    rw [List.append_assoc]
    simp only [List.singleton_append]
    rw [this, lineOfAcc_noCR b hcr]
  · simp only at h h10 ⊢
    subst h
    have h10' : (10 : UInt8) ∉ b ++ [13] := by simp [h10]
    have := splitLinesT_line (b ++ [13]) rest [] h10'
    have e : b ++ [13, 10] ++ rest = (b ++ [13]) ++ 10 :: rest := by simp
    rw [e, this]
    simp [lineOfAcc]

theorem splitLinesT_wf (ls : List TLine) (h : ∀ l ∈ ls, LineWF l) (rest : Bytes) :
    splitLinesT (linesBytes ls ++ rest) [] = ls ++ splitLinesT rest [] := by
  induction ls with
  | nil => simp [linesBytes]
  | cons l ls ih =>
    have e : linesBytes (l :: ls) ++ rest = l.1 ++ l.2 ++ (linesBytes ls ++ rest) := by simp [linesBytes]
    rw [e, splitLinesT_wf_line l (h l (by simp)), ih (fun l' hl' => h l' (by simp [hl']))]
    rfl

theorem regurg_lines (ls : List TLine) (t : TLine) (rest : List TLine) (out : Bytes)
    (h : ∀ l ∈ ls, regurgStop l.1 = false) (ht : regurgStop t.1 = true) :
    regurg (ls ++ t :: rest) out = some (out ++ linesText (ls ++ [t])) := by
  induction ls generalizing out with
  | nil => simp [regurg, ht, linesText]
  | cons l ls ih =>
    have hl := h l (by simp)
    simp only [List.cons_append, regurg, hl, Bool.false_eq_true, if_false]
    rw [ih _ (fun l' hl' => h l' (by simp [hl']))]
    simp [linesText]

/-- what the proofs need to know about the skip loop of the working tree (false, so that this file does not compile, for a
    tree that skips nothing: there an indented terminator does not end the fetch) -/
theorem regurgSkip_facts : regurgSkip 32 = true ∧ regurgSkip 9 = true ∧ regurgSkip 47 = false ∧ regurgSkip 35 = false ∧ regurgSkip 0 = false := by
  decide

theorem dropWhile_skip_skipBlank (b : Bytes) : (skipBlank b).dropWhile regurgSkip = b.dropWhile regurgSkip := by
  induction b with
  | nil => rfl
  | cons c b ih =>
    unfold skipBlank at ih ⊢
    by_cases hc : (c == 32 || c == 9) = true
    · have hs : regurgSkip c = true := by
        simp only [Bool.or_eq_true, beq_iff_eq] at hc
        rcases hc with rfl | rfl
        · exact regurgSkip_facts.1
        · exact regurgSkip_facts.2.1
      simp only [List.dropWhile_cons, hc, if_true, hs, ih]
    · simp only [List.dropWhile_cons, hc, Bool.false_eq_true, if_false]

theorem dropWhile_skip_of_pfx (p s : Bytes) (hs : s ≠ []) (h : memstrpfx p s = true) (h0 : ∀ c, s.head? = some c → regurgSkip c = false) :
    p.dropWhile regurgSkip = p := by
  cases p with
  | nil => rfl
  | cons c p =>
    cases s with
    | nil => exact absurd rfl hs
    | cons d s =>
      simp only [memstrpfx, List.isPrefixOf, Bool.and_eq_true, beq_iff_eq] at h
      have : regurgSkip c = false := by rw [← h.1]; exact h0 d rfl
      simp [List.dropWhile_cons, this]

theorem regurgStop_of_term (b : Bytes) (h : memstrpfx (skipBlank b) bSlash = true) : regurgStop b = true := by
  unfold regurgStop
  rw [← dropWhile_skip_skipBlank, dropWhile_skip_of_pfx _ bSlash (by decide) h
    (by intro c hc; simp [bSlash] at hc; subst hc; exact regurgSkip_facts.2.2.1)]
  exact h

theorem not_stop_of_hash (b : Bytes) (h : memstrpfx b bHash = true) : regurgStop b = false := by
  unfold regurgStop
  rw [dropWhile_skip_of_pfx _ bHash (by decide) h (by intro c hc; simp [bHash] at hc; subst hc; exact regurgSkip_facts.2.2.2.1)]
  cases b with
  | nil => rfl
  | cons c b =>
    simp only [memstrpfx, bHash, List.isPrefixOf, Bool.and_eq_true, beq_iff_eq] at h
    simp only [memstrpfx, bSlash, List.isPrefixOf]
    rw [← h.1]; rfl

theorem not_stop_of_blank (b : Bytes) (h : isBlankLine b = true) : regurgStop b = false := by
  unfold regurgStop
  induction b with
  | nil => rfl
  | cons c b ih =>
    simp only [isBlankLine, List.all_cons, Bool.and_eq_true] at h
    have hb : (b.all (inDelim blankTab)) = true := h.2
    have hc := h.1
    simp only [inDelim, blankTab, Bool.or_eq_true, beq_iff_eq, List.contains_cons, List.contains_nil, Bool.or_false] at hc
    rcases hc with rfl | rfl | rfl
    · simp [List.dropWhile_cons, regurgSkip_facts.2.2.2.2, memstrpfx, bSlash, List.isPrefixOf]
    · simp only [List.dropWhile_cons, regurgSkip_facts.1, if_true]
      exact ih hb
    · simp only [List.dropWhile_cons, regurgSkip_facts.2.1, if_true]
      exact ih hb

/-- when the working tree skips exactly what the parser skips (`skipKind = 1`), no body line the parser accepts
    can stop the fetch: the `noStop` clause of `SRec.WF` then follows from `body` -/
theorem noStop_of_parser_skip (hk : Generated.AfetchSrc.skipKind = 1) (b : Bytes) (h : bodyLineOk b = true) : regurgStop b = false := by
  have e : b.dropWhile regurgSkip = skipBlank b := by
    have hf : regurgSkip = (fun c => c == 32 || c == 9) := by funext c; simp [regurgSkip, hk]
    exact congrArg (fun f => b.dropWhile f) hf
  unfold regurgStop
  rw [e]
  unfold bodyLineOk at h
  simp only [Bool.and_eq_true, Bool.not_eq_true'] at h
  exact h.1

theorem sto1_hash (b : Bytes) (h : memstrpfx b bSto1 = true) : memstrpfx b bHash = true := by
  cases b with
  | nil => simp [memstrpfx, bSto1, List.isPrefixOf] at h
  | cons c b =>
    simp only [memstrpfx, bSto1, List.isPrefixOf, Bool.and_eq_true, beq_iff_eq] at h
    simp [memstrpfx, bHash, List.isPrefixOf, h.1]

theorem not_stop_of_lead (b : Bytes) (h : leadLine b = true) : regurgStop b = false := by
  unfold leadLine at h
  simp only [Bool.or_eq_true, Bool.and_eq_true] at h
  rcases h with h | h
  · exact not_stop_of_blank b h
  · exact not_stop_of_hash b h.1

theorem regurg_record (r : SRec) (h : r.WF) (rest : List TLine) :
    regurg (r.lines ++ rest) [] = some (linesText r.lines) := by
  have e : r.lines ++ rest = (r.lead ++ r.hdr :: r.body) ++ r.term :: rest := by simp [SRec.lines]
  have e2 : r.lines = (r.lead ++ r.hdr :: r.body) ++ [r.term] := by simp [SRec.lines]
  rw [e, regurg_lines _ _ _ _ ?_ (regurgStop_of_term _ h.term), ← e2]
  · simp
  · intro l hl
    simp only [List.mem_append, List.mem_cons] at hl
    rcases hl with hl | rfl | hl
    · exact not_stop_of_lead _ (h.lead l hl)
    · exact not_stop_of_hash _ (sto1_hash _ h.hdr)
    · exact h.noStop l hl

end EaselModel.Afetch
