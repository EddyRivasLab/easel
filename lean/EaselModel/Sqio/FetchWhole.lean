import EaselModel.Sqio.FetchSpec
import EaselModel.Sqio.SpecFasta
import EaselModel.Sqio.Totality
/-! # Whole-record fetch = scan (C07): `sqascii_Position(roff)` + `sqascii_Read` returns the record the sequential scan yields

`esl_sqio_Fetch` / `PositionByKey` + `Read` (and `esl-sfetch`'s whole-record path) position the handle at the record offset the index
stored and read one record. `fetch_eq_scan`: for every record `s` of the sequential scan, every block-mode handle on the file (any block
size, cursor anywhere) and every reused `ESL_SQ` of the right mode, that read succeeds and returns `s` — name, description, residues,
offsets, `L` (`toRecord`; allocations may differ). Namespace `FetchMore`: fetch to the end of the sequence (`end = 0`) and fetch by number
(`Ssi.findNumber` = `esl_ssi_FindNumber`: the `n`-th primary key in index order; the index stores its primary keys sorted by key). -/
namespace EaselModel.Sqio.FetchWhole
open EaselModel.Sqio.Refine EaselModel.Sqio.DataScan EaselModel.Sqio.Cursor EaselModel.Sqio.BodySpec EaselModel.Sqio.HeaderSpec
open EaselModel.Sqio.ReadSpec EaselModel.Sqio.ParseFasta EaselModel.Sqio.FetchSpec EaselModel.Sqio.SpecFasta

theorem position_ready (bytes : Bytes) (abc : Nat) (habc : abc ∈ [0, 1, 2, 3]) (off : Nat) (hoff : off < bytes.size)
    (a : Ascii) (hf : a.file = bytes) (hb : a.linebased = false) (hr : a.recording ≠ 1) (hB : 1 ≤ a.B)
    (hi : a.inmap = inmapFasta abc) (hfmt : a.fmt = 1) (heof : a.eofIsOk = true)
    (sq : Sq) (hdig : sq.digital = (abc != 0)) (hsabc : sq.abc = abc) (hna : 2 ≤ sq.nalloc) (hda : 2 ≤ sq.dalloc) :
    (position a off).2 = .ok ∧ Ready (position a off).1 sq ∧
    fileFrom (position a off).1 = bytes.toList.drop off ∧ (position a off).1.B = a.B ∧ stat (position a off).1 = stat a := by
  have hlt : off < a.file.size := by rw [hf]; exact hoff
  have P := position_full a off hb hr hB hlt
  have p4 := P.rest
  rw [hf] at p4
  have p5 := P.stat_eq
  have hi1 : (position a off).1.inmap = inmapFasta abc := (stat_inmap p5).trans hi
  have hmapSq : mapFor (inmapFasta abc) sq = mapFor (inmapFasta abc) (freshSq abc) := by
    simp only [mapFor, hdig, hsabc]; rfl
  refine ⟨P.ok, ⟨P.cur, (stat_fmt p5).trans hfmt, (stat_eofIsOk p5).trans heof, by rw [hi1]; exact inmapFasta_size abc, ?_,
      by rw [hi1]; exact eodGt_fasta abc habc, hna, hda⟩, p4, P.B_eq, p5⟩
  rw [mapOf_eq, hi1, hmapSq]; exact mapOk_fasta abc habc

theorem positioned_rec (bytes : Bytes) (abc : Nat) (habc : abc ∈ [0, 1, 2, 3]) (s : Sq) (hs : s ∈ (parseFasta abc bytes).1)
    (a : Ascii) (hf : a.file = bytes) (hb : a.linebased = false) (hr : a.recording ≠ 1) (hB : 1 ≤ a.B)
    (hi : a.inmap = inmapFasta abc) (hfmt : a.fmt = 1) (heof : a.eofIsOk = true)
    (sq : Sq) (hdig : sq.digital = (abc != 0)) (hsabc : sq.abc = abc) (hseq : sq.seq = #[]) (hna : 2 ≤ sq.nalloc) (hda : 2 ≤ sq.dalloc) :
    (position a s.roff.toNat).2 = .ok ∧ Ready (position a s.roff.toNat).1 sq ∧
    (position a s.roff.toNat).1.inmap = inmapFasta abc ∧ (position a s.roff.toNat).1.file = bytes ∧
    (recL (inmapFasta abc) bytes.size sq (fileFrom (position a s.roff.toNat).1)).1 = .ok ∧
    toRecord (recL (inmapFasta abc) bytes.size sq (fileFrom (position a s.roff.toNat).1)).2.1 = toRecord s := by
  obtain ⟨sq', c, l2, hmap', dgt, hroff, hlt, hok2, hsq⟩ := scanned_at bytes abc s hs
  have hr2 : s.roff.toNat < bytes.size := by rw [hroff]; simp only [offOf, List.length_cons]; omega
  obtain ⟨p1, R, p4, _, p5⟩ := position_ready bytes abc habc s.roff.toNat hr2 a hf hb hr hB hi hfmt heof sq hdig hsabc hna hda
  have hmapSq : mapFor (inmapFasta abc) sq = mapFor (inmapFasta abc) (freshSq abc) := by simp only [mapFor, hdig, hsabc]; rfl
  -- both are `specOne` on the same bytes with the same residue map
  obtain ⟨a1, a2⟩ := recL_eq_specOne (inmapFasta abc) bytes.size sq (c :: l2) hseq
  obtain ⟨b1, b2⟩ := recL_eq_specOne (inmapFasta abc) bytes.size sq'.reuse (c :: l2) rfl
  rw [hmapSq] at a1 a2
  rw [hmap'] at b1 b2
  have hok1 : (recL (inmapFasta abc) bytes.size sq (c :: l2)).1 = .ok := by rw [a1, ← b1]; exact hok2
  refine ⟨p1, R, (stat_inmap p5).trans hi, (stat_file p5).trans hf, by rw [p4, dgt]; exact hok1, ?_⟩
  rw [p4, dgt, hsq]
  have x2 := (b2 hok2).1
  rw [(a2 hok1).1] at x2
  exact Option.some.inj x2

/-- **FETCH (whole record) = SCAN, for every block size** -/
theorem fetch_eq_scan (bytes : Bytes) (abc : Nat) (habc : abc ∈ [0, 1, 2, 3]) (s : Sq) (hs : s ∈ (parseFasta abc bytes).1)
    (a : Ascii) (hf : a.file = bytes) (hb : a.linebased = false) (hr : a.recording ≠ 1) (hB : 1 ≤ a.B)
    (hi : a.inmap = inmapFasta abc) (hfmt : a.fmt = 1) (heof : a.eofIsOk = true)
    (sq : Sq) (hdig : sq.digital = (abc != 0)) (hsabc : sq.abc = abc) (hseq : sq.seq = #[]) (hna : 2 ≤ sq.nalloc) (hda : 2 ≤ sq.dalloc) :
    (position a s.roff.toNat).2 = .ok ∧
    (read (position a s.roff.toNat).1 sq).2.2 = .ok ∧
    toRecord (read (position a s.roff.toNat).1 sq).2.1 = toRecord s := by
  obtain ⟨p1, R, hi1, hfile1, hok, hrec⟩ := positioned_rec bytes abc habc s hs a hf hb hr hB hi hfmt heof sq hdig hsabc hseq hna hda
  obtain ⟨q1, q2, _, _⟩ := read_spec _ sq R
  rw [hi1, hfile1] at q1 q2
  exact ⟨p1, by rw [q1]; exact hok, by rw [(q2 hok).1]; exact hrec⟩

theorem toRecord_seq {s t : Sq} (h : toRecord s = toRecord t) : s.seq = t.seq := by
  have := congrArg Record.seq h
  simp only [toRecord] at this
  exact Array.ext' this

theorem position_info_seq (bytes : Bytes) (abc : Nat) (habc : abc ∈ [0, 1, 2, 3]) (s : Sq) (hs : s ∈ (parseFasta abc bytes).1)
    (a : Ascii) (hf : a.file = bytes) (hb : a.linebased = false) (hr : a.recording ≠ 1) (hB : 1 ≤ a.B)
    (hi : a.inmap = inmapFasta abc) (hfmt : a.fmt = 1) (heof : a.eofIsOk = true)
    (sq : Sq) (hdig : sq.digital = (abc != 0)) (hsabc : sq.abc = abc) (hseq : sq.seq = #[]) (hna : 2 ≤ sq.nalloc) (hda : 2 ≤ sq.dalloc)
    (hsa : 2 ≤ sq.salloc) :
    let p := (position a s.roff.toNat).1
    (readInfo p sq).2.2 = .ok ∧ (readSequence p sq).2.2 = .ok ∧
    (readInfo p sq).2.1.name.toList = s.name.toList ∧ (readInfo p sq).2.1.desc.toList = s.desc.toList ∧
    (readInfo p sq).2.1.roff = s.roff ∧ (readInfo p sq).2.1.hoff = s.hoff ∧ (readInfo p sq).2.1.doff = s.doff ∧
    (readInfo p sq).2.1.eoff = s.eoff ∧ (readInfo p sq).2.1.L = s.L ∧
    (readSequence p sq).2.1.seq = s.seq ∧ (readSequence p sq).2.1.roff = s.roff ∧ (readSequence p sq).2.1.doff = s.doff ∧
    (readSequence p sq).2.1.eoff = s.eoff ∧ (readSequence p sq).2.1.L = s.L := by
  intro p
  obtain ⟨_, R, _⟩ := positioned_rec bytes abc habc s hs a hf hb hr hB hi hfmt heof sq hdig hsabc hseq hna hda
  obtain ⟨_, hok, hrec⟩ := fetch_eq_scan bytes abc habc s hs a hf hb hr hB hi hfmt heof sq hdig hsabc hseq hna hda
  obtain ⟨t1, t2, _, _, t5, t6, t7, t8, t9, t10, t11, _, t13, t14, t15, t16, t17, _, _⟩ := Totality.three_calls_agree p sq R hseq hsa hok
  have e := hrec
  simp only [toRecord, Record.mk.injEq] at e
  obtain ⟨e1, e2, _, e4, e5, e6, e7, e8⟩ := e
  refine ⟨t1, t2, by rw [t5]; exact e1, by rw [t6]; exact e2, by rw [t7]; exact e4, by rw [t8]; exact e5, by rw [t9]; exact e6,
    by rw [t10]; exact e7, by rw [t11]; exact e8, by rw [t13]; exact toRecord_seq hrec, by rw [t14]; exact e4, by rw [t15]; exact e6,
    by rw [t16]; exact e7, by rw [t17]; exact e8⟩

/-- **FETCHINFO = the info of the scanned record, for every block size**: `sqascii_Position(roff)` + `sqascii_ReadInfo` — what
    `esl_sqio_FetchInfo` does — succeeds and returns the name, description, the four offsets and the length `L` of the record the
    sequential scan yields under that key, and no residues -/
theorem fetchInfo_eq_scan (bytes : Bytes) (abc : Nat) (habc : abc ∈ [0, 1, 2, 3]) (s : Sq) (hs : s ∈ (parseFasta abc bytes).1)
    (a : Ascii) (hf : a.file = bytes) (hb : a.linebased = false) (hr : a.recording ≠ 1) (hB : 1 ≤ a.B)
    (hi : a.inmap = inmapFasta abc) (hfmt : a.fmt = 1) (heof : a.eofIsOk = true)
    (sq : Sq) (hdig : sq.digital = (abc != 0)) (hsabc : sq.abc = abc) (hseq : sq.seq = #[]) (hna : 2 ≤ sq.nalloc) (hda : 2 ≤ sq.dalloc)
    (hsa : 2 ≤ sq.salloc) :
    (position a s.roff.toNat).2 = .ok ∧
    (readInfo (position a s.roff.toNat).1 sq).2.2 = .ok ∧
    (readInfo (position a s.roff.toNat).1 sq).2.1.name.toList = s.name.toList ∧
    (readInfo (position a s.roff.toNat).1 sq).2.1.desc.toList = s.desc.toList ∧
    (readInfo (position a s.roff.toNat).1 sq).2.1.roff = s.roff ∧ (readInfo (position a s.roff.toNat).1 sq).2.1.hoff = s.hoff ∧
    (readInfo (position a s.roff.toNat).1 sq).2.1.doff = s.doff ∧ (readInfo (position a s.roff.toNat).1 sq).2.1.eoff = s.eoff ∧
    (readInfo (position a s.roff.toNat).1 sq).2.1.L = s.L ∧ s.L = (s.seq.size : Int) := by
  have r7 := (record_shape bytes abc s hs).len
  obtain ⟨i1, _, i3, i4, i5, i6, i7, i8, i9, _⟩ :=
    position_info_seq bytes abc habc s hs a hf hb hr hB hi hfmt heof sq hdig hsabc hseq hna hda hsa
  exact ⟨(fetch_eq_scan bytes abc habc s hs a hf hb hr hB hi hfmt heof sq hdig hsabc hseq hna hda).1, i1, i3, i4, i5, i6, i7, i8, i9, r7⟩

end EaselModel.Sqio.FetchWhole

namespace EaselModel.Sqio.FetchMore
open EaselModel.Sqio

/-- **fetch to the end**: `end = 0` means "to the end of the sequence": the call is the call with `end = L` (the length the index
    stored for the record), for every handle, index, key and start — so every statement about `start..L` is a statement about `start..0` -/
theorem fetchSubseq_end_zero (a : Ascii) (ssi : Ssi) (sq : Sq) (key : Bytes) (start roff doff len actualStart : Int)
    (hfs : findSubseq ssi key start = .ok (roff, doff, len, actualStart)) :
    fetchSubseq a ssi sq key start 0 = fetchSubseq a ssi sq key start len := by
  unfold fetchSubseq
  simp only [hfs]
  by_cases h : len = 0
  · subst h; rfl
  · have h1 : (len == 0) = false := by simpa using h
    simp only [h1, Bool.false_eq_true, if_false, beq_self_eq_true, if_true]

/-- … and when the key is absent or `start` is out of range the answer does not depend on `end` at all -/
theorem fetchSubseq_error_any_end (a : Ascii) (ssi : Ssi) (sq : Sq) (key : Bytes) (start e1 e2 : Int) (st : Status)
    (hfs : findSubseq ssi key start = .error st) :
    fetchSubseq a ssi sq key start e1 = fetchSubseq a ssi sq key start e2 := by
  unfold fetchSubseq; simp only [hfs]

theorem sortedPrim_perm (s : Ssi) : (sortedPrim s).Perm s.prim.toList := List.mergeSort_perm _ _

theorem findNumber_none_iff (s : Ssi) (n : Nat) : findNumber s n = none ↔ s.prim.size ≤ n := by
  unfold findNumber
  rw [List.getElem?_eq_none_iff, (sortedPrim_perm s).length_eq, Array.length_toList]

theorem findNumber_mem (s : Ssi) (n : Nat) (e : SsiEntry) (h : findNumber s n = some e) : e ∈ s.prim.toList :=
  (sortedPrim_perm s).mem_iff.mp (List.mem_of_getElem? h)

theorem keyLe_iff (x y : SsiEntry) : keyLe x y = true ↔ x.key.toList ≤ y.key.toList := by
  unfold keyLe; simp [List.not_lt]

/-- index order: the keys are in non-decreasing byte-wise order; with `sortedPrim_perm` (the same entries) this determines which
    entry number `n` is whenever the keys are distinct -/
theorem sortedPrim_sorted (s : Ssi) : (sortedPrim s).Pairwise (fun x y => x.key.toList ≤ y.key.toList) := by
  have h := List.pairwise_mergeSort (le := keyLe)
    (fun a b c h1 h2 => (keyLe_iff a c).mpr (List.le_trans ((keyLe_iff a b).mp h1) ((keyLe_iff b c).mp h2)))
    (fun a b => by
      rcases List.le_total a.key.toList b.key.toList with h | h
      · simp [(keyLe_iff a b).mpr h]
      · simp [(keyLe_iff b a).mpr h])
    s.prim.toList
  exact h.imp (fun {a b} hab => (keyLe_iff a b).mp hab)

open EaselModel.Sqio.ParseFasta EaselModel.Sqio.SpecFasta in
theorem fetch_by_number_eq_scan (bytes : Bytes) (abc : Nat) (habc : abc ∈ [0, 1, 2, 3]) (s : Sq) (hs : s ∈ (parseFasta abc bytes).1)
    (ssi : Ssi) (n : Nat) (e : SsiEntry) (hn : findNumber ssi n = some e) (her : e.roff = s.roff)
    (a : Ascii) (hf : a.file = bytes) (hb : a.linebased = false) (hr : a.recording ≠ 1) (hB : 1 ≤ a.B)
    (hi : a.inmap = inmapFasta abc) (hfmt : a.fmt = 1) (heof : a.eofIsOk = true)
    (sq : Sq) (hdig : sq.digital = (abc != 0)) (hsabc : sq.abc = abc) (hseq : sq.seq = #[]) (hna : 2 ≤ sq.nalloc) (hda : 2 ≤ sq.dalloc) :
    e ∈ ssi.prim.toList ∧ (positionByNumber a ssi n).2 = .ok ∧
    (read (positionByNumber a ssi n).1 sq).2.2 = .ok ∧
    toRecord (read (positionByNumber a ssi n).1 sq).2.1 = toRecord s := by
  have h := FetchWhole.fetch_eq_scan bytes abc habc s hs a hf hb hr hB hi hfmt heof sq hdig hsabc hseq hna hda
  unfold positionByNumber
  rw [hn]
  simp only [her]
  exact ⟨findNumber_mem ssi n e hn, h⟩

theorem positionByNumber_out_of_range (a : Ascii) (ssi : Ssi) (n : Nat) (h : ssi.prim.size ≤ n) :
    positionByNumber a ssi n = (a, .enotfound) := by
  unfold positionByNumber; rw [(findNumber_none_iff ssi n).mpr h]

end EaselModel.Sqio.FetchMore
