import EaselModel.Sqio.Fetch
/-! # Line geometry: where residue `i` of a record lies in the file (C07, reverse windows of C04)

`dropRes p n l` is what `skipbuf` does: consume bytes until `n` residues (bytes satisfying `p`) have gone by.
The residues that a subsequent `addbuf` delivers are `(dropRes p n l).filter p`. -/
namespace EaselModel.Sqio.Geometry

def dropRes {α : Type} (p : α → Bool) : Nat → List α → List α
  | 0, l => l
  | _ + 1, [] => []
  | n + 1, x :: xs => if p x then dropRes p n xs else dropRes p (n + 1) xs

theorem filter_dropRes {α : Type} (p : α → Bool) (n : Nat) (l : List α) :
    (dropRes p n l).filter p = (l.filter p).drop n := by
  induction l generalizing n with
  | nil => cases n <;> simp [dropRes]
  | cons x xs ih =>
    cases n with
    | zero => simp [dropRes]
    | succ n =>
      by_cases hx : p x = true
      · simp [dropRes, hx, ih]
      · simp [dropRes, hx, ih]

/-- A block of `l` complete lines: `l*b` bytes holding `l*r` residues. -/
structure FullLines {α : Type} (p : α → Bool) (b r : Nat) (lines : List (List α)) : Prop where
  bytes : ∀ ln ∈ lines, ln.length = b
  residues : ∀ ln ∈ lines, (ln.filter p).length = r

theorem FullLines.length_flatten {α : Type} {p : α → Bool} {b r : Nat} {lines : List (List α)}
    (h : FullLines p b r lines) : lines.flatten.length = lines.length * b := by
  induction lines with
  | nil => simp
  | cons ln rest ih =>
    have h1 := h.bytes ln (by simp)
    have h2 := ih ⟨fun x hx => h.bytes x (by simp [hx]), fun x hx => h.residues x (by simp [hx])⟩
    rw [List.flatten_cons, List.length_append, h1, h2, List.length_cons, Nat.succ_mul]; omega

theorem FullLines.count_flatten {α : Type} {p : α → Bool} {b r : Nat} {lines : List (List α)}
    (h : FullLines p b r lines) : (lines.flatten.filter p).length = lines.length * r := by
  induction lines with
  | nil => simp
  | cons ln rest ih =>
    have h1 := h.residues ln (by simp)
    have h2 := ih ⟨fun x hx => h.bytes x (by simp [hx]), fun x hx => h.residues x (by simp [hx])⟩
    rw [List.flatten_cons, List.filter_append, List.length_append, h1, h2, List.length_cons, Nat.succ_mul]; omega

/-- **Line addressing.** If the record's data starts with `l` complete lines of `b` bytes / `r` residues each, then seeking to
    byte `l*b` and skipping `j` residues delivers the same residues as skipping `l*r + j` residues from the start of the data. -/
theorem line_addressing {α : Type} (p : α → Bool) (b r : Nat) (lines : List (List α)) (rest : List α) (j : Nat)
    (h : FullLines p b r lines) :
    (dropRes p j ((lines.flatten ++ rest).drop (lines.length * b))).filter p
      = (dropRes p (lines.length * r + j) (lines.flatten ++ rest)).filter p := by
  rw [filter_dropRes, filter_dropRes]
  have hb := h.length_flatten
  have hr := h.count_flatten
  rw [← hb, List.drop_left, List.filter_append, ← hr, ← List.drop_drop, List.drop_left]

/-- **Residue addressing.** If moreover the next line starts with at least `j` residues (no other byte before them), then
    seeking to byte `l*b + j` and skipping nothing delivers the same residues. -/
theorem residue_addressing {α : Type} (p : α → Bool) (b r : Nat) (lines : List (List α)) (res tail : List α) (j : Nat)
    (h : FullLines p b r lines) (hres : ∀ x ∈ res, p x = true) (hj : j ≤ res.length) :
    ((lines.flatten ++ (res ++ tail)).drop (lines.length * b + j)).filter p
      = (dropRes p (lines.length * r + j) (lines.flatten ++ (res ++ tail))).filter p := by
  rw [filter_dropRes]
  have hb := h.length_flatten
  have hr := h.count_flatten
  have hfr : res.filter p = res := List.filter_eq_self.mpr hres
  rw [← List.drop_drop, ← hb, List.drop_left, List.filter_append, ← hr, ← List.drop_drop, List.drop_left]
  rw [List.drop_append_of_le_length hj, List.filter_append, List.filter_append, hfr]
  rw [List.drop_append_of_le_length hj]
  congr 1
  exact (List.filter_eq_self.mpr (fun x hx => hres x (List.mem_of_mem_drop hx)))

/-- one record as the tracker sees it: `header_*` resets `prv*` to −1 and `cur*` to 0, then one `onEol` per terminated line
    with (bytes, residues) of that line -/
def scanRecord (t : Track) (lines : List (Int × Int)) : Track :=
  lines.foldl (fun t ln => t.onEol ln.1 ln.2) { t with prvrpl := -1, prvbpl := -1, currpl := 0, curbpl := 0 }

def scanFile (recs : List (List (Int × Int))) : Track := recs.foldl scanRecord {}

end EaselModel.Sqio.Geometry
