import EaselModel.Sqio.Model
/-! # The window schedule of `sqascii_ReadWindow` (C04): coordinates tile the sequence -/
namespace EaselModel.Sqio.Windows

/-- a window as `ESL_SQ` describes it: `start..end` (1-based, inclusive of the context), `C` context residues, `n` residues held -/
structure Win where
  start : Int
  end_ : Int
  C : Int
  n : Int
  deriving Repr, DecidableEq

/-- first forward window of a record after `nres` residues were read: `start = 1, C = 0, end = start + C + nres − 1` -/
def fwdFirst (nres : Int) : Win := ⟨1, 1 + 0 + nres - 1, 0, nres⟩

/-- next forward window: caller asks context `C`; `d` residues were delivered so far (`ascii->L`); `nres` new residues are read -/
def fwdNext (w : Win) (C d nres : Int) : Win :=
  let r := fwdSlide C w.n.toNat d w.start
  ⟨r.2.1, r.2.1 + r.1 + nres - 1, r.1, r.2.2 + nres⟩

/-- the window holds exactly the residues `start..end`, and `end` is the number of residues delivered so far -/
def Inv (w : Win) (d : Int) : Prop := w.end_ = d ∧ w.n = w.end_ - w.start + 1 ∧ 0 ≤ w.C ∧ w.C ≤ w.n ∧ 1 ≤ w.start

theorem fwdFirst_inv (nres : Int) (h : 0 ≤ nres) : Inv (fwdFirst nres) nres := by
  simp only [Inv, fwdFirst]; omega

theorem fwdNext_tiles (w : Win) (C d nres : Int) (hC : 0 ≤ C) (hn : 0 ≤ nres) (h : Inv w d) :
    let w' := fwdNext w C d nres
    Inv w' (d + nres) ∧ w'.C = min C w.n ∧ w'.start + w'.C = d + 1 ∧ w'.end_ = d + nres := by
  obtain ⟨h1, h2, h3, h4, h5⟩ := h
  simp only [fwdNext, fwdSlide, Inv]
  split <;> simp only [] <;> omega

theorem revInit_spec (L W : Int) (hL : 1 ≤ L) (hW : 1 ≤ W) :
    let r := revInit L W
    r.2 = L ∧ 1 ≤ r.1 ∧ r.1 ≤ L ∧ r.2 - r.1 + 1 = min W L := by
  simp only [revInit, true_and]
  omega

theorem revNext_tiles (L C W prevLow : Int) (hC : 0 ≤ C) (hW : 1 ≤ W) (hlo : 2 ≤ prevLow) (hhi : prevLow ≤ L) :
    let r := revNext L C W prevLow
    r.1 = min C (L - prevLow + 1) ∧ r.2.1 = prevLow + r.1 - 1 ∧ r.2.1 ≤ L ∧ 1 ≤ r.2.2.1 ∧
    r.2.2.2 = prevLow - r.2.2.1 ∧ 1 ≤ r.2.2.2 ∧ r.2.2.2 ≤ W ∧ (r.2.2.1 > 1 → r.2.2.2 = W) := by
  simp only [revNext, true_and]
  omega

theorem revNext_window (L C W prevLow : Int) (hC : 0 ≤ C) (hW : 1 ≤ W) (hlo : 2 ≤ prevLow) (hhi : prevLow ≤ L) :
    let r := revNext L C W prevLow
    1 ≤ r.2.2.1 ∧ r.2.2.1 ≤ r.2.1 ∧ r.2.1 ≤ L ∧ r.1 + r.2.2.2 = r.2.1 - r.2.2.1 + 1 := by
  obtain ⟨t1, t2, t3, t4, t5, t6, _, _⟩ := revNext_tiles L C W prevLow hC hW hlo hhi
  exact ⟨t4, by omega, t3, by omega⟩

end EaselModel.Sqio.Windows
