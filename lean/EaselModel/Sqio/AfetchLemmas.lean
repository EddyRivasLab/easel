import EaselModel.Sqio.AfetchSpec
import EaselModel.Ssi.Reader
/-! # The indexing scan of `esl-afetch` on a database of well-formed records, the history of `esl_newssi_*` calls it makes,
    and the composition with the C06 theorems about the index that history writes. -/
namespace EaselModel.Afetch
open EaselModel.Msafile (Bytes isSpace isBlankLine memstrpfx memstrcmp memtok blankTab splitLinesT bHash bSto bSto1 bSto10 bSlash bGF bID bAC)
open EaselModel.Ssi hiding Bytes cstr

/-- whether a `#=GF` line parses does not depend on the name and accession found so far -/
theorem gfKeys_isSome (p : Bytes) (n a : Option Bytes) (h : (gfKeys p none none).isSome = true) : (gfKeys p n a).isSome = true := by
  have indep : (gfKeys p n a).isSome = (gfKeys p none none).isSome := by
    unfold gfKeys
    generalize memtok p blankTab = m1
    rcases m1 with _ | ⟨gf, p1⟩
    · rfl
    · dsimp only
      generalize memtok p1 blankTab = m2
      rcases m2 with _ | ⟨tag, p2⟩
      · rfl
      · dsimp only
        generalize memtok p2 blankTab = m3
        cases memstrcmp gf bGF
        · rfl
        · cases memstrcmp tag bID
          · cases memstrcmp tag bAC
            · rfl
            · rcases m3 with _ | ⟨tok, p3⟩
              · rfl
              · dsimp only
                generalize p3.isEmpty = b
                cases b <;> rfl
          · rcases m3 with _ | ⟨tok, p3⟩
            · rfl
            · dsimp only
              generalize p3.isEmpty = b
              cases b <;> rfl
  rw [indep, h]

theorem scanStep_lead (pos start : Nat) (recs : List Rec) (l : TLine) (h : leadLine l.1 = true) :
    scanStep { pos := pos, start := start, mode := .lead, recs := recs, dead := false } l
      = { pos := pos + l.size, start := start, mode := .lead, recs := recs, dead := false } := by
  unfold leadLine at h
  simp [scanStep, h]

theorem scanLines_lead (ls : List TLine) (pos start : Nat) (recs : List Rec) (h : ∀ l ∈ ls, leadLine l.1 = true) :
    scanLines { pos := pos, start := start, mode := .lead, recs := recs, dead := false } ls
      = { pos := pos + linesSize ls, start := start, mode := .lead, recs := recs, dead := false } := by
  induction ls generalizing pos with
  | nil => simp [scanLines, linesSize]
  | cons l ls ih =>
    have := ih (pos + l.size) (fun l' hl' => h l' (by simp [hl']))
    simp only [scanLines, List.foldl_cons] at this ⊢
    rw [scanStep_lead pos start recs l (h l (by simp)), this]
    simp only [linesSize, List.map_cons, List.sum_cons]
    congr 1
    omega

theorem sto1_sto (b : Bytes) (h : memstrpfx b bSto1 = true) : memstrpfx b bSto = true := by
  simp only [memstrpfx, bSto1, bSto] at h ⊢
  have e : ([35,32,83,84,79,67,75,72,79,76,77,32,49,46] : Bytes) = [35,32,83,84,79,67,75,72,79,76,77] ++ [32,49,46] := rfl
  rw [e] at h
  rw [List.isPrefixOf_iff_prefix] at h ⊢
  exact List.IsPrefix.trans (List.prefix_append _ _) h

theorem sto1_not_blank (b : Bytes) (h : memstrpfx b bSto1 = true) : isBlankLine b = false := by
  cases b with
  | nil => simp [memstrpfx, bSto1, List.isPrefixOf] at h
  | cons c b =>
    simp only [memstrpfx, bSto1, List.isPrefixOf, Bool.and_eq_true, beq_iff_eq] at h
    simp only [isBlankLine, List.all_cons, ← h.1]
    rfl

theorem scanStep_hdr (pos start : Nat) (recs : List Rec) (l : TLine) (h : memstrpfx l.1 bSto1 = true) :
    scanStep { pos := pos, start := start, mode := .lead, recs := recs, dead := false } l
      = { pos := pos + l.size, start := start, mode := .body none none, recs := recs, dead := false } := by
  simp [scanStep, h, sto1_sto _ h, sto1_not_blank _ h]

theorem scanStep_body (pos start : Nat) (recs : List Rec) (k : Option Bytes × Option Bytes) (l : TLine) (h : bodyLineOk l.1 = true) :
    scanStep { pos := pos, start := start, mode := .body k.1 k.2, recs := recs, dead := false } l
      = { pos := pos + l.size, start := start, mode := .body (gfFold k l).1 (gfFold k l).2, recs := recs, dead := false } := by
  unfold bodyLineOk at h
  simp only [Bool.and_eq_true, Bool.not_eq_true'] at h
  obtain ⟨h1, h2⟩ := h
  by_cases hg : memstrpfx (skipBlank l.1) bGF = true
  · simp only [hg, if_true] at h2
    have h3 := gfKeys_isSome _ k.1 k.2 h2
    obtain ⟨v, hv⟩ := Option.isSome_iff_exists.mp h3
    simp [scanStep, h1, hg, gfFold, hv]
  · simp only [hg, Bool.false_eq_true, if_false, Bool.not_eq_true'] at h2
    simp [scanStep, h1, hg, gfFold, h2]

theorem scanLines_body (ls : List TLine) (pos start : Nat) (recs : List Rec) (k : Option Bytes × Option Bytes)
    (h : ∀ l ∈ ls, bodyLineOk l.1 = true) :
    scanLines { pos := pos, start := start, mode := .body k.1 k.2, recs := recs, dead := false } ls
      = { pos := pos + linesSize ls, start := start, mode := .body (ls.foldl gfFold k).1 (ls.foldl gfFold k).2, recs := recs, dead := false } := by
  induction ls generalizing pos k with
  | nil => simp [scanLines, linesSize]
  | cons l ls ih =>
    have := ih (pos + l.size) (gfFold k l) (fun l' hl' => h l' (by simp [hl']))
    simp only [scanLines, List.foldl_cons] at this ⊢
    rw [scanStep_body pos start recs k l (h l (by simp)), this]
    simp only [linesSize, List.map_cons, List.sum_cons]
    congr 1
    omega

theorem scanStep_term (pos start : Nat) (recs : List Rec) (nm : Bytes) (a : Option Bytes) (l : TLine)
    (h : memstrpfx (skipBlank l.1) bSlash = true) :
    scanStep { pos := pos, start := start, mode := .body (some nm) a, recs := recs, dead := false } l
      = { pos := pos + l.size, start := pos + l.size, mode := .lead, recs := recs ++ [⟨start, nm, a⟩], dead := false } := by
  simp [scanStep, h]

theorem scanLines_record (r : SRec) (h : r.WF) (p : Nat) (recs : List Rec) :
    scanLines { pos := p, start := p, mode := .lead, recs := recs, dead := false } r.lines
      = { pos := p + linesSize r.lines, start := p + linesSize r.lines, mode := .lead,
          recs := recs ++ [⟨p, r.name, r.acc⟩], dead := false } := by
  obtain ⟨nm, hnm⟩ := Option.isSome_iff_exists.mp h.named
  have hname : r.name = nm := by simp [SRec.name, hnm]
  unfold SRec.lines
  simp only [scanLines, List.foldl_append, List.foldl_cons, List.foldl_nil]
  have h1 := scanLines_lead r.lead p p recs h.lead
  simp only [scanLines] at h1
  rw [h1, scanStep_hdr _ _ _ _ h.hdr]
  have h2 := scanLines_body r.body (p + linesSize r.lead + r.hdr.size) p recs (none, none) h.body
  simp only [scanLines] at h2
  rw [h2]
  have e : (r.body.foldl gfFold (none, none)).1 = some nm := hnm
  rw [e, scanStep_term _ _ _ _ _ _ h.term, hname]
  have hs : linesSize (r.lead ++ r.hdr :: (r.body ++ [r.term])) = linesSize r.lead + r.hdr.size + linesSize r.body + r.term.size := by
    simp [linesSize]; omega
  rw [hs]
  simp only [SRec.acc, SRec.keys, Nat.add_assoc]

theorem scanLines_records (rs : List SRec) (h : ∀ r ∈ rs, r.WF) (p : Nat) (recs : List Rec) :
    scanLines { pos := p, start := p, mode := .lead, recs := recs, dead := false } (rs.flatMap SRec.lines)
      = { pos := p + linesSize (rs.flatMap SRec.lines), start := p + linesSize (rs.flatMap SRec.lines), mode := .lead,
          recs := recs ++ (entries p rs).map (·.1), dead := false } := by
  induction rs generalizing p recs with
  | nil => simp [scanLines, linesSize, entries]
  | cons r rs ih =>
    have h1 := scanLines_record r (h r (by simp)) p recs
    have h2 := ih (fun r' hr' => h r' (by simp [hr'])) (p + linesSize r.lines) (recs ++ [⟨p, r.name, r.acc⟩])
    simp only [scanLines, List.flatMap_cons, List.foldl_append] at h1 h2 ⊢
    rw [h1, h2]
    simp only [linesSize_append, entries, List.map_cons, List.append_assoc, List.singleton_append]
    congr 1 <;> omega

/-- THE SCAN: on a database of well-formed records (followed by any number of skipped lines) the indexing loop sees exactly the
    records of the specification, with the offsets at which each `esl_msafile_Read` began -/
theorem scanDb_records (rs : List SRec) (trail : List TLine) (h : ∀ r ∈ rs, r.WF)
    (ht : ∀ l ∈ trail, leadLine l.1 = true ∧ LineWF l) :
    scanDb (dbBytes rs trail) = some ((entries 0 rs).map (·.1)) := by
  have hw : ∀ l ∈ dbLines rs trail, LineWF l := by
    intro l hl
    simp only [dbLines, List.mem_append, List.mem_flatMap] at hl
    rcases hl with ⟨r, hr, hl⟩ | hl
    · exact (h r hr).lines l hl
    · exact (ht l hl).2
  have hs := splitLinesT_wf (dbLines rs trail) hw []
  simp only [List.append_nil] at hs
  have hs' : splitLinesT [] [] = ([] : List (Bytes × Bytes)) := by simp [splitLinesT]
  rw [hs', List.append_nil] at hs
  unfold scanDb dbBytes
  rw [hs]
  unfold dbLines
  have h1 := scanLines_records rs h 0 []
  have e0 : ({} : Scan) = { pos := 0, start := 0, mode := .lead, recs := [], dead := false } := rfl
  simp only [scanLines, List.foldl_append] at h1 ⊢
  rw [e0, h1]
  have h2 := scanLines_lead trail (0 + linesSize (rs.flatMap SRec.lines)) (0 + linesSize (rs.flatMap SRec.lines))
    ([] ++ (entries 0 rs).map (·.1)) (fun l hl => (ht l hl).1)
  simp only [scanLines] at h2
  rw [h2]
  simp [scanEnd]

theorem entries_off_ge (rs : List SRec) (p : Nat) : ∀ e ∈ entries p rs, p ≤ e.1.off ∧ e.1.off ≤ p + linesSize (rs.flatMap SRec.lines) := by
  induction rs generalizing p with
  | nil => intro e he; simp [entries] at he
  | cons r rs ih =>
    intro e he
    simp only [entries, List.mem_cons] at he
    simp only [List.flatMap_cons, linesSize_append]
    rcases he with rfl | he
    · simp
    · have := ih (p + linesSize r.lines) e he
      omega

/-- positioned at a record's stored offset, the fetch path returns that record's text: every line once, LF-terminated -/
theorem regurg_at_entry (rs : List SRec) (h : ∀ r ∈ rs, r.WF) (tailLines : List TLine) (ht : ∀ l ∈ tailLines, LineWF l)
    (pre : Bytes) : ∀ e ∈ entries pre.length rs,
      regurg (splitLinesT ((pre ++ linesBytes (rs.flatMap SRec.lines ++ tailLines)).drop e.1.off) []) [] = some e.2 := by
  induction rs generalizing pre with
  | nil => intro e he; simp [entries] at he
  | cons r rs ih =>
    intro e he
    simp only [entries, List.mem_cons] at he
    have hr := h r (by simp)
    rcases he with rfl | he
    · simp only
      rw [List.drop_left' rfl]
      have hw : ∀ l ∈ r.lines, LineWF l := hr.lines
      have e1 : linesBytes ((r :: rs).flatMap SRec.lines ++ tailLines) = linesBytes r.lines ++ linesBytes (rs.flatMap SRec.lines ++ tailLines) := by
        simp [linesBytes]
      rw [e1, splitLinesT_wf _ hw]
      exact regurg_record r hr _
    · have e1 : pre ++ linesBytes ((r :: rs).flatMap SRec.lines ++ tailLines)
          = (pre ++ linesBytes r.lines) ++ linesBytes (rs.flatMap SRec.lines ++ tailLines) := by
        simp [linesBytes]
      rw [e1]
      have hl : (pre ++ linesBytes r.lines).length = pre.length + linesSize r.lines := by
        rw [List.length_append, linesBytes_length]
      have := ih (fun r' hr' => h r' (by simp [hr'])) (pre ++ linesBytes r.lines)
      rw [hl] at this
      exact this e he

def toPKey (r : Rec) : PKey := ⟨r.name, 0, r.off, 0, 0⟩
def toSKey (r : Rec) : Option SKey := r.acc.map (fun a => ⟨a, r.name⟩)

theorem logical_recOp (r : Rec) (l : NewSsi) (hn : l.nprimary < MAXKEYS) (hm : l.nsecondary < MAXKEYS) :
    ((recOps r).foldl stepL l).pkeys = l.pkeys ++ [toPKey r] ∧
    ((recOps r).foldl stepL l).skeys = l.skeys ++ (toSKey r).toList ∧
    ((recOps r).foldl stepL l).files = l.files ∧
    ((recOps r).foldl stepL l).nprimary = l.nprimary + 1 ∧
    ((recOps r).foldl stepL l).nsecondary = l.nsecondary + (toSKey r).toList.length := by
  have hk : ¬ (l.nprimary ≥ MAXKEYS) := by omega
  have hk2 : ¬ (l.nsecondary ≥ MAXKEYS) := by omega
  have hk0 : ¬ ((0 : Nat) ≥ MAXFILES) := by decide
  cases hacc : r.acc <;> simp [recOps, toPKey, toSKey, hacc, stepL, hk, hk0, hk2]

theorem logical_recOps (recs : List Rec) (l : NewSsi) (hp : l.nprimary = l.pkeys.length) (hs : l.nsecondary = l.skeys.length)
    (hn : l.pkeys.length + recs.length < 2^62) (hm : l.skeys.length + recs.length < 2^62) :
    let l' := (recs.flatMap recOps).foldl stepL l
    l'.pkeys = l.pkeys ++ recs.map toPKey ∧ l'.skeys = l.skeys ++ recs.filterMap toSKey ∧ l'.files = l.files := by
  induction recs generalizing l with
  | nil => simp
  | cons r recs ih =>
    simp only [List.length_cons] at hn hm
    obtain ⟨p1, p2, p3, p4, p5⟩ := logical_recOp r l (by simp only [MAXKEYS, hp]; omega) (by simp only [MAXKEYS, hs]; omega)
    simp only [List.flatMap_cons, List.foldl_append]
    generalize (recOps r).foldl stepL l = l1 at p1 p2 p3 p4 p5 ⊢
    have hlen : (toSKey r).toList.length ≤ 1 := by cases toSKey r <;> simp
    obtain ⟨h1, h2, h3⟩ := ih l1 (by rw [p4, p1, hp]; simp) (by rw [p5, p2, hs]; simp)
      (by rw [p1]; simp; omega) (by rw [p2]; simp; omega)
    exact ⟨by rw [h1, p1]; simp, by rw [h2, p2]; cases hsk : toSKey r <;> simp [List.filterMap_cons, hsk], by rw [h3, p3]⟩

/-- the logical content of the index the tool builds: one primary key per alignment (offset of its read, no data offset, length 0),
    one alias per accession, one file -/
theorem logical_indexOps (fname : Bytes) (fmt : Nat) (recs : List Rec) (hn : recs.length < 2^61) :
    (logical (indexOps fname fmt recs)).pkeys = recs.map toPKey ∧
    (logical (indexOps fname fmt recs)).skeys = recs.filterMap toSKey ∧
    (logical (indexOps fname fmt recs)).files ≠ [] := by
  unfold logical indexOps
  simp only [List.foldl_cons]
  generalize hl0 : stepL {} (.addFile fname fmt) = l0
  have hl0' : l0.pkeys = [] ∧ l0.skeys = [] ∧ l0.nprimary = 0 ∧ l0.nsecondary = 0 ∧ l0.files ≠ [] := by
    subst hl0
    have h0 : ¬ (({} : NewSsi).nfiles ≥ MAXFILES) := by decide
    simp [stepL, h0]
  obtain ⟨g1, g2, g3, g4, g5⟩ := hl0'
  have := logical_recOps recs l0 (by rw [g1, g3]; rfl) (by rw [g2, g4]; rfl) (by rw [g1]; simp; omega) (by rw [g2]; simp; omega)
  simp only at this
  obtain ⟨h1, h2, h3⟩ := this
  refine ⟨?_, ?_, ?_⟩
  · rw [h1, g1]; rfl
  · rw [h2, g2]; rfl
  · rw [h3]; exact g5

/-- keys that may be stored: non-empty, bytes above newline, shorter than 64 KB -/
def KeyOk (k : Bytes) : Prop := k ≠ [] ∧ KeyChars k ∧ k.length < 65535

theorem indexOps_valid (fname : Bytes) (fmt : Nat) (recs : List Rec) (hf : (0 : UInt8) ∉ fname ∧ fname.length < 65535 ∧ fmt < 2^32)
    (hr : ∀ r ∈ recs, KeyOk r.name ∧ (∀ a, r.acc = some a → KeyOk a) ∧ r.off < 2^64) :
    ∀ op ∈ indexOps fname fmt recs, op.Valid := by
  intro op hop
  simp only [indexOps, List.mem_cons, List.mem_flatMap] at hop
  rcases hop with rfl | ⟨r, hr', hop⟩
  · exact hf
  · obtain ⟨⟨h1, h2, h3⟩, h4, h5⟩ := hr r hr'
    cases hacc : r.acc with
    | none =>
      simp only [recOps, hacc, List.mem_cons, List.not_mem_nil, or_false] at hop
      subst hop
      exact ⟨h1, h2, h3, h5, by decide, by decide⟩
    | some a =>
      simp only [recOps, hacc, List.mem_cons, List.not_mem_nil, or_false] at hop
      obtain ⟨g1, g2, g3⟩ := h4 a hacc
      rcases hop with rfl | rfl
      · exact ⟨h1, h2, h3, h5, by decide, by decide⟩
      · exact ⟨g1, g2, g3, h1, h2⟩

theorem indexOps_length (fname : Bytes) (fmt : Nat) (recs : List Rec) : (indexOps fname fmt recs).length ≤ 1 + 2 * recs.length := by
  unfold indexOps
  simp only [List.length_cons]
  have : (recs.flatMap recOps).length ≤ 2 * recs.length := by
    induction recs with
    | nil => simp
    | cons r recs ih =>
      simp only [List.flatMap_cons, List.length_append, List.length_cons]
      have : (recOps r).length ≤ 2 := by unfold recOps; cases r.acc <;> simp
      omega
  omega

end EaselModel.Afetch
