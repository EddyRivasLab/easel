import EaselModel.Sqio.Model
/-! # Read and ReadInfo scan the data identically (C04)

`sqascii_Read` / `sqascii_ReadSequence` (store = true) and `sqascii_ReadInfo` (store = false) run the same
`do { seebuf; [GrowTo; addbuf;] L += n; eoff = …; } while (loadbuf == OK)` loop. The two facts that make them agree are proved
here for every handle: storing residues (`addbuf`) changes nothing of the handle but `bpos`, and the next `loadbuf` does not
look at `bpos` (block mode). -/
namespace EaselModel.Sqio.Agree

def core (a : Ascii) : Ascii := { a with bpos := 0 }

theorem loadmem_bpos (a : Ascii) (b : Nat) :
    loadmem { a with bpos := b } = ({ (loadmem a).1 with bpos := b }, (loadmem a).2) := by
  unfold loadmem
  by_cases h : (a.recording == 1) = true
  · simp only [h, if_true]
    by_cases h2 : a.memValid = true <;> simp [h2]
  · simp only [h]
    rfl

/-- the block-mode branch of `loadbuf` -/
def loadbufBlock (a : Ascii) : Ascii × Status :=
  let a := if a.mpos ≥ a.mn then (loadmem a).1 else a
  let nc := a.mn - a.mpos
  let a := { a with boff := a.moff + a.mpos, bpos := 0, nc := nc, mpos := a.mpos + nc }
  (a, if nc == 0 then .eof else .ok)

theorem loadbuf_eq_block (a : Ascii) (hb : a.linebased = false) : loadbuf a = loadbufBlock a := by
  unfold loadbuf loadbufBlock
  rw [if_pos (by simp [hb])]

theorem loadmem_linebased (a : Ascii) : (loadmem a).1.linebased = a.linebased := by
  unfold loadmem
  by_cases h1 : (a.recording == 1) = true
  · simp only [h1, if_true]; by_cases h2 : a.memValid = true <;> simp [h2]
  · simp only [h1]; rfl

theorem loadbufBlock_bpos (a : Ascii) (b : Nat) : loadbufBlock { a with bpos := b } = loadbufBlock a := by
  unfold loadbufBlock
  by_cases h : a.mpos ≥ a.mn
  · have h' : ({ a with bpos := b } : Ascii).mpos ≥ ({ a with bpos := b } : Ascii).mn := h
    simp only [h, h', if_true, loadmem_bpos]
  · have h' : ¬ (({ a with bpos := b } : Ascii).mpos ≥ ({ a with bpos := b } : Ascii).mn) := h
    simp only [h, h', if_false]

theorem loadbuf_bpos (a : Ascii) (b : Nat) (hb : a.linebased = false) : loadbuf { a with bpos := b } = loadbuf a := by
  rw [loadbuf_eq_block a hb, loadbuf_eq_block _ (show ({ a with bpos := b } : Ascii).linebased = false from hb), loadbufBlock_bpos]

theorem loadbuf_linebased (a : Ascii) (hb : a.linebased = false) : (loadbuf a).1.linebased = false := by
  rw [loadbuf_eq_block a hb]
  unfold loadbufBlock
  by_cases h : a.mpos ≥ a.mn
  · simp only [h, if_true]; show (loadmem a).1.linebased = false; rw [loadmem_linebased]; exact hb
  · simp only [h, if_false]; exact hb

theorem seebuf_linebased (a : Ascii) (m : Option Nat) : (seebuf a m).1.linebased = a.linebased := by
  cases m <;> (simp only [seebuf]; split <;> simp)

theorem addbuf_handle (a : Ascii) (sq : Sq) (n : Nat) : ∃ b, (addbuf a sq n).1 = { a with bpos := b } := by
  simp only [addbuf]
  exact ⟨_, rfl⟩

end EaselModel.Sqio.Agree
