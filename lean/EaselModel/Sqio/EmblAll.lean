import EaselModel.Sqio.EmblSpec
import EaselModel.Sqio.ParseFasta
/-! # Line-based formats: `ReadSequence`, `ReadInfo` and the whole-file loop are block-size independent (C04) -/
namespace EaselModel.Sqio.EmblAll
open EaselModel.Sqio EaselModel.Sqio.LineSpec EaselModel.Sqio.EmblSpec

/-- `eslSQFILE_EMBL` (2), `GENBANK` (3), `DDBJ` (4), `UNIPROT` (5): the formats `esl_sqio_ascii.c` reads line by line -/
def LineFmt (a : Ascii) : Prop := a.fmt = 2 ∨ a.fmt = 3 ∨ a.fmt = 4 ∨ a.fmt = 5

theorem LineFmt.of_eq {a b : Ascii} (h : b.fmt = a.fmt) (l : LineFmt a) : LineFmt b := by
  unfold LineFmt at *; rw [h]; exact l

theorem skipHeader_fsim {k : Nat} {a1 a2 : Ascii} (sq : Sq) (h : FSim k a1 a2) (hk : k = 2 ∨ k = 3 ∨ k = 4 ∨ k = 5) :
    RelF k (skipHeader a1 sq) (skipHeader a2 sq) := by
  rw [skipHeader_line a1 sq (h.fmt ▸ hk), skipHeader_line a2 sq (h.fmt2 ▸ hk)]
  exact headerLine_fsim false sq h

theorem readSequence_fsim {k : Nat} {a1 a2 : Ascii} (sq : Sq) (h : FSim k a1 a2) (hk : k = 2 ∨ k = 3 ∨ k = 4 ∨ k = 5) :
    RelF k (readSequence a1 sq) (readSequence a2 sq) :=
  record_fsim h (skipHeader_fsim sq h hk) fun q hs => readBody_fsim q hs hk

/-- `b` is a line-mode handle with the format code of `a` -/
def Keeps (a b : Ascii) : Prop := b.fmt = a.fmt ∧ LWF b

theorem Keeps.of_fsim {a b b' : Ascii} (h : FSim a.fmt b b') : Keeps a b := ⟨h.fmt, h.w1⟩

theorem skipHeader_keeps (a : Ascii) (sq : Sq) (w : LWF a) (hf : LineFmt a) : Keeps a (skipHeader a sq).1 :=
  Keeps.of_fsim (skipHeader_fsim sq ⟨lsim_refl w, rfl⟩ hf).1

theorem read_keeps (a : Ascii) (sq : Sq) (w : LWF a) (hf : LineFmt a) : Keeps a (read a sq).1 :=
  Keeps.of_fsim (read_fsim sq ⟨lsim_refl w, rfl⟩ hf).1

/-- **reading all records of a line-based file is block-size independent**: the client loop over `sqascii_Read`, from two handles
    on the same line with any block sizes, returns the same records and the same final status -/
theorem read_all_linebased_block_size_independent (fuel : Nat) : ∀ (a1 a2 : Ascii) (sq : Sq), LSim a1 a2 → LineFmt a1 →
    ParseFasta.readAllM fuel a1 sq = ParseFasta.readAllM fuel a2 sq := by
  induction fuel with
  | zero => intro a1 a2 sq _ _; rfl
  | succ fuel ih =>
    intro a1 a2 sq h hf
    simp only [ParseFasta.readAllM]
    obtain ⟨hs, he⟩ := read_fsim sq.reuse (⟨h, rfl⟩ : FSim a1.fmt a1 a2) hf
    rw [he, ih _ _ _ hs.toLSim (hf.of_eq hs.fmt)]

/-- the handle `esl_sqfile_Open` returns on a line-based file: first line loaded, then the input map of the alphabet installed -/
def openLine (file : Bytes) (B abc fmt : Nat) (eofOk : Bool) (inmap0 inmap1 : Bytes) : Ascii :=
  { (loadbuf { file := file, B := B, abc := abc, fmt := fmt, eofIsOk := eofOk, linebased := true, inmap := inmap0 }).1 with
      inmap := inmap1, haveErr := false }

theorem setInmap_lsim {a1 a2 : Ascii} (h : LSim a1 a2) (x : Bytes) (e : Bool) :
    LSim { a1 with inmap := x, haveErr := e } { a2 with inmap := x, haveErr := e } := by
  obtain ⟨k1, k2, k3, k4, k5, k6, k7, k8, k9, k10, k11, k12, k13⟩ := keepP_fields h.keep
  refine lsim_upd h rfl rfl ?_ h.bpos
  simp only [keepP, k1, k2, k3, k4, k6, k7, k8, k10, k11, k12, k13]

theorem openLine_lsim (file : Bytes) (B1 B2 abc fmt : Nat) (eofOk : Bool) (inmap0 inmap1 : Bytes) (h1 : 1 ≤ B1) (h2 : 1 ≤ B2) :
    LSim (openLine file B1 abc fmt eofOk inmap0 inmap1) (openLine file B2 abc fmt eofOk inmap0 inmap1) ∧
    (openLine file B1 abc fmt eofOk inmap0 inmap1).fmt = fmt :=
  ⟨setInmap_lsim (open_lsim file B1 B2 abc fmt eofOk inmap0 h1 h2).1 inmap1 false, loadbuf_fmt _⟩

/-- **from `esl_sqfile_Open` on**: for any two block sizes `B₁, B₂ ≥ 1`, reading every record of an EMBL / UniProt / GenBank / DDBJ
    file gives the same records and the same final status -/
theorem read_all_linebased_open (file : Bytes) (B1 B2 abc fmt : Nat) (eofOk : Bool) (inmap0 inmap1 : Bytes) (h1 : 1 ≤ B1) (h2 : 1 ≤ B2)
    (hf : fmt = 2 ∨ fmt = 3 ∨ fmt = 4 ∨ fmt = 5) (fuel : Nat) (sq : Sq) :
    ParseFasta.readAllM fuel (openLine file B1 abc fmt eofOk inmap0 inmap1) sq =
      ParseFasta.readAllM fuel (openLine file B2 abc fmt eofOk inmap0 inmap1) sq := by
  obtain ⟨hl, hfmt⟩ := openLine_lsim file B1 B2 abc fmt eofOk inmap0 inmap1 h1 h2
  exact read_all_linebased_block_size_independent fuel _ _ sq hl (by unfold LineFmt; rw [hfmt]; exact hf)

theorem infoTail_fsim {k : Nat} {r1 r2 : Ascii × Sq × Status} (h : RelF k r1 r2) :
    RelF k (DataScan.infoTail r1.1 r1.2.1 r1.2.2) (DataScan.infoTail r2.1 r2.2.1 r2.2.2) := by
  unfold DataScan.infoTail
  rw [h.2, h.1.L_eq]
  exact fsim_ite ⟨h.1, rfl⟩ (fsim_ite ⟨h.1, rfl⟩ ⟨h.1, rfl⟩)

theorem infoRecEnd_fsim {k : Nat} {r1 r2 : Ascii × Sq × Status × Nat} (h : FSim k r1.1 r2.1) (he : r1.2 = r2.2)
    (hk : k = 2 ∨ k = 3 ∨ k = 4 ∨ k = 5) : RelF k (DataScan.infoRecEnd r1) (DataScan.infoRecEnd r2) := by
  unfold DataScan.infoRecEnd
  rw [he, show (!r1.1.eofIsOk) = !r2.1.eofIsOk by rw [h.eofIsOk_eq]]
  exact fsim_ite (fsim_ite ⟨fail_fsim h, rfl⟩ ⟨h, rfl⟩) (fsim_ite (parseEnd_fsim _ (setBpos_fsim h _) hk) ⟨h, rfl⟩)

theorem infoEnd_fsim {k : Nat} {r1 r2 : Ascii × Sq × Status × Nat} (h : FSim k r1.1 r2.1) (he : r1.2 = r2.2)
    (hk : k = 2 ∨ k = 3 ∨ k = 4 ∨ k = 5) : RelF k (DataScan.infoEnd r1) (DataScan.infoEnd r2) := by
  unfold DataScan.infoEnd
  rw [he]
  exact fsim_ite ⟨h, rfl⟩ (infoTail_fsim (infoRecEnd_fsim h he hk))

theorem readInfo_fsim {k : Nat} {a1 a2 : Ascii} (sq : Sq) (h : FSim k a1 a2) (hk : k = 2 ∨ k = 3 ∨ k = 4 ∨ k = 5) :
    RelF k (readInfo a1 sq) (readInfo a2 sq) := by
  rw [DataScan.readInfo_eq, DataScan.readInfo_eq]
  refine record_fsim (body := fun b q => DataScan.infoEnd (scanLoop false (fuelOf { b with L := 0 }) { b with L := 0 } q))
    h (parseHeader_fsim sq h hk) fun {b1 b2} q hs => ?_
  obtain ⟨hl, hle⟩ := scanLoop_fsim false (fuelOf { b2 with L := 0 }) q (setL_fsim hs 0)
  rw [fuelOf_lsim (setL_fsim hs 0).toLSim]
  exact infoEnd_fsim hl hle hk

theorem readInfo_block_size_independent (a1 a2 : Ascii) (sq : Sq) (h : LSim a1 a2) (hf : LineFmt a1) :
    (readInfo a1 sq).2.2 = (readInfo a2 sq).2.2 ∧ (readInfo a1 sq).2.1 = (readInfo a2 sq).2.1 ∧
    LSim (readInfo a1 sq).1 (readInfo a2 sq).1 :=
  (readInfo_fsim sq (⟨h, rfl⟩ : FSim a1.fmt a1 a2) hf).unpack

theorem readSequence_block_size_independent (a1 a2 : Ascii) (sq : Sq) (h : LSim a1 a2) (hf : LineFmt a1) :
    (readSequence a1 sq).2.2 = (readSequence a2 sq).2.2 ∧ (readSequence a1 sq).2.1 = (readSequence a2 sq).2.1 ∧
    LSim (readSequence a1 sq).1 (readSequence a2 sq).1 :=
  (readSequence_fsim sq (⟨h, rfl⟩ : FSim a1.fmt a1 a2) hf).unpack

/-! ## non-vacuity: the one-record EMBL file of `EmblSpec.demoE` -/

example : ((ParseFasta.readAllM 5 (openLine demoE 1 0 2 false (inmapEmbl 0) (inmapEmbl 0)) {}).2,
    (ParseFasta.readAllM 5 (openLine demoE 1 0 2 false (inmapEmbl 0) (inmapEmbl 0)) {}).1.length) = (Status.eof, 1) := by
  rw [inmapEmbl_text]; decide +kernel

example : (readInfo (openLine demoE 3 0 2 false (inmapEmbl 0) (inmapEmbl 0)) {}).2.2 = .ok ∧
    (readInfo (openLine demoE 3 0 2 false (inmapEmbl 0) (inmapEmbl 0)) {}).2.1.L = 4 := by rw [inmapEmbl_text]; decide +kernel

example : ParseFasta.readAllM 5 (openLine demoE 1 0 2 false (inmapEmbl 0) (inmapEmbl 0)) {} =
    ParseFasta.readAllM 5 (openLine demoE 64 0 2 false (inmapEmbl 0) (inmapEmbl 0)) {} :=
  read_all_linebased_open demoE 1 64 0 2 false (inmapEmbl 0) (inmapEmbl 0) (by decide) (by decide) (Or.inl rfl) 5 {}

end EaselModel.Sqio.EmblAll
