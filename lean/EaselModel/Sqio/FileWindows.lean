import EaselModel.Sqio.WindowSeries
import EaselModel.Sqio.ReadOne
/-! # Windows over a whole file = the windows of the records of the declarative parser (C04)

`readFileWindowsM`: the client loop `for each record: while (esl_sqio_ReadWindow(...) == eslOK) …; until eslEOF`. `file_windows_eq_spec`:
on every file whose records all parse (`specAll … = (records, eslEOF)`), for every block size and every request stream, the windows
returned for the `i`-th record are the declarative windows `specWindows` of the residues of the `i`-th record of `specFasta`'s loop, and the
loop ends with `eslEOF`. -/
namespace EaselModel.Sqio.WindowSeries
open EaselModel.Sqio.DataScan EaselModel.Sqio.Cursor EaselModel.Sqio.ReadSpec EaselModel.Sqio.WinSpecPure

/-- **the window loop composes over records**: after the `eslEOD` that ends a record's series, handle and `ESL_SQ` are ready for the
    next record exactly as after `sqascii_Read` + `esl_sq_Reuse` (cursor on the same byte, `start = 0`, no residues, allocations at
    least as large), so `windows_eq_read` applies again — record after record through the file -/
theorem windows_then_ready (a : Ascii) (sq : Sq) (R : Ready a sq) (hs : sq.seq = #[]) (hst : sq.start = 0)
    (hok : (read a sq).2.2 = .ok) (req : Nat → Int × Int) (hreq : ∀ k, 0 ≤ (req k).1 ∧ 1 ≤ (req k).2)
    (F : Nat) (hF : (read a sq).2.1.seq.size + 2 ≤ F) :
    Ready (readWindowsM req F 0 a sq).2.1 (readWindowsM req F 0 a sq).2.2.1 ∧
    (readWindowsM req F 0 a sq).2.2.1.seq = #[] ∧
    (readWindowsM req F 0 a sq).2.2.1.start = 0 ∧
    fileFrom (readWindowsM req F 0 a sq).2.1 = fileFrom (read a sq).1 := by
  obtain ⟨_, _, w3, _, w5, w6, w7, w8, w9⟩ := windows_eq_read a sq R hs hst hok req hreq F hF
  obtain ⟨q, _, tk⟩ := ReadOne.read_specOne a sq R hs _ _ _ rfl
  obtain ⟨_, _, T⟩ := tk (q.symm.trans hok)
  simp only [hdrOf, Prod.mk.injEq] at w6
  obtain ⟨e1, e2, _, _, _, e6, e7, _, _, _⟩ := w6
  refine ⟨R.next w7 w9 (e1.trans T.dig) (e2.trans T.abc) (by rw [e6]; exact T.nalloc) (by rw [e7]; exact T.dalloc), w3, w5, w8⟩

end EaselModel.Sqio.WindowSeries

namespace EaselModel.Sqio.FileWindows
open EaselModel.Sqio.Refine EaselModel.Sqio.DataScan EaselModel.Sqio.Cursor EaselModel.Sqio.BodySpec EaselModel.Sqio.HeaderSpec
open EaselModel.Sqio.ReadSpec EaselModel.Sqio.WindowSeries EaselModel.Sqio.WinSpecPure EaselModel.Sqio.SpecFasta

def readFileWindowsM (req : Nat → Int × Int) : Nat → Ascii → Sq → List (List Sq) × Status
  | 0, _, _ => ([], .fault)
  | fuel + 1, a, sq =>
    if (readWindowsM req (a.file.size + 2) 0 a sq).2.2.2 == .eod then
      ((readWindowsM req (a.file.size + 2) 0 a sq).1 ::
         (readFileWindowsM req fuel (readWindowsM req (a.file.size + 2) 0 a sq).2.1 (readWindowsM req (a.file.size + 2) 0 a sq).2.2.1).1,
       (readFileWindowsM req fuel (readWindowsM req (a.file.size + 2) 0 a sq).2.1 (readWindowsM req (a.file.size + 2) 0 a sq).2.2.1).2)
    else ([], (readWindowsM req (a.file.size + 2) 0 a sq).2.2.2)

theorem specOne_ok_shape (inmap map : Bytes) (N : Nat) (l : List UInt8) (r : Record) (rest : List UInt8)
    (h : specOne inmap map N l = (.ok, some r, rest)) :
    ∃ c l2 l6, l.dropWhile isSpace = c :: l2 ∧ l6 <:+ l2 ∧ r.roff = offOf N (c :: l2) ∧
      r.seq = ((l6.takeWhile (isData inmap)).filter (isRes inmap)).map (fun c => map.getD c.toNat 0) ∧
      rest = l6.dropWhile (isData inmap) := by
  unfold specOne at h
  split at h
  · cases h
  · rename_i c l2 hd
    split at h
    · cases h
    · simp only [] at h
      split at h
      · cases h
      · refine ⟨c, l2, (((((l2.dropWhile isBlankTab).dropWhile pName).dropWhile isBlankTab).dropWhile pDesc).dropWhile pNotEol).dropWhile pEol, hd,
          (List.dropWhile_suffix _).trans ((List.dropWhile_suffix _).trans ((List.dropWhile_suffix _).trans
          ((List.dropWhile_suffix _).trans ((List.dropWhile_suffix _).trans (List.dropWhile_suffix _))))), ?_⟩
        split at h
        · rename_i hnil
          obtain ⟨_, h2⟩ := Prod.mk.inj h
          obtain ⟨h2, h3⟩ := Prod.mk.inj h2
          have hr := Option.some.inj h2
          exact ⟨by rw [← hr], by rw [← hr], by rw [← h3, hnil]⟩
        · rename_i c' t hcons
          split at h
          · obtain ⟨_, h2⟩ := Prod.mk.inj h
            obtain ⟨h2, h3⟩ := Prod.mk.inj h2
            have hr := Option.some.inj h2
            exact ⟨by rw [← hr], by rw [← hr], by rw [← h3, hcons]⟩
          · cases h
theorem specOne_seq_le (inmap map : Bytes) (N : Nat) (l : List UInt8) (r : Record) (rest : List UInt8)
    (h : specOne inmap map N l = (.ok, some r, rest)) : r.seq.length ≤ l.length := by
  obtain ⟨c, l2, l6, hd, h6, _, hseq, _⟩ := specOne_ok_shape inmap map N l r rest h
  rw [hseq, List.length_map]
  have h1 := List.length_filter_le (isRes inmap) (l6.takeWhile (isData inmap))
  have h2 := length_takeWhile_add_dropWhile (isData inmap) l6
  have h3 := h6.length_le
  have h4 : (c :: l2).length ≤ l.length := by rw [← hd]; exact Totality.dropWhile_length_le _ _
  simp only [List.length_cons] at h4
  omega

theorem readWindowsM_eof (req : Nat → Int × Int) (hreq : ∀ k, 0 ≤ (req k).1 ∧ 1 ≤ (req k).2) (a : Ascii) (sq : Sq) (R : Ready a sq)
    (hst : sq.start = 0) (heof : (read a sq).2.2 = .eof) (F : Nat) :
    (readWindowsM req (F + 1) 0 a sq).2.2.2 = .eof ∧ (readWindowsM req (F + 1) 0 a sq).1 = [] := by
  have hW := (hreq 0).2
  have key : (readWindow a sq (req 0).1 (req 0).2).2.2 = .eof := by
    by_cases hnc : a.nc = 0
    · unfold readWindow
      have h1 : ¬ (req 0).2 < 0 := by omega
      simp [h1, hst, hnc]
    · rw [readWindow_first a sq (req 0).1 (req 0).2 (by omega) hst hnc]
      have hr : read a sq = if (parseHeader a sq).2.2 != .ok then parseHeader a sq else readBody (parseHeader a sq).1 (parseHeader a sq).2.1 := by
        rw [read_eq]
        have : (a.nc == 0) = false := by simpa using hnc
        simp [this]
      by_cases hp : (parseHeader a sq).2.2 = .ok
      · exfalso
        have hb : ((parseHeader a sq).2.2 != Status.ok) = false := by rw [hp]; decide
        rw [hr] at heof
        simp only [hb, Bool.false_eq_true, if_false] at heof
        -- after a good header the record read cannot report eslEOF
        obtain ⟨q1, _, _, _⟩ := read_spec a sq R
        have hq : (read a sq).2.2 = .eof := by rw [hr]; simp only [hb, Bool.false_eq_true, if_false]; exact heof
        rw [q1] at hq
        have hl : Sim.Live a := by
          rcases R.cur.cur with hl | ⟨⟨e1, _⟩, _⟩
          · exact hl
          · exact absurd e1 hnc
        obtain ⟨x, t, _, hf, _⟩ := abs_of_live a R.cur hl
        obtain ⟨h1, _, _, _⟩ := headerFasta_spec a sq R.cur hl R.nalloc R.dalloc
        rw [parseHeader_fasta a sq R.fmt] at hp
        have hH : (headerL a.file.size sq (fileFrom a)).1 = .ok := by
          have := congrArg Prod.snd h1
          simp only [] at this
          rw [← this]; exact hp
        unfold recL at hq
        have hne : (fileFrom a).isEmpty = false := by rw [hf]; rfl
        have hbk : ((headerL a.file.size sq (fileFrom a)).1 == Status.ok) = true := by rw [hH]; rfl
        simp only [hne, Bool.false_eq_true, if_false, hbk, if_true] at hq
        rcases Totality.bodyL_status a.inmap (mapFor a.inmap sq) a.file.size (headerL a.file.size sq (fileFrom a)).2.1
          (headerL a.file.size sq (fileFrom a)).2.2 with k | k <;> rw [k] at hq <;> cases hq
      · have hb : ((parseHeader a sq).2.2 != Status.ok) = true := by simpa using hp
        rw [hr] at heof
        simp only [hb, if_true] at heof ⊢
        exact heof
  rw [readWindowsM_succ]
  have hb : ((readWindow a sq (req 0).1 (req 0).2).2.2 == Status.ok) = false := by rw [key]; decide
  simp only [hb, Bool.false_eq_true, if_false]
  exact ⟨key, trivial⟩


theorem readFileWindowsM_succ (req : Nat → Int × Int) (fuel : Nat) (a : Ascii) (sq : Sq) :
    readFileWindowsM req (fuel + 1) a sq =
    if (readWindowsM req (a.file.size + 2) 0 a sq).2.2.2 == .eod then
      ((readWindowsM req (a.file.size + 2) 0 a sq).1 ::
         (readFileWindowsM req fuel (readWindowsM req (a.file.size + 2) 0 a sq).2.1 (readWindowsM req (a.file.size + 2) 0 a sq).2.2.1).1,
       (readFileWindowsM req fuel (readWindowsM req (a.file.size + 2) 0 a sq).2.1 (readWindowsM req (a.file.size + 2) 0 a sq).2.2.1).2)
    else ([], (readWindowsM req (a.file.size + 2) 0 a sq).2.2.2) := rfl

/-- **Windows over a whole file, for every block size and every request stream**: if the records of the file (from the cursor on) all
    parse — `specAll` ends with `eslEOF` —, the window loop returns, record by record, exactly the declarative windows of the residues of
    `specAll`'s records, and ends with `eslEOF`. -/
theorem file_windows_eq_spec (req : Nat → Int × Int) (hreq : ∀ k, 0 ≤ (req k).1 ∧ 1 ≤ (req k).2) (N : Nat) (inmap map : Bytes) :
    ∀ (fuel : Nat) (a : Ascii) (sq : Sq), Ready a sq → sq.seq = #[] → sq.start = 0 → a.file.size = N → a.inmap = inmap →
      mapFor a.inmap sq = map → (fileFrom a).length < fuel →
      (specAll inmap map N fuel (fileFrom a)).2 = .eof →
      (readFileWindowsM req fuel a sq).1.map (fun ws => ws.map toWin) =
        (specAll inmap map N fuel (fileFrom a)).1.map (fun r => specWindows r.seq.toArray req (N + 2) 0 0 0) ∧
      (readFileWindowsM req fuel a sq).2 = .eof := by
  intro fuel
  induction fuel with
  | zero => intro a sq _ _ _ _ _ _ h; omega
  | succ fuel ih =>
    intro a sq R hs hst hN hi hm hf hspec
    rw [readFileWindowsM_succ, hN]
    simp only [specAll] at hspec ⊢
    rcases hSO : specOne inmap map N (fileFrom a) with ⟨o1, o2, o3⟩
    obtain ⟨q, _, tk⟩ := ReadOne.read_specOne a sq R hs o1 o2 o3 (by rw [hm, hi, hN]; exact hSO)
    rw [hSO] at hspec
    by_cases hok : o1 = .ok
    · subst hok
      obtain ⟨r, rfl, T⟩ := tk rfl
      simp only [] at hspec ⊢
      have hseqR : (read a sq).2.1.seq = r.seq.toArray := by rw [← T.record]; simp [toRecord]
      have hle : (read a sq).2.1.seq.size + 2 ≤ N + 2 := by
        have := specOne_seq_le inmap map N (fileFrom a) _ _ hSO
        have hl := R.cur.len
        rw [hseqR]
        simp only [List.size_toArray]
        omega
      obtain ⟨w1, w2, _, _, _, w6, _, _, w9⟩ := windows_eq_read a sq R hs hst q req hreq (N + 2) hle
      obtain ⟨r1, r2, r3, r4⟩ := windows_then_ready a sq R hs hst q req hreq (N + 2) hle
      have hb : ((readWindowsM req (N + 2) 0 a sq).2.2.2 == Status.eod) = true := by rw [w2]; decide
      simp only [hb, if_true, List.map_cons]
      have hfile' : (readWindowsM req (N + 2) 0 a sq).2.1.file.size = N := by rw [stat_file w9]; exact hN
      have hi' : (readWindowsM req (N + 2) 0 a sq).2.1.inmap = inmap := by rw [stat_inmap w9]; exact hi
      have hm' : mapFor (readWindowsM req (N + 2) 0 a sq).2.1.inmap (readWindowsM req (N + 2) 0 a sq).2.2.1 = map := by
        rw [hi', ← hm, hi]
        simp only [hdrOf, Prod.mk.injEq] at w6
        obtain ⟨d1, d2, _⟩ := w6
        simp only [mapFor, d1, d2, T.dig, T.abc]
      have hrest : fileFrom (readWindowsM req (N + 2) 0 a sq).2.1 = o3 := by rw [r4, T.ff]
      obtain ⟨i1, i2⟩ := ih _ _ r1 r2 r3 hfile' hi' hm' (by rw [hrest]; have := T.lt; omega) (by rw [hrest]; exact hspec)
      rw [hrest] at i1
      refine ⟨?_, i2⟩
      rw [i1, w1, hseqR]
    · -- no further record: the hypothesis says the status is `eslEOF`
      have hst1 : o1 = .eof := by
        cases o1 <;> first | rfl | exact absurd rfl hok | (simp only [] at hspec; first | exact hspec | cases hspec)
      subst hst1
      simp only [List.map_nil]
      obtain ⟨z1, z2⟩ := readWindowsM_eof req hreq a sq R hst q (N + 1)
      have hb : ((readWindowsM req (N + 2) 0 a sq).2.2.2 == Status.eod) = false := by rw [z1]; decide
      simp only [hb, Bool.false_eq_true, if_false, List.map_nil]
      exact ⟨trivial, z1⟩


/-- **From `esl_sqfile_Open` on: the windows of a whole well-formed FASTA file are the declarative windows of `specFasta`'s records**, for every
    byte string whose records all parse, every alphabet mode, every block size `B ≥ 1` and every request stream. -/
theorem file_windows_from_open (bytes : Bytes) (B abc : Nat) (hB : 1 ≤ B) (habc : abc ∈ [0, 1, 2, 3])
    (req : Nat → Int × Int) (hreq : ∀ k, 0 ≤ (req k).1 ∧ 1 ≤ (req k).2) (hclean : (specFasta abc bytes.toList).2 = .eof) :
    (readFileWindowsM req (bytes.size + 2) (ParseFasta.openFasta bytes B abc) (freshSq abc).reuse).1.map (fun ws => ws.map toWin) =
      (specFasta abc bytes.toList).1.map (fun r => specWindows r.seq.toArray req (bytes.size + 2) 0 0 0) ∧
    (readFileWindowsM req (bytes.size + 2) (ParseFasta.openFasta bytes B abc) (freshSq abc).reuse).2 = .eof := by
  obtain ⟨R, hff, hi, hf⟩ := ParseFasta.openFasta_ready bytes B abc hB habc
  have hmap : mapFor (ParseFasta.openFasta bytes B abc).inmap (freshSq abc).reuse = (if abc = 0 then inmapFasta 0 else abcInmap abc) := by
    rw [hi]
    by_cases h0 : abc = 0
    · subst h0; simp [mapFor, freshSq, Sq.reuse]
    · simp [mapFor, freshSq, Sq.reuse, h0]
  have hlen : bytes.toList.length = bytes.size := Array.length_toList
  unfold specFasta at hclean ⊢
  rw [hlen] at hclean ⊢
  have key := file_windows_eq_spec req hreq bytes.size (inmapFasta abc) (if abc = 0 then inmapFasta 0 else abcInmap abc)
    (bytes.size + 2) (ParseFasta.openFasta bytes B abc) (freshSq abc).reuse R rfl rfl (by rw [hf]) hi hmap (by rw [hff, hlen]; omega)
    (by rw [hff]; exact hclean)
  rw [hff] at key
  exact key

end EaselModel.Sqio.FileWindows
