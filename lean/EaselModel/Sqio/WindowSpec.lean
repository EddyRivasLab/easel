import EaselModel.Sqio.Totality
import EaselModel.Sqio.StatusEq
/-! # `read_nres` in closed form, for every block size (C04 / C07: windows and subsequence fetches)

`splitRes inmap l n`: the shortest prefix of the remaining file bytes `l` that holds `n` residues (all the leading data bytes if there
are fewer), and what follows it. It does not mention the block size. `read_nres(sqfp, sq, 0, W, &actual)` appends exactly the
residues of `(splitRes inmap (fileFrom a) W).1` and leaves the cursor on `(splitRes …).2` — wherever the block boundaries fall. -/
namespace EaselModel.Sqio.WindowSpec
open EaselModel.Sqio EaselModel.Sqio.Refine EaselModel.Sqio.Fold EaselModel.Sqio.DataScan EaselModel.Sqio.Cursor
open EaselModel.Sqio.BodySpec
open Tables

/-- shortest prefix of `l` holding `n` residues (all of the leading data bytes if there are fewer), and what follows it -/
def splitRes (inmap : Bytes) : List UInt8 → Nat → List UInt8 × List UInt8
  | [], _ => ([], [])
  | c :: t, n =>
    if n = 0 then ([], c :: t)
    else if isRes inmap c then (c :: (splitRes inmap t (n - 1)).1, (splitRes inmap t (n - 1)).2)
    else if isData inmap c then (c :: (splitRes inmap t n).1, (splitRes inmap t n).2)
    else ([], c :: t)

theorem splitRes_nil (inmap : Bytes) (n : Nat) : splitRes inmap [] n = ([], []) := rfl

theorem splitRes_zero (inmap : Bytes) (l : List UInt8) : splitRes inmap l 0 = ([], l) := by
  cases l <;> simp [splitRes]

theorem isData_false_isRes (inmap : Bytes) (c : UInt8) (h : isData inmap c = false) : isRes inmap c = false := by
  cases hh : isRes inmap c with
  | false => rfl
  | true => rw [isRes_isData inmap c hh] at h; cases h

theorem splitRes_cons (inmap : Bytes) (c : UInt8) (t : List UInt8) (n : Nat) :
    (n = 0 ∧ splitRes inmap (c :: t) n = ([], c :: t)) ∨
    (n ≠ 0 ∧ isRes inmap c = true ∧ isData inmap c = true ∧
      splitRes inmap (c :: t) n = (c :: (splitRes inmap t (n - 1)).1, (splitRes inmap t (n - 1)).2)) ∨
    (n ≠ 0 ∧ isRes inmap c = false ∧ isData inmap c = true ∧
      splitRes inmap (c :: t) n = (c :: (splitRes inmap t n).1, (splitRes inmap t n).2)) ∨
    (n ≠ 0 ∧ isRes inmap c = false ∧ isData inmap c = false ∧ splitRes inmap (c :: t) n = ([], c :: t)) := by
  by_cases h0 : n = 0
  · left; exact ⟨h0, by simp [splitRes, h0]⟩
  · right
    cases hr : isRes inmap c with
    | true => left; exact ⟨h0, rfl, isRes_isData inmap c hr, by simp [splitRes, h0, hr]⟩
    | false =>
      right
      cases hd : isData inmap c with
      | true => left; exact ⟨h0, rfl, rfl, by simp [splitRes, h0, hr, hd]⟩
      | false => right; exact ⟨h0, rfl, rfl, by simp [splitRes, h0, hr, hd]⟩

theorem nresOf_nil (inmap : Bytes) : nresOf inmap [] = 0 := rfl

theorem nresOf_cons (inmap : Bytes) (c : UInt8) (t : List UInt8) :
    nresOf inmap (c :: t) = (if isRes inmap c then 1 else 0) + nresOf inmap t := by
  unfold nresOf
  by_cases h : isRes inmap c = true
  · rw [List.filter_cons_of_pos h]; simp [h]; omega
  · rw [List.filter_cons_of_neg h]; simp [h]

theorem nresOf_append (inmap : Bytes) (l1 l2 : List UInt8) : nresOf inmap (l1 ++ l2) = nresOf inmap l1 + nresOf inmap l2 := by
  simp [nresOf, List.filter_append]

/-- the residues the split takes are the first `n` of the record's -/
theorem splitRes_filter (inmap : Bytes) (l : List UInt8) : ∀ n,
    (splitRes inmap l n).1.filter (isRes inmap) = ((l.takeWhile (isData inmap)).filter (isRes inmap)).take n := by
  induction l with
  | nil => intro n; simp [splitRes]
  | cons c t ih =>
    intro n
    rcases splitRes_cons inmap c t n with ⟨h0, e⟩ | ⟨h0, hr, hd, e⟩ | ⟨h0, hr, hd, e⟩ | ⟨h0, hr, hd, e⟩
    · subst h0; rw [e]; simp
    · obtain ⟨m, rfl⟩ : ∃ m, n = m + 1 := ⟨n - 1, by omega⟩
      rw [e, List.takeWhile_cons_of_pos hd, List.filter_cons_of_pos hr, List.filter_cons_of_pos hr, List.take_succ_cons]
      simp only [Nat.add_sub_cancel, ih m]
    · have hr' : ¬ isRes inmap c = true := by simp [hr]
      rw [e, List.takeWhile_cons_of_pos hd, List.filter_cons_of_neg hr', List.filter_cons_of_neg hr']
      exact ih n
    · have hd' : ¬ isData inmap c = true := by simp [hd]
      rw [e, List.takeWhile_cons_of_neg hd']
      simp

/-- how many residues the split takes: `n`, or all the record has left -/
theorem splitRes_nres (inmap : Bytes) (l : List UInt8) (n : Nat) :
    nresOf inmap (splitRes inmap l n).1 = min n (nresOf inmap (l.takeWhile (isData inmap))) := by
  unfold nresOf
  rw [splitRes_filter, List.length_take]

theorem splitRes_nres_le (inmap : Bytes) (l : List UInt8) (n : Nat) : nresOf inmap (splitRes inmap l n).1 ≤ n := by
  rw [splitRes_nres]; omega

/-- asking again for as many residues as the split took gives the same residues; the bytes may be fewer, since the split with the
    larger limit also takes the data bytes behind the last residue -/
theorem splitRes_again (inmap : Bytes) (l : List UInt8) (m : Nat) :
    (splitRes inmap l (nresOf inmap (splitRes inmap l m).1)).1.filter (isRes inmap) = (splitRes inmap l m).1.filter (isRes inmap) := by
  rw [splitRes_filter, splitRes_filter, splitRes_nres, List.take_eq_take_iff]
  unfold nresOf; omega

theorem splitRes_append_eq (inmap : Bytes) (l : List UInt8) : ∀ n, (splitRes inmap l n).1 ++ (splitRes inmap l n).2 = l := by
  induction l with
  | nil => intro n; rfl
  | cons c t ih =>
    intro n
    rcases splitRes_cons inmap c t n with ⟨_, e⟩ | ⟨_, _, _, e⟩ | ⟨_, _, _, e⟩ | ⟨_, _, _, e⟩
    · rw [e]; rfl
    · rw [e]; simp only [List.cons_append, ih]
    · rw [e]; simp only [List.cons_append, ih]
    · rw [e]; rfl

theorem splitRes_data (inmap : Bytes) (l : List UInt8) : ∀ n, ∀ c ∈ (splitRes inmap l n).1, isData inmap c = true := by
  induction l with
  | nil => intro n c hc; cases hc
  | cons x t ih =>
    intro n c hc
    rcases splitRes_cons inmap x t n with ⟨_, e⟩ | ⟨_, _, hd, e⟩ | ⟨_, _, hd, e⟩ | ⟨_, _, _, e⟩
    · rw [e] at hc; cases hc
    · rw [e] at hc
      rcases List.mem_cons.mp hc with k | k
      · rw [k]; exact hd
      · exact ih _ c k
    · rw [e] at hc
      rcases List.mem_cons.mp hc with k | k
      · rw [k]; exact hd
      · exact ih _ c k
    · rw [e] at hc; cases hc

theorem splitRes_lt (inmap : Bytes) (l : List UInt8) : ∀ n, nresOf inmap (splitRes inmap l n).1 < n →
    (splitRes inmap l n).1 = l.takeWhile (isData inmap) ∧ (splitRes inmap l n).2 = l.dropWhile (isData inmap) := by
  induction l with
  | nil => intro n _; exact ⟨rfl, rfl⟩
  | cons x t ih =>
    intro n hlt
    rcases splitRes_cons inmap x t n with ⟨h0, e⟩ | ⟨h0, hr, hd, e⟩ | ⟨_, hr, hd, e⟩ | ⟨_, _, hd, e⟩
    · omega
    · rw [e] at hlt ⊢
      simp only [nresOf_cons, hr, if_true] at hlt
      obtain ⟨i1, i2⟩ := ih (n - 1) (by omega)
      rw [List.takeWhile_cons_of_pos hd, List.dropWhile_cons_of_pos hd]
      exact ⟨by simp only [i1], i2⟩
    · rw [e] at hlt ⊢
      simp only [nresOf_cons, hr, Bool.false_eq_true, if_false] at hlt
      obtain ⟨i1, i2⟩ := ih n (by omega)
      rw [List.takeWhile_cons_of_pos hd, List.dropWhile_cons_of_pos hd]
      exact ⟨by simp only [i1], i2⟩
    · have hd' : ¬ isData inmap x = true := by simp [hd]
      rw [e, List.takeWhile_cons_of_neg hd', List.dropWhile_cons_of_neg hd']
      exact ⟨rfl, rfl⟩

/-- the cut between two buffers is invisible to `splitRes` -/
theorem splitRes_append (inmap : Bytes) (l1 l2 : List UInt8) : ∀ n,
    splitRes inmap (l1 ++ l2) n =
      (if nresOf inmap (splitRes inmap l1 n).1 < n ∧ (splitRes inmap l1 n).2 = [] then
         (l1 ++ (splitRes inmap l2 (n - nresOf inmap l1)).1, (splitRes inmap l2 (n - nresOf inmap l1)).2)
       else ((splitRes inmap l1 n).1, (splitRes inmap l1 n).2 ++ l2)) := by
  induction l1 with
  | nil =>
    intro n
    by_cases h0 : n = 0
    · subst h0; simp [splitRes_zero, nresOf]
    · have : 0 < n := by omega
      simp [splitRes, nresOf, this]
  | cons x t ih =>
    intro n
    have hle1 := splitRes_nres_le inmap t (n - 1)
    have hle2 := splitRes_nres_le inmap t n
    rcases splitRes_cons inmap x t n with ⟨h0, e⟩ | ⟨h0, hr, hd, e⟩ | ⟨h0, hr, hd, e⟩ | ⟨h0, hr, hd, e⟩
    · subst h0; simp [splitRes_zero, nresOf]
    · have e' : splitRes inmap (x :: t ++ l2) n =
          (x :: (splitRes inmap (t ++ l2) (n - 1)).1, (splitRes inmap (t ++ l2) (n - 1)).2) := by
        simp [splitRes, h0, hr]
      rw [e', e, ih (n - 1)]
      simp only [nresOf_cons, hr, if_true]
      by_cases hc : nresOf inmap (splitRes inmap t (n - 1)).1 < n - 1 ∧ (splitRes inmap t (n - 1)).2 = []
      · have hc' : 1 + nresOf inmap (splitRes inmap t (n - 1)).1 < n ∧ (splitRes inmap t (n - 1)).2 = [] := ⟨by omega, hc.2⟩
        have : n - 1 - nresOf inmap t = n - (1 + nresOf inmap t) := by omega
        simp only [hc, hc', and_self, if_true, this, List.cons_append]
      · have hc' : ¬ (1 + nresOf inmap (splitRes inmap t (n - 1)).1 < n ∧ (splitRes inmap t (n - 1)).2 = []) := by
          intro k; exact hc ⟨by omega, k.2⟩
        simp only [hc, hc', if_false]
    · have e' : splitRes inmap (x :: t ++ l2) n =
          (x :: (splitRes inmap (t ++ l2) n).1, (splitRes inmap (t ++ l2) n).2) := by
        simp [splitRes, h0, hr, hd]
      rw [e', e, ih n]
      simp only [nresOf_cons, hr, Bool.false_eq_true, if_false, Nat.zero_add]
      by_cases hc : nresOf inmap (splitRes inmap t n).1 < n ∧ (splitRes inmap t n).2 = []
      · simp only [hc, and_self, if_true, List.cons_append]
      · simp only [hc, if_false]
    · have e' : splitRes inmap (x :: t ++ l2) n = ([], x :: t ++ l2) := by
        simp [splitRes, h0, hr, hd]
      rw [e', e]
      simp

theorem splitRes_all_data (inmap : Bytes) (l : List UInt8) (n : Nat) (hd : ∀ c ∈ l, isData inmap c = true)
    (hn : nresOf inmap l < n) : splitRes inmap l n = (l, []) := by
  obtain ⟨e1, e2⟩ := splitRes_lt inmap l n (by rw [splitRes_nres, takeWhile_all l hd]; omega)
  exact Prod.ext (e1.trans (takeWhile_all l hd)) (e2.trans (dropWhile_all l hd))

/-- data bytes `d` holding fewer than `n` residues are passed over: the split goes on behind them -/
theorem splitRes_data_append (inmap : Bytes) (d rest : List UInt8) (n : Nat) (hd : ∀ c ∈ d, isData inmap c = true)
    (hn : nresOf inmap d < n) :
    splitRes inmap (d ++ rest) n = (d ++ (splitRes inmap rest (n - nresOf inmap d)).1, (splitRes inmap rest (n - nresOf inmap d)).2) := by
  rw [splitRes_append, splitRes_all_data inmap d n hd hn]
  simp only [hn, and_self, if_true]

/-- taking `p + q` residues = taking `p`, then `q` more from what follows: the append law at the cut behind the first `p` -/
theorem splitRes_add_of_le (inmap : Bytes) (l : List UInt8) (p q : Nat) (h : p ≤ nresOf inmap (splitRes inmap l (p + q)).1) :
    nresOf inmap (splitRes inmap l p).1 = p ∧
    splitRes inmap l (p + q) =
      ((splitRes inmap l p).1 ++ (splitRes inmap (splitRes inmap l p).2 q).1, (splitRes inmap (splitRes inmap l p).2 q).2) := by
  have hp : nresOf inmap (splitRes inmap l p).1 = p := by rw [splitRes_nres] at h ⊢; omega
  refine ⟨hp, ?_⟩
  by_cases hq : q = 0
  · subst hq; simp [splitRes_zero]
  · have e := splitRes_data_append inmap (splitRes inmap l p).1 (splitRes inmap l p).2 (p + q) (splitRes_data inmap l p) (by omega)
    rw [splitRes_append_eq, hp, Nat.add_sub_cancel_left] at e
    exact e

/-- taking `p + q` residues = taking `p`, then `q` more from what follows (if `p` could be had at all) -/
theorem splitRes_add (inmap : Bytes) (l : List UInt8) : ∀ p q, splitRes inmap l (p + q) =
    if nresOf inmap (splitRes inmap l p).1 = p then
      ((splitRes inmap l p).1 ++ (splitRes inmap (splitRes inmap l p).2 q).1, (splitRes inmap (splitRes inmap l p).2 q).2)
    else splitRes inmap l p := by
  intro p q
  have h1 := splitRes_nres inmap l p
  have h2 := splitRes_nres inmap l (p + q)
  split
  · exact (splitRes_add_of_le inmap l p q (by omega)).2
  · obtain ⟨a1, a2⟩ := splitRes_lt inmap l p (by omega)
    obtain ⟨b1, b2⟩ := splitRes_lt inmap l (p + q) (by omega)
    exact Prod.ext (b1.trans a1.symm) (b2.trans a2.symm)

theorem splitRes_stop (inmap : Bytes) (c : UInt8) (t : List UInt8) (n : Nat) (h0 : n ≠ 0) (hr : isRes inmap c = false)
    (hd : isData inmap c = false) : splitRes inmap (c :: t) n = ([], c :: t) := by
  simp [splitRes, h0, hr, hd]

/-- status of a limited data scan that consumed `(splitRes inmap l m).1` -/
def splitSt (inmap : Bytes) (l : List UInt8) (m : Nat) : Status :=
  if nresOf inmap (splitRes inmap l m).1 = m ∨ (splitRes inmap l m).2 = [] then .ok else stopSt inmap (splitRes inmap l m).2

/-- the data of the record ends at the end of the file or at an end-of-data byte: no illegal byte -/
def Clean (inmap : Bytes) (l : List UInt8) : Prop := ∀ c t, l.dropWhile (isData inmap) = c :: t → isEod inmap c = true

theorem Clean_of_data_append (inmap : Bytes) (d rest : List UInt8) (hd : ∀ c ∈ d, isData inmap c = true)
    (h : Clean inmap (d ++ rest)) : Clean inmap rest := fun c t hc =>
  h c t (by rw [List.dropWhile_append_of_pos hd]; exact hc)

/-- the three situations of one buffer `cb` followed by `rest`: the scan stops inside the buffer for good (limit reached, or on an
    end-of-data byte) / the buffer is exhausted below the limit / an illegal byte. The split of the whole is the split of the buffer,
    continued in `rest` only when the buffer is exhausted -/
theorem split_cases_any (inmap : Bytes) (cb rest : List UInt8) (m : Nat) :
    (splitRes inmap (cb ++ rest) m = ((splitRes inmap cb m).1, (splitRes inmap cb m).2 ++ rest) ∧
       ((nresOf inmap (splitRes inmap cb m).1 = m ∧ splitSt inmap cb m = .ok) ∨
        (nresOf inmap (splitRes inmap cb m).1 < m ∧ (∃ c t, (splitRes inmap cb m).2 = c :: t ∧ isEod inmap c = true) ∧
          splitSt inmap cb m = .eod))) ∨
    (nresOf inmap (splitRes inmap cb m).1 < m ∧ (splitRes inmap cb m).2 = [] ∧ (splitRes inmap cb m).1 = cb ∧
       splitSt inmap cb m = .ok ∧
       splitRes inmap (cb ++ rest) m =
         (cb ++ (splitRes inmap rest (m - nresOf inmap cb)).1, (splitRes inmap rest (m - nresOf inmap cb)).2)) ∨
    (nresOf inmap (splitRes inmap cb m).1 < m ∧ (∃ c t, (splitRes inmap cb m).2 = c :: t ∧ isEod inmap c = false) ∧
       splitSt inmap cb m = .eformat ∧
       splitRes inmap (cb ++ rest) m = ((splitRes inmap cb m).1, (splitRes inmap cb m).2 ++ rest)) := by
  have hle := splitRes_nres_le inmap cb m
  have happ := splitRes_append_eq inmap cb m
  rw [splitRes_append]
  by_cases hq : nresOf inmap (splitRes inmap cb m).1 = m
  · left
    have : ¬ (nresOf inmap (splitRes inmap cb m).1 < m ∧ (splitRes inmap cb m).2 = []) := by intro k; omega
    exact ⟨by simp only [this, if_false], Or.inl ⟨hq, by simp [splitSt, hq]⟩⟩
  · have hlt : nresOf inmap (splitRes inmap cb m).1 < m := by omega
    have hcase : (splitRes inmap cb m).2 = [] ∨ ∃ c t, (splitRes inmap cb m).2 = c :: t := by
      cases (splitRes inmap cb m).2 <;> simp
    rcases hcase with hs2 | ⟨c, t, hs2⟩
    · right; left
      rw [hs2, List.append_nil] at happ
      have hc : nresOf inmap (splitRes inmap cb m).1 < m ∧ (splitRes inmap cb m).2 = [] := ⟨hlt, hs2⟩
      exact ⟨hlt, hs2, happ, by simp [splitSt, hs2], by simp only [hc, and_self, if_true]⟩
    · have hc : ¬ (nresOf inmap (splitRes inmap cb m).1 < m ∧ (splitRes inmap cb m).2 = []) := by
        intro k; rw [hs2] at k; cases k.2
      by_cases he : isEod inmap c = true
      · left
        exact ⟨by simp only [hc, if_false], Or.inr ⟨hlt, ⟨c, t, hs2, he⟩, by simp [splitSt, hq, hs2, stopSt, he]⟩⟩
      · right; right
        exact ⟨hlt, ⟨c, t, hs2, by simpa using he⟩, by simp [splitSt, hq, hs2, stopSt, he], by simp only [hc, if_false]⟩

/-- on the data `D2` of a record, followed by what ends it, the split is the split of the data -/
theorem splitRes_record (inmap : Bytes) (D2 rest0 : List UInt8) (W : Nat) (hD : ∀ c ∈ D2, isData inmap c = true)
    (hr : ∀ c t, rest0 = c :: t → isEod inmap c = true) :
    splitRes inmap (D2 ++ rest0) W = ((splitRes inmap D2 W).1, (splitRes inmap D2 W).2 ++ rest0) ∧
    (nresOf inmap (splitRes inmap D2 W).1 < W → (splitRes inmap D2 W).2 = []) := by
  have hnil : nresOf inmap (splitRes inmap D2 W).1 < W → (splitRes inmap D2 W).2 = [] := fun h => by
    rw [(splitRes_lt inmap D2 W h).2, dropWhile_all D2 hD]
  refine ⟨?_, hnil⟩
  rcases split_cases_any inmap D2 rest0 W with ⟨c3, _⟩ | ⟨c1, c2, c3, _, c6⟩ | ⟨_, _, _, c4⟩
  · exact c3
  · rw [c6, c2, c3, List.nil_append]
    have h0 : W - nresOf inmap D2 ≠ 0 := by rw [c3] at c1; omega
    cases rest0 with
    | nil => simp [splitRes_nil]
    | cons c t =>
      have hd := isEod_not_isData inmap c (hr c t rfl)
      rw [splitRes_stop inmap c t _ h0 (isData_false_isRes inmap c hd) hd, List.append_nil]
  · exact c4

/-- why `read_nres` gives up with the split `s` of the file bytes before it has `m` residues: an illegal byte, or the file ends and
    may not -/
def Bad (inmap : Bytes) (eofOk : Bool) (s : List UInt8 × List UInt8) (m : Nat) : Prop :=
  nresOf inmap s.1 < m ∧ ((∃ c t, s.2 = c :: t ∧ isEod inmap c = false) ∨ (s.2 = [] ∧ eofOk = false))

theorem not_bad (inmap : Bytes) (l : List UInt8) (m : Nat) (hclean : Clean inmap l) : ¬ Bad inmap true (splitRes inmap l m) m := by
  rintro ⟨hlt, ⟨c, t, h, he⟩ | ⟨_, h⟩⟩
  · have h2 := (splitRes_lt inmap l m hlt).2
    rw [h] at h2
    have h3 := hclean c t h2.symm
    rw [he] at h3; cases h3
  · cases h

theorem drop_of_append_eq {l x y : List UInt8} (h : x ++ y = l) : l.drop x.length = y := by
  subst h; exact List.drop_left

theorem scanBytes_split (inmap : Bytes) (hm : inmap.size = 128) (M : Nat) (l : List UInt8) : ∀ (s : SS) (k : Nat), s.nres ≤ M →
    (scanBytes inmap M l s k).2.1 = k + (splitRes inmap l (M - s.nres)).1.length ∧
    (scanBytes inmap M l s k).1.nres = s.nres + nresOf inmap (splitRes inmap l (M - s.nres)).1 ∧
    (scanBytes inmap M l s k).2.2 = splitSt inmap l (M - s.nres) := by
  induction l with
  | nil => intro s k _; simp [scanBytes, splitRes, splitSt, nresOf]
  | cons c rest ih =>
    intro s k hM
    obtain ⟨c1, c2⟩ := stepByte_cls inmap hm s c
    obtain ⟨_, _, _, p4⟩ := stepByte_props inmap s c
    rcases scanBytes_cons inmap M c rest s k with ⟨h, e⟩ | ⟨h, hs, e⟩ | ⟨h, hs, e⟩
    · have hz : M - s.nres = 0 := by omega
      rw [e, hz]
      simp [splitRes_zero, splitSt, nresOf]
    · have hd : isData inmap c = true := by
        cases hh : isData inmap c with
        | true => rfl
        | false => have := c2 hh; rw [hs] at this; split at this <;> cases this
      obtain ⟨_, d2⟩ := c1 hd
      rw [e]
      rcases splitRes_cons inmap c rest (M - s.nres) with ⟨h0, _⟩ | ⟨h0, hr, _, e2⟩ | ⟨h0, hr, _, e2⟩ | ⟨_, _, hd', _⟩
      · omega
      · rw [hr] at d2
        simp only [if_true] at d2
        obtain ⟨i1, i2, i3⟩ := ih (stepByte inmap s c).1 (k + 1) (by omega)
        have hsub : M - (stepByte inmap s c).1.nres = M - s.nres - 1 := by omega
        rw [hsub] at i1 i2 i3
        refine ⟨by rw [i1, e2]; simp; omega, by rw [i2, e2, nresOf_cons, hr, d2]; simp; omega, ?_⟩
        rw [i3]
        simp only [splitSt, e2, nresOf_cons, hr, if_true]
        have hiff : (1 + nresOf inmap (splitRes inmap rest (M - s.nres - 1)).1 = M - s.nres) =
            (nresOf inmap (splitRes inmap rest (M - s.nres - 1)).1 = M - s.nres - 1) := propext ⟨by omega, by omega⟩
        simp only [hiff]
      · rw [hr] at d2
        simp only [Bool.false_eq_true, if_false, Nat.add_zero] at d2
        obtain ⟨i1, i2, i3⟩ := ih (stepByte inmap s c).1 (k + 1) (by omega)
        rw [d2] at i1 i2 i3
        refine ⟨by rw [i1, e2]; simp; omega, by rw [i2, e2, nresOf_cons, hr]; simp, ?_⟩
        rw [i3]
        simp only [splitSt, e2, nresOf_cons, hr, Bool.false_eq_true, if_false, Nat.zero_add]
      · rw [hd] at hd'; cases hd'
    · have hd : isData inmap c = false := by
        cases hh : isData inmap c with
        | false => rfl
        | true => exact absurd (c1 hh).1 hs
      rw [e]
      rcases splitRes_cons inmap c rest (M - s.nres) with ⟨h0, _⟩ | ⟨_, _, hd', _⟩ | ⟨_, _, hd', _⟩ | ⟨h0, _, _, e2⟩
      · omega
      · rw [hd] at hd'; cases hd'
      · rw [hd] at hd'; cases hd'
      · rw [e2]
        refine ⟨by simp, by simp [p4 hs, nresOf], ?_⟩
        have hne : ¬ (0 = M - s.nres) := by omega
        simp only [splitSt, e2, nresOf_nil, hne, false_or, stopSt]
        simp only [reduceCtorEq, if_false]
        exact c2 hd

/-- the fields no step of `read_nres` changes -/
def keep (a : Ascii) : Bytes × Bytes × Bool × Nat × Nat × Int × Bool × Int × Int :=
  (a.file, a.inmap, a.eofIsOk, a.fmt, a.abc, a.L, a.exc, a.bookmarkOff, a.bookmarkLine)

theorem keep_stat {a b : Ascii} (h : keep a = keep b) : stat a = stat b := by
  simp only [keep, Prod.mk.injEq] at h
  obtain ⟨h1, h2, h3, h4, h5, _⟩ := h
  simp only [stat, h1, h2, h3, h4, h5]

theorem keep_inmap {a b : Ascii} (h : keep a = keep b) : a.inmap = b.inmap := congrArg (fun p => p.2.1) h


theorem keep_eofIsOk {a b : Ascii} (h : keep a = keep b) : a.eofIsOk = b.eofIsOk := congrArg (fun p => p.2.2.1) h

theorem keep_exc {a b : Ascii} (h : keep a = keep b) : a.exc = b.exc := congrArg (fun p => p.2.2.2.2.2.2.1) h

theorem keep_L {a b : Ascii} (h : keep a = keep b) : a.L = b.L := congrArg (fun p => p.2.2.2.2.2.1) h

theorem keep_of_payload {a b : Ascii} (h : Sim.payload a = Sim.payload b) : keep a = keep b := by
  simp only [Sim.payload, Prod.mk.injEq] at h
  obtain ⟨h1, h2, _, _, h5, h6, h7, h8, _, h10, h11, h12⟩ := h
  simp only [keep, h1, h2, h5, h6, h7, h8, h10, h11, h12]

theorem blk_nc {a b : Ascii} (h : blk a = blk b) : a.nc = b.nc := congrArg (fun p => p.2.2.2.2.2.2.2.2.2) h

theorem fileFrom_of_blk {a b : Ascii} (h : blk b = blk a) (hb : b.bpos = a.bpos) : fileFrom b = fileFrom a := by
  simp only [blk, Prod.mk.injEq] at h
  obtain ⟨h1, _, _, _, _, _, _, _, h9, _⟩ := h
  simp only [fileFrom, pos, h1, h9, hb]

theorem curBuf_of_blk {a b : Ascii} (h : blk b = blk a) (hb : b.bpos = a.bpos) : curBuf b = curBuf a := by
  simp only [curBuf, fileFrom_of_blk h hb, blk_nc h, hb]

theorem seebuf_blk (a : Ascii) (maxn : Option Nat) : blk (seebuf a maxn).1 = blk a ∧ (seebuf a maxn).1.bpos = a.bpos :=
  ⟨(congrArg blk (Frame.seebuf_eq a maxn)).trans rfl, (congrArg Ascii.bpos (Frame.seebuf_eq a maxn)).trans rfl⟩

theorem seebuf_keep (a : Ascii) (maxn : Option Nat) : keep (seebuf a maxn).1 = keep a :=
  (congrArg keep (Frame.seebuf_eq a maxn)).trans rfl

theorem curBuf_length (a : Ascii) (w : WF a) : (curBuf a).length = a.nc - a.bpos := by
  obtain ⟨_, l2, _, _, _⟩ := fileFrom_length a w
  simp only [curBuf, List.length_take]; omega

theorem fileFrom_split (a : Ascii) : fileFrom a = curBuf a ++ (fileFrom a).drop (a.nc - a.bpos) :=
  (List.take_append_drop _ _).symm

theorem fileFrom_bpos (a : Ascii) (w : WF a) (k : Nat) : fileFrom { a with bpos := a.bpos + k } = (fileFrom a).drop k := by
  obtain ⟨_, _, _, _, l5⟩ := fileFrom_length a w
  unfold fileFrom
  rw [List.drop_drop]
  congr 1
  simp only [pos]
  omega

theorem curBuf_bpos (a : Ascii) (w : WF a) (k : Nat) :
    curBuf { a with bpos := a.bpos + k } = (curBuf a).drop k := by
  unfold curBuf
  rw [fileFrom_bpos a w k, List.drop_take]
  show List.take (a.nc - (a.bpos + k)) _ = _
  congr 1
  omega

/-- the measure of the two loops of `read_nres`: the bytes left, and one more when the buffer is used up (that pass loads the next
    block and consumes no byte) -/
def toGo (a : Ascii) : Nat := (fileFrom a).length + (if a.bpos < a.nc then 0 else 1)

theorem toGo_lt_fuelOf (a : Ascii) (w : WF a) : toGo a < fuelOf a := by
  have := fileFrom_total a w
  unfold toGo fuelOf; split <;> omega

/-- the next block: `loadbuf` from a handle whose buffer is used up or abandoned (the cursor inside the old buffer is irrelevant) -/
theorem loadbuf_next (a X : Ascii) (w : WF a) (hb : blk X = blk a) :
    WF (loadbuf X).1 ∧ (loadbuf X).1.bpos = 0 ∧ fileFrom (loadbuf X).1 = (fileFrom a).drop (a.nc - a.bpos) ∧
    keep (loadbuf X).1 = keep X ∧ (loadbuf X).1.trk = X.trk ∧
    (((loadbuf X).2 = .ok ∧ 0 < (loadbuf X).1.nc ∧ (fileFrom a).drop (a.nc - a.bpos) ≠ [] ∧ toGo (loadbuf X).1 < toGo a) ∨
     ((loadbuf X).2 = .eof ∧ (loadbuf X).1.nc = 0 ∧ (fileFrom a).drop (a.nc - a.bpos) = [] ∧
        pos (loadbuf X).1 = ((loadbuf X).1.file.size : Int))) := by
  have h1 : X.file = a.file := congrArg (fun p => p.1) hb
  have h3 : X.fpos = a.fpos := congrArg (fun p => p.2.2.1) hb
  obtain ⟨w3, b3, p3, _, hff, o⟩ := loadbuf_nextBlock a X w (Pre_of_blk hb w) h1 h3
  refine ⟨w3, b3, hff, keep_of_payload p3, Sim.payload_trk p3, ?_⟩
  rcases o with ⟨o1, o2, o3⟩ | ⟨o1, o2, o3, o4⟩
  · refine Or.inl ⟨o1, o2, o3, ?_⟩
    have := buf_le_fileFrom a w
    simp only [toGo, hff, List.length_drop, b3, o2, if_true]
    split <;> omega
  · exact Or.inr ⟨o1, o2, o3, by rw [o4, Sim.payload_file p3, h1]⟩

/-- the arguments `(n, epos, st)` of the second loop are what `seebuf (some m)` just returned on the current handle; the scan may
    have met an illegal byte (`st = eslEFORMAT`): then the message is set and nothing is said of the tracker -/
structure Seen (a : Ascii) (m n epos : Nat) (st : Status) : Prop where
  wf : WF a
  tok : st ≠ .eformat → Track.Ok a.trk
  err : st = .eformat → a.haveErr = true
  hm : a.inmap.size = 128
  n_eq : n = nresOf a.inmap (splitRes a.inmap (curBuf a) m).1
  epos_eq : epos = a.bpos + (splitRes a.inmap (curBuf a) m).1.length
  st_eq : st = splitSt a.inmap (curBuf a) m

theorem Seen.st_cases {a : Ascii} {m n epos : Nat} {st : Status} (h : Seen a m n epos st) : st = .ok ∨ st = .eod ∨ st = .eformat := by
  rw [h.st_eq]
  rcases split_cases_any a.inmap (curBuf a) [] m with ⟨_, ⟨_, c⟩ | ⟨_, _, c⟩⟩ | ⟨_, _, _, c, _⟩ | ⟨_, _, c, _⟩
  · exact Or.inl c
  · exact Or.inr (Or.inl c)
  · exact Or.inl c
  · exact Or.inr (Or.inr c)

/-- **`seebuf` with a residue limit, on one buffer, is `splitRes` of the rest of the buffer** — for a handle that is only `WF`
    (`bpos = nc` with more of the file to come is allowed: it occurs after a window that ended exactly at the end of a buffer) -/
theorem seen_seebuf (a : Ascii) (w : WF a) (tok : Track.Ok a.trk) (hm : a.inmap.size = 128) (m : Nat) :
    Seen (seebuf a (some m)).1 m (seebuf a (some m)).2.nres (seebuf a (some m)).2.endpos (seebuf a (some m)).2.st ∧
    fileFrom (seebuf a (some m)).1 = fileFrom a ∧ keep (seebuf a (some m)).1 = keep a ∧
    (seebuf a (some m)).1.bpos = a.bpos ∧ (seebuf a (some m)).1.nc = a.nc ∧ toGo (seebuf a (some m)).1 = toGo a := by
  have key := seebuf_fold a (some m) (NoFault.WF.rd w) tok
  simp only at key
  rw [(bufList_cur a w : bufList a a.bpos = curBuf a)] at key
  obtain ⟨k1, k2, k3, _, k5⟩ := key
  obtain ⟨z1, z2, z3⟩ := scanBytes_split a.inmap hm m (curBuf a) ⟨a.trk, a.linenumber, 0⟩ a.bpos (Nat.zero_le _)
  simp only [Nat.sub_zero, Nat.zero_add] at z1 z2 z3
  obtain ⟨t1, _, _, t4, _⟩ := NoFault.seebuf_safe a w hm (some m)
  obtain ⟨g1, g2⟩ := seebuf_blk a (some m)
  have hk := seebuf_keep a (some m)
  have hi := keep_inmap hk
  have hcb := curBuf_of_blk g1 g2
  refine ⟨⟨t4, fun hne => ?_, fun k => by rw [seebuf_haveErr, k]; simp, by rw [hi]; exact hm, by rw [hi, hcb]; exact k3.trans z2,
    by rw [hi, hcb, g2]; exact k2.trans z1, by rw [hi, hcb]; exact k1.trans z3⟩, fileFrom_of_blk g1 g2, hk, g2, blk_nc g1,
    by simp only [toGo, fileFrom_of_blk g1 g2, g2, blk_nc g1]⟩
  rw [k5 hne t1]
  exact (scanBytes_bounds a.inmap m (curBuf a) ⟨a.trk, a.linenumber, 0⟩ a.bpos).2.2.2.2.2.2 tok

/-- `addbuf` of exactly the residues up to the limit stops right behind the last one: `bpos` ends where `seebuf` stopped -/
theorem addbufLoop_exact (a : Ascii) (hr : NoFault.Rd a) (map : Bytes) (digital : Bool) (salloc : Nat) (hmap : MapOk a.inmap map) :
    ∀ (l : List UInt8) (bpos n : Nat) (seq : Bytes), bufList a bpos = l → nresOf a.inmap (splitRes a.inmap l n).1 = n →
      seq.size + n + (if digital then 2 else 1) ≤ salloc →
      addbufLoop a map digital salloc n bpos seq =
        (.ok, bpos + (splitRes a.inmap l n).1.length, seq ++ resOf a.inmap map (splitRes a.inmap l n).1) := by
  intro l
  induction l with
  | nil =>
    intro bpos n seq _ hn _
    have : n = 0 := by simpa [splitRes, nresOf] using hn.symm
    subst this
    rw [addbufLoop]
    simp [splitRes, resOf]
  | cons c t ih =>
    intro bpos n seq hl hn hal
    by_cases h0 : n = 0
    · subst h0
      rw [addbufLoop]
      simp [splitRes_zero, resOf]
    · have hlt : bpos < a.nc := by
        by_cases k : bpos < a.nc
        · exact k
        · rw [bufList_nil a bpos k] at hl; cases hl
      rw [bufList_cons a bpos hlt] at hl
      obtain ⟨x, hx⟩ := hr bpos hlt
      have hbx : byteAt a bpos = x := by simp [byteAt, hx]
      rw [hbx] at hl
      have hxc : x = c := (List.cons.inj hl).1
      have ht : bufList a (bpos + 1) = t := (List.cons.inj hl).2
      subst hxc
      have hz : (n == 0) = false := by simpa using h0
      rw [addbufLoop]
      simp only [hz, Bool.false_eq_true, if_false, hlt, dite_true, hx]
      rcases splitRes_cons a.inmap x t n with ⟨k0, _⟩ | ⟨_, hres, hd, e⟩ | ⟨_, hres, hd, e⟩ | ⟨_, _, _, e⟩
      · exact absurd k0 h0
      · obtain ⟨y, hy, hyr⟩ := hmap x hd
        have hy127 : y ≤ 127 := by rw [hres] at hyr; simpa using hyr
        have hal' : (if digital then seq.size + 1 < salloc else seq.size < salloc) := by
          cases digital <;> simp at hal ⊢ <;> omega
        rw [e] at hn ⊢
        simp only [nresOf_cons, hres, if_true] at hn
        simp only [hy, hy127, if_true, hal']
        rw [ih (bpos + 1) (n - 1) (seq.push y) ht (by omega)
          (by simp only [Array.size_push]; cases digital <;> simp at hal ⊢ <;> omega)]
        simp only [List.length_cons, Prod.mk.injEq, true_and]
        refine ⟨by omega, ?_⟩
        simp [resOf, List.filter_cons_of_pos hres, hy]
      · obtain ⟨y, hy, hyr⟩ := hmap x hd
        have hy127 : ¬ y ≤ 127 := by rw [hres] at hyr; simpa using hyr
        rw [e] at hn ⊢
        simp only [nresOf_cons, hres, Bool.false_eq_true, if_false, Nat.zero_add] at hn
        simp only [hy, hy127, if_false]
        rw [ih (bpos + 1) n seq ht hn hal]
        simp only [List.length_cons, Prod.mk.injEq, true_and]
        refine ⟨by omega, ?_⟩
        have hres' : ¬ isRes a.inmap x = true := by simp [hres]
        simp [resOf, List.filter_cons_of_neg hres']
      · rw [e] at hn
        simp only [nresOf_nil] at hn
        exact absurd hn.symm h0

theorem addbuf_exact (a : Ascii) (sq : Sq) (n : Nat) (w : WF a) (hmap : MapOk a.inmap (mapOf a sq))
    (hn : nresOf a.inmap (splitRes a.inmap (curBuf a) n).1 = n)
    (hcap : sq.seq.size + n + (if sq.digital then 2 else 1) ≤ sq.salloc) :
    addbuf a sq n = ({ a with bpos := a.bpos + (splitRes a.inmap (curBuf a) n).1.length },
      { sq with seq := sq.seq ++ resOf a.inmap (mapOf a sq) (splitRes a.inmap (curBuf a) n).1 }, .ok) := by
  rw [addbuf_eq]
  have hk := addbufLoop_exact a (NoFault.WF.rd w) (mapOf a sq) sq.digital sq.salloc hmap (curBuf a) a.bpos n sq.seq
    (bufList_cur a w) hn hcap
  simp only [mapOf] at hk ⊢
  rw [hk]

/-- `addbuf` of all the residues of a stretch of accepted bytes (`seebuf` stopped for another reason than the limit) -/
theorem addbuf_some (a : Ascii) (sq : Sq) (n k : Nat) (w : WF a) (hmap : MapOk a.inmap (mapOf a sq)) (hk : k ≤ a.nc - a.bpos)
    (hd : ∀ c ∈ (curBuf a).take k, isData a.inmap c = true) (hn : n = nresOf a.inmap ((curBuf a).take k))
    (hcap : sq.seq.size + n + (if sq.digital then 2 else 1) ≤ sq.salloc) :
    ∃ b', addbuf a sq n = ({ a with bpos := b' },
      { sq with seq := sq.seq ++ resOf a.inmap (mapOf a sq) ((curBuf a).take k) }, .ok) := by
  rw [addbuf_eq]
  have hb : bufList a a.bpos = curBuf a := bufList_cur a w
  have hbl := w.bposLe
  obtain ⟨b', e1, e2, e3⟩ := addbufLoop_spec a (NoFault.WF.rd w) (mapOf a sq) sq.digital sq.salloc hmap k a.bpos n sq.seq
    (by omega) (by rw [hb]; exact hd) (by rw [hb]; exact hn) hcap
  refine ⟨b', ?_⟩
  rw [hb] at e3
  simp only [mapOf] at e1 e2 e3 ⊢
  rw [e1, e2, e3]

theorem addbuf_zero (a : Ascii) (sq : Sq) : addbuf a sq 0 = (a, sq, .ok) := by
  rw [addbuf_eq, addbufLoop]
  simp

/-- `addbuf` of the `n` residues `seebuf` has just counted stores the residues of all it passed over, and stops behind the last of them -/
theorem addbuf_seen {a : Ascii} {m n epos : Nat} {st : Status} (hS : Seen a m n epos st) (sq : Sq)
    (hmap : MapOk a.inmap (mapOf a sq)) (hcap : sq.seq.size + n + (if sq.digital then 2 else 1) ≤ sq.salloc) :
    addbuf a sq n = ({ a with bpos := a.bpos + (splitRes a.inmap (curBuf a) n).1.length },
      { sq with seq := sq.seq ++ resOf a.inmap (mapOf a sq) (splitRes a.inmap (curBuf a) m).1 }, .ok) := by
  have hn : nresOf a.inmap (splitRes a.inmap (curBuf a) n).1 = n := by
    rw [hS.n_eq]; simp only [splitRes_nres]; omega
  rw [addbuf_exact a sq n hS.wf hmap hn hcap]
  have : resOf a.inmap (mapOf a sq) (splitRes a.inmap (curBuf a) n).1 = resOf a.inmap (mapOf a sq) (splitRes a.inmap (curBuf a) m).1 := by
    unfold resOf; rw [hS.n_eq, splitRes_again]
  rw [this]

/-- `skipbuf`'s loop is `addbuf`'s with the store thrown away (text mode, the file's own map, room for every residue) -/
theorem skipbufLoop_eq (a : Ascii) (n bpos : Nat) : ∀ (salloc : Nat) (seq : Bytes), seq.size + n < salloc →
    skipbufLoop a n bpos =
      ((addbufLoop a a.inmap false salloc n bpos seq).1, (addbufLoop a a.inmap false salloc n bpos seq).2.1) := by
  fun_induction skipbufLoop a n bpos with
  | case1 n bpos h0 => intro salloc seq _; rw [addbufLoop]; simp [h0]
  | case2 n bpos h0 hlt hx => intro salloc seq _; rw [addbufLoop]; simp [h0, hlt, hx]
  | case3 n bpos h0 hlt c hx hy => intro salloc seq _; rw [addbufLoop]; simp [h0, hlt, hx, hy]
  | case4 n bpos h0 hlt c hx x hy hres ih =>
    intro salloc seq hs
    have hn : n ≠ 0 := by simpa using h0
    rw [addbufLoop]
    simp only [h0, hlt, hx, hy, hres, Bool.false_eq_true, if_false, dite_true, if_true, show seq.size < salloc by omega]
    exact ih salloc (seq.push x) (by simp only [Array.size_push]; omega)
  | case5 n bpos h0 hlt c hx x hy hres ih =>
    intro salloc seq hs
    rw [addbufLoop]
    simp only [h0, hlt, hx, hy, hres, Bool.false_eq_true, if_false, dite_true]
    exact ih salloc seq hs
  | case6 n bpos h0 hlt => intro salloc seq _; rw [addbufLoop]; simp [h0, hlt]

/-- `skipbuf` of `n` residues that are there stops right behind the `n`-th -/
theorem skipbufLoop_exact (a : Ascii) (hr : NoFault.Rd a) (hm : a.inmap.size = 128) (l : List UInt8) (bpos n : Nat)
    (hl : bufList a bpos = l) (hn : nresOf a.inmap (splitRes a.inmap l n).1 = n) :
    skipbufLoop a n bpos = (.ok, bpos + (splitRes a.inmap l n).1.length) := by
  rw [skipbufLoop_eq a n bpos (n + 1) #[] (by simp),
    addbufLoop_exact a hr a.inmap false (n + 1) (MapOk.self a.inmap hm) l bpos n #[] hl hn (by simp)]

theorem skipbuf_exact (a : Ascii) (n : Nat) (w : WF a) (hm : a.inmap.size = 128)
    (hn : nresOf a.inmap (splitRes a.inmap (curBuf a) n).1 = n) :
    skipbuf a n = ({ a with bpos := a.bpos + (splitRes a.inmap (curBuf a) n).1.length }, .ok) := by
  unfold skipbuf
  rw [skipbufLoop_exact a (NoFault.WF.rd w) hm (curBuf a) a.bpos n (bufList_cur a w) hn]

theorem skipbuf_zero (a : Ascii) : skipbuf a 0 = (a, .ok) := by
  unfold skipbuf
  rw [skipbufLoop]
  simp

/-- `skipbuf` of `p` residues that `seebuf` has counted in the buffer: the cursor moves over the data bytes `(splitRes … p).1`, behind
    the `p`-th residue, and what `seebuf` saw from the old cursor with the limit `p + q` it would see from the new one with the limit `q` -/
theorem skipbuf_seen {a : Ascii} {p q n epos : Nat} {st : Status} (hS : Seen a (p + q) n epos st) (hp : p ≤ n) :
    ∃ A, skipbuf a p = (A, .ok) ∧ Seen A q (n - p) epos st ∧ keep A = keep a ∧
      fileFrom a = (splitRes a.inmap (curBuf a) p).1 ++ fileFrom A ∧ nresOf a.inmap (splitRes a.inmap (curBuf a) p).1 = p := by
  have w := hS.wf
  have hbl := w.bposLe
  have hcl := curBuf_length a w
  obtain ⟨hK, hAdd⟩ := splitRes_add_of_le a.inmap (curBuf a) p q (by rw [← hS.n_eq]; exact hp)
  have happ := splitRes_append_eq a.inmap (curBuf a) p
  have hlen : (splitRes a.inmap (curBuf a) p).1.length + (splitRes a.inmap (curBuf a) p).2.length = a.nc - a.bpos := by
    rw [← hcl, ← List.length_append, happ]
  have hcb : curBuf { a with bpos := a.bpos + (splitRes a.inmap (curBuf a) p).1.length } = (splitRes a.inmap (curBuf a) p).2 := by
    rw [curBuf_bpos a w]; exact drop_of_append_eq happ
  have hnAdd : nresOf a.inmap (splitRes a.inmap (curBuf a) (p + q)).1 =
      p + nresOf a.inmap (splitRes a.inmap (splitRes a.inmap (curBuf a) p).2 q).1 := by
    rw [hAdd]; simp only [nresOf_append, hK]
  refine ⟨_, skipbuf_exact a p w hS.hm hK,
    ⟨WF_of_blk (a := a) rfl w (by show a.bpos + _ ≤ a.nc; omega), hS.tok, hS.err, hS.hm, ?_, ?_, ?_⟩, rfl, ?_, hK⟩
  · rw [hcb]; dsimp only
    rw [hS.n_eq, hnAdd]; omega
  · rw [hcb]; dsimp only
    rw [hS.epos_eq, hAdd]; simp only [List.length_append]; omega
  · rw [hcb]; dsimp only
    rw [hS.st_eq]
    unfold splitSt
    rw [hnAdd, hAdd]
    have hiff : (p + nresOf a.inmap (splitRes a.inmap (splitRes a.inmap (curBuf a) p).2 q).1 = p + q) =
        (nresOf a.inmap (splitRes a.inmap (splitRes a.inmap (curBuf a) p).2 q).1 = q) := propext ⟨by omega, by omega⟩
    simp only [hiff]
  · rw [fileFrom_bpos a w, drop_of_append_eq (y := (splitRes a.inmap (curBuf a) p).2 ++ (fileFrom a).drop (a.nc - a.bpos))
      (by rw [← List.append_assoc, happ]; exact (fileFrom_split a).symm), ← List.append_assoc, happ]
    exact fileFrom_split a

/-- what `read_nres` does after its second loop -/
def finish (a : Ascii) (sq : Sq) (nres n actual epos : Nat) (st : Status) : Ascii × Sq × Status × Nat :=
  if st == .fault then (a, sq, .fault, 0) else
  if st == .eof && !a.eofIsOk then (a.fail, sq, .eformat, 0) else
  if st == .eformat then (a, sq, .eformat, 0) else
  if (addbuf a sq (min nres (if st == .eof then 0 else n))).2.2 == .fault then
    ((addbuf a sq (min nres (if st == .eof then 0 else n))).1, (addbuf a sq (min nres (if st == .eof then 0 else n))).2.1, .fault, 0) else
  if !(addbuf a sq (min nres (if st == .eof then 0 else n))).2.1.termOk then
    ((addbuf a sq (min nres (if st == .eof then 0 else n))).1, (addbuf a sq (min nres (if st == .eof then 0 else n))).2.1, .fault, 0) else
  ((if st == .eod then { (addbuf a sq (min nres (if st == .eof then 0 else n))).1 with bpos := epos }
    else (addbuf a sq (min nres (if st == .eof then 0 else n))).1),
   (addbuf a sq (min nres (if st == .eof then 0 else n))).2.1,
   (if actual + min nres (if st == .eof then 0 else n) == 0 then .eod else .ok),
   actual + min nres (if st == .eof then 0 else n))

def finishT (x : Ascii × Sq × Nat × Nat × Nat × Nat × Status) : Ascii × Sq × Status × Nat :=
  finish x.1 x.2.1 x.2.2.1 x.2.2.2.1 x.2.2.2.2.1 x.2.2.2.2.2.1 x.2.2.2.2.2.2

theorem finishT_eq (a : Ascii) (sq : Sq) (nres n actual epos : Nat) (st : Status) :
    finishT (a, sq, nres, n, actual, epos, st) = finish a sq nres n actual epos st := rfl

theorem termOk_of_cap (sq : Sq) (h : sq.seq.size + (if sq.digital then 2 else 1) ≤ sq.salloc) : sq.termOk = true := by
  unfold Sq.termOk Sq.n
  cases hd : sq.digital <;> simp [hd] at h ⊢ <;> omega

theorem eod_ite (k : Nat) : (if (k == 0) = true then Status.eod else Status.ok) = (if k = 0 then Status.eod else Status.ok) := by
  by_cases h : k = 0 <;> simp [h]

theorem finish_eof (a : Ascii) (sq : Sq) (nres n actual epos : Nat) (he : a.eofIsOk = true) (ht : sq.termOk = true) :
    finish a sq nres n actual epos .eof = (a, sq, (if actual == 0 then .eod else .ok), actual) := by
  unfold finish
  simp only [Status.beq_eq_decide, reduceCtorEq, decide_false, decide_true, he, Bool.not_true, Bool.and_false, Bool.false_eq_true,
    if_false, if_true, Nat.min_zero, addbuf_zero, ht, Nat.add_zero]

theorem finish_eformat (a : Ascii) (sq : Sq) (nres n actual epos : Nat) :
    finish a sq nres n actual epos .eformat = (a, sq, .eformat, 0) := by
  unfold finish
  simp only [Status.beq_eq_decide, reduceCtorEq, decide_false, decide_true, Bool.false_and, Bool.false_eq_true, if_false, if_true]

theorem finish_eof_bad (a : Ascii) (sq : Sq) (nres n actual epos : Nat) (he : a.eofIsOk = false) :
    finish a sq nres n actual epos .eof = (a.fail, sq, .eformat, 0) := by
  unfold finish
  simp only [Status.beq_eq_decide, reduceCtorEq, decide_false, decide_true, he, Bool.false_eq_true, if_false, Bool.not_false,
    Bool.and_self, if_true]

/-- what follows the second loop when it stopped inside a buffer for good: the residues `seebuf` counted there are stored, and the
    cursor stands where `seebuf` stopped (behind the last residue wanted, or on the end-of-data byte) -/
theorem finish_seen {a : Ascii} {m n epos : Nat} {st : Status} (hS : Seen a m n epos st) (hst : (st = .ok ∧ n = m) ∨ st = .eod)
    (sq : Sq) (actual : Nat) (hmap : MapOk a.inmap (mapOf a sq)) (hcap : sq.seq.size + m + (if sq.digital then 2 else 1) ≤ sq.salloc) :
    finish a sq m n actual epos st =
      ({ a with bpos := epos }, { sq with seq := sq.seq ++ resOf a.inmap (mapOf a sq) (splitRes a.inmap (curBuf a) m).1 },
       (if actual + n = 0 then .eod else .ok), actual + n) := by
  have hnm : n ≤ m := hS.n_eq ▸ splitRes_nres_le a.inmap (curBuf a) m
  have hmin : min m n = n := Nat.min_eq_right hnm
  have hadd := addbuf_seen hS sq hmap (by omega)
  have ht : ({ sq with seq := sq.seq ++ resOf a.inmap (mapOf a sq) (splitRes a.inmap (curBuf a) m).1 } : Sq).termOk = true :=
    termOk_of_cap _ (by simp only [Array.size_append, resOf_size]; have := hS.n_eq; unfold nresOf at this; omega)
  unfold finish
  rcases hst with ⟨rfl, rfl⟩ | rfl
  · simp only [Status.beq_eq_decide, reduceCtorEq, decide_false, Bool.false_and, Bool.false_eq_true, if_false, hmin, hadd, ht,
      Bool.not_true, eod_ite, hS.epos_eq]
  · simp only [Status.beq_eq_decide, reduceCtorEq, decide_false, decide_true, Bool.false_and, Bool.false_eq_true, if_false, hmin, hadd,
      ht, Bool.not_true, if_true, eod_ite]

/-- the status dispatch of `read_nres` after its first loop -/
def rnDispatch (a : Ascii) (nskip : Nat) (see : See) (st : Status) : Option (Ascii × Status) × Nat :=
  if st == .eof then
    if !a.eofIsOk then (some (a.fail, .eformat), 0)
    else if nskip > 0 then (some (a.raise, .ecorrupt), 0)
    else (none, 0)
  else if st == .eod then
    if see.nres < nskip then (some (a.raise, .ecorrupt), 0) else (none, see.nres)
  else if st != .ok then (some (a, st), 0)
  else (none, see.nres)

/-- `read_nres` after the dispatch said "go on" with `n` residues seen -/
def rnGo (a : Ascii) (sq : Sq) (nskip nres : Nat) (see : See) (st : Status) (n : Nat) : Ascii × Sq × Status × Nat :=
  if (skipbuf a nskip).2 == .fault then ((skipbuf a nskip).1, sq, .fault, 0) else
  finishT (nresAddLoop (fuelOf (skipbuf a nskip).1) (skipbuf a nskip).1 sq nres (n - nskip) 0 see.endpos st)

def rnTail (k : Ascii × Nat × See × Status) (sq : Sq) (nres : Nat) : Ascii × Sq × Status × Nat :=
  if k.2.2.2 == .fault then (k.1, sq, .fault, 0) else
  match rnDispatch k.1 k.2.1 k.2.2.1 k.2.2.2 with
  | (some (a, s), _) => (a, sq, s, 0)
  | (none, n) => rnGo k.1 sq k.2.1 nres k.2.2.1 k.2.2.2 n

/-- `read_nres` in stages: the first `seebuf`, the first loop, then `rnTail` of what the loop returned -/
theorem readNres_staged (a : Ascii) (sq : Sq) (nskip nres : Nat) : readNres a sq nskip nres =
    rnTail (nresSkipLoop (fuelOf (seebuf a (some (nskip + nres))).1) (seebuf a (some (nskip + nres))).1 nskip nres
      (seebuf a (some (nskip + nres))).2) sq nres := by
  unfold readNres rnTail rnDispatch
  generalize seebuf a (some (nskip + nres)) = sb
  obtain ⟨a1, see⟩ := sb
  simp only []
  generalize nresSkipLoop (fuelOf a1) a1 nskip nres see = k
  obtain ⟨a2, ns, see2, st⟩ := k
  simp only []
  -- both sides match on the same dispatch term: name it, then compare the two arms
  generalize (ite (st == Status.eof) _ _ : Option (Ascii × Status) × Nat) = d
  obtain ⟨_ | ⟨a', s⟩, n⟩ := d
  · simp only []
    unfold rnGo
    generalize skipbuf a2 ns = sk
    obtain ⟨a3, stS⟩ := sk
    simp only []
    generalize nresAddLoop _ _ _ _ _ _ _ _ = r
    obtain ⟨x1, x2, x3, x4, x5, x6, x7⟩ := r
    rfl
  · rfl

/-- the first loop stopped on a buffer that holds the residues still to skip: `read_nres` goes on to its second loop -/
theorem rnTail_go (a' : Ascii) (nskip' : Nat) (see' : See) (sq : Sq) (nres : Nat) (a'' : Ascii)
    (hst : see'.st = .ok ∨ see'.st = .eod) (hle : nskip' ≤ see'.nres) (h2 : skipbuf a' nskip' = (a'', .ok)) :
    rnTail (a', nskip', see', see'.st) sq nres =
      finishT (nresAddLoop (fuelOf a'') a'' sq nres (see'.nres - nskip') 0 see'.endpos see'.st) := by
  have hlt : ¬ see'.nres < nskip' := by omega
  rcases hst with h | h <;> simp [rnTail, rnDispatch, rnGo, h, h2, hlt]

theorem nresSkipLoop_zero (a0 a : Ascii) (nres : Nat) (see : See) :
    nresSkipLoop (fuelOf a0) a 0 nres see = (a, 0, see, see.st) := by
  simp [nresSkipLoop, fuelOf]

theorem nresSkipLoop_succ (fuel : Nat) (a : Ascii) (nskip nres : Nat) (see : See) :
    nresSkipLoop (fuel + 1) a nskip nres see =
      if (see.st == .ok && nskip > see.nres) = true then
        (if ((loadbuf a).2 == .eof) = true then ((loadbuf a).1, nskip - see.nres, see, Status.eof)
         else nresSkipLoop fuel (seebuf (loadbuf a).1 (some (nskip - see.nres + nres))).1 (nskip - see.nres) nres
           (seebuf (loadbuf a).1 (some (nskip - see.nres + nres))).2)
      else (a, nskip, see, see.st) := by
  rw [nresSkipLoop]

theorem nresAddLoop_succ (fuel : Nat) (a : Ascii) (sq : Sq) (nres n actual epos : Nat) (st : Status) :
    nresAddLoop (fuel + 1) a sq nres n actual epos st =
      if (st == .ok && nres > n) = true then
        (if ((addbuf a sq n).2.2 == .fault) = true then ((addbuf a sq n).1, (addbuf a sq n).2.1, nres, n, actual, epos, Status.fault)
         else if ((loadbuf (addbuf a sq n).1).2 == .eof) = true then
           ((loadbuf (addbuf a sq n).1).1, (addbuf a sq n).2.1, nres - n, n, actual + n, epos, Status.eof)
         else nresAddLoop fuel (seebuf (loadbuf (addbuf a sq n).1).1 (some (nres - n))).1 (addbuf a sq n).2.1 (nres - n)
           (seebuf (loadbuf (addbuf a sq n).1).1 (some (nres - n))).2.nres (actual + n)
           (seebuf (loadbuf (addbuf a sq n).1).1 (some (nres - n))).2.endpos
           (seebuf (loadbuf (addbuf a sq n).1).1 (some (nres - n))).2.st)
      else (a, sq, nres, n, actual, epos, st) := by
  rw [nresAddLoop]

/-- with nothing to skip, `read_nres` is its second loop and what follows it, started on what the first `seebuf` returned -/
theorem readNres_zero_eq (a : Ascii) (sq : Sq) (W : Nat)
    (hst : (seebuf a (some W)).2.st = .ok ∨ (seebuf a (some W)).2.st = .eod ∨ (seebuf a (some W)).2.st = .eformat) :
    readNres a sq 0 W =
      finishT (nresAddLoop (fuelOf (seebuf a (some W)).1) (seebuf a (some W)).1 sq W (seebuf a (some W)).2.nres 0
        (seebuf a (some W)).2.endpos (seebuf a (some W)).2.st) := by
  rw [readNres_staged, Nat.zero_add, nresSkipLoop_zero]
  rcases hst with h | h | h
  · exact rnTail_go _ 0 _ sq W _ (Or.inl h) (Nat.zero_le _) (skipbuf_zero _)
  · exact rnTail_go _ 0 _ sq W _ (Or.inr h) (Nat.zero_le _) (skipbuf_zero _)
  · -- an illegal byte in the first buffer: `read_nres` returns at once, and so does the loop
    show _ = finishT (nresAddLoop ((seebuf a (some W)).1.file.size + 1 + 1) _ _ _ _ _ _ _)
    rw [nresAddLoop_succ, h]
    simp [rnTail, rnDispatch, finishT_eq, finish_eformat]

theorem readNres_eq (a : Ascii) (sq : Sq) (nskip nres : Nat) (a' : Ascii) (nskip' : Nat) (see' : See) (a'' : Ascii)
    (h1 : nresSkipLoop (fuelOf (seebuf a (some (nskip + nres))).1) (seebuf a (some (nskip + nres))).1 nskip nres
      (seebuf a (some (nskip + nres))).2 = (a', nskip', see', see'.st))
    (hst : see'.st = .ok ∨ see'.st = .eod) (hle : nskip' ≤ see'.nres) (h2 : skipbuf a' nskip' = (a'', .ok)) :
    readNres a sq nskip nres = finishT (nresAddLoop (fuelOf a'') a'' sq nres (see'.nres - nskip') 0 see'.endpos see'.st) := by
  rw [readNres_staged, h1, rnTail_go a' nskip' see' sq nres a'' hst hle h2]

/-- what `read_nres(…, 0, m, …)` has done when it returns `r`: it took `s.1` of the file bytes it started on and left `s.2` (with
    `sq0`, and `actual0` residues counted before); the theorems state it for `s := splitRes inmap l m`. A statement about bytes and
    maps, so that it can be passed from one buffer to the next -/
structure Done (inmap map : Bytes) (s : List UInt8 × List UInt8) (sq0 : Sq) (m actual0 : Nat) (r : Ascii × Sq × Status × Nat) :
    Prop where
  sq_eq : r.2.1 = { sq0 with seq := sq0.seq ++ resOf inmap map s.1 }
  act : r.2.2.2 = actual0 + nresOf inmap s.1
  st : r.2.2.1 = (if actual0 + nresOf inmap s.1 = 0 then .eod else .ok)
  tok : Track.Ok r.1.trk
  ff : fileFrom r.1 = s.2
  cur : nresOf inmap s.1 < m → Sim.Live r.1 ∨ (Sim.AtEof r.1 ∧ pos r.1 = (r.1.file.size : Int))

/-- what `read_nres(…, 0, m, …)` has done when it returns, whatever the bytes: the closed form `Done`, or `eslEFORMAT` with a message,
    and then the bytes are `Bad`; what stays appended in that case (the residues of the whole buffers before the bad one) depends on
    the block size, so only its length is bounded -/
structure Out (inmap map : Bytes) (eofOk : Bool) (s : List UInt8 × List UInt8) (sq0 : Sq) (m actual0 : Nat)
    (r : Ascii × Sq × Status × Nat) : Prop where
  wf : WF r.1
  alt : Done inmap map s sq0 m actual0 r ∨
    (Bad inmap eofOk s m ∧ r.2.2.1 = .eformat ∧ r.1.haveErr = true ∧ r.2.2.2 = 0 ∧
      ∃ d : Bytes, r.2.1 = { sq0 with seq := sq0.seq ++ d } ∧ d.size ≤ m)

theorem Out.done {inmap map : Bytes} {eofOk : Bool} {l : List UInt8} {sq0 : Sq} {m act : Nat} {r : Ascii × Sq × Status × Nat}
    (o : Out inmap map eofOk (splitRes inmap l m) sq0 m act r) (heof : eofOk = true) (hclean : Clean inmap l) :
    Done inmap map (splitRes inmap l m) sq0 m act r :=
  o.alt.resolve_right fun h => not_bad _ _ _ hclean (heof ▸ h.1)

/-- a whole buffer `cb` of data bytes with fewer than `m` residues was consumed first -/
theorem Out.lift {inmap map : Bytes} {eofOk : Bool} {sq : Sq} {m n actual : Nat} {r : Ascii × Sq × Status × Nat}
    (cb : List UInt8) {s : List UInt8 × List UInt8} (hn : n = nresOf inmap cb) (hnm : n < m)
    (d : Out inmap map eofOk s { sq with seq := sq.seq ++ resOf inmap map cb } (m - n) (actual + n) r) :
    Out inmap map eofOk (cb ++ s.1, s.2) sq m actual r := by
  subst hn
  refine ⟨d.wf, ?_⟩
  rcases d.alt with ⟨d1, d2, d3, d5, d6, d8⟩ | ⟨hb, h1, h2, h3, dd, h4, h5⟩
  · refine Or.inl ⟨?_, ?_, ?_, d5, d6, fun h => d8 ?_⟩
    · rw [d1]; simp only [resOf_append, Array.append_assoc]
    · rw [d2]; simp only [nresOf_append]; omega
    · rw [d3]; simp only [nresOf_append, Nat.add_assoc]
    · simp only [nresOf_append] at h; omega
  · refine Or.inr ⟨⟨?_, hb.2⟩, h1, h2, h3, resOf inmap map cb ++ dd, ?_, ?_⟩
    · simp only [nresOf_append]; have := hb.1; omega
    · rw [h4]; simp only [Array.append_assoc]
    · simp only [Array.size_append, resOf_size]; have : (cb.filter (isRes inmap)).length = nresOf inmap cb := rfl; omega

/-- **the second loop of `read_nres` and what follows it, on any bytes** -/
theorem addLoop_out (fuel : Nat) : ∀ (a : Ascii) (sq : Sq) (m n actual epos : Nat) (st : Status),
    Seen a m n epos st → MapOk a.inmap (mapOf a sq) →
    sq.seq.size + m + (if sq.digital then 2 else 1) ≤ sq.salloc → toGo a < fuel →
    Out a.inmap (mapOf a sq) a.eofIsOk (splitRes a.inmap (fileFrom a) m) sq m actual
      (finishT (nresAddLoop fuel a sq m n actual epos st)) ∧
    keep (finishT (nresAddLoop fuel a sq m n actual epos st)).1 = keep a := by
  induction fuel with
  | zero => intro a sq m n actual epos st _ _ _ hf; omega
  | succ fuel ih =>
    intro a sq m n actual epos st hS hmap hcap hfuel
    have w := hS.wf
    have hn := hS.n_eq
    have hsplit := fileFrom_split a
    have hcl := curBuf_length a w
    have hbl := w.bposLe
    have happ := splitRes_append_eq a.inmap (curBuf a) m
    have hlen : (splitRes a.inmap (curBuf a) m).1.length + (splitRes a.inmap (curBuf a) m).2.length = a.nc - a.bpos := by
      rw [← hcl, ← List.length_append, happ]
    rw [nresAddLoop_succ]
    rcases split_cases_any a.inmap (curBuf a) ((fileFrom a).drop (a.nc - a.bpos)) m with
      ⟨c3, hstop⟩ | ⟨c1, c2, c3, c4, c6⟩ | ⟨c1, ⟨c, t, c2, he⟩, c3, c4⟩
    · -- the loop stops inside this buffer: the limit is reached, or an end-of-data byte
      rw [← hsplit] at c3
      have hst : (st = .ok ∧ n = m) ∨ st = .eod := hstop.elim (fun h => Or.inl ⟨hS.st_eq.trans h.2, hn.trans h.1⟩)
        fun h => Or.inr (hS.st_eq.trans h.2.2)
      have hcond : ((st == Status.ok) && decide (m > n)) = false := by
        rcases hst with ⟨_, rfl⟩ | rfl <;> simp
      simp only [hcond, Bool.false_eq_true, if_false]
      rw [finishT_eq, finish_seen hS hst sq actual hmap hcap, c3]
      have hepos := hS.epos_eq
      have hwf : WF { a with bpos := epos } := WF_of_blk (a := a) rfl w (by show epos ≤ a.nc; omega)
      refine ⟨⟨hwf, Or.inl ⟨rfl, by simp only [hn], by simp only [hn],
        hS.tok (by rcases hst with ⟨rfl, _⟩ | rfl <;> decide), ?_, fun h => Or.inl ?_⟩⟩, rfl⟩
      · show fileFrom { a with bpos := epos } = _
        rw [hepos, fileFrom_bpos a w]
        exact drop_of_append_eq (by rw [← List.append_assoc, happ]; exact hsplit.symm)
      · -- fewer than `m` residues: the scan stopped on an end-of-data byte, which is in the buffer
        show epos < a.nc
        simp only [] at h
        rcases hstop with ⟨h1, _⟩ | ⟨_, ⟨c, t, h2, _⟩, _⟩
        · omega
        · rw [h2] at hlen; simp only [List.length_cons] at hlen; omega
    · -- the buffer is used up below the limit: next block
      have hst : st = .ok := hS.st_eq.trans c4
      have hnc : n = nresOf a.inmap (curBuf a) := by rw [hn, c3]
      rw [c3] at c1
      subst hst
      have htokA : Track.Ok a.trk := hS.tok (by decide)
      have hcond : ((Status.ok == Status.ok) && decide (m > n)) = true := by simp; omega
      simp only [hcond, if_true]
      rw [addbuf_seen hS sq hmap (by omega), c3]
      generalize a.bpos + (splitRes a.inmap (curBuf a) n).1.length = b'
      simp only [Status.beq_eq_decide, reduceCtorEq, decide_false, Bool.false_eq_true, if_false]
      obtain ⟨l1, l2, l3, l4, l5, l6⟩ := loadbuf_next a { a with bpos := b' } w rfl
      have hdsz : (resOf a.inmap (mapOf a sq) (curBuf a)).size = n := by rw [resOf_size, hnc]; rfl
      rcases l6 with ⟨o1, _, _, o2⟩ | ⟨o1, o2, o3, o4⟩
      · -- more data
        simp only [o1, reduceCtorEq, decide_false, Bool.false_eq_true, if_false]
        have htok2 : Track.Ok (loadbuf { a with bpos := b' }).1.trk := by rw [l5]; exact htokA
        obtain ⟨q1, q2, q3, _, _, q4⟩ := seen_seebuf (loadbuf { a with bpos := b' }).1 l1 htok2
          (by rw [keep_inmap l4]; exact hS.hm) (m - n)
        have hk3 : keep _ = keep a := q3.trans l4
        have hi3 := keep_inmap hk3
        have hmap3 : mapOf (seebuf (loadbuf { a with bpos := b' }).1 (some (m - n))).1
            { sq with seq := sq.seq ++ resOf a.inmap (mapOf a sq) (curBuf a) } = mapOf a sq := by
          simp only [mapOf, hi3]
        obtain ⟨key, kkp⟩ := ih _ { sq with seq := sq.seq ++ resOf a.inmap (mapOf a sq) (curBuf a) } (m - n) _ (actual + n) _ _ q1
          (by rw [hmap3, hi3]; exact hmap) (by simp only [Array.size_append, hdsz]; omega) (by rw [q4]; omega)
        rw [hmap3, hi3, keep_eofIsOk hk3, q2.trans l3] at key
        rw [← hnc] at c6
        rw [hsplit, c6]
        exact ⟨Out.lift (curBuf a) hnc (by omega) key, kkp.trans hk3⟩
      · -- end of file
        simp only [o1, decide_true, if_true]
        rw [← hsplit, o3] at c6
        simp only [splitRes_nil, List.append_nil] at c6
        rw [finishT_eq, c6]
        cases heo : (loadbuf { a with bpos := b' }).1.eofIsOk with
        | true =>
          rw [finish_eof _ _ _ _ _ _ heo (termOk_of_cap _ (by simp only [Array.size_append, hdsz]; omega)), eod_ite]
          exact ⟨⟨l1, Or.inl ⟨rfl, by simp only [hnc], by simp only [hnc], by rw [l5]; exact htokA,
            by rw [l3, o3], fun _ => Or.inr ⟨⟨o2, l2⟩, o4⟩⟩⟩, l4⟩
        | false =>
          rw [finish_eof_bad _ _ _ _ _ _ heo]
          have heoA : a.eofIsOk = false := (keep_eofIsOk l4).symm.trans heo
          exact ⟨⟨WF_of_blk (a := (loadbuf { a with bpos := b' }).1) rfl l1 l1.bposLe,
            Or.inr ⟨⟨c1, Or.inr ⟨rfl, heoA⟩⟩, rfl, rfl, rfl, _, rfl, by rw [hdsz]; omega⟩⟩, l4⟩
    · -- an illegal byte inside this buffer
      rw [← hsplit] at c4
      have hst : st = .eformat := hS.st_eq.trans c3
      subst hst
      have hcond : ((Status.eformat == Status.ok) && decide (m > n)) = false := by simp
      simp only [hcond, Bool.false_eq_true, if_false]
      rw [finishT_eq, finish_eformat, c4]
      exact ⟨⟨w, Or.inr ⟨⟨c1, Or.inl ⟨c, t ++ (fileFrom a).drop (a.nc - a.bpos), by show (splitRes a.inmap (curBuf a) m).2 ++ _ = _; rw [c2]; rfl,
        he⟩⟩, rfl, hS.err rfl, rfl, #[], by simp, Nat.zero_le _⟩⟩, rfl⟩

/-- `read_nres(sqfp, sq, 0, W, &actual)` on any bytes, from any well-formed handle -/
theorem readNres_zero_out (a : Ascii) (sq : Sq) (W : Nat) (w : WF a) (tok : Track.Ok a.trk) (hm : a.inmap.size = 128)
    (hmap : MapOk a.inmap (mapOf a sq)) (hcap : sq.seq.size + W + (if sq.digital then 2 else 1) ≤ sq.salloc) :
    Out a.inmap (mapOf a sq) a.eofIsOk (splitRes a.inmap (fileFrom a) W) sq W 0 (readNres a sq 0 W) ∧
    keep (readNres a sq 0 W).1 = keep a := by
  obtain ⟨q1, q2, q3, _⟩ := seen_seebuf a w tok hm W
  have hi := keep_inmap q3
  have hmap1 : mapOf (seebuf a (some W)).1 sq = mapOf a sq := by simp only [mapOf, hi]
  obtain ⟨key, kkp⟩ := addLoop_out (fuelOf (seebuf a (some W)).1) (seebuf a (some W)).1 sq W _ 0 _ _ q1
    (by rw [hmap1, hi]; exact hmap) hcap (toGo_lt_fuelOf _ q1.wf)
  rw [hmap1, hi, keep_eofIsOk q3, q2] at key
  rw [readNres_zero_eq a sq W q1.st_cases]
  exact ⟨key, kkp.trans q3⟩

/-- **the first loop of `read_nres`**: it passes over whole buffers `P` of data bytes while they hold fewer residues than are still to
    be skipped, and stops on the buffer that holds the last of them -/
theorem skipLoop_spec (nres : Nat) (fuel : Nat) : ∀ (a : Ascii) (nskip : Nat) (see : See),
    Seen a (nskip + nres) see.nres see.endpos see.st → Clean a.inmap (fileFrom a) →
    nskip < nresOf a.inmap (splitRes a.inmap (fileFrom a) (nskip + nres)).1 → toGo a < fuel →
    ∃ a' nskip' see' P, nresSkipLoop fuel a nskip nres see = (a', nskip', see', see'.st) ∧
      Seen a' (nskip' + nres) see'.nres see'.endpos see'.st ∧ nskip' ≤ see'.nres ∧ (see'.st = .ok ∨ see'.st = .eod) ∧
      keep a' = keep a ∧ fileFrom a = P ++ fileFrom a' ∧ (∀ c ∈ P, isData a.inmap c = true) ∧
      nresOf a.inmap P + nskip' = nskip ∧ Clean a'.inmap (fileFrom a') ∧
      (splitRes a.inmap (fileFrom a) nskip).2 = (splitRes a.inmap (fileFrom a') nskip').2 := by
  induction fuel with
  | zero => intro a nskip see _ _ _ hf; omega
  | succ fuel ih =>
    intro a nskip see hS hclean hskip hfuel
    have w := hS.wf
    have hsplit := fileFrom_split a
    rw [nresSkipLoop_succ]
    -- the loop stops here when the buffer holds the residues still to skip
    have stop : (see.st = .ok ∨ see.st = .eod) → nskip ≤ see.nres →
        ∃ a' nskip' see' P, (if (see.st == .ok && decide (nskip > see.nres)) = true then
            (if ((loadbuf a).2 == .eof) = true then ((loadbuf a).1, nskip - see.nres, see, Status.eof)
             else nresSkipLoop fuel (seebuf (loadbuf a).1 (some (nskip - see.nres + nres))).1 (nskip - see.nres) nres
               (seebuf (loadbuf a).1 (some (nskip - see.nres + nres))).2)
          else (a, nskip, see, see.st)) = (a', nskip', see', see'.st) ∧
          Seen a' (nskip' + nres) see'.nres see'.endpos see'.st ∧ nskip' ≤ see'.nres ∧ (see'.st = .ok ∨ see'.st = .eod) ∧
          keep a' = keep a ∧ fileFrom a = P ++ fileFrom a' ∧ (∀ c ∈ P, isData a.inmap c = true) ∧
          nresOf a.inmap P + nskip' = nskip ∧ Clean a'.inmap (fileFrom a') ∧
          (splitRes a.inmap (fileFrom a) nskip).2 = (splitRes a.inmap (fileFrom a') nskip').2 := fun hst hle => by
      have hng : ¬ nskip > see.nres := by omega
      simp only [hng, decide_false, Bool.and_false, Bool.false_eq_true, if_false]
      exact ⟨a, nskip, see, [], rfl, hS, hle, hst, rfl, rfl, nofun, by simp [nresOf], hclean, rfl⟩
    have hcases := split_cases_any a.inmap (curBuf a) ((fileFrom a).drop (a.nc - a.bpos)) (nskip + nres)
    rw [← hsplit] at hcases
    rcases hcases with ⟨c3, hstop⟩ | ⟨c1, c2, c3, c4, c6⟩ | ⟨c1, ⟨c, t, c2, he⟩, _, c4⟩
    · refine stop (hstop.elim (fun h => Or.inl (hS.st_eq.trans h.2)) fun h => Or.inr (hS.st_eq.trans h.2.2)) ?_
      rw [c3] at hskip
      have hskip' : nskip < nresOf a.inmap (splitRes a.inmap (curBuf a) (nskip + nres)).1 := hskip
      have := hS.n_eq; omega
    · have hst : see.st = .ok := hS.st_eq.trans c4
      have hn : see.nres = nresOf a.inmap (curBuf a) := by rw [hS.n_eq, c3]
      by_cases hgt : nskip > see.nres
      · simp only [hst, hgt, Status.beq_eq_decide, decide_true, Bool.and_self, if_true]
        rw [c6] at hskip
        simp only [nresOf_append] at hskip
        have hdata : ∀ x ∈ curBuf a, isData a.inmap x = true := by
          intro x hx
          have := splitRes_data a.inmap (curBuf a) (nskip + nres) x
          rw [c3] at this; exact this hx
        have hM : nskip + nres - nresOf a.inmap (curBuf a) = nskip - see.nres + nres := by omega
        rw [hM] at hskip
        obtain ⟨l1, l2, l3, l4, l5, l6⟩ := loadbuf_next a a w rfl
        rcases l6 with ⟨o1, _, _, o2⟩ | ⟨o1, o2, o3, o4⟩
        · simp only [o1, reduceCtorEq, decide_false, Bool.false_eq_true, if_false]
          have hi2 : (loadbuf a).1.inmap = a.inmap := keep_inmap l4
          have htok2 : Track.Ok (loadbuf a).1.trk := by rw [l5]; exact hS.tok (by rw [hst]; decide)
          obtain ⟨q1, q2, q3, _, _, q4⟩ := seen_seebuf (loadbuf a).1 l1 htok2 (by rw [hi2]; exact hS.hm) (nskip - see.nres + nres)
          have hk3 := q3.trans l4
          have hi3 := keep_inmap hk3
          have hff3 := q2.trans l3
          obtain ⟨a', nskip', see', P, r1, r2, r3, r4, r5, r6, r7, r8, r9, r10⟩ := ih _ (nskip - see.nres) _ q1
            (by rw [hi3, hff3]; exact Clean_of_data_append a.inmap _ _ hdata (by rw [← hsplit]; exact hclean))
            (by rw [hi3, hff3]; omega) (by rw [q4]; omega)
          rw [hi3] at r7 r8 r10
          refine ⟨a', nskip', see', curBuf a ++ P, r1, r2, r3, r4, r5.trans hk3, ?_, ?_, ?_, r9, ?_⟩
          · rw [List.append_assoc, ← r6, hff3]; exact hsplit
          · intro c hc'
            rcases List.mem_append.mp hc' with k | k
            · exact hdata c k
            · exact r7 c k
          · rw [nresOf_append]; omega
          · rw [← r10, hff3]
            conv => lhs; rw [hsplit]
            rw [splitRes_data_append a.inmap _ _ nskip hdata (by omega), ← hn]
        · -- the file ends before the residues to skip were seen: excluded by `hskip`
          exfalso
          rw [o3] at hskip
          simp only [splitRes_nil, nresOf_nil] at hskip
          omega
      · exact stop (Or.inl hst) (by omega)
    · -- an illegal byte: the data are clean
      exact absurd (c4 ▸ ⟨c1, Or.inl ⟨c, _, by show (splitRes a.inmap (curBuf a) (nskip + nres)).2 ++ _ = _; rw [c2]; rfl, he⟩⟩)
        (not_bad a.inmap (fileFrom a) (nskip + nres) hclean)

/-- **`read_nres(sqfp, sq, nskip, nres, &actual)` in closed form, for every block size**, on the one split
    `s := splitRes inmap (fileFrom a) (nskip + nres)`: it consumes `s.1` and stores its residues from the `nskip`-th on -/
theorem readNres_spec (a : Ascii) (sq : Sq) (nskip nres : Nat) (w : WF a) (tok : Track.Ok a.trk) (hm : a.inmap.size = 128)
    (heof : a.eofIsOk = true) (hmap : MapOk a.inmap (mapOf a sq)) (hclean : Clean a.inmap (fileFrom a))
    (hcap : sq.seq.size + nres + (if sq.digital then 2 else 1) ≤ sq.salloc)
    (hskip : nskip < nresOf a.inmap (splitRes a.inmap (fileFrom a) (nskip + nres)).1) :
    (readNres a sq nskip nres).2.2.1 = .ok ∧
    (readNres a sq nskip nres).2.2.2 = nresOf a.inmap (splitRes a.inmap (fileFrom a) (nskip + nres)).1 - nskip ∧
    (readNres a sq nskip nres).2.1 = { sq with seq := sq.seq ++ (resOf a.inmap (mapOf a sq) (splitRes a.inmap (fileFrom a) (nskip + nres)).1).extract nskip (nresOf a.inmap (splitRes a.inmap (fileFrom a) (nskip + nres)).1) } ∧
    WF (readNres a sq nskip nres).1 ∧ Track.Ok (readNres a sq nskip nres).1.trk ∧
    fileFrom (readNres a sq nskip nres).1 = (splitRes a.inmap (fileFrom a) (nskip + nres)).2 ∧
    keep (readNres a sq nskip nres).1 = keep a ∧
    (nresOf a.inmap (splitRes a.inmap (fileFrom a) (nskip + nres)).1 < nskip + nres →
      Sim.Live (readNres a sq nskip nres).1 ∨
      (Sim.AtEof (readNres a sq nskip nres).1 ∧ pos (readNres a sq nskip nres).1 = ((readNres a sq nskip nres).1.file.size : Int))) := by
  obtain ⟨q1, q2, q3, _⟩ := seen_seebuf a w tok hm (nskip + nres)
  have hi := keep_inmap q3
  obtain ⟨a', nskip', see', P, r1, r2, r3, r4, r5, r6, r7, r8, _⟩ := skipLoop_spec nres (fuelOf (seebuf a (some (nskip + nres))).1)
    (seebuf a (some (nskip + nres))).1 nskip (seebuf a (some (nskip + nres))).2 q1 (by rw [hi, q2]; exact hclean)
    (by rw [hi, q2]; exact hskip)
    (toGo_lt_fuelOf _ q1.wf)
  rw [hi] at r7 r8
  rw [q2] at r6
  have hk' := r5.trans q3
  have hi' := keep_inmap hk'
  obtain ⟨A, hsk, hseen, hkA', hfA, hK⟩ := skipbuf_seen r2 r3
  rw [readNres_eq a sq nskip nres a' nskip' see' A r1 r4 r3 hsk]
  have wA := hseen.wf
  have hkA : keep A = keep a := hkA'.trans hk'
  -- the bytes passed over: whole buffers `P`, then the front `K` of the buffer the skip loop stopped on
  have hfile : fileFrom a = (P ++ (splitRes a'.inmap (curBuf a') nskip').1) ++ fileFrom A := by
    rw [r6, List.append_assoc, ← hfA]
  have hQd : ∀ c ∈ P ++ (splitRes a'.inmap (curBuf a') nskip').1, isData a.inmap c = true := by
    intro c hc
    rcases List.mem_append.mp hc with k | k
    · exact r7 c k
    · rw [← hi']; exact splitRes_data a'.inmap (curBuf a') nskip' c k
  have hQn : nresOf a.inmap (P ++ (splitRes a'.inmap (curBuf a') nskip').1) = nskip := by
    rw [nresOf_append, ← hi', hK, hi']; exact r8
  have hnres1 : 1 ≤ nres := by have := splitRes_nres_le a.inmap (fileFrom a) (nskip + nres); omega
  have hs : splitRes a.inmap (fileFrom a) (nskip + nres) =
      ((P ++ (splitRes a'.inmap (curBuf a') nskip').1) ++ (splitRes a.inmap (fileFrom A) nres).1, (splitRes a.inmap (fileFrom A) nres).2) := by
    conv => lhs; rw [hfile]
    rw [splitRes_data_append a.inmap _ _ _ hQd (by omega), hQn, Nat.add_sub_cancel_left]
  have hiA : A.inmap = a.inmap := keep_inmap hkA
  have hmapA : mapOf A sq = mapOf a sq := by simp only [mapOf, hiA]
  obtain ⟨key, kkp⟩ := addLoop_out (fuelOf A) A sq nres _ 0 _ _ hseen (by rw [hmapA, hiA]; exact hmap) hcap (toGo_lt_fuelOf A wA)
  rw [hmapA, hiA] at key
  have d := key.done ((keep_eofIsOk hkA).trans heof) (Clean_of_data_append a.inmap _ _ hQd (by rw [← hfile]; exact hclean))
  have hsz : (resOf a.inmap (mapOf a sq) (P ++ (splitRes a'.inmap (curBuf a') nskip').1)).size = nskip := by
    rw [resOf_size]; exact hQn
  have hn2 : nresOf a.inmap (splitRes a.inmap (fileFrom a) (nskip + nres)).1 = nskip + nresOf a.inmap (splitRes a.inmap (fileFrom A) nres).1 := by
    rw [hs, nresOf_append, hQn]
  have hY : 0 < nresOf a.inmap (splitRes a.inmap (fileFrom A) nres).1 := Nat.lt_add_right_iff_pos.mp (hn2 ▸ hskip)
  refine ⟨?_, ?_, ?_, key.wf, d.tok, by rw [d.ff, hs], kkp.trans hkA, fun h => d.cur (Nat.lt_of_add_lt_add_left (hn2 ▸ h))⟩
  · rw [d.st, Nat.zero_add, if_neg (Nat.ne_of_gt hY)]
  · rw [d.act, hn2, Nat.zero_add, Nat.add_sub_cancel_left]
  · rw [d.sq_eq, hn2]
    refine congrArg (fun x => { sq with seq := sq.seq ++ x }) ?_
    rw [hs, resOf_append, Array.extract_append, hsz]
    have hsz2 : (resOf a.inmap (mapOf a sq) (splitRes a.inmap (fileFrom A) nres).1).size =
        nresOf a.inmap (splitRes a.inmap (fileFrom A) nres).1 := resOf_size _ _ _
    simp [← hsz2]
    rw [hsz]; exact Nat.min_le_right _ _

/-! ## non-vacuity: the data `AC\nGT\n>b\n` read through 2-byte blocks, three residues at a time -/

def demoData : Bytes := #[65, 67, 10, 71, 84, 10, 62, 98, 10]

example : ((readNres (ParseFasta.openFasta demoData 2 0) {} 0 3).2.1.seq, (readNres (ParseFasta.openFasta demoData 2 0) {} 0 3).2.2) =
    (#[65, 67, 71], Status.ok, 3) := by rw [ParseFasta.openFasta, inmapFasta_text]; decide +kernel

example : (splitRes (inmapFasta 0) demoData.toList 3, splitRes (inmapFasta 0) demoData.toList 5) =
    (([65, 67, 10, 71], [84, 10, 62, 98, 10]), ([65, 67, 10, 71, 84, 10], [62, 98, 10])) := by rw [inmapFasta_text]; decide +kernel

/-- the hypotheses of `readNres_zero_out` and `Out.done` hold for the handle `esl_sqfile_Open` returns on `demoData` (block size 2) -/
example : (readNres (ParseFasta.openFasta demoData 2 0) {} 0 3).2.2.2 =
    nresOf (inmapFasta 0) (splitRes (inmapFasta 0) demoData.toList 3).1 := by
  obtain ⟨R, hff, hi, _⟩ := ParseFasta.openFasta_ready demoData 2 0 (by decide) (by decide)
  have hclean : Clean (ParseFasta.openFasta demoData 2 0).inmap (fileFrom (ParseFasta.openFasta demoData 2 0)) := by
    rw [hi, hff]
    intro c t h
    have e : demoData.toList.dropWhile (isData (inmapFasta 0)) = [62, 98, 10] := by rw [inmapFasta_text]; decide +kernel
    rw [e] at h
    have hc : c = 62 := ((List.cons.inj h).1).symm
    subst hc
    rw [inmapFasta_text]; decide +kernel
  have key := ((readNres_zero_out (ParseFasta.openFasta demoData 2 0) {} 3 R.cur.wf R.cur.tok R.hm
    (by show MapOk _ (ParseFasta.openFasta demoData 2 0).inmap; exact MapOk.self _ R.hm) (by decide)).1.done R.eofOk hclean).act
  rw [hi, hff, Nat.zero_add] at key
  exact key

example : ((readNres (ParseFasta.openFasta demoData 2 0) {} 1 3).2.1.seq, (readNres (ParseFasta.openFasta demoData 2 0) {} 1 3).2.2) =
    (#[67, 71, 84], Status.ok, 3) := by rw [ParseFasta.openFasta, inmapFasta_text]; decide +kernel

/-- the extra hypothesis of `readNres_spec` on that handle: skipping 1 residue, 4 are to be had -/
example : 1 < nresOf (inmapFasta 0) (splitRes (inmapFasta 0) demoData.toList (1 + 3)).1 := by rw [inmapFasta_text]; decide +kernel

end EaselModel.Sqio.WindowSpec
