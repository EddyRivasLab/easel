import EaselModel.Sqio.PositionAny
import EaselModel.Sqio.WindowSeries
import EaselModel.Sqio.Totality
/-! # After `esl_sqfile_Position` at a scanned record: every read call returns THAT record (C04)

`FetchWhole.fetch_eq_scan` is the whole-record statement, `FetchWhole.position_info_seq` the one for `ReadInfo` and `ReadSequence`; here
the forward `ReadWindow` series. -/
namespace EaselModel.Sqio.PositionCalls
open EaselModel.Sqio.Refine EaselModel.Sqio.DataScan EaselModel.Sqio.Cursor EaselModel.Sqio.BodySpec EaselModel.Sqio.HeaderSpec
open EaselModel.Sqio.ReadSpec EaselModel.Sqio.ParseFasta EaselModel.Sqio.FetchSpec EaselModel.Sqio.SpecFasta
open EaselModel.Sqio.WindowSeries EaselModel.Sqio.WinSpecPure

theorem position_windows (bytes : Bytes) (abc : Nat) (habc : abc ∈ [0, 1, 2, 3]) (s : Sq) (hs : s ∈ (parseFasta abc bytes).1)
    (a : Ascii) (hf : a.file = bytes) (hb : a.linebased = false) (hr : a.recording ≠ 1) (hB : 1 ≤ a.B)
    (hi : a.inmap = inmapFasta abc) (hfmt : a.fmt = 1) (heof : a.eofIsOk = true)
    (sq : Sq) (hdig : sq.digital = (abc != 0)) (hsabc : sq.abc = abc) (hseq : sq.seq = #[]) (hna : 2 ≤ sq.nalloc) (hda : 2 ≤ sq.dalloc)
    (hst : sq.start = 0) (req : Nat → Int × Int) (hreq : ∀ k, 0 ≤ (req k).1 ∧ 1 ≤ (req k).2) (F : Nat) (hF : s.seq.size + 2 ≤ F) :
    let p := (position a s.roff.toNat).1
    (readWindowsM req F 0 p sq).1.map toWin = specWindows s.seq req F 0 0 0 ∧
    (readWindowsM req F 0 p sq).2.2.2 = .eod ∧ (readWindowsM req F 0 p sq).2.2.1.L = s.L := by
  intro p
  obtain ⟨r1, r2, _⟩ := record_shape bytes abc s hs
  have hoff : s.roff.toNat < bytes.size := by omega
  obtain ⟨_, R, _, _⟩ := FetchWhole.position_ready bytes abc habc s.roff.toNat hoff a hf hb hr hB hi hfmt heof sq hdig hsabc hna hda
  obtain ⟨_, hok, hrec⟩ := FetchWhole.fetch_eq_scan bytes abc habc s hs a hf hb hr hB hi hfmt heof sq hdig hsabc hseq hna hda
  have hsq : (read p sq).2.1.seq = s.seq := FetchWhole.toRecord_seq hrec
  have hL : (read p sq).2.1.L = s.L := by
    have := congrArg Record.L hrec
    simpa [toRecord] using this
  obtain ⟨w1, w2, _, w4, _⟩ := windows_eq_read p sq R hseq hst hok req hreq F (by rw [hsq]; exact hF)
  exact ⟨by rw [w1, hsq], w2, by rw [w4, hL]⟩

end EaselModel.Sqio.PositionCalls
