import EaselModel.Sqio.Cursor
import EaselModel.Core.ListWhile
/-! # The residue loop of `sqascii_Read` / `ReadSequence` / `ReadInfo` in closed form (whole-reader refinement)

`isData` / `isRes` / `isEod` (`Fold.lean`): what the input map says about one byte. The `do { seebuf; [GrowTo; addbuf]; … } while (loadbuf == eslOK)`
loop, run from a handle whose cursor stands on the list `l` of remaining file bytes, consumes exactly `l.takeWhile isData`, appends
exactly its residues (`filter isRes`, mapped), sets `eoff` to the position of the last consumed byte and ends with `eslEOD` on an
end-of-data byte, `eslEOF` at the end of the file, `eslEFORMAT` on anything else — whatever the block size. All of this is one
theorem, `scanLoop_fold`: the loop is the byte fold `DataScan.dataFold` over the rest of the file (one induction over the buffers; the
step is `scanStep_buf`, one pass in normal form in block or line mode, and `loadbuf_nextBlock` for the next block); the closed form (`scanLoop_spec`) reads the fold through `scanBytes_simple`, the counting loop of
`ReadInfo` (`DataScan.scanLoop_info`, at the end of this file: the namespace is reopened there because the statement needs `scanLoop_fold`)
is the case `store = false`. -/
namespace EaselModel.Sqio.BodySpec
open EaselModel.Sqio.Refine EaselModel.Sqio.Fold EaselModel.Sqio.DataScan EaselModel.Sqio.Cursor
open Tables

theorem isRes_isData (inmap : Bytes) (c : UInt8) (h : isRes inmap c = true) : isData inmap c = true := by
  simp only [isRes] at h; simp [isData, h]

theorem isEod_not_isData (inmap : Bytes) (c : UInt8) (h : isEod inmap c = true) : isData inmap c = false := by
  simp only [isEod, dsqEod, beq_iff_eq] at h
  simp [isData, h, dsqEol, dsqIgnored]

theorem stepByte_cls (inmap : Bytes) (hm : inmap.size = 128) (s : SS) (c : UInt8) :
    (isData inmap c = true → (stepByte inmap s c).2 = .ok ∧ (stepByte inmap s c).1.nres = s.nres + (if isRes inmap c then 1 else 0)) ∧
    (isData inmap c = false → (stepByte inmap s c).2 = (if isEod inmap c then .eod else .eformat)) := by
  have hf : ¬ (c < 128 ∧ inmap.size ≤ c.toNat) := fun h => by
    have := UInt8.lt_iff_toNat_lt.mp h.1; simp at this; omega
  rw [stepByte_eq]
  exact ⟨fun hd => by rw [if_pos hd]; exact ⟨rfl, rfl⟩, fun hd => by rw [if_neg (by simp [hd]), if_neg hf]⟩

/-- status of the data scan at the first byte it does not consume -/
def stopSt (inmap : Bytes) : List UInt8 → Status
  | [] => .ok
  | c :: _ => if isEod inmap c then .eod else .eformat

theorem scanBytes_simple (inmap : Bytes) (hm : inmap.size = 128) (M : Nat) (l : List UInt8) (s : SS) (k : Nat) (hM : s.nres + l.length ≤ M) :
    (scanBytes inmap M l s k).2.1 = k + (l.takeWhile (isData inmap)).length ∧
    (scanBytes inmap M l s k).1.nres = s.nres + ((l.takeWhile (isData inmap)).filter (isRes inmap)).length ∧
    (scanBytes inmap M l s k).2.2 = stopSt inmap (l.dropWhile (isData inmap)) := by
  induction l generalizing s k with
  | nil => simp [scanBytes, stopSt]
  | cons c rest ih =>
    obtain ⟨c1, c2⟩ := stepByte_cls inmap hm s c
    obtain ⟨_, p2, _, p4⟩ := stepByte_props inmap s c
    simp only [List.length_cons] at hM
    rcases scanBytes_cons inmap M c rest s k with ⟨h, _⟩ | ⟨h, hs, e⟩ | ⟨h, hs, e⟩
    · omega
    · have hd : isData inmap c = true := by
        cases hh : isData inmap c with
        | true => rfl
        | false => have := c2 hh; rw [hs] at this; split at this <;> cases this
      obtain ⟨_, d2⟩ := c1 hd
      obtain ⟨i1, i2, i3⟩ := ih (stepByte inmap s c).1 (k + 1) (by omega)
      rw [e, List.takeWhile_cons_of_pos hd, List.dropWhile_cons_of_pos hd]
      refine ⟨by rw [i1]; simp; omega, ?_, i3⟩
      rw [i2, d2]
      by_cases hr : isRes inmap c = true
      · simp [hr]; omega
      · simp [hr]
    · have hd : isData inmap c = false := by
        cases hh : isData inmap c with
        | false => rfl
        | true => exact absurd (c1 hh).1 hs
      have hd' : ¬ isData inmap c = true := by simp [hd]
      rw [e, List.takeWhile_cons_of_neg hd', List.dropWhile_cons_of_neg hd']
      refine ⟨by simp, by simp [p4 hs], ?_⟩
      simp only [stopSt]
      exact c2 hd

/-- the residues `addbuf` stores for a stretch of consumed bytes -/
def resOf (inmap map : Bytes) (d : List UInt8) : Bytes := ((d.filter (isRes inmap)).map (fun c => map.getD c.toNat 0)).toArray

theorem resOf_append (inmap map : Bytes) (d1 d2 : List UInt8) : resOf inmap map (d1 ++ d2) = resOf inmap map d1 ++ resOf inmap map d2 := by
  simp [resOf, List.filter_append]

theorem resOf_size (inmap map : Bytes) (d : List UInt8) : (resOf inmap map d).size = (d.filter (isRes inmap)).length := by
  simp [resOf]

/-- the map `addbuf` uses agrees with the file map `seebuf` used about which consumed bytes are residues -/
def MapOk (inmap map : Bytes) : Prop :=
  ∀ c : UInt8, isData inmap c = true → ∃ y, map[c.toNat]? = some y ∧ (decide (y ≤ 127) = isRes inmap c)

theorem MapOk.self (inmap : Bytes) (hm : inmap.size = 128) : MapOk inmap inmap := by
  intro c hd
  by_cases h1 : c ≥ 128
  · simp [isData, code, h1, dsqIllegal, dsqEol, dsqIgnored] at hd
  · obtain ⟨x, hx⟩ := NoFault.inmap_get inmap hm c h1
    refine ⟨x, hx, ?_⟩
    have hg : inmap.getD c.toNat dsqIllegal = x := by
      rw [Array.getD_eq_getD_getElem?, hx]; rfl
    simp [isRes, code, h1, hg]

theorem addbufLoop_spec (a : Ascii) (hr : NoFault.Rd a) (map : Bytes) (digital : Bool) (salloc : Nat) (hmap : MapOk a.inmap map) :
    ∀ (k bpos nres : Nat) (seq : Bytes), bpos + k ≤ a.nc →
      (∀ c ∈ (bufList a bpos).take k, isData a.inmap c = true) →
      nres = (((bufList a bpos).take k).filter (isRes a.inmap)).length →
      seq.size + nres + (if digital then 2 else 1) ≤ salloc →
      ∃ b', (addbufLoop a map digital salloc nres bpos seq).1 = .ok ∧ (addbufLoop a map digital salloc nres bpos seq).2.1 = b' ∧
        (addbufLoop a map digital salloc nres bpos seq).2.2 = seq ++ resOf a.inmap map ((bufList a bpos).take k) := by
  intro k
  induction k with
  | zero =>
    intro bpos nres seq _ _ hn _
    simp only [List.take_zero, List.filter_nil, List.length_nil] at hn
    subst hn
    rw [addbufLoop]
    simp [resOf]
  | succ k ih =>
    intro bpos nres seq hb hd hn hal
    have hlt : bpos < a.nc := by omega
    rw [bufList_cons a bpos hlt, List.take_succ_cons] at hd hn ⊢
    obtain ⟨x, hx⟩ := hr bpos hlt
    have hbx : byteAt a bpos = x := by simp [byteAt, hx]
    rw [hbx] at hd hn ⊢
    have hdx : isData a.inmap x = true := hd x (by simp)
    have hd' : ∀ c ∈ (bufList a (bpos + 1)).take k, isData a.inmap c = true := fun c hc => hd c (by simp [hc])
    obtain ⟨y, hy, hyr⟩ := hmap x hdx
    rw [addbufLoop]
    by_cases hz : (nres == 0) = true
    · have hz' : nres = 0 := eq_of_beq hz
      subst hz'
      simp only [beq_self_eq_true, if_true]
      have hnil : (x :: (bufList a (bpos + 1)).take k).filter (isRes a.inmap) = [] := List.length_eq_zero_iff.mp hn.symm
      simp [resOf, hnil]
    · simp only [hz, Bool.false_eq_true, if_false, hlt, dite_true, hx, hy]
      by_cases hres : isRes a.inmap x = true
      · have hy127 : y ≤ 127 := by rw [hres] at hyr; simpa using hyr
        rw [List.filter_cons_of_pos hres, List.length_cons] at hn
        have hal' : (if digital then seq.size + 1 < salloc else seq.size < salloc) := by
          cases digital <;> simp at hal ⊢ <;> omega
        simp only [hy127, if_true, hal']
        obtain ⟨b', e1, e2, e3⟩ := ih (bpos + 1) (nres - 1) (seq.push y) (by omega) hd' (by omega)
          (by simp only [Array.size_push]; cases digital <;> simp at hal ⊢ <;> omega)
        refine ⟨b', e1, e2, ?_⟩
        rw [e3]
        simp [resOf, List.filter_cons_of_pos hres, hy]
      · have hy127 : ¬ y ≤ 127 := by
          have : isRes a.inmap x = false := by simpa using hres
          rw [this] at hyr; simpa using hyr
        rw [List.filter_cons_of_neg hres] at hn
        simp only [hy127, if_false]
        obtain ⟨b', e1, e2, e3⟩ := ih (bpos + 1) nres seq (by omega) hd' hn hal
        refine ⟨b', e1, e2, ?_⟩
        rw [e3]
        simp [resOf, List.filter_cons_of_neg hres]


theorem addbuf_eq (a : Ascii) (sq : Sq) (n : Nat) : addbuf a sq n =
    ({ a with bpos := (addbufLoop a (if sq.digital then abcInmap sq.abc else a.inmap) sq.digital sq.salloc n a.bpos sq.seq).2.1 },
     { sq with seq := (addbufLoop a (if sq.digital then abcInmap sq.abc else a.inmap) sq.digital sq.salloc n a.bpos sq.seq).2.2 },
     (addbufLoop a (if sq.digital then abcInmap sq.abc else a.inmap) sq.digital sq.salloc n a.bpos sq.seq).1) := rfl

/-- what `Read` / `ReadSequence` do with the residues of one buffer -/
def adOf (a : Ascii) (sq : Sq) : Ascii × Sq × Status :=
  addbuf (seebuf a none).1 (sq.growTo (sq.n + (seebuf a none).2.nres)) (seebuf a none).2.nres

/-- what one pass of the residue loop does with the residues of the buffer: `esl_sq_GrowTo` + `addbuf` when storing, nothing when
    counting -/
def adS (store : Bool) (a : Ascii) (sq : Sq) : Ascii × Sq × Status :=
  if store then adOf a sq else ((seebuf a none).1, sq, .ok)

/-- **one pass of the residue loop, unfolded**, storing or counting: `adS` is the one place where the two differ -/
theorem scanStep_eq (store : Bool) (a : Ascii) (sq : Sq) : scanStep store a sq =
    if (seebuf a none).2.st == .fault then ((seebuf a none).1, sq, .fault, (seebuf a none).2.endpos, false) else
    if ((seebuf a none).2.st == .eformat && store) then ((seebuf a none).1, sq, .eformat, (seebuf a none).2.endpos, false) else
    if (adS store a sq).2.2 == .fault then ((adS store a sq).1, (adS store a sq).2.1, .fault, (seebuf a none).2.endpos, false) else
    if (seebuf a none).2.st == .eformat then
      ({ (adS store a sq).1 with L := (adS store a sq).1.L + (seebuf a none).2.nres },
       { (adS store a sq).2.1 with eoff := (adS store a sq).1.boff + (seebuf a none).2.endpos - 1 }, .eformat,
       (seebuf a none).2.endpos, false) else
    if (seebuf a none).2.st == .eod then
      ({ (adS store a sq).1 with L := (adS store a sq).1.L + (seebuf a none).2.nres },
       { (adS store a sq).2.1 with eoff := (adS store a sq).1.boff + (seebuf a none).2.endpos - 1 }, .eod,
       (seebuf a none).2.endpos, false) else
    ((loadbuf { (adS store a sq).1 with L := (adS store a sq).1.L + (seebuf a none).2.nres }).1,
      { (adS store a sq).2.1 with eoff := (adS store a sq).1.boff + (seebuf a none).2.endpos - 1 },
      (loadbuf { (adS store a sq).1 with L := (adS store a sq).1.L + (seebuf a none).2.nres }).2, (seebuf a none).2.endpos,
      (loadbuf { (adS store a sq).1 with L := (adS store a sq).1.L + (seebuf a none).2.nres }).2 == .ok) := by
  unfold scanStep adS adOf
  generalize seebuf a none = sb
  obtain ⟨a1, see⟩ := sb
  -- with `seebuf`'s pair taken apart the two sides differ by unfolding only (a plain `rfl` on the statement runs out of heartbeats)
  dsimp only

/-- the storing pass, `scanStep_eq` at `store = true` with `adOf` for `adS` (its counting twin is `DataScan.scanStep_false`) -/
theorem scanStep_true (a : Ascii) (sq : Sq) : scanStep true a sq =
    if (seebuf a none).2.st == .fault then ((seebuf a none).1, sq, .fault, (seebuf a none).2.endpos, false) else
    if (seebuf a none).2.st == .eformat then ((seebuf a none).1, sq, .eformat, (seebuf a none).2.endpos, false) else
    if (adOf a sq).2.2 == .fault then ((adOf a sq).1, (adOf a sq).2.1, .fault, (seebuf a none).2.endpos, false) else
    if (seebuf a none).2.st == .eod then
      ({ (adOf a sq).1 with L := (adOf a sq).1.L + (seebuf a none).2.nres },
       { (adOf a sq).2.1 with eoff := (adOf a sq).1.boff + (seebuf a none).2.endpos - 1 }, .eod, (seebuf a none).2.endpos, false) else
    ((loadbuf { (adOf a sq).1 with L := (adOf a sq).1.L + (seebuf a none).2.nres }).1,
      { (adOf a sq).2.1 with eoff := (adOf a sq).1.boff + (seebuf a none).2.endpos - 1 },
      (loadbuf { (adOf a sq).1 with L := (adOf a sq).1.L + (seebuf a none).2.nres }).2, (seebuf a none).2.endpos,
      (loadbuf { (adOf a sq).1 with L := (adOf a sq).1.L + (seebuf a none).2.nres }).2 == .ok) := by
  rw [scanStep_eq]
  by_cases h : ((seebuf a none).2.st == Status.eformat) = true <;> simp only [adS, if_true, Bool.and_true, h, Bool.false_eq_true, if_false]

theorem bufList_cur (a : Ascii) (w : WF a) : bufList a a.bpos = (fileFrom a).take (a.nc - a.bpos) := by
  rw [bufList_eq a w a.bpos, fileFrom, pos_toNat a w]


/-- the rest of the current buffer, as file bytes -/
def curBuf (a : Ascii) : List UInt8 := (fileFrom a).take (a.nc - a.bpos)
def nresOf (inmap : Bytes) (d : List UInt8) : Nat := (d.filter (isRes inmap)).length
def mapOf (a : Ascii) (sq : Sq) : Bytes := if sq.digital then abcInmap sq.abc else a.inmap
/-- the `ESL_SQ` after the residues of the consumed bytes `d` were appended (`esl_sq_GrowTo` + `addbuf`) -/
def stored (store : Bool) (inmap map : Bytes) (sq : Sq) (d : List UInt8) : Sq :=
  if store then
    { sq with seq := sq.seq ++ resOf inmap map d,
              salloc := max sq.salloc (sq.n + nresOf inmap d + (if sq.digital then 2 else 1)) }
  else sq

theorem addbufLoop_le (a : Ascii) (map : Bytes) (digital : Bool) (salloc nres bpos : Nat) (seq : Bytes) (hb : bpos ≤ a.nc) :
    (addbufLoop a map digital salloc nres bpos seq).2.1 ≤ a.nc := by
  fun_induction addbufLoop a map digital salloc nres bpos seq <;> first | exact hb | (rename_i ih; exact ih (by omega))

/-- the handle after `seebuf` and `addbuf` have gone over a stretch of the buffer whose byte fold ended in `s`: cursor at `b`, `L`,
    line number and tracker brought up to date -/
def afterBuf (a : Ascii) (b : Nat) (s : SS) : Ascii :=
  { a with bpos := b, L := a.L + (s.nres : Int), linenumber := s.ln, trk := s.trk }

/-- **one pass of the residue loop in normal form, in block or line mode** (`loadbuf` is left as it is). Either the whole rest of
    the buffer was data: its residues are stored and the next buffer is loaded; or the fold stopped at an end-of-data byte inside
    the buffer; or at an illegal byte.
    `M` is the residue cap that `scanBytes` takes (`seebuf`'s `maxn`); the loop calls `seebuf` without one, so any `M` that the
    bytes left in the buffer cannot reach (`hM`) gives the same fold: callers pass the `M` of `dataFold a M`, `scanLoop_fold`'s.
    `g` = (fold state, bytes consumed, status) is that fold over the rest of the buffer, begun with no residue counted; it comes
    as a variable with its equation `hg` so that the fold stands once in the statement and a caller rewrites `hg` with what it
    knows of the fold (`scanBytes_append`). `b` is where `addbuf` leaves `bpos` (behind the last residue it stored; the old `bpos`
    when counting): the statement says `b ≤ a.nc` of it and no more, because nothing reads it before `loadbuf` or the caller
    (fourth component, `a.bpos + g.2.1`) sets the cursor. -/
theorem scanStep_buf (store : Bool) (a : Ascii) (sq : Sq) (M : Nat) (hr : NoFault.Rd a) (hb : a.bpos ≤ a.nc) (tok : Track.Ok a.trk)
    (hm : a.inmap.size = 128) (hmap : store = true → MapOk a.inmap (mapOf a sq)) (hM : a.nc - a.bpos ≤ M)
    (g : SS × Nat × Status) (hg : g = scanBytes a.inmap M (bufList a a.bpos) ⟨a.trk, a.linenumber, 0⟩ 0) :
    Track.Ok g.1.trk ∧ ∃ b, b ≤ a.nc ∧
    ((g.2.2 = .ok ∧ g.2.1 = a.nc - a.bpos ∧
        scanStep store a sq =
          ((loadbuf (afterBuf a b g.1)).1,
           { stored store a.inmap (mapOf a sq) sq (bufList a a.bpos) with eoff := a.boff + ((a.bpos + g.2.1 : Nat) : Int) - 1 },
           (loadbuf (afterBuf a b g.1)).2, a.bpos + g.2.1, (loadbuf (afterBuf a b g.1)).2 == .ok)) ∨
     (g.2.2 = .eod ∧ g.2.1 < a.nc - a.bpos ∧
        scanStep store a sq =
          (afterBuf a b g.1,
           { stored store a.inmap (mapOf a sq) sq ((bufList a a.bpos).take g.2.1) with
               eoff := a.boff + ((a.bpos + g.2.1 : Nat) : Int) - 1 }, .eod, a.bpos + g.2.1, false)) ∨
     (g.2.2 = .eformat ∧ (scanStep store a sq).2.2.1 = .eformat ∧ (scanStep store a sq).2.2.2.2 = false ∧
        (scanStep store a sq).1.haveErr = true ∧
        (store = false → (scanStep store a sq).2.1 = { sq with eoff := a.boff + ((a.bpos + g.2.1 : Nat) : Int) - 1 }))) := by
  have hlen : (bufList a a.bpos).length = a.nc - a.bpos := by simp [bufList]
  obtain ⟨s1, s2, s3, s4, s5⟩ := seebuf_buf a hr tok M hM
  rw [← hg] at s1 s2 s3 s4 s5
  obtain ⟨t1, _, _⟩ := NoFault.seebuf_nofault a hr hm hb none
  have e := Frame.seebuf_eq a none
  have hE := seebuf_haveErr a none
  have t5 : (seebuf a none).1.bpos = a.bpos := (congrArg Ascii.bpos e).trans rfl
  have t6 : (seebuf a none).1.nc = a.nc := (congrArg Ascii.nc e).trans rfl
  have u3 : (seebuf a none).1.inmap = a.inmap := (congrArg Ascii.inmap e).trans rfl
  have hr1 : NoFault.Rd (seebuf a none).1 := by rw [e]; exact hr
  have hbl : ∀ p, bufList (seebuf a none).1 p = bufList a p := fun p => (congrArg (bufList · p) e).trans rfl
  obtain ⟨z1, z2, z3⟩ := scanBytes_simple a.inmap hm M (bufList a a.bpos) ⟨a.trk, a.linenumber, 0⟩ 0 (by simp only [hlen]; omega)
  rw [← hg, Nat.zero_add] at z1 z2
  rw [← hg] at z3
  have tok' : Track.Ok g.1.trk := by
    rw [hg]; exact scanBytes_tok a.inmap M (bufList a a.bpos) ⟨a.trk, a.linenumber, 0⟩ 0 tok
  have htw := length_takeWhile_add_dropWhile (isData a.inmap) (bufList a a.bpos)
  rw [hlen, ← z1] at htw
  have hd : (bufList a a.bpos).take g.2.1 = (bufList a a.bpos).takeWhile (isData a.inmap) := by
    rw [z1]; exact take_takeWhile_length _ _
  -- the residues of the consumed bytes are stored (`addbuf` stays inside the buffer), or nothing is done
  have hA : ∃ b, b ≤ a.nc ∧ adS store a sq =
      ({ (seebuf a none).1 with bpos := b }, stored store a.inmap (mapOf a sq) sq ((bufList a a.bpos).take g.2.1), .ok) := by
    cases store with
    | false => exact ⟨(seebuf a none).1.bpos, by rw [t5]; exact hb, by simp only [adS, stored, Bool.false_eq_true, if_false]⟩
    | true =>
      have hk := addbufLoop_spec (seebuf a none).1 hr1 (mapOf a sq) sq.digital
        (max sq.salloc (sq.n + (seebuf a none).2.nres + (if sq.digital then 2 else 1))) (by rw [u3]; exact hmap rfl)
        g.2.1 (seebuf a none).1.bpos (seebuf a none).2.nres sq.seq (by rw [t5, t6]; omega)
        (by rw [hbl, t5, u3, hd]; intro c hc; exact mem_takeWhile_imp hc)
        (by rw [hbl, t5, u3, s3, z2, hd]) (by simp only [Sq.n]; omega)
      obtain ⟨b', e1, e2, e3⟩ := hk
      refine ⟨b', ?_, ?_⟩
      · rw [← e2, ← t6]; exact addbufLoop_le _ _ _ _ _ _ _ (by rw [t5, t6]; exact hb)
      · simp only [adS, if_true, adOf]
        rw [addbuf_eq, growTo_eq]
        simp only [mapOf, u3] at e1 e2 e3 ⊢
        rw [e1, e2, e3, hbl, t5, s3, z2, hd]
        simp only [stored, if_true, mapOf, nresOf]
  obtain ⟨b, hbn, hA⟩ := hA
  refine ⟨tok', b, hbn, ?_⟩
  -- unless an illegal byte was met, the handle `seebuf` and `addbuf` leave is `afterBuf a b g.1`
  have hX : g.2.2 ≠ .eformat →
      ({ ({ (seebuf a none).1 with bpos := b } : Ascii) with L := (seebuf a none).1.L + ((seebuf a none).2.nres : Int) } : Ascii) =
        afterBuf a b g.1 := by
    intro hne
    have k5 := s5 (by rw [s1]; exact hne) t1
    have hb0 : ((seebuf a none).2.st == Status.eformat) = false := by rw [s1]; simpa using hne
    rw [hb0, Bool.or_false] at hE
    rw [k5, s4, hE] at e
    rw [s3, e]
    rfl
  have hboff : (seebuf a none).1.boff = a.boff := (congrArg Ascii.boff e).trans rfl
  rw [scanStep_eq, hA]
  cases hrr : (bufList a a.bpos).dropWhile (isData a.inmap) with
  | nil =>
    have eo : g.2.2 = .ok := by rw [z3, hrr]; rfl
    have hn : g.2.1 = a.nc - a.bpos := by rw [hrr] at htw; simpa using htw
    have hall : (bufList a a.bpos).take g.2.1 = bufList a a.bpos := by rw [hn, ← hlen]; exact List.take_length
    refine Or.inl ⟨eo, hn, ?_⟩
    simp only [s1, eo, Status.beq_eq_decide, reduceCtorEq, decide_false, Bool.false_eq_true, if_false, Bool.false_and]
    rw [hX (by rw [eo]; decide), hall, hboff, s2]
  | cons c t =>
    have hlt : g.2.1 < a.nc - a.bpos := by rw [hrr] at htw; simp at htw; omega
    by_cases hce : isEod a.inmap c = true
    · have eo : g.2.2 = .eod := by rw [z3, hrr]; simp [stopSt, hce]
      refine Or.inr (Or.inl ⟨eo, hlt, ?_⟩)
      simp only [s1, eo, Status.beq_eq_decide, reduceCtorEq, decide_false, decide_true, Bool.false_eq_true, if_false, Bool.false_and, if_true]
      rw [hX (by rw [eo]; decide), hboff, s2]
    · have hce' : isEod a.inmap c = false := by simpa using hce
      have eo : g.2.2 = .eformat := by rw [z3, hrr]; simp [stopSt, hce']
      refine Or.inr (Or.inr ⟨eo, ?_⟩)
      have hErr : (seebuf a none).1.haveErr = true := by rw [hE, s1, eo]; simp
      cases store with
      | true =>
        simp only [s1, eo, Status.beq_eq_decide, reduceCtorEq, decide_false, decide_true, Bool.false_eq_true, if_false, Bool.and_true, if_true]
        exact ⟨trivial, trivial, hErr, fun k => by cases k⟩
      | false =>
        simp only [s1, eo, Status.beq_eq_decide, reduceCtorEq, decide_false, decide_true, Bool.false_eq_true, if_false, Bool.and_false, if_true]
        exact ⟨trivial, trivial, hErr, fun _ => by rw [hboff, s2]; simp only [stored, Bool.false_eq_true, if_false]⟩

theorem stored_stored (store : Bool) (inmap map : Bytes) (sq : Sq) (d0 d1 : List UInt8) (e0 e1 : Int) :
    { stored store inmap map { stored store inmap map sq d0 with eoff := e0 } d1 with eoff := e1 } =
      { stored store inmap map sq (d0 ++ d1) with eoff := e1 } := by
  cases store with
  | false => simp only [stored, Bool.false_eq_true, if_false]
  | true =>
    simp only [stored, if_true, Sq.n, resOf_append, nresOf, List.filter_append, List.length_append, Array.size_append, resOf_size,
      Array.append_assoc]
    congr 1
    omega

theorem mapOf_stored (store : Bool) (inmap map : Bytes) (a a3 : Ascii) (sq : Sq) (d : List UInt8) (e : Int) (hi : a3.inmap = a.inmap) :
    mapOf a3 { stored store inmap map sq d with eoff := e } = mapOf a sq := by
  cases store <;> simp [mapOf, stored, hi]

/-- the loop's fuel covers the rest of the file after a buffer of `n - b` bytes (one spare round when the buffer was empty) -/
theorem fuel_next {len b n fuel : Nat} (hk : n - b ≤ len) (h : len + (if b < n then 0 else 1) < fuel + 1) : len - (n - b) < fuel := by
  split at h <;> omega

/-- **The residue loop is the byte fold over the rest of the file, and stores the residues of what the fold consumed** — for every
    block size. `scanLoop store` (the loop of `sqascii_Read` / `ReadSequence`, `store = true`, and of `ReadInfo`, `store = false`),
    run from a well-formed handle, ends with the status of `dataFold a M` (running out of bytes is `eslEOF`), has appended the
    residues of the bytes the fold consumed, set `eoff` to the last of them, and left `L`, line number and tracker as the fold
    computes them; at `eslEOD` the stop position is the fold's, inside the buffer; `eslEFORMAT` comes with a message.
    `M` is the residue cap of the fold, at least the bytes left so that it never bites. The fuel: a pass consumes what is left of
    the buffer, so the bytes left in the file bound the passes, except that a pass begun on a used-up buffer (`bpos = nc`, the
    state after a header that ended with its block) consumes nothing and only loads the next block: that pass is the `+ 1`. -/
theorem scanLoop_fold (store : Bool) (fuel : Nat) : ∀ (a : Ascii) (sq : Sq) (M : Nat), WF a → Track.Ok a.trk → a.inmap.size = 128 →
    (store = true → MapOk a.inmap (mapOf a sq)) → (fileFrom a).length ≤ M →
    (fileFrom a).length + (if a.bpos < a.nc then 0 else 1) < fuel →
    (scanLoop store fuel a sq).2.2.1 = finalSt (dataFold a M).2.2 ∧
    (store = false ∨ (dataFold a M).2.2 ≠ .eformat →
       (scanLoop store fuel a sq).2.1 =
         { stored store a.inmap (mapOf a sq) sq ((fileFrom a).take (dataFold a M).2.1) with
             eoff := pos a + ((dataFold a M).2.1 : Int) - 1 }) ∧
    ((dataFold a M).2.2 = .eformat → (scanLoop store fuel a sq).1.haveErr = true) ∧
    ((dataFold a M).2.2 ≠ .eformat →
       WF (scanLoop store fuel a sq).1 ∧
       Sim.payload (scanLoop store fuel a sq).1 =
         Sim.payload { a with L := a.L + ((dataFold a M).1.nres : Int), linenumber := (dataFold a M).1.ln,
                              trk := (dataFold a M).1.trk } ∧
       ((dataFold a M).2.2 = .eod →
          (scanLoop store fuel a sq).1.boff + ((scanLoop store fuel a sq).2.2.2 : Int) = pos a + ((dataFold a M).2.1 : Int) ∧
          (scanLoop store fuel a sq).2.2.2 < (scanLoop store fuel a sq).1.nc) ∧
       ((dataFold a M).2.2 = .ok →
          Sim.AtEof (scanLoop store fuel a sq).1 ∧ pos (scanLoop store fuel a sq).1 = (a.file.size : Int))) := by
  induction fuel with
  | zero => intro a sq M _ _ _ _ _ hf; omega
  | succ fuel ih =>
    intro a sq M w tok hm hmap hM hfuel
    have l2 := buf_le_fileFrom a w
    obtain ⟨d1, d2⟩ := dataFold_split a w M hM
    obtain ⟨_, q2, _, q4, _, _, q7⟩ := scanBytes_bounds a.inmap M ((fileFrom a).take (a.nc - a.bpos)) ⟨a.trk, a.linenumber, 0⟩ 0
    have hlen : ((fileFrom a).take (a.nc - a.bpos)).length = a.nc - a.bpos := by simp only [List.length_take]; omega
    obtain ⟨g, hg⟩ : ∃ g, g = scanBytes a.inmap M ((fileFrom a).take (a.nc - a.bpos)) ⟨a.trk, a.linenumber, 0⟩ 0 := ⟨_, rfl⟩
    rw [← hg] at d1 d2 q2 q4 q7
    have hq : g.1.nres ≤ a.nc - a.bpos := by
      have h1 : g.1.nres + 0 ≤ 0 + g.2.1 := q4
      have h2 : g.2.1 ≤ 0 + ((fileFrom a).take (a.nc - a.bpos)).length := q2
      omega
    have hcb : bufList a a.bpos = (fileFrom a).take (a.nc - a.bpos) := bufList_cur a w
    have he : ∀ n : Nat, a.boff + ((a.bpos + n : Nat) : Int) - 1 = pos a + (n : Int) - 1 := fun n => by
      rw [Int.natCast_add, ← Int.add_assoc]; rfl
    rw [scanLoop_succ]
    obtain ⟨_, b, hbn, h⟩ := scanStep_buf store a sq M (NoFault.WF.rd w) w.bposLe tok hm hmap (by omega) g (by rw [hcb]; exact hg)
    rw [hcb] at h
    rcases h with ⟨e, hn, heq⟩ | ⟨e, hlt, heq⟩ | ⟨e, C1, C2, C3, C4⟩
    · -- the buffer ran out: the next block, or the end of the file
      obtain ⟨_, df⟩ := d2 e
      obtain ⟨A2, o4, A3, A4, A5, o⟩ := loadbuf_nextBlock a (afterBuf a b g.1) w (Pre_of_blk (a := a) rfl w) rfl rfl
      rw [heq, he, hn]
      generalize loadbuf (afterBuf a b g.1) = lb at A2 o4 A3 A4 A5 o ⊢
      obtain ⟨a3, st3⟩ := lb
      obtain ⟨sq3, A1⟩ : ∃ sq3 : Sq, sq3 = { stored store a.inmap (mapOf a sq) sq ((fileFrom a).take (a.nc - a.bpos)) with
          eoff := pos a + ((a.nc - a.bpos : Nat) : Int) - 1 } := ⟨_, rfl⟩
      rw [← A1]
      simp only at A2 o4 A3 A4 A5 o ⊢
      have A3 : Sim.payload a3 = Sim.payload { a with L := a.L + (g.1.nres : Int), linenumber := g.1.ln, trk := g.1.trk } := A3
      rcases o with ⟨o1, o3, _⟩ | ⟨o1, o2, hnil, o5⟩
      · subst o1
        simp only [beq_self_eq_true, if_true]
        have hi : a3.inmap = a.inmap := (Sim.payload_inmap A3 :)
        have ht : a3.trk = g.1.trk := Sim.payload_trk A3
        have hl : a3.linenumber = g.1.ln := Sim.payload_linenumber A3
        have hfile : a3.file = a.file := (Sim.payload_file A3 :)
        have nx := dataFold_next a a3 M (a.nc - a.bpos) g.1 hi ht hl (Nat.le_trans hq (Nat.le_trans l2 hM)) _ A5
        have len3 : (fileFrom a3).length = (fileFrom a).length - (a.nc - a.bpos) := by rw [A5, List.length_drop]
        have hfuel3 : (fileFrom a3).length + (if a3.bpos < a3.nc then 0 else 1) < fuel := by
          rw [if_pos (by rw [o4]; exact o3), len3]; exact fuel_next l2 hfuel
        have hmap3 : store = true → MapOk a3.inmap (mapOf a3 sq3) := by
          intro hs; rw [A1, mapOf_stored _ _ _ a _ _ _ _ hi, hi]; exact hmap hs
        obtain ⟨i1, i2, i3, i4⟩ := ih a3 sq3 (M - g.1.nres) A2 (ht ▸ q7 tok) (hi ▸ hm) hmap3
          (by rw [len3]; exact Nat.le_trans (Nat.sub_le_sub_right hM _) (Nat.sub_le_sub_left hq _)) hfuel3
        have hD := df.trans nx
        generalize dataFold a3 (M - g.1.nres) = D3 at i1 i2 i3 i4 hD
        generalize scanLoop store fuel a3 sq3 = R at i1 i2 i3 i4 ⊢
        rw [hD]
        simp only []
        refine ⟨i1, fun k => ?_, i3, fun hne => ?_⟩
        · have he3 : pos a + ((a.nc - a.bpos : Nat) : Int) + (D3.2.1 : Int) - 1 = pos a + ((a.nc - a.bpos + D3.2.1 : Nat) : Int) - 1 := by
            rw [Int.natCast_add, Int.add_assoc]
          rw [i2 k, A1, mapOf_stored _ _ _ a _ _ _ _ hi, hi, stored_stored, A5, A4, Nat.add_comm, List.take_add, he3]
        · obtain ⟨j1, j2, j3, j4⟩ := i4 hne
          refine ⟨j1, ?_, fun hk => ?_, fun hk => by rw [← hfile]; exact j4 hk⟩
          · rw [j2, payload_upd _ _ _ _ _ A3]
            simp only [Sim.payload, Prod.mk.injEq, and_true, true_and]
            omega
          · obtain ⟨k1, k2⟩ := j3 hk
            exact ⟨by rw [k1, A4]; omega, k2⟩
      · subst o1
        simp only [Status.beq_eq_decide, reduceCtorEq, decide_false, Bool.false_eq_true, if_false]
        rw [hnil] at df
        simp only [scanBytes] at df
        rw [df]
        simp only [e]
        exact ⟨rfl, fun _ => A1, fun k => (by cases k), fun _ => ⟨A2, A3, fun k => (by cases k), fun _ => ⟨⟨o2, o4⟩, o5⟩⟩⟩
    · -- end of the record's data
      have df := d1 (by rw [e]; decide)
      rw [df, heq]
      simp only [Bool.false_eq_true, if_false, e]
      refine ⟨rfl, fun _ => ?_, fun k => (by cases k),
        fun _ => ⟨WF_of_blk (a := a) rfl w hbn, rfl, fun _ => ⟨?_, Nat.add_lt_of_lt_sub' hlt⟩, fun k => (by cases k)⟩⟩
      · rw [he, List.take_take, Nat.min_eq_left (Nat.le_of_lt hlt)]
      · show a.boff + ((a.bpos + g.2.1 : Nat) : Int) = _
        rw [Int.natCast_add, ← Int.add_assoc]; rfl
    · -- illegal byte
      have df := d1 (by rw [e]; decide)
      rw [df]
      simp only [C2, Bool.false_eq_true, if_false]
      refine ⟨by rw [C1, e]; rfl, fun k => ?_, fun _ => C3, fun k => absurd e k⟩
      rcases k with k | k
      · rw [C4 k, k, he]; simp only [stored, Bool.false_eq_true, if_false]
      · exact absurd e k

/-- **The residue loop in closed form, for every block size.** `d` = the bytes consumed (`takeWhile isData` of the remaining file),
    `r` = what follows. -/
theorem scanLoop_spec (store : Bool) (fuel : Nat) : ∀ (a : Ascii) (sq : Sq), Cur a → a.inmap.size = 128 →
    (store = true → MapOk a.inmap (mapOf a sq)) → (fileFrom a).length + 1 < fuel →
    ∀ d r, d = (fileFrom a).takeWhile (isData a.inmap) → r = (fileFrom a).dropWhile (isData a.inmap) →
    (r = [] → (scanLoop store fuel a sq).2.2.1 = .eof ∧
       (scanLoop store fuel a sq).2.1 = { stored store a.inmap (mapOf a sq) sq d with eoff := pos a + (d.length : Int) - 1 } ∧
       Cur (scanLoop store fuel a sq).1 ∧ fileFrom (scanLoop store fuel a sq).1 = [] ∧
       stat (scanLoop store fuel a sq).1 = stat a ∧ (scanLoop store fuel a sq).1.L = a.L + (nresOf a.inmap d : Int)) ∧
    (∀ c t, r = c :: t → isEod a.inmap c = true → (scanLoop store fuel a sq).2.2.1 = .eod ∧
       (scanLoop store fuel a sq).2.1 = { stored store a.inmap (mapOf a sq) sq d with eoff := pos a + (d.length : Int) - 1 } ∧
       (∃ b, WF { (scanLoop store fuel a sq).1 with bpos := b }) ∧ Track.Ok (scanLoop store fuel a sq).1.trk ∧
       stat (scanLoop store fuel a sq).1 = stat a ∧ (scanLoop store fuel a sq).1.L = a.L + (nresOf a.inmap d : Int) ∧
       (scanLoop store fuel a sq).1.boff + ((scanLoop store fuel a sq).2.2.2 : Int) = pos a + (d.length : Int) ∧
       (scanLoop store fuel a sq).2.2.2 < (scanLoop store fuel a sq).1.nc) ∧
    (∀ c t, r = c :: t → isEod a.inmap c = false → (scanLoop store fuel a sq).2.2.1 = .eformat ∧
       (scanLoop store fuel a sq).1.haveErr = true) := by
  intro a sq h hm hmap hf d r hd hr
  obtain ⟨k1, k2, k3, k4⟩ := scanLoop_fold store fuel a sq (fileFrom a).length h.wf h.tok hm hmap (Nat.le_refl _) (by split <;> omega)
  -- what the fold consumed, counted and answered, in terms of `takeWhile` / `filter`
  obtain ⟨z1, z2, z3⟩ := scanBytes_simple a.inmap hm (fileFrom a).length (fileFrom a) ⟨a.trk, a.linenumber, 0⟩ 0 (by simp)
  have tok' := scanBytes_tok a.inmap (fileFrom a).length (fileFrom a) ⟨a.trk, a.linenumber, 0⟩ 0 h.tok
  rw [Nat.zero_add, ← hd] at z1 z2
  rw [← hr] at z3
  have htake : (fileFrom a).take d.length = d := by rw [hd]; exact take_takeWhile_length _ _
  change (dataFold a (fileFrom a).length).2.1 = _ at z1
  change (dataFold a (fileFrom a).length).1.nres = _ at z2
  change (dataFold a (fileFrom a).length).2.2 = _ at z3
  change Track.Ok (dataFold a (fileFrom a).length).1.trk at tok'
  generalize dataFold a (fileFrom a).length = D at *
  generalize scanLoop store fuel a sq = R at *
  rw [z1, htake] at k2
  rw [z1, z2] at k4
  have keeps : D.2.2 ≠ .eformat →
      WF R.1 ∧ Track.Ok R.1.trk ∧ stat R.1 = stat a ∧ R.1.L = a.L + (nresOf a.inmap d : Int) ∧ R.1.file = a.file := by
    intro hne
    obtain ⟨w, p, _, _⟩ := k4 hne
    have ht : R.1.trk = D.1.trk := Sim.payload_trk p
    exact ⟨w, ht ▸ tok', Eq.trans (stat_of_payload p) rfl, Sim.payload_L p, (Sim.payload_file p :)⟩
  refine ⟨fun hnil => ?_, fun c t hc he => ?_, fun c t hc he => ?_⟩
  · have hs : D.2.2 = .ok := by rw [z3, hnil]; rfl
    have hne : D.2.2 ≠ .eformat := by rw [hs]; decide
    obtain ⟨w, tk, st, hL, hfile⟩ := keeps hne
    obtain ⟨ae, pe⟩ := (k4 hne).2.2.2 hs
    have pe' : pos R.1 = (R.1.file.size : Int) := by rw [pe, hfile]
    exact ⟨by rw [k1, hs]; rfl, k2 (Or.inr hne), ⟨w, Or.inr ⟨ae, pe'⟩, tk⟩, fileFrom_eof _ pe', st, hL⟩
  · have hs : D.2.2 = .eod := by rw [z3, hc]; simp [stopSt, he]
    have hne : D.2.2 ≠ .eformat := by rw [hs]; decide
    obtain ⟨w, tk, st, hL, _⟩ := keeps hne
    obtain ⟨e1, e2⟩ := (k4 hne).2.2.1 hs
    exact ⟨by rw [k1, hs]; rfl, k2 (Or.inr hne), ⟨R.1.bpos, w⟩, tk, st, hL, e1, e2⟩
  · have hs : D.2.2 = .eformat := by rw [z3, hc]; simp [stopSt, he]
    exact ⟨by rw [k1, hs]; rfl, k3 hs⟩

end EaselModel.Sqio.BodySpec

namespace EaselModel.Sqio.DataScan
open EaselModel.Sqio.Refine EaselModel.Sqio.Fold EaselModel.Sqio.BodySpec

/-- the counting loop of `sqascii_ReadInfo`: `scanLoop_fold` at `store = false` -/
theorem scanLoop_info (fuel : Nat) (a : Ascii) (sq : Sq) (M : Nat) (h : WF a) (hok : Track.Ok a.trk) (hm : a.inmap.size = 128)
    (hM : (fileFrom a).length ≤ M) (hfuel : (fileFrom a).length + (if a.bpos < a.nc then 0 else 1) < fuel) :
    (scanLoop false fuel a sq).2.2.1 = finalSt (dataFold a M).2.2 ∧
    (scanLoop false fuel a sq).2.1 = { sq with eoff := pos a + ((dataFold a M).2.1 : Int) - 1 } ∧
    ((dataFold a M).2.2 ≠ .eformat →
       WF (scanLoop false fuel a sq).1 ∧
       Sim.payload (scanLoop false fuel a sq).1 =
         Sim.payload { a with L := a.L + ((dataFold a M).1.nres : Int), linenumber := (dataFold a M).1.ln,
                              trk := (dataFold a M).1.trk } ∧
       ((dataFold a M).2.2 = .eod →
          (scanLoop false fuel a sq).1.boff + ((scanLoop false fuel a sq).2.2.2 : Int) = pos a + ((dataFold a M).2.1 : Int) ∧
          (scanLoop false fuel a sq).2.2.2 < (scanLoop false fuel a sq).1.nc) ∧
       ((dataFold a M).2.2 = .ok → Sim.AtEof (scanLoop false fuel a sq).1 ∧ pos (scanLoop false fuel a sq).1 = (a.file.size : Int))) := by
  obtain ⟨k1, k2, _, k4⟩ := scanLoop_fold false fuel a sq M h hok hm (fun k => by cases k) hM hfuel
  exact ⟨k1, k2 (Or.inl rfl), k4⟩

end EaselModel.Sqio.DataScan
