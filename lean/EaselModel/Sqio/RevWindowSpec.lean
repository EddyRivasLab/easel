import EaselModel.Sqio.FetchSpec
import EaselModel.Sqio.Windows
/-! # Reverse-strand `sqascii_ReadWindow` = reverse complement of the slice of the scanned record (C04)

`revTail`: the part of the reverse-strand branch after the window schedule (`revInit` / `revNext`, whose tiling is `Windows.lean`) has set
`start`, `end`, `C`, `W`: compute the seek offset, `Position`, `read_nres(start − actual_start, end − start + 1)`, reverse-complement.
`revTail_of_lands`: whenever the seek lands, the window delivered is `esl_sq_ReverseComplement` of the residues `start..end` of the record
the sequential scan yields, for every read-block size. `revTail_brute`: it always lands when the handle holds no line geometry
(`bpl ≤ 0 ∨ rpl ≤ 0`: unset, −1, or invalidated, 0; the test is `bpl <= 0 || rpl <= 0` in `sqascii_ReadWindow`). -/
namespace EaselModel.Sqio.RevWindowSpec
open EaselModel.Sqio.Refine EaselModel.Sqio.Fold EaselModel.Sqio.DataScan EaselModel.Sqio.Cursor EaselModel.Sqio.BodySpec
open EaselModel.Sqio.HeaderSpec EaselModel.Sqio.ReadSpec EaselModel.Sqio.ParseFasta EaselModel.Sqio.WindowSpec EaselModel.Sqio.FetchSpec

/-- the reverse-strand branch from the offset computation on -/
def revTail (a : Ascii) (sq : Sq) : Ascii × Sq × Status :=
  let (rel, actualStart) := subseqOffset a.trk.bpl a.trk.rpl sq.start
  let offset := sq.doff + rel
  if offset < 0 then (a.raise, sq, .einval) else
  let (a, st) := position a offset.toNat
  if st != .ok then (a.raise, sq, .ecorrupt) else
  let sq := sq.growTo (sq.C + sq.W).toNat
  let sq := { sq with seq := #[] }
  let want := sq.end_ - sq.start + 1
  let (a, sq, st, nres) := readNres a sq (sq.start - actualStart).toNat want.toNat
  if st == .fault then (a, sq, .fault) else
  if st != .ok || (nres : Int) < want then (a.raise, sq, .ecorrupt) else
  let (sq, st, exc) := revcomp sq
  let a := if exc then a.raise else a
  if st == .einval then (a.fail, sq, .einval) else
  if st != .ok then (a, sq, st) else
  (a, sq, .ok)

/-- first reverse window of a record (`sq->start == 0` after the forward pass ended with `eslEOD`) -/
theorem readWindow_rev_first (a : Ascii) (sq : Sq) (C W : Int) (hW : 1 ≤ W) (hL1 : sq.L ≠ -1) (hL0 : sq.L ≠ 0) (he : sq.end_ ≠ 1)
    (hs : sq.start = 0) :
    readWindow a sq C (-W) =
      revTail { a with trk := a.trk.reset, linenumber := -1, L := -1 }
        { sq with start := (revInit sq.L W).1, end_ := (revInit sq.L W).2, C := 0, W := (revInit sq.L W).2 - (revInit sq.L W).1 + 1 } := by
  have h1 : -W < 0 := by omega
  have h2 : (sq.L == -1) = false := by simpa using hL1
  have h3 : (sq.end_ == 1 || sq.L == 0) = false := by simp [he, hL0]
  have h4 : - -W = W := by omega
  unfold readWindow revTail
  simp only [h1, if_true, h2, Bool.false_eq_true, if_false, h3, hs, beq_self_eq_true, h4]

theorem readWindow_rev_next (a : Ascii) (sq : Sq) (C W : Int) (hW : 1 ≤ W) (hL1 : sq.L ≠ -1) (hL0 : sq.L ≠ 0) (he : sq.end_ ≠ 1)
    (hs : sq.start ≠ 0) :
    readWindow a sq C (-W) =
      revTail a { sq with C := (revNext sq.L C W sq.end_).1, end_ := (revNext sq.L C W sq.end_).2.1,
                          start := (revNext sq.L C W sq.end_).2.2.1, W := (revNext sq.L C W sq.end_).2.2.2 } := by
  have h1 : -W < 0 := by omega
  have h2 : (sq.L == -1) = false := by simpa using hL1
  have h3 : (sq.end_ == 1 || sq.L == 0) = false := by simp [he, hL0]
  have h4 : - -W = W := by omega
  have h5 : (sq.start == 0) = false := by simpa using hs
  unfold readWindow revTail
  simp only [h1, if_true, h2, Bool.false_eq_true, if_false, h3, h5, h4]


theorem subseqOffset_brute (bpl rpl start : Int) (h : bpl ≤ 0 ∨ rpl ≤ 0) : subseqOffset bpl rpl start = (0, 1) := by
  unfold subseqOffset
  have : (decide (bpl ≤ 0) || decide (rpl ≤ 0)) = true := by rcases h with h | h <;> simp [h]
  simp [this]

/-- the window an `ESL_SQ` describes, cut out of the residues `R` and reverse-complemented: what a reverse-strand call must return -/
def revOf (sq : Sq) (R : Bytes) : Sq × Status × Bool :=
  revcomp { sq.growTo (sq.C + sq.W).toNat with seq := R.extract (sq.start - 1).toNat sq.end_.toNat }

/-- **Reverse window = reverse complement of the slice of the scanned record, whenever the seek lands, for every block size.**
    `s` is a record of the sequential scan of `bytes`; `a` any block-mode handle on the file; `sq` carries the window `[start .. end]`
    (`1 ≤ start ≤ end ≤ L`, `C + W = end − start + 1`, as `revInit` / `revNext` set them) and the record's data offset. Whenever the
    seek of `subseqOffset` lands (`FetchSpec.Lands`: inside the record's data, and such that after skipping
    `start − actualStart` residues the residues continue as the record's from index `start − 1`), the call returns
    `esl_sq_ReverseComplement` of exactly the residues `s.seq[start..end]`, with its status. -/
theorem revTail_of_lands (bytes : Bytes) (abc : Nat) (habc : abc ∈ [0, 1, 2, 3]) (s : Sq) (hs : s ∈ (parseFasta abc bytes).1)
    (a : Ascii) (hf : a.file = bytes) (hb : a.linebased = false) (hr : a.recording ≠ 1) (hB : 1 ≤ a.B)
    (hi : a.inmap = inmapFasta abc) (heof : a.eofIsOk = true)
    (sq : Sq) (hdig : sq.digital = (abc != 0)) (hsabc : sq.abc = abc) (hdoff : sq.doff = s.doff)
    (h1 : 1 ≤ sq.start) (h2 : sq.start ≤ sq.end_) (h3 : sq.end_ ≤ s.L) (hcw : sq.C + sq.W = sq.end_ - sq.start + 1)
    (rel actualStart : Int) (hso : subseqOffset a.trk.bpl a.trk.rpl sq.start = (rel, actualStart)) (hrel : 0 ≤ rel)
    (hl : Lands (inmapFasta abc) (bytes.toList.drop s.doff.toNat) rel.toNat (sq.start - actualStart).toNat (sq.start - 1).toNat) :
    (revTail a sq).2.1 = (revOf sq s.seq).1 ∧ (revTail a sq).2.2 = (revOf sq s.seq).2.1 := by
  unfold revOf
  obtain ⟨_, _, r3, _⟩ := record_shape bytes abc s hs
  have hgrow := growTo_eq sq (sq.C + sq.W).toNat
  generalize hSQ : ({ sq.growTo (sq.C + sq.W).toNat with seq := #[] } : Sq) = SQ
  obtain ⟨p1, hrn⟩ := readNres_lands bytes abc habc s hs a hf hb hr hB hi heof (s.doff + rel).toNat rel.toNat (sq.start - actualStart).toNat
    (sq.start - 1).toNat (sq.end_ - sq.start + 1).toNat (by omega) (by omega) (Int.toNat_add (Int.le_of_lt r3) hrel) hl SQ
    (by rw [← hSQ, hgrow]; exact hdig) (by rw [← hSQ, hgrow]; exact hsabc) (by rw [← hSQ])
    (by rw [← hSQ, hgrow]
        show (sq.end_ - sq.start + 1).toNat + (if sq.digital then 2 else 1) ≤
          max sq.salloc ((sq.C + sq.W).toNat + (if sq.digital then 2 else 1))
        rw [hcw]; omega)
  generalize hRC : revcomp { sq.growTo (sq.C + sq.W).toNat with seq := s.seq.extract (sq.start - 1).toNat sq.end_.toNat } = RC
  unfold revTail
  rw [hso]
  simp only [hdoff]
  have hnn : ¬ s.doff + rel < 0 := by omega
  have b1 : (Status.ok != Status.ok) = false := by decide
  simp only [hnn, if_false, p1, b1, Bool.false_eq_true, hSQ]
  have hgs : (sq.growTo (sq.C + sq.W).toNat).start = sq.start := by rw [hgrow]
  have hge : (sq.growTo (sq.C + sq.W).toNat).end_ = sq.end_ := by rw [hgrow]
  simp only [hgs, hge]
  rw [hrn]
  have b2 : (Status.ok == Status.fault) = false := by decide
  have hnl : ¬ (((sq.end_ - sq.start + 1).toNat : Int) < sq.end_ - sq.start + 1) := by omega
  simp only [b2, Bool.false_eq_true, if_false, b1, Bool.false_or, hnl, decide_false]
  have hsqeq : ({ SQ with seq := s.seq.extract (sq.start - 1).toNat ((sq.start - 1).toNat + (sq.end_ - sq.start + 1).toNat) } : Sq) =
      { sq.growTo (sq.C + sq.W).toNat with seq := s.seq.extract (sq.start - 1).toNat sq.end_.toNat } := by
    rw [← hSQ]
    have : (sq.start - 1).toNat + (sq.end_ - sq.start + 1).toNat = sq.end_.toNat := by omega
    rw [this]
  rw [hsqeq, hRC]
  obtain ⟨sq3, st3, ex3⟩ := RC
  simp only []
  by_cases e1 : st3 = .einval
  · subst e1; simp
  · have e1' : (st3 == Status.einval) = false := by simpa using e1
    simp only [e1', Bool.false_eq_true, if_false]
    by_cases e2 : st3 = .ok
    · subst e2; simp
    · have e2' : (st3 != Status.ok) = true := by simpa using e2
      simp only [e2', if_true]
      exact ⟨trivial, trivial⟩

/-- the handle holds no line geometry (`bpl ≤ 0 ∨ rpl ≤ 0`: unset or invalidated): the call seeks to `doff` and skips `start − 1`
    residues, which always lands -/
theorem revTail_brute (bytes : Bytes) (abc : Nat) (habc : abc ∈ [0, 1, 2, 3]) (s : Sq) (hs : s ∈ (parseFasta abc bytes).1)
    (a : Ascii) (hf : a.file = bytes) (hb : a.linebased = false) (hr : a.recording ≠ 1) (hB : 1 ≤ a.B)
    (hi : a.inmap = inmapFasta abc) (heof : a.eofIsOk = true) (hgeo : a.trk.bpl ≤ 0 ∨ a.trk.rpl ≤ 0)
    (sq : Sq) (hdig : sq.digital = (abc != 0)) (hsabc : sq.abc = abc) (hdoff : sq.doff = s.doff)
    (h1 : 1 ≤ sq.start) (h2 : sq.start ≤ sq.end_) (h3 : sq.end_ ≤ s.L) (hcw : sq.C + sq.W = sq.end_ - sq.start + 1) :
    (revTail a sq).2.1 = (revcomp { sq.growTo (sq.C + sq.W).toNat with seq := s.seq.extract (sq.start - 1).toNat sq.end_.toNat }).1 ∧
    (revTail a sq).2.2 = (revcomp { sq.growTo (sq.C + sq.W).toNat with seq := s.seq.extract (sq.start - 1).toNat sq.end_.toNat }).2.1 :=
  revTail_of_lands bytes abc habc s hs a hf hb hr hB hi heof sq hdig hsabc hdoff h1 h2 h3 hcw 0 1 (subseqOffset_brute _ _ _ hgeo)
    (Int.le_refl 0) (Lands.zero _ _ _)

theorem rev_first_window_brute (bytes : Bytes) (abc : Nat) (habc : abc ∈ [0, 1, 2, 3]) (s : Sq) (hs : s ∈ (parseFasta abc bytes).1)
    (a : Ascii) (hf : a.file = bytes) (hb : a.linebased = false) (hr : a.recording ≠ 1) (hB : 1 ≤ a.B)
    (hi : a.inmap = inmapFasta abc) (heof : a.eofIsOk = true) (hgeo : a.trk.bpl ≤ 0 ∨ a.trk.rpl ≤ 0)
    (sq : Sq) (hdig : sq.digital = (abc != 0)) (hsabc : sq.abc = abc) (hdoff : sq.doff = s.doff)
    (hL : sq.L = s.L) (hL1 : 1 ≤ s.L) (hst : sq.start = 0) (hen : sq.end_ = 0) (C W : Int) (hW : 1 ≤ W) :
    (readWindow a sq C (-W)).2.1 =
      (revOf { sq with start := (revInit sq.L W).1, end_ := (revInit sq.L W).2, C := 0, W := (revInit sq.L W).2 - (revInit sq.L W).1 + 1 } s.seq).1 ∧
    (readWindow a sq C (-W)).2.2 =
      (revOf { sq with start := (revInit sq.L W).1, end_ := (revInit sq.L W).2, C := 0, W := (revInit sq.L W).2 - (revInit sq.L W).1 + 1 } s.seq).2.1 := by
  rw [readWindow_rev_first a sq C W hW (by omega) (by omega) (by omega) hst]
  obtain ⟨_, w1, w2, _⟩ := Windows.revInit_spec sq.L W (by omega) hW
  exact revTail_brute bytes abc habc s hs { a with trk := a.trk.reset, linenumber := -1, L := -1 } hf hb hr hB hi heof hgeo
    { sq with start := (revInit sq.L W).1, end_ := (revInit sq.L W).2, C := 0, W := (revInit sq.L W).2 - (revInit sq.L W).1 + 1 }
    hdig hsabc hdoff w1 w2 (by rw [← hL]; exact Int.le_refl _) (Int.zero_add _)

theorem rev_next_window_brute (bytes : Bytes) (abc : Nat) (habc : abc ∈ [0, 1, 2, 3]) (s : Sq) (hs : s ∈ (parseFasta abc bytes).1)
    (a : Ascii) (hf : a.file = bytes) (hb : a.linebased = false) (hr : a.recording ≠ 1) (hB : 1 ≤ a.B)
    (hi : a.inmap = inmapFasta abc) (heof : a.eofIsOk = true) (hgeo : a.trk.bpl ≤ 0 ∨ a.trk.rpl ≤ 0)
    (sq : Sq) (hdig : sq.digital = (abc != 0)) (hsabc : sq.abc = abc) (hdoff : sq.doff = s.doff)
    (hL : sq.L = s.L) (hst : sq.start ≠ 0) (hlo : 2 ≤ sq.end_) (hhi : sq.end_ ≤ s.L) (C W : Int) (hC : 0 ≤ C) (hW : 1 ≤ W) :
    (readWindow a sq C (-W)).2.1 =
      (revOf { sq with C := (revNext sq.L C W sq.end_).1, end_ := (revNext sq.L C W sq.end_).2.1,
                       start := (revNext sq.L C W sq.end_).2.2.1, W := (revNext sq.L C W sq.end_).2.2.2 } s.seq).1 ∧
    (readWindow a sq C (-W)).2.2 =
      (revOf { sq with C := (revNext sq.L C W sq.end_).1, end_ := (revNext sq.L C W sq.end_).2.1,
                       start := (revNext sq.L C W sq.end_).2.2.1, W := (revNext sq.L C W sq.end_).2.2.2 } s.seq).2.1 := by
  rw [readWindow_rev_next a sq C W hW (by omega) (by omega) (by omega) hst]
  obtain ⟨w1, w2, w3, w4⟩ := Windows.revNext_window sq.L C W sq.end_ hC hW hlo (by omega)
  exact revTail_brute bytes abc habc s hs a hf hb hr hB hi heof hgeo
    { sq with C := (revNext sq.L C W sq.end_).1, end_ := (revNext sq.L C W sq.end_).2.1,
              start := (revNext sq.L C W sq.end_).2.2.1, W := (revNext sq.L C W sq.end_).2.2.2 }
    hdig hsabc hdoff w1 w2 (by rw [← hL]; exact w3) w4

end EaselModel.Sqio.RevWindowSpec
