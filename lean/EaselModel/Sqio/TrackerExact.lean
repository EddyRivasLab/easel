import EaselModel.Sqio.TrackLemmas
/-! # The EXACT predicate `bpl, rpl > 0` guarantees after a scan (C04 / C07) — `seebuf_linegeometry()`

A scan of whole records is, for the tracker, a sequence of records; a record is `header_*` (which resets `prv*` to −1 and `cur*`
to 0) followed by its data lines, each seen to its end: a terminated line by `Track.onEol b r` (`b` bytes inclusive of the
newline, `r` residues), the unterminated last line of a record (EOF or the next `>` without a newline) by `Track.onStop b r`.

`tracker_iff`: after such a scan from a fresh handle, `rpl = p > 0 ∧ bpl = w > 0` **iff**
* some line is followed by another line of its record,
* every line that is followed by another line of its record has exactly `w` bytes and `p` residues, and
* EVERY line — last, only, or unterminated line of a record included — has at most `p` residues and at most `w − p − 1` ignored
  bytes (blanks, `\r`; its newline not counted).
This is exactly the geometry the offset arithmetic of reverse `ReadWindow` / `FetchSubseq` needs (`Geometry.FullLines` for the
lines in front of `start`, and `start` really lies on line `(start−1)/p`). -/
namespace EaselModel.Sqio.TrackerExact
open EaselModel.Sqio

/-- a data line as the tracker has seen it when it is complete -/
structure Line where
  b : Int        -- bytes, the newline included when terminated
  r : Int        -- residues
  eol : Bool     -- terminated by a newline?
  deriving Repr, DecidableEq

/-- ignored bytes of a line (blanks, `\r`, digits in GenBank …), the newline not counted -/
def Line.x (l : Line) : Int := l.b - l.r - (if l.eol then 1 else 0)

/-- what a line of a real file satisfies -/
def Line.Ok (l : Line) : Prop := 1 ≤ l.b ∧ 0 ≤ l.r ∧ 0 ≤ l.x

/-- `header_fasta` (and the other header parsers): start the line bookkeeping of a new record -/
def hdr (t : Track) : Track := { t with prvrpl := -1, prvbpl := -1, currpl := 0, curbpl := 0 }

/-- one line seen to its end by `seebuf` -/
def line (t : Track) (l : Line) : Track := if l.eol then t.onEol l.b l.r else t.onStop l.b l.r

def runRec (t : Track) (rec : List Line) : Track := rec.foldl line (hdr t)
def runFile (t : Track) (recs : List (List Line)) : Track := recs.foldl runRec t

/-- the four fields `seebuf_linegeometry` decides on: the two widths, the maxima of residues and of ignored bytes per line -/
structure S4 where
  rpl : Int
  bpl : Int
  mr : Int
  mx : Int
  deriving Repr, DecidableEq

/-- those four fields of a tracker -/
def core (t : Track) : S4 := ⟨t.rpl, t.bpl, t.maxrpl, t.maxxpl⟩

/-- `Track.fullLine` when the record has a previous line with count `p`: an unset width takes it, an equal one stays, any other is invalidated (0) -/
def fl (p w : Int) : Int := if w = -1 then p else if p ≠ w then 0 else w

/-- the widths the previous line of the record (if any) gives -/
def prevR (prev : Option Line) (w : Int) : Int := match prev with | none => w | some q => fl q.r w
def prevB (prev : Option Line) (w : Int) : Int := match prev with | none => w | some q => fl q.b w

/-- THE abstract tracker step: one complete line `st.2` whose predecessor in its record is `st.1`. The maxima take the line in, the widths
    are what the previous line gives (`prevR`, `prevB`), and both are invalidated (0, 0) when they are set and a maximum exceeds them. -/
def g (s : S4) (st : Option Line × Line) : S4 :=
  let mr := if st.2.r > s.mr then st.2.r else s.mr
  let mx := if st.2.x > s.mx then st.2.x else s.mx
  let R := prevR st.1 s.rpl
  let B := prevB st.1 s.bpl
  if R > 0 ∧ B > 0 ∧ (mr > R ∨ mx > B - R - 1) then ⟨0, 0, mr, mx⟩ else ⟨R, B, mr, mx⟩

/-- the lines of a record, each with its predecessor in the record -/
def stepsFrom : Option Line → List Line → List (Option Line × Line)
  | _, [] => []
  | prev, l :: rest => (prev, l) :: stepsFrom (some l) rest

/-- the tracker's `prv*` fields encode the previous line of the record -/
def PrvIs (t : Track) : Option Line → Prop
  | none => t.prvrpl = -1 ∧ t.prvbpl = -1
  | some q => t.prvrpl = q.r ∧ t.prvbpl = q.b ∧ 0 ≤ q.r ∧ 0 ≤ q.b

theorem fullLine_prev (t : Track) (prev : Option Line) (hp : PrvIs t prev) :
    Track.fullLine t.prvrpl t.prvbpl t.rpl = prevR prev t.rpl ∧ Track.fullLine t.prvbpl t.prvrpl t.bpl = prevB prev t.bpl := by
  cases prev with
  | none => obtain ⟨p1, p2⟩ := hp; simp [Track.fullLine, p1, p2, prevR, prevB]
  | some q =>
    obtain ⟨p1, p2, p3, p4⟩ := hp
    have hq1 : q.r ≠ -1 := by omega
    have hq2 : q.b ≠ -1 := by omega
    simp [Track.fullLine, fl, p1, p2, hq1, hq2, prevR, prevB]

/-- `seebuf_linegeometry()` on a complete line -/
theorem lg_core (t : Track) (l : Line) (prev : Option Line) (hb : t.curbpl = l.b) (hr : t.currpl = l.r) (hp : PrvIs t prev)
    (hl : l.Ok) :
    core (t.lineGeometry l.eol) = g (core t) (prev, l) := by
  obtain ⟨h1, h2, h3⟩ := hl
  have hx : t.curbpl - t.currpl - (if l.eol = true then 1 else 0) = l.x := by rw [hb, hr]; rfl
  have hg : ¬ (t.curbpl ≤ 0 ∨ t.currpl = -1) := by omega
  obtain ⟨eR, eB⟩ := fullLine_prev t prev hp
  unfold Track.lineGeometry
  rw [if_neg hg]
  simp only [hx, eR, eB]
  simp only [hr]
  rw [apply_ite core]
  rfl

theorem core_line (t : Track) (l : Line) (prev : Option Line) (hb : t.curbpl = 0) (hr : t.currpl = 0) (hp : PrvIs t prev)
    (hl : l.Ok) :
    core (line t l) = g (core t) (prev, l) ∧
    (l.eol = true → (line t l).curbpl = 0 ∧ (line t l).currpl = 0 ∧ (line t l).prvrpl = l.r ∧ (line t l).prvbpl = l.b) := by
  have a1 : (t.advance l.b l.r).curbpl = l.b := by simp [Track.advance, hb]
  have a2 : (t.advance l.b l.r).currpl = l.r := by simp [Track.advance, hr]
  have a4 : PrvIs (t.advance l.b l.r) prev := by cases prev <;> exact hp
  have c1 : core ((t.advance l.b l.r).lineGeometry l.eol) = g (core t) (prev, l) := lg_core _ l prev a1 a2 a4 hl
  obtain ⟨c3, c2, _, _⟩ := lg_cur (t.advance l.b l.r) l.eol
  cases he : l.eol
  · rw [he] at c1
    exact ⟨by simpa [line, he, Track.onStop] using c1, by simp⟩
  · rw [he] at c1 c2 c3
    refine ⟨?_, fun _ => ?_⟩
    · have : core (line t l) = core ((t.advance l.b l.r).lineGeometry true) := by simp [line, he, Track.onEol, core]
      rw [this]; exact c1
    · simp [line, he, Track.onEol, c2, c3, a1, a2]

theorem dropLast_mem_cons {α : Type} (a b : α) (l : List α) (x : α) (h : x ∈ (b :: l).dropLast) : x ∈ (a :: b :: l).dropLast := by
  show x ∈ a :: (b :: l).dropLast
  exact List.mem_cons_of_mem a h

theorem lines_fold (ls : List Line) (t : Track) (prev : Option Line) (hb : t.curbpl = 0) (hr : t.currpl = 0) (hp : PrvIs t prev)
    (hok : ∀ l ∈ ls, l.Ok) (hterm : ∀ l ∈ ls.dropLast, l.eol = true) :
    core (ls.foldl line t) = (stepsFrom prev ls).foldl g (core t) := by
  induction ls generalizing t prev with
  | nil => rfl
  | cons l rest ih =>
    have hl := hok l (by simp)
    obtain ⟨c1, c2⟩ := core_line t l prev hb hr hp hl
    cases rest with
    | nil => simp [stepsFrom, c1]
    | cons l2 rest2 =>
      have he : l.eol = true := hterm l (by show l ∈ l :: (l2 :: rest2).dropLast; simp)
      obtain ⟨d1, d2, d3, d4⟩ := c2 he
      have hp' : PrvIs (line t l) (some l) := ⟨d3, d4, hl.2.1, by have := hl.1; omega⟩
      have := ih (line t l) (some l) d1 d2 hp' (fun x hx => hok x (by simp [hx]))
        (fun x hx => hterm x (dropLast_mem_cons l l2 rest2 x hx))
      rw [List.foldl_cons, this, c1]; rfl

def fileSteps (recs : List (List Line)) : List (Option Line × Line) := recs.flatMap (stepsFrom none)

theorem rec_fold (rec : List Line) (t : Track) (hok : ∀ l ∈ rec, l.Ok) (hterm : ∀ l ∈ rec.dropLast, l.eol = true) :
    core (runRec t rec) = (stepsFrom none rec).foldl g (core t) :=
  lines_fold rec (hdr t) none rfl rfl ⟨rfl, rfl⟩ hok hterm

theorem file_fold (recs : List (List Line)) (t : Track) (hok : ∀ rec ∈ recs, ∀ l ∈ rec, l.Ok)
    (hterm : ∀ rec ∈ recs, ∀ l ∈ rec.dropLast, l.eol = true) :
    core (runFile t recs) = (fileSteps recs).foldl g (core t) := by
  induction recs generalizing t with
  | nil => rfl
  | cons rec rest ih =>
    have := ih (runRec t rec) (fun r hr => hok r (by simp [hr])) (fun r hr => hterm r (by simp [hr]))
    simp only [runFile, List.foldl_cons] at this ⊢
    rw [this, rec_fold rec t (hok rec (by simp)) (hterm rec (by simp))]
    simp [fileSteps, List.foldl_append]

/-- the maxima after the step -/
def mr' (s : S4) (st : Option Line × Line) : Int := if st.2.r > s.mr then st.2.r else s.mr
def mx' (s : S4) (st : Option Line × Line) : Int := if st.2.x > s.mx then st.2.x else s.mx
/-- the step invalidates: the widths the previous line gives are set and a maximum exceeds them -/
def Dead (s : S4) (st : Option Line × Line) : Prop :=
  prevR st.1 s.rpl > 0 ∧ prevB st.1 s.bpl > 0 ∧
    (mr' s st > prevR st.1 s.rpl ∨ mx' s st > prevB st.1 s.bpl - prevR st.1 s.rpl - 1)

theorem g_dead (s : S4) (st : Option Line × Line) (h : Dead s st) : g s st = ⟨0, 0, mr' s st, mx' s st⟩ := by
  unfold g; exact if_pos h
theorem g_live (s : S4) (st : Option Line × Line) (h : ¬ Dead s st) :
    g s st = ⟨prevR st.1 s.rpl, prevB st.1 s.bpl, mr' s st, mx' s st⟩ := by
  unfold g; exact if_neg h

theorem g_mr (s : S4) (st : Option Line × Line) : (g s st).mr = mr' s st := by
  by_cases h : Dead s st
  · rw [g_dead s st h]
  · rw [g_live s st h]
theorem g_mx (s : S4) (st : Option Line × Line) : (g s st).mx = mx' s st := by
  by_cases h : Dead s st
  · rw [g_dead s st h]
  · rw [g_live s st h]

theorem mr'_le_iff (s : S4) (st : Option Line × Line) (p : Int) : mr' s st ≤ p ↔ s.mr ≤ p ∧ st.2.r ≤ p := by
  unfold mr'; split <;> omega
theorem mx'_le_iff (s : S4) (st : Option Line × Line) (x : Int) : mx' s st ≤ x ↔ s.mx ≤ x ∧ st.2.x ≤ x := by
  unfold mx'; split <;> omega

/-- the widths are `rpl = p`, `bpl = w` -/
def Good (s : S4) (p w : Int) : Prop := s.rpl = p ∧ s.bpl = w
/-- both widths are still unset -/
def Unset (s : S4) : Prop := s.rpl = -1 ∧ s.bpl = -1
/-- the two widths are initialised together -/
def Paired (s : S4) : Prop := s.rpl = -1 ↔ s.bpl = -1
/-- the predecessor line, if any, has non-negative counts -/
def StepOk (st : Option Line × Line) : Prop := ∀ q, st.1 = some q → 0 ≤ q.r ∧ 0 ≤ q.b

theorem fl_eq_pos (p w v : Int) (hv : 0 < v) (hp : 0 ≤ p) : fl p w = v ↔ (w = -1 ∧ p = v) ∨ (w = v ∧ p = v) := by
  unfold fl; split
  · omega
  · split <;> omega

theorem fl_ne_unset (p w : Int) (hp : 0 ≤ p) : fl p w ≠ -1 := by
  unfold fl; split
  · omega
  · split <;> omega

theorem g_paired (s : S4) (st : Option Line × Line) (hs : StepOk st) (h : Paired s) : Paired (g s st) := by
  by_cases hd : Dead s st
  · rw [g_dead s st hd]; simp [Paired]
  · rw [g_live s st hd]
    cases hq : st.1 with
    | none => simpa [Paired, prevR, prevB] using h
    | some q =>
      have := hs q hq
      have a := fl_ne_unset q.r s.rpl this.1
      have b := fl_ne_unset q.b s.bpl this.2
      simp [Paired, prevR, prevB, a, b]

theorem step_unset_iff (s : S4) (st : Option Line × Line) (hs : StepOk st) : Unset (g s st) ↔ Unset s ∧ st.1 = none := by
  constructor
  · intro h
    by_cases hd : Dead s st
    · rw [g_dead s st hd] at h; simp [Unset] at h
    · rw [g_live s st hd] at h
      cases hq : st.1 with
      | none => rw [hq] at h; exact ⟨by simpa [Unset, prevR, prevB] using h, rfl⟩
      | some q =>
        rw [hq] at h
        exact absurd h.1 (fl_ne_unset q.r s.rpl (hs q hq).1)
  · rintro ⟨u, hq⟩
    have hd : ¬ Dead s st := by
      unfold Dead; rw [hq]; simp only [prevR]; have := u.1; omega
    rw [g_live s st hd, hq]
    simpa [Unset, prevR, prevB] using u

/-- one step ends in `rpl = p > 0`, `bpl = w > 0` iff the maxima pass the test and either the line is the first of its record and the
    widths were these already, or the previous line of the record is a full line `(w, p)` and the widths were unset or these already -/
theorem step_good_iff (s : S4) (st : Option Line × Line) (hs : StepOk st) (hP : Paired s) (p w : Int) (hp : 0 < p) (hw : 0 < w) :
    Good (g s st) p w ↔ (mr' s st ≤ p ∧ mx' s st ≤ w - p - 1) ∧
      ((st.1 = none ∧ Good s p w) ∨ (∃ q, st.1 = some q ∧ q.b = w ∧ q.r = p ∧ (Unset s ∨ Good s p w))) := by
  constructor
  · intro h
    by_cases hd : Dead s st
    · rw [g_dead s st hd] at h; obtain ⟨h1, _⟩ := h; simp at h1; omega
    · rw [g_live s st hd] at h
      obtain ⟨h1, h2⟩ := h
      simp only at h1 h2
      have hb : mr' s st ≤ p ∧ mx' s st ≤ w - p - 1 := by
        unfold Dead at hd; rw [h1, h2] at hd
        constructor
        · apply Int.not_lt.mp; intro hc; exact hd ⟨hp, hw, Or.inl hc⟩
        · apply Int.not_lt.mp; intro hc; exact hd ⟨hp, hw, Or.inr hc⟩
      refine ⟨hb, ?_⟩
      cases hq : st.1 with
      | none => rw [hq] at h1 h2; exact Or.inl ⟨rfl, h1, h2⟩
      | some q =>
        rw [hq] at h1 h2
        have hq' := hs q hq
        have a := (fl_eq_pos q.r s.rpl p hp hq'.1).mp h1
        have b := (fl_eq_pos q.b s.bpl w hw hq'.2).mp h2
        refine Or.inr ⟨q, rfl, ?_, ?_, ?_⟩
        · rcases b with b | b <;> exact b.2
        · rcases a with a | a <;> exact a.2
        · rcases a with a | a
          · exact Or.inl ⟨a.1, hP.mp a.1⟩
          · rcases b with b | b
            · have := hP.mpr b.1; omega
            · exact Or.inr ⟨a.1, b.1⟩
  · rintro ⟨hb, hc⟩
    have hRB : prevR st.1 s.rpl = p ∧ prevB st.1 s.bpl = w := by
      rcases hc with ⟨hq, gd⟩ | ⟨q, hq, q1, q2, hi⟩
      · rw [hq]; exact gd
      · rw [hq]; simp only [prevR, prevB, fl, q1, q2]
        rcases hi with u | gd
        · simp [u.1, u.2]
        · rw [gd.1, gd.2]; simp
    have hd : ¬ Dead s st := by unfold Dead; rw [hRB.1, hRB.2]; omega
    rw [g_live s st hd, hRB.1, hRB.2]
    exact ⟨rfl, rfl⟩

/-- the predecessors of the steps: the lines that are followed by another line of their record -/
def preds (S : List (Option Line × Line)) : List Line := S.filterMap Prod.fst

theorem preds_cons_none {st : Option Line × Line} (S : List (Option Line × Line)) (h : st.1 = none) : preds (st :: S) = preds S := by
  simp [preds, List.filterMap_cons, h]
theorem preds_cons_some {st : Option Line × Line} {q : Line} (S : List (Option Line × Line)) (h : st.1 = some q) :
    preds (st :: S) = q :: preds S := by
  simp [preds, List.filterMap_cons, h]

theorem fold_good_iff (S : List (Option Line × Line)) (hS : ∀ st ∈ S, StepOk st) (s : S4) (hP : Paired s) (p w : Int)
    (hp : 0 < p) (hw : 0 < w) (hJ : Good s p w → s.mr ≤ p ∧ s.mx ≤ w - p - 1) :
    Good (S.foldl g s) p w ↔
      ((Unset s ∧ preds S ≠ []) ∨ Good s p w) ∧ (∀ q ∈ preds S, q.b = w ∧ q.r = p) ∧
      (s.mr ≤ p ∧ s.mx ≤ w - p - 1) ∧ ∀ l ∈ S.map Prod.snd, l.r ≤ p ∧ l.x ≤ w - p - 1 := by
  induction S generalizing s with
  | nil =>
    exact ⟨fun h => ⟨.inr h, fun _ hx => (nomatch hx), hJ h, fun _ hx => (nomatch hx)⟩,
      fun ⟨h, _⟩ => h.elim (fun ⟨_, hx⟩ => absurd rfl hx) id⟩
  | cons st rest ih =>
    have hst := hS st (by simp)
    have hg := step_good_iff s st hst hP p w hp hw
    rw [List.foldl_cons, ih (fun x hx => hS x (by simp [hx])) (g s st) (g_paired s st hst hP)
      (fun h => by rw [g_mr, g_mx]; exact (hg.mp h).1), step_unset_iff s st hst, hg, g_mr, g_mx, mr'_le_iff, mx'_le_iff]
    simp only [List.map_cons, List.mem_cons, forall_eq_or_imp]
    cases hq : st.1 with
    | none =>
      rw [preds_cons_none rest hq]
      simp only [reduceCtorEq, false_and, exists_false, or_false, true_and, and_true]
      constructor
      · rintro ⟨hi, hpr, ⟨⟨a, b⟩, c, d⟩, hl⟩
        exact ⟨hi.imp id (·.2), hpr, ⟨a, c⟩, ⟨b, d⟩, hl⟩
      · rintro ⟨hi, hpr, ⟨a, c⟩, ⟨b, d⟩, hl⟩
        exact ⟨hi.imp id (fun gd => ⟨⟨⟨a, b⟩, c, d⟩, gd⟩), hpr, ⟨⟨a, b⟩, c, d⟩, hl⟩
    | some q =>
      rw [preds_cons_some rest hq]
      simp only [reduceCtorEq, and_false, false_and, false_or, Option.some.injEq, exists_eq_left', ne_eq, not_false_eq_true, and_true,
        List.mem_cons, forall_eq_or_imp]
      constructor
      · rintro ⟨⟨_, q1, q2, hi⟩, hpr, ⟨⟨a, b⟩, c, d⟩, hl⟩
        exact ⟨hi, ⟨⟨q1, q2⟩, hpr⟩, ⟨a, c⟩, ⟨b, d⟩, hl⟩
      · rintro ⟨hi, ⟨⟨q1, q2⟩, hpr⟩, ⟨a, c⟩, ⟨b, d⟩, hl⟩
        exact ⟨⟨⟨⟨a, b⟩, c, d⟩, q1, q2, hi⟩, hpr, ⟨⟨a, b⟩, c, d⟩, hl⟩

theorem fold_unset_iff (S : List (Option Line × Line)) (hS : ∀ st ∈ S, StepOk st) (s : S4) :
    Unset (S.foldl g s) ↔ Unset s ∧ preds S = [] := by
  induction S generalizing s with
  | nil => simp [preds]
  | cons st rest ih =>
    rw [List.foldl_cons, ih (fun x hx => hS x (by simp [hx])), step_unset_iff s st (hS st (by simp)), and_assoc]
    cases hq : st.1 with
    | none => rw [preds_cons_none rest hq]; simp
    | some q => rw [preds_cons_some rest hq]; simp

theorem stepsFrom_snd (ls : List Line) (prev : Option Line) : (stepsFrom prev ls).map Prod.snd = ls := by
  induction ls generalizing prev with
  | nil => rfl
  | cons l rest ih => simp [stepsFrom, ih]

/-- the predecessors among the lines of a record: all but the last -/
theorem stepsFrom_preds (ls : List Line) (prev : Option Line) : preds (stepsFrom prev ls) = (prev.toList ++ ls).dropLast := by
  induction ls generalizing prev with
  | nil => cases prev <;> rfl
  | cons l rest ih =>
    have e : stepsFrom prev (l :: rest) = (prev, l) :: stepsFrom (some l) rest := rfl
    cases prev with
    | none => rw [e, preds_cons_none _ rfl, ih]; rfl
    | some q => rw [e, preds_cons_some _ rfl, ih]; rfl

theorem fileSteps_preds (recs : List (List Line)) : preds (fileSteps recs) = recs.flatMap List.dropLast := by
  induction recs with
  | nil => rfl
  | cons rec rest ih =>
    simp only [fileSteps, List.flatMap_cons] at ih ⊢
    rw [preds, List.filterMap_append, ← preds, ← preds, ih, stepsFrom_preds]; rfl

theorem fileSteps_snd (recs : List (List Line)) : (fileSteps recs).map Prod.snd = recs.flatten := by
  induction recs with
  | nil => rfl
  | cons rec rest ih =>
    simp only [fileSteps, List.flatMap_cons, List.map_append, List.flatten_cons] at ih ⊢
    rw [ih, stepsFrom_snd]

theorem fileSteps_ok (recs : List (List Line)) (hok : ∀ rec ∈ recs, ∀ l ∈ rec, l.Ok) : ∀ st ∈ fileSteps recs, StepOk st := by
  intro st hst q hq
  have hmem : q ∈ preds (fileSteps recs) := List.mem_filterMap.mpr ⟨st, hst, hq⟩
  rw [fileSteps_preds] at hmem
  obtain ⟨rec, hrec, hq⟩ := List.mem_flatMap.mp hmem
  have := hok rec hrec q ((List.dropLast_sublist rec).subset hq)
  exact ⟨this.2.1, by have := this.1; omega⟩

/-- **What `rpl = p > 0 ∧ bpl = w > 0` after a scan says, exactly** (the three clauses of the head of this file). -/
theorem tracker_iff (recs : List (List Line)) (hok : ∀ rec ∈ recs, ∀ l ∈ rec, l.Ok)
    (hterm : ∀ rec ∈ recs, ∀ l ∈ rec.dropLast, l.eol = true) (p w : Int) (hp : 0 < p) (hw : 0 < w) :
    ((runFile {} recs).rpl = p ∧ (runFile {} recs).bpl = w) ↔
      (∃ rec ∈ recs, ∃ l, l ∈ rec.dropLast) ∧
      (∀ rec ∈ recs, ∀ l ∈ rec.dropLast, l.b = w ∧ l.r = p) ∧
      (∀ rec ∈ recs, ∀ l ∈ rec, l.r ≤ p ∧ l.x ≤ w - p - 1) := by
  have hcore : ((runFile {} recs).rpl = p ∧ (runFile {} recs).bpl = w) ↔ Good ((fileSteps recs).foldl g (core {})) p w := by
    rw [← file_fold recs {} hok hterm]; rfl
  have hng : ¬ Good (core {}) p w := fun gd => by have := gd.1; simp [core] at this; omega
  have hne : recs.flatMap List.dropLast ≠ [] ↔ ∃ rec ∈ recs, ∃ l, l ∈ rec.dropLast :=
    ⟨fun h => by
      obtain ⟨l, hl⟩ := List.exists_mem_of_ne_nil _ h
      obtain ⟨rec, hrec, hl⟩ := List.mem_flatMap.mp hl
      exact ⟨rec, hrec, l, hl⟩,
     fun ⟨rec, hrec, l, hl⟩ => List.ne_nil_of_mem (List.mem_flatMap.mpr ⟨rec, hrec, hl⟩)⟩
  rw [hcore, fold_good_iff _ (fileSteps_ok recs hok) _ (by simp [Paired, core]) p w hp hw (fun gd => absurd gd hng),
    fileSteps_preds, fileSteps_snd, hne]
  simp only [hng, or_false, List.mem_flatMap, List.mem_flatten, forall_exists_index, and_imp]
  constructor
  · rintro ⟨⟨_, hi⟩, hpr, _, hl⟩
    exact ⟨hi, fun rec hrec l hl' => hpr l rec hrec hl', fun rec hrec l hl' => hl l rec hrec hl'⟩
  · rintro ⟨⟨rec, hrec, l, hl⟩, h2, h3⟩
    refine ⟨⟨⟨rfl, rfl⟩, rec, hrec, l, hl⟩, fun q rec' hrec' hq => h2 rec' hrec' q hq, ⟨?_, ?_⟩, fun l' rec' hrec' hl' => h3 rec' hrec' l' hl'⟩
    · show (0 : Int) ≤ p; omega
    · -- a full line has `w − p − 1` ignored bytes, and no line has fewer than none
      show (0 : Int) ≤ w - p - 1
      have := h2 rec hrec l hl
      have hl' := hok rec hrec l ((List.dropLast_sublist rec).subset hl)
      have hx := (h3 rec hrec l ((List.dropLast_sublist rec).subset hl)).2
      have := hl'.2.2
      omega

/-- **`rpl = bpl = −1` after the scan ⇔ no line of the file is followed by another line of its record** -/
theorem tracker_unset_iff (recs : List (List Line)) (hok : ∀ rec ∈ recs, ∀ l ∈ rec, l.Ok)
    (hterm : ∀ rec ∈ recs, ∀ l ∈ rec.dropLast, l.eol = true) :
    ((runFile {} recs).rpl = -1 ∧ (runFile {} recs).bpl = -1) ↔ ∀ rec ∈ recs, rec.dropLast = [] := by
  have hcore : ((runFile {} recs).rpl = -1 ∧ (runFile {} recs).bpl = -1) ↔ Unset ((fileSteps recs).foldl g (core {})) := by
    rw [← file_fold recs {} hok hterm]; rfl
  rw [hcore, fold_unset_iff _ (fileSteps_ok recs hok), fileSteps_preds, List.flatMap_eq_nil_iff]
  exact ⟨fun h => h.2, fun h => ⟨⟨rfl, rfl⟩, h⟩⟩

end EaselModel.Sqio.TrackerExact
