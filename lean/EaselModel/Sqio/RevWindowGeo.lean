import EaselModel.Sqio.RevWindowSpec
/-! # Reverse-strand windows with line geometry = reverse complement of the slice of the scanned record (C04, on C07's `FetchSpec`)

`RevWindowSpec.revTail_brute` covers a handle without line geometry. Here the handle holds `bpl`, `rpl` and `subseqOffset` seeks into
the data: under the geometry hypotheses of `FetchSpec` (complete lines before the window start) the seek lands
(`RevWindowSpec.revTail_of_lands`) and the result is the same. -/
namespace EaselModel.Sqio.RevWindowGeo
open EaselModel.Sqio.Refine EaselModel.Sqio.Fold EaselModel.Sqio.DataScan EaselModel.Sqio.Cursor EaselModel.Sqio.BodySpec
open EaselModel.Sqio.HeaderSpec EaselModel.Sqio.ReadSpec EaselModel.Sqio.ParseFasta EaselModel.Sqio.WindowSpec EaselModel.Sqio.FetchSpec
open EaselModel.Sqio.RevWindowSpec

theorem subseqOffset_line (bpl rpl start : Int) (hb : 0 < bpl) (hr : 0 < rpl) (hne : bpl ≠ rpl + 1) :
    subseqOffset bpl rpl start = ((start - 1) / rpl * bpl, 1 + (start - 1) / rpl * rpl) := by
  have c1 : (decide (bpl ≤ 0) || decide (rpl ≤ 0)) = false := by
    have a1 : ¬ bpl ≤ 0 := by omega
    have a2 : ¬ rpl ≤ 0 := by omega
    simp [a1, a2]
  simp [subseqOffset, c1, hne]

theorem subseqOffset_residue (bpl rpl start : Int) (_hb : 0 < bpl) (hr : 0 < rpl) (he : bpl = rpl + 1) :
    subseqOffset bpl rpl start = ((start - 1) / rpl * bpl + (start - 1) % rpl, start) := by
  have c1 : (decide (bpl ≤ 0) || decide (rpl ≤ 0)) = false := by
    have a1 : ¬ bpl ≤ 0 := by omega
    have a2 : ¬ rpl ≤ 0 := by omega
    simp [a1, a2]
  have c2 : (bpl == rpl + 1) = true := by simp [he]
  simp only [subseqOffset, c1, c2, Bool.false_eq_true, if_false, if_true]

/-- **line addressing** (`bpl ≠ rpl + 1`): the record's data begins with `(start−1)/rpl` complete lines of `bpl` bytes / `rpl` residues -/
theorem revTail_line (bytes : Bytes) (abc : Nat) (habc : abc ∈ [0, 1, 2, 3]) (s : Sq) (hs : s ∈ (parseFasta abc bytes).1)
    (a : Ascii) (hf : a.file = bytes) (hb : a.linebased = false) (hr : a.recording ≠ 1) (hB : 1 ≤ a.B)
    (hi : a.inmap = inmapFasta abc) (heof : a.eofIsOk = true)
    (b r : Nat) (hbpl : a.trk.bpl = (b : Int)) (hrpl : a.trk.rpl = (r : Int)) (hr0 : 0 < r) (hb0 : 0 < b) (hne : b ≠ r + 1)
    (sq : Sq) (hdig : sq.digital = (abc != 0)) (hsabc : sq.abc = abc) (hdoff : sq.doff = s.doff)
    (h1 : 1 ≤ sq.start) (h2 : sq.start ≤ sq.end_) (h3 : sq.end_ ≤ s.L) (hcw : sq.C + sq.W = sq.end_ - sq.start + 1)
    (lines : List (List UInt8)) (tail : List UInt8) (hgeo : bytes.toList.drop s.doff.toNat = lines.flatten ++ tail)
    (hfull : Geometry.FullLines (isRes (inmapFasta abc)) b r lines)
    (hdat : ∀ c ∈ lines.flatten, isData (inmapFasta abc) c = true) (hl : lines.length = (sq.start.toNat - 1) / r) :
    (revTail a sq).2.1 = (revOf sq s.seq).1 ∧ (revTail a sq).2.2 = (revOf sq s.seq).2.1 := by
  have hso := subseqOffset_line a.trk.bpl a.trk.rpl sq.start (by omega) (by omega) (by omega)
  obtain ⟨g0, gl⟩ := lands_line (inmapFasta abc) _ sq.start h1 b r lines tail hgeo hfull hdat hl
  rw [← hbpl, ← hrpl] at g0 gl
  exact revTail_of_lands bytes abc habc s hs a hf hb hr hB hi heof sq hdig hsabc hdoff h1 h2 h3 hcw _ _ hso g0 gl

/-- **residue addressing** (`bpl = rpl + 1`): moreover the line holding residue `start` begins with more than `(start−1) % rpl` residues -/
theorem revTail_residue (bytes : Bytes) (abc : Nat) (habc : abc ∈ [0, 1, 2, 3]) (s : Sq) (hs : s ∈ (parseFasta abc bytes).1)
    (a : Ascii) (hf : a.file = bytes) (hb : a.linebased = false) (hr : a.recording ≠ 1) (hB : 1 ≤ a.B)
    (hi : a.inmap = inmapFasta abc) (heof : a.eofIsOk = true)
    (r : Nat) (hbpl : a.trk.bpl = ((r + 1 : Nat) : Int)) (hrpl : a.trk.rpl = (r : Int)) (hr0 : 0 < r)
    (sq : Sq) (hdig : sq.digital = (abc != 0)) (hsabc : sq.abc = abc) (hdoff : sq.doff = s.doff)
    (h1 : 1 ≤ sq.start) (h2 : sq.start ≤ sq.end_) (h3 : sq.end_ ≤ s.L) (hcw : sq.C + sq.W = sq.end_ - sq.start + 1)
    (lines : List (List UInt8)) (res tail : List UInt8) (hgeo : bytes.toList.drop s.doff.toNat = lines.flatten ++ (res ++ tail))
    (hfull : Geometry.FullLines (isRes (inmapFasta abc)) (r + 1) r lines)
    (hdat : ∀ c ∈ lines.flatten, isData (inmapFasta abc) c = true) (hres : ∀ c ∈ res, isRes (inmapFasta abc) c = true)
    (hj : (sq.start.toNat - 1) % r ≤ res.length) (hl : lines.length = (sq.start.toNat - 1) / r) :
    (revTail a sq).2.1 = (revOf sq s.seq).1 ∧ (revTail a sq).2.2 = (revOf sq s.seq).2.1 := by
  have hso := subseqOffset_residue a.trk.bpl a.trk.rpl sq.start (by omega) (by omega) (by omega)
  obtain ⟨g0, gl⟩ := lands_residue (inmapFasta abc) _ sq.start h1 r lines res tail hgeo hfull hdat hres hj hl
  rw [← hbpl, ← hrpl] at g0 gl
  exact revTail_of_lands bytes abc habc s hs a hf hb hr hB hi heof sq hdig hsabc hdoff h1 h2 h3 hcw _ _ hso g0 gl

/-- first reverse window, line addressing (geometry stated for the scheduled start `(revInit L W).1 = max 1 (L − W + 1)`) -/
theorem rev_first_window_line (bytes : Bytes) (abc : Nat) (habc : abc ∈ [0, 1, 2, 3]) (s : Sq) (hs : s ∈ (parseFasta abc bytes).1)
    (a : Ascii) (hf : a.file = bytes) (hb : a.linebased = false) (hr : a.recording ≠ 1) (hB : 1 ≤ a.B)
    (hi : a.inmap = inmapFasta abc) (heof : a.eofIsOk = true)
    (sq : Sq) (hdig : sq.digital = (abc != 0)) (hsabc : sq.abc = abc) (hdoff : sq.doff = s.doff)
    (hL : sq.L = s.L) (hL1 : 1 ≤ s.L) (hst : sq.start = 0) (hen : sq.end_ = 0) (C W : Int) (hW : 1 ≤ W)
    (b r : Nat) (hbpl : a.trk.bpl = (b : Int)) (hrpl : a.trk.rpl = (r : Int)) (hr0 : 0 < r) (hb0 : 0 < b) (hne : b ≠ r + 1)
    (lines : List (List UInt8)) (tail : List UInt8) (hgeo : bytes.toList.drop s.doff.toNat = lines.flatten ++ tail)
    (hfull : Geometry.FullLines (isRes (inmapFasta abc)) b r lines)
    (hdat : ∀ c ∈ lines.flatten, isData (inmapFasta abc) c = true) (hl : lines.length = ((revInit sq.L W).1.toNat - 1) / r) :
    (readWindow a sq C (-W)).2.1 =
      (revOf { sq with start := (revInit sq.L W).1, end_ := (revInit sq.L W).2, C := 0, W := (revInit sq.L W).2 - (revInit sq.L W).1 + 1 } s.seq).1 ∧
    (readWindow a sq C (-W)).2.2 =
      (revOf { sq with start := (revInit sq.L W).1, end_ := (revInit sq.L W).2, C := 0, W := (revInit sq.L W).2 - (revInit sq.L W).1 + 1 } s.seq).2.1 := by
  rw [readWindow_rev_first a sq C W hW (by omega) (by omega) (by omega) hst]
  obtain ⟨_, w1, w2, _⟩ := Windows.revInit_spec sq.L W (by omega) hW
  exact revTail_line bytes abc habc s hs { a with trk := a.trk.reset, linenumber := -1, L := -1 } hf hb hr hB hi heof b r hbpl hrpl hr0 hb0 hne
    { sq with start := (revInit sq.L W).1, end_ := (revInit sq.L W).2, C := 0, W := (revInit sq.L W).2 - (revInit sq.L W).1 + 1 }
    hdig hsabc hdoff w1 w2 (by rw [← hL]; exact Int.le_refl _) (Int.zero_add _) lines tail hgeo hfull hdat hl

theorem rev_first_window_residue (bytes : Bytes) (abc : Nat) (habc : abc ∈ [0, 1, 2, 3]) (s : Sq) (hs : s ∈ (parseFasta abc bytes).1)
    (a : Ascii) (hf : a.file = bytes) (hb : a.linebased = false) (hr : a.recording ≠ 1) (hB : 1 ≤ a.B)
    (hi : a.inmap = inmapFasta abc) (heof : a.eofIsOk = true)
    (sq : Sq) (hdig : sq.digital = (abc != 0)) (hsabc : sq.abc = abc) (hdoff : sq.doff = s.doff)
    (hL : sq.L = s.L) (hL1 : 1 ≤ s.L) (hst : sq.start = 0) (hen : sq.end_ = 0) (C W : Int) (hW : 1 ≤ W)
    (r : Nat) (hbpl : a.trk.bpl = ((r + 1 : Nat) : Int)) (hrpl : a.trk.rpl = (r : Int)) (hr0 : 0 < r)
    (lines : List (List UInt8)) (res tail : List UInt8) (hgeo : bytes.toList.drop s.doff.toNat = lines.flatten ++ (res ++ tail))
    (hfull : Geometry.FullLines (isRes (inmapFasta abc)) (r + 1) r lines)
    (hdat : ∀ c ∈ lines.flatten, isData (inmapFasta abc) c = true) (hres : ∀ c ∈ res, isRes (inmapFasta abc) c = true)
    (hj : ((revInit sq.L W).1.toNat - 1) % r ≤ res.length) (hl : lines.length = ((revInit sq.L W).1.toNat - 1) / r) :
    (readWindow a sq C (-W)).2.1 =
      (revOf { sq with start := (revInit sq.L W).1, end_ := (revInit sq.L W).2, C := 0, W := (revInit sq.L W).2 - (revInit sq.L W).1 + 1 } s.seq).1 ∧
    (readWindow a sq C (-W)).2.2 =
      (revOf { sq with start := (revInit sq.L W).1, end_ := (revInit sq.L W).2, C := 0, W := (revInit sq.L W).2 - (revInit sq.L W).1 + 1 } s.seq).2.1 := by
  rw [readWindow_rev_first a sq C W hW (by omega) (by omega) (by omega) hst]
  obtain ⟨_, w1, w2, _⟩ := Windows.revInit_spec sq.L W (by omega) hW
  exact revTail_residue bytes abc habc s hs { a with trk := a.trk.reset, linenumber := -1, L := -1 } hf hb hr hB hi heof r hbpl hrpl hr0
    { sq with start := (revInit sq.L W).1, end_ := (revInit sq.L W).2, C := 0, W := (revInit sq.L W).2 - (revInit sq.L W).1 + 1 }
    hdig hsabc hdoff w1 w2 (by rw [← hL]; exact Int.le_refl _) (Int.zero_add _) lines res tail hgeo hfull hdat hres hj hl

/-- later reverse windows, line addressing (geometry stated for the scheduled start `(revNext L C W prevLow).2.2.1`) -/
theorem rev_next_window_line (bytes : Bytes) (abc : Nat) (habc : abc ∈ [0, 1, 2, 3]) (s : Sq) (hs : s ∈ (parseFasta abc bytes).1)
    (a : Ascii) (hf : a.file = bytes) (hb : a.linebased = false) (hr : a.recording ≠ 1) (hB : 1 ≤ a.B)
    (hi : a.inmap = inmapFasta abc) (heof : a.eofIsOk = true)
    (sq : Sq) (hdig : sq.digital = (abc != 0)) (hsabc : sq.abc = abc) (hdoff : sq.doff = s.doff)
    (hL : sq.L = s.L) (hst : sq.start ≠ 0) (hlo : 2 ≤ sq.end_) (hhi : sq.end_ ≤ s.L) (C W : Int) (hC : 0 ≤ C) (hW : 1 ≤ W)
    (b r : Nat) (hbpl : a.trk.bpl = (b : Int)) (hrpl : a.trk.rpl = (r : Int)) (hr0 : 0 < r) (hb0 : 0 < b) (hne : b ≠ r + 1)
    (lines : List (List UInt8)) (tail : List UInt8) (hgeo : bytes.toList.drop s.doff.toNat = lines.flatten ++ tail)
    (hfull : Geometry.FullLines (isRes (inmapFasta abc)) b r lines)
    (hdat : ∀ c ∈ lines.flatten, isData (inmapFasta abc) c = true) (hl : lines.length = ((revNext sq.L C W sq.end_).2.2.1.toNat - 1) / r) :
    (readWindow a sq C (-W)).2.1 =
      (revOf { sq with C := (revNext sq.L C W sq.end_).1, end_ := (revNext sq.L C W sq.end_).2.1,
                       start := (revNext sq.L C W sq.end_).2.2.1, W := (revNext sq.L C W sq.end_).2.2.2 } s.seq).1 ∧
    (readWindow a sq C (-W)).2.2 =
      (revOf { sq with C := (revNext sq.L C W sq.end_).1, end_ := (revNext sq.L C W sq.end_).2.1,
                       start := (revNext sq.L C W sq.end_).2.2.1, W := (revNext sq.L C W sq.end_).2.2.2 } s.seq).2.1 := by
  rw [readWindow_rev_next a sq C W hW (by omega) (by omega) (by omega) hst]
  obtain ⟨w1, w2, w3, w4⟩ := Windows.revNext_window sq.L C W sq.end_ hC hW hlo (by omega)
  exact revTail_line bytes abc habc s hs a hf hb hr hB hi heof b r hbpl hrpl hr0 hb0 hne
    { sq with C := (revNext sq.L C W sq.end_).1, end_ := (revNext sq.L C W sq.end_).2.1,
              start := (revNext sq.L C W sq.end_).2.2.1, W := (revNext sq.L C W sq.end_).2.2.2 }
    hdig hsabc hdoff w1 w2 (by rw [← hL]; exact w3) w4 lines tail hgeo hfull hdat hl

theorem rev_next_window_residue (bytes : Bytes) (abc : Nat) (habc : abc ∈ [0, 1, 2, 3]) (s : Sq) (hs : s ∈ (parseFasta abc bytes).1)
    (a : Ascii) (hf : a.file = bytes) (hb : a.linebased = false) (hr : a.recording ≠ 1) (hB : 1 ≤ a.B)
    (hi : a.inmap = inmapFasta abc) (heof : a.eofIsOk = true)
    (sq : Sq) (hdig : sq.digital = (abc != 0)) (hsabc : sq.abc = abc) (hdoff : sq.doff = s.doff)
    (hL : sq.L = s.L) (hst : sq.start ≠ 0) (hlo : 2 ≤ sq.end_) (hhi : sq.end_ ≤ s.L) (C W : Int) (hC : 0 ≤ C) (hW : 1 ≤ W)
    (r : Nat) (hbpl : a.trk.bpl = ((r + 1 : Nat) : Int)) (hrpl : a.trk.rpl = (r : Int)) (hr0 : 0 < r)
    (lines : List (List UInt8)) (res tail : List UInt8) (hgeo : bytes.toList.drop s.doff.toNat = lines.flatten ++ (res ++ tail))
    (hfull : Geometry.FullLines (isRes (inmapFasta abc)) (r + 1) r lines)
    (hdat : ∀ c ∈ lines.flatten, isData (inmapFasta abc) c = true) (hres : ∀ c ∈ res, isRes (inmapFasta abc) c = true)
    (hj : ((revNext sq.L C W sq.end_).2.2.1.toNat - 1) % r ≤ res.length) (hl : lines.length = ((revNext sq.L C W sq.end_).2.2.1.toNat - 1) / r) :
    (readWindow a sq C (-W)).2.1 =
      (revOf { sq with C := (revNext sq.L C W sq.end_).1, end_ := (revNext sq.L C W sq.end_).2.1,
                       start := (revNext sq.L C W sq.end_).2.2.1, W := (revNext sq.L C W sq.end_).2.2.2 } s.seq).1 ∧
    (readWindow a sq C (-W)).2.2 =
      (revOf { sq with C := (revNext sq.L C W sq.end_).1, end_ := (revNext sq.L C W sq.end_).2.1,
                       start := (revNext sq.L C W sq.end_).2.2.1, W := (revNext sq.L C W sq.end_).2.2.2 } s.seq).2.1 := by
  rw [readWindow_rev_next a sq C W hW (by omega) (by omega) (by omega) hst]
  obtain ⟨w1, w2, w3, w4⟩ := Windows.revNext_window sq.L C W sq.end_ hC hW hlo (by omega)
  exact revTail_residue bytes abc habc s hs a hf hb hr hB hi heof r hbpl hrpl hr0
    { sq with C := (revNext sq.L C W sq.end_).1, end_ := (revNext sq.L C W sq.end_).2.1,
              start := (revNext sq.L C W sq.end_).2.2.1, W := (revNext sq.L C W sq.end_).2.2.2 }
    hdig hsabc hdoff w1 w2 (by rw [← hL]; exact w3) w4 lines res tail hgeo hfull hdat hres hj hl

/-! ## non-vacuity: `>a\nACGT \nACGT \nAC\n` (`bpl = 6`, `rpl = 4`), 2-byte blocks, first reverse window of 3 residues (8..10 = `TAC`) -/

def hGeo : Ascii := { file := FetchSpec.demoB, B := 2, inmap := inmapFasta 0, fmt := 1, eofIsOk := true, trk := { bpl := 6, rpl := 4 } }

example : ((readWindow hGeo { L := 10, doff := 3, start := 0, end_ := 0 } 0 (-3)).2.2,
    (readWindow hGeo { L := 10, doff := 3, start := 0, end_ := 0 } 0 (-3)).2.1.seq) = (Status.ok, #[71, 84, 65]) := by
  rw [hGeo, inmapFasta_text]; decide +kernel

end EaselModel.Sqio.RevWindowGeo
