import EaselModel.Sqio.MsaSeqMode
/-! # From `esl_sqfile_Open` through any number of `esl_sqio_Read` calls on an alignment file (C02): end-to-end totality. -/
namespace EaselModel.Sqio.MsaSeq
open EaselModel.Msafile

/-- the caller's loop `while ((status = esl_sqio_Read(sqfp, sq)) == eslOK) { …; esl_sq_Reuse(sq); }`, at most `n` calls: the handle and
    the status that ended it (`eslOK` when `n` calls succeeded) -/
def readN : Nat → MsaH → Sq → MsaH × Status
  | 0, h, _ => (h, .ok)
  | n + 1, h, sq =>
    match read h sq.reuse with
    | (h', q, st) => if st != .ok then (h', st) else readN n h' q

theorem reuse_digital (s : Sq) : s.reuse.digital = s.digital := rfl

theorem readN_total : ∀ (n : Nat) (h : MsaH) (sq : Sq), Inv h → 0 ≤ h.idx → sq.digital = h.o.abc.isSome →
    Inv (readN n h sq).1 ∧ 0 ≤ (readN n h sq).1.idx ∧ (readN n h sq).1.exc = h.exc ∧ (readN n h sq).1.o = h.o ∧
    ((readN n h sq).2 = .ok ∨ (readN n h sq).2 = .eof ∨ ((readN n h sq).2 = .eformat ∧ (readN n h sq).1.haveErr = true)) := by
  intro n
  induction n with
  | zero => intro h sq hi hidx _; exact ⟨hi, hidx, rfl, rfl, Or.inl rfl⟩
  | succ n ih =>
    intro h sq hi hidx hsq
    unfold readN
    obtain ⟨r1, r2, r3, r4, r5⟩ := read_total h sq.reuse hi (modeOk_every h.o) hidx (by rw [reuse_digital]; exact hsq)
    generalize MsaSeq.read h sq.reuse = rr at r1 r2 r3 r4 r5
    obtain ⟨h', q, st⟩ := rr
    simp only at r1 r2 r3 r4 r5 ⊢
    rcases r5 with ⟨hst, hqd, _⟩ | hst | ⟨hst, herr⟩
    · subst hst
      have e : (Status.ok != Status.ok) = false := rfl
      simp only [e, Bool.false_eq_true, if_false]
      obtain ⟨k1, k2, k3, k4, k5⟩ := ih h' q r1 r4 (by rw [hqd, reuse_digital, r2]; exact hsq)
      exact ⟨k1, k2, k3.trans r3, k4.trans r2, k5⟩
    · subst hst
      have e : (Status.eof != Status.ok) = true := rfl
      simp only [e, if_true]
      exact ⟨r1, r4, r3, r2, Or.inr (Or.inl trivial)⟩
    · subst hst
      have e : (Status.eformat != Status.ok) = true := rfl
      simp only [e, if_true]
      exact ⟨r1, r4, r3, r2, Or.inr (Or.inr ⟨trivial, herr⟩)⟩

/-- the caller's `ESL_SQ`: `esl_sq_Create()` (text) or `esl_sq_CreateDigital(abc)` -/
def callerSq (abc : Nat) : Sq := { digital := abc != 0, abc := abc }

theorem callerSq_mode (abc : Nat) (h : abc ≤ 3) : (callerSq abc).digital = (abcTypeOf abc).isSome := by
  have : abc = 0 ∨ abc = 1 ∨ abc = 2 ∨ abc = 3 := by omega
  rcases this with h | h | h | h <;> subst h <;> rfl

/-- **an alignment file read as sequences, end to end, for EVERY byte string**: whatever the bytes, the file name, the format selection
    (one of the ten alignment formats or autodetection) and the mode (text, DNA, RNA, amino): `esl_sqfile_Open*` answers `eslOK` or
    `eslEFORMAT`; after `eslOK`, any number `n` of `esl_sqio_Read` calls (with `esl_sq_Reuse` in between) ends with `eslOK` (all `n`
    succeeded), `eslEOF`, or `eslEFORMAT` with a message - never a fault, never an exception. -/
theorem file_read_total (file : Bytes) (fname : LBytes) (fsel : FmtSel) (abc n : Nat) (habc : abc ≤ 3) :
    (((openMsa file fname fsel abc).2 = .ok ∧ (openMsa file fname fsel abc).1.isSome = true) ∨
     ((openMsa file fname fsel abc).2 = .eformat ∧ (openMsa file fname fsel abc).1 = none)) ∧
    ∀ h, (openMsa file fname fsel abc).1 = some h →
      (readN n h (callerSq abc)).1.exc = false ∧
      ((readN n h (callerSq abc)).2 = .ok ∨ (readN n h (callerSq abc)).2 = .eof ∨
       ((readN n h (callerSq abc)).2 = .eformat ∧ (readN n h (callerSq abc)).1.haveErr = true)) := by
  refine ⟨openMsa_total file fname fsel abc, fun h ho => ?_⟩
  obtain ⟨i1, i2, i3, i4⟩ := openMsa_inv file fname fsel abc h ho
  obtain ⟨_, _, k3, _, k5⟩ := readN_total n h (callerSq abc) i1 (by omega) (by rw [i4]; exact callerSq_mode abc habc)
  exact ⟨k3.trans i3, k5⟩

end EaselModel.Sqio.MsaSeq
