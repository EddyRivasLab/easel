import EaselModel.Sqio.TrackerExact
import EaselModel.Sqio.TrackLemmas
/-! # `seebuf` may stop anywhere inside a line: the tracker does not notice (C04 / C07)

`seebuf` is called buffer by buffer and window by window, so a data line usually reaches the tracker in pieces: any number of
`Track.onStop b r` (the tail of a `seebuf` call that ends inside the line) before the `Track.onEol b r` (or last `onStop`) that
completes it. `piece_then`: a piece followed by the rest of the line leaves the tracker in exactly the state the whole line
in one piece leaves it in; `chunked_line`: any number of pieces. So `TrackerExact.tracker_iff`, stated for lines seen in one piece,
holds for every way the read-block size and the window widths cut the lines. -/
namespace EaselModel.Sqio.TrackerChunks
open EaselModel.Sqio EaselModel.Sqio.TrackerExact

/-- a piece of a line followed by the rest of it is the line in one piece: `onStop_then`, for any tracker whose counters are unset or
    non-negative -/
theorem piece_then (t : Track) (b1 r1 : Int) (l : Line) (h1 : -1 ≤ t.curbpl) (h2 : -1 ≤ t.currpl) (hb1 : 0 ≤ b1) (hr1 : 0 ≤ r1)
    (hr : 0 ≤ l.r) (hx : 0 ≤ l.x) : line (line t ⟨b1, r1, false⟩) l = line t ⟨b1 + l.b, r1 + l.r, l.eol⟩ := by
  have key := onStop_then t b1 r1 l.b l.r l.eol h1 h2 hb1 hr1 hr (by unfold Line.x at hx; omega)
  unfold line
  simp only [Bool.false_eq_true, if_false]
  cases he : l.eol with
  | false => rw [he] at key; exact key
  | true => rw [he] at key; simp only [if_true]; unfold Track.onEol; rw [key]

/-- the tracker is inside a line of a record whose previous line is `prev`: counters known, no more residues than bytes -/
structure InLine (t : Track) (prev : Option Line) : Prop where
  cb : 0 ≤ t.curbpl
  cr : 0 ≤ t.currpl
  le : t.currpl ≤ t.curbpl
  prv : PrvIs t prev

def piece (t : Track) (c : Int × Int) : Track := line t ⟨c.1, c.2, false⟩

theorem InLine.piece_ok {t : Track} {prev : Option Line} (h : InLine t prev) (c : Int × Int) (hc : 1 ≤ c.1 ∧ 0 ≤ c.2 ∧ c.2 ≤ c.1) :
    (⟨t.curbpl + c.1, t.currpl + c.2, false⟩ : Line).Ok := by
  obtain ⟨c1, c2, c3⟩ := hc
  refine ⟨by simp only; have := h.cb; omega, by simp only; have := h.cr; omega, ?_⟩
  simp only [Line.x, Bool.false_eq_true, ↓reduceIte]; have := h.le; omega

/-- a piece inside a line adds to the two counters and leaves the tracker inside the line: `seebuf_linegeometry` does not touch
    `cur*` / `prv*` (`lg_cur`) -/
theorem piece_inLine (t : Track) (prev : Option Line) (c : Int × Int) (h : InLine t prev) (hc : 1 ≤ c.1 ∧ 0 ≤ c.2 ∧ c.2 ≤ c.1) :
    InLine (piece t c) prev ∧ (piece t c).curbpl = t.curbpl + c.1 ∧ (piece t c).currpl = t.currpl + c.2 := by
  obtain ⟨g1, g2, g3, g4⟩ := lg_cur (t.advance c.1 c.2) false
  have hb : t.curbpl ≠ -1 := by have := h.cb; omega
  have hr : t.currpl ≠ -1 := by have := h.cr; omega
  have a : (piece t c).curbpl = t.curbpl + c.1 := g2.trans (if_pos hb)
  have b : (piece t c).currpl = t.currpl + c.2 := g1.trans (if_pos hr)
  have p1 : (piece t c).prvrpl = t.prvrpl := g3
  have p2 : (piece t c).prvbpl = t.prvbpl := g4
  refine ⟨⟨by rw [a]; have := h.cb; omega, by rw [b]; have := h.cr; omega, by rw [a, b]; have := h.le; omega, ?_⟩, a, b⟩
  cases prev with
  | none => exact ⟨p1.trans h.prv.1, p2.trans h.prv.2⟩
  | some q => exact ⟨p1.trans h.prv.1, p2.trans h.prv.2.1, h.prv.2.2.1, h.prv.2.2.2⟩

theorem piece_bounds (t : Track) (c : Int × Int) (h1 : -1 ≤ t.curbpl) (h2 : -1 ≤ t.currpl) (hb : 0 ≤ c.1) (hr : 0 ≤ c.2) :
    -1 ≤ (piece t c).curbpl ∧ -1 ≤ (piece t c).currpl :=
  onStop_bounds t c.1 c.2 h1 h2 hb hr

theorem pieces_sum (cs : List (Int × Int)) (hcs : ∀ c ∈ cs, 1 ≤ c.1 ∧ 0 ≤ c.2 ∧ c.2 ≤ c.1) :
    0 ≤ (cs.map Prod.snd).sum ∧ (cs.map Prod.snd).sum ≤ (cs.map Prod.fst).sum := by
  induction cs with
  | nil => simp
  | cons x xs ih =>
    have hx := hcs x (by simp)
    have := ih (fun y hy => hcs y (List.mem_cons_of_mem x hy))
    simp only [List.map_cons, List.sum_cons]; omega

theorem chunked_line (cs : List (Int × Int)) (l : Line) (hr : 0 ≤ l.r) (hx : 0 ≤ l.x) : ∀ (t : Track), -1 ≤ t.curbpl → -1 ≤ t.currpl →
    (∀ c ∈ cs, 1 ≤ c.1 ∧ 0 ≤ c.2 ∧ c.2 ≤ c.1) →
    line (cs.foldl piece t) l = line t ⟨(cs.map Prod.fst).sum + l.b, (cs.map Prod.snd).sum + l.r, l.eol⟩ := by
  induction cs with
  | nil => intro t _ _ _; simp
  | cons c rest ih =>
    intro t h1 h2 hcs
    have hc := hcs c (by simp)
    obtain ⟨i1, i2⟩ := piece_bounds t c h1 h2 (by omega) hc.2.1
    rw [List.foldl_cons, ih (piece t c) i1 i2 (fun x hx => hcs x (by simp [hx]))]
    obtain ⟨hs0, hs1⟩ := pieces_sum rest (fun x hx => hcs x (List.mem_cons_of_mem c hx))
    have hx' : l.x = l.b - l.r - (if l.eol then 1 else 0) := rfl
    have := piece_then t c.1 c.2 ⟨(rest.map Prod.fst).sum + l.b, (rest.map Prod.snd).sum + l.r, l.eol⟩ h1 h2 (by omega) hc.2.1
      (by simp only; omega) (by simp only [Line.x]; rw [hx'] at hx; omega)
    simp only at this
    unfold piece
    rw [this]
    simp only [List.map_cons, List.sum_cons]
    congr 2 <;> omega

end EaselModel.Sqio.TrackerChunks
