import EaselModel.Sqio.ReadSpec
import EaselModel.Sqio.DriverLogic
/-! # The whole FASTA reader = `parseFasta`, for every read-block size (C04 / C02 whole-reader refinement)

`readAllM`: the client loop `while (esl_sqio_Read(sqfp, sq) == eslOK) { keep sq; esl_sq_Reuse(sq); }` on the model.
`parseAllL`: the same loop on the closed form `recL` over the list of file bytes — it does not mention the block size. -/
namespace EaselModel.Sqio.ParseFasta
open EaselModel.Sqio.Refine EaselModel.Sqio.Fold EaselModel.Sqio.DataScan EaselModel.Sqio.Cursor EaselModel.Sqio.BodySpec
open EaselModel.Sqio.HeaderSpec EaselModel.Sqio.ReadSpec

/-- the client loop over `sqascii_Read` -/
def readAllM : Nat → Ascii → Sq → List Sq × Status
  | 0, _, _ => ([], .fault)
  | fuel + 1, a, sq =>
    if (read a sq.reuse).2.2 == .ok then
      ((read a sq.reuse).2.1 :: (readAllM fuel (read a sq.reuse).1 (read a sq.reuse).2.1).1,
       (readAllM fuel (read a sq.reuse).1 (read a sq.reuse).2.1).2)
    else ([], (read a sq.reuse).2.2)

/-- the same loop over the closed form: a function of the file bytes only -/
def parseAllL (inmap : Bytes) (N : Nat) : Nat → Sq → List UInt8 → List Sq × Status
  | 0, _, _ => ([], .fault)
  | fuel + 1, sq, l =>
    if (recL inmap N sq.reuse l).1 == .ok then
      ((recL inmap N sq.reuse l).2.1 :: (parseAllL inmap N fuel (recL inmap N sq.reuse l).2.1 (recL inmap N sq.reuse l).2.2).1,
       (parseAllL inmap N fuel (recL inmap N sq.reuse l).2.1 (recL inmap N sq.reuse l).2.2).2)
    else ([], (recL inmap N sq.reuse l).1)

theorem allocGrow_ge (alloc size n : Nat) : alloc ≤ allocGrow alloc size n := by
  induction n generalizing alloc size with
  | zero => exact Nat.le_refl _
  | succ n ih =>
    simp only [allocGrow]
    split
    · exact Nat.le_trans (by omega) (ih _ _)
    · exact ih _ _

theorem recL_keeps (inmap : Bytes) (N : Nat) (sq : Sq) (l : List UInt8) (h : (recL inmap N sq l).1 = .ok) :
    (recL inmap N sq l).2.1.digital = sq.digital ∧ (recL inmap N sq l).2.1.abc = sq.abc ∧
    sq.nalloc ≤ (recL inmap N sq l).2.1.nalloc ∧ sq.dalloc ≤ (recL inmap N sq l).2.1.dalloc := by
  obtain ⟨_, hok', erec⟩ := recL_of_ok inmap N sq l h
  have hk : (headerL N sq l).2.1.digital = sq.digital ∧ (headerL N sq l).2.1.abc = sq.abc ∧
      sq.nalloc ≤ (headerL N sq l).2.1.nalloc ∧ sq.dalloc ≤ (headerL N sq l).2.1.dalloc := by
    obtain ⟨l2, _, _, e⟩ := headerL_of_ok N sq l hok'
    rw [e sq]
    exact ⟨rfl, rfl, allocGrow_ge _ _ _, allocGrow_ge _ _ _⟩
  rw [erec] at h ⊢
  rw [(bodyL_of_ok _ _ _ _ _ h).1]
  simp only [Sq.setWhole, stored, if_true]
  exact hk

theorem _root_.EaselModel.Sqio.ReadSpec.Ready.next {a a' : Ascii} {sq sq' : Sq} (R : Ready a sq) (hc : Cur a') (hs : stat a' = stat a)
    (hd : sq'.digital = sq.digital) (ha : sq'.abc = sq.abc) (hn : sq.nalloc ≤ sq'.nalloc) (hdl : sq.dalloc ≤ sq'.dalloc) :
    Ready a' sq' := by
  have hi := stat_inmap hs
  refine ⟨hc, (stat_fmt hs).trans R.fmt, (stat_eofIsOk hs).trans R.eofOk, by rw [hi]; exact R.hm, ?_, by rw [hi]; exact R.eodGt,
    Nat.le_trans R.nalloc hn, Nat.le_trans R.dalloc hdl⟩
  have : mapOf a' sq' = mapOf a sq := by simp only [mapOf, hd, ha, hi]
  rw [this, hi]; exact R.mapOk

/-- **The record loop of the model = the record loop of the closed form**, from every ready handle, for every fuel. -/
theorem readAll_spec (fuel : Nat) : ∀ (a : Ascii) (sq : Sq), Ready a sq.reuse →
    readAllM fuel a sq = parseAllL a.inmap a.file.size fuel sq (fileFrom a) := by
  induction fuel with
  | zero => intro a sq _; rfl
  | succ fuel ih =>
    intro a sq R
    obtain ⟨q1, q2, _, _⟩ := read_spec a sq.reuse R
    simp only [readAllM, parseAllL]
    rw [q1]
    by_cases hok : (recL a.inmap a.file.size sq.reuse (fileFrom a)).1 = .ok
    · obtain ⟨m1, m2, m3, m4⟩ := q2 hok
      obtain ⟨k1, k2, k3, k4⟩ := recL_keeps _ _ _ _ hok
      have hb : ((recL a.inmap a.file.size sq.reuse (fileFrom a)).1 == Status.ok) = true := by rw [hok]; rfl
      simp only [hb, if_true]
      have R' : Ready (read a sq.reuse).1 (read a sq.reuse).2.1.reuse := by
        rw [m1]
        exact R.next m2 m4 k1 k2 k3 k4
      rw [ih _ _ R', m1, m3, stat_inmap m4, stat_file m4]
    · have hb : ((recL a.inmap a.file.size sq.reuse (fileFrom a)).1 == Status.ok) = false := by simpa using hok
      simp only [hb, Bool.false_eq_true, if_false]


theorem tables_fasta : ∀ abc ∈ [0, 1, 2, 3], (inmapFasta abc).size = 128 ∧ ∀ c : Fin 128,
    ((inmapFasta abc).getD c.val 254 = 251 → c.val = 62) ∧
    (abc ≠ 0 → ((inmapFasta abc).getD c.val 254 ≤ 127 ∨ (inmapFasta abc).getD c.val 254 = 252 ∨ (inmapFasta abc).getD c.val 254 = 253) →
      c.val < (abcInmap abc).size ∧
      (decide ((abcInmap abc).getD c.val 0 ≤ 127) = decide ((inmapFasta abc).getD c.val 254 ≤ 127))) := by
  intro abc habc
  refine ⟨inmapFasta_size abc, fun c => ?_⟩
  by_cases h0 : abc = 0
  · subst h0
    exact ⟨inmapFasta_text_eod c.val c.isLt 254, fun h => absurd rfl h⟩
  have habc' : abc ∈ [1, 2, 3] := by simpa [h0] using habc
  obtain ⟨heod, hres, hskip⟩ := inmapFasta_digital abc habc' c.val c.isLt 254 0
  refine ⟨heod, fun _ hcls => ⟨by rw [(tables_abc abc habc').1]; exact c.isLt, ?_⟩⟩
  rcases hcls with h | h | h
  · rw [decide_eq_true (hres h), decide_eq_true h]
  · rw [decide_eq_false (UInt8.not_le.2 (hskip (.inr h))), h]; rfl
  · rw [decide_eq_false (UInt8.not_le.2 (hskip (.inl h))), h]; rfl

theorem code_lt (inmap : Bytes) (c : UInt8) (h : code inmap c ≠ 254) : c.toNat < 128 ∧ code inmap c = inmap.getD c.toNat 254 := by
  unfold code at *
  by_cases hc : c ≥ 128
  · simp [hc, Tables.dsqIllegal] at h
  · simp only [hc, if_false, Tables.dsqIllegal] at h ⊢
    exact ⟨by have : c < 128 := by simpa using hc
              exact this, trivial⟩

theorem eodGt_fasta (abc : Nat) (habc : abc ∈ [0, 1, 2, 3]) : EodGt (inmapFasta abc) := by
  intro c hc
  simp only [isEod, Tables.dsqEod, beq_iff_eq] at hc
  obtain ⟨h1, h2⟩ := code_lt (inmapFasta abc) c (by rw [hc]; decide)
  rw [h2] at hc
  have := ((tables_fasta abc habc).2 ⟨c.toNat, h1⟩).1 hc
  simp only at this
  apply UInt8.toNat_inj.mp
  rw [this]; rfl

theorem isData_code (inmap : Bytes) (c : UInt8) (h : isData inmap c = true) :
    code inmap c ≤ 127 ∨ code inmap c = 252 ∨ code inmap c = 253 := by
  simp only [isData, Tables.dsqEol, Tables.dsqIgnored, Bool.or_eq_true, decide_eq_true_eq, beq_iff_eq] at h
  rcases h with (h | h) | h
  · exact Or.inl h
  · exact Or.inr (Or.inl h)
  · exact Or.inr (Or.inr h)

theorem mapOk_fasta (abc : Nat) (habc : abc ∈ [0, 1, 2, 3]) : MapOk (inmapFasta abc) (mapFor (inmapFasta abc) (freshSq abc)) := by
  by_cases h0 : abc = 0
  · subst h0
    exact MapOk.self _ (tables_fasta 0 habc).1
  · have hmf : mapFor (inmapFasta abc) (freshSq abc) = abcInmap abc := by
      simp [mapFor, freshSq, h0]
    rw [hmf]
    intro c hd
    have hcode := isData_code _ c hd
    obtain ⟨h1, h2⟩ := code_lt (inmapFasta abc) c (by rcases hcode with h | h | h <;> (intro k; rw [k] at h; revert h; decide))
    rw [h2] at hcode
    obtain ⟨t1, t2⟩ := ((tables_fasta abc habc).2 ⟨c.toNat, h1⟩).2 h0 hcode
    simp only at t1 t2
    refine ⟨(abcInmap abc)[c.toNat], by simp [t1], ?_⟩
    have hg : (abcInmap abc).getD c.toNat 0 = (abcInmap abc)[c.toNat] := by simp [Array.getD, t1]
    rw [hg] at t2
    rw [t2]
    simp only [isRes, h2]

/-- `esl_sqfile_Open(…, eslSQFILE_FASTA, …)` / `OpenDigital` on a non-empty file: the handle after the first `loadbuf`
    (`DriverLogic.openModel` with `fmt = 1`) -/
def openFasta (bytes : Bytes) (B abc : Nat) : Ascii :=
  { (loadbuf { file := bytes, B := B, abc := abc, fmt := 1, eofIsOk := true, inmap := inmapFasta 0 }).1 with
      inmap := inmapFasta abc, haveErr := false }

theorem openModel_fasta (bytes : Bytes) (B abc : Nat) (hne : 0 < bytes.size) (hB : 1 ≤ B) :
    openModel bytes "fa" 1 abc B = some (openFasta bytes B abc, .ok) := by
  have hpre : Pre { file := bytes, B := B, abc := abc, fmt := 1, eofIsOk := true, inmap := inmapFasta 0 } :=
    ⟨rfl, by simp, hB, Nat.le_refl _, Nat.zero_le _⟩
  obtain ⟨_, _, _, _, _, o⟩ := loadbuf_wf _ hpre
  have hst : (loadbuf { file := bytes, B := B, abc := abc, fmt := 1, eofIsOk := true, inmap := inmapFasta 0 }).2 = .ok := by
    rcases o with ⟨o1, _⟩ | ⟨_, _, o3⟩
    · exact o1
    · exfalso; simp only at o3; omega
  unfold openModel openFasta
  simp only [inmapFor]
  simp [hst]

theorem Cur.setInmap {a : Ascii} (h : Cur a) (m : Bytes) : Cur { a with inmap := m, haveErr := false } :=
  ⟨WF_of_blk (a := a) rfl h.wf h.wf.bposLe,
   h.cur, h.tok⟩

theorem fileFrom_setInmap (a : Ascii) (m : Bytes) : fileFrom { a with inmap := m, haveErr := false } = fileFrom a := rfl

theorem inmap_setInmap (a : Ascii) (m : Bytes) : ({ a with inmap := m, haveErr := false } : Ascii).inmap = m := rfl
theorem file_setInmap (a : Ascii) (m : Bytes) : ({ a with inmap := m, haveErr := false } : Ascii).file = a.file := rfl

theorem ready_setInmap (a : Ascii) (m : Bytes) (sq : Sq) (h : Cur a) (hf : a.fmt = 1) (he : a.eofIsOk = true) (hm : m.size = 128)
    (hmo : MapOk m (mapFor m sq)) (hg : EodGt m) (hn : 2 ≤ sq.nalloc) (hd : 2 ≤ sq.dalloc) :
    Ready { a with inmap := m, haveErr := false } sq :=
  ⟨Cur.setInmap h m, hf, he, hm, hmo, hg, hn, hd⟩

theorem openFasta_ready (bytes : Bytes) (B abc : Nat) (hB : 1 ≤ B) (habc : abc ∈ [0, 1, 2, 3]) :
    Ready (openFasta bytes B abc) (freshSq abc).reuse ∧ fileFrom (openFasta bytes B abc) = bytes.toList ∧
    (openFasta bytes B abc).inmap = inmapFasta abc ∧ (openFasta bytes B abc).file = bytes := by
  have hpre : Pre { file := bytes, B := B, abc := abc, fmt := 1, eofIsOk := true, inmap := inmapFasta 0 } :=
    ⟨rfl, by simp, hB, Nat.le_refl _, Nat.zero_le _⟩
  obtain ⟨w, b0, hfile, _, hp, o⟩ := loadbuf_wf _ hpre
  have lr := Frame.loadbuf_payload { file := bytes, B := B, abc := abc, fmt := 1, eofIsOk := true, inmap := inmapFasta 0 }
  unfold openFasta
  generalize hlb : loadbuf { file := bytes, B := B, abc := abc, fmt := 1, eofIsOk := true, inmap := inmapFasta 0 } = lb at *
  have hfile' : lb.1.file = bytes := hfile
  have htrk : lb.1.trk = {} := Sim.payload_trk lr
  have hfmt : lb.1.fmt = 1 := Sim.payload_fmt lr
  have heof : lb.1.eofIsOk = true := Sim.payload_eofIsOk lr
  have hpos : pos lb.1 = 0 := by rw [hp]; rfl
  have htok : Track.Ok lb.1.trk := by rw [htrk]; exact ⟨by decide, by decide, by decide⟩
  have hcur : Cur lb.1 := by
    refine ⟨w, ?_, htok⟩
    rcases o with ⟨_, o2, _⟩ | ⟨_, o2, o3⟩
    · left; show lb.1.bpos < lb.1.nc; omega
    · right
      refine ⟨⟨o2, b0⟩, ?_⟩
      rw [hpos, hfile']
      simp only at o3
      omega
  have hff : fileFrom lb.1 = bytes.toList := by
    unfold fileFrom
    rw [hpos, hfile']; rfl
  have hmo : MapOk (inmapFasta abc) (mapFor (inmapFasta abc) (freshSq abc).reuse) := mapOk_fasta abc habc
  have hn2 : 2 ≤ (freshSq abc).reuse.nalloc := by show 2 ≤ 32; decide
  have hd2 : 2 ≤ (freshSq abc).reuse.dalloc := by show 2 ≤ 128; decide
  exact ⟨ready_setInmap lb.1 (inmapFasta abc) (freshSq abc).reuse hcur hfmt heof (tables_fasta abc habc).1 hmo (eodGt_fasta abc habc) hn2 hd2,
    (fileFrom_setInmap lb.1 (inmapFasta abc)).trans hff, inmap_setInmap lb.1 (inmapFasta abc), (file_setInmap lb.1 (inmapFasta abc)).trans hfile'⟩

/-- the records of a FASTA file, as a function of its bytes (and of the alphabet selector): `recL` iterated -/
def parseFasta (abc : Nat) (bytes : Bytes) : List Sq × Status :=
  parseAllL (inmapFasta abc) bytes.size (bytes.size + 2) (freshSq abc) bytes.toList

/-- **Whole-reader refinement.** For every byte string, every alphabet selector and every read-block size `B ≥ 1`, reading all
    records with `sqascii_Read` from `esl_sqfile_Open` on returns exactly `parseFasta` — the records and the final status. -/
theorem read_all_eq_parseFasta (bytes : Bytes) (B abc : Nat) (hB : 1 ≤ B) (habc : abc ∈ [0, 1, 2, 3]) :
    readAllM (bytes.size + 2) (openFasta bytes B abc) (freshSq abc) = parseFasta abc bytes := by
  obtain ⟨R, hff, hi, hf⟩ := openFasta_ready bytes B abc hB habc
  rw [readAll_spec _ _ _ R, hff, hi, hf]
  rfl

/-- **Block-size independence of the whole reader**: any two block sizes give the same records and the same final status. -/
theorem read_all_block_size_independent (bytes : Bytes) (B1 B2 abc : Nat) (h1 : 1 ≤ B1) (h2 : 1 ≤ B2) (habc : abc ∈ [0, 1, 2, 3]) :
    readAllM (bytes.size + 2) (openFasta bytes B1 abc) (freshSq abc) = readAllM (bytes.size + 2) (openFasta bytes B2 abc) (freshSq abc) := by
  rw [read_all_eq_parseFasta bytes B1 abc h1 habc, read_all_eq_parseFasta bytes B2 abc h2 habc]

end EaselModel.Sqio.ParseFasta
