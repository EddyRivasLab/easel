import EaselModel.Sqio.Tracker
import EaselModel.Sqio.Geometry
import EaselModel.Core.ListWhile
/-! # From the tracker's verdict to the geometry hypothesis of the subsequence-fetch theorems (C07)

`tracker_sound` speaks about a record as the tracker counts it (bytes and residues per line); `fetchSubseq_eq_scan_slice_line`
needs the record's data cut into `(start−1)/rpl` complete lines of `bpl` bytes and `rpl` residues followed by the rest. `bridge_line`
derives the second from the first, for data given as its terminated lines `segs` (each with its newline) and the unterminated rest. -/
namespace EaselModel.Sqio.GeomBridge
open EaselModel.Sqio EaselModel.Sqio.Tracker EaselModel.Sqio.Geometry

variable {α : Type}

/-- (bytes, residues) of a line -/
def cnt (p : α → Bool) (l : List α) : Int × Int := ((l.length : Int), ((l.filter p).length : Int))

/-- the record the tracker sees for data given as terminated lines `segs` and an unterminated rest -/
def recOf (p : α → Bool) (segs : List (List α)) (rest : List α) : Rec :=
  ⟨segs.map (cnt p), if rest.isEmpty then none else some (cnt p rest)⟩

/-- all lines of the data, the unterminated rest (if any) last -/
def linesOf (segs : List (List α)) (rest : List α) : List (List α) := segs ++ (if rest.isEmpty then [] else [rest])

theorem mem_takeWhile_imp {p : α → Bool} {l : List α} {x : α} (h : x ∈ l.takeWhile p) : p x = true :=
  EaselModel.mem_takeWhile_imp h

theorem count_flatten_le (p : α → Bool) (P : Nat) (L : List (List α)) (h : ∀ l ∈ L, (l.filter p).length ≤ P) :
    (L.flatten.filter p).length ≤ L.length * P := by
  induction L with
  | nil => simp
  | cons l L ih =>
    have h1 := h l (by simp)
    have h2 := ih (fun x hx => h x (by simp [hx]))
    simp only [List.flatten_cons, List.filter_append, List.length_append, List.length_cons, Nat.succ_mul]
    omega

theorem flatten_linesOf (segs : List (List α)) (rest : List α) : (linesOf segs rest).flatten = segs.flatten ++ rest := by
  unfold linesOf
  cases h : rest.isEmpty
  · simp
  · simp only [h, if_true, List.append_nil]
    have : rest = [] := List.isEmpty_iff.mp h
    simp [this]

theorem geom_lines (p : α → Bool) (segs : List (List α)) (rest : List α) (q r : Int) (hg : Geom q r (recOf p segs rest)) :
    (∀ l ∈ (linesOf segs rest).dropLast, (l.length : Int) = q ∧ ((l.filter p).length : Int) = r) ∧
    (∀ l ∈ linesOf segs rest, ((l.filter p).length : Int) ≤ r) := by
  obtain ⟨g1, g2⟩ := hg
  unfold Rec.all recOf at g1 g2
  unfold linesOf
  cases h : rest.isEmpty
  · -- an unterminated rest exists: the non-last lines are exactly `segs`
    simp only [h, Bool.false_eq_true, if_false, Option.toList_some, List.map_cons, List.map_nil] at g1 g2 ⊢
    rw [List.dropLast_concat] at g1 ⊢
    constructor
    · intro l hl
      have := g1 (tl (cnt p l)) (by simp only [List.map_map, List.mem_map]; exact ⟨l, hl, rfl⟩)
      simpa [tl, cnt] using this
    · intro l hl
      rw [List.mem_append, List.mem_singleton] at hl
      rcases hl with hl | rfl
      · have := (g2 (tl (cnt p l)) (by rw [List.mem_append]; left; simp only [List.map_map, List.mem_map]; exact ⟨l, hl, rfl⟩)).1
        simpa [tl, cnt] using this
      · have := (g2 (ul (cnt p l)) (by simp)).1
        simpa [ul, cnt] using this
  · simp only [h, if_true, Option.toList_none, List.map_nil, List.append_nil] at g1 g2 ⊢
    constructor
    · intro l hl
      have hm : tl (cnt p l) ∈ ((segs.map (cnt p)).map tl).dropLast := by
        rw [List.map_map, ← List.map_dropLast]; exact List.mem_map_of_mem hl
      have := g1 _ hm
      simpa [tl, cnt] using this
    · intro l hl
      have := (g2 (tl (cnt p l)) (by simp only [List.map_map, List.mem_map]; exact ⟨l, hl, rfl⟩)).1
      simpa [tl, cnt] using this

/-- with at most `r` residues on every line, residue `start ≤ L` lies on line `(start − 1) / r`: that line exists, and all lines
    before it are terminated ones -/
theorem start_line_lt (p : α → Bool) (segs : List (List α)) (rest : List α) (r : Nat)
    (hle : ∀ l ∈ linesOf segs rest, ((l.filter p).length : Int) ≤ r) (start : Nat) (h1 : 1 ≤ start)
    (h2 : start ≤ ((segs.flatten ++ rest).filter p).length) :
    (start - 1) / r < (linesOf segs rest).length ∧ (start - 1) / r ≤ segs.length := by
  have hcount : ((linesOf segs rest).flatten.filter p).length ≤ (linesOf segs rest).length * r :=
    count_flatten_le p r _ (fun l hl => by have := hle l hl; omega)
  rw [flatten_linesOf] at hcount
  have hk : (start - 1) / r < (linesOf segs rest).length := by
    have := Nat.div_mul_le_self (start - 1) r
    apply Nat.lt_of_mul_lt_mul_right (a := r)
    omega
  have hn : (linesOf segs rest).length ≤ segs.length + 1 := by
    unfold linesOf; split <;> simp
  exact ⟨hk, by omega⟩

/-- **bridge (line addressing)**: a record whose lines have the geometry `(b, r)` — as `tracker_sound` concludes from `bpl = b`,
    `rpl = r` — and a start `1 ≤ start ≤ L`: the data begins with `(start−1)/r` complete lines of `b` bytes and `r` residues -/
theorem bridge_line (p : α → Bool) (segs : List (List α)) (rest : List α) (b r : Nat) (hr : 0 < r)
    (hg : Geom (b : Int) (r : Int) (recOf p segs rest)) (start : Nat) (h1 : 1 ≤ start)
    (h2 : start ≤ ((segs.flatten ++ rest).filter p).length) :
    FullLines p b r (segs.take ((start - 1) / r)) ∧ (segs.take ((start - 1) / r)).length = (start - 1) / r ∧
    segs.flatten ++ rest = (segs.take ((start - 1) / r)).flatten ++ ((segs.drop ((start - 1) / r)).flatten ++ rest) := by
  obtain ⟨f1, f2⟩ := geom_lines p segs rest b r hg
  obtain ⟨hk, hks⟩ := start_line_lt p segs rest r f2 start h1 h2
  have htake : (linesOf segs rest).dropLast.take ((start - 1) / r) = segs.take ((start - 1) / r) := by
    rw [List.dropLast_eq_take, List.take_take, Nat.min_eq_left (by omega)]
    unfold linesOf
    rw [List.take_append_of_le_length hks]
  have hmem : ∀ l ∈ segs.take ((start - 1) / r), l ∈ (linesOf segs rest).dropLast := by
    intro l hl; rw [← htake] at hl; exact List.mem_of_mem_take hl
  refine ⟨⟨fun l hl => ?_, fun l hl => ?_⟩, ?_, ?_⟩
  · have := (f1 l (hmem l hl)).1; omega
  · have := (f1 l (hmem l hl)).2; omega
  · rw [List.length_take]; omega
  · rw [← List.append_assoc, ← List.flatten_append, List.take_append_drop]

/-- what `Geom` with `q = r + 1` says about the ignored bytes of every line: a terminated line has at most one non-residue byte
    (its newline), an unterminated rest none -/
theorem geom_extra (p : α → Bool) (segs : List (List α)) (rest : List α) (r : Int) (hg : Geom (r + 1) r (recOf p segs rest)) :
    (∀ l ∈ segs, (l.length : Int) - ((l.filter p).length : Int) - 1 ≤ 0) ∧
    (rest.isEmpty = false → (rest.length : Int) - ((rest.filter p).length : Int) ≤ 0) := by
  obtain ⟨_, g2⟩ := hg
  unfold Rec.all recOf at g2
  constructor
  · intro l hl
    have := (g2 (tl (cnt p l)) (by rw [List.mem_append]; left; simp only [List.map_map, List.mem_map]; exact ⟨l, hl, rfl⟩)).2
    simp only [tl, cnt] at this; omega
  · intro h
    simp only [h, Bool.false_eq_true, if_false, Option.toList_some, List.map_cons, List.map_nil] at g2
    have := (g2 (ul (cnt p rest)) (by simp)).2
    simp only [ul, cnt] at this; omega

theorem all_of_filter_length {p : α → Bool} {l : List α} (h : l.length ≤ (l.filter p).length) : ∀ c ∈ l, p c = true := by
  induction l with
  | nil => intro c hc; cases hc
  | cons a t ih =>
    have hle := List.length_filter_le p t
    by_cases ha : p a = true
    · simp only [List.filter_cons, ha, if_true, List.length_cons] at h
      intro c hc
      rcases List.mem_cons.mp hc with rfl | hc
      · exact ha
      · exact ih (by omega) c hc
    · simp only [List.filter_cons, ha, Bool.false_eq_true, if_false, List.length_cons] at h
      omega

theorem line_shape (p : α → Bool) (segs : List (List α)) (rest : List α) (r : Int) (hg : Geom (r + 1) r (recOf p segs rest))
    (hterm : ∀ l ∈ segs, ∃ body e, l = body ++ [e] ∧ p e = false) :
    ∀ l ∈ linesOf segs rest, ∃ res t, l = res ++ t ∧ (∀ c ∈ res, p c = true) ∧ (l.filter p).length = res.length := by
  obtain ⟨x1, x2⟩ := geom_extra p segs rest r hg
  intro l hl
  unfold linesOf at hl
  rw [List.mem_append] at hl
  rcases hl with hl | hl
  · obtain ⟨body, e, rfl, he⟩ := hterm l hl
    have := x1 _ hl
    have hc : ((body ++ [e]).filter p).length = (body.filter p).length := by simp [List.filter_append, he]
    rw [hc] at this
    simp only [List.length_append, List.length_singleton] at this
    have hall := all_of_filter_length (p := p) (l := body) (by omega)
    exact ⟨body, [e], rfl, hall, by rw [hc, List.filter_eq_self.mpr hall]⟩
  · cases h : rest.isEmpty
    · simp only [h, Bool.false_eq_true, if_false, List.mem_singleton] at hl
      subst hl
      have := x2 h
      have hall := all_of_filter_length (p := p) (l := l) (by omega)
      exact ⟨l, [], by simp, hall, by rw [List.filter_eq_self.mpr hall]⟩
    · simp [h] at hl

/-- **bridge (residue addressing)**: geometry `(r + 1, r)`, every terminated line ending in a non-residue byte, `1 ≤ start ≤ L`:
    the data is `(start−1)/r` complete lines, then a stretch `res` of residues at least `(start−1) % r` long, then the rest -/
theorem bridge_residue (p : α → Bool) (segs : List (List α)) (rest : List α) (r : Nat) (hr : 0 < r)
    (hg : Geom ((r : Int) + 1) (r : Int) (recOf p segs rest)) (hterm : ∀ l ∈ segs, ∃ body e, l = body ++ [e] ∧ p e = false)
    (start : Nat) (h1 : 1 ≤ start) (h2 : start ≤ ((segs.flatten ++ rest).filter p).length) :
    ∃ res tail, FullLines p (r + 1) r (segs.take ((start - 1) / r)) ∧ (segs.take ((start - 1) / r)).length = (start - 1) / r ∧
      segs.flatten ++ rest = (segs.take ((start - 1) / r)).flatten ++ (res ++ tail) ∧ (∀ c ∈ res, p c = true) ∧
      (start - 1) % r ≤ res.length := by
  have hg' : Geom ((r + 1 : Nat) : Int) (r : Int) (recOf p segs rest) := by simpa using hg
  obtain ⟨k1, k2, k3⟩ := bridge_line p segs rest (r + 1) r hr hg' start h1 h2
  obtain ⟨f1, f2⟩ := geom_lines p segs rest ((r + 1 : Nat) : Int) r hg'
  have hshape := line_shape p segs rest r hg hterm
  obtain ⟨hkn, hks⟩ := start_line_lt p segs rest r f2 start h1 h2
  generalize hk : (start - 1) / r = k at *
  have htk : (linesOf segs rest).take k = segs.take k := by unfold linesOf; rw [List.take_append_of_le_length hks]
  have hsplit : linesOf segs rest = segs.take k ++ ((linesOf segs rest)[k] :: (linesOf segs rest).drop (k + 1)) := by
    rw [← htk, List.getElem_cons_drop, List.take_append_drop]
  obtain ⟨res, t, hl, hres, hcnt⟩ := hshape _ (List.getElem_mem hkn)
  have hdata : segs.flatten ++ rest = (segs.take k).flatten ++ (res ++ (t ++ ((linesOf segs rest).drop (k + 1)).flatten)) := by
    rw [← flatten_linesOf]
    conv => lhs; rw [hsplit]
    rw [List.flatten_append, List.flatten_cons, hl, List.append_assoc]
  refine ⟨res, t ++ ((linesOf segs rest).drop (k + 1)).flatten, k1, k2, hdata, hres, ?_⟩
  have hmod := Nat.div_add_mod (start - 1) r
  rw [hk] at hmod
  have hmlt := Nat.mod_lt (start - 1) hr
  by_cases hlast : k + 1 < (linesOf segs rest).length
  · -- not the last line: a full line
    have hmem : (linesOf segs rest)[k] ∈ (linesOf segs rest).dropLast := by
      rw [List.dropLast_eq_take, List.mem_take_iff_getElem]
      exact ⟨k, by rw [Nat.min_def]; split <;> omega, rfl⟩
    have := (f1 _ hmem).2
    omega
  · -- the last line holds all the remaining residues
    have hdrop : (linesOf segs rest).drop (k + 1) = [] := List.drop_eq_nil_of_le (by omega)
    have hc1 := k1.count_flatten
    rw [k2] at hc1
    have htot : ((segs.flatten ++ rest).filter p).length = k * r + res.length := by
      rw [hdata, hdrop]
      simp only [List.flatten_nil, List.append_nil, List.filter_append, List.length_append, hc1]
      have e1 : (res.filter p).length = res.length := by rw [List.filter_eq_self.mpr hres]
      have e2 : (t.filter p).length = 0 := by
        have := hcnt
        rw [hl, List.filter_append, List.length_append, e1] at this
        omega
      omega
    have : r * k = k * r := Nat.mul_comm _ _
    omega

end EaselModel.Sqio.GeomBridge
