import EaselModel.Sqio.Fold
import EaselModel.Sqio.Sim
import EaselModel.Sqio.NoFault
/-! # The data scan of a record is a fold over the file bytes from the cursor on — for every block size (C04)

`dataFold a` folds `Fold.stepByte` over the file bytes from the absolute cursor position to the end of the file, with the handle's
tracker and line number. It does not mention the block size. What one buffer contributes (`seebuf_buf`, in either mode), how the fold splits at the
end of a buffer (`dataFold_split`, `dataFold_next`) and what loading the next block does (`loadbuf_nextBlock`) are proved here; the
residue loop is that fold by `BodySpec.scanLoop_fold`. -/
namespace EaselModel.Sqio.DataScan
open EaselModel.Sqio.Refine EaselModel.Sqio.Fold

theorem bufList_eq (a : Ascii) (h : WF a) (lo : Nat) :
    bufList a lo = ((a.file.toList.drop (a.boff.toNat + lo)).take (a.nc - lo)) := by
  have h1 := h.fposEq; have h2 := h.fposLe; have h3 := h.ncLe; have h4 := h.boffEq; have h5 := h.moff0
  apply List.ext_getElem
  · simp [bufList]; omega
  · intro i hi1 hi2
    have hlen : i < a.nc - lo := by simpa [bufList] using hi1
    obtain ⟨x, g1, g2, g3⟩ := bufGet_window a h (lo + i) (by omega)
    have e1 : (bufList a lo)[i] = x := by simp [bufList, byteAt, g1]
    rw [e1]
    simp only [List.getElem_take, List.getElem_drop]
    have : a.boff.toNat + lo + i = a.boff.toNat + (lo + i) := by omega
    simp only [this]
    have g4 : a.file[a.boff.toNat + (lo + i)]? = some x := g2
    rw [Array.getElem?_eq_getElem g3] at g4
    simp only [Array.getElem_toList]
    exact (Option.some.inj g4).symm

/-- the buffer ends where the next `fread` starts -/
theorem pos_bufEnd (a : Ascii) (h : WF a) : pos a + ((a.nc - a.bpos : Nat) : Int) = (a.fpos : Int) := by
  have h1 := h.fposEq; have h2 := h.ncLe; have h3 := h.boffEq; have h4 := h.bposLe
  simp only [pos]; omega

theorem pos_nonneg (a : Ascii) (h : WF a) : 0 ≤ pos a := by
  have h1 := h.moff0; have h2 := h.ncLe; have h3 := h.boffEq
  simp only [pos]; omega

theorem scanBytes_bounds (inmap : Bytes) (M : Nat) (l : List UInt8) (s : SS) (k : Nat) :
    k ≤ (scanBytes inmap M l s k).2.1 ∧ (scanBytes inmap M l s k).2.1 ≤ k + l.length ∧
    s.nres ≤ (scanBytes inmap M l s k).1.nres ∧ (scanBytes inmap M l s k).1.nres + k ≤ s.nres + (scanBytes inmap M l s k).2.1 ∧
    ((scanBytes inmap M l s k).2.2 ≠ .ok → (scanBytes inmap M l s k).2.1 < k + l.length) ∧
    (s.nres + l.length ≤ M → (scanBytes inmap M l s k).2.2 = .ok → (scanBytes inmap M l s k).2.1 = k + l.length) ∧
    (Track.Ok s.trk → Track.Ok (scanBytes inmap M l s k).1.trk) := by
  induction l generalizing s k with
  | nil => simp [scanBytes]
  | cons c rest ih =>
    obtain ⟨p1, p2, p3, p4⟩ := stepByte_props inmap s c
    rcases scanBytes_cons inmap M c rest s k with ⟨h, e⟩ | ⟨h, hs, e⟩ | ⟨h, hs, e⟩
    · rw [e]
      refine ⟨Nat.le_refl _, by simp, Nat.le_refl _, Nat.le_refl _, by simp, ?_, fun h => h⟩
      intro hM; simp at hM; omega
    · rw [e]
      obtain ⟨q1, q2, q3, q4, q5, q6, q7⟩ := ih (stepByte inmap s c).1 (k + 1)
      refine ⟨by omega, by simp; omega, by omega, by omega, ?_, ?_, fun h => q7 (p3 h)⟩
      · intro hne; have := q5 hne; simp; omega
      · intro hM hok; simp at hM; have := q6 (by omega) hok; simp; omega
    · rw [e]
      refine ⟨Nat.le_refl _, by simp, p1, by simp [p4 hs], by simp, ?_, p3⟩
      intro _ hok; exact absurd hok hs

/-- the last clause of `scanBytes_bounds`, which most users want alone: the fold keeps the tracker's invariant -/
theorem scanBytes_tok (inmap : Bytes) (M : Nat) (l : List UInt8) (s : SS) (k : Nat) (h : Track.Ok s.trk) :
    Track.Ok (scanBytes inmap M l s k).1.trk := (scanBytes_bounds inmap M l s k).2.2.2.2.2.2 h

/-- the file bytes from the cursor to the end of the file -/
def fileFrom (a : Ascii) : List UInt8 := a.file.toList.drop (pos a).toNat

/-- the data scan as a fold over the rest of the file; no block size in sight -/
def dataFold (a : Ascii) (M : Nat) : SS × Nat × Status := scanBytes a.inmap M (fileFrom a) ⟨a.trk, a.linenumber, 0⟩ 0

theorem fileFrom_length (a : Ascii) (h : WF a) :
    (fileFrom a).length + (pos a).toNat = a.file.size ∧ a.nc - a.bpos ≤ (fileFrom a).length ∧
    (pos a).toNat = a.boff.toNat + a.bpos ∧ (fileFrom a).length + a.nc = (a.file.size - a.fpos) + (a.nc - a.bpos) + a.nc ∧ 0 ≤ a.boff := by
  have h1 := h.fposEq; have h2 := h.fposLe; have h3 := h.ncLe; have h4 := h.boffEq; have h5 := h.moff0; have h6 := h.bposLe
  simp only [fileFrom, pos, List.length_drop, Array.length_toList]
  omega

/-! `fileFrom_length` clause by clause, for the proofs that need one clause -/
theorem fileFrom_total (a : Ascii) (h : WF a) : (fileFrom a).length + (pos a).toNat = a.file.size := (fileFrom_length a h).1
theorem buf_le_fileFrom (a : Ascii) (h : WF a) : a.nc - a.bpos ≤ (fileFrom a).length := (fileFrom_length a h).2.1
theorem pos_toNat (a : Ascii) (h : WF a) : (pos a).toNat = a.boff.toNat + a.bpos := (fileFrom_length a h).2.2.1
theorem boff_nonneg (a : Ascii) (h : WF a) : 0 ≤ a.boff := (fileFrom_length a h).2.2.2.2

/-- **the next block**: `loadbuf` from a handle `X` that is about to `fread` where the buffer of `a` ends (`a` with its buffer used up
    or abandoned; the cursor of `X` does not matter) delivers the file bytes behind that buffer, or finds the end of the file -/
theorem loadbuf_nextBlock (a X : Ascii) (w : WF a) (hX : Pre X) (hfile : X.file = a.file) (hfpos : X.fpos = a.fpos) :
    WF (loadbuf X).1 ∧ (loadbuf X).1.bpos = 0 ∧ Sim.payload (loadbuf X).1 = Sim.payload X ∧
    pos (loadbuf X).1 = pos a + ((a.nc - a.bpos : Nat) : Int) ∧
    fileFrom (loadbuf X).1 = (fileFrom a).drop (a.nc - a.bpos) ∧
    (((loadbuf X).2 = .ok ∧ 0 < (loadbuf X).1.nc ∧ (fileFrom a).drop (a.nc - a.bpos) ≠ []) ∨
     ((loadbuf X).2 = .eof ∧ (loadbuf X).1.nc = 0 ∧ (fileFrom a).drop (a.nc - a.bpos) = [] ∧
        pos (loadbuf X).1 = (a.file.size : Int))) := by
  obtain ⟨w3, b3, f3, _, p3, o⟩ := loadbuf_wf X hX
  have lr := Frame.loadbuf_payload X
  have l1 := fileFrom_total a w
  have l2 := buf_le_fileFrom a w
  have hfp := pos_bufEnd a w
  have hp0 := pos_nonneg a w
  rw [hfile, hfpos] at o
  generalize loadbuf X = lb at *
  have hpos : pos lb.1 = pos a + ((a.nc - a.bpos : Nat) : Int) := by rw [p3, hfpos, hfp]
  have hff : fileFrom lb.1 = (fileFrom a).drop (a.nc - a.bpos) := by
    unfold fileFrom
    rw [hpos, Int.toNat_add_nat hp0, f3, hfile, List.drop_drop]
  have hlen : ((fileFrom a).drop (a.nc - a.bpos)).length + a.fpos = a.file.size := by
    rw [List.length_drop]; omega
  refine ⟨w3, b3, lr, hpos, hff, ?_⟩
  rcases o with ⟨o1, o2, o3⟩ | ⟨o1, o2, o3⟩
  · exact Or.inl ⟨o1, o2, fun hnil => by rw [hnil] at hlen; simp at hlen; omega⟩
  · exact Or.inr ⟨o1, o2, List.eq_nil_of_length_eq_zero (by omega), by rw [hpos, hfp, o3]⟩

theorem seebufLoop_failed (a : Ascii) (maxn bpos nres nres2 le1 : Nat) (trk : Track) (ln : Int) :
    (seebufLoop a maxn bpos nres nres2 le1 trk ln).2.1 = ((seebufLoop a maxn bpos nres nres2 le1 trk ln).1 == .eformat) := by
  fun_induction seebufLoop a maxn bpos nres nres2 le1 trk ln <;> simp_all

theorem seebuf_same (a : Ascii) (maxn : Option Nat) :
    (seebuf a maxn).1.file = a.file ∧ (seebuf a maxn).1.L = a.L ∧ (seebuf a maxn).1.inmap = a.inmap ∧
    (seebuf a maxn).1.eofIsOk = a.eofIsOk ∧ (seebuf a maxn).1.fmt = a.fmt ∧ (seebuf a maxn).1.abc = a.abc ∧
    (seebuf a maxn).1.exc = a.exc ∧ (seebuf a maxn).1.bookmarkOff = a.bookmarkOff ∧
    (seebuf a maxn).1.bookmarkLine = a.bookmarkLine := by
  have e := Frame.seebuf_eq a maxn
  exact ⟨(congrArg Ascii.file e).trans rfl, (congrArg Ascii.L e).trans rfl, (congrArg Ascii.inmap e).trans rfl,
    (congrArg Ascii.eofIsOk e).trans rfl, (congrArg Ascii.fmt e).trans rfl, (congrArg Ascii.abc e).trans rfl,
    (congrArg Ascii.exc e).trans rfl, (congrArg Ascii.bookmarkOff e).trans rfl, (congrArg Ascii.bookmarkLine e).trans rfl⟩

theorem seebuf_haveErr (a : Ascii) (maxn : Option Nat) :
    (seebuf a maxn).1.haveErr = (a.haveErr || ((seebuf a maxn).2.st == Status.eformat)) := by
  have aux : ∀ mx, (match seebufLoop a mx a.bpos 0 0 a.bpos a.trk a.linenumber with
       | (st, failed, bpos, nres, nres2, lasteol1, trk, ln) =>
         if (st == Status.eformat || st == Status.fault) = true then
           (({ a with trk := trk, linenumber := ln, haveErr := a.haveErr || failed }, ⟨st, nres, bpos⟩) : Ascii × See)
         else
           ({ a with trk := trk.onStop ((bpos : Int) - (lasteol1 : Int)) ((nres : Int) - (nres2 : Int)), linenumber := ln }, ⟨st, nres, bpos⟩)).1.haveErr =
      (a.haveErr || ((match seebufLoop a mx a.bpos 0 0 a.bpos a.trk a.linenumber with
       | (st, failed, bpos, nres, nres2, lasteol1, trk, ln) =>
         if (st == Status.eformat || st == Status.fault) = true then
           (({ a with trk := trk, linenumber := ln, haveErr := a.haveErr || failed }, ⟨st, nres, bpos⟩) : Ascii × See)
         else
           ({ a with trk := trk.onStop ((bpos : Int) - (lasteol1 : Int)) ((nres : Int) - (nres2 : Int)), linenumber := ln }, ⟨st, nres, bpos⟩)).2.st == Status.eformat)) := by
    intro mx
    have hf := seebufLoop_failed a mx a.bpos 0 0 a.bpos a.trk a.linenumber
    generalize seebufLoop a mx a.bpos 0 0 a.bpos a.trk a.linenumber = r at hf ⊢
    obtain ⟨st, failed, bp, nr, nr2, le, tk, l⟩ := r
    simp only at hf ⊢
    subst hf
    by_cases hc : (st == Status.eformat || st == Status.fault) = true
    · simp only [hc, if_true]
    · simp only [hc]
      have : (st == Status.eformat) = false := by
        cases st <;> simp_all
      simp [this]
  cases maxn with
  | none => exact aux a.nc
  | some m => exact aux m

/-- **`seebuf` on the rest of the buffer is the byte fold over it**, in block or line mode, counted from 0 and for any residue
    limit `M` the buffer cannot reach -/
theorem seebuf_buf (a : Ascii) (hr : NoFault.Rd a) (hok : Track.Ok a.trk) (M : Nat) (hM : a.nc - a.bpos ≤ M) :
    (seebuf a none).2.st = (scanBytes a.inmap M (bufList a a.bpos) ⟨a.trk, a.linenumber, 0⟩ 0).2.2 ∧
    (seebuf a none).2.endpos = a.bpos + (scanBytes a.inmap M (bufList a a.bpos) ⟨a.trk, a.linenumber, 0⟩ 0).2.1 ∧
    (seebuf a none).2.nres = (scanBytes a.inmap M (bufList a a.bpos) ⟨a.trk, a.linenumber, 0⟩ 0).1.nres ∧
    (seebuf a none).1.linenumber = (scanBytes a.inmap M (bufList a a.bpos) ⟨a.trk, a.linenumber, 0⟩ 0).1.ln ∧
    ((seebuf a none).2.st ≠ .eformat → (seebuf a none).2.st ≠ .fault →
      (seebuf a none).1.trk = (scanBytes a.inmap M (bufList a a.bpos) ⟨a.trk, a.linenumber, 0⟩ 0).1.trk) := by
  have key := seebuf_fold a none hr hok
  simp only at key
  have hlen : (bufList a a.bpos).length = a.nc - a.bpos := by simp [bufList]
  have hlim := scanBytes_limit a.inmap a.nc M (bufList a a.bpos) ⟨a.trk, a.linenumber, 0⟩ a.bpos
    (by simp only [hlen]; omega) (by simp only [hlen]; omega)
  rw [hlim] at key
  have sh := scanBytes_shift a.inmap M (bufList a a.bpos) a.trk a.linenumber 0 0 0 a.bpos (Nat.zero_le _)
  simp only [Nat.zero_add, Nat.sub_zero, Nat.add_zero] at sh
  rw [sh] at key
  simp only at key
  obtain ⟨k1, k2, k3, k4, k5⟩ := key
  exact ⟨k1, by rw [k2]; omega, k3, k4, k5⟩

theorem stepByte_status (inmap : Bytes) (s : SS) (c : UInt8) :
    (stepByte inmap s c).2 = .ok ∨ (stepByte inmap s c).2 = .eod ∨ (stepByte inmap s c).2 = .eformat ∨ (stepByte inmap s c).2 = .fault := by
  rw [stepByte_eq]
  split
  · exact Or.inl rfl
  · dsimp only
    split
    · exact Or.inr (Or.inl rfl)
    · split
      · exact Or.inr (Or.inr (Or.inr rfl))
      · exact Or.inr (Or.inr (Or.inl rfl))

theorem scanBytes_status (inmap : Bytes) (M : Nat) (l : List UInt8) (s : SS) (k : Nat) :
    (scanBytes inmap M l s k).2.2 = .ok ∨ (scanBytes inmap M l s k).2.2 = .eod ∨ (scanBytes inmap M l s k).2.2 = .eformat ∨
    (scanBytes inmap M l s k).2.2 = .fault := by
  induction l generalizing s k with
  | nil => simp [scanBytes]
  | cons c rest ih =>
    rcases scanBytes_cons inmap M c rest s k with ⟨_, e⟩ | ⟨_, _, e⟩ | ⟨_, _, e⟩
    · rw [e]; simp
    · rw [e]; exact ih _ _
    · rw [e]; exact stepByte_status inmap s c

theorem dataFold_split (a : Ascii) (h : WF a) (M : Nat) (hM : (fileFrom a).length ≤ M) :
    ((scanBytes a.inmap M ((fileFrom a).take (a.nc - a.bpos)) ⟨a.trk, a.linenumber, 0⟩ 0).2.2 ≠ .ok →
       dataFold a M = scanBytes a.inmap M ((fileFrom a).take (a.nc - a.bpos)) ⟨a.trk, a.linenumber, 0⟩ 0) ∧
    ((scanBytes a.inmap M ((fileFrom a).take (a.nc - a.bpos)) ⟨a.trk, a.linenumber, 0⟩ 0).2.2 = .ok →
       (scanBytes a.inmap M ((fileFrom a).take (a.nc - a.bpos)) ⟨a.trk, a.linenumber, 0⟩ 0).2.1 = a.nc - a.bpos ∧
       dataFold a M = scanBytes a.inmap M ((fileFrom a).drop (a.nc - a.bpos))
         (scanBytes a.inmap M ((fileFrom a).take (a.nc - a.bpos)) ⟨a.trk, a.linenumber, 0⟩ 0).1 (a.nc - a.bpos)) := by
  have l2 := buf_le_fileFrom a h
  have hlen : ((fileFrom a).take (a.nc - a.bpos)).length = a.nc - a.bpos := by
    simp only [List.length_take]; omega
  have happ := scanBytes_append a.inmap M ((fileFrom a).take (a.nc - a.bpos)) ((fileFrom a).drop (a.nc - a.bpos)) ⟨a.trk, a.linenumber, 0⟩ 0
  rw [List.take_append_drop, hlen, Nat.zero_add] at happ
  obtain ⟨_, _, _, _, _, q6, _⟩ := scanBytes_bounds a.inmap M ((fileFrom a).take (a.nc - a.bpos)) ⟨a.trk, a.linenumber, 0⟩ 0
  rw [hlen, Nat.zero_add] at q6
  constructor
  · intro hne
    unfold dataFold
    rw [happ, if_neg (fun hc => hne hc.1)]
  · intro hok
    have hc := q6 (by omega) hok
    refine ⟨hc, ?_⟩
    unfold dataFold
    rw [happ, if_pos ⟨hok, hc⟩]

theorem dataFold_next (a a3 : Ascii) (M n : Nat) (g : SS) (hi : a3.inmap = a.inmap) (ht : a3.trk = g.trk) (hl : a3.linenumber = g.ln)
    (hd : g.nres ≤ M) (l : List UInt8) (hf : fileFrom a3 = l) :
    scanBytes a.inmap M l g n =
      (⟨(dataFold a3 (M - g.nres)).1.trk, (dataFold a3 (M - g.nres)).1.ln, (dataFold a3 (M - g.nres)).1.nres + g.nres⟩,
       (dataFold a3 (M - g.nres)).2.1 + n, (dataFold a3 (M - g.nres)).2.2) := by
  have sh := scanBytes_shift a.inmap M l g.trk g.ln 0 g.nres 0 n hd
  simp only [Nat.zero_add] at sh
  unfold dataFold
  rw [hi, ht, hl, hf]
  exact sh

/-- running out of bytes is `eslEOF` for the loop -/
def finalSt : Status → Status
  | .ok => .eof
  | s => s

theorem WF_L (a : Ascii) (x : Int) (h : WF a) : WF { a with L := x } :=
  WF_of_blk (a := a) rfl h h.bposLe

theorem payload_upd (a b : Ascii) (x y : Int) (z : Track) (hp : Sim.payload a = Sim.payload b) :
    Sim.payload { a with L := a.L + x, linenumber := y, trk := z } = Sim.payload { b with L := b.L + x, linenumber := y, trk := z } := by
  simp only [Sim.payload, Prod.mk.injEq] at hp ⊢
  obtain ⟨h1, h2, h3, h4, h5, h6, h7, h8, h9, h10, h11, h12⟩ := hp
  exact ⟨h1, by rw [h2], trivial, trivial, h5, h6, h7, h8, h9, h10, h11, h12⟩

theorem scanLoop_succ (store : Bool) (fuel : Nat) (a : Ascii) (sq : Sq) : scanLoop store (fuel + 1) a sq =
    if (scanStep store a sq).2.2.2.2 then scanLoop store fuel (scanStep store a sq).1 (scanStep store a sq).2.1
    else ((scanStep store a sq).1, (scanStep store a sq).2.1, (scanStep store a sq).2.2.1, (scanStep store a sq).2.2.2.1) := rfl

theorem scanStep_false (a : Ascii) (sq : Sq) : scanStep false a sq =
    if (seebuf a none).2.st == .fault then ((seebuf a none).1, sq, .fault, (seebuf a none).2.endpos, false) else
    if (seebuf a none).2.st == .eformat then
      ({ (seebuf a none).1 with L := (seebuf a none).1.L + (seebuf a none).2.nres },
       { sq with eoff := (seebuf a none).1.boff + (seebuf a none).2.endpos - 1 }, .eformat, (seebuf a none).2.endpos, false) else
    if (seebuf a none).2.st == .eod then
      ({ (seebuf a none).1 with L := (seebuf a none).1.L + (seebuf a none).2.nres },
       { sq with eoff := (seebuf a none).1.boff + (seebuf a none).2.endpos - 1 }, .eod, (seebuf a none).2.endpos, false) else
    ((loadbuf { (seebuf a none).1 with L := (seebuf a none).1.L + (seebuf a none).2.nres }).1,
      { sq with eoff := (seebuf a none).1.boff + (seebuf a none).2.endpos - 1 },
      (loadbuf { (seebuf a none).1 with L := (seebuf a none).1.L + (seebuf a none).2.nres }).2, (seebuf a none).2.endpos,
      (loadbuf { (seebuf a none).1 with L := (seebuf a none).1.L + (seebuf a none).2.nres }).2 == .ok) := by
  unfold scanStep
  generalize seebuf a none = sb
  obtain ⟨a1, see⟩ := sb
  have : (Status.ok == Status.fault) = false := by decide
  simp only [Bool.and_false, Bool.false_eq_true, if_false, this]

/-- counting (`store = false`, `sqascii_ReadInfo`'s loop) leaves the residue allocation of the `ESL_SQ` as it was -/
theorem scanStep_salloc (a : Ascii) (sq : Sq) : (scanStep false a sq).2.1.salloc = sq.salloc := by
  rw [scanStep_false]
  (repeat' split) <;> rfl

theorem scanLoop_salloc (fuel : Nat) : ∀ (a : Ascii) (sq : Sq), (scanLoop false fuel a sq).2.1.salloc = sq.salloc := by
  induction fuel with
  | zero => intro a sq; rfl
  | succ fuel ih =>
    intro a sq
    rw [scanLoop_succ]
    split
    · exact (ih _ _).trans (scanStep_salloc a sq)
    · exact scanStep_salloc a sq

theorem reset_ok (t : Track) : Track.Ok { t with prvrpl := -1, prvbpl := -1, currpl := 0, curbpl := 0 } :=
  Track.Ok.of_inactive _ (by simp) (by simp) (Or.inl (by simp))

theorem Sim.setL {a1 a2 : Ascii} (h : Sim.Sim a1 a2) (x : Int) : Sim.Sim { a1 with L := x } { a2 with L := x } := by
  obtain ⟨w1, w2, hr, hp, hc⟩ := h
  refine ⟨WF_L a1 x w1, WF_L a2 x w2, ?_, hp, hc⟩
  simp only [Sim.payload, Prod.mk.injEq] at hr ⊢
  obtain ⟨r1, _, r3, r4, r5, r6, r7, r8, r9, r10, r11, r12⟩ := hr
  exact ⟨r1, trivial, r3, r4, r5, r6, r7, r8, r9, r10, r11, r12⟩

theorem dataFold_sim {a1 a2 : Ascii} (h : Sim.Sim a1 a2) (M : Nat) : dataFold a1 M = dataFold a2 M := by
  have hr := h.rest
  simp only [Sim.payload, Prod.mk.injEq] at hr
  obtain ⟨r1, _, r3, r4, r5, _⟩ := hr
  unfold dataFold fileFrom
  rw [r1, r3, r4, r5, h.pos]

theorem endFasta_sim (a1 a2 : Ascii) (sq : Sq) (h : Sim.Sim a1 a2) (l1 : Sim.Live a1) (l2 : Sim.Live a2) :
    (endFasta a1 sq).2 = (endFasta a2 sq).2 ∧ Sim.Sim (endFasta a1 sq).1 (endFasta a2 sq).1 := by
  obtain ⟨x, hx1, hx2⟩ := h.curByte l1 l2
  unfold endFasta
  simp only [Sim.Live] at l1 l2
  simp only [l1, l2, if_true, hx1, hx2]
  by_cases hc : (x != chGt) = true
  · simp only [hc, if_true]
    exact ⟨trivial, h.fail⟩
  · have hc' : (x != chGt) = false := by simpa using hc
    simp only [hc', Bool.false_eq_true, if_false]
    refine ⟨?_, h⟩
    have := h.pos
    simp only [pos] at this
    rw [this]

end EaselModel.Sqio.DataScan
