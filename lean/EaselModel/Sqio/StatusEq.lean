import EaselModel.Sqio.Basic
/-! # Tests on status codes in `simp only`

The model's functions branch on `st == .ok`, `st != .eformat`, …. Once a proof knows which code `st` is, the test is between two
constructors; `simp only [Status.beq_eq_decide, reduceCtorEq, decide_false, decide_true, …]` decides every one of them, so that a
proof need not state `have e : (Status.ok == Status.fault) = false := by decide` for each pair it meets. The lemma also turns a test on a
variable, `st == .ok`, into `decide (st = .ok)`: pass the equation or inequation about `st` to the same `simp only`. -/
namespace EaselModel.Sqio

theorem Status.beq_eq_decide (x y : Status) : (x == y) = decide (x = y) := rfl

end EaselModel.Sqio
