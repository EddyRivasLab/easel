import EaselModel.Sqio.PositionAny
import EaselModel.Sqio.FileWindows
/-! # The declarative FASTA parser restarted at a record's offset yields that record and the ones after it (C04)

`specAll_from_record`: if `specAll` on (a suffix of) the file returns `pre ++ r :: post`, then `specAll` on the bytes from `r.roff`
returns `r :: post` with the same final status. With `PositionAny.position_read_all` (Position at any offset, then the read loop =
`specAll` on the rest of the file): positioning at the `roff` of the k-th record of a sequential scan and reading on returns the
records k, k+1, … of that scan and its final status — for every block size. -/
namespace EaselModel.Sqio.SpecSuffix
open EaselModel.Sqio.Cursor EaselModel.Sqio.BodySpec EaselModel.Sqio.HeaderSpec EaselModel.Sqio.ReadSpec EaselModel.Sqio.ParseFasta
open EaselModel.Sqio.SpecFasta EaselModel.Sqio.FetchSpec

theorem specOne_dropSpace (inmap map : Bytes) (N : Nat) (l : List UInt8) :
    specOne inmap map N (l.dropWhile isSpace) = specOne inmap map N l := by
  unfold specOne
  rw [dropWhile_dropWhile_of_imp _ _ fun _ h => h]

theorem specOne_ok (inmap map : Bytes) (N : Nat) (l : List UInt8) (r : Record) (rest : List UInt8)
    (h : specOne inmap map N l = (.ok, some r, rest)) :
    ∃ c l2, l.dropWhile isSpace = c :: l2 ∧ r.roff = offOf N (c :: l2) ∧ rest <:+ l := by
  obtain ⟨c, l2, l6, hd, h6, hroff, _, hrest⟩ := FileWindows.specOne_ok_shape inmap map N l r rest h
  refine ⟨c, l2, hd, hroff, ?_⟩
  rw [hrest]
  exact (List.dropWhile_suffix _).trans (h6.trans ((List.suffix_cons c l2).trans (by rw [← hd]; exact List.dropWhile_suffix _)))

theorem offOf_toNat (L : List UInt8) (l : List UInt8) (h : l <:+ L) : L.drop (offOf L.length l).toNat = l := by
  have := (List.suffix_iff_eq_drop.mp h).symm
  unfold offOf
  simpa using this

theorem specAll_from_record (inmap map : Bytes) (L : List UInt8) :
    ∀ (pre : List Record) (fuel : Nat) (l : List UInt8) (r : Record) (post : List Record) (st : Status), l <:+ L →
      specAll inmap map L.length fuel l = (pre ++ r :: post, st) →
      specAll inmap map L.length (fuel - pre.length) (L.drop r.roff.toNat) = (r :: post, st) := by
  intro pre
  induction pre with
  | nil =>
    intro fuel l r post st hsuf h
    cases fuel with
    | zero => simp [specAll] at h
    | succ fuel =>
      simp only [List.nil_append] at h
      simp only [List.length_nil, Nat.sub_zero]
      have h' := h
      simp only [specAll] at h'
      split at h'
      · rename_i r0 rest hone
        have e := (Prod.mk.inj h').1
        have er : r0 = r := (List.cons.inj e).1
        subst er
        obtain ⟨c, l2, hd, hroff, _⟩ := specOne_ok inmap map L.length l r0 rest hone
        have s0 : c :: l2 <:+ L := by
          have : c :: l2 <:+ l := by rw [← hd]; exact List.dropWhile_suffix _
          exact this.trans hsuf
        rw [hroff, offOf_toNat L _ s0, ← hd]
        simp only [specAll]
        rw [specOne_dropSpace]
        exact h
      · have := (Prod.mk.inj h').1
        cases this
  | cons p pre' ih =>
    intro fuel l r post st hsuf h
    cases fuel with
    | zero => simp [specAll] at h
    | succ fuel =>
      have h' := h
      simp only [specAll] at h'
      split at h'
      · rename_i r0 rest hone
        obtain ⟨_, _, _, _, hrest⟩ := specOne_ok inmap map L.length l r0 rest hone
        have e1 := (Prod.mk.inj h').1
        have e2 := (Prod.mk.inj h').2
        have et : (specAll inmap map L.length fuel rest).1 = pre' ++ r :: post := by
          have := (List.cons.inj e1).2
          simpa using this
        have := ih fuel rest r post st (hrest.trans hsuf) (by rw [← et, ← e2])
        simpa using this
      · have := (Prod.mk.inj h').1
        cases this

/-- **Position at the `roff` of the k-th record of the sequential scan, then the read loop = the records k, k+1, … of that scan and its
    final status**, for every block size: `specFasta abc bytes = (pre ++ r :: post, st)` is the scan (`read_all_eq_specFasta`). -/
theorem position_at_record_read_all (bytes : Bytes) (abc : Nat) (habc : abc ∈ [0, 1, 2, 3])
    (pre : List Record) (r : Record) (post : List Record) (st : Status)
    (hscan : specFasta abc bytes.toList = (pre ++ r :: post, st))
    (a : Ascii) (hf : a.file = bytes) (hb : a.linebased = false) (hr : a.recording ≠ 1) (hB : 1 ≤ a.B)
    (hi : a.inmap = inmapFasta abc) (hfmt : a.fmt = 1) (heof : a.eofIsOk = true) :
    (position a r.roff.toNat).2 = .ok ∧
    ((readAllM (bytes.size + 2 - pre.length) (position a r.roff.toNat).1 (freshSq abc)).1.map toRecord,
     (readAllM (bytes.size + 2 - pre.length) (position a r.roff.toNat).1 (freshSq abc)).2) = (r :: post, st) := by
  have hN : bytes.toList.length = bytes.size := Array.length_toList
  unfold specFasta at hscan
  have key := specAll_from_record (inmapFasta abc) (if abc = 0 then inmapFasta 0 else abcInmap abc) bytes.toList pre
    (bytes.toList.length + 2) bytes.toList r post st (List.suffix_refl _) hscan
  rw [hN] at key
  -- the offset lies inside the file: otherwise nothing is left to parse
  have hoff : r.roff.toNat < bytes.size := by
    apply Nat.lt_of_not_le
    intro hge
    have hnil : bytes.toList.drop r.roff.toNat = [] := List.drop_eq_nil_of_le (by rw [hN]; exact hge)
    rw [hnil] at key
    cases hfu : bytes.size + 2 - pre.length with
    | zero => rw [hfu] at key; simp [specAll] at key
    | succ n => rw [hfu] at key; simp [specAll, specOne] at key
  obtain ⟨p1, p2⟩ := PositionAny.position_read_all bytes abc habc r.roff.toNat hoff a hf hb hr hB hi hfmt heof (bytes.size + 2 - pre.length)
  refine ⟨p1, ?_⟩
  rw [p2]
  exact key

end EaselModel.Sqio.SpecSuffix
