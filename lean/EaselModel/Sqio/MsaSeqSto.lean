import EaselModel.Msafile.ReadMode
import EaselModel.Msafile.StockholmLemmas
/-! # `ModeOk` for Stockholm / Pfam: no helper of the Stockholm reader ever fails with "eslOK", so the alignment returned is the one
`stoFinal` builds (`digital := cfg.digital, kp := cfg.kp`). -/
namespace EaselModel.Msafile.C02Sto
open EaselModel.Msafile

/-- the readings below take the walk of `Msafile/StockholmLemmas.lean`; its invariant speaks of a configuration, any one does -/
def anyCfg : Cfg := ⟨none, ⟨#[]⟩⟩

theorem getE_ne {α : Type} (l : List α) (i : Nat) (m : Msa) : getE l i ≠ .error (.ok m) := (getE_spec l i).ne m

theorem setE_ne {α : Type} (l : List α) (i : Nat) (v : α) (m : Msa) : setE l i v ≠ .error (.ok m) := (setE_spec l i v).ne m

theorem strcatE_ne (dest : Option Bytes) (ldest : Nat) (src : Bytes) (m : Msa) : strcatE dest ldest src ≠ .error (.ok m) :=
  (strcatE_spec dest ldest src).ne m

theorem sqnameAt_ne (st : StoSt) (i : Nat) (m : Msa) : sqnameAt st i ≠ .error (.ok m) := (sqnameAt_spec st i).ne m

theorem getSeqIdx_ne (st : StoSt) (name : Bytes) (m : Msa) : getSeqIdx st name ≠ .error (.ok m) :=
  (getSeqIdx_spec (cfg := anyCfg) st name).ne m

theorem addGF_ne (st : StoSt) (tag value : Bytes) (m : Msa) : addGF st tag value ≠ .error (.ok m) :=
  (addGF_spec (cfg := anyCfg) st tag value).ne m

theorem parseCutoffs_ne (st : StoSt) (p : Bytes) (i1 i2 : Nat) (undefOk : Bool) (m : Msa) : parseCutoffs st p i1 i2 undefOk ≠ .error (.ok m) :=
  (parseCutoffs_spec (cfg := anyCfg) st p i1 i2 undefOk).ne m

theorem parseGf_ne (st : StoSt) (p : Bytes) (m : Msa) : parseGf st p ≠ .error (.ok m) := (parseGf_spec (cfg := anyCfg) st p).ne m

theorem setSeqOpt_ne (a : OptRows) (sqalloc idx : Nat) (v : Bytes) (m : Msa) : setSeqOpt a sqalloc idx v ≠ .error (.ok m) :=
  (setSeqOpt_spec a sqalloc idx v).ne m

theorem addGS_ne (st : StoSt) (tag : Bytes) (sqidx : Nat) (value : Bytes) (m : Msa) : addGS st tag sqidx value ≠ .error (.ok m) :=
  (addGS_spec (cfg := anyCfg) st tag sqidx value).ne m

theorem optIsSet_ne (a : OptRows) (idx : Nat) (m : Msa) : optIsSet a idx ≠ .error (.ok m) := (optIsSet_spec a 0 idx).ne m

theorem gsSeqIdx_ne (st : StoSt) (seqname : Bytes) (m : Msa) : gsSeqIdx st seqname ≠ .error (.ok m) :=
  (gsSeqIdx_spec (cfg := anyCfg) st seqname).ne m

theorem gsApply_ne (st : StoSt) (seqidx : Nat) (tag p : Bytes) (m : Msa) : gsApply st seqidx tag p ≠ .error (.ok m) :=
  (gsApply_spec (cfg := anyCfg) st seqidx tag p).ne m

theorem parseGs_ne (st : StoSt) (p : Bytes) (m : Msa) : parseGs st p ≠ .error (.ok m) := (parseGs_spec (cfg := anyCfg) st p).ne m

theorem recordLine_ne (st : StoSt) (lt : Nat) (bx : Option Nat) (m : Msa) : recordLine st lt bx ≠ .error (.ok m) :=
  (recordLine_spec (cfg := anyCfg) st lt bx).ne m

theorem expectLine_ne (st : StoSt) (lt : Nat) (m : Msa) : expectLine st lt ≠ .error (.ok m) := (expectLine_spec st lt).ne m

theorem expectSeq_ne (st : StoSt) (name : Bytes) (m : Msa) : expectSeq st name ≠ .error (.ok m) :=
  (expectSeq_spec (cfg := anyCfg) st 0 name).ne m

theorem blockLineDone_ne (st : StoSt) (n : Nat) (m : Msa) : blockLineDone st n ≠ .error (.ok m) :=
  (blockLineDone_spec (cfg := anyCfg) (H := False) st n nofun).ne m

theorem gcLocate_ne (st : StoSt) (lt : Nat) (m : Msa) : gcLocate st lt ≠ .error (.ok m) := (gcLocate_spec (cfg := anyCfg) st lt).ne m

theorem parseGc_ne (st : StoSt) (p : Bytes) (m : Msa) : parseGc st p ≠ .error (.ok m) := (parseGc_spec (cfg := anyCfg) st p).ne m

theorem nameIs_ne (st : StoSt) (i : Nat) (name : Bytes) (m : Msa) : nameIs st i name ≠ .error (.ok m) := (nameIs_spec st i name).ne m

/-- the guesses of `stockholm_parse_gr` / `stockholm_parse_sq` at the sequence a line belongs to: `si - 1`, `si` -/
theorem nameGuess_ne (c : Prop) [Decidable c] (st : StoSt) (i : Nat) (name : Bytes) (m : Msa) :
    (if c then nameIs st i name else .ok false) ≠ .error (.ok m) := (nameGuess_spec c st i name).ne m

theorem grSeqIdx_ne (st : StoSt) (name : Bytes) (m : Msa) : grSeqIdx st name ≠ .error (.ok m) := (grSeqIdx_spec (cfg := anyCfg) st name).ne m

theorem perArrays_ne (st : StoSt) (k : Nat) (m : Msa) : perArrays st k ≠ .error (.ok m) := (perArrays_spec (cfg := anyCfg) st k).ne m

theorem grAppendPer_ne (st : StoSt) (k seqidx : Nat) (txt : Bytes) (m : Msa) : grAppendPer st k seqidx txt ≠ .error (.ok m) :=
  (grAppendPer_spec (cfg := anyCfg) st k seqidx txt).ne m

theorem grAppendOther_ne (st : StoSt) (tag : Bytes) (seqidx : Nat) (txt : Bytes) (m : Msa) : grAppendOther st tag seqidx txt ≠ .error (.ok m) :=
  (grAppendOther_spec (cfg := anyCfg) st tag seqidx txt).ne m

theorem grLocate_ne (st : StoSt) (name : Bytes) (lt : Nat) (m : Msa) : grLocate st name lt ≠ .error (.ok m) :=
  (locate_spec (cfg := anyCfg) name lt (grSeqIdx_spec st name)).ne m

theorem grAppend_ne (st : StoSt) (lt : Nat) (tag : Bytes) (seqidx : Nat) (txt : Bytes) (m : Msa) : grAppend st lt tag seqidx txt ≠ .error (.ok m) :=
  (grAppend_spec (cfg := anyCfg) st lt tag seqidx txt).ne m

theorem parseGr_ne (st : StoSt) (p : Bytes) (m : Msa) : parseGr st p ≠ .error (.ok m) := (parseGr_spec (cfg := anyCfg) st p).ne m

theorem sqSeqIdx_ne (st : StoSt) (seqname : Bytes) (m : Msa) : sqSeqIdx st seqname ≠ .error (.ok m) :=
  (sqSeqIdx_spec (cfg := anyCfg) st seqname).ne m

theorem sqLocate_ne (st : StoSt) (seqname : Bytes) (m : Msa) : sqLocate st seqname ≠ .error (.ok m) :=
  (sqLocate_spec (cfg := anyCfg) st seqname).ne m

theorem parseSq_ne (cfg : Cfg) (st : StoSt) (p : Bytes) (m : Msa) : parseSq cfg st p ≠ .error (.ok m) := (parseSq_spec st p).ne m

theorem parseComment_ne (st : StoSt) (p : Bytes) (m : Msa) : parseComment st p ≠ .error (.ok m) :=
  (parseComment_spec (cfg := anyCfg) st p).ne m

theorem endBlock_ne (st : StoSt) (m : Msa) : endBlock st ≠ .error (.ok m) := (endBlock_spec (cfg := anyCfg) st).ne m

theorem stoFinal_mode (cfg : Cfg) (st : StoSt) : ModeIs cfg (stoFinal cfg st) := by
  rcases stoFinal_cases cfg st with ⟨e, -⟩ | he
  · rw [e]; intro m hm; cases hm; exact ⟨rfl, rfl⟩
  · exact he.okIs.of_false

/-- a step of the Stockholm reader declares success only through `stoFinal` -/
theorem stoStep_ok (cfg : Cfg) (st : StoSt) (line : Bytes) : StepOk (fun _ => True) (ModeIs cfg) (stoStep cfg st line) := by
  have hc := stoStep_out cfg st line
  generalize stoStep cfg st line = y at hc
  cases hc with
  | helper x hx =>
    cases x with
    | ok _ => trivial
    | error r => exact (ErrGood.okIs hx).of_false
  | final st1 _ => exact stoFinal_mode cfg st1

theorem stockholmRead_mode (cfg : Cfg) (lines : List Bytes) : ModeIs cfg (stockholmRead cfg lines).1 :=
  runLines_okIs (stoStep cfg) stoFinish _ (stoStep_ok cfg)
    (fun st m hf => by unfold stoFinish at hf; split at hf <;> simp at hf) lines {}

end EaselModel.Msafile.C02Sto
