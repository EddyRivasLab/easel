import EaselModel.Sqio.BodySpec
/-! # `sqascii_ReadInfo` on a FASTA file returns the same record for every read-block size (C04)

`readInfo_sim`: header (`Sim.headerFasta_sim`) + counting loop (`DataScan.scanLoop_info`: the loop is a fold over the file bytes from the
cursor on, no block size in sight) + `end_fasta` + the final bookkeeping, composed. In front of it, for every format: `sqascii_ReadInfo`
in normal form (`readInfo_eq`, stages `infoRecEnd`, `infoTail`, `infoEnd`), which the closed form (InfoSeqSpec.lean) and the
line-based chains (EmblAll.lean, EmblInfoTotal.lean) read too. The declarations are `DataScan.*`. -/
namespace EaselModel.Sqio.DataScan
open EaselModel.Sqio.Refine EaselModel.Sqio.Fold

/-- the end of `sqascii_ReadInfo` -/
def infoTail (a : Ascii) (sq : Sq) (st : Status) : Ascii × Sq × Status :=
  if st != .ok then (a, sq, st) else
  if !(if sq.digital then 1 < sq.salloc else 0 < sq.salloc) then (a, sq, .fault) else
  (a, { sq with L := a.L, seq := #[], start := 0, end_ := 0, C := 0, W := 0 }, .ok)

/-- the record end of `sqascii_ReadInfo`, when the counting loop has returned `r` = (handle, `ESL_SQ`, status, stop position) -/
def infoRecEnd (r : Ascii × Sq × Status × Nat) : Ascii × Sq × Status :=
  if r.2.2.1 == .eof then (if !r.1.eofIsOk then (r.1.fail, r.2.1, Status.eformat) else (r.1, r.2.1, Status.ok))
  else if r.2.2.1 == .eod then parseEnd { r.1 with bpos := r.2.2.2 } r.2.1
  else (r.1, r.2.1, r.2.2.1)

/-- what `sqascii_ReadInfo` does after the header when the counting loop has returned -/
def infoEnd (r : Ascii × Sq × Status × Nat) : Ascii × Sq × Status :=
  if r.2.2.1 == .fault || r.2.2.1 == .eformat then (r.1, r.2.1, r.2.2.1) else
  infoTail (infoRecEnd r).1 (infoRecEnd r).2.1 (infoRecEnd r).2.2

theorem readInfo_eq (a : Ascii) (sq : Sq) : readInfo a sq =
    if a.nc == 0 then (a, sq, .eof) else
    if (parseHeader a sq).2.2 != .ok then parseHeader a sq else
    infoEnd (scanLoop false (fuelOf { (parseHeader a sq).1 with L := 0 }) { (parseHeader a sq).1 with L := 0 } (parseHeader a sq).2.1) := by
  -- with the tuples taken apart the pattern-matching `let`s of `readInfo` compute, and each branch closes by `rfl`
  unfold readInfo
  by_cases h0 : (a.nc == 0) = true
  · rw [if_pos h0, if_pos h0]
  · rw [if_neg h0, if_neg h0]
    generalize parseHeader a sq = r
    obtain ⟨b, q, s⟩ := r
    by_cases h1 : (s != Status.ok) = true
    · simp only [h1, if_true]
    · simp only [h1, if_false]
      generalize scanLoop false (fuelOf { b with L := 0 }) { b with L := 0 } q = r2
      obtain ⟨b2, q2, s2, e2⟩ := r2
      rfl

theorem infoTail_sim (a1 a2 : Ascii) (sq : Sq) (st : Status) (h : Sim.Sim a1 a2) :
    (infoTail a1 sq st).2 = (infoTail a2 sq st).2 ∧ Sim.Sim (infoTail a1 sq st).1 (infoTail a2 sq st).1 := by
  have hL : a1.L = a2.L := Sim.payload_L h.rest
  unfold infoTail
  rw [hL]
  by_cases h1 : (st != Status.ok) = true
  · simp only [h1, if_true]; exact ⟨by first | trivial | rfl, h⟩
  · simp only [h1, Bool.false_eq_true, if_false]
    by_cases h2 : (!(if sq.digital then decide (1 < sq.salloc) else decide (0 < sq.salloc))) = true
    · simp only [h2, if_true]; exact ⟨by first | trivial | rfl, h⟩
    · simp only [h2, Bool.false_eq_true, if_false]; exact ⟨by first | trivial | rfl, h⟩

theorem parseEnd_fasta (a : Ascii) (sq : Sq) (hf : a.fmt = 1) : parseEnd a sq = endFasta a sq := by
  unfold parseEnd
  simp [hf]

theorem parseHeader_fasta (a : Ascii) (sq : Sq) (hf : a.fmt = 1) : parseHeader a sq = headerFasta a sq := by
  unfold parseHeader
  simp [hf]

theorem Sim.fmtEq {a1 a2 : Ascii} (h : Sim.Sim a1 a2) : a1.fmt = a2.fmt := Sim.payload_fmt h.rest
theorem Sim.inmapEq {a1 a2 : Ascii} (h : Sim.Sim a1 a2) : a1.inmap = a2.inmap := Sim.payload_inmap h.rest

theorem fuelOf_covers (a : Ascii) (h : WF a) :
    (fileFrom a).length ≤ a.file.size + 1 ∧ (fileFrom a).length + (if a.bpos < a.nc then 0 else 1) < fuelOf a := by
  have m := fileFrom_total a h
  unfold fuelOf
  constructor
  · omega
  · split <;> omega

theorem infoEnd_sim (c1 c2 : Ascii) (sq : Sq) (h : Sim.Sim c1 c2) (hf : c1.fmt = 1) (hm : c1.inmap.size = 128) (hok : Track.Ok c1.trk) :
    (infoEnd (scanLoop false (fuelOf c1) c1 sq)).2 = (infoEnd (scanLoop false (fuelOf c2) c2 sq)).2 ∧
    ((infoEnd (scanLoop false (fuelOf c1) c1 sq)).2.2 = .ok →
      Sim.Sim (infoEnd (scanLoop false (fuelOf c1) c1 sq)).1 (infoEnd (scanLoop false (fuelOf c2) c2 sq)).1) := by
  have hfile := h.fileEq
  have hr := h.rest
  simp only [Sim.payload, Prod.mk.injEq] at hr
  obtain ⟨_, _, _, r4, r5, _⟩ := hr
  have i1 := scanLoop_info (fuelOf c1) c1 sq (c1.file.size + 1) h.wf1 hok hm (fuelOf_covers c1 h.wf1).1 (fuelOf_covers c1 h.wf1).2
  have i2 := scanLoop_info (fuelOf c2) c2 sq (c1.file.size + 1) h.wf2 (r4 ▸ hok) (r5 ▸ hm) (hfile ▸ (fuelOf_covers c2 h.wf2).1)
    (fuelOf_covers c2 h.wf2).2
  rw [← dataFold_sim h, ← h.pos] at i2
  have hst : (dataFold c1 (c1.file.size + 1)).2.2 = .ok ∨ (dataFold c1 (c1.file.size + 1)).2.2 = .eod ∨
      (dataFold c1 (c1.file.size + 1)).2.2 = .eformat ∨ (dataFold c1 (c1.file.size + 1)).2.2 = .fault :=
    scanBytes_status _ _ _ _ _
  generalize dataFold c1 (c1.file.size + 1) = f at *
  generalize scanLoop false (fuelOf c1) c1 sq = R1 at *
  generalize scanLoop false (fuelOf c2) c2 sq = R2 at *
  obtain ⟨A1, S1, T1, E1⟩ := R1
  obtain ⟨A2, S2, T2, E2⟩ := R2
  simp only at i1 i2
  obtain ⟨rfl, rfl, k1⟩ := i1
  obtain ⟨rfl, rfl, k2⟩ := i2
  have hpu := payload_upd c1 c2 (f.1.nres : Int) f.1.ln f.1.trk h.rest
  rcases hst with e | e | e | e
  · -- ran to the end of the file
    obtain ⟨w1, p1, _, q1⟩ := k1 (by rw [e]; decide)
    obtain ⟨w2, p2, _, q2⟩ := k2 (by rw [e]; decide)
    obtain ⟨at1, ps1⟩ := q1 e
    obtain ⟨at2, ps2⟩ := q2 e
    have hS : Sim.Sim A1 A2 := ⟨w1, w2, p1.trans (hpu.trans p2.symm), ps1.trans (by rw [ps2, hfile]), Or.inr ⟨at1, at2⟩⟩
    have hE : A1.eofIsOk = A2.eofIsOk := Sim.payload_eofIsOk hS.rest
    unfold infoEnd infoRecEnd
    simp only [e, finalSt, hE]
    simp only [Status.beq_eq_decide, reduceCtorEq, decide_false, Bool.or_self, Bool.false_eq_true, if_false, beq_self_eq_true, if_true]
    by_cases hk : A2.eofIsOk = true
    · simp only [hk, Bool.not_true, Bool.false_eq_true, if_false]
      exact ⟨(infoTail_sim A1 A2 _ _ hS).1, fun _ => (infoTail_sim A1 A2 _ _ hS).2⟩
    · have hk' : A2.eofIsOk = false := by simpa using hk
      simp only [hk', Bool.not_false, if_true]
      exact ⟨(infoTail_sim _ _ _ _ hS.fail).1, fun _ => (infoTail_sim _ _ _ _ hS.fail).2⟩
  · -- end of the record's data: `end_fasta`
    obtain ⟨w1, p1, q1, _⟩ := k1 (by rw [e]; decide)
    obtain ⟨w2, p2, q2, _⟩ := k2 (by rw [e]; decide)
    obtain ⟨ps1, lt1⟩ := q1 e
    obtain ⟨ps2, lt2⟩ := q2 e
    have hf1 : A1.fmt = 1 := (Sim.payload_fmt p1).trans hf
    have hf2 : A2.fmt = 1 := (Sim.payload_fmt p2).trans ((Sim.fmtEq h).symm.trans hf)
    have hS : Sim.Sim { A1 with bpos := E1 } { A2 with bpos := E2 } :=
      ⟨⟨w1.block, w1.norec, w1.bpos1, w1.full, w1.moff0, w1.fposEq, w1.fposLe, w1.ncLe, w1.boffEq, Nat.le_of_lt lt1⟩,
       ⟨w2.block, w2.norec, w2.bpos1, w2.full, w2.moff0, w2.fposEq, w2.fposLe, w2.ncLe, w2.boffEq, Nat.le_of_lt lt2⟩,
       p1.trans (hpu.trans p2.symm), ps1.trans ps2.symm, Or.inl ⟨lt1, lt2⟩⟩
    unfold infoEnd infoRecEnd
    simp only [e, finalSt]
    simp only [Status.beq_eq_decide, reduceCtorEq, decide_false, Bool.or_self, Bool.false_eq_true, if_false, beq_self_eq_true, if_true]
    rw [parseEnd_fasta _ _ (show ({ A1 with bpos := E1 } : Ascii).fmt = 1 from hf1),
        parseEnd_fasta _ _ (show ({ A2 with bpos := E2 } : Ascii).fmt = 1 from hf2)]
    obtain ⟨ee, es⟩ := endFasta_sim _ _ { sq with eoff := pos c1 + (f.2.1 : Int) - 1 } hS lt1 lt2
    generalize endFasta { A1 with bpos := E1 } _ = r1 at *
    generalize endFasta { A2 with bpos := E2 } _ = r2 at *
    obtain ⟨x1, y1, z1⟩ := r1
    obtain ⟨x2, y2, z2⟩ := r2
    simp only at ee es ⊢
    obtain ⟨rfl, rfl⟩ := Prod.mk.inj ee
    exact ⟨(infoTail_sim _ _ _ _ es).1, fun _ => (infoTail_sim _ _ _ _ es).2⟩
  · unfold infoEnd infoRecEnd
    simp only [e, finalSt]
    simp only [beq_self_eq_true, Bool.or_true, if_true]
    exact ⟨by first | trivial | rfl, fun hk => by cases hk⟩
  · unfold infoEnd infoRecEnd
    simp only [e, finalSt]
    simp only [beq_self_eq_true, Bool.true_or, if_true]
    exact ⟨by first | trivial | rfl, fun hk => by cases hk⟩
/-- **`sqascii_ReadInfo` on a FASTA file is block-size independent**: from similar handles (same file, same absolute position, any two
    block sizes) it returns the same status and the same `ESL_SQ`, and when it succeeds the handles are similar again — so the next
    call starts from similar handles too. -/
theorem readInfo_sim (a1 a2 : Ascii) (sq : Sq) (h : Sim.Sim a1 a2) (hf : a1.fmt = 1) (hm : a1.inmap.size = 128) :
    (readInfo a1 sq).2 = (readInfo a2 sq).2 ∧
    ((readInfo a1 sq).2.2 = .ok → Sim.Sim (readInfo a1 sq).1 (readInfo a2 sq).1) := by
  have hf2 : a2.fmt = 1 := (Sim.fmtEq h).symm.trans hf
  rw [readInfo_eq, readInfo_eq, parseHeader_fasta a1 sq hf, parseHeader_fasta a2 sq hf2]
  rcases h.cur with ⟨l1, l2⟩ | ⟨e1, e2⟩
  · have n1 : (a1.nc == 0) = false := by simp only [Sim.Live] at l1; simp; omega
    have n2 : (a2.nc == 0) = false := by simp only [Sim.Live] at l2; simp; omega
    simp only [n1, n2, Bool.false_eq_true, if_false]
    obtain ⟨hd, hs⟩ := Sim.headerFasta_sim a1 a2 sq h l1 l2
    have hfr := Frame.headerFasta_frame a1 sq
    have g2 : (headerFasta a1 sq).1.fmt = a1.fmt := hfr.fmt
    have g3 : (headerFasta a1 sq).1.inmap = a1.inmap := hfr.inmap
    have k1 : (headerFasta a1 sq).2.2 = .ok → Track.Ok (headerFasta a1 sq).1.trk := fun hok => by
      rw [hfr.trk, if_pos hok]; exact reset_ok _
    clear hfr
    generalize headerFasta a1 sq = r1 at *
    generalize headerFasta a2 sq = r2 at *
    obtain ⟨b1, sq1, st1⟩ := r1
    obtain ⟨b2, sq2, st2⟩ := r2
    simp only at hd hs k1 g2 g3 ⊢
    obtain ⟨rfl, rfl⟩ := Prod.mk.inj hd
    by_cases hst : st1 = .ok
    · subst hst
      simp only [bne_self_eq_false, Bool.false_eq_true, if_false]
      exact infoEnd_sim { b1 with L := 0 } { b2 with L := 0 } sq1 (Sim.setL hs 0) (g2.trans hf) (by rw [g3]; exact hm) (k1 rfl)
    · have hne : (st1 != Status.ok) = true := by simpa using hst
      simp only [hne, if_true]
      exact ⟨by first | trivial | rfl, fun hk => absurd hk hst⟩
  · have n1 : (a1.nc == 0) = true := by simp [e1.1]
    have n2 : (a2.nc == 0) = true := by simp [e2.1]
    simp only [n1, n2, if_true]
    exact ⟨by first | trivial | rfl, fun hk => by cases hk⟩

end EaselModel.Sqio.DataScan
