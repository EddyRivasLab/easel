import EaselModel.Sqio.EmblAll
/-! # The line-based readers (EMBL / UniProt / GenBank / DDBJ) never fault (C02)

For every byte string and every block size `sqascii_Read` and `sqascii_ReadSequence` (the same call with `skip_header`: the header
parsers with `parse = false`) return `eslOK`, `eslEOF` or `eslEFORMAT`: the model-only outcome `fault` (an access outside a buffer or
an allocation, a loop running out of fuel) is unreachable, and no exception is raised. The measure is `rl`: every pass of every
loop consumes a line of the file. That a handle stays a line-mode handle (`LWF`) under `fail`, `seebuf`, a new `L` or `bpos` is read off
the two-handle lemmas of `EmblSpec` / `EmblAll` at `(a, a)` (`(fail_lsim (lsim_refl w)).w1` …); the stages of the readers (`emblId`,
`gbLocus`, `hdrTail`, `headerLine`, `bodyEnd`, `bodyFin`) and their equations are taken from there too. -/
namespace EaselModel.Sqio.EmblTotal
open EaselModel.Sqio EaselModel.Sqio.LineSpec EaselModel.Sqio.EmblSpec EaselModel.Sqio.EmblAll
open EaselModel.Sqio.Fold EaselModel.Sqio.BodySpec

/-- number of file bytes behind the current line -/
def rl (a : Ascii) : Nat := (a.file.toList.drop (a.boff.toNat + a.nc)).length

theorem rl_lt_fuel (a : Ascii) : rl a < fuelOf a := by
  unfold rl fuelOf
  simp only [List.length_drop, Array.length_toList]
  omega

theorem bufList_length (a : Ascii) (lo : Nat) : (bufList a lo).length = a.nc - lo := by
  simp [bufList]

theorem nextLine_length (l : List UInt8) : (nextLine l).2.length ≤ l.length ∧ (l ≠ [] → (nextLine l).2.length < l.length) := by
  have h := congrArg List.length (nextLine_append l)
  rw [List.length_append] at h
  refine ⟨by omega, fun hne => ?_⟩
  have : (nextLine l).1.length ≠ 0 := fun k => hne (nextLine_fst_nil l (List.eq_nil_of_length_eq_zero k))
  omega

/-- `b` is a line-mode handle on the file of `a` with format, exception flag and input map unchanged: what every stage of a
    whole-record call keeps -/
structure BGood (a b : Ascii) : Prop where
  fmt : b.fmt = a.fmt
  w : LWF b
  exc : b.exc = a.exc
  inm : b.inmap = a.inmap
  file : b.file = a.file

theorem BGood.refl {a : Ascii} (w : LWF a) : BGood a a := ⟨rfl, w, rfl, rfl, rfl⟩
theorem BGood.trans {a b c : Ascii} (h1 : BGood a b) (h2 : BGood b c) : BGood a c :=
  ⟨h2.fmt.trans h1.fmt, h2.w, h2.exc.trans h1.exc, h2.inm.trans h1.inm, h2.file.trans h1.file⟩
theorem BGood.fail {a b : Ascii} (h : BGood a b) : BGood a b.fail :=
  ⟨h.fmt, (fail_lsim (lsim_refl h.w)).w1, h.exc, h.inm, h.file⟩

/-- the mode of the `ESL_SQ` is kept and its residue allocation has not shrunk: the header parsers write names, description and
    offsets only, the storing loop grows the allocation -/
structure Same (sq q : Sq) : Prop where
  digital : q.digital = sq.digital
  abc : q.abc = sq.abc
  salloc : sq.salloc ≤ q.salloc

theorem Same.refl (sq : Sq) : Same sq sq := ⟨rfl, rfl, Nat.le_refl _⟩
theorem Same.trans {s q r : Sq} (h1 : Same s q) (h2 : Same q r) : Same s r :=
  ⟨h2.digital.trans h1.digital, h2.abc.trans h1.abc, Nat.le_trans h1.salloc h2.salloc⟩

/-- what the header parsers and the record end leave alone: they write names, description and offsets only -/
structure Kept (sq q : Sq) : Prop where
  digital : q.digital = sq.digital
  abc : q.abc = sq.abc
  salloc : q.salloc = sq.salloc

theorem Kept.refl (sq : Sq) : Kept sq sq := ⟨rfl, rfl, rfl⟩
theorem Kept.trans {s q r : Sq} (h1 : Kept s q) (h2 : Kept q r) : Kept s r :=
  ⟨h2.digital.trans h1.digital, h2.abc.trans h1.abc, h2.salloc.trans h1.salloc⟩
theorem Kept.same {sq q : Sq} (h : Kept sq q) : Same sq q := ⟨h.digital, h.abc, Nat.le_of_eq h.salloc.symm⟩
theorem Kept.appendDescIf (c : Bool) (q : Sq) (piece : Bytes) : Kept q (if c then appendDesc q piece else q) := by
  split <;> exact ⟨rfl, rfl, rfl⟩

/-- from `(a, sq)` to `(b, q)` anywhere in a whole-record call: `BGood`, `Same`, and no more file bytes behind the current line -/
structure BStep (a : Ascii) (sq : Sq) (b : Ascii) (q : Sq) : Prop where
  good : BGood a b
  same : Same sq q
  le : rl b ≤ rl a

theorem BStep.trans {a b c : Ascii} {sq q r : Sq} (h1 : BStep a sq b q) (h2 : BStep b q c r) : BStep a sq c r :=
  ⟨h1.good.trans h2.good, h1.same.trans h2.same, Nat.le_trans h2.le h1.le⟩

/-- a `BStep` that leaves the tracker and the residue allocation alone: the header parsers and the record end (the residue loop
    moves the one and, when storing, grows the other) -/
structure Step (a : Ascii) (sq : Sq) (b : Ascii) (q : Sq) : Prop extends BStep a sq b q where
  trk : b.trk = a.trk
  salloc : q.salloc = sq.salloc

theorem Step.kept {a b : Ascii} {sq q : Sq} (h : Step a sq b q) : Kept sq q := ⟨h.same.digital, h.same.abc, h.salloc⟩
theorem Step.refl {a : Ascii} (w : LWF a) (sq : Sq) : Step a sq a sq := ⟨⟨BGood.refl w, Same.refl sq, Nat.le_refl _⟩, rfl, rfl⟩
theorem Step.trans {a b c : Ascii} {sq q r : Sq} (h1 : Step a sq b q) (h2 : Step b q c r) : Step a sq c r :=
  ⟨h1.toBStep.trans h2.toBStep, h2.trk.trans h1.trk, h2.salloc.trans h1.salloc⟩
theorem Step.fail {a b : Ascii} {sq q : Sq} (h : Step a sq b q) : Step a sq b.fail q := ⟨⟨h.good.fail, h.same, h.le⟩, h.trk, h.salloc⟩
theorem Step.withSq {a b : Ascii} {sq q r : Sq} (h : Step a sq b q) (k : Kept q r) : Step a sq b r :=
  ⟨⟨h.good, h.same.trans k.same, h.le⟩, h.trk, k.salloc.trans h.salloc⟩

theorem loadbuf_step (a : Ascii) (w : LWF a) (sq : Sq) :
    Step a sq (loadbuf a).1 sq ∧ (((loadbuf a).2 = .ok ∧ rl (loadbuf a).1 < rl a) ∨ (loadbuf a).2 = .eof) := by
  have n := loadbuf_line a w
  have hkeep := n.keep
  simp only [keepL, Prod.mk.injEq] at hkeep
  obtain ⟨hfile, _, _, _, htrk, hinm, hfmt, _, _, _, hexc, _⟩ := hkeep
  obtain ⟨hle, hlt⟩ := nextLine_length (a.file.toList.drop (a.boff.toNat + a.nc))
  have hrl : rl (loadbuf a).1 = (nextLine (a.file.toList.drop (a.boff.toNat + a.nc))).2.length := by
    unfold rl; rw [hfile, n.rest]
  refine ⟨⟨⟨⟨hfmt, n.wf, hexc, hinm, hfile⟩, Same.refl sq, by rw [hrl]; exact hle⟩, htrk, rfl⟩, ?_⟩
  rw [n.st]
  split
  · exact Or.inr rfl
  · rename_i hne
    exact Or.inl ⟨rfl, by rw [hrl]; exact hlt hne⟩

theorem loadbuf_bpos (a : Ascii) (w : LWF a) : (loadbuf a).1.bpos = 0 := (loadbuf_line a w).bpos

/-- outcome `r` of a header parser or one of its stages started at `(a, sq)`. `lt` (on `eslOK` at least one line was consumed) is what
    makes the client loop over whole records terminate; `bposLe` (a fresh line was loaded last, the cursor is inside it) is what the residue loop starts from -/
structure Hdr (a : Ascii) (sq : Sq) (r : Ascii × Sq × Status) : Prop where
  step : Step a sq r.1 r.2.1
  st : r.2.2 = .ok ∨ r.2.2 = .eof ∨ r.2.2 = .eformat
  err : r.2.2 = .eformat → r.1.haveErr = true
  lt : r.2.2 = .ok → rl r.1 < rl a
  bposLe : r.2.2 = .ok → r.1.bpos ≤ r.1.nc

theorem Hdr.fail {a b : Ascii} {sq q : Sq} (h : Step a sq b q) : Hdr a sq (b.fail, q, .eformat) :=
  ⟨h.fail, Or.inr (Or.inr rfl), fun _ => rfl, nofun, nofun⟩
theorem Hdr.eof {a b : Ascii} {sq q : Sq} (h : Step a sq b q) : Hdr a sq (b, q, .eof) :=
  ⟨h, Or.inr (Or.inl rfl), nofun, nofun, nofun⟩
theorem Hdr.ok {a b : Ascii} {sq q : Sq} (h : Step a sq b q) (hlt : rl b < rl a) (hp : b.bpos = 0) : Hdr a sq (b, q, .ok) :=
  ⟨h, Or.inl rfl, nofun, fun _ => hlt, fun _ => by rw [hp]; exact Nat.zero_le _⟩
theorem Hdr.after {a b : Ascii} {sq q : Sq} {r : Ascii × Sq × Status} (h : Step a sq b q) (k : Hdr b q r) : Hdr a sq r :=
  ⟨h.trans k.step, k.st, k.err, fun e => Nat.lt_of_lt_of_le (k.lt e) h.le, k.bposLe⟩

/-- `if ((status = loadbuf(sqfp)) != eslOK) ESL_FAIL(eslEFORMAT, …)` inside a header parser: in line mode the load does not fault, the
    end of the file is a format error, and otherwise a line was consumed and the cursor stands at its start -/
theorem Hdr.loaded {a : Ascii} {sq : Sq} (w : LWF a) {r : Ascii × Sq × Status}
    (hr : Step a sq (loadbuf a).1 sq → rl (loadbuf a).1 < rl a → (loadbuf a).1.bpos = 0 → Hdr a sq r) :
    Hdr a sq (if (loadbuf a).2 == .fault then ((loadbuf a).1, sq, .fault) else
      if (loadbuf a).2 != .ok then ((loadbuf a).1.fail, sq, .eformat) else r) := by
  obtain ⟨sl, hs⟩ := loadbuf_step a w sq
  rcases hs with ⟨e, hlt⟩ | e <;> rw [e]
  · exact hr sl hlt (loadbuf_bpos a w)
  · exact Hdr.fail sl

theorem skipLinesWhile_step (cond : Bytes → Bool) (fuel : Nat) : ∀ (a : Ascii) (sq : Sq), LWF a → rl a < fuel →
    Step a sq (skipLinesWhile cond fuel a).1 sq ∧ ((skipLinesWhile cond fuel a).2 = .ok ∨ (skipLinesWhile cond fuel a).2 = .eof) := by
  induction fuel with
  | zero => intro a _ _ h; omega
  | succ fuel ih =>
    intro a sq w hf
    simp only [skipLinesWhile]
    obtain ⟨sl, hs⟩ := loadbuf_step a w sq
    generalize loadbuf a = r at sl hs
    obtain ⟨b, s⟩ := r
    simp only at sl hs ⊢
    split
    · split
      · rename_i hne
        rcases hs with ⟨rfl, _⟩ | rfl
        · exact absurd hne (by decide)
        · exact ⟨sl, Or.inr rfl⟩
      · rename_i hok
        rcases hs with ⟨_, hlt⟩ | rfl
        · obtain ⟨i1, i2⟩ := ih b sq sl.good.w (by omega)
          exact ⟨sl.trans i1, i2⟩
        · exact absurd hok (by decide)
    · exact ⟨Step.refl w sq, Or.inl rfl⟩

/-- every pass consumes a line, so the fuel never runs out -/
theorem emblScan_hdr (parse : Bool) (fuel : Nat) : ∀ (a : Ascii) (sq : Sq), LWF a → rl a < fuel →
    Hdr a sq (emblScan parse fuel a sq) := by
  induction fuel with
  | zero => intro a sq _ h; omega
  | succ fuel ih =>
    intro a sq w hf
    simp only [emblScan]
    refine Hdr.loaded w fun sl hlt hp => ?_
    split
    · exact Hdr.fail sl
    rename_i q hq
    -- `q` is `sq`, or `sq` with the token stored in one string field
    have k : Kept sq q := by
      (repeat' split at hq) <;> cases hq <;> exact ⟨rfl, rfl, rfl⟩
    split
    · exact Hdr.ok (sl.withSq (k.trans (Kept.appendDescIf _ q _))) hlt hp
    · exact Hdr.after (sl.withSq (k.trans (Kept.appendDescIf _ q _))) (ih _ _ sl.good.w (by omega))

theorem genbankScan_hdr (parse : Bool) (fuel : Nat) : ∀ (a : Ascii) (sq : Sq), LWF a → rl a < fuel →
    Hdr a sq (genbankScan parse fuel a sq) := by
  induction fuel with
  | zero => intro a sq _ h; omega
  | succ fuel ih =>
    intro a sq w hf
    simp only [genbankScan]
    refine Hdr.loaded w fun sl hlt hp => ?_
    split
    · exact Hdr.fail sl
    rename_i q hq
    have k : Kept sq q := by
      (repeat' split at hq) <;> cases hq <;> exact ⟨rfl, rfl, rfl⟩
    split
    · exact Hdr.ok (sl.withSq (k.trans (Kept.appendDescIf _ q _))) hlt hp
    · exact Hdr.after (sl.withSq (k.trans (Kept.appendDescIf _ q _))) (ih _ _ sl.good.w (by omega))

theorem hdrTail_hdr {a : Ascii} {sq : Sq} {r : Ascii × Sq × Status} (h : Hdr a sq r) : Hdr a sq (hdrTail r) := by
  unfold hdrTail
  split
  · exact h
  · exact Hdr.after h.step (Hdr.loaded h.step.good.w fun sl hlt hp => Hdr.ok (sl.withSq ⟨rfl, rfl, rfl⟩) hlt hp)

theorem emblId_hdr (parse : Bool) (a : Ascii) (sq : Sq) (w : LWF a) : Hdr a sq (emblId parse a sq) := by
  unfold emblId
  split
  · exact Hdr.fail (Step.refl w sq)
  split
  · exact Hdr.fail (Step.refl w sq)
  rename_i q hq
  have k : Kept sq q := by
    (repeat' split at hq) <;> cases hq <;> exact ⟨rfl, rfl, rfl⟩
  -- the scan starts on the same line with the offsets (and, for `skip_header`, the cleared strings) set
  refine hdrTail_hdr (Hdr.after ((Step.refl w sq).withSq (k.trans ?_)) (emblScan_hdr parse (fuelOf a) a _ w (rl_lt_fuel a)))
  split <;> exact ⟨rfl, rfl, rfl⟩

theorem gbLocus_hdr (parse : Bool) (a : Ascii) (sq : Sq) (w : LWF a) : Hdr a sq (gbLocus parse a sq) := by
  unfold gbLocus
  split
  · exact Hdr.fail (Step.refl w sq)
  rename_i q hq
  have k : Kept sq q := by
    (repeat' split at hq) <;> cases hq <;> exact ⟨rfl, rfl, rfl⟩
  refine hdrTail_hdr (Hdr.after ((Step.refl w sq).withSq (k.trans ?_)) (genbankScan_hdr parse (fuelOf a) a _ w (rl_lt_fuel a)))
  split <;> exact ⟨rfl, rfl, rfl⟩

/-- the common frame of `header_embl` / `header_genbank`: `eslEOF` on an empty buffer, skip the lines before the record, then `f` -/
theorem skipThen_hdr (cond : Bytes → Bool) (f : Ascii → Sq → Ascii × Sq × Status) (a : Ascii) (sq : Sq) (w : LWF a)
    (hf : ∀ b, LWF b → Hdr b sq (f b sq)) :
    Hdr a sq (if a.nc == 0 then (a, sq, .eof) else
      if (skipLinesWhile cond (fuelOf a) a).2 != .ok then ((skipLinesWhile cond (fuelOf a) a).1, sq, (skipLinesWhile cond (fuelOf a) a).2)
      else f (skipLinesWhile cond (fuelOf a) a).1 sq) := by
  obtain ⟨s, hs⟩ := skipLinesWhile_step cond (fuelOf a) a sq w (rl_lt_fuel a)
  split
  · exact Hdr.eof (Step.refl w sq)
  split
  · rename_i hne
    rcases hs with k | k
    · rw [k] at hne; exact absurd hne (by decide)
    · rw [k]; exact Hdr.eof s
  · exact Hdr.after s (hf _ s.good.w)

theorem headerEmbl_hdr (parse : Bool) (a : Ascii) (sq : Sq) (w : LWF a) : Hdr a sq (headerEmbl parse a sq) := by
  rw [headerEmbl_eq]
  exact skipThen_hdr isBlankStr (emblId parse) a sq w fun b wb => emblId_hdr parse b sq wb

theorem headerGenbank_hdr (parse : Bool) (a : Ascii) (sq : Sq) (w : LWF a) : Hdr a sq (headerGenbank parse a sq) := by
  rw [headerGenbank_eq]
  exact skipThen_hdr (fun l => !hasPrefix l "LOCUS   ") (gbLocus parse) a sq w fun b wb => gbLocus_hdr parse b sq wb

theorem headerLine_hdr (parse : Bool) (a : Ascii) (sq : Sq) (w : LWF a) : Hdr a sq (headerLine parse a sq) := by
  unfold headerLine
  split
  · exact headerEmbl_hdr parse a sq w
  · exact headerGenbank_hdr parse a sq w

theorem lwf_lineSize (a : Ascii) (w : LWF a) : a.line.size = a.nc := by
  have hb := w.boff0
  have hn := w.next
  have hle : a.boff.toNat + a.nc ≤ a.file.size := by
    by_cases k : a.mpos < a.mn
    · obtain ⟨m1, m2⟩ := w.mem k
      simp only [k, if_true] at hn
      have := w.fposLe; have := w.mposLe
      omega
    · simp only [k, if_false] at hn
      have := w.fposLe
      omega
  rw [w.lineEq, Array.size_extract]
  omega

theorem rd_of_lwf (a : Ascii) (w : LWF a) : NoFault.Rd a := by
  intro i hi
  have hs := lwf_lineSize a w
  have hlt : i < a.line.size := by rw [hs]; exact hi
  exact ⟨a.line[i], by simp [Ascii.bufGet, w.lb, hi, hlt]⟩

/-- what the body loop needs of handle and `ESL_SQ` -/
structure BInv (a : Ascii) (sq : Sq) : Prop where
  w : LWF a
  tok : Track.Ok a.trk
  hm : a.inmap.size = 128
  hmap : MapOk a.inmap (mapOf a sq)

theorem mapOf_same {a b : Ascii} {sq q : Sq} (hi : b.inmap = a.inmap) (hd : q.digital = sq.digital) (ha : q.abc = sq.abc) :
    mapOf b q = mapOf a sq := by
  simp only [mapOf, hi, hd, ha]

/-- **one pass of the residue loop on a line**, storing (`Read`, `ReadSequence`) or counting (`ReadInfo`). `scanStep store a sq` returns
    (handle, `ESL_SQ`, status, `epos`, go-round-again flag). `BodySpec.scanStep_buf` says what the pass does with the buffer, whatever the
    mode; here the buffer is the line, the handle in between (`afterBuf`) stands on the same line, and `loadbuf` is the next line -/
theorem scanStep_line (store : Bool) (a : Ascii) (sq : Sq) (w : LWF a) (hb : a.bpos ≤ a.nc) (tok : Track.Ok a.trk)
    (hm : a.inmap.size = 128) (hmap : store = true → MapOk a.inmap (mapOf a sq)) :
    BStep a sq (scanStep store a sq).1 (scanStep store a sq).2.1 ∧
    (((scanStep store a sq).2.2.1 = .eformat ∧ (scanStep store a sq).2.2.2.2 = false ∧ (scanStep store a sq).1.haveErr = true) ∨
     (((scanStep store a sq).2.2.1 = .eod ∨ (scanStep store a sq).2.2.1 = .eof) ∧ (scanStep store a sq).2.2.2.2 = false ∧
        (store = true → (scanStep store a sq).2.1.termOk = true) ∧ Track.Ok (scanStep store a sq).1.trk) ∨
     ((scanStep store a sq).2.2.1 = .ok ∧ (scanStep store a sq).2.2.2.2 = true ∧ Track.Ok (scanStep store a sq).1.trk ∧
        rl (scanStep store a sq).1 < rl a ∧ (scanStep store a sq).1.bpos ≤ (scanStep store a sq).1.nc)) := by
  obtain ⟨tokg, b, _, hc⟩ := scanStep_buf store a sq a.nc (rd_of_lwf a w) hb tok hm hmap (Nat.sub_le _ _) _ rfl
  have hsb := (DataScan.seebuf_buf a (rd_of_lwf a w) tok a.nc (Nat.sub_le _ _)).1
  generalize scanBytes a.inmap a.nc (bufList a a.bpos) ⟨a.trk, a.linenumber, 0⟩ 0 = g at tokg hc hsb
  -- the handle after `seebuf` and `addbuf` differs from `a` in cursor, `L`, line number and tracker only
  have wX : LWF (afterBuf a b g.1) := LWF_of_geoL (a := a) rfl w
  have gX : BGood a (afterBuf a b g.1) := ⟨rfl, wX, rfl, rfl, rfl⟩
  have hsq : ∀ (d : List UInt8) (e : Int), Same sq { stored store a.inmap (mapOf a sq) sq d with eoff := e } ∧
      (store = true → ({ stored store a.inmap (mapOf a sq) sq d with eoff := e } : Sq).termOk = true) := by
    intro d e
    cases store with
    | false => exact ⟨⟨rfl, rfl, Nat.le_refl _⟩, nofun⟩
    | true => exact ⟨⟨rfl, rfl, Nat.le_max_left _ _⟩, fun _ => ReadSpec.stored_termOk a.inmap (mapOf a sq) sq d⟩
  rcases hc with ⟨_, _, e⟩ | ⟨_, _, e⟩ | ⟨eo, e1, e2, e3, _⟩
  · -- the whole rest of the line is data: next line
    obtain ⟨q1, q3⟩ := hsq (bufList a a.bpos) (a.boff + ((a.bpos + g.2.1 : Nat) : Int) - 1)
    obtain ⟨sX, hls⟩ := loadbuf_step _ wX sq
    have hp := loadbuf_bpos _ wX
    rw [e]
    refine ⟨⟨gX.trans sX.good, q1, sX.le⟩, ?_⟩
    rcases hls with ⟨k', hlt⟩ | k'
    · exact Or.inr (Or.inr ⟨k', by rw [k']; rfl, by rw [sX.trk]; exact tokg, hlt, by rw [hp]; exact Nat.zero_le _⟩)
    · exact Or.inr (Or.inl ⟨Or.inr k', by rw [k']; rfl, q3, by rw [sX.trk]; exact tokg⟩)
  · -- end of data on this line
    obtain ⟨q1, q3⟩ := hsq ((bufList a a.bpos).take g.2.1) (a.boff + ((a.bpos + g.2.1 : Nat) : Int) - 1)
    rw [e]
    exact ⟨⟨gX, q1, Nat.le_refl _⟩, Or.inr (Or.inl ⟨Or.inl rfl, rfl, q3, tokg⟩)⟩
  · -- an illegal byte: the handle is the one `seebuf` leaves (`L` apart), the `ESL_SQ` is `sq` (`eoff` apart)
    have hs : (seebuf a none).2.st = .eformat := hsb.trans eo
    have e7 : (Status.eformat == Status.fault) = false := by decide
    have e8 : (Status.ok == Status.fault) = false := by decide
    have wS : LWF (seebuf a none).1 := (seebuf_lsim (lsim_refl w) none).1.w1
    have eS := Frame.seebuf_eq a none
    have gS : BGood a (seebuf a none).1 := ⟨(congrArg Ascii.fmt eS).trans rfl, wS, (congrArg Ascii.exc eS).trans rfl,
      (congrArg Ascii.inmap eS).trans rfl, (congrArg Ascii.file eS).trans rfl⟩
    have hrl : rl (seebuf a none).1 = rl a := by unfold rl; rw [eS]
    refine ⟨?_, Or.inl ⟨e1, e2, e3⟩⟩
    rw [scanStep_eq]
    cases store
    · simp only [hs, e7, e8, adS, Bool.false_eq_true, if_false, beq_self_eq_true, Bool.and_false, if_true]
      exact ⟨⟨gS.fmt, (setL_lsim (lsim_refl wS) _).w1, gS.exc, gS.inm, gS.file⟩, ⟨rfl, rfl, Nat.le_refl _⟩, Nat.le_of_eq hrl⟩
    · simp only [hs, e7, Bool.false_eq_true, if_false, beq_self_eq_true, Bool.and_true, if_true]
      exact ⟨gS, ⟨rfl, rfl, Nat.le_refl _⟩, Nat.le_of_eq hrl⟩

/-- every pass consumes one line, so the fuel `size + 2` always suffices -/
theorem scanLoop_line (store : Bool) (fuel : Nat) : ∀ (a : Ascii) (sq : Sq), LWF a → a.bpos ≤ a.nc → Track.Ok a.trk →
    a.inmap.size = 128 → (store = true → MapOk a.inmap (mapOf a sq)) → rl a < fuel →
    BStep a sq (scanLoop store fuel a sq).1 (scanLoop store fuel a sq).2.1 ∧
    (((scanLoop store fuel a sq).2.2.1 = .eformat ∧ (scanLoop store fuel a sq).1.haveErr = true) ∨
     (((scanLoop store fuel a sq).2.2.1 = .eod ∨ (scanLoop store fuel a sq).2.2.1 = .eof) ∧
        (store = true → (scanLoop store fuel a sq).2.1.termOk = true) ∧ Track.Ok (scanLoop store fuel a sq).1.trk)) := by
  induction fuel with
  | zero => intro a sq _ _ _ _ _ h; omega
  | succ fuel ih =>
    intro a sq w hb tok hm hmap hf
    obtain ⟨g, hc⟩ := scanStep_line store a sq w hb tok hm hmap
    rw [DataScan.scanLoop_succ]
    rcases hc with ⟨c1, c2, c3⟩ | ⟨c1, c2, c3, c4⟩ | ⟨c1, c2, c3, c4, c5⟩
    · simp only [c2, Bool.false_eq_true, if_false]
      exact ⟨g, Or.inl ⟨c1, c3⟩⟩
    · simp only [c2, Bool.false_eq_true, if_false]
      exact ⟨g, Or.inr ⟨c1, c3, c4⟩⟩
    · simp only [c2, if_true]
      obtain ⟨i1, i3⟩ := ih _ _ g.good.w c5 c3 (by rw [g.good.inm]; exact hm)
        (fun hs => by rw [mapOf_same g.good.inm g.same.1 g.same.2, g.good.inm]; exact hmap hs) (by omega)
      exact ⟨g.trans i1, i3⟩

theorem endEmbl_step (a : Ascii) (sq : Sq) (w : LWF a) :
    Step a sq (endEmbl a sq).1 (endEmbl a sq).2.1 ∧ ((endEmbl a sq).2.2 = .ok ∨ (endEmbl a sq).2.2 = .eformat) ∧
    ((endEmbl a sq).2.2 = .eformat → (endEmbl a sq).1.haveErr = true) ∧ (endEmbl a sq).2.1.termOk = sq.termOk := by
  unfold endEmbl
  obtain ⟨sl, hs⟩ := loadbuf_step a w sq
  generalize loadbuf a = r at sl hs
  obtain ⟨b, s⟩ := r
  simp only at sl hs ⊢
  split
  · exact ⟨(Step.refl w sq).fail, Or.inr rfl, fun _ => rfl, rfl⟩
  split
  · rename_i hf
    rcases hs with ⟨k, _⟩ | k <;> rw [k] at hf <;> exact absurd hf (by decide)
  · exact ⟨sl.withSq ⟨rfl, rfl, rfl⟩, Or.inl rfl, nofun, rfl⟩

/-- outcome `r` of a whole-record call from `a`: `BGood`, status `eslOK` / `eslEOF` / `eslEFORMAT`, a message on `eslEFORMAT` -/
structure RRes (a : Ascii) (r : Ascii × Sq × Status) : Prop where
  good : BGood a r.1
  st : r.2.2 = .ok ∨ r.2.2 = .eof ∨ r.2.2 = .eformat
  err : r.2.2 = .eformat → r.1.haveErr = true

theorem readBody_step (a : Ascii) (sq : Sq) (h : BInv a sq) (hb : a.bpos ≤ a.nc) (hf : LineFmt a) :
    BStep a sq (readBody a sq).1 (readBody a sq).2.1 ∧ ((readBody a sq).2.2 = .ok ∨ (readBody a sq).2.2 = .eformat) ∧
    ((readBody a sq).2.2 = .eformat → (readBody a sq).1.haveErr = true) ∧
    ((readBody a sq).2.2 = .ok → Track.Ok (readBody a sq).1.trk) := by
  rw [readBody_eq]
  obtain ⟨g, hc⟩ := scanLoop_line true (fuelOf a) a sq h.w hb h.tok h.hm (fun _ => h.hmap) (rl_lt_fuel a)
  generalize scanLoop true (fuelOf a) a sq = r at g hc
  obtain ⟨b, q, st, ep⟩ := r
  simp only at g hc ⊢
  have hfb : LineFmt b := hf.of_eq g.good.fmt
  rcases hc with ⟨c1, c2⟩ | ⟨c1, c2', c3⟩
  · subst c1
    have e : (Status.eformat == Status.fault || Status.eformat == Status.eformat) = true := by decide
    simp only [e, if_true]
    exact ⟨g, Or.inr trivial, fun _ => c2, nofun⟩
  · have c2 := c2' trivial
    have e : (st == Status.fault || st == Status.eformat) = false := by rcases c1 with k | k <;> rw [k] <;> rfl
    simp only [e, Bool.false_eq_true, if_false]
    -- the record end: `end_embl` on the current line (at `eslEOF`) or where the data stopped (at `eslEOD`)
    have hE : BStep b q (bodyEnd b q st ep).1 (bodyEnd b q st ep).2.1 ∧
        ((bodyEnd b q st ep).2.2 = .ok ∨ (bodyEnd b q st ep).2.2 = .eformat) ∧
        ((bodyEnd b q st ep).2.2 = .eformat → (bodyEnd b q st ep).1.haveErr = true) ∧ (bodyEnd b q st ep).2.1.termOk = true ∧
        (bodyEnd b q st ep).1.trk = b.trk := by
      unfold bodyEnd
      have hb : LWF { b with bpos := ep } := (setBpos_lsim (lsim_refl g.good.w) ep).w1
      rw [parseEnd_line b q hfb, parseEnd_line { b with bpos := ep } q hfb]
      obtain ⟨x1, x2, x3, x4⟩ := endEmbl_step b q g.good.w
      obtain ⟨y1, y2, y3, y4⟩ := endEmbl_step { b with bpos := ep } q hb
      -- `{ b with bpos := ep }` has the fields of `b` that `BGood` and `rl` read, so the step from it is a step from `b`
      have y1' : BStep b q (endEmbl { b with bpos := ep } q).1 (endEmbl { b with bpos := ep } q).2.1 :=
        ⟨⟨y1.good.fmt, y1.good.w, y1.good.exc, y1.good.inm, y1.good.file⟩, y1.same, y1.le⟩
      rcases c1 with k | k
      · subst k
        have e1 : (Status.eod == Status.eof) = false := by decide
        simp only [e1, Bool.false_eq_true, if_false, beq_self_eq_true, if_true]
        exact ⟨y1', y2, y3, by rw [y4]; exact c2, y1.trk⟩
      · subst k
        simp only [beq_self_eq_true, if_true]
        split
        · exact ⟨⟨(BGood.refl g.good.w).fail, Same.refl q, Nat.le_refl _⟩, Or.inr rfl, fun _ => rfl, c2, rfl⟩
        · exact ⟨x1.toBStep, x2, x3, by rw [x4]; exact c2, x1.trk⟩
    obtain ⟨z1, z2, z3, z4, z5⟩ := hE
    generalize bodyEnd b q st ep = r' at z1 z2 z3 z4 z5
    obtain ⟨b', q', s'⟩ := r'
    simp only at z1 z2 z3 z4 z5
    unfold bodyFin
    simp only []
    split
    · rename_i hne
      exact ⟨g.trans z1, z2, z3, fun (k : s' = .ok) => by rw [k] at hne; exact absurd hne (by decide)⟩
    split
    · rename_i ht
      rw [z4] at ht; exact absurd ht (by decide)
    · exact ⟨g.trans ⟨z1.good, z1.same.trans ⟨rfl, rfl, Nat.le_refl _⟩, z1.le⟩, Or.inl rfl, nofun, fun _ => by rw [z5]; exact c3⟩

/-- `sqascii_Read` (`parse = true`) and `sqascii_ReadSequence` (`parse = false`) on a line-based file -/
def lineRecord (parse : Bool) (a : Ascii) (sq : Sq) : Ascii × Sq × Status :=
  if a.nc == 0 then (a, sq, .eof) else
  if (headerLine parse a sq).2.2 != .ok then headerLine parse a sq
  else readBody (headerLine parse a sq).1 (headerLine parse a sq).2.1

theorem read_line (a : Ascii) (sq : Sq) (hf : LineFmt a) : read a sq = lineRecord true a sq := by
  rw [ReadSpec.read_eq, parseHeader_line a sq hf]; rfl

theorem readSequence_line (a : Ascii) (sq : Sq) (hf : LineFmt a) : readSequence a sq = lineRecord false a sq := by
  rw [ReadSpec.readSequence_eq, skipHeader_line a sq hf]; rfl

theorem RRes.unpack {a : Ascii} {r : Ascii × Sq × Status} (h : RRes a r) :
    (r.2.2 = .ok ∨ r.2.2 = .eof ∨ r.2.2 = .eformat) ∧ (r.2.2 = .eformat → r.1.haveErr = true) ∧ r.1.exc = a.exc ∧ LWF r.1 ∧
    r.1.fmt = a.fmt ∧ r.1.file = a.file ∧ r.1.inmap = a.inmap :=
  ⟨h.st, h.err, h.good.exc, h.good.w, h.good.fmt, h.good.file, h.good.inm⟩

theorem lineRecord_total (parse : Bool) (a : Ascii) (sq : Sq) (h : BInv a sq) (hf : LineFmt a) :
    RRes a (lineRecord parse a sq) ∧
    ((lineRecord parse a sq).2.2 = .ok →
      rl (lineRecord parse a sq).1 < rl a ∧ BInv (lineRecord parse a sq).1 (lineRecord parse a sq).2.1) := by
  unfold lineRecord
  have H := headerLine_hdr parse a sq h.w
  generalize headerLine parse a sq = p at H
  obtain ⟨b, q, st⟩ := p
  have g : BGood a b := H.step.good
  have k : Same sq q := H.step.same
  simp only
  split
  · exact ⟨⟨BGood.refl h.w, Or.inr (Or.inl rfl), nofun⟩, nofun⟩
  split
  · rename_i hne
    exact ⟨⟨g, H.st, H.err⟩, fun (e : st = .ok) => by rw [e] at hne; exact absurd hne (by decide)⟩
  · rename_i hok
    have hinv : BInv b q := ⟨g.w, by rw [H.step.trk]; exact h.tok, by rw [g.inm]; exact h.hm,
      by rw [mapOf_same g.inm k.digital k.abc, g.inm]; exact h.hmap⟩
    obtain ⟨x1, x2, x3, x4⟩ := readBody_step b q hinv (H.bposLe (by simpa using hok)) (hf.of_eq g.fmt)
    exact ⟨⟨g.trans x1.good, x2.elim Or.inl fun k => Or.inr (Or.inr k), x3⟩,
      fun e => ⟨Nat.lt_of_le_of_lt x1.le (H.lt (by simpa using hok)),
        x1.good.w, x4 e, by rw [x1.good.inm]; exact hinv.hm,
        by rw [mapOf_same x1.good.inm x1.same.digital x1.same.abc, x1.good.inm]; exact hinv.hmap⟩⟩

/-- **`sqascii_Read` on an EMBL / UniProt / GenBank / DDBJ file never faults**: for every byte string and every block size the outcome
    is `eslOK`, `eslEOF` or `eslEFORMAT` (then with a message); no exception; the handle stays a well-formed line-mode handle of the
    same format on the same file -/
theorem read_linebased_total (a : Ascii) (sq : Sq) (w : LWF a) (hf : LineFmt a) (tok : Track.Ok a.trk) (hm : a.inmap.size = 128)
    (hmap : MapOk a.inmap (mapOf a sq)) :
    let r := read a sq
    (r.2.2 = .ok ∨ r.2.2 = .eof ∨ r.2.2 = .eformat) ∧ (r.2.2 = .eformat → r.1.haveErr = true) ∧ r.1.exc = a.exc ∧ LWF r.1 ∧
    r.1.fmt = a.fmt ∧ r.1.file = a.file ∧ r.1.inmap = a.inmap := by
  rw [read_line a sq hf]; exact (lineRecord_total true a sq ⟨w, tok, hm, hmap⟩ hf).1.unpack

/-- **`sqascii_ReadSequence` on an EMBL / UniProt / GenBank / DDBJ file never faults**: `skip_header` runs the header parsers with
    nothing stored, the rest is `sqascii_Read`'s -/
theorem readSequence_linebased_total (a : Ascii) (sq : Sq) (w : LWF a) (hf : LineFmt a) (tok : Track.Ok a.trk) (hm : a.inmap.size = 128)
    (hmap : MapOk a.inmap (mapOf a sq)) :
    let r := readSequence a sq
    (r.2.2 = .ok ∨ r.2.2 = .eof ∨ r.2.2 = .eformat) ∧ (r.2.2 = .eformat → r.1.haveErr = true) ∧ r.1.exc = a.exc ∧ LWF r.1 ∧
    r.1.fmt = a.fmt ∧ r.1.file = a.file ∧ r.1.inmap = a.inmap := by
  rw [readSequence_line a sq hf]; exact (lineRecord_total false a sq ⟨w, tok, hm, hmap⟩ hf).1.unpack

end EaselModel.Sqio.EmblTotal
