import EaselModel.Sqio.Model
/-! # Algebra of the line-geometry tracker `seebuf_linegeometry()` (C07, C04; used by `Sqio/Fold.lean`)

`Track.lineGeometry` may be called any number of times per line: calling it on a partial line and again after more bytes of the
same line have gone by gives what a single call at the end gives (`lg_adv_lg`). -/
namespace EaselModel.Sqio
open Tables

theorem Track.eq_of_fields (a b : Track) (h1 : a.rpl = b.rpl) (h2 : a.bpl = b.bpl) (h3 : a.prvrpl = b.prvrpl) (h4 : a.prvbpl = b.prvbpl)
    (h5 : a.currpl = b.currpl) (h6 : a.curbpl = b.curbpl) (h7 : a.maxrpl = b.maxrpl) (h8 : a.maxxpl = b.maxxpl) : a = b := by
  cases a; cases b; simp_all

theorem fullLine_idem (p q w : Int) : Track.fullLine p q (Track.fullLine p q w) = Track.fullLine p q w := by
  unfold Track.fullLine; omega
theorem fullLine_zero (p q : Int) : Track.fullLine p q 0 = 0 := by
  unfold Track.fullLine; omega

theorem fullLine_ite (p q w : Int) (c : Prop) [Decidable c] :
    Track.fullLine p q (if c then 0 else Track.fullLine p q w) = if c then 0 else Track.fullLine p q w := by
  split
  · exact fullLine_zero _ _
  · exact fullLine_idem _ _ _

/-! the four `let`s of `Track.lineGeometry` by name: `mxR`, `mxX e` its new `maxrpl`, `maxxpl` (`e` = `atEol`), `R`, `Bq` its `rpl`, `bpl`
    after the full-line test; `lg_rpl` … `lg_maxxpl` say the fields of the result in them -/
def Track.mxR (t : Track) : Int := if t.currpl > t.maxrpl then t.currpl else t.maxrpl
def Track.mxX (t : Track) (e : Bool) : Int :=
  if t.curbpl - t.currpl - (if e then 1 else 0) > t.maxxpl then t.curbpl - t.currpl - (if e then 1 else 0) else t.maxxpl
def Track.R (t : Track) : Int := Track.fullLine t.prvrpl t.prvbpl t.rpl
def Track.Bq (t : Track) : Int := Track.fullLine t.prvbpl t.prvrpl t.bpl

theorem lg_cur (t : Track) (e : Bool) :
    (t.lineGeometry e).currpl = t.currpl ∧ (t.lineGeometry e).curbpl = t.curbpl ∧
    (t.lineGeometry e).prvrpl = t.prvrpl ∧ (t.lineGeometry e).prvbpl = t.prvbpl := by
  unfold Track.lineGeometry
  by_cases h : t.curbpl ≤ 0 ∨ t.currpl = -1
  · simp only [h, if_true, and_self]
  · simp only [h, if_false, apply_ite Track.currpl, apply_ite Track.curbpl, apply_ite Track.prvrpl, apply_ite Track.prvbpl, ite_self, and_self]

theorem lg_rpl (t : Track) (e : Bool) : (t.lineGeometry e).rpl =
    if t.curbpl ≤ 0 ∨ t.currpl = -1 then t.rpl
    else if t.R > 0 ∧ t.Bq > 0 ∧ (t.mxR > t.R ∨ t.mxX e > t.Bq - t.R - 1) then 0 else t.R := by
  unfold Track.lineGeometry Track.R Track.Bq Track.mxR Track.mxX
  by_cases h : t.curbpl ≤ 0 ∨ t.currpl = -1
  · simp only [h, if_true]
  · simp only [h, if_false, apply_ite Track.rpl]

theorem lg_bpl (t : Track) (e : Bool) : (t.lineGeometry e).bpl =
    if t.curbpl ≤ 0 ∨ t.currpl = -1 then t.bpl
    else if t.R > 0 ∧ t.Bq > 0 ∧ (t.mxR > t.R ∨ t.mxX e > t.Bq - t.R - 1) then 0 else t.Bq := by
  unfold Track.lineGeometry Track.R Track.Bq Track.mxR Track.mxX
  by_cases h : t.curbpl ≤ 0 ∨ t.currpl = -1
  · simp only [h, if_true]
  · simp only [h, if_false, apply_ite Track.bpl]

theorem lg_maxrpl (t : Track) (e : Bool) : (t.lineGeometry e).maxrpl =
    if t.curbpl ≤ 0 ∨ t.currpl = -1 then t.maxrpl else t.mxR := by
  unfold Track.lineGeometry Track.mxR
  by_cases h : t.curbpl ≤ 0 ∨ t.currpl = -1
  · simp only [h, if_true]
  · simp only [h, if_false, apply_ite Track.maxrpl, ite_self]

theorem lg_maxxpl (t : Track) (e : Bool) : (t.lineGeometry e).maxxpl =
    if t.curbpl ≤ 0 ∨ t.currpl = -1 then t.maxxpl else t.mxX e := by
  unfold Track.lineGeometry Track.mxX
  by_cases h : t.curbpl ≤ 0 ∨ t.currpl = -1
  · simp only [h, if_true]
  · simp only [h, if_false, apply_ite Track.maxxpl, ite_self]

theorem lg_inactive (t : Track) (e : Bool) (h : t.curbpl ≤ 0 ∨ t.currpl = -1) : t.lineGeometry e = t := by
  unfold Track.lineGeometry; simp only [h, if_true]

theorem mx_mono (m a b : Int) (h : a ≤ b) :
    (if b > (if a > m then a else m) then b else (if a > m then a else m)) = (if b > m then b else m) := by omega

theorem bad_arith (R B M N M2 N2 : Int) (hM : M ≤ M2) (hN : N ≤ N2) :
    (if (if R > 0 ∧ B > 0 ∧ (M > R ∨ N > B - R - 1) then 0 else R) > 0 ∧ (if R > 0 ∧ B > 0 ∧ (M > R ∨ N > B - R - 1) then 0 else B) > 0 ∧
        (M2 > (if R > 0 ∧ B > 0 ∧ (M > R ∨ N > B - R - 1) then 0 else R) ∨
         N2 > (if R > 0 ∧ B > 0 ∧ (M > R ∨ N > B - R - 1) then 0 else B) - (if R > 0 ∧ B > 0 ∧ (M > R ∨ N > B - R - 1) then 0 else R) - 1)
      then (0:Int) else (if R > 0 ∧ B > 0 ∧ (M > R ∨ N > B - R - 1) then 0 else R))
      = (if R > 0 ∧ B > 0 ∧ (M2 > R ∨ N2 > B - R - 1) then 0 else R) ∧
    (if (if R > 0 ∧ B > 0 ∧ (M > R ∨ N > B - R - 1) then 0 else R) > 0 ∧ (if R > 0 ∧ B > 0 ∧ (M > R ∨ N > B - R - 1) then 0 else B) > 0 ∧
        (M2 > (if R > 0 ∧ B > 0 ∧ (M > R ∨ N > B - R - 1) then 0 else R) ∨
         N2 > (if R > 0 ∧ B > 0 ∧ (M > R ∨ N > B - R - 1) then 0 else B) - (if R > 0 ∧ B > 0 ∧ (M > R ∨ N > B - R - 1) then 0 else R) - 1)
      then (0:Int) else (if R > 0 ∧ B > 0 ∧ (M > R ∨ N > B - R - 1) then 0 else B))
      = (if R > 0 ∧ B > 0 ∧ (M2 > R ∨ N2 > B - R - 1) then 0 else B) := by
  by_cases h : R > 0 ∧ B > 0 ∧ (M > R ∨ N > B - R - 1)
  · have h2 : R > 0 ∧ B > 0 ∧ (M2 > R ∨ N2 > B - R - 1) := by omega
    simp only [if_pos h, if_pos h2]
    constructor <;> omega
  · simp only [if_neg h]
    exact ⟨trivial, trivial⟩

theorem adv_zero (t : Track) : t.advance 0 0 = t := by
  cases t; simp [Track.advance]

theorem adv_adv (t : Track) (a b c d : Int) (h1 : -1 ≤ t.curbpl) (h2 : -1 ≤ t.currpl) (ha : 0 ≤ a) (hb : 0 ≤ b) :
    (t.advance a b).advance c d = t.advance (a + c) (b + d) := by
  apply Track.eq_of_fields <;> simp only [Track.advance] <;> omega

theorem adv_bounds (t : Track) (a b : Int) (h1 : -1 ≤ t.curbpl) (h2 : -1 ≤ t.currpl) (ha : 0 ≤ a) (hb : 0 ≤ b) :
    -1 ≤ (t.advance a b).curbpl ∧ -1 ≤ (t.advance a b).currpl := by
  simp only [Track.advance]; omega

/-- `seebuf_linegeometry` on a line that has begun, on the eight counters -/
theorem lg_mk (r b pr pb cr cb mr mx : Int) (e : Bool) (h : ¬(cb ≤ 0 ∨ cr = -1)) :
    Track.lineGeometry ⟨r, b, pr, pb, cr, cb, mr, mx⟩ e =
      ⟨if Track.fullLine pr pb r > 0 ∧ Track.fullLine pb pr b > 0 ∧ ((if cr > mr then cr else mr) > Track.fullLine pr pb r ∨
            (if cb - cr - (if e then 1 else 0) > mx then cb - cr - (if e then 1 else 0) else mx) >
              Track.fullLine pb pr b - Track.fullLine pr pb r - 1) then 0 else Track.fullLine pr pb r,
       if Track.fullLine pr pb r > 0 ∧ Track.fullLine pb pr b > 0 ∧ ((if cr > mr then cr else mr) > Track.fullLine pr pb r ∨
            (if cb - cr - (if e then 1 else 0) > mx then cb - cr - (if e then 1 else 0) else mx) >
              Track.fullLine pb pr b - Track.fullLine pr pb r - 1) then 0 else Track.fullLine pb pr b,
       pr, pb, cr, cb, if cr > mr then cr else mr,
       if cb - cr - (if e then 1 else 0) > mx then cb - cr - (if e then 1 else 0) else mx⟩ := by
  simp only [Track.lineGeometry, h, if_false]
  by_cases k : Track.fullLine pr pb r > 0 ∧ Track.fullLine pb pr b > 0 ∧ ((if cr > mr then cr else mr) > Track.fullLine pr pb r ∨
            (if cb - cr - (if e then 1 else 0) > mx then cb - cr - (if e then 1 else 0) else mx) >
              Track.fullLine pb pr b - Track.fullLine pr pb r - 1)
  · rw [if_pos k, if_pos k, if_pos k]
  · rw [if_neg k, if_neg k, if_neg k]

theorem adv_mk (r b pr pb cr cb mr mx c d : Int) (h1 : cb ≠ -1) (h2 : cr ≠ -1) :
    Track.advance ⟨r, b, pr, pb, cr, cb, mr, mx⟩ c d = ⟨r, b, pr, pb, cr + d, cb + c, mr, mx⟩ := by
  simp only [Track.advance, ne_eq, h1, h2, not_false_eq_true, if_true]

theorem lg_adv_lg (x : Track) (c d : Int) (e : Bool) (h1 : -1 ≤ x.curbpl) (h2 : -1 ≤ x.currpl)
    (hd : 0 ≤ d) (hc : d + (if e then 1 else 0) ≤ c) :
    ((x.lineGeometry false).advance c d).lineGeometry e = (x.advance c d).lineGeometry e := by
  by_cases hx : x.curbpl ≤ 0 ∨ x.currpl = -1
  · rw [lg_inactive x false hx]
  obtain ⟨r, b, pr, pb, cr, cb, mr, mx⟩ := x
  simp only at h1 h2 hx
  have he : (0:Int) ≤ (if e then 1 else 0) := by split <;> omega
  have ha : ¬(cb + c ≤ 0 ∨ cr + d = -1) := by omega
  -- both sides on the eight counters; the second call finds `fullLine` of what the first wrote (`fullLine_ite`) and maxima that
  -- the longer line absorbs (`mx_mono`); what is left is that the width test only gets stricter (`bad_arith`)
  rw [lg_mk _ _ _ _ _ _ _ _ false hx, adv_mk _ _ _ _ _ _ _ _ c d (by omega) (by omega), adv_mk _ _ _ _ _ _ _ _ c d (by omega) (by omega),
    lg_mk _ _ _ _ _ _ _ _ e ha, lg_mk _ _ _ _ _ _ _ _ e ha, fullLine_ite, fullLine_ite,
    mx_mono mr cr (cr + d) (by omega), mx_mono mx (cb - cr - (if false = true then 1 else 0)) (cb + c - (cr + d) - (if e then 1 else 0)) (by simp; omega)]
  simp only [Bool.false_eq_true, if_false, Int.sub_zero]
  generalize (if e = true then (1 : Int) else 0) = k at hc he ⊢
  have key := bad_arith (Track.fullLine pr pb r) (Track.fullLine pb pr b) (if cr > mr then cr else mr)
    (if cb - cr > mx then cb - cr else mx) (if cr + d > mr then cr + d else mr)
    (if cb + c - (cr + d) - k > mx then cb + c - (cr + d) - k else mx)
    (by split <;> split <;> omega) (by split <;> split <;> omega)
  rw [key.1, key.2]

theorem lg_idem (x : Track) (h1 : -1 ≤ x.curbpl) (h2 : -1 ≤ x.currpl) :
    (x.lineGeometry false).lineGeometry false = x.lineGeometry false := by
  have := lg_adv_lg x 0 0 false h1 h2 (by omega) (by simp)
  rwa [adv_zero, adv_zero] at this

/-- the counters after a stop stay unset or non-negative -/
theorem onStop_bounds (t : Track) (a b : Int) (h1 : -1 ≤ t.curbpl) (h2 : -1 ≤ t.currpl) (ha : 0 ≤ a) (hb : 0 ≤ b) :
    -1 ≤ (t.onStop a b).curbpl ∧ -1 ≤ (t.onStop a b).currpl := by
  obtain ⟨g1, g2, _, _⟩ := lg_cur (t.advance a b) false
  unfold Track.onStop
  rw [g1, g2]
  exact adv_bounds t a b h1 h2 ha hb

/-- **a stop inside a line is absorbed by what follows**: the counters add up (`adv_adv`) and the `lineGeometry` of the stop leaves no
    trace (`lg_adv_lg`); `e` says whether what follows ends the line -/
theorem onStop_then (t : Track) (a b c d : Int) (e : Bool) (h1 : -1 ≤ t.curbpl) (h2 : -1 ≤ t.currpl) (ha : 0 ≤ a) (hb : 0 ≤ b)
    (hd : 0 ≤ d) (hc : d + (if e then 1 else 0) ≤ c) :
    ((t.onStop a b).advance c d).lineGeometry e = (t.advance (a + c) (b + d)).lineGeometry e := by
  obtain ⟨k1, k2⟩ := adv_bounds t a b h1 h2 ha hb
  unfold Track.onStop
  rw [lg_adv_lg _ c d e k1 k2 hd hc, adv_adv t a b c d h1 h2 ha hb]

end EaselModel.Sqio
