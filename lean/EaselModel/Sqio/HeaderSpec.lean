import EaselModel.Sqio.Cursor
import EaselModel.Core.ListWhile
/-! # `header_fasta` / `skip_fasta` in closed form (whole-reader refinement)

`headerL N sq l`: what `header_fasta` returns when the cursor stands on the list `l` of remaining bytes of a file of `N` bytes,
written with `dropWhile` / `takeWhile` only — no block size, no buffer. `headerFasta_spec`: the model's parser (which goes through
`nextchar`, hence through `loadbuf` at every block boundary) returns exactly that, for every `B ≥ 1`; `fault` is not an outcome. -/
namespace EaselModel.Sqio.HeaderSpec
open EaselModel.Sqio.Refine EaselModel.Sqio.Fold EaselModel.Sqio.DataScan EaselModel.Sqio.Cursor

def pNotEol : UInt8 → Bool := fun c => c != chNl && c != chCr
def pEol : UInt8 → Bool := fun c => c == chNl || c == chCr
def pDesc : UInt8 → Bool := fun c => c != chNl && c != chCr && c != 1
def pName : UInt8 → Bool := fun c => !isSpace c

/-- absolute offset of the suffix `l` of a file of `N` bytes -/
def offOf (N : Nat) (l : List UInt8) : Int := ((N - l.length : Nat) : Int)

/-- rest of the header line (`hoff`), end-of-line characters (`doff`) -/
def hfEndL (N : Nat) (sq : Sq) (l : List UInt8) : Sq × List UInt8 :=
  ({ sq with hoff := offOf N (l.dropWhile pNotEol), doff := offOf N ((l.dropWhile pNotEol).dropWhile pEol) },
   (l.dropWhile pNotEol).dropWhile pEol)

/-- blanks, description -/
def hfDescL (N : Nat) (sq : Sq) (l : List UInt8) : Sq × List UInt8 :=
  hfEndL N { sq with desc := ((l.dropWhile isBlankTab).takeWhile pDesc).toArray,
                     dalloc := allocGrow sq.dalloc 0 ((l.dropWhile isBlankTab).takeWhile pDesc).length }
    ((l.dropWhile isBlankTab).dropWhile pDesc)

/-- blanks, name; `none` = no name (`eslEFORMAT`) -/
def hfNameL (N : Nat) (sq : Sq) (l : List UInt8) : Option (Sq × List UInt8) :=
  if ((l.dropWhile isBlankTab).takeWhile pName).isEmpty then none else
  some (hfDescL N { sq with name := ((l.dropWhile isBlankTab).takeWhile pName).toArray,
                            nalloc := allocGrow sq.nalloc 0 ((l.dropWhile isBlankTab).takeWhile pName).length }
         ((l.dropWhile isBlankTab).dropWhile pName))

/-- `header_fasta` on the remaining bytes `l`: status, record fields, remaining bytes after the header -/
def headerL (N : Nat) (sq : Sq) (l : List UInt8) : Status × Sq × List UInt8 :=
  match l.dropWhile isSpace with
  | [] => (.eof, sq, [])
  | c :: l2 =>
    if c != chGt then (.eformat, sq, c :: l2) else
    match hfNameL N { sq with roff := offOf N (c :: l2) } l2 with
    | none => (.eformat, { sq with roff := offOf N (c :: l2) }, c :: l2)
    | some r => (.ok, r.1, r.2)

/-- **the `eslOK` outcome of `headerL` as an equation**: the first byte that is not white space is a `>`, a name follows, and the
    result is `hfDescL` on the record with `roff` and the name set; whether the outcome is `eslOK` depends on the bytes alone, so
    the equation holds for every `ESL_SQ` -/
theorem headerL_of_ok (N : Nat) (sq : Sq) (l : List UInt8) (h : (headerL N sq l).1 = .ok) :
    ∃ l2, l.dropWhile isSpace = chGt :: l2 ∧ ((l2.dropWhile isBlankTab).takeWhile pName).isEmpty = false ∧
      ∀ sq' : Sq, headerL N sq' l =
        (.ok, hfDescL N { sq' with roff := offOf N (chGt :: l2), name := ((l2.dropWhile isBlankTab).takeWhile pName).toArray,
                                   nalloc := allocGrow sq'.nalloc 0 ((l2.dropWhile isBlankTab).takeWhile pName).length }
                ((l2.dropWhile isBlankTab).dropWhile pName)) := by
  revert h
  unfold headerL
  split
  · intro k; cases k
  · rename_i c l2 hc
    split
    · intro k; cases k
    · rename_i hgt
      obtain rfl : c = chGt := by simpa using hgt
      split
      · intro k; cases k
      · rename_i r hr
        unfold hfNameL at hr
        split at hr
        · cases hr
        · rename_i hne
          have hne' : ((l2.dropWhile isBlankTab).takeWhile pName).isEmpty = false := by simpa using hne
          exact fun _ => ⟨l2, hc, hne', fun sq' => by
            simp only [hfNameL, hne', bne_self_eq_false, Bool.false_eq_true, if_false]⟩

theorem _root_.EaselModel.Sqio.Cursor.Abs.off {N : Nat} {a : Ascii} {st : Status} {c : UInt8} {l : List UInt8} (h : Abs N a st c l) :
    a.boff + (a.bpos : Int) = offOf N l := by
  have := h.cur.posEq
  rw [h.ff, h.sz] at this
  exact this

theorem _root_.EaselModel.Sqio.Cursor.Abs.fuel {N : Nat} {a : Ascii} {st : Status} {c : UInt8} {l : List UInt8} (h : Abs N a st c l) : l.length < fuelOf a := by
  have := h.cur.fuel
  rw [h.ff] at this
  exact this

theorem _root_.EaselModel.Sqio.Cursor.Cur.newRecord {a : Ascii} (h : Cur a) (l : Int) :
    Cur { a with trk := { a.trk with prvrpl := -1, prvbpl := -1, currpl := 0, curbpl := 0 }, linenumber := l } :=
  ⟨WF_of_blk (a := a) rfl h.wf h.wf.bposLe,
   h.cur, reset_ok _⟩

theorem hfEnd_spec {N : Nat} (a : Ascii) (sq : Sq) (st : Status) (c : UInt8) (l : List UInt8) (h : Abs N a st c l) :
    (hfEnd a sq st c).2 = ((hfEndL N sq l).1, .ok) ∧ Cur (hfEnd a sq st c).1 ∧
    fileFrom (hfEnd a sq st c).1 = (hfEndL N sq l).2 := by
  unfold hfEnd
  simp only []
  have h1 := skipWhile_abs (fun c => c != chNl && c != chCr) (fuelOf a) a st c l h h.fuel
  generalize skipWhile (fun c => c != chNl && c != chCr) (fuelOf a) a st c = r1 at h1 ⊢
  obtain ⟨a1, st1, c1⟩ := r1
  simp only [] at h1 ⊢
  have h2 := skipWhile_abs (fun c => c == chNl || c == chCr) (fuelOf a1) a1 st1 c1 _ h1 h1.fuel
  generalize skipWhile (fun c => c == chNl || c == chCr) (fuelOf a1) a1 st1 c1 = r2 at h2 ⊢
  obtain ⟨a2, st2, c2⟩ := r2
  simp only [] at h2 ⊢
  have o1 := h1.off
  have o2 := h2.off
  have hk1 : (st2 == Status.fault) = false := by rcases h2.st_cases with e | e <;> rw [e] <;> rfl
  have hk2 : (st2 != Status.ok && st2 != Status.eof) = false := by rcases h2.st_cases with e | e <;> rw [e] <;> rfl
  simp only [hk1, hk2, Bool.false_eq_true, if_false]
  refine ⟨?_, h2.cur.newRecord _, h2.ff⟩
  rw [o1, o2]
  rfl

theorem hfDesc_spec {N : Nat} (a : Ascii) (sq : Sq) (st : Status) (c : UInt8) (l : List UInt8) (h : Abs N a st c l) (hd : 2 ≤ sq.dalloc) :
    (hfDesc a sq st c).2 = ((hfDescL N sq l).1, .ok) ∧ Cur (hfDesc a sq st c).1 ∧
    fileFrom (hfDesc a sq st c).1 = (hfDescL N sq l).2 := by
  unfold hfDesc
  simp only []
  have h1 := skipWhile_abs isBlankTab (fuelOf a) a st c l h h.fuel
  generalize skipWhile isBlankTab (fuelOf a) a st c = r1 at h1 ⊢
  obtain ⟨a1, st1, c1⟩ := r1
  simp only [] at h1 ⊢
  have s2 := storeWhile_abs (fun c => c != chNl && c != chCr && c != 1) (fuelOf a1) a1 st1 c1 _ #[] sq.dalloc h1 h1.fuel
    (by simp; omega)
  generalize storeWhile (fun c => c != chNl && c != chCr && c != 1) (fuelOf a1) a1 st1 c1 #[] sq.dalloc = r2 at s2 ⊢
  obtain ⟨a2, st2, c2, acc2, al2⟩ := r2
  obtain ⟨h2, e2, i2, g2⟩ := s2
  simp only [] at h2 e2 i2 g2 ⊢
  have hk1 : (st2 == Status.fault) = false := by rcases h2.st_cases with e | e <;> rw [e] <;> rfl
  have hk2 : (!decide (acc2.size < al2)) = false := by simp; omega
  simp only [hk1, hk2, Bool.false_eq_true, if_false]
  obtain ⟨q1, q2, q3⟩ := hfEnd_spec a2 { sq with desc := acc2, dalloc := al2 } st2 c2 _ h2
  refine ⟨?_, q2, ?_⟩
  · rw [q1, e2, g2]; simp [hfDescL]; rfl
  · rw [q3, e2, g2]; simp [hfDescL]; rfl

theorem hfName_spec {N : Nat} (a : Ascii) (sq : Sq) (st : Status) (c : UInt8) (l : List UInt8) (h : Abs N a st c l)
    (hn : 2 ≤ sq.nalloc) (hd : 2 ≤ sq.dalloc) :
    (hfNameL N sq l = none → (hfName a sq st c).2 = (sq, .eformat) ∧ (hfName a sq st c).1.haveErr = true) ∧
    (∀ r, hfNameL N sq l = some r → (hfName a sq st c).2 = (r.1, .ok) ∧ Cur (hfName a sq st c).1 ∧
      fileFrom (hfName a sq st c).1 = r.2) := by
  unfold hfName
  simp only []
  have h1 := skipWhile_abs isBlankTab (fuelOf a) a st c l h h.fuel
  generalize skipWhile isBlankTab (fuelOf a) a st c = r1 at h1 ⊢
  obtain ⟨a1, st1, c1⟩ := r1
  simp only [] at h1 ⊢
  have s2 := storeWhile_abs (fun c => !isSpace c) (fuelOf a1) a1 st1 c1 _ #[] sq.nalloc h1 h1.fuel (by simp; omega)
  generalize storeWhile (fun c => !isSpace c) (fuelOf a1) a1 st1 c1 #[] sq.nalloc = r2 at s2 ⊢
  obtain ⟨a2, st2, c2, acc2, al2⟩ := r2
  obtain ⟨h2, e2, i2, g2⟩ := s2
  simp only [] at h2 e2 i2 g2 ⊢
  have hk1 : (st2 == Status.fault) = false := by rcases h2.st_cases with e | e <;> rw [e] <;> rfl
  have hk2 : (!decide (acc2.size < al2)) = false := by simp; omega
  have hsz0 : acc2.size = ((l.dropWhile isBlankTab).takeWhile (fun c => !isSpace c)).length := by rw [e2]; simp
  have hsz : acc2.size = ((l.dropWhile isBlankTab).takeWhile pName).length := hsz0
  simp only [hk1, Bool.false_eq_true, if_false]
  unfold hfNameL
  by_cases hz : ((l.dropWhile isBlankTab).takeWhile pName).isEmpty = true
  · have hz0 : (acc2.size == 0) = true := by rw [hsz]; simpa using hz
    simp only [hz, hz0, if_true]
    exact ⟨fun _ => ⟨by first | rfl | trivial, by first | rfl | trivial⟩, fun r hr => (by cases hr)⟩
  · have hz0 : (acc2.size == 0) = false := by
      rw [hsz]
      cases hh : (l.dropWhile isBlankTab).takeWhile pName with
      | nil => rw [hh] at hz; simp at hz
      | cons _ _ => simp
    simp only [hz, hz0, hk2, Bool.false_eq_true, if_false]
    refine ⟨fun hr => (by cases hr), fun r hr => ?_⟩
    obtain ⟨q1, q2, q3⟩ := hfDesc_spec a2 { sq with name := acc2, nalloc := al2 } st2 c2 _ h2 hd
    have hr' := (Option.some.inj hr).symm
    subst hr'
    refine ⟨?_, q2, ?_⟩
    · rw [q1, e2, g2]; simp; rfl
    · rw [q3, e2, g2]; simp; rfl


theorem abs_of_live (a : Ascii) (h : Cur a) (hl : Sim.Live a) :
    ∃ x t, a.bufGet a.bpos = some x ∧ fileFrom a = x :: t ∧ Abs a.file.size a .ok x (x :: t) := by
  obtain ⟨x, hx, hf⟩ := fileFrom_live a h.wf hl
  exact ⟨x, _, hx, hf, ⟨h, rfl, hf, fun _ => ⟨_, rfl⟩, fun k => absurd rfl k⟩⟩

/-- **`header_fasta` = `headerL` on the remaining file bytes, for every block size** -/
theorem headerFasta_spec (a : Ascii) (sq : Sq) (h : Cur a) (hl : Sim.Live a) (hn : 2 ≤ sq.nalloc) (hd : 2 ≤ sq.dalloc) :
    (headerFasta a sq).2 = ((headerL a.file.size sq (fileFrom a)).2.1, (headerL a.file.size sq (fileFrom a)).1) ∧
    ((headerL a.file.size sq (fileFrom a)).1 = .ok → Cur (headerFasta a sq).1 ∧
       fileFrom (headerFasta a sq).1 = (headerL a.file.size sq (fileFrom a)).2.2 ∧ stat (headerFasta a sq).1 = stat a) ∧
    ((headerL a.file.size sq (fileFrom a)).1 = .eformat → (headerFasta a sq).1.haveErr = true) ∧
    ((headerL a.file.size sq (fileFrom a)).1 = .eof → Cur (headerFasta a sq).1 ∧ fileFrom (headerFasta a sq).1 = [] ∧
       stat (headerFasta a sq).1 = stat a) := by
  obtain ⟨x, t, hx, hf, h0⟩ := abs_of_live a h hl
  have hn1 : (a.nc == a.bpos) = false := by simp only [Sim.Live] at hl; simp; omega
  unfold headerFasta
  simp only [hn1, Bool.false_eq_true, if_false, hx, bne_self_eq_false]
  have h1 := skipWhile_abs isSpace (fuelOf a) a .ok x _ h0 h0.fuel
  have p1 := Frame.skipWhile_payload isSpace (fuelOf a) a .ok x
  generalize skipWhile isSpace (fuelOf a) a .ok x = r1 at h1 p1 ⊢
  obtain ⟨a1, st1, c1⟩ := r1
  simp only [] at h1 p1 ⊢
  have hs1 : stat a1 = stat a := stat_of_payload p1
  rw [hf]
  unfold headerL
  cases hl1 : (x :: t).dropWhile isSpace with
  | nil =>
    rw [hl1] at h1
    have hst : st1 = .eof := by
      rcases h1.st_cases with e | e
      · exact absurd rfl (h1.ok_iff.mp e)
      · exact e
    subst hst
    unfold hfGt
    simp only [beq_self_eq_true, if_true]
    exact ⟨by first | rfl | trivial, fun k => (by cases k), fun k => (by cases k), fun _ => ⟨h1.cur, h1.ff, hs1⟩⟩
  | cons c' l2 =>
    rw [hl1] at h1
    have hst : st1 = .ok := h1.ok_iff.mpr (by simp)
    subst hst
    obtain ⟨t', ht'⟩ := h1.okc rfl
    obtain ⟨rfl, rfl⟩ := List.cons.inj ht'
    unfold hfGt
    simp only [Status.beq_eq_decide, reduceCtorEq, decide_false, beq_self_eq_true, bne_self_eq_false, Bool.false_eq_true, if_false, Bool.true_and, Bool.false_and]
    by_cases hc : (c' != chGt) = true
    · simp only [hc, if_true]
      exact ⟨by first | rfl | trivial, fun k => (by cases k), fun _ => (by first | rfl | trivial), fun k => (by cases k)⟩
    · simp only [hc, Bool.false_eq_true, if_false]
      have h2 := nextchar_abs a1 c' l2 h1.cur h1.sz h1.ff
      have p2 := Frame.nextchar_payload a1 c'
      have o1 := h1.off
      generalize nextchar a1 c' = r2 at h2 p2 ⊢
      obtain ⟨a2, st2, c2⟩ := r2
      simp only [] at h2 p2 ⊢
      have hs2 : stat a2 = stat a := (stat_of_payload p2).trans hs1
      obtain ⟨n1, n2⟩ := hfName_spec a2 { sq with roff := a1.boff + (a1.bpos : Int) } st2 c2 l2 h2 hn hd
      rw [o1] at n1 n2
      rw [o1]
      cases hN : hfNameL a.file.size { sq with roff := offOf a.file.size (c' :: l2) } l2 with
      | none =>
        obtain ⟨m1, m2⟩ := n1 hN
        simp only []
        exact ⟨m1, fun k => (by cases k), fun _ => m2, fun k => (by cases k)⟩
      | some r =>
        obtain ⟨m1, m2, m3⟩ := n2 r hN
        simp only []
        exact ⟨m1, fun _ => ⟨m2, m3, (stat_of_frame (Frame.hfName_frame a2 _ st2 c2)).trans hs2⟩, fun k => (by cases k), fun k => (by cases k)⟩


/-- `skip_fasta` on the remaining bytes `l` -/
def skipL (N : Nat) (sq : Sq) (l : List UInt8) : Status × Sq × List UInt8 :=
  match l.dropWhile isSpace with
  | [] => (.eof, sq, [])
  | c :: l2 =>
    if c != chGt then (.eformat, sq, c :: l2) else
    (.ok, { sq with roff := offOf N (c :: l2), name := #[], acc := #[], desc := #[],
                    doff := offOf N ((l2.dropWhile pNotEol).dropWhile pEol) },
     (l2.dropWhile pNotEol).dropWhile pEol)

theorem _root_.EaselModel.Sqio.Cursor.Cur.setLine {a : Ascii} (h : Cur a) (l : Int) : Cur { a with linenumber := l } :=
  ⟨WF_of_blk (a := a) rfl h.wf h.wf.bposLe,
   h.cur, h.tok⟩

/-- **`skip_fasta` = `skipL` on the remaining file bytes, for every block size** -/
theorem skipFasta_spec (a : Ascii) (sq : Sq) (h : Cur a) (hl : Sim.Live a) :
    (skipFasta a sq).2 = ((skipL a.file.size sq (fileFrom a)).2.1, (skipL a.file.size sq (fileFrom a)).1) ∧
    ((skipL a.file.size sq (fileFrom a)).1 = .ok → Cur (skipFasta a sq).1 ∧
       fileFrom (skipFasta a sq).1 = (skipL a.file.size sq (fileFrom a)).2.2 ∧ stat (skipFasta a sq).1 = stat a) ∧
    ((skipL a.file.size sq (fileFrom a)).1 = .eformat → (skipFasta a sq).1.haveErr = true) ∧
    ((skipL a.file.size sq (fileFrom a)).1 = .eof → Cur (skipFasta a sq).1 ∧ fileFrom (skipFasta a sq).1 = [] ∧
       stat (skipFasta a sq).1 = stat a) := by
  obtain ⟨x, t, hx, hf, h0⟩ := abs_of_live a h hl
  have hn1 : (a.nc == a.bpos) = false := by simp only [Sim.Live] at hl; simp; omega
  unfold skipFasta
  simp only [hn1, Bool.false_eq_true, if_false, hx, bne_self_eq_false]
  have h1 := skipWhile_abs isSpace (fuelOf a) a .ok x _ h0 h0.fuel
  have p1 := Frame.skipWhile_payload isSpace (fuelOf a) a .ok x
  generalize skipWhile isSpace (fuelOf a) a .ok x = r1 at h1 p1 ⊢
  obtain ⟨a1, st1, c1⟩ := r1
  simp only [] at h1 p1 ⊢
  have hs1 : stat a1 = stat a := stat_of_payload p1
  rw [hf]
  unfold skipL
  cases hl1 : (x :: t).dropWhile isSpace with
  | nil =>
    rw [hl1] at h1
    have hst : st1 = .eof := by
      rcases h1.st_cases with e | e
      · exact absurd rfl (h1.ok_iff.mp e)
      · exact e
    subst hst
    simp only [beq_self_eq_true, if_true]
    exact ⟨by first | rfl | trivial, fun k => (by cases k), fun k => (by cases k), fun _ => ⟨h1.cur, h1.ff, hs1⟩⟩
  | cons c' l2 =>
    rw [hl1] at h1
    have hst : st1 = .ok := h1.ok_iff.mpr (by simp)
    subst hst
    obtain ⟨t', ht'⟩ := h1.okc rfl
    obtain ⟨rfl, rfl⟩ := List.cons.inj ht'
    have b1 : (Status.ok == Status.eof) = false := by decide
    have b2 : (Status.ok == Status.fault) = false := by decide
    simp only [b1, b2, bne_self_eq_false, Bool.false_eq_true, if_false]
    by_cases hc : (c' != chGt) = true
    · simp only [hc, if_true]
      exact ⟨by first | rfl | trivial, fun k => (by cases k), fun _ => (by first | rfl | trivial), fun k => (by cases k)⟩
    · simp only [hc, Bool.false_eq_true, if_false]
      have h2 := nextchar_abs a1 c' l2 h1.cur h1.sz h1.ff
      have p2 := Frame.nextchar_payload a1 c'
      have o1 := h1.off
      generalize nextchar a1 c' = r2 at h2 p2 ⊢
      obtain ⟨a2, st2, c2⟩ := r2
      simp only [] at h2 p2 ⊢
      have h3 := skipWhile_abs (fun c => c != chNl && c != chCr) (fuelOf a2) a2 st2 c2 l2 h2 h2.fuel
      have p3 := Frame.skipWhile_payload (fun c => c != chNl && c != chCr) (fuelOf a2) a2 st2 c2
      generalize skipWhile (fun c => c != chNl && c != chCr) (fuelOf a2) a2 st2 c2 = r3 at h3 p3 ⊢
      obtain ⟨a3, st3, c3⟩ := r3
      simp only [] at h3 p3 ⊢
      have h4 := skipWhile_abs (fun c => c == chNl || c == chCr) (fuelOf a3) a3 st3 c3 _ h3 h3.fuel
      have p4 := Frame.skipWhile_payload (fun c => c == chNl || c == chCr) (fuelOf a3) a3 st3 c3
      generalize skipWhile (fun c => c == chNl || c == chCr) (fuelOf a3) a3 st3 c3 = r4 at h4 p4 ⊢
      obtain ⟨a4, st4, c4⟩ := r4
      simp only [] at h4 p4 ⊢
      have hs4 : stat a4 = stat a :=
        (stat_of_payload p4).trans ((stat_of_payload p3).trans ((stat_of_payload p2).trans hs1))
      have o4 := h4.off
      have hk1 : (st4 == Status.fault) = false := by rcases h4.st_cases with e | e <;> rw [e] <;> rfl
      have hk2 : (st4 != Status.ok && st4 != Status.eof) = false := by rcases h4.st_cases with e | e <;> rw [e] <;> rfl
      simp only [hk1, hk2, Bool.false_eq_true, if_false]
      refine ⟨?_, fun _ => ⟨h4.cur.setLine _, h4.ff, hs4⟩, fun k => (by cases k), fun k => (by cases k)⟩
      rw [o1, o4]
      rfl

/-- **`header_fasta` and `skip_fasta` leave the cursor at the same byte and report the same `roff` / `doff`** whenever the header
    has a name: the part of `Read` / `ReadSequence` agreement that concerns the header -/
theorem headerL_skipL_agree (N : Nat) (sq sq' : Sq) (l : List UInt8) (h : (headerL N sq l).1 = .ok) :
    (skipL N sq' l).1 = .ok ∧ (skipL N sq' l).2.2 = (headerL N sq l).2.2 ∧
    (skipL N sq' l).2.1.roff = (headerL N sq l).2.1.roff ∧ (skipL N sq' l).2.1.doff = (headerL N sq l).2.1.doff := by
  obtain ⟨l2, hc, _, e⟩ := headerL_of_ok N sq l h
  rw [e sq]
  unfold skipL
  rw [hc]
  simp only [bne_self_eq_false, Bool.false_eq_true, if_false]
  have e1 : ∀ c, isBlankTab c = true → pNotEol c = true := by
    intro c hc; simp only [isBlankTab, pNotEol, chNl, chCr] at *
    rcases (Bool.or_eq_true _ _).mp hc with e | e <;> (have := eq_of_beq e; subst this; decide)
  have e2 : ∀ c, pName c = true → pNotEol c = true := by
    intro c hc
    simp only [pName, isSpace, pNotEol, chNl, chCr, Bool.not_eq_true', Bool.or_eq_false_iff, Bool.and_eq_false_iff] at *
    simp only [Bool.and_eq_true, bne_iff_ne, ne_eq]
    constructor
    · intro k; subst k; revert hc; decide
    · intro k; subst k; revert hc; decide
  have e3 : ∀ c, pDesc c = true → pNotEol c = true := by
    intro c hc; simp only [pDesc, pNotEol, Bool.and_eq_true] at *; exact hc.1
  have key : (((((l2.dropWhile isBlankTab).dropWhile pName).dropWhile isBlankTab).dropWhile pDesc).dropWhile pNotEol) =
      l2.dropWhile pNotEol := by
    rw [dropWhile_dropWhile_of_imp _ _ e3, dropWhile_dropWhile_of_imp _ _ e1, dropWhile_dropWhile_of_imp _ _ e2,
      dropWhile_dropWhile_of_imp _ _ e1]
  simp only [hfDescL, hfEndL, key]
  exact ⟨trivial, trivial, trivial, trivial⟩

end EaselModel.Sqio.HeaderSpec
