import EaselModel.Sqio.InfoSeqSpec
/-! # Totality of the FASTA reader at the level of the calls (C02) and agreement of the three calls (C04)

Everything here is a corollary of the closed forms: the status of `recL` / `infoL` / `seqL` is `eslOK`, `eslEOF` or `eslEFORMAT` by
construction, a record they return is well formed, every successful record consumes at least one byte (so the record loop ends within
`size + 1` calls), and the model's calls return exactly these closed forms for every block size. -/
namespace EaselModel.Sqio.Totality
open EaselModel.Sqio.Refine EaselModel.Sqio.Fold EaselModel.Sqio.DataScan EaselModel.Sqio.Cursor EaselModel.Sqio.BodySpec
open EaselModel.Sqio.HeaderSpec EaselModel.Sqio.ReadSpec EaselModel.Sqio.ParseFasta EaselModel.Sqio.InfoSeqSpec

theorem headerL_status (N : Nat) (sq : Sq) (l : List UInt8) :
    (headerL N sq l).1 = .ok ∨ (headerL N sq l).1 = .eof ∨ (headerL N sq l).1 = .eformat := by
  unfold headerL
  split
  · simp
  · split
    · simp
    · split <;> simp

theorem skipL_status (N : Nat) (sq : Sq) (l : List UInt8) :
    (skipL N sq l).1 = .ok ∨ (skipL N sq l).1 = .eof ∨ (skipL N sq l).1 = .eformat := by
  unfold skipL
  split
  · simp
  · split <;> simp

theorem bodyL_status (inmap map : Bytes) (N : Nat) (sq : Sq) (l : List UInt8) :
    (bodyL inmap map N sq l).1 = .ok ∨ (bodyL inmap map N sq l).1 = .eformat := by
  unfold bodyL
  split
  · simp
  · split <;> simp

theorem recL_status (inmap : Bytes) (N : Nat) (sq : Sq) (l : List UInt8) :
    (recL inmap N sq l).1 = .ok ∨ (recL inmap N sq l).1 = .eof ∨ (recL inmap N sq l).1 = .eformat := by
  unfold recL
  split
  · simp
  · split
    · rcases bodyL_status inmap (mapFor inmap sq) N (headerL N sq l).2.1 (headerL N sq l).2.2 with h | h
      · exact Or.inl h
      · exact Or.inr (Or.inr h)
    · exact headerL_status N sq l

theorem seqL_status (inmap : Bytes) (N : Nat) (sq : Sq) (l : List UInt8) :
    (seqL inmap N sq l).1 = .ok ∨ (seqL inmap N sq l).1 = .eof ∨ (seqL inmap N sq l).1 = .eformat := by
  unfold seqL
  split
  · simp
  · split
    · rcases bodyL_status inmap (mapFor inmap sq) N (skipL N sq l).2.1 (skipL N sq l).2.2 with h | h
      · exact Or.inl h
      · exact Or.inr (Or.inr h)
    · exact skipL_status N sq l

theorem infoL_status (inmap : Bytes) (N : Nat) (sq : Sq) (l : List UInt8) :
    (infoL inmap N sq l).1 = .ok ∨ (infoL inmap N sq l).1 = .eof ∨ (infoL inmap N sq l).1 = .eformat := by
  unfold infoL
  split
  · simp
  · split
    · unfold infoBodyL
      split
      · simp
      · split <;> simp
    · exact headerL_status N sq l

/-- a string of `size` bytes held in `alloc` bytes stays strictly inside its allocation while it grows (room for the NUL) -/
theorem allocGrow_inv (alloc size n : Nat) (h : size + 1 < alloc) : size + n + 1 < allocGrow alloc size n := by
  induction n generalizing alloc size with
  | zero => exact h
  | succ n ih =>
    simp only [allocGrow]
    have := ih (if (size + 1 == alloc - 1) = true then alloc * 2 else alloc) (size + 1) (by
      split
      · rename_i k; have := eq_of_beq k; omega
      · rename_i k; have : size + 1 ≠ alloc - 1 := by simpa using k
        omega)
    omega

theorem dropWhile_length_le (p : UInt8 → Bool) (l : List UInt8) : (l.dropWhile p).length ≤ l.length := by
  have := length_takeWhile_add_dropWhile p l; omega

/-- a well-formed `ESL_SQ` as `sqascii_Read` returns it: strings inside their allocations with room for the NUL, a non-empty name,
    residues inside their allocation with room for the terminator / sentinel, coordinates of a whole sequence -/
def WellFormed (s : Sq) : Prop :=
  0 < s.name.size ∧ s.name.size + 1 < s.nalloc ∧ s.desc.size + 1 < s.dalloc ∧ s.termOk = true ∧
  s.start = 1 ∧ s.end_ = (s.n : Int) ∧ s.C = 0 ∧ s.W = (s.n : Int) ∧ s.L = (s.n : Int) ∧
  0 ≤ s.roff ∧ s.roff < s.hoff ∧ s.hoff ≤ s.doff ∧ s.doff ≤ s.eoff + 1

theorem wf_setWhole (s : Sq) (e : Int) (h1 : 0 < s.name.size) (h2 : s.name.size + 1 < s.nalloc) (h3 : s.desc.size + 1 < s.dalloc)
    (hT : s.termOk = true) (h4 : 0 ≤ s.roff) (h5 : s.roff < s.hoff) (h6 : s.hoff ≤ s.doff) (h7 : s.doff ≤ e + 1) :
    WellFormed ({ s with eoff := e } : Sq).setWhole :=
  ⟨h1, h2, h3, hT, rfl, rfl, rfl, rfl, rfl, h4, h5, h6, h7⟩

theorem stored_fields (inmap map : Bytes) (sq : Sq) (d : List UInt8) :
    (stored true inmap map sq d).name = sq.name ∧ (stored true inmap map sq d).nalloc = sq.nalloc ∧
    (stored true inmap map sq d).desc = sq.desc ∧ (stored true inmap map sq d).dalloc = sq.dalloc ∧
    (stored true inmap map sq d).roff = sq.roff ∧ (stored true inmap map sq d).hoff = sq.hoff ∧
    (stored true inmap map sq d).doff = sq.doff := by
  simp [stored]

theorem headerL_wf (N : Nat) (sq : Sq) (l : List UInt8) (hl : l.length ≤ N) (hn : 2 ≤ sq.nalloc) (hd : 2 ≤ sq.dalloc)
    (h : (headerL N sq l).1 = .ok) :
    0 < (headerL N sq l).2.1.name.size ∧ (headerL N sq l).2.1.name.size + 1 < (headerL N sq l).2.1.nalloc ∧
    (headerL N sq l).2.1.desc.size + 1 < (headerL N sq l).2.1.dalloc ∧
    0 ≤ (headerL N sq l).2.1.roff ∧ (headerL N sq l).2.1.roff < (headerL N sq l).2.1.hoff ∧
    (headerL N sq l).2.1.hoff ≤ (headerL N sq l).2.1.doff ∧ (headerL N sq l).2.1.doff = offOf N (headerL N sq l).2.2 ∧
    (headerL N sq l).2.2.length < l.length := by
  obtain ⟨l2, hc, hne, e⟩ := headerL_of_ok N sq l h
  have h0 := dropWhile_length_le isSpace l
  rw [hc] at h0
  simp only [List.length_cons] at h0
  rw [e sq]
  have a1 := dropWhile_length_le isBlankTab l2
  have a2 := length_takeWhile_add_dropWhile pName (l2.dropWhile isBlankTab)
  have a3 := dropWhile_length_le isBlankTab ((l2.dropWhile isBlankTab).dropWhile pName)
  have a4 := length_takeWhile_add_dropWhile pDesc (((l2.dropWhile isBlankTab).dropWhile pName).dropWhile isBlankTab)
  have a5 := dropWhile_length_le pNotEol ((((l2.dropWhile isBlankTab).dropWhile pName).dropWhile isBlankTab).dropWhile pDesc)
  have a6 := dropWhile_length_le pEol (((((l2.dropWhile isBlankTab).dropWhile pName).dropWhile isBlankTab).dropWhile pDesc).dropWhile pNotEol)
  have hpos : 0 < ((l2.dropWhile isBlankTab).takeWhile pName).length := by
    cases hh : (l2.dropWhile isBlankTab).takeWhile pName with
    | nil => rw [hh] at hne; simp at hne
    | cons _ _ => simp
  have g1 := allocGrow_inv sq.nalloc 0 ((l2.dropWhile isBlankTab).takeWhile pName).length (by omega)
  have g2 := allocGrow_inv sq.dalloc 0 ((((l2.dropWhile isBlankTab).dropWhile pName).dropWhile isBlankTab).takeWhile pDesc).length (by omega)
  simp only [hfDescL, hfEndL, offOf, List.size_toArray, List.length_cons]
  refine ⟨hpos, by omega, by omega, by omega, by omega, by omega, trivial, by omega⟩

theorem recL_wf (inmap : Bytes) (N : Nat) (sq : Sq) (l : List UInt8) (hl : l.length ≤ N) (hn : 2 ≤ sq.nalloc) (hd : 2 ≤ sq.dalloc)
    (h : (recL inmap N sq l).1 = .ok) :
    WellFormed (recL inmap N sq l).2.1 ∧ (recL inmap N sq l).2.2.length < l.length := by
  obtain ⟨_, hok, erec⟩ := recL_of_ok inmap N sq l h
  rw [erec] at h ⊢
  obtain ⟨w1, w2, w3, w4, w5, w6, w7, w8⟩ := headerL_wf N sq l hl hn hd hok
  generalize (headerL N sq l).2.1 = s1 at *
  generalize (headerL N sq l).2.2 = l1 at *
  rw [(bodyL_of_ok _ _ _ _ _ h).1]
  have b0 := dropWhile_length_le (isData inmap) l1
  obtain ⟨f1, f2, f3, f4, f5, f6, f7⟩ := stored_fields inmap (mapFor inmap sq) s1 (l1.takeWhile (isData inmap))
  have hT := stored_termOk inmap (mapFor inmap sq) s1 (l1.takeWhile (isData inmap))
  generalize stored true inmap (mapFor inmap sq) s1 (l1.takeWhile (isData inmap)) = S at f1 f2 f3 f4 f5 f6 f7 hT ⊢
  refine ⟨?_, ?_⟩
  · refine wf_setWhole S _ (by rw [f1]; exact w1) (by rw [f1, f2]; exact w2) (by rw [f3, f4]; exact w3) hT (by rw [f5]; exact w4)
      (by rw [f5, f6]; exact w5) (by rw [f6, f7]; exact w6) ?_
    rw [f7, w7]; simp only [offOf]; omega
  · show (l1.dropWhile (isData inmap)).length < l.length
    omega

/-- **the record loop ends**: with `fuel > bytes left` it finishes with `eslEOF` or `eslEFORMAT` — never by running out of fuel
    (`fault`) — and every record it returned is well formed -/
theorem parseAllL_total (inmap : Bytes) (N : Nat) (fuel : Nat) : ∀ (sq : Sq) (l : List UInt8), l.length < fuel → l.length ≤ N →
    2 ≤ sq.nalloc → 2 ≤ sq.dalloc →
    ((parseAllL inmap N fuel sq l).2 = .eof ∨ (parseAllL inmap N fuel sq l).2 = .eformat) ∧
    ∀ s ∈ (parseAllL inmap N fuel sq l).1, WellFormed s := by
  induction fuel with
  | zero => intro sq l h; omega
  | succ fuel ih =>
    intro sq l hf hN hn hd
    simp only [parseAllL]
    by_cases hok : (recL inmap N sq.reuse l).1 = .ok
    · have hb : ((recL inmap N sq.reuse l).1 == Status.ok) = true := by rw [hok]; rfl
      simp only [hb, if_true]
      obtain ⟨w, hlt⟩ := recL_wf inmap N sq.reuse l hN hn hd hok
      obtain ⟨_, _, k3, k4⟩ := recL_keeps inmap N sq.reuse l hok
      obtain ⟨i1, i2⟩ := ih (recL inmap N sq.reuse l).2.1 (recL inmap N sq.reuse l).2.2 (by omega) (by omega)
        (Nat.le_trans hn k3) (Nat.le_trans hd k4)
      refine ⟨i1, fun s hs => ?_⟩
      rcases List.mem_cons.mp hs with e | e
      · rw [e]; exact w
      · exact i2 s e
    · have hb : ((recL inmap N sq.reuse l).1 == Status.ok) = false := by simpa using hok
      simp only [hb, Bool.false_eq_true, if_false]
      refine ⟨?_, fun s hs => by cases hs⟩
      rcases recL_status inmap N sq.reuse l with h | h | h
      · exact absurd h hok
      · exact Or.inl h
      · exact Or.inr h


/-- **`Read`, `ReadInfo`, `ReadSequence` agree — on the model, for every block size.** From one ready handle (an `ESL_SQ` without residues,
    as after `esl_sq_Reuse`): if `sqascii_Read` succeeds then `ReadInfo` and `ReadSequence` succeed, all three leave the cursor on the
    same file byte, and the records agree field by field. -/
theorem three_calls_agree (a : Ascii) (sq : Sq) (R : Ready a sq) (hs : sq.seq = #[]) (hsa : 2 ≤ sq.salloc)
    (hok : (read a sq).2.2 = .ok) :
    (readInfo a sq).2.2 = .ok ∧ (readSequence a sq).2.2 = .ok ∧
    fileFrom (readInfo a sq).1 = fileFrom (read a sq).1 ∧ fileFrom (readSequence a sq).1 = fileFrom (read a sq).1 ∧
    (readInfo a sq).2.1.name = (read a sq).2.1.name ∧ (readInfo a sq).2.1.desc = (read a sq).2.1.desc ∧
    (readInfo a sq).2.1.roff = (read a sq).2.1.roff ∧ (readInfo a sq).2.1.hoff = (read a sq).2.1.hoff ∧
    (readInfo a sq).2.1.doff = (read a sq).2.1.doff ∧ (readInfo a sq).2.1.eoff = (read a sq).2.1.eoff ∧
    (readInfo a sq).2.1.L = (read a sq).2.1.L ∧ (readInfo a sq).2.1.L = ((read a sq).2.1.seq.size : Int) ∧
    (readSequence a sq).2.1.seq = (read a sq).2.1.seq ∧ (readSequence a sq).2.1.roff = (read a sq).2.1.roff ∧
    (readSequence a sq).2.1.doff = (read a sq).2.1.doff ∧ (readSequence a sq).2.1.eoff = (read a sq).2.1.eoff ∧
    (readSequence a sq).2.1.L = (read a sq).2.1.L ∧ (readSequence a sq).2.1.start = (read a sq).2.1.start ∧
    (readSequence a sq).2.1.end_ = (read a sq).2.1.end_ := by
  obtain ⟨r1, r2, _, _⟩ := read_spec a sq R
  obtain ⟨i1, i2, _, _⟩ := readInfo_spec a sq R hsa
  obtain ⟨s1, s2, _, _⟩ := readSequence_spec a sq R
  have hrec : (recL a.inmap a.file.size sq (fileFrom a)).1 = .ok := by rw [← r1]; exact hok
  obtain ⟨g1, g2, g3, g4, g5, g6, g7, g8, g9, g10, g11, g12, g13, g14, g15, g16, g17, g18, g19⟩ :=
    info_seq_agree_L a.inmap a.file.size sq sq (fileFrom a) hs rfl rfl hs hrec
  obtain ⟨ra, _, rc, _⟩ := r2 hrec
  obtain ⟨ia, _, ic, _⟩ := i2 g1
  obtain ⟨sa, _, sc, _⟩ := s2 g11
  rw [ra, ia, sa, rc, ic, sc, i1, s1]
  exact ⟨g1, g11, g2, g12, g3, g4, g5, g6, g7, g8, g9, g10, g13, g14, g15, g16, g17, g18, g19⟩

/-- **`sqascii_Read` is total** (C02 at the level of the call): from every ready handle — any file bytes, any cursor position, any
    block size — the outcome is `eslOK`, `eslEOF` or `eslEFORMAT` (so never `fault`: no access outside the buffer or outside an
    allocation of the `ESL_SQ`); `eslEFORMAT` comes with a message; on `eslOK` the record is well formed and the handle is ready for the
    next call. -/
theorem read_total (a : Ascii) (sq : Sq) (R : Ready a sq) :
    ((read a sq).2.2 = .ok ∨ (read a sq).2.2 = .eof ∨ (read a sq).2.2 = .eformat) ∧
    ((read a sq).2.2 = .eformat → (read a sq).1.haveErr = true) ∧
    ((read a sq).2.2 = .ok → WellFormed (read a sq).2.1 ∧ Ready (read a sq).1 (read a sq).2.1.reuse ∧
       (fileFrom (read a sq).1).length < (fileFrom a).length) := by
  obtain ⟨r1, r2, r3, _⟩ := read_spec a sq R
  have hlen : (fileFrom a).length ≤ a.file.size := by have := R.cur.len; omega
  refine ⟨by rw [r1]; exact recL_status _ _ _ _, fun k => r3 (by rw [← r1]; exact k), fun k => ?_⟩
  have hrec : (recL a.inmap a.file.size sq (fileFrom a)).1 = .ok := by rw [← r1]; exact k
  obtain ⟨m1, m2, m3, m4⟩ := r2 hrec
  obtain ⟨w1, w2⟩ := recL_wf a.inmap a.file.size sq (fileFrom a) hlen R.nalloc R.dalloc hrec
  obtain ⟨k1, k2, k3, k4⟩ := recL_keeps _ _ _ _ hrec
  rw [m1, m3]
  exact ⟨w1, R.next m2 m4 k1 k2 k3 k4, w2⟩

theorem readInfo_total (a : Ascii) (sq : Sq) (R : Ready a sq) (hsa : 2 ≤ sq.salloc) :
    ((readInfo a sq).2.2 = .ok ∨ (readInfo a sq).2.2 = .eof ∨ (readInfo a sq).2.2 = .eformat) ∧
    ((readInfo a sq).2.2 = .eformat → (readInfo a sq).1.haveErr = true) := by
  obtain ⟨r1, _, r3, _⟩ := readInfo_spec a sq R hsa
  exact ⟨by rw [r1]; exact infoL_status _ _ _ _, fun k => r3 (by rw [← r1]; exact k)⟩

theorem readSequence_total (a : Ascii) (sq : Sq) (R : Ready a sq) :
    ((readSequence a sq).2.2 = .ok ∨ (readSequence a sq).2.2 = .eof ∨ (readSequence a sq).2.2 = .eformat) ∧
    ((readSequence a sq).2.2 = .eformat → (readSequence a sq).1.haveErr = true) := by
  obtain ⟨r1, _, r3, _⟩ := readSequence_spec a sq R
  exact ⟨by rw [r1]; exact seqL_status _ _ _ _, fun k => r3 (by rw [← r1]; exact k)⟩

/-- **The whole FASTA reader is total, for every byte string and every block size**: reading all records from open on ends within
    `size + 2` calls with `eslEOF` or `eslEFORMAT` — never `fault`, never out of fuel — and every record returned is well formed. -/
theorem read_all_total (bytes : Bytes) (B abc : Nat) (hB : 1 ≤ B) (habc : abc ∈ [0, 1, 2, 3]) :
    ((readAllM (bytes.size + 2) (openFasta bytes B abc) (freshSq abc)).2 = .eof ∨
     (readAllM (bytes.size + 2) (openFasta bytes B abc) (freshSq abc)).2 = .eformat) ∧
    ∀ s ∈ (readAllM (bytes.size + 2) (openFasta bytes B abc) (freshSq abc)).1, WellFormed s := by
  rw [read_all_eq_parseFasta bytes B abc hB habc]
  unfold parseFasta
  exact parseAllL_total (inmapFasta abc) bytes.size (bytes.size + 2) (freshSq abc) bytes.toList (by simp) (by simp)
    (by show 2 ≤ 32; decide) (by show 2 ≤ 128; decide)

end EaselModel.Sqio.Totality
