/-! `takeWhile` / `dropWhile` on a list whose front is known: the library's `List.takeWhile_append_of_pos` and
`List.dropWhile_append_of_pos` in the shapes the tokenisers and line readers of every area meet; the like for `filter` on a
`range` and for `map`, where the predicate or the function is known on every member. -/
namespace EaselModel

theorem takeWhile_all {α : Type} {p : α → Bool} (a : List α) (ha : ∀ c ∈ a, p c = true) : a.takeWhile p = a := by
  simpa using List.takeWhile_append_of_pos (l₂ := []) ha

theorem dropWhile_all {α : Type} {p : α → Bool} (a : List α) (ha : ∀ c ∈ a, p c = true) : a.dropWhile p = [] := by
  simpa using List.dropWhile_append_of_pos (l₂ := []) ha

theorem takeWhile_app_stop {α : Type} {p : α → Bool} (a : List α) (x : α) (b : List α)
    (ha : ∀ c ∈ a, p c = true) (hx : p x = false) : (a ++ x :: b).takeWhile p = a := by
  rw [List.takeWhile_append_of_pos ha, List.takeWhile_cons_of_neg (by simp [hx]), List.append_nil]

theorem dropWhile_app_stop {α : Type} {p : α → Bool} (a : List α) (x : α) (b : List α)
    (ha : ∀ c ∈ a, p c = true) (hx : p x = false) : (a ++ x :: b).dropWhile p = x :: b := by
  rw [List.dropWhile_append_of_pos ha, List.dropWhile_cons_of_neg (by simp [hx])]

theorem dropWhile_head_stop {α : Type} {p : α → Bool} (a : List α) (h : ∀ c, a.head? = some c → p c = false) :
    a.dropWhile p = a := by
  cases a with
  | nil => rfl
  | cons c cs => exact List.dropWhile_cons_of_neg (by simp [h c rfl])

theorem mem_takeWhile_imp {α : Type} {p : α → Bool} {l : List α} {x : α} (h : x ∈ l.takeWhile p) : p x = true := by
  induction l with
  | nil => simp at h
  | cons a t ih =>
    by_cases ha : p a = true
    · rw [List.takeWhile_cons_of_pos ha] at h
      rcases List.mem_cons.mp h with e | e
      · rw [e]; exact ha
      · exact ih e
    · rw [List.takeWhile_cons_of_neg ha] at h; simp at h

theorem dropWhile_dropWhile_of_imp {α : Type} (p q : α → Bool) (hpq : ∀ c, q c = true → p c = true) (l : List α) :
    (l.dropWhile q).dropWhile p = l.dropWhile p := by
  induction l with
  | nil => rfl
  | cons x t ih =>
    by_cases hq : q x = true
    · rw [List.dropWhile_cons_of_pos hq, List.dropWhile_cons_of_pos (hpq x hq)]; exact ih
    · rw [List.dropWhile_cons_of_neg hq]

/-! the split `l = takeWhile p l ++ dropWhile p l` (`List.takeWhile_append_dropWhile`) read as `take`, `drop` and lengths -/
theorem take_takeWhile_length {α : Type} (p : α → Bool) (l : List α) : l.take (l.takeWhile p).length = l.takeWhile p := by
  conv => lhs; arg 2; rw [← @List.takeWhile_append_dropWhile _ p l]
  exact List.take_left' rfl

theorem drop_takeWhile_length {α : Type} (p : α → Bool) (l : List α) : l.drop (l.takeWhile p).length = l.dropWhile p := by
  conv => lhs; arg 2; rw [← @List.takeWhile_append_dropWhile _ p l]
  exact List.drop_left' rfl

theorem length_takeWhile_add_dropWhile {α : Type} (p : α → Bool) (l : List α) : (l.takeWhile p).length + (l.dropWhile p).length = l.length := by
  rw [← List.length_append, List.takeWhile_append_dropWhile]

theorem filter_range_all (n : Nat) (p : Nat → Bool) (h : ∀ i, i < n → p i = true) : (List.range n).filter p = List.range n :=
  List.filter_eq_self.mpr (fun a ha => h a (List.mem_range.mp ha))

theorem filter_range_none (n : Nat) (p : Nat → Bool) (h : ∀ i, i < n → p i = false) : (List.range n).filter p = [] :=
  List.filter_eq_nil_iff.mpr (fun a ha => by rw [h a (List.mem_range.mp ha)]; simp)

theorem map_id_of {α : Type} (f : α → α) (l : List α) (h : ∀ a ∈ l, f a = a) : l.map f = l := by
  conv => rhs; rw [← List.map_id l]
  exact List.map_congr_left h

/-! what `esl_strtok` and `esl_memtok` share, on bytes or characters: skip the delimiters `p`, cut at the next one -/
def splitTok {α : Type} (p : α → Bool) (s : List α) : Option (List α × List α) :=
  let s1 := s.dropWhile p
  if s1.isEmpty then none else some (s1.takeWhile (fun c => !p c), s1.dropWhile (fun c => !p c))

/-- a word in front of a delimiter `sp` -/
theorem splitTok_word {α : Type} (p : α → Bool) {sp : α} (hsp : p sp = true) (w rest : List α) (hne : w ≠ [])
    (hw : ∀ c ∈ w, p c = false) : splitTok p (w ++ sp :: rest) = some (w, sp :: rest) := by
  obtain ⟨a, as, rfl⟩ := List.exists_cons_of_ne_nil hne
  have hw' : ∀ c ∈ a :: as, (!p c) = true := fun c hc => by rw [hw c hc]; rfl
  have hd : (a :: as ++ sp :: rest).dropWhile p = a :: as ++ sp :: rest := by
    rw [List.cons_append, List.dropWhile_cons_of_neg (by simp [hw a])]
  unfold splitTok
  simp only [hd]
  rw [List.takeWhile_append_of_pos hw', List.dropWhile_append_of_pos hw']
  simp [hsp]

/-- the last word of a line, behind `k` delimiters `sp` -/
theorem splitTok_last {α : Type} (p : α → Bool) {sp : α} (hsp : p sp = true) (k : Nat) (t : List α) (hne : t ≠ [])
    (ht : ∀ c ∈ t, p c = false) : splitTok p (List.replicate k sp ++ t) = some (t, []) := by
  obtain ⟨a, as, rfl⟩ := List.exists_cons_of_ne_nil hne
  have ht' : ∀ c ∈ a :: as, (!p c) = true := fun c hc => by rw [ht c hc]; rfl
  have hd : (List.replicate k sp ++ a :: as).dropWhile p = a :: as := by
    rw [List.dropWhile_append_of_pos (by simp [hsp]), List.dropWhile_cons_of_neg (by simp [ht a])]
  unfold splitTok
  simp only [hd]
  rw [takeWhile_all _ ht', dropWhile_all _ ht']
  rfl

end EaselModel
