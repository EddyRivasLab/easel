/-! `getD` in range, after `set` (list and array; the array's also as `a[t]!`) and on `(range n).map f`: the lookups the table proofs of
several areas rewrite with. Each is the library's `getElem?` lemma read through `getD`. -/
namespace EaselModel

theorem getD_eq_getElem_of_lt {α : Type} {l : List α} {i : Nat} (d : α) (hi : i < l.length) : l.getD i d = l[i] := by
  rw [List.getD_eq_getElem?_getD, List.getElem?_eq_getElem hi, Option.getD_some]

/-- the same fact read from `l[i]?`, the shape the table lookups of the model are written in -/
theorem getElem?_eq_some_getD {α : Type} (l : List α) (i : Nat) (d : α) (h : i < l.length) : l[i]? = some (l.getD i d) := by
  rw [getD_eq_getElem_of_lt d h]; exact List.getElem?_eq_getElem h

theorem getD_mem_of_lt {α : Type} {l : List α} {c : Nat} {d : α} (h : c < l.length) : l.getD c d ∈ l := by
  rw [List.getD_eq_getElem?_getD, List.getElem?_eq_getElem h]; exact List.getElem_mem h

theorem getD_set {α : Type} (l : List α) (i j : Nat) (v d : α) :
    (l.set i v).getD j d = if i = j ∧ i < l.length then v else l.getD j d := by
  rw [List.getD_eq_getElem?_getD, List.getElem?_set, List.getD_eq_getElem?_getD]
  by_cases h : i = j
  · subst h
    by_cases h' : i < l.length
    · simp [h']
    · simp [h', List.getElem?_eq_none (Nat.le_of_not_lt h')]
  · simp [h]

theorem getD_set_of_lt {α : Type} (l : List α) (j : Nat) (v : α) (i : Nat) (d : α) (hj : j < l.length) :
    (l.set j v).getD i d = if i = j then v else l.getD i d := by
  rw [getD_set]; simp [hj, eq_comm]

theorem getD_setIfInBounds {α : Type} (t : Array α) (i j : Nat) (v d : α) :
    (t.setIfInBounds i v).getD j d = if i = j ∧ i < t.size then v else t.getD j d := by
  rw [Array.getD_eq_getD_getElem?, Array.getElem?_setIfInBounds, Array.getD_eq_getD_getElem?]
  by_cases h : i = j
  · subst h
    by_cases h' : i < t.size
    · simp [h']
    · simp [h', Array.getElem?_eq_none (Nat.le_of_not_lt h')]
  · simp [h]

theorem bang_setIfInBounds {α : Type} [Inhabited α] (a : Array α) (i t : Nat) (v : α) :
    (a.setIfInBounds i v)[t]! = if i = t ∧ i < a.size then v else a[t]! := by
  rw [Array.getElem!_eq_getD, Array.getElem!_eq_getD, Array.getD_eq_getD_getElem?, Array.getD_eq_getD_getElem?, Array.getElem?_setIfInBounds]
  by_cases e : i = t
  · subst e
    by_cases h : i < a.size
    · simp [h]
    · simp [h]
  · simp [e]

theorem getD_map_range {α : Type} (f : Nat → α) (n i : Nat) (d : α) (h : i < n) : ((List.range n).map f).getD i d = f i := by
  simp [List.getD_eq_getElem?_getD, h]

theorem getD_append_replicate {α : Type} (l : List α) (k j : Nat) (d : α) :
    (l ++ List.replicate k d).getD j d = l.getD j d := by
  simp only [List.getD_eq_getElem?_getD, List.getElem?_append, List.getElem?_replicate]
  by_cases h : j < l.length
  · simp [h]
  · simp only [h, if_false, List.getElem?_eq_none (Nat.le_of_not_lt h)]
    split <;> rfl

theorem getD_of_getElem? {α : Type} {l : List α} {i : Nat} {x d : α} (h : l[i]? = some x) : l.getD i d = x := by
  simp [List.getD_eq_getElem?_getD, h]

theorem lt_length_of_getElem? {α : Type} {l : List α} {i : Nat} {x : α} (h : l[i]? = some x) : i < l.length :=
  (List.getElem?_eq_some_iff.mp h).1

end EaselModel
