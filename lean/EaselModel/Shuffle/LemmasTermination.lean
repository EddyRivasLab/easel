import EaselModel.Shuffle.LemmasBEST
import EaselModel.Shuffle.LemmasRetry
/-! What can be proved about the two probabilistically terminating loops without probability theory.

* `esl_rnd_Roll`: the rejected raw words are exactly the top interval `[n·f, 2^32)`, `f = (2^32-1)/n`; it has at most
  `n` and at most `2^31` elements (fewer than `2^31` for every `int n`), so each draw is accepted with probability
  `> 1/2` and fuel `k` is exhausted only by `k` consecutive words of that interval.
* the DP shuffle's `while (!is_eulerian)`: for every input and every edge ordering the loop can be in, there IS an in-range
  vector of last-edge rolls that the code's connectivity test accepts (select, for each vertex, the successor of its last
  occurrence in the input). Each pass draws finitely many in-range rolls, each value has positive probability
  (`roll_unbiased32`), so each pass is accepted with positive probability. -/
namespace EaselModel.Shuffle
open EaselModel.Random

theorem reject_iff_gen (W n x : Nat) (hn : 0 < n) (hW : n ≤ W) :
    (let f := W / n; let u := x / f; if u < n then some u else none) = none ↔ n * (W / n) ≤ x := by
  have hf : 0 < W / n := Nat.div_pos hW hn
  simp only
  constructor
  · intro h
    split at h
    · cases h
    · rename_i hu
      exact (Nat.le_div_iff_mul_le hf).1 (by omega)
  · intro h
    have : n ≤ x / (W / n) := (Nat.le_div_iff_mul_le hf).2 h
    rw [if_neg (by omega)]

theorem reject_count_gen (W n : Nat) (hn : 0 < n) (hW : n ≤ W) :
    W + 1 - n * (W / n) ≤ n ∧ 2 * (W + 1 - n * (W / n)) ≤ W + 1 ∧ n * (W / n) ≤ W := by
  have h1 := Nat.div_add_mod W n
  have h2 := Nat.mod_lt W hn
  have h3 : n ≤ n * (W / n) := Nat.le_mul_of_pos_right n (Nat.div_pos hW hn)
  generalize n * (W / n) = q at *
  omega

theorem rollWord_none_iff (n x : Nat) (hn : 0 < n) (hn' : n < 2^32) : rollWord n x = none ↔ n * ((2^32-1)/n) ≤ x := by
  unfold rollWord
  exact reject_iff_gen (2^32-1) n x hn (by omega)

theorem rollWord64_none_iff (n x : Nat) (hn : 0 < n) (hn' : n < 2^64) : rollWord64 n x = none ↔ n * ((2^64-1)/n) ≤ x := by
  unfold rollWord64
  exact reject_iff_gen (2^64-1) n x hn (by omega)

/-- step (2) of the DP shuffle driven by an explicit list of roll values (one per vertex that has edges and is not `sf`) -/
def dpSelectLastRolls (sf : Nat) : List Nat → Edges → List Nat → Edges
  | [], E, _ => E
  | x :: xs, E, rs =>
    if (E[x]!).size == 0 || x == sf then dpSelectLastRolls sf xs E rs
    else match rs with
      | [] => E
      | pos :: rs' => dpSelectLastRolls sf xs (E.modify x (fun l => l.swapIfInBounds pos ((E[x]!).size - 1))) rs'

/-- the roll values `dpSelectLast` obtains from generator state `r` -/
def dpDrawLast (sf : Nat) : List Nat → Edges → Rng → List Nat
  | [], _, _ => []
  | x :: xs, E, r =>
    if (E[x]!).size == 0 || x == sf then dpDrawLast sf xs E r
    else (roll r (E[x]!).size).1 ::
      dpDrawLast sf xs (E.modify x (fun l => l.swapIfInBounds (roll r (E[x]!).size).1 ((E[x]!).size - 1))) (roll r (E[x]!).size).2

/-- in-range roll vectors of one pass: one value per selected vertex, below that vertex's number of edges -/
def DpValidRolls (sf : Nat) : List Nat → Edges → List Nat → Prop
  | [], _, rs => rs = []
  | x :: xs, E, rs =>
    if (E[x]!).size == 0 || x == sf then DpValidRolls sf xs E rs
    else match rs with
      | [] => False
      | pos :: rs' => pos < (E[x]!).size ∧
          DpValidRolls sf xs (E.modify x (fun l => l.swapIfInBounds pos ((E[x]!).size - 1))) rs'

theorem dpSelectLast_eq_rolls (sf : Nat) : ∀ (xs : List Nat) (E : Edges) (r : Rng),
    (dpSelectLast sf xs E r).1 = dpSelectLastRolls sf xs E (dpDrawLast sf xs E r) ∧
      DpValidRolls sf xs E (dpDrawLast sf xs E r) := by
  intro xs
  induction xs with
  | nil => intro E r; exact ⟨rfl, rfl⟩
  | cons x xs ih =>
    intro E r
    simp only [dpSelectLast, dpSelectLastRolls, dpDrawLast, DpValidRolls]
    split
    · exact ih E r
    · rename_i hc
      simp only [Bool.or_eq_true, beq_iff_eq, not_or] at hc
      refine ⟨(ih _ _).1, roll_lt r _ (by omega), (ih _ _).2⟩

/-! ## the connectivity sweep is complete: it ends closed under "my last edge leads to a marked vertex" -/
def falseCount (Z : Array Bool) : Nat := Z.toList.count false

theorem falseCount_set (Z : Array Bool) (x : Nat) (hx : x < Z.size) (hz : Z[x]! = false) :
    falseCount (Z.setIfInBounds x true) < falseCount Z := by
  unfold falseCount
  rw [getElem!_pos Z x hx] at hz
  have hm : false ∈ Z.toList := by rw [← hz]; simp
  have hpos := List.count_pos_iff.2 hm
  rw [Array.toList_setIfInBounds, List.count_set (by simpa using hx)]
  have e1 : (Z.toList[x]'(by simpa using hx) == false) = true := by simp [hz]
  rw [if_pos e1, if_neg (by decide)]
  omega

theorem bang_set_true (Z : Array Bool) (x v : Nat) (h : Z[v]! = true) : (Z.setIfInBounds x true)[v]! = true := by
  rcases bang_set_gen Z x v true with e | ⟨e, _⟩
  · rw [e]; exact h
  · exact e

/-- what one sweep of step (3) does to the marks `Z` and the flag `keep` -/
structure Swept (E : Edges) (xs : List Nat) (Z : Array Bool) (keep : Bool) (out : Array Bool × Bool) : Prop where
  size : out.1.size = Z.size
  kept : ∀ v : Nat, Z[v]! = true → out.1[v]! = true
  /-- a sweep that raises the flag has marked a vertex -/
  fewer : keep = false → out.2 = true → falseCount out.1 < falseCount Z
  le : falseCount out.1 ≤ falseCount Z
  raised : keep = true → out.2 = true
  /-- a sweep that leaves the flag down has changed nothing: the marks are closed under "my last edge leads to a marked vertex" -/
  quiet : out.2 = false → out.1 = Z ∧ ∀ x ∈ xs, (E[x]!).size ≠ 0 → Z[(E[x]!)[(E[x]!).size - 1]!]! = true → Z[x]! = true

theorem dpSweep_swept (E : Edges) : ∀ (xs : List Nat) (Z : Array Bool) (keep : Bool), (∀ x ∈ xs, x < Z.size) →
    Swept E xs Z keep (dpSweep E xs Z keep) := by
  intro xs
  induction xs with
  | nil =>
    intro Z keep _
    rw [show dpSweep E [] Z keep = (Z, keep) from rfl]
    exact ⟨rfl, fun _ h => h, fun h1 h2 => (by subst h1; cases h2), Nat.le_refl _, fun h => h, fun _ => ⟨rfl, fun x hx => by simp at hx⟩⟩
  | cons x xs ih =>
    intro Z keep hlt
    have hx : x < Z.size := hlt x (by simp)
    have hxs : ∀ y ∈ xs, y < Z.size := fun y hy => hlt y (by simp [hy])
    simp only [dpSweep]
    split
    · rename_i hn
      have h := ih Z keep hxs
      refine ⟨h.size, h.kept, h.fewer, h.le, h.raised, fun hq => ⟨(h.quiet hq).1, fun y hy => ?_⟩⟩
      rcases List.mem_cons.1 hy with e | e
      · subst e; intro h0; exact absurd (by simpa using hn) h0
      · exact (h.quiet hq).2 y e
    · rename_i hn
      split
      · rename_i hc
        simp only [Bool.and_eq_true, Bool.not_eq_true'] at hc
        have h := ih (Z.setIfInBounds x true) true (by simpa using hxs)
        have hdec := falseCount_set Z x hx hc.1
        have hle := h.le
        refine ⟨by rw [h.size]; simp, fun v hv => h.kept v (bang_set_true Z x v hv), fun _ _ => by omega, by omega, fun _ => h.raised rfl,
          fun hq => ?_⟩
        rw [h.raised rfl] at hq; cases hq
      · rename_i hc
        have h := ih Z keep hxs
        refine ⟨h.size, h.kept, h.fewer, h.le, h.raised, fun hq => ⟨(h.quiet hq).1, fun y hy => ?_⟩⟩
        rcases List.mem_cons.1 hy with e | e
        · subst e
          intro _ hy'
          cases hz : Z[y]! with
          | true => rfl
          | false => exfalso; apply hc; simp [hz, hy']
        · exact (h.quiet hq).2 y e

theorem dpConnect_closed (E : Edges) (K : Nat) : ∀ (fuel : Nat) (Z : Array Bool), Z.size = K → falseCount Z < fuel →
    (∀ v : Nat, Z[v]! = true → (dpConnect E K fuel Z)[v]! = true) ∧
    ∀ x, x < K → (E[x]!).size ≠ 0 → (dpConnect E K fuel Z)[(E[x]!)[(E[x]!).size - 1]!]! = true →
      (dpConnect E K fuel Z)[x]! = true := by
  intro fuel
  induction fuel with
  | zero => intro Z _ h; omega
  | succ fuel ih =>
    intro Z hs hc
    have sw := dpSweep_swept E (List.range K) Z false (by intro x hx; simpa [hs] using hx)
    simp only [dpConnect]
    split
    · rename_i hk
      have := sw.fewer rfl hk
      obtain ⟨b1, b2⟩ := ih (dpSweep E (List.range K) Z false).1 (by rw [sw.size, hs]) (by omega)
      exact ⟨fun v hv => b1 v (sw.kept v hv), b2⟩
    · rename_i hk
      have hk' : (dpSweep E (List.range K) Z false).2 = false := by simpa using hk
      obtain ⟨c1, c2⟩ := sw.quiet hk'
      rw [c1]
      exact ⟨fun _ h => h, fun x hx => c2 x (by simpa using hx)⟩

/-- marks closed under "the successor of my last occurrence is marked" reach every residue of the sequence -/
theorem marked_all (Z : Array Bool) (sf : Nat) : ∀ (l : List Nat), l.getLast? = some sf → Z[sf]! = true →
    (∀ pre a b post, l = pre ++ a :: b :: post → a ∉ b :: post → Z[b]! = true → Z[a]! = true) →
    ∀ x ∈ l, Z[x]! = true := by
  intro l
  induction l with
  | nil => intro _ _ _ x hx; simp at hx
  | cons a t ih =>
    intro hl hsf hcl x hx
    cases t with
    | nil =>
      simp at hl hx
      subst hl; subst hx; exact hsf
    | cons b t' =>
      have iht := ih (by simpa using hl) hsf (fun pre a' b' post e => hcl (a :: pre) a' b' post (by rw [e]; rfl))
      rcases List.mem_cons.1 hx with e | e
      · subst e
        by_cases hm : x ∈ b :: t'
        · exact iht x hm
        · exact hcl [] x b t' rfl hm (iht b (by simp))
      · exact iht x e

/-! ## the witness: select, for every vertex, the successor of its last occurrence -/
/-- the element following the last occurrence of `x` in `l` (meaningful when `x` occurs at a non-final position and is
    not also the final element) -/
def lastSucc (x : Nat) : List Nat → Nat
  | [] => 0
  | _ :: t => if x ∈ t then lastSucc x t else t.headD 0

theorem lastSucc_split (x b : Nat) (post : List Nat) (h : x ∉ b :: post) : ∀ pre, lastSucc x (pre ++ x :: b :: post) = b := by
  intro pre
  induction pre with
  | nil => simp only [List.nil_append, lastSucc, if_neg h]; rfl
  | cons p pre ih =>
    simp only [List.cons_append, lastSucc]
    rw [if_pos (by simp), ih]

theorem last_split (x : Nat) : ∀ (l : List Nat), x ∈ l → l.getLast? ≠ some x →
    ∃ pre b post, l = pre ++ x :: b :: post ∧ x ∉ b :: post := by
  intro l
  induction l with
  | nil => intro h; simp at h
  | cons a t ih =>
    intro hx hl
    by_cases hm : x ∈ t
    · have hne : t ≠ [] := by intro e; subst e; simp at hm
      obtain ⟨pre, b, post, e, hn⟩ := ih hm (by rwa [List.getLast?_cons_of_ne_nil hne] at hl)
      exact ⟨a :: pre, b, post, by rw [e]; rfl, hn⟩
    · have : x = a := by simpa [hm] using hx
      subst this
      cases t with
      | nil => simp at hl
      | cons b post => exact ⟨[], b, post, rfl, hm⟩

/-- the roll vector that selects `tgt x` as the last edge of every visited vertex `x` -/
def dpWitness (sf : Nat) (tgt : Nat → Nat) : List Nat → Edges → List Nat
  | [], _ => []
  | x :: xs, E =>
    if (E[x]!).size == 0 || x == sf then dpWitness sf tgt xs E
    else (elist E x).idxOf (tgt x) ::
      dpWitness sf tgt xs (E.modify x (fun l => l.swapIfInBounds ((elist E x).idxOf (tgt x)) ((E[x]!).size - 1)))

theorem getElem?_swapIfInBounds_last (a : Array Nat) (i : Nat) (hi : i < a.size) :
    (a.swapIfInBounds i (a.size - 1))[a.size - 1]? = a[i]? := by
  rw [getElem?_swapIfInBounds_of_lt a i (a.size - 1) (a.size - 1) hi (by omega), if_pos rfl]

theorem bang_eq_of_elist (E1 E : Edges) (v : Nat) (h : elist E1 v = elist E v) : E1[v]! = E[v]! := by
  unfold elist at h
  exact Array.toList_inj.1 h

theorem lastOf_modify_swap (E : Edges) (x y : Nat) (hx : x < E.size) (hy : y ∈ elist E x) :
    lastOf (E.modify x (fun l => l.swapIfInBounds ((elist E x).idxOf y) ((E[x]!).size - 1))) x = some y := by
  have hpos : (elist E x).idxOf y < (E[x]!).size := by
    have := List.idxOf_lt_length_of_mem hy
    simpa [elist] using this
  unfold lastOf
  rw [elist_modify_eq E x _ hx, List.getLast?_eq_getElem?]
  simp only [Array.length_toList, Array.size_swapIfInBounds, Array.getElem?_toList]
  rw [getElem?_swapIfInBounds_last _ _ hpos]
  have := List.getElem_idxOf (x := y) (xs := elist E x) (by simpa [elist] using hpos)
  simp only [elist, Array.getElem_toList] at this
  rw [Array.getElem?_eq_getElem hpos]
  simp only [elist]
  exact congrArg some this

theorem dpWitness_spec (sf : Nat) (tgt : Nat → Nat) : ∀ (xs : List Nat) (E : Edges), xs.Nodup → (∀ x ∈ xs, x < E.size) →
    (∀ x ∈ xs, (E[x]!).size ≠ 0 → x ≠ sf → tgt x ∈ elist E x) →
    DpValidRolls sf xs E (dpWitness sf tgt xs E) ∧
    PermEdges (dpSelectLastRolls sf xs E (dpWitness sf tgt xs E)) E ∧
    (∀ v, v ∉ xs → elist (dpSelectLastRolls sf xs E (dpWitness sf tgt xs E)) v = elist E v) ∧
    (∀ x ∈ xs, (E[x]!).size ≠ 0 → x ≠ sf → lastOf (dpSelectLastRolls sf xs E (dpWitness sf tgt xs E)) x = some (tgt x)) := by
  intro xs
  induction xs with
  | nil =>
    intro E _ _ _
    exact ⟨rfl, PermEdges.refl E, fun _ _ => rfl, fun x hx => by simp at hx⟩
  | cons x xs ih =>
    intro E hnd hlt htg
    have hxn : x ∉ xs := (List.nodup_cons.1 hnd).1
    have hnd' : xs.Nodup := (List.nodup_cons.1 hnd).2
    have hx : x < E.size := hlt x (by simp)
    simp only [dpWitness, dpSelectLastRolls, DpValidRolls]
    split
    · rename_i hc
      obtain ⟨a1, a2, a3, a4⟩ := ih E hnd' (fun y hy => hlt y (by simp [hy])) (fun y hy => htg y (by simp [hy]))
      refine ⟨a1, a2, fun v hv => a3 v (fun h => hv (by simp [h])), fun y hy h0 hsf => ?_⟩
      rcases List.mem_cons.1 hy with e | e
      · subst e; simp only [Bool.or_eq_true, beq_iff_eq] at hc; omega
      · exact a4 y e h0 hsf
    · rename_i hc
      simp only [Bool.or_eq_true, beq_iff_eq, not_or] at hc
      have hmem := htg x (by simp) hc.1 hc.2
      have hpos : (elist E x).idxOf (tgt x) < (E[x]!).size := by
        have := List.idxOf_lt_length_of_mem hmem
        simpa [elist] using this
      dsimp only
      generalize hE1 : E.modify x (fun l => l.swapIfInBounds ((elist E x).idxOf (tgt x)) ((E[x]!).size - 1)) = E1
      have hne : ∀ v, v ≠ x → elist E1 v = elist E v := by
        intro v hv; rw [← hE1]; exact elist_modify_ne E x v _ (fun e => hv e.symm)
      have hlast1 : lastOf E1 x = some (tgt x) := by rw [← hE1]; exact lastOf_modify_swap E x (tgt x) hx hmem
      have hperm1 : PermEdges E1 E := by rw [← hE1]; exact permEdges_modify_swap E x _ _
      obtain ⟨a1, a2, a3, a4⟩ := ih E1 hnd' (fun y hy => by rw [hperm1.size]; exact hlt y (by simp [hy]))
        (fun y hy h0 hsf => by
          have hyx : y ≠ x := fun e => hxn (e ▸ hy)
          rw [hne y hyx]
          rw [bang_eq_of_elist E1 E y (hne y hyx)] at h0
          exact htg y (by simp [hy]) h0 hsf)
      refine ⟨⟨hpos, a1⟩, a2.trans hperm1, fun v hv => ?_, fun y hy h0 hsf => ?_⟩
      · rw [a3 v (fun h => hv (by simp [h])), hne v (fun e => hv (by simp [e]))]
      · rcases List.mem_cons.1 hy with e | e
        · subst e
          unfold lastOf
          rw [a3 y hxn]
          exact hlast1
        · have hyx : y ≠ x := fun e' => hxn (e' ▸ e)
          exact a4 y e (by rw [bang_eq_of_elist E1 E y (hne y hyx)]; exact h0) hsf

theorem dpAccepted_of_last (K sf : Nat) (codes : List Nat) (E' : Edges) (hsf : sf < K)
    (hlast : codes.getLast? = some sf) (hK : ∀ c ∈ codes, c < K)
    (hedge : ∀ x, x < K → (E'[x]!).size ≠ 0 → x ∈ codes)
    (hsplit : ∀ pre a b post, codes = pre ++ a :: b :: post → a ∉ b :: post →
      (E'[a]!).size ≠ 0 ∧ lastOf E' a = some b) : dpAccepted K sf E' = true := by
  unfold dpAccepted
  generalize hZ0 : (Array.replicate K false).setIfInBounds sf true = Z0
  have hs0 : Z0.size = K := by rw [← hZ0]; simp
  have hc0 : falseCount Z0 < K + 1 := by
    unfold falseCount
    have := List.count_le_length (a := false) (l := Z0.toList)
    simp only [Array.length_toList, hs0] at this
    omega
  have hsf0 : Z0[sf]! = true := by
    rw [← hZ0, getElem!_pos _ sf (by simpa using hsf)]
    simp
  obtain ⟨hmono, hclosed⟩ := dpConnect_closed E' K (K+1) Z0 hs0 hc0
  generalize dpConnect E' K (K+1) Z0 = Zs at hmono hclosed
  have hall := marked_all Zs sf codes hlast (hmono sf hsf0) (by
    intro pre a b post e hn hb
    obtain ⟨h1, h2⟩ := hsplit pre a b post e hn
    have ha : a < K := hK a (by rw [e]; simp)
    rw [lastOf_eq E' a h1] at h2
    apply hclosed a ha h1
    rw [Option.some.inj h2]; exact hb)
  simp only [dpIsEulerian, List.all_eq_true, List.mem_range, Bool.or_eq_true, beq_iff_eq]
  intro x hx
  by_cases h0 : (E'[x]!).size = 0
  · exact Or.inl (Or.inl h0)
  · exact Or.inr (hall x (hedge x hx h0))

theorem mem_elist_iff (K : Nat) (codes : List Nat) (hK : ∀ c ∈ codes, c < K) (E : Edges)
    (hp : PermEdges E (dpBuild K codes)) (v y : Nat) (hv : v < K) : y ∈ elist E v ↔ (v, y) ∈ adjPairs codes := by
  obtain ⟨hbs, hbp⟩ := dpBuild_spec K codes hK
  rw [← ((hp.edgePairs K).trans hbp).mem_iff]
  exact ((mem_gather (elist E) v y K).trans (and_iff_right hv)).symm

theorem exists_accepting_rolls' (K : Nat) (codes : List Nat) (hK : ∀ c ∈ codes, c < K) (hne : codes ≠ [])
    (E : Edges) (hp : PermEdges E (dpBuild K codes)) :
    ∃ rs, DpValidRolls (codes.getLastD 0) (List.range K) E rs ∧
      dpAccepted K (codes.getLastD 0) (dpSelectLastRolls (codes.getLastD 0) (List.range K) E rs) = true := by
  generalize hsfe : codes.getLastD 0 = sf
  have hlast : codes.getLast? = some sf := by
    rw [← hsfe]
    cases codes with
    | nil => exact absurd rfl hne
    | cons a t => simp [List.getLastD, List.getLast?_eq_some_getLast]
  have hsfm : sf ∈ codes := List.mem_of_getLast? hlast
  have hsf : sf < K := hK sf hsfm
  have hsz : E.size = K := by rw [hp.size]; exact (dpBuild_spec K codes hK).1
  have hsize : ∀ (E2 : Edges) v, (E2[v]!).size = (elist E2 v).length := fun E2 v => by simp [elist]
  -- a vertex with edges occurs in the input
  have hocc : ∀ x, x < K → (E[x]!).size ≠ 0 → x ∈ codes := by
    intro x hx h0
    rw [hsize] at h0
    obtain ⟨y, hy⟩ := List.exists_mem_of_length_pos (Nat.pos_of_ne_zero h0)
    exact List.dropLast_subset _ (fst_mem_of_adjPairs codes x y ((mem_elist_iff K codes hK E hp x y hx).1 hy))
  have hspec := dpWitness_spec sf (fun x => lastSucc x codes) (List.range K) E List.nodup_range
    (by intro x hx; simpa [hsz] using hx)
    (by
      intro x hx h0 hxsf
      have hxK : x < K := by simpa using hx
      obtain ⟨pre, b, post, e, hn⟩ := last_split x codes (hocc x hxK h0) (by rw [hlast]; intro h; exact hxsf (Option.some.inj h).symm)
      have : lastSucc x codes = b := by rw [e]; exact lastSucc_split x b post hn pre
      rw [this]
      exact (mem_elist_iff K codes hK E hp x b hxK).2 (mem_adjPairs.2 ⟨pre, post, e⟩))
  obtain ⟨hvalid, hperm, _, hlastE⟩ := hspec
  refine ⟨_, hvalid, ?_⟩
  generalize dpSelectLastRolls sf (List.range K) E (dpWitness sf (fun x => lastSucc x codes) (List.range K) E) = E' at hperm hlastE
  have hlen : ∀ v : Nat, (E'[v]!).size = (E[v]!).size := by
    intro v; rw [hsize, hsize]; exact (hperm.perm v).length_eq
  apply dpAccepted_of_last K sf codes E' hsf hlast hK
  · intro x hx h0; exact hocc x hx (by rw [← hlen]; exact h0)
  · intro pre a b post e hn
    have ha : a < K := hK a (by rw [e]; simp)
    have hab : b ∈ elist E a := (mem_elist_iff K codes hK E hp a b ha).2 (mem_adjPairs.2 ⟨pre, post, e⟩)
    have h0 : (E[a]!).size ≠ 0 := by
      rw [hsize]; exact Nat.ne_of_gt (List.length_pos_of_mem hab)
    have hasf : a ≠ sf := by
      intro h
      apply hn
      have : (b :: post).getLast? = some sf := by
        rw [e, List.getLast?_append, List.getLast?_cons_cons] at hlast
        cases hg : (b :: post).getLast? with
        | none => simp at hg
        | some z => rw [hg] at hlast; simpa using hlast
      rw [h]; exact List.mem_of_getLast? this
    refine ⟨by rw [hlen]; exact h0, ?_⟩
    rw [hlastE a (by simpa using ha) h0 hasf, e, lastSucc_split a b post hn pre]

theorem dpAttempt_perm (K sf : Nat) (s : Edges × Rng) : ∀ k, PermEdges (dpAttempt K sf s k).1 s.1 := by
  intro k
  induction k generalizing s with
  | zero => exact PermEdges.refl _
  | succ k ih => exact (ih (dpAttemptStep K sf s)).trans (dpSelectLast_perm sf _ _ _)

end EaselModel.Shuffle
