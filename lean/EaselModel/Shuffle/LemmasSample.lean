import EaselModel.Shuffle.Lemmas
/-! `esl_vec_*Shuffle64` (64-bit generator), `esl_rsq_Sample`, `esl_rsq_xIID(p = NULL)`: in range, and as functions of the rolls drawn. -/
namespace EaselModel.Shuffle
open EaselModel.Random

theorem roll64_lt (r : Rng64) (n : Nat) (hn : 0 < n) : (roll64 r n).1 < n := by
  unfold roll64
  split
  · rename_i p hp
    obtain ⟨v, r'⟩ := p
    exact Rng64.roll_lt n _ r v r' hp
  · exact hn

/-- the roll values `fyLoop64` obtains from the 64-bit generator -/
def fyDraw64 : Nat → Rng64 → List Nat
  | n+2, r => (roll64 r (n+2)).1 :: fyDraw64 (n+1) (roll64 r (n+2)).2
  | _, _ => []

theorem fyLoop64_eq_fyRolls {σ : Type} (sw : σ → Nat → Nat → σ) (base : Nat) (n : Nat) (s : σ) (r : Rng64) :
    (fyLoop64 sw base n s r).1 = fyRolls sw base n s (fyDraw64 n r) := by
  fun_induction fyLoop64 sw base n s r with
  | case1 n s r i r' hr ih => simp only [fyDraw64, fyRolls, hr]; exact ih
  | case2 n s r h =>
    match n, h with
    | 0, _ => rfl
    | 1, _ => rfl
    | n+2, h => exact (h n rfl).elim

theorem fyDraw64_valid (n : Nat) (r : Rng64) : ValidRolls n (fyDraw64 n r) := by
  fun_induction fyDraw64 n r with
  | case1 n r ih => exact ⟨roll64_lt r (n+2) (by omega), ih⟩
  | case2 n r h =>
    match n, h with
    | 0, _ => rfl
    | 1, _ => rfl
    | n+2, h => exact (h n rfl).elim

theorem sampleTable_iff (cls : Nat → Bool) (x : Nat) : x ∈ sampleTable cls ↔ x < 128 ∧ cls x = true := by
  simp [sampleTable, List.mem_filter, List.mem_range]

/-- each of the twelve classes has a member below 128: `0` (cntrl), `9` (space, blank), `32` (print), `33` (graph, punct),
    `48`, `65`, `97` (the classes of digits and letters) -/
theorem sampleTable_nonempty (flag : Nat) (cls : Nat → Bool) (h : sampleClass flag = some cls) : 0 < (sampleTable cls).size := by
  have pos : ∀ x, x < 128 → cls x = true → 0 < (sampleTable cls).size :=
    fun x hx hc => Array.size_pos_of_mem ((sampleTable_iff cls x).2 ⟨hx, hc⟩)
  unfold sampleClass at h
  split at h <;> cases h
  · exact pos 48 (by decide) (by decide)
  · exact pos 65 (by decide) (by decide)
  · exact pos 97 (by decide) (by decide)
  · exact pos 65 (by decide) (by decide)
  · exact pos 48 (by decide) (by decide)
  · exact pos 48 (by decide) (by decide)
  · exact pos 0 (by decide) (by decide)
  · exact pos 33 (by decide) (by decide)
  · exact pos 9 (by decide) (by decide)
  · exact pos 9 (by decide) (by decide)
  · exact pos 32 (by decide) (by decide)
  · exact pos 33 (by decide) (by decide)

/-- the `L` roll values drawn by the sampling loop -/
def sampleDraw (n : Nat) : Nat → Rng → List Nat
  | 0, _ => []
  | L+1, r => (roll r n).1 :: sampleDraw n L (roll r n).2

theorem sampleLoop_eq (c : Array Nat) : ∀ (L : Nat) (r : Rng) (acc : Array Nat),
    (sampleLoop c L r acc).1 = acc ++ ((sampleDraw c.size L r).map (fun i => c.getD i 0)).toArray := by
  intro L
  induction L with
  | zero => intro r acc; simp [sampleLoop, sampleDraw]
  | succ L ih =>
    intro r acc
    simp only [sampleLoop, sampleDraw, List.map_cons]
    rw [ih]
    apply Array.toList_inj.1
    simp

theorem sampleDraw_lt (n : Nat) (hn : 0 < n) : ∀ (L : Nat) (r : Rng), (sampleDraw n L r).length = L ∧ ∀ i ∈ sampleDraw n L r, i < n := by
  intro L
  induction L with
  | zero => intro r; simp [sampleDraw]
  | succ L ih =>
    intro r
    obtain ⟨h1, h2⟩ := ih (roll r n).2
    simp only [sampleDraw, List.length_cons, h1, List.mem_cons, true_and]
    rintro i (rfl | hi)
    · exact roll_lt r n hn
    · exact h2 i hi

theorem sampleTable_nodup (cls : Nat → Bool) : (sampleTable cls).toList.Nodup := by
  simp only [sampleTable]
  exact List.nodup_range.sublist List.filter_sublist

theorem iidUniform_eq (K : Nat) : ∀ (L : Nat) (r : Rng) (acc : Array Nat),
    (iidUniform K L r acc).1 = acc ++ (sampleDraw K L r).toArray := by
  intro L
  induction L with
  | zero => intro r acc; simp [iidUniform, sampleDraw]
  | succ L ih =>
    intro r acc
    simp only [iidUniform, sampleDraw]
    rw [ih]
    apply Array.toList_inj.1
    simp

theorem dirichletUniform_go_size : ∀ (n : Nat) (r : Rng) (p : Array Float) (norm : Float),
    (dirichletUniform.go n r p norm).1.size = p.size + n := by
  intro n
  induction n with
  | zero => intro r p norm; rfl
  | succ n ih => intro r p norm; simp only [dirichletUniform.go]; rw [ih]; simp; omega

theorem dirichletUniform_size (K : Nat) (r : Rng) : (dirichletUniform K r).1.size = K := by
  simp [dirichletUniform, dirichletUniform_go_size]

theorem dirtyP_zeros (K Kp : Nat) (h : K + 3 ≤ Kp) (r : Rng) :
    (dirtyP K Kp r).1.size = Kp ∧ (dirtyP K Kp r).1[K]? = some 0.0 ∧ (dirtyP K Kp r).1[Kp - 2]? = some 0.0 ∧
      (dirtyP K Kp r).1[Kp - 1]? = some 0.0 := by
  simp only [dirtyP]
  generalize hp1 : (dirichletUniform K (r.randomNum).2) = d1
  generalize hp2 : (dirichletUniform (Kp - K - 3) d1.2) = d2
  have s1 : d1.1.size = K := by rw [← hp1]; exact dirichletUniform_size _ _
  have s2 : d2.1.size = Kp - K - 3 := by rw [← hp2]; exact dirichletUniform_size _ _
  refine ⟨by simp [s1, s2]; omega, ?_, ?_, ?_⟩
  · rw [Array.append_assoc, Array.append_assoc, Array.getElem?_append_right (by simp [s1])]
    simp only [Array.size_map, s1, Nat.sub_self]
    rw [Array.getElem?_append_left (by simp)]; rfl
  · rw [Array.getElem?_append_right (by simp [s1, s2]; omega)]
    simp [s1, s2]
    have : Kp - 2 - (K + 1 + (Kp - K - 3)) = 0 := by omega
    rw [this]; rfl
  · rw [Array.getElem?_append_right (by simp [s1, s2]; omega)]
    simp [s1, s2]
    have : Kp - 1 - (K + 1 + (Kp - K - 3)) = 1 := by omega
    rw [this]; rfl

end EaselModel.Shuffle
