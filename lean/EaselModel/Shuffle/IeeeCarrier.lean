import EaselModel.Shuffle.LemmasChoose
import Mathlib.Algebra.Order.Field.Rat
import Mathlib.Algebra.Order.Field.Basic
import Mathlib.Algebra.Order.AbsoluteValue.Basic
import Mathlib.Tactic.Linarith
import Mathlib.Tactic.NormNum
import Mathlib.Tactic.FieldSimp
import Mathlib.Tactic.Ring
import Mathlib.Data.Rat.Floor
/-! # The binary64 facts L1–L5 PROVED for an IEEE-754 carrier with an abstract rounding (C18)

`Raw` is the value set of an IEEE-754 binary format read abstractly: NaN, the two infinities, the two signed zeros and the
non-zero finite values (as rationals). A `Rounding ρ` is any monotone, idempotent map `R : ℚ → ℚ` (round-to-nearest-even, but also
the three directed roundings) whose fixed points — the representable numbers — contain the integers `0..2^32` and the fractions
`k/2^32`, with a largest finite magnitude `big ≥ 2^32`. The operations are the standard's: the exact result rounded
(`rnd`: an exact zero sum is `+0`, a non-zero result rounded to zero keeps its sign, a rounded magnitude above `big` is the infinity
of that sign), the special-value tables of IEEE 754-2008 §6.1–6.3 for `+`, `/`, `<` (`inf - inf`, `0/0`, `inf/inf` are NaN;
`x/0 = ±inf`; the sign of a zero sum is `+` unless both are `-0`; the sign of a quotient is the xor; every comparison with NaN is
false; `-0 < +0` is false).

`Ieee ρ` (the representable values) is a `CNum`, and `LawfulCNum (Ieee ρ)` is a THEOREM (`ieee_lawful`): the four laws the Markov/IID
support theorems use hold for every value, signed zeros / infinities / NaN included. The fifth fact (`norm/norm = 1.0` for a
finite non-zero `norm`, `x/2^32 < 1.0` for `x < 2^32`) is `ieee_div_self`, `ieee_random_lt_one`. What stays trusted for the
C code and for Lean's opaque `Float` is ONE statement — "`+`, `/`, `<`, `(double) n` of binary64 are these operations for `ρ` =
round-to-nearest-even on 53-bit significands" — instead of five facts; binary64 satisfies `Rounding` because 33-bit integers and
the 32-bit fractions `k/2^32` are representable and `DBL_MAX ≥ 2^32`. -/
namespace EaselModel.Shuffle
open CNum

structure Rounding where
  R : ℚ → ℚ
  big : ℚ
  mono : ∀ x y : ℚ, x ≤ y → R x ≤ R y
  idem : ∀ x : ℚ, R (R x) = R x
  /-- integers `0 … 2^32` are representable -/
  nat : ∀ k : ℕ, k ≤ 4294967296 → R (k : ℚ) = (k : ℚ)
  /-- `k / 2^32` (`k ≤ 2^32`, the values of `esl_random()`) are representable -/
  grid : ∀ k : ℕ, k ≤ 4294967296 → R ((k : ℚ) / 4294967296) = (k : ℚ) / 4294967296
  big_ge : (4294967296 : ℚ) ≤ big

inductive Raw where
  | nan
  | inf (neg : Bool)
  | zero (neg : Bool)
  | fin (q : ℚ)
  deriving DecidableEq

def sgn (q : ℚ) : Bool := decide (q < 0)

variable (ρ : Rounding)

/-- representable: a finite value is non-zero, a fixed point of the rounding, of magnitude at most `big` -/
def Raw.Rep : Raw → Prop
  | .fin q => q ≠ 0 ∧ ρ.R q = q ∧ |q| ≤ ρ.big
  | _ => True

/-- deliver the exact result `q` -/
def rnd (q : ℚ) : Raw :=
  if q = 0 then .zero false
  else if ρ.R q = 0 then .zero (sgn q)
  else if ρ.big < |ρ.R q| then .inf (sgn q)
  else .fin (ρ.R q)

def Raw.add : Raw → Raw → Raw
  | .nan, _ => .nan
  | .inf _, .nan => .nan
  | .inf s, .inf t => if s = t then .inf s else .nan
  | .inf s, .zero _ => .inf s
  | .inf s, .fin _ => .inf s
  | .zero _, .nan => .nan
  | .zero _, .inf t => .inf t
  | .zero s, .zero t => .zero (s && t)
  | .zero _, .fin b => rnd ρ b
  | .fin _, .nan => .nan
  | .fin _, .inf t => .inf t
  | .fin a, .zero _ => rnd ρ a
  | .fin a, .fin b => rnd ρ (a + b)

def Raw.div : Raw → Raw → Raw
  | .nan, _ => .nan
  | .inf _, .nan => .nan
  | .inf _, .inf _ => .nan
  | .inf s, .zero t => .inf (s != t)
  | .inf s, .fin b => .inf (s != sgn b)
  | .zero _, .nan => .nan
  | .zero s, .inf t => .zero (s != t)
  | .zero _, .zero _ => .nan
  | .zero s, .fin b => .zero (s != sgn b)
  | .fin _, .nan => .nan
  | .fin a, .inf t => .zero (sgn a != t)
  | .fin a, .zero t => .inf (sgn a != t)
  | .fin a, .fin b => rnd ρ (a / b)

/-- C's `a < b` -/
def Raw.lt : Raw → Raw → Bool
  | .nan, _ => false
  | .inf _, .nan => false
  | .inf s, .inf t => s && !t
  | .inf s, .zero _ => s
  | .inf s, .fin _ => s
  | .zero _, .nan => false
  | .zero _, .inf t => !t
  | .zero _, .zero _ => false
  | .zero _, .fin b => decide (0 < b)
  | .fin _, .nan => false
  | .fin _, .inf t => !t
  | .fin a, .zero _ => decide (a < 0)
  | .fin a, .fin b => decide (a < b)

theorem R_zero : ρ.R 0 = 0 := by simpa using ρ.nat 0 (by norm_num)
theorem R_one : ρ.R 1 = 1 := by simpa using ρ.nat 1 (by norm_num)

theorem rnd_rep (q : ℚ) : (rnd ρ q).Rep ρ := by
  unfold rnd
  split
  · trivial
  · split
    · trivial
    · split
      · trivial
      · rename_i h0 h1
        exact ⟨h0, ρ.idem q, not_lt.mp h1⟩

theorem rnd_of_rep (q : ℚ) (h : (Raw.fin q).Rep ρ) : rnd ρ q = .fin q := by
  obtain ⟨h0, h1, h2⟩ := h
  unfold rnd
  rw [if_neg h0, h1, if_neg h0, if_neg (not_lt.mpr h2)]

theorem rnd_nonneg (q : ℚ) (h : 0 ≤ q) : rnd ρ q = .zero false ∨ rnd ρ q = .inf false ∨ ∃ r, 0 < r ∧ rnd ρ q = .fin r := by
  have hs : sgn q = false := by simp [sgn, h]
  have hr : 0 ≤ ρ.R q := by have := ρ.mono 0 q h; rwa [R_zero] at this
  unfold rnd
  split
  · exact Or.inl rfl
  · split
    · rw [hs]; exact Or.inl rfl
    · split
      · rw [hs]; exact Or.inr (Or.inl rfl)
      · rename_i h0 _
        exact Or.inr (Or.inr ⟨ρ.R q, lt_of_le_of_ne hr (Ne.symm h0), rfl⟩)

theorem rnd_ge_one (q : ℚ) (h : 1 ≤ q) : rnd ρ q = .inf false ∨ ∃ r, 0 < r ∧ rnd ρ q = .fin r := by
  have hr : 1 ≤ ρ.R q := by have := ρ.mono 1 q h; rwa [R_one] at this
  have hq0 : q ≠ 0 := by linarith
  have hr0 : ρ.R q ≠ 0 := by linarith
  have hs : sgn q = false := by simp [sgn]; linarith
  unfold rnd
  rw [if_neg hq0, if_neg hr0]
  split
  · rw [hs]; exact Or.inl rfl
  · exact Or.inr ⟨ρ.R q, by linarith, rfl⟩

theorem add_rep (a b : Raw) : (Raw.add ρ a b).Rep ρ := by
  cases a <;> cases b <;> simp only [Raw.add] <;> first | exact rnd_rep ρ _ | trivial | (split <;> trivial)

theorem div_rep (a b : Raw) : (Raw.div ρ a b).Rep ρ := by
  cases a <;> cases b <;> simp only [Raw.div] <;> first | exact rnd_rep ρ _ | trivial

def Ieee := {x : Raw // x.Rep ρ}

instance : CNum (Ieee ρ) where
  zero := ⟨.zero false, trivial⟩
  one := ⟨rnd ρ 1, rnd_rep ρ 1⟩
  add := fun a b => ⟨Raw.add ρ a.1 b.1, add_rep ρ _ _⟩
  div := fun a b => ⟨Raw.div ρ a.1 b.1, div_rep ρ _ _⟩
  lt := fun a b => Raw.lt a.1 b.1
  ofNat := fun n => ⟨rnd ρ (n : ℚ), rnd_rep ρ _⟩

theorem lt_zero_sign (u : Raw) (s t : Bool) : Raw.lt u (.zero s) = Raw.lt u (.zero t) := by
  cases u <;> rfl

theorem lt_div_zero_sign (u n : Raw) (s t : Bool) : Raw.lt u (Raw.div ρ (.zero s) n) = Raw.lt u (Raw.div ρ (.zero t) n) := by
  cases n <;> simp only [Raw.div] <;> first | rfl | exact lt_zero_sign _ _ _

/-- not negative, or NaN: what `(double) x / (double) m` can be -/
def NN (r : Raw) : Prop := r = .nan ∨ r = .zero false ∨ r = .inf false ∨ ∃ q, 0 < q ∧ r = .fin q
/-- a zero or NaN: what `0.0 / norm` can be -/
def ZN (r : Raw) : Prop := r = .nan ∨ ∃ s, r = .zero s

theorem rnd_NN (q : ℚ) (h : 0 ≤ q) : NN (rnd ρ q) := by
  rcases rnd_nonneg ρ q h with h | h | h
  · exact Or.inr (Or.inl h)
  · exact Or.inr (Or.inr (Or.inl h))
  · exact Or.inr (Or.inr (Or.inr h))

theorem sgn_pos (q : ℚ) (h : 0 < q) : sgn q = false := by simp [sgn]; linarith

theorem div_NN (a b : Raw) (ha : NN a) (hb : NN b) : NN (Raw.div ρ a b) := by
  rcases ha with rfl | rfl | rfl | ⟨p, hp, rfl⟩ <;> rcases hb with rfl | rfl | rfl | ⟨q, hq, rfl⟩ <;>
    simp only [Raw.div] <;> (try rw [sgn_pos _ hp]) <;> (try rw [sgn_pos _ hq]) <;>
    first
      | exact Or.inl rfl
      | exact Or.inr (Or.inl rfl)
      | exact Or.inr (Or.inr (Or.inl rfl))
      | exact rnd_NN ρ _ (le_of_lt (div_pos hp hq))

theorem zero_div_ZN (n : Raw) (s : Bool) : ZN (Raw.div ρ (.zero s) n) := by
  cases n <;> simp only [Raw.div] <;> first | exact Or.inl rfl | exact Or.inr ⟨_, rfl⟩

theorem lt_NN_ZN (a z : Raw) (ha : NN a) (hz : ZN z) : Raw.lt a z = false := by
  rcases ha with rfl | rfl | rfl | ⟨p, hp, rfl⟩ <;> rcases hz with rfl | ⟨s, rfl⟩ <;> simp [Raw.lt]
  linarith

/-- C's `q == 0.0`: a zero of either sign -/
def IsZero (q : Ieee ρ) : Prop := ∃ s, q.1 = .zero s

/-- L1 for every value: `a + (±0)` is `a`, except that a zero plus a zero is the zero whose sign is the `&&` of the two (`-0 + (+0) = +0`) -/
theorem add_any_zero (a : Raw) (h : a.Rep ρ) (s : Bool) :
    Raw.add ρ a (.zero s) = a ∨ ∃ t, a = .zero t ∧ Raw.add ρ a (.zero s) = .zero (t && s) := by
  cases a with
  | nan => exact Or.inl rfl
  | inf s => exact Or.inl rfl
  | zero t => exact Or.inr ⟨t, rfl, rfl⟩
  | fin q => exact Or.inl (by simp only [Raw.add]; exact rnd_of_rep ρ q h)

theorem add_pos_zero (a : Raw) (h : a.Rep ρ) : Raw.add ρ a (.zero false) = a ∨ ∃ s, a = .zero s ∧ Raw.add ρ a (.zero false) = .zero false := by
  rcases add_any_zero ρ a h false with e | ⟨t, ht, e⟩
  · exact Or.inl e
  · exact Or.inr ⟨t, ht, by rw [e, Bool.and_false]⟩

/-- the hypothesis of `dchooseGo_notZ` for `Z = IsZero`: adding `±0.0` to the running sum never changes the outcome of the test -/
theorem ieee_add_zero_cmp (z : Ieee ρ) (hz : IsZero ρ z) (a u n : Ieee ρ) : lt u (div (add a z) n) = lt u (div a n) := by
  obtain ⟨s, hs⟩ := hz
  show Raw.lt u.1 (Raw.div ρ (Raw.add ρ a.1 z.1) n.1) = Raw.lt u.1 (Raw.div ρ a.1 n.1)
  rw [hs]
  rcases add_any_zero ρ a.1 a.2 s with h | ⟨t, ht, h⟩
  · rw [h]
  · rw [h, ht]; exact lt_div_zero_sign ρ _ _ _ _

/-- **L1–L4 are theorems of the IEEE carrier**, for every monotone rounding -/
theorem ieee_lawful : LawfulCNum (Ieee ρ) where
  add_zero_cmp := ieee_add_zero_cmp ρ zero ⟨false, rfl⟩
  zero_add_zero := rfl
  zero_div_pos := by
    intro d hd
    apply Subtype.ext
    show Raw.div ρ (.zero false) d.1 = .zero false
    have hd' : Raw.lt (.zero false) d.1 = true := hd
    cases hv : d.1 with
    | nan => rw [hv] at hd'; simp [Raw.lt] at hd'
    | inf t => rw [hv] at hd'; simp [Raw.lt] at hd'; simp [Raw.div, hd']
    | zero t => rw [hv] at hd'; simp [Raw.lt] at hd'
    | fin b => rw [hv] at hd'; simp [Raw.lt] at hd'; simp [Raw.div, sgn_pos b hd']
  zero_div_ofNat := by
    intro n hn
    apply Subtype.ext
    show Raw.div ρ (.zero false) (rnd ρ (n : ℚ)) = .zero false
    have h1 : (1 : ℚ) ≤ (n : ℚ) := by exact_mod_cast hn
    rcases rnd_ge_one ρ _ h1 with h | ⟨r, hr, h⟩
    · rw [h]; simp [Raw.div]
    · rw [h]; simp [Raw.div, sgn_pos r hr]
  not_lt_zero_div := by
    intro x m norm
    show Raw.lt (Raw.div ρ (rnd ρ (x : ℚ)) (rnd ρ (m : ℚ))) (Raw.div ρ (.zero false) norm.1) = false
    exact lt_NN_ZN _ _ (div_NN ρ _ _ (rnd_NN ρ _ (Nat.cast_nonneg x)) (rnd_NN ρ _ (Nat.cast_nonneg m))) (zero_div_ZN ρ _ _)

instance : LawfulCNum (Ieee ρ) := ieee_lawful ρ

/-- **L5, first half**: a finite non-zero value divided by itself is exactly `1.0` -/
theorem ieee_div_self (a : Ieee ρ) (q : ℚ) (h : a.1 = .fin q) : div a a = (one : Ieee ρ) := by
  apply Subtype.ext
  show Raw.div ρ a.1 a.1 = rnd ρ 1
  have hq : q ≠ 0 := by have := a.2; rw [h] at this; exact this.1
  rw [h]; simp only [Raw.div]; rw [div_self hq]

theorem rnd_one : rnd ρ 1 = .fin 1 :=
  rnd_of_rep ρ 1 ⟨one_ne_zero, R_one ρ, by rw [abs_one]; linarith [ρ.big_ge]⟩

/-- `(double) n` for `n ≤ 2^32`: `+0.0` or the number itself -/
theorem ofNat_val (n : ℕ) (hn : n ≤ 4294967296) : (ofNat n : Ieee ρ).1 = if n = 0 then .zero false else .fin (n : ℚ) := by
  show rnd ρ (n : ℚ) = _
  split
  · rename_i h; subst h; simp [rnd]
  · rename_i h
    have hpos : (0 : ℚ) < (n : ℚ) := by exact_mod_cast Nat.pos_of_ne_zero h
    have hle : (n : ℚ) ≤ 4294967296 := by exact_mod_cast hn
    exact rnd_of_rep ρ _ ⟨ne_of_gt hpos, ρ.nat n hn, by rw [abs_of_pos hpos]; linarith [ρ.big_ge]⟩

/-- **L5, second half**: `esl_random()` = `(double) x / 4294967296.0 < 1.0` for every 32-bit `x` -/
theorem ieee_random_lt_one (x : Nat) (hx : x < 4294967296) :
    lt (div (ofNat x) (ofNat 4294967296) : Ieee ρ) one = true := by
  show Raw.lt (Raw.div ρ (ofNat x : Ieee ρ).1 (ofNat 4294967296 : Ieee ρ).1) (rnd ρ 1) = true
  rw [ofNat_val ρ 4294967296 (le_refl _), if_neg (by norm_num), ofNat_val ρ x (le_of_lt hx), rnd_one]
  split
  · simp [Raw.div, Raw.lt, sgn]
  · rename_i h0
    have hxpos : (0 : ℚ) < (x : ℚ) := by exact_mod_cast Nat.pos_of_ne_zero h0
    have hlt1 : (x : ℚ) / 4294967296 < 1 := by rw [div_lt_one (by norm_num)]; exact_mod_cast hx
    have hpos : (0 : ℚ) < (x : ℚ) / 4294967296 := div_pos hxpos (by norm_num)
    have hq : rnd ρ ((x : ℚ) / 4294967296) = .fin ((x : ℚ) / 4294967296) :=
      rnd_of_rep ρ _ ⟨ne_of_gt hpos, ρ.grid x (le_of_lt hx), by rw [abs_of_pos hpos]; linarith [ρ.big_ge]⟩
    simp only [Raw.div, Nat.cast_ofNat]
    rw [hq]
    simp [Raw.lt, hlt1]

/-! ## non-vacuity: two roundings
`exactRounding` (no rounding at all: the extended rationals with IEEE special values) and `gridRounding` (round half up to the
nearest multiple of `2^-32`, largest finite value `2^32`: a genuinely lossy rounding with overflow). -/
def exactRounding : Rounding where
  R := id
  big := 4294967296
  mono := fun _ _ h => h
  idem := fun _ => rfl
  nat := fun _ _ => rfl
  grid := fun _ _ => rfl
  big_ge := le_refl _

def gridRounding : Rounding where
  R := fun x => (⌊x * 4294967296 + 1 / 2⌋ : ℚ) / 4294967296
  big := 4294967296
  mono := by
    intro x y h
    apply div_le_div_of_nonneg_right _ (by norm_num)
    exact_mod_cast Int.floor_mono (by linarith)
  idem := by
    intro x
    have : ((⌊x * 4294967296 + 1 / 2⌋ : ℚ) / 4294967296) * 4294967296 = (⌊x * 4294967296 + 1 / 2⌋ : ℚ) := by
      field_simp
    rw [this]
    congr 2
    have h2 : ((⌊x * 4294967296 + 1 / 2⌋ : ℤ) : ℚ) + 1 / 2 = ((⌊x * 4294967296 + 1 / 2⌋ : ℤ) : ℚ) + (1 / 2 : ℚ) := rfl
    rw [Int.floor_intCast_add]
    simp
    norm_num
  nat := by
    intro k _
    have : (k : ℚ) * 4294967296 + 1 / 2 = (((k * 4294967296 : ℕ) : ℤ) : ℚ) + 1 / 2 := by push_cast; ring
    rw [this, Int.floor_intCast_add]
    have : ⌊(1 / 2 : ℚ)⌋ = 0 := by norm_num
    rw [this]; push_cast; field_simp; ring
  grid := by
    intro k _
    have : (k : ℚ) / 4294967296 * 4294967296 + 1 / 2 = (((k : ℕ) : ℤ) : ℚ) + 1 / 2 := by push_cast; field_simp
    rw [this, Int.floor_intCast_add]
    have : ⌊(1 / 2 : ℚ)⌋ = 0 := by norm_num
    rw [this]; push_cast; simp
  big_ge := le_refl _

end EaselModel.Shuffle
