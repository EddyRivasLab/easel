import EaselModel.Shuffle.Lemmas
/-! `esl_msashuffle_VShuffle`: per column, the non-gap residues are shuffled among the non-gap rows. -/
namespace EaselModel.Shuffle
open EaselModel.Random
open scoped List

/-- column `c` of a matrix as a list (entry 0 where a row is too short) -/
def colL (m : Array Bytes) (c : Nat) : List UInt8 := m.toList.map (fun row => row[c]!)

/-- list form of the put-back loop: `scol` = column `apos` of the source, `hs` = rows of `shuf` -/
def putL (gap : UInt8) (apos : Nat) : List UInt8 → List Bytes → List UInt8 → List Bytes
  | s :: ss, h :: hs, vals =>
    if s != gap then h.setIfInBounds apos (vals.headD 0) :: putL gap apos ss hs vals.tail
    else h :: putL gap apos ss hs vals
  | _, hs, _ => hs

/-- a column with its non-gap entries replaced, in order, by `vals` -/
def fill (gap : UInt8) : List UInt8 → List UInt8 → List UInt8
  | c :: cs, vals => if c != gap then vals.headD 0 :: fill gap cs vals.tail else c :: fill gap cs vals
  | [], _ => []

theorem headD_drop (a : Bytes) (n : Nat) : (a.toList.drop n).headD 0 = a[n]! := by
  by_cases h : n < a.size
  · rw [List.drop_eq_getElem_cons (by simpa using h), getElem!_pos a n h]; simp
  · rw [List.drop_eq_nil_of_le (by simp; omega), Array.getElem!_eq_getD, Array.getD_eq_getD_getElem?, Array.getElem?_eq_none (by omega)]
    rfl

/-- the index-based C loop is the list recursion; `i` is the row index the loop has reached, `n` the rows still to do -/
theorem vPutBack_toList (gap : UInt8) (msa : Array Bytes) (apos : Nat) (csq : Bytes) :
    ∀ (n i nres : Nat) (shuf : Array Bytes), i + n = msa.size → shuf.size = msa.size →
      (vPutBack gap msa apos csq n nres shuf).toList =
        shuf.toList.take i ++ putL gap apos ((colL msa apos).drop i) (shuf.toList.drop i) (csq.toList.drop nres) := by
  intro n
  induction n with
  | zero =>
    intro i nres shuf hi hs
    simp only [vPutBack]
    rw [List.drop_eq_nil_of_le (by simp [colL]; omega), List.drop_eq_nil_of_le (by simp [hs]; omega),
      List.take_of_length_le (by simp [hs]; omega)]
    simp [putL]
  | succ n ih =>
    intro i nres shuf hi hs
    have hd1 : (colL msa apos).drop i = (msa[i]!)[apos]! :: (colL msa apos).drop (i+1) := by
      rw [List.drop_eq_getElem_cons (by simp [colL]; omega)]
      simp only [colL, List.getElem_map, Array.getElem_toList]
      rw [getElem!_pos msa i (by omega)]
    have hd2 : shuf.toList.drop i = shuf[i]'(by omega) :: shuf.toList.drop (i+1) := by
      rw [List.drop_eq_getElem_cons (by simp; omega)]
      simp only [Array.getElem_toList]
    simp only [vPutBack]
    rw [show msa.size - (n+1) = i by omega, hd1, hd2]
    simp only [putL]
    split
    · rw [ih (i+1) _ _ (by omega) (by simp [hs])]
      have e1 : (shuf.modify i fun row => row.setIfInBounds apos csq[nres]!).toList =
          shuf.toList.set i ((shuf[i]'(by omega)).setIfInBounds apos csq[nres]!) := by
        apply List.ext_getElem?
        intro k
        rw [Array.getElem?_toList, Array.getElem?_modify, List.getElem?_set]
        by_cases e : i = k
        · subst e; simp [Array.getElem?_eq_getElem (show i < shuf.size by omega)] <;> omega
        · simp [e]
      rw [e1, List.take_set, List.drop_set, if_pos (by omega), headD_drop, List.tail_drop]
      have e2 : (List.take (i+1) shuf.toList).set i ((shuf[i]'(by omega)).setIfInBounds apos csq[nres]!) =
          List.take i shuf.toList ++ [(shuf[i]'(by omega)).setIfInBounds apos csq[nres]!] := by
        rw [List.take_succ_eq_append_getElem (by simp; omega), List.set_append_right _ _ (by simp; omega)]
        simp [Nat.min_eq_left (show i ≤ shuf.size by omega)]
      rw [e2, List.append_assoc]; rfl
    · rw [ih (i+1) _ _ (by omega) hs, List.take_succ_eq_append_getElem (by simp; omega), List.append_assoc]
      simp

/-- `csq` assembled by the first loop of `VShuffle` = the non-gap entries of the column, in row order -/
theorem vColumn_toList (gap : UInt8) (msa : Array Bytes) (apos : Nat) :
    (vColumn gap msa apos).toList = (colL msa apos).filter (fun c => c != gap) := by
  unfold vColumn colL
  rw [← Array.foldl_toList]
  have : ∀ (l : List Bytes) (acc : Bytes),
      (l.foldl (fun (acc : Bytes) row => if row[apos]! != gap then acc.push row[apos]! else acc) acc).toList =
        acc.toList ++ (l.map (fun row => row[apos]!)).filter (fun c => c != gap) := by
    intro l
    induction l with
    | nil => intro acc; simp
    | cons row t ih =>
      intro acc
      simp only [List.foldl_cons, List.map_cons, List.filter_cons]
      by_cases hc : (row[apos]! != gap) = true
      · simp only [hc, ↓reduceIte]; rw [ih]; simp
      · simp only [hc]; rw [ih]; simp
  simpa using this msa.toList #[]

theorem putL_length (gap : UInt8) (apos : Nat) : ∀ (ss : List UInt8) (hs : List Bytes) (vals : List UInt8),
    (putL gap apos ss hs vals).length = hs.length ∧
    ∀ i (h1 : i < (putL gap apos ss hs vals).length) (h2 : i < hs.length), ((putL gap apos ss hs vals)[i]).size = hs[i].size := by
  intro ss
  induction ss with
  | nil => intro hs vals; cases hs <;> simp [putL]
  | cons s ss ih =>
    intro hs vals
    cases hs with
    | nil => simp [putL]
    | cons h hs =>
      simp only [putL]
      split
      · obtain ⟨a, b⟩ := ih hs vals.tail
        refine ⟨by simp [a], fun i h1 h2 => ?_⟩
        cases i with
        | zero => simp
        | succ i => simp only [List.getElem_cons_succ]; exact b i _ _
      · obtain ⟨a, b⟩ := ih hs vals
        refine ⟨by simp [a], fun i h1 h2 => ?_⟩
        cases i with
        | zero => simp
        | succ i => simp only [List.getElem_cons_succ]; exact b i _ _

theorem putL_col_other (gap : UInt8) (apos c : Nat) (hc : c ≠ apos) : ∀ (ss : List UInt8) (hs : List Bytes) (vals : List UInt8),
    (putL gap apos ss hs vals).map (fun row => row[c]!) = hs.map (fun row => row[c]!) := by
  intro ss
  induction ss with
  | nil => intro hs vals; cases hs <;> simp [putL]
  | cons s ss ih =>
    intro hs vals
    cases hs with
    | nil => simp [putL]
    | cons h hs =>
      simp only [putL]
      split
      · simp only [List.map_cons, ih hs vals.tail, bang_setIfInBounds]
        rw [if_neg (by intro e; exact hc e.1.symm)]
      · simp only [List.map_cons, ih hs vals]

theorem putL_col_same (gap : UInt8) (apos : Nat) : ∀ (ss : List UInt8) (hs : List Bytes) (vals : List UInt8),
    hs.map (fun row => row[apos]!) = ss → (∀ h ∈ hs, apos < h.size) →
    (putL gap apos ss hs vals).map (fun row => row[apos]!) = fill gap ss vals := by
  intro ss
  induction ss with
  | nil => intro hs vals he _; cases hs <;> simp_all [putL, fill]
  | cons s ss ih =>
    intro hs vals he hsz
    cases hs with
    | nil => simp at he
    | cons h hs =>
      simp only [List.map_cons, List.cons.injEq] at he
      simp only [putL, fill]
      split
      · simp only [List.map_cons, bang_setIfInBounds]
        rw [if_pos (by simpa using hsz h (by simp)), ih hs vals.tail he.2 (fun h' hh => hsz h' (by simp [hh]))]
      · simp only [List.map_cons]
        rw [ih hs vals he.2 (fun h' hh => hsz h' (by simp [hh])), he.1]

theorem fill_count (gap : UInt8) (a : UInt8) : ∀ (cs vals : List UInt8), vals.length = (cs.filter (fun c => c != gap)).length →
    (fill gap cs vals).count a = (cs.filter (fun c => !(c != gap))).count a + vals.count a := by
  intro cs
  induction cs with
  | nil => intro vals h; simp at h; simp [fill, h]
  | cons c cs ih =>
    intro vals h
    simp only [fill, List.filter_cons] at h ⊢
    by_cases hc : (c != gap) = true
    · simp only [hc, ↓reduceIte, Bool.not_true, Bool.false_eq_true] at h ⊢
      cases vals with
      | nil => simp at h
      | cons v vs =>
        simp only [List.length_cons, Nat.add_right_cancel_iff] at h
        simp only [List.headD_cons, List.tail_cons, List.count_cons, ih vs h]
        omega
    · simp only [hc, ↓reduceIte, Bool.false_eq_true, Bool.not_false] at h ⊢
      simp only [List.count_cons, ih vals h]
      omega

theorem fill_perm (gap : UInt8) (cs vals : List UInt8) (h : vals ~ cs.filter (fun c => c != gap)) : fill gap cs vals ~ cs := by
  rw [List.perm_iff_count]
  intro a
  rw [fill_count gap a cs vals h.length_eq, h.count_eq]
  rw [Nat.add_comm, ← List.count_append]
  exact (List.filter_append_perm (fun c => c != gap) cs).count_eq a

theorem fill_gapmask (gap : UInt8) : ∀ (cs vals : List UInt8), vals.length = (cs.filter (fun c => c != gap)).length →
    (∀ v ∈ vals, (v != gap) = true) → (fill gap cs vals).map (fun c => c != gap) = cs.map (fun c => c != gap) := by
  intro cs
  induction cs with
  | nil => intro vals _ _; simp [fill]
  | cons c cs ih =>
    intro vals h hv
    simp only [fill, List.filter_cons] at h ⊢
    by_cases hc : (c != gap) = true
    · simp only [hc, ↓reduceIte] at h ⊢
      cases vals with
      | nil => simp at h
      | cons v vs =>
        simp only [List.length_cons, Nat.add_right_cancel_iff] at h
        simp only [List.headD_cons, List.tail_cons, List.map_cons, hc, hv v (by simp)]
        rw [ih vs h (fun v' hv' => hv v' (by simp [hv']))]
    · simp only [hc, ↓reduceIte, Bool.false_eq_true] at h ⊢
      simp only [List.map_cons]
      rw [ih vals h hv]

theorem extract_sentinels (col : Bytes) : ((#[255] ++ col ++ #[255] : Bytes).extract 1 (1 + col.size)) = col := by
  apply Array.ext
  · simp
  · intro i h1 h2
    rw [Array.getElem_extract]
    simp only [Array.append_assoc]
    rw [Array.getElem_append_right (by simp), Array.getElem_append_left (by simpa using h2)]
    simp

structure VInv (gap : UInt8) (msa : Array Bytes) (apos : Nat) (shuf : Array Bytes) : Prop where
  size : shuf.size = msa.size
  rowsize : ∀ i (h : i < shuf.size), shuf[i].size = (msa[i]'(size ▸ h)).size
  done : ∀ c, 1 ≤ c → c < apos → colL shuf c ~ colL msa c ∧ (colL shuf c).map (fun x => x != gap) = (colL msa c).map (fun x => x != gap)
  rest : ∀ c, (c < 1 ∨ apos ≤ c) → colL shuf c = colL msa c

theorem vShuffle_step (gap : UInt8) (inplace : Bool) (msa shuf : Array Bytes) (apos : Nat) (r : Rng) (hap : 1 ≤ apos)
    (hrows : ∀ i (h : i < msa.size), apos < msa[i].size) (h : VInv gap msa apos shuf) :
    let src := if inplace then shuf else msa
    let col := vColumn gap src apos
    let csq := (xShuffle (#[255] ++ col ++ #[255]) col.size r).1
    VInv gap msa (apos + 1) (vPutBack gap src apos (csq.extract 1 (col.size + 1)) src.size 0 shuf) := by
  intro src col csq
  have hsrc_size : src.size = msa.size := by simp only [src]; split <;> simp [h.size]
  have hsrc_col : colL src apos = colL msa apos := by
    simp only [src]; split
    · exact h.rest apos (Or.inr (Nat.le_refl _))
    · rfl
  have hshuf_col : colL shuf apos = colL src apos := by rw [hsrc_col]; exact h.rest apos (Or.inr (Nat.le_refl _))
  -- the shuffled residues are a permutation of the non-gap residues of the column
  have hvals : (csq.extract 1 (col.size + 1)).toList ~ (colL src apos).filter (fun c => c != gap) := by
    have hp := (fyLoop_permOn 1 col.size (#[255] ++ col ++ #[255] : Bytes) r).extract (by omega)
    rw [extract_sentinels, Nat.add_comm 1 col.size] at hp
    rw [← vColumn_toList]
    exact hp.toList
  have htl := vPutBack_toList gap src apos (csq.extract 1 (col.size + 1)) src.size 0 0 shuf (Nat.zero_add _) (by rw [h.size, hsrc_size])
  simp only [List.take_zero, List.nil_append, List.drop_zero] at htl
  generalize vPutBack gap src apos (csq.extract 1 (col.size + 1)) src.size 0 shuf = out at htl ⊢
  obtain ⟨pl1, pl2⟩ := putL_length gap apos (colL src apos) shuf.toList (csq.extract 1 (col.size + 1)).toList
  have hsize : out.size = shuf.size := by rw [← Array.length_toList, htl, pl1]; simp
  have hcol : ∀ c, colL out c = if c = apos then fill gap (colL src apos) (csq.extract 1 (col.size + 1)).toList else colL shuf c := by
    intro c
    unfold colL
    rw [htl]
    by_cases e : c = apos
    · subst e
      rw [if_pos rfl]
      apply putL_col_same gap c _ _ _ hshuf_col
      intro hrow hmem
      obtain ⟨i, hi, rfl⟩ := List.getElem_of_mem hmem
      simp only [Array.length_toList] at hi
      simp only [Array.getElem_toList]
      rw [h.rowsize i hi]
      exact hrows i (h.size ▸ hi)
    · rw [if_neg e]; exact putL_col_other gap apos c e _ _ _
  refine ⟨by rw [hsize, h.size], ?_, ?_, ?_⟩
  · intro i hi
    have := pl2 i (by rw [pl1]; simpa [hsize] using hi) (by simpa [hsize] using hi)
    have e : out[i] = (putL gap apos (colL src apos) shuf.toList (csq.extract 1 (col.size + 1)).toList)[i]'(by rw [pl1]; simpa [hsize] using hi) := by
      simp only [← htl, Array.getElem_toList]
    rw [e, this]
    simp only [Array.getElem_toList]
    exact h.rowsize i (by simpa [hsize] using hi)
  · intro c hc1 hc2
    rw [hcol c]
    by_cases e : c = apos
    · subst e
      rw [if_pos rfl, hsrc_col] at *
      refine ⟨fill_perm gap _ _ hvals, fill_gapmask gap _ _ hvals.length_eq ?_⟩
      intro v hv
      have := hvals.mem_iff.mp hv
      simp only [List.mem_filter] at this
      exact this.2
    · rw [if_neg e]; exact h.done c hc1 (by omega)
  · intro c hc
    rw [hcol c, if_neg (by omega)]
    exact h.rest c (by omega)

theorem vShuffleLoop_inv (gap : UInt8) (inplace : Bool) (msa : Array Bytes) (alen : Nat)
    (hrows : ∀ i (h : i < msa.size), alen + 2 ≤ msa[i].size) :
    ∀ (n apos : Nat) (shuf : Array Bytes) (r : Rng), 1 ≤ apos → apos + n = alen + 1 → VInv gap msa apos shuf →
      VInv gap msa (alen + 1) (vShuffleLoop gap inplace msa n apos shuf r).1 := by
  intro n
  induction n with
  | zero => intro apos shuf r _ hn h; simp only [vShuffleLoop]; have e : apos = alen + 1 := by omega
            subst e; exact h
  | succ n ih =>
    intro apos shuf r hap hn h
    simp only [vShuffleLoop]
    apply ih (apos + 1) _ _ (by omega) (by omega)
    exact vShuffle_step gap inplace msa shuf apos r hap (fun i hi => by have := hrows i hi; omega) h

/-- in place = separate storage: both variants read the same (still unmodified) column at every step -/
theorem vShuffleLoop_inplace_eq (gap : UInt8) (msa : Array Bytes) (alen : Nat)
    (hrows : ∀ i (h : i < msa.size), alen + 2 ≤ msa[i].size) :
    ∀ (n apos : Nat) (shuf : Array Bytes) (r : Rng), 1 ≤ apos → apos + n = alen + 1 → VInv gap msa apos shuf →
      vShuffleLoop gap true msa n apos shuf r = vShuffleLoop gap false msa n apos shuf r := by
  intro n
  induction n with
  | zero => intro apos shuf r _ _ _; rfl
  | succ n ih =>
    intro apos shuf r hap hn h
    have hcolL : colL shuf apos = colL msa apos := h.rest apos (Or.inr (Nat.le_refl _))
    have hcol : vColumn gap shuf apos = vColumn gap msa apos := by
      apply Array.toList_inj.mp
      rw [vColumn_toList, vColumn_toList, hcolL]
    have hput : ∀ vals, vPutBack gap shuf apos vals shuf.size 0 shuf = vPutBack gap msa apos vals msa.size 0 shuf := by
      intro vals
      apply Array.toList_inj.mp
      rw [vPutBack_toList gap shuf apos vals shuf.size 0 0 shuf (Nat.zero_add _) rfl,
        vPutBack_toList gap msa apos vals msa.size 0 0 shuf (Nat.zero_add _) h.size, hcolL]
    have hstep := vShuffle_step gap false msa shuf apos r hap (fun i hi => by have := hrows i hi; omega) h
    simp only [vShuffleLoop, ↓reduceIte, Bool.false_eq_true] at hstep ⊢
    rw [hcol, hput]
    exact ih _ _ _ (by omega) (by omega) hstep

end EaselModel.Shuffle
