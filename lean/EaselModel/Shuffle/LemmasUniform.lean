import EaselModel.Shuffle.Lemmas
import EaselModel.Shuffle.LemmasKmer
/-! Uniformity of the Fisher–Yates loop as coded: the map from in-range roll vectors to arrangements is a bijection.

`fyLoop` draws `n-1` values `Roll(n), Roll(n-1), …, Roll(2)`. `fyRolls` is the same loop driven by an explicit list of
roll values; `fyLoop = fyRolls ∘ fyDraw` (what the generator delivers) and `fyDraw` is always in range. For an array
of distinct entries every arrangement of the first `n` positions is produced by exactly one in-range roll vector; since
`esl_rnd_Roll` gives every value of `0..n-1` the same number of raw words (`roll_unbiased32`, C09), the `n!` roll
vectors are equally likely and so are the `n!` arrangements. A loop with a wrong range (`Roll(n-1)`, `Roll(n+1)`, a swap
partner `n` instead of `n-1`, …) still permutes, but is not a bijection onto the arrangements: these theorems fail. -/
namespace EaselModel.Shuffle
open EaselModel.Random

theorem validRolls_length (n : Nat) (rs : List Nat) (h : ValidRolls n rs) : rs.length = n - 1 := by
  fun_induction ValidRolls n rs with
  | case1 => rw [h]; rfl
  | case2 => rw [h]; rfl
  | case3 => exact h.elim
  | case4 n i rs ih => rw [List.length_cons, ih h.2]; omega

/-- `esl_rsq_CShuffle` / `esl_vec_{D,F,I,L}Shuffle` on an explicit roll vector -/
def cShuffleRolls {α : Type} (s : Array α) (rs : List Nat) : Array α := fyRolls aswap 0 s.size s rs

theorem fyRolls_frame {α : Type} (base n : Nat) (a : Array α) (rs : List Nat) (hv : ValidRolls n rs) :
    (fyRolls aswap base n a rs).size = a.size ∧
      ∀ p, (p < base ∨ base + n ≤ p) → (fyRolls aswap base n a rs)[p]? = a[p]? :=
  ⟨(fyRolls_permOn base n a rs hv).perm.size_eq, fun p hp => (fyRolls_permOn base n a rs hv).outside p (by omega)⟩

theorem fyRolls_perm {α : Type} (base n : Nat) (a : Array α) (rs : List Nat) : (fyRolls aswap base n a rs).Perm a := by
  fun_induction fyRolls aswap base n a rs with
  | case1 n s i rs ih => exact ih.trans (swapIfInBounds_perm _ _ _)
  | case2 => exact Array.Perm.refl _

/-- the entry that must end at position `m` comes from a position in `[base, m]` when everything outside already agrees -/
theorem find_source {α : Type} (a t : Array α) (base m : Nat) (hbm : base ≤ m) (hm : m < a.size) (hnd : a.toList.Nodup) (hp : t.Perm a)
    (hag : ∀ p, (p < base ∨ m < p) → t[p]? = a[p]?) : ∃ i, base ≤ i ∧ i ≤ m ∧ a[i]? = t[m]? := by
  have hsz : t.size = a.size := hp.size_eq
  have htn : t.toList.Nodup := (Array.perm_iff_toList_perm.1 hp).nodup_iff.2 hnd
  have hmem : t[m]'(by omega) ∈ a := hp.mem_iff.1 (Array.getElem_mem _)
  obtain ⟨i, hi, he⟩ := Array.mem_iff_getElem.1 hmem
  by_cases hle : base ≤ i ∧ i ≤ m
  · exact ⟨i, hle.1, hle.2, by rw [Array.getElem?_eq_getElem hi, Array.getElem?_eq_getElem (by omega), he]⟩
  · exfalso
    have h1 := hag i (by omega)
    rw [Array.getElem?_eq_getElem hi, Array.getElem?_eq_getElem (by omega), he] at h1
    have h2 : t.toList[i]'(by simp; omega) = t.toList[m]'(by simp; omega) := by
      simp only [Array.getElem_toList]
      exact Option.some.inj h1
    have := (List.getElem_inj htn).1 h2
    omega

theorem fyRolls_bijective {α : Type} (base : Nat) : ∀ n (a t : Array α), base + n ≤ a.size → a.toList.Nodup → t.Perm a →
    (∀ p, (p < base ∨ base + n ≤ p) → t[p]? = a[p]?) →
    ∃ rs, (ValidRolls n rs ∧ fyRolls aswap base n a rs = t) ∧
      ∀ rs', ValidRolls n rs' → fyRolls aswap base n a rs' = t → rs' = rs := by
  intro n
  induction n using Nat.strongRecOn with
  | _ n ih =>
    intro a t hn hnd hp hag
    match n with
    | 0 =>
      refine ⟨[], ⟨rfl, ?_⟩, fun rs' h _ => h⟩
      exact Array.ext_getElem? (fun p => (hag p (by omega)).symm)
    | 1 =>
      refine ⟨[], ⟨rfl, ?_⟩, fun rs' h _ => h⟩
      apply Array.ext_getElem?
      intro p
      by_cases h0 : p = base
      · subst h0
        obtain ⟨i, hi1, hi2, he⟩ := find_source a t p p (Nat.le_refl _) (by omega) hnd hp (fun q hq => hag q (by omega))
        have : i = p := by omega
        subst this
        exact he
      · exact (hag p (by omega)).symm
    | n+2 =>
      obtain ⟨q, hq1, hq2, he⟩ := find_source a t base (base+n+1) (by omega) (by omega) hnd hp (fun p hp' => hag p (by omega))
      obtain ⟨i, rfl⟩ : ∃ i, q = base + i := ⟨q - base, by omega⟩
      have hsz : t.size = a.size := hp.size_eq
      have hag' : ∀ p, (p < base ∨ base + (n + 1) ≤ p) → t[p]? = (a.swapIfInBounds (base + i) (base+n+1))[p]? := by
        intro p hp'
        rw [getElem?_swapIfInBounds_of_lt a (base + i) (base+n+1) p (by omega) (by omega)]
        by_cases e : base + n + 1 = p
        · subst e; rw [if_pos rfl]; exact he.symm
        · rw [if_neg e, if_neg (by omega)]; exact hag p (by omega)
      obtain ⟨rs0, ⟨hv0, hr0⟩, hu0⟩ := ih (n+1) (by omega) (a.swapIfInBounds (base + i) (base+n+1)) t (by simp; omega)
        ((Array.perm_iff_toList_perm.1 (swapIfInBounds_perm a (base + i) (base+n+1))).nodup_iff.2 hnd)
        (hp.trans (swapIfInBounds_perm a (base + i) (base+n+1)).symm) hag'
      have e : base + (n + 2) - 1 = base + n + 1 := by omega
      refine ⟨i :: rs0, ⟨⟨by omega, hv0⟩, ?_⟩, ?_⟩
      · simp only [fyRolls, aswap, e]; exact hr0
      · intro rs' hv' hr'
        match rs', hv' with
        | j :: rs2, hv' =>
          simp only [ValidRolls] at hv'
          simp only [fyRolls, aswap, e] at hr'
          have hfr := (fyRolls_frame base (n+1) (a.swapIfInBounds (base + j) (base+n+1)) rs2 hv'.2).2
            (base+n+1) (by omega)
          rw [hr', getElem?_swapIfInBounds_of_lt a (base + j) (base+n+1) (base+n+1) (by omega) (by omega), if_pos rfl, ← he] at hfr
          have hij : j = i := by
            rw [Array.getElem?_eq_getElem (by omega : base + i < a.size), Array.getElem?_eq_getElem (by omega : base + j < a.size)] at hfr
            have h2 : a.toList[base + j]'(by simp; omega) = a.toList[base + i]'(by simp; omega) := by
              simp only [Array.getElem_toList]
              exact (Option.some.inj hfr).symm
            have := (List.getElem_inj hnd).1 h2
            omega
          subst hij
          rw [hu0 rs2 hv'.2 hr']

theorem map_swapIfInBounds {α β : Type} (f : α → β) (a : Array α) (i j : Nat) :
    (a.map f).swapIfInBounds i j = (a.swapIfInBounds i j).map f := by
  apply Array.ext_getElem?
  intro k
  unfold Array.swapIfInBounds
  simp only [Array.size_map]
  split
  · split
    · simp only [Array.getElem?_swap, Array.getElem?_map, Array.getElem_map]
      split
      · rfl
      · split <;> rfl
    · rfl
  · rfl

theorem fyRolls_map {α β : Type} (f : α → β) (base n : Nat) (a : Array α) (rs : List Nat) :
    fyRolls aswap base n (a.map f) rs = (fyRolls aswap base n a rs).map f := by
  fun_induction fyRolls aswap base n a rs with
  | case1 n a i rs ih => rw [fyRolls, ← ih]; congr 1; exact map_swapIfInBounds f a _ _
  | case2 n a rs h => rw [fyRolls.eq_2 _ _ _ _ _ h]

theorem eq_map_range {α : Type} [Inhabited α] (s : Array α) : s = (Array.range s.size).map (fun k => s[k]!) := by
  apply Array.ext
  · simp
  · intro k h1 h2
    simp [getElem!_pos s k h1]

/-- `esl_rsq_XShuffle` on an explicit roll vector -/
def xShuffleRolls (dsq : Bytes) (L : Nat) (rs : List Nat) : Bytes := fyRolls aswap 1 L dsq rs

theorem fyRolls_multiSwap {α : Type} (base n : Nat) (rows : Array (Array α)) (rs : List Nat) :
    fyRolls multiSwap base n rows rs = rows.map (fun row => fyRolls aswap base n row rs) := by
  fun_induction fyRolls multiSwap base n rows rs with
  | case1 n rows i rs ih => simp only [fyRolls]; rw [ih]; simp [multiSwap, aswap]
  | case2 n rows rs h => simp [fyRolls.eq_2 _ _ _ _ _ h]

theorem fyRolls_natural {α : Type} [Inhabited α] (base n : Nat) (s : Array α) (rs : List Nat) :
    fyRolls aswap base n s rs = (fyRolls aswap base n (Array.range s.size) rs).map (fun k => s[k]!) := by
  rw [← fyRolls_map, ← eq_map_range]

/-- with `d = 1` (`Roll(j-i+1)`, the digital window shuffle) the inner loop over one window is exactly the Fisher–Yates
    loop on that window: `m+1` elements starting at `i` -/
theorem winInner_one_eq_fyLoop {α : Type} (i : Nat) : ∀ m (a : Array α) r,
    winInner 1 i m a r = fyLoop aswap i (m+1) a r := by
  intro m
  induction m with
  | zero => intro a r; rfl
  | succ m ih =>
    intro a r
    simp only [winInner, fyLoop, aswap]
    rw [ih]
    have e : i + (m + 2) - 1 = i + (m + 1) := by omega
    rw [e]

/-- with `d = 0` (`Roll(j-i)`, the text window shuffle of the pinned tree) a window of two is always swapped: the roll
    is `Roll(1) = 0` for every generator state -/
theorem winInner_zero_pair {α : Type} (i : Nat) (a : Array α) (r : Rng) :
    (winInner 0 i 1 a r).1 = a.swapIfInBounds i (i + 1) := by
  have h := roll_lt r 1 (by omega)
  simp only [winInner]
  have e : (roll r (0 + 1 + 0)).1 = 0 := by simpa using h
  rw [e]
  rfl

/-! ## k-mer shuffles: the block swaps are the plain shuffle of the array of words -/
theorem fyRolls_blockSwap_chunks {α : Type} (K off W n : Nat) (hn : n ≤ W) (a : Array α) (rs : List Nat) (hfit : off + W*K ≤ a.size)
    (hv : ValidRolls n rs) :
    chunks K off W (fyRolls (blockSwap K off) 0 n a rs) = fyRolls aswap 0 n (chunks K off W a) rs := by
  fun_induction fyRolls (blockSwap K off) 0 n a rs with
  | case1 n a i rs ih =>
    simp only [ValidRolls] at hv
    simp only [fyRolls, Nat.zero_add, aswap] at ih ⊢
    have e : n + 2 - 1 = n + 1 := by omega
    rw [e] at ih ⊢
    have hsz := (blockSwap_spec K off W a i (n+1) hfit (by omega) (by omega)).1
    rw [ih (by omega) (by rw [hsz]; exact hfit) hv.2, chunks_blockSwap K off W a i (n+1) hfit (by omega) (by omega), ← swapIfInBounds_eq]
  | case2 n a rs h =>
    match n, rs, hv, h with
    | 0, _, _, _ => rfl
    | 1, _, _, _ => rfl
    | n+2, i :: rs, _, h => exact (h n i rs rfl rfl).elim

def fact : Nat → Nat
  | 0 => 1
  | n+1 => (n+1) * fact n

/-- all in-range roll vectors of an `n`-element shuffle -/
def allRolls : Nat → List (List Nat)
  | 0 => [[]]
  | 1 => [[]]
  | n+2 => (List.range (n+2)).flatMap (fun i => (allRolls (n+1)).map (fun rs => i :: rs))

theorem mem_allRolls (n : Nat) (rs : List Nat) : rs ∈ allRolls n ↔ ValidRolls n rs := by
  fun_induction ValidRolls n rs with
  | case1 => simp [allRolls]
  | case2 => simp [allRolls]
  | case3 => simp [allRolls]
  | case4 n i rs ih =>
    simp only [allRolls, List.mem_flatMap, List.mem_range, List.mem_map, List.cons.injEq]
    constructor
    · rintro ⟨j, hj, rs', hrs', rfl, rfl⟩
      exact ⟨hj, ih.1 hrs'⟩
    · rintro ⟨hi, hv⟩
      exact ⟨i, hi, rs, ih.2 hv, rfl, rfl⟩

theorem allRolls_length (n : Nat) : (allRolls n).length = fact n := by
  fun_induction allRolls n with
  | case1 => rfl
  | case2 => rfl
  | case3 n ih =>
    simp only [List.length_flatMap, List.length_map, ih, List.map_const', List.length_range, List.sum_replicate_nat]
    rfl

theorem allRolls_nodup (n : Nat) : (allRolls n).Nodup := by
  fun_induction allRolls n with
  | case1 => simp
  | case2 => simp
  | case3 n ih =>
    simp only [List.Nodup, List.pairwise_flatMap]
    refine ⟨fun i _ => ?_, ?_⟩
    · rw [List.pairwise_map]
      exact ih.imp (fun h e => h (List.cons.inj e).2)
    · have := List.nodup_range (n := n+2)
      refine this.imp ?_
      intro i j hij x hx y hy e
      simp only [List.mem_map] at hx hy
      obtain ⟨_, _, rfl⟩ := hx
      obtain ⟨_, _, rfl⟩ := hy
      exact hij (List.cons.inj e).1

end EaselModel.Shuffle
