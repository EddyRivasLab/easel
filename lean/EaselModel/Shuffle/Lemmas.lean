import EaselModel.Shuffle.Model
import EaselModel.Random.Lemmas
import EaselModel.Core.ListLookup
/-! The shufflers' loops as functions of the rolls they draw, and the invariants that in-range swaps preserve. -/
namespace EaselModel.Shuffle
open EaselModel.Random

theorem roll_lt (r : Rng) (n : Nat) (hn : 0 < n) : (roll r n).1 < n := by
  unfold roll
  split
  · rename_i p hp
    exact Rng.roll_lt n _ r p.1 p.2 hp
  · exact hn

theorem swapIfInBounds_eq {α : Type} (a : Array α) (i j : Nat) (hi : i < a.size) (hj : j < a.size) :
    a.swapIfInBounds i j = a.swap i j hi hj := by
  simp [Array.swapIfInBounds, hi, hj]

theorem swapIfInBounds_perm {α : Type} (a : Array α) (i j : Nat) : (a.swapIfInBounds i j).Perm a := by
  unfold Array.swapIfInBounds
  split
  · split
    · exact Array.swap_perm _ _
    · exact Array.Perm.refl _
  · exact Array.Perm.refl _

theorem getElem?_swapIfInBounds_of_lt {α : Type} (a : Array α) (i j k : Nat) (hi : i < a.size) (hj : j < a.size) :
    (a.swapIfInBounds i j)[k]? = if j = k then a[i]? else if i = k then a[j]? else a[k]? := by
  rw [swapIfInBounds_eq a i j hi hj, Array.getElem?_swap]
  split
  · simp [hi]
  · split
    · simp [hj]
    · rfl

/-- `bang_setIfInBounds` as the two cases, for `rcases` -/
theorem bang_set_gen {α : Type} [Inhabited α] (a : Array α) (i t : Nat) (v : α) :
    (a.setIfInBounds i v)[t]! = a[t]! ∨ ((a.setIfInBounds i v)[t]! = v ∧ i = t) := by
  rw [bang_setIfInBounds]
  split
  · exact Or.inr ⟨rfl, ‹_ ∧ _›.1⟩
  · exact Or.inl rfl

theorem getElem?_swapIfInBounds_of_ne {α : Type} (a : Array α) (i j p : Nat) (hi : p ≠ i) (hj : p ≠ j) :
    (a.swapIfInBounds i j)[p]? = a[p]? := by
  unfold Array.swapIfInBounds
  split
  · split
    · rw [Array.getElem?_swap, if_neg (Ne.symm hj), if_neg (Ne.symm hi)]
    · rfl
  · rfl

theorem extract_congr {α : Type} (a b : Array α) (lo hi : Nat) (hs : a.size = b.size)
    (h : ∀ t, lo ≤ t → t < hi → a[t]? = b[t]?) : a.extract lo hi = b.extract lo hi := by
  apply Array.ext_getElem?
  intro t
  rw [Array.getElem?_extract, Array.getElem?_extract, hs]
  split
  · exact h _ (by omega) (by omega)
  · rfl

/-! ## rearrangements that leave everything outside a set `R` of positions alone
Said of the WHOLE array: then a swap of two positions of `R` keeps it for the plainest of reasons (a swap permutes, and moves nothing
else), with no index arithmetic and no bounds (out of bounds `swapIfInBounds` does nothing). That the part inside an interval is a
rearrangement of the input's part — what `RegionPerm.inside` and `WinPerm.windows` say — follows once, by cancelling the two outer parts. -/
/-- `a0` the input, `a` the rearrangement: the argument order of `RegionPerm` and `WinPerm` -/
structure PermOn {α : Type} (R : Nat → Prop) (a0 a : Array α) : Prop where
  perm : a.Perm a0
  outside : ∀ p, ¬ R p → a[p]? = a0[p]?

theorem PermOn.refl {α : Type} (R : Nat → Prop) (a : Array α) : PermOn R a a := ⟨Array.Perm.refl _, fun _ _ => rfl⟩

theorem PermOn.swap {α : Type} {R : Nat → Prop} {a0 a : Array α} (h : PermOn R a0 a) (i j : Nat) (hi : R i) (hj : R j) :
    PermOn R a0 (a.swapIfInBounds i j) :=
  ⟨(swapIfInBounds_perm a i j).trans h.perm, fun p hp => by
    rw [getElem?_swapIfInBounds_of_ne a i j p (fun e => hp (e ▸ hi)) (fun e => hp (e ▸ hj))]; exact h.outside p hp⟩

theorem PermOn.extract {α : Type} {lo hi : Nat} {a0 a : Array α} (h : PermOn (fun p => lo ≤ p ∧ p < hi) a0 a) (hlh : lo ≤ hi) :
    (a.extract lo hi).Perm (a0.extract lo hi) := by
  -- a list is its first `lo` entries, then entries `lo..hi-1`, then the rest; the outer parts of the two lists are equal
  have split3 : ∀ l : List α, l = l.take lo ++ ((l.take hi).drop lo ++ l.drop hi) := by
    intro l
    rw [← List.append_assoc, show l.take lo = (l.take hi).take lo by rw [List.take_take, Nat.min_eq_left hlh],
      List.take_append_drop, List.take_append_drop]
  have hl : a.toList.take lo = a0.toList.take lo := by
    apply List.ext_getElem?; intro p
    rw [List.getElem?_take, List.getElem?_take]
    split
    · rw [Array.getElem?_toList, Array.getElem?_toList]; exact h.outside p (by omega)
    · rfl
  have hr : a.toList.drop hi = a0.toList.drop hi := by
    apply List.ext_getElem?; intro p
    rw [List.getElem?_drop, List.getElem?_drop, Array.getElem?_toList, Array.getElem?_toList]
    exact h.outside _ (by omega)
  have hp := Array.perm_iff_toList_perm.1 h.perm
  rw [split3 a.toList, split3 a0.toList, hl, hr, List.perm_append_left_iff, List.perm_append_right_iff] at hp
  apply Array.perm_iff_toList_perm.2
  rw [Array.toList_extract, Array.toList_extract, List.extract_eq_drop_take', List.extract_eq_drop_take']
  exact hp

/-- the swap of `esl_rsq_CShuffle` / `esl_vec_*Shuffle` -/
abbrev aswap {α : Type} : Array α → Nat → Nat → Array α := fun a i j => a.swapIfInBounds i j

/-- the Fisher–Yates skeleton driven by an explicit list of roll values (one per iteration) -/
def fyRolls {σ : Type} (sw : σ → Nat → Nat → σ) (base : Nat) : Nat → σ → List Nat → σ
  | n+2, s, i :: rs => fyRolls sw base (n+1) (sw s (base + i) (base + (n+2) - 1)) rs
  | _, s, _ => s

/-- the roll values `fyLoop` obtains from generator state `r` for an `n`-element shuffle -/
def fyDraw : Nat → Rng → List Nat
  | n+2, r => (roll r (n+2)).1 :: fyDraw (n+1) (roll r (n+2)).2
  | _, _ => []

/-- in-range roll vectors of an `n`-element shuffle: `n-1` values, the first below `n`, the next below `n-1`, …, the last
    below `2` -/
def ValidRolls : Nat → List Nat → Prop
  | 0, rs => rs = []
  | 1, rs => rs = []
  | _+2, [] => False
  | n+2, i :: rs => i < n+2 ∧ ValidRolls (n+1) rs

theorem fyLoop_eq_fyRolls {σ : Type} (sw : σ → Nat → Nat → σ) (base : Nat) (n : Nat) (s : σ) (r : Rng) :
    (fyLoop sw base n s r).1 = fyRolls sw base n s (fyDraw n r) := by
  fun_induction fyLoop sw base n s r with
  | case1 n s r i r' hr ih => simp only [fyDraw, fyRolls, hr]; exact ih
  | case2 n s r h =>
    match n, h with
    | 0, _ => rfl
    | 1, _ => rfl
    | n+2, h => exact (h n rfl).elim

theorem fyDraw_valid (n : Nat) (r : Rng) : ValidRolls n (fyDraw n r) := by
  fun_induction fyDraw n r with
  | case1 n r ih => exact ⟨roll_lt r (n+2) (by omega), ih⟩
  | case2 n r h =>
    match n, h with
    | 0, _ => rfl
    | 1, _ => rfl
    | n+2, h => exact (h n rfl).elim

theorem fyRolls_inv {σ : Type} (sw : σ → Nat → Nat → σ) (base N : Nat) (P : σ → Prop)
    (hsw : ∀ s i j, P s → base ≤ i → i < base + N → base ≤ j → j < base + N → P (sw s i j))
    (n : Nat) (hn : n ≤ N) (s : σ) (rs : List Nat) (hv : ValidRolls n rs) (hP : P s) : P (fyRolls sw base n s rs) := by
  fun_induction fyRolls sw base n s rs with
  | case1 n s i rs ih =>
    simp only [ValidRolls] at hv
    exact ih (by omega) hv.2 (by apply hsw _ _ _ hP <;> omega)
  | case2 => exact hP

theorem fyLoop_inv {σ : Type} (sw : σ → Nat → Nat → σ) (base N : Nat) (P : σ → Prop)
    (hsw : ∀ s i j, P s → base ≤ i → i < base + N → base ≤ j → j < base + N → P (sw s i j)) :
    ∀ n, n ≤ N → ∀ s r, P s → P (fyLoop sw base n s r).1 := by
  intro n hn s r hP
  rw [fyLoop_eq_fyRolls]
  exact fyRolls_inv sw base N P hsw n hn s _ (fyDraw_valid n r) hP

/-! ## region permutations: agree outside `[lo,hi)`, permutation inside -/
structure RegionPerm {α : Type} (lo hi : Nat) (a0 a : Array α) : Prop where
  size : a.size = a0.size
  outside : ∀ p (h : p < a.size), (p < lo ∨ hi ≤ p) → a[p] = a0[p]'(size ▸ h)
  inside : (a.extract lo hi).Perm (a0.extract lo hi)

theorem RegionPerm.refl {α : Type} (lo hi : Nat) (a : Array α) : RegionPerm lo hi a a :=
  ⟨rfl, fun _ _ _ => rfl, Array.Perm.refl _⟩

theorem RegionPerm.swap {α : Type} {lo hi : Nat} {a0 a : Array α} (h : RegionPerm lo hi a0 a) (hhi : hi ≤ a0.size)
    (i j : Nat) (hi1 : lo ≤ i) (hi2 : i < hi) (hj1 : lo ≤ j) (hj2 : j < hi) :
    RegionPerm lo hi a0 (a.swapIfInBounds i j) := by
  have hw : PermOn (fun p => lo ≤ p ∧ p < hi) a (a.swapIfInBounds i j) := (PermOn.refl _ a).swap i j ⟨hi1, hi2⟩ ⟨hj1, hj2⟩
  refine ⟨hw.perm.size_eq.trans h.size, fun p hp hout => ?_, (hw.extract (by omega)).trans h.inside⟩
  have hp' : p < a.size := hw.perm.size_eq ▸ hp
  have e := hw.outside p (by omega)
  rw [Array.getElem?_eq_getElem hp, Array.getElem?_eq_getElem hp'] at e
  rw [Option.some.inj e]
  exact h.outside p hp' hout

theorem RegionPerm.perm_all {α : Type} {a0 a : Array α} (h : RegionPerm 0 a0.size a0 a) : a.Perm a0 := by
  have := h.inside
  rw [show a.extract 0 a0.size = a by rw [← h.size]; simp] at this
  simpa using this

theorem PermOn.regionPerm {α : Type} {lo hi : Nat} {a0 a : Array α} (h : PermOn (fun p => lo ≤ p ∧ p < hi) a0 a) (hlh : lo ≤ hi) :
    RegionPerm lo hi a0 a :=
  ⟨h.perm.size_eq, fun p hp hout => by
    have := h.outside p (by omega)
    rwa [Array.getElem?_eq_getElem hp, Array.getElem?_eq_getElem (h.perm.size_eq ▸ hp), Option.some.injEq] at this,
   h.extract hlh⟩

theorem fyRolls_permOn {α : Type} (base n : Nat) (a : Array α) (rs : List Nat) (hv : ValidRolls n rs) :
    PermOn (fun p => base ≤ p ∧ p < base + n) a (fyRolls aswap base n a rs) :=
  fyRolls_inv aswap base n (PermOn _ a) (fun _ i j hs hi1 hi2 hj1 hj2 => hs.swap i j ⟨hi1, hi2⟩ ⟨hj1, hj2⟩) n (Nat.le_refl _) a rs hv
    (PermOn.refl _ _)

theorem fyLoop_permOn {α : Type} (base n : Nat) (a : Array α) (r : Rng) :
    PermOn (fun p => base ≤ p ∧ p < base + n) a (fyLoop aswap base n a r).1 := by
  rw [fyLoop_eq_fyRolls]
  exact fyRolls_permOn base n a _ (fyDraw_valid n r)

/-- `d` is the offset in `Roll(j-i+d)` of the window shufflers (`cWinD = 0` for `esl_rsq_CShuffleWindows`, `xWinD = 1` for
    `esl_rsq_XShuffleWindows`): with `d ≤ 1` the roll stays inside the window -/
theorem winInner_inv {α : Type} (d i M : Nat) (hd : d ≤ 1) (P : Array α → Prop)
    (hsw : ∀ s p q, P s → i ≤ p → p ≤ i + M → i ≤ q → q ≤ i + M → P (s.swapIfInBounds p q)) :
    ∀ m, m ≤ M → ∀ a r, P a → P (winInner d i m a r).1 := by
  intro m
  induction m with
  | zero => intro _ a r h; simpa [winInner] using h
  | succ m ih =>
    intro hm a r h
    simp only [winInner]
    have hl := roll_lt r (m + 1 + d) (by omega)
    apply ih (by omega)
    apply hsw _ _ _ h <;> omega

theorem winOuter_inv {α : Type} (d w base L : Nat) (hd : d ≤ 1) (hw : 0 < w) (P : Array α → Prop)
    (hsw : ∀ s k p q, P s → base + k*w ≤ p → p < base + (k+1)*w → p < base + L →
            base + k*w ≤ q → q < base + (k+1)*w → q < base + L → P (s.swapIfInBounds p q)) :
    ∀ fuel k a r, P a → P (winOuter d w base L fuel (base + k*w) a r).1 := by
  intro fuel
  induction fuel with
  | zero => intro k a r h; simpa [winOuter] using h
  | succ fuel ih =>
    intro k a r h
    simp only [winOuter]
    split
    · rename_i hlt
      have hk : (k+1)*w = k*w + w := Nat.succ_mul k w
      rw [show base + k*w + w = base + (k+1)*w by omega]
      apply ih
      -- the window `[base + k*w, base + k*w + M]` lies inside window `k` and inside `[base, base + L)`
      generalize hM : min (base + L - 1) (base + (k+1)*w - 1) - (base + k*w) = M
      have h1 : M < w := by omega
      have h2 : base + k*w + M < base + L := by omega
      clear hM
      refine winInner_inv d (base + k*w) M hd P (fun s p q hs hp1 hp2 hq1 hq2 => ?_) M (Nat.le_refl _) a r h
      apply hsw s k p q hs <;> omega
    · exact h

/-- the window invariant: every window `[base+k·w, min(base+L, base+(k+1)·w))` is a permutation of the input's,
    everything outside `[base, base+L)` is untouched -/
structure WinPerm {α : Type} (w base L : Nat) (a0 a : Array α) : Prop where
  size : a.size = a0.size
  outside : ∀ p (h : p < a.size), (p < base ∨ base + L ≤ p) → a[p] = a0[p]'(size ▸ h)
  windows : ∀ k, (a.extract (base + k*w) (min (base + L) (base + (k+1)*w))).Perm
                 (a0.extract (base + k*w) (min (base + L) (base + (k+1)*w)))

theorem WinPerm.refl {α : Type} (w base L : Nat) (a : Array α) : WinPerm w base L a a :=
  ⟨rfl, fun _ _ _ => rfl, fun _ => Array.Perm.refl _⟩

theorem WinPerm.swap {α : Type} {w base L : Nat} {a0 a : Array α} (h : WinPerm w base L a0 a)
    (k p q : Nat) (hp1 : base + k*w ≤ p) (hp2 : p < base + (k+1)*w) (hp3 : p < base + L)
    (hq1 : base + k*w ≤ q) (hq2 : q < base + (k+1)*w) (hq3 : q < base + L) :
    WinPerm w base L a0 (a.swapIfInBounds p q) := by
  have hs := h.size
  refine ⟨by simp [hs], fun x hx hout => ?_, fun k' => ?_⟩
  · have hx' : x < a.size := by simpa using hx
    have e := getElem?_swapIfInBounds_of_ne a p q x (by omega) (by omega)
    rw [Array.getElem?_eq_getElem hx, Array.getElem?_eq_getElem hx'] at e
    rw [Option.some.inj e]
    exact h.outside x hx' hout
  · by_cases hk : k' = k
    · subst hk
      have hw : PermOn (fun t => base + k'*w ≤ t ∧ t < min (base + L) (base + (k'+1)*w)) a (a.swapIfInBounds p q) :=
        (PermOn.refl _ a).swap p q ⟨hp1, by omega⟩ ⟨hq1, by omega⟩
      exact (hw.extract (by omega)).trans (h.windows k')
    · -- another window: it ends before window `k` begins, or begins after it ends
      have hd : (k'+1)*w ≤ k*w ∨ (k+1)*w ≤ k'*w := by
        rcases Nat.lt_or_gt_of_ne hk with h | h
        · exact Or.inl (Nat.mul_le_mul_right w h)
        · exact Or.inr (Nat.mul_le_mul_right w h)
      rw [extract_congr _ a _ _ (by simp) fun t ht1 ht2 => getElem?_swapIfInBounds_of_ne a p q t (by omega) (by omega)]
      exact h.windows k'

theorem winOuter_winPerm {α : Type} (d w base L : Nat) (hd : d ≤ 1) (hw : 0 < w) (a0 : Array α)
    (fuel : Nat) (r : Rng) : WinPerm w base L a0 (winOuter d w base L fuel base a0 r).1 := by
  have := winOuter_inv d w base L hd hw (WinPerm w base L a0)
    (fun s k p q hs hp1 hp2 hp3 hq1 hq2 hq3 => hs.swap k p q hp1 hp2 hp3 hq1 hq2 hq3) fuel 0 a0 r (WinPerm.refl _ _ _ _)
  simpa using this

end EaselModel.Shuffle
