import EaselModel.Shuffle.Lemmas
/-! Reversal (`esl_rsq_CReverse`, `esl_rsq_XReverse`, `esl_vec_*Reverse`), alias-aware. -/
namespace EaselModel.Shuffle

theorem bang_congr {α : Type} [Inhabited α] {a b : Array α} {i j : Nat} (h : a[i]? = b[j]?) : a[i]! = b[j]! := by
  rw [Array.getElem!_eq_getD, Array.getElem!_eq_getD, Array.getD_eq_getD_getElem?, Array.getD_eq_getD_getElem?, h]

theorem bang_some {α : Type} [Inhabited α] {a : Array α} {i : Nat} (h : i < a.size) : some a[i]! = a[i]? := by
  rw [getElem!_pos a i h, Array.getElem?_eq_getElem h]

/-- state of the reversal loop after `i` iterations -/
structure RevInv {α : Type} (alias : Bool) (src dst0 : Array α) (base L i : Nat) (dst : Array α) : Prop where
  size : dst.size = dst0.size
  done : ∀ t, t < i → dst[base + t]? = src[base + L - 1 - t]? ∧ dst[base + L - 1 - t]? = src[base + t]?
  mid : alias = true → ∀ t, i ≤ t → t + i < L → dst[base + t]? = src[base + t]?
  outside : ∀ p, (p < base ∨ base + L ≤ p) → dst[p]? = dst0[p]?

/-- the same state with the mirror image of `t` named: `t'` with `t + t' + 1 = L` (no truncated subtraction to reason about) -/
structure RevMirror {α : Type} (alias : Bool) (src dst0 : Array α) (base L i : Nat) (dst : Array α) : Prop where
  size : dst.size = dst0.size
  done : ∀ t t', t + t' + 1 = L → (t < i ∨ t' < i) → dst[base + t]? = src[base + t']?
  mid : alias = true → ∀ t, i ≤ t → t + i < L → dst[base + t]? = src[base + t]?
  outside : ∀ p, (p < base ∨ base + L ≤ p) → dst[p]? = dst0[p]?

theorem RevMirror.revInv {α : Type} {alias : Bool} {src dst0 : Array α} {base L i : Nat} {dst : Array α}
    (h : RevMirror alias src dst0 base L i dst) (hi : i ≤ L) : RevInv alias src dst0 base L i dst := by
  refine ⟨h.size, fun t ht => ?_, h.mid, h.outside⟩
  rw [show base + L - 1 - t = base + (L - 1 - t) by omega]
  exact ⟨h.done t (L - 1 - t) (by omega) (Or.inl ht), h.done (L - 1 - t) t (by omega) (Or.inr ht)⟩

@[simp] theorem size_revStep {α : Type} [Inhabited α] (alias : Bool) (src dst : Array α) (lo hi : Nat) :
    (revStep alias src dst lo hi).size = dst.size := by
  simp [revStep]

/-- one iteration, pointwise: when the two cells read hold the source's values (which needs saying only when they are
    read through the alias) the iteration writes each into the other's place -/
theorem getElem?_revStep {α : Type} [Inhabited α] (alias : Bool) (src dst : Array α) (lo hi : Nat)
    (hlo : lo < dst.size) (hhi : hi < dst.size) (hlo' : lo < src.size) (hhi' : hi < src.size)
    (hl : alias = true → dst[lo]? = src[lo]?) (hh : alias = true → dst[hi]? = src[hi]?) (p : Nat) :
    (revStep alias src dst lo hi)[p]? = if p = lo then src[hi]? else if p = hi then src[lo]? else dst[p]? := by
  have rhi : (if alias then dst[hi]! else src[hi]!) = src[hi]! := by
    cases alias with
    | false => rfl
    | true => exact bang_congr (hh rfl)
  have rlo : (if alias then dst[lo]! else src[lo]!) = src[lo]! := by
    cases alias with
    | false => rfl
    | true => exact bang_congr (hl rfl)
  unfold revStep
  simp only [rhi, rlo]
  rw [Array.getElem?_setIfInBounds, Array.getElem?_setIfInBounds, Array.size_setIfInBounds, if_pos hlo, if_pos hhi,
    bang_some hhi', bang_some hlo']
  by_cases e : p = lo
  · rw [if_pos e.symm, if_pos e]
  · rw [if_neg (Ne.symm e), if_neg e]
    by_cases e' : p = hi
    · rw [if_pos e'.symm, if_pos e']
    · rw [if_neg (Ne.symm e'), if_neg e']

theorem revStep_inv {α : Type} [Inhabited α] (alias : Bool) (src dst0 dst : Array α) (base L i j : Nat)
    (hsrc : base + L ≤ src.size) (hdst : base + L ≤ dst0.size) (hj : i + j + 1 = L) (hij : i < j)
    (h : RevMirror alias src dst0 base L i dst) :
    RevMirror alias src dst0 base L (i+1) (revStep alias src dst (base + i) (base + j)) := by
  have hs := h.size
  have g := getElem?_revStep alias src dst (base + i) (base + j) (by omega) (by omega) (by omega) (by omega)
    (fun ha => h.mid ha i (by omega) (by omega)) (fun ha => h.mid ha j (by omega) (by omega))
  refine ⟨by rw [size_revStep, hs], fun t t' htt hlt => ?_, fun ha t ht1 ht2 => ?_, fun p hp => ?_⟩
  · rw [g]
    by_cases hti : t = i
    · rw [if_pos (by omega), show t' = j by omega]
    · rw [if_neg (by omega)]
      by_cases htj : t = j
      · rw [if_pos (by omega), show t' = i by omega]
      · rw [if_neg (by omega)]
        exact h.done t t' htt (by omega)
  · rw [g, if_neg (by omega), if_neg (by omega)]
    exact h.mid ha t (by omega) (by omega)
  · rw [g, if_neg (by omega), if_neg (by omega)]
    exact h.outside p hp

theorem revLoop_inv {α : Type} [Inhabited α] (alias : Bool) (src dst0 : Array α) (base L : Nat)
    (hsrc : base + L ≤ src.size) (hdst : base + L ≤ dst0.size) :
    ∀ n i dst, i + n = L / 2 → RevMirror alias src dst0 base L i dst →
      RevMirror alias src dst0 base L (L/2) (revLoop alias src base L n i dst) := by
  intro n
  induction n with
  | zero => intro i dst hi h; simp only [revLoop]; rw [show L / 2 = i by omega]; exact h
  | succ n ih =>
    intro i dst hi h
    simp only [revLoop]
    apply ih (i+1) _ (by omega)
    rw [show base + L - 1 - i = base + (L - 1 - i) by omega]
    exact revStep_inv alias src dst0 dst base L i (L - 1 - i) hsrc hdst (by omega) (by omega) h

theorem revLoop_revInv {α : Type} [Inhabited α] (alias : Bool) (src dst : Array α) (base L : Nat)
    (hsrc : base + L ≤ src.size) (hdst : base + L ≤ dst.size) (hal : alias = true → dst = src) :
    RevInv alias src dst base L (L/2) (revLoop alias src base L (L/2) 0 dst) :=
  (revLoop_inv alias src dst base L hsrc hdst (L/2) 0 dst (by omega)
    ⟨rfl, fun t t' _ ht => by omega, fun ha t _ _ => by rw [hal ha], fun _ _ => rfl⟩).revInv (by omega)

/-- `reverse` writes the mirror image of `src[base..base+L)` into `dst[base..base+L)` and nothing else; this holds for
    separate storage (`alias = false`, any `dst`) and in place (`alias = true`, `dst = src`). -/
theorem reverse_spec {α : Type} [Inhabited α] (alias : Bool) (src dst : Array α) (base L : Nat)
    (hsrc : base + L ≤ src.size) (hdst : base + L ≤ dst.size) (hal : alias = true → dst = src) :
    let out := reverse alias src dst base L
    out.size = dst.size ∧ (∀ t t', t + t' + 1 = L → out[base + t]? = src[base + t']?) ∧
      (∀ p, (p < base ∨ base + L ≤ p) → out[p]? = dst[p]?) := by
  have h0 : RevMirror alias src dst base L 0 dst :=
    ⟨rfl, fun t t' _ ht => by omega, fun ha t _ _ => by rw [hal ha], fun _ _ => rfl⟩
  have h := revLoop_inv alias src dst base L hsrc hdst (L/2) 0 dst (by omega) h0
  have hs := h.size
  simp only [reverse]
  split
  · -- `L` odd: the middle cell is its own mirror image
    have rmid : (if alias then (revLoop alias src base L (L/2) 0 dst)[base + L/2]! else src[base + L/2]!) = src[base + L/2]! := by
      cases alias with
      | false => rfl
      | true => exact bang_congr (h.mid rfl (L/2) (by omega) (by omega))
    simp only [rmid]
    refine ⟨by rw [Array.size_setIfInBounds, hs], fun t t' htt => ?_, fun p hp => ?_⟩
    · rw [Array.getElem?_setIfInBounds]
      by_cases e : t = L/2
      · rw [if_pos (by omega), if_pos (by omega), bang_some (by omega), show t' = L/2 by omega]
      · rw [if_neg (by omega)]
        exact h.done t t' htt (by omega)
    · rw [Array.getElem?_setIfInBounds, if_neg (by omega)]
      exact h.outside p hp
  · exact ⟨hs, fun t t' htt => h.done t t' htt (by omega), h.outside⟩

theorem reverse_toList {α : Type} [Inhabited α] (alias : Bool) (src dst : Array α) (base L : Nat)
    (hsrc : base + L ≤ src.size) (hdst : base + L ≤ dst.size) (hal : alias = true → dst = src) :
    ((reverse alias src dst base L).extract base (base + L)).toList = ((src.extract base (base + L)).toList).reverse := by
  obtain ⟨hsz, hin, _⟩ := reverse_spec alias src dst base L hsrc hdst hal
  have l1 : ((reverse alias src dst base L).extract base (base + L)).toList.length = L := by
    rw [Array.length_toList, Array.size_extract]; omega
  have l2 : (src.extract base (base + L)).toList.length = L := by
    rw [Array.length_toList, Array.size_extract]; omega
  apply List.ext_getElem?
  intro t
  by_cases ht : t < L
  · rw [List.getElem?_reverse (by omega), l2, Array.getElem?_toList, Array.getElem?_toList, Array.getElem?_extract,
      Array.getElem?_extract, if_pos (by omega), if_pos (by omega)]
    exact hin t (L - 1 - t) (by omega)
  · rw [List.getElem?_eq_none (by omega), List.getElem?_eq_none (by rw [List.length_reverse]; omega)]

end EaselModel.Shuffle
