import EaselModel.Shuffle.LemmasMarkov1
/-! Doublet-preserving shuffle (Altschul–Erickson): edge bookkeeping (the edge lists are the input's adjacent pairs, every later
    step permutes each list) and the invariant of the walk: its adjacent pairs are the edges consumed so far. -/
namespace EaselModel.Shuffle
open EaselModel.Random
open scoped List

def gather {β : Type} (f : Nat → List β) : Nat → List β
  | 0 => []
  | K+1 => gather f K ++ f K

theorem gather_congr {β : Type} (f g : Nat → List β) (K : Nat) (h : ∀ v, v < K → g v = f v) : gather g K = gather f K := by
  induction K with
  | zero => rfl
  | succ K ih => simp only [gather]; rw [ih (fun v hv => h v (by omega)), h K (by omega)]

theorem gather_perm {β : Type} (f g : Nat → List β) (K : Nat) (h : ∀ v, v < K → (g v).Perm (f v)) : (gather g K).Perm (gather f K) := by
  induction K with
  | zero => exact List.Perm.refl _
  | succ K ih => simp only [gather]; exact (ih (fun v hv => h v (by omega))).append (h K (by omega))

theorem gather_sublist {β : Type} (f g : Nat → List β) (K : Nat) (h : ∀ v, v < K → (g v).Sublist (f v)) : (gather g K).Sublist (gather f K) := by
  induction K with
  | zero => exact List.Sublist.refl _
  | succ K ih => simp only [gather]; exact (ih (fun v hv => h v (by omega))).append (h K (by omega))

theorem gather_nil {β : Type} (f : Nat → List β) (K : Nat) (h : ∀ v, v < K → f v = []) : gather f K = [] := by
  induction K with
  | zero => rfl
  | succ K ih => simp only [gather]; rw [ih (fun v hv => h v (by omega)), h K (by omega)]; rfl

/-- the entries tagged `v` in a gathering of tagged lists are list `v`: membership, counts and degrees are read off this -/
theorem filter_gather (g : Nat → List Nat) (v : Nat) : ∀ K,
    (gather (fun u => (g u).map (fun y => (u, y))) K).filter (fun pr => pr.1 == v)
      = if v < K then (g v).map (fun y => (v, y)) else [] := by
  intro K
  induction K with
  | zero => rfl
  | succ K ih =>
    simp only [gather, List.filter_append, ih]
    by_cases e : v = K
    · subst e
      rw [if_neg (Nat.lt_irrefl _), if_pos (Nat.lt_succ_self _), List.nil_append, List.filter_eq_self]
      intro a ha; obtain ⟨y, _, rfl⟩ := List.mem_map.1 ha; exact beq_self_eq_true _
    · have : (List.map (fun y => (K, y)) (g K)).filter (fun pr => pr.1 == v) = [] := by
        rw [List.filter_eq_nil_iff]; intro a ha; obtain ⟨y, _, rfl⟩ := List.mem_map.1 ha; simpa using fun h => e h.symm
      rw [this, List.append_nil]
      by_cases h : v < K
      · rw [if_pos h, if_pos (by omega)]
      · rw [if_neg h, if_neg (by omega)]

theorem mem_gather (g : Nat → List Nat) (v y : Nat) (K : Nat) :
    (v, y) ∈ gather (fun u => (g u).map (fun y => (u, y))) K ↔ v < K ∧ y ∈ g v := by
  have := List.mem_filter (p := fun pr : Nat × Nat => pr.1 == v) (x := (v, y)) (as := gather (fun u => (g u).map (fun y => (u, y))) K)
  rw [filter_gather] at this
  simp only [beq_self_eq_true, and_true] at this
  rw [← this]
  split <;> simp [*]

theorem gather_snoc {β : Type} (f g : Nat → List β) (K x : Nat) (e : β) (hx : x < K)
    (hne : ∀ v, v ≠ x → g v = f v) (hx' : g x = f x ++ [e]) : (gather g K).Perm (gather f K ++ [e]) := by
  induction K with
  | zero => omega
  | succ K ih =>
    simp only [gather]
    by_cases e1 : x = K
    · subst e1
      rw [gather_congr f g x (fun v hv => hne v (by omega)), hx', List.append_assoc]
    · rw [hne K (fun h => e1 h.symm)]
      have := ih (by omega)
      calc gather g K ++ f K
          _ ~ (gather f K ++ [e]) ++ f K := this.append_right _
          _ ~ gather f K ++ ([e] ++ f K) := by rw [List.append_assoc]
          _ ~ gather f K ++ (f K ++ [e]) := List.Perm.append_left _ List.perm_append_comm
          _ ~ (gather f K ++ f K) ++ [e] := by rw [List.append_assoc]

/-- the list of vertex `v` (empty for `v` out of range) -/
def elist (E : Edges) (v : Nat) : List Nat := (E[v]!).toList
/-- all edges `(v, y)` of the edge ordering -/
def edgePairs (E : Edges) (K : Nat) : List (Nat × Nat) := gather (fun v => (elist E v).map (fun y => (v, y))) K
/-- the edges consumed so far: the first `iE[v]` entries of every list -/
def usedEdges (E : Edges) (iE : Array Nat) (K : Nat) : List (Nat × Nat) :=
  gather (fun v => ((elist E v).take iE[v]!).map (fun y => (v, y))) K

theorem elist_modify_ne (E : Edges) (x v : Nat) (f : Array Nat → Array Nat) (h : x ≠ v) : elist (E.modify x f) v = elist E v := by
  unfold elist
  rw [Array.getElem!_eq_getD, Array.getElem!_eq_getD, Array.getD_eq_getD_getElem?, Array.getD_eq_getD_getElem?, Array.getElem?_modify]
  simp [h]

theorem elist_modify_eq (E : Edges) (x : Nat) (f : Array Nat → Array Nat) (h : x < E.size) : elist (E.modify x f) x = (f E[x]!).toList := by
  unfold elist
  rw [getElem!_pos (E.modify x f) x (by simpa using h), getElem!_pos E x h, Array.getElem_modify]
  simp

theorem elist_set_ne (E : Edges) (x v : Nat) (l : Array Nat) (h : x ≠ v) : elist (E.setIfInBounds x l) v = elist E v := by
  unfold elist
  rw [Array.getElem!_eq_getD, Array.getElem!_eq_getD, Array.getD_eq_getD_getElem?, Array.getD_eq_getD_getElem?, Array.getElem?_setIfInBounds]
  simp [h]

theorem elist_set_eq (E : Edges) (x : Nat) (l : Array Nat) (h : x < E.size) : elist (E.setIfInBounds x l) x = l.toList := by
  unfold elist
  rw [getElem!_pos (E.setIfInBounds x l) x (by simpa using h), Array.getElem_setIfInBounds (by simpa using h)]
  simp

/-- every list of `E'` is a permutation of the corresponding list of `E` -/
structure PermEdges (E' E : Edges) : Prop where
  size : E'.size = E.size
  perm : ∀ v, (elist E' v).Perm (elist E v)

theorem PermEdges.refl (E : Edges) : PermEdges E E := ⟨rfl, fun _ => List.Perm.refl _⟩
theorem PermEdges.trans {A B C : Edges} (h1 : PermEdges A B) (h2 : PermEdges B C) : PermEdges A C :=
  ⟨h1.size.trans h2.size, fun v => (h1.perm v).trans (h2.perm v)⟩

theorem PermEdges.edgePairs {E' E : Edges} (h : PermEdges E' E) (K : Nat) : (edgePairs E' K).Perm (edgePairs E K) :=
  gather_perm _ _ K (fun v _ => (h.perm v).map _)

theorem permEdges_modify_swap (E : Edges) (x i j : Nat) : PermEdges (E.modify x (fun l => l.swapIfInBounds i j)) E := by
  refine ⟨by simp, fun v => ?_⟩
  by_cases h : x = v
  · subst h
    by_cases hx : x < E.size
    · rw [elist_modify_eq E x _ hx]
      exact (swapIfInBounds_perm _ i j).toList
    · have : E.modify x (fun l => l.swapIfInBounds i j) = E := by
        apply Array.ext (by simp)
        intro k hk1 hk2
        rw [Array.getElem_modify]; simp; intro e; omega
      rw [this]
  · rw [elist_modify_ne E x v _ h]

theorem dpSelectLast_perm (sf : Nat) : ∀ (xs : List Nat) (E : Edges) (r : Rng), PermEdges (dpSelectLast sf xs E r).1 E := by
  intro xs
  induction xs with
  | nil => intro E r; exact PermEdges.refl E
  | cons x xs ih =>
    intro E r
    simp only [dpSelectLast]
    split
    · exact ih E r
    · exact (ih _ _).trans (permEdges_modify_swap E x _ _)

theorem dpFind_perm (K sf : Nat) : ∀ (fuel : Nat) (E : Edges) (r : Rng) (E' : Edges) (r' : Rng),
    dpFind K sf fuel E r = some (E', r') → PermEdges E' E := by
  intro fuel
  induction fuel with
  | zero => intro E r E' r' h; simp [dpFind] at h
  | succ fuel ih =>
    intro E r E' r' h
    simp only [dpFind] at h
    split at h
    · simp only [Option.some.injEq, Prod.mk.injEq] at h
      rw [← h.1]; exact dpSelectLast_perm sf _ E r
    · exact (ih _ _ E' r' h).trans (dpSelectLast_perm sf _ E r)

theorem dpPermute_perm : ∀ (xs : List Nat) (E : Edges) (r : Rng), PermEdges (dpPermute xs E r).1 E := by
  intro xs
  induction xs with
  | nil => intro E r; exact PermEdges.refl E
  | cons x xs ih =>
    intro E r
    simp only [dpPermute]
    refine (ih _ _).trans ⟨by simp, fun v => ?_⟩
    by_cases h : x = v
    · subst h
      by_cases hx : x < E.size
      · rw [elist_set_eq E x _ hx]
        exact (fyLoop_permOn 0 ((E[x]!).size - 1) (E[x]!) r).perm.toList
      · rw [Array.setIfInBounds_eq_of_size_le (by omega)]
    · rw [elist_set_ne E x v _ h]

/-! ## step (1): the edge lists are the adjacent pairs of the input -/
theorem edgePairs_push (E : Edges) (K p y : Nat) (hp : p < K) (hs : E.size = K) :
    (edgePairs (E.modify p (fun l => l.push y)) K).Perm (edgePairs E K ++ [(p, y)]) := by
  apply gather_snoc _ _ K p (p, y) hp
  · intro v hv
    rw [elist_modify_ne E p v _ (fun e => hv e.symm)]
  · rw [elist_modify_eq E p _ (by omega)]
    simp [elist, getElem!_pos E p (by omega : p < E.size)]

theorem dpBuild_fold (K : Nat) : ∀ (ys : List Nat) (E : Edges) (p : Nat), E.size = K → p < K → (∀ y ∈ ys, y < K) →
    let st := ys.foldl (fun (st : Edges × Nat) y => (st.1.modify st.2 (fun l => l.push y), y)) (E, p)
    st.1.size = K ∧ (edgePairs st.1 K).Perm (edgePairs E K ++ adjPairs (p :: ys)) := by
  intro ys
  induction ys with
  | nil => intro E p hs _ _; simp [adjPairs, hs]
  | cons y t ih =>
    intro E p hs hp hy
    simp only [List.foldl_cons]
    obtain ⟨h1, h2⟩ := ih (E.modify p (fun l => l.push y)) y (by simp [hs]) (hy y (by simp)) (fun z hz => hy z (by simp [hz]))
    refine ⟨h1, h2.trans ?_⟩
    simp only [adjPairs]
    calc edgePairs (E.modify p fun l => l.push y) K ++ adjPairs (y :: t)
        _ ~ (edgePairs E K ++ [(p, y)]) ++ adjPairs (y :: t) := (edgePairs_push E K p y hp hs).append_right _
        _ ~ edgePairs E K ++ (p, y) :: adjPairs (y :: t) := by rw [List.append_assoc]; rfl

theorem elist_of_size_le (E : Edges) (v : Nat) (h : E.size ≤ v) : elist E v = [] := by
  simp only [elist]
  rw [Array.getElem!_eq_getD, Array.getD_eq_getD_getElem?, Array.getElem?_eq_none h]; rfl

theorem edgePairs_replicate (K : Nat) : edgePairs (Array.replicate K #[]) K = [] := by
  apply gather_nil
  intro v hv
  simp only [elist]
  rw [getElem!_pos _ v (by simpa using hv)]; simp

theorem dpBuild_spec (K : Nat) (codes : List Nat) (h : ∀ c ∈ codes, c < K) :
    (dpBuild K codes).size = K ∧ (edgePairs (dpBuild K codes) K).Perm (adjPairs codes) := by
  cases codes with
  | nil => simp [dpBuild, edgePairs_replicate, adjPairs]
  | cons c0 rest =>
    obtain ⟨h1, h2⟩ := dpBuild_fold K rest (Array.replicate K #[]) c0 (by simp) (h c0 (by simp)) (fun y hy => h y (by simp [hy]))
    refine ⟨h1, ?_⟩
    simp only [dpBuild]
    rw [edgePairs_replicate] at h2
    simpa using h2

/-! ## step (6): the walk -/
/-- state of the walk: `walked = out ++ [x]` is the vertex sequence so far -/
structure WalkInv (E : Edges) (K c0 : Nat) (x : Nat) (iE : Array Nat) (out : Array Nat) : Prop where
  isize : iE.size = K
  le : ∀ v, v < K → iE[v]! ≤ (elist E v).length
  pairs : (adjPairs (out.toList ++ [x])).Perm (usedEdges E iE K)
  head : (out.toList ++ [x]).head? = some c0
  xlt : x < K

theorem iE_modify_ne (iE : Array Nat) (x v : Nat) (h : x ≠ v) : (iE.modify x (· + 1))[v]! = iE[v]! := by
  rw [Array.getElem!_eq_getD, Array.getElem!_eq_getD, Array.getD_eq_getD_getElem?, Array.getD_eq_getD_getElem?, Array.getElem?_modify]
  simp [h]

theorem iE_modify_eq (iE : Array Nat) (x : Nat) (h : x < iE.size) : (iE.modify x (· + 1))[x]! = iE[x]! + 1 := by
  rw [getElem!_pos (iE.modify x (· + 1)) x (by simpa using h), getElem!_pos iE x h, Array.getElem_modify]
  simp

theorem walk_step (E : Edges) (K c0 x : Nat) (iE out : Array Nat) (hlt : ∀ v y, y ∈ elist E v → y < K)
    (h : WalkInv E K c0 x iE out) (hx : iE[x]! < (elist E x).length) :
    WalkInv E K c0 ((E[x]!)[iE[x]!]!) (iE.modify x (· + 1)) (out.push x) := by
  have hxK := h.xlt
  have hy : (E[x]!)[iE[x]!]! = (elist E x)[iE[x]!]'hx := by
    unfold elist at hx ⊢
    rw [getElem!_pos (E[x]!) _ (by simpa using hx)]
    simp
  refine ⟨by simp [h.isize], ?_, ?_, ?_, ?_⟩
  · intro v hv
    by_cases e : x = v
    · subst e; rw [iE_modify_eq iE x (by rw [h.isize]; exact hv)]; omega
    · rw [iE_modify_ne iE x v e]; exact h.le v hv
  · rw [Array.toList_push]
    -- new pair (x, y)
    have hsplit : adjPairs ((out.toList ++ [x]) ++ [(E[x]!)[iE[x]!]!]) = adjPairs (out.toList ++ [x]) ++ [(x, (E[x]!)[iE[x]!]!)] := by
      cases ho : out.toList with
      | nil => simp [adjPairs]
      | cons a t =>
        rw [show (a :: t ++ [x]) ++ [(E[x]!)[iE[x]!]!] = (a :: (t ++ [x])) ++ [(E[x]!)[iE[x]!]!] by simp, adjPairs_append_singleton, getLast_snoc']
        simp
    rw [hsplit]
    refine (h.pairs.append_right _).trans (List.Perm.symm ?_)
    apply gather_snoc _ _ K x _ hxK
    · intro v hv
      rw [iE_modify_ne iE x v (fun e => hv e.symm)]
    · rw [iE_modify_eq iE x (by rw [h.isize]; exact hxK), List.take_add_one, List.getElem?_eq_getElem hx, hy, List.map_append]
      rfl
  · rw [Array.toList_push]
    have := h.head
    cases ho : out.toList with
    | nil => simp [ho] at this ⊢; exact this
    | cons a t => simp [ho] at this ⊢; exact this
  · rw [hy]; exact hlt x _ (List.getElem_mem hx)

theorem dpWalk_start (E : Edges) (K c0 : Nat) (hc0 : c0 < K) (hfirst : 0 < (elist E c0).length) :
    WalkInv E K c0 c0 (Array.replicate K 0) #[] ∧ (Array.replicate K 0)[c0]! < (elist E c0).length := by
  have hz : ∀ v, v < K → (Array.replicate K 0)[v]! = 0 := fun v hv => by
    rw [getElem!_pos _ v (by simpa using hv)]; simp
  have hused : usedEdges E (Array.replicate K 0) K = [] :=
    gather_nil _ K (fun v hv => by rw [hz v hv]; rfl)
  exact ⟨⟨by simp, fun v hv => by rw [hz v hv]; omega, by rw [hused]; simp [adjPairs], by simp, hc0⟩, by rw [hz c0 hc0]; exact hfirst⟩

/-- the walk consumes each edge at most once: the adjacent pairs of the vertex sequence are (a permutation of) a
    sub-list of the edge list — prefixes of every vertex's list -/
theorem usedEdges_sublist (E : Edges) (iE : Array Nat) (K : Nat) : (usedEdges E iE K).Sublist (edgePairs E K) :=
  gather_sublist _ _ K (fun v _ => (List.take_sublist _ _).map _)

theorem dp_facts (K : Nat) (codes : List Nat) (c0 c1 : Nat) (rest : List Nat) (hc : codes = c0 :: c1 :: rest)
    (hK : ∀ c ∈ codes, c < K) (E2 : Edges) (p20 : PermEdges E2 (dpBuild K codes)) :
    (edgePairs E2 K ~ adjPairs codes) ∧ (∀ v y, y ∈ elist E2 v → y < K) ∧ 0 < (elist E2 c0).length := by
  obtain ⟨hbs, hbp⟩ := dpBuild_spec K codes hK
  have hall := (p20.edgePairs K).trans hbp
  refine ⟨hall, fun v y hy => ?_, ?_⟩
  · by_cases hv : v < K
    · have hmem : (v, y) ∈ adjPairs codes := hall.mem_iff.mp ((mem_gather (elist E2) v y K).2 ⟨hv, hy⟩)
      exact hK y (snd_mem_of_adjPairs codes v y hmem)
    · rw [elist_of_size_le E2 v (by rw [p20.size, hbs]; omega)] at hy
      cases hy
  · have hmem : (c0, c1) ∈ edgePairs E2 K := hall.mem_iff.mpr (by rw [hc]; simp [adjPairs])
    exact List.length_pos_of_mem ((mem_gather (elist E2) c0 c1 K).1 hmem).2

theorem letterCode_lt (c : UInt8) (h : isAlpha c = true) : letterCode c < 26 := by
  unfold isAlpha at h; unfold letterCode
  simp only [Bool.or_eq_true, Bool.and_eq_true, decide_eq_true_eq, UInt8.le_iff_toNat_le] at h ⊢
  have e1 : (65 : UInt8).toNat = 65 := rfl
  have e2 : (90 : UInt8).toNat = 90 := rfl
  have e3 : (97 : UInt8).toNat = 97 := rfl
  have e4 : (122 : UInt8).toNat = 122 := rfl
  rw [e1, e2, e3, e4] at h
  split
  · rename_i h1; rw [e1, e2] at h1; omega
  · split
    · rename_i h1 h2; rw [e3, e4] at h2; omega
    · rename_i h1 h2; rw [e1, e2] at h1; rw [e3, e4] at h2; omega

theorem textCodes_lt (s : Bytes) (h : ¬ (s.any (fun c => !isAlpha c) = true)) : ∀ c ∈ textCodes s, c < 26 := by
  intro c hc
  simp only [textCodes, List.mem_map] at hc
  obtain ⟨b, hb, rfl⟩ := hc
  apply letterCode_lt
  simp only [Array.any_eq_true', not_exists, not_and, Bool.not_eq_true, Bool.not_eq_false'] at h
  simpa using h b (by simpa using hb)

theorem digitalCodes_lt (dsq : Bytes) (L K : Nat) (h : ¬ ((digitalCodes dsq L).any (fun c => c ≥ K) = true)) :
    ∀ c ∈ digitalCodes dsq L, c < K := by
  intro c hc
  simp only [List.any_eq_true, not_exists, not_and, decide_eq_true_eq, Nat.not_le] at h
  exact h c hc

theorem digitalCodes_length (dsq : Bytes) (L : Nat) (hL : L + 2 ≤ dsq.size) : (digitalCodes dsq L).length = L := by
  simp [digitalCodes]; omega

theorem ofDP_ok (f : Array Nat → Bytes) (x : DPResult × Rng) (out : Bytes) (h : (ofDP f x).1 = .ok out) :
    ∃ codes, x = (.ok codes, x.2) ∧ out = f codes := by
  obtain ⟨o, r⟩ := x
  cases o with
  | ok c => simp only [ofDP, SeqResult.ok.injEq] at h; exact ⟨c, rfl, h.symm⟩
  | einval => simp [ofDP] at h
  | einconceivable => simp [ofDP] at h
  | nohalt => simp [ofDP] at h

end EaselModel.Shuffle
