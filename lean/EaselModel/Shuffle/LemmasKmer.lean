import EaselModel.Shuffle.Lemmas
/-! `memmove` (`blit`): the k-mer shuffle, whose three `memmove`s are a swap of two words and whose loop is Fisher–Yates on the
    list of words; and the conditional copy into separate output storage (`Out.load`). -/
namespace EaselModel.Shuffle
open EaselModel.Random

/-- `blit` restricted to the first `n` bytes of `src` -/
def blitN {α : Type} (a : Array α) (pos : Nat) (src : Array α) (n : Nat) : Array α :=
  (List.range n).foldl (fun (acc : Array α) t => match src[t]? with
    | some v => acc.setIfInBounds (pos + t) v
    | none => acc) a

theorem blit_eq_blitN {α : Type} (a : Array α) (pos : Nat) (src : Array α) : blit a pos src = blitN a pos src src.size := rfl

theorem blitN_spec {α : Type} (a : Array α) (pos : Nat) (src : Array α) (hfit : pos + src.size ≤ a.size) :
    ∀ n, n ≤ src.size → (blitN a pos src n).size = a.size ∧
      ∀ p, (blitN a pos src n)[p]? = if pos ≤ p ∧ p < pos + n then src[p - pos]? else a[p]? := by
  intro n
  induction n with
  | zero => intro _; refine ⟨rfl, fun p => ?_⟩; simp only [blitN, List.range_zero, List.foldl_nil]; rw [if_neg (by omega)]
  | succ n ih =>
    intro hn
    obtain ⟨hs, hg⟩ := ih (by omega)
    have hstep : blitN a pos src (n+1) = (blitN a pos src n).setIfInBounds (pos + n) src[n] := by
      simp only [blitN, List.range_succ, List.foldl_append, List.foldl_cons, List.foldl_nil]
      rw [Array.getElem?_eq_getElem (show n < src.size by omega)]
    rw [hstep]
    refine ⟨by simp [hs], fun p => ?_⟩
    rw [Array.getElem?_setIfInBounds, hg p]
    by_cases e : pos + n = p
    · subst e
      have : pos + n < (blitN a pos src n).size := by omega
      simp only [↓reduceIte, this]
      rw [if_pos (by omega), show pos + n - pos = n by omega, Array.getElem?_eq_getElem]
    · simp only [e, ↓reduceIte]
      by_cases c : pos ≤ p ∧ p < pos + n
      · rw [if_pos c, if_pos (by omega)]
      · rw [if_neg c, if_neg (by omega)]

theorem blit_spec {α : Type} (a : Array α) (pos : Nat) (src : Array α) (hfit : pos + src.size ≤ a.size) :
    (blit a pos src).size = a.size ∧
      ∀ p, (blit a pos src)[p]? = if pos ≤ p ∧ p < pos + src.size then src[p - pos]? else a[p]? :=
  blitN_spec a pos src hfit src.size (Nat.le_refl _)

/-- word `w` (length `K`) of the word region starting at `off` -/
def chunk {α : Type} (K off : Nat) (a : Array α) (w : Nat) : Array α := a.extract (off + w*K) (off + w*K + K)
def chunks {α : Type} (K off W : Nat) (a : Array α) : Array (Array α) := (Array.range W).map (chunk K off a)

theorem word_disjoint {w v : Nat} (K : Nat) (h : w ≠ v) : w*K + K ≤ v*K ∨ v*K + K ≤ w*K := by
  rw [← Nat.succ_mul, ← Nat.succ_mul]
  rcases Nat.lt_or_gt_of_ne h with h | h
  · exact Or.inl (Nat.mul_le_mul_right K h)
  · exact Or.inr (Nat.mul_le_mul_right K h)

theorem word_end_le {w W : Nat} (K : Nat) (h : w < W) : w*K + K ≤ W*K := by
  rw [← Nat.succ_mul]; exact Nat.mul_le_mul_right K h

/-- `memmove(b + pos, a + lo, K)` -/
theorem blit_extract {α : Type} (b a : Array α) (pos lo K : Nat) (hb : pos + K ≤ b.size) (ha : lo + K ≤ a.size) :
    (blit b pos (a.extract lo (lo + K))).size = b.size ∧
      ∀ p, (blit b pos (a.extract lo (lo + K)))[p]? = if pos ≤ p ∧ p < pos + K then a[lo + (p - pos)]? else b[p]? := by
  have hK : (a.extract lo (lo + K)).size = K := by rw [Array.size_extract]; omega
  obtain ⟨hs, hg⟩ := blit_spec b pos (a.extract lo (lo + K)) (by omega)
  refine ⟨hs, fun p => ?_⟩
  rw [hg p, hK]
  split
  · rw [Array.getElem?_extract, if_pos (by omega)]
  · rfl

theorem blockSwap_spec {α : Type} (K off W : Nat) (a : Array α) (i j : Nat) (hfit : off + W*K ≤ a.size)
    (hi : i < W) (hj : j < W) :
    (blockSwap K off a i j).size = a.size ∧
      ∀ p, (blockSwap K off a i j)[p]? =
        if off + j*K ≤ p ∧ p < off + j*K + K then a[off + i*K + (p - (off + j*K))]?
        else if off + i*K ≤ p ∧ p < off + i*K + K then a[off + j*K + (p - (off + i*K))]?
        else a[p]? := by
  have hiW := word_end_le K hi
  have hjW := word_end_le K hj
  obtain ⟨z1, g1⟩ := blit_extract a a (off + i*K) (off + j*K) K (by omega) (by omega)
  obtain ⟨z2, g2⟩ := blit_extract (blit a (off + i*K) (a.extract (off + j*K) (off + j*K + K))) a (off + j*K) (off + i*K) K
    (by omega) (by omega)
  unfold blockSwap
  exact ⟨z2.trans z1, fun p => by rw [g2 p, g1 p]⟩

theorem blockSwap_word {α : Type} (K off W : Nat) (a : Array α) (i j : Nat) (hfit : off + W*K ≤ a.size)
    (hi : i < W) (hj : j < W) (w t : Nat) (ht : t < K) :
    (blockSwap K off a i j)[off + w*K + t]? = a[off + (if w = i then j else if w = j then i else w)*K + t]? := by
  rw [(blockSwap_spec K off W a i j hfit hi hj).2]
  by_cases ewj : w = j
  · subst ewj
    rw [if_pos (by omega)]
    split
    · subst w; congr 1; omega
    · rw [if_pos rfl]; congr 1; omega
  · have dj := word_disjoint K ewj
    rw [if_neg (by omega)]
    by_cases ewi : w = i
    · subst ewi; rw [if_pos (by omega), if_pos rfl]; congr 1; omega
    · have di := word_disjoint K ewi
      rw [if_neg (by omega), if_neg ewi, if_neg ewj]

theorem getElem?_chunk {α : Type} (K off : Nat) (a : Array α) (w t : Nat) :
    (chunk K off a w)[t]? = if t < K then a[off + w*K + t]? else none := by
  unfold chunk
  rw [Array.getElem?_extract]
  by_cases h : t < K
  · rw [if_pos h]
    split
    · rfl
    · rw [Array.getElem?_eq_none (by omega)]
  · rw [if_neg h, if_neg (by omega)]

theorem chunks_blockSwap {α : Type} (K off W : Nat) (a : Array α) (i j : Nat) (hfit : off + W*K ≤ a.size)
    (hi : i < W) (hj : j < W) :
    chunks K off W (blockSwap K off a i j) =
      (chunks K off W a).swap i j (by simp [chunks]; omega) (by simp [chunks]; omega) := by
  apply Array.ext (by simp [chunks])
  intro w _ _
  have e : chunk K off (blockSwap K off a i j) w = chunk K off a (if w = i then j else if w = j then i else w) := by
    apply Array.ext_getElem?
    intro t
    rw [getElem?_chunk, getElem?_chunk]
    split
    · exact blockSwap_word K off W a i j hfit hi hj w t ‹_›
    · rfl
  rw [Array.getElem_swap]
  simp only [chunks, Array.getElem_map, Array.getElem_range]
  rw [e, apply_ite (chunk K off a), apply_ite (chunk K off a)]

/-- invariant of the k-mer loop: the list of `W` words is a permutation of the input's, everything before the first word
    (leftover prefix, digital sentinel) and after the last word is untouched -/
structure KmerInv {α : Type} (K off W : Nat) (a0 a : Array α) : Prop where
  size : a.size = a0.size
  words : (chunks K off W a).Perm (chunks K off W a0)
  outside : ∀ p, (p < off ∨ off + W*K ≤ p) → a[p]? = a0[p]?

theorem KmerInv.swap {α : Type} {K off W : Nat} {a0 a : Array α} (h : KmerInv K off W a0 a) (hfit : off + W*K ≤ a0.size)
    (i j : Nat) (hi : i < W) (hj : j < W) : KmerInv K off W a0 (blockSwap K off a i j) := by
  have hs := h.size
  obtain ⟨z, g⟩ := blockSwap_spec K off W a i j (by omega) hi hj
  have hiW := word_end_le K hi
  have hjW := word_end_le K hj
  refine ⟨by omega, ?_, ?_⟩
  · rw [chunks_blockSwap K off W a i j (by omega) hi hj]
    exact (Array.swap_perm _ _).trans h.words
  · intro p hp
    rw [g p, if_neg (by omega), if_neg (by omega)]
    exact h.outside p hp

theorem shuffleKmers_inv {α : Type} (base : Nat) (a : Array α) (L K : Nat) (hfit : base + L ≤ a.size) (r : Rng) :
    KmerInv K (base + L % K) (L / K) a (shuffleKmers base a L K r).1 := by
  have hdm : K * (L / K) + L % K = L := Nat.div_add_mod L K
  have hfit' : base + L % K + (L / K) * K ≤ a.size := by rw [Nat.mul_comm]; omega
  unfold shuffleKmers
  exact fyLoop_inv (fun a i j => blockSwap K (base + L % K) a i j) 0 (L / K) (KmerInv K (base + L % K) (L / K) a)
    (fun s i j hs _ hi2 _ hj2 => hs.swap hfit' i j (by omega) (by omega)) (L / K) (Nat.le_refl _) a r
    ⟨rfl, Array.Perm.refl _, fun _ _ => rfl⟩

/-! ## output storage
In place = separate storage: after the initial conditional copy the working storage IS the input, whatever the
    separate storage held before, when it has exactly the input's size (text: `strlen(s)` cells, the NUL is not
    modelled; digital: `L+2` cells). Larger storage: the cells beyond are never touched — not stated here. -/
theorem Out.load_separate {α : Type} (s d : Array α) (h : d.size = s.size) : (Out.separate d).load s = s := by
  obtain ⟨hs, hg⟩ := blit_spec d 0 s (by omega)
  apply Array.ext_getElem?
  intro p
  show (blit d 0 s)[p]? = s[p]?
  rw [hg p]
  by_cases c : p < s.size
  · rw [if_pos ⟨Nat.zero_le _, by omega⟩]; simp
  · rw [if_neg (by omega), Array.getElem?_eq_none (by omega), Array.getElem?_eq_none (by omega)]

@[simp] theorem Out.load_inPlace {α : Type} (s : Array α) : (Out.inPlace : Out α).load s = s := rfl

theorem qrnaOn_self (isGap : UInt8 → Bool) (x y : Bytes) (base L : Nat) (r : Rng) :
    qrnaOn isGap x y x y base L r = qrna isGap x y base L r := rfl

end EaselModel.Shuffle
