import EaselModel.Shuffle.Lemmas
/-! `esl_msashuffle_{C,X}QRNA`: each of the three loops swaps whole columns of one class. -/
namespace EaselModel.Shuffle
open EaselModel.Random

/-- the two-`set` form of the C swap equals `Array.swap` -/
theorem set_set_eq_swap {α : Type} [Inhabited α] (a : Array α) (A B : Nat) (hA : A < a.size) (hB : B < a.size) :
    (a.setIfInBounds A a[B]!).setIfInBounds B a[A]! = a.swap A B hA hB := by
  rw [getElem!_pos a A hA, getElem!_pos a B hB]
  apply Array.ext
  · simp
  · intro k hk1 hk2
    rw [Array.getElem_swap, Array.getElem_setIfInBounds (by simpa using hk1), Array.getElem_setIfInBounds (by simpa using hk1)]
    by_cases e1 : B = k
    · subst e1
      by_cases e2 : A = B
      · subst e2; simp
      · have : ¬ (B = A) := fun e => e2 e.symm
        simp [this]
    · have e1' : ¬ (k = B) := fun e => e1 e.symm
      by_cases e2 : A = k
      · subst e2; simp [e1]
      · have e2' : ¬ (k = A) := fun e => e2 e.symm
        simp [e1, e2, e1', e2']

theorem qrnaStep_seqs (last : Bool) (q : Qrna) (pos n : Nat) (hA : q.col[pos]! < q.xs.size) (hB : q.col[n-1]! < q.xs.size)
    (hs : q.ys.size = q.xs.size) :
    (qrnaStep last q pos n).xs = q.xs.swap (q.col[pos]!) (q.col[n-1]!) hA hB ∧
    (qrnaStep last q pos n).ys = q.ys.swap (q.col[pos]!) (q.col[n-1]!) (by omega) (by omega) := by
  have hc : (q.col.setIfInBounds pos (q.col[n-1]!))[n-1]! = q.col[n-1]! := by
    rcases bang_set_gen q.col pos (n-1) (q.col[n-1]!) with h | ⟨h, _⟩ <;> exact h
  unfold qrnaStep
  simp only [hc]
  exact ⟨set_set_eq_swap q.xs _ _ hA hB, set_set_eq_swap q.ys _ _ (by omega) (by omega)⟩

theorem qrnaStep_col (last : Bool) (q : Qrna) (pos n : Nat) (Q : Nat → Prop) (hQ : ∀ t, t < q.col.size → Q q.col[t]!)
    (hpos : pos < q.col.size) (hn : n - 1 < q.col.size) :
    (qrnaStep last q pos n).col.size = q.col.size ∧ ∀ t, t < q.col.size → Q (qrnaStep last q pos n).col[t]! := by
  unfold qrnaStep
  refine ⟨by simp, fun t ht => ?_⟩
  simp only []
  rcases bang_set_gen (q.col.setIfInBounds pos (q.col[n-1]!)) (if last = true then n - 1 else pos) t (q.col[pos]!) with h | ⟨h, _⟩
  · rw [h]
    rcases bang_set_gen q.col pos t (q.col[n-1]!) with h' | ⟨h', _⟩
    · rw [h']; exact hQ t ht
    · rw [h']; exact hQ _ hn
  · rw [h]; exact hQ _ hpos

def colClass (isGap : UInt8 → Bool) (x y : Bytes) (p : Nat) : Bool × Bool := (isGap x[p]!, isGap y[p]!)

structure QInv (isGap : UInt8 → Bool) (x0 y0 : Bytes) (base L : Nat) (xs ys : Bytes) : Prop where
  sx : xs.size = x0.size
  sy : ys.size = x0.size
  cls : ∀ p, p < x0.size → colClass isGap xs ys p = colClass isGap x0 y0 p
  zip : (xs.zip ys).Perm (x0.zip y0)
  outside : ∀ p, (p < base ∨ base + L ≤ p) → xs[p]? = x0[p]? ∧ ys[p]? = y0[p]?

theorem zip_swap {α β : Type} (a : Array α) (b : Array β) (A B : Nat) (hs : b.size = a.size) (hA : A < a.size) (hB : B < a.size) :
    (a.swap A B hA hB).zip (b.swap A B (by omega) (by omega)) = (a.zip b).swap A B (by simp; omega) (by simp; omega) := by
  apply Array.ext
  · simp
  · intro k hk1 hk2
    rw [Array.getElem_zip, Array.getElem_swap, Array.getElem_swap, Array.getElem_swap]
    simp only [Array.getElem_zip]
    split
    · rfl
    · split <;> rfl

theorem QInv.swap {isGap : UInt8 → Bool} {x0 y0 : Bytes} {base L : Nat} {xs ys : Bytes} (h : QInv isGap x0 y0 base L xs ys)
    (hy0 : y0.size = x0.size) (k : Bool × Bool) (A B : Nat) (hA : A < x0.size) (hB : B < x0.size)
    (hA' : base ≤ A ∧ A < base + L) (hB' : base ≤ B ∧ B < base + L)
    (cA : colClass isGap x0 y0 A = k) (cB : colClass isGap x0 y0 B = k) :
    QInv isGap x0 y0 base L (xs.swap A B (by rw [h.sx]; exact hA) (by rw [h.sx]; exact hB))
      (ys.swap A B (by rw [h.sy]; exact hA) (by rw [h.sy]; exact hB)) := by
  have hsx := h.sx
  have hsy := h.sy
  refine ⟨by simp [hsx], by simp [hsy], ?_, ?_, ?_⟩
  · intro p hp
    have hcA := h.cls A hA
    have hcB := h.cls B hB
    have hcp := h.cls p hp
    simp only [colClass] at hcA hcB hcp cA cB ⊢
    rw [getElem!_pos _ p (by simp [hsx]; exact hp), getElem!_pos _ p (by simp [hsy]; exact hp), Array.getElem_swap, Array.getElem_swap]
    rw [getElem!_pos xs A (by omega), getElem!_pos ys A (by omega)] at hcA
    rw [getElem!_pos xs B (by omega), getElem!_pos ys B (by omega)] at hcB
    rw [getElem!_pos xs p (by omega), getElem!_pos ys p (by omega)] at hcp
    by_cases e1 : p = A
    · subst e1; simp only [↓reduceIte]; rw [hcB, cB, ← cA]
    · by_cases e2 : p = B
      · subst e2; simp only [e1, ↓reduceIte]; rw [hcA, cA, ← cB]
      · simp only [e1, e2, ↓reduceIte]; exact hcp
  · rw [zip_swap xs ys A B (by omega) (by omega) (by omega)]
    exact (Array.swap_perm _ _).trans h.zip
  · intro p hp
    rw [Array.getElem?_swap, Array.getElem?_swap]
    have e1 : ¬ (B = p) := by omega
    have e2 : ¬ (A = p) := by omega
    simp only [e1, e2, ↓reduceIte]
    exact h.outside p hp

/-- all entries of a column list are in range and of class `k` -/
def ColOK (isGap : UInt8 → Bool) (x0 y0 : Bytes) (base L : Nat) (k : Bool × Bool) (col : Array Nat) : Prop :=
  ∀ t, t < col.size → (base ≤ col[t]! ∧ col[t]! < base + L) ∧ colClass isGap x0 y0 col[t]! = k

theorem qrnaLoop_inv (isGap : UInt8 → Bool) (x0 y0 : Bytes) (base L : Nat) (hfit : base + L ≤ x0.size) (hy0 : y0.size = x0.size)
    (last : Bool) (k : Bool × Bool) (n : Nat) (q : Qrna) (r : Rng) (hn : n ≤ q.col.size) (hcol : ColOK isGap x0 y0 base L k q.col)
    (hq : QInv isGap x0 y0 base L q.xs q.ys) :
    QInv isGap x0 y0 base L (qrnaLoop last n q r).1.xs (qrnaLoop last n q r).1.ys := by
  fun_induction qrnaLoop last n q r with
  | case1 n q r pos r' hr ih =>
    have hpos : pos < n + 2 := by have := roll_lt r (n+2) (by omega); rwa [hr] at this
    have hA := hcol pos (by omega)
    have hB := hcol (n + 2 - 1) (by omega)
    have hAx : q.col[pos]! < q.xs.size := by rw [hq.sx]; omega
    have hBx : q.col[n + 2 - 1]! < q.xs.size := by rw [hq.sx]; omega
    obtain ⟨e1, e2⟩ := qrnaStep_seqs last q pos (n+2) hAx hBx (by rw [hq.sy, hq.sx])
    obtain ⟨c1, c2⟩ := qrnaStep_col last q pos (n+2)
      (fun v => (base ≤ v ∧ v < base + L) ∧ colClass isGap x0 y0 v = k) hcol (by omega) (by omega)
    apply ih (by rw [c1]; omega)
    · intro t ht; rw [c1] at ht; exact c2 t ht
    · rw [e1, e2]
      exact hq.swap hy0 k _ _ (by omega) (by omega) hA.1 hB.1 hA.2 hB.2
  | case2 => exact hq

theorem qrnaCols_ok (isGap : UInt8 → Bool) (x y : Bytes) (base L : Nat) :
    ColOK isGap x y base L (false, false) (qrnaCols isGap x y base L).1 ∧
    ColOK isGap x y base L (false, true) (qrnaCols isGap x y base L).2.1 ∧
    ColOK isGap x y base L (true, false) (qrnaCols isGap x y base L).2.2 := by
  unfold qrnaCols
  have key : ∀ n, n ≤ L →
      let acc := (List.range n).foldl (fun (acc : Array Nat × Array Nat × Array Nat) t =>
        let i := base + t
        let gx := isGap x[i]!
        let gy := isGap y[i]!
        if gx && gy then acc
        else if !gx && !gy then (acc.1.push i, acc.2.1, acc.2.2)
        else if gx then (acc.1, acc.2.1, acc.2.2.push i)
        else (acc.1, acc.2.1.push i, acc.2.2)) (#[], #[], #[])
      ColOK isGap x y base L (false, false) acc.1 ∧ ColOK isGap x y base L (false, true) acc.2.1 ∧
      ColOK isGap x y base L (true, false) acc.2.2 := by
    intro n
    induction n with
    | zero => intro _; simp [ColOK]
    | succ n ih =>
      intro hn
      obtain ⟨h1, h2, h3⟩ := ih (by omega)
      rw [List.range_succ, List.foldl_append]
      simp only [List.foldl_cons, List.foldl_nil]
      have push_ok : ∀ (k : Bool × Bool) (col : Array Nat), ColOK isGap x y base L k col →
          colClass isGap x y (base + n) = k → ColOK isGap x y base L k (col.push (base + n)) := by
        intro k col hc hk t ht
        by_cases e : t < col.size
        · rw [getElem!_pos _ t (by simpa using ht), Array.getElem_push_lt e, ← getElem!_pos col t e]; exact hc t e
        · have : t = col.size := by simp at ht; omega
          subst this
          rw [getElem!_pos _ _ (by simp), Array.getElem_push_eq]
          exact ⟨by omega, hk⟩
      cases hgx : isGap x[base + n]! <;> cases hgy : isGap y[base + n]! <;> simp only [Bool.and_self, Bool.and_true, Bool.and_false,
        Bool.not_true, Bool.not_false, Bool.false_eq_true, ↓reduceIte]
      · exact ⟨push_ok _ _ h1 (by simp [colClass, hgx, hgy]), h2, h3⟩
      · exact ⟨h1, push_ok _ _ h2 (by simp [colClass, hgx, hgy]), h3⟩
      · exact ⟨h1, h2, push_ok _ _ h3 (by simp [colClass, hgx, hgy])⟩
      · exact ⟨h1, h2, h3⟩
  exact key L (Nat.le_refl _)

theorem qrna_spec (isGap : UInt8 → Bool) (x y : Bytes) (base L : Nat) (hfit : base + L ≤ x.size) (hy : y.size = x.size) (r : Rng) :
    QInv isGap x y base L (qrna isGap x y base L r).1.1 (qrna isGap x y base L r).1.2 := by
  obtain ⟨c1, c2, c3⟩ := qrnaCols_ok isGap x y base L
  have q0 : QInv isGap x y base L x y := ⟨rfl, hy, fun _ _ => rfl, Array.Perm.refl _, fun _ _ => ⟨rfl, rfl⟩⟩
  unfold qrna
  simp only
  have i1 := qrnaLoop_inv isGap x y base L hfit hy false (false, false) _ { xs := x, ys := y, col := (qrnaCols isGap x y base L).1 } r
    (Nat.le_refl _) c1 q0
  generalize qrnaLoop false _ { xs := x, ys := y, col := (qrnaCols isGap x y base L).1 } r = s1 at i1 ⊢
  have i2 := qrnaLoop_inv isGap x y base L hfit hy true (false, true) _ { s1.1 with col := (qrnaCols isGap x y base L).2.1 } s1.2
    (Nat.le_refl _) c2 i1
  generalize qrnaLoop true _ { s1.1 with col := (qrnaCols isGap x y base L).2.1 } s1.2 = s2 at i2 ⊢
  exact qrnaLoop_inv isGap x y base L hfit hy true (true, false) _ { s2.1 with col := (qrnaCols isGap x y base L).2.2 } s2.2
    (Nat.le_refl _) c3 i2

end EaselModel.Shuffle
