import EaselModel.Shuffle.LemmasMarkov1
import Mathlib.Algebra.Order.BigOperators.Group.List
import Mathlib.Data.List.Count
import Mathlib.Algebra.Order.Group.Nat
/-! `esl_rsq_{C,X}Markov0/1` never reach `esl_fatal`, for any carrier in which counting is exact.

The resamplers only ever hand `esl_rnd_DChoose` vectors of RATIOS OF COUNTS `a/n` (`count(k)/L`; `p[x][y]/p0[x]`; `p0[x]/L`).
`CountCarrier α B` says what that needs of the arithmetic, up to a bound `B` on counts and vector lengths: the counts are exact
(`ofNat` commutes with `+`), and the chooser returns on every such vector that has a positive entry. Everything else — which
ratios occur, that a residue of the input has a circular successor, that the residue chosen is again one of the input — is said
once here; ℚ (every `B`) and `Ieee ρ` (`B = 2^32`) each prove the five fields. -/
namespace EaselModel.Shuffle
open EaselModel.Random CNum

structure CountCarrier (α : Type) [CNum α] (B : Nat) : Prop where
  ofNat_zero : (ofNat 0 : α) = zero
  ofNat_one : (ofNat 1 : α) = one
  ofNat_add : ∀ a b, a + b ≤ B → add (ofNat a : α) (ofNat b) = ofNat (a + b)
  zero_lt : ∀ n, 0 < n → n ≤ B → lt (zero : α) (ofNat n) = true
  /-- `esl_rnd_DChoose` returns on the vector `ns[·]/n` for every value of `esl_random()`: `x / 4294967296` (`= 2^32`) for a 32-bit word `x` -/
  choose : ∀ (ns : List Nat) (n x : Nat), ns.length ≤ B → 0 < n → n ≤ B → (∀ a ∈ ns, a ≤ n) → (∃ a ∈ ns, 0 < a) →
    x < 4294967296 → ∃ k, dchoose (div (ofNat x) (ofNat 4294967296) : α) (ns.map fun a => div (ofNat a) (ofNat n)) = some k

/-- how often `x` is followed by `y = 0 … K-1` in the circular reading: row `x` of the count matrix -/
def rowN (K : Nat) (codes : List Nat) (x : Nat) : List Nat := (List.range K).map (fun y => (circPairs codes).count (x, y))

theorem succ_in_append (x z : Nat) (l : List Nat) (hx : x ∈ l) : ∃ y, (x, y) ∈ adjPairs (l ++ [z]) ∧ (y ∈ l ∨ y = z) := by
  obtain ⟨pre, t, rfl⟩ := List.append_of_mem hx
  cases t with
  | nil => exact ⟨z, mem_adjPairs.2 ⟨pre, [], by simp⟩, Or.inr rfl⟩
  | cons y t => exact ⟨y, mem_adjPairs.2 ⟨pre, t ++ [z], by simp⟩, Or.inl (by simp)⟩

/-- a residue of the input has a successor in the circular reading (the last one through `p[x][i0] += 1.0`) -/
theorem circ_succ (codes : List Nat) (x : Nat) (hx : x ∈ codes) : ∃ y, (x, y) ∈ circPairs codes ∧ y ∈ codes := by
  cases codes with
  | nil => simp at hx
  | cons c0 rest =>
    obtain ⟨y, h1, h2⟩ := succ_in_append x c0 (c0 :: rest) hx
    refine ⟨y, by simpa [circPairs] using h1, ?_⟩
    rcases h2 with h2 | h2
    · exact h2
    · rw [h2]; simp

theorem circPairs_length (c0 : Nat) (rest : List Nat) : (circPairs (c0 :: rest)).length = (c0 :: rest).length := by
  simp only [circPairs, List.take_succ_cons, List.take_zero]
  rw [adjPairs_length]
  simp

theorem ind_sum (K : Nat) (p : Nat × Nat) (x : Nat) :
    ((List.range K).map (fun y => if p == (x, y) then 1 else 0)).sum = if p.1 = x ∧ p.2 < K then 1 else 0 := by
  obtain ⟨a, b⟩ := p
  induction K with
  | zero => simp
  | succ K ih =>
    rw [List.range_succ, List.map_append, List.sum_append, ih]
    simp only [List.map_cons, List.map_nil, List.sum_cons, List.sum_nil, Nat.add_zero, beq_iff_eq, Prod.mk.injEq]
    split_ifs <;> omega

theorem count_row_le (K : Nat) (l : List (Nat × Nat)) (x : Nat) :
    ((List.range K).map (fun y => l.count (x, y))).sum ≤ l.length := by
  induction l with
  | nil => simp
  | cons p t ih =>
    have : ((List.range K).map (fun y => (p :: t).count (x, y))).sum =
        ((List.range K).map (fun y => t.count (x, y))).sum + ((List.range K).map (fun y => if p == (x, y) then 1 else 0)).sum := by
      rw [← List.sum_map_add]
      congr 1
      apply List.map_congr_left
      intro y _
      rw [List.count_cons]
    rw [this, ind_sum]
    simp only [List.length_cons]
    split_ifs <;> omega

theorem rowN_sum_le (K : Nat) (c0 : Nat) (rest : List Nat) (x : Nat) :
    (rowN K (c0 :: rest) x).sum ≤ (c0 :: rest).length := by
  rw [← circPairs_length]; exact count_row_le K _ x

/-- the row of a residue of the input has a positive entry — at its circular successor -/
theorem rowN_pos (K : Nat) (codes : List Nat) (hK : ∀ c ∈ codes, c < K) (x : Nat) (hx : x ∈ codes) :
    ∃ a ∈ rowN K codes x, 0 < a := by
  obtain ⟨y, hy1, hy2⟩ := circ_succ codes x hx
  exact ⟨_, List.mem_map.2 ⟨y, List.mem_range.2 (hK y hy2), rfl⟩, List.count_pos_iff.2 hy1⟩

namespace CountCarrier
variable {α : Type} [CNum α] {B : Nat} (C : CountCarrier α B)
include C

theorem bump_ofNat (n a : Nat) (h : a + n ≤ B) : bump n (ofNat a : α) = ofNat (a + n) := by
  induction n generalizing a with
  | zero => rfl
  | succ n ih => rw [bump, ← C.ofNat_one, C.ofNat_add a 1 (by omega), ih (a + 1) (by omega), Nat.add_right_comm, Nat.add_assoc]

theorem foldl_ofNat : ∀ (ns : List Nat) (a : Nat), a + ns.sum ≤ B →
    (ns.map (fun n => (ofNat n : α))).foldl add (ofNat a) = ofNat (a + ns.sum) := by
  intro ns
  induction ns with
  | nil => intro a _; simp
  | cons n t ih =>
    intro a h
    simp only [List.sum_cons] at h
    simp only [List.map_cons, List.foldl_cons, List.sum_cons]
    rw [C.ofNat_add a n (by omega), ih (a + n) (by omega)]
    congr 1; omega

/-- the emission vector of `esl_rsq_{C,X}Markov0`: the exact counts over the length -/
theorem markov0P_eq (K : Nat) (codes : List Nat) (hne : codes ≠ []) (hlen : codes.length ≤ B) :
    markov0P (α := α) K codes =
      ((List.range K).map (fun k => codes.count k)).map (fun a => (div (ofNat a) (ofNat codes.length) : α)) := by
  have hpos : codes.length > 0 := List.length_pos_iff.2 hne
  apply List.ext_getElem?
  intro k
  have hcnt := List.count_le_length (a := k) (l := codes)
  unfold markov0P
  simp only [hpos, ↓reduceIte, Array.toList_map, List.getElem?_map, Array.getElem?_toList]
  rw [count_iterate, Array.getElem?_replicate]
  by_cases hk : k < K
  · rw [if_pos hk, List.getElem?_range hk]
    simp only [Option.map_some]
    rw [← C.ofNat_zero, C.bump_ofNat _ 0 (by omega), Nat.zero_add]
  · rw [if_neg hk, List.getElem?_eq_none (by simpa using hk)]; rfl

theorem markov0_total (K : Nat) (codes : List Nat) (hK : ∀ c ∈ codes, c < K) (hlen : codes.length ≤ B) (hKb : K ≤ B) (r : Rng) :
    ∃ out, (markov0 (α := α) K codes r).1 = some out := by
  unfold markov0
  by_cases hne : codes = []
  · subst hne; exact ⟨#[], rfl⟩
  · rw [C.markov0P_eq K codes hne hlen]
    obtain ⟨c0, rest, rfl⟩ := List.exists_cons_of_ne_nil hne
    refine iidLoop_total_of _ (fun x hx => ?_) _ r #[]
    exact C.choose _ _ x (by simpa using hKb) (by simp) hlen
      (fun a ha => by obtain ⟨k, _, rfl⟩ := List.mem_map.1 ha; exact List.count_le_length)
      ⟨_, List.mem_map.2 ⟨c0, List.mem_range.2 (hK c0 (by simp)), rfl⟩, by simp⟩ hx

theorem markov1Counts_ofNat (K c0 : Nat) (rest : List Nat) (hlen : (c0 :: rest).length ≤ B) (x y : Nat) :
    ent (markov1Counts (α := α) K (c0 :: rest)) x y =
      if x < K ∧ y < K then some (ofNat ((circPairs (c0 :: rest)).count (x, y))) else none := by
  have hcnt := List.count_le_length (a := (x, y)) (l := circPairs (c0 :: rest))
  rw [circPairs_length] at hcnt
  rw [markov1Counts_iterate, ← C.ofNat_zero, C.bump_ofNat _ 0 (by omega), Nat.zero_add]

theorem markov1Counts_row (K c0 : Nat) (rest : List Nat) (hlen : (c0 :: rest).length ≤ B) (x : Nat) (hx : x < K) :
    ∃ row, (markov1Counts (α := α) K (c0 :: rest))[x]? = some row ∧
      row.toList = (rowN K (c0 :: rest) x).map (fun n => (ofNat n : α)) := by
  obtain ⟨row, h1, h2⟩ := markov1Counts_row_iterate (α := α) K c0 rest x hx
  refine ⟨row, h1, ?_⟩
  rw [h2, rowN, List.map_map]
  apply List.map_congr_left
  intro y _
  have hcnt := List.count_le_length (a := (x, y)) (l := circPairs (c0 :: rest))
  rw [circPairs_length] at hcnt
  rw [← C.ofNat_zero, C.bump_ofNat _ 0 (by omega), Nat.zero_add]
  rfl

theorem row_sum (K c0 : Nat) (rest : List Nat) (hlen : (c0 :: rest).length ≤ B) (x : Nat) (row : Array α)
    (h : row.toList = (rowN K (c0 :: rest) x).map (fun n => (ofNat n : α))) :
    row.foldl add zero = ofNat (rowN K (c0 :: rest) x).sum := by
  rw [← Array.foldl_toList, h, ← C.ofNat_zero, C.foldl_ofNat _ 0 (by have := rowN_sum_le K c0 rest x; omega), Nat.zero_add]

/-- the conditional row `p[x]` of `esl_rsq_{C,X}Markov1`: the exact counts over their sum -/
theorem markov1P_row (K c0 : Nat) (rest : List Nat) (hlen : (c0 :: rest).length ≤ B) (x : Nat) (hx : x < K)
    (hS : 0 < (rowN K (c0 :: rest) x).sum) :
    (((markov1P (c0 :: rest).length (markov1Counts (α := α) K (c0 :: rest))).1)[x]!).toList =
      (rowN K (c0 :: rest) x).map (fun n => (div (ofNat n) (ofNat (rowN K (c0 :: rest) x).sum) : α)) := by
  obtain ⟨row, h1, h2⟩ := C.markov1Counts_row K c0 rest hlen x hx
  have hlt := C.zero_lt _ hS (le_trans (rowN_sum_le K c0 rest x) hlen)
  rw [markov1P_row_eq _ _ x row h1, C.row_sum K c0 rest hlen x row h2, h2]
  simp only [hlt, ↓reduceIte, List.map_map]
  rfl

/-- the marginal `p0` -/
theorem markov1P_marginal (K c0 : Nat) (rest : List Nat) (hlen : (c0 :: rest).length ≤ B) :
    ((markov1P (c0 :: rest).length (markov1Counts (α := α) K (c0 :: rest))).2).toList =
      ((List.range K).map (fun x => (rowN K (c0 :: rest) x).sum)).map
        (fun s => (div (ofNat s) (ofNat (c0 :: rest).length) : α)) := by
  apply List.ext_getElem?
  intro x
  simp only [markov1P, Array.toList_map, List.getElem?_map, Array.getElem?_toList]
  by_cases hx : x < K
  · obtain ⟨row, h1, h2⟩ := C.markov1Counts_row K c0 rest hlen x hx
    rw [h1, List.getElem?_range hx]
    simp only [Option.map_some, Option.some.injEq]
    rw [C.row_sum K c0 rest hlen x row h2]
  · rw [Array.getElem?_eq_none (by rw [markov1Counts_size]; omega), List.getElem?_eq_none (by simpa using hx)]
    rfl

variable [LawfulCNum α]

/-- the generation loop never falls through as long as the current residue occurs in the input — and then so does the next -/
theorem markov1Loop_total (K c0 : Nat) (rest : List Nat) (hK : ∀ c ∈ c0 :: rest, c < K)
    (hlen : (c0 :: rest).length ≤ B) (hKb : K ≤ B) :
    ∀ (n x : Nat) (r : Rng) (acc : Array Nat), x ∈ c0 :: rest →
    ∃ out, (markov1Loop ((markov1P (c0 :: rest).length (markov1Counts (α := α) K (c0 :: rest))).1) n x r acc).1 = some out := by
  intro n
  induction n with
  | zero => intro x r acc _; exact ⟨acc, rfl⟩
  | succ n ih =>
    intro x r acc hx
    simp only [markov1Loop]
    have hpos := rowN_pos K (c0 :: rest) hK x hx
    have hS := List.sum_pos_iff_exists_pos_nat.mpr hpos
    obtain ⟨xn, hxn, hrn⟩ := randomNum_lt (α := α) r
    have hrow := C.markov1P_row K c0 rest hlen x (hK x hx) hS
    obtain ⟨y, hy⟩ := C.choose (rowN K (c0 :: rest) x) _ xn (by simpa [rowN] using hKb) hS
      (le_trans (rowN_sum_le K c0 rest x) hlen) (fun a ha => List.single_le_sum (fun _ _ => Nat.zero_le _) _ ha) hpos hxn
    rw [hrn, hrow, hy]
    apply ih
    -- the chosen residue has a non-zero conditional probability: `(x, y)` is a circular pair of the input
    rw [← hrow] at hy
    exact circ_snd_mem _ x y (markov1_next_pair K (c0 :: rest) x y xn hy)

theorem markov1_total (K : Nat) (codes : List Nat) (hK : ∀ c ∈ codes, c < K) (h2 : 2 < codes.length)
    (hlen : codes.length ≤ B) (hKb : K ≤ B) (r : Rng) : ∃ out, (markov1 (α := α) K codes r).1 = some out := by
  obtain ⟨c0, rest, rfl⟩ := List.exists_cons_of_ne_nil (show codes ≠ [] by intro e; simp [e] at h2)
  unfold markov1
  simp only
  obtain ⟨xn, hxn, hrn⟩ := randomNum_lt (α := α) r
  have hmarg := C.markov1P_marginal K c0 rest hlen
  obtain ⟨x, hx⟩ := C.choose ((List.range K).map (fun x => (rowN K (c0 :: rest) x).sum)) (c0 :: rest).length xn
    (by simpa using hKb) (by simp) hlen
    (fun a ha => by obtain ⟨x, _, rfl⟩ := List.mem_map.1 ha; exact rowN_sum_le K c0 rest x)
    ⟨_, List.mem_map.2 ⟨c0, List.mem_range.2 (hK c0 (by simp)), rfl⟩,
      List.sum_pos_iff_exists_pos_nat.mpr (rowN_pos K (c0 :: rest) hK c0 (by simp))⟩ hxn
  rw [hrn, hmarg, hx]
  apply C.markov1Loop_total K c0 rest hK hlen hKb
  -- the first residue has a non-zero marginal: it occurs in the input
  rw [← hmarg] at hx
  exact markov1_first_mem K (c0 :: rest) (by simp) x xn hx

end CountCarrier
end EaselModel.Shuffle
