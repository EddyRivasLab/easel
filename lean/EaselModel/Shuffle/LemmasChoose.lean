import EaselModel.Shuffle.Lemmas
/-! `esl_rnd_DChoose` never returns an index of probability zero; consequences for i.i.d. generation and for the
    order-0 / order-1 Markov resamplers. Stated over any number type satisfying the few laws actually used
    (`LawfulCNum`: `0 + 0 = 0`, adding `+0.0` does not change the outcome of the test, `0 / d = 0` for `d > 0`, a ratio of two
    naturals is never `<` than `0 / norm`); they are proved for ℚ and for the IEEE-754 carrier `Ieee ρ`. -/
namespace EaselModel.Shuffle
open EaselModel.Random CNum

/-- Every field is valid for EVERY binary64 value (signed zeros, infinities, NaN included), `=` meaning equality of bit
    patterns. `add a zero = a` is NOT among them (`-0.0 + 0.0 = +0.0`); in its place stand the two facts actually used —
    `0.0 + 0.0 = 0.0`, and "adding `+0.0` to the running sum does not change the outcome of DChoose's test". The laws are PROVED for
    the IEEE-754 carrier `Ieee ρ` (any monotone rounding `ρ`, `IeeeCarrier.lean`) and for ℚ (`LawfulRat.lean`). -/
class LawfulCNum (α : Type) [CNum α] : Prop where
  /-- `u < (a + 0.0) / n` has the value of `u < a / n` (for `a = -0.0` the two quotients are zeros of opposite sign or both NaN) -/
  add_zero_cmp : ∀ a u n : α, lt u (div (add a zero) n) = lt u (div a n)
  zero_add_zero : add (zero : α) zero = zero
  /-- `0 / d = 0` when `0 < d` -/
  zero_div_pos : ∀ d : α, lt zero d = true → div zero d = zero
  /-- `0 / (double) n = 0` for an integer `n > 0` -/
  zero_div_ofNat : ∀ n : Nat, 0 < n → div (zero : α) (ofNat n) = zero
  /-- `esl_random()` (a ratio of two naturals) is never below `0 / norm` -/
  not_lt_zero_div : ∀ (x m : Nat) (norm : α), lt (div (ofNat x) (ofNat m)) (div zero norm) = false

variable {α : Type} [CNum α] [LawfulCNum α]

omit [LawfulCNum α] in
theorem randomNum_lt (r : Rng) : ∃ x, x < 4294967296 ∧ (randomNum (α := α) r).1 = div (ofNat x) (ofNat 4294967296) := by
  refine ⟨(r.randomNum).1, ?_, rfl⟩
  unfold Rng.randomNum
  exact (r.next).1.toNat_lt

/-! ## the chooser never returns an entry the test cannot see
`Z` is any notion of "zero entry" such that adding one to the running sum does not change the outcome of the scan's test. For binary64
`Z q` = "`q == 0.0` in C's sense" (`+0.0` or `-0.0`): `IeeeCarrier.lean` proves the hypothesis `hZ` for it, so an entry `-0.0` is never
chosen either. The statements about `q = zero` below are the instance given by the law `add_zero_cmp`. -/
section anyZero
omit [LawfulCNum α]
variable (Z : α → Prop) (hZ : ∀ z, Z z → ∀ a u n : α, lt u (div (add a z) n) = lt u (div a n))
include hZ

theorem dchooseGo_notZ (u norm : α) : ∀ (ps : List α) (sum : α) (i k : Nat),
    lt u (div sum norm) = false → dchooseGo u norm ps sum i = some k →
    i ≤ k ∧ ∃ q, ps[k - i]? = some q ∧ ¬ Z q := by
  intro ps
  induction ps with
  | nil => intro sum i k _ h; simp [dchooseGo] at h
  | cons q rest ih =>
    intro sum i k hprev h
    simp only [dchooseGo] at h
    split at h
    · rename_i hlt
      cases h
      refine ⟨Nat.le_refl _, q, by simp, ?_⟩
      intro hq
      rw [hZ q hq] at hlt
      rw [hprev] at hlt
      cases hlt
    · rename_i hnlt
      have hnlt' : lt u (div (add sum q) norm) = false := by
        cases hb : lt u (div (add sum q) norm) with
        | false => rfl
        | true => exact absurd hb hnlt
      obtain ⟨h1, q', h2, h3⟩ := ih (add sum q) (i+1) k hnlt' h
      refine ⟨by omega, q', ?_, h3⟩
      rw [show k - i = (k - (i+1)) + 1 by omega]
      simpa using h2

theorem dchoose_notZ (u : α) (p : List α) (k : Nat) (h0 : lt u (div zero (p.foldl add zero)) = false)
    (h : dchoose u p = some k) : ∃ q, p[k]? = some q ∧ ¬ Z q := by
  unfold dchoose at h
  obtain ⟨_, q, h2, h3⟩ := dchooseGo_notZ Z hZ _ _ p zero 0 k h0 h
  exact ⟨q, by simpa using h2, h3⟩

theorem iidLoop_support_notZ (p : List α) (h0 : ∀ x : Nat, lt (div (ofNat x) (ofNat 4294967296)) (div zero (p.foldl add zero)) = false) :
    ∀ (n : Nat) (r : Rng) (acc out : Array Nat),
    (iidLoop p n r acc).1 = some out →
    (∀ k ∈ acc, ∃ q, p[k]? = some q ∧ ¬ Z q) → out.size = acc.size + n ∧ ∀ k ∈ out, ∃ q, p[k]? = some q ∧ ¬ Z q := by
  intro n
  induction n with
  | zero => intro r acc out h hacc; simp only [iidLoop] at h; cases h; exact ⟨rfl, hacc⟩
  | succ n ih =>
    intro r acc out h hacc
    simp only [iidLoop] at h
    obtain ⟨x, _, hx⟩ := randomNum_lt (α := α) r
    split at h
    · rename_i i hi
      rw [hx] at hi
      have hnew := dchoose_notZ Z hZ _ p i (h0 x) hi
      obtain ⟨h1, h2⟩ := ih _ (acc.push i) out h (by
        intro k hk
        rcases Array.mem_push.mp hk with hk | hk
        · exact hacc k hk
        · subst hk; exact hnew)
      exact ⟨by simp at h1; omega, h2⟩
    · simp at h
end anyZero

theorem zero_unseen (z : α) (hz : z = zero) (a u n : α) : lt u (div (add a z) n) = lt u (div a n) :=
  hz ▸ LawfulCNum.add_zero_cmp a u n

theorem dchoose_nonzero (x m : Nat) (p : List α) (k : Nat)
    (h : dchoose (div (ofNat x) (ofNat m) : α) p = some k) : ∃ q, p[k]? = some q ∧ q ≠ zero :=
  dchoose_notZ (· = zero) zero_unseen _ p k (LawfulCNum.not_lt_zero_div x m _) h

theorem iidLoop_support (p : List α) : ∀ (n : Nat) (r : Rng) (acc out : Array Nat),
    (iidLoop p n r acc).1 = some out →
    (∀ k ∈ acc, ∃ q, p[k]? = some q ∧ q ≠ zero) → out.size = acc.size + n ∧ ∀ k ∈ out, ∃ q, p[k]? = some q ∧ q ≠ zero :=
  iidLoop_support_notZ (· = zero) zero_unseen p (fun x => LawfulCNum.not_lt_zero_div x 4294967296 _)

omit [LawfulCNum α] in
/-- `v` incremented `n` times, in the carrier's arithmetic -/
def bump : Nat → α → α
  | 0, v => v
  | n+1, v => bump n (add v one)

omit [LawfulCNum α] in
theorem bump_succ (n : Nat) (v : α) : bump (n+1) v = add (bump n v) one := by
  induction n generalizing v with
  | zero => rfl
  | succ n ih => exact ih (add v one)

omit [LawfulCNum α] in
theorem count_iterate (codes : List Nat) : ∀ (init : Array α) (k : Nat),
    (codes.foldl (fun (p : Array α) c => p.modify c (fun v => add v one)) init)[k]? = init[k]?.map (bump (codes.count k)) := by
  induction codes with
  | nil => intro init k; show init[k]? = init[k]?.map (bump 0); cases init[k]? <;> rfl
  | cons c cs ih =>
    intro init k
    rw [List.foldl_cons, ih, Array.getElem?_modify, List.count_cons]
    by_cases e : c = k
    · subst e
      rw [if_pos rfl, Option.map_map, beq_self_eq_true, if_pos rfl]
      rfl
    · rw [if_neg e, if_neg (by simpa using e), Nat.add_zero]

theorem markov0P_support (K : Nat) (codes : List Nat) (k : Nat) (q : α)
    (h : (markov0P (α := α) K codes)[k]? = some q) (hq : q ≠ zero) : k ∈ codes := by
  apply Classical.byContradiction
  intro hk
  apply hq
  have hc : (codes.foldl (fun (p : Array α) c => p.modify c (fun v => add v one)) (Array.replicate K zero))[k]? =
      (Array.replicate K zero)[k]? := by
    rw [count_iterate, List.count_eq_zero.2 hk]
    cases (Array.replicate K (zero : α))[k]? <;> rfl
  unfold markov0P at h
  split at h
  · rename_i hpos
    simp only [Array.toList_map, List.getElem?_map] at h
    rw [Array.getElem?_toList, hc] at h
    simp only [Array.getElem?_replicate] at h
    split at h
    · simp only [Option.map_some, Option.some.injEq] at h
      rw [← h]; exact LawfulCNum.zero_div_ofNat _ hpos
    · simp at h
  · rw [Array.getElem?_toList, hc] at h
    simp only [Array.getElem?_replicate] at h
    split at h
    · simp only [Option.some.injEq] at h; exact h.symm
    · simp at h

theorem markov0_support (K : Nat) (codes : List Nat) (r : Rng) (out : Array Nat)
    (h : (markov0 (α := α) K codes r).1 = some out) : out.size = codes.length ∧ ∀ k ∈ out, k ∈ codes := by
  unfold markov0 at h
  obtain ⟨h1, h2⟩ := iidLoop_support _ codes.length r #[] out h (by simp)
  refine ⟨by simpa using h1, fun k hk => ?_⟩
  obtain ⟨q, hq1, hq2⟩ := h2 k hk
  exact markov0P_support K codes k q hq1 hq2

theorem ofOpt_ok (f : Array Nat → Bytes) (x : Option (Array Nat) × Rng) (out : Bytes) (h : (ofOpt f x).1 = .ok out) :
    ∃ codes, x.1 = some codes ∧ out = f codes := by
  obtain ⟨o, r⟩ := x
  cases o with
  | none => simp [ofOpt] at h
  | some c => simp only [ofOpt, SeqResult.ok.injEq] at h; exact ⟨c, rfl, h.symm⟩

theorem ofOpt_isOk (f : Array Nat → Bytes) (x : Option (Array Nat) × Rng) (h : ∃ out, x.1 = some out) :
    ∃ out, (ofOpt f x).1 = .ok out := by
  obtain ⟨o, r⟩ := x
  obtain ⟨out, rfl⟩ := h
  exact ⟨f out, rfl⟩

/-- the shell of the `esl_rsq_{C,X}Markov*` entry points: `eslEINVAL` exactly when validation fails, else `eslOK` provided
    the body returns `eslOK` on valid input -/
theorem einval_or_ok {bad : Bool} {r : Rng} {x : SeqResult × Rng} (hx : ¬ bad = true → ∃ out, x.1 = .ok out) :
    ((if bad = true then (SeqResult.einval, r) else x).1 = .einval ∧ bad = true) ∨
    (¬ bad = true ∧ ∃ out, (if bad = true then (SeqResult.einval, r) else x).1 = .ok out) := by
  by_cases h : bad = true
  · rw [if_pos h]; exact Or.inl ⟨rfl, h⟩
  · rw [if_neg h]; exact Or.inr ⟨h, hx h⟩

/-! ## the scan never falls off the end (any number type)
The second loop of `esl_rnd_DChoose` adds the same numbers in the same order as the first, so its last running sum IS `norm`;
if `norm / norm = 1` and the roll is `< 1` the last test succeeds at the latest. No ordering laws are needed. -/
section total
omit [LawfulCNum α]

/-- the scan cannot fall off the end when the last running sum — which IS `norm`: the same numbers added in the same order —
    divided by `norm` is above the roll -/
theorem dchooseGo_total_abs (u norm : α) (hlast : lt u (div norm norm) = true) : ∀ (ps : List α) (sum : α) (i : Nat),
    ps ≠ [] → ps.foldl add sum = norm → ∃ k, dchooseGo u norm ps sum i = some k := by
  intro ps
  induction ps with
  | nil => intro sum i h; exact absurd rfl h
  | cons q rest ih =>
    intro sum i _ hf
    simp only [dchooseGo]
    split
    · exact ⟨i, rfl⟩
    · rename_i hn
      cases rest with
      | nil =>
        simp only [List.foldl_cons, List.foldl_nil] at hf
        rw [hf] at hn
        exact absurd hlast hn
      | cons q2 rest2 => exact ih (add sum q) (i+1) (by simp) (by simpa using hf)

theorem dchoose_total_abs (u : α) (p : List α) (hp : p ≠ []) (hself : div (p.foldl add zero) (p.foldl add zero) = one)
    (hu : lt u one = true) : ∃ k, dchoose u p = some k := by
  unfold dchoose
  exact dchooseGo_total_abs u _ (by rw [hself]; exact hu) p zero 0 hp rfl

/-- the generation loop returns when the chooser returns on every value `x/2^32` of `esl_random()` -/
theorem iidLoop_total_of (p : List α)
    (h : ∀ x, x < 4294967296 → ∃ k, dchoose (div (ofNat x) (ofNat 4294967296) : α) p = some k) :
    ∀ (n : Nat) (r : Rng) (acc : Array Nat), ∃ out, (iidLoop p n r acc).1 = some out := by
  intro n
  induction n with
  | zero => intro r acc; exact ⟨acc, rfl⟩
  | succ n ih =>
    intro r acc
    simp only [iidLoop]
    obtain ⟨x, hx, hr⟩ := randomNum_lt (α := α) r
    obtain ⟨k, hk⟩ := h x hx
    rw [hr, hk]
    exact ih _ _

theorem iidLoop_total_abs (p : List α) (hp : p ≠ []) (hself : div (p.foldl add zero) (p.foldl add zero) = one)
    (hu : ∀ x : Nat, x < 4294967296 → lt (div (ofNat x) (ofNat 4294967296) : α) one = true) :
    ∀ (n : Nat) (r : Rng) (acc : Array Nat), ∃ out, (iidLoop p n r acc).1 = some out :=
  iidLoop_total_of p fun x hx => dchoose_total_abs _ p hp hself (hu x hx)
end total

end EaselModel.Shuffle
