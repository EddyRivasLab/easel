import EaselModel.Shuffle.LemmasTermination
import EaselModel.Shuffle.LemmasSample
/-! Progress of the two probabilistically terminating loops, stated on the RAW WORD STREAM.

`esl_rnd_Roll` is `do { u = esl_random_uint32(r) / factor; } while (u >= n);`. `rollOn n ws` is that loop reading its raw
32-bit words from the explicit finite list `ws`: the model on the generator is `rollOn` on the words the generator delivers, and
after any finite run of rejected words ONE more word below `n·f` (more than half of all words) makes it return — so the loop
runs forever only on a stream that stays in the rejection interval forever. The same for one pass of the DP shuffle's
`while (!is_eulerian)`. -/
namespace EaselModel.Shuffle
open EaselModel.Random

/-- `esl_rnd_Roll(r, n)` reading raw words from a list: `some (v, rest)` = returned `v`, `rest` unread;
    `none` = all words rejected, the C loop is still running -/
def rollOn (n : Nat) : List Nat → Option (Nat × List Nat)
  | [] => none
  | x :: xs =>
    match rollWord n x with
    | some v => some (v, xs)
    | none => rollOn n xs

/-- `g` is a rejection loop with acceptance test `f` reading its words from a list: the image of the first accepted word and
    the unread rest, `none` when every word was rejected. `rollOn n` is one for `rollWord n`, `rollOn64 n` for `rollWord64 n`. -/
structure FirstAccepted (f : Nat → Option Nat) (g : List Nat → Option (Nat × List Nat)) : Prop where
  nil : g [] = none
  cons : ∀ x xs, g (x :: xs) = match f x with
    | some v => some (v, xs)
    | none => g xs

namespace FirstAccepted
variable {f : Nat → Option Nat} {g : List Nat → Option (Nat × List Nat)} (h : FirstAccepted f g)
include h

theorem spec : ∀ (ws : List Nat) (v : Nat) (rest : List Nat), g ws = some (v, rest) →
    ∃ pre x, ws = pre ++ x :: rest ∧ (∀ y ∈ pre, f y = none) ∧ f x = some v := by
  intro ws
  induction ws with
  | nil => intro v rest e; rw [h.nil] at e; cases e
  | cons x xs ih =>
    intro v rest e
    rw [h.cons] at e
    split at e
    · rename_i v' hv
      cases e
      exact ⟨[], x, rfl, fun _ hy => absurd hy List.not_mem_nil, hv⟩
    · rename_i hv
      obtain ⟨pre, x', h1, h2, h3⟩ := ih v rest e
      refine ⟨x :: pre, x', by rw [h1]; rfl, fun y hy => ?_, h3⟩
      rcases List.mem_cons.1 hy with e | e
      · rw [e]; exact hv
      · exact h2 y e

theorem length_lt (ws : List Nat) (v : Nat) (rest : List Nat) (e : g ws = some (v, rest)) : rest.length < ws.length := by
  obtain ⟨pre, x, h1, _⟩ := h.spec ws v rest e
  rw [h1, List.length_append, List.length_cons]
  omega

theorem none_iff : ∀ ws : List Nat, g ws = none ↔ ∀ y ∈ ws, f y = none := by
  intro ws
  induction ws with
  | nil => simp [h.nil]
  | cons x xs ih =>
    rw [h.cons]
    cases hx : f x with
    | some v => simp [hx]
    | none => simp [hx, ih]

theorem append_rejected : ∀ (ws tail : List Nat), (∀ y ∈ ws, f y = none) → g (ws ++ tail) = g tail := by
  intro ws
  induction ws with
  | nil => intro tail _; rfl
  | cons x xs ih =>
    intro tail hr
    rw [List.cons_append, h.cons, hr x (by simp)]
    exact ih tail (fun y hy => hr y (by simp [hy]))

theorem append_accepted (ws : List Nat) (e : g ws = none) (w v : Nat) (hw : f w = some v) (tail : List Nat) :
    g (ws ++ w :: tail) = some (v, tail) := by
  rw [h.append_rejected ws _ ((h.none_iff ws).1 e), h.cons, hw]

/-- a rejection loop on a word source (`Src.firstAcc`) is the list loop on the first `fuel` words the source delivers; the source is
    left behind the words read. `ws s k`, `aft s k`: the first `k` words of `s` as numbers, the state after `k` draws. -/
theorem firstAcc_eq {σ ω : Type} {next : σ → ω × σ} (toN : ω → Nat) (ws : σ → Nat → List Nat) (aft : σ → Nat → σ)
    (ws0 : ∀ s, ws s 0 = []) (wsS : ∀ s k, ws s (k+1) = toN (next s).1 :: ws (next s).2 k)
    (aft0 : ∀ s, aft s 0 = s) (aftS : ∀ s k, aft s (k+1) = aft (next s).2 k) :
    ∀ fuel s, Src.firstAcc next (fun x => f (toN x)) fuel s = (g (ws s fuel)).map fun p => (p.1, aft s (fuel - p.2.length)) := by
  have wsl : ∀ k s, (ws s k).length = k := by
    intro k
    induction k with
    | zero => intro s; rw [ws0]; rfl
    | succ k ih => intro s; rw [wsS, List.length_cons, ih]
  intro fuel
  induction fuel with
  | zero => intro s; rw [ws0, h.nil]; rfl
  | succ fuel ih =>
    intro s
    rw [wsS, h.cons]
    simp only [Src.firstAcc]
    cases f (toN (next s).1) with
    | some v => simp only [Option.map_some, wsl, Nat.add_sub_cancel_left, aftS, aft0]
    | none =>
      simp only
      rw [ih]
      cases hr : g (ws (next s).2 fuel) with
      | none => rfl
      | some p =>
        have hl := h.length_lt _ p.1 p.2 hr
        rw [wsl] at hl
        simp only [Option.map_some]
        rw [show fuel + 1 - p.2.length = (fuel - p.2.length) + 1 by omega, aftS]

end FirstAccepted

theorem rollOn_first (n : Nat) : FirstAccepted (rollWord n) (rollOn n) := ⟨rfl, fun _ _ => rfl⟩

/-- the first `k` raw words generator state `r` delivers -/
def rngWords (r : Rng) (k : Nat) : List Nat := (List.range k).map (fun j => (rngWord r j).toNat)

theorem rngWords_length (r : Rng) (k : Nat) : (rngWords r k).length = k := by simp [rngWords]

theorem rngWords_succ (r : Rng) (k : Nat) : rngWords r (k+1) = (r.next).1.toNat :: rngWords (r.next).2 k := by
  unfold rngWords
  rw [List.range_succ_eq_map]
  simp only [List.map_cons, List.map_map]
  congr 1

theorem rngAfter_succ (r : Rng) (k : Nat) : rngAfter r (k+1) = rngAfter (r.next).2 k := rfl

theorem Rng_roll_eq_rollOn (n fuel : Nat) (r : Rng) :
    r.roll n fuel = (rollOn n (rngWords r fuel)).map (fun p => (p.1, rngAfter r (fuel - p.2.length))) := by
  rw [Rng.roll_eq]
  exact (rollOn_first n).firstAcc_eq UInt32.toNat rngWords rngAfter (fun _ => rfl) rngWords_succ (fun _ => rfl) (fun _ _ => rfl) fuel r

theorem rollOn_spec (n : Nat) (ws : List Nat) (v : Nat) (rest : List Nat) (h : rollOn n ws = some (v, rest)) :
    ∃ pre x, ws = pre ++ x :: rest ∧ (∀ y ∈ pre, rollWord n y = none) ∧ rollWord n x = some v ∧
      v < n ∧ v = x / ((2^32 - 1) / n) := by
  obtain ⟨pre, x, h1, h2, hv⟩ := (rollOn_first n).spec ws v rest h
  refine ⟨pre, x, h1, h2, hv, rollWord_lt _ _ _ hv, ?_⟩
  unfold rollWord at hv
  simp only at hv
  split at hv
  · cases hv; rfl
  · cases hv

theorem rollWord_some_of_lt (n x : Nat) (hn : 0 < n) (hn' : n < 2^32) (hx : x < n * ((2^32-1)/n)) :
    ∃ v, rollWord n x = some v ∧ v < n := by
  cases h : rollWord n x with
  | some v => exact ⟨v, rfl, rollWord_lt _ _ _ h⟩
  | none => have := (rollWord_none_iff n x hn hn').1 h; omega

theorem rollWord_mul (n v : Nat) (hn : 0 < n) (hn' : n < 2^32) (hv : v < n) : rollWord n (v * ((2^32-1)/n)) = some v := by
  have hf : 0 < (2^32-1)/n := Nat.div_pos (by omega) hn
  unfold rollWord
  simp only
  rw [Nat.mul_div_cancel _ hf, if_pos hv]

theorem mul_factor_lt (n v : Nat) (hv : v < n) : v * ((2^32-1)/n) < 2^32 := by
  have h1 : n * ((2^32-1)/n) ≤ 2^32-1 := Nat.mul_div_le _ _
  have h2 : v * ((2^32-1)/n) ≤ n * ((2^32-1)/n) := Nat.mul_le_mul_right _ (by omega)
  omega

theorem rollOn_progress (n : Nat) (hn : 0 < n) (hn' : n < 2^32) (ws : List Nat) (h : rollOn n ws = none)
    (w : Nat) (hw : w < n * ((2^32-1)/n)) : ∃ v, rollOn n (ws ++ [w]) = some (v, []) ∧ v < n := by
  obtain ⟨v, h1, h2⟩ := rollWord_some_of_lt n w hn hn' hw
  exact ⟨v, (rollOn_first n).append_accepted ws h w v h1 [], h2⟩

theorem rollOn_reach (n : Nat) (hn : 0 < n) (hn' : n < 2^32) (ws : List Nat) (h : rollOn n ws = none) (v : Nat) (hv : v < n)
    (tail : List Nat) : rollOn n (ws ++ v * ((2^32-1)/n) :: tail) = some (v, tail) :=
  (rollOn_first n).append_accepted ws h _ v (rollWord_mul n v hn hn' hv) tail

/-- step (2) of the DP shuffle with `esl_rnd_Roll` reading from the word list; `none` = a rejection loop ran off the list -/
def dpSelectLastOn (sf : Nat) : List Nat → Edges → List Nat → Option (Edges × List Nat)
  | [], E, ws => some (E, ws)
  | x :: xs, E, ws =>
    if (E[x]!).size == 0 || x == sf then dpSelectLastOn sf xs E ws
    else
      match rollOn (E[x]!).size ws with
      | none => none
      | some (pos, ws') => dpSelectLastOn sf xs (E.modify x (fun l => l.swapIfInBounds pos ((E[x]!).size - 1))) ws'

/-- the words `pos_i · f_i` that make the pass draw the in-range roll vector `rs` -/
def dpWordsFor (sf : Nat) : List Nat → Edges → List Nat → List Nat
  | [], _, _ => []
  | x :: xs, E, rs =>
    if (E[x]!).size == 0 || x == sf then dpWordsFor sf xs E rs
    else
      match rs with
      | [] => []
      | pos :: rs' => pos * ((2^32-1) / (E[x]!).size) ::
          dpWordsFor sf xs (E.modify x (fun l => l.swapIfInBounds pos ((E[x]!).size - 1))) rs'

theorem size_bang_eq_elist (E : Edges) (v : Nat) : (E[v]!).size = (elist E v).length := by simp [elist]

theorem dpSelectLastOn_words (sf : Nat) : ∀ (xs : List Nat) (E : Edges) (rs : List Nat) (tail : List Nat),
    (∀ v, (elist E v).length < 2^32) → DpValidRolls sf xs E rs →
    dpSelectLastOn sf xs E (dpWordsFor sf xs E rs ++ tail) = some (dpSelectLastRolls sf xs E rs, tail) ∧
      (∀ w ∈ dpWordsFor sf xs E rs, w < 2^32) ∧ (dpWordsFor sf xs E rs).length = rs.length := by
  intro xs
  induction xs with
  | nil =>
    intro E rs tail _ hv
    simp only [DpValidRolls] at hv
    subst hv
    simp [dpSelectLastOn, dpWordsFor, dpSelectLastRolls]
  | cons x xs ih =>
    intro E rs tail hb hv
    simp only [dpSelectLastOn, dpWordsFor, dpSelectLastRolls, DpValidRolls] at hv ⊢
    split
    · rename_i hc
      rw [if_pos hc] at hv
      exact ih E rs tail hb hv
    · rename_i hc
      rw [if_neg hc] at hv
      simp only [Bool.or_eq_true, beq_iff_eq, not_or] at hc
      match rs, hv with
      | pos :: rs', hv =>
        obtain ⟨hpos, hv'⟩ := hv
        have hn : 0 < (E[x]!).size := by omega
        have hn' : (E[x]!).size < 2^32 := by rw [size_bang_eq_elist]; exact hb x
        have hb' : ∀ v, (elist (E.modify x (fun l => l.swapIfInBounds pos ((E[x]!).size - 1))) v).length < 2^32 := by
          intro v
          rw [((permEdges_modify_swap E x pos ((E[x]!).size - 1)).perm v).length_eq]
          exact hb v
        obtain ⟨h1, h2, h3⟩ := ih _ rs' tail hb' hv'
        simp only [List.cons_append, rollOn, rollWord_mul _ pos hn hn' hpos]
        refine ⟨h1, ?_, by simp [h3]⟩
        intro w hw
        rcases List.mem_cons.1 hw with e | e
        · rw [e]; exact mul_factor_lt _ pos hpos
        · exact h2 w e

theorem dpSelectLastOn_eq_rolls (sf : Nat) : ∀ (xs : List Nat) (E : Edges) (ws : List Nat) (E' : Edges) (rest : List Nat),
    dpSelectLastOn sf xs E ws = some (E', rest) →
    ∃ rs, DpValidRolls sf xs E rs ∧ E' = dpSelectLastRolls sf xs E rs := by
  intro xs
  induction xs with
  | nil =>
    intro E ws E' rest h
    simp only [dpSelectLastOn, Option.some.injEq, Prod.mk.injEq] at h
    exact ⟨[], rfl, h.1.symm⟩
  | cons x xs ih =>
    intro E ws E' rest h
    simp only [dpSelectLastOn] at h
    split at h
    · rename_i hc
      obtain ⟨rs, h1, h2⟩ := ih E ws E' rest h
      exact ⟨rs, by simp only [DpValidRolls]; rw [if_pos hc]; exact h1, by simp only [dpSelectLastRolls]; rw [if_pos hc]; exact h2⟩
    · rename_i hc
      split at h
      · cases h
      · rename_i pos ws' hr
        obtain ⟨rs, h1, h2⟩ := ih _ ws' E' rest h
        obtain ⟨_, _, _, _, _, hlt, _⟩ := rollOn_spec _ ws pos ws' hr
        refine ⟨pos :: rs, ?_, ?_⟩
        · simp only [DpValidRolls]; rw [if_neg hc]; exact ⟨hlt, h1⟩
        · simp only [dpSelectLastRolls]; rw [if_neg hc]; exact h2

def rollOn64 (n : Nat) : List Nat → Option (Nat × List Nat)
  | [] => none
  | x :: xs =>
    match rollWord64 n x with
    | some v => some (v, xs)
    | none => rollOn64 n xs

def rng64After (r : Rng64) : Nat → Rng64
  | 0 => r
  | k+1 => rng64After (r.next).2 k

/-- the first `k` raw 64-bit words generator state `r` delivers -/
def rng64Words (r : Rng64) : Nat → List Nat
  | 0 => []
  | k+1 => (r.next).1.toNat :: rng64Words (r.next).2 k

theorem rng64Words_length (r : Rng64) (k : Nat) : (rng64Words r k).length = k := by
  induction k generalizing r with
  | zero => rfl
  | succ k ih => simp [rng64Words, ih]

theorem rollOn64_first (n : Nat) : FirstAccepted (rollWord64 n) (rollOn64 n) := ⟨rfl, fun _ _ => rfl⟩

theorem Rng64_roll_eq_rollOn64 (n fuel : Nat) (r : Rng64) :
    r.roll n fuel = (rollOn64 n (rng64Words r fuel)).map (fun p => (p.1, rng64After r (fuel - p.2.length))) := by
  rw [Rng64.roll_eq]
  exact (rollOn64_first n).firstAcc_eq UInt64.toNat rng64Words rng64After (fun _ => rfl) (fun _ _ => rfl) (fun _ => rfl) (fun _ _ => rfl) fuel r

theorem rollOn64_progress (n : Nat) (hn : 0 < n) (hn' : n < 2^64) (ws : List Nat) (h : rollOn64 n ws = none)
    (w : Nat) (hw : w < n * ((2^64-1)/n)) : ∃ v, rollOn64 n (ws ++ [w]) = some (v, []) ∧ v < n := by
  cases hx : rollWord64 n w with
  | some v => exact ⟨v, (rollOn64_first n).append_accepted ws h w v hx [], rollWord64_lt _ _ _ hx⟩
  | none => have := (rollWord64_none_iff n w hn hn').1 hx; omega

theorem rollOn64_lt (n : Nat) (ws : List Nat) (v : Nat) (rest : List Nat) (h : rollOn64 n ws = some (v, rest)) : v < n := by
  obtain ⟨_, x, _, _, hv⟩ := (rollOn64_first n).spec ws v rest h
  exact rollWord64_lt _ _ _ hv


/-! ## from every generator state, a state that differs in ONE table word lets `esl_rnd_Roll` return at once
(the test hook `poke` of the harness realises exactly this state; `temper(0) = 0`, and the word `0` is accepted for every `n`) -/

theorem temper32_zero : temper32 0 = 0 := by decide

theorem rollWord_zero (n : Nat) (hn : 0 < n) : rollWord n 0 = some 0 := by
  unfold rollWord
  simp [hn]

theorem poke_ready (r : Rng) (hk : r.kind = .mersenne) (hs : r.st.mt.size = 624) :
    let r1 := if r.st.mti ≥ 624 then (r.next).2 else r
    r1.kind = .mersenne ∧ r1.st.mt.size = 624 ∧ r1.st.mti < 624 := by
  intro r1
  by_cases h : r.st.mti ≥ 624
  · have e : r1 = (r.next).2 := by simp [r1, h]
    rw [e]
    simp only [Rng.next, hk, EaselModel.MTP.next]
    have hN : P32.N = 624 := rfl
    simp only [hN, h, ↓reduceIte]
    refine ⟨trivial, ?_, by omega⟩
    simp only [EaselModel.MTP.refill]
    rw [EaselModel.MTP.size_fillA, hs]
  · have e : r1 = r := by simp [r1, h]
    rw [e]
    exact ⟨hk, hs, by omega⟩

theorem roll_returns_after_poke (r : Rng) (hk : r.kind = .mersenne) (hs : r.st.mt.size = 624) (n fuel : Nat) (hn : 0 < n) :
    ∃ r', (r.pokeRaw 0).roll n (fuel+1) = some (0, r') := by
  obtain ⟨h1, h2, h3⟩ := poke_ready r hk hs
  simp only [Rng.pokeRaw, hk]
  generalize (if r.st.mti ≥ 624 then (r.next).2 else r) = r1 at h1 h2 h3
  simp only [Rng.roll, Rng.next, h1, EaselModel.MTP.next]
  have hN : P32.N = 624 := rfl
  have hlt : ¬ (r1.st.mti ≥ P32.N) := by rw [hN]; omega
  simp only [hlt, ↓reduceIte]
  have hv : (r1.st.mt.setIfInBounds r1.st.mti (0 : UInt32)).getD r1.st.mti default = 0 := by
    rw [Array.getD_eq_getD_getElem?, Array.getElem?_setIfInBounds]
    simp [h2, h3]
  have ht : P32.temper = temper32 := rfl
  rw [ht, hv, temper32_zero]
  simp [rollWord_zero n hn]
end EaselModel.Shuffle
