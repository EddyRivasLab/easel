import EaselModel.Shuffle.Lemmas
/-! The two retry loops return the FIRST accepted draw: `esl_rnd_Roll`'s rejection loop and the `while (!is_eulerian)` loop of the
    DP shuffle.  Both are modelled with fuel: that `esl_rnd_Roll` returns from every state on the stream of a seed is C09's
    `roll_terminates_on_stream`; for an arbitrary generator state, and for the DP retry, termination is not proved. -/
namespace EaselModel.Shuffle
open EaselModel.Random

/-- generator state after `k` raw draws -/
def rngAfter (r : Rng) : Nat → Rng
  | 0 => r
  | k+1 => rngAfter (r.next).2 k

/-- the `k`-th raw 32-bit word drawn from state `r` (`k = 0` is the next one) -/
def rngWord (r : Rng) (k : Nat) : UInt32 := ((rngAfter r k).next).1

theorem rngWord_succ (r : Rng) (k : Nat) : rngWord r (k+1) = rngWord (r.next).2 k := rfl

theorem rngAfter_eq (r : Rng) (k : Nat) : rngAfter r k = Src.after Rng.next k r := by
  induction k generalizing r with
  | zero => rfl
  | succ k ih => exact ih _

theorem rngWord_eq (r : Rng) (k : Nat) : rngWord r k = Src.word Rng.next r k := by
  unfold rngWord Src.word
  rw [rngAfter_eq]

theorem Rng_roll_first_accepted (n fuel : Nat) (r : Rng) :
    match r.roll n fuel with
    | some (v, r') => ∃ k, k < fuel ∧ rollWord n (rngWord r k).toNat = some v ∧ r' = rngAfter r (k+1) ∧
                        ∀ j, j < k → rollWord n (rngWord r j).toNat = none
    | none => ∀ j, j < fuel → rollWord n (rngWord r j).toNat = none := by
  simp only [rngWord_eq, rngAfter_eq]
  cases h : r.roll n fuel with
  | some p =>
    rw [Rng.roll_eq] at h
    obtain ⟨i, hi, hrej, hv, hs⟩ := Src.firstAcc_some fuel r h
    exact ⟨i, hi, hv, hs, hrej⟩
  | none =>
    rw [Rng.roll_eq] at h
    exact (Src.firstAcc_none fuel r).1 h

/-- one pass of the loop body: last-edge selection (step 2) -/
def dpAttemptStep (K sf : Nat) (s : Edges × Rng) : Edges × Rng := dpSelectLast sf (List.range K) s.1 s.2
/-- state after `k` passes -/
def dpAttempt (K sf : Nat) (s : Edges × Rng) : Nat → Edges × Rng
  | 0 => s
  | k+1 => dpAttempt K sf (dpAttemptStep K sf s) k
/-- the code's acceptance test (steps 3–4) on an edge ordering -/
def dpAccepted (K sf : Nat) (E : Edges) : Bool :=
  dpIsEulerian E K sf (dpConnect E K (K+1) ((Array.replicate K false).setIfInBounds sf true))

theorem dpFind_first_accepted (K sf : Nat) : ∀ (fuel : Nat) (E : Edges) (r : Rng),
    match dpFind K sf fuel E r with
    | some s => ∃ k, k < fuel ∧ s = dpAttempt K sf (E, r) (k+1) ∧ dpAccepted K sf s.1 = true ∧
                  ∀ j, j < k → dpAccepted K sf (dpAttempt K sf (E, r) (j+1)).1 = false
    | none => ∀ j, j < fuel → dpAccepted K sf (dpAttempt K sf (E, r) (j+1)).1 = false := by
  intro fuel
  induction fuel with
  | zero => intro E r; simp [dpFind]
  | succ fuel ih =>
    intro E r
    simp only [dpFind]
    by_cases hacc : dpAccepted K sf (dpSelectLast sf (List.range K) E r).1 = true
    · have hacc' := hacc
      unfold dpAccepted at hacc'
      rw [if_pos hacc']
      exact ⟨0, by omega, rfl, hacc, fun j hj => by omega⟩
    · have hacc' := hacc
      unfold dpAccepted at hacc'
      rw [if_neg hacc']
      have hf : dpAccepted K sf (dpSelectLast sf (List.range K) E r).1 = false := by
        cases h : dpAccepted K sf (dpSelectLast sf (List.range K) E r).1 <;> simp_all
      have := ih (dpSelectLast sf (List.range K) E r).1 (dpSelectLast sf (List.range K) E r).2
      cases hr : dpFind K sf fuel (dpSelectLast sf (List.range K) E r).1 (dpSelectLast sf (List.range K) E r).2 with
      | some s =>
        rw [hr] at this
        simp only at this ⊢
        obtain ⟨k, hk, h1, h2, h3⟩ := this
        refine ⟨k+1, by omega, h1, h2, fun j hj => ?_⟩
        cases j with
        | zero => exact hf
        | succ j => exact h3 j (by omega)
      | none =>
        rw [hr] at this
        simp only at this ⊢
        intro j hj
        cases j with
        | zero => exact hf
        | succ j => exact this j (by omega)

end EaselModel.Shuffle
