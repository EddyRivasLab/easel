import EaselModel.Shuffle.LemmasDP
/-! The Altschul–Erickson / BEST argument for the DP shuffle: once every vertex with edges is connected to `s_f` in the
    last-edge graph, the walk of step (6) ends on `s_f` and consumes every edge — the code's two reality checks cannot fire, and
    the output has the input's ordered-pair multiset (`shuffleDPcore_spec`). -/
namespace EaselModel.Shuffle
open EaselModel.Random
open scoped List

def cnt1 (v : Nat) (l : List (Nat × Nat)) : Nat := l.countP (fun pr => pr.1 == v)
def cnt2 (v : Nat) (l : List (Nat × Nat)) : Nat := l.countP (fun pr => pr.2 == v)

def ind (b : Prop) [Decidable b] : Nat := if b then 1 else 0

/-- in a vertex sequence from `a` to `b`: departures + [it is the last] = arrivals + [it is the first] -/
theorem adjPairs_balance (v : Nat) (l : List Nat) (a b : Nat) (hh : l.head? = some a) (hl : l.getLast? = some b) :
    cnt1 v (adjPairs l) + ind (b = v) = cnt2 v (adjPairs l) + ind (a = v) := by
  induction l generalizing a with
  | nil => cases hh
  | cons c t ih =>
    obtain rfl : c = a := by simpa using hh
    cases t with
    | nil => obtain rfl : c = b := by simpa using hl
             simp [adjPairs, cnt1, cnt2]
    | cons d t =>
      have := ih d rfl (by rwa [List.getLast?_cons_cons] at hl)
      simp only [adjPairs, cnt1, cnt2, List.countP_cons] at this ⊢
      have e1 : (if ((c, d).1 == v) = true then 1 else 0) = ind (c = v) := by simp [ind]
      have e2 : (if ((c, d).2 == v) = true then 1 else 0) = ind (d = v) := by simp [ind]
      rw [e1, e2]
      omega

theorem cnt1_gather (g : Nat → List Nat) (v K : Nat) :
    cnt1 v (gather (fun u => (g u).map (fun y => (u, y))) K) = if v < K then (g v).length else 0 := by
  rw [cnt1, List.countP_eq_length_filter, filter_gather]
  split <;> simp

theorem count_map_pair (v w : Nat) (l : List Nat) : (l.map (fun y => (v, y))).count (v, w) = l.count w := by
  induction l with
  | nil => rfl
  | cons a t ih => simp only [List.map_cons, List.count_cons, ih]; simp

theorem count_gather (g : Nat → List Nat) (v w K : Nat) :
    (gather (fun u => (g u).map (fun y => (u, y))) K).count (v, w) = if v < K then (g v).count w else 0 := by
  rw [← List.count_filter (p := fun pr : Nat × Nat => pr.1 == v) (beq_self_eq_true v), filter_gather]
  split
  · exact count_map_pair v w _
  · rfl

theorem sublist_count_eq {β : Type} [BEq β] [LawfulBEq β] (p : β → Bool) (l1 l2 : List β) (hs : l1.Sublist l2)
    (hc : l1.countP p = l2.countP p) (e : β) (he : p e = true) : l1.count e = l2.count e := by
  have hf := hs.filter p
  have hl : (l1.filter p).length = (l2.filter p).length := by rw [← List.countP_eq_length_filter, ← List.countP_eq_length_filter, hc]
  have := hf.eq_of_length hl
  have c1 : (l1.filter p).count e = l1.count e := by rw [List.count_filter he]
  have c2 : (l2.filter p).count e = l2.count e := by rw [List.count_filter he]
  rw [← c1, ← c2, this]

def lastOf (E : Edges) (v : Nat) : Option Nat := (elist E v).getLast?

/-- `v` is connected to `sf` by following last edges -/
inductive Conn (E : Edges) (sf : Nat) : Nat → Prop
  | base : Conn E sf sf
  | step (v w : Nat) : lastOf E v = some w → Conn E sf w → Conn E sf v

theorem cnt1_used (E : Edges) (iE : Array Nat) (K v : Nat) (hv : v < K) (hle : iE[v]! ≤ (elist E v).length) :
    cnt1 v (usedEdges E iE K) = iE[v]! := by
  unfold usedEdges
  rw [cnt1_gather (fun u => (elist E u).take iE[u]!) v K, if_pos hv, List.length_take]
  omega

theorem cnt1_all (E : Edges) (K v : Nat) (hv : v < K) : cnt1 v (edgePairs E K) = (elist E v).length := by
  unfold edgePairs
  rw [cnt1_gather (fun u => elist E u) v K, if_pos hv]

theorem adjPairs_length' (l : List Nat) (x : Nat) : (adjPairs (l ++ [x])).length = l.length := by
  rw [adjPairs_length]; simp

theorem used_lt (E : Edges) (K c0 x : Nat) (iE out : Array Nat) (h : WalkInv E K c0 x iE out) (hx : iE[x]! < (elist E x).length) :
    out.size + 1 ≤ (edgePairs E K).length := by
  have hsub := usedEdges_sublist E iE K
  have hlen : (usedEdges E iE K).length = out.size := by rw [← h.pairs.length_eq, adjPairs_length']; simp
  have hle := hsub.length_le
  by_cases e : (usedEdges E iE K).length = (edgePairs E K).length
  · have heq := hsub.eq_of_length e
    have c1 := cnt1_used E iE K x h.xlt (h.le x h.xlt)
    have c2 := cnt1_all E K x h.xlt
    rw [heq, c2] at c1
    omega
  · omega

/-- the walk keeps its invariant, and with fuel for every edge it stops on an exhausted vertex -/
theorem dpWalk_run (E : Edges) (K c0 : Nat) (hlt : ∀ v y, y ∈ elist E v → y < K) :
    ∀ (fuel x : Nat) (iE out : Array Nat), WalkInv E K c0 x iE out → iE[x]! < (elist E x).length →
      let res := dpWalk E fuel x iE out
      WalkInv E K c0 res.2.1 res.2.2 res.1 ∧
        ((edgePairs E K).length + 1 ≤ fuel + out.size → res.2.2[res.2.1]! = (elist E res.2.1).length) := by
  intro fuel
  induction fuel with
  | zero =>
    intro x iE out h hx
    refine ⟨by simpa [dpWalk] using h, fun hf => ?_⟩
    have := used_lt E K c0 x iE out h hx
    omega
  | succ fuel ih =>
    intro x iE out h hx
    have hstep := walk_step E K c0 x iE out hlt h hx
    simp only [dpWalk]
    split
    · rename_i heq
      refine ⟨hstep, fun _ => ?_⟩
      simp only [elist, Array.length_toList]
      simpa using heq
    · rename_i hne
      have hyK := hstep.xlt
      have hle := hstep.le _ hyK
      have hne' : (iE.modify x (· + 1))[(E[x]!)[iE[x]!]!]! ≠ (elist E ((E[x]!)[iE[x]!]!)).length := by
        intro e; apply hne; simp only [elist, Array.length_toList] at e; simp [e]
      obtain ⟨a, b⟩ := ih _ _ _ hstep (by omega)
      exact ⟨a, fun hf => b (by simp; omega)⟩

/-- **BEST step**: if the walk has stopped on an exhausted vertex, the degrees are those of a vertex sequence from `c0` to
    `sf`, and every vertex with edges is connected to `sf` by last edges, then the walk stopped on `sf` having used every edge -/
theorem walk_complete (E : Edges) (K c0 sf x : Nat) (iE out : Array Nat)
    (hlt : ∀ v y, y ∈ elist E v → y < K)
    (hbal : ∀ v, cnt1 v (edgePairs E K) + ind (sf = v) = cnt2 v (edgePairs E K) + ind (c0 = v))
    (hconn : ∀ v, v < K → 0 < (elist E v).length → Conn E sf v)
    (h : WalkInv E K c0 x iE out) (hex : iE[x]! = (elist E x).length) :
    x = sf ∧ usedEdges E iE K = edgePairs E K := by
  have hsub := usedEdges_sublist E iE K
  -- balance along the walk
  have hwb : ∀ v, cnt1 v (usedEdges E iE K) + ind (x = v) = cnt2 v (usedEdges E iE K) + ind (c0 = v) := fun v => by
    rw [cnt1, cnt2, ← h.pairs.countP_eq, ← h.pairs.countP_eq]
    exact adjPairs_balance v _ c0 x h.head (by simp)
  have hle2 : ∀ v, cnt2 v (usedEdges E iE K) ≤ cnt2 v (edgePairs E K) := fun v => hsub.countP_le
  -- (W3) the walk stops on sf
  have hxsf : x = sf := by
    apply Classical.byContradiction
    intro hne
    have b1 := hwb x
    have b2 := hbal x
    rw [cnt1_used E iE K x h.xlt (h.le x h.xlt)] at b1
    rw [cnt1_all E K x h.xlt] at b2
    have := hle2 x
    have e1 : ind (x = x) = 1 := by simp [ind]
    have e2 : ind (sf = x) = 0 := by simp [ind]; exact fun e => hne e.symm
    omega
  -- (W4) every vertex connected to sf is exhausted
  have hfull : ∀ v, Conn E sf v → v < K → iE[v]! = (elist E v).length := by
    intro v hc
    induction hc with
    | base => intro _; rw [← hxsf]; exact hex
    | step v w hl _ ih =>
      intro hv
      have hwmem : w ∈ elist E v := List.mem_of_getLast? hl
      have hw : w < K := hlt v w hwmem
      have ihw := ih hw
      have b1 := hwb w
      have b2 := hbal w
      rw [cnt1_used E iE K w hw (h.le w hw), ihw] at b1
      rw [cnt1_all E K w hw] at b2
      have hcnt : cnt2 w (usedEdges E iE K) = cnt2 w (edgePairs E K) := by rw [hxsf] at b1; omega
      have hc := sublist_count_eq (fun pr : Nat × Nat => pr.2 == w) _ _ hsub hcnt (v, w) (by simp)
      unfold usedEdges edgePairs at hc
      rw [count_gather (fun u => (elist E u).take iE[u]!) v w K, count_gather (fun u => elist E u) v w K, if_pos hv, if_pos hv] at hc
      have hle := h.le v hv
      apply Classical.byContradiction
      intro hne
      have hlt' : iE[v]! < (elist E v).length := by omega
      have hsplit := List.take_append_drop iE[v]! (elist E v)
      have hdl : ((elist E v).drop iE[v]!).getLast? = some w := by
        rw [List.getLast?_drop, if_neg (by omega)]; exact hl
      have hmem : w ∈ (elist E v).drop iE[v]! := List.mem_of_getLast? hdl
      have hpos : 0 < ((elist E v).drop iE[v]!).count w := List.count_pos_iff.mpr hmem
      have : (elist E v).count w = ((elist E v).take iE[v]!).count w + ((elist E v).drop iE[v]!).count w := by
        rw [← List.count_append, hsplit]
      omega
  refine ⟨hxsf, ?_⟩
  unfold usedEdges edgePairs
  apply gather_congr
  intro v hv
  by_cases hz : 0 < (elist E v).length
  · rw [hfull v (hconn v hv hz) hv, List.take_length]
  · have : elist E v = [] := List.eq_nil_of_length_eq_zero (by omega)
    rw [this]; simp

theorem lastOf_eq (E : Edges) (x : Nat) (hn : (E[x]!).size ≠ 0) : lastOf E x = some ((E[x]!)[(E[x]!).size - 1]!) := by
  unfold lastOf elist
  rw [List.getLast?_eq_getElem?, Array.length_toList, Array.getElem?_toList, getElem!_pos (E[x]!) _ (by omega), Array.getElem?_eq_getElem]

theorem dpSweep_inv (E : Edges) (sf : Nat) : ∀ (xs : List Nat) (Z : Array Bool) (keep : Bool),
    (∀ v, Z[v]! = true → Conn E sf v) → ∀ v, (dpSweep E xs Z keep).1[v]! = true → Conn E sf v := by
  intro xs
  induction xs with
  | nil => intro Z keep h; simpa [dpSweep] using h
  | cons x xs ih =>
    intro Z keep h
    simp only [dpSweep]
    split
    · exact ih Z keep h
    · rename_i hn
      split
      · rename_i hc
        apply ih
        intro v hv
        rcases bang_set_gen Z x v true with e | ⟨_, e⟩
        · exact h v (e ▸ hv)
        · subst e
          simp only [Bool.and_eq_true, Bool.not_eq_true'] at hc
          exact Conn.step x _ (lastOf_eq E x (by simpa using hn)) (h _ hc.2)
      · exact ih Z keep h

theorem dpConnect_inv (E : Edges) (K sf : Nat) : ∀ (fuel : Nat) (Z : Array Bool),
    (∀ v, Z[v]! = true → Conn E sf v) → ∀ v, (dpConnect E K fuel Z)[v]! = true → Conn E sf v := by
  intro fuel
  induction fuel with
  | zero => intro Z h; simpa [dpConnect] using h
  | succ fuel ih =>
    intro Z h
    simp only [dpConnect]
    have hs := dpSweep_inv E sf (List.range K) Z false h
    split
    · exact ih _ hs
    · exact hs

theorem dpFind_conn (K sf : Nat) : ∀ (fuel : Nat) (E : Edges) (r : Rng) (E' : Edges) (r' : Rng),
    dpFind K sf fuel E r = some (E', r') → ∀ v, v < K → 0 < (elist E' v).length → Conn E' sf v := by
  intro fuel
  induction fuel with
  | zero => intro E r E' r' h; simp [dpFind] at h
  | succ fuel ih =>
    intro E r E' r' h
    simp only [dpFind] at h
    split at h
    · rename_i heul
      simp only [Option.some.injEq, Prod.mk.injEq] at h
      rw [← h.1]
      intro v hv hpos
      have hz := dpConnect_inv (dpSelectLast sf (List.range K) E r).1 K sf (K+1)
        ((Array.replicate K false).setIfInBounds sf true) (by
          intro u hu
          rcases bang_set_gen (Array.replicate K false) sf u true with e | ⟨_, e⟩
          · rw [e] at hu
            by_cases hk : u < K
            · rw [getElem!_pos _ u (by simpa using hk)] at hu; simp at hu
            · rw [Array.getElem!_eq_getD, Array.getD_eq_getD_getElem?, Array.getElem?_eq_none (by simpa using hk)] at hu
              simp at hu
          · subst e; exact Conn.base)
      simp only [dpIsEulerian, List.all_eq_true, List.mem_range, Bool.or_eq_true, beq_iff_eq] at heul
      rcases heul v hv with (h0 | h1) | h2
      · simp only [elist, Array.length_toList] at hpos; omega
      · subst h1; exact Conn.base
      · exact hz v h2
    · exact ih _ _ E' r' h

/-- step (5) shuffles only the first `nE[x]-1` entries of every list: lengths and last edges are unchanged -/
theorem dpPermute_last : ∀ (xs : List Nat) (E : Edges) (r : Rng) (v : Nat),
    lastOf (dpPermute xs E r).1 v = lastOf E v ∧ (elist (dpPermute xs E r).1 v).length = (elist E v).length := by
  intro xs
  induction xs with
  | nil => intro E r v; exact ⟨rfl, rfl⟩
  | cons x xs ih =>
    intro E r v
    simp only [dpPermute]
    obtain ⟨h1, h2⟩ := ih (E.setIfInBounds x (fyLoop (fun (a : Array Nat) i j => a.swapIfInBounds i j) 0 ((E[x]!).size - 1) (E[x]!) r).1)
      (fyLoop (fun (a : Array Nat) i j => a.swapIfInBounds i j) 0 ((E[x]!).size - 1) (E[x]!) r).2 v
    rw [h1, h2]
    by_cases e : x = v
    · subst e
      by_cases hx : x < E.size
      · have hrp := fyLoop_permOn 0 ((E[x]!).size - 1) (E[x]!) r
        generalize (fyLoop (fun (a : Array Nat) i j => a.swapIfInBounds i j) 0 ((E[x]!).size - 1) (E[x]!) r).1 = l at hrp ⊢
        unfold lastOf
        rw [elist_set_eq E x l hx]
        have hsz := hrp.perm.size_eq
        refine ⟨?_, by simp [elist, hsz]⟩
        simp only [elist, List.getLast?_eq_getElem?, Array.length_toList, Array.getElem?_toList, hsz]
        exact hrp.outside _ (by omega)
      · rw [Array.setIfInBounds_eq_of_size_le (by omega)]; exact ⟨rfl, rfl⟩
    · unfold lastOf; rw [elist_set_ne E x v _ e]; exact ⟨rfl, rfl⟩

theorem Conn.transfer {E E' : Edges} {sf : Nat} (hl : ∀ v, lastOf E' v = lastOf E v) {v : Nat} (h : Conn E sf v) : Conn E' sf v := by
  induction h with
  | base => exact Conn.base
  | step v w hv _ ih => exact Conn.step v w (by rw [hl]; exact hv) ih

theorem shuffleDPcore_spec (K : Nat) (codes : List Nat) (hK : ∀ c ∈ codes, c < K) (hlen : 2 < codes.length) (r : Rng) :
    shuffleDPcore K codes r = (.nohalt, r) ∨
    ∃ out r', shuffleDPcore K codes r = (.ok out, r') ∧ out.size = codes.length ∧ out.toList.head? = codes.head? ∧
      out.toList.getLast? = codes.getLast? ∧ (adjPairs out.toList).Perm (adjPairs codes) := by
  obtain ⟨c0, c1, rest, hc⟩ : ∃ c0 c1 rest, codes = c0 :: c1 :: rest := by
    match codes, hlen with
    | c0 :: c1 :: rest, _ => exact ⟨c0, c1, rest, rfl⟩
  unfold shuffleDPcore
  simp only
  split
  · exact Or.inl rfl
  · rename_i E1 r1 hfind
    right
    have p1 := dpFind_perm K _ _ _ _ E1 r1 hfind
    have hconn1 := dpFind_conn K _ _ _ _ E1 r1 hfind
    have p2 := dpPermute_perm (List.range K) E1 r1
    have hlast := dpPermute_last (List.range K) E1 r1
    generalize (dpPermute (List.range K) E1 r1).1 = E2 at p2 hlast ⊢
    obtain ⟨hall, hlt, hfirst⟩ := dp_facts K codes c0 c1 rest hc hK E2 (p2.trans p1)
    have hc0 : codes.headD 0 = c0 := by rw [hc]; rfl
    have hc0K : c0 < K := hK c0 (by rw [hc]; simp)
    have hlastc : codes.getLast? = some (codes.getLastD 0) := by rw [hc]; simp [List.getLastD, List.getLast?_eq_some_getLast]
    -- connectivity in the last-edge graph of E2
    have hconn : ∀ v, v < K → 0 < (elist E2 v).length → Conn E2 (codes.getLastD 0) v := by
      intro v hv hpos
      exact (hconn1 v hv (by rw [← (hlast v).2]; exact hpos)).transfer (fun u => (hlast u).1)
    -- degree balance
    have hbal : ∀ v, cnt1 v (edgePairs E2 K) + ind (codes.getLastD 0 = v) = cnt2 v (edgePairs E2 K) + ind (c0 = v) := fun v => by
      rw [cnt1, cnt2, hall.countP_eq, hall.countP_eq]
      exact adjPairs_balance v codes c0 _ (by rw [hc]; rfl) hlastc
    have hM : (edgePairs E2 K).length = codes.length - 1 := by rw [hall.length_eq, adjPairs_length]
    obtain ⟨w0, hstart⟩ := dpWalk_start E2 K c0 hc0K hfirst
    obtain ⟨hw, hex⟩ := dpWalk_run E2 K c0 hlt codes.length c0 (Array.replicate K 0) #[] w0 hstart
    rw [hc0]
    generalize dpWalk E2 codes.length c0 (Array.replicate K 0) #[] = res at hw hex ⊢
    obtain ⟨wout, wx, wiE⟩ := res
    simp only at hw hex ⊢
    obtain ⟨hxsf, hused⟩ := walk_complete E2 K c0 (codes.getLastD 0) wx wiE wout hlt hbal hconn hw (hex (by simp; omega))
    have hsz : wout.size = codes.length - 1 := by
      have := hw.pairs.length_eq
      rw [adjPairs_length', hused, hM] at this
      simpa using this
    rw [if_neg (by simp [hxsf]), if_neg (by simp [hsz]; omega)]
    have hlist : (wout.push (codes.getLastD 0)).toList = wout.toList ++ [wx] := by rw [Array.toList_push, hxsf]
    refine ⟨_, _, rfl, by simp [hsz]; omega, ?_, ?_, ?_⟩
    · rw [hlist, hw.head, hc]; rfl
    · rw [Array.toList_push, List.getLast?_append, hlastc]; rfl
    · rw [hlist]; exact (hw.pairs.trans (hused ▸ List.Perm.refl _)).trans hall

theorem shuffleDPcore_total (K : Nat) (codes : List Nat) (hK : ∀ c ∈ codes, c < K) (hlen : 2 < codes.length) (r : Rng) :
    (∃ out r', shuffleDPcore K codes r = (.ok out, r')) ∨ shuffleDPcore K codes r = (.nohalt, r) := by
  rcases shuffleDPcore_spec K codes hK hlen r with h | ⟨out, r', h, _⟩
  · exact Or.inr h
  · exact Or.inl ⟨out, r', h⟩

theorem shuffleDPcore_ok (K : Nat) (codes : List Nat) (hK : ∀ c ∈ codes, c < K) (hlen : 2 < codes.length) (r : Rng)
    (out : Array Nat) (r' : Rng) (h : shuffleDPcore K codes r = (.ok out, r')) :
    out.size = codes.length ∧ out.toList.head? = codes.head? ∧ out.toList.getLast? = codes.getLast? ∧
      (adjPairs out.toList).Perm (adjPairs codes) := by
  rcases shuffleDPcore_spec K codes hK hlen r with hn | ⟨out', r'', he, hp⟩
  · rw [hn] at h; cases h
  · rw [he] at h; cases h; exact hp

end EaselModel.Shuffle
