import EaselModel.Shuffle.LemmasChoose
/-! Order-1 Markov resampling emits only adjacent pairs of the circularised input. -/
namespace EaselModel.Shuffle
open EaselModel.Random CNum

/-- adjacent pairs of a list -/
def adjPairs : List Nat → List (Nat × Nat)
  | a :: b :: t => (a, b) :: adjPairs (b :: t)
  | _ => []

/-- adjacent pairs reading the input circularly: the pairs of `codes ++ [first]` -/
def circPairs (codes : List Nat) : List (Nat × Nat) := adjPairs (codes ++ codes.take 1)

theorem adjPairs_length (l : List Nat) : (adjPairs l).length = l.length - 1 := by
  induction l with
  | nil => rfl
  | cons a t ih =>
    cases t with
    | nil => rfl
    | cons b t' => simp only [adjPairs, List.length_cons] at ih ⊢; omega

theorem adjPairs_append_singleton (a : Nat) (l : List Nat) (z : Nat) :
    adjPairs ((a :: l) ++ [z]) = adjPairs (a :: l) ++ [((a :: l).getLast (by simp), z)] := by
  induction l generalizing a with
  | nil => simp [adjPairs]
  | cons b t ih =>
    have := ih b
    simp only [List.cons_append] at this ⊢
    simp only [adjPairs, this, List.cons_append, List.getLast_cons_cons]

theorem getLast_snoc' (a x : Nat) (t : List Nat) (h : a :: (t ++ [x]) ≠ []) : (a :: (t ++ [x])).getLast h = x := by
  induction t generalizing a with
  | nil => rfl
  | cons b t ih => simp only [List.cons_append, List.getLast_cons_cons]; exact ih b _

/-- `x`, `y` are adjacent in `l` -/
theorem mem_adjPairs {l : List Nat} {x y : Nat} : (x, y) ∈ adjPairs l ↔ ∃ pre post, l = pre ++ x :: y :: post := by
  induction l with
  | nil => simp [adjPairs]
  | cons a t ih =>
    cases t with
    | nil =>
      refine ⟨fun h => by simp [adjPairs] at h, fun ⟨pre, post, e⟩ => ?_⟩
      have := congrArg List.length e
      simp at this; omega
    | cons b t' =>
      rw [adjPairs, List.mem_cons, ih]
      constructor
      · rintro (e | ⟨pre, post, e⟩)
        · cases e; exact ⟨[], t', rfl⟩
        · exact ⟨a :: pre, post, by rw [e]; rfl⟩
      · rintro ⟨pre, post, e⟩
        cases pre with
        | nil => cases e; exact Or.inl rfl
        | cons p pre => exact Or.inr ⟨pre, post, (List.cons.inj e).2⟩

theorem fst_mem_of_adjPairs (l : List Nat) (x y : Nat) (h : (x, y) ∈ adjPairs l) : x ∈ l.dropLast := by
  obtain ⟨pre, post, rfl⟩ := mem_adjPairs.1 h
  rw [List.dropLast_append_of_ne_nil (by simp), List.dropLast_cons_of_ne_nil (by simp)]
  simp

theorem snd_mem_of_adjPairs (l : List Nat) (x y : Nat) (h : (x, y) ∈ adjPairs l) : y ∈ l := by
  obtain ⟨pre, post, rfl⟩ := mem_adjPairs.1 h
  simp

theorem circ_snd_mem (codes : List Nat) (x y : Nat) (h : (x, y) ∈ circPairs codes) : y ∈ codes := by
  cases codes with
  | nil => simp [circPairs, adjPairs] at h
  | cons c0 rest =>
    have := snd_mem_of_adjPairs _ x y h
    simp only [List.take_succ_cons, List.take_zero, List.mem_append, List.mem_singleton] at this
    rcases this with h | h
    · exact h
    · rw [h]; simp

variable {α : Type}

/-- entry `[x][y]` of a matrix, if present -/
def ent (m : Array (Array α)) (x y : Nat) : Option α := m[x]?.bind (fun row => row[y]?)

theorem ent_modify (m : Array (Array α)) (a b x y : Nat) (f : α → α) (h : (a, b) ≠ (x, y)) :
    ent (m.modify a (fun row => row.modify b f)) x y = ent m x y := by
  unfold ent
  rw [Array.getElem?_modify]
  by_cases e : a = x
  · subst e
    have hb : b ≠ y := fun e => h (by rw [e])
    cases hm : m[a]? with
    | none => simp
    | some row => simp [Array.getElem?_modify, hb]
  · simp [e]

theorem ent_modify_self (m : Array (Array α)) (a b : Nat) (f : α → α) :
    ent (m.modify a (fun row => row.modify b f)) a b = (ent m a b).map f := by
  unfold ent
  rw [Array.getElem?_modify]
  cases hm : m[a]? with
  | none => simp
  | some row => simp only [↓reduceIte, Option.map_some, Option.bind_some, Array.getElem?_modify]

variable [CNum α]

theorem ent_zeros (K x y : Nat) :
    ent (Array.replicate K (Array.replicate K (zero : α))) x y = if x < K ∧ y < K then some zero else none := by
  unfold ent
  simp only [Array.getElem?_replicate]
  by_cases hx : x < K
  · by_cases hy : y < K
    · simp [hx, hy]
    · simp [hx, hy]
  · simp [hx]

theorem countsRun_last (ys : List Nat) : ∀ (m : Array (Array α)) (prev : Nat),
    (ys.foldl (fun (st : Array (Array α) × Nat) y =>
      (st.1.modify st.2 (fun row => row.modify y (fun v => add v one)), y)) (m, prev)).2 = (prev :: ys).getLast (by simp) := by
  induction ys with
  | nil => intro m prev; rfl
  | cons y0 t ih => intro m prev; rw [List.foldl_cons, ih]; simp

theorem countsRun_iterate (ys : List Nat) : ∀ (m : Array (Array α)) (prev x y : Nat),
    ent (ys.foldl (fun (st : Array (Array α) × Nat) y =>
      (st.1.modify st.2 (fun row => row.modify y (fun v => add v one)), y)) (m, prev)).1 x y =
      (ent m x y).map (bump ((adjPairs (prev :: ys)).count (x, y))) := by
  induction ys with
  | nil => intro m prev x y; show ent m x y = (ent m x y).map (bump 0); cases ent m x y <;> rfl
  | cons y0 t ih =>
    intro m prev x y
    rw [List.foldl_cons, ih]
    rw [show adjPairs (prev :: y0 :: t) = (prev, y0) :: adjPairs (y0 :: t) from rfl, List.count_cons]
    by_cases e : (prev, y0) = (x, y)
    · obtain ⟨e1, e2⟩ := Prod.mk.inj e
      subst e1; subst e2
      rw [ent_modify_self, Option.map_map, beq_self_eq_true, if_pos rfl]
      rfl
    · rw [ent_modify m prev y0 x y _ e, if_neg (by simpa using e), Nat.add_zero]

theorem markov1Counts_iterate (K c0 : Nat) (rest : List Nat) (x y : Nat) :
    ent (markov1Counts (α := α) K (c0 :: rest)) x y =
      if x < K ∧ y < K then some (bump ((circPairs (c0 :: rest)).count (x, y)) zero) else none := by
  have hc : circPairs (c0 :: rest) = adjPairs (c0 :: rest) ++ [((c0 :: rest).getLast (by simp), c0)] := by
    simp only [circPairs, List.take_succ_cons, List.take_zero]
    exact adjPairs_append_singleton c0 rest c0
  simp only [markov1Counts]
  rw [hc, List.count_append, countsRun_last, List.count_singleton]
  by_cases e : ((c0 :: rest).getLast (by simp), c0) = (x, y)
  · obtain ⟨e1, e2⟩ := Prod.mk.inj e
    rw [e1, e2, ent_modify_self, countsRun_iterate, ent_zeros, beq_self_eq_true, if_pos rfl]
    split
    · rw [Option.map_some, Option.map_some, bump_succ]
    · rfl
  · have hne : (((c0 :: rest).getLast (by simp), c0) == (x, y)) = false := by simpa using e
    rw [ent_modify _ _ _ x y _ e, countsRun_iterate, ent_zeros, hne]
    split <;> rfl

theorem markov1Counts_row_iterate (K c0 : Nat) (rest : List Nat) (x : Nat) (hx : x < K) :
    ∃ row, (markov1Counts (α := α) K (c0 :: rest))[x]? = some row ∧
      row.toList = (List.range K).map (fun y => bump ((circPairs (c0 :: rest)).count (x, y)) (zero : α)) := by
  have he := fun y => markov1Counts_iterate (α := α) K c0 rest x y
  have h0 := he 0
  rw [if_pos ⟨hx, by omega⟩] at h0
  unfold ent at h0 he
  cases hr : (markov1Counts (α := α) K (c0 :: rest))[x]? with
  | none => simp [hr] at h0
  | some row =>
    refine ⟨row, rfl, ?_⟩
    apply List.ext_getElem?
    intro y
    have := he y
    simp only [hr, Option.bind_some] at this
    rw [Array.getElem?_toList, this, List.getElem?_map]
    by_cases hy : y < K
    · rw [if_pos ⟨hx, hy⟩, List.getElem?_range hy]; rfl
    · rw [if_neg (by omega), List.getElem?_eq_none (by simpa using hy)]; rfl

theorem markov1Counts_size (K c0 : Nat) (rest : List Nat) : (markov1Counts (α := α) K (c0 :: rest)).size = K := by
  simp only [markov1Counts, Array.size_modify]
  have key : ∀ (ys : List Nat) (m0 : Array (Array α)) (prev : Nat), m0.size = K →
      (ys.foldl (fun (st : Array (Array α) × Nat) y =>
        (st.1.modify st.2 (fun row => row.modify y (fun v => add v one)), y)) (m0, prev)).1.size = K := by
    intro ys
    induction ys with
    | nil => intro m0 prev h; simpa using h
    | cons y t ih => intro m0 prev h; simp only [List.foldl_cons]; exact ih _ y (by simpa using h)
  exact key rest _ c0 (by simp)

theorem markov1Counts_support (K : Nat) (codes : List Nat) (x y : Nat) (q : α)
    (h : ent (markov1Counts (α := α) K codes) x y = some q) (hq : q ≠ zero) : (x, y) ∈ circPairs codes := by
  apply Classical.byContradiction
  intro hn
  apply hq
  cases codes with
  | nil =>
    rw [markov1Counts, ent_zeros] at h
    split at h
    · exact (Option.some.inj h).symm
    · cases h
  | cons c0 rest =>
    rw [markov1Counts_iterate, List.count_eq_zero.2 hn] at h
    split at h
    · exact (Option.some.inj h).symm
    · cases h

variable [LawfulCNum α]

theorem foldl_add_zeros (l : List α) (h : ∀ v ∈ l, v = zero) : l.foldl add zero = zero := by
  induction l with
  | nil => rfl
  | cons a t ih =>
    simp only [List.foldl_cons]
    rw [h a (by simp), LawfulCNum.zero_add_zero]
    exact ih (fun v hv => h v (List.mem_cons_of_mem _ hv))

omit [LawfulCNum α] in
theorem markov1P_row_eq (L : Nat) (cnt : Array (Array α)) (x : Nat) (row : Array α) (h : cnt[x]? = some row) :
    (((markov1P L cnt).1)[x]!).toList =
      row.toList.map (fun v => if lt zero (row.foldl add zero) then div v (row.foldl add zero) else zero) := by
  simp only [markov1P]
  rw [Array.getElem!_eq_getD, Array.getD_eq_getD_getElem?, Array.getElem?_mapIdx, h]
  simp only [Option.map_some, Option.getD_some, Array.toList_map]
  rw [Array.getD_eq_getD_getElem?, Array.getElem?_map, h]
  rfl

theorem markov1P_cond (L : Nat) (cnt : Array (Array α)) (x y : Nat) (q : α)
    (h : ent (markov1P L cnt).1 x y = some q) (hq : q ≠ zero) : ∃ v, ent cnt x y = some v ∧ v ≠ zero := by
  unfold ent at h ⊢
  simp only [markov1P, Array.getElem?_mapIdx] at h
  cases hr : cnt[x]? with
  | none => simp [hr] at h
  | some row =>
    simp only [hr, Option.map_some, Option.bind_some, Array.getElem?_map] at h ⊢
    cases hv : row[y]? with
    | none => simp [hv] at h
    | some v =>
      simp only [hv, Option.map_some, Option.some.injEq] at h
      refine ⟨v, rfl, fun hz => hq ?_⟩
      rw [← h, hz]
      split
      · rename_i hpos; exact LawfulCNum.zero_div_pos _ hpos
      · rfl

theorem markov1P_marg (L : Nat) (hL : 0 < L) (cnt : Array (Array α)) (x : Nat) (q : α)
    (h : (markov1P L cnt).2[x]? = some q) (hq : q ≠ zero) : ∃ y v, ent cnt x y = some v ∧ v ≠ zero := by
  simp only [markov1P, Array.getElem?_map] at h
  cases hr : cnt[x]? with
  | none => simp [hr] at h
  | some row =>
    simp only [hr, Option.map_some, Option.some.injEq] at h
    apply Classical.byContradiction
    intro hn
    apply hq
    have hz : ∀ v ∈ row.toList, v = zero := by
      intro v hv
      apply Classical.byContradiction
      intro hvz
      obtain ⟨y, hy, hy'⟩ := List.getElem_of_mem hv
      exact hn ⟨y, v, by simp [ent, hr, ← hy', Array.getElem?_eq_getElem (show y < row.size by simpa using hy)], hvz⟩
    rw [← h, ← Array.foldl_toList, foldl_add_zeros _ hz]
    exact LawfulCNum.zero_div_ofNat L hL

theorem bang_toList_getElem? (p : Array (Array α)) (x y : Nat) (q : α) (h : (p[x]!).toList[y]? = some q) : ent p x y = some q := by
  unfold ent
  by_cases hx : x < p.size
  · rw [getElem!_pos p x hx] at h
    rw [Array.getElem?_eq_getElem hx]
    simpa using h
  · rw [Array.getElem!_eq_getD, Array.getD_eq_getD_getElem?, Array.getElem?_eq_none (by omega)] at h
    simp [show (default : Array α) = #[] from rfl] at h

theorem markov1_next_pair (K : Nat) (codes : List Nat) (x y xn : Nat)
    (h : dchoose (div (ofNat xn) (ofNat 4294967296) : α)
      (((markov1P codes.length (markov1Counts (α := α) K codes)).1)[x]!).toList = some y) : (x, y) ∈ circPairs codes := by
  obtain ⟨q, hq1, hq2⟩ := dchoose_nonzero xn 4294967296 _ y h
  obtain ⟨v, hv1, hv2⟩ := markov1P_cond codes.length _ x y q (bang_toList_getElem? _ x y q hq1) hq2
  exact markov1Counts_support K codes x y v hv1 hv2

theorem markov1_first_mem (K : Nat) (codes : List Nat) (hne : codes ≠ []) (x xn : Nat)
    (h : dchoose (div (ofNat xn) (ofNat 4294967296) : α)
      ((markov1P codes.length (markov1Counts (α := α) K codes)).2).toList = some x) : x ∈ codes := by
  obtain ⟨q, hq1, hq2⟩ := dchoose_nonzero xn 4294967296 _ x h
  rw [Array.getElem?_toList] at hq1
  obtain ⟨y, v, hv1, hv2⟩ := markov1P_marg codes.length (List.length_pos_iff.2 hne) _ x q hq1 hq2
  have := fst_mem_of_adjPairs _ x y (markov1Counts_support K codes x y v hv1 hv2)
  obtain ⟨c0, rest, rfl⟩ := List.exists_cons_of_ne_nil hne
  simp only [List.take_succ_cons, List.take_zero] at this
  rw [List.dropLast_concat] at this
  exact this

theorem markov1Loop_pairs (p : Array (Array α)) (good : Nat × Nat → Prop)
    (hgood : ∀ x y q, ent p x y = some q → q ≠ zero → good (x, y)) :
    ∀ (n x : Nat) (r : Rng) (acc out : Array Nat),
      (markov1Loop p n x r acc).1 = some out → acc.toList.getLast? = some x → (∀ pr ∈ adjPairs acc.toList, good pr) →
      out.size = acc.size + n ∧ (∀ pr ∈ adjPairs out.toList, good pr) ∧ out.toList.head? = acc.toList.head? := by
  intro n
  induction n with
  | zero => intro x r acc out h _ hacc; simp only [markov1Loop] at h; cases h; exact ⟨rfl, hacc, rfl⟩
  | succ n ih =>
    intro x r acc out h hlast hacc
    simp only [markov1Loop] at h
    obtain ⟨xx, _, hx⟩ := randomNum_lt (α := α) r
    split at h
    · rename_i y hy
      rw [hx] at hy
      obtain ⟨q, hq1, hq2⟩ := dchoose_nonzero xx 4294967296 _ y hy
      have hg := hgood x y q (bang_toList_getElem? p x y q hq1) hq2
      obtain ⟨l, hl⟩ : ∃ l, acc.toList = l ++ [x] := by
        have := List.getLast?_eq_some_iff.mp hlast
        exact this
      have hpairs : ∀ pr ∈ adjPairs (acc.push y).toList, good pr := by
        intro pr hpr
        simp only [Array.toList_push, hl] at hpr
        cases l with
        | nil => simp [adjPairs] at hpr; rw [hpr]; exact hg
        | cons a t =>
          have e : (a :: t ++ [x]) ++ [y] = (a :: (t ++ [x])) ++ [y] := by simp
          rw [e, adjPairs_append_singleton] at hpr
          rcases List.mem_append.mp hpr with hpr | hpr
          · exact hacc pr (by rw [hl]; exact hpr)
          · simp only [List.mem_singleton] at hpr
            rw [hpr, getLast_snoc']
            exact hg
      obtain ⟨h1, h2, h3⟩ := ih y _ (acc.push y) out h (by simp) hpairs
      refine ⟨by simp at h1; omega, h2, ?_⟩
      rw [h3, Array.toList_push, hl]
      cases l <;> simp
    · simp at h

theorem markov1_support (K : Nat) (codes : List Nat) (hlen : 2 < codes.length) (r : Rng) (out : Array Nat)
    (h : (markov1 (α := α) K codes r).1 = some out) :
    out.size = codes.length ∧ (∀ pr ∈ adjPairs out.toList, pr ∈ circPairs codes) ∧ ∃ x, out.toList.head? = some x ∧ x ∈ codes := by
  unfold markov1 at h
  simp only at h
  obtain ⟨xx, _, hx⟩ := randomNum_lt (α := α) r
  split at h
  · rename_i x hxd
    rw [hx] at hxd
    have hxin : x ∈ codes := markov1_first_mem K codes (by intro e; simp [e] at hlen) x xx hxd
    obtain ⟨h1, h2, h3⟩ := markov1Loop_pairs (markov1P codes.length (markov1Counts (α := α) K codes)).1
      (fun pr => pr ∈ circPairs codes)
      (fun a b q' he hq' => by
        obtain ⟨v', hv1', hv2'⟩ := markov1P_cond codes.length _ a b q' he hq'
        exact markov1Counts_support K codes a b v' hv1' hv2')
      (codes.length - 1) x _ #[x] out h (by simp) (by simp [adjPairs])
    refine ⟨by simp at h1; omega, h2, x, by simpa using h3, hxin⟩
  · simp at h

end EaselModel.Shuffle
