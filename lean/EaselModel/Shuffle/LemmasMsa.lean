import EaselModel.Shuffle.LemmasSample
/-! Column view of an alignment; `esl_msashuffle_Shuffle`, `_PermuteSequenceOrder` (with the name index it rebuilds), `_Bootstrap`. -/
namespace EaselModel.Shuffle
open EaselModel.Random

/-- column `c` of a matrix of rows (entry `none` where a row is too short) -/
def column {α : Type} (rows : Array (Array α)) (c : Nat) : Array (Option α) := rows.map (fun row => row[c]?)
/-- the `n` columns `lo, lo+1, …` -/
def columns {α : Type} (rows : Array (Array α)) (lo n : Nat) : Array (Array (Option α)) :=
  (Array.range n).map (fun t => column rows (lo + t))

theorem column_multiSwap {α : Type} (rows : Array (Array α)) (i j c : Nat)
    (hlen : ∀ k (h : k < rows.size), i < rows[k].size ∧ j < rows[k].size) :
    column (multiSwap rows i j) c = column rows (if c = i then j else if c = j then i else c) := by
  apply Array.ext
  · simp [column, multiSwap]
  · intro k hk1 hk2
    simp only [column, multiSwap, Array.size_map] at hk1
    obtain ⟨h1, h2⟩ := hlen k hk1
    simp only [column, multiSwap, Array.getElem_map]
    rw [getElem?_swapIfInBounds_of_lt _ i j c h1 h2]
    by_cases hci : c = i
    · subst hci
      by_cases hjc : j = c
      · subst hjc; simp
      · simp [hjc]
    · by_cases hcj : c = j
      · subst hcj; simp [hci]
      · have e1 : ¬ (j = c) := fun e => hcj e.symm
        have e2 : ¬ (i = c) := fun e => hci e.symm
        simp [hci, hcj, e1, e2]

theorem columns_multiSwap {α : Type} (rows : Array (Array α)) (base n i j : Nat)
    (hi1 : base ≤ i) (hi2 : i < base + n) (hj1 : base ≤ j) (hj2 : j < base + n)
    (hlen : ∀ k (h : k < rows.size), i < rows[k].size ∧ j < rows[k].size) :
    columns (multiSwap rows i j) base n =
      (columns rows base n).swap (i - base) (j - base) (by simp [columns]; omega) (by simp [columns]; omega) := by
  apply Array.ext
  · simp [columns]
  · intro t ht1 ht2
    simp only [columns, Array.size_map, Array.size_range] at ht1
    rw [Array.getElem_swap]
    simp only [columns, Array.getElem_map, Array.getElem_range]
    rw [column_multiSwap rows i j (base + t) hlen]
    by_cases e1 : t = i - base
    · have ht : base + t = i := by omega
      rw [if_pos e1, if_pos ht]
      congr 1; omega
    · have e1' : ¬ (base + t = i) := by omega
      rw [if_neg e1, if_neg e1']
      by_cases e2 : t = j - base
      · have ht : base + t = j := by omega
        rw [if_pos e2, if_pos ht]
        congr 1; omega
      · have e2' : ¬ (base + t = j) := by omega
        rw [if_neg e2, if_neg e2']

theorem column_multiSwap_outside {α : Type} (rows : Array (Array α)) (i j c : Nat) (hci : c ≠ i) (hcj : c ≠ j)
    (hlen : ∀ k (h : k < rows.size), i < rows[k].size ∧ j < rows[k].size) :
    column (multiSwap rows i j) c = column rows c := by
  rw [column_multiSwap rows i j c hlen]; simp [hci, hcj]

structure RowsInv {α : Type} (base n : Nat) (rows0 rows : Array (Array α)) : Prop where
  size : rows.size = rows0.size
  rowsize : ∀ k (h : k < rows.size), rows[k].size = (rows0[k]'(size ▸ h)).size
  cols : (columns rows base n).Perm (columns rows0 base n)
  outside : ∀ c, (c < base ∨ base + n ≤ c) → column rows c = column rows0 c

theorem RowsInv.refl {α : Type} (base n : Nat) (rows : Array (Array α)) : RowsInv base n rows rows :=
  ⟨rfl, fun _ _ => rfl, Array.Perm.refl _, fun _ _ => rfl⟩

theorem RowsInv.swap {α : Type} {base n : Nat} {rows0 rows : Array (Array α)} (h : RowsInv base n rows0 rows)
    (hlen0 : ∀ k (hk : k < rows0.size), base + n ≤ rows0[k].size)
    (i j : Nat) (hi1 : base ≤ i) (hi2 : i < base + n) (hj1 : base ≤ j) (hj2 : j < base + n) :
    RowsInv base n rows0 (multiSwap rows i j) := by
  have hlen : ∀ k (hk : k < rows.size), i < rows[k].size ∧ j < rows[k].size := by
    intro k hk
    have := h.rowsize k hk
    have := hlen0 k (h.size ▸ hk)
    omega
  refine ⟨by simp [multiSwap, h.size], ?_, ?_, ?_⟩
  · intro k hk
    simp only [multiSwap, Array.size_map] at hk
    simp only [multiSwap, Array.getElem_map, Array.size_swapIfInBounds]
    exact h.rowsize k hk
  · rw [columns_multiSwap rows base n i j hi1 hi2 hj1 hj2 hlen]
    exact (Array.swap_perm _ _).trans h.cols
  · intro c hc
    rw [column_multiSwap_outside rows i j c (by omega) (by omega) hlen]
    exact h.outside c hc

theorem fy_multiSwap_spec {α : Type} (base n : Nat) (rows : Array (Array α))
    (hlen : ∀ k (hk : k < rows.size), base + n ≤ rows[k].size) (r : Rng) :
    RowsInv base n rows (fyLoop multiSwap base n rows r).1 :=
  fyLoop_inv multiSwap base n (RowsInv base n rows)
    (fun s i j hs hi1 hi2 hj1 hj2 => hs.swap hlen i j hi1 hi2 hj1 hj2) n (Nat.le_refl _) rows r (RowsInv.refl _ _ _)

theorem column_bootStep (base alen : Nat) (msa boot : Array Bytes) (pos col : Nat) (hsz : boot.size = msa.size)
    (hm : ∀ k (hk : k < msa.size), base + alen ≤ msa[k].size)
    (hb : ∀ k (hk : k < boot.size), base + alen ≤ boot[k].size) (hpos : pos < alen) (hcol : col < alen) (c : Nat) :
    column (boot.mapIdx fun i row => row.setIfInBounds (base + pos) ((msa[i]!)[base + col]!)) c =
      if c = base + pos then column msa (base + col) else column boot c := by
  apply Array.ext
  · split <;> simp [column, hsz]
  · intro k hk1 hk2
    simp only [column, Array.size_map, Array.size_mapIdx] at hk1
    have hk' : k < msa.size := by omega
    have hb' := hb k hk1
    have hm' := hm k hk'
    simp only [column, Array.getElem_map, Array.getElem_mapIdx, Array.getElem?_setIfInBounds]
    by_cases e : c = base + pos
    · subst e
      simp only [↓reduceIte, Array.getElem_map]
      rw [if_pos (by omega), getElem!_pos msa k hk', getElem!_pos msa[k] _ (by omega), Array.getElem?_eq_getElem]
    · have e' : ¬ (base + pos = c) := fun x => e x.symm
      simp only [e, e', ↓reduceIte, Array.getElem_map]

theorem bootLoop_exact (base alen : Nat) (msa : Array Bytes)
    (hm : ∀ k (hk : k < msa.size), base + alen ≤ msa[k].size) :
    ∀ n pos (boot : Array Bytes) r, pos + n = alen → boot.size = msa.size →
      (∀ k (hk : k < boot.size), base + alen ≤ boot[k].size) →
      ∀ c, column (bootLoop base alen msa n pos boot r).1 c =
        if base + pos ≤ c ∧ c < base + alen then column msa (base + (sampleDraw alen n r).getD (c - (base + pos)) 0)
        else column boot c := by
  intro n
  induction n with
  | zero =>
    intro pos boot r hp hs hb c
    simp only [bootLoop]
    rw [if_neg (by omega)]
  | succ n ih =>
    intro pos boot r hp hs hb c
    have hcol := roll_lt r alen (by omega)
    simp only [bootLoop, sampleDraw]
    rw [ih (pos+1) _ _ (by omega) (by simpa using hs) (by
      intro k hk
      simp only [Array.size_mapIdx] at hk
      simp only [Array.getElem_mapIdx, Array.size_setIfInBounds]
      exact hb k hk)]
    by_cases h1 : base + (pos + 1) ≤ c ∧ c < base + alen
    · rw [if_pos h1, if_pos (by omega)]
      have e : c - (base + pos) = (c - (base + (pos + 1))) + 1 := by omega
      rw [e, List.getD_cons_succ]
    · rw [if_neg h1, column_bootStep base alen msa boot pos _ hs hm hb (by omega) hcol c]
      by_cases h2 : c = base + pos
      · rw [if_pos h2, if_pos (by omega)]
        have e : c - (base + pos) = 0 := by omega
        rw [e]; rfl
      · rw [if_neg h2, if_neg (by omega)]

/-! ## the name index rebuilt by `esl_msashuffle_PermuteSequenceOrder`
It maps every name to its NEW row, provided the names are pairwise different (the precondition of `msa->index` everywhere in Easel). -/
theorem indexStore_foldl_nodup {κ : Type} [BEq κ] [LawfulBEq κ] : ∀ (names keys : List κ), (keys ++ names).Nodup →
    names.foldl indexStore keys = keys ++ names := by
  intro names
  induction names with
  | nil => intro keys _; simp
  | cons a rest ih =>
    intro keys h
    have ha : a ∉ keys := by
      intro hm
      have := List.nodup_append.1 h
      exact this.2.2 a hm a (by simp) rfl
    simp only [List.foldl_cons, indexStore]
    rw [if_neg (by simpa using ha)]
    rw [ih (keys ++ [a]) (by simpa [List.append_assoc] using h)]
    simp

theorem rebuildIndex_nodup {κ : Type} [BEq κ] [LawfulBEq κ] (names : List κ) (h : names.Nodup) : rebuildIndex names = names := by
  have := indexStore_foldl_nodup names [] (by simpa using h)
  simpa [rebuildIndex] using this

theorem indexLookup_rebuild {κ : Type} [BEq κ] [LawfulBEq κ] (names : List κ) (h : names.Nodup) (i : Nat) (hi : i < names.length) :
    indexLookup (rebuildIndex names) names[i] = some i := by
  rw [rebuildIndex_nodup names h]
  unfold indexLookup
  have : names.idxOf names[i] = i := h.idxOf_getElem i hi
  simp [this, hi]

end EaselModel.Shuffle
