import EaselModel.Shuffle.IeeeCarrier
import EaselModel.Shuffle.MarkovTotal
/-! # `esl_rsq_{C,X}Markov0/1` never reach `esl_fatal` in ROUNDED arithmetic (C18)

`Ieee ρ` (any monotone rounding) is a `CountCarrier` up to `2^32`: the counts `p[x] += 1.0` and their sums are exact integers; a ratio of
counts `a/n` is `+0.0` or a value in `[2^-32, 1]` (no underflow: `a/n ≥ 2^-32` is above a representable number); the running sums of
`esl_rnd_DChoose` over such entries stay finite (`≤` their number), become positive at the first non-zero entry and stay positive
(`R(s + p) ≥ R(s) = s`), so `norm` is finite and positive, `norm/norm = 1.0` and the scan returns at the last entry at the latest. -/
namespace EaselModel.Shuffle
open CNum EaselModel.Random

variable (ρ : Rounding)

theorem ofNat_zero : (ofNat 0 : Ieee ρ) = zero := by
  apply Subtype.ext
  show rnd ρ ((0 : ℕ) : ℚ) = .zero false
  simp [rnd]

/-- `+0.0`, or finite in `(0, m]` -/
def Sm (m : ℕ) (x : Raw) : Prop := x = .zero false ∨ ∃ r, x = .fin r ∧ 0 < r ∧ r ≤ (m : ℚ)
def Pos (x : Raw) : Prop := ∃ r, x = .fin r ∧ 0 < r

/-- `count / L`: `+0.0` for a zero count, else finite in `(0, 1]` -/
theorem ratio_ieee (a n : ℕ) (han : a ≤ n) (hn0 : 0 < n) (hn : n ≤ 4294967296) :
    Sm 1 (div (ofNat a) (ofNat n) : Ieee ρ).1 ∧ (0 < a → Pos (div (ofNat a) (ofNat n) : Ieee ρ).1) := by
  show Sm 1 (Raw.div ρ (ofNat a : Ieee ρ).1 (ofNat n : Ieee ρ).1) ∧ (0 < a → Pos (Raw.div ρ (ofNat a : Ieee ρ).1 (ofNat n : Ieee ρ).1))
  have hnv : (ofNat n : Ieee ρ).1 = .fin (n : ℚ) := by rw [ofNat_val ρ n hn, if_neg (by omega)]
  rw [ofNat_val ρ a (by omega), hnv]
  have hnq : (0 : ℚ) < (n : ℚ) := by exact_mod_cast hn0
  split
  · rename_i h
    refine ⟨Or.inl ?_, fun h' => by omega⟩
    simp [Raw.div, sgn_pos _ hnq]
  · rename_i h
    have haq : (0 : ℚ) < (a : ℚ) := by exact_mod_cast Nat.pos_of_ne_zero h
    have hq : (0 : ℚ) < (a : ℚ) / (n : ℚ) := div_pos haq hnq
    have hle1 : (a : ℚ) / (n : ℚ) ≤ 1 := by rw [div_le_one hnq]; exact_mod_cast han
    have hge : (1 : ℚ) / 4294967296 ≤ (a : ℚ) / (n : ℚ) := by
      rw [div_le_div_iff₀ (by norm_num) hnq]
      have h1 : (1 : ℚ) ≤ (a : ℚ) := by exact_mod_cast Nat.pos_of_ne_zero h
      have h2 : (n : ℚ) ≤ 4294967296 := by exact_mod_cast hn
      nlinarith
    have hR1 : ρ.R ((a : ℚ) / (n : ℚ)) ≤ 1 := by have := ρ.mono _ _ hle1; rwa [R_one] at this
    have hR0 : (1 : ℚ) / 4294967296 ≤ ρ.R ((a : ℚ) / (n : ℚ)) := by
      have := ρ.mono _ _ hge
      have hg := ρ.grid 1 (by norm_num)
      simp only [Nat.cast_one] at hg
      rwa [hg] at this
    have hRpos : (0 : ℚ) < ρ.R ((a : ℚ) / (n : ℚ)) := lt_of_lt_of_le (by norm_num) hR0
    have hval : Raw.div ρ (.fin (a : ℚ)) (.fin (n : ℚ)) = .fin (ρ.R ((a : ℚ) / (n : ℚ))) := by
      simp only [Raw.div, rnd]
      rw [if_neg (ne_of_gt hq), if_neg (ne_of_gt hRpos), if_neg]
      rw [abs_of_pos hRpos]; linarith [ρ.big_ge]
    rw [hval]
    exact ⟨Or.inr ⟨_, rfl, hRpos, by simpa using hR1⟩, fun _ => ⟨_, rfl, hRpos⟩⟩

/-- one step of the running sum: finite, bounded by the number of entries added, positive as soon as an entry was -/
theorem add_Sm (a b : Ieee ρ) (m : ℕ) (hm : m + 1 ≤ 4294967296) (ha : Sm m a.1) (hb : Sm 1 b.1) :
    Sm (m + 1) (add a b).1 ∧ (Pos a.1 ∨ Pos b.1 → Pos (add a b).1) := by
  show Sm (m + 1) (Raw.add ρ a.1 b.1) ∧ (Pos a.1 ∨ Pos b.1 → Pos (Raw.add ρ a.1 b.1))
  have hra := a.2
  have hrb := b.2
  have hmq : ((m + 1 : ℕ) : ℚ) = (m : ℚ) + 1 := by push_cast; rfl
  rcases ha with ha | ⟨s, ha, hs0, hsm⟩ <;> rcases hb with hb | ⟨r, hb, hr0, hr1⟩
  · rw [ha, hb]
    refine ⟨Or.inl (by simp [Raw.add]), ?_⟩
    rintro (⟨_, h, _⟩ | ⟨_, h, _⟩) <;> cases h
  · rw [hb] at hrb
    rw [ha, hb]
    simp only [Raw.add, rnd_of_rep ρ r hrb]
    exact ⟨Or.inr ⟨r, rfl, hr0, by rw [hmq]; simp at hr1; linarith [Nat.cast_nonneg (α := ℚ) m]⟩, fun _ => ⟨r, rfl, hr0⟩⟩
  · rw [ha] at hra
    rw [ha, hb]
    simp only [Raw.add, rnd_of_rep ρ s hra]
    exact ⟨Or.inr ⟨s, rfl, hs0, by rw [hmq]; linarith⟩, fun _ => ⟨s, rfl, hs0⟩⟩
  · rw [ha] at hra
    rw [ha, hb]
    have hsum : (0 : ℚ) < s + r := by linarith
    have hRge : s ≤ ρ.R (s + r) := by have := ρ.mono s (s + r) (by linarith); rwa [hra.2.1] at this
    have hRle : ρ.R (s + r) ≤ (m : ℚ) + 1 := by
      have := ρ.mono (s + r) ((m + 1 : ℕ) : ℚ) (by rw [hmq]; simp at hr1; linarith)
      rwa [ρ.nat (m + 1) hm, hmq] at this
    have hRpos : (0 : ℚ) < ρ.R (s + r) := lt_of_lt_of_le hs0 hRge
    have hmb : (m : ℚ) + 1 ≤ 4294967296 := by rw [← hmq]; exact_mod_cast hm
    have hval : Raw.add ρ (.fin s) (.fin r) = .fin (ρ.R (s + r)) := by
      simp only [Raw.add, rnd]
      rw [if_neg (ne_of_gt hsum), if_neg (ne_of_gt hRpos), if_neg]
      rw [abs_of_pos hRpos]; linarith [ρ.big_ge]
    rw [hval]
    exact ⟨Or.inr ⟨_, rfl, hRpos, by rw [hmq]; exact hRle⟩, fun _ => ⟨_, rfl, hRpos⟩⟩

theorem Sm_mono (m n : ℕ) (h : m ≤ n) (x : Raw) (hx : Sm m x) : Sm n x := by
  rcases hx with hx | ⟨r, hx, h0, h1⟩
  · exact Or.inl hx
  · exact Or.inr ⟨r, hx, h0, le_trans h1 (by exact_mod_cast h)⟩

/-- the first loop of `esl_rnd_DChoose` on entries in `{+0.0} ∪ (0,1]` -/
theorem foldl_Sm : ∀ (p : List (Ieee ρ)) (s : Ieee ρ) (m : ℕ), Sm m s.1 → (∀ q ∈ p, Sm 1 q.1) → m + p.length ≤ 4294967296 →
    Sm (m + p.length) (p.foldl add s).1 ∧ ((Pos s.1 ∨ ∃ q ∈ p, Pos q.1) → Pos (p.foldl add s).1) := by
  intro p
  induction p with
  | nil => intro s m hs _ _; exact ⟨by simpa using hs, fun h => by rcases h with h | ⟨q, hq, _⟩; exact h; simp at hq⟩
  | cons q rest ih =>
    intro s m hs hp hlen
    simp only [List.length_cons] at hlen
    obtain ⟨h1, h2⟩ := add_Sm ρ s q m (by omega) hs (hp q (by simp))
    obtain ⟨h3, h4⟩ := ih (add s q) (m + 1) h1 (fun x hx => hp x (List.mem_cons_of_mem _ hx)) (by omega)
    simp only [List.foldl_cons, List.length_cons]
    refine ⟨by rw [show m + (rest.length + 1) = m + 1 + rest.length by omega]; exact h3, ?_⟩
    intro h
    apply h4
    rcases h with h | ⟨x, hx, hxp⟩
    · exact Or.inl (h2 (Or.inl h))
    · rcases List.mem_cons.mp hx with e | e
      · subst e; exact Or.inl (h2 (Or.inr hxp))
      · exact Or.inr ⟨x, e, hxp⟩

theorem ofNat_add (a b : ℕ) (h : a + b ≤ 4294967296) : add (ofNat a : Ieee ρ) (ofNat b) = ofNat (a + b) := by
  apply Subtype.ext
  show Raw.add ρ (ofNat a : Ieee ρ).1 (ofNat b : Ieee ρ).1 = (ofNat (a + b) : Ieee ρ).1
  rw [ofNat_val ρ a (by omega), ofNat_val ρ b (by omega)]
  by_cases ha : a = 0
  · subst ha
    by_cases hb : b = 0
    · subst hb; simp [Raw.add, ofNat_val]
    · rw [if_neg hb]; simp only [↓reduceIte, Raw.add, zero_add]; exact ((ofNat b : Ieee ρ)).2 |> fun _ => by
        show rnd ρ (b : ℚ) = _; rfl
  · rw [if_neg ha]
    by_cases hb : b = 0
    · subst hb; simp only [↓reduceIte, Raw.add, add_zero]; rfl
    · rw [if_neg hb]; simp only [Raw.add]; show rnd ρ ((a : ℚ) + (b : ℚ)) = rnd ρ ((a + b : ℕ) : ℚ); push_cast; rfl

theorem lt_zero_ofNat (n : ℕ) (h0 : 0 < n) (hn : n ≤ 4294967296) : lt (zero : Ieee ρ) (ofNat n) = true := by
  show Raw.lt (.zero false) (ofNat n : Ieee ρ).1 = true
  rw [ofNat_val ρ n hn, if_neg (by omega)]
  simp only [Raw.lt, decide_eq_true_eq]
  exact_mod_cast h0

theorem dchoose_total_ieee (p : List (Ieee ρ)) (hlen : p.length ≤ 4294967296) (hent : ∀ q ∈ p, Sm 1 q.1) (hpos : ∃ q ∈ p, Pos q.1)
    (x : Nat) (hx : x < 4294967296) : ∃ k, dchoose (div (ofNat x) (ofNat 4294967296) : Ieee ρ) p = some k := by
  obtain ⟨_, hP⟩ := foldl_Sm ρ p zero 0 (Or.inl rfl) hent (by omega)
  obtain ⟨q, hq, _⟩ := hP (Or.inr hpos)
  have hne : p ≠ [] := by obtain ⟨q, hq, _⟩ := hpos; exact List.ne_nil_of_mem hq
  exact dchoose_total_abs _ p hne (ieee_div_self ρ _ q hq) (ieee_random_lt_one ρ x hx)

/-- i.i.d. generation from a probability-like vector in rounded arithmetic: at most `2^32` entries, each `+0.0` or in `(0, 1]`, one of
    them positive — whatever their computed sum is (it need not be `1.0`), the loop returns -/
theorem iidLoop_total_ieee (p : List (Ieee ρ)) (hlen : p.length ≤ 4294967296) (hent : ∀ q ∈ p, Sm 1 q.1)
    (hpos : ∃ q ∈ p, Pos q.1) : ∀ (n : Nat) (r : Rng) (acc : Array Nat), ∃ out, (iidLoop p n r acc).1 = some out :=
  iidLoop_total_of p (dchoose_total_ieee ρ p hlen hent hpos)

theorem ieeeCounts : CountCarrier (Ieee ρ) 4294967296 where
  ofNat_zero := ofNat_zero ρ
  ofNat_one := Subtype.ext (by show rnd ρ ((1 : ℕ) : ℚ) = rnd ρ 1; rw [Nat.cast_one])
  ofNat_add := ofNat_add ρ
  zero_lt := lt_zero_ofNat ρ
  choose := fun ns n x hl hn0 hn hle hpos hx =>
    dchoose_total_ieee ρ _ (by simpa using hl)
      (fun q hq => by obtain ⟨a, ha, rfl⟩ := List.mem_map.1 hq; exact (ratio_ieee ρ a n (hle a ha) hn0 hn).1)
      (by obtain ⟨a, ha, hp⟩ := hpos; exact ⟨_, List.mem_map.2 ⟨a, ha, rfl⟩, (ratio_ieee ρ a n (hle a ha) hn0 hn).2 hp⟩) x hx

/-- `esl_random()` for the raw word 0 is `+0.0` -/
theorem random_zero_ieee : (div (ofNat 0) (ofNat 4294967296) : Ieee ρ) = zero := by
  apply Subtype.ext
  show Raw.div ρ (ofNat 0 : Ieee ρ).1 (ofNat 4294967296 : Ieee ρ).1 = .zero false
  rw [ofNat_val ρ 0 (by norm_num), ofNat_val ρ 4294967296 (le_refl _)]
  simp [Raw.div, sgn]

/-- roll `+0.0`, running sum still a zero (of either sign): entries that are zeros are skipped, and the first finite entry `p_k` whose
    quotient by `norm` is positive (no underflow) is returned -/
theorem dchooseGo_zero_roll_ieee (norm : Ieee ρ) : ∀ (zs : List (Ieee ρ)) (pk : Ieee ρ) (rest : List (Ieee ρ)) (sum : Ieee ρ) (i : Nat) (s : ℚ),
    (∃ t, sum.1 = .zero t) → (∀ z ∈ zs, IsZero ρ z) → pk.1 = .fin s → lt (zero : Ieee ρ) (div pk norm) = true →
    dchooseGo (zero : Ieee ρ) norm (zs ++ pk :: rest) sum i = some (i + zs.length) := by
  intro zs
  induction zs with
  | nil =>
    intro pk rest sum i s ⟨t, hsum⟩ _ hpk hlt
    simp only [List.nil_append, dchooseGo, List.length_nil, Nat.add_zero]
    have hadd : add sum pk = pk := by
      apply Subtype.ext
      show Raw.add ρ sum.1 pk.1 = pk.1
      have hrep := pk.2
      rw [hsum, hpk] at *
      simp only [Raw.add]
      exact rnd_of_rep ρ s hrep
    rw [hadd, hlt]; rfl
  | cons z zs ih =>
    intro pk rest sum i s ⟨t, hsum⟩ hz hpk hlt
    obtain ⟨t', hz'⟩ := hz z (by simp)
    have hadd : (add sum z).1 = .zero (t && t') := by
      show Raw.add ρ sum.1 z.1 = _
      rw [hsum, hz']; rfl
    have hno : lt (zero : Ieee ρ) (div (add sum z) norm) = false := by
      show Raw.lt (.zero false) (Raw.div ρ (add sum z).1 norm.1) = false
      rw [hadd]
      exact lt_NN_ZN _ _ (Or.inr (Or.inl rfl)) (zero_div_ZN ρ _ _)
    simp only [List.cons_append, dchooseGo, hno, Bool.false_eq_true, ↓reduceIte, List.length_cons]
    rw [ih pk rest (add sum z) (i + 1) s ⟨_, hadd⟩ (fun x hx => hz x (List.mem_cons_of_mem _ hx)) hpk hlt]
    congr 1; omega

end EaselModel.Shuffle
