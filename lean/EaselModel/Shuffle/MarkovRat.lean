import EaselModel.Shuffle.LawfulRat
import EaselModel.Shuffle.MarkovTotal
import Mathlib.Tactic.Linarith
import Mathlib.Tactic.Ring
import Mathlib.Tactic.Positivity
import Mathlib.Algebra.Order.BigOperators.Group.List
/-! # `esl_fatal("unreached code was reached")` is unreachable in exact arithmetic (C18)

`esl_rnd_DChoose` ends in `esl_fatal` when its scan falls off the end of the vector. Read over ℚ — the lawful instance
of the number class the model is written in — this cannot happen for a vector of non-negative entries with a positive
sum and a roll in `[0,1)`: the last cumulative sum divided by the norm is `1`. Consequences, for every input and every
generator state: `esl_rsq_IID`-type loops, `esl_rsq_{C,X}Markov0` and `esl_rsq_{C,X}Markov1` never reach the fatal
branch. For `Markov1` this is exactly what the circularisation `p[x][i0] += 1.0` buys (`utest_markov1_bug`): every residue the chain
can move to has an outgoing pair, also a residue that occurs only at the end of the input. That argument is carrier-free
(`MarkovTotal.lean`); here ℚ is shown to be a `CountCarrier` for every bound.
(binary64: the second loop adds the same numbers in the same order as the first, so the last sum IS `norm` and
`norm / norm = 1.0 > roll` for a finite positive `norm` — a fifth IEEE fact, not needed by the support theorems.) -/
namespace EaselModel.Shuffle
open EaselModel.Random CNum

theorem foldl_add_eq_sum (p : List ℚ) (s : ℚ) : p.foldl CNum.add s = s + p.sum := by
  induction p generalizing s with
  | nil => simp
  | cons a t ih =>
    simp only [List.foldl_cons, List.sum_cons]
    rw [ih]
    show (s + a) + t.sum = s + (a + t.sum)
    ring

/-- over ℚ the scan's test `roll < (sum + q) / norm` is `roll · norm < sum + q`, and the first loop's `norm` is the sum -/
theorem dtest_rat (u norm sum q : ℚ) (hn : 0 < norm) : CNum.lt u (CNum.div (CNum.add sum q) norm) = true ↔ u * norm < sum + q := by
  show decide (u < (sum + q) / norm) = true ↔ _
  rw [decide_eq_true_iff, lt_div_iff₀ hn]

theorem norm_rat (p : List ℚ) : p.foldl CNum.add (CNum.zero : ℚ) = p.sum := by
  rw [foldl_add_eq_sum]; exact zero_add _

/-- the scan returns: if all earlier tests failed (`sum ≤ u·norm`) and the total is above the roll; the chosen entry is positive -/
theorem dchooseGo_total (u norm : ℚ) (hn : 0 < norm) : ∀ (ps : List ℚ) (sum : ℚ) (i : Nat),
    (∀ q ∈ ps, 0 ≤ q) → sum ≤ u * norm → u * norm < sum + ps.sum →
    ∃ k, dchooseGo u norm ps sum i = some k ∧ i ≤ k ∧ k < i + ps.length ∧ ∃ q, ps[k - i]? = some q ∧ 0 < q := by
  intro ps
  induction ps with
  | nil => intro sum i _ h1 h2; simp at h2; linarith
  | cons q rest ih =>
    intro sum i hq h1 h2
    simp only [dchooseGo, dtest_rat _ _ _ _ hn]
    split
    · rename_i h3
      exact ⟨i, rfl, Nat.le_refl _, by simp, q, by simp, by linarith⟩
    · rename_i ht
      obtain ⟨k, hk1, hk2, hk3, q', hq1, hq2⟩ := ih (sum + q) (i+1) (fun x hx => hq x (List.mem_cons_of_mem _ hx)) (not_lt.1 ht)
        (by simp only [List.sum_cons] at h2; linarith)
      refine ⟨k, hk1, by omega, by simp; omega, q', ?_, hq2⟩
      rw [show k - i = (k - (i+1)) + 1 by omega]
      simpa using hq1

theorem dchoose_total (u : ℚ) (hu0 : 0 ≤ u) (hu1 : u < 1) (p : List ℚ) (hp : ∀ q ∈ p, 0 ≤ q) (hs : 0 < p.sum) :
    ∃ k, dchoose u p = some k ∧ k < p.length ∧ ∃ q, p[k]? = some q ∧ 0 < q := by
  unfold dchoose
  rw [norm_rat]
  obtain ⟨k, h1, _, h3, q, hq1, hq2⟩ := dchooseGo_total u p.sum hs p (CNum.zero : ℚ) 0 hp
    (by show (0 : ℚ) ≤ u * p.sum; positivity)
    (by show u * p.sum < (0 : ℚ) + p.sum; nlinarith)
  exact ⟨k, h1, by omega, q, by simpa using hq1, hq2⟩

theorem dchooseGo_bracket (u norm : ℚ) (hn : 0 < norm) : ∀ (ps : List ℚ) (sum : ℚ) (i k : Nat),
    sum ≤ u * norm → dchooseGo u norm ps sum i = some k →
    i ≤ k ∧ sum + (ps.take (k - i)).sum ≤ u * norm ∧ u * norm < sum + (ps.take (k - i + 1)).sum := by
  intro ps
  induction ps with
  | nil => intro sum i k _ h; simp [dchooseGo] at h
  | cons q rest ih =>
    intro sum i k h1 h
    simp only [dchooseGo, dtest_rat _ _ _ _ hn] at h
    split at h
    · rename_i ht
      cases h
      exact ⟨Nat.le_refl _, by simpa using h1, by simpa using ht⟩
    · rename_i ht
      obtain ⟨a, b, c⟩ := ih (sum + q) (i+1) k (not_lt.1 ht) h
      have e1 : k - i = (k - (i+1)) + 1 := by omega
      refine ⟨by omega, ?_, ?_⟩
      · rw [e1, List.take_succ_cons, List.sum_cons]; linarith
      · rw [show k - i + 1 = (k - (i+1) + 1) + 1 by omega, List.take_succ_cons, List.sum_cons]; linarith

theorem dchoose_bracket (u : ℚ) (hu0 : 0 ≤ u) (p : List ℚ) (hs : 0 < p.sum) (k : Nat) (h : dchoose u p = some k) :
    (p.take k).sum / p.sum ≤ u ∧ u < (p.take (k+1)).sum / p.sum := by
  unfold dchoose at h
  rw [norm_rat] at h
  obtain ⟨_, h2, h3⟩ := dchooseGo_bracket u p.sum hs p (CNum.zero : ℚ) 0 k (by show (0 : ℚ) ≤ u * p.sum; positivity) h
  have z : (CNum.zero : ℚ) = 0 := rfl
  rw [z, zero_add, Nat.sub_zero] at h2 h3
  exact ⟨by rw [div_le_iff₀ hs]; exact h2, by rw [lt_div_iff₀ hs]; exact h3⟩

/-- with the bracket of `dchoose_bracket` at roll `0`: the entries before the chosen one are zero -/
theorem sum_take_zero_all_zero : ∀ (p : List ℚ) (k : Nat), (∀ q ∈ p, 0 ≤ q) → (p.take k).sum ≤ 0 → ∀ j, j < k → ∀ q, p[j]? = some q → q = 0 := by
  intro p
  induction p with
  | nil => intro k _ _ j _ q h; simp at h
  | cons a t ih =>
    intro k hnn hs j hj q hq
    cases k with
    | zero => omega
    | succ k =>
      simp only [List.take_succ_cons, List.sum_cons] at hs
      have ha : 0 ≤ a := hnn a (by simp)
      have ht : 0 ≤ (t.take k).sum := List.sum_nonneg (fun x hx => hnn x (List.mem_cons_of_mem _ (List.mem_of_mem_take hx)))
      cases j with
      | zero => simp at hq; rw [← hq]; linarith
      | succ j =>
        simp at hq
        exact ih k (fun x hx => hnn x (List.mem_cons_of_mem _ hx)) (by linarith) j (by omega) q hq

/-- exact arithmetic counts exactly, for every bound; the chooser returns on a vector of ratios with a positive entry because its
    entries are non-negative, its sum positive and the roll below 1 -/
theorem ratCounts (B : Nat) : CountCarrier ℚ B where
  ofNat_zero := Nat.cast_zero
  ofNat_one := Nat.cast_one
  ofNat_add := fun a b _ => (Nat.cast_add a b).symm
  zero_lt := fun n h _ => by show decide ((0 : ℚ) < (n : ℚ)) = true; simpa using h
  choose := fun ns n x _ hn0 _ _ hpos hx => by
    have hnq : (0 : ℚ) < (n : ℚ) := by exact_mod_cast hn0
    have hnn : ∀ q ∈ ns.map (fun (a : ℕ) => (a : ℚ) / (n : ℚ)), 0 ≤ q := by
      intro q hq; obtain ⟨a, _, rfl⟩ := List.mem_map.1 hq; positivity
    obtain ⟨a, ha, hp⟩ := hpos
    have := List.single_le_sum hnn _ (List.mem_map.2 ⟨a, ha, rfl⟩)
    have : 0 < (a : ℚ) / (n : ℚ) := div_pos (by exact_mod_cast hp) hnq
    obtain ⟨k, hk, _⟩ := dchoose_total ((x : ℚ) / ((4294967296 : ℕ) : ℚ)) (by positivity)
      (by rw [div_lt_one (by positivity)]; exact_mod_cast hx) _ hnn (by linarith)
    exact ⟨k, hk⟩

theorem iidLoop_total (p : List ℚ) (hp : ∀ q ∈ p, 0 ≤ q) (hs : 0 < p.sum) :
    ∀ (n : Nat) (r : Rng) (acc : Array Nat), ∃ out, (iidLoop p n r acc).1 = some out :=
  iidLoop_total_of p fun x hx => by
    obtain ⟨k, hk, _⟩ := dchoose_total ((x : ℚ) / ((4294967296 : ℕ) : ℚ)) (by positivity)
      (by rw [div_lt_one (by positivity)]; exact_mod_cast hx) p hp hs
    exact ⟨k, hk⟩

theorem markov0_total (K : Nat) (codes : List Nat) (hK : ∀ c ∈ codes, c < K) (r : Rng) :
    ∃ out, (markov0 (α := ℚ) K codes r).1 = some out :=
  (ratCounts (max codes.length K)).markov0_total K codes hK (Nat.le_max_left _ _) (Nat.le_max_right _ _) r

theorem markov1_total (K : Nat) (codes : List Nat) (hK : ∀ c ∈ codes, c < K) (hlen : 2 < codes.length) (r : Rng) :
    ∃ out, (markov1 (α := ℚ) K codes r).1 = some out :=
  (ratCounts (max codes.length K)).markov1_total K codes hK hlen (Nat.le_max_left _ _) (Nat.le_max_right _ _) r

/-- row `x` of the exact counts, as a list over `y = 0..K-1` -/
def rowL (K : Nat) (codes : List Nat) (x : Nat) : List ℚ :=
  (List.range K).map (fun y => (((circPairs codes).count (x, y) : Nat) : ℚ))

theorem rowL_eq (K : Nat) (codes : List Nat) (x : Nat) : rowL K codes x = (rowN K codes x).map (fun (n : ℕ) => (n : ℚ)) := by
  simp [rowL, rowN]

theorem rowL_sum (K : Nat) (codes : List Nat) (x : Nat) : (rowL K codes x).sum = (((rowN K codes x).sum : Nat) : ℚ) := by
  rw [rowL_eq]
  induction rowN K codes x with
  | nil => simp
  | cons a t ih => rw [List.map_cons, List.sum_cons, List.sum_cons, ih]; push_cast; rfl

end EaselModel.Shuffle
