import EaselModel.Simd.Spec
import EaselModel.Generated.SimdHelpers
/-! Lemmas about the generated SIMD helpers (C20): each helper equals the scalar loop over its lanes, for every lane
    pattern.  A horizontal reduction is a list of rounds, each a shuffle that moves the upper half of the live lanes down
    (`Round`, `laneFold_rounds`); a shift is `alignr` against the register moved by one 128-bit block (`alignr_shiftRight`,
    `alignr_shiftLeft`).  The lane values are arbitrary throughout; only immediates are evaluated. -/
namespace EaselModel.Simd
open EaselModel.Simd.Gen EaselModel.Simd.Spec

theorem lane_ofFn {α n} (f : Fin n → α) (z : α) (j : Nat) (h : j < n) : lane (Vector.ofFn f) z j = f ⟨j, h⟩ := by
  simp [lane, h]

theorem lane_zipWith {α n} (f : α → α → α) (a : Vector α n) (b : Vector α n) (z : α) (j : Nat) (h : j < n) :
    lane (Vector.zipWith f a b) z j = f (lane a z j) (lane b z j) := by
  simp [lane, h]

theorem lane_eq {α n} (a : Vector α n) (z : α) (j : Nat) (h : j < n) : lane a z j = a[j] := by
  simp [lane, h]

theorem umax_toNat {w} (a b : BitVec w) : (umax a b).toNat = max a.toNat b.toNat := by
  unfold umax; split <;> omega

theorem smax_toInt {w} (a b : BitVec w) : (smax a b).toInt = max a.toInt b.toInt := by
  unfold smax; split <;> omega

/-! ### one lane of each intrinsic (the intrinsic definitions themselves are never unfolded under a binder) -/
section lanes
variable {α : Type} {n : Nat}

theorem lane_bsrli (L B : Nat) (z : α) (a : Vector α n) (k j : Nat) (h : j < n) :
    lane (bsrli L B z a k) z j = if j % L + k / B < L then lane a z (j / L * L + j % L + k / B) else z := by
  simp [bsrli, lane_ofFn, h]
theorem lane_bslli (L B : Nat) (z : α) (a : Vector α n) (k j : Nat) (h : j < n) :
    lane (bslli L B z a k) z j = if k / B ≤ j % L then lane a z (j / L * L + j % L - k / B) else z := by
  simp [bslli, lane_ofFn, h]
theorem lane_shuffle32 (L : Nat) (z : α) (a : Vector α n) (imm j : Nat) (h : j < n) :
    lane (shuffle32 L z a imm) z j = lane a z (j / L * L + ((imm >>> (2 * (j % L / (L / 4)))) % 4) * (L / 4) + j % L % (L / 4)) := by
  simp [shuffle32, lane_ofFn, h]
theorem lane_shufflelo16 (L : Nat) (z : α) (a : Vector α n) (imm j : Nat) (h : j < n) :
    lane (shufflelo16 L z a imm) z j =
      if j % L / (L / 8) < 4 then lane a z (j / L * L + ((imm >>> (2 * (j % L / (L / 8)))) % 4) * (L / 8) + j % L % (L / 8))
      else lane a z j := by
  simp [shufflelo16, lane_ofFn, h]
theorem lane_shuffle_ps (L : Nat) (z : α) (a b : Vector α n) (imm j : Nat) (h : j < n) :
    lane (shuffle_ps L z a b imm) z j =
      if j % L / (L / 4) < 2 then lane a z (j / L * L + ((imm >>> (2 * (j % L / (L / 4)))) % 4) * (L / 4) + j % L % (L / 4))
      else lane b z (j / L * L + ((imm >>> (2 * (j % L / (L / 4)))) % 4) * (L / 4) + j % L % (L / 4)) := by
  simp [shuffle_ps, lane_ofFn, h]
theorem lane_srl_group (G : Nat) (z : α) (a : Vector α n) (s j : Nat) (h : j < n) :
    lane (srl_group G z a s) z j = if j % G + s < G then lane a z (j / G * G + j % G + s) else z := by
  simp [srl_group, lane_ofFn, h]
theorem lane_permute2x128 (L : Nat) (z : α) (a b : Vector α n) (imm j : Nat) (h : j < n) :
    lane (permute2x128 L z a b imm) z j =
      if (imm >>> (4 * (j / L))) % 16 / 8 % 2 = 1 then z
      else if (imm >>> (4 * (j / L))) % 16 % 4 = 0 then lane a z (j % L)
      else if (imm >>> (4 * (j / L))) % 16 % 4 = 1 then lane a z (L + j % L)
      else if (imm >>> (4 * (j / L))) % 16 % 4 = 2 then lane b z (j % L)
      else lane b z (L + j % L) := by
  unfold permute2x128; rw [lane_ofFn _ _ _ h]
theorem lane_alignr (L B : Nat) (z : α) (a b : Vector α n) (k j : Nat) (h : j < n) :
    lane (alignr L B z a b k) z j =
      if j % L + k / B < L then lane b z (j / L * L + (j % L + k / B))
      else if j % L + k / B < 2 * L then lane a z (j / L * L + (j % L + k / B) - L)
      else z := by
  simp [alignr, lane_ofFn, h]
theorem lane_move_ss (G : Nat) (z : α) (a b : Vector α n) (j : Nat) (h : j < n) :
    lane (move_ss G z a b) z j = if j < G then lane b z j else lane a z j := by
  simp [move_ss, lane_ofFn, h]
theorem lane_shuffle_x4 (L : Nat) (z : α) (a b : Vector α n) (imm j : Nat) (h : j < n) :
    lane (shuffle_x4 L z a b imm) z j =
      if j / L < 2 then lane a z (((imm >>> (2 * (j / L))) % 4) * L + j % L)
      else lane b z (((imm >>> (2 * (j / L))) % 4) * L + j % L) := by
  simp [shuffle_x4, lane_ofFn, h]
theorem lane_maskz_shuffle_x4 (L : Nat) (z : α) (k : Nat) (a b : Vector α n) (imm j : Nat) (h : j < n) :
    lane (maskz_shuffle_x4 L z k a b imm) z j =
      if (k >>> (j / (L / 4))) % 2 = 1 then lane (shuffle_x4 L z a b imm) z j else z := by
  simp [maskz_shuffle_x4, lane_ofFn, h]
theorem lane_extract_half {m : Nat} (z : α) (a : Vector α n) (idx j : Nat) (h : j < m) :
    lane (extract_half (m := m) z a idx) z j = lane a z (idx * m + j) := by
  simp [extract_half, lane_ofFn, h]
theorem lane_extract_half_lo {m : Nat} (z : α) (a : Vector α n) (j : Nat) (h : j < m) :
    lane (extract_half (m := m) z a 0) z j = lane a z j := by
  rw [lane_extract_half z a 0 j h, Nat.zero_mul, Nat.zero_add]
theorem lane_extract_half_hi {m : Nat} (z : α) (a : Vector α n) (j : Nat) (h : j < m) :
    lane (extract_half (m := m) z a 1) z j = lane a z (m + j) := by
  rw [lane_extract_half z a 1 j h, Nat.one_mul]
theorem lane_blendv_ps (O : F32Ops α) (a b mask : Vector α n) (j : Nat) (h : j < n) :
    lane (blendv_ps O a b mask) O.zero j = if O.msb (lane mask O.zero j) then lane b O.zero j else lane a O.zero j := by
  simp [blendv_ps, lane_ofFn, h]
end lanes

/-! ### halving reductions

The horizontal reductions run `log₂ n` rounds `x := op x (x moved down by d lanes)` with `d = n/2, …, 2, 1`; after the round with
stride `d` the fold of the first `d` lanes is the fold of all lanes (`fold1_halve`), so after the last one lane 0 holds it. -/
section halving
variable {β : Type} (op : β → β → β) [Std.Commutative op] [Std.Associative op]

theorem foldl_op_right (a b : β) (l : List β) : l.foldl op (op a b) = op (l.foldl op a) b := by
  rw [Std.Commutative.comm (op := op) a b, List.foldl_assoc, Std.Commutative.comm (op := op)]

theorem foldl_map_op (e : β) (f g : Nat → β) (l : List Nat) :
    (l.map fun j => op (f j) (g j)).foldl op e = (l.map g).foldl op ((l.map f).foldl op e) := by
  induction l generalizing e with
  | nil => rfl
  | cons x xs ih =>
    simp only [List.map_cons, List.foldl_cons, ih]
    rw [← Std.Associative.assoc (op := op), foldl_op_right]

/-- `f 0 ∘ f 1 ∘ … ∘ f (d-1)` from the left, for `d ≥ 1` (no unit of `op` is assumed) -/
def fold1 (f : Nat → β) (d : Nat) : β := ((List.range' 1 (d - 1)).map f).foldl op (f 0)

/-- combining the entries `j` and `d + j` first does not change the fold: `[0, 2d) = [0, d) ++ (d + ·) '' [0, d)` -/
theorem fold1_halve (f g : Nat → β) (d : Nat) (hd : 0 < d) (h : ∀ j < d, g j = op (f j) (f (d + j))) :
    fold1 op f (d + d) = fold1 op g d := by
  obtain ⟨k, rfl⟩ : ∃ k, d = k + 1 := ⟨d - 1, by omega⟩
  have hg : (List.range' 1 k).map g = (List.range' 1 k).map fun j => op (f j) (f (k + 1 + j)) :=
    List.map_congr_left fun j hj => h j (by have := List.mem_range'_1.mp hj; omega)
  have e1 : k + 1 + (k + 1) - 1 = k + (k + 1) := by omega
  have e2 : (List.range' 1 k).map (fun j => f (k + 1 + j)) = (List.range' (1 + k + 1) k).map f := by
    rw [Nat.add_comm 1 k, ← List.map_add_range', List.map_map]; rfl
  simp only [fold1, Nat.add_sub_cancel, hg, h 0 hd, foldl_map_op, e1, e2]
  rw [← List.range'_append_1, List.range'_succ, List.map_append, List.foldl_append, List.map_cons, List.foldl_cons]
  simp only [foldl_op_right, Nat.add_zero, Nat.add_comm 1 k]

def laneFold {α : Type} {n : Nat} (m : α → β) (z : α) (x : Vector α n) (d : Nat) : β := fold1 op (fun j => m (lane x z j)) d

theorem laneFold_halve {α : Type} {n k : Nat} {m : α → β} {op' : α → α → α} (hm : ∀ u v, m (op' u v) = op (m u) (m v))
    {z : α} (d : Nat) {x : Vector α n} {s t : Vector α k} (hs : ∀ j < d, lane s z j = lane x z j)
    (ht : ∀ j < d, lane t z j = lane x z (d + j)) (hd : 0 < d) (hk : d ≤ k) :
    laneFold op m z x (d + d) = laneFold op m z (Vector.zipWith op' s t) d :=
  fold1_halve op _ _ d hd fun j hj => by rw [lane_zipWith _ _ _ _ _ (by omega), hm, hs j hj, ht j hj]

/-- a shuffle that, on its first `d` lanes, moves the register down by `d` lanes -/
structure Round (α : Type) (n : Nat) (z : α) where
  move : Vector α n → Vector α n
  d : Nat
  movesDown : ∀ x j, j < d → j < n → lane (move x) z j = lane x z (d + j)

def Halving {α : Type} {n : Nat} {z : α} : Nat → List (Round α n z) → Prop
  | D, [] => D = 1
  | D, r :: rs => D = r.d + r.d ∧ Halving r.d rs

omit [Std.Commutative op] [Std.Associative op] in
theorem Halving.pos {α : Type} {n : Nat} {z : α} {D : Nat} {rs : List (Round α n z)} (h : Halving D rs) : 0 < D := by
  induction rs generalizing D with
  | nil => exact h ▸ Nat.one_pos
  | cons r rs ih => have := ih h.2; have := h.1; omega

theorem laneFold_rounds {α : Type} {n : Nat} {m : α → β} {op' : α → α → α} (hm : ∀ u v, m (op' u v) = op (m u) (m v)) {z : α}
    (rs : List (Round α n z)) (D : Nat) (h : Halving D rs) (hD : D ≤ n) (x : Vector α n) :
    m (lane (rs.foldl (fun x r => Vector.zipWith op' x (r.move x)) x) z 0) = laneFold op m z x D := by
  induction rs generalizing D x with
  | nil => rw [h]; rfl
  | cons r rs ih =>
    obtain ⟨hD', h⟩ := h
    rw [List.foldl_cons, ih r.d h (by omega), hD']
    exact (laneFold_halve op hm r.d (fun _ _ => rfl) (fun j hj => r.movesDown x j hj (by omega)) h.pos (by omega)).symm
end halving

theorem ofFn_lanes {α β : Type} {k : Nat} (m : α → β) (z : α) (a : Vector α (k + 1)) :
    (List.ofFn fun i : Fin (k + 1) => m a[i]) = m (lane a z 0) :: (List.range' 1 k).map fun j => m (lane a z j) := by
  rw [List.ofFn_succ]
  congr 1
  apply List.ext_getElem (by simp)
  intro i h1 h2
  simp at h1
  simp [lane, h1, Nat.add_comm]

theorem hmaxU_eq_fold1 {w k : Nat} (a : Vector (BitVec w) (k + 1)) :
    hmaxU a = laneFold max BitVec.toNat 0 a (k + 1) := by
  rw [hmaxU, ofFn_lanes BitVec.toNat 0 a, List.foldl_cons, Nat.zero_max]; rfl

theorem intMin_le_toInt {w : Nat} (x : BitVec w) : -((2 ^ (w - 1) : Nat) : Int) ≤ x.toInt := by
  have := BitVec.le_toInt x
  have e : ((2 ^ (w - 1) : Nat) : Int) = 2 ^ (w - 1) := by push_cast; rfl
  omega

theorem hmaxS_eq_fold1 {w k : Nat} (a : Vector (BitVec w) (k + 1)) :
    hmaxS a = laneFold max BitVec.toInt 0 a (k + 1) := by
  rw [hmaxS, ofFn_lanes BitVec.toInt 0 a, List.foldl_cons, Int.max_eq_right (intMin_le_toInt _)]; rfl

theorem foldLanes_eq_fold1 {α : Type} {k : Nat} (op : α → α → α) (z : α) (a : Vector α (k + 1)) :
    foldLanes op z a = laneFold op id z a (k + 1) := by
  rw [foldLanes, show (List.ofFn fun i : Fin (k + 1) => a[i]) = _ from ofFn_lanes id z a]; rfl

/-- immediate 78 = 0b01_00_11_10 selects group `g + 2` for `g = 0, 1`: the upper two groups of `G` lanes move down -/
theorem sel78 (G j : Nat) (h : j < 2 * G) : (78 >>> (2 * (j / G))) % 4 * G + j % G = 2 * G + j := by
  rcases Nat.lt_or_ge j G with h1 | h1
  · rw [Nat.div_eq_of_lt h1, Nat.mod_eq_of_lt h1]; rfl
  · rw [Nat.div_eq_of_lt_le (k := 1) (by omega) (by omega), Nat.mod_eq_sub_mod h1, Nat.mod_eq_of_lt (by omega : j - G < G)]
    simp; omega

/-- immediate 177 = 0b10_11_00_01 selects group 1 for group 0: the second group of `G` lanes moves down -/
theorem sel177 (G j : Nat) (h : j < G) : (177 >>> (2 * (j / G))) % 4 * G + j % G = G + j := by
  rw [Nat.div_eq_of_lt h, Nat.mod_eq_of_lt h]; simp

/-- immediate 27 = 0b00_01_10_11 reverses the four groups: group 3 moves to group 0 -/
theorem sel27 (G j : Nat) (h : j < G) : (27 >>> (2 * (j / G))) % 4 * G + j % G = 3 * G + j := by
  rw [Nat.div_eq_of_lt h, Nat.mod_eq_of_lt h]; rfl

/-- on its first four groups of `G` lanes, `sh` puts group `(imm >> 2g) & 3` of the register in the place of group `g`: what
    `shuffle32`, `shuffle_ps (a, a)`, `shufflelo16` and `shuffle_x4 (a, a)` have in common -/
def Sel4 {α : Type} {n : Nat} (z : α) (sh : Vector α n → Vector α n) (imm G : Nat) : Prop :=
  ∀ x j, j < 4 * G → j < n → lane (sh x) z j = lane x z ((imm >>> (2 * (j / G))) % 4 * G + j % G)

section sel4
variable {α : Type} {n : Nat} (z : α)

theorem sel4_shuffle32 (G imm : Nat) : Sel4 (n := n) z (shuffle32 (4 * G) z · imm) imm G := fun a j h hn => by
  rw [lane_shuffle32 _ _ _ _ _ hn, Nat.mul_div_cancel_left G (by decide : 0 < 4), Nat.div_eq_of_lt h, Nat.mod_eq_of_lt h,
    Nat.zero_mul, Nat.zero_add]

theorem sel4_shuffle_ps (G imm : Nat) : Sel4 (n := n) z (fun a => shuffle_ps (4 * G) z a a imm) imm G := fun a j h hn => by
  rw [lane_shuffle_ps _ _ _ _ _ _ hn, Nat.mul_div_cancel_left G (by decide : 0 < 4), Nat.div_eq_of_lt h, Nat.mod_eq_of_lt h,
    Nat.zero_mul, Nat.zero_add, ite_self]

theorem sel4_shufflelo16 (H imm : Nat) : Sel4 (n := n) z (shufflelo16 (8 * H) z · imm) imm H := fun a j h hn => by
  rw [lane_shufflelo16 _ _ _ _ _ hn, Nat.mul_div_cancel_left H (by decide : 0 < 8), Nat.div_eq_of_lt (by omega : j < 8 * H),
    Nat.mod_eq_of_lt (by omega : j < 8 * H), Nat.zero_mul, Nat.zero_add, if_pos]
  exact (Nat.div_lt_iff_lt_mul (by omega)).mpr h

theorem sel4_shuffle_x4 (L imm : Nat) : Sel4 (n := n) z (fun a => shuffle_x4 L z a a imm) imm L := fun a j _ hn => by
  rw [lane_shuffle_x4 _ _ _ _ _ _ hn, ite_self]
end sel4

namespace Round
variable {α : Type} {n : Nat} {z : α}

/-- `_mm256_permute2x128_si256 (a, a, 1)`: the upper 128-bit half moves down -/
def permute2x128 (z : α) (L : Nat) : Round α n z where
  move a := Simd.permute2x128 L z a a 1
  d := L
  movesDown a j h hn := by rw [lane_permute2x128 _ _ _ _ _ _ hn, Nat.div_eq_of_lt h, Nat.mod_eq_of_lt h]; rfl

def sel78 {sh : Vector α n → Vector α n} {G : Nat} (h : Sel4 z sh 78 G) : Round α n z where
  move := sh
  d := 2 * G
  movesDown a j hj hn := by rw [h a j (by omega) hn, Simd.sel78 G j hj]

def sel177 {sh : Vector α n → Vector α n} {G : Nat} (h : Sel4 z sh 177 G) : Round α n z where
  move := sh
  d := G
  movesDown a j hj hn := by rw [h a j (by omega) hn, Simd.sel177 G j hj]

def bsrli (z : α) (L B k : Nat) (h : 2 * (k / B) ≤ L) : Round α n z where
  move a := Simd.bsrli L B z a k
  d := k / B
  movesDown a j hj hn := by
    rw [lane_bsrli _ _ _ _ _ _ hn, Nat.div_eq_of_lt (by omega : j < L), Nat.mod_eq_of_lt (by omega : j < L), if_pos (by omega),
      Nat.zero_mul, Nat.zero_add, Nat.add_comm]

def srl_group (z : α) (G s : Nat) (h : 2 * s ≤ G) : Round α n z where
  move a := Simd.srl_group G z a s
  d := s
  movesDown a j hj hn := by
    rw [lane_srl_group _ _ _ _ _ hn, Nat.div_eq_of_lt (by omega : j < G), Nat.mod_eq_of_lt (by omega : j < G), if_pos (by omega),
      Nat.zero_mul, Nat.zero_add, Nat.add_comm]

end Round

theorem sse_hmax_epu8 (a : Vector (BitVec 8) 16) : (esl_sse_hmax_epu8 a).toNat = hmaxU a :=
  (laneFold_rounds max umax_toNat
    [.bsrli 0 16 1 8 (by decide), .bsrli 0 16 1 4 (by decide), .bsrli 0 16 1 2 (by decide), .bsrli 0 16 1 1 (by decide)]
    16 ⟨rfl, rfl, rfl, rfl, rfl⟩ (by decide) a).trans (hmaxU_eq_fold1 a).symm

theorem sse_hmax_epi8 (a : Vector (BitVec 8) 16) : (esl_sse_hmax_epi8 a).toInt = hmaxS a := by
  unfold esl_sse_hmax_epi8; extract_lets a₁ a₂ a₃ a₄
  -- the first two rounds exchange the 32-bit groups 0 ↔ 1, 2 ↔ 3 and then reverse their order, so lane `j < 4` of `a₂` has
  -- absorbed lanes `j`, `4 + j` and `12 + j`, `8 + j`: two halving rounds (strides 8, 4) up to the order of the operands
  have h₂ : ∀ j < 4, (lane a₂ 0 j).toInt =
      max (max (lane a 0 j).toInt (lane a 0 (8 + j)).toInt) (max (lane a 0 (4 + j)).toInt (lane a 0 (8 + (4 + j))).toInt) := by
    intro j hj
    have e : lane (shuffle32 16 0 a 177) 0 (3 * 4 + j) = lane a 0 (8 + j) := by
      rw [lane_shuffle32 _ _ _ _ _ (by omega),
        show (3 * 4 + j) % 16 / (16 / 4) = 3 from Nat.div_eq_of_lt_le (by omega) (by omega)]
      congr 1; omega
    rw [show 8 + (4 + j) = 3 * 4 + j by omega, show a₂ = Vector.zipWith smax a₁ (shuffle32 16 0 a₁ 27) from rfl,
      lane_zipWith _ _ _ _ _ (by omega), smax_toInt,
      sel4_shuffle32 0 4 27 a₁ j (by omega) (by omega), sel27 4 j hj, show a₁ = Vector.zipWith smax a (shuffle32 16 0 a 177) from rfl,
      lane_zipWith _ _ _ _ _ (by omega), lane_zipWith _ _ _ _ _ (by omega), smax_toInt, smax_toInt,
      sel4_shuffle32 0 4 177 a j (by omega) (by omega), sel177 4 j hj, e]
    ac_rfl
  calc (extract 0 a₄ 0).toInt = laneFold max BitVec.toInt 0 a₂ 4 :=
      laneFold_rounds max smax_toInt [.sel177 (sel4_shufflelo16 0 2 177), .srl_group 0 2 1 (by decide)] 4 ⟨rfl, rfl, rfl⟩ (by decide) a₂
    _ = fold1 max (fun j => max (lane a 0 j).toInt (lane a 0 (8 + j)).toInt) 8 := (fold1_halve max _ _ 4 (by decide) h₂).symm
    _ = laneFold max BitVec.toInt 0 a 16 := (fold1_halve max _ _ 8 (by decide) fun _ _ => rfl).symm
    _ = hmaxS a := (hmaxS_eq_fold1 a).symm

theorem sse_hmax_epi16 (a : Vector (BitVec 16) 8) : (esl_sse_hmax_epi16 a).toInt = hmaxS a :=
  (laneFold_rounds max smax_toInt [.sel78 (sel4_shuffle32 0 2 78), .sel78 (sel4_shufflelo16 0 1 78), .srl_group 0 2 1 (by decide)]
    8 ⟨rfl, rfl, rfl, rfl⟩ (by decide) a).trans (hmaxS_eq_fold1 a).symm

/-- the five rounds of the AVX reductions on 8-bit lanes, signed and unsigned -/
def avxRounds8 : List (Round (BitVec 8) 32 0) :=
  [.permute2x128 0 16, .sel78 (sel4_shuffle32 0 4 78), .sel177 (sel4_shuffle32 0 4 177), .sel177 (sel4_shufflelo16 0 2 177),
    .bsrli 0 16 1 1 (by decide)]

theorem avxRounds8_halving : Halving 32 avxRounds8 := ⟨rfl, rfl, rfl, rfl, rfl, rfl⟩

theorem avx_hmax_epu8 (a : Vector (BitVec 8) 32) : (esl_avx_hmax_epu8 a).toNat = hmaxU a :=
  (laneFold_rounds max umax_toNat avxRounds8 32 avxRounds8_halving (by decide) a).trans (hmaxU_eq_fold1 a).symm
theorem avx_hmax_epi8 (a : Vector (BitVec 8) 32) : (esl_avx_hmax_epi8 a).toInt = hmaxS a :=
  (laneFold_rounds max smax_toInt avxRounds8 32 avxRounds8_halving (by decide) a).trans (hmaxS_eq_fold1 a).symm
theorem avx_hmax_epi16 (a : Vector (BitVec 16) 16) : (esl_avx_hmax_epi16 a).toInt = hmaxS a :=
  (laneFold_rounds max smax_toInt
    [.permute2x128 0 8, .sel78 (sel4_shuffle32 0 2 78), .sel177 (sel4_shuffle32 0 2 177), .sel177 (sel4_shufflelo16 0 1 177)]
    16 ⟨rfl, rfl, rfl, rfl, rfl⟩ (by decide) a).trans (hmaxS_eq_fold1 a).symm

/-- the first round of the AVX-512 reductions combines the two 256-bit halves; the rest is the AVX reduction -/
theorem hmaxU_halves {w k : Nat} (a : Vector (BitVec w) (k + 1 + (k + 1))) :
    hmaxU (max_epu (extract_half (m := k + 1) 0 a 0) (extract_half 0 a 1)) = hmaxU a := by
  rw [hmaxU_eq_fold1, hmaxU_eq_fold1 (k := k + 1 + k)]
  exact (laneFold_halve max umax_toNat (k + 1) (fun j hj => lane_extract_half_lo 0 a j hj)
    (fun j hj => lane_extract_half_hi 0 a j hj) (Nat.succ_pos k) (Nat.le_refl _)).symm
theorem hmaxS_halves {w k : Nat} (a : Vector (BitVec w) (k + 1 + (k + 1))) :
    hmaxS (max_epi (extract_half (m := k + 1) 0 a 0) (extract_half 0 a 1)) = hmaxS a := by
  rw [hmaxS_eq_fold1, hmaxS_eq_fold1 (k := k + 1 + k)]
  exact (laneFold_halve max smax_toInt (k + 1) (fun j hj => lane_extract_half_lo 0 a j hj)
    (fun j hj => lane_extract_half_hi 0 a j hj) (Nat.succ_pos k) (Nat.le_refl _)).symm

theorem avx512_hmax_epu8 (a : Vector (BitVec 8) 64) : (esl_avx512_hmax_epu8 a).toNat = hmaxU a := by
  rw [← hmaxU_halves (k := 31) a]; exact avx_hmax_epu8 _
theorem avx512_hmax_epi8 (a : Vector (BitVec 8) 64) : (esl_avx512_hmax_epi8 a).toInt = hmaxS a := by
  rw [← hmaxS_halves (k := 31) a]; exact avx_hmax_epi8 _
theorem avx512_hmax_epi16 (a : Vector (BitVec 16) 32) : (esl_avx512_hmax_epi16 a).toInt = hmaxS a := by
  rw [← hmaxS_halves (k := 15) a]; exact avx_hmax_epi16 _

/-- the scalar loop `m = e; for i: m = max m (f i)` from a start `e` below every `f i` returns the largest `f i`: the fold is the
    maximum of the list `e :: f 0 :: …`, a member of it above all its members (`List.max?_eq_some_iff`) -/
theorem hmax_spec {β : Type} [LE β] [Max β] [Std.IsLinearOrder β] [Std.LawfulOrderMax β] {n : Nat} (f : Fin n → β) (e : β)
    (he : ∀ i, e ≤ f i) :
    (∀ i, f i ≤ (List.ofFn f).foldl max e) ∧ (0 < n → ∃ i, (List.ofFn f).foldl max e = f i) := by
  obtain ⟨h1, h2⟩ := (List.max?_eq_some_iff (xs := e :: List.ofFn f)).mp List.max?_cons'
  have hf : ∀ i, f i ≤ (List.ofFn f).foldl max e := fun i => h2 _ (List.mem_cons_of_mem _ (List.mem_ofFn.mpr ⟨i, rfl⟩))
  refine ⟨hf, fun hn => ?_⟩
  rcases List.mem_cons.mp h1 with h3 | h3
  · exact ⟨⟨0, hn⟩, Std.le_antisymm (by rw [h3]; exact he _) (hf _)⟩
  · obtain ⟨i, hi⟩ := List.mem_ofFn.mp h3
    exact ⟨i, hi.symm⟩

theorem hmaxU_spec {w n : Nat} (a : Vector (BitVec w) n) :
    (∀ i : Fin n, a[i].toNat ≤ hmaxU a) ∧ (0 < n → ∃ i : Fin n, hmaxU a = a[i].toNat) :=
  hmax_spec _ 0 fun _ => Nat.zero_le _

theorem hmaxS_spec {w n : Nat} (a : Vector (BitVec w) n) :
    (∀ i : Fin n, a[i].toInt ≤ hmaxS a) ∧ (0 < n → ∃ i : Fin n, hmaxS a = a[i].toInt) :=
  hmax_spec _ _ fun _ => intMin_le_toInt _

theorem ext_lane {α n} (z : α) (a b : Vector α n) (h : ∀ j, j < n → lane a z j = lane b z j) : a = b := by
  apply Vector.ext; intro i hi
  have := h i hi
  simpa [lane, hi] using this

section shifts
variable {α : Type} {n : Nat} (z : α)

theorem lane_shiftRight (a : Vector α n) (j : Nat) (h : j < n) :
    lane (shiftRight z a) z j = if j = 0 then z else lane a z (j - 1) := lane_ofFn _ z j h
theorem lane_shiftLeft (a : Vector α n) (j : Nat) (h : j < n) :
    lane (shiftLeft z a) z j = if j + 1 = n then z else lane a z (j + 1) := lane_ofFn _ z j h

theorem bslli_one (L B k : Nat) (a : Vector α L) (hk : k / B = 1) : bslli L B z a k = shiftRight z a := by
  apply ext_lane z; intro j hj
  rw [lane_bslli _ _ _ _ _ _ hj, lane_shiftRight _ _ _ hj, hk, Nat.div_eq_of_lt hj, Nat.mod_eq_of_lt hj, Nat.zero_mul, Nat.zero_add]
  by_cases h : j = 0
  · rw [if_pos h, if_neg (by omega)]
  · rw [if_neg h, if_pos (by omega)]

theorem bsrli_one (L B k : Nat) (a : Vector α L) (hk : k / B = 1) : bsrli L B z a k = shiftLeft z a := by
  apply ext_lane z; intro j hj
  rw [lane_bsrli _ _ _ _ _ _ hj, lane_shiftLeft _ _ _ hj, hk, Nat.div_eq_of_lt hj, Nat.mod_eq_of_lt hj, Nat.zero_mul, Nat.zero_add]
  by_cases h : j + 1 = L
  · rw [if_pos h, if_neg (by omega)]
  · rw [if_neg h, if_pos (by omega)]

theorem alignr_shiftRight (L B k : Nat) (v p : Vector α n) (hL : 0 < L) (hk : k / B = L - 1)
    (hb : ∀ j, j < n → j % L = 0 → j + L ≤ n)
    (hp : ∀ j, j < n → lane p z j = if j < L then z else lane v z (j - L)) :
    alignr L B z v p k = shiftRight z v := by
  apply ext_lane z; intro j hj
  have e := Nat.div_add_mod' j L
  have hr := Nat.mod_lt j hL
  rw [lane_alignr _ _ _ _ _ _ _ hj, lane_shiftRight _ _ _ hj, hk]
  by_cases h0 : j % L = 0
  · have := hb j hj h0
    rw [if_pos (by omega), hp _ (by omega)]
    by_cases hj0 : j = 0
    · rw [if_pos hj0, if_pos (by omega)]
    · rw [if_neg hj0, if_neg (by omega)]; congr 1; omega
  · rw [if_neg (by omega), if_pos (by omega), if_neg (by omega)]; congr 1; omega

theorem alignr_shiftLeft (L B k : Nat) (v p : Vector α n) (hL : 0 < L) (hk : k / B = 1)
    (hb : ∀ j, j < n → j % L + 1 < L → j + 1 < n)
    (hp : ∀ j, j < n → lane p z j = if j + L < n then lane v z (j + L) else z) :
    alignr L B z p v k = shiftLeft z v := by
  apply ext_lane z; intro j hj
  have e := Nat.div_add_mod' j L
  have hr := Nat.mod_lt j hL
  rw [lane_alignr _ _ _ _ _ _ _ hj, lane_shiftLeft _ _ _ hj, hk]
  by_cases h0 : j % L + 1 < L
  · have := hb j hj h0
    rw [if_pos h0, if_neg (by omega)]; congr 1; omega
  · rw [if_neg h0, if_pos (by omega), hp _ (by omega)]
    by_cases hj1 : j + 1 = n
    · rw [if_pos hj1, if_neg (by omega)]
    · rw [if_neg hj1, if_pos (by omega)]; congr 1; omega

/-! the block permutations of the AVX / AVX-512 shifts: the register moved up, or down, by one 128-bit block (`L` lanes) -/
theorem lane_permute2x128_12 (L : Nat) (a : Vector α n) (j : Nat) (h2 : j < 2 * L) (hn : j < n) :
    lane (permute2x128 L z a a 12) z j = if j < L then z else lane a z (j - L) := by
  rw [lane_permute2x128 _ _ _ _ _ _ hn]
  by_cases h : j < L
  · simp [Nat.div_eq_of_lt h, h]
  · have hq : j / L = 1 := Nat.div_eq_of_lt_le (by omega) (by omega)
    have hr : j % L = j - L := by rw [Nat.mod_eq_sub_mod (by omega), Nat.mod_eq_of_lt (by omega)]
    simp [hq, hr, h]

theorem lane_permute2x128_129 (L : Nat) (a : Vector α n) (j : Nat) (h2 : n = 2 * L) (hn : j < n) :
    lane (permute2x128 L z a a 129) z j = if j + L < n then lane a z (j + L) else z := by
  rw [lane_permute2x128 _ _ _ _ _ _ hn]
  by_cases h : j < L
  · rw [if_pos (show j + L < n by omega), Nat.div_eq_of_lt h, Nat.mod_eq_of_lt h, Nat.add_comm j L]; simp
  · rw [if_neg (show ¬ j + L < n by omega), show j / L = 1 from Nat.div_eq_of_lt_le (by omega) (by omega)]; simp

/-- the immediates of the AVX-512 shifts as tables: mask 0xFFF0 / 0x0FFF keeps the 32-bit elements 4..15 / 0..11, selector 144 / 57
    takes block `q - 1` / `q + 1` -/
theorem mask_fff0 : ∀ e < 16, (65520 >>> e) % 2 = if e < 4 then 0 else 1 := by decide
theorem mask_0fff : ∀ e < 16, (4095 >>> e) % 2 = if e < 12 then 1 else 0 := by decide
theorem sel144 : ∀ q < 4, (144 >>> (2 * q)) % 4 = q - 1 := by decide
theorem sel57 : ∀ q < 3, (57 >>> (2 * q)) % 4 = q + 1 := by decide

theorem lane_maskz_up (G : Nat) (a : Vector α n) (j : Nat) (h4 : j < 16 * G) (hn : j < n) :
    lane (maskz_shuffle_x4 (4 * G) z 65520 a a 144) z j = if j < 4 * G then z else lane a z (j - 4 * G) := by
  have hG : 0 < G := by omega
  have he : j / G < 16 := (Nat.div_lt_iff_lt_mul hG).mpr h4
  have hq : j / (4 * G) < 4 := (Nat.div_lt_iff_lt_mul (by omega)).mpr (by omega)
  have e := Nat.div_add_mod' j (4 * G)
  rw [lane_maskz_shuffle_x4 _ _ _ _ _ _ _ hn, Nat.mul_div_cancel_left G (by decide : 0 < 4), mask_fff0 _ he,
    lane_shuffle_x4 _ _ _ _ _ _ hn, ite_self, sel144 _ hq]
  simp only [Nat.div_lt_iff_lt_mul hG]
  by_cases h : j < 4 * G
  · rw [if_pos h, if_pos h, if_neg (by decide)]
  · have : 1 ≤ j / (4 * G) := (Nat.le_div_iff_mul_le (by omega)).mpr (by omega)
    have := Nat.mul_le_mul_right (4 * G) this
    rw [if_neg h, if_neg h, if_pos rfl, Nat.sub_mul, Nat.one_mul]; congr 1; omega

theorem lane_maskz_down (G : Nat) (a : Vector α n) (j : Nat) (h4 : n = 16 * G) (hn : j < n) :
    lane (maskz_shuffle_x4 (4 * G) z 4095 a a 57) z j = if j + 4 * G < n then lane a z (j + 4 * G) else z := by
  have hG : 0 < G := by omega
  have he : j / G < 16 := (Nat.div_lt_iff_lt_mul hG).mpr (by omega)
  have e := Nat.div_add_mod' j (4 * G)
  rw [lane_maskz_shuffle_x4 _ _ _ _ _ _ _ hn, Nat.mul_div_cancel_left G (by decide : 0 < 4), mask_0fff _ he,
    lane_shuffle_x4 _ _ _ _ _ _ hn, ite_self]
  simp only [Nat.div_lt_iff_lt_mul hG]
  by_cases h : j < 12 * G
  · have hq : j / (4 * G) < 3 := (Nat.div_lt_iff_lt_mul (by omega)).mpr (by omega)
    rw [if_pos h, if_pos rfl, if_pos (by omega), sel57 _ hq, Nat.add_mul, Nat.one_mul]; congr 1; omega
  · rw [if_neg h, if_neg (by decide), if_neg (by omega)]
end shifts

theorem sse_rightshift_int8 (a m : Vector (BitVec 8) 16) : esl_sse_rightshift_int8 a m = or_si (shiftRight 0 a) m :=
  congrArg (or_si · m) (bslli_one 0 16 1 1 a rfl)
theorem sse_rightshift_int16 (a m : Vector (BitVec 16) 8) : esl_sse_rightshift_int16 a m = or_si (shiftRight 0 a) m :=
  congrArg (or_si · m) (bslli_one 0 8 2 2 a rfl)
theorem avx_rightshift_int8 (a m : Vector (BitVec 8) 32) : esl_avx_rightshift_int8 a m = or_si (shiftRight 0 a) m :=
  congrArg (or_si · m) (alignr_shiftRight 0 16 1 15 a _ (by decide) rfl (fun j _ _ => by omega)
    fun j hj => lane_permute2x128_12 0 16 a j hj hj)
theorem avx_rightshift_int16 (a m : Vector (BitVec 16) 16) : esl_avx_rightshift_int16 a m = or_si (shiftRight 0 a) m :=
  congrArg (or_si · m) (alignr_shiftRight 0 8 2 14 a _ (by decide) rfl (fun j _ _ => by omega)
    fun j hj => lane_permute2x128_12 0 8 a j hj hj)
theorem avx512_rightshift_int8 (a m : Vector (BitVec 8) 64) : esl_avx512_rightshift_int8 a m = or_si (shiftRight 0 a) m :=
  congrArg (or_si · m) (alignr_shiftRight 0 16 1 15 a _ (by decide) rfl (fun j _ _ => by omega)
    fun j hj => lane_maskz_up 0 4 a j hj hj)
theorem avx512_rightshift_int16 (a m : Vector (BitVec 16) 32) : esl_avx512_rightshift_int16 a m = or_si (shiftRight 0 a) m :=
  congrArg (or_si · m) (alignr_shiftRight 0 8 2 14 a _ (by decide) rfl (fun j _ _ => by omega)
    fun j hj => lane_maskz_up 0 2 a j hj hj)

theorem rightshift_fill {w n : Nat} (a : Vector (BitVec w) n) (fill : BitVec w) :
    or_si (shiftRight 0 a) (Vector.ofFn fun i => if i.val = 0 then fill else 0) = shiftRight fill a := by
  apply ext_lane 0
  intro j hj
  unfold or_si shiftRight
  rw [lane_zipWith _ _ _ _ _ hj, lane_ofFn _ _ _ hj, lane_ofFn _ _ _ hj, lane_ofFn _ _ _ hj]
  by_cases h : j = 0
  · simp [h]
  · have hj' : j - 1 < n := by omega
    simp [h, lane, hj']

section floats
variable {α : Type} (O : F32Ops α)

theorem sse_rightshiftz_float (a : Vector α 4) : esl_sse_rightshiftz_float O a = shiftRight O.zero a :=
  bslli_one O.zero 4 4 4 a rfl
theorem sse_leftshiftz_float (a : Vector α 4) : esl_sse_leftshiftz_float O a = shiftLeft O.zero a :=
  bsrli_one O.zero 4 4 4 a rfl
theorem avx_rightshiftz_float (a : Vector α 8) : esl_avx_rightshiftz_float O a = shiftRight O.zero a :=
  alignr_shiftRight O.zero 4 4 12 a _ (by decide) rfl (fun j _ _ => by omega) fun j hj => lane_permute2x128_12 O.zero 4 a j hj hj
theorem avx_leftshiftz_float (a : Vector α 8) : esl_avx_leftshiftz_float O a = shiftLeft O.zero a :=
  alignr_shiftLeft O.zero 4 4 4 a _ (by decide) rfl (fun j _ _ => by omega) fun j hj => lane_permute2x128_129 O.zero 4 a j rfl hj
theorem avx512_rightshiftz_float (a : Vector α 16) : esl_avx512_rightshiftz_float O a = shiftRight O.zero a :=
  alignr_shiftRight O.zero 4 4 12 a _ (by decide) rfl (fun j _ _ => by omega) fun j hj => lane_maskz_up O.zero 1 a j hj hj
theorem avx512_leftshiftz_float (a : Vector α 16) : esl_avx512_leftshiftz_float O a = shiftLeft O.zero a :=
  alignr_shiftLeft O.zero 4 4 4 a _ (by decide) rfl (fun j _ _ => by omega) fun j hj => lane_maskz_down O.zero 1 a j rfl hj

/-- `{ b[0] a[0] a[1] a[2] }` -/
theorem sse_rightshift_ps (a b : Vector α 4) : esl_sse_rightshift_ps O a b = shiftRight (lane b O.zero 0) a := by
  apply ext_lane O.zero; unfold esl_sse_rightshift_ps shiftRight
  simp only [Nat.forall_lt_succ_right, Nat.not_lt_zero, false_imp_iff, implies_true, true_and]
  simp (disch := omega) [lane_move_ss, lane_shuffle_ps, lane_ofFn]
  simp (disch := omega) [lane_eq]
/-- `{ a[1] a[2] a[3] b[0] }` -/
theorem sse_leftshift_ps (a b : Vector α 4) : esl_sse_leftshift_ps O a b = shiftLeft (lane b O.zero 0) a := by
  apply ext_lane O.zero; unfold esl_sse_leftshift_ps shiftLeft
  simp only [Nat.forall_lt_succ_right, Nat.not_lt_zero, false_imp_iff, implies_true, true_and]
  simp (disch := omega) [lane_move_ss, lane_shuffle_ps, lane_ofFn]
  simp (disch := omega) [lane_eq]

/-- `r[z] = b[z]` where the mask lane has its sign bit set (in particular where it is all ones), `a[z]` where clear (all zeros) -/
theorem sse_select_ps (a b mask : Vector α 4) :
    esl_sse_select_ps O a b mask = select O.zero (fun z => O.msb (lane mask O.zero z)) a b := rfl

end floats

section ac
variable {α : Type} (O : F32Ops α)

/-- the SSE reductions on four lanes rotate by one lane (immediate 57), then exchange the halves (78): lane 0 ends with
    `(a0 ∘ a1) ∘ (a2 ∘ a3)`, the scalar loop for an associative, commutative operation (e.g. exact real addition, or `max` on a
    linear order without NaN) -/
theorem sse_reduce_ps (op : α → α → α) (hc : ∀ x y, op x y = op y x) (ha : ∀ x y z, op (op x y) z = op x (op y z)) (z : α)
    (a : Vector α 4) :
    let a₁ := Vector.zipWith op a (shuffle_ps 4 z a a 57)
    extract z (Vector.zipWith op a₁ (shuffle_ps 4 z a₁ a₁ 78)) 0 = foldLanes op z a := by
  unfold foldLanes
  simp (disch := omega) only [extract, lane_zipWith, lane_shuffle_ps, Nat.reduceDiv, Nat.reduceMod, Nat.reduceMul,
    Nat.reduceShiftRight, Nat.reduceLT, ↓reduceIte, Nat.zero_add, Nat.zero_mul, Nat.add_zero, Nat.one_mul]
  simp (disch := omega) only [lane_eq]
  simp only [List.ofFn, Fin.foldr, Fin.foldr.loop, List.foldl, Fin.getElem_fin]
  have : Std.Associative op := ⟨ha⟩
  have : Std.Commutative op := ⟨hc⟩
  ac_rfl

theorem sse_hsum_ps (hc : ∀ x y, O.add x y = O.add y x) (ha : ∀ x y z, O.add (O.add x y) z = O.add x (O.add y z)) (a : Vector α 4) :
    esl_sse_hsum_ps O a = foldLanes O.add O.zero a := sse_reduce_ps O.add hc ha O.zero a
theorem avx_hsum_ps (hc : ∀ x y, O.add x y = O.add y x) (ha : ∀ x y z, O.add (O.add x y) z = O.add x (O.add y z)) (a : Vector α 8) :
    esl_avx_hsum_ps O a = foldLanes O.add O.zero a := by
  have : Std.Associative O.add := ⟨ha⟩
  have : Std.Commutative O.add := ⟨hc⟩
  unfold esl_avx_hsum_ps; extract_lets t₁ s₁ t₂ s₂ t₃ s₃
  -- the second and third round add `moved + x` where the others add `x + moved`
  symm
  calc foldLanes O.add O.zero a = laneFold O.add id O.zero a 8 := foldLanes_eq_fold1 O.add O.zero a
    _ = laneFold O.add id O.zero s₁ 4 := laneFold_halve O.add (fun _ _ => rfl) 4 (fun _ _ => rfl)
      (fun j hj => (Round.permute2x128 O.zero 4).movesDown a j hj (by omega)) (by decide) (by decide)
    _ = laneFold O.add id O.zero s₂ 2 := fold1_halve O.add _ _ 2 (by decide) fun j hj => by
      rw [show s₂ = Vector.zipWith O.add t₂ s₁ from rfl, lane_zipWith _ _ _ _ _ (by omega),
        show lane t₂ O.zero j = lane s₁ O.zero (2 + j) from (Round.sel78 (sel4_shuffle32 O.zero 1 78)).movesDown s₁ j hj (by omega), hc]; rfl
    _ = laneFold O.add id O.zero s₃ 1 := fold1_halve O.add _ _ 1 (by decide) fun j hj => by
      rw [show s₃ = Vector.zipWith O.add t₃ s₂ from rfl, lane_zipWith _ _ _ _ _ (by omega),
        show lane t₃ O.zero j = lane s₂ O.zero (1 + j) from (Round.sel177 (sel4_shuffle32 O.zero 1 177)).movesDown s₂ j hj (by omega), hc]; rfl
theorem avx512_hsum_ps (hc : ∀ x y, O.add x y = O.add y x) (ha : ∀ x y z, O.add (O.add x y) z = O.add x (O.add y z)) (a : Vector α 16) :
    esl_avx512_hsum_ps O a = foldLanes O.add O.zero a := by
  have : Std.Associative O.add := ⟨ha⟩
  have : Std.Commutative O.add := ⟨hc⟩
  exact (lane_extract_half_lo (m := 8) O.zero _ 0 (by decide)).trans <|
    (laneFold_rounds O.add (m := id) (fun _ _ => rfl)
      [.sel78 (sel4_shuffle_x4 O.zero 4 78), .sel177 (sel4_shuffle_x4 O.zero 4 177), .sel78 (sel4_shuffle_ps O.zero 1 78),
        .sel177 (sel4_shuffle_ps O.zero 1 177)]
      16 ⟨rfl, rfl, rfl, rfl, rfl⟩ (by decide) a).trans (foldLanes_eq_fold1 O.add O.zero a).symm
theorem sse_hmax_ps (hc : ∀ x y, O.max x y = O.max y x) (ha : ∀ x y z, O.max (O.max x y) z = O.max x (O.max y z)) (a : Vector α 4) :
    esl_sse_hmax_ps O a = foldLanes O.max O.zero a := sse_reduce_ps O.max hc ha O.zero a
theorem sse_hmin_ps (hc : ∀ x y, O.min x y = O.min y x) (ha : ∀ x y z, O.min (O.min x y) z = O.min x (O.min y z)) (a : Vector α 4) :
    esl_sse_hmin_ps O a = foldLanes O.min O.zero a := sse_reduce_ps O.min hc ha O.zero a

end ac

theorem one_shl_ne_zero (k : Nat) : (1 <<< k) ≠ 0 := by
  rw [Nat.one_shiftLeft]; exact Nat.ne_of_gt (Nat.two_pow_pos k)

/-- a fold whose every step leaves a non-zero accumulator non-zero, and turns a zero one non-zero exactly when `P i` -/
theorem foldl_ne_zero {ι} (g : Nat → ι → Nat) (P : ι → Prop) (hg : ∀ acc i, g acc i ≠ 0 ↔ acc ≠ 0 ∨ P i) (l : List ι) (acc : Nat) :
    l.foldl g acc ≠ 0 ↔ acc ≠ 0 ∨ ∃ i ∈ l, P i := by
  induction l generalizing acc with
  | nil => simp
  | cons x xs ih => simp only [List.foldl_cons, ih, hg, or_assoc, List.mem_cons, exists_eq_or_imp]

theorem or_bits_ne_zero {ι} (l : List ι) (p : ι → Bool) (f : ι → Nat) (acc : Nat) :
    (l.foldl (fun acc i => if p i then acc ||| (1 <<< f i) else acc) acc ≠ 0) ↔ (acc ≠ 0 ∨ ∃ i ∈ l, p i = true) :=
  foldl_ne_zero _ _ (fun acc i => by
    by_cases hp : p i = true
    · simp only [hp, ↓reduceIte, or_true, iff_true]
      exact fun h => one_shl_ne_zero _ (Nat.or_eq_zero_iff.mp h).2
    · simp [hp]) l acc

theorem movemask_epi8_ne_zero {w n : Nat} (B : Nat) (a : Vector (BitVec w) n) :
    movemask_epi8 B a ≠ 0 ↔ ∃ i, i < n ∧ ∃ t, t < B ∧ (lane a 0 i).getLsbD (8 * t + 7) = true := by
  unfold movemask_epi8
  rw [foldl_ne_zero _ (fun i => ∃ t, t < B ∧ (lane a 0 i).getLsbD (8 * t + 7) = true) fun acc i => by
    rw [or_bits_ne_zero (List.range B) (fun t => (lane a 0 i).getLsbD (8 * t + 7)) (fun t => i * B + t) acc]
    simp [List.mem_range]]
  simp [List.mem_range]

theorem movemask_ps_ne_zero {α : Type} {n : Nat} (O : F32Ops α) (a : Vector α n) :
    movemask_ps O a ≠ 0 ↔ ∃ i, i < n ∧ O.msb (lane a O.zero i) = true := by
  unfold movemask_ps
  rw [or_bits_ne_zero (List.range n) (fun i => O.msb (lane a O.zero i)) (fun i => i) 0]
  simp [List.mem_range]

theorem getLsbD_maskOf {w : Nat} (c : Bool) (i : Nat) (h : i < w) : (maskOf c : BitVec w).getLsbD i = c := by
  unfold maskOf; cases c <;> simp [h]


theorem movemask_epi8_any {w n : Nat} (B : Nat) (hB : 0 < B) (x : Vector (BitVec w) n) (p : Nat → Bool)
    (key : ∀ i, i < n → ∀ t, t < B → (lane x 0 i).getLsbD (8 * t + 7) = p i) :
    decide (movemask_epi8 B x ≠ 0) = (List.range n).any p := by
  rw [Bool.eq_iff_iff]
  simp only [decide_eq_true_eq, movemask_epi8_ne_zero, List.any_eq_true, List.mem_range]
  constructor
  · rintro ⟨i, hi, t, ht, h⟩; exact ⟨i, hi, (key i hi t ht).symm.trans h⟩
  · rintro ⟨i, hi, h⟩; exact ⟨i, hi, 0, hB, (key i hi 0 hB).trans h⟩

theorem any_gt_epi16 {n : Nat} (a b : Vector (BitVec 16) n) : decide (movemask_epi8 2 (cmpgt_epi a b) ≠ 0) = anyGtS a b :=
  movemask_epi8_any 2 (by decide) _ _ fun i hi t ht => by rw [cmpgt_epi, lane_zipWith _ _ _ _ _ hi, getLsbD_maskOf _ _ (by omega)]

theorem sse_any_gt_epi16 (a b : Vector (BitVec 16) 8) : esl_sse_any_gt_epi16 a b = anyGtS a b := any_gt_epi16 a b
theorem avx_any_gt_epi16 (a b : Vector (BitVec 16) 16) : esl_avx_any_gt_epi16 a b = anyGtS a b := any_gt_epi16 a b

/-- lane of the inverted `max(a,b) == b` mask used by `any_gt_epu8` (there is no unsigned compare instruction) -/
theorem epu8_mask_bit (x y : BitVec 8) :
    ((maskOf (umax x y == y) : BitVec 8) ^^^ maskOf (maskOf (umax x y == y) == (maskOf (umax x y == y) : BitVec 8))).getLsbD 7
      = decide (y.toNat < x.toNat) := by
  have h1 : (maskOf ((maskOf (umax x y == y) : BitVec 8) == maskOf (umax x y == y)) : BitVec 8) = maskOf true := by simp
  rw [h1, BitVec.getLsbD_xor, getLsbD_maskOf _ _ (by omega), getLsbD_maskOf _ _ (by omega)]
  unfold umax
  by_cases h : x.toNat < y.toNat
  · simp [h]; omega
  · simp only [h, ↓reduceIte]
    by_cases h2 : x = y
    · subst h2; simp
    · have : x.toNat ≠ y.toNat := fun e => h2 (BitVec.eq_of_toNat_eq e)
      have h3 : y.toNat < x.toNat := by omega
      simp [h2, h3]

theorem sse_any_gt_epu8 (a b : Vector (BitVec 8) 16) : esl_sse_any_gt_epu8 a b = anyGtU a b :=
  movemask_epi8_any 1 (by decide) _ _ fun i hi t ht => by
    obtain rfl : t = 0 := by omega
    simp only [xor_si, cmpeq_epi, max_epu, lane_zipWith _ _ _ _ _ hi]
    exact epu8_mask_bit _ _

theorem sse_any_gt_ps {α : Type} (O : F32Ops α) (h1 : O.msb O.ones = true) (h0 : O.msb O.zero = false) (a b : Vector α 4) :
    esl_sse_any_gt_ps O a b = anyGtF O a b := by
  unfold esl_sse_any_gt_ps anyGtF
  rw [Bool.eq_iff_iff]
  simp only [decide_eq_true_eq, movemask_ps_ne_zero, List.any_eq_true, List.mem_range]
  have key : ∀ i, i < 4 → O.msb (lane (cmpgt_ps O a b) O.zero i) = O.gt (lane a O.zero i) (lane b O.zero i) := by
    intro i hi
    rw [cmpgt_ps, lane_zipWith _ _ _ _ _ hi]
    cases O.gt (lane a O.zero i) (lane b O.zero i) <;> simp [h1, h0]
  constructor
  · rintro ⟨i, hi, h⟩; exact ⟨i, hi, by rw [← key i hi]; exact h⟩
  · rintro ⟨i, hi, h⟩; exact ⟨i, hi, by rw [key i hi]; exact h⟩

end EaselModel.Simd
