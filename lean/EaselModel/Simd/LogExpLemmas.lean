import EaselModel.Generated.SimdLogExp
/-! Special-value behaviour of the translated `esl_sse_logf` / `esl_sse_expf` lane functions (C20, part B), for all 2^32
    bit patterns `x` and for ANY floating-point arithmetic `L` (the IEEE cleanup at the end of both functions is pure
    bit manipulation; whatever the polynomial part computed is overridden). -/
namespace EaselModel.Simd
open EaselModel.Simd.Gen

theorem and_eq_mask_iff (n M : Nat) : n &&& M = M ↔ ∀ i, M.testBit i = true → n.testBit i = true := by
  constructor
  · intro h i hi
    have : (n &&& M).testBit i = M.testBit i := by rw [h]
    rw [Nat.testBit_and, hi] at this
    simpa using this
  · intro h
    apply Nat.eq_of_testBit_eq
    intro i
    rw [Nat.testBit_and]
    cases hM : M.testBit i
    · simp
    · simp [h i hM]

theorem sign_test (x : UInt32) : ((x &&& 0x80000000) == 0x80000000) = decide (2 ^ 31 ≤ x.toNat) := by
  have hx : x.toNat < 2 ^ 32 := x.toNat_lt
  rw [Bool.eq_iff_iff]
  simp only [beq_iff_eq, decide_eq_true_eq]
  rw [← UInt32.toNat_inj, UInt32.toNat_and]
  show x.toNat &&& 2 ^ 31 = 2 ^ 31 ↔ _
  rw [and_eq_mask_iff]
  constructor
  · intro h
    exact Nat.ge_two_pow_of_testBit (h 31 (by rw [Nat.testBit_two_pow]; simp))
  · intro h i hi
    rw [Nat.testBit_two_pow] at hi
    have : i = 31 := by simpa [eq_comm] using hi
    subst this
    rw [Nat.testBit_eq_decide_div_mod_eq]
    simp only [decide_eq_true_eq]
    omega

theorem exp_zero_test (x : UInt32) : ((x >>> 23) == 0) = decide (x.toNat < 2 ^ 23) := by
  rw [Bool.eq_iff_iff]
  simp only [beq_iff_eq, decide_eq_true_eq]
  rw [← UInt32.toNat_inj, UInt32.toNat_shiftRight]
  show x.toNat >>> 23 = 0 ↔ _
  rw [Nat.shiftRight_eq_div_pow]
  omega

theorem mask_7f8 (i : Nat) : (0x7f800000 : Nat).testBit i = decide (23 ≤ i ∧ i < 31) := by
  have : (0x7f800000 : Nat) = (2 ^ 8 - 1) <<< 23 := by decide
  rw [this, Nat.testBit_shiftLeft, Nat.testBit_two_pow_sub_one]
  by_cases h : 23 ≤ i
  · have e : (i - 23 < 8) = (i < 31) := by apply propext; omega
    simp [h, e]
  · have : ¬ i ≥ 23 := h
    simp [this]

theorem exp_field_ones (n : Nat) : n / 2 ^ 23 % 256 = 255 ↔ ∀ i, i < 8 → n.testBit (i + 23) = true := by
  rw [show (256 : Nat) = 2 ^ 8 from rfl, show (255 : Nat) = 2 ^ 8 - 1 from rfl]
  constructor
  · intro h i hi
    have := congrArg (·.testBit i) h
    simpa only [Nat.testBit_mod_two_pow, Nat.testBit_div_two_pow, Nat.testBit_two_pow_sub_one, hi, decide_true, Bool.true_and] using this
  · intro h
    apply Nat.eq_of_testBit_eq; intro i
    rw [Nat.testBit_mod_two_pow, Nat.testBit_div_two_pow, Nat.testBit_two_pow_sub_one]
    by_cases hi : i < 8
    · simp only [hi, decide_true, Bool.true_and, h i hi]
    · simp only [hi, decide_false, Bool.false_and]

theorem exp_ones_test (x : UInt32) : ((x &&& 0x7f800000) == 0x7f800000) = decide (x.toNat / 2 ^ 23 % 256 = 255) := by
  rw [Bool.eq_iff_iff]
  simp only [beq_iff_eq, decide_eq_true_eq]
  rw [← UInt32.toNat_inj, UInt32.toNat_and]
  show x.toNat &&& 0x7f800000 = 0x7f800000 ↔ _
  rw [and_eq_mask_iff, exp_field_ones]
  simp only [mask_7f8, decide_eq_true_eq]
  constructor
  · intro h i hi; exact h (i + 23) ⟨by omega, by omega⟩
  · intro h i hi
    have := h (i - 23) (by omega)
    rwa [show i - 23 + 23 = i by omega] at this

theorem select_true (L : Lane32Ops) (a b : UInt32) : L.select_ps a b (mask32 true) = b := by
  have : ((0xFFFFFFFF : UInt32) >>> 31 == 1) = true := by decide
  simp [Lane32Ops.select_ps, mask32, this]
theorem select_false (L : Lane32Ops) (a b : UInt32) : L.select_ps a b (mask32 false) = a := by
  have : ((0 : UInt32) >>> 31 == 1) = false := by decide
  simp [Lane32Ops.select_ps, mask32, this]

/-- the shape of `esl_sse_logf`: whatever the polynomial part `r` computes, the result passes through three mask selections:
    exponent all ones ↦ `x` itself, sign bit ↦ all ones, exponent zero ↦ `-inf` -/
theorem logf_lane_shape (L : Lane32Ops) (x : UInt32) : ∃ r, esl_sse_logf_lane L x =
    L.select_ps (L.select_ps r x (mask32 (decide (x.toNat / 2 ^ 23 % 256 = 255))) ||| mask32 (decide (2 ^ 31 ≤ x.toNat)))
      0xff800000 (mask32 (decide (x.toNat < 2 ^ 23))) :=
  ⟨_, by
    unfold esl_sse_logf_lane
    simp only [Lane32Ops.cmpeq_epi32, Lane32Ops.and32, Lane32Ops.srli_epi32, Lane32Ops.or32, sign_test, exp_ones_test,
      show (23 : Nat) < 32 from by decide, ↓reduceIte, show UInt32.ofNat 23 = 23 from rfl, exp_zero_test]
    rfl⟩

theorem logf_negative (L : Lane32Ops) (x : UInt32) (h : 2 ^ 31 ≤ x.toNat) : esl_sse_logf_lane L x = 0xFFFFFFFF := by
  obtain ⟨r, hr⟩ := logf_lane_shape L x
  have h2 : ¬ x.toNat < 2 ^ 23 := by omega
  rw [hr]
  simp only [h, h2, decide_true, decide_false, select_false]
  exact UInt32.or_neg_one

theorem logf_zero_subnormal (L : Lane32Ops) (x : UInt32) (h : x.toNat < 2 ^ 23) : esl_sse_logf_lane L x = 0xff800000 := by
  obtain ⟨r, hr⟩ := logf_lane_shape L x
  rw [hr]
  simp only [h, decide_true, select_true]

theorem logf_inf_nan (L : Lane32Ops) (x : UInt32) (hs : x.toNat < 2 ^ 31) (he : x.toNat / 2 ^ 23 % 256 = 255) :
    esl_sse_logf_lane L x = x := by
  obtain ⟨r, hr⟩ := logf_lane_shape L x
  have h1 : ¬ 2 ^ 31 ≤ x.toNat := by omega
  have h2 : ¬ x.toNat < 2 ^ 23 := by omega
  rw [hr]
  simp only [he, h1, h2, decide_true, decide_false, select_true, select_false, mask32]
  exact UInt32.or_zero

/-- the two range cut-offs of the source (`maxlogf`, `minlogf`) as the bit patterns the compiler gives them -/
def expf_maxlogf : UInt32 := esl_sse_expf_fconsts.getD 0 0
def expf_minlogf : UInt32 := esl_sse_expf_fconsts.getD 1 0

/-- `x <= minlogf` gives +0, whatever else holds -/
theorem expf_underflow (L : Lane32Ops) (x : UInt32) (h : L.le x expf_minlogf = true) : esl_sse_expf_lane L x = 0 := by
  simp only [expf_minlogf, esl_sse_expf_fconsts, List.getD_cons_zero, List.getD_cons_succ] at h
  unfold esl_sse_expf_lane
  simp only [Lane32Ops.cmple_ps, h, select_true]

/-- `x > maxlogf` (and not `<= minlogf`) gives +inf -/
theorem expf_overflow (L : Lane32Ops) (x : UInt32) (h : L.gt x expf_maxlogf = true) (h2 : L.le x expf_minlogf = false) :
    esl_sse_expf_lane L x = 0x7f800000 := by
  simp only [expf_minlogf, expf_maxlogf, esl_sse_expf_fconsts, List.getD_cons_zero, List.getD_cons_succ] at h h2
  unfold esl_sse_expf_lane
  simp only [Lane32Ops.cmple_ps, Lane32Ops.cmpgt_ps, h, h2, select_true, select_false]

/-- The cut-offs lie where the `2^k` construction needs them (function comment, J10/62-63): `maxlogf` in
    (126.5 ln 2, 128.5 ln 2) so that `k + 127 <= 255`, `|minlogf|` in (126.5 ln 2, 127.5 ln 2) so that `k + 127 >= 0`;
    `minlogf` is negative. Positive binary32 patterns are ordered as their values. -/
theorem expf_cutoffs_in_window :
    0x42af5dc3 ≤ expf_maxlogf.toNat ∧ expf_maxlogf.toNat ≤ 0x42b22000 ∧
    0xc2af5dc3 ≤ expf_minlogf.toNat ∧ expf_minlogf.toNat ≤ 0xc2b0c0a5 := by decide

/-- NaN in, NaN out: under NaN propagation of the arithmetic (IEEE-754), a NaN argument (which fails both range tests) gives a NaN -/
theorem expf_nan (L : Lane32Ops) (x : UInt32)
    (hsub : ∀ a b, isNaN32 a = true → isNaN32 (L.sub_ps a b) = true)
    (haddL : ∀ a b, isNaN32 a = true → isNaN32 (L.add_ps a b) = true)
    (haddR : ∀ a b, isNaN32 b = true → isNaN32 (L.add_ps a b) = true)
    (hmulL : ∀ a b, isNaN32 a = true → isNaN32 (L.mul_ps a b) = true)
    (hx : isNaN32 x = true) (hgt : L.gt x expf_maxlogf = false) (hle : L.le x expf_minlogf = false) :
    isNaN32 (esl_sse_expf_lane L x) = true := by
  simp only [expf_minlogf, expf_maxlogf, esl_sse_expf_fconsts, List.getD_cons_zero, List.getD_cons_succ] at hgt hle
  unfold esl_sse_expf_lane
  simp only [Lane32Ops.cmple_ps, Lane32Ops.cmpgt_ps, hgt, hle, select_false]
  apply hmulL; apply haddL; apply haddR; apply hsub; apply hsub; exact hx

end EaselModel.Simd
