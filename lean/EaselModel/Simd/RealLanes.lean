import EaselModel.Simd.Lemmas
import Mathlib.Data.Real.Basic
import Mathlib.Algebra.BigOperators.Group.List.Basic
import Mathlib.Tactic.Ring
/-! The float reductions with the lanes read as real numbers (exact arithmetic, NaN-free order): the readable corollaries of the
    operation-generic theorems of `Simd/Lemmas.lean` (C20, part A). -/
namespace EaselModel.Simd
open EaselModel.Simd.Gen EaselModel.Simd.Spec

/-- float lanes read as real numbers with exact addition -/
noncomputable def realOps : F32Ops ℝ :=
  { add := (· + ·), max := max, min := min, gt := fun a b => decide (b < a), zero := 0, ones := 0, msb := fun a => decide (a < 0) }

theorem foldLanes_add_real {n : Nat} (a : Vector ℝ n) : foldLanes realOps.add realOps.zero a = (List.ofFn fun i : Fin n => a[i]).sum := by
  unfold foldLanes
  cases h : (List.ofFn fun i : Fin n => a[i]) with
  | nil => simp [realOps]
  | cons x xs => exact (List.foldl_eq_apply_foldr : xs.foldl (· + ·) x = x + xs.sum)

theorem sse_hsum_ps_real (a : Vector ℝ 4) : esl_sse_hsum_ps realOps a = (List.ofFn fun i : Fin 4 => a[i]).sum := by
  rw [sse_hsum_ps realOps (fun x y => add_comm x y) (fun x y z => add_assoc x y z), foldLanes_add_real]
theorem avx_hsum_ps_real (a : Vector ℝ 8) : esl_avx_hsum_ps realOps a = (List.ofFn fun i : Fin 8 => a[i]).sum := by
  rw [avx_hsum_ps realOps (fun x y => add_comm x y) (fun x y z => add_assoc x y z), foldLanes_add_real]
theorem avx512_hsum_ps_real (a : Vector ℝ 16) : esl_avx512_hsum_ps realOps a = (List.ofFn fun i : Fin 16 => a[i]).sum := by
  rw [avx512_hsum_ps realOps (fun x y => add_comm x y) (fun x y z => add_assoc x y z), foldLanes_add_real]

/-- on a NaN-free linear order `hmax_ps`/`hmin_ps` are the maximum / minimum of the four lanes -/
theorem sse_hmax_ps_real (a : Vector ℝ 4) : esl_sse_hmax_ps realOps a = max (max (max a[0] a[1]) a[2]) a[3] := by
  rw [sse_hmax_ps realOps (fun x y => max_comm x y) (fun x y z => max_assoc x y z)]
  simp [foldLanes, List.ofFn, Fin.foldr, Fin.foldr.loop, realOps]
  try rfl
theorem sse_hmin_ps_real (a : Vector ℝ 4) : esl_sse_hmin_ps realOps a = min (min (min a[0] a[1]) a[2]) a[3] := by
  rw [sse_hmin_ps realOps (fun x y => min_comm x y) (fun x y z => min_assoc x y z)]
  simp [foldLanes, List.ofFn, Fin.foldr, Fin.foldr.loop, realOps]
  try rfl

end EaselModel.Simd
