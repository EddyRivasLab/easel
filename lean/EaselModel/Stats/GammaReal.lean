import EaselModel.Stats.SxpReal
import Mathlib.Analysis.SpecialFunctions.Gamma.Deriv
/-! # Stationarity of the gamma fit in the shape `τ` (C11, ℝ)

`gam_fitting_engine` iterates the generalized-Newton update `1/τ' = 1/τ + g(τ)/(τ - τ²Ψ'(τ))`, `g(τ) = mean(log(x-μ)) - log x̄ + log τ - Ψ(τ)`,
with its own series `esl_stats_Psi`, `esl_stats_Trigamma`. Here:
* a fixed point of that update is exactly a zero of `g` (`gamma_update_fixed_point`);
* with the true Γ (Mathlib's `Real.Gamma`), `log τ - log x̄ - Γ'(τ)/Γ(τ) + mean(log(x-μ))` IS the derivative of the profile log-likelihood
  `τ ↦ logL(λ = τ/x̄, τ)` (`gamma_profile_hasDerivAt`) — i.e. `g = 0` with `Ψ` the true digamma function is the likelihood equation.
That `esl_stats_Psi` approximates `Γ'/Γ` is NOT proved (it is an asymptotic series; L0-like numerical residue). -/
namespace EaselModel.Stats
open Real

/-- the true digamma function on the reals, `Γ'(τ)/Γ(τ)` -/
noncomputable def digammaR (tau : ℝ) : ℝ := deriv Real.Gamma tau / Real.Gamma tau

theorem logGamma_hasDerivAt (tau : ℝ) (ht : 0 < tau) : HasDerivAt (fun t => Real.log (Real.Gamma t)) (digammaR tau) tau := by
  have hd : DifferentiableAt ℝ Real.Gamma tau := Real.differentiableAt_Gamma (fun m => by
    intro h; have : (0 : ℝ) ≤ (m : ℝ) := Nat.cast_nonneg m; linarith)
  exact hd.hasDerivAt.log (ne_of_gt (Real.Gamma_pos_of_pos ht))

/-- **the derivative of the gamma profile log-likelihood** `τ ↦ logL(λ = τ/x̄, τ)` per sample (true Γ): `log τ - log x̄ - ψ(τ) + mean log(x-μ)` -/
theorem gamma_profile_hasDerivAt (xbar logxbar tau : ℝ) (hx : 0 < xbar) (ht : 0 < tau) :
    HasDerivAt (fun t => llGam1 xbar logxbar (Real.log (Real.Gamma t)) (t / xbar) t)
      (Real.log tau - Real.log xbar - digammaR tau + logxbar) tau := by
  unfold llGam1
  have h1 : HasDerivAt (fun t : ℝ => Real.log (t / xbar)) (1 / tau) tau := by
    have h := ((hasDerivAt_id tau).div_const xbar).log (ne_of_gt (div_pos ht hx))
    refine h.congr_deriv ?_
    simp only [id]; field_simp
  have h2 : HasDerivAt (fun t : ℝ => t * Real.log (t / xbar)) (1 * Real.log (tau / xbar) + tau * (1 / tau)) tau := (hasDerivAt_id tau).mul h1
  have h3 := logGamma_hasDerivAt tau ht
  have h4 : HasDerivAt (fun t : ℝ => (t - 1) * logxbar) logxbar tau := by simpa using ((hasDerivAt_id tau).sub_const 1).mul_const logxbar
  have h5 : HasDerivAt (fun t : ℝ => t / xbar * xbar) 1 tau := by
    have := ((hasDerivAt_id tau).div_const xbar).mul_const xbar
    refine this.congr_deriv ?_
    field_simp
  have := ((h2.sub h3).add h4).sub h5
  refine this.congr_deriv ?_
  rw [Real.log_div (ne_of_gt ht) (ne_of_gt hx)]
  field_simp
  ring

/-- **and in `τ` for a fixed rate `λ`**: `log λ - ψ(τ) + mean log(x-μ)` -/
theorem gamma_loglik_hasDerivAt_tau (xbar logxbar lam tau : ℝ) (ht : 0 < tau) :
    HasDerivAt (fun t => llGam1 xbar logxbar (Real.log (Real.Gamma t)) lam t) (Real.log lam - digammaR tau + logxbar) tau := by
  unfold llGam1
  have h2 : HasDerivAt (fun t : ℝ => t * Real.log lam) (Real.log lam) tau := by simpa using (hasDerivAt_id tau).mul_const (Real.log lam)
  have h3 := logGamma_hasDerivAt tau ht
  have h4 : HasDerivAt (fun t : ℝ => (t - 1) * logxbar) logxbar tau := by simpa using ((hasDerivAt_id tau).sub_const 1).mul_const logxbar
  exact (((h2.sub h3).add h4).sub_const (lam * xbar))

/-- **a fixed point of `gam_fitting_engine`'s update is exactly a zero of `g`**: for a non-zero Newton denominator `d = τ - τ²Ψ'(τ)`,
    `1/(1/τ + g/d) = τ ↔ g = 0` -/
theorem gamma_update_fixed_point (tau g d : ℝ) (hd : d ≠ 0) : 1 / (1 / tau + g / d) = tau ↔ g = 0 := by
  constructor
  · intro h
    have h1 : 1 / tau + g / d = 1 / tau := by
      have h2 : (1 / (1 / tau + g / d))⁻¹ = tau⁻¹ := by rw [h]
      rw [one_div, inv_inv] at h2
      rw [h2, one_div]
    have h3 : g / d = 0 := by linarith
    rcases div_eq_zero_iff.1 h3 with h4 | h4
    · exact h4
    · exact absurd h4 hd
  · intro h; rw [h, zero_div, add_zero, one_div_one_div]

/-- the update as the model computes it (ℝ): `gamLoop`'s `tau'` is `1/(1/τ + g/d)` with the code's `Ψ`, `Ψ'` -/
theorem gamma_update_is_newton (xbar logxbar tau psi tg : ℝ) :
    (Num.one : ℝ) / (Num.one / tau + (logxbar - Num.log xbar + Num.log tau - psi) / (tau - tau * tau * tg))
      = 1 / (1 / tau + (logxbar - Real.log xbar + Real.log tau - psi) / (tau - tau * tau * tg)) := by
  simp only [one_r, log_r]


/-- `∂/∂τ` of the stretched-exponential log-likelihood with the true normaliser `logΓ(1/τ)`:
    `n(1/τ + ψ(1/τ)/τ²) - Σ (w+lᵢ)·exp(τ(w+lᵢ))`  (`ψ = Γ'/Γ`) -/
noncomputable def llSxpDtau (n : ℝ) (ls : List ℝ) (w tau : ℝ) : ℝ :=
  n * (1 / tau + digammaR (1 / tau) / (tau * tau)) - (ls.map (fun l => (w + l) * Real.exp (tau * (w + l)))).sum

theorem llSxp_hasDerivAt_tau (n : ℝ) (ls : List ℝ) (w tau : ℝ) (ht : 0 < tau) :
    HasDerivAt (fun t => llSxp (Real.log (Real.Gamma (1 / t))) n ls w t) (llSxpDtau n ls w tau) tau := by
  unfold llSxp llSxpDtau
  have hlg : HasDerivAt (fun t : ℝ => Real.log (Real.Gamma (1 / t))) (digammaR (1 / tau) * -(1 / (tau * tau))) tau :=
    (logGamma_hasDerivAt (1 / tau) (by positivity)).comp tau (hasDerivAt_one_div (ne_of_gt ht))
  have hlog : HasDerivAt (fun t : ℝ => Real.log t) (1 / tau) tau := by simpa using Real.hasDerivAt_log (ne_of_gt ht)
  have h1 : HasDerivAt (fun t : ℝ => n * (w + Real.log t - Real.log (Real.Gamma (1 / t))))
      (n * (1 / tau - digammaR (1 / tau) * -(1 / (tau * tau)))) tau := ((hlog.const_add w).sub hlg).const_mul n
  have h2 : HasDerivAt (fun t : ℝ => (ls.map (fun l => Real.exp (t * (w + l)))).sum)
      (ls.map (fun l => (w + l) * Real.exp (tau * (w + l)))).sum tau :=
    hasDerivAt_list_sum ls (fun l t => Real.exp (t * (w + l))) _ tau (fun l _ => hasDerivAt_exp_pow_tau tau w l)
  refine (h1.sub h2).congr_deriv ?_
  field_simp
  ring

end EaselModel.Stats
