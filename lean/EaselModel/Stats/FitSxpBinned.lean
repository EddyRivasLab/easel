import EaselModel.Stats.HistExpect
/-! # Executable model of `esl_sxp_FitCompleteBinned` (C11, kind H)

`esl_sxp_cdf` (through `esl_stats_IncompleteGamma(a, x, &pax, NULL)`), `sxp_complete_binned_func`, `esl_sxp_FitCompleteBinned` on top of the
minimiser model. When the incomplete gamma function cannot be evaluated (`tau = 0` or `inf`, NaN parameters) `esl_sxp_cdf` answers NaN
(the repaired behaviour; before the repair it returned an uninitialised double). Core Lean only. -/
namespace EaselModel.Stats
open Num
variable {α : Type} [Num α]

/-- `esl_stats_IncompleteGamma(a, x, &pax, NULL)`: `(status, P(a,x))` -/
def incompleteGammaP (a x : α) : St × α :=
  if leb a zero then (.erange, zero) else
  if ltb x zero then (.erange, zero) else
  if gtb x (a + one) then
    match igCF a x 99 1 zero one one x one with
    | none => (.enohalt, zero)
    | some nu1 => (.ok, one - nu1 * exp (a * log x - x - logGamma a))
  else
    match igSeries a x 9999 1 (one / a) (one / a) with
    | none => (.enohalt, zero)
    | some p => (.ok, p * exp (a * log x - x - logGamma a))

/-- `esl_sxp_cdf()` -/
def sxpCdf (x mu lambda tau : α) : α :=
  let y := lambda * (x - mu)
  if leb x mu then zero else
  match incompleteGammaP (one / tau) (exp (tau * log y)) with
  | (.ok, v) => v
  | _ => zero / zero

/-- one bin of `sxp_complete_binned_func()`'s loop; `none` = the `tmp == 0. → return eslINFINITY` exit taken -/
def sxpBinnedStep (h : Hist α) (mu lambda tau : α) (acc : Option α) (ic : Int × Nat) : Option α :=
  match acc with
  | none => none
  | some logL =>
    if ic.2 == 0 then some logL else
    let ai := h.lbound ic.1
    let bi := h.ubound ic.1
    let ai := if ltb ai mu then mu else ai
    let tmp := sxpCdf bi mu lambda tau - sxpCdf ai mu lambda tau
    if eqb tmp zero then none else some (logL + ofInt ic.2 * log tmp)

/-- `sxp_complete_binned_func()` -/
def sxpBinnedFunc (h : Hist α) (bins : List (Int × Nat)) (mu : α) (p : Array α) : α :=
  let lambda := exp (p.getD 0 zero)
  let tau := exp (p.getD 1 zero)
  match bins.foldl (sxpBinnedStep h mu lambda tau) (some zero) with
  | none => one / zero
  | some logL => Neg.neg logL

/-- `esl_sxp_FitCompleteBinned()` → `(mu, lambda, tau)`; `tailfit` = `h->is_tailfit` -/
def sxpFitCompleteBinned (h : Hist α) (tailfit : Bool) : FitRes α :=
  match binRange h with
  | none => .fault
  | some bins =>
    let mu := if tailfit then h.phi else if h.isRounded then h.lbound h.imin else h.xmin
    let mean := bins.foldl (fun (acc : α) ic => acc + ofInt ic.2 * (h.lbound ic.1 + (0.5 : α) * h.w)) zero
    let mean := mean / ofInt h.no
    let lambda := one / (mean - mu)
    let tau : α := (0.9 : α)
    fit2Result mu (cgd (MinCfg.null : MinCfg α) (sxpBinnedFunc h bins mu) none #[log lambda, log tau])

end EaselModel.Stats
