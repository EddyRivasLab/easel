import EaselModel.Stats.HistRat
/-! # Censoring declarations agree with the raw data (C11, over ℚ) -/
namespace EaselModel.Stats

theorem countP_glue (l : List ℚ) (a b c : ℚ) (hab : a < b) (hbc : b ≤ c) :
    l.countP (fun x => decide (a < x ∧ x ≤ b)) + l.countP (fun x => decide (b < x ∧ x ≤ c)) =
    l.countP (fun x => decide (a < x ∧ x ≤ c)) := by
  -- split the values in `(a, c]` at `b`
  have h := List.length_eq_countP_add_countP (fun x => decide (x ≤ b)) (l := l.filter (fun x => decide (a < x ∧ x ≤ c)))
  rw [← List.countP_eq_length_filter, List.countP_filter, List.countP_filter] at h
  rw [h]
  congr 1
  · apply List.countP_congr
    intro x _
    simp only [Bool.and_eq_true, decide_eq_true_eq]
    exact ⟨fun h => ⟨h.2, h.1, h.2.trans hbc⟩, fun h => ⟨h.2.1, h.1⟩⟩
  · apply List.countP_congr
    intro x _
    simp only [Bool.and_eq_true, decide_eq_true_eq, not_le]
    exact ⟨fun h => ⟨h.1, hab.trans h.1, h.2⟩, fun h => ⟨h.1, h.2.2⟩⟩
theorem binSum_counts (h : Hist ℚ) (vs : List ℚ) (acc : Accounts h vs) : ∀ (k : Nat) (lo : Int),
    binSum h.obs lo k = vs.countP (fun x => decide (h.bmin + lo * h.w < x ∧ x ≤ h.bmin + (lo + k) * h.w)) := by
  intro k
  induction k with
  | zero =>
    intro lo
    simp only [binSum, Nat.cast_zero, add_zero]
    symm; rw [List.countP_eq_zero]
    intro x _; simp only [decide_eq_true_eq]; intro ⟨a, b⟩; exact absurd a (not_lt.2 b)
  | succ k ih =>
    intro lo
    unfold binSum
    rw [acc.counts lo, ih (lo + 1)]
    have e1 : ((lo + 1 : Int) : ℚ) = (lo : ℚ) + 1 := by push_cast; rfl
    have e2 : ((lo + 1 : Int) : ℚ) + (k : ℚ) = (lo : ℚ) + ((k + 1 : Nat) : ℚ) := by push_cast; ring
    rw [e2, e1]
    have hk : (lo : ℚ) + 1 ≤ (lo : ℚ) + ((k + 1 : Nat) : ℚ) := by push_cast; linarith [(Nat.cast_nonneg k : (0 : ℚ) ≤ k)]
    exact countP_glue vs _ _ _ (grid_lt acc.wpos _ (lt_add_one _)) (grid_le acc.wpos _ hk)


theorem value_range (h : Hist ℚ) (vs : List ℚ) (acc : Accounts h vs) (v : ℚ) (hv : v ∈ vs) :
    h.bmin + h.imin * h.w < v ∧ v ≤ h.bmin + (h.imax + 1) * h.w := by
  have hw := acc.wpos
  have hin := inBin_ceil h.bmin h.w hw v
  set i := ⌈(v - h.bmin) / h.w - 1⌉
  have hc : 0 < obsAt h.obs i := by
    rw [acc.counts i]
    exact List.countP_pos_iff.2 ⟨v, hv, by simpa using hin⟩
  have h1 : h.imin ≤ i := by
    by_contra hlt; rw [acc.below i (by omega)] at hc; exact absurd hc (lt_irrefl 0)
  have h2 : i ≤ h.imax := by
    by_contra hgt; rw [acc.above i (by omega)] at hc; exact absurd hc (lt_irrefl 0)
  exact ⟨(grid_le hw _ (Int.cast_le.2 h1)).trans_lt hin.1,
    hin.2.trans (grid_le hw _ (add_le_add_left (Int.cast_le.2 h2) 1))⟩

/-- **`esl_histogram_DeclareCensoring(z, phi)`** on data `vs ≠ []`: eslEINVAL (nothing changes) exactly when `phi` exceeds the
    smallest raw value; otherwise eslOK with `z` censored, `Nc = n + z`, `No = n`,
    the stated `phi`, and the histogram finished. -/
theorem declareCensoring_spec (h : Hist ℚ) (vs : List ℚ) (acc : Accounts h vs) (hne : vs ≠ []) (z : Int) (hz : 0 ≤ z) (phi : ℚ) :
    ((∃ v ∈ vs, v < phi) → h.declareCensoring z phi = (.einval, h)) ∧
    ((∀ v ∈ vs, phi ≤ v) → ∃ h', h.declareCensoring z phi = (.ok, h') ∧ h'.z = z.toNat ∧ h'.nc = vs.length + z.toNat ∧
        h'.no = vs.length ∧ h'.phi = phi ∧ h'.isDone = true ∧ h'.datasetIs = .trueCensored ∧ h'.obs = h.obs ∧ h'.cmin = h.imin) := by
  obtain ⟨m1, _⟩ := acc.xmem hne
  constructor
  · intro ⟨v, hv, hlt⟩
    unfold Hist.declareCensoring
    have : Num.gtb phi h.xmin = true := (gtb_q _ _).2 (lt_of_le_of_lt (acc.xlo v hv).1 hlt)
    rw [if_pos this]
  · intro hall
    unfold Hist.declareCensoring
    have : ¬ Num.gtb phi h.xmin = true := by rw [gtb_q]; exact not_lt.2 (hall _ m1)
    rw [if_neg this]
    exact ⟨_, rfl, rfl, by show h.n + z.toNat = _; rw [acc.n], by show h.n = _; rw [acc.n], rfl, rfl, rfl, rfl, rfl⟩


@[simp] theorem eqb_q (a b : ℚ) : (Num.eqb a b = true) ↔ a = b := by simp [Num.eqb]

theorem lbound_q (h : Hist ℚ) (i : Int) : h.lbound i = h.bmin + i * h.w := by
  unfold Hist.lbound; simp only [ofInt_q]; ring

theorem ubound_q (h : Hist ℚ) (i : Int) : h.ubound i = h.bmin + (i + 1) * h.w := by
  unfold Hist.ubound; simp only [ofInt_q]; push_cast; ring

/-- the accepted values at or below the edge `bmin + c·w`, for ANY `c`, are those counted by the scan
    `for (b = imin; b < c && b <= imax; b++)` -/
theorem binSum_below (h : Hist ℚ) (vs : List ℚ) (acc : Accounts h vs) (c : Int) :
    binSum h.obs h.imin (min c (h.imax + 1) - h.imin).toNat = vs.countP (fun x => decide (x ≤ h.bmin + c * h.w)) := by
  have hw := acc.wpos
  rw [binSum_counts h vs acc]
  apply List.countP_congr
  intro v hv
  simp only [decide_eq_true_eq]
  obtain ⟨r1, r2⟩ := value_range h vs acc v hv
  rcases idx_state h vs acc with ⟨hvs, _⟩ | ⟨_, _, i2, _⟩
  · exact absurd hvs (List.ne_nil_of_mem hv)
  have ek : (h.imin : ℚ) + ((min c (h.imax + 1) - h.imin).toNat : ℚ) = ((max h.imin (min c (h.imax + 1)) : Int) : ℚ) := by
    have : (h.imin : Int) + ((min c (h.imax + 1) - h.imin).toNat : Int) = max h.imin (min c (h.imax + 1)) := by omega
    exact_mod_cast this
  rw [ek]
  rcases le_or_gt c h.imin with hc | hc
  · -- nothing is scanned, and no value lies that low
    rw [show max h.imin (min c (h.imax + 1)) = h.imin by omega]
    exact ⟨fun hh => absurd hh.1 (not_lt.2 hh.2), fun hh => absurd (hh.trans (grid_le hw _ (Int.cast_le.2 hc))) (not_le.2 r1)⟩
  rcases le_or_gt c (h.imax + 1) with hc' | hc'
  · rw [show max h.imin (min c (h.imax + 1)) = c by omega]
    exact ⟨fun hh => hh.2, fun hh => ⟨r1, hh⟩⟩
  · -- every bin is scanned, and every value lies that low
    rw [show max h.imin (min c (h.imax + 1)) = h.imax + 1 by omega]
    have r2' : v ≤ h.bmin + ((h.imax + 1 : Int) : ℚ) * h.w := by push_cast; exact r2
    exact ⟨fun _ => r2'.trans (grid_le hw _ (Int.cast_le.2 hc'.le)), fun _ => ⟨r1, r2'⟩⟩

theorem binSum_above (h : Hist ℚ) (vs : List ℚ) (acc : Accounts h vs) (j : Int) (hj : j ≤ h.imax + 1) :
    binSum h.obs j (h.imax + 1 - j).toNat = vs.countP (fun x => decide (h.bmin + j * h.w < x)) := by
  rw [binSum_counts h vs acc]
  apply List.countP_congr
  intro v hv
  simp only [decide_eq_true_eq]
  have ek : (j : ℚ) + ((h.imax + 1 - j).toNat : ℚ) = (h.imax : ℚ) + 1 := by
    have : (j : Int) + ((h.imax + 1 - j).toNat : Int) = h.imax + 1 := by omega
    exact_mod_cast this
  rw [ek]
  exact ⟨fun hh => hh.1, fun hh => ⟨hh, (value_range h vs acc v hv).2⟩⟩

theorem binSum_all (h : Hist ℚ) (vs : List ℚ) (acc : Accounts h vs) : binSum h.obs h.imin (h.imax + 1 - h.imin).toNat = vs.length := by
  rcases idx_state h vs acc with ⟨e, i1, i2⟩ | ⟨_, _, i2, _⟩
  · have := acc.wf.nb_pos
    rw [show (h.imax + 1 - h.imin).toNat = 0 by omega, e]; rfl
  · rw [binSum_above h vs acc h.imin (by omega), List.countP_eq_length]
    intro v hv; simp only [decide_eq_true_eq]; exact (value_range h vs acc v hv).1

/-- what an accepted `esl_histogram_SetTail` leaves alone, whatever the histogram and the threshold -/
theorem setTail_frame (h : Hist ℚ) (phi : ℚ) (h' : Hist ℚ) (m : ℚ) (e : h.setTail phi = .val (.ok, h', m)) :
    h'.imax = h.imax ∧ h'.obs = h.obs ∧ h'.w = h.w ∧ h'.bmin = h.bmin := by
  revert e
  fun_cases Hist.setTail h phi with
  | case1 _ _ _ hst => -- `Score2Bin` refused `phi`: the status is not eslOK
    intro e; injection e with e; injection e with e1 _
    rw [e1] at hst; exact absurd hst (by decide)
  | case2 | case3 => intro e; cases e
  | case4 =>
    intro e; injection e with e; injection e with _ e2; injection e2 with e2 _
    rw [← e2]; exact ⟨rfl, rfl, rfl, rfl⟩

/-- **`esl_histogram_SetTail(phi)`** (finite `phi` whose bin number fits an `int`): no fault; the threshold actually used is the bin
    boundary `bmin + k·w` with `phi - w < bmin + k·w ≤ phi`; `cmin = max(k, 0)`; and the censoring agrees with the raw data:
    `z` = the number of accepted values `≤` that threshold, `No = n - z`, `Nc = n`; counts untouched; histogram finished. -/
theorem setTail_spec (h : Hist ℚ) (vs : List ℚ) (acc : Accounts h vs) (phi : ℚ) (hfin : |phi| ≤ dblMaxQ)
    (hr : -2147483648 ≤ ⌈(phi - h.bmin) / h.w - 1⌉ ∧ ⌈(phi - h.bmin) / h.w - 1⌉ < 2147483647) :
    ∃ h' mass k, h.setTail phi = .val (.ok, h', mass) ∧ h'.phi = h.bmin + (k : Int) * h.w ∧ h'.phi ≤ phi ∧ phi - h'.phi < h.w ∧
      h'.cmin = max k 0 ∧ h'.z = vs.countP (fun x => decide (x ≤ h'.phi)) ∧ h'.no = vs.length - h'.z ∧ h'.nc = vs.length ∧
      h'.obs = h.obs ∧ h'.isDone = true ∧ h'.datasetIs = .virtualCensored := by
  have hw := acc.wpos
  have hsb := score2bin_q h hw phi
  simp only at hsb
  set c0 := ⌈(phi - h.bmin) / h.w - 1⌉ with hc0
  rcases hsb with ⟨hs, hin, _, _, _⟩ | ⟨_, hbad⟩
  swap
  · exfalso; rcases hbad with hb | hb | hb
    · exact hb hfin
    · omega
    · omega
  unfold inBin at hin
  set c : Int := if Num.eqb phi (h.ubound c0) = true then c0 + 1 else c0 with hc
  set newphi : ℚ := if Num.eqb phi (h.ubound c0) = true then phi else h.lbound c0 with hnp
  have hphi : newphi = h.bmin + (c : ℚ) * h.w ∧ newphi ≤ phi ∧ phi - newphi < h.w := by
    by_cases e : phi = h.ubound c0
    · have he : Num.eqb phi (h.ubound c0) = true := (eqb_q _ _).2 e
      simp only [hc, hnp, he, if_true]
      refine ⟨?_, le_refl _, by linarith⟩
      rw [ubound_q] at e; rw [e]; push_cast; ring
    · have he : ¬ Num.eqb phi (h.ubound c0) = true := by rw [eqb_q]; exact e
      simp only [hc, hnp, he, if_false, Bool.false_eq_true]
      rw [lbound_q]
      refine ⟨rfl, le_of_lt hin.1, ?_⟩
      rw [ubound_q] at e
      have : phi < h.bmin + ((c0 : ℚ) + 1) * h.w := lt_of_le_of_ne hin.2 e
      linarith
  have hst := idx_state h vs acc
  have hsz := acc.wf.size
  have hscan : sumObs h.obs h.imin (min c (h.imax + 1) - h.imin).toNat 0 =
      .val (0 + binSum h.obs h.imin (min c (h.imax + 1) - h.imin).toNat) := by
    apply sumObs_eq
    · rcases hst with ⟨_, i1, _⟩ | ⟨_, i1, _, _⟩
      · rw [i1]; exact le_of_lt acc.wf.nb_pos
      · exact i1
    · rcases hst with ⟨_, i1, i2⟩ | ⟨_, i1, i2, i3⟩
      · rw [i1, i2]; omega
      · omega
  have hz : binSum h.obs h.imin (min c (h.imax + 1) - h.imin).toNat = vs.countP (fun x => decide (x ≤ newphi)) := by
    rw [hphi.1]; exact binSum_below h vs acc c
  have hzle : vs.countP (fun x => decide (x ≤ newphi)) ≤ h.n := by rw [acc.n]; exact List.countP_le_length
  unfold Hist.setTail
  simp only [hs, bne_self_eq_false, Bool.false_eq_true, if_false]
  have hir : inIntRange (c0 + 1) = true := by rw [inIntRange_iff]; omega
  simp only [hir, Bool.not_true, Bool.false_eq_true, if_false]
  have hcdef : (if Num.eqb phi (h.ubound c0) = true then c0 + 1 else c0) = c := rfl
  have hnpdef : (if Num.eqb phi (h.ubound c0) = true then phi else h.lbound c0) = newphi := rfl
  simp only [hcdef, hnpdef]
  rw [hscan, Nat.zero_add, hz]
  simp only [if_pos hzle]
  refine ⟨_, _, c, rfl, hphi.1, hphi.2.1, hphi.2.2, ?_, rfl, ?_, acc.n, rfl, rfl, rfl⟩
  · show (if c < 0 then 0 else c) = max c 0
    split <;> omega
  · show h.n - _ = vs.length - _; rw [acc.n]

end EaselModel.Stats
