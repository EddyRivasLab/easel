import EaselModel.Stats.Histogram
/-! # Lemmas about the histogram model that hold for every numeric class (C11)

Counting, re-indexing and memory-safety facts: none of them depends on how numbers behave. Core Lean only. -/
namespace EaselModel.Stats
variable {α : Type} [Num α]

/-- count in bin `i` for ANY integer `i`: zero outside the allocated bins -/
def obsAt (obs : Array Nat) (i : Int) : Nat := if 0 ≤ i then (obs[i.toNat]?).getD 0 else 0

def total (obs : Array Nat) : Nat := obs.toList.sum

theorem sum_replicate_zero (k : Nat) : (List.replicate k 0).sum = 0 := by
  induction k with
  | zero => rfl
  | succ k ih => simp [List.replicate_succ, ih]

theorem sum_set (l : List Nat) (i : Nat) (h : i < l.length) (v : Nat) : (l.set i v).sum + l[i] = l.sum + v := by
  induction l generalizing i with
  | nil => simp at h
  | cons a t ih =>
    cases i with
    | zero => simp [List.set]; omega
    | succ i =>
      have := ih i (by simpa using h)
      simp [List.set]; omega

/-- structural well-formedness kept by every operation -/
structure Hist.WF (h : Hist α) : Prop where
  size : (h.obs.size : Int) = h.nb
  nb_pos : 0 < h.nb
  nb_le : h.nb ≤ INT_MAX
  alloc : h.isFull = true → h.n ≤ h.nalloc ∧ 0 < h.nalloc
  xsize : h.isFull = true → h.x.size = h.n

theorem obsAt_neg (obs : Array Nat) {i : Int} (h : i < 0) : obsAt obs i = 0 := by
  unfold obsAt; rw [if_neg (by omega)]

theorem obsAt_ge (obs : Array Nat) {i : Int} (h : (obs.size : Int) ≤ i) : obsAt obs i = 0 := by
  unfold obsAt
  split
  · have : obs.size ≤ i.toNat := by omega
    simp [Array.getElem?_eq_none this]
  · rfl

theorem bump_spec (obs : Array Nat) (b : Int) (h0 : 0 ≤ b) (h1 : b < obs.size) :
    ∃ obs', bump obs b = .val obs' ∧ obs'.size = obs.size ∧
      (∀ i : Int, obsAt obs' i = obsAt obs i + if i = b then 1 else 0) ∧ total obs' = total obs + 1 := by
  have hb : b.toNat < obs.size := by omega
  refine ⟨obs.setIfInBounds b.toNat (obs.getD b.toNat 0 + 1), ?_, by simp, ?_, ?_⟩
  · unfold bump; rw [if_pos ⟨h0, hb⟩]
  · intro i
    unfold obsAt
    by_cases hi : 0 ≤ i
    · rw [if_pos hi, if_pos hi, Array.getElem?_setIfInBounds]
      by_cases hib : i = b
      · subst hib
        simp [hb, Array.getD_eq_getD_getElem?]
      · have : b.toNat ≠ i.toNat := by omega
        simp [this, hib]
    · rw [if_neg hi, if_neg hi]
      have : i ≠ b := by omega
      simp [this]
  · unfold total
    rw [Array.toList_setIfInBounds]
    have hl : b.toNat < obs.toList.length := by simpa using hb
    have := sum_set obs.toList b.toNat hl (obs.getD b.toNat 0 + 1)
    have e : obs.getD b.toNat 0 = obs.toList[b.toNat] := by
      simp [Array.getD_eq_getD_getElem?, hb]
    omega

theorem obsAt_prepend (obs : Array Nat) (k : Nat) (i : Int) :
    obsAt (Array.replicate k 0 ++ obs) (i + k) = obsAt obs i := by
  unfold obsAt
  by_cases hi : 0 ≤ i
  · rw [if_pos (by omega), if_pos hi, Array.getElem?_append]
    have e : (i + (k : Int)).toNat = i.toNat + k := by omega
    have e2 : ¬ (i.toNat + k < k) := by omega
    simp [e, e2]
  · rw [if_neg hi]
    by_cases hk : 0 ≤ i + k
    · rw [if_pos hk, Array.getElem?_append]
      have : (i + (k : Int)).toNat < k := by omega
      simp [this]
    · rw [if_neg hk]

theorem obsAt_append (obs : Array Nat) (k : Nat) (i : Int) :
    obsAt (obs ++ Array.replicate k 0) i = obsAt obs i := by
  unfold obsAt
  by_cases hi : 0 ≤ i
  · rw [if_pos hi, if_pos hi, Array.getElem?_append]
    by_cases hlt : i.toNat < obs.size
    · simp [hlt]
    · have : obs.size ≤ i.toNat := by omega
      simp [hlt, Array.getElem?_replicate]
      split <;> rfl
  · rw [if_neg hi, if_neg hi]

theorem total_prepend (obs : Array Nat) (k : Nat) : total (Array.replicate k 0 ++ obs) = total obs := by
  unfold total; simp

theorem total_append (obs : Array Nat) (k : Nat) : total (obs ++ Array.replicate k 0) = total obs := by
  unfold total; simp

/-- `Σ_{j<k} obs[lo+j]` -/
def binSum (obs : Array Nat) (lo : Int) : Nat → Nat
  | 0 => 0
  | k+1 => obsAt obs lo + binSum obs (lo + 1) k

theorem getObs_val (obs : Array Nat) (i : Int) (h0 : 0 ≤ i) (h1 : i < obs.size) : getObs obs i = .val (obsAt obs i) := by
  have hb : i.toNat < obs.size := by omega
  unfold getObs obsAt
  rw [if_pos ⟨h0, hb⟩, if_pos h0, Array.getD_eq_getD_getElem?]

/-- the checked scan `for (b = lo; b < lo+k; b++) z += obs[b]` inside the bins: no fault, the plain sum -/
theorem sumObs_eq (obs : Array Nat) : ∀ (k : Nat) (lo : Int) (acc : Nat), 0 ≤ lo → lo + k ≤ obs.size →
    sumObs obs lo k acc = .val (acc + binSum obs lo k) := by
  intro k
  induction k with
  | zero => intro lo acc _ _; simp [sumObs, binSum]
  | succ k ih =>
    intro lo acc h0 h1
    unfold sumObs binSum
    rw [getObs_val obs lo h0 (by omega)]
    simp only []
    rw [ih (lo + 1) (acc + obsAt obs lo) (by omega) (by push_cast at h1 ⊢; omega)]
    congr 1; omega


theorem inIntRange_iff (i : Int) : inIntRange i = true ↔ (-2147483648 ≤ i ∧ i ≤ 2147483647) := by
  unfold inIntRange INT_MIN INT_MAX; simp

/-- what `Hist.grow` guarantees when it does not answer eslERANGE: the requested bin exists afterwards, every count is where
    it was (index shifted by `k`), the grid of bin boundaries is the same (`bmin` moved down by exactly `k` widths) -/
structure GrowOK (h h' : Hist α) (b b' : Int) (k : Nat) : Prop where
  wf : h'.WF
  beq : b' = b + k
  lo : 0 ≤ b'
  hi : b' < h'.nb
  obs : ∀ i : Int, obsAt h'.obs (i + k) = obsAt h.obs i
  tot : total h'.obs = total h.obs
  w : h'.w = h.w
  bmin : h'.bmin = if k = 0 then h.bmin else h.bmin - Num.ofInt (k : Int) * h.w
  n : h'.n = h.n
  x : h'.x = h.x
  full : h'.isFull = h.isFull
  nalloc : h'.nalloc = h.nalloc
  imin : h'.imin = if h.imin = h.nb then h'.nb else h.imin + k
  imax : h'.imax = if h.imax > -1 then h.imax + k else h.imax
  xmin : h'.xmin = h.xmin
  xmax : h'.xmax = h.xmax
  done : h'.isDone = h.isDone
  nbk : h.nb + k ≤ h'.nb

/-- `grow` writes only `obs nb bmin bmax imin cmin imax`: what is left to show of `GrowOK` for such an update -/
theorem GrowOK.of_update {h : Hist α} (hwf : h.WF) {obs' : Array Nat} {nb' imin' cmin' imax' : Int} {bmin' bmax' : α} {b b' : Int} {k : Nat}
    (size : (obs'.size : Int) = nb') (nb_le : nb' ≤ INT_MAX) (beq : b' = b + k) (lo : 0 ≤ b') (hi : b' < nb')
    (obs : ∀ i : Int, obsAt obs' (i + k) = obsAt h.obs i) (tot : total obs' = total h.obs)
    (bmin : bmin' = if k = 0 then h.bmin else h.bmin - Num.ofInt (k : Int) * h.w)
    (imin : imin' = if h.imin = h.nb then nb' else h.imin + k) (imax : imax' = if h.imax > -1 then h.imax + k else h.imax)
    (nbk : h.nb + k ≤ nb') :
    GrowOK h { h with obs := obs', nb := nb', bmin := bmin', bmax := bmax', imin := imin', cmin := cmin', imax := imax' } b b' k :=
  { wf := ⟨size, by have := hwf.nb_pos; show 0 < nb'; omega, nb_le, hwf.alloc, hwf.xsize⟩
    beq := beq, lo := lo, hi := hi, obs := obs, tot := tot, w := rfl, bmin := bmin, n := rfl, x := rfl, full := rfl, nalloc := rfl
    imin := imin, imax := imax, xmin := rfl, xmax := rfl, done := rfl, nbk := nbk }

theorem grow_spec (h : Hist α) (hwf : h.WF) (b : Int) :
    h.grow b = .val none ∨ ∃ h' b' k, h.grow b = .val (some (h', b')) ∧ GrowOK h h' b b' k := by
  have hsz := hwf.size; have hpos := hwf.nb_pos; have hle := hwf.nb_le
  unfold INT_MAX at hle
  unfold Hist.grow
  by_cases hb : b < 0
  · rw [if_pos hb]
    by_cases hc : b < -((INT_MAX - h.nb) / 2)
    · rw [if_pos hc]; exact Or.inl rfl
    · rw [if_neg hc]
      unfold INT_MAX at hc
      have hr : inIntRange (-b * 2) = true := by rw [inIntRange_iff]; omega
      simp only [hr, Bool.not_true, Bool.false_eq_true, if_false]
      have hk : (((-b * 2).toNat : Nat) : Int) = -b * 2 := by omega
      -- growth below: `-b*2` new bins in front, every index moves up by that much
      refine Or.inr ⟨_, _, (-b * 2).toNat, rfl, GrowOK.of_update hwf
        (by simp only [Array.size_append, Array.size_replicate]; omega) (by unfold INT_MAX; omega) (by omega) (by omega) (by omega)
        (fun i => obsAt_prepend h.obs _ i) (total_prepend h.obs _) ?_ (by split <;> omega) (by rw [hk]) (by omega)⟩
      have : (-b * 2).toNat ≠ 0 := by omega
      simp only [this, if_false, hk]
  · rw [if_neg hb]
    by_cases hge : b ≥ h.nb
    · rw [if_pos hge]
      by_cases hc : b - h.nb + 1 > (INT_MAX - h.nb) / 2
      · rw [if_pos hc]; exact Or.inl rfl
      · rw [if_neg hc]
        unfold INT_MAX at hc
        have hr : inIntRange ((b - h.nb + 1) * 2) = true := by rw [inIntRange_iff]; omega
        simp only [hr, Bool.not_true, Bool.false_eq_true, if_false]
        -- growth above: new bins appended, no index moves
        refine Or.inr ⟨_, _, 0, rfl, GrowOK.of_update hwf
          (by simp only [Array.size_append, Array.size_replicate]; omega) (by unfold INT_MAX; omega) (by simp) (by omega) (by omega)
          (fun i => by simpa using obsAt_append h.obs _ i) (total_append h.obs _) (by simp) ?_ (by split <;> simp) (by omega)⟩
        by_cases e : h.imin = h.nb <;> simp [e]
    · rw [if_neg hge]
      refine Or.inr ⟨h, b, 0, rfl, GrowOK.of_update hwf
        hsz (by unfold INT_MAX; omega) (by simp) (by omega) (by omega) (fun i => by simp) rfl (by simp) (by split <;> simp_all) (by split <;> simp) (by simp)⟩

/-- `grow` never leaves the `int` range (the overflow test precedes the multiplication) -/
theorem grow_no_fault (h : Hist α) (hwf : h.WF) (b : Int) : h.grow b ≠ .fault := by
  rcases grow_spec h hwf b with e | ⟨_, _, _, e, _⟩ <;> rw [e] <;> intro c <;> cases c


theorem prealloc_wf (h : Hist α) (hwf : h.WF) :
    h.prealloc.WF ∧ (h.prealloc.isFull = true → h.prealloc.n < h.prealloc.nalloc) := by
  unfold Hist.prealloc
  by_cases c : (h.isFull && h.nalloc == h.n) = true
  · rw [if_pos c]
    simp only [Bool.and_eq_true, beq_iff_eq] at c
    have := hwf.alloc c.1
    refine ⟨⟨hwf.size, hwf.nb_pos, hwf.nb_le, fun _ => ?_, hwf.xsize⟩, fun _ => ?_⟩
    · show h.n ≤ h.nalloc * 2 ∧ 0 < h.nalloc * 2; omega
    · show h.n < h.nalloc * 2; omega
  · rw [if_neg c]
    refine ⟨hwf, fun hf => ?_⟩
    have := hwf.alloc hf
    simp only [Bool.and_eq_true, beq_iff_eq, not_and] at c
    have := c hf
    omega

theorem prealloc_eq (h : Hist α) : ∃ n, h.prealloc = { h with nalloc := n } := by
  unfold Hist.prealloc; split
  · exact ⟨_, rfl⟩
  · exact ⟨h.nalloc, rfl⟩

theorem score2bin_prealloc (h : Hist α) (x : α) : h.prealloc.score2bin x = h.score2bin x := by
  obtain ⟨n, e⟩ := prealloc_eq h; rw [e]; rfl

structure RecordOK (h h' : Hist α) (b : Int) (v : α) : Prop where
  wf : h'.WF
  obs : ∀ i : Int, obsAt h'.obs i = obsAt h.obs i + if i = b then 1 else 0
  tot : total h'.obs = total h.obs + 1
  n : h'.n = h.n + 1
  w : h'.w = h.w
  bmin : h'.bmin = h.bmin
  nb : h'.nb = h.nb
  x : h'.x = if h.isFull then h.x.push v else h.x
  full : h'.isFull = h.isFull
  imin : h'.imin = if b < h.imin then b else h.imin
  imax : h'.imax = if b > h.imax then b else h.imax
  xmin : h'.xmin = if Num.ltb v h.xmin then v else h.xmin
  xmax : h'.xmax = if Num.gtb v h.xmax then v else h.xmax
  done : h'.isDone = h.isDone

theorem record_spec (h : Hist α) (hwf : h.WF) (hroom : h.isFull = true → h.n < h.nalloc)
    (b : Int) (h0 : 0 ≤ b) (h1 : b < h.nb) (v : α) :
    ∃ h', h.record b v = .val (.ok, h') ∧ RecordOK h h' b v := by
  have hsz := hwf.size
  obtain ⟨obs', e, esz, eobs, etot⟩ := bump_spec h.obs b h0 (by omega)
  unfold Hist.record
  have hg : (h.isFull && !decide (h.n < h.nalloc)) = false := by
    cases hf : h.isFull
    · simp
    · simp [hroom hf]
  simp only [hg, Bool.false_eq_true, if_false, e]
  refine ⟨_, rfl, ?_⟩
  constructor
  · constructor
    · show (obs'.size : Int) = h.nb; omega
    · exact hwf.nb_pos
    · exact hwf.nb_le
    · intro hf
      have a := hwf.alloc hf; have r := hroom hf
      show h.n + 1 ≤ h.nalloc ∧ 0 < h.nalloc; omega
    · intro hf
      have hf' : h.isFull = true := hf
      have := hwf.xsize hf'
      show (if h.isFull = true then h.x.push v else h.x).size = h.n + 1
      simp [hf', this]
  · exact eobs
  · exact etot
  all_goals rfl

/-- what a successful `esl_histogram_Add` does, for every numeric class -/
structure AddOK (h h' : Hist α) (b : Int) (k : Nat) (v : α) : Prop where
  wf : h'.WF
  obs : ∀ i : Int, obsAt h'.obs (i + k) = obsAt h.obs i + if i = b then 1 else 0
  tot : total h'.obs = total h.obs + 1
  n : h'.n = h.n + 1
  w : h'.w = h.w
  bmin : h'.bmin = if k = 0 then h.bmin else h.bmin - Num.ofInt (k : Int) * h.w
  x : h'.x = if h.isFull then h.x.push v else h.x
  full : h'.isFull = h.isFull
  done : h'.isDone = false
  imin : h'.imin = if h.imin = h.nb ∨ b < h.imin then b + k else h.imin + k
  imax : h'.imax = if h.imax = -1 ∨ b > h.imax then b + k else h.imax + k
  xmin : h'.xmin = if Num.ltb v h.xmin then v else h.xmin
  xmax : h'.xmax = if Num.gtb v h.xmax then v else h.xmax
  nbk : h.nb + k ≤ h'.nb

def SameData (h h' : Hist α) : Prop :=
  h'.obs = h.obs ∧ h'.nb = h.nb ∧ h'.w = h.w ∧ h'.bmin = h.bmin ∧ h'.bmax = h.bmax ∧ h'.n = h.n ∧ h'.x = h.x ∧
  h'.isFull = h.isFull ∧ h'.imin = h.imin ∧ h'.imax = h.imax ∧ h'.xmin = h.xmin ∧ h'.xmax = h.xmax ∧ h'.isDone = h.isDone

theorem SameData.w {h h' : Hist α} (s : SameData h h') : h'.w = h.w := s.2.2.1
theorem SameData.bmin {h h' : Hist α} (s : SameData h h') : h'.bmin = h.bmin := s.2.2.2.1
theorem SameData.isFull {h h' : Hist α} (s : SameData h h') : h'.isFull = h.isFull := s.2.2.2.2.2.2.2.1

/-- invariant needed for the `imin/imax` bookkeeping: they are sentinels or lie inside the bins -/
def IdxOK (h : Hist α) : Prop :=
  (h.imin = h.nb ∧ h.imax = -1) ∨ (0 ≤ h.imin ∧ h.imin ≤ h.imax ∧ h.imax < h.nb)

theorem IdxOK.imax_lt {h : Hist α} (hidx : IdxOK h) (hwf : h.WF) : h.imax < h.nb := by
  rcases hidx with ⟨_, h2⟩ | ⟨_, _, h3⟩
  · have := hwf.nb_pos; omega
  · exact h3

theorem add_spec (h : Hist α) (hwf : h.WF) (hidx : IdxOK h) (v : α) :
    ∃ st h', h.add v = .val (st, h') ∧ h'.WF ∧
      ((st ≠ .ok ∧ SameData h h') ∨
       (st = .ok ∧ h.isDone = false ∧ ∃ b k, h.score2bin v = (.ok, b) ∧ AddOK h h' b k v)) := by
  unfold Hist.add
  by_cases hd : h.isDone = true
  · rw [if_pos hd]
    exact ⟨.einval, h, rfl, hwf, Or.inl ⟨by decide, by simp [SameData]⟩⟩
  · rw [if_neg hd]
    obtain ⟨pwf, proom⟩ := prealloc_wf h hwf
    simp only [score2bin_prealloc]
    -- from here on `h.prealloc` is `h` with another `nalloc`: every other field is `h`'s own
    obtain ⟨n, hp⟩ := prealloc_eq h
    rw [hp] at pwf proom ⊢
    rcases hs : h.score2bin v with ⟨st, b⟩
    cases st with
    | ok =>
      simp only []
      rcases grow_spec _ pwf b with e | ⟨h2, b2, k, e, g⟩
      · rw [e]
        exact ⟨.erange, _, rfl, pwf, Or.inl ⟨by decide, by simp [SameData]⟩⟩
      · rw [e]
        have room2 : h2.isFull = true → h2.n < h2.nalloc := by
          intro hf; rw [g.n, g.nalloc]; exact proom (by rw [← g.full]; exact hf)
        obtain ⟨h3, e3, r⟩ := record_spec h2 g.wf room2 b2 g.lo g.hi v
        refine ⟨.ok, h3, e3, r.wf, Or.inr ⟨rfl, by simpa using hd, b, k, rfl, ?_⟩⟩
        constructor
        · exact r.wf
        · intro i
          rw [r.obs, g.obs]
          have : (i + (k : Int) = b2) ↔ (i = b) := by rw [g.beq]; omega
          simp only [this]
        · rw [r.tot, g.tot]
        · rw [r.n, g.n]
        · rw [r.w, g.w]
        · rw [r.bmin, g.bmin]
        · rw [r.x, g.x, g.full]
        · rw [r.full, g.full]
        · rw [r.done, g.done]; simpa using hd
        · rw [r.imin, g.imin, g.beq]
          rcases hidx with ⟨a1, a2⟩ | ⟨a1, a2, a3⟩
          · have := g.hi; rw [g.beq] at this
            simp only [a1, true_or, if_true]
            split <;> omega
          · have hne : h.imin ≠ h.nb := by omega
            simp only [hne, false_or, if_false]
            split <;> split <;> omega
        · rw [r.imax, g.imax, g.beq]
          rcases hidx with ⟨a1, a2⟩ | ⟨a1, a2, a3⟩
          · have := g.lo; rw [g.beq] at this
            simp only [a2, true_or, if_true]
            split <;> split <;> omega
          · have h1 : h.imax > -1 := by omega
            have h2 : h.imax ≠ -1 := by omega
            simp only [h1, h2, false_or, if_true]
            split <;> split <;> omega
        · rw [r.xmin, g.xmin]
        · rw [r.xmax, g.xmax]
        · rw [r.nb]; exact g.nbk
    | _ => exact ⟨_, _, rfl, pwf, Or.inl ⟨by decide, by simp [SameData]⟩⟩

end EaselModel.Stats
