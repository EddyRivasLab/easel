/-! # Numeric class for the statistics models (C11)

The numeric code of the histogram and of the maximum-likelihood fits is written ONCE over this class.
* `Float` instance (this file): executable, same libm as the C build, compared bit-for-bit with the C code.
* `ℚ` / `ℝ` instances (`NumRat.lean`, `FitReal.lean`; Mathlib): the theorems.
Nothing here claims anything about rounded results (that layer is L0, DESIGN §3.4). Core Lean only. -/
namespace EaselModel.Stats

class Num (α : Type) extends Add α, Sub α, Mul α, Div α, Neg α, OfScientific α where
  /-- `(double) i` for a C integer `i` -/
  ofInt : Int → α
  /-- C `a < b` (false when unordered) -/
  ltb : α → α → Bool
  /-- C `a <= b` -/
  leb : α → α → Bool
  /-- C `a == b` -/
  eqb : α → α → Bool
  /-- libm `ceil` -/
  ceil : α → α
  /-- C conversion to an integer type (truncation); only used after the code's range check -/
  toInt : α → Int
  /-- C99 `isfinite` -/
  isFinite : α → Bool
  exp : α → α
  log : α → α
  sqrt : α → α
  /-- `fabs` -/
  abs : α → α
  /-- `pow` -/
  pow : α → α → α
  /-- `DBL_MAX` -/
  dblMax : α

namespace Num
variable {α : Type} [Num α]
@[inline] def gtb (a b : α) : Bool := ltb b a
@[inline] def geb (a b : α) : Bool := leb b a
@[inline] def zero : α := ofInt 0
@[inline] def one : α := ofInt 1
end Num

instance : Num Float where
  ofInt := Float.ofInt
  ltb a b := decide (a < b)
  leb a b := decide (a ≤ b)
  eqb a b := a == b
  ceil := Float.ceil
  toInt x := x.toInt64.toInt
  isFinite := Float.isFinite
  exp := Float.exp
  log := Float.log
  sqrt := Float.sqrt
  abs := Float.abs
  pow := Float.pow
  dblMax := Float.ofBits 0x7fefffffffffffff

def INT_MAX : Int := 2147483647
def INT_MIN : Int := -2147483648

end EaselModel.Stats
