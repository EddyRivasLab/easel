import EaselModel.Stats.MinLemmas
import EaselModel.Stats.Rootfinder
/-! # Structural facts about `brent()`, `esl_min_ConjugateGradientDescent()` and the root finders that hold for EVERY numeric class
(so also for binary64): the value handed back is the objective at the point handed back; statuses; iteration caps. Core Lean only. -/
namespace EaselModel.Stats
open Num
variable {α : Type} [Num α]


theorem brentUpdate_x_fx (s : BrentSt α) (u fu d e : α) :
    ((brentUpdate s u fu d e).x = u ∧ (brentUpdate s u fu d e).fx = fu ∧ leb fu s.fx = true) ∨
    ((brentUpdate s u fu d e).x = s.x ∧ (brentUpdate s u fu d e).fx = s.fx ∧ leb fu s.fx = false) := by
  fun_cases brentUpdate s u fu d e with
  | case1 h => exact Or.inl ⟨rfl, rfl, h⟩
  | case2 h | case3 h | case4 h => exact Or.inr ⟨rfl, rfl, by simpa using h⟩

/-- how a pass of `brent()` can end or continue: stop on a non-finite interval with `fx = +inf`, stop converged with the current
    `(x, fx)`, or continue with a state whose `(x, fx)` is either the old one or the new trial point `(u, f(u))` with `f(u) ≤ fx` -/
theorem brentStep_cases (eps t : α) (fline : α → α) (s : BrentSt α) :
    (brentStep eps t fline s = .inl (s.x, one / zero) ∧ (isFinite ((0.5 : α) * (s.a + s.b)) = false ∨ isFinite s.x = false)) ∨
    (brentStep eps t fline s = .inl (s.x, s.fx)) ∨
    (∃ s', brentStep eps t fline s = .inr s' ∧
       ((s'.x = s.x ∧ s'.fx = s.fx) ∨ (s'.fx = fline s'.x ∧ leb s'.fx s.fx = true))) := by
  unfold brentStep
  simp only []
  split
  · rename_i h
    left
    refine ⟨rfl, ?_⟩
    simp only [Bool.or_eq_true, Bool.not_eq_true'] at h
    exact h
  · split
    · right; left; rfl
    · right; right
      refine ⟨_, rfl, ?_⟩
      rcases brentUpdate_x_fx s (brentTrial (eps * abs s.x + t) ((0.5 : α) * (s.a + s.b)) s).1
          (fline (brentTrial (eps * abs s.x + t) ((0.5 : α) * (s.a + s.b)) s).1)
          (brentTrial (eps * abs s.x + t) ((0.5 : α) * (s.a + s.b)) s).2.1
          (brentTrial (eps * abs s.x + t) ((0.5 : α) * (s.a + s.b)) s).2.2 with ⟨h1, h2, h3⟩ | ⟨h1, h2, _⟩
      · right
        rw [h2, h1]; exact ⟨rfl, h3⟩
      · left; exact ⟨h1, h2⟩

/-- **`brent()` hands back the objective at the point it hands back**: if the state entering the loop satisfies `fx = f(x)`, a result
    `(x, fx)` satisfies `fx = f(x)` — or the loop was left through the non-finite-interval exit (bad2f4e) with `fx = +inf`. -/
theorem brentLoop_value (eps t : α) (fline : α → α) : ∀ (k : Nat) (s : BrentSt α) (x fx : α),
    s.fx = fline s.x → brentLoop eps t fline k s = some (x, fx) →
    fx = fline x ∨ (fx = one / zero ∧ ∃ y : α, isFinite y = false) := by
  intro k
  induction k with
  | zero => intro s x fx _ h; simp [brentLoop] at h
  | succ k ih =>
    intro s x fx hs h
    unfold brentLoop at h
    rcases brentStep_cases eps t fline s with ⟨e, hf⟩ | e | ⟨s', e, hs'⟩
    · rw [e] at h
      simp only [Option.some.injEq, Prod.mk.injEq] at h
      right
      refine ⟨h.2.symm, ?_⟩
      rcases hf with hf | hf
      · exact ⟨_, hf⟩
      · exact ⟨_, hf⟩
    · rw [e] at h
      simp only [Option.some.injEq, Prod.mk.injEq] at h
      left; rw [← h.1, ← h.2]; exact hs
    · rw [e] at h
      simp only [] at h
      refine ih s' x fx ?_ h
      rcases hs' with ⟨h1, h2⟩ | ⟨h1, _⟩
      · rw [h2, h1]; exact hs
      · exact h1

/-- a NaN / infinite interval or start point ends `brent()` at once with `fx = +inf` (the repaired non-termination bad2f4e) -/
theorem brent_nonfinite_exit (cfg : MinCfg α) (fline : α → α) (a b : α)
    (h : isFinite ((0.5 : α) * (a + b)) = false ∨ isFinite (a + goldC * (b - a)) = false) :
    brentCG cfg fline a b = some (a + goldC * (b - a), one / zero) := by
  unfold brentCG brentFuel
  simp only []
  unfold brentLoop brentStep
  simp only []
  have : (!(isFinite ((0.5 : α) * (a + b))) || !(isFinite (a + goldC * (b - a)))) = true := by
    rcases h with h | h <;> simp [h]
  simp only [this, if_true]

theorem brentCG_value (cfg : MinCfg α) (fline : α → α) (a b x fx : α) (h : brentCG cfg fline a b = some (x, fx)) :
    fx = fline x ∨ (fx = one / zero ∧ ∃ y : α, isFinite y = false) := by
  unfold brentCG at h
  exact brentLoop_value _ _ fline _ _ x fx rfl h


/-- the two kinds of numeric class the statement covers: `1/0` is recognised as non-finite (binary64), or nothing is non-finite (ℝ, ℚ) -/
def InfOK (α : Type) [Num α] : Prop := isFinite (one / zero : α) = false ∨ ∀ x : α, isFinite x = true

theorem cgLoop_value (hinf : InfOK α) (cfg : MinCfg α) (f : Array α → α) (df : Option (Array α → Array α))
    (k : Nat) (s : CGState α) (fx0 : α) (st : St) (x : Array α) (fx : α) (h0 : fx0 = f s.x)
    (h : (cgLoop cfg f df k s fx0).1 = .res st x fx) (hst : st = .ok ∨ st = .enohalt) : fx = f x := by
  -- a finite `brent()` result is the line function at the returned abscissa
  have hval : ∀ (s : CGState α) (br : Bracket α) (t fxb : α), brentCG cfg (fun t => f (pointAt s.x s.cg t)) br.ax br.cx = some (t, fxb) →
      ¬ (!isFinite fxb) = true → fxb = f (pointAt s.x s.cg t) := by
    intro s br t fxb hb hfin
    rcases brentCG_value cfg _ br.ax br.cx t fxb hb with hv | ⟨hv, y, hy⟩
    · exact hv
    · exfalso
      rcases hinf with hi | hi
      · rw [hv, hi] at hfin; exact hfin rfl
      · rw [hi y] at hy; cases hy
  fun_induction cgLoop cfg f df k s fx0 with
  | case1 => simp only [MinRes.res.injEq] at h; rw [← h.2.1, ← h.2.2]; exact h0
  | case2 | case4 => exact absurd h (MinRes.res_ne hst (by decide) (by decide))
  | case3 => cases h
  | case5 _ s _ _ _ br _ t fxb hb _ hfin | case6 _ s _ _ _ br _ t fxb hb _ hfin => -- eslOK at the line minimum, by either stopping rule
    simp only [MinRes.res.injEq] at h; rw [← h.2.1, ← h.2.2]; exact hval s br t fxb hb hfin
  | case7 _ s _ _ _ br _ t fxb hb _ hfin _ _ _ _ _ _ ih => exact ih (hval s br t fxb hb hfin) h

/-- **`*opt_fx` is the objective at the returned point** whenever `esl_min_ConjugateGradientDescent` returns eslOK or eslENOHALT
    (every objective, gradient, configuration, start point; binary64 as well as ℝ) -/
theorem cgd_value (hinf : InfOK α) (cfg : MinCfg α) (f : Array α → α) (df : Option (Array α → Array α)) (x0 : Array α)
    (st : St) (x : Array α) (fx : α) (h : (cgd cfg f df x0).1 = .res st x fx) (hst : st = .ok ∨ st = .enohalt) : fx = f x := by
  revert h
  fun_cases cgd cfg f df x0 with
  | case1 => intro h; exact absurd h (MinRes.res_ne hst (by decide) (by decide))
  | case2 => intro h; simp only [MinRes.res.injEq] at h; rw [← h.2.1, ← h.2.2]
  | case3 => intro h; exact cgLoop_value hinf cfg f df _ _ _ st x fx rfl h hst

/-- one round of the `while (1)` of `esl_root_Bisection` with midpoint `x`: it stops there with eslOK (`f(x) == 0`, or one of the two
    tolerances is met), or it goes on with `[x, xr]`, or with `[xl, x]`, according to the signs of `fl` and `f(x)` -/
theorem bisectionLoop_succ (cfg : RootCfg α) (f : α → α) (k : Nat) (iter : Int) (xl xr fl fr x : α) (hx : x = (xl + xr) / (2.0 : α)) :
    (bisectionLoop cfg f (k + 1) iter xl xr fl fr = { st := .ok, x := x, iter := iter + 1, xl := xl, xr := xr } ∧
      (eqb (f x) zero = true ∨ (ltb (xr - xl) (bisTol cfg xl xr x) || ltb (abs (f x)) cfg.residTol) = true)) ∨
    (eqb (f x) zero = false ∧ (ltb (xr - xl) (bisTol cfg xl xr x) || ltb (abs (f x)) cfg.residTol) = false ∧
      ((bisectionLoop cfg f (k + 1) iter xl xr fl fr = bisectionLoop cfg f k (iter + 1) x xr (f x) fr ∧
          (gtb fl zero = true ∧ gtb (f x) zero = true ∨ gtb fl zero = false ∧ ltb (f x) zero = true)) ∨
       (bisectionLoop cfg f (k + 1) iter xl xr fl fr = bisectionLoop cfg f k (iter + 1) xl x fl (f x) ∧
          (gtb fl zero = true ∧ gtb (f x) zero = false ∨ gtb fl zero = false ∧ ltb (f x) zero = false)))) := by
  subst hx
  rw [bisectionLoop]
  cases h1 : eqb (f ((xl + xr) / (2.0 : α))) zero
  · cases h2 : (ltb (xr - xl) (bisTol cfg xl xr ((xl + xr) / (2.0 : α))) || ltb (abs (f ((xl + xr) / (2.0 : α)))) cfg.residTol)
    · refine Or.inr ⟨rfl, rfl, ?_⟩
      cases h3 : gtb fl zero
      · cases h4 : ltb (f ((xl + xr) / (2.0 : α))) zero <;> simp
      · cases h4 : gtb (f ((xl + xr) / (2.0 : α))) zero <;> simp
    · exact Or.inl ⟨by simp, Or.inr rfl⟩
  · exact Or.inl ⟨by simp, Or.inl rfl⟩

theorem bisectionLoop_status (cfg : RootCfg α) (f : α → α) : ∀ (k : Nat) (iter : Int) (xl xr fl fr : α),
    let r := bisectionLoop cfg f k iter xl xr fl fr
    (r.st = .ok ∨ (r.st = .enohalt ∧ r.x = zero ∧ r.iter = iter + k + 1)) ∧ r.iter ≤ iter + k + 1 ∧ iter < r.iter := by
  intro k
  induction k with
  | zero => intro iter xl xr fl fr; unfold bisectionLoop; exact ⟨Or.inr ⟨rfl, rfl, by simp⟩, by simp, by show iter < iter + 1; omega⟩
  | succ k ih =>
    intro iter xl xr fl fr
    simp only []
    rcases bisectionLoop_succ cfg f k iter xl xr fl fr _ rfl with ⟨e, _⟩ | ⟨_, _, ⟨e, _⟩ | ⟨e, _⟩⟩ <;> rw [e]
    · exact ⟨Or.inl rfl, by push_cast; omega, by show iter < iter + 1; omega⟩
    all_goals
      obtain ⟨h1, h2, h3⟩ := ih (iter + 1) _ _ _ _
      refine ⟨h1.imp_right fun ⟨a, b, c⟩ => ⟨a, b, by push_cast; omega⟩, by push_cast; omega, by omega⟩

/-- `esl_root_Bisection`, every function and every numeric class: total (at most `max_iter - iter` rounds); the status is eslOK,
    eslEINVAL (`f(xl)·f(xr) ≥ 0`, nothing evaluated further) or eslENOHALT (then `*ret_x = 0` and `R->iter = max(iter, max_iter) + 1`) -/
theorem rootBisection_status (cfg : RootCfg α) (f : α → α) (iter0 : Int) (xl xr : α) :
    let r := rootBisection cfg f iter0 xl xr
    r.st = .ok ∨ (r.st = .einval ∧ r.x = zero ∧ r.iter = iter0 ∧ geb (f xl * f xr) zero = true) ∨
    (r.st = .enohalt ∧ r.x = zero ∧ r.iter = iter0 + (cfg.maxIter - iter0).toNat + 1) := by
  simp only []
  unfold rootBisection
  simp only []
  split
  · rename_i h; exact Or.inr (Or.inl ⟨rfl, rfl, rfl, h⟩)
  · have := (bisectionLoop_status cfg f (cfg.maxIter - iter0).toNat iter0 xl xr (f xl) (f xr)).1
    rcases this with h | h
    · exact Or.inl h
    · exact Or.inr (Or.inr h)

theorem newtonRootLoop_status (cfg : RootCfg α) (fdf : α → α × α) (k : Nat) (iter : Int) (x0 x fx dfx : α) :
    let r := newtonRootLoop cfg fdf k iter x0 x fx dfx
    ((r.st = .ok ∧ (eqb (fdf r.x).1 zero = true ∨
        (ltb (abs (r.x - r.xl)) (newtonTol cfg r.x) || ltb (abs (fdf r.x).1) cfg.residTol) = true)) ∨
     (r.st = .enohalt ∧ r.iter = iter + k + 1)) ∧ r.iter ≤ iter + k + 1 := by
  fun_induction newtonRootLoop cfg fdf k iter x0 x fx dfx with
  | case1 => exact ⟨Or.inr ⟨rfl, by simp⟩, by simp⟩
  | case2 _ _ _ _ _ _ _ _ _ _ _ e h => -- eslOK by `f(x) == 0`
    exact ⟨Or.inl ⟨rfl, Or.inl (by show eqb (fdf _).1 zero = true; rw [e]; exact h)⟩, by show _ + 1 ≤ _; push_cast; omega⟩
  | case3 _ _ _ _ _ _ _ _ _ _ _ e _ h => -- eslOK by one of the two tolerances
    exact ⟨Or.inl ⟨rfl, Or.inr (by show (ltb _ _ || ltb (abs (fdf _).1) _) = true; rw [e]; exact h)⟩, by show _ + 1 ≤ _; push_cast; omega⟩
  | case4 _ _ _ _ _ _ _ _ _ _ _ _ _ _ ih =>
    obtain ⟨h1, h2⟩ := ih
    exact ⟨h1.imp_right fun ⟨a, b⟩ => ⟨a, by rw [b]; push_cast; omega⟩, by push_cast; omega⟩

/-- `esl_root_NewtonRaphson`, every function and numeric class: total (at most `max_iter - iter` steps); status eslOK or eslENOHALT;
    eslOK exactly when the last step produced `f(x) == 0`, or `|x - x0| < abs_tolerance + rel_tolerance·|x|` (`newtonTol`), or `|f(x)| < residual_tol` -/
theorem rootNewton_status (cfg : RootCfg α) (fdf : α → α × α) (iter0 : Int) (x0 guess : α) :
    let r := rootNewton cfg fdf iter0 x0 guess
    (r.st = .ok ∧ (eqb (fdf r.x).1 zero = true ∨
        (ltb (abs (r.x - r.xl)) (newtonTol cfg r.x) || ltb (abs (fdf r.x).1) cfg.residTol) = true)) ∨
    (r.st = .enohalt ∧ r.iter = iter0 + (cfg.maxIter - iter0).toNat + 1) := by
  simp only []
  unfold rootNewton
  exact (newtonRootLoop_status cfg fdf _ iter0 x0 guess (fdf guess).1 (fdf guess).2).1

end EaselModel.Stats
