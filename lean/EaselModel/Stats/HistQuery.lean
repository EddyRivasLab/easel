import EaselModel.Stats.HistRat
import Mathlib.Data.List.Sort
/-! # Rank and tail queries agree with the sorted raw data, also after any sequence of `Add`s (C11, over ℚ) -/
namespace EaselModel.Stats

def atQ (xs : Array ℚ) (i : Int) : ℚ := xs.getD i.toNat 0

theorem getX_val (xs : Array ℚ) (i : Int) (h0 : 0 ≤ i) (h1 : i < xs.size) : getX xs i = .val (atQ xs i) := by
  have hb : i.toNat < xs.size := by omega
  unfold getX atQ
  rw [dif_pos ⟨h0, hb⟩]
  congr 1
  simp [Array.getD_eq_getD_getElem?, hb]

/-- the binary search of `esl_histogram_GetTail`, as coded, on a bracket `x[lo] ≤ phi < x[hi]`: never reads out of bounds,
    never runs out of fuel, and returns `mid` with `x[mid-1] ≤ phi < x[mid]` -/
theorem tailSearch_spec (xs : Array ℚ) (phi : ℚ) : ∀ (fuel : Nat) (lo hi : Int), 0 ≤ lo → lo < hi → hi < xs.size →
    atQ xs lo ≤ phi → phi < atQ xs hi → (hi - lo).toNat < fuel →
    ∃ mid : Int, tailSearch xs phi fuel lo hi = .val (some mid) ∧ lo < mid ∧ mid ≤ hi ∧ atQ xs (mid - 1) ≤ phi ∧ phi < atQ xs mid := by
  intro fuel
  induction fuel with
  | zero => intro lo hi _ _ _ _ _ hf; omega
  | succ k ih =>
    intro lo hi h0 hlt hsz hlo hhi hf
    have hm1 : lo < (lo + hi + 1) / 2 := by omega
    have hm2 : (lo + hi + 1) / 2 ≤ hi := by omega
    unfold tailSearch
    simp only []
    rw [getX_val xs _ (by omega) (by omega)]
    simp only []
    by_cases c : atQ xs ((lo + hi + 1) / 2) ≤ phi
    · have hc : Num.leb (atQ xs ((lo + hi + 1) / 2)) phi = true := (leb_q _ _).2 c
      simp only [hc, if_true]
      have hne : (lo + hi + 1) / 2 ≠ hi := by
        intro e; rw [e] at c; exact absurd hhi (not_lt.2 c)
      obtain ⟨mid, e, m1, m2, m3, m4⟩ := ih ((lo + hi + 1) / 2) hi (by omega) (by omega) hsz c hhi (by omega)
      exact ⟨mid, e, by omega, m2, m3, m4⟩
    · have hc : Num.leb (atQ xs ((lo + hi + 1) / 2)) phi = false := by
        rw [Bool.eq_false_iff]; intro h; exact c ((leb_q _ _).1 h)
      simp only [hc, Bool.false_eq_true, if_false]
      rw [getX_val xs _ (by omega) (by omega)]
      simp only []
      by_cases c2 : phi < atQ xs ((lo + hi + 1) / 2 - 1)
      · have hc2 : Num.gtb (atQ xs ((lo + hi + 1) / 2 - 1)) phi = true := (gtb_q _ _).2 c2
        simp only [hc2, if_true]
        have hne : (lo + hi + 1) / 2 ≠ hi := by
          intro e
          have : (lo + hi + 1) / 2 - 1 = lo := by omega
          rw [this] at c2; exact absurd c2 (not_lt.2 hlo)
        obtain ⟨mid, e, m1, m2, m3, m4⟩ := ih lo ((lo + hi + 1) / 2) h0 hm1 (by omega) hlo (not_le.1 c) (by omega)
        exact ⟨mid, e, m1, by omega, m3, m4⟩
      · have hc2 : Num.gtb (atQ xs ((lo + hi + 1) / 2 - 1)) phi = false := by
          rw [Bool.eq_false_iff]; intro h; exact c2 ((gtb_q _ _).1 h)
        simp only [hc2, Bool.false_eq_true, if_false]
        exact ⟨_, rfl, hm1, hm2, not_lt.1 c2, not_le.1 c⟩

theorem atQ_eq (xs : Array ℚ) (i : Nat) (h : i < xs.size) : atQ xs (i : Int) = xs.toList[i]'(by simpa using h) := by
  unfold atQ
  simp [Array.getD_eq_getD_getElem?, h]

/-- in sorted data an offset `m` with `x[m-1] ≤ phi < x[m]` (each side where it exists) splits at `phi` -/
theorem sorted_count (xs : Array ℚ) (hs : xs.toList.Pairwise (· ≤ ·)) (phi : ℚ) (m : Nat) (hm : m ≤ xs.size)
    (hlo : 0 < m → atQ xs ((m : Int) - 1) ≤ phi) (hhi : m < xs.size → phi < atQ xs m) :
    xs.toList.countP (fun x => decide (x ≤ phi)) = m ∧ (∀ x ∈ xs.toList.take m, x ≤ phi) ∧ (∀ x ∈ xs.toList.drop m, phi < x) := by
  have hp := List.pairwise_iff_getElem.1 hs
  have hl : xs.toList.length = xs.size := Array.length_toList
  have h1 : ∀ x ∈ xs.toList.take m, x ≤ phi := by
    intro x hx
    obtain ⟨i, hi, rfl⟩ := List.mem_iff_getElem.1 hx
    rw [List.length_take] at hi
    rw [List.getElem_take]
    have hmpos : 0 < m := by omega
    have hlo' := hlo hmpos
    rw [show (m : Int) - 1 = ((m - 1 : Nat) : Int) by omega, atQ_eq xs (m - 1) (by omega)] at hlo'
    by_cases e : i = m - 1
    · subst e; exact hlo'
    · exact le_trans (hp i (m - 1) (by omega) (by omega) (by omega)) hlo'
  have h2 : ∀ x ∈ xs.toList.drop m, phi < x := by
    intro x hx
    obtain ⟨i, hi, rfl⟩ := List.mem_iff_getElem.1 hx
    rw [List.length_drop] at hi
    rw [List.getElem_drop]
    have hml : m < xs.size := by omega
    have hhi' := hhi hml
    rw [atQ_eq xs m hml] at hhi'
    by_cases e : i = 0
    · subst e; simpa using hhi'
    · exact lt_of_lt_of_le hhi' (hp m (m + i) (by omega) (by omega) (by omega))
  refine ⟨?_, h1, h2⟩
  conv_lhs => rw [← List.take_append_drop m xs.toList]
  rw [List.countP_append]
  have e1 : (xs.toList.take m).countP (fun x => decide (x ≤ phi)) = (xs.toList.take m).length :=
    List.countP_eq_length.2 (fun a ha => by simpa using h1 a ha)
  have e2 : (xs.toList.drop m).countP (fun x => decide (x ≤ phi)) = 0 :=
    List.countP_eq_zero.2 (fun a ha => by simpa using h2 a ha)
  rw [e1, e2, List.length_take]; omega


/-- the `is_sorted` flag tells the truth -/
def SortedFlagOK (h : Hist ℚ) : Prop := h.isSorted = true → h.x.toList.Pairwise (· ≤ ·)

theorem sort_spec (h : Hist ℚ) (hf : h.isFull = true) (hs : SortedFlagOK h) :
    h.sort.x.toList.Pairwise (· ≤ ·) ∧ h.sort.x.toList.Perm h.x.toList ∧ h.sort.n = h.n ∧ h.sort.isFull = true ∧
    h.sort.isSorted = true ∧ h.sort.obs = h.obs ∧ h.sort.isDone = h.isDone := by
  unfold Hist.sort
  by_cases c : h.isSorted = true
  · rw [if_pos c]; exact ⟨hs c, List.Perm.refl _, by trivial, hf, c, by trivial, by trivial⟩
  · rw [if_neg c]
    have : (!h.isFull) = false := by simp [hf]
    simp only [this, Bool.false_eq_true, if_false]
    refine ⟨?_, ?_, by trivial, hf, by trivial, by trivial, by trivial⟩
    · have := List.pairwise_mergeSort (le := fun a b : ℚ => Num.leb a b)
        (fun a b c h1 h2 => (leb_q _ _).2 (le_trans ((leb_q _ _).1 h1) ((leb_q _ _).1 h2)))
        (fun a b => by
          rcases le_total a b with h | h
          · simp [(leb_q a b).2 h]
          · simp [(leb_q b a).2 h]) h.x.toList
      exact this.imp (fun {a b} hab => (leb_q a b).1 hab)
    · exact List.mergeSort_perm _ _

/-- what the rank and tail queries work on: after `esl_histogram_sort` the raw-data vector is the accepted values in increasing order -/
structure SortedData (h : Hist ℚ) (vs : List ℚ) : Prop where
  sorted : h.sort.x.toList.Pairwise (· ≤ ·)
  perm : h.sort.x.toList.Perm vs
  length : h.sort.x.toList.length = vs.length
  size : h.sort.x.size = vs.length
  n : h.sort.n = vs.length
  obs : h.sort.obs = h.obs

theorem Accounts.sortedData {h : Hist ℚ} {vs : List ℚ} (acc : Accounts h vs) (hf : h.isFull = true) (hs : SortedFlagOK h) : SortedData h vs := by
  obtain ⟨s1, s2, s3, _, _, s6, _⟩ := sort_spec h hf hs
  have hperm : h.sort.x.toList.Perm vs := s2.trans (acc.raw hf)
  exact ⟨s1, hperm, hperm.length_eq, by simpa using hperm.length_eq, by rw [s3, acc.n], s6⟩

/-- the control flow of `esl_histogram_GetTail` on a full histogram whose data vector has `n` entries, sorted or not: eslOK, reads inside the
    vector, and the offset `m` it answers brackets `phi` -/
theorem getTail_bracket (h : Hist ℚ) (hf : h.isFull = true) (hsz : h.sort.x.size = h.sort.n) (phi : ℚ) :
    ∃ m : Nat, h.getTail phi = .val (.ok, { h.sort with isDone := true }, m) ∧ m ≤ h.sort.n ∧
      (0 < m → atQ h.sort.x ((m : Int) - 1) ≤ phi) ∧ (m < h.sort.n → phi < atQ h.sort.x m) := by
  unfold Hist.getTail
  have : (!h.isFull) = false := by simp [hf]
  simp only [this, Bool.false_eq_true, if_false]
  generalize h.sort = s at hsz ⊢
  by_cases c0 : s.n = 0
  · simp only [c0, beq_self_eq_true, if_true]
    exact ⟨0, rfl, Nat.le_refl _, fun h => absurd h (Nat.lt_irrefl 0), fun h => absurd h (Nat.lt_irrefl 0)⟩
  · have : (s.n == 0) = false := beq_eq_false_iff_ne.2 c0
    simp only [this, Bool.false_eq_true, if_false]
    rw [getX_val _ 0 (le_refl _) (by omega), getX_val _ _ (by omega) (by omega)]
    simp only []
    by_cases c1 : phi < atQ s.x 0
    · simp only [(gtb_q _ _).2 c1, if_true]
      exact ⟨0, rfl, Nat.zero_le _, fun h => absurd h (Nat.lt_irrefl 0), fun _ => c1⟩
    · simp only [Bool.eq_false_iff.2 (mt (gtb_q _ _).1 c1), Bool.false_eq_true, if_false]
      by_cases c2 : atQ s.x ((s.n : Int) - 1) ≤ phi
      · simp only [(leb_q _ _).2 c2, if_true]
        exact ⟨s.n, rfl, Nat.le_refl _, fun _ => c2, fun h => absurd h (Nat.lt_irrefl _)⟩
      · simp only [Bool.eq_false_iff.2 (mt (leb_q _ _).1 c2), Bool.false_eq_true, if_false]
        have h2 : 1 < s.n := by
          by_contra hc
          rw [show (s.n : Int) - 1 = 0 by omega] at c2; exact c2 (not_lt.1 c1)
        obtain ⟨mid, e, m1, m2, m3, m4⟩ := tailSearch_spec s.x phi (s.n + 1) 0 ((s.n : Int) - 1)
          (le_refl _) (by omega) (by omega) (not_lt.1 c1) (not_le.1 c2) (by omega)
        rw [e]
        have hmid : ((mid.toNat : Nat) : Int) = mid := by omega
        exact ⟨mid.toNat, rfl, by omega, fun _ => by rw [hmid]; exact m3, fun _ => by rw [hmid]; exact m4⟩

/-- **`esl_histogram_GetTail(phi)`** on a full histogram that accounts for `vs`: eslOK, no fault; `*ret_z` (= the returned offset `mid`)
    is the number of raw values `≤ phi`, `*ret_n = n - mid`; the returned vector `x + mid` is the sorted raw data above `phi`
    (the data vector is sorted and is a permutation of the accepted values; everything before `mid` is `≤ phi`, everything
    from `mid` on is `> phi`), and the histogram is finished. -/
theorem getTail_spec (h : Hist ℚ) (vs : List ℚ) (acc : Accounts h vs) (hf : h.isFull = true) (hs : SortedFlagOK h) (phi : ℚ) :
    ∃ h' mid, h.getTail phi = .val (.ok, h', mid) ∧ mid = vs.countP (fun x => decide (x ≤ phi)) ∧
      h'.x.toList.Pairwise (· ≤ ·) ∧ h'.x.toList.Perm vs ∧
      (∀ x ∈ h'.x.toList.take mid, x ≤ phi) ∧ (∀ x ∈ h'.x.toList.drop mid, phi < x) ∧ h'.isDone = true ∧ h'.obs = h.obs := by
  have sd := acc.sortedData hf hs
  obtain ⟨m, e, hm, hlo, hhi⟩ := getTail_bracket h hf (by rw [sd.size, sd.n]) phi
  obtain ⟨k1, k2, k3⟩ := sorted_count h.sort.x sd.sorted phi m (by rw [sd.size, ← sd.n]; exact hm) hlo
    (by rw [sd.size, ← sd.n]; exact hhi)
  exact ⟨_, m, e, by rw [← k1]; exact sd.perm.countP_eq _, sd.sorted, sd.perm, k2, k3, rfl, sd.obs⟩


/-- **`esl_histogram_GetRank(rank)`** on a full histogram accounting for `vs`: ranks outside `1..n` give eslEINVAL; otherwise eslOK and
    the value is element `n - rank` of the sorted raw data (`rank = 1` the largest), read inside the data vector. -/
theorem getRank_spec (h : Hist ℚ) (vs : List ℚ) (acc : Accounts h vs) (hf : h.isFull = true) (hs : SortedFlagOK h) (r : Int) :
    (¬ (1 ≤ r ∧ r ≤ vs.length) → ∃ v, h.getRank r = .val (.einval, h, v)) ∧
    (1 ≤ r ∧ r ≤ vs.length → ∃ h' v, h.getRank r = .val (.ok, h', v) ∧ h'.x.toList.Pairwise (· ≤ ·) ∧ h'.x.toList.Perm vs ∧
        ∃ hi : (vs.length - r.toNat) < h'.x.toList.length, v = h'.x.toList[vs.length - r.toNat] ∧ h'.obs = h.obs) := by
  have sd := acc.sortedData hf hs
  have hn : h.n = vs.length := acc.n
  have hnf : (!h.isFull) = false := by simp [hf]
  constructor
  · intro hr
    unfold Hist.getRank
    simp only [hnf, Bool.false_eq_true, if_false]
    by_cases c1 : r > (h.n : Int)
    · rw [if_pos c1]; exact ⟨_, rfl⟩
    · rw [if_neg c1]
      have : r < 1 := by rw [hn] at c1; omega
      rw [if_pos this]; exact ⟨_, rfl⟩
  · intro ⟨r1, r2⟩
    unfold Hist.getRank
    simp only [hnf, Bool.false_eq_true, if_false]
    rw [if_neg (by rw [hn]; omega), if_neg (by omega)]
    have hidx : ((h.sort.n : Int) - r) = ((vs.length - r.toNat : Nat) : Int) := by rw [sd.n]; omega
    rw [hidx, getX_val _ _ (by omega) (by rw [sd.size]; omega)]
    refine ⟨_, _, rfl, sd.sorted, sd.perm, by rw [sd.length]; omega, ?_, sd.obs⟩
    exact atQ_eq _ _ (by rw [sd.size]; omega)

/-- **`esl_histogram_GetTailByMass(pmass)`**, `0 ≤ pmass ≤ 1`: the tail is the last `⌊n·pmass⌋` elements of the sorted raw data
    (its mass is `≤ pmass`, and one more element would exceed it); other `pmass` give eslEINVAL. -/
theorem getTailByMass_spec (h : Hist ℚ) (vs : List ℚ) (acc : Accounts h vs) (hf : h.isFull = true) (hs : SortedFlagOK h) (p : ℚ) :
    (¬ (0 ≤ p ∧ p ≤ 1) → (h.getTailByMass p).1 = .einval) ∧
    (0 ≤ p ∧ p ≤ 1 → ∃ h' k, h.getTailByMass p = (.ok, h', k) ∧ h'.x.toList.Pairwise (· ≤ ·) ∧ h'.x.toList.Perm vs ∧
        (k : ℚ) ≤ vs.length * p ∧ (vs.length : ℚ) * p < k + 1 ∧ k ≤ vs.length ∧ h'.isDone = true) := by
  have sd := acc.sortedData hf hs
  have hnf : (!h.isFull) = false := by simp [hf]
  constructor
  · intro hp
    unfold Hist.getTailByMass
    simp only [hnf, Bool.false_eq_true, if_false]
    have : (Num.ltb p (Num.zero : ℚ) || Num.gtb p (Num.one : ℚ)) = true := by
      rw [Bool.or_eq_true, ltb_q, gtb_q]
      show p < ((0 : Int) : ℚ) ∨ ((1 : Int) : ℚ) < p
      simp only [Int.cast_zero, Int.cast_one]
      by_contra hc; rw [not_or, not_lt, not_lt] at hc; exact hp hc
    simp only [this, if_true]
  · intro ⟨p0, p1⟩
    unfold Hist.getTailByMass
    simp only [hnf, Bool.false_eq_true, if_false]
    have : (Num.ltb p (Num.zero : ℚ) || Num.gtb p (Num.one : ℚ)) = false := by
      rw [Bool.or_eq_false_iff]
      constructor
      · rw [Bool.eq_false_iff]; intro hc; rw [ltb_q] at hc
        have : p < ((0 : Int) : ℚ) := hc
        simp only [Int.cast_zero] at this; exact absurd this (not_lt.2 p0)
      · rw [Bool.eq_false_iff]; intro hc; rw [gtb_q] at hc
        have : ((1 : Int) : ℚ) < p := hc
        simp only [Int.cast_one] at this; exact absurd this (not_lt.2 p1)
    simp only [this, Bool.false_eq_true, if_false]
    have hnn : (0 : ℚ) ≤ (vs.length : ℚ) * p := mul_nonneg (by positivity) p0
    have hto : Num.toInt ((Num.ofInt (h.sort.n : Int) : ℚ) * p) = ⌊(vs.length : ℚ) * p⌋ := by
      show (if (0 : ℚ) ≤ ((h.sort.n : Int) : ℚ) * p then ⌊((h.sort.n : Int) : ℚ) * p⌋ else ⌈((h.sort.n : Int) : ℚ) * p⌉) = _
      rw [sd.n]; simp only [Int.cast_natCast]; rw [if_pos hnn]
    rw [hto]
    have hfl0 : 0 ≤ ⌊(vs.length : ℚ) * p⌋ := Int.floor_nonneg.2 hnn
    have hk : ((⌊(vs.length : ℚ) * p⌋.toNat : Nat) : ℚ) = ((⌊(vs.length : ℚ) * p⌋ : Int) : ℚ) := by
      have : ((⌊(vs.length : ℚ) * p⌋.toNat : Nat) : Int) = ⌊(vs.length : ℚ) * p⌋ := by omega
      exact_mod_cast this
    refine ⟨_, _, rfl, sd.sorted, sd.perm, ?_, ?_, ?_, rfl⟩
    · rw [hk]; exact Int.floor_le _
    · rw [hk]; exact Int.lt_floor_add_one _
    · have : (vs.length : ℚ) * p ≤ vs.length := mul_le_of_le_one_right (Nat.cast_nonneg _) p1
      have : ⌊(vs.length : ℚ) * p⌋ ≤ (vs.length : Int) := by
        have := Int.floor_le_floor this
        simpa using this
      omega


theorem record_unsorted (h : Hist ℚ) (b : Int) (v : ℚ) (st : St) (h' : Hist ℚ) (e : h.record b v = .val (st, h')) : h'.isSorted = false := by
  unfold Hist.record at e
  split at e
  · cases e
  · simp only [] at e
    cases hb : bump h.obs b with
    | fault => rw [hb] at e; cases e
    | val obs => rw [hb] at e; injection e with e; injection e with _ e2; rw [← e2]

theorem add_sortedFlag (h : Hist ℚ) (hs : SortedFlagOK h) (v : ℚ) (st : St) (h' : Hist ℚ) (e : h.add v = .val (st, h')) : SortedFlagOK h' := by
  unfold Hist.add at e
  split at e
  · injection e with e; injection e with _ e2; rw [← e2]; exact hs
  · obtain ⟨n, hp⟩ := prealloc_eq h
    rw [hp] at e
    have hp : SortedFlagOK { h with nalloc := n } := hs
    simp only [] at e
    split at e
    · split at e
      · cases e
      · injection e with e; injection e with _ e2; rw [← e2]; exact hp
      · rename_i h2 b2 _
        intro hh; rw [record_unsorted h2 b2 v st h' e] at hh; cases hh
    · injection e with e; injection e with _ e2; rw [← e2]; exact hp

theorem addMany_sortedFlag (xs : List ℚ) : ∀ (h : Hist ℚ) (vs : List ℚ) (h' : Hist ℚ) (vs' : List ℚ),
    SortedFlagOK h → Hist.addMany h vs xs = .val (h', vs') → SortedFlagOK h' := by
  induction xs with
  | nil => intro h vs h' vs' hs e; simp only [Hist.addMany] at e; injection e with e; injection e with e1 _; rw [← e1]; exact hs
  | cons x t ih =>
    intro h vs h' vs' hs e
    simp only [Hist.addMany] at e
    split at e
    · cases e
    · rename_i st h1 e1
      exact ih h1 _ h' vs' (add_sortedFlag h hs x st h1 e1) e

/-- **collect, then ask**: `CreateFull(bmin,bmax,w)` (`w > 0`), ANY sequence of `Add`s, then `GetTail(phi)`:
    `*ret_z` is the number of accepted values `≤ phi` and the returned vector is the sorted accepted values `> phi`. -/
theorem collected_tail (bmin bmax w : ℚ) (hw : 0 < w) (h0 : Hist ℚ) (hc : Hist.createFull bmin bmax w = .val (some h0)) (xs : List ℚ) (phi : ℚ) :
    ∃ h vs h' mid, Hist.addMany h0 [] xs = .val (h, vs) ∧ h.getTail phi = .val (.ok, h', mid) ∧
      mid = vs.countP (fun x => decide (x ≤ phi)) ∧ h'.x.toList.Pairwise (· ≤ ·) ∧ h'.x.toList.Perm vs ∧
      (∀ x ∈ h'.x.toList.drop mid, phi < x) ∧ (∀ x ∈ h'.x.toList.take mid, x ≤ phi) := by
  obtain ⟨a0, _, _, _⟩ := create_accounts bmin bmax w hw h0 (Or.inr hc)
  obtain ⟨h, vs, e, a, _, _, _, hfe⟩ := addMany_accounts xs h0 [] a0
  have hfull0 : h0.isFull = true ∧ h0.isSorted = false := by
    revert hc
    fun_cases Hist.createFull bmin bmax w with
    | case3 h1 e1 =>
      intro hc; cases hc
      refine ⟨rfl, ?_⟩
      revert e1
      fun_cases Hist.create bmin bmax w <;> intro e1 <;> cases e1
      rfl
    | _ => intro hc; cases hc
  have hs0 : SortedFlagOK h0 := by intro hh; rw [hfull0.2] at hh; cases hh
  have hs := addMany_sortedFlag xs h0 [] h vs hs0 e
  have hf : h.isFull = true := by rw [hfe]; exact hfull0.1
  obtain ⟨h', mid, e2, m1, m2, m3, m4, m5, _, _⟩ := getTail_spec h vs a hf hs phi
  exact ⟨h, vs, h', mid, e, e2, m1, m2, m3, m5, m4⟩

end EaselModel.Stats
