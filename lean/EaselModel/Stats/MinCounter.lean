import EaselModel.Stats.NumRat
import EaselModel.Stats.Rootfinder
/-! # Two facts about the solvers as coded, established by running the model in exact rational arithmetic (kernel evaluation) -/
namespace EaselModel.Stats

/-- "the minimiser answered eslOK with a value strictly above `f0`" -/
def cgWorse (r : MinRes ℚ) (f0 : ℚ) : Bool := match r with | .res .ok _ fx => decide (f0 < fx) | _ => false

/-- the needle `f(0) = 0`, `f(x) = 1 + 2x` for `x > 0`, `f(x) = 1 - x` for `x < 0` -/
noncomputable def needle1 : Array ℚ → ℚ := objNeedle #[1, 0, 1]

/-- **`esl_min_ConjugateGradientDescent` is not a descent method.** Default configuration, numeric gradient, exact arithmetic: started AT the
    global minimiser `x = 0` of the needle (`f(0) = 0`), it returns eslOK with `fx > 0`. (`bracket()` correctly reports the triplet with
    `bx = 0`, but `brent()` restarts from the golden-section point of `[ax, cx]` and never evaluates `bx` again.) The same happens bit-for-bit
    in the C code (corpus case `cgd-not-a-descent-method`: `fx = 1.0000000445`). -/
theorem cgd_needle_worse_than_start : cgWorse (cgd (MinCfg.null : MinCfg ℚ) needle1 none #[0]).1 (needle1 #[0]) = true := by
  decide +kernel

/-- `f(x) = x² - 2` -/
noncomputable def sq2 (x : ℚ) : ℚ := (rfPoly #[-2, 0, 1] x).1

/-- regression theorem for 8354c02 (before the repair the relative tolerance was multiplied by `x` instead of `|x|` and the first call below
    ran into eslENOHALT): `esl_root_Bisection` on `x² - 2`, exact arithmetic, default tolerances, converges on `[-3, -1]` as it does on `[1, 3]`;
    the two roots found are mirror images. -/
theorem bisection_negative_root_converges :
    (rootBisection (RootCfg.default : RootCfg ℚ) sq2 0 (-3) (-1)).st = .ok ∧
    (rootBisection (RootCfg.default : RootCfg ℚ) sq2 0 1 3).st = .ok ∧
    (rootBisection (RootCfg.default : RootCfg ℚ) sq2 0 (-3) (-1)).x = -(rootBisection (RootCfg.default : RootCfg ℚ) sq2 0 1 3).x := by
  decide +kernel

end EaselModel.Stats
