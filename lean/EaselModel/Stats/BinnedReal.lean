import EaselModel.Stats.FitCG
import EaselModel.Stats.FitSxpBinned
import EaselModel.Stats.FitReal
/-! # The binned Weibull and stretched-exponential objectives over ℝ (C11)

`esl_wei_FitCompleteBinned` and `esl_sxp_FitCompleteBinned` minimise `wei_binned_func(p)` resp. `sxp_complete_binned_func(p)`, `p = (log λ, log τ)`.
Read over ℝ each is `-Σ_b obs[b]·log(F(ub_b) - F(max(lb_b, μ)))` over the occupied bins `cmin..imax` with `F` the code's cdf — minus the
multinomial log-likelihood of the observed counts — unless an occupied bin is rejected (probability `≤ 0` for Weibull, `= 0` for the stretched
exponential: then the code returns `eslINFINITY`). `esl_wei_cdf` is the Weibull distribution function `1 - exp(-(λ(x-μ))^τ)` above `μ` (outside
its small-argument branch, where the code substitutes the first-order term), `0` at and below `μ`. -/
namespace EaselModel.Stats
open Real

/-- a fold whose step leaves an empty bin alone and adds `count · log(prob)` for an occupied one yields the binned log-likelihood; what the
    Weibull and the stretched-exponential objective differ in (the cdf, and the test that rejects a bin) stays in the two step facts -/
theorem binnedFold_eq (step : Option ℝ → Int × Nat → Option ℝ) (prob : Int → ℝ) (bins : List (Int × Nat))
    (hempty : ∀ acc ic, ic.2 = 0 → step (some acc) ic = some acc)
    (hocc : ∀ acc ic, ic ∈ bins → ic.2 ≠ 0 → step (some acc) ic = some (acc + (ic.2 : ℝ) * Real.log (prob ic.1))) (acc : ℝ) :
    bins.foldl step (some acc) = some (acc + (bins.map (fun ic => if ic.2 = 0 then 0 else (ic.2 : ℝ) * Real.log (prob ic.1))).sum) := by
  induction bins generalizing acc with
  | nil => simp
  | cons a t ih =>
    have ih' := ih (fun acc ic hic => hocc acc ic (List.mem_cons_of_mem _ hic))
    simp only [List.foldl_cons, List.map_cons, List.sum_cons]
    by_cases ha : a.2 = 0
    · rw [hempty acc a ha, ih']; simp [ha]
    · rw [hocc acc a List.mem_cons_self ha, ih']; simp [ha, add_assoc]

/-- the probability `wei_binned_func` gives bin `ic.1`: `F(ub) - F(max(lb, μ))` with the code's `esl_wei_cdf` -/
noncomputable def weiBinProb (h : Hist ℝ) (mu lam tau : ℝ) (b : Int) : ℝ :=
  weiCdf (h.ubound b) mu lam tau - weiCdf (if h.lbound b < mu then mu else h.lbound b) mu lam tau

/-- minus the objective: the multinomial log-likelihood of the counts -/
noncomputable def llWeiBinned (h : Hist ℝ) (bins : List (Int × Nat)) (mu lam tau : ℝ) : ℝ :=
  (bins.map (fun ic => if ic.2 = 0 then 0 else (ic.2 : ℝ) * Real.log (weiBinProb h mu lam tau ic.1))).sum

theorem weiBinnedStep_empty (h : Hist ℝ) (mu lam tau acc : ℝ) (ic : Int × Nat) (h0 : ic.2 = 0) :
    weiBinnedStep h mu lam tau (some acc) ic = some acc := by
  unfold weiBinnedStep; simp [h0]

theorem weiBinnedStep_occupied (h : Hist ℝ) (mu lam tau acc : ℝ) (ic : Int × Nat) (h0 : ic.2 ≠ 0) (hp : 0 < weiBinProb h mu lam tau ic.1) :
    weiBinnedStep h mu lam tau (some acc) ic = some (acc + (ic.2 : ℝ) * Real.log (weiBinProb h mu lam tau ic.1)) := by
  unfold weiBinnedStep
  unfold weiBinProb at hp ⊢
  have hb : (ic.2 == 0) = false := by simpa using h0
  simp only [hb, Bool.false_eq_true, if_false, ofInt_r, log_r, ltb_r]
  rw [if_neg (by rw [leb_r, zero_r]; exact not_le.2 hp)]
  push_cast
  rfl

/-- **`wei_binned_func` = `-Σ counts · log(cdf differences)`** (ℝ; any histogram, any bin list, any `μ`, `w`, `v`): provided every occupied
    bin has positive probability under `(μ, λ = e^w, τ = e^v)`. -/
theorem weiBinnedFunc_eq (h : Hist ℝ) (bins : List (Int × Nat)) (mu w v : ℝ)
    (hpos : ∀ ic ∈ bins, ic.2 ≠ 0 → 0 < weiBinProb h mu (Real.exp w) (Real.exp v) ic.1) :
    weiBinnedFunc h bins mu #[w, v] = -(llWeiBinned h bins mu (Real.exp w) (Real.exp v)) := by
  unfold weiBinnedFunc llWeiBinned
  have g0 : (#[w, v] : Array ℝ).getD 0 Num.zero = w := rfl
  have g1 : (#[w, v] : Array ℝ).getD 1 Num.zero = v := rfl
  simp only [g0, g1, exp_r]
  rw [binnedFold_eq _ (weiBinProb h mu (Real.exp w) (Real.exp v)) bins (fun acc ic h0 => weiBinnedStep_empty h mu _ _ acc ic h0)
    (fun acc ic hic h0 => weiBinnedStep_occupied h mu _ _ acc ic h0 (hpos ic hic h0))]
  simp

/-- **`esl_wei_cdf` over ℝ**: `0` at and below `μ`; above `μ`, outside the small-argument branch, the Weibull distribution function
    `1 - exp(-(λ(x-μ))^τ)` written as `1 - exp(-exp(τ(w + log(x-μ))))`, `λ = e^w`; inside that branch (`(λ(x-μ))^τ < 5e-9`) the first-order
    term `(λ(x-μ))^τ` itself. -/
theorem weiCdf_r (x mu w tau : ℝ) :
    weiCdf x mu (Real.exp w) tau =
      if x ≤ mu then 0
      else if Real.exp (tau * (w + Real.log (x - mu))) < 5e-9 then Real.exp (tau * (w + Real.log (x - mu)))
      else 1 - Real.exp (-(Real.exp (tau * (w + Real.log (x - mu))))) := by
  unfold weiCdf
  by_cases hx : x ≤ mu
  · have : Num.leb x mu = true := by rw [leb_r]; exact hx
    simp [this, hx]
  · have h1 : Num.leb x mu = false := by rw [Bool.eq_false_iff]; intro h; rw [leb_r] at h; exact hx h
    have hpos : 0 < x - mu := by have := not_le.1 hx; linarith
    simp only [h1, Bool.false_eq_true, if_false, hx, log_r, exp_r, one_r,
      Real.log_mul (ne_of_gt (Real.exp_pos w)) (ne_of_gt hpos), Real.log_exp]
    by_cases hs : Real.exp (tau * (w + Real.log (x - mu))) < 5e-9
    · have : Num.ltb (Real.exp (tau * (w + Real.log (x - mu)))) (smallX1 : ℝ) = true := by rw [ltb_r]; exact hs
      simp [this, hs]
    · have : Num.ltb (Real.exp (tau * (w + Real.log (x - mu)))) (smallX1 : ℝ) = false := by
        rw [Bool.eq_false_iff]; intro h; rw [ltb_r] at h; exact hs h
      simp [this, hs]


/-- the probability `sxp_complete_binned_func` gives bin `b`: `F(ub) - F(max(lb, μ))` with the code's `esl_sxp_cdf` -/
noncomputable def sxpBinProb (h : Hist ℝ) (mu lam tau : ℝ) (b : Int) : ℝ :=
  sxpCdf (h.ubound b) mu lam tau - sxpCdf (if h.lbound b < mu then mu else h.lbound b) mu lam tau

noncomputable def llSxpBinned (h : Hist ℝ) (bins : List (Int × Nat)) (mu lam tau : ℝ) : ℝ :=
  (bins.map (fun ic => if ic.2 = 0 then 0 else (ic.2 : ℝ) * Real.log (sxpBinProb h mu lam tau ic.1))).sum

theorem sxpBinnedStep_empty (h : Hist ℝ) (mu lam tau acc : ℝ) (ic : Int × Nat) (h0 : ic.2 = 0) :
    sxpBinnedStep h mu lam tau (some acc) ic = some acc := by
  unfold sxpBinnedStep; simp [h0]

theorem sxpBinnedStep_occupied (h : Hist ℝ) (mu lam tau acc : ℝ) (ic : Int × Nat) (h0 : ic.2 ≠ 0) (hp : sxpBinProb h mu lam tau ic.1 ≠ 0) :
    sxpBinnedStep h mu lam tau (some acc) ic = some (acc + (ic.2 : ℝ) * Real.log (sxpBinProb h mu lam tau ic.1)) := by
  unfold sxpBinnedStep
  unfold sxpBinProb at hp ⊢
  have hb : (ic.2 == 0) = false := by simpa using h0
  simp only [hb, Bool.false_eq_true, if_false, ofInt_r, log_r, ltb_r]
  rw [if_neg (by rw [eqb_r, zero_r]; exact hp)]
  push_cast
  rfl

/-- **`sxp_complete_binned_func` = `-Σ counts · log(cdf differences)`** (ℝ; any histogram, bin list, `μ`, `w`, `v`): provided no occupied bin
    has probability exactly `0` under `(μ, λ = e^w, τ = e^v)`. -/
theorem sxpBinnedFunc_eq (h : Hist ℝ) (bins : List (Int × Nat)) (mu w v : ℝ)
    (hpos : ∀ ic ∈ bins, ic.2 ≠ 0 → sxpBinProb h mu (Real.exp w) (Real.exp v) ic.1 ≠ 0) :
    sxpBinnedFunc h bins mu #[w, v] = -(llSxpBinned h bins mu (Real.exp w) (Real.exp v)) := by
  unfold sxpBinnedFunc llSxpBinned
  have g0 : (#[w, v] : Array ℝ).getD 0 Num.zero = w := rfl
  have g1 : (#[w, v] : Array ℝ).getD 1 Num.zero = v := rfl
  simp only [g0, g1, exp_r]
  rw [binnedFold_eq _ (sxpBinProb h mu (Real.exp w) (Real.exp v)) bins (fun acc ic h0 => sxpBinnedStep_empty h mu _ _ acc ic h0)
    (fun acc ic hic h0 => sxpBinnedStep_occupied h mu _ _ acc ic h0 (hpos ic hic h0))]
  simp

end EaselModel.Stats
