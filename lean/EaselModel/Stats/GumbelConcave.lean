import EaselModel.Stats.FitReal
/-! # The Gumbel profile likelihood is concave: a stationary λ is (nearly) the global maximiser (C11) -/
namespace EaselModel.Stats
open Real

/-- weighted exponential sums over a list of (weight, point) pairs -/
noncomputable def wA (l : List (ℝ × ℝ)) (lam : ℝ) : ℝ := (l.map (fun p => p.1 * Real.exp (-lam * p.2))).sum
noncomputable def wB (l : List (ℝ × ℝ)) (lam : ℝ) : ℝ := (l.map (fun p => p.1 * p.2 * Real.exp (-lam * p.2))).sum

theorem wA_tangent (l : List (ℝ × ℝ)) (hc : ∀ p ∈ l, 0 ≤ p.1) (lam lam' m : ℝ) :
    Real.exp m * (wA l lam - (lam' - lam) * wB l lam - m * wA l lam) ≤ wA l lam' := by
  unfold wA wB
  induction l with
  | nil => simp
  | cons p t ih =>
    have iht := ih (fun q hq => hc q (List.mem_cons_of_mem _ hq))
    simp only [List.map_cons, List.sum_cons]
    -- `e^{-λ'x} = e^{-λx} e^u` with `u = -(λ'-λ)x`, and `e^u ≥ e^m (1 + (u - m))`
    have e2 : p.1 * Real.exp (-lam' * p.2) = p.1 * Real.exp (-lam * p.2) * Real.exp (-(lam' - lam) * p.2) := by
      rw [mul_assoc, ← Real.exp_add]; congr 2; ring
    have := mul_le_mul_of_nonneg_left (exp_ge_tangent m (-(lam' - lam) * p.2))
      (mul_nonneg (hc p List.mem_cons_self) (Real.exp_pos (-lam * p.2)).le)
    linarith

/-- Jensen in the form needed: `A(λ') ≥ A(λ)·exp(-(λ'-λ)·B(λ)/A(λ))` -/
theorem wA_jensen (l : List (ℝ × ℝ)) (hc : ∀ p ∈ l, 0 ≤ p.1) (lam lam' : ℝ) (hA : 0 < wA l lam) :
    wA l lam * Real.exp (-(lam' - lam) * (wB l lam / wA l lam)) ≤ wA l lam' := by
  have := wA_tangent l hc lam lam' (-(lam' - lam) * (wB l lam / wA l lam))
  have e : wA l lam - (lam' - lam) * wB l lam - -(lam' - lam) * (wB l lam / wA l lam) * wA l lam = wA l lam := by
    field_simp; ring
  rw [e] at this
  rw [mul_comm]; exact this

theorem gS_eq_wA (xs : List ℝ) (z phi lam : ℝ) : gS xs z phi lam = wA (xs.map (fun x => (1, x)) ++ [(z, phi)]) lam := by
  unfold gS wA; simp [List.map_append, List.sum_append, Function.comp_def]

theorem gT_eq_wB (xs : List ℝ) (z phi lam : ℝ) : gT xs z phi lam = wB (xs.map (fun x => (1, x)) ++ [(z, phi)]) lam := by
  unfold gT wB; simp [List.map_append, List.sum_append, Function.comp_def]

/-- **the profile log-likelihood lies below each of its tangents** (it is concave in `λ`):
    `profile(λ') ≤ profile(λ) + n·f(λ)·(λ' - λ)` for all `λ, λ' > 0`, where `f` is Lawless 4.1.6 / 4.2.2 as coded. -/
theorem profile_below_tangent (xs : List ℝ) (z phi lam lam' : ℝ) (hz : 0 ≤ z) (hn : 0 < xs.length) (hl : 0 < lam) (hl' : 0 < lam')
    (hS : 0 < gS xs z phi lam) (hS' : 0 < gS xs z phi lam') :
    llGumbelProfile xs z phi lam' ≤ llGumbelProfile xs z phi lam + xs.length * lawlessF xs z phi lam * (lam' - lam) := by
  have hnr : (0 : ℝ) < xs.length := by exact_mod_cast hn
  have hc : ∀ p ∈ xs.map (fun x => ((1 : ℝ), x)) ++ [(z, phi)], 0 ≤ p.1 := by
    intro p hp
    rcases List.mem_append.1 hp with h | h
    · obtain ⟨x, _, rfl⟩ := List.mem_map.1 h; exact zero_le_one
    · simp at h; rw [h]; exact hz
  have hj := wA_jensen _ hc lam lam' (by rw [← gS_eq_wA]; exact hS)
  rw [← gS_eq_wA, ← gS_eq_wA, ← gT_eq_wB] at hj
  have hlogS : Real.log (gS xs z phi lam) + -(lam' - lam) * (gT xs z phi lam / gS xs z phi lam) ≤ Real.log (gS xs z phi lam') := by
    have := Real.log_le_log (by positivity) hj
    rwa [Real.log_mul (ne_of_gt hS) (ne_of_gt (Real.exp_pos _)), Real.log_exp] at this
  have hlogl := log_le_tangent hl hl'
  unfold llGumbelProfile lawlessF
  rw [Real.log_div (ne_of_gt hS') (ne_of_gt hnr), Real.log_div (ne_of_gt hS) (ne_of_gt hnr)]
  -- both tangent inequalities times `n`
  have h1 := mul_le_mul_of_nonneg_left hlogl hnr.le
  have h2 := mul_le_mul_of_nonneg_left hlogS hnr.le
  have en : (xs.length : ℝ) * (xs.sum / xs.length) * (lam' - lam) = xs.sum * (lam' - lam) := by rw [mul_div_cancel₀ _ hnr.ne']
  have el : (lam' - lam) / lam = 1 / lam * (lam' - lam) := by ring
  rw [el] at h1
  linarith

/-- **near-optimality of a stationary point**: if `|f(λ̂)| < tol` then for ALL `μ'` and ALL `λ' > 0`
    `logL(μ', λ') ≤ logL(μ̂(λ̂), λ̂) + n·tol·|λ' - λ̂|` — the returned pair is the global maximiser up to the Newton tolerance. -/
theorem gumbel_stationary_is_near_optimal (xs : List ℝ) (z phi lam tol : ℝ) (hz : 0 ≤ z) (hn : 0 < xs.length) (hl : 0 < lam)
    (hS : 0 < gS xs z phi lam) (hst : |lawlessF xs z phi lam| < tol) (mu' lam' : ℝ) (hl' : 0 < lam') (hS' : 0 < gS xs z phi lam') :
    llGumbel xs z phi mu' lam' ≤ llGumbel xs z phi (-(Real.log (gS xs z phi lam / xs.length)) / lam) lam + xs.length * tol * |lam' - lam| := by
  have hnr : (0 : ℝ) < xs.length := by exact_mod_cast hn
  have h1 := gumbel_mu_maximises xs z phi lam' hn hl' hS' mu'
  rw [← llGumbelProfile_eq xs z phi lam' hn hl' hS'] at h1
  have h2 := profile_below_tangent xs z phi lam lam' hz hn hl hl' hS hS'
  rw [llGumbelProfile_eq xs z phi lam hn hl hS] at h2
  have h3 : (xs.length : ℝ) * lawlessF xs z phi lam * (lam' - lam) ≤ xs.length * tol * |lam' - lam| := by
    have : lawlessF xs z phi lam * (lam' - lam) ≤ |lawlessF xs z phi lam| * |lam' - lam| := by
      rw [← abs_mul]; exact le_abs_self _
    have : lawlessF xs z phi lam * (lam' - lam) ≤ tol * |lam' - lam| :=
      le_trans this (mul_le_mul_of_nonneg_right (le_of_lt hst) (abs_nonneg _))
    rw [mul_assoc, mul_assoc]; exact mul_le_mul_of_nonneg_left this hnr.le
  linarith


theorem gS_pos (xs : List ℝ) (z phi lam : ℝ) (hz : 0 ≤ z) (hn : 0 < xs.length) : 0 < gS xs z phi lam := by
  unfold gS
  have h1 : 0 < (xs.map (fun x => Real.exp (-lam * x))).sum := by
    cases xs with
    | nil => simp at hn
    | cons a t =>
      simp only [List.map_cons, List.sum_cons]
      have : 0 ≤ (t.map (fun x => Real.exp (-lam * x))).sum :=
        List.sum_nonneg (fun y hy => by obtain ⟨x, _, rfl⟩ := List.mem_map.1 hy; exact le_of_lt (Real.exp_pos _))
      have := Real.exp_pos (-lam * a)
      linarith
  have h2 : 0 ≤ z * Real.exp (-lam * phi) := mul_nonneg hz (le_of_lt (Real.exp_pos _))
  linarith

/-- **`esl_gumbel_FitComplete` = eslOK ⇒ global maximiser up to the Newton tolerance**: for every `μ'` and every `λ' > 0`,
    `logL(μ', λ') ≤ logL(μ, λ) + n·10⁻⁵·|λ' - λ|` at the returned `(μ, λ)` (`λ > 0`). -/
theorem gumbelFitComplete_near_optimal (xs : Array ℝ) (mu lam : ℝ) (h : gumbelFitComplete xs = .res .ok #[mu, lam]) (hl : 0 < lam)
    (mu' lam' : ℝ) (hl' : 0 < lam') :
    llGumbel xs.toList 0 0 mu' lam' ≤ llGumbel xs.toList 0 0 mu lam + xs.size * (1e-5 : ℝ) * |lam' - lam| := by
  obtain ⟨hst, hmu⟩ := gumbelFitComplete_ok xs mu lam h
  have hn : 0 < xs.toList.length := by
    unfold gumbelFitComplete at h
    split at h
    · injection h with h1 _; cases h1
    · simp only [Array.length_toList]; omega
  have := gumbel_stationary_is_near_optimal xs.toList 0 0 lam (1e-5) (le_refl _) hn hl (gS_pos _ _ _ _ (le_refl _) hn) hst mu' lam' hl'
    (gS_pos _ _ _ _ (le_refl _) hn)
  rw [hmu]
  simpa using this

/-- the same for `esl_gumbel_FitCensored` with `z ≥ 0` censored values -/
theorem gumbelFitCensored_near_optimal (xs : Array ℝ) (z : Int) (hz : 0 ≤ z) (phi mu lam : ℝ)
    (h : gumbelFitCensored xs z phi = .res .ok #[mu, lam]) (hl : 0 < lam) (mu' lam' : ℝ) (hl' : 0 < lam') :
    llGumbel xs.toList z phi mu' lam' ≤ llGumbel xs.toList z phi mu lam + xs.size * (1e-5 : ℝ) * |lam' - lam| := by
  obtain ⟨hst, hmu⟩ := gumbelFitCensored_ok xs z phi mu lam h
  have hzr : (0 : ℝ) ≤ (z : ℝ) := by exact_mod_cast hz
  have hn : 0 < xs.toList.length := by
    unfold gumbelFitCensored at h
    split at h
    · injection h with h1 _; cases h1
    · simp only [Array.length_toList]; omega
  have := gumbel_stationary_is_near_optimal xs.toList z phi lam (1e-5) hzr hn hl (gS_pos _ _ _ _ hzr hn) hst mu' lam' hl'
    (gS_pos _ _ _ _ hzr hn)
  rw [hmu]
  simpa using this

end EaselModel.Stats
