import EaselModel.Stats.WeibullReal
/-! # The stretched-exponential log-likelihood over ℝ (C11)

`esl_sxp_FitComplete` minimises `sxp_complete_func(p)`, `p = (w, v) = (log λ, log τ)`, with the location pinned to the smallest
sample. For every shape `τ > 0` the log-likelihood is concave in `w = log λ`, so the stationary rate `λ^τ = n / (τ Σ (xᵢ-μ)^τ)`
is THE maximiser in `λ`. Nothing is claimed about rounding (L0). -/
namespace EaselModel.Stats
open Real

/-- stretched-exponential log-likelihood of `n` samples, of which those above `μ` have logs `ls = log(xᵢ - μ)`, in `w = log λ` and `τ`;
    `lg` stands for `logΓ(1/τ)`:  `n (log λ + log τ - logΓ(1/τ)) - Σ (λ(xᵢ-μ))^τ`  (a sample AT `μ` contributes `(λ·0)^τ = 0`) -/
noncomputable def llSxp (lg n : ℝ) (ls : List ℝ) (w tau : ℝ) : ℝ :=
  n * (w + Real.log tau - lg) - (ls.map (fun l => Real.exp (tau * (w + l)))).sum

/-- `∂/∂w` of `llSxp` -/
noncomputable def llSxpDw (n : ℝ) (ls : List ℝ) (w tau : ℝ) : ℝ := n - tau * (ls.map (fun l => Real.exp (tau * (w + l)))).sum

theorem sum_exp_shift (ls : List ℝ) (w tau : ℝ) :
    (ls.map (fun l => Real.exp (tau * (w + l)))).sum = Real.exp (tau * w) * (ls.map (fun l => Real.exp (tau * l))).sum := by
  induction ls with
  | nil => simp
  | cons a t ih =>
    simp only [List.map_cons, List.sum_cons, ih]
    rw [mul_add tau w a, Real.exp_add]; ring

theorem llSxp_hasDerivAt_w (lg n : ℝ) (ls : List ℝ) (w tau : ℝ) :
    HasDerivAt (fun w => llSxp lg n ls w tau) (llSxpDw n ls w tau) w := by
  unfold llSxp llSxpDw
  have h1 : HasDerivAt (fun w : ℝ => n * (w + Real.log tau - lg)) n w := by
    simpa using (((hasDerivAt_id w).add_const (Real.log tau)).sub_const lg).const_mul n
  have h2 : HasDerivAt (fun w : ℝ => (ls.map (fun l => Real.exp (tau * (w + l)))).sum)
      (ls.map (fun l => tau * Real.exp (tau * (w + l)))).sum w :=
    hasDerivAt_list_sum ls (fun l w => Real.exp (tau * (w + l))) _ w (fun l _ => hasDerivAt_exp_pow_w tau w l)
  have e := List.sum_map_mul_left ls (fun l => Real.exp (tau * (w + l))) tau
  rw [e] at h2
  exact h1.sub h2

theorem sum_exp_tangent (ls : List ℝ) (w tau w' : ℝ) :
    (ls.map (fun l => Real.exp (tau * (w + l)))).sum * (1 + tau * (w' - w)) ≤ (ls.map (fun l => Real.exp (tau * (w' + l)))).sum := by
  rw [← List.sum_map_mul_right]
  refine list_sum_le_of_forall ls _ _ (fun l _ => ?_)
  have h := exp_ge_tangent (tau * (w + l)) (tau * (w' + l))
  rwa [← mul_sub, add_sub_add_right_eq_sub] at h

theorem sum_exp_tangent_strict (ls : List ℝ) (hls : ls ≠ []) (w tau w' : ℝ) (ht : tau ≠ 0) (hw : w' ≠ w) :
    (ls.map (fun l => Real.exp (tau * (w + l)))).sum * (1 + tau * (w' - w)) < (ls.map (fun l => Real.exp (tau * (w' + l)))).sum := by
  rw [← List.sum_map_mul_right]
  refine list_sum_lt_of_forall ls hls _ _ (fun l _ => ?_)
  have h := exp_gt_tangent (a := tau * (w + l)) (b := tau * (w' + l)) (fun h => hw (add_right_cancel (mul_left_cancel₀ ht h)))
  rwa [← mul_sub, add_sub_add_right_eq_sub] at h

/-- **The stretched-exponential log-likelihood lies below each of its tangents in `w = log λ`** (it is concave in `log λ` for every shape):
    an a-posteriori bound on the shortfall in `λ` of ANY point, in terms of the derivative there. -/
theorem llSxp_below_tangent_w (lg n : ℝ) (ls : List ℝ) (w tau w' : ℝ) :
    llSxp lg n ls w' tau ≤ llSxp lg n ls w tau + llSxpDw n ls w tau * (w' - w) := by
  unfold llSxp llSxpDw
  have h := sum_exp_tangent ls w tau w'
  linarith

/-- **for every shape `τ`, a rate at which `∂/∂ log λ` vanishes is a global maximiser in `λ`** -/
theorem llSxp_rate_max (lg n : ℝ) (ls : List ℝ) (w tau : ℝ) (hst : llSxpDw n ls w tau = 0) (w' : ℝ) :
    llSxp lg n ls w' tau ≤ llSxp lg n ls w tau := by
  have h := llSxp_below_tangent_w lg n ls w tau w'
  rw [hst] at h; simpa using h

/-- **…and the only one** (at least one sample above `μ`, `τ ≠ 0`) -/
theorem llSxp_rate_unique (lg n : ℝ) (ls : List ℝ) (hls : ls ≠ []) (w tau : ℝ) (ht : tau ≠ 0) (hst : llSxpDw n ls w tau = 0) (w' : ℝ)
    (hw : w' ≠ w) : llSxp lg n ls w' tau < llSxp lg n ls w tau := by
  unfold llSxp
  unfold llSxpDw at hst
  have h := sum_exp_tangent_strict ls hls w tau w' ht hw
  have e : (ls.map (fun l => Real.exp (tau * (w + l)))).sum * (tau * (w' - w)) = n * (w' - w) := by
    rw [show n = tau * (ls.map (fun l => Real.exp (tau * (w + l)))).sum by linarith]; ring
  linarith

/-- **the closed form of that rate**: `λ^τ = n / (τ Σ (xᵢ-μ)^τ)`, i.e. `w = log(n / (τ S)) / τ` with `S = Σ exp(τ lᵢ) > 0`, is stationary -/
theorem llSxp_rate_closed_form (n : ℝ) (ls : List ℝ) (tau : ℝ) (hn : 0 < n) (ht : 0 < tau)
    (hS : 0 < (ls.map (fun l => Real.exp (tau * l))).sum) :
    llSxpDw n ls (Real.log (n / (tau * (ls.map (fun l => Real.exp (tau * l))).sum)) / tau) tau = 0 := by
  unfold llSxpDw
  set S := (ls.map (fun l => Real.exp (tau * l))).sum with hSdef
  set w := Real.log (n / (tau * S)) / tau with hw
  have hq : 0 < n / (tau * S) := div_pos hn (mul_pos ht hS)
  have e1 : Real.exp (tau * w) = n / (tau * S) := by
    rw [hw, mul_div_cancel₀ _ (ne_of_gt ht), Real.exp_log hq]
  have e2 : (ls.map (fun l => Real.exp (tau * (w + l)))).sum = Real.exp (tau * w) * S := sum_exp_shift ls w tau
  rw [e2, e1]
  field_simp
  ring


/-- `esl_sxp_logpdf(x, mu, exp w, τ)` for `x ≥ mu` -/
theorem sxpLogpdf_r (x mu w tau : ℝ) (hx : mu ≤ x) :
    sxpLogpdf x mu (Real.exp w) tau
      = w + Real.log tau - logGamma (1 / tau) - (if x = mu then 0 else Real.exp (tau * (w + Real.log (x - mu)))) := by
  unfold sxpLogpdf
  have h1 : Num.ltb x mu = false := by rw [Bool.eq_false_iff]; intro h; rw [ltb_r] at h; linarith
  simp only [h1, Bool.false_eq_true, if_false, log_r, exp_r, one_r, Real.log_exp]
  by_cases h : x = mu
  · simp [h]
  · have h2 : Num.eqb x mu = false := by rw [Bool.eq_false_iff]; intro h'; rw [eqb_r] at h'; exact h h'
    have hpos : 0 < x - mu := by
      have := lt_of_le_of_ne hx (Ne.symm h); linarith
    simp only [h2, Bool.false_eq_true, if_false, h]
    rw [Real.log_mul (ne_of_gt (Real.exp_pos w)) (ne_of_gt hpos), Real.log_exp]

/-- **`sxp_complete_func(p)` as a real function.** Data `≥ mu`: the objective handed to the optimiser is minus the stretched-exponential
    log-likelihood of ALL `n` samples (those equal to `mu` contribute the normaliser only), in `w = p[0] = log λ`, `τ = exp p[1]`, with the
    code's `esl_stats_LogGamma(1/τ)` as `logΓ(1/τ)`. -/
theorem sxpFunc_eq (xs : Array ℝ) (mu w v : ℝ) (hmu : ∀ x ∈ xs.toList, mu ≤ x) :
    sxpFunc xs mu #[w, v] = -(llSxp (logGamma (1 / Real.exp v)) (xs.size : ℝ)
        ((xs.toList.filter (fun x => decide (x ≠ mu))).map (fun x => Real.log (x - mu))) w (Real.exp v)) := by
  unfold sxpFunc llSxp
  have g0 : (#[w, v] : Array ℝ).getD 0 Num.zero = w := rfl
  have g1 : (#[w, v] : Array ℝ).getD 1 Num.zero = v := rfl
  simp only [g0, g1, exp_r]
  congr 1
  rw [← Array.foldl_toList, zero_r, foldl_add, zero_add, ← Array.length_toList,
    List.map_congr_left (fun x hx => sxpLogpdf_r x mu w (Real.exp v) (hmu x hx)), sum_map_const_sub, sum_map_skip, List.map_map]
  rfl

end EaselModel.Stats
