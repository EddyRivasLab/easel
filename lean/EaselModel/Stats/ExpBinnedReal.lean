import EaselModel.Stats.FitReal
import EaselModel.Stats.HistLemmas
/-! # `esl_exp_FitCompleteBinned` returns a maximiser of the binned exponential likelihood: no `λ > 0` does better (C11, ℝ)

Counts `n_i` in bins `(a_i, a_i + δ]` of equal width `δ`, location `μ ≤ a_i`: the probability of bin `i` under the exponential law is
`exp(-λ(a_i-μ)) - exp(-λ(a_i+δ-μ))`, so the log-likelihood is `-λ·S + N·log(1 - exp(-λδ))` with `S = Σ n_i (a_i-μ)`, `N = Σ n_i`.
The code returns `λ = (1/δ)(log sb - log sa)`, `sa = S`, `sb = Σ n_i (a_i+δ-μ) = S + Nδ`. -/
namespace EaselModel.Stats
open Real

/-- binned exponential log-likelihood in closed form -/
noncomputable def llExpBinned (S N delta lam : ℝ) : ℝ := -lam * S + N * Real.log (1 - Real.exp (-lam * delta))

theorem exp_neg_mul_lt_one {lam delta : ℝ} (hl : 0 < lam) (hd : 0 < delta) : Real.exp (-lam * delta) < 1 :=
  Real.exp_lt_one_iff.2 (by rw [neg_mul]; exact neg_neg_of_pos (mul_pos hl hd))

theorem log_bin_prob (a mu delta lam : ℝ) (hl : 0 < lam) (hd : 0 < delta) :
    Real.log (Real.exp (-lam * (a - mu)) - Real.exp (-lam * (a + delta - mu))) = -lam * (a - mu) + Real.log (1 - Real.exp (-lam * delta)) := by
  have h1 : Real.exp (-lam * (a + delta - mu)) = Real.exp (-lam * (a - mu)) * Real.exp (-lam * delta) := by
    rw [← Real.exp_add]; congr 1; ring
  have hlt := exp_neg_mul_lt_one hl hd
  rw [h1, show Real.exp (-lam * (a - mu)) - Real.exp (-lam * (a - mu)) * Real.exp (-lam * delta)
        = Real.exp (-lam * (a - mu)) * (1 - Real.exp (-lam * delta)) by ring,
      Real.log_mul (ne_of_gt (Real.exp_pos _)) (by linarith), Real.log_exp]

/-- Gibbs' inequality for two outcomes: `p log t + q log(1-t)` is largest at `t = p/(p+q)` -/
theorem two_point_gibbs (p q t : ℝ) (hp : 0 < p) (hq : 0 < q) (ht0 : 0 < t) (ht1 : t < 1) :
    p * Real.log t + q * Real.log (1 - t) ≤ p * Real.log (p / (p + q)) + q * Real.log (q / (p + q)) := by
  have hpq : 0 < p + q := by linarith
  -- the tangents of `log` at `p/(p+q)` and at `q/(p+q)`, weighted by `p` and `q`: the linear parts cancel
  have m1 := mul_le_mul_of_nonneg_left (log_le_tangent (div_pos hp hpq) ht0) hp.le
  have m2 := mul_le_mul_of_nonneg_left (log_le_tangent (div_pos hq hpq) (sub_pos.2 ht1)) hq.le
  have e1 : p * ((t - p / (p + q)) / (p / (p + q))) = (p + q) * t - p := by field_simp
  have e2 : q * ((1 - t - q / (p + q)) / (q / (p + q))) = (p + q) * (1 - t) - q := by field_simp
  rw [mul_add, e1] at m1; rw [mul_add, e2] at m2
  linarith

/-- **the rate `esl_exp_FitCompleteBinned` computes maximises the binned exponential log-likelihood over all `λ > 0`** (`S, N, δ > 0`) -/
theorem exp_binned_rate_max (S N delta lam : ℝ) (hS : 0 < S) (hN : 0 < N) (hd : 0 < delta) (hl : 0 < lam) :
    llExpBinned S N delta lam ≤ llExpBinned S N delta (1 / delta * (Real.log (S + N * delta) - Real.log S)) := by
  unfold llExpBinned
  have hSN : 0 < S + N * delta := by positivity
  -- the optimum in the variable t = exp(-λδ)
  have hopt : Real.exp (-(1 / delta * (Real.log (S + N * delta) - Real.log S)) * delta) = S / (S + N * delta) := by
    have : -(1 / delta * (Real.log (S + N * delta) - Real.log S)) * delta = Real.log (S / (S + N * delta)) := by
      rw [Real.log_div (ne_of_gt hS) (ne_of_gt hSN)]; field_simp; ring
    rw [this, Real.exp_log (div_pos hS hSN)]
  rw [hopt]
  set t := Real.exp (-lam * delta) with ht
  have ht0 : 0 < t := Real.exp_pos _
  have ht1 : t < 1 := exp_neg_mul_lt_one hl hd
  have hg := two_point_gibbs (S / delta) N t (by positivity) hN ht0 ht1
  have e1 : -lam * S = S / delta * Real.log t := by rw [ht, Real.log_exp]; field_simp
  have e2 : -(1 / delta * (Real.log (S + N * delta) - Real.log S)) * S = S / delta * Real.log (S / delta / (S / delta + N)) := by
    have : S / delta / (S / delta + N) = S / (S + N * delta) := by field_simp
    rw [this, Real.log_div (ne_of_gt hS) (ne_of_gt hSN)]; field_simp; ring
  have e3 : 1 - S / (S + N * delta) = N / (S / delta + N) := by field_simp; ring
  rw [e1, e2, e3]
  exact hg


/-- `Σ_{j<k} obs[i+j] · f(i+j)` -/
noncomputable def wsum (obs : Array Nat) (f : Int → ℝ) : Nat → Int → ℝ
  | 0, _ => 0
  | k+1, i => (obsAt obs i : ℝ) * f i + wsum obs f k (i + 1)

theorem wsum_ubound (h : Hist ℝ) (mu : ℝ) : ∀ (k : Nat) (i : Int),
    wsum h.obs (fun j => h.ubound j - mu) k i = wsum h.obs (fun j => h.lbound j - mu) k i + h.w * wsum h.obs (fun _ => 1) k i := by
  intro k
  induction k with
  | zero => intro i; simp [wsum]
  | succ k ih => intro i; simp only [wsum]; rw [ih, lbound_r, ubound_r]; ring

/-- the occupied-bin loop inside the bins: no fault, the two weighted sums -/
theorem expBinnedSums_r (h : Hist ℝ) (mu : ℝ) : ∀ (k : Nat) (i : Int) (sa sb : ℝ), 0 ≤ i → i + k ≤ h.obs.size →
    expBinnedSums h mu k i sa sb = .val (sa + wsum h.obs (fun j => h.lbound j - mu) k i, sb + wsum h.obs (fun j => h.ubound j - mu) k i) := by
  intro k
  induction k with
  | zero => intro i sa sb _ _; simp [expBinnedSums, wsum]
  | succ k ih =>
    intro i sa sb h0 h1
    unfold expBinnedSums
    rw [getObs_val h.obs i h0 (by omega)]
    simp only []
    split
    · rename_i hz
      have hz' : obsAt h.obs i = 0 := by simpa using hz
      rw [ih (i + 1) sa sb (by omega) (by push_cast at h1 ⊢; omega)]
      simp only [wsum, hz', Nat.cast_zero, zero_mul, zero_add]
    · rw [ih (i + 1) _ _ (by omega) (by push_cast at h1 ⊢; omega)]
      simp only [wsum, ofInt_r, Int.cast_natCast]
      rw [add_assoc, add_assoc]

/-- **`esl_exp_FitCompleteBinned` = the maximiser of the binned likelihood.** ℝ; complete or virtually censored histogram whose evaluated bins
    `cmin..imax` lie inside `obs[]`; `S = Σ nᵢ(aᵢ-μ) > 0`, `N = Σ nᵢ > 0`, `w > 0`: the routine returns eslOK with the documented `μ` and
    `λ = (1/w)(log(S+Nw) - log S)`, and for EVERY `λ' > 0` the binned exponential log-likelihood `-λ'S + N log(1 - exp(-λ'w))` is not larger
    than at the returned `λ`. -/
theorem expFitCompleteBinned_max (h : Hist ℝ) (hds : h.datasetIs ≠ .trueCensored) (hc : 0 ≤ h.cmin) (hcn : h.cmin ≤ h.obs.size) (hi : h.imax < h.obs.size) (hw : 0 < h.w) :
    let mu := match h.datasetIs with | .complete => if h.isRounded then h.lbound h.imin else h.xmin | _ => h.phi
    let k := (h.imax - h.cmin + 1).toNat
    let S := wsum h.obs (fun j => h.lbound j - mu) k h.cmin
    let N := wsum h.obs (fun _ => 1) k h.cmin
    expFitCompleteBinned h = .res .ok #[mu, 1 / h.w * (Real.log (S + N * h.w) - Real.log S)] ∧
    (0 < S → 0 < N → ∀ lam' : ℝ, 0 < lam' → llExpBinned S N h.w lam' ≤ llExpBinned S N h.w (1 / h.w * (Real.log (S + N * h.w) - Real.log S))) := by
  simp only []
  constructor
  · unfold expFitCompleteBinned
    cases hd : h.datasetIs with
    | trueCensored => exact absurd hd hds
    | complete =>
      simp only []
      rw [expBinnedSums_r h _ _ h.cmin _ _ hc (by omega)]
      simp only [zero_r, zero_add, one_r, log_r]
      rw [wsum_ubound, mul_comm h.w]
    | virtualCensored =>
      simp only []
      rw [expBinnedSums_r h _ _ h.cmin _ _ hc (by omega)]
      simp only [zero_r, zero_add, one_r, log_r]
      rw [wsum_ubound, mul_comm h.w]
  · intro hS hN lam' hl
    exact exp_binned_rate_max _ _ _ lam' hS hN hw hl

end EaselModel.Stats
