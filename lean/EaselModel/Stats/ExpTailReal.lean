import EaselModel.Stats.ExpBinnedReal
import EaselModel.Stats.HistMass
/-! # The exponential tail fit counts exactly the raw data above the threshold (C11)

`esl_exp_FitCompleteBinned` on a histogram whose tail was declared with `esl_histogram_SetTail` sums over the bins `cmin..imax` only. Here that
pipeline is tied to the RAW data (any history of accepted values): the histogram the fit sees is the ℝ-reading `Hist.toR` of the exact (ℚ)
histogram after `SetTail`; the `N` of its closed form is the number of accepted values above the threshold actually used (`= No`), its `S` is
`Σ obs[b]·(LBound(b) - φ')` over those bins, the location returned is that threshold, and the rate is a maximiser (`exp_binned_rate_max`) of the binned likelihood
of exactly those values. -/
namespace EaselModel.Stats

/-- the same histogram read over ℝ (every numeric field cast; counts, indices and flags unchanged) -/
noncomputable def Hist.toR (h : Hist ℚ) : Hist ℝ :=
  { obs := h.obs, nb := h.nb, w := (h.w : ℝ), bmin := (h.bmin : ℝ), bmax := (h.bmax : ℝ), imin := h.imin, imax := h.imax,
    xmin := (h.xmin : ℝ), xmax := (h.xmax : ℝ), n := h.n, x := h.x.map (fun (v : ℚ) => (v : ℝ)), nalloc := h.nalloc, phi := (h.phi : ℝ),
    cmin := h.cmin, z := h.z, nc := h.nc, no := h.no, isFull := h.isFull, isDone := h.isDone, isSorted := h.isSorted,
    isRounded := h.isRounded, datasetIs := h.datasetIs }

theorem wsum_one (obs : Array Nat) (k : Nat) (i : Int) : wsum obs (fun _ => 1) k i = (binSum obs i k : ℝ) := by
  induction k generalizing i with
  | zero => simp [wsum, binSum]
  | succ k ih => simp only [wsum, binSum, ih, mul_one, Nat.cast_add]

/-- **`N` of the exponential tail fit = the number of accepted values above the cutoff bin's lower bound** (any history of accepted values `vs`,
    any cutoff bin `b ≤ imax+1`) -/
theorem exp_tail_N_counts_raw (h : Hist ℚ) (vs : List ℚ) (acc : Accounts h vs) (b : Int) (hb1 : b ≤ h.imax + 1) :
    wsum h.obs (fun _ => 1) (h.imax - b + 1).toNat b = ((vs.countP (fun x => decide (h.bmin + b * h.w < x)) : Nat) : ℝ) := by
  rw [wsum_one, show h.imax - b + 1 = h.imax + 1 - b by omega, binSum_above h vs acc b hb1]

/-- the exponential fit on ANY virtually censored histogram `h'` that shares bins, `imax` and width with a histogram accounting for `vs` and has
    its cutoff bin in `0..imax+1`: eslOK, location `h'.phi`, and the `N` of the closed form is the number of accepted values above the lower
    bound of bin `cmin` -/
theorem exp_fit_of_declared_tail (h h' : Hist ℚ) (vs : List ℚ) (acc : Accounts h vs) (fobs : h'.obs = h.obs) (fimax : h'.imax = h.imax)
    (fw : h'.w = h.w) (hds : h'.datasetIs = .virtualCensored) (hc0 : 0 ≤ h'.cmin) (hc1 : h'.cmin ≤ h.imax + 1) :
    let hR := h'.toR
    let S := wsum hR.obs (fun j => hR.lbound j - hR.phi) (hR.imax - hR.cmin + 1).toNat hR.cmin
    let N : ℝ := ((vs.countP (fun x => decide (h.bmin + h'.cmin * h.w < x)) : Nat) : ℝ)
    expFitCompleteBinned hR = .res .ok #[((h'.phi : ℚ) : ℝ), 1 / hR.w * (Real.log (S + N * hR.w) - Real.log S)] ∧
    (0 < S → 0 < N → ∀ lam' : ℝ, 0 < lam' →
      llExpBinned S N hR.w lam' ≤ llExpBinned S N hR.w (1 / hR.w * (Real.log (S + N * hR.w) - Real.log S))) := by
  have hsz := acc.wf.size
  have himax := acc.idx.imax_lt acc.wf
  have hmax := expFitCompleteBinned_max h'.toR (by show h'.datasetIs ≠ _; rw [hds]; decide) (by show 0 ≤ h'.cmin; exact hc0)
    (by show h'.cmin ≤ (h'.obs.size : Int); rw [fobs]; omega) (by show h'.imax < (h'.obs.size : Int); rw [fobs, fimax]; omega)
    (by show (0 : ℝ) < ((h'.w : ℚ) : ℝ); rw [fw]; exact_mod_cast acc.wpos)
  have hN : wsum h'.toR.obs (fun _ => 1) (h'.toR.imax - h'.toR.cmin + 1).toNat h'.toR.cmin
      = ((vs.countP (fun x => decide (h.bmin + h'.cmin * h.w < x)) : Nat) : ℝ) := by
    show wsum h'.obs (fun _ => 1) (h'.imax - h'.cmin + 1).toNat h'.cmin = _
    rw [fobs, fimax, exp_tail_N_counts_raw h vs acc h'.cmin hc1]
  have hdsR : h'.toR.datasetIs = .virtualCensored := hds
  simp only [hdsR, hN] at hmax
  exact hmax

/-- **The exponential tail fit is the maximum-likelihood fit of exactly the accepted values above the threshold** (any history of accepted
    values `vs`; `SetTail(phi)` with a threshold that is not above every occupied bin): `SetTail` succeeds with the threshold
    `φ' = bmin + k·w ∈ (phi - w, phi]`; `esl_exp_FitCompleteBinned` on the resulting histogram (read over ℝ) answers eslOK with location `φ'` and
    `λ = (1/w)(log(S + N·w) - log S)`, where `N` is the NUMBER OF ACCEPTED VALUES `> φ'` and `S = Σ obs[b]·(LBound(b) - φ')` over the bins
    `cmin..imax`; and that `λ` maximises the binned exponential log-likelihood `-λ'S + N log(1 - e^{-λ'w})` of those values over all `λ' > 0`. -/
theorem exp_tail_fit_of_raw_data (h : Hist ℚ) (vs : List ℚ) (acc : Accounts h vs) (phi : ℚ) (hfin : |phi| ≤ dblMaxQ)
    (hr : -2147483648 ≤ ⌈(phi - h.bmin) / h.w - 1⌉ ∧ ⌈(phi - h.bmin) / h.w - 1⌉ < 2147483647) :
    ∃ h' mass, h.setTail phi = .val (.ok, h', mass) ∧ h'.phi ≤ phi ∧ phi - h'.phi < h.w ∧
      (h'.cmin ≤ h.imax + 1 →
        let hR := h'.toR
        let k := (hR.imax - hR.cmin + 1).toNat
        let S := wsum hR.obs (fun j => hR.lbound j - hR.phi) k hR.cmin
        let N : ℝ := ((vs.countP (fun x => decide (h'.phi < x)) : Nat) : ℝ)
        expFitCompleteBinned hR = .res .ok #[((h'.phi : ℚ) : ℝ), 1 / hR.w * (Real.log (S + N * hR.w) - Real.log S)] ∧
        (0 < S → 0 < N → ∀ lam' : ℝ, 0 < lam' →
          llExpBinned S N hR.w lam' ≤ llExpBinned S N hR.w (1 / hR.w * (Real.log (S + N * hR.w) - Real.log S)))) := by
  obtain ⟨h', mass, k, e, hphi, hle, hlt, hcmin, _, _, _, hobs, _, hds⟩ := setTail_spec h vs acc phi hfin hr
  obtain ⟨fimax, _, fw, _⟩ := setTail_frame h phi h' mass e
  refine ⟨h', mass, e, hle, hlt, fun hcut => ?_⟩
  have hw := acc.wpos
  have hc0 : 0 ≤ h'.cmin := by rw [hcmin]; exact le_max_right _ _
  -- the values above the edge of bin `cmin = max k 0` are the values above the threshold (edge of bin `k`)
  have hcount : vs.countP (fun x => decide (h.bmin + h'.cmin * h.w < x)) = vs.countP (fun x => decide (h'.phi < x)) := by
    apply List.countP_congr
    intro x hx
    simp only [decide_eq_true_eq]
    rw [hphi, hcmin]
    by_cases hk : 0 ≤ k
    · rw [max_eq_left hk]
    · have hk' : k < 0 := not_le.1 hk
      rw [max_eq_right hk'.le]
      obtain ⟨hlo, _⟩ := value_range h vs acc x hx
      have himin : 0 ≤ h.imin := by
        rcases idx_state h vs acc with ⟨hv, _, _⟩ | ⟨_, i1, _, _⟩
        · rw [hv] at hx; cases hx
        · exact i1
      -- every value lies above the edge of bin 0, which lies above that of bin `k < 0`
      have hx0 : h.bmin + ((0 : Int) : ℚ) * h.w < x := (grid_le hw _ (Int.cast_le.2 himin)).trans_lt hlo
      exact ⟨fun _ => (grid_le hw _ (Int.cast_le.2 hk'.le)).trans_lt hx0, fun _ => hx0⟩
  have := exp_fit_of_declared_tail h h' vs acc hobs fimax fw hds hc0 hcut
  rw [hcount] at this
  exact this

/-- **The same for a tail declared by mass** (`esl_histogram_SetTailByMass(pmass)`, `0 < pmass ≤ 1`, non-empty data): the threshold is the lower
    bound `φ'` of a bin `imin ≤ b ≤ imax`; `esl_exp_FitCompleteBinned` then answers eslOK with location `φ'` and
    `λ = (1/w)(log(S + N·w) - log S)`, `N = No` = the number of accepted values `> φ'` (at least `pmass·n` of them), `S = Σ_{j ≥ b} obs[j]·(LBound(j) - φ')`,
    and that `λ` maximises the binned exponential log-likelihood of those values. -/
theorem exp_tail_fit_by_mass_of_raw_data (h : Hist ℚ) (vs : List ℚ) (acc : Accounts h vs) (hne : vs ≠ []) (p : ℚ) (hp0 : 0 < p) (hp1 : p ≤ 1) :
    ∃ h' mass, h.setTailByMass p = .val (.ok, h', mass) ∧ h'.no = vs.countP (fun x => decide (h'.phi < x)) ∧ p * vs.length ≤ h'.no ∧
      (let hR := h'.toR
       let k := (hR.imax - hR.cmin + 1).toNat
       let S := wsum hR.obs (fun j => hR.lbound j - hR.phi) k hR.cmin
       let N : ℝ := ((h'.no : Nat) : ℝ)
       expFitCompleteBinned hR = .res .ok #[((h'.phi : ℚ) : ℝ), 1 / hR.w * (Real.log (S + N * hR.w) - Real.log S)] ∧
       (0 < S → 0 < N → ∀ lam' : ℝ, 0 < lam' →
         llExpBinned S N hR.w lam' ≤ llExpBinned S N hR.w (1 / hR.w * (Real.log (S + N * hR.w) - Real.log S)))) := by
  obtain ⟨h', mass, b, e, hb1, hb2, hcmin, hphi, hno, _, hmass, _, _, hobs, _⟩ := setTailByMass_spec h vs acc hne p hp0 hp1
  obtain ⟨fimax, _, fw, _, hds⟩ := setTailByMass_frame h p h' mass e
  refine ⟨h', mass, e, hno, hmass, ?_⟩
  have := exp_fit_of_declared_tail h h' vs acc hobs fimax fw hds
    (by rw [hcmin]; have := (idx_state h vs acc).resolve_left (fun c => hne c.1); omega) (by rw [hcmin]; omega)
  rw [hcmin, ← hphi, ← hno] at this
  exact this

end EaselModel.Stats
