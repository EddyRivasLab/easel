import EaselModel.Stats.MinReal
/-! # Where `esl_min_ConjugateGradientDescent` can lose ground, and where it cannot (C11, ℝ)

`cg_is_not_a_descent_method` shows that the optimiser can return a point worse than its start. This file localises the only
place where that can happen: a `brent()` call whose result is worse than the middle point `bx` that `bracket()` had already
found (and which is never worse than the origin of the line search). In every run in which no such line search occurs, the
sequence `f(x₀), fx[1], fx[2], …` never rises above `f(x₀)`, and the returned `*opt_fx ≤ f(x₀)`. -/
namespace EaselModel.Stats
open Num

/-- a line search in which `brent()` came back with a value above the middle point `bracket()` had handed over -/
def BrentLostBracketPoint (cfg : MinCfg ℝ) : Prop :=
  ∃ (fline : ℝ → ℝ) (f0 firststep : ℝ) (br : Bracket ℝ) (t v : ℝ),
    bracketCG cfg fline f0 firststep = some br ∧ brentCG cfg fline br.ax br.cx = some (t, v) ∧ br.fb < v

theorem cgLoop_descent (cfg : MinCfg ℝ) (f : Array ℝ → ℝ) (df : Option (Array ℝ → Array ℝ)) (F0 : ℝ)
    (k : Nat) (s : CGState ℝ) (fxc : ℝ) (st : St) (x : Array ℝ) (fx : ℝ) (hs : f s.x ≤ F0) (h0 : fxc ≤ F0)
    (h : (cgLoop cfg f df k s fxc).1 = .res st x fx) (hst : st = .ok ∨ st = .enohalt) : fx ≤ F0 ∨ BrentLostBracketPoint cfg := by
  -- a line minimum not above `bracket()`'s middle point is not above `F0`, and it is the objective at the new point
  have hline : ∀ (s : CGState ℝ) (br : Bracket ℝ) (t v : ℝ), f s.x ≤ F0 →
      bracketCG cfg (fun t => f (pointAt s.x s.cg t)) (f s.x) (firstStep cfg s.cg) = some br →
      brentCG cfg (fun t => f (pointAt s.x s.cg t)) br.ax br.cx = some (t, v) →
      (v ≤ F0 ∧ f (pointAt s.x s.cg t) ≤ F0) ∨ BrentLostBracketPoint cfg := by
    intro s br t v hs hbr hb
    by_cases hv : v ≤ br.fb
    · have hvF : v ≤ F0 := le_trans hv (le_trans (bracketCG_fb_le cfg _ _ _ br hbr) hs)
      exact Or.inl ⟨hvF, by rw [← (brentCG_descent cfg _ br.ax br.cx t v hb).1]; exact hvF⟩
    · exact Or.inr ⟨_, _, _, br, t, v, hbr, hb, not_le.1 hv⟩
  fun_induction cgLoop cfg f df k s fxc with
  | case1 => simp only [MinRes.res.injEq] at h; left; rw [← h.2.2]; exact h0
  | case2 | case4 => exact absurd h (MinRes.res_ne hst (by decide) (by decide))
  | case3 => cases h
  | case5 _ s _ _ _ br hbr t v hb | case6 _ s _ _ _ br hbr t v hb =>
    simp only [MinRes.res.injEq] at h
    exact (hline s br t v hs hbr hb).imp_left fun hv => by rw [← h.2.2]; exact hv.1
  | case7 _ s _ _ _ br hbr t v hb _ _ _ _ _ _ _ _ ih =>
    rcases hline s br t v hs hbr hb with hv | hl
    · exact ih hv.2 hv.1 h
    · exact Or.inr hl

/-- **Descent, or a `brent()` call that lost the bracket's middle point.** ℝ; every objective, gradient, configuration and start: when
    `esl_min_ConjugateGradientDescent` answers eslOK or eslENOHALT, either `*opt_fx ≤ f(x₀)`, or the run contains a line search whose
    `brent()` result is strictly worse than the `f(bx)` that `bracket()` returned for the same line. -/
theorem cgd_descent (cfg : MinCfg ℝ) (f : Array ℝ → ℝ) (df : Option (Array ℝ → Array ℝ)) (x0 : Array ℝ)
    (st : St) (x : Array ℝ) (fx : ℝ) (h : (cgd cfg f df x0).1 = .res st x fx) (hst : st = .ok ∨ st = .enohalt) :
    fx ≤ f x0 ∨ BrentLostBracketPoint cfg := by
  revert h
  fun_cases cgd cfg f df x0 with
  | case1 => intro h; exact absurd h (MinRes.res_ne hst (by decide) (by decide))
  | case2 => intro h; simp only [MinRes.res.injEq] at h; left; rw [← h.2.2]
  | case3 => intro h; exact cgLoop_descent cfg f df (f x0) _ _ _ st x fx (le_refl _) (le_refl _) h hst

end EaselModel.Stats
