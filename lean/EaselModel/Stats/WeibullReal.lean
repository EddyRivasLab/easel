import EaselModel.Stats.FitCG
import EaselModel.Stats.FitReal
/-! # The Weibull and gamma log-likelihoods over ℝ (C11)

`esl_wei_FitComplete` minimises `wei_func(p)`, `p = (w, v) = (log λ, log τ)`, with the location pinned to the smallest sample.
In the variables `(τ, θ = τ·log λ)` the Weibull log-likelihood is concave, so it lies below each of its tangent planes and a
stationary point is THE maximum. Nothing is claimed about rounding (L0). -/
namespace EaselModel.Stats
open Real

/-- log-density of the Weibull law at a sample with `l = log(x - μ)`, in `w = log λ` and `τ`:
    `log τ + τ w + (τ-1) l - exp(τ (w + l))`  (= `log τ + τ log λ + (τ-1) log(x-μ) - (λ(x-μ))^τ`) -/
noncomputable def weiTerm (w tau l : ℝ) : ℝ := Real.log tau + tau * w + (tau - 1) * l - Real.exp (tau * (w + l))

/-- Weibull log-likelihood of the samples with logs `ls` -/
noncomputable def llWei (ls : List ℝ) (w tau : ℝ) : ℝ := (ls.map (weiTerm w tau)).sum

/-- `∂/∂w` of `llWei` -/
noncomputable def llWeiDw (ls : List ℝ) (w tau : ℝ) : ℝ := (ls.map (fun l => tau - tau * Real.exp (tau * (w + l)))).sum
/-- `∂/∂τ` of `llWei` -/
noncomputable def llWeiDtau (ls : List ℝ) (w tau : ℝ) : ℝ := (ls.map (fun l => 1 / tau + w + l - (w + l) * Real.exp (tau * (w + l)))).sum
/-- the slopes of the tangent plane in the concave variables `(τ, θ = τ w)` -/
noncomputable def llWeiGtheta (ls : List ℝ) (w tau : ℝ) : ℝ := (ls.map (fun l => 1 - Real.exp (tau * (w + l)))).sum
noncomputable def llWeiGtau (ls : List ℝ) (w tau : ℝ) : ℝ := (ls.map (fun l => 1 / tau + l - l * Real.exp (tau * (w + l)))).sum

theorem weiTerm_hasDerivAt_w (w tau l : ℝ) :
    HasDerivAt (fun w => weiTerm w tau l) (tau - tau * Real.exp (tau * (w + l))) w := by
  unfold weiTerm
  have h3 : HasDerivAt (fun w : ℝ => Real.log tau + tau * w + (tau - 1) * l) tau w := by
    simpa using (((hasDerivAt_id w).const_mul tau).const_add (Real.log tau)).add_const ((tau - 1) * l)
  exact h3.sub (hasDerivAt_exp_pow_w tau w l)

theorem weiTerm_hasDerivAt_tau (w tau l : ℝ) (ht : 0 < tau) :
    HasDerivAt (fun t => weiTerm w t l) (1 / tau + w + l - (w + l) * Real.exp (tau * (w + l))) tau := by
  unfold weiTerm
  have h0 : HasDerivAt (fun t : ℝ => Real.log t) (1 / tau) tau := by simpa using Real.hasDerivAt_log (ne_of_gt ht)
  have h3 : HasDerivAt (fun t : ℝ => t * w) w tau := by simpa using (hasDerivAt_id tau).mul_const w
  have h4 : HasDerivAt (fun t : ℝ => (t - 1) * l) l tau := by simpa using ((hasDerivAt_id tau).sub_const 1).mul_const l
  exact (((h0.add h3).add h4).sub (hasDerivAt_exp_pow_tau tau w l)).congr_deriv (by ring)

/-- **`llWeiDw` and `llWeiDtau` ARE the partial derivatives of the Weibull log-likelihood** -/
theorem llWei_hasDerivAt_w (ls : List ℝ) (w tau : ℝ) : HasDerivAt (fun w => llWei ls w tau) (llWeiDw ls w tau) w :=
  hasDerivAt_list_sum ls (fun l w => weiTerm w tau l) _ w (fun l _ => weiTerm_hasDerivAt_w w tau l)

theorem llWei_hasDerivAt_tau (ls : List ℝ) (w tau : ℝ) (ht : 0 < tau) : HasDerivAt (fun t => llWei ls w t) (llWeiDtau ls w tau) tau :=
  hasDerivAt_list_sum ls (fun l t => weiTerm w t l) _ tau (fun l _ => weiTerm_hasDerivAt_tau w tau l ht)

/-- one sample: how far the log-density lies below its tangent plane in `(τ, θ = τ w)`: the gap of `log` to its tangent at `τ`
    plus the gap of `exp` to its tangent at `τ (w + l)` -/
theorem weiTerm_tangent_gap (w tau l w' tau' : ℝ) :
    weiTerm w tau l + (1 / tau + l - l * Real.exp (tau * (w + l))) * (tau' - tau)
      + (1 - Real.exp (tau * (w + l))) * (tau' * w' - tau * w) - weiTerm w' tau' l =
    (Real.log tau + (tau' - tau) / tau - Real.log tau') +
      (Real.exp (tau' * (w' + l)) - Real.exp (tau * (w + l)) * (1 + (tau' * (w' + l) - tau * (w + l)))) := by
  unfold weiTerm; ring

theorem weiTerm_below_tangent (w tau l w' tau' : ℝ) (ht : 0 < tau) (ht' : 0 < tau') :
    weiTerm w' tau' l ≤ weiTerm w tau l + (1 / tau + l - l * Real.exp (tau * (w + l))) * (tau' - tau)
      + (1 - Real.exp (tau * (w + l))) * (tau' * w' - tau * w) := by
  rw [← sub_nonneg, weiTerm_tangent_gap]
  exact add_nonneg (sub_nonneg.2 (log_le_tangent ht ht')) (sub_nonneg.2 (exp_ge_tangent _ _))

/-- **The Weibull log-likelihood lies below each of its tangent planes in `(τ, θ = τ·log λ)`** (it is jointly concave there), any data. -/
theorem llWei_below_tangent (ls : List ℝ) (w tau w' tau' : ℝ) (ht : 0 < tau) (ht' : 0 < tau') :
    llWei ls w' tau' ≤ llWei ls w tau + llWeiGtau ls w tau * (tau' - tau) + llWeiGtheta ls w tau * (tau' * w' - tau * w) := by
  unfold llWei llWeiGtau llWeiGtheta
  rw [← list_sum_affine]
  exact list_sum_le_of_forall ls _ _ (fun l _ => weiTerm_below_tangent w tau l w' tau' ht ht')

theorem llWei_slopes (ls : List ℝ) (w tau : ℝ) :
    llWeiDw ls w tau = tau * llWeiGtheta ls w tau ∧ llWeiDtau ls w tau = llWeiGtau ls w tau + w * llWeiGtheta ls w tau := by
  unfold llWeiDw llWeiDtau llWeiGtau llWeiGtheta
  induction ls with
  | nil => simp
  | cons l t ih =>
    simp only [List.map_cons, List.sum_cons]
    obtain ⟨i1, i2⟩ := ih
    constructor
    · rw [i1]; ring
    · rw [i2]; ring

/-- **A stationary point of the Weibull log-likelihood is its global maximiser** (any data, `τ > 0`): if both partial derivatives
    vanish at `(w, τ)` — in `(log λ, τ)` or, equivalently, in the optimiser's `(log λ, log τ)` — then `logL(w', τ') ≤ logL(w, τ)` for
    every `w'` and every `τ' > 0`. More generally the shortfall is bounded by the derivative: an a-posteriori optimality certificate. -/
theorem llWei_near_optimal (ls : List ℝ) (w tau w' tau' : ℝ) (ht : 0 < tau) (ht' : 0 < tau') :
    llWei ls w' tau' ≤ llWei ls w tau + (llWeiDtau ls w tau - w * (llWeiDw ls w tau / tau)) * (tau' - tau)
      + (llWeiDw ls w tau / tau) * (tau' * w' - tau * w) := by
  obtain ⟨e1, e2⟩ := llWei_slopes ls w tau
  have hG : llWeiGtheta ls w tau = llWeiDw ls w tau / tau := by rw [e1]; field_simp
  have hT : llWeiGtau ls w tau = llWeiDtau ls w tau - w * (llWeiDw ls w tau / tau) := by rw [e2, ← hG]; ring
  have := llWei_below_tangent ls w tau w' tau' ht ht'
  rw [hT, hG] at this
  exact this

theorem llWei_stationary_is_max (ls : List ℝ) (w tau : ℝ) (ht : 0 < tau) (hw : llWeiDw ls w tau = 0) (hτ : llWeiDtau ls w tau = 0)
    (w' tau' : ℝ) (ht' : 0 < tau') : llWei ls w' tau' ≤ llWei ls w tau := by
  have := llWei_near_optimal ls w tau w' tau' ht ht'
  rw [hw, hτ] at this
  simpa using this

/-- strict version: away from the tangency point one of the two gaps is positive -/
theorem weiTerm_below_tangent_strict (w tau l w' tau' : ℝ) (ht : 0 < tau) (ht' : 0 < tau') (hne : tau' ≠ tau ∨ w' ≠ w) :
    weiTerm w' tau' l < weiTerm w tau l + (1 / tau + l - l * Real.exp (tau * (w + l))) * (tau' - tau)
      + (1 - Real.exp (tau * (w + l))) * (tau' * w' - tau * w) := by
  rw [← sub_pos, weiTerm_tangent_gap]
  by_cases hτ : tau' = tau
  · have hd : tau' * (w' + l) ≠ tau * (w + l) := by
      rw [hτ]; exact fun h => hne.resolve_left (not_not.2 hτ) (add_right_cancel (mul_left_cancel₀ ht.ne' h))
    exact add_pos_of_nonneg_of_pos (sub_nonneg.2 (log_le_tangent ht ht')) (sub_pos.2 (exp_gt_tangent hd))
  · exact add_pos_of_pos_of_nonneg (sub_pos.2 (log_lt_tangent ht ht' hτ)) (sub_nonneg.2 (exp_ge_tangent _ _))

/-- **the Weibull maximiser is unique**: with at least one sample above `mu`, a stationary point beats EVERY other admissible point strictly -/
theorem llWei_stationary_unique (ls : List ℝ) (hls : ls ≠ []) (w tau : ℝ) (ht : 0 < tau) (hw : llWeiDw ls w tau = 0) (hτ : llWeiDtau ls w tau = 0)
    (w' tau' : ℝ) (ht' : 0 < tau') (hne : tau' ≠ tau ∨ w' ≠ w) : llWei ls w' tau' < llWei ls w tau := by
  obtain ⟨e1, e2⟩ := llWei_slopes ls w tau
  have hG : llWeiGtheta ls w tau = 0 := by
    rw [hw] at e1; rcases mul_eq_zero.1 e1.symm with h | h
    · exact absurd h (ne_of_gt ht)
    · exact h
  have hT : llWeiGtau ls w tau = 0 := by rw [hτ, hG] at e2; linarith
  have hlt : llWei ls w' tau' < llWei ls w tau + llWeiGtau ls w tau * (tau' - tau) + llWeiGtheta ls w tau * (tau' * w' - tau * w) := by
    unfold llWei llWeiGtau llWeiGtheta
    rw [← list_sum_affine]
    exact list_sum_lt_of_forall ls hls _ _ (fun l _ => weiTerm_below_tangent_strict w tau l w' tau' ht ht' hne)
  rw [hG, hT] at hlt
  simpa using hlt


/-- `esl_wei_logpdf(x, mu, exp w, τ)` for `x > mu` -/
theorem weiLogpdf_r (x mu w tau : ℝ) (hx : mu < x) :
    weiLogpdf x mu (Real.exp w) tau = weiTerm w tau (Real.log (x - mu)) := by
  unfold weiLogpdf weiTerm
  have h1 : Num.ltb x mu = false := by rw [Bool.eq_false_iff]; intro h; rw [ltb_r] at h; linarith
  have h2 : Num.eqb x mu = false := by rw [Bool.eq_false_iff]; intro h; rw [eqb_r] at h; linarith
  simp only [h1, h2, Bool.false_and, Bool.false_eq_true, if_false, log_r, exp_r, one_r]
  have hpos : 0 < x - mu := by linarith
  rw [Real.log_mul (ne_of_gt (Real.exp_pos w)) (ne_of_gt hpos), Real.log_exp]

/-- **`wei_func(p)` as a real function.** Data `≥ mu`, `τ = exp v ≠ 1` (the samples equal to `mu` are skipped — the code's own convention):
    the objective handed to the optimiser is minus the Weibull log-likelihood of the samples above `mu`, in `w = p[0] = log λ`, `τ = exp p[1]`. -/
theorem weiFunc_eq (xs : Array ℝ) (mu w v : ℝ) (hmu : ∀ x ∈ xs.toList, mu ≤ x) (hv : Real.exp v ≠ 1) :
    weiFunc xs mu #[w, v] = -(llWei ((xs.toList.filter (fun x => decide (x ≠ mu))).map (fun x => Real.log (x - mu))) w (Real.exp v)) := by
  unfold weiFunc llWei
  have h1 : Num.eqb (Real.exp v) (Num.one : ℝ) = false := by
    rw [Bool.eq_false_iff]; intro h; rw [eqb_r, one_r] at h; exact hv h
  have g0 : (#[w, v] : Array ℝ).getD 0 Num.zero = w := rfl
  have g1 : (#[w, v] : Array ℝ).getD 1 Num.zero = v := rfl
  simp only [g0, g1, exp_r, h1, Bool.not_false, Bool.true_and]
  congr 1
  -- the fold that skips the samples equal to `mu` adds `0` for them
  have hf : (fun (acc x : ℝ) => if Num.eqb x mu = true then acc else acc + weiLogpdf x mu (Real.exp w) (Real.exp v))
      = fun acc x => acc + (if x = mu then 0 else weiLogpdf x mu (Real.exp w) (Real.exp v)) := by
    funext acc x; by_cases h : x = mu <;> simp [h]
  rw [← Array.foldl_toList, zero_r, hf, foldl_add, zero_add, sum_map_skip, List.map_map]
  congr 1
  apply List.map_congr_left
  intro x hx
  obtain ⟨hx1, hx2⟩ := List.mem_filter.1 hx
  exact weiLogpdf_r x mu w (Real.exp v) (lt_of_le_of_ne (hmu x hx1) (Ne.symm (by simpa using hx2)))

/-- the parameters `esl_wei_FitComplete` / `esl_sxp_FitComplete` hand back are positive whatever the optimiser did: `λ = exp p[0]`, `τ = exp p[1]` -/
theorem fit2Result_pos (mu : ℝ) (r : MinRes ℝ × StopWhy) (st : St) (ps : Array ℝ) (h : fit2Result mu r = .res st ps) :
    ps.size = 3 ∧ ps.getD 0 0 = mu ∧ 0 < ps.getD 1 0 ∧ 0 < ps.getD 2 0 := by
  unfold fit2Result at h
  split at h
  · cases h
  · simp only [FitRes.res.injEq] at h
    rw [← h.2]
    refine ⟨rfl, rfl, ?_, ?_⟩
    · show 0 < Real.exp _; exact Real.exp_pos _
    · show 0 < Real.exp _; exact Real.exp_pos _


/-- per-sample gamma log-likelihood for known location: `τ log λ - logΓ(τ) + (τ-1)·mean(log(x-μ)) - λ·mean(x-μ)`; `lg` stands for `logΓ(τ)` -/
noncomputable def llGam1 (xbar logxbar lg lam tau : ℝ) : ℝ := tau * Real.log lam - lg + (tau - 1) * logxbar - lam * xbar

/-- **for every shape `τ > 0`, `λ = τ/x̄` is THE maximiser of the gamma log-likelihood in `λ`** (`x̄ = mean(x - μ) > 0`) -/
theorem gamma_rate_max (xbar logxbar lg tau lam : ℝ) (hx : 0 < xbar) (ht : 0 < tau) (hl : 0 < lam) :
    llGam1 xbar logxbar lg lam tau ≤ llGam1 xbar logxbar lg (tau / xbar) tau ∧
    (llGam1 xbar logxbar lg lam tau = llGam1 xbar logxbar lg (tau / xbar) tau → lam = tau / xbar) := by
  obtain ⟨h1, h2⟩ := exp_rate_max tau xbar lam ht hx hl
  have e : ∀ l, llGam1 xbar logxbar lg l tau = tau * Real.log l - l * xbar + ((tau - 1) * logxbar - lg) := fun l => by
    unfold llGam1; ring
  rw [e, e]
  exact ⟨add_le_add_left h1 _, fun h => h2 (add_right_cancel h)⟩

/-- `gam_nll(τ)` — the function whose decrease `gam_fitting_engine` tests — is minus that profile log-likelihood -/
theorem gamNll_is_profile (xbar logxbar tau : ℝ) (hx : 0 < xbar) (ht : 0 < tau) :
    gamNll xbar logxbar tau = some (-(llGam1 xbar logxbar (logGamma tau) (tau / xbar) tau)) := by
  unfold gamNll logGammaSt llGam1
  have h : Num.leb tau (Num.zero : ℝ) = false := by
    rw [Bool.eq_false_iff]; intro h; rw [leb_r, zero_r] at h; linarith
  simp only [h, Bool.false_eq_true, if_false, log_r, one_r]
  congr 2
  rw [Real.log_div (ne_of_gt ht) (ne_of_gt hx)]
  field_simp

end EaselModel.Stats
