import EaselModel.Stats.HistExpect
import EaselModel.Stats.HistLemmas
/-! # Expected counts and goodness of fit: memory safety and accounting (C11), every numeric class. Core Lean only. -/
namespace EaselModel.Stats
open Num
set_option linter.unusedSectionVars false
variable {α : Type} [Num α]


theorem setExpectLoop_size (h : Hist α) (cdf : α → α) : ∀ (k : Nat) (i : Int) (acc : Array α) (emin : Int),
    (setExpectLoop h cdf k i acc emin).1.size = acc.size + k := by
  intro k
  induction k with
  | zero => intro i acc emin; rfl
  | succ k ih => intro i acc emin; unfold setExpectLoop; simp only []; rw [ih]; simp only [Array.size_push]; omega

theorem setExpectLoop_emin (h : Hist α) (cdf : α → α) : ∀ (k : Nat) (i : Int) (acc : Array α) (emin : Int),
    let r := (setExpectLoop h cdf k i acc emin).2
    r = emin ∨ (emin = -1 ∧ i ≤ r ∧ r < i + k) := by
  intro k
  induction k with
  | zero => intro i acc emin; left; rfl
  | succ k ih =>
    intro i acc emin
    unfold setExpectLoop
    simp only []
    split
    · rename_i hc
      simp only [Bool.and_eq_true, beq_iff_eq] at hc
      rcases ih (i + 1) (acc.push _) i with e | ⟨e, _⟩
      · right; rw [e]; exact ⟨hc.1, Int.le_refl _, by omega⟩
      · right; rw [hc.1] at *; omega
    · rcases ih (i + 1) (acc.push _) emin with e | ⟨e1, e2, e3⟩
      · left; exact e
      · right; exact ⟨e1, by omega, by omega⟩

/-- **`esl_histogram_SetExpect` fills exactly `expect[0..nb-1]`** and leaves `emin` in `-1..nb-1` when it was the sentinel; the histogram
    is finished (`is_done`), nothing else changes. -/
theorem setExpect_spec (h : Hist α) (e : Expect α) (cdf : α → α) (hnb : 0 ≤ h.nb) :
    ∃ ex, (h.setExpect e cdf).2.expect = some ex ∧ (ex.size : Int) = h.nb ∧
      ((h.setExpect e cdf).2.emin = e.emin ∨ (e.emin = -1 ∧ 0 ≤ (h.setExpect e cdf).2.emin ∧ (h.setExpect e cdf).2.emin < h.nb)) ∧
      (h.setExpect e cdf).1 = { h with isDone := true } := by
  unfold Hist.setExpect
  refine ⟨_, rfl, ?_, ?_, rfl⟩
  · rw [setExpectLoop_size]; simp only [Array.size_empty, Nat.zero_add]; omega
  · rcases setExpectLoop_emin h cdf h.nb.toNat 0 #[] e.emin with e1 | ⟨e1, e2, e3⟩
    · left; exact e1
    · right
      refine ⟨e1, e2, ?_⟩
      show (setExpectLoop h cdf h.nb.toNat 0 #[] e.emin).2 < h.nb
      omega

/-- `esl_histogram_SetExpectedTail` in one equation: a refused `base_val` changes nothing; otherwise `emin` is a bin index clamped to `0..nb` -/
theorem setExpectedTail_eq (h : Hist α) (e : Expect α) (baseVal pmass : α) (cdf : α → α) (hnb : 0 ≤ h.nb) :
    h.setExpectedTail e baseVal pmass cdf = (.erange, h, e) ∨
    ∃ emin : Int, 0 ≤ emin ∧ emin ≤ h.nb ∧ h.setExpectedTail e baseVal pmass cdf = (.ok, { h with isDone := true },
      { expect := some ((Array.range h.nb.toNat).map fun (i : Nat) =>
          if (i : Int) < emin then zero else pmass * ofInt h.nc * (cdf (h.ubound (i : Int)) - cdf (h.lbound (i : Int)))),
        emin := emin, tailbase := baseVal, tailmass := pmass, isTailfit := true }) := by
  unfold Hist.setExpectedTail
  fun_cases Hist.score2bin h baseVal with
  | case1 | case2 => exact Or.inl rfl
  | case3 => -- `emin` is `0`, `nb`, or `b + 1` with `0 ≤ b < nb`
    refine Or.inr ⟨_, ?_, ?_, rfl⟩ <;> split <;> (try split) <;> omega

/-- **`esl_histogram_SetExpectedTail` (after 7d2bcba) keeps `emin` inside `0..nb` and fills exactly `expect[0..nb-1]`**, for EVERY `base_val`
    (below, inside or above the binned range), every mass, every cdf and every numeric class; bins below `emin` expect 0. A refused
    `base_val` (eslERANGE from `Score2Bin`) changes nothing. -/
theorem setExpectedTail_spec (h : Hist α) (e : Expect α) (baseVal pmass : α) (cdf : α → α) (hnb : 0 ≤ h.nb) :
    let r := h.setExpectedTail e baseVal pmass cdf
    (r.1 = .erange ∧ r.2.1 = h ∧ r.2.2 = e) ∨
    (r.1 = .ok ∧ 0 ≤ r.2.2.emin ∧ r.2.2.emin ≤ h.nb ∧ r.2.2.isTailfit = true ∧ r.2.1 = { h with isDone := true } ∧
      ∃ ex, r.2.2.expect = some ex ∧ (ex.size : Int) = h.nb ∧ ∀ i : Nat, (i : Int) < r.2.2.emin → ex[i]? = some zero) := by
  simp only []
  rcases setExpectedTail_eq h e baseVal pmass cdf hnb with eq | ⟨emin, h0, h1, eq⟩ <;> rw [eq]
  · exact Or.inl ⟨rfl, rfl, rfl⟩
  · refine Or.inr ⟨rfl, h0, h1, rfl, rfl, _, rfl, by simp only [Array.size_map, Array.size_range]; omega, fun i hi => ?_⟩
    have hlt : i < h.nb.toNat := by have : (i : Int) < emin := hi; omega
    rw [Array.getElem?_map, Array.getElem?_range]
    simp only [hlt, if_true, Option.map_some]
    rw [if_pos hi]


/-- observed counts held by a list of re-bins -/
def binsObs (bins : List (Nat × α)) : Nat := (bins.map (fun b => b.1)).sum

@[simp] theorem binsObs_nil : binsObs ([] : List (Nat × α)) = 0 := rfl
@[simp] theorem binsObs_cons (b : Nat × α) (t : List (Nat × α)) : binsObs (b :: t) = b.1 + binsObs t := by
  simp [binsObs]

theorem binsObs_reverse (l : List (Nat × α)) : binsObs l.reverse = binsObs l := by
  unfold binsObs; rw [List.map_reverse, List.sum_reverse]

theorem binsObs_ge (minc : Nat) (bins : List (Nat × α)) (hm : ∀ x ∈ bins, minc ≤ x.1) : minc * bins.length ≤ binsObs bins := by
  induction bins with
  | nil => simp
  | cons a t ih =>
    have h1 := hm a List.mem_cons_self
    have h2 := ih (fun x hx => hm x (List.mem_cons_of_mem _ hx))
    rw [binsObs_cons, List.length_cons, Nat.mul_succ]; omega

/-- the count loop of `esl_histogram_Goodness` is the scan of `esl_histogram_SetTail` -/
theorem goodnessCount_sumObs (obs : Array Nat) (k : Nat) (b : Int) (acc : Nat) : goodnessCount obs k b acc = sumObs obs b k acc := by
  induction k generalizing b acc with
  | zero => rfl
  | succ k ih => unfold goodnessCount sumObs; cases getObs obs b <;> simp only [ih]

theorem goodnessCount_eq (obs : Array Nat) (k : Nat) (b : Int) (acc : Nat) (h0 : 0 ≤ b) (h1 : b + k ≤ obs.size) :
    goodnessCount obs k b acc = .val (acc + binSum obs b k) := by
  rw [goodnessCount_sumObs]; exact sumObs_eq obs k b acc h0 h1

/-- **the sweep loses no count**: re-binned counts + leftovers = what was there before + the counts of the bins swept (the same bins
    `goodnessCount` adds up), and every re-bin holds at least `minc` counts. -/
theorem rebinLoop_spec (obs : Array Nat) (expect : Array α) (minc cap : Nat) :
    ∀ (k : Nat) (b : Int) (nobs : Nat) (nexp : α) (bins bins' : List (Nat × α)) (lobs : Nat) (lexp : α) (acc : Nat),
      (∀ x ∈ bins, minc ≤ x.1) →
      rebinLoop obs expect minc cap k b nobs nexp bins = .val (bins', lobs, lexp) →
      ∃ T, goodnessCount obs k b acc = .val T ∧ binsObs bins' + lobs + acc = binsObs bins + nobs + T ∧ (∀ x ∈ bins', minc ≤ x.1) := by
  intro k
  induction k with
  | zero =>
    intro b nobs nexp bins bins' lobs lexp acc hm h
    simp only [rebinLoop, Out.val.injEq, Prod.mk.injEq] at h
    obtain ⟨rfl, rfl, rfl⟩ := h
    exact ⟨acc, rfl, by omega, hm⟩
  | succ k ih =>
    intro b nobs nexp bins bins' lobs lexp acc hm h
    unfold rebinLoop at h
    unfold goodnessCount
    split at h
    · rename_i c ev hc hev
      rw [hc]
      simp only [] at h ⊢
      split at h
      · rename_i hge
        split at h
        · cases h
        · simp only [Bool.and_eq_true, decide_eq_true_eq] at hge
          obtain ⟨T, e1, e2, e3⟩ := ih (b + 1) 0 zero ((nobs + c, nexp + ev) :: bins) bins' lobs lexp (acc + c)
            (by intro x hx; rcases List.mem_cons.1 hx with rfl | hx; exact hge.1; exact hm x hx) h
          refine ⟨T, e1, ?_, e3⟩
          rw [binsObs_cons] at e2; simp only [] at e2; omega
      · obtain ⟨T, e1, e2, e3⟩ := ih (b + 1) (nobs + c) (nexp + ev) bins bins' lobs lexp (acc + c) hm h
        exact ⟨T, e1, by omega, e3⟩
    · cases h

/-- **the sweep never reads outside `obs[]`/`expect[]` and never writes outside its `cap` re-bins**, provided the bins swept lie inside the
    arrays and the counts held so far plus those still to be swept stay below `minc·cap` -/
theorem rebinLoop_no_fault (obs : Array Nat) (expect : Array α) (minc cap : Nat) (hsz : obs.size ≤ expect.size) :
    ∀ (k : Nat) (b : Int) (nobs : Nat) (nexp : α) (bins : List (Nat × α)), 0 ≤ b → b + k ≤ obs.size →
      (∀ x ∈ bins, minc ≤ x.1) → binsObs bins + nobs + binSum obs b k < minc * cap →
      rebinLoop obs expect minc cap k b nobs nexp bins ≠ .fault := by
  intro k
  induction k with
  | zero => intro b nobs nexp bins _ _ _ _ h; simp [rebinLoop] at h
  | succ k ih =>
    intro b nobs nexp bins h0 h1 hm hlt
    unfold rebinLoop getExp
    have hb' : 0 ≤ b ∧ b.toNat < expect.size := ⟨h0, by omega⟩
    rw [getObs_val obs b h0 (by omega)]
    simp only [hb', and_self, if_true]
    unfold binSum at hlt
    split
    · rename_i hge
      simp only [Bool.and_eq_true, decide_eq_true_eq] at hge
      split
      · -- a full set of `cap` re-bins holds at least `minc·cap` counts
        rename_i hcap
        have := binsObs_ge minc bins hm
        have : minc * cap ≤ minc * bins.length := Nat.mul_le_mul_left _ hcap
        omega
      · refine ih (b + 1) 0 zero _ (by omega) (by omega) ?_ (by rw [binsObs_cons]; simp only []; omega)
        intro x hx; rcases List.mem_cons.1 hx with rfl | hx; exact hge.1; exact hm x hx
    · exact ih (b + 1) _ _ bins (by omega) (by omega) hm (by omega)


theorem minc_cap (nobs d : Nat) (hd : 0 < d) : nobs < (1 + nobs / d) * (d + 1) := by
  have h1 : nobs < d * (nobs / d + 1) := Nat.lt_mul_div_succ nobs hd
  have h2 : d * (nobs / d + 1) ≤ (1 + nobs / d) * (d + 1) := by
    rw [Nat.mul_comm, Nat.add_comm (nobs / d) 1]; exact Nat.mul_le_mul_left _ (Nat.le_succ d)
  exact Nat.lt_of_lt_of_le h1 h2

/-- **`esl_histogram_Goodness` never reads outside `obs[]` / `expect[]` and never writes outside the `2·nb+1` re-bins it allocates**, every
    numeric class: on a well-formed histogram with `cmin ≥ 0` and `expect[]` as long as `obs[]`, the model's `.fault` can only come from the
    bin-number formula `2·(int) pow(nobs, 0.4)` being `≤ 0` for some `nobs ≥ 1` — impossible for a `pow` with `pow(n, 0.4) ≥ 1` (libm, ℝ). -/
theorem goodness_fault_only_from_pow (h : Hist α) (hwf : h.WF) (hidx : IdxOK h) (hc : 0 ≤ h.cmin) (e : Expect α)
    (hex : ∀ ex, e.expect = some ex → (ex.size : Int) = h.nb) (nfitted : Int) (hf : h.goodness e nfitted = .fault) :
    ∃ nobs : Nat, 0 < nobs ∧ 2 * toInt (pow (ofInt (nobs : Int)) (0.4 : α)) ≤ 0 := by
  have hb0 : 0 ≤ goodnessBase h e := by
    unfold goodnessBase; split
    · rename_i hh; simp only [Bool.and_eq_true, decide_eq_true_eq] at hh; omega
    · exact hc
  have himax := hidx.imax_lt hwf
  have hsz := hwf.size
  have hcount : ∃ T, goodnessCount h.obs (h.imax + 1 - goodnessBase h e).toNat (goodnessBase h e) 0 = .val T := by
    by_cases hk : (h.imax + 1 - goodnessBase h e).toNat = 0
    · rw [hk]; exact ⟨0, rfl⟩
    · exact ⟨_, goodnessCount_eq h.obs (h.imax + 1 - goodnessBase h e).toNat (goodnessBase h e) 0 hb0 (by omega)⟩
  revert hf
  fun_cases Hist.goodness h e nfitted with
  | case2 _ _ _ hT => -- the count loop reads inside `obs[]`
    intro _; obtain ⟨T, e1⟩ := hcount; exact absurd (hT.symm.trans e1) (by intro c; cases c)
  | case4 _ _ _ T _ hne _ hpow => -- the bin-number formula
    intro _; exact ⟨T, by simp only [beq_iff_eq] at hne; omega, hpow⟩
  | case5 expect hexp _ T hT hne _ hpow _ hrb => -- the re-binning sweep stays inside `obs[]`, `expect[]` and its `2·nb+1` re-bins
    intro _
    exfalso
    -- in the terms of `goodnessBase`, which the `let` of the case hides from `omega`
    have hT' : goodnessCount h.obs (h.imax + 1 - goodnessBase h e).toNat (goodnessBase h e) 0 = .val T := hT
    have hk : (h.imax + 1 - goodnessBase h e).toNat ≠ 0 := by
      intro hk
      rw [hk] at hT'
      simp only [goodnessCount, Out.val.injEq] at hT'; simp only [beq_iff_eq] at hne; omega
    have hd : 0 < 2 * (2 * toInt (pow (ofInt (T : Int)) (0.4 : α))).toNat := by
      have : ¬ 2 * toInt (pow (ofInt (T : Int)) (0.4 : α)) ≤ 0 := hpow
      omega
    have hex' := hex expect hexp
    have eT := hT'.symm.trans (goodnessCount_eq h.obs _ _ 0 hb0 (by omega))
    simp only [Out.val.injEq, Nat.zero_add] at eT
    exact rebinLoop_no_fault h.obs expect _ _ (by omega) (h.imax + 1 - goodnessBase h e).toNat (goodnessBase h e) 0 zero [] hb0 (by omega)
      (by intro x hx; cases hx) (by simp only [binsObs_nil, Nat.zero_add, Nat.add_zero]; rw [← eT]; exact minc_cap T _ hd) hrb
  | _ => intro hf; cases hf

theorem goodnessStats_ok (bins : List (Nat × α)) (nfitted : Int) (h : (goodnessStats bins nfitted).st = .ok) :
    (goodnessStats bins nfitted).nbins = bins.length ∧ 0 < (bins.length : Int) - nfitted - 1 := by
  revert h
  fun_cases goodnessStats bins nfitted with
  | case1 => intro h; cases h
  | case2 _ _ _ _ h1 | case3 _ _ _ _ _ _ _ h1 => -- a failing chi-squared test hands its own status on, which is not eslOK
    intro h; exact absurd h (by simpa [Goodness.fail] using h1)
  | case4 _ hdf => intro _; exact ⟨rfl, by omega⟩

/-- **`esl_histogram_Goodness` accounts for every count in the range it evaluates**: whenever it gets as far as re-binning, the observed
    counts of the re-bins add up to `Σ obs[bbase..imax]` (the `nobs` of its first loop); eslOK ⇒ `*ret_nbins` is the number of re-bins and
    leaves at least one degree of freedom. -/
theorem goodness_accounts (h : Hist α) (e : Expect α) (nfitted : Int) (g : Goodness α) (bins : List (Nat × α))
    (hg : h.goodness e nfitted = .val (g, bins)) (hne : bins ≠ []) :
    goodnessCount h.obs (h.imax + 1 - goodnessBase h e).toNat (goodnessBase h e) 0 = .val (binsObs bins) ∧
    (g.st = .ok → g.nbins = bins.length ∧ 0 < g.nbins - nfitted - 1) := by
  revert hg
  fun_cases Hist.goodness h e nfitted with
  | case2 | case4 | case5 => intro hg; cases hg
  | case1 | case3 | case6 => -- no expectation, no count, no re-bin: an empty list of re-bins
    intro hg; cases hg; exact absurd rfl hne
  | case7 _ _ _ nobs hT _ _ _ _ lobs lexp o x rest _ hrb =>
    intro hg; injection hg with hg; injection hg with hg1 hg2; subst hg1 hg2
    obtain ⟨T, e1, e2, _⟩ := rebinLoop_spec h.obs _ _ _ _ _ 0 zero [] _ lobs lexp 0 (by intro x hx; cases hx) hrb
    rw [hT] at e1; cases e1
    have hsum : binsObs (((o + lobs, x + lexp) :: rest).reverse) = nobs := by
      rw [binsObs_reverse, binsObs_cons]; rw [binsObs_cons] at e2; simp only [binsObs_nil] at e2 ⊢; omega
    rw [hsum]
    refine ⟨hT, fun hok => ?_⟩
    obtain ⟨a, b⟩ := goodnessStats_ok _ nfitted hok
    exact ⟨a, by rw [a]; exact b⟩


theorem qqRows_ok (obs : Array Nat) : ∀ (k : Nat) (i : Int) (s : Nat) (acc : List (Int × Nat)), 0 ≤ i → i + k ≤ obs.size →
    ∃ rows, qqRows obs k i s acc = .val rows ∧ rows.length = acc.length + k := by
  intro k
  induction k with
  | zero => intro i s acc _ _; exact ⟨acc.reverse, rfl, by simp⟩
  | succ k ih =>
    intro i s acc h0 h1
    unfold qqRows getObs
    have hb : 0 ≤ i ∧ i.toNat < obs.size := ⟨h0, by omega⟩
    simp only [hb, and_self, if_true]
    obtain ⟨rows, e, hl⟩ := ih (i + 1) (s + obs.getD i.toNat 0) ((i, s + obs.getD i.toNat 0) :: acc) (by omega) (by omega)
    exact ⟨rows, e, by rw [hl, List.length_cons]; omega⟩

/-- **`esl_histogram_PlotQQ` reads only inside `obs[]`** and prints one row per bin `bbase..imax-1` (every numeric class): well-formed histogram,
    `0 ≤ cmin`, and — for a tail fit — `emin ≤ nb` (what `SetExpectedTail` guarantees since 7d2bcba) -/
theorem plotQQ_ok (h : Hist α) (hwf : h.WF) (hidx : IdxOK h) (hc : 0 ≤ h.cmin) (hcn : h.cmin ≤ h.nb) (e : Expect α) (he : e.emin ≤ h.nb) :
    ∃ rows, h.plotQQ e = .val rows ∧ rows.length = (h.imax - goodnessBase h e).toNat := by
  unfold Hist.plotQQ
  simp only []
  have hsz := hwf.size
  have hb0 : h.cmin ≤ goodnessBase h e ∧ goodnessBase h e ≤ h.nb := by
    unfold goodnessBase
    split
    · rename_i hh; simp only [Bool.and_eq_true, decide_eq_true_eq] at hh; omega
    · omega
  have himax := hidx.imax_lt hwf
  rw [goodnessCount_eq h.obs (goodnessBase h e - h.cmin).toNat h.cmin _ hc (by omega)]
  simp only []
  obtain ⟨rows, e2, hl⟩ := qqRows_ok h.obs (h.imax - goodnessBase h e).toNat (goodnessBase h e) _ [] (by omega) (by omega)
  exact ⟨rows, e2, by simpa using hl⟩

end EaselModel.Stats
