import EaselModel.Stats.FitGev
import EaselModel.Stats.FitReal
/-! # The generalized-extreme-value objective and its gradient over ℝ (C11)

`esl_gev_FitComplete` hands `gev_func` and the analytic `gev_gradient` to the conjugate-gradient optimiser, in `p = (μ, w = log λ, α)`.
Over ℝ (`log1p x = log(1+x)`), on complete data all of whose samples lie in the main branch of `esl_gev_logpdf` (`|αy| ≥ 1e-12`,
`1 + αy > 0`, `y = λ(x-μ)`):
* `gev_func` is minus the GEV log-likelihood `Σ [log λ - (1+1/α)·log(1+αy) - (1+αy)^(-1/α)]` (`gevFunc_eq`);
* the three components of `gev_gradient` are exactly the partial derivatives of that objective (`gevGrad_eq`, `gevNll_hasDerivAt_*`).
Nothing is claimed about rounding (L0), nor about the shape (concavity) of the GEV likelihood. -/
namespace EaselModel.Stats
open Real

noncomputable instance : Log1p ℝ := ⟨fun x => Real.log (1 + x)⟩
@[simp] theorem log1p_r (x : ℝ) : (Log1p.log1p x : ℝ) = Real.log (1 + x) := rfl

/-- `1 + α·λ(x-μ)`, `λ = e^w` -/
noncomputable def gevU (x mu w a : ℝ) : ℝ := 1 + a * (Real.exp w * (x - mu))

/-- GEV log-density of one sample in `(μ, w = log λ, α)`: `w - (1+1/α)·log u - exp(-log u/α)`, `u = 1 + αλ(x-μ)`
    (`exp(-log u/α) = u^(-1/α)`) -/
noncomputable def gevTerm (x mu w a : ℝ) : ℝ :=
  w - (1 + 1 / a) * Real.log (gevU x mu w a) - Real.exp (-Real.log (gevU x mu w a) / a)

/-- the GEV negative log-likelihood of complete data -/
noncomputable def gevNll (xs : List ℝ) (mu w a : ℝ) : ℝ := -(xs.map (fun x => gevTerm x mu w a)).sum

/-- per-sample partial derivatives of `gevTerm`, written as `gev_gradient` accumulates them -/
noncomputable def gevTermDmu (x mu w a : ℝ) : ℝ :=
  Real.exp w * ((a + 1) / gevU x mu w a - Real.exp (-(1 + 1 / a) * Real.log (gevU x mu w a)))
noncomputable def gevTermDw (x mu w a : ℝ) : ℝ :=
  1 - Real.exp w * (x - mu) * (1 + a) / gevU x mu w a
    + Real.exp w * (x - mu) * Real.exp (-(1 + 1 / a) * Real.log (gevU x mu w a))
noncomputable def gevTermDa (x mu w a : ℝ) : ℝ :=
  -((1 + 1 / a) * (Real.exp w * (x - mu)) / gevU x mu w a) + Real.log (gevU x mu w a) / (a * a)
    + Real.exp w * (x - mu) * Real.exp (-Real.log (gevU x mu w a) / a) / (a * gevU x mu w a)
    - Real.log (gevU x mu w a) * Real.exp (-Real.log (gevU x mu w a) / a) / (a * a)

theorem exp_gev_split (u a : ℝ) (hu : 0 < u) (ha : a ≠ 0) :
    Real.exp (-(1 + 1 / a) * Real.log u) = Real.exp (-Real.log u / a) / u := by
  have : -(1 + 1 / a) * Real.log u = -Real.log u / a + -Real.log u := by field_simp; ring
  rw [this, Real.exp_add, Real.exp_neg, Real.exp_log hu]; rfl

theorem gevU_hasDerivAt_mu (x mu w a : ℝ) : HasDerivAt (fun m => gevU x m w a) (-(a * Real.exp w)) mu := by
  unfold gevU
  have h0 : HasDerivAt (fun m : ℝ => x - m) (-1) mu := by simpa using (hasDerivAt_id mu).const_sub x
  exact (((h0.const_mul (Real.exp w)).const_mul a).const_add 1).congr_deriv (by ring)

theorem gevU_hasDerivAt_w (x mu w a : ℝ) : HasDerivAt (fun v => gevU x mu v a) (a * (Real.exp w * (x - mu))) w := by
  unfold gevU
  exact (((Real.hasDerivAt_exp w).mul_const (x - mu)).const_mul a).const_add 1

theorem gevU_hasDerivAt_a (x mu w a : ℝ) : HasDerivAt (fun b => gevU x mu w b) (Real.exp w * (x - mu)) a := by
  unfold gevU
  simpa using ((hasDerivAt_id a).mul_const (Real.exp w * (x - mu))).const_add 1

/-- `b ↦ -log u(b)/b`, the exponent of `u^(-1/α)` as a function of `α` -/
theorem gevExponent_hasDerivAt_a (x mu w a : ℝ) (ha : a ≠ 0) (hpos : 0 < gevU x mu w a) :
    HasDerivAt (fun b => -Real.log (gevU x mu w b) / b)
      ((-(Real.exp w * (x - mu) / gevU x mu w a) * a - -Real.log (gevU x mu w a) * 1) / a ^ 2) a :=
  (((gevU_hasDerivAt_a x mu w a).log (ne_of_gt hpos)).neg).div (hasDerivAt_id a) ha

theorem gev_core_hasDerivAt (u : ℝ → ℝ) (u' t a : ℝ) (hu : HasDerivAt u u' t) (hpos : 0 < u t) :
    HasDerivAt (fun s => -((1 + 1 / a) * Real.log (u s)) - Real.exp (-Real.log (u s) / a))
      (-((1 + 1 / a) * (u' / u t)) - Real.exp (-Real.log (u t) / a) * (-(u' / u t) / a)) t := by
  have hL : HasDerivAt (fun s => Real.log (u s)) (u' / u t) t := hu.log (ne_of_gt hpos)
  have h1 : HasDerivAt (fun s => (1 + 1 / a) * Real.log (u s)) ((1 + 1 / a) * (u' / u t)) t := hL.const_mul _
  have h2 : HasDerivAt (fun s => -Real.log (u s) / a) (-(u' / u t) / a) t := (hL.neg).div_const a
  exact h1.neg.sub h2.exp

theorem gevTerm_hasDerivAt_mu (x mu w a : ℝ) (ha : a ≠ 0) (hpos : 0 < gevU x mu w a) :
    HasDerivAt (fun m => gevTerm x m w a) (gevTermDmu x mu w a) mu := by
  have hc := gev_core_hasDerivAt (fun m => gevU x m w a) _ mu a (gevU_hasDerivAt_mu x mu w a) hpos
  have hw : HasDerivAt (fun _ : ℝ => w) 0 mu := hasDerivAt_const mu w
  have := hw.add hc
  unfold gevTerm
  refine (this.congr_of_eventuallyEq (Filter.Eventually.of_forall (fun m => by simp only [Pi.add_apply]; ring))).congr_deriv ?_
  unfold gevTermDmu
  rw [exp_gev_split _ a hpos ha]
  field_simp
  ring

theorem gevTerm_hasDerivAt_w (x mu w a : ℝ) (ha : a ≠ 0) (hpos : 0 < gevU x mu w a) :
    HasDerivAt (fun v => gevTerm x mu v a) (gevTermDw x mu w a) w := by
  have hc := gev_core_hasDerivAt (fun v => gevU x mu v a) _ w a (gevU_hasDerivAt_w x mu w a) hpos
  have hw : HasDerivAt (fun v : ℝ => v) 1 w := hasDerivAt_id w
  have := hw.add hc
  unfold gevTerm
  refine (this.congr_of_eventuallyEq (Filter.Eventually.of_forall (fun m => by simp only [Pi.add_apply]; ring))).congr_deriv ?_
  unfold gevTermDw
  rw [exp_gev_split _ a hpos ha]
  field_simp
  ring

theorem gevTerm_hasDerivAt_a (x mu w a : ℝ) (ha : a ≠ 0) (hpos : 0 < gevU x mu w a) :
    HasDerivAt (fun b => gevTerm x mu w b) (gevTermDa x mu w a) a := by
  have hL := (gevU_hasDerivAt_a x mu w a).log (ne_of_gt hpos)
  have hinv : HasDerivAt (fun b : ℝ => 1 + 1 / b) (-(1 / (a * a))) a := (hasDerivAt_one_div ha).const_add 1
  have := ((hasDerivAt_const a w).sub (hinv.mul hL)).sub (gevExponent_hasDerivAt_a x mu w a ha hpos).exp
  unfold gevTerm
  refine this.congr_deriv ?_
  unfold gevTermDa
  set y := Real.exp w * (x - mu)
  field_simp
  ring

/-- the three partial derivatives of the GEV negative log-likelihood (complete data, every sample with `1 + αλ(x-μ) > 0`, `α ≠ 0`) -/
theorem gevNll_hasDerivAt_mu (xs : List ℝ) (mu w a : ℝ) (ha : a ≠ 0) (hpos : ∀ x ∈ xs, 0 < gevU x mu w a) :
    HasDerivAt (fun m => gevNll xs m w a) (-(xs.map (fun x => gevTermDmu x mu w a)).sum) mu :=
  (hasDerivAt_list_sum xs (fun x m => gevTerm x m w a) _ mu (fun x hx => gevTerm_hasDerivAt_mu x mu w a ha (hpos x hx))).neg

theorem gevNll_hasDerivAt_w (xs : List ℝ) (mu w a : ℝ) (ha : a ≠ 0) (hpos : ∀ x ∈ xs, 0 < gevU x mu w a) :
    HasDerivAt (fun v => gevNll xs mu v a) (-(xs.map (fun x => gevTermDw x mu w a)).sum) w :=
  (hasDerivAt_list_sum xs (fun x v => gevTerm x mu v a) _ w (fun x hx => gevTerm_hasDerivAt_w x mu w a ha (hpos x hx))).neg

theorem gevNll_hasDerivAt_a (xs : List ℝ) (mu w a : ℝ) (ha : a ≠ 0) (hpos : ∀ x ∈ xs, 0 < gevU x mu w a) :
    HasDerivAt (fun b => gevNll xs mu w b) (-(xs.map (fun x => gevTermDa x mu w a)).sum) a :=
  (hasDerivAt_list_sum xs (fun x b => gevTerm x mu w b) _ a (fun x hx => gevTerm_hasDerivAt_a x mu w a ha (hpos x hx))).neg


/-- a sample in the main branch of `esl_gev_logpdf` / `gev_gradient`: not the `|αy| < 1e-12` Gumbel shortcut, inside the support -/
def GevMain (x mu w a : ℝ) : Prop := ¬ |a * (Real.exp w * (x - mu))| < (1e-12 : ℝ) ∧ 0 < gevU x mu w a

/-- `esl_gev_logpdf(x, mu, exp w, α)` in the main branch is the GEV log-density -/
theorem gevLogpdf_r (x mu w a : ℝ) (h : GevMain x mu w a) : gevLogpdf x mu (Real.exp w) a = gevTerm x mu w a := by
  obtain ⟨h1, h2⟩ := h
  unfold gevLogpdf gevTerm
  unfold gevU at h2 ⊢
  have c1 : ¬ |Real.exp w * (x - mu) * a| < (1e-12 : ℝ) := by rw [mul_comm]; exact h1
  have c2 : ¬ (1 + a * (Real.exp w * (x - mu)) ≤ 0) := not_le.2 h2
  simp only [exp_r, log_r, abs_r, ltb_r, leb_r, one_r, zero_r, log1p_r, Real.log_exp]
  rw [if_neg c1, if_neg c2]

/-- **`gev_func` over ℝ** (complete data, every sample in the main branch): the GEV negative log-likelihood in `(μ, w = log λ, α)` -/
theorem gevFunc_eq (xs : Array ℝ) (mu w a : ℝ) (h : ∀ x ∈ xs.toList, GevMain x mu w a) :
    gevFunc xs none #[mu, w, a] = gevNll xs.toList mu w a := by
  unfold gevFunc gevNll
  have g0 : (#[mu, w, a] : Array ℝ).getD 0 Num.zero = mu := rfl
  have g1 : (#[mu, w, a] : Array ℝ).getD 1 Num.zero = w := rfl
  have g2 : (#[mu, w, a] : Array ℝ).getD 2 Num.zero = a := rfl
  simp only [g0, g1, g2]
  simp only [exp_r, zero_r]
  rw [← Array.foldl_toList, foldl_add, zero_add]
  congr 2
  apply List.map_congr_left
  intro x hx
  exact gevLogpdf_r x mu w a (h x hx)

theorem gevGradStep_r (x mu w a d1 d2 d3 : ℝ) (h : GevMain x mu w a) :
    gevGradStep mu (Real.exp w) a (d1, d2, d3) x
      = (d1 + ((a + 1) / gevU x mu w a - Real.exp (-(1 + 1 / a) * Real.log (gevU x mu w a))),
         d2 + (gevTermDw x mu w a - 1),
         d3 + gevTermDa x mu w a) := by
  obtain ⟨h1, _⟩ := h
  unfold gevGradStep gevTermDw gevTermDa gevU
  simp only [exp_r, log_r, abs_r, ltb_r, one_r]
  simp only [if_neg h1]
  refine Prod.ext ?_ (Prod.ext ?_ ?_)
  · ring
  · ring
  · ring

theorem gevGradFold_r (mu w a : ℝ) : ∀ (l : List ℝ) (d1 d2 d3 : ℝ), (∀ x ∈ l, GevMain x mu w a) →
    l.foldl (gevGradStep mu (Real.exp w) a) (d1, d2, d3)
      = (d1 + (l.map (fun x => (a + 1) / gevU x mu w a - Real.exp (-(1 + 1 / a) * Real.log (gevU x mu w a)))).sum,
         d2 + (l.map (fun x => gevTermDw x mu w a - 1)).sum,
         d3 + (l.map (fun x => gevTermDa x mu w a)).sum) := by
  intro l
  induction l with
  | nil => intro d1 d2 d3 _; simp
  | cons x t ih =>
    intro d1 d2 d3 h
    simp only [List.foldl_cons, List.map_cons, List.sum_cons]
    rw [gevGradStep_r x mu w a d1 d2 d3 (h x List.mem_cons_self), ih _ _ _ (fun y hy => h y (List.mem_cons_of_mem _ hy))]
    refine Prod.ext ?_ (Prod.ext ?_ ?_) <;> simp only [] <;> ring

theorem sum_sub_one (l : List ℝ) (f : ℝ → ℝ) : (l.map (fun x => f x - 1)).sum = (l.map f).sum - (l.length : ℝ) := by
  induction l with
  | nil => simp
  | cons x t ih => simp only [List.map_cons, List.sum_cons, List.length_cons, ih]; push_cast; ring

/-- **`gev_gradient` over ℝ** (complete data, every sample in the main branch): its three components are the sums of the per-sample partial
    derivatives, negated — by `gevNll_hasDerivAt_mu/_w/_a` exactly the partial derivatives of `gev_func` -/
theorem gevGrad_eq (xs : Array ℝ) (mu w a : ℝ) (h : ∀ x ∈ xs.toList, GevMain x mu w a) :
    gevGrad xs none #[mu, w, a]
      = #[-(xs.toList.map (fun x => gevTermDmu x mu w a)).sum, -(xs.toList.map (fun x => gevTermDw x mu w a)).sum,
          -(xs.toList.map (fun x => gevTermDa x mu w a)).sum] := by
  unfold gevGrad
  have g0 : (#[mu, w, a] : Array ℝ).getD 0 Num.zero = mu := rfl
  have g1 : (#[mu, w, a] : Array ℝ).getD 1 Num.zero = w := rfl
  have g2 : (#[mu, w, a] : Array ℝ).getD 2 Num.zero = a := rfl
  simp only [g0, g1, g2]
  simp only [exp_r, zero_r, size_r]
  rw [← Array.foldl_toList, gevGradFold_r mu w a xs.toList _ _ _ h]
  simp only []
  have key : ∀ p q r p' q' r' : ℝ, p = p' → q = q' → r = r' → (#[p, q, r] : Array ℝ) = #[p', q', r'] := by
    intro p q r p' q' r' e1 e2 e3; rw [e1, e2, e3]
  apply key
  · unfold gevTermDmu; rw [List.sum_map_mul_left]; ring
  · rw [sum_sub_one]; ring
  · ring

/-- `esl_gev_logcdf(φ, mu, exp w, α)` in the main branch: `-(1 + αλ(φ-μ))^(-1/α)` -/
theorem gevLogcdf_r (phi mu w a : ℝ) (h : GevMain phi mu w a) :
    gevLogcdf phi mu (Real.exp w) a = -Real.exp (-Real.log (gevU phi mu w a) / a) := by
  obtain ⟨h1, h2⟩ := h
  unfold gevLogcdf
  unfold gevU at h2 ⊢
  have c1 : ¬ |Real.exp w * (phi - mu) * a| < (1e-12 : ℝ) := by rw [mul_comm]; exact h1
  have c2 : ¬ (1 + a * (Real.exp w * (phi - mu)) ≤ 0) := not_le.2 h2
  simp only [exp_r, abs_r, ltb_r, leb_r, one_r, zero_r, log1p_r]
  rw [if_neg c1, if_neg c2]

/-- **`gev_func` on censored data over ℝ** (`z` values censored at `φ`; samples and `φ` in the main branch): the complete-data negative
    log-likelihood minus `z·log F(φ)`, `log F(φ) = -(1 + αλ(φ-μ))^(-1/α)` — the likelihood of "`z` more observations `≤ φ`" -/
theorem gevFunc_censored_eq (xs : Array ℝ) (z : Int) (phi mu w a : ℝ) (h : ∀ x ∈ xs.toList, GevMain x mu w a) (hphi : GevMain phi mu w a) :
    gevFunc xs (some (z, phi)) #[mu, w, a] = gevNll xs.toList mu w a - (z : ℝ) * -Real.exp (-Real.log (gevU phi mu w a) / a) := by
  have hc := gevFunc_eq xs mu w a h
  unfold gevFunc at hc ⊢
  have g0 : (#[mu, w, a] : Array ℝ).getD 0 Num.zero = mu := rfl
  have g1 : (#[mu, w, a] : Array ℝ).getD 1 Num.zero = w := rfl
  have g2 : (#[mu, w, a] : Array ℝ).getD 2 Num.zero = a := rfl
  simp only [g0, g1, g2] at hc ⊢
  simp only [exp_r, ofInt_r] at hc ⊢
  rw [gevLogcdf_r phi mu w a hphi, ← hc]
  ring

/-- whatever the optimiser did, the scale `esl_gev_FitComplete` / `esl_gev_FitCensored` hand back is positive: `λ = exp p[1]` (ℝ) -/
theorem gevFit_scale_pos (xs : Array ℝ) (cens : Option (Int × ℝ)) (st : St) (ps : Array ℝ) (h : gevFittingEngine xs cens = .res st ps) :
    0 < ps.getD 1 0 := by
  unfold gevFittingEngine at h
  split at h
  · cases h
  · simp only [FitRes.res.injEq] at h
    rw [← h.2]
    show 0 < Real.exp _
    exact Real.exp_pos _


/-- `log F(φ)` of the GEV law, main branch: `-(1 + αλ(φ-μ))^(-1/α)` -/
noncomputable def gevLogF (phi mu w a : ℝ) : ℝ := -Real.exp (-Real.log (gevU phi mu w a) / a)

/-- its partial derivatives, as `gev_gradient` writes them -/
noncomputable def gevLogFDmu (phi mu w a : ℝ) : ℝ := -(Real.exp w * Real.exp (-Real.log (gevU phi mu w a) / a) / gevU phi mu w a)
noncomputable def gevLogFDw (phi mu w a : ℝ) : ℝ := Real.exp w * (phi - mu) * Real.exp (-Real.log (gevU phi mu w a) / a) / gevU phi mu w a
noncomputable def gevLogFDa (phi mu w a : ℝ) : ℝ :=
  -(Real.exp (-Real.log (gevU phi mu w a) / a) * (Real.log (gevU phi mu w a) / (a * a) - Real.exp w * (phi - mu) / (a * gevU phi mu w a)))

theorem gev_logF_core (u : ℝ → ℝ) (u' t a : ℝ) (hu : HasDerivAt u u' t) (hpos : 0 < u t) :
    HasDerivAt (fun s => -Real.exp (-Real.log (u s) / a)) (-(Real.exp (-Real.log (u t) / a) * (-(u' / u t) / a))) t := by
  have hL : HasDerivAt (fun s => Real.log (u s)) (u' / u t) t := hu.log (ne_of_gt hpos)
  exact (((hL.neg).div_const a).exp).neg

theorem gevLogF_hasDerivAt_mu (phi mu w a : ℝ) (ha : a ≠ 0) (hpos : 0 < gevU phi mu w a) :
    HasDerivAt (fun m => gevLogF phi m w a) (gevLogFDmu phi mu w a) mu := by
  refine (gev_logF_core (fun m => gevU phi m w a) _ mu a (gevU_hasDerivAt_mu phi mu w a) hpos).congr_deriv ?_
  unfold gevLogFDmu
  field_simp

theorem gevLogF_hasDerivAt_w (phi mu w a : ℝ) (ha : a ≠ 0) (hpos : 0 < gevU phi mu w a) :
    HasDerivAt (fun v => gevLogF phi mu v a) (gevLogFDw phi mu w a) w := by
  refine (gev_logF_core (fun v => gevU phi mu v a) _ w a (gevU_hasDerivAt_w phi mu w a) hpos).congr_deriv ?_
  unfold gevLogFDw
  field_simp

theorem gevLogF_hasDerivAt_a (phi mu w a : ℝ) (ha : a ≠ 0) (hpos : 0 < gevU phi mu w a) :
    HasDerivAt (fun b => gevLogF phi mu w b) (gevLogFDa phi mu w a) a := by
  refine ((gevExponent_hasDerivAt_a phi mu w a ha hpos).exp.neg).congr_deriv ?_
  unfold gevLogFDa
  set y := Real.exp w * (phi - mu)
  field_simp
  ring

/-- **`gev_gradient` on censored data over ℝ** (samples and `φ` in the main branch): the complete-data components plus `z` times the partial
    derivatives of `log F(φ)`, negated -/
theorem gevGrad_censored_eq (xs : Array ℝ) (z : Int) (phi mu w a : ℝ) (h : ∀ x ∈ xs.toList, GevMain x mu w a) (hphi : GevMain phi mu w a) :
    gevGrad xs (some (z, phi)) #[mu, w, a]
      = #[-((xs.toList.map (fun x => gevTermDmu x mu w a)).sum + (z : ℝ) * gevLogFDmu phi mu w a),
          -((xs.toList.map (fun x => gevTermDw x mu w a)).sum + (z : ℝ) * gevLogFDw phi mu w a),
          -((xs.toList.map (fun x => gevTermDa x mu w a)).sum + (z : ℝ) * gevLogFDa phi mu w a)] := by
  obtain ⟨h1, _⟩ := hphi
  unfold gevGrad
  have g0 : (#[mu, w, a] : Array ℝ).getD 0 Num.zero = mu := rfl
  have g1 : (#[mu, w, a] : Array ℝ).getD 1 Num.zero = w := rfl
  have g2 : (#[mu, w, a] : Array ℝ).getD 2 Num.zero = a := rfl
  simp only [g0, g1, g2]
  simp only [size_r]
  simp only [exp_r, zero_r, log_r, abs_r, ltb_r, one_r, ofInt_r]
  rw [← Array.foldl_toList, gevGradFold_r mu w a xs.toList _ _ _ h]
  simp only [if_neg h1]
  have key : ∀ p q r p' q' r' : ℝ, p = p' → q = q' → r = r' → (#[p, q, r] : Array ℝ) = #[p', q', r'] := by
    intro p q r p' q' r' e1 e2 e3; rw [e1, e2, e3]
  apply key
  · unfold gevTermDmu gevLogFDmu gevU; rw [List.sum_map_mul_left]; ring
  · unfold gevLogFDw gevU; rw [sum_sub_one]; ring
  · unfold gevLogFDa gevU; ring

end EaselModel.Stats
