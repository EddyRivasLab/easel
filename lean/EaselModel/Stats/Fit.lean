import EaselModel.Stats.Histogram
import EaselModel.Generated.C11Src
/-! # Executable model of the maximum-likelihood fits (C11, kind H)

`esl_exp_FitComplete`, `esl_exp_FitCompleteScale`, `esl_exp_FitCompleteBinned`, `esl_lognormal_FitComplete`,
`esl_stats_DMean`, gumbel `lawless416`, `lawless422`, `esl_gumbel_FitComplete`, `FitCompleteLoc`, `FitCensored`,
`FitCensoredLoc` — same operation order as the C code, over the numeric class `Num`
(`Float`: bit-exact against the C build; `ℝ`: theorems in `FitReal.lean` and the other `…Real.lean` files). Core Lean only.

Iterations are fuel-bounded with the caps that are in the code (100 Newton steps, 100 bisection steps); the one loop
of the code that has no cap (`while (fx > 0.) right *= 2.`) gets `bracketFuel` and the outcome `.hang` when it is
exhausted. -/
namespace EaselModel.Stats
open Num

/-- result of a fit: status and returned parameters, or a fault / a non-terminating loop -/
inductive FitRes (α : Type) | res (st : St) (params : Array α) | fault | hang
  deriving Inhabited

variable {α : Type} [Num α]

/-- `s = 0.; for (i..) s += f(x[i]);` -/
@[inline] def sumMap (f : α → α) (xs : Array α) : α := xs.foldl (fun acc x => acc + f x) zero

def piConst : α := (3.14159265358979323846264338328 : α)

/-! ## exponential -/

/-- `mu = x[0]; for (i = 1..) if (x[i] < mu) mu = x[i];` -/
def minOf (xs : Array α) (x0 : α) : α := xs.foldl (fun mu x => if ltb x mu then x else mu) x0

/-- `esl_exp_FitComplete()` → `(mu, lambda)` -/
def expFitComplete (xs : Array α) : FitRes α :=
  if xs.size == 0 then .res .einval #[zero, zero] else
  let mu := minOf xs (xs.getD 0 zero)
  let mean := sumMap (fun x => x - mu) xs / ofInt xs.size
  .res .ok #[mu, one / mean]

/-- `esl_exp_FitCompleteScale()` → `(lambda)` -/
def expFitCompleteScale (xs : Array α) (mu : α) : FitRes α :=
  let mean := sumMap (fun x => x - mu) xs / ofInt xs.size
  .res .ok #[one / mean]

/-- the occupied-bin loop of `esl_exp_FitCompleteBinned()`: `(sa, sb)` -/
def expBinnedSums (h : Hist α) (mu : α) : Nat → Int → α → α → Out (α × α)
  | 0, _, sa, sb => .val (sa, sb)
  | k+1, i, sa, sb =>
    match getObs h.obs i with
    | .fault => .fault
    | .val c =>
      if c == 0 then expBinnedSums h mu k (i+1) sa sb else
      let ai := h.lbound i
      let bi := h.ubound i
      expBinnedSums h mu k (i+1) (sa + ofInt c * (ai - mu)) (sb + ofInt c * (bi - mu))

/-- `esl_exp_FitCompleteBinned()` → `(mu, lambda)` -/
def expFitCompleteBinned (h : Hist α) : FitRes α :=
  match h.datasetIs with
  | .trueCensored => .res .einval #[]
  | ds =>
    let mu := match ds with
      | .complete => if h.isRounded then h.lbound h.imin else h.xmin
      | _ => h.phi
    match expBinnedSums h mu (h.imax - h.cmin + 1).toNat h.cmin zero zero with
    | .fault => .fault
    | .val (sa, sb) => .res .ok #[mu, one / h.w * (log sb - log sa)]

/-! ## log-normal -/

/-- Kahan-compensated `Σ f(x_i)` exactly as coded: `y = f - c; t = s + y; c = (t - s) - y; s = t` -/
def kahanSum (f : α → α) (xs : Array α) : α :=
  (xs.foldl (fun (sc : α × α) x =>
      let y := f x - sc.2
      let t := sc.1 + y
      (t, (t - sc.1) - y)) (zero, zero)).1

/-- `esl_lognormal_FitComplete()` → `(mu, sigma)` -/
def lognormalFitComplete (xs : Array α) : FitRes α :=
  let n : α := ofInt xs.size
  let mu := kahanSum (fun x => log x) xs / n
  let ss := kahanSum (fun x => let z := log x - mu; z * z) xs
  .res .ok #[mu, sqrt (ss / ofInt ((xs.size : Int) - 1))]

/-- `esl_lognormal_FitCountHistogram(c, n)` with `c = c[0..n]` → `(mu, sigma)` -/
def lognormalFitCountHistogram (c : Array α) : FitRes α :=
  let bad : FitRes α := .res .einval #[-(one / zero), -(one / zero)]
  if !(eqb (c.getD 0 zero) zero) then bad else
  let idx := (List.range c.size).tail
  -- first pass (stops with eslEINVAL at the first negative count)
  if idx.any (fun i => !(gtb (c.getD i zero) zero) && ltb (c.getD i zero) zero) then bad else
  let (mu, ntot) := idx.foldl (fun (a : α × α) i =>
      let ci := c.getD i zero
      if gtb ci zero then (a.1 + ci * log (ofInt i), a.2 + ci) else a) (zero, zero)
  if leb ntot zero then bad else
  let mu := mu / ntot
  let sigma := idx.foldl (fun (acc : α) i =>
      let ci := c.getD i zero
      if gtb ci zero then let z := log (ofInt i) - mu; acc + ci * z * z else acc) zero
  .res .ok #[mu, sqrt (sigma / (ntot - one))]

/-! ## Gumbel -/

/-- `esl_stats_DMean()` → `(mean, variance)` -/
def dmean (xs : Array α) : α × α :=
  let sum := sumMap (fun x => x) xs
  let sqsum := sumMap (fun x => x * x) xs
  let n : α := ofInt xs.size
  (sum / n, if xs.size > 1 then abs ((sqsum - sum * sum / n) / (n - one)) else zero)

/-- `exp(-1. * lambda * x)` -/
@[inline] def eneg (lambda x : α) : α := exp (-one * lambda * x)

/-- `lawless416()` → `(f, df)` -/
def lawless416 (xs : Array α) (lambda : α) : α × α :=
  let xsum := sumMap (fun x => x) xs
  let xesum := sumMap (fun x => x * eneg lambda x) xs
  let xxesum := sumMap (fun x => x * x * eneg lambda x) xs
  let esum := sumMap (fun x => eneg lambda x) xs
  let n : α := ofInt xs.size
  ((one / lambda) - (xsum / n) + (xesum / esum),
   ((xesum / esum) * (xesum / esum)) - (xxesum / esum) - (one / (lambda * lambda)))

/-- `lawless422()` → `(f, df)` -/
def lawless422 (xs : Array α) (z : Int) (phi lambda : α) : α × α :=
  let xsum := sumMap (fun x => x) xs
  let esum := sumMap (fun x => eneg lambda x) xs
  let xesum := sumMap (fun x => x * eneg lambda x) xs
  let xxesum := sumMap (fun x => x * x * eneg lambda x) xs
  let zf : α := ofInt z
  let esum := esum + zf * eneg lambda phi
  let xesum := xesum + zf * phi * eneg lambda phi
  let xxesum := xxesum + zf * phi * phi * eneg lambda phi
  let n : α := ofInt xs.size
  (one / lambda - xsum / n + xesum / esum,
   ((xesum / esum) * (xesum / esum)) - (xxesum / esum) - (one / (lambda * lambda)))

def tol : α := (1e-5 : α)

/-- `for (i = 0; i < 100; i++) { f(lambda); if (fabs(fx) < tol) break; lambda -= fx/dfx; if (lambda <= 0.) lambda = 0.001; }`
    → `(i, lambda)`; `k` = remaining iterations -/
def newtonLoop (f : α → α × α) : Nat → Nat → α → Nat × α
  | 0, i, lambda => (i, lambda)
  | k+1, i, lambda =>
    let (fx, dfx) := f lambda
    if ltb (abs fx) tol then (i, lambda) else
    let lambda := lambda - fx / dfx
    let lambda := if leb lambda zero then (0.001 : α) else lambda
    newtonLoop f k (i+1) lambda

/-- `while (fx > 0.) { right *= 2.; if (right > 1000.) FAIL; f(right); }` → `some right` / `none` (failed to bracket);
    `.fault` when the fuel runs out (the C loop has no cap; the fits hand it on as `.hang`) -/
def bracketLoop (f : α → α × α) : Nat → α → α → Out (Option α)
  | 0, _, _ => .fault
  | k+1, fx, right =>
    if gtb fx zero then
      let right := right * (2.0 : α)
      if gtb right (1000.0 : α) then .val none else
      bracketLoop f k (f right).1 right
    else .val (some right)

/-- a double can be doubled at most 2098 times before it exceeds 1000 — unless it is 0 -/
def bracketFuel : Nat := 2200

/-- `for (i = 0; i < 100; i++) { mid = (left+right)/2.; f(mid); if (fabs(fx) < tol) break; if (fx > 0.) left = mid; else right = mid; }`
    → `(i, mid)` -/
def bisectLoop (f : α → α × α) : Nat → Nat → α → α → α → Nat × α
  | 0, i, _, _, mid => (i, mid)
  | k+1, i, left, right, _ =>
    let mid := (left + right) / (2.0 : α)
    let fx := (f mid).1
    if ltb (abs fx) tol then (i, mid) else
    if gtb fx zero then bisectLoop f k (i+1) mid right mid else bisectLoop f k (i+1) left mid mid

/-- steps 1–2.5 shared by `esl_gumbel_FitComplete()` / `FitCensored()`: ML lambda, or failure.
    `firstAtRight`: the first bracketing test is evaluated at `right` — `FitCensored` always, `FitComplete` since 6f20587 (before, at the
    Newton leftover; its flag `fitCompleteBracketsAtRight` is read off the source). -/
def gumbelLambda (f : α → α × α) (variance : α) (firstAtRight : Bool) : Out (Option α) :=
  let lambda0 := piConst / sqrt ((6.0 : α) * variance)
  let (i, lambda) := newtonLoop f 100 0 lambda0
  if i != 100 then .val (some lambda) else
  let right := piConst / sqrt ((6.0 : α) * variance)
  -- `if (! (right > 0.)) { status = eslENORESULT; goto FAILURE; }` (`FitCensored` since b44f0f8, `FitComplete` since 6f20587)
  if firstAtRight && !(gtb right zero) then .val none else
  let fx := (f (if firstAtRight then right else lambda)).1
  match bracketLoop f bracketFuel fx right with
  | .fault => .fault
  | .val none => .val none
  | .val (some right) =>
    let (i, mid) := bisectLoop f 100 0 zero right zero
    if i == 100 then .val none else .val (some mid)

/-- `esl_gumbel_FitComplete()` → `(mu, lambda)` -/
def gumbelFitComplete (xs : Array α) : FitRes α :=
  if xs.size ≤ 1 then .res .einval #[zero, zero] else
  let variance := (dmean xs).2
  match gumbelLambda (lawless416 xs) variance fitCompleteBracketsAtRight with
  | .fault => .hang
  | .val none => .res .enoresult #[zero, zero]
  | .val (some lambda) =>
    let esum := sumMap (fun x => exp (-lambda * x)) xs
    let mu := -(log (esum / ofInt xs.size)) / lambda
    .res .ok #[mu, lambda]

/-- `esl_gumbel_FitCompleteLoc()` → `(mu)` -/
def gumbelFitCompleteLoc (xs : Array α) (lambda : α) : FitRes α :=
  if xs.size ≤ 1 then .res .einval #[zero] else
  let esum := sumMap (fun x => exp (-lambda * x)) xs
  .res .ok #[-(log (esum / ofInt xs.size)) / lambda]

/-- `esl_gumbel_FitCensored()` → `(mu, lambda)` -/
def gumbelFitCensored (xs : Array α) (z : Int) (phi : α) : FitRes α :=
  if xs.size ≤ 1 then .res .einval #[zero, zero] else
  let variance := (dmean xs).2
  match gumbelLambda (lawless422 xs z phi) variance true with
  | .fault => .hang
  | .val none => .res .enoresult #[zero, zero]
  | .val (some lambda) =>
    let esum := sumMap (fun x => exp (-lambda * x)) xs
    let esum := esum + ofInt z * exp (-one * lambda * phi)
    let mu := -(log (esum / ofInt xs.size)) / lambda
    .res .ok #[mu, lambda]

/-- `esl_gumbel_FitCensoredLoc()` → `(mu)` -/
def gumbelFitCensoredLoc (xs : Array α) (z : Int) (phi lambda : α) : FitRes α :=
  if xs.size ≤ 1 then .res .einval #[zero] else
  let esum := sumMap (fun x => exp (-lambda * x)) xs
  let esum := esum + ofInt z * exp (-one * lambda * phi)
  .res .ok #[-(log (esum / ofInt xs.size)) / lambda]

/-- dispatcher used by the driver: `a`, `b`, `z` are the extra arguments of the variant -/
def runFit (kind : String) (xs : Array α) (a b : α) (z : Int) : Option (FitRes α) :=
  match kind with
  | "exp" => some (expFitComplete xs)
  | "expscale" => some (expFitCompleteScale xs a)
  | "lognormal" => some (lognormalFitComplete xs)
  | "gumbel" => some (gumbelFitComplete xs)
  | "gumbelloc" => some (gumbelFitCompleteLoc xs a)
  | "gumbelcens" => some (gumbelFitCensored xs z a)
  | "gumbelcensloc" => some (gumbelFitCensoredLoc xs z a b)
  | _ => none

end EaselModel.Stats
