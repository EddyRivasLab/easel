import EaselModel.Stats.FitCG
import EaselModel.Stats.FitGev
import EaselModel.Stats.FitSxpBinned
/-! # What a return of the conjugate-gradient minimiser, and of every fit built on it, means (C11) — for every numeric class, core Lean only -/
namespace EaselModel.Stats
open Num
variable {α : Type} [Num α]

/-- the post-condition of `esl_min_ConjugateGradientDescent` on its result `(status, x, fx)` and the recorded reason -/
def CGPost (cfg : MinCfg α) (r : MinRes α × StopWhy) : Prop :=
  r.1 = .hang ∨ ∃ st x fx, r.1 = .res st x fx ∧
    ((st = .ok ∧ isFinite fx = true ∧
        ((r.2 = .converged ∧ ∃ oldfx : α, dcompare fx oldfx cfg.cgRtol cfg.cgAtol = true) ∨ r.2 = .zeroDirection ∨ r.2 = .zeroGradient)) ∨
     (st = .enohalt ∧ r.2 = .none) ∨ (st = .erange ∧ r.2 = .none) ∨ (st = .enoresult ∧ r.2 = .none))

theorem MinRes.res_ne {st st' : St} {x y : Array α} {fx v : α} (hst : st = .ok ∨ st = .enohalt) (h1 : st' ≠ .ok) (h2 : st' ≠ .enohalt) :
    MinRes.res st' y v ≠ .res st x fx := by
  intro hc
  injection hc with hc
  rcases hst with c | c <;> (rw [c] at hc; first | exact h1 hc | exact h2 hc)

theorem cgLoop_post (cfg : MinCfg α) (f : Array α → α) (df : Option (Array α → Array α)) (k : Nat) (s : CGState α) (fx0 : α) :
    CGPost cfg (cgLoop cfg f df k s fx0) := by
  fun_induction cgLoop cfg f df k s fx0 with
  | case1 => exact Or.inr ⟨_, _, _, rfl, Or.inr (Or.inl ⟨rfl, rfl⟩)⟩
  | case2 => -- `bracket()` fails
    exact Or.inr ⟨_, _, _, rfl, Or.inr (Or.inr (Or.inr ⟨rfl, rfl⟩))⟩
  | case3 => -- `brent()` runs out of fuel
    exact Or.inl rfl
  | case4 => -- the line minimum is not finite
    exact Or.inr ⟨_, _, _, rfl, Or.inr (Or.inr (Or.inl ⟨rfl, rfl⟩))⟩
  | case5 _ s _ _ _ _ _ _ _ _ _ hfin hc => -- eslOK by `esl_DCompare`
    exact Or.inr ⟨_, _, _, rfl, Or.inl ⟨rfl, by simpa using hfin, Or.inl ⟨rfl, s.oldfx, hc⟩⟩⟩
  | case6 _ _ _ _ _ _ _ _ _ _ _ hfin => -- eslOK by a zero direction
    exact Or.inr ⟨_, _, _, rfl, Or.inl ⟨rfl, by simpa using hfin, Or.inr (Or.inl rfl)⟩⟩
  | case7 => assumption

/-- **`esl_min_ConjugateGradientDescent` (model) — what a return means, whatever the objective and the start point:**
    the status is one of eslOK / eslENOHALT / eslERANGE / eslENORESULT; eslOK only when the stopping rule held — the start
    gradient was exactly zero, or `esl_DCompare(fx, oldfx, cg_rtol, cg_atol)` succeeded for two successive line minima, or the
    new conjugate direction was exactly zero — and then `fx` is finite. The main loop runs at most `max_iterations` times and
    `bracket()` at most `brack_maxiter+1` rounds by construction; only `brent()`'s uncapped loop can yield `.hang`. -/
theorem cgd_post (cfg : MinCfg α) (f : Array α → α) (df : Option (Array α → Array α)) (x0 : Array α) :
    CGPost cfg (cgd cfg f df x0) := by
  fun_cases cgd cfg f df x0 with
  | case1 => exact Or.inr ⟨_, _, _, rfl, Or.inr (Or.inr (Or.inl ⟨rfl, rfl⟩))⟩
  | case2 _ hfin => exact Or.inr ⟨_, _, _, rfl, Or.inl ⟨rfl, by simpa using hfin, Or.inr (Or.inr rfl)⟩⟩
  | case3 => exact cgLoop_post cfg f df _ _ _

/-- the only source of `.hang`: a `brent()` line search that exhausts `brentFuel` (4·10⁸ passes) -/
theorem cgLoop_hang (cfg : MinCfg α) (f : Array α → α) (df : Option (Array α → Array α)) (k : Nat) (s : CGState α) (fx0 : α)
    (h : (cgLoop cfg f df k s fx0).1 = .hang) : ∃ (fline : α → α) (a b : α), brentCG cfg fline a b = none := by
  fun_induction cgLoop cfg f df k s fx0 with
  | case3 _ _ _ _ _ _ _ hb => exact ⟨_, _, _, hb⟩
  | case7 _ _ _ _ _ _ _ _ _ _ _ _ _ _ _ _ _ _ ih => exact ih h
  | _ => cases h

/-- what `CGPost` says of a run that ended with a status -/
theorem CGPost.of_res {cfg : MinCfg α} {r : MinRes α × StopWhy} (hp : CGPost cfg r) {st : St} {x : Array α} {fx : α} (e : r.1 = .res st x fx) :
    (st = .ok ∨ st = .enohalt ∨ st = .erange ∨ st = .enoresult) ∧
    (st = .ok → r.2 = .converged ∨ r.2 = .zeroDirection ∨ r.2 = .zeroGradient) := by
  rcases hp with hh | ⟨st', _, _, e', hcase⟩
  · rw [hh] at e; cases e
  · rw [e] at e'; cases e'
    rcases hcase with ⟨a, _, c⟩ | ⟨a, _⟩ | ⟨a, _⟩ | ⟨a, _⟩ <;> subst a
    · exact ⟨Or.inl rfl, fun _ => c.imp_left And.left⟩
    all_goals exact ⟨by simp, fun hc => by cases hc⟩

theorem fit2_post (mu : α) (cfg : MinCfg α) (r : MinRes α × StopWhy) (hp : CGPost cfg r) (st : St) (ps : Array α)
    (h : fit2Result mu r = .res st ps) :
    (st = .ok ∨ st = .enohalt ∨ st = .erange ∨ st = .enoresult) ∧ ps.getD 0 zero = mu ∧ ps.size = 3 ∧
    (st = .ok → r.2 = .converged ∨ r.2 = .zeroDirection ∨ r.2 = .zeroGradient) := by
  revert h
  fun_cases fit2Result mu r with
  | case1 => intro h; cases h
  | case2 _ _ _ e => intro h; cases h; exact ⟨(hp.of_res e).1, rfl, rfl, (hp.of_res e).2⟩


theorem cgd_hang (cfg : MinCfg α) (f : Array α → α) (df : Option (Array α → Array α)) (x0 : Array α)
    (h : (cgd cfg f df x0).1 = .hang) : ∃ (fline : α → α) (a b : α), brentCG cfg fline a b = none := by
  revert h
  fun_cases cgd cfg f df x0 with
  | case3 => exact cgLoop_hang cfg f df _ _ _
  | _ => intro h; cases h

/-- `esl_wei_FitComplete` / `esl_sxp_FitComplete` (model): status ∈ {eslOK, eslENOHALT, eslERANGE, eslENORESULT}; `mu` is
    `esl_vec_DMin(x)`; eslOK only when the minimiser's stopping rule held. (`weiCG xs`, `sxpCG xs` are `(mu, result, reason)`: `.2.2` is the
    reason of the stop.) -/
theorem weiFit_post (xs : Array α) (st : St) (ps : Array α) (h : weiFitComplete xs = .res st ps) :
    (st = .ok ∨ st = .enohalt ∨ st = .erange ∨ st = .enoresult) ∧ ps.getD 0 zero = vmin xs ∧ ps.size = 3 ∧
    (st = .ok → (weiCG xs).2.2 = .converged ∨ (weiCG xs).2.2 = .zeroDirection ∨ (weiCG xs).2.2 = .zeroGradient) := by
  unfold weiFitComplete at h
  exact fit2_post _ _ _ (cgd_post _ _ _ _) st ps h

theorem sxpFit_post (xs : Array α) (st : St) (ps : Array α) (h : sxpFitComplete xs = .res st ps) :
    (st = .ok ∨ st = .enohalt ∨ st = .erange ∨ st = .enoresult) ∧ ps.getD 0 zero = vmin xs ∧ ps.size = 3 ∧
    (st = .ok → (sxpCG xs).2.2 = .converged ∨ (sxpCG xs).2.2 = .zeroDirection ∨ (sxpCG xs).2.2 = .zeroGradient) := by
  unfold sxpFitComplete at h
  exact fit2_post _ _ _ (cgd_post _ _ _ _) st ps h

/-- `esl_gumbel_FitTruncated` (model): documented statuses only (eslENOHALT is mapped to eslENORESULT as documented); on any
    failure both parameters are 0; eslOK only when the minimiser's stopping rule held. (`tevdCG xs phi` is `(result, reason)`: no location in front,
    so `.2` is the reason of the stop.) -/
theorem gumbelFitTruncated_post (xs : Array α) (phi : α) (st : St) (ps : Array α) (h : gumbelFitTruncated xs phi = .res st ps) :
    (st = .ok ∨ st = .einval ∨ st = .enoresult ∨ st = .erange) ∧ ps.size = 2 ∧ (st ≠ .ok → ps = #[zero, zero]) ∧
    (st = .ok → (tevdCG xs phi).2 = .converged ∨ (tevdCG xs phi).2 = .zeroDirection ∨ (tevdCG xs phi).2 = .zeroGradient) := by
  have hp : CGPost (tevdCfg : MinCfg α) (tevdCG xs phi) := cgd_post _ _ _ _
  revert h
  fun_cases gumbelFitTruncated xs phi with
  | case1 | case2 | case5 => -- `n ≤ 1`, all values equal, eslENOHALT of the minimiser
    intro h; cases h; exact ⟨by simp, rfl, fun _ => rfl, fun hc => by cases hc⟩
  | case3 => intro h; cases h
  | case4 _ _ _ _ e => intro h; cases h; exact ⟨Or.inl rfl, rfl, fun hc => absurd rfl hc, (hp.of_res e).2⟩
  | case6 st _ _ _ _ h1 h2 e => -- any other status of the minimiser is passed on
    intro h; cases h
    refine ⟨?_, rfl, fun _ => rfl, fun hc => absurd hc h1⟩
    rcases (hp.of_res e).1 with c | c | c | c
    · exact absurd c h1
    · exact absurd c h2
    · exact Or.inr (Or.inr (Or.inr c))
    · exact Or.inr (Or.inr (Or.inl c))


/-- the generalized-Newton loop of `gam_fitting_engine`, started with `iter + k = 100` (`k` = rounds left of the C loop's bound of 100): status
    ∈ {eslOK, eslENOHALT, eslERANGE}; eslOK only when BOTH `esl_DCompare(old_tau, tau, 1e-6, 1e-6)` and `esl_DCompare(old_fx, fx, 1e-6, 1e-6)`
    held, before the 100th iteration -/
theorem gamLoop_post (xbar logxbar : α) (k iter : Nat) (tau0 fx0 : α) (hinv : iter + k = 100) (st : St) (tau oldtau fx oldfx : α) (it : Nat)
    (e : gamLoop xbar logxbar k iter tau0 fx0 = (st, tau, oldtau, fx, oldfx, it)) :
    (st = .ok ∨ st = .enohalt ∨ st = .erange) ∧
    (st = .ok → dcompare oldtau tau (1e-6 : α) (1e-6 : α) = true ∧ dcompare oldfx fx (1e-6 : α) (1e-6 : α) = true ∧ it < 100) := by
  fun_induction gamLoop xbar logxbar k iter tau0 fx0 with
  | case1 | case4 => simp only [Prod.mk.injEq] at e; obtain ⟨rfl, rfl, rfl, rfl, rfl, rfl⟩ := e; exact ⟨Or.inr (Or.inl rfl), fun h => by cases h⟩
  | case2 | case6 => simp only [Prod.mk.injEq] at e; obtain ⟨rfl, rfl, rfl, rfl, rfl, rfl⟩ := e; exact ⟨Or.inr (Or.inr rfl), fun h => by cases h⟩
  | case3 _ _ _ _ _ _ _ _ _ _ _ _ _ ih => exact ih (by omega) e
  | case5 _ iter _ _ _ _ _ _ _ _ _ _ hcont h100 => -- eslOK: the loop condition failed before the 100th round, so both `esl_DCompare` tests passed
    simp only [Prod.mk.injEq] at e; obtain ⟨rfl, rfl, rfl, rfl, rfl, rfl⟩ := e
    have hl : iter + 1 < 100 := by have : iter + 1 ≠ 100 := fun e => h100 (beq_iff_eq.2 e); omega
    simp only [Bool.and_eq_true, Bool.or_eq_true, Bool.not_eq_true', decide_eq_true_eq, not_and, not_or, Bool.not_eq_false] at hcont
    exact ⟨Or.inl rfl, fun _ => ⟨(hcont hl).1, (hcont hl).2, hl⟩⟩

/-- `gam_fitting_engine` (hence `esl_gam_FitComplete`, `esl_gam_FitCountHistogram` after their argument checks): at most 100
    rounds; status ∈ {eslOK, eslENOHALT, eslERANGE}; eslOK ⇒ `(lambda, tau) = (tau/xbar, tau)` with both convergence tests passed -/
theorem gamFittingEngine_post (xbar logxbar : α) (st : St) (ps : Array α) (h : gamFittingEngine xbar logxbar = .res st ps) :
    (st = .ok ∨ st = .enohalt ∨ st = .erange) ∧ ps.size = 2 ∧
    (st = .ok → ∃ tau oldtau fx oldfx : α, ps = #[tau / xbar, tau] ∧ dcompare oldtau tau (1e-6 : α) (1e-6 : α) = true ∧
        dcompare oldfx fx (1e-6 : α) (1e-6 : α) = true) := by
  revert h
  fun_cases gamFittingEngine xbar logxbar with
  | case1 _ tau oldtau fx oldfx _ e =>
    have hp := gamLoop_post xbar logxbar 100 0 _ _ (by omega) _ _ _ _ _ _ e
    intro h; cases h
    exact ⟨Or.inl rfl, rfl, fun _ => ⟨tau, oldtau, fx, oldfx, rfl, (hp.2 rfl).1, (hp.2 rfl).2.1⟩⟩
  | case2 _ _ _ _ _ _ _ hne e =>
    have hp := gamLoop_post xbar logxbar 100 0 _ _ (by omega) _ _ _ _ _ _ e
    intro h; cases h
    exact ⟨hp.1, rfl, fun hc => absurd hc hne⟩

/-- `esl_wei_FitCompleteBinned` (model): a result (no out-of-range bin index) has a status in {eslOK, eslENOHALT, eslERANGE, eslENORESULT},
    `mu` is the documented location (`phi` for a tail fit, else `xmin`, or the lower bound of bin `imin` for rounded data).  What eslOK says of the minimiser's stopping rule is `fit2_post`'s last conjunct, not repeated here -/
theorem weiFitBinned_post (h : Hist α) (tailfit : Bool) (st : St) (ps : Array α) (hr : weiFitCompleteBinned h tailfit = .res st ps) :
    (st = .ok ∨ st = .enohalt ∨ st = .erange ∨ st = .enoresult) ∧ ps.size = 3 ∧
    ps.getD 0 zero = (if tailfit then h.phi else if h.isRounded then h.lbound h.imin else h.xmin) := by
  revert hr
  fun_cases weiFitCompleteBinned h tailfit with
  | case1 => intro hr; cases hr
  | case2 =>
    intro hr
    obtain ⟨a, b, c, _⟩ := fit2_post _ _ _ (cgd_post _ _ _ _) st ps hr
    exact ⟨a, c, b⟩


/-- `esl_gam_FitCompleteBinned` (model): bracketing (≤ 100 doublings/halvings) and bisection (≤ 100 steps) are capped, so the routine
    is total; a result has status eslOK, eslEINVAL (true-censored data / a midpoint below mu) or eslENOHALT, and three parameters -/
theorem gamFitBinned_post (h : Hist α) (st : St) (ps : Array α) (hr : gamFitCompleteBinned h = .res st ps) :
    (st = .ok ∨ st = .einval ∨ st = .enohalt) ∧ ps.size = 3 := by
  revert hr
  fun_cases gamFitCompleteBinned h <;> intro hr <;> cases hr <;> simp


/-- `esl_sxp_FitCompleteBinned` (model), every histogram state and numeric class: a memory fault only when `cmin..imax` leaves `obs[]`
    (excluded by the histogram invariant), otherwise a documented status, three parameters and the documented location -/
theorem sxpFitBinned_post (h : Hist α) (tailfit : Bool) (st : St) (ps : Array α) (hr : sxpFitCompleteBinned h tailfit = .res st ps) :
    (st = .ok ∨ st = .enohalt ∨ st = .erange ∨ st = .enoresult) ∧ ps.size = 3 ∧
    ps.getD 0 zero = (if tailfit then h.phi else if h.isRounded then h.lbound h.imin else h.xmin) := by
  revert hr
  fun_cases sxpFitCompleteBinned h tailfit with
  | case1 => intro hr; cases hr
  | case2 =>
    intro hr
    obtain ⟨a, b, c, _⟩ := fit2_post _ _ _ (cgd_post _ _ _ _) st ps hr
    exact ⟨a, c, b⟩

/-- **`esl_gev_FitComplete` / `esl_gev_FitCensored` (model), every data set and numeric class**: total up to `brent()`'s uncapped loop; the
    status is one of eslOK / eslENOHALT / eslERANGE / eslENORESULT; three parameters come back; eslOK only when the minimiser's stopping
    rule held. -/
theorem gevFit_post [Log1p α] (xs : Array α) (cens : Option (Int × α)) (st : St) (ps : Array α) (h : gevFittingEngine xs cens = .res st ps) :
    (st = .ok ∨ st = .enohalt ∨ st = .erange ∨ st = .enoresult) ∧ ps.size = 3 ∧
    (st = .ok → (gevCG xs cens).2 = .converged ∨ (gevCG xs cens).2 = .zeroDirection ∨ (gevCG xs cens).2 = .zeroGradient) := by
  have hp : CGPost (gevCfg : MinCfg α) (gevCG xs cens) := cgd_post _ _ _ _
  revert h
  fun_cases gevFittingEngine xs cens with
  | case1 => intro h; cases h
  | case2 _ _ _ e => intro h; cases h; exact ⟨(hp.of_res e).1, rfl, (hp.of_res e).2⟩

end EaselModel.Stats
