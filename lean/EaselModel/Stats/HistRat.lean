import EaselModel.Stats.NumRat
/-! # The histogram accounts for every value exactly once (C11, over ℚ)

Invariant `Accounts h vs`: `h` is what results from accepting exactly the values `vs` (most recent first).
It is established by `Create`, preserved by every `Add` (however often the bins had to grow, in either direction),
and it determines every count, the bookkeeping fields and the raw-data vector. -/
namespace EaselModel.Stats

structure Accounts (h : Hist ℚ) (vs : List ℚ) : Prop where
  wf : h.WF
  idx : IdxOK h
  wpos : 0 < h.w
  /-- for EVERY integer `i` (bins that do not exist count as 0): the count of bin `i` is the number of accepted values in
      the half-open interval `(bmin + i·w, bmin + (i+1)·w]` -/
  counts : ∀ i : Int, obsAt h.obs i = vs.countP (fun x => decide (inBin h.bmin h.w i x))
  n : h.n = vs.length
  tot : total h.obs = vs.length
  /-- `imin`/`imax`: nothing is counted outside `imin..imax`, and both ends are occupied once there is data -/
  below : ∀ i : Int, i < h.imin → obsAt h.obs i = 0
  above : ∀ i : Int, h.imax < i → obsAt h.obs i = 0
  occ : vs ≠ [] → 0 < obsAt h.obs h.imin ∧ 0 < obsAt h.obs h.imax
  sent : vs = [] → h.imin = h.nb ∧ h.imax = -1
  /-- `xmin`/`xmax` are the smallest/largest accepted value (sentinels `±DBL_MAX` when empty) -/
  xlo : ∀ v ∈ vs, h.xmin ≤ v ∧ v ≤ h.xmax
  xmem : vs ≠ [] → h.xmin ∈ vs ∧ h.xmax ∈ vs
  xempty : vs = [] → h.xmin = dblMaxQ ∧ h.xmax = -dblMaxQ
  fin : ∀ v ∈ vs, |v| ≤ dblMaxQ
  /-- a full histogram holds exactly the accepted values (as a multiset; `sort` may have permuted them) -/
  raw : h.isFull = true → h.x.toList.Perm vs

theorem idx_state (h : Hist ℚ) (vs : List ℚ) (acc : Accounts h vs) :
    (vs = [] ∧ h.imin = h.nb ∧ h.imax = -1) ∨ (vs ≠ [] ∧ 0 ≤ h.imin ∧ h.imin ≤ h.imax ∧ h.imax < h.nb) := by
  by_cases hvs : vs = []
  · exact Or.inl ⟨hvs, acc.sent hvs⟩
  · right
    obtain ⟨o1, _⟩ := acc.occ hvs
    rcases acc.idx with ⟨i1, i2⟩ | ⟨i1, i2, i3⟩
    · exfalso; rw [acc.above h.imin (by have := acc.wf.nb_pos; omega)] at o1; omega
    · exact ⟨hvs, i1, i2, i3⟩

theorem bmin_shift (bmin w : ℚ) (k : Nat) :
    (if k = 0 then bmin else bmin - Num.ofInt (k : Int) * w) = bmin - (k : ℚ) * w := by
  split <;> simp_all

theorem inBin_shift (bmin w : ℚ) (k : Nat) (j : Int) (x : ℚ) :
    inBin (bmin - (k : ℚ) * w) w j x ↔ inBin bmin w (j - k) x := by
  unfold inBin
  have e1 : bmin - (k : ℚ) * w + (j : ℚ) * w = bmin + ((j - (k : Int) : Int) : ℚ) * w := by push_cast; ring
  have e2 : bmin - (k : ℚ) * w + ((j : ℚ) + 1) * w = bmin + (((j - (k : Int) : Int) : ℚ) + 1) * w := by push_cast; ring
  rw [e1, e2]

/-- what a histogram accounts for depends only on the fields `SameData` lists (and on well-formedness) -/
theorem Accounts.of_sameData {h h' : Hist ℚ} {vs : List ℚ} (acc : Accounts h vs) (sd : SameData h h') (wf' : h'.WF) : Accounts h' vs := by
  obtain ⟨s1, s2, s3, s4, _, s6, s7, s8, s9, s10, s11, s12, _⟩ := sd
  have idx' : IdxOK h' := by unfold IdxOK; rw [s9, s10, s2]; exact acc.idx
  exact ⟨wf', idx', by rw [s3]; exact acc.wpos, by rw [s1, s4, s3]; exact acc.counts, by rw [s6]; exact acc.n,
    by rw [s1]; exact acc.tot, by rw [s1, s9]; exact acc.below, by rw [s1, s10]; exact acc.above,
    by rw [s1, s9, s10]; exact acc.occ, by rw [s9, s10, s2]; exact acc.sent, by rw [s11, s12]; exact acc.xlo, by rw [s11, s12]; exact acc.xmem,
    by rw [s11, s12]; exact acc.xempty, acc.fin, by rw [s8, s7]; exact acc.raw⟩

/-- **one `Add`**: either it is refused and nothing that is counted changes, or it is accepted and the histogram
    accounts for one more value — `Add` never faults. -/
theorem add_accounts (h : Hist ℚ) (vs : List ℚ) (acc : Accounts h vs) (v : ℚ) :
    ∃ st h', h.add v = .val (st, h') ∧
      ((st = .ok ∧ Accounts h' (v :: vs)) ∨ (st ≠ .ok ∧ Accounts h' vs ∧ SameData h h')) := by
  obtain ⟨st, h', e, wf', hcase⟩ := add_spec h acc.wf acc.idx v
  refine ⟨st, h', e, ?_⟩
  rcases hcase with ⟨hne, sd⟩ | ⟨hok, _, b, k, hs, a⟩
  · exact Or.inr ⟨hne, acc.of_sameData sd wf', sd⟩
  · left
    refine ⟨hok, ?_⟩
    have hsb := score2bin_q h acc.wpos v
    simp only at hsb
    rcases hsb with ⟨hs', hin, hfin, _, _⟩ | ⟨hs', _⟩
    swap
    · rw [hs] at hs'; cases hs'
    have hb : b = ⌈(v - h.bmin) / h.w - 1⌉ := by rw [hs] at hs'; injection hs' with _ t
    rw [← hb] at hin
    have hbmin : h'.bmin = h.bmin - (k : ℚ) * h.w := by rw [a.bmin, bmin_shift]
    have hobs : ∀ j : Int, obsAt h'.obs j = obsAt h.obs (j - k) + if j - k = b then 1 else 0 := by
      intro j; have := a.obs (j - k); rw [show j - (k : Int) + k = j by omega] at this; exact this
    have hcount : ∀ j : Int, obsAt h'.obs j = (v :: vs).countP (fun x => decide (inBin h'.bmin h'.w j x)) := by
      intro j
      rw [hobs j, acc.counts (j - k), List.countP_cons, hbmin, a.w]
      have e1 : List.countP (fun x => decide (inBin (h.bmin - (k : ℚ) * h.w) h.w j x)) vs =
                List.countP (fun x => decide (inBin h.bmin h.w (j - k) x)) vs := by
        apply List.countP_congr; intro x _; simp only [decide_eq_true_eq]; exact inBin_shift _ _ _ _ _
      rw [e1]
      congr 1
      by_cases hj : j - (k : Int) = b
      · rw [if_pos hj, if_pos]
        simp only [decide_eq_true_eq]; rw [inBin_shift, hj]; exact hin
      · rw [if_neg hj, if_neg]
        simp only [decide_eq_true_eq]; rw [inBin_shift]
        intro hc; exact hj (inBin_unique acc.wpos hc hin)
    have hb0 : 0 ≤ b + k := by
      have := a.obs b; simp only [if_true] at this
      by_contra hc
      rw [obsAt_neg _ (by omega)] at this; omega
    have hidx' : IdxOK h' := by
      unfold IdxOK; right
      have hsz := a.wf.size
      have hbk : b + k < h'.nb := by
        have := a.obs b; simp only [if_true] at this
        by_contra hc
        rw [obsAt_ge _ (by omega)] at this; omega
      rw [a.imin, a.imax]
      rcases acc.idx with ⟨i1, i2⟩ | ⟨i1, i2, i3⟩
      · simp only [i1, i2, true_or, if_true]; omega
      · have := a.nbk
        split <;> split <;> omega
    have hstate := idx_state h vs acc
    have himin' : h'.imin = if h.imin = h.nb ∨ b < h.imin then b + k else h.imin + k := a.imin
    have himax' : h'.imax = if h.imax = -1 ∨ b > h.imax then b + k else h.imax + k := a.imax
    have hbelow : ∀ i : Int, i < h'.imin → obsAt h'.obs i = 0 := by
      intro i hi
      rw [hobs i]
      rcases hstate with ⟨hvs, i1, i2⟩ | ⟨hvs, i1, i2, i3⟩
      · rw [himin', if_pos (Or.inl i1)] at hi
        rw [if_neg (by omega), acc.counts, hvs]; rfl
      · have hne : h.imin ≠ h.nb := by omega
        by_cases hlt : b < h.imin
        · rw [himin', if_pos (Or.inr hlt)] at hi
          rw [if_neg (by omega), acc.below _ (by omega)]
        · rw [himin', if_neg (by intro hc; rcases hc with hc | hc <;> omega)] at hi
          rw [if_neg (by omega), acc.below _ (by omega)]
    have habove : ∀ i : Int, h'.imax < i → obsAt h'.obs i = 0 := by
      intro i hi
      rw [hobs i]
      rcases hstate with ⟨hvs, i1, i2⟩ | ⟨hvs, i1, i2, i3⟩
      · rw [himax', if_pos (Or.inl i2)] at hi
        rw [if_neg (by omega), acc.counts, hvs]; rfl
      · have hne : h.imax ≠ -1 := by omega
        by_cases hgt : b > h.imax
        · rw [himax', if_pos (Or.inr hgt)] at hi
          rw [if_neg (by omega), acc.above _ (by omega)]
        · rw [himax', if_neg (by intro hc; rcases hc with hc | hc <;> omega)] at hi
          rw [if_neg (by omega), acc.above _ (by omega)]
    have hocc : 0 < obsAt h'.obs h'.imin ∧ 0 < obsAt h'.obs h'.imax := by
      rcases hstate with ⟨hvs, i1, i2⟩ | ⟨hvs, i1, i2, i3⟩
      · rw [himin', himax', if_pos (Or.inl i1), if_pos (Or.inl i2), hobs]
        simp
      · obtain ⟨o1, o2⟩ := acc.occ hvs
        constructor
        · by_cases hlt : b < h.imin
          · rw [himin', if_pos (Or.inr hlt), hobs]; simp
          · rw [himin', if_neg (by intro hc; rcases hc with hc | hc <;> omega), hobs]
            simp only [Int.add_sub_cancel]; omega
        · by_cases hgt : b > h.imax
          · rw [himax', if_pos (Or.inr hgt), hobs]; simp
          · rw [himax', if_neg (by intro hc; rcases hc with hc | hc <;> omega), hobs]
            simp only [Int.add_sub_cancel]; omega
    have hxmin' : h'.xmin = if v < h.xmin then v else h.xmin := by
      rw [a.xmin]; by_cases c : v < h.xmin
      · rw [if_pos c, if_pos ((ltb_q _ _).2 c)]
      · rw [if_neg c, if_neg (by rw [ltb_q]; exact c)]
    have hxmax' : h'.xmax = if h.xmax < v then v else h.xmax := by
      rw [a.xmax]; by_cases c : h.xmax < v
      · rw [if_pos c, if_pos ((gtb_q _ _).2 c)]
      · rw [if_neg c, if_neg (by rw [gtb_q]; exact c)]
    have hvabs := abs_le.1 hfin
    have hxlo : ∀ u ∈ v :: vs, h'.xmin ≤ u ∧ u ≤ h'.xmax := by
      intro u hu
      rw [hxmin', hxmax']
      rcases List.mem_cons.1 hu with rfl | hu
      · constructor
        · split <;> [exact le_refl _; exact not_lt.1 ‹_›]
        · split <;> [exact le_refl _; exact not_lt.1 ‹_›]
      · obtain ⟨l1, l2⟩ := acc.xlo u hu
        constructor
        · split <;> [exact le_trans (le_of_lt ‹_›) l1; exact l1]
        · split <;> [exact le_trans l2 (le_of_lt ‹_›); exact l2]
    have hxmem : h'.xmin ∈ v :: vs ∧ h'.xmax ∈ v :: vs := by
      rw [hxmin', hxmax']
      by_cases hvs : vs = []
      · obtain ⟨e1, e2⟩ := acc.xempty hvs
        rw [e1, e2]
        constructor
        · split
          · exact List.mem_cons_self
          · have : v = dblMaxQ := le_antisymm hvabs.2 (not_lt.1 ‹_›)
            rw [← this]; exact List.mem_cons_self
        · split
          · exact List.mem_cons_self
          · have : v = -dblMaxQ := le_antisymm (not_lt.1 ‹_›) hvabs.1
            rw [← this]; exact List.mem_cons_self
      · obtain ⟨m1, m2⟩ := acc.xmem hvs
        constructor
        · split <;> [exact List.mem_cons_self; exact List.mem_cons_of_mem _ m1]
        · split <;> [exact List.mem_cons_self; exact List.mem_cons_of_mem _ m2]
    have hraw : h'.isFull = true → h'.x.toList.Perm (v :: vs) := by
      intro hf
      rw [a.full] at hf
      rw [a.x, if_pos hf, Array.toList_push]
      exact (List.perm_append_comm.trans (List.Perm.cons v (List.Perm.refl _))).trans (List.Perm.cons v (acc.raw hf))
    have hfin' : ∀ u ∈ v :: vs, |u| ≤ dblMaxQ := by
      intro u hu
      rcases List.mem_cons.1 hu with rfl | hu
      · exact hfin
      · exact acc.fin u hu
    exact {
      wf := a.wf, idx := hidx', wpos := by rw [a.w]; exact acc.wpos, counts := hcount
      n := by rw [a.n, acc.n]; rfl
      tot := by rw [a.tot, acc.tot]; rfl
      below := hbelow, above := habove, occ := fun _ => hocc
      sent := fun hc => by cases hc
      xlo := hxlo, xmem := fun _ => hxmem
      xempty := fun hc => by cases hc
      fin := hfin', raw := hraw }


theorem obsAt_replicate_zero (k : Nat) (i : Int) : obsAt (Array.replicate k 0) i = 0 := by
  unfold obsAt; split
  · rw [Array.getElem?_replicate]; split <;> rfl
  · rfl

theorem total_replicate_zero (k : Nat) : total (Array.replicate k 0) = 0 := by
  unfold total; rw [Array.toList_replicate]; exact sum_replicate_zero k

/-- `esl_histogram_Create` / `CreateFull` with a positive width give a histogram that accounts for no value -/
theorem create_accounts (bmin bmax w : ℚ) (hw : 0 < w) (h : Hist ℚ)
    (hc : Hist.create bmin bmax w = .val (some h) ∨ Hist.createFull bmin bmax w = .val (some h)) :
    Accounts h [] ∧ h.w = w ∧ h.bmin = bmin ∧ h.isDone = false := by
  have key : ∀ h0 : Hist ℚ, Hist.create bmin bmax w = .val (some h0) →
      (Accounts h0 [] ∧ h0.w = w ∧ h0.bmin = bmin ∧ h0.isDone = false) ∧ h0.isFull = false ∧ h0.x = #[] := by
    intro h0 e
    unfold Hist.create at e
    simp only [] at e
    split at e
    · cases e
    · split at e
      · cases e
      · split at e
        · cases e
        · rename_i hfin hr hpos
          injection e with e; injection e with e; subst e
          have hr' := (inIntRange_iff _).1 (by simpa using hr)
          have hpos' : 0 < Num.toInt ((bmax - bmin) / w) := by omega
          refine ⟨⟨?_, rfl, rfl, rfl⟩, rfl, rfl⟩
          exact {
            wf := ⟨by simp only [Array.size_replicate]; omega, hpos', (by show Num.toInt ((bmax - bmin) / w) ≤ INT_MAX; unfold INT_MAX; omega),
                   (fun hc => by cases hc), (fun hc => by cases hc)⟩
            idx := Or.inl ⟨rfl, rfl⟩, wpos := hw
            counts := fun i => by rw [obsAt_replicate_zero]; rfl
            n := rfl, tot := total_replicate_zero _
            below := fun i _ => obsAt_replicate_zero _ i, above := fun i _ => obsAt_replicate_zero _ i
            occ := fun hc => absurd rfl hc, sent := fun _ => ⟨rfl, rfl⟩
            xlo := fun v hv => by cases hv
            xmem := fun hc => absurd rfl hc, xempty := fun _ => ⟨rfl, rfl⟩
            fin := fun v hv => by cases hv
            raw := fun hc => by cases hc }
  rcases hc with hc | hc
  · exact (key h hc).1
  · unfold Hist.createFull at hc
    split at hc
    · cases hc
    · cases hc
    · rename_i h0 e0
      injection hc with hc; injection hc with hc; subst hc
      obtain ⟨⟨acc, e1, e2, e3⟩, _, ex⟩ := key h0 e0
      refine ⟨?_, e1, e2, e3⟩
      exact {
        wf := ⟨acc.wf.size, acc.wf.nb_pos, acc.wf.nb_le, (fun _ => by show 0 ≤ 128 ∧ 0 < 128; omega), (fun _ => by show h0.x.size = 0; rw [ex]; rfl)⟩
        idx := acc.idx, wpos := acc.wpos, counts := acc.counts, n := rfl, tot := acc.tot
        below := acc.below, above := acc.above, occ := acc.occ, sent := acc.sent
        xlo := acc.xlo, xmem := acc.xmem, xempty := acc.xempty, fin := acc.fin
        raw := fun _ => by show h0.x.toList.Perm []; rw [ex] }

/-- any sequence of `Add` calls; returns the final histogram and the accepted values (most recent first) -/
noncomputable def Hist.addMany (h : Hist ℚ) (acc : List ℚ) : List ℚ → Out (Hist ℚ × List ℚ)
  | [] => .val (h, acc)
  | x :: xs =>
    match h.add x with
    | .fault => .fault
    | .val (st, h') => Hist.addMany h' (if st = .ok then x :: acc else acc) xs

/-- **any number of `Add`s** (refused ones included, growth in either direction any number of times):
    never a fault, and the result accounts for exactly the accepted values -/
theorem addMany_accounts (xs : List ℚ) : ∀ (h : Hist ℚ) (vs : List ℚ), Accounts h vs →
    ∃ h' vs', Hist.addMany h vs xs = .val (h', vs') ∧ Accounts h' vs' ∧ h'.w = h.w ∧
      (∃ k : Nat, h'.bmin = h.bmin - (k : ℚ) * h.w) ∧ vs'.length ≤ vs.length + xs.length ∧ h'.isFull = h.isFull := by
  induction xs with
  | nil => intro h vs a; exact ⟨h, vs, rfl, a, rfl, ⟨0, by simp⟩, by simp, rfl⟩
  | cons x xs ih =>
    intro h vs a
    obtain ⟨st, h1, e, hcase⟩ := add_accounts h vs a x
    simp only [Hist.addMany, e]
    rcases hcase with ⟨hok, a1⟩ | ⟨hne, a1, sd⟩
    · subst hok
      obtain ⟨h2, vs2, e2, a2, w2, ⟨k2, b2⟩, l2, f2⟩ := ih h1 (x :: vs) a1
      simp only [if_true]
      obtain ⟨_, _, e', _, hc⟩ := add_spec h a.wf a.idx x
      rw [e] at e'; injection e' with e'; injection e' with e1 e2'; subst e1; subst e2'
      rcases hc with ⟨hc, _⟩ | ⟨_, _, b, k, _, ao⟩
      · exact absurd rfl hc
      · refine ⟨h2, vs2, e2, a2, by rw [w2, ao.w], ⟨k2 + k, ?_⟩, by simp at l2 ⊢; omega, by rw [f2, ao.full]⟩
        rw [b2, ao.w, ao.bmin, bmin_shift]; push_cast; ring
    · obtain ⟨h2, vs2, e2, a2, w2, ⟨k2, b2⟩, l2, f2⟩ := ih h1 vs a1
      rw [if_neg hne]
      exact ⟨h2, vs2, e2, a2, by rw [w2, sd.w], ⟨k2, by rw [b2, sd.w, sd.bmin]⟩, by simp at l2 ⊢; omega, by rw [f2, sd.isFull]⟩

end EaselModel.Stats
