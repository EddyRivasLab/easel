import EaselModel.Stats.HistCens
/-! # `esl_histogram_SetTailByMass` agrees with the raw data (C11, over ℚ) -/
namespace EaselModel.Stats

theorem binSum_succ_top (obs : Array Nat) : ∀ (k : Nat) (lo : Int), binSum obs lo (k + 1) = binSum obs lo k + obsAt obs (lo + k) := by
  intro k
  induction k with
  | zero => intro lo; simp [binSum]
  | succ k ih =>
    intro lo
    show obsAt obs lo + binSum obs (lo + 1) (k + 1) = (obsAt obs lo + binSum obs (lo + 1) k) + obsAt obs (lo + ((k + 1 : Nat) : Int))
    rw [ih (lo + 1)]
    have : lo + 1 + (k : Int) = lo + ((k + 1 : Nat) : Int) := by push_cast; ring
    rw [this]; omega

/-- sum of the bins `lo..hi` (inclusive) -/
def rangeSum (obs : Array Nat) (lo hi : Int) : Nat := binSum obs lo (hi - lo + 1).toNat

theorem rangeSum_step (obs : Array Nat) (lo hi : Int) (h : lo ≤ hi + 1) : rangeSum obs (lo - 1) hi = obsAt obs (lo - 1) + rangeSum obs lo hi := by
  unfold rangeSum
  have e : (hi - (lo - 1) + 1).toNat = (hi - lo + 1).toNat + 1 := by omega
  rw [e]
  show obsAt obs (lo - 1) + binSum obs (lo - 1 + 1) (hi - lo + 1).toNat = _
  rw [show lo - 1 + 1 = lo by omega]

/-- the downward scan of `SetTailByMass`, inside the bins: stops at the highest bin `b'` whose upper tail reaches `thresh`
    (`sum'` = that tail), or runs out at `imin - 1` with the whole sum -/
theorem tailScan_spec (obs : Array Nat) (thresh : ℚ) (imin top : Int) (h0 : 0 ≤ imin) (htop : top < obs.size) :
    ∀ (fuel : Nat) (b : Int), imin - 1 ≤ b → b ≤ top → (b - imin + 1).toNat ≤ fuel →
      (∀ j : Int, b < j → j ≤ top → (rangeSum obs j top : ℚ) < thresh) →
      ∃ b' : Int, tailScan obs thresh imin fuel b (rangeSum obs (b + 1) top) = .val (b', rangeSum obs (b' + 1) top + (if imin ≤ b' then obsAt obs b' else 0)) ∧
        imin - 1 ≤ b' ∧ b' ≤ b ∧ (imin ≤ b' → thresh ≤ (rangeSum obs b' top : ℚ)) ∧ (∀ j : Int, b' < j → j ≤ top → (rangeSum obs j top : ℚ) < thresh) := by
  intro fuel
  induction fuel with
  | zero =>
    intro b hb1 hb2 hf hprev
    have : b = imin - 1 := by omega
    subst this
    refine ⟨imin - 1, ?_, le_refl _, le_refl _, fun h => by omega, hprev⟩
    unfold tailScan; rw [if_neg (by omega)]; simp
  | succ k ih =>
    intro b hb1 hb2 hf hprev
    unfold tailScan
    by_cases c : b < imin
    · have : b = imin - 1 := by omega
      subst this
      rw [if_pos c]
      refine ⟨imin - 1, ?_, le_refl _, le_refl _, fun h => by omega, hprev⟩
      rw [if_neg (by omega)]; simp
    · rw [if_neg c, getObs_val obs b (by omega) (by omega)]
      simp only []
      have hstep : rangeSum obs (b + 1) top + obsAt obs b = rangeSum obs b top := by
        have := rangeSum_step obs (b + 1) top (by omega)
        rw [show b + 1 - 1 = b by omega] at this; omega
      rw [hstep]
      by_cases cg : thresh ≤ (rangeSum obs b top : ℚ)
      · have hg : Num.geb (Num.ofInt (rangeSum obs b top : Int) : ℚ) thresh = true := by
          rw [geb_q]; simpa using cg
        rw [if_pos hg]
        refine ⟨b, ?_, by omega, le_refl _, fun _ => cg, hprev⟩
        rw [if_pos (by omega)]; congr 2; omega
      · have hg : ¬ Num.geb (Num.ofInt (rangeSum obs b top : Int) : ℚ) thresh = true := by
          rw [geb_q]; simpa using cg
        rw [if_neg hg]
        have hb' : rangeSum obs b top = rangeSum obs (b - 1 + 1) top := by rw [show b - 1 + 1 = b by omega]
        rw [hb']
        obtain ⟨b', e, r1, r2, r3, r4⟩ := ih (b - 1) (by omega) (by omega) (by omega) (by
          intro j hj1 hj2
          by_cases ej : j = b
          · subst ej; exact not_le.1 cg
          · exact hprev j (by omega) hj2)
        exact ⟨b', e, r1, by omega, r3, r4⟩


theorem countP_le_gt (l : List ℚ) (t : ℚ) :
    l.countP (fun x => decide (x ≤ t)) + l.countP (fun x => decide (t < x)) = l.length := by
  rw [List.length_eq_countP_add_countP (fun x => decide (x ≤ t)) (l := l)]
  congr 1
  apply List.countP_congr
  intro x _
  simp only [decide_eq_true_eq, not_le]

/-- what `esl_histogram_SetTailByMass` leaves alone, whatever the histogram and the mass -/
theorem setTailByMass_frame (h : Hist ℚ) (p : ℚ) (h' : Hist ℚ) (m : ℚ) (e : h.setTailByMass p = .val (.ok, h', m)) :
    h'.imax = h.imax ∧ h'.obs = h.obs ∧ h'.w = h.w ∧ h'.bmin = h.bmin ∧ h'.datasetIs = .virtualCensored := by
  revert e
  fun_cases Hist.setTailByMass h p with
  | case1 => intro e; cases e
  | case2 =>
    intro e; injection e with e; injection e with _ e2; injection e2 with e2 _
    rw [← e2]; exact ⟨rfl, rfl, rfl, rfl, rfl⟩

/-- **`esl_histogram_SetTailByMass(pmass)`**, `0 < pmass ≤ 1`, non-empty data: no fault; the cutoff is the lower bound of a bin `b` in
    `imin..imax`; `No` = the number of accepted values above it `≥ pmass·n`, `z = n - No` = the number of accepted values `≤` it;
    and `b` is the HIGHEST such bin (the values above bin `b` alone fall short of the requested mass). -/
theorem setTailByMass_spec (h : Hist ℚ) (vs : List ℚ) (acc : Accounts h vs) (hne : vs ≠ []) (p : ℚ) (hp0 : 0 < p) (hp1 : p ≤ 1) :
    ∃ h' mass b, h.setTailByMass p = .val (.ok, h', mass) ∧ h.imin ≤ b ∧ b ≤ h.imax ∧ h'.cmin = b ∧ h'.phi = h.bmin + (b : ℚ) * h.w ∧
      h'.no = vs.countP (fun x => decide (h'.phi < x)) ∧ h'.z = vs.countP (fun x => decide (x ≤ h'.phi)) ∧
      p * vs.length ≤ h'.no ∧ (vs.countP (fun x => decide (h.bmin + ((b : ℚ) + 1) * h.w < x)) : ℚ) < p * vs.length ∧
      h'.nc = vs.length ∧ h'.obs = h.obs ∧ h'.isDone = true := by
  have hw := acc.wpos
  rcases idx_state h vs acc with ⟨hvs, _, _⟩ | ⟨_, i1, i2, i3⟩
  · exact absurd hvs hne
  have hsz := acc.wf.size
  have hnpos : 0 < vs.length := List.length_pos_of_ne_nil hne
  have hrange : ∀ j : Int, j ≤ h.imax + 1 →
      rangeSum h.obs j h.imax = vs.countP (fun x => decide (h.bmin + (j : ℚ) * h.w < x)) := by
    intro j hj2
    rw [rangeSum, show h.imax - j + 1 = h.imax + 1 - j by omega]
    exact binSum_above h vs acc j hj2
  have htot : rangeSum h.obs h.imin h.imax = vs.length := by
    rw [rangeSum, show h.imax - h.imin + 1 = h.imax + 1 - h.imin by omega]; exact binSum_all h vs acc
  have hinit : rangeSum h.obs (h.imax + 1) h.imax = 0 := by
    unfold rangeSum; rw [show (h.imax - (h.imax + 1) + 1).toNat = 0 by omega]; rfl
  obtain ⟨b, e, r1, r2, r3, r4⟩ := tailScan_spec h.obs (p * (vs.length : ℚ)) h.imin h.imax i1 (by omega)
    (h.imax - h.imin + 1).toNat h.imax (by omega) (le_refl _) (le_refl _) (by intro j hj1 hj2; omega)
  rw [hinit] at e
  -- the scan cannot fall through: the whole histogram reaches the requested mass
  have hb : h.imin ≤ b := by
    by_contra hc
    have hbe : b = h.imin - 1 := by omega
    have := r4 h.imin (by omega) i2
    rw [htot] at this
    have : (vs.length : ℚ) < 1 * vs.length := lt_of_lt_of_le this (mul_le_mul_of_nonneg_right hp1 (by positivity))
    linarith
  rw [if_pos hb] at e
  have hsum : rangeSum h.obs (b + 1) h.imax + obsAt h.obs b = rangeSum h.obs b h.imax := by
    have := rangeSum_step h.obs (b + 1) h.imax (by omega)
    rw [show b + 1 - 1 = b by omega] at this; omega
  rw [hsum] at e
  have hNo := hrange b (by omega)
  have hthresh : (Num.ofInt (h.n : Int) : ℚ) = (vs.length : ℚ) := by rw [acc.n]; simp
  unfold Hist.setTailByMass
  simp only [hthresh, e]
  have hle : rangeSum h.obs b h.imax ≤ vs.length := by rw [hNo]; exact List.countP_le_length
  have hphi : h.lbound b = h.bmin + (b : ℚ) * h.w := lbound_q h b
  have hz : h.n - rangeSum h.obs b h.imax = vs.countP (fun x => decide (x ≤ h.bmin + (b : ℚ) * h.w)) := by
    have := countP_le_gt vs (h.bmin + (b : ℚ) * h.w)
    rw [acc.n, hNo]; omega
  refine ⟨_, _, b, rfl, hb, r2, ?_, hphi, ?_, ?_, ?_, ?_, acc.n, rfl, rfl⟩
  · show (if b < 0 then 0 else b) = b; rw [if_neg (by omega)]
  · show h.n - (h.n - rangeSum h.obs b h.imax) = _
    rw [hphi, ← hNo, acc.n]; omega
  · show h.n - rangeSum h.obs b h.imax = _
    rw [hphi]; exact hz
  · show p * (vs.length : ℚ) ≤ ((h.n - (h.n - rangeSum h.obs b h.imax) : Nat) : ℚ)
    have : h.n - (h.n - rangeSum h.obs b h.imax) = rangeSum h.obs b h.imax := by rw [acc.n]; omega
    rw [this]; exact r3 hb
  · by_cases cb : b = h.imax
    · subst cb
      have : vs.countP (fun x => decide (h.bmin + ((h.imax : ℚ) + 1) * h.w < x)) = 0 := by
        rw [List.countP_eq_zero]; intro v hv; simp only [decide_eq_true_eq]
        exact not_lt.2 (value_range h vs acc v hv).2
      rw [this]; simp; positivity
    · have := r4 (b + 1) (by omega) (by omega)
      rw [hrange (b + 1) (by omega)] at this
      push_cast at this; exact this

end EaselModel.Stats
