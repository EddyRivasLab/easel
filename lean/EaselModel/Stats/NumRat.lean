import EaselModel.Stats.HistLemmas
import Mathlib.Data.Rat.Floor
import Mathlib.Algebra.Order.Floor.Ring
import Mathlib.Tactic.Linarith
import Mathlib.Tactic.Ring
import Mathlib.Tactic.FieldSimp
import Mathlib.Tactic.NormNum
/-! # The exact instance `Num ℚ` and the interval theorems of the histogram (C11)

Over `ℚ` the arithmetic of `esl_histogram_Score2Bin` is exact, so the bin is *the* bin whose half-open interval
`(bmin + b·w, bmin + (b+1)·w]` contains the value. (Binary64 placement of a value within rounding distance of a bin edge
is layer L0: checked by the bit-exact differential run against the `Float` instance, not a theorem.) -/
namespace EaselModel.Stats

/-- `DBL_MAX` as a rational number -/
def dblMaxQ : ℚ := (2^53 - 1) * 2^971

noncomputable instance : Num ℚ where
  ofInt i := (i : ℚ)
  ltb a b := decide (a < b)
  leb a b := decide (a ≤ b)
  eqb a b := decide (a = b)
  ceil q := ((⌈q⌉ : Int) : ℚ)
  toInt q := if 0 ≤ q then ⌊q⌋ else ⌈q⌉
  isFinite q := decide (|q| ≤ dblMaxQ)
  exp _ := 0      -- transcendental functions are not used by the histogram theorems (the fits are proved over ℝ)
  log _ := 0
  sqrt _ := 0
  abs q := |q|
  pow _ _ := 0
  dblMax := dblMaxQ

@[simp] theorem ofInt_q (i : Int) : (Num.ofInt i : ℚ) = (i : ℚ) := rfl
@[simp] theorem ltb_q (a b : ℚ) : (Num.ltb a b = true) ↔ a < b := by simp [Num.ltb]
@[simp] theorem leb_q (a b : ℚ) : (Num.leb a b = true) ↔ a ≤ b := by simp [Num.leb]
@[simp] theorem gtb_q (a b : ℚ) : (Num.gtb a b = true) ↔ b < a := by simp [Num.gtb, Num.ltb]
@[simp] theorem geb_q (a b : ℚ) : (Num.geb a b = true) ↔ b ≤ a := by simp [Num.geb, Num.leb]
@[simp] theorem ceil_q (q : ℚ) : (Num.ceil q : ℚ) = ((⌈q⌉ : Int) : ℚ) := rfl
@[simp] theorem isFinite_q (q : ℚ) : (Num.isFinite q = true) ↔ |q| ≤ dblMaxQ := by simp [Num.isFinite]
theorem toInt_intCast (i : Int) : Num.toInt ((i : ℚ)) = i := by
  show (if (0 : ℚ) ≤ (i : ℚ) then ⌊(i : ℚ)⌋ else ⌈(i : ℚ)⌉) = i
  split <;> simp

theorem small_le_dblMaxQ (q : ℚ) (hq : |q| ≤ 1000000) : |q| ≤ dblMaxQ := by
  unfold dblMaxQ
  have h1 : (1 : ℚ) ≤ 2 ^ 971 := one_le_pow₀ (by norm_num)
  have h2 : (1000000 : ℚ) ≤ 2 ^ 53 - 1 := by norm_num
  have h3 : (2 ^ 53 - 1 : ℚ) * 1 ≤ (2 ^ 53 - 1) * 2 ^ 971 := mul_le_mul_of_nonneg_left h1 (by norm_num)
  rw [mul_one] at h3
  exact le_trans hq (le_trans h2 h3)

/-- the half-open interval of bin `i` on the grid `bmin + i·w` -/
def inBin (bmin w : ℚ) (i : Int) (x : ℚ) : Prop := bmin + i * w < x ∧ x ≤ bmin + (i + 1) * w

instance (bmin w : ℚ) (i : Int) (x : ℚ) : Decidable (inBin bmin w i x) := by unfold inBin; infer_instance

theorem grid_le {w : ℚ} (hw : 0 < w) (bmin : ℚ) {s t : ℚ} (h : s ≤ t) : bmin + s * w ≤ bmin + t * w :=
  add_le_add_right (mul_le_mul_of_nonneg_right h hw.le) bmin

theorem grid_lt {w : ℚ} (hw : 0 < w) (bmin : ℚ) {s t : ℚ} (h : s < t) : bmin + s * w < bmin + t * w :=
  add_lt_add_right (mul_lt_mul_of_pos_right h hw) bmin

theorem inBin_unique {bmin w : ℚ} (hw : 0 < w) {i j : Int} {x : ℚ} (hi : inBin bmin w i x) (hj : inBin bmin w j x) : i = j := by
  -- if `i < j` then `x ≤ edge (i+1) ≤ edge j < x`
  have key : ∀ {i j : Int}, inBin bmin w i x → inBin bmin w j x → ¬ i < j := fun hi hj h =>
    lt_irrefl x ((hi.2.trans (grid_le hw bmin (by exact_mod_cast h))).trans_lt hj.1)
  exact le_antisymm (not_lt.1 (key hj hi)) (not_lt.1 (key hi hj))

theorem inBin_ceil (bmin w : ℚ) (hw : 0 < w) (x : ℚ) : inBin bmin w ⌈(x - bmin) / w - 1⌉ x := by
  have e : x = bmin + (x - bmin) / w * w := by rw [div_mul_cancel₀ _ hw.ne']; ring
  have h1 := Int.le_ceil ((x - bmin) / w - 1)
  have h2 := Int.ceil_lt_add_one ((x - bmin) / w - 1)
  rw [sub_add_cancel] at h2
  exact ⟨(grid_lt hw bmin h2).trans_eq e.symm, e.trans_le (grid_le hw bmin (sub_le_iff_le_add.1 h1))⟩

/-- **`Score2Bin` over ℚ**: status OK iff the value is finite and its bin number fits an `int`; the bin returned is the one
    whose half-open interval `(bmin + b·w, bmin + (b+1)·w]` contains `x`. -/
theorem score2bin_q (h : Hist ℚ) (hw : 0 < h.w) (x : ℚ) :
    let b := ⌈(x - h.bmin) / h.w - 1⌉
    (h.score2bin x = (.ok, b) ∧ inBin h.bmin h.w b x ∧ |x| ≤ dblMaxQ ∧ -2147483648 ≤ b ∧ b ≤ 2147483647) ∨
    (h.score2bin x = (.erange, 0) ∧ (¬ |x| ≤ dblMaxQ ∨ b < -2147483648 ∨ 2147483647 < b)) := by
  intro b
  have hin : inBin h.bmin h.w b x := inBin_ceil h.bmin h.w hw x
  unfold Hist.score2bin
  have hy : (x - h.bmin) / h.w - (Num.ofInt 1 : ℚ) = (x - h.bmin) / h.w - 1 := by
    show (x - h.bmin) / h.w - ((1 : Int) : ℚ) = _; rw [Int.cast_one]
  rw [hy]
  have hc : (Num.ceil ((x - h.bmin) / h.w - 1) : ℚ) = (b : ℚ) := rfl
  rw [hc]
  have hmin : (Num.ofInt INT_MIN : ℚ) = ((-2147483648 : Int) : ℚ) := rfl
  have hmax : (Num.ofInt INT_MAX : ℚ) = ((2147483647 : Int) : ℚ) := rfl
  rw [hmin, hmax]
  by_cases hf : |x| ≤ dblMaxQ
  · have : Num.isFinite x = true := by rw [isFinite_q]; exact hf
    simp only [this, Bool.not_true, Bool.false_eq_true, if_false]
    by_cases hr : -2147483648 ≤ b ∧ b ≤ 2147483647
    · left
      have g : (Num.ltb (b : ℚ) ((-2147483648 : Int) : ℚ) || Num.gtb (b : ℚ) ((2147483647 : Int) : ℚ)) = false := by
        rw [Bool.or_eq_false_iff]
        constructor
        · rw [Bool.eq_false_iff]; intro hc; rw [ltb_q] at hc
          have : b < -2147483648 := by exact_mod_cast hc
          omega
        · rw [Bool.eq_false_iff]; intro hc; rw [gtb_q] at hc
          have : (2147483647 : Int) < b := by exact_mod_cast hc
          omega
      simp only [g, Bool.false_eq_true, if_false]
      refine ⟨?_, hin, hf, hr.1, hr.2⟩
      rw [toInt_intCast]
    · right
      have g : (Num.ltb (b : ℚ) ((-2147483648 : Int) : ℚ) || Num.gtb (b : ℚ) ((2147483647 : Int) : ℚ)) = true := by
        rw [Bool.or_eq_true, ltb_q, gtb_q]
        by_cases h1 : b < -2147483648
        · left; exact_mod_cast h1
        · right
          have : (2147483647 : Int) < b := by omega
          exact_mod_cast this
      simp only [g, if_true]
      refine ⟨trivial, Or.inr ?_⟩
      omega
  · right
    have : Num.isFinite x = false := by
      rw [Bool.eq_false_iff]; intro hc; rw [isFinite_q] at hc; exact hf hc
    simp only [this, Bool.not_false, if_true]
    exact ⟨trivial, Or.inl hf⟩

end EaselModel.Stats
