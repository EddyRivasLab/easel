import EaselModel.Stats.Minimizer
/-! # The minimiser with its run statistics (`ESL_MIN_DAT`) — C11, kind H

`esl_min_ConjugateGradientDescent(…, dat)` fills a table: `dat->niter`, and per iteration `fx[i]`, `brack_n[i]`, `brent_n[i]`,
`nfunc[i]`. The functions below are the functions of `Minimizer.lean` with those counters carried along (same code, same
order); `*_fst` theorems prove that dropping the counters gives back exactly the plain model, so every theorem about `cgd`
is a theorem about the run whose counters the driver prints and the check compares with the C table. Core Lean only. -/
namespace EaselModel.Stats
open Num

variable {α : Type} [Num α]

/-- `bracket()`'s loop with its `niter` -/
def bracketLoopCGN (f : α → α) (maxIter : Nat) : Nat → Nat → Bracket α → Option (Bracket α × Nat)
  | 0, niter, b => some (b, niter)
  | k+1, niter, b =>
    if leb b.fc b.fb then
      let ax := b.bx; let bx := b.cx
      let fa := b.fb; let fb := b.fc
      let cx := bx + (bx - ax) * (1.618 : α)
      let fc := f cx
      let nb : Bracket α := { ax := ax, bx := bx, cx := cx, fa := fa, fb := fb, fc := fc }
      if !(eqb ax bx) && !(eqb bx cx) && eqb fa fb && eqb fb fc then some (nb, niter) else
      let niter := niter + 1
      if niter > maxIter then none else bracketLoopCGN f maxIter k niter nb
    else some (b, niter)

theorem bracketLoopCGN_fst (f : α → α) (maxIter : Nat) (k niter : Nat) (b : Bracket α) :
    (bracketLoopCGN f maxIter k niter b).map Prod.fst = bracketLoopCG f maxIter k niter b := by
  fun_induction bracketLoopCGN f maxIter k niter b with
  | case1 => rfl
  | case2 _ _ _ h1 _ _ _ _ _ _ _ h2 => rw [bracketLoopCG, if_pos h1]; exact (if_pos h2).symm
  | case3 _ _ _ h1 _ _ _ _ _ _ h2 _ h3 => rw [bracketLoopCG, if_pos h1]; exact ((if_neg h2).trans (if_pos h3)).symm
  | case4 _ _ _ h1 _ _ _ _ _ _ _ h2 _ h3 ih => rw [bracketLoopCG, if_pos h1, ih]; exact ((if_neg h2).trans (if_neg h3)).symm
  | case5 _ _ _ h1 => rw [bracketLoopCG, if_neg h1]; rfl

theorem bracketLoopCGN_le (f : α → α) (maxIter : Nat) (k niter : Nat) (b b' : Bracket α) (n' : Nat)
    (h : niter ≤ maxIter) (e : bracketLoopCGN f maxIter k niter b = some (b', n')) : n' ≤ maxIter := by
  fun_induction bracketLoopCGN f maxIter k niter b with
  | case1 | case2 | case5 => injection e with e; injection e with _ e; omega
  | case3 => cases e
  | case4 _ _ _ _ _ _ _ _ _ _ _ _ _ _ ih => exact ih (by omega) e

/-- `bracket()` with `dat->brack_n` -/
def bracketCGN (cfg : MinCfg α) (fline : α → α) (f0 : α) (firststep : α) : Option (Bracket α × Nat) :=
  let ax : α := zero
  let fa := f0
  let bx := firststep
  let fb := fline bx
  let (ax, bx, fa, fb) := if gtb fb fa then (bx, ax, fb, fa) else (ax, bx, fa, fb)
  let cx := bx + (bx - ax) * (1.618 : α)
  let fc := fline cx
  match bracketLoopCGN fline cfg.brackMaxIter (cfg.brackMaxIter + 2) 0 { ax := ax, bx := bx, cx := cx, fa := fa, fb := fb, fc := fc } with
  | none => none
  | some (b, n) => if gtb b.ax b.cx then some ({ b with ax := b.cx, cx := b.ax, fa := b.fc, fc := b.fa }, n) else some (b, n)

theorem bracketCGN_fst (cfg : MinCfg α) (fline : α → α) (f0 firststep : α) :
    (bracketCGN cfg fline f0 firststep).map Prod.fst = bracketCG cfg fline f0 firststep := by
  unfold bracketCGN bracketCG
  simp only []
  rw [← bracketLoopCGN_fst]
  cases bracketLoopCGN fline cfg.brackMaxIter (cfg.brackMaxIter + 2) 0 _ with
  | none => rfl
  | some r => obtain ⟨b, n⟩ := r; simp only [Option.map_some]; split <;> rfl

theorem bracketCGN_le (cfg : MinCfg α) (fline : α → α) (f0 firststep : α) (b : Bracket α) (n : Nat)
    (h : bracketCGN cfg fline f0 firststep = some (b, n)) : n ≤ cfg.brackMaxIter := by
  unfold bracketCGN at h
  simp only [] at h
  split at h
  · cases h
  · rename_i b' n' e
    have := bracketLoopCGN_le _ _ _ _ _ _ _ (Nat.zero_le _) e
    split at h <;> (simp only [Option.some.injEq, Prod.mk.injEq] at h; omega)

/-- `brent()`'s loop with its `niter` (passes that got beyond the convergence test) -/
def brentLoopN (eps t : α) (fline : α → α) : Nat → Nat → BrentSt α → Option ((α × α) × Nat)
  | 0, _, _ => none
  | k+1, n, s =>
    match brentStep eps t fline s with
    | .inl r => some (r, n)
    | .inr s' => brentLoopN eps t fline k (n + 1) s'

theorem brentLoopN_fst (eps t : α) (fline : α → α) : ∀ (k n : Nat) (s : BrentSt α),
    (brentLoopN eps t fline k n s).map Prod.fst = brentLoop eps t fline k s := by
  intro k
  induction k with
  | zero => intro n s; rfl
  | succ k ih =>
    intro n s
    unfold brentLoopN brentLoop
    cases brentStep eps t fline s with
    | inl r => rfl
    | inr s' => exact ih _ _

/-- `brent()` with `dat->brent_n` -/
def brentCGN (cfg : MinCfg α) (fline : α → α) (a b : α) : Option ((α × α) × Nat) :=
  let x := a + goldC * (b - a)
  let fx := fline x
  brentLoopN cfg.brentRtol cfg.brentAtol fline brentFuel 0
    { a := a, b := b, x := x, v := x, w := x, fx := fx, fv := fx, fw := fx, d := zero, e := zero }

theorem brentCGN_fst (cfg : MinCfg α) (fline : α → α) (a b : α) :
    (brentCGN cfg fline a b).map Prod.fst = brentCG cfg fline a b := brentLoopN_fst _ _ _ _ _ _

/-- one row `i ≥ 1` of the `ESL_MIN_DAT` table -/
structure IterRec (α : Type) where
  fx : α
  brackN : Nat
  brentN : Nat
  nfunc : Nat

/-- function evaluations of one gradient: `numeric_derivative()` adds `2n`, the caller's `dfunc` none -/
def gradEvals (df : Option (Array α → Array α)) (n : Nat) : Nat := match df with | some _ => 0 | none => 2 * n

/-- the main loop with the table rows it completes (newest first). A row is complete when `dat->fx[i]` has been stored, i.e. the
    iteration got as far as the convergence tests. -/
def cgLoopT (cfg : MinCfg α) (f : Array α → α) (df : Option (Array α → Array α)) :
    Nat → CGState α → α → List (IterRec α) → (MinRes α × StopWhy) × List (IterRec α)
  | 0, s, fx, tr => ((.res .enohalt s.x fx, .none), tr)
  | k+1, s, _, tr =>
    let bx := firstStep cfg s.cg
    let fline (t : α) : α := f (pointAt s.x s.cg t)
    match bracketCGN cfg fline (f s.x) bx with
    | none => ((.res .enoresult s.x (one / zero), .none), tr)
    | some (br, bn) =>
      match brentCGN cfg fline br.ax br.cx with
      | none => ((.hang, .none), tr)
      | some ((t, fx), rn) =>
        let x := pointAt s.x s.cg t
        if !(isFinite fx) then ((.res .erange x (one / zero), .none), tr) else
        let w1 := negGradient cfg f df x
        let coeff := (Array.zipWith (fun w d => (w - d) * w) w1 s.dx).foldl (fun acc t => acc + t) zero
        let coeff := coeff / vdot s.dx s.dx
        let w2 := Array.zipWith (fun w c => w + c * coeff) w1 s.cg
        let tr := { fx := fx, brackN := bn, brentN := rn, nfunc := (bn + 3) + (rn + 1) + gradEvals df s.x.size : IterRec α } :: tr
        if dcompare fx s.oldfx cfg.cgRtol cfg.cgAtol then ((.res .ok x fx, .converged), tr) else
        if allZero w2 then ((.res .ok x fx, .zeroDirection), tr) else
        cgLoopT cfg f df k { x := x, dx := w1, cg := w2, oldfx := fx } fx tr

theorem cgLoopT_fst (cfg : MinCfg α) (f : Array α → α) (df : Option (Array α → Array α)) :
    ∀ (k : Nat) (s : CGState α) (fx : α) (tr : List (IterRec α)), (cgLoopT cfg f df k s fx tr).1 = cgLoop cfg f df k s fx := by
  intro k
  induction k with
  | zero => intro s fx tr; rfl
  | succ k ih =>
    intro s fx tr
    unfold cgLoopT cgLoop
    simp only []
    rw [← bracketCGN_fst]
    cases bracketCGN cfg (fun t => f (pointAt s.x s.cg t)) (f s.x) (firstStep cfg s.cg) with
    | none => rfl
    | some r =>
      obtain ⟨br, bn⟩ := r
      simp only [Option.map_some]
      rw [← brentCGN_fst]
      cases brentCGN cfg (fun t => f (pointAt s.x s.cg t)) br.ax br.cx with
      | none => rfl
      | some q =>
        obtain ⟨⟨t, fx'⟩, rn⟩ := q
        simp only [Option.map_some]
        cases isFinite fx'
        · rfl
        · simp only [Bool.not_true, Bool.false_eq_true, if_false]
          cases dcompare fx' s.oldfx cfg.cgRtol cfg.cgAtol
          · simp only [Bool.false_eq_true, if_false]
            split
            · rfl
            · exact ih _ _ _
          · rfl

/-- the rows of a run: at most one per pass of the main loop, each with `brack_n ≤ brack_maxiter` (if the rows handed in have) -/
theorem cgLoopT_rows (cfg : MinCfg α) (f : Array α → α) (df : Option (Array α → Array α))
    (k : Nat) (s : CGState α) (fx : α) (tr : List (IterRec α)) :
    (cgLoopT cfg f df k s fx tr).2.length ≤ tr.length + k ∧
    ((∀ r ∈ tr, r.brackN ≤ cfg.brackMaxIter) → ∀ r ∈ (cgLoopT cfg f df k s fx tr).2, r.brackN ≤ cfg.brackMaxIter) := by
  fun_induction cgLoopT cfg f df k s fx tr with
  | case1 | case2 | case3 | case4 => -- the pass ended before `dat->fx[i]` was stored: no row
    exact ⟨Nat.le_add_right _ _, id⟩
  | case5 _ _ _ _ _ _ _ _ hb | case6 _ _ _ _ _ _ _ _ hb => -- one row, and the run ends
    exact ⟨by rw [List.length_cons]; omega, fun h => List.forall_mem_cons.2 ⟨bracketCGN_le _ _ _ _ _ _ hb, h⟩⟩
  | case7 _ _ _ _ _ _ _ _ hb _ _ _ _ _ _ _ _ _ _ _ _ _ ih =>
    exact ⟨Nat.le_trans ih.1 (by rw [List.length_cons]; omega), fun h => ih.2 (List.forall_mem_cons.2 ⟨bracketCGN_le _ _ _ _ _ _ hb, h⟩)⟩

theorem cgLoopT_length (cfg : MinCfg α) (f : Array α → α) (df : Option (Array α → Array α)) :
    ∀ (k : Nat) (s : CGState α) (fx : α) (tr : List (IterRec α)), (cgLoopT cfg f df k s fx tr).2.length ≤ tr.length + k :=
  fun k s fx tr => (cgLoopT_rows cfg f df k s fx tr).1

/-- the statistics of a whole run: `nfunc[0]` and the completed rows `1..` in order -/
structure MinTrace (α : Type) where
  nfunc0 : Nat
  rows : List (IterRec α)

/-- `esl_min_ConjugateGradientDescent(cfg, x, n, func, dfunc, prm, &fx, dat)` -/
def cgdT (cfg : MinCfg α) (f : Array α → α) (df : Option (Array α → Array α)) (x0 : Array α) : (MinRes α × StopWhy) × MinTrace α :=
  let oldfx := f x0
  if !(isFinite oldfx) then ((.res .erange x0 (one / zero), .none), { nfunc0 := 1, rows := [] }) else
  let dx := negGradient cfg f df x0
  let nf0 := 1 + gradEvals df x0.size
  if allZero dx then ((.res .ok x0 oldfx, .zeroGradient), { nfunc0 := nf0, rows := [] }) else
  let r := cgLoopT cfg f df cfg.maxIter { x := x0, dx := dx, cg := dx, oldfx := oldfx } oldfx []
  (r.1, { nfunc0 := nf0, rows := r.2.reverse })

/-- **the run whose statistics are compared with `ESL_MIN_DAT` IS the run the theorems are about** -/
theorem cgdT_fst (cfg : MinCfg α) (f : Array α → α) (df : Option (Array α → Array α)) (x0 : Array α) :
    (cgdT cfg f df x0).1 = cgd cfg f df x0 := by
  unfold cgdT cgd
  simp only []
  split
  · rfl
  · split
    · rfl
    · exact cgLoopT_fst _ _ _ _ _ _ _

theorem cgdT_bounds (cfg : MinCfg α) (f : Array α → α) (df : Option (Array α → Array α)) (x0 : Array α) :
    (cgdT cfg f df x0).2.rows.length ≤ cfg.maxIter ∧ ∀ r ∈ (cgdT cfg f df x0).2.rows, r.brackN ≤ cfg.brackMaxIter := by
  fun_cases cgdT cfg f df x0 with
  | case1 | case2 => exact ⟨Nat.zero_le _, by intro r hr; cases hr⟩
  | case3 =>
    obtain ⟨h1, h2⟩ := cgLoopT_rows cfg f df cfg.maxIter _ _ []
    exact ⟨by simpa using h1, fun r hr => h2 (by intro r hr; cases hr) r (List.mem_reverse.1 hr)⟩

end EaselModel.Stats
