import EaselModel.Stats.Fit
import Mathlib.Analysis.SpecialFunctions.Log.Deriv
import Mathlib.Analysis.SpecialFunctions.Pow.Real
import Mathlib.Analysis.SpecialFunctions.Sqrt
import Mathlib.Tactic.Linarith
import Mathlib.Tactic.Ring
import Mathlib.Tactic.FieldSimp
/-! # The fits as real functions (C11): instance `Num ℝ` and the likelihood theorems

The same definitions that run bit-for-bit against the C code (`Fit.lean`, `Float` instance) are read here over `ℝ`.
Nothing is claimed about binary64 rounding (layer L0). -/
namespace EaselModel.Stats
open Real

noncomputable instance : Num ℝ where
  ofInt i := (i : ℝ)
  ltb a b := decide (a < b)
  leb a b := decide (a ≤ b)
  eqb a b := decide (a = b)
  ceil q := ((⌈q⌉ : Int) : ℝ)
  toInt q := if 0 ≤ q then ⌊q⌋ else ⌈q⌉
  isFinite _ := true
  exp := Real.exp
  log := Real.log
  sqrt := Real.sqrt
  abs q := |q|
  pow := Real.rpow
  dblMax := (2^53 - 1) * 2^971

@[simp] theorem ofInt_r (i : Int) : (Num.ofInt i : ℝ) = (i : ℝ) := rfl
@[simp] theorem zero_r : (Num.zero : ℝ) = 0 := by show ((0 : Int) : ℝ) = 0; simp
@[simp] theorem one_r : (Num.one : ℝ) = 1 := by show ((1 : Int) : ℝ) = 1; simp
@[simp] theorem ltb_r (a b : ℝ) : (Num.ltb a b = true) ↔ a < b := by simp [Num.ltb]
@[simp] theorem leb_r (a b : ℝ) : (Num.leb a b = true) ↔ a ≤ b := by simp [Num.leb]
@[simp] theorem gtb_r (a b : ℝ) : (Num.gtb a b = true) ↔ b < a := by simp [Num.gtb, Num.ltb]
@[simp] theorem exp_r (a : ℝ) : (Num.exp a : ℝ) = Real.exp a := rfl
@[simp] theorem log_r (a : ℝ) : (Num.log a : ℝ) = Real.log a := rfl
@[simp] theorem abs_r (a : ℝ) : (Num.abs a : ℝ) = |a| := rfl
@[simp] theorem eqb_r (a b : ℝ) : (Num.eqb a b = true) ↔ a = b := by simp [Num.eqb]
@[simp] theorem geb_r (a b : ℝ) : (Num.geb a b = true) ↔ b ≤ a := by simp [Num.geb, Num.leb]
theorem size_r (xs : Array ℝ) : (Num.ofInt (xs.size : Int) : ℝ) = (xs.toList.length : ℝ) := by
  rw [ofInt_r, Array.length_toList]; simp
theorem lbound_r (h : Hist ℝ) (i : Int) : h.lbound i = h.w * (i : ℝ) + h.bmin := rfl
theorem ubound_r (h : Hist ℝ) (i : Int) : h.ubound i = h.w * ((i : ℝ) + 1) + h.bmin := by
  unfold Hist.ubound; rw [ofInt_r]; push_cast; ring


theorem log_le_tangent {t t' : ℝ} (ht : 0 < t) (ht' : 0 < t') : Real.log t' ≤ Real.log t + (t' - t) / t := by
  have h := Real.log_le_sub_one_of_pos (div_pos ht' ht)
  rw [Real.log_div ht'.ne' ht.ne'] at h
  rw [sub_div, div_self ht.ne']; linarith

theorem log_lt_tangent {t t' : ℝ} (ht : 0 < t) (ht' : 0 < t') (hne : t' ≠ t) : Real.log t' < Real.log t + (t' - t) / t := by
  have h := Real.log_lt_sub_one_of_pos (div_pos ht' ht) (fun h1 => hne ((div_eq_one_iff_eq ht.ne').1 h1))
  rw [Real.log_div ht'.ne' ht.ne'] at h
  rw [sub_div, div_self ht.ne']; linarith

theorem exp_ge_tangent (a b : ℝ) : Real.exp a * (1 + (b - a)) ≤ Real.exp b := by
  have h := mul_le_mul_of_nonneg_left (Real.add_one_le_exp (b - a)) (Real.exp_pos a).le
  rw [← Real.exp_add, add_sub_cancel] at h
  linarith

theorem exp_gt_tangent {a b : ℝ} (hne : b ≠ a) : Real.exp a * (1 + (b - a)) < Real.exp b := by
  have h := mul_lt_mul_of_pos_left (Real.add_one_lt_exp (sub_ne_zero.2 hne)) (Real.exp_pos a)
  rw [← Real.exp_add, add_sub_cancel] at h
  linarith

theorem foldl_add (f : ℝ → ℝ) (l : List ℝ) (a : ℝ) : l.foldl (fun acc x => acc + f x) a = a + (l.map f).sum := by
  induction l generalizing a with
  | nil => simp
  | cons x t ih => rw [List.foldl_cons, ih, List.map_cons, List.sum_cons]; ring

theorem hasDerivAt_list_sum {β : Type} (l : List β) (F : β → ℝ → ℝ) (F' : β → ℝ) (x : ℝ)
    (h : ∀ b ∈ l, HasDerivAt (F b) (F' b) x) : HasDerivAt (fun y => (l.map (fun b => F b y)).sum) (l.map F').sum x := by
  induction l with
  | nil => simpa using hasDerivAt_const x (0 : ℝ)
  | cons a t ih =>
    simp only [List.map_cons, List.sum_cons]
    exact (h a (List.mem_cons_self)).add (ih (fun b hb => h b (List.mem_cons_of_mem _ hb)))

theorem hasDerivAt_one_div {a : ℝ} (ha : a ≠ 0) : HasDerivAt (fun b : ℝ => 1 / b) (-(1 / (a * a))) a := by
  refine ((hasDerivAt_inv ha).congr_of_eventuallyEq (Filter.Eventually.of_forall (fun b => by simp))).congr_deriv ?_
  rw [pow_two]; field_simp

/-- `exp (τ·(w + l))` (`= (λ(x-μ))^τ` with `w = log λ`, `l = log(x-μ)`) in `w` and in `τ` -/
theorem hasDerivAt_exp_pow_w (tau w l : ℝ) : HasDerivAt (fun w : ℝ => Real.exp (tau * (w + l))) (tau * Real.exp (tau * (w + l))) w := by
  have h : HasDerivAt (fun w : ℝ => tau * (w + l)) tau w := by simpa using ((hasDerivAt_id w).add_const l).const_mul tau
  exact h.exp.congr_deriv (by ring)

theorem hasDerivAt_exp_pow_tau (tau w l : ℝ) : HasDerivAt (fun t : ℝ => Real.exp (t * (w + l))) ((w + l) * Real.exp (tau * (w + l))) tau := by
  have h : HasDerivAt (fun t : ℝ => t * (w + l)) (w + l) tau := by simpa using (hasDerivAt_id tau).mul_const (w + l)
  exact h.exp.congr_deriv (by ring)

theorem list_sum_le_of_forall {β : Type} (l : List β) (F G : β → ℝ) (h : ∀ b ∈ l, F b ≤ G b) : (l.map F).sum ≤ (l.map G).sum := by
  induction l with
  | nil => simp
  | cons a t ih =>
    simp only [List.map_cons, List.sum_cons]
    exact add_le_add (h a List.mem_cons_self) (ih (fun b hb => h b (List.mem_cons_of_mem _ hb)))

theorem list_sum_affine (l : List ℝ) (F G H : ℝ → ℝ) (a b : ℝ) :
    (l.map (fun x => F x + G x * a + H x * b)).sum = (l.map F).sum + (l.map G).sum * a + (l.map H).sum * b := by
  induction l with
  | nil => simp
  | cons x t ih => simp only [List.map_cons, List.sum_cons, ih]; ring

theorem list_sum_lt_of_forall {β : Type} (l : List β) (hl : l ≠ []) (F G : β → ℝ) (h : ∀ b ∈ l, F b < G b) : (l.map F).sum < (l.map G).sum := by
  induction l with
  | nil => exact absurd rfl hl
  | cons a t ih =>
    simp only [List.map_cons, List.sum_cons]
    by_cases ht : t = []
    · subst ht; simpa using h a List.mem_cons_self
    · exact add_lt_add (h a List.mem_cons_self) (ih ht (fun b hb => h b (List.mem_cons_of_mem _ hb)))

theorem sum_map_skip {β : Type} (l : List β) (p : β → Prop) [DecidablePred p] (g : β → ℝ) :
    (l.map (fun x => if p x then 0 else g x)).sum = ((l.filter (fun x => decide (¬ p x))).map g).sum := by
  induction l with
  | nil => rfl
  | cons a t ih => by_cases h : p a <;> simp [h, ih]

theorem sum_map_neg (xs : List ℝ) (f : ℝ → ℝ) : (xs.map (fun x => -(f x))).sum = -(xs.map f).sum := by
  induction xs with
  | nil => simp
  | cons a t ih => simp only [List.map_cons, List.sum_cons, ih]; ring

theorem sum_map_const_sub {β : Type} (l : List β) (c : ℝ) (g : β → ℝ) :
    (l.map (fun x => c - g x)).sum = l.length * c - (l.map g).sum := by
  induction l with
  | nil => simp
  | cons a t ih => simp only [List.map_cons, List.sum_cons, List.length_cons, ih]; push_cast; ring

theorem sumMap_r (f : ℝ → ℝ) (xs : Array ℝ) : sumMap f xs = (xs.toList.map f).sum := by
  unfold sumMap
  rw [← Array.foldl_toList, foldl_add, zero_r, zero_add]

theorem foldl_min (l : List ℝ) (a : ℝ) :
    let m := l.foldl (fun mu x => if Num.ltb x mu then x else mu) a
    (m ≤ a ∧ ∀ x ∈ l, m ≤ x) ∧ (m = a ∨ m ∈ l) := by
  induction l generalizing a with
  | nil => simp
  | cons x t ih =>
    simp only [List.foldl_cons]
    by_cases c : x < a
    · have hc : Num.ltb x a = true := (ltb_r _ _).2 c
      rw [if_pos hc]
      obtain ⟨⟨h1, h2⟩, h3⟩ := ih x
      refine ⟨⟨le_trans h1 (le_of_lt c), ?_⟩, ?_⟩
      · intro y hy
        rcases List.mem_cons.1 hy with rfl | hy
        · exact h1
        · exact h2 y hy
      · rcases h3 with h3 | h3
        · right; rw [h3]; exact List.mem_cons_self
        · right; exact List.mem_cons_of_mem _ h3
    · have hc : ¬ Num.ltb x a = true := by rw [ltb_r]; exact c
      rw [if_neg hc]
      obtain ⟨⟨h1, h2⟩, h3⟩ := ih a
      refine ⟨⟨h1, ?_⟩, ?_⟩
      · intro y hy
        rcases List.mem_cons.1 hy with rfl | hy
        · exact le_trans h1 (not_lt.1 c)
        · exact h2 y hy
      · rcases h3 with h3 | h3
        · left; exact h3
        · right; exact List.mem_cons_of_mem _ h3


/-- log-likelihood of the exponential with location `mu` and rate `lam` (valid for `mu ≤ min xs`) -/
noncomputable def llExp (xs : List ℝ) (mu lam : ℝ) : ℝ := xs.length * Real.log lam - lam * (xs.map (fun x => x - mu)).sum

theorem exp_rate_max (n S lam : ℝ) (hn : 0 < n) (hS : 0 < S) (hl : 0 < lam) :
    n * Real.log lam - lam * S ≤ n * Real.log (n / S) - (n / S) * S ∧
    (n * Real.log lam - lam * S = n * Real.log (n / S) - (n / S) * S → lam = n / S) := by
  -- the tangent of `log` at `n / S`, times `n`
  have ht : 0 < n / S := div_pos hn hS
  have e : n * ((lam - n / S) / (n / S)) = lam * S - n / S * S := by field_simp
  constructor
  · have := mul_le_mul_of_nonneg_left (log_le_tangent ht hl) hn.le
    rw [mul_add, e] at this; linarith
  · intro heq
    by_contra hne
    have := mul_lt_mul_of_pos_left (log_lt_tangent ht hl hne) hn
    rw [mul_add, e] at this; linarith


theorem sum_sub_const (l : List ℝ) (c : ℝ) : (l.map (fun x => x - c)).sum = l.sum - l.length * c := by
  induction l with
  | nil => simp
  | cons a t ih => simp only [List.map_cons, List.sum_cons, List.length_cons, ih]; push_cast; ring

/-- the running minimum started at the first observation is the smallest observation -/
theorem minOf_first_spec (xs : Array ℝ) (hn : 0 < xs.size) :
    minOf xs (xs.getD 0 Num.zero) ∈ xs.toList ∧ ∀ x ∈ xs.toList, minOf xs (xs.getD 0 Num.zero) ≤ x := by
  have hx0 : xs.getD 0 Num.zero ∈ xs.toList := by
    rw [Array.getD_eq_getD_getElem?]
    have : xs[0]? = some xs[0] := by simp [hn]
    rw [this]; simp
  obtain ⟨⟨_, h2⟩, h3⟩ := foldl_min xs.toList (xs.getD 0 Num.zero)
  unfold minOf
  rw [← Array.foldl_toList]
  exact ⟨h3.elim (fun e => by rw [e]; exact hx0) id, h2⟩

/-- what `esl_exp_FitComplete` returns on non-empty data: `mu` = the smallest observation, `lambda = 1/(mean - mu)` -/
theorem expFitComplete_eq (xs : Array ℝ) (hn : 0 < xs.size) :
    ∃ mu : ℝ, expFitComplete xs = .res .ok #[mu, 1 / ((xs.toList.map (fun x => x - mu)).sum / xs.size)] ∧
      mu ∈ xs.toList ∧ ∀ x ∈ xs.toList, mu ≤ x := by
  unfold expFitComplete
  have h0 : (xs.size == 0) = false := by rw [beq_eq_false_iff_ne]; omega
  simp only [h0, Bool.false_eq_true, if_false]
  exact ⟨minOf xs (xs.getD 0 Num.zero), by rw [sumMap_r, one_r]; rfl, minOf_first_spec xs hn⟩

/-- **exponential fit = likelihood maximiser.** For data with two distinct values (`Σ(xᵢ - min) > 0`), the returned
    `(mu, lambda)` maximises `n log λ - λ Σ(xᵢ - μ)` over all admissible `μ' ≤ min xᵢ`, `λ' > 0`, and `lambda` is the unique
    maximiser in `λ` at the returned `mu`. -/
theorem exp_fit_maximises (xs : List ℝ) (mu : ℝ) (hmu : ∀ x ∈ xs, mu ≤ x) (hS : 0 < (xs.map (fun x => x - mu)).sum)
    (hn : 0 < xs.length) (mu' lam' : ℝ) (hmu' : mu' ≤ mu) (hl : 0 < lam') :
    let lam := 1 / ((xs.map (fun x => x - mu)).sum / xs.length)
    llExp xs mu' lam' ≤ llExp xs mu lam ∧ (llExp xs mu lam' = llExp xs mu lam → lam' = lam) := by
  intro lam
  have hnr : (0 : ℝ) < xs.length := by exact_mod_cast hn
  have elam : lam = (xs.length : ℝ) / (xs.map (fun x => x - mu)).sum := by
    show 1 / ((xs.map (fun x => x - mu)).sum / xs.length) = _
    rw [one_div, inv_div]
  obtain ⟨m1, m2⟩ := exp_rate_max xs.length ((xs.map (fun x => x - mu)).sum) lam' hnr hS hl
  unfold llExp
  rw [elam]
  refine ⟨?_, m2⟩
  have : (xs.map (fun x => x - mu)).sum ≤ (xs.map (fun x => x - mu')).sum := by
    rw [sum_sub_const, sum_sub_const]
    have : (xs.length : ℝ) * mu' ≤ xs.length * mu := mul_le_mul_of_nonneg_left hmu' (le_of_lt hnr)
    linarith
  have : lam' * (xs.map (fun x => x - mu)).sum ≤ lam' * (xs.map (fun x => x - mu')).sum :=
    mul_le_mul_of_nonneg_left this (le_of_lt hl)
  linarith


/-- Gumbel log-likelihood with `z` observations left-censored at `phi` (`z = 0`: complete data) -/
noncomputable def llGumbel (xs : List ℝ) (z : ℝ) (phi mu lam : ℝ) : ℝ :=
  xs.length * Real.log lam - (xs.map (fun x => lam * (x - mu))).sum - (xs.map (fun x => Real.exp (-lam * (x - mu)))).sum
    - z * Real.exp (-lam * (phi - mu))

/-- `Σ exp(-λ xᵢ) + z exp(-λ φ)` -/
noncomputable def gS (xs : List ℝ) (z phi lam : ℝ) : ℝ := (xs.map (fun x => Real.exp (-lam * x))).sum + z * Real.exp (-lam * phi)

theorem llGumbel_closed (xs : List ℝ) (z phi mu lam : ℝ) :
    llGumbel xs z phi mu lam = xs.length * Real.log lam - lam * xs.sum + xs.length * (lam * mu) - Real.exp (lam * mu) * gS xs z phi lam := by
  unfold llGumbel gS
  have e1 : (xs.map (fun x => lam * (x - mu))).sum = lam * xs.sum - xs.length * (lam * mu) := by
    rw [List.sum_map_mul_left xs (fun x => x - mu) lam, sum_sub_const]; ring
  have e2 : (xs.map (fun x => Real.exp (-lam * (x - mu)))).sum = Real.exp (lam * mu) * (xs.map (fun x => Real.exp (-lam * x))).sum := by
    rw [← List.sum_map_mul_left]
    congr 1; apply List.map_congr_left; intro x _
    rw [← Real.exp_add]; congr 1; ring
  have e3 : Real.exp (-lam * (phi - mu)) = Real.exp (lam * mu) * Real.exp (-lam * phi) := by
    rw [← Real.exp_add]; congr 1; ring
  rw [e1, e2, e3]; ring


/-- `Σ xᵢ e^{-λxᵢ} + z φ e^{-λφ}` -/
noncomputable def gT (xs : List ℝ) (z phi lam : ℝ) : ℝ := (xs.map (fun x => x * Real.exp (-lam * x))).sum + z * phi * Real.exp (-lam * phi)

theorem hasDerivAt_exp_neg_mul (x lam : ℝ) : HasDerivAt (fun l : ℝ => Real.exp (-l * x)) (-(x * Real.exp (-lam * x))) lam := by
  have h1 : HasDerivAt (fun l : ℝ => -l * x) (-x) lam := by
    have := (hasDerivAt_id' lam).neg.mul_const x
    simpa using this
  have := h1.exp
  convert this using 1; ring

theorem hasDerivAt_sum_exp (xs : List ℝ) (lam : ℝ) :
    HasDerivAt (fun l : ℝ => (xs.map (fun x => Real.exp (-l * x))).sum) (-(xs.map (fun x => x * Real.exp (-lam * x))).sum) lam :=
  (hasDerivAt_list_sum xs (fun x l => Real.exp (-l * x)) _ lam (fun x _ => hasDerivAt_exp_neg_mul x lam)).congr_deriv (sum_map_neg _ _)

theorem hasDerivAt_gS (xs : List ℝ) (z phi lam : ℝ) : HasDerivAt (fun l => gS xs z phi l) (-(gT xs z phi lam)) lam := by
  unfold gS gT
  have h2 := (hasDerivAt_exp_neg_mul phi lam).const_mul z
  have := (hasDerivAt_sum_exp xs lam).add h2
  exact this.congr_deriv (by ring)

/-- the profile log-likelihood `λ ↦ max_μ logL(μ, λ) = n log λ - λ Σx - n log(S(λ)/n) - n` -/
noncomputable def llGumbelProfile (xs : List ℝ) (z phi lam : ℝ) : ℝ :=
  xs.length * Real.log lam - lam * xs.sum - xs.length * Real.log (gS xs z phi lam / xs.length) - xs.length

theorem llGumbelProfile_eq (xs : List ℝ) (z phi lam : ℝ) (hn : 0 < xs.length) (hl : 0 < lam) (hS : 0 < gS xs z phi lam) :
    llGumbelProfile xs z phi lam = llGumbel xs z phi (-(Real.log (gS xs z phi lam / xs.length)) / lam) lam := by
  have hnr : (0 : ℝ) < xs.length := by exact_mod_cast hn
  rw [llGumbel_closed]
  unfold llGumbelProfile
  rw [mul_div_cancel₀ _ hl.ne', Real.exp_neg, Real.exp_log (div_pos hS hnr), inv_div, div_mul_cancel₀ _ hS.ne']
  ring

/-- **Lawless 4.1.5 / 4.2.3: for the given `λ` the returned `μ` is the exact maximiser in `μ`.**
    `μ̂ = -log(S(λ)/n)/λ` with `S = Σ e^{-λxᵢ} + z e^{-λφ}`; for every `μ'`: `logL(μ', λ) ≤ logL(μ̂, λ)`. -/
theorem gumbel_mu_maximises (xs : List ℝ) (z phi lam : ℝ) (hn : 0 < xs.length) (hl : 0 < lam) (hS : 0 < gS xs z phi lam) (mu' : ℝ) :
    llGumbel xs z phi mu' lam ≤ llGumbel xs z phi (-(Real.log (gS xs z phi lam / xs.length)) / lam) lam := by
  have hnr : (0 : ℝ) < xs.length := by exact_mod_cast hn
  rw [← llGumbelProfile_eq xs z phi lam hn hl hS, llGumbel_closed]
  unfold llGumbelProfile
  -- `e^u ≥ 1 + u` at `u = λμ' + log(S/n)`, times `n`
  have hu := mul_le_mul_of_nonneg_left (Real.add_one_le_exp (lam * mu' + Real.log (gS xs z phi lam / xs.length))) hnr.le
  rw [Real.exp_add, Real.exp_log (div_pos hS hnr), mul_left_comm, mul_div_cancel₀ _ hnr.ne'] at hu
  linarith

/-- Lawless eq. 4.1.6 / 4.2.2 as a real function of `λ` -/
noncomputable def lawlessF (xs : List ℝ) (z phi lam : ℝ) : ℝ := 1 / lam - xs.sum / xs.length + gT xs z phi lam / gS xs z phi lam

/-- **`lawless416`/`lawless422` is the derivative of the profile log-likelihood** (per sample): `d/dλ profile = n · f(λ)`.
    So a `λ` returned with `|f| < tol` is stationary within `n·tol`. -/
theorem lawless_is_profile_derivative (xs : List ℝ) (z phi lam : ℝ) (hn : 0 < xs.length) (hl : 0 < lam) (hS : 0 < gS xs z phi lam) :
    HasDerivAt (fun l => llGumbelProfile xs z phi l) (xs.length * lawlessF xs z phi lam) lam := by
  have hnr : (0 : ℝ) < xs.length := by exact_mod_cast hn
  unfold llGumbelProfile lawlessF
  have h1 : HasDerivAt (fun l : ℝ => (xs.length : ℝ) * Real.log l) ((xs.length : ℝ) * lam⁻¹) lam :=
    (Real.hasDerivAt_log (ne_of_gt hl)).const_mul _
  have h2 : HasDerivAt (fun l : ℝ => l * xs.sum) xs.sum lam := hasDerivAt_mul_const _
  have h3 : HasDerivAt (fun l : ℝ => gS xs z phi l / xs.length) (-(gT xs z phi lam) / xs.length) lam :=
    (hasDerivAt_gS xs z phi lam).div_const _
  have h4 := (h3.log (by positivity)).const_mul (xs.length : ℝ)
  have := ((h1.sub h2).sub h4).sub (hasDerivAt_const lam (xs.length : ℝ))
  refine this.congr_deriv ?_
  field_simp
  ring

theorem lawless416_r (xs : Array ℝ) (lam : ℝ) : (lawless416 xs lam).1 = lawlessF xs.toList 0 0 lam := by
  unfold lawless416 lawlessF gT gS
  simp only [sumMap_r, one_r, ofInt_r, eneg, exp_r, Array.length_toList]
  simp only [zero_mul, add_zero, List.map_id', neg_mul, one_mul, Int.cast_natCast]

theorem lawless422_r (xs : Array ℝ) (z : Int) (phi lam : ℝ) : (lawless422 xs z phi lam).1 = lawlessF xs.toList z phi lam := by
  unfold lawless422 lawlessF gT gS
  simp only [sumMap_r, one_r, ofInt_r, eneg, exp_r, Array.length_toList]
  simp only [List.map_id', neg_mul, one_mul, Int.cast_natCast]


section Loops
variable {α : Type} [Num α]

/-- the Newton/Raphson loop of the Gumbel fits uses at most its `k` rounds, and leaves early only at a point that passes the test -/
theorem newtonLoop_spec (f : α → α × α) (k i : Nat) (lam : α) :
    (newtonLoop f k i lam).1 ≤ i + k ∧
    ((newtonLoop f k i lam).1 < i + k → Num.ltb (Num.abs (f (newtonLoop f k i lam).2).1) tol = true) := by
  fun_induction newtonLoop f k i lam with
  | case1 => exact ⟨Nat.le_refl _, fun h => absurd h (Nat.lt_irrefl _)⟩
  | case2 _ _ lam _ _ hf ht => exact ⟨Nat.le_add_right _ _, fun _ => by show Num.ltb (Num.abs (f lam).1) tol = true; rw [hf]; exact ht⟩
  | case3 _ _ _ _ _ _ _ _ _ ih => exact ⟨by omega, fun h => ih.2 (by omega)⟩

theorem bisectLoop_spec (f : α → α × α) (k i : Nat) (l r m : α) :
    (bisectLoop f k i l r m).1 ≤ i + k ∧
    ((bisectLoop f k i l r m).1 < i + k → Num.ltb (Num.abs (f (bisectLoop f k i l r m).2).1) tol = true) := by
  fun_induction bisectLoop f k i l r m with
  | case1 => exact ⟨Nat.le_refl _, fun h => absurd h (Nat.lt_irrefl _)⟩
  | case2 _ _ _ _ _ _ _ ht => exact ⟨Nat.le_add_right _ _, fun _ => ht⟩
  | case3 _ _ _ _ _ _ _ _ _ ih | case4 _ _ _ _ _ _ _ _ _ ih => exact ⟨by omega, fun h => ih.2 (by omega)⟩

end Loops

theorem two_r : ((2.0 : ℝ)) = 2 := by norm_num
theorem thousand_r : ((1000.0 : ℝ)) = 1000 := by norm_num

/-- the only loop of the Gumbel fits without an iteration cap (`while (fx > 0.) { right *= 2.; if (right > 1000.) fail; … }`)
    ends within `k+1` rounds as soon as `right·2^k > 1000`, `right > 0`: every positive binary64 satisfies this for `k = 2199`
    (the smallest positive double is 2⁻¹⁰⁷⁴). `right ≤ 0` / NaN is rejected before the loop (/repo b44f0f8). -/
theorem bracketLoop_terminates (f : ℝ → ℝ × ℝ) : ∀ (k : Nat) (fx right : ℝ), 0 < right → 1000 < right * 2 ^ k →
    bracketLoop f (k + 1) fx right ≠ .fault := by
  intro k
  induction k with
  | zero =>
    intro fx right h0 h hc
    unfold bracketLoop at hc
    simp only [] at hc
    cases c : Num.gtb fx (Num.zero : ℝ)
    · simp only [c, Bool.false_eq_true, if_false] at hc; cases hc
    · simp only [c, if_true] at hc
      have : Num.gtb (right * (2.0 : ℝ)) (1000.0 : ℝ) = true := by rw [gtb_r, two_r, thousand_r]; simp at h; linarith
      simp only [this, if_true] at hc; cases hc
  | succ k ih =>
    intro fx right h0 h hc
    unfold bracketLoop at hc
    simp only [] at hc
    cases c : Num.gtb fx (Num.zero : ℝ)
    · simp only [c, Bool.false_eq_true, if_false] at hc; cases hc
    · simp only [c, if_true] at hc
      cases c2 : Num.gtb (right * (2.0 : ℝ)) (1000.0 : ℝ)
      · simp only [c2, Bool.false_eq_true, if_false] at hc
        exact ih _ _ (by rw [two_r]; positivity) (by rw [two_r]; rw [pow_succ] at h; linarith) hc
      · simp only [c2, if_true] at hc; cases hc


/-- steps 1–2.5 of `esl_gumbel_FitComplete/FitCensored`: a `λ` is only returned when the last evaluation had `|f(λ)| < tol` -/
theorem gumbelLambda_stationary {α : Type} [Num α] (f : α → α × α) (variance : α) (b : Bool) (lam : α)
    (h : gumbelLambda f variance b = .val (some lam)) : Num.ltb (Num.abs (f lam).1) tol = true := by
  revert h
  fun_cases gumbelLambda f variance b with
  | case1 _ i _ e hi => -- Newton/Raphson stopped before its 100th round
    intro h; cases h
    obtain ⟨h1, h2⟩ := newtonLoop_spec f 100 0 (piConst / Num.sqrt ((6.0 : α) * variance))
    rw [e] at h1 h2
    exact h2 (by have := bne_iff_ne.1 hi; show i < 0 + 100; have : i ≤ 0 + 100 := h1; omega)
  | case6 _ _ _ _ _ _ _ _ right _ i _ e hi => -- bisection stopped before its 100th round
    intro h; cases h
    obtain ⟨h1, h2⟩ := bisectLoop_spec f 100 0 Num.zero right Num.zero
    rw [e] at h1 h2
    exact h2 (by have : i ≠ 100 := fun c => hi (beq_iff_eq.2 c); show i < 0 + 100; have : i ≤ 0 + 100 := h1; omega)
  | _ => intro h; cases h

theorem array_pair_inj {a b c d : ℝ} (h : #[a, b] = #[c, d]) : a = c ∧ b = d := by
  simpa using h

/-- **`esl_gumbel_FitComplete` returning eslOK**: `λ` is stationary for the profile likelihood within the Newton tolerance
    (`|f(λ)| < 10⁻⁵`, `f` = derivative of the profile log-likelihood per sample), and `μ` is exactly Lawless 4.1.5 — the
    maximiser in `μ` for that `λ` (`gumbel_mu_maximises`). -/
theorem gumbelFitComplete_ok (xs : Array ℝ) (mu lam : ℝ) (h : gumbelFitComplete xs = .res .ok #[mu, lam]) :
    |lawlessF xs.toList 0 0 lam| < (1e-5 : ℝ) ∧ mu = -(Real.log (gS xs.toList 0 0 lam / xs.size)) / lam := by
  unfold gumbelFitComplete at h
  split at h
  · injection h with h1 _; cases h1
  · simp only [] at h
    split at h
    · cases h
    · injection h with h1 _; cases h1
    · rename_i lambda hl
      injection h with _ h2
      obtain ⟨e1, e2⟩ := array_pair_inj h2
      subst e2
      have hs := gumbelLambda_stationary _ _ _ _ hl
      rw [ltb_r, abs_r, lawless416_r] at hs
      refine ⟨hs, ?_⟩
      rw [← e1, sumMap_r]
      unfold gS
      simp


/-- **`esl_gumbel_FitCensored` returning eslOK** (`z` values censored at `phi`): `|f₄.₂.₂(λ)| < 10⁻⁵` and `μ` is Lawless 4.2.3. -/
theorem gumbelFitCensored_ok (xs : Array ℝ) (z : Int) (phi mu lam : ℝ) (h : gumbelFitCensored xs z phi = .res .ok #[mu, lam]) :
    |lawlessF xs.toList z phi lam| < (1e-5 : ℝ) ∧ mu = -(Real.log (gS xs.toList z phi lam / xs.size)) / lam := by
  unfold gumbelFitCensored at h
  split at h
  · injection h with h1 _; cases h1
  · simp only [] at h
    split at h
    · cases h
    · injection h with h1 _; cases h1
    · rename_i lambda hl
      injection h with _ h2
      obtain ⟨e1, e2⟩ := array_pair_inj h2
      subst e2
      have hs := gumbelLambda_stationary _ _ _ _ hl
      rw [ltb_r, abs_r, lawless422_r] at hs
      refine ⟨hs, ?_⟩
      rw [← e1, sumMap_r]
      unfold gS
      simp

theorem gumbelFitCensoredLoc_eq (xs : Array ℝ) (z : Int) (phi lam : ℝ) (hn : 1 < xs.size) :
    gumbelFitCensoredLoc xs z phi lam = .res .ok #[-(Real.log (gS xs.toList z phi lam / xs.size)) / lam] := by
  unfold gumbelFitCensoredLoc
  rw [if_neg (by omega), sumMap_r]
  unfold gS
  simp

theorem gumbelFitCompleteLoc_eq (xs : Array ℝ) (lam : ℝ) (hn : 1 < xs.size) :
    gumbelFitCompleteLoc xs lam = .res .ok #[-(Real.log (gS xs.toList 0 0 lam / xs.size)) / lam] := by
  unfold gumbelFitCompleteLoc
  rw [if_neg (by omega), sumMap_r]
  unfold gS
  simp

/-- no Gumbel fit can run forever: the model's `.hang` outcome needs the uncapped bracketing loop to exhaust 2200 doublings,
    impossible once `right·2²¹⁹⁹ > 1000` (true for every positive binary64) -/
theorem gumbelLambda_no_hang (f : ℝ → ℝ × ℝ) (variance : ℝ) (b : Bool)
    (hr : b = true ∨ 0 < piConst / Num.sqrt ((6.0 : ℝ) * variance))
    (hbig : 0 < piConst / Num.sqrt ((6.0 : ℝ) * variance) → 1000 < piConst / Num.sqrt ((6.0 : ℝ) * variance) * 2 ^ 2199) :
    gumbelLambda f variance b ≠ .fault := by
  fun_cases gumbelLambda f variance b with
  | case3 _ _ _ _ _ _ hgo _ e => -- the uncapped bracketing loop ran out of fuel: impossible from a positive `right`
    have hpos : 0 < piConst / Num.sqrt ((6.0 : ℝ) * variance) := by
      rcases hr with hb | hp
      · subst hb
        by_contra hc
        exact hgo (by simp only [Bool.true_and, Bool.not_eq_true', Bool.eq_false_iff]; intro h; rw [gtb_r, zero_r] at h; exact hc h)
      · exact hp
    exact absurd e (bracketLoop_terminates f 2199 _ _ hpos (hbig hpos))
  | _ => intro hc; cases hc


theorem kahan_foldl (f : ℝ → ℝ) (l : List ℝ) (s : ℝ) :
    l.foldl (fun (sc : ℝ × ℝ) x => (sc.1 + (f x - sc.2), (sc.1 + (f x - sc.2) - sc.1) - (f x - sc.2))) (s, 0) = (s + (l.map f).sum, 0) := by
  induction l generalizing s with
  | nil => simp
  | cons a t ih =>
    simp only [List.foldl_cons, List.map_cons, List.sum_cons, sub_zero]
    have e : (s + f a - s) - f a = 0 := by ring
    rw [e, ih]; congr 1; ring

theorem kahanSum_r (f : ℝ → ℝ) (xs : Array ℝ) : kahanSum f xs = (xs.toList.map f).sum := by
  unfold kahanSum
  rw [← Array.foldl_toList]
  have := kahan_foldl f xs.toList 0
  simp only [zero_r]
  rw [this]; simp

/-- `esl_lognormal_FitComplete` over ℝ: `mu` = mean of the logs, `sigma² = Σ(log xᵢ - mu)²/(n-1)` (the unbiased variance of the logs:
    NOT the ML `1/n` — the log-normal `sigma` is `√(n/(n-1))` times the likelihood maximiser, by design of the routine) -/
theorem lognormalFitComplete_eq (xs : Array ℝ) :
    lognormalFitComplete xs = .res .ok #[(xs.toList.map Real.log).sum / xs.size,
      Real.sqrt ((xs.toList.map (fun x => (Real.log x - (xs.toList.map Real.log).sum / xs.size) * (Real.log x - (xs.toList.map Real.log).sum / xs.size))).sum / ((xs.size : ℝ) - 1))] := by
  unfold lognormalFitComplete
  simp only [kahanSum_r, ofInt_r, log_r]
  have e1 : ((((xs.size : Int) - 1 : Int)) : ℝ) = (xs.size : ℝ) - 1 := by push_cast; ring
  simp only [Int.cast_natCast, e1]
  rfl

/-- for ANY `σ > 0` the mean of the logs maximises the log-normal log-likelihood in `μ`:
    `Σ (aᵢ - μ')² ≥ Σ (aᵢ - ā)²` with `aᵢ = log xᵢ` -/
theorem mean_minimises_squares (a : List ℝ) (hn : 0 < a.length) (mu' : ℝ) :
    (a.map (fun x => (x - a.sum / a.length) * (x - a.sum / a.length))).sum ≤ (a.map (fun x => (x - mu') * (x - mu'))).sum := by
  have hnr : (0 : ℝ) < a.length := by exact_mod_cast hn
  have key : ∀ (l : List ℝ) (m c : ℝ), (l.map (fun x => (x - c) * (x - c))).sum =
      (l.map (fun x => (x - m) * (x - m))).sum + 2 * (m - c) * (l.sum - l.length * m) + l.length * ((m - c) * (m - c)) := by
    intro l m c
    induction l with
    | nil => simp
    | cons x t ih => simp only [List.map_cons, List.sum_cons, List.length_cons, ih]; push_cast; ring
  rw [key a (a.sum / a.length) mu']
  have e : a.sum - a.length * (a.sum / a.length) = 0 := by field_simp; ring
  rw [e]
  have : 0 ≤ (a.length : ℝ) * ((a.sum / a.length - mu') * (a.sum / a.length - mu')) := mul_nonneg (le_of_lt hnr) (mul_self_nonneg _)
  linarith

end EaselModel.Stats
