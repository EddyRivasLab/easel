import EaselModel.Stats.HistExpectLemmas
import EaselModel.Stats.FitReal
import Mathlib.Tactic.NormNum
/-! # Expected counts and goodness of fit over ℝ (C11): the bin-number formula of `esl_histogram_Goodness` is harmless, so the routine never
faults; and the expected counts telescope, `Σ expect[i] = Nc · P(binned range)`. -/
namespace EaselModel.Stats
open Num

theorem pow04_ge_one (n : Nat) (hn : 0 < n) : 0 < 2 * Num.toInt (Num.pow (Num.ofInt (n : Int) : ℝ) (0.4 : ℝ)) := by
  have h1 : (1 : ℝ) ≤ ((n : Int) : ℝ) := by exact_mod_cast hn
  have h2 : (1 : ℝ) ≤ Real.rpow ((n : Int) : ℝ) (0.4 : ℝ) := Real.one_le_rpow h1 (by norm_num)
  show 0 < 2 * (if 0 ≤ Real.rpow ((n : Int) : ℝ) (0.4 : ℝ) then ⌊Real.rpow ((n : Int) : ℝ) (0.4 : ℝ)⌋ else ⌈Real.rpow ((n : Int) : ℝ) (0.4 : ℝ)⌉)
  rw [if_pos (by linarith)]
  have : 1 ≤ ⌊Real.rpow ((n : Int) : ℝ) (0.4 : ℝ)⌋ := Int.le_floor.2 (by exact_mod_cast h2)
  omega

/-- **`esl_histogram_Goodness` is memory-safe** (exact arithmetic): on a well-formed histogram with `cmin ≥ 0` and `expect[]` as long as
    `obs[]` (what `SetExpect` / `SetExpectedTail` establish) it never reads outside `obs[]`/`expect[]`, never divides by zero in
    `minc = 1 + nobs/(2·nb)`, and never writes outside its `2·nb+1` re-bins. -/
theorem goodness_no_fault_real (h : Hist ℝ) (hwf : h.WF) (hidx : IdxOK h) (hc : 0 ≤ h.cmin) (e : Expect ℝ)
    (hex : ∀ ex, e.expect = some ex → (ex.size : Int) = h.nb) (nfitted : Int) : h.goodness e nfitted ≠ .fault := by
  intro hf
  obtain ⟨n, hn, hle⟩ := goodness_fault_only_from_pow h hwf hidx hc e hex nfitted hf
  have := pow04_ge_one n hn
  omega


noncomputable def h1 : Hist ℝ :=
  { obs := #[1], nb := 1, w := 1, bmin := 0, bmax := 1, imin := 0, imax := 0, xmin := 0.5, xmax := 0.5, n := 1, x := #[], nalloc := 0,
    phi := 0, cmin := 0, z := 0, nc := 1, no := 1, isFull := false, isDone := true, isSorted := false, isRounded := false, datasetIs := .complete }
noncomputable def e1 : Expect ℝ := { expect := some #[1], emin := 0, tailbase := 0, tailmass := 1, isTailfit := false }

/-- non-vacuity for `goodness_accounts`: one value, one bin, expectation 1: the sweep produces one re-bin holding that value -/
theorem goodness_example : ∃ g bins, h1.goodness e1 0 = .val (g, bins) ∧ bins ≠ [] ∧ binsObs bins = 1 := by
  have hp : Num.pow (1 : ℝ) (0.4 : ℝ) = 1 := by
    show Real.rpow (1 : ℝ) (0.4 : ℝ) = 1
    simp
  have ht : Num.toInt (1 : ℝ) = 1 := by
    show (if (0 : ℝ) ≤ 1 then ⌊(1 : ℝ)⌋ else ⌈(1 : ℝ)⌉) = 1
    simp
  unfold Hist.goodness h1 e1
  simp only [Bool.false_and, Bool.false_eq_true, if_false]
  simp [goodnessCount, getObs, hp, ht, rebinLoop, getExp, Num.geb, Num.leb, binsObs]

theorem h1_wf : h1.WF ∧ IdxOK h1 ∧ 0 ≤ h1.cmin ∧ (∀ ex, e1.expect = some ex → (ex.size : Int) = h1.nb) := by
  refine ⟨⟨rfl, by decide, by decide, ?_, ?_⟩, Or.inr ⟨by decide, by decide, by decide⟩, by decide, ?_⟩
  · intro h; cases h
  · intro h; cases h
  · intro ex hex; simp only [e1, Option.some.injEq] at hex; rw [← hex]; rfl


theorem ubound_eq_lbound_succ (h : Hist ℝ) (i : Int) : h.ubound i = h.lbound (i + 1) := by
  rw [ubound_r, lbound_r]; push_cast; ring

theorem setExpectLoop_sum (h : Hist ℝ) (cdf : ℝ → ℝ) : ∀ (k : Nat) (i : Int) (acc : Array ℝ) (emin : Int),
    (setExpectLoop h cdf k i acc emin).1.toList.sum = acc.toList.sum + (h.nc : ℝ) * (cdf (h.lbound (i + k)) - cdf (h.lbound i)) := by
  intro k
  induction k with
  | zero => intro i acc emin; simp [setExpectLoop]
  | succ k ih =>
    intro i acc emin
    unfold setExpectLoop
    simp only []
    rw [ih]
    simp only [Array.toList_push, List.sum_append, List.sum_cons, List.sum_nil, add_zero, ofInt_r, Int.cast_natCast, ubound_eq_lbound_succ]
    have : i + 1 + (k : Int) = i + ((k + 1 : Nat) : Int) := by push_cast; ring
    rw [this]; ring

/-- **`esl_histogram_SetExpect`: the expected counts add up to `Nc` times the probability the law gives to the binned range**
    `(LBound(0), UBound(nb-1)]` (ℝ, any cdf): no expected mass is lost or counted twice between adjacent bins. -/
theorem setExpect_total (h : Hist ℝ) (e : Expect ℝ) (cdf : ℝ → ℝ) (hnb : 0 ≤ h.nb) :
    ∃ ex, (h.setExpect e cdf).2.expect = some ex ∧ ex.toList.sum = (h.nc : ℝ) * (cdf (h.lbound h.nb) - cdf (h.lbound 0)) := by
  unfold Hist.setExpect
  refine ⟨_, rfl, ?_⟩
  rw [setExpectLoop_sum]
  have : (0 : Int) + ((h.nb.toNat : Nat) : Int) = h.nb := by omega
  rw [this]; simp


theorem tail_telescope (F : Int → ℝ) (c : ℝ) (emin : Int) (h0 : 0 ≤ emin) : ∀ n : Nat, emin ≤ n →
    ((List.range n).map (fun (i : Nat) => if (i : Int) < emin then (0 : ℝ) else c * (F ((i : Int) + 1) - F (i : Int)))).sum = c * (F n - F emin) := by
  intro n
  induction n with
  | zero => intro hle; have : emin = 0 := by omega
            subst this; simp
  | succ n ih =>
    intro hle
    rw [List.range_succ, List.map_append, List.sum_append]
    by_cases hlt : emin ≤ n
    · rw [ih hlt]
      have : ¬ ((n : Int) < emin) := by omega
      simp only [List.map_cons, List.map_nil, List.sum_cons, List.sum_nil, this, if_false, add_zero]
      push_cast; ring
    · have he : emin = ((n + 1 : Nat) : Int) := by omega
      have hall : ∀ i ∈ List.range n, (if (i : Int) < emin then (0 : ℝ) else c * (F ((i : Int) + 1) - F (i : Int))) = 0 := by
        intro i hi; rw [List.mem_range] at hi; rw [if_pos (by omega)]
      rw [List.map_congr_left hall]
      have : ((n : Int) < emin) := by omega
      simp only [List.map_const', List.sum_replicate, smul_zero, List.map_cons, List.map_nil, List.sum_cons, List.sum_nil, this, if_true, add_zero]
      rw [he]; ring

/-- **`esl_histogram_SetExpectedTail`: the expected counts add up to `pmass·Nc` times the probability the law gives to `(LBound(emin), UBound(nb-1)]`**
    (ℝ, any cdf, any accepted `base_val`) -/
theorem setExpectedTail_total (h : Hist ℝ) (e : Expect ℝ) (baseVal pmass : ℝ) (cdf : ℝ → ℝ) (hnb : 0 ≤ h.nb)
    (hok : (h.setExpectedTail e baseVal pmass cdf).1 = .ok) :
    ∃ ex, (h.setExpectedTail e baseVal pmass cdf).2.2.expect = some ex ∧
      ex.toList.sum = pmass * (h.nc : ℝ) * (cdf (h.lbound h.nb) - cdf (h.lbound (h.setExpectedTail e baseVal pmass cdf).2.2.emin)) := by
  rcases setExpectedTail_eq h e baseVal pmass cdf hnb with eq | ⟨emin, h0, h1, eq⟩ <;> rw [eq] at hok ⊢
  · cases hok
  · refine ⟨_, rfl, ?_⟩
    rw [Array.toList_map, Array.toList_range]
    have := tail_telescope (fun j => cdf (h.lbound j)) (pmass * (h.nc : ℝ)) emin h0 h.nb.toNat (by omega)
    rw [show ((h.nb.toNat : Nat) : Int) = h.nb by omega] at this
    rw [← this]
    congr 1
    apply List.map_congr_left
    intro i _
    simp only [ofInt_r, Int.cast_natCast, zero_r, ubound_eq_lbound_succ]

end EaselModel.Stats
