import EaselModel.Stats.FitCG
import EaselModel.Stats.FitReal
import Mathlib.Analysis.Complex.ExponentialBounds
/-! # `tevd_grad` is the gradient of `tevd_func` (C11, ℝ)

`esl_gumbel_FitTruncated` is the one fit that hands an analytic gradient to the conjugate-gradient optimiser. Over ℝ, in the regime where
neither routine takes one of its numerical shortcuts (`|exp(-y)| ≥ 5e-9`, `|exp(-exp(-y))| ≥ 5e-9`, `y = λ(φ-μ) ≤ 50`), the two
components `tevd_grad` returns are exactly the partial derivatives of the objective `tevd_func` in `μ` and in `w = log λ`. -/
namespace EaselModel.Stats
open Real

/-- the truncated-Gumbel negative log-likelihood as a real function of `(μ, w)`, `λ = exp w`, main branch of `esl_gumbel_logsurv` -/
noncomputable def tevdNll (xs : List ℝ) (phi mu w : ℝ) : ℝ :=
  -((xs.length : ℝ) * w - (xs.map (fun x => Real.exp w * (x - mu))).sum - (xs.map (fun x => Real.exp (-(Real.exp w * (x - mu))))).sum
      - (xs.length : ℝ) * Real.log (1 - Real.exp (-(Real.exp (-(Real.exp w * (phi - mu)))))))

/-- `pdf(φ)/surv(φ)` of the Gumbel law: `λ E e^{-E} / (1 - e^{-E})`, `E = exp(-λ(φ-μ))` -/
noncomputable def tevdCoeff (phi mu w : ℝ) : ℝ :=
  Real.exp w * Real.exp (-(Real.exp w * (phi - mu)) - Real.exp (-(Real.exp w * (phi - mu)))) / (1 - Real.exp (-(Real.exp (-(Real.exp w * (phi - mu))))))

/-- the first component of `tevd_grad` (already negated) -/
noncomputable def tevdDmu (xs : List ℝ) (phi mu w : ℝ) : ℝ :=
  -((xs.length : ℝ) * Real.exp w - (xs.map (fun x => Real.exp w * Real.exp (-(Real.exp w * (x - mu))))).sum - (xs.length : ℝ) * tevdCoeff phi mu w)

/-- the second component of `tevd_grad` (already negated) -/
noncomputable def tevdDw (xs : List ℝ) (phi mu w : ℝ) : ℝ :=
  -((xs.length : ℝ) - (xs.map (fun x => (x - mu) * Real.exp w)).sum + (xs.map (fun x => (x - mu) * Real.exp w * Real.exp (-(Real.exp w * (x - mu))))).sum
      + (xs.length : ℝ) * (phi - mu) * tevdCoeff phi mu w)

theorem sum_map_const_neg (xs : List ℝ) (c : ℝ) : (xs.map (fun _ => -c)).sum = -((xs.length : ℝ) * c) := by
  induction xs with
  | nil => simp
  | cons a t ih => simp only [List.map_cons, List.sum_cons, List.length_cons, ih]; push_cast; ring

theorem one_sub_exp_neg_exp_pos (t : ℝ) : 0 < 1 - Real.exp (-(Real.exp t)) := by
  have : Real.exp (-(Real.exp t)) < 1 := Real.exp_lt_one_iff.2 (neg_neg_of_pos (Real.exp_pos t))
  linarith

theorem logsurv_hasDerivAt (y : ℝ → ℝ) (y' t : ℝ) (hy : HasDerivAt y y' t) :
    HasDerivAt (fun s => Real.log (1 - Real.exp (-(Real.exp (y s)))))
      (y' * (Real.exp (y t - Real.exp (y t)) / (1 - Real.exp (-(Real.exp (y t)))))) t := by
  have hE : HasDerivAt (fun s => -(Real.exp (y s))) (-(Real.exp (y t) * y')) t := hy.exp.neg
  have hS : HasDerivAt (fun s => 1 - Real.exp (-(Real.exp (y s)))) (-(Real.exp (-(Real.exp (y t))) * -(Real.exp (y t) * y'))) t :=
    hE.exp.const_sub 1
  refine (hS.log (ne_of_gt (one_sub_exp_neg_exp_pos (y t)))).congr_deriv ?_
  rw [Real.exp_sub, Real.exp_neg (Real.exp (y t))]
  field_simp

/-- the derivative of `tevdNll` along any curve `s ↦ (m s, v s)`, in terms of the derivatives `q' x` of `s ↦ exp (v s) * (x - m s)` -/
theorem tevdNll_hasDerivAt (xs : List ℝ) (phi : ℝ) (m v : ℝ → ℝ) (v' t : ℝ) (q' : ℝ → ℝ) (hv : HasDerivAt v v' t)
    (hq : ∀ x, HasDerivAt (fun s => Real.exp (v s) * (x - m s)) (q' x) t) :
    HasDerivAt (fun s => tevdNll xs phi (m s) (v s))
      (-((xs.length : ℝ) * v' - (xs.map q').sum - (xs.map (fun x => Real.exp (-(Real.exp (v t) * (x - m t))) * -(q' x))).sum
          - (xs.length : ℝ) * (-(q' phi) * (Real.exp (-(Real.exp (v t) * (phi - m t)) - Real.exp (-(Real.exp (v t) * (phi - m t))))
              / (1 - Real.exp (-(Real.exp (-(Real.exp (v t) * (phi - m t)))))))))) t := by
  unfold tevdNll
  have h1 := hasDerivAt_list_sum xs (fun x s => Real.exp (v s) * (x - m s)) q' t (fun x _ => hq x)
  have h2 := hasDerivAt_list_sum xs (fun x s => Real.exp (-(Real.exp (v s) * (x - m s)))) _ t (fun x _ => (hq x).neg.exp)
  have h3 := (logsurv_hasDerivAt _ _ t (hq phi).neg).const_mul (xs.length : ℝ)
  exact ((((hv.const_mul (xs.length : ℝ)).sub h1).sub h2).sub h3).neg

/-- **`∂ tevd_func / ∂μ` = first component of `tevd_grad`** -/
theorem tevdNll_hasDerivAt_mu (xs : List ℝ) (phi mu w : ℝ) : HasDerivAt (fun m => tevdNll xs phi m w) (tevdDmu xs phi mu w) mu := by
  have hq : ∀ x : ℝ, HasDerivAt (fun s : ℝ => Real.exp w * (x - s)) (-Real.exp w) mu := fun x => by
    have h : HasDerivAt (fun m : ℝ => Real.exp w * (x - m)) (Real.exp w * -1) mu := ((hasDerivAt_id mu).const_sub x).const_mul (Real.exp w)
    exact h.congr_deriv (by ring)
  refine (tevdNll_hasDerivAt xs phi (fun s => s) (fun _ => w) 0 mu _ (hasDerivAt_const mu w) hq).congr_deriv ?_
  unfold tevdDmu tevdCoeff
  rw [sum_map_const_neg]
  have e2 : (xs.map (fun x => Real.exp (-(Real.exp w * (x - mu))) * -(-Real.exp w))).sum = (xs.map (fun x => Real.exp w * Real.exp (-(Real.exp w * (x - mu))))).sum := by
    congr 1; apply List.map_congr_left; intro x _; ring
  rw [e2]; ring

/-- **`∂ tevd_func / ∂w` = second component of `tevd_grad`** (`w = log λ`) -/
theorem tevdNll_hasDerivAt_w (xs : List ℝ) (phi mu w : ℝ) : HasDerivAt (fun v => tevdNll xs phi mu v) (tevdDw xs phi mu w) w := by
  refine (tevdNll_hasDerivAt xs phi (fun _ => mu) (fun s => s) 1 w _ (hasDerivAt_id w) (fun x => (Real.hasDerivAt_exp w).mul_const (x - mu))).congr_deriv ?_
  unfold tevdDw tevdCoeff
  have e1 : (xs.map (fun x => Real.exp w * (x - mu))).sum = (xs.map (fun x => (x - mu) * Real.exp w)).sum := by
    congr 1; apply List.map_congr_left; intro x _; ring
  have e2 : (xs.map (fun x => Real.exp (-(Real.exp w * (x - mu))) * -(Real.exp w * (x - mu)))).sum
      = -(xs.map (fun x => (x - mu) * Real.exp w * Real.exp (-(Real.exp w * (x - mu))))).sum := by
    rw [← sum_map_neg]; congr 1; apply List.map_congr_left; intro x _; ring
  rw [e1, e2]; ring

theorem foldl_sub (f : ℝ → ℝ) (l : List ℝ) (a : ℝ) : l.foldl (fun acc x => acc - f x) a = a - (l.map f).sum := by
  induction l generalizing a with
  | nil => simp
  | cons x t ih => simp only [List.foldl_cons, List.map_cons, List.sum_cons, ih]; ring

theorem neg1_r : ((-1.0 : ℝ)) = -1 := by norm_num
theorem fifty_r : ((50.0 : ℝ)) = 50 := by norm_num

/-- **`tevd_func` over ℝ** (no shortcut branch of `esl_gumbel_logsurv` taken): the truncated-Gumbel negative log-likelihood in `(μ, w = log λ)` -/
theorem tevdFunc_eq (xs : Array ℝ) (phi mu w : ℝ)
    (h1 : ¬ |-(Real.exp (-(Real.exp w * (phi - mu))))| < (5e-9 : ℝ))
    (h2 : ¬ |Real.exp (-(Real.exp (-(Real.exp w * (phi - mu)))))| < (5e-9 : ℝ)) :
    tevdFunc xs phi #[mu, w] = tevdNll xs.toList phi mu w := by
  unfold tevdFunc tevdNll gumbelLogsurv smallX1
  have g0 : (#[mu, w] : Array ℝ).getD 0 Num.zero = mu := rfl
  have g1 : (#[mu, w] : Array ℝ).getD 1 Num.zero = w := rfl
  simp only [g0, g1, exp_r, log_r, abs_r, ltb_r, Real.log_exp, size_r, neg1_r, one_r]
  rw [if_neg h1, if_neg h2]
  rw [← Array.foldl_toList, ← Array.foldl_toList, foldl_sub, foldl_sub]
  have e : (xs.toList.map (fun x => Real.exp (-1 * Real.exp w * (x - mu)))) = (xs.toList.map (fun x => Real.exp (-(Real.exp w * (x - mu))))) := by
    apply List.map_congr_left; intro x _; congr 1; ring
  rw [e]; ring

/-- **`tevd_grad` over ℝ** (`λ(φ-μ) ≤ 50`, no shortcut branch of `esl_gumbel_surv`): the two components are `tevdDmu`, `tevdDw` -/
theorem tevdGrad_eq (xs : Array ℝ) (phi mu w : ℝ)
    (h0 : ¬ (50 : ℝ) < Real.exp w * (phi - mu))
    (h1 : ¬ |-(Real.exp (-(Real.exp w * (phi - mu))))| < (5e-9 : ℝ)) :
    tevdGrad xs phi #[mu, w] = #[tevdDmu xs.toList phi mu w, tevdDw xs.toList phi mu w] := by
  unfold tevdGrad gumbelPdf gumbelSurv smallX1
  have g0 : (#[mu, w] : Array ℝ).getD 0 Num.zero = mu := rfl
  have g1 : (#[mu, w] : Array ℝ).getD 1 Num.zero = w := rfl
  simp only [g0, g1, exp_r, abs_r, ltb_r, gtb_r, size_r, neg1_r, one_r, fifty_r]
  rw [if_neg h0, if_neg h1]
  rw [← Array.foldl_toList, ← Array.foldl_toList, ← Array.foldl_toList, foldl_sub, foldl_sub, foldl_add]
  have e : ∀ x : ℝ, Real.exp (-1 * Real.exp w * (x - mu)) = Real.exp (-(Real.exp w * (x - mu))) := by intro x; congr 1; ring
  simp only [e]
  have key : ∀ a b c d : ℝ, a = c → b = d → (#[a, b] : Array ℝ) = #[c, d] := by intro a b c d h1 h2; rw [h1, h2]
  apply key
  · unfold tevdDmu tevdCoeff; ring
  · unfold tevdDw tevdCoeff; ring

/-- `φ = μ = 0`, `λ = 1` lies in the regime of `tevdFunc_eq` / `tevdGrad_eq` -/
theorem tevd_regime_example : ¬ (50 : ℝ) < Real.exp 0 * ((0 : ℝ) - 0) ∧ ¬ |-(Real.exp (-(Real.exp 0 * ((0 : ℝ) - 0))))| < (5e-9 : ℝ) ∧
    ¬ |Real.exp (-(Real.exp (-(Real.exp 0 * ((0 : ℝ) - 0)))))| < (5e-9 : ℝ) := by
  have h3 : Real.exp 1 < 3 := Real.exp_one_lt_three
  have hp : 0 < Real.exp (-1) := Real.exp_pos _
  have hm : Real.exp (-1) * Real.exp 1 = 1 := by rw [← Real.exp_add]; simp
  refine ⟨by simp, by simp; norm_num, ?_⟩
  simp only [Real.exp_zero, sub_zero, mul_zero, neg_zero, abs_of_pos hp, not_lt]
  nlinarith

end EaselModel.Stats
