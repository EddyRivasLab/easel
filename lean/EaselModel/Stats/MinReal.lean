import EaselModel.Stats.FitReal
import EaselModel.Stats.MinValue
import Mathlib.Tactic.NormNum
import Mathlib.Tactic.Positivity
/-! # Order facts about `esl_root_Bisection`, `bracket()` and `brent()` over ℝ (C11)

The same definitions that run bit-for-bit against the C code, read over the ordered field ℝ (no rounding, layer L0 excluded). -/
namespace EaselModel.Stats
open Num

theorem infOK_r : InfOK ℝ := Or.inr (fun _ => rfl)


/-- **`esl_root_Bisection` keeps the root bracketed and halves the bracket** (ℝ, any function): from `xl < xr` with `f(xl)·f(xr) < 0`,
    whatever happens in the loop the final `R->xl < R->xr` still satisfy `f(xl)·f(xr) < 0`, lie inside the caller's bracket, and
    after `j` narrowing steps `(xr - xl)·2^j` is the caller's width; `R->iter` grew by `j+1`. eslOK: `*ret_x` is the midpoint of that
    bracket and the stopping rule held (`f(x) = 0`, width below the threshold, or residual below `residual_tol`); eslENOHALT: all
    `k` rounds were used and `*ret_x = 0`. -/
theorem bisectionLoop_spec (cfg : RootCfg ℝ) (f : ℝ → ℝ) :
    ∀ (k : Nat) (iter : Int) (xl xr : ℝ), xl < xr → f xl * f xr < 0 →
      let r := bisectionLoop cfg f k iter xl xr (f xl) (f xr)
      f r.xl * f r.xr < 0 ∧ xl ≤ r.xl ∧ r.xr ≤ xr ∧ r.xl < r.xr ∧
      ∃ j : Nat, j ≤ k ∧ (r.xr - r.xl) * 2 ^ j = xr - xl ∧ r.iter = iter + j + 1 ∧
        ((r.st = .ok ∧ r.x = (r.xl + r.xr) / 2 ∧
            (f r.x = 0 ∨ r.xr - r.xl < bisTol cfg r.xl r.xr r.x ∨ |f r.x| < cfg.residTol)) ∨
         (r.st = .enohalt ∧ j = k ∧ r.x = 0)) := by
  intro k
  induction k with
  | zero =>
    intro iter xl xr hlt hs
    unfold bisectionLoop
    exact ⟨hs, le_refl _, le_refl _, hlt, 0, le_refl _, by simp, by simp, Or.inr ⟨rfl, rfl, zero_r⟩⟩
  | succ k ih =>
    intro iter xl xr hlt hs
    have hm1 : xl < (xl + xr) / 2 := by linarith
    have hm2 : (xl + xr) / 2 < xr := by linarith
    -- what a narrowing step hands to the induction hypothesis
    have step : ∀ (xl' xr' : ℝ), xl' < xr' → f xl' * f xr' < 0 → xl ≤ xl' → xr' ≤ xr → (xr' - xl') * 2 = xr - xl →
        let r := bisectionLoop cfg f k (iter + 1) xl' xr' (f xl') (f xr')
        f r.xl * f r.xr < 0 ∧ xl ≤ r.xl ∧ r.xr ≤ xr ∧ r.xl < r.xr ∧
        ∃ j : Nat, j ≤ k + 1 ∧ (r.xr - r.xl) * 2 ^ j = xr - xl ∧ r.iter = iter + j + 1 ∧
          ((r.st = .ok ∧ r.x = (r.xl + r.xr) / 2 ∧
              (f r.x = 0 ∨ r.xr - r.xl < bisTol cfg r.xl r.xr r.x ∨ |f r.x| < cfg.residTol)) ∨
           (r.st = .enohalt ∧ j = k + 1 ∧ r.x = 0)) := by
      intro xl' xr' hlt' hs' h1 h2 hw
      obtain ⟨a, b, c, d, j, hj, hw', hi, hcase⟩ := ih (iter + 1) xl' xr' hlt' hs'
      refine ⟨a, le_trans h1 b, le_trans c h2, d, j + 1, by omega, ?_, ?_, ?_⟩
      · rw [pow_succ, ← mul_assoc, hw', hw]
      · rw [hi]; push_cast; ring
      · exact hcase.imp_right fun ⟨h, h', h''⟩ => ⟨h, by omega, h''⟩
    simp only []
    rcases bisectionLoop_succ cfg f k iter xl xr (f xl) (f xr) ((xl + xr) / 2) (by rw [two_r]) with
      ⟨e, hstop⟩ | ⟨h0, _, ⟨e, hsg⟩ | ⟨e, hsg⟩⟩ <;> rw [e]
    · refine ⟨hs, le_refl _, le_refl _, hlt, 0, by omega, by simp, by simp, Or.inl ⟨rfl, rfl, ?_⟩⟩
      rcases hstop with h | h
      · exact Or.inl (by simpa using h)
      · exact Or.inr (by simpa [Bool.or_eq_true] using h)
    -- the half that is kept has the sign change: `f(xl)` and `f(xr)` have opposite signs, `f(x) ≠ 0`
    · refine step _ _ hm2 ?_ hm1.le (le_refl _) (by ring)
      simp only [gtb_r, ltb_r, zero_r, Bool.eq_false_iff, ne_eq] at hsg
      rcases mul_neg_iff.1 hs with ⟨a, b⟩ | ⟨a, b⟩ <;> rcases hsg with ⟨c, d⟩ | ⟨c, d⟩
      · exact mul_neg_of_pos_of_neg d b
      · exact absurd a c
      · exact absurd c (lt_asymm a)
      · exact mul_neg_of_neg_of_pos d b
    · refine step _ _ hm1 ?_ (le_refl _) hm2.le (by ring)
      have hne : f ((xl + xr) / 2) ≠ 0 := by simpa [Bool.eq_false_iff] using h0
      simp only [gtb_r, ltb_r, zero_r, Bool.eq_false_iff, ne_eq, not_lt] at hsg
      rcases mul_neg_iff.1 hs with ⟨a, b⟩ | ⟨a, b⟩ <;> rcases hsg with ⟨c, d⟩ | ⟨c, d⟩
      · exact mul_neg_of_pos_of_neg a (lt_of_le_of_ne d hne)
      · exact absurd a (not_lt.2 c)
      · exact absurd c (lt_asymm a)
      · exact mul_neg_of_neg_of_pos a (lt_of_le_of_ne d (Ne.symm hne))

theorem bisTol_ge (cfg : RootCfg ℝ) (hr : 0 ≤ cfg.relTol) (xl xr x : ℝ) : cfg.absTol ≤ bisTol cfg xl xr x := by
  unfold bisTol
  simp only [abs_r]
  have := mul_nonneg hr (abs_nonneg (if (ltb xl (zero : ℝ) && gtb xr (zero : ℝ)) = true then (zero : ℝ) else x))
  linarith

/-- **bisection converges, wherever the root lies** (ℝ, any function; no sign condition on the root, /repo 8354c02): with `abs_tolerance > 0`,
    `rel_tolerance ≥ 0`, a bracket with a sign change and `k+1` rounds available, `xr - xl < abs_tolerance·2^k` forces eslOK. -/
theorem bisectionLoop_converges (cfg : RootCfg ℝ) (f : ℝ → ℝ) (ha : 0 < cfg.absTol) (hr : 0 ≤ cfg.relTol) :
    ∀ (k : Nat) (iter : Int) (xl xr fl fr : ℝ), xr - xl < cfg.absTol * 2 ^ k →
      (bisectionLoop cfg f (k + 1) iter xl xr fl fr).st = .ok := by
  intro k
  induction k with
  | zero =>
    intro iter xl xr fl fr hw
    rcases bisectionLoop_succ cfg f 0 iter xl xr fl fr _ rfl with ⟨e, _⟩ | ⟨_, hgo, _⟩
    · rw [e]
    · -- the bracket is already narrower than the absolute tolerance
      rw [pow_zero, mul_one] at hw
      rw [(ltb_r _ _).2 (lt_of_lt_of_le hw (bisTol_ge cfg hr xl xr _)), Bool.true_or] at hgo
      cases hgo
  | succ k ih =>
    intro iter xl xr fl fr hw
    rw [pow_succ] at hw
    rcases bisectionLoop_succ cfg f (k + 1) iter xl xr fl fr ((xl + xr) / 2) (by rw [two_r]) with
      ⟨e, _⟩ | ⟨_, _, ⟨e, _⟩ | ⟨e, _⟩⟩ <;> rw [e]
    · exact ih _ _ _ _ _ (by linarith)
    · exact ih _ _ _ _ _ (by linarith)


/-- the three abscissae are strictly monotone (either direction) -/
def BrOrd (b : Bracket ℝ) : Prop := (b.ax < b.bx ∧ b.bx < b.cx) ∨ (b.cx < b.bx ∧ b.bx < b.ax)
/-- the three stored values are the line function at the three abscissae -/
def BrVals (fline : ℝ → ℝ) (b : Bracket ℝ) : Prop := b.fa = fline b.ax ∧ b.fb = fline b.bx ∧ b.fc = fline b.cx

theorem k1618 : (0 : ℝ) < (1.618 : ℝ) := by norm_num

theorem BrOrd_extend {a b : ℝ} (h : a < b ∨ b < a) (fa fb fc : ℝ) :
    BrOrd { ax := a, bx := b, cx := b + (b - a) * (1.618 : ℝ), fa := fa, fb := fb, fc := fc } :=
  h.imp (fun h => ⟨h, lt_add_of_pos_right _ (mul_pos (sub_pos.2 h) k1618)⟩)
    (fun h => ⟨add_lt_of_neg_right _ (mul_neg_of_neg_of_pos (sub_neg.2 h) k1618), h⟩)

theorem bracketLoopCG_fb_le (fline : ℝ → ℝ) (maxIter : Nat) (F0 : ℝ) (k niter : Nat) (b b' : Bracket ℝ) (h0 : b.fb ≤ F0)
    (h : bracketLoopCG fline maxIter k niter b = some b') : b'.fb ≤ F0 := by
  fun_induction bracketLoopCG fline maxIter k niter b with
  | case1 | case5 => cases h; exact h0
  | case2 _ _ b hcb => -- `fc ≤ fb`: the triplet moves on, its new middle value is the old `fc`
    injection h with h; rw [← h]; exact le_trans ((leb_r _ _).1 hcb) h0
  | case3 => cases h
  | case4 _ _ b hcb _ _ _ _ _ _ _ _ _ _ ih => exact ih (le_trans ((leb_r _ _).1 hcb) h0) h

/-- `bracket()`, any line function, any first step (zero included), any claimed origin value `f0`: the middle value of a returned
    triplet is `≤ f0` -/
theorem bracketCG_fb_le (cfg : MinCfg ℝ) (fline : ℝ → ℝ) (f0 firststep : ℝ) (b : Bracket ℝ)
    (h : bracketCG cfg fline f0 firststep = some b) : b.fb ≤ f0 := by
  unfold bracketCG at h
  simp only [] at h
  have fin : ∀ b0 : Bracket ℝ, b0.fb ≤ f0 →
      (if gtb b0.ax b0.cx = true then some ({ b0 with ax := b0.cx, cx := b0.ax, fa := b0.fc, fc := b0.fa } : Bracket ℝ) else some b0) = some b →
      b.fb ≤ f0 := by
    intro b0 h0 hb
    split at hb <;> (simp only [Option.some.injEq] at hb; rw [← hb]; exact h0)
  by_cases hsw : f0 < fline firststep
  · have hg : gtb (fline firststep) f0 = true := by rw [gtb_r]; exact hsw
    simp only [hg, if_true] at h
    split at h
    · cases h
    · rename_i b0 hb0
      exact fin b0 (bracketLoopCG_fb_le fline _ f0 _ _ _ b0 (le_refl _) hb0) h
  · have hg : gtb (fline firststep) f0 = false := by
      rw [Bool.eq_false_iff]; intro hc; rw [gtb_r] at hc; exact hsw hc
    simp only [hg, Bool.false_eq_true, if_false] at h
    split at h
    · cases h
    · rename_i b0 hb0
      exact fin b0 (bracketLoopCG_fb_le fline _ f0 _ _ _ b0 (not_lt.1 hsw) hb0) h

theorem bracketLoopCG_spec (fline : ℝ → ℝ) (maxIter : Nat) :
    ∀ (k niter : Nat) (b b' : Bracket ℝ), maxIter + 2 ≤ k + niter → niter ≤ maxIter →
      BrOrd b → BrVals fline b → b.fb ≤ b.fa →
      bracketLoopCG fline maxIter k niter b = some b' →
      BrOrd b' ∧ BrVals fline b' ∧ b'.fb ≤ b'.fa ∧ b'.fb ≤ b'.fc := by
  intro k
  induction k with
  | zero => intro niter b b' h1 h2; omega
  | succ k ih =>
    intro niter b b' h1 h2 ho hv hba h
    unfold bracketLoopCG at h
    simp only [] at h
    split at h
    · rename_i hcb
      rw [leb_r] at hcb
      have ho' : BrOrd { ax := b.bx, bx := b.cx, cx := b.cx + (b.cx - b.bx) * (1.618 : ℝ), fa := b.fb, fb := b.fc, fc := fline (b.cx + (b.cx - b.bx) * (1.618 : ℝ)) } :=
        BrOrd_extend (ho.imp (·.2) (·.1)) _ _ _
      have hv' : BrVals fline { ax := b.bx, bx := b.cx, cx := b.cx + (b.cx - b.bx) * (1.618 : ℝ), fa := b.fb, fb := b.fc, fc := fline (b.cx + (b.cx - b.bx) * (1.618 : ℝ)) } := ⟨hv.2.1, hv.2.2, rfl⟩
      split at h
      · rename_i heq
        simp only [Option.some.injEq] at h
        subst h
        simp only [Bool.and_eq_true, eqb_r] at heq
        refine ⟨ho', hv', ?_, ?_⟩
        · show b.fc ≤ b.fb; exact hcb
        · show b.fc ≤ fline (b.cx + (b.cx - b.bx) * (1.618 : ℝ)); exact le_of_eq heq.2
      · split at h
        · cases h
        · rename_i hn
          exact ih (niter + 1) _ b' (by omega) (by omega) ho' hv' hcb h
    · rename_i hcb
      rw [leb_r] at hcb
      simp only [Option.some.injEq] at h
      subst h
      exact ⟨ho, hv, hba, (not_le.1 hcb).le⟩

/-- **`bracket()` post-condition (ℝ, any line function, any non-zero first step).** When `bracket()` returns eslOK, its triplet satisfies
    `a < b < c`, the three values are the line function at those points, `f(b) ≤ f(a)`, `f(b) ≤ f(c)`, and `f(b) ≤ f(0)` (the middle
    point is never worse than the point the search started from). It returns within `brack_maxiter + 1` rounds or eslENORESULT. -/
theorem bracketCG_spec (cfg : MinCfg ℝ) (fline : ℝ → ℝ) (firststep : ℝ) (hfs : firststep ≠ 0) (b : Bracket ℝ)
    (h : bracketCG cfg fline (fline 0) firststep = some b) :
    b.ax < b.bx ∧ b.bx < b.cx ∧ BrVals fline b ∧ b.fb ≤ b.fa ∧ b.fb ≤ b.fc ∧ b.fb ≤ fline 0 := by
  -- the last conjunct needs neither the order nor the values of the triplet
  suffices hmain : b.ax < b.bx ∧ b.bx < b.cx ∧ BrVals fline b ∧ b.fb ≤ b.fa ∧ b.fb ≤ b.fc by
    obtain ⟨a1, a2, a3, a4, a5⟩ := hmain
    exact ⟨a1, a2, a3, a4, a5, bracketCG_fb_le cfg fline (fline 0) firststep b h⟩
  unfold bracketCG at h
  simp only [zero_r] at h
  -- the start bracket, in the two cases of the first swap
  have start : ∀ (ax bx : ℝ), ax ≠ bx → fline bx ≤ fline ax → ∀ b0,
      bracketLoopCG fline cfg.brackMaxIter (cfg.brackMaxIter + 2) 0
        { ax := ax, bx := bx, cx := bx + (bx - ax) * (1.618 : ℝ), fa := fline ax, fb := fline bx, fc := fline (bx + (bx - ax) * (1.618 : ℝ)) } = some b0 →
      BrOrd b0 ∧ BrVals fline b0 ∧ b0.fb ≤ b0.fa ∧ b0.fb ≤ b0.fc := by
    intro ax bx hne hle b0 hb0
    exact bracketLoopCG_spec fline cfg.brackMaxIter _ 0 _ b0 (by omega) (by omega)
      (BrOrd_extend (lt_or_gt_of_ne hne) _ _ _) ⟨rfl, rfl, rfl⟩ hle hb0
  -- the final swap puts the triplet in increasing order
  have fin : ∀ b0 : Bracket ℝ, BrOrd b0 ∧ BrVals fline b0 ∧ b0.fb ≤ b0.fa ∧ b0.fb ≤ b0.fc →
      (if gtb b0.ax b0.cx = true then some ({ b0 with ax := b0.cx, cx := b0.ax, fa := b0.fc, fc := b0.fa } : Bracket ℝ) else some b0) = some b →
      b.ax < b.bx ∧ b.bx < b.cx ∧ BrVals fline b ∧ b.fb ≤ b.fa ∧ b.fb ≤ b.fc := by
    intro b0 ⟨ho, hv, h1, h2⟩ hb
    split at hb
    · rename_i hg
      rw [gtb_r] at hg
      simp only [Option.some.injEq] at hb
      subst hb
      rcases ho with ⟨o1, o2⟩ | ⟨o1, o2⟩
      · exfalso; linarith
      · exact ⟨o1, o2, ⟨hv.2.2, hv.2.1, hv.1⟩, h2, h1⟩
    · rename_i hg
      rw [gtb_r] at hg
      simp only [Option.some.injEq] at hb
      subst hb
      rcases ho with ⟨o1, o2⟩ | ⟨o1, o2⟩
      · exact ⟨o1, o2, hv, h1, h2⟩
      · exfalso; linarith
  by_cases hsw : fline 0 < fline firststep
  · have hg : gtb (fline firststep) (fline 0) = true := by rw [gtb_r]; exact hsw
    simp only [hg, if_true] at h
    split at h
    · cases h
    · rename_i b0 hb0
      exact fin b0 (start firststep 0 hfs hsw.le b0 hb0) h
  · have hg : gtb (fline firststep) (fline 0) = false := by
      rw [Bool.eq_false_iff]; intro hc; rw [gtb_r] at hc; exact hsw hc
    simp only [hg, Bool.false_eq_true, if_false] at h
    split at h
    · cases h
    · rename_i b0 hb0
      exact fin b0 (start 0 firststep (Ne.symm hfs) (not_lt.1 hsw) b0 hb0) h


/-- **`brent()` never hands back a value above the one it was started from** (ℝ): the stored `fx` only ever falls, whether or not it is
    the line function at the stored `x` -/
theorem brentLoop_le (eps t : ℝ) (fline : ℝ → ℝ) (k : Nat) (s : BrentSt ℝ) (x fx : ℝ)
    (h : brentLoop eps t fline k s = some (x, fx)) : fx ≤ s.fx := by
  induction k generalizing s with
  | zero => cases h
  | succ k ih =>
    unfold brentLoop at h
    rcases brentStep_cases eps t fline s with ⟨_, hf⟩ | e | ⟨s', e, hs'⟩
    · exfalso; rcases hf with hf | hf <;> cases hf
    · rw [e] at h; cases h; exact le_refl _
    · rw [e] at h
      rcases hs' with ⟨_, h2⟩ | ⟨_, h2⟩
      · rw [← h2]; exact ih s' h
      · exact le_trans (ih s' h) ((leb_r _ _).1 h2)

/-- `brent(a, b)` over ℝ: the result is the line function at the returned abscissa and is not larger than its value at the
    golden-section point `a + c·(b - a)` the search starts from. NOTE: the start point is NOT the middle point `bx` of `bracket()`'s
    triplet (see `cg_is_not_a_descent_method`). -/
theorem brentCG_descent (cfg : MinCfg ℝ) (fline : ℝ → ℝ) (a b x fx : ℝ) (h : brentCG cfg fline a b = some (x, fx)) :
    fx = fline x ∧ fx ≤ fline (a + goldC * (b - a)) :=
  ⟨(brentCG_value cfg fline a b x fx h).resolve_right (fun ⟨_, _, hy⟩ => by cases hy), brentLoop_le _ _ fline _ _ x fx h⟩

/-! `esl_root_Bisection`: the sign test at the two ends decides between `eslEINVAL` and the loop -/

theorem rootBisection_of_sign_change (cfg : RootCfg ℝ) (f : ℝ → ℝ) (iter0 : Int) (xl xr : ℝ) (hs : f xl * f xr < 0) :
    rootBisection cfg f iter0 xl xr = bisectionLoop cfg f (cfg.maxIter - iter0).toNat iter0 xl xr (f xl) (f xr) := by
  unfold rootBisection
  have : Num.geb (f xl * f xr) (Num.zero : ℝ) = false := by
    rw [Bool.eq_false_iff]; intro hc; rw [geb_r, zero_r] at hc; linarith
  simp only [this, Bool.false_eq_true, if_false]

theorem rootBisection_einval (cfg : RootCfg ℝ) (f : ℝ → ℝ) (iter0 : Int) (xl xr : ℝ) (h : 0 ≤ f xl * f xr) :
    (rootBisection cfg f iter0 xl xr).st = .einval := by
  unfold rootBisection
  have : Num.geb (f xl * f xr) (Num.zero : ℝ) = true := by rw [geb_r, zero_r]; exact h
  simp only [this, if_true]

end EaselModel.Stats
