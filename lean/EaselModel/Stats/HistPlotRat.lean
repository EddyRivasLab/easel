import EaselModel.Stats.HistExpect
import EaselModel.Stats.HistMass
import EaselModel.Stats.HistExpectLemmas
/-! # The tables `esl_histogram_Plot` / `esl_histogram_PlotSurvival` print account for the data (C11, over ℚ) -/
namespace EaselModel.Stats

/-- the observed data set of `esl_histogram_Plot`, inside the bins: no fault; one row per bin `i, i+1, …`, carrying that bin's count -/
theorem plotRows_eq (obs : Array Nat) : ∀ (k : Nat) (i : Int) (acc : List (Int × Nat)), 0 ≤ i → i + k ≤ obs.size →
    plotRows obs k i acc = .val (acc.reverse ++ (List.range k).map (fun (j : Nat) => (i + (j : Int), obsAt obs (i + (j : Int))))) := by
  intro k
  induction k with
  | zero => intro i acc _ _; simp [plotRows]
  | succ k ih =>
    intro i acc h0 h1
    unfold plotRows
    rw [getObs_val obs i h0 (by omega)]
    simp only []
    rw [ih (i + 1) _ (by omega) (by push_cast at h1 ⊢; omega)]
    congr 1
    rw [List.range_succ_eq_map, List.map_cons, List.map_map, List.reverse_cons, List.append_assoc]
    congr 1
    simp only [List.singleton_append, Nat.cast_zero, add_zero, List.cons.injEq, true_and]
    apply List.map_congr_left
    intro j _
    simp only [Function.comp, Nat.cast_succ]
    have : i + 1 + (j : Int) = i + ((j : Int) + 1) := by omega
    rw [this]

theorem sum_rows (obs : Array Nat) : ∀ (k : Nat) (i : Int),
    (((List.range k).map (fun (j : Nat) => (i + (j : Int), obsAt obs (i + (j : Int))))).map (fun r => r.2)).sum = binSum obs i k := by
  intro k
  induction k with
  | zero => intro i; simp [binSum]
  | succ k ih =>
    intro i
    rw [binSum_succ_top, List.range_succ, List.map_append, List.map_append, List.sum_append, ih]
    simp

/-- **`esl_histogram_Plot` accounts for the data**: after ANY history of accepted values `vs`, the observed data set is printed without
    reading outside `obs[]`, has one row per bin from `imin` to `imax` (none for an empty histogram), each carrying the number of accepted
    values in that bin's half-open interval, and the counts printed add up to the number of accepted values. -/
theorem plotObserved_accounts (h : Hist ℚ) (vs : List ℚ) (acc : Accounts h vs) :
    ∃ rows, h.plotObserved = .val rows ∧ rows.length = (h.imax + 1 - h.imin).toNat ∧ (rows.map (fun r => r.2)).sum = vs.length ∧
      ∀ r ∈ rows, h.imin ≤ r.1 ∧ r.1 ≤ h.imax ∧ r.2 = vs.countP (fun x => decide (inBin h.bmin h.w r.1 x)) := by
  unfold Hist.plotObserved
  have hsz := acc.wf.size
  have hrange : 0 ≤ h.imin ∧ h.imin + ((h.imax + 1 - h.imin).toNat : Int) ≤ h.obs.size := by
    rcases idx_state h vs acc with ⟨_, i1, i2⟩ | ⟨_, i1, i2, i3⟩
    · have := acc.wf.nb_pos; omega
    · omega
  rw [plotRows_eq h.obs _ h.imin [] hrange.1 hrange.2]
  refine ⟨_, rfl, by simp, ?_, ?_⟩
  · simp only [List.reverse_nil, List.nil_append]
    rw [sum_rows, binSum_all h vs acc]
  · intro r hr
    simp only [List.reverse_nil, List.nil_append, List.mem_map, List.mem_range] at hr
    obtain ⟨j, hj, rfl⟩ := hr
    refine ⟨by omega, by omega, ?_⟩
    exact acc.counts _

/-- the observed part of `esl_histogram_PlotSurvival`: scanning `k` bins downwards from `i`, the last row printed carries the running
    total `c + Σ obs` of everything scanned -/
theorem survRows_last (obs : Array Nat) : ∀ (k : Nat) (i : Int) (c : Nat) (acc : List (Int × Nat)), 0 ≤ i - k + 1 → i < obs.size →
    (∀ hd ∈ acc.head?, hd.2 = c) →
    ∃ rows, survRows obs k i c acc = .val rows ∧ ∀ l ∈ rows.getLast?, l.2 = c + binSum obs (i - k + 1) k := by
  intro k
  induction k with
  | zero =>
    intro i c acc _ _ hh
    refine ⟨acc.reverse, rfl, ?_⟩
    intro l hl
    rw [List.getLast?_reverse] at hl
    simp only [binSum, Nat.add_zero]
    exact hh l hl
  | succ k ih =>
    intro i c acc h0 h1 hh
    unfold survRows
    rw [getObs_val obs i (by push_cast at h0; omega) h1]
    simp only []
    have hb : binSum obs (i - ((k + 1 : Nat) : Int) + 1) (k + 1) = binSum obs (i - 1 - (k : Int) + 1) k + obsAt obs i := by
      rw [binSum_succ_top]
      have e1 : i - ((k + 1 : Nat) : Int) + 1 = i - 1 - (k : Int) + 1 := by push_cast; omega
      have e2 : i - 1 - (k : Int) + 1 + (k : Int) = i := by omega
      rw [e1, e2]
    split
    · obtain ⟨rows, e, hl⟩ := ih (i - 1) (c + obsAt obs i) ((i, c + obsAt obs i) :: acc) (by push_cast at h0; omega) (by omega)
        (by intro hd hhd; simp only [List.head?_cons, Option.mem_def, Option.some.injEq] at hhd; rw [← hhd])
      exact ⟨rows, e, fun l hm => by rw [hl l hm, hb]; omega⟩
    · rename_i hz
      obtain ⟨rows, e, hl⟩ := ih (i - 1) c acc (by push_cast at h0; omega) (by omega) hh
      exact ⟨rows, e, fun l hm => by rw [hl l hm, hb]; omega⟩

/-- **`esl_histogram_PlotSurvival` accounts for the data** (also on an empty histogram: repaired in e843eeb): no read outside `obs[]`; the
    extra first row is printed exactly when the top bin holds more than one value; and the last cumulative count printed is the number of
    accepted values (so the last survival fraction is `n / Nc`). -/
theorem plotSurvival_accounts (h : Hist ℚ) (vs : List ℚ) (acc : Accounts h vs) :
    ∃ first rows, h.plotSurvival = .val (first, rows) ∧ (vs = [] → first = false ∧ rows = []) ∧
      (first = true → 1 < vs.countP (fun x => decide (inBin h.bmin h.w h.imax x))) ∧ ∀ l ∈ rows.getLast?, l.2 = vs.length := by
  unfold Hist.plotSurvival
  have hsz := acc.wf.size
  rcases idx_state h vs acc with ⟨e, i1, i2⟩ | ⟨hne, i1, i2, i3⟩
  · have hk : (h.imax + 1 - h.imin).toNat = 0 := by have := acc.wf.nb_pos; omega
    have hm : ¬ (h.imax > -1) := by omega
    simp only [hm, if_false, hk, survRows]
    refine ⟨false, [], rfl, fun _ => ⟨rfl, rfl⟩, ?_, ?_⟩
    · intro hc; cases hc
    · intro l hl; simp at hl
  · have hm : h.imax > -1 := by omega
    simp only [hm, if_true]
    rw [getObs_val h.obs h.imax (by omega) (by omega)]
    simp only []
    obtain ⟨rows, e, hl⟩ := survRows_last h.obs (h.imax + 1 - h.imin).toNat h.imax 0 [] (by omega) (by omega) (by intro hd hhd; cases hhd)
    rw [e]
    refine ⟨_, rows, rfl, fun hv => absurd hv hne, ?_, ?_⟩
    · intro hf
      simp only [decide_eq_true_eq] at hf
      rw [← acc.counts h.imax]; exact hf
    · intro l hm'
      rw [hl l hm', Nat.zero_add]
      have : h.imax - (((h.imax + 1 - h.imin).toNat : Nat) : Int) + 1 = h.imin := by omega
      rw [this]
      exact binSum_all h vs acc

/-- `esl_histogram_DeclareRounding` only raises the `is_rounded` flag: the histogram accounts for the same values afterwards -/
theorem declareRounding_accounts (h : Hist ℚ) (vs : List ℚ) (acc : Accounts h vs) : Accounts h.declareRounding vs ∧
    h.declareRounding.obs = h.obs ∧ h.declareRounding.isRounded = true := by
  exact ⟨acc.of_sameData (by simp [SameData, Hist.declareRounding]) ⟨acc.wf.size, acc.wf.nb_pos, acc.wf.nb_le, acc.wf.alloc, acc.wf.xsize⟩, rfl, rfl⟩


/-- **what `esl_histogram_Goodness` evaluates, in terms of the raw data** (ℚ): the `nobs` of its first loop — and hence, by
    `goodness_accounts`, the total of its re-bins — is the number of accepted values above the lower bound of the first evaluated bin. -/
theorem goodnessCount_raw (h : Hist ℚ) (vs : List ℚ) (acc : Accounts h vs) (b : Int) (hb0 : 0 ≤ b) (hb1 : b ≤ h.imax + 1) :
    goodnessCount h.obs (h.imax + 1 - b).toNat b 0 = .val (vs.countP (fun x => decide (h.bmin + b * h.w < x))) := by
  have hsz := acc.wf.size
  have himax := acc.idx.imax_lt acc.wf
  rw [goodnessCount_eq h.obs _ b 0 hb0 (by omega), Nat.zero_add, binSum_above h vs acc b hb1]

end EaselModel.Stats
