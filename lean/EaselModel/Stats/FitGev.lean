import EaselModel.Stats.FitCG
/-! # Executable model of the generalized-extreme-value fits (C11, kind H)

`esl_gev_FitComplete` / `esl_gev_FitCensored` (`fitting_engine`, `gev_func`, `gev_gradient`, `esl_gev_logpdf`, `esl_gev_logcdf`) on top of
the minimiser model. The density functions call libm's `log1p`, which the numeric class `Num` does not carry: it comes in through the
one-function class `Log1p` — `Float`: the same libm symbol the C code calls (so the differential run stays bit-exact); `ℝ`: `log(1+x)`
(`GevReal.lean`). Core Lean only. -/
namespace EaselModel.Stats
open Num

/-- libm `log1p` -/
class Log1p (α : Type) where
  log1p : α → α

/-- Lean's `Float` has no binding for `log1p`; this is the libm symbol the C code calls -/
@[extern "log1p"] opaque log1pFloat : Float → Float
instance : Log1p Float := ⟨log1pFloat⟩

variable {α : Type} [Num α] [Log1p α]

/-- `esl_gev_logpdf()` -/
def gevLogpdf (x mu lambda alpha : α) : α :=
  let y := lambda * (x - mu)
  let ya1 := one + alpha * y
  if ltb (abs (y * alpha)) (1e-12 : α) then (log lambda - y) - exp (-y) else
  if leb ya1 zero then negInf else
  let lya1 := Log1p.log1p (alpha * y)
  (log lambda - (one + one / alpha) * lya1) - exp (-lya1 / alpha)

/-- `esl_gev_logcdf()` -/
def gevLogcdf (x mu lambda alpha : α) : α :=
  let y := lambda * (x - mu)
  let ya1 := one + alpha * y
  if ltb (abs (y * alpha)) (1e-12 : α) then Neg.neg (exp (-y)) else
  if leb ya1 zero then (if ltb x mu then negInf else zero) else
  let lya1 := Log1p.log1p (alpha * y)
  Neg.neg (exp (-lya1 / alpha))

/-- `gev_func()`: the negative log-likelihood in `p = (μ, log λ, α)`; `cens = some (z, phi)` for `is_censored` -/
def gevFunc (xs : Array α) (cens : Option (Int × α)) (p : Array α) : α :=
  let mu := p.getD 0 zero
  let lambda := exp (p.getD 1 zero)
  let alpha := p.getD 2 zero
  let logL := xs.foldl (fun acc x => acc + gevLogpdf x mu lambda alpha) zero
  let logL := match cens with
    | some (z, phi) => logL + ofInt z * gevLogcdf phi mu lambda alpha
    | none => logL
  Neg.neg logL

/-- one sample of `gev_gradient()`'s loop: `(dmu, dw, dalpha)` updated in the order of the C statements -/
def gevGradStep (mu lambda alpha : α) (acc : α × α × α) (x : α) : α × α × α :=
  let (dmu, dw, dalpha) := acc
  let y := lambda * (x - mu)
  let ay := alpha * y
  let ay1 := one + ay
  let lay1 := log ay1
  let small := ltb (abs ay) (1e-12 : α)
  let dmu := dmu + (alpha + one) / ay1
  let dmu := if small then dmu - exp (-y) else dmu - exp (-(one + one / alpha) * lay1)
  let dw := dw - y * (one + alpha) / ay1
  let dw := if small then dw + y * exp (-y) else dw + y * exp (-(one + one / alpha) * lay1)
  let dalpha := dalpha - (one + one / alpha) * y / ay1
  let dalpha :=
    if small then
      let d := dalpha + y / alpha
      let d := d + y * exp (-y) / (alpha * ay1)
      d - y * exp (-y) / alpha
    else
      let d := dalpha + lay1 / (alpha * alpha)
      let d := d + y * exp (-lay1 / alpha) / (alpha * ay1)
      d - lay1 * exp (-lay1 / alpha) / (alpha * alpha)
  (dmu, dw, dalpha)

/-- `gev_gradient()` -/
def gevGrad (xs : Array α) (cens : Option (Int × α)) (p : Array α) : Array α :=
  let mu := p.getD 0 zero
  let lambda := exp (p.getD 1 zero)
  let alpha := p.getD 2 zero
  let (dmu, dw, dalpha) := xs.foldl (gevGradStep mu lambda alpha) (zero, ofInt xs.size, zero)
  let dmu := dmu * lambda
  let (dmu, dw, dalpha) := match cens with
    | none => (dmu, dw, dalpha)
    | some (z, phi) =>
      let zz : α := ofInt z
      let y := lambda * (phi - mu)
      let ay := alpha * y
      let ay1 := one + ay
      let lay1 := log ay1
      if ltb (abs ay) (1e-12 : α) then
        (dmu - zz * lambda * exp (-y) / ay1, dw + zz * y * exp (-y) / ay1, dalpha - zz * exp (-y) * y / alpha * ay / ay1)
      else
        (dmu - zz * lambda * exp (-lay1 / alpha) / ay1, dw + zz * y * exp (-lay1 / alpha) / ay1,
         dalpha - zz * exp (-lay1 / alpha) * (lay1 / (alpha * alpha) - y / (alpha * ay1)))
  #[Neg.neg dmu, Neg.neg dw, Neg.neg dalpha]

/-- the customised optimiser configuration of `fitting_engine()`: `cg_rtol = 1e-6`, `u = (1.0, fabs(log(0.02)), 0.02)` -/
def gevCfg : MinCfg α :=
  { (MinCfg.create 3 : MinCfg α) with u := some #[(1.0 : α), abs (log (0.02 : α)), (0.02 : α)], cgRtol := (1e-6 : α) }

/-- the start point of `fitting_engine()` -/
def gevStart (xs : Array α) : Array α :=
  let (mean, variance) := dmean xs
  let lambda := piConst / sqrt ((6.0 : α) * variance)
  let mu := mean - (0.57722 : α) / lambda
  #[mu, log lambda, (0.0001 : α)]

def gevCG (xs : Array α) (cens : Option (Int × α)) : MinRes α × StopWhy :=
  cgd gevCfg (gevFunc xs cens) (some (gevGrad xs cens)) (gevStart xs)

/-- `fitting_engine()` → `(mu, lambda, alpha)`: the optimiser's status is handed back unchanged, the parameters whatever it was -/
def gevFittingEngine (xs : Array α) (cens : Option (Int × α)) : FitRes α :=
  match (gevCG xs cens).1 with
  | .hang => .hang
  | .res st p _ => .res st #[p.getD 0 zero, exp (p.getD 1 zero), p.getD 2 zero]

/-- `esl_gev_FitComplete()` -/
def gevFitComplete (xs : Array α) : FitRes α := gevFittingEngine xs none
/-- `esl_gev_FitCensored()` -/
def gevFitCensored (xs : Array α) (z : Int) (phi : α) : FitRes α := gevFittingEngine xs (some (z, phi))

end EaselModel.Stats
