import EaselModel.Dsqdata.Format
import EaselModel.Dsqdata.StubLemmas
/-! # The byte-level dsqdata format: encodings round-trip, the byte-level loader simulates the index-level one, and
`esl_dsqdata_Open` on the written files, with whatever follows their headers (`openDb_writtenWith`) or with a header field patched. -/
namespace EaselModel.Dsqdata

theorem enc32_length (p : UInt32) : (enc32 p).length = 4 := by simp [enc32, le32]

theorem dec32_enc32 (p : UInt32) : dec32 (enc32 p) = p := by
  simp only [dec32, enc32, le32, leVal_leBytes]
  have h : p.toNat % 256 ^ 4 = p.toNat := Nat.mod_eq_of_lt (by have := p.toNat_lt; omega)
  rw [h]; exact UInt32.ofNat_toNat

theorem encRec_length (r : Rec) : (encRec r).length = 16 := by simp [encRec, leI64]

/-- the values an `int64_t` holds -/
def I64 (x : Int) : Prop := -9223372036854775808 ≤ x ∧ x < 9223372036854775808

theorem decRec_encRec (r : Rec) (h1 : I64 r.metaEnd) (h2 : I64 r.psqEnd) : decRec (encRec r) = r := by
  have e1 : (leI64 r.metaEnd ++ leI64 r.psqEnd).take 8 = leI64 r.metaEnd := by
    exact List.take_left' (by simp [leI64])
  have e2 : (leI64 r.metaEnd ++ leI64 r.psqEnd).drop 8 = leI64 r.psqEnd := by
    exact List.drop_left' (by simp [leI64])
  simp only [decRec, encRec, e1, e2, valI64_leI64 _ h1.1 h1.2, valI64_leI64 _ h2.1 h2.2]

theorem leVal_le32 (n : Nat) (h : n < 4294967296) : leVal (le32 n) = n := by
  simp only [le32, leVal_leBytes]
  exact Nat.mod_eq_of_lt (by omega)

/-- reading only the records the window can take gives the same chunk, and leaves no record behind in the state -/
theorem loaderIter_take (maxseq : Nat) (maxpacket : Int) (L : LState) :
    loaderIter maxseq maxpacket { L with file := L.file.take (maxseq - (L.window.drop L.nload).length) } =
      (loaderIter maxseq maxpacket L).map (fun x => (x.1, { x.2 with file := [] })) ∧
    ∀ o L', loaderIter maxseq maxpacket L = some (o, L') →
      L'.file = L.file.drop (maxseq - (L.window.drop L.nload).length) := by
  generalize hk : maxseq - (L.window.drop L.nload).length = k
  have h1 : (L.file.take k).take k = L.file.take k := by rw [List.take_take, Nat.min_self]
  have h2 : (L.file.take k).drop k = [] := by simp
  constructor
  · simp only [loaderIter, hk, h1, h2]
    cases hW : (L.window.drop L.nload ++ L.file.take k).isEmpty
    · simp only [Bool.false_eq_true, if_false]
      cases hc : chooseNload (L.window.drop L.nload ++ L.file.take k) L.psqLast maxpacket with
      | none => simp
      | some n =>
        simp only
        cases hr : getRec (L.window.drop L.nload ++ L.file.take k) (n - 1) with
        | none => simp
        | some r =>
          simp only
          split <;> simp
    · simp
  · intro o L' h
    simp only [loaderIter, hk] at h
    cases hW : (L.window.drop L.nload ++ L.file.take k).isEmpty
    · simp only [hW, Bool.false_eq_true, if_false] at h
      cases hc : chooseNload (L.window.drop L.nload ++ L.file.take k) L.psqLast maxpacket with
      | none => simp [hc] at h
      | some n =>
        simp only [hc] at h
        cases hr : getRec (L.window.drop L.nload ++ L.file.take k) (n - 1) with
        | none => simp [hr] at h
        | some r =>
          simp only [hr] at h
          split at h
          · simp at h
          · simp only [Option.some.injEq, Prod.mk.injEq] at h
            rw [← h.2]
    · simp only [hW, if_true, Option.some.injEq, Prod.mk.injEq] at h
      rw [← h.2]

/-- packets of one record -/
abbrev PK (amino : Bool) (r : SeqRec) : List UInt32 := pk amino r.dsq
/-- metadata bytes of one record -/
abbrev EM (r : SeqRec) : List UInt8 := encodeMeta (metaOf r)

def SeqRec.Wf (r : SeqRec) : Prop :=
  (∀ x ∈ r.name, x ≠ 0) ∧ (∀ x ∈ r.acc, x ≠ 0) ∧ (∀ x ∈ r.desc, x ≠ 0) ∧ r.taxid < 4294967296 ∧ (∀ x ∈ r.dsq, x ≤ 30)

theorem metaOf_wf (r : SeqRec) (h : r.Wf) : (metaOf r).Wf :=
  ⟨h.1, h.2.1, h.2.2.1, by simp [metaOf, le32]⟩

/-- what `dsqdata_unpack_chunk` makes of the packets and metadata bytes of the records `rs` -/
theorem unpackB_records (amino : Bool) (rs : List SeqRec) (hwf : ∀ r ∈ rs, r.Wf) (i0 pn : Nat) :
    unpackB amino { i0 := i0, n := rs.length, pn := pn, psq := rs.flatMap (PK amino), metadata := rs.flatMap EM } = some rs := by
  have hm : parseMeta rs.length (rs.flatMap EM) = some (rs.map metaOf) := by
    have := parseMeta_encode (rs.map metaOf) (by
      intro m hm
      obtain ⟨r, hr, rfl⟩ := List.mem_map.mp hm
      exact metaOf_wf r (hwf r hr)) []
    simpa [List.flatMap_map, EM] using this
  have hd : unpackChunk amino (rs.flatMap (PK amino)) = some (rs.map (·.dsq)) := by
    have := unpackChunk_pk amino (rs.map (·.dsq)) (by
      intro d hd
      obtain ⟨r, hr, rfl⟩ := List.mem_map.mp hd
      exact (hwf r hr).2.2.2.2)
    simpa [List.flatMap_map, PK] using this
  simp only [unpackB, hm, hd, List.length_map, if_true]
  congr 1
  clear hm hd
  induction rs with
  | nil => rfl
  | cons r rs ih =>
    simp only [List.map_cons, List.zipWith_cons_cons]
    rw [ih (fun x hx => hwf x (by simp [hx]))]
    congr 1
    have := (hwf r (by simp)).2.2.2.1
    cases r
    simp only [metaOf, SeqRec.mk.injEq, true_and, and_true]
    exact leVal_le32 _ this

variable (amino : Bool) (db : List SeqRec) (maxseq : Nat) (maxpacket : Int)

/-- packets per record, metadata bytes per record, and the index `esl_dsqdata_Write` stores -/
abbrev psOf : List Nat := db.map fun r => (PK amino r).length
abbrev msOf : List Nat := db.map fun r => (EM r).length
abbrev idxOf : List Rec := indexOf ((psOf amino db).zip (msOf db)) 0 0

/-- byte-level loader state after `pos` records: positions of the three files, index window as in `LoaderInv` -/
def BInv (st : BState) (pos : Nat) : Prop :=
  ∃ L : LState, LoaderInv (idxOf amino db) (psOf amino db) (msOf db) maxseq L ∧ pos = L.i0 + L.nload ∧
    st.l = { L with file := [] } ∧ st.ifp = L.file.flatMap encRec ∧
    st.sfp = ((db.drop pos).flatMap (PK amino)).flatMap enc32 ∧ st.mfp = (db.drop pos).flatMap EM

theorem sum_take_le (l : List Nat) (k : Nat) : (l.take k).sum ≤ l.sum := by
  induction l generalizing k with
  | nil => simp
  | cons a l ih =>
    cases k with
    | zero => simp
    | succ k => simp only [List.take_succ_cons, List.sum_cons]; have := ih k; omega

/-- every index record holds values an `int64_t` can hold when the files are smaller than `2^63` packets / bytes -/
theorem idx_i64 (h1 : (psOf amino db).sum < 9223372036854775808) (h2 : (msOf db).sum < 9223372036854775808) :
    ∀ r ∈ idxOf amino db, I64 r.metaEnd ∧ I64 r.psqEnd := by
  intro r hr
  obtain ⟨i, hi, rfl⟩ := List.getElem_of_mem hr
  have hlen : (idxOf amino db).length = (psOf amino db).length := (idxOf_indexOf _ _ (by simp)).1
  obtain ⟨r', hr', hp, hm⟩ := (idxOf_indexOf (psOf amino db) (msOf db) (by simp)).2.2 i (by omega)
  rw [List.getElem?_eq_getElem hi] at hr'
  cases hr'
  have b1 := sum_take_le (psOf amino db) (i + 1)
  have b2 := sum_take_le (msOf db) (i + 1)
  simp only [pre] at hp hm
  simp only [I64]
  omega

theorem map_len_take_drop {α β} (f : α → List β) (l : List α) (pos n : Nat) :
    (((l.map fun r => (f r).length).drop pos).take n).sum = (((l.drop pos).take n).map fun x => (f x).length).sum := by
  rw [List.map_take, List.map_drop]

theorem flatMap_share {α β} (f : α → List β) (l : List α) (n m : Nat)
    (hm : m = ((l.take n).map fun x => (f x).length).sum) :
    (l.flatMap f).take m = (l.take n).flatMap f ∧ (l.flatMap f).drop m = (l.drop n).flatMap f ∧
      ((l.take n).flatMap f).length = m ∧ m ≤ (l.flatMap f).length := by
  have ht : (l.flatMap f).take m = (l.take n).flatMap f := by rw [hm]; exact flatMap_take_prefix f l n
  have hl : ((l.take n).flatMap f).length = m := by rw [List.length_flatMap, hm]
  refine ⟨ht, by rw [hm]; exact flatMap_drop_prefix f l n, hl, ?_⟩
  rw [← hl, ← ht, List.length_take]; exact Nat.min_le_right _ _

theorem loaderIterB_step (hms : 1 ≤ maxseq) (hfit : ∀ r ∈ db, ((PK amino r).length : Int) ≤ maxpacket)
    (hi64 : ∀ r ∈ idxOf amino db, I64 r.metaEnd ∧ I64 r.psqEnd)
    (st : BState) (pos : Nat) (hinv : BInv amino db maxseq st pos) (hlt : pos < db.length) :
    ∃ n st', loaderIterB maxseq maxpacket st =
        some (some { i0 := pos, n := n, pn := (((db.drop pos).take n).flatMap (PK amino)).length,
                     psq := ((db.drop pos).take n).flatMap (PK amino), metadata := ((db.drop pos).take n).flatMap EM }, st') ∧
      BInv amino db maxseq st' (pos + n) ∧ 1 ≤ n ∧ n ≤ maxseq ∧ pos + n ≤ db.length ∧
      ((((db.drop pos).take n).flatMap (PK amino)).length : Int) ≤ maxpacket := by
  obtain ⟨L, hL, hpos, hl, hifp, hsfp, hmfp⟩ := hinv
  have hidx := idxOf_indexOf (psOf amino db) (msOf db) (by simp)
  have hps : ∀ i (h : i < (psOf amino db).length), ((psOf amino db)[i] : Int) ≤ maxpacket := by
    intro i h
    simp only [List.getElem_map]
    exact hfit _ (List.getElem_mem _)
  obtain ⟨c, L', hiter, hL', hi0, hnl, hci0, hok⟩ := loaderIter_step (idxOf amino db) (psOf amino db) (msOf db) maxseq
    maxpacket L hidx hms hps hL (by rw [← hpos]; simpa using hlt)
  have hc3 := hok.inDb; have hc6 := hok.pn; have hc7 := hok.nmeta
  obtain ⟨hA, hB⟩ := loaderIter_take maxseq maxpacket L
  generalize hk : maxseq - (L.window.drop L.nload).length = k at hA hB
  have hfile := hB _ _ hiter
  rw [hiter] at hA
  simp only [Option.map_some] at hA
  have hfr := freadItems_flatMap encRec 16 (by omega) encRec_length L.file k
  have hmem : ∀ x ∈ L.file.take k, decRec (encRec x) = x := by
    intro x hx
    have h1 : x ∈ L.window.drop L.nload ++ L.file := List.mem_append_right _ (List.mem_of_mem_take hx)
    rw [hL.hsplit] at h1
    have h2 := hi64 x (List.mem_of_mem_drop h1)
    exact decRec_encRec x h2.1 h2.2
  have hdecode : decodeItems 16 decRec (min k L.file.length) ((L.file.take k).flatMap encRec) = L.file.take k := by
    have := decodeItems_flatMap encRec decRec 16 encRec_length (L.file.take k) [] hmem
    rw [List.append_nil, List.length_take] at this; exact this
  have hlen : db.length = (psOf amino db).length := by simp
  rw [← hpos] at hci0 hi0
  rw [hci0] at hc3 hc6 hc7
  have hpn : c.pn.toNat = ((((db.drop pos).take c.n).map fun x => (PK amino x).length)).sum := by
    rw [hc6, Int.toNat_natCast]; exact map_len_take_drop (PK amino) db pos c.n
  have hnm : c.nmeta.toNat = ((((db.drop pos).take c.n).map fun x => (EM x).length)).sum := by
    rw [hc7, Int.toNat_natCast]; exact map_len_take_drop EM db pos c.n
  obtain ⟨hpk_take, hpk_drop, hplen, hXlen⟩ := flatMap_share (PK amino) (db.drop pos) c.n c.pn.toNat hpn
  obtain ⟨hem_take, hem_drop, _, hMlen⟩ := flatMap_share EM (db.drop pos) c.n c.nmeta.toNat hnm
  rw [List.drop_drop] at hpk_drop hem_drop
  have hfp := freadItems_flatMap enc32 4 (by omega) enc32_length ((db.drop pos).flatMap (PK amino)) c.pn.toNat
  rw [hpk_take, hpk_drop, Nat.min_eq_left hXlen] at hfp
  have hfm := freadItems_one c.nmeta.toNat _ hMlen
  rw [hem_take, hem_drop] at hfm
  have hdp : decodeItems 4 dec32 c.pn.toNat ((((db.drop pos).take c.n).flatMap (PK amino)).flatMap enc32)
      = ((db.drop pos).take c.n).flatMap (PK amino) := by
    have := decodeItems_flatMap enc32 dec32 4 enc32_length (((db.drop pos).take c.n).flatMap (PK amino)) []
      (fun x _ => dec32_enc32 x)
    rw [List.append_nil, hplen] at this; exact this
  refine ⟨c.n, { l := { L' with file := [] }, ifp := (L.file.drop k).flatMap encRec,
                 sfp := ((db.drop (pos + c.n)).flatMap (PK amino)).flatMap enc32, mfp := (db.drop (pos + c.n)).flatMap EM },
          ?_, ?_, hok.one, hok.nle, ?_, ?_⟩
  · have hnn : ¬ c.nmeta < 0 := by rw [hc7]; omega
    simp only [loaderIterB, hl, hifp, hsfp, hmfp, hk, hfr, hdecode, hA, hnn, if_false, hfp, hfm, hdp, ne_eq,
      not_true_eq_false, hci0, hplen]
  · exact ⟨L', hL', by rw [hi0, hnl], rfl, by rw [hfile], rfl, rfl⟩
  · rw [hlen]; exact hc3
  · rw [hplen, Int.toNat_of_nonneg hok.pn0]; exact hok.pnle

theorem loaderIterB_eod (st : BState) (pos : Nat) (hinv : BInv amino db maxseq st pos) (hge : db.length ≤ pos) :
    ∃ st', loaderIterB maxseq maxpacket st = some (none, st') := by
  obtain ⟨L, hL, hpos, hl, hifp, _, _⟩ := hinv
  have hnil : (idxOf amino db).drop (L.i0 + L.nload) = [] :=
    List.drop_eq_nil_of_le (by rw [(idxOf_indexOf (psOf amino db) (msOf db) (by simp)).1]; simp; omega)
  have hsp := hL.hsplit
  rw [hnil] at hsp
  obtain ⟨hw, hf⟩ := List.append_eq_nil_iff.mp hsp
  obtain ⟨st', hiter⟩ := loaderIter_eod maxseq maxpacket L hw hf
  have hLe : ({ L with file := [] } : LState) = L := by cases L; simp_all
  have h2 : loaderIter maxseq maxpacket { L with file := [] } = some (none, st') := by rw [hLe]; exact hiter
  simp only [loaderIterB, hl, hifp, hf, List.flatMap_nil, freadItems, List.length_nil, Nat.zero_div, Nat.min_zero,
    Nat.zero_mul, List.take_nil, decodeItems, h2]
  exact ⟨_, rfl⟩

/-- the chunks tile the database from record `pos` on: each holds the next `n ≥ 1` records, within the limits -/
def Tiles : Nat → List (BChunk × List SeqRec) → Prop
  | pos, [] => db.length ≤ pos
  | pos, (c, rs) :: rest => c.i0 = pos ∧ 1 ≤ c.n ∧ c.n ≤ maxseq ∧ (c.pn : Int) ≤ maxpacket ∧ pos + c.n ≤ db.length ∧
      rs = (db.drop pos).take c.n ∧ c.psq = rs.flatMap (PK amino) ∧ c.pn = c.psq.length ∧ c.metadata = rs.flatMap EM ∧
      Tiles (pos + c.n) rest

theorem tiles_flatten_db : ∀ (out : List (BChunk × List SeqRec)) (pos : Nat),
    Tiles amino db maxseq maxpacket pos out → out.flatMap (·.2) = db.drop pos
  | [], pos, h => by simp [Tiles] at h; simp [List.drop_eq_nil_of_le h]
  | (c, rs) :: rest, pos, h => by
    obtain ⟨_, _, _, _, _, hrs, _, _, _, ht⟩ := h
    simp only [List.flatMap_cons, tiles_flatten_db rest _ ht, hrs]
    rw [← List.drop_drop, List.take_append_drop]

theorem loaderChunksB_run (hms : 1 ≤ maxseq) (hfit : ∀ r ∈ db, ((PK amino r).length : Int) ≤ maxpacket)
    (hi64 : ∀ r ∈ idxOf amino db, I64 r.metaEnd ∧ I64 r.psqEnd) (hwf : ∀ r ∈ db, r.Wf) :
    ∀ fuel st pos, BInv amino db maxseq st pos → db.length - pos < fuel →
      ∃ cs out, loaderChunksB maxseq maxpacket fuel st = some cs ∧ unpackAll amino cs = some out ∧
        out.map (·.1) = cs ∧ Tiles amino db maxseq maxpacket pos out := by
  intro fuel
  induction fuel with
  | zero => intro st pos _ h; omega
  | succ fuel ih =>
    intro st pos hinv hfuel
    rcases Nat.lt_or_ge pos db.length with hlt | hge
    · obtain ⟨n, st', hiter, hinv', hn1, hn2, hle, hpm⟩ :=
        loaderIterB_step amino db maxseq maxpacket hms hfit hi64 st pos hinv hlt
      obtain ⟨cs, out, hcs, hout, hmap, htiles⟩ := ih st' (pos + n) hinv' (by omega)
      have hlen : ((db.drop pos).take n).length = n := by
        rw [List.length_take, List.length_drop]; omega
      have hu := unpackB_records amino ((db.drop pos).take n)
        (fun r hr => hwf r (List.mem_of_mem_drop (List.mem_of_mem_take hr))) pos
        (((db.drop pos).take n).flatMap (PK amino)).length
      rw [hlen] at hu
      obtain ⟨c, hc⟩ : ∃ c : BChunk, c = BChunk.mk pos n (((db.drop pos).take n).flatMap (PK amino)).length
          (((db.drop pos).take n).flatMap (PK amino)) (((db.drop pos).take n).flatMap EM) := ⟨_, rfl⟩
      rw [← hc] at hiter hu
      refine ⟨c :: cs, (c, (db.drop pos).take n) :: out, ?_, ?_, ?_, ?_⟩
      · simp only [loaderChunksB, hiter, hcs]
      · simp only [unpackAll, hu, hout]
      · simp only [List.map_cons, hmap]
      · subst hc
        exact ⟨rfl, hn1, hn2, hpm, hle, rfl, rfl, rfl, rfl, htiles⟩
    · obtain ⟨st', hiter⟩ := loaderIterB_eod amino db maxseq maxpacket st pos hinv hge
      exact ⟨[], [], by simp only [loaderChunksB, hiter], rfl, rfl, hge⟩

theorem rdFields_cons_ok (k : Nat) (ks : List Nat) (v : Nat) (rest : List UInt8) (e : Nat) (vs : List Nat) (r : List UInt8)
    (h : rdFields ks rest (e + 1) = .ok (vs, r)) :
    rdFields (k :: ks) (leBytes k v ++ rest) e = .ok (v % 256 ^ k :: vs, r) := by
  have h1 : ¬ (leBytes k v ++ rest).length < k := by simp
  have h2 : (leBytes k v ++ rest).take k = leBytes k v := List.take_left' (by simp)
  have h3 : (leBytes k v ++ rest).drop k = rest := List.drop_left' (by simp)
  simp only [rdFields, h1, if_false, h2, h3, leVal_leBytes, h]

theorem rdFields_stored : ∀ (kv : List (Nat × Nat)) (rest : List UInt8) (e : Nat),
    rdFields (kv.map (·.1)) (kv.flatMap (fun p => leBytes p.1 p.2) ++ rest) e = .ok (kv.map fun p => p.2 % 256 ^ p.1, rest)
  | [], _, _ => rfl
  | (k, v) :: kv, rest, e => by
    rw [List.flatMap_cons, List.append_assoc]
    exact rdFields_cons_ok k _ v _ e _ _ (rdFields_stored kv rest (e + 1))

/-- two `uint32_t` header fields (the `.dsqm` and `.dsqs` headers) -/
theorem rdFields_two (a b : Nat) (rest : List UInt8) (e : Nat) :
    rdFields [4, 4] (le32 a ++ le32 b ++ rest) e = .ok ([a % 4294967296, b % 4294967296], rest) := by
  simpa [le32, List.append_assoc] using rdFields_stored [(4, a), (4, b)] rest e

/-- the ten fields of the `.dsqi` header -/
theorem rdFields_idx (a b c d e' f g h i j : Nat) (rest : List UInt8) :
    rdFields [4, 4, 4, 4, 4, 4, 4, 8, 8, 8] (le32 a ++ le32 b ++ (le32 c ++ (le32 d ++ (le32 e' ++ (le32 f ++ (le32 g ++
      (le64 h ++ (le64 i ++ (le64 j ++ rest))))))))) 8 =
    .ok ([a % 4294967296, b % 4294967296, c % 4294967296, d % 4294967296, e' % 4294967296, f % 4294967296, g % 4294967296,
          h % 18446744073709551616, i % 18446744073709551616, j % 18446744073709551616], rest) := by
  simpa [le32, le64, List.append_assoc] using
    rdFields_stored [(4, a), (4, b), (4, c), (4, d), (4, e'), (4, f), (4, g), (8, h), (8, i), (8, j)] rest 8

/-- `esl_dsqdata_Open` on files shaped as `esl_dsqdata_Write` shapes them (a stub with tag `tg`; the ten header fields at the head
    of the index file; magic and tag at the head of the two data files): the checks in the order the C code makes them. -/
theorem openDb_files (expect : Option Nat) (tg : Nat) (srest : List UInt8) (mi ti a fl mn ma md ms nq nr : Nat)
    (irest : List UInt8) (mm tm : Nat) (mrest : List UInt8) (mq tq : Nat) (qrest : List UInt8) :
    openDb expect ⟨stubLine1 tg ++ srest,
        le32 mi ++ le32 ti ++ (le32 a ++ (le32 fl ++ (le32 mn ++ (le32 ma ++ (le32 md ++ (le64 ms ++ (le64 nq ++ (le64 nr ++ irest)))))))),
        le32 mm ++ le32 tm ++ mrest, le32 mq ++ le32 tq ++ qrest⟩ =
      if ti % 4294967296 ≠ tg % 4294967296 then .eformat 18
      else if mi % 4294967296 = MAGIC_SWAP then .eunimplemented
      else if mi % 4294967296 ≠ MAGIC then .eformat 19
      else
        match (match expect with
          | some t => if a % 4294967296 ≠ t then some (OpenResult.eformat 20) else none
          | none => if a % 4294967296 = 0 ∨ a % 4294967296 > 6 then some (.eformat 21)
                    else if a % 4294967296 = 6 then some .fatal else none) with
        | some r => r
        | none =>
          if mm % 4294967296 ≠ mi % 4294967296 then .eformat 24
          else if tm % 4294967296 ≠ tg % 4294967296 then .eformat 25
          else if mq % 4294967296 ≠ mi % 4294967296 then .eformat 28
          else if tq % 4294967296 ≠ tg % 4294967296 then .eformat 29
          else .ok { tag := tg % 4294967296, alphatype := a % 4294967296, flags := fl % 4294967296, maxName := mn % 4294967296,
                     maxAcc := ma % 4294967296, maxDesc := md % 4294967296, maxSeqlen := ms % 18446744073709551616,
                     nseq := nq % 18446744073709551616, nres := nr % 18446744073709551616,
                     pack5 := a % 4294967296 == 3, ifp := irest, mfp := mrest, sfp := qrest } := by
  simp only [openDb, parseStub_stubLine1, rdFields_idx, rdFields_two, List.getD_cons_zero, List.getD_cons_succ]
  rfl

/-- the header `esl_dsqdata_Open` reads back from the files written for `db` -/
def writtenHeader (tag alphatype : Nat) (amino : Bool) (db : List SeqRec) : Opened :=
  { tag := tag % 4294967296, alphatype := alphatype, flags := 0,
    maxName := maxLen (db.map (·.name)) % 4294967296, maxAcc := maxLen (db.map (·.acc)) % 4294967296,
    maxDesc := maxLen (db.map (·.desc)) % 4294967296, maxSeqlen := maxLen (db.map (·.dsq)) % 18446744073709551616,
    nseq := db.length % 18446744073709551616, nres := (db.map fun r => r.dsq.length).sum % 18446744073709551616,
    pack5 := amino, ifp := (idxOf amino db).flatMap encRec, mfp := db.flatMap EM,
    sfp := (db.flatMap (PK amino)).flatMap enc32 }

/-- the four files `esl_dsqdata_Write` makes for `db`, with `ir`, `mr`, `sr` behind the headers of the three data files (52 bytes of
    `.dsqi`, 8 bytes of `.dsqm` and `.dsqs`) in place of the records, metadata and packets -/
def writtenWith (tag alphatype : Nat) (fname fmt : List UInt8) (db : List SeqRec) (ir mr sr : List UInt8) : Files :=
  { stub := stubLine1 tag ++ stubRest alphatype fname fmt db.length (db.map fun r => r.dsq.length).sum,
    idx := le32 MAGIC ++ le32 tag ++ (le32 alphatype ++ (le32 0 ++ (le32 (maxLen (db.map (·.name))) ++ (le32 (maxLen (db.map (·.acc)))
            ++ (le32 (maxLen (db.map (·.desc))) ++ (le64 (maxLen (db.map (·.dsq))) ++ (le64 db.length
            ++ (le64 (db.map fun r => r.dsq.length).sum ++ ir)))))))),
    mdat := le32 MAGIC ++ le32 tag ++ mr, seq := le32 MAGIC ++ le32 tag ++ sr }

/-- whatever `esl_dsqdata_Write` returns as files has that shape -/
theorem writeDb_ok {tag alphatype : Nat} {fname fmt : List UInt8} {db : List SeqRec} {f : Files}
    (hw : writeDb tag alphatype fname fmt db = .ok f) :
    f = writtenWith tag alphatype fname fmt db ((idxOf (alphatype == 3) db).flatMap encRec) (db.flatMap EM)
          ((db.flatMap (PK (alphatype == 3))).flatMap enc32) := by
  simp only [writeDb] at hw
  split at hw
  · cases hw
  split at hw
  · cases hw
  simp only [WriteResult.ok.injEq] at hw
  exact hw.symm

theorem writeDb_written (tag alphatype : Nat) (fname fmt : List UInt8) (db : List SeqRec)
    (hty : alphatype = 1 ∨ alphatype = 2 ∨ alphatype = 3) (hlen : ∀ r ∈ db, r.dsq.length < 6 * MAXPACKET) :
    writeDb tag alphatype fname fmt db = .ok (writtenWith tag alphatype fname fmt db ((idxOf (alphatype == 3) db).flatMap encRec)
      (db.flatMap EM) ((db.flatMap (PK (alphatype == 3))).flatMap enc32)) := by
  have hany : db.any (fun r => decide (r.dsq.length ≥ 6 * MAXPACKET)) = false := by
    rw [List.any_eq_false]
    intro r hr
    have := hlen r hr
    simp only [ge_iff_le, decide_eq_true_eq]; omega
  have hne : ¬ (alphatype ≠ 3 ∧ alphatype ≠ 2 ∧ alphatype ≠ 1) := by omega
  simp only [writeDb, hany, hne, Bool.false_eq_true, if_false]; rfl

/-- **`esl_dsqdata_Open` accepts the written files whatever follows the three headers**, and hands exactly those bytes to the loader -/
theorem openDb_writtenWith (tag alphatype : Nat) (fname fmt : List UInt8) (db : List SeqRec)
    (hty : alphatype = 1 ∨ alphatype = 2 ∨ alphatype = 3) (expect : Option Nat) (hexp : expect = none ∨ expect = some alphatype)
    (ir mr sr : List UInt8) :
    openDb expect (writtenWith tag alphatype fname fmt db ir mr sr) =
      .ok { writtenHeader tag alphatype (alphatype == 3) db with ifp := ir, mfp := mr, sfp := sr } := by
  have hM : MAGIC % 4294967296 = MAGIC := by decide
  have hMS : ¬ (MAGIC = MAGIC_SWAP) := by decide
  have hA : alphatype % 4294967296 = alphatype := by omega
  simp only [writtenWith, openDb_files, hM, hMS, hA, ne_eq, not_true_eq_false, if_false]
  rcases hexp with rfl | rfl
  · have h1 : ¬ (alphatype = 0 ∨ alphatype > 6) := by omega
    have h2 : ¬ (alphatype = 6) := by omega
    simp only [h1, h2, if_false, writtenHeader, Nat.zero_mod]
  · simp only [not_true_eq_false, if_false, writtenHeader, Nat.zero_mod]

/-- the writer's limit `L < 6 · eslDSQDATA_CHUNK_MAXPACKET` makes every packed sequence fit the library's chunk -/
theorem pk_fits_maxpacket (amino : Bool) (d : List UInt8) (h : d.length < 6 * MAXPACKET) :
    ((pk amino d).length : Int) ≤ (MAXPACKET : Nat) := by
  have := (packed_pk amino d).length_le.2.1
  have : (pk amino d).length ≤ MAXPACKET := by simp only [MAXPACKET] at h ⊢; omega
  exact_mod_cast this

theorem openDb_writeDb (tag alphatype : Nat) (fname fmt : List UInt8) (db : List SeqRec)
    (hty : alphatype = 1 ∨ alphatype = 2 ∨ alphatype = 3) (hlen : ∀ r ∈ db, r.dsq.length < 6 * MAXPACKET)
    (expect : Option Nat) (hexp : expect = none ∨ expect = some alphatype) :
    ∃ f, writeDb tag alphatype fname fmt db = .ok f ∧
      openDb expect f = .ok (writtenHeader tag alphatype (alphatype == 3) db) :=
  ⟨_, writeDb_written tag alphatype fname fmt db hty hlen, openDb_writtenWith tag alphatype fname fmt db hty expect hexp _ _ _⟩

/-- **reading back what was written**: on the files written for `db`, the byte-level loader and unpacker deliver chunks
    that tile the database -/
theorem readDb_written (tag alphatype : Nat) (db : List SeqRec) (maxseq : Nat) (maxpacket : Int)
    (hwf : ∀ r ∈ db, r.Wf) (hms : 1 ≤ maxseq)
    (hfit : ∀ r ∈ db, ((pk (alphatype == 3) r.dsq).length : Int) ≤ maxpacket)
    (h1 : (psOf (alphatype == 3) db).sum < 9223372036854775808) (h2 : (msOf db).sum < 9223372036854775808) :
    ∃ out, readDb maxseq maxpacket (writtenHeader tag alphatype (alphatype == 3) db) = some out ∧
      Tiles (alphatype == 3) db maxseq maxpacket 0 out := by
  generalize (alphatype == 3) = amino at *
  have hinv : BInv amino db maxseq (BState.init (writtenHeader tag alphatype amino db)) 0 :=
    ⟨LState.init (idxOf amino db), inv_init _ _ _ _, rfl, rfl, rfl, by simp [BState.init, writtenHeader],
      by simp [BState.init, writtenHeader]⟩
  have hfuel : (writtenHeader tag alphatype amino db).ifp.length / 16 + 2 = db.length + 2 := by
    simp only [writtenHeader]
    rw [flatMap_const_length encRec 16 encRec_length, Nat.mul_div_cancel _ (by omega),
      (idxOf_indexOf (psOf amino db) (msOf db) (by simp)).1]
    simp
  obtain ⟨cs, out, hcs, hout, _, htiles⟩ := loaderChunksB_run amino db maxseq maxpacket hms hfit
    (idx_i64 amino db h1 h2) hwf (db.length + 2) _ 0 hinv (by omega)
  refine ⟨out, ?_, htiles⟩
  simp only [readDb, hfuel, hcs]
  exact hout

/-- the first eight bytes (magic, tag) of one of the three data files replaced -/
def patchIdx (f : Files) (magic tag : Nat) : Files := { f with idx := le32 magic ++ le32 tag ++ f.idx.drop 8 }
def patchMdat (f : Files) (magic tag : Nat) : Files := { f with mdat := le32 magic ++ le32 tag ++ f.mdat.drop 8 }
def patchSeq (f : Files) (magic tag : Nat) : Files := { f with seq := le32 magic ++ le32 tag ++ f.seq.drop 8 }

theorem drop8 (a b : Nat) (rest : List UInt8) : (le32 a ++ le32 b ++ rest).drop 8 = rest :=
  List.drop_left' (by simp [le32])

theorem open_corrupt (tag alphatype : Nat) (fname fmt : List UInt8) (db : List SeqRec) (f : Files)
    (hty : alphatype = 1 ∨ alphatype = 2 ∨ alphatype = 3) (hw : writeDb tag alphatype fname fmt db = .ok f)
    (expect : Option Nat) (hexp : expect = none ∨ expect = some alphatype) (m t : Nat) :
    (t % 4294967296 ≠ tag % 4294967296 → openDb expect (patchIdx f m t) = .eformat 18) ∧
    (t % 4294967296 = tag % 4294967296 → m % 4294967296 = MAGIC_SWAP → openDb expect (patchIdx f m t) = .eunimplemented) ∧
    (t % 4294967296 = tag % 4294967296 → m % 4294967296 ≠ MAGIC_SWAP → m % 4294967296 ≠ MAGIC →
        openDb expect (patchIdx f m t) = .eformat 19) ∧
    (m % 4294967296 ≠ MAGIC → openDb expect (patchMdat f m t) = .eformat 24) ∧
    (m % 4294967296 = MAGIC → t % 4294967296 ≠ tag % 4294967296 → openDb expect (patchMdat f m t) = .eformat 25) ∧
    (m % 4294967296 ≠ MAGIC → openDb expect (patchSeq f m t) = .eformat 28) ∧
    (m % 4294967296 = MAGIC → t % 4294967296 ≠ tag % 4294967296 → openDb expect (patchSeq f m t) = .eformat 29) := by
  rw [writeDb_ok hw]
  have hM : MAGIC % 4294967296 = MAGIC := by decide
  have hMS : ¬ (MAGIC = MAGIC_SWAP) := by decide
  have hA : alphatype % 4294967296 = alphatype := by omega
  have h1 : ¬ (alphatype = 0 ∨ alphatype > 6) := by omega
  have h2 : ¬ (alphatype = 6) := by omega
  refine ⟨?_, ?_, ?_, ?_, ?_, ?_, ?_⟩
  all_goals intros
  all_goals rcases hexp with rfl | rfl
  all_goals simp only [writtenWith, patchIdx, patchMdat, patchSeq, drop8, openDb_files, ne_eq, not_true_eq_false, not_false_eq_true,
      if_false, if_true, *]

/-- the alphabet-type field (bytes 8..11 of `.dsqi`) replaced by `a` -/
def patchType (f : Files) (a : Nat) : Files := { f with idx := f.idx.take 8 ++ (le32 a ++ f.idx.drop 12) }
/-- the stub file replaced by one whose tag line carries `t` (anything may follow) -/
def patchStub (f : Files) (t : Nat) (rest : List UInt8) : Files := { f with stub := stubLine1 t ++ rest }

theorem take8 (a b : Nat) (rest : List UInt8) : (le32 a ++ le32 b ++ rest).take 8 = le32 a ++ le32 b :=
  List.take_left' (by simp [le32])

theorem drop12 (a b c : Nat) (rest : List UInt8) : (le32 a ++ le32 b ++ (le32 c ++ rest)).drop 12 = rest := by
  rw [← List.append_assoc]
  exact List.drop_left' (by simp [le32])

/-- **wrong alphabet / foreign stub.** On the files written for any database of alphabet type `alphatype`:
    * a caller that passes an alphabet of another type `t` gets `eslEFORMAT` ("data files use a different alphabet", 20);
    * if the type field is overwritten by `a`: a caller with the right alphabet gets the same refusal; a caller without an
      alphabet gets `eslEFORMAT` "invalid alphabet type" (21) when `a` is `eslUNKNOWN` (0) or beyond `eslNONSTANDARD` (6);
    * a stub file carrying another tag than the index file gets `eslEFORMAT` "index file has bad tag" (18). -/
theorem open_rejects_lemma (tag alphatype : Nat) (fname fmt : List UInt8) (db : List SeqRec) (f : Files)
    (hty : alphatype = 1 ∨ alphatype = 2 ∨ alphatype = 3) (hw : writeDb tag alphatype fname fmt db = .ok f) :
    (∀ t, t ≠ alphatype → openDb (some t) f = .eformat 20) ∧
    (∀ a, a % 4294967296 ≠ alphatype → openDb (some alphatype) (patchType f a) = .eformat 20) ∧
    (∀ a, a % 4294967296 = 0 ∨ a % 4294967296 > 6 → openDb none (patchType f a) = .eformat 21) ∧
    (∀ t rest expect, t % 4294967296 ≠ tag % 4294967296 → openDb expect (patchStub f t rest) = .eformat 18) := by
  rw [writeDb_ok hw]
  have hM : MAGIC % 4294967296 = MAGIC := by decide
  have hMS : ¬ (MAGIC = MAGIC_SWAP) := by decide
  have hA : alphatype % 4294967296 = alphatype := by omega
  refine ⟨?_, ?_, ?_, ?_⟩
  · intro t ht
    have ht' : ¬ (alphatype = t) := fun e => ht e.symm
    simp only [writtenWith, openDb_files, hM, hMS, hA, ne_eq, not_true_eq_false, if_false, ht', not_false_eq_true, if_true]
  · intro a ha
    simp only [writtenWith, patchType, take8, drop12, openDb_files, hM, hMS, ne_eq, not_true_eq_false, if_false, ha, not_false_eq_true, if_true]
  · intro a ha
    simp only [writtenWith, patchType, take8, drop12, openDb_files, hM, hMS, ne_eq, not_true_eq_false, if_false, ha, if_true]
  · intro t rest expect ht
    have ht' : ¬ (tag % 4294967296 = t % 4294967296) := fun e => ht e.symm
    simp only [writtenWith, patchStub, openDb_files, ne_eq, ht', not_false_eq_true, if_true]

/-- placeholder for `getD` beyond the last chunk -/
def noChunk : BChunk × List SeqRec := ({ i0 := 0, n := 0, pn := 0, psq := [], metadata := [] }, [])

theorem range_flatMap_take {α β} (out : List (α × List β)) (d : α × List β) :
    ∀ n, n ≤ out.length → (List.range n).flatMap (fun k => (out.getD k d).2) = (out.take n).flatMap (·.2)
  | 0, _ => by simp
  | n + 1, h => by
    rw [List.range_succ, List.flatMap_append, range_flatMap_take out d n (by omega)]
    have hn : n < out.length := by omega
    rw [List.take_add_one, List.flatMap_append]
    simp [List.getD_eq_getElem?_getD, List.getElem?_eq_getElem hn]

end EaselModel.Dsqdata
