import EaselModel.Dsqdata.SmemLemmas
/-! # Packing in place at byte level (`esl_dsqdata_Write`: `dsqdata_pack5/2(sq->dsq, sq->n, (uint32_t *) sq->dsq, &P)`)

The buffer holds `dsq[0] = sentinel`, residue `i` in byte `i` (`1 ≤ i ≤ n`), the closing sentinel, and whatever lies behind
(`salloc ≥ max 4 (n+2)`); packet `j` is stored into bytes `4j … 4j+3` of the SAME buffer. The byte-level packers below re-read
the not yet packed residues `dsq[r … n]` from the CURRENT buffer contents in every iteration (`memRest`), so an overwritten
residue would corrupt the result; the theorems say it never happens: the stored packets are those of the functional packers. -/
namespace EaselModel.Dsqdata

/-- `dsq[r … n]` as the buffer holds it now -/
def memRest (mem : List UInt8) (n r : Nat) : List UInt8 := (mem.drop r).take (n + 1 - r)

/-- main loop of `dsqdata_pack5` with `psq == dsq` -/
def pack5Mem : Nat → List UInt8 → Nat → Nat → Nat → Option (List UInt8 × Nat)
  | 0, _, _, _, _ => none
  | fuel + 1, mem, n, r, pos =>
    if r > n then some (mem, pos) else
    let rest := memRest mem n r
    let v := packet5 (rest.take 6) (rest.drop 6).isEmpty
    if 4 * pos + 4 > mem.length then none else      -- `psq[pos++] = v` outside the buffer
    pack5Mem fuel (poke mem (4 * pos) (enc32 v)) n (r + min 6 rest.length) (pos + 1)

/-- main loop of `dsqdata_pack2` with `psq == dsq`; `k` as in `pack2Loop` -/
def pack2Mem : Nat → List UInt8 → Nat → Nat → Nat → Option Nat → Option (List UInt8 × Nat)
  | 0, _, _, _, _, _ => none
  | fuel + 1, mem, n, r, pos, k =>
    if r > n then some (mem, pos) else
    let rest := memRest mem n r
    let k := match k with
      | some k => k
      | none => rest.findIdx (fun x => x > 3)
    if 4 * pos + 4 > mem.length then none else
    if rest.length ≥ 15 ∧ k > 14 then
      pack2Mem fuel (poke mem (4 * pos) (enc32 (packet2 (rest.take 15) (rest.drop 15).isEmpty))) n (r + 15) (pos + 1) (some (k - 15))
    else
      let m := min 6 rest.length
      pack2Mem fuel (poke mem (4 * pos) (enc32 (packet5 (rest.take 6) (rest.drop 6).isEmpty))) n (r + m) (pos + 1)
        (if k ≥ m then some (k - m) else none)

/-- `dsqdata_pack5` / `dsqdata_pack2` in place, including the `n = 0` special case (one all-ones packet) -/
def packMem (amino : Bool) (mem : List UInt8) (n : Nat) : Option (List UInt8 × Nat) :=
  match (if amino then pack5Mem (n + 1) mem n 1 0 else pack2Mem (n + 1) mem n 1 0 none) with
  | none => none
  | some (mem', 0) => if 4 > mem'.length then none else some (poke mem' 0 (enc32 0xFFFFFFFF), 1)
  | some (mem', p) => some (mem', p)

/-- `rest` are the residues not yet read, intact at `dsq[r …]`; the packets `done` are stored; enough has been read to be ahead of the
    write position -/
structure PInv (n : Nat) (mem : List UInt8) (r pos : Nat) (done : List UInt32) (rest : List UInt8) : Prop where
  r1 : 1 ≤ r
  rn : r + rest.length = n + 1
  len : max 4 (n + 2) ≤ mem.length
  unread : memRest mem n r = rest
  pre : mem.take (4 * pos) = done.flatMap enc32
  npos : done.length = pos
  ahead : rest ≠ [] → 6 * pos + 1 ≤ r

theorem memRest_poke (mem : List UInt8) (n r w : Nat) (b : List UInt8) (h : w + b.length ≤ r) (hw : w ≤ mem.length) :
    memRest (poke mem w b) n r = memRest mem n r := by
  unfold memRest; rw [poke_drop mem w b r h hw]

theorem memRest_advance (mem : List UInt8) (n r m : Nat) : memRest mem n (r + m) = (memRest mem n r).drop m := by
  unfold memRest
  rw [List.drop_take, List.drop_drop]
  congr 1
  omega

/-- One packet `v` made of the next `w ≥ 6` residues (fewer only if fewer are left) is stored at the write position: it lands inside the
    buffer and on residues already read. -/
theorem pinv_step {n : Nat} {mem : List UInt8} {r pos : Nat} {done : List UInt32} {rest : List UInt8}
    (i : PInv n mem r pos done rest) (hne : rest ≠ []) (w : Nat) (hw : 6 ≤ w) (v : UInt32) :
    4 * pos + 4 ≤ mem.length ∧
      PInv n (poke mem (4 * pos) (enc32 v)) (r + min w rest.length) (pos + 1) (done ++ [v]) (rest.drop w) := by
  have hah := i.ahead hne
  have hl := i.len
  have hrn := i.rn
  have hr1 := i.r1
  have hpos : 0 < rest.length := List.length_pos_iff.mpr hne
  have hb : 4 * pos + 4 ≤ mem.length := by omega
  refine ⟨hb, ⟨by omega, by rw [List.length_drop]; omega, ?_, ?_, ?_, by simp [i.npos], ?_⟩⟩
  · rw [poke_length _ _ _ (by rw [enc32_length]; omega)]; exact hl
  · by_cases hfin : rest.length ≤ w
    · rw [List.drop_eq_nil_of_le hfin]
      unfold memRest
      rw [show n + 1 - (r + min w rest.length) = 0 by omega, List.take_zero]
    · rw [memRest_poke _ _ _ _ _ (by rw [enc32_length]; omega) (by omega), memRest_advance, i.unread]
      congr 1; omega
  · have := poke_take mem (4 * pos) (enc32 v) (by omega)
    rw [enc32_length] at this
    rw [show 4 * (pos + 1) = 4 * pos + 4 by omega, this, i.pre]; simp
  · intro hd
    have : w < rest.length := by
      apply Classical.byContradiction; intro hn; exact hd (List.drop_eq_nil_of_le (by omega))
    omega

theorem pack5Mem_spec {n : Nat} {T : List UInt32} : ∀ (fuel : Nat) (mem : List UInt8) (r pos : Nat) (done : List UInt32)
    (rest : List UInt8), PInv n mem r pos done rest → rest.length < fuel → done ++ pack5Loop rest = T →
    ∃ mem', pack5Mem fuel mem n r pos = some (mem', T.length) ∧ mem'.take (4 * T.length) = T.flatMap enc32 ∧
      mem'.length = mem.length := by
  intro fuel
  induction fuel with
  | zero => intro _ _ _ _ _ _ hf; omega
  | succ fuel ih =>
    intro mem r pos done rest i hf hT
    have hrn := i.rn
    cases rest with
    | nil =>
      have hr : r > n := by simp at hrn; omega
      subst hT
      refine ⟨mem, ?_, ?_, rfl⟩
      · simp [pack5Mem, hr, pack5Loop, i.npos]
      · simp [pack5Loop, i.npos, i.pre]
    | cons c cs =>
      have hr : ¬ r > n := by simp at hrn; omega
      obtain ⟨hb, i'⟩ := pinv_step i (List.cons_ne_nil c cs) 6 (Nat.le_refl 6)
        (packet5 ((c :: cs).take 6) ((c :: cs).drop 6).isEmpty)
      have hb' : ¬ (4 * pos + 4 > mem.length) := by omega
      obtain ⟨mem', h1, h2, h3⟩ := ih _ _ _ _ _ i' (by simp only [List.length_drop]; omega)
        (by rw [← hT, pack5Loop]; simp)
      refine ⟨mem', ?_, h2, h3.trans (poke_length _ _ _ (by rw [enc32_length]; omega))⟩
      simp only [pack5Mem, hr, if_false, i.unread, hb']
      exact h1

/-- `pack2Loop` on a non-empty rest, with the refreshed cache spelt as `pack2Mem` spells it -/
theorem pack2Loop_cons (c : UInt8) (cs : List UInt8) (k : Option Nat) :
    pack2Loop (c :: cs) k =
      (let kk := match k with
        | some k => k
        | none => (c :: cs).findIdx (fun x => x > 3)
       if (c :: cs).length ≥ 15 ∧ kk > 14 then
         packet2 ((c :: cs).take 15) ((c :: cs).drop 15).isEmpty :: pack2Loop ((c :: cs).drop 15) (some (kk - 15))
       else
         packet5 ((c :: cs).take 6) ((c :: cs).drop 6).isEmpty ::
           pack2Loop ((c :: cs).drop 6) (if kk ≥ min 6 (c :: cs).length then some (kk - min 6 (c :: cs).length) else none)) := by
  conv => lhs; unfold pack2Loop
  rfl

theorem pack2Mem_spec {n : Nat} {T : List UInt32} : ∀ (fuel : Nat) (mem : List UInt8) (r pos : Nat) (done : List UInt32)
    (rest : List UInt8) (k : Option Nat), PInv n mem r pos done rest → rest.length < fuel → done ++ pack2Loop rest k = T →
    ∃ mem', pack2Mem fuel mem n r pos k = some (mem', T.length) ∧ mem'.take (4 * T.length) = T.flatMap enc32 ∧
      mem'.length = mem.length := by
  intro fuel
  induction fuel with
  | zero => intro _ _ _ _ _ _ _ hf; omega
  | succ fuel ih =>
    intro mem r pos done rest k i hf hT
    have hrn := i.rn
    cases rest with
    | nil =>
      have hr : r > n := by simp at hrn; omega
      subst hT
      refine ⟨mem, ?_, ?_, rfl⟩
      · simp [pack2Mem, hr, pack2Loop, i.npos]
      · simp [pack2Loop, i.npos, i.pre]
    | cons c cs =>
      have hr : ¬ r > n := by simp at hrn; omega
      rw [pack2Loop_cons] at hT
      simp only [pack2Mem, hr, if_false, i.unread]
      simp only at hT
      generalize (match k with
        | some k => k
        | none => (c :: cs).findIdx (fun x => x > 3)) = kk at hT ⊢
      by_cases hc : (c :: cs).length ≥ 15 ∧ kk > 14
      · obtain ⟨hb, i'⟩ := pinv_step i (List.cons_ne_nil c cs) 15 (by omega)
          (packet2 ((c :: cs).take 15) ((c :: cs).drop 15).isEmpty)
        have hb' : ¬ (4 * pos + 4 > mem.length) := by omega
        rw [Nat.min_eq_left hc.1] at i'
        rw [if_pos hc] at hT
        obtain ⟨mem', h1, h2, h3⟩ := ih _ _ _ _ _ (some (kk - 15)) i' (by simp only [List.length_drop]; omega)
          (by rw [← hT]; simp)
        refine ⟨mem', ?_, h2, h3.trans (poke_length _ _ _ (by rw [enc32_length]; omega))⟩
        simp only [hb', if_false, hc, and_self, if_true]
        exact h1
      · obtain ⟨hb, i'⟩ := pinv_step i (List.cons_ne_nil c cs) 6 (Nat.le_refl 6)
          (packet5 ((c :: cs).take 6) ((c :: cs).drop 6).isEmpty)
        have hb' : ¬ (4 * pos + 4 > mem.length) := by omega
        rw [if_neg hc] at hT
        obtain ⟨mem', h1, h2, h3⟩ := ih _ _ _ _ _
          (if kk ≥ min 6 (c :: cs).length then some (kk - min 6 (c :: cs).length) else none) i'
          (by simp only [List.length_drop]; omega) (by rw [← hT]; simp)
        refine ⟨mem', ?_, h2, h3.trans (poke_length _ _ _ (by rw [enc32_length]; omega))⟩
        simp only [hb', if_false, hc]
        exact h1

/-- the buffer `esl_dsqdata_Write` packs in: `dsq[0 … n+1]` and whatever lies behind (`salloc` bytes in all) -/
def dsqBuffer (d slack : List UInt8) : List UInt8 := 255 :: (d ++ 255 :: slack)

theorem pinv_init (d slack : List UInt8) (h4 : 4 ≤ (dsqBuffer d slack).length) : PInv d.length (dsqBuffer d slack) 1 0 [] d := by
  refine ⟨Nat.le_refl _, by omega, ?_, ?_, by simp, rfl, fun _ => by omega⟩
  · simp only [dsqBuffer, List.length_cons, List.length_append] at h4 ⊢; omega
  · simp [memRest, dsqBuffer]

theorem packMem_of_loop (amino : Bool) (mem mem' : List UInt8) (n : Nat) (loop : List UInt32)
    (h1 : (if amino then pack5Mem (n + 1) mem n 1 0 else pack2Mem (n + 1) mem n 1 0 none) = some (mem', loop.length))
    (h2 : mem'.take (4 * loop.length) = loop.flatMap enc32) (h3 : mem'.length = mem.length) (h4 : 4 ≤ mem.length) :
    ∃ m, packMem amino mem n = some (m, (if loop.isEmpty then [0xFFFFFFFF] else loop).length) ∧
      m.take (4 * (if loop.isEmpty then [0xFFFFFFFF] else loop).length) = (if loop.isEmpty then [0xFFFFFFFF] else loop).flatMap enc32 ∧
      m.length = mem.length := by
  simp only [packMem, h1]
  cases loop with
  | nil =>
    simp only [List.length_nil, List.isEmpty_nil, if_true, List.length_cons]
    have hb : ¬ (4 > mem'.length) := by rw [h3]; omega
    simp only [hb, if_false]
    refine ⟨_, rfl, ?_, by rw [poke_length _ _ _ (by rw [enc32_length]; omega), h3]⟩
    have := poke_take mem' 0 (enc32 0xFFFFFFFF) (Nat.zero_le _)
    rw [enc32_length] at this
    simpa using this
  | cons v vs =>
    simp only [List.length_cons, List.isEmpty_cons, Bool.false_eq_true, if_false]
    exact ⟨mem', rfl, by simpa using h2, h3⟩

/-- **Packing in place at byte level is the functional packer.** With `psq == dsq` (as `esl_dsqdata_Write` calls them) in a
    buffer of at least 4 bytes, `dsqdata_pack5` / `dsqdata_pack2` never store outside the buffer, never overwrite a residue
    they have not read yet, and leave in its first `4·P` bytes exactly the packets `pack5 d` / `pack2 d` (native byte order),
    `P` their number - for every sequence, `n = 0` included. -/
theorem packMem_correct (amino : Bool) (d slack : List UInt8) (h4 : 4 ≤ (dsqBuffer d slack).length) :
    ∃ mem', packMem amino (dsqBuffer d slack) d.length = some (mem', (pk amino d).length) ∧
      mem'.take (4 * (pk amino d).length) = (pk amino d).flatMap enc32 ∧ mem'.length = (dsqBuffer d slack).length := by
  have i := pinv_init d slack h4
  cases amino
  · obtain ⟨mem', h1, h2, h3⟩ := pack2Mem_spec (d.length + 1) _ 1 0 [] d none i (by omega) rfl
    exact packMem_of_loop false _ mem' d.length (pack2Loop d none) h1 h2 h3 h4
  · obtain ⟨mem', h1, h2, h3⟩ := pack5Mem_spec (d.length + 1) _ 1 0 [] d i (by omega) rfl
    exact packMem_of_loop true _ mem' d.length (pack5Loop d) h1 h2 h3 h4

end EaselModel.Dsqdata
