import EaselModel.Dsqdata.CodecLemmas
import EaselModel.Dsqdata.LoaderLemmas
/-! # Capstone: database → index → loader chunks → unpacked chunks = the stored sequences

`esl_dsqdata_Write` packs sequence `i` into `pk dᵢ` (all packets concatenated in the `.dsqs` file) and writes the index;
the loader cuts the index into chunks and `fread`s, for each chunk, the next `pn` packets; an unpacker runs
`dsqdata_unpack_chunk` on them. The theorem composes the codec round trip with the loader arithmetic. -/
namespace EaselModel.Dsqdata

theorem flatMap_drop_prefix {α β} (f : α → List β) : ∀ (l : List α) (i : Nat),
    (l.flatMap f).drop (((l.take i).map fun x => (f x).length).sum) = (l.drop i).flatMap f
  | [], i => by simp
  | a :: as, 0 => by simp
  | a :: as, i + 1 => by
    simp only [List.take_succ_cons, List.map_cons, List.sum_cons, List.flatMap_cons, List.drop_succ_cons]
    rw [List.drop_length_add_append]
    exact flatMap_drop_prefix f as i

theorem flatMap_take_prefix {α β} (f : α → List β) : ∀ (l : List α) (n : Nat),
    (l.flatMap f).take (((l.take n).map fun x => (f x).length).sum) = (l.take n).flatMap f
  | [], n => by simp
  | a :: as, 0 => by simp
  | a :: as, n + 1 => by
    simp only [List.take_succ_cons, List.map_cons, List.sum_cons, List.flatMap_cons]
    rw [List.take_length_add_append]
    congr 1
    exact flatMap_take_prefix f as n

/-- consecutive ranges `[startⱼ, startⱼ + lenⱼ)` that begin at `off` and tile the list reassemble it -/
theorem tiles_flatten {α γ} (ds : List α) (start len : γ → Nat) : ∀ (cs : List γ) (off : Nat),
    (∀ j (hj : j < cs.length), start cs[j] = off + ((cs.take j).map len).sum) →
    ((cs.map fun c => (ds.drop (start c)).take (len c)).flatten) = (ds.drop off).take ((cs.map len).sum)
  | [], off, _ => by simp
  | c :: cs, off, h => by
    have h0 := h 0 (by simp)
    simp only [List.getElem_cons_zero, List.take_zero, List.map_nil, List.sum_nil, Nat.add_zero] at h0
    have ih := tiles_flatten ds start len cs (off + len c) (by
      intro j hj
      have := h (j + 1) (by simp; omega)
      simp only [List.getElem_cons_succ, List.take_succ_cons, List.map_cons, List.sum_cons] at this
      omega)
    simp only [List.map_cons, List.flatten_cons, List.sum_cons, ih, h0]
    rw [List.take_add, List.drop_drop]

/-- the packer chosen by the alphabet (`do_pack5`) -/
def pk (amino : Bool) (d : List UInt8) : List UInt32 := if amino then pack5 d else pack2 d

theorem packed_pk (amino : Bool) (d : List UInt8) : Packed true d (pk amino d) := by
  unfold pk; split
  · exact packed_pack5 true d
  · exact packed_pack2 d

theorem pk_length_pos (amino : Bool) (d : List UInt8) : 1 ≤ (pk amino d).length :=
  (packed_pk amino d).length_le.1

theorem unpackChunk_pk (amino : Bool) (ds : List (List UInt8)) (hd : ∀ d ∈ ds, ∀ x ∈ d, x ≤ 30) :
    unpackChunk amino (ds.flatMap (pk amino)) = some ds := by
  cases amino
  · have e : pk false = pack2 := by funext d; simp [pk]
    rw [e]; exact unpackChunk_pack2 ds hd
  · have e : pk true = pack5 := by funext d; simp [pk]
    rw [e]; exact unpackChunk_pack5 ds hd

/-- **Write → index → loader → unpack = identity**, for every database, every `maxseq ≥ 1`, every `maxpacket` that
    can hold the longest packed sequence: the loader produces chunks (no fault) such that
    (1) the packets it reads for a chunk - the next `pn` packets of the sequence file, i.e. those after the packets
        of all earlier sequences - unpack to exactly the sequences `i0 … i0+N-1`, and
    (2) the chunks in order tile the database: their concatenation is the list of stored sequences. -/
theorem chunks_unpack_to_database (amino : Bool) (ds : List (List UInt8)) (ms : List Nat) (maxseq : Nat) (maxpacket : Int)
    (hlen : ds.length = ms.length) (hd : ∀ d ∈ ds, ∀ x ∈ d, x ≤ 30) (hms : 1 ≤ maxseq)
    (hfit : ∀ d ∈ ds, ((pk amino d).length : Int) ≤ maxpacket) :
    let ps := ds.map fun d => (pk amino d).length
    ∃ cs, loaderChunks maxseq maxpacket (ds.length + 1) (LState.init (indexOf (ps.zip ms) 0 0)) = some cs ∧
      (∀ c ∈ cs, unpackChunk amino (((ds.flatMap (pk amino)).drop (pre ps c.i0)).take c.pn.toNat)
                  = some ((ds.drop c.i0).take c.n)) ∧
      (cs.map fun c => (ds.drop c.i0).take c.n).flatten = ds := by
  intro ps
  have hpslen : ps.length = ds.length := by simp [ps]
  obtain ⟨cs, hrun, hsum, hcont, hchunk, _⟩ := loaderChunks_spec ps ms maxseq maxpacket (by rw [hpslen, hlen])
    (by
      intro p hp
      obtain ⟨d, hdm, rfl⟩ := List.mem_map.mp hp
      exact ⟨pk_length_pos amino d, hfit d hdm⟩) hms
  refine ⟨cs, by rw [← hpslen]; exact hrun, ?_, ?_⟩
  · intro c hc
    obtain ⟨_, _, _, _, _, hpn, _⟩ := hchunk c hc
    have h1 : pre ps c.i0 = ((ds.take c.i0).map fun x => (pk amino x).length).sum := by
      simp [pre, ps, List.map_take]
    have h2 : c.pn.toNat = ((((ds.drop c.i0).take c.n)).map fun x => (pk amino x).length).sum := by
      rw [hpn]; simp [ps, List.map_take, List.map_drop]
    rw [h1, flatMap_drop_prefix, h2, flatMap_take_prefix]
    apply unpackChunk_pk
    intro d hdm
    exact hd d (List.mem_of_mem_drop (List.mem_of_mem_take hdm))
  · rw [tiles_flatten ds (·.i0) (·.n) cs 0 (fun j hj => by rw [Nat.zero_add]; exact hcont j hj), hsum, hpslen,
      List.drop_zero, List.take_length]

end EaselModel.Dsqdata
