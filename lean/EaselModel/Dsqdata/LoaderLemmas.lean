import EaselModel.Dsqdata.Loader
/-! # dsqdata loader arithmetic: the `nload` binary search and the chunking of the whole database (core Lean only) -/
namespace EaselModel.Dsqdata

/-- record `k` exists and its packets (counted from `psqLast`) fit into `maxpacket` -/
def Fits (idx : List Rec) (psqLast maxpacket : Int) (k : Nat) : Prop :=
  ∃ r, idx[k]? = some r ∧ r.psqEnd - psqLast ≤ maxpacket

/-- record `k` exists and its packets (counted from `psqLast`) do not fit into `maxpacket` -/
def NoFit (idx : List Rec) (psqLast maxpacket : Int) (k : Nat) : Prop :=
  ∃ r, idx[k]? = some r ∧ ¬ (r.psqEnd - psqLast ≤ maxpacket)

theorem bsearch_spec (idx : List Rec) (psqLast maxpacket : Int) :
    ∀ fuel nload righti, 1 ≤ nload → nload < righti → righti ≤ idx.length → righti - nload ≤ fuel + 1 →
      Fits idx psqLast maxpacket (nload - 1) → NoFit idx psqLast maxpacket (righti - 1) →
      ∃ n, bsearch idx psqLast maxpacket fuel nload righti = some n ∧ 1 ≤ n ∧ n < idx.length ∧
        Fits idx psqLast maxpacket (n - 1) ∧ NoFit idx psqLast maxpacket n := by
  intro fuel
  induction fuel with
  | zero =>
    intro nload righti h1 hlt hr hf hfit hno
    have e : righti - 1 = nload := by omega
    rw [e] at hno
    exact ⟨nload, by simp [bsearch], h1, by omega, hfit, hno⟩
  | succ fuel ih =>
    intro nload righti h1 hlt hr hf hfit hno
    unfold bsearch
    by_cases hgap : righti - nload > 1
    · rw [if_pos hgap]
      have hmid : nload + (righti - nload) / 2 - 1 < idx.length := by omega
      have hget : getRec idx (nload + (righti - nload) / 2 - 1) = some (idx[nload + (righti - nload) / 2 - 1]) := by
        simp [getRec, List.getElem?_eq_getElem hmid]
      simp only [hget]
      by_cases hc : (idx[nload + (righti - nload) / 2 - 1]).psqEnd - psqLast ≤ maxpacket
      · rw [if_pos hc]
        exact ih _ _ (by omega) (by omega) hr (by omega)
          ⟨_, List.getElem?_eq_getElem hmid, hc⟩ hno
      · rw [if_neg hc]
        exact ih _ _ h1 (by omega) (by omega) (by omega) hfit
          ⟨_, List.getElem?_eq_getElem hmid, hc⟩
    · rw [if_neg hgap]
      have e : righti - 1 = nload := by omega
      rw [e] at hno
      exact ⟨nload, rfl, h1, by omega, hfit, hno⟩

/-- `chooseNload` in `[k]?` form, needing only that the first record fits: no fault, `1 ≤ n ≤ length`,
    record `n-1` fits, record `n` (if any) does not. -/
theorem chooseNload_core (idx : List Rec) (psqLast maxpacket : Int)
    (hfirst : Fits idx psqLast maxpacket 0) :
    ∃ n, chooseNload idx psqLast maxpacket = some n ∧ 1 ≤ n ∧ n ≤ idx.length ∧
      Fits idx psqLast maxpacket (n - 1) ∧ (n < idx.length → NoFit idx psqLast maxpacket n) := by
  obtain ⟨r0, hr0, hf0⟩ := hfirst
  have hlen : 0 < idx.length := by
    rcases Nat.eq_zero_or_pos idx.length with h | h
    · have : idx = [] := List.eq_nil_of_length_eq_zero h
      subst this; simp at hr0
    · exact h
  have hlast : idx.length - 1 < idx.length := by omega
  unfold chooseNload
  have hget : getRec idx (idx.length - 1) = some (idx[idx.length - 1]) := by
    simp [getRec, List.getElem?_eq_getElem hlast]
  simp only [hget]
  by_cases hc : (idx[idx.length - 1]).psqEnd - psqLast ≤ maxpacket
  · rw [if_pos hc]
    exact ⟨idx.length, rfl, hlen, Nat.le_refl _, ⟨_, List.getElem?_eq_getElem hlast, hc⟩,
      fun h => absurd h (Nat.lt_irrefl _)⟩
  · rw [if_neg hc]
    have h2 : 1 < idx.length := by
      rcases Nat.lt_or_ge 1 idx.length with h | h
      · exact h
      · exfalso
        have e : idx.length - 1 = 0 := by omega
        have h0 : idx[idx.length - 1]? = some r0 := by rw [e]; exact hr0
        rw [List.getElem?_eq_getElem hlast] at h0
        injection h0 with h0
        rw [h0] at hc
        exact hc hf0
    obtain ⟨n, hn, h1, hlt, hfit, hno⟩ := bsearch_spec idx psqLast maxpacket idx.length 1 idx.length
      (Nat.le_refl _) h2 (Nat.le_refl _) (by omega) ⟨r0, hr0, hf0⟩
      ⟨_, List.getElem?_eq_getElem hlast, hc⟩
    exact ⟨n, hn, h1, Nat.le_of_lt hlt, hfit, fun _ => hno⟩

/-- record ends are strictly increasing (every sequence has at least one packet) -/
def EndsIncreasing (idx : List Rec) : Prop :=
  ∀ i j (hi : i < j) (hj : j < idx.length), (idx[i]'(by omega)).psqEnd < (idx[j]).psqEnd

theorem chooseNload_spec (idx : List Rec) (psqLast maxpacket : Int) (hne : idx ≠ [])
    (hfirst : (idx[0]'(List.length_pos_iff.mpr hne)).psqEnd - psqLast ≤ maxpacket) :
    ∃ n, chooseNload idx psqLast maxpacket = some n ∧ 1 ≤ n ∧ n ≤ idx.length ∧
      (∀ (h : n - 1 < idx.length), (idx[n-1]).psqEnd - psqLast ≤ maxpacket) ∧
      (∀ (h : n < idx.length), (idx[n]).psqEnd - psqLast > maxpacket) := by
  have hpos : 0 < idx.length := List.length_pos_iff.mpr hne
  obtain ⟨n, hn, h1, hle, ⟨r, hr, hfit⟩, hno⟩ := chooseNload_core idx psqLast maxpacket
    ⟨_, List.getElem?_eq_getElem hpos, hfirst⟩
  refine ⟨n, hn, h1, hle, ?_, ?_⟩
  · intro h
    rw [List.getElem?_eq_getElem h] at hr
    injection hr with hr
    rw [hr]; exact hfit
  · intro h
    obtain ⟨r', hr', hno'⟩ := hno h
    rw [List.getElem?_eq_getElem h] at hr'
    injection hr' with hr'
    rw [hr']; omega

theorem chooseNload_max (idx : List Rec) (psqLast maxpacket : Int) (hne : idx ≠ [])
    (hinc : EndsIncreasing idx)
    (hfirst : (idx[0]'(List.length_pos_iff.mpr hne)).psqEnd - psqLast ≤ maxpacket) :
    ∃ n, chooseNload idx psqLast maxpacket = some n ∧ 1 ≤ n ∧ n ≤ idx.length ∧
      ∀ k (hk : k < idx.length), (idx[k]).psqEnd - psqLast ≤ maxpacket ↔ k < n := by
  obtain ⟨n, hn, h1, hle, hfit, hno⟩ := chooseNload_spec idx psqLast maxpacket hne hfirst
  refine ⟨n, hn, h1, hle, ?_⟩
  intro k hk
  constructor
  · intro hkf
    rcases Nat.lt_or_ge k n with h | h
    · exact h
    · exfalso
      have hn' : n < idx.length := by omega
      have h2 := hno hn'
      rcases Nat.eq_or_lt_of_le h with e | hlt
      · subst e; omega
      · have := hinc n k hlt hk; omega
  · intro hkn
    have hn1 : n - 1 < idx.length := by omega
    have h2 := hfit hn1
    rcases Nat.eq_or_lt_of_le (Nat.le_sub_one_of_lt hkn) with e | hlt
    · subst e; exact h2
    · have := hinc k (n - 1) hlt hn1; omega

def pre (ps : List Nat) (k : Nat) : Nat := (ps.take k).sum

theorem pre_zero (ps : List Nat) : pre ps 0 = 0 := by simp [pre]

theorem pre_add (ps : List Nat) (a n : Nat) : pre ps (a + n) = pre ps a + ((ps.drop a).take n).sum := by
  simp [pre, List.take_add, List.sum_append]

theorem pre_cons (p : Nat) (ps : List Nat) (k : Nat) : pre (p :: ps) (k + 1) = p + pre ps k := by
  simp [pre]

theorem pre_succ : ∀ (ps : List Nat) (k : Nat) (hk : k < ps.length), pre ps (k + 1) = pre ps k + ps[k]
  | [], _, hk => by simp at hk
  | p :: ps, 0, _ => by simp [pre]
  | p :: ps, k + 1, hk => by
    have ih := pre_succ ps k (by simpa using hk)
    rw [pre_cons, pre_cons, ih, List.getElem_cons_succ]; omega

theorem indexOf_length : ∀ (l : List (Nat × Nat)) (s m : Int), (indexOf l s m).length = l.length
  | [], _, _ => rfl
  | (_, _) :: rest, s, m => by simp [indexOf, indexOf_length rest]

theorem indexOf_getElem? : ∀ (l : List (Nat × Nat)) (s m : Int) (i : Nat), i < l.length →
    ∃ r, (indexOf l s m)[i]? = some r ∧
      r.psqEnd = s + (pre (l.map Prod.fst) (i + 1) : Nat) - 1 ∧
      r.metaEnd = m + (pre (l.map Prod.snd) (i + 1) : Nat) - 1
  | [], _, _, _, h => by simp at h
  | (p, mm) :: rest, s, m, 0, _ => by
    refine ⟨{ metaEnd := m + mm - 1, psqEnd := s + p - 1 }, by simp [indexOf], ?_, ?_⟩ <;> simp [pre]
  | (p, mm) :: rest, s, m, i + 1, h => by
    obtain ⟨r, hr, h1, h2⟩ := indexOf_getElem? rest (s + p) (m + mm) i (by simpa using h)
    refine ⟨r, by simpa [indexOf] using hr, ?_, ?_⟩
    · rw [h1, List.map_cons, pre_cons]; omega
    · rw [h2, List.map_cons, pre_cons]; omega

/-- `idx` is the index of a database whose sequences have packet counts `ps` -/
def IdxOf (idx : List Rec) (ps ms : List Nat) : Prop :=
  idx.length = ps.length ∧ ms.length = ps.length ∧
  ∀ i, i < ps.length → ∃ r, idx[i]? = some r ∧ r.psqEnd = (pre ps (i + 1) : Nat) - 1 ∧
    r.metaEnd = (pre ms (i + 1) : Nat) - 1

theorem idxOf_indexOf (ps ms : List Nat) (hlen : ps.length = ms.length) :
    IdxOf (indexOf (ps.zip ms) 0 0) ps ms := by
  have hmap : (ps.zip ms).map Prod.fst = ps := List.map_fst_zip (by omega)
  have hmap2 : (ps.zip ms).map Prod.snd = ms := List.map_snd_zip (by omega)
  have hl : (ps.zip ms).length = ps.length := by rw [List.length_zip]; omega
  refine ⟨by rw [indexOf_length, hl], hlen.symm, ?_⟩
  intro i hi
  obtain ⟨r, hr, h1, h2⟩ := indexOf_getElem? (ps.zip ms) 0 0 i (by omega)
  refine ⟨r, hr, ?_, ?_⟩
  · rw [h1, hmap]; omega
  · rw [h2, hmap2]; omega

/-- loop invariant of the loader, `st.i0 + st.nload` sequences having been loaded so far -/
structure LoaderInv (idx : List Rec) (ps ms : List Nat) (maxseq : Nat) (st : LState) : Prop where
  hsplit : st.window.drop st.nload ++ st.file = idx.drop (st.i0 + st.nload)
  hcar : (st.window.drop st.nload).length ≤ maxseq
  hlast : st.psqLast = (pre ps (st.i0 + st.nload) : Nat) - 1
  hmlast : st.metaLast = (pre ms (st.i0 + st.nload) : Nat) - 1
  hpos : st.i0 + st.nload ≤ ps.length

theorem inv_init (idx : List Rec) (ps ms : List Nat) (maxseq : Nat) : LoaderInv idx ps ms maxseq (LState.init idx) := by
  refine ⟨by simp [LState.init], by simp [LState.init], by simp [LState.init, pre_zero],
    by simp [LState.init, pre_zero], by simp [LState.init]⟩

/-- a chunk as the loader should cut it: within the limits, the packet and metadata sums of its sequences, and maximal -/
structure ChunkOK (ps ms : List Nat) (maxseq : Nat) (maxpacket : Int) (c : ChunkDesc) : Prop where
  one : 1 ≤ c.n
  nle : c.n ≤ maxseq
  inDb : c.i0 + c.n ≤ ps.length
  pn0 : 0 ≤ c.pn
  pnle : c.pn ≤ maxpacket
  pn : c.pn = (((ps.drop c.i0).take c.n).sum : Nat)
  nmeta : c.nmeta = (((ms.drop c.i0).take c.n).sum : Nat)
  maximal : c.n < maxseq → c.i0 + c.n < ps.length → c.pn + (ps.getD (c.i0 + c.n) 0 : Nat) > maxpacket

theorem window_eq (idx : List Rec) (ps ms : List Nat) (maxseq : Nat) (st : LState)
    (hinv : LoaderInv idx ps ms maxseq st) :
    st.window.drop st.nload ++ st.file.take (maxseq - (st.window.drop st.nload).length)
      = (idx.drop (st.i0 + st.nload)).take maxseq := by
  rw [← hinv.hsplit, List.take_append, List.take_of_length_le hinv.hcar]

theorem window_file (st : LState) (k : Nat) :
    (st.window.drop st.nload ++ st.file.take k) ++ st.file.drop k = st.window.drop st.nload ++ st.file := by
  rw [List.append_assoc, List.take_append_drop]

theorem loaderIter_some (maxseq : Nat) (maxpacket : Int) (st : LState) (W : List Rec) (n : Nat) (r : Rec)
    (hW : W = st.window.drop st.nload ++ st.file.take (maxseq - (st.window.drop st.nload).length))
    (hne : W ≠ []) (hch : chooseNload W st.psqLast maxpacket = some n) (hr : W[n - 1]? = some r)
    (h1 : r.psqEnd - st.psqLast ≤ maxpacket) (h2 : 0 ≤ r.psqEnd - st.psqLast) :
    loaderIter maxseq maxpacket st =
      some (some { i0 := st.i0 + st.nload, n := n, pn := r.psqEnd - st.psqLast, nmeta := r.metaEnd - st.metaLast },
            { file := st.file.drop (maxseq - (st.window.drop st.nload).length), window := W, nload := n,
              i0 := st.i0 + st.nload, psqLast := r.psqEnd, metaLast := r.metaEnd }) := by
  subst hW
  have hemp : (st.window.drop st.nload ++ st.file.take (maxseq - (st.window.drop st.nload).length)).isEmpty = false := by
    cases h : (st.window.drop st.nload ++ st.file.take (maxseq - (st.window.drop st.nload).length)).isEmpty
    · rfl
    · exact absurd (List.isEmpty_iff.mp h) hne
  have hcond : ¬ (r.psqEnd - st.psqLast > maxpacket ∨ r.psqEnd - st.psqLast < 0) := by omega
  unfold loaderIter
  simp only [hemp, hch, getRec, hr, if_neg hcond]
  simp

theorem loaderIter_eod (maxseq : Nat) (maxpacket : Int) (st : LState)
    (hw : st.window.drop st.nload = []) (hf : st.file = []) :
    ∃ st', loaderIter maxseq maxpacket st = some (none, st') := by
  unfold loaderIter
  simp [hw, hf]

theorem sum_take_succ (l : List Nat) (a n : Nat) (h : a + n < l.length) :
    ((l.drop a).take (n + 1)).sum = ((l.drop a).take n).sum + l[a + n] := by
  rw [List.take_add_one, List.sum_append, List.getElem?_drop, List.getElem?_eq_getElem h]
  simp

/-- **The window in the loader's own terms.** Record `k` of the refilled window, counted from where the previous chunk ended, holds the
    packets and the metadata bytes of the next `k + 1` sequences: the only place where the `-1`-based `int64` positions of the index
    meet the packet counts. -/
theorem window_rec (idx : List Rec) (ps ms : List Nat) (maxseq : Nat) (st : LState) (hidx : IdxOf idx ps ms)
    (hinv : LoaderInv idx ps ms maxseq st) (W : List Rec)
    (hW : st.window.drop st.nload ++ st.file.take (maxseq - (st.window.drop st.nload).length) = W) :
    W.length = min maxseq (ps.length - (st.i0 + st.nload)) ∧
    ∀ k, k < W.length → ∃ r, W[k]? = some r ∧
      r.psqEnd = (pre ps (st.i0 + st.nload + (k + 1)) : Nat) - 1 ∧ r.metaEnd = (pre ms (st.i0 + st.nload + (k + 1)) : Nat) - 1 ∧
      r.psqEnd - st.psqLast = (((ps.drop (st.i0 + st.nload)).take (k + 1)).sum : Nat) ∧
      r.metaEnd - st.metaLast = (((ms.drop (st.i0 + st.nload)).take (k + 1)).sum : Nat) := by
  have hWe : W = (idx.drop (st.i0 + st.nload)).take maxseq := by rw [← hW]; exact window_eq idx ps ms maxseq st hinv
  have hlen : W.length = min maxseq (ps.length - (st.i0 + st.nload)) := by
    rw [hWe, List.length_take, List.length_drop, hidx.1]
  refine ⟨hlen, fun k hk => ?_⟩
  obtain ⟨r, hr, h1, h2⟩ := hidx.2.2 (st.i0 + st.nload + k) (by omega)
  have a1 := pre_add ps (st.i0 + st.nload) (k + 1)
  have a2 := pre_add ms (st.i0 + st.nload) (k + 1)
  have l1 := hinv.hlast
  have l2 := hinv.hmlast
  refine ⟨r, by rw [hWe, List.getElem?_take, if_pos (by omega), List.getElem?_drop]; exact hr, h1, h2, ?_, ?_⟩
  · rw [h1, l1, Nat.add_assoc, a1]; omega
  · rw [h2, l2, Nat.add_assoc, a2]; omega

theorem loaderIter_step (idx : List Rec) (ps ms : List Nat) (maxseq : Nat) (maxpacket : Int) (st : LState)
    (hidx : IdxOf idx ps ms) (hms : 1 ≤ maxseq) (hps : ∀ i (h : i < ps.length), (ps[i] : Int) ≤ maxpacket)
    (hinv : LoaderInv idx ps ms maxseq st) (hlt : st.i0 + st.nload < ps.length) :
    ∃ c st', loaderIter maxseq maxpacket st = some (some c, st') ∧ LoaderInv idx ps ms maxseq st' ∧
      st'.i0 = st.i0 + st.nload ∧ st'.nload = c.n ∧ c.i0 = st.i0 + st.nload ∧ ChunkOK ps ms maxseq maxpacket c := by
  generalize hWdef : st.window.drop st.nload ++ st.file.take (maxseq - (st.window.drop st.nload).length) = W
  obtain ⟨hWlen, hWrec⟩ := window_rec idx ps ms maxseq st hidx hinv W hWdef
  have hsplit := hinv.hsplit
  generalize hposdef : st.i0 + st.nload = pos at *
  have hWne : W ≠ [] := by
    intro h; rw [h] at hWlen; simp at hWlen; omega
  have hfirst : Fits W st.psqLast maxpacket 0 := by
    obtain ⟨r, hr, _, _, hre, _⟩ := hWrec 0 (by omega)
    refine ⟨r, hr, ?_⟩
    rw [hre, sum_take_succ ps pos 0 hlt]
    simpa using hps pos hlt
  obtain ⟨n, hn, h1, hle, ⟨r, hr, hfit⟩, hno⟩ := chooseNload_core W st.psqLast maxpacket hfirst
  obtain ⟨r', hr', hre, hme, hpn, hnm⟩ := hWrec (n - 1) (by omega)
  rw [hr] at hr'; injection hr' with hr'; subst hr'
  rw [Nat.sub_add_cancel h1] at hre hme hpn hnm
  have hnn : 0 ≤ r.psqEnd - st.psqLast := by rw [hpn]; exact Int.natCast_nonneg _
  have hbnd : n ≤ maxseq ∧ pos + n ≤ ps.length := by omega
  have hiter := loaderIter_some maxseq maxpacket st W n r hWdef.symm hWne hn hr hfit hnn
  rw [hposdef] at hiter
  refine ⟨_, _, hiter, ⟨?_, ?_, hre, hme, hbnd.2⟩, rfl, rfl, rfl, h1, hbnd.1, hbnd.2, hnn, hfit, hpn, hnm, ?_⟩
  · show W.drop n ++ st.file.drop (maxseq - (st.window.drop st.nload).length) = idx.drop (pos + n)
    rw [← List.drop_append_of_le_length hle, ← hWdef, window_file, hsplit, List.drop_drop]
  · show (W.drop n).length ≤ maxseq
    rw [List.length_drop]; omega
  · show n < maxseq → pos + n < ps.length → r.psqEnd - st.psqLast + (ps.getD (pos + n) 0 : Nat) > maxpacket
    intro hnm' hnl
    obtain ⟨r2, hr2, hno2⟩ := hno (by omega)
    obtain ⟨r3, hr3, _, _, hre3, _⟩ := hWrec n (by omega)
    rw [hr2] at hr3; injection hr3 with hr3; subst hr3
    rw [hre3, sum_take_succ ps pos n hnl] at hno2
    have hgd : ps.getD (pos + n) 0 = ps[pos + n] := by
      rw [List.getD_eq_getElem?_getD, List.getElem?_eq_getElem hnl]; rfl
    rw [hgd, hpn]
    omega

theorem loaderChunks_inv (idx : List Rec) (ps ms : List Nat) (maxseq : Nat) (maxpacket : Int)
    (hidx : IdxOf idx ps ms) (hms : 1 ≤ maxseq) (hps : ∀ i (h : i < ps.length), (ps[i] : Int) ≤ maxpacket) :
    ∀ fuel st, LoaderInv idx ps ms maxseq st → ps.length - (st.i0 + st.nload) < fuel →
      ∃ cs, loaderChunks maxseq maxpacket fuel st = some cs ∧
        (cs.map (·.n)).sum = ps.length - (st.i0 + st.nload) ∧
        (∀ j (hj : j < cs.length), (cs[j]).i0 = st.i0 + st.nload + ((cs.take j).map (·.n)).sum) ∧
        (∀ c ∈ cs, ChunkOK ps ms maxseq maxpacket c) := by
  intro fuel
  induction fuel with
  | zero => intro st _ h; omega
  | succ fuel ih =>
    intro st hinv hfuel
    rcases Nat.lt_or_ge (st.i0 + st.nload) ps.length with hlt | hge
    · obtain ⟨c, st', hiter, hinv', hi0, hnl, hci0, hok⟩ :=
        loaderIter_step idx ps ms maxseq maxpacket st hidx hms hps hinv hlt
      have hc1 := hok.one
      have hcle := hok.inDb
      obtain ⟨cs, hcs, hsum, hstart, hall⟩ := ih st' hinv' (by rw [hi0, hnl]; omega)
      refine ⟨c :: cs, ?_, ?_, ?_, ?_⟩
      · unfold loaderChunks
        simp only [hiter, hcs]
      · rw [List.map_cons, List.sum_cons, hsum, hi0, hnl]; omega
      · intro j hj
        cases j with
        | zero => simp [hci0]
        | succ j =>
          have := hstart j (by simpa using hj)
          rw [List.getElem_cons_succ, this, List.take_succ_cons, List.map_cons, List.sum_cons, hi0, hnl]
          omega
      · intro c' hc'
        rcases List.mem_cons.mp hc' with e | hmem
        · rw [e]; exact hok
        · exact hall c' hmem
    · have hnil : idx.drop (st.i0 + st.nload) = [] := List.drop_eq_nil_of_le (by rw [hidx.1]; exact hge)
      have hsp := hinv.hsplit
      rw [hnil] at hsp
      obtain ⟨hw, hf⟩ := List.append_eq_nil_iff.mp hsp
      obtain ⟨st', hiter⟩ := loaderIter_eod maxseq maxpacket st hw hf
      refine ⟨[], ?_, ?_, ?_, ?_⟩
      · unfold loaderChunks
        simp only [hiter]
      · simp; omega
      · intro j hj; simp at hj
      · intro c hc; simp at hc

/-- the loader's chunks for any index `idx` describing packet counts `ps` (only `p ≤ maxpacket` is needed; see
    `loaderChunks_spec` for the instance `idx = indexOf (ps.zip ms) 0 0`). -/
theorem loaderChunks_spec_idx (idx : List Rec) (ps ms : List Nat) (maxseq : Nat) (maxpacket : Int)
    (hidx : IdxOf idx ps ms) (hms : 1 ≤ maxseq) (hps : ∀ p ∈ ps, (p : Int) ≤ maxpacket) :
    ∃ cs, loaderChunks maxseq maxpacket (ps.length + 1) (LState.init idx) = some cs ∧
      (cs.map (·.n)).sum = ps.length ∧
      (∀ j (hj : j < cs.length), (cs[j]).i0 = ((cs.take j).map (·.n)).sum) ∧
      ∀ c ∈ cs, ChunkOK ps ms maxseq maxpacket c := by
  have hps' : ∀ i (h : i < ps.length), (ps[i] : Int) ≤ maxpacket := fun i h => hps _ (List.getElem_mem h)
  obtain ⟨cs, hcs, hsum, hstart, hall⟩ := loaderChunks_inv idx ps ms maxseq maxpacket hidx hms hps'
    (ps.length + 1) (LState.init idx) (inv_init idx ps ms maxseq) (by simp [LState.init])
  exact ⟨cs, hcs, by simpa [LState.init] using hsum, fun j hj => by simpa [LState.init] using hstart j hj, hall⟩

/-- On the index written for packet counts `ps` and metadata sizes `ms`, the loader never faults and
    cuts the database into contiguous, within-limits, maximal chunks. -/
theorem loaderChunks_spec (ps ms : List Nat) (maxseq : Nat) (maxpacket : Int) (hlen : ps.length = ms.length)
    (hps : ∀ p ∈ ps, 1 ≤ p ∧ (p : Int) ≤ maxpacket) (hms : 1 ≤ maxseq) :
    ∃ cs, loaderChunks maxseq maxpacket (ps.length + 1) (LState.init (indexOf (ps.zip ms) 0 0)) = some cs ∧
      (cs.map (·.n)).sum = ps.length ∧
      (∀ j (hj : j < cs.length), (cs[j]).i0 = ((cs.take j).map (·.n)).sum) ∧
      (∀ c ∈ cs, 1 ≤ c.n ∧ c.n ≤ maxseq ∧ c.i0 + c.n ≤ ps.length ∧ 0 ≤ c.pn ∧ c.pn ≤ maxpacket ∧
        c.pn = (((ps.drop c.i0).take c.n).sum : Nat) ∧ c.nmeta = (((ms.drop c.i0).take c.n).sum : Nat)) ∧
      (∀ c ∈ cs, c.n < maxseq → c.i0 + c.n < ps.length → c.pn + (ps.getD (c.i0 + c.n) 0 : Nat) > maxpacket) := by
  obtain ⟨cs, hcs, hsum, hstart, hall⟩ :=
    loaderChunks_spec_idx _ ps ms maxseq maxpacket (idxOf_indexOf ps ms hlen) hms (fun p hp => (hps p hp).2)
  exact ⟨cs, hcs, hsum, hstart, fun c hc => let k := hall c hc; ⟨k.one, k.nle, k.inDb, k.pn0, k.pnle, k.pn, k.nmeta⟩,
    fun c hc => (hall c hc).maximal⟩

end EaselModel.Dsqdata
