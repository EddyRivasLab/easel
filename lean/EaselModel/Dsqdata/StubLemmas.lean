import EaselModel.Dsqdata.Format
import EaselModel.Core.ListWhile
/-! # The tag line of the stub file: `esl_dsqdata_Open` parses back the tag `esl_dsqdata_Write` printed -/
namespace EaselModel.Dsqdata

theorem byte_cases (p : UInt8 → Bool) (h : ∀ n, n < 256 → p (UInt8.ofNat n) = true) : ∀ b, p b = true := by
  intro b
  have := h b.toNat b.toNat_lt
  rwa [UInt8.ofNat_toNat] at this

theorem digit_facts : ∀ b : UInt8, isDigitC b = true →
    (b != 10) = true ∧ (b != 0) = true ∧ isDelim b = false ∧ isSpaceC b = false ∧ b ≠ 45 ∧ b ≠ 43 := by
  intro b hb
  have := byte_cases (fun b => !isDigitC b || ((b != 10) && (b != 0) && !isDelim b && !isSpaceC b && (b != 45) && (b != 43)))
    (by decide +kernel) b
  simp only [hb, Bool.not_true, Bool.false_or, Bool.and_eq_true, Bool.not_eq_true', bne_iff_ne, ne_eq] at this
  simp only [bne_iff_ne, ne_eq]
  obtain ⟨⟨⟨⟨⟨a, b⟩, c⟩, d⟩, e⟩, f⟩ := this
  exact ⟨a, b, c, d, e, f⟩

theorem digit_ofNat (m : Nat) (h : m < 10) : isDigitC (UInt8.ofNat (48 + m)) = true ∧ (UInt8.ofNat (48 + m)).toNat = 48 + m := by
  have : ∀ m, m < 10 → isDigitC (UInt8.ofNat (48 + m)) = true ∧ (UInt8.ofNat (48 + m)).toNat = 48 + m := by decide +kernel
  exact this m h

theorem decDigits_digits : ∀ f n, ∀ b ∈ decDigits f n, isDigitC b = true
  | 0, _, b, hb => by simp [decDigits] at hb
  | f + 1, n, b, hb => by
    simp only [decDigits] at hb
    split at hb
    · rename_i h
      simp only [List.mem_singleton] at hb
      rw [hb]; exact (digit_ofNat n h).1
    · rcases List.mem_append.mp hb with h | h
      · exact decDigits_digits f _ b h
      · simp only [List.mem_singleton] at h
        rw [h]; exact (digit_ofNat _ (Nat.mod_lt _ (by omega))).1

theorem decDigits_length : ∀ f n, (decDigits f n).length ≤ f
  | 0, _ => by simp [decDigits]
  | f + 1, n => by
    simp only [decDigits]
    split
    · simp
    · have := decDigits_length f (n / 10)
      simp only [List.length_append, List.length_singleton]; omega

theorem decDigits_ne_nil (f n : Nat) : decDigits (f + 1) n ≠ [] := by
  simp only [decDigits]; split <;> simp

theorem parseDec_append (l : List UInt8) (d : UInt8) : parseDec (l ++ [d]) = parseDec l * 10 + (d.toNat - 48) := by
  simp [parseDec, List.foldl_append]

theorem parseDec_decDigits : ∀ f n, n < 10 ^ f → parseDec (decDigits f n) = n
  | 0, n, h => by simp at h; simp [decDigits, parseDec, h]
  | f + 1, n, h => by
    simp only [decDigits]
    split
    · rename_i h10
      simp only [parseDec, List.foldl_cons, List.foldl_nil, (digit_ofNat n h10).2]; omega
    · rw [parseDec_append, parseDec_decDigits f (n / 10) (by rw [Nat.pow_succ] at h; omega),
        (digit_ofNat _ (Nat.mod_lt _ (by omega))).2]
      omega

theorem strtok_token (t rest : List UInt8) (d : UInt8) (hne : t ≠ []) (hnd : ∀ b ∈ t, isDelim b = false)
    (hd : isDelim d = true) : strtok (t ++ d :: rest) = some (t, rest) := by
  obtain ⟨a, t', rfl⟩ := List.exists_cons_of_ne_nil hne
  have ha : isDelim a = false := hnd a (by simp)
  have h1 : ((a :: t') ++ d :: rest).dropWhile isDelim = (a :: t') ++ d :: rest := by
    simp [List.dropWhile_cons, ha]
  have h2 : ((a :: t') ++ d :: rest).takeWhile (fun b => !isDelim b) = a :: t' := by
    rw [List.takeWhile_append_of_pos (by intro b hb; simp [hnd b hb])]
    simp [List.takeWhile_cons, hd]
  have h3 : ((a :: t') ++ d :: rest).dropWhile (fun b => !isDelim b) = d :: rest := by
    rw [List.dropWhile_append_of_pos (by intro b hb; simp [hnd b hb])]
    simp [List.dropWhile_cons, hd]
  simp only [strtok, h1, h2, h3]
  simp

/-- digits only: `esl_str_IsInteger` accepts, `strtoul` returns their value -/
theorem scanInt_digits (D : List UInt8) (hD : ∀ b ∈ D, isDigitC b = true) (hne : D ≠ []) :
    scanInt D = (false, D, []) := by
  obtain ⟨a, D', rfl⟩ := List.exists_cons_of_ne_nil hne
  have fa := digit_facts a (hD a (by simp))
  have h1 : (a :: D').dropWhile isSpaceC = a :: D' := by simp [List.dropWhile_cons, fa.2.2.2.1]
  have h2 : (a :: D').takeWhile isDigitC = a :: D' := takeWhile_all _ hD
  simp only [scanInt, h1]
  split
  · rename_i heq; simp only [List.cons.injEq] at heq; exact absurd heq.1 fa.2.2.2.2.1
  · rename_i heq; simp only [List.cons.injEq] at heq; exact absurd heq.1 fa.2.2.2.2.2
  · simp only [h2, List.drop_length]

theorem prefix_facts : ∀ b ∈ stubPrefix, (b != 10) = true ∧ (b != 0) = true := by decide

/-- **the stub's tag line round-trips**: whatever follows it in the stub file -/
theorem parseStub_stubLine1 (tag : Nat) (R : List UInt8) :
    parseStub (stubLine1 tag ++ R) = .ok (tag % 4294967296) := by
  have hlt : tag % 4294967296 < 10 ^ 10 := by have := Nat.mod_lt tag (show 0 < 4294967296 by omega); omega
  have hDd := decDigits_digits 10 (tag % 4294967296)
  have hDne : decDigits 10 (tag % 4294967296) ≠ [] := decDigits_ne_nil 9 _
  have hDlen := decDigits_length 10 (tag % 4294967296)
  have hval := parseDec_decDigits 10 (tag % 4294967296) hlt
  unfold stubLine1
  generalize decDigits 10 (tag % 4294967296) = D at hDd hDne hDlen hval ⊢
  have hshape : stubPrefix ++ (D ++ [10]) ++ R = (stubPrefix ++ D) ++ 10 :: R := by simp
  rw [hshape]
  have hP10 : ∀ b ∈ stubPrefix ++ D, (b != 10) = true := by
    intro b hb
    rcases List.mem_append.mp hb with h | h
    · exact (prefix_facts b h).1
    · exact (digit_facts b (hDd b h)).1
  have hP0 : ∀ b ∈ stubPrefix ++ D ++ [10], (b != 0) = true := by
    intro b hb
    rcases List.mem_append.mp hb with h | h
    · rcases List.mem_append.mp h with h | h
      · exact (prefix_facts b h).2
      · exact (digit_facts b (hDd b h)).2.1
    · simp only [List.mem_singleton] at h; rw [h]; decide
  have hline : fgetsLine 4096 ((stubPrefix ++ D) ++ 10 :: R) = some (stubPrefix ++ D ++ [10]) := by
    have htw : ((stubPrefix ++ D) ++ 10 :: R).takeWhile (· != 10) = stubPrefix ++ D := by
      rw [List.takeWhile_append_of_pos hP10]; simp
    have hne : ((stubPrefix ++ D) ++ 10 :: R).isEmpty = false := by simp [stubPrefix]
    have hl : (stubPrefix ++ D).length < ((stubPrefix ++ D) ++ 10 :: R).length := by simp
    simp only [fgetsLine, hne, htw, hl, if_true, Bool.false_eq_true, if_false]
    rw [List.take_of_length_le]
    simp [stubPrefix]; omega
  have hz : (stubPrefix ++ D ++ [10]).takeWhile (· != 0) = stubPrefix ++ D ++ [10] := takeWhile_all _ hP0
  have e : stubPrefix ++ D ++ [10] = [69, 97, 115, 101, 108] ++ 32 :: ([100, 115, 113, 100, 97, 116, 97] ++ 32 ::
      ([118, 49] ++ 32 :: ((120 :: D) ++ 10 :: []))) := by simp [stubPrefix]
  have hxD : ∀ b ∈ (120 :: D), isDelim b = false := by
    intro b hb
    rcases List.mem_cons.mp hb with h | h
    · rw [h]; decide
    · exact (digit_facts b (hDd b h)).2.2.1
  have hsc := scanInt_digits D hDd hDne
  have hint : strIsInteger D = true := by
    simp only [strIsInteger, hsc, List.all_nil, Bool.and_true, Bool.not_eq_true', List.isEmpty_eq_false_iff]
    exact hDne
  have hul : strtoul32 D = tag % 4294967296 := by
    simp only [strtoul32, hsc, hval]
    have : ¬ (tag % 4294967296 ≥ 18446744073709551616) := by omega
    simp only [this, if_false, Bool.false_eq_true, Nat.mod_mod]
  simp only [parseStub, hline, hz]
  rw [e, strtok_token _ _ 32 (by simp) (by decide) (by decide)]
  simp only [bne_self_eq_false, Bool.false_eq_true, if_false]
  rw [strtok_token _ _ 32 (by simp) (by decide) (by decide)]
  simp only [bne_self_eq_false, Bool.false_eq_true, if_false]
  rw [strtok_token _ _ 32 (by simp) (by decide) (by decide)]
  have h49 : strIsInteger [49] = true := by decide
  simp only [List.head?_cons, bne_self_eq_false, Bool.false_eq_true, if_false, List.drop_succ_cons, List.drop_zero, h49,
    Bool.not_true]
  rw [strtok_token _ _ 10 (by simp) hxD (by decide)]
  simp only [List.head?_cons, bne_self_eq_false, Bool.false_eq_true, if_false, List.drop_succ_cons, List.drop_zero, hint,
    Bool.not_true, hul]

end EaselModel.Dsqdata
