import EaselModel.Dsqdata.CutLemmas
/-! # A `.dsqi` index cut short behind its header ends in the loader's fatal branch.

The repaired loader (78cbf46) compares, at end of data, the number of sequences it loaded with the header's `nseq` (`readDbX`).
Every sequence the loader loads was read as a complete 16-byte record from the index file: `avail` - the records carried over plus
the complete records still unread - bounds what can still be loaded (`loaderRunX_loaded_le`). So whenever the index file behind the
header holds fewer complete records than the header announces, the read cannot end with end of data: it ends with `fatalIndex`, or
earlier with another fatal outcome - for ANY opened database, any limits (`cut_index_not_eof`). -/
namespace EaselModel.Dsqdata

theorem decodeItems_len {α} (size : Nat) (dec : List UInt8 → α) : ∀ (k : Nat) (bs : List UInt8), (decodeItems size dec k bs).length = k
  | 0, _ => rfl
  | k + 1, bs => by simp [decodeItems, decodeItems_len size dec k]

/-- index records the loader can still turn into loaded sequences: carried over + complete records unread in the file -/
def avail (st : BState) : Nat := (st.l.window.length - st.l.nload) + st.ifp.length / 16

theorem loaderIter_chunk (maxseq : Nat) (maxpacket : Int) (L : LState) (c : ChunkDesc) (l' : LState)
    (h : loaderIter maxseq maxpacket L = some (some c, l')) :
    l'.window = L.window.drop L.nload ++ L.file.take (maxseq - (L.window.drop L.nload).length) ∧ l'.nload = c.n ∧
      c.n ≤ l'.window.length := by
  unfold loaderIter at h
  simp only at h
  split at h
  · cases h
  · split at h
    · cases h
    · rename_i nload _
      split at h
      · cases h
      · rename_i r hr
        split at h
        · cases h
        · simp only [Option.some.injEq, Prod.mk.injEq] at h
          obtain ⟨hc, hl⟩ := h
          subst hl
          have hcn : c.n = nload := by rw [← hc]
          refine ⟨rfl, hcn.symm, ?_⟩
          rw [hcn]
          simp only [getRec] at hr
          have := (List.getElem?_eq_some_iff.mp hr).1
          show nload ≤ (List.drop L.nload L.window ++ List.take (maxseq - (List.drop L.nload L.window).length) L.file).length
          omega

theorem loaderIterX_avail (maxseq : Nat) (maxpacket : Int) (st : BState) :
    match loaderIterX maxseq maxpacket st with
    | .chunk c st' => c.n + avail st' ≤ avail st
    | _ => True := by
  unfold loaderIterX
  simp only
  cases hli : loaderIter maxseq maxpacket
      { st.l with file := decodeItems 16 decRec (freadItems 16 (maxseq - (List.drop st.l.nload st.l.window).length) st.ifp).2.1
                            (freadItems 16 (maxseq - (List.drop st.l.nload st.l.window).length) st.ifp).1 } with
  | none => trivial
  | some p =>
    obtain ⟨oc, l'⟩ := p
    cases oc with
    | none => trivial
    | some c =>
      simp only
      by_cases h1 : c.nmeta < 0
      · rw [if_pos h1]; trivial
      · rw [if_neg h1]
        by_cases h2 : (freadItems 4 c.pn.toNat st.sfp).2.1 ≠ c.pn.toNat
        · rw [if_pos h2]; trivial
        · rw [if_neg h2]
          by_cases h3 : (freadItems 1 c.nmeta.toNat st.mfp).2.1 ≠ c.nmeta.toNat
          · rw [if_pos h3]; trivial
          · rw [if_neg h3]
            show c.n + avail _ ≤ avail st
            obtain ⟨hw, hn, hle⟩ := loaderIter_chunk maxseq maxpacket _ c l' hli
            have hf := freadItems_left 16 (maxseq - (List.drop st.l.nload st.l.window).length) st.ifp
            simp only [avail]
            rw [hn, hw] at *
            simp only [List.length_append, List.length_take, decodeItems_len, List.length_drop] at *
            omega

theorem loaderRunX_loaded_le (maxseq : Nat) (maxpacket : Int) : ∀ (fuel : Nat) (st : BState),
    ((loaderRunX maxseq maxpacket fuel st).1.map (·.n)).sum ≤ avail st
  | 0, _ => Nat.zero_le _
  | fuel + 1, st => by
    have h := loaderIterX_avail maxseq maxpacket st
    unfold loaderRunX
    cases hx : loaderIterX maxseq maxpacket st with
    | chunk c st' =>
      rw [hx] at h
      have ih := loaderRunX_loaded_le maxseq maxpacket fuel st'
      simp only [List.map_cons, List.sum_cons]
      simp only at h
      omega
    | eod _ => exact Nat.zero_le _
    | fault => exact Nat.zero_le _
    | fatalPackets _ _ => exact Nat.zero_le _
    | fatalMeta _ _ => exact Nat.zero_le _

/-- **A cut index never reads as a complete database.** For ANY opened database whose index file, behind the header, holds fewer
    complete 16-byte records than the header's `nseq`, any limits: the read does not end with end of data. -/
theorem cut_index_not_eof (maxseq : Nat) (maxpacket : Int) (o : Opened) (h : o.ifp.length / 16 < o.nseq) :
    (readDbX maxseq maxpacket o).2 ≠ .eof := by
  have hle := loaderRunX_loaded_le maxseq maxpacket (o.ifp.length / 16 + 2) (BState.init o)
  have ha : avail (BState.init o) = o.ifp.length / 16 := by simp [avail, BState.init, LState.init]
  rw [ha] at hle
  have hne : ((loaderRunX maxseq maxpacket (o.ifp.length / 16 + 2) (BState.init o)).1.map (·.n)).sum ≠ o.nseq := by omega
  simp only [readDbX]
  by_cases he : (loaderRunX maxseq maxpacket (o.ifp.length / 16 + 2) (BState.init o)).2 = .eof
  · simp [he, hne]
  · simp [he]

theorem take_hdr_idx (a b c d e f g h i j : Nat) (rest : List UInt8) (m : Nat) :
    (le32 a ++ le32 b ++ (le32 c ++ (le32 d ++ (le32 e ++ (le32 f ++ (le32 g ++ (le64 h ++ (le64 i ++ (le64 j ++ rest))))))))).take (52 + m) =
      le32 a ++ le32 b ++ (le32 c ++ (le32 d ++ (le32 e ++ (le32 f ++ (le32 g ++ (le64 h ++ (le64 i ++ (le64 j ++ rest.take m)))))))) := by
  have hl : (le32 a ++ le32 b ++ le32 c ++ le32 d ++ le32 e ++ le32 f ++ le32 g ++ le64 h ++ le64 i ++ le64 j).length = 52 := by
    simp [le32, le64]
  have e1 : le32 a ++ le32 b ++ (le32 c ++ (le32 d ++ (le32 e ++ (le32 f ++ (le32 g ++ (le64 h ++ (le64 i ++ (le64 j ++ rest))))))))
      = (le32 a ++ le32 b ++ le32 c ++ le32 d ++ le32 e ++ le32 f ++ le32 g ++ le64 h ++ le64 i ++ le64 j) ++ rest := by
    simp only [List.append_assoc]
  rw [e1, ← hl, List.take_length_add_append]
  simp only [List.append_assoc]

/-- **`esl_dsqdata_Open` on written files whose `.dsqi` was cut `m` bytes behind its 52-byte header**: accepted, same header values
    (`nseq` included); only the unread part of the index is shorter -/
theorem openDb_cut_idx (tag alphatype : Nat) (fname fmt : List UInt8) (db : List SeqRec)
    (hty : alphatype = 1 ∨ alphatype = 2 ∨ alphatype = 3) (hlen : ∀ r ∈ db, r.dsq.length < 6 * MAXPACKET)
    (expect : Option Nat) (hexp : expect = none ∨ expect = some alphatype) (m : Nat) :
    ∃ f, writeDb tag alphatype fname fmt db = .ok f ∧
      openDb expect { f with idx := f.idx.take (52 + m) } =
        .ok { writtenHeader tag alphatype (alphatype == 3) db with ifp := (writtenHeader tag alphatype (alphatype == 3) db).ifp.take m } :=
  ⟨_, writeDb_written tag alphatype fname fmt db hty hlen,
    by simp only [writtenWith, take_hdr_idx]; exact openDb_writtenWith tag alphatype fname fmt db hty expect hexp _ _ _⟩

end EaselModel.Dsqdata
