import EaselModel.Dsqdata.Smem
import EaselModel.Dsqdata.FormatLemmas
/-! # Unpacking in place inside `smem` computes the functional `unpackChunk` (byte level)

Invariant after `k` packets: the buffer still has `U` bytes; every packet `q ≥ k` is still intact at `psq + 4q`; the first
`Wp k` bytes are the leading sentinel followed by the blocks of packets `0 … k-1`. `unpack_in_place_safe` (`InPlace.lean`) supplies
`Wp k ≤ psqOff + 4k` (`Safe.front`), which is exactly what keeps the write for packet `k` away from packet `k+1`. -/
namespace EaselModel.Dsqdata

theorem packetBlock_length (mode5 : Bool) (v : UInt32) : (packetBlock mode5 v).length = packetBytes mode5 v := by
  unfold packetBlock packetBytes
  split <;> simp

theorem poke_length (mem : List UInt8) (r : Nat) (b : List UInt8) (h : r + b.length ≤ mem.length) :
    (poke mem r b).length = mem.length := by
  simp only [poke, List.length_append, List.length_take, List.length_drop]; omega

theorem poke_take (mem : List UInt8) (r : Nat) (b : List UInt8) (h : r ≤ mem.length) :
    (poke mem r b).take (r + b.length) = mem.take r ++ b := by
  have h1 : (mem.take r).length = r := by simp; omega
  unfold poke
  rw [← List.append_assoc]
  have : r + b.length = (mem.take r ++ b).length := by simp [h1]
  rw [this, List.take_left']
  rfl

theorem poke_drop (mem : List UInt8) (r : Nat) (b : List UInt8) (k : Nat) (h : r + b.length ≤ k) (hr : r ≤ mem.length) :
    (poke mem r b).drop k = mem.drop k := by
  have h1 : (mem.take r).length = r := by simp; omega
  unfold poke
  rw [← List.append_assoc]
  have hl : (mem.take r ++ b).length = r + b.length := by simp [h1]
  have hk : k = (mem.take r ++ b).length + (k - (r + b.length)) := by omega
  rw [hk, List.drop_length_add_append, List.drop_drop]
  congr 1
  omega

theorem peek32_poke (mem : List UInt8) (r : Nat) (b : List UInt8) (off : Nat) (h : r + b.length ≤ off) (hr : r ≤ mem.length) :
    peek32 (poke mem r b) off = peek32 mem off := by
  unfold peek32; rw [poke_drop mem r b off h hr]

theorem drop_getD (l : List UInt32) (k : Nat) (h : k < l.length) : l.drop k = l.getD k 0 :: l.drop (k + 1) := by
  rw [List.drop_eq_getElem_cons h]; simp [List.getD_eq_getElem?_getD, List.getElem?_eq_getElem h]

theorem take_succ_getD (l : List UInt32) (k : Nat) (h : k < l.length) : l.take (k + 1) = l.take k ++ [l.getD k 0] := by
  rw [List.take_add_one]; simp [List.getD_eq_getElem?_getD, List.getElem?_eq_getElem h]

theorem unpack_mode_eq (mode5 : Bool) (ps : List UInt32) :
    (if mode5 then unpack5 ps else unpack2 ps) = unpackWith (packetResidues mode5) ps := by
  cases mode5
  · exact unpack2_eq ps
  · exact unpack5_eq ps

section run
variable (mode5 : Bool) (ps : List UInt32) (psqOff U : Nat)

/-- write position before packet `k` -/
def Wp (k : Nat) : Nat := writeFront mode5 (ps.take k) 1
/-- the unpacked bytes before packet `k` -/
def layoutP (k : Nat) : List UInt8 := 255 :: (ps.take k).flatMap (packetBlock mode5)

theorem layoutP_length (k : Nat) : (layoutP mode5 ps k).length = Wp mode5 ps k := by
  have : ∀ l : List UInt32, (l.flatMap (packetBlock mode5)).length = (l.map (packetBytes mode5)).sum := by
    intro l
    induction l with
    | nil => rfl
    | cons a l ih => simp [List.flatMap_cons, ih, packetBlock_length]
  simp only [layoutP, Wp, writeFront, List.length_cons, this]
  omega

theorem Wp_succ (k : Nat) (h : k < ps.length) :
    Wp mode5 ps (k + 1) = Wp mode5 ps k + (packetBlock mode5 (ps.getD k 0)).length := by
  simp only [Wp, writeFront, take_succ_getD ps k h, List.map_append, List.sum_append, List.map_cons, List.map_nil,
    List.sum_cons, List.sum_nil, packetBlock_length]
  omega

theorem layoutP_succ (k : Nat) (h : k < ps.length) :
    layoutP mode5 ps (k + 1) = layoutP mode5 ps k ++ packetBlock mode5 (ps.getD k 0) := by
  simp [layoutP, take_succ_getD ps k h, List.flatMap_append]

/-- the buffer after `k` packets have been unpacked in place: the three clauses of the head of this file -/
structure MInv (mem : List UInt8) (k : Nat) : Prop where
  len : mem.length = U
  tail : ∀ q, k ≤ q → q < ps.length → peek32 mem (psqOff + 4 * q) = ps.getD q 0
  pre : mem.take (Wp mode5 ps k) = layoutP mode5 ps k

/-- the write front never passes the packet about to be read, the output fits the buffer, and so do the packets -/
structure Safe : Prop where
  front : ∀ p, p < ps.length → Wp mode5 ps p ≤ psqOff + 4 * p
  fin : Wp mode5 ps ps.length ≤ U
  fit : psqOff + 4 * ps.length ≤ U

theorem Wp_le_U (sf : Safe mode5 ps psqOff U) (k : Nat) (h : k ≤ ps.length) : Wp mode5 ps k ≤ U := by
  by_cases e : k < ps.length
  · have := sf.front k e; have := sf.fit; omega
  · have : k = ps.length := by omega
    subst this; exact sf.fin

theorem step_packet (sf : Safe mode5 ps psqOff U) (mem : List UInt8) (k : Nat) (h : k < ps.length)
    (i : MInv mode5 ps psqOff U mem k) :
    MInv mode5 ps psqOff U (poke mem (Wp mode5 ps k) (packetBlock mode5 (ps.getD k 0))) (k + 1) := by
  have hW := Wp_succ mode5 ps k h
  have hU := Wp_le_U mode5 ps psqOff U sf (k + 1) (by omega)
  have hle : Wp mode5 ps k ≤ mem.length := by rw [i.len]; omega
  refine ⟨by rw [poke_length _ _ _ (by rw [i.len]; omega)]; exact i.len, fun q hq hql => ?_, ?_⟩
  · rw [peek32_poke _ _ _ _ ?_ hle]
    · exact i.tail q (by omega) hql
    · have := sf.front (k + 1) (by omega); omega
  · rw [hW, poke_take _ _ _ hle, i.pre, layoutP_succ mode5 ps k h]

/-- one call of `dsqdata_unpack5` / `_unpack2` inside the buffer = the functional unpacker on the packets from `k` on -/
theorem unpackSeqMem_spec (sf : Safe mode5 ps psqOff U) :
    ∀ (fuel : Nat) (mem : List UInt8) (k L0 P0 : Nat) (d : List UInt8) (P : Nat),
      MInv mode5 ps psqOff U mem k → unpackWith (packetResidues mode5) (ps.drop k) = some (d, P) → P ≤ fuel →
      ∃ mem', unpackSeqMem mode5 fuel mem (psqOff + 4 * k) (Wp mode5 ps k) L0 P0 = some (mem', L0 + d.length, P0 + P) ∧
        MInv mode5 ps psqOff U mem' (k + P) ∧ layoutP mode5 ps (k + P) = layoutP mode5 ps k ++ (d ++ [255]) := by
  intro fuel
  induction fuel with
  | zero => intro _ _ _ _ _ _ _ hu hP; have := (unpackWith_pos hu).1; omega
  | succ fuel ih =>
    intro mem k L0 P0 d P i hu hP
    have hk : k < ps.length := by
      have := unpackWith_pos hu
      rw [List.length_drop] at this; omega
    have hv : peek32 mem (psqOff + 4 * k) = ps.getD k 0 := i.tail k (Nat.le_refl _) hk
    have hW := Wp_succ mode5 ps k hk
    have hU := Wp_le_U mode5 ps psqOff U sf (k + 1) (by omega)
    have hb1 : ¬ (psqOff + 4 * k + 4 > mem.length) := by rw [i.len]; have := sf.fit; omega
    have hb2 : ¬ (Wp mode5 ps k + (packetBlock mode5 (ps.getD k 0)).length > mem.length) := by rw [i.len]; omega
    have i' := step_packet mode5 ps psqOff U sf mem k hk i
    rw [drop_getD ps k hk] at hu
    simp only [unpackSeqMem, hb1, if_false, hv, hb2]
    by_cases he : (ps.getD k 0 &&& EOD != 0) = true
    · simp only [unpackWith, he, if_true, Option.some.injEq, Prod.mk.injEq] at hu
      obtain ⟨rfl, rfl⟩ := hu
      simp only [he, if_true]
      refine ⟨_, rfl, i', ?_⟩
      rw [layoutP_succ mode5 ps k hk]
      simp only [packetBlock, he, if_true]
    · have he' : (ps.getD k 0 &&& EOD != 0) = false := by simpa using he
      simp only [unpackWith, he', Bool.false_eq_true, if_false] at hu
      cases hr : unpackWith (packetResidues mode5) (ps.drop (k + 1)) with
      | none => rw [hr] at hu; cases hu
      | some x =>
        obtain ⟨d', p'⟩ := x
        rw [hr] at hu
        cases hu
        simp only [he', Bool.false_eq_true, if_false]
        obtain ⟨mem', h1, h2, h5⟩ := ih _ (k + 1) (L0 + (packetResidues mode5 (ps.getD k 0)).length) (P0 + 1) d' p' i' hr (by omega)
        have hpk : psqOff + 4 * k + 4 = psqOff + 4 * (k + 1) := by omega
        have e : k + 1 + p' = k + (p' + 1) := by omega
        rw [e] at h2 h5
        rw [hpk, ← hW, h1]
        refine ⟨mem', ?_, h2, ?_⟩
        · simp [List.length_append, Nat.add_assoc]; omega
        · rw [h5, layoutP_succ mode5 ps k hk]
          simp only [packetBlock, he', Bool.false_eq_true, if_false, List.append_nil, List.append_assoc]

/-- `(dsq[i] - smem, L[i])` for consecutive sequences starting at offset `r` -/
def segsOf : Nat → List (List UInt8) → List (Nat × Nat)
  | _, [] => []
  | r, d :: ds => (r, d.length) :: segsOf (r + d.length + 1) ds

theorem unpackChunkMemLoop_spec (sf : Safe mode5 ps psqOff U) :
    ∀ (fuel : Nat) (mem : List UInt8) (k : Nat) (ds : List (List UInt8)),
      MInv mode5 ps psqOff U mem k → k ≤ ps.length →
      unpackChunkLoop mode5 fuel (ps.drop k) = some ds → ps.length - k ≤ fuel →
      ∃ mem', unpackChunkMemLoop mode5 psqOff ps.length fuel mem k (Wp mode5 ps k - 1)
            = some (mem', segsOf (Wp mode5 ps k - 1) ds) ∧
        MInv mode5 ps psqOff U mem' ps.length ∧
        layoutP mode5 ps ps.length = layoutP mode5 ps k ++ ds.flatMap (fun d => d ++ [255]) := by
  intro fuel
  induction fuel with
  | zero =>
    intro mem k ds i hk hl hf
    have : k = ps.length := by omega
    subst this
    simp only [unpackChunkLoop] at hl
    cases hl
    exact ⟨mem, rfl, i, by simp⟩
  | succ fuel ih =>
    intro mem k ds i hk hl hf
    have hWpos : 1 ≤ Wp mode5 ps k := by simp [Wp, writeFront]
    by_cases hge : k ≥ ps.length
    · have : k = ps.length := by omega
      subst this
      simp only [unpackChunkLoop, List.drop_length, List.isEmpty_nil, if_true] at hl
      cases hl
      refine ⟨mem, by simp [unpackChunkMemLoop, segsOf], i, by simp⟩
    · have hne : (ps.drop k).isEmpty = false := by
        rw [drop_getD ps k (by omega)]; rfl
      simp only [unpackChunkLoop, hne, Bool.false_eq_true, if_false] at hl
      rw [unpack_mode_eq] at hl
      cases hr : unpackWith (packetResidues mode5) (ps.drop k) with
      | none => rw [hr] at hl; cases hl
      | some x =>
        obtain ⟨d, P⟩ := x
        rw [hr] at hl
        simp only [List.drop_drop] at hl
        cases hrest : unpackChunkLoop mode5 fuel (ps.drop (k + P)) with
        | none => rw [hrest] at hl; cases hl
        | some ds' =>
          rw [hrest] at hl
          cases hl
          have hP := unpackWith_pos hr
          have hfit := sf.fit
          rw [List.length_drop] at hP
          have h3 : k + P ≤ ps.length := by omega
          obtain ⟨mem1, h1, h2, h5⟩ := unpackSeqMem_spec mode5 ps psqOff U sf (mem.length + 1) mem k 0 0 d P i hr
            (by rw [i.len]; omega)
          have hr1 : Wp mode5 ps k - 1 + 1 = Wp mode5 ps k := by omega
          have hWn : Wp mode5 ps (k + P) = Wp mode5 ps k + d.length + 1 := by
            have a := layoutP_length mode5 ps (k + P)
            have b := layoutP_length mode5 ps k
            rw [h5] at a
            simp only [List.length_append, List.length_cons, List.length_nil] at a
            omega
          have hnext : Wp mode5 ps k - 1 + d.length + 1 = Wp mode5 ps (k + P) - 1 := by omega
          obtain ⟨mem2, g1, g2, g3⟩ := ih mem1 (k + P) ds' h2 h3 hrest (by omega)
          refine ⟨mem2, ?_, g2, ?_⟩
          · simp only [unpackChunkMemLoop, hge, if_false, hr1, h1, Nat.zero_add, hnext, g1, segsOf]
          · rw [g3, h5]; simp [List.flatMap_cons, List.append_assoc]

/-- in any buffer of `U` bytes that holds the packets at `psqOff ≥ 1` and is `Safe` for them -/
theorem unpackChunkMem_run (sf : Safe mode5 ps psqOff U) (h1 : 1 ≤ psqOff) (mem : List UInt8) (hL : mem.length = U)
    (hpeek : ∀ q, q < ps.length → peek32 mem (psqOff + 4 * q) = ps.getD q 0)
    (ds : List (List UInt8)) (hds : unpackChunk mode5 ps = some ds) :
    ∃ mem', unpackChunkMem mode5 mem psqOff ps.length = some (mem', segsOf 0 ds) ∧
      mem'.length = U ∧ mem'.take (smemLayout ds).length = smemLayout ds := by
  have hfit := sf.fit
  have hne : mem.isEmpty = false := by
    cases hm : mem with
    | nil => rw [hm] at hL; simp at hL; omega
    | cons a as => rfl
  have i0 : MInv mode5 ps psqOff U (poke mem 0 [255]) 0 := by
    refine ⟨by rw [poke_length _ _ _ (by rw [hL]; simp; omega)]; exact hL, fun q _ hq => ?_, ?_⟩
    · rw [peek32_poke _ _ _ _ (by simp; omega) (Nat.zero_le _)]; exact hpeek q hq
    · have : Wp mode5 ps 0 = 0 + ([255] : List UInt8).length := by simp [Wp, writeFront]
      rw [this, poke_take _ _ _ (Nat.zero_le _)]
      simp [layoutP]
  have hds' : unpackChunkLoop mode5 ps.length (ps.drop 0) = some ds := by simpa [unpackChunk] using hds
  obtain ⟨mem', h1, h2, h3⟩ := unpackChunkMemLoop_spec mode5 ps psqOff U sf ps.length _ 0 ds i0 (Nat.zero_le _) hds' (by omega)
  have hW0 : Wp mode5 ps 0 - 1 = 0 := by simp [Wp, writeFront]
  rw [hW0] at h1
  refine ⟨mem', by simp only [unpackChunkMem, hne, Bool.false_eq_true, if_false]; exact h1, h2.len, ?_⟩
  have hlayout : layoutP mode5 ps ps.length = smemLayout ds := by
    rw [h3]; simp [layoutP, smemLayout]
  have := h2.pre
  rw [hlayout] at this
  have b := Wp_le_U mode5 ps _ _ sf ps.length (Nat.le_refl _)
  have hmin : min (Wp mode5 ps ps.length) mem'.length = Wp mode5 ps ps.length := by rw [h2.len]; omega
  rw [← this, List.length_take, hmin]

end run

theorem chunkU_ge (mode5 : Bool) (maxpacket maxseq : Nat) :
    per mode5 * maxpacket + maxseq + 1 ≤ chunkU mode5 maxpacket maxseq ∧ chunkU mode5 maxpacket maxseq % 4 = 0 := by
  unfold chunkU
  constructor
  · have := Nat.div_add_mod (per mode5 * maxpacket + maxseq + 1 + 3) 4
    have := Nat.mod_lt (per mode5 * maxpacket + maxseq + 1 + 3) (by decide : 4 > 0)
    omega
  · exact Nat.mul_mod_left _ _

/-- the buffer layout `dsqdata_chunk_Create` sets up: `psq` is 4-byte aligned, at least one byte above `smem`, and
    `maxpacket` packets fit exactly between it and the end of the buffer -/
theorem chunk_layout (mode5 : Bool) (maxpacket maxseq : Nat) :
    chunkPsqOff mode5 maxpacket maxseq + 4 * maxpacket = chunkU mode5 maxpacket maxseq ∧
    chunkPsqOff mode5 maxpacket maxseq % 4 = 0 ∧ 1 ≤ chunkPsqOff mode5 maxpacket maxseq := by
  have h := chunkU_ge mode5 maxpacket maxseq
  have hper : per mode5 = 6 ∨ per mode5 = 15 := by unfold per; cases mode5 <;> simp
  unfold chunkPsqOff
  rcases hper with e | e <;> rw [e] at h <;> refine ⟨by omega, by omega, by omega⟩

theorem peek32_flat (ps : List UInt32) (pre post : List UInt8) (q : Nat) (h : q < ps.length) :
    peek32 (pre ++ (ps.flatMap enc32 ++ post)) (pre.length + 4 * q) = ps.getD q 0 := by
  unfold peek32
  rw [List.drop_length_add_append, List.drop_append_of_le_length (by
    rw [flatMap_const_length enc32 4 enc32_length]; omega)]
  rw [Nat.mul_comm 4 q, flatMap_drop_const enc32 4 enc32_length, drop_getD ps q h, List.flatMap_cons, List.append_assoc]
  have : (enc32 (ps.getD q 0) ++ (List.flatMap enc32 (List.drop (q + 1) ps) ++ post)).take 4 = enc32 (ps.getD q 0) := by
    rw [← enc32_length (ps.getD q 0), List.take_left']; rfl
  rw [this, dec32_enc32]

/-- **Unpacking in place, at byte level, is the functional unpacker.** In the buffer `dsqdata_chunk_Create` allocates for
    `(maxpacket, maxseq)` - whatever its previous contents `fill` - with the `pn ≤ maxpacket` packets of a chunk of
    `N ≤ maxseq` sequences where the loader `fread`s them, `dsqdata_unpack_chunk` never reads or writes outside the buffer,
    never overwrites a packet it has not read yet, and leaves in `smem[0 …]` exactly the leading sentinel followed by each
    sequence and its sentinel (`smemLayout ds`), `dsq[i]`/`L[i]` pointing at them (`segsOf 0 ds`) - `ds` being what the
    functional `unpackChunk` (and so, by `unpackChunk_pk` in `RoundTrip.lean`, what was packed) yields. -/
theorem unpackChunkMem_correct (mode5 : Bool) (ps : List UInt32) (maxpacket maxseq : Nat) (fill : UInt8) (ds : List (List UInt8))
    (hpn : ps.length ≤ maxpacket) (hN : eodCount ps ≤ maxseq) (hds : unpackChunk mode5 ps = some ds) :
    ∃ mem', unpackChunkMem mode5 (loadedSmem mode5 maxpacket maxseq ps fill) (chunkPsqOff mode5 maxpacket maxseq) ps.length
        = some (mem', segsOf 0 ds) ∧
      mem'.length = chunkU mode5 maxpacket maxseq ∧ mem'.take (smemLayout ds).length = smemLayout ds := by
  have hU := chunkU_ge mode5 maxpacket maxseq
  have hlay := chunk_layout mode5 maxpacket maxseq
  have hsafe := unpack_in_place_safe mode5 ps maxpacket maxseq (chunkU mode5 maxpacket maxseq) hpn hN hU.1
  have hoff : chunkU mode5 maxpacket maxseq - 4 * maxpacket = chunkPsqOff mode5 maxpacket maxseq := rfl
  rw [hoff] at hsafe
  have sf : Safe mode5 ps (chunkPsqOff mode5 maxpacket maxseq) (chunkU mode5 maxpacket maxseq) :=
    ⟨fun p hp => hsafe.1 p hp, by simpa [Wp] using hsafe.2, by omega⟩
  have hElen : (ps.flatMap enc32).length = ps.length * 4 := flatMap_const_length enc32 4 enc32_length ps
  have hrep : (List.replicate (chunkU mode5 maxpacket maxseq) fill).length = chunkU mode5 maxpacket maxseq := by simp
  have hL : (loadedSmem mode5 maxpacket maxseq ps fill).length = chunkU mode5 maxpacket maxseq := by
    unfold loadedSmem; rw [poke_length _ _ _ (by rw [hrep, hElen]; omega)]; exact hrep
  have hpeek : ∀ q, q < ps.length →
      peek32 (loadedSmem mode5 maxpacket maxseq ps fill) (chunkPsqOff mode5 maxpacket maxseq + 4 * q) = ps.getD q 0 := by
    intro q hq
    have hpre : ((List.replicate (chunkU mode5 maxpacket maxseq) fill).take (chunkPsqOff mode5 maxpacket maxseq)).length
        = chunkPsqOff mode5 maxpacket maxseq := by simp; omega
    have := peek32_flat ps ((List.replicate (chunkU mode5 maxpacket maxseq) fill).take (chunkPsqOff mode5 maxpacket maxseq))
      ((List.replicate (chunkU mode5 maxpacket maxseq) fill).drop (chunkPsqOff mode5 maxpacket maxseq + (ps.flatMap enc32).length)) q hq
    rw [hpre] at this
    exact this
  exact unpackChunkMem_run mode5 ps _ _ sf hlay.2.2 _ hL hpeek ds hds

theorem filter_last_only {α} (p : α → Bool) : ∀ (l : List α), l ≠ [] →
    (∀ i (hi : i < l.length), p l[i] = decide (i + 1 = l.length)) → (l.filter p).length = 1
  | [], hne, _ => absurd rfl hne
  | [a], _, h => by
    have := h 0 (by simp)
    simp at this
    simp [List.filter, this]
  | a :: b :: l, _, h => by
    have h0 := h 0 (by simp)
    have ha : p a = false := by simpa using h0
    have ht : ∀ i (hi : i < (b :: l).length), p (b :: l)[i] = decide (i + 1 = (b :: l).length) := by
      intro i hi
      have := h (i + 1) (by simpa using hi)
      simpa using this
    rw [List.filter_cons_of_neg (by simp [ha])]
    exact filter_last_only p (b :: l) (by simp) ht

theorem eodCount_append (a b : List UInt32) : eodCount (a ++ b) = eodCount a + eodCount b := by
  simp [eodCount, List.filter_append]

theorem eodCount_pk (amino : Bool) (d : List UInt8) (hd : ∀ x ∈ d, x ≤ 30) : eodCount (pk amino d) = 1 :=
  filter_last_only _ _ (List.length_pos_iff.mp (pk_length_pos amino d)) ((packed_pk amino d).eod_last hd)

theorem eodCount_flatMap_pk (amino : Bool) : ∀ (ds : List (List UInt8)), (∀ d ∈ ds, ∀ x ∈ d, x ≤ 30) →
    eodCount (ds.flatMap (pk amino)) = ds.length
  | [], _ => rfl
  | d :: ds, h => by
    rw [List.flatMap_cons, eodCount_append, eodCount_pk amino d (h d (by simp)),
      eodCount_flatMap_pk amino ds (fun d' hd' => h d' (by simp [hd'])), List.length_cons]
    omega

/-- **Packed chunk → loader's buffer → unpacked in place = the sequences.** For every list of sequences `ds` (codes ≤ 30,
    empty ones included) whose packets fit the buffer limits (`Σ packets ≤ maxpacket`, `|ds| ≤ maxseq`): -/
theorem unpackChunkMem_packed (amino : Bool) (ds : List (List UInt8)) (maxpacket maxseq : Nat) (fill : UInt8)
    (hd : ∀ d ∈ ds, ∀ x ∈ d, x ≤ 30) (hpn : (ds.flatMap (pk amino)).length ≤ maxpacket) (hN : ds.length ≤ maxseq) :
    ∃ mem', unpackChunkMem amino (loadedSmem amino maxpacket maxseq (ds.flatMap (pk amino)) fill)
        (chunkPsqOff amino maxpacket maxseq) (ds.flatMap (pk amino)).length = some (mem', segsOf 0 ds) ∧
      mem'.length = chunkU amino maxpacket maxseq ∧ mem'.take (smemLayout ds).length = smemLayout ds :=
  unpackChunkMem_correct amino _ maxpacket maxseq fill ds hpn (by rw [eodCount_flatMap_pk amino ds hd]; exact hN)
    (unpackChunk_pk amino ds hd)

/-- every chunk the byte-level loader delivers (`Tiles`) unpacks IN PLACE, in the chunk buffer made for the reader's limits,
    to exactly the sequences of its records -/
theorem tiles_unpack_in_place (amino : Bool) (db : List SeqRec) (maxseq : Nat) (maxpacket : Int) (hwf : ∀ r ∈ db, r.Wf)
    (fill : UInt8) : ∀ (out : List (BChunk × List SeqRec)) (pos : Nat), Tiles amino db maxseq maxpacket pos out →
    ∀ c ∈ out, ∃ mem', unpackChunkMem amino (loadedSmem amino maxpacket.toNat maxseq c.1.psq fill)
          (chunkPsqOff amino maxpacket.toNat maxseq) c.1.pn = some (mem', segsOf 0 (c.2.map (·.dsq))) ∧
        mem'.take (smemLayout (c.2.map (·.dsq))).length = smemLayout (c.2.map (·.dsq))
  | [], _, _, c, hc => by cases hc
  | (c0, rs) :: rest, pos, h, c, hc => by
    obtain ⟨_, _, hn, hp, hle, hrs, hpsq, hpn, _, ht⟩ := h
    rcases List.mem_cons.mp hc with rfl | hc'
    · have hsub : ∀ r ∈ rs, r ∈ db := by
        intro r hr; rw [hrs] at hr
        exact List.mem_of_mem_drop (List.mem_of_mem_take hr)
      have hd : ∀ d ∈ rs.map (·.dsq), ∀ x ∈ d, x ≤ 30 := by
        intro d hd
        obtain ⟨r, hr, rfl⟩ := List.mem_map.mp hd
        exact (hwf r (hsub r hr)).2.2.2.2
      have hflat : (rs.map (·.dsq)).flatMap (pk amino) = rs.flatMap (PK amino) := by simp [List.flatMap_map]
      have hlen : rs.length ≤ maxseq := by
        have : rs.length ≤ c0.n := by rw [hrs]; simp [List.length_take]; omega
        omega
      have hpk : ((rs.map (·.dsq)).flatMap (pk amino)).length ≤ maxpacket.toNat := by
        rw [hflat, ← hpsq, ← hpn]; omega
      obtain ⟨mem', h1, _, h3⟩ := unpackChunkMem_packed amino (rs.map (·.dsq)) maxpacket.toNat maxseq fill hd hpk (by simpa using hlen)
      refine ⟨mem', ?_, h3⟩
      simp only
      rw [hpsq, hpn, hpsq, ← hflat]
      exact h1
    · exact tiles_unpack_in_place amino db maxseq maxpacket hwf fill rest _ ht c hc'

end EaselModel.Dsqdata
