import EaselModel.Dsqdata.ShortRead
import EaselModel.Dsqdata.FormatLemmas
/-! # Cutting a data file short: what the byte-level loader does with `.dsqs` / `.dsqm` truncated at an arbitrary byte.

`cut_run` (instances `cut_sfp_run`, `cut_mfp_run`): run the loader on the same index with the packet file (resp. the metadata file) cut after `m` bytes.
Either nothing changes (the cut lies behind everything the loader reads), or the loader delivers a PREFIX of the chunks of the
uncut run - byte for byte the same chunks - and then ends with the fatal short-read error. It never delivers a wrong or partial
chunk, and never ends with end-of-data earlier than the uncut run. Also here: `Open` on the cut files (`openDb_cut`), and the loader's
end-of-data `nseq` check passing on intact written files (`tiles_count`, `readDbX_written`). -/
namespace EaselModel.Dsqdata

theorem freadItems_take (size n m : Nat) (hs : 0 < size) (bs : List UInt8) :
    ((freadItems size n (bs.take m)).2.1 = n →
        (freadItems size n bs).2.1 = n ∧ (freadItems size n (bs.take m)).1 = (freadItems size n bs).1 ∧
        (freadItems size n (bs.take m)).2.2 = (freadItems size n bs).2.2.take (m - n * size)) ∧
    (freadItems size n (bs.take m)).2.1 ≤ n := by
  simp only [freadItems, List.length_take]
  refine ⟨fun hk => ?_, Nat.min_le_left _ _⟩
  have h1 : n ≤ min m bs.length / size := by
    have := Nat.min_le_right n (min m bs.length / size); omega
  have h2 : n * size ≤ min m bs.length := (Nat.le_div_iff_mul_le hs).mp h1
  have h3 : n ≤ bs.length / size := (Nat.le_div_iff_mul_le hs).mpr (by omega)
  have hk2 : min n (bs.length / size) = n := by omega
  rw [hk, hk2]
  refine ⟨rfl, ?_, ?_⟩
  · rw [List.take_take]; congr 1; omega
  · simp only [Nat.lt_irrefl, if_false]
    rw [List.drop_take]

/-- `fread` loses no complete item: those read and those left are at most those there were -/
theorem freadItems_left (size n : Nat) (bs : List UInt8) :
    (freadItems size n bs).2.1 + (freadItems size n bs).2.2.length / size ≤ bs.length / size := by
  simp only [freadItems]
  split
  · simp only [List.length_nil, Nat.zero_div]; omega
  · rename_i hk
    have hk' : min n (bs.length / size) = n := by omega
    rw [hk', List.length_drop, Nat.mul_comm, Nat.sub_mul_div]
    omega

/-- the loader's state with the packet file (`pk`) or the metadata file cut after `m` bytes -/
def BState.cut (pk : Bool) (st : BState) (m : Nat) : BState :=
  match pk with
  | true => { st with sfp := st.sfp.take m }
  | false => { st with mfp := st.mfp.take m }

/-- the iteration got as far as its `fread`s of packets and metadata (no end of data, no fault before) -/
def LoadX.reads : LoadX → Prop
  | .eod _ | .fault => False
  | _ => True

/-- One iteration on the cut file against the same iteration on the uncut one: the same chunk, the next state cut again; the same end
    (end of data, a fault, the short read of the OTHER file); or the short read of the cut file, where the uncut iteration got as far as reading. -/
inductive CutStep (pk : Bool) : LoadX → LoadX → Prop
  | chunk (c : BChunk) (s1 : BState) (m' : Nat) : CutStep pk (.chunk c s1) (.chunk c (s1.cut pk m'))
  | eod (s1 s2 : BState) : CutStep pk (.eod s1) (.eod s2)
  | fault : CutStep pk .fault .fault
  | otherP (w g : Nat) (hp : pk = false) : CutStep pk (.fatalPackets w g) (.fatalPackets w g)
  | otherM (w g : Nat) (hp : pk = true) : CutStep pk (.fatalMeta w g) (.fatalMeta w g)
  | shortP (a : LoadX) (w g : Nat) (hp : pk = true) (h : g < w) (ha : a.reads) : CutStep pk a (.fatalPackets w g)
  | shortM (a : LoadX) (w g : Nat) (hp : pk = false) (h : g < w) (ha : a.reads) : CutStep pk a (.fatalMeta w g)

theorem loaderIterX_cut (maxseq : Nat) (maxpacket : Int) (pk : Bool) (st : BState) (m : Nat) :
    CutStep pk (loaderIterX maxseq maxpacket st) (loaderIterX maxseq maxpacket (st.cut pk m)) := by
  unfold loaderIterX
  cases pk <;> simp only [BState.cut] <;> generalize loaderIter maxseq maxpacket _ = r
  all_goals
    match r with
    | none => exact .fault
    | some (none, l') => exact .eod _ _
    | some (some c, l') => ?_
  · -- the metadata file is cut: it is read second
    simp only
    by_cases h1 : c.nmeta < 0
    · simp only [h1, if_true]; exact .fault
    · simp only [h1, if_false]
      by_cases h2 : (freadItems 4 c.pn.toNat st.sfp).2.1 = c.pn.toNat
      · simp only [h2, ne_eq, not_true_eq_false, if_false]
        obtain ⟨ht, hle⟩ := freadItems_take 1 c.nmeta.toNat m (by decide) st.mfp
        by_cases h3' : (freadItems 1 c.nmeta.toNat (st.mfp.take m)).2.1 = c.nmeta.toNat
        · obtain ⟨h3, hd, hr⟩ := ht h3'
          simp only [h3', h3, not_true_eq_false, if_false, hd, hr]
          exact .chunk _ _ (m - c.nmeta.toNat * 1)
        · simp only [h3', not_false_eq_true, if_true]
          exact .shortM _ _ _ rfl (by omega) (by split <;> trivial)
      · simp only [ne_eq, h2, not_false_eq_true, if_true]
        exact .otherP _ _ rfl
  · -- the packet file is cut: it is read first
    simp only
    by_cases h1 : c.nmeta < 0
    · simp only [h1, if_true]; exact .fault
    · simp only [h1, if_false]
      obtain ⟨ht, hle⟩ := freadItems_take 4 c.pn.toNat m (by decide) st.sfp
      by_cases h2' : (freadItems 4 c.pn.toNat (st.sfp.take m)).2.1 = c.pn.toNat
      · obtain ⟨h2, hd, hr⟩ := ht h2'
        simp only [h2', h2, ne_eq, not_true_eq_false, if_false, hd, hr]
        by_cases h3 : (freadItems 1 c.nmeta.toNat st.mfp).2.1 = c.nmeta.toNat
        · simp only [h3, not_true_eq_false, if_false]
          exact .chunk _ _ (m - c.pn.toNat * 4)
        · simp only [h3, not_false_eq_true, if_true]
          exact .otherM _ _ rfl
      · simp only [ne_eq, h2', not_false_eq_true, if_true]
        exact .shortP _ _ _ rfl (by omega) (by split <;> (try split) <;> trivial)

/-- **A data file cut after `m` bytes (behind whatever has been read already).** The loader's run on the cut file is the run on the
    uncut file, or a prefix of its chunks - the very same chunks - followed by the fatal short-read error on that file. -/
theorem cut_run (maxseq : Nat) (maxpacket : Int) (pk : Bool) : ∀ (fuel : Nat) (st : BState) (m : Nat),
    loaderRunX maxseq maxpacket fuel (st.cut pk m) = loaderRunX maxseq maxpacket fuel st ∨
    ∃ k w g, (loaderRunX maxseq maxpacket fuel (st.cut pk m)).1 = (loaderRunX maxseq maxpacket fuel st).1.take k ∧
      (loaderRunX maxseq maxpacket fuel (st.cut pk m)).2 = (match pk with | true => .fatalPackets w g | false => .fatalMeta w g) ∧ g < w
  | 0, _, _ => Or.inl rfl
  | fuel + 1, st, m => by
    have hrel := loaderIterX_cut maxseq maxpacket pk st m
    unfold loaderRunX
    generalize loaderIterX maxseq maxpacket st = a, loaderIterX maxseq maxpacket (st.cut pk m) = b at hrel
    cases hrel with
    | eod | fault | otherP | otherM => exact Or.inl rfl
    | chunk c s1 m' =>
      rcases cut_run maxseq maxpacket pk fuel s1 m' with he | ⟨k, w, g, h1, h2, h3⟩
      · exact Or.inl (by simp only [he])
      · exact Or.inr ⟨k + 1, w, g, by simp only [h1]; rfl, h2, h3⟩
    | shortP a w g hp h _ => subst hp; exact Or.inr ⟨0, w, g, rfl, rfl, h⟩
    | shortM a w g hp h _ => subst hp; exact Or.inr ⟨0, w, g, rfl, rfl, h⟩

theorem cut_sfp_run (maxseq : Nat) (maxpacket : Int) (fuel : Nat) (st : BState) (m : Nat) :
    loaderRunX maxseq maxpacket fuel { st with sfp := st.sfp.take m } = loaderRunX maxseq maxpacket fuel st ∨
    ∃ k w g, (loaderRunX maxseq maxpacket fuel { st with sfp := st.sfp.take m }).1 = (loaderRunX maxseq maxpacket fuel st).1.take k ∧
      (loaderRunX maxseq maxpacket fuel { st with sfp := st.sfp.take m }).2 = .fatalPackets w g ∧ g < w :=
  cut_run maxseq maxpacket true fuel st m

theorem cut_mfp_run (maxseq : Nat) (maxpacket : Int) (fuel : Nat) (st : BState) (m : Nat) :
    loaderRunX maxseq maxpacket fuel { st with mfp := st.mfp.take m } = loaderRunX maxseq maxpacket fuel st ∨
    ∃ k w g, (loaderRunX maxseq maxpacket fuel { st with mfp := st.mfp.take m }).1 = (loaderRunX maxseq maxpacket fuel st).1.take k ∧
      (loaderRunX maxseq maxpacket fuel { st with mfp := st.mfp.take m }).2 = .fatalMeta w g ∧ g < w :=
  cut_run maxseq maxpacket false fuel st m

theorem unpackAll_fst (pack5 : Bool) : ∀ (cs : List BChunk) (out : List (BChunk × List SeqRec)),
    unpackAll pack5 cs = some out → out.map (·.1) = cs
  | [], out, h => by simp [unpackAll] at h; subst h; rfl
  | c :: cs, out, h => by
    simp only [unpackAll] at h
    split at h
    · rename_i r rs h1 h2
      cases h
      simp [unpackAll_fst pack5 cs rs h2]
    · cases h

/-- an uncut read that succeeds is a loader run that ends with end of data, with exactly those chunks -/
theorem readDb_runX (maxseq : Nat) (maxpacket : Int) (o : Opened) (out : List (BChunk × List SeqRec))
    (h : readDb maxseq maxpacket o = some out) :
    loaderRunX maxseq maxpacket (o.ifp.length / 16 + 2) (BState.init o) = (out.map (·.1), .eof) := by
  unfold readDb at h
  rw [loaderRunX_B] at h
  by_cases he : (loaderRunX maxseq maxpacket (o.ifp.length / 16 + 2) (BState.init o)).2 = .eof
  · rw [if_pos he] at h
    simp only at h
    have := unpackAll_fst o.pack5 _ out h
    rw [this]
    exact Prod.ext rfl he
  · rw [if_neg he] at h
    cases h

/-- the loader on cut `.dsqs` / `.dsqm` bytes, against the chunks of the intact run that ended with end of data -/
theorem cut_of_run {maxseq : Nat} {maxpacket : Int} {fuel : Nat} {st : BState} {cs : List BChunk}
    (h : loaderRunX maxseq maxpacket fuel st = (cs, .eof)) (m : Nat) :
    (loaderRunX maxseq maxpacket fuel { st with sfp := st.sfp.take m } = (cs, .eof) ∨
      ∃ k w g, (loaderRunX maxseq maxpacket fuel { st with sfp := st.sfp.take m }).1 = cs.take k ∧
        (loaderRunX maxseq maxpacket fuel { st with sfp := st.sfp.take m }).2 = .fatalPackets w g ∧ g < w) ∧
    (loaderRunX maxseq maxpacket fuel { st with mfp := st.mfp.take m } = (cs, .eof) ∨
      ∃ k w g, (loaderRunX maxseq maxpacket fuel { st with mfp := st.mfp.take m }).1 = cs.take k ∧
        (loaderRunX maxseq maxpacket fuel { st with mfp := st.mfp.take m }).2 = .fatalMeta w g ∧ g < w) := by
  have a := cut_sfp_run maxseq maxpacket fuel st m
  have b := cut_mfp_run maxseq maxpacket fuel st m
  rw [h] at a b
  exact ⟨a, b⟩

/-- the read of the written header: its chunks tile the database, hold it, and are the loader's run to end of data -/
theorem written_read (tag alphatype : Nat) (db : List SeqRec) (maxseq : Nat) (maxpacket : Int)
    (hwf : ∀ r ∈ db, r.Wf) (hms : 1 ≤ maxseq)
    (hfit : ∀ r ∈ db, ((pk (alphatype == 3) r.dsq).length : Int) ≤ maxpacket)
    (h1 : (psOf (alphatype == 3) db).sum < 9223372036854775808) (h2 : (msOf db).sum < 9223372036854775808) :
    ∃ out, readDb maxseq maxpacket (writtenHeader tag alphatype (alphatype == 3) db) = some out ∧
      Tiles (alphatype == 3) db maxseq maxpacket 0 out ∧ out.flatMap (·.2) = db ∧
      loaderRunX maxseq maxpacket ((writtenHeader tag alphatype (alphatype == 3) db).ifp.length / 16 + 2)
        (BState.init (writtenHeader tag alphatype (alphatype == 3) db)) = (out.map (·.1), .eof) := by
  obtain ⟨out, hr, ht⟩ := readDb_written tag alphatype db maxseq maxpacket hwf hms hfit h1 h2
  exact ⟨out, hr, ht, by simpa using tiles_flatten_db _ db maxseq maxpacket out 0 ht, readDb_runX maxseq maxpacket _ out hr⟩

theorem take_hdr (a b : Nat) (rest : List UInt8) (m : Nat) :
    (le32 a ++ le32 b ++ rest).take (8 + m) = le32 a ++ le32 b ++ rest.take m := by
  have h8 : (le32 a ++ le32 b).length = 8 := by simp [le32]
  rw [← h8, List.take_length_add_append]

/-- **`esl_dsqdata_Open` on written files whose `.dsqs` (resp. `.dsqm`) was cut `m` bytes behind its 8-byte header**: accepted, with the
    same header values; only the unread part of that file is shorter -/
theorem openDb_cut (tag alphatype : Nat) (fname fmt : List UInt8) (db : List SeqRec)
    (hty : alphatype = 1 ∨ alphatype = 2 ∨ alphatype = 3) (hlen : ∀ r ∈ db, r.dsq.length < 6 * MAXPACKET)
    (expect : Option Nat) (hexp : expect = none ∨ expect = some alphatype) (m : Nat) :
    ∃ f, writeDb tag alphatype fname fmt db = .ok f ∧
      openDb expect { f with seq := f.seq.take (8 + m) } =
        .ok { writtenHeader tag alphatype (alphatype == 3) db with sfp := (writtenHeader tag alphatype (alphatype == 3) db).sfp.take m } ∧
      openDb expect { f with mdat := f.mdat.take (8 + m) } =
        .ok { writtenHeader tag alphatype (alphatype == 3) db with mfp := (writtenHeader tag alphatype (alphatype == 3) db).mfp.take m } :=
  ⟨_, writeDb_written tag alphatype fname fmt db hty hlen,
    by simp only [writtenWith, take_hdr]; exact openDb_writtenWith tag alphatype fname fmt db hty expect hexp _ _ _,
    by simp only [writtenWith, take_hdr]; exact openDb_writtenWith tag alphatype fname fmt db hty expect hexp _ _ _⟩

/-- the chunks that tile a database from record `pos` on hold `db.length - pos` sequences -/
theorem tiles_count (amino : Bool) (db : List SeqRec) (maxseq : Nat) (maxpacket : Int) :
    ∀ (out : List (BChunk × List SeqRec)) (pos : Nat), Tiles amino db maxseq maxpacket pos out → pos ≤ db.length →
      pos + (out.map (·.1.n)).sum = db.length
  | [], pos, h, hp => by simp only [Tiles] at h; simp; omega
  | (c, rs) :: rest, pos, h, _ => by
    obtain ⟨_, _, _, _, hle, _, _, _, _, ht⟩ := h
    have := tiles_count amino db maxseq maxpacket rest (pos + c.n) ht hle
    simp only [List.map_cons, List.sum_cons]
    omega

/-- **The loader's end-of-data check passes on what `esl_dsqdata_Write` wrote**: the number of sequences in the chunks of the written
    database is the `nseq` of its index header (fewer than `2^64` sequences), so `readDbX` - the loader with the check - ends with
    end of data, not with `fatalIndex`. -/
theorem readDbX_written (tag alphatype : Nat) (db : List SeqRec) (maxseq : Nat) (maxpacket : Int)
    (hwf : ∀ r ∈ db, r.Wf) (hms : 1 ≤ maxseq)
    (hfit : ∀ r ∈ db, ((pk (alphatype == 3) r.dsq).length : Int) ≤ maxpacket)
    (h1 : (psOf (alphatype == 3) db).sum < 9223372036854775808) (h2 : (msOf db).sum < 9223372036854775808)
    (hn : db.length < 18446744073709551616) :
    (readDbX maxseq maxpacket (writtenHeader tag alphatype (alphatype == 3) db)).2 = .eof := by
  obtain ⟨out, hr, ht⟩ := readDb_written tag alphatype db maxseq maxpacket hwf hms hfit h1 h2
  have hrun := readDb_runX maxseq maxpacket _ out hr
  have hc := tiles_count (alphatype == 3) db maxseq maxpacket out 0 ht (Nat.zero_le _)
  have hnseq : (writtenHeader tag alphatype (alphatype == 3) db).nseq = db.length := by
    simp only [writtenHeader]; exact Nat.mod_eq_of_lt hn
  have hsum : (List.map ((fun x => x.n) ∘ fun x => x.fst) out).sum = db.length := by
    have e : ((fun (x : BChunk) => x.n) ∘ fun (x : BChunk × List SeqRec) => x.fst) = fun x => x.fst.n := rfl
    rw [e]; omega
  simp only [readDbX, hrun, List.map_map]
  simp [hnseq, hsum]

end EaselModel.Dsqdata
