import EaselModel.Alphabet.RevcompLemmas
/-! # C08 — `esl_abc_CDealign` / `esl_abc_XDealign`: the in-place compaction loop keeps exactly the characters aligned to
non-gap, non-missing reference positions -/
namespace EaselModel.Alphabet
namespace Alphabet

/-- the reference position keeps its column -/
def keepRef (a : Alphabet) (r : Nat) : Bool := !a.xIsGap r && !a.xIsMissing r

/-- the characters of `xs` aligned to kept reference positions -/
def keptOf (a : Alphabet) : List Nat → List Nat → List Nat
  | r :: refs, x :: xs => if a.keepRef r then x :: keptOf a refs xs else keptOf a refs xs
  | _, _ => []

theorem keptOf_length_le (a : Alphabet) (refs xs : List Nat) : (keptOf a refs xs).length ≤ refs.length := by
  induction refs generalizing xs with
  | nil => simp [keptOf]
  | cons r rest ih =>
    cases xs with
    | nil => simp [keptOf]
    | cons x xs =>
      unfold keptOf
      split
      · simp; exact ih xs
      · have := ih xs; simp; omega

/-- the loop, in closed form: the array always is `untouched prefix ++ kept so far ++ untouched rest` -/
theorem dealignLoop_spec (a : Alphabet) (b : Nat) (s0 : List Nat) :
    ∀ (refs : List Nat) (j : Nat) (K : List Nat), K.length ≤ j → j + refs.length + b ≤ s0.length →
      dealignLoop a b refs (j + 1) (b + K.length) (s0.take b ++ K ++ s0.drop (b + K.length)) =
        some (s0.take b ++ (K ++ keptOf a refs (s0.drop (j + b))) ++
                s0.drop (b + (K ++ keptOf a refs (s0.drop (j + b))).length),
              b + (K ++ keptOf a refs (s0.drop (j + b))).length) := by
  intro refs
  induction refs with
  | nil => intro j K _ _; simp [dealignLoop, keptOf]
  | cons r rest ih =>
    intro j K hK hlen
    simp only [List.length_cons] at hlen
    have hjb : j + b < s0.length := by omega
    obtain ⟨c, tl, hdrop⟩ : ∃ c tl, s0.drop (j + b) = c :: tl := by
      cases h : s0.drop (j + b) with
      | nil => simp at h; omega
      | cons c tl => exact ⟨c, tl, rfl⟩
    obtain ⟨hc, htl⟩ := drop_eq_cons hdrop
    rw [show j + b + 1 = j + 1 + b by omega] at htl
    unfold dealignLoop
    by_cases hk : a.keepRef r = true
    · have hk' : (!a.xIsGap r && !a.xIsMissing r) = true := hk
      -- the read: index j + b lies in the untouched rest
      have hread : (s0.take b ++ K ++ s0.drop (b + K.length))[j + 1 - 1 + b]? = some c := by
        have hl : (s0.take b ++ K).length = b + K.length := by simp; omega
        rw [show j + 1 - 1 + b = (b + K.length) + (j - K.length) by omega,
          List.getElem?_append_right (by rw [hl]; omega), hl, List.getElem?_drop]
        rw [show b + K.length + (b + K.length + (j - K.length) - (b + K.length)) = j + b by omega]
        exact hc
      have hnlt : b + K.length < (s0.take b ++ K ++ s0.drop (b + K.length)).length := by simp; omega
      obtain ⟨d, tl2, hd⟩ : ∃ d tl2, s0.drop (b + K.length) = d :: tl2 := by
        cases h : s0.drop (b + K.length) with
        | nil => simp at h; omega
        | cons d tl2 => exact ⟨d, tl2, rfl⟩
      have htl2 : s0.drop (b + (K ++ [c]).length) = tl2 := by
        rw [List.length_append, List.length_singleton]; exact (drop_eq_cons hd).2
      have hset : (s0.take b ++ K ++ s0.drop (b + K.length)).set (b + K.length) c =
          s0.take b ++ (K ++ [c]) ++ s0.drop (b + (K ++ [c]).length) := by
        have hl : (s0.take b ++ K).length = b + K.length := by simp; omega
        rw [htl2, hd, List.set_append_right _ _ (by rw [hl]; omega), hl]
        simp
      simp only [hk', if_true, hread, Option.bind_eq_bind, Option.bind_some, hnlt, hset]
      have := ih (j + 1) (K ++ [c]) (by simp; omega) (by omega)
      have e : b + K.length + 1 = b + (K ++ [c]).length := by simp; omega
      rw [e, this, htl, hdrop]
      simp [keptOf, hk]
    · have hk' : (!a.xIsGap r && !a.xIsMissing r) = false := by simpa [keepRef] using hk
      simp only [hk', Bool.false_eq_true, if_false]
      have := ih (j + 1) K (by omega) (by omega)
      rw [this, htl, hdrop]
      simp [keptOf, hk]

end Alphabet
end EaselModel.Alphabet

namespace EaselModel.Alphabet
namespace Alphabet

theorem idxOf_append_self (l : List Nat) (v : Nat) (h : v ∉ l) : (l ++ [v]).idxOf v = l.length := by
  induction l with
  | nil => simp
  | cons x xs ih =>
    simp only [List.mem_cons, not_or] at h
    have hne : (x == v) = false := by simp; exact fun e => h.1 e.symm
    simp [List.idxOf_cons, hne, ih h.2]

theorem dsqlen_mkDsq (codes : List Nat) (h : SENTINEL ∉ codes) : dsqlen (mkDsq codes) = some codes.length := by
  unfold dsqlen mkDsq
  simp only [List.cons_append, List.drop_succ_cons, List.drop_zero]
  rw [idxOf_append_self codes SENTINEL h]
  simp

theorem keptOf_append (a : Alphabet) (refs xs ys : List Nat) (h : refs.length ≤ xs.length) :
    keptOf a refs (xs ++ ys) = keptOf a refs xs := by
  induction refs generalizing xs with
  | nil => simp [keptOf]
  | cons r rest ih =>
    cases xs with
    | nil => simp at h
    | cons x xs =>
      simp only [List.cons_append, keptOf]
      rw [ih xs (by simpa using h)]

theorem cDealign_spec (a : Alphabet) (s refs : List Nat) (hs : SENTINEL ∉ refs) (hl : refs.length ≤ s.length) :
    a.cDealign s (mkDsq refs) = some (keptOf a refs s, (keptOf a refs s).length) := by
  unfold cDealign
  rw [dsqlen_mkDsq refs hs]
  have hr : ((mkDsq refs).drop 1).take refs.length = refs := by simp [mkDsq]
  have := dealignLoop_spec a 0 s refs 0 [] (by simp) (by simpa using hl)
  simp only [List.take_zero, List.nil_append, List.length_nil, Nat.add_zero, List.drop_zero, Nat.zero_add] at this
  simp only [Option.bind_eq_bind, Option.bind_some, hr, this]
  have hle := keptOf_length_le a refs s
  simp

theorem xDealign_spec (a : Alphabet) (xs refs : List Nat) (hs : SENTINEL ∉ refs) (hl : refs.length ≤ xs.length) :
    a.xDealign (mkDsq xs) (mkDsq refs) = some (mkDsq (keptOf a refs xs), (keptOf a refs xs).length) := by
  unfold xDealign
  rw [dsqlen_mkDsq refs hs]
  have hr : ((mkDsq refs).drop 1).take refs.length = refs := by simp [mkDsq]
  have hx0 : (mkDsq xs).set 0 SENTINEL = mkDsq xs := by simp [mkDsq]
  have hne : ¬ (mkDsq xs).length = 0 := by simp [mkDsq]
  have := dealignLoop_spec a 1 (mkDsq xs) refs 0 [] (by simp) (by simp [mkDsq]; omega)
  have hk : keptOf a refs ((mkDsq xs).drop (0 + 1)) = keptOf a refs xs := by
    have : (mkDsq xs).drop (0 + 1) = xs ++ [SENTINEL] := by simp [mkDsq]
    rw [this, keptOf_append a refs xs [SENTINEL] hl]
  rw [hk] at this
  simp only [List.length_nil, Nat.add_zero, List.nil_append] at this
  have ht : (mkDsq xs).take 1 ++ [] ++ (mkDsq xs).drop 1 = mkDsq xs := by simp [mkDsq]
  rw [ht] at this
  have hle := keptOf_length_le a refs xs
  simp only [hne, if_false, Option.bind_eq_bind, Option.bind_some, hr, hx0, this]
  have hlt : 1 + (keptOf a refs xs).length < ((mkDsq xs).take 1 ++ keptOf a refs xs ++ (mkDsq xs).drop (1 + (keptOf a refs xs).length)).length := by
    simp [mkDsq]; omega
  rw [if_pos hlt]
  have e1 : (mkDsq xs).take 1 = [SENTINEL] := by simp [mkDsq]
  obtain ⟨d, tl, hd⟩ : ∃ d tl, (mkDsq xs).drop (1 + (keptOf a refs xs).length) = d :: tl := by
    cases h : (mkDsq xs).drop (1 + (keptOf a refs xs).length) with
    | nil => simp [mkDsq] at h; omega
    | cons d tl => exact ⟨d, tl, rfl⟩
  have hl1 : ([SENTINEL] ++ keptOf a refs xs).length = 1 + (keptOf a refs xs).length := by simp; omega
  rw [e1, hd, List.set_append_right _ _ (by rw [hl1]; omega), hl1, Nat.sub_self, List.set_cons_zero]
  have e2 : [SENTINEL] ++ keptOf a refs xs ++ SENTINEL :: tl = mkDsq (keptOf a refs xs) ++ tl := by simp [mkDsq]
  rw [e2, List.take_left' (by simp [mkDsq]; omega)]
  congr 2
  omega

end Alphabet
end EaselModel.Alphabet
