import EaselModel.Alphabet.Model
import EaselModel.Alphabet.GuessModel
import EaselModel.Alphabet.Sq2Model
import EaselModel.Alphabet.SqModel
/-! # C08 — round 4 additions to the executable model (core Lean only; the driver imports this file)

* the integer-score routines `esl_abc_IAvgScore`, `esl_abc_IExpectScore`, `esl_abc_IAvgScVec`, `esl_abc_IExpectScVec`
  line by line, with the final `(int)(result ± 0.5)` as an operation of the number class (binary32/binary64 in the driver,
  exact over ℚ in the theorems);
* text-mode `esl_sq_CountResidues` (the branch `sq->seq != NULL`, with the validity guard of fix 10c7a99);
* `esl_msa_GuessAlphabet` on a text-mode alignment: the per-row counting loop, the vote, the pooled second pass;
* `esl_abc_dsqcpy`, `esl_abc_dsqdup`. -/
namespace EaselModel.Alphabet

/-- what the integer-score routines need beyond `ScoreNum`: `(float) sc[i]`, and the closing
    `if (result < 0) return (int)(result - 0.5); else return (int)(result + 0.5);` (the subtraction/addition is done in
    `double`, the cast truncates toward zero) -/
class IntScore (α : Type) where
  ofInt : Int → α
  roundHalf : α → Int

namespace Alphabet
open ScoreNum IntScore

/-- `esl_abc_IAvgScore(a, x, sc)` -/
def iAvgScore (α : Type) [ScoreNum α] [IntScore α] (a : Alphabet) (x : Nat) (sc : List Int) : Option Int :=
  if !a.xIsResidue x then some 0
  else do
    let row ← a.degen[x]?
    let nd ← a.ndegen[x]?
    let r ← degenFold (α := α) row (fun i => (sc[i]?).map ofInt) a.K 0 zero
    some (roundHalf (div r (ScoreNum.ofNat nd)))

/-- `esl_abc_IExpectScore(a, x, sc, p)`: `result += (float) sc[i] * p[i]; denom += p[i]` -/
def iExpectScore {α : Type} [ScoreNum α] [IntScore α] (a : Alphabet) (x : Nat) (sc : List Int) (p : List α) : Option Int :=
  if !a.xIsResidue x then some 0
  else do
    let row ← a.degen[x]?
    let r ← degenFold row (fun i => do let s ← sc[i]?; let q ← p[i]?; some (mul (ofInt s) q)) a.K 0 zero
    let d ← degenFold row (fun i => p[i]?) a.K 0 zero
    some (roundHalf (div r d))

/-- `esl_abc_IAvgScVec(a, sc)`: `for (x = K+1; x <= Kp-3; x++) sc[x] = esl_abc_IAvgScore(a, x, sc)` -/
def iAvgScVec (α : Type) [ScoreNum α] [IntScore α] (a : Alphabet) (sc : List Int) : Option (List Int) :=
  scVecLoop (fun x sc => iAvgScore α a x sc) (a.Kp - 3 - a.K) (a.K + 1) sc

/-- `esl_abc_IExpectScVec(a, sc, p)` -/
def iExpectScVec {α : Type} [ScoreNum α] [IntScore α] (a : Alphabet) (sc : List Int) (p : List α) : Option (List Int) :=
  scVecLoop (fun x sc => iExpectScore a x sc p) (a.Kp - 3 - a.K) (a.K + 1) sc

/-- `esl_abc_CIsGap(a, c)` = `isascii(c) && a->inmap[c] == a->K` -/
def cIsGap (a : Alphabet) (c : Nat) : Bool := decide (c < 128) && decide (a.inmapAt c = a.K)

/-- bit mask of the macros `esl_abc_XIs{Valid,Residue,Canonical,Gap,Degenerate,Unknown,Nonresidue,Missing}(a, x)` (bits 0..7) -/
def xClass (a : Alphabet) (x : Nat) : Nat :=
  (if a.xIsValid x then 1 else 0) + (if a.xIsResidue x then 2 else 0) + (if a.xIsCanonical x then 4 else 0) +
  (if a.xIsGap x then 8 else 0) + (if a.xIsDegenerate x then 16 else 0) + (if a.xIsUnknown x then 32 else 0) +
  (if a.xIsNonresidue x then 64 else 0) + (if a.xIsMissing x then 128 else 0)

/-- the same for `esl_abc_CIs…(a, c)` = `isascii(c) && <the X macro on a->inmap[c]>`; a byte ≥ 0x80 is in no class -/
def cClass (a : Alphabet) (c : Nat) : Nat := if c < 128 then a.xClass (a.inmapAt c) else 0

/-- `esl_abc_dsqcpy(dsq, L, dcopy)`: `memcpy` of `L+2` codes; `none` = reads past the end of `dsq` -/
def dsqcpy (dsq : List Nat) (L : Nat) : Option (List Nat) :=
  if L + 2 ≤ dsq.length then some (dsq.take (L + 2)) else none

/-- `esl_abc_dsqdup(dsq, L, &dup)`: `dsq = none` is NULL (answer NULL), `L = none` is -1 (length found by `esl_abc_dsqlen`),
    then its own `memcpy` of `L+2` codes (the same copy as `esl_abc_dsqcpy`); outer `none` = a read outside `dsq` -/
def dsqdup (dsq : Option (List Nat)) (L : Option Nat) : Option (Option (List Nat)) :=
  match dsq with
  | none => some none
  | some d => do
    let n ← match L with
      | some l => some l
      | none => dsqlen d
    let c ← dsqcpy d n
    some (some c)

end Alphabet

namespace Sq
open Alphabet ScoreNum

/-- the text-mode loop of `esl_sq_CountResidues`:
    `if (esl_abc_CIsValid(abc, seq[i]) && !esl_abc_CIsGap(abc, seq[i])) esl_abc_FCount(abc, f, abc->inmap[seq[i]], 1.)` -/
def countResTextLoop {α : Type} [ScoreNum α] (a : Alphabet) (seq : List Nat) : Nat → Nat → List α → Option (List α)
  | 0, _, f => some f
  | k+1, i, f => do
    let c ← seq[i]?
    if a.cIsValid c && !a.cIsGap c then
      let f' ← a.count f (a.inmapAt c) (ScoreNum.ofNat 1)
      countResTextLoop a seq k (i+1) f'
    else countResTextLoop a seq k (i+1) f

/-- `esl_sq_CountResidues(sq, start, L, f)` on a text-mode sequence of length `n` (`seq` = the bytes without the NUL):
    outer `none` = eslERANGE (`start < 0 || start+L > n`), inner `none` = an out-of-bounds access -/
def countResiduesText {α : Type} [ScoreNum α] (a : Alphabet) (seq : List Nat) (start L : Int) (f : List α) :
    Option (Option (List α)) :=
  if start < 0 ∨ start + L > (seq.length : Int) then none
  else some (countResTextLoop a seq L.toNat start.toNat f)

/-! ## `esl_sq_Copy`: the sequence part of the four mode combinations -/

/-- what `esl_sq_Copy` leaves in `dst`: `n`, and the cells of `dst->seq` up to its NUL / of `dst->dsq` up to and including its
    closing sentinel (the cells the code has written; anything beyond is uninitialised) -/
structure Copied where
  n : Nat
  buf : List Nat
  deriving DecidableEq, Repr

/-- `esl_sq_Reuse(dst)` on the error path: `n = 0`, empty sequence -/
def reused (dstDigital : Bool) : Copied := { n := 0, buf := if dstDigital then [SENTINEL, SENTINEL] else [] }

/-- `esl_sq_Copy(src, dst)`, sequence part. `src` = `.inl text` (NUL-free bytes) or `.inr (dsq, n)` (whole digital array, length);
    `a` = alphabet of the digital side(s); `sameType` = `src->abc->type == dst->abc->type` (digital to digital only).
    `guard` = the `esl_abc_ValidateSeq` call before the text→digital `esl_abc_Digitize`.
    Result: status (`.error` = exception) and what is left in `dst`; inner `none` = out-of-bounds access. -/
def sqCopy (guard : Bool) (a : Alphabet) (src : Sum (List Nat) (List Nat × Nat)) (dstDigital sameType : Bool) :
    Option (Except Status (Status × Copied)) :=
  match src, dstDigital with
  | .inl txt, false => some (.ok (.ok, { n := txt.length, buf := txt }))                       -- strcpy
  | .inl txt, true =>
    if guard && validateSeq a txt != .ok then some (.ok (.einval, reused true))
    else
      let (st, d) := a.digitize txt
      if st ≠ .ok then some (.ok (st, reused true))
      else some (.ok (.ok, { n := txt.length, buf := d }))                                         -- dst->n = src->n
  | .inr (dsq, n), false =>
    match a.textize dsq n with
    | none => none
    | some t => some (.ok (.ok, { n := n, buf := t }))
  | .inr (dsq, n), true =>
    if !sameType then some (.error .eincompat)
    else match Alphabet.dsqcpy dsq n with
      | none => none
      | some c => some (.ok (.ok, { n := n, buf := c }))

/-- `esl_sq_Validate`'s length test on the copy: `strlen(seq) == n` / `esl_abc_dsqlen(dsq) == n` -/
def Copied.consistent (c : Copied) (digital : Bool) : Bool :=
  if digital then Alphabet.dsqlen c.buf == some c.n else c.buf.length == c.n

/-! ## `esl_sq_FetchFromMSA`: one aligned row (+ its secondary-structure line) → a dealigned sequence, text and digital mode -/

/-- `gapchars = "-_.~"` of `esl_sq_FetchFromMSA` / `esl_sq_GetFromMSA` (text mode only) -/
def gapchars : List Nat := Alphabet.str "-_.~"

/-- the loop of `esl_strdealign(s, aseq, gapchars, &n)`: `if (strchr(gapchars, aseq[apos]) == NULL) s[n++] = s[apos];`
    in place on `s`; `none` = an access outside `s` -/
def strdealignLoop : List Nat → Nat → Nat → List Nat → Option (List Nat × Nat)
  | [], _, n, s => some (s, n)
  | c :: cs, apos, n, s =>
    if c ∈ gapchars then strdealignLoop cs (apos + 1) n s
    else do
      let v ← s[apos]?
      if n < s.length then strdealignLoop cs (apos + 1) (n + 1) (s.set n v) else none

/-- `esl_strdealign(s, aseq, gapchars, &n)`: the string left in `s` (NUL written at `n`) and `n` -/
def strdealign (s aseq : List Nat) : Option (List Nat × Nat) := do
  let (s', n) ← strdealignLoop aseq 0 0 s
  if n ≤ s'.length then some (s'.take n, n) else none

/-- what `esl_sq_FetchFromMSA` returns: sequence (text bytes / whole digital array), its `ss`, `n` -/
structure Fetched where
  seq : List Nat
  ss : Option (List Nat)
  n : Nat
  deriving DecidableEq, Repr

/-- text-mode alignment: `esl_sq_CreateFrom(name, aseq, …, ss)`, then `ss` and the sequence dealigned against the sequence -/
def fetchText (row : List Nat) (ss : Option (List Nat)) : Option Fetched := do
  let ss' ← match ss with
    | none => some none
    | some v => (strdealign v row).map fun r => some r.1
  let (seq', n) ← strdealign row row
  some { seq := seq', ss := ss', n := n }

/-- digital alignment: `esl_sq_CreateDigitalFrom(abc, name, ax, alen, …, ss)`, then `esl_abc_CDealign(ss+1, dsq)` and
    `esl_abc_XDealign(dsq, dsq, &n)` -/
def fetchDigital (a : Alphabet) (ax : List Nat) (ss : Option (List Nat)) : Option Fetched := do
  let ss' ← match ss with
    | none => some none
    | some v => (a.cDealign v ax).map fun r => some r.1
  let (d, n) ← a.xDealign ax ax
  some { seq := d, ss := ss', n := n }

/-- `esl_sq_GetFromMSA(msa, 0, sq)` into an existing `sq` whose ss buffer currently holds `ssOld` (`none` = NULL): the
    sequence part is what `esl_sq_FetchFromMSA` computes (`strcpy` / `esl_abc_dsqcpy` into `sq`, then the same dealigning);
    an alignment without SS line leaves `sq->ss` as it was -/
def getText (row : List Nat) (ss ssOld : Option (List Nat)) : Option Fetched :=
  (fetchText row ss).map fun f => { f with ss := match ss with | some _ => f.ss | none => ssOld }
def getDigital (a : Alphabet) (ax : List Nat) (ss ssOld : Option (List Nat)) : Option Fetched :=
  (fetchDigital a ax ss).map fun f => { f with ss := match ss with | some _ => f.ss | none => ssOld }

/-- allocation state of the per-residue arrays of an `ESL_SQ`: `salloc`, and the number of cells of `sq->ss` (`none` = NULL) -/
structure SsAlloc where
  salloc : Nat
  ssCap : Option Nat
  deriving DecidableEq, Repr

/-- the allocation side of one `esl_sq_GetFromMSA` call with an alignment of `alen` columns (`extra` = 1 in text mode: cells
    `0..alen`; 2 in digital mode: cells `0..alen+1`): `esl_sq_GrowTo(sq, alen)` reallocates `seq`/`dsq` and a non-NULL `ss` to
    `alen+extra` cells when `salloc` is smaller; then, with an SS line, a NULL `ss` is allocated — `exact = true`: to
    `strlen(ss)+extra` cells (`esl_strdup` / `ESL_ALLOC(strlen(ss)+2)`), `exact = false`: to `salloc` cells — and otherwise
    `strcpy` writes `alen+extra` cells into the existing buffer: `none` = that copy runs past the buffer -/
def getAlloc (exact : Bool) (extra : Nat) (st : SsAlloc) (alen : Nat) (hasSs : Bool) : Option SsAlloc :=
  let st1 : SsAlloc := if alen + extra > st.salloc then { salloc := alen + extra, ssCap := st.ssCap.map fun _ => alen + extra } else st
  if !hasSs then some st1
  else match st1.ssCap with
    | none => some { st1 with ssCap := some (if exact then alen + extra else st1.salloc) }
    | some cap => if alen + extra ≤ cap then some st1 else none

/-- a history of calls on one reused object (`esl_sq_Reuse` in between does not touch the allocations) -/
def getAllocRun (exact : Bool) (extra : Nat) : SsAlloc → List (Nat × Bool) → Option SsAlloc
  | st, [] => some st
  | st, (alen, hasSs) :: rest =>
    match getAlloc exact extra st alen hasSs with
    | none => none
    | some st' => getAllocRun exact extra st' rest

/-- `esl_sq_Reuse(sq)` on the ss buffer: emptied, not freed -/
def reuseSs (ss : Option (List Nat)) : Option (List Nat) := ss.map fun _ => []

end Sq

namespace Guess

/-- the counter update `ct[x]++` -/
def bump (ct : List Int) (x : Nat) : List Int := ct.set x (ct.getD x 0 + 1)

/-- inner loop of the SECOND pass of `esl_msa_GuessAlphabet` over one row (guard `if (x < 0 || x > 25) continue;` since fix
    9b7e276; the counter store goes through a bounds check: `none` = a store outside the 26 counters).
    Returns the counters and the running letter count `n` (shared by all rows; `if (n > 10000) break;`). -/
def msaPoolRow : List Nat → List Int → Nat → Option (List Int × Nat)
  | [], ct, n => some (ct, n)
  | c :: cs, ct, n =>
    let x := letterIdx c
    if x < 0 ∨ x > 25 then msaPoolRow cs ct n
    else if x.toNat ≥ ct.length then none
    else
      let ct' := bump ct x.toNat
      if n + 1 > 10000 then some (ct', n + 1) else msaPoolRow cs ct' (n + 1)

/-- outer loop of the second pass: `if (n > 10000) break;` after each row -/
def msaPool : List (List Nat) → List Int → Nat → Option (List Int)
  | [], ct, _ => some ct
  | r :: rs, ct, n =>
    match msaPoolRow r ct n with
    | none => none
    | some (ct', n') => if n' > 10000 then some ct' else msaPool rs ct' n'

/-- the vote of the first pass over the per-sequence answers (1 = RNA, 2 = DNA, 3 = amino, 0 = unknown) -/
def msaVote (types : List Nat) : Nat :=
  let namino := (types.filter (· == 3)).length
  let ndna := (types.filter (· == 2)).length
  let nrna := (types.filter (· == 1)).length
  if namino > 0 ∧ ndna + nrna = 0 then 3
  else if ndna > 0 ∧ nrna + namino = 0 then 2
  else if nrna > 0 ∧ ndna + namino = 0 then 1
  else if ndna + nrna > 0 ∧ namino = 0 then 2
  else 0

/-- `esl_msa_GuessAlphabet(msa, &type)` on a text-mode alignment (`rows` = `msa->aseq[i][0..alen-1]`), with the classifier
    `g` of a composition (`esl_abc_GuessAlphabet`); the per-row counting loop of the first pass is the loop of
    `esl_sq_GuessAlphabet` (`x < 0 || x > 25`). `none` = a store outside the 26 counters in the second pass (unreachable:
    `msaPool_spec`, MsaGuessLemmas.lean; `Props.C08.msa_guess_spec`). -/
def msaGuess (g : List Int → Nat) (rows : List (List Nat)) : Option (Bool × Nat) :=
  let t := msaVote (rows.map fun r => g (sqCount r (List.replicate 26 0) 0))
  if t ≠ 0 then some (true, t)
  else (msaPool rows (List.replicate 26 0) 0).map fun ct => (decide (g ct ≠ 0), g ct)

end Guess
end EaselModel.Alphabet
