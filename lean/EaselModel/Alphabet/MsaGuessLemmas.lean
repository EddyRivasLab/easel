import EaselModel.Alphabet.Model3
import EaselModel.Alphabet.GuessLemmas
import Mathlib.Tactic.Conv
/-! # C08 — `esl_msa_GuessAlphabet`: the vote over the rows, else the pooled composition; the probe compositions of the table dumper -/
namespace EaselModel.Alphabet

namespace Guess

/-- the 3 × 26 probe compositions of the table dumper: 100 each of A, C, G and T (base 0) / U (base 1) / nothing (base 2), plus 8
    (12 for base 2) of letter `l` -/
def probe (i : Nat) : List Int :=
  let base := i / 26
  let l := i % 26
  let ct0 : List Int := if base < 2 then
      (((List.replicate 26 (0 : Int)).set 0 100).set 2 100 |>.set 6 100).set (if base = 0 then 19 else 20) 100
    else List.replicate 26 0
  ct0.set l (ct0.getD l 0 + (if base = 2 then 12 else 8))

/-- the 12 threshold probes of the dumper: total 10 / 11; all-N 2000 / 2001; 2 / 3 foreign letters (B) in 100 and in 101
    residues; T absent / present once; A, C, G, T, U together; A, C, G, U -/
def thresholdProbes : List (List Int) :=
  let mk := fun (a c g t u b n : Int) =>
    ((((((List.replicate 26 (0 : Int)).set 0 a).set 2 c).set 6 g).set 19 t).set 20 u |>.set 1 b).set 13 n
  [mk 3 3 2 2 0 0 0, mk 3 3 3 2 0 0 0, mk 0 0 0 0 0 0 2000, mk 0 0 0 0 0 0 2001, mk 25 25 24 24 0 2 0, mk 25 24 24 24 0 3 0,
   mk 25 25 25 24 0 2 0, mk 25 25 25 23 0 3 0, mk 16 16 16 0 0 0 0, mk 16 16 16 1 0 0 0, mk 10 10 10 10 10 0 0, mk 10 10 10 0 10 0 0]

theorem bump_length (ct : List Int) (x : Nat) : (bump ct x).length = ct.length := by simp [bump]

theorem sqCount_cons_out (c : Nat) (cs : List Nat) (ct : List Int) (n : Nat) (h : letterIdx c < 0 ∨ letterIdx c ≥ 26) :
    sqCount (c :: cs) ct n = sqCount cs ct n := by
  conv_lhs => unfold sqCount
  simp only [h, if_true]

theorem sqCount_cons_in (c : Nat) (cs : List Nat) (ct : List Int) (n : Nat) (h : ¬ (letterIdx c < 0 ∨ letterIdx c ≥ 26)) :
    sqCount (c :: cs) ct n =
      if n + 1 > 10000 then bump ct (letterIdx c).toNat else sqCount cs (bump ct (letterIdx c).toNat) (n + 1) := by
  conv_lhs => unfold sqCount
  simp only [h, if_false]
  rfl

theorem msaPoolRow_spec (r : List Nat) :
    ∀ (ct : List Int) (n : Nat), ct.length = 26 → n ≤ 10000 →
      ∃ ct' n', msaPoolRow r ct n = some (ct', n') ∧ ct'.length = 26 ∧
        ((n' > 10000 ∧ ∀ rest, sqCount (r ++ rest) ct n = ct') ∨
         (n' ≤ 10000 ∧ ∀ rest, sqCount (r ++ rest) ct n = sqCount rest ct' n')) := by
  induction r with
  | nil => intro ct n hl hn; exact ⟨ct, n, rfl, hl, Or.inr ⟨hn, fun rest => rfl⟩⟩
  | cons c cs ih =>
    intro ct n hl hn
    by_cases hout : letterIdx c < 0 ∨ letterIdx c > 25
    · obtain ⟨ct', n', g1, g2, g3⟩ := ih ct n hl hn
      have hout' : letterIdx c < 0 ∨ letterIdx c ≥ 26 := by omega
      refine ⟨ct', n', ?_, g2, ?_⟩
      · unfold msaPoolRow; simp only [hout, if_true]; exact g1
      · rcases g3 with ⟨a1, a2⟩ | ⟨a1, a2⟩
        · left; refine ⟨a1, fun rest => ?_⟩
          rw [List.cons_append, sqCount_cons_out _ _ _ _ hout']; exact a2 rest
        · right; refine ⟨a1, fun rest => ?_⟩
          rw [List.cons_append, sqCount_cons_out _ _ _ _ hout']; exact a2 rest
    · have hin' : ¬ (letterIdx c < 0 ∨ letterIdx c ≥ 26) := by omega
      have hlt : ¬ (letterIdx c).toNat ≥ ct.length := by omega
      by_cases hcut : n + 1 > 10000
      · refine ⟨bump ct (letterIdx c).toNat, n + 1, ?_, by rw [bump_length]; exact hl, Or.inl ⟨hcut, fun rest => ?_⟩⟩
        · unfold msaPoolRow; simp only [hout, if_false, hlt, hcut, if_true]
        · rw [List.cons_append, sqCount_cons_in _ _ _ _ hin', if_pos hcut]
      · obtain ⟨ct', n', g1, g2, g3⟩ := ih (bump ct (letterIdx c).toNat) (n + 1) (by rw [bump_length]; exact hl) (by omega)
        refine ⟨ct', n', ?_, g2, ?_⟩
        · unfold msaPoolRow; simp only [hout, if_false, hlt, hcut]; exact g1
        · rcases g3 with ⟨a1, a2⟩ | ⟨a1, a2⟩
          · left; refine ⟨a1, fun rest => ?_⟩
            rw [List.cons_append, sqCount_cons_in _ _ _ _ hin', if_neg hcut]; exact a2 rest
          · right; refine ⟨a1, fun rest => ?_⟩
            rw [List.cons_append, sqCount_cons_in _ _ _ _ hin', if_neg hcut]; exact a2 rest

theorem msaPool_spec (rows : List (List Nat)) :
    ∀ (ct : List Int) (n : Nat), ct.length = 26 → n ≤ 10000 → msaPool rows ct n = some (sqCount rows.flatten ct n) := by
  induction rows with
  | nil => intro ct n _ _; rfl
  | cons r rs ih =>
    intro ct n hl hn
    obtain ⟨ct', n', g1, g2, g3⟩ := msaPoolRow_spec r ct n hl hn
    unfold msaPool
    simp only [g1, List.flatten_cons]
    rcases g3 with ⟨a1, a2⟩ | ⟨a1, a2⟩
    · rw [if_pos a1, a2]
    · rw [if_neg (by omega), ih ct' n' g2 a1, a2]

theorem filter_pos_iff (types : List Nat) (v : Nat) : (types.filter (· == v)).length > 0 ↔ v ∈ types := by
  show 0 < (types.filter (· == v)).length ↔ v ∈ types
  rw [List.length_pos_iff_exists_mem]
  constructor
  · rintro ⟨x, hx⟩
    have := List.mem_filter.mp hx
    have e : x = v := by simpa using this.2
    exact e ▸ this.1
  · intro h; exact ⟨v, List.mem_filter.mpr ⟨h, by simp⟩⟩

end Guess

end EaselModel.Alphabet
