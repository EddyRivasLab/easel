import EaselModel.Alphabet.TypeModel
/-! # C08 — alphabet type codes: Encode/Decode round trip, unknown strings -/
namespace EaselModel.Alphabet.AbcType
open EaselModel.Alphabet EaselModel.Alphabet.Alphabet

theorem lowerB_upperB (x : Nat) : lowerB (upperB x) = lowerB x := by
  unfold upperB lowerB; repeat' split
  all_goals omega

theorem upperB_lowerB (x : Nat) : upperB (lowerB x) = upperB x := by
  unfold upperB lowerB; repeat' split
  all_goals omega

/-- `toupper` and `tolower` identify the same pairs of bytes: each factors through the other -/
theorem upper_eq_iff_lower_eq (a b : Nat) : upperB a = upperB b ↔ lowerB a = lowerB b :=
  ⟨fun h => by rw [← lowerB_upperB a, h, lowerB_upperB], fun h => by rw [← upperB_lowerB a, h, upperB_lowerB]⟩

/-- the `toupper` loop of `esl_memstrcmp_case` decides the same relation as `strcasecmp(...) == 0` -/
theorem memstrcmpCase_eq (p s : List Nat) : memstrcmpCase p s = strcaseEq p s := by
  unfold strcaseEq
  induction p generalizing s with
  | nil => cases s <;> simp [memstrcmpCase]
  | cons a p ih =>
    cases s with
    | nil => simp [memstrcmpCase]
    | cons b s =>
      unfold memstrcmpCase
      by_cases h : upperB a = upperB b
      · have h' := (upper_eq_iff_lower_eq a b).mp h
        rw [if_neg (by simp [h]), ih s]
        simp [h']
      · have h' : ¬ lowerB a = lowerB b := fun e => h ((upper_eq_iff_lower_eq a b).mpr e)
        rw [if_pos h]
        simp [h']

theorem strcaseEq_trans (a b c : List Nat) (h1 : strcaseEq a b = true) (h2 : strcaseEq b c = true) : strcaseEq a c = true := by
  unfold strcaseEq at *
  simp only [beq_iff_eq] at *
  rw [h1, h2]

theorem decode_none (t : Int) (h : t < 0 ∨ t > 6) : decodeType t = none := by
  unfold decodeType
  iterate 7 rw [if_neg (by omega)]

theorem decode_isSome (t : Int) (h0 : 0 ≤ t) (h6 : t ≤ 6) : (decodeType t).isSome = true := by
  obtain rfl | rfl | rfl | rfl | rfl | rfl | rfl : t = 0 ∨ t = 1 ∨ t = 2 ∨ t = 3 ∨ t = 4 ∨ t = 5 ∨ t = 6 := by omega
  all_goals rfl

theorem names_nonzero : ∀ p ∈ names, p.2 ≠ eslUNKNOWN ∧ (decodeType p.2).map (strcaseEq p.1) = some true := by decide

theorem validateType_iff (t : Int) : validateType t = true ↔ 1 ≤ t ∧ t ≤ 6 := by
  unfold validateType eslNONSTANDARD
  simp only [Bool.not_eq_true', Bool.or_eq_false_iff, decide_eq_false_iff_not]
  omega

end EaselModel.Alphabet.AbcType
