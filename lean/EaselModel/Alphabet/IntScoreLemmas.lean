import EaselModel.Alphabet.Model3
import EaselModel.Alphabet.ScVecLemmas
import Mathlib.Data.Rat.Floor
/-! # C08 — the integer-score routines over ℚ: `esl_abc_IAvgScore` = the exact mean rounded half away from zero,
`esl_abc_IExpectScore` = the weighted mean rounded likewise; the `I*ScVec` wrappers fill exactly the degenerate slots -/
set_option linter.dupNamespace false
namespace EaselModel.Alphabet
namespace Alphabet

/-- `(int) y` for a real `y`: truncation toward zero -/
def truncQ (y : ℚ) : Int := if y < 0 then -⌊-y⌋ else ⌊y⌋

/-- `if (result < 0) return (int)(result - 0.5); else return (int)(result + 0.5);` over ℚ -/
def roundHalfQ (r : ℚ) : Int := if r < 0 then truncQ (r - 1/2) else truncQ (r + 1/2)

instance : IntScore ℚ where
  ofInt := fun i => (i : ℚ)
  roundHalf := roundHalfQ

@[simp] theorem is_ofInt (i : Int) : (IntScore.ofInt i : ℚ) = (i : ℚ) := rfl
@[simp] theorem is_roundHalf (r : ℚ) : IntScore.roundHalf r = roundHalfQ r := rfl

/-- **round half away from zero**: `n` is the integer nearest to `m`, and a tie `m = k + 1/2` goes to the neighbour of larger
    magnitude — written without absolute values: a non-negative `m` lies in `[n - 1/2, n + 1/2)`, a negative one in
    `(n - 1/2, n + 1/2]` -/
def RoundHalfAway (m : ℚ) (n : Int) : Prop :=
  (0 ≤ m → (n : ℚ) - 1/2 ≤ m ∧ m < (n : ℚ) + 1/2) ∧ (m < 0 → (n : ℚ) - 1/2 < m ∧ m ≤ (n : ℚ) + 1/2)

/-- the relation is the graph of the routine: the closing `(int)(result ± 0.5)` is a floor on either side of zero -/
theorem roundHalfAway_iff (m : ℚ) (n : Int) : RoundHalfAway m n ↔ roundHalfQ m = n := by
  unfold RoundHalfAway roundHalfQ truncQ
  by_cases h0 : 0 ≤ m
  · rw [if_neg (by linarith), if_neg (by linarith), Int.floor_eq_iff]
    constructor
    · intro h; obtain ⟨a1, a2⟩ := h.1 h0; constructor <;> linarith
    · intro h; exact ⟨fun _ => ⟨by linarith, by linarith⟩, fun hh => absurd hh (by linarith)⟩
  · have h0' : m < 0 := by linarith
    rw [if_pos h0', if_pos (by linarith), neg_eq_iff_eq_neg, Int.floor_eq_iff]
    push_cast
    constructor
    · intro h; obtain ⟨a1, a2⟩ := h.2 h0'; constructor <;> linarith
    · intro h; exact ⟨fun hh => absurd hh h0, fun _ => ⟨by linarith, by linarith⟩⟩

theorem roundHalfQ_spec (m : ℚ) : RoundHalfAway m (roundHalfQ m) := (roundHalfAway_iff m _).mpr rfl

theorem roundHalfAway_unique (m : ℚ) (n n' : Int) (h : RoundHalfAway m n) (h' : RoundHalfAway m n') : n = n' :=
  ((roundHalfAway_iff m n).mp h).symm.trans ((roundHalfAway_iff m n').mp h')

theorem roundHalfQ_eq (m : ℚ) (n : Int) (h : RoundHalfAway m n) : roundHalfQ m = n := (roundHalfAway_iff m n).mp h

theorem roundHalfAway_abs (m : ℚ) (n : Int) (h : RoundHalfAway m n) :
    |(n : ℚ) - m| ≤ 1/2 ∧ (|(n : ℚ) - m| = 1/2 → |m| < |(n : ℚ)|) := by
  unfold RoundHalfAway at h
  by_cases h0 : 0 ≤ m
  · obtain ⟨a1, a2⟩ := h.1 h0
    refine ⟨abs_le.mpr ⟨by linarith, by linarith⟩, fun ht => ?_⟩
    have hn : (n : ℚ) - m = 1/2 := by
      rcases abs_eq (by norm_num : (0 : ℚ) ≤ 1/2) |>.mp ht with e | e
      · exact e
      · linarith
    rw [abs_of_nonneg h0, abs_of_nonneg (by linarith)]
    linarith
  · have h0' : m < 0 := by linarith
    obtain ⟨a1, a2⟩ := h.2 h0'
    refine ⟨abs_le.mpr ⟨by linarith, by linarith⟩, fun ht => ?_⟩
    have hn : (n : ℚ) - m = -(1/2) := by
      rcases abs_eq (by norm_num : (0 : ℚ) ≤ 1/2) |>.mp ht with e | e
      · linarith
      · exact e
    rw [abs_of_neg h0', abs_of_neg (by linarith)]
    linarith

theorem roundHalfQ_int (k : Int) : roundHalfQ (k : ℚ) = k :=
  (roundHalfAway_iff _ _).mp ⟨fun _ => ⟨by linarith, by linarith⟩, fun _ => ⟨by linarith, by linarith⟩⟩

theorem roundHalfQ_neg (m : ℚ) : roundHalfQ (-m) = - roundHalfQ m := by
  by_cases hz : m = 0
  · subst hz
    have e : roundHalfQ 0 = 0 := by simpa using roundHalfQ_int 0
    simp [e]
  apply (roundHalfAway_iff (-m) _).mp
  have h := roundHalfQ_spec m
  unfold RoundHalfAway at h ⊢
  push_cast
  by_cases h0 : 0 ≤ m
  · obtain ⟨a1, a2⟩ := h.1 h0
    have hp : 0 < m := lt_of_le_of_ne h0 (Ne.symm hz)
    exact ⟨fun hh => absurd hh (by linarith), fun _ => ⟨by linarith, by linarith⟩⟩
  · have h0' : m < 0 := by linarith
    obtain ⟨a1, a2⟩ := h.2 h0'
    exact ⟨fun _ => ⟨by linarith, by linarith⟩, fun hh => absurd hh (by linarith)⟩

theorem getD_map_cast (sc : List Int) (i : Nat) : (sc.map fun v : Int => (v : ℚ)).getD i 0 = ((sc.getD i 0 : Int) : ℚ) := by
  rw [List.getD_eq_getElem?_getD, List.getD_eq_getElem?_getD, List.getElem?_map]
  cases sc[i]? <;> simp

theorem iAvgScore_eq (a : Alphabet) (x : Nat) (sc : List Int) :
    iAvgScore ℚ a x sc = if !a.xIsResidue x then some 0
      else (a.avgScore x (sc.map fun v : Int => (v : ℚ))).map roundHalfQ := by
  unfold iAvgScore avgScore
  by_cases hr : a.xIsResidue x = true
  · simp only [hr, Bool.not_true, Bool.false_eq_true, if_false]
    have hf : (fun (i : Nat) => (sc[i]?).map (IntScore.ofInt : Int → ℚ)) = fun (i : Nat) => (sc.map fun v : Int => (v : ℚ))[i]? := by
      funext i; rw [List.getElem?_map]; rfl
    rw [hf]
    cases a.degen[x]? <;> cases a.ndegen[x]? <;> simp [Option.bind, Option.map]
    rename_i row nd
    generalize degenFold row _ a.K 0 (0 : ℚ) = d; cases d <;> rfl
  · have hr' : a.xIsResidue x = false := by simpa using hr
    simp [hr']

theorem iAvgScore_round (a : Alphabet) (h : a.WFDegen) (x : Nat) (hx : x < a.Kp) (hres : a.xIsResidue x = true)
    (sc : List Int) (hsc : a.K ≤ sc.length) :
    iAvgScore ℚ a x sc =
      some (roundHalfQ (((a.degenSet x).map fun i => ((sc.getD i 0 : Int) : ℚ)).sum / ((a.degenSet x).length : ℚ))) := by
  rw [iAvgScore_eq]
  simp only [hres, Bool.not_true, Bool.false_eq_true, if_false]
  rw [avgScore_mean a h x hx hres _ (by simpa using hsc)]
  simp only [Option.map_some, getD_map_cast]

theorem iAvgScore_nonresidue (a : Alphabet) (x : Nat) (hres : a.xIsResidue x = false) (sc : List Int) :
    iAvgScore ℚ a x sc = some 0 := by
  unfold iAvgScore; simp [hres]

theorem iExpectScore_eq (a : Alphabet) (x : Nat) (sc : List Int) (p : List ℚ) :
    iExpectScore a x sc p = if !a.xIsResidue x then some 0
      else (a.expectScore x (sc.map fun v : Int => (v : ℚ)) p).map roundHalfQ := by
  unfold iExpectScore expectScore
  by_cases hr : a.xIsResidue x = true
  · simp only [hr, Bool.not_true, Bool.false_eq_true, if_false]
    have hf : (fun (i : Nat) => (do let s ← sc[i]?; let q ← p[i]?; some (ScoreNum.mul (IntScore.ofInt s : ℚ) q) : Option ℚ)) =
        fun (i : Nat) => (do let s ← (sc.map fun v : Int => (v : ℚ))[i]?; let q ← p[i]?; some (ScoreNum.mul s q) : Option ℚ) := by
      funext i; rw [List.getElem?_map]; cases sc[i]? <;> rfl
    rw [hf]
    cases a.degen[x]? <;> simp [Option.bind, Option.map]
    rename_i row
    generalize degenFold row (fun (i : Nat) => p[i]?) a.K 0 (0 : ℚ) = e
    generalize degenFold row _ a.K 0 (0 : ℚ) = d
    cases d <;> cases e <;> rfl
  · have hr' : a.xIsResidue x = false := by simpa using hr
    simp [hr']

theorem iExpectScore_round (a : Alphabet) (h : a.WFDegen) (x : Nat) (hx : x < a.Kp) (hres : a.xIsResidue x = true)
    (sc : List Int) (p : List ℚ) (hsc : a.K ≤ sc.length) (hp : a.K ≤ p.length) :
    iExpectScore a x sc p =
      some (roundHalfQ (((a.degenSet x).map fun i => ((sc.getD i 0 : Int) : ℚ) * p.getD i 0).sum /
        ((a.degenSet x).map fun i => p.getD i 0).sum)) := by
  rw [iExpectScore_eq]
  simp only [hres, Bool.not_true, Bool.false_eq_true, if_false]
  rw [expectScore_weighted a h x hx hres _ p (by simpa using hsc) hp]
  simp only [Option.map_some, getD_map_cast]

end Alphabet
end EaselModel.Alphabet
