import EaselModel.Alphabet.ObjModel
/-! # C08 — `esl_sq_Copy` into an EXISTING (reused) destination and `esl_sq_Reuse`, on objects with markup.
`fixed = true`: a source without `ss` frees the destination's `ss`, the destination's old `xr[]` is always released first (the
repaired code); `fixed = false`: the destination keeps the `ss` / `xr` of the sequence it held before when the
source has none (stale markup; the code before the repair). Which form the tree has is regenerated on every run (`sqCopyReusedProbe`). Core Lean only. -/
namespace EaselModel.Alphabet.Sq
open EaselModel.Alphabet
namespace SqObj

/-- `esl_sq_Reuse(sq)`: empty sequence, the `ss` buffer is kept (empty string), all `xr` released, coordinates reset -/
def reuse (o : SqObj) : SqObj := { o with res := [], ss := o.ss.map fun _ => [], xr := [], start := 0, stop := 0 }

/-- `esl_sq_Copy(src = o, dst)` for two objects of the same alphabet; `none` = a `strcpy` outside a markup allocation -/
def copyInto (fixed : Bool) (a : Alphabet) (o dst : SqObj) : Option (Status × SqObj) :=
  let n := o.n
  let salloc := sqGrowTo dst.digital dst.salloc n
  let ss := if fixed then o.ss else (if o.ss.isSome then o.ss else dst.ss)
  let xr := if fixed then o.xr else (if o.xr.isEmpty then dst.xr else o.xr)
  let need := if dst.digital then n + 2 else n + 1
  if (ss.isSome || !xr.isEmpty) && decide (salloc < need) then none
  else
    let d : SqObj := { digital := dst.digital, res := o.res, salloc := salloc, mcap := salloc, ss := ss, xr := xr,
                       start := o.start, stop := o.stop }
    let failed : SqObj := { digital := dst.digital, res := [], salloc := salloc, mcap := salloc, ss := ss.map fun _ => [], xr := [],
                            start := 0, stop := 0 }
    match o.digital, dst.digital with
    | false, false => some (.ok, d)
    | false, true =>
      if validateSeq a o.res ≠ .ok then some (.einval, failed)
      else
        let r := a.digitize o.res
        if r.1 ≠ .ok then some (r.1, failed) else some (.ok, { d with res := body r.2 })
    | true, false =>
      match a.textize (Alphabet.mkDsq o.res) n with
      | none => none
      | some t => some (.ok, { d with res := t })
    | true, true => some (.ok, d)

/-- a fresh `esl_sq_Create()` / `esl_sq_CreateDigital()` -/
def fresh (digital : Bool) : SqObj :=
  { digital := digital, res := [], salloc := eslSQ_SEQCHUNK, mcap := eslSQ_SEQCHUNK, ss := none, xr := [], start := 0, stop := 0 }

/-- script tokens with a second, persistent object `P` (the reused destination): `p:text` / `p:digital` = `esl_sq_Copy(sq, P)`
    (`P` is created fresh in that mode the first time), `R` = `esl_sq_Reuse(P)`; everything else as `SqObj.step` -/
def step2 (fixed : Bool) (a : Alphabet) (o : SqObj) (P : Option SqObj) (tok : String) : Option (String × SqObj × Option SqObj) :=
  if tok == "p:text" || tok == "p:digital" then
    let dst := P.getD (fresh (tok == "p:digital"))
    (copyInto fixed a o dst).map fun r => (s!"p={r.1.name}", o, some r.2)
  else if tok == "R" then some ("R=ok", o, P.map reuse)
  else (step a o tok).map fun r => (r.1, r.2, P)

def script2 (fixed : Bool) (a : Alphabet) : SqObj → Option SqObj → List String → List String → Option (List String × SqObj × Option SqObj)
  | o, P, [], acc => some (acc.reverse, o, P)
  | o, P, tok :: rest, acc =>
    match step2 fixed a o P tok with
    | none => none
    | some (w, o', P') => script2 fixed a o' P' rest (w :: acc)

end SqObj
end EaselModel.Alphabet.Sq
