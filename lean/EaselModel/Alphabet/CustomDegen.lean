import EaselModel.Alphabet.CustomLemmas
import EaselModel.Core.ListWhile
/-! # C08 — degeneracy tables of custom alphabets: what `esl_alphabet_CreateCustom` sets up is well-formed (`WFDegen`), and
`SetEquiv` / `SetCaseInsensitive` / `SetIgnored` do not touch it -/
namespace EaselModel.Alphabet
namespace Alphabet

theorem filter_range_eq (K x : Nat) (hx : x < K) : (List.range K).filter (fun y => decide (x = y)) = [x] := by
  induction K with
  | zero => omega
  | succ K ih =>
    rw [List.range_succ, List.filter_append]
    by_cases h : x < K
    · rw [ih h]
      have : ¬ x = K := by omega
      simp [this]
    · have hxK : x = K := by omega
      subst hxK
      have : (List.range x).filter (fun y => decide (x = y)) = [] := by
        rw [List.filter_eq_nil_iff]
        intro y hy
        have := List.mem_range.mp hy
        simp; omega
      rw [this]; simp

theorem createCustom_wfdegen (syms : List Nat) (K : Nat) (a : Alphabet) (hK : 1 ≤ K) (hKp : K + 4 ≤ syms.length)
    (h : createCustom syms K syms.length = some a) :
    a.WFDegen ∧ (∀ x, x < K → a.degenSet x = [x]) ∧ a.degenSet (syms.length - 3) = List.range K := by
  have hne : ¬ syms.length * K = 0 := by
    intro h; rcases Nat.mul_eq_zero.mp h with h | h <;> omega
  unfold createCustom at h
  rw [if_neg (by simp), if_neg (by omega), if_neg hne] at h
  cases h
  let rowF : Nat → List Nat := fun x => (List.range K).map fun y => if (x < K ∧ x = y) ∨ x = syms.length - 3 then 1 else 0
  let ndF : Nat → Nat := fun x => if x < K then 1 else if x = syms.length - 3 then K else 0
  have hset : ∀ x, x < syms.length →
      degenSet { type := eslNONSTANDARD, K := K, Kp := syms.length, sym := syms,
                 inmap := initInmap syms 0 (List.replicate 128 ILLEGAL),
                 degen := (List.range syms.length).map rowF, ndegen := (List.range syms.length).map ndF,
                 complement := none } x =
        (List.range K).filter (fun y => decide ((x < K ∧ x = y) ∨ x = syms.length - 3)) := by
    intro x hx
    show (List.range K).filter (fun y => decide ((((List.range syms.length).map rowF).getD x []).getD y 0 ≠ 0)) = _
    rw [getD_map_range rowF _ x [] hx]
    apply List.filter_congr
    intro y hy
    have hy' := List.mem_range.mp hy
    show decide (((List.range K).map (fun y => if (x < K ∧ x = y) ∨ x = syms.length - 3 then 1 else 0)).getD y 0 ≠ 0) = _
    rw [getD_map_range _ _ y 0 hy']
    by_cases hc : (x < K ∧ x = y) ∨ x = syms.length - 3 <;> simp [hc]
  have hcount : ∀ x, x < syms.length →
      ((List.range K).filter (fun y => decide ((x < K ∧ x = y) ∨ x = syms.length - 3))).length = ndF x := by
    intro x hx
    show _ = if x < K then 1 else if x = syms.length - 3 then K else 0
    by_cases h1 : x < K
    · have : ¬ x = syms.length - 3 := by omega
      have e : (fun y => decide ((x < K ∧ x = y) ∨ x = syms.length - 3)) = fun y => decide (x = y) := by
        funext y; simp [h1, this]
      rw [e, filter_range_eq K x h1, if_pos h1]; rfl
    · by_cases h2 : x = syms.length - 3
      · rw [filter_range_all K _ (fun y _ => by simp [h2]), if_neg h1, if_pos h2]; simp
      · rw [filter_range_none K _ (fun y _ => by simp [h1, h2]), if_neg h1, if_neg h2]; rfl
  refine ⟨⟨by simp, by simp, fun x hx => ⟨?_, ?_⟩⟩, fun x hx => ?_, ?_⟩
  · show (((List.range syms.length).map rowF).getD x []).length = K
    rw [getD_map_range rowF _ x [] hx]; simp [rowF]
  · show ((List.range syms.length).map ndF).getD x 0 = _
    rw [getD_map_range ndF _ x 0 hx, hset x hx, hcount x hx]
  · rw [hset x (by omega)]
    have : ¬ x = syms.length - 3 := by omega
    have e : (fun y => decide ((x < K ∧ x = y) ∨ x = syms.length - 3)) = fun y => decide (x = y) := by
      funext y; simp [hx, this]
    rw [e, filter_range_eq K x hx]
  · rw [hset _ (by omega)]
    exact filter_range_all K _ (fun y _ => by simp)

/-- `WFDegen` does not read the input map, and the input-map operations change nothing else -/
theorem setEquiv_wfdegen (a : Alphabet) (h : a.WFDegen) (sym c : Nat) : (a.setEquiv sym c).2.WFDegen := by
  obtain ⟨m, e⟩ := setEquiv_frame a sym c
  rw [e]; exact h

theorem setIgnored_wfdegen (a : Alphabet) (h : a.WFDegen) (chars : List Nat) : (a.setIgnored chars).WFDegen := h

theorem setCaseInsensitive_wfdegen (a : Alphabet) (h : a.WFDegen) : a.setCaseInsensitive.2.WFDegen := by
  obtain ⟨m, e⟩ := caseLoop_frame ((List.range 26).map (· + 97)) a
  unfold setCaseInsensitive
  rw [e]; exact h

end Alphabet
end EaselModel.Alphabet
