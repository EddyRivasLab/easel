import EaselModel.Alphabet.Model3
import EaselModel.Alphabet.ScoreLemmas
import EaselModel.Alphabet.RevcompLemmas
/-! # C08 — `esl_sq_XAddResidue` / `CAddResidue` build exactly the sequence and never store outside the allocation;
`esl_sq_CountResidues` adds, per position of the range, one count split equally over the residue's set -/
namespace EaselModel.Alphabet.Sq
open EaselModel.Alphabet EaselModel.Alphabet.Alphabet

theorem growLoop_one (f : Nat) (nsafe new : Int) (h : nsafe + new ≥ 1) : growLoop (f+1) nsafe new = (nsafe + new, new * 2) := by
  unfold growLoop; simp only []; rw [if_neg (by omega)]

theorem sqGrow_room (digital : Bool) (salloc n : Nat) (h1 : 1 ≤ salloc)
    (hn : if digital then n + 1 ≤ salloc else n ≤ salloc) :
    (if digital then n + 2 ≤ sqGrow digital salloc n else n + 1 ≤ sqGrow digital salloc n) ∧ 1 ≤ sqGrow digital salloc n := by
  unfold sqGrow
  cases digital
  · simp only [Bool.false_eq_true, if_false] at hn ⊢
    by_cases c : (salloc : Int) - n < 1
    · rw [if_pos c, growLoop_one 63 _ _ (by omega)]; simp only []; omega
    · rw [if_neg c]; omega
  · simp only [if_true] at hn ⊢
    by_cases c : (salloc : Int) - 1 - n < 1
    · rw [if_pos c, growLoop_one 63 _ _ (by omega)]; simp only []; omega
    · rw [if_neg c]; omega

theorem xAdd_go (codes : List Nat) (hs : SENTINEL ∉ codes) :
    ∀ (s : Grow) (done : List Nat), s.buf.take (s.n + 1) = SENTINEL :: done → s.n = done.length → s.n + 1 ≤ s.salloc →
      ∃ g, addAll xAddResidue s codes = some g ∧ g.buf.take (g.n + 1) = SENTINEL :: (done ++ codes) ∧
        g.n = (done ++ codes).length ∧ g.n + 1 ≤ g.salloc := by
  induction codes with
  | nil => intro s done h1 h2 h3; exact ⟨s, rfl, by simpa using h1, by simpa using h2, h3⟩
  | cons x xs ih =>
    intro s done h1 h2 h3
    have hx : x ≠ SENTINEL := fun e => hs (by simp [e])
    obtain ⟨r1, r2⟩ := sqGrow_room true s.salloc s.n (by omega) (by simpa using h3)
    simp only [if_true] at r1
    have hstep : xAddResidue s x = some { buf := s.buf.take (s.n + 1) ++ [x], n := s.n + 1, salloc := sqGrow true s.salloc s.n } := by
      unfold xAddResidue; simp only []; rw [if_pos (by omega), if_neg hx]
    obtain ⟨g, g1, g2, g3, g4⟩ := ih (fun hm => hs (by simp [hm]))
      { buf := s.buf.take (s.n + 1) ++ [x], n := s.n + 1, salloc := sqGrow true s.salloc s.n } (done ++ [x])
      (by
        simp only []
        rw [h1, List.take_of_length_le (by simp; omega)]; simp)
      (by simp [h2]) (by simp only []; omega)
    refine ⟨g, ?_, by simpa using g2, by simpa using g3, g4⟩
    simp only [addAll, hstep]; exact g1

theorem cAdd_go (bytes : List Nat) (hs : 0 ∉ bytes) :
    ∀ (s : Grow) (done : List Nat), s.buf.take s.n = done → s.n = done.length → s.n ≤ s.salloc → 1 ≤ s.salloc →
      ∃ g, addAll cAddResidue s bytes = some g ∧ g.buf.take g.n = done ++ bytes ∧
        g.n = (done ++ bytes).length ∧ g.n ≤ g.salloc ∧ 1 ≤ g.salloc := by
  induction bytes with
  | nil => intro s done h1 h2 h3 h4; exact ⟨s, rfl, by simpa using h1, by simpa using h2, h3, h4⟩
  | cons x xs ih =>
    intro s done h1 h2 h3 h4
    have hx : x ≠ 0 := fun e => hs (by simp [e])
    obtain ⟨r1, r2⟩ := sqGrow_room false s.salloc s.n h4 (by simpa using h3)
    simp only [Bool.false_eq_true, if_false] at r1
    have hstep : cAddResidue s x = some { buf := s.buf.take s.n ++ [x], n := s.n + 1, salloc := sqGrow false s.salloc s.n } := by
      unfold cAddResidue; simp only []; rw [if_pos (by omega), if_neg hx]
    obtain ⟨g, g1, g2, g3, g4, g5⟩ := ih (fun hm => hs (by simp [hm]))
      { buf := s.buf.take s.n ++ [x], n := s.n + 1, salloc := sqGrow false s.salloc s.n } (done ++ [x])
      (by simp only []; rw [h1, List.take_of_length_le (by simp; omega)])
      (by simp [h2]) (by simp only []; omega) r2
    refine ⟨g, ?_, by simpa using g2, by simpa using g3, g4, g5⟩
    simp only [addAll, hstep]; exact g1

theorem charToU32_ascii (c : Nat) (h : c < 128) : charToU32 c = UInt32.ofNat c := by
  unfold charToU32; rw [if_neg (by omega)]

/-- the count residue code `x` contributes to canonical residue `y`: 1 for itself, `1/|set|` for each member of the set of
    a degenerate code, nothing for gap, nonresidue and missing data -/
def share (a : Alphabet) (x y : Nat) : ℚ :=
  if x < a.K then (if y = x then 1 else 0)
  else if a.xIsDegenerate x then (if y ∈ a.degenSet x then 1 / ((a.degenSet x).length : ℚ) else 0)
  else 0

theorem count_share (a : Alphabet) (h : a.WFDegen) (x : Nat) (hx : x < a.Kp) (hg : x ≠ a.K) (f : List ℚ) (hf : f.length = a.K) :
    ∃ f', a.count f x (ScoreNum.ofNat 1) = some f' ∧ f'.length = f.length ∧ ∀ y, f'.getD y 0 = f.getD y 0 + share a x y := by
  by_cases hc : x < a.K
  · have c1 : (a.xIsCanonical x || a.xIsGap x) = true := by simp [xIsCanonical, hc]
    refine ⟨f.set x (f.getD x 0 + 1), ?_, by simp, fun y => ?_⟩
    · unfold count
      simp only [c1, if_true, getElem?_eq_some_getD f x 0 (by omega), Option.bind_eq_bind, Option.bind_some, sn_add, sn_ofNat, Nat.cast_one]
    · rw [getD_set_of_lt _ _ _ _ _ (by omega)]
      unfold share
      rw [if_pos hc]
      by_cases e : y = x
      · subst e; simp
      · simp [e]
  · by_cases hd : a.xIsDegenerate x = true
    · obtain ⟨ct', h1, h2, h3, _⟩ := count_equal_split a h x hx hd f (by omega) (ScoreNum.ofNat 1)
      refine ⟨ct', h1, h2, fun y => ?_⟩
      rw [h3 y]; unfold share; rw [if_neg hc, if_pos hd]; simp
    · have hd' : a.xIsDegenerate x = false := by simpa using hd
      unfold xIsDegenerate at hd'
      simp only [Bool.and_eq_false_iff, decide_eq_false_iff_not] at hd'
      have c1 : (a.xIsCanonical x || a.xIsGap x) = false := by
        simp only [xIsCanonical, xIsGap, Bool.or_eq_false_iff, decide_eq_false_iff_not]; omega
      have c2 : (a.xIsMissing x || a.xIsNonresidue x) = true := by
        simp only [xIsMissing, xIsNonresidue, Bool.or_eq_true, decide_eq_true_eq]; omega
      refine ⟨f, ?_, rfl, fun y => ?_⟩
      · unfold count; simp only [c1, c2, Bool.false_eq_true, if_false, if_true]
      · unfold share; rw [if_neg hc, if_neg hd]; simp

theorem share_gap (a : Alphabet) (y : Nat) : share a a.K y = 0 := by
  unfold share xIsDegenerate; simp

theorem countResLoop_run (a : Alphabet) (h : a.WFDegen) (dsq : List Nat) (y : Nat) :
    ∀ (W : List Nat) (i : Nat) (f : List ℚ) (rest : List Nat), dsq.drop i = W ++ rest → (∀ x ∈ W, x < a.Kp) → f.length = a.K →
      ∃ f', countResLoop a dsq W.length i f = some f' ∧ f'.length = a.K ∧
        f'.getD y 0 = f.getD y 0 + (W.map fun x => share a x y).sum := by
  intro W
  induction W with
  | nil => intro i f _ _ _ hf; exact ⟨f, rfl, hf, by simp⟩
  | cons x W ih =>
    intro i f rest hd hv hf
    obtain ⟨e, hd'⟩ := drop_eq_cons hd
    rw [List.map_cons, List.sum_cons, List.length_cons]
    by_cases hg : x = a.K
    · obtain ⟨f', g1, g2, g3⟩ := ih (i + 1) f rest hd' (fun z hz => hv z (by simp [hz])) hf
      refine ⟨f', ?_, g2, ?_⟩
      · unfold countResLoop
        simp only [e, Option.bind_eq_bind, Option.bind_some, xIsGap, hg, decide_true, if_true]
        exact g1
      · rw [g3, hg, share_gap]; ring
    · obtain ⟨f1, c1, c2, c3⟩ := count_share a h x (hv x (by simp)) hg f hf
      obtain ⟨f', g1, g2, g3⟩ := ih (i + 1) f1 rest hd' (fun z hz => hv z (by simp [hz])) (by rw [c2, hf])
      refine ⟨f', ?_, g2, ?_⟩
      · unfold countResLoop
        simp only [e, Option.bind_eq_bind, Option.bind_some, xIsGap, hg, decide_false, Bool.false_eq_true, if_false, c1]
        exact g1
      · rw [g3, c3 y]; ring

/-! ## text mode: bytes outside the alphabet are skipped, every other byte counts as its code does in digital mode -/

/-- what byte `c` of a text-mode sequence contributes to counter `y`: the share of its code if the byte is a character of
    the alphabet (`esl_abc_CIsValid`: 7-bit and mapped to a code), nothing otherwise -/
def shareC (a : Alphabet) (c y : Nat) : ℚ := if a.cIsValid c then share a (a.inmapAt c) y else 0

theorem countResTextLoop_run (a : Alphabet) (h : a.WFDegen) (seq : List Nat) (y : Nat) :
    ∀ (W : List Nat) (i : Nat) (f : List ℚ) (rest : List Nat), seq.drop i = W ++ rest → f.length = a.K →
      ∃ f', countResTextLoop a seq W.length i f = some f' ∧ f'.length = a.K ∧
        f'.getD y 0 = f.getD y 0 + (W.map fun c => shareC a c y).sum := by
  intro W
  induction W with
  | nil => intro i f _ _ hf; exact ⟨f, rfl, hf, by simp⟩
  | cons c W ih =>
    intro i f rest hd hf
    obtain ⟨e, hd'⟩ := drop_eq_cons hd
    rw [List.map_cons, List.sum_cons, List.length_cons]
    by_cases hv : a.cIsValid c = true
    · have hlt : a.inmapAt c < a.Kp := ((cIsValid_iff a c).mp hv).2
      by_cases hg : a.cIsGap c = true
      · have hgk : a.inmapAt c = a.K := by
          unfold cIsGap at hg; simp only [Bool.and_eq_true, decide_eq_true_eq] at hg; exact hg.2
        obtain ⟨f', g1, g2, g3⟩ := ih (i + 1) f rest hd' hf
        refine ⟨f', ?_, g2, ?_⟩
        · unfold countResTextLoop
          simp only [e, Option.bind_eq_bind, Option.bind_some, hv, hg, Bool.not_true, Bool.and_false, Bool.false_eq_true, if_false]
          exact g1
        · rw [g3]; unfold shareC; rw [if_pos hv, hgk, share_gap]; ring
      · have hg' : a.cIsGap c = false := by simpa using hg
        have hne : a.inmapAt c ≠ a.K := by
          intro e2
          have h7 : c < 128 := ((cIsValid_iff a c).mp hv).1
          unfold cIsGap at hg'; simp [h7, e2] at hg'
        obtain ⟨f1, c1, c2, c3⟩ := count_share a h (a.inmapAt c) hlt hne f hf
        obtain ⟨f', g1, g2, g3⟩ := ih (i + 1) f1 rest hd' (by rw [c2, hf])
        refine ⟨f', ?_, g2, ?_⟩
        · unfold countResTextLoop
          simp only [e, Option.bind_eq_bind, Option.bind_some, hv, hg', Bool.not_false, Bool.and_self, if_true, c1]
          exact g1
        · rw [g3, c3 y]; unfold shareC; rw [if_pos hv]; ring
    · have hv' : a.cIsValid c = false := by simpa using hv
      obtain ⟨f', g1, g2, g3⟩ := ih (i + 1) f rest hd' hf
      refine ⟨f', ?_, g2, ?_⟩
      · unfold countResTextLoop
        simp only [e, Option.bind_eq_bind, Option.bind_some, hv', Bool.false_and, Bool.false_eq_true, if_false]
        exact g1
      · rw [g3]; unfold shareC; rw [if_neg hv]; ring

theorem countResiduesText_range (a : Alphabet) (seq : List Nat) (start L : Int) (f : List ℚ) :
    (countResiduesText a seq start L f = none ↔ start < 0 ∨ start + L > (seq.length : Int)) ∧
    (¬ (start < 0 ∨ start + L > (seq.length : Int)) → L ≤ 0 → countResiduesText a seq start L f = some (some f)) := by
  unfold countResiduesText
  constructor
  · by_cases c : start < 0 ∨ start + L > (seq.length : Int)
    · simp [c]
    · simp [c]
  · intro c hL
    rw [if_neg c]
    have : L.toNat = 0 := by omega
    rw [this]; rfl

end EaselModel.Alphabet.Sq
