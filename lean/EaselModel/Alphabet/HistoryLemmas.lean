import EaselModel.Alphabet.CustomDegen
import EaselModel.Alphabet.DegenLemmas
/-! # C08 — custom alphabets as HISTORIES of constructor calls: invariants over every history, and the documented error
statuses of the individual calls -/
namespace EaselModel.Alphabet
namespace Alphabet

/-- one call on an alphabet under construction -/
inductive Call
  | equiv (sym c : Nat)
  | caseins
  | degen (c : Nat) (ds : List Nat)
  | ignored (chars : List Nat)

def applyCall (a : Alphabet) : Call → Status × Alphabet
  | .equiv s c => a.setEquiv s c
  | .caseins => a.setCaseInsensitive
  | .degen c ds => a.setDegeneracy c ds
  | .ignored chars => (.ok, a.setIgnored chars)

/-- run a history of calls (statuses are ignored by the next call, exactly as a C caller that does not check them);
    returns the statuses in call order and the final alphabet -/
def run (a : Alphabet) : List Call → List Status × Alphabet
  | [] => ([], a)
  | c :: cs => ((a.applyCall c).1 :: (run (a.applyCall c).2 cs).1, (run (a.applyCall c).2 cs).2)

/-- the call does not declare a symbol of the alphabet ignored -/
def Call.spares (syms : List Nat) : Call → Prop
  | .ignored chars => ∀ c ∈ chars, c ∉ syms
  | _ => True

theorem applyCall_frame (a : Alphabet) (c : Call) :
    ∃ m d n, (a.applyCall c).2 = { a with inmap := m, degen := d, ndegen := n } := by
  cases c with
  | equiv s c => obtain ⟨m, e⟩ := setEquiv_frame a s c; exact ⟨m, a.degen, a.ndegen, e⟩
  | caseins => obtain ⟨m, e⟩ := caseLoop_frame ((List.range 26).map (· + 97)) a; exact ⟨m, a.degen, a.ndegen, e⟩
  | degen c ds => obtain ⟨d, n, e⟩ := setDegeneracy_frame a c ds; exact ⟨a.inmap, d, n, e⟩
  | ignored chars => exact ⟨_, a.degen, a.ndegen, rfl⟩

theorem applyCall_fields (a : Alphabet) (c : Call) :
    (a.applyCall c).2.K = a.K ∧ (a.applyCall c).2.Kp = a.Kp ∧ (a.applyCall c).2.sym = a.sym := by
  obtain ⟨m, d, n, e⟩ := applyCall_frame a c
  rw [e]; exact ⟨rfl, rfl, rfl⟩

theorem run_fields (h : List Call) (a : Alphabet) :
    (a.run h).2.K = a.K ∧ (a.run h).2.Kp = a.Kp ∧ (a.run h).2.sym = a.sym ∧ (a.run h).1.length = h.length := by
  induction h generalizing a with
  | nil => exact ⟨rfl, rfl, rfl, rfl⟩
  | cons c cs ih =>
    obtain ⟨f1, f2, f3⟩ := applyCall_fields a c
    obtain ⟨i1, i2, i3, i4⟩ := ih (a.applyCall c).2
    exact ⟨i1.trans f1, i2.trans f2, i3.trans f3, by simp [run, i4]⟩

theorem applyCall_wf (a : Alphabet) (hw : a.WF) (c : Call) (hs : c.spares a.sym) : (a.applyCall c).2.WF := by
  cases c with
  | equiv s c => exact setEquiv_wf a hw s c
  | caseins => exact setCaseInsensitive_wf a hw
  | degen c ds => exact setDegeneracy_wf a hw c ds
  | ignored chars => exact setIgnored_wf a hw chars hs

theorem run_wf (h : List Call) (a : Alphabet) (hw : a.WF) (hs : ∀ c ∈ h, c.spares a.sym) : (a.run h).2.WF := by
  induction h generalizing a with
  | nil => exact hw
  | cons c cs ih =>
    have h1 := applyCall_wf a hw c (hs c (by simp))
    have hsym := (applyCall_fields a c).2.2
    exact ih _ h1 (fun c' hc' => by rw [hsym]; exact hs c' (by simp [hc']))

/-- canonical residues, gap, `any`, nonresidue, missing: the codes `esl_alphabet_SetDegeneracy` refuses -/
def frozenCode (a : Alphabet) (x : Nat) : Prop := x ≤ a.K ∨ x + 3 ≥ a.Kp

theorem degenLoop_other (x : Nat) (ds : List Nat) (a : Alphabet) (x' : Nat) (hne : x' ≠ x) :
    (a.degenLoop x ds).2.degen.getD x' [] = a.degen.getD x' [] ∧ (a.degenLoop x ds).2.ndegen.getD x' 0 = a.ndegen.getD x' 0 := by
  rw [degenLoop_eq]
  generalize a.accepted ds = ys
  induction ys generalizing a with
  | nil => exact ⟨rfl, rfl⟩
  | cons y rest ih =>
    obtain ⟨i1, i2⟩ := ih (a.degenAdd x y)
    refine ⟨i1.trans ?_, i2.trans (getD_set_ne _ _ _ _ _ hne)⟩
    show (a.degen.set x _).getD x' [] = _
    rw [List.getD_eq_getElem?_getD, List.getElem?_set, if_neg (fun e : x = x' => hne e.symm), List.getD_eq_getElem?_getD]

theorem applyCall_frozen (a : Alphabet) (c : Call) (x : Nat) (hx : a.frozenCode x) :
    (a.applyCall c).2.degen.getD x [] = a.degen.getD x [] ∧ (a.applyCall c).2.ndegen.getD x 0 = a.ndegen.getD x 0 := by
  cases c with
  | equiv s c =>
    obtain ⟨m, e⟩ := setEquiv_frame a s c
    simp only [applyCall]
    rw [e]; exact ⟨rfl, rfl⟩
  | caseins =>
    obtain ⟨m, e⟩ := caseLoop_frame ((List.range 26).map (· + 97)) a
    simp only [applyCall, setCaseInsensitive]
    rw [e]; exact ⟨rfl, rfl⟩
  | degen c ds =>
    simp only [applyCall]
    rcases setDegeneracy_cases a c ds with ⟨e, _⟩ | ⟨x0, _, _, _, e⟩ <;> rw [e]
    · exact ⟨rfl, rfl⟩
    · exact degenLoop_other x0 ds a x (by unfold frozenCode at hx; omega)
  | ignored chars => exact ⟨rfl, rfl⟩

theorem run_frozen (h : List Call) (a : Alphabet) (x : Nat) (hx : a.frozenCode x) :
    (a.run h).2.degen.getD x [] = a.degen.getD x [] ∧ (a.run h).2.ndegen.getD x 0 = a.ndegen.getD x 0 := by
  induction h generalizing a with
  | nil => exact ⟨rfl, rfl⟩
  | cons c cs ih =>
    obtain ⟨f1, f2, _⟩ := applyCall_fields a c
    obtain ⟨g1, g2⟩ := applyCall_frozen a c x hx
    obtain ⟨i1, i2⟩ := ih (a.applyCall c).2 (by unfold frozenCode at hx ⊢; rw [f1, f2]; exact hx)
    exact ⟨i1.trans g1, i2.trans g2⟩

theorem createCustom_none_iff (syms : List Nat) (K Kp : Nat) :
    createCustom syms K Kp = none ↔ syms.length ≠ Kp ∨ Kp < K + 4 ∨ K = 0 := by
  unfold createCustom
  by_cases h1 : syms.length ≠ Kp
  · simp [h1]
  · by_cases h2 : Kp < K + 4
    · simp [h1, h2]
    · by_cases h3 : K = 0
      · simp [h1, h3]
      · have : ¬ Kp * K = 0 := by
          intro e; rcases Nat.mul_eq_zero.mp e with e | e <;> omega
        simp [h1, h2, h3, this]

theorem createCustom_fields (syms : List Nat) (K Kp : Nat) (a : Alphabet) (h : createCustom syms K Kp = some a) :
    a.K = K ∧ a.Kp = Kp ∧ a.sym = syms := by
  unfold createCustom at h
  split at h
  · cases h
  · split at h
    · cases h
    · split at h
      · cases h
      · cases h; exact ⟨rfl, rfl, rfl⟩

theorem degenSet_congr (a b : Alphabet) (x : Nat) (hK : b.K = a.K) (hd : b.degen.getD x [] = a.degen.getD x []) :
    b.degenSet x = a.degenSet x := by
  unfold degenSet; rw [hK, hd]

theorem run_order (syms : List Nat) (K : Nat) (a : Alphabet) (hK : 1 ≤ K) (hKp : K + 4 ≤ syms.length)
    (h : createCustom syms K syms.length = some a) (hist : List Call) :
    (∀ x, x < K → (a.run hist).2.degenSet x = [x] ∧ (a.run hist).2.ndegen.getD x 0 = 1) ∧
    (a.run hist).2.degenSet (syms.length - 3) = List.range K ∧ (a.run hist).2.ndegen.getD (syms.length - 3) 0 = K := by
  obtain ⟨f1, f2, _⟩ := createCustom_fields syms K syms.length a h
  obtain ⟨hwf, hc, hany⟩ := createCustom_wfdegen syms K a hK hKp h
  obtain ⟨r1, r2, _, _⟩ := run_fields hist a
  have hnd := fun x (hx : x < a.Kp) => (hwf.2.2 x hx).2
  refine ⟨fun x hx => ?_, ?_, ?_⟩
  · obtain ⟨g1, g2⟩ := run_frozen hist a x (Or.inl (by omega))
    rw [degenSet_congr a _ x r1 g1, g2, hnd x (by omega), hc x hx]
    exact ⟨rfl, rfl⟩
  · obtain ⟨g1, _⟩ := run_frozen hist a (syms.length - 3) (Or.inr (by omega))
    rw [degenSet_congr a _ _ r1 g1, hany]
  · obtain ⟨_, g2⟩ := run_frozen hist a (syms.length - 3) (Or.inr (by omega))
    rw [g2, hnd _ (by omega), hany]; simp

theorem strchrSym_some_iff (a : Alphabet) (c : Nat) (hc : c ≠ 0) : (a.strchrSym c).isSome = true ↔ c ∈ a.sym := by
  unfold strchrSym
  simp only [hc, if_false]
  by_cases h : a.sym.idxOf c < a.sym.length
  · simp [h, List.idxOf_lt_length_iff.mp h]
  · have : c ∉ a.sym := fun hm => h (List.idxOf_lt_length_iff.mpr hm)
    simp [h, this]

theorem setEquiv_status (a : Alphabet) (sym c : Nat) (hs : sym ≠ 0) (hc : c ≠ 0) :
    ((a.setEquiv sym c).1 = .ok ↔ sym ∉ a.sym ∧ c ∈ a.sym) ∧
    ((a.setEquiv sym c).1 ≠ .ok → (a.setEquiv sym c).1 = .einval ∧ (a.setEquiv sym c).2 = a) ∧
    ((a.setEquiv sym c).1 = .ok → (a.setEquiv sym c).2 = { a with inmap := a.inmap.set sym (a.sym.idxOf c) }) := by
  have e1 := strchrSym_some_iff a sym hs
  have e2 := strchrSym_some_iff a c hc
  unfold setEquiv
  cases h1 : a.strchrSym sym with
  | some v =>
    rw [h1] at e1
    have : sym ∈ a.sym := e1.mp rfl
    simp [this]
  | none =>
    rw [h1] at e1
    have hn : sym ∉ a.sym := fun hm => by have := e1.mpr hm; cases this
    cases h2 : a.strchrSym c with
    | none =>
      rw [h2] at e2
      have : c ∉ a.sym := fun hm => by have := e2.mpr hm; cases this
      simp [this]
    | some x =>
      rw [h2] at e2
      have hm : c ∈ a.sym := e2.mp rfl
      have hx : x = a.sym.idxOf c := by
        unfold strchrSym at h2
        simp only [hc, if_false] at h2
        split at h2
        · cases h2; rfl
        · cases h2
      simp [hn, hm, hx]

theorem degenLoop_status (x : Nat) (ds : List Nat) (a : Alphabet) :
    ((a.degenLoop x ds).1 = .ok ↔ ∀ d ∈ ds, ∃ y, a.strchrSym d = some y ∧ y < a.K) ∧
    ((a.degenLoop x ds).1 = .ok ∨ (a.degenLoop x ds).1 = .einval) := by
  rw [degenLoop_eq]
  have hall : ds.all (fun d => (a.canonCode d).isSome) = true ↔ ∀ d ∈ ds, ∃ y, a.strchrSym d = some y ∧ y < a.K := by
    simp only [List.all_eq_true, canonCode_isSome]; rfl
  by_cases h : ds.all (fun d => (a.canonCode d).isSome) = true
  · rw [if_pos h]; exact ⟨⟨fun _ => hall.mp h, fun _ => rfl⟩, Or.inl rfl⟩
  · rw [if_neg h]; exact ⟨⟨(fun e => by cases e), fun hh => absurd (hall.mpr hh) h⟩, Or.inr rfl⟩

theorem setDegeneracy_status (a : Alphabet) (c : Nat) (ds : List Nat) :
    ((a.setDegeneracy c ds).1 = .ok ↔
      ∃ x, a.strchrSym c = some x ∧ a.K < x ∧ x + 3 < a.Kp ∧ ∀ d ∈ ds, ∃ y, a.strchrSym d = some y ∧ y < a.K) ∧
    ((a.setDegeneracy c ds).1 = .ok ∨ (a.setDegeneracy c ds).1 = .einval) := by
  rcases setDegeneracy_cases a c ds with ⟨e, hno⟩ | ⟨x, hs, h1, h2, e⟩ <;> rw [e]
  · exact ⟨⟨(fun e => by cases e), fun ⟨x, hs, h1, h2, _⟩ => absurd ⟨x, hs, h1, h2⟩ hno⟩, Or.inr rfl⟩
  · obtain ⟨i1, i2⟩ := degenLoop_status x ds a
    refine ⟨i1.trans ⟨fun hall => ⟨x, hs, h1, h2, hall⟩, fun ⟨x', hs', _, _, hall⟩ => hall⟩, i2⟩

theorem caseStep_none_iff (a : Alphabet) (lc : Nat) :
    a.caseStep lc = none ↔ a.cIsValid lc = true ∧ a.cIsValid (toUpper lc) = true ∧ a.inmapAt (toUpper lc) ≠ a.inmapAt lc := by
  unfold caseStep
  simp only []
  cases h1 : a.cIsValid lc <;> cases h2 : a.cIsValid (toUpper lc) <;> simp

theorem caseLoop_status (l : List Nat) (a : Alphabet) : (a.caseLoop l).1 = .ok ∨ (a.caseLoop l).1 = .ecorrupt := by
  induction l generalizing a with
  | nil => exact Or.inl rfl
  | cons lc rest ih =>
    unfold caseLoop
    cases a.caseStep lc with
    | none => exact Or.inr rfl
    | some a' => exact ih a'

end Alphabet
end EaselModel.Alphabet
