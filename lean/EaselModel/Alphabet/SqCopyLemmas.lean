import EaselModel.Alphabet.Model3
import EaselModel.Alphabet.ValidateLemmas
/-! # C08 — `esl_sq_Copy`: the four text/digital combinations convert faithfully and leave a consistent object -/
namespace EaselModel.Alphabet.Sq
open EaselModel.Alphabet EaselModel.Alphabet.Alphabet

theorem sqCopy_text_digital_eq (a : Alphabet) (txt : List Nat) (sameType : Bool) :
    sqCopy true a (.inl txt) true sameType = some (.ok (match sqDigitize a txt with
      | .ok d => (.ok, { n := txt.length, buf := d })
      | .error st => (st, reused true))) := by
  unfold sqCopy sqDigitize
  by_cases hv : validateSeq a txt = .ok
  · simp only [hv, bne_self_eq_false, Bool.and_false, Bool.false_eq_true, if_false, ne_eq, not_true_eq_false]
    cases hd : a.digitize txt with
    | mk st d =>
      simp only []
      by_cases hs : st = .ok
      · subst hs; simp
      · simp [hs]
  · have hb : (validateSeq a txt != Status.ok) = true := by simpa using hv
    simp [hv, hb]

theorem sqCopy_text_digital (a : Alphabet) (hKp : a.Kp ≤ 250) (txt : List Nat) (sameType : Bool) :
    sqCopy true a (.inl txt) true sameType = some (.ok (
      if txt.all a.cIsValid then (.ok, { n := txt.length, buf := mkDsq (txt.map a.inmapAt) }) else (.einval, reused true))) ∧
    (txt.all a.cIsValid = true → ({ n := txt.length, buf := mkDsq (txt.map a.inmapAt) } : Copied).consistent true = true) ∧
    (reused true).consistent true = true := by
  refine ⟨?_, fun hv => ?_, by decide⟩
  · rw [sqCopy_text_digital_eq, sqDigitize_spec]
    by_cases hv : txt.all a.cIsValid = true
    · simp [hv]
    · simp [hv]
  · have hs : SENTINEL ∉ txt.map a.inmapAt := by
      intro hm
      obtain ⟨c, hc, he⟩ := List.mem_map.mp hm
      have := (cIsValid_iff a c).mp (List.all_eq_true.mp hv c hc)
      unfold SENTINEL at he; omega
    unfold Copied.consistent
    simp only [if_true]
    rw [dsqlen_mkDsq _ hs]
    simp

theorem sqCopy_others (a : Alphabet) (txt codes : List Nat) (hs : SENTINEL ∉ codes) (hv : ∀ x ∈ codes, x < a.sym.length)
    (g : Bool) :
    sqCopy g a (.inl txt) false true = some (.ok (.ok, { n := txt.length, buf := txt })) ∧
    sqCopy g a (.inr (mkDsq codes, codes.length)) false true = some (.ok (.ok, { n := codes.length, buf := codes.map a.symAt })) ∧
    sqCopy g a (.inr (mkDsq codes, codes.length)) true true = some (.ok (.ok, { n := codes.length, buf := mkDsq codes })) ∧
    sqCopy g a (.inr (mkDsq codes, codes.length)) true false = some (.error .eincompat) ∧
    ({ n := codes.length, buf := mkDsq codes } : Copied).consistent true = true ∧
    ({ n := codes.length, buf := codes.map a.symAt } : Copied).consistent false = true := by
  have hlen : (mkDsq codes).length = codes.length + 2 := by simp [mkDsq]
  have hc : dsqcpy (mkDsq codes) codes.length = some (mkDsq codes) := by
    unfold dsqcpy; rw [if_pos (by omega), List.take_of_length_le (by omega)]
  refine ⟨rfl, ?_, ?_, rfl, ?_, ?_⟩
  · unfold sqCopy; simp only [textize_mkDsq a codes hv]
  · unfold sqCopy; simp [hc]
  · unfold Copied.consistent; simp only [if_true]; rw [dsqlen_mkDsq _ hs]; simp
  · unfold Copied.consistent; simp

end EaselModel.Alphabet.Sq
