import EaselModel.Alphabet.RevcompLemmas
import EaselModel.Alphabet.Model3
/-! # C08 — what follows from the canonical input map and the documented symbol string, for any alphabet; the classes of all
256 bytes read off the input map -/
namespace EaselModel.Alphabet
open Iupac

namespace Alphabet

/-- whatever `canonOf` answers is a symbol: the upper-cased character itself, or the target of a documented synonym -/
theorem canonOf_mem (k : Kind) (c s : Char) (h : canonOf k c = some s) : s ∈ symbols k := by
  unfold canonOf at h
  simp only [] at h
  split at h
  · cases h; assumption
  · have hsyn : ∀ p ∈ synonyms k, p.2 ∈ symbols k := by cases k <;> decide +kernel
    obtain ⟨p, hp, rfl⟩ := Option.map_eq_some_iff.mp h
    exact hsyn p (List.mem_of_find?_eq_some hp)

theorem symAt_of_sym (k : Kind) (a : Alphabet) (hs : a.sym = symCodes k) (x : Nat) (hx : x < (symbols k).length) :
    a.symAt x = (kSym k x).toNat := by
  unfold symAt kSym symCodes at *
  rw [hs, List.getD_eq_getElem?_getD, List.getD_eq_getElem?_getD, List.getElem?_map, List.getElem?_eq_getElem hx]
  rfl

/-- **the spelling is canonical because the input map is**: for ANY alphabet whose input map reads every 7-bit character as
    `canonOf` says and whose symbol string is the documented one, and for EVERY byte value `c` (a byte ≥ 0x80 is outside every
    alphabet), the symbol of the code of `c` is `spell k c` -/
theorem spell_of_canonical (k : Kind) (a : Alphabet) (hi : InmapCanonical k a) (ho : OrderOK k a) (c : Nat) :
    (a.code c).map a.symAt = some (spell k c) := by
  obtain ⟨hsym, -, hKp, -⟩ := ho
  have hlen : 3 ≤ (symbols k).length ∧ (symbols k).length ≤ 29 := by cases k <;> decide +kernel
  have hill : ¬ ILLEGAL < a.Kp ∧ ILLEGAL ≠ IGNORED := by rw [hKp]; unfold ILLEGAL IGNORED; omega
  -- a byte outside the alphabet is read as `any`, whose symbol stands at `Kp - 3`
  have hany : (if ILLEGAL < a.Kp then some ILLEGAL else if ILLEGAL = IGNORED then none else some a.unknown).map a.symAt
      = some (kSym k ((symbols k).length - 3)).toNat := by
    rw [if_neg hill.1, if_neg hill.2, Option.map_some, unknown, hKp, symAt_of_sym k a hsym _ (by omega)]
  unfold code spell
  by_cases h128 : c < 128
  · simp only [if_pos h128, hi c h128]
    cases hco : canonOf k (Char.ofNat c) with
    | none => exact hany
    | some s =>
      have hs := canonOf_mem k _ s hco
      have hlt := List.idxOf_lt_length_of_mem hs
      simp only []
      rw [if_pos (hKp ▸ hlt), Option.map_some, symAt_of_sym k a hsym _ hlt]
      unfold kSym
      rw [List.getD_eq_getElem?_getD, List.getElem?_eq_getElem hlt, Option.getD_some, List.getElem_idxOf hlt]
  · simp only [if_neg h128]; exact hany

theorem map_symAt_filterMap_code (a : Alphabet) (f : Nat → Nat) (seq : List Nat)
    (h : ∀ c ∈ seq, (a.code c).map a.symAt = some (f c)) :
    (seq.filterMap a.code).map a.symAt = seq.map f := by
  induction seq with
  | nil => simp
  | cons c cs ih =>
    have hc := h c (by simp)
    have ih' := ih (fun c' hc' => h c' (by simp [hc']))
    cases hcode : a.code c with
    | none => simp [hcode] at hc
    | some x =>
      simp only [hcode, Option.map_some, Option.some.injEq] at hc
      simp [hcode, hc, ih']

theorem textize_digitize_canonical (k : Kind) (a : Alphabet) (hi : InmapCanonical k a) (ho : OrderOK k a) (seq : List Nat) :
    a.textize (a.digitize seq).2 seq.length = some (seq.map (spell k)) := by
  have hsym : a.sym.length = a.Kp := by rw [ho.1, ho.2.2.1, symCodes, List.length_map]
  have hmap := map_symAt_filterMap_code a (spell k) seq (fun c _ => spell_of_canonical k a hi ho c)
  have hlen : (seq.filterMap a.code).length = seq.length := by
    have := congrArg List.length hmap; simpa using this
  rw [digitize_eq_spec]
  have := textize_mkDsq a (seq.filterMap a.code)
    (fun x hx => by rw [hsym]; exact filterMap_code_lt a (by have := ho.2.2.2.1; omega) seq x hx)
  rw [hlen, hmap] at this
  exact this

/-- the classes of all 256 bytes, read off the input map in one pass (bytes ≥ 0x80 are in no class) -/
theorem map_cClass_range (a : Alphabet) (h : a.inmap.length = 128) :
    (List.range 256).map a.cClass = a.inmap.map a.xClass ++ List.replicate 128 0 := by
  apply List.ext_getElem
  · simp [h]
  · intro i h1 h2
    rw [List.getElem_map, List.getElem_range]
    unfold cClass
    by_cases hi : i < 128
    · rw [if_pos hi, List.getElem_append_left (by simp [h, hi]), List.getElem_map, inmapAt, List.getD_eq_getElem?_getD,
        List.getElem?_eq_getElem (h ▸ hi)]
      rfl
    · rw [if_neg hi, List.getElem_append_right (by simp [h]; omega), List.getElem_replicate]

end Alphabet
end EaselModel.Alphabet
