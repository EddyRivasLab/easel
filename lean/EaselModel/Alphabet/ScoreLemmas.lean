import EaselModel.Alphabet.Spec
import EaselModel.Alphabet.ListLemmas
import Mathlib.Tactic.Ring
import Mathlib.Tactic.FieldSimp
import Mathlib.Tactic.Linarith
import Mathlib.Algebra.Order.Field.Rat
/-! # C08 — degenerate scores and counts over ℚ: the accumulation loops compute the mean / the equal split / the match
probability (the driver never imports this file: the model files are Mathlib-free) -/
set_option linter.dupNamespace false
namespace EaselModel.Alphabet
namespace Alphabet

instance : ScoreNum ℚ where
  zero := 0
  add := (· + ·)
  sub := (· - ·)
  mul := (· * ·)
  div := (· / ·)
  ofNat := fun n => (n : ℚ)

@[simp] theorem sn_zero : (ScoreNum.zero : ℚ) = 0 := rfl
@[simp] theorem sn_add (x y : ℚ) : ScoreNum.add x y = x + y := rfl
@[simp] theorem sn_mul (x y : ℚ) : ScoreNum.mul x y = x * y := rfl
@[simp] theorem sn_div (x y : ℚ) : ScoreNum.div x y = x / y := rfl
@[simp] theorem sn_ofNat (n : Nat) : (ScoreNum.ofNat n : ℚ) = (n : ℚ) := rfl

/-- sum of `f` over the flagged indices of `[i, i+k)` -/
def flagSum (row : List Nat) (f : Nat → ℚ) (i k : Nat) : ℚ :=
  (((List.range' i k).filter fun j => row.getD j 0 ≠ 0).map f).sum

theorem flagSum_succ (row : List Nat) (f : Nat → ℚ) (i k : Nat) :
    flagSum row f i (k + 1) = (if row.getD i 0 ≠ 0 then f i else 0) + flagSum row f (i + 1) k := by
  unfold flagSum
  rw [show List.range' i (k + 1) = i :: List.range' (i + 1) k by simp [List.range'_succ]]
  by_cases h : row.getD i 0 = 0
  · rw [List.filter_cons_of_neg (by simpa using h), if_neg (fun hh => hh h), zero_add]
  · rw [List.filter_cons_of_pos (by simpa using h), if_pos h, List.map_cons, List.sum_cons]

/-- the accumulation loop `for (i..) if (degen[x][i]) result += f(i)` -/
theorem degenFold_sum (row : List Nat) (f : Nat → Option ℚ) (fv : Nat → ℚ) :
    ∀ (k i : Nat) (acc : ℚ), i + k ≤ row.length → (∀ j, i ≤ j → j < i + k → f j = some (fv j)) →
      degenFold row f k i acc = some (acc + flagSum row fv i k) := by
  intro k
  induction k with
  | zero => intro i acc _ _; simp [degenFold, flagSum]
  | succ k ih =>
    intro i acc hlen hf
    have e := getElem?_eq_some_getD row i 0 (by omega)
    have ih' := fun acc => ih (i + 1) acc (by omega) (fun j h1 h2 => hf j (by omega) (by omega))
    rw [flagSum_succ]
    by_cases hflag : row.getD i 0 = 0
    · simp only [degenFold, e, Option.bind_eq_bind, Option.bind_some, hflag, ne_eq, not_true_eq_false, if_false]
      rw [ih', zero_add]
    · simp only [degenFold, e, Option.bind_eq_bind, Option.bind_some, hflag, ne_eq, not_false_eq_true, if_true,
        hf i (Nat.le_refl _) (by omega), sn_add]
      rw [ih', add_assoc]

theorem flagSum_degenSet (a : Alphabet) (x : Nat) (fv : Nat → ℚ) :
    flagSum (a.degen.getD x []) fv 0 a.K = ((a.degenSet x).map fv).sum := by
  unfold flagSum degenSet
  rw [List.range_eq_range']

/-- `WFDegen` in the form the routines consume it: the lookups of row `x` and of its count succeed -/
theorem WFDegen.row {a : Alphabet} (h : a.WFDegen) {x : Nat} (hx : x < a.Kp) :
    a.degen[x]? = some (a.degen.getD x []) ∧ (a.degen.getD x []).length = a.K ∧
    a.ndegen[x]? = some (a.degenSet x).length := by
  obtain ⟨hd, hn, hrow⟩ := h
  obtain ⟨hrl, hnd⟩ := hrow x hx
  refine ⟨?_, hrl, ?_⟩
  · rw [List.getD_eq_getElem?_getD, List.getElem?_eq_getElem (by omega)]; simp
  · rw [← hnd]; exact getElem?_eq_some_getD _ _ 0 (by omega)

theorem avgScore_mean (a : Alphabet) (h : a.WFDegen) (x : Nat) (hx : x < a.Kp) (hres : a.xIsResidue x = true)
    (sc : List ℚ) (hsc : a.K ≤ sc.length) :
    a.avgScore x sc = some (((a.degenSet x).map fun i => sc.getD i 0).sum / ((a.degenSet x).length : ℚ)) := by
  obtain ⟨e1, hrl, e2⟩ := h.row hx
  unfold avgScore
  simp only [hres, Bool.not_true, Bool.false_eq_true, if_false, e1, e2, Option.bind_eq_bind, Option.bind_some]
  rw [degenFold_sum _ _ (fun i => sc.getD i 0) a.K 0 _ (by omega) (fun j _ hj => getElem?_eq_some_getD sc j 0 (by omega))]
  simp only [Option.bind_some, sn_zero, zero_add, sn_div, sn_ofNat, flagSum_degenSet]

theorem expectScore_weighted (a : Alphabet) (h : a.WFDegen) (x : Nat) (hx : x < a.Kp) (hres : a.xIsResidue x = true)
    (sc p : List ℚ) (hsc : a.K ≤ sc.length) (hp : a.K ≤ p.length) :
    a.expectScore x sc p = some (((a.degenSet x).map fun i => sc.getD i 0 * p.getD i 0).sum /
      ((a.degenSet x).map fun i => p.getD i 0).sum) := by
  obtain ⟨e1, hrl, _⟩ := h.row hx
  unfold expectScore
  simp only [hres, Bool.not_true, Bool.false_eq_true, if_false, e1, Option.bind_eq_bind, Option.bind_some]
  rw [degenFold_sum _ _ (fun i => sc.getD i 0 * p.getD i 0) a.K 0 _ (by omega)
    (fun j _ hj => by
      simp only [getElem?_eq_some_getD sc j 0 (by omega), getElem?_eq_some_getD p j 0 (by omega), Option.bind_some, sn_mul])]
  simp only [Option.bind_some]
  rw [degenFold_sum _ _ (fun i => p.getD i 0) a.K 0 _ (by omega) (fun j _ hj => getElem?_eq_some_getD p j 0 (by omega))]
  simp only [Option.bind_some, sn_zero, zero_add, sn_div, flagSum_degenSet]

theorem avgScore_nonresidue (a : Alphabet) (x : Nat) (hres : a.xIsResidue x = false) (sc : List ℚ) :
    a.avgScore x sc = some 0 := by
  unfold avgScore; simp [hres]

theorem countLoop_spec (row : List Nat) (share : ℚ) :
    ∀ (k y0 : Nat) (ct : List ℚ), y0 + k ≤ row.length → y0 + k ≤ ct.length →
      ∃ ct', countLoop row share k y0 ct = some ct' ∧ ct'.length = ct.length ∧
        ∀ y, ct'.getD y 0 = ct.getD y 0 + (if y0 ≤ y ∧ y < y0 + k ∧ row.getD y 0 ≠ 0 then share else 0) := by
  intro k
  induction k with
  | zero =>
    intro y0 ct _ _
    refine ⟨ct, rfl, rfl, fun y => ?_⟩
    rw [if_neg (by omega)]; ring
  | succ k ih =>
    intro y0 ct hr hc
    have e := getElem?_eq_some_getD row y0 0 (by omega)
    by_cases hflag : row.getD y0 0 = 0
    · obtain ⟨ct', h1, h2, h3⟩ := ih (y0 + 1) ct (by omega) (by omega)
      refine ⟨ct', ?_, h2, fun y => ?_⟩
      · simp only [countLoop, e, Option.bind_eq_bind, Option.bind_some, hflag, ne_eq, not_true_eq_false, if_false]
        exact h1
      · rw [h3]
        by_cases hy : y = y0
        · subst hy; rw [if_neg (by omega), if_neg (fun h => h.2.2 hflag)]
        · by_cases hc2 : y0 + 1 ≤ y ∧ y < y0 + 1 + k ∧ row.getD y 0 ≠ 0
          · rw [if_pos hc2, if_pos ⟨by omega, by omega, hc2.2.2⟩]
          · rw [if_neg hc2, if_neg (fun h => hc2 ⟨by omega, by omega, h.2.2⟩)]
    · have e2 : ct[y0]? = some (ct.getD y0 0) := getElem?_eq_some_getD ct y0 0 (by omega)
      obtain ⟨ct', h1, h2, h3⟩ := ih (y0 + 1) (ct.set y0 (ct.getD y0 0 + share)) (by omega) (by simp; omega)
      refine ⟨ct', ?_, by simpa using h2, fun y => ?_⟩
      · simp only [countLoop, e, e2, Option.bind_eq_bind, Option.bind_some, hflag, ne_eq, not_false_eq_true, if_true, sn_add]
        exact h1
      · rw [h3, getD_set_of_lt _ _ _ _ _ (by omega)]
        by_cases hy : y = y0
        · subst hy
          rw [if_pos rfl, if_neg (by omega), if_pos ⟨Nat.le_refl _, by omega, hflag⟩]; ring
        · rw [if_neg hy]
          by_cases hc2 : y0 + 1 ≤ y ∧ y < y0 + 1 + k ∧ row.getD y 0 ≠ 0
          · rw [if_pos hc2, if_pos ⟨by omega, by omega, hc2.2.2⟩]
          · rw [if_neg hc2, if_neg (fun h => hc2 ⟨by omega, by omega, h.2.2⟩)]

theorem count_equal_split (a : Alphabet) (h : a.WFDegen) (x : Nat) (hx : x < a.Kp) (hdeg : a.xIsDegenerate x = true)
    (ct : List ℚ) (hct : a.K ≤ ct.length) (wt : ℚ) :
    ∃ ct', a.count ct x wt = some ct' ∧ ct'.length = ct.length ∧
      (∀ y, ct'.getD y 0 = ct.getD y 0 + (if y ∈ a.degenSet x then wt / ((a.degenSet x).length : ℚ) else 0)) ∧
      ((a.degenSet x).length ≠ 0 → ((a.degenSet x).map fun _ => wt / ((a.degenSet x).length : ℚ)).sum = wt) := by
  obtain ⟨e1, hrl, e2⟩ := h.row hx
  unfold xIsDegenerate at hdeg
  simp only [Bool.and_eq_true, decide_eq_true_eq] at hdeg
  have c1 : (a.xIsCanonical x || a.xIsGap x) = false := by
    simp only [xIsCanonical, xIsGap, Bool.or_eq_false_iff, decide_eq_false_iff_not]; omega
  have c2 : (a.xIsMissing x || a.xIsNonresidue x) = false := by
    simp only [xIsMissing, xIsNonresidue, Bool.or_eq_false_iff, decide_eq_false_iff_not]; omega
  obtain ⟨ct', h1, h2, h3⟩ := countLoop_spec (a.degen.getD x []) (wt / ((a.degenSet x).length : ℚ)) a.K 0 ct (by omega) (by omega)
  refine ⟨ct', ?_, h2, fun y => ?_, fun hne => ?_⟩
  · unfold count
    simp only [c1, c2, Bool.false_eq_true, if_false, e1, e2, Option.bind_eq_bind, Option.bind_some, sn_div, sn_ofNat]
    exact h1
  · rw [h3]
    congr 1
    have : (0 ≤ y ∧ y < 0 + a.K ∧ (a.degen.getD x []).getD y 0 ≠ 0) ↔ y ∈ a.degenSet x := by
      unfold degenSet; simp
    by_cases hm : y ∈ a.degenSet x
    · rw [if_pos hm, if_pos (this.mpr hm)]
    · rw [if_neg hm, if_neg (fun h => hm (this.mp h))]
  · rw [List.map_const', List.sum_replicate]
    have : ((a.degenSet x).length : ℚ) ≠ 0 := by exact_mod_cast hne
    simp only [nsmul_eq_mul]
    field_simp

/-- sum of `f` over the indices of `[i, i+k)` flagged in both rows -/
def flagSum2 (rowx rowy : List Nat) (f : Nat → ℚ) (i k : Nat) : ℚ :=
  (((List.range' i k).filter fun j => rowx.getD j 0 ≠ 0 ∧ rowy.getD j 0 ≠ 0).map f).sum

theorem flagSum2_succ (rowx rowy : List Nat) (f : Nat → ℚ) (i k : Nat) :
    flagSum2 rowx rowy f i (k + 1) =
      (if rowx.getD i 0 ≠ 0 ∧ rowy.getD i 0 ≠ 0 then f i else 0) + flagSum2 rowx rowy f (i + 1) k := by
  unfold flagSum2
  rw [show List.range' i (k + 1) = i :: List.range' (i + 1) k by simp [List.range'_succ]]
  by_cases h : rowx.getD i 0 ≠ 0 ∧ rowy.getD i 0 ≠ 0
  · rw [List.filter_cons_of_pos (by simpa using h), if_pos h, List.map_cons, List.sum_cons]
  · rw [List.filter_cons_of_neg (by simpa using h), if_neg h, zero_add]

theorem matchLoop_sum (rowx rowy : List Nat) (pf : Nat → Option ℚ) (q : Nat → ℚ) :
    ∀ (k i : Nat) (prob sx sy : ℚ), i + k ≤ rowx.length → i + k ≤ rowy.length →
      (∀ j, i ≤ j → j < i + k → pf j = some (q j)) →
      matchLoop rowx rowy pf k i (prob, sx, sy) =
        some (prob + flagSum2 rowx rowy (fun j => q j * q j) i k, sx + flagSum rowx q i k, sy + flagSum rowy q i k) := by
  intro k
  induction k with
  | zero => intro i prob sx sy _ _ _; simp [matchLoop, flagSum, flagSum2]
  | succ k ih =>
    intro i prob sx sy hx hy hf
    have ex := getElem?_eq_some_getD rowx i 0 (by omega)
    have ey := getElem?_eq_some_getD rowy i 0 (by omega)
    have hq := hf i (Nat.le_refl _) (by omega)
    have ih' := fun prob sx sy => ih (i + 1) prob sx sy (by omega) (by omega) (fun j h1 h2 => hf j (by omega) (by omega))
    rw [flagSum_succ, flagSum_succ, flagSum2_succ]
    by_cases fx : rowx.getD i 0 = 0 <;> by_cases fy : rowy.getD i 0 = 0
    · simp only [matchLoop, ex, ey, fx, fy, Option.bind_eq_bind, Option.bind_some, ne_eq, not_true_eq_false,
        if_false, and_self]
      rw [ih']; simp
    · simp only [matchLoop, ex, ey, hq, fx, fy, Option.bind_eq_bind, Option.bind_some, ne_eq, not_true_eq_false,
        not_false_eq_true, if_true, if_false, false_and, Option.map_some, sn_add]
      rw [ih']; simp; ring
    · simp only [matchLoop, ex, ey, hq, fx, fy, Option.bind_eq_bind, Option.bind_some, ne_eq, not_true_eq_false,
        not_false_eq_true, if_true, if_false, and_false, Option.map_some, sn_add]
      rw [ih']; simp; ring
    · simp only [matchLoop, ex, ey, hq, fx, fy, Option.bind_eq_bind, Option.bind_some, ne_eq,
        not_false_eq_true, if_true, and_self, Option.map_some, sn_add, sn_mul]
      rw [ih']; simp
      refine ⟨by ring, by ring, by ring⟩

theorem matchProb_formula (a : Alphabet) (h : a.WFDegen) (x y : Nat) (hx : x < a.Kp) (hy : y < a.Kp)
    (hrx : a.xIsResidue x = true) (hry : a.xIsResidue y = true) (hnc : (a.xIsCanonical x && a.xIsCanonical y) = false)
    (p : List ℚ) (hp : a.K ≤ p.length) :
    a.matchProb x y (some p) =
      some (flagSum2 (a.degen.getD x []) (a.degen.getD y []) (fun j => p.getD j 0 * p.getD j 0) 0 a.K /
        (flagSum (a.degen.getD x []) (fun j => p.getD j 0) 0 a.K * flagSum (a.degen.getD y []) (fun j => p.getD j 0) 0 a.K)) := by
  obtain ⟨e1, lx, _⟩ := h.row hx
  obtain ⟨e2, ly, _⟩ := h.row hy
  unfold matchProb
  simp only [hnc, Bool.false_eq_true, if_false, hrx, hry, Bool.not_true, Bool.or_self, e1, e2, Option.bind_eq_bind,
    Option.bind_some]
  rw [matchLoop_sum _ _ _ (fun j => p.getD j 0) a.K 0 _ _ _ (by omega) (by omega)
    (fun j _ hj => getElem?_eq_some_getD p j 0 (by omega))]
  simp only [Option.bind_some, sn_zero, zero_add, sn_div, sn_mul]

/-! ## `esl_abc_Match(abc, x, y, NULL)`: with the uniform background the match probability of two residue codes is
|S(x) ∩ S(y)| / (|S(x)| · |S(y)|) -/

/-- the canonical residues common to the sets of `x` and `y` -/
def commonSet (a : Alphabet) (x y : Nat) : List Nat :=
  (List.range a.K).filter fun j => (a.degen.getD x []).getD j 0 ≠ 0 ∧ (a.degen.getD y []).getD j 0 ≠ 0

theorem sum_map_const (l : List Nat) (c : ℚ) : (l.map fun _ => c).sum = (l.length : ℚ) * c := by
  induction l with
  | nil => simp
  | cons x xs ih => rw [List.map_cons, List.sum_cons, ih, List.length_cons]; push_cast; ring

theorem flagSum2_common (a : Alphabet) (x y : Nat) (fv : Nat → ℚ) :
    flagSum2 (a.degen.getD x []) (a.degen.getD y []) fv 0 a.K = ((a.commonSet x y).map fv).sum := by
  unfold flagSum2 commonSet
  rw [List.range_eq_range']

theorem matchProb_uniform (a : Alphabet) (h : a.WFDegen) (hK : 1 ≤ a.K) (x y : Nat) (hx : x < a.Kp) (hy : y < a.Kp)
    (hrx : a.xIsResidue x = true) (hry : a.xIsResidue y = true) (hnc : (a.xIsCanonical x && a.xIsCanonical y) = false) :
    a.matchProb x y (none : Option (List ℚ)) =
      some (((a.commonSet x y).length : ℚ) / (((a.degenSet x).length : ℚ) * ((a.degenSet y).length : ℚ))) := by
  obtain ⟨e1, lx, _⟩ := h.row hx
  obtain ⟨e2, ly, _⟩ := h.row hy
  unfold matchProb
  simp only [hnc, Bool.false_eq_true, if_false, hrx, hry, Bool.not_true, Bool.or_self, e1, e2, Option.bind_eq_bind,
    Option.bind_some]
  rw [matchLoop_sum _ _ _ (fun _ => (1 : ℚ) / (a.K : ℚ)) a.K 0 _ _ _ (by omega) (by omega)
    (fun j _ hj => by simp only [sn_div, sn_ofNat, Nat.cast_one])]
  simp only [Option.bind_some, sn_zero, zero_add, sn_div, sn_mul]
  rw [flagSum2_common, flagSum_degenSet, flagSum_degenSet, sum_map_const, sum_map_const, sum_map_const]
  congr 1
  have hKq : (a.K : ℚ) ≠ 0 := by exact_mod_cast (by omega : a.K ≠ 0)
  by_cases hx0 : ((a.degenSet x).length : ℚ) = 0
  · rw [hx0]; simp
  · by_cases hy0 : ((a.degenSet y).length : ℚ) = 0
    · rw [hy0]; simp
    · field_simp

end Alphabet
end EaselModel.Alphabet
