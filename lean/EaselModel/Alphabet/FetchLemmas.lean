import EaselModel.Alphabet.DealignLemmas
import EaselModel.Alphabet.Model3
import EaselModel.Alphabet.ValidateLemmas
/-! # C08 — `esl_sq_FetchFromMSA`: dealigning a row in text mode (`esl_strdealign`, gap characters "-_.~") and in digital mode
(`esl_abc_XDealign` / `esl_abc_CDealign`, gap and missing-data codes) keep the same columns, so fetching commutes with
digitising; and the ss buffer of a reused `ESL_SQ` across `esl_sq_GetFromMSA` calls -/
namespace EaselModel.Alphabet.Sq
open EaselModel.Alphabet EaselModel.Alphabet.Alphabet

/-- the columns `esl_strdealign` keeps: those whose `aseq` character is not a gap character -/
def keptText : List Nat → List Nat → List Nat
  | c :: cs, x :: xs => if c ∈ gapchars then keptText cs xs else x :: keptText cs xs
  | _, _ => []

/-- a two-residue dummy alphabet, to read `esl_strdealign`'s loop as an instance of the dealign loop: flag 1 = its gap code -/
def dummy : Alphabet := { type := 0, K := 1, Kp := 5, sym := [], inmap := [], degen := [], ndegen := [], complement := none }
def flag (c : Nat) : Nat := if c ∈ gapchars then 1 else 0

theorem keepRef_flag (c : Nat) : dummy.keepRef (flag c) = !decide (c ∈ gapchars) := by
  unfold flag keepRef xIsGap xIsMissing dummy
  by_cases h : c ∈ gapchars <;> simp [h]

theorem strdealignLoop_eq (aseq : List Nat) : ∀ (apos n : Nat) (s : List Nat),
    strdealignLoop aseq apos n s = dummy.dealignLoop 0 (aseq.map flag) (apos + 1) n s := by
  induction aseq with
  | nil => intro apos n s; rfl
  | cons c cs ih =>
    intro apos n s
    have hk := keepRef_flag c
    unfold keepRef at hk
    rw [List.map_cons]
    unfold strdealignLoop dealignLoop
    by_cases h : c ∈ gapchars
    · simp only [h, if_true, hk, decide_true, Bool.not_true, Bool.false_eq_true, if_false]
      exact ih (apos + 1) n s
    · simp only [h, if_false, hk, decide_false, Bool.not_false, if_true, Nat.add_sub_cancel, Nat.add_zero]
      cases s[apos]? with
      | none => rfl
      | some v =>
        simp only [Option.bind_eq_bind, Option.bind_some]
        by_cases hn : n < s.length
        · rw [if_pos hn, if_pos hn]; exact ih (apos + 1) (n + 1) _
        · rw [if_neg hn, if_neg hn]

theorem keptOf_flag (aseq s : List Nat) : keptOf dummy (aseq.map flag) s = keptText aseq s := by
  induction aseq generalizing s with
  | nil => cases s <;> rfl
  | cons c cs ih =>
    cases s with
    | nil => rfl
    | cons x xs =>
      rw [List.map_cons]
      unfold keptOf keptText
      rw [keepRef_flag, ih]
      by_cases h : c ∈ gapchars <;> simp [h]

theorem strdealign_spec (s aseq : List Nat) (hl : aseq.length ≤ s.length) :
    strdealign s aseq = some (keptText aseq s, (keptText aseq s).length) := by
  unfold strdealign
  rw [strdealignLoop_eq]
  have := dealignLoop_spec dummy 0 s (aseq.map flag) 0 [] (by simp) (by simpa using hl)
  simp only [List.take_zero, List.nil_append, List.length_nil, Nat.add_zero, List.drop_zero, Nat.zero_add] at this
  rw [keptOf_flag] at this
  simp only [this, Option.bind_eq_bind, Option.bind_some]
  simp

/-- `a` reads exactly the gap characters "-_.~" as its gap or missing-data code -/
def GapCharsOK (a : Alphabet) : Prop :=
  ∀ c, c < 128 → ((a.inmapAt c = a.K ∨ a.inmapAt c + 1 = a.Kp) ↔ c ∈ gapchars)

instance (a : Alphabet) : Decidable (GapCharsOK a) := by unfold GapCharsOK; infer_instance

theorem keptOf_codes (a : Alphabet) (h : GapCharsOK a) (row : List Nat) (hv : ∀ c ∈ row, c < 128) (xs : List Nat) :
    keptOf a (row.map a.inmapAt) xs = keptText row xs := by
  induction row generalizing xs with
  | nil => cases xs <;> rfl
  | cons c cs ih =>
    cases xs with
    | nil => rfl
    | cons x xs =>
      rw [List.map_cons]
      unfold keptOf keptText
      rw [ih (fun c' hc' => hv c' (List.mem_cons_of_mem _ hc'))]
      have hg := h c (hv c List.mem_cons_self)
      unfold keepRef xIsGap xIsMissing
      by_cases hc : c ∈ gapchars
      · have := hg.mpr hc
        rw [if_pos hc]
        rcases this with e | e <;> simp [e]
      · have hn : ¬ (a.inmapAt c = a.K ∨ a.inmapAt c + 1 = a.Kp) := fun e => hc (hg.mp e)
        rw [if_neg hc]
        have h1 : ¬ a.inmapAt c = a.K := fun e => hn (Or.inl e)
        have h2 : ¬ a.inmapAt c + 1 = a.Kp := fun e => hn (Or.inr e)
        simp [h1, h2]

theorem keptText_map (f : Nat → Nat) (row xs : List Nat) : (keptText row xs).map f = keptText row (xs.map f) := by
  induction row generalizing xs with
  | nil => cases xs <;> rfl
  | cons c cs ih =>
    cases xs with
    | nil => rfl
    | cons x xs =>
      rw [List.map_cons]
      unfold keptText
      by_cases hc : c ∈ gapchars
      · rw [if_pos hc, if_pos hc]; exact ih xs
      · rw [if_neg hc, if_neg hc, List.map_cons, ih xs]

theorem keptText_subset (row xs : List Nat) : ∀ x ∈ keptText row xs, x ∈ xs := by
  induction row generalizing xs with
  | nil => intro x hx; cases xs <;> simp [keptText] at hx
  | cons c cs ih =>
    cases xs with
    | nil => intro x hx; simp [keptText] at hx
    | cons y ys =>
      intro x hx
      unfold keptText at hx
      by_cases hc : c ∈ gapchars
      · rw [if_pos hc] at hx; exact List.mem_cons_of_mem _ (ih ys x hx)
      · rw [if_neg hc] at hx
        rcases List.mem_cons.mp hx with e | e
        · rw [e]; exact List.mem_cons_self
        · exact List.mem_cons_of_mem _ (ih ys x e)

theorem fetch_modes_agree (a : Alphabet) (hg : GapCharsOK a) (hKp : a.Kp ≤ 250) (row ss : List Nat)
    (hv : ∀ c ∈ row, a.cIsValid c = true) (hss : ss.length = row.length) :
    fetchText row (some ss) = some { seq := keptText row row, ss := some (keptText row ss), n := (keptText row row).length } ∧
    fetchDigital a (mkDsq (row.map a.inmapAt)) (some ss) =
      some { seq := mkDsq ((keptText row row).map a.inmapAt), ss := some (keptText row ss), n := (keptText row row).length } ∧
    a.digitize (keptText row row) = (.ok, mkDsq ((keptText row row).map a.inmapAt)) := by
  have h7 : ∀ c ∈ row, c < 128 := fun c hc => ((cIsValid_iff a c).mp (hv c hc)).1
  have hlt : ∀ c ∈ row, a.inmapAt c < a.Kp := fun c hc => ((cIsValid_iff a c).mp (hv c hc)).2
  have hsent : SENTINEL ∉ row.map a.inmapAt := by
    intro hm
    obtain ⟨c, hc, he⟩ := List.mem_map.mp hm
    have := hlt c hc
    unfold SENTINEL at he; omega
  refine ⟨?_, ?_, ?_⟩
  · unfold fetchText
    simp only [strdealign_spec ss row (by omega), strdealign_spec row row (Nat.le_refl _), Option.map_some, Option.bind_eq_bind,
      Option.bind_some]
  · unfold fetchDigital
    have e1 := cDealign_spec a ss (row.map a.inmapAt) hsent (by simp; omega)
    have e2 := xDealign_spec a (row.map a.inmapAt) (row.map a.inmapAt) hsent (Nat.le_refl _)
    rw [keptOf_codes a hg row h7] at e1 e2
    simp only [e1, e2, Option.map_some, Option.bind_eq_bind, Option.bind_some]
    rw [← keptText_map, List.length_map]
  · exact digitize_of_valid a _ (List.all_eq_true.mpr fun c hc => hv c (keptText_subset row row c hc))

/-! ## the ss buffer of a reused `ESL_SQ` across `esl_sq_GetFromMSA` calls: with the buffer allocated to `salloc` cells no history
of calls overflows it; allocated to the exact SS-line length (the code before fix 4807e60) the second, wider call does -/

/-- the invariant: a non-NULL ss buffer has `salloc` cells -/
def SsInv (st : SsAlloc) : Prop := st.ssCap = none ∨ st.ssCap = some st.salloc

theorem getAlloc_inv (extra : Nat) (st : SsAlloc) (h : SsInv st) (alen : Nat) (hasSs : Bool) :
    ∃ st', getAlloc false extra st alen hasSs = some st' ∧ SsInv st' ∧ alen + extra ≤ st'.salloc := by
  unfold getAlloc
  by_cases hg : alen + extra > st.salloc
  · simp only [hg, if_true]
    rcases h with h | h
    · cases hasSs
      · exact ⟨_, rfl, Or.inl (by simp [h]), Nat.le_refl _⟩
      · simp only [Bool.not_true, Bool.false_eq_true, if_false, h, Option.map_none]
        exact ⟨_, rfl, Or.inr rfl, Nat.le_refl _⟩
    · cases hasSs
      · exact ⟨_, rfl, Or.inr (by simp [h]), Nat.le_refl _⟩
      · simp only [Bool.not_true, Bool.false_eq_true, if_false, h, Option.map_some]
        rw [if_pos (Nat.le_refl _)]
        exact ⟨_, rfl, Or.inr rfl, Nat.le_refl _⟩
  · simp only [hg, if_false]
    have hle : alen + extra ≤ st.salloc := by omega
    cases hasSs
    · exact ⟨st, rfl, h, hle⟩
    · simp only [Bool.not_true, Bool.false_eq_true, if_false]
      rcases h with h | h
      · rw [h]; exact ⟨_, rfl, Or.inr rfl, hle⟩
      · rw [h]; simp only []; rw [if_pos hle]; exact ⟨st, rfl, Or.inr h, hle⟩

theorem getAllocRun_safe (extra : Nat) (hist : List (Nat × Bool)) (st : SsAlloc) (h : SsInv st) :
    (getAllocRun false extra st hist).isSome = true := by
  induction hist generalizing st with
  | nil => rfl
  | cons c rest ih =>
    obtain ⟨alen, hasSs⟩ := c
    obtain ⟨st', e, hi, _⟩ := getAlloc_inv extra st h alen hasSs
    unfold getAllocRun
    rw [e]
    exact ih st' hi

end EaselModel.Alphabet.Sq
