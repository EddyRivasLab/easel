import EaselModel.Alphabet.ObjModel
import EaselModel.Alphabet.SqResidueLemmas
import EaselModel.Alphabet.ValidateLemmas
import EaselModel.Alphabet.SqLemmas
/-! # C08 — `esl_sq_Grow` / `esl_sq_GrowTo` cover what the caller will write; the mode-changing operations on an
`ESL_SQ` with markup never touch a markup buffer outside its allocation, keep the markup aligned with the residues, and
`esl_sq_ReverseComplement` drops it -/
namespace EaselModel.Alphabet.Sq
open EaselModel.Alphabet EaselModel.Alphabet.Alphabet

/-- the doubling loop in closed form: it stops after `j` doublings, at the first `j ≥ 1` that makes `nsafe` positive or when the
    fuel is spent -/
theorem growLoop_eq : ∀ (f : Nat) (nsafe new : Int), ∃ j, j ≤ f ∧ (f ≠ 0 → 1 ≤ j) ∧
    growLoop f nsafe new = (nsafe + new * (2 ^ j - 1), new * 2 ^ j) ∧ (j < f → 1 ≤ nsafe + new * (2 ^ j - 1)) := by
  intro f
  induction f with
  | zero => intro nsafe new; exact ⟨0, Nat.le_refl _, fun h => absurd rfl h, by simp [growLoop], fun h => absurd h (by omega)⟩
  | succ f ih =>
    intro nsafe new
    unfold growLoop
    simp only []
    by_cases c : nsafe + new < 1
    · obtain ⟨j, h1, _, h3, h4⟩ := ih (nsafe + new) (new * 2)
      rw [if_pos c, h3]
      have e : nsafe + new + new * 2 * (2 ^ j - 1) = nsafe + new * (2 ^ (j + 1) - 1) := by rw [pow_succ]; ring
      refine ⟨j + 1, by omega, fun _ => by omega, by rw [e, pow_succ]; ring_nf, fun h => ?_⟩
      rw [← e]; exact h4 (by omega)
    · rw [if_neg c]
      exact ⟨1, by omega, fun _ => Nat.le_refl _, by simp, fun _ => by simpa using Int.not_lt.mp c⟩

theorem growLoop_diff : ∀ (f : Nat) (nsafe new : Int), (growLoop f nsafe new).1 - (growLoop f nsafe new).2 = nsafe - new := by
  intro f nsafe new
  obtain ⟨j, _, _, e, _⟩ := growLoop_eq f nsafe new
  rw [e]; ring

theorem growLoop_ge : ∀ (f : Nat) (nsafe new : Int), 0 ≤ new → new ≤ (growLoop f nsafe new).2 := by
  intro f nsafe new h
  obtain ⟨j, _, _, e, _⟩ := growLoop_eq f nsafe new
  rw [e]; exact le_mul_of_one_le_right h (one_le_pow₀ (by norm_num))

theorem growLoop_pow : ∀ (f : Nat) (nsafe new : Int), f ≠ 0 → ∃ k, 1 ≤ k ∧ (growLoop f nsafe new).2 = new * 2 ^ k := by
  intro f nsafe new hf
  obtain ⟨j, _, hj, e, _⟩ := growLoop_eq f nsafe new
  exact ⟨j, hj hf, by rw [e]⟩

theorem growLoop_term : ∀ (f : Nat) (nsafe new : Int), 1 ≤ nsafe + new * ((2 : Int) ^ f - 1) → 1 ≤ (growLoop f nsafe new).1 := by
  intro f nsafe new h
  obtain ⟨j, hj, _, e, hpos⟩ := growLoop_eq f nsafe new
  rw [e]
  by_cases c : j < f
  · exact hpos c
  · rwa [show j = f by omega]

/-- digital mode is text mode with one more cell (the leading sentinel) -/
theorem sqGrowN_cells (digital : Bool) (salloc n : Nat) :
    sqGrowN digital salloc n = sqGrowN false salloc (n + (if digital then 1 else 0)) := by
  cases digital
  · rfl
  · unfold sqGrowN
    simp only [if_true, Bool.false_eq_true, if_false]
    rw [show (salloc : Int) - 1 - n = (salloc : Int) - ((n + 1 : Nat) : Int) by omega]

theorem sqGrowN_text (salloc m : Nat) (h1 : 1 ≤ salloc) (hm : m + 1 ≤ 2 ^ 64) :
    1 ≤ (sqGrowN false salloc m).1 ∧ ((sqGrowN false salloc m).2 : Int) = m + (sqGrowN false salloc m).1 ∧
    salloc ≤ (sqGrowN false salloc m).2 ∧ (∃ k, (sqGrowN false salloc m).2 = salloc * 2 ^ k) ∧
    (m + 1 ≤ salloc → (sqGrowN false salloc m).2 = salloc) := by
  unfold sqGrowN
  simp only [Bool.false_eq_true, if_false]
  by_cases c : (salloc : Int) - m < 1
  · obtain ⟨j, hj, _, e, hpos⟩ := growLoop_eq 64 ((salloc : Int) - m) salloc
    rw [if_pos c, e]
    simp only []
    -- everything is linear in `salloc * 2 ^ j`
    have hP : (salloc : Int) * 2 ^ j = ((salloc * 2 ^ j : Nat) : Int) := by push_cast; rfl
    have hle : salloc ≤ salloc * 2 ^ j := Nat.le_mul_of_pos_right _ (Nat.two_pow_pos j)
    rw [hP, Int.toNat_natCast]
    refine ⟨?_, by push_cast; ring, hle, ⟨j, rfl⟩, fun h => by omega⟩
    by_cases hj64 : j < 64
    · exact hpos hj64
    · -- the fuel is spent: 64 doublings of at least one cell exceed every `m < 2 ^ 64`
      have : j = 64 := by omega
      subst this
      have : 2 ^ 64 ≤ salloc * 2 ^ 64 := Nat.le_mul_of_pos_left _ h1
      push_cast at hP ⊢
      omega
  · rw [if_neg c]
    exact ⟨by omega, by simp only []; omega, Nat.le_refl _, ⟨0, by simp⟩, fun _ => rfl⟩

theorem sqGrowN_spec (digital : Bool) (salloc n : Nat) (h1 : 1 ≤ salloc) (hn : n + 2 ≤ 2 ^ 64) :
    1 ≤ (sqGrowN digital salloc n).1 ∧
    ((sqGrowN digital salloc n).2 : Int) = n + (if digital then 1 else 0) + (sqGrowN digital salloc n).1 ∧
    salloc ≤ (sqGrowN digital salloc n).2 ∧
    (∃ k, (sqGrowN digital salloc n).2 = salloc * 2 ^ k) ∧
    (n + (if digital then 2 else 1) ≤ salloc → (sqGrowN digital salloc n).2 = salloc) := by
  rw [sqGrowN_cells]
  cases digital
  · simpa using sqGrowN_text salloc n h1 (by omega)
  · simpa using sqGrowN_text salloc (n + 1) h1 (by omega)

theorem sqGrowN_snd (digital : Bool) (salloc n : Nat) : (sqGrowN digital salloc n).2 = sqGrow digital salloc n := by
  unfold sqGrowN sqGrow
  cases digital <;> simp only [Bool.false_eq_true, if_false, if_true] <;> split <;> rfl

theorem sqGrowTo_spec (digital : Bool) (salloc n : Nat) :
    n + (if digital then 2 else 1) ≤ sqGrowTo digital salloc n ∧ salloc ≤ sqGrowTo digital salloc n ∧
    (sqGrowTo digital salloc n = salloc ∨ sqGrowTo digital salloc n = n + (if digital then 2 else 1)) := by
  unfold sqGrowTo
  cases digital <;> simp only [Bool.false_eq_true, if_false, if_true] <;> split <;> omega

/-- the cell the caller writes next (`seq[n]` / `dsq[n+1]`) lies inside what `esl_sq_Grow` leaves -/
theorem sqGrowN_room (digital : Bool) (salloc n : Nat) (h1 : 1 ≤ salloc) (hn : n + 2 ≤ 2 ^ 64) :
    n + (if digital then 2 else 1) ≤ (sqGrowN digital salloc n).2 := by
  obtain ⟨a1, a2, _⟩ := sqGrowN_spec digital salloc n h1 hn
  cases digital <;> simp only [if_true, Bool.false_eq_true, if_false] at a2 ⊢ <;> omega

namespace SqObj

/-- what every constructor establishes: room for the residues and their terminator(s), markup buffers of `salloc` cells,
    markup strings as long as the sequence -/
structure Inv (o : SqObj) : Prop where
  room : o.n + (if o.digital then 2 else 1) ≤ o.salloc
  cap : o.mcap = o.salloc
  ss : ∀ s ∈ o.ss, s.length = o.n
  xr : ∀ s ∈ o.xr, s.length = o.n

theorem body_mkDsq (l : List Nat) : body (mkDsq l) = l := by
  unfold body mkDsq
  simp

theorem mkObj_inv (digital : Bool) (res : List Nat) (ss : Option (List Nat)) (xr : List (List Nat))
    (hss : ∀ s ∈ ss, s.length = res.length) (hxr : ∀ s ∈ xr, s.length = res.length) (o : SqObj)
    (h : mkObj digital false res ss xr = some o) : o.Inv := by
  unfold mkObj at h
  simp only [Bool.false_eq_true, if_false, Option.some.injEq] at h
  subst h
  cases digital <;> exact ⟨by simp [n], rfl, hss, hxr⟩

/-- `esl_sq_Grow` changes nothing but the allocation, and the markup buffers follow it -/
theorem grow_eq (o : SqObj) (hc : o.mcap = o.salloc) :
    o.grow = ((sqGrowN o.digital o.salloc o.n).1,
      { o with salloc := (sqGrowN o.digital o.salloc o.n).2, mcap := (sqGrowN o.digital o.salloc o.n).2 }) := by
  unfold grow
  by_cases e : (sqGrowN o.digital o.salloc o.n).2 = o.salloc
  · simp only [ne_eq, e, not_true_eq_false, if_false, hc]
  · simp only [ne_eq, e, not_false_eq_true, if_true]

theorem grow_inv (o : SqObj) (h : o.Inv) (hn : o.n + 2 ≤ 2 ^ 64) :
    o.grow.2.Inv ∧ 1 ≤ o.grow.1 ∧ (o.grow.2.salloc : Int) = o.n + (if o.digital then 1 else 0) + o.grow.1 ∧
    o.grow.2 = { o with salloc := o.grow.2.salloc, mcap := o.grow.2.salloc } := by
  have h1 : 1 ≤ o.salloc := by have := h.room; split at this <;> omega
  obtain ⟨s1, s2, s3, _, _⟩ := sqGrowN_spec o.digital o.salloc o.n h1 hn
  rw [grow_eq o h.cap]
  exact ⟨⟨sqGrowN_room o.digital o.salloc o.n h1 hn, rfl, h.ss, h.xr⟩, s1, s2, rfl⟩

theorem growTo_eq (o : SqObj) (hc : o.mcap = o.salloc) (k : Nat) :
    o.growTo k = { o with salloc := sqGrowTo o.digital o.salloc k, mcap := sqGrowTo o.digital o.salloc k } := by
  unfold growTo
  by_cases e : sqGrowTo o.digital o.salloc k = o.salloc
  · simp only [ne_eq, e, not_true_eq_false, if_false, hc]
  · simp only [ne_eq, e, not_false_eq_true, if_true]

theorem growTo_inv (o : SqObj) (h : o.Inv) (k : Nat) :
    (o.growTo k).Inv ∧ k + (if o.digital then 2 else 1) ≤ (o.growTo k).salloc ∧
    o.growTo k = { o with salloc := (o.growTo k).salloc, mcap := (o.growTo k).salloc } := by
  obtain ⟨s1, s2, _⟩ := sqGrowTo_spec o.digital o.salloc k
  rw [growTo_eq o h.cap]
  exact ⟨⟨Nat.le_trans h.room s2, rfl, h.ss, h.xr⟩, s1, rfl⟩

theorem append_spec (o : SqObj) (h : o.Inv) (hn : o.n + 3 ≤ 2 ^ 64) (r m : Nat) :
    ∃ ns o', append o r m = some (ns, o') ∧ o'.Inv ∧ o'.res = o.res ++ [r] ∧ o'.ss = o.ss.map (· ++ [m]) ∧
      o'.xr = o.xr.map (· ++ [m]) ∧ o'.digital = o.digital ∧ o.salloc ≤ o'.salloc := by
  have hroom := h.room
  have hss := h.ss
  have hxr := h.xr
  unfold n at hn hroom hss hxr
  have h1 : 1 ≤ o.salloc := by split at hroom <;> omega
  have r1 := sqGrowN_room o.digital o.salloc o.res.length h1 (by omega)
  have m1 := (sqGrowN_spec o.digital o.salloc o.res.length h1 (by omega)).2.2.1
  generalize hs1 : (sqGrowN o.digital o.salloc o.res.length).2 = s1 at r1 m1
  have r2 := sqGrowN_room o.digital s1 (o.res.length + 1) (by omega) (by omega)
  have m2 := (sqGrowN_spec o.digital s1 (o.res.length + 1) (by omega) (by omega)).2.2.1
  generalize hs2 : (sqGrowN o.digital s1 (o.res.length + 1)).2 = s2 at r2 m2
  have hn1 : (o.res ++ [r]).length = o.res.length + 1 := by simp
  refine ⟨(sqGrowN o.digital o.salloc o.res.length).1 + (sqGrowN o.digital s1 (o.res.length + 1)).1,
    { o with res := o.res ++ [r], ss := o.ss.map (· ++ [m]), xr := o.xr.map (· ++ [m]), salloc := s2, mcap := s2 }, ?_,
    ⟨?_, rfl, ?_, ?_⟩, rfl, rfl, rfl, rfl, by show o.salloc ≤ s2; omega⟩
  · have g2 := grow_eq { o with salloc := s1, mcap := s1, res := o.res ++ [r], ss := o.ss.map (· ++ [m]), xr := o.xr.map (· ++ [m]) } rfl
    simp only [n, hn1, hs2] at g2
    unfold append
    simp only [grow_eq o h.cap, n, hs1]
    rw [if_neg (by cases hd : o.digital <;> simp [hd] at r1 ⊢ <;> omega)]
    simp only [g2, hn1]
    rw [if_neg (by cases hd : o.digital <;> simp [hd] at r2 ⊢ <;> omega)]
  · show (o.res ++ [r]).length + _ ≤ s2
    rw [hn1]; exact r2
  · intro s hs
    obtain ⟨s0, hs0, rfl⟩ := Option.mem_map.mp hs
    show (s0 ++ [m]).length = (o.res ++ [r]).length
    rw [hn1, List.length_append, hss s0 hs0]; rfl
  · intro s hs
    obtain ⟨s0, hs0, rfl⟩ := List.mem_map.mp hs
    show (s0 ++ [m]).length = (o.res ++ [r]).length
    rw [hn1, List.length_append, hxr s0 hs0]; rfl

/-- the allocation after `esl_sq_Digitize`: raised to `n+2` when it was smaller -/
def dsz (o : SqObj) : Nat := if o.salloc < o.n + 2 then o.n + 2 else o.salloc

/-- the object `esl_sq_Digitize` leaves on valid text -/
def digitized (a : Alphabet) (o : SqObj) : SqObj :=
  { o with digital := true, res := o.res.map a.inmapAt, salloc := o.dsz, mcap := o.dsz }

theorem digitize_spec (a : Alphabet) (o : SqObj) (h : o.Inv) :
    (o.digital = true → digitize a o = some (.ok, o)) ∧
    (o.digital = false → o.res.all a.cIsValid = false → digitize a o = some (.einval, o)) ∧
    (o.digital = false → o.res.all a.cIsValid = true →
      digitize a o = some (.ok, o.digitized a) ∧ (o.digitized a).Inv) := by
  refine ⟨fun hd => by unfold digitize; rw [if_pos hd], fun hd hv => ?_, fun hd hv => ?_⟩
  · unfold digitize validateSeq
    rw [if_neg (by simp [hd]), hv]; simp
  · have hval : validateSeq a o.res = .ok := by unfold validateSeq; rw [hv]; rfl
    have hdig := digitize_of_valid a o.res hv
    constructor
    · unfold digitize
      rw [if_neg (by simp [hd]), hval]
      simp only [ne_eq, not_true_eq_false, if_false, hdig, body_mkDsq]
      have hcap := h.cap
      by_cases c : o.salloc < o.n + 2
      · simp only [c, if_true]
        rw [if_neg (by simp)]
        unfold digitized dsz; rw [if_pos c]
      · simp only [c, if_false]
        rw [if_neg (by simp; intro _; omega)]
        unfold digitized dsz; rw [if_neg c, hcap]
    · refine ⟨?_, rfl, ?_, ?_⟩
      · show (o.res.map a.inmapAt).length + (if true = true then 2 else 1) ≤ o.dsz
        simp only [List.length_map, if_true]; unfold dsz n; split <;> omega
      · intro s hs; have := h.ss s hs; simpa [n, digitized] using this
      · intro s hs; have := h.xr s hs; simpa [n, digitized] using this

theorem textize_spec (a : Alphabet) (o : SqObj) (h : o.Inv) (hd : o.digital = true) (hv : ∀ x ∈ o.res, x < a.sym.length) :
    textize a o = some (.ok, { o with digital := false, res := o.res.map a.symAt }) ∧
    ({ o with digital := false, res := o.res.map a.symAt } : SqObj).Inv := by
  have hroom := h.room
  rw [hd] at hroom; simp only [if_true] at hroom
  constructor
  · unfold textize
    rw [hd]
    simp only [Bool.not_true, Bool.false_eq_true, if_false]
    rw [if_neg (by omega)]
    have := textize_mkDsq a o.res hv
    unfold n
    rw [this]
    simp only []
    rw [if_neg (by simp; intro _; have := h.cap; unfold n at hroom; omega)]
  · refine ⟨?_, h.cap, ?_, ?_⟩
    · show (o.res.map a.symAt).length + (if false = true then 2 else 1) ≤ o.salloc
      simp only [List.length_map, Bool.false_eq_true, if_false]; unfold n at hroom; omega
    · intro s hs; have := h.ss s hs; simpa [n] using this
    · intro s hs; have := h.xr s hs; simpa [n] using this

theorem revcomp_markup (a : Alphabet) (o : SqObj) (h : o.Inv) :
    (o.digital = false → ∃ st, (st = .ok ∨ st = .einval) ∧
      revcomp a o = some (st, { o with res := (revcompText o.res).2, ss := none, xr := [], start := o.stop, stop := o.start }) ∧
      (revcompText o.res).2.length = o.n ∧
      ({ o with res := (revcompText o.res).2, ss := none, xr := [], start := o.stop, stop := o.start } : SqObj).Inv) ∧
    (o.digital = true → a.complement = none → revcomp a o = some (.eincompat, o)) ∧
    (o.digital = true → ∀ comp, a.complement = some comp → (∀ x ∈ o.res, x < comp.length) →
      revcomp a o = some (.ok, { o with res := o.res.reverse.map (compAt comp), ss := none, xr := [], start := o.stop, stop := o.start }) ∧
      ({ o with res := o.res.reverse.map (compAt comp), ss := none, xr := [], start := o.stop, stop := o.start } : SqObj).Inv) := by
  refine ⟨fun hd => ?_, fun hd hc => ?_, fun hd comp hc hv => ?_⟩
  · have hlen : (revcompText o.res).2.length = o.n := by unfold revcompText n; simp
    refine ⟨(revcompText o.res).1, ?_, ?_, hlen, ⟨?_, h.cap, fun s hs => (by cases hs), fun s hs => (by cases hs)⟩⟩
    · unfold revcompText; simp only []; split <;> simp
    · unfold revcomp; rw [hd]; rfl
    · show (revcompText o.res).2.length + (if o.digital = true then 2 else 1) ≤ o.salloc
      rw [hlen]; exact h.room
  · unfold revcomp Alphabet.revcomp
    rw [hd, hc]; rfl
  · have hr : a.revcomp (mkDsq o.res) o.res.length = .ok (some (mkDsq (o.res.reverse.map (compAt comp)))) :=
      revcomp_window a comp hc SENTINEL o.res [SENTINEL] hv
    constructor
    · unfold revcomp n
      rw [hd]
      simp only [Bool.not_true, Bool.false_eq_true, if_false, hr, body_mkDsq]
    · refine ⟨?_, h.cap, fun s hs => (by cases hs), fun s hs => (by cases hs)⟩
      show (o.res.reverse.map (compAt comp)).length + (if o.digital = true then 2 else 1) ≤ o.salloc
      have := h.room; unfold n at this; simpa using this

end SqObj
end EaselModel.Alphabet.Sq
