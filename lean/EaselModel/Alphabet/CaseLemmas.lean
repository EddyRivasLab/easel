import EaselModel.Alphabet.SetterLemmas
/-! # C08 — case-insensitivity of the input map as an invariant of constructor histories -/
namespace EaselModel.Alphabet
open Alphabet
namespace Alphabet

/-- both cases of every letter are read alike: both outside the alphabet, or both valid with the same code -/
def CaseInsensitive (a : Alphabet) : Prop :=
  ∀ lc, 97 ≤ lc → lc ≤ 122 →
    a.cIsValid lc = a.cIsValid (lc - 32) ∧ (a.cIsValid lc = true → a.inmapAt lc = a.inmapAt (lc - 32))

/-- the same, decidable (for the regenerated tables) — and stronger: the two ENTRIES of the input map are equal for every
    letter (also when both are `eslDSQ_ILLEGAL` / `eslDSQ_IGNORED`) -/
def sameCaseEntries (a : Alphabet) : Bool := (List.range 26).all fun i => a.inmapAt (97 + i) == a.inmapAt (65 + i)

theorem caseInsensitive_of_entries (a : Alphabet) (h : a.sameCaseEntries = true) : a.CaseInsensitive := by
  intro lc h1 h2
  have := List.all_eq_true.mp h (lc - 97) (List.mem_range.mpr (by omega))
  have e : a.inmapAt lc = a.inmapAt (lc - 32) := by
    have e1 : 97 + (lc - 97) = lc := by omega
    have e2 : 65 + (lc - 97) = lc - 32 := by omega
    rw [e1, e2] at this; exact beq_iff_eq.mp this
  refine ⟨?_, fun _ => e⟩
  unfold cIsValid
  rw [e]
  have : decide (lc < 128) = true := by simp; omega
  have : decide (lc - 32 < 128) = true := by simp; omega
  simp [*]

theorem sameCaseEntries_of_slices (a : Alphabet) (h : (a.inmap.drop 97).take 26 = (a.inmap.drop 65).take 26) :
    a.sameCaseEntries = true := by
  refine List.all_eq_true.mpr fun i hi => beq_iff_eq.mpr ?_
  have hi' : i < 26 := List.mem_range.mp hi
  have := congrArg (·[i]?) h
  simp only [List.getElem?_take, List.getElem?_drop, if_pos hi'] at this
  unfold inmapAt
  rw [List.getD_eq_getElem?_getD, List.getD_eq_getElem?_getD, this]

/-- a call that cannot disturb case-insensitivity: a synonym for a non-letter, an ignored set without letters, any
    SetDegeneracy, a further SetCaseInsensitive -/
def Call.keepsCase : Call → Prop
  | .equiv s _ => ¬ (97 ≤ s ∧ s ≤ 122) ∧ ¬ (65 ≤ s ∧ s ≤ 90)
  | .ignored chars => ∀ c ∈ chars, ¬ (97 ≤ c ∧ c ≤ 122) ∧ ¬ (65 ≤ c ∧ c ≤ 90)
  | _ => True

theorem cIsValid_congr (a b : Alphabet) (c : Nat) (hk : b.Kp = a.Kp) (h : b.inmapAt c = a.inmapAt c) : b.cIsValid c = a.cIsValid c := by
  unfold cIsValid; rw [hk, h]

theorem caseInsensitive_congr (a b : Alphabet) (hk : b.Kp = a.Kp)
    (h : ∀ c, (97 ≤ c ∧ c ≤ 122) ∨ (65 ≤ c ∧ c ≤ 90) → b.inmapAt c = a.inmapAt c) (ha : a.CaseInsensitive) : b.CaseInsensitive := by
  intro lc h1 h2
  have e1 := h lc (Or.inl ⟨h1, h2⟩)
  have e2 := h (lc - 32) (Or.inr ⟨by omega, by omega⟩)
  rw [cIsValid_congr a b lc hk e1, cIsValid_congr a b (lc - 32) hk e2, e1, e2]
  exact ha lc h1 h2

theorem caseLoop_id (a : Alphabet) (ha : a.CaseInsensitive) (l : List Nat) (hl : ∀ lc ∈ l, 97 ≤ lc ∧ lc ≤ 122) :
    a.caseLoop l = (.ok, a) := by
  induction l with
  | nil => rfl
  | cons lc rest ih =>
    have hlc := hl lc (by simp)
    obtain ⟨v1, v2⟩ := ha lc hlc.1 hlc.2
    have huc : toUpper lc = lc - 32 := by unfold toUpper; rw [if_pos hlc]
    have hs : a.caseStep lc = some a := by
      unfold caseStep
      simp only [huc]
      cases hv : a.cIsValid lc
      · rw [hv] at v1; simp [← v1]
      · rw [hv] at v1; have := v2 hv; simp [← v1, this]
    rw [caseLoop_cons_some a a lc rest hs]
    exact ih (fun x hx => hl x (by simp [hx]))

theorem applyCall_keepsCase (a : Alphabet) (hl : a.inmap.length = 128) (ha : a.CaseInsensitive) (c : Call) (hc : c.keepsCase) :
    (a.applyCall c).2.inmap.length = 128 ∧ (a.applyCall c).2.CaseInsensitive := by
  cases c with
  | equiv s t =>
    simp only [applyCall]
    unfold setEquiv
    cases h1 : a.strchrSym s with
    | some _ => exact ⟨hl, ha⟩
    | none =>
      cases h2 : a.strchrSym t with
      | none => exact ⟨hl, ha⟩
      | some x =>
        simp only []
        refine ⟨by simp [hl], caseInsensitive_congr a _ rfl (fun c hcl => ?_) ha⟩
        by_cases hs : s < a.inmap.length
        · rw [inmapAt_set a s x c hs, if_neg]
          intro e; subst e
          simp only [Call.keepsCase] at hc
          rcases hcl with h | h
          · exact hc.1 h
          · exact hc.2 h
        · unfold inmapAt
          show (a.inmap.set s x).getD c ILLEGAL = a.inmap.getD c ILLEGAL
          rw [List.set_eq_of_length_le (by omega)]
  | caseins =>
    simp only [applyCall]
    unfold setCaseInsensitive
    rw [caseLoop_id a ha _ letters_ok.1]
    exact ⟨hl, ha⟩
  | degen d ds =>
    simp only [applyCall]
    obtain ⟨dg, n, e⟩ := setDegeneracy_frame a d ds
    rw [e]; exact ⟨hl, ha⟩
  | ignored chars =>
    simp only [applyCall]
    obtain ⟨p1, p2, _, _, p5, _⟩ := setIgnored_post a hl chars
    refine ⟨p2, caseInsensitive_congr a _ p5 (fun c hcl => ?_) ha⟩
    rw [p1 c (by omega), if_neg]
    intro hm
    simp only [Call.keepsCase] at hc
    have := hc c hm
    rcases hcl with h | h
    · exact this.1 h
    · exact this.2 h

theorem run_keepsCase (h : List Call) (a : Alphabet) (hl : a.inmap.length = 128) (ha : a.CaseInsensitive)
    (hc : ∀ c ∈ h, c.keepsCase) : (a.run h).2.inmap.length = 128 ∧ (a.run h).2.CaseInsensitive := by
  induction h generalizing a with
  | nil => exact ⟨hl, ha⟩
  | cons c cs ih =>
    obtain ⟨l1, a1⟩ := applyCall_keepsCase a hl ha c (hc c (by simp))
    simp only [run]
    exact ih _ l1 a1 (fun x hx => hc x (by simp [hx]))

theorem run_append (h1 h2 : List Call) (a : Alphabet) : (a.run (h1 ++ h2)).2 = ((a.run h1).2.run h2).2 := by
  induction h1 generalizing a with
  | nil => rfl
  | cons c cs ih => simp only [List.cons_append, run]; exact ih _

theorem history_case_insensitive (a : Alphabet) (pre post : List Call) (hl : (a.run pre).2.inmap.length = 128)
    (hok : (a.run pre).2.setCaseInsensitive.1 = .ok) (hpost : ∀ c ∈ post, c.keepsCase) :
    (a.run (pre ++ Call.caseins :: post)).2.CaseInsensitive := by
  rw [run_append]
  simp only [run, applyCall]
  obtain ⟨p1, _, _⟩ := setCaseInsensitive_post (a.run pre).2 hl hok
  have hlen : (a.run pre).2.setCaseInsensitive.2.inmap.length = 128 := by
    unfold setCaseInsensitive at hok ⊢
    exact (caseLoop_post _ (a.run pre).2 hl letters_ok.1 letters_ok.2 hok).1
  exact (run_keepsCase post _ hlen p1 hpost).2

theorem later_letter_synonym_breaks :
    ∃ a : Alphabet, a.CaseInsensitive ∧ ¬ (a.setEquiv 98 65).2.CaseInsensitive := by
  refine ⟨((createCustom (str "ACGT-N*~") 4 8).getD ⟨0, 0, 0, [], [], [], [], none⟩).setCaseInsensitive.2, ?_, ?_⟩
  · exact caseInsensitive_of_entries _ (by decide +kernel)
  · intro h
    have := (h 98 (by decide) (by decide)).1
    revert this; decide +kernel

/-- a `SetDegeneracy(c, ds)` call that lists pairwise distinct residues none of which is already in the set of `c` (the C code
    adds one to `ndegen` per listed character without looking at the row); no condition on the other calls -/
def freshB (a : Alphabet) (c : Nat) (ds : List Nat) : Bool :=
  match a.strchrSym c with
  | none => true
  | some x => (ds.filterMap a.strchrSym).all fun y => (a.degen.getD x []).getD y 0 == 0

def Call.cleanAt (a : Alphabet) : Call → Prop
  | .degen c ds => (ds.filterMap a.strchrSym).Nodup ∧ a.freshB c ds = true
  | _ => True

instance (a : Alphabet) (c : Call) : Decidable (c.cleanAt a) := by
  cases c <;> unfold Call.cleanAt <;> infer_instance

/-- every call of the history is clean at the moment it is made -/
def cleanRun : Alphabet → List Call → Prop
  | _, [] => True
  | a, c :: cs => c.cleanAt a ∧ cleanRun (a.applyCall c).2 cs

def decCleanRun : (h : List Call) → (a : Alphabet) → Decidable (cleanRun a h)
  | [], _ => isTrue trivial
  | c :: cs, a =>
    match (inferInstance : Decidable (c.cleanAt a)), decCleanRun cs (a.applyCall c).2 with
    | isTrue h1, isTrue h2 => isTrue ⟨h1, h2⟩
    | isFalse h1, _ => isFalse fun h => h1 h.1
    | _, isFalse h2 => isFalse fun h => h2 h.2

instance (a : Alphabet) (h : List Call) : Decidable (cleanRun a h) := decCleanRun h a

theorem applyCall_wfdegen (a : Alphabet) (h : a.WFDegen) (c : Call) (hc : c.cleanAt a) : (a.applyCall c).2.WFDegen := by
  cases c with
  | equiv s t => exact setEquiv_wfdegen a h s t
  | caseins => exact setCaseInsensitive_wfdegen a h
  | ignored chars => exact setIgnored_wfdegen a h chars
  | degen c ds =>
    simp only [applyCall]
    obtain ⟨hnd, hb⟩ := hc
    have hfresh : ∀ x, a.strchrSym c = some x → ∀ y ∈ ds.filterMap a.strchrSym, (a.degen.getD x []).getD y 0 = 0 := by
      intro x hx y hy
      unfold freshB at hb; rw [hx] at hb
      exact beq_iff_eq.mp (List.all_eq_true.mp hb y hy)
    exact setDegeneracy_wfdegen a h c ds hnd hfresh

theorem run_wfdegen (h : List Call) (a : Alphabet) (hw : a.WFDegen) (hc : cleanRun a h) : (a.run h).2.WFDegen := by
  induction h generalizing a with
  | nil => exact hw
  | cons c cs ih =>
    simp only [run]
    exact ih _ (applyCall_wfdegen a hw c hc.1) hc.2

end Alphabet
end EaselModel.Alphabet
