import EaselModel.Alphabet.Sq2Model
/-! # C08 — `esl_sq_Checksum` (Jenkins one-at-a-time over the residues, exact 32-bit unsigned arithmetic):
every step is a bijection of the 32-bit state for a fixed residue and injective in the residue for a fixed state, so the
checksum tells apart any two sequences that differ in exactly one residue. Core Lean only (no `bv_decide`). -/
namespace EaselModel.Alphabet.Sq

theorem shl_add (v : BitVec 32) (k : Nat) : v + (v <<< k) = v * (1 + BitVec.twoPow 32 k) := by
  rw [BitVec.shiftLeft_eq_mul_twoPow, BitVec.mul_add]; simp

theorem mul_unit_inj (m minv : BitVec 32) (h : m * minv = 1) (v w : BitVec 32) (e : v * m = w * m) : v = w := by
  have := congrArg (· * minv) e
  simp only [BitVec.mul_assoc, h] at this
  simpa using this

/-- `v += v << k` is injective: `1 + 2^k` is odd, hence a unit modulo `2^32` -/
theorem addShl_inj (k : Nat) (minv : BitVec 32) (h : (1 + BitVec.twoPow 32 k : BitVec 32) * minv = 1) (v w : BitVec 32)
    (e : v + (v <<< k) = w + (w <<< k)) : v = w := by
  rw [shl_add, shl_add] at e; exact mul_unit_inj _ minv h v w e

/-- `v ^= v >> k` (`k > 0`) is injective: the map is GF(2)-linear and `u = u >> k` forces `u = 0` -/
theorem xorShr_inj (v w : BitVec 32) (k : Nat) (hk : 0 < k) (e : v ^^^ (v >>> k) = w ^^^ (w >>> k)) : v = w := by
  have h1 : (v ^^^ w) = (v ^^^ w) >>> k := by
    rw [BitVec.ushiftRight_xor_distrib]
    apply BitVec.eq_of_getLsbD_eq
    intro i hi
    have := congrArg (·.getLsbD i) e
    simp only [BitVec.getLsbD_xor, BitVec.getLsbD_ushiftRight] at this ⊢
    revert this
    cases v.getLsbD i <;> cases w.getLsbD i <;> cases v.getLsbD (k + i) <;> cases w.getLsbD (k + i) <;> simp
  have h2 : (v ^^^ w).toNat = (v ^^^ w).toNat / 2 ^ k := by
    have := congrArg BitVec.toNat h1
    rw [BitVec.toNat_ushiftRight, Nat.shiftRight_eq_div_pow] at this
    exact this
  have h3 : (v ^^^ w).toNat = 0 := by
    by_cases z : (v ^^^ w).toNat = 0
    · exact z
    · exfalso
      have hp : 2 ≤ 2 ^ k := by
        calc 2 = 2 ^ 1 := rfl
          _ ≤ 2 ^ k := Nat.pow_le_pow_right (by decide) hk
      have : (v ^^^ w).toNat / 2 ^ k < (v ^^^ w).toNat := Nat.div_lt_self (by omega) (by omega)
      omega
  have h4 : v ^^^ w = 0 := BitVec.eq_of_toNat_eq (by simpa using h3)
  exact BitVec.xor_eq_zero_iff.mp h4

theorem ckStep_bv (v b : UInt32) : (ckStep v b).toBitVec =
    ((v.toBitVec + b.toBitVec) + ((v.toBitVec + b.toBitVec) <<< 10)) ^^^
      (((v.toBitVec + b.toBitVec) + ((v.toBitVec + b.toBitVec) <<< 10)) >>> 6) := by
  simp [ckStep]

theorem ckFinal_bv (v : UInt32) : (ckFinal v).toBitVec =
    (((v.toBitVec + (v.toBitVec <<< 3)) ^^^ ((v.toBitVec + (v.toBitVec <<< 3)) >>> 11)) +
      (((v.toBitVec + (v.toBitVec <<< 3)) ^^^ ((v.toBitVec + (v.toBitVec <<< 3)) >>> 11)) <<< 15)) := by
  simp [ckFinal]

theorem ckStep_sum_inj (v w b c : UInt32) (e : ckStep v b = ckStep w c) : v.toBitVec + b.toBitVec = w.toBitVec + c.toBitVec := by
  have := congrArg UInt32.toBitVec e
  rw [ckStep_bv, ckStep_bv] at this
  exact addShl_inj 10 3222273025#32 (by decide) _ _ (xorShr_inj _ _ 6 (by decide) this)

theorem ckStep_inj_left (v w b : UInt32) (e : ckStep v b = ckStep w b) : v = w := by
  have h := ckStep_sum_inj v w b b e
  have := congrArg (· - b.toBitVec) h
  simp only [BitVec.add_sub_cancel] at this
  exact UInt32.toBitVec_inj.mp this

theorem ckStep_inj_right (v b c : UInt32) (e : ckStep v b = ckStep v c) : b = c := by
  have h := ckStep_sum_inj v v b c e
  rw [BitVec.add_comm v.toBitVec, BitVec.add_comm v.toBitVec] at h
  have := congrArg (· - v.toBitVec) h
  simp only [BitVec.add_sub_cancel] at this
  exact UInt32.toBitVec_inj.mp this

theorem ckFinal_inj (v w : UInt32) (e : ckFinal v = ckFinal w) : v = w := by
  have := congrArg UInt32.toBitVec e
  rw [ckFinal_bv, ckFinal_bv] at this
  have h1 := addShl_inj 15 1073709057#32 (by decide) _ _ this
  have h2 := xorShr_inj _ _ 11 (by decide) h1
  exact UInt32.toBitVec_inj.mp (addShl_inj 3 954437177#32 (by decide) _ _ h2)

theorem ckFold_inj (f : Nat → UInt32) (l : List Nat) : ∀ (v w : UInt32),
    l.foldl (fun v x => ckStep v (f x)) v = l.foldl (fun v x => ckStep v (f x)) w → v = w := by
  induction l with
  | nil => intro v w e; exact e
  | cons x xs ih => intro v w e; rw [List.foldl_cons, List.foldl_cons] at e; exact ckStep_inj_left _ _ _ (ih _ _ e)

theorem ck_substitution (f : Nat → UInt32) (pre post : List Nat) (x y : Nat)
    (e : ckFinal ((pre ++ x :: post).foldl (fun v x => ckStep v (f x)) 0) = ckFinal ((pre ++ y :: post).foldl (fun v x => ckStep v (f x)) 0)) :
    f x = f y := by
  have h := ckFinal_inj _ _ e
  rw [List.foldl_append, List.foldl_append, List.foldl_cons, List.foldl_cons] at h
  exact ckStep_inj_right _ _ _ (ckFold_inj f post _ _ h)

theorem ofNat_inj_byte (x y : Nat) (hx : x < 256) (hy : y < 256) (e : UInt32.ofNat x = UInt32.ofNat y) : x = y := by
  have := congrArg UInt32.toNat e
  simp only [UInt32.toNat_ofNat'] at this
  omega

theorem charToU32_inj (x y : Nat) (hx : x < 256) (hy : y < 256) (e : charToU32 x = charToU32 y) : x = y := by
  have := congrArg UInt32.toNat e
  unfold charToU32 at this
  split at this <;> split at this <;> simp only [UInt32.toNat_ofNat'] at this <;> omega

end EaselModel.Alphabet.Sq
