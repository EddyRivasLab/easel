import EaselModel.Alphabet.ScoreLemmas
/-! # C08 — the `*ScVec` wrappers fill exactly the degenerate slots `K+1 … Kp-3`, each with the score computed from the
canonical scores `sc[0..K-1]` (which the loop never overwrites) -/
set_option linter.dupNamespace false
namespace EaselModel.Alphabet
namespace Alphabet

theorem degenSet_lt (a : Alphabet) (x i : Nat) (h : i ∈ a.degenSet x) : i < a.K := by
  unfold degenSet at h
  exact List.mem_range.mp (List.mem_filter.mp h).1

theorem scVecLoop_spec {β : Type} (z : β) (Kp K : Nat) (sc : List β) (f : Nat → List β → Option β) (g : Nat → β)
    (hf : ∀ x cur, K < x → x + 3 ≤ Kp → cur.length = Kp → (∀ i, i < K → cur.getD i z = sc.getD i z) → f x cur = some (g x)) :
    ∀ (k x : Nat) (cur : List β), x + k + 2 = Kp → K < x → cur.length = Kp →
      (∀ i, i < K → cur.getD i z = sc.getD i z) →
      ∃ r, scVecLoop f k x cur = some r ∧ r.length = Kp ∧
        ∀ i, r.getD i z = if x ≤ i ∧ i < x + k then g i else cur.getD i z := by
  intro k
  induction k with
  | zero =>
    intro x cur _ _ hl _
    exact ⟨cur, rfl, hl, fun i => by rw [if_neg (by omega)]⟩
  | succ k ih =>
    intro x cur hk hx hl hag
    have hfx := hf x cur hx (by omega) hl hag
    have hlt : x < cur.length := by omega
    obtain ⟨r, h1, h2, h3⟩ := ih (x + 1) (cur.set x (g x)) (by omega) (by omega) (by simpa using hl)
      (fun i hi => by rw [getD_set_of_lt _ _ _ _ _ hlt, if_neg (by omega)]; exact hag i hi)
    refine ⟨r, ?_, h2, fun i => ?_⟩
    · simp only [scVecLoop, hfx, Option.bind_eq_bind, Option.bind_some, hlt, if_true]
      exact h1
    · rw [h3, getD_set_of_lt _ _ _ _ _ hlt]
      by_cases e : i = x
      · subst e; rw [if_neg (by omega), if_pos rfl, if_pos (by omega)]
      · rw [if_neg e]
        by_cases c : x + 1 ≤ i ∧ i < x + 1 + k
        · rw [if_pos c, if_pos (by omega)]
        · rw [if_neg c, if_neg (by omega)]

/-- the four `*ScVec` wrappers at once: if the score routine `f` answers `g x` for every degenerate code `x` on every vector that
    still holds the canonical scores of `sc`, the loop fills exactly the slots `K < x ≤ Kp-3` with `g x` -/
theorem scVec_fill {β : Type} (z : β) (a : Alphabet) (hK : a.K + 4 ≤ a.Kp) (sc : List β) (hl : sc.length = a.Kp)
    (f : Nat → List β → Option β) (g : Nat → β)
    (hf : ∀ x cur, a.xIsResidue x = true → x < a.Kp → cur.length = a.Kp → (∀ i, i < a.K → cur.getD i z = sc.getD i z) →
      f x cur = some (g x)) :
    ∃ r, scVecLoop f (a.Kp - 3 - a.K) (a.K + 1) sc = some r ∧ r.length = a.Kp ∧
      ∀ x, r.getD x z = if a.K < x ∧ x + 3 ≤ a.Kp then g x else sc.getD x z := by
  have hf' : ∀ x cur, a.K < x → x + 3 ≤ a.Kp → cur.length = a.Kp → (∀ i, i < a.K → cur.getD i z = sc.getD i z) →
      f x cur = some (g x) := by
    intro x cur hx hx3
    have hres : a.xIsResidue x = true := by
      simp only [xIsResidue, Bool.or_eq_true, Bool.and_eq_true, decide_eq_true_eq]; right; omega
    exact hf x cur hres (by omega)
  obtain ⟨r, h1, h2, h3⟩ := scVecLoop_spec z a.Kp a.K sc f g hf' (a.Kp - 3 - a.K) (a.K + 1) sc (by omega) (by omega) hl
    (fun _ _ => rfl)
  refine ⟨r, h1, h2, fun x => ?_⟩
  rw [h3]
  by_cases c : a.K < x ∧ x + 3 ≤ a.Kp
  · rw [if_pos c, if_pos (by omega)]
  · rw [if_neg c, if_neg (by omega)]

end Alphabet
end EaselModel.Alphabet
