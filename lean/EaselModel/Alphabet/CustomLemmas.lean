import EaselModel.Alphabet.Lemmas
import EaselModel.Alphabet.ListLemmas
/-! # C08 — custom alphabets: what `esl_alphabet_CreateCustom` + `SetEquiv` / `SetCaseInsensitive` / `SetDegeneracy` /
`SetIgnored` produce is well-formed (`Alphabet.WF`), so the conversion theorems apply to every custom alphabet -/
namespace EaselModel.Alphabet
namespace Alphabet

theorem getD_set_ne (l : List Nat) (j v i d : Nat) (h : i ≠ j) : (l.set j v).getD i d = l.getD i d := by
  rw [getD_set, if_neg fun hh => h hh.1.symm]

theorem initInmap_length (l : List Nat) (x : Nat) (m : List Nat) : (initInmap l x m).length = m.length := by
  induction l generalizing x m with
  | nil => rfl
  | cons s rest ih => simp [initInmap, ih]

theorem initInmap_notin (l : List Nat) (x : Nat) (m : List Nat) (c d : Nat) (h : c ∉ l) :
    (initInmap l x m).getD c d = m.getD c d := by
  induction l generalizing x m with
  | nil => rfl
  | cons s rest ih =>
    simp only [List.mem_cons, not_or] at h
    rw [initInmap, ih _ _ h.2, getD_set_ne _ _ _ _ _ h.1]

theorem initInmap_in (l : List Nat) (hnd : l.Nodup) (x : Nat) (m : List Nat) (hm : ∀ s ∈ l, s < m.length) (d : Nat) :
    ∀ i, i < l.length → (initInmap l x m).getD (l.getD i 0) d = x + i := by
  induction l generalizing x m with
  | nil => intro i hi; simp at hi
  | cons s rest ih =>
    intro i hi
    have hnd' := List.nodup_cons.mp hnd
    cases i with
    | zero =>
      simp only [List.getD_cons_zero, initInmap, Nat.add_zero]
      rw [initInmap_notin _ _ _ _ _ hnd'.1, getD_set_of_lt _ _ _ _ _ (hm s (by simp))]
      simp
    | succ i' =>
      simp only [List.getD_cons_succ, initInmap]
      rw [ih hnd'.2 (x + 1) (m.set s x) (fun s' hs' => by simp; exact hm s' (by simp [hs'])) i' (by simpa using hi)]
      omega

theorem createCustom_wf (syms : List Nat) (K : Nat) (hnd : syms.Nodup) (hascii : ∀ s ∈ syms, s < 128)
    (hK : 1 ≤ K) (hKp : K + 4 ≤ syms.length) (h250 : syms.length ≤ 250) :
    ∃ a, createCustom syms K syms.length = some a ∧ a.WF ∧ a.K = K ∧ a.Kp = syms.length ∧ a.sym = syms ∧
      a.complement = none := by
  have hne : ¬ syms.length * K = 0 := by
    intro h; rcases Nat.mul_eq_zero.mp h with h | h <;> omega
  refine ⟨_, by unfold createCustom; rw [if_neg (by simp), if_neg (by omega), if_neg hne], ?_, rfl, rfl, rfl, rfl⟩
  refine ⟨hKp, h250, rfl, by simp [initInmap_length], fun x hx => ?_⟩
  have hmem : syms.getD x 0 ∈ syms := by
    rw [List.getD_eq_getElem?_getD, List.getElem?_eq_getElem hx]; simp
  refine ⟨hascii _ hmem, ?_⟩
  show (initInmap syms 0 (List.replicate 128 ILLEGAL)).getD (syms.getD x 0) ILLEGAL = x
  rw [initInmap_in syms hnd 0 _ (fun s hs => by simp; exact hascii s hs) ILLEGAL x hx]
  omega

theorem symAt_mem (a : Alphabet) (h : a.WF) (x : Nat) (hx : x < a.Kp) : a.symAt x ∈ a.sym := by
  unfold symAt
  rw [List.getD_eq_getElem?_getD, List.getElem?_eq_getElem (by rw [h.2.2.1]; exact hx)]; simp

theorem strchr_none (a : Alphabet) (c : Nat) (h : a.strchrSym c = none) : c ∉ a.sym := by
  unfold strchrSym at h
  by_cases h0 : c = 0
  · simp [h0] at h
  · simp only [h0, if_false] at h
    intro hm
    have := List.idxOf_lt_length_iff.mpr hm
    simp [this] at h

theorem wf_set_inmap (a : Alphabet) (h : a.WF) (u v : Nat) (hu : u ∉ a.sym) :
    ({ a with inmap := a.inmap.set u v } : Alphabet).WF := by
  obtain ⟨h1, h2, h3, h4, h5⟩ := h
  refine ⟨h1, h2, h3, by simpa using h4, fun x hx => ?_⟩
  obtain ⟨g1, g2⟩ := h5 x hx
  refine ⟨g1, ?_⟩
  have hne : a.symAt x ≠ u := fun e => hu (e ▸ symAt_mem a ⟨h1, h2, h3, h4, h5⟩ x hx)
  show (a.inmap.set u v).getD (a.symAt x) ILLEGAL = x
  rw [getD_set_ne _ _ _ _ _ hne]
  exact g2

theorem setEquiv_wf (a : Alphabet) (h : a.WF) (sym c : Nat) : (a.setEquiv sym c).2.WF := by
  unfold setEquiv
  cases h1 : a.strchrSym sym with
  | some _ => exact h
  | none =>
    cases h2 : a.strchrSym c with
    | none => exact h
    | some x => exact wf_set_inmap a h sym x (strchr_none a sym h1)

/-- what a setter leaves alone, as one record equation (here and in the `_frame` lemmas below): a fact that does not read the
    changed field carries over by rewriting with it -/
theorem setEquiv_frame (a : Alphabet) (sym c : Nat) : ∃ m, (a.setEquiv sym c).2 = { a with inmap := m } := by
  unfold setEquiv
  cases a.strchrSym sym with
  | some _ => exact ⟨a.inmap, rfl⟩
  | none => cases a.strchrSym c <;> exact ⟨_, rfl⟩

theorem sym_valid (a : Alphabet) (h : a.WF) (x : Nat) (hx : x < a.Kp) : a.cIsValid (a.symAt x) = true := by
  obtain ⟨g1, g2⟩ := h.2.2.2.2 x hx
  unfold cIsValid
  simp [g1, g2, hx]

theorem notvalid_notin (a : Alphabet) (h : a.WF) (u : Nat) (hu : a.cIsValid u = false) : u ∉ a.sym := by
  intro hm
  obtain ⟨i, hi, rfl⟩ := List.getElem_of_mem hm
  have hi' : i < a.Kp := by rw [← h.2.2.1]; exact hi
  have : a.symAt i = a.sym[i] := by
    unfold symAt; rw [List.getD_eq_getElem?_getD, List.getElem?_eq_getElem hi]; simp
  rw [← this, sym_valid a h i hi'] at hu
  cases hu

/-- what one iteration of `esl_alphabet_SetCaseInsensitive` can do: of the two cases of a letter exactly one is valid and lends
    its code to the other (`u` := the code of `v`), or nothing changes because both are invalid or both valid with one code -/
theorem caseStep_cases (a : Alphabet) (lc : Nat) (a' : Alphabet) (hs : a.caseStep lc = some a') :
    (∃ u v, ((u = toUpper lc ∧ v = lc) ∨ (u = lc ∧ v = toUpper lc)) ∧ a.cIsValid v = true ∧ a.cIsValid u = false ∧
      a' = { a with inmap := a.inmap.set u (a.inmapAt v) }) ∨
    (a' = a ∧ a.cIsValid lc = a.cIsValid (toUpper lc) ∧ (a.cIsValid lc = true → a.inmapAt (toUpper lc) = a.inmapAt lc)) := by
  unfold caseStep at hs
  cases h1 : a.cIsValid lc <;> cases h2 : a.cIsValid (toUpper lc) <;>
    simp only [h1, h2, Bool.not_true, Bool.not_false, Bool.and_true, Bool.and_false, Bool.false_and, Bool.true_and,
      Bool.false_eq_true, if_false, if_true, Option.some.injEq, decide_eq_true_eq] at hs
  · exact Or.inr ⟨hs.symm, rfl, fun h => (by cases h)⟩
  · exact Or.inl ⟨lc, toUpper lc, Or.inr ⟨rfl, rfl⟩, h2, h1, hs.symm⟩
  · exact Or.inl ⟨toUpper lc, lc, Or.inl ⟨rfl, rfl⟩, h1, h2, hs.symm⟩
  · by_cases e : a.inmapAt (toUpper lc) = a.inmapAt lc
    · rw [if_neg (by simpa using e)] at hs
      exact Or.inr ⟨(Option.some.inj hs).symm, rfl, fun _ => e⟩
    · rw [if_pos e] at hs; cases hs

theorem caseStep_wf (a : Alphabet) (h : a.WF) (lc : Nat) (a' : Alphabet) (hs : a.caseStep lc = some a') : a'.WF := by
  rcases caseStep_cases a lc a' hs with ⟨u, v, _, _, hu, rfl⟩ | ⟨rfl, _⟩
  · exact wf_set_inmap a h _ _ (notvalid_notin a h _ hu)
  · exact h

theorem caseLoop_wf (l : List Nat) (a : Alphabet) (h : a.WF) : (a.caseLoop l).2.WF := by
  induction l generalizing a with
  | nil => exact h
  | cons lc rest ih =>
    unfold caseLoop
    cases hs : a.caseStep lc with
    | none => exact h
    | some a' => exact ih a' (caseStep_wf a h lc a' hs)

theorem setCaseInsensitive_wf (a : Alphabet) (h : a.WF) : a.setCaseInsensitive.2.WF :=
  caseLoop_wf _ a h

theorem caseLoop_frame (l : List Nat) (a : Alphabet) : ∃ m, (a.caseLoop l).2 = { a with inmap := m } := by
  induction l generalizing a with
  | nil => exact ⟨a.inmap, rfl⟩
  | cons lc rest ih =>
    unfold caseLoop
    cases hs : a.caseStep lc with
    | none => exact ⟨a.inmap, rfl⟩
    | some a' =>
      obtain ⟨m, e⟩ := ih a'
      rcases caseStep_cases a lc a' hs with ⟨_, _, _, _, _, rfl⟩ | ⟨rfl, _⟩ <;> exact ⟨m, e⟩

/-! ## `esl_alphabet_SetDegeneracy` in normal form: three guards, then a loop that never reads what it writes -/

/-- one iteration of the `while (*ds)` loop: flag residue `y` in row `x`, count it -/
def degenAdd (a : Alphabet) (x y : Nat) : Alphabet :=
  { a with degen := a.degen.set x ((a.degen.getD x []).set y 1), ndegen := a.ndegen.set x (a.ndegen.getD x 0 + 1) }

/-- the loop accepts `d`: the statement form of `(canonCode d).isSome` (`canonCode_isSome`) -/
def canonSym (a : Alphabet) (d : Nat) : Prop := ∃ y, a.strchrSym d = some y ∧ y < a.K

/-- the code of `d` if the loop accepts it: the symbol of a canonical residue -/
def canonCode (a : Alphabet) (d : Nat) : Option Nat := (a.strchrSym d).filter a.xIsCanonical

/-- the codes of the characters of `ds` before the first one the loop refuses -/
def accepted (a : Alphabet) (ds : List Nat) : List Nat :=
  (ds.takeWhile fun d => (a.canonCode d).isSome).filterMap a.canonCode

theorem canonCode_some (a : Alphabet) (d y : Nat) : a.canonCode d = some y ↔ a.strchrSym d = some y ∧ y < a.K := by
  unfold canonCode xIsCanonical
  cases a.strchrSym d <;> simp [Option.filter]
  rename_i v; constructor
  · rintro ⟨h, rfl⟩; exact ⟨rfl, h⟩
  · rintro ⟨rfl, h⟩; exact ⟨h, rfl⟩

theorem canonCode_isSome (a : Alphabet) (d : Nat) : (a.canonCode d).isSome = true ↔ a.canonSym d := by
  simp only [Option.isSome_iff_exists, canonCode_some]; rfl

theorem accepted_cons (a : Alphabet) (d : Nat) (ds : List Nat) :
    a.accepted (d :: ds) = match a.canonCode d with | some y => y :: a.accepted ds | none => [] := by
  unfold accepted
  cases h : a.canonCode d <;> simp [h]

/-- eslOK iff every character is accepted; whatever the status, the accepted prefix has been entered (the tests read `sym`
    and `K` only, which `degenAdd` leaves alone) -/
theorem degenLoop_eq (x : Nat) (ds : List Nat) (a : Alphabet) :
    a.degenLoop x ds = (if ds.all (fun d => (a.canonCode d).isSome) then .ok else .einval,
      (a.accepted ds).foldl (fun a y => a.degenAdd x y) a) := by
  induction ds generalizing a with
  | nil => rfl
  | cons d rest ih =>
    rw [accepted_cons, List.all_cons]
    unfold degenLoop canonCode
    cases a.strchrSym d with
    | none => rfl
    | some y =>
      cases hc : a.xIsCanonical y
      · simp [Option.filter, hc]
      · simp only [Option.filter, hc, not_true_eq_false, if_false, if_true, Option.isSome_some, Bool.true_and, List.foldl_cons]
        exact ih (a.degenAdd x y)

theorem accepted_lt (a : Alphabet) (ds : List Nat) (y : Nat) (h : y ∈ a.accepted ds) : y < a.K := by
  unfold accepted at h
  obtain ⟨d, _, hd⟩ := List.mem_filterMap.mp h
  exact ((canonCode_some a d y).mp hd).2

theorem accepted_prefix (a : Alphabet) (ds : List Nat) : a.accepted ds <+: ds.filterMap a.strchrSym := by
  induction ds with
  | nil => exact List.prefix_refl _
  | cons d rest ih =>
    rw [accepted_cons]
    cases h : a.canonCode d with
    | none => exact List.nil_prefix
    | some y => rw [List.filterMap_cons_some ((canonCode_some a d y).mp h).1]; exact (List.cons_prefix_cons).mpr ⟨rfl, ih⟩

/-- refused with nothing changed, or `c` is the symbol of a degenerate code `x` other than `any` and the call is the loop on
    row `x` -/
theorem setDegeneracy_cases (a : Alphabet) (c : Nat) (ds : List Nat) :
    (a.setDegeneracy c ds = (.einval, a) ∧ ¬ ∃ x, a.strchrSym c = some x ∧ a.K < x ∧ x + 3 < a.Kp) ∨
    ∃ x, a.strchrSym c = some x ∧ a.K < x ∧ x + 3 < a.Kp ∧ a.setDegeneracy c ds = a.degenLoop x ds := by
  unfold setDegeneracy
  cases hs : a.strchrSym c with
  | none => exact Or.inl ⟨rfl, fun ⟨_, h, _⟩ => by cases h⟩
  | some x =>
    simp only []
    by_cases h1 : x + 3 = a.Kp
    · rw [if_pos h1]; exact Or.inl ⟨rfl, fun ⟨x', hx', _, _⟩ => by cases hx'; omega⟩
    · by_cases h2 : x < a.K + 1 ∨ x + 2 ≥ a.Kp
      · rw [if_neg h1, if_pos h2]; exact Or.inl ⟨rfl, fun ⟨x', hx', _, _⟩ => by cases hx'; omega⟩
      · rw [if_neg h1, if_neg h2]; exact Or.inr ⟨x, rfl, by omega, by omega, rfl⟩

theorem foldl_degenAdd_frame (x : Nat) (ys : List Nat) (a : Alphabet) :
    ∃ d n, ys.foldl (fun a y => a.degenAdd x y) a = { a with degen := d, ndegen := n } := by
  induction ys generalizing a with
  | nil => exact ⟨a.degen, a.ndegen, rfl⟩
  | cons y rest ih => exact ih (a.degenAdd x y)

theorem degenLoop_frame (x : Nat) (ds : List Nat) (a : Alphabet) :
    ∃ d n, (a.degenLoop x ds).2 = { a with degen := d, ndegen := n } := by
  rw [degenLoop_eq]; exact foldl_degenAdd_frame x _ a

theorem setDegeneracy_frame (a : Alphabet) (c : Nat) (ds : List Nat) :
    ∃ d n, (a.setDegeneracy c ds).2 = { a with degen := d, ndegen := n } := by
  rcases setDegeneracy_cases a c ds with ⟨e, _⟩ | ⟨x, _, _, _, e⟩ <;> rw [e]
  · exact ⟨a.degen, a.ndegen, rfl⟩
  · exact degenLoop_frame x ds a

/-- `WF` does not read the degeneracy tables -/
theorem setDegeneracy_wf (a : Alphabet) (h : a.WF) (c : Nat) (ds : List Nat) : (a.setDegeneracy c ds).2.WF := by
  obtain ⟨d, n, e⟩ := setDegeneracy_frame a c ds
  rw [e]; exact h

theorem setIgnored_wf (a : Alphabet) (h : a.WF) (chars : List Nat) (hc : ∀ c ∈ chars, c ∉ a.sym) :
    (a.setIgnored chars).WF := by
  unfold setIgnored
  induction chars generalizing a with
  | nil => exact h
  | cons c rest ih =>
    simp only [List.foldl_cons]
    have h' := wf_set_inmap a h c IGNORED (hc c (by simp))
    have := ih _ h' (fun c' hc' => hc c' (by simp [hc']))
    exact this

end Alphabet
end EaselModel.Alphabet

namespace EaselModel.Alphabet
namespace Alphabet

/-- the custom alphabets: anything obtained from `esl_alphabet_CreateCustom` on distinct 7-bit symbols by any sequence of
    `SetEquiv`, `SetCaseInsensitive`, `SetDegeneracy` calls (whatever their arguments and statuses) and `SetIgnored`
    calls that do not declare a symbol of the alphabet itself ignored -/
inductive Built : Alphabet → Prop
  | create (syms : List Nat) (K : Nat) (hnd : syms.Nodup) (hascii : ∀ s ∈ syms, s < 128) (hK : 1 ≤ K)
      (hKp : K + 4 ≤ syms.length) (h250 : syms.length ≤ 250) (a : Alphabet)
      (h : createCustom syms K syms.length = some a) : Built a
  | equiv (a : Alphabet) (h : Built a) (sym c : Nat) : Built (a.setEquiv sym c).2
  | caseins (a : Alphabet) (h : Built a) : Built a.setCaseInsensitive.2
  | degen (a : Alphabet) (h : Built a) (c : Nat) (ds : List Nat) : Built (a.setDegeneracy c ds).2
  | ignored (a : Alphabet) (h : Built a) (chars : List Nat) (hc : ∀ c ∈ chars, c ∉ a.sym) : Built (a.setIgnored chars)

theorem built_wf (a : Alphabet) (h : Built a) : a.WF := by
  induction h with
  | create syms K hnd hascii hK hKp h250 a h =>
    obtain ⟨a', h1, h2, _⟩ := createCustom_wf syms K hnd hascii hK hKp h250
    rw [h] at h1; cases h1; exact h2
  | equiv a _ sym c ih => exact setEquiv_wf a ih sym c
  | caseins a _ ih => exact setCaseInsensitive_wf a ih
  | degen a _ c ds ih => exact setDegeneracy_wf a ih c ds
  | ignored a _ chars hc ih => exact setIgnored_wf a ih chars hc

end Alphabet
end EaselModel.Alphabet
