import EaselModel.Alphabet.Lemmas
import EaselModel.Alphabet.ListLemmas
/-! # C08 — the in-place swap loop of `esl_abc_revcomp` equals "reverse, then complement each code" -/
namespace EaselModel.Alphabet
namespace Alphabet

def compAt (comp : List Nat) (x : Nat) : Nat := comp.getD x 255

theorem getElem?_compAt (comp : List Nat) (x : Nat) (h : x < comp.length) : comp[x]? = some (compAt comp x) :=
  getElem?_eq_some_getD comp x 255 h

/-- one iteration: the cell at `pre.length` and its mirror image `n - pre.length + 1` are complemented and swapped -/
theorem revcompLoop_step (comp : List Nat) (n k : Nat) (pre M post : List Nat) (x y : Nat)
    (hn : n = 2 * pre.length + M.length) (hx : x < comp.length) (hy : y < comp.length) :
    revcompLoop comp n (k + 1) pre.length (pre ++ x :: (M ++ y :: post)) =
      revcompLoop comp n k (pre.length + 1) (pre ++ compAt comp y :: (M ++ compAt comp x :: post)) := by
  have hi : n - pre.length + 1 = (pre ++ x :: M).length := by simp; omega
  have e : pre ++ x :: (M ++ y :: post) = (pre ++ x :: M) ++ y :: post := by simp
  have ghi : (pre ++ x :: (M ++ y :: post))[n - pre.length + 1]? = some y := by
    rw [hi, e, List.getElem?_append_right (Nat.le_refl _), Nat.sub_self]; rfl
  have glo : (pre ++ x :: (M ++ y :: post))[pre.length]? = some x := by
    rw [List.getElem?_append_right (Nat.le_refl _), Nat.sub_self]; rfl
  rw [revcompLoop]
  simp only [ghi, glo, getElem?_compAt comp x hx, getElem?_compAt comp y hy, Option.bind_eq_bind, Option.bind_some]
  rw [if_pos (by rw [hi]; simp)]
  congr 1
  rw [hi, e, List.set_append_right _ _ (Nat.le_refl _), Nat.sub_self, List.set_cons_zero,
    List.append_assoc, List.cons_append, List.set_append_right _ _ (Nat.le_refl _), Nat.sub_self, List.set_cons_zero]

theorem revcompLoop_pairs (comp : List Nat) (n : Nat) :
    ∀ (l rr pre mid post : List Nat), l.length = rr.length → n + 2 = 2 * pre.length + 2 * l.length + mid.length →
      (∀ x ∈ l, x < comp.length) → (∀ x ∈ rr, x < comp.length) →
      revcompLoop comp n l.length pre.length (pre ++ (l ++ (mid ++ (rr.reverse ++ post)))) =
        some (pre ++ (rr.map (compAt comp) ++ (mid ++ (l.reverse.map (compAt comp) ++ post)))) := by
  intro l
  induction l with
  | nil =>
    intro rr pre mid post hl _ _ _
    cases rr with
    | nil => rfl
    | cons _ _ => cases hl
  | cons x l ih =>
    intro rr pre mid post hl hn hvl hvr
    cases rr with
    | nil => cases hl
    | cons y rr =>
      have hl' : l.length = rr.length := by simpa using hl
      have e1 : pre ++ (x :: l ++ (mid ++ ((y :: rr).reverse ++ post))) = pre ++ x :: ((l ++ (mid ++ rr.reverse)) ++ y :: post) := by simp
      rw [List.length_cons, e1, revcompLoop_step comp n l.length pre _ post x y (by simp at hn ⊢; omega) (hvl x (by simp)) (hvr y (by simp))]
      have e2 : pre ++ compAt comp y :: ((l ++ (mid ++ rr.reverse)) ++ compAt comp x :: post) =
          (pre ++ [compAt comp y]) ++ (l ++ (mid ++ (rr.reverse ++ compAt comp x :: post))) := by simp
      have := ih rr (pre ++ [compAt comp y]) mid (compAt comp x :: post) hl' (by simp at hn ⊢; omega)
        (fun z hz => hvl z (by simp [hz])) (fun z hz => hvr z (by simp [hz]))
      rw [List.length_append, List.length_singleton] at this
      rw [e2, this]
      simp


theorem split_mid (W : List Nat) : ∃ l mid r, W = l ++ (mid ++ r) ∧ l.length = r.length ∧ mid.length ≤ 1 :=
  ⟨W.take (W.length / 2), (W.drop (W.length / 2)).take (W.length % 2), (W.drop (W.length / 2)).drop (W.length % 2),
    by rw [List.take_append_drop, List.take_append_drop], by simp; omega, by simp; omega⟩

/-- `esl_abc_revcomp(abc, dsq, n)` reverses and complements the window `dsq[1..n]` and leaves the rest alone -/
theorem revcomp_window (a : Alphabet) (comp : List Nat) (hc : a.complement = some comp) (s : Nat) (W post : List Nat)
    (hv : ∀ x ∈ W, x < comp.length) :
    a.revcomp (s :: (W ++ post)) W.length = .ok (some (s :: (W.reverse.map (compAt comp) ++ post))) := by
  obtain ⟨l, mid, r, rfl, hlr, hm⟩ := split_mid W
  have hn : (l ++ (mid ++ r)).length = 2 * l.length + mid.length := by simp; omega
  have hloop := revcompLoop_pairs comp (l ++ (mid ++ r)).length l r.reverse [s] mid post (by simpa using hlr)
    (by rw [hn]; simp; omega) (fun x hx => hv x (by simp [hx])) (fun x hx => hv x (by simp at hx; simp [hx]))
  generalize (l ++ (mid ++ r)).length = n at hn hloop ⊢
  have h2 : n / 2 = l.length := by omega
  unfold revcomp
  rw [hc, h2]
  simp only [List.reverse_reverse, List.append_assoc, List.cons_append, List.nil_append, List.length_cons, List.length_nil] at hloop ⊢
  rw [hloop]
  simp only [Option.bind_eq_bind, Option.bind_some]
  match mid, hm with
  | [], _ =>
    rw [if_neg (by rw [hn, List.length_nil]; omega)]
    simp
  | [z], _ =>
    have hpos : l.length + 1 = (s :: r.reverse.map (compAt comp)).length := by simp; omega
    have e : s :: (r.reverse.map (compAt comp) ++ ([z] ++ (l.reverse.map (compAt comp) ++ post))) =
        (s :: r.reverse.map (compAt comp)) ++ z :: (l.reverse.map (compAt comp) ++ post) := by simp
    rw [if_pos (by rw [hn, List.length_singleton]; omega), hpos, e]
    rw [List.getElem?_append_right (Nat.le_refl _), Nat.sub_self]
    simp only [List.getElem?_cons_zero, Option.bind_some, getElem?_compAt comp z (hv z (by simp))]
    rw [List.set_append_right _ _ (Nat.le_refl _), Nat.sub_self, List.set_cons_zero]
    simp
  | _ :: _ :: _, hm => simp at hm

theorem revcomp_window_twice (a : Alphabet) (comp : List Nat) (hc : a.complement = some comp) (hw : a.WFComp comp) (s : Nat)
    (W post : List Nat) (hv : ∀ x ∈ W, x < a.Kp) :
    a.revcomp (s :: (W.reverse.map (compAt comp) ++ post)) W.length = .ok (some (s :: (W ++ post))) := by
  have h := revcomp_window a comp hc s (W.reverse.map (compAt comp)) post (fun x hx => by
    obtain ⟨y, hy, rfl⟩ := List.mem_map.mp hx
    rw [hw.1]; exact (hw.2 y (hv y (List.mem_reverse.mp hy))).1)
  rw [List.length_map, List.length_reverse] at h
  rw [h, ← List.map_reverse, List.reverse_reverse, List.map_map]
  congr 4
  exact (List.map_congr_left fun x hx => (hw.2 x (hv x hx)).2).trans (List.map_id' W)

end Alphabet
end EaselModel.Alphabet
