import EaselModel.Generated.Alphabets
/-! # C08 — the hand model of `create_dna()`, `create_rna()`, `create_amino()` builds, field by field, the tables dumped from
the code under check on this run (evaluated once here; `Props.C08.ctor_reproduces_tables` and the users of one table rest on it) -/
namespace EaselModel.Alphabet.Alphabet
open EaselModel.Generated

theorem createDna_regenerated : createDna = some Alphabets.dna := by decide +kernel

theorem createRna_regenerated : createRna = some Alphabets.rna := by decide +kernel

theorem createAmino_regenerated : createAmino = some Alphabets.amino := by decide +kernel

end EaselModel.Alphabet.Alphabet
