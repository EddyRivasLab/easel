import EaselModel.Alphabet.CustomDegen
/-! # C08 — `esl_alphabet_SetDegeneracy` keeps `ndegen[x]` = size of the set of row `x`, provided the listed residues are
distinct and not yet members (the C code increments `ndegen` once per listed character, whatever it finds in the row) -/
namespace EaselModel.Alphabet
namespace Alphabet

theorem filter_set_length (K : Nat) (row : List Nat) (y : Nat) (hy : y < K) (hl : row.length = K)
    (h0 : row.getD y 0 = 0) :
    ((List.range K).filter fun i => (row.set y 1).getD i 0 ≠ 0).length =
      ((List.range K).filter fun i => row.getD i 0 ≠ 0).length + 1 := by
  have hget : ∀ i, (row.set y 1).getD i 0 = if i = y then 1 else row.getD i 0 := by
    intro i; exact getD_set_of_lt row y 1 i 0 (by omega)
  have key : ∀ n, n ≤ K →
      ((List.range n).filter fun i => (row.set y 1).getD i 0 ≠ 0).length =
        ((List.range n).filter fun i => row.getD i 0 ≠ 0).length + (if y < n then 1 else 0) := by
    intro n
    induction n with
    | zero => intro _; simp
    | succ n ih =>
      intro hn
      rw [List.range_succ, List.filter_append, List.filter_append, List.length_append, List.length_append, ih (by omega)]
      by_cases hyn : y = n
      · subst hyn
        have e1 : (row.set y 1).getD y 0 ≠ 0 := by rw [hget]; simp
        have e2 : ¬ (row.getD y 0 ≠ 0) := fun h => h h0
        rw [List.filter_cons_of_pos (by simpa using e1), List.filter_cons_of_neg (by simpa using e2)]
        simp
      · have e : (row.set y 1).getD n 0 = row.getD n 0 := by rw [hget, if_neg (fun e => hyn e.symm)]
        by_cases hp : row.getD n 0 ≠ 0
        · rw [List.filter_cons_of_pos (by rw [e]; simpa using hp), List.filter_cons_of_pos (by simpa using hp)]
          simp only [List.filter_nil, List.length_cons, List.length_nil]
          by_cases h1 : y < n
          · rw [if_pos h1, if_pos (by omega)]
          · rw [if_neg h1, if_neg (by omega)]
        · rw [List.filter_cons_of_neg (by rw [e]; simpa using hp), List.filter_cons_of_neg (by simpa using hp)]
          simp only [List.filter_nil, List.length_nil]
          by_cases h1 : y < n
          · rw [if_pos h1, if_pos (by omega)]
          · rw [if_neg h1, if_neg (by omega)]
  have := key K (Nat.le_refl _)
  rw [if_pos hy] at this
  exact this

theorem degenAdd_wfdegen (a : Alphabet) (h : a.WFDegen) (x y : Nat) (hx : x < a.Kp) (hy : y < a.K)
    (h0 : (a.degen.getD x []).getD y 0 = 0) : (a.degenAdd x y).WFDegen := by
  obtain ⟨hd, hn, hrow⟩ := h
  refine ⟨by simp [degenAdd, hd], by simp [degenAdd, hn], fun x' hx' => ?_⟩
  have hx'' : x' < a.Kp := hx'
  obtain ⟨r1, r2⟩ := hrow x' hx''
  show ((a.degen.set x ((a.degen.getD x []).set y 1)).getD x' []).length = a.K ∧
    (a.ndegen.set x (a.ndegen.getD x 0 + 1)).getD x' 0 =
      ((List.range a.K).filter fun i => ((a.degen.set x ((a.degen.getD x []).set y 1)).getD x' []).getD i 0 ≠ 0).length
  rw [getD_set_of_lt _ _ _ _ _ (by omega), getD_set_of_lt _ _ _ _ _ (by omega)]
  by_cases e : x' = x
  · subst e
    rw [if_pos rfl, if_pos rfl]
    refine ⟨by rw [List.length_set]; exact r1, ?_⟩
    rw [filter_set_length a.K _ y hy r1 h0, r2]
    rfl
  · rw [if_neg e, if_neg e]
    exact ⟨r1, r2⟩

theorem degenAdd_other (a : Alphabet) (x y y' : Nat) (hne : y' ≠ y) :
    ((a.degenAdd x y).degen.getD x []).getD y' 0 = (a.degen.getD x []).getD y' 0 ∨ ¬ x < a.degen.length := by
  by_cases hx : x < a.degen.length
  · left
    show ((a.degen.set x ((a.degen.getD x []).set y 1)).getD x []).getD y' 0 = _
    rw [getD_set_of_lt _ _ _ _ _ hx, if_pos rfl, getD_set_ne _ _ _ _ _ hne]
  · right; exact hx

theorem foldl_degenAdd_wfdegen (x : Nat) : ∀ (ys : List Nat) (a : Alphabet), a.WFDegen → x < a.Kp → ys.Nodup →
    (∀ y ∈ ys, y < a.K ∧ (a.degen.getD x []).getD y 0 = 0) → (ys.foldl (fun a y => a.degenAdd x y) a).WFDegen := by
  intro ys
  induction ys with
  | nil => intro a h _ _ _; exact h
  | cons y rest ih =>
    intro a h hx hnd hf
    have hnd' := List.nodup_cons.mp hnd
    obtain ⟨hy, h0⟩ := hf y List.mem_cons_self
    refine ih (a.degenAdd x y) (degenAdd_wfdegen a h x y hx hy h0) hx hnd'.2 fun y' hy' => ?_
    obtain ⟨g1, g2⟩ := hf y' (List.mem_cons_of_mem _ hy')
    rcases degenAdd_other a x y y' (fun e => hnd'.1 (e ▸ hy')) with e | e
    · exact ⟨g1, e.trans g2⟩
    · exact absurd (by rw [h.1]; exact hx) e

/-- whatever the status: a refused call has entered the accepted prefix, whose codes open `ds.filterMap a.strchrSym` -/
theorem degenLoop_wfdegen (x : Nat) (ds : List Nat) (a : Alphabet) (h : a.WFDegen) (hx : x < a.Kp)
    (hnd : (ds.filterMap a.strchrSym).Nodup) (hfresh : ∀ y ∈ ds.filterMap a.strchrSym, (a.degen.getD x []).getD y 0 = 0) :
    (a.degenLoop x ds).2.WFDegen := by
  rw [degenLoop_eq]
  have hp := accepted_prefix a ds
  exact foldl_degenAdd_wfdegen x _ a h hx (hnd.sublist hp.sublist)
    fun y hy => ⟨accepted_lt a ds y hy, hfresh y (hp.subset hy)⟩

theorem setDegeneracy_wfdegen (a : Alphabet) (h : a.WFDegen) (c : Nat) (ds : List Nat)
    (hnd : (ds.filterMap a.strchrSym).Nodup)
    (hfresh : ∀ x, a.strchrSym c = some x → ∀ y ∈ ds.filterMap a.strchrSym, (a.degen.getD x []).getD y 0 = 0) :
    (a.setDegeneracy c ds).2.WFDegen := by
  rcases setDegeneracy_cases a c ds with ⟨e, _⟩ | ⟨x, hs, _, hx, e⟩ <;> rw [e]
  · exact h
  · exact degenLoop_wfdegen x ds a h (by omega) hnd (hfresh x hs)

end Alphabet
end EaselModel.Alphabet
