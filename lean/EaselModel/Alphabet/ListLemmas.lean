import EaselModel.Core.ListLookup
/-! # C08 — a table fact checked entry by entry gives the indexed form (core Lean only) -/
namespace EaselModel.Alphabet

/-- For the kernel, looking up position `c` of a list is a walk of `c` cells, so evaluating `∀ c < n, P c (tbl.getD c d)` on a
    concrete table as it stands takes `n²/2` steps. The same fact stated entry by entry, each entry paired with its position,
    is one pass over the table; this gives back the indexed form. -/
theorem forall_getD_of_zipIdx {α : Type} {Q : α × Nat → Prop} {l : List α} {n : Nat} (d : α) (hl : l.length = n)
    (h : ∀ p ∈ l.zipIdx, Q p) : ∀ c, c < n → Q (l.getD c d, c) := by
  intro c hc
  have hc' : c < l.length := hl ▸ hc
  rw [List.getD_eq_getElem?_getD, List.getElem?_eq_getElem hc']
  exact h (l[c], c) (List.mem_zipIdx_iff_getElem?.mpr (List.getElem?_eq_getElem hc'))

/-- the head of a decomposition `l.drop i = x :: rest`: the cell read at `i`, and what follows it -/
theorem drop_eq_cons {α : Type} {l : List α} {i : Nat} {x : α} {rest : List α} (h : l.drop i = x :: rest) :
    l[i]? = some x ∧ l.drop (i + 1) = rest :=
  ⟨by rw [← List.head?_drop, h]; rfl, by rw [← List.tail_drop, h]; rfl⟩

end EaselModel.Alphabet
