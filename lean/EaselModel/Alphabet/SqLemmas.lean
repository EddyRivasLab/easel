import EaselModel.Alphabet.RevcompLemmas
/-! # C08 — the text-mode `esl_sq_ReverseComplement` agrees with the digital conversions -/
namespace EaselModel.Alphabet.Sq
open EaselModel.Alphabet EaselModel.Alphabet.Alphabet

/-- per-character agreement of the hand-written `switch` of text-mode `esl_sq_ReverseComplement` with the digital
    complement table `comp` of alphabet `a`: whenever the switch has a case for `c`, both `c` and its image are characters
    of the alphabet, neither is ignored, and the image's code is the complement of `c`'s code (finite: 128 characters) -/
def TextCompOK (a : Alphabet) (comp : List Nat) : Prop :=
  ∀ c, c < 128 → ∀ c', compChar c = some c' →
    a.charOK c = true ∧ a.charOK c' = true ∧ (a.code c).isSome = true ∧ a.code c' = (a.code c).map (compAt comp)

instance (a : Alphabet) (comp : List Nat) : Decidable (TextCompOK a comp) := by
  unfold TextCompOK
  have : ∀ c, Decidable (∀ c', compChar c = some c' →
      a.charOK c = true ∧ a.charOK c' = true ∧ (a.code c).isSome = true ∧ a.code c' = (a.code c).map (compAt comp)) := by
    intro c
    cases h : compChar c with
    | none => exact isTrue (fun c' hc' => by cases hc')
    | some v =>
      by_cases hp : a.charOK c = true ∧ a.charOK v = true ∧ (a.code c).isSome = true ∧ a.code v = (a.code c).map (compAt comp)
      · exact isTrue (fun c' hc' => by cases hc'; exact hp)
      · exact isFalse (fun hall => hp (hall v rfl))
  infer_instance

theorem text_revcomp_digitize (a : Alphabet) (comp : List Nat) (h : TextCompOK a comp) (s : List Nat)
    (hs : ∀ c ∈ s, c < 128 ∧ (compChar c).isSome = true) :
    (revcompText s).1 = .ok ∧
    a.digitize (revcompText s).2 = (.ok, mkDsq ((s.filterMap a.code).reverse.map (compAt comp))) := by
  have hall : s.all (fun c => (compChar c).isSome) = true := by
    rw [List.all_eq_true]; intro c hc; exact (hs c hc).2
  have key : ∀ l : List Nat, (∀ c ∈ l, c < 128 ∧ (compChar c).isSome = true) →
      (l.map fun c => (compChar c).getD 78).filterMap a.code = (l.filterMap a.code).map (compAt comp) ∧
      (l.map fun c => (compChar c).getD 78).all a.charOK = true := by
    intro l
    induction l with
    | nil => intro _; simp
    | cons c cs ih =>
      intro hl
      obtain ⟨h128, hsome⟩ := hl c (by simp)
      obtain ⟨c', hc'⟩ := Option.isSome_iff_exists.mp hsome
      obtain ⟨_, k2, k3, k4⟩ := h c h128 c' hc'
      obtain ⟨x, hx⟩ := Option.isSome_iff_exists.mp k3
      obtain ⟨i1, i2⟩ := ih (fun d hd => hl d (by simp [hd]))
      rw [hx] at k4
      simp only [List.map_cons, hc', Option.getD_some, List.filterMap_cons, k4, Option.map_some, hx, i1,
        List.all_cons, k2, i2, Bool.and_self, and_self]
  obtain ⟨k1, k2⟩ := key s hs
  refine ⟨by simp [revcompText, hall], ?_⟩
  unfold revcompText
  rw [digitize_eq_spec]
  unfold digitizeSpec
  simp only [List.filterMap_reverse, k1, List.all_reverse, k2, if_true, List.map_reverse]
  rfl

end EaselModel.Alphabet.Sq

namespace EaselModel.Alphabet.Sq
open EaselModel.Alphabet EaselModel.Alphabet.Alphabet

/-- lower-case of an upper-case letter, other bytes unchanged -/
def lowerOf (c : Nat) : Nat := if 65 ≤ c ∧ c ≤ 90 then c + 32 else c

/-- "for every symbol": textising code `x`, complementing the character with the text-mode switch and digitising it again
    gives the digital complement of `x`, in upper and in lower case -/
def TextCompSymbols (a : Alphabet) (comp : List Nat) : Prop :=
  ∀ x, x < a.Kp →
    (compChar (a.symAt x)).bind a.code = some (compAt comp x) ∧
    (compChar (lowerOf (a.symAt x))).bind a.code = some (compAt comp x) ∧
    (compChar (lowerOf (a.symAt x))).map lowerOf = compChar (lowerOf (a.symAt x)) ∧
    ((compChar (a.symAt x)).map lowerOf = compChar (lowerOf (a.symAt x)))

instance (a : Alphabet) (comp : List Nat) : Decidable (TextCompSymbols a comp) := by
  unfold TextCompSymbols; infer_instance

end EaselModel.Alphabet.Sq
