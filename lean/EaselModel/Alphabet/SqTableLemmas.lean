import EaselModel.Alphabet.SqModel
import EaselModel.Generated.AlphabetsAux
/-! # C08 — the hand-written `switch` of text-mode `esl_sq_ReverseComplement`, regenerated from the code on every run
(the function is called on all 256 one-byte sequences), equals the model's `compChar` -/
namespace EaselModel.Alphabet.Sq
open EaselModel.Generated

/-- the switch as read off the code under check: `none` = the `default:` branch (status eslEINVAL) -/
def compCharG (c : Nat) : Option Nat :=
  match AlphabetsAux.textRevcomp[c]? with
  | some (o, 1) => some o
  | _ => none

theorem compChar_regenerated :
    AlphabetsAux.textRevcomp.length = 256 ∧
    ∀ c, c < 256 → compChar c = compCharG c ∧ (AlphabetsAux.textRevcomp.getD c (0, 0)).1 = (compChar c).getD 78 := by
  have hl : AlphabetsAux.textRevcomp.length = 256 := by decide +kernel
  -- entry by entry, each with its position: one pass over the table (a lookup by position walks the list)
  have h : ∀ p ∈ AlphabetsAux.textRevcomp.zipIdx,
      compChar p.2 = (match some p.1 with | some (o, 1) => some o | _ => none) ∧ p.1.1 = (compChar p.2).getD 78 := by
    decide +kernel
  refine ⟨hl, fun c hc => ?_⟩
  have hc' : c < AlphabetsAux.textRevcomp.length := by rw [hl]; exact hc
  have e : AlphabetsAux.textRevcomp[c]? = some (AlphabetsAux.textRevcomp[c]'hc') := List.getElem?_eq_getElem hc'
  unfold compCharG
  rw [List.getD_eq_getElem?_getD, e]
  exact h (_, c) (List.mem_zipIdx_iff_getElem?.mpr e)

end EaselModel.Alphabet.Sq
