import EaselModel.Alphabet.GuessModel
import EaselModel.Alphabet.ListLemmas
/-! # C08 — what `esl_abc_GuessAlphabet` guarantees (theorems about the integer form `guessZ`; the `Float` form is tied to it
and to the code by the differential run) and what the counting loop of `esl_sq_GuessAlphabet` counts -/
namespace EaselModel.Alphabet.Guess

theorem ite_le {c : Prop} [Decidable c] {a b n : Nat} (ha : a ≤ n) (hb : b ≤ n) : (if c then a else b) ≤ n := by
  split <;> assumption

theorem guess_status (ct : List Int) :
    ((guessAlphabet ct).1 = true ↔ (guessAlphabet ct).2 ≠ 0) ∧ (guessAlphabet ct).2 ≤ 3 := by
  unfold guessAlphabet
  simp only []
  refine ⟨decide_eq_true_iff, ?_⟩
  repeat' apply ite_le
  all_goals decide

theorem guess_small (ct : List Int) (h : total ct ≤ 10) : guessAlphabet ct = (false, 0) := by
  unfold guessAlphabet
  have : (List.range 26).foldl (fun acc i => acc + ct.getD i 0) 0 ≤ 10 := h
  simp only [this, if_true]
  simp

/-- `ct[]` holds counts: non-negative and below 2^31 (`esl_sq_GuessAlphabet` stops at 10001 letters) -/
def Counts (ct : List Int) : Prop := ∀ l, 0 ≤ ct.getD l 0 ∧ ct.getD l 0 < 2147483648

def sumOf (ct : List Int) (letters : List Nat) : Int := (letters.map fun l => ct.getD l 0).sum
/-- how many of `letters` occur -/
def seen (ct : List Int) (letters : List Nat) : Nat := (letters.filter fun l => decide (ct.getD l 0 > 0)).length

theorem tally_go (ct : List Int) (h : Counts ct) (letters : List Nat) (acc : Int × Nat) :
    letters.foldl (fun (acc : Int × Nat) l => let x := wrap32 (ct.getD l 0); if x > 0 then (acc.1 + x, acc.2 + 1) else acc) acc
      = (acc.1 + sumOf ct letters, acc.2 + seen ct letters) := by
  induction letters generalizing acc with
  | nil => simp [sumOf, seen]
  | cons l rest ih =>
    have hw : wrap32 (ct.getD l 0) = ct.getD l 0 := by
      have := h l; unfold wrap32; omega
    simp only [List.foldl_cons, hw]
    rw [ih]
    by_cases hp : ct.getD l 0 > 0
    · simp only [hp, if_true, sumOf, seen, List.map_cons, List.sum_cons, List.filter_cons, decide_true, List.length_cons]
      refine Prod.ext ?_ ?_ <;> simp only [] <;> omega
    · have h0 : ct.getD l 0 = 0 := by have := (h l).1; omega
      simp only [sumOf, seen, List.map_cons, List.sum_cons, List.filter_cons, h0]
      refine Prod.ext ?_ ?_ <;> simp

theorem tally_spec (ct : List Int) (h : Counts ct) (letters : List Nat) :
    tally ct letters = (sumOf ct letters, seen ct letters) := by
  unfold tally; rw [tally_go ct h]; simp

theorem seen_cons (ct : List Int) (l : Nat) (rest : List Nat) :
    seen ct (l :: rest) = (if ct.getD l 0 > 0 then 1 else 0) + seen ct rest := by
  unfold seen
  by_cases h : ct.getD l 0 > 0
  · rw [List.filter_cons, if_pos (decide_eq_true h), if_pos h, List.length_cons]; omega
  · rw [List.filter_cons, if_neg (by simpa using h), if_neg h]; omega

theorem seen_nil (ct : List Int) : seen ct [] = 0 := rfl

theorem seen3 (ct : List Int) (a b c : Nat) (h : seen ct [a, b, c] ≥ 3) :
    ct.getD a 0 > 0 ∧ ct.getD b 0 > 0 ∧ ct.getD c 0 > 0 := by
  rw [seen_cons, seen_cons, seen_cons, seen_nil] at h
  by_cases ha : ct.getD a 0 > 0 <;> by_cases hb : ct.getD b 0 > 0 <;> by_cases hc : ct.getD c 0 > 0 <;>
    simp only [ha, hb, hc, if_true, if_false] at h <;> omega

theorem seen_le_length (ct : List Int) (letters : List Nat) : seen ct letters ≤ letters.length := by
  unfold seen; exact List.length_filter_le _ _

theorem seen4 (ct : List Int) (t : Nat) (h : seen ct allcanon + seen ct [t] = 4) :
    ct.getD 0 0 > 0 ∧ ct.getD 2 0 > 0 ∧ ct.getD 6 0 > 0 ∧ ct.getD t 0 > 0 := by
  have h3 : seen ct allcanon ≤ 3 := seen_le_length ct allcanon
  have h1 : seen ct [t] ≤ 1 := seen_le_length ct [t]
  have hall := seen3 ct 0 2 6 (by unfold allcanon at h h3; omega)
  refine ⟨hall.1, hall.2.1, hall.2.2, Decidable.byContradiction fun e => ?_⟩
  rw [seen_cons, seen_nil, if_neg e] at h1 h
  omega

theorem seen1 (ct : List Int) (h : Counts ct) (l : Nat) : seen ct [l] = if ct.getD l 0 ≠ 0 then 1 else 0 := by
  have := (h l).1
  rw [seen_cons, seen_nil]
  by_cases e : ct.getD l 0 = 0
  · rw [if_neg (by omega), if_neg (by simpa using e)]
  · rw [if_pos (by omega), if_pos e]

theorem sumOf_cons (ct : List Int) (l : Nat) (rest : List Nat) : sumOf ct (l :: rest) = ct.getD l 0 + sumOf ct rest := by
  simp only [sumOf, List.map_cons, List.sum_cons]

theorem sumOf_nonneg (ct : List Int) (h : Counts ct) (letters : List Nat) : 0 ≤ sumOf ct letters := by
  induction letters with
  | nil => exact Int.le_refl 0
  | cons l rest ih => rw [sumOf_cons]; have := (h l).1; omega

theorem seen_eq_zero (ct : List Int) (h : Counts ct) (letters : List Nat) (h0 : sumOf ct letters = 0) : seen ct letters = 0 := by
  induction letters with
  | nil => rfl
  | cons l rest ih =>
    have hl := (h l).1
    have hr := sumOf_nonneg ct h rest
    rw [sumOf_cons] at h0
    rw [seen_cons, if_neg (by omega), ih (by omega)]

theorem sumOf_allcanon (ct : List Int) : sumOf ct allcanon = ct.getD 0 0 + ct.getD 2 0 + ct.getD 6 0 := by
  simp [sumOf, allcanon]; omega

theorem guessZ_small (ct : List Int) (h : total ct ≤ 10) : guessZ ct = 0 := by
  unfold guessZ; simp only [h, if_true]

theorem guessZ_le (ct : List Int) : guessZ ct ≤ 3 := by
  unfold guessZ; simp only []
  repeat' apply ite_le
  all_goals decide

/-- the rule for a nucleic alphabet with `t` = T (19, DNA) or U (20, RNA): at most 2 % of the residues are something other than
    A, C, G, `t`, N, and each of A, C, G, `t` occurs -/
abbrev nucRule (ct : List Int) (t : Nat) : Prop :=
  50 * (total ct - (sumOf ct allcanon + ct.getD t 0 + ct.getD 13 0)) ≤ total ct ∧ seen ct allcanon + seen ct [t] = 4

theorem guessZ_eq (ct : List Int) (h : Counts ct) : guessZ ct =
    if total ct ≤ 10 then 0
    else if total ct > 2000 ∧ ct.getD 13 0 = total ct then 2
    else if sumOf ct aaonly > 0 then 3
    else if nucRule ct 19 then 2
    else if nucRule ct 20 then 1
    else if 50 * (total ct - (sumOf ct aaonly + sumOf ct allcanon + sumOf ct aacanon + ct.getD 13 0 + ct.getD 19 0 + ct.getD 23 0)) ≤ total ct ∧
        sumOf ct aacanon > sumOf ct allcanon ∧
        seen ct aaonly + seen ct allcanon + seen ct aacanon + seen ct [13] + seen ct [19] ≥ 15 then 3
    else 0 := by
  unfold guessZ nucRule
  rw [tally_spec ct h, tally_spec ct h, tally_spec ct h, seen1 ct h 19, seen1 ct h 20, seen1 ct h 13]

/-- the decision list on counts, walked once: which test answers, and what. The third documented rule ("≥ 98 % canonical amino
    acids or X, at least 15 different residues, DHKMRSVWY outnumber ACG") never answers: without an amino-only letter at most
    3 + 9 + 1 + 1 = 14 different letters are counted, and with one the giveaway rule has already answered. -/
theorem guessZ_cases (ct : List Int) (h : Counts ct) :
    (total ct ≤ 10 ∧ guessZ ct = 0) ∨
    (total ct > 10 ∧
      (((total ct > 2000 ∧ ct.getD 13 0 = total ct) ∧ guessZ ct = 2) ∨
       (¬ (total ct > 2000 ∧ ct.getD 13 0 = total ct) ∧
         ((sumOf ct aaonly > 0 ∧ guessZ ct = 3) ∨
          (sumOf ct aaonly = 0 ∧
            ((nucRule ct 19 ∧ guessZ ct = 2) ∨ (¬ nucRule ct 19 ∧ nucRule ct 20 ∧ guessZ ct = 1) ∨
             (¬ nucRule ct 19 ∧ ¬ nucRule ct 20 ∧ guessZ ct = 0))))))) := by
  rw [guessZ_eq ct h]
  have h1 := sumOf_nonneg ct h aaonly
  by_cases c1 : total ct ≤ 10
  · exact Or.inl ⟨c1, if_pos c1⟩
  refine Or.inr ⟨by omega, ?_⟩
  rw [if_neg c1]
  by_cases c2 : total ct > 2000 ∧ ct.getD 13 0 = total ct
  · exact Or.inl ⟨c2, if_pos c2⟩
  refine Or.inr ⟨c2, ?_⟩
  rw [if_neg c2]
  by_cases c3 : sumOf ct aaonly > 0
  · exact Or.inl ⟨c3, if_pos c3⟩
  refine Or.inr ⟨by omega, ?_⟩
  rw [if_neg c3]
  by_cases c4 : nucRule ct 19
  · exact Or.inl ⟨c4, if_pos c4⟩
  rw [if_neg c4]
  by_cases c5 : nucRule ct 20
  · exact Or.inr (Or.inl ⟨c4, c5, if_pos c5⟩)
  refine Or.inr (Or.inr ⟨c4, c5, ?_⟩)
  rw [if_neg c5]
  have hz := seen_eq_zero ct h aaonly (by omega)
  have h2 : seen ct allcanon ≤ 3 := seen_le_length ct allcanon
  have h3 : seen ct aacanon ≤ 9 := seen_le_length ct aacanon
  have h4 : seen ct [13] ≤ 1 := seen_le_length ct [13]
  have h5 : seen ct [19] ≤ 1 := seen_le_length ct [19]
  exact if_neg fun hd => by omega

theorem guessZ_amino_iff (ct : List Int) (h : Counts ct) :
    guessZ ct = 3 ↔ total ct > 10 ∧ ¬ (total ct > 2000 ∧ ct.getD 13 0 = total ct) ∧ sumOf ct aaonly > 0 := by
  rcases guessZ_cases ct h with ⟨_, e⟩ | ⟨c1, ⟨c2, e⟩ | ⟨c2, ⟨c3, e⟩ | ⟨c3, ⟨_, e⟩ | ⟨_, _, e⟩ | ⟨_, _, e⟩⟩⟩⟩
  · constructor <;> intro <;> omega
  · exact ⟨fun hg => by omega, fun hh => absurd c2 hh.2.1⟩
  · exact ⟨fun _ => ⟨c1, c2, c3⟩, fun _ => e⟩
  · constructor <;> intro <;> omega
  · constructor <;> intro <;> omega
  · constructor <;> intro <;> omega

/-- byte `c` is counted as letter number `l` (0 = A … 25 = Z), case-insensitively -/
def isLetter (c l : Nat) : Bool := decide (c = 65 + l) || decide (c = 97 + l)

theorem letterIdx_cases (c : Nat) (hc : c < 256) :
    (letterIdx c < 0 ∨ letterIdx c ≥ 26) ∧ (∀ l, l < 26 → isLetter c l = false) ∨
    (∃ l : Nat, l < 26 ∧ letterIdx c = (l : Int) ∧ isLetter c l = true ∧ ∀ l', l' ≠ l → l' < 26 → isLetter c l' = false) := by
  unfold letterIdx isLetter
  by_cases h1 : c ≥ 128
  · left; simp only [h1, if_true]; refine ⟨by omega, fun l hl => by simp; omega⟩
  · by_cases h2 : 97 ≤ c ∧ c ≤ 122
    · right; refine ⟨c - 97, by omega, by simp only [h1, h2, if_false, if_true, and_self]; omega, by simp; omega,
        fun l' hne hl' => by simp; omega⟩
    · simp only [h1, h2, if_false]
      by_cases h3 : 65 ≤ c ∧ c ≤ 90
      · right; refine ⟨c - 65, by omega, by omega, by simp; omega, fun l' hne hl' => by simp; omega⟩
      · left; refine ⟨by omega, fun l hl => by simp; omega⟩

/-- number of letters (A–Z, a–z) in a byte string -/
def nLetters (seq : List Nat) : Nat := (seq.filter fun c => decide (65 ≤ c ∧ c ≤ 90) || decide (97 ≤ c ∧ c ≤ 122)).length

theorem counts_of_all (ct : List Int) (h : ∀ v ∈ ct, 0 ≤ v ∧ v < 2147483648) : Counts ct := by
  intro l
  rw [List.getD_eq_getElem?_getD]
  cases hl : ct[l]? with
  | none => simp
  | some v => simp only [Option.getD_some]; exact h v (List.mem_of_getElem? hl)

theorem filter_letter_le (seq : List Nat) (l : Nat) (hl : l < 26) :
    (seq.filter fun c => isLetter c l).length ≤ nLetters seq := by
  unfold nLetters
  rw [← List.countP_eq_length_filter, ← List.countP_eq_length_filter]
  apply List.countP_mono_left
  intro c _ hc
  unfold isLetter at hc
  simp at hc ⊢
  omega

end EaselModel.Alphabet.Guess
