import EaselModel.Alphabet.HistoryLemmas
import EaselModel.Core.ListWhile
/-! # C08 — custom alphabets: what a REJECTED constructor call leaves behind (exactly the effect of the accepted
prefix of its argument — nothing for `SetEquiv` and for a `SetDegeneracy` refused at its symbol checks), and the documented
postconditions of the accepted calls (`SetIgnored`, `SetDegeneracy`, `SetCaseInsensitive`) -/
namespace EaselModel.Alphabet
namespace Alphabet

theorem degenLoop_strchr (x : Nat) (ds : List Nat) (a : Alphabet) (c : Nat) :
    (a.degenLoop x ds).2.strchrSym c = a.strchrSym c := by
  obtain ⟨d, n, e⟩ := degenLoop_frame x ds a
  rw [e]; rfl

theorem degenLoop_K (x : Nat) (ds : List Nat) (a : Alphabet) : (a.degenLoop x ds).2.K = a.K := by
  obtain ⟨d, n, e⟩ := degenLoop_frame x ds a
  rw [e]

theorem degenLoop_cons_ok (x d : Nat) (l : List Nat) (a : Alphabet) (y : Nat) (hs : a.strchrSym d = some y)
    (hc : a.xIsCanonical y = true) : a.degenLoop x (d :: l) = (a.degenAdd x y).degenLoop x l := by
  conv => lhs; unfold degenLoop
  rw [hs]; simp only [hc, not_true_eq_false, if_false]; rfl

theorem degenLoop_cons_none (x d : Nat) (l : List Nat) (a : Alphabet) (hs : a.strchrSym d = none) :
    a.degenLoop x (d :: l) = (.einval, a) := by
  conv => lhs; unfold degenLoop
  rw [hs]

theorem degenLoop_cons_bad (x d : Nat) (l : List Nat) (a : Alphabet) (y : Nat) (hs : a.strchrSym d = some y)
    (hc : ¬ a.xIsCanonical y = true) : a.degenLoop x (d :: l) = (.einval, a) := by
  conv => lhs; unfold degenLoop
  rw [hs]
  have hc' : a.xIsCanonical y = false := by simpa using hc
  simp [hc']

theorem degenLoop_append (x : Nat) (pre post : List Nat) (a : Alphabet) (h : (a.degenLoop x pre).1 = .ok) :
    a.degenLoop x (pre ++ post) = (a.degenLoop x pre).2.degenLoop x post := by
  induction pre generalizing a with
  | nil => rfl
  | cons d rest ih =>
    rw [List.cons_append]
    cases hs : a.strchrSym d with
    | none => rw [degenLoop_cons_none x d rest a hs] at h; cases h
    | some y =>
      by_cases hc : a.xIsCanonical y = true
      · rw [degenLoop_cons_ok x d rest a y hs hc] at h ⊢
        rw [degenLoop_cons_ok x d _ a y hs hc]
        exact ih _ h
      · rw [degenLoop_cons_bad x d rest a y hs hc] at h; cases h

theorem degenLoop_rejected (x : Nat) (ds : List Nat) (a : Alphabet) (h : (a.degenLoop x ds).1 ≠ .ok) :
    ∃ pre d post, ds = pre ++ d :: post ∧ (∀ e ∈ pre, a.canonSym e) ∧ ¬ a.canonSym d ∧
      (a.degenLoop x pre).1 = .ok ∧ (a.degenLoop x ds).2 = (a.degenLoop x pre).2 := by
  rw [degenLoop_eq] at h
  -- the split is the one `takeWhile` / `dropWhile` make at the first refused character
  have hsplit := List.takeWhile_append_dropWhile (p := fun d => (a.canonCode d).isSome) (l := ds)
  have hpre : ∀ e ∈ ds.takeWhile fun d => (a.canonCode d).isSome, (a.canonCode e).isSome = true :=
    fun e he => mem_takeWhile_imp (p := fun d => (a.canonCode d).isSome) he
  cases hdw : ds.dropWhile fun d => (a.canonCode d).isSome with
  | nil =>
    rw [hdw, List.append_nil] at hsplit
    rw [← hsplit, if_pos (List.all_eq_true.mpr hpre)] at h
    exact absurd rfl h
  | cons d post =>
    have hd := List.head?_dropWhile_not (fun d => (a.canonCode d).isSome) ds
    rw [hdw] at hd
    refine ⟨_, d, post, by rw [← hdw, hsplit], fun e he => (canonCode_isSome a e).mp (hpre e he),
      fun hc => by simp [(canonCode_isSome a d).mpr hc] at hd, ?_, ?_⟩
    · rw [degenLoop_eq, if_pos (List.all_eq_true.mpr hpre)]
    · rw [degenLoop_eq, degenLoop_eq]
      unfold accepted
      rw [takeWhile_all _ hpre]

theorem setDegeneracy_rejected (a : Alphabet) (c : Nat) (ds : List Nat) (h : (a.setDegeneracy c ds).1 ≠ .ok) :
    (a.setDegeneracy c ds).2 = a ∨
    ∃ pre d post, ds = pre ++ d :: post ∧ (∀ e ∈ pre, a.canonSym e) ∧ ¬ a.canonSym d ∧
      (a.setDegeneracy c pre).1 = .ok ∧ (a.setDegeneracy c ds).2 = (a.setDegeneracy c pre).2 := by
  rcases setDegeneracy_cases a c ds with ⟨e, _⟩ | ⟨x, hs, h1, h2, e⟩
  · left; rw [e]
  · right
    rw [e] at h ⊢
    obtain ⟨pre, d, post, e1, e2, e3, e4, e5⟩ := degenLoop_rejected x ds a h
    rcases setDegeneracy_cases a c pre with ⟨_, hno⟩ | ⟨x', hs', _, _, e'⟩
    · exact absurd ⟨x, hs, h1, h2⟩ hno
    · rw [hs] at hs'; cases hs'
      exact ⟨pre, d, post, e1, e2, e3, by rw [e']; exact e4, by rw [e']; exact e5⟩

theorem degenAdd_row (a : Alphabet) (x y y' : Nat) (hx : x < a.degen.length) (hy : y < (a.degen.getD x []).length) :
    ((a.degenAdd x y).degen.getD x []).getD y' 0 = if y' = y then 1 else (a.degen.getD x []).getD y' 0 := by
  show ((a.degen.set x ((a.degen.getD x []).set y 1)).getD x []).getD y' 0 = _
  rw [getD_set_of_lt _ _ _ _ _ hx, if_pos rfl, getD_set_of_lt _ _ _ _ _ hy]

theorem degenAdd_row_length (a : Alphabet) (x y : Nat) (hx : x < a.degen.length) :
    ((a.degenAdd x y).degen.getD x []).length = (a.degen.getD x []).length ∧ (a.degenAdd x y).degen.length = a.degen.length := by
  constructor
  · show ((a.degen.set x ((a.degen.getD x []).set y 1)).getD x []).length = _
    rw [getD_set_of_lt _ _ _ _ _ hx, if_pos rfl, List.length_set]
  · show (a.degen.set x _).length = _
    rw [List.length_set]

theorem degenAdd_ndegen (a : Alphabet) (x y : Nat) (hx : x < a.ndegen.length) :
    (a.degenAdd x y).ndegen.getD x 0 = a.ndegen.getD x 0 + 1 ∧ (a.degenAdd x y).ndegen.length = a.ndegen.length := by
  constructor
  · show (a.ndegen.set x (a.ndegen.getD x 0 + 1)).getD x 0 = _
    rw [getD_set_of_lt _ _ _ _ _ hx, if_pos rfl]
  · show (a.ndegen.set x _).length = _
    rw [List.length_set]

theorem degenLoop_post (x : Nat) : ∀ (ds : List Nat) (a : Alphabet), x < a.degen.length → x < a.ndegen.length →
    (a.degen.getD x []).length = a.K → (a.degenLoop x ds).1 = .ok →
    (∀ y, ((a.degenLoop x ds).2.degen.getD x []).getD y 0 ≠ 0 ↔
      ((a.degen.getD x []).getD y 0 ≠ 0 ∨ y ∈ ds.filterMap a.strchrSym)) ∧
    (a.degenLoop x ds).2.ndegen.getD x 0 = a.ndegen.getD x 0 + ds.length := by
  intro ds
  induction ds with
  | nil => intro a _ _ _ _; exact ⟨fun y => by simp [degenLoop], rfl⟩
  | cons d rest ih =>
    intro a hx hn hrow hok
    cases hs : a.strchrSym d with
    | none => rw [degenLoop_cons_none x d rest a hs] at hok; cases hok
    | some y0 =>
      by_cases hc : a.xIsCanonical y0 = true
      · rw [degenLoop_cons_ok x d rest a y0 hs hc] at hok ⊢
        have hyK : y0 < a.K := by simpa [xIsCanonical] using hc
        obtain ⟨l1, l2⟩ := degenAdd_row_length a x y0 hx
        obtain ⟨n1, n2⟩ := degenAdd_ndegen a x y0 hn
        obtain ⟨i1, i2⟩ := ih (a.degenAdd x y0) (by rw [l2]; exact hx) (by rw [n2]; exact hn)
          (by rw [l1]; exact hrow) hok
        refine ⟨fun y => ?_, ?_⟩
        · rw [i1 y, degenAdd_row a x y0 y hx (by omega)]
          have hfm : (d :: rest).filterMap a.strchrSym = y0 :: rest.filterMap a.strchrSym := by
            simp [hs]
          have hfm' : rest.filterMap (a.degenAdd x y0).strchrSym = rest.filterMap a.strchrSym := rfl
          rw [hfm, hfm', List.mem_cons]
          by_cases e : y = y0
          · subst e; simp
          · simp [e]
        · rw [i2, n1, List.length_cons]; omega
      · rw [degenLoop_cons_bad x d rest a y0 hs hc] at hok; cases hok

theorem setDegeneracy_post (a : Alphabet) (h : a.WFDegen) (c : Nat) (ds : List Nat) (hok : (a.setDegeneracy c ds).1 = .ok) :
    ∃ x, a.strchrSym c = some x ∧ a.K < x ∧ x + 3 < a.Kp ∧
      (∀ y, (((a.setDegeneracy c ds).2.degen.getD x []).getD y 0 ≠ 0 ↔
        ((a.degen.getD x []).getD y 0 ≠ 0 ∨ y ∈ ds.filterMap a.strchrSym))) ∧
      (a.setDegeneracy c ds).2.ndegen.getD x 0 = a.ndegen.getD x 0 + ds.length ∧
      (∀ x', x' ≠ x → (a.setDegeneracy c ds).2.degen.getD x' [] = a.degen.getD x' [] ∧
        (a.setDegeneracy c ds).2.ndegen.getD x' 0 = a.ndegen.getD x' 0) ∧
      (a.setDegeneracy c ds).2.inmap = a.inmap ∧ (a.setDegeneracy c ds).2.sym = a.sym ∧
      (a.setDegeneracy c ds).2.K = a.K ∧ (a.setDegeneracy c ds).2.Kp = a.Kp := by
  rcases setDegeneracy_cases a c ds with ⟨e, _⟩ | ⟨x, hs, hx1, hx2, e⟩ <;> rw [e] at hok ⊢
  · cases hok
  obtain ⟨hd, hn, hrow⟩ := h
  obtain ⟨p1, p2⟩ := degenLoop_post x ds a (by omega) (by omega) (hrow x (by omega)).1 hok
  obtain ⟨d, n, ef⟩ := degenLoop_frame x ds a
  exact ⟨x, hs, hx1, hx2, p1, p2, fun x' hne => degenLoop_other x ds a x' hne, by rw [ef], by rw [ef], by rw [ef], by rw [ef]⟩

theorem foldl_set_length (chars : List Nat) (m : List Nat) : (chars.foldl (fun m c => m.set c IGNORED) m).length = m.length := by
  induction chars generalizing m with
  | nil => rfl
  | cons c cs ih => rw [List.foldl_cons, ih, List.length_set]

theorem foldl_set_getD (chars : List Nat) (m : List Nat) (i : Nat) (hi : i < m.length) :
    (chars.foldl (fun m c => m.set c IGNORED) m).getD i ILLEGAL = if i ∈ chars then IGNORED else m.getD i ILLEGAL := by
  induction chars generalizing m with
  | nil => simp
  | cons c cs ih =>
    rw [List.foldl_cons, ih (m.set c IGNORED) (by rw [List.length_set]; exact hi)]
    by_cases h1 : i ∈ cs
    · simp [h1]
    · rw [if_neg h1]
      by_cases h2 : i = c
      · subst h2
        rw [if_pos (List.mem_cons_self), getD_set_of_lt _ _ _ _ _ hi, if_pos rfl]
      · rw [if_neg (by simp [h1, h2]), getD_set_ne _ _ _ _ _ h2]

theorem setIgnored_post (a : Alphabet) (hl : a.inmap.length = 128) (chars : List Nat) :
    (∀ c, c < 128 → (a.setIgnored chars).inmapAt c = if c ∈ chars then IGNORED else a.inmapAt c) ∧
    (a.setIgnored chars).inmap.length = 128 ∧
    (a.setIgnored chars).sym = a.sym ∧ (a.setIgnored chars).K = a.K ∧ (a.setIgnored chars).Kp = a.Kp ∧
    (a.setIgnored chars).degen = a.degen ∧ (a.setIgnored chars).ndegen = a.ndegen ∧
    (a.setIgnored chars).complement = a.complement := by
  refine ⟨fun c hc => ?_, ?_, rfl, rfl, rfl, rfl, rfl, rfl⟩
  · exact foldl_set_getD chars a.inmap c (by omega)
  · show (chars.foldl (fun m c => m.set c IGNORED) a.inmap).length = 128
    rw [foldl_set_length, hl]

theorem setIgnored_code (a : Alphabet) (hl : a.inmap.length = 128) (hk : a.Kp ≤ 250) (chars : List Nat) (c : Nat) (hc : c < 128)
    (hm : c ∈ chars) : (a.setIgnored chars).code c = none := by
  have := (setIgnored_post a hl chars).1 c hc
  rw [if_pos hm] at this
  unfold code
  simp only [hc, if_true, this]
  have e : (a.setIgnored chars).Kp = a.Kp := rfl
  rw [e]
  have : ¬ IGNORED < a.Kp := by unfold IGNORED; omega
  simp [this]


theorem caseLoop_cons_some (a a' : Alphabet) (lc : Nat) (l : List Nat) (h : a.caseStep lc = some a') :
    a.caseLoop (lc :: l) = a'.caseLoop l := by
  conv => lhs; unfold caseLoop
  rw [h]

theorem caseLoop_cons_none (a : Alphabet) (lc : Nat) (l : List Nat) (h : a.caseStep lc = none) :
    a.caseLoop (lc :: l) = (.ecorrupt, a) := by
  conv => lhs; unfold caseLoop
  rw [h]

theorem caseLoop_rejected (l : List Nat) (a : Alphabet) (h : (a.caseLoop l).1 ≠ .ok) :
    ∃ pre lc post, l = pre ++ lc :: post ∧ (a.caseLoop pre).1 = .ok ∧ (a.caseLoop pre).2.caseStep lc = none ∧
      (a.caseLoop l).2 = (a.caseLoop pre).2 := by
  induction l generalizing a with
  | nil => exact absurd rfl h
  | cons lc rest ih =>
    cases hs : a.caseStep lc with
    | none => exact ⟨[], lc, rest, rfl, rfl, hs, by rw [caseLoop_cons_none a lc rest hs]; rfl⟩
    | some a' =>
      rw [caseLoop_cons_some a a' lc rest hs] at h
      obtain ⟨pre, lc', post, e1, e2, e3, e4⟩ := ih a' h
      refine ⟨lc :: pre, lc', post, by rw [e1]; rfl, ?_, ?_, ?_⟩
      · rw [caseLoop_cons_some a a' lc pre hs]; exact e2
      · rw [caseLoop_cons_some a a' lc pre hs]; exact e3
      · rw [caseLoop_cons_some a a' lc rest hs, caseLoop_cons_some a a' lc pre hs]; exact e4

theorem inmapAt_set (a : Alphabet) (u v c : Nat) (hu : u < a.inmap.length) :
    ({ a with inmap := a.inmap.set u v } : Alphabet).inmapAt c = if c = u then v else a.inmapAt c := by
  unfold inmapAt
  show (a.inmap.set u v).getD c ILLEGAL = _
  rw [getD_set_of_lt _ _ _ _ _ hu]

theorem caseStep_post (a a' : Alphabet) (lc : Nat) (hl : a.inmap.length = 128) (hlc : 97 ≤ lc ∧ lc ≤ 122)
    (hs : a.caseStep lc = some a') :
    a'.inmap.length = 128 ∧ a'.Kp = a.Kp ∧
    (∀ c, c ≠ lc → c ≠ toUpper lc → a'.inmapAt c = a.inmapAt c) ∧
    (∀ c, a.cIsValid c = true → a'.inmapAt c = a.inmapAt c) ∧
    (a'.cIsValid lc = a'.cIsValid (toUpper lc)) ∧ (a'.cIsValid lc = true → a'.inmapAt lc = a'.inmapAt (toUpper lc)) := by
  have huc : toUpper lc = lc - 32 := by unfold toUpper; rw [if_pos hlc]
  rcases caseStep_cases a lc a' hs with ⟨u, v, huv, hv, hu, rfl⟩ | ⟨rfl, h1, h2⟩
  · -- `u` takes the code of `v`; the two are the two cases of the letter, both 7-bit
    have hne : v ≠ u := by rcases huv with ⟨rfl, rfl⟩ | ⟨rfl, rfl⟩ <;> omega
    have h7 : u < 128 ∧ v < 128 := by rcases huv with ⟨rfl, rfl⟩ | ⟨rfl, rfl⟩ <;> omega
    have e1 : ∀ c, ({ a with inmap := a.inmap.set u (a.inmapAt v) } : Alphabet).inmapAt c =
        if c = u then a.inmapAt v else a.inmapAt c := fun c => inmapAt_set a _ _ c (by omega)
    have hvK : a.inmapAt v < a.Kp := ((cIsValid_iff a v).mp hv).2
    have both : ({ a with inmap := a.inmap.set u (a.inmapAt v) } : Alphabet).cIsValid u = true ∧
        ({ a with inmap := a.inmap.set u (a.inmapAt v) } : Alphabet).cIsValid v = true ∧
        ({ a with inmap := a.inmap.set u (a.inmapAt v) } : Alphabet).inmapAt u =
          ({ a with inmap := a.inmap.set u (a.inmapAt v) } : Alphabet).inmapAt v := by
      unfold cIsValid
      rw [e1, e1, if_pos rfl, if_neg hne]
      simp [h7.1, h7.2, hvK]
    refine ⟨by show (a.inmap.set _ _).length = 128; rw [List.length_set]; exact hl, rfl, ?_, ?_, ?_, ?_⟩
    · intro c c1 c2; rw [e1, if_neg (by rcases huv with ⟨rfl, rfl⟩ | ⟨rfl, rfl⟩ <;> assumption)]
    · intro c hc
      rw [e1, if_neg (fun e => by rw [e, hu] at hc; cases hc)]
    · rcases huv with ⟨rfl, rfl⟩ | ⟨rfl, rfl⟩
      · rw [both.1, both.2.1]
      · rw [both.1, both.2.1]
    · intro _
      rcases huv with ⟨rfl, rfl⟩ | ⟨rfl, rfl⟩
      · exact both.2.2.symm
      · exact both.2.2
  · exact ⟨hl, rfl, fun _ _ _ => rfl, fun _ _ => rfl, h1, fun hv => (h2 hv).symm⟩

theorem caseLoop_post (l : List Nat) : ∀ (a : Alphabet), a.inmap.length = 128 → (∀ lc ∈ l, 97 ≤ lc ∧ lc ≤ 122) → l.Nodup →
    (a.caseLoop l).1 = .ok →
    (a.caseLoop l).2.inmap.length = 128 ∧
    (∀ lc ∈ l, (a.caseLoop l).2.cIsValid lc = (a.caseLoop l).2.cIsValid (toUpper lc) ∧
      ((a.caseLoop l).2.cIsValid lc = true → (a.caseLoop l).2.inmapAt lc = (a.caseLoop l).2.inmapAt (toUpper lc))) ∧
    (∀ c, a.cIsValid c = true → (a.caseLoop l).2.inmapAt c = a.inmapAt c) ∧
    (∀ c, (∀ lc ∈ l, c ≠ lc ∧ c ≠ toUpper lc) → (a.caseLoop l).2.inmapAt c = a.inmapAt c) := by
  induction l with
  | nil => intro a hl _ _ _; exact ⟨hl, fun lc h => (by cases h), fun _ _ => rfl, fun _ _ => rfl⟩
  | cons lc rest ih =>
    intro a hl hrange hnd hok
    cases hs : a.caseStep lc with
    | none => rw [caseLoop_cons_none a lc rest hs] at hok; cases hok
    | some a' =>
      rw [caseLoop_cons_some a a' lc rest hs] at hok ⊢
      have hlc := hrange lc List.mem_cons_self
      obtain ⟨s1, s2, s3, s4, s5, s6⟩ := caseStep_post a a' lc hl hlc hs
      have hnd' := List.nodup_cons.mp hnd
      obtain ⟨i1, i2, i3, i4⟩ := ih a' s1 (fun x hx => hrange x (List.mem_cons_of_mem _ hx)) hnd'.2 hok
      have hKp : (a'.caseLoop rest).2.Kp = a'.Kp := by obtain ⟨m, e⟩ := caseLoop_frame rest a'; rw [e]
      have huc : toUpper lc = lc - 32 := by unfold toUpper; rw [if_pos hlc]
      -- the entries of `lc` and of its upper case are not touched by the rest of the loop
      have hfar : ∀ c, (c = lc ∨ c = toUpper lc) → (a'.caseLoop rest).2.inmapAt c = a'.inmapAt c := by
        intro c hc
        apply i4
        intro x hx
        have hxr := hrange x (List.mem_cons_of_mem _ hx)
        have hxu : toUpper x = x - 32 := by unfold toUpper; rw [if_pos hxr]
        have hxne : x ≠ lc := fun e => hnd'.1 (e ▸ hx)
        rcases hc with e | e
        · subst e; constructor
          · exact fun e2 => hxne e2.symm
          · rw [hxu]; omega
        · rw [e, huc, hxu]; constructor <;> omega
      refine ⟨i1, ?_, ?_, ?_⟩
      · intro x hx
        rcases List.mem_cons.mp hx with e | e
        · subst e
          have v1 : (a'.caseLoop rest).2.cIsValid x = a'.cIsValid x := by
            unfold cIsValid; rw [hfar x (Or.inl rfl), hKp]
          have v2 : (a'.caseLoop rest).2.cIsValid (toUpper x) = a'.cIsValid (toUpper x) := by
            unfold cIsValid; rw [hfar (toUpper x) (Or.inr rfl), hKp]
          rw [v1, v2, hfar x (Or.inl rfl), hfar (toUpper x) (Or.inr rfl)]
          exact ⟨s5, s6⟩
        · exact i2 x e
      · intro c hc
        have hc' : a'.cIsValid c = true := by
          unfold cIsValid at hc ⊢; rw [s4 c (by unfold cIsValid; exact hc), s2]; exact hc
        rw [i3 c hc', s4 c hc]
      · intro c hc
        rw [i4 c (fun x hx => hc x (List.mem_cons_of_mem _ hx))]
        exact s3 c (hc lc List.mem_cons_self).1 (hc lc List.mem_cons_self).2

theorem letters_ok : (∀ lc ∈ (List.range 26).map (· + 97), 97 ≤ lc ∧ lc ≤ 122) ∧ ((List.range 26).map (· + 97)).Nodup := by
  decide

theorem setCaseInsensitive_post (a : Alphabet) (hl : a.inmap.length = 128) (hok : a.setCaseInsensitive.1 = .ok) :
    (∀ lc, 97 ≤ lc → lc ≤ 122 → a.setCaseInsensitive.2.cIsValid lc = a.setCaseInsensitive.2.cIsValid (lc - 32) ∧
      (a.setCaseInsensitive.2.cIsValid lc = true → a.setCaseInsensitive.2.inmapAt lc = a.setCaseInsensitive.2.inmapAt (lc - 32))) ∧
    (∀ c, a.cIsValid c = true → a.setCaseInsensitive.2.inmapAt c = a.inmapAt c) ∧
    (∀ c, ¬ (97 ≤ c ∧ c ≤ 122) → ¬ (65 ≤ c ∧ c ≤ 90) → a.setCaseInsensitive.2.inmapAt c = a.inmapAt c) := by
  unfold setCaseInsensitive at hok ⊢
  obtain ⟨_, p2, p3, p4⟩ := caseLoop_post _ a hl letters_ok.1 letters_ok.2 hok
  refine ⟨fun lc h1 h2 => ?_, p3, fun c h1 h2 => ?_⟩
  · have hm : lc ∈ (List.range 26).map (· + 97) := List.mem_map.mpr ⟨lc - 97, List.mem_range.mpr (by omega), by omega⟩
    have := p2 lc hm
    have huc : toUpper lc = lc - 32 := by unfold toUpper; rw [if_pos ⟨h1, h2⟩]
    rw [huc] at this; exact this
  · apply p4
    intro x hx
    obtain ⟨k, hk, rfl⟩ := List.mem_map.mp hx
    have hk' := List.mem_range.mp hk
    have huc : toUpper (k + 97) = k + 97 - 32 := by unfold toUpper; rw [if_pos (by omega)]
    rw [huc]; constructor <;> omega

end Alphabet
end EaselModel.Alphabet
