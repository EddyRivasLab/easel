import EaselModel.Alphabet.Spec
import EaselModel.Alphabet.ListLemmas
/-! # C08 — the loop models equal their declarative statements (induction; every alphabet, every string); `mkDsq` read cell by cell -/
namespace EaselModel.Alphabet
namespace Alphabet

theorem digitizeStep_eq (a : Alphabet) (st : Status) (acc : List Nat) (c : Nat) :
    a.digitizeStep (st, acc) c =
      (if a.charOK c then st else .einval, match a.code c with | some x => x :: acc | none => acc) := by
  unfold digitizeStep charOK code
  generalize (if c < 128 then a.inmapAt c else ILLEGAL) = x
  by_cases h1 : x < a.Kp
  · simp [h1]
  · by_cases h2 : x = IGNORED
    · subst h2; simp [h1]
    · simp [h1, h2]

theorem foldl_digitizeStep (a : Alphabet) (seq : List Nat) (st : Status) (acc : List Nat) :
    seq.foldl a.digitizeStep (st, acc) =
      (if seq.all a.charOK then st else .einval, (seq.filterMap a.code).reverse ++ acc) := by
  induction seq generalizing st acc with
  | nil => simp
  | cons c cs ih =>
    rw [List.foldl_cons, digitizeStep_eq, ih]
    cases hc : a.code c <;> cases hk : a.charOK c <;> simp [hc, hk]

theorem digitize_eq_spec (a : Alphabet) (seq : List Nat) : a.digitize seq = a.digitizeSpec seq := by
  unfold digitize digitizeSpec
  rw [foldl_digitizeStep]
  simp

theorem code_lt (a : Alphabet) (h : 3 ≤ a.Kp) (c x : Nat) (hx : a.code c = some x) : x < a.Kp := by
  unfold code at hx
  generalize (if c < 128 then a.inmapAt c else ILLEGAL) = y at hx
  by_cases h1 : y < a.Kp
  · simp [h1] at hx; omega
  · by_cases h2 : y = IGNORED
    · subst h2; simp [h1] at hx
    · simp [h1, h2] at hx; unfold unknown at hx; omega

theorem filterMap_code_lt (a : Alphabet) (h : 3 ≤ a.Kp) (seq : List Nat) : ∀ x ∈ seq.filterMap a.code, x < a.Kp := by
  intro x hx
  rw [List.mem_filterMap] at hx
  obtain ⟨c, _, hc⟩ := hx
  exact code_lt a h c x hc

theorem textizeGo_spec (a : Alphabet) (dsq codes rest : List Nat) (i : Nat)
    (h : dsq.drop (i+1) = codes ++ rest) (hc : ∀ x ∈ codes, x < a.sym.length) :
    a.textizeGo dsq codes.length i = some (codes.map a.symAt) := by
  induction codes generalizing i with
  | nil => simp [textizeGo]
  | cons x xs ih =>
    obtain ⟨h0, h1⟩ := drop_eq_cons h
    have hx : x < a.sym.length := hc x (by simp)
    have h2 : a.sym[x]? = some (a.symAt x) := getElem?_eq_some_getD a.sym x 0 hx
    have ih' := ih (i+1) h1 (fun y hy => hc y (by simp [hy]))
    simp [textizeGo, h0, h2, ih']

theorem textize_mkDsq (a : Alphabet) (codes : List Nat) (hc : ∀ x ∈ codes, x < a.sym.length) :
    a.textize (mkDsq codes) codes.length = some (codes.map a.symAt) := by
  unfold textize
  exact textizeGo_spec a (mkDsq codes) codes [SENTINEL] 0 (by simp [mkDsq]) hc

theorem mkDsq_drop_succ (codes : List Nat) (o : Nat) (ho : o ≤ codes.length) :
    (mkDsq codes).drop (o + 1) = codes.drop o ++ [SENTINEL] := by
  show (SENTINEL :: (codes ++ [SENTINEL])).drop (o + 1) = _
  rw [List.drop_succ_cons, List.drop_append_of_le_length ho]

theorem mkDsq_getD (codes : List Nat) (i : Nat) (h1 : 1 ≤ i) (h2 : i ≤ codes.length) :
    (mkDsq codes).getD i 0 = codes.getD (i - 1) 0 := by
  obtain ⟨o, rfl⟩ : ∃ o, i = o + 1 := ⟨i - 1, by omega⟩
  have := List.getElem?_drop (xs := mkDsq codes) (i := o + 1) (j := 0)
  rw [mkDsq_drop_succ codes o (by omega), List.getElem?_append_left (by rw [List.length_drop]; omega), List.getElem?_drop] at this
  rw [List.getD_eq_getElem?_getD, List.getD_eq_getElem?_getD, ← this]; rfl

theorem mkDsq_valid (codes : List Nat) (B : Nat) (hc : ∀ x ∈ codes, x < B) (i : Nat) (h1 : 1 ≤ i) (h2 : i ≤ codes.length) :
    (mkDsq codes).getD i 0 < B := by
  rw [mkDsq_getD codes i h1 h2, List.getD_eq_getElem?_getD, List.getElem?_eq_getElem (by omega)]
  exact hc _ (List.getElem_mem _)

/-- `esl_abc_TextizeN` from cell `off + i` on, when the array continues there with the residues `W` (valid codes, no sentinel):
    a window of exactly `W.length` cells is spelled out, and if a sentinel follows `W`, any longer window gets `W` and a NUL -/
theorem textizeN_run (a : Alphabet) (d : List Nat) (off : Nat) :
    ∀ (W : List Nat) (i : Nat) (acc rest : List Nat), d.drop (off + i) = W ++ rest →
      (∀ x ∈ W, x ≠ SENTINEL ∧ x < a.sym.length) →
      a.textizeN d off W.length i acc = some (acc.reverse ++ W.map a.symAt) ∧
      (∀ k rest', rest = SENTINEL :: rest' →
        a.textizeN d off (W.length + 1 + k) i acc = some (acc.reverse ++ W.map a.symAt ++ [0])) := by
  intro W
  induction W with
  | nil =>
    intro i acc rest hd _
    refine ⟨by rw [List.map_nil, List.append_nil]; rfl, fun k rest' hr => ?_⟩
    rw [hr] at hd
    have e := (drop_eq_cons hd).1
    rw [List.length_nil, Nat.zero_add, Nat.add_comm, textizeN]
    simp only [e, Option.bind_eq_bind, Option.bind_some, if_true, List.reverse_cons, List.map_nil, List.append_nil]
  | cons x W ih =>
    intro i acc rest hd hv
    obtain ⟨hx, hxl⟩ := hv x (by simp)
    obtain ⟨e, hd'⟩ := drop_eq_cons hd
    have ec : a.sym[x]? = some (a.symAt x) := getElem?_eq_some_getD a.sym x 0 hxl
    obtain ⟨i1, i2⟩ := ih (i + 1) (a.symAt x :: acc) rest hd' (fun y hy => hv y (by simp [hy]))
    have step : ∀ k, a.textizeN d off (k + 1) i acc = a.textizeN d off k (i + 1) (a.symAt x :: acc) := fun k => by
      rw [textizeN]; simp only [e, Option.bind_eq_bind, Option.bind_some, if_neg hx, ec]
    refine ⟨by rw [List.length_cons, step, i1, List.reverse_cons, List.map_cons, List.append_assoc]; rfl, fun k rest' hr => ?_⟩
    rw [List.length_cons, show W.length + 1 + 1 + k = (W.length + 1 + k) + 1 by omega, step, i2 k rest' hr]; simp

/-- `esl_abc_TextizeN` on any window, when from `off` on the array holds valid residues `W` without a sentinel and then a sentinel:
    the window is spelled up to its first sentinel (which becomes a NUL); inside `W` it is `L` symbols, past it `W` and a NUL -/
theorem textizeN_upto_sentinel (a : Alphabet) (d : List Nat) (off : Nat) (W rest' : List Nat)
    (hd : d.drop off = W ++ SENTINEL :: rest') (hW : ∀ x ∈ W, x ≠ SENTINEL ∧ x < a.sym.length) (L : Nat) :
    a.textizeN d off L 0 [] =
      some ((((d.drop off).take L).takeWhile (· ≠ SENTINEL)).map a.symAt ++
        (if SENTINEL ∈ (d.drop off).take L then [0] else [])) ∧
    (L ≤ W.length → a.textizeN d off L 0 [] = some ((W.take L).map a.symAt)) ∧
    (W.length < L → a.textizeN d off L 0 [] = some (W.map a.symAt ++ [0])) := by
  have inside : L ≤ W.length → a.textizeN d off L 0 [] = some ((W.take L).map a.symAt) := fun h => by
    have := (textizeN_run a d off (W.take L) 0 [] (W.drop L ++ SENTINEL :: rest')
      (by rw [Nat.add_zero, hd, ← List.append_assoc, List.take_append_drop])
      (fun x hx => hW x (List.mem_of_mem_take hx))).1
    rwa [List.length_take_of_le h, List.reverse_nil, List.nil_append] at this
  have past : W.length < L → a.textizeN d off L 0 [] = some (W.map a.symAt ++ [0]) := fun h => by
    have := (textizeN_run a d off W 0 [] (SENTINEL :: rest') (by rw [Nat.add_zero, hd]) hW).2 (L - W.length - 1) rest' rfl
    rwa [show W.length + 1 + (L - W.length - 1) = L by omega, List.reverse_nil, List.nil_append] at this
  have hp : ∀ x ∈ W, decide (x ≠ SENTINEL) = true := fun x hx => by simpa using (hW x hx).1
  refine ⟨?_, inside, past⟩
  rw [hd]
  by_cases c : L ≤ W.length
  · rw [inside c, List.take_append_of_le_length c,
      if_neg (fun hm => (hW _ (List.mem_of_mem_take hm)).1 rfl), List.append_nil]
    congr 2
    have := List.takeWhile_append_of_pos (l₂ := []) (fun x hx => hp x (List.mem_of_mem_take hx) : ∀ x ∈ W.take L, _)
    simpa using this.symm
  · obtain ⟨k, rfl⟩ : ∃ k, L = W.length + (k + 1) := ⟨L - W.length - 1, by omega⟩
    rw [past (by omega), List.take_length_add_append, List.take_succ_cons, List.takeWhile_append_of_pos hp,
      if_pos (List.mem_append_right _ List.mem_cons_self)]
    simp

theorem cIsValid_iff (a : Alphabet) (c : Nat) : a.cIsValid c = true ↔ c < 128 ∧ a.inmapAt c < a.Kp := by
  unfold cIsValid; simp only [Bool.and_eq_true, decide_eq_true_eq]

theorem code_symAt (a : Alphabet) (h : a.WF) (x : Nat) (hx : x < a.Kp) :
    a.code (a.symAt x) = some x ∧ a.charOK (a.symAt x) = true := by
  obtain ⟨_, _, _, _, hs⟩ := h
  obtain ⟨h1, h2⟩ := hs x hx
  unfold code charOK
  simp [h1, h2, hx]

theorem filterMap_code_symAt (a : Alphabet) (h : a.WF) (codes : List Nat) (hc : ∀ x ∈ codes, x < a.Kp) :
    (codes.map a.symAt).filterMap a.code = codes ∧ (codes.map a.symAt).all a.charOK = true := by
  induction codes with
  | nil => simp
  | cons x xs ih =>
    have hx := code_symAt a h x (hc x (by simp))
    have ih' := ih (fun y hy => hc y (by simp [hy]))
    simp [hx.1, hx.2, ih'.1]
    simpa using ih'.2

theorem digitize_textized (a : Alphabet) (h : a.WF) (codes : List Nat) (hc : ∀ x ∈ codes, x < a.Kp) :
    a.digitize (codes.map a.symAt) = (.ok, mkDsq codes) := by
  rw [digitize_eq_spec]
  unfold digitizeSpec
  have := filterMap_code_symAt a h codes hc
  rw [this.1, this.2]
  simp [mkDsq]

end Alphabet
end EaselModel.Alphabet
