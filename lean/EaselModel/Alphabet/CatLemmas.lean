import EaselModel.Alphabet.RevcompLemmas
/-! # C08 — `esl_abc_dsqcat(_noalloc)` = appending the digitisation -/
namespace EaselModel.Alphabet
namespace Alphabet

/-- the code `esl_abc_dsqcat_noalloc` appends for input byte `c` under input map `inmap` (`none`: ignored) -/
def catCode (inmap : List Nat) (c : Nat) : Option Nat :=
  if c ≥ 128 then some (inmap.getD 0 ILLEGAL)
  else
    let x := inmap.getD c ILLEGAL
    if x ≤ 127 then some x else if x = ILLEGAL then some (inmap.getD 0 ILLEGAL) else none

def catOK (inmap : List Nat) (c : Nat) : Bool :=
  decide (c < 128) && (decide (inmap.getD c ILLEGAL ≤ 127) || decide (inmap.getD c ILLEGAL = IGNORED))

/-- an input map as the documentation requires: every entry is a code ≤ 127, `eslDSQ_ILLEGAL` or `eslDSQ_IGNORED` -/
def InmapClean (inmap : List Nat) : Prop :=
  ∀ c, c < 128 → inmap.getD c ILLEGAL ≤ 127 ∨ inmap.getD c ILLEGAL = ILLEGAL ∨ inmap.getD c ILLEGAL = IGNORED

instance (inmap : List Nat) : Decidable (InmapClean inmap) := by unfold InmapClean; infer_instance

theorem dsqcatStep_eq (inmap : List Nat) (h : InmapClean inmap) (st : Status) (acc : List Nat) (c : Nat) :
    dsqcatStep inmap (st, acc) c =
      .ok (if catOK inmap c then st else .einval, match catCode inmap c with | some x => x :: acc | none => acc) := by
  unfold dsqcatStep catOK catCode
  by_cases hc : c ≥ 128
  · have : ¬ c < 128 := by omega
    simp [hc, this]
  · have hc' : c < 128 := by omega
    have h' := h c hc'
    generalize inmap.getD c ILLEGAL = x at h' ⊢
    generalize inmap.getD 0 ILLEGAL = u
    rcases h' with h1 | h1 | h1
    · simp [hc, hc', h1]
    · subst h1; simp [hc, hc', ILLEGAL, IGNORED]
    · subst h1; simp [hc, hc', ILLEGAL, IGNORED]

theorem dsqcatLoop_eq (inmap : List Nat) (h : InmapClean inmap) (s : List Nat) (st : Status) (acc : List Nat) :
    dsqcatLoop inmap s (st, acc) =
      .ok (if s.all (catOK inmap) then st else .einval, (s.filterMap (catCode inmap)).reverse ++ acc) := by
  induction s generalizing st acc with
  | nil => simp [dsqcatLoop]
  | cons c cs ih =>
    rw [dsqcatLoop, dsqcatStep_eq inmap h]
    simp only []
    rw [ih]
    cases hk : catOK inmap c <;> cases hc : catCode inmap c <;> simp [hk, hc]

theorem dsqcatNoalloc_spec (inmap : List Nat) (h : InmapClean inmap) (codes s : List Nat) :
    dsqcatNoalloc inmap (mkDsq codes) codes.length s =
      .ok (if s.all (catOK inmap) then .ok else .einval, mkDsq (codes ++ s.filterMap (catCode inmap)),
           codes.length + (s.filterMap (catCode inmap)).length) := by
  unfold dsqcatNoalloc
  rw [dsqcatLoop_eq inmap h]
  simp [mkDsq]

theorem dsqcat_is_digitize (a : Alphabet) (hclean : ∀ c, c < 128 → a.inmapAt c < a.Kp ∨ a.inmapAt c = ILLEGAL ∨ a.inmapAt c = IGNORED)
    (hKp : a.Kp ≤ 128) (hlen : a.inmap.length = 128) (codes s : List Nat) (hnul : ∀ c ∈ s, c ≠ 0) :
    dsqcatNoalloc (a.inmap.set 0 a.unknown) (mkDsq codes) codes.length s =
      .ok ((a.digitize s).1, mkDsq (codes ++ s.filterMap a.code), codes.length + (s.filterMap a.code).length) := by
  have hget0 : (a.inmap.set 0 a.unknown).getD 0 ILLEGAL = a.unknown := by
    rw [List.getD_eq_getElem?_getD, List.getElem?_set]; simp [hlen]
  have hget : ∀ c, c ≠ 0 → (a.inmap.set 0 a.unknown).getD c ILLEGAL = a.inmapAt c := by
    intro c hc
    unfold inmapAt
    rw [List.getD_eq_getElem?_getD, List.getElem?_set, List.getD_eq_getElem?_getD]
    have : ¬ 0 = c := fun e => hc e.symm
    simp [this]
  have hcl : InmapClean (a.inmap.set 0 a.unknown) := by
    intro c hc
    by_cases h0 : c = 0
    · subst h0; rw [hget0]; left; unfold unknown; omega
    · rw [hget c h0]
      rcases hclean c hc with h1 | h1 | h1
      · left; omega
      · right; left; exact h1
      · right; right; exact h1
  have hcode : ∀ c, c ≠ 0 → catCode (a.inmap.set 0 a.unknown) c = a.code c ∧ catOK (a.inmap.set 0 a.unknown) c = a.charOK c := by
    intro c hc
    unfold catCode catOK code charOK
    rw [hget0]
    by_cases h128 : c < 128
    · rw [hget c hc]
      have : ¬ c ≥ 128 := by omega
      rcases hclean c h128 with h1 | h1 | h1
      · have : a.inmapAt c ≤ 127 := by omega
        simp [h128, h1, this, show ¬ c ≥ 128 by omega]
      · have e1 : ¬ (ILLEGAL ≤ 127) := by decide
        have e2 : ¬ (ILLEGAL < a.Kp) := by unfold ILLEGAL; omega
        have e3 : ¬ (ILLEGAL = IGNORED) := by decide
        simp [h128, h1, e1, e2, e3, show ¬ c ≥ 128 by omega]
      · have e1 : ¬ (IGNORED ≤ 127) := by decide
        have e2 : ¬ (IGNORED < a.Kp) := by unfold IGNORED; omega
        have e3 : ¬ (IGNORED = ILLEGAL) := by decide
        simp [h128, h1, e1, e2, e3, show ¬ c ≥ 128 by omega]
    · have e2 : ¬ (ILLEGAL < a.Kp) := by unfold ILLEGAL; omega
      have e3 : ¬ (ILLEGAL = IGNORED) := by decide
      simp [h128, show c ≥ 128 by omega, e2, e3]
  rw [dsqcatNoalloc_spec _ hcl, digitize_eq_spec]
  have e12 : ∀ l : List Nat, (∀ c ∈ l, c ≠ 0) →
      l.filterMap (catCode (a.inmap.set 0 a.unknown)) = l.filterMap a.code ∧
      l.all (catOK (a.inmap.set 0 a.unknown)) = l.all a.charOK := by
    intro l
    induction l with
    | nil => intro _; simp
    | cons c cs ih =>
      intro hl
      obtain ⟨i1, i2⟩ := ih (fun d hd => hl d (by simp [hd]))
      obtain ⟨c1, c2⟩ := hcode c (hl c (by simp))
      simp [List.filterMap_cons, c1, c2, i1, i2]
  obtain ⟨e1, e2⟩ := e12 s hnul
  rw [e1, e2]
  rfl

end Alphabet
end EaselModel.Alphabet
