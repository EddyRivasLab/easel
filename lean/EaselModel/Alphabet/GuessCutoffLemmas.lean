import EaselModel.Alphabet.MsaGuessLemmas
/-! # C08 — the counting loop of `esl_sq_GuessAlphabet` (and of both passes of `esl_msa_GuessAlphabet`) on EVERY byte string:
it counts exactly the letters of the shortest prefix holding 10001 letters (`if (n > 10000) break;` after the increment) -/
namespace EaselModel.Alphabet.Guess

def isL (c : Nat) : Bool := decide (65 ≤ c ∧ c ≤ 90) || decide (97 ≤ c ∧ c ≤ 122)

theorem nLetters_eq (seq : List Nat) : nLetters seq = (seq.filter isL).length := rfl

theorem isL_iff (c : Nat) (hc : c < 256) : isL c = true ↔ ¬ (letterIdx c < 0 ∨ letterIdx c ≥ 26) := by
  unfold isL letterIdx
  by_cases h1 : c ≥ 128
  · simp only [h1, if_true]; simp; omega
  · by_cases h2 : 97 ≤ c ∧ c ≤ 122
    · simp only [h1, h2, if_false, if_true, and_self]; simp; omega
    · simp only [h1, h2, if_false]; simp; omega

/-- the shortest prefix of `seq` that holds `k` letters (all of `seq` if it has fewer) -/
def takeLetters : Nat → List Nat → List Nat
  | 0, _ => []
  | _, [] => []
  | k+1, c :: cs => if isL c then c :: takeLetters k cs else c :: takeLetters (k+1) cs

theorem nLetters_takeLetters (k : Nat) (seq : List Nat) : nLetters (takeLetters k seq) ≤ k := by
  induction seq generalizing k with
  | nil => cases k <;> simp [takeLetters, nLetters]
  | cons c cs ih =>
    cases k with
    | zero => simp [takeLetters, nLetters]
    | succ k =>
      unfold takeLetters
      by_cases h : isL c = true
      · rw [if_pos h, nLetters_eq, List.filter_cons, if_pos h, List.length_cons, ← nLetters_eq]
        have := ih k; omega
      · rw [if_neg h, nLetters_eq, List.filter_cons, if_neg h, ← nLetters_eq]
        exact ih (k+1)

theorem takeLetters_prefix (k : Nat) (seq : List Nat) : ∃ rest, seq = takeLetters k seq ++ rest := by
  induction seq generalizing k with
  | nil => cases k <;> exact ⟨[], by simp [takeLetters]⟩
  | cons c cs ih =>
    cases k with
    | zero => exact ⟨c :: cs, by simp [takeLetters]⟩
    | succ k =>
      unfold takeLetters
      by_cases h : isL c = true
      · rw [if_pos h]; obtain ⟨r, hr⟩ := ih k; exact ⟨r, by rw [List.cons_append, ← hr]⟩
      · rw [if_neg h]; obtain ⟨r, hr⟩ := ih (k+1); exact ⟨r, by rw [List.cons_append, ← hr]⟩

theorem takeLetters_all (k : Nat) (seq : List Nat) (h : nLetters seq < k) : takeLetters k seq = seq := by
  induction seq generalizing k with
  | nil => cases k <;> rfl
  | cons c cs ih =>
    cases k with
    | zero => omega
    | succ k =>
      unfold takeLetters
      rw [nLetters_eq, List.filter_cons] at h
      by_cases hc : isL c = true
      · rw [if_pos hc] at h ⊢
        rw [List.length_cons, ← nLetters_eq] at h
        rw [ih k (by omega)]
      · rw [if_neg hc] at h ⊢
        rw [← nLetters_eq] at h
        rw [ih (k+1) h]

/-- the letter numbers (0 = A … 25 = Z) of the letters of a byte string, in order -/
def lettersOf (seq : List Nat) : List Nat := (seq.filter isL).map fun c => (letterIdx c).toNat

theorem lettersOf_cons (c : Nat) (cs : List Nat) :
    lettersOf (c :: cs) = if isL c then (letterIdx c).toNat :: lettersOf cs else lettersOf cs := by
  unfold lettersOf; by_cases h : isL c = true <;> simp [h]

/-- the loop in closed form: it counts the letters of the shortest prefix that holds `10001 - n` letters (the break comes
    after the increment) -/
theorem sqCount_eq (seq : List Nat) (hb : ∀ c ∈ seq, c < 256) :
    ∀ (ct : List Int) (n : Nat), n ≤ 10000 → sqCount seq ct n = (lettersOf (takeLetters (10001 - n) seq)).foldl bump ct := by
  induction seq with
  | nil => intro ct n _; cases h : 10001 - n <;> rfl
  | cons c cs ih =>
    intro ct n hn
    have hcb := hb c List.mem_cons_self
    have ih' := ih (fun c' hc' => hb c' (List.mem_cons_of_mem _ hc'))
    obtain ⟨k, hk⟩ : ∃ k, 10001 - n = k + 1 := ⟨10000 - n, by omega⟩
    rw [hk]
    unfold takeLetters
    by_cases hL : isL c = true
    · rw [if_pos hL, sqCount_cons_in c cs ct n ((isL_iff c hcb).mp hL), lettersOf_cons, if_pos hL, List.foldl_cons]
      by_cases hcut : n + 1 > 10000
      · rw [if_pos hcut, show k = 0 by omega]; cases cs <;> rfl
      · rw [if_neg hcut, ih' _ (n + 1) (by omega), show 10001 - (n + 1) = k by omega]
    · have hout : letterIdx c < 0 ∨ letterIdx c ≥ 26 := Decidable.byContradiction fun h => hL ((isL_iff c hcb).mpr h)
      rw [if_neg hL, sqCount_cons_out c cs ct n hout, lettersOf_cons, if_neg hL, ih' ct n hn, hk]

/-- counting letter by letter: counter `l` grows by the number of occurrences of letter `l` in either case -/
theorem foldl_bump_letters (seq : List Nat) (hb : ∀ c ∈ seq, c < 256) :
    ∀ ct : List Int, ct.length = 26 →
      ((lettersOf seq).foldl bump ct).length = 26 ∧
      ∀ l, l < 26 → ((lettersOf seq).foldl bump ct).getD l 0 = ct.getD l 0 + ((seq.filter fun c => isLetter c l).length : Int) := by
  induction seq with
  | nil => intro ct hl; exact ⟨hl, fun l _ => by simp [lettersOf]⟩
  | cons c cs ih =>
    intro ct hl
    have hcb := hb c List.mem_cons_self
    have ih' := ih (fun c' hc' => hb c' (List.mem_cons_of_mem _ hc'))
    rcases letterIdx_cases c hcb with ⟨hout, hno⟩ | ⟨l0, hl0, hidx, hyes, hother⟩
    · rw [lettersOf_cons, if_neg (fun h => ((isL_iff c hcb).mp h) hout)]
      obtain ⟨g1, g2⟩ := ih' ct hl
      exact ⟨g1, fun l hl' => by rw [g2 l hl', List.filter_cons, hno l hl']; rfl⟩
    · rw [lettersOf_cons, if_pos ((isL_iff c hcb).mpr (by omega)), List.foldl_cons, show (letterIdx c).toNat = l0 by omega]
      obtain ⟨g1, g2⟩ := ih' (bump ct l0) (by rw [bump_length]; exact hl)
      refine ⟨g1, fun l hl' => ?_⟩
      rw [g2 l hl', List.filter_cons, bump, getD_set_of_lt _ _ _ _ _ (by omega)]
      by_cases e : l = l0
      · subst e; simp only [if_true, hyes, List.length_cons]; push_cast; omega
      · rw [if_neg e, hother l e hl']; simp

theorem lettersOf_takeLetters (k : Nat) (seq : List Nat) (h : nLetters seq ≤ k) : lettersOf (takeLetters k seq) = lettersOf seq := by
  induction seq generalizing k with
  | nil => cases k <;> rfl
  | cons c cs ih =>
    rw [nLetters_eq, List.filter_cons] at h
    by_cases hc : isL c = true
    · rw [if_pos hc, List.length_cons, ← nLetters_eq] at h
      obtain ⟨k, rfl⟩ : ∃ j, k = j + 1 := ⟨k - 1, by omega⟩
      unfold takeLetters
      rw [if_pos hc, lettersOf_cons, lettersOf_cons, ih k (by omega)]
    · rw [if_neg hc, ← nLetters_eq] at h
      cases k with
      | zero =>
        have hz : lettersOf cs = [] := by rw [← ih 0 h]; cases cs <;> rfl
        rw [lettersOf_cons, if_neg hc, hz]; rfl
      | succ k =>
        unfold takeLetters
        rw [if_neg hc, lettersOf_cons, lettersOf_cons, ih (k + 1) h]

theorem sqCount_prefix (seq : List Nat) (hb : ∀ c ∈ seq, c < 256) :
    ∀ (ct : List Int) (n : Nat), n ≤ 10000 → sqCount seq ct n = sqCount (takeLetters (10001 - n) seq) ct n := by
  intro ct n hn
  obtain ⟨rest, hrest⟩ := takeLetters_prefix (10001 - n) seq
  rw [sqCount_eq seq hb ct n hn,
    sqCount_eq _ (fun c hc => hb c (by rw [hrest]; exact List.mem_append_left _ hc)) ct n hn,
    lettersOf_takeLetters _ _ (nLetters_takeLetters _ _)]

/-- the bound `n + nLetters seq ≤ 10001` counts the letter on which the loop breaks (`if (n > 10000) break;` after the increment) -/
theorem sqCount_spec (seq : List Nat) (hb : ∀ c ∈ seq, c < 256) :
    ∀ (ct : List Int) (n : Nat), ct.length = 26 → n ≤ 10000 → n + nLetters seq ≤ 10001 →
      (sqCount seq ct n).length = 26 ∧
      ∀ l, l < 26 → (sqCount seq ct n).getD l 0 = ct.getD l 0 + ((seq.filter fun c => isLetter c l).length : Int) := by
  intro ct n hl hn hb'
  rw [sqCount_eq seq hb ct n hn, lettersOf_takeLetters _ _ (by omega)]
  exact foldl_bump_letters seq hb ct hl

theorem sqCount_all (seq : List Nat) (hb : ∀ c ∈ seq, c < 256) :
    (∀ l, l < 26 → (sqCount seq (List.replicate 26 0) 0).getD l 0 =
      (((takeLetters 10001 seq).filter fun c => isLetter c l).length : Int)) ∧
    Counts (sqCount seq (List.replicate 26 0) 0) := by
  obtain ⟨rest, hrest⟩ := takeLetters_prefix 10001 seq
  have hb' : ∀ c ∈ takeLetters 10001 seq, c < 256 := fun c hc => hb c (by rw [hrest]; exact List.mem_append_left _ hc)
  have hnl := nLetters_takeLetters 10001 seq
  obtain ⟨g1, g2⟩ := foldl_bump_letters (takeLetters 10001 seq) hb' (List.replicate 26 0) (by simp)
  rw [sqCount_eq seq hb _ 0 (by omega)]
  have hcnt : ∀ l, l < 26 → ((lettersOf (takeLetters 10001 seq)).foldl bump (List.replicate 26 0)).getD l 0 =
      (((takeLetters 10001 seq).filter fun c => isLetter c l).length : Int) := by
    intro l hl
    rw [g2 l hl, List.getD_eq_getElem?_getD, List.getElem?_replicate, if_pos hl]; simp
  refine ⟨hcnt, fun l => ?_⟩
  by_cases hl : l < 26
  · rw [Nat.sub_zero, hcnt l hl]
    have := filter_letter_le (takeLetters 10001 seq) l hl
    omega
  · rw [List.getD_eq_getElem?_getD, List.getElem?_eq_none (by rw [Nat.sub_zero, g1]; omega)]
    simp

end EaselModel.Alphabet.Guess
