import EaselModel.Alphabet.DealignLemmas
/-! # C08 — `esl_abc_ValidateSeq` (status, number of bad characters, first bad position), `esl_sq_Digitize`,
`esl_abc_ConvertDegen2X` -/
namespace EaselModel.Alphabet
namespace Alphabet

/-- what `esl_abc_ValidateSeq` counts as a bad character: not `esl_abc_CIsValid` (with an alphabet; ignored characters are
    NOT valid here), or not 7-bit (without one) -/
def isBad (a : Option Alphabet) (c : Nat) : Bool :=
  match a with
  | some a => !a.cIsValid c
  | none => decide (c ≥ 128)

/-- 0-based position of the first bad character (= length, if there is none) -/
def firstBad (a : Option Alphabet) (seq : List Nat) : Nat := (seq.takeWhile fun c => !isBad a c).length

theorem badChars_cons (a : Option Alphabet) (c : Nat) (cs : List Nat) (i : Nat) :
    badChars a (c :: cs) i = if isBad a c then (c, i) :: badChars a cs (i+1) else badChars a cs (i+1) := by
  cases a <;> rfl

theorem badChars_length (a : Option Alphabet) (seq : List Nat) (i : Nat) :
    (badChars a seq i).length = (seq.filter (isBad a)).length := by
  induction seq generalizing i with
  | nil => rfl
  | cons c cs ih =>
    rw [badChars_cons, List.filter_cons]
    by_cases h : isBad a c = true
    · simp only [h, if_true, List.length_cons, ih]
    · simp only [h, Bool.false_eq_true, if_false, ih]

theorem badChars_head (a : Option Alphabet) (seq : List Nat) (i : Nat) :
    (badChars a seq i).head? =
      if firstBad a seq < seq.length then some (seq.getD (firstBad a seq) 0, i + firstBad a seq) else none := by
  induction seq generalizing i with
  | nil => rfl
  | cons c cs ih =>
    rw [badChars_cons]
    unfold firstBad
    by_cases h : isBad a c = true
    · simp [h]
    · have h' : isBad a c = false := by simpa using h
      simp only [h', Bool.false_eq_true, if_false, List.takeWhile_cons, Bool.not_false, if_true, List.length_cons,
        List.getD_cons_succ, Nat.add_lt_add_iff_right]
      rw [ih (i+1)]
      unfold firstBad
      split
      · congr 2; omega
      · rfl

theorem validateSeqMsg_spec (a : Option Alphabet) (seq : List Nat) :
    validateSeqMsg a seq =
      let nbad := (seq.filter (isBad a)).length
      let p := firstBad a seq
      if nbad = 0 then (.ok, [])
      else if nbad = 1 then (.einval, str "invalid char " ++ [seq.getD p 0] ++ str s!" at pos {p+1}")
      else (.einval, str s!"{nbad} invalid chars (including " ++ [seq.getD p 0] ++ str s!" at pos {p+1})") := by
  have hl := badChars_length a seq 0
  have hh := badChars_head a seq 0
  unfold validateSeqMsg
  simp only []
  cases hb : badChars a seq 0 with
  | nil => rw [hb] at hl; simp only [List.length_nil] at hl; rw [← hl]; rfl
  | cons x rest =>
    rw [hb] at hl hh
    simp only [List.head?_cons, List.length_cons] at hl hh
    have hp : firstBad a seq < seq.length := by
      by_cases e : firstBad a seq < seq.length
      · exact e
      · rw [if_neg e] at hh; cases hh
    rw [if_pos hp, Nat.zero_add] at hh
    obtain ⟨c, i⟩ := x
    simp only [Option.some.injEq, Prod.mk.injEq] at hh
    obtain ⟨hc, hi⟩ := hh
    subst hc hi
    cases rest with
    | nil =>
      simp only [List.length_nil, Nat.zero_add] at hl
      rw [← hl]; rfl
    | cons y rest' =>
      simp only [List.length_cons] at hl
      rw [← hl, if_neg (by omega), if_neg (by omega)]
      rfl

theorem validateSeq_ok_iff (a : Option Alphabet) (seq : List Nat) :
    (validateSeqMsg a seq).1 = .ok ↔ ∀ c ∈ seq, isBad a c = false := by
  rw [validateSeqMsg_spec]
  simp only []
  constructor
  · intro h
    by_cases e : (seq.filter (isBad a)).length = 0
    · intro c hc
      have : seq.filter (isBad a) = [] := List.eq_nil_of_length_eq_zero e
      have := List.filter_eq_nil_iff.mp this c hc
      simpa using this
    · rw [if_neg e] at h
      split at h <;> cases h
  · intro h
    have : seq.filter (isBad a) = [] := List.filter_eq_nil_iff.mpr (fun c hc => by rw [h c hc]; simp)
    rw [this]; rfl

theorem validateSeq_status (a : Option Alphabet) (seq : List Nat) :
    (validateSeqMsg a seq).1 = .ok ∨ (validateSeqMsg a seq).1 = .einval := by
  rw [validateSeqMsg_spec]; simp only []
  split
  · left; rfl
  · split <;> (right; rfl)

theorem code_of_valid (a : Alphabet) (c : Nat) (h : a.cIsValid c = true) :
    a.code c = some (a.inmapAt c) ∧ a.charOK c = true := by
  rw [cIsValid_iff] at h
  unfold code charOK
  simp [h.1, h.2]

theorem filterMap_code_valid (a : Alphabet) (seq : List Nat) (h : ∀ c ∈ seq, a.cIsValid c = true) :
    seq.filterMap a.code = seq.map a.inmapAt ∧ seq.all a.charOK = true := by
  induction seq with
  | nil => simp
  | cons c cs ih =>
    obtain ⟨h1, h2⟩ := code_of_valid a c (h c (by simp))
    obtain ⟨i1, i2⟩ := ih (fun d hd => h d (by simp [hd]))
    simp [h1, h2, i1, i2]

theorem digitize_of_valid (a : Alphabet) (seq : List Nat) (h : seq.all a.cIsValid = true) :
    a.digitize seq = (.ok, mkDsq (seq.map a.inmapAt)) := by
  obtain ⟨h1, h2⟩ := filterMap_code_valid a seq (fun c hc => List.all_eq_true.mp h c hc)
  rw [digitize_eq_spec]; unfold digitizeSpec
  simp only [h1, h2, if_true]
  rfl

theorem sqDigitize_spec (a : Alphabet) (seq : List Nat) :
    Sq.sqDigitize a seq =
      if seq.all a.cIsValid then .ok (mkDsq (seq.map a.inmapAt)) else .error .einval := by
  unfold Sq.sqDigitize Sq.validateSeq
  by_cases h : seq.all a.cIsValid = true
  · simp only [h, if_true, ne_eq, not_true_eq_false, if_false, digitize_of_valid a seq h]
  · simp [h]

theorem sqValidateSeq_eq (a : Alphabet) (seq : List Nat) : Sq.validateSeq a seq = (validateSeqMsg (some a) seq).1 := by
  unfold Sq.validateSeq
  by_cases h : seq.all a.cIsValid = true
  · rw [if_pos h]
    exact ((validateSeq_ok_iff (some a) seq).mpr (fun c hc => by
      have := List.all_eq_true.mp h c hc; simp [isBad, this])).symm
  · rw [if_neg h]
    rcases validateSeq_status (some a) seq with e | e
    · exfalso; apply h
      rw [List.all_eq_true]; intro c hc
      have := (validateSeq_ok_iff (some a) seq).mp e c hc
      simpa [isBad] using this
    · exact e.symm

theorem convertDegen2X_spec (a : Alphabet) (codes : List Nat) (hs : SENTINEL ∉ codes) :
    a.convertDegen2X (mkDsq codes) = some (mkDsq (codes.map fun x => if a.xIsDegenerate x then a.unknown else x)) := by
  unfold convertDegen2X
  rw [dsqlen_mkDsq codes hs]
  simp only [Option.bind_eq_bind, Option.bind_some, mkDsq, 
    ]
  simp [List.take_append, List.drop_append]

theorem degen2X_idem (a : Alphabet) (h : a.K + 4 ≤ a.Kp) (x : Nat) :
    let f := fun x => if a.xIsDegenerate x then a.unknown else x
    f (f x) = f x ∧ (a.xIsDegenerate x = false → f x = x) ∧ (x < a.Kp → f x < a.Kp) := by
  simp only []
  refine ⟨?_, fun h' => by simp [h'], fun hx => ?_⟩
  · by_cases c : a.xIsDegenerate x = true
    · simp only [c, if_true]
      have : a.xIsDegenerate a.unknown = true := by
        unfold xIsDegenerate unknown; simp; omega
      simp [this]
    · simp [c]
  · split
    · unfold unknown; omega
    · exact hx

end Alphabet
end EaselModel.Alphabet
