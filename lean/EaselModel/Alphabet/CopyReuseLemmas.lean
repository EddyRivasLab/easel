import EaselModel.Alphabet.CopyReuseModel
import EaselModel.Alphabet.ObjLemmas
/-! # C08 — `esl_sq_Copy`: the repaired form's answer for every source and every destination (`copyInto_fixed_eq`); from it, that
every answer leaves a consistent object, and the copy into a fresh destination (`copyTo`) as the case `dst = fresh`. -/
namespace EaselModel.Alphabet.Sq
open EaselModel.Alphabet EaselModel.Alphabet.Alphabet
namespace SqObj

theorem reuse_inv (o : SqObj) (h : o.Inv) : o.reuse.Inv := by
  refine ⟨?_, h.cap, ?_, fun s hs => (by cases hs)⟩
  · show (0 : Nat) + (if o.digital = true then 2 else 1) ≤ o.salloc
    have := h.room; omega
  · intro s hs
    obtain ⟨s0, _, rfl⟩ := Option.mem_map.mp hs
    rfl

theorem fresh_inv (digital : Bool) : (fresh digital).Inv := by
  refine ⟨?_, rfl, fun s hs => (by cases hs), fun s hs => (by cases hs)⟩
  cases digital <;> decide

theorem ite_isSome_self {α : Type} (s : Option α) : (if s.isSome then s else none) = s := by cases s <;> rfl
theorem ite_isEmpty_self {α : Type} (l : List α) : (if l.isEmpty then [] else l) = l := by cases l <;> rfl
theorem map_nil_eq {α β : Type} (s : Option α) : (s.map fun _ => ([] : List β)) = if s.isSome then some [] else none := by
  cases s <;> rfl

/-- a fresh destination has no markup of its own, so both forms copy the source's `ss` and `xr` -/
theorem copyInto_fresh (fixed : Bool) (a : Alphabet) (o : SqObj) (toDigital : Bool) :
    copyInto fixed a o (fresh toDigital) = copyTo a o toDigital := by
  unfold copyInto copyTo fresh reusedDst hasMarkup
  simp only [ite_isSome_self, ite_isEmpty_self, ite_self, map_nil_eq]
  cases toDigital <;> cases hd : o.digital <;> rfl

/-- what an eslOK `esl_sq_Copy` (repaired form) leaves in `dst`: the residues `res` in the destination's mode, the source's markup
    and coordinates, the destination's allocation after `esl_sq_GrowTo(dst, src->n)` -/
def copied (o dst : SqObj) (res : List Nat) : SqObj :=
  { digital := dst.digital, res := res, salloc := sqGrowTo dst.digital dst.salloc o.n, mcap := sqGrowTo dst.digital dst.salloc o.n,
    ss := o.ss, xr := o.xr, start := o.start, stop := o.stop }

theorem copied_inv (o dst : SqObj) (h : o.Inv) (res : List Nat) (hl : res.length = o.n) : (copied o dst res).Inv := by
  refine ⟨?_, rfl, ?_, ?_⟩
  · show res.length + (if dst.digital = true then 2 else 1) ≤ _
    rw [hl]; exact (sqGrowTo_spec dst.digital dst.salloc o.n).1
  · intro s hs; show s.length = res.length; rw [hl]; exact h.ss s hs
  · intro s hs; show s.length = res.length; rw [hl]; exact h.xr s hs

theorem copyInto_fixed_eq (a : Alphabet) (o dst : SqObj) :
    (o.digital = dst.digital → copyInto true a o dst = some (.ok, copied o dst o.res)) ∧
    (o.digital = false → dst.digital = true → copyInto true a o dst = some (
      if o.res.all a.cIsValid then (.ok, copied o dst (o.res.map a.inmapAt))
      else (.einval, { copied o dst [] with ss := o.ss.map fun _ => [], xr := [], start := 0, stop := 0 }))) ∧
    (o.digital = true → dst.digital = false → (∀ x ∈ o.res, x < a.sym.length) →
      copyInto true a o dst = some (.ok, copied o dst (o.res.map a.symAt))) := by
  have g1 := (sqGrowTo_spec dst.digital dst.salloc o.n).1
  have hpre : ¬ ((o.ss.isSome || !o.xr.isEmpty) &&
      decide (sqGrowTo dst.digital dst.salloc o.n < if dst.digital then o.n + 2 else o.n + 1)) = true := by
    have : ¬ sqGrowTo dst.digital dst.salloc o.n < (if dst.digital then o.n + 2 else o.n + 1) := by
      cases hdd : dst.digital <;> simp only [hdd, Bool.false_eq_true, if_false, if_true] at g1 ⊢ <;> omega
    rw [decide_eq_false this, Bool.and_false]; simp
  refine ⟨fun hm => ?_, fun hod hdd => ?_, fun hod hdd hv => ?_⟩
  · unfold copyInto copied
    simp only [if_true]
    rw [if_neg hpre, ← hm]
    cases o.digital <;> rfl
  · unfold copyInto
    simp only [if_true]
    rw [if_neg hpre, hod, hdd]
    simp only []
    by_cases hv : o.res.all a.cIsValid = true
    · have hval : validateSeq a o.res = .ok := by unfold validateSeq; rw [hv]; rfl
      rw [hval, digitize_of_valid a o.res hv, if_pos hv]
      simp only [ne_eq, not_true_eq_false, if_false, body_mkDsq]
      unfold copied; rw [hdd]
    · have hval : validateSeq a o.res = .einval := by unfold validateSeq; rw [if_neg hv]
      rw [hval, if_neg hv]
      simp only [ne_eq, reduceCtorEq, not_false_eq_true, if_true]
      unfold copied; rw [hdd]
  · unfold copyInto
    simp only [if_true]
    rw [if_neg hpre, hod, hdd]
    simp only []
    have ht := textize_mkDsq a o.res hv
    unfold n at ht ⊢
    rw [ht]
    unfold copied n; rw [hdd]

theorem copyInto_fixed_spec (a : Alphabet) (o dst : SqObj) (h : o.Inv)
    (hcodes : o.digital = true → dst.digital = false → ∀ x ∈ o.res, x < a.sym.length) (st : Status) (o' : SqObj)
    (e : copyInto true a o dst = some (st, o')) :
    o'.Inv ∧ o'.digital = dst.digital ∧ dst.salloc ≤ o'.salloc ∧ o'.salloc = sqGrowTo dst.digital dst.salloc o.n ∧
    (st = .ok ∨ st = .einval) ∧
    (st = .ok → o'.ss = o.ss ∧ o'.xr = o.xr ∧ o'.n = o.n ∧ o'.start = o.start ∧ o'.stop = o.stop) ∧
    (st ≠ .ok → o'.n = 0 ∧ o'.xr = [] ∧ o.digital = false ∧ dst.digital = true ∧ o.res.all a.cIsValid = false) := by
  have g2 := (sqGrowTo_spec dst.digital dst.salloc o.n).2.1
  obtain ⟨e1, e2, e3⟩ := copyInto_fixed_eq a o dst
  -- eslOK with as many residues as the source has, or the one refusal
  have key : (∃ res : List Nat, res.length = o.n ∧ st = .ok ∧ o' = copied o dst res) ∨
      (st = .einval ∧ o' = { copied o dst [] with ss := o.ss.map fun _ => [], xr := [], start := 0, stop := 0 } ∧
        o.digital = false ∧ dst.digital = true ∧ o.res.all a.cIsValid = false) := by
    have hok : ∀ res : List Nat, res.length = o.n → copyInto true a o dst = some (.ok, copied o dst res) →
        ∃ res : List Nat, res.length = o.n ∧ st = .ok ∧ o' = copied o dst res :=
      fun res hl e' => by rw [e'] at e; cases e; exact ⟨res, hl, rfl, rfl⟩
    cases hod : o.digital <;> cases hdd : dst.digital
    · exact Or.inl (hok _ rfl (e1 (hod.trans hdd.symm)))
    · have e2' := e2 hod hdd
      by_cases hv : o.res.all a.cIsValid = true
      · rw [if_pos hv] at e2'
        exact Or.inl (hok _ (by simp [n]) e2')
      · rw [if_neg hv, e] at e2'
        cases e2'
        exact Or.inr ⟨rfl, rfl, rfl, rfl, by simpa using hv⟩
    · exact Or.inl (hok _ (by simp [n]) (e3 hod hdd (hcodes hod hdd)))
    · exact Or.inl (hok _ rfl (e1 (hod.trans hdd.symm)))
  rcases key with ⟨res, hl, rfl, rfl⟩ | ⟨rfl, rfl, hod, hdd, hv⟩
  · exact ⟨copied_inv o dst h res hl, rfl, g2, rfl, Or.inl rfl, fun _ => ⟨rfl, rfl, hl, rfl, rfl⟩, fun hne => absurd rfl hne⟩
  · refine ⟨⟨?_, rfl, ?_, fun s hs => (by cases hs)⟩, rfl, g2, rfl, Or.inr rfl, fun hk => (by cases hk),
      fun _ => ⟨rfl, rfl, hod, hdd, hv⟩⟩
    · show (0 : Nat) + (if dst.digital = true then 2 else 1) ≤ sqGrowTo dst.digital dst.salloc o.n
      have := (sqGrowTo_spec dst.digital dst.salloc o.n).1; omega
    · intro s hs
      obtain ⟨s0, _, rfl⟩ := Option.mem_map.mp hs
      rfl

theorem copyTo_spec (a : Alphabet) (o : SqObj) (h : o.Inv) (toDigital : Bool) :
    let salloc := sqGrowTo toDigital eslSQ_SEQCHUNK o.n
    (o.digital = false → toDigital = false →
      copyTo a o toDigital = some (.ok, { o with salloc := salloc, mcap := salloc })) ∧
    (o.digital = true → toDigital = true →
      copyTo a o toDigital = some (.ok, { o with salloc := salloc, mcap := salloc })) ∧
    (o.digital = false → toDigital = true → o.res.all a.cIsValid = true →
      copyTo a o toDigital = some (.ok, { o with digital := true, res := o.res.map a.inmapAt, salloc := salloc, mcap := salloc })) ∧
    (o.digital = false → toDigital = true → o.res.all a.cIsValid = false →
      copyTo a o toDigital = some (.einval, reusedDst true salloc o.ss.isSome)) ∧
    (o.digital = true → toDigital = false → (∀ x ∈ o.res, x < a.sym.length) →
      copyTo a o toDigital = some (.ok, { o with digital := false, res := o.res.map a.symAt, salloc := salloc, mcap := salloc })) ∧
    (∀ o', (o.digital = true → toDigital = false → ∀ x ∈ o.res, x < a.sym.length) →
      copyTo a o toDigital = some (.ok, o') → o'.Inv ∧ o'.ss = o.ss ∧ o'.xr = o.xr ∧ o'.n = o.n ∧
      o'.start = o.start ∧ o'.stop = o.stop ∧ o'.digital = toDigital) := by
  intro salloc
  obtain ⟨e1, e2, e3⟩ := copyInto_fixed_eq a o (fresh toDigital)
  rw [copyInto_fresh] at e1 e2 e3
  refine ⟨fun hd ht => ?_, fun hd ht => ?_, fun hd ht hv => ?_, fun hd ht hv => ?_, fun hd ht hv => ?_, fun o' hcodes ho' => ?_⟩
  · subst ht; rw [e1 hd, hd]; rfl
  · subst ht; rw [e1 hd, hd]; rfl
  · subst ht; rw [e2 hd rfl, if_pos hv]; rfl
  · subst ht; rw [e2 hd rfl, if_neg (by rw [hv]; simp)]; unfold reusedDst; rw [← map_nil_eq]; rfl
  · subst ht; rw [e3 hd rfl hv]; rfl
  · rw [← copyInto_fresh true] at ho'
    obtain ⟨i, d, _, _, _, hok, _⟩ := copyInto_fixed_spec a o (fresh toDigital) h hcodes .ok o' ho'
    obtain ⟨f1, f2, f3, f4, f5⟩ := hok rfl
    exact ⟨i, f1, f2, f3, f4, f5, d⟩

end SqObj
end EaselModel.Alphabet.Sq
