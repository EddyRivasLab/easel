import EaselModel.Threads.Model
/-! The invariant of the start rendezvous (`Inv`), kept by every step from `create` (`reachable_inv`), and what it gives at the two
wake-ups: after the release every sleeping worker passes (`wake_passes`); once all workers have arrived the master is released
(`master_releases`). -/
namespace EaselModel.Threads

/-- Every worker is in one of three places (`part`). Until the release `startThread` counts the sleepers and nobody has passed (`pre`);
    the release finds nobody left to arrive and zeroes the counter (`post`). No lost wake-up: a master asleep and not signalled is
    still short of workers (`nlwM`); after the release every sleeper has been signalled (`nlwW`). -/
structure Inv (s : Sys) : Prop where
  part : s.notStarted.length + s.wWait.length + s.passed.length = s.count
  pre : s.master ≠ .released → s.startThread = s.wWait.length ∧ s.passed = []
  post : s.master = .released → s.startThread = 0 ∧ s.notStarted = []
  nlwM : s.master = .waiting false → s.startThread < s.count
  nlwW : s.master = .released → ∀ e ∈ s.wWait, e.2 = true

theorem inv_create : Inv Sys.create := by
  refine ⟨rfl, fun _ => ⟨rfl, rfl⟩, ?_, ?_, ?_⟩ <;> simp [Sys.create]

theorem inv_masterTest (s : Sys) (h : Inv s) (hm : s.master ≠ .released) : Inv (masterTest s) := by
  have hp := h.pre hm
  have hpart := h.part
  unfold masterTest
  split
  · rename_i hlt
    exact ⟨h.part, fun _ => hp, by simp, fun _ => hlt, by simp⟩
  · rename_i hge
    have hns : s.notStarted = [] := by
      apply List.eq_nil_of_length_eq_zero
      rw [hp.2] at hpart; simp at hpart; omega
    refine ⟨by simpa [broadcast] using h.part, by simp, fun _ => ⟨rfl, hns⟩, by simp, ?_⟩
    intro _ e he
    simp [broadcast] at he
    obtain ⟨a, b, _, rfl⟩ := he; rfl

theorem step_inv (s s' : Sys) (l : Label) (h : Inv s) (hs : step s l = some s') : Inv s' := by
  cases l with
  | add =>
    simp only [step] at hs
    split at hs
    · rename_i hm; cases hs
      have hne : s.master ≠ .released := by rw [hm]; simp
      refine ⟨by have := h.part; simp; omega, fun _ => h.pre hne, by simp [hm], by simp [hm], by simp [hm]⟩
    · cases hs
  | masterWait =>
    simp only [step] at hs
    split at hs
    · rename_i hm; cases hs; exact inv_masterTest s h (by rw [hm]; simp)
    · cases hs
  | masterWake =>
    simp only [step] at hs
    split at hs
    · rename_i sg hm; cases hs; exact inv_masterTest s h (by rw [hm]; simp)
    · cases hs
  | arrive w =>
    simp only [step] at hs
    split at hs
    · rename_i hw; cases hs
      have hnr : s.master ≠ .released := by
        intro hr; have := (h.post hr).2; rw [this] at hw; simp at hw
      have hp := h.pre hnr
      have hl := List.length_erase_of_mem hw
      have hpos := List.length_pos_of_mem hw
      have hmaster : ∀ m, (match s.master with | .waiting _ => MSt.waiting true | m => m) = m → m ≠ .released := by
        intro m hm hr; subst hr; cases hsm : s.master <;> simp [hsm] at hm; exact hnr hsm
      refine ⟨?_, ?_, ?_, ?_, ?_⟩
      · have := h.part; simp [broadcast, hl]; omega
      · intro _; simp [broadcast, hp.1, hp.2]
      · intro hr; exact absurd hr (hmaster _ rfl)
      · intro hmw; simp only [broadcast] at hmw
        cases hsm : s.master <;> simp [hsm] at hmw
      · intro hr; exact absurd hr (hmaster _ rfl)
    · cases hs
  | workerWake w =>
    simp only [step] at hs
    split at hs
    · cases hs
    · rename_i e hf
      have he := List.mem_of_find?_eq_some hf
      have hl := List.length_erase_of_mem he
      have hpos := List.length_pos_of_mem he
      split at hs
      · rename_i hne; cases hs
        have hnr : s.master ≠ .released := fun hr => hne (h.post hr).1
        have hp := h.pre hnr
        refine ⟨by have := h.part; simp [hl]; omega, fun _ => ⟨by simp [hl, hp.1]; omega, hp.2⟩,
          fun hr => absurd hr hnr, h.nlwM, fun hr => absurd hr hnr⟩
      · rename_i hz; cases hs
        simp only [ne_eq, Decidable.not_not] at hz
        have hr : s.master = .released := by
          apply Classical.byContradiction; intro hnr
          have := (h.pre hnr).1; omega
        refine ⟨by have := h.part; simp [hl]; omega, fun hnr => absurd hr hnr, h.post, by simp [hr], ?_⟩
        intro _ x hx; exact h.nlwW hr x (List.mem_of_mem_erase hx)
  | finish =>
    simp only [step] at hs
    split at hs
    · cases hs; exact inv_create
    · cases hs

inductive Reachable : Sys → Prop
  | create : Reachable Sys.create
  | step {s s' : Sys} {l : Label} : Reachable s → step s l = some s' → Reachable s'

theorem reachable_inv {s : Sys} (h : Reachable s) : Inv s := by
  induction h with
  | create => exact inv_create
  | step _ hs ih => exact step_inv _ _ _ ih hs

theorem run_reachable (s : Sys) (ls : List Label) (s' : Sys) (h : Reachable s) (hr : run s ls = some s') : Reachable s' := by
  induction ls generalizing s with
  | nil => simp [run] at hr; subst hr; exact h
  | cons l ls ih =>
    simp only [run] at hr
    split at hr
    · rename_i s1 hs1; exact ih s1 (Reachable.step h hs1) hr
    · cases hr

/-- after the release every sleeping worker passes at its wake step -/
theorem wake_passes (s : Sys) (h : Inv s) (hr : s.master = .released) (w : Nat) (sg : Bool) (hw : (w, sg) ∈ s.wWait) :
    ∃ s', step s (.workerWake w) = some s' ∧ w ∈ s'.passed := by
  cases hf : s.wWait.find? (fun e => e.1 == w) with
  | none => rw [List.find?_eq_none] at hf; exact absurd (by simp) (hf _ hw)
  | some e =>
    refine ⟨_, by simp only [step, hf]; rw [if_neg (by simp [(h.post hr).1])], by simp⟩

/-- once everybody has arrived the master's wake step releases -/
theorem master_releases (s : Sys) (h : Inv s) (sg : Bool) (hm : s.master = .waiting sg) (hn : s.notStarted = []) :
    ∃ s', step s .masterWake = some s' ∧ s'.master = .released := by
  have hp := h.pre (by rw [hm]; simp)
  have := h.part
  rw [hn, hp.2] at this
  refine ⟨masterTest s, by simp only [step, hm], ?_⟩
  unfold masterTest
  rw [if_neg (by simp at this; omega)]

end EaselModel.Threads
