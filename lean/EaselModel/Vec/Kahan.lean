import EaselModel.Vec.Rounded
/-! # Kahan's compensated summation under the standard model of floating-point arithmetic (C20, part C, layer L0)

With rounding `|fl z - z| ≤ u|z|` after each of the four operations of the loop body of `esl_vec_{D,F}Sum`
(`y = x - c; t = sum + y; c = (t - sum) - y; sum = t`), the result is within `(7u + 19·n·u²)·Σ|x_i|` of the exact sum, provided
`u ≤ 1/64` and `n·u ≤ 1`: the first-order term does not grow with `n` (plain summation has `≈ n·u`). -/
namespace EaselModel.Vec
section
variable [Rnd]
local notation "u" => Rnd.u

theorem fl_split (z : ℝ) : ∃ E, Rnd.fl z = z + E ∧ |E| ≤ u * |z| := ⟨Rnd.fl z - z, by ring, Rnd.err z⟩

theorem scale_bound {v a b B : ℝ} (hv : 0 ≤ v) (h : |b| ≤ v * |a|) (ha : |a| ≤ B) : |b| ≤ v * B :=
  le_trans h (mul_le_mul_of_nonneg_left ha hv)

theorem small_mul {v a : ℝ} (hv : v ≤ 1 / 64) (ha : 0 ≤ a) : v * a ≤ a / 64 := by
  have := mul_le_mul_of_nonneg_right hv ha; linarith

/-- the arithmetic of one Kahan step on the error terms -/
theorem kahan_step_bound (uu T A k : ℝ) (hu0 : 0 ≤ uu) (hu : uu ≤ 1 / 64) (hT : 0 ≤ T) (hA : 0 ≤ A) (hk0 : 0 ≤ k) (hk : (k + 1) * uu ≤ 1)
    (s c x e X E1 E2 E3 E4 y : ℝ) (hx : |x| = A) (hX : |X| ≤ T)
    (hc : |c| ≤ 5 * uu * T) (hs : |s| ≤ 2 * T) (he : e = s - c - X) (hebound : |e| ≤ (2 * uu + 19 * k * uu ^ 2) * T)
    (hy : y = x - c + E1) (h1 : |E1| ≤ uu * |x - c|) (h2 : |E2| ≤ uu * |s + y|) (h3 : |E3| ≤ uu * |y + E2|) (h4 : |E4| ≤ uu * |E2 + E3|) :
    |E2 + E3 + E4| ≤ 5 * uu * (T + A) ∧ |s + y + E2| ≤ 2 * (T + A) ∧
      |(s + y + E2) - (E2 + E3 + E4) - (X + x)| ≤ (2 * uu + 19 * (k + 1) * uu ^ 2) * (T + A) ∧ |X + x| ≤ T + A := by
  -- first and second order quantities; what `uu` multiplies beyond that is absorbed by `uu ≤ 1/64`
  obtain ⟨p1, hp1⟩ : ∃ p, p = uu * T := ⟨_, rfl⟩
  obtain ⟨p2, hp2⟩ : ∃ p, p = uu * A := ⟨_, rfl⟩
  obtain ⟨q1, hq1⟩ : ∃ p, p = uu * p1 := ⟨_, rfl⟩
  obtain ⟨q2, hq2⟩ : ∃ p, p = uu * p2 := ⟨_, rfl⟩
  have p1n : 0 ≤ p1 := hp1 ▸ mul_nonneg hu0 hT
  have p2n : 0 ≤ p2 := hp2 ▸ mul_nonneg hu0 hA
  have q1n : 0 ≤ q1 := hq1 ▸ mul_nonneg hu0 p1n
  have q2n : 0 ≤ q2 := hq2 ▸ mul_nonneg hu0 p2n
  have p1s : p1 ≤ T / 64 := hp1 ▸ small_mul hu hT
  have p2s : p2 ≤ A / 64 := hp2 ▸ small_mul hu hA
  have q1s : q1 ≤ p1 / 64 := hq1 ▸ small_mul hu p1n
  have q2s : q2 ≤ p2 / 64 := hq2 ▸ small_mul hu p2n
  have r1s : uu * q1 ≤ q1 / 64 := small_mul hu q1n
  have r2s : uu * q2 ≤ q2 / 64 := small_mul hu q2n
  -- the four rounding errors, in the order of the loop body
  have hxc : |x - c| ≤ A + 5 * p1 := by linarith only [abs_sub x c, hx, hc, hp1]
  have hE1 : |E1| ≤ p2 + 5 * q1 := by linarith only [scale_bound hu0 h1 hxc, hp2, hq1]
  have hyb : |y| ≤ A + 5 * p1 + p2 + 5 * q1 := by rw [hy]; linarith only [abs_add_le (x - c) E1, hxc, hE1]
  have hsy : |s + y| ≤ 2 * T + (A + 5 * p1 + p2 + 5 * q1) := by linarith only [abs_add_le s y, hs, hyb]
  have hE2 : |E2| ≤ 2 * p1 + p2 + 6 * q1 + q2 := by linarith only [scale_bound hu0 h2 hsy, hp1, hp2, hq1, hq2, r1s, q1n]
  have hyE2 : |y + E2| ≤ A + 7 * p1 + 2 * p2 + 11 * q1 + q2 := by linarith only [abs_add_le y E2, hyb, hE2]
  have hE3 : |E3| ≤ p2 + 8 * q1 + 3 * q2 := by
    linarith only [scale_bound hu0 h3 hyE2, hp2, hq1, hq2, r1s, r2s, q1n, q2n]
  have hE23 : |E2 + E3| ≤ 2 * p1 + 2 * p2 + 14 * q1 + 4 * q2 := by linarith only [abs_add_le E2 E3, hE2, hE3]
  have hE4 : |E4| ≤ 3 * q1 + 3 * q2 := by linarith only [scale_bound hu0 h4 hE23, hq1, hq2, r1s, r2s, q1n, q2n]
  have hc' : |E2 + E3 + E4| ≤ 5 * uu * (T + A) := by
    linarith only [abs_add_le (E2 + E3) E4, hE23, hE4, hp1, hp2, q1s, q2s, p1n, p2n]
  have hee : (s + y + E2) - (E2 + E3 + E4) - (X + x) = e + E1 - E3 - E4 := by rw [he, hy]; ring
  have he' : |(s + y + E2) - (E2 + E3 + E4) - (X + x)| ≤ (2 * uu + 19 * (k + 1) * uu ^ 2) * (T + A) := by
    have e2 : (2 * uu + 19 * (k + 1) * uu ^ 2) * (T + A)
        = (2 * uu + 19 * k * uu ^ 2) * T + 2 * p2 + 19 * (k * q2) + 19 * q1 + 19 * q2 := by rw [hq1, hq2, hp1, hp2]; ring
    rw [hee, e2]
    linarith only [abs_sub (e + E1 - E3) E4, abs_sub (e + E1) E3, abs_add_le e E1, hebound, hE1, hE3, hE4,
      mul_nonneg hk0 q2n, q1n, q2n]
  have hXx : |X + x| ≤ T + A := by linarith only [abs_add_le X x, hx, hX]
  refine ⟨hc', ?_, he', hXx⟩
  -- s' = X' + e' + c'
  have hkp : (2 * uu + 19 * (k + 1) * uu ^ 2) * (T + A) ≤ 21 * (p1 + p2) := by
    have := mul_le_mul_of_nonneg_right hk (add_nonneg p1n p2n)
    rw [show (2 * uu + 19 * (k + 1) * uu ^ 2) * (T + A) = 2 * (p1 + p2) + 19 * ((k + 1) * uu * (p1 + p2)) by rw [hp1, hp2]; ring]
    linarith only [this]
  rw [show s + y + E2 = (X + x) + ((s + y + E2) - (E2 + E3 + E4) - (X + x)) + (E2 + E3 + E4) by ring]
  linarith only [abs_add_le (X + x + ((s + y + E2) - (E2 + E3 + E4) - (X + x))) (E2 + E3 + E4),
    abs_add_le (X + x) ((s + y + E2) - (E2 + E3 + E4) - (X + x)), he', hc', hXx, hkp, hp1, hp2, p1s, p2s, hT, hA]

def exactSum (v : List RR) : ℝ := (v.map RR.val).sum
def absSum (v : List RR) : ℝ := (v.map fun x => |x.val|).sum

theorem absSum_nonneg (v : List RR) : 0 ≤ absSum v := by
  unfold absSum; apply List.sum_nonneg; intro x hx
  simp only [List.mem_map] at hx; obtain ⟨a, _, rfl⟩ := hx; exact abs_nonneg _

/-- the loop invariant of the Kahan loop after `k` elements with exact partial sum `X` and absolute partial sum `T` -/
def KInv (k : ℕ) (st : RR × RR) (X T : ℝ) : Prop :=
  |st.2.val| ≤ 5 * u * T ∧ |st.1.val| ≤ 2 * T ∧ |st.1.val - st.2.val - X| ≤ (2 * u + 19 * k * u ^ 2) * T ∧ |X| ≤ T

theorem kahan_step_inv (k : ℕ) (st : RR × RR) (X T : ℝ) (x : RR) (hu : u ≤ 1 / 64) (hk : ((k : ℝ) + 1) * u ≤ 1) (hT : 0 ≤ T)
    (h : KInv k st X T) : KInv (k + 1) (kahanStep st x) (X + x.val) (T + |x.val|) := by
  obtain ⟨hc, hs, he, hX⟩ := h
  obtain ⟨E1, hy, h1⟩ := fl_split (x.val - st.2.val)
  obtain ⟨E2, ht, h2⟩ := fl_split (st.1.val + (x.val - st.2.val + E1))
  obtain ⟨E3, hd, h3⟩ := fl_split ((st.1.val + (x.val - st.2.val + E1) + E2) - st.1.val)
  obtain ⟨E4, hc', h4⟩ := fl_split (((st.1.val + (x.val - st.2.val + E1) + E2) - st.1.val + E3) - (x.val - st.2.val + E1))
  have hyv : ((x - st.2 : RR)).val = x.val - st.2.val + E1 := hy
  have htv : ((st.1 + (x - st.2) : RR)).val = st.1.val + (x.val - st.2.val + E1) + E2 := by
    show Rnd.fl (st.1.val + (x - st.2 : RR).val) = _; rw [hyv]; exact ht
  have hcv : (((st.1 + (x - st.2)) - st.1 - (x - st.2) : RR)).val = E2 + E3 + E4 := by
    show Rnd.fl (Rnd.fl ((st.1 + (x - st.2) : RR).val - st.1.val) - (x - st.2 : RR).val) = _
    rw [htv, hyv, hd, hc']; ring
  have e3 : (st.1.val + (x.val - st.2.val + E1) + E2) - st.1.val = (x.val - st.2.val + E1) + E2 := by ring
  have e4 : ((st.1.val + (x.val - st.2.val + E1) + E2) - st.1.val + E3) - (x.val - st.2.val + E1) = E2 + E3 := by ring
  rw [e3] at h3; rw [e4] at h4
  have := kahan_step_bound u T |x.val| k Rnd.u_nonneg hu hT (abs_nonneg _) (Nat.cast_nonneg k) hk
    st.1.val st.2.val x.val (st.1.val - st.2.val - X) X E1 E2 E3 E4 (x.val - st.2.val + E1) rfl hX hc hs rfl he rfl h1 h2 h3 h4
  obtain ⟨g1, g2, g3, g4⟩ := this
  unfold KInv kahanStep
  simp only []
  rw [hcv, htv]
  refine ⟨g1, g2, ?_, g4⟩
  push_cast
  exact g3

theorem kahan_fold_inv (v : List RR) (k : ℕ) (st : RR × RR) (X T : ℝ) (hu : u ≤ 1 / 64)
    (hk : ((k : ℝ) + v.length) * u ≤ 1) (hT : 0 ≤ T) (h : KInv k st X T) :
    KInv (k + v.length) (v.foldl kahanStep st) (X + exactSum v) (T + absSum v) := by
  induction v generalizing k st X T with
  | nil => simpa [exactSum, absSum] using h
  | cons x xs ih =>
    have hu0 := Rnd.u_nonneg
    have hlen : ((x :: xs).length : ℝ) = (xs.length : ℝ) + 1 := by simp
    have hk1 : ((k : ℝ) + 1) * u ≤ 1 := by
      rw [hlen] at hk
      have : 0 ≤ (xs.length : ℝ) * u := mul_nonneg (Nat.cast_nonneg _) hu0
      linarith
    have step := kahan_step_inv k st X T x hu hk1 hT h
    have hk2 : (((k + 1 : ℕ) : ℝ) + xs.length) * u ≤ 1 := by rw [hlen] at hk; push_cast; linarith
    have := ih (k + 1) (kahanStep st x) (X + x.val) (T + |x.val|) hk2 (by positivity) step
    simp only [List.foldl_cons, List.length_cons, exactSum, absSum, List.map_cons, List.sum_cons] at this ⊢
    have e1 : k + 1 + xs.length = k + (xs.length + 1) := by omega
    rw [e1] at this
    have e2 : X + x.val + (List.map RR.val xs).sum = X + (x.val + (List.map RR.val xs).sum) := by ring
    have e3 : T + |x.val| + (List.map (fun x => |x.val|) xs).sum = T + (|x.val| + (List.map (fun x => |x.val|) xs).sum) := by ring
    rw [e2, e3] at this
    exact this

theorem kahan_rounding (v : List RR) (hu : u ≤ 1 / 64) (hn : (v.length : ℝ) * u ≤ 1) :
    |(sum v).val - exactSum v| ≤ (7 * u + 19 * v.length * u ^ 2) * absSum v := by
  have h0 : KInv 0 ((VNum.ofNat 0 : RR), (VNum.ofNat 0 : RR)) 0 0 := by
    unfold KInv; simp [VNum.ofNat]
  have := kahan_fold_inv v 0 _ 0 0 hu (by simpa using hn) (le_refl _) h0
  obtain ⟨hc, _, he, _⟩ := this
  simp only [Nat.zero_add, zero_add] at hc he
  unfold sum
  have hT := absSum_nonneg v
  set st := v.foldl kahanStep ((VNum.ofNat 0 : RR), (VNum.ofNat 0 : RR)) with hst
  have : st.1.val - exactSum v = (st.1.val - st.2.val - exactSum v) + st.2.val := by ring
  rw [this]
  have h := abs_add_le (st.1.val - st.2.val - exactSum v) st.2.val
  linarith

end
end EaselModel.Vec
