import EaselModel.Vec.Real
import Mathlib.Tactic.Positivity
/-! # Rounding error of the plain accumulation loops (C20, part C; a step into layer L0 of DESIGN §3.4)

The standard model of floating-point arithmetic: every operation returns `fl (exact result)` with
`|fl x - x| ≤ u·|x|` (no overflow/underflow).  That binary64/binary32 round-to-nearest satisfy it (u = 2^-53, 2^-24) is the
trusted fact (the class `Rnd` below carries it; DESIGN §3.4 speaks of such a structure as `FloatLike`); given it, the SAME `dot` of
`Vec/Model.lean` is within
`((1+u)^(2n) - 1)·Σ|x_i y_i|` of the exact dot product. -/
namespace EaselModel.Vec

/-- a rounding function obeying the standard model -/
class Rnd where
  fl : ℝ → ℝ
  u : ℝ
  u_nonneg : 0 ≤ u
  err : ∀ x, |fl x - x| ≤ u * |x|

/-- reals whose arithmetic rounds after every operation -/
structure RR where
  val : ℝ

noncomputable instance instVNumRR [Rnd] : VNum RR where
  lt a b := decide (a.val < b.val)
  add a b := ⟨Rnd.fl (a.val + b.val)⟩
  sub a b := ⟨Rnd.fl (a.val - b.val)⟩
  mul a b := ⟨Rnd.fl (a.val * b.val)⟩
  div a b := ⟨Rnd.fl (a.val / b.val)⟩
  ofNat n := ⟨(n : ℝ)⟩
  eq a b := decide (a.val = b.val)
  log2 x := ⟨Rnd.fl (Real.logb 2 x.val)⟩
  uniform n := ⟨Rnd.fl (1 / (n : ℝ))⟩
  notProb x := decide (x.val < 0 ∨ x.val > 1)
  offOne s tol := decide (|Rnd.fl (s.val - 1)| > tol.val)
  klAdd kl p q := ⟨Rnd.fl (kl.val + Rnd.fl (p.val * Rnd.fl (Real.logb 2 (Rnd.fl (p.val / q.val)))))⟩

section
variable [Rnd]
local notation "u" => Rnd.u

theorem rr_add (a b : RR) : (a + b).val = Rnd.fl (a.val + b.val) := rfl
theorem rr_mul (a b : RR) : (a * b).val = Rnd.fl (a.val * b.val) := rfl

def exactDot (v w : List RR) : ℝ := (List.zipWith (fun x y => x.val * y.val) v w).sum
def absDot (v w : List RR) : ℝ := (List.zipWith (fun x y => |x.val * y.val|) v w).sum

theorem absDot_nonneg (v w : List RR) : 0 ≤ absDot v w := by
  unfold absDot
  apply List.sum_nonneg
  intro x hx
  obtain ⟨i, _, rfl⟩ := List.getElem_of_mem hx
  simp only [List.getElem_zipWith]
  exact abs_nonneg _

theorem abs_fl_le (x : ℝ) : |Rnd.fl x| ≤ (1 + u) * |x| := by
  have h := Rnd.err x
  have : |Rnd.fl x| ≤ |Rnd.fl x - x| + |x| := by
    have := abs_add_le (Rnd.fl x - x) x
    simpa using this
  nlinarith [abs_nonneg x]

/-- the growth of the error factor in one step `acc := fl (acc + fl p)`, as an identity between polynomials with
    non-negative coefficients -/
theorem step_factor (g T P : ℝ) (hg : 0 ≤ g) (hT : 0 ≤ T) (hP : 0 ≤ P) :
    u * ((g + 1) * T + (1 + u) * P) + (g * T + u * P) ≤ ((1 + u) ^ 2 * (g + 1) - 1) * (T + P) := by
  have hu := Rnd.u_nonneg
  have h : 0 ≤ u * (1 + u) * (g + 1) * T + g * (1 + u) ^ 2 * P := by positivity
  linarith [show ((1 + u) ^ 2 * (g + 1) - 1) * (T + P) - (u * ((g + 1) * T + (1 + u) * P) + (g * T + u * P))
    = u * (1 + u) * (g + 1) * T + g * (1 + u) ^ 2 * P by ring]

theorem fl_add_step (a A p T g : ℝ) (hg : 0 ≤ g) (hT : 0 ≤ T) (hA : |A| ≤ T) (ha : |a - A| ≤ g * T) :
    |Rnd.fl (a + Rnd.fl p) - (A + p)| ≤ ((1 + u) ^ 2 * (g + 1) - 1) * (T + |p|) := by
  have hu := Rnd.u_nonneg
  have e1 : |Rnd.fl p - p| ≤ u * |p| := Rnd.err p
  have e2 := Rnd.err (a + Rnd.fl p)
  have hzA : |a + Rnd.fl p - (A + p)| ≤ g * T + u * |p| := by
    rw [show a + Rnd.fl p - (A + p) = (a - A) + (Rnd.fl p - p) by ring]
    exact le_trans (abs_add_le _ _) (add_le_add ha e1)
  have hz : |a + Rnd.fl p| ≤ (g + 1) * T + (1 + u) * |p| := by
    have h1 := abs_add_le (a + Rnd.fl p - (A + p)) (A + p)
    have h2 := abs_add_le A p
    rw [sub_add_cancel] at h1
    linarith
  have h3 := abs_add_le (Rnd.fl (a + Rnd.fl p) - (a + Rnd.fl p)) (a + Rnd.fl p - (A + p))
  rw [sub_add_sub_cancel] at h3
  have h4 := mul_le_mul_of_nonneg_left hz hu
  linarith [step_factor g T |p| hg hT (abs_nonneg p)]

/-- the accumulation loop, generalised over the accumulator: `A` = exact value of `acc`, error `≤ g·T` -/
theorem dot_fold_err (v w : List RR) (acc : RR) (A T g : ℝ) (hg : 0 ≤ g) (hT : 0 ≤ T) (hA : |A| ≤ T)
    (hacc : |acc.val - A| ≤ g * T) :
    |((List.zipWith (· * ·) v w).foldl (· + ·) acc).val - (A + exactDot v w)|
      ≤ ((1 + u) ^ (2 * (List.zipWith (· * ·) v w).length) * (g + 1) - 1) * (T + absDot v w) := by
  induction v generalizing w acc A T g with
  | nil => simp [exactDot, absDot]; linarith
  | cons x xs ih =>
    cases w with
    | nil => simp [exactDot, absDot]; linarith
    | cons y ys =>
      have hu := Rnd.u_nonneg
      have hg' : 0 ≤ (1 + u) ^ 2 * (g + 1) - 1 := by
        have h : 0 ≤ g + u * (2 + u) * (g + 1) := by positivity
        linarith [show (1 + u) ^ 2 * (g + 1) - 1 = g + u * (2 + u) * (g + 1) by ring]
      have hA' : |A + x.val * y.val| ≤ T + |x.val * y.val| := le_trans (abs_add_le _ _) (by linarith)
      have := ih ys (acc + x * y) (A + x.val * y.val) (T + |x.val * y.val|) _ hg' (by positivity) hA'
        (fl_add_step acc.val A (x.val * y.val) T g hg hT hA hacc)
      simp only [List.zipWith_cons_cons, List.foldl_cons, List.length_cons, exactDot, absDot, List.sum_cons] at this ⊢
      rw [← add_assoc, ← add_assoc]
      refine le_trans this (le_of_eq ?_)
      rw [Nat.mul_succ, pow_add]; ring

theorem dot_rounding (v w : List RR) :
    |(dot v w).val - exactDot v w| ≤ ((1 + u) ^ (2 * min v.length w.length) - 1) * absDot v w := by
  unfold dot
  have := dot_fold_err v w (VNum.ofNat 0) 0 0 0 (le_refl _) (le_refl _) (by simp) (by simp [VNum.ofNat])
  simpa [List.length_zipWith] using this

end

end EaselModel.Vec
