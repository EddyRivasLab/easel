import EaselModel.Vec.Real
import EaselModel.Vec.GenLemmas
/-! # The regenerated `esl_vec_{D,F}CDF` over the reals (C20, part C): element `k` of the output is the sum of the first `k+1` inputs,
    into separate storage and in place (`cdf == p`); faults exactly on the empty vector (it reads `p[0]` unconditionally). -/
namespace EaselModel.Vec
open Gen

theorem sum_take_succ_real (l : List ℝ) (k : Nat) (h : k < l.length) : (l.take (k + 1)).sum = l[k] + (l.take k).sum := by
  rw [List.take_succ_eq_append_getElem h, List.sum_append]; simp [add_comm]

theorem gen_dcdf_real (p c : Array ℝ) (hc : c.size = p.size) (h : p.size ≠ 0) :
    ∃ r, esl_vec_DCDF p p.size c = some r ∧ r.size = p.size ∧ ∀ k, k < p.size → r[k]? = some ((p.toList.take (k + 1)).sum) := by
  unfold esl_vec_DCDF
  have hpos : 0 < p.size := Nat.pos_of_ne_zero h
  have e0 : rd p 0 = some p[0] := rd_lt p 0 hpos
  have w0 : wr c 0 p[0] = some (c.set 0 p[0] (by omega)) := wr_lt c 0 _ (by omega)
  simp only [bind, pure, e0, Option.bind_some, w0]
  obtain ⟨r, hr, hP⟩ := loop_inv 1 (p.size : Int)
    (fun i (a : Array ℝ) => (rd p i).bind fun t2 => (rd a (i - 1)).bind fun t3 => (CElem.add t2 t3).bind fun t4 => wr a i t4)
    (fun j a => a.size = p.size ∧ ∀ k, k ≤ j → k < p.size → a[k]? = some ((p.toList.take (k + 1)).sum))
    (c.set 0 p[0] (by omega)) ⟨by simp [hc], fun k hk hk2 => by
      have : k = 0 := by omega
      subst this
      simp [List.take_one, List.head?_eq_getElem?, hpos]⟩ (by
      intro j a hj ⟨hsz, hP⟩
      have hj1 : j + 1 < p.size := by omega
      have i1 : (1 : Int) + (j : Int) = ((j + 1 : Nat) : Int) := by omega
      have i2 : ((j + 1 : Nat) : Int) - 1 = ((j : Nat) : Int) := by omega
      have ep : p[j + 1]? = some p[j + 1] := by simp [hj1]
      rw [i1, i2, rd_nat, rd_nat, ep, hP j (Nat.le_refl _) (by omega)]
      simp only [Option.bind_some]
      have ea : CElem.add p[j + 1] (p.toList.take (j + 1)).sum = some (p[j + 1] + (p.toList.take (j + 1)).sum) := rfl
      rw [ea, Option.bind_some, wr_lt a (j + 1) _ (by omega)]
      refine ⟨_, rfl, by simp [hsz], ?_⟩
      intro k hk hk2
      rw [Array.getElem?_set]
      by_cases e : j + 1 = k
      · subst e
        simp only [if_true]
        rw [sum_take_succ_real p.toList (j + 1) (by simpa using hj1)]
        simp
      · simp only [e, if_false]
        exact hP k (by omega) hk2)
  have hn : ((p.size : Int) - 1).toNat = p.size - 1 := by omega
  rw [hn] at hP
  exact ⟨r, hr, hP.1, fun k hk => hP.2 k (by omega) hk⟩

/-- `esl_vec_DCDF` called with `cdf == p` is the in-place routine: iteration `i` reads `p[i]`, which no earlier iteration wrote -/
theorem dcdf_inplace_eq {α : Type} [CElem α] (p : Array α) (n : Int) : esl_vec_DCDF_inplace p n = esl_vec_DCDF p n p := by
  unfold esl_vec_DCDF_inplace esl_vec_DCDF
  simp only [bind]
  cases rd p 0 with
  | none => rfl
  | some t1 =>
    simp only [Option.bind_some]
    cases hw : wr p 0 t1 with
    | none => rfl
    | some c =>
      simp only [Option.bind_some]
      -- from iteration `j` (cell `1 + j`) on, the cells `≥ 1 + j` still hold `p`
      rw [(loop_congr 1 n _ _ (fun j (a : Array α) => ∀ k, j + 1 ≤ k → a[k]? = p[k]?) c
        (fun k hk => wr_some_ne (i := 0) hw k (by omega)) ?_).1]
      intro j a hj hI
      have i1 : (1 : Int) + (j : Int) = ((j + 1 : Nat) : Int) := by omega
      rw [i1, rd_nat, rd_nat, hI (j + 1) (Nat.le_refl _)]
      refine ⟨rfl, fun a' ha' k hk => ?_⟩
      obtain ⟨t2, -, ha'⟩ := Option.bind_eq_some_iff.mp ha'
      obtain ⟨t3, -, ha'⟩ := Option.bind_eq_some_iff.mp ha'
      obtain ⟨t4, -, ha'⟩ := Option.bind_eq_some_iff.mp ha'
      rw [wr_some_ne ha' k (by omega), hI k (by omega)]

theorem gen_dcdf_inplace_real (p : Array ℝ) (h : p.size ≠ 0) :
    ∃ r, esl_vec_DCDF_inplace p p.size = some r ∧ r.size = p.size ∧ ∀ k, k < p.size → r[k]? = some ((p.toList.take (k + 1)).sum) := by
  rw [dcdf_inplace_eq]; exact gen_dcdf_real p p rfl h

theorem cdf_FD : @esl_vec_FCDF = @esl_vec_DCDF := rfl
theorem cdfip_FD : @esl_vec_FCDF_inplace = @esl_vec_DCDF_inplace := rfl

end EaselModel.Vec
