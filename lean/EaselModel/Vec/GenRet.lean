import EaselModel.Vec.GenFloat
/-! # The REGENERATED routines whose loop has an early `return` (`RelEntropy`, `Validate`, `Log{,2}Validate`) and the conversion
    routines are the hand model (C20, part C).  Core Lean only. -/
namespace EaselModel.Vec
open Gen VOrd VNum VInf

section rel
variable {α : Type} [VInf α]

/-- one iteration of the `RelEntropy` loop on the state (value already returned) ⊕ (`kl` so far) -/
def relStep (acc : α ⊕ α) (x y : α) : α ⊕ α :=
  match acc with
  | Sum.inl r => Sum.inl r
  | Sum.inr kl => if lt (ofNat 0) x then (if VNum.eq y (ofNat 0) then Sum.inl inf else Sum.inr (klAdd kl x y)) else Sum.inr kl

theorem relStep_inr (kl x y : α) : relStep (Sum.inr kl) x y =
    if lt (ofNat 0) x then (if VNum.eq y (ofNat 0) then Sum.inl inf else Sum.inr (klAdd kl x y)) else Sum.inr kl := rfl
theorem relStep_inl (r x y : α) : relStep (Sum.inl r) x y = Sum.inl r := rfl

theorem relFold_inl (l : List (α × α)) (r : α) : l.foldl (fun a pq => relStep a pq.1 pq.2) (Sum.inl r) = Sum.inl r := by
  induction l with
  | nil => rfl
  | cons x xs ih => rw [List.foldl_cons, relStep_inl]; exact ih

theorem relFold_eq (p q : List α) (kl : α) :
    (p.zip q).foldl (fun a pq => relStep a pq.1 pq.2) (Sum.inr kl) =
      match relEntropyGo p q kl with | none => Sum.inl inf | some k => Sum.inr k := by
  induction p generalizing q kl with
  | nil => simp [relEntropyGo]
  | cons x xs ih =>
    cases q with
    | nil => simp [relEntropyGo]
    | cons y ys =>
      rw [List.zip_cons_cons, List.foldl_cons, relStep_inr]
      unfold relEntropyGo
      cases hx : lt (ofNat 0 : α) x
      · simpa using ih ys kl
      · cases hy : VNum.eq y (ofNat 0 : α)
        · simpa using ih ys (klAdd kl x y)
        · simpa using relFold_inl (xs.zip ys) inf

theorem gen_DRelEntropy (hk : ∀ kl x y : α, klAdd kl x y = kl + x * log2 (x / y)) (p q : Array α) (h : p.size = q.size) :
    esl_vec_DRelEntropy p q p.size = some ((relEntropyGo p.toList q.toList (ofNat 0)).getD inf) := by
  unfold esl_vec_DRelEntropy loopRet
  simp only [bind, pure, celem_ofNat]
  rw [loop_foldlM_zip p q h _ _ (fun acc x y => some (relStep acc x y)) fun j hj acc => by
    have hj' : j < q.size := h ▸ hj
    cases acc with
    | inl r => rfl
    | inr kl =>
      simp only [rd_lt p j hj, rd_lt q j hj', Option.bind_some, relStep_inr, hk, celem_eq, celem_mul, celem_add]
      cases lt (ofNat 0 : α) p[j] <;> cases VNum.eq q[j] (ofNat 0 : α) <;> simp]
  rw [foldlM_pure]
  simp only [Option.bind_some]
  rw [relFold_eq]
  cases relEntropyGo p.toList q.toList (ofNat 0 : α) <;> rfl

attribute [local instance] VMix.same
/-- the `float` routine (`p[i]/q[i]` in binary32, `log2`, the product and the accumulation in double, one rounding per iteration):
    over exact arithmetic the same function -/
theorem gen_FRelEntropy (hk : ∀ kl x y : α, klAdd kl x y = kl + x * log2 (x / y)) (p q : Array α) (h : p.size = q.size) :
    esl_vec_FRelEntropy p q p.size = some ((relEntropyGo p.toList q.toList (ofNat 0)).getD inf) :=
  gen_DRelEntropy hk p q h

end rel
section validate
variable {α : Type} [VNum α]

/-- one iteration of the `Validate` loop on the state (status already returned) ⊕ (`sum` so far) -/
def valStep (acc : Int ⊕ α) (x : α) : Int ⊕ α :=
  match acc with
  | Sum.inl r => Sum.inl r
  | Sum.inr s => if notProb x then Sum.inl 1 else Sum.inr (s + x)
/-- what the routine returns after the loop -/
def valOut (tol : α) : Int ⊕ α → Int
  | Sum.inl r => r
  | Sum.inr s => if offOne s tol then 1 else 0

theorem valStep_inr (s x : α) : valStep (Sum.inr s) x = if notProb x then Sum.inl 1 else Sum.inr (s + x) := rfl
theorem valStep_inl (r : Int) (x : α) : valStep (Sum.inl r) x = Sum.inl r := rfl
theorem valFold_inl (l : List α) (r : Int) : l.foldl valStep (Sum.inl r) = Sum.inl r := by
  induction l with
  | nil => rfl
  | cons x xs ih => rw [List.foldl_cons, valStep_inl]; exact ih
theorem valFold_eq (tol : α) (v : List α) (s : α) :
    valOut tol (v.foldl valStep (Sum.inr s)) = if validateGo tol v s then 0 else 1 := by
  induction v generalizing s with
  | nil => simp only [List.foldl_nil, valOut, validateGo]; by_cases h : offOne s tol = true <;> simp [h]
  | cons x xs ih =>
    rw [List.foldl_cons, valStep_inr]
    unfold validateGo
    cases hx : notProb x
    · simpa using ih (s + x)
    · simp [valFold_inl, valOut]

variable [VFin α]
theorem gen_DValidate (hn : ∀ x : α, notProb x = (!(VFin.isFinite x) || lt x (ofNat 0) || lt (ofNat 1) x))
    (ho : ∀ s tol : α, offOne s tol = lt tol (VFin.abs (s - ofNat 1))) (v : Array α) (tol : α) :
    esl_vec_DValidate v v.size tol = some (if validate v.toList tol then 0 else 1) := by
  unfold esl_vec_DValidate loopRet validate
  simp only [bind, pure, celem_ofNat, celem_sub]
  by_cases hz : v.size = 0
  · have e : v = #[] := Array.eq_empty_of_size_eq_zero hz
    subst e; rfl
  · have h1 : ¬ ((v.size : Int) = 0) := by omega
    have h2 : v.toList.isEmpty = false := by
      rw [List.isEmpty_eq_false_iff]; intro e; apply hz; simpa using congrArg List.length e
    simp only [h1, decide_false, Bool.false_eq_true, if_false, h2]
    rw [loop_foldlM v.toList 0 v.size (by simp) _ _ (fun acc x => some (valStep acc x)) fun j hj acc => by
      cases acc with
      | inl r => rfl
      | inr s =>
        simp only [Int.zero_add, bind, pure, rd_lt v j hj, Option.bind_some, valStep_inr, Array.getElem_toList, hn, celem_ofNat, celem_add]
        cases VFin.isFinite v[j] <;> cases lt v[j] (ofNat 0 : α) <;> cases lt (ofNat 1 : α) v[j] <;> simp]
    rw [foldlM_pure]
    simp only [Option.bind_some]
    rw [← valFold_eq tol v.toList (ofNat 0)]
    cases v.toList.foldl valStep (Sum.inr (ofNat 0 : α)) with
    | inl r => rfl
    | inr s => simp only [valOut, ho, Option.bind_some]; cases h : lt tol (VFin.abs (s - ofNat 1 : α)) <;> simp

attribute [local instance] VMix.same
/-- the `float` routine (range tests and `fabs(sum - 1.0) > tol` promoted to double): over exact arithmetic the same function -/
theorem gen_FValidate (hn : ∀ x : α, notProb x = (!(VFin.isFinite x) || lt x (ofNat 0) || lt (ofNat 1) x))
    (ho : ∀ s tol : α, offOne s tol = lt tol (VFin.abs (s - ofNat 1))) (v : Array α) (tol : α) :
    esl_vec_FValidate v v.size tol = some (if validate v.toList tol then 0 else 1) :=
  gen_DValidate hn ho v tol

end validate
/-! ## `esl_vec_{D,F}Log{,2}Validate`: ESL_ALLOC a scratch copy, Copy, Exp / Exp2, Validate -/
section logvalidate
variable {α : Type} [VInf α] [VFin α]

theorem logValidate_core (hn : ∀ x : α, notProb x = (!(VFin.isFinite x) || lt x (ofNat 0) || lt (ofNat 1) x))
    (ho : ∀ s tol : α, offOne s tol = lt tol (VFin.abs (s - ofNat 1))) (v : Array α) (tol : α) (hz : v.size ≠ 0)
    (E : Array α → Int → Option (Array α)) (f : α → α) (hE : ∀ w : Array α, ∃ r, E w w.size = some r ∧ r.toList = w.toList.map f)
    (V : Array α → Int → α → Option Int) (hV : ∀ w : Array α, V w w.size tol = some (if validate w.toList tol then 0 else 1)) :
    ((allocM (v.size : Int) (CElem.ofNat 0 : α)).bind fun e => (esl_vec_DCopy v v.size e).bind fun e => (E e v.size).bind fun e =>
      (V e v.size tol).bind fun st => if decide (st ≠ 0) then some st else some 0) =
      some (if validate (v.toList.map f) tol then 0 else 1) := by
  have hpos : (0 : Int) < v.size := by omega
  simp only [allocM, if_pos hpos, Option.bind_some]
  rw [copy_DI]
  obtain ⟨r1, h1, l1⟩ := gen_copy v (Array.replicate (v.size : Int).toNat (CElem.ofNat 0 : α)) (by simp)
  have e1 : r1 = v := Array.toList_inj.mp l1
  rw [h1, e1]; simp only [Option.bind_some]
  obtain ⟨r2, h2, l2⟩ := hE v
  have s2 : r2.size = v.size := by have := congrArg List.length l2; simpa using this
  rw [h2]; simp only [Option.bind_some]
  rw [← s2, hV r2, l2]; simp only [Option.bind_some]
  cases validate (v.toList.map f) tol <;> simp

theorem gen_DLogValidate (hn : ∀ x : α, notProb x = (!(VFin.isFinite x) || lt x (ofNat 0) || lt (ofNat 1) x))
    (ho : ∀ s tol : α, offOne s tol = lt tol (VFin.abs (s - ofNat 1))) (v : Array α) (tol : α) :
    esl_vec_DLogValidate v v.size tol = some (if logValidate v.toList tol then 0 else 1) ∧
    esl_vec_DLog2Validate v v.size tol = some (if log2Validate v.toList tol then 0 else 1) := by
  by_cases hz : v.size = 0
  · have e : v = #[] := Array.eq_empty_of_size_eq_zero hz
    subst e; exact ⟨rfl, rfl⟩
  · have h1 : ¬ ((v.size : Int) = 0) := by omega
    have h2 : v.toList.isEmpty = false := by
      rw [List.isEmpty_eq_false_iff]; intro e; apply hz; simpa using congrArg List.length e
    constructor
    · unfold esl_vec_DLogValidate logValidate
      simp only [bind, pure, h1, decide_false, Bool.false_eq_true, if_false, h2]
      exact logValidate_core hn ho v tol hz (fun w n => esl_vec_DExp w n) exp (fun w => gen_DExp w) (fun w n t => esl_vec_DValidate w n t)
        (fun w => gen_DValidate hn ho w tol)
    · unfold esl_vec_DLog2Validate log2Validate
      simp only [bind, pure, h1, decide_false, Bool.false_eq_true, if_false, h2]
      exact logValidate_core hn ho v tol hz (fun w n => esl_vec_DExp2 w n) exp2 (fun w => gen_DExp2 w) (fun w n t => esl_vec_DValidate w n t)
        (fun w => gen_DValidate hn ho w tol)

attribute [local instance] VMix.same
theorem copy_FD' : @esl_vec_FCopy = @esl_vec_DCopy := rfl
theorem gen_FLogValidate (hn : ∀ x : α, notProb x = (!(VFin.isFinite x) || lt x (ofNat 0) || lt (ofNat 1) x))
    (ho : ∀ s tol : α, offOne s tol = lt tol (VFin.abs (s - ofNat 1))) (v : Array α) (tol : α) :
    esl_vec_FLogValidate v v.size tol = some (if logValidate v.toList tol then 0 else 1) ∧
    esl_vec_FLog2Validate v v.size tol = some (if log2Validate v.toList tol then 0 else 1) :=
  gen_DLogValidate hn ho v tol
end logvalidate

/-! ## the conversion routines `esl_vec_D2F / F2D / I2F / I2D`: `dst[i] = src[i]` with C's implicit conversion, cell by cell -/
theorem gen_D2F {α ω : Type} [CElem α] [VMix α ω] [VNum ω] (src : Array ω) (dst : Array α) (hd : dst.size = src.size) :
    ∃ r, esl_vec_D2F src src.size dst = some r ∧ r.toList = src.toList.map VMix.narrow := by
  unfold esl_vec_D2F; simp only [bind]
  rw [← hd]
  exact loop_map src.toList _ dst (by simp [hd]) _ fun j hj a _ _ => by rw [rd_lt src j hj]; rfl
theorem gen_F2D {α ω : Type} [CElem α] [VMix α ω] [VNum ω] (src : Array α) (dst : Array ω) (hd : dst.size = src.size) :
    ∃ r, esl_vec_F2D src src.size dst = some r ∧ r.toList = src.toList.map VMix.widen := by
  unfold esl_vec_F2D; simp only [bind]
  rw [← hd]
  exact loop_map src.toList _ dst (by simp [hd]) _ fun j hj a _ _ => by rw [rd_lt src j hj]; rfl
theorem gen_I2F {α ι : Type} [CElem α] [VInt α ι] (src : Array ι) (dst : Array α) (hd : dst.size = src.size) :
    (∃ r, esl_vec_I2F src src.size dst = some r ∧ r.toList = src.toList.map VInt.ofInt) ∧
    (∃ r, esl_vec_I2D src src.size dst = some r ∧ r.toList = src.toList.map VInt.ofInt) := by
  unfold esl_vec_I2F esl_vec_I2D; simp only [bind]
  rw [← hd]
  exact ⟨loop_map src.toList _ dst (by simp [hd]) _ fun j hj a _ _ => by rw [rd_lt src j hj]; rfl,
    loop_map src.toList _ dst (by simp [hd]) _ fun j hj a _ _ => by rw [rd_lt src j hj]; rfl⟩

end EaselModel.Vec
