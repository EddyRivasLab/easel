import EaselModel.Vec.GenMore
/-! # The REGENERATED probability / log-space routines, `double` and `float`, are the hand model (C20, part C)

For EVERY element type with the operations of `VInf`, `esl_vec_{D,F}{Norm,Log,Log2,Exp,Exp2,LogSum,Log2Sum,LogNorm,Log2Norm,Entropy}` as clang parsed them
compute the functions of `Vec/Model.lean` (`norm`, `vlog`, …, `logSum`, `logNorm`, `entropy`), so the theorems about those over ℝ / the extended reals
(`Vec/Real.lean`, `Vec/XReal.lean`) are theorems about the code as regenerated on every run.  Core Lean only. -/
namespace EaselModel.Vec
open Gen VOrd VNum VInf

section vnum
variable {α : Type} [VNum α]

theorem celem_ofNat (n : Nat) : (CElem.ofNat n : α) = VNum.ofNat n := rfl
theorem celem_add (a b : α) : CElem.add a b = some (a + b) := rfl
theorem celem_sub (a b : α) : CElem.sub a b = some (a - b) := rfl
theorem celem_mul (a b : α) : CElem.mul a b = some (a * b) := rfl
theorem celem_eq (a b : α) : CElem.eq a b = VNum.eq a b := rfl

theorem gen_DEntropy (v : Array α) : esl_vec_DEntropy v v.size = some (entropy v.toList) := by
  unfold esl_vec_DEntropy entropy
  simp only [bind, pure, celem_ofNat, celem_mul, celem_sub]
  rw [loop_foldlM v.toList 0 v.size (by simp) _ _ (fun (H : α) x => some (if lt (ofNat 0) x then H - x * log2 x else H)) fun j hj H => by
    rw [Int.zero_add, rd_lt v j hj]; simp only [Option.bind_some]; split <;> simp [*]]
  rw [foldlM_pure]

/-- `esl_vec_DNorm` as regenerated = `norm` (`uniform n` is `1. / (double) n` as the C text writes it) -/
theorem gen_DNorm (hu : ∀ n : Nat, (uniform n : α) = ofNat 1 / ofNat n) (v : Array α) :
    ∃ r, esl_vec_DNorm v v.size = some r ∧ r.toList = norm v.toList := by
  unfold esl_vec_DNorm norm
  rw [gen_dsum v]
  simp only [bind, pure, Option.bind_some, celem_ofNat, celem_eq, Option.bind_fun_some]
  cases hz : VNum.eq (Vec.sum v.toList) (ofNat 0 : α)
  · simp only [Bool.not_false, if_true]
    exact loop_map v.toList (· / Vec.sum v.toList) v rfl _ fun j hj a _ hr => by rw [hr, rd_lt v j hj]; rfl
  · simp only [Bool.not_true, Bool.false_eq_true, if_false]
    have hn : ((v.size : Int).toNat) = v.toList.length := by simp
    rw [hn, ← hu]
    exact loop_map v.toList (fun _ => uniform v.toList.length) v rfl _ fun _ _ _ _ _ => rfl

end vnum

section vinf
variable {α : Type} [VInf α]

theorem gen_DExp (v : Array α) : ∃ r, esl_vec_DExp v v.size = some r ∧ r.toList = vexp v.toList := by
  unfold esl_vec_DExp vexp
  simp only [bind, pure]
  exact loop_map v.toList exp v rfl _ fun j hj a _ hr => by rw [hr, rd_lt v j hj]; rfl
theorem gen_DExp2 (v : Array α) : ∃ r, esl_vec_DExp2 v v.size = some r ∧ r.toList = vexp2 v.toList := by
  unfold esl_vec_DExp2 vexp2
  simp only [bind, pure]
  exact loop_map v.toList exp2 v rfl _ fun j hj a _ hr => by rw [hr, rd_lt v j hj]; rfl
theorem gen_DLog (v : Array α) : ∃ r, esl_vec_DLog v v.size = some r ∧ r.toList = vlog v.toList := by
  unfold esl_vec_DLog vlog
  simp only [bind, pure, celem_ofNat]
  exact loop_map v.toList _ v rfl _ fun j hj a _ hr => by
    rw [hr, rd_lt v j hj]; simp only [Option.bind_some]; split <;> simp [*]
theorem gen_DLog2 (v : Array α) : ∃ r, esl_vec_DLog2 v v.size = some r ∧ r.toList = vlog2 v.toList := by
  unfold esl_vec_DLog2 vlog2
  simp only [bind, pure, celem_ofNat]
  exact loop_map v.toList _ v rfl _ fun j hj a _ hr => by
    rw [hr, rd_lt v j hj]; simp only [Option.bind_some]; split <;> simp [*]

/-- The four routines `esl_vec_{D,F}Log{,2}Sum` are one C text up to the window constant (500., 50.), the exponential and the
    logarithm: this is that text, as the translator renders the `double` one. -/
def logSumRoutine (W : Nat) (ex lg : α → α) (vec : Array α) (n : Int) : Option α := do
  let max_ ← esl_vec_IMax vec n
  if (CElem.eq max_ (VInf.inf : α)) then
    pure (VInf.inf : α)
  else
    let sum ← loop 0 n (CElem.ofNat 0 : α) fun i sum => do
        let t2 ← rd vec i
        let t3 ← CElem.sub max_ (CElem.ofNat W : α)
        let sum ← if (VOrd.lt t3 t2) then do
            let t4 ← rd vec i
            let t5 ← CElem.sub t4 max_
            let sum ← CElem.add sum (ex t5)
            pure sum
          else pure sum
        pure sum
    CElem.add (lg sum) max_

/-- the window test `x > max - W` is the class operation `inWindow` -/
theorem logSumRoutine_eq (W : Nat) (ex lg : α → α) (hw : ∀ m x : α, inWindow m x = lt (m - ofNat W) x) (v : Array α) :
    logSumRoutine W ex lg v v.size =
      match vmax v.toList with
      | none => none
      | some m =>
        if eq m inf then some inf
        else some (lg (v.toList.foldl (fun s x => if inWindow m x then s + ex (x - m) else s) (ofNat 0)) + m) := by
  unfold logSumRoutine
  rw [gen_max v]
  cases hm : vmax v.toList with
  | none => rfl
  | some m =>
    simp only [bind, pure, Option.bind_some, celem_ofNat, celem_eq, celem_sub, celem_add]
    cases he : VNum.eq m (inf : α)
    · simp only [Bool.false_eq_true, if_false]
      rw [loop_foldlM v.toList 0 v.size (by simp) _ _ (fun (s : α) x => some (if inWindow m x then s + ex (x - m) else s)) fun j hj s => by
        rw [Int.zero_add, rd_lt v j hj]; simp only [hw, Option.bind_some]; split <;> simp [*]]
      rw [foldlM_pure]
      rfl
    · simp

theorem gen_DLogSum (hw : ∀ m x : α, inWindow m x = lt (m - ofNat 500) x) (v : Array α) :
    esl_vec_DLogSum v v.size = logSum v.toList := logSumRoutine_eq 500 exp log hw v
theorem gen_DLog2Sum (hw : ∀ m x : α, inWindow m x = lt (m - ofNat 500) x) (v : Array α) :
    esl_vec_DLog2Sum v v.size = log2Sum v.toList := logSumRoutine_eq 500 exp2 log2 hw v

/-- `LogNorm` / `Log2Norm` after their `LogSum` call `S`: Increment by `-1.*denom`, Exp (`EX`, computing `ex` cell by cell), Norm -/
theorem logNorm_tail (hu : ∀ n : Nat, (uniform n : α) = ofNat 1 / ofNat n) (S : Option α) (ex : α → α)
    (EX : Array α → Int → Option (Array α)) (hEX : ∀ w : Array α, ∃ r, EX w w.size = some r ∧ r.toList = w.toList.map ex)
    (v : Array α) :
    (S.bind fun denom => (esl_vec_DIncrement v v.size (neg (ofNat 1) * denom)).bind fun v₁ => (EX v₁ v.size).bind fun v₂ =>
      esl_vec_DNorm v₂ v.size).map Array.toList
      = S.map fun denom => norm ((increment v.toList (neg (ofNat 1) * denom)).map ex) := by
  cases S with
  | none => rfl
  | some denom =>
    obtain ⟨r1, h1, l1⟩ := gen_increment v (neg (ofNat 1) * denom)
    have s1 : v.size = r1.size := by have := congrArg List.length l1; simp [increment] at this; omega
    obtain ⟨r2, h2, l2⟩ := hEX r1
    have s2 : r1.size = r2.size := by have := congrArg List.length l2; simpa using this.symm
    obtain ⟨r3, h3, l3⟩ := gen_DNorm hu r2
    rw [Option.bind_some, h1, Option.bind_some, s1, h2, Option.bind_some, s2, h3, Option.map_some, Option.map_some, l3, l2, l1]

theorem gen_DLogNorm (hu : ∀ n : Nat, (uniform n : α) = ofNat 1 / ofNat n) (hw : ∀ m x : α, inWindow m x = lt (m - ofNat 500) x) (v : Array α) :
    (esl_vec_DLogNorm v v.size).map Array.toList = logNorm v.toList := by
  unfold esl_vec_DLogNorm
  rw [gen_DLogSum hw v]
  exact logNorm_tail hu _ exp _ gen_DExp v
theorem gen_DLog2Norm (hu : ∀ n : Nat, (uniform n : α) = ofNat 1 / ofNat n) (hw : ∀ m x : α, inWindow m x = lt (m - ofNat 500) x) (v : Array α) :
    (esl_vec_DLog2Norm v v.size).map Array.toList = log2Norm v.toList := by
  unfold esl_vec_DLog2Norm
  rw [gen_DLog2Sum hw v]
  exact logNorm_tail hu _ exp2 _ gen_DExp2 v

end vinf
/-! ## the same routines over `float`

Binary32 cells `α`; every sub-expression the C text evaluates in `double` (`sum != 0.0`, `1. / (float) n`, `vec[i] > max - 50.`, `-1.*denom`) stands at a
second type `ω` reached through `VMix.widen` / `VMix.narrow` (the driver runs `VMix Float32 Float`).  Over exact arithmetic both conversions are the
identity (`VMix.same`), and where the C text of the `float` routine is that of the `double` routine the two translations are the same term. -/
section float
attribute [local instance] VMix.same

theorem widen_same {α : Type} (x : α) : (VMix.widen x : α) = x := rfl
theorem narrow_same {α : Type} (x : α) : (VMix.narrow x : α) = x := rfl

section vnum
variable {α : Type} [VNum α]
/-- same C text up to the libm suffix `f` and the (here vacuous) promotion of a comparison to `double` -/
theorem entropy_FD (v : Array α) (n : Int) : esl_vec_FEntropy v n = esl_vec_DEntropy v n := rfl
/-- `esl_vec_FNorm`: `vec[i] /= sum` in binary32, `1. / (float) n` in double then rounded — over exact arithmetic the `double` routine -/
theorem norm_FD (v : Array α) (n : Int) : esl_vec_FNorm v n = esl_vec_DNorm v n := rfl
end vnum

section mix
variable {α : Type} [VInf α]

theorem exp_FD (v : Array α) (n : Int) : esl_vec_FExp v n = esl_vec_DExp v n := rfl
theorem exp2_FD (v : Array α) (n : Int) : esl_vec_FExp2 v n = esl_vec_DExp2 v n := rfl
theorem log_FD (v : Array α) (n : Int) : esl_vec_FLog v n = esl_vec_DLog v n := rfl
theorem log2_FD (v : Array α) (n : Int) : esl_vec_FLog2 v n = esl_vec_DLog2 v n := rfl

/-- `esl_vec_FLogSum` / `esl_vec_FLog2Sum` as regenerated = `logSum` / `log2Sum` with the window `x > max - 50.` -/
theorem gen_FLogSum (hw : ∀ m x : α, inWindow m x = lt (m - ofNat 50) x) (v : Array α) :
    esl_vec_FLogSum v v.size = logSum v.toList := logSumRoutine_eq 50 exp log hw v
theorem gen_FLog2Sum (hw : ∀ m x : α, inWindow m x = lt (m - ofNat 50) x) (v : Array α) :
    esl_vec_FLog2Sum v v.size = log2Sum v.toList := logSumRoutine_eq 50 exp2 log2 hw v

/-- `esl_vec_FLogNorm` / `esl_vec_FLog2Norm` as regenerated (LogSum, Increment by `(float)(-1.*(double)denom)`, Exp, Norm) -/
theorem gen_FLogNorm (hu : ∀ n : Nat, (uniform n : α) = ofNat 1 / ofNat n) (hw : ∀ m x : α, inWindow m x = lt (m - ofNat 50) x) (v : Array α) :
    (esl_vec_FLogNorm v v.size).map Array.toList = logNorm v.toList := by
  unfold esl_vec_FLogNorm
  rw [gen_FLogSum hw v]
  exact logNorm_tail hu _ exp _ gen_DExp v
theorem gen_FLog2Norm (hu : ∀ n : Nat, (uniform n : α) = ofNat 1 / ofNat n) (hw : ∀ m x : α, inWindow m x = lt (m - ofNat 50) x) (v : Array α) :
    (esl_vec_FLog2Norm v v.size).map Array.toList = log2Norm v.toList := by
  unfold esl_vec_FLog2Norm
  rw [gen_FLog2Sum hw v]
  exact logNorm_tail hu _ exp2 _ gen_DExp2 v

end mix
end float

end EaselModel.Vec
