import EaselModel.Vec.Real
/-! # `esl_{D,F}Compare_old` / `esl_vec_{D,F}Compare` over the reals (C20, part C)

The hand model `compareOld` (line by line the C text of easel.c) at the real-number instance: no infinities, no NaNs, and the IEEE
quotient `x / 0 = +inf` for `x > 0` (which is never `<= tol` for a real `tol`) is spelt out in `relLe`. -/
namespace EaselModel.Vec
open VOrd VNum

noncomputable instance instVCmpReal : VCmp ℝ where
  isInf _ := false
  isNaN _ := false
  isFinite _ := true
  absLe x tol := decide (|x| ≤ tol)
  relLe a b tol := decide (a + b ≠ 0 ∧ 2 * |a - b| / |a + b| ≤ tol)

/-- documented meaning of the scalar test: equal, or one of them zero and the other within `tol`, or relative difference
    `2|a-b| / |a+b| <= tol` -/
def closeR (a b tol : ℝ) : Prop :=
  a = b ∨ (a = 0 ∧ |b| ≤ tol) ∨ (b = 0 ∧ |a| ≤ tol) ∨ (a + b ≠ 0 ∧ 2 * |a - b| / |a + b| ≤ tol)

theorem compareOld_real (a b tol : ℝ) : compareOld a b tol = true ↔ closeR a b tol := by
  unfold compareOld closeR
  -- the three guards on infinities and NaNs are `false` over ℝ; each remaining `if c then true else …` is a disjunct
  simp only [VCmp.isInf, VCmp.isNaN, VCmp.isFinite, VCmp.absLe, VCmp.relLe, Bool.false_and, Bool.not_true, Bool.or_false,
    Bool.false_eq_true, if_false, r_eq, r_ofNat, Nat.cast_zero, Bool.if_true_left, Bool.if_false_right, Bool.or_eq_true,
    Bool.and_eq_true, decide_eq_true_eq, Bool.and_true]

theorem closeR_refl (a tol : ℝ) : closeR a a tol := Or.inl rfl
theorem closeR_symm (a b tol : ℝ) (h : closeR a b tol) : closeR b a tol := by
  rcases h with h | h | h | ⟨h1, h2⟩
  · exact Or.inl h.symm
  · exact Or.inr (Or.inr (Or.inl h))
  · exact Or.inr (Or.inl h)
  · refine Or.inr (Or.inr (Or.inr ⟨by rwa [add_comm], ?_⟩))
    rwa [abs_sub_comm, add_comm]

theorem vcompare_real (v w : List ℝ) (tol : ℝ) : vcompare v w tol = true ↔ ∀ p ∈ v.zip w, closeR p.1 p.2 tol := by
  unfold vcompare
  rw [List.all_eq_true]
  exact forall_congr' fun p => imp_congr_right fun _ => compareOld_real p.1 p.2 tol

theorem vcompare_self (v : List ℝ) (tol : ℝ) : vcompare v v tol = true := by
  rw [vcompare_real]
  intro p hp
  have : p.1 = p.2 := by
    obtain ⟨k, hk, rfl⟩ := List.mem_iff_getElem.mp hp
    simp
  exact Or.inl this

/-- a zero tolerance is exact equality (away from the degenerate `a = -b`… which `a + b ≠ 0` excludes): `closeR a b 0 ↔ a = b` -/
theorem closeR_zero (a b : ℝ) : closeR a b 0 ↔ a = b := by
  constructor
  · rintro (h | ⟨h1, h2⟩ | ⟨h1, h2⟩ | ⟨h1, h2⟩)
    · exact h
    · rw [h1]; exact (abs_nonpos_iff.mp h2).symm
    · rw [h1]; exact abs_nonpos_iff.mp h2
    · have hpos : 0 < |a + b| := abs_pos.mpr h1
      have : 2 * |a - b| ≤ 0 := by
        have := (div_le_iff₀ hpos).mp h2
        simpa using this
      have : |a - b| ≤ 0 := by linarith
      exact sub_eq_zero.mp (abs_nonpos_iff.mp this)
  · intro h; exact Or.inl h

end EaselModel.Vec
