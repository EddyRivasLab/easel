import EaselModel.Vec.GenLemmas
/-! # The REGENERATED search loops (`Compare`), `Swap`, and the integer element-wise routines under C's overflow-is-undefined
    arithmetic (C20, part C).  Core Lean only. -/
namespace EaselModel.Vec
open Gen

theorem foldlM_any {ι : Type} (l : List ι) (c : ι → Option Bool) (p : ι → Bool) (h : ∀ x ∈ l, c x = some (p x)) (b : Bool) :
    l.foldlM (fun (found : Bool) x => if found then some true else c x) b = some (b || l.any p) := by
  induction l generalizing b with
  | nil => simp
  | cons x xs ih =>
    rw [List.foldlM_cons, h x List.mem_cons_self]
    cases b <;> simp [ih fun y hy => h y (List.mem_cons_of_mem _ hy)]

/-- what `loopAny` computes for a condition that does not fault on `0..n-1` -/
theorem loopAny_nat (n : Nat) (c : Int → Option Bool) (p : Nat → Bool) (h : ∀ k : Nat, k < n → c (0 + (k : Int)) = some (p k)) :
    loopAny 0 (n : Int) c = some ((List.range n).any p) := by
  unfold loopAny
  rw [show ((n : Int) - 0).toNat = n by omega]
  exact (foldlM_any (List.range n) (fun (k : Nat) => c (0 + (k : Int))) p (fun k hk => h k (List.mem_range.mp hk)) false).trans (by simp)

/-- `loopAny` is `loop` on the flag "found", so a search over two arrays is a `foldlM` over their cognate pairs -/
theorem loopAny_zip {α : Type} (v w : Array α) (h : v.size = w.size) (p : α → α → Bool) :
    loopAny 0 v.size (fun i => (rd v i).bind fun x => (rd w i).bind fun y => some (p x y)) =
      some ((v.toList.zip w.toList).any fun q => p q.1 q.2) :=
  (loop_foldlM_zip v w h false (fun i found => if found then some true else (rd v i).bind fun x => (rd w i).bind fun y => some (p x y))
    (fun found x y => if found then some true else some (p x y)) fun j hj found => by
      rw [rd_lt v j hj, rd_lt w j (h ▸ hj)]; rfl).trans ((foldlM_any (v.toList.zip w.toList) (fun q => some (p q.1 q.2)) (fun q => p q.1 q.2) (fun _ _ => rfl) false).trans (by simp))

theorem any_ne_zip {α : Type} (eq : α → α → Bool) (heq : ∀ a b, eq a b = true ↔ a = b) (l m : List α) (h : l.length = m.length) :
    ((l.zip m).any fun q => !(eq q.1 q.2)) = true ↔ l ≠ m := by
  induction l generalizing m with
  | nil => cases m with
    | nil => simp
    | cons y ys => simp at h
  | cons x xs ih => cases m with
    | nil => simp at h
    | cons y ys =>
      have := ih ys (by simpa using h)
      simp only [ne_eq] at this
      have e : eq x y = false ↔ ¬ x = y := by rw [← heq, Bool.not_eq_true]
      simp only [List.zip_cons_cons, List.any_cons, Bool.or_eq_true, Bool.not_eq_true', this, e, ne_eq, List.cons.injEq]
      exact Classical.not_and_iff_not_or_not.symm

theorem gen_icompare {α : Type} [CElem α] (heq : ∀ a b : α, CElem.eq a b = true ↔ a = b) (v w : Array α) (h : v.size = w.size) :
    (v = w → esl_vec_ICompare v w v.size = some 0) ∧ (v ≠ w → esl_vec_ICompare v w v.size = some 1) := by
  unfold esl_vec_ICompare
  simp only [bind, pure]
  rw [loopAny_zip v w h fun x y => !(CElem.eq x y)]
  have hA := any_ne_zip CElem.eq heq v.toList w.toList (by simpa using h)
  rw [ne_eq, Array.toList_inj] at hA
  exact ⟨fun hvw => if_neg fun hc => hA.mp hc hvw, fun hvw => if_pos (hA.mpr hvw)⟩

theorem compare_LI : @esl_vec_LCompare = @esl_vec_ICompare := rfl
theorem compare_FD : @esl_vec_FCompare = @esl_vec_DCompare := rfl

theorem status_eq_one {α : Type} [VCmp α] (a b tol : α) : decide (compareOldStatus a b tol = 1) = !(compareOld a b tol) := by
  unfold compareOldStatus; cases compareOld a b tol <;> simp

theorem gen_dcompare {α : Type} [VCmp α] (v w : Array α) (h : v.size = w.size) (tol : α) :
    esl_vec_DCompare v w v.size tol = some (if vcompare v.toList w.toList tol then 0 else 1) := by
  unfold esl_vec_DCompare vcompare
  simp only [bind, pure, status_eq_one]
  rw [loopAny_zip v w h fun x y => !(compareOld x y tol), List.all_eq_not_any_not]
  cases (v.toList.zip w.toList).any fun q => !(compareOld q.1 q.2 tol) <;> rfl

theorem gen_mat_compare_flat {α : Type} [VCmp α] (A B : Array α) (M N : Int) (tol : α) :
    esl_mat_DCompare A B M N tol = esl_vec_DCompare A B (M * N) tol ∧ esl_mat_FCompare A B M N tol = esl_vec_FCompare A B (M * N) tol := by
  constructor <;> simp only [esl_mat_DCompare, esl_mat_FCompare]
theorem gen_mat_icompare_flat {α : Type} [CElem α] (A B : Array α) (M N : Int) : esl_mat_ICompare A B M N = esl_vec_ICompare A B (M * N) := by
  simp only [esl_mat_ICompare]

theorem gen_swap {α : Type} [CElem α] (v w : Array α) (h : w.size = v.size) :
    ∃ r, esl_vec_ISwap v w v.size = some r ∧ r.1 = w ∧ r.2 = v := by
  unfold esl_vec_ISwap
  obtain ⟨r, hr, hP⟩ := loop_inv 0 (v.size : Int)
    (fun i (s : Array α × Array α) => (rd s.1 i).bind fun tmp => (rd s.2 i).bind fun t1 => (wr s.1 i t1).bind fun a => (wr s.2 i tmp).bind fun b => some (a, b))
    (fun j s => s.1.size = v.size ∧ s.2.size = v.size ∧ ∀ k, (s.1[k]? = if k < j then w[k]? else v[k]?) ∧ (s.2[k]? = if k < j then v[k]? else w[k]?))
    (v, w) ⟨rfl, h, fun k => by simp⟩ (by
      intro j s hj ⟨h1, h2, hP⟩
      have hjn : j < v.size := by omega
      have e1 : s.1[j]? = some v[j] := by rw [(hP j).1]; simp
      have e2 : s.2[j]? = some (w[j]'(by omega)) := by rw [(hP j).2]; simp <;> omega
      rw [Int.zero_add, rd_nat, rd_nat, e1, e2]
      simp only [Option.bind_some]
      rw [wr_lt s.1 j _ (by omega), wr_lt s.2 j _ (by omega)]
      simp only [Option.bind_some]
      refine ⟨_, rfl, by simp [h1], by simp [h2], ?_⟩
      intro k
      simp only [Array.getElem?_set]
      by_cases e : j = k
      · subst e; simp
      · simp only [e, if_false]
        rw [(hP k).1, (hP k).2]
        by_cases c : k < j
        · rw [if_pos c, if_pos c, if_pos (by omega), if_pos (by omega)]; exact ⟨rfl, rfl⟩
        · rw [if_neg c, if_neg c, if_neg (by omega), if_neg (by omega)]; exact ⟨rfl, rfl⟩)
  have hn : ((v.size : Int) - 0).toNat = v.size := by omega
  rw [hn] at hP
  obtain ⟨h1, h2, hk⟩ := hP
  simp only [bind, pure] at hr ⊢
  rw [hr]
  refine ⟨r, rfl, ?_, ?_⟩
  · apply Array.ext (by omega)
    intro k hk1 hk2
    have := (hk k).1
    rw [if_pos (by omega)] at this
    simpa [hk1, hk2] using this
  · apply Array.ext (by omega)
    intro k hk1 hk2
    have := (hk k).2
    rw [if_pos (by omega)] at this
    simpa [hk1, hk2] using this

theorem swap_DI : @esl_vec_DSwap = @esl_vec_ISwap := rfl
theorem swap_FI : @esl_vec_FSwap = @esl_vec_ISwap := rfl
theorem swap_LI : @esl_vec_LSwap = @esl_vec_ISwap := rfl

/-! ## integer element-wise routines: exact over ℤ while every result is representable (otherwise `none`: undefined behaviour in C) -/
section cint
variable {α : Type} [CInt α]
open CInt

theorem mapM_exact {ι : Type} (l : List ι) (F : ι → Option α) (f : ι → Int) (h : ∀ x ∈ l, ∃ y, F x = some y ∧ toInt y = f x) :
    ∃ ys, l.mapM F = some ys ∧ ys.map toInt = l.map f := by
  induction l with
  | nil => exact ⟨[], rfl, rfl⟩
  | cons x xs ih =>
    obtain ⟨y, hy, ty⟩ := h x (by simp)
    obtain ⟨ys, hys, tys⟩ := ih fun x hx => h x (by simp [hx])
    exact ⟨y :: ys, by rw [List.mapM_cons, hy, hys]; rfl, by simp [ty, tys]⟩

theorem gen_iscale_exact (v : Array α) (s : α) (h : ∀ x ∈ v.toList, lo α ≤ toInt x * toInt s ∧ toInt x * toInt s ≤ hi α) :
    ∃ r, esl_vec_IScale v v.size s = some r ∧ r.toList.map toInt = v.toList.map fun x => toInt x * toInt s := by
  unfold esl_vec_IScale
  simp only [bind]
  obtain ⟨ys, hys, tys⟩ := mapM_exact v.toList (CElem.mul · s) _ fun x hx => mul_some_of_range x s (h x hx)
  rw [loop_mapM v.toList (CElem.mul · s) v rfl _ fun j hj a _ hr => by rw [hr, rd_lt v j hj]; rfl, hys]
  exact ⟨_, rfl, tys⟩

theorem gen_iincrement_exact (v : Array α) (x : α) (h : ∀ y ∈ v.toList, lo α ≤ toInt y + toInt x ∧ toInt y + toInt x ≤ hi α) :
    ∃ r, esl_vec_IIncrement v v.size x = some r ∧ r.toList.map toInt = v.toList.map fun y => toInt y + toInt x := by
  unfold esl_vec_IIncrement
  simp only [bind]
  obtain ⟨ys, hys, tys⟩ := mapM_exact v.toList (CElem.add · x) _ fun y hy => add_some_of_range y x (h y hy)
  rw [loop_mapM v.toList (CElem.add · x) v rfl _ fun j hj a _ hr => by rw [hr, rd_lt v j hj]; rfl, hys]
  exact ⟨_, rfl, tys⟩

theorem gen_iadd_exact (v w : Array α) (hw : w.size = v.size)
    (h : ∀ p ∈ v.toList.zip w.toList, lo α ≤ toInt p.1 + toInt p.2 ∧ toInt p.1 + toInt p.2 ≤ hi α) :
    ∃ r, esl_vec_IAdd v w v.size = some r ∧ r.toList.map toInt = List.zipWith (fun x y => toInt x + toInt y) v.toList w.toList := by
  unfold esl_vec_IAdd
  simp only [bind]
  obtain ⟨ys, hys, tys⟩ := mapM_exact (v.toList.zip w.toList) (fun p => CElem.add p.1 p.2)
    (Function.uncurry fun x y => toInt x + toInt y) fun p hp => add_some_of_range p.1 p.2 (h p hp)
  rw [loop_mapM (v.toList.zip w.toList) (fun p => CElem.add p.1 p.2) v (by simp [hw]) _ fun j hj a _ hr => by
    rw [hr, rd_lt v j (zip_lt hw hj).1, rd_lt w j (zip_lt hw hj).2, List.getElem_zip]; rfl, hys]
  exact ⟨_, rfl, tys.trans List.map_uncurry_zip_eq_zipWith⟩

theorem gen_iaddScaled_exact (v w : Array α) (c : α) (hw : w.size = v.size)
    (hm : ∀ y ∈ w.toList, lo α ≤ toInt y * toInt c ∧ toInt y * toInt c ≤ hi α)
    (h : ∀ p ∈ v.toList.zip w.toList, lo α ≤ toInt p.1 + toInt p.2 * toInt c ∧ toInt p.1 + toInt p.2 * toInt c ≤ hi α) :
    ∃ r, esl_vec_IAddScaled v w c v.size = some r ∧
      r.toList.map toInt = List.zipWith (fun x y => toInt x + toInt y * toInt c) v.toList w.toList := by
  unfold esl_vec_IAddScaled
  simp only [bind]
  obtain ⟨ys, hys, tys⟩ := mapM_exact (v.toList.zip w.toList) (fun p => (CElem.mul p.2 c).bind (CElem.add p.1))
    (Function.uncurry fun x y => toInt x + toInt y * toInt c) fun p hp => by
      obtain ⟨t, et, tt⟩ := mul_some_of_range p.2 c (hm _ (List.of_mem_zip hp).2)
      obtain ⟨y, e, ty⟩ := add_some_of_range p.1 t (by rw [tt]; exact h p hp)
      exact ⟨y, by rw [et]; exact e, by rw [ty, tt]; rfl⟩
  rw [loop_mapM (v.toList.zip w.toList) (fun p => (CElem.mul p.2 c).bind (CElem.add p.1)) v (by simp [hw]) _ fun j hj a _ hr => by
    rw [hr, rd_lt v j (zip_lt hw hj).1, rd_lt w j (zip_lt hw hj).2, List.getElem_zip]; exact (Option.bind_assoc _ _ _).symm, hys]
  exact ⟨_, rfl, tys.trans List.map_uncurry_zip_eq_zipWith⟩

end cint

end EaselModel.Vec
