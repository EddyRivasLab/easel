import EaselModel.Vec.GenLemmas
import EaselModel.Vec.Real
/-! # Order-theoretic specifications of the REGENERATED routines (C20, part C)

`Int32` / `Int64` (C `int` / `int64_t`) are linear orders — the order of their integer values, over the WHOLE range — and the
translated comparators `Gen.qsort_*` are the three-way comparison of that order; so the generated `Sort*` routines return an ordered
permutation, `Max/Min` the extremum, for every vector including entries further apart than 2^31. -/
namespace EaselModel.Vec
open Gen

instance : LinearOrder Int32 where
  le_refl a := Int32.le_iff_toInt_le.mpr (le_refl _)
  le_trans a b c h1 h2 := Int32.le_iff_toInt_le.mpr (le_trans (Int32.le_iff_toInt_le.mp h1) (Int32.le_iff_toInt_le.mp h2))
  le_antisymm a b h1 h2 := Int32.toInt_inj.mp (le_antisymm (Int32.le_iff_toInt_le.mp h1) (Int32.le_iff_toInt_le.mp h2))
  le_total a b := by rcases le_total a.toInt b.toInt with h | h <;> [left; right] <;> exact Int32.le_iff_toInt_le.mpr h
  lt_iff_le_not_ge a b := by rw [Int32.lt_iff_toInt_lt, Int32.le_iff_toInt_le, Int32.le_iff_toInt_le]; omega
  toDecidableLE := inferInstance
  toDecidableLT := inferInstance
  toDecidableEq := inferInstance

instance : LinearOrder Int64 where
  le_refl a := Int64.le_iff_toInt_le.mpr (le_refl _)
  le_trans a b c h1 h2 := Int64.le_iff_toInt_le.mpr (le_trans (Int64.le_iff_toInt_le.mp h1) (Int64.le_iff_toInt_le.mp h2))
  le_antisymm a b h1 h2 := Int64.toInt_inj.mp (le_antisymm (Int64.le_iff_toInt_le.mp h1) (Int64.le_iff_toInt_le.mp h2))
  le_total a b := by rcases le_total a.toInt b.toInt with h | h <;> [left; right] <;> exact Int64.le_iff_toInt_le.mpr h
  lt_iff_le_not_ge a b := by rw [Int64.lt_iff_toInt_lt, Int64.le_iff_toInt_le, Int64.le_iff_toInt_le]; omega
  toDecidableLE := inferInstance
  toDecidableLT := inferInstance
  toDecidableEq := inferInstance

instance : LawfulVOrd Int32 := ⟨fun a b => by simp [VOrd.lt]⟩
instance : LawfulVOrd Int64 := ⟨fun a b => by simp [VOrd.lt]⟩

section order
variable {α : Type} [CElem α] [LinearOrder α] [LawfulVOrd α]

theorem cmp_incr_spec (a b : α) :
    (qsort_IIncreasing a b < 0 ↔ a < b) ∧ (qsort_IIncreasing a b = 0 ↔ a = b) ∧ (0 < qsort_IIncreasing a b ↔ b < a) := by
  rw [qsort_IIncreasing_eq, lt_eq_decide, lt_eq_decide]
  rcases lt_trichotomy a b with h | h | h
  · have : ¬ b < a := not_lt.mpr h.le
    simp [h, this, h.ne]
  · subst h; simp
  · have : ¬ a < b := not_lt.mpr h.le
    simp [h, this, h.ne']
/-- the decreasing comparator is the increasing one with its arguments exchanged -/
theorem cmp_decr_spec (a b : α) :
    (qsort_IDecreasing a b < 0 ↔ b < a) ∧ (qsort_IDecreasing a b = 0 ↔ a = b) ∧ (0 < qsort_IDecreasing a b ↔ a < b) :=
  have h := cmp_incr_spec b a
  ⟨h.1, h.2.1.trans eq_comm, h.2.2⟩

theorem qsortM_full (v : Array α) (cmp : α → α → Int) :
    qsortM v v.size cmp = some ((v.toList.mergeSort fun x y => decide (cmp x y ≤ 0)).toArray) := by
  unfold qsortM
  have : (0 : Int) ≤ (v.size : Int) ∧ (v.size : Int).toNat ≤ v.size := by constructor <;> simp
  rw [if_pos this]
  simp

theorem gen_sortIncreasing (v : Array α) :
    ∃ w, esl_vec_ISortIncreasing v v.size = some w ∧ w.toList.Perm v.toList ∧ w.toList.Pairwise (· ≤ ·) := by
  unfold esl_vec_ISortIncreasing
  rw [qsortM_full]
  exact ⟨_, rfl, mergeSort_spec _ (fun a b => by rw [decide_eq_true_iff, ← not_lt, (cmp_incr_spec a b).2.2, not_lt]) v.toList⟩

theorem gen_sortDecreasing (v : Array α) :
    ∃ w, esl_vec_ISortDecreasing v v.size = some w ∧ w.toList.Perm v.toList ∧ w.toList.Pairwise (· ≥ ·) := by
  unfold esl_vec_ISortDecreasing
  rw [qsortM_full]
  exact ⟨_, rfl, mergeSort_spec (α := αᵒᵈ) _ (fun (a b : α) =>
    (by rw [decide_eq_true_iff, ← not_lt, (cmp_decr_spec a b).2.2, not_lt] : decide (qsort_IDecreasing a b ≤ 0) = true ↔ b ≤ a))
    v.toList⟩

theorem gen_max_spec (v : Array α) (h : v.size ≠ 0) : ∃ m, esl_vec_IMax v v.size = some m ∧ m ∈ v.toList ∧ ∀ x ∈ v.toList, x ≤ m := by
  rw [gen_max]; exact vmax_spec v.toList (by intro e; apply h; simpa using congrArg List.length e)
theorem gen_min_spec (v : Array α) (h : v.size ≠ 0) : ∃ m, esl_vec_IMin v v.size = some m ∧ m ∈ v.toList ∧ ∀ x ∈ v.toList, m ≤ x := by
  rw [gen_min]; exact vmin_spec v.toList (by intro e; apply h; simpa using congrArg List.length e)

/-- `ArgMax` / `ArgMin` on a linearly ordered element type: the FIRST index attaining the extremum (the `I`, `L`, `D`, `F` routines are one term) -/
theorem gen_argmax_first (v : Array α) (h : v.size ≠ 0) :
    ∃ (i : Nat) (m : α), esl_vec_IArgMax v v.size = some (i : Int) ∧ v.toList[i]? = some m ∧ (∀ x ∈ v.toList, x ≤ m) ∧
      (∀ (j : Nat) (y : α), j < i → v.toList[j]? = some y → y < m) := by
  obtain ⟨m, h1, h2, h3⟩ := argmax_spec v.toList (by intro e; apply h; simpa using congrArg List.length e)
  exact ⟨_, m, gen_argmax v, h1, h2, h3⟩
theorem gen_argmin_first (v : Array α) (h : v.size ≠ 0) :
    ∃ (i : Nat) (m : α), esl_vec_IArgMin v v.size = some (i : Int) ∧ v.toList[i]? = some m ∧ (∀ x ∈ v.toList, m ≤ x) ∧
      (∀ (j : Nat) (y : α), j < i → v.toList[j]? = some y → m < y) := by
  obtain ⟨m, h1, h2, h3⟩ := argmin_spec v.toList (by intro e; apply h; simpa using congrArg List.length e)
  exact ⟨_, m, gen_argmin v, h1, h2, h3⟩

/-! what the two clauses of `gen_argmax_first` say of a tie and of a strict winner; `ArgMin` is the case of the dual order -/
omit [CElem α] [LawfulVOrd α] in
theorem first_ne_tie (v : Array α) (k : Nat) (m : α) (hk : v.toList[k]? = some m)
    (hfirst : ∀ (j : Nat) (y : α), j < k → v.toList[j]? = some y → y < m) (i : Nat) (hik : i < k) (hkv : k < v.size) :
    v[i]'(Nat.lt_trans hik hkv) ≠ v[k] :=
  fun e => lt_irrefl m (hfirst i m hik (by
    rw [← hk, Array.getElem?_toList, Array.getElem?_toList, Array.getElem?_eq_getElem hkv,
      Array.getElem?_eq_getElem (Nat.lt_trans hik hkv), e]))

omit [CElem α] [LawfulVOrd α] in
theorem strict_is_bound (v : Array α) (i : Nat) (m : α) (hi : v.toList[i]? = some m) (hmax : ∀ x ∈ v.toList, x ≤ m) (k : Nat)
    (hk : k < v.size) (hs : ∀ j (hj : j < v.size), j ≠ k → v[j] < v[k]) : i = k := by
  by_contra c
  obtain ⟨hil, rfl⟩ := List.getElem?_eq_some_iff.mp hi
  exact lt_irrefl _ (lt_of_lt_of_le (hs i (Array.length_toList ▸ hil) c) (hmax v[k] (Array.getElem_mem_toList hk)))

end order

/-! ## the subtraction idiom `return x1 - x2;` (what the translator emits for it: `CWrap.toCInt (CWrap.wsub x1 x2)`)
    It is the difference of the values exactly inside a 2^31-wide window, and has the wrong sign / is zero outside it: a comparator
    written that way breaks `cmp_incr_spec`, and with it every `Sort*` theorem. -/
theorem sub_idiom_window_int (a b : Int32) (h : -2147483648 ≤ a.toInt - b.toInt ∧ a.toInt - b.toInt ≤ 2147483647) :
    CWrap.toCInt (CWrap.wsub a b) = a.toInt - b.toInt := by
  show (a - b).toInt = _
  rw [Int32.toInt_sub]
  simp only [Int.bmod_def]
  omega
theorem sub_idiom_window_int64 (a b : Int64) (h : -2147483648 ≤ a.toInt - b.toInt ∧ a.toInt - b.toInt ≤ 2147483647) :
    CWrap.toCInt (CWrap.wsub a b) = a.toInt - b.toInt := by
  show (a - b).toInt32.toInt = _
  have ha := a.toInt_lt; have hb := b.toInt_lt; have ha' := a.le_toInt; have hb' := b.le_toInt
  rw [Int64.toInt_toInt32, Int64.toInt_sub]
  simp only [Int.bmod_def]
  omega
theorem sub_idiom_wrong_int : ∃ a b : Int32, a < b ∧ 0 < CWrap.toCInt (CWrap.wsub a b) := ⟨-2000000000, 2000000000, by decide, by decide⟩
theorem sub_idiom_wrong_int64 : ∃ a b : Int64, a < b ∧ CWrap.toCInt (CWrap.wsub a b) = 0 := ⟨0, 4294967296, by decide, by decide⟩

/-- entries further apart than 2^31: the comparator is still right (the subtraction idiom `x1 - x2` is not) -/
example : qsort_IIncreasing (-2000000000 : Int32) (2000000000 : Int32) = -1 := by decide
example : qsort_LIncreasing (0 : Int64) (4294967296 : Int64) = -1 := by decide
example : qsort_LDecreasing (-9223372036854775808 : Int64) (9223372036854775807 : Int64) = 1 := by decide

end EaselModel.Vec
