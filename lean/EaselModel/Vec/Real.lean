import EaselModel.Vec.Model
import Mathlib.Data.Real.Basic
import Mathlib.Analysis.SpecialFunctions.Log.Base
import Mathlib.Algebra.BigOperators.Group.List.Basic
import Mathlib.Tactic.Ring
import Mathlib.Tactic.Linarith
import Mathlib.Tactic.FieldSimp
/-! # The vector routines as real functions (C20, part C; layers L1/L2 of DESIGN §3.4)

The SAME definitions that run bit-for-bit against the C code (`Vec/Model.lean`, `Float`/`Float32` instances) are here
instantiated at `ℝ` (and, for the order-only routines, at any linear order, e.g. `Int`) and proved to return their
definition for every vector. -/
namespace EaselModel.Vec
open VOrd VNum

/-- the order test of the instance is the order of the type -/
class LawfulVOrd (α : Type) [LinearOrder α] [VOrd α] : Prop where
  lt_iff : ∀ a b : α, VOrd.lt a b = true ↔ a < b

instance : LawfulVOrd Int := ⟨fun a b => by simp [VOrd.lt]⟩

noncomputable instance instVNumReal : VNum ℝ where
  lt a b := decide (a < b)
  add := (· + ·)
  sub := (· - ·)
  mul := (· * ·)
  div := (· / ·)
  ofNat n := (n : ℝ)
  eq a b := decide (a = b)
  log2 x := Real.logb 2 x
  uniform n := 1 / (n : ℝ)
  notProb x := decide (x < 0 ∨ x > 1)
  offOne s tol := decide (|s - 1| > tol)
  klAdd kl p q := kl + p * Real.logb 2 (p / q)

instance : LawfulVOrd ℝ := ⟨fun a b => by simp [VOrd.lt]⟩

@[simp] theorem r_ofNat (n : Nat) : (VNum.ofNat n : ℝ) = (n : ℝ) := rfl
@[simp] theorem r_lt (a b : ℝ) : VOrd.lt a b = decide (a < b) := rfl
@[simp] theorem r_eq (a b : ℝ) : VNum.eq a b = decide (a = b) := rfl
@[simp] theorem r_log2 (x : ℝ) : VNum.log2 x = Real.logb 2 x := rfl
@[simp] theorem r_uniform (n : Nat) : (VNum.uniform n : ℝ) = 1 / (n : ℝ) := rfl
theorem real_uniform (n : Nat) : (VNum.uniform n : ℝ) = VNum.ofNat 1 / VNum.ofNat n := by
  show (1 : ℝ) / (n : ℝ) = ((1 : ℕ) : ℝ) / (n : ℝ); simp
@[simp] theorem r_notProb (x : ℝ) : VNum.notProb x = decide (x < 0 ∨ x > 1) := rfl
@[simp] theorem r_offOne (s t : ℝ) : VNum.offOne s t = decide (|s - 1| > t) := rfl
@[simp] theorem r_klAdd (k p q : ℝ) : VNum.klAdd k p q = k + p * Real.logb 2 (p / q) := rfl

theorem kahan_fold (v : List ℝ) (s : ℝ) : v.foldl kahanStep (s, 0) = (s + v.sum, 0) := by
  induction v generalizing s with
  | nil => simp
  | cons x xs ih =>
    have h : kahanStep (s, (0 : ℝ)) x = (s + x, 0) := by
      simp only [kahanStep]; ext <;> simp
    rw [List.foldl_cons, h, ih, List.sum_cons]; ext <;> simp; ring

theorem sum_eq_real (v : List ℝ) : sum v = v.sum := by
  unfold sum
  have := kahan_fold v 0
  simp only [r_ofNat, Nat.cast_zero] at *
  rw [this]; simp

theorem foldl_add (v : List ℝ) (s : ℝ) : v.foldl (· + ·) s = s + v.sum := List.foldl_eq_apply_foldr

theorem dot_eq_real (v w : List ℝ) : dot v w = (List.zipWith (· * ·) v w).sum := by
  unfold dot; rw [foldl_add]; simp

theorem vmax_map {α β : Type} [VOrd α] [VOrd β] (f : β → α) (hf : ∀ a b, VOrd.lt (f a) (f b) = VOrd.lt a b) (l : List β) :
    vmax (l.map f) = (vmax l).map f := by
  cases l with
  | nil => rfl
  | cons b xs =>
    simp only [List.map_cons, vmax, Option.map_some]
    congr 1
    induction xs generalizing b with
    | nil => rfl
    | cons x xs ih => rw [List.map_cons, List.foldl_cons, List.foldl_cons, hf, ← ih]; split <;> rfl

section order
variable {α : Type} [LinearOrder α] [VOrd α] [LawfulVOrd α]

theorem lt_eq_decide (a b : α) : VOrd.lt a b = decide (a < b) := by
  rw [Bool.eq_iff_iff]; simp [LawfulVOrd.lt_iff]

/-! The scans for the maximum and for the minimum are one scan, `best := if better y best then y else best` with a test
    `better y b ↔ b < y`, read in the order of `α` and in its dual. -/
omit [VOrd α] [LawfulVOrd α] in
theorem foldl_best_spec (better : α → α → Bool) (hb : ∀ y b, better y b = true ↔ b < y) (xs : List α) (b : α) :
    let r := xs.foldl (fun best y => if better y best then y else best) b
    (r = b ∨ r ∈ xs) ∧ b ≤ r ∧ ∀ x ∈ xs, x ≤ r := by
  induction xs generalizing b with
  | nil => simp
  | cons x xs ih =>
    simp only [List.foldl_cons, List.mem_cons, forall_eq_or_imp]
    by_cases h : better x b = true
    · obtain ⟨h1, h2, h3⟩ := ih x
      rw [if_pos h]
      exact ⟨Or.inr h1, le_trans (le_of_lt ((hb x b).mp h)) h2, h2, h3⟩
    · obtain ⟨h1, h2, h3⟩ := ih b
      rw [if_neg h]
      exact ⟨h1.imp_right Or.inr, h2, le_trans (not_lt.mp (mt (hb x b).mpr h)) h2, h3⟩

omit [VOrd α] [LawfulVOrd α] in
theorem best_spec (better : α → α → Bool) (hb : ∀ y b, better y b = true ↔ b < y) (x : α) (xs : List α) :
    let r := xs.foldl (fun best y => if better y best then y else best) x
    r ∈ x :: xs ∧ ∀ y ∈ x :: xs, y ≤ r := by
  obtain ⟨h1, h2, h3⟩ := foldl_best_spec better hb xs x
  exact ⟨List.mem_cons.mpr h1, List.forall_mem_cons.mpr ⟨h2, h3⟩⟩

/-- `Max` returns an element of the vector that bounds every element -/
theorem vmax_spec (v : List α) (h : v ≠ []) : ∃ m, vmax v = some m ∧ m ∈ v ∧ ∀ x ∈ v, x ≤ m := by
  cases v with
  | nil => exact absurd rfl h
  | cons x xs => exact ⟨_, rfl, best_spec (fun y b => VOrd.lt b y) (fun y b => LawfulVOrd.lt_iff b y) x xs⟩

theorem vmin_spec (v : List α) (h : v ≠ []) : ∃ m, vmin v = some m ∧ m ∈ v ∧ ∀ x ∈ v, m ≤ x := by
  cases v with
  | nil => exact absurd rfl h
  | cons x xs => exact ⟨_, rfl, best_spec (α := αᵒᵈ) (@VOrd.lt α _) (fun y b => LawfulVOrd.lt_iff (α := α) y b) x xs⟩

omit [VOrd α] [LawfulVOrd α] in
theorem mergeSort_spec (le : α → α → Bool) (hle : ∀ a b, le a b = true ↔ a ≤ b) (v : List α) :
    (v.mergeSort le).Perm v ∧ (v.mergeSort le).Pairwise (· ≤ ·) :=
  ⟨List.mergeSort_perm _ _,
    (List.pairwise_mergeSort (fun a b c h1 h2 => (hle a c).mpr (le_trans ((hle a b).mp h1) ((hle b c).mp h2)))
      (fun a b => by rw [Bool.or_eq_true, hle, hle]; exact le_total a b) v).imp fun h => (hle _ _).mp h⟩

theorem sortIncreasing_spec (v : List α) : (sortIncreasing v).Perm v ∧ (sortIncreasing v).Pairwise (· ≤ ·) :=
  mergeSort_spec _ (fun a b => by rw [Bool.not_eq_true', lt_eq_decide, decide_eq_false_iff_not, not_lt]) v

theorem sortDecreasing_spec (v : List α) : (sortDecreasing v).Perm v ∧ (sortDecreasing v).Pairwise (· ≥ ·) :=
  mergeSort_spec (α := αᵒᵈ) _ (fun (a b : α) =>
    (by rw [Bool.not_eq_true', lt_eq_decide, decide_eq_false_iff_not, not_lt] : (!(VOrd.lt a b)) = true ↔ b ≤ a)) v

omit [LinearOrder α] [VOrd α] [LawfulVOrd α] in
theorem getElem?_snoc_cases (pre : List α) (x : α) (j : Nat) (y : α) (h : (pre ++ [x])[j]? = some y) :
    (j < pre.length ∧ pre[j]? = some y) ∨ (j = pre.length ∧ y = x) := by
  rcases Nat.lt_trichotomy j pre.length with hj | hj | hj
  · left; rw [List.getElem?_append_left hj] at h; exact ⟨hj, h⟩
  · right; subst hj; simp at h; exact ⟨rfl, h.symm⟩
  · exfalso
    have : (pre ++ [x]).length ≤ j := by simp; omega
    rw [List.getElem?_eq_none this] at h; cases h

omit [VOrd α] [LawfulVOrd α] in
/-- the invariant of the ArgMax/ArgMin scan over `pre ++ xs` after `pre`, for any test `better y b ↔ b < y`: `best` indexes `bv`,
    `bv` bounds `pre`, and strictly bounds what stands before `best` -/
theorem argStep_fold_spec (better : α → α → Bool) (hbt : ∀ y b, better y b = true ↔ b < y) (xs pre : List α) (best : Nat) (bv : α)
    (hb : pre[best]? = some bv) (hall : ∀ (j : Nat) (y : α), pre[j]? = some y → y ≤ bv)
    (hfirst : ∀ (j : Nat) (y : α), j < best → pre[j]? = some y → y < bv) :
    let s := xs.foldl (argStep better) (best, bv, pre.length)
    (pre ++ xs)[s.1]? = some s.2.1 ∧ (∀ (j : Nat) (y : α), (pre ++ xs)[j]? = some y → y ≤ s.2.1) ∧
      (∀ (j : Nat) (y : α), j < s.1 → (pre ++ xs)[j]? = some y → y < s.2.1) := by
  induction xs generalizing pre best bv with
  | nil => simpa using ⟨hb, hall, hfirst⟩
  | cons x xs ih =>
    have hbl : best < pre.length := by
      rcases Nat.lt_or_ge best pre.length with h | h
      · exact h
      · rw [List.getElem?_eq_none h] at hb; cases hb
    have happ : pre ++ x :: xs = (pre ++ [x]) ++ xs := by simp
    have hlen : (pre ++ [x]).length = pre.length + 1 := by simp
    rw [List.foldl_cons, argStep, happ, ← hlen]
    by_cases h : better x bv = true
    · rw [if_pos h]
      have h := (hbt x bv).mp h
      refine ih (pre ++ [x]) pre.length x (by simp) ?_ ?_
      · intro j y hj
        rcases getElem?_snoc_cases pre x j y hj with ⟨_, h2⟩ | ⟨_, h2⟩
        · exact le_of_lt (lt_of_le_of_lt (hall j y h2) h)
        · rw [h2]
      · intro j y hjl hj
        rcases getElem?_snoc_cases pre x j y hj with ⟨_, h2⟩ | ⟨h1, _⟩
        · exact lt_of_le_of_lt (hall j y h2) h
        · omega
    · rw [if_neg h]
      have h := mt (hbt x bv).mpr h
      refine ih (pre ++ [x]) best bv (by rw [List.getElem?_append_left hbl]; exact hb) ?_ ?_
      · intro j y hj
        rcases getElem?_snoc_cases pre x j y hj with ⟨_, h2⟩ | ⟨_, h2⟩
        · exact hall j y h2
        · rw [h2]; exact not_lt.mp h
      · intro j y hjl hj
        rcases getElem?_snoc_cases pre x j y hj with ⟨_, h2⟩ | ⟨h1, _⟩
        · exact hfirst j y hjl h2
        · omega

omit [VOrd α] [LawfulVOrd α] in
theorem argStep_spec (better : α → α → Bool) (hbt : ∀ y b, better y b = true ↔ b < y) (x : α) (xs : List α) :
    let s := xs.foldl (argStep better) (0, x, 1)
    (x :: xs)[s.1]? = some s.2.1 ∧ (∀ y ∈ x :: xs, y ≤ s.2.1) ∧
      ∀ (j : Nat) (y : α), j < s.1 → (x :: xs)[j]? = some y → y < s.2.1 := by
  obtain ⟨h1, h2, h3⟩ := argStep_fold_spec better hbt xs [x] 0 x rfl
    (fun j y hj => by
      cases j with
      | zero => exact le_of_eq (Option.some.inj hj).symm
      | succ k => simp at hj)
    (fun j y hj => absurd hj (Nat.not_lt_zero j))
  exact ⟨h1, fun y hy => (List.getElem?_of_mem hy).elim fun j hj => h2 j y hj, h3⟩

theorem argmax_spec (v : List α) (h : v ≠ []) :
    ∃ m, v[argmax v]? = some m ∧ (∀ x ∈ v, x ≤ m) ∧ (∀ (j : Nat) (y : α), j < argmax v → v[j]? = some y → y < m) := by
  cases v with
  | nil => exact absurd rfl h
  | cons x xs => exact ⟨_, argStep_spec (fun y b => VOrd.lt b y) (fun y b => LawfulVOrd.lt_iff b y) x xs⟩

theorem argmax_nil : argmax ([] : List α) = 0 := rfl

theorem argmin_spec (v : List α) (h : v ≠ []) :
    ∃ m, v[argmin v]? = some m ∧ (∀ x ∈ v, m ≤ x) ∧ (∀ (j : Nat) (y : α), j < argmin v → v[j]? = some y → m < y) := by
  cases v with
  | nil => exact absurd rfl h
  | cons x xs => exact ⟨_, argStep_spec (α := αᵒᵈ) (@VOrd.lt α _) (fun y b => LawfulVOrd.lt_iff (α := α) y b) x xs⟩

end order

theorem sum_map_div (v : List ℝ) (s : ℝ) : (v.map (· / s)).sum = v.sum / s := by
  induction v with
  | nil => simp
  | cons x xs ih => simp only [List.map_cons, List.sum_cons, ih]; ring

/-- `Norm`: when the sum is non-zero every element is divided by it and the result sums to 1 -/
theorem norm_of_sum_ne_zero (v : List ℝ) (h : v.sum ≠ 0) : norm v = v.map (· / v.sum) ∧ (norm v).sum = 1 := by
  have e : norm v = v.map (· / v.sum) := by
    unfold norm
    simp only [sum_eq_real, r_eq, r_ofNat, Nat.cast_zero, h, decide_false, Bool.not_false, ↓reduceIte]
  refine ⟨e, ?_⟩
  rw [e, sum_map_div, div_self h]

/-- `Norm`: when the sum is zero every element is set to `1/n` (and for `n ≥ 1` the result sums to 1) -/
theorem norm_of_sum_zero (v : List ℝ) (h : v.sum = 0) :
    norm v = List.replicate v.length (1 / (v.length : ℝ)) ∧ (v ≠ [] → (norm v).sum = 1) := by
  have e : norm v = List.replicate v.length (1 / (v.length : ℝ)) := by
    unfold norm
    simp only [sum_eq_real, r_eq, r_ofNat, Nat.cast_zero, h, decide_true, Bool.not_true, Bool.false_eq_true, ↓reduceIte, r_uniform]
    exact List.map_const' ..
  refine ⟨e, fun hne => ?_⟩
  rw [e, List.sum_replicate, nsmul_eq_mul]
  have : (v.length : ℝ) ≠ 0 := by
    have : v.length ≠ 0 := fun h0 => hne (List.length_eq_zero_iff.mp h0)
    exact_mod_cast this
  field_simp

/-- `Entropy` = `-Σ_{p_i > 0} p_i log2 p_i` -/
theorem entropy_fold (p : List ℝ) (H : ℝ) :
    p.foldl (fun H x => if VOrd.lt (VNum.ofNat 0) x then H - x * VNum.log2 x else H) H
      = H + (p.map fun x => if 0 < x then -(x * Real.logb 2 x) else 0).sum := by
  induction p generalizing H with
  | nil => simp
  | cons x xs ih =>
    rw [List.foldl_cons, ih]
    by_cases h : (0 : ℝ) < x <;> simp [h] <;> ring

theorem entropy_eq (p : List ℝ) : entropy p = (p.map fun x => if 0 < x then -(x * Real.logb 2 x) else 0).sum := by
  unfold entropy; rw [entropy_fold]; simp

/-- `CDF`: element `i` is the sum of the first `i+1` probabilities -/
theorem cdf_fold (xs : List ℝ) (acc : List ℝ) (c : ℝ) :
    (xs.foldl (fun (a : List ℝ × ℝ) y => let c := y + a.2; (c :: a.1, c)) (acc, c)).1.reverse
      = acc.reverse ++ (List.range xs.length).map (fun i => c + (xs.take (i + 1)).sum) := by
  induction xs generalizing acc c with
  | nil => simp
  | cons x xs ih =>
    rw [List.foldl_cons]
    simp only []
    rw [ih]
    simp only [List.reverse_cons, List.append_assoc, List.singleton_append, List.length_cons, List.range_succ_eq_map,
      List.map_cons, List.map_map, List.take_succ_cons, List.sum_cons]
    congr 1
    simp only [List.take_zero, List.sum_nil, add_zero, List.cons.injEq]
    refine ⟨by ring, ?_⟩
    apply List.map_congr_left
    intro i _
    simp only [Function.comp]
    ring

theorem cdf_spec (v : List ℝ) (h : v ≠ []) :
    cdf v = some ((List.range v.length).map fun i => (v.take (i + 1)).sum) := by
  cases v with
  | nil => exact absurd rfl h
  | cons x xs =>
    show some _ = _
    rw [cdf_fold]
    simp only [List.reverse_cons, List.reverse_nil, List.nil_append, List.singleton_append, List.length_cons,
      List.range_succ_eq_map, List.map_cons, List.map_map, List.take_succ_cons, List.sum_cons, List.take_zero, List.sum_nil, add_zero]
    rfl

/-- `Validate`: `eslOK` exactly for vectors of numbers in [0,1] whose sum is within `tol` of 1 -/
theorem validateGo_spec (tol : ℝ) (xs : List ℝ) (s : ℝ) :
    validateGo tol xs s = true ↔ (∀ x ∈ xs, 0 ≤ x ∧ x ≤ 1) ∧ |s + xs.sum - 1| ≤ tol := by
  induction xs generalizing s with
  | nil => simp [validateGo]
  | cons x xs ih =>
    unfold validateGo
    by_cases hx : x < 0 ∨ x > 1
    · simp only [r_notProb, hx, decide_true, ↓reduceIte, Bool.false_eq_true, List.mem_cons, forall_eq_or_imp, false_iff, not_and]
      intro h; exfalso
      rcases hx with hx | hx <;> linarith [h.1.1, h.1.2]
    · simp only [r_notProb, hx, decide_false, Bool.false_eq_true, ↓reduceIte, ih, List.mem_cons, forall_eq_or_imp, List.sum_cons]
      have : 0 ≤ x ∧ x ≤ 1 := by
        constructor
        · by_contra hh; exact hx (Or.inl (not_le.mp hh))
        · by_contra hh; exact hx (Or.inr (not_le.mp hh))
      have e : s + x + xs.sum = s + (x + xs.sum) := by ring
      simp only [this, true_and, e]

theorem validate_spec (v : List ℝ) (tol : ℝ) (h : v ≠ []) :
    validate v tol = true ↔ (∀ x ∈ v, 0 ≤ x ∧ x ≤ 1) ∧ |v.sum - 1| ≤ tol := by
  unfold validate
  have : v.isEmpty = false := by cases v <;> simp at h ⊢
  simp only [this, Bool.false_eq_true, ↓reduceIte, validateGo_spec, r_ofNat, Nat.cast_zero, zero_add]

theorem validate_nil (tol : ℝ) : validate ([] : List ℝ) tol = true := rfl

/-- the terms `p_i log2 (p_i / q_i)` over the positions with `p_i > 0` -/
noncomputable def klTerms (p q : List ℝ) : List ℝ :=
  (List.zip p q).map fun ab => if 0 < ab.1 then ab.1 * Real.logb 2 (ab.1 / ab.2) else 0

theorem relEntropyGo_spec (p q : List ℝ) (kl : ℝ) :
    relEntropyGo p q kl =
      if (∃ ab ∈ List.zip p q, 0 < ab.1 ∧ ab.2 = 0) then none else some (kl + (klTerms p q).sum) := by
  induction p generalizing q kl with
  | nil => simp [relEntropyGo, klTerms]
  | cons a ps ih =>
    cases q with
    | nil => simp [relEntropyGo, klTerms]
    | cons b qs =>
      unfold relEntropyGo
      simp only [r_lt, r_ofNat, Nat.cast_zero, r_eq, r_klAdd, decide_eq_true_eq, List.zip_cons_cons, List.mem_cons, exists_eq_or_imp]
      by_cases ha : 0 < a
      · by_cases hb : b = 0
        · simp [ha, hb]
        · simp only [ha, ↓reduceIte, hb, false_and, false_or, true_and, ih]
          by_cases hex : ∃ ab ∈ List.zip ps qs, 0 < ab.1 ∧ ab.2 = 0
          · simp [hex]
          · simp only [hex, ↓reduceIte, klTerms, List.zip_cons_cons, List.map_cons, List.sum_cons, ha]
            congr 1; ring
      · simp only [ha, ↓reduceIte, false_and, false_or, ih]
        by_cases hex : ∃ ab ∈ List.zip ps qs, 0 < ab.1 ∧ ab.2 = 0
        · simp [hex]
        · simp only [hex, ↓reduceIte, klTerms, List.zip_cons_cons, List.map_cons, List.sum_cons, ha]
          congr 1; ring

/-! ### integer sums (no wrap-around: the C `int` overflow is undefined behaviour, the generators stay in range) -/
theorem isum_eq (v : List Int) : isum v = v.sum := List.foldl_eq_apply_foldr.trans (Int.zero_add _)

theorem idot_eq (v w : List Int) : idot v w = (List.zipWith (· * ·) v w).sum := List.foldl_eq_apply_foldr.trans (Int.zero_add _)

theorem scale_eq (v : List ℝ) (s : ℝ) : scale v s = v.map (· * s) := rfl
theorem increment_eq (v : List ℝ) (x : ℝ) : increment v x = v.map (· + x) := rfl
theorem add_eq (v w : List ℝ) : add v w = List.zipWith (· + ·) v w := rfl
theorem addScaled_eq (v w : List ℝ) (a : ℝ) : addScaled v w a = List.zipWith (fun x y => x + y * a) v w := rfl
theorem reverse_eq {α : Type} (v : List α) : reverse v = v.reverse := rfl

end EaselModel.Vec
