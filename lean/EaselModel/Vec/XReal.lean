import EaselModel.Vec.Real
import Mathlib.Analysis.SpecialFunctions.Log.Basic
import Mathlib.Analysis.SpecialFunctions.Pow.Real
import Mathlib.Order.WithBot
/-! # Log-space routines over the extended reals (C20, part C)

`LogSum`, `LogNorm` take log-probabilities, where `-∞` (= probability 0) is an ordinary input and `+∞`, NaN can arise.
`XR` is the reals with `-∞`, `+∞` and one NaN, with IEEE-754-like total operations; it instantiates the SAME model
functions of `Vec/Model.lean` that run against the C code at `Float`. -/
namespace EaselModel.Vec

inductive XR where
  | nan | ninf | fin (x : ℝ) | pinf

namespace XR
open Classical in
noncomputable def add : XR → XR → XR
  | fin a, fin b => fin (a + b)
  | ninf, ninf => ninf | ninf, fin _ => ninf | fin _, ninf => ninf
  | pinf, pinf => pinf | pinf, fin _ => pinf | fin _, pinf => pinf
  | _, _ => nan
def neg : XR → XR
  | fin a => fin (-a) | ninf => pinf | pinf => ninf | nan => nan
noncomputable def sub (a b : XR) : XR := add a (neg b)
open Classical in
noncomputable def mul : XR → XR → XR
  | fin a, fin b => fin (a * b)
  | fin a, pinf => if 0 < a then pinf else if a < 0 then ninf else nan
  | fin a, ninf => if 0 < a then ninf else if a < 0 then pinf else nan
  | pinf, fin a => if 0 < a then pinf else if a < 0 then ninf else nan
  | ninf, fin a => if 0 < a then ninf else if a < 0 then pinf else nan
  | pinf, pinf => pinf | ninf, ninf => pinf | pinf, ninf => ninf | ninf, pinf => ninf
  | _, _ => nan
open Classical in
noncomputable def div : XR → XR → XR
  | fin a, fin b => if b = 0 then (if 0 < a then pinf else if a < 0 then ninf else nan) else fin (a / b)
  | fin _, pinf => fin 0 | fin _, ninf => fin 0
  | _, _ => nan
open Classical in
noncomputable def lt : XR → XR → Bool
  | fin a, fin b => decide (a < b)
  | ninf, fin _ => true | ninf, pinf => true | fin _, pinf => true
  | _, _ => false
open Classical in
noncomputable def eq : XR → XR → Bool
  | fin a, fin b => decide (a = b) | pinf, pinf => true | ninf, ninf => true | _, _ => false
noncomputable def exp : XR → XR
  | fin a => fin (Real.exp a) | ninf => fin 0 | pinf => pinf | nan => nan
open Classical in
noncomputable def log : XR → XR
  | fin a => if 0 < a then fin (Real.log a) else if a = 0 then ninf else nan
  | pinf => pinf | _ => nan
noncomputable def exp2 : XR → XR
  | fin a => fin ((2 : ℝ) ^ a) | ninf => fin 0 | pinf => pinf | nan => nan
open Classical in
noncomputable def log2 : XR → XR
  | fin a => if 0 < a then fin (Real.logb 2 a) else if a = 0 then ninf else nan
  | pinf => pinf | _ => nan
end XR

/-- the window constant of `LogSum` (500 in the double routines, 50 in the float ones) -/
class Window where
  W : ℝ
  pos : 0 < W

open Classical in
/-- the extended-real instance, for a given window constant -/
noncomputable instance instVInfXR [Window] : VInf XR where
  lt := XR.lt
  add := XR.add
  sub := XR.sub
  mul := XR.mul
  div := XR.div
  ofNat n := XR.fin n
  eq := XR.eq
  log2 := XR.log2
  uniform n := XR.div (XR.fin 1) (XR.fin n)
  notProb x := match x with | XR.fin a => decide (a < 0 ∨ a > 1) | _ => true
  offOne s tol := match s, tol with | XR.fin a, XR.fin t => decide (|a - 1| > t) | XR.nan, _ => false | _, XR.nan => false | _, _ => true
  klAdd kl p q := XR.add kl (XR.mul p (XR.log2 (XR.div p q)))
  inf := XR.pinf
  neg := XR.neg
  exp := XR.exp
  log := XR.log
  exp2 := XR.exp2
  inWindow m x := XR.lt (XR.sub m (XR.fin Window.W)) x

section window
variable [Window]
local notation "W" => Window.W

/-- the two hypotheses of the generated `LogSum` / `LogNorm` routines at the extended-real instance, for any window constant -/
theorem xr_uniform (n : Nat) : (VNum.uniform n : XR) = VNum.ofNat 1 / VNum.ofNat n := by
  show XR.div (XR.fin 1) (XR.fin n) = XR.div (XR.fin ((1 : ℕ) : ℝ)) (XR.fin (n : ℝ)); simp
theorem xr_window (k : Nat) (hk : W = k) (m x : XR) : VInf.inWindow m x = VOrd.lt (m - VNum.ofNat k) x := by
  show XR.lt (XR.sub m (XR.fin W)) x = XR.lt (XR.sub m (XR.fin ((k : ℕ) : ℝ))) x; rw [hk]

/-- a log-probability: `-∞` or a real -/
def XR.isLogP : XR → Prop
  | XR.ninf => True | XR.fin _ => True | _ => False

/-- the finite entries of a vector -/
def finites : List XR → List ℝ
  | [] => []
  | XR.fin a :: xs => a :: finites xs
  | _ :: xs => finites xs

@[simp] theorem x_lt (a b : XR) : VOrd.lt a b = XR.lt a b := rfl
@[simp] theorem x_eq (a b : XR) : VNum.eq a b = XR.eq a b := rfl
@[simp] theorem x_ofNat (n : Nat) : (VNum.ofNat n : XR) = XR.fin n := rfl
@[simp] theorem x_inf : (VInf.inf : XR) = XR.pinf := rfl
@[simp] theorem x_exp (a : XR) : VInf.exp a = XR.exp a := rfl
@[simp] theorem x_log (a : XR) : VInf.log a = XR.log a := rfl
@[simp] theorem x_inWindow (m x : XR) : VInf.inWindow m x = XR.lt (XR.sub m (XR.fin W)) x := rfl
@[simp] theorem x_add (a b : XR) : a + b = XR.add a b := rfl
@[simp] theorem x_sub (a b : XR) : a - b = XR.sub a b := rfl

@[simp] theorem lt_nn : XR.lt XR.ninf XR.ninf = false := rfl
@[simp] theorem lt_nf (a : ℝ) : XR.lt XR.ninf (XR.fin a) = true := rfl
@[simp] theorem lt_fn (a : ℝ) : XR.lt (XR.fin a) XR.ninf = false := rfl
@[simp] theorem lt_ff (a b : ℝ) : XR.lt (XR.fin a) (XR.fin b) = decide (a < b) := rfl

/-- log-probabilities are the linear order `⊥ < reals`, embedded in `XR` -/
def XR.ofLogP : WithBot ℝ → XR := WithBot.recBotCoe XR.ninf XR.fin
omit [Window] in
@[simp] theorem ofLogP_bot : XR.ofLogP ⊥ = XR.ninf := rfl
omit [Window] in
@[simp] theorem ofLogP_coe (a : ℝ) : XR.ofLogP a = XR.fin a := rfl

open Classical in
noncomputable instance : VOrd (WithBot ℝ) := ⟨fun a b => decide (a < b)⟩
instance : LawfulVOrd (WithBot ℝ) := ⟨fun a b => by simp [VOrd.lt]⟩

/-- the order test of `XR` on log-probabilities is the order of `WithBot ℝ` -/
theorem lt_ofLogP (a b : WithBot ℝ) : VOrd.lt (XR.ofLogP a) (XR.ofLogP b) = VOrd.lt a b := by
  induction a using WithBot.recBotCoe with
  | bot =>
    induction b using WithBot.recBotCoe with
    | bot => exact (decide_eq_false (lt_irrefl ⊥)).symm             -- `-∞ < -∞`: no
    | coe b => exact (decide_eq_true (WithBot.bot_lt_coe b)).symm    -- `-∞ < b`: yes
  | coe a =>
    induction b using WithBot.recBotCoe with
    | bot => exact (decide_eq_false not_lt_bot).symm                -- `a < -∞`: no
    | coe b => exact decide_eq_decide.mpr WithBot.coe_lt_coe.symm    -- `a < b` as in ℝ

omit [Window] in
theorem exists_ofLogP (v : List XR) (hv : ∀ x ∈ v, x.isLogP) : ∃ l : List (WithBot ℝ), v = l.map XR.ofLogP := by
  induction v with
  | nil => exact ⟨[], rfl⟩
  | cons x xs ih =>
    obtain ⟨l, hl⟩ := ih fun y hy => hv y (List.mem_cons_of_mem _ hy)
    have hx := hv x List.mem_cons_self
    cases x with
    | ninf => exact ⟨⊥ :: l, by rw [hl]; rfl⟩
    | fin a => exact ⟨(a : WithBot ℝ) :: l, by rw [hl]; rfl⟩
    | nan => exact absurd hx (by simp [XR.isLogP])
    | pinf => exact absurd hx (by simp [XR.isLogP])

omit [Window] in
theorem mem_finites (l : List (WithBot ℝ)) (a : ℝ) : a ∈ finites (l.map XR.ofLogP) ↔ (a : WithBot ℝ) ∈ l := by
  induction l with
  | nil => simp [finites]
  | cons x xs ih => induction x using WithBot.recBotCoe <;> simp [finites, ih]

/-- `Max` on a non-empty vector of log-probabilities: `-∞` if every entry is `-∞`, else the largest finite entry -/
theorem vmax_logp (v : List XR) (hne : v ≠ []) (hv : ∀ x ∈ v, x.isLogP) :
    (vmax v = some XR.ninf ∧ finites v = []) ∨
    (∃ M, vmax v = some (XR.fin M) ∧ M ∈ finites v ∧ ∀ a ∈ finites v, a ≤ M) := by
  obtain ⟨l, rfl⟩ := exists_ofLogP v hv
  obtain ⟨m, hm, hmem, hle⟩ := vmax_spec l (by rintro rfl; exact hne rfl)
  rw [vmax_map XR.ofLogP lt_ofLogP, hm]
  induction m using WithBot.recBotCoe with
  | bot => exact Or.inl ⟨rfl, List.eq_nil_iff_forall_not_mem.mpr fun a ha => by simpa using hle _ ((mem_finites l a).mp ha)⟩
  | coe M => exact Or.inr ⟨M, rfl, (mem_finites l M).mpr hmem, fun a ha => by simpa using hle _ ((mem_finites l a).mp ha)⟩

theorem finites_length_le (v : List XR) : (finites v).length ≤ v.length := by
  induction v with
  | nil => simp [finites]
  | cons x xs ih => cases x <;> simp [finites] <;> omega

/-! ### LogSum and Log2Sum

Both routines shift by the maximum `M`, add `E (x - M)` over the entries within `W` of `M`, and return `L sum + M`, with
`E = exp`, `L = log` or `E = 2^·`, `L = log₂`.  What the proofs use of `E` is collected in `Expo E c` (`log ∘ E = c · id`). -/
structure Expo (E : ℝ → ℝ) (c : ℝ) : Prop where
  pos : ∀ t, 0 < E t
  zero : E 0 = 1
  add : ∀ a b, E (a + b) = E a * E b
  mono : ∀ {a b}, a ≤ b → E a ≤ E b
  log : ∀ t, Real.log (E t) = c * t
  c_pos : 0 < c

theorem expo_exp : Expo Real.exp 1 :=
  ⟨Real.exp_pos, Real.exp_zero, Real.exp_add, Real.exp_le_exp.mpr, fun t => by rw [Real.log_exp, one_mul], one_pos⟩

theorem expo_two : Expo (fun t => (2 : ℝ) ^ t) (Real.log 2) :=
  ⟨Real.rpow_pos_of_pos two_pos, Real.rpow_zero 2, Real.rpow_add two_pos,
    Real.rpow_le_rpow_of_exponent_le one_le_two, fun t => by rw [Real.log_rpow two_pos, mul_comm], Real.log_pos one_lt_two⟩

/-- the sum the code forms: terms within `W` log units of the maximum, shifted by the maximum -/
noncomputable def keptSum (E : ℝ → ℝ) (M : ℝ) (l : List ℝ) : ℝ := ((l.filter fun a => decide (M - W < a)).map fun a => E (a - M)).sum
noncomputable def shiftedSum (E : ℝ → ℝ) (M : ℝ) (l : List ℝ) : ℝ := (l.map fun a => E (a - M)).sum

theorem window_fold (E : ℝ → ℝ) (ex : XR → XR) (hex : ∀ a, ex (XR.fin a) = XR.fin (E a))
    (M : ℝ) (xs : List XR) (hxs : ∀ x ∈ xs, x.isLogP) (c : ℝ) :
    xs.foldl (fun s x => if VInf.inWindow (XR.fin M) x then s + ex (x - XR.fin M) else s) (XR.fin c)
      = XR.fin (c + keptSum E M (finites xs)) := by
  induction xs generalizing c with
  | nil => simp [keptSum, finites]
  | cons x xs ih =>
    have hx : x.isLogP := hxs x List.mem_cons_self
    have hxs' : ∀ y ∈ xs, y.isLogP := fun y hy => hxs y (List.mem_cons_of_mem _ hy)
    rw [List.foldl_cons]
    cases x with
    | nan => exact absurd hx (by simp [XR.isLogP])
    | pinf => exact absurd hx (by simp [XR.isLogP])
    | ninf =>
      have : VInf.inWindow (XR.fin M) XR.ninf = false := rfl
      simp only [this, Bool.false_eq_true, ↓reduceIte]
      rw [ih hxs' c]; simp [finites]
    | fin a =>
      have e1 : VInf.inWindow (XR.fin M) (XR.fin a) = decide (M + -W < a) := rfl
      have e2 : (XR.fin c + ex (XR.fin a - XR.fin M)) = XR.fin (c + E (a - M)) := by
        rw [show (XR.fin a - XR.fin M : XR) = XR.fin (a - M) from rfl, hex]; rfl
      rw [e1, e2, ← sub_eq_add_neg]
      by_cases h : M - W < a
      · simp only [h, decide_true, ↓reduceIte, ih hxs', finites, keptSum, List.filter_cons, List.map_cons, List.sum_cons,
          add_assoc]
      · simp only [h, decide_false, Bool.false_eq_true, ↓reduceIte, ih hxs', finites, keptSum, List.filter_cons]

section expo
variable {E : ℝ → ℝ} {c : ℝ} (hE : Expo E c)
include hE

theorem keptSum_nonneg (M : ℝ) (l : List ℝ) : 0 ≤ keptSum E M l :=
  List.sum_nonneg fun x hx => by
    obtain ⟨a, _, rfl⟩ := List.mem_map.mp hx
    exact le_of_lt (hE.pos _)

theorem keptSum_ge_one (M : ℝ) (l : List ℝ) (h : M ∈ l) : 1 ≤ keptSum E M l := by
  induction l with
  | nil => cases h
  | cons a l ih =>
    have h0 := keptSum_nonneg hE M l
    unfold keptSum at h0 ih ⊢
    rcases List.mem_cons.mp h with e | e
    · subst e
      have : M - W < M := by linarith [Window.pos]
      simp only [List.filter_cons, this, decide_true, ↓reduceIte, List.map_cons, List.sum_cons, sub_self, hE.zero]
      linarith
    · by_cases hh : M - W < a
      · simp only [List.filter_cons, hh, decide_true, ↓reduceIte, List.map_cons, List.sum_cons]
        linarith [ih e, hE.pos (a - M)]
      · simp only [List.filter_cons, hh, decide_false, Bool.false_eq_true, ↓reduceIte]; exact ih e

theorem shifted_bounds (M : ℝ) (l : List ℝ) :
    keptSum E M l ≤ shiftedSum E M l ∧ shiftedSum E M l ≤ keptSum E M l + l.length * E (-W) := by
  induction l with
  | nil => simp [keptSum, shiftedSum]
  | cons a l ih =>
    obtain ⟨h1, h2⟩ := ih
    unfold keptSum shiftedSum at *
    have hW := hE.pos (-W)
    have hpos := hE.pos (a - M)
    simp only [List.filter_cons, List.map_cons, List.sum_cons, List.length_cons, Nat.cast_add, Nat.cast_one]
    by_cases hh : M - W < a
    · simp only [hh, decide_true, ↓reduceIte, List.map_cons, List.sum_cons]
      constructor <;> linarith
    · simp only [hh, decide_false, Bool.false_eq_true, ↓reduceIte]
      have hle : E (a - M) ≤ E (-W) := hE.mono (by linarith [not_lt.mp hh])
      constructor <;> linarith

theorem sum_shift (M : ℝ) (l : List ℝ) : (l.map E).sum = E M * shiftedSum E M l := by
  unfold shiftedSum
  induction l with
  | nil => simp
  | cons a l ih => simp only [List.map_cons, List.sum_cons, ih, mul_add, ← hE.add, add_sub_cancel]

theorem logsum_bound (M : ℝ) (v : List XR) (hM : M ∈ finites v) :
    0 < keptSum E M (finites v) ∧
      |Real.log (keptSum E M (finites v)) / c + M - Real.log ((finites v).map E).sum / c| ≤ v.length * E (-W) / c := by
  have hk1 := keptSum_ge_one hE M (finites v) hM
  have hkpos : 0 < keptSum E M (finites v) := by linarith
  obtain ⟨hb1, hb2⟩ := shifted_bounds hE M (finites v)
  have hSpos : 0 < shiftedSum E M (finites v) := by linarith
  have hW := hE.pos (-W)
  have hnn : 0 ≤ ((finites v).length : ℝ) * E (-W) := mul_nonneg (Nat.cast_nonneg _) (le_of_lt hW)
  have hlen : ((finites v).length : ℝ) * E (-W) ≤ v.length * E (-W) :=
    mul_le_mul_of_nonneg_right (by exact_mod_cast finites_length_le v) (le_of_lt hW)
  -- log S - log K = log (S/K) ≤ S/K - 1 ≤ n·E(-W), as K ≥ 1
  have hq : shiftedSum E M (finites v) / keptSum E M (finites v) ≤ 1 + (finites v).length * E (-W) := by
    rw [div_le_iff₀ hkpos]
    linarith [mul_le_mul_of_nonneg_left hk1 hnn]
  have hlog := Real.log_le_sub_one_of_pos (div_pos hSpos hkpos)
  rw [Real.log_div (ne_of_gt hSpos) (ne_of_gt hkpos)] at hlog
  have hlog_le := Real.log_le_log hkpos hb1
  refine ⟨hkpos, ?_⟩
  rw [sum_shift hE M, Real.log_mul (ne_of_gt (hE.pos M)) (ne_of_gt hSpos), hE.log,
    show Real.log (keptSum E M (finites v)) / c + M - (c * M + Real.log (shiftedSum E M (finites v))) / c
      = -((Real.log (shiftedSum E M (finites v)) - Real.log (keptSum E M (finites v))) / c) by
        field_simp [ne_of_gt hE.c_pos]; ring,
    abs_neg, abs_of_nonneg (div_nonneg (by linarith) (le_of_lt hE.c_pos))]
  exact div_le_div_of_nonneg_right (by linarith) (le_of_lt hE.c_pos)

end expo

theorem logSum_all_ninf (v : List XR) (hne : v ≠ []) (hv : ∀ x ∈ v, x = XR.ninf) : logSum v = some XR.ninf := by
  have hv' : ∀ x ∈ v, x.isLogP := fun x hx => by rw [hv x hx]; trivial
  have hfin : finites v = [] := by
    clear hne hv'
    induction v with
    | nil => rfl
    | cons x xs ih =>
      have := hv x List.mem_cons_self
      subst this
      simpa [finites] using ih (fun y hy => hv y (List.mem_cons_of_mem _ hy))
  rcases vmax_logp v hne hv' with ⟨h1, _⟩ | ⟨M, _, h2, _⟩
  · unfold logSum
    rw [h1]
    have hfold : ∀ (xs : List XR), (∀ x ∈ xs, x = XR.ninf) → ∀ acc : XR,
        xs.foldl (fun s x => if VInf.inWindow XR.ninf x then s + VInf.exp (x - XR.ninf) else s) acc = acc := by
      intro xs
      induction xs with
      | nil => intros; rfl
      | cons x xs ih =>
        intro h acc
        have := h x List.mem_cons_self
        subst this
        rw [List.foldl_cons]
        have e : VInf.inWindow XR.ninf XR.ninf = false := rfl
        simp only [e, Bool.false_eq_true, ↓reduceIte]
        exact ih (fun y hy => h y (List.mem_cons_of_mem _ hy)) acc
    simp only [x_eq, x_inf, hfold v hv]
    have e1 : XR.eq XR.ninf XR.pinf = false := rfl
    simp only [e1, Bool.false_eq_true, ↓reduceIte, x_ofNat, x_log, x_add]
    have e2 : XR.log (XR.fin ((0 : Nat) : ℝ)) = XR.ninf := by simp [XR.log]
    rw [e2]; rfl
  · rw [hfin] at h2; cases h2

/-- `LogSum` on log-probabilities with at least one finite entry: a real number within `n·e^{-W}` of `log Σ exp` taken over
    the finite entries (`-∞` entries contribute probability 0) -/
theorem logSum_spec (v : List XR) (hv : ∀ x ∈ v, x.isLogP) (hfin : finites v ≠ []) :
    ∃ r : ℝ, logSum v = some (XR.fin r) ∧
      |r - Real.log ((finites v).map Real.exp).sum| ≤ v.length * Real.exp (-W) := by
  have hne : v ≠ [] := by rintro rfl; exact hfin rfl
  rcases vmax_logp v hne hv with ⟨_, h2⟩ | ⟨M, h1, h2, h3⟩
  · exact absurd h2 hfin
  · obtain ⟨hkpos, hb⟩ := logsum_bound expo_exp M v h2
    simp only [div_one] at hb
    refine ⟨Real.log (keptSum Real.exp M (finites v)) + M, ?_, hb⟩
    unfold logSum
    rw [h1]
    have e1 : VNum.eq (XR.fin M) (VInf.inf : XR) = false := rfl
    simp only [e1, Bool.false_eq_true, ↓reduceIte, x_ofNat]
    rw [window_fold Real.exp VInf.exp (fun _ => rfl) M v hv]
    simp only [Nat.cast_zero, zero_add, x_log, x_add]
    rw [show XR.log (XR.fin (keptSum Real.exp M (finites v))) = XR.fin (Real.log (keptSum Real.exp M (finites v))) by
      simp [XR.log, hkpos]]
    rfl

theorem logSum_of_max_pinf (v : List XR) (h : vmax v = some XR.pinf) : logSum v = some XR.pinf := by
  unfold logSum; rw [h]; rfl

@[simp] theorem x_mul (a b : XR) : a * b = XR.mul a b := rfl
@[simp] theorem x_div (a b : XR) : a / b = XR.div a b := rfl
@[simp] theorem x_neg (a : XR) : VInf.neg a = XR.neg a := rfl

theorem kahan_fold_fin (l : List ℝ) (s : ℝ) :
    (l.map XR.fin).foldl kahanStep (XR.fin s, XR.fin 0) = (XR.fin (s + l.sum), XR.fin 0) := by
  induction l generalizing s with
  | nil => simp
  | cons x xs ih =>
    have h : kahanStep (XR.fin s, XR.fin 0) (XR.fin x) = (XR.fin (s + x), XR.fin 0) := by
      simp only [kahanStep, x_sub, x_add, XR.sub, XR.neg, XR.add]
      ext
      · simp
      · simp only [XR.fin.injEq]; ring
    rw [List.map_cons, List.foldl_cons, h, ih, List.sum_cons]; simp only [Prod.mk.injEq, XR.fin.injEq, and_true]; ring

theorem sum_fin (l : List ℝ) : sum (l.map XR.fin) = XR.fin l.sum := by
  unfold sum
  have := kahan_fold_fin l 0
  simp only [x_ofNat, Nat.cast_zero] at *
  rw [this]; simp

theorem norm_fin (l : List ℝ) (h : l.sum ≠ 0) : norm (l.map XR.fin) = (l.map (· / l.sum)).map XR.fin := by
  unfold norm
  simp only [sum_fin, x_eq, x_ofNat, Nat.cast_zero]
  have : XR.eq (XR.fin l.sum) (XR.fin 0) = false := by simp [XR.eq, h]
  simp only [this, Bool.not_false, ↓reduceIte, List.map_map]
  apply List.map_congr_left
  intro a _
  simp [XR.div, h]

/-- probabilities `exp (x - r)` of log-probabilities (`-∞ ↦ 0`) -/
noncomputable def expShift (r : ℝ) : XR → ℝ
  | XR.fin a => Real.exp (a - r) | _ => 0

/-- exact normalisation: `exp x_i / Σ_j exp x_j` (`-∞ ↦ 0`) -/
noncomputable def softmax (v : List XR) : List ℝ :=
  v.map fun x => match x with | XR.fin a => Real.exp a / ((finites v).map Real.exp).sum | _ => 0

theorem expShift_sum (r : ℝ) (v : List XR) (hv : ∀ x ∈ v, x.isLogP) :
    (v.map (expShift r)).sum = Real.exp (-r) * ((finites v).map Real.exp).sum := by
  induction v with
  | nil => simp [finites]
  | cons x xs ih =>
    have hxs : ∀ y ∈ xs, y.isLogP := fun y hy => hv y (List.mem_cons_of_mem _ hy)
    cases x with
    | fin a =>
      simp only [List.map_cons, List.sum_cons, finites, ih hxs, expShift, mul_add]
      congr 1; rw [← Real.exp_add]; congr 1; ring
    | ninf => simp [finites, expShift, ih hxs]
    | nan => exact absurd (hv _ List.mem_cons_self) (by simp [XR.isLogP])
    | pinf => exact absurd (hv _ List.mem_cons_self) (by simp [XR.isLogP])

theorem exp_increment (r : ℝ) (v : List XR) (hv : ∀ x ∈ v, x.isLogP) :
    vexp (increment v (VInf.neg (VNum.ofNat 1) * XR.fin r)) = (v.map (expShift r)).map XR.fin := by
  unfold vexp increment
  rw [List.map_map, List.map_map]
  apply List.map_congr_left
  intro x hx
  have hxr : (VInf.neg (VNum.ofNat 1 : XR) * XR.fin r) = XR.fin (-((1 : Nat) : ℝ) * r) := rfl
  cases x with
  | fin a =>
    simp only [Function.comp, hxr, x_add, XR.add, x_exp, XR.exp, expShift, XR.fin.injEq]
    congr 1; push_cast; ring
  | ninf => simp only [Function.comp, hxr, x_add, XR.add, x_exp, XR.exp, expShift]
  | nan => exact absurd (hv _ hx) (by simp [XR.isLogP])
  | pinf => exact absurd (hv _ hx) (by simp [XR.isLogP])

theorem finites_sum_pos (v : List XR) (h : finites v ≠ []) : 0 < ((finites v).map Real.exp).sum := by
  cases hf : finites v with
  | nil => exact absurd hf h
  | cons a l =>
    simp only [List.map_cons, List.sum_cons]
    have : 0 ≤ (l.map Real.exp).sum := List.sum_nonneg (by
      intro x hx; simp only [List.mem_map] at hx; obtain ⟨y, _, rfl⟩ := hx; exact le_of_lt (Real.exp_pos y))
    linarith [Real.exp_pos a]

theorem logNorm_spec (v : List XR) (hv : ∀ x ∈ v, x.isLogP) (hfin : finites v ≠ []) :
    logNorm v = some ((softmax v).map XR.fin) ∧ (softmax v).sum = 1 := by
  obtain ⟨r, hr, _⟩ := logSum_spec v hv hfin
  have hT := finites_sum_pos v hfin
  have hS : (v.map (expShift r)).sum ≠ 0 := by
    rw [expShift_sum r v hv]; exact ne_of_gt (mul_pos (Real.exp_pos _) hT)
  have hsoft : softmax v = (v.map (expShift r)).map (· / (v.map (expShift r)).sum) := by
    unfold softmax
    rw [List.map_map]
    apply List.map_congr_left
    intro x _
    rw [expShift_sum r v hv]
    cases x with
    | fin a =>
      simp only [Function.comp, expShift]
      rw [Real.exp_sub, Real.exp_neg]
      field_simp
    | ninf => simp [expShift]
    | nan => simp [expShift]
    | pinf => simp [expShift]
  constructor
  · unfold logNorm
    rw [hr]
    simp only [Option.map_some, exp_increment r v hv, norm_fin _ hS, hsoft]
  · rw [hsoft, sum_map_div, div_self hS]

@[simp] theorem x_exp2 (a : XR) : VInf.exp2 a = XR.exp2 a := rfl
@[simp] theorem x_log2 (a : XR) : VNum.log2 a = XR.log2 a := rfl

/-- `Log2Sum` on log2-probabilities with a finite entry: within `n·2^{-W}/ln 2` of `log2 Σ 2^{x_i}` over the finite entries -/
theorem log2Sum_spec (v : List XR) (hv : ∀ x ∈ v, x.isLogP) (hfin : finites v ≠ []) :
    ∃ r : ℝ, log2Sum v = some (XR.fin r) ∧
      |r - Real.logb 2 ((finites v).map fun a => (2 : ℝ) ^ a).sum| ≤ v.length * (2 : ℝ) ^ (-W : ℝ) / Real.log 2 := by
  have hne : v ≠ [] := by rintro rfl; exact hfin rfl
  rcases vmax_logp v hne hv with ⟨_, h2⟩ | ⟨M, h1, h2, h3⟩
  · exact absurd h2 hfin
  · obtain ⟨hkpos, hb⟩ := logsum_bound expo_two M v h2
    refine ⟨Real.logb 2 (keptSum (fun t => (2 : ℝ) ^ t) M (finites v)) + M, ?_, hb⟩
    unfold log2Sum
    rw [h1]
    have e1 : VNum.eq (XR.fin M) (VInf.inf : XR) = false := rfl
    simp only [e1, Bool.false_eq_true, ↓reduceIte, x_ofNat]
    rw [window_fold (fun t => (2 : ℝ) ^ t) VInf.exp2 (fun _ => rfl) M v hv]
    simp only [Nat.cast_zero, zero_add, x_log2, x_add]
    rw [show XR.log2 (XR.fin (keptSum (fun t => (2 : ℝ) ^ t) M (finites v)))
        = XR.fin (Real.logb 2 (keptSum (fun t => (2 : ℝ) ^ t) M (finites v))) by simp [XR.log2, hkpos]]
    rfl

end window

end EaselModel.Vec
